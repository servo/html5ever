import H5V.Props.C02Modes
import H5V.Props.C03Tree
/-!
For the capstone (model of the whole parser = WHATWG pipeline): **the tree builder and the specification in
lock-step along a token list**.

`C02_model_eq_spec_modes` compares the two ends of a run.  The coupling of the tokenizer with the tree
construction stage needs more: the answers of the two sides after EVERY prefix of the token stream, for one and
the same supply of node identities.  `Lock cfg fuel s x toks s' x'` is that statement: the model goes from `s`
to `s'` over `toks`, token by token, and after each token the specification (`processTokenDev`, i.e.
`Spec.TreeModes.processToken` with the asserted-impossible case of "in cell" defined) is in the abstract state
`absF sᵢ xᵢ` of the model's state.  `lock_of_run` produces it from the per-token theorem `pc_processToken` of
`H5V.Lemmas.HtmlTBModes` (the induction of `pc_processTokens`, keeping the intermediate states).
-/
namespace H5V.Lemmas.ParseSpec
open H5V.Model.HtmlTB
open H5V.Model.Dom (Id SinkOp Output Dom QualName Attr NodeOrText ElementFlags NodeData QuirksMode)
open H5V.Lemmas.HtmlTBAlgo
open H5V.Lemmas.HtmlTBModes
open H5V.Lemmas.TBSafe (TI HInv SInv)
open H5V.Spec.TreeModes (STok ETok IMode Config Out TokSwitch XOp Op Step Edition)

/-- one token: the model's `process_token` from `s` to `s1` with answer `r`, and the specification from
`absF s x` to `absF s1 x1` -/
structure TokStep (cfg : Config Id) (fuel : Nat) (s : State) (x : Aux) (t : TokToken) (line : Nat)
    (r : SinkResult) (s1 : State) (x1 : Aux) : Prop where
  run : (processToken t line).run s = .ok (r, s1)
  ti : TI s1
  minv : MInv s1
  cfg1 : cfgOf s1 = cfgOf s
  ext : TBSafe.Ext s.dom s1.dom
  aux : x1.stopped = false → AuxOk s1 x1
  stop : x1.stopped = true → t = .eof
  log : ∃ ops calls, Ext2 s calls s1 ∧ x1.fullLog = x.fullLog ++ ops ∧
    ∀ tc, TcOk s1.dom tc → flatCalls (edits2 calls) = flatCalls (ops.map (opCall tc))
  spec : (specTokOf t = none ∧ r = .continue_ ∧ absF s1 x1 = absF s x ∧ x1.outs = x.outs) ∨
    (∃ st o, specTokOf t = some st ∧ x1.outs = x.outs ++ [o] ∧ OutRelR r {} o ∧
      processTokenDev cfg fuel (absF s x) st = .ok (absF s1 x1) ∧
      -- the UNMODIFIED specification, from a state that satisfies the invariant of its run
      (H5V.Lemmas.ModesInv.Inv (absF s x) → H5V.Lemmas.ModesInv.Inv (absF s1 x1) ∧
        Spec.TreeModes.processToken cfg fuel (absF s x) st = .ok (absF s1 x1)))

inductive Lock (cfg : Config Id) (fuel : Nat) : State → Aux → List (TokToken × Nat) → State → Aux → Prop
  | nil (s : State) (x : Aux) : Lock cfg fuel s x [] s x
  | cons {s : State} {x : Aux} {t : TokToken} {line : Nat} {r : SinkResult} {s1 : State} {x1 : Aux}
      {rest : List (TokToken × Nat)} {s' : State} {x' : Aux} :
      TokStep cfg fuel s x t line r s1 x1 → Lock cfg fuel s1 x1 rest s' x' →
      Lock cfg fuel s x ((t, line) :: rest) s' x'

theorem processTokens_cons_ok {t : TokToken} {line : Nat} {rest : List (TokToken × Nat)} {acc res : List SinkResult}
    {s s' : State} (h : (processTokens ((t, line) :: rest) acc).run s = .ok (res, s')) :
    ∃ r s1, (processToken t line).run s = .ok (r, s1) ∧
      (processTokens rest (if r == .continue_ then acc else r :: acc)).run s1 = .ok (res, s') := by
  have h' : (processToken t line >>= fun r => processTokens rest (if r == .continue_ then acc else r :: acc)) s
      = .ok (res, s') := h
  rw [H5V.Lemmas.TBSplit.bind_apply] at h'
  cases hp : processToken t line s with
  | error e => rw [hp] at h'; cases h'
  | ok v =>
    obtain ⟨r, s1⟩ := v
    rw [hp] at h'
    exact ⟨r, s1, hp, h'⟩

/-- **the lock-step run**: for a protocol-abiding token list and a successful run of the model, ONE supply of
node identities `ids` works for the whole list, and with any sufficient fuel the specification follows the
model token by token (`XInv`: the abstract states of the start state satisfy the invariant of the specification's
run, under which the Assert of "in cell" cannot fail) -/
theorem lock_of_run : ∀ (toks : List (TokToken × Nat)) (acc : List SinkResult) (s : State), TI s → MInv s → XInv s →
    Respects2 s toks → ∀ {res : List SinkResult} {s' : State}, (processTokens toks acc).run s = .ok (res, s') →
    ∃ ids, ∀ x rest, AuxOk s x → x.supply = ids ++ rest →
      ∃ x' F, x'.supply = rest ∧ ∀ fuel, F ≤ fuel → Lock (cfgOf s) fuel s x toks s' x' := by
  intro toks
  induction toks with
  | nil =>
    intro acc s _ _ _ _ res s' hrun
    have : s' = s := by
      have h : (pure acc : M (List SinkResult)) s = .ok (res, s') := hrun
      cases h; rfl
    subst this
    exact ⟨[], fun x rest _ hs => ⟨x, 0, by simpa using hs, fun _ _ => Lock.nil s' x⟩⟩
  | cons tk rest ih =>
    intro acc s ht hm hinv hresp res s' hrun
    obtain ⟨t, line⟩ := tk
    obtain ⟨hok, heof, hnext⟩ := hresp
    obtain ⟨r, s1, hr1, hr2⟩ := processTokens_cons_ok hrun
    have ht1 : TI s1 :=
      (@H5V.Props.C04TB.C04_tb_no_panic_token H5V.Props.C04TB.allowAll trivial s t line ht
        (fun _ => Or.inl trivial)).1 r s1 hr1
    obtain ⟨calls, he1, hm1, hc1, hext1, ids1, f1⟩ :=
      pc_processToken H5V.Props.C02.C02_all_modes H5V.Props.C02.C02_all_modes_chars H5V.Props.C02.C02_foreign
        foreignCharSim doctypeInitialSim t line s ht hm hok (acnHtml_of_xinv ht hm hinv) r s1 hr1
    -- the per-token facts, for any auxiliary state
    have step1 : ∀ x rst, AuxOk s x → x.supply = ids1 ++ rst →
        ∃ x1 F, x1.supply = rst ∧ ∀ fuel, F ≤ fuel → TokStep (cfgOf s) fuel s x t line r s1 x1 := by
      intro x rst hx hs
      obtain ⟨x1, hx1, hs1, ⟨ops1, e1, k1⟩, hst1, hsp⟩ := f1 x rst hx hs
      cases hsp0 : specTokOf t with
      | none =>
        rw [hsp0] at hsp
        exact ⟨x1, 0, hs1, fun fuel _ => ⟨hr1, ht1, hm1, hc1, hext1, hx1, hst1, ⟨ops1, calls, he1, e1, k1⟩,
          Or.inl ⟨hsp0, hsp.1, hsp.2.1, hsp.2.2⟩⟩⟩
      | some st =>
        rw [hsp0] at hsp
        obtain ⟨o, ho, hrel, ⟨F, hF⟩, hstd⟩ := hsp
        obtain ⟨_, F', hF'⟩ := hstd (hinv x hx)
        refine ⟨x1, max F F', hs1, fun fuel hfu => ⟨hr1, ht1, hm1, hc1, hext1, hx1, hst1, ⟨ops1, calls, he1, e1, k1⟩,
          Or.inr ⟨st, o, hsp0, ho, hrel, hF fuel (by omega), fun hi => ⟨(hstd hi).1, hF' fuel (by omega)⟩⟩⟩⟩
    by_cases hte : t = .eof
    · have hrest := heof hte
      subst hrest
      have : s' = s1 := by
        have h : (pure (if r == .continue_ then acc else r :: acc) : M (List SinkResult)) s1 = .ok (res, s') := hr2
        cases h; rfl
      subst this
      refine ⟨ids1, fun x rst hx hs => ?_⟩
      obtain ⟨x1, F, hs1, hF⟩ := step1 x rst hx hs
      exact ⟨x1, F, hs1, fun fuel hfu => Lock.cons (hF fuel hfu) (Lock.nil _ _)⟩
    · -- the invariant of the specification's run at the state between the two tokens
      have hinv1 : XInv s1 := by
        intro x1' hx1'
        obtain ⟨x, hx, hxs⟩ := auxOk_exists hm (ids1 ++ x1'.supply)
        obtain ⟨x1, hx1, _, _, hst1, hm1'⟩ := f1 x x1'.supply hx hxs
        have hlive : x1.stopped = false := by
          cases h : x1.stopped
          · rfl
          · exact absurd (hst1 h) hte
        have hi1 := (std_cons (rest := rest) (line := line) (σ2 := absF s1 x1) hm1' (hinv x hx)).1
        intro _
        exact good_absF_indep ht1 (hx1 hlive) hx1' (hi1 hlive)
      obtain ⟨ids2, f2⟩ := ih _ s1 ht1 hm1 hinv1 (hnext r s1 hr1) hr2
      refine ⟨ids1 ++ ids2, fun x rst hx hs => ?_⟩
      obtain ⟨x1, F1, hs1, hF1⟩ := step1 x (ids2 ++ rst) hx (by rw [hs, List.append_assoc])
      have hlive : x1.stopped = false := by
        cases h : x1.stopped
        · rfl
        · exact absurd ((hF1 F1 (Nat.le_refl _)).stop h) hte
      obtain ⟨x2, F2, hs2, hF2⟩ := f2 x1 rst ((hF1 F1 (Nat.le_refl _)).aux hlive) hs1
      refine ⟨x2, max F1 F2, hs2, fun fuel hfu => ?_⟩
      have h2 := hF2 fuel (by omega)
      rw [hc1] at h2
      exact Lock.cons (hF1 fuel (by omega)) h2

/-! ### what a `Lock` says -/

/-- split at any point of the list -/
theorem Lock.split {cfg : Config Id} {fuel : Nat} : ∀ {p q : List (TokToken × Nat)} {s : State} {x : Aux} {s' : State}
    {x' : Aux}, Lock cfg fuel s x (p ++ q) s' x' → ∃ sp xp, Lock cfg fuel s x p sp xp ∧ Lock cfg fuel sp xp q s' x'
  | [], q, s, x, s', x', h => ⟨s, x, Lock.nil s x, h⟩
  | (t, line) :: p, q, s, x, s', x', h => by
    cases h with
    | cons h1 h2 =>
      obtain ⟨sp, xp, h3, h4⟩ := Lock.split h2
      exact ⟨sp, xp, Lock.cons h1 h3, h4⟩

theorem Lock.append {cfg : Config Id} {fuel : Nat} {p q : List (TokToken × Nat)} {s : State} {x : Aux} {sp : State}
    {xp : Aux} {s' : State} {x' : Aux} (h1 : Lock cfg fuel s x p sp xp) (h2 : Lock cfg fuel sp xp q s' x') :
    Lock cfg fuel s x (p ++ q) s' x' := by
  induction h1 with
  | nil => exact h2
  | cons hs _ ih => exact Lock.cons hs (ih h2)

/-- the specification's run over the standard's tokens of the list -/
theorem Lock.runDev {cfg : Config Id} {fuel : Nat} {toks : List (TokToken × Nat)} {s : State} {x : Aux} {s' : State}
    {x' : Aux} (h : Lock cfg fuel s x toks s' x') : runDev cfg fuel (absF s x) (specToks toks) = .ok (absF s' x') := by
  induction h with
  | nil => rfl
  | @cons s x t line r s1 x1 rest s' x' hs _ ih =>
    rcases hs.spec with ⟨h0, _, ha, _⟩ | ⟨st, o, h0, _, _, hp, _⟩
    · have : specToks ((t, line) :: rest) = specToks rest := by simp [specToks, h0]
      rw [this, ← ha]; exact ih
    · have : specToks ((t, line) :: rest) = st :: specToks rest := by simp [specToks, h0]
      rw [this]
      simp only [H5V.Lemmas.HtmlTBModes.runDev]
      rw [hp]
      exact ih

/-- the model's run -/
theorem Lock.model {cfg : Config Id} {fuel : Nat} {toks : List (TokToken × Nat)} {s : State} {x : Aux} {s' : State}
    {x' : Aux} (h : Lock cfg fuel s x toks s' x') (acc : List SinkResult) :
    ∃ res, (processTokens toks acc).run s = .ok (res, s') := by
  induction h generalizing acc with
  | nil => exact ⟨acc, rfl⟩
  | @cons s x t line r s1 x1 rest s' x' hs _ ih =>
    obtain ⟨res, hres⟩ := ih (if r == .continue_ then acc else r :: acc)
    refine ⟨res, ?_⟩
    show (processToken t line >>= fun r => processTokens rest (if r == .continue_ then acc else r :: acc)) s = _
    rw [H5V.Lemmas.TBSplit.bind_apply]
    have : processToken t line s = .ok (r, s1) := hs.run
    rw [this]
    exact hres

/-- the invariants at the end -/
theorem Lock.inv {cfg : Config Id} {fuel : Nat} {toks : List (TokToken × Nat)} {s : State} {x : Aux} {s' : State}
    {x' : Aux} (h : Lock cfg fuel s x toks s' x') (ht : TI s) (hm : MInv s) :
    TI s' ∧ MInv s' ∧ cfgOf s' = cfgOf s ∧ TBSafe.Ext s.dom s'.dom := by
  induction h with
  | nil => exact ⟨ht, hm, rfl, TBSafe.Ext.refl _⟩
  | cons hs _ ih =>
    obtain ⟨a, b, c, d⟩ := ih hs.ti hs.minv
    exact ⟨a, b, c.trans hs.cfg1, hs.ext.trans d⟩

/-- the auxiliary state at the end is live unless the list ends with the end-of-file token -/
theorem Lock.aux {cfg : Config Id} {fuel : Nat} {toks : List (TokToken × Nat)} {s : State} {x : Aux} {s' : State}
    {x' : Aux} (h : Lock cfg fuel s x toks s' x') (hx : AuxOk s x) (hne : ∀ p ∈ toks, p.1 ≠ .eof) : AuxOk s' x' := by
  induction h with
  | nil => exact hx
  | @cons s x t line r s1 x1 rest s' x' hs _ ih =>
    have hlive : x1.stopped = false := by
      cases h : x1.stopped
      · rfl
      · exact absurd (hs.stop h) (hne (t, line) (by simp))
    exact ih (hs.aux hlive) (fun p hp => hne p (by simp [hp]))

/-- the two logs over the whole list -/
theorem Lock.log {cfg : Config Id} {fuel : Nat} {toks : List (TokToken × Nat)} {s : State} {x : Aux} {s' : State}
    {x' : Aux} (h : Lock cfg fuel s x toks s' x') :
    ∃ ops calls, Ext2 s calls s' ∧ x'.fullLog = x.fullLog ++ ops ∧
      ∀ tc, TcOk s'.dom tc → flatCalls (edits2 calls) = flatCalls (ops.map (opCall tc)) := by
  induction h with
  | nil => exact ⟨[], [], Ext2.refl _, by simp, fun _ _ => rfl⟩
  | @cons s x t line r s1 x1 rest s' x' hs hl ih =>
    obtain ⟨ops1, c1, he1, e1, k1⟩ := hs.log
    obtain ⟨ops2, c2, he2, e2, k2⟩ := ih
    refine ⟨ops1 ++ ops2, c1 ++ c2, he1.trans he2, by rw [e2, e1, List.append_assoc], fun tc htc => ?_⟩
    have hext : TBSafe.Ext s1.dom s'.dom := replay_ext he2.replay
    rw [edits2_append, flatCalls_append, List.map_append, flatCalls_append, k1 tc (tcOk_of_ext htc hext), k2 tc htc]

/-- the answers: the last token of a non-empty list that is a token of the standard -/
theorem Lock.last {cfg : Config Id} {fuel : Nat} {p : List (TokToken × Nat)} {t : TokToken} {line : Nat} {s : State}
    {x : Aux} {s' : State} {x' : Aux} (h : Lock cfg fuel s x (p ++ [(t, line)]) s' x') :
    ∃ sp xp r, Lock cfg fuel s x p sp xp ∧ TokStep cfg fuel sp xp t line r s' x' := by
  obtain ⟨sp, xp, h1, h2⟩ := Lock.split h
  cases h2 with
  | cons hs hn =>
    cases hn
    exact ⟨sp, xp, _, h1, hs⟩

/-- the domain of C03's simulation relation is preserved along the run -/
theorem Lock.good {cfg : Config Id} {fuel : Nat} {toks : List (TokToken × Nat)} {s : State} {x : Aux} {s' : State}
    {x' : Aux} (h : Lock cfg fuel s x toks s' x') (hg : H5V.Props.C03.GoodS s) : H5V.Props.C03.GoodS s' := by
  induction h with
  | nil => exact hg
  | cons hs _ ih => exact ih (H5V.Props.C03.C03_tb_good_preserved _ _ _ hg hs.run)

/-- the end-of-file token only comes last -/
theorem Lock.noEof {cfg : Config Id} {fuel : Nat} {p : List (TokToken × Nat)} {s : State} {x : Aux} {sp : State}
    {xp : Aux} (h : Lock cfg fuel s x p sp xp) {q : List (TokToken × Nat)} (hq : q ≠ [])
    (hresp : Respects2 s (p ++ q)) : ∀ t ∈ p, t.1 ≠ .eof := by
  induction h with
  | nil => intro t ht; cases ht
  | @cons s x t line r s1 x1 rest s' x' hs _ ih =>
    obtain ⟨_, heof, hnext⟩ := hresp
    intro t' ht'
    rcases List.mem_cons.mp ht' with e | e
    · subst e
      intro he
      have := heof he
      cases rest <;> simp at this
      exact hq this
    · exact ih (hnext r s1 hs.run) t' e

/-- the model's run is a function -/
theorem Lock.det {cfg : Config Id} {fuel : Nat} {toks : List (TokToken × Nat)} {s : State} {x : Aux} {s' : State}
    {x' : Aux} (h : Lock cfg fuel s x toks s' x') {acc res : List SinkResult} {s2 : State}
    (hr : (processTokens toks acc).run s = .ok (res, s2)) : s2 = s' := by
  obtain ⟨res', h'⟩ := h.model acc
  rw [h'] at hr
  cases hr
  rfl

/-- the answers to the tokenizer: the non-`Continue` answers of the model are the switches / scripts of the
specification's `outs` -/
theorem Lock.answers {cfg : Config Id} {fuel : Nat} {toks : List (TokToken × Nat)} {s : State} {x : Aux} {s' : State}
    {x' : Aux} (h : Lock cfg fuel s x toks s' x') :
    ∃ os, x'.outs = x.outs ++ os ∧ ∀ acc res s2, (processTokens toks acc).run s = .ok (res, s2) →
      res.reverse.filterMap resAnswer = acc.reverse.filterMap resAnswer ++ os.filterMap outAnswer := by
  induction h with
  | nil =>
    refine ⟨[], by simp, fun acc res s2 hr => ?_⟩
    have h : (pure acc : M (List SinkResult)) _ = .ok (res, s2) := hr
    cases h
    simp
  | @cons s x t line r s1 x1 rest s' x' hs _ ih =>
    obtain ⟨os2, ho2, hk2⟩ := ih
    have hacc : ∀ acc : List SinkResult, (if r == SinkResult.continue_ then acc else r :: acc).reverse.filterMap resAnswer
        = acc.reverse.filterMap resAnswer ++ (resAnswer r).toList := by
      intro acc
      by_cases hr : r = .continue_
      · subst hr; simp [resAnswer]
      · have : (r == SinkResult.continue_) = false := by simpa using hr
        rw [this]
        simp only [Bool.false_eq_true, if_false, List.reverse_cons, List.filterMap_append, List.filterMap_cons,
          List.filterMap_nil]
        cases resAnswer r <;> rfl
    have hrun : ∀ acc res s2, (processTokens ((t, line) :: rest) acc).run s = .ok (res, s2) →
        (processTokens rest (if r == .continue_ then acc else r :: acc)).run s1 = .ok (res, s2) := by
      intro acc res s2 h
      obtain ⟨r', s1', h1, h2⟩ := processTokens_cons_ok h
      rw [hs.run] at h1
      cases h1
      exact h2
    rcases hs.spec with ⟨_, hr, _, ho⟩ | ⟨st, o, _, ho, hrel, _, _⟩
    · refine ⟨os2, by rw [ho2, ho], fun acc res s2 h => ?_⟩
      rw [hk2 _ res s2 (hrun acc res s2 h), hacc, hr]
      simp [resAnswer]
    · refine ⟨o :: os2, by rw [ho2, ho]; simp, fun acc res s2 h => ?_⟩
      rw [hk2 _ res s2 (hrun acc res s2 h), hacc, answer_of_outRelR hrel]
      simp only [List.filterMap_cons, List.append_assoc]
      cases outAnswer o <;> rfl

/-- the UNMODIFIED specification's run over the standard's tokens of the list, from a state that satisfies the
invariant of the specification's run (under which the Assert of "in cell" cannot fail) -/
theorem Lock.runStd {cfg : Config Id} {fuel : Nat} {toks : List (TokToken × Nat)} {s : State} {x : Aux} {s' : State}
    {x' : Aux} (h : Lock cfg fuel s x toks s' x') (hi : H5V.Lemmas.ModesInv.Inv (absF s x)) :
    Spec.TreeModes.run cfg fuel (absF s x) (specToks toks) = .ok (absF s' x') ∧ H5V.Lemmas.ModesInv.Inv (absF s' x') := by
  induction h with
  | nil => exact ⟨rfl, hi⟩
  | @cons s x t line r s1 x1 rest s' x' hs _ ih =>
    rcases hs.spec with ⟨h0, _, ha, _⟩ | ⟨st, o, h0, _, _, _, hstd⟩
    · have : specToks ((t, line) :: rest) = specToks rest := by simp [specToks, h0]
      rw [this, ← ha]
      exact ih (by rw [ha]; exact hi)
    · have : specToks ((t, line) :: rest) = st :: specToks rest := by simp [specToks, h0]
      rw [this]
      obtain ⟨hi1, hp⟩ := hstd hi
      simp only [Spec.TreeModes.run]
      rw [hp]
      exact ih hi1

end H5V.Lemmas.ParseSpec
