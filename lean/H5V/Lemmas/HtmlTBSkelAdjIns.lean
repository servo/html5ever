import H5V.Lemmas.HtmlTBSkelShapeScope
/-!
C06, "no two adjacent text siblings": the invariant `AdjD` under node creation and `insert_at`.
-/
namespace H5V.Props.C06
open H5V.Model.Dom hiding Str
open H5V.Model.HtmlTB hiding Str
open H5V.Lemmas.Dom

/-! ### allocation -/

theorem AdjD.alloc {d : Dom} {O : List Id} (h : AdjD d O) (hb : DomBase d) (hO : ∀ e ∈ O, e < d.size)
    (v : NodeData) : AdjD (d.alloc v).1 O := by
  refine h.congr (fun P => childrenOf_alloc d v P) (fun P x _ => parentOf_alloc d v x) ?_ ?_ ?_
  · intro P x hx
    have hlt := hb.kidsValid P x hx
    exact isText_of_data (by rw [dataOf_alloc]; simp [Nat.ne_of_lt hlt])
  · intro e he
    exact nm_of_data (by rw [dataOf_alloc]; simp [Nat.ne_of_lt (hO e he)])
  · intro T hT
    exact tc_of_data (by rw [dataOf_alloc]; simp [Nat.ne_of_lt (hO T hT)])

theorem alloc_new (d : Dom) (v : NodeData) :
    (d.alloc v).2 = d.size ∧ (d.alloc v).1.dataOf d.size = some v ∧ (d.alloc v).1.parentOf d.size = none ∧
      (d.alloc v).1.childrenOf d.size = [] := by
  refine ⟨rfl, by rw [dataOf_alloc]; simp, ?_, ?_⟩
  · rw [parentOf_alloc]; exact parentOf_none_of_ge (Nat.le_refl _)
  · rw [childrenOf_alloc]; exact childrenOf_nil_of_ge (Nat.le_refl _)

/-- what `create_element` does to the lists, pointers and data -/
theorem createElement_eff {d : Dom} (name : QualName) (attrs : List Attr) (flags : ElementFlags) :
    (∀ x, (d.createElement name attrs flags).1.childrenOf x = d.childrenOf x) ∧
      (∀ x, x < d.size → (d.createElement name attrs flags).1.parentOf x = d.parentOf x) ∧
      (∀ x, x < d.size → (d.createElement name attrs flags).1.dataOf x = d.dataOf x) ∧
      d.size ≤ (d.createElement name attrs flags).2 ∧
      (d.createElement name attrs flags).1.parentOf (d.createElement name attrs flags).2 = none ∧
      (d.createElement name attrs flags).1.childrenOf (d.createElement name attrs flags).2 = [] ∧
      (d.createElement name attrs flags).1.isText (d.createElement name attrs flags).2 = false ∧
      (∀ tc, (d.createElement name attrs flags).1.templateContentsOf (d.createElement name attrs flags).2 = some tc →
        (d.createElement name attrs flags).1.childrenOf tc = [] ∧ d.size ≤ tc) := by
  unfold Dom.createElement
  cases hft : flags.template with
  | true =>
    simp only [if_true]
    generalize hd1 : (d.alloc NodeData.document).1 = d1
    have h21 : (d.alloc NodeData.document).2 = d.size := rfl
    rw [h21]
    have hs1 : d1.size = d.size + 1 := by rw [← hd1]; exact size_alloc _ _
    have hc1 : ∀ x, d1.childrenOf x = d.childrenOf x := fun x => by rw [← hd1, childrenOf_alloc]
    have hp1 : ∀ x, d1.parentOf x = d.parentOf x := fun x => by rw [← hd1, parentOf_alloc]
    have hda1 : ∀ x, d1.dataOf x = if x = d.size then some NodeData.document else d.dataOf x := fun x => by
      rw [← hd1, dataOf_alloc]
    obtain ⟨n1, n2, n3, n4⟩ := alloc_new d1 (NodeData.element name attrs (some d.size) flags.mathmlIP)
    rw [n1]
    refine ⟨fun x => by rw [childrenOf_alloc, hc1], fun x _ => by rw [parentOf_alloc, hp1],
      fun x hx => ?_, by rw [hs1]; exact Nat.le_succ _, n3, n4, ?_, ?_⟩
    · rw [dataOf_alloc, hda1, hs1]
      simp [Nat.ne_of_lt hx, Nat.ne_of_lt (Nat.lt_succ_of_lt hx)]
    · unfold Dom.isText; rw [n2]
    · intro tc htc
      unfold Dom.templateContentsOf at htc
      rw [n2] at htc
      have : tc = d.size := by simpa using htc.symm
      subst this
      refine ⟨?_, Nat.le_refl _⟩
      rw [childrenOf_alloc, hc1]
      exact childrenOf_nil_of_ge (Nat.le_refl _)
  | false =>
    simp only [Bool.false_eq_true, if_false]
    obtain ⟨n1, n2, n3, n4⟩ := alloc_new d (NodeData.element name attrs none flags.mathmlIP)
    rw [n1]
    refine ⟨fun x => by rw [childrenOf_alloc], fun x _ => by rw [parentOf_alloc],
      fun x hx => by rw [dataOf_alloc]; simp [Nat.ne_of_lt hx], Nat.le_refl _, n3, n4, ?_, ?_⟩
    · unfold Dom.isText; rw [n2]
    · intro tc htc
      unfold Dom.templateContentsOf at htc
      rw [n2] at htc
      simp at htc

theorem AdjD.createElement {d : Dom} {O : List Id} (h : AdjD d O) (hb : DomBase d) (hO : ∀ e ∈ O, e < d.size)
    (name : QualName) (attrs : List Attr) (flags : ElementFlags) : AdjD (d.createElement name attrs flags).1 O := by
  obtain ⟨h1, h2, h3, _⟩ := createElement_eff (d := d) name attrs flags
  refine h.congr h1 (fun P x hx => h2 x (hb.kidsValid P x hx)) (fun P x hx => isText_of_data (h3 x (hb.kidsValid P x hx)))
    (fun e he => nm_of_data (h3 e (hO e he))) (fun T hT => tc_of_data (h3 T (hO T hT)))

/-- the open elements are old nodes -/
theorem Late.oe_lt {s : State} (h : Late s) : ∀ e ∈ s.openElems, e < s.dom.size :=
  fun e he => lt_of_isElement (h.st.oe e he)

/-- `create_element` at the level of the builder, for any stack of old nodes -/
theorem sinkCreate_adj' {s s' : State} {name : QualName} {attrs : List Attr} {fl : ElementFlags} {el : Id} {O : List Id}
    (hb : DomBase s.dom) (hO : ∀ e ∈ O, e < s.dom.size)
    (h : AdjD s.dom O) (e : sinkNode (.createElement name attrs fl) s = .ok (el, s')) :
    AdjD s'.dom O ∧ s'.dom.parentOf el = none ∧ s'.dom.childrenOf el = [] ∧ s'.dom.isText el = false ∧
      (∀ tc, s'.dom.templateContentsOf el = some tc → s'.dom.childrenOf tc = [] ∧ s.dom.size ≤ tc) ∧
      s.dom.size ≤ el ∧ (∀ x, s'.dom.childrenOf x = s.dom.childrenOf x) ∧
      (∀ x, x < s.dom.size → s'.dom.parentOf x = s.dom.parentOf x) ∧
      (∀ x, x < s.dom.size → s'.dom.dataOf x = s.dom.dataOf x) ∧ s'.openElems = s.openElems ∧
      s'.docHandle = s.docHandle := by
  have e' := sinkNode_ok.mp e
  obtain ⟨d, hd, rfl⟩ := sink_ok.mp e'
  obtain ⟨rfl, hout⟩ := apply_createElement hd
  cases hout
  obtain ⟨h1, h2, h3, h4, h5, h6, h7, h8⟩ := createElement_eff (d := s.dom) name attrs fl
  exact ⟨h.createElement hb hO _ _ _, h5, h6, h7, h8, h4, h1, h2, h3, rfl, rfl⟩

theorem createElement_adj {s s' : State} {name : QualName} {attrs : List Attr} {dup : Bool} {el : Id} (hl : Late s)
    (h : AdjD s.dom s.openElems) (e : createElementWithFlags name attrs dup s = .ok (el, s')) :
    AdjD s'.dom s'.openElems ∧ s'.dom.parentOf el = none ∧ s'.dom.childrenOf el = [] ∧ s'.dom.isText el = false ∧
      (∀ tc, s'.dom.templateContentsOf el = some tc → s'.dom.childrenOf tc = [] ∧ s.dom.size ≤ tc) ∧
      s.dom.size ≤ el ∧ (∀ x, s'.dom.childrenOf x = s.dom.childrenOf x) ∧
      (∀ x, x < s.dom.size → s'.dom.parentOf x = s.dom.parentOf x) ∧
      (∀ x, x < s.dom.size → s'.dom.dataOf x = s.dom.dataOf x) := by
  unfold createElementWithFlags at e
  obtain ⟨h0, h1, h2, h3, h4, h5, h6, h7, h8, hoe, _⟩ := sinkCreate_adj' hl.base hl.oe_lt h e
  exact ⟨hoe ▸ h0, h1, h2, h3, h4, h5, h6, h7, h8⟩

/-- `create_comment` -/
theorem createComment_adj {s s' : State} {text : Str} {c : Id} (hl : Late s)
    (h : AdjD s.dom s.openElems) (e : sinkNode (.createComment text) s = .ok (c, s')) :
    AdjD s'.dom s'.openElems ∧ s'.dom.parentOf c = none ∧ s'.dom.isText c = false ∧ c ∉ s'.openElems := by
  have e' := sinkNode_ok.mp e
  obtain ⟨d, hd, rfl⟩ := sink_ok.mp e'
  obtain ⟨rfl, hout⟩ := apply_createComment hd
  cases hout
  obtain ⟨n1, n2, n3, n4⟩ := alloc_new s.dom (NodeData.comment text)
  refine ⟨h.alloc hl.base hl.oe_lt _, ?_, ?_, ?_⟩
  · show (s.dom.alloc _).1.parentOf (s.dom.alloc _).2 = none
    rw [n1]; exact n3
  · show (s.dom.alloc _).1.isText (s.dom.alloc _).2 = false
    rw [n1]; unfold Dom.isText; rw [n2]
  · intro hm
    have : (s.dom.createComment text).2 < s.dom.size := hl.oe_lt _ hm
    have h2 : (s.dom.createComment text).2 = s.dom.size := rfl
    rw [h2] at this; exact Nat.lt_irrefl _ this


/-! ### the effect of the insertion calls on a parentless node -/

theorem removeFromParent_noop {d d' : Dom} {c : Id} (hcp : d.parentOf c = none) (h : d.removeFromParent c = .ok d') :
    d' = d := by
  rcases removeFromParent_ok h with ⟨_, he⟩ | ⟨p, i, hp, _⟩
  · exact he
  · rw [hcp] at hp; cases hp

theorem split_of_indexOf {t : Id} {l : List Id} {i : Nat} (h : indexOf? t l = some i) :
    l = l.take i ++ t :: l.drop (i + 1) ∧ l.drop i = t :: l.drop (i + 1) := by
  obtain ⟨h1, _, h3⟩ := indexOf?_some h
  refine ⟨h1, ?_⟩
  have := indexOf?_getElem h
  have hlt : i < l.length := h3
  rw [List.drop_eq_getElem_cons hlt]
  have : l[i] = t := by
    have h2 := List.getElem?_eq_getElem hlt
    rw [this] at h2
    exact (Option.some.inj h2).symm
  rw [this]

theorem dom_appendNode_eff {d d' : Dom} {p c : Id} (h : d.append p (.node c) = .ok d') (hne : p ≠ c) :
    d.parentOf c = none ∧
      (∀ x, d'.childrenOf x = if x = p then d.childrenOf p ++ [c] else d.childrenOf x) ∧
      (∀ x, d'.parentOf x = if x = c then some p else d.parentOf x) ∧ (∀ x, d'.dataOf x = d.dataOf x) := by
  rw [append_node_eq] at h
  obtain ⟨cn, pn, hcn, hpn, _, h1, h2, h3, _⟩ := appendRaw_ok h hne
  exact ⟨by rw [parentOf_of_node hcn]; exact hpn, h2, h1, h3⟩

theorem dom_beforeNode_eff {d d' : Dom} {e c : Id} (hcp : d.parentOf c = none)
    (h : d.appendBeforeSiblingV Dom.beforeSiblingVariant e (.node c) = .ok d') :
    ∃ P i, d.parentOf e = some P ∧ indexOf? e (d.childrenOf P) = some i ∧
      (∀ x, d'.childrenOf x = if x = P then (d.childrenOf P).take i ++ c :: (d.childrenOf P).drop i
        else d.childrenOf x) ∧
      (∀ x, d'.parentOf x = if x = c then some P else d.parentOf x) ∧ (∀ x, d'.dataOf x = d.dataOf x) := by
  have h0 : d.appendBeforeSibling e (.node c) = .ok d' := by
    rcases appendBeforeSiblingV_ok h with h1 | ⟨c', d1, he, hr, h2⟩
    · exact h1
    · cases he
      rw [removeFromParent_noop hcp hr] at h2; exact h2
  obtain ⟨P, i, hpar, hi, _, hm⟩ := appendBeforeSibling_ok h0
  simp only at hm
  obtain ⟨d1, hr, _, _, _, h1, h2, h3, _⟩ := insertAtIndex_ok hm
  have hd1 := removeFromParent_noop hcp hr
  subst hd1
  exact ⟨P, i, hpar, hi, h2, h1, h3⟩

/-- where an inserted node ends up: what follows it is nothing, or the table it was put before -/
inductive NodePos (d : Dom) (ip : InsertionPoint) (P : Id) (b : List Id) : Prop
  | last : b = [] → (ip = .lastChild P ∨ ∃ e, ip = .tableFosterParenting e P ∧ d.parentOf e = none) → NodePos d ip P b
  | before (e p : Id) (b' : List Id) : ip = .tableFosterParenting e p → d.parentOf e = some P →
      e ∈ d.childrenOf P → b = e :: b' → NodePos d ip P b

theorem NodePos.congr {d d' : Dom} {ip : InsertionPoint} {P : Id} {b : List Id}
    (hk : ∀ x, d'.childrenOf x = d.childrenOf x)
    (hp : ∀ p, ip.nodes.1 = p ∨ ip.nodes.2 = some p → d'.parentOf p = d.parentOf p)
    (h : NodePos d ip P b) : NodePos d' ip P b := by
  cases h with
  | last hb hip =>
    refine .last hb ?_
    rcases hip with hip | ⟨e, hip, hpe⟩
    · exact Or.inl hip
    · refine Or.inr ⟨e, hip, ?_⟩
      rw [hp e (by rw [hip]; exact Or.inl rfl)]; exact hpe
  | before e p b' hip hpe hem hb =>
    refine .before e p b' hip ?_ (by rw [hk]; exact hem) hb
    rw [hp e (by rw [hip]; exact Or.inl rfl)]; exact hpe

/-- the parent of the insertion position is not a childless node other than the places named by `ip` -/
theorem NodePos.ne {d : Dom} {ip : InsertionPoint} {P n : Id} {b : List Id} (h : NodePos d ip P b)
    (hn : d.childrenOf n = []) (hip : ∀ p, ip.nodes.1 = p ∨ ip.nodes.2 = some p → p ≠ n) : P ≠ n := by
  cases h with
  | last hb hip' =>
    rcases hip' with hip' | ⟨e, hip', _⟩
    · exact hip P (by rw [hip']; exact Or.inl rfl)
    · exact hip P (by rw [hip']; exact Or.inr rfl)
  | before e p b' _ _ hem _ =>
    rintro rfl
    rw [hn] at hem; cases hem

theorem parentOf_of_nodes {d d' : Dom} (h : d'.nodes = d.nodes) (x : Id) : d'.parentOf x = d.parentOf x := by
  unfold Dom.parentOf; rw [h]

theorem isText_false_of_isElement {d : Dom} {x : Id} (h : d.isElement x = true) : d.isText x = false := by
  unfold Dom.isElement at h
  unfold Dom.isText
  cases hd : d.dataOf x with
  | none => rfl
  | some v => rw [hd] at h; cases v <;> simp_all

/-- what `insert_at(ip, node)` does to the arena, for a parentless node -/
theorem insertAt_node_eff {s s' : State} {ip : InsertionPoint} {c : Id} {u : Unit}
    (hip : IpOk s.dom ip) (hcp : s.dom.parentOf c = none)
    (hcand : ∀ p, ip.nodes.1 = p ∨ ip.nodes.2 = some p → p ≠ c)
    (e : H5V.Model.HtmlTB.insertAt ip (.node c) s = .ok (u, s')) :
    ∃ P a b, s.dom.childrenOf P = a ++ b ∧
      (∀ x, s'.dom.childrenOf x = if x = P then a ++ c :: b else s.dom.childrenOf x) ∧
      (∀ x, s'.dom.parentOf x = if x = c then some P else s.dom.parentOf x) ∧
      (∀ x, s'.dom.dataOf x = s.dom.dataOf x) ∧ NodePos s.dom ip P b := by
  cases ip with
  | beforeSibling _ => exact absurd hip id
  | lastChild p =>
    unfold H5V.Model.HtmlTB.insertAt at e
    obtain ⟨out, hd, _⟩ := sinkUnit_dom e
    have ha := apply_append hd
    have hne : p ≠ c := hcand p (Or.inl rfl)
    obtain ⟨_, h2, h1, h3⟩ := dom_appendNode_eff ha hne
    exact ⟨p, s.dom.childrenOf p, [], by simp, by simpa using h2, h1, h3, .last rfl (Or.inl rfl)⟩
  | tableFosterParenting el p =>
    unfold H5V.Model.HtmlTB.insertAt at e
    obtain ⟨out, hd, _⟩ := sinkUnit_dom e
    have ha := apply_abopn hd
    have helt : el < s.dom.size := lt_of_isElement hip.1
    have hb := appendBasedOnParentNodeV_eq ha helt
    cases hpe : s.dom.parentOf el with
    | none =>
      rw [hpe] at hb
      simp only [Option.isSome_none, Bool.false_eq_true, if_false] at hb
      have ha' : s.dom.append p (.node c) = .ok s'.dom := hb.symm
      have hne : p ≠ c := hcand p (Or.inr rfl)
      obtain ⟨_, h2, h1, h3⟩ := dom_appendNode_eff ha' hne
      exact ⟨p, s.dom.childrenOf p, [], by simp, by simpa using h2, h1, h3, .last rfl (Or.inr ⟨el, rfl, hpe⟩)⟩
    | some P0 =>
      rw [hpe] at hb
      simp only [Option.isSome_some, if_true] at hb
      obtain ⟨P, i, hpar, hi, h2, h1, h3⟩ := dom_beforeNode_eff hcp hb.symm
      rw [hpe] at hpar; cases hpar
      obtain ⟨hs1, hs2⟩ := split_of_indexOf hi
      exact ⟨P0, (s.dom.childrenOf P0).take i, (s.dom.childrenOf P0).drop i, by simp, h2, h1, h3,
        .before el p _ rfl hpe (mem_of_indexOf? hi) hs2⟩

/-- `insert_at` with a parentless node that is not open and not text -/
theorem insertAt_node_adj {s s' : State} {ip : InsertionPoint} {c : Id} {u : Unit} {O : List Id}
    (hl : Late s) (hip : IpOk s.dom ip) (h : AdjD s.dom O) (hcO : c ∉ O) (hcp : s.dom.parentOf c = none)
    (hct : s.dom.isText c = false)
    (hcand : ∀ p, ip.nodes.1 = p ∨ ip.nodes.2 = some p → p ≠ c)
    (e : H5V.Model.HtmlTB.insertAt ip (.node c) s = .ok (u, s')) :
    AdjD s'.dom O ∧ ∃ P a b, s.dom.childrenOf P = a ++ b ∧ s'.dom.childrenOf P = a ++ c :: b ∧
      (∀ Q, Q ≠ P → s'.dom.childrenOf Q = s.dom.childrenOf Q) ∧ (∀ x, s'.dom.dataOf x = s.dom.dataOf x) ∧
      (∀ Q, c ∉ s.dom.childrenOf Q) ∧ NodePos s.dom ip P b := by
  have hcn : ∀ Q, c ∉ s.dom.childrenOf Q := fun Q hm => by
    have := h.lk Q c hm; rw [hcp] at this; cases this
  obtain ⟨P, a, b, hP, hch, hpar, hd, hpos⟩ := insertAt_node_eff hip hcp hcand e
  exact ⟨h.insertNode_closed hP hch hpar hd hcp hct hcO, P, a, b, hP, by rw [hch]; simp,
    fun Q hQ => by rw [hch]; simp [hQ], hd, hcn, hpos⟩

/-- `insert_at(ip, node)` for a parentless element of the stack: the candidates for its parent, for a
template owning the parent, and for a later table sibling all precede it on the stack -/
theorem insertAt_open_adj {s s' : State} {ip : InsertionPoint} {c : Id} {u : Unit} {O : List Id}
    (hip : IpOk s.dom ip) (h : AdjD s.dom O) (hcp : s.dom.parentOf c = none)
    (hct : s.dom.isText c = false) (hnt : nm s.dom c ≠ hN "table")
    (hcand : ∀ p, ip.nodes.1 = p ∨ ip.nodes.2 = some p → p ≠ c)
    (hpos : ∀ P a b, s.dom.childrenOf P = a ++ b → NodePos s.dom ip P b →
      (P ∈ O → Before O P c) ∧
      (∀ T, s.dom.templateContentsOf T = some P → nm s.dom T = hN "template" → T ∈ O → Before O T c) ∧
      (∀ y ∈ b, y ∈ O → nm s.dom y = hN "table" → Before O y c))
    (e : H5V.Model.HtmlTB.insertAt ip (.node c) s = .ok (u, s')) : AdjD s'.dom O := by
  obtain ⟨P, a, b, hP, hch, hpar, hd, hps⟩ := insertAt_node_eff hip hcp hcand e
  obtain ⟨c1, c2, c3⟩ := hpos P a b hP hps
  refine h.insertNode hP hch hpar hd hcp hct ?_ (fun _ hPO => c1 hPO) (fun T hT hn _ hTO => c2 T hT hn hTO)
    (fun hn => absurd hn hnt) (fun _ _ y hy hyO hyn => c3 y hy hyO hyn)
  intro _ _
  cases hps with
  | last hb _ => rw [hb]; rfl
  | before e' p b' hip' _ _ hb =>
    rw [hb]
    show s.dom.isText e' = false
    rw [hip'] at hip
    exact isText_false_of_isElement hip.1

/-! ### text -/

/-- the node behind which `insert_at(ip, text)` puts the text -/
def PrevOf (d : Dom) (ip : InsertionPoint) (x : Id) : Prop :=
  match ip with
  | .lastChild p => (d.childrenOf p).getLast? = some x
  | .beforeSibling _ => False
  | .tableFosterParenting e p =>
    (d.parentOf e = none ∧ (d.childrenOf p).getLast? = some x) ∨
      ∃ P l1 l2, d.parentOf e = some P ∧ d.childrenOf P = l1 ++ x :: e :: l2

theorem PrevOf.pos {d : Dom} {ip : InsertionPoint} {x : Id} (h : PrevOf d ip x) :
    ∃ P a b, d.childrenOf P = a ++ b ∧ NodePos d ip P b ∧ x ∈ a := by
  cases ip with
  | lastChild p =>
    exact ⟨p, d.childrenOf p, [], by simp, .last rfl (Or.inl rfl), List.mem_of_getLast? h⟩
  | beforeSibling _ => exact absurd h id
  | tableFosterParenting e p =>
    rcases h with ⟨hpe, hl⟩ | ⟨P, l1, l2, hpe, hP⟩
    · exact ⟨p, d.childrenOf p, [], by simp, .last rfl (Or.inr ⟨e, rfl, hpe⟩), List.mem_of_getLast? hl⟩
    · exact ⟨P, l1 ++ [x], e :: l2, by rw [hP]; simp, .before e p l2 rfl hpe (by rw [hP]; simp) rfl, by simp⟩

/-- a text node gets more text: nothing the invariant looks at changes -/
theorem AdjD.textMerge {d d' : Dom} {O : List Id} (h : AdjD d O) (hO : ∀ e ∈ O, d.isElement e = true)
    (hs : SameShape d d') {t : Id} {old new : Str} (ht : d.dataOf t = some (.text old))
    (hd : ∀ x, d'.dataOf x = if x = t then some (.text new) else d.dataOf x) : AdjD d' O := by
  have hne : ∀ e ∈ O, e ≠ t := fun e he h0 => by
    have := hO e he
    unfold Dom.isElement at this
    rw [h0, ht] at this; cases this
  refine h.congr hs.children (fun P x _ => hs.parent x) ?_ ?_ ?_
  · intro P x _
    by_cases hx : x = t
    · subst hx
      unfold Dom.isText
      rw [hd, ht]; simp
    · exact isText_of_data (by rw [hd]; simp [hx])
  · intro e he
    exact nm_of_data (by rw [hd]; simp [hne e he])
  · intro T hT
    exact tc_of_data (by rw [hd]; simp [hne T hT])

theorem lastT_false_of {d : Dom} {l : List Id}
    (h : ∀ hl, l.getLast? = some hl → d.isText hl = false) : lastT d.isText l = false := by
  unfold lastT
  cases hl : l.getLast? with
  | none => rfl
  | some x => exact h x hl

/-- `append(parent, text)` -/
theorem AdjD.appendText {d d' : Dom} {O : List Id} {p : Id} {t : Str} (h : AdjD d O) (hb : DomBase d)
    (hO : ∀ e ∈ O, d.isElement e = true)
    (hprev : ∀ x, (d.childrenOf p).getLast? = some x → x ∈ O → exm (nm d x) = false → False)
    (e : d.append p (.text t) = .ok d') : AdjD d' O := by
  have hOlt : ∀ e ∈ O, e < d.size := fun e he => lt_of_isElement (hO e he)
  obtain ⟨hp, h1 | h2⟩ := append_text_ok e
  · obtain ⟨hl, old, _, hdl, hs, hd, _⟩ := h1
    exact h.textMerge hO hs hdl hd
  · obtain ⟨hpar, hch, hd, _, _⟩ := allocAppend_ok hp h2.2
    refine h.insertFresh (P := p) (a := d.childrenOf p) (b := []) (v := .text t) hb.kidsValid hOlt (by simp)
      (by intro x; rw [hch]) hpar hd ?_ ?_
    · intro _
      exact ⟨lastT_false_of h2.1, by simp [headT]⟩
    · intro _ a' x ha hx hxx
      exact hprev x (by rw [ha]; simp) hx hxx

/-- `insert_at` with text -/
theorem insertAt_text_adj {s s' : State} {ip : InsertionPoint} {t : Str} {u : Unit} {O : List Id}
    (hl : Late s) (hip : IpOk s.dom ip) (h : AdjD s.dom O) (hO : ∀ e ∈ O, s.dom.isElement e = true)
    (hprev : ∀ x, PrevOf s.dom ip x → x ∈ O → exm (nm s.dom x) = false → False)
    (e : H5V.Model.HtmlTB.insertAt ip (.text t) s = .ok (u, s')) : AdjD s'.dom O := by
  have hOlt : ∀ e ∈ O, e < s.dom.size := fun e he => lt_of_isElement (hO e he)
  cases ip with
  | beforeSibling _ => exact absurd hip id
  | lastChild p =>
    unfold H5V.Model.HtmlTB.insertAt at e
    obtain ⟨out, hd, _⟩ := sinkUnit_dom e
    exact h.appendText hl.base hO (fun x hx => hprev x hx) (apply_append hd)
  | tableFosterParenting el p =>
    unfold H5V.Model.HtmlTB.insertAt at e
    obtain ⟨out, hd, _⟩ := sinkUnit_dom e
    have ha := apply_abopn hd
    have helt : el < s.dom.size := lt_of_isElement hip.1
    have hb := appendBasedOnParentNodeV_eq ha helt
    cases hpe : s.dom.parentOf el with
    | none =>
      rw [hpe] at hb
      simp only [Option.isSome_none, Bool.false_eq_true, if_false] at hb
      exact h.appendText hl.base hO (fun x hx => hprev x (Or.inl ⟨hpe, hx⟩)) hb.symm
    | some P0 =>
      rw [hpe] at hb
      simp only [Option.isSome_some, if_true] at hb
      have h0 : s.dom.appendBeforeSibling el (.text t) = .ok s'.dom := by
        rcases appendBeforeSiblingV_ok hb.symm with h1 | ⟨c', d1, he, _, _⟩
        · exact h1
        · cases he
      obtain ⟨P, i, hpar, hi, _, hm⟩ := appendBeforeSibling_ok h0
      rw [hpe] at hpar; cases hpar
      obtain ⟨hs1, hs2⟩ := split_of_indexOf hi
      simp only at hm
      have helT : s.dom.isText el = false := by
        have := hip.1
        unfold Dom.isElement at this
        unfold Dom.isText
        cases hq : s.dom.dataOf el with
        | none => rfl
        | some v => rw [hq] at this; cases v <;> first | rfl | cases this
      rcases hm with ⟨prev, old, _, _, hdl, hs, hd', _⟩ | ⟨hprev', h2⟩
      · exact h.textMerge hO hs hdl hd'
      · obtain ⟨_, hpp, hch, hd', _, _⟩ := insertAtIndex_fresh_ok h2
        refine h.insertFresh (P := P0) (a := (s.dom.childrenOf P0).take i) (b := (s.dom.childrenOf P0).drop i)
          (v := .text t) hl.base.kidsValid hOlt (by simp) (by intro x; rw [hch]; rfl) hpp hd' ?_ ?_
        · intro _
          refine ⟨?_, by rw [hs2]; exact helT⟩
          rcases hprev' with h0' | ⟨prev, hp1, hp2⟩
          · subst h0'; simp [lastT]
          · by_cases h0' : i = 0
            · subst h0'; simp [lastT]
            · rw [lastT_take (Nat.pos_of_ne_zero h0') hp1]; exact hp2
        · intro _ a' x ha hx hxx
          refine hprev x (Or.inr ⟨P0, a', (s.dom.childrenOf P0).drop (i + 1), hpe, ?_⟩) hx hxx
          have := hs1
          rw [ha] at this
          exact this.trans (by simp)


/-! ### pushing the element that was just inserted -/

theorem not_before_last {l : List Id} {t x : Id} (hn : l.Nodup) (hl : l.getLast? = some t) : ¬ Before l t x := by
  intro h
  rcases nil_or_concat l with rfl | ⟨l0, z, rfl⟩
  · cases hl
  · have hz : z = t := by simpa using hl
    subst hz
    -- [t, x] <+ l0 ++ [t]: x comes after t, but t is last
    unfold Before at h
    rcases List.sublist_append_iff.mp h with ⟨m1, m2, e, s1, s2⟩
    have hnd := List.nodup_append.mp hn
    cases m1 with
    | nil =>
      simp at e; subst e
      have := s2.length_le; simp at this
    | cons w m1' =>
      have hw : w = z := by cases m1' <;> simp at e <;> exact e.1.symm
      subst hw
      exact hnd.2.2 w (s1.subset (by simp)) w (by simp) rfl

/-- an element of the stack that comes after `e` lies in the part `pre` above `e` -/
theorem mem_pre_of_before {O pre post : List Id} {e x : Id} (hn : O.Nodup) (hO : O.reverse = pre ++ e :: post)
    (h : Before O e x) : x ∈ pre := by
  have hO' : O = post.reverse ++ e :: pre.reverse := by
    have := congrArg List.reverse hO
    simpa using this
  rw [hO'] at h hn
  have hxe : x ≠ e := fun h0 => by subst h0; exact not_before_self hn x h
  have he : e ∉ post.reverse := fun hm =>
    (List.nodup_append.mp hn).2.2 e hm e (by simp) rfl
  have := before_mid_right h hxe he
  simpa using this

/-- On the stack, directly above an element `p` that is neither `table` nor `template`, a foster-parenting
target `c` other than `table` can only be `tr`, and `p` is then a table section. -/
theorem foster_on {c p : EName} (hc : fosterTarget c = true) (hct : htmlIn c ["table", "template"] = false)
    (hpo : predOk c p = true) (hpt : htmlIn p ["table", "template"] = false) :
    c = hN "tr" ∧ htmlIn p ["tbody", "thead", "tfoot"] = true := by
  obtain ⟨a, ha, rfl⟩ := htmlIn_eq hc
  simp only [List.mem_cons, List.not_mem_nil, or_false] at ha
  -- for a table section `predOk` asks for `table` / `template` below, which `p` is not
  rcases ha with rfl | rfl | rfl | rfl | rfl <;> simp [predOk, htmlIn_hN] at hct hpo <;> try (rw [hpo] at hpt; cases hpt)
  obtain ⟨b, hb, rfl⟩ := htmlIn_eq hpo
  simp only [List.mem_cons, List.not_mem_nil, or_false] at hb
  rcases hb with rfl | rfl | rfl | rfl <;> simp [htmlIn_hN] at hpt ⊢

/-- with a foster-parenting target on top of the stack, what lies above the last `table` / `template`
is table structure: `tr` on a table section, or a section or `tr` alone -/
theorem pre_constrained {name : Id → EName} {O pre post : List Id} {e t : Id} (htg : TG name O)
    (hO : O.reverse = pre ++ e :: post) (ht : O.getLast? = some t) (hft : fosterTarget (name t) = true)
    (hpre : ∀ y ∈ pre, htmlIn (name y) ["table", "template"] = false) : ∀ y ∈ pre, constrained (name y) = true := by
  have hO' : O = post.reverse ++ e :: pre.reverse := by
    have := congrArg List.reverse hO
    simpa using this
  -- foster targets other than `table` are constrained; table sections are foster targets
  have hcon : ∀ n, fosterTarget n = true → htmlIn n ["table", "template"] = false → constrained n = true := by
    intro n h1 h2
    obtain ⟨a, ha, rfl⟩ := htmlIn_eq h1
    simp only [List.mem_cons, List.not_mem_nil, or_false] at ha
    rcases ha with rfl | rfl | rfl | rfl | rfl <;> simp [constrained, htmlIn_hN] at h2 ⊢
  have hfos : ∀ n, htmlIn n ["tbody", "thead", "tfoot"] = true → fosterTarget n = true := by
    intro n h1
    obtain ⟨a, ha, rfl⟩ := htmlIn_eq h1
    simp only [List.mem_cons, List.not_mem_nil, or_false] at ha
    rcases ha with rfl | rfl | rfl <;> simp [fosterTarget, htmlIn_hN]
  rcases nil_or_concat pre.reverse with h0 | ⟨q, top, h0⟩
  · intro y hy
    have : pre = [] := by simpa using h0
    rw [this] at hy; cases hy
  · have htop : top = t := by
      rw [hO', h0] at ht
      have : (post.reverse ++ e :: (q ++ [top])) = (post.reverse ++ e :: q) ++ [top] := by simp
      rw [this, List.getLast?_append] at ht
      simpa using ht
    subst htop
    have hmem : ∀ y, y ∈ pre ↔ y ∈ q ∨ y = top := by
      intro y
      rw [← List.mem_reverse, h0]; simp
    have htopt := hpre top ((hmem top).mpr (Or.inr rfl))
    rcases nil_or_concat q with rfl | ⟨q', pr, rfl⟩
    · intro y hy
      rcases (hmem y).mp hy with h1 | rfl
      · cases h1
      · exact hcon _ hft htopt
    · -- `pr` is directly below `top`: `top` is `tr`, `pr` a table section
      have hprt := hpre pr ((hmem pr).mpr (Or.inl (by simp)))
      obtain ⟨_, hsec⟩ := foster_on hft htopt
        (htg (post.reverse ++ e :: q') pr top [] (by rw [hO', h0]; simp)) hprt
      rcases nil_or_concat q' with rfl | ⟨q'', pr2, rfl⟩
      · intro y hy
        rcases (hmem y).mp hy with h1 | rfl
        · have : y = pr := by simpa using h1
          subst this
          exact hcon _ (hfos _ hsec) hprt
        · exact hcon _ hft htopt
      · -- nothing can lie below a table section but `table` / `template`
        exfalso
        obtain ⟨htr, _⟩ := foster_on (hfos _ hsec) hprt
          (htg (post.reverse ++ e :: q'') pr2 pr [top] (by rw [hO', h0]; simp))
          (hpre pr2 ((hmem pr2).mpr (Or.inl (by simp))))
        rw [htr] at hsec
        simp [htmlIn_hN] at hsec

/-- the element `c` was inserted into `P` between `a` and `b`, it is childless and in no other list -/
theorem AdjD.push_inserted {d : Dom} {O : List Id} {P c : Id} {a b : List Id} (h : AdjD d O)
    (hP : d.childrenOf P = a ++ c :: b) (hca : c ∉ a) (hcb : c ∉ b) (hcQ : ∀ Q, Q ≠ P → c ∉ d.childrenOf Q)
    (hb : headT d.isText b = false) (hkids : d.childrenOf c = [])
    (htc : ∀ tc, d.templateContentsOf c = some tc → d.childrenOf tc = [])
    (hTB : nm d c = hN "table" → ∀ x ∈ a, x ∈ O → exm (nm d x) = false → False) : AdjD d (O ++ [c]) := by
  refine h.push ?_ (by rw [hkids]; simp) (by rw [hkids]; intro e he; cases he) ?_ ?_
  · intro _ Q l1 l2 hc
    by_cases hQ : Q = P
    · subst hQ
      rw [hP] at hc
      rcases mid_split hc with ⟨_, _, rfl⟩ | ⟨a2, ha, _⟩ | ⟨b1, hb', _⟩
      · exact hb
      · exact absurd (by rw [ha]; simp) hca
      · exact absurd (by rw [hb']; simp) hcb
    · exact absurd (by rw [hc]; simp) (hcQ Q hQ)
  · intro tc e htc' he _
    rw [htc tc htc'] at he; cases he
  · intro hn Q x hbf hx hxx
    by_cases hQ : Q = P
    · subst hQ
      rw [hP] at hbf
      have hxc : x ≠ c := by
        rintro rfl
        have hnd := h.nd Q
        rw [hP] at hnd
        exact not_before_self hnd x hbf
      exact hTB hn x (before_mid_left hbf hxc hcb) hx hxx
    · exact absurd (hbf.mem.2) (hcQ Q hQ)


/-- inserting a fresh, parentless, childless element at an appropriate place, then pushing it -/
theorem insertAt_new_adj {s s' : State} {ip : InsertionPoint} {el : Id} {u : Unit}
    (hl : Late s) (hip : IpOk s.dom ip) (h : AdjD s.dom s.openElems) (hcO : el ∉ s.openElems)
    (hcp : s.dom.parentOf el = none) (hct : s.dom.isText el = false) (hkids : s.dom.childrenOf el = [])
    (htc : ∀ tc, s.dom.templateContentsOf el = some tc → s.dom.childrenOf tc = [] ∧
      ∀ p, ip.nodes.1 = p ∨ ip.nodes.2 = some p → p ≠ tc)
    (hcand : ∀ p, ip.nodes.1 = p ∨ ip.nodes.2 = some p → p ≠ el)
    (hTB : ∀ P a b x, s.dom.childrenOf P = a ++ b → NodePos s.dom ip P b → x ∈ a → x ∈ s.openElems →
      exm (nm s.dom x) = false → False)
    (e : H5V.Model.HtmlTB.insertAt ip (.node el) s = .ok (u, s')) :
    AdjD s'.dom s.openElems ∧ AdjD s'.dom (s.openElems ++ [el]) := by
  obtain ⟨hadj, P, a, b, hP, hP', hQ, hdata, hcn, hpos⟩ := insertAt_node_adj hl hip h hcO hcp hct hcand e
  refine ⟨hadj, ?_⟩
  have hela : el ∉ a := fun hm => hcn P (by rw [hP]; exact List.mem_append_left _ hm)
  have helb : el ∉ b := fun hm => hcn P (by rw [hP]; exact List.mem_append_right _ hm)
  have hPel : P ≠ el := hpos.ne hkids hcand
  refine hadj.push_inserted hP' hela helb (fun Q hQP => by rw [hQ Q hQP]; exact hcn Q) ?_ ?_ ?_ ?_
  · cases hpos with
    | last hb _ => rw [hb]; rfl
    | before e' p b' hip' _ _ hb =>
      rw [hb]
      show s'.dom.isText e' = false
      rw [isText_of_data (hdata e')]
      rw [hip'] at hip
      exact isText_false_of_isElement hip.1
  · rw [hQ el (Ne.symm hPel)]; exact hkids
  · intro tc htc'
    rw [tc_of_data (hdata el)] at htc'
    obtain ⟨h1, h2⟩ := htc tc htc'
    have : P ≠ tc := hpos.ne h1 h2
    rw [hQ tc (Ne.symm this)]; exact h1
  · intro _ x hxa hxO hxx
    rw [nm_of_data (hdata x)] at hxx
    exact hTB P a b x hP hpos hxa hxO hxx


/-- `add_attrs_if_missing` changes the attribute list of one element only -/
theorem addAttrs_adj {d d' : Dom} {O : List Id} {t : Id} {attrs : List Attr} (h : AdjD d O)
    (e : d.addAttrsIfMissing t attrs = .ok d') : AdjD d' O := by
  obtain ⟨name, ex, tc, ip, hdt, hsh, hd, _⟩ := addAttrsIfMissing_ok e
  have hdat : ∀ x, x ≠ t → d'.dataOf x = d.dataOf x := fun x hx => by rw [hd]; simp [hx]
  refine h.congr hsh.children (fun _ x _ => hsh.parent x) (fun _ x _ => ?_) (fun x _ => ?_) (fun x _ => ?_)
  · by_cases hx : x = t
    · subst hx; unfold Dom.isText; rw [hd, hdt]; simp
    · exact isText_of_data (hdat x hx)
  · by_cases hx : x = t
    · subst hx; unfold nm; rw [hd, hdt]; simp
    · exact nm_of_data (hdat x hx)
  · by_cases hx : x = t
    · subst hx; unfold Dom.templateContentsOf; rw [hd, hdt]; simp
    · exact tc_of_data (hdat x hx)

end H5V.Props.C06
