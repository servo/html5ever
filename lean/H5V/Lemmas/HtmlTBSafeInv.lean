import H5V.Lemmas.HtmlTBSafeAF
/-!
# Tree-builder safety: the builder-state invariant `SInv`

`SInv m s`: what the panic sites rely on, for the (effective) insertion mode `m`:
* before the root exists (`Initial`, `BeforeHtml`) the stack of open elements is empty; afterwards its
  bottom is an HTML `html` element (and is never popped);
* `InHead` has a `head` element on the stack, `InHeadNoscript` has one below the current node, which is
  an HTML element; `InCell` has a `td`/`th`; in `Text` the current node is an HTML element (so the
  foreign-content dispatcher is off);
* `Text` ⇒ `orig_mode` is set (to a mode whose own requirement holds for the stack below the
  raw-text element); `InTableText` ⇒ `orig_mode` is one of the table modes; outside `InTableText` no
  table text is pending;
* the modes that can reach `AfterHead` have the head pointer set; so has every state with a `head`
  element on the stack;
* there are at least as many template insertion modes as `template` elements on the stack (counting a
  `template` context element).
`TI s` := `HInv s ∧ SInv s.mode s`.
-/
namespace H5V.Lemmas.TBSafe
open H5V.Model.HtmlTB
open H5V.Model.Dom (Id QualName Attr NodeOrText SinkOp Output ElementFlags QuirksMode Dom NodeData Node)

variable {al : Allow}

def isTmpl (d : Dom) (h : Id) : Bool := nm d h == tmplName
/-- number of HTML `template` elements on the stack -/
def tcount (d : Dom) (l : List Id) : Nat := l.countP (isTmpl d)
/-- 1 if the context element is an HTML `template` -/
def ctxTmpl (s : State) : Nat :=
  match s.contextElem with
  | some c => if nm s.dom c == tmplName then 1 else 0
  | none => 0

def preRoot (m : Mode) : Bool := m == .initial || m == .beforeHtml
def needsHead (m : Mode) : Bool := m == .inHead || m == .inHeadNoscript || m == .afterHead
/-- the modes `orig_mode` can hold while the builder is in `Text` -/
def origOk (m : Mode) : Bool := !(m == .initial || m == .beforeHtml || m == .text || m == .inTableText)
/-- the modes `orig_mode` can hold while the builder is in `InTableText` -/
def tableMode (m : Mode) : Bool := m == .inTable || m == .inTableBody || m == .inRow
/-- the values of the stack of template insertion modes -/
def tmplModeOk (m : Mode) : Bool :=
  m == .inTemplate || m == .inTable || m == .inColumnGroup || m == .inTableBody || m == .inRow || m == .inBody

/-- the per-mode requirement on the stack of open elements -/
def ModeStack (d : Dom) (m : Mode) (l : List Id) : Prop :=
  match m with
  | .initial => l = []
  | .beforeHtml => l = []
  | .inHead => ∃ x ∈ l, nm d x = headName
  | .inHeadNoscript => (∃ x ∈ l.dropLast, nm d x = headName) ∧ ∃ t, l.getLast? = some t ∧ (nm d t).ns = nsHtml
  | .inCell => ∃ x ∈ l, tdTh (nm d x) = true
  | .text => ∃ t, l.getLast? = some t ∧ (nm d t).ns = nsHtml
  | _ => True

/-- the element names a mode needs on the stack (`ModeStack` of `InHead`/`InCell` is "some element
with such a name is on the stack") -/
def modeNeed (m : Mode) (n : EName) : Bool :=
  match m with
  | .inHead => n == headName
  | .inCell => tdTh n
  | _ => false

structure SInv (m : Mode) (s : State) : Prop where
  root : preRoot m = false → Rooted s.dom s.openElems
  stack : ModeStack s.dom m s.openElems
  head : needsHead m = true → s.headElem.isSome = true
  headIn : (∃ x ∈ s.openElems, nm s.dom x = headName) → s.headElem.isSome = true
  text : m = .text → ∃ om, s.origMode = some om ∧ origOk om = true ∧ 2 ≤ s.openElems.length ∧
    ModeStack s.dom om s.openElems.dropLast ∧ (needsHead om = true → s.headElem.isSome = true)
  tableText : m = .inTableText → ∃ om, s.origMode = some om ∧ tableMode om = true
  pending : m ≠ .inTableText → s.pendingTableText = []
  tmpl : tcount s.dom s.openElems + ctxTmpl s ≤ s.templateModes.length
  tmodes : ∀ x ∈ s.templateModes, tmplModeOk x = true

/-- the invariant of the tree builder -/
structure TI (s : State) : Prop where
  h : HInv s
  s : SInv s.mode s

/-! ### stability of the name-dependent notions -/

theorem tcount_ext {d d' : Dom} {l : List Id} (he : Ext d d') (hel : AllEl d l) : tcount d' l = tcount d l := by
  unfold tcount
  apply List.countP_congr
  intro x hx
  unfold isTmpl
  rw [hel.nm_eq he hx]

theorem ModeStack.ext {d d' : Dom} {m : Mode} {l : List Id} (he : Ext d d') (hel : AllEl d l)
    (h : ModeStack d m l) : ModeStack d' m l := by
  cases m <;> try exact h
  · obtain ⟨x, hx, ht⟩ := h
    exact ⟨x, hx, by rw [hel.nm_eq he hx]; exact ht⟩
  · obtain ⟨⟨x, hx, ht⟩, t, h1, h2⟩ := h
    exact ⟨⟨x, hx, by rw [hel.nm_eq he (List.dropLast_subset _ hx)]; exact ht⟩, t, h1,
      by rw [hel.nm_eq he (getLast?_mem h1)]; exact h2⟩
  · obtain ⟨t, h1, h2⟩ := h
    exact ⟨t, h1, by rw [hel.nm_eq he (getLast?_mem h1)]; exact h2⟩
  · obtain ⟨x, hx, ht⟩ := h
    exact ⟨x, hx, by rw [hel.nm_eq he hx]; exact ht⟩

theorem ctxTmpl_fr {s s' : State} (hi : HInv s) (f : Fr s s') : ctxTmpl s' = ctxTmpl s := by
  unfold ctxTmpl
  rw [f.contextElem]
  cases hc : s.contextElem with
  | none => rfl
  | some c => simp only; rw [nm_ext f.ext (hi.ctx c hc)]

/-- nothing safety-relevant changed (`Same`): the invariant carries over -/
theorem SInv.of_same {m : Mode} {s s' : State} (hi : HInv s) (h : SInv m s) (st : Same s s') : SInv m s' where
  root := fun hm => by rw [st.openElems]; exact (h.root hm).ext st.fr.ext hi.open_el
  stack := by rw [st.openElems]; exact (h.stack).ext st.fr.ext hi.open_el
  head := fun hm => by rw [st.fr.headElem]; exact h.head hm
  headIn := by
    rw [st.openElems, st.fr.headElem]
    rintro ⟨x, hx, hn⟩
    exact h.headIn ⟨x, hx, by rw [← hi.open_el.nm_eq st.fr.ext hx]; exact hn⟩
  text := fun hm => by
    obtain ⟨om, h1, h2, h3, h4, h5⟩ := h.text hm
    rw [st.openElems, st.fr.origMode, st.fr.headElem]
    exact ⟨om, h1, h2, h3, h4.ext st.fr.ext (hi.open_el.sub (fun x hx => List.dropLast_subset _ hx)), h5⟩
  tableText := fun hm => by rw [st.fr.origMode]; exact h.tableText hm
  pending := fun hm => by rw [st.fr.pendingTableText]; exact h.pending hm
  tmpl := by
    rw [st.openElems, st.fr.templateModes, tcount_ext st.fr.ext hi.open_el, ctxTmpl_fr hi st.fr]
    exact h.tmpl
  tmodes := by rw [st.fr.templateModes]; exact h.tmodes

theorem SInv.of_qf {m : Mode} {s s' : State} (hi : HInv s) (h : SInv m s) (q : QF s s') : SInv m s' :=
  h.of_same hi q.same

theorem TI.of_same {s s' : State} (h : TI s) (st : Same s s') : TI s' :=
  ⟨h.h.of_same st, by rw [st.fr.mode]; exact h.s.of_same h.h st⟩

theorem TI.of_qf {s s' : State} (h : TI s) (q : QF s s') : TI s' := h.of_same q.same

/-! ### steps of the body-like rules -/

/-- a new element of the stack is neither a `template` nor a `head` -/
def NewOk (n : EName) : Prop := n ≠ tmplName ∧ n ≠ headName

theorem htmlName_ne_tmplName : htmlName ≠ tmplName := ename_ne (by decide)
theorem htmlName_ne_headName : htmlName ≠ headName := ename_ne (by decide)
theorem headName_ne_tmplName : headName ≠ tmplName := ename_ne (by decide)

theorem NewOk.lit {x : String} (h1 : x ≠ "template") (h2 : x ≠ "head") : NewOk ⟨nsHtml, x.toList⟩ :=
  ⟨ename_ne h1, ename_ne h2⟩

/-- a name of a list that contains neither `template` nor `head` -/
theorem NewOk.of_isOneOf {n : Str} {l : List String} (h : isOneOf n l = true)
    (h1 : "template" ∉ l := by decide) (h2 : "head" ∉ l := by decide) : NewOk ⟨nsHtml, n⟩ :=
  ⟨fun e => isOneOf_ne h h1 (congrArg EName.loc e), fun e => isOneOf_ne h h2 (congrArg EName.loc e)⟩

theorem htmlIn_htmlName {l : List String} (h : "html" ∈ l) : htmlIn htmlName l = true := by
  rw [htmlName, htmlIn_html, isOneOf_toList]
  exact List.contains_iff_mem.mpr h

theorem NewOk.of_fmt {n : EName} (h : isFmtE n = true) : NewOk n := by
  obtain ⟨ns, loc⟩ := n
  simp only [isFmtE, Bool.and_eq_true, beq_iff_eq] at h
  obtain ⟨rfl, h⟩ := h
  exact NewOk.of_isOneOf h

/-- what an arm of the body-like rules does to the builder: the scalar fields `SInv` looks at are
unchanged (the form pointer may change), the handle invariant holds again, the root is still there,
new stack entries are neither `template` nor `head`, the number of templates has not grown -/
structure BStep (s s' : State) : Prop where
  mode : s'.mode = s.mode
  origMode : s'.origMode = s.origMode
  templateModes : s'.templateModes = s.templateModes
  pendingTableText : s'.pendingTableText = s.pendingTableText
  headElem : s'.headElem = s.headElem
  contextElem : s'.contextElem = s.contextElem
  ext : Ext s.dom s'.dom
  hinv : HInv s'
  rooted : Rooted s'.dom s'.openElems
  news : ∀ x ∈ s'.openElems, x ∈ s.openElems ∨ NewOk (nm s'.dom x)
  tcnt : tcount s'.dom s'.openElems ≤ tcount s.dom s.openElems

/-- no element with a name satisfying `P` was removed from the stack -/
def Keeps (P : EName → Bool) (s s' : State) : Prop :=
  ∀ x ∈ s.openElems, P (nm s.dom x) = true → x ∈ s'.openElems

/-- the modes whose requirement a body-like step preserves -/
def bodyLike (m : Mode) : Bool :=
  !(preRoot m || m == .inHeadNoscript || m == .text)

theorem SInv.of_bstep {m : Mode} {s s' : State} (hi : HInv s) (h : SInv m s) (b : BStep s s')
    (hm : bodyLike m = true) (hk : Keeps (modeNeed m) s s') : SInv m s' where
  root := fun _ => b.rooted
  stack := by
    cases m <;> try trivial
    all_goals first
      | (simp [bodyLike, preRoot] at hm; done)
      | skip
    · obtain ⟨x, hx, ht⟩ := h.stack
      exact ⟨x, hk x hx (by simp [modeNeed, ht]), by rw [nm_ext b.ext (hi.open_el x hx)]; exact ht⟩
    · obtain ⟨x, hx, ht⟩ := h.stack
      exact ⟨x, hk x hx (by simpa [modeNeed] using ht), by rw [nm_ext b.ext (hi.open_el x hx)]; exact ht⟩
  head := fun hn => by rw [b.headElem]; exact h.head hn
  headIn := by
    rw [b.headElem]
    rintro ⟨x, hx, hn⟩
    rcases b.news x hx with hx' | hnew
    · exact h.headIn ⟨x, hx', by rw [← nm_ext b.ext (hi.open_el x hx')]; exact hn⟩
    · exact absurd hn hnew.2
  text := fun hmt => by subst hmt; simp [bodyLike] at hm
  tableText := fun hmt => by rw [b.origMode]; exact h.tableText hmt
  pending := fun hmt => by rw [b.pendingTableText]; exact h.pending hmt
  tmpl := by
    have hc : ctxTmpl s' = ctxTmpl s := by
      unfold ctxTmpl
      rw [b.contextElem]
      cases hc : s.contextElem with
      | none => rfl
      | some c => simp only; rw [nm_ext b.ext (hi.ctx c hc)]
    rw [hc, b.templateModes]
    exact Nat.le_trans (Nat.add_le_add_right b.tcnt _) h.tmpl
  tmodes := by rw [b.templateModes]; exact h.tmodes

/-! ### `countP` under `set` / `insertIdx` -/

theorem countP_set_le {p : Id → Bool} {x : Id} (hx : p x = false) : ∀ (l : List Id) (i : Nat),
    (l.set i x).countP p ≤ l.countP p := by
  intro l
  induction l with
  | nil => intro i; simp
  | cons a t ih =>
    intro i
    cases i with
    | zero =>
      simp only [List.set_cons_zero, List.countP_cons, hx]
      cases p a <;> simp
    | succ i =>
      simp only [List.set_cons_succ, List.countP_cons]
      have := ih i
      omega

theorem countP_insertIdx_le {p : Id → Bool} {x : Id} (hx : p x = false) : ∀ (l : List Id) (i : Nat),
    (l.insertIdx i x).countP p ≤ l.countP p := by
  intro l
  induction l with
  | nil =>
    intro i
    cases i with
    | zero => simp [List.insertIdx, hx]
    | succ i => simp [List.insertIdx]
  | cons a t ih =>
    intro i
    cases i with
    | zero => simp [List.insertIdx, List.countP_cons, hx]
    | succ i =>
      simp only [List.insertIdx_succ_cons, List.countP_cons]
      have := ih i
      omega

end H5V.Lemmas.TBSafe
