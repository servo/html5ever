import H5V.Lemmas.HtmlTBModesDefs
import H5V.Lemmas.HtmlTBModesInvModel
/-!
The driver: `process_to_completion` / `process_token` / a token list of the model against
`loopDev` / `processTokenDev` / `runDev` of the specification, given the simulation of every rule
(`ModeSim`, `ModeCharSim`, `ForeignSim`, `ForeignCharSim`).
-/
namespace H5V.Lemmas.HtmlTBModes
open H5V.Model.HtmlTB
open H5V.Model.Dom (Id SinkOp Output Dom QualName Attr NodeOrText ElementFlags NodeData QuirksMode)
open H5V.Lemmas.HtmlTBAlgo
open H5V.Lemmas.TBSafe (TI HInv SInv Rooted ForeignTop textTok)
open H5V.Spec.TreeAlgo2 (Elem Entry PState Ctx Edit Place)
open H5V.Spec.TreeModes (STok ETok IMode Config Out TokSwitch XOp Op Step Edition)

/-! ### the specification's loop without fuel -/

/-- with enough fuel, one token (`html`: by-passing the dispatcher first) takes `σ` to `σ'` -/
def LoopsTo (cfg : Config Id) (html : Bool) (σ : SState) (tok : STok) (σ' : SState) : Prop :=
  ∃ k, ∀ k', k ≤ k' → loopDev cfg k' html σ tok = .ok σ'

def ruleOf (cfg : Config Id) (html : Bool) (σ : SState) (tok : STok) : Spec.TreeModes.M (Step Id) :=
  if html then byModeDev cfg σ tok else dispatchDev cfg σ tok

def loopCont (cfg : Config Id) (k : Nat) (tok : STok) : Step Id → Spec.TreeModes.M SState
  | .done s => pure s
  | .reprocess s => loopDev cfg k false s tok
  | .reprocessHtml s => loopDev cfg k true s tok

theorem loopDev_succ (cfg : Config Id) (k : Nat) (html : Bool) (σ : SState) (tok : STok) :
    loopDev cfg (k + 1) html σ tok = ruleOf cfg html σ tok >>= loopCont cfg k tok := by
  rw [loopDev]
  unfold ruleOf
  cases html
  · simp only [Bool.false_eq_true, if_false]
    cases dispatchDev cfg σ tok with
    | error e => rfl
    | ok r => cases r <;> rfl
  · simp only [if_true]
    cases byModeDev cfg σ tok with
    | error e => rfl
    | ok r => cases r <;> rfl

theorem LoopsTo.done {cfg : Config Id} {html : Bool} {σ σ' : SState} {tok : STok}
    (h : ruleOf cfg html σ tok = .ok (.done σ')) : LoopsTo cfg html σ tok σ' := by
  refine ⟨1, fun k' hk => ?_⟩
  obtain ⟨k, rfl⟩ : ∃ k, k' = k + 1 := ⟨k' - 1, by omega⟩
  rw [loopDev_succ, h]; rfl

theorem LoopsTo.reprocess {cfg : Config Id} {html : Bool} {σ σ1 σ' : SState} {tok : STok}
    (h : ruleOf cfg html σ tok = .ok (.reprocess σ1)) (h2 : LoopsTo cfg false σ1 tok σ') : LoopsTo cfg html σ tok σ' := by
  obtain ⟨k0, hk0⟩ := h2
  refine ⟨k0 + 1, fun k' hk => ?_⟩
  obtain ⟨k, rfl⟩ : ∃ k, k' = k + 1 := ⟨k' - 1, by omega⟩
  rw [loopDev_succ, h]
  exact hk0 k (by omega)

theorem LoopsTo.reprocessHtml {cfg : Config Id} {html : Bool} {σ σ1 σ' : SState} {tok : STok}
    (h : ruleOf cfg html σ tok = .ok (.reprocessHtml σ1)) (h2 : LoopsTo cfg true σ1 tok σ') : LoopsTo cfg html σ tok σ' := by
  obtain ⟨k0, hk0⟩ := h2
  refine ⟨k0 + 1, fun k' hk => ?_⟩
  obtain ⟨k, rfl⟩ : ∃ k, k' = k + 1 := ⟨k' - 1, by omega⟩
  rw [loopDev_succ, h]
  exact hk0 k (by omega)

/-- with enough fuel, the characters `text` take `σ` to `σ'` -/
def CharsTo (cfg : Config Id) (σ : SState) (text : Str) (σ' : SState) : Prop :=
  ∃ k, ∀ k', k ≤ k' → processCharsDev cfg k' σ text = .ok σ'

theorem CharsTo.nil (cfg : Config Id) (σ : SState) : CharsTo cfg σ [] σ := ⟨0, fun _ _ => rfl⟩

theorem CharsTo.cons {cfg : Config Id} {σ σ1 σ' : SState} {c : Char} {cs : Str}
    (hst : σ.stopped = false) (hlf : σ.ignoreLf = false)
    (h1 : LoopsTo cfg false σ (.character c) σ1) (h2 : CharsTo cfg σ1 cs σ') : CharsTo cfg σ (c :: cs) σ' := by
  obtain ⟨k1, hk1⟩ := h1
  obtain ⟨k2, hk2⟩ := h2
  refine ⟨max k1 k2, fun k' hk => ?_⟩
  simp only [processCharsDev, processSTokDev, hst, hlf, Bool.false_eq_true, if_false]
  rw [hk1 k' (by omega)]
  exact hk2 k' (by omega)

theorem processCharsDev_append (cfg : Config Id) (k : Nat) : ∀ (a : Str) (σ : SState) (b : Str),
    processCharsDev cfg k σ (a ++ b) = processCharsDev cfg k σ a >>= fun σ1 => processCharsDev cfg k σ1 b := by
  intro a
  induction a with
  | nil => intro σ b; rfl
  | cons c cs ih =>
    intro σ b
    simp only [List.cons_append, processCharsDev]
    cases processSTokDev cfg k σ (.character c) with
    | error e => rfl
    | ok σa => exact ih σa b

theorem CharsTo.append {cfg : Config Id} {a : Str} {σ σ1 σ' : SState} {b : Str}
    (h1 : CharsTo cfg σ a σ1) (h2 : CharsTo cfg σ1 b σ') : CharsTo cfg σ (a ++ b) σ' := by
  obtain ⟨k1, hk1⟩ := h1
  obtain ⟨k2, hk2⟩ := h2
  refine ⟨max k1 k2, fun k' hk => ?_⟩
  rw [processCharsDev_append, hk1 k' (by omega)]
  exact hk2 k' (by omega)

/-- the rest of a run of characters, each "done" at once -/
theorem CharsTo.of_rest {cfg : Config Id} : ∀ {text : Str} {σ σ' : SState},
    specCharsRest cfg σ text = .ok σ' → CharsTo cfg σ text σ' := by
  intro text
  induction text with
  | nil =>
    intro σ σ' h
    simp only [specCharsRest, pure, Except.pure] at h
    cases h; exact CharsTo.nil _ _
  | cons c cs ih =>
    intro σ σ' h
    simp only [specCharsRest] at h
    by_cases hb : (σ.stopped || σ.ignoreLf) = true
    · simp [hb, bind, Except.bind, throw, throwThe, MonadExceptOf.throw] at h
    · simp only [hb, Bool.false_eq_true, if_false] at h
      simp only [Bool.or_eq_true, not_or, Bool.not_eq_true] at hb
      cases hd : dispatchDev cfg σ (.character c) with
      | error e => rw [hd] at h; cases h
      | ok r =>
        rw [hd] at h
        cases r with
        | done σ1 =>
          exact CharsTo.cons hb.1 hb.2 (LoopsTo.done (by simpa [ruleOf] using hd)) (ih h)
        | reprocess σ1 => cases h
        | reprocessHtml σ1 => cases h

/-! ### `is_foreign` and the dispatcher -/

/-- a computation that only queries: the tree builder's fields stay, no call is an edit -/
def QShape {α : Type} (m : M α) : Prop := ∀ s, PC m s (fun _ s' calls => SameTB s s' ∧ edits calls = [])

theorem qshape_pure {α : Type} (a : α) : QShape (pure a : M α) := fun s => pc_pure ⟨SameTB.refl s, rfl⟩

theorem qshape_bind {α β : Type} {m : M α} {f : α → M β} (h1 : QShape m) (h2 : ∀ a, QShape (f a)) : QShape (m >>= f) := by
  intro s
  refine pc_seq (h1 s) ?_
  rintro a s1 c1 _ ⟨hs1, hc1⟩
  refine pc_conseq (h2 a s1) ?_
  rintro b s2 c2 _ ⟨hs2, hc2⟩
  exact ⟨hs1.trans hs2, by rw [edits_append, hc1, hc2]; rfl⟩

theorem qshape_getS_bind {β : Type} {f : State → M β} (h : ∀ s0, QShape (f s0)) : QShape (getS >>= f) := by
  intro s
  exact pc_getS_bind (h s s)

theorem qshape_ite {α : Type} {c : Prop} [Decidable c] {a b : M α} (ha : QShape a) (hb : QShape b) :
    QShape (if c then a else b) := by
  split
  · exact ha
  · exact hb

theorem qshape_throw {α : Type} (e : String) : QShape (throw e : M α) := fun _ => pc_throw

theorem qshape_panicAt {α : Type} (c site text : String) : QShape (panicAt c site text : M α) := fun _ => pc_panicAt

theorem qshape_sink {op : SinkOp} (h : isEdit op = false) : QShape (sink op) := by
  intro s
  refine pc_sink ?_
  intro d' out _
  exact ⟨SameTB.afterCall .., by simp [edits, h]⟩

theorem qshape_sinkBool {op : SinkOp} (h : isEdit op = false) : QShape (sinkBool op) := by
  unfold sinkBool
  refine qshape_bind (qshape_sink h) ?_
  intro o
  cases o <;> first | exact qshape_pure _ | exact qshape_throw _

theorem qshape_elemName (h : Id) : QShape (elemName h) := by
  intro s
  refine pc_conseq (PC.of_tot (tot_elemName' s h)) ?_
  rintro _ s' calls _ ⟨-, hs, hc⟩
  exact ⟨hs, hc⟩

theorem qshape_currentNode : QShape currentNode := by
  unfold currentNode
  refine qshape_getS_bind ?_
  intro s0
  cases s0.openElems.getLast? with
  | none => exact qshape_panicAt _ _ _
  | some h => exact qshape_pure _

theorem qshape_adjustedCurrentNode : QShape H5V.Model.HtmlTB.adjustedCurrentNode := by
  unfold H5V.Model.HtmlTB.adjustedCurrentNode
  refine qshape_getS_bind ?_
  intro s0
  split
  · cases s0.contextElem with
    | none => exact qshape_currentNode
    | some c => exact qshape_pure _
  · exact qshape_currentNode

theorem qshape_isForeign (tok : Token) : QShape (isForeign tok) := by
  have hip : ∀ β (k : Bool → M β), (∀ b, QShape (k b)) → QShape (do
      let cur ← H5V.Model.HtmlTB.adjustedCurrentNode
      let b ← sinkBool (.isMathmlAnnotationXmlIntegrationPoint cur)
      k b) := by
    intro β k hk
    exact qshape_bind qshape_adjustedCurrentNode (fun cur => qshape_bind (qshape_sinkBool rfl) hk)
  unfold isForeign
  refine qshape_ite (qshape_pure _) ?_
  refine qshape_getS_bind ?_
  intro s0
  refine qshape_ite (qshape_pure _) ?_
  refine qshape_bind qshape_adjustedCurrentNode ?_
  intro cur
  refine qshape_bind (qshape_elemName cur) ?_
  intro name
  refine qshape_ite (qshape_pure _) ?_
  refine qshape_ite (qshape_pure _) ?_
  refine qshape_ite (qshape_pure _) ?_
  refine qshape_ite ?_ (qshape_pure _)
  split
  · refine qshape_ite (qshape_pure _) ?_
    exact hip _ _ (fun b => qshape_pure _)
  · refine qshape_ite ?_ (qshape_pure _)
    exact hip _ _ (fun b => qshape_pure _)

/-- the standard's token kind of a token of the tree builder (character runs: any of their characters) -/
def skind : Token → Spec.TreeAlgo.TokenKind := HtmlTBSpec.tokKind

theorem tokenKind_stokOf (tok : Token) (h : isCharsTok tok = false) : Spec.TreeModes.tokenKind (stokOf tok) = skind tok := by
  cases tok with
  | chars _ _ => cases h
  | tag t =>
    simp only [stokOf, stokOfTag, skind, HtmlTBSpec.tokKind]
    split <;> rfl
  | _ => rfl

/-- `useHtmlRules` looks at the `encodingHtml` flag of `annotation-xml` elements only -/
theorem useHtmlRules_flag (n : Spec.TreeAlgo.Name) (a b : Bool) (k : Spec.TreeAlgo.TokenKind)
    (h : n = HtmlTBSpec.toName annotName → a = b) :
    Spec.TreeAlgo.useHtmlRules (some ⟨n, a⟩) k = Spec.TreeAlgo.useHtmlRules (some ⟨n, b⟩) k := by
  by_cases hn : n = HtmlTBSpec.toName annotName
  · rw [h hn]
  · have : (n.ns == Spec.TreeAlgo.nsMathml && n.loc == "annotation-xml".toList) = false := by
      cases h1 : n.ns == Spec.TreeAlgo.nsMathml
      · rfl
      · cases h2 : n.loc == "annotation-xml".toList
        · rfl
        · exfalso; apply hn
          rw [beq_iff_eq] at h1 h2
          obtain ⟨ns, loc⟩ := n
          simp only at h1 h2
          subst h1 h2; rfl
    simp only [Spec.TreeAlgo.useHtmlRules, Spec.TreeAlgo.isHtmlIntegrationPoint, this, Bool.false_and]

/-- **the dispatcher**: `is_foreign(token)` answers `false` exactly when the standard says "process the
token according to the rules of the current insertion mode in HTML content" -/
theorem isForeign_value {s : State} (hm : MInv s) (tok : Token) {b : Bool} {s1 : State}
    (hr : (isForeign tok).run s = .ok (b, s1)) (x : Aux) (hlive : x.stopped = false)
    (hann : ∀ h ∈ s.openElems, nameOf s.dom h = annotName → x.annot.contains h = ipOfDom s.dom h) :
    b = !Spec.TreeAlgo.useHtmlRules (Spec.TreeModes.adjustedCurrentNode (cfgOf s) (absF s x)) (skind tok) := by
  have hrun : ∀ a, HtmlTBSpec.Query (isForeign tok) s a → b = a := by
    intro a hq
    obtain ⟨tr', h⟩ := hq s.traceRev
    have : HtmlTBSpec.withTr s s.traceRev = s := rfl
    rw [this, hr] at h
    cases h; rfl
  have hstack : (absF s x).p.stack = absStack s.dom s.openElems := by
    simp only [absF, absP, hlive, Bool.false_eq_true, if_false]
  unfold Spec.TreeModes.adjustedCurrentNode
  rw [hstack]
  cases hl : s.openElems.reverse with
  | nil =>
    have he : s.openElems = [] := by simpa using hl
    rw [hrun false (HtmlTBSpec.isForeign_empty s tok he)]
    simp [he, absStack, Spec.TreeAlgo.adjustedCurrentNode, Spec.TreeAlgo.useHtmlRules]
  | cons top rest =>
    have hmem : top ∈ s.openElems := by
      have : top ∈ s.openElems.reverse := by rw [hl]; simp
      simpa using this
    have hrev : (absStack s.dom s.openElems).reverse = elemOf s.dom top :: rest.map (elemOf s.dom) := by
      unfold absStack; rw [← List.map_reverse, hl]; rfl
    rw [hrev]
    -- the adjusted current node of the model
    have hcase : (rest = [] ∧ ∃ c, s.contextElem = some c) ∨ ¬ (rest = [] ∧ ∃ c, s.contextElem = some c) := Classical.em _
    rcases hcase with ⟨hrest, c, hc⟩ | hno
    · subst hrest
      have hacn : Spec.TreeAlgo.adjustedCurrentNode s.openElems.reverse s.contextElem = some c := by
        rw [hl, hc]; rfl
      have hcel := hm.ctx c hc
      obtain ⟨n, hn⟩ := elemName_of_isElement hcel
      have hq := HtmlTBSpec.isForeign_query s tok c ⟨n.1, n.2⟩ (ipOfDom s.dom c) hacn hn (ip_of_isElement hcel)
      rw [hrun _ hq]
      simp only [cfgOf, hc, Option.map_some, List.map_nil, Spec.TreeAlgo.adjustedCurrentNode, Option.getD_some]
      have : nameOf s.dom c = ⟨n.1, n.2⟩ := by unfold nameOf; rw [hn]
      simp only [elemOf, this]
      rfl
    · have hacn : Spec.TreeAlgo.adjustedCurrentNode s.openElems.reverse s.contextElem = some top := by
        rw [hl]
        cases rest with
        | nil =>
          cases hc : s.contextElem with
          | none => rfl
          | some c => exact absurd ⟨rfl, c, hc⟩ hno
        | cons r rs => rfl
      have htel := hm.elems top hmem
      obtain ⟨n, hn⟩ := elemName_of_isElement htel
      have hq := HtmlTBSpec.isForeign_query s tok top ⟨n.1, n.2⟩ (ipOfDom s.dom top) hacn hn (ip_of_isElement htel)
      rw [hrun _ hq]
      have hname : nameOf s.dom top = ⟨n.1, n.2⟩ := by unfold nameOf; rw [hn]
      have hspec : Spec.TreeAlgo.adjustedCurrentNode
          (List.map (Spec.TreeModes.openElem (absF s x)) (elemOf s.dom top :: rest.map (elemOf s.dom)))
          (Option.map (fun c => ({ name := c.name, encodingHtml := (cfgOf s).contextEncodingHtml } : Spec.TreeAlgo.OpenElem)) (cfgOf s).context)
          = some (Spec.TreeModes.openElem (absF s x) (elemOf s.dom top)) := by
        cases rest with
        | nil =>
          cases hc : s.contextElem with
          | none => simp [cfgOf, hc, Spec.TreeAlgo.adjustedCurrentNode]
          | some c => exact absurd ⟨rfl, c, hc⟩ hno
        | cons r rs => simp [Spec.TreeAlgo.adjustedCurrentNode]
      rw [hspec]
      congr 1
      simp only [Spec.TreeModes.openElem, elemOf, hname]
      apply useHtmlRules_flag
      intro hnm
      have hnn : nameOf s.dom top = annotName := by
        rw [hname]
        have h1 : n.1 = annotName.ns := congrArg Spec.TreeAlgo.Name.ns hnm
        have h2 : n.2 = annotName.loc := congrArg Spec.TreeAlgo.Name.loc hnm
        rw [h1, h2]
      exact (hann top hmem hnn).symm

/-! ### one iteration of `process_to_completion` -/

theorem pc_and_run {α : Type} {m : M α} {s : State} {Q : α → State → List Call → Prop} {R : α → State → Prop}
    (hr : ∀ a s', m.run s = .ok (a, s') → R a s') (h : PC m s Q) : PC m s (fun a s' c => R a s' ∧ Q a s' c) := by
  intro a s' hrun
  obtain ⟨c, he, hq⟩ := h a s' hrun
  exact ⟨c, he, hr a s' hrun, hq⟩

/-- a rule run after a query stretch -/
theorem TokPost.after_query {spec spec' : SState → Spec.TreeModes.M (Step Id)} {s s1 s' : State} {tok : Token}
    {res : ProcessResult} {c1 c2 : List Call} (hm : MInv s) (hs : SameTB s s1) (he : Ext2 s c1 s1) (hc : edits c1 = [])
    (h : TokPost spec' s1 tok res s' c2) (hspec : ∀ x, AuxOk s x → spec (absF s x) = spec' (absF s x)) :
    TokPost spec s tok res s' (c1 ++ c2) := by
  obtain ⟨hres, hminv, hcfg, ids, hfi, f⟩ := h
  refine ⟨hres, hminv, hcfg.trans (cfgOf_of_same hm hs he.ext), ids, hfi.of_dom he.ext, fun x rest hx hsup => ?_⟩
  obtain ⟨x', ops, e, r1, r2, r3, r4, r5, r6, r7⟩ := f x rest (hx.of_same hm hs he.ext) hsup
  rw [absF_of_same x hm hs he.ext] at e
  refine ⟨x', ops, (hspec x hx).trans e, r1, r2, r3, r4, r5, r6, ?_⟩
  intro tc htc
  rw [edits2_append, ← edits2_edits c1, hc]
  exact r7 tc htc

/-- what the dispatcher and the rules do with one non-character token, the "reprocess in HTML
content" of the foreign-content rules carried out -/
def dispatchFull (cfg : Config Id) (σ : SState) (tok : STok) : Spec.TreeModes.M (Step Id) :=
  if Spec.TreeAlgo.useHtmlRules (Spec.TreeModes.adjustedCurrentNode cfg σ) (Spec.TreeModes.tokenKind tok) then byModeDev cfg σ tok
  else foreignFull cfg σ tok

/-- an answer of `dispatchFull` is the answer of the chosen rules, or of the rules of the insertion mode after
the rules for foreign content said "reprocess in HTML content" -/
theorem dispatchFull_ok {cfg : Config Id} {σ : SState} {tok : STok} {r : Step Id} (h : dispatchFull cfg σ tok = .ok r) :
    ruleOf cfg false σ tok = .ok r ∨
      ∃ σa, ruleOf cfg false σ tok = .ok (.reprocessHtml σa) ∧ ruleOf cfg true σa tok = .ok r := by
  unfold dispatchFull at h
  by_cases hu : Spec.TreeAlgo.useHtmlRules (Spec.TreeModes.adjustedCurrentNode cfg σ) (Spec.TreeModes.tokenKind tok) = true
  · rw [if_pos hu] at h
    exact Or.inl (by simp only [ruleOf, dispatchDev, hu, if_true, Bool.false_eq_true, if_false]; exact h)
  · rw [if_neg hu] at h
    have hd : ruleOf cfg false σ tok = Spec.TreeModes.foreign cfg σ tok := by
      simp only [ruleOf, dispatchDev, hu, Bool.false_eq_true, if_false]
    unfold foreignFull at h
    rw [hd]
    cases hf : Spec.TreeModes.foreign cfg σ tok with
    | error e => rw [hf] at h; cases h
    | ok r' =>
      rw [hf] at h
      cases r' with
      | reprocessHtml σa => exact Or.inr ⟨σa, rfl, by simp only [ruleOf, if_true]; exact h⟩
      | _ => cases h; exact Or.inl rfl

theorem LoopsTo.of_full_done {cfg : Config Id} {σ σ' : SState} {tok : STok}
    (h : dispatchFull cfg σ tok = .ok (.done σ')) : LoopsTo cfg false σ tok σ' :=
  (dispatchFull_ok h).elim LoopsTo.done fun ⟨_, h1, h2⟩ => LoopsTo.reprocessHtml h1 (LoopsTo.done h2)

theorem LoopsTo.of_full_reprocess {cfg : Config Id} {σ σ1 σ' : SState} {tok : STok}
    (h : dispatchFull cfg σ tok = .ok (.reprocess σ1)) (h2 : LoopsTo cfg false σ1 tok σ') : LoopsTo cfg false σ tok σ' :=
  (dispatchFull_ok h).elim (LoopsTo.reprocess · h2) fun ⟨_, h1, h3⟩ => LoopsTo.reprocessHtml h1 (LoopsTo.reprocess h3 h2)

/-- the body of an iteration -/
def ptcStep (tok : Token) : M ProcessResult := do
  if ← isForeign tok then stepForeign tok
  else step (← getS).mode tok

theorem isForeign_eof_false {s s1 : State} {b : Bool} (h : (isForeign .eof).run s = .ok (b, s1)) : b = false := by
  rw [TBSafe.isForeign_eof] at h; cases h; rfl

/-- **one iteration on a non-character token** -/
theorem pc_ptcStep_tok (hmode : ∀ m, ModeSim m) (hfor : ForeignSim) (tok : Token) (hch : isCharsTok tok = false)
    (hwf : TokWf tok) (s : State) (ht : TI s) (hm : MInv s) (hprot : s.mode = .text → textTok tok = true) :
    PC (ptcStep tok) s (fun res s' calls => TBSafe.StepPost tok res s' ∧
      TokPost (fun σ => dispatchFull (cfgOf s) σ (stokOf tok)) s tok res s' calls) := by
  unfold ptcStep
  refine pc_seq (pc_with_run (qshape_isForeign tok s)) ?_
  rintro b s1 c1 he1 ⟨⟨hs1, hc1⟩, hrun⟩
  obtain ⟨hq, hb⟩ := ((@H5V.Props.C04TB.sat_iff H5V.Props.C04TB.allowAll _ _ _ _).mp (@TBSafe.sat_isForeign H5V.Props.C04TB.allowAll tok s ht.h)).1 b s1 hrun
  have ht1 : TI s1 := ht.of_qf hq
  have hval := fun x (hx : AuxOk s x) => isForeign_value hm tok hrun x hx.live hx.annot
  cases b with
  | true =>
    simp only [if_true]
    have hne : tok ≠ .eof := by
      intro h; subst h
      exact absurd (isForeign_eof_false hrun) (by simp)
    obtain ⟨c, hc, hns⟩ := hb rfl
    have hf1 : ForeignTop s1 := by
      refine ⟨c, ?_, ?_⟩
      · unfold TBSafe.adjNode at hc ⊢
        rw [hq.openElems, hq.contextElem]; exact hc
      · rw [TBSafe.nm_ext hq.ext (TBSafe.adjNode_el ht.h hc)]; exact hns
    refine pc_conseq (pc_and_run ((@H5V.Props.C04TB.sat_iff H5V.Props.C04TB.allowAll _ _ _ _).mp (@TBSafe.sat_stepForeign H5V.Props.C04TB.allowAll H5V.Props.C04TB.allSpec tok s1 ht1 hf1 hne)).1
      (hfor tok hch hne hwf s1 ht1 (hm.sameTB hs1 he1.ext) hf1)) ?_
    rintro res s' c2 _ ⟨hsp, hpost⟩
    refine ⟨hsp, TokPost.after_query hm hs1 he1 hc1 hpost ?_⟩
    intro x hx
    have := hval x hx
    rw [← tokenKind_stokOf tok hch] at this
    have hu : Spec.TreeAlgo.useHtmlRules (Spec.TreeModes.adjustedCurrentNode (cfgOf s) (absF s x)) (Spec.TreeModes.tokenKind (stokOf tok)) = false := by
      cases h : Spec.TreeAlgo.useHtmlRules (Spec.TreeModes.adjustedCurrentNode (cfgOf s) (absF s x)) (Spec.TreeModes.tokenKind (stokOf tok))
      · rfl
      · rw [h] at this; cases this
    simp only [dispatchFull, hu, Bool.false_eq_true, if_false, cfgOf_of_same hm hs1 he1.ext]
  | false =>
    simp only [Bool.false_eq_true, if_false]
    refine pc_getS_bind ?_
    have hprot1 : s1.mode = .text → textTok tok = true := by rw [hq.mode]; exact hprot
    refine pc_conseq (pc_and_run (@H5V.Props.C04TB.C04_tb_no_panic_step H5V.Props.C04TB.allowAll s1 tok ht1 (fun _ => Or.inl trivial)).1
      (hmode s1.mode tok hch hwf s1 ht1 (hm.sameTB hs1 he1.ext) rfl (fun h => hprot1 h))) ?_
    rintro res s' c2 _ ⟨hsp, hpost⟩
    refine ⟨hsp, TokPost.after_query hm hs1 he1 hc1 hpost ?_⟩
    intro x hx
    have := hval x hx
    rw [← tokenKind_stokOf tok hch] at this
    have hu : Spec.TreeAlgo.useHtmlRules (Spec.TreeModes.adjustedCurrentNode (cfgOf s) (absF s x)) (Spec.TreeModes.tokenKind (stokOf tok)) = true := by
      cases h : Spec.TreeAlgo.useHtmlRules (Spec.TreeModes.adjustedCurrentNode (cfgOf s) (absF s x)) (Spec.TreeModes.tokenKind (stokOf tok))
      · rw [h] at this; cases this
      · rfl
    simp only [dispatchFull, hu, if_true, cfgOf_of_same hm hs1 he1.ext]

theorem Tr.after_query {s s1 s' : State} {c1 c2 : List Call} {R : Aux → Aux → Prop} (hm : MInv s) (hs : SameTB s s1)
    (he : Ext2 s c1 s1) (hc : edits c1 = []) (h : Tr s1 s' c2 R) :
    Tr s s' (c1 ++ c2) (fun x x' => R x x' ∧ absF s x = absF s1 x ∧ AuxOk s1 x) := by
  refine ((Tr.of_same hm hs he (by rw [← edits2_edits, hc]; rfl)).trans h).conseq ?_
  rintro x x' hx _ ⟨x1, ⟨h1, h2⟩, h3⟩
  subst x1
  exact ⟨h3, h2, hx.of_same hm hs he.ext⟩

theorem specChars_congr (cfg : Config Id) {rule rule' : SState → STok → Spec.TreeModes.M (Step Id)} (σ : SState) (text : Str)
    (h : ∀ c, rule σ (.character c) = rule' σ (.character c)) : specChars cfg rule σ text = specChars cfg rule' σ text := by
  cases text with
  | nil => rfl
  | cons c cs => simp only [specChars, h c]

theorem CharsPost.after_query {rule rule' : SState → STok → Spec.TreeModes.M (Step Id)} {s s1 s' : State} {st : SplitStatus}
    {text : Str} {res : ProcessResult} {c1 c2 : List Call} (hm : MInv s) (hs : SameTB s s1) (he : Ext2 s c1 s1)
    (hc : edits c1 = []) (h : CharsPost rule' s1 st text res s' c2)
    (hrule : ∀ x, AuxOk s x → ∀ c, rule (absF s x) (.character c) = rule' (absF s x) (.character c)) :
    CharsPost rule s st text res s' (c1 ++ c2) := by
  have hcfg := cfgOf_of_same hm hs he.ext
  have hlf : s1.ignoreLf = s.ignoreLf := hs.fields.ignoreLf
  cases res with
  | done =>
    obtain ⟨h1, h2⟩ := h
    refine ⟨h1.trans hlf, (Tr.after_query hm hs he hc h2).conseq ?_⟩
    rintro x x' hx _ ⟨r, e, _⟩
    rw [← hcfg, e, specChars_congr (cfgOf s1) (absF s1 x) text (fun c => e ▸ hrule x hx c)]
    exact r
  | splitWhitespace t =>
    obtain ⟨h1, h2, h2', h3⟩ := h
    refine ⟨h1, h2, h2'.trans hlf, (Tr.after_query hm hs he hc h3).conseq ?_⟩
    rintro x x' hx _ ⟨⟨r1, r2⟩, e, _⟩
    exact ⟨r1, e.trans r2⟩
  | reprocess m t =>
    obtain ⟨h1, h2, c, cs, h3, h4⟩ := h
    refine ⟨h1, h2.trans hlf, c, cs, h3, (Tr.after_query hm hs he hc h4).conseq ?_⟩
    rintro x x' hx _ ⟨r, e, _⟩
    rw [hrule x hx c, e]; exact r
  | _ => exact h.elim

/-- **one iteration on a run of characters** -/
theorem pc_ptcStep_chars (hchar : ∀ m, ModeCharSim m) (hfor : ForeignCharSim) (st : SplitStatus) (text : Str)
    (hwf : TokWf (.chars st text)) (s : State) (ht : TI s) (hm : MInv s) (hlf : s.ignoreLf = false) :
    PC (ptcStep (.chars st text)) s (fun res s' calls => TBSafe.StepPost (.chars st text) res s' ∧
      CharsPost (dispatchDev (cfgOf s)) s st text res s' calls) := by
  unfold ptcStep
  refine pc_seq (pc_with_run (qshape_isForeign _ s)) ?_
  rintro b s1 c1 he1 ⟨⟨hs1, hc1⟩, hrun⟩
  obtain ⟨hq, hb⟩ := ((@H5V.Props.C04TB.sat_iff H5V.Props.C04TB.allowAll _ _ _ _).mp (@TBSafe.sat_isForeign H5V.Props.C04TB.allowAll _ s ht.h)).1 b s1 hrun
  have ht1 : TI s1 := ht.of_qf hq
  have hval := fun x (hx : AuxOk s x) => isForeign_value hm _ hrun x hx.live hx.annot
  have hlf1 : s1.ignoreLf = false := by rw [hs1.fields.ignoreLf]; exact hlf
  cases b with
  | true =>
    simp only [if_true]
    obtain ⟨c, hc, hns⟩ := hb rfl
    have hf1 : ForeignTop s1 := by
      refine ⟨c, ?_, ?_⟩
      · unfold TBSafe.adjNode at hc ⊢
        rw [hq.openElems, hq.contextElem]; exact hc
      · rw [TBSafe.nm_ext hq.ext (TBSafe.adjNode_el ht.h hc)]; exact hns
    refine pc_conseq (pc_and_run ((@H5V.Props.C04TB.sat_iff H5V.Props.C04TB.allowAll _ _ _ _).mp (@TBSafe.sat_stepForeign H5V.Props.C04TB.allowAll H5V.Props.C04TB.allSpec _ s1 ht1 hf1 (by intro h; cases h))).1
      (hfor st text hwf s1 ht1 (hm.sameTB hs1 he1.ext) hf1 hlf1 ?_)) ?_
    · intro x hx1
      have hann : ∀ h ∈ s.openElems, nameOf s.dom h = annotName → x.annot.contains h = ipOfDom s.dom h := by
        intro h hh hn
        have hh1 : h ∈ s1.openElems := by rw [hs1.openElems]; exact hh
        rw [hx1.annot h hh1 (by rw [nameOf_ext he1.ext (hm.elems h hh)]; exact hn), ipOfDom_ext he1.ext (hm.elems h hh)]
      have := isForeign_value hm _ hrun x hx1.live hann
      rw [absF_of_same x hm hs1 he1.ext, cfgOf_of_same hm hs1 he1.ext]
      cases h : Spec.TreeAlgo.useHtmlRules (Spec.TreeModes.adjustedCurrentNode (cfgOf s) (absF s x)) .character
      · rfl
      · rw [show skind (Token.chars st text) = .character from rfl, h] at this; cases this
    rintro res s' c2 _ ⟨hsp, hpost⟩
    refine ⟨hsp, CharsPost.after_query hm hs1 he1 hc1 hpost ?_⟩
    intro x hx ch
    have := hval x hx
    have hu : Spec.TreeAlgo.useHtmlRules (Spec.TreeModes.adjustedCurrentNode (cfgOf s) (absF s x)) .character = false := by
      cases h : Spec.TreeAlgo.useHtmlRules (Spec.TreeModes.adjustedCurrentNode (cfgOf s) (absF s x)) .character
      · rfl
      · rw [show skind (Token.chars st text) = .character from rfl, h] at this; cases this
    simp only [dispatchDev, Spec.TreeModes.tokenKind, hu, Bool.false_eq_true, if_false, cfgOf_of_same hm hs1 he1.ext]
  | false =>
    simp only [Bool.false_eq_true, if_false]
    refine pc_getS_bind ?_
    refine pc_conseq (pc_and_run (@H5V.Props.C04TB.C04_tb_no_panic_step H5V.Props.C04TB.allowAll s1 _ ht1 (fun _ => Or.inl trivial)).1
      (hchar s1.mode st text hwf s1 ht1 (hm.sameTB hs1 he1.ext) rfl hlf1 ?_)) ?_
    · intro x hx1
      have hann : ∀ h ∈ s.openElems, nameOf s.dom h = annotName → x.annot.contains h = ipOfDom s.dom h := by
        intro h hh hn
        have hh1 : h ∈ s1.openElems := by rw [hs1.openElems]; exact hh
        rw [hx1.annot h hh1 (by rw [nameOf_ext he1.ext (hm.elems h hh)]; exact hn), ipOfDom_ext he1.ext (hm.elems h hh)]
      have := isForeign_value hm _ hrun x hx1.live hann
      rw [absF_of_same x hm hs1 he1.ext, cfgOf_of_same hm hs1 he1.ext]
      cases h : Spec.TreeAlgo.useHtmlRules (Spec.TreeModes.adjustedCurrentNode (cfgOf s) (absF s x)) .character
      · rw [show skind (Token.chars st text) = .character from rfl, h] at this; cases this
      · rfl
    rintro res s' c2 _ ⟨hsp, hpost⟩
    refine ⟨hsp, CharsPost.after_query hm hs1 he1 hc1 hpost ?_⟩
    intro x hx ch
    have := hval x hx
    have hu : Spec.TreeAlgo.useHtmlRules (Spec.TreeModes.adjustedCurrentNode (cfgOf s) (absF s x)) .character = true := by
      cases h : Spec.TreeAlgo.useHtmlRules (Spec.TreeModes.adjustedCurrentNode (cfgOf s) (absF s x)) .character
      · rw [show skind (Token.chars st text) = .character from rfl, h] at this; cases this
      · rfl
    simp only [dispatchDev, Spec.TreeModes.tokenKind, hu, if_true, cfgOf_of_same hm hs1 he1.ext]

/-! ### stretches at the level of the driver -/

/-- as `Link`, without the tokenizer answers, and `AuxOk` only as long as "stop parsing" was not reached -/
structure DLink (s : State) (x : Aux) (s' : State) (x' : Aux) (calls : List Call) (rest : List Id) : Prop where
  aux : x'.stopped = false → AuxOk s' x'
  supply : x'.supply = rest
  outs : x'.outs = x.outs
  log : ∃ ops, x'.fullLog = x.fullLog ++ ops ∧
    ∀ tc, TcOk s'.dom tc → flatCalls (edits2 calls) = flatCalls (ops.map (opCall tc))

def DTr (s s' : State) (calls : List Call) (R : Aux → Aux → Prop) : Prop :=
  cfgOf s' = cfgOf s ∧ TBSafe.Ext s.dom s'.dom ∧
    ∃ ids, FreshIds s ids ∧ ∀ x rest, AuxOk s x → x.supply = ids ++ rest → ∃ x', DLink s x s' x' calls rest ∧ R x x'

theorem DTr.conseq {s s' : State} {c : List Call} {R R' : Aux → Aux → Prop} (h : DTr s s' c R)
    (hr : ∀ x x', AuxOk s x → R x x' → R' x x') : DTr s s' c R' := by
  obtain ⟨hc, he, ids, hfi, f⟩ := h
  refine ⟨hc, he, ids, hfi, fun x rest hx hs => ?_⟩
  obtain ⟨x', l, r⟩ := f x rest hx hs
  exact ⟨x', l, hr x x' hx r⟩

/-- the node ids taken along a driver stretch are fresh -/
theorem DTr.withFresh {s s' : State} {c : List Call} {R : Aux → Aux → Prop} (h : DTr s s' c R) :
    DTr s s' c (fun x x' => R x x' ∧ FreshSup s x x') := by
  obtain ⟨hc, he, ids, hfi, f⟩ := h
  refine ⟨hc, he, ids, hfi, fun x rest hx hs => ?_⟩
  obtain ⟨x', l, r⟩ := f x rest hx hs
  refine ⟨x', l, r, ?_⟩
  intro used hu
  rw [hs, l.supply] at hu
  rw [← List.append_cancel_right hu]
  exact hfi

theorem DTr.of_tr {s s' : State} {c : List Call} {R : Aux → Aux → Prop} (h : Tr s s' c R) :
    DTr s s' c (fun x x' => R x x' ∧ AuxOk s' x' ∧ x'.out.switch = x.out.switch ∧ x'.out.script = x.out.script) := by
  obtain ⟨_, hc, he, ids, hfi, f⟩ := h
  refine ⟨hc, he, ids, hfi, fun x rest hx hs => ?_⟩
  obtain ⟨x', l, r⟩ := f x rest hx hs
  exact ⟨x', ⟨fun _ => l.aux, l.supply, l.outs, l.log⟩, r, l.aux, l.switch, l.script⟩

theorem applyRes_dom (res : ProcessResult) (s : State) : (applyRes res s).dom = s.dom := by cases res <;> rfl

theorem cfgOf_applyRes (res : ProcessResult) (s : State) : cfgOf (applyRes res s) = cfgOf s := by cases res <;> rfl

theorem DTr.of_tokPost {spec : SState → Spec.TreeModes.M (Step Id)} {s s' : State} {tok : Token} {res : ProcessResult}
    {c : List Call} (he : TBSafe.Ext s.dom s'.dom) (h : TokPost spec s tok res s' c) :
    DTr s (applyRes res s') c (fun x x' => spec (absF s x) = .ok (stepOf res s' x') ∧ OutRel res x.out x'.out ∧
      (x'.stopped = true → res = .done ∧ tok = .eof) ∧ FreshSup s x x') := by
  obtain ⟨_, _, hc, ids, hfi, f⟩ := h
  refine ⟨by rw [cfgOf_applyRes]; exact hc, by rw [applyRes_dom]; exact he, ids, hfi, fun x rest hx hs => ?_⟩
  obtain ⟨x', ops, e, r1, r2, r3, r4, r5, r6, r7⟩ := f x rest hx hs
  refine ⟨x', ⟨r1, r3, r5, ops, r6, by rw [applyRes_dom]; exact r7⟩, e, r4, r2, ?_⟩
  intro used hu
  rw [hs, r3] at hu
  rw [← List.append_cancel_right hu]
  exact hfi

theorem DTr.trans {s s1 s2 : State} {c1 c2 : List Call} {R1 R2 : Aux → Aux → Prop}
    (h1 : DTr s s1 c1 R1) (hlive : ∀ x x1, R1 x x1 → x1.stopped = false) (h2 : DTr s1 s2 c2 R2) :
    DTr s s2 (c1 ++ c2) (fun x x2 => ∃ x1, R1 x x1 ∧ AuxOk s1 x1 ∧ R2 x1 x2) := by
  obtain ⟨hc1, he1, ids1, hfi1, f1⟩ := h1
  obtain ⟨hc2, he2, ids2, hfi2, f2⟩ := h2
  refine ⟨hc2.trans hc1, he1.trans he2, ids1 ++ ids2, hfi1.append (hfi2.of_dom he1), ?_⟩
  intro x rest hx hs
  obtain ⟨x1, l1, r1⟩ := f1 x (ids2 ++ rest) hx (by rw [hs, List.append_assoc])
  have hx1 := l1.aux (hlive x x1 r1)
  obtain ⟨x2, l2, r2⟩ := f2 x1 rest hx1 l1.supply
  refine ⟨x2, ⟨l2.aux, l2.supply, l2.outs.trans l1.outs, ?_⟩, x1, r1, hx1, r2⟩
  obtain ⟨o1, e1, k1⟩ := l1.log
  obtain ⟨o2, e2, k2⟩ := l2.log
  refine ⟨o1 ++ o2, by rw [e2, e1, List.append_assoc], ?_⟩
  intro tc htc
  rw [edits2_append, flatCalls_append, List.map_append, flatCalls_append, k1 tc (tcOk_of_ext htc he2), k2 tc htc]

/-- a query stretch (parse error, …) after a driver stretch -/
theorem DTr.then_same {s s1 s2 : State} {c1 c2 : List Call} {R : Aux → Aux → Prop} (h : DTr s s1 c1 R) (hm : MInv s1)
    (hs : SameTB s1 s2) (he : Ext2 s1 c2 s2) (hc : edits c2 = []) :
    DTr s s2 (c1 ++ c2) (fun x x' => R x x' ∧ absF s2 x' = absF s1 x') := by
  obtain ⟨hc1, he1, ids, hfi, f⟩ := h
  refine ⟨(cfgOf_of_same hm hs he.ext).trans hc1, he1.trans he.ext, ids, hfi, fun x rest hx hsup => ?_⟩
  obtain ⟨x', l, r⟩ := f x rest hx hsup
  refine ⟨x', ⟨fun h => (l.aux h).of_same hm hs he.ext, l.supply, l.outs, ?_⟩, r, absF_of_same x' hm hs he.ext⟩
  obtain ⟨o1, e1, k1⟩ := l.log
  refine ⟨o1, e1, fun tc htc => ?_⟩
  rw [edits2_append, ← edits2_edits c2, hc, edits2_nil, List.append_nil]
  exact k1 tc (tcOk_of_ext htc he.ext)

/-! ### `process_to_completion` on a non-character token -/

/-- the answer of `process_to_completion` and the tokenizer answers of the specification -/
def OutRelR : SinkResult → Out Id → Out Id → Prop
  | .script node, o, o' => o'.script = some node ∧ o'.switch = o.switch
  | .plaintext, o, o' => o'.switch = some .plaintext ∧ o'.script = o.script
  | .rawData k, o, o' => o'.switch = some (rawSwitch k) ∧ o'.script = o.script
  | _, o, o' => o'.switch = o.switch ∧ o'.script = o.script

theorem OutRelR.of_same {r : SinkResult} {o o1 o2 : Out Id} (h1 : o1.switch = o.switch) (h2 : o1.script = o.script)
    (h : OutRelR r o1 o2) : OutRelR r o o2 := by
  cases r <;> simp only [OutRelR] at h ⊢ <;> simp_all

/-- what is threaded through the steps of one tag token: from a good abstract state, the UNMODIFIED specification's
loop arrives at the same abstract state, which satisfies the invariant (`H5V.Lemmas.ModesInv.GStep`) -/
def GS (s : State) (x : Aux) (tok : STok) (s' : State) (x' : Aux) : Prop :=
  H5V.Lemmas.ModesInv.GStep (cfgOf s) false (absF s x) tok (absF s' x')

/-- the facts of `HtmlTBModesInvModel` for the abstract state of `s` -/
theorem side_absF {s : State} {x x' : Aux} (ht : TI s) (hm : MInv s) (hx : AuxOk s x) (hf : FreshSup s x x') (tok : STok)
    {sup' : List Id} (hs : sup' = x'.supply) : Side (cfgOf s) (absF s x) tok sup' :=
  ⟨fun _ => link_absF ht hx, fun _ => by rw [hs]; exact freshL_absF hm hx hf, textHtml_absF ht hx tok⟩

theorem gs_done {s s' : State} {x x' : Aux} {tok : STok} (ht : TI s) (hm : MInv s) (hx : AuxOk s x) (hf : FreshSup s x x')
    (e : dispatchFull (cfgOf s) (absF s x) tok = .ok (.done (absF s' x'))) : GS s x tok s' x' := by
  intro hst hg
  obtain ⟨hp, h1, _⟩ := full_post (cfgOf_edition s) hg hst (side_absF ht hm hx hf tok rfl) e
  exact ⟨hp, h1 _ rfl⟩

theorem gs_reprocess {s s1 s' : State} {x x1 x' : Aux} {tok : STok} (ht : TI s) (hm : MInv s) (hx : AuxOk s x)
    (hf : FreshSup s x x1) (e : dispatchFull (cfgOf s) (absF s x) tok = .ok (.reprocess (absF s1 x1)))
    (hc : cfgOf s1 = cfgOf s) (h2 : GS s1 x1 tok s' x') : GS s x tok s' x' := by
  intro hst hg
  obtain ⟨hp, _, h3⟩ := full_post (cfgOf_edition s) hg hst (side_absF ht hm hx hf tok rfl) e
  obtain ⟨hst1, hg1⟩ : (absF s1 x1).stopped = false ∧ H5V.Lemmas.ModesInv.Good (absF s1 x1) := hp
  unfold GS at h2
  rw [hc] at h2
  obtain ⟨hi, hl⟩ := h2 hst1 hg1
  exact ⟨hi, h3 _ _ rfl hl⟩

def PtcTokPost (s : State) (tok : Token) : SinkResult → State → List Call → Prop :=
  fun r s' calls => TI s' ∧ MInv s' ∧ DTr s s' calls (fun x x' => OutRelR r x.out x'.out ∧
    LoopsTo (cfgOf s) false (absF s x) (stokOf tok) (absF s' x') ∧ (x'.stopped = true → tok = .eof) ∧
    GS s x (stokOf tok) s' x')

theorem ptc_succ (fuel : Nat) (tok : Token) (more : List Token) :
    processToCompletion (fuel + 1) tok more = ptcStep tok >>= TBSafe.ptcCont fuel tok more := by
  rw [TBSafe.processToCompletion_succ]
  unfold ptcStep
  rw [bind_assoc]
  congr 1
  funext b
  cases b <;> simp only [bind_assoc, if_true, Bool.false_eq_true, if_false]

theorem ptcNext_nil (fuel : Nat) : TBSafe.ptcNext fuel [] = pure .continue_ := rfl

theorem pc_ptc_tok (hmode : ∀ m, ModeSim m) (hfor : ForeignSim) (tok : Token) (hch : isCharsTok tok = false)
    (hwf : TokWf tok) : ∀ (fuel : Nat) (s : State), TI s → MInv s → (s.mode = .text → textTok tok = true) →
    PC (processToCompletion fuel tok []) s (PtcTokPost s tok) := by
  intro fuel
  induction fuel with
  | zero => intro s _ _ _; unfold processToCompletion; exact pc_fuelOut
  | succ fuel ih =>
    intro s ht hm hprot
    rw [ptc_succ]
    refine pc_seq (pc_ptcStep_tok hmode hfor tok hch hwf s ht hm hprot) ?_
    rintro res s1 c1 he1 ⟨hsp, hpost⟩
    have hd := DTr.of_tokPost he1.ext hpost
    have hm1 : MInv (applyRes res s1) := hpost.2.1
    -- the cases that end the token at once
    have hfin : ∀ (r : SinkResult), (∀ o o', OutRel res o o' → OutRelR r o o') →
        stepOf res s1 = (fun x' => Step.done (absF s1 x')) → applyRes res s1 = s1 → TI s1 →
        PtcTokPost s tok r s1 (c1 ++ []) := by
      intro r hor hstep happ ht1
      rw [List.append_nil]
      rw [happ] at hd
      have hm1' := hm1
      rw [happ] at hm1'
      refine ⟨ht1, hm1', hd.conseq ?_⟩
      rintro x x' hx ⟨e, ho, hst, hfs⟩
      rw [hstep] at e
      exact ⟨hor _ _ ho, LoopsTo.of_full_done e, fun h => (hst h).2, gs_done ht hm hx hfs e⟩
    unfold TBSafe.ptcCont
    cases res with
    | done =>
      dsimp only
      have ht1 : TI s1 := ⟨hsp.h, hsp.s⟩
      have hack : ∀ (c : Bool), PC (if c = true then do
            parseError "Unacknowledged self-closing tag"
            TBSafe.ptcNext fuel []
          else TBSafe.ptcNext fuel []) s1 (fun r s2 c2 => PtcTokPost s tok r s2 (c1 ++ c2)) := by
        intro c
        split
        · refine pc_seq (PC.of_tot (tot_parseError s1 _)) ?_
          rintro _ s2 c2 he2 ⟨-, hs2, hc2⟩
          rw [ptcNext_nil]
          refine pc_pure ?_
          rw [List.append_nil]
          have hd' : DTr s s1 c1 _ := hd
          refine ⟨ht1.of_qf (qf_of_same hs2 he2), MInv.sameTB (s := s1) hm1 hs2 he2.ext, (hd'.then_same hm1 hs2 he2 hc2).conseq ?_⟩
          · rintro x x' hx ⟨⟨e, ho, hst, hfs⟩, e2⟩
            have hgs : GS s x (stokOf tok) s2 x' := by
              unfold GS; rw [e2]; exact gs_done (s' := s1) ht hm hx hfs e
            rw [e2]
            exact ⟨ho, LoopsTo.of_full_done e, fun h => (hst h).2, hgs⟩
        · rw [ptcNext_nil]
          exact pc_pure (hfin .continue_ (fun _ _ h => h) rfl rfl ht1)
      exact hack _
    | doneAckSelfClosing =>
      dsimp only
      exact pc_pure (hfin .continue_ (fun _ _ h => h) rfl rfl ⟨hsp.h, hsp.s⟩)
    | reprocess m t =>
      dsimp only
      have htt : t = tok := hsp.r.1
      subst htt
      have ht2 : TI { s1 with mode := m } := ⟨hsp.h.withMode m, hsp.s.withMode m⟩
      unfold H5V.Model.HtmlTB.setMode
      refine pc_bind (pc_modS rfl rfl ?_)
      refine pc_conseq (ih _ ht2 hm1 (fun h => absurd h hsp.r.2)) ?_
      rintro r s2 c2 he2 ⟨ht3, hm3, hd2⟩
      rw [List.nil_append]
      have hd' : DTr s { s1 with mode := m } c1 _ := hd
      refine ⟨ht3, hm3, (hd'.trans ?_ hd2).conseq ?_⟩
      · rintro x x1 ⟨_, _, hst, _⟩
        cases h : x1.stopped
        · rfl
        · cases (hst h).1
      · rintro x x2 hx ⟨x1, ⟨e, ho, _, hfs⟩, _, ho2, hl2, hst2, hg2⟩
        have hc : cfgOf { s1 with mode := m } = cfgOf s := hd'.1
        refine ⟨OutRelR.of_same ho.1 ho.2 ho2, LoopsTo.of_full_reprocess e ?_, hst2, gs_reprocess ht hm hx hfs e hc hg2⟩
        rw [hc] at hl2
        exact hl2
    | reprocessForeign t => exact absurd hsp.r id
    | splitWhitespace buf => exact absurd hpost.1 id
    | script node =>
      dsimp only
      exact pc_pure (hfin (.script node) (fun _ _ h => h) rfl rfl ⟨hsp.h, hsp.s⟩)
    | toPlaintext =>
      dsimp only
      exact pc_pure (hfin .plaintext (fun _ _ h => h) rfl rfl ⟨hsp.h, hsp.s⟩)
    | toRawData k =>
      dsimp only
      exact pc_pure (hfin (.rawData k) (fun _ _ h => h) rfl rfl ⟨hsp.h, hsp.s⟩)
    | encodingIndicator e =>
      exact pc_pure (hfin (.encodingIndicator e) (fun _ _ h => h) rfl rfl ⟨hsp.h, hsp.s⟩)

/-! ### `process_to_completion` on a run of characters -/

theorem mem_takeWhile' {α : Type} {p : α → Bool} : ∀ {l : List α} {a : α}, a ∈ l.takeWhile p → a ∈ l ∧ p a = true
  | [], _, h => by simp at h
  | b :: l, a, h => by
    by_cases hb : p b = true
    · rw [List.takeWhile_cons, if_pos hb] at h
      rcases List.mem_cons.mp h with h | h
      · subst h; exact ⟨List.mem_cons_self, hb⟩
      · obtain ⟨h1, h2⟩ := mem_takeWhile' h
        exact ⟨List.mem_cons_of_mem _ h1, h2⟩
    · rw [List.takeWhile_cons, if_neg hb] at h; simp at h

theorem mem_dropWhile' {α : Type} {p : α → Bool} : ∀ {l : List α} {a : α}, a ∈ l.dropWhile p → a ∈ l
  | [], _, h => by simp at h
  | b :: l, a, h => by
    by_cases hb : p b = true
    · rw [List.dropWhile_cons, if_pos hb] at h
      exact List.mem_cons_of_mem _ (mem_dropWhile' h)
    · rw [List.dropWhile_cons, if_neg hb] at h; exact h

theorem popFrontCharRun_spec {text : Str} (hne : text ≠ []) (hnul : '\x00' ∉ text) :
    ∃ first isWs rest, popFrontCharRun text = some (first, isWs, rest) ∧ text = first ++ rest ∧
      TokWf (.chars (if isWs then SplitStatus.whitespace else .notWhitespace) first) ∧ '\x00' ∉ rest := by
  cases text with
  | nil => exact absurd rfl hne
  | cons c t =>
    refine ⟨_, _, _, rfl, (List.takeWhile_append_dropWhile).symm, ⟨?_, ?_, ?_⟩, ?_⟩
    · simp
    · intro h; exact hnul (mem_takeWhile' h).1
    · have hall : ∀ d ∈ (c :: t).takeWhile (fun d => isAsciiWhitespace d == isAsciiWhitespace c),
          isAsciiWhitespace d = isAsciiWhitespace c := by
        intro d hd
        have := (mem_takeWhile' hd).2
        simpa using this
      generalize hw : isAsciiWhitespace c = w at hall
      cases w
      · simp only [Bool.false_eq_true, if_false, ClassOk]
        intro d hd; exact hall d hd
      · simp only [if_true, ClassOk]
        intro d hd; exact hall d hd
    · intro h; exact hnul (mem_dropWhile' h)

def moreText : List Token → Str
  | [] => []
  | .chars _ t :: rest => t ++ moreText rest
  | _ :: rest => moreText rest

/-- `more_tokens` holds at most the unsplit rest of the text -/
def MoreOk2 (st : SplitStatus) (more : List Token) : Prop :=
  more = [] ∨ (st ≠ .notSplit ∧ ∃ rest, more = [.chars .notSplit rest] ∧ TokWf (.chars .notSplit rest))

def PtcCharsPost (s : State) (text moreTxt : Str) : SinkResult → State → List Call → Prop :=
  fun r s' calls => r = .continue_ ∧ TI s' ∧ MInv s' ∧ s'.ignoreLf = false ∧ DTr s s' calls (fun x x' =>
    AuxOk s' x' ∧ x'.out.switch = x.out.switch ∧ x'.out.script = x.out.script ∧
    ∃ c cs σ1, text = c :: cs ∧ LoopsTo (cfgOf s) false (absF s x) (.character c) σ1 ∧
      CharsTo (cfgOf s) σ1 (cs ++ moreTxt) (absF s' x'))

/-- a finished run on the side of the specification -/
theorem charsTo_of_specChars {cfg : Config Id} {σ σ' : SState} {c : Char} {cs : Str}
    (h : specChars cfg (dispatchDev cfg) σ (c :: cs) = .ok σ') :
    ∃ σ1, LoopsTo cfg false σ (.character c) σ1 ∧ CharsTo cfg σ1 cs σ' := by
  simp only [specChars] at h
  cases hd : dispatchDev cfg σ (.character c) with
  | error e => rw [hd] at h; cases h
  | ok r =>
    rw [hd] at h
    cases r with
    | done σ1 => exact ⟨σ1, LoopsTo.done (by simpa [ruleOf] using hd), CharsTo.of_rest h⟩
    | reprocess σ1 => cases h
    | reprocessHtml σ1 => cases h

theorem pc_ptc_chars (hchar : ∀ m, ModeCharSim m) (hfor : ForeignCharSim) :
    ∀ (fuel : Nat) (st : SplitStatus) (text : Str) (more : List Token) (s : State),
    TokWf (.chars st text) → MoreOk2 st more → TI s → MInv s → s.ignoreLf = false →
    PC (processToCompletion fuel (.chars st text) more) s (PtcCharsPost s text (moreText more)) := by
  intro fuel
  induction fuel with
  | zero => intro st text more s _ _ _ _ _; unfold processToCompletion; exact pc_fuelOut
  | succ fuel ih =>
    intro st text more s hwf hmo ht hm hlf
    rw [ptc_succ]
    refine pc_seq (pc_ptcStep_chars hchar hfor st text hwf s ht hm hlf) ?_
    rintro res s1 c1 he1 ⟨hsp, hpost⟩
    unfold TBSafe.ptcCont
    cases res with
    | done =>
      dsimp only
      obtain ⟨hlf1, htr⟩ := hpost
      have ht1 : TI s1 := ⟨hsp.h, hsp.s⟩
      have hd := DTr.of_tr htr
      obtain ⟨c, cs, htext⟩ : ∃ c cs, text = c :: cs := by
        cases text with
        | nil => exact absurd rfl hwf.1
        | cons c cs => exact ⟨c, cs, rfl⟩
      have hnext : PC (TBSafe.ptcNext fuel more) s1 (fun r s2 c2 => PtcCharsPost s text (moreText more) r s2 (c1 ++ c2)) := by
        rcases hmo with hmo | ⟨_, rest, hmo, hwfr⟩
        · subst hmo
          rw [ptcNext_nil]
          refine pc_pure ?_
          rw [List.append_nil]
          refine ⟨rfl, ht1, htr.1, hlf1.trans hlf, hd.conseq ?_⟩
          rintro x x' hx ⟨e, hx', h1, h2⟩
          rw [htext] at e
          obtain ⟨σ1, l1, l2⟩ := charsTo_of_specChars e
          exact ⟨hx', h1, h2, c, cs, σ1, htext, l1, by simpa [moreText] using l2⟩
        · subst hmo
          show PC (processToCompletion fuel (.chars .notSplit rest) []) s1 _
          refine pc_conseq (ih .notSplit rest [] s1 hwfr (Or.inl rfl) ht1 htr.1 (hlf1.trans hlf)) ?_
          rintro r s2 c2 he2 ⟨hr, ht2, hm2, hlf2, hd2⟩
          refine ⟨hr, ht2, hm2, hlf2, (hd.trans (fun _ _ h => h.2.1.live) hd2).conseq ?_⟩
          rintro x x2 hx ⟨x1, ⟨e, hx1, h1, h2⟩, _, hx2, k1, k2, c', cs', σb, hrest, lb1, lb2⟩
          rw [htext] at e
          obtain ⟨σ1, l1, l2⟩ := charsTo_of_specChars e
          refine ⟨hx2, k1.trans h1, k2.trans h2, c, cs, σ1, htext, l1, ?_⟩
          have hc : cfgOf s1 = cfgOf s := hd.1
          rw [hc] at lb1 lb2
          have : CharsTo (cfgOf s) (absF s1 x1) rest (absF s2 x2) := by
            rw [hrest]
            refine CharsTo.cons hx1.live (hlf1.trans hlf) lb1 ?_
            simpa [moreText] using lb2
          simpa [moreText] using l2.append this
      have hack : ∀ (b : Bool), PC (if b = true then do
            parseError "Unacknowledged self-closing tag"
            TBSafe.ptcNext fuel more
          else TBSafe.ptcNext fuel more) s1 (fun r s2 c2 => PtcCharsPost s text (moreText more) r s2 (c1 ++ c2)) ∨ b = true := by
        intro b
        cases b
        · exact Or.inl hnext
        · exact Or.inr rfl
      rcases hack _ with h | h
      · exact h
      · cases h
    | splitWhitespace buf =>
      dsimp only
      obtain ⟨hst, hbuf, hlf1', htr⟩ := hpost
      subst hst hbuf
      have ht1 : TI s1 := ⟨hsp.h, hsp.s⟩
      have hmore : more = [] := by
        rcases hmo with h | ⟨h, _⟩
        · exact h
        · exact absurd rfl h
      subst hmore
      obtain ⟨first, isWs, rest, hpf, htext, hwf1, hnul⟩ := popFrontCharRun_spec hwf.1 hwf.2.1
      rw [hpf]
      dsimp only
      have hmo' : MoreOk2 (if isWs then SplitStatus.whitespace else .notWhitespace)
          (if rest.length > 0 then [] ++ [Token.chars .notSplit rest] else []) := by
        by_cases hlen : rest.length > 0
        · rw [if_pos hlen]
          refine Or.inr ⟨by cases isWs <;> simp, rest, rfl, ?_, hnul, trivial⟩
          intro h; rw [h] at hlen; simp at hlen
        · rw [if_neg hlen]; exact Or.inl rfl
      have hmt : moreText (if rest.length > 0 then [] ++ [Token.chars .notSplit rest] else []) = rest := by
        by_cases hlen : rest.length > 0
        · rw [if_pos hlen]; simp [moreText]
        · rw [if_neg hlen]
          have : rest = [] := by
            cases rest with
            | nil => rfl
            | cons a b => simp at hlen
          simp [moreText, this]
      have hlf1 : s1.ignoreLf = false := hlf1'.trans hlf
      refine pc_conseq (ih _ first _ s1 hwf1 hmo' ht1 htr.1 hlf1) ?_
      rintro r s2 c2 he2 ⟨hr, ht2, hm2, hlf2, hd2⟩
      refine ⟨hr, ht2, hm2, hlf2, ((DTr.of_tr htr).trans (fun _ _ h => h.2.1.live) hd2).conseq ?_⟩
      rintro x x2 hx ⟨x1, ⟨⟨e0, e⟩, hx1, h1, h2⟩, _, hx2, k1, k2, c', cs', σb, hfirst, lb1, lb2⟩
      subst x1
      have hc : cfgOf s1 = cfgOf s := (DTr.of_tr htr).1
      rw [hc, ← e] at lb1
      rw [hc, hmt] at lb2
      refine ⟨hx2, k1, k2, c', cs' ++ rest, σb, by rw [htext, hfirst]; rfl, lb1, ?_⟩
      simpa [moreText] using lb2
    | reprocess m' t =>
      dsimp only
      obtain ⟨htt, hlf1, c, cs, htext, htr⟩ := hpost
      subst htt
      have ht2 : TI { s1 with mode := m' } := ⟨hsp.h.withMode m', hsp.s.withMode m'⟩
      unfold H5V.Model.HtmlTB.setMode
      refine pc_bind (pc_modS rfl rfl ?_)
      refine pc_conseq (ih st text more _ hwf hmo ht2 htr.1 (hlf1.trans hlf)) ?_
      rintro r s2 c2 he2 ⟨hr, ht3, hm3, hlf3, hd2⟩
      rw [List.nil_append]
      refine ⟨hr, ht3, hm3, hlf3, ((DTr.of_tr htr).trans (fun _ _ h => h.2.1.live) hd2).conseq ?_⟩
      rintro x x2 hx ⟨x1, ⟨e, hx1, h1, h2⟩, _, hx2, k1, k2, c', cs', σb, htext', lb1, lb2⟩
      have hc : cfgOf { s1 with mode := m' } = cfgOf s := (DTr.of_tr htr).1
      rw [hc] at lb1 lb2
      rw [htext] at htext'
      cases htext'
      exact ⟨hx2, k1.trans h1, k2.trans h2, c, cs, σb, htext, LoopsTo.reprocess (by simpa [ruleOf] using e) lb1, lb2⟩
    | _ => exact hpost.elim

/-! ### one token of the tokenizer: the side of the specification -/

/-- the end of `processTokenDev`: the parse error for an unacknowledged self-closing flag, the answer
appended to `outs` -/
def finishTok (tok : Spec.TreeModes.Token) (σ : SState) : SState :=
  let σ1 := match tok with
    | .startTag t => if t.selfClosing && !σ.out.ackSelfClosing then σ.err "non-void element with self-closing flag" else σ
    | _ => σ
  { σ1 with outs := σ1.outs ++ [σ1.out] }

def isCharsSTok : Spec.TreeModes.Token → Bool
  | .chars _ => true
  | _ => false

/-- the single standard token of a non-character token -/
def soleSTok : Spec.TreeModes.Token → STok
  | .doctype n p s f => .doctype n p s f
  | .startTag t => .startTag t
  | .endTag t => .endTag t
  | .comment d => .comment d
  | .chars _ => .eof
  | .eof => .eof

theorem expand_sole (tok : Spec.TreeModes.Token) (h : isCharsSTok tok = false) : tok.expand = [soleSTok tok] := by
  cases tok <;> first | rfl | cases h

theorem clearLf_eq {σ : SState} (h : σ.ignoreLf = false) : ({ σ with ignoreLf := false } : SState) = σ := by
  cases σ; simp only at h; subst h; rfl

theorem processSTokDev_eq (cfg : Config Id) (fuel : Nat) {σ : SState} {stok : STok} (hst : σ.stopped = false)
    (hne : (stok == STok.character '\n') = false) :
    processSTokDev cfg fuel σ stok = loopDev cfg fuel false { σ with ignoreLf := false } stok := by
  unfold processSTokDev
  rw [if_neg (by rw [hst]; exact Bool.false_ne_true)]
  by_cases hl : σ.ignoreLf = true
  · rw [if_pos hl]
    show (if (stok == STok.character '\n') = true then _ else _) = _
    rw [if_neg (by rw [hne]; exact Bool.false_ne_true)]
  · rw [if_neg hl, clearLf_eq (by simpa using hl)]

theorem processTokenDev_tok {cfg : Config Id} {σ σ' : SState} {tok : Spec.TreeModes.Token} (hc : isCharsSTok tok = false)
    (hst : σ.stopped = false)
    (h : LoopsTo cfg false { σ with out := {}, ignoreLf := false } (soleSTok tok) σ') :
    ∃ F, ∀ fuel, F ≤ fuel → processTokenDev cfg fuel σ tok = .ok (finishTok tok σ') := by
  obtain ⟨F, hF⟩ := h
  refine ⟨F, fun fuel hfu => ?_⟩
  have hne : (soleSTok tok == STok.character '\n') = false := by cases tok <;> rfl
  have h1 : processSToksDev cfg fuel { σ with out := {} } tok.expand = .ok σ' := by
    rw [expand_sole tok hc]
    simp only [processSToksDev]
    rw [processSTokDev_eq cfg fuel (σ := { σ with out := {} }) hst hne]
    rw [hF fuel hfu]; rfl
  unfold processTokenDev
  cases tok with
  | chars cs => cases hc
  | startTag t => simp only [h1, finishTok]; rfl
  | _ => simp only [h1, finishTok]; rfl

/-- the text of a character token after the "ignore a line feed" flag has been honoured -/
theorem processCharsDev_lf {cfg : Config Id} {σ σ' : SState} {text : Str} (hst : σ.stopped = false)
    (h : CharsTo cfg { σ with ignoreLf := false } (dropIgnoredLf σ.ignoreLf text) σ')
    (hnil : text = [] → σ' = σ) :
    ∃ F, ∀ fuel, F ≤ fuel → processCharsDev cfg fuel σ text = .ok σ' := by
  obtain ⟨F, hF⟩ := h
  refine ⟨F, fun fuel hfu => ?_⟩
  have h0 := hF fuel hfu
  cases text with
  | nil => rw [hnil rfl]; rfl
  | cons c cs =>
    by_cases hl : σ.ignoreLf = true
    · by_cases hc : c = '\n'
      · subst hc
        simp only [dropIgnoredLf, hl, if_true] at h0
        simp only [processCharsDev, processSTokDev]
        rw [if_neg (by rw [hst]; exact Bool.false_ne_true), if_pos hl]
        simp only [beq_self_eq_true, if_true]
        exact h0
      · have hd : dropIgnoredLf σ.ignoreLf (c :: cs) = c :: cs := by
          simp only [dropIgnoredLf, hl, if_true]
          split
          · rename_i h; cases h; exact absurd rfl hc
          · rfl
        rw [hd] at h0
        simp only [processCharsDev] at h0 ⊢
        rw [processSTokDev_eq cfg fuel hst (by simp [hc])]
        have e : processSTokDev cfg fuel { σ with ignoreLf := false } (.character c)
            = loopDev cfg fuel false { σ with ignoreLf := false } (.character c) := by
          rw [processSTokDev_eq cfg fuel (σ := { σ with ignoreLf := false }) hst (by simp [hc])]
        rw [e] at h0
        exact h0
    · have hl' : σ.ignoreLf = false := by simpa using hl
      rw [clearLf_eq hl'] at h0
      simp only [dropIgnoredLf, hl', Bool.false_eq_true, if_false] at h0
      exact h0

/-! ### the same for the UNMODIFIED specification (`processSTok`, `processToken`) -/

theorem processSTok_eq (cfg : Config Id) (fuel : Nat) {σ : SState} {stok : STok} (hst : σ.stopped = false)
    (hne : (stok == STok.character '\n') = false) :
    Spec.TreeModes.processSTok cfg fuel σ stok = Spec.TreeModes.loop cfg fuel false { σ with ignoreLf := false } stok := by
  unfold Spec.TreeModes.processSTok
  rw [if_neg (by rw [hst]; exact Bool.false_ne_true)]
  by_cases hl : σ.ignoreLf = true
  · rw [if_pos hl]
    show (if (stok == STok.character '\n') = true then _ else _) = _
    rw [if_neg (by rw [hne]; exact Bool.false_ne_true)]
  · rw [if_neg hl, clearLf_eq (by simpa using hl)]

theorem processToken_tok {cfg : Config Id} {σ σ' : SState} {tok : Spec.TreeModes.Token} (hc : isCharsSTok tok = false)
    (hst : σ.stopped = false)
    (h : H5V.Lemmas.ModesInv.StdLoops cfg false { σ with out := {}, ignoreLf := false } (soleSTok tok) σ') :
    ∃ F, ∀ fuel, F ≤ fuel → Spec.TreeModes.processToken cfg fuel σ tok = .ok (finishTok tok σ') := by
  obtain ⟨F, hF⟩ := h
  refine ⟨F, fun fuel hfu => ?_⟩
  have hne : (soleSTok tok == STok.character '\n') = false := by cases tok <;> rfl
  have h1 : Spec.TreeModes.processSToks cfg fuel { σ with out := {} } tok.expand = .ok σ' := by
    rw [expand_sole tok hc]
    simp only [Spec.TreeModes.processSToks]
    rw [processSTok_eq cfg fuel (σ := { σ with out := {} }) hst hne]
    rw [hF fuel hfu]; rfl
  unfold Spec.TreeModes.processToken
  cases tok with
  | chars cs => cases hc
  | startTag t => simp only [h1, finishTok]; rfl
  | _ => simp only [h1, finishTok]; rfl

/-- the end of `processToken` keeps the invariant -/
theorem inv_finishTok {σ : SState} (tok : Spec.TreeModes.Token) (h : H5V.Lemmas.ModesInv.Inv σ) :
    H5V.Lemmas.ModesInv.Inv (finishTok tok σ) := by
  intro hs
  have hs' : σ.stopped = false := by
    cases tok <;> first | exact hs | (simp only [finishTok] at hs; split at hs <;> exact hs)
  have hg := h hs'
  cases tok <;> first | exact hg.same | (simp only [finishTok]; split <;> exact hg.same)

/-- one tag token: from the threaded `GStep` to `processToken` -/
theorem std_of_gs {cfg : Config Id} {σ σ' : SState} {tok : Spec.TreeModes.Token} (hc : isCharsSTok tok = false)
    (hst : σ.stopped = false)
    (h : H5V.Lemmas.ModesInv.GStep cfg false { σ with out := {}, ignoreLf := false } (soleSTok tok) σ')
    (hi : H5V.Lemmas.ModesInv.Inv σ) :
    H5V.Lemmas.ModesInv.Inv (finishTok tok σ') ∧
      ∃ F, ∀ fuel, F ≤ fuel → Spec.TreeModes.processToken cfg fuel σ tok = .ok (finishTok tok σ') := by
  obtain ⟨hi', hl⟩ := h hst ((hi hst).same)
  exact ⟨inv_finishTok tok hi', processToken_tok hc hst hl⟩

/-- a character token: from the completed to the unmodified specification (nothing from the model is needed) -/
theorem std_of_dev_chars {cfg : Config Id} (hed : cfg.edition = .customizableSelect) {σ σ' : SState} {cs : Str} {F : Nat}
    (hF : ∀ fuel, F ≤ fuel → processTokenDev cfg fuel σ (.chars cs) = .ok σ') (hi : H5V.Lemmas.ModesInv.Inv σ) :
    H5V.Lemmas.ModesInv.Inv σ' ∧ ∃ F, ∀ fuel, F ≤ fuel → Spec.TreeModes.processToken cfg fuel σ (.chars cs) = .ok σ' :=
  ⟨(H5V.Lemmas.ModesInv.processToken_chars_of_dev hed hi (hF F (Nat.le_refl _))).2,
    F, fun fuel hfu => (H5V.Lemmas.ModesInv.processToken_chars_of_dev hed hi (hF fuel hfu)).1⟩

end H5V.Lemmas.HtmlTBModes
