import H5V.Lemmas.XmlRTTok1
/-!
C17, tokenizer half: comments.  After `<!--` the ten comment states of the XML tokenizer are
followed through an arbitrary comment text: `CS` is the abstract state, `CS.pend` the text already
consumed but not yet in the comment register (`-`, `--`, `--!`), `CS.next` the transition.  As long as
no `>` arrives in one of the states where it ends the comment (`CS.bad`), register ++ pending text =
consumed text (`go_cs`, `cmt_char`).
-/
namespace H5V.Lemmas.XmlRT
open H5V.Model.XmlTok

inductive CS | start | startDash | cmt | lt | ltBang | ltBangDash | ltBangDD | endDash | end_ | endBang
deriving DecidableEq, Repr

def CS.st : CS → State
  | .start => .commentStart | .startDash => .commentStartDash | .cmt => .comment | .lt => .commentLessThan
  | .ltBang => .commentLessThanBang | .ltBangDash => .commentLessThanBangDash
  | .ltBangDD => .commentLessThanBangDashDash | .endDash => .commentEndDash | .end_ => .commentEnd
  | .endBang => .commentEndBang

/-- consumed, not yet in the register -/
def CS.pend : CS → Str
  | .startDash | .ltBangDash | .endDash => ['-']
  | .ltBangDD | .end_ => ['-', '-']
  | .endBang => ['-', '-', '!']
  | _ => []

/-- a `>` here ends the comment -/
def CS.bad : CS → Bool
  | .start | .startDash | .ltBangDD | .end_ | .endBang => true
  | _ => false

def cmtNext (c : Char) : CS := if c = '<' then .lt else if c = '-' then .endDash else .cmt
def endNext (c : Char) : CS := if c = '!' then .endBang else if c = '-' then .end_ else cmtNext c

def CS.next : CS → Char → CS
  | .start, c => if c = '-' then .startDash else cmtNext c
  | .startDash, c => if c = '-' then .end_ else cmtNext c
  | .cmt, c => cmtNext c
  | .lt, c => if c = '!' then .ltBang else if c = '<' then .lt else cmtNext c
  | .ltBang, c => if c = '-' then .ltBangDash else cmtNext c
  | .ltBangDash, c => if c = '-' then .ltBangDD else cmtNext c
  | .ltBangDD, c => endNext c
  | .endDash, c => if c = '-' then .end_ else cmtNext c
  | .end_, c => endNext c
  | .endBang, c => if c = '-' then .endDash else cmtNext c

theorem readKind_cs (q : CS) : readKind q.st = .getChar := by cases q <;> rfl

/-- the character `c` has been fetched (`current_char = c`); the table is applied and the reconsume
steps it triggers are taken; the input is not touched -/
def Go (o : Opts) (m0 : Mach) (c : Char) (inp : Str) (m' : Mach) : Prop :=
  ∃ m1, transChar o m0 c = (m1, .cont) ∧ Reach o m1 inp m' inp

theorem Go.direct {o : Opts} {m0 : Mach} {c : Char} {inp : Str} {m' : Mach}
    (h : transChar o m0 c = (m', .cont)) : Go o m0 c inp m' := ⟨m', h, Reach.refl _ _⟩

theorem Go.recon {o : Opts} {m0 : Mach} {c : Char} {inp : Str} {m' : Mach} (st' : State) (x : Mach)
    (h : transChar o m0 c = (reconsumeTo st' x, .cont)) (hx : x.charRef = none) (hk : readKind st' = .getChar)
    (hc : x.currentChar = c) (hrc : x.reconsume = false) (hgo : Go o (to st' x) c inp m') : Go o m0 c inp m' := by
  obtain ⟨m2, h2, hr⟩ := hgo
  refine ⟨_, h, Reach.cons ?_ hr⟩
  rw [step_reconsume o _ inp (by simpa [reconsumeTo] using hx) (by simpa [reconsumeTo] using hk) (by simp [reconsumeTo])]
  have e : (reconsumeTo st' x).setReconsume false = to st' x := by
    cases x; simp only [reconsumeTo, to, Mach.setReconsume] at hrc ⊢; subst hrc; rfl
  have e2 : (reconsumeTo st' x).currentChar = c := by simpa [reconsumeTo] using hc
  rw [e, e2, h2]; rfl

theorem reach_of_go (o : Opts) (ho : o.exactErrors = false) (m : Mach) (c : Char) (rest : Str) (st : State) (m' : Mach)
    (h : Ctl m st) (hk : readKind st = .getChar) (hp : PlainCh c) (hgo : Go o (m.setCurrentChar c) c rest m') :
    Reach o m (c :: rest) m' rest := by
  obtain ⟨s1, s2, s3, s4, s5⟩ := h
  obtain ⟨m1, h1, hr⟩ := hgo
  refine Reach.cons ?_ hr
  rw [step_char o ho m c rest s2 (by rw [s1]; exact hk) s3 s4 hp.1 hp.2, h1]; rfl

macro "cmt_simp" : tactic =>
  `(tactic| simp [to, reconsumeTo, pushComment, appendComment, emitComment, emit, emitErr, badChar,
      Mach.setCurrentChar, Mach.setReconsume, CS.st, CS.pend, *])

/-- the facts carried through a comment -/
structure CmtInv (m0 m' : Mach) (q' : CS) (consumed : Str) : Prop where
  ctl : Ctl m' q'.st
  clean : Clean m'
  cc : m'.currentChar = m0.currentChar
  txt : m'.comment ++ q'.pend = consumed
  out : cvOut m'.out = cvOut m0.out

theorem go_cmt (o : Opts) (m0 : Mach) (c : Char) (inp : Str)
    (h : Ctl m0 .comment) (hn : Clean m0) (hc : m0.currentChar = c) :
    ∃ m', Go o m0 c inp m' ∧ CmtInv m0 m' (cmtNext c) (m0.comment ++ [c]) := by
  obtain ⟨s1, s2, s3, s4, s5⟩ := h
  obtain ⟨n1, n2, n3⟩ := hn
  unfold cmtNext
  by_cases h1 : c = '<'
  · subst h1
    exact ⟨to .commentLessThan (pushComment '<' m0), Go.direct (by simp [transChar, s1]),
      ⟨rfl, s2, s3, s4, s5⟩, ⟨n1, n2, n3⟩, rfl, by cmt_simp, rfl⟩
  by_cases h2 : c = '-'
  · subst h2
    exact ⟨to .commentEndDash m0, Go.direct (by simp [transChar, s1]),
      ⟨rfl, s2, s3, s4, s5⟩, ⟨n1, n2, n3⟩, rfl, rfl, rfl⟩
  · refine ⟨pushComment c m0, Go.direct (by simp [transChar, s1, h1, h2]), ?_⟩
    simp only [h1, h2, if_false]
    refine ⟨?_, ?_, ?_, ?_, ?_⟩
    · exact ⟨s1, s2, s3, s4, s5⟩
    · exact ⟨n1, n2, n3⟩
    · rfl
    · cmt_simp
    · rfl

/-- hand-over to the comment state by a reconsume, after `pre` has been appended to the register -/
theorem go_to_cmt (o : Opts) (m0 : Mach) (c : Char) (inp : Str) (x : Mach) (pre : Str)
    (h : transChar o m0 c = (reconsumeTo .comment x, .cont))
    (s2 : x.charRef = none) (s3 : x.reconsume = false) (s4 : x.ignoreLf = false) (s5 : x.tempBuf = [])
    (hn : Clean x) (hc : x.currentChar = c) (hcc : m0.currentChar = c)
    (htxt : x.comment = m0.comment ++ pre) (hout : cvOut x.out = cvOut m0.out) :
    ∃ m', Go o m0 c inp m' ∧ CmtInv m0 m' (cmtNext c) (m0.comment ++ pre ++ [c]) := by
  obtain ⟨n1, n2, n3⟩ := hn
  obtain ⟨m', hgo, hi⟩ := go_cmt o (to .comment x) c inp
    (by constructor <;> simp [to, *]) (by constructor <;> simp [to, *]) (by simp [to, hc])
  refine ⟨m', Go.recon .comment x h s2 rfl hc s3 hgo, ?_⟩
  obtain ⟨i1, i2, i3, i4, i5⟩ := hi
  refine ⟨i1, i2, ?_, ?_, ?_⟩
  · rw [i3]; simp [to, hc, hcc]
  · rw [i4]; simp [to, htxt]
  · rw [i5]; simp [to, hout]

theorem badChar_cvOut (o : Opts) (m : Mach) : cvOut (badChar o m).out = cvOut m.out := by
  unfold badChar; split <;> simp [emit, emitErr, cvOut_err]

theorem badChar_regs (o : Opts) (m : Mach) :
    (badChar o m).comment = m.comment ∧ (badChar o m).attrName = m.attrName ∧
    (badChar o m).attrValue = m.attrValue ∧ (badChar o m).doctype = m.doctype := by
  unfold badChar; split <;> simp [emit, emitErr]

theorem go_endDash (o : Opts) (m0 : Mach) (c : Char) (inp : Str)
    (h : Ctl m0 .commentEndDash) (hn : Clean m0) (hc : m0.currentChar = c) :
    ∃ m', Go o m0 c inp m' ∧ CmtInv m0 m' (CS.next .endDash c) (m0.comment ++ ['-'] ++ [c]) := by
  obtain ⟨s1, s2, s3, s4, s5⟩ := h
  obtain ⟨n1, n2, n3⟩ := hn
  unfold CS.next
  by_cases h1 : c = '-'
  · subst h1
    exact ⟨to .commentEnd m0, Go.direct (by simp [transChar, s1]),
      ⟨rfl, s2, s3, s4, s5⟩, ⟨n1, n2, n3⟩, rfl, by cmt_simp, rfl⟩
  · simp only [h1, if_false]
    exact go_to_cmt o m0 c inp (pushComment '-' m0) ['-'] (by simp [transChar, s1, h1])
      s2 s3 s4 s5 ⟨n1, n2, n3⟩ hc hc
      rfl rfl

theorem go_end (o : Opts) (m0 : Mach) (c : Char) (inp : Str)
    (h : Ctl m0 .commentEnd) (hn : Clean m0) (hc : m0.currentChar = c) (hb : c ≠ '>') :
    ∃ m', Go o m0 c inp m' ∧ CmtInv m0 m' (endNext c) (m0.comment ++ ['-', '-'] ++ [c]) := by
  obtain ⟨s1, s2, s3, s4, s5⟩ := h
  obtain ⟨n1, n2, n3⟩ := hn
  unfold endNext
  by_cases h1 : c = '!'
  · subst h1
    exact ⟨to .commentEndBang m0, Go.direct (by simp [transChar, s1]),
      ⟨rfl, s2, s3, s4, s5⟩, ⟨n1, n2, n3⟩, rfl, by cmt_simp, rfl⟩
  by_cases h2 : c = '-'
  · subst h2
    exact ⟨pushComment '-' m0, Go.direct (by simp [transChar, s1]),
      ⟨s1, s2, s3, s4, s5⟩, ⟨n1, n2, n3⟩, rfl, by cmt_simp, rfl⟩
  · simp only [h1, h2, if_false]
    exact go_to_cmt o m0 c inp (appendComment "--" m0) ['-', '-'] (by simp [transChar, s1, h1, h2, hb])
      s2 s3 s4 s5 ⟨n1, n2, n3⟩ hc hc
      rfl rfl

/-- **one character of comment text**, in any of the ten comment states: unless it is a `>` that ends
the comment, the register plus the pending text grows by exactly that character -/
theorem go_cs (o : Opts) (q : CS) (m0 : Mach) (c : Char) (inp : Str)
    (h : Ctl m0 q.st) (hn : Clean m0) (hc : m0.currentChar = c) (hb : c = '>' → q.bad = false) :
    ∃ m', Go o m0 c inp m' ∧ CmtInv m0 m' (q.next c) (m0.comment ++ q.pend ++ [c]) := by
  have h' := h
  obtain ⟨s1, s2, s3, s4, s5⟩ := h
  have hn' := hn
  obtain ⟨n1, n2, n3⟩ := hn
  cases q with
  | start =>
    have hgt : c ≠ '>' := fun e => by simpa [CS.bad] using hb e
    simp only [CS.st] at s1
    unfold CS.next
    by_cases h1 : c = '-'
    · subst h1
      exact ⟨to .commentStartDash m0, Go.direct (by simp [transChar, s1]),
        ⟨rfl, s2, s3, s4, s5⟩, ⟨n1, n2, n3⟩, rfl, by cmt_simp, rfl⟩
    · simp only [h1, if_false, CS.pend, List.append_nil]
      have := go_to_cmt o m0 c inp m0 [] (by simp [transChar, s1, h1, hgt]) s2 s3 s4 s5 hn' hc hc (by simp) rfl
      simpa using this
  | startDash =>
    have hgt : c ≠ '>' := fun e => by simpa [CS.bad] using hb e
    simp only [CS.st] at s1
    unfold CS.next
    by_cases h1 : c = '-'
    · subst h1
      exact ⟨to .commentEnd m0, Go.direct (by simp [transChar, s1]),
        ⟨rfl, s2, s3, s4, s5⟩, ⟨n1, n2, n3⟩, rfl, by cmt_simp, rfl⟩
    · simp only [h1, if_false, CS.pend]
      exact go_to_cmt o m0 c inp (pushComment '-' m0) ['-'] (by simp [transChar, s1, h1, hgt])
        s2 s3 s4 s5 ⟨n1, n2, n3⟩ hc hc
        rfl rfl
  | cmt =>
    have := go_cmt o m0 c inp h' hn' hc
    simpa [CS.next, CS.pend] using this
  | lt =>
    simp only [CS.st] at s1
    unfold CS.next
    by_cases h1 : c = '!'
    · subst h1
      exact ⟨to .commentLessThanBang (pushComment '!' m0), Go.direct (by simp [transChar, s1]),
        ⟨rfl, s2, s3, s4, s5⟩, ⟨n1, n2, n3⟩, rfl, by cmt_simp, rfl⟩
    by_cases h2 : c = '<'
    · subst h2
      exact ⟨pushComment '<' m0, Go.direct (by simp [transChar, s1]),
        ⟨s1, s2, s3, s4, s5⟩, ⟨n1, n2, n3⟩, rfl, by cmt_simp, rfl⟩
    · simp only [h1, h2, if_false, CS.pend, List.append_nil]
      have := go_to_cmt o m0 c inp m0 [] (by simp [transChar, s1, h1, h2]) s2 s3 s4 s5 hn' hc hc (by simp) rfl
      simpa using this
  | ltBang =>
    simp only [CS.st] at s1
    unfold CS.next
    by_cases h1 : c = '-'
    · subst h1
      exact ⟨to .commentLessThanBangDash m0, Go.direct (by simp [transChar, s1]),
        ⟨rfl, s2, s3, s4, s5⟩, ⟨n1, n2, n3⟩, rfl, by cmt_simp, rfl⟩
    · simp only [h1, if_false, CS.pend, List.append_nil]
      have := go_to_cmt o m0 c inp m0 [] (by simp [transChar, s1, h1]) s2 s3 s4 s5 hn' hc hc (by simp) rfl
      simpa using this
  | ltBangDash =>
    simp only [CS.st] at s1
    by_cases h1 : c = '-'
    · subst h1
      refine ⟨to .commentLessThanBangDashDash m0, Go.direct (by simp [transChar, s1]), ?_⟩
      have e : CS.next .ltBangDash '-' = .ltBangDD := rfl
      rw [e]
      refine ⟨?_, ?_, ?_, ?_, ?_⟩
      · exact ⟨rfl, s2, s3, s4, s5⟩
      · exact ⟨n1, n2, n3⟩
      · rfl
      · cmt_simp
      · rfl
    · obtain ⟨m', hgo, i1, i2, i3, i4, i5⟩ := go_endDash o (to .commentEndDash m0) c inp
        (by constructor <;> simp [to, *]) (by constructor <;> simp [to, *]) (by simp [to, hc])
      refine ⟨m', Go.recon .commentEndDash m0 (by simp [transChar, s1, h1]) s2 rfl hc s3 hgo, ?_⟩
      have e : CS.next .ltBangDash c = CS.next .endDash c := by simp [CS.next, h1]
      rw [e]
      refine ⟨i1, i2, ?_, ?_, ?_⟩
      · rw [i3]; simp [to]
      · rw [i4]; simp [to, CS.pend]
      · rw [i5]; simp [to]
  | ltBangDD =>
    have hgt : c ≠ '>' := fun e => by simpa [CS.bad] using hb e
    simp only [CS.st] at s1
    obtain ⟨b1, b2, b3, b4⟩ := badChar_regs o m0
    obtain ⟨m', hgo, i1, i2, i3, i4, i5⟩ := go_end o (to .commentEnd (badChar o m0)) c inp
      (by constructor <;> simp [to, *]) (by constructor <;> simp [to, *]) (by simp [to, hc]) hgt
    refine ⟨m', Go.recon .commentEnd (badChar o m0) (by simp [transChar, s1, hgt]) (by simp [s2]) rfl
      (by simp [hc]) (by simp [s3]) hgo, ?_⟩
    have e : CS.next .ltBangDD c = endNext c := rfl
    rw [e]
    refine ⟨i1, i2, ?_, ?_, ?_⟩
    · rw [i3]; simp [to]
    · rw [i4]; simp [to, CS.pend, b1]
    · rw [i5]; simp [to, badChar_cvOut]
  | endDash =>
    have := go_endDash o m0 c inp h' hn' hc
    simpa [CS.pend] using this
  | end_ =>
    have hgt : c ≠ '>' := fun e => by simpa [CS.bad] using hb e
    have := go_end o m0 c inp h' hn' hc hgt
    simpa [CS.pend, CS.next] using this
  | endBang =>
    have hgt : c ≠ '>' := fun e => by simpa [CS.bad] using hb e
    simp only [CS.st] at s1
    unfold CS.next
    by_cases h1 : c = '-'
    · subst h1
      exact ⟨to .commentEndDash (appendComment "--!" m0), Go.direct (by simp [transChar, s1]),
        ⟨rfl, s2, s3, s4, s5⟩, ⟨n1, n2, n3⟩, rfl, by simp only [to, appendComment, CS.pend]; rfl, rfl⟩
    · simp only [h1, if_false, CS.pend]
      exact go_to_cmt o m0 c inp (appendComment "--!" m0) ['-', '-', '!'] (by simp [transChar, s1, h1, hgt])
        s2 s3 s4 s5 ⟨n1, n2, n3⟩ hc hc
        rfl rfl

/-! ### a whole comment -/

/-- may a `>` follow the comment text `p` without ending the comment: not at the very start
(`<!-->`), not after a single leading dash (`<!--->`), not after `--` or `--!` -/
def GtOk (p : Str) : Prop :=
  p ≠ [] ∧ p ≠ ['-'] ∧ ¬ (['-', '-'] <:+ p) ∧ ¬ (['-', '-', '!'] <:+ p)

/-- a comment text that the tokenizer reads back unchanged from `<!--` text `-->` -/
def CommentLex (s : Str) : Prop :=
  (∀ c ∈ s, PlainCh c) ∧ ∀ p t, s = p ++ '>' :: t → GtOk p

structure CI (m : Mach) (q : CS) (p : Str) : Prop where
  ctl : Ctl m q.st
  clean : Clean m
  txt : m.comment ++ q.pend = p
  st0 : q = .start → p = []
  st1 : q = .startDash → p = ['-']

theorem next_ne_start (q : CS) (c : Char) : q.next c ≠ .start := by
  cases q <;> simp only [CS.next, cmtNext, endNext] <;> (repeat' split) <;> simp

theorem next_startDash (q : CS) (c : Char) (h : q.next c = .startDash) : q = .start ∧ c = '-' := by
  cases q <;> simp only [CS.next, cmtNext, endNext] at h <;> (repeat' split at h) <;> simp_all

theorem bad_gtOk (m : Mach) (q : CS) (p : Str) (h : CI m q p) (hg : GtOk p) : q.bad = false := by
  obtain ⟨g1, g2, g3, g4⟩ := hg
  cases q with
  | start => exact absurd (h.st0 rfl) g1
  | startDash => exact absurd (h.st1 rfl) g2
  | ltBangDD | end_ => exact absurd ⟨m.comment, h.txt⟩ g3
  | endBang => exact absurd ⟨m.comment, h.txt⟩ g4
  | _ => rfl

theorem cmt_char (o : Opts) (ho : o.exactErrors = false) (m : Mach) (q : CS) (p : Str) (c : Char) (rest : Str)
    (h : CI m q p) (hp : PlainCh c) (hg : c = '>' → GtOk p) :
    ∃ m', Reach o m (c :: rest) m' rest ∧ CI m' (q.next c) (p ++ [c]) ∧ cvOut m'.out = cvOut m.out := by
  obtain ⟨⟨s1, s2, s3, s4, s5⟩, ⟨n1, n2, n3⟩, ht, h0, h1⟩ := id h
  obtain ⟨m', hgo, i1, i2, i3, i4, i5⟩ := go_cs o q (m.setCurrentChar c) c rest
    (by constructor <;> simp [Mach.setCurrentChar, *]) (by constructor <;> simp [Mach.setCurrentChar, *])
    (by simp [Mach.setCurrentChar]) (fun e => bad_gtOk m q p h (hg e))
  refine ⟨m', reach_of_go o ho m c rest q.st m' h.ctl (readKind_cs q) hp hgo, ⟨i1, i2, ?_, ?_, ?_⟩, ?_⟩
  · rw [i4]; simp [Mach.setCurrentChar, ← ht]
  · intro e; exact absurd e (next_ne_start q c)
  · intro e
    obtain ⟨rfl, rfl⟩ := next_startDash q c e
    rw [h0 rfl]; rfl
  · rw [i5]; simp [Mach.setCurrentChar]

theorem cmt_run (o : Opts) (ho : o.exactErrors = false) (rest : Str) :
    ∀ (u p : Str) (q : CS) (m : Mach), CI m q p → (∀ c ∈ u, PlainCh c) →
      (∀ a t, u = a ++ '>' :: t → GtOk (p ++ a)) →
      ∃ m', Reach o m (u ++ rest) m' rest ∧ CI m' (u.foldl CS.next q) (p ++ u) ∧ cvOut m'.out = cvOut m.out := by
  intro u
  induction u with
  | nil => intro p q m h _ _; exact ⟨m, Reach.refl _ _, by simpa using h, rfl⟩
  | cons c u ih =>
    intro p q m h hp hg
    obtain ⟨m1, r1, h1, o1⟩ := cmt_char o ho m q p c (u ++ rest) h (hp c (by simp))
      (fun e => by have := hg [] u (by rw [e]; rfl); simpa using this)
    obtain ⟨m2, r2, h2, o2⟩ := ih (p ++ [c]) (q.next c) m1 h1 (fun d hd => hp d (by simp [hd]))
      (fun a t e => by have := hg (c :: a) t (by rw [e]; rfl); simpa using this)
    exact ⟨m2, Reach.trans r1 r2, by simpa using h2, by rw [o2, o1]⟩

theorem dash_dash (q : CS) : (q.next '-').next '-' = .end_ ∨ (q.next '-').next '-' = .ltBangDD := by
  cases q <;> decide

/-- the closing `>` after `--` -/
theorem cmt_close (o : Opts) (ho : o.exactErrors = false) (m : Mach) (q : CS) (rest : Str)
    (hq : q = .end_ ∨ q = .ltBangDD) (h : Ctl m q.st) (hn : Clean m) :
    ∃ m', Reach o m ('>' :: rest) m' rest ∧ Ctl m' .data ∧ Clean m' ∧ m'.out = .comment m.comment :: m.out := by
  obtain ⟨s1, s2, s3, s4, s5⟩ := h
  obtain ⟨n1, n2, n3⟩ := hn
  rcases hq with rfl | rfl
  · simp only [CS.st] at s1
    refine ⟨to .data (emitComment (m.setCurrentChar '>')), Reach.one ?_, ?_, ?_, ?_⟩
    · rw [step_char o ho m '>' rest s2 (by rw [s1]; rfl) s3 s4 (by decide) (by decide)]
      simp [transChar, s1, ofSig]
    · exact ⟨rfl, s2, s3, s4, s5⟩
    · exact ⟨n1, n2, n3⟩
    · rfl
  · simp only [CS.st] at s1
    refine ⟨to .data (emitComment ((reconsumeTo .commentEnd (m.setCurrentChar '>')).setReconsume false)),
      Reach.cons (m1 := reconsumeTo .commentEnd (m.setCurrentChar '>')) (i1 := rest) ?_ (Reach.one ?_), ?_, ?_, ?_⟩
    · rw [step_char o ho m '>' rest s2 (by rw [s1]; rfl) s3 s4 (by decide) (by decide)]
      simp [transChar, s1, ofSig]
    · rw [step_reconsume o _ rest (by cmt_simp) (by simp [reconsumeTo]; rfl) (by simp [reconsumeTo])]
      simp [transChar, reconsumeTo, Mach.setCurrentChar, Mach.setReconsume, ofSig]
    · constructor <;> cmt_simp
    · exact ⟨n1, n2, n3⟩
    · rfl

/-- **a whole comment**: after `<!--`, the text `s` and `-->` deliver the comment token `s` (and possibly
"Bad character" parse errors, for `<!--` inside the text) and lead back to the data state -/
theorem comment_body (o : Opts) (ho : o.exactErrors = false) (m : Mach) (s : Str) (rest : Str)
    (h : Ctl m .commentStart) (hn : Clean m) (hc : m.comment = []) (hs : CommentLex s) :
    ∃ m', Reach o m (s ++ '-' :: '-' :: '>' :: rest) m' rest ∧ Ctl m' .data ∧ Clean m' ∧
      cvOut m'.out = cvOut m.out ++ [.comment s] := by
  have h0 : CI m .start [] := ⟨h, hn, by simp [CS.pend, hc], fun _ => rfl, fun e => by cases e⟩
  obtain ⟨m1, r1, h1, o1⟩ := cmt_run o ho ('-' :: '-' :: '>' :: rest) s [] .start m h0 hs.1
    (fun a t e => by simpa using hs.2 a t e)
  obtain ⟨m2, r2, h2, o2⟩ := cmt_run o ho ('>' :: rest) ['-', '-'] ([] ++ s) _ m1 h1
    (fun c hc => by
      have : c = '-' := by simpa using hc
      subst this; exact ⟨by decide, by decide⟩)
    (fun a t e => by
      have : '>' ∈ ['-', '-'] := by rw [e]; simp
      simp at this)
  have hq := dash_dash (s.foldl CS.next .start)
  simp only [List.foldl_cons, List.foldl_nil] at h2
  have htxt : m2.comment = s := by
    have := h2.txt
    rcases hq with e | e <;> rw [e] at this <;> simpa [CS.pend] using this
  obtain ⟨m3, r3, c3, n3, o3⟩ := cmt_close o ho m2 _ rest hq h2.ctl h2.clean
  refine ⟨m3, ?_, c3, n3, ?_⟩
  · have : s ++ '-' :: '-' :: '>' :: rest = s ++ ('-' :: '-' :: '>' :: rest) := rfl
    exact Reach.trans r1 (Reach.trans (by simpa using r2) r3)
  · rw [o3, cvOut_cons, o2, o1, htxt]; rfl

end H5V.Lemmas.XmlRT
