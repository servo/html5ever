import H5V.Lemmas.HtmlParseSpecRun
import H5V.Lemmas.HtmlTokOptE
import H5V.Props.C03Joint
import H5V.Props.C04
/-!
`Parser::process` of ONE chunk and `Parser::finish` of the joint driver against `HtmlTok.feed` /
`HtmlTok.finish` of the tokenizer model alone under a pause-free history policy (`feed_star`, `finish_star`),
and the unfolding of `parseChunks … [s]` into its `feed` and `finish` halves (`parse_unfold`).
-/
namespace H5V.Lemmas.ParseSpec
open H5V.Model.HtmlTok (Mach Pol SinkRes R Out Sig Str Tag Token step clr NoPause fuelFor feedBom)
open H5V.Model.HtmlTB (finishTB)
open H5V.Model.HtmlTB.Joint (JState absorb polOf)
open H5V.Lemmas.JointChunk

/-- a `Done` answer of `Joint.run` with no input left is a `JRunsTo` -/
theorem jrun_done_jrunsTo (o : TOpts) : ∀ (fuel : Nat) (m : Mach) (inp : Chars) (j : JState) (m' : Mach) (j' : JState),
    jrun o fuel m inp j = .done m' [] j' → JRunsTo o m inp j m' j'
  | 0, _, _, _, _, _, h => by rw [run_zero] at h; cases h
  | fuel + 1, m, inp, j, m', j', h => by
    rw [run_succ] at h
    cases hs : step o (polOf j) m inp with
    | panic e => rw [hs] at h; cases h
    | cont m1 i1 =>
      rw [hs] at h
      simp only [deliver] at h
      cases ha : absorb m1.out.reverse j with
      | error e => rw [ha] at h; cases h
      | ok j1 =>
        rw [ha] at h
        exact JRunsTo.cont hs ha (jrun_done_jrunsTo o fuel _ _ _ _ _ h)
    | suspend m1 i1 =>
      rw [hs] at h
      simp only [deliver] at h
      cases ha : absorb m1.out.reverse j with
      | error e => rw [ha] at h; cases h
      | ok j1 =>
        rw [ha] at h
        cases h
        exact JRunsTo.susp hs ha
    | script m1 i1 =>
      rw [hs] at h
      simp only [deliver] at h
      cases ha : absorb m1.out.reverse j with
      | error e => rw [ha] at h; cases h
      | ok j1 => rw [ha] at h; cases h
    | indicator m1 i1 =>
      rw [hs] at h
      simp only [deliver] at h
      cases ha : absorb m1.out.reverse j with
      | error e => rw [ha] at h; cases h
      | ok j1 => rw [ha] at h; cases h

/-! ### `Parser::process` of the whole text -/

/-- the tokenizer-only `feed` of the whole text under `pol'` ends in the machine of the joint run, with the
whole history `D1` in `out` -/
theorem feed_star {o : TOpts} {j0 : JState} {m0 : Mach} (hm0 : m0.out = [])
    {s : Str} (hne : s ≠ []) {m1 : Mach} {j1 : JState} {D1 : Out}
    (h : JRunsD o (feedBom m0 s).1 (feedBom m0 s).2 j0 m1 j1 D1) :
    absorb D1.reverse j0 = .ok j1 ∧ m1.out = [] ∧
      ∀ pol', NoPause pol' → ∀ P, Agrees pol' j0 P → P D1 → ∀ M1 i1,
        H5V.Model.HtmlTok.feed o pol' m0 [] s = .done M1 i1 → M1 = sh D1 m1 ∧ i1 = [] := by
  have hb : (feedBom m0 s).1.out = [] := by
    rcases H5V.Props.C03.feedBom_fst m0 s with e | e <;> rw [e] <;> exact hm0
  obtain ⟨g1, g3, g4⟩ := jruns_star (j0 := j0) h hb [] rfl
  rw [List.append_nil] at g1 g4
  refine ⟨g1, g3, fun pol' hnp P hP hPH M1 i1 hf => ?_⟩
  have ht := g4 pol' hnp P hP hPH
  rw [sh_nil_of hb] at ht
  have hemp : s.isEmpty = false := by
    cases s with
    | nil => exact absurd rfl hne
    | cons _ _ => rfl
  simp only [H5V.Model.HtmlTok.feed, List.nil_append, hemp, Bool.false_eq_true, if_false] at hf
  rcases ht.run (fuelFor (feedBom m0 s).1 (feedBom m0 s).2) with e | e
  · rw [e] at hf; cases hf
  · rw [e] at hf; cases hf; exact ⟨rfl, rfl⟩

/-! ### `Parser::finish` -/

/-- the parts of a successful `Parser::finish` from the machine `m` and joint state `j`: the flush of a pending
character reference (delivering `Dp`), the final run at end of input (delivering `D2`), `eof_step` (delivering
`m3.out`), `TreeBuilder::end` -/
structure FinishData (o : TOpts) (m : Mach) (j jf : JState) (Dp : Out) (m1 : Mach) (inp : Str) (j1 : JState)
    (D2 : Out) (m2 : Mach) (j2 : JState) (m3 : Mach) (j3 : JState) : Prop where
  pro : (m.charRef = none ∧ Dp = [] ∧ m1 = m ∧ inp = [] ∧ j1 = j) ∨
    (∃ cr ma chars mb, m.charRef = some cr ∧ H5V.Model.HtmlTok.crEof o m [] cr = .ok (ma, inp, chars) ∧
      H5V.Model.HtmlTok.processCharRef (ma.setCharRef none) chars = (mb, .cont) ∧ Dp = mb.out ∧ m1 = clr mb ∧
      absorb mb.out.reverse j = .ok j1)
  run : JRunsD o (m1.setAtEof true) inp j1 m2 j2 D2
  eof : H5V.Model.HtmlTok.eofLoop o 8 m2 = .ok m3
  abs : absorb m3.out.reverse j2 = .ok j3
  fin : finishTB.run j3.tb = .ok ((), jf.tb)
  res : jf.results = j3.results

theorem finish_data {o : TOpts} {m : Mach} {j jf : JState}
    (hfin : H5V.Model.HtmlTB.Joint.finish o m j = .ok jf) :
    ∃ Dp m1 inp j1 D2 m2 j2 m3 j3, FinishData o m j jf Dp m1 inp j1 D2 m2 j2 m3 j3 := by
  rw [finish_eq] at hfin
  cases hp : finishPrologue o m j with
  | error e => rw [hp] at hfin; cases hfin
  | ok v =>
    obtain ⟨m1, inp, j1⟩ := v
    rw [hp] at hfin
    simp only at hfin
    -- the prologue
    have hpro : ∃ Dp, (m.charRef = none ∧ Dp = [] ∧ m1 = m ∧ inp = [] ∧ j1 = j) ∨
        (∃ cr ma chars mb, m.charRef = some cr ∧ H5V.Model.HtmlTok.crEof o m [] cr = .ok (ma, inp, chars) ∧
          H5V.Model.HtmlTok.processCharRef (ma.setCharRef none) chars = (mb, .cont) ∧ Dp = mb.out ∧ m1 = clr mb ∧
          absorb mb.out.reverse j = .ok j1) := by
      unfold finishPrologue at hp
      cases hcr : m.charRef with
      | none =>
        rw [hcr] at hp
        cases hp
        exact ⟨[], Or.inl ⟨rfl, rfl, rfl, rfl, rfl⟩⟩
      | some cr =>
        rw [hcr] at hp
        simp only at hp
        cases hce : H5V.Model.HtmlTok.crEof o m [] cr with
        | error e => rw [hce] at hp; cases hp
        | ok w =>
          obtain ⟨ma, i2, chars⟩ := w
          rw [hce] at hp
          simp only at hp
          cases hpc : H5V.Model.HtmlTok.processCharRef (ma.setCharRef none) chars with
          | mk mb sg =>
            rw [hpc] at hp
            cases sg with
            | cont =>
              simp only at hp
              cases hab : absorb mb.out.reverse j with
              | error e => rw [hab] at hp; cases hp
              | ok j1' =>
                rw [hab] at hp
                cases hp
                exact ⟨mb.out, Or.inr ⟨cr, ma, chars, mb, rfl, hce, hpc, rfl, rfl, hab⟩⟩
            | script => simp only at hp; cases hp
            | indicator => simp only at hp; cases hp
            | panic e => simp only at hp; cases hp
    obtain ⟨Dp, hpro⟩ := hpro
    unfold finishMain at hfin
    cases hr : jrun o (fuelFor (m1.setAtEof true) inp) (m1.setAtEof true) inp j1 with
    | panic e => rw [hr] at hfin; cases hfin
    | script _ _ _ => rw [hr] at hfin; cases hfin
    | indicator _ _ _ => rw [hr] at hfin; cases hfin
    | done m2 i2 j2 =>
      rw [hr] at hfin
      simp only at hfin
      unfold finishTail at hfin
      by_cases hi2 : (!i2.isEmpty) = true
      · rw [if_pos hi2] at hfin; cases hfin
      · rw [if_neg hi2] at hfin
        have hi2' : i2 = [] := by
          cases i2 with
          | nil => rfl
          | cons _ _ => simp at hi2
        subst hi2'
        cases he : H5V.Model.HtmlTok.eofLoop o 8 m2 with
        | error e => rw [he] at hfin; cases hfin
        | ok m3 =>
          rw [he] at hfin
          simp only at hfin
          cases hab : absorb m3.out.reverse j2 with
          | error e => rw [hab] at hfin; cases hfin
          | ok j3 =>
            rw [hab] at hfin
            simp only at hfin
            cases hft : finishTB.run j3.tb with
            | error e => rw [hft] at hfin; cases hfin
            | ok v =>
              obtain ⟨⟨⟩, tb⟩ := v
              rw [hft] at hfin
              cases hfin
              obtain ⟨D2, hD2⟩ := jrunsD_of_jrunsTo (jrun_done_jrunsTo o _ _ _ _ _ _ hr)
              exact ⟨Dp, m1, inp, j1, D2, m2, j2, m3, j3, hpro, hD2, he, hab, hft, rfl⟩

/-- the histories of a `Parser::finish` -/
theorem FinishData.hist {o : TOpts} {m : Mach} {j jf : JState} {Dp : Out} {m1 : Mach} {inp : Str} {j1 : JState}
    {D2 : Out} {m2 : Mach} {j2 : JState} {m3 : Mach} {j3 : JState}
    (d : FinishData o m j jf Dp m1 inp j1 D2 m2 j2 m3 j3) (hm : m.out = []) {j0 : JState} (H : Out)
    (hH : absorb H.reverse j0 = .ok j) :
    m1.out = [] ∧ absorb (Dp ++ H).reverse j0 = .ok j1 ∧ absorb (D2 ++ (Dp ++ H)).reverse j0 = .ok j2 ∧
      m2.out = [] ∧ absorb (m3.out ++ (D2 ++ (Dp ++ H))).reverse j0 = .ok j3 ∧
      ∃ l rest, m3.out = (H5V.Model.HtmlTok.Token.eof, l) :: rest := by
  have h1 : m1.out = [] ∧ absorb (Dp ++ H).reverse j0 = .ok j1 := by
    rcases d.pro with ⟨_, rfl, rfl, _, rfl⟩ | ⟨cr, ma, chars, mb, _, _, _, rfl, rfl, hab⟩
    · exact ⟨hm, hH⟩
    · refine ⟨rfl, ?_⟩
      rw [List.reverse_append, absorb_append, hH]
      exact hab
  obtain ⟨g1, g3, _⟩ := jruns_star (j0 := j0) d.run (by show m1.out = []; exact h1.1) _ h1.2
  refine ⟨h1.1, h1.2, g1, g3, ?_, H5V.Props.C04.C04_tok_eof_is_last o 8 m2 m3 d.eof⟩
  rw [List.reverse_append, absorb_append, g1]
  exact d.abs

/-- the tokenizer-only `finish` under an agreeing policy delivers the same history -/
theorem FinishData.star {o : TOpts} {m : Mach} {j jf : JState} {Dp : Out} {m1 : Mach} {inp : Str} {j1 : JState}
    {D2 : Out} {m2 : Mach} {j2 : JState} {m3 : Mach} {j3 : JState}
    (d : FinishData o m j jf Dp m1 inp j1 D2 m2 j2 m3 j3) (hm : m.out = []) {j0 : JState} (H : Out)
    (hH : absorb H.reverse j0 = .ok j) :
    ∀ pol', NoPause pol' → ∀ P, Agrees pol' j0 P → P (D2 ++ (Dp ++ H)) →
      ∀ mf', H5V.Model.HtmlTok.finish o pol' (sh H m) = .ok mf' → mf'.out = m3.out ++ (D2 ++ (Dp ++ H)) := by
  intro pol' hnp P hP hPH mf' hstar
  obtain ⟨hm1, hH1, _, _, _, _⟩ := d.hist hm H hH
  -- the prologue of the tokenizer-only `finish`
  have hpre : H5V.Model.HtmlTok.finishPreE o (sh H m) = .ok (sh (Dp ++ H) m1, inp) := by
    unfold H5V.Model.HtmlTok.finishPreE
    have hcr' : (sh H m).charRef = m.charRef := rfl
    rw [hcr']
    rcases d.pro with ⟨hcr, rfl, rfl, rfl, _⟩ | ⟨cr, ma, chars, mb, hcr, hce, hpc, rfl, rfl, _⟩
    · rw [hcr]; rfl
    · rw [hcr]
      simp only
      rw [crEof_shift, hce]
      simp only [Except.map]
      have hsc : (sh H ma).setCharRef none = sh H (ma.setCharRef none) := rfl
      rw [hsc, processCharRef_shift, hpc]
      rfl
  obtain ⟨_, _, g4⟩ := jruns_star (j0 := j0) d.run (by show m1.out = []; exact hm1) _ hH1
  have ht := g4 pol' hnp P hP hPH
  rw [H5V.Model.HtmlTok.finish_eqE, hpre] at hstar
  simp only [H5V.Model.HtmlTok.finishPost] at hstar
  have hM : (sh (Dp ++ H) m1).setAtEof true = sh (Dp ++ H) (m1.setAtEof true) := rfl
  rw [hM] at hstar
  rcases ht.run (fuelFor (sh (Dp ++ H) (m1.setAtEof true)) inp) with e | e
  · rw [e] at hstar; cases hstar
  · rw [e] at hstar
    simp only [List.isEmpty_nil, Bool.not_true, Bool.false_eq_true, if_false] at hstar
    rw [eofLoop_shift, d.eof] at hstar
    simp only [Except.map] at hstar
    cases hstar
    rfl

end H5V.Lemmas.ParseSpec
