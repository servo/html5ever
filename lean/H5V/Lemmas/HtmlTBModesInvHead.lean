import H5V.Lemmas.HtmlTBModesInvPrim2
/-!
C02 (insertion modes), the invariant `Good` of the specification's run: the rules of "in head" (and its clause for
the `template` end tag, which the other modes share).
-/
set_option linter.unusedSectionVars false
namespace H5V.Lemmas.ModesInv
open H5V.Spec H5V.Spec.TreeModes
open H5V.Spec.TreeAlgo (Str Name nsHtml nsMathml nsSvg inHtml)
open H5V.Spec.TreeAlgo2 (Elem Entry PState)

section
variable {N : Type} [DecidableEq N]

/-! ### the `template` end tag of "in head" -/

@[simp] theorem hd_genAllImpliedThoroughly_mode (s : State N) : (genAllImpliedThoroughly s).mode = s.mode := rfl
@[simp] theorem hd_genAllImpliedThoroughly_orig (s : State N) :
    (genAllImpliedThoroughly s).originalMode = s.originalMode := rfl
@[simp] theorem hd_genAllImpliedThoroughly_tms (s : State N) :
    (genAllImpliedThoroughly s).templateModes = s.templateModes := rfl
@[simp] theorem hd_genAllImpliedThoroughly_stopped (s : State N) : (genAllImpliedThoroughly s).stopped = s.stopped := rfl
@[simp] theorem hd_genAllImpliedThoroughly_list (s : State N) : (genAllImpliedThoroughly s).p.list = s.p.list := rfl

/-- the state "reset the insertion mode appropriately" is applied to by the `template` end tag -/
theorem hd_endTemplate_core (cfg : Config N) (hed : cfg.edition = .customizableSelect) {σ s0 s' : State N}
    (hg : Good σ) (htm0 : s0.templateModes = σ.templateModes) (hl0 : s0.p.list = σ.p.list)
    (h : resetInsertionMode cfg
      { (popUntilPopped s0 "template").clearToLastMarker with
        templateModes := (popUntilPopped s0 "template").clearToLastMarker.templateModes.dropLast } = .ok s') :
    Good s' := by
  have htm : ∀ m ∈ σ.templateModes.dropLast, tmOk m := fun m hm => hg.tm m (List.dropLast_subset _ hm)
  have haf : AFOk (TreeAlgo2.clearToLastMarker σ.p.list) := hg.af.clear
  obtain ⟨m, hs, hm1, hm2, hm3, hm4, hcell⟩ := resetInsertionMode_eff cfg hed
    (by
      show ∀ m ∈ s0.templateModes.dropLast, tmOk m
      rw [htm0]; exact htm) h
  subst hs
  have haf' : AFOk (TreeAlgo2.clearToLastMarker s0.p.list) := by rw [hl0]; exact haf
  have htm' : ∀ m ∈ s0.templateModes.dropLast, tmOk m := by rw [htm0]; exact htm
  by_cases hmc : m = .inCell
  · subst hmc
    exact Good.ofCell rfl (hcell rfl) haf' htm'
  · exact Good.plain ⟨hmc, hm1, hm2, hm3, hm4⟩ haf' htm'

theorem post_inHeadEndTemplate {cfg : Config N} {σ : State N} (hc : Ctx cfg σ) {r : Step N}
    (h : inHeadEndTemplate cfg σ = .ok r) : Post r := by
  unfold inHeadEndTemplate at h
  rcases ite_cases h with ⟨_, h⟩ | ⟨_, h⟩
  · exact post_ignore hc.good h
  · obtain ⟨s1, h1, h2⟩ := bind_ok h
    cases pure_ok h2
    refine fun _ => hd_endTemplate_core cfg hc.ed hc.good ?_ ?_ h1
    · split <;> rfl
    · split <;> rfl

/-! ### "in head" -/

/-- **"in head"** keeps the invariant (from any mode but "text" / "in table text") -/
theorem keeps_inHead : Keeps0 (inHead (N := N)) PreHead := by
  intro cfg hed σ tok r hg hst hpre h
  have hc : Ctx cfg σ := ⟨hed, hg, hst, hpre.1, hpre.2⟩
  -- "anything else", `</head>`: the mode becomes "after head"
  have hae : Good (σ.pop.setMode .afterHead) := hg.toPlain' (m := .afterHead) rfl (by decide)
  unfold inHead at h
  cases tok with
  | character c =>
    dsimp only at h
    rcases ite_cases h with ⟨_, h⟩ | ⟨_, h⟩
    · exact post_insert hg h insertChar_eff
    · cases pure_ok h; exact ⟨hst, hae⟩
  | comment d =>
    dsimp only at h
    exact post_insert hg h insertComment_eff
  | doctype _ _ _ _ =>
    dsimp only at h
    exact post_ignore hg h
  | eof =>
    dsimp only at h
    cases pure_ok h; exact ⟨hst, hae⟩
  | startTag t =>
    rcases inHead_start_eff h with ⟨s', rfl, hu⟩ | ⟨s', e, rfl, he, hne, hm, ho, ht, _, hs, hl⟩ |
      ⟨s', rfl, hm, ht, _, hl⟩ | ⟨s', rfl, hm, ht, _, hl⟩ | rfl
    · exact fun _ => hg.same hu.mode hu.orig hu.tms hu.stack hu.list
    · exact fun _ => hc.enterText (e := e) (by rw [he]) hne hm ho ht hs hl
    · exact fun _ => hg.toPlain' hm (by decide) ht hl
    · exact fun _ => Good.plain' hm (by decide) (hl ▸ hg.af.marker) (ht ▸ tmOk_snoc hg.tm)
    · exact ⟨hst, hae⟩
  | endTag t =>
    dsimp only at h
    rcases ite_cases h with ⟨_, h⟩ | ⟨_, h⟩
    · cases pure_ok h; exact fun _ => hae
    rcases ite_cases h with ⟨_, h⟩ | ⟨_, h⟩
    · cases pure_ok h; exact ⟨hst, hae⟩
    rcases ite_cases h with ⟨_, h⟩ | ⟨_, h⟩
    · exact post_inHeadEndTemplate hc h
    · exact post_ignore hg h

end
end H5V.Lemmas.ModesInv
