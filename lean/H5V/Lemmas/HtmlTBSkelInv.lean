import H5V.Lemmas.HtmlTBSkelClone
/-!
C06 (skeleton invariant): the invariants of the tree-builder state and the two judgements
the walk over the model is phrased in.

* `Late s` — the invariant of every state from the moment `html` has been created: `DomBase`, the
  document's children match `comment* doctype? comment* html comment*`, the open elements are
  elements, none but the bottom one is a child of the document, the head pointer likewise, pending
  table text is non-empty, no insertion mode (current, original, template) is Initial / BeforeHtml;
* `Quiet m` — `m` makes only non-mutating sink calls (queries, parse errors, `pop`, …, and
  `add_attrs_if_missing`), the stack of open elements only shrinks (`QRel`);
* `Pres m` / `PresR m` — `m` preserves `Late` (`PresR`: and its `ProcessResult` is acceptable:
  re-processing happens in a late mode, with a well-formed token);
* `tb_walk` — the tactic that walks a `do` block: bind / if / match structurally, registered
  instances at the leaves.
-/
namespace H5V.Props.C06
open H5V.Model.Dom hiding Str
open H5V.Model.HtmlTB hiding Str
open H5V.Lemmas.Dom

/-! ## modes -/

def isLate (m : Mode) : Bool := m != .initial && m != .beforeHtml

class LateMode (m : Mode) : Prop where
  h : isLate m = true

instance : LateMode .beforeHead := ⟨rfl⟩
instance : LateMode .inHead := ⟨rfl⟩
instance : LateMode .inHeadNoscript := ⟨rfl⟩
instance : LateMode .afterHead := ⟨rfl⟩
instance : LateMode .inBody := ⟨rfl⟩
instance : LateMode .text := ⟨rfl⟩
instance : LateMode .inTable := ⟨rfl⟩
instance : LateMode .inTableText := ⟨rfl⟩
instance : LateMode .inCaption := ⟨rfl⟩
instance : LateMode .inColumnGroup := ⟨rfl⟩
instance : LateMode .inTableBody := ⟨rfl⟩
instance : LateMode .inRow := ⟨rfl⟩
instance : LateMode .inCell := ⟨rfl⟩
instance : LateMode .inTemplate := ⟨rfl⟩
instance : LateMode .afterBody := ⟨rfl⟩
instance : LateMode .inFrameset := ⟨rfl⟩
instance : LateMode .afterFrameset := ⟨rfl⟩
instance : LateMode .afterAfterBody := ⟨rfl⟩
instance : LateMode .afterAfterFrameset := ⟨rfl⟩

/-- no mode the builder is in, will return to, or has stacked for a template is Initial / BeforeHtml -/
structure ML (s : State) : Prop where
  mode : isLate s.mode = true
  orig : ∀ m, s.origMode = some m → isLate m = true
  tm : ∀ m ∈ s.templateModes, isLate m = true

/-! ## the document's children -/

def kinds (d : Dom) : List DocKid := (d.childrenOf 0).map (docKid d)

/-- `comment* doctype? comment*` (no `html` yet); `stage` as in `docPattern` -/
def docPre : Nat → List DocKid → Bool
  | _, [] => true
  | stage, .comment :: rest => docPre stage rest
  | 0, .doctype :: rest => docPre 1 rest
  | _, _ => false

/-- `comment* doctype? comment* (html comment*)?`: what holds in *every* state -/
def docPrefix (l : List DocKid) : Bool := docPre 0 l || docPattern 0 l

theorem docPattern_snoc_comment : ∀ (st : Nat) (l : List DocKid),
    docPattern st (l ++ [.comment]) = docPattern st l
  | st, [] => by simp [docPattern]
  | st, k :: rest => by
    cases k <;> simp only [List.cons_append]
    · simp only [docPattern]; exact docPattern_snoc_comment st rest
    · match st with
      | 0 => simp only [docPattern]; exact docPattern_snoc_comment 1 rest
      | n + 1 => simp [docPattern]
    · match st with
      | 0 => simp only [docPattern]; exact docPattern_snoc_comment 2 rest
      | 1 => simp only [docPattern]; exact docPattern_snoc_comment 2 rest
      | n + 2 => simp [docPattern]
    · simp [docPattern]

theorem docPattern_append_comment {st : Nat} {l : List DocKid} (h : docPattern st l = true) :
    docPattern st (l ++ [.comment]) = true := by
  rw [docPattern_snoc_comment]; exact h

theorem docPre_append_comment : ∀ {st : Nat} {l : List DocKid}, docPre st l = true →
    docPre st (l ++ [.comment]) = true
  | st, [], _ => by simp [docPre]
  | st, k :: rest, h => by
    cases k <;> simp only [List.cons_append]
    · simp only [docPre] at h ⊢; exact docPre_append_comment h
    · match st, h with
      | 0, h => simp only [docPre] at h ⊢; exact docPre_append_comment h
      | n + 1, h => simp [docPre] at h
    · simp [docPre] at h
    · simp [docPre] at h

/-- appending `html` completes the pattern -/
theorem docPre_append_html : ∀ {st : Nat} {l : List DocKid}, st ≤ 1 → docPre st l = true →
    docPattern st (l ++ [.html]) = true
  | 0, [], _, _ => by simp [docPattern]
  | 1, [], _, _ => by simp [docPattern]
  | n + 2, [], hst, _ => by omega
  | st, k :: rest, hst, h => by
    cases k <;> simp only [List.cons_append]
    · simp only [docPre] at h; simp only [docPattern]; exact docPre_append_html hst h
    · match st, h with
      | 0, h => simp only [docPre] at h; simp only [docPattern]; exact docPre_append_html (by omega) h
      | n + 1, h => simp [docPre] at h
    · simp [docPre] at h
    · simp [docPre] at h

/-- all comments: a doctype may still be appended -/
theorem docPre_append_doctype {l : List DocKid} (h : ∀ k ∈ l, k = .comment) :
    docPre 0 (l ++ [.doctype]) = true := by
  induction l with
  | nil => simp [docPre]
  | cons k rest ih =>
    have hk := h k (by simp)
    subst hk
    simp only [List.cons_append, docPre]
    exact ih (fun k hk => h k (by simp [hk]))

theorem docPre_of_comments {l : List DocKid} (h : ∀ k ∈ l, k = .comment) : docPre 0 l = true := by
  induction l with
  | nil => simp [docPre]
  | cons k rest ih =>
    have hk := h k (by simp)
    subst hk
    simp only [docPre]
    exact ih (fun k hk => h k (by simp [hk]))

/-- the complete pattern contains `html` and nothing but comments, a doctype and `html` -/
theorem docPattern_mem : ∀ {st : Nat} {l : List DocKid}, docPattern st l = true → ∀ k ∈ l, k ≠ .other
  | st, [], _, k, hk => by cases hk
  | st, c :: rest, h, k, hk => by
    simp only [List.mem_cons] at hk
    rcases hk with rfl | hk
    · intro hc; subst hc; simp [docPattern] at h
    · cases c
      · simp only [docPattern] at h; exact docPattern_mem h k hk
      · match st, h with
        | 0, h => simp only [docPattern] at h; exact docPattern_mem h k hk
        | n + 1, h => simp [docPattern] at h
      · match st, h with
        | 0, h => simp only [docPattern] at h; exact docPattern_mem h k hk
        | 1, h => simp only [docPattern] at h; exact docPattern_mem h k hk
        | n + 2, h => simp [docPattern] at h
      · simp [docPattern] at h

theorem docPattern_has_html : ∀ {st : Nat} {l : List DocKid}, st ≤ 1 → docPattern st l = true → .html ∈ l
  | 0, [], _, h => by simp [docPattern] at h
  | 1, [], _, h => by simp [docPattern] at h
  | n + 2, [], hst, _ => by omega
  | st, c :: rest, hst, h => by
    cases c
    · simp only [docPattern] at h; exact List.mem_cons_of_mem _ (docPattern_has_html hst h)
    · match st, h with
      | 0, h => simp only [docPattern] at h; exact List.mem_cons_of_mem _ (docPattern_has_html (by omega) h)
      | n + 1, h => simp [docPattern] at h
    · simp
    · simp [docPattern] at h

theorem docPre_mem : ∀ {st : Nat} {l : List DocKid}, docPre st l = true → ∀ k ∈ l, k = .comment ∨ k = .doctype
  | st, [], _, k, hk => by cases hk
  | st, c :: rest, h, k, hk => by
    simp only [List.mem_cons] at hk
    cases c
    · simp only [docPre] at h
      rcases hk with rfl | hk
      · exact Or.inl rfl
      · exact docPre_mem h k hk
    · match st, h with
      | 0, h =>
        simp only [docPre] at h
        rcases hk with rfl | hk
        · exact Or.inr rfl
        · exact docPre_mem h k hk
      | n + 1, h => simp [docPre] at h
    · simp [docPre] at h
    · simp [docPre] at h

/-! ## relations between arenas -/

/-- nothing but attributes / text contents changed -/
structure SameSk (d d' : Dom) : Prop where
  chg : Chg d d'
  size : d'.size = d.size
  kids : ∀ x, d'.childrenOf x = d.childrenOf x

theorem SameSk.refl (d : Dom) : SameSk d d := ⟨Chg.refl d, rfl, fun _ => rfl⟩

theorem SameSk.trans {a b c : Dom} (h1 : SameSk a b) (h2 : SameSk b c) : SameSk a c :=
  ⟨h1.chg.trans h2.chg, h2.size.trans h1.size, fun x => (h2.kids x).trans (h1.kids x)⟩

theorem SameSk.of_nodes {d d' : Dom} (h : d'.nodes = d.nodes) : SameSk d d' := by
  have hd : ∀ x, d'.dataOf x = d.dataOf x := fun x => by simp [Dom.dataOf, h]
  have hk : ∀ x, d'.childrenOf x = d.childrenOf x := fun x => by simp [Dom.childrenOf, h]
  have hs : d'.size = d.size := by simp [Dom.size, h]
  exact ⟨Chg.of_data_eq (Nat.le_of_eq hs.symm) (fun x _ => hd x), hs, hk⟩

theorem DomBase.sameSk {d d' : Dom} (hb : DomBase d) (h : SameSk d d') : DomBase d' := by
  exact hb.step_same h.chg (no_new_nodes h.size) h.kids

/-- kinds of the document's children are stable as long as the list is -/
theorem kinds_eq {d d' : Dom} (hb : DomBase d) (hc : Chg d d') (hk : d'.childrenOf 0 = d.childrenOf 0) :
    kinds d' = kinds d := by
  unfold kinds
  rw [hk]
  apply List.map_congr_left
  intro c hcm
  exact hc.docKid_eq (hb.kidsLt c hcm)

theorem kinds_snoc {d d' : Dom} (hb : DomBase d) (hc : Chg d d') {c : Id}
    (hk : d'.childrenOf 0 = d.childrenOf 0 ++ [c]) : kinds d' = kinds d ++ [docKid d' c] := by
  unfold kinds
  rw [hk, List.map_append]
  congr 1
  apply List.map_congr_left
  intro c hcm
  exact hc.docKid_eq (hb.kidsLt c hcm)

/-- the arena changed, but no element entered or left the document's child list -/
structure Ext (d d' : Dom) : Prop where
  chg : Chg d d'
  kids0 : ∀ x, d.isElement x = true → (x ∈ d'.childrenOf 0 ↔ x ∈ d.childrenOf 0)

theorem Ext.refl (d : Dom) : Ext d d := ⟨Chg.refl d, fun _ _ => Iff.rfl⟩

theorem Ext.trans {a b c : Dom} (h1 : Ext a b) (h2 : Ext b c) : Ext a c :=
  ⟨h1.chg.trans h2.chg, fun x hx => (h2.kids0 x (h1.chg.isElement hx)).trans (h1.kids0 x hx)⟩

theorem Ext.of_kids0 {d d' : Dom} (hc : Chg d d') (hk : d'.childrenOf 0 = d.childrenOf 0) : Ext d d' :=
  ⟨hc, fun _ _ => by rw [hk]⟩

theorem SameSk.ext {d d' : Dom} (h : SameSk d d') : Ext d d' := Ext.of_kids0 h.chg (h.kids 0)

/-! ## the state invariant -/

structure StOk (s : State) : Prop where
  doc : s.docHandle = 0
  ctx : s.contextElem = none
  oe : ∀ e ∈ s.openElems, s.dom.isElement e = true
  tail : ∀ e ∈ s.openElems.tail, e ∉ s.dom.childrenOf 0
  head : ∀ h, s.headElem = some h → s.dom.isElement h = true ∧ h ∉ s.dom.childrenOf 0
  ptt : ∀ p ∈ s.pendingTableText, p.2 ≠ []

/-- the invariant from the creation of `html` on -/
structure Late (s : State) : Prop where
  base : DomBase s.dom
  pat : docPattern 0 (kinds s.dom) = true
  st : StOk s
  ml : ML s

/-- what a computation that makes no mutating sink call may do to the state -/
structure QRel (s s' : State) : Prop where
  sk : SameSk s.dom s'.dom
  oe : s'.openElems.Sublist s.openElems
  head : s'.headElem = s.headElem
  doc : s'.docHandle = s.docHandle
  ctx : s'.contextElem = s.contextElem
  ptt : s'.pendingTableText = s.pendingTableText
  opts : s'.opts = s.opts
  af : ∀ h t, FormatEntry.element h t ∈ s'.activeFormatting → FormatEntry.element h t ∈ s.activeFormatting
  form : s'.formElem = s.formElem ∨ s'.formElem = none
  fok : s'.framesetOk = true → s.framesetOk = true

theorem QRel.refl (s : State) : QRel s s :=
  ⟨SameSk.refl _, List.Sublist.refl _, rfl, rfl, rfl, rfl, rfl, fun _ _ h => h, Or.inl rfl, fun h => h⟩

theorem QRel.trans {a b c : State} (h1 : QRel a b) (h2 : QRel b c) : QRel a c :=
  ⟨h1.sk.trans h2.sk, h2.oe.trans h1.oe, h2.head.trans h1.head, h2.doc.trans h1.doc, h2.ctx.trans h1.ctx,
   h2.ptt.trans h1.ptt, h2.opts.trans h1.opts, fun h t hm => h1.af h t (h2.af h t hm),
   by rcases h2.form with h | h
      · rw [h]; exact h1.form
      · exact Or.inr h,
   fun h => h1.fok (h2.fok h)⟩

theorem StOk.qrel {s s' : State} (h : StOk s) (q : QRel s s') : StOk s' := by
  refine ⟨q.doc.trans h.doc, q.ctx.trans h.ctx, ?_, ?_, ?_, ?_⟩
  · intro e he; exact q.sk.chg.isElement (h.oe e (q.oe.subset he))
  · intro e he; rw [q.sk.kids]; exact h.tail e (q.oe.tail.subset he)
  · intro x hx
    rw [q.head] at hx
    obtain ⟨h1, h2⟩ := h.head x hx
    exact ⟨q.sk.chg.isElement h1, by rw [q.sk.kids]; exact h2⟩
  · intro p hp; rw [q.ptt] at hp; exact h.ptt p hp

theorem Late.qrel {s s' : State} (h : Late s) (q : QRel s s') (ml : ML s') : Late s' :=
  ⟨h.base.sameSk q.sk, by rw [kinds_eq h.base q.sk.chg (q.sk.kids 0)]; exact h.pat, h.st.qrel q, ml⟩

/-! ## the judgements -/

/-- only non-mutating sink calls; the stack shrinks -/
class Quiet {α : Type} (m : M α) : Prop where
  q : ∀ s a s', ML s → m s = .ok (a, s') → QRel s s' ∧ ML s'

/-- preserves the invariant -/
class Pres {α : Type} (m : M α) : Prop where
  p : ∀ s a s', Late s → m s = .ok (a, s') → Late s' ∧ Ext s.dom s'.dom

/-- a token the rules may be handed: character tokens are non-empty -/
class TokOk (t : Token) : Prop where
  h : ∀ st s, t = .chars st s → s ≠ []

class NE (s : Str) : Prop where
  h : s ≠ []

instance (t : Tag) : TokOk (.tag t) := ⟨by intro _ _ h; cases h⟩
instance (s : Str) : TokOk (.comment s) := ⟨by intro _ _ h; cases h⟩
instance : TokOk .nullChar := ⟨by intro _ _ h; cases h⟩
instance : TokOk .eof := ⟨by intro _ _ h; cases h⟩
instance (st : SplitStatus) (s : Str) [h : NE s] : TokOk (.chars st s) := ⟨by intro _ _ e; cases e; exact h.h⟩

theorem NE.of_tok {st : SplitStatus} {s : Str} (h : TokOk (.chars st s)) : NE s := ⟨h.h st s rfl⟩

/-- an acceptable answer of a rule -/
def ResOk : ProcessResult → Prop
  | .reprocess m t => isLate m = true ∧ TokOk t
  | .reprocessForeign t => TokOk t
  | .splitWhitespace s => s ≠ []
  | _ => True

class ResOkC (r : ProcessResult) : Prop where
  h : ResOk r

instance : ResOkC .done := ⟨trivial⟩
instance : ResOkC .doneAckSelfClosing := ⟨trivial⟩
instance (n : Id) : ResOkC (.script n) := ⟨trivial⟩
instance : ResOkC .toPlaintext := ⟨trivial⟩
instance (k) : ResOkC (.toRawData k) := ⟨trivial⟩
instance (e : Str) : ResOkC (.encodingIndicator e) := ⟨trivial⟩
instance (m : Mode) (t : Token) [h1 : LateMode m] [h2 : TokOk t] : ResOkC (.reprocess m t) := ⟨⟨h1.h, h2⟩⟩
instance (s : Str) [h : NE s] : ResOkC (.splitWhitespace s) := ⟨h.h⟩

/-- preserves the invariant and answers acceptably -/
class PresR (m : M ProcessResult) : Prop where
  p : ∀ s a s', Late s → m s = .ok (a, s') → (Late s' ∧ Ext s.dom s'.dom) ∧ ResOk a

/-! ### structural rules -/

theorem Quiet.bind {α β : Type} {m : M α} {f : α → M β} (h1 : Quiet m) (h2 : ∀ a, Quiet (f a)) :
    Quiet (m >>= f) := by
  constructor
  intro s b s'' hml h
  obtain ⟨a, s', e1, e2⟩ := bind_ok.mp h
  obtain ⟨q1, m1⟩ := h1.q s a s' hml e1
  obtain ⟨q2, m2⟩ := (h2 a).q s' b s'' m1 e2
  exact ⟨q1.trans q2, m2⟩

theorem Quiet.pure {α : Type} (a : α) : Quiet (pure a : M α) := by
  constructor
  intro s b s' hml h
  obtain ⟨_, rfl⟩ := pure_ok.mp h
  exact ⟨QRel.refl _, hml⟩

theorem Quiet.ite {α : Type} {c : Prop} [Decidable c] {a b : M α} (h1 : Quiet a) (h2 : Quiet b) :
    Quiet (if c then a else b) := by
  by_cases hc : c
  · simp only [hc, if_true]; exact h1
  · simp only [hc, if_false]; exact h2

theorem Quiet.throw {α : Type} (e : String) : Quiet (throw e : M α) :=
  ⟨fun _ _ _ _ h => absurd h throw_ok⟩

instance {α β : Type} (m : M α) (f : α → M β) [h1 : Quiet m] [h2 : ∀ a, Quiet (f a)] : Quiet (m >>= f) :=
  Quiet.bind h1 h2
instance {α : Type} (a : α) : Quiet (pure a : M α) := Quiet.pure a
instance {α : Type} (c : Prop) [Decidable c] (a b : M α) [h1 : Quiet a] [h2 : Quiet b] :
    Quiet (if c then a else b) := Quiet.ite h1 h2
instance {α : Type} (e : String) : Quiet (throw e : M α) := Quiet.throw e
instance {α : Type} (c f t : String) : Quiet (panicAt c f t : M α) := Quiet.throw _
instance {α : Type} (w : String) : Quiet (fuelOut w : M α) := Quiet.throw _

theorem Pres.bind {α β : Type} {m : M α} {f : α → M β} (h1 : Pres m) (h2 : ∀ a, Pres (f a)) :
    Pres (m >>= f) := by
  constructor
  intro s b s'' hl h
  obtain ⟨a, s', e1, e2⟩ := bind_ok.mp h
  obtain ⟨l1, x1⟩ := h1.p s a s' hl e1
  obtain ⟨l2, x2⟩ := (h2 a).p s' b s'' l1 e2
  exact ⟨l2, x1.trans x2⟩

theorem Pres.pure {α : Type} (a : α) : Pres (pure a : M α) := by
  constructor
  intro s b s' hl h
  obtain ⟨_, rfl⟩ := pure_ok.mp h
  exact ⟨hl, Ext.refl _⟩

theorem Pres.ite {α : Type} {c : Prop} [Decidable c] {a b : M α} (h1 : Pres a) (h2 : Pres b) :
    Pres (if c then a else b) := by
  by_cases hc : c
  · simp only [hc, if_true]; exact h1
  · simp only [hc, if_false]; exact h2

theorem Pres.of_quiet {α : Type} {m : M α} (h : Quiet m) : Pres m := by
  constructor
  intro s a s' hl e
  obtain ⟨q, ml⟩ := h.q s a s' hl.ml e
  exact ⟨hl.qrel q ml, q.sk.ext⟩

instance (priority := low) {α : Type} (m : M α) [h : Quiet m] : Pres m := Pres.of_quiet h
instance {α β : Type} (m : M α) (f : α → M β) [h1 : Pres m] [h2 : ∀ a, Pres (f a)] : Pres (m >>= f) :=
  Pres.bind h1 h2
instance {α : Type} (c : Prop) [Decidable c] (a b : M α) [h1 : Pres a] [h2 : Pres b] :
    Pres (if c then a else b) := Pres.ite h1 h2

theorem PresR.bind {α : Type} {m : M α} {f : α → M ProcessResult} (h1 : Pres m) (h2 : ∀ a, PresR (f a)) :
    PresR (m >>= f) := by
  constructor
  intro s b s'' hl h
  obtain ⟨a, s', e1, e2⟩ := bind_ok.mp h
  obtain ⟨l1, x1⟩ := h1.p s a s' hl e1
  obtain ⟨⟨l2, x2⟩, r⟩ := (h2 a).p s' b s'' l1 e2
  exact ⟨⟨l2, x1.trans x2⟩, r⟩

theorem PresR.pure (r : ProcessResult) (h : ResOkC r) : PresR (pure r : M ProcessResult) := by
  constructor
  intro s b s' hl e
  obtain ⟨rfl, rfl⟩ := pure_ok.mp e
  exact ⟨⟨hl, Ext.refl _⟩, h.h⟩

theorem PresR.ite {c : Prop} [Decidable c] {a b : M ProcessResult} (h1 : PresR a) (h2 : PresR b) :
    PresR (if c then a else b) := by
  by_cases hc : c
  · simp only [hc, if_true]; exact h1
  · simp only [hc, if_false]; exact h2

theorem PresR.throw (e : String) : PresR (throw e : M ProcessResult) :=
  ⟨fun _ _ _ _ h => absurd h throw_ok⟩

theorem PresR.toPres {m : M ProcessResult} (h : PresR m) : Pres m :=
  ⟨fun s a s' hl e => (h.p s a s' hl e).1⟩

instance {α : Type} (m : M α) (f : α → M ProcessResult) [h1 : Pres m] [h2 : ∀ a, PresR (f a)] : PresR (m >>= f) :=
  PresR.bind h1 h2
instance (r : ProcessResult) [h : ResOkC r] : PresR (pure r : M ProcessResult) := PresR.pure r h
instance (c : Prop) [Decidable c] (a b : M ProcessResult) [h1 : PresR a] [h2 : PresR b] :
    PresR (if c then a else b) := PresR.ite h1 h2
instance (e : String) : PresR (throw e : M ProcessResult) := PresR.throw e
instance (c f t : String) : PresR (panicAt c f t : M ProcessResult) := PresR.throw _
instance (priority := low) (m : M ProcessResult) [h : PresR m] : Pres m := h.toPres

/-- updates of the fields the invariant does not mention -/
theorem pres_modS {f : State → State} (hf : ∀ s, Late s → Late (f s) ∧ (f s).dom = s.dom) : Pres (modS f) :=
  ⟨fun s _ s' hl e => by
    rw [modS_ok.mp e]
    obtain ⟨a, b⟩ := hf s hl
    exact ⟨a, by rw [b]; exact Ext.refl _⟩⟩

theorem Late.free {s s' : State} (h : Late s) (h1 : s'.dom = s.dom) (h2 : s'.openElems = s.openElems)
    (h3 : s'.headElem = s.headElem) (h4 : s'.docHandle = s.docHandle) (h5 : s'.contextElem = s.contextElem)
    (h6 : s'.pendingTableText = s.pendingTableText) (h7 : s'.mode = s.mode) (h8 : s'.origMode = s.origMode)
    (h9 : s'.templateModes = s.templateModes) : Late s' := by
  refine ⟨by rw [h1]; exact h.base, by rw [h1]; exact h.pat, ⟨h4.trans h.st.doc, h5.trans h.st.ctx, ?_, ?_, ?_, ?_⟩,
    ⟨by rw [h7]; exact h.ml.mode, by rw [h8]; exact h.ml.orig, by rw [h9]; exact h.ml.tm⟩⟩
  · rw [h1, h2]; exact h.st.oe
  · rw [h1, h2]; exact h.st.tail
  · rw [h1, h3]; exact h.st.head
  · rw [h6]; exact h.st.ptt


theorem ml_same {s s' : State} (h : ML s) (h1 : s'.mode = s.mode) (h2 : s'.origMode = s.origMode)
    (h3 : s'.templateModes = s.templateModes) : ML s' :=
  ⟨by rw [h1]; exact h.mode, by rw [h2]; exact h.orig, by rw [h3]; exact h.tm⟩

theorem quiet_modS {f : State → State} (hf : ∀ s, ML s → QRel s (f s) ∧ ML (f s)) : Quiet (modS f) :=
  ⟨fun s _ s' hml h => by rw [modS_ok.mp h]; exact hf s hml⟩

/-- the walk: structure by tactic, leaves by instance search -/
syntax "tb_step" : tactic
macro_rules
  | `(tactic| tb_step) => `(tactic|
    first
      | exact inferInstance
      | (haveI : NE _ := NE.of_tok (by assumption); exact inferInstance)
      | with_reducible apply Quiet.bind
      | with_reducible apply Pres.bind
      | with_reducible apply PresR.bind
      | with_reducible apply Quiet.ite
      | with_reducible apply Pres.ite
      | with_reducible apply PresR.ite
      | intro _
      | exact quiet_modS fun s hml =>
          ⟨⟨SameSk.refl _, List.Sublist.refl _, rfl, rfl, rfl, rfl, rfl, fun _ _ h => h, Or.inl rfl, fun h => h⟩,
           ml_same hml rfl rfl rfl⟩
      | exact pres_modS fun s hl => ⟨hl.free rfl rfl rfl rfl rfl rfl rfl rfl rfl, rfl⟩
      | split
      | dsimp only)

syntax "tb_walk" : tactic
macro_rules
  | `(tactic| tb_walk) => `(tactic| repeat' tb_step)

/-! ### primitives -/

instance : Quiet getS := ⟨fun s a s' hml h => by obtain ⟨_, rfl⟩ := getS_ok.mp h; exact ⟨QRel.refl _, hml⟩⟩

theorem quiet_set_of {x : State} {s : State} (hf : ML s → QRel s x ∧ ML x) :
    ∀ a s', ML s → (set x : M Unit) s = .ok (a, s') → QRel s s' ∧ ML s' :=
  fun _ s' hml h => by rw [set_ok.mp h]; exact hf hml

/-- sink calls that leave the nodes alone -/
class QuietOp (op : SinkOp) : Prop where
  h : ∀ (d d' : Dom) (out : Output), d.apply op = .ok (d', out) → d'.nodes = d.nodes

theorem quietOp_of {op : SinkOp}
    (h : ∀ (d d' : Dom) (out : Output), d.applyV Dom.cloneVariant Dom.beforeSiblingVariant op = .ok (d', out) → d'.nodes = d.nodes) :
    QuietOp op := ⟨h⟩

instance (m : Str) : QuietOp (.parseError m) :=
  quietOp_of (by intro d d' out h; simp [Dom.applyV, Dom.parseError] at h; rw [← h.1])
instance : QuietOp .getDocument :=
  quietOp_of (by intro d d' out h; simp [Dom.applyV] at h; rw [← h.1])
instance (t : Id) : QuietOp (.elemName t) :=
  quietOp_of (by
    intro d d' out h
    simp only [Dom.applyV, bind, Except.bind] at h
    cases he : d.elemName t with
    | error e => simp [he] at h
    | ok r => simp [he] at h; rw [← h.1])
instance (a : Id) : QuietOp (.markScriptAlreadyStarted a) :=
  quietOp_of (by intro d d' out h; simp [Dom.applyV] at h; rw [← h.1])
instance (a : Id) : QuietOp (.pop a) :=
  quietOp_of (by intro d d' out h; simp [Dom.applyV] at h; rw [← h.1])
instance (t : Id) : QuietOp (.getTemplateContents t) :=
  quietOp_of (by
    intro d d' out h
    simp only [Dom.applyV, bind, Except.bind] at h
    cases he : d.getTemplateContents t with
    | error e => simp [he] at h
    | ok r => simp [he] at h; rw [← h.1])
instance (a b : Id) : QuietOp (.sameNode a b) :=
  quietOp_of (by intro d d' out h; simp [Dom.applyV] at h; rw [← h.1])
instance (m : QuirksMode) : QuietOp (.setQuirksMode m) :=
  quietOp_of (by intro d d' out h; simp [Dom.applyV, Dom.setQuirksMode] at h; rw [← h.1])
instance (a b c : Id) (p : Option Id) : QuietOp (.associateWithForm a b c p) :=
  quietOp_of (by intro d d' out h; simp [Dom.applyV] at h; rw [← h.1])
instance (t : Id) : QuietOp (.isMathmlAnnotationXmlIntegrationPoint t) :=
  quietOp_of (by
    intro d d' out h
    simp only [Dom.applyV, bind, Except.bind] at h
    cases he : d.isMathmlAnnotationXmlIntegrationPoint t with
    | error e => simp [he] at h
    | ok r => simp [he] at h; rw [← h.1])
instance (l : Nat) : QuietOp (.setCurrentLine l) :=
  quietOp_of (by intro d d' out h; simp [Dom.applyV] at h; rw [← h.1])
instance (p : Id) : QuietOp (.allowDeclarativeShadowRoots p) :=
  quietOp_of (by intro d d' out h; simp [Dom.applyV] at h; rw [← h.1])
instance (a b : Id) (c : List Attr) : QuietOp (.attachDeclarativeShadow a b c) :=
  quietOp_of (by intro d d' out h; simp [Dom.applyV] at h; rw [← h.1])

theorem qrel_dom {s : State} {d : Dom} {tr : List (SinkOp × Output)} (h : SameSk s.dom d) :
    QRel s { s with dom := d, traceRev := tr } :=
  ⟨h, List.Sublist.refl _, rfl, rfl, rfl, rfl, rfl, fun _ _ h => h, Or.inl rfl, fun h => h⟩

theorem ml_dom {s : State} {d : Dom} {tr : List (SinkOp × Output)} (h : ML s) :
    ML { s with dom := d, traceRev := tr } := ⟨h.mode, h.orig, h.tm⟩

instance (op : SinkOp) [h : QuietOp op] : Quiet (sink op) :=
  ⟨fun s a s' hml e => by
    obtain ⟨d, hd, rfl⟩ := sink_ok.mp e
    exact ⟨qrel_dom (SameSk.of_nodes (h.h _ _ _ hd)), ml_dom hml⟩⟩

/-- `add_attrs_if_missing` is quiet as well: only attributes change -/
instance (t : Id) (a : List Attr) : Quiet (sink (.addAttrsIfMissing t a)) :=
  ⟨fun s _ s' hml e => by
    obtain ⟨d, hd, rfl⟩ := sink_ok.mp e
    refine ⟨qrel_dom ?_, ml_dom hml⟩
    have hd' : s.dom.applyV Dom.cloneVariant Dom.beforeSiblingVariant (.addAttrsIfMissing t a) = .ok (d, _) := hd
    simp only [Dom.applyV, bind, Except.bind] at hd'
    cases ha : s.dom.addAttrsIfMissing t a with
    | error e => simp [ha] at hd'
    | ok d1 =>
      simp [ha] at hd'
      obtain ⟨name, ex, tc, ip, hdt, hsh, hdd, hs⟩ := addAttrsIfMissing_ok ha
      rw [← hd'.1]
      exact ⟨Chg.of_one hs hdd (by rw [hdt]; exact .attrs ..), hs, hsh.children⟩⟩

instance (op : SinkOp) [Quiet (sink op)] : Quiet (sinkUnit op) := by unfold sinkUnit; infer_instance
instance (op : SinkOp) [Quiet (sink op)] : Quiet (sinkNode op) := by unfold sinkNode; tb_walk
instance (op : SinkOp) [Quiet (sink op)] : Quiet (sinkBool op) := by unfold sinkBool; tb_walk
instance (m : String) : Quiet (parseError m) := by unfold parseError; infer_instance
instance (h : Id) : Quiet (elemName h) := by unfold elemName; tb_walk
instance (a b : Id) : Quiet (sameNode a b) := by unfold sameNode; infer_instance

end H5V.Props.C06
