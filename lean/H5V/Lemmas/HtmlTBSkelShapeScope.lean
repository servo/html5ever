import H5V.Lemmas.HtmlTBSkelShapeBig
/-!
C06, second invariant layer: pops guarded by a scope test (`in_scope(...)` followed by
`generate_implied_end_tags` / `pop_until…`) and by a test of the current node preserve `Big`.
`PBsc sc P prog`: `prog` preserves `Big` when started in a state where an element satisfying `P` is in
the scope `sc`.
-/
namespace H5V.Props.C06
open H5V.Model.Dom hiding Str
open H5V.Model.HtmlTB hiding Str
open H5V.Lemmas.Dom

/-- an element whose name satisfies `P` is on the stack with no `P`-element and no `sc`-boundary above it -/
def InScP (sc P : EName → Bool) (s : State) : Prop :=
  ∃ below x above, s.openElems = below ++ x :: above ∧ P (nm s.dom x) = true ∧
    ∀ y ∈ above, P (nm s.dom y) = false ∧ sc (nm s.dom y) = false

/-- the scope has `html`, `table`, `template` among its boundaries -/
class ScBase (sc : EName → Bool) : Prop where
  h : ∀ n, htmlIn n ["html", "table", "template"] = true → sc n = true

/-- elements satisfying `P` may be popped -/
class PlainP (P : EName → Bool) : Prop where
  h : ∀ n, P n = true → keepName n = false

/-- the monadic predicate `pred` tests the name with `P` -/
class PredSem (pred : Id → M Bool) (P : outParam (EName → Bool)) : Prop where
  h : ∀ n s b s', pred n s = .ok (b, s') → QS s s' ∧ b = P (nm s.dom n)

instance (name : Str) : PredSem (fun h => htmlElemNamedS h name) (fun n => n.ns == nsHtml && n.loc == name) :=
  ⟨fun n s b s' e => let ⟨q, hb, _⟩ := htmlElemNamedS_sem e; ⟨q, hb⟩⟩
instance (set : EName → Bool) : PredSem (fun h => elemIn h set) set :=
  ⟨fun n s b s' e => elemIn_sem e⟩

theorem scBase_of_special {sc : EName → Bool} (h : ∀ n, htmlDefaultScope n = true → sc n = true)
    (hd : ∀ a, a ∈ ["html", "table", "template"] → htmlDefaultScope (hN a) = true) : ScBase sc :=
  ⟨fun n hn => by obtain ⟨a, ha, rfl⟩ := htmlIn_eq hn; exact h _ (hd a ha)⟩

instance : ScBase tableScope := ⟨fun n h => h⟩

class PBsc {α : Type} (sc P : EName → Bool) (prog : M α) : Prop where
  p : ∀ m r ph s a s', Big m r ph s → InScP sc P s → prog s = .ok (a, s') →
    Big m r ph s' ∧ s'.mode = s.mode ∧ s'.origMode = s.origMode

theorem InScP.qs {sc P : EName → Bool} {s s' : State} (h : InScP sc P s) (q : QS s s') : InScP sc P s' := by
  obtain ⟨below, x, above, h1, h2, h3⟩ := h
  exact ⟨below, x, above, by rw [q.openElems]; exact h1, by rw [q.nm]; exact h2,
    fun y hy => by rw [q.nm]; exact h3 y hy⟩

/-- the fact is not needed -/
instance (priority := low) {α : Type} (sc P : EName → Bool) (prog : M α) [h : PB prog] : PBsc sc P prog :=
  ⟨fun m r ph s a s' hb _ e => h.p m r ph s a s' hb e⟩

theorem PBsc.bindQ {α β : Type} {sc P : EName → Bool} {m : M α} {f : α → M β} (h1 : IsQ m)
    (h2 : ∀ a, PBsc sc P (f a)) : PBsc sc P (m >>= f) :=
  ⟨fun md r ph s b s'' hb hi e => by
    obtain ⟨a, s', e1, e2⟩ := bind_ok.mp e
    have q := h1.q s a s' e1
    obtain ⟨b2, m2, o2⟩ := (h2 a).p md r ph s' b s'' (hb.qs q) (hi.qs q) e2
    exact ⟨b2, m2.trans q.mode, o2.trans (by rw [q.rest])⟩⟩

theorem PBsc.dite {α : Type} {sc P : EName → Bool} {c : Prop} [Decidable c] {a b : M α}
    (h1 : c → PBsc sc P a) (h2 : ¬c → PBsc sc P b) : PBsc sc P (if c then a else b) := by
  by_cases hc : c
  · simp only [hc, if_true]; exact h1 hc
  · simp only [hc, if_false]; exact h2 hc

/-- implied end tags that do not include the element in scope -/
theorem PBsc.bindImplied {β : Type} {sc P set : EName → Bool} {f : Unit → M β}
    (hset : ∀ n, P n = true → set n = false) (hkeep : ∀ n, set n = true → keepName n = false)
    (h2 : ∀ a, PBsc sc P (f a)) : PBsc sc P (generateImpliedEndTags set >>= f) :=
  ⟨fun md r ph s b s'' hb hi e => by
    obtain ⟨a, s', e1, e2⟩ := bind_ok.mp e
    obtain ⟨popped, p, hp1, _⟩ := generateImpliedEndTags_sem e1
    have hb' : Big md r ph s' := hb.pop p (fun x hx => hkeep _ (hp1 x hx))
    obtain ⟨below, x, above, h1, h2', h3⟩ := hi
    -- the element in scope is not popped
    have hst := p.stack
    rw [h1] at hst
    have hxn : x ∉ popped := fun hm => by
      have := hp1 x hm; rw [hset _ h2'] at this; cases this
    -- so the popped elements are a top segment of `above`
    have hsplit : ∃ above', above = above' ++ popped ∧ s'.openElems = below ++ x :: above' := by
      have : (below ++ [x]) ++ above = s'.openElems ++ popped := by rw [← hst]; simp
      -- compare lengths from the right
      rcases List.append_eq_append_iff.mp this with ⟨a', ha1, ha2⟩ | ⟨c', hc1, hc2⟩
      · exact ⟨a', ha2, by rw [ha1]; simp⟩
      · rcases nil_or_concat c' with rfl | ⟨c0, z, rfl⟩
        · simp only [List.append_nil, List.nil_append] at hc1 hc2
          exact ⟨[], by simp [hc2], by rw [← hc1]⟩
        · exfalso
          have : below ++ [x] = (s'.openElems ++ c0) ++ [z] := by rw [hc1]; simp
          obtain ⟨_, hz⟩ := List.append_inj' this rfl
          simp at hz; subst hz
          exact hxn (by rw [hc2]; simp)
    obtain ⟨above', ha, hs'⟩ := hsplit
    have hi' : InScP sc P s' := ⟨below, x, above', hs', by rw [p.nm]; exact h2',
      fun y hy => by rw [p.nm]; exact h3 y (by rw [ha]; exact List.mem_append_left _ hy)⟩
    obtain ⟨b2, m2, o2⟩ := (h2 a).p md r ph s' b s'' hb' hi' e2
    exact ⟨b2, m2.trans (by rw [p.rest]), o2.trans (by rw [p.rest])⟩⟩

/-- the split of a list at its last element satisfying `p` is unique -/
theorem last_split_unique {p : Id → Bool} : ∀ {l1 l2 a1 a2 : List Id} {x m : Id},
    l1 ++ x :: a1 = l2 ++ m :: a2 → p x = true → p m = true → (∀ y ∈ a1, p y = false) → (∀ y ∈ a2, p y = false) →
    l1 = l2 ∧ x = m ∧ a1 = a2 := by
  intro l1 l2 a1 a2 x m h hx hm h1 h2
  rcases List.append_eq_append_iff.mp h with ⟨c, hc1, hc2⟩ | ⟨c, hc1, hc2⟩
  · cases c with
    | nil => simp at hc1 hc2; exact ⟨hc1.symm, hc2.1, hc2.2⟩
    | cons z c' =>
      simp only [List.cons_append, List.cons.injEq] at hc2
      -- m ∈ a1
      have : m ∈ a1 := by rw [hc2.2]; simp
      rw [h1 m this] at hm; cases hm
  · cases c with
    | nil => simp at hc1 hc2; exact ⟨hc1, hc2.1.symm, hc2.2.symm⟩
    | cons z c' =>
      simp only [List.cons_append, List.cons.injEq] at hc2
      have : x ∈ a2 := by rw [hc2.2]; simp
      rw [h2 x this] at hx; cases hx

theorem Big.pop_inScope {m : Mode} {r : Id} {ph : Phase} {sc P : EName → Bool} [hsc : ScBase sc] [hP : PlainP P]
    {s s' : State} {popped : List Id} (h : Big m r ph s) (hi : InScP sc P s) (p : PR s s' popped)
    (hpop : (∃ mm above, popped = mm :: above ∧ P (nm s.dom mm) = true ∧ ∀ x ∈ above, P (nm s.dom x) = false) ∨
      (s'.openElems = [] ∧ ∀ x ∈ popped, P (nm s.dom x) = false)) : Big m r ph s' := by
  obtain ⟨below, x, above, h1, h2, h3⟩ := hi
  have hab : ∀ y ∈ above, htmlIn (nm s.dom y) ["html", "table", "template"] = false := by
    intro y hy
    cases hh : htmlIn (nm s.dom y) ["html", "table", "template"] with
    | false => rfl
    | true => have := hsc.h _ hh; rw [(h3 y hy).2] at this; cases this
  rcases hpop with ⟨mm, ab2, hpo, hm, hab2⟩ | ⟨hem, hall⟩
  · have hst := p.stack
    rw [h1, hpo] at hst
    obtain ⟨_, rfl, rfl⟩ := last_split_unique (p := fun y => P (nm s.dom y)) hst h2 hm (fun y hy => (h3 y hy).1) hab2
    refine h.pop_above h1 (hP.h _ h2) hab p ?_
    intro y hy
    rw [hpo] at hy
    simpa using hy
  · exfalso
    have hst := p.stack
    rw [hem, h1] at hst
    have : x ∈ popped := by
      simp only [List.nil_append] at hst
      rw [← hst]; simp
    rw [hall x this] at h2; cases h2

instance {β : Type} (sc P : EName → Bool) [ScBase sc] [PlainP P] (f : Nat → M β) [h2 : ∀ a, PB (f a)] :
    PBsc sc P (popUntil P >>= f) :=
  ⟨fun md r ph s b s'' hb hi e => by
    obtain ⟨a, s', e1, e2⟩ := bind_ok.mp e
    obtain ⟨popped, p, hp⟩ := popUntil_sem e1
    obtain ⟨b2, m2, o2⟩ := (h2 a).p md r ph s' b s'' (hb.pop_inScope hi p hp) e2
    exact ⟨b2, m2.trans (by rw [p.rest]), o2.trans (by rw [p.rest])⟩⟩

instance (sc P : EName → Bool) [ScBase sc] [PlainP P] : PBsc sc P (popUntil P) :=
  ⟨fun md r ph s b s'' hb hi e => by
    obtain ⟨popped, p, hp⟩ := popUntil_sem e
    exact ⟨hb.pop_inScope hi p hp, by rw [p.rest], by rw [p.rest]⟩⟩

/-- the answer `true` of a scope test -/
theorem inScope_inScP {sc P : EName → Bool} {pred : Id → M Bool} [hs : PredSem pred P] {s s' : State} {b : Bool}
    (e : inScope sc pred s = .ok (b, s')) : QS s s' ∧ (b = true → InScP sc P s) := by
  unfold inScope at e
  rw [getS_bind] at e
  obtain ⟨q, hres⟩ := inScopeLoop_sem sc pred (fun n => P (nm s.dom n)) s
    (fun n s1 b1 s2 q0 e0 => by
      obtain ⟨q1, hb1⟩ := hs.h n s1 b1 s2 e0
      exact ⟨q1, by rw [hb1, q0.nm]⟩) _ s s' b (QS.refl _) e
  refine ⟨q, fun hb => ?_⟩
  obtain ⟨pre, x, post, hl, hx, hpre⟩ := hres hb
  obtain ⟨_, hsplit⟩ := getElem?_of_reverse_split hl
  exact ⟨post.reverse, x, pre.reverse, hsplit, hx, fun y hy => hpre y (List.mem_reverse.mp hy)⟩

/-- entry: a scope test; its `true` branch may use the fact -/
theorem PB.ofInScope {β : Type} {sc P : EName → Bool} {pred : Id → M Bool} [hs : PredSem pred P] {f : Bool → M β}
    (ht : PBsc sc P (f true)) (hf : PB (f false)) : PB (inScope sc pred >>= f) :=
  ⟨fun md r ph s b s'' hb e => by
    obtain ⟨a, s', e1, e2⟩ := bind_ok.mp e
    obtain ⟨q, hi⟩ := inScope_inScP e1
    have hmo : s'.mode = s.mode ∧ s'.origMode = s.origMode := ⟨q.mode, by rw [q.rest]⟩
    cases a with
    | false =>
      obtain ⟨b2, m2, o2⟩ := hf.p md r ph s' b s'' (hb.qs q) e2
      exact ⟨b2, m2.trans hmo.1, o2.trans hmo.2⟩
    | true =>
      obtain ⟨b2, m2, o2⟩ := ht.p md r ph s' b s'' (hb.qs q) ((hi rfl).qs q) e2
      exact ⟨b2, m2.trans hmo.1, o2.trans hmo.2⟩⟩

/-! ### instances for the walk -/

/-- the name predicate of `html_elem_named(_, X)` -/
abbrev namedP (X : Str) : EName → Bool := fun n => n.ns == nsHtml && n.loc == X
attribute [lit_name] namedP

/-- `X` is not one of the protected names -/
class PlainStr (X : Str) : Prop where
  h : keepName ⟨nsHtml, X⟩ = false

theorem namedP_eq {X : Str} {n : EName} (h : namedP X n = true) : n = ⟨nsHtml, X⟩ := by
  simp only [namedP, Bool.and_eq_true, beq_iff_eq] at h
  cases n; simp_all

instance (X : Str) [h : PlainStr X] : PlainP (namedP X) := ⟨fun n hn => by rw [namedP_eq hn]; exact h.h⟩

instance : PlainP headingTag := ⟨fun n hn => by
  obtain ⟨a, ha, rfl⟩ := htmlIn_eq hn
  revert a; decide +kernel⟩

/-- `X` is not one of the implied-end names -/
class NotCursory (X : Str) : Prop where
  h : cursoryImpliedEnd ⟨nsHtml, X⟩ = false

instance : ScBase defaultScope := ⟨fun n hn => by
  obtain ⟨a, ha, rfl⟩ := htmlIn_eq hn
  revert a; decide +kernel⟩
instance : ScBase buttonScope := ⟨fun n hn => by
  obtain ⟨a, ha, rfl⟩ := htmlIn_eq hn
  revert a; decide +kernel⟩
instance : ScBase listItemScope := ⟨fun n hn => by
  obtain ⟨a, ha, rfl⟩ := htmlIn_eq hn
  revert a; decide +kernel⟩

instance {α β : Type} (sc P : EName → Bool) (m : M α) (f : α → M β) [h1 : IsQ m] [h2 : ∀ a, PBsc sc P (f a)] :
    PBsc sc P (m >>= f) := PBsc.bindQ h1 h2

instance {β : Type} (sc : EName → Bool) (X : Str) [hn : NotCursory X] (f : Unit → M β)
    [h2 : ∀ a, PBsc sc (namedP X) (f a)] : PBsc sc (namedP X) (generateImpliedEndTags cursoryImpliedEnd >>= f) :=
  PBsc.bindImplied (fun n h => by rw [namedP_eq h]; exact hn.h) (fun n h => keepName_cursory h) h2

instance {β : Type} (sc : EName → Bool) (f : Unit → M β) [h2 : ∀ a, PBsc sc headingTag (f a)] :
    PBsc sc headingTag (generateImpliedEndTags cursoryImpliedEnd >>= f) :=
  PBsc.bindImplied (fun n h => by
    obtain ⟨a, ha, rfl⟩ := htmlIn_eq h
    revert a; decide +kernel) (fun n h => keepName_cursory h) h2

instance {β : Type} (sc : EName → Bool) (X : Str) (f : Unit → M β) [h2 : ∀ a, PBsc sc (namedP X) (f a)] :
    PBsc sc (namedP X) (generateImpliedEndExcept X >>= f) := by
  unfold generateImpliedEndExcept
  refine PBsc.bindImplied (fun n h => ?_) (fun n h => ?_) h2
  · unfold impliedExcept
    simp only [namedP, Bool.and_eq_true, beq_iff_eq] at h
    simp [h.1, h.2]
  · unfold impliedExcept at h
    split at h
    · cases h
    · exact keepName_cursory h

instance {β : Type} (sc : EName → Bool) (f : Unit → M β) [h2 : ∀ a, PBsc sc (namedP "p".toList) (f a)] :
    PBsc sc (namedP "p".toList) (generateImpliedEndTags impliedExceptP >>= f) := by
  refine PBsc.bindImplied (fun n h => ?_) (fun n h => ?_) h2
  · rw [namedP_eq h]; decide
  · unfold impliedExceptP at h
    split at h
    · cases h
    · exact keepName_cursory h

instance {β : Type} (sc : EName → Bool) (X : Str) [ScBase sc] [PlainStr X] (f : Nat → M β) [∀ a, PB (f a)] :
    PBsc sc (namedP X) (popUntilNamedS X >>= f) := by unfold popUntilNamedS; infer_instance
instance (sc : EName → Bool) (X : Str) [ScBase sc] [PlainStr X] : PBsc sc (namedP X) (popUntilNamedS X) := by
  unfold popUntilNamedS; infer_instance
instance {β : Type} (sc : EName → Bool) (X : String) [ScBase sc] [PlainStr X.toList] (f : Nat → M β) [∀ a, PB (f a)] :
    PBsc sc (namedP X.toList) (popUntilNamed X >>= f) := by unfold popUntilNamed; infer_instance
instance (sc : EName → Bool) (X : Str) [ScBase sc] [PlainStr X] : PBsc sc (namedP X) (expectToCloseS X) := by
  unfold expectToCloseS; infer_instance
instance {β : Type} (sc : EName → Bool) (X : Str) [ScBase sc] [PlainStr X] (f : Unit → M β) [h : ∀ a, PB (f a)] :
    PBsc sc (namedP X) (expectToCloseS X >>= f) :=
  ⟨fun md r ph s b s'' hb hi e => by
    obtain ⟨a, s', e1, e2⟩ := bind_ok.mp e
    obtain ⟨b1, m1, o1⟩ := (inferInstance : PBsc sc (namedP X) (expectToCloseS X)).p md r ph s a s' hb hi e1
    obtain ⟨b2, m2, o2⟩ := (h a).p md r ph s' b s'' b1 e2
    exact ⟨b2, m2.trans m1, o2.trans o1⟩⟩
instance (sc : EName → Bool) (X : String) [ScBase sc] [PlainStr X.toList] : PBsc sc (namedP X.toList) (expectToClose X) := by
  unfold expectToClose; infer_instance

/-- the element names used literally by the rules are disposable -/
theorem keepName_lits : ∀ a ∈ ["p", "button", "select", "form", "a", "nobr", "img", "option"], keepName (hN a) = false := by
  decide +kernel

instance : PlainStr "p".toList := ⟨keepName_lits _ (by simp)⟩
instance : PlainStr "button".toList := ⟨keepName_lits _ (by simp)⟩
instance : PlainStr "select".toList := ⟨keepName_lits _ (by simp)⟩
instance : PlainStr "form".toList := ⟨keepName_lits _ (by simp)⟩
instance : NotCursory "button".toList := ⟨by decide +kernel⟩
instance : NotCursory "form".toList := ⟨by decide +kernel⟩

instance (sc : EName → Bool) [ScBase sc] : PBsc sc (namedP "p".toList) closePElement := by
  unfold closePElement; infer_instance

/-- entry rules: `if ← in_scope… then A else B` and `if !(← in_scope…) then A else B` -/
theorem PB.guardPos {β : Type} {sc P : EName → Bool} {pred : Id → M Bool} [PredSem pred P] {A B : M β}
    (ht : PBsc sc P A) (hf : PB B) : PB (inScope sc pred >>= fun b => if b = true then A else B) :=
  PB.ofInScope (f := fun b => if b = true then A else B) (by simpa using ht) (by simpa using hf)

theorem PB.guardNeg {β : Type} {sc P : EName → Bool} {pred : Id → M Bool} [PredSem pred P] {A B : M β}
    (ht : PB A) (hf : PBsc sc P B) : PB (inScope sc pred >>= fun b => if (!b) = true then A else B) :=
  PB.ofInScope (f := fun b => if (!b) = true then A else B) (by simpa using hf) (by simpa using ht)

theorem PB.guardPosS {β : Type} {sc : EName → Bool} {X : Str} {A B : M β}
    (ht : PBsc sc (namedP X) A) (hf : PB B) : PB (inScopeNamedS sc X >>= fun b => if b = true then A else B) := by
  unfold inScopeNamedS; exact PB.guardPos ht hf
theorem PB.guardNegS {β : Type} {sc : EName → Bool} {X : Str} {A B : M β}
    (ht : PB A) (hf : PBsc sc (namedP X) B) : PB (inScopeNamedS sc X >>= fun b => if (!b) = true then A else B) := by
  unfold inScopeNamedS; exact PB.guardNeg ht hf
theorem PB.guardPosN {β : Type} {sc : EName → Bool} {X : String} {A B : M β}
    (ht : PBsc sc (namedP X.toList) A) (hf : PB B) : PB (inScopeNamed sc X >>= fun b => if b = true then A else B) := by
  unfold inScopeNamed; exact PB.guardPosS ht hf
theorem PB.guardNegN {β : Type} {sc : EName → Bool} {X : String} {A B : M β}
    (ht : PB A) (hf : PBsc sc (namedP X.toList) B) : PB (inScopeNamed sc X >>= fun b => if (!b) = true then A else B) := by
  unfold inScopeNamed; exact PB.guardNegS ht hf

instance : PB closePElementInButtonScope := by
  unfold closePElementInButtonScope
  exact PB.guardPosN (sc := buttonScope) inferInstance inferInstance

end H5V.Props.C06
