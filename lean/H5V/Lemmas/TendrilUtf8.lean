import H5V.Props.C11
/-!
The format laws (`H5V.Props.C11.Laws`) for `Format.utf8`.

`validUtf8` is the table-driven decoder of Unicode Table 3-7 (the model of `str::from_utf8`);
`utf8ValidatePrefix` / `utf8ValidateSuffix` are the `futf::classify`-based checks of `tendril::fmt::UTF8`.
The file shows that the two agree on every part of a valid string, that validity is closed under
concatenation, that `encodeUtf8` produces valid bytes and that every index reported by `utf8Chars`
is a character boundary.
-/
namespace H5V.Lemmas.Tendril.Utf8
open H5V.Model.Tendril H5V.Props.C11

/-- the byte ranges of Table 3-7, row by row as `utf8Head` tests them -/
def C1 (a : UInt8) : Prop := a.toNat < 0x80
def C2 (a b : UInt8) : Prop := 0xC2 ≤ a.toNat ∧ a.toNat ≤ 0xDF ∧ 0x80 ≤ b.toNat ∧ b.toNat ≤ 0xBF
def C3 (a b c : UInt8) : Prop :=
  (0xE0 ≤ a.toNat ∧ a.toNat ≤ 0xE0 ∧ 0xA0 ≤ b.toNat ∧ b.toNat ≤ 0xBF ∨
   0xE1 ≤ a.toNat ∧ a.toNat ≤ 0xEC ∧ 0x80 ≤ b.toNat ∧ b.toNat ≤ 0xBF ∨
   0xED ≤ a.toNat ∧ a.toNat ≤ 0xED ∧ 0x80 ≤ b.toNat ∧ b.toNat ≤ 0x9F ∨
   0xEE ≤ a.toNat ∧ a.toNat ≤ 0xEF ∧ 0x80 ≤ b.toNat ∧ b.toNat ≤ 0xBF) ∧
  0x80 ≤ c.toNat ∧ c.toNat ≤ 0xBF
def C4 (a b c d : UInt8) : Prop :=
  (0xF0 ≤ a.toNat ∧ a.toNat ≤ 0xF0 ∧ 0x90 ≤ b.toNat ∧ b.toNat ≤ 0xBF ∨
   0xF1 ≤ a.toNat ∧ a.toNat ≤ 0xF3 ∧ 0x80 ≤ b.toNat ∧ b.toNat ≤ 0xBF ∨
   0xF4 ≤ a.toNat ∧ a.toNat ≤ 0xF4 ∧ 0x80 ≤ b.toNat ∧ b.toNat ≤ 0x8F) ∧
  0x80 ≤ c.toNat ∧ c.toNat ≤ 0xBF ∧ 0x80 ≤ d.toNat ∧ d.toNat ≤ 0xBF

/-! ## sequences by value -/

/-- a start byte announcing two (three, four) bytes, followed by continuation bytes -/
def Seq2 (a b : UInt8) : Prop := 0xC0 ≤ a.toNat ∧ a.toNat < 0xE0 ∧ 0x80 ≤ b.toNat ∧ b.toNat < 0xC0
def Seq3 (a b c : UInt8) : Prop :=
  0xE0 ≤ a.toNat ∧ a.toNat < 0xF0 ∧ 0x80 ≤ b.toNat ∧ b.toNat < 0xC0 ∧ 0x80 ≤ c.toNat ∧ c.toNat < 0xC0
def Seq4 (a b c d : UInt8) : Prop :=
  0xF0 ≤ a.toNat ∧ a.toNat < 0xF8 ∧ 0x80 ≤ b.toNat ∧ b.toNat < 0xC0 ∧ 0x80 ≤ c.toNat ∧ c.toNat < 0xC0 ∧
  0x80 ≤ d.toNat ∧ d.toNat < 0xC0

/-- the payload bits of a sequence -/
def val2 (a b : UInt8) : Nat := (a.toNat % 32) * 64 + b.toNat % 64
def val3 (a b c : UInt8) : Nat := (a.toNat % 16) * 4096 + (b.toNat % 64) * 64 + c.toNat % 64
def val4 (a b c d : UInt8) : Nat :=
  (a.toNat % 8) * 262144 + (b.toNat % 64) * 4096 + (c.toNat % 64) * 64 + d.toNat % 64

/- On a sequence of the right shape, masking the marker bits is a subtraction: the payload is the
base-64 reading of the bytes minus a constant (`0x3080 = 0xC0 * 64 + 0x80`, and so on).  Everything
else about payloads follows from these three equations by linear arithmetic. -/
theorem val2_lin {a b : UInt8} (h : Seq2 a b) : val2 a b + 0x3080 = a.toNat * 64 + b.toNat := by
  unfold Seq2 at h; unfold val2; omega
theorem val3_lin {a b c : UInt8} (h : Seq3 a b c) :
    val3 a b c + 0xE2080 = a.toNat * 4096 + b.toNat * 64 + c.toNat := by
  unfold Seq3 at h; unfold val3; omega
theorem val4_lin {a b c d : UInt8} (h : Seq4 a b c d) :
    val4 a b c d + 0x3C82080 = a.toNat * 262144 + b.toNat * 4096 + c.toNat * 64 + d.toNat := by
  unfold Seq4 at h; unfold val4; omega

/-- Table 3-7 by value: the byte ranges of the table single out the shortest encodings of the
scalar values -/
theorem C2_iff {a b : UInt8} : C2 a b ↔ Seq2 a b ∧ 0x80 ≤ val2 a b := by
  constructor
  · intro h
    have hs : Seq2 a b := by unfold C2 at h; unfold Seq2; omega
    have := val2_lin hs
    unfold C2 at h; exact ⟨hs, by omega⟩
  · rintro ⟨hs, h1⟩
    have := val2_lin hs
    unfold Seq2 at hs; unfold C2; omega
theorem C3_iff {a b c : UInt8} :
    C3 a b c ↔ Seq3 a b c ∧ 0x7FF < val3 a b c ∧ ¬ (0xD800 ≤ val3 a b c ∧ val3 a b c ≤ 0xDFFF) := by
  constructor
  · intro h
    have hs : Seq3 a b c := by unfold C3 at h; unfold Seq3; omega
    have := val3_lin hs
    unfold C3 at h; exact ⟨hs, by omega⟩
  · rintro ⟨hs, h1⟩
    have := val3_lin hs
    unfold Seq3 at hs; unfold C3; omega
theorem C4_iff {a b c d : UInt8} :
    C4 a b c d ↔ Seq4 a b c d ∧ 0x10000 ≤ val4 a b c d ∧ val4 a b c d ≤ 0x10FFFF := by
  constructor
  · intro h
    have hs : Seq4 a b c d := by unfold C4 at h; unfold Seq4; omega
    have := val4_lin hs
    unfold C4 at h; exact ⟨hs, by omega⟩
  · rintro ⟨hs, h1⟩
    have := val4_lin hs
    unfold Seq4 at hs; unfold C4; omega

theorem ofNat_toNat {n : Nat} (h : n < 256) : (UInt8.ofNat n).toNat = n := by
  rw [UInt8.toNat_ofNat']; exact Nat.mod_eq_of_lt h

/-! ### the encoder's bytes

The bytes every UTF-8 encoder in sight writes for a value of the 2-, 3-, 4-byte range form a
sequence with that value as payload (`enc*_spec`); conversely a sequence is what is written for its
payload (`enc*_val`). -/

theorem enc2_spec {v : Nat} (h : v < 0x800) :
    Seq2 (UInt8.ofNat (0xC0 + v / 64)) (UInt8.ofNat (0x80 + v % 64)) ∧
    val2 (UInt8.ofNat (0xC0 + v / 64)) (UInt8.ofNat (0x80 + v % 64)) = v := by
  have hs : Seq2 (UInt8.ofNat (0xC0 + v / 64)) (UInt8.ofNat (0x80 + v % 64)) := by
    unfold Seq2; rw [ofNat_toNat (by omega), ofNat_toNat (by omega)]; omega
  have := val2_lin hs
  rw [ofNat_toNat (by omega), ofNat_toNat (by omega)] at this
  exact ⟨hs, by omega⟩

theorem enc3_spec {v : Nat} (h : v < 0x10000) :
    Seq3 (UInt8.ofNat (0xE0 + v / 4096)) (UInt8.ofNat (0x80 + v / 64 % 64)) (UInt8.ofNat (0x80 + v % 64)) ∧
    val3 (UInt8.ofNat (0xE0 + v / 4096)) (UInt8.ofNat (0x80 + v / 64 % 64)) (UInt8.ofNat (0x80 + v % 64)) = v := by
  have hs : Seq3 (UInt8.ofNat (0xE0 + v / 4096)) (UInt8.ofNat (0x80 + v / 64 % 64))
      (UInt8.ofNat (0x80 + v % 64)) := by
    unfold Seq3; rw [ofNat_toNat (by omega), ofNat_toNat (by omega), ofNat_toNat (by omega)]; omega
  have := val3_lin hs
  rw [ofNat_toNat (by omega), ofNat_toNat (by omega), ofNat_toNat (by omega)] at this
  exact ⟨hs, by omega⟩

theorem enc4_spec {v : Nat} (h : v < 0x200000) :
    Seq4 (UInt8.ofNat (0xF0 + v / 262144)) (UInt8.ofNat (0x80 + v / 4096 % 64))
      (UInt8.ofNat (0x80 + v / 64 % 64)) (UInt8.ofNat (0x80 + v % 64)) ∧
    val4 (UInt8.ofNat (0xF0 + v / 262144)) (UInt8.ofNat (0x80 + v / 4096 % 64))
      (UInt8.ofNat (0x80 + v / 64 % 64)) (UInt8.ofNat (0x80 + v % 64)) = v := by
  have hs : Seq4 (UInt8.ofNat (0xF0 + v / 262144)) (UInt8.ofNat (0x80 + v / 4096 % 64))
      (UInt8.ofNat (0x80 + v / 64 % 64)) (UInt8.ofNat (0x80 + v % 64)) := by
    unfold Seq4
    rw [ofNat_toNat (by omega), ofNat_toNat (by omega), ofNat_toNat (by omega), ofNat_toNat (by omega)]
    omega
  have := val4_lin hs
  rw [ofNat_toNat (by omega), ofNat_toNat (by omega), ofNat_toNat (by omega), ofNat_toNat (by omega)] at this
  exact ⟨hs, by omega⟩

theorem enc2_val {a b : UInt8} (h : Seq2 a b) :
    UInt8.ofNat (0xC0 + val2 a b / 64) = a ∧ UInt8.ofNat (0x80 + val2 a b % 64) = b := by
  have := val2_lin h
  unfold Seq2 at h
  rw [show 0xC0 + val2 a b / 64 = a.toNat by omega, show 0x80 + val2 a b % 64 = b.toNat by omega]
  exact ⟨UInt8.ofNat_toNat, UInt8.ofNat_toNat⟩

theorem enc3_val {a b c : UInt8} (h : Seq3 a b c) :
    UInt8.ofNat (0xE0 + val3 a b c / 4096) = a ∧ UInt8.ofNat (0x80 + val3 a b c / 64 % 64) = b ∧
    UInt8.ofNat (0x80 + val3 a b c % 64) = c := by
  have := val3_lin h
  unfold Seq3 at h
  rw [show 0xE0 + val3 a b c / 4096 = a.toNat by omega, show 0x80 + val3 a b c / 64 % 64 = b.toNat by omega,
    show 0x80 + val3 a b c % 64 = c.toNat by omega]
  exact ⟨UInt8.ofNat_toNat, UInt8.ofNat_toNat, UInt8.ofNat_toNat⟩

theorem enc4_val {a b c d : UInt8} (h : Seq4 a b c d) :
    UInt8.ofNat (0xF0 + val4 a b c d / 262144) = a ∧ UInt8.ofNat (0x80 + val4 a b c d / 4096 % 64) = b ∧
    UInt8.ofNat (0x80 + val4 a b c d / 64 % 64) = c ∧ UInt8.ofNat (0x80 + val4 a b c d % 64) = d := by
  have := val4_lin h
  unfold Seq4 at h
  rw [show 0xF0 + val4 a b c d / 262144 = a.toNat by omega,
    show 0x80 + val4 a b c d / 4096 % 64 = b.toNat by omega,
    show 0x80 + val4 a b c d / 64 % 64 = c.toNat by omega, show 0x80 + val4 a b c d % 64 = d.toNat by omega]
  exact ⟨UInt8.ofNat_toNat, UInt8.ofNat_toNat, UInt8.ofNat_toNat, UInt8.ofNat_toNat⟩

theorem inR_iff (x : UInt8) (lo hi : Nat) : inR x lo hi = true ↔ lo ≤ x.toNat ∧ x.toNat ≤ hi := by
  simp [inR]

theorem head_cases {l : List UInt8} {k v : Nat} (h : utf8Head l = some (k, v)) :
    (∃ a r, l = a :: r ∧ k = 1 ∧ C1 a) ∨
    (∃ a b r, l = a :: b :: r ∧ k = 2 ∧ C2 a b) ∨
    (∃ a b c r, l = a :: b :: c :: r ∧ k = 3 ∧ C3 a b c) ∨
    (∃ a b c d r, l = a :: b :: c :: d :: r ∧ k = 4 ∧ C4 a b c d) := by
  unfold utf8Head at h
  split at h
  · cases h
  · rename_i a rest
    split at h
    · rename_i h1
      cases h
      exact .inl ⟨a, rest, rfl, rfl, h1⟩
    · split at h
      · cases h
      · rename_i b rest
        split at h
        · split at h
          · cases h
            rename_i h1 h2 h3
            rw [inR_iff] at h2 h3
            exact .inr (.inl ⟨a, b, rest, rfl, rfl, h2.1, h2.2, h3⟩)
          · cases h
        · split at h
          · cases h
          · rename_i c rest
            split at h
            · split at h
              · cases h
                rename_i h1 h2 h3 h4
                simp only [Bool.or_eq_true, Bool.and_eq_true, inR_iff, and_assoc, or_assoc] at h3 h4
                exact .inr (.inr (.inl ⟨a, b, c, rest, rfl, rfl, h3, h4⟩))
              · cases h
            · split at h
              · cases h
              · rename_i d rest
                split at h
                · cases h
                  rename_i h1 h2 h3 h4
                  simp only [Bool.or_eq_true, Bool.and_eq_true, inR_iff, and_assoc, or_assoc] at h4
                  exact .inr (.inr (.inr ⟨a, b, c, d, rest, rfl, rfl, h4⟩))
                · cases h

theorem head_C1 {a : UInt8} (r : List UInt8) (h : C1 a) : utf8Head (a :: r) = some (1, a.toNat) := by
  unfold C1 at h
  simp [utf8Head, h]

theorem head_C2 {a b : UInt8} (r : List UInt8) (h : C2 a b) :
    ∃ v, utf8Head (a :: b :: r) = some (2, v) := by
  unfold C2 at h
  have h1 : ¬ a.toNat < 0x80 := by omega
  have h2 : inR a 0xC2 0xDF = true := by rw [inR_iff]; omega
  have h3 : inR b 0x80 0xBF = true := by rw [inR_iff]; omega
  simp [utf8Head, h1, h2, h3]


theorem head_C3 {a b c : UInt8} (r : List UInt8) (h : C3 a b c) :
    ∃ v, utf8Head (a :: b :: c :: r) = some (3, v) := by
  unfold C3 at h
  have h1 : ¬ a.toNat < 0x80 := by omega
  have h2 : inR a 0xC2 0xDF = false := by
    rw [Bool.eq_false_iff]; intro hh; rw [inR_iff] at hh; omega
  have h3 : (inR a 0xE0 0xE0 && inR b 0xA0 0xBF || inR a 0xE1 0xEC && inR b 0x80 0xBF
                || inR a 0xED 0xED && inR b 0x80 0x9F || inR a 0xEE 0xEF && inR b 0x80 0xBF) = true := by
    simp only [Bool.or_eq_true, Bool.and_eq_true, inR_iff, and_assoc, or_assoc]; exact h.1
  have h4 : inR c 0x80 0xBF = true := by rw [inR_iff]; omega
  refine ⟨(a.toNat % 16) * 4096 + (b.toNat % 64) * 64 + c.toNat % 64, ?_⟩
  simp only [utf8Head, if_neg h1, h2, h3, h4, if_true, Bool.false_eq_true, if_false]

theorem head_C4 {a b c d : UInt8} (r : List UInt8) (h : C4 a b c d) :
    ∃ v, utf8Head (a :: b :: c :: d :: r) = some (4, v) := by
  unfold C4 at h
  have h1 : ¬ a.toNat < 0x80 := by omega
  have h2 : inR a 0xC2 0xDF = false := by
    rw [Bool.eq_false_iff]; intro hh; rw [inR_iff] at hh; omega
  have h3 : (inR a 0xE0 0xE0 && inR b 0xA0 0xBF || inR a 0xE1 0xEC && inR b 0x80 0xBF
                || inR a 0xED 0xED && inR b 0x80 0x9F || inR a 0xEE 0xEF && inR b 0x80 0xBF) = false := by
    rw [Bool.eq_false_iff]; intro hh
    simp only [Bool.or_eq_true, Bool.and_eq_true, inR_iff] at hh; omega
  have h4 : ((inR a 0xF0 0xF0 && inR b 0x90 0xBF || inR a 0xF1 0xF3 && inR b 0x80 0xBF
                    || inR a 0xF4 0xF4 && inR b 0x80 0x8F) && inR c 0x80 0xBF && inR d 0x80 0xBF) = true := by
    simp only [Bool.or_eq_true, Bool.and_eq_true, inR_iff, and_assoc, or_assoc]; exact h
  refine ⟨(a.toNat % 8) * 262144 + (b.toNat % 64) * 4096 + (c.toNat % 64) * 64 + d.toNat % 64, ?_⟩
  simp only [utf8Head, if_neg h1, h2, h3, h4, if_true, Bool.false_eq_true, if_false]

/-- `c` is exactly one well-formed UTF-8 sequence -/
def IsChar (c : List UInt8) : Prop := ∃ v, utf8Head c = some (c.length, v)

theorem isChar_forms {c : List UInt8} (h : IsChar c) :
    (∃ a, c = [a] ∧ C1 a) ∨ (∃ a b, c = [a, b] ∧ C2 a b) ∨
    (∃ a b d, c = [a, b, d] ∧ C3 a b d) ∨ (∃ a b d e, c = [a, b, d, e] ∧ C4 a b d e) := by
  obtain ⟨v, hv⟩ := h
  rcases head_cases hv with ⟨a, r, rfl, hk, hc⟩ | ⟨a, b, r, rfl, hk, hc⟩ | ⟨a, b, d, r, rfl, hk, hc⟩ |
    ⟨a, b, d, e, r, rfl, hk, hc⟩
  · simp only [List.length_cons] at hk
    have : r = [] := List.eq_nil_of_length_eq_zero (by omega)
    subst this; exact .inl ⟨a, rfl, hc⟩
  · simp only [List.length_cons] at hk
    have : r = [] := List.eq_nil_of_length_eq_zero (by omega)
    subst this; exact .inr (.inl ⟨a, b, rfl, hc⟩)
  · simp only [List.length_cons] at hk
    have : r = [] := List.eq_nil_of_length_eq_zero (by omega)
    subst this; exact .inr (.inr (.inl ⟨a, b, d, rfl, hc⟩))
  · simp only [List.length_cons] at hk
    have : r = [] := List.eq_nil_of_length_eq_zero (by omega)
    subst this; exact .inr (.inr (.inr ⟨a, b, d, e, rfl, hc⟩))

theorem isChar_C1 {a : UInt8} (h : C1 a) : IsChar [a] := ⟨_, head_C1 [] h⟩
theorem isChar_C2 {a b : UInt8} (h : C2 a b) : IsChar [a, b] := head_C2 [] h
theorem isChar_C3 {a b c : UInt8} (h : C3 a b c) : IsChar [a, b, c] := head_C3 [] h
theorem isChar_C4 {a b c d : UInt8} (h : C4 a b c d) : IsChar [a, b, c, d] := head_C4 [] h

/-- the head sequence splits off as a character, and the decoder only looks at it -/
theorem head_split {l : List UInt8} {k v : Nat} (h : utf8Head l = some (k, v)) :
    ∃ c r, l = c ++ r ∧ c.length = k ∧ IsChar c := by
  rcases head_cases h with ⟨a, r, rfl, rfl, hc⟩ | ⟨a, b, r, rfl, rfl, hc⟩ | ⟨a, b, d, r, rfl, rfl, hc⟩ |
    ⟨a, b, d, e, r, rfl, rfl, hc⟩
  · exact ⟨[a], r, rfl, rfl, isChar_C1 hc⟩
  · exact ⟨[a, b], r, rfl, rfl, isChar_C2 hc⟩
  · exact ⟨[a, b, d], r, rfl, rfl, isChar_C3 hc⟩
  · exact ⟨[a, b, d, e], r, rfl, rfl, isChar_C4 hc⟩

theorem head_append {c : List UInt8} (h : IsChar c) (r : List UInt8) :
    ∃ v, utf8Head (c ++ r) = some (c.length, v) := by
  rcases isChar_forms h with ⟨a, rfl, hc⟩ | ⟨a, b, rfl, hc⟩ | ⟨a, b, d, rfl, hc⟩ | ⟨a, b, d, e, rfl, hc⟩
  · exact ⟨_, head_C1 r hc⟩
  · exact head_C2 r hc
  · exact head_C3 r hc
  · exact head_C4 r hc

theorem isChar_ne_nil {c : List UInt8} (h : IsChar c) : c ≠ [] := by
  rintro rfl; obtain ⟨v, hv⟩ := h; simp [utf8Head] at hv

theorem isChar_length_pos {c : List UInt8} (h : IsChar c) : 0 < c.length :=
  List.length_pos_iff.mpr (isChar_ne_nil h)

/-- prefix-freeness: two characters at the head of the same string coincide -/
theorem isChar_unique {c c' r r' : List UInt8} (h : IsChar c) (h' : IsChar c')
    (e : c ++ r = c' ++ r') : c = c' ∧ r = r' := by
  obtain ⟨v, hv⟩ := head_append h r
  obtain ⟨v', hv'⟩ := head_append h' r'
  rw [e, hv'] at hv
  simp only [Option.some.injEq, Prod.mk.injEq] at hv
  exact List.append_inj e hv.1.symm


/-! ## validity as an inductive predicate -/

inductive Valid : List UInt8 → Prop
  | nil : Valid []
  | cons {c r : List UInt8} : IsChar c → Valid r → Valid (c ++ r)

theorem Valid.append {a b : List UInt8} (ha : Valid a) (hb : Valid b) : Valid (a ++ b) := by
  induction ha with
  | nil => exact hb
  | cons hc _ ih => rw [List.append_assoc]; exact Valid.cons hc ih

theorem Valid.single {c : List UInt8} (h : IsChar c) : Valid c := by
  have := Valid.cons h Valid.nil
  rwa [List.append_nil] at this

/-- inversion at a known head character -/
theorem Valid.tail {c r : List UInt8} (hc : IsChar c) (h : Valid (c ++ r)) : Valid r := by
  generalize e : c ++ r = l at h
  cases h with
  | nil =>
    have := isChar_ne_nil hc
    simp at e; exact absurd e.1 this
  | cons hc' hr' =>
    obtain ⟨_, rfl⟩ := isChar_unique hc hc' e
    exact hr'

/-- cancellation of a valid prefix -/
theorem Valid.cancel {a x : List UInt8} (ha : Valid a) (h : Valid (a ++ x)) : Valid x := by
  induction ha with
  | nil => exact h
  | cons hc _ ih => rw [List.append_assoc] at h; exact ih (Valid.tail hc h)

theorem Valid.head_isSome {l : List UInt8} (h : Valid l) (hne : l ≠ []) : (utf8Head l).isSome = true := by
  cases h with
  | nil => exact absurd rfl hne
  | cons hc _ => obtain ⟨v, hv⟩ := head_append hc _; rw [hv]; rfl

theorem fuel_valid : ∀ (f i : Nat) (l : List UInt8), (utf8CharsFuel f i l).isSome = true → Valid l := by
  intro f
  induction f with
  | zero =>
    intro i l h
    cases l with
    | nil => exact Valid.nil
    | cons x xs => simp [utf8CharsFuel] at h
  | succ f ih =>
    intro i l h
    cases l with
    | nil => exact Valid.nil
    | cons x xs =>
      unfold utf8CharsFuel at h
      split at h
      · simp at h
      · rename_i k c hk
        obtain ⟨ch, r, e, hlen, hch⟩ := head_split hk
        rw [Option.isSome_map] at h
        have := ih _ _ h
        rw [e, ← hlen, List.drop_left] at this
        rw [e]; exact Valid.cons hch this

theorem valid_fuel : ∀ (f i : Nat) (l : List UInt8), l.length ≤ f → Valid l →
    (utf8CharsFuel f i l).isSome = true := by
  intro f
  induction f with
  | zero =>
    intro i l hl h
    have : l = [] := List.eq_nil_of_length_eq_zero (by omega)
    subst this; rfl
  | succ f ih =>
    intro i l hl h
    cases h with
    | nil => rfl
    | @cons c r hc hr =>
      obtain ⟨v, hv⟩ := head_append hc r
      have hpos := isChar_length_pos hc
      have hne : c ++ r ≠ [] := by
        intro e; exact isChar_ne_nil hc (List.append_eq_nil_iff.mp e).1
      match hcr : c ++ r with
      | [] => exact absurd hcr hne
      | x :: xs =>
        unfold utf8CharsFuel
        rw [← hcr, hv]
        simp only [Option.isSome_map, List.drop_left]
        apply ih
        · rw [List.length_append] at hl; omega
        · exact hr

theorem validUtf8_iff (l : List UInt8) : validUtf8 l = true ↔ Valid l :=
  ⟨fuel_valid _ _ _, valid_fuel _ _ _ (Nat.le_refl _)⟩


/-- every index reported by the decoder is a character boundary -/
theorem fuel_cut : ∀ (f i : Nat) (l : List UInt8) (cs : List (Nat × Nat)),
    utf8CharsFuel f i l = some cs →
    ∀ p ∈ cs, ∃ j, p.1 = i + j ∧ j ≤ l.length ∧ Valid (l.take j) ∧ Valid (l.drop j) := by
  intro f
  induction f with
  | zero =>
    intro i l cs h
    cases l with
    | nil => simp only [utf8CharsFuel, Option.some.injEq] at h; subst h; intro p hp; cases hp
    | cons x xs => simp [utf8CharsFuel] at h
  | succ f ih =>
    intro i l cs h
    cases l with
    | nil => simp only [utf8CharsFuel, Option.some.injEq] at h; subst h; intro p hp; cases hp
    | cons x xs =>
      have hall : Valid (x :: xs) := fuel_valid (f + 1) i _ (by rw [h]; rfl)
      unfold utf8CharsFuel at h
      split at h
      · cases h
      · rename_i k c hk
        obtain ⟨ch, r, e, hlen, hch⟩ := head_split hk
        rw [Option.map_eq_some_iff] at h
        obtain ⟨rest, hrest, rfl⟩ := h
        intro p hp
        rcases List.mem_cons.mp hp with rfl | hp
        · exact ⟨0, rfl, Nat.zero_le _, Valid.nil, hall⟩
        · obtain ⟨j, hj, hjl, ht, hd⟩ := ih _ _ _ hrest p hp
          rw [e, ← hlen, List.drop_left] at hjl ht hd
          refine ⟨ch.length + j, by omega, ?_, ?_, ?_⟩
          · rw [e, List.length_append]; omega
          · rw [e, List.take_length_add_append]; exact Valid.cons hch ht
          · rw [e, List.drop_length_add_append]; exact hd

theorem utf8_valid_append (a b : List UInt8) (ha : validUtf8 a = true) (hb : validUtf8 b = true) :
    validUtf8 (a ++ b) = true := by
  rw [validUtf8_iff] at *; exact ha.append hb

theorem utf8_chars_cut (a : List UInt8) (cs : List (Nat × Nat)) (_ : validUtf8 a = true)
    (h : utf8Chars a = some cs) :
    ∀ p ∈ cs, p.1 ≤ a.length ∧ validUtf8 (a.take p.1) = true ∧ validUtf8 (a.drop p.1) = true := by
  intro p hp
  obtain ⟨j, hj, hjl, ht, hd⟩ := fuel_cut _ _ _ _ h p hp
  rw [Nat.zero_add] at hj
  rw [hj, validUtf8_iff, validUtf8_iff]
  exact ⟨hjl, ht, hd⟩

/-! ## `encodeUtf8` -/

/-- what `encodeUtf8` writes is one character of Table 3-7 -/
theorem encode_isChar {c : Nat} {bs : List UInt8} (h : encodeUtf8 c = some bs) : IsChar bs := by
  unfold encodeUtf8 at h
  split at h
  · cases h
    apply isChar_C1; unfold C1; rw [ofNat_toNat (by omega)]; assumption
  · split at h
    · rename_i h1 h2
      cases h
      obtain ⟨hs, hv⟩ := enc2_spec h2
      exact isChar_C2 (C2_iff.mpr ⟨hs, by rw [hv]; omega⟩)
    · split at h
      · cases h
      · split at h
        · rename_i h1 h2 h3 h4
          cases h
          obtain ⟨hs, hv⟩ := enc3_spec h4
          exact isChar_C3 (C3_iff.mpr ⟨hs, by rw [hv]; omega⟩)
        · split at h
          · rename_i h1 h2 h3 h4 h5
            cases h
            obtain ⟨hs, hv⟩ := enc4_spec (v := c) (by omega)
            exact isChar_C4 (C4_iff.mpr ⟨hs, by rw [hv]; omega⟩)
          · cases h

theorem utf8_encode_valid (c : Nat) (bs : List UInt8) (h : encodeUtf8 c = some bs) :
    validUtf8 bs = true :=
  (validUtf8_iff bs).mpr (Valid.single (encode_isChar h))

/-! ## `futf::classify` at index 0 against Table 3-7 -/

/-- a sequence of the announced length at index 0: continuation bytes, then `decode` -/
theorem classifyAt_zero (c r : List UInt8) :
    classifyAt (c ++ r) 0 c.length 1 =
      if (c.drop 1).all isCont then (decode c).map (fun m => ⟨0, c.length, m⟩) else none := by
  unfold classifyAt
  simp only [Nat.sub_zero, List.drop_zero, List.length_append, Nat.le_add_right, ge_iff_le, if_true,
    List.take_left']

theorem isWhole_map (o : Option Meaning) (s n : Nat) :
    isWhole (o.map (fun m => ⟨s, n, m⟩)) = true ↔ ∃ v, o = some (.whole v) := by
  cases o with
  | none => simp [isWhole]
  | some m => cases m <;> simp [isWhole]

theorem wholeOf_isSome (n : Nat) :
    (∃ v, wholeOf n = some (.whole v)) ↔ n ≤ 0x10FFFF ∧ ¬ (0xD800 ≤ n ∧ n ≤ 0xDFFF) := by
  unfold wholeOf; split
  · rename_i h; exact ⟨fun _ => h, fun _ => ⟨n, rfl⟩⟩
  · rename_i h; exact ⟨fun ⟨_, e⟩ => (by cases e), fun h' => absurd h' h⟩

theorem W2 (x y : UInt8) (r : List UInt8) :
    isWhole (classifyAt (x :: y :: r) 0 2 1) = true ↔ isCont y = true ∧ 0x80 ≤ val2 x y := by
  have e := classifyAt_zero [x, y] r
  simp only [List.cons_append, List.nil_append, List.length_cons, List.length_nil, List.drop_succ_cons,
    List.drop_zero, List.all_cons, List.all_nil, Bool.and_true] at e
  rw [e]
  by_cases hc : isCont y = true
  · rw [if_pos hc, isWhole_map]
    show (∃ v, (if val2 x y < 0x80 then none else wholeOf (val2 x y)) = some (Meaning.whole v)) ↔ _
    have hlt : val2 x y < 0x800 := by unfold val2; omega
    generalize val2 x y = v at *
    split
    · simp only [reduceCtorEq, exists_false, false_iff]; omega
    · rw [wholeOf_isSome]; simp only [hc, true_and]; omega
  · rw [if_neg hc]
    simp only [isWhole, Bool.false_eq_true, false_iff]
    intro h; exact hc h.1

theorem W3 (x y z : UInt8) (r : List UInt8) :
    isWhole (classifyAt (x :: y :: z :: r) 0 3 1) = true ↔
      isCont y = true ∧ isCont z = true ∧
      0x7FF < val3 x y z ∧ ¬ (0xD800 ≤ val3 x y z ∧ val3 x y z ≤ 0xDFFF) := by
  have e := classifyAt_zero [x, y, z] r
  simp only [List.cons_append, List.nil_append, List.length_cons, List.length_nil, List.drop_succ_cons,
    List.drop_zero, List.all_cons, List.all_nil, Bool.and_true] at e
  rw [e]
  by_cases hc : (isCont y && isCont z) = true
  · rw [if_pos hc, isWhole_map]
    rw [Bool.and_eq_true] at hc
    show (∃ v, (if val3 x y z ≤ 0x7FF then none
      else if 0xD800 ≤ val3 x y z ∧ val3 x y z ≤ 0xDBFF then some (.lead (val3 x y z - 0xD800))
      else if 0xDC00 ≤ val3 x y z ∧ val3 x y z ≤ 0xDFFF then some (.trail (val3 x y z - 0xDC00))
      else wholeOf (val3 x y z)) = some (Meaning.whole v)) ↔ _
    have hlt : val3 x y z ≤ 0x10FFFF := by unfold val3; omega
    generalize val3 x y z = v at *
    split
    · simp only [reduceCtorEq, exists_false, false_iff]; omega
    · split
      · simp only [Option.some.injEq, reduceCtorEq, exists_false, false_iff]; omega
      · split
        · simp only [Option.some.injEq, reduceCtorEq, exists_false, false_iff]; omega
        · rw [wholeOf_isSome]; simp only [hc, true_and]; omega
  · rw [if_neg hc]
    rw [Bool.and_eq_true] at hc
    simp only [isWhole, Bool.false_eq_true, false_iff]
    intro h; exact hc ⟨h.1, h.2.1⟩

theorem W4 (x y z w : UInt8) (r : List UInt8) :
    isWhole (classifyAt (x :: y :: z :: w :: r) 0 4 1) = true ↔
      isCont y = true ∧ isCont z = true ∧ isCont w = true ∧
      0x10000 ≤ val4 x y z w ∧ val4 x y z w ≤ 0x10FFFF := by
  have e := classifyAt_zero [x, y, z, w] r
  simp only [List.cons_append, List.nil_append, List.length_cons, List.length_nil, List.drop_succ_cons,
    List.drop_zero, List.all_cons, List.all_nil, Bool.and_true] at e
  rw [e]
  by_cases hc : (isCont y && (isCont z && isCont w)) = true
  · rw [if_pos hc, isWhole_map]
    simp only [Bool.and_eq_true] at hc
    show (∃ v, (if val4 x y z w < 0x10000 then none else wholeOf (val4 x y z w)) = some (Meaning.whole v)) ↔ _
    generalize val4 x y z w = v at *
    split
    · simp only [reduceCtorEq, exists_false, false_iff]; omega
    · rw [wholeOf_isSome]; simp only [hc, true_and]; omega
  · rw [if_neg hc]
    simp only [Bool.and_eq_true] at hc
    simp only [isWhole, Bool.false_eq_true, false_iff]
    intro h; exact hc ⟨h.1, h.2.1, h.2.2.1⟩


theorem Wshort (l : List UInt8) (n k : Nat) (h : l.length < n) : isWhole (classifyAt l 0 n k) = false := by
  unfold classifyAt
  simp only [Nat.sub_zero]
  rw [if_neg (by omega)]; rfl

theorem isCont_iff (x : UInt8) : isCont x = true ↔ 0x80 ≤ x.toNat ∧ x.toNat < 0xC0 := by
  simp [isCont]

theorem byteK_ascii {x : UInt8} (h : x.toNat < 0x80) : byteK x = some .ascii := by
  simp [byteK, h]
theorem byteK_cont {x : UInt8} (h : isCont x = true) : byteK x = some .cont := by
  rw [isCont_iff] at h
  simp only [byteK]; rw [if_neg (by omega), if_pos (by omega)]
theorem byteK_s2 {x : UInt8} (h : 0xC0 ≤ x.toNat ∧ x.toNat < 0xE0) : byteK x = some (.start 2) := by
  simp only [byteK]; rw [if_neg (by omega), if_neg (by omega), if_pos (by omega)]
theorem byteK_s3 {x : UInt8} (h : 0xE0 ≤ x.toNat ∧ x.toNat < 0xF0) : byteK x = some (.start 3) := by
  simp only [byteK]; rw [if_neg (by omega), if_neg (by omega), if_neg (by omega), if_pos (by omega)]
theorem byteK_s4 {x : UInt8} (h : 0xF0 ≤ x.toNat ∧ x.toNat < 0xF8) : byteK x = some (.start 4) := by
  simp only [byteK]
  rw [if_neg (by omega), if_neg (by omega), if_neg (by omega), if_neg (by omega), if_pos (by omega)]
theorem byteK_none {x : UInt8} (h : 0xF8 ≤ x.toNat) : byteK x = none := by
  simp only [byteK]
  rw [if_neg (by omega), if_neg (by omega), if_neg (by omega), if_neg (by omega), if_neg (by omega)]

theorem classify_zero (x : UInt8) (r : List UInt8) :
    classify (x :: r) 0 = match byteK x with
      | none => none
      | some .ascii => some ⟨0, 1, .whole x.toNat⟩
      | some (.start n) => classifyAt (x :: r) 0 n 1
      | some .cont => some ⟨0, 1, .sfx⟩ := by
  simp only [classify, List.getElem?_cons_zero]
  split <;> simp_all [classifyBack]

/-- the first byte of a well-formed sequence -/
theorem head_first {x : UInt8} {r : List UInt8} {k v : Nat} (h : utf8Head (x :: r) = some (k, v)) :
    x.toNat < 0x80 ∨ (0xC2 ≤ x.toNat ∧ x.toNat ≤ 0xF4) := by
  rcases head_cases h with ⟨a, r, e, _, hc⟩ | ⟨a, b, r, e, _, hc⟩ | ⟨a, b, d, r, e, _, hc⟩ |
    ⟨a, b, d, f, r, e, _, hc⟩ <;> cases e
  · exact .inl hc
  · unfold C2 at hc; omega
  · unfold C3 at hc; omega
  · unfold C4 at hc; omega

/-- the `futf` classification of the sequence at index 0 agrees with Table 3-7 -/
theorem whole0_iff (l : List UInt8) : isWhole (classify l 0) = true ↔ (utf8Head l).isSome = true := by
  constructor
  · intro h
    cases l with
    | nil => simp [classify, isWhole] at h
    | cons x rest =>
      rw [classify_zero] at h
      have hx := x.toNat_lt
      rcases (by omega : x.toNat < 0x80 ∨ (0x80 ≤ x.toNat ∧ x.toNat < 0xC0) ∨
        (0xC0 ≤ x.toNat ∧ x.toNat < 0xE0) ∨ (0xE0 ≤ x.toNat ∧ x.toNat < 0xF0) ∨
        (0xF0 ≤ x.toNat ∧ x.toNat < 0xF8) ∨ 0xF8 ≤ x.toNat) with h1 | h1 | h1 | h1 | h1 | h1
      · rw [head_C1 rest h1]; rfl
      · rw [byteK_cont ((isCont_iff x).mpr h1)] at h; simp [isWhole] at h
      · rw [byteK_s2 h1] at h; simp only at h
        match rest, h with
        | [], h => rw [Wshort _ _ _ (by simp)] at h; cases h
        | y :: r, h =>
          rw [W2, isCont_iff] at h
          obtain ⟨v, hv⟩ := head_C2 (a := x) (b := y) r (C2_iff.mpr ⟨⟨h1.1, h1.2, h.1⟩, h.2⟩)
          rw [hv]; rfl
      · rw [byteK_s3 h1] at h; simp only at h
        match rest, h with
        | [], h => rw [Wshort _ _ _ (by simp)] at h; cases h
        | [_], h => rw [Wshort _ _ _ (by simp)] at h; cases h
        | y :: z :: r, h =>
          rw [W3, isCont_iff, isCont_iff] at h
          obtain ⟨v, hv⟩ := head_C3 (a := x) (b := y) (c := z) r
            (C3_iff.mpr ⟨⟨h1.1, h1.2, h.1.1, h.1.2, h.2.1⟩, h.2.2⟩)
          rw [hv]; rfl
      · rw [byteK_s4 h1] at h; simp only at h
        match rest, h with
        | [], h => rw [Wshort _ _ _ (by simp)] at h; cases h
        | [_], h => rw [Wshort _ _ _ (by simp)] at h; cases h
        | [_, _], h => rw [Wshort _ _ _ (by simp)] at h; cases h
        | y :: z :: w :: r, h =>
          rw [W4, isCont_iff, isCont_iff, isCont_iff] at h
          obtain ⟨v, hv⟩ := head_C4 (a := x) (b := y) (c := z) (d := w) r
            (C4_iff.mpr ⟨⟨h1.1, h1.2, h.1.1, h.1.2, h.2.1.1, h.2.1.2, h.2.2.1⟩, h.2.2.2⟩)
          rw [hv]; rfl
      · rw [byteK_none h1] at h; simp [isWhole] at h
  · intro h
    obtain ⟨⟨k, v⟩, hv⟩ := Option.isSome_iff_exists.mp h
    rcases head_cases hv with ⟨a, r, rfl, _, hc⟩ | ⟨a, b, r, rfl, _, hc⟩ | ⟨a, b, d, r, rfl, _, hc⟩ |
      ⟨a, b, d, f, r, rfl, _, hc⟩
    · rw [classify_zero, byteK_ascii hc]; rfl
    · obtain ⟨⟨a1, a2, hb⟩, hv⟩ := C2_iff.mp hc
      rw [classify_zero, byteK_s2 ⟨a1, a2⟩]; simp only
      rw [W2, isCont_iff]; exact ⟨hb, hv⟩
    · obtain ⟨⟨a1, a2, b1, b2, hd⟩, hv⟩ := C3_iff.mp hc
      rw [classify_zero, byteK_s3 ⟨a1, a2⟩]; simp only
      rw [W3, isCont_iff, isCont_iff]; exact ⟨⟨b1, b2⟩, hd, hv⟩
    · obtain ⟨⟨a1, a2, b1, b2, d1, d2, hf⟩, hv⟩ := C4_iff.mp hc
      rw [classify_zero, byteK_s4 ⟨a1, a2⟩]; simp only
      rw [W4, isCont_iff, isCont_iff, isCont_iff]; exact ⟨⟨b1, b2⟩, ⟨d1, d2⟩, hf, hv⟩

theorem whole0_eq (l : List UInt8) : isWhole (classify l 0) = (utf8Head l).isSome := by
  rw [Bool.eq_iff_iff]; exact whole0_iff l

/-! ## the shape of characters and of their prefixes -/

/-- first byte ASCII (and nothing else), or a start byte; then continuation bytes only -/
def Shape (x : UInt8) (ys : List UInt8) : Prop :=
  (x.toNat < 0x80 ∧ ys = [] ∨ 0xC0 ≤ x.toNat ∧ x.toNat < 0xF8) ∧ ys.all isCont = true ∧ ys.length ≤ 3

theorem isChar_shape {c : List UInt8} (h : IsChar c) : ∃ x ys, c = x :: ys ∧ Shape x ys := by
  rcases isChar_forms h with ⟨a, rfl, hc⟩ | ⟨a, b, rfl, hc⟩ | ⟨a, b, d, rfl, hc⟩ | ⟨a, b, d, e, rfl, hc⟩
  · exact ⟨a, [], rfl, .inl ⟨hc, rfl⟩, rfl, by simp⟩
  · refine ⟨a, [b], rfl, ?_, ?_, by simp⟩ <;> unfold C2 at hc
    · omega
    · simp only [List.all_cons, List.all_nil, Bool.and_true, isCont_iff]; omega
  · refine ⟨a, [b, d], rfl, ?_, ?_, by simp⟩ <;> unfold C3 at hc
    · omega
    · simp only [List.all_cons, List.all_nil, Bool.and_true, Bool.and_eq_true, isCont_iff]; omega
  · refine ⟨a, [b, d, e], rfl, ?_, ?_, by simp⟩ <;> unfold C4 at hc
    · omega
    · simp only [List.all_cons, List.all_nil, Bool.and_true, Bool.and_eq_true, isCont_iff]; omega

/-- a non-empty prefix of a character has the same shape; what follows it inside the character
starts with a continuation byte -/
theorem prefix_shape {d e : List UInt8} (h : IsChar (d ++ e)) (hd : d ≠ []) :
    ∃ x ys, d = x :: ys ∧ Shape x ys ∧ (e ≠ [] → ∃ y e', e = y :: e' ∧ isCont y = true) := by
  obtain ⟨x, ys', e1, hx, hall, hlen⟩ := isChar_shape h
  cases d with
  | nil => exact absurd rfl hd
  | cons x0 ds =>
    simp only [List.cons_append, List.cons.injEq] at e1
    obtain ⟨rfl, rfl⟩ := e1
    rw [List.all_append, Bool.and_eq_true] at hall
    rw [List.length_append] at hlen
    refine ⟨x0, ds, rfl, ⟨?_, hall.1, by omega⟩, ?_⟩
    · rcases hx with ⟨h1, h2⟩ | h1
      · exact .inl ⟨h1, (List.append_eq_nil_iff.mp h2).1⟩
      · exact .inr h1
    · intro he
      cases e with
      | nil => exact absurd rfl he
      | cons y e' =>
        refine ⟨y, e', rfl, ?_⟩
        have := hall.2
        simp only [List.all_cons, Bool.and_eq_true] at this
        exact this.1

theorem head_cont {x : UInt8} (r : List UInt8) (h : isCont x = true) : utf8Head (x :: r) = none := by
  cases hh : utf8Head (x :: r) with
  | none => rfl
  | some p =>
    obtain ⟨k, v⟩ := p
    have := head_first hh
    rw [isCont_iff] at h; omega

/-- a proper prefix of a character is not accepted by the table -/
theorem head_proper_prefix {d e : List UInt8} (h : IsChar (d ++ e)) (he : e ≠ []) : utf8Head d = none := by
  cases hh : utf8Head d with
  | none => rfl
  | some p =>
    obtain ⟨k, v⟩ := p
    obtain ⟨c', r', e1, hlen, hc'⟩ := head_split hh
    have : c' ++ (r' ++ e) = (d ++ e) ++ [] := by rw [List.append_nil, ← List.append_assoc, ← e1]
    obtain ⟨h1, _⟩ := isChar_unique hc' h this
    have h2 := congrArg List.length h1
    have h3 := congrArg List.length e1
    rw [List.length_append] at h2 h3
    have : e.length = 0 := by omega
    exact absurd (List.eq_nil_of_length_eq_zero this) he

theorem not_valid_of_head_none {l : List UInt8} (h : utf8Head l = none) (hne : l ≠ []) :
    validUtf8 l = false := by
  rw [Bool.eq_false_iff]; intro hv
  rw [validUtf8_iff] at hv
  have := hv.head_isSome hne
  rw [h] at this; cases this

/-! ## suffix check -/

/-- a cut of a valid string is a character boundary, or the part after it starts with a
continuation byte -/
theorem Valid.cut_right {l : List UInt8} (h : Valid l) : ∀ (a b : List UInt8), a ++ b = l →
    Valid b ∨ ∃ y r, b = y :: r ∧ isCont y = true := by
  induction h with
  | nil =>
    intro a b e
    rw [(List.append_eq_nil_iff.mp e).2]; exact .inl Valid.nil
  | @cons c r hc hr ih =>
    intro a b e
    rcases List.append_eq_append_iff.mp e with ⟨as, e1, e2⟩ | ⟨bs, e1, e2⟩
    · by_cases ha : a = []
      · subst ha; rw [List.nil_append] at e; rw [e]; exact .inl (Valid.cons hc hr)
      · by_cases has : as = []
        · subst has; rw [List.nil_append] at e2; rw [e2]; exact .inl hr
        · rw [e1] at hc
          obtain ⟨_, _, _, _, h3⟩ := prefix_shape hc ha
          obtain ⟨y, e', rfl, hy⟩ := h3 has
          exact .inr ⟨y, e' ++ r, by rw [e2]; rfl, hy⟩
    · exact ih bs b e2.symm

theorem utf8_suffix_exact (a b : List UInt8) (h : validUtf8 (a ++ b) = true) :
    utf8ValidateSuffix b = validUtf8 b := by
  rw [validUtf8_iff] at h
  cases b with
  | nil => rfl
  | cons y r =>
    have : utf8ValidateSuffix (y :: r) = (utf8Head (y :: r)).isSome := by
      simp only [utf8ValidateSuffix, List.isEmpty_cons, Bool.false_eq_true, if_false]
      exact whole0_eq _
    rw [this]
    rcases h.cut_right a (y :: r) rfl with hv | ⟨y', r', e, hy⟩
    · rw [hv.head_isSome (by simp), (validUtf8_iff _).mpr hv]
    · cases e
      have hn := head_cont r hy
      rw [not_valid_of_head_none hn (by simp), hn]; rfl

/-! ## prefix check -/

theorem all_drop_take {x : UInt8} {ys : List UInt8} (h : ys.all isCont = true) (n : Nat) {k : Nat}
    (hk : 1 ≤ k) : (((x :: ys).take n).drop k).all isCont = true := by
  rw [List.all_eq_true] at *
  intro y hy
  cases n with
  | zero => simp at hy
  | succ n =>
    cases k with
    | zero => omega
    | succ k =>
      rw [List.take_succ_cons, List.drop_succ_cons] at hy
      exact h y (List.mem_of_mem_take (List.mem_of_mem_drop hy))

/-- `classifyAt` only looks at the bytes from `start` on -/
theorem At_shift (a0 : List UInt8) (x : UInt8) {ys : List UInt8} (h : ys.all isCont = true) (n : Nat)
    {k : Nat} (hk : 1 ≤ k) :
    isWhole (classifyAt (a0 ++ x :: ys) a0.length n k) = isWhole (classifyAt (x :: ys) 0 n 1) := by
  unfold classifyAt
  simp only [List.length_append, Nat.add_sub_cancel_left, List.drop_left, Nat.sub_zero, List.drop_zero,
    all_drop_take h n hk, all_drop_take h n (Nat.le_refl 1), if_true]
  split
  · cases decode (List.take n (x :: ys)) with
    | none => rfl
    | some m => cases m <;> rfl
  · rfl

/-- the backward scan from a continuation byte inside `ys` reaches the start byte `x` -/
theorem Back (a0 : List UInt8) (x : UInt8) {ys : List UInt8} {n : Nat} (hx : byteK x = some (.start n))
    (h : ys.all isCont = true) (m : Nat) (hm : m ≤ 3) :
    ∀ (j : Nat), j ≤ ys.length → j ≤ m + 1 →
      classifyBack (a0 ++ x :: ys) (a0.length + m) (a0.length + j + 1) =
        classifyAt (a0 ++ x :: ys) a0.length n (m + 1) := by
  intro j
  induction j with
  | zero =>
    intro _ _
    simp only [classifyBack, List.getElem?_append_right (Nat.le_refl _), Nat.sub_self,
      List.getElem?_cons_zero, hx, Nat.add_sub_cancel_left]
  | succ j ih =>
    intro hj hjm
    have hy : ∃ y, (a0 ++ x :: ys)[a0.length + (j + 1)]? = some y ∧ isCont y = true := by
      rw [List.getElem?_append_right (by omega), Nat.add_sub_cancel_left, List.getElem?_cons_succ]
      have hlt : j < ys.length := by omega
      refine ⟨ys[j], List.getElem?_eq_getElem hlt, ?_⟩
      exact (List.all_eq_true.mp h) _ (List.getElem_mem hlt)
    obtain ⟨y, hy1, hy2⟩ := hy
    rw [show a0.length + (j + 1) + 1 = (a0.length + (j + 1)) + 1 from rfl]
    unfold classifyBack
    simp only [hy1, byteK_cont hy2]
    rw [if_neg (by omega)]
    exact ih (by omega) (by omega)


/-- the prefix check on `a0 ++ d`, `d` a non-empty prefix of a character, asks the table about `d` -/
theorem prefix_eval (a0 : List UInt8) {x : UInt8} {ys : List UInt8} (h : Shape x ys) :
    utf8ValidatePrefix (a0 ++ x :: ys) = (utf8Head (x :: ys)).isSome := by
  obtain ⟨hx, hall, hlen⟩ := h
  have hne : (a0 ++ x :: ys).isEmpty = false := by
    cases a0 <;> rfl
  have hidx : (a0 ++ x :: ys).length - 1 = a0.length + ys.length := by
    rw [List.length_append, List.length_cons]; omega
  unfold utf8ValidatePrefix
  rw [hne, hidx, ← whole0_eq]
  simp only [Bool.false_eq_true, if_false]
  rcases hx with ⟨h1, rfl⟩ | h1
  · -- ASCII
    rw [classify_zero, byteK_ascii h1]
    simp only [classify, List.length_nil, Nat.add_zero, List.getElem?_append_right (Nat.le_refl _),
      Nat.sub_self, List.getElem?_cons_zero, byteK_ascii h1]
    rfl
  · obtain ⟨n, hn⟩ : ∃ n, byteK x = some (.start n) := by
      rcases (by omega : (0xC0 ≤ x.toNat ∧ x.toNat < 0xE0) ∨ (0xE0 ≤ x.toNat ∧ x.toNat < 0xF0) ∨
        (0xF0 ≤ x.toNat ∧ x.toNat < 0xF8)) with h2 | h2 | h2
      · exact ⟨_, byteK_s2 h2⟩
      · exact ⟨_, byteK_s3 h2⟩
      · exact ⟨_, byteK_s4 h2⟩
    rw [classify_zero, hn]
    simp only
    cases ys with
    | nil =>
      simp only [classify, List.length_nil, Nat.add_zero, List.getElem?_append_right (Nat.le_refl _),
        Nat.sub_self, List.getElem?_cons_zero, hn]
      exact At_shift a0 x hall n (Nat.le_refl 1)
    | cons y0 ys' =>
      have hy : ∃ y, (a0 ++ x :: y0 :: ys')[a0.length + (ys'.length + 1)]? = some y ∧ isCont y = true := by
        rw [List.getElem?_append_right (by omega), Nat.add_sub_cancel_left, List.getElem?_cons_succ]
        have hlt : ys'.length < (y0 :: ys').length := by simp
        refine ⟨(y0 :: ys')[ys'.length], List.getElem?_eq_getElem hlt, ?_⟩
        exact (List.all_eq_true.mp hall) _ (List.getElem_mem hlt)
      obtain ⟨y, hy1, hy2⟩ := hy
      simp only [List.length_cons] at hlen ⊢
      unfold classify
      simp only [hy1, byteK_cont hy2]
      have := Back a0 x hn hall (ys'.length + 1) (by omega) ys'.length (by simp) (by omega)
      rw [show a0.length + (ys'.length + 1) = a0.length + ys'.length + 1 from rfl] at this ⊢
      rw [this]
      exact At_shift a0 x hall n (by omega)

/-- a non-empty part before a cut of a valid string ends with a whole character (boundary) or with
a proper non-empty prefix of a character (interior), after a valid string -/
theorem Valid.cut_left {l : List UInt8} (h : Valid l) : ∀ (a b : List UInt8), a ++ b = l → a ≠ [] →
    ∃ a0 d e, a = a0 ++ d ∧ Valid a0 ∧ d ≠ [] ∧ IsChar (d ++ e) := by
  induction h with
  | nil =>
    intro a b e ha
    exact absurd (List.append_eq_nil_iff.mp e).1 ha
  | @cons c r hc hr ih =>
    intro a b e ha
    rcases List.append_eq_append_iff.mp e with ⟨as, e1, _⟩ | ⟨bs, e1, e2⟩
    · exact ⟨[], a, as, rfl, Valid.nil, ha, e1 ▸ hc⟩
    · by_cases hbs : bs = []
      · subst hbs
        rw [List.append_nil] at e1
        exact ⟨[], c, [], by rw [e1]; rfl, Valid.nil, isChar_ne_nil hc, by rw [List.append_nil]; exact hc⟩
      · obtain ⟨a0, d, e', h1, h2, h3, h4⟩ := ih bs b e2.symm hbs
        exact ⟨c ++ a0, d, e', by rw [e1, h1, List.append_assoc], Valid.cons hc h2, h3, h4⟩

theorem utf8_prefix_exact (a b : List UInt8) (h : validUtf8 (a ++ b) = true) :
    utf8ValidatePrefix a = validUtf8 a := by
  rw [validUtf8_iff] at h
  by_cases ha : a = []
  · subst ha; rfl
  · obtain ⟨a0, d, e, rfl, h0, hd, hde⟩ := h.cut_left a b rfl ha
    obtain ⟨x, ys, rfl, hsh, _⟩ := prefix_shape hde hd
    rw [prefix_eval a0 hsh]
    by_cases he : e = []
    · subst he
      rw [List.append_nil] at hde
      obtain ⟨v, hv⟩ := hde
      rw [hv, (validUtf8_iff _).mpr (h0.append (Valid.single ⟨v, hv⟩))]; rfl
    · have hn := head_proper_prefix hde he
      rw [hn]
      symm
      show validUtf8 (a0 ++ x :: ys) = false
      rw [Bool.eq_false_iff]; intro hv
      rw [validUtf8_iff] at hv
      have := (h0.cancel hv).head_isSome hd
      rw [hn] at this; cases this

theorem utf8_subseq_exact (a b c : List UInt8) (h : validUtf8 (a ++ (b ++ c)) = true) :
    (utf8ValidatePrefix b && utf8ValidateSuffix b) = validUtf8 b := by
  have h' := (validUtf8_iff _).mp h
  cases b with
  | nil => rfl
  | cons y r =>
    rcases h'.cut_right a ((y :: r) ++ c) rfl with hv | ⟨y', r', e, hy⟩
    · have hp := utf8_prefix_exact (y :: r) c ((validUtf8_iff _).mpr hv)
      rw [hp]
      cases hb : validUtf8 (y :: r) with
      | false => rfl
      | true => rw [utf8_suffix_exact [] (y :: r) hb, hb]; rfl
    · cases e
      have hn := head_cont r hy
      have : utf8ValidateSuffix (y :: r) = false := by
        simp only [utf8ValidateSuffix, List.isEmpty_cons, Bool.false_eq_true, if_false]
        rw [whole0_eq, hn]; rfl
      rw [this, not_valid_of_head_none hn (by simp), Bool.and_false]

/-- the format laws of `H5V.Props.C11` hold for UTF-8 -/
theorem laws_utf8 : Laws Format.utf8 where
  noFixup _ _ := rfl
  valid_nil := rfl
  valid_append := utf8_valid_append
  suffix_exact := utf8_suffix_exact
  prefix_exact := utf8_prefix_exact
  subseq_exact := utf8_subseq_exact
  encode_valid := utf8_encode_valid
  chars_total _ _ h := h
  chars_cut := utf8_chars_cut

/-! ## non-vacuity -/

-- "é€😀"
example : validUtf8 [0xC3, 0xA9, 0xE2, 0x82, 0xAC, 0xF0, 0x9F, 0x98, 0x80] = true := by decide
example : utf8Chars [0xC3, 0xA9, 0xE2, 0x82, 0xAC, 0xF0, 0x9F, 0x98, 0x80] =
    some [(0, 0xE9), (2, 0x20AC), (5, 0x1F600)] := by decide
example : validUtf8 [0xC0, 0x80] = false := by decide
example : validUtf8 [0xED, 0xA0, 0x80] = false := by decide
example : validUtf8 [0xF4, 0x90, 0x80, 0x80] = false := by decide
example : validUtf8 [0xE2, 0x82] = false := by decide
example : utf8ValidatePrefix [0xE2, 0x82] = false := by decide
example : utf8ValidatePrefix [0xE2, 0x82, 0xAC] = true := by decide
example : utf8ValidateSuffix [0x82, 0xAC] = false := by decide
example : utf8ValidateSuffix [0xE2, 0x82, 0xAC] = true := by decide
-- the futf checks alone are not a validator: exactness needs the surrounding valid string
example : utf8ValidatePrefix [0xC2, 0x80, 0x80] = true ∧ validUtf8 [0xC2, 0x80, 0x80] = false := by decide
example : encodeUtf8 0x20AC = some [0xE2, 0x82, 0xAC] := by decide
example : encodeUtf8 0xD800 = none := by decide


/-! ## C11 for UTF-8 tendrils -/

/-- **A UTF-8 tendril holds valid UTF-8** after any history of operations without byte stores
(`setByte`, the model of a store through `DerefMut`, is excluded by hypothesis): every tendril of
the pool is well-formed in the heap and its bytes are well-formed UTF-8 (Unicode Table 3-7). -/
theorem C11_utf8_valid (slots : Nat) (ops : List Op)
    (hs : ∀ op ∈ ops, ∀ i k v, op ≠ .setByte i k v) :
    Lemmas.Tendril.StWF (run Format.utf8 (St.init slots) ops) ∧
    ∀ (i : Nat) (t : T), (run Format.utf8 (St.init slots) ops).pool[i]? = some (some t) →
      validUtf8 (abs (run Format.utf8 (St.init slots) ops).heap t) = true := by
  have hso : StoresOK Format.utf8 ops := by
    intro op hop i k v he
    exact (hs op hop i k v he).elim
  obtain ⟨hwf, hv⟩ := C11_reachable_wf Format.utf8 laws_utf8 slots ops hso
  exact ⟨hwf, fun i t hp => hv i _ (abs_lookup hp)⟩

end H5V.Lemmas.Tendril.Utf8

