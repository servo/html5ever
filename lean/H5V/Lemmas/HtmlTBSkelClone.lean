import H5V.Lemmas.HtmlTBSkelDom
/-!
C06 (skeleton invariant): the option → selectedcontent mirror
(`maybe_clone_an_option_into_selectedcontent`) keeps `DomBase`, changes no existing node's data,
and touches the child list of one existing node only — the `selectedcontent` element.
No well-formedness hypothesis.
-/
namespace H5V.Props.C06
open H5V.Model.Dom hiding Str
open H5V.Model.HtmlTB hiding Str
open H5V.Lemmas.Dom

/-- old nodes keep their data and — except `ex` — their children -/
structure FrK (d d' : Dom) (ex : Option Id) : Prop where
  size : d.size ≤ d'.size
  data : ∀ y, y < d.size → d'.dataOf y = d.dataOf y
  kids : ∀ y, y < d.size → some y ≠ ex → d'.childrenOf y = d.childrenOf y

theorem FrK.refl (d : Dom) (ex : Option Id) : FrK d d ex := ⟨Nat.le_refl _, fun _ _ => rfl, fun _ _ _ => rfl⟩

theorem FrK.trans {a b c : Dom} {ex : Option Id} (h1 : FrK a b ex) (h2 : FrK b c ex) : FrK a c ex :=
  ⟨Nat.le_trans h1.size h2.size,
   fun y hy => (h2.data y (Nat.lt_of_lt_of_le hy h1.size)).trans (h1.data y hy),
   fun y hy he => (h2.kids y (Nat.lt_of_lt_of_le hy h1.size) he).trans (h1.kids y hy he)⟩

theorem FrK.weaken {d d' : Dom} {ex : Option Id} (h : FrK d d' none) : FrK d d' ex :=
  ⟨h.size, h.data, fun y hy _ => h.kids y hy (by simp)⟩

theorem FrK.strengthen {d d' : Dom} {i : Id} (h : FrK d d' (some i)) (hi : d.size ≤ i) : FrK d d' none :=
  ⟨h.size, h.data, fun y hy _ => h.kids y hy (by
    intro e; cases e; exact Nat.lt_irrefl _ (Nat.lt_of_lt_of_le hy hi))⟩

theorem FrK.chg {d d' : Dom} {ex : Option Id} (h : FrK d d' ex) : Chg d d' := Chg.of_data_eq h.size h.data

theorem frK_alloc (d : Dom) (v : NodeData) : FrK d (d.alloc v).1 none :=
  ⟨by rw [size_alloc]; exact Nat.le_succ _, fun y hy => by rw [dataOf_alloc]; simp [Nat.ne_of_lt hy],
   fun y _ _ => childrenOf_alloc d v y⟩

theorem frK_appendRaw {d d' : Dom} {p c : Id} (h : d.appendRaw p c = .ok d') : FrK d d' (some p) := by
  obtain ⟨_, _, hk, hd, hs⟩ := appendRaw_eff h
  refine ⟨Nat.le_of_eq hs.symm, fun y _ => hd y, fun y _ he => ?_⟩
  rw [hk]
  have : y ≠ p := fun e => he (by rw [e])
  simp [this]

/-! ### one unfolding of each loop of the mirror -/

theorem except_bind_ok {α β : Type} {x : Except String α} {f : α → Except String β} {b : β}
    (h : (x >>= f) = .ok b) : ∃ a, x = .ok a ∧ f a = .ok b := by
  cases x with
  | error e => cases h
  | ok a => exact ⟨a, rfl, h⟩

theorem cloneKidsWith_cons_ok {cl : Dom → Id → Except String (Dom × Id)} {id c : Id} {cs : List Id} {d d' : Dom}
    (h : Dom.cloneKidsWith cl id d (c :: cs) = .ok d') :
    ∃ d1 k d2, cl d c = .ok (d1, k) ∧ d1.appendRaw id k = .ok d2 ∧ Dom.cloneKidsWith cl id d2 cs = .ok d' := by
  obtain ⟨⟨d1, k⟩, h1, h⟩ := except_bind_ok h
  obtain ⟨d2, h2, h⟩ := except_bind_ok h
  exact ⟨d1, k, d2, h1, h2, h⟩

theorem cloneListWith_cons_ok {cl : Dom → Id → Except String (Dom × Id)} {c : Id} {cs ks : List Id} {d d' : Dom}
    (h : Dom.cloneListWith cl d (c :: cs) = .ok (d', ks)) :
    ∃ d1 k ks2, cl d c = .ok (d1, k) ∧ Dom.cloneListWith cl d1 cs = .ok (d', ks2) ∧ ks = k :: ks2 := by
  obtain ⟨⟨d1, k⟩, h1, h⟩ := except_bind_ok h
  obtain ⟨⟨d2, ks2⟩, h2, h⟩ := except_bind_ok h
  cases h
  exact ⟨d1, k, ks2, h1, h2, rfl⟩

theorem attachAll_cons_ok {d d' : Dom} {p k : Id} {ks : List Id} (h : d.attachAll p (k :: ks) = .ok d') :
    ∃ d1, d.appendRaw p k = .ok d1 ∧ d1.attachAll p ks = .ok d' :=
  except_bind_ok h

/-- `clone_with_subtree`: the template contents, if any, are copied first (giving `d1`); the copy is
the node `d1.size`, with the data `data`; then the children are copied below it -/
theorem cloneFixed_succ_ok {d d' : Dom} {fuel : Nat} {x k : Id} (h : Dom.cloneFixed d (fuel + 1) x = .ok (d', k)) :
    ∃ n d1 data, d.node? x = some n ∧ k = d1.size ∧
      Dom.cloneKidsWith (fun d c => Dom.cloneFixed d fuel c) d1.size (d1.alloc data).1 n.children = .ok d' ∧
      ((∃ nm a tc ip tc', n.data = .element nm a (some tc) ip ∧ Dom.cloneFixed d fuel tc = .ok (d1, tc') ∧
          data = .element nm a (some tc') ip) ∨
        (d1 = d ∧ data = n.data ∧ ∀ nm a tc ip, n.data ≠ .element nm a (some tc) ip)) := by
  obtain ⟨n, hg, h⟩ := except_bind_ok h
  have hn := get_ok.mp hg
  dsimp only at h
  split at h
  · rename_i nm a tc ip hnd
    obtain ⟨⟨d1, tc'⟩, h2, h⟩ := except_bind_ok h
    have h : (Dom.cloneKidsWith (fun d c => Dom.cloneFixed d fuel c) d1.size
        (d1.alloc (.element nm a (some tc') ip)).1 n.children >>= fun d3 => Except.ok (d3, d1.size)) = .ok (d', k) := h
    obtain ⟨d3, hk, h⟩ := except_bind_ok h
    cases h
    exact ⟨n, d1, _, hn, rfl, hk, Or.inl ⟨nm, a, tc, ip, tc', hnd, h2, rfl⟩⟩
  · rename_i hne
    have h : (Dom.cloneKidsWith (fun d c => Dom.cloneFixed d fuel c) d.size (d.alloc n.data).1 n.children
        >>= fun d3 => Except.ok (d3, d.size)) = .ok (d', k) := h
    obtain ⟨d3, hk, h⟩ := except_bind_ok h
    cases h
    exact ⟨n, d, _, hn, rfl, hk, Or.inr ⟨rfl, rfl, hne⟩⟩

/-- the three steps of the mirror: copy the option's children, empty the `selectedcontent`, attach the copies -/
theorem cloneOptionInto_fixed_ok {d d' : Dom} {o sc : Id} (h : d.cloneOptionInto .fixed o sc = .ok d') :
    ∃ on d1 frag d2, d.node? o = some on ∧
      Dom.cloneListWith (fun d c => Dom.cloneFixed d (d.size + 1) c) d on.children = .ok (d1, frag) ∧
      d1.detachChildren sc = .ok d2 ∧ d2.attachAll sc frag = .ok d' := by
  obtain ⟨on, ho, h⟩ := except_bind_ok h
  obtain ⟨⟨d1, frag⟩, h1, h⟩ := except_bind_ok h
  obtain ⟨d2, h2, h⟩ := except_bind_ok h
  exact ⟨on, d1, frag, d2, get_ok.mp ho, h1, h2, h⟩

theorem maybeCloneOption_fixed_ok {d d' : Dom} {o : Id} (h : d.maybeCloneOption .fixed o = .ok d') :
    (d.cloneTarget .fixed o = .ok none ∧ d' = d) ∨
      ∃ sc, d.cloneTarget .fixed o = .ok (some sc) ∧ d.cloneOptionInto .fixed o sc = .ok d' := by
  obtain ⟨r, ht, h⟩ := except_bind_ok h
  cases r with
  | none => cases h; exact Or.inl ⟨ht, rfl⟩
  | some sc => exact Or.inr ⟨sc, ht, h⟩

/-- result of copying a subtree -/
structure CS (d d' : Dom) (x k : Id) : Prop where
  base : DomBase d'
  fr : FrK d d' none
  fresh : d.size ≤ k
  valid : k < d'.size
  data : (d'.dataOf k).map eraseTc = (d.dataOf x).map eraseTc

theorem cloneKids_frame {cl : Dom → Id → Except String (Dom × Id)}
    (hcl : ∀ d c d' k, DomBase d → cl d c = .ok (d', k) → CS d d' c k) {id : Id} :
    ∀ (cs : List Id) (d d' : Dom), DomBase d → (cs ≠ [] → d.isContainer id = true) →
      (∀ c ∈ cs, c < d.size ∧ d.dataOf c ≠ some .document) →
      Dom.cloneKidsWith cl id d cs = .ok d' → DomBase d' ∧ FrK d d' (some id) := by
  intro cs
  induction cs with
  | nil =>
    intro d d' hb _ _ h
    simp [Dom.cloneKidsWith] at h
    subst h
    exact ⟨hb, FrK.refl _ _⟩
  | cons c cs ih =>
    intro d d' hb hcont hcs h
    obtain ⟨d1, k, d2, h1, h2, h⟩ := cloneKidsWith_cons_ok h
    have cs1 := hcl d c d1 k hb h1
    have hidc : d1.isContainer id = true := cs1.fr.chg.isContainer (hcont (by simp))
    have hknd : d1.dataOf k ≠ some .document := not_doc_of_eraseTc cs1.data (hcs c (by simp)).2
    obtain ⟨hb2, hchg2, _, _⟩ := append_node_spec cs1.base hidc hknd (by rw [append_node_eq]; exact h2)
    have hf12 : FrK d d2 (some id) := cs1.fr.weaken.trans (frK_appendRaw h2)
    obtain ⟨hb', hf'⟩ := ih d2 d' hb2 (fun _ => hchg2.isContainer hidc) (by
      intro c' hc'
      obtain ⟨h1', h2'⟩ := hcs c' (List.mem_cons_of_mem _ hc')
      exact ⟨Nat.lt_of_lt_of_le h1' hf12.size, by rw [hf12.data c' h1']; exact h2'⟩) h
    exact ⟨hb', hf12.trans hf'⟩

/-- the arena after the copy has been allocated: what the loop over the children starts from -/
theorem clone_alloc_pre {d d1 : Dom} {x : Id} {n : Node} {data : NodeData} (hb : DomBase d) (hn : d.node? x = some n)
    (hb1 : DomBase d1) (hf1 : FrK d d1 none) (hdat : eraseTc data = eraseTc n.data)
    (htc : ∀ nm a tc ip, data = .element nm a (some tc) ip → tc ≠ 0 ∧ d1.dataOf tc = some .document) :
    DomBase (d1.alloc data).1 ∧ (n.children ≠ [] → (d1.alloc data).1.isContainer d1.size = true) ∧
      ∀ c ∈ n.children, c < d1.size ∧ (d1.alloc data).1.dataOf c ≠ some .document := by
  refine ⟨hb1.alloc data ⟨?_, htc⟩, ?_, ?_⟩
  · intro t ht
    subst ht
    have : n.data = .text t := by
      cases hnd : n.data <;> simp [hnd, eraseTc] at hdat
      rw [hdat]
    exact hb.textNe x t (by rw [dataOf_of_node hn, this])
  · intro hne
    have hc := hb.cont x (by rw [childrenOf_of_node hn]; exact hne)
    unfold Dom.isContainer at hc ⊢
    rw [dataOf_alloc]
    simp only [if_true]
    rw [dataOf_of_node hn] at hc
    cases hnd : n.data <;> simp [hnd] at hc <;> cases data <;> simp [hnd, eraseTc] at hdat <;> rfl
  · intro c hc
    have hcx : c ∈ d.childrenOf x := by rw [childrenOf_of_node hn]; exact hc
    have hlt := hb.kidsValid x c hcx
    have hlt1 : c < d1.size := Nat.lt_of_lt_of_le hlt hf1.size
    refine ⟨hlt1, ?_⟩
    rw [dataOf_alloc]
    simp only [Nat.ne_of_lt hlt1, if_false]
    rw [hf1.data c hlt]
    exact hb.kidNotDoc x c hcx

/-- second half of `clone_with_subtree`: allocate the copy, copy the children below it -/
theorem clone_stage {cl : Dom → Id → Except String (Dom × Id)}
    (hcl : ∀ d c d' k, DomBase d → cl d c = .ok (d', k) → CS d d' c k)
    {d d1 d3 : Dom} {x : Id} {n : Node} {data : NodeData} (hb : DomBase d) (hn : d.node? x = some n)
    (hb1 : DomBase d1) (hf1 : FrK d d1 none) (hdat : eraseTc data = eraseTc n.data)
    (htc : ∀ nm a tc ip, data = .element nm a (some tc) ip → tc ≠ 0 ∧ d1.dataOf tc = some .document)
    (hk : Dom.cloneKidsWith cl d1.size (d1.alloc data).1 n.children = .ok d3) : CS d d3 x d1.size := by
  obtain ⟨hb2, hidc, hcs⟩ := clone_alloc_pre hb hn hb1 hf1 hdat htc
  have hs2 : (d1.alloc data).1.size = d1.size + 1 := size_alloc _ _
  obtain ⟨hb3, hf3⟩ := cloneKids_frame hcl n.children _ _ hb2 hidc
    (fun c hc => ⟨by rw [hs2]; exact Nat.lt_succ_of_lt (hcs c hc).1, (hcs c hc).2⟩) hk
  have hf13 : FrK d1 d3 none := by
    refine ⟨by have := hf3.size; omega, ?_, ?_⟩
    · intro y hy
      rw [hf3.data y (by omega), dataOf_alloc]; simp [Nat.ne_of_lt hy]
    · intro y hy _
      rw [hf3.kids y (by omega) (by intro e; cases e; exact Nat.lt_irrefl _ hy), childrenOf_alloc]
  refine ⟨hb3, hf1.trans hf13, hf1.size, Nat.lt_of_lt_of_le (by rw [hs2]; exact Nat.lt_succ_self _) hf3.size, ?_⟩
  rw [hf3.data d1.size (by omega), dataOf_alloc, dataOf_of_node hn]
  simp [hdat]

/-- the copy of the template contents of `x` is a `Document` node other than the document -/
theorem CS.tcCopy {d d1 : Dom} {x tc tc' : Id} (cs : CS d d1 tc tc') (hb : DomBase d)
    (htc : d.templateContentsOf x = some tc) : tc' ≠ 0 ∧ d1.dataOf tc' = some .document := by
  refine ⟨Nat.ne_of_gt (Nat.lt_of_lt_of_le hb.size_pos cs.fresh), ?_⟩
  have := cs.data
  rw [(hb.tcOk x tc htc).2] at this
  cases hd' : d1.dataOf tc' with
  | none => simp [hd'] at this
  | some v =>
    simp only [hd', Option.map_some, Option.some.injEq] at this
    rw [eraseTc_document this]

theorem templateContentsOf_of_node {d : Dom} {x : Id} {n : Node} {nm : QualName} {a : List Attr} {tc : Option Id}
    {ip : Bool} (hn : d.node? x = some n) (hnd : n.data = .element nm a tc ip) : d.templateContentsOf x = tc := by
  unfold Dom.templateContentsOf; rw [dataOf_of_node hn, hnd]

theorem cloneFixed_frame : ∀ (fuel : Nat) (d : Dom) (x : Id) (d' : Dom) (k : Id), DomBase d →
    Dom.cloneFixed d fuel x = .ok (d', k) → CS d d' x k := by
  intro fuel
  induction fuel with
  | zero => intro d x d' k _ h; simp [Dom.cloneFixed] at h
  | succ fuel ih =>
    intro d x d' k hb h
    obtain ⟨n, d1, data, hn, rfl, hk, ⟨nm, a, tc, ip, tc', hnd, h1, rfl⟩ | ⟨rfl, rfl, hne⟩⟩ := cloneFixed_succ_ok h
    · have cs1 := ih d tc d1 tc' hb h1
      refine clone_stage ih hb hn cs1.base cs1.fr (by rw [hnd]; rfl) ?_ hk
      intro _ _ _ _ he
      cases he
      exact cs1.tcCopy hb (templateContentsOf_of_node hn hnd)
    · exact clone_stage ih hb hn hb (FrK.refl _ _) rfl (fun nm a tc ip he => absurd he (hne nm a tc ip)) hk

/-- step 2: the list of copies -/
theorem cloneList_frame {cl : Dom → Id → Except String (Dom × Id)}
    (hcl : ∀ d c d' k, DomBase d → cl d c = .ok (d', k) → CS d d' c k) :
    ∀ (cs : List Id) (d d' : Dom) (ks : List Id), DomBase d →
      (∀ c ∈ cs, c < d.size ∧ d.dataOf c ≠ some .document) → Dom.cloneListWith cl d cs = .ok (d', ks) →
      DomBase d' ∧ FrK d d' none ∧ (∀ k ∈ ks, d.size ≤ k ∧ k < d'.size ∧ d'.dataOf k ≠ some .document) := by
  intro cs
  induction cs with
  | nil =>
    intro d d' ks hb _ h
    simp [Dom.cloneListWith] at h
    obtain ⟨rfl, rfl⟩ := h
    exact ⟨hb, FrK.refl _ _, by intro k hk; cases hk⟩
  | cons c cs ih =>
    intro d d' ks hb hcs h
    obtain ⟨d1, k, ks2, h1, h2, rfl⟩ := cloneListWith_cons_ok h
    have cs1 := hcl d c d1 k hb h1
    obtain ⟨hb2, hf2, hks⟩ := ih d1 d' ks2 cs1.base (by
      intro c' hc'
      obtain ⟨h1', h2'⟩ := hcs c' (List.mem_cons_of_mem _ hc')
      exact ⟨Nat.lt_of_lt_of_le h1' cs1.fr.size, by rw [cs1.fr.data c' h1']; exact h2'⟩) h2
    refine ⟨hb2, cs1.fr.trans hf2, ?_⟩
    intro k' hk'
    simp only [List.mem_cons] at hk'
    rcases hk' with rfl | hk'
    · refine ⟨cs1.fresh, Nat.lt_of_lt_of_le cs1.valid hf2.size, ?_⟩
      rw [hf2.data k' cs1.valid]
      exact not_doc_of_eraseTc cs1.data (hcs c (by simp)).2
    · exact ⟨Nat.le_trans cs1.fr.size (hks k' hk').1, (hks k' hk').2.1, (hks k' hk').2.2⟩

theorem attachAll_frame {p : Id} : ∀ (ks : List Id) (d d' : Dom), DomBase d → d.isContainer p = true →
    (∀ k ∈ ks, k < d.size ∧ d.dataOf k ≠ some .document) →
    d.attachAll p ks = .ok d' → DomBase d' ∧ FrK d d' (some p) := by
  intro ks
  induction ks with
  | nil => intro d d' hb _ _ h; simp [Dom.attachAll] at h; subst h; exact ⟨hb, FrK.refl _ _⟩
  | cons k ks ih =>
    intro d d' hb hp hks h
    obtain ⟨d1, h1, h⟩ := attachAll_cons_ok h
    obtain ⟨hb1, hchg1, _, _⟩ := append_node_spec hb hp (hks k (by simp)).2 (by rw [append_node_eq]; exact h1)
    have hf1 := frK_appendRaw h1
    obtain ⟨hb2, hf2⟩ := ih d1 d' hb1 (hchg1.isContainer hp) (by
      intro k' hk'
      obtain ⟨a, b⟩ := hks k' (List.mem_cons_of_mem _ hk')
      exact ⟨Nat.lt_of_lt_of_le a hf1.size, by rw [hf1.data k' a]; exact b⟩) h
    exact ⟨hb2, hf1.trans hf2⟩

theorem detachChildren_frame {d d' : Dom} {p : Id} (hb : DomBase d) (h : d.detachChildren p = .ok d') :
    DomBase d' ∧ FrK d d' (some p) := by
  obtain ⟨_, _, hk, hd, hs⟩ := detachChildren_ok h
  have hf : FrK d d' (some p) := ⟨Nat.le_of_eq hs.symm, fun y _ => hd y, fun y _ he => by
    rw [hk]; have : y ≠ p := fun e => he (by rw [e]); simp [this]⟩
  refine ⟨hb.step hf.chg (no_new_nodes hs) ?_ ?_ ?_, hf⟩
  · intro x hx
    rw [hk] at hx
    by_cases hxp : x = p
    · simp [hxp] at hx
    · simp only [hxp, if_false] at hx; exact Or.inl hx
  · intro q k hkm
    rw [hk] at hkm
    rw [hs]
    by_cases hxp : q = p
    · simp [hxp] at hkm
    · simp only [hxp, if_false] at hkm; exact hb.kidsValid q k hkm
  · intro q k hkm
    rw [hk] at hkm
    by_cases hxp : q = p
    · simp [hxp] at hkm
    · simp only [hxp, if_false] at hkm; exact Or.inl ⟨q, hkm⟩

theorem cloneOptionInto_frame {d d' : Dom} {o sc : Id} (hb : DomBase d) (hsc : d.isContainer sc = true)
    (h : d.cloneOptionInto .fixed o sc = .ok d') : DomBase d' ∧ FrK d d' (some sc) := by
  obtain ⟨on, d1, frag, d2, hon, h1, h2, h⟩ := cloneOptionInto_fixed_ok h
  obtain ⟨hb1, hf1, hks⟩ := cloneList_frame (fun d c d' k hb h => cloneFixed_frame _ d c d' k hb h) _ _ _ _ hb
    (by
      intro c hc
      have hcx : c ∈ d.childrenOf o := by rw [childrenOf_of_node hon]; exact hc
      exact ⟨hb.kidsValid o c hcx, hb.kidNotDoc o c hcx⟩) h1
  obtain ⟨hb2, hf2⟩ := detachChildren_frame hb1 h2
  obtain ⟨hb3, hf3⟩ := attachAll_frame frag d2 d' hb2 (hf2.chg.isContainer (hf1.chg.isContainer hsc)) (by
    intro k hk
    obtain ⟨_, a, b⟩ := hks k hk
    exact ⟨Nat.lt_of_lt_of_le a hf2.size, by rw [hf2.data k a]; exact b⟩) h
  exact ⟨hb3, (hf1.weaken.trans hf2).trans hf3⟩

theorem enabledSelectedcontent_fixed_isElement {d : Dom} {select sc : Id}
    (h : d.enabledSelectedcontent .fixed select = .ok (some sc)) : d.isElement sc = true := by
  unfold Dom.enabledSelectedcontent at h
  simp only [bind, Except.bind] at h
  cases hs : d.get select with
  | error e => simp [hs] at h
  | ok sn =>
    simp only [hs] at h
    cases hdata : sn.data with
    | element name attrs tc ip =>
      simp only [hdata] at h
      by_cases hn : name.loc ≠ sSelect
      · simp [hn, throw, throwThe, MonadExceptOf.throw] at h
      · simp only [hn, if_false] at h
        by_cases hm : Dom.hasAttrLocal attrs sMultiple = true
        · simp [hm] at h
        · simp [hm] at h
          have := List.find?_some h
          simp only [beq_iff_eq] at this
          unfold Dom.localNameOf at this
          unfold Dom.isElement
          cases hd : d.dataOf sc with
          | none => simp [hd] at this
          | some v => cases v <;> simp_all
    | document | doctype _ _ _ | comment _ | text _ | pi _ _ =>
      simp [hdata, throw, throwThe, MonadExceptOf.throw] at h

theorem cloneTarget_fixed_isElement {d : Dom} {o sc : Id} (h : d.cloneTarget .fixed o = .ok (some sc)) :
    d.isElement sc = true := by
  unfold Dom.cloneTarget at h
  simp only [bind, Except.bind] at h
  cases ho : d.get o with
  | error e => simp [ho] at h
  | ok on =>
    simp only [ho] at h
    cases hdata : on.data with
    | element name attrs tc ip =>
      simp only [hdata] at h
      by_cases hn : name.loc ≠ sOption
      · simp [hn, throw, throwThe, MonadExceptOf.throw] at h
      · simp only [hn, if_false] at h
        cases hsel : d.nearestAncestorSelect o with
        | error e => simp [hsel] at h
        | ok sel =>
          simp only [hsel] at h
          cases sel with
          | none => simp at h
          | some select =>
            simp only at h
            cases hsc : d.enabledSelectedcontent .fixed select with
            | error e => simp [hsc] at h
            | ok r =>
              simp only [hsc] at h
              cases r with
              | none => simp at h
              | some sc' =>
                simp only at h
                split at h
                · simp at h; subst h; exact enabledSelectedcontent_fixed_isElement hsc
                · simp at h
    | document | doctype _ _ _ | comment _ | text _ | pi _ _ =>
      simp [hdata, throw, throwThe, MonadExceptOf.throw] at h

theorem isContainer_of_isElement {d : Dom} {x : Id} (h : d.isElement x = true) : d.isContainer x = true := by
  unfold Dom.isElement at h
  unfold Dom.isContainer
  cases hd : d.dataOf x with
  | none => simp [hd] at h
  | some v => cases v <;> simp [hd] at h ⊢

theorem ne_zero_of_isElement {d : Dom} (hb : DomBase d) {x : Id} (h : d.isElement x = true) : x ≠ 0 := by
  intro h0; subst h0
  unfold Dom.isElement at h
  rw [hb.doc0] at h
  cases h

/-- `maybe_clone_an_option_into_selectedcontent` -/
theorem maybeCloneOption_spec {d d' : Dom} {o : Id} (hb : DomBase d)
    (h : d.maybeCloneOption .fixed o = .ok d') :
    DomBase d' ∧ Chg d d' ∧ d'.childrenOf 0 = d.childrenOf 0 := by
  rcases maybeCloneOption_fixed_ok h with ⟨_, rfl⟩ | ⟨sc, ht, h⟩
  · exact ⟨hb, Chg.refl _, rfl⟩
  · have hel := cloneTarget_fixed_isElement ht
    obtain ⟨hb', hf⟩ := cloneOptionInto_frame hb (isContainer_of_isElement hel) h
    refine ⟨hb', hf.chg, hf.kids 0 hb.size_pos ?_⟩
    intro e; cases e
    exact ne_zero_of_isElement hb hel rfl

end H5V.Props.C06
