import H5V.Lemmas.HtmlTBModesInvBase
/-!
C02 (insertion modes), the invariant `Good` of the specification's run: what the helper algorithms of
`Spec.TreeModes1` / `TreeModes2` do to the parts of the state `Good` looks at (`Upd`), and when they keep
"a td/th element is in table scope" (`cellR`).
-/
set_option linter.unusedSectionVars false
namespace H5V.Lemmas.ModesInv
open H5V.Spec H5V.Spec.TreeModes
open H5V.Spec.TreeAlgo (Str Name nsHtml nsMathml nsSvg inHtml)
open H5V.Spec.TreeAlgo2 (Elem Entry PState)

/-! ### element types and the tables of names -/

theorem inHtml_iff {l : List String} {n : Name} : inHtml l n = true ↔ ∃ x ∈ l, n = ⟨nsHtml, x.toList⟩ := by
  obtain ⟨ns, loc⟩ := n
  simp only [inHtml, Bool.and_eq_true, beq_iff_eq, List.any_eq_true, Name.mk.injEq]
  exact ⟨fun ⟨h, x, hx, hl⟩ => ⟨x, hx, h, hl.symm⟩, fun ⟨x, hx, h, hl⟩ => ⟨h, x, hx, hl.symm⟩⟩

/-- every name of `l` is an HTML row of the table `t` (a finite check): the HTML elements of `l` are in `t` -/
theorem inTable_of_inHtml {l : List String} {t : List (String × String)}
    (hd : l.all (fun x => t.contains ("html", x)) = true) {n : Name} (h : inHtml l n = true) :
    TreeAlgo.inTable t n = true := by
  obtain ⟨x, hx, rfl⟩ := inHtml_iff.mp h
  have hm : ("html", x) ∈ t := by simpa using List.all_eq_true.mp hd x hx
  exact List.any_eq_true.mpr ⟨_, hm, by simp [TreeAlgo.nsUrl]⟩

/-- no HTML row of the table `t` has a name of `l` (a finite check; the name is compared first, so that evaluating
the check never reaches the namespace URLs): the HTML elements of `l` are not in `t` -/
theorem inTable_false_of_inHtml {l : List String} {t : List (String × String)}
    (hd : t.all (fun r => !(l.contains r.2 && TreeAlgo.nsUrl r.1 == nsHtml)) = true) {n : Name}
    (h : inHtml l n = true) : TreeAlgo.inTable t n = false := by
  obtain ⟨x, hx, rfl⟩ := inHtml_iff.mp h
  refine Bool.eq_false_iff.mpr fun hc => ?_
  obtain ⟨r, hr, hrn⟩ := List.any_eq_true.mp hc
  simp only [Bool.and_eq_true, beq_iff_eq] at hrn
  have := List.all_eq_true.mp hd r hr
  rw [hrn.1, String.toList_inj.mp hrn.2] at this
  simp [hx] at this

/-- every row of `t` is a row of `t'` (a finite check) -/
theorem inTable_mono {t t' : List (String × String)} (hd : t.all (fun r => t'.contains r) = true) {n : Name}
    (h : TreeAlgo.inTable t n = true) : TreeAlgo.inTable t' n = true := by
  obtain ⟨r, hr, hrn⟩ := List.any_eq_true.mp h
  exact List.any_eq_true.mpr ⟨r, by simpa using List.all_eq_true.mp hd r hr, hrn⟩

theorem inTable_append (a b : List (String × String)) (n : Name) :
    TreeAlgo.inTable (a ++ b) n = (TreeAlgo.inTable a n || TreeAlgo.inTable b n) := List.any_append

/-- two lists of names without a common member (a finite check) have no HTML element in common -/
theorem inHtml_false_of_inHtml {l l' : List String} (hd : l.all (fun x => !l'.contains x) = true) {n : Name}
    (h : inHtml l n = true) : inHtml l' n = false := by
  obtain ⟨x, hx, rfl⟩ := inHtml_iff.mp h
  refine Bool.eq_false_iff.mpr fun hc => ?_
  obtain ⟨y, hy, hxy⟩ := inHtml_iff.mp hc
  have := List.all_eq_true.mp hd x hx
  rw [String.toList_inj.mp (Name.mk.inj hxy).2] at this
  simp [hy] at this

section
variable {N : Type} [DecidableEq N]

/-! ### lists -/

theorem mem_takeWhile_p {α : Type} {p : α → Bool} : ∀ {l : List α} {a : α}, a ∈ l.takeWhile p → p a = true
  | [], _, h => by simp at h
  | b :: l, a, h => by
    by_cases hb : p b = true
    · rw [List.takeWhile_cons_of_pos hb] at h
      rcases List.mem_cons.mp h with rfl | h
      · exact hb
      · exact mem_takeWhile_p h
    · rw [List.takeWhile_cons_of_neg hb] at h; cases h

theorem map_dropWhile_name (p : Name → Bool) : ∀ l : List (Elem N),
    (l.dropWhile fun e => p e.name).map (·.name) = (l.map (·.name)).dropWhile p
  | [] => rfl
  | e :: l => by
    simp only [List.dropWhile_cons, List.map_cons]
    split
    · exact map_dropWhile_name p l
    · rfl

/-- names of a stack after dropping from the top while `p` holds of the element's name -/
theorem namesOf_dropWhile (p : Name → Bool) (st : List (Elem N)) :
    namesOf (st.reverse.dropWhile fun e => p e.name).reverse = (namesOf st).dropWhile p := by
  simp only [namesOf, List.reverse_reverse]
  exact map_dropWhile_name p _

theorem reverse_take' {α : Type} (l : List α) (k : Nat) : (l.take (l.length - k)).reverse = l.reverse.drop k :=
  List.drop_reverse.symm

theorem reverse_dropLast' {α : Type} (l : List α) : l.dropLast.reverse = l.reverse.drop 1 := by
  rw [List.dropLast_eq_take, reverse_take']

theorem namesOf_dropLast (st : List (Elem N)) : namesOf st.dropLast = (namesOf st).drop 1 := by
  simp only [namesOf]
  rw [reverse_dropLast', List.map_drop]

theorem namesOf_take_drop (st : List (Elem N)) (k : Nat) : namesOf (st.take (st.length - k)) = (namesOf st).drop k := by
  simp only [namesOf]
  rw [reverse_take', List.map_drop]

/-! ### the small setters: projections (`simp` set) -/

@[simp] theorem err_mode (s : State N) (w) : (s.err w).mode = s.mode := rfl
@[simp] theorem err_orig (s : State N) (w) : (s.err w).originalMode = s.originalMode := rfl
@[simp] theorem err_tms (s : State N) (w) : (s.err w).templateModes = s.templateModes := rfl
@[simp] theorem err_stopped (s : State N) (w) : (s.err w).stopped = s.stopped := rfl
@[simp] theorem err_p (s : State N) (w) : (s.err w).p = s.p := rfl
@[simp] theorem err_names (s : State N) (w) : (s.err w).names = s.names := rfl

/-- a parse error raised under a condition: like `err`, whichever branch is taken -/
@[simp] theorem iteErr_mode (c : Prop) [Decidable c] (s : State N) (w : String) :
    (if c then s else s.err w).mode = s.mode := by split <;> rfl
@[simp] theorem iteErr_orig (c : Prop) [Decidable c] (s : State N) (w : String) :
    (if c then s else s.err w).originalMode = s.originalMode := by split <;> rfl
@[simp] theorem iteErr_tms (c : Prop) [Decidable c] (s : State N) (w : String) :
    (if c then s else s.err w).templateModes = s.templateModes := by split <;> rfl
@[simp] theorem iteErr_stopped (c : Prop) [Decidable c] (s : State N) (w : String) :
    (if c then s else s.err w).stopped = s.stopped := by split <;> rfl
@[simp] theorem iteErr_p (c : Prop) [Decidable c] (s : State N) (w : String) :
    (if c then s else s.err w).p = s.p := by split <;> rfl
@[simp] theorem iteErr_names (c : Prop) [Decidable c] (s : State N) (w : String) :
    (if c then s else s.err w).names = s.names := by split <;> rfl
@[simp] theorem errIte_p (c : Prop) [Decidable c] (s : State N) (w : String) :
    (if c then s.err w else s).p = s.p := by split <;> rfl
@[simp] theorem errIte_names (c : Prop) [Decidable c] (s : State N) (w : String) :
    (if c then s.err w else s).names = s.names := by split <;> rfl

@[simp] theorem xop_mode (s : State N) (o) : (s.xop o).mode = s.mode := rfl
@[simp] theorem xop_orig (s : State N) (o) : (s.xop o).originalMode = s.originalMode := rfl
@[simp] theorem xop_tms (s : State N) (o) : (s.xop o).templateModes = s.templateModes := rfl
@[simp] theorem xop_stopped (s : State N) (o) : (s.xop o).stopped = s.stopped := rfl
@[simp] theorem xop_p (s : State N) (o) : (s.xop o).p = s.p := rfl

@[simp] theorem setStack_mode (s : State N) (st) : (s.setStack st).mode = s.mode := rfl
@[simp] theorem setStack_orig (s : State N) (st) : (s.setStack st).originalMode = s.originalMode := rfl
@[simp] theorem setStack_tms (s : State N) (st) : (s.setStack st).templateModes = s.templateModes := rfl
@[simp] theorem setStack_stopped (s : State N) (st) : (s.setStack st).stopped = s.stopped := rfl
@[simp] theorem setStack_stack (s : State N) (st) : (s.setStack st).p.stack = st := rfl
@[simp] theorem setStack_list (s : State N) (st) : (s.setStack st).p.list = s.p.list := rfl
@[simp] theorem setStack_form (s : State N) (st) : (s.setStack st).p.formPointer = s.p.formPointer := rfl
@[simp] theorem setStack_names (s : State N) (st) : (s.setStack st).names = namesOf st := rfl

@[simp] theorem setList_mode (s : State N) (l) : (s.setList l).mode = s.mode := rfl
@[simp] theorem setList_orig (s : State N) (l) : (s.setList l).originalMode = s.originalMode := rfl
@[simp] theorem setList_tms (s : State N) (l) : (s.setList l).templateModes = s.templateModes := rfl
@[simp] theorem setList_stopped (s : State N) (l) : (s.setList l).stopped = s.stopped := rfl
@[simp] theorem setList_stack (s : State N) (l) : (s.setList l).p.stack = s.p.stack := rfl
@[simp] theorem setList_list (s : State N) (l) : (s.setList l).p.list = l := rfl
@[simp] theorem setList_names (s : State N) (l) : (s.setList l).names = s.names := rfl

@[simp] theorem setMode_mode (s : State N) (m) : (s.setMode m).mode = m := rfl
@[simp] theorem setMode_orig (s : State N) (m) : (s.setMode m).originalMode = s.originalMode := rfl
@[simp] theorem setMode_tms (s : State N) (m) : (s.setMode m).templateModes = s.templateModes := rfl
@[simp] theorem setMode_stopped (s : State N) (m) : (s.setMode m).stopped = s.stopped := rfl
@[simp] theorem setMode_p (s : State N) (m) : (s.setMode m).p = s.p := rfl
@[simp] theorem setMode_names (s : State N) (m) : (s.setMode m).names = s.names := rfl

@[simp] theorem setFoster_mode (s : State N) (b) : (s.setFoster b).mode = s.mode := rfl
@[simp] theorem setFoster_orig (s : State N) (b) : (s.setFoster b).originalMode = s.originalMode := rfl
@[simp] theorem setFoster_tms (s : State N) (b) : (s.setFoster b).templateModes = s.templateModes := rfl
@[simp] theorem setFoster_stopped (s : State N) (b) : (s.setFoster b).stopped = s.stopped := rfl
@[simp] theorem setFoster_stack (s : State N) (b) : (s.setFoster b).p.stack = s.p.stack := rfl
@[simp] theorem setFoster_list (s : State N) (b) : (s.setFoster b).p.list = s.p.list := rfl
@[simp] theorem setFoster_form (s : State N) (b) : (s.setFoster b).p.formPointer = s.p.formPointer := rfl
@[simp] theorem setFoster_names (s : State N) (b) : (s.setFoster b).names = s.names := rfl

@[simp] theorem setForm_mode (s : State N) (f) : (s.setForm f).mode = s.mode := rfl
@[simp] theorem setForm_orig (s : State N) (f) : (s.setForm f).originalMode = s.originalMode := rfl
@[simp] theorem setForm_tms (s : State N) (f) : (s.setForm f).templateModes = s.templateModes := rfl
@[simp] theorem setForm_stopped (s : State N) (f) : (s.setForm f).stopped = s.stopped := rfl
@[simp] theorem setForm_stack (s : State N) (f) : (s.setForm f).p.stack = s.p.stack := rfl
@[simp] theorem setForm_list (s : State N) (f) : (s.setForm f).p.list = s.p.list := rfl
@[simp] theorem setForm_names (s : State N) (f) : (s.setForm f).names = s.names := rfl

@[simp] theorem notOk_mode (s : State N) : s.notOk.mode = s.mode := rfl
@[simp] theorem notOk_orig (s : State N) : s.notOk.originalMode = s.originalMode := rfl
@[simp] theorem notOk_tms (s : State N) : s.notOk.templateModes = s.templateModes := rfl
@[simp] theorem notOk_stopped (s : State N) : s.notOk.stopped = s.stopped := rfl
@[simp] theorem notOk_p (s : State N) : s.notOk.p = s.p := rfl
@[simp] theorem notOk_names (s : State N) : s.notOk.names = s.names := rfl

@[simp] theorem switchTokenizer_mode (s : State N) (t) : (s.switchTokenizer t).mode = s.mode := rfl
@[simp] theorem switchTokenizer_orig (s : State N) (t) : (s.switchTokenizer t).originalMode = s.originalMode := rfl
@[simp] theorem switchTokenizer_tms (s : State N) (t) : (s.switchTokenizer t).templateModes = s.templateModes := rfl
@[simp] theorem switchTokenizer_stopped (s : State N) (t) : (s.switchTokenizer t).stopped = s.stopped := rfl
@[simp] theorem switchTokenizer_p (s : State N) (t) : (s.switchTokenizer t).p = s.p := rfl
@[simp] theorem switchTokenizer_names (s : State N) (t) : (s.switchTokenizer t).names = s.names := rfl

@[simp] theorem ack_mode (s : State N) (t) : (s.ack t).mode = s.mode := by unfold State.ack; split <;> rfl
@[simp] theorem ack_orig (s : State N) (t) : (s.ack t).originalMode = s.originalMode := by unfold State.ack; split <;> rfl
@[simp] theorem ack_tms (s : State N) (t) : (s.ack t).templateModes = s.templateModes := by unfold State.ack; split <;> rfl
@[simp] theorem ack_stopped (s : State N) (t) : (s.ack t).stopped = s.stopped := by unfold State.ack; split <;> rfl
@[simp] theorem ack_p (s : State N) (t) : (s.ack t).p = s.p := by unfold State.ack; split <;> rfl
@[simp] theorem ack_names (s : State N) (t) : (s.ack t).names = s.names := by unfold State.ack; split <;> rfl

@[simp] theorem pop_mode (s : State N) : s.pop.mode = s.mode := rfl
@[simp] theorem pop_orig (s : State N) : s.pop.originalMode = s.originalMode := rfl
@[simp] theorem pop_tms (s : State N) : s.pop.templateModes = s.templateModes := rfl
@[simp] theorem pop_stopped (s : State N) : s.pop.stopped = s.stopped := rfl
@[simp] theorem pop_stack (s : State N) : s.pop.p.stack = s.p.stack.dropLast := rfl
@[simp] theorem pop_list (s : State N) : s.pop.p.list = s.p.list := rfl
@[simp] theorem pop_names (s : State N) : s.pop.names = s.names.drop 1 := namesOf_dropLast _

@[simp] theorem insertMarker_mode (s : State N) : s.insertMarker.mode = s.mode := rfl
@[simp] theorem insertMarker_orig (s : State N) : s.insertMarker.originalMode = s.originalMode := rfl
@[simp] theorem insertMarker_tms (s : State N) : s.insertMarker.templateModes = s.templateModes := rfl
@[simp] theorem insertMarker_stopped (s : State N) : s.insertMarker.stopped = s.stopped := rfl
@[simp] theorem insertMarker_stack (s : State N) : s.insertMarker.p.stack = s.p.stack := rfl
@[simp] theorem insertMarker_list (s : State N) : s.insertMarker.p.list = s.p.list ++ [.marker] := rfl
@[simp] theorem insertMarker_names (s : State N) : s.insertMarker.names = s.names := rfl

@[simp] theorem clearToLastMarker_mode (s : State N) : s.clearToLastMarker.mode = s.mode := rfl
@[simp] theorem clearToLastMarker_orig (s : State N) : s.clearToLastMarker.originalMode = s.originalMode := rfl
@[simp] theorem clearToLastMarker_tms (s : State N) : s.clearToLastMarker.templateModes = s.templateModes := rfl
@[simp] theorem clearToLastMarker_stopped (s : State N) : s.clearToLastMarker.stopped = s.stopped := rfl
@[simp] theorem clearToLastMarker_stack (s : State N) : s.clearToLastMarker.p.stack = s.p.stack := rfl
@[simp] theorem clearToLastMarker_list (s : State N) :
    s.clearToLastMarker.p.list = TreeAlgo2.clearToLastMarker s.p.list := rfl
@[simp] theorem clearToLastMarker_names (s : State N) : s.clearToLastMarker.names = s.names := rfl

/-! ### the list of active formatting elements -/

theorem AFOk.sub {l l' : List (Entry N ETok)} (h : AFOk l) (hs : ∀ x ∈ l', x ∈ l) : AFOk l' :=
  fun n t hm => h n t (hs _ hm)

theorem AFOk.nil : AFOk ([] : List (Entry N ETok)) := fun _ _ h => by cases h

theorem AFOk.eraseIdx {l : List (Entry N ETok)} (h : AFOk l) (i : Nat) : AFOk (l.eraseIdx i) :=
  h.sub fun _ hx => List.mem_of_mem_eraseIdx hx

theorem AFOk.marker {l : List (Entry N ETok)} (h : AFOk l) : AFOk (l ++ [.marker]) := by
  intro n t hm
  rcases List.mem_append.mp hm with hm | hm
  · exact h n t hm
  · simp at hm

theorem AFOk.snoc {l : List (Entry N ETok)} (h : AFOk l) {n : N} {t : ETok} (ht : fmtN t.name = true) :
    AFOk (l ++ [.element n t]) := by
  intro n' t' hm
  rcases List.mem_append.mp hm with hm | hm
  · exact h n' t' hm
  · simp only [List.mem_singleton] at hm
    cases hm; exact ht

theorem mem_clearRev {x : Entry N ETok} : ∀ {l : List (Entry N ETok)}, x ∈ TreeAlgo2.clearRev l → x ∈ l
  | [], h => h
  | e :: rest, h => by
    unfold TreeAlgo2.clearRev at h
    split at h
    · exact List.mem_cons_of_mem _ h
    · exact List.mem_cons_of_mem _ (mem_clearRev h)

theorem AFOk.clear {l : List (Entry N ETok)} (h : AFOk l) : AFOk (TreeAlgo2.clearToLastMarker l) :=
  h.sub fun x hx => by
    unfold TreeAlgo2.clearToLastMarker at hx
    have := mem_clearRev (List.mem_reverse.mp hx)
    exact List.mem_reverse.mp this

theorem AFOk.set {l : List (Entry N ETok)} (h : AFOk l) {i : Nat} {n : N} {t : ETok} (ht : fmtN t.name = true) :
    AFOk (l.set i (.element n t)) := by
  intro n' t' hm
  rcases List.mem_or_eq_of_mem_set hm with hm | hm
  · exact h n' t' hm
  · cases hm; exact ht

theorem AFOk.getElem {l : List (Entry N ETok)} (h : AFOk l) {i : Nat} {n : N} {t : ETok}
    (hi : l[i]? = some (.element n t)) : fmtN t.name = true :=
  h n t (List.mem_of_getElem? hi)

theorem mem_insertIdx_or {α : Type} {l : List α} {i : Nat} {a b : α} (h : a ∈ l.insertIdx i b) : a = b ∨ a ∈ l := by
  by_cases hi : i ≤ l.length
  · exact (List.mem_insertIdx hi).mp h
  · rw [List.insertIdx_of_length_lt (by omega)] at h
    exact Or.inr h

theorem AFOk.insertIdx {l : List (Entry N ETok)} (h : AFOk l) (i : Nat) {n : N} {t : ETok} (ht : fmtN t.name = true) :
    AFOk (l.insertIdx i (.element n t)) := by
  intro n' t' hm
  rcases mem_insertIdx_or hm with hm | hm
  · cases hm; exact ht
  · exact h n' t' hm

theorem mem_removeEarliest {E : Type} {p : E → Bool} {x : Option E} :
    ∀ {l : List (Option E)}, x ∈ TreeAlgo.removeEarliestAfterMarker p l → x ∈ l
  | [], h => by simp [TreeAlgo.removeEarliestAfterMarker] at h
  | none :: rest, h => by
    unfold TreeAlgo.removeEarliestAfterMarker at h
    rcases List.mem_cons.mp h with h | h
    · exact h ▸ List.mem_cons_self ..
    · exact List.mem_cons_of_mem _ (mem_removeEarliest h)
  | some e :: rest, h => by
    unfold TreeAlgo.removeEarliestAfterMarker at h
    split at h
    · rcases List.mem_cons.mp h with h | h
      · exact h ▸ List.mem_cons_self ..
      · exact List.mem_cons_of_mem _ (mem_removeEarliest h)
    · split at h
      · exact List.mem_cons_of_mem _ h
      · rcases List.mem_cons.mp h with h | h
        · exact h ▸ List.mem_cons_self ..
        · exact List.mem_cons_of_mem _ (mem_removeEarliest h)

/-- "push onto the list of active formatting elements" a formatting start tag -/
theorem AFOk.push {s : State N} (h : AFOk s.p.list) (e : Elem N) {t : Tag} (ht : fmtN t.name = true) :
    AFOk (pushFormatting s e t).p.list := by
  intro n tok hm
  simp only [pushFormatting, setList_list, List.mem_map] at hm
  obtain ⟨o, ho, he⟩ := hm
  unfold TreeAlgo.noahPush at ho
  rcases List.mem_append.mp ho with ho | ho
  · have ho' : o ∈ s.p.list.map entryToOpt := by
      split at ho
      · exact mem_removeEarliest ho
      · exact ho
    obtain ⟨x, hx, hxo⟩ := List.mem_map.mp ho'
    cases x with
    | marker => subst hxo; cases he
    | element n' t' =>
      subst hxo
      simp only [entryToOpt, optToEntry] at he
      cases he
      exact h n tok hx
  · simp only [List.mem_singleton] at ho
    subst ho
    simp only [optToEntry] at he
    cases he
    exact ht

@[simp] theorem pushFormatting_mode (s : State N) (e t) : (pushFormatting s e t).mode = s.mode := setList_mode s _
@[simp] theorem pushFormatting_orig (s : State N) (e t) : (pushFormatting s e t).originalMode = s.originalMode := setList_orig s _
@[simp] theorem pushFormatting_tms (s : State N) (e t) : (pushFormatting s e t).templateModes = s.templateModes := setList_tms s _
@[simp] theorem pushFormatting_stopped (s : State N) (e t) : (pushFormatting s e t).stopped = s.stopped := setList_stopped s _
@[simp] theorem pushFormatting_stack (s : State N) (e t) : (pushFormatting s e t).p.stack = s.p.stack := setList_stack s _
@[simp] theorem pushFormatting_names (s : State N) (e t) : (pushFormatting s e t).names = s.names := setList_names s _

/-! ### popping: the element types after the pop -/

@[simp] theorem genImplied_mode (s : State N) (ex) : (genImplied s ex).mode = s.mode := rfl
@[simp] theorem genImplied_orig (s : State N) (ex) : (genImplied s ex).originalMode = s.originalMode := rfl
@[simp] theorem genImplied_tms (s : State N) (ex) : (genImplied s ex).templateModes = s.templateModes := rfl
@[simp] theorem genImplied_stopped (s : State N) (ex) : (genImplied s ex).stopped = s.stopped := rfl
@[simp] theorem genImplied_list (s : State N) (ex) : (genImplied s ex).p.list = s.p.list := rfl
@[simp] theorem genImplied_form (s : State N) (ex) : (genImplied s ex).p.formPointer = s.p.formPointer := rfl
theorem genImplied_names (s : State N) (ex : Option String) :
    (genImplied s ex).names = s.names.dropWhile (TreeAlgo.impliedEndTag (ex.map String.toList)) :=
  namesOf_dropWhile _ _

@[simp] theorem genImpliedExceptStr_mode (s : State N) (ex) : (genImpliedExceptStr s ex).mode = s.mode := rfl
@[simp] theorem genImpliedExceptStr_orig (s : State N) (ex) : (genImpliedExceptStr s ex).originalMode = s.originalMode := rfl
@[simp] theorem genImpliedExceptStr_tms (s : State N) (ex) : (genImpliedExceptStr s ex).templateModes = s.templateModes := rfl
@[simp] theorem genImpliedExceptStr_stopped (s : State N) (ex) : (genImpliedExceptStr s ex).stopped = s.stopped := rfl
@[simp] theorem genImpliedExceptStr_list (s : State N) (ex) : (genImpliedExceptStr s ex).p.list = s.p.list := rfl
theorem genImpliedExceptStr_names (s : State N) (ex : Str) :
    (genImpliedExceptStr s ex).names = s.names.dropWhile (TreeAlgo.impliedEndTag (some ex)) :=
  namesOf_dropWhile _ _

theorem implied_inHtml {ex : Option Str} {n : Name} (h : TreeAlgo.impliedEndTag ex n = true) :
    inHtml TreeTables.impliedEnd n = true := by
  simp only [TreeAlgo.impliedEndTag, Bool.and_eq_true] at h
  exact h.1

/-- an element that has an implied end tag is not a `td`/`th` -/
theorem impliedEndTag_noTd {ex : Option Str} {n : Name} (h : TreeAlgo.impliedEndTag ex n = true) : tdThN n = false :=
  inHtml_false_of_inHtml (by decide +kernel) (implied_inHtml h)

theorem eq_of_isNamed {x : Str} {n : Name} (h : isNamed x n = true) : n = ⟨nsHtml, x⟩ := by
  obtain ⟨ns, loc⟩ := n
  simp only [isNamed, Bool.and_eq_true, beq_iff_eq] at h
  rw [h.1, h.2]

/-- "generate implied end tags" does not pop an element whose tag name has no implied end tag -/
theorem implied_notNamed {x : Str} {ex : Option Str} (hx : TreeAlgo.impliedEndTag ex ⟨nsHtml, x⟩ = false) {n : Name}
    (h : TreeAlgo.impliedEndTag ex n = true) : isNamed x n = false :=
  Bool.eq_false_iff.mpr fun hc => by rw [eq_of_isNamed hc, hx] at h; cases h

/-- "generate implied end tags, except for `x` elements" does not pop an `x` element -/
theorem implied_except {x : Str} {n : Name} (h : TreeAlgo.impliedEndTag (some x) n = true) : isNamed x n = false := by
  simp only [TreeAlgo.impliedEndTag, Bool.and_eq_true, Bool.not_eq_true'] at h
  cases hc : isNamed x n
  · rfl
  · exfalso
    simp only [isNamed, Bool.and_eq_true, beq_iff_eq] at hc
    have h2 := h.2
    rw [hc.2] at h2
    simp [hc.1] at h2

/-- "generate implied end tags" keeps "td/th in table scope" -/
theorem cellR_genImplied {s : State N} (ex : Option String) (h : cellR s.names = true) :
    cellR (genImplied s ex).names = true := by
  rw [genImplied_names]
  exact cellR_dropWhile (fun n hn => impliedEndTag_noTd (mem_takeWhile_p hn)) h

theorem cellR_genImpliedExceptStr {s : State N} (ex : Str) (h : cellR s.names = true) :
    cellR (genImpliedExceptStr s ex).names = true := by
  rw [genImpliedExceptStr_names]
  exact cellR_dropWhile (fun n hn => impliedEndTag_noTd (mem_takeWhile_p hn)) h

theorem namesOf_popUntilPopped (p : Name → Bool) (st : List (Elem N)) :
    namesOf (TreeAlgo2.popUntilPopped (fun e => p e.name) st) = ((namesOf st).dropWhile fun n => !p n).drop 1 := by
  unfold TreeAlgo2.popUntilPopped
  simp only [namesOf, List.reverse_reverse]
  rw [List.map_drop, map_dropWhile_name (fun n => !p n)]

@[simp] theorem popUntilPopped_mode (s : State N) (n) : (popUntilPopped s n).mode = s.mode := rfl
@[simp] theorem popUntilPopped_orig (s : State N) (n) : (popUntilPopped s n).originalMode = s.originalMode := rfl
@[simp] theorem popUntilPopped_tms (s : State N) (n) : (popUntilPopped s n).templateModes = s.templateModes := rfl
@[simp] theorem popUntilPopped_stopped (s : State N) (n) : (popUntilPopped s n).stopped = s.stopped := rfl
@[simp] theorem popUntilPopped_list (s : State N) (n) : (popUntilPopped s n).p.list = s.p.list := rfl
theorem popUntilPopped_names (s : State N) (n : String) :
    (popUntilPopped s n).names = (s.names.dropWhile fun m => !m.isHtml n).drop 1 :=
  namesOf_popUntilPopped (fun m => m.isHtml n) _

@[simp] theorem popUntilPoppedStr_mode (s : State N) (n) : (popUntilPoppedStr s n).mode = s.mode := rfl
@[simp] theorem popUntilPoppedStr_orig (s : State N) (n) : (popUntilPoppedStr s n).originalMode = s.originalMode := rfl
@[simp] theorem popUntilPoppedStr_tms (s : State N) (n) : (popUntilPoppedStr s n).templateModes = s.templateModes := rfl
@[simp] theorem popUntilPoppedStr_stopped (s : State N) (n) : (popUntilPoppedStr s n).stopped = s.stopped := rfl
@[simp] theorem popUntilPoppedStr_list (s : State N) (n) : (popUntilPoppedStr s n).p.list = s.p.list := rfl
theorem popUntilPoppedStr_names (s : State N) (n : Str) :
    (popUntilPoppedStr s n).names = (s.names.dropWhile fun m => !isNamed n m).drop 1 :=
  namesOf_popUntilPopped (fun m => isNamed n m) _

@[simp] theorem popUntilPoppedAny_mode (s : State N) (l) : (popUntilPoppedAny s l).mode = s.mode := rfl
@[simp] theorem popUntilPoppedAny_orig (s : State N) (l) : (popUntilPoppedAny s l).originalMode = s.originalMode := rfl
@[simp] theorem popUntilPoppedAny_tms (s : State N) (l) : (popUntilPoppedAny s l).templateModes = s.templateModes := rfl
@[simp] theorem popUntilPoppedAny_stopped (s : State N) (l) : (popUntilPoppedAny s l).stopped = s.stopped := rfl
@[simp] theorem popUntilPoppedAny_list (s : State N) (l) : (popUntilPoppedAny s l).p.list = s.p.list := rfl
theorem popUntilPoppedAny_names (s : State N) (l : List String) :
    (popUntilPoppedAny s l).names = (s.names.dropWhile fun m => !inHtml l m).drop 1 :=
  namesOf_popUntilPopped (fun m => inHtml l m) _

/-- popping until a target has been popped: if the target is in a scope whose list has `td`, `th`, and the target
itself is not a `td`/`th`, "td/th in table scope" survives -/
theorem cellR_popUntil {isTarget list : Name → Bool} (hl : ∀ n, tdThN n = true → list n = true)
    (ht : ∀ n, isTarget n = true → tdThN n = false) {l : List Name}
    (hs : TreeAlgo.hasInScope isTarget list l = true) (h : cellR l = true) :
    cellR ((l.dropWhile fun n => !isTarget n).drop 1) = true := by
  have h1 := cellR_dropWhile (p := fun n => !isTarget n) (noTd_above_target hl hs) h
  cases hd : l.dropWhile (fun n => !isTarget n) with
  | nil => rw [hd] at h1; cases h1
  | cons m rest =>
    rw [hd] at h1
    have hm : isTarget m = true := by
      have := List.head_dropWhile_not (p := fun n => !isTarget n) (l := l) (by rw [hd]; simp)
      simpa [hd] using this
    exact cellR_drop 1 (by intro n hn; simp at hn; subst hn; exact ht _ hm) h1

/-- the element types of the scope list of "has an element in scope" (any edition) include `td`, `th` -/
theorem defaultScope_td (cfg : Config N) (hed : cfg.edition = .customizableSelect) (n : Name) (h : tdThN n = true) :
    scopeList cfg TreeAlgo.defaultScopeList n = true := by
  simp only [scopeList, hed]
  exact inTable_of_inHtml (l := ["td", "th"]) (by decide +kernel) h

theorem buttonScope_td (cfg : Config N) (hed : cfg.edition = .customizableSelect) (n : Name) (h : tdThN n = true) :
    scopeList cfg TreeAlgo.buttonScopeList n = true := by
  simp only [scopeList, hed]
  exact inTable_of_inHtml (l := ["td", "th"]) (by decide +kernel) h

theorem listItemScope_td (cfg : Config N) (hed : cfg.edition = .customizableSelect) (n : Name) (h : tdThN n = true) :
    scopeList cfg TreeAlgo.listItemScopeList n = true := by
  simp only [scopeList, hed]
  exact inTable_of_inHtml (l := ["td", "th"]) (by decide +kernel) h

/-- the elements that have an implied end tag are in none of the scope lists (the two longer lists are the default
list and a few more rows) -/
theorem implied_notScope (cfg : Config N) (hed : cfg.edition = .customizableSelect) {n : Name}
    (h : inHtml TreeTables.impliedEnd n = true) :
    scopeList cfg TreeAlgo.defaultScopeList n = false ∧ scopeList cfg TreeAlgo.listItemScopeList n = false ∧
      scopeList cfg TreeAlgo.buttonScopeList n = false := by
  have hd : TreeAlgo.inTable TreeTables.defaultScope n = false := inTable_false_of_inHtml (by decide +kernel) h
  have hli : TreeAlgo.inTable TreeTables.listItemScopeExtra n = false := inTable_false_of_inHtml (by decide +kernel) h
  have hb : TreeAlgo.inTable TreeTables.buttonScopeExtra n = false := inTable_false_of_inHtml (by decide +kernel) h
  simp only [scopeList, hed]
  refine ⟨hd, ?_, ?_⟩
  · show TreeAlgo.inTable (_ ++ _) n = false
    rw [inTable_append, hd, hli]; rfl
  · show TreeAlgo.inTable (_ ++ _) n = false
    rw [inTable_append, hd, hb]; rfl

/-- `isNamed x` is not a td/th when `x` is neither -/
theorem isNamed_noTd {x : Str} (hx : x ≠ "td".toList ∧ x ≠ "th".toList) (n : Name) (h : isNamed x n = true) :
    tdThN n = false := by
  simp only [isNamed, Bool.and_eq_true, beq_iff_eq] at h
  cases hc : tdThN n
  · rfl
  · exfalso
    simp only [tdThN, inHtml, Bool.and_eq_true, List.any_cons, List.any_nil, Bool.or_false, Bool.or_eq_true, beq_iff_eq] at hc
    rcases hc.2 with hc | hc
    · exact hx.1 (h.2 ▸ hc.symm)
    · exact hx.2 (h.2 ▸ hc.symm)

theorem isHtml_eq_isNamed (n : Name) (x : String) : n.isHtml x = isNamed x.toList n := rfl

/-- "pop until an `x` element has been popped", `x` in scope (default list), `x` not td/th -/
theorem cellR_popUntilPopped_inScope (cfg : Config N) (hed : cfg.edition = .customizableSelect) {s : State N} {x : String}
    (hx : x.toList ≠ "td".toList ∧ x.toList ≠ "th".toList) (hs : hasInScope cfg s x = true) (h : cellR s.names = true) :
    cellR (popUntilPopped s x).names = true := by
  rw [popUntilPopped_names]
  exact cellR_popUntil (isTarget := isNamed x.toList) (defaultScope_td cfg hed) (isNamed_noTd hx) hs h

theorem cellR_popUntilPoppedStr_inScope (cfg : Config N) (hed : cfg.edition = .customizableSelect) {s : State N} {x : Str}
    (hx : x ≠ "td".toList ∧ x ≠ "th".toList) (hs : hasStrInScope cfg s x = true) (h : cellR s.names = true) :
    cellR (popUntilPoppedStr s x).names = true := by
  rw [popUntilPoppedStr_names]
  exact cellR_popUntil (isTarget := isNamed x) (defaultScope_td cfg hed) (isNamed_noTd hx) hs h

/-! ### "close a p element" -/

@[simp] theorem closeP_mode (s : State N) : (closeP s).mode = s.mode := by unfold closeP; dsimp only; split <;> rfl
@[simp] theorem closeP_orig (s : State N) : (closeP s).originalMode = s.originalMode := by unfold closeP; dsimp only; split <;> rfl
@[simp] theorem closeP_tms (s : State N) : (closeP s).templateModes = s.templateModes := by unfold closeP; dsimp only; split <;> rfl
@[simp] theorem closeP_stopped (s : State N) : (closeP s).stopped = s.stopped := by unfold closeP; dsimp only; split <;> rfl
@[simp] theorem closeP_list (s : State N) : (closeP s).p.list = s.p.list := by unfold closeP; dsimp only; split <;> rfl
theorem closeP_names (s : State N) :
    (closeP s).names = ((s.names.dropWhile (TreeAlgo.impliedEndTag (some "p".toList))).dropWhile fun m => !m.isHtml "p").drop 1 := by
  have : (closeP s).names = namesOf (TreeAlgo2.closePElement s.p.stack) := by unfold closeP; dsimp only; split <;> rfl
  rw [this]
  unfold TreeAlgo2.closePElement
  rw [namesOf_popUntilPopped (fun m => m.isHtml "p")]
  unfold TreeAlgo2.generateImpliedEndTags
  rw [namesOf_dropWhile]
  rfl

theorem hasInScope_cons (isTarget list : Name → Bool) (n : Name) (l : List Name) :
    TreeAlgo.hasInScope isTarget list (n :: l) =
      if isTarget n then true else if list n then false else TreeAlgo.hasInScope isTarget list l := rfl

theorem hasInScope_dropWhile {isTarget list p : Name → Bool} (hp : ∀ n, p n = true → isTarget n = false ∧ list n = false) :
    ∀ (l : List Name), TreeAlgo.hasInScope isTarget list (l.dropWhile p) = TreeAlgo.hasInScope isTarget list l
  | [] => rfl
  | n :: l => by
    by_cases h : p n = true
    · rw [List.dropWhile_cons_of_pos h, hasInScope_dropWhile hp l, hasInScope_cons, (hp n h).1, (hp n h).2]
      simp
    · rw [List.dropWhile_cons_of_neg h]

/-- "If the stack of open elements has a p element in button scope, then close a p element." keeps "td/th in
table scope" -/
theorem cellR_closePIfInButtonScope (cfg : Config N) (hed : cfg.edition = .customizableSelect) {s : State N}
    (h : cellR s.names = true) : cellR (closePIfInButtonScope cfg s).names = true := by
  unfold closePIfInButtonScope
  split
  · rename_i hs
    rw [closeP_names]
    have h1 : cellR (s.names.dropWhile (TreeAlgo.impliedEndTag (some "p".toList))) = true :=
      cellR_dropWhile (fun n hn => impliedEndTag_noTd (mem_takeWhile_p hn)) h
    refine cellR_popUntil (isTarget := isNamed "p".toList) (list := scopeList cfg TreeAlgo.buttonScopeList)
      (buttonScope_td cfg hed) (isNamed_noTd (by decide +kernel)) ?_ h1
    unfold hasInButtonScope at hs
    rw [hasInScope_dropWhile]
    · exact hs
    · exact fun n hn => ⟨implied_except hn, (implied_notScope cfg hed (implied_inHtml hn)).2.2⟩
  · exact h

@[simp] theorem closePIfInButtonScope_mode (cfg : Config N) (s : State N) : (closePIfInButtonScope cfg s).mode = s.mode := by
  unfold closePIfInButtonScope; split <;> simp
@[simp] theorem closePIfInButtonScope_orig (cfg : Config N) (s : State N) :
    (closePIfInButtonScope cfg s).originalMode = s.originalMode := by unfold closePIfInButtonScope; split <;> simp
@[simp] theorem closePIfInButtonScope_tms (cfg : Config N) (s : State N) :
    (closePIfInButtonScope cfg s).templateModes = s.templateModes := by unfold closePIfInButtonScope; split <;> simp
@[simp] theorem closePIfInButtonScope_stopped (cfg : Config N) (s : State N) :
    (closePIfInButtonScope cfg s).stopped = s.stopped := by unfold closePIfInButtonScope; split <;> simp
@[simp] theorem closePIfInButtonScope_list (cfg : Config N) (s : State N) :
    (closePIfInButtonScope cfg s).p.list = s.p.list := by unfold closePIfInButtonScope; split <;> simp

/-! ### inserting -/

/-- "create a node" takes the first node of the supply and changes nothing else -/
theorem newNode_eff {st st1 : PState N ETok} {n : N} (h : st.newNode = some (n, st1)) :
    st1.stack = st.stack ∧ st1.list = st.list ∧ st1.formPointer = st.formPointer ∧ st.supply = n :: st1.supply := by
  unfold PState.newNode at h
  split at h
  · cases h
  · rename_i hs
    cases h; exact ⟨rfl, rfl, rfl, hs⟩

theorem insertForeignElement_eff {cxx : TreeAlgo2.Ctx ETok} {st st' : PState N ETok} {tok : ETok} {ns : Str} {b : Bool} {e : Elem N}
    (h : TreeAlgo2.insertForeignElement cxx st tok ns b = some (st', e)) :
    e.name = ⟨ns, cxx.tokName tok⟩ ∧ st.stack ≠ [] ∧ st'.stack = st.stack ++ [e] ∧ st'.list = st.list ∧
      st'.formPointer = st.formPointer := by
  unfold TreeAlgo2.insertForeignElement at h
  cases hp : TreeAlgo2.appropriatePlace st.stack st.fosterParenting none with
  | none => rw [hp] at h; cases h
  | some loc =>
    rw [hp] at h
    have hne : st.stack ≠ [] := by
      intro he
      unfold TreeAlgo2.appropriatePlace at hp
      rw [he] at hp
      simp at hp
    cases hn : st.newNode with
    | none => rw [hn] at h; cases h
    | some r =>
      obtain ⟨n, st1⟩ := r
      rw [hn] at h
      have h1 := newNode_eff hn
      simp only [Option.bind_some, Option.map_some, Option.some.injEq, Prod.mk.injEq] at h
      obtain ⟨h2, h3⟩ := h
      subst h3 h2
      exact ⟨rfl, hne, by simp [h1.1], h1.2.1, h1.2.2.1⟩

/-- "insert an HTML element for the token" -/
theorem insertHtml_eff {s s' : State N} {t : Tag} {e : Elem N} (h : insertHtml s t = .ok (s', e)) :
    e.name = ⟨nsHtml, t.name⟩ ∧ s.p.stack ≠ [] ∧ Upd s s' (s.p.stack ++ [e]) s.p.list ∧
      s'.p.formPointer = s.p.formPointer := by
  unfold insertHtml at h
  obtain ⟨r, hr, h2⟩ := bind_ok h
  have hr' := req_ok hr
  obtain ⟨r1, r2⟩ := r
  obtain ⟨a, b, c, d, f⟩ := insertForeignElement_eff (show TreeAlgo2.insertForeignElement cx s.p t.etok nsHtml false = some (r1, r2) from hr')
  cases pure_ok h2
  exact ⟨a, b, ⟨rfl, rfl, rfl, rfl, c, d⟩, f⟩

theorem insertHtml'_eff {s s' : State N} {t : Tag} (h : insertHtml' s t = .ok s') :
    ∃ e : Elem N, e.name = ⟨nsHtml, t.name⟩ ∧ s.p.stack ≠ [] ∧ Upd s s' (s.p.stack ++ [e]) s.p.list ∧
      s'.p.formPointer = s.p.formPointer := by
  unfold insertHtml' at h
  obtain ⟨r, hr, h2⟩ := bind_ok h
  obtain ⟨r1, r2⟩ := r
  cases pure_ok h2
  exact ⟨r2, insertHtml_eff hr⟩

/-- "insert an HTML element, immediately pop it" -/
theorem insertVoid_eff {s s' : State N} {t : Tag} (h : insertVoid s t = .ok s') :
    s.p.stack ≠ [] ∧ Upd s s' s.p.stack s.p.list := by
  unfold insertVoid at h
  obtain ⟨s1, hr, h2⟩ := bind_ok h
  obtain ⟨e, _, hne, hu, _⟩ := insertHtml'_eff hr
  cases pure_ok h2
  refine ⟨hne, ?_⟩
  constructor <;> simp [hu.mode, hu.orig, hu.tms, hu.stopped, hu.stack, hu.list]

theorem insertChar_eff {s s' : State N} {c : Char} (h : insertChar s c = .ok s') : Upd s s' s.p.stack s.p.list := by
  unfold insertChar at h
  obtain ⟨p, hr, h2⟩ := bind_ok h
  have hr' := req_ok hr
  cases pure_ok h2
  unfold TreeAlgo2.insertCharacters at hr'
  cases hp : TreeAlgo2.appropriatePlace s.p.stack s.p.fosterParenting none with
  | none => rw [hp] at hr'; cases hr'
  | some loc => rw [hp] at hr'; cases hr'; exact ⟨rfl, rfl, rfl, rfl, rfl, rfl⟩

theorem insertChars_eff {s s' : State N} {cs : Str} (h : insertChars s cs = .ok s') : Upd s s' s.p.stack s.p.list := by
  unfold insertChars at h
  split at h
  · cases pure_ok h; exact Upd.refl s
  · obtain ⟨p, hr, h2⟩ := bind_ok h
    have hr' := req_ok hr
    cases pure_ok h2
    unfold TreeAlgo2.insertCharacters at hr'
    cases hp : TreeAlgo2.appropriatePlace s.p.stack s.p.fosterParenting none with
    | none => rw [hp] at hr'; cases hr'
    | some loc => rw [hp] at hr'; cases hr'; exact ⟨rfl, rfl, rfl, rfl, rfl, rfl⟩

theorem insertComment_eff {s s' : State N} {d : Str} (h : insertComment s d = .ok s') : Upd s s' s.p.stack s.p.list := by
  unfold insertComment at h
  obtain ⟨p, hr, h2⟩ := bind_ok h
  have hr' := req_ok hr
  cases pure_ok h2
  unfold TreeAlgo2.insertComment at hr'
  cases hp : TreeAlgo2.appropriatePlace s.p.stack s.p.fosterParenting none with
  | none => rw [hp] at hr'; cases hr'
  | some loc =>
    rw [hp] at hr'
    cases hn : s.p.newNode with
    | none => rw [hn] at hr'; cases hr'
    | some r =>
      rw [hn] at hr'
      obtain ⟨n, st1⟩ := r
      have h1 := newNode_eff hn
      cases hr'
      exact ⟨rfl, rfl, rfl, rfl, h1.1, h1.2.1⟩

theorem insertCommentIn_eff {s s' : State N} {x : N} {d : Str} (h : insertCommentIn s x d = .ok s') :
    Upd s s' s.p.stack s.p.list := by
  unfold insertCommentIn at h
  obtain ⟨p, hr, h2⟩ := bind_ok h
  have hr' := req_ok hr
  cases pure_ok h2
  unfold TreeAlgo2.insertCommentAsLastChildOf at hr'
  cases hn : s.p.newNode with
  | none => rw [hn] at hr'; cases hr'
  | some r =>
    rw [hn] at hr'
    obtain ⟨n, st1⟩ := r
    have h1 := newNode_eff hn
    cases hr'
    exact ⟨rfl, rfl, rfl, rfl, h1.1, h1.2.1⟩

theorem upd_ite {s a b : State N} {st l} {c : Prop} [Decidable c] (ha : Upd s a st l) (hb : Upd s b st l) :
    Upd s (if c then a else b) st l := by split <;> assumption

/-- "insert a foreign element" -/
theorem insertForeign_eff {s s' : State N} {t : Tag} {kind : TreeAlgo.ForeignKind} {ns : Str} {e : Elem N}
    (h : insertForeign s t kind ns = .ok (s', e)) :
    e.name.ns = ns ∧ s.p.stack ≠ [] ∧ Upd s s' (s.p.stack ++ [e]) s.p.list := by
  unfold insertForeign at h
  obtain ⟨r, hr, h2⟩ := bind_ok h
  have hr' := req_ok hr
  obtain ⟨r1, r2⟩ := r
  obtain ⟨a, b, c, d, _⟩ := insertForeignElement_eff hr'
  have h3 := pure_ok h2
  simp only [Prod.mk.injEq] at h3
  obtain ⟨h4, h5⟩ := h3
  subst h5
  refine ⟨by rw [a], b, ?_⟩
  subst h4
  exact upd_ite ⟨rfl, rfl, rfl, rfl, c, d⟩ ⟨rfl, rfl, rfl, rfl, c, d⟩

/-- the generic raw text / RCDATA element parsing algorithm -/
theorem genericTextElement_eff {s s' : State N} {t : Tag} {sw : TokSwitch} (h : genericTextElement s t sw = .ok s') :
    ∃ e : Elem N, e.name = ⟨nsHtml, t.name⟩ ∧ s.p.stack ≠ [] ∧ s'.mode = .text ∧ s'.originalMode = s.mode ∧
      s'.templateModes = s.templateModes ∧ s'.stopped = s.stopped ∧ s'.p.stack = s.p.stack ++ [e] ∧ s'.p.list = s.p.list := by
  unfold genericTextElement at h
  obtain ⟨s1, hr, h2⟩ := bind_ok h
  obtain ⟨e, he, hne, hu, _⟩ := insertHtml'_eff hr
  cases pure_ok h2
  exact ⟨e, he, hne, rfl, by simp [hu.mode], by simp [hu.tms], by simp [hu.stopped], by simp [hu.stack], by simp [hu.list]⟩

set_option linter.unusedVariables false in
/-- entering "text" from a good state whose mode is neither "text" nor "in table text" (`he`, `hne`: what the callers
know of the new element; `Good` does not need them) -/
theorem Good.enterText {σ σ' : State N} (hg : Good σ) (hnt : σ.mode ≠ .text) (hntt : σ.mode ≠ .inTableText)
    {e : Elem N} (he : e.name.ns = nsHtml) (hne : σ.p.stack ≠ [])
    (hm : σ'.mode = .text) (ho : σ'.originalMode = σ.mode) (ht : σ'.templateModes = σ.templateModes)
    (hs : σ'.p.stack = σ.p.stack ++ [e]) (hl : σ'.p.list = σ.p.list) : Good σ' where
  cell := fun h => by rw [hm] at h; cases h
  text := fun _ => by
    refine ⟨?_, ?_⟩
    · rw [ho]; exact ⟨hnt, hntt, hg.nosel.1, hg.nosel.2⟩
    · intro hc
      rw [ho] at hc
      rw [names_eq, hs, namesOf_snoc, List.drop_one, List.tail_cons]
      exact hg.cell hc
  ttext := fun h => by rw [hm] at h; cases h
  nosel := by rw [hm]; exact ⟨by decide, by decide⟩
  af := by rw [hl]; exact hg.af
  tm := by rw [ht]; exact hg.tm

/-! ### "reset the insertion mode appropriately" -/

theorem tdThN_eq (n : Name) : tdThN n = (n.isHtml "td" || n.isHtml "th") := by
  simp only [tdThN, inHtml, Name.isHtml, List.any_cons, List.any_nil, Bool.or_false]
  rw [BEq.comm (a := "td".toList), BEq.comm (a := "th".toList)]
  cases n.ns == nsHtml <;> simp

theorem markN_eq (n : Name) : markN n = (n.isHtml "html" || n.isHtml "table" || n.isHtml "template") := by
  simp only [markN, TreeAlgo.tableScopeList, TreeAlgo.inTable, TreeTables.tableScope, Name.isHtml, List.any_cons,
    List.any_nil, Bool.or_false]
  have : TreeAlgo.nsUrl "html" = nsHtml := rfl
  rw [this, BEq.comm (a := nsHtml), BEq.comm (a := "html".toList), BEq.comm (a := "table".toList),
    BEq.comm (a := "template".toList)]
  cases n.ns == nsHtml <;> simp [Bool.or_assoc]

theorem mode_vac {P Q R : Prop} {m : TreeAlgo.Mode} (h1 : m ≠ .inCell) (h2 : m ≠ .text) (h3 : m ≠ .inTableText) :
    (m = .inCell → P) ∧ (m = .text → Q) ∧ (m = .inTableText → R) :=
  ⟨fun h => absurd h h1, fun h => absurd h h2, fun h => absurd h h3⟩

theorem resetStep_none {node : Name} {last : Bool} {tm : Option TreeAlgo.Mode} {hp : Bool}
    (h : TreeAlgo.resetStep node last tm hp = none) : last = false ∧ tdThN node = false ∧ markN node = false := by
  unfold TreeAlgo.resetStep at h
  rw [tdThN_eq, markN_eq]
  rcases ite_cases h with ⟨_, h⟩ | ⟨c0, h⟩
  · cases h
  -- tr, tbody …, caption, colgroup
  iterate 4
    rcases ite_cases h with ⟨_, h⟩ | ⟨_, h⟩
    · cases h
  rcases ite_cases h with ⟨_, h⟩ | ⟨c5, h⟩
  · cases h
  rcases ite_cases h with ⟨_, h⟩ | ⟨c6, h⟩
  · cases h
  -- head, body, frameset
  iterate 3
    rcases ite_cases h with ⟨_, h⟩ | ⟨_, h⟩
    · cases h
  rcases ite_cases h with ⟨_, h⟩ | ⟨c10, h⟩
  · rcases ite_cases h with ⟨_, h⟩ | ⟨_, h⟩ <;> cases h
  rcases ite_cases h with ⟨_, h⟩ | ⟨cl, _⟩
  · cases h
  have hl : last = false := by simpa using cl
  subst hl
  simp only [Bool.not_false, Bool.and_true] at c0
  simp only [Bool.not_eq_true] at c5 c6 c10
  exact ⟨rfl, by simpa using c0, by simp [c5, c6, c10]⟩

theorem resetStep_some {node : Name} {last : Bool} {tm : Option TreeAlgo.Mode} {hp : Bool} {m : TreeAlgo.Mode}
    (h : TreeAlgo.resetStep node last tm hp = some (some m)) :
    (m = .inCell → (tdThN node = true ∧ last = false) ∨ tm = some .inCell) ∧ (m = .text → tm = some .text) ∧
      (m = .inTableText → tm = some .inTableText) := by
  -- the clauses that answer a fixed mode, none of the three
  have vac : ∀ {m' : TreeAlgo.Mode} {P Q R : Prop}, m' ≠ .inCell → m' ≠ .text → m' ≠ .inTableText →
      some (some m') = some (some m) → (m = .inCell → P) ∧ (m = .text → Q) ∧ (m = .inTableText → R) := by
    intro m' P Q R h1 h2 h3 e
    cases e
    exact mode_vac h1 h2 h3
  unfold TreeAlgo.resetStep at h
  rw [tdThN_eq]
  rcases ite_cases h with ⟨c0, h⟩ | ⟨_, h⟩
  · cases h
    simp only [Bool.and_eq_true, Bool.not_eq_true'] at c0
    exact ⟨fun _ => Or.inl c0, (fun h => nomatch h), (fun h => nomatch h)⟩
  -- tr, tbody …, caption, colgroup, table
  iterate 5
    rcases ite_cases h with ⟨_, h⟩ | ⟨_, h⟩
    · exact vac (by decide) (by decide) (by decide) h
  rcases ite_cases h with ⟨_, h⟩ | ⟨_, h⟩
  · -- template: the current template insertion mode
    have h := Option.some.inj h
    exact ⟨fun hm => Or.inr (hm ▸ h), fun hm => hm ▸ h, fun hm => hm ▸ h⟩
  -- head, body, frameset
  iterate 3
    rcases ite_cases h with ⟨_, h⟩ | ⟨_, h⟩
    · exact vac (by decide) (by decide) (by decide) h
  rcases ite_cases h with ⟨_, h⟩ | ⟨_, h⟩
  · rcases ite_cases h with ⟨_, h⟩ | ⟨_, h⟩ <;> exact vac (by decide) (by decide) (by decide) h
  rcases ite_cases h with ⟨_, h⟩ | ⟨_, h⟩
  · exact vac (by decide) (by decide) (by decide) h
  · cases h

theorem reset_spec (ctx : Option Name) (hp : Bool) (tm : Option TreeAlgo.Mode) :
    ∀ (names : List Name) (m : TreeAlgo.Mode), TreeAlgo.resetInsertionMode ctx hp tm names = some m →
      (m = .inCell → cellR names = true ∨ tm = some .inCell) ∧ (m = .text → tm = some .text) ∧
        (m = .inTableText → tm = some .inTableText)
  | [], m, h => by
    simp only [TreeAlgo.resetInsertionMode, Option.some.injEq] at h
    subst h
    exact mode_vac (by decide) (by decide) (by decide)
  | node0 :: rest, m, h => by
    unfold TreeAlgo.resetInsertionMode at h
    dsimp only at h
    cases hs : TreeAlgo.resetStep (if rest.isEmpty = true then ctx.getD node0 else node0) rest.isEmpty tm hp with
    | none =>
      rw [hs] at h
      simp only [Option.getD_none] at h
      obtain ⟨hl, h1, h2⟩ := resetStep_none hs
      rw [hl] at h1 h2
      simp only [Bool.false_eq_true, if_false] at h1 h2
      obtain ⟨a, b, c⟩ := reset_spec ctx hp tm rest m h
      refine ⟨fun hm => ?_, b, c⟩
      rcases a hm with a | a
      · left; rw [cellR_cons_neutral (by simp [neutralN, h1, h2])]; exact a
      · exact Or.inr a
    | some r =>
      rw [hs] at h
      simp only [Option.getD_some] at h
      subst h
      obtain ⟨a, b, c⟩ := resetStep_some hs
      refine ⟨fun hm => ?_, b, c⟩
      rcases a hm with ⟨a1, a2⟩ | a
      · left
        rw [a2] at a1
        simp only [Bool.false_eq_true, if_false] at a1
        exact cellR_cons_td a1 _
      · exact Or.inr a

theorem ofAlgo_toAlgo {m : IMode} {a : TreeAlgo.Mode} (h : m.toAlgo = some a) : IMode.ofAlgo a = m := by
  cases m <;> simp only [IMode.toAlgo, Option.some.injEq] at h <;> first | (subst h; rfl) | cases h

/-- **"reset the insertion mode appropriately"**: only the mode changes; the new mode is none of "text", "in table
text", the select modes; if it is "in cell", a td/th is in table scope -/
theorem resetInsertionMode_eff (cfg : Config N) (hed : cfg.edition = .customizableSelect) {s s' : State N}
    (htm : ∀ m ∈ s.templateModes, tmOk m) (h : resetInsertionMode cfg s = .ok s') :
    ∃ m, s' = s.setMode m ∧ m ≠ .text ∧ m ≠ .inTableText ∧ m ≠ .inSelect ∧ m ≠ .inSelectInTable ∧
      (m = .inCell → cellR s.names = true) := by
  unfold resetInsertionMode at h
  simp only [hed] at h
  obtain ⟨m, hr, h2⟩ := bind_ok h
  have hr' := req_ok hr
  cases pure_ok h2
  refine ⟨m, rfl, ?_⟩
  cases hx : TreeAlgo.resetInsertionMode (cfg.context.map (·.name)) s.headPointer.isNone
      (s.templateModes.getLast?.bind IMode.toAlgo) s.names with
  | none => rw [hx] at hr'; cases hr'
  | some a =>
    rw [hx] at hr'
    simp only [Option.map_some, Option.some.injEq] at hr'
    subst hr'
    obtain ⟨h1, h2, h3⟩ := reset_spec _ _ _ _ _ hx
    -- the current template insertion mode is one of those "in template" pushes
    have htmk : ∀ b, s.templateModes.getLast?.bind IMode.toAlgo = some b → tmOk (IMode.ofAlgo b) := by
      intro b hb
      cases hl : s.templateModes.getLast? with
      | none => rw [hl] at hb; cases hb
      | some last =>
        rw [hl] at hb
        simp only [Option.bind_some] at hb
        rw [ofAlgo_toAlgo hb]
        exact htm last (List.mem_of_getLast? hl)
    have hno : ∀ b, s.templateModes.getLast?.bind IMode.toAlgo = some b → b ≠ .inCell ∧ b ≠ .text ∧ b ≠ .inTableText := by
      intro b hb
      have := htmk b hb
      refine ⟨?_, ?_, ?_⟩ <;> intro hc <;> subst hc <;> simp [tmOk, IMode.ofAlgo] at this
    refine ⟨?_, ?_, ?_, ?_, ?_⟩
    · intro hc
      cases a <;> simp only [IMode.ofAlgo] at hc <;> try cases hc
      exact (hno _ (h2 rfl)).2.1 rfl
    · intro hc
      cases a <;> simp only [IMode.ofAlgo] at hc <;> try cases hc
      exact (hno _ (h3 rfl)).2.2 rfl
    · intro hc; cases a <;> cases hc
    · intro hc; cases a <;> cases hc
    · intro hc
      cases a <;> simp only [IMode.ofAlgo] at hc <;> try cases hc
      rcases h1 rfl with h1 | h1
      · exact h1
      · exact absurd rfl (hno _ h1).1

end
end H5V.Lemmas.ModesInv
