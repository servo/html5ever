import H5V.Lemmas.HtmlTBSkelShapeBody
/-!
C06, second invariant layer: the arms of InBody that depend on the state.
-/
namespace H5V.Props.C06
open H5V.Model.Dom hiding Str
open H5V.Model.HtmlTB hiding Str
open H5V.Lemmas.Dom

/-- a rule with a precondition on the state -/
def RBw (W : State → Prop) (prog : M ProcessResult) : Prop :=
  ∀ m r ph s res s', Big m r ph s → s.mode = m → isBL m = true → W s → prog s = .ok (res, s') → Out r s' res

theorem RBw.of_rb {W : State → Prop} {prog : M ProcessResult} (h : RB prog) : RBw W prog :=
  fun m r ph s res s' hb hm hbl _ e => h.p m r ph s res s' hb hm hbl e

theorem RBw.of_pbsc {sc P : EName → Bool} {prog : M ProcessResult} (h : PBsc sc P prog) [hn : NR prog] :
    RBw (InScP sc P) prog :=
  fun m r ph s res s' hb hm hbl hw e => by
    obtain ⟨h1, h2, _⟩ := h.p m r ph s res s' hb hw e
    exact Out.of_good (h1.good (h2.trans hm) hbl) (hn.h _ _ _ e)

theorem rb_ofGetS {f : State → M ProcessResult} (h : ∀ s0, RBw (fun s => s = s0) (f s0)) : RB (getS >>= f) :=
  ⟨fun m r ph s res s' hb hm hbl e => by
    rw [getS_bind] at e
    exact h s m r ph s res s' hb hm hbl rfl e⟩

def IsBody (b : Id) (s : State) : Prop := s.openElems[1]? = some b ∧ nm s.dom b = hN "body"

theorem rb_bodyElem {f : Option Id → M ProcessResult} (hn : RB (f none)) (hs : ∀ b, RBw (IsBody b) (f (some b))) :
    RB (bodyElem >>= f) :=
  ⟨fun m r ph s res s'' hb hm hbl e => by
    obtain ⟨a, s', e1, e2⟩ := bind_ok.mp e
    obtain ⟨q, ha⟩ := bodyElem_sem e1
    have hb' := hb.qs q
    have hm' : s'.mode = m := q.mode.trans hm
    cases a with
    | none => exact hn.p m r ph s' res s'' hb' hm' hbl e2
    | some b =>
      obtain ⟨h1, h2⟩ := ha b rfl
      refine hs b m r ph s' res s'' hb' hm' hbl ⟨by rw [q.openElems]; exact h1, ?_⟩ e2
      rw [q.nm]
      unfold isHS at h2
      simp only [Bool.and_eq_true, beq_iff_eq] at h2
      have : nm s.dom b = ⟨(nm s.dom b).ns, (nm s.dom b).loc⟩ := rfl
      rw [this, h2.1, h2.2]; rfl⟩

instance : ScBase extraSpecial := ⟨fun n hn => by
  obtain ⟨a, ha, rfl⟩ := htmlIn_eq hn
  revert a; decide +kernel⟩

theorem rb_listClose {list : Bool} {f : Option Str → M ProcessResult} (hn : RB (f none))
    (hs : ∀ name, isOneOf name ["li", "dd", "dt"] = true → RBw (InScP extraSpecial (namedP name)) (f (some name))) :
    RB (getS >>= fun s => listCloseSearch list s.openElems.reverse >>= f) :=
  ⟨fun m r ph s res s'' hb hm hbl e => by
    rw [getS_bind] at e
    obtain ⟨a, s', e1, e2⟩ := bind_ok.mp e
    obtain ⟨q, ha⟩ := listCloseSearch_sem list _ _ _ _ e1
    have hb' := hb.qs q
    have hm' : s'.mode = m := q.mode.trans hm
    cases a with
    | none => exact hn.p m r ph s' res s'' hb' hm' hbl e2
    | some name =>
      obtain ⟨pre, x, post, hl, hname, hcl, hpre⟩ := ha name rfl
      obtain ⟨_, hsplit⟩ := getElem?_of_reverse_split hl
      -- the name of the element found
      have hx : nm s.dom x = ⟨nsHtml, name⟩ ∧ isOneOf name ["li", "dd", "dt"] = true := by
        cases list with
        | true =>
          simp only [if_true] at hcl
          obtain ⟨a, ha', heq⟩ := htmlIn_eq hcl
          simp only [List.mem_cons, List.not_mem_nil, or_false] at ha'
          subst ha'
          rw [heq] at hname
          exact ⟨by rw [heq, hname]; rfl, by rw [hname]; simp [lit_name]⟩
        | false =>
          simp only [Bool.false_eq_true, if_false] at hcl
          obtain ⟨a, ha', heq⟩ := htmlIn_eq hcl
          simp only [List.mem_cons, List.not_mem_nil, or_false] at ha'
          rw [heq] at hname
          rcases ha' with rfl | rfl
          · exact ⟨by rw [heq, hname]; rfl, by rw [hname]; simp [lit_name]⟩
          · exact ⟨by rw [heq, hname]; rfl, by rw [hname]; simp [lit_name]⟩
      have hi : InScP extraSpecial (namedP name) s := by
        refine ⟨post.reverse, x, pre.reverse, hsplit, by rw [hx.1]; simp [namedP], fun y hy => ?_⟩
        obtain ⟨h1, h2⟩ := hpre y (List.mem_reverse.mp hy)
        refine ⟨?_, h1⟩
        -- an element named `name` would have been found first
        cases hp : namedP name (nm s.dom y) with
        | false => rfl
        | true =>
          have hy' := namedP_eq hp
          rw [hy', ← hx.1] at h2
          rw [hcl] at h2; cases h2
      exact hs name hx.2 m r ph s' res s'' hb' hm' hbl (hi.qs q) e2⟩

/-! ### mode changes -/

theorem Big.reNeed {m m' : Mode} {r : Id} {ph : Phase} {s : State} (h : Big m r ph s)
    (hn : ∀ up, s.openElems = r :: up → Need s.dom m' up) : Big m' r ph s := by
  obtain ⟨up, hc, hbb, _, hfp⟩ := h
  exact ⟨up, hc, hbb, hn up hc.stack, hfp⟩

theorem Big.setMode {m : Mode} {r : Id} {ph : Phase} {s : State} (h : Big m r ph s) {m' : Mode}
    (hl : isLate m' = true) : Big m r ph { s with mode := m' } := by
  obtain ⟨up, hc, hbb, hn, hfp⟩ := h
  exact ⟨up, hc.modes hl hc.late.ml.orig, hbb, hn, hfp⟩

/-- the end of a rule that switches to another body-like mode -/
theorem rbw_setModeDone {m' : Mode} (hbl' : isBL m' = true) :
    RBw (fun s => ∀ r up, s.openElems = r :: up → Need s.dom m' up)
      (setMode m' >>= fun _ => pure ProcessResult.done) :=
  fun m r ph s res s'' hb hm hbl hw e => by
    obtain ⟨u, s', e1, e2⟩ := bind_ok.mp e
    obtain ⟨rfl, rfl⟩ := pure_ok.mp e2
    rw [modS_ok.mp e1]
    have hb' : Big m' r ph s := hb.reNeed (fun up hup => hw r up hup)
    exact (hb'.setMode (isLate_of_bl hbl')).good rfl hbl'


theorem rbw_bind {α : Type} {W : State → Prop} {m : M α} {f : α → M ProcessResult}
    (h1 : ∀ md r ph s a s', Big md r ph s → W s → m s = .ok (a, s') →
      Big md r ph s' ∧ s'.mode = s.mode ∧ ∃ W' : State → Prop, W' s' ∧ RBw W' (f a)) : RBw W (m >>= f) :=
  fun md r ph s res s'' hb hm hbl hw e => by
    obtain ⟨a, s', e1, e2⟩ := bind_ok.mp e
    obtain ⟨b1, m1, W', hw', hf⟩ := h1 md r ph s a s' hb hw e1
    exact hf md r ph s' res s'' b1 (m1.trans hm) hbl hw' e2

/-! ### `<table>` -/

theorem need_of_top {d : Dom} {m : Mode} {r el : Id} {l up : List Id} (hl : l ≠ [])
    (hst : l ++ [el] = r :: up) (hn : ∀ up0, up = up0 ++ [el] → Need d m up) : Need d m up := by
  cases l with
  | nil => exact absurd rfl hl
  | cons a t =>
    simp only [List.cons_append, List.cons.injEq] at hst
    exact hn t hst.2.symm

theorem rb_table_tail {tag : Tag} (h : tag.isStart ["table"] = true) :
    RB (insertElementFor tag >>= fun _ => setFramesetOk false >>= fun _ => setMode .inTable >>= fun _ =>
      pure ProcessResult.done) :=
  ⟨fun m r ph s res s'' hb hm hbl e => by
    obtain ⟨a, ha, hn, _⟩ := name_of_isStart h
    simp only [List.mem_cons, List.not_mem_nil, or_false] at ha
    subst ha
    obtain ⟨el, s1, e1, e2⟩ := bind_ok.mp e
    have hpk : PushOk s ⟨nsHtml, tag.name⟩ := by
      rw [hn]
      exact ⟨fun t _ => predOk_of_not_constrained (by decide), by decide, fun h0 => absurd h0 (by decide)⟩
    obtain ⟨hb1, hm1, _, hnm1, _, _, hst1, _, _⟩ := insertElement_gen hb (fun _ => hpk) e1
    simp only [if_true] at hst1
    obtain ⟨u2, s2, e3, e4⟩ := bind_ok.mp e2
    obtain ⟨hb2, hm2, _⟩ := (inferInstance : PB (setFramesetOk false)).p m r ph s1 u2 s2 hb1 e3
    have hs2 : s2 = { s1 with framesetOk := false } := by
      unfold setFramesetOk at e3; exact modS_ok.mp e3
    refine rbw_setModeDone (m' := .inTable) rfl m r ph s2 res s'' hb2 ((hm2.trans hm1).trans hm) hbl ?_ e4
    intro r' up hup
    have hne : s.openElems ≠ [] := by
      intro h0; have := hb.root_mem; rw [h0] at this; cases this
    have hst2 : s.openElems ++ [el] = r' :: up := by rw [← hst1, ← hup, hs2]
    refine need_of_top hne hst2 (fun up0 hu => ?_)
    refine ⟨el, by rw [hu]; simp, ?_⟩
    have : nm s2.dom el = nm s1.dom el := by rw [hs2]
    rw [this, hnm1, hn]; decide⟩

/-! ### `</body>`, `</html>` -/

/-- `body` in the default scope: the stack is `html body …` and the phase is `pb` -/
theorem body_in_scope {m : Mode} {r : Id} {ph : Phase} {s : State} (hb : Big m r ph s)
    (hi : InScP defaultScope (namedP "body".toList) s) :
    ∃ b up', s.openElems = r :: b :: up' ∧ ph = .pb b ∧ ∀ h, s.headElem = some h → h ∉ b :: up' := by
  have hnp := hb.notPf
  obtain ⟨up, hc, hbb, _, _⟩ := hb
  obtain ⟨below, x, above, h1, h2, _⟩ := hi
  have hxn := namedP_eq h2
  have hxm : x ∈ s.openElems := by rw [h1]; simp
  rcases hbb with ⟨b, u, hu, hph, hh⟩ | ⟨hh, t, u, h0, hu, ht, hph⟩ | ⟨t, u, hu, ht, hph, _⟩
  · exact ⟨b, u, by rw [hc.stack, hu], hph, by rw [← hu]; exact hh⟩
  · -- no element named body: the root is html, then head, template, and above them none
    exfalso
    rw [hc.stack, hu] at hxm
    simp only [List.mem_cons] at hxm
    rcases hxm with rfl | rfl | rfl | hxm
    · rw [hc.root_name] at hxn; revert hxn; decide
    · have : nm s.dom x = hN "head" := by
        subst hph; obtain ⟨h', e1, _, e3⟩ := hc.elems; rw [h0] at e1; cases e1; exact e3
      rw [this] at hxn; revert hxn; decide
    · rw [ht] at hxn; revert hxn; decide
    · have := hc.bh4 hnp x (by rw [hu]; simp [hxm])
      rw [hxn] at this; revert this; decide
  · exfalso
    rw [hc.stack, hu] at hxm
    simp only [List.mem_cons] at hxm
    rcases hxm with rfl | rfl | hxm
    · rw [hc.root_name] at hxn; revert hxn; decide
    · rw [ht] at hxn; revert hxn; decide
    · have := hc.bh4 hnp x (by rw [hu]; simp [hxm])
      rw [hxn] at this; revert this; decide

/-- a state in which `</body>` / `</html>` may end the body -/
theorem afterBody_good {m : Mode} {r : Id} {ph : Phase} {s : State} (hb : Big m r ph s)
    (hi : InScP defaultScope (namedP "body".toList) s) : Good r { s with mode := .afterBody } := by
  obtain ⟨b, up', hst, hph, hh⟩ := body_in_scope hb hi
  obtain ⟨up, hc, _, _, hfp⟩ := hb
  have hup : up = b :: up' := by
    have := hc.stack; rw [hst] at this
    simp only [List.cons.injEq, true_and] at this; exact this.symm
  refine ⟨up, ph, ⟨hc.modes rfl hc.late.ml.orig, ?_⟩, fun _ => hfp⟩
  show FitsM { s with mode := .afterBody } up ph
  unfold FitsM
  exact ⟨b, up', hup, hph, by rw [hup]; exact hh⟩

/-- a scope test for a named element as the head of a rule: its `true` branch may use the fact -/
theorem rb_inScopeNamed {sc : EName → Bool} {X : String} {A B : M ProcessResult}
    (hA : RBw (InScP sc (namedP X.toList)) A) (hB : RB B) :
    RB (inScopeNamed sc X >>= fun b => if b = true then A else B) :=
  ⟨fun m r ph s res s'' hb hm hbl e => by
    obtain ⟨a, s', e1, e2⟩ := bind_ok.mp e
    obtain ⟨q, hi⟩ := inScope_inScP e1
    cases a with
    | false =>
      simp only [Bool.false_eq_true, if_false] at e2
      exact hB.p m r ph s' res s'' (hb.qs q) (q.mode.trans hm) hbl e2
    | true =>
      simp only [if_true] at e2
      exact hA m r ph s' res s'' (hb.qs q) (q.mode.trans hm) hbl ((hi rfl).qs q) e2⟩

theorem rb_body_end :
    RB (inScopeNamed defaultScope "body" >>= fun b => if b = true then
      checkBodyEnd >>= fun _ => setMode .afterBody >>= fun _ => pure ProcessResult.done
      else parseError "</body> with no <body> in scope" >>= fun _ => pure ProcessResult.done) :=
  rb_inScopeNamed (fun m r ph s res s'' hb _ _ hi e => by
    obtain ⟨u, s2, e3, e4⟩ := bind_ok.mp e
    have q2 : QS s s2 := IsQ.q _ _ _ e3
    obtain ⟨u3, s3, e5, e6⟩ := bind_ok.mp e4
    obtain ⟨rfl, rfl⟩ := pure_ok.mp e6
    rw [modS_ok.mp e5]
    exact afterBody_good (hb.qs q2) (hi.qs q2)) inferInstance

theorem rb_html_end {tag : Tag} :
    RB (inScopeNamed defaultScope "body" >>= fun b => if b = true then
      checkBodyEnd >>= fun _ => pure (ProcessResult.reprocess .afterBody (.tag tag))
      else parseError "</html> with no <body> in scope" >>= fun _ => pure ProcessResult.done) :=
  rb_inScopeNamed (fun m r ph s res s'' hb _ _ hi e => by
    obtain ⟨u, s2, e3, e4⟩ := bind_ok.mp e
    have q2 : QS s s2 := IsQ.q _ _ _ e3
    obtain ⟨rfl, rfl⟩ := pure_ok.mp e4
    exact ⟨afterBody_good (hb.qs q2) (hi.qs q2), inferInstance⟩) inferInstance


/-! ### `<form>`, `</form>` -/

theorem rb_form_tail {tag : Tag} (h : tag.isStart ["form"] = true) :
    RB (insertElementFor tag >>= fun elem => inHtmlElemNamed "template" >>= fun b =>
      if (!b) = true then (modS fun s => { s with formElem := some elem }) >>= fun _ => pure ProcessResult.done
      else pure ProcessResult.done) :=
  ⟨fun m r ph s res s'' hb hm hbl e => by
    obtain ⟨a, ha, hn, _⟩ := name_of_isStart h
    simp only [List.mem_cons, List.not_mem_nil, or_false] at ha
    subst ha
    obtain ⟨el, s1, e1, e2⟩ := bind_ok.mp e
    obtain ⟨hb1, hm1, _, hnm1, hel1, _, _, _, _⟩ := insertElement_big hb (by rw [hn]; decide) e1
    obtain ⟨b, s2, e3, e4⟩ := bind_ok.mp e2
    have q2 : QS s1 s2 := IsQ.q _ _ _ e3
    have hb2 := hb1.qs q2
    have hm2 : s2.mode = m := (q2.mode.trans hm1).trans hm
    rcases ite_run e4 with ⟨_, e4⟩ | ⟨_, e4⟩
    · obtain ⟨u, s3, e5, e6⟩ := bind_ok.mp e4
      obtain ⟨rfl, rfl⟩ := pure_ok.mp e6
      rw [modS_ok.mp e5]
      have : Big m r ph { s2 with formElem := some el } :=
        hb2.upd rfl rfl rfl rfl rfl rfl rfl rfl rfl hb2.afok
          (fun f hf => by
            cases hf
            exact ⟨by rw [q2.nm, hnm1, hn]; rfl, by rw [isElement_of_nodes q2.nodes]; exact hel1⟩)
          (fun hf => hf)
      exact this.good hm2 hbl
    · obtain ⟨rfl, rfl⟩ := pure_ok.mp e4
      exact hb2.good hm2 hbl⟩

theorem rbw_form_end (s0 : State) (node : Id) (hfe : s0.formElem = some node) (msg1 msg2 : String) :
    RBw (fun s => s = s0) (set { s0 with formElem := none } >>= fun _ =>
      inScope defaultScope (fun n => sameNode node n) >>= fun b =>
        if (!b) = true then parseError msg1 >>= fun _ => pure ProcessResult.done
        else generateImpliedEndTags cursoryImpliedEnd >>= fun _ => currentNode >>= fun current =>
          removeFromStack node >>= fun _ => sameNode current node >>= fun b2 =>
            if (!b2) = true then parseError msg2 >>= fun _ => pure ProcessResult.done
            else pure ProcessResult.done) :=
  fun m r ph s res s'' hb hm hbl hw e => by
    subst hw
    obtain ⟨hnm0, hel0⟩ := hb.formOk node hfe
    obtain ⟨u, s1, e1, e2⟩ := bind_ok.mp e
    have hs1 := set_ok.mp e1
    have hb1 : Big m r ph s1 := by
      rw [hs1]
      exact hb.upd rfl rfl rfl rfl rfl rfl rfl rfl rfl hb.afok (fun f hf => by cases hf) (fun hf => hf)
    have hm1 : s1.mode = m := by rw [hs1]; exact hm
    have hn1 : nm s1.dom node = hN "form" := by rw [hs1]; exact hnm0
    obtain ⟨b, s2, e3, e4⟩ := bind_ok.mp e2
    have q2 : QS s1 s2 := IsQ.q _ _ _ e3
    have hb2 := hb1.qs q2
    have hm2 : s2.mode = m := q2.mode.trans hm1
    rcases ite_run e4 with ⟨_, e4⟩ | ⟨_, e4⟩
    · obtain ⟨u3, s3, e5, e6⟩ := bind_ok.mp e4
      obtain ⟨rfl, rfl⟩ := pure_ok.mp e6
      exact (hb2.qs (qs_parseError e5)).good ((qs_parseError e5).mode.trans hm2) hbl
    · obtain ⟨u3, s3, e5, e6⟩ := bind_ok.mp e4
      obtain ⟨hb3, hm3, _⟩ := (inferInstance : PB (generateImpliedEndTags cursoryImpliedEnd)).p m r ph s2 u3 s3 hb2 e5
      obtain ⟨popped, p3, _⟩ := generateImpliedEndTags_sem e5
      obtain ⟨cur, s4, e7, e8⟩ := bind_ok.mp e6
      obtain ⟨h34, _⟩ := currentNode_sem e7
      rw [h34] at e8
      obtain ⟨u5, s5, e9, e10⟩ := bind_ok.mp e8
      have hn3 : nm s3.dom node = hN "form" := by rw [p3.nm, q2.nm]; exact hn1
      obtain ⟨hb5, hm5, _⟩ := removeFromStack_big hb3 (by rw [hn3]; simp [lit_name]) e9
      obtain ⟨b6, s6, e11, e12⟩ := bind_ok.mp e10
      have q6 : QS s5 s6 := IsQ.q _ _ _ e11
      have hb6 := hb5.qs q6
      have hm6 : s6.mode = m := by rw [q6.mode, hm5, hm3]; exact hm2
      rcases ite_run e12 with ⟨_, e12⟩ | ⟨_, e12⟩
      · obtain ⟨u7, s7, e13, e14⟩ := bind_ok.mp e12
        obtain ⟨rfl, rfl⟩ := pure_ok.mp e14
        exact (hb6.qs (qs_parseError e13)).good ((qs_parseError e13).mode.trans hm6) hbl
      · obtain ⟨rfl, rfl⟩ := pure_ok.mp e12
        exact hb6.good hm6 hbl

/-! ### `</p>` with no `p` in scope: a phantom `p` is inserted, then closed -/

instance {β : Type} (X : String) [hk : PlainStr X.toList] (f : Id → M β)
    [h2 : ∀ a, PBsc buttonScope (namedP X.toList) (f a)] : PB (insertPhantom X >>= f) :=
  ⟨fun m r ph s b s'' hb e => by
    obtain ⟨el, s1, e1, e2⟩ := bind_ok.mp e
    obtain ⟨hb1, hm1, ho1, hnm1, _, _, hst1, _, _⟩ := insertElement_big hb hk.h e1
    simp only [if_true] at hst1
    have hi : InScP buttonScope (namedP X.toList) s1 :=
      ⟨s.openElems, el, [], by rw [hst1], by rw [hnm1]; simp [namedP], fun y hy => by cases hy⟩
    obtain ⟨b2, m2, o2⟩ := (h2 el).p m r ph s1 b s'' hb1 hi e2
    exact ⟨b2, m2.trans hm1, o2.trans ho1⟩⟩

/-! ### the generic arms -/

theorem not_isStart {tag : Tag} {l : List String} (h : ¬ tag.isStart l = true) (hk : tag.kind = .startTag)
    {a : String} (ha : a ∈ l) : tag.name ≠ a.toList := by
  intro hn
  apply h
  unfold Tag.isStart isOneOf
  simp only [Bool.and_eq_true, beq_iff_eq, List.any_eq_true]
  exact ⟨hk, a, ha, hn.symm⟩

/-- a start tag that reaches the last start-tag arm of InBody has a disposable name -/
theorem plain_generic_start {tag : Tag} (hk : (tag.kind == H5V.Model.HtmlTok.TagKind.startTag) = true)
    (h1 : ¬ tag.isStart ["html"] = true)
    (h2 : ¬ (tag.isStart ["base", "basefont", "bgsound", "link", "meta", "noframes", "script", "style",
      "template", "title"] || tag.isEnd ["template"]) = true)
    (h3 : ¬ tag.isStart ["body"] = true) (h4 : ¬ tag.isStart ["frameset"] = true)
    (h5 : ¬ tag.isStart ["table"] = true)
    (h6 : ¬ tag.isStart ["caption", "col", "colgroup", "frame", "head", "tbody", "td", "tfoot", "th", "thead", "tr"] = true) :
    PlainStr tag.name := by
  have hk' : tag.kind = .startTag := by simpa using hk
  have h2' : ¬ tag.isStart ["base", "basefont", "bgsound", "link", "meta", "noframes", "script", "style",
      "template", "title"] = true := by
    intro h; apply h2; rw [h]; rfl
  constructor
  cases hkn : keepName ⟨nsHtml, tag.name⟩ with
  | false => rfl
  | true =>
    exfalso
    rcases keepName_cases hkn with hc | hc
    · obtain ⟨a, ha, heq⟩ := htmlIn_eq hc
      have hn : tag.name = a.toList := by
        have := congrArg EName.loc heq; exact this
      simp only [List.mem_cons, List.not_mem_nil, or_false] at ha
      rcases ha with rfl | rfl | rfl | rfl | rfl | rfl | rfl | rfl <;>
        exact not_isStart h6 hk' (by simp) hn
    · obtain ⟨a, ha, heq⟩ := htmlIn_eq hc
      have hn : tag.name = a.toList := by
        have := congrArg EName.loc heq; exact this
      simp only [List.mem_cons, List.not_mem_nil, or_false] at ha
      rcases ha with rfl | rfl | rfl | rfl | rfl | rfl
      · exact not_isStart h1 hk' (by simp) hn
      · exact not_isStart h5 hk' (by simp) hn
      · exact not_isStart h2' hk' (by simp) hn
      · exact not_isStart h3 hk' (by simp) hn
      · exact not_isStart h6 hk' (by simp) hn
      · exact not_isStart h4 hk' (by simp) hn


/-! ### the last arm: any other end tag -/

/-- popping elements none of which is `html`, `body`, `head`, `template`, in a mode that needs no
witness on the stack -/
theorem Big.popK {m : Mode} {r : Id} {ph : Phase} {s s' : State} {popped : List Id} (h : Big m r ph s)
    (p : PR s s' popped) (hp : ∀ x ∈ popped, htmlIn (nm s.dom x) ["html", "body", "head", "template"] = false)
    (hneed : ∀ up', Need s'.dom m up') : Big m r ph s' := by
  obtain ⟨up, hc, hbb, _, _⟩ := h
  have hnm : ∀ x, nm s'.dom x = nm s.dom x := nm_of_nodes p.nodes
  have hr : r ∉ popped := fun hm => by
    have := hp r hm; rw [hc.root_name] at this; simp [lit_name] at this
  have hst := p.stack
  rw [hc.stack] at hst
  obtain ⟨up', hs', hup⟩ := head_of_split hst hr
  have hc' : Core s' r up' ph := hc.pr p hup
  have hhead : s'.headElem = s.headElem := by rw [p.rest]
  refine ⟨up', hc', ?_, hneed up', FPok.triv _ _⟩
  rw [hhead]
  rcases hbb with ⟨b, upb, h1, h2, h3⟩ | ⟨hh, t, upt, h1, h2, h3, h4⟩ | ⟨t, upt, h2, h3, h4, h5⟩
  · have hbn : nm s.dom b = hN "body" := by
      subst h2
      obtain ⟨_, _, _, _, hb⟩ := hc.elems
      exact hb
    rw [h1] at hup
    obtain ⟨t', e1, e2⟩ := head_of_split hup (fun hm => by
      have := hp b hm; rw [hbn] at this; simp [lit_name] at this)
    refine Or.inl ⟨b, t', e1, h2, fun x hx hm => h3 x hx ?_⟩
    rw [h1, e2]; rw [e1] at hm
    simp only [List.mem_cons] at hm ⊢
    rcases hm with hm | hm
    · exact Or.inl hm
    · exact Or.inr (List.mem_append_left _ hm)
  · have hhn : nm s.dom hh = hN "head" := by
      subst h4
      obtain ⟨h', e1, _, e3⟩ := hc.elems
      rw [h1] at e1; cases e1; exact e3
    rw [h2] at hup
    obtain ⟨t1, e1, e2⟩ := head_of_split hup (fun hm => by
      have := hp hh hm; rw [hhn] at this; simp [lit_name] at this)
    obtain ⟨t2, e3, e4⟩ := head_of_split e2 (fun hm => by
      have := hp t hm; rw [h3] at this; simp [lit_name] at this)
    exact Or.inr (Or.inl ⟨hh, t, t2, h1, by rw [e1, e3], by rw [hnm]; exact h3, h4⟩)
  · rw [h2] at hup
    obtain ⟨t1, e1, e2⟩ := head_of_split hup (fun hm => by
      have := hp t hm; rw [h3] at this; simp [lit_name] at this)
    refine Or.inr (Or.inr ⟨t, t1, e1, by rw [hnm]; exact h3, h4, fun x hx hm => h5 x hx ?_⟩)
    rw [h2, e2]; rw [e1] at hm
    simp only [List.mem_cons] at hm ⊢
    rcases hm with hm | hm
    · exact Or.inl hm
    · exact Or.inr (List.mem_append_left _ hm)

def needTriv (m : Mode) : Bool := m == .inBody || m == .inCaption || m == .inColumnGroup

/-- what the caller of the InBody rules guarantees about an end tag with a protected name -/
def EndSide (tag : Tag) (m : Mode) : Prop :=
  keepName ⟨nsHtml, tag.name⟩ = true → isOneOf tag.name ["head", "frameset"] = true ∨ needTriv m = true

theorem isHS_eq {n : EName} {X : Str} (h : isHS n X = true) : n = ⟨nsHtml, X⟩ := by
  unfold isHS at h
  simp only [Bool.and_eq_true, beq_iff_eq] at h
  cases n; simp_all

/-- the side condition of the InBody rules, needed only where the generic end-tag arm is reached -/
def GenEnd (tag : Tag) (m : Mode) : Prop :=
  ¬ (tag.kind == H5V.Model.HtmlTok.TagKind.startTag) = true →
  ¬ (tag.isStart ["base", "basefont", "bgsound", "link", "meta", "noframes", "script", "style", "template",
      "title"] || tag.isEnd ["template"]) = true → EndSide tag m

/-- what is popped is a final segment of the stack: whatever lies above a popped element is popped too -/
theorem popped_above {x : Id} {popped post : List Id} (hx : x ∈ popped) :
    ∀ {pre l' : List Id}, pre ++ x :: post = l' ++ popped → (pre ++ x :: post).Nodup → ∀ y ∈ post, y ∈ popped
  | [], [], h, _, y, hy => by
    have h : x :: post = popped := h
    subst h; exact List.mem_cons_of_mem _ hy
  | [], a :: t, h, hnd, _, _ => by
    simp only [List.nil_append, List.cons_append, List.cons.injEq] at h
    exact absurd (by rw [h.2]; exact List.mem_append_right _ hx) (List.nodup_cons.mp hnd).1
  | b :: pre, [], h, _, y, hy => by
    have h : b :: pre ++ x :: post = popped := h
    subst h; simp [hy]
  | b :: pre, a :: t, h, hnd, y, hy => by
    simp only [List.cons_append, List.cons.injEq] at h
    exact popped_above hx h.2 (List.nodup_cons.mp hnd).2 y hy

/-- The names `head` and `frameset` occur on a body-phase stack only as `head` directly above the root and
below a `template`; so when an element with one of these names is popped, a `template` is popped too. -/
theorem Big.pop_head_tmpl {m : Mode} {r : Id} {ph : Phase} {s s' : State} {popped : List Id} (hb : Big m r ph s)
    (p : PR s s' popped) {x : Id} (hx : x ∈ popped) (hxn : htmlIn (nm s.dom x) ["head", "frameset"] = true) :
    ∃ t ∈ popped, nm s.dom t = hN "template" := by
  have hnp := hb.notPf
  obtain ⟨up, hc, hbb, _, _⟩ := hb
  have hname : htmlIn (nm s.dom x) ["html", "body", "head", "frameset"] = true := by
    obtain ⟨a, ha, heq⟩ := htmlIn_eq hxn
    simp only [List.mem_cons, List.not_mem_nil, or_false] at ha
    rcases ha with rfl | rfl <;> (rw [heq]; simp [lit_name])
  have hn : ∀ a, a ∈ ["html", "body", "template"] → nm s.dom x ≠ hN a := by
    intro a ha heq
    rw [heq] at hxn
    simp only [List.mem_cons, List.not_mem_nil, or_false] at ha
    rcases ha with rfl | rfl | rfl <;> exact absurd hxn (by simp [lit_name])
  have hxs : x ∈ s.openElems := by rw [p.stack]; exact List.mem_append_right _ hx
  rw [hc.stack] at hxs
  have hxu : x ∈ up := by
    rcases List.mem_cons.mp hxs with rfl | h
    · exact absurd hc.root_name (hn "html" (by simp))
    · exact h
  have htail : x ∉ up.tail := fun h => by have := hc.bh4 hnp x h; rw [hname] at this; cases this
  rcases hbb with ⟨b, u', hu, hph, _⟩ | ⟨hh, t, u', h0, hu, htn, _⟩ | ⟨t, u', hu, htn, _, _⟩
  · subst hu
    rcases List.mem_cons.mp hxu with rfl | h
    · subst hph
      obtain ⟨_, _, _, _, hbn⟩ := hc.elems
      exact absurd hbn (hn "body" (by simp))
    · exact absurd h htail
  · subst hu
    rcases List.mem_cons.mp hxu with rfl | h
    · have hst : [r] ++ x :: (t :: u') = s'.openElems ++ popped := by rw [← p.stack, hc.stack]; rfl
      have hnd := hc.nodup
      rw [hc.stack] at hnd
      exact ⟨t, popped_above hx hst hnd t (by simp), htn⟩
    · rcases List.mem_cons.mp h with rfl | h'
      · exact absurd htn (hn "template" (by simp))
      · exact absurd (List.mem_cons_of_mem _ h') htail
  · subst hu
    rcases List.mem_cons.mp hxu with rfl | h
    · exact absurd htn (hn "template" (by simp))
    · exact absurd h htail

theorem rbw_generic_end {tag : Tag} (h5 : ¬ tag.isEnd ["body"] = true) (h6 : ¬ tag.isEnd ["html"] = true)
    (h2 : ¬ (tag.isStart ["base", "basefont", "bgsound", "link", "meta", "noframes", "script", "style",
      "template", "title"] || tag.isEnd ["template"]) = true)
    (hk : ¬ (tag.kind == H5V.Model.HtmlTok.TagKind.startTag) = true) :
    RBw (fun s => GenEnd tag s.mode) (processEndTagInBody tag >>= fun _ => pure ProcessResult.done) :=
  fun m r ph s res s'' hb hm hbl hw e => by
    have hw : EndSide tag m := hm ▸ hw hk h2
    obtain ⟨u, s', e1, e2⟩ := bind_ok.mp e
    obtain ⟨rfl, rfl⟩ := pure_ok.mp e2
    show Good r s'
    cases hkn : keepName ⟨nsHtml, tag.name⟩ with
    | false =>
      haveI : PlainStr tag.name := ⟨hkn⟩
      obtain ⟨h1, h2', _⟩ := (inferInstance : PB (processEndTagInBody tag)).p m r ph s u s' hb e1
      exact h1.good (h2'.trans hm) hbl
    | true =>
      have hke : tag.kind = .endTag := by
        cases hkk : tag.kind with
        | startTag => rw [hkk] at hk; exact absurd rfl hk
        | endTag => rfl
      have hnot : ∀ a, a ∈ ["body", "html", "template"] → tag.name ≠ a.toList := by
        intro a ha hn
        have hen : ∀ l, a ∈ l → tag.isEnd l = true := by
          intro l hl
          unfold Tag.isEnd isOneOf
          simp only [Bool.and_eq_true, beq_iff_eq, List.any_eq_true]
          exact ⟨hke, a, hl, hn.symm⟩
        simp only [List.mem_cons, List.not_mem_nil, or_false] at ha
        rcases ha with rfl | rfl | rfl
        · exact h5 (hen _ (by simp))
        · exact h6 (hen _ (by simp))
        · apply h2; rw [hen ["template"] (by simp)]; simp
      obtain ⟨popped, p, hpop⟩ := processEndTagInBody_sem e1
      have hmode : s'.mode = m := by rw [p.rest]; exact hm
      -- no `template` is popped: it is special, has not the tag's name, and no end tag is implied for it
      have hnt : ∀ t ∈ popped, nm s.dom t ≠ hN "template" := by
        intro t ht htn
        rcases hpop t ht with h3 | h3 | h3
        · rw [htn, special_of_keepName keepName_template] at h3; cases h3
        · have := isHS_eq h3
          rw [htn] at this
          exact hnot "template" (by simp) (congrArg EName.loc this).symm
        · have := keepName_cursory h3
          rw [htn, keepName_template] at this; cases this
      -- hence neither is an element named `head` or `frameset`
      have hnh : ∀ x ∈ popped, htmlIn (nm s.dom x) ["head", "frameset"] = false := by
        intro x hx
        cases hq : htmlIn (nm s.dom x) ["head", "frameset"] with
        | false => rfl
        | true => obtain ⟨t, ht, htn⟩ := hb.pop_head_tmpl p hx hq; exact absurd htn (hnt t ht)
      rcases hw hkn with hhf | hntr
      · -- `</head>`, `</frameset>`: the elements popped for their name would have one of these names
        refine (hb.pop p (fun x hx => ?_)).good hmode hbl
        rcases hpop x hx with h1 | h1 | h1
        · cases hk' : keepName (nm s.dom x) with
          | false => rfl
          | true => rw [special_of_keepName hk'] at h1; cases h1
        · exfalso
          have hxn := isHS_eq h1
          have := hnh x hx
          rw [hxn] at this
          unfold isOneOf at hhf
          simp only [List.any_cons, List.any_nil, Bool.or_false, Bool.or_eq_true, beq_iff_eq] at hhf
          rcases hhf with h | h <;> (rw [← h] at this; revert this; decide)
        · exact keepName_cursory h1
      · -- a mode without a witness: structure elements may be popped, the anchors are not
        refine (hb.popK p (fun x hx => ?_) (fun up' => ?_)).good hmode hbl
        · cases hq : htmlIn (nm s.dom x) ["html", "body", "head", "template"] with
          | false => rfl
          | true =>
            exfalso
            have hkx : keepName (nm s.dom x) = true := keepName_of_htmlIn hq (by simp [lit_name])
            obtain ⟨a, ha, heq⟩ := htmlIn_eq hq
            simp only [List.mem_cons, List.not_mem_nil, or_false] at ha
            rcases hpop x hx with h1 | h1 | h1
            · rw [special_of_keepName hkx] at h1; cases h1
            · have hn : tag.name = a.toList := by
                have := isHS_eq h1; rw [heq] at this; exact (congrArg EName.loc this).symm
              rcases ha with rfl | rfl | rfl | rfl
              · exact hnot "html" (by simp) hn
              · exact hnot "body" (by simp) hn
              · have := hnh x hx
                rw [heq] at this; simp [lit_name] at this
              · exact hnot "template" (by simp) hn
            · rw [keepName_cursory h1] at hkx; cases hkx
        · unfold needTriv at hntr
          simp only [Bool.or_eq_true, beq_iff_eq] at hntr
          rcases hntr with (rfl | rfl) | rfl <;> trivial



theorem rbw_dite {W : State → Prop} {c : Prop} [Decidable c] {a b : M ProcessResult}
    (h1 : c → RBw W a) (h2 : ¬c → RBw W b) : RBw W (if c then a else b) := by
  by_cases hc : c
  · simp only [hc, if_true]; exact h1 hc
  · simp only [hc, if_false]; exact h2 hc

theorem plain_of_isOneOf {name : Str} {l : List String} (h : isOneOf name l = true)
    (hl : ∀ a ∈ l, keepName (hN a) = false) : PlainStr name := by
  unfold isOneOf at h
  simp only [List.any_eq_true, beq_iff_eq] at h
  obtain ⟨a, ha, rfl⟩ := h
  exact ⟨hl a ha⟩

macro_rules
  | `(tactic| rb_step) => `(tactic| first
    | (with_reducible apply rb_table_tail) <;> assumption
    | (with_reducible apply rb_form_tail) <;> assumption
    | with_reducible exact rb_body_end
    | with_reducible exact rb_html_end
    | (with_reducible apply rb_listClose
       rotate_left
       · intro name hname
         haveI : PlainStr name := plain_of_isOneOf hname (by decide)
         dsimp only
         exact RBw.of_pbsc inferInstance)
    | (with_reducible apply RB.guardPosN) <;> exact inferInstance
    | (with_reducible apply RB.guardNegN) <;> exact inferInstance
    | (with_reducible apply RB.guardPosS) <;> exact inferInstance
    | (with_reducible apply RB.guardNegS) <;> exact inferInstance
    | (with_reducible apply RB.guardPos) <;> exact inferInstance
    | (with_reducible apply RB.guardTop) <;> exact inferInstance
    | (with_reducible apply RB.guardTopN) <;> exact inferInstance
    | exact inferInstance
    | with_reducible apply RB.bindPB
    | with_reducible apply RB.dite
    | intro _
    | (dsimp only)
    | split)

instance {β : Type} (sc : EName → Bool) [ScBase sc] (f : Unit → M β) [h : ∀ a, PB (f a)] :
    PBsc sc (namedP "p".toList) (closePElement >>= f) :=
  ⟨fun md r ph s b s'' hb hi e => by
    obtain ⟨a, s', e1, e2⟩ := bind_ok.mp e
    obtain ⟨b1, m1, o1⟩ := (inferInstance : PBsc sc (namedP "p".toList) closePElement).p md r ph s a s' hb hi e1
    obtain ⟨b2, m2, o2⟩ := (h a).p md r ph s' b s'' b1 e2
    exact ⟨b2, m2.trans m1, o2.trans o1⟩⟩

/-- the `<frameset>` arm of InBody once a `body` element is found (proved as `framesetArm` with the frameset modes) -/
def FramesetArm (tag : Tag) : Prop :=
  ∀ b, RBw (IsBody b) (sinkUnit (.removeFromParent b) >>= fun _ =>
    (modS fun s => { s with openElems := s.openElems.take 1 }) >>= fun _ =>
      insertElementFor tag >>= fun _ => setMode .inFrameset >>= fun _ => pure ProcessResult.done)


end H5V.Props.C06
