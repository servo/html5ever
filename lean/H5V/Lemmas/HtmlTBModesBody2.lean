import H5V.Lemmas.HtmlTBModesBodyNav
/-!
"in body": the arms for the block-level start tags (`address` … `ul`, `menu`, headings, `pre`/`listing`, `form`,
`li`/`dd`/`dt`, `plaintext`, `button`).
-/
namespace H5V.Lemmas.HtmlTBModes
open H5V.Model.HtmlTB
open H5V.Model.Dom (Id SinkOp Output Dom QualName Attr NodeOrText ElementFlags NodeData QuirksMode)
open H5V.Lemmas.HtmlTBAlgo
open H5V.Lemmas.TBSafe (TI HInv SInv Rooted)
open H5V.Spec.TreeAlgo2 (Elem Entry PState Ctx Edit Place)
open H5V.Spec.TreeModes (STok ETok IMode Config Out TokSwitch XOp Op Step Edition)

def b2_armBlock (t : Tag) : M ProcessResult := do
  closePElementInButtonScope
  let _ ← insertElementFor t
  pure .done

/-- `self.form_elem.set(Some(elem))` -/
theorem b2_pc_setForm {s : State} (hm : MInv s) (e : Id)
    (hel : s.dom.isElement e = true ∧ nameOf s.dom e ≠ ⟨nsHtml, "html".toList⟩) :
    PC (modS fun s => { s with formElem := some e }) s (fun _ s' calls => s' = { s with formElem := some e } ∧
      Tr s s' calls (fun x x' => x' = x ∧ absF s' x' = (absF s x).setForm (some e))) := by
  have hm0 : MInv { s with formElem := some e } :=
    ⟨hm.elems, hm.root, hm.af, hm.afEl, hm.head, hm.ctx, hm.afwf, hm.ip, hm.tmodes,
      (fun f hf => by cases hf; exact hel), hm.pend⟩
  refine pc_modS rfl rfl ⟨rfl, (Tr.of_upd (s' := { s with formElem := some e }) hm rfl (fun _ h => h)
    hm0 rfl).conseq ?_⟩
  intro x x' _ _ h
  subst h
  exact ⟨rfl, rfl⟩

/-! ### the arms -/

/-- `address` … `ul`, `menu` -/
theorem body_start_block {s : State} (hm : MInv s) {t : Tag} (hwf : TagWf t) :
    PC (b2_armBlock t) s (TokPost (fun σ =>
      Step.done <$> Spec.TreeModes.insertHtml' (Spec.TreeModes.closePIfInButtonScope (cfgOf s) σ) (specTag t)) s (.tag t)) := by
  unfold b2_armBlock
  refine pc_seq (pc_closePElementInButtonScope hm) ?_
  rintro _ s1 c1 he1 htr1
  refine pc_seq (pc_insertElementFor' htr1.1 hwf.plain) ?_
  rintro a s2 c2 he2 ⟨f, ho, hfresh, hel, hnm, htr2⟩
  refine pc_pure (tokPost_of_tr (by rw [List.append_nil]; exact htr1.trans htr2) trivial ?_)
  rintro x x'' hx hx'' ⟨x1, ⟨hx1, r1⟩, r2⟩
  refine ⟨x'', ?_, AuxSame.rfl', Or.inl rfl, rfl, rfl⟩
  rw [← r1, r2]
  rfl

def b2_armHeading (t : Tag) : M ProcessResult := do
  closePElementInButtonScope
  if ← currentNodeIn headingTag then
    parseError "nested heading tags"
    let _ ← pop
  let _ ← insertElementFor t
  pure .done

/-- the common end of several arms: "insert an HTML element for the token", done -/
theorem b2_tail_insert {s s0 : State} {t : Tag} {c0 : List Call} {R : Aux → Aux → Prop} (htr0 : Tr s s0 c0 R)
    (hwf : TagWf t) (spec : SState → Spec.TreeModes.M (Step Id))
    (hspec : ∀ x x0, AuxOk s x → AuxOk s0 x0 → R x x0 → ∀ σ',
      Spec.TreeModes.insertHtml' (absF s0 x0) (specTag t) = .ok σ' → spec (absF s x) = .ok (.done σ')) :
    PC (do let _ ← insertElementFor t; pure ProcessResult.done) s0
      (fun r s2 c2 => TokPost spec s (.tag t) r s2 (c0 ++ c2)) := by
  refine pc_seq (pc_insertElementFor' htr0.1 hwf.plain) ?_
  rintro a s2 c2 he2 ⟨f, ho, hfresh, hel, hnm, htr2⟩
  have htr0' := htr0.conseq (R' := fun x x' => AuxOk s0 x' ∧ R x x') fun x x' _ hx' r => ⟨hx', r⟩
  refine pc_pure (tokPost_of_tr (by rw [List.append_nil]; exact htr0'.trans htr2) trivial ?_)
  rintro x x'' hx hx'' ⟨x0, ⟨hx0, r0⟩, r2⟩
  exact ⟨x'', hspec x x0 hx hx0 r0 _ r2, AuxSame.rfl', Or.inl rfl, rfl, rfl⟩

theorem body_start_heading {s : State} (hm : MInv s) {t : Tag} (hwf : TagWf t) :
    PC (b2_armHeading t) s (TokPost (fun σ => Step.done <$> Spec.TreeModes.insertHtml'
        (if (Spec.TreeModes.closePIfInButtonScope (cfgOf s) σ).curIn Spec.TreeTables.heading
          then ((Spec.TreeModes.closePIfInButtonScope (cfgOf s) σ).err "in body: heading inside heading").pop
          else Spec.TreeModes.closePIfInButtonScope (cfgOf s) σ) (specTag t)) s (.tag t)) := by
  unfold b2_armHeading
  refine pc_seq (pc_closePElementInButtonScope hm) ?_
  rintro _ s1 c1 he1 htr1
  refine pc_seq (pc_currentNodeIn_heading htr1.1) ?_
  rintro b s2 c2 he2 htr2
  cases b
  · simp only [Bool.false_eq_true, if_false]
    simp only [← List.append_assoc]
    refine b2_tail_insert (htr1.trans htr2) hwf _ ?_
    rintro x x2 hx hx2 ⟨x1, ⟨hx1, r1⟩, hxx, r2, r3⟩ σ' hi
    subst hxx
    rw [← r1, ← r3, if_neg (by simp), r2, hi]
    rfl
  · simp only [if_true]
    refine pc_seq (pc_parseError htr2.1 _) ?_
    rintro _ s3 c3 he3 htr3
    refine pc_seq (pc_pop htr3.1) ?_
    rintro _ s4 c4 he4 ⟨-, -, -, htr4⟩
    have htr := (((htr1.trans htr2).trans (Tr.err htr2.1 "in body: heading inside heading")).trans htr3).trans htr4
    simp only [List.append_nil] at htr
    simp only [← List.append_assoc]
    refine b2_tail_insert htr hwf _ ?_
    rintro x x5 hx hx5 ⟨x4, ⟨x3, ⟨x2, ⟨x1, ⟨hx1, r1⟩, hxx, r2, r3⟩, he⟩, hxx3, r4⟩, hxx4, r5, -⟩ σ' hi
    subst hxx hxx3 hxx4
    rw [← r1, ← r3, if_pos rfl]
    rw [r5, ← r4, he, absF_err, ← r2] at hi
    rw [hi]
    rfl

def b2_armPre (t : Tag) : M ProcessResult := do
  closePElementInButtonScope
  let _ ← insertElementFor t
  modS fun s => { s with ignoreLf := true }
  setFramesetOk false
  pure .done

/-- `pre`, `listing` -/
theorem body_start_pre {s : State} (hm : MInv s) {t : Tag} (hwf : TagWf t) :
    PC (b2_armPre t) s (TokPost (fun σ => do
        let s ← Spec.TreeModes.insertHtml' (Spec.TreeModes.closePIfInButtonScope (cfgOf s) σ) (specTag t)
        pure (.done { s with ignoreLf := true, framesetOk := false })) s (.tag t)) := by
  unfold b2_armPre
  refine pc_seq (pc_closePElementInButtonScope hm) ?_
  rintro _ s1 c1 he1 htr1
  refine pc_seq (pc_insertElementFor' htr1.1 hwf.plain) ?_
  rintro a s2 c2 he2 ⟨f, ho, hfresh, hel, hnm, htr2⟩
  refine pc_seq (pc_setIgnoreLf htr2.1) ?_
  rintro _ s3 c3 he3 ⟨-, htr3⟩
  refine pc_seq (pc_setFramesetNotOk htr3.1) ?_
  rintro _ s4 c4 he4 ⟨-, htr4⟩
  refine pc_pure (tokPost_of_tr (calls := c1 ++ (c2 ++ (c3 ++ (c4 ++ []))))
    (by simp only [List.append_nil, ← List.append_assoc]; exact ((htr1.trans htr2).trans htr3).trans htr4) trivial ?_)
  rintro x x'' hx hx'' ⟨x3, ⟨x2, ⟨x1, ⟨hx1, r1⟩, r2⟩, hxx, r3⟩, hxx', r4⟩
  subst hxx hxx'
  refine ⟨x'', ?_, AuxSame.rfl', Or.inl rfl, rfl, rfl⟩
  rw [← r1, r2]
  simp only [stepOf, r4, r3]
  rfl

def b2_armPlaintext (t : Tag) : M ProcessResult := do
  closePElementInButtonScope
  let _ ← insertElementFor t
  pure .toPlaintext

def b2_armButton (t : Tag) : M ProcessResult := do
  if ← inScopeNamed defaultScope "button" then
    parseError "nested buttons"
    generateImpliedEndTags cursoryImpliedEnd
    let _ ← popUntilNamed "button"
  reconstructActiveFormattingElements
  let _ ← insertElementFor t
  setFramesetOk false
  pure .done

/-- `plaintext` -/
theorem body_start_plaintext {s : State} (hm : MInv s) {t : Tag} (hwf : TagWf t) :
    PC (b2_armPlaintext t) s (TokPost (fun σ => do
        let s ← Spec.TreeModes.insertHtml' (Spec.TreeModes.closePIfInButtonScope (cfgOf s) σ) (specTag t)
        pure (.done (s.switchTokenizer .plaintext))) s (.tag t)) := by
  unfold b2_armPlaintext
  refine pc_seq (pc_closePElementInButtonScope hm) ?_
  rintro _ s1 c1 he1 htr1
  refine pc_seq (pc_insertElementFor' htr1.1 hwf.plain) ?_
  rintro a s2 c2 he2 ⟨f, ho, hfresh, hel, hnm, htr2⟩
  refine pc_pure (tokPost_toPlaintext (by rw [List.append_nil]; exact htr1.trans htr2) ?_)
  rintro x x'' hx hx'' ⟨x1, ⟨hx1, r1⟩, r2⟩
  rw [← r1, r2]
  rfl

/-- the end of the `button` arm -/
theorem b2_tail_button {s s0 : State} {t : Tag} {c0 : List Call} {R : Aux → Aux → Prop} (htr0 : Tr s s0 c0 R)
    (hwf : TagWf t) (spec : SState → Spec.TreeModes.M (Step Id))
    (hspec : ∀ x x0, AuxOk s x → AuxOk s0 x0 → R x x0 → ∀ σ1 σ',
      Spec.TreeModes.reconstruct (absF s0 x0) = .ok σ1 →
      Spec.TreeModes.insertHtml' σ1 (specTag t) = .ok σ' → spec (absF s x) = .ok (.done σ'.notOk)) :
    PC (do reconstructActiveFormattingElements; let _ ← insertElementFor t; setFramesetOk false; pure ProcessResult.done) s0
      (fun r s2 c2 => TokPost spec s (.tag t) r s2 (c0 ++ c2)) := by
  refine pc_seq (pc_reconstruct htr0.1) ?_
  rintro _ s1 c1 he1 ⟨-, -, htr1⟩
  refine pc_seq (pc_insertElementFor' htr1.1 hwf.plain) ?_
  rintro a s2 c2 he2 ⟨f, ho, hfresh, hel, hnm, htr2⟩
  refine pc_seq (pc_setFramesetNotOk htr2.1) ?_
  rintro _ s3 c3 he3 ⟨-, htr3⟩
  have htr0' := htr0.conseq (R' := fun x x' => AuxOk s0 x' ∧ R x x') fun x x' _ hx' r => ⟨hx', r⟩
  refine pc_pure (tokPost_of_tr (calls := c0 ++ (c1 ++ (c2 ++ (c3 ++ []))))
    (by simp only [List.append_nil, ← List.append_assoc]; exact ((htr0'.trans htr1).trans htr2).trans htr3) trivial ?_)
  rintro x x'' hx hx'' ⟨x2, ⟨x1, ⟨x0, ⟨hx0, r0⟩, r1⟩, r2⟩, hxx, r3⟩
  subst hxx
  refine ⟨x'', ?_, AuxSame.rfl', Or.inl rfl, rfl, rfl⟩
  rw [hspec x x0 hx hx0 r0 _ _ r1 r2]
  simp only [stepOf, r3]

/-- `button` -/
theorem body_start_button {s : State} (hm : MInv s) {t : Tag} (hwf : TagWf t) :
    PC (b2_armButton t) s (TokPost (fun σ => do
        let s ← Spec.TreeModes.reconstruct
          (if Spec.TreeModes.hasInScope (cfgOf s) σ "button" then
            Spec.TreeModes.popUntilPopped (Spec.TreeModes.genImplied (σ.err "in body: button inside button")) "button"
          else σ)
        let s ← Spec.TreeModes.insertHtml' s (specTag t)
        pure (.done s.notOk)) s (.tag t)) := by
  unfold b2_armButton
  refine pc_seq (pc_inScopeNamed_default hm "button") ?_
  rintro b s1 c1 he1 htr1
  cases b
  · simp only [Bool.false_eq_true, if_false]
    refine b2_tail_button htr1 hwf _ ?_
    rintro x x1 hx hx1 ⟨hxx, r1, r2⟩ σ1 σ' h1 h2
    subst hxx
    rw [← r2, if_neg (by simp), r1, h1]
    simp only [bind, Except.bind, h2]
    rfl
  · simp only [if_true]
    refine pc_seq (pc_parseError htr1.1 _) ?_
    rintro _ s2 c2 he2 htr2
    refine pc_seq (pc_generateImpliedEndTags_cursory htr2.1) ?_
    rintro _ s3 c3 he3 htr3
    refine pc_seq (pc_popUntilNamed htr3.1 "button") ?_
    rintro _ s4 c4 he4 htr4
    have htr := (((htr1.trans (Tr.err htr1.1 "in body: button inside button")).trans htr2).trans htr3).trans htr4
    simp only [List.append_nil] at htr
    simp only [← List.append_assoc]
    refine b2_tail_button htr hwf _ ?_
    rintro x x5 hx hx5 ⟨x4, ⟨x3, ⟨x2, ⟨x1, ⟨hxx, r1, r2⟩, he⟩, hxx2, r3⟩, hxx3, r4⟩, hxx4, r5, -⟩ σ1 σ' h1 h2
    subst hxx hxx2 hxx3 hxx4
    rw [← r2, if_pos rfl]
    rw [r5, r4, ← r3, he, absF_err, ← r1] at h1
    rw [h1]
    simp only [bind, Except.bind, h2]
    rfl

def b2_formRest (t : Tag) (nested : Bool) : M ProcessResult := do
  if nested then parseError "nested forms"
  else
    closePElementInButtonScope
    let elem ← insertElementFor t
    if !(← inHtmlElemNamed "template") then
      modS fun s => { s with formElem := some elem }
  pure .done

def b2_armForm (t : Tag) : M ProcessResult := do
  let nested ← if (← getS).formElem.isSome then (do pure (!(← inHtmlElemNamed "template"))) else pure false
  b2_formRest t nested

theorem b2_formRest_sim {s s0 : State} {t : Tag} {c0 : List Call} {R : Aux → Aux → Prop} (htr0 : Tr s s0 c0 R)
    (hwf : TagWf t) (hn : t.name = "form".toList) (nested : Bool)
    (hR : ∀ x x0, R x x0 → x0 = x ∧ absF s x = absF s0 x ∧
      nested = ((absF s x).p.formPointer.isSome && !(absF s x).templateOnStack)) :
    PC (b2_formRest t nested) s0
      (fun r s2 c2 => TokPost (fun σ => if σ.p.formPointer.isSome && !σ.templateOnStack then pure (.done (σ.err "in body: nested form"))
        else do
          let r ← Spec.TreeModes.insertHtml (Spec.TreeModes.closePIfInButtonScope (cfgOf s) σ) (specTag t)
          pure (.done (if r.1.templateOnStack then r.1 else r.1.setForm (some r.2.id)))) s (.tag t) r s2 (c0 ++ c2)) := by
  unfold b2_formRest
  have hc0 : cfgOf s0 = cfgOf s := htr0.2.1
  cases nested
  · simp only [Bool.false_eq_true, if_false]
    refine pc_seq (pc_closePElementInButtonScope htr0.1) ?_
    rintro _ s1 c1 he1 htr1
    refine pc_seq (pc_insertElementFor htr1.1 hwf.plain) ?_
    rintro a s2 c2 he2 ⟨f, ho, hfresh, hel, hnm, htr2⟩
    refine pc_seq (pc_inHtmlElemNamed_template htr2.1) ?_
    rintro b s3 c3 he3 htr3
    cases b
    · simp only [Bool.not_false, if_true]
      refine pc_seq (b2_pc_setForm htr3.1 a ⟨isElement_ext he3.ext hel, by
        rw [nameOf_ext he3.ext hel, hnm, hn]; decide⟩) ?_
      rintro _ s4 c4 he4 ⟨-, htr4⟩
      refine pc_pure (tokPost_of_tr (calls := c0 ++ (c1 ++ (c2 ++ (c3 ++ (c4 ++ [])))))
        (by simp only [List.append_nil, ← List.append_assoc]; exact (((htr0.trans htr1).trans htr2).trans htr3).trans htr4) trivial ?_)
      rintro x x'' hx hx'' ⟨x3, ⟨x2, ⟨x1, ⟨x0, r0, hx1, r1⟩, r2⟩, hxx, r3, r3'⟩, hxx', r4⟩
      obtain ⟨hx0, e0, e0'⟩ := hR x x0 r0
      subst hxx hxx' hx0
      refine ⟨x'', ?_, AuxSame.rfl', Or.inl rfl, rfl, rfl⟩
      rw [← e0', if_neg (by simp), e0, ← hc0, ← r1, r2]
      simp only [stepOf, r4, ← r3, bind, Except.bind, pure, Except.pure, ← r3', Bool.false_eq_true, if_false]
      rfl
    · simp only [Bool.not_true, Bool.false_eq_true, if_false]
      refine pc_pure (tokPost_of_tr (calls := c0 ++ (c1 ++ (c2 ++ (c3 ++ []))))
        (by simp only [List.append_nil, ← List.append_assoc]; exact ((htr0.trans htr1).trans htr2).trans htr3) trivial ?_)
      rintro x x'' hx hx'' ⟨x2, ⟨x1, ⟨x0, r0, hx1, r1⟩, r2⟩, hxx, r3, r3'⟩
      obtain ⟨hx0, e0, e0'⟩ := hR x x0 r0
      subst hxx hx0
      refine ⟨x'', ?_, AuxSame.rfl', Or.inl rfl, rfl, rfl⟩
      rw [← e0', if_neg (by simp), e0, ← hc0, ← r1, r2]
      simp only [stepOf, ← r3, bind, Except.bind, pure, Except.pure, ← r3', if_true]
  · simp only [if_true]
    refine pc_seq (pc_parseError htr0.1 _) ?_
    rintro _ s1 c1 he1 htr1
    refine pc_pure (tokPost_of_tr (calls := c0 ++ (c1 ++ []))
      (by simp only [List.append_nil]; exact htr0.trans htr1) trivial ?_)
    rintro x x'' hx hx'' ⟨x0, r0, hxx, r1⟩
    obtain ⟨hx0, e0, e0'⟩ := hR x x0 r0
    subst hxx hx0
    refine ⟨{ x'' with errors := x''.errors ++ ["in body: nested form"] }, ?_, ⟨rfl, rfl, rfl, rfl, rfl⟩, Or.inl rfl, rfl, rfl⟩
    rw [← e0', if_pos rfl, e0, r1]
    rfl

/-- `form` -/
theorem body_start_form {s : State} (hm : MInv s) {t : Tag} (hwf : TagWf t)
    (hn : t.name = "form".toList) :
    PC (b2_armForm t) s (TokPost (fun σ => if σ.p.formPointer.isSome && !σ.templateOnStack then pure (.done (σ.err "in body: nested form"))
        else do
          let r ← Spec.TreeModes.insertHtml (Spec.TreeModes.closePIfInButtonScope (cfgOf s) σ) (specTag t)
          pure (.done (if r.1.templateOnStack then r.1 else r.1.setForm (some r.2.id)))) s (.tag t)) := by
  unfold b2_armForm
  refine pc_getS_bind ?_
  cases hf : s.formElem with
  | none =>
    simp only [Option.isSome_none, Bool.false_eq_true, if_false, pure_bind]
    refine pc_conseq (b2_formRest_sim (Tr.refl hm) hwf hn false ?_) (fun r s' c _ h => by rwa [List.nil_append] at h)
    rintro x x0 rfl
    refine ⟨rfl, rfl, ?_⟩
    show false = ((s.formElem).isSome && _)
    rw [hf]; rfl
  | some fe =>
    simp only [Option.isSome_some, if_true]
    refine pc_seq (pc_seq (pc_inHtmlElemNamed_template hm) (Q := fun b s' c => Tr s s' c (fun x x' => x' = x ∧ absF s x = absF s' x ∧
        b = !(absF s x).templateOnStack)) ?_) ?_
    · rintro b s1 c1 he1 htr1
      refine pc_pure ?_
      rw [List.append_nil]
      refine htr1.conseq ?_
      rintro x x' _ _ ⟨h1, h2, h3⟩
      exact ⟨h1, h2, by rw [h3]⟩
    · rintro b s1 c1 he1 htr1
      refine b2_formRest_sim htr1 hwf hn b ?_
      rintro x x0 ⟨h1, h2, h3⟩
      refine ⟨h1, h2, ?_⟩
      rw [h3]
      show _ = ((s.formElem).isSome && _)
      rw [hf]; rfl

/-! ### `li`, `dd`, `dt` -/

/-- the value of `listCloseSearch` -/
def b2_listPure (list : Bool) (nm : Id → EName) : List Id → Option Str
  | [] => none
  | h :: r =>
    if (if list then closeList (nm h) else closeDefn (nm h)) then some (nm h).loc
    else if extraSpecial (nm h) then none
    else b2_listPure list nm r

theorem b2_tot_listCloseSearch (list : Bool) (nm : Id → EName) : ∀ (r : List Id) (s : State), NamedBy s.dom r nm →
    Tot (listCloseSearch list r) s (QueryQ s (b2_listPure list nm r)) := by
  intro r
  induction r with
  | nil => intro s _; exact tot_pure ⟨rfl, rfl, rfl⟩
  | cons h r ih =>
    intro s hn
    simp only [listCloseSearch, b2_listPure]
    refine tot_query_query (tot_elemName' s h) fun s1 c1 he1 hs1 => ?_
    rw [(hn h (List.mem_cons_self ..)).2]
    by_cases hc : (if list then closeList (nm h) else closeDefn (nm h)) = true
    · simp only [hc, if_true]
      exact tot_pure ⟨rfl, rfl, rfl⟩
    · simp only [hc, Bool.false_eq_true, if_false]
      by_cases hx : extraSpecial (nm h) = true
      · simp only [hx, if_true]
        exact tot_pure ⟨rfl, rfl, rfl⟩
      · simp only [hx, Bool.false_eq_true, if_false]
        exact ih s1 (hn.tail.stable he1.stable)

def b2_liNames (list : Bool) : List String := if list then ["li"] else ["dd", "dt"]

theorem b2_listPure_eq (list : Bool) (d : Dom) : ∀ r : List Id,
    b2_listPure list (nameOf d) r = Spec.TreeModes.listItemLoop (b2_liNames list) (absStack d r)
  | [] => rfl
  | h :: r => by
    have e1 : (if list then closeList (nameOf d h) else closeDefn (nameOf d h))
        = Spec.TreeAlgo.inHtml (b2_liNames list) (elemOf d h).name := by
      cases list <;> rfl
    have e2 : extraSpecial (nameOf d h)
        = (Spec.TreeAlgo2.isSpecial (elemOf d h) && !Spec.TreeAlgo.inHtml ["address", "div", "p"] (elemOf d h).name) := by
      have e3 : htmlIn (nameOf d h) ["address", "div", "p"] = Spec.TreeAlgo.inHtml ["address", "div", "p"] (elemOf d h).name := rfl
      unfold extraSpecial
      rw [e3, specialTag_eq]
      cases Spec.TreeAlgo.inHtml ["address", "div", "p"] (elemOf d h).name <;> simp
    have e4 : (elemOf d h).name.loc = (nameOf d h).loc := rfl
    simp only [b2_listPure, absStack, List.map_cons, Spec.TreeModes.listItemLoop, e1, e2, e4]
    rw [show List.map (elemOf d) r = absStack d r from rfl, ← b2_listPure_eq list d r]

theorem b2_pc_listCloseSearch {s : State} (hm : MInv s) (list : Bool) :
    PC (listCloseSearch list s.openElems.reverse) s (fun a s' calls =>
      Tr s s' calls (fun x x' => x' = x ∧ absF s x = absF s' x ∧
        a = Spec.TreeModes.listItemLoop (b2_liNames list) (absF s x).p.stack.reverse)) := by
  refine pc_query_spec hm (b2_tot_listCloseSearch list (nameOf s.dom) s.openElems.reverse s
    (NamedBy.of_elemsOk hm.elems).reverse) (fun σ => Spec.TreeModes.listItemLoop (b2_liNames list) σ.p.stack.reverse) ?_
  intro x hx
  show Spec.TreeModes.listItemLoop (b2_liNames list) (absF s x).p.stack.reverse = _
  rw [absF_stack hx, b2_listPure_eq]
  congr 1
  simp only [absStack, List.map_reverse]

/-- steps 3.1–3.3 of the `li` / `dd`,`dt` clause -/
def b2_liClose (σ : SState) (n : Str) : SState :=
  Spec.TreeModes.popUntilPoppedStr
    (if (Spec.TreeModes.genImpliedExceptStr σ n).cur.any (fun e => Spec.TreeModes.isNamed n e.name)
      then Spec.TreeModes.genImpliedExceptStr σ n
      else (Spec.TreeModes.genImpliedExceptStr σ n).err "in body: li/dd/dt, current node differs") n

theorem b2_listItem_some (cfg : Config Id) (σ : SState) (st : STag) (names : List String) (n : Str)
    (h : Spec.TreeModes.listItemLoop names σ.p.stack.reverse = some n) :
    Spec.TreeModes.inBodyListItem cfg σ st names
      = (.done <$> Spec.TreeModes.insertHtml' (Spec.TreeModes.closePIfInButtonScope cfg (b2_liClose σ.notOk n)) st) := by
  have h' : Spec.TreeModes.listItemLoop names σ.notOk.p.stack.reverse = some n := h
  simp only [Spec.TreeModes.inBodyListItem, h']
  rfl

theorem b2_listItem_none (cfg : Config Id) (σ : SState) (st : STag) (names : List String)
    (h : Spec.TreeModes.listItemLoop names σ.p.stack.reverse = none) :
    Spec.TreeModes.inBodyListItem cfg σ st names
      = (.done <$> Spec.TreeModes.insertHtml' (Spec.TreeModes.closePIfInButtonScope cfg σ.notOk) st) := by
  have h' : Spec.TreeModes.listItemLoop names σ.notOk.p.stack.reverse = none := h
  simp only [Spec.TreeModes.inBodyListItem, h']

/-- the common end of several arms: close a `p` element in button scope, insert an HTML element, done -/
theorem b2_tail_block {s s0 : State} {t : Tag} {c0 : List Call} {R : Aux → Aux → Prop} (htr0 : Tr s s0 c0 R)
    (hwf : TagWf t) (spec : SState → Spec.TreeModes.M (Step Id))
    (hspec : ∀ x x0, AuxOk s x → AuxOk s0 x0 → R x x0 → ∀ σ',
      Spec.TreeModes.insertHtml' (Spec.TreeModes.closePIfInButtonScope (cfgOf s) (absF s0 x0)) (specTag t) = .ok σ' →
      spec (absF s x) = .ok (.done σ')) :
    PC (b2_armBlock t) s0 (fun r s2 c2 => TokPost spec s (.tag t) r s2 (c0 ++ c2)) := by
  unfold b2_armBlock
  refine pc_seq (pc_closePElementInButtonScope htr0.1) ?_
  rintro _ s1 c1 he1 htr1
  have htr0' := htr0.conseq (R' := fun x x' => AuxOk s0 x' ∧ R x x') fun x x' _ hx' r => ⟨hx', r⟩
  simp only [← List.append_assoc]
  refine b2_tail_insert (htr0'.trans htr1) hwf spec ?_
  rintro x x1 hx hx1 ⟨x0, ⟨hx0, r0⟩, -, r1⟩ σ' hi
  rw [r1, htr0.2.1] at hi
  exact hspec x x0 hx hx0 r0 σ' hi

def b2_armLi (t : Tag) : M ProcessResult := do
  setFramesetOk false
  let toClose ← listCloseSearch (isName t.name "li") (← getS).openElems.reverse
  match toClose with
  | some name =>
    generateImpliedEndExcept name
    expectToCloseS name
  | none => pure ()
  closePElementInButtonScope
  let _ ← insertElementFor t
  pure .done

theorem b2_liClose_eq (n : Str) (σ : SState) :
    b2_liClose σ n = { Spec.TreeModes.popUntilPoppedStr (Spec.TreeModes.genImpliedExceptStr σ n) n with
      errors := (b2_liClose σ n).errors } := by
  unfold b2_liClose
  split <;> rfl

/-- `li`, `dd`, `dt` -/
theorem body_start_li {s : State} (hm : MInv s) {t : Tag} (hwf : TagWf t) :
    PC (b2_armLi t) s (TokPost (fun σ =>
      Spec.TreeModes.inBodyListItem (cfgOf s) σ (specTag t) (b2_liNames (isName t.name "li"))) s (.tag t)) := by
  unfold b2_armLi
  refine pc_seq (pc_setFramesetNotOk hm) ?_
  rintro _ s1 c1 he1 ⟨-, htr1⟩
  refine pc_getS_bind ?_
  refine pc_seq (b2_pc_listCloseSearch htr1.1 _) ?_
  rintro a s2 c2 he2 htr2
  cases a with
  | none =>
    simp only []
    simp only [← List.append_assoc]
    refine b2_tail_block (htr1.trans htr2) hwf _ ?_
    rintro x x2 hx hx2 ⟨x1, ⟨hxx1, r1⟩, hxx2, r2, r3⟩ σ' hi
    subst x2 x1
    have h3 : Spec.TreeModes.listItemLoop (b2_liNames (isName t.name "li")) (absF s x).p.stack.reverse = none := by
      have := r3.symm; rw [r1] at this; exact this
    rw [b2_listItem_none _ _ _ _ h3]
    rw [← r2, r1] at hi
    rw [hi]
    rfl
  | some name =>
    simp only []
    refine pc_seq (pc_generateImpliedEndExcept htr2.1 name) ?_
    rintro _ s3 c3 he3 htr3
    refine pc_seq (pc_expectToCloseS htr3.1 name) ?_
    rintro _ s4 c4 he4 htr4
    have htr34 := (htr3.trans htr4).conseq (R' := fun x x' => x' = x ∧ absF s4 x =
        (fun σ => Spec.TreeModes.popUntilPoppedStr (Spec.TreeModes.genImpliedExceptStr σ name) name) (absF s2 x)) (by
      rintro x x' _ _ ⟨x3, ⟨h1, h2⟩, h3, h4⟩
      subst x' x3
      exact ⟨rfl, by rw [h4, h2]⟩)
    have htrE := Tr.withErrors (H := fun σ => b2_liClose σ name) (b2_liClose_eq name) htr34
    have htr := (htr1.trans htr2).trans htrE
    simp only [← List.append_assoc] at htr ⊢
    refine b2_tail_block htr hwf _ ?_
    rintro x x4 hx hx4 ⟨x2, ⟨x1, ⟨hxx1, r1⟩, hxx2, r2, r3⟩, hxe, r4⟩ σ' hi
    subst x2 x1
    have h3 : Spec.TreeModes.listItemLoop (b2_liNames (isName t.name "li")) (absF s x).p.stack.reverse = some name := by
      have := r3.symm; rw [r1] at this; exact this
    rw [b2_listItem_some _ _ _ _ _ h3]
    rw [r4, ← r2, r1] at hi
    rw [hi]
    rfl

end H5V.Lemmas.HtmlTBModes
