import H5V.Lemmas.XmlTokOptE
/-!
C15, "no raw CR / NUL reaches the sink" — definitions, the `go!` helpers and the three transition
tables of the XML tokenizer model.

`QC c` ("preprocessed character"): `c` is neither U+000D nor U+0000 — what `get_preprocessed_char`
delivers and what a raw `NotFromSet` run may contain (every `small_char_set!` contains both).

`CleanP P m`: every buffer of the machine that is filled from input characters (tag name, attribute
names, comment, PI target / data, doctype name / ids) and every such part of an emitted token
consists of `QC` characters; the two places a *character reference* can deliver into — attribute
values and character tokens — consist of `P` characters.  `P` is a parameter with `QC c → P c`
(`Allow P`): `P = QC` is "completely clean", `P = NN` ("not NUL") is what holds for all inputs
(`&#13;` legitimately produces a CR, nothing produces a NUL).

`temp_buf` is not tracked: it holds raw look-ahead that is pushed back to the input, never to a token.
Parse-error tokens are diagnostics, not document content, and are not constrained.
-/
namespace H5V.Model.XmlTok

/-- neither CR nor NUL -/
def QC (c : Char) : Prop := c ≠ '\r' ∧ c ≠ '\x00'
instance (c : Char) : Decidable (QC c) := by unfold QC; infer_instance

/-- not NUL -/
def NN (c : Char) : Prop := c ≠ '\x00'
instance (c : Char) : Decidable (NN c) := by unfold NN; infer_instance

/-- admissible predicates for the places a character reference delivers into -/
class Allow (P : Char → Prop) : Prop where
  of_qc : ∀ c, QC c → P c
  fffd : P '�'

instance : Allow QC := ⟨fun _ h => h, by decide⟩
instance : Allow NN := ⟨fun _ h => h.2, by decide⟩

/-- all characters of a string satisfy `P` -/
def AllS (P : Char → Prop) (s : Str) : Prop := ∀ c ∈ s, P c
instance (P : Char → Prop) [DecidablePred P] (s : Str) : Decidable (AllS P s) := by
  unfold AllS; infer_instance

theorem AllS_nil (P : Char → Prop) : AllS P [] := fun _ h => nomatch h
theorem AllS_single {P : Char → Prop} {c : Char} (h : P c) : AllS P [c] := by
  intro x hx; simp only [List.mem_singleton] at hx; subst hx; exact h
theorem AllS_append {P : Char → Prop} {s t : Str} (hs : AllS P s) (ht : AllS P t) : AllS P (s ++ t) := by
  intro x hx; rcases List.mem_append.1 hx with h | h
  · exact hs x h
  · exact ht x h
theorem AllS_snoc {P : Char → Prop} {s : Str} {c : Char} (hs : AllS P s) (hc : P c) : AllS P (s ++ [c]) :=
  AllS_append hs (AllS_single hc)
theorem AllS_cons {P : Char → Prop} {s : Str} {c : Char} (hc : P c) (hs : AllS P s) : AllS P (c :: s) := by
  intro x hx; rcases List.mem_cons.1 hx with h | h
  · subst h; exact hc
  · exact hs x h
theorem AllS_mono {P Q : Char → Prop} (hpq : ∀ c, P c → Q c) {s : Str} (hs : AllS P s) : AllS Q s :=
  fun c hc => hpq c (hs c hc)
theorem AllS_allow {P : Char → Prop} [Allow P] {s : Str} (hs : AllS QC s) : AllS P s :=
  AllS_mono Allow.of_qc hs
theorem AllS_take {P : Char → Prop} {s : Str} (hs : AllS P s) (n : Nat) : AllS P (s.take n) :=
  fun c hc => hs c (List.mem_of_mem_take hc)
theorem AllS_drop {P : Char → Prop} {s : Str} (hs : AllS P s) (n : Nat) : AllS P (s.drop n) :=
  fun c hc => hs c (List.mem_of_mem_drop hc)

/-- an optional string of `QC` characters -/
def OptS (o : Option Str) : Prop := ∀ s, o = some s → AllS QC s

theorem OptS_none : OptS none := fun _ h => nomatch h
theorem OptS_some {s : Str} (h : AllS QC s) : OptS (some s) := by
  intro t ht; cases ht; exact h

def QName.Clean (q : QName) : Prop := OptS q.pfx ∧ AllS QC q.loc
def Attr.Clean (P : Char → Prop) (a : Attr) : Prop := a.name.Clean ∧ AllS P a.value
def Tag.Clean (P : Char → Prop) (t : Tag) : Prop := t.name.Clean ∧ ∀ a ∈ t.attrs, a.Clean P
def Doctype.Clean (d : Doctype) : Prop := OptS d.name ∧ OptS d.publicId ∧ OptS d.systemId

/-- what a delivered token may contain (`P` in attribute values and character tokens, `QC` elsewhere;
parse errors are diagnostics and unconstrained) -/
def Token.Clean (P : Char → Prop) : Token → Prop
  | .doctype d => d.Clean
  | .tag t => t.Clean P
  | .pi t d => AllS QC t ∧ AllS QC d
  | .comment s => AllS QC s
  | .chars s => AllS P s
  | .eof => True
  | .error _ => True

/-- the token log -/
def OutClean (P : Char → Prop) (out : Out) : Prop := ∀ t ∈ out, t.Clean P

structure CleanP (P : Char → Prop) (m : Mach) : Prop where
  tagName : AllS QC m.tagName
  tagAttrs : ∀ a ∈ m.tagAttrs, a.Clean P
  attrName : AllS QC m.attrName
  attrValue : AllS P m.attrValue
  comment : AllS QC m.comment
  doctype : m.doctype.Clean
  piTarget : AllS QC m.piTarget
  piData : AllS QC m.piData
  out : OutClean P m.out

theorem char_le_iff (a b : Char) : a ≤ b ↔ a.toNat ≤ b.toNat := by
  rw [Char.le_def, UInt32.le_iff_toNat_le]; rfl

theorem toNat_ofNat_valid (k : Nat) (h : k.isValidChar) : (Char.ofNat k).toNat = k := by
  simp [Char.ofNat, h, Char.toNat, Char.ofNatAux]

theorem QC_lower {c : Char} (h : QC c) : QC (toAsciiLower c) := by
  unfold toAsciiLower
  split
  · rename_i h1
    simp only [char_le_iff, Char.reduceToNat] at h1
    have hv : (c.toNat + 32).isValidChar := by
      left; omega
    have e := toNat_ofNat_valid _ hv
    constructor
    · intro e2; rw [e2] at e; simp only [Char.reduceToNat] at e; omega
    · intro e2; rw [e2] at e; simp only [Char.reduceToNat] at e; omega
  · exact h

theorem processQName_clean {name : Str} (h : AllS QC name) : (processQName name).Clean := by
  unfold processQName
  dsimp only
  split
  · exact ⟨OptS_none, h⟩
  · exact ⟨OptS_some (AllS_take h _), AllS_drop h _⟩

/-! ### one lemma per `go!` shorthand -/

section helpers
variable {P : Char → Prop} {m : Mach}

/-- helpers that do not touch a tracked field -/
macro "cl_same" h:ident : tactic =>
  `(tactic| exact ⟨($h).tagName, ($h).tagAttrs, ($h).attrName, ($h).attrValue, ($h).comment, ($h).doctype,
      ($h).piTarget, ($h).piData, ($h).out⟩)

theorem CleanP_to (h : CleanP P m) (s : State) : CleanP P (to s m) := by cl_same h
theorem CleanP_reconsumeTo (h : CleanP P m) (s : State) : CleanP P (reconsumeTo s m) := by cl_same h
theorem CleanP_setEmptyTag (h : CleanP P m) : CleanP P (setEmptyTag m) := by cl_same h
theorem CleanP_consumeCharRef (h : CleanP P m) (x : Option Char) : CleanP P (consumeCharRef x m) := by cl_same h
theorem CleanP_setIgnoreLf (h : CleanP P m) (x : Bool) : CleanP P (m.setIgnoreLf x) := by cl_same h
theorem CleanP_setReconsume (h : CleanP P m) (x : Bool) : CleanP P (m.setReconsume x) := by cl_same h
theorem CleanP_setTempBuf (h : CleanP P m) (x : Str) : CleanP P (m.setTempBuf x) := by cl_same h
theorem CleanP_setCharRef (h : CleanP P m) (x : Option CharRefSt) : CleanP P (m.setCharRef x) := by cl_same h
theorem CleanP_setAtEof (h : CleanP P m) (x : Bool) : CleanP P (m.setAtEof x) := by cl_same h
theorem CleanP_setDiscardBom (h : CleanP P m) (x : Bool) : CleanP P (m.setDiscardBom x) := by cl_same h
theorem CleanP_setCurrentChar (h : CleanP P m) (x : Char) : CleanP P (m.setCurrentChar x) := by cl_same h
theorem CleanP_setTagKind (h : CleanP P m) (k : TagKind) : CleanP P { m with tagKind := k } := by cl_same h

theorem OutClean_cons {t : Token} {out : Out} (ht : t.Clean P) (h : OutClean P out) : OutClean P (t :: out) := by
  intro x hx; rcases List.mem_cons.1 hx with e | e
  · subst e; exact ht
  · exact h x e

theorem CleanP_emit (h : CleanP P m) {t : Token} (ht : t.Clean P) : CleanP P (emit m t) :=
  ⟨h.tagName, h.tagAttrs, h.attrName, h.attrValue, h.comment, h.doctype, h.piTarget, h.piData,
    OutClean_cons ht h.out⟩
theorem CleanP_emitE (h : CleanP P m) (s : Str) : CleanP P (emit m (.error s)) := CleanP_emit h trivial
theorem CleanP_emitErr (h : CleanP P m) (s : String) : CleanP P (emitErr m s) := CleanP_emit h trivial
theorem CleanP_emitEof (h : CleanP P m) : CleanP P (emit m .eof) := CleanP_emit h trivial
theorem CleanP_badChar (h : CleanP P m) (o : Opts) : CleanP P (badChar o m) := by
  unfold badChar; split
  · exact CleanP_emitE h _
  · exact CleanP_emitErr h _
theorem CleanP_badEof (h : CleanP P m) (o : Opts) : CleanP P (badEof o m) := by
  unfold badEof; split <;> exact CleanP_emitErr h _
theorem CleanP_nameErr (h : CleanP P m) (o : Opts) (nb : Str) : CleanP P (nameErr o m nb) := by
  unfold nameErr; split
  · exact CleanP_emitE h _
  · exact CleanP_emitErr h _

theorem P_nulfold [Allow P] {c : Char} (hc : P c) : P (if c = '\x00' then '�' else c) := by
  split
  · exact Allow.fffd
  · exact hc

/-- `emit_char` of any `P` character (NUL is replaced there as well) -/
theorem CleanP_emitChar' [Allow P] (h : CleanP P m) {c : Char} (hc : P c) : CleanP P (emitChar m c) :=
  CleanP_emit h (AllS_single (P_nulfold hc))
theorem CleanP_emitChar [Allow P] (h : CleanP P m) {c : Char} (hc : QC c) : CleanP P (emitChar m c) :=
  CleanP_emitChar' h (Allow.of_qc c hc)
theorem CleanP_emitChars [Allow P] (h : CleanP P m) {s : Str} (hs : AllS QC s) : CleanP P (emitChars m s) :=
  CleanP_emit h (AllS_allow hs : AllS P s)

theorem CleanP_discardTag (h : CleanP P m) : CleanP P (discardTag m) :=
  ⟨AllS_nil _, (fun _ hh => nomatch hh), h.attrName, h.attrValue, h.comment, h.doctype, h.piTarget, h.piData, h.out⟩
theorem CleanP_createTag (h : CleanP P m) (k : TagKind) {c : Char} (hc : QC c) : CleanP P (createTag k c m) :=
  ⟨AllS_snoc (AllS_nil _) hc, (fun _ hh => nomatch hh), h.attrName, h.attrValue, h.comment, h.doctype,
    h.piTarget, h.piData, h.out⟩
theorem CleanP_createPi (h : CleanP P m) {c : Char} (hc : QC c) : CleanP P (createPi c m) :=
  ⟨h.tagName, h.tagAttrs, h.attrName, h.attrValue, h.comment, h.doctype, AllS_single hc, AllS_nil _, h.out⟩
theorem CleanP_pushTag (h : CleanP P m) {c : Char} (hc : QC c) : CleanP P (pushTag c m) :=
  ⟨AllS_snoc h.tagName hc, h.tagAttrs, h.attrName, h.attrValue, h.comment, h.doctype, h.piTarget, h.piData, h.out⟩
theorem CleanP_pushPiTarget (h : CleanP P m) {c : Char} (hc : QC c) : CleanP P (pushPiTarget c m) :=
  ⟨h.tagName, h.tagAttrs, h.attrName, h.attrValue, h.comment, h.doctype, AllS_snoc h.piTarget hc, h.piData, h.out⟩
theorem CleanP_pushPiData (h : CleanP P m) {c : Char} (hc : QC c) : CleanP P (pushPiData c m) :=
  ⟨h.tagName, h.tagAttrs, h.attrName, h.attrValue, h.comment, h.doctype, h.piTarget, AllS_snoc h.piData hc, h.out⟩
theorem CleanP_pushName (h : CleanP P m) {c : Char} (hc : QC c) : CleanP P (pushName c m) :=
  ⟨h.tagName, h.tagAttrs, AllS_snoc h.attrName hc, h.attrValue, h.comment, h.doctype, h.piTarget, h.piData, h.out⟩
/-- `push_value` of any `P` character -/
theorem CleanP_pushValue' (h : CleanP P m) {c : Char} (hc : P c) : CleanP P (pushValue c m) :=
  ⟨h.tagName, h.tagAttrs, h.attrName, AllS_snoc h.attrValue hc, h.comment, h.doctype, h.piTarget, h.piData, h.out⟩
theorem CleanP_pushValue [Allow P] (h : CleanP P m) {c : Char} (hc : QC c) : CleanP P (pushValue c m) :=
  CleanP_pushValue' h (Allow.of_qc c hc)
theorem CleanP_appendValue [Allow P] (h : CleanP P m) {s : Str} (hs : AllS QC s) : CleanP P (appendValue s m) :=
  ⟨h.tagName, h.tagAttrs, h.attrName, AllS_append h.attrValue (AllS_allow hs), h.comment, h.doctype, h.piTarget,
    h.piData, h.out⟩
theorem CleanP_pushComment (h : CleanP P m) {c : Char} (hc : QC c) : CleanP P (pushComment c m) :=
  ⟨h.tagName, h.tagAttrs, h.attrName, h.attrValue, AllS_snoc h.comment hc, h.doctype, h.piTarget, h.piData, h.out⟩
theorem CleanP_appendComment (h : CleanP P m) {s : String} (hs : AllS QC s.toList) : CleanP P (appendComment s m) :=
  ⟨h.tagName, h.tagAttrs, h.attrName, h.attrValue, AllS_append h.comment hs, h.doctype, h.piTarget, h.piData, h.out⟩
theorem CleanP_clearComment (h : CleanP P m) : CleanP P (clearComment m) :=
  ⟨h.tagName, h.tagAttrs, h.attrName, h.attrValue, AllS_nil _, h.doctype, h.piTarget, h.piData, h.out⟩
theorem CleanP_emitComment (h : CleanP P m) : CleanP P (emitComment m) :=
  ⟨h.tagName, h.tagAttrs, h.attrName, h.attrValue, AllS_nil _, h.doctype, h.piTarget, h.piData,
    OutClean_cons (t := .comment m.comment) h.comment h.out⟩

theorem Doctype_clean_empty : ({} : Doctype).Clean := ⟨OptS_none, OptS_none, OptS_none⟩
theorem OptS_optPush {o : Option Str} (h : OptS o) {c : Char} (hc : QC c) : OptS (optPush o c) := by
  unfold optPush
  cases o with
  | none => exact OptS_some (AllS_single hc)
  | some s => exact OptS_some (AllS_snoc (h s rfl) hc)

theorem CleanP_createDoctype (h : CleanP P m) : CleanP P (createDoctype m) :=
  ⟨h.tagName, h.tagAttrs, h.attrName, h.attrValue, h.comment, Doctype_clean_empty, h.piTarget, h.piData, h.out⟩
theorem CleanP_pushDoctypeName (h : CleanP P m) {c : Char} (hc : QC c) : CleanP P (pushDoctypeName c m) :=
  ⟨h.tagName, h.tagAttrs, h.attrName, h.attrValue, h.comment,
    ⟨OptS_optPush h.doctype.1 hc, h.doctype.2.1, h.doctype.2.2⟩, h.piTarget, h.piData, h.out⟩
theorem CleanP_pushDoctypeId (h : CleanP P m) (k : DoctypeKind) {c : Char} (hc : QC c) :
    CleanP P (pushDoctypeId k c m) := by
  cases k
  · exact ⟨h.tagName, h.tagAttrs, h.attrName, h.attrValue, h.comment,
      ⟨h.doctype.1, OptS_optPush h.doctype.2.1 hc, h.doctype.2.2⟩, h.piTarget, h.piData, h.out⟩
  · exact ⟨h.tagName, h.tagAttrs, h.attrName, h.attrValue, h.comment,
      ⟨h.doctype.1, h.doctype.2.1, OptS_optPush h.doctype.2.2 hc⟩, h.piTarget, h.piData, h.out⟩
theorem CleanP_clearDoctypeId (h : CleanP P m) (k : DoctypeKind) : CleanP P (clearDoctypeId k m) := by
  cases k
  · exact ⟨h.tagName, h.tagAttrs, h.attrName, h.attrValue, h.comment,
      ⟨h.doctype.1, OptS_some (AllS_nil _), h.doctype.2.2⟩, h.piTarget, h.piData, h.out⟩
  · exact ⟨h.tagName, h.tagAttrs, h.attrName, h.attrValue, h.comment,
      ⟨h.doctype.1, h.doctype.2.1, OptS_some (AllS_nil _)⟩, h.piTarget, h.piData, h.out⟩
theorem CleanP_emitDoctype (h : CleanP P m) : CleanP P (emitDoctype m) :=
  ⟨h.tagName, h.tagAttrs, h.attrName, h.attrValue, h.comment, Doctype_clean_empty, h.piTarget, h.piData,
    OutClean_cons (t := .doctype m.doctype) h.doctype h.out⟩
theorem CleanP_emitPi (h : CleanP P m) : CleanP P (emitPi m) :=
  ⟨h.tagName, h.tagAttrs, h.attrName, h.attrValue, h.comment, h.doctype, AllS_nil _, AllS_nil _,
    OutClean_cons (t := .pi m.piTarget m.piData) ⟨h.piTarget, h.piData⟩ h.out⟩

theorem CleanP_finishAttribute (h : CleanP P m) : CleanP P (finishAttribute m) := by
  unfold finishAttribute
  dsimp only
  have ha : (⟨processQName m.attrName, m.attrValue⟩ : Attr).Clean P :=
    ⟨processQName_clean h.attrName, h.attrValue⟩
  repeat' split
  · exact h
  · exact ⟨h.tagName, h.tagAttrs, AllS_nil _, AllS_nil _, h.comment, h.doctype, h.piTarget, h.piData,
      OutClean_cons (t := .error _) trivial h.out⟩
  · refine ⟨h.tagName, ?_, AllS_nil _, AllS_nil _, h.comment, h.doctype, h.piTarget, h.piData, h.out⟩
    intro a hm
    rcases List.mem_cons.1 hm with e | e
    · subst e; exact ha
    · exact h.tagAttrs a e
  · refine ⟨h.tagName, ?_, AllS_nil _, AllS_nil _, h.comment, h.doctype, h.piTarget, h.piData, h.out⟩
    intro a hm
    rcases List.mem_append.1 hm with e | e
    · exact h.tagAttrs a e
    · simp only [List.mem_singleton] at e; subst e; exact ha

theorem CleanP_createAttr (h : CleanP P m) {c : Char} (hc : QC c) : CleanP P (createAttr c m) := by
  have h1 := CleanP_finishAttribute h
  unfold createAttr
  dsimp only
  generalize finishAttribute m = x at h1
  exact ⟨h1.tagName, h1.tagAttrs, AllS_snoc h1.attrName hc, h1.attrValue, h1.comment, h1.doctype, h1.piTarget,
    h1.piData, h1.out⟩

theorem CleanP_emitCurrentTag (h : CleanP P m) : CleanP P (emitCurrentTag m) := by
  have h1 := CleanP_finishAttribute h
  unfold emitCurrentTag
  dsimp only
  generalize finishAttribute m = x at h1
  have hq := processQName_clean h1.tagName
  have ht : ∀ k, (Token.tag { kind := k, name := processQName x.tagName, attrs := x.tagAttrs }).Clean P :=
    fun _ => ⟨hq, h1.tagAttrs⟩
  repeat' split
  all_goals
    first
    | exact ⟨AllS_nil _, (fun _ hh => nomatch hh), h1.attrName, h1.attrValue, h1.comment, h1.doctype, h1.piTarget,
        h1.piData, OutClean_cons (ht _) h1.out⟩
    | exact ⟨AllS_nil _, (fun _ hh => nomatch hh), h1.attrName, h1.attrValue, h1.comment, h1.doctype, h1.piTarget,
        h1.piData, OutClean_cons (ht _) (OutClean_cons (t := .error _) trivial h1.out)⟩

theorem CleanP_emitTag (h : CleanP P m) (s : State) : CleanP P (emitTag s m) := by
  unfold emitTag; exact CleanP_emitCurrentTag (CleanP_to h s)
theorem CleanP_emitShortTag (h : CleanP P m) (s : State) : CleanP P (emitShortTag s m) := by
  unfold emitShortTag; dsimp only; apply CleanP_emitCurrentTag
  exact ⟨AllS_nil _, h.tagAttrs, h.attrName, h.attrValue, h.comment, h.doctype, h.piTarget, h.piData, h.out⟩
theorem CleanP_emitEmptyTag (h : CleanP P m) (s : State) : CleanP P (emitEmptyTag s m) := by
  unfold emitEmptyTag; dsimp only; apply CleanP_emitCurrentTag; cl_same h
theorem CleanP_emitStartTag (h : CleanP P m) (s : State) : CleanP P (emitStartTag s m) := by
  unfold emitStartTag; dsimp only; apply CleanP_emitCurrentTag; cl_same h

end helpers

/-- close a table arm: the helper lemmas as conditional rewrite rules, found by head symbol; side
conditions are `QC` of the character read (a hypothesis), of its lower-case form, or of a literal -/
macro "cl_chain" : tactic =>
  `(tactic| simp (maxDischargeDepth := 8) (decide := true) only [*, CleanP_emitTag, CleanP_emitShortTag,
      CleanP_emitEmptyTag, CleanP_emitStartTag, CleanP_to, CleanP_reconsumeTo, CleanP_createTag, CleanP_createPi,
      CleanP_pushTag, CleanP_pushPiTarget, CleanP_pushPiData, CleanP_setEmptyTag, CleanP_createAttr,
      CleanP_pushName, CleanP_pushValue, CleanP_appendValue, CleanP_pushComment, CleanP_appendComment,
      CleanP_clearComment, CleanP_createDoctype, CleanP_pushDoctypeName, CleanP_pushDoctypeId,
      CleanP_clearDoctypeId, CleanP_consumeCharRef, CleanP_emitChar, CleanP_emitChars, CleanP_badChar,
      CleanP_badEof, CleanP_emitErr, CleanP_emitComment, CleanP_emitDoctype, CleanP_emitPi, CleanP_emit,
      CleanP_emitEof, QC_lower])

/-! ### the transition tables -/

/-- what `pop_except_from` hands to the table -/
def SetRes.Clean : SetRes → Prop
  | .fromSet c => QC c
  | .notFromSet b => AllS QC b

/-- the `get_char!` table: fed a preprocessed character it keeps the machine clean -/
theorem transChar_clean {P : Char → Prop} [Allow P] (o : Opts) {m : Mach} (h : CleanP P m) {c : Char}
    (hc : QC c) : CleanP P (transChar o m c).1 := by
  unfold transChar
  split <;> (repeat' with_reducible refine ite_ind (P := fun x : Mach × Sig => CleanP P x.1) ?_ ?_) <;> cl_chain

/-- the `pop_except_from` table -/
theorem transSet_clean {P : Char → Prop} [Allow P] {m : Mach} (h : CleanP P m) {r : SetRes}
    (hr : r.Clean) : CleanP P (transSet m r).1 := by
  cases r with
  | fromSet c =>
    have hc : QC c := hr
    unfold transSet
    split <;> (repeat' split) <;> (try dsimp only) <;> (try injections) <;>
      (try subst_vars) <;> cl_chain
  | notFromSet b =>
    have hb : AllS QC b := hr
    unfold transSet
    split <;> (repeat' split) <;> (try dsimp only) <;> (try injections) <;>
      (try subst_vars) <;> cl_chain

/-- the `eof_step` table -/
theorem transEof_clean {P : Char → Prop} [Allow P] (o : Opts) {m : Mach} (h : CleanP P m) :
    CleanP P (transEof o m).1 := by
  unfold transEof
  split <;> cl_chain

end H5V.Model.XmlTok
