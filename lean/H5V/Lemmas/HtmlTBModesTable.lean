import H5V.Lemmas.HtmlTBModesBodyNav
/-!
The table family of insertion modes: the bridge from `byModeDev`, foster parenting ("process the token using
the rules for in body with foster parenting enabled") for non-character tokens, and the rule function
`stepInTable`.
-/
namespace H5V.Lemmas.HtmlTBModes
open H5V.Model.HtmlTB
open H5V.Model.Dom (Id SinkOp Output Dom QualName Attr NodeOrText ElementFlags NodeData QuirksMode)
open H5V.Lemmas.HtmlTBAlgo
open H5V.Lemmas.TBSafe (TI HInv SInv Rooted)
open H5V.Spec.TreeAlgo2 (Elem Entry PState Ctx Edit Place)
open H5V.Spec.TreeModes (STok ETok IMode Config Out TokSwitch XOp Op Step Edition)

/-! ### the bridge: `byModeDev` in the table modes -/

section Bridge
variable {cfg : Config Id} {σ : SState}

theorem tbl_isCharacter_stokOf {tok : Token} (h : isCharsTok tok = false) (hn : tok ≠ .nullChar) :
    isCharacter (stokOf tok) = false := by
  cases tok with
  | chars _ _ => cases h
  | nullChar => exact absurd rfl hn
  | tag t => simp only [stokOf, stokOfTag]; split <;> rfl
  | comment _ => rfl
  | eof => rfl

theorem tbl_isDoctype_stokOf (tok : Token) : isDoctype (stokOf tok) = false := isDoctype_stokOf tok

theorem byModeDev_inTable (h : σ.mode = .inTable) (tok : STok) :
    byModeDev cfg σ tok = Spec.TreeModes.inTable cfg σ tok := by
  rw [byModeDev_eq cfg σ tok (cellAssertFails_of_mode _ _ (by rw [h]; decide))]
  simp only [Spec.TreeModes.byMode, h]

theorem byModeDev_inTableBody (h : σ.mode = .inTableBody) (tok : STok) :
    byModeDev cfg σ tok = Spec.TreeModes.inTableBody cfg σ tok := by
  rw [byModeDev_eq cfg σ tok (cellAssertFails_of_mode _ _ (by rw [h]; decide))]
  simp only [Spec.TreeModes.byMode, h]

theorem byModeDev_inRow (h : σ.mode = .inRow) (tok : STok) :
    byModeDev cfg σ tok = Spec.TreeModes.inRow cfg σ tok := by
  rw [byModeDev_eq cfg σ tok (cellAssertFails_of_mode _ _ (by rw [h]; decide))]
  simp only [Spec.TreeModes.byMode, h]

/-- a character token in "in table body" falls back to "in table" -/
theorem byModeDev_inTableBody_char (h : σ.mode = .inTableBody) (c : Char) :
    byModeDev cfg σ (.character c) = Spec.TreeModes.inTable cfg σ (.character c) := by
  rw [byModeDev_inTableBody h]
  simp only [Spec.TreeModes.inTableBody]

/-- a character token in "in row" falls back to "in table" -/
theorem byModeDev_inRow_char (h : σ.mode = .inRow) (c : Char) :
    byModeDev cfg σ (.character c) = Spec.TreeModes.inTable cfg σ (.character c) := by
  rw [byModeDev_inRow h]
  simp only [Spec.TreeModes.inRow]

theorem byModeDev_inCaption (h : σ.mode = .inCaption) (tok : STok) :
    byModeDev cfg σ tok = Spec.TreeModes.inCaption cfg σ tok := by
  rw [byModeDev_eq cfg σ tok (cellAssertFails_of_mode _ _ (by rw [h]; decide))]
  simp only [Spec.TreeModes.byMode, h]

theorem byModeDev_inColumnGroup (h : σ.mode = .inColumnGroup) (tok : STok) :
    byModeDev cfg σ tok = Spec.TreeModes.inColumnGroup cfg σ tok := by
  rw [byModeDev_eq cfg σ tok (cellAssertFails_of_mode _ _ (by rw [h]; decide))]
  simp only [Spec.TreeModes.byMode, h]

theorem byModeDev_inCell (h : σ.mode = .inCell) (tok : STok) (hc : cellAssertFails σ tok = false) :
    byModeDev cfg σ tok = Spec.TreeModes.inCell cfg σ tok := by
  rw [byModeDev_eq cfg σ tok hc]
  simp only [Spec.TreeModes.byMode, h]

/-- the asserted-impossible case of "in cell" (first clause of `byModeDev`) -/
theorem byModeDev_inCell_assert (_h : σ.mode = .inCell) (tok : STok) (hc : cellAssertFails σ tok = true) :
    byModeDev cfg σ tok
      = pure (.done (σ.err "in cell: no cell in table scope (asserted impossible)")) := by
  simp only [byModeDev, hc, if_true]

theorem byModeDev_inTableText (h : σ.mode = .inTableText) (tok : STok) :
    byModeDev cfg σ tok = Spec.TreeModes.inTableText cfg σ tok := by
  rw [byModeDev_eq cfg σ tok (cellAssertFails_of_mode _ _ (by rw [h]; decide))]
  simp only [Spec.TreeModes.byMode, h]

/-- a character token in "in table", current node one of the six: switch to "in table text" -/
theorem inTable_char_text (c : Char) (h : σ.curIn ["table", "tbody", "template", "tfoot", "thead", "tr"] = true) :
    Spec.TreeModes.inTable cfg σ (.character c)
      = pure (.reprocess { σ with pendingTableChars := [], originalMode := σ.mode, mode := .inTableText }) := by
  simp only [Spec.TreeModes.inTable, h, if_true]

/-- a character token in "in table", current node none of the six: foster parenting -/
theorem inTable_char_foster (c : Char) (h : σ.curIn ["table", "tbody", "template", "tfoot", "thead", "tr"] = false) :
    Spec.TreeModes.inTable cfg σ (.character c) = Spec.TreeModes.inTableAnythingElse cfg σ (.character c) := by
  simp only [Spec.TreeModes.inTable, h, Bool.false_eq_true, if_false]

end Bridge

/-! ### foster parenting, non-character tokens -/

/-- one more parse error of the specification -/
theorem tbl_tr_err {s : State} (hm : MInv s) (w : String) :
    Tr s s [] (fun x x' => x' = { x with errors := x.errors ++ [w] }) :=
  (Tr.refl hm).reaux (fun _ x' => { x' with errors := x'.errors ++ [w] })
    (fun _ _ => ⟨⟨rfl, rfl, rfl, rfl, rfl⟩, rfl, rfl, rfl⟩)
    (fun x x' _ _ h => by subst h; rfl)

/-- `{ s with fosterParenting := b }` -/
theorem tbl_tr_setFoster {s : State} (hm : MInv s) (b : Bool) :
    Tr s { s with fosterParenting := b } []
      (fun x x' => x' = x ∧ absF { s with fosterParenting := b } x = (absF s x).setFoster b) :=
  (Tr.of_upd (s' := { s with fosterParenting := b }) hm rfl (fun _ h => h)
    (MInv.of_fields hm (TBSafe.Ext.refl _) rfl rfl rfl rfl rfl) rfl).conseq
    fun _ _ _ _ h => ⟨h, rfl⟩

theorem tbl_stepOf_foster (res : ProcessResult) (s2 : State) (x2 : Aux) :
    (stepOf res s2 x2).map (fun σ => σ.setFoster false) = stepOf res { s2 with fosterParenting := false } x2 := by
  cases res <;> rfl

/-- **"anything else" of "in table"** on a non-character token: after a stretch `h0` that only reported
a parse error, `foster_parent_in_body(token)` -/
theorem tbl_pc_foster (hbody : StepSimTok stepInBody Spec.TreeModes.inBody) {tok : Token} (hch : isCharsTok tok = false)
    (hwf : TokWf tok) (hne : tok ≠ .eof) {s s0 : State} {c0 : List Call}
    (h0 : Tr s s0 c0 (fun x x' => x' = x ∧ absF s x = absF s0 x)) :
    PC (fosterParentInBody tok) s0 (fun res s' c =>
      TokPost (fun σ => Spec.TreeModes.inTableAnythingElse (cfgOf s) σ (stokOf tok)) s tok res s' (c0 ++ c)) := by
  have hm0 : MInv s0 := h0.1
  have hc0 : cfgOf s0 = cfgOf s := h0.2.1
  unfold fosterParentInBody
  refine pc_seq (pc_modS (Q := fun _ s1 c => s1 = { s0 with fosterParenting := true } ∧ c = []) rfl rfl ⟨rfl, rfl⟩) ?_
  rintro _ s1 c1 _ ⟨rfl, rfl⟩
  have htr1 := tbl_tr_setFoster hm0 true
  refine pc_seq (hbody tok hch hwf _ htr1.1) ?_
  intro res s2 c2 he2 hp
  refine pc_seq (pc_modS (Q := fun _ s3 c => s3 = { s2 with fosterParenting := false } ∧ c = []) rfl rfl ⟨rfl, rfl⟩) ?_
  rintro _ s3 c3 _ ⟨rfl, rfl⟩
  refine pc_pure ?_
  have key := tokPost_inner (spec := fun σ => Spec.TreeModes.inTableAnythingElse (cfgOf s) σ (stokOf tok))
    (F := fun σ => σ.setFoster false) hne
    ((h0.trans htr1).trans (tbl_tr_err htr1.1 "in table: foster parenting")) he2 hp
    (fun hm2 => tbl_tr_setFoster hm2 false) ?_
  · simpa only [List.append_nil, List.nil_append] using key
  · rintro x x1 x2 hx hx1 ⟨xa, ⟨xb, ⟨hxb, e0⟩, hxa, e1⟩, hx1e⟩ hx2 e2 e3
    subst hxb
    subst hxa
    subst hx1e
    have e2' : Spec.TreeModes.inBody (cfgOf s) (((absF s xa).err "in table: foster parenting").setFoster true) (stokOf tok)
        = .ok (stepOf res s2 x2) := by
      rw [← e2, e0]
      show _ = Spec.TreeModes.inBody (cfgOf s0) _ _
      rw [hc0]
      rfl
    simp only [Spec.TreeModes.inTableAnythingElse, e2']
    show Except.ok ((stepOf res s2 x2).map fun σ => σ.setFoster false) = _
    rw [tbl_stepOf_foster]

/-! ### ends of arms shared by the table modes -/

/-- the abstract state after a switch of the insertion mode (not to "in table text"), the junk
pending table text kept -/
theorem tbl_absF_setMode (s : State) (x : Aux) (m : Mode) (hne : m ≠ .inTableText) :
    absF { s with mode := m } { x with pendingJunk := (absF s x).pendingTableChars } = (absF s x).setMode (imode m) := by
  have : (m == Mode.inTableText) = false := by
    cases m <;> first | rfl | exact absurd rfl hne
  simp only [absF, absP, this, Bool.false_eq_true, if_false, Spec.TreeModes.State.setMode]

/-- "… Insert an HTML element for the token, then switch the insertion mode to `m`." after a stretch
`h0` that prepared the stack / the list -/
theorem tbl_pc_insertSetMode {s s0 : State} {c0 : List Call} {F : SState → SState}
    (h0 : Tr s s0 c0 (fun x x' => x' = x ∧ absF s0 x = F (absF s x))) {t : Tag} (hp : PlainTag t) (m : Mode)
    (hne : m ≠ .inTableText) (tok : Token) :
    PC (insertElementFor t >>= fun _ => setMode m >>= fun _ => pure ProcessResult.done) s0 (fun res s' c =>
      TokPost (fun σ => do
        let σ1 ← Spec.TreeModes.insertHtml' (F σ) (specTag t)
        pure (Step.done (σ1.setMode (imode m)))) s tok res s' (c0 ++ c)) := by
  refine pc_seq (pc_insertElementFor' h0.1 hp) ?_
  rintro a s1 c1 _ ⟨-, -, -, -, -, htr1⟩
  refine pc_seq (pc_setMode htr1.1 m) ?_
  rintro _ s2 c2 _ ⟨rfl, htr2⟩
  refine pc_pure ?_
  rw [List.append_nil, ← List.append_assoc]
  refine tokPost_of_tr ((h0.trans htr1).trans htr2) trivial ?_
  rintro x x2 hx hx2 ⟨x1, ⟨x0, ⟨hx0, e0⟩, e1⟩, hx2e⟩
  subst x0
  subst x2
  refine ⟨{ x1 with pendingJunk := (absF s1 x1).pendingTableChars }, ?_, ⟨rfl, rfl, rfl, rfl, rfl⟩, Or.inl rfl, rfl, rfl⟩
  rw [← e0, e1]
  simp only [stepOf]
  rw [tbl_absF_setMode _ _ _ hne]
  rfl

/-- "… Insert an HTML element for a `name` start tag token with no attributes, then switch the
insertion mode to `m`.  Reprocess the current token." -/
theorem tbl_pc_phantomReprocessG {s s0 : State} {c0 : List Call} {F : SState → SState}
    (h0 : Tr s s0 c0 (fun x x0 => absF s0 x0 = F (absF s x))) (name : String) (m : Mode)
    (hne : m ≠ .inTableText) (tok : Token) :
    PC (insertPhantom name >>= fun _ => pure (ProcessResult.reprocess m tok)) s0 (fun res s' c =>
      TokPost (fun σ => do
        let σ1 ← Spec.TreeModes.insertHtml' (F σ) (Spec.TreeModes.bareTag name)
        pure (Step.reprocess (σ1.setMode (imode m)))) s tok res s' (c0 ++ c)) := by
  refine pc_seq (pc_insertPhantom' h0.1 name) ?_
  rintro a s1 c1 _ ⟨-, -, -, -, -, htr1⟩
  refine pc_pure ?_
  rw [List.append_nil]
  refine tokPost_of_tr (h0.trans htr1) rfl ?_
  rintro x x1 hx hx1 ⟨x0, e0, e1⟩
  refine ⟨{ x1 with pendingJunk := (absF s1 x1).pendingTableChars }, ?_, ⟨rfl, rfl, rfl, rfl, rfl⟩, Or.inl rfl, rfl, rfl⟩
  rw [← e0, e1]
  simp only [stepOf, applyRes]
  rw [tbl_absF_setMode _ _ _ hne]
  rfl

theorem tbl_pc_phantomReprocess {s s0 : State} {c0 : List Call} {F : SState → SState}
    (h0 : Tr s s0 c0 (fun x x' => x' = x ∧ absF s0 x = F (absF s x))) (name : String) (m : Mode)
    (hne : m ≠ .inTableText) (tok : Token) :
    PC (insertPhantom name >>= fun _ => pure (ProcessResult.reprocess m tok)) s0 (fun res s' c =>
      TokPost (fun σ => do
        let σ1 ← Spec.TreeModes.insertHtml' (F σ) (Spec.TreeModes.bareTag name)
        pure (Step.reprocess (σ1.setMode (imode m)))) s tok res s' (c0 ++ c)) :=
  tbl_pc_phantomReprocessG (h0.conseq fun _ _ _ _ ⟨e, h⟩ => e ▸ h) name m hne tok

/-! ### `stepInTable` -/

/-- no template insertion mode is "in table text" -/
theorem tbl_htm {s : State} (hm : MInv s) : s.templateModes.getLast? ≠ some .inTableText :=
  fun h => hm.tmodes _ (List.mem_of_getLast? h) rfl

/-- a stretch that keeps the insertion mode and the stack of template insertion modes of the abstract
state keeps them in the model -/
theorem tbl_tr_fields {s s' : State} {c : List Call} {R : Aux → Aux → Prop} (hm : MInv s) (h : Tr s s' c R)
    (hR : ∀ x x', AuxOk s x → AuxOk s' x' → R x x' → (absF s' x').mode = (absF s x).mode ∧
      (absF s' x').templateModes = (absF s x).templateModes) :
    s'.mode = s.mode ∧ s'.templateModes = s.templateModes := by
  obtain ⟨hm', -, -, ids, hfi, f⟩ := h
  obtain ⟨x, hx, hsup⟩ := auxOk_exists hm ids
  obtain ⟨x', l, r⟩ := f x [] hx (by simp [hsup])
  obtain ⟨h1, h2⟩ := hR x x' hx l.aux r
  exact ⟨imode_inj h1, (List.map_inj_right (fun a b => imode_inj)).mp h2⟩

/-- `pop_until_named(name)`, with the frame -/
theorem tbl_pc_popUntilNamed {s : State} (hm : MInv s) (name : String) :
    PC (popUntilNamed name) s (fun _ s' calls => s'.mode = s.mode ∧ s'.templateModes = s.templateModes ∧
      Tr s s' calls (fun x x' => x' = x ∧ absF s' x = Spec.TreeModes.popUntilPopped (absF s x) name)) := by
  refine pc_conseq (pc_popUntilNamed hm name) ?_
  rintro _ s' calls _ htr
  have hf := tbl_tr_fields hm htr (by
    rintro x x' _ _ ⟨hx, e, -⟩
    subst x'
    rw [e]
    exact ⟨rfl, rfl⟩)
  exact ⟨hf.1, hf.2, htr.conseq fun _ _ _ _ ⟨h1, h2, _⟩ => ⟨h1, h2⟩⟩

/-- a query, with the frame -/
theorem tbl_tr_query_fields {s s' : State} {c : List Call} {P : Aux → Prop} (hm : MInv s)
    (h : Tr s s' c (fun x x' => x' = x ∧ absF s x = absF s' x ∧ P x)) :
    s'.mode = s.mode ∧ s'.templateModes = s.templateModes :=
  tbl_tr_fields hm h (by
    rintro x x' _ _ ⟨hx, e, -⟩
    subst x'
    rw [← e]
    exact ⟨rfl, rfl⟩)

theorem tbl_tr_same_fields {s s' : State} {c : List Call} (hm : MInv s)
    (h : Tr s s' c (fun x x' => x' = x ∧ absF s x = absF s' x)) :
    s'.mode = s.mode ∧ s'.templateModes = s.templateModes :=
  tbl_tr_fields hm h (by
    rintro x x' _ _ ⟨hx, e⟩
    subst x'
    rw [← e]
    exact ⟨rfl, rfl⟩)

/-- `unexpected`, the parse error of the specification reported first -/
theorem tbl_pc_unexpected_err {s : State} (hm : MInv s) (w : String) :
    PC unexpected s (fun r s' calls => r = .done ∧
      Tr s s' calls (fun x x' => x' = { x with errors := x.errors ++ [w] } ∧ (absF s x).err w = absF s' x')) := by
  refine pc_conseq (pc_unexpected hm) ?_
  rintro r s' calls _ ⟨hr, htr⟩
  refine ⟨hr, ((tbl_tr_err hm w).trans htr).conseq ?_⟩
  rintro x x' _ _ ⟨x1, hx1, hx', e⟩
  subst x'
  subst x1
  exact ⟨rfl, e⟩

theorem tbl_find_type : ∀ (l : List Attr), (∀ a ∈ l, HtmlTBSpec.Plain a) →
    ((l.map (fun a => (⟨a.name.loc, a.value⟩ : Spec.TreeModes.Attr))).find? (fun a => a.name == "type".toList)).map (·.value)
      = (l.find? (fun a => a.name.ns == [] && isName a.name.loc "type")).map (·.value) := by
  intro l
  induction l with
  | nil => intro _; rfl
  | cons a r ih =>
    intro hp
    have ha : a.name.ns = [] := by
      have := hp a List.mem_cons_self
      unfold HtmlTBSpec.Plain at this
      rw [this]; rfl
    have e1 : ((⟨a.name.loc, a.value⟩ : Spec.TreeModes.Attr).name == "type".toList) = decide (a.name.loc = "type".toList) :=
      beq_str _ _
    have e2 : (a.name.ns == [] && isName a.name.loc "type") = decide (a.name.loc = "type".toList) := by
      rw [ha, isName_eq]; rfl
    rw [List.map_cons, List.find?_cons, List.find?_cons, e1, e2]
    by_cases h : a.name.loc = "type".toList
    · have hd : decide (a.name.loc = "type".toList) = true := decide_eq_true h
      rw [hd]
      rfl
    · have hd : decide (a.name.loc = "type".toList) = false := decide_eq_false h
      rw [hd]
      exact ih (fun b hb => hp b (List.mem_cons_of_mem _ hb))

theorem tbl_kind_se : (H5V.Model.HtmlTok.TagKind.startTag == H5V.Model.HtmlTok.TagKind.endTag) = false := rfl
theorem tbl_kind_es : (H5V.Model.HtmlTok.TagKind.endTag == H5V.Model.HtmlTok.TagKind.startTag) = false := rfl
theorem tbl_kind_ss : (H5V.Model.HtmlTok.TagKind.startTag == H5V.Model.HtmlTok.TagKind.startTag) = true := rfl
theorem tbl_kind_ee : (H5V.Model.HtmlTok.TagKind.endTag == H5V.Model.HtmlTok.TagKind.endTag) = true := rfl

theorem tbl_isTypeHidden {t : Tag} (hp : PlainTag t) : isTypeHidden t = (specTag t).typeIsHidden := by
  unfold isTypeHidden Spec.TreeModes.Tag.typeIsHidden Spec.TreeModes.Tag.attr?
  have := tbl_find_type t.attrs hp
  simp only [specTag] at this ⊢
  rw [this]
  cases t.attrs.find? (fun a => a.name.ns == [] && isName a.name.loc "type") with
  | none => rfl
  | some a => rfl

/-- **"in table" on a tag token**: `stepInTable` and the specification's `inTable` are walked down arm by arm -/
theorem sim_inTable_tag (hhead : StepSimTok stepInHead Spec.TreeModes.inHead)
    (hbody : StepSimTok stepInBody Spec.TreeModes.inBody) (t : Tag) (hwf : TagWf t)
    (s : State) (hm : MInv s) (htm : s.templateModes.getLast? ≠ some .inTableText) :
    PC (stepInTable (.tag t)) s (TokPost (fun σ => Spec.TreeModes.inTable (cfgOf s) σ (stokOf (.tag t))) s (.tag t)) := by
  have hh := hhead (.tag t) rfl hwf s hm
  -- "anything else": parse error, then the token is processed by "in body" with foster parenting
  have helse : PC (unexpected >>= fun _ => fosterParentInBody (.tag t)) s
      (TokPost (fun σ => Spec.TreeModes.inTableAnythingElse (cfgOf s) σ (stokOf (.tag t))) s (.tag t)) := by
    refine pc_seq (pc_unexpected hm) ?_
    rintro _ s1 c1 _ ⟨-, htr1⟩
    exact tbl_pc_foster hbody (tok := .tag t) rfl hwf (by simp) htr1
  cases hk : t.kind with
  | startTag =>
    simp -zeta only [stepInTable, Spec.TreeModes.inTable, tag_chain, stokOfTag_start hk, isStart_of_start hk,
      isEnd_of_start hk, ↓reduceIte] at hh helse ⊢
    refine pc_tok_ite (fun _ => ?_) fun _ => pc_tok_ite (fun _ => ?_) fun _ => pc_tok_ite (fun _ => ?_) fun _ =>
      pc_tok_ite (fun _ => ?_) fun _ => pc_tok_ite (fun _ => ?_) fun _ => pc_tok_ite (fun _ => ?_) fun _ =>
      pc_tok_ite (fun _ => hh) fun _ => pc_tok_ite (fun _ => ?_) fun _ => pc_tok_ite (fun h9 => ?_) fun _ => helse
    · -- `caption`
      refine pc_seq (pc_popUntilCurrent_table hm) ?_
      rintro _ s1 c1 _ htr1
      refine pc_seq (pc_pushMarker htr1.1) ?_
      rintro _ s2 c2 _ ⟨-, htr2⟩
      have h0 : Tr s s2 (c1 ++ c2) (fun x x' => x' = x ∧
          absF s2 x = (fun σ => (Spec.TreeModes.clearBackToTable σ).insertMarker) (absF s x)) :=
        (htr1.trans htr2).conseq (by
          rintro x x2 _ _ ⟨x1, ⟨hx1, e1⟩, hx2, e2⟩
          subst x1; subst x2
          exact ⟨rfl, by rw [← e2, e1]⟩)
      have := tbl_pc_insertSetMode (F := fun σ => (Spec.TreeModes.clearBackToTable σ).insertMarker) h0 hwf.plain .inCaption (by decide) (.tag t)
      simp only [List.append_assoc] at this
      exact this
    · -- `colgroup`
      refine pc_seq (pc_popUntilCurrent_table hm) ?_
      rintro _ s1 c1 _ htr1
      exact tbl_pc_insertSetMode htr1 hwf.plain .inColumnGroup (by decide) (.tag t)
    · -- `col`
      refine pc_seq (pc_popUntilCurrent_table hm) ?_
      rintro _ s1 c1 _ htr1
      exact tbl_pc_phantomReprocess htr1 "colgroup" .inColumnGroup (by decide) (.tag t)
    · -- `tbody, tfoot, thead`
      refine pc_seq (pc_popUntilCurrent_table hm) ?_
      rintro _ s1 c1 _ htr1
      exact tbl_pc_insertSetMode htr1 hwf.plain .inTableBody (by decide) (.tag t)
    · -- `td, th, tr`
      refine pc_seq (pc_popUntilCurrent_table hm) ?_
      rintro _ s1 c1 _ htr1
      exact tbl_pc_phantomReprocess htr1 "tbody" .inTableBody (by decide) (.tag t)
    · -- `table`
      refine pc_seq (tbl_pc_unexpected_err hm "in table: table start tag") ?_
      rintro _ s1 c1 _ ⟨-, htr1⟩
      refine pc_seq (pc_inScopeNamed_table htr1.1 "table") ?_
      rintro b s2 c2 _ htr2
      have hf1 := tbl_tr_fields hm htr1 (by rintro x x' _ _ ⟨_, e⟩; rw [← e]; exact ⟨rfl, rfl⟩)
      have hf2 := tbl_tr_query_fields htr1.1 htr2
      cases b with
      | false =>
        simp only [Bool.false_eq_true, if_false]
        refine pc_pure ?_
        rw [List.append_nil]
        refine tokPost_of_tr (htr1.trans htr2) trivial ?_
        rintro x x2 hx hx2 ⟨x1, ⟨hx1, e1⟩, hx2e, e2, hb⟩
        subst x2
        refine ⟨x1, ?_, AuxSame.rfl', Or.inl rfl, rfl, rfl⟩
        rw [e1, ← hb]
        simp only [Bool.not_false, if_true, stepOf, e2]
        rfl
      | true =>
        simp only [if_true]
        refine pc_seq (tbl_pc_popUntilNamed htr2.1 "table") ?_
        rintro _ s3 c3 _ ⟨hm3, ht3, htr3⟩
        refine pc_seq (pc_resetInsertionMode htr3.1) ?_
        rintro m s4 c4 _ ⟨hs4, hmt, htr4⟩
        refine pc_pure ?_
        have hne : m ≠ .inTableText := fun h => htm (by rw [← hf1.2, ← hf2.2, ← ht3]; exact hmt h)
        have hcfg : cfgOf s3 = cfgOf s := ((htr1.trans htr2).trans htr3).2.1
        rw [List.append_nil, ← List.append_assoc, ← List.append_assoc]
        refine tokPost_of_tr (((htr1.trans htr2).trans htr3).trans htr4) rfl ?_
        rintro x x4 hx hx4 ⟨x3, ⟨x2, ⟨x1, ⟨hx1, e1⟩, hx2, e2, hb⟩, hx3, e3⟩, hx4e, e4, r4⟩
        subst x4
        subst x3
        subst x2
        refine ⟨{ x1 with pendingJunk := (absF s4 x1).pendingTableChars }, ?_, ⟨rfl, rfl, rfl, rfl, rfl⟩, Or.inl rfl, rfl, rfl⟩
        rw [e1, ← hb]
        simp only [Bool.not_true, Bool.false_eq_true, if_false, stepOf, applyRes]
        rw [e2, ← e3, ← hcfg, r4, tbl_absF_setMode _ _ _ hne, ← e4]
        rfl
    · -- `input`
      cases hh : isTypeHidden t with
      | false =>
        have hh' : (specTag t).typeIsHidden = false := by rw [← tbl_isTypeHidden hwf.plain]; exact hh
        simp only [hh', Bool.not_false, if_true, Bool.false_eq_true, if_false]
        refine pc_seq (pc_unexpected hm) ?_
        rintro _ s1 c1 _ ⟨-, htr1⟩
        refine pc_conseq (tbl_pc_foster hbody (tok := .tag t) rfl hwf (by simp) htr1) ?_
        intro res s' c _ hp
        refine tokPost_congr hp ?_
        intro x hx
        simp only [stokOf, stokOfTag_start hk]
      | true =>
        have hh' : (specTag t).typeIsHidden = true := by rw [← tbl_isTypeHidden hwf.plain]; exact hh
        simp only [hh', Bool.not_true, if_true, Bool.false_eq_true, if_false]
        refine pc_seq (tbl_pc_unexpected_err hm "in table: input type=hidden") ?_
        rintro _ s1 c1 _ ⟨-, htr1⟩
        refine pc_seq (pc_insertVoid htr1.1 hwf.plain) ?_
        rintro a s2 c2 _ ⟨-, -, -, -, -, htr2⟩
        refine pc_pure ?_
        rw [List.append_nil]
        refine tokPost_of_tr (htr1.trans htr2) trivial ?_
        rintro x x2 hx hx2 ⟨x1, ⟨hx1, e1⟩, e2⟩
        refine ⟨x2, ?_, AuxSame.rfl', Or.inl rfl, rfl, rfl⟩
        rw [e1, e2]
        rfl
    · -- `form`
      refine pc_seq (tbl_pc_unexpected_err hm "in table: form start tag") ?_
      rintro _ s1 c1 _ ⟨-, htr1⟩
      refine pc_seq (pc_inHtmlElemNamed_template htr1.1) ?_
      rintro b s2 c2 _ htr2
      cases b with
      | true =>
        simp only [if_true, pure_bind, Bool.false_eq_true, if_false]
        refine pc_pure ?_
        rw [List.append_nil]
        refine tokPost_of_tr (htr1.trans htr2) trivial ?_
        rintro x x2 hx hx2 ⟨x1, ⟨hx1, e1⟩, hx2e, e2, hb⟩
        subst x2
        refine ⟨x1, ?_, AuxSame.rfl', Or.inl rfl, rfl, rfl⟩
        rw [e1, ← hb]
        simp only [Bool.true_or, if_true, stepOf, e2]
        rfl
      | false =>
        simp only [Bool.false_eq_true, if_false]
        refine pc_getS_bind ?_
        simp only [pure_bind]
        cases hfe : s2.formElem with
        | some f =>
          simp only [Option.isNone_some, Bool.false_eq_true, if_false]
          refine pc_pure ?_
          rw [List.append_nil]
          refine tokPost_of_tr (htr1.trans htr2) trivial ?_
          rintro x x2 hx hx2 ⟨x1, ⟨hx1, e1⟩, hx2e, e2, hb⟩
          subst x2
          refine ⟨x1, ?_, AuxSame.rfl', Or.inl rfl, rfl, rfl⟩
          have hfp : (absF s1 x1).p.formPointer.isSome = true := by
            rw [e2]; show s2.formElem.isSome = true; rw [hfe]; rfl
          rw [e1, ← hb, hfp]
          simp only [Bool.or_true, if_true, stepOf, e2]
          rfl
        | none =>
          simp only [Option.isNone_none, if_true]
          refine pc_seq (show PC (insertAndPopElementFor t) s2 _ from
            pc_insertHtml_core htr2.1 false t (specTag t) (specTag_etok hwf.plain)) ?_
          rintro a s3 c3 _ ⟨-, -, -, hel3, hnm3, htr3⟩
          have hm3 : MInv s3 := htr3.1
          have hform : s3.dom.isElement a = true ∧ nameOf s3.dom a ≠ ⟨nsHtml, "html".toList⟩ := by
            refine ⟨hel3, ?_⟩
            rw [hnm3, name_of_isOneOf h9]
            decide
          have hm4 : MInv { s3 with formElem := some a } :=
            { elems := hm3.elems, root := hm3.root, af := hm3.af, afEl := hm3.afEl, head := hm3.head,
              ctx := hm3.ctx, afwf := hm3.afwf, ip := hm3.ip, tmodes := hm3.tmodes,
              form := fun f hf => by cases hf; exact hform, pend := hm3.pend }
          refine pc_seq (pc_modS (Q := fun _ s4 c => s4 = { s3 with formElem := some a } ∧ c = []) rfl rfl ⟨rfl, rfl⟩) ?_
          rintro _ s4 c4 _ ⟨rfl, rfl⟩
          have htr4 : Tr s3 { s3 with formElem := some a } [] (fun x x' => x' = x) :=
            Tr.of_upd (s' := { s3 with formElem := some a }) hm3 rfl (fun _ h => h) hm4 rfl
          refine pc_pure ?_
          rw [List.append_nil, List.append_nil, ← List.append_assoc]
          have htr := ((htr1.trans htr2).trans htr3).trans htr4
          rw [List.append_nil] at htr
          refine tokPost_of_tr htr trivial ?_
          rintro x x4 hx hx4 ⟨x3, ⟨x2, ⟨x1, ⟨hx1, e1⟩, hx2e, e2, hb⟩, σ1, hins, e3⟩, hx4e⟩
          subst x4
          subst x2
          refine ⟨x3, ?_, AuxSame.rfl', Or.inl rfl, rfl, rfl⟩
          have hfp : (absF s1 x1).p.formPointer.isSome = false := by
            rw [e2]; show s2.formElem.isSome = false; rw [hfe]; rfl
          rw [e1, ← hb, hfp, e2, hins]
          simp only [Bool.or_self, Bool.false_eq_true, if_false, stepOf]
          show Except.ok (Step.done ((σ1.pop).setForm (some a))) = _
          have e3' : absF s3 x3 = σ1.pop := e3
          rw [← e3']
          rfl
  | endTag =>
    simp -zeta only [stepInTable, Spec.TreeModes.inTable, tag_chain, stokOfTag_end hk, isStart_of_end hk,
      isEnd_of_end hk, ↓reduceIte] at hh helse ⊢
    refine pc_tok_ite (fun _ => ?_) fun _ => pc_tok_ite (fun _ => pc_unexpected_err hm _ _) fun _ =>
      pc_tok_ite (fun _ => hh) fun _ => helse
    refine pc_seq (pc_inScopeNamed_table hm "table") ?_
    rintro b s1 c1 _ htr1
    have hf1 := tbl_tr_query_fields hm htr1
    cases b with
    | false =>
      simp only [Bool.false_eq_true, if_false]
      exact pc_tok_after (tag_ne_eof t) htr1
        (pc_unexpected_done htr1.1 _ "in table: table end tag without table in table scope")
        fun x x1 _ ⟨hx1, e1, hb⟩ => by subst x1; simp only [← e1, ← hb, Bool.not_false, if_true]
    | true =>
      simp only [if_true]
      refine pc_seq (tbl_pc_popUntilNamed htr1.1 "table") ?_
      rintro _ s2 c2 _ ⟨hm2, ht2, htr2⟩
      have htm2 : s2.templateModes.getLast? ≠ some .inTableText := by rw [ht2, hf1.2]; exact htm
      refine pc_seq (pc_resetInsertionMode htr2.1) ?_
      rintro m s3 c3 _ ⟨-, hmt, htr3⟩
      have hne : m ≠ .inTableText := fun h => htm2 (hmt h)
      refine pc_seq (pc_setMode_junk htr3.1 m hne) ?_
      rintro _ s4 c4 _ ⟨-, htr4⟩
      refine pc_pure ?_
      have hcfg : cfgOf s2 = cfgOf s := (htr1.trans htr2).2.1
      rw [List.append_nil, ← List.append_assoc, ← List.append_assoc]
      refine tokPost_of_tr (((htr1.trans htr2).trans htr3).trans htr4) trivial ?_
      rintro x x4 hx hx4 ⟨x3, ⟨x2, ⟨x1, ⟨hx1, e1, hb⟩, hx2, e2⟩, hx3, e3, r3⟩, hx4e, e4⟩
      subst x3
      subst x2
      subst x1
      refine ⟨x4, ?_, AuxSame.rfl', Or.inl rfl, rfl, rfl⟩
      rw [← hb]
      simp only [Bool.not_true, Bool.false_eq_true, if_false, stepOf]
      rw [e1, ← e2, ← hcfg, r3, e4, ← e3]
      rfl


/-! ### `process_chars_in_table` -/

theorem tbl_absF_toText (s1 : State) (x : Aux) (h : s1.pendingTableText = []) :
    absF { s1 with origMode := some s1.mode, mode := .inTableText } x
      = { absF s1 x with pendingTableChars := [], originalMode := (absF s1 x).mode, mode := .inTableText } := by
  simp only [absF, absP, h, pendingChars]
  rfl

/-- the two branches of `process_chars_in_table` -/
theorem tbl_pc_processChars {tok : Token} {s : State} (hm : MInv s) {Q : ProcessResult → State → List Call → Prop}
    (htext : ∀ s1 c1, Tr s s1 c1 (fun x x' => x' = x ∧ absF s x = absF s1 x ∧
        (absF s x).curIn ["table", "tbody", "template", "tfoot", "thead", "tr"] = true) → s1.pendingTableText = [] →
      Q (.reprocess .inTableText tok) { s1 with origMode := some s1.mode } c1)
    (hfoster : ∀ s1 c1, Tr s s1 c1 (fun x x' => x' = x ∧ absF s x = absF s1 x ∧
        (absF s x).curIn ["table", "tbody", "template", "tfoot", "thead", "tr"] = false) →
      PC (fosterParentInBody tok) s1 (fun r s2 c2 => Q r s2 (c1 ++ c2))) :
    PC (processCharsInTable tok) s Q := by
  simp only [processCharsInTable]
  refine pc_seq (pc_currentNodeIn_tableOuterChars hm) ?_
  rintro b s1 c1 _ htr1
  cases b with
  | true =>
    simp only [if_true]
    refine pc_getS_bind ?_
    cases hp : s1.pendingTableText with
    | cons a r =>
      simp only [List.isEmpty_cons, Bool.not_false, if_true]
      exact pc_bind pc_panicAt
    | nil =>
      simp only [List.isEmpty_nil, Bool.not_true, Bool.false_eq_true, if_false]
      refine pc_seq (pc_modS (Q := fun _ s2 c => s2 = { s1 with origMode := some s1.mode } ∧ c = []) rfl rfl ⟨rfl, rfl⟩) ?_
      rintro _ s2 c2 _ ⟨rfl, rfl⟩
      refine pc_pure ?_
      rw [List.append_nil, List.append_nil]
      exact htext s1 c1 (htr1.conseq fun x x' _ _ ⟨h1, h2, h3⟩ => ⟨h1, h2, h3.symm⟩) hp
  | false =>
    simp only [Bool.false_eq_true, if_false]
    refine pc_seq (pc_parseError htr1.1 _) ?_
    rintro _ s2 c2 _ htr2
    have htr : Tr s s2 (c1 ++ c2) (fun x x' => x' = x ∧ absF s x = absF s2 x ∧
        (absF s x).curIn ["table", "tbody", "template", "tfoot", "thead", "tr"] = false) :=
      (htr1.trans htr2).conseq (by
        rintro x x2 _ _ ⟨x1, ⟨hx1, e1, hb⟩, hx2, e2⟩
        subst x2; subst x1
        exact ⟨rfl, e1.trans e2, hb.symm⟩)
    have := hfoster s2 (c1 ++ c2) htr
    simp only [List.append_assoc] at this
    exact this

/-- the stretch of the branch "switch to in table text" -/
theorem tbl_tr_toText {s s1 : State} {c1 : List Call} (c : Char)
    (htr1 : Tr s s1 c1 (fun x x' => x' = x ∧ absF s x = absF s1 x ∧
        (absF s x).curIn ["table", "tbody", "template", "tfoot", "thead", "tr"] = true))
    (hp : s1.pendingTableText = []) :
    Tr s { s1 with origMode := some s1.mode } c1 (fun x x' =>
      Spec.TreeModes.inTable (cfgOf s) (absF s x) (.character c)
        = .ok (.reprocess (absF { s1 with origMode := some s1.mode, mode := .inTableText } x'))) := by
  have h2 : Tr s1 { s1 with origMode := some s1.mode } [] (fun x x' => x' = x) :=
    Tr.of_upd (s' := { s1 with origMode := some s1.mode }) htr1.1 rfl (fun _ h => h)
      (MInv.of_fields htr1.1 (TBSafe.Ext.refl _) rfl rfl rfl rfl rfl) rfl
  have h := htr1.trans h2
  rw [List.append_nil] at h
  refine h.conseq ?_
  rintro x x2 _ _ ⟨x1, ⟨hx1, e1, hb⟩, hx2⟩
  subst x2
  subst x1
  rw [inTable_char_text c hb, tbl_absF_toText s1 x hp, e1]
  rfl

/-- what a stretch says about the current node holds for every `Aux` -/
theorem tbl_tr_curIn {s s1 : State} {c1 : List Call} {b : Bool} {l : List String} (hm : MInv s)
    (h : Tr s s1 c1 (fun x x' => x' = x ∧ absF s x = absF s1 x ∧ (absF s x).curIn l = b)) :
    ∀ x, AuxOk s x → (absF s x).curIn l = b := by
  obtain ⟨-, -, -, ids, hfi, f⟩ := h
  obtain ⟨x0, hx0, hsup⟩ := auxOk_exists hm ids
  obtain ⟨x', _, -, -, r⟩ := f x0 [] hx0 (by simp [hsup])
  intro x hx
  rw [← r]
  unfold Spec.TreeModes.State.curIn
  rw [absF_cur hx, absF_cur hx0]

theorem sim_inTable (hhead : StepSimTok stepInHead Spec.TreeModes.inHead)
    (hbody : StepSimTok stepInBody Spec.TreeModes.inBody) (tok : Token) (hch : isCharsTok tok = false) (hwf : TokWf tok)
    (s : State) (hm : MInv s) :
    PC (stepInTable tok) s (TokPost (fun σ => Spec.TreeModes.inTable (cfgOf s) σ (stokOf tok)) s tok) := by
  have htm : s.templateModes.getLast? ≠ some .inTableText := tbl_htm hm
  cases tok with
  | chars st text => cases hch
  | comment text =>
    simp only [stepInTable]
    exact pc_comment_tok hm text
  | eof =>
    simp only [stepInTable]
    refine pc_tokPost_congr (hbody .eof rfl hwf s hm) ?_
    intro x hx
    simp only [stokOf, Spec.TreeModes.inTable]
  | nullChar =>
    simp only [stepInTable]
    refine tbl_pc_processChars hm ?_ ?_
    · intro s1 c1 htr1 hp
      exact tokPost_of_tr (tbl_tr_toText '\x00' htr1 hp) rfl
        (fun x x' _ _ r => ⟨x', r, AuxSame.rfl', Or.inl rfl, rfl, rfl⟩)
    · intro s1 c1 htr1
      refine pc_conseq (tbl_pc_foster hbody (tok := .nullChar) rfl hwf (by simp)
        (htr1.conseq fun x x' _ _ ⟨h1, h2, _⟩ => ⟨h1, h2⟩)) ?_
      intro res s' c _ hp
      refine tokPost_congr hp ?_
      intro x hx
      exact inTable_char_foster _ (tbl_tr_curIn hm htr1 x hx)
  | tag t =>
    exact sim_inTable_tag hhead hbody t hwf s hm htm


theorem modeSim_inTable (hhead : StepSimTok stepInHead Spec.TreeModes.inHead)
    (hbody : StepSimTok stepInBody Spec.TreeModes.inBody) : ModeSim .inTable := by
  intro tok hch hwf s _ hm hmode _
  refine pc_tokPost_congr (sim_inTable hhead hbody tok hch hwf s hm) ?_
  intro x hx
  exact byModeDev_inTable (by show imode s.mode = _; rw [hmode]; rfl) _

end H5V.Lemmas.HtmlTBModes
