import H5V.Lemmas.HtmlTBModesInvBodyS
/-!
C02 (insertion modes), the invariant `Good` of the specification's run: the end tags of "in body" and the mode
"in body" itself.
-/
set_option linter.unusedSectionVars false
namespace H5V.Lemmas.ModesInv
open H5V.Spec H5V.Spec.TreeModes
open H5V.Spec.TreeAlgo (Str Name nsHtml nsMathml nsSvg inHtml)
open H5V.Spec.TreeAlgo2 (Elem Entry PState)

section
variable {N : Type} [DecidableEq N]

/-! ### tag names -/

theorem be_ne_of_isOneOf {t : Tag} {l : List String} (h : t.isOneOf l = true)
    (hl : l.all (fun y => !(["td", "th"].contains y)) = true) : t.name ≠ "td".toList ∧ t.name ≠ "th".toList :=
  ne_of_strIsOneOf h hl

theorem be_ne_of_is {t : Tag} {x : String} (h : t.is x = true) (hx : (["td", "th"].contains x) = false) :
    t.name ≠ "td".toList ∧ t.name ≠ "th".toList :=
  ne_of_strIsOneOf (l := [x]) (by simpa [Tag.is, strIs, strIsOneOf] using h)
    (by simp only [List.all_cons, List.all_nil, Bool.and_true, hx]; rfl)

theorem be_ne_of_not_isOneOf {t : Tag} (h : t.isOneOf ["td", "th"] = false) :
    t.name ≠ "td".toList ∧ t.name ≠ "th".toList := by
  simp only [Tag.isOneOf, strIsOneOf, List.any_cons, List.any_nil, Bool.or_false, Bool.or_eq_false_iff,
    beq_eq_false_iff_ne, ne_eq] at h
  exact h

theorem be_notImplied_of_isOneOf {t : Tag} {l : List String} (h : t.isOneOf l = true)
    (hl : l.all (fun y => !(TreeTables.impliedEnd.contains y)) = true) (ex : Option Str) :
    TreeAlgo.impliedEndTag ex ⟨nsHtml, t.name⟩ = false :=
  notImplied_of_strIsOneOf h hl ex

theorem be_notImplied_of_is {t : Tag} {x : String} (h : t.is x = true)
    (hx : (TreeTables.impliedEnd.contains x) = false) (ex : Option Str) :
    TreeAlgo.impliedEndTag ex ⟨nsHtml, t.name⟩ = false :=
  notImplied_of_strIsOneOf (l := [x]) (by simpa [Tag.is, strIs, strIsOneOf] using h)
    (by simp only [List.all_cons, List.all_nil, Bool.and_true, hx]; rfl) ex

/-! ### implied end tags and the scopes -/

/-- "generate implied end tags (except …); pop until a target has been popped": the target is in a scope whose
list has `td`, `th`, it is not a `td`/`th` and has no implied end tag: "td/th in table scope" survives -/
theorem be_cellR_implied_pop {list : Name → Bool} (hl : ∀ n, tdThN n = true → list n = true)
    (hl2 : ∀ n, inHtml TreeTables.impliedEnd n = true → list n = false)
    {ex : Option Str} {isTarget : Name → Bool} (ht : ∀ n, isTarget n = true → tdThN n = false)
    (hti : ∀ n, TreeAlgo.impliedEndTag ex n = true → isTarget n = false) {l : List Name}
    (hs : TreeAlgo.hasInScope isTarget list l = true) (h : cellR l = true) :
    cellR (((l.dropWhile (TreeAlgo.impliedEndTag ex)).dropWhile fun n => !isTarget n).drop 1) = true := by
  have h1 : cellR (l.dropWhile (TreeAlgo.impliedEndTag ex)) = true :=
    cellR_dropWhile (fun n hn => impliedEndTag_noTd (mem_takeWhile_p hn)) h
  refine cellR_popUntil hl ht ?_ h1
  rw [hasInScope_dropWhile]
  · exact hs
  · intro n hn
    exact ⟨hti n hn, hl2 n (implied_inHtml hn)⟩

/-! ### the small steps -/

@[simp] theorem be_iteErr_p (c : Prop) [Decidable c] (s : State N) (w : String) :
    (if c then s else s.err w).p = s.p := iteErr_p c s w

@[simp] theorem be_bodyEndCheck_mode (s : State N) (w : String) : (bodyEndCheck s w).mode = s.mode := by
  unfold bodyEndCheck; split <;> rfl
@[simp] theorem be_bodyEndCheck_orig (s : State N) (w : String) : (bodyEndCheck s w).originalMode = s.originalMode := by
  unfold bodyEndCheck; split <;> rfl
@[simp] theorem be_bodyEndCheck_tms (s : State N) (w : String) : (bodyEndCheck s w).templateModes = s.templateModes := by
  unfold bodyEndCheck; split <;> rfl
@[simp] theorem be_bodyEndCheck_stopped (s : State N) (w : String) : (bodyEndCheck s w).stopped = s.stopped := by
  unfold bodyEndCheck; split <;> rfl
@[simp] theorem be_bodyEndCheck_p (s : State N) (w : String) : (bodyEndCheck s w).p = s.p := by
  unfold bodyEndCheck; split <;> rfl

/-- the result of a clause that leaves the mode, the original mode, the template modes alone -/
theorem be_done {cfg : Config N} {σ σ' : State N} (hc : Ctx cfg σ) (hm : σ'.mode = σ.mode)
    (ho : σ'.originalMode = σ.originalMode) (ht : σ'.templateModes = σ.templateModes) (hst : σ'.stopped = σ.stopped)
    (haf : AFOk σ'.p.list) (hcell : σ.mode = .inCell → cellR σ.names = true → cellR σ'.names = true) :
    Post (.done σ') :=
  fun _ => hc.good.upd ⟨hm, ho, ht, hst, rfl, rfl⟩ hc.nt hc.ntt hcell haf

/-- "close a p element" when a `p` element is in button scope -/
theorem be_cellR_closeP (cfg : Config N) (hed : cfg.edition = .customizableSelect) {s : State N}
    (hs : hasInButtonScope cfg s "p" = true) (h : cellR s.names = true) : cellR (closeP s).names = true := by
  have := cellR_closePIfInButtonScope cfg hed h
  unfold closePIfInButtonScope at this
  rw [if_pos hs] at this
  exact this

/-! ### the clauses -/

/-- `</p>`, a `p` element is in button scope -/
theorem be_endP1 {cfg : Config N} {σ : State N} (hc : Ctx cfg σ) (hs : hasInButtonScope cfg σ "p" = true) :
    Post (.done (closeP σ)) :=
  be_done hc (by simp) (by simp) (by simp) (by simp) (by simp only [closeP_list]; exact hc.good.af)
    (fun _ hcr => be_cellR_closeP cfg hc.ed hs hcr)

/-- `</p>`, no `p` element is in button scope: one is inserted (and is then in button scope) -/
theorem be_endP2 {cfg : Config N} {σ : State N} (hc : Ctx cfg σ) {s1 : State N} {w : String}
    (h1 : insertHtml' (σ.err w) (bareTag "p") = .ok s1) : Post (.done (closeP s1)) := by
  obtain ⟨e, he, _, hu, _⟩ := insertHtml'_eff h1
  have hname : e.name = ⟨nsHtml, "p".toList⟩ := he
  have hn : s1.names = e.name :: σ.names := by
    rw [names_eq, hu.stack, namesOf_snoc]; rfl
  have hs : hasInButtonScope cfg s1 "p" = true := by
    unfold hasInButtonScope
    rw [hn, hasInScope_cons, hname]
    rw [named_self]; rfl
  refine be_done hc (by simp [hu.mode]) (by simp [hu.orig]) (by simp [hu.tms]) (by simp [hu.stopped])
    (by simp only [closeP_list, hu.list]; exact hc.good.af) (fun _ hcr => be_cellR_closeP cfg hc.ed hs ?_)
  rw [hn, hname, cellR_cons_neutral (neutralN_of_loc (by decide +kernel))]
  exact hcr

/-- `</li>` -/
theorem be_endLi {cfg : Config N} {σ : State N} (hc : Ctx cfg σ) (hs : hasInListItemScope cfg σ "li" = true)
    (c : Prop) [Decidable c] (w : String) :
    Post (.done (popUntilPopped (if c then genImplied σ (some "li") else (genImplied σ (some "li")).err w) "li")) := by
  refine be_done hc (by simp) (by simp) (by simp) (by simp) (by simp; exact hc.good.af) (fun _ hcr => ?_)
  rw [popUntilPopped_names, iteErr_names, genImplied_names]
  exact be_cellR_implied_pop (isTarget := isNamed "li".toList) (listItemScope_td cfg hc.ed)
    (fun n hn => (implied_notScope cfg hc.ed hn).2.1) (isNamed_noTd (by decide +kernel))
    (fun n hn => implied_except hn) hs hcr

/-- `</dd>`, `</dt>` -/
theorem be_endDd {cfg : Config N} {σ : State N} (hc : Ctx cfg σ) {x : Str} (hx : x ≠ "td".toList ∧ x ≠ "th".toList)
    (hs : hasStrInScope cfg σ x = true) (c : Prop) [Decidable c] (w : String) :
    Post (.done (popUntilPoppedStr (if c then genImpliedExceptStr σ x else (genImpliedExceptStr σ x).err w) x)) := by
  refine be_done hc (by simp) (by simp) (by simp) (by simp) (by simp; exact hc.good.af) (fun _ hcr => ?_)
  rw [popUntilPoppedStr_names, iteErr_names, genImpliedExceptStr_names]
  exact be_cellR_implied_pop (isTarget := isNamed x) (defaultScope_td cfg hc.ed)
    (fun n hn => (implied_notScope cfg hc.ed hn).1) (isNamed_noTd hx)
    (fun n hn => implied_except hn) hs hcr

/-- `</h1>` … `</h6>` -/
theorem be_endHeading {cfg : Config N} {σ : State N} (hc : Ctx cfg σ)
    (hs : hasAnyInScope cfg σ TreeTables.heading = true) (c : Prop) [Decidable c] (w : String) :
    Post (.done (popUntilPoppedAny (if c then genImplied σ else (genImplied σ).err w) TreeTables.heading)) := by
  refine be_done hc (by simp) (by simp) (by simp) (by simp) (by simp; exact hc.good.af) (fun _ hcr => ?_)
  rw [popUntilPoppedAny_names, iteErr_names, genImplied_names]
  exact be_cellR_implied_pop (isTarget := inHtml TreeTables.heading) (defaultScope_td cfg hc.ed)
    (fun n hn => (implied_notScope cfg hc.ed hn).1)
    (fun n hn => inHtml_false_of_inHtml (l := TreeTables.heading) (l' := ["td", "th"]) (by decide +kernel) hn)
    (fun n hn => inHtml_false_of_inHtml (l := TreeTables.impliedEnd) (l' := TreeTables.heading) (by decide +kernel)
      (implied_inHtml hn)) hs hcr

/-- the block-like end tags: "generate implied end tags; pop until an `x` element has been popped" (`x` has no
implied end tag) -/
theorem be_endBlockLike {cfg : Config N} {σ : State N} (hc : Ctx cfg σ) {x : Str}
    (hx : x ≠ "td".toList ∧ x ≠ "th".toList) (hxi : TreeAlgo.impliedEndTag none ⟨nsHtml, x⟩ = false)
    (hs : hasStrInScope cfg σ x = true) (c : Prop) [Decidable c] (w : String) :
    cellR σ.names = true →
      cellR (popUntilPoppedStr (if c then genImplied σ else (genImplied σ).err w) x).names = true := by
  intro hcr
  rw [popUntilPoppedStr_names, iteErr_names, genImplied_names]
  exact be_cellR_implied_pop (isTarget := isNamed x) (defaultScope_td cfg hc.ed)
    (fun n hn => (implied_notScope cfg hc.ed hn).1) (isNamed_noTd hx)
    (fun n hn => implied_notNamed hxi hn) hs hcr

/-- `</applet>`, `</marquee>`, `</object>` -/
theorem be_endApplet {cfg : Config N} {σ : State N} (hc : Ctx cfg σ) {x : Str}
    (hx : x ≠ "td".toList ∧ x ≠ "th".toList) (hxi : TreeAlgo.impliedEndTag none ⟨nsHtml, x⟩ = false)
    (hs : hasStrInScope cfg σ x = true) (c : Prop) [Decidable c] (w : String) :
    Post (.done (popUntilPoppedStr (if c then genImplied σ else (genImplied σ).err w) x).clearToLastMarker) := by
  refine be_done hc (by simp) (by simp) (by simp) (by simp) (by simp; exact hc.good.af.clear) (fun _ hcr => ?_)
  rw [clearToLastMarker_names]
  exact be_endBlockLike hc hx hxi hs c w hcr

/-! ### the end tags -/

/-- the end tags of "in body" -/
theorem post_inBodyEndTag (hhead : Keeps0 (inHead (N := N)) PreHead) {cfg : Config N} {σ : State N} (hc : Ctx cfg σ)
    (hl : Link σ) {t : Tag} (hcell : σ.mode = .inCell → t.isOneOf ["td", "th"] = false) {r : Step N}
    (hfr : FreshL σ.p.stack σ.p.supply r.state.p.supply) (h : inBodyEndTag cfg σ t = .ok r) : Post r := by
  have hed := hc.ed
  unfold inBodyEndTag at h
  replace h := ite_cases h
  rcases h with ⟨_, h⟩ | ⟨_, h⟩
  · -- </template>
    exact hhead cfg hed σ (.endTag t) r hc.good hc.live ⟨hc.nt, hc.ntt⟩ h
  replace h := ite_cases h
  rcases h with ⟨_, h⟩ | ⟨_, h⟩
  · -- </body>
    rcases ite_cases h with ⟨_, h⟩ | ⟨_, h⟩
    · exact post_ignore hc.good h
    · cases pure_ok h
      exact fun _ => hc.good.toPlain' (m := .afterBody) rfl (by decide) (by simp) (by simp)
  replace h := ite_cases h
  rcases h with ⟨_, h⟩ | ⟨_, h⟩
  · -- </html>
    rcases ite_cases h with ⟨_, h⟩ | ⟨_, h⟩
    · exact post_ignore hc.good h
    · cases pure_ok h
      exact ⟨by simp; exact hc.live, hc.good.toPlain' (m := .afterBody) rfl (by decide) (by simp) (by simp)⟩
  replace h := ite_cases h
  rcases h with ⟨hb, h⟩ | ⟨_, h⟩
  · -- the block end tags, </select>
    cases pure_ok h
    have hb' : t.isOneOf blockEnd = true ∨ t.is "select" = true := by
      cases h1 : t.isOneOf blockEnd
      · rw [h1, Bool.false_or, Bool.and_eq_true] at hb
        exact Or.inr hb.2
      · exact Or.inl rfl
    have hne : t.name ≠ "td".toList ∧ t.name ≠ "th".toList := by
      rcases hb' with hb' | hb'
      · exact be_ne_of_isOneOf hb' (by decide +kernel)
      · exact be_ne_of_is hb' (by decide +kernel)
    have hni : TreeAlgo.impliedEndTag none ⟨nsHtml, t.name⟩ = false := by
      rcases hb' with hb' | hb'
      · exact be_notImplied_of_isOneOf hb' (by decide +kernel) none
      · exact be_notImplied_of_is hb' (by decide +kernel) none
    exact post_inBodyBlockEnd hc hne hni
  replace h := ite_cases h
  rcases h with ⟨_, h⟩ | ⟨_, h⟩
  · -- </form>
    cases pure_ok h
    exact post_inBodyEndForm hc hl
  replace h := ite_cases h
  rcases h with ⟨_, h⟩ | ⟨_, h⟩
  · -- </p>
    dsimp only at h
    rcases ite_cases h with ⟨_, h⟩ | ⟨_, h⟩
    · rename_i hs
      obtain ⟨s1, h1, h2⟩ := bind_ok h
      cases pure_ok h1
      cases pure_ok h2
      exact be_endP1 hc hs
    · exact post_bind h fun s1 h1 => be_endP2 hc h1
  replace h := ite_cases h
  rcases h with ⟨_, h⟩ | ⟨_, h⟩
  · -- </li>
    rcases ite_cases h with ⟨_, h⟩ | ⟨_, h⟩
    · exact post_ignore hc.good h
    · rename_i hs
      cases pure_ok h
      exact be_endLi hc (by simpa using hs) _ _
  replace h := ite_cases h
  rcases h with ⟨hd, h⟩ | ⟨_, h⟩
  · -- </dd>, </dt>
    rcases ite_cases h with ⟨_, h⟩ | ⟨_, h⟩
    · exact post_ignore hc.good h
    · rename_i hs
      cases pure_ok h
      exact be_endDd hc (be_ne_of_isOneOf hd (by decide +kernel)) (by simpa using hs) _ _
  replace h := ite_cases h
  rcases h with ⟨_, h⟩ | ⟨_, h⟩
  · -- </h1> … </h6>
    rcases ite_cases h with ⟨_, h⟩ | ⟨_, h⟩
    · exact post_ignore hc.good h
    · rename_i hs
      cases pure_ok h
      exact be_endHeading hc (by simpa using hs) _ _
  replace h := ite_cases h
  rcases h with ⟨hf, h⟩ | ⟨_, h⟩
  · -- the formatting end tags: the adoption agency algorithm
    obtain ⟨s1, h1, rfl⟩ := map_ok h
    obtain ⟨st', l', hu, haf, hcr, _, _⟩ := adoptionAgency_eff (fmtN_of_isOneOf hf (by decide +kernel)) hc.good.af hl hfr h1
    exact fun _ => hc.upd hu hcr haf
  replace h := ite_cases h
  rcases h with ⟨ha, h⟩ | ⟨_, h⟩
  · -- </applet>, </marquee>, </object>
    rcases ite_cases h with ⟨_, h⟩ | ⟨_, h⟩
    · exact post_ignore hc.good h
    · rename_i hs
      cases pure_ok h
      exact be_endApplet hc (be_ne_of_isOneOf ha (by decide +kernel)) (be_notImplied_of_isOneOf ha (by decide +kernel) none)
        (by simpa using hs) _ _
  replace h := ite_cases h
  rcases h with ⟨_, h⟩ | ⟨_, h⟩
  · -- </br>
    exact post_inBodyStartTagCore hhead (σ := σ.err "in body: br end tag") hc.same hl.same hfr h
  · -- any other end tag
    cases pure_ok h
    exact be_done hc rfl rfl rfl rfl hc.good.af
      (fun hm hcr => cellR_anyOtherEndTag (be_ne_of_not_isOneOf (hcell hm)) hcr)

/-! ### the mode -/

/-- **"in body"** keeps the invariant -/
theorem keeps_inBody (hhead : Keeps0 (inHead (N := N)) PreHead) : Keeps (inBody (N := N)) PreBody := by
  intro cfg hed σ tok r hg hst hl hfr hpre h
  have hc : Ctx cfg σ := ⟨hed, hg, hst, hpre.1, hpre.2.1⟩
  cases tok with
  | character c =>
    obtain ⟨s', hr, es, l', hu, hes, haf⟩ := inBody_char_eff hg.af h
    subst hr
    refine fun _ => hc.upd hu (fun hcr => ?_) haf
    rw [cellR_append_neutral _ (fun e he => (hes e he).1)]
    exact hcr
  | comment d =>
    unfold inBody at h
    dsimp only at h
    exact post_insert hg h insertComment_eff
  | doctype _ _ _ _ =>
    unfold inBody at h
    dsimp only at h
    cases pure_ok h
    exact fun _ => hg.same
  | startTag t =>
    unfold inBody at h
    dsimp only at h
    exact post_inBodyStartTag hhead hc (hl rfl) (hfr rfl) h
  | eof =>
    unfold inBody at h
    dsimp only at h
    rcases ite_cases h with ⟨_, h⟩ | ⟨_, h⟩
    · exact post_inTemplateEof hc h
    · cases pure_ok h
      exact inv_stopParsing _
  | endTag t =>
    unfold inBody at h
    dsimp only at h
    exact post_inBodyEndTag hhead hc (hl rfl) (fun hm => hpre.2.2 hm) (hfr rfl) h

end
end H5V.Lemmas.ModesInv
