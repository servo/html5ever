import H5V.Lemmas.HtmlJointChunkRun
import H5V.Props.C03End
/-!
C03 for the joint model: chunk merging.

The per-step facts of the tokenizer proof (`step_mono`, `step_resume`, `step_sim`, `step_good`) hold for
**every** sink policy, in particular for `polOf j` — the policy of the current tree-builder state.  What
the joint loop adds is that the policy changes from step to step (`j` absorbs the tokens of each step);
this is harmless because (a) the chunked and the one-piece run perform the same steps with the same
outputs, hence go through the same joint states, and (b) a step that *suspends* (the only kind of step
whose boundaries depend on the chunking) has delivered nothing (`step_suspend_out`), so the resumed step
runs under the same policy.
-/
namespace H5V.Lemmas.JointChunk
open H5V.Model.HtmlTok (Mach R Sim RSim clr step TInv mu fuelFor feedBom)
open H5V.Model.HtmlTB.Joint (JState absorb polOf RunRes)

theorem sim_out {a b : Mach} (h : Sim a b) : a.out = b.out := H5V.Model.HtmlTok.Sim.out h

/-- the invariant transfers along `Sim` (needed facts only) -/
structure SInv (m : Mach) : Prop where
  out : m.out = []

/-! ### runs from `Sim` machines -/

theorem jrunsTo_sim {o : TOpts} {y : Mach} {i : Chars} {j : JState} {m' : Mach} {j' : JState}
    (hrun : JRunsTo o y i j m' j') : ∀ x, Sim x y → ∃ m'', JRunsTo o x i j m'' j' ∧ Sim m'' m' := by
  induction hrun with
  | @susp m0 inp0 j0 m1 j1 hs ha =>
    intro x hsim
    have hrs := H5V.Model.HtmlTok.step_sim o (polOf j0) x m0 inp0 hsim
    rw [hs] at hrs
    cases hsa : step o (polOf j0) x inp0 with
    | suspend x1 i1 =>
      rw [hsa] at hrs
      obtain ⟨h1, h2⟩ := hrs
      subst h2
      exact ⟨clr x1, JRunsTo.susp hsa (by rw [sim_out h1]; exact ha), H5V.Model.HtmlTok.sim_clr h1⟩
    | cont _ _ => rw [hsa] at hrs; exact absurd hrs (by simp [RSim])
    | script _ _ => rw [hsa] at hrs; exact absurd hrs (by simp [RSim])
    | indicator _ _ => rw [hsa] at hrs; exact absurd hrs (by simp [RSim])
    | panic _ => rw [hsa] at hrs; exact absurd hrs (by simp [RSim])
  | @cont m0 inp0 j0 m1 i1 j1 mf jf hs ha _ ih =>
    intro x hsim
    have hrs := H5V.Model.HtmlTok.step_sim o (polOf j0) x m0 inp0 hsim
    rw [hs] at hrs
    cases hsa : step o (polOf j0) x inp0 with
    | cont x1 i1' =>
      rw [hsa] at hrs
      obtain ⟨h1, h2⟩ := hrs
      subst h2
      obtain ⟨m'', hr', hs'⟩ := ih (clr x1) (H5V.Model.HtmlTok.sim_clr h1)
      exact ⟨m'', JRunsTo.cont hsa (by rw [sim_out h1]; exact ha) hr', hs'⟩
    | suspend _ _ => rw [hsa] at hrs; exact absurd hrs (by simp [RSim])
    | script _ _ => rw [hsa] at hrs; exact absurd hrs (by simp [RSim])
    | indicator _ _ => rw [hsa] at hrs; exact absurd hrs (by simp [RSim])
    | panic _ => rw [hsa] at hrs; exact absurd hrs (by simp [RSim])
  | @script m0 inp0 j0 m1 i1 j1 mf jf hs ha hne _ ih =>
    intro x hsim
    have hrs := H5V.Model.HtmlTok.step_sim o (polOf j0) x m0 inp0 hsim
    rw [hs] at hrs
    cases hsa : step o (polOf j0) x inp0 with
    | script x1 i1' =>
      rw [hsa] at hrs
      obtain ⟨h1, h2⟩ := hrs
      subst h2
      obtain ⟨m'', hr', hs'⟩ := ih (clr x1) (H5V.Model.HtmlTok.sim_clr h1)
      exact ⟨m'', JRunsTo.script hsa (by rw [sim_out h1]; exact ha) hne hr', hs'⟩
    | suspend _ _ => rw [hsa] at hrs; exact absurd hrs (by simp [RSim])
    | cont _ _ => rw [hsa] at hrs; exact absurd hrs (by simp [RSim])
    | indicator _ _ => rw [hsa] at hrs; exact absurd hrs (by simp [RSim])
    | panic _ => rw [hsa] at hrs; exact absurd hrs (by simp [RSim])
  | @scriptEnd m0 inp0 j0 m1 j1 hs ha =>
    intro x hsim
    have hrs := H5V.Model.HtmlTok.step_sim o (polOf j0) x m0 inp0 hsim
    rw [hs] at hrs
    cases hsa : step o (polOf j0) x inp0 with
    | script x1 i1 =>
      rw [hsa] at hrs
      obtain ⟨h1, h2⟩ := hrs
      subst h2
      exact ⟨clr x1, JRunsTo.scriptEnd hsa (by rw [sim_out h1]; exact ha), H5V.Model.HtmlTok.sim_clr h1⟩
    | cont _ _ => rw [hsa] at hrs; exact absurd hrs (by simp [RSim])
    | suspend _ _ => rw [hsa] at hrs; exact absurd hrs (by simp [RSim])
    | indicator _ _ => rw [hsa] at hrs; exact absurd hrs (by simp [RSim])
    | panic _ => rw [hsa] at hrs; exact absurd hrs (by simp [RSim])
  | @indicator m0 inp0 j0 m1 i1 j1 mf jf hs ha hne _ ih =>
    intro x hsim
    have hrs := H5V.Model.HtmlTok.step_sim o (polOf j0) x m0 inp0 hsim
    rw [hs] at hrs
    cases hsa : step o (polOf j0) x inp0 with
    | indicator x1 i1' =>
      rw [hsa] at hrs
      obtain ⟨h1, h2⟩ := hrs
      subst h2
      obtain ⟨m'', hr', hs'⟩ := ih (clr x1) (H5V.Model.HtmlTok.sim_clr h1)
      exact ⟨m'', JRunsTo.indicator hsa (by rw [sim_out h1]; exact ha) hne hr', hs'⟩
    | suspend _ _ => rw [hsa] at hrs; exact absurd hrs (by simp [RSim])
    | cont _ _ => rw [hsa] at hrs; exact absurd hrs (by simp [RSim])
    | script _ _ => rw [hsa] at hrs; exact absurd hrs (by simp [RSim])
    | panic _ => rw [hsa] at hrs; exact absurd hrs (by simp [RSim])
  | @indicatorEnd m0 inp0 j0 m1 j1 hs ha =>
    intro x hsim
    have hrs := H5V.Model.HtmlTok.step_sim o (polOf j0) x m0 inp0 hsim
    rw [hs] at hrs
    cases hsa : step o (polOf j0) x inp0 with
    | indicator x1 i1 =>
      rw [hsa] at hrs
      obtain ⟨h1, h2⟩ := hrs
      subst h2
      exact ⟨clr x1, JRunsTo.indicatorEnd hsa (by rw [sim_out h1]; exact ha), H5V.Model.HtmlTok.sim_clr h1⟩
    | cont _ _ => rw [hsa] at hrs; exact absurd hrs (by simp [RSim])
    | suspend _ _ => rw [hsa] at hrs; exact absurd hrs (by simp [RSim])
    | script _ _ => rw [hsa] at hrs; exact absurd hrs (by simp [RSim])
    | panic _ => rw [hsa] at hrs; exact absurd hrs (by simp [RSim])

/-- one step onward from an `RSim`-related first step (same joint state) -/
theorem jrunsTo_of_rsim {o : TOpts} {ma mb : Mach} {ia ib : Chars} {j : JState} {m' : Mach} {j' : JState}
    (hrs : RSim (step o (polOf j) ma ia) (step o (polOf j) mb ib)) (hrun : JRunsTo o mb ib j m' j') :
    ∃ m'', JRunsTo o ma ia j m'' j' ∧ Sim m'' m' := by
  cases hrun with
  | susp hs ha =>
    rw [hs] at hrs
    cases hsa : step o (polOf j) ma ia with
    | suspend x i =>
      rw [hsa] at hrs
      obtain ⟨h1, h2⟩ := hrs
      subst h2
      exact ⟨clr x, JRunsTo.susp hsa (by rw [sim_out h1]; exact ha), H5V.Model.HtmlTok.sim_clr h1⟩
    | cont x i => rw [hsa] at hrs; exact absurd hrs (by simp [RSim])
    | script x i => rw [hsa] at hrs; exact absurd hrs (by simp [RSim])
    | indicator x i => rw [hsa] at hrs; exact absurd hrs (by simp [RSim])
    | panic e => rw [hsa] at hrs; exact absurd hrs (by simp [RSim])
  | cont hs ha hr =>
    rw [hs] at hrs
    cases hsa : step o (polOf j) ma ia with
    | cont x i =>
      rw [hsa] at hrs
      obtain ⟨h1, h2⟩ := hrs
      subst h2
      obtain ⟨m'', hr', hs'⟩ := jrunsTo_sim hr (clr x) (H5V.Model.HtmlTok.sim_clr h1)
      exact ⟨m'', JRunsTo.cont hsa (by rw [sim_out h1]; exact ha) hr', hs'⟩
    | suspend x i => rw [hsa] at hrs; exact absurd hrs (by simp [RSim])
    | script x i => rw [hsa] at hrs; exact absurd hrs (by simp [RSim])
    | indicator x i => rw [hsa] at hrs; exact absurd hrs (by simp [RSim])
    | panic e => rw [hsa] at hrs; exact absurd hrs (by simp [RSim])
  | script hs ha hne hr =>
    rw [hs] at hrs
    cases hsa : step o (polOf j) ma ia with
    | script x i =>
      rw [hsa] at hrs
      obtain ⟨h1, h2⟩ := hrs
      subst h2
      obtain ⟨m'', hr', hs'⟩ := jrunsTo_sim hr (clr x) (H5V.Model.HtmlTok.sim_clr h1)
      exact ⟨m'', JRunsTo.script hsa (by rw [sim_out h1]; exact ha) hne hr', hs'⟩
    | suspend x i => rw [hsa] at hrs; exact absurd hrs (by simp [RSim])
    | cont x i => rw [hsa] at hrs; exact absurd hrs (by simp [RSim])
    | indicator x i => rw [hsa] at hrs; exact absurd hrs (by simp [RSim])
    | panic e => rw [hsa] at hrs; exact absurd hrs (by simp [RSim])
  | scriptEnd hs ha =>
    rw [hs] at hrs
    cases hsa : step o (polOf j) ma ia with
    | script x i =>
      rw [hsa] at hrs
      obtain ⟨h1, h2⟩ := hrs
      subst h2
      exact ⟨clr x, JRunsTo.scriptEnd hsa (by rw [sim_out h1]; exact ha), H5V.Model.HtmlTok.sim_clr h1⟩
    | suspend x i => rw [hsa] at hrs; exact absurd hrs (by simp [RSim])
    | cont x i => rw [hsa] at hrs; exact absurd hrs (by simp [RSim])
    | indicator x i => rw [hsa] at hrs; exact absurd hrs (by simp [RSim])
    | panic e => rw [hsa] at hrs; exact absurd hrs (by simp [RSim])
  | indicator hs ha hne hr =>
    rw [hs] at hrs
    cases hsa : step o (polOf j) ma ia with
    | indicator x i =>
      rw [hsa] at hrs
      obtain ⟨h1, h2⟩ := hrs
      subst h2
      obtain ⟨m'', hr', hs'⟩ := jrunsTo_sim hr (clr x) (H5V.Model.HtmlTok.sim_clr h1)
      exact ⟨m'', JRunsTo.indicator hsa (by rw [sim_out h1]; exact ha) hne hr', hs'⟩
    | suspend x i => rw [hsa] at hrs; exact absurd hrs (by simp [RSim])
    | cont x i => rw [hsa] at hrs; exact absurd hrs (by simp [RSim])
    | script x i => rw [hsa] at hrs; exact absurd hrs (by simp [RSim])
    | panic e => rw [hsa] at hrs; exact absurd hrs (by simp [RSim])
  | indicatorEnd hs ha =>
    rw [hs] at hrs
    cases hsa : step o (polOf j) ma ia with
    | indicator x i =>
      rw [hsa] at hrs
      obtain ⟨h1, h2⟩ := hrs
      subst h2
      exact ⟨clr x, JRunsTo.indicatorEnd hsa (by rw [sim_out h1]; exact ha), H5V.Model.HtmlTok.sim_clr h1⟩
    | suspend x i => rw [hsa] at hrs; exact absurd hrs (by simp [RSim])
    | cont x i => rw [hsa] at hrs; exact absurd hrs (by simp [RSim])
    | script x i => rw [hsa] at hrs; exact absurd hrs (by simp [RSim])
    | panic e => rw [hsa] at hrs; exact absurd hrs (by simp [RSim])

/-! ### chunk merging -/

theorem absorb_nil (j : JState) : absorb [] j = .ok j := rfl

/-- **joint chunk merging**: fed `a`, the joint loop stops in `(m1, j1)`; then fed `b` it stops in
`(m2, j2)`; fed `a ++ b` in one piece it stops in a machine equal to `m2` up to a dead `current_char`
and in the SAME joint state `j2` -/
theorem jrunsTo_chunk {o : TOpts} {m : Mach} {a : Chars} {j : JState} {m1 : Mach} {j1 : JState}
    (hrun : JRunsTo o m a j m1 j1) :
    JInv m → ∀ (b : Chars) (m2 : Mach) (j2 : JState), b ≠ [] → JRunsTo o m1 b j1 m2 j2 →
      ∃ m2', JRunsTo o m (a ++ b) j m2' j2 ∧ Sim m2' m2 := by
  induction hrun with
  | @susp m0 inp0 j0 mx jx hs ha =>
    intro hi b m2 j2 _ hr2
    -- the suspended step delivered nothing
    have hout : mx.out = [] := (H5V.Model.HtmlTok.step_suspend_out o _ m0 inp0 mx [] hs).trans hi.out
    rw [hout] at ha
    have hj : jx = j0 := by
      have : absorb ([] : List (H5V.Model.HtmlTok.Token × Nat)).reverse j0 = .ok j0 := rfl
      rw [this] at ha; cases ha; rfl
    subst hj
    have hclr : clr mx = mx := by
      cases mx
      simp only at hout
      subst hout
      rfl
    rw [hclr] at hr2
    obtain ⟨_, hrs, _, _⟩ := H5V.Model.HtmlTok.step_resume o (polOf jx) m0 mx inp0 [] b hi.good hi.atEof hs
    exact jrunsTo_of_rsim hrs hr2
  | @cont m0 inp0 j0 mx ix jx mf jf hs ha _ ih =>
    intro hi b m2 j2 hb hr2
    have hmono := H5V.Model.HtmlTok.step_mono o (polOf j0) m0 inp0 b hi.good.eatOk hi.atEof (by rw [hs]; rfl)
    rw [hs] at hmono
    obtain ⟨m2', hr', hsim⟩ := ih (step_jinv hi (by rw [hs]; rfl)) b m2 j2 hb hr2
    exact ⟨m2', JRunsTo.cont hmono ha hr', hsim⟩
  | @script m0 inp0 j0 mx ix jx mf jf hs ha hne _ ih =>
    intro hi b m2 j2 hb hr2
    have hmono := H5V.Model.HtmlTok.step_mono o (polOf j0) m0 inp0 b hi.good.eatOk hi.atEof (by rw [hs]; rfl)
    rw [hs] at hmono
    obtain ⟨m2', hr', hsim⟩ := ih (step_jinv hi (by rw [hs]; rfl)) b m2 j2 hb hr2
    exact ⟨m2', JRunsTo.script hmono ha (by simp [hne]) hr', hsim⟩
  | @scriptEnd m0 inp0 j0 mx jx hs ha =>
    intro hi b m2 j2 hb hr2
    have hmono := H5V.Model.HtmlTok.step_mono o (polOf j0) m0 inp0 b hi.good.eatOk hi.atEof (by rw [hs]; rfl)
    rw [hs] at hmono
    exact ⟨m2, JRunsTo.script hmono ha (by simpa [R.ext] using hb) (by simpa [R.ext] using hr2), Sim.refl _⟩
  | @indicator m0 inp0 j0 mx ix jx mf jf hs ha hne _ ih =>
    intro hi b m2 j2 hb hr2
    have hmono := H5V.Model.HtmlTok.step_mono o (polOf j0) m0 inp0 b hi.good.eatOk hi.atEof (by rw [hs]; rfl)
    rw [hs] at hmono
    obtain ⟨m2', hr', hsim⟩ := ih (step_jinv hi (by rw [hs]; rfl)) b m2 j2 hb hr2
    exact ⟨m2', JRunsTo.indicator hmono ha (by simp [hne]) hr', hsim⟩
  | @indicatorEnd m0 inp0 j0 mx jx hs ha =>
    intro hi b m2 j2 hb hr2
    have hmono := H5V.Model.HtmlTok.step_mono o (polOf j0) m0 inp0 b hi.good.eatOk hi.atEof (by rw [hs]; rfl)
    rw [hs] at hmono
    exact ⟨m2, JRunsTo.indicator hmono ha (by simpa [R.ext] using hb) (by simpa [R.ext] using hr2), Sim.refl _⟩

/-! ### sessions -/

/-- the chunks are fed one after the other (an empty chunk is a no-op: `feed` returns at once) -/
inductive JSession (o : TOpts) : Mach → List Chars → JState → Mach → JState → Prop
  | nil {m j} : JSession o m [] j m j
  | skip {m cs j mf jf} : JSession o m cs j mf jf → JSession o m ([] :: cs) j mf jf
  | cons {m c cs j m1 j1 mf jf} : c ≠ [] → JRunsTo o m c j m1 j1 → JSession o m1 cs j1 mf jf →
      JSession o m (c :: cs) j mf jf

theorem jsession_flatten {o : TOpts} {m : Mach} {cs : List Chars} {j : JState} {mf : Mach} {jf : JState}
    (hs : JSession o m cs j mf jf) : JInv m →
    (cs.flatten = [] ∧ mf = m ∧ jf = j) ∨ (cs.flatten ≠ [] ∧ ∃ mf', JRunsTo o m cs.flatten j mf' jf ∧ Sim mf' mf) := by
  induction hs with
  | nil => intro _; exact Or.inl ⟨rfl, rfl, rfl⟩
  | skip _ ih => intro hi; simpa using ih hi
  | @cons m0 c cs0 j0 m1 j1 mf0 jf0 hne hr _ ih =>
    intro hi
    right
    have hfl : (c :: cs0).flatten = c ++ cs0.flatten := by simp
    rw [hfl]
    refine ⟨by simp [hne], ?_⟩
    rcases ih (jrunsTo_inv hr hi) with ⟨hnil, hmf, hjf⟩ | ⟨hne2, mf', hr', hsim⟩
    · subst hmf; subst hjf
      rw [hnil, List.append_nil]
      exact ⟨_, hr, Sim.refl _⟩
    · obtain ⟨m2', hr2, hsim2⟩ := jrunsTo_chunk hr hi cs0.flatten mf' jf0 hne2 hr'
      exact ⟨m2', hr2, H5V.Model.HtmlTok.Sim.trans hsim2 hsim⟩

/-! ### `Tokenizer::end` + `TreeBuilder::end` on machines equal up to a dead `current_char` -/

def JRunSim : RunRes → RunRes → Prop
  | .done a i j, .done b i' j' => Sim a b ∧ i = i' ∧ j = j'
  | .script a i j, .script b i' j' => Sim a b ∧ i = i' ∧ j = j'
  | .indicator a i j, .indicator b i' j' => Sim a b ∧ i = i' ∧ j = j'
  | .panic x, .panic y => x = y
  | _, _ => False

theorem jrun_sim (o : TOpts) : ∀ (fuel : Nat) (x y : Mach) (i : Chars) (j : JState), Sim x y →
    JRunSim (jrun o fuel x i j) (jrun o fuel y i j)
  | 0, _, _, _, _, _ => by rw [run_zero, run_zero]; exact rfl
  | fuel + 1, x, y, i, j, h => by
    have hs := H5V.Model.HtmlTok.step_sim o (polOf j) x y i h
    rw [run_succ, run_succ]
    cases hx : step o (polOf j) x i <;> cases hy : step o (polOf j) y i <;> rw [hx, hy] at hs <;>
      simp only [RSim] at hs
    · obtain ⟨h1, h2⟩ := hs
      subst h2
      simp only [deliver, sim_out h1]
      cases absorb _ j with
      | error e => exact rfl
      | ok j1 => exact jrun_sim o fuel _ _ _ j1 (H5V.Model.HtmlTok.sim_clr h1)
    · obtain ⟨h1, h2⟩ := hs
      subst h2
      simp only [deliver, sim_out h1]
      cases absorb _ j with
      | error e => exact rfl
      | ok j1 => exact ⟨H5V.Model.HtmlTok.sim_clr h1, rfl, rfl⟩
    · obtain ⟨h1, h2⟩ := hs
      subst h2
      simp only [deliver, sim_out h1]
      cases absorb _ j with
      | error e => exact rfl
      | ok j1 => exact ⟨H5V.Model.HtmlTok.sim_clr h1, rfl, rfl⟩
    · obtain ⟨h1, h2⟩ := hs
      subst h2
      simp only [deliver, sim_out h1]
      cases absorb _ j with
      | error e => exact rfl
      | ok j1 => exact ⟨H5V.Model.HtmlTok.sim_clr h1, rfl, rfl⟩
    · subst hs; exact rfl

/-- the tail of `Joint.finish` after the final `run` stopped with `Done` -/
def finishTail (o : TOpts) (m : Mach) (inp : Chars) (j : JState) : Except String JState :=
  if !inp.isEmpty then throw "assert@tokenizer/mod.rs: assertion failed: input.is_empty()"
  else
    match H5V.Model.HtmlTok.eofLoop o 8 m with
    | .error e => throw ("tokenizer@tokenizer: " ++ e)
    | .ok m =>
      match absorb m.out.reverse j with
      | .error e => .error e
      | .ok j =>
        match H5V.Model.HtmlTB.finishTB.run j.tb with
        | .error e => throw e
        | .ok (_, tb) => pure { j with tb := tb }

theorem finishTail_sim (o : TOpts) {a b : Mach} (h : Sim a b) (inp : Chars) (j : JState) :
    finishTail o a inp j = finishTail o b inp j := by
  rcases h with h | ⟨hd, c, hc⟩
  · rw [h]
  · subst hc
    unfold finishTail
    rw [H5V.Props.C03.eofLoop_setCC o 8 a c (H5V.Props.C03.deadCC_not_mdo hd)]
    cases H5V.Model.HtmlTok.eofLoop o 8 a with
    | error e => rfl
    | ok m => rfl

/-- `Joint.finish` for a machine without a pending character reference -/
theorem finish_none (o : TOpts) (m : Mach) (j : JState) (h : m.charRef = none) :
    H5V.Model.HtmlTB.Joint.finish o m j =
      match jrun o (fuelFor (m.setAtEof true) []) (m.setAtEof true) [] j with
      | .done m inp j => finishTail o m inp j
      | .script _ _ _ => throw "assert@tokenizer/mod.rs: matches!(self.run(&input), TokenizerResult::Done)"
      | .indicator _ _ _ => throw "assert@tokenizer/mod.rs: matches!(self.run(&input), TokenizerResult::Done)"
      | .panic e => throw e := by
  unfold H5V.Model.HtmlTB.Joint.finish
  simp only [h]
  show (match jrun o (fuelFor (m.setAtEof true) []) (m.setAtEof true) [] j with
    | .done m inp j => _ | .script _ _ _ => _ | .indicator _ _ _ => _ | .panic e => _) = _
  cases jrun o (fuelFor (m.setAtEof true) []) (m.setAtEof true) [] j with
  | done m1 i1 j1 =>
    simp only [finishTail]
    split
    · rfl
    · cases H5V.Model.HtmlTok.eofLoop o 8 m1 with
      | error e => rfl
      | ok m2 =>
        simp only
        cases absorb m2.out.reverse j1 with
        | error e => rfl
        | ok j2 =>
          show (match H5V.Model.HtmlTB.finishTB.run j2.tb with
            | .error e => throw e
            | .ok (_, tb) => pure { j2 with tb := tb } : Except String JState) =
            (match H5V.Model.HtmlTB.finishTB.run j2.tb with
            | .error e => throw e
            | .ok (_, tb) => pure { j2 with tb := tb } : Except String JState)
          cases H5V.Model.HtmlTB.finishTB.run j2.tb with
          | error e => rfl
          | ok v => rfl
  | script _ _ _ => rfl
  | indicator _ _ _ => rfl
  | panic e => rfl

/-- **`Parser::finish` on machines equal up to a dead `current_char`** gives the same joint state -/
theorem finish_sim (o : TOpts) {a b : Mach} (h : Sim a b) (j : JState) :
    H5V.Model.HtmlTB.Joint.finish o a j = H5V.Model.HtmlTB.Joint.finish o b j := by
  rcases h with h | ⟨hd, c, hc⟩
  · rw [h]
  · subst hc
    obtain ⟨hr, hcr, hk⟩ := hd
    have hcr2 : (a.setCurrentChar c).charRef = none := hcr
    rw [finish_none o a j hcr, finish_none o _ j hcr2]
    have hdead : H5V.Model.HtmlTok.deadCC (a.setAtEof true) := ⟨hr, hcr, hk⟩
    have hsim : Sim (a.setAtEof true) ((a.setCurrentChar c).setAtEof true) := Or.inr ⟨hdead, c, rfl⟩
    have hf : fuelFor ((a.setCurrentChar c).setAtEof true) [] = fuelFor (a.setAtEof true) [] := rfl
    rw [hf]
    have hrs := jrun_sim o (fuelFor (a.setAtEof true) []) _ _ [] j hsim
    generalize jrun o (fuelFor (a.setAtEof true) []) (a.setAtEof true) [] j = rx at hrs ⊢
    generalize jrun o (fuelFor (a.setAtEof true) []) ((a.setCurrentChar c).setAtEof true) [] j = ry at hrs ⊢
    cases rx <;> cases ry <;> simp only [JRunSim] at hrs <;> dsimp only
    · obtain ⟨h1, h2, h3⟩ := hrs
      subst h2; subst h3
      exact finishTail_sim o h1 _ _
    · rw [hrs]

end H5V.Lemmas.JointChunk
