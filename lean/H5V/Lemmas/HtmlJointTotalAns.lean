import H5V.Lemmas.HtmlTBMetaRun
import H5V.Lemmas.HtmlTBSafeRun
/-!
What the tree builder may answer to which token.

* **Anything but a tag token is answered with `Continue`** (`processToken_nontag_continue`): the tokenizer's
  assertion `process_token_and_continue` (tokenizer/mod.rs:257) never fires in the joint model.
* **A `RawData(k)` answer asks for `Rcdata`, `Rawtext` or `ScriptData`**, never for an escaped script-data
  state (`ans_processToken`, second half; restated in HtmlParseSpecNoEsc.lean).

Both facts are syntactic, like `H5V.Props.C19.ans_processToken` (an encoding indicator only for a `meta` start
tag): `ProcessResult.script` / `.toPlaintext` / `.toRawData` / `.encodingIndicator` are only built in arms of
the rules that have matched the token as a tag, `.toRawData k` only by `toRawTextMode k`, which the rules call
with the literals `.rcdata` / `.rawtext` (through `parseRawData`) and `.scriptData`, and every `Reprocess`
hands on the token the rule was given.  Same walk as `HtmlTBMetaRules.lean` / `HtmlTBMetaRun.lean` (the answer
judgement `H5V.Props.C19.Ans`: tail positions only), with `TOk` for `ROk`.
-/
namespace H5V.Lemmas.ParseSpec
open H5V.Model.HtmlTok (RawKind)

/-- the raw-text kinds the tree builder asks for -/
def GoodKind (k : RawKind) : Prop := k = .rcdata ∨ k = .rawtext ∨ k = .scriptData

end H5V.Lemmas.ParseSpec

namespace H5V.Lemmas.JointTotal.A
open H5V.Model.Dom (Id QualName Attr NodeOrText SinkOp Output ElementFlags QuirksMode Dom)
open H5V.Model.HtmlTB
open H5V.Model.HtmlTok (RawKind)
open H5V.Lemmas.TBM
open H5V.Props.C19 (Ans Carried)
open H5V.Lemmas.ParseSpec (GoodKind)
open H5V.Lemmas.TBSafe (ptcCont processToCompletion_succ)

def IsTag : Token → Prop
  | .tag _ => True
  | _ => False

/-- an answer that mentions no token and does not pause or switch the tokenizer -/
def Plain3 : ProcessResult → Prop
  | .reprocess _ _ => False
  | .reprocessForeign _ => False
  | .encodingIndicator _ => False
  | .script _ => False
  | .toPlaintext => False
  | .toRawData _ => False
  | _ => True

/-- an acceptable answer of a rule that was handed `tok` -/
def TOk (tok : Token) : ProcessResult → Prop
  | .reprocess _ t => t = tok
  | .reprocessForeign t => t = tok
  | .encodingIndicator _ => IsTag tok
  | .script _ => IsTag tok
  | .toPlaintext => IsTag tok
  | .toRawData k => IsTag tok ∧ GoodKind k
  | _ => True

theorem TOk.of_plain3 {tok : Token} {r : ProcessResult} (h : Plain3 r) : TOk tok r := by
  cases r <;> first | trivial | exact absurd h (by simp [Plain3])

instance (priority := low) instPlain3 {tok : Token} {m : M ProcessResult} [h : Ans Plain3 m] : Ans (TOk tok) m :=
  h.mono fun _ => TOk.of_plain3

/-- One step of the walk over a rule.  The structural rules come first and fire by the head symbol of the
computation (`if`, `>>=`, `pure`, `throw`); only a call in tail position is left to instance search. -/
syntax "tk_step" : tactic
macro_rules
  | `(tactic| tk_step) => `(tactic|
    first
      | with_reducible apply Ans.iteH
      | with_reducible apply Ans.pureBind
      | with_reducible apply Ans.bind
      | intro _
      | (with_reducible refine Ans.pure ?_
         first | exact trivial | exact rfl | with_reducible assumption)
      | with_reducible exact Ans.throw _
      | with_reducible exact Ans.panicAt _ _ _
      | with_reducible exact Ans.fuelOut _
      | with_reducible assumption
      | exact inferInstance
      | split
      | dsimp only)

syntax "tk_walk" : tactic
macro_rules
  | `(tactic| tk_walk) => `(tactic| repeat' tk_step)

/-! ### helpers -/

/-- the only constructor site of `.toRawData` -/
theorem ans_toRawTextMode {Q : ProcessResult → Prop} {k : RawKind} (hk : Q (.toRawData k)) :
    Ans Q (toRawTextMode k) := by
  unfold toRawTextMode; tk_walk

theorem ans_parseRawData {Q : ProcessResult → Prop} (tag : Tag) {k : RawKind} (hk : Q (.toRawData k)) :
    Ans Q (parseRawData tag k) := by
  have h := ans_toRawTextMode hk
  unfold parseRawData; tk_walk

instance (t : Tag) : Ans (TOk (.tag t)) (toRawTextMode .scriptData) :=
  ans_toRawTextMode ⟨trivial, Or.inr (Or.inr rfl)⟩
instance (t tag : Tag) : Ans (TOk (.tag t)) (parseRawData tag .rcdata) := ans_parseRawData tag ⟨trivial, Or.inl rfl⟩
instance (t tag : Tag) : Ans (TOk (.tag t)) (parseRawData tag .rawtext) :=
  ans_parseRawData tag ⟨trivial, Or.inr (Or.inl rfl)⟩

instance : Ans Plain3 unexpected := by unfold unexpected; tk_walk
instance (t : Str) : Ans Plain3 (appendText t) := by unfold appendText; tk_walk
instance (t : Str) : Ans Plain3 (appendComment t) := by unfold appendComment; tk_walk
instance (t : Str) : Ans Plain3 (appendCommentToDoc t) := by unfold appendCommentToDoc; tk_walk
instance (t : Str) : Ans Plain3 (appendCommentToHtml t) := by unfold appendCommentToHtml; tk_walk
instance (tag : Tag) : Ans Plain3 (inBodyHtml tag) := by unfold inBodyHtml; tk_walk
instance (tag : Tag) : Ans Plain3 (inBodyVoid tag) := by unfold inBodyVoid; tk_walk
instance (tag : Tag) (ns : Str) : Ans Plain3 (enterForeign tag ns) := by unfold enterForeign; tk_walk
instance (tag : Tag) : Ans Plain3 (foreignStartTag tag) := by unfold foreignStartTag; tk_walk
instance : Ans (TOk .eof) inTemplateEof := by unfold inTemplateEof; tk_walk

/-! ### the insertion modes -/

instance (tok : Token) : Ans (TOk tok) (stepInHead tok) := by unfold stepInHead; tk_walk

-- the places where an answer is bound, something else is done, and the answer is returned
theorem ans_stepInHead_bind {β : Type} {Q : β → Prop} {tok : Token} {f : ProcessResult → M β}
    (h : ∀ r, TOk tok r → Ans Q (f r)) : Ans Q (stepInHead tok >>= f) := Ans.bindK inferInstance h

macro_rules
  | `(tactic| tk_step) => `(tactic| with_reducible apply ans_stepInHead_bind)

instance (tok : Token) : Ans (TOk tok) (stepInitial tok) := by unfold stepInitial; tk_walk
instance (tok : Token) : Ans (TOk tok) (stepBeforeHtml tok) := by unfold stepBeforeHtml; tk_walk
instance (tok : Token) : Ans (TOk tok) (stepInBody tok) := by unfold stepInBody; tk_walk
theorem ans_stepInBody_bind {β : Type} {Q : β → Prop} {tok : Token} {f : ProcessResult → M β}
    (h : ∀ r, TOk tok r → Ans Q (f r)) : Ans Q (stepInBody tok >>= f) := Ans.bindK inferInstance h

macro_rules
  | `(tactic| tk_step) => `(tactic| with_reducible apply ans_stepInBody_bind)

instance (tok : Token) : Ans (TOk tok) (stepBeforeHead tok) := by unfold stepBeforeHead; tk_walk
instance (tok : Token) : Ans (TOk tok) (stepInHeadNoscript tok) := by unfold stepInHeadNoscript; tk_walk
instance (tok : Token) : Ans (TOk tok) (stepAfterHead tok) := by unfold stepAfterHead; tk_walk
instance (tok : Token) : Ans (TOk tok) (stepText tok) := by unfold stepText; tk_walk
instance (tok : Token) : Ans (TOk tok) (fosterParentInBody tok) := by unfold fosterParentInBody; tk_walk
instance (tok : Token) : Ans (TOk tok) (processCharsInTable tok) := by unfold processCharsInTable; tk_walk
instance (tok : Token) : Ans (TOk tok) (stepInTable tok) := by unfold stepInTable; tk_walk
instance (tok : Token) : Ans (TOk tok) (stepInTableText tok) := by unfold stepInTableText; tk_walk
instance (tok : Token) : Ans (TOk tok) (stepInCaption tok) := by unfold stepInCaption; tk_walk
instance (tok : Token) : Ans (TOk tok) (stepInColumnGroup tok) := by unfold stepInColumnGroup; tk_walk
instance (tok : Token) : Ans (TOk tok) (stepInTableBody tok) := by unfold stepInTableBody; tk_walk
instance (tok : Token) : Ans (TOk tok) (stepInRow tok) := by unfold stepInRow; tk_walk
instance (tok : Token) : Ans (TOk tok) (stepInCell tok) := by unfold stepInCell; tk_walk
instance (tok : Token) : Ans (TOk tok) (stepInTemplate tok) := by unfold stepInTemplate; tk_walk
instance (tok : Token) : Ans (TOk tok) (stepAfterBody tok) := by unfold stepAfterBody; tk_walk
instance (tok : Token) : Ans (TOk tok) (stepInFrameset tok) := by unfold stepInFrameset; tk_walk
instance (tok : Token) : Ans (TOk tok) (stepAfterFrameset tok) := by unfold stepAfterFrameset; tk_walk
instance (tok : Token) : Ans (TOk tok) (stepAfterAfterBody tok) := by unfold stepAfterAfterBody; tk_walk
instance (tok : Token) : Ans (TOk tok) (stepAfterAfterFrameset tok) := by unfold stepAfterAfterFrameset; tk_walk

instance (mode : Mode) (tok : Token) : Ans (TOk tok) (step mode tok) := by
  cases mode <;> (unfold step; exact inferInstance)

/-! ### foreign content -/

instance (tag : Tag) : Ans (TOk (.tag tag)) (unexpectedStartTagInForeignContent tag) := by
  unfold unexpectedStartTagInForeignContent; tk_walk

theorem ans_foreignEndTagLoop (tag : Tag) : ∀ (i : Nat) (first : Bool), Ans (TOk (.tag tag)) (foreignEndTagLoop tag i first)
  | 0, _ => by unfold foreignEndTagLoop; tk_walk
  | i + 1, first => by
    have ih := ans_foreignEndTagLoop tag i
    unfold foreignEndTagLoop; tk_walk
instance (tag : Tag) (i : Nat) (first : Bool) : Ans (TOk (.tag tag)) (foreignEndTagLoop tag i first) :=
  ans_foreignEndTagLoop tag i first

instance (tok : Token) : Ans (TOk tok) (stepForeign tok) := by unfold stepForeign; tk_walk

/-! ### `process_to_completion` and `process_token` -/

/-- An acceptable answer of `process_token`, when every token `process_to_completion` works on satisfies `C`:
anything but `Continue` answers a tag token among them, and `RawData` asks for an unescaped kind. -/
def SOk (C : Token → Prop) (r : SinkResult) : Prop :=
  (r ≠ .continue_ → ∃ t, C t ∧ IsTag t) ∧ ∀ k, r = .rawData k → GoodKind k

theorem IsTag.carried {tok0 t : Token} (h : IsTag t) (hc : Carried tok0 t) : IsTag tok0 := by
  rcases hc with rfl | ⟨st, s, rfl⟩
  · exact h
  · cases h

theorem ans_step_bind {β : Type} {Q : β → Prop} {mode : Mode} {tok : Token} {f : ProcessResult → M β}
    (h : ∀ r, TOk tok r → Ans Q (f r)) : Ans Q (step mode tok >>= f) := Ans.bindK inferInstance h

theorem ans_stepForeign_bind {β : Type} {Q : β → Prop} {tok : Token} {f : ProcessResult → M β}
    (h : ∀ r, TOk tok r → Ans Q (f r)) : Ans Q (stepForeign tok >>= f) := Ans.bindK inferInstance h

macro_rules
  | `(tactic| tk_step) => `(tactic|
      first | with_reducible apply ans_step_bind | with_reducible apply ans_stepForeign_bind)

theorem SOk.continue_ {C : Token → Prop} : SOk C .continue_ :=
  ⟨fun h => absurd rfl h, fun _ h => SinkResult.noConfusion h⟩

/-- The loop: `C` holds of every token it works on as long as it holds of the token handed in, of the queue
and of the pieces of a split character token. -/
theorem ans_ptc {C : Token → Prop} (hC : ∀ st s, C (.chars st s)) (fuel : Nat) :
    ∀ (token : Token) (more : List Token), C token → (∀ t ∈ more, C t) →
      Ans (SOk C) (processToCompletion fuel token more) := by
  induction fuel with
  | zero => intro token more _ _; unfold processToCompletion; exact Ans.fuelOut _
  | succ fuel ih =>
    intro token more hc hm
    have hsnoc : ∀ rest : Str, ∀ t ∈ more ++ [Token.chars .notSplit rest], C t := fun rest x hx => by
      rcases List.mem_append.mp hx with hx | hx
      · exact hm x hx
      · rw [List.mem_singleton.mp hx]; exact hC _ _
    rw [processToCompletion_succ]
    suffices hk : ∀ result, TOk token result → Ans (SOk C) (ptcCont fuel token more result) by
      tk_walk
      all_goals exact hk _ ‹_›
    intro result hr
    unfold ptcCont
    have hnext : ∀ t rest, more = t :: rest → Ans (SOk C) (processToCompletion fuel t rest) := fun t rest e =>
      ih t rest (hm t (e ▸ List.mem_cons_self)) (fun x hx => hm x (e ▸ List.mem_cons_of_mem _ hx))
    cases result with
    | done =>
      dsimp only; tk_walk
      all_goals first | exact Ans.pure SOk.continue_ | exact hnext _ _ rfl
    | doneAckSelfClosing =>
      dsimp only; tk_walk
      all_goals first | exact Ans.pure SOk.continue_ | exact hnext _ _ rfl
    | reprocess m t =>
      have e : t = token := hr
      subst e; dsimp only; tk_walk
      exact ih _ _ hc hm
    | reprocessForeign t =>
      have e : t = token := hr
      subst e; exact ih _ _ hc hm
    | splitWhitespace buf =>
      dsimp only; tk_walk
      all_goals first
        | exact Ans.pure SOk.continue_ | exact ih _ _ (hC _ _) hm | exact ih _ _ (hC _ _) (hsnoc _)
    | script node =>
      dsimp only; tk_walk
      all_goals exact Ans.pure ⟨fun _ => ⟨_, hc, hr⟩, fun _ h => SinkResult.noConfusion h⟩
    | toPlaintext =>
      dsimp only; tk_walk
      all_goals exact Ans.pure ⟨fun _ => ⟨_, hc, hr⟩, fun _ h => SinkResult.noConfusion h⟩
    | encodingIndicator l => exact Ans.pure ⟨fun _ => ⟨_, hc, hr⟩, fun _ h => SinkResult.noConfusion h⟩
    | toRawData k =>
      dsimp only; tk_walk
      all_goals exact Ans.pure ⟨fun _ => ⟨_, hc, hr.1⟩, fun k' h => by cases h; exact hr.2⟩

theorem IsTag.eq {t : Token} (h : IsTag t) : ∃ tag, t = .tag tag := by
  cases t <;> first | exact ⟨_, rfl⟩ | cases h

theorem ans_ptc_top (t : Token) (fuel : Nat) :
    Ans (fun r => (r ≠ .continue_ → IsTag t) ∧ ∀ k, r = .rawData k → GoodKind k) (processToCompletion fuel t []) :=
  (ans_ptc (C := Carried t) (fun _ _ => Or.inr ⟨_, _, rfl⟩) fuel t [] (Or.inl rfl) (fun _ h => nomatch h)).mono
    fun _ h => ⟨fun hr => let ⟨_, hc, ht⟩ := h.1 hr; ht.carried hc, h.2⟩

/-- **`process_token`**: anything but `Continue` is answered only to a tag token, and `RawData(k)` only with
`k` one of `Rcdata`, `Rawtext`, `ScriptData` -/
theorem ans_processToken (tok : TokToken) (line : Nat) :
    Ans (fun r => (r ≠ .continue_ → ∃ tag, tok = .tag tag) ∧ ∀ k, r = .rawData k → GoodKind k)
      (processToken tok line) := by
  unfold processToken
  tk_walk
  -- left: `Continue` where the builder gets no token; else the run of a tag, of a comment / null / EOF
  -- token, or of what `charsToken` has made of a character token
  all_goals first
    | exact Ans.pure ⟨fun h => absurd rfl h, fun _ h => SinkResult.noConfusion h⟩
    | exact (ans_ptc_top _ _).mono fun _ h => ⟨fun _ => ⟨_, rfl⟩, h.2⟩
    | exact (ans_ptc_top _ _).mono fun _ h => ⟨fun hr => False.elim (h.1 hr), h.2⟩
    | exact (ans_ptc_top _ _).mono fun _ h => ⟨fun hr =>
        let ⟨tag, e⟩ := (h.1 hr).eq; absurd e (H5V.Props.C19.charsToken_not_tag ‹_› tag), h.2⟩

theorem processToken_nontag_continue (tok : TokToken) (line : Nat) (s s' : State) (r : SinkResult)
    (h : (processToken tok line).run s = .ok (r, s')) (hnt : ∀ tag, tok ≠ .tag tag) : r = .continue_ := by
  by_cases hr : r = .continue_
  · exact hr
  · obtain ⟨tag, e⟩ := ((ans_processToken tok line).h s r s' h).1 hr
    exact absurd e (hnt tag)

end H5V.Lemmas.JointTotal.A
