import H5V.Lemmas.HtmlTBReachAA
/-!
C18, tree-builder side: the rules of `tree_builder/rules.rs` up to and including "in body" pass only known
handles to the sink.
-/
namespace H5V.Props.C18
open H5V.Model.Dom (Id QualName Attr NodeOrText SinkOp Output ElementFlags QuirksMode Dom)
open H5V.Model.HtmlTB
open H5V.Lemmas.TBM

instance pv_extractEncoding (content : Str) : Call (extractEncoding content) [] nil := ⟨by
  unfold extractEncoding; pv_walk⟩

instance pv_stepInitial (t : Token) : Call (stepInitial t) [] prH := ⟨by unfold stepInitial; pv_walk⟩

instance pv_stepBeforeHtml (t : Token) : Call (stepBeforeHtml t) [] prH := ⟨by unfold stepBeforeHtml; pv_walk⟩

instance pv_inBodyHtml (t : Tag) : Call (inBodyHtml t) [] prH := ⟨by unfold inBodyHtml; pv_walk⟩

instance pv_shouldAttachDeclarativeShadow (t : Tag) : Call (shouldAttachDeclarativeShadow t) [] nil := ⟨by
  unfold shouldAttachDeclarativeShadow
  refine PV.bindCall (by mem_tac) fun ip => ?_
  have h1 := nodes_fst_mem ip
  pv_walk⟩

instance pv_stepInHead (t : Token) : Call (stepInHead t) [] prH := ⟨by unfold stepInHead; pv_walk⟩

instance pv_inTemplateEof : Call inTemplateEof [] prH := ⟨by unfold inTemplateEof; pv_walk⟩

instance pv_inBodyVoid (t : Tag) : Call (inBodyVoid t) [] prH := ⟨by unfold inBodyVoid; pv_walk⟩

instance pv_listCloseSearch (b : Bool) : ∀ l : List Id, Call (listCloseSearch b l) l nil
  | [] => ⟨by unfold listCloseSearch; pv_walk⟩
  | e :: rest => ⟨by have ih := pv_listCloseSearch b rest; unfold listCloseSearch; pv_walk⟩

instance pv_findOption : ∀ l : List Id, Call (findOption l) l Option.toList
  | [] => ⟨by unfold findOption; pv_walk⟩
  | e :: rest => ⟨by have ih := pv_findOption rest; unfold findOption; pv_walk⟩

instance pv_anySameNode (x : Id) : ∀ l : List Id, Call (anySameNode x l) (x :: l) nil
  | [] => ⟨by unfold anySameNode; pv_walk⟩
  | e :: rest => ⟨by have ih := pv_anySameNode x rest; unfold anySameNode; pv_walk⟩

instance pv_contextIsSelect (site : String) : Call (contextIsSelect site) [] nil := ⟨by unfold contextIsSelect; pv_walk⟩

instance pv_stepInBody (t : Token) : Call (stepInBody t) [] prH := ⟨by unfold stepInBody; pv_walk⟩

end H5V.Props.C18
