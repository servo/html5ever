import H5V.Lemmas.HtmlTokOptE
import H5V.Lemmas.HtmlJointChunkTok
/-!
Naturality of the HTML tokenizer model in the `out` register.

The log of delivered tokens `Mach.out` is only ever extended at its head (`emit`) and shown to the sink
policy (`pol.onTag`, `pol.cdataOk`).  Hence a step of the machine `sh pre m` (the machine `m` with an
older log `pre` below its own) is the step of `m` with `pre` appended, the policy being consulted at the
shifted history.  Two policies appear (one for each machine) and no global relation between them is
assumed: `step_shift` exposes the single tag query a step can make.
-/
namespace H5V.Lemmas.ParseSpec
open H5V.Model.HtmlTok

/-- the machine with an older log `pre` below its own -/
def sh (pre : Out) (m : Mach) : Mach := { m with out := m.out ++ pre }

def shR (pre : Out) : R → R
  | .cont m i => .cont (sh pre m) i
  | .suspend m i => .suspend (sh pre m) i
  | .script m i => .script (sh pre m) i
  | .indicator m i => .indicator (sh pre m) i
  | .panic e => .panic e

def shMS (pre : Out) (x : Mach × Sig) : Mach × Sig := (sh pre x.1, x.2)

/-! ### registers of the shifted machine

(deliberately not `rfl`-lemmas: `simp` then rewrites with congruence and repairs the `Decidable`
instances of the `if`s, so that `split` resolves both sides at once) -/

@[simp] theorem sh_state (pre : Out) (m : Mach) : (sh pre m).state = m.state := by cases m; rfl
@[simp] theorem sh_charRef (pre : Out) (m : Mach) : (sh pre m).charRef = m.charRef := by cases m; rfl
@[simp] theorem sh_currentChar (pre : Out) (m : Mach) : (sh pre m).currentChar = m.currentChar := by cases m; rfl
@[simp] theorem sh_reconsume (pre : Out) (m : Mach) : (sh pre m).reconsume = m.reconsume := by cases m; rfl
@[simp] theorem sh_ignoreLf (pre : Out) (m : Mach) : (sh pre m).ignoreLf = m.ignoreLf := by cases m; rfl
@[simp] theorem sh_tagKind (pre : Out) (m : Mach) : (sh pre m).tagKind = m.tagKind := by cases m; rfl
@[simp] theorem sh_tagName (pre : Out) (m : Mach) : (sh pre m).tagName = m.tagName := by cases m; rfl
@[simp] theorem sh_tagSelfClosing (pre : Out) (m : Mach) : (sh pre m).tagSelfClosing = m.tagSelfClosing := by cases m; rfl
@[simp] theorem sh_tagHadDup (pre : Out) (m : Mach) : (sh pre m).tagHadDup = m.tagHadDup := by cases m; rfl
@[simp] theorem sh_tagAttrs (pre : Out) (m : Mach) : (sh pre m).tagAttrs = m.tagAttrs := by cases m; rfl
@[simp] theorem sh_attrName (pre : Out) (m : Mach) : (sh pre m).attrName = m.attrName := by cases m; rfl
@[simp] theorem sh_attrValue (pre : Out) (m : Mach) : (sh pre m).attrValue = m.attrValue := by cases m; rfl
@[simp] theorem sh_comment (pre : Out) (m : Mach) : (sh pre m).comment = m.comment := by cases m; rfl
@[simp] theorem sh_doctype (pre : Out) (m : Mach) : (sh pre m).doctype = m.doctype := by cases m; rfl
@[simp] theorem sh_lastStartTag (pre : Out) (m : Mach) : (sh pre m).lastStartTag = m.lastStartTag := by cases m; rfl
@[simp] theorem sh_tempBuf (pre : Out) (m : Mach) : (sh pre m).tempBuf = m.tempBuf := by cases m; rfl
@[simp] theorem sh_line (pre : Out) (m : Mach) : (sh pre m).line = m.line := by cases m; rfl
@[simp] theorem sh_atEof (pre : Out) (m : Mach) : (sh pre m).atEof = m.atEof := by cases m; rfl
@[simp] theorem sh_discardBom (pre : Out) (m : Mach) : (sh pre m).discardBom = m.discardBom := by cases m; rfl
@[simp] theorem sh_out (pre : Out) (m : Mach) : (sh pre m).out = m.out ++ pre := by cases m; rfl
@[simp] theorem sh_hae (pre : Out) (m : Mach) : haveAppropriateEndTag (sh pre m) = haveAppropriateEndTag m := by cases m; rfl

/-- `b` is `a` with the older log `pre` below its own -/
def Sh (pre : Out) (a b : Mach) : Prop := b = sh pre a

theorem Sh.refl (pre : Out) (a : Mach) : Sh pre a (sh pre a) := rfl


/-! ### helper congruences -/

macro "sh_same" h:ident : tactic => `(tactic| (subst $h; rfl))

variable {pre : Out}

theorem Sh_emit {a b : Mach} (h : Sh pre a b) (t : Token) : Sh pre (emit a t) (emit b t) := by sh_same h
theorem Sh_to {a b : Mach} (h : Sh pre a b) (s : State) : Sh pre (to s a) (to s b) := by sh_same h
theorem Sh_clearComment {a b : Mach} (h : Sh pre a b) : Sh pre (clearComment a) (clearComment b) := by sh_same h
theorem Sh_takeTag {a b : Mach} (h : Sh pre a b) : Sh pre (takeTag a) (takeTag b) := by sh_same h
theorem Sh_selfClosing {a b : Mach} (h : Sh pre a b) :
    Sh pre { a with tagSelfClosing := true } { b with tagSelfClosing := true } := by sh_same h
theorem Sh_setIgnoreLf {a b : Mach} (h : Sh pre a b) (x : Bool) : Sh pre (a.setIgnoreLf x) (b.setIgnoreLf x) := by sh_same h
theorem Sh_setReconsume {a b : Mach} (h : Sh pre a b) (x : Bool) : Sh pre (a.setReconsume x) (b.setReconsume x) := by sh_same h
theorem Sh_setTempBuf {a b : Mach} (h : Sh pre a b) (x : Str) : Sh pre (a.setTempBuf x) (b.setTempBuf x) := by sh_same h
theorem Sh_setCharRef {a b : Mach} (h : Sh pre a b) (x : Option CharRefSt) : Sh pre (a.setCharRef x) (b.setCharRef x) := by sh_same h
theorem Sh_setAtEof {a b : Mach} (h : Sh pre a b) (x : Bool) : Sh pre (a.setAtEof x) (b.setAtEof x) := by sh_same h
theorem Sh_setDiscardBom {a b : Mach} (h : Sh pre a b) (x : Bool) : Sh pre (a.setDiscardBom x) (b.setDiscardBom x) := by sh_same h
theorem Sh_bumpLine {a b : Mach} (h : Sh pre a b) : Sh pre a.bumpLine b.bumpLine := by sh_same h
theorem Sh_setCurrentChar {a b : Mach} (h : Sh pre a b) (x : Char) : Sh pre (a.setCurrentChar x) (b.setCurrentChar x) := by sh_same h
theorem Sh_emitErr {a b : Mach} (h : Sh pre a b) (s : String) : Sh pre (emitErr a s) (emitErr b s) := by sh_same h
theorem Sh_ite (c : Prop) [Decidable c] {a b a' b' : Mach} (h1 : Sh pre a b) (h2 : Sh pre a' b') :
    Sh pre (if c then a else a') (if c then b else b') := by
  split <;> assumption
theorem Sh_emitChar {a b : Mach} (h : Sh pre a b) (c : Char) : Sh pre (emitChar a c) (emitChar b c) := by
  unfold emitChar; split <;> exact Sh_emit h _
theorem Sh_badChar {a b : Mach} (h : Sh pre a b) (o : Opts) : Sh pre (badChar o a) (badChar o b) := by
  subst h; unfold badChar; split <;> rfl
theorem Sh_badEof {a b : Mach} (h : Sh pre a b) (o : Opts) : Sh pre (badEof o a) (badEof o b) := by
  subst h; unfold badEof; split <;> rfl
theorem Sh_finishAttribute {a b : Mach} (h : Sh pre a b) : Sh pre (finishAttribute a) (finishAttribute b) := by
  subst h
  unfold finishAttribute Sh sh
  dsimp only
  split
  · rfl
  · split <;> rfl
theorem Sh_createAttr {a b : Mach} (h : Sh pre a b) (c : Char) : Sh pre (createAttr c a) (createAttr c b) := by
  have h1 := Sh_finishAttribute h
  unfold createAttr
  dsimp only
  generalize finishAttribute a = x at h1
  generalize finishAttribute b = y at h1
  sh_same h1
theorem finishAttribute_sh (pre : Out) (m : Mach) : finishAttribute (sh pre m) = sh pre (finishAttribute m) :=
  Sh_finishAttribute (Sh.refl pre m)

theorem tagPrologue_sh (pre : Out) (m : Mach) : tagPrologue (sh pre m) = sh pre (tagPrologue m) := by
  unfold tagPrologue
  rw [finishAttribute_sh]
  generalize finishAttribute m = x
  unfold sh emitErr emit
  dsimp only
  split
  · rfl
  · (repeat' split) <;> rfl

theorem Sh_tagPrologue {a b : Mach} (h : Sh pre a b) : Sh pre (tagPrologue a) (tagPrologue b) := by
  subst h; exact tagPrologue_sh pre a

/-! ### results of a table transition -/

/-- relation between the table result `x` of `a` (policy `pol`) and the table result `y` of its shift
(policy `pol'`): the shift of the result, or both end by emitting the current tag token (from a machine
with the `charRef`/`reconsume` registers of `a`) -/
def RelQ (pol pol' : Pol) (pre : Out) (a : Mach) (x y : Mach × Sig) : Prop :=
  y = shMS pre x ∨ ∃ mc, mc.charRef = a.charRef ∧ mc.reconsume = a.reconsume ∧
    x = emitTag pol .data mc ∧ y = emitTag pol' .data (sh pre mc)

theorem RelQ_emitTag {pol pol' : Pol} {a a' b' : Mach} (h : Sh pre a' b')
    (hc : a'.charRef = a.charRef) (hr : a'.reconsume = a.reconsume) :
    RelQ pol pol' pre a (emitTag pol .data a') (emitTag pol' .data b') := by
  subst h; exact Or.inr ⟨a', hc, hr, rfl, rfl⟩
theorem RelQ_consumeCharRef {pol pol' : Pol} {a a' b' : Mach} (h : Sh pre a' b') :
    RelQ pol pol' pre a (consumeCharRef a') (consumeCharRef b') := by
  subst h
  unfold consumeCharRef sh
  dsimp only
  split <;> exact Or.inl rfl

/-! ### the transition tables

The tables are programs over the actions `TokOp` (HtmlTokTable.lean); every action commutes with `sh pre`,
hence so does every program. -/

theorem TokOp.run_sh (o : Opts) (pre : Out) (m : Mach) (op : TokOp) :
    op.run o (sh pre m) = sh pre (op.run o m) := by
  cases op
  case badChar => exact Sh_badChar (Sh.refl pre m) o
  case badEof => exact Sh_badEof (Sh.refl pre m) o
  case emitChar c => exact Sh_emitChar (Sh.refl pre m) c
  case createAttr c => exact Sh_createAttr (Sh.refl pre m) c
  case pushDoctypeId k c | clearDoctypeId k => cases k <;> rfl
  -- the other actions write registers `sh` does not touch, or cons onto the log
  all_goals rfl

theorem runOps_sh (o : Opts) (pre : Out) (ops : List TokOp) (m : Mach) :
    runOps o ops (sh pre m) = sh pre (runOps o ops m) :=
  runOps_induct₂ (R := Sh pre) o o (fun op a _ h => h ▸ TokOp.run_sh o pre a op) ops m _ rfl

theorem ArmEnd.run_sh {pol pol' : Pol} (fin : ArmEnd) {a x : Mach} (hc : x.charRef = a.charRef)
    (hr : fin = .tag → x.reconsume = a.reconsume) :
    RelQ pol pol' pre a (fin.run pol x) (fin.run pol' (sh pre x)) := by
  cases fin with
  | cont => exact Or.inl rfl
  | tag => exact Or.inr ⟨x, hc, hr rfl, rfl, rfl⟩
  | charRef => exact RelQ_consumeCharRef rfl
  | panic e => exact Or.inl rfl

/-- an arm of the `get_char!` table that emits the tag has left `reconsume` alone -/
theorem progChar_tag_reconsume (o : Opts) (m : Mach) (c : Char)
    (h : (progChar m.state (haveAppropriateEndTag m) (m.tempBuf = "script".toList) c).2 = .tag) :
    (runOps o (progChar m.state (haveAppropriateEndTag m) (m.tempBuf = "script".toList) c).1 m).reconsume =
      m.reconsume := by
  have hk := congrArg (·.2.1) (runOps_ctl o (progChar m.state (haveAppropriateEndTag m)
    (m.tempBuf = "script".toList) c).1 m)
  obtain ⟨hA, -⟩ := progChar_ok m.state (haveAppropriateEndTag m) (m.tempBuf = "script".toList) c
    m.reconsume m.tempBuf
  rcases hA with h' | ⟨-, -, h'⟩ | ⟨-, e, h', -⟩
  · rw [h] at h'; cases h'
  · exact hk.trans h'
  · rw [h] at h'; cases h'

/-- the `get_char!` table -/
theorem transChar_sh (o : Opts) (pol pol' : Pol) (pre : Out) (a : Mach) (c : Char) :
    RelQ pol pol' pre a (transChar o pol a c) (transChar o pol' (sh pre a) c) := by
  rw [transChar_eq, transChar_eq, sh_state, sh_hae, sh_tempBuf, runOps_sh]
  exact ArmEnd.run_sh _ (runOps_charRef o _ a) (progChar_tag_reconsume o a c)

/-- the `pop_except_from` table -/
theorem transSet_sh (o : Opts) (pol pol' : Pol) (pre : Out) (a : Mach) (r : SetRes) :
    RelQ pol pol' pre a (transSet o pol a r) (transSet o pol' (sh pre a) r) := by
  rw [transSet_eq, transSet_eq, sh_state, runOps_sh]
  refine ArmEnd.run_sh _ (runOps_charRef o _ a) (fun _ => ?_)
  have hk := congrArg (·.2.1) (runOps_ctl o (progSet a.state r).1 a)
  exact hk.trans (congrArg (·.1) (progSet_ok a.state r a.reconsume a.tempBuf).1)

/-- the `eof_step` table -/
theorem transEof_sh (o : Opts) (pre : Out) (a : Mach) :
    transEof o (sh pre a) = (sh pre (transEof o a).1, (transEof o a).2) := by
  rw [transEof_eq, transEof_eq, sh_state, runOps_sh]

/-! ### the reader -/

/-- shift of a read result -/
def shRd {α : Type} (pre : Out) (r : α × Mach × Str) : α × Mach × Str := (r.1, sh pre r.2.1, r.2.2)

theorem setIgnoreLf_sh (pre : Out) (m : Mach) (x : Bool) : (sh pre m).setIgnoreLf x = sh pre (m.setIgnoreLf x) := rfl
theorem ite_sh (c : Prop) [Decidable c] (pre : Out) (a b : Mach) :
    (if c then sh pre a else sh pre b) = sh pre (if c then a else b) := by split <;> rfl

theorem foldChar_sh (o : Opts) (pre : Out) (m : Mach) (c : Char) :
    foldChar o (sh pre m) c = ((foldChar o m c).1, sh pre (foldChar o m c).2) := by
  unfold foldChar
  dsimp only
  by_cases hc : c = '\r'
  · simp only [hc, ↓reduceIte]
    (repeat' split) <;> rfl
  · simp only [hc, ↓reduceIte]
    (repeat' split) <;> rfl

theorem preprocess_sh (o : Opts) (pre : Out) (m : Mach) (c : Char) (inp : Str) :
    preprocess o (sh pre m) c inp = shRd pre (preprocess o m c inp) := by
  unfold preprocess
  simp only [sh_ignoreLf, setIgnoreLf_sh, foldChar_sh]
  split
  · split
    · cases inp <;> rfl
    · rfl
  · rfl

theorem getChar_sh (o : Opts) (pre : Out) (m : Mach) (inp : Str) :
    getChar o (sh pre m) inp = shRd pre (getChar o m inp) := by
  unfold getChar
  simp only [sh_reconsume]
  split
  · rfl
  · cases inp with
    | nil => rfl
    | cons c rest => exact preprocess_sh o pre m c rest

theorem peek_sh (pre : Out) (m : Mach) (inp : Str) : peek (sh pre m) inp = peek m inp := rfl

theorem discardChar_sh (pre : Out) (m : Mach) (inp : Str) :
    discardChar (sh pre m) inp = (sh pre (discardChar m inp).1, (discardChar m inp).2) := by
  unfold discardChar
  simp only [sh_reconsume]
  split <;> rfl

theorem popExceptFrom_sh (o : Opts) (S : List Char) (pre : Out) (m : Mach) (inp : Str) :
    popExceptFrom o S (sh pre m) inp = shRd pre (popExceptFrom o S m inp) := by
  unfold popExceptFrom
  simp only [sh_reconsume, sh_ignoreLf, getChar_sh, preprocess_sh]
  split
  · rfl
  · cases inp with
    | nil => rfl
    | cons c rest =>
      dsimp only
      split <;> rfl

theorem readData_sh (o : Opts) (pre : Out) (m : Mach) (inp : Str) :
    readData o (sh pre m) inp = shRd pre (readData o m inp) := by
  unfold readData
  simp only [sh_reconsume, sh_ignoreLf, popExceptFrom_sh]
  split
  · rfl
  · cases inp with
    | nil => rfl
    | cons c rest =>
      dsimp only
      split
      · rfl
      · split <;> rfl

theorem eatSkipLf_sh (pre : Out) (m : Mach) (inp : Str) :
    eatSkipLf (sh pre m) inp = (sh pre (eatSkipLf m inp).1, (eatSkipLf m inp).2) := by
  unfold eatSkipLf
  simp only [sh_ignoreLf, peek_sh, setIgnoreLf_sh, discardChar_sh]
  (repeat' split) <;> rfl

theorem eat_sh (pre : Out) (m : Mach) (inp pat : Str) (eq : Char → Char → Bool) :
    eat (sh pre m) inp pat eq = shRd pre (eat m inp pat eq) := by
  rw [eat_eq_core, eat_eq_core, eatSkipLf_sh]
  simp only [sh_tempBuf]
  generalize (eatSkipLf m inp).1 = m1
  generalize m1.tempBuf ++ (eatSkipLf m inp).2 = all
  unfold eatCore
  simp only [sh_atEof]
  (repeat' split) <;> rfl

/-! ### step results -/

/-- relation between a step result `r` of a machine (policy `pol`) and the step result `r'` of its shift
(policy `pol'`) -/
def StepQ (pol pol' : Pol) (pre : Out) (r r' : R) : Prop :=
  r' = shR pre r ∨
  ∃ (q : Mach) (tag : Tag) (i : Str), q.state = .data ∧ q.charRef = none ∧ q.reconsume = false ∧
    r = ofSig (applySinkRes (emit q (.tag tag)) (pol.onTag q.out tag)) i ∧
    r' = ofSig (applySinkRes (emit (sh pre q) (.tag tag)) (pol'.onTag (q.out ++ pre) tag)) i

theorem ofSig_shMS (pre : Out) (x : Mach × Sig) (i : Str) : ofSig (shMS pre x) i = shR pre (ofSig x i) := by
  obtain ⟨x1, x2⟩ := x
  cases x2 <;> rfl

theorem emitTag_sh (pol' : Pol) (pre : Out) (mc : Mach) :
    emitTag pol' .data (sh pre mc) =
      applySinkRes (emit (sh pre (takeTag (tagPrologue (to .data mc)))) (.tag (currentTag (tagPrologue (to .data mc)))))
        (pol'.onTag ((takeTag (tagPrologue (to .data mc))).out ++ pre) (currentTag (tagPrologue (to .data mc)))) := by
  unfold emitTag emitCurrentTag
  have e : to .data (sh pre mc) = sh pre (to .data mc) := rfl
  rw [e, tagPrologue_sh]
  rfl

theorem StepQ_ofSig {pol pol' : Pol} {pre : Out} {a : Mach} {x y : Mach × Sig} (h : RelQ pol pol' pre a x y)
    (hc : a.charRef = none) (hr : a.reconsume = false) (i : Str) :
    StepQ pol pol' pre (ofSig x i) (ofSig y i) := by
  rcases h with rfl | ⟨mc, h1, h2, rfl, rfl⟩
  · exact Or.inl (ofSig_shMS pre x i)
  · refine Or.inr ⟨takeTag (tagPrologue (to .data mc)), currentTag (tagPrologue (to .data mc)), i, ?_, ?_, ?_, rfl, ?_⟩
    · simp
    · simp [h1, hc]
    · simp [h2, hr]
    · rw [emitTag_sh]

theorem contChar_sh (o : Opts) (pol pol' : Pol) (pre : Out) (r : Option Char × Mach × Str)
    (hr : r.1.isSome = true → r.2.1.charRef = none ∧ r.2.1.reconsume = false) :
    StepQ pol pol' pre (contChar o pol r) (contChar o pol' (shRd pre r)) := by
  obtain ⟨c, m1, i1⟩ := r
  cases c with
  | none => exact Or.inl rfl
  | some c =>
    obtain ⟨h1, h2⟩ := hr rfl
    exact StepQ_ofSig (transChar_sh o pol pol' pre m1 c) h1 h2 i1

theorem contSet_sh (o : Opts) (pol pol' : Pol) (pre : Out) (r : Option SetRes × Mach × Str)
    (hr : r.1.isSome = true → r.2.1.charRef = none ∧ r.2.1.reconsume = false) :
    StepQ pol pol' pre (contSet o pol r) (contSet o pol' (shRd pre r)) := by
  obtain ⟨c, m1, i1⟩ := r
  cases c with
  | none => exact Or.inl rfl
  | some c =>
    obtain ⟨h1, h2⟩ := hr rfl
    exact StepQ_ofSig (transSet_sh o pol pol' pre m1 c) h1 h2 i1

/-! ### the character-reference sub-tokenizer -/

/-- shift of a char-ref step result -/
def shCR (pre : Out) (v : Mach × Str × CharRefSt × CRStatus) : Mach × Str × CharRefSt × CRStatus :=
  (sh pre v.1, v.2)

theorem numericErr_sh (o : Opts) (pre : Out) (m : Mach) (n : Nat) :
    numericErr o (sh pre m) n = sh pre (numericErr o m n) := by
  unfold numericErr; split <;> rfl
theorem nameErr_sh (o : Opts) (pre : Out) (m : Mach) (nb : Str) :
    nameErr o (sh pre m) nb = sh pre (nameErr o m nb) := by
  unfold nameErr; split <;> rfl

theorem finishNumericStatus_sh (o : Opts) (pre : Out) (m : Mach) (inp : Str) (cr : CharRefSt) :
    finishNumericStatus o (sh pre m) inp cr = (finishNumericStatus o m inp cr).map (shCR pre) := by
  unfold finishNumericStatus finishNumeric
  dsimp only
  generalize numericValue cr = v
  obtain ⟨v1, v2⟩ := v
  cases v1 <;> cases v2 <;> (try rw [numericErr_sh]) <;> rfl

theorem namedDecision_sh (pre : Out) (m : Mach) (cr : CharRefSt) (nb : Str) (c1 c2 : Nat) :
    namedDecision (sh pre m) cr nb c1 c2 =
      (namedDecision m cr nb c1 c2).map (Option.map (fun v => (sh pre v.1, v.2))) := by
  unfold namedDecision
  dsimp only
  by_cases h0 : cr.nameLen = 0
  · rw [if_pos h0, if_pos h0]; rfl
  rw [if_neg h0, if_neg h0]
  split
  · rfl
  rename_i lastMatched _
  -- the verdict `ua` is the same on both sides, up to `sh pre` on the machine
  have hua : ∀ (x : Bool × Mach) (y : Bool × Mach), y = (x.1, sh pre x.2) →
      (if y.1 = true then (Except.ok none : Except String (Option (Mach × Str)))
        else if (!(isValidScalar c1 && isValidScalar c2)) = true then .error "from_u32(c).unwrap()"
        else .ok (some (y.2.setIgnoreLf false,
          if c2 = 0 then [Char.ofNat c1] else [Char.ofNat c1, Char.ofNat c2]))) =
      (if x.1 = true then (Except.ok none : Except String (Option (Mach × Str)))
        else if (!(isValidScalar c1 && isValidScalar c2)) = true then .error "from_u32(c).unwrap()"
        else .ok (some (x.2.setIgnoreLf false,
          if c2 = 0 then [Char.ofNat c1] else [Char.ofNat c1, Char.ofNat c2]))).map
        (Option.map (fun v => (sh pre v.1, v.2))) := by
    rintro ⟨b, x⟩ _ rfl
    cases b
    · simp only [Bool.false_eq_true, if_false]
      split <;> rfl
    · rfl
  refine hua _ _ ?_
  (repeat' split) <;> rfl

theorem finishNamed_sh (o : Opts) (pre : Out) (m : Mach) (inp : Str) (cr : CharRefSt) (e : Option Char) :
    finishNamed o (sh pre m) inp cr e = (finishNamed o m inp cr e).map (shCR pre) := by
  unfold finishNamed
  split
  · rfl
  · split
    · dsimp only
      (repeat' split) <;> first | rfl | (rw [nameErr_sh]; rfl)
    · rename_i nb _ _ c1 c2 _
      rw [namedDecision_sh]
      cases namedDecision m cr nb c1 c2 with
      | error e1 => rfl
      | ok v =>
        cases v with
        | none => rfl
        | some w => rfl

theorem crStep_sh (o : Opts) (pre : Out) (m : Mach) (inp : Str) (cr : CharRefSt) :
    crStep o (sh pre m) inp cr = (crStep o m inp cr).map (shCR pre) := by
  unfold crStep unconsumeNumeric
  dsimp only
  rw [peek_sh, discardChar_sh]
  split
  · rfl
  · split <;> (repeat' split) <;>
      first
      | rfl
      | exact finishNumericStatus_sh o pre _ _ _
      | exact finishNumericStatus_sh o pre (emitErr m _) _ _
      | exact finishNamed_sh o pre _ _ _ _
      | (rw [nameErr_sh]; rfl)

theorem foldl_emitChar_sh (pre : Out) (cs : Str) : ∀ m : Mach,
    cs.foldl emitChar (sh pre m) = sh pre (cs.foldl emitChar m) := by
  induction cs with
  | nil => intro m; rfl
  | cons c cs ih =>
    intro m
    have e : emitChar (sh pre m) c = sh pre (emitChar m c) := (Sh_emitChar (Sh.refl pre m) c)
    simp only [List.foldl_cons, e, ih]

theorem foldl_pushValue_sh (pre : Out) (cs : Str) : ∀ m : Mach,
    cs.foldl (fun m c => pushValue c m) (sh pre m) = sh pre (cs.foldl (fun m c => pushValue c m) m) := by
  induction cs with
  | nil => intro m; rfl
  | cons c cs ih =>
    intro m
    have e : pushValue c (sh pre m) = sh pre (pushValue c m) := rfl
    simp only [List.foldl_cons, e, ih]

theorem processCharRef_shift (pre : Out) (m : Mach) (chars : Str) :
    processCharRef (sh pre m) chars = shMS pre (processCharRef m chars) := by
  unfold processCharRef
  simp only [sh_state]
  split
  · simp only [foldl_emitChar_sh]; rfl
  · simp only [foldl_emitChar_sh]; rfl
  · simp only [foldl_pushValue_sh]; rfl
  · rfl

theorem stepCharRef_sh (o : Opts) (pre : Out) (m : Mach) (inp : Str) (cr : CharRefSt) :
    stepCharRef o (sh pre m) inp cr = shR pre (stepCharRef o m inp cr) := by
  unfold stepCharRef
  rw [crStep_sh]
  cases crStep o m inp cr with
  | error e => rfl
  | ok v =>
    obtain ⟨m1, i1, c1, s1⟩ := v
    cases s1 with
    | stuck => rfl
    | progress => rfl
    | done chars =>
      simp only [Except.map, shCR, processCharRef_shift]
      generalize processCharRef m1 chars = p
      obtain ⟨p1, p2⟩ := p
      cases p2 <;> rfl

/-! ### `peek`/`discard_char` and `eat` states -/

theorem discardChar_reconsume_false (m : Mach) (inp : Str) : (discardChar m inp).1.reconsume = false := by
  unfold discardChar
  split
  · rfl
  · rename_i h; simpa using h
theorem discardChar_charRef_eq (m : Mach) (inp : Str) : (discardChar m inp).1.charRef = m.charRef := by
  unfold discardChar; split <;> rfl

theorem stepBav_sh (o : Opts) (pol pol' : Pol) (pre : Out) (m : Mach) (inp : Str) (hcr : m.charRef = none) :
    StepQ pol pol' pre (stepBav o pol m inp) (stepBav o pol' (sh pre m) inp) := by
  unfold stepBav
  rw [peek_sh]
  simp only [sh_ignoreLf, setIgnoreLf_sh, ite_sh]
  cases peek m inp with
  | none => exact Or.inl rfl
  | some c =>
    dsimp only
    have hm : (if m.ignoreLf = true then m.setIgnoreLf false else m).charRef = none := by
      split <;> exact hcr
    generalize (if m.ignoreLf = true then m.setIgnoreLf false else m) = m' at hm
    rw [discardChar_sh, getChar_sh]
    split
    · exact Or.inl rfl
    · split
      · generalize getChar o m' inp = r
        obtain ⟨c1, m1, i1⟩ := r
        cases c1 <;> exact Or.inl rfl
      · repeat' split
        all_goals
          first
          | exact Or.inl rfl
          | exact StepQ_ofSig (a := badChar o (discardChar m' inp).1)
              (RelQ_emitTag (Sh_badChar (Sh.refl pre _) o) rfl rfl)
              (by rw [badChar_charRef, discardChar_charRef_eq]; exact hm)
              (by rw [badChar_reconsume, discardChar_reconsume_false]) _

theorem stepMdo_sh (o : Opts) (pol pol' : Pol) (pre : Out) (m : Mach) (inp : Str)
    (hc : pol'.cdataOk (m.out ++ pre) = pol.cdataOk m.out) :
    stepMdo o pol' (sh pre m) inp = shR pre (stepMdo o pol m inp) := by
  unfold stepMdo
  rw [eat_sh]
  cases h1 : eat m inp kwDashDash eqExact with
  | mk x1 r1 =>
  obtain ⟨m1, i1⟩ := r1
  have o1 := eat_out m m1 inp i1 _ _ x1 h1
  cases x1 with
  | none => rfl
  | some t1 =>
    cases t1 with
    | true => rfl
    | false =>
      dsimp only [shRd]
      rw [eat_sh]
      cases h2 : eat m1 i1 kwDoctype eqCi with
      | mk x2 r2 =>
      obtain ⟨m2, i2⟩ := r2
      have o2 := eat_out m1 m2 i1 i2 _ _ x2 h2
      cases x2 with
      | none => rfl
      | some t2 =>
        cases t2 with
        | true => rfl
        | false =>
          dsimp only [shRd]
          simp only [sh_out]
          rw [o2, o1, hc]
          split
          · rw [eat_sh]
            generalize eat m2 i2 kwCdata eqExact = r3
            obtain ⟨x3, m3, i3⟩ := r3
            cases x3 with
            | none => rfl
            | some t3 =>
              cases t3 with
              | true => rfl
              | false =>
                dsimp only [shRd]
                exact congrArg (fun x => R.cont x i3)
                  (Sh_to (Sh_clearComment (Sh_badChar (Sh.refl pre m3) o)) _)
          · exact congrArg (fun x => R.cont x i2)
              (Sh_to (Sh_clearComment (Sh_badChar (Sh.refl pre m2) o)) _)

theorem stepAdn_sh (o : Opts) (pol pol' : Pol) (pre : Out) (m : Mach) (inp : Str) (hcr : m.charRef = none) :
    StepQ pol pol' pre (stepAdn o pol m inp) (stepAdn o pol' (sh pre m) inp) := by
  unfold stepAdn
  rw [eat_sh]
  cases h1 : eat m inp kwPublic eqCi with
  | mk x1 r1 =>
  obtain ⟨m1, i1⟩ := r1
  have o1 := (eat_fields m m1 inp i1 _ _ x1 h1).2.1
  cases x1 with
  | none => exact Or.inl rfl
  | some t1 =>
    cases t1 with
    | true => exact Or.inl rfl
    | false =>
      dsimp only [shRd]
      rw [eat_sh]
      cases h2 : eat m1 i1 kwSystem eqCi with
      | mk x2 r2 =>
      obtain ⟨m2, i2⟩ := r2
      have o2 := (eat_fields m1 m2 i1 i2 _ _ x2 h2).2.1
      cases x2 with
      | none => exact Or.inl rfl
      | some t2 =>
        cases t2 with
        | true => exact Or.inl rfl
        | false =>
          dsimp only [shRd]
          rw [getChar_sh]
          have key := contChar_sh o pol pol' pre (getChar o m2 i2) (by
            intro hs
            cases h3 : getChar o m2 i2 with
            | mk c3 r3 =>
            obtain ⟨m3, i3⟩ := r3
            rw [h3] at hs
            cases c3 with
            | none => cases hs
            | some c =>
              obtain ⟨_, _, g3, g4, _⟩ := getChar_fields o m2 m3 i2 i3 c h3
              exact ⟨by rw [g4, o2, o1, hcr], g3⟩)
          generalize getChar o m2 i2 = r at key
          obtain ⟨c3, m3, i3⟩ := r
          cases c3 <;> exact key

/-! ### one step -/

theorem step_StepQ (o : Opts) (pol pol' : Pol) (pre : Out) (m : Mach) (inp : Str)
    (hc : pol'.cdataOk (m.out ++ pre) = pol.cdataOk m.out) :
    StepQ pol pol' pre (step o pol m inp) (step o pol' (sh pre m) inp) := by
  cases hcr : m.charRef with
  | some cr =>
    rw [step_kind_charRef o pol m inp cr hcr, step_kind_charRef o pol' (sh pre m) inp cr hcr]
    exact Or.inl (stepCharRef_sh o pre m inp cr)
  | none =>
    have hcr' : (sh pre m).charRef = none := hcr
    cases hrk : readKind m.state with
    | getChar =>
      rw [step_getChar o pol m inp hcr hrk, step_getChar o pol' (sh pre m) inp hcr' hrk, getChar_sh]
      refine contChar_sh o pol pol' pre _ ?_
      intro hs
      cases h3 : getChar o m inp with
      | mk c3 r3 =>
      obtain ⟨m3, i3⟩ := r3
      rw [h3] at hs
      cases c3 with
      | none => cases hs
      | some c =>
        obtain ⟨_, _, g3, g4, _⟩ := getChar_fields o m m3 inp i3 c h3
        exact ⟨by rw [g4, hcr], g3⟩
    | popExcept =>
      rw [step_popExcept o pol m inp hcr hrk, step_popExcept o pol' (sh pre m) inp hcr' hrk]
      simp only [sh_state, popExceptFrom_sh]
      refine contSet_sh o pol pol' pre _ ?_
      intro hs
      cases h3 : popExceptFrom o (setOf m.state) m inp with
      | mk c3 r3 =>
      obtain ⟨m3, i3⟩ := r3
      rw [h3] at hs
      cases c3 with
      | none => cases hs
      | some c =>
        obtain ⟨_, _, g3, g4, _⟩ := popExceptFrom_fields o _ m m3 inp i3 c h3
        exact ⟨by rw [g4, hcr], g3⟩
    | dataSimd =>
      rw [step_dataSimd o pol m inp hcr hrk, step_dataSimd o pol' (sh pre m) inp hcr' hrk, readData_sh]
      refine contSet_sh o pol pol' pre _ ?_
      intro hs
      cases h3 : readData o m inp with
      | mk c3 r3 =>
      obtain ⟨m3, i3⟩ := r3
      rw [h3] at hs
      cases c3 with
      | none => cases hs
      | some c =>
        obtain ⟨_, _, g3, g4, _⟩ := readData_fields o m m3 inp i3 c h3
        exact ⟨by rw [g4, hcr], g3⟩
    | peekBav =>
      rw [step_kind_bav o pol m inp hcr hrk, step_kind_bav o pol' (sh pre m) inp hcr' hrk]
      exact stepBav_sh o pol pol' pre m inp hcr
    | eatMdo =>
      rw [step_kind_mdo o pol m inp hcr hrk, step_kind_mdo o pol' (sh pre m) inp hcr' hrk]
      exact Or.inl (stepMdo_sh o pol pol' pre m inp hc)
    | eatAdn =>
      rw [step_kind_adn o pol m inp hcr hrk, step_kind_adn o pol' (sh pre m) inp hcr' hrk]
      exact stepAdn_sh o pol pol' pre m inp hcr

/-- one `Tokenizer::step`, strengthened: in the tag case the machine `q` has no pending character reference
and no pending reconsume -/
theorem step_shift' (o : Opts) (pol pol' : Pol) (pre : Out) (m : Mach) (inp : Str)
    (hc : pol'.cdataOk (m.out ++ pre) = pol.cdataOk m.out) :
    step o pol' (sh pre m) inp = shR pre (step o pol m inp) ∨
    ∃ (q : Mach) (tag : Tag) (i : Str), q.state = .data ∧ q.charRef = none ∧ q.reconsume = false ∧
      step o pol m inp = ofSig (applySinkRes (emit q (.tag tag)) (pol.onTag q.out tag)) i ∧
      step o pol' (sh pre m) inp =
        ofSig (applySinkRes (emit (sh pre q) (.tag tag)) (pol'.onTag (q.out ++ pre) tag)) i :=
  step_StepQ o pol pol' pre m inp hc

/-- MASTER LEMMA: one `Tokenizer::step`.  Either the step emits no tag token (then it does not depend on
`onTag` at all and the shifted step is the shift of the step), or it ends by emitting the current tag
token from a machine `q` (already past `tagPrologue`/`takeTag`, state `.data`), in which case both steps are
given explicitly in terms of the policies' answers at the histories `q.out` resp. `q.out ++ pre`. -/
theorem step_shift (o : Opts) (pol pol' : Pol) (pre : Out) (m : Mach) (inp : Str)
    (hc : pol'.cdataOk (m.out ++ pre) = pol.cdataOk m.out) :
    step o pol' (sh pre m) inp = shR pre (step o pol m inp) ∨
    ∃ (q : Mach) (tag : Tag) (i : Str), q.state = .data ∧
      step o pol m inp = ofSig (applySinkRes (emit q (.tag tag)) (pol.onTag q.out tag)) i ∧
      step o pol' (sh pre m) inp =
        ofSig (applySinkRes (emit (sh pre q) (.tag tag)) (pol'.onTag (q.out ++ pre) tag)) i := by
  rcases step_shift' o pol pol' pre m inp hc with h | ⟨q, tag, i, h1, _, _, h2, h3⟩
  · exact Or.inl h
  · exact Or.inr ⟨q, tag, i, h1, h2, h3⟩

/-! ### end of input -/

theorem eofLoop_shift (o : Opts) (n : Nat) (pre : Out) (m : Mach) :
    eofLoop o n (sh pre m) = (eofLoop o n m).map (sh pre) := by
  induction n generalizing m with
  | zero => rfl
  | succ n ih =>
    unfold eofLoop
    rw [transEof_sh]
    generalize transEof o m = r
    obtain ⟨m1, s1⟩ := r
    cases s1 with
    | cont => exact ih m1
    | done => rfl
    | panic e => rfl

theorem crEofOnceE_sh (o : Opts) (pre : Out) (m : Mach) (inp : Str) (cr : CharRefSt) :
    crEofOnceE o (sh pre m) inp cr = (crEofOnceE o m inp cr).map (shCR pre) := by
  unfold crEofOnceE unconsumeNumeric
  split <;> (repeat' split) <;>
    first
    | rfl
    | exact finishNumericStatus_sh o pre (emitErr m _) _ _
    | exact finishNamed_sh o pre _ _ _ _

theorem crEofLast_sh (pre : Out) (r : CRRes) :
    crEofLast (r.map (shCR pre)) = (crEofLast r).map (fun r => (sh pre r.1, r.2.1, r.2.2)) := by
  cases r with
  | error e => rfl
  | ok v =>
    obtain ⟨m1, i1, c1, s1⟩ := v
    cases s1 <;> rfl

theorem crEofDrive_sh (o : Opts) (pre : Out) (r : CRRes) :
    crEofDrive o (r.map (shCR pre)) = (crEofDrive o r).map (fun r => (sh pre r.1, r.2.1, r.2.2)) := by
  cases r with
  | error e => rfl
  | ok v =>
    obtain ⟨m1, i1, c1, s1⟩ := v
    cases s1 with
    | stuck => rfl
    | done chars => rfl
    | progress =>
      show crEofLast (crEofOnceE o (sh pre m1) i1 c1) = _
      rw [crEofOnceE_sh]
      exact crEofLast_sh pre _

theorem crEof_shift (o : Opts) (pre : Out) (m : Mach) (inp : Str) (cr : CharRefSt) :
    crEof o (sh pre m) inp cr = (crEof o m inp cr).map (fun r => (sh pre r.1, r.2.1, r.2.2)) := by
  rw [crEof_eqE, crEof_eqE, crEofOnceE_sh]
  exact crEofDrive_sh o pre _

theorem feedBom_shift (pre : Out) (m : Mach) (inp : Str) :
    feedBom (sh pre m) inp = (sh pre (feedBom m inp).1, (feedBom m inp).2) := by
  unfold feedBom
  cases inp with
  | nil => rfl
  | cons c rest =>
    simp only [sh_discardBom]
    split <;> rfl

end H5V.Lemmas.ParseSpec
