import Lean.Meta.Tactic.Simp.RegisterCommand
/-!
C06, second invariant layer: the simp set `lit_name`. It turns the model's tests on an element name given by a
literal (`hN "td"`) into comparisons of string literals, and unfolds the sets of names the tests refer to.
-/
register_simp_attr lit_name
