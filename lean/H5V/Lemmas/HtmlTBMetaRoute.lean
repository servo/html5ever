import H5V.Lemmas.HtmlTBMetaRules
/-!
C19: which insertion modes hand a `meta` start tag to the "in head" rule.
-/
namespace H5V.Props.C19
open H5V.Model.Dom (Id QualName Attr NodeOrText SinkOp Output ElementFlags QuirksMode Dom)
open H5V.Model.HtmlTB
open H5V.Lemmas.TBM

theorem meta_isStart {tag : Tag} (hm : isMetaStart tag) (l : List String) :
    tag.isStart l = isOneOf "meta".toList l := by
  simp [Tag.isStart, hm.1, hm.2]

theorem meta_isEnd {tag : Tag} (hm : isMetaStart tag) (l : List String) : tag.isEnd l = false := by
  simp [Tag.isEnd, hm.1]

theorem meta_kind_end {tag : Tag} (hm : isMetaStart tag) : (tag.kind == H5V.Model.HtmlTok.TagKind.endTag) = false := by
  rw [hm.1]; rfl

theorem meta_kind_start {tag : Tag} (hm : isMetaStart tag) : (tag.kind == H5V.Model.HtmlTok.TagKind.startTag) = true := by
  rw [hm.1]; rfl

theorem meta_isName {tag : Tag} (hm : isMetaStart tag) (x : String) : isName tag.name x = isName "meta".toList x := by
  rw [hm.2]

/-- simp set that decides every tag test of the rules for a `meta` start tag -/
macro "meta_simp" hm:term " at " h:ident : tactic =>
  `(tactic| simp (config := { decide := true }) only [meta_isStart $hm, meta_isEnd $hm, meta_kind_end $hm,
      meta_kind_start $hm, meta_isName $hm, Bool.or_false, Bool.false_or, Bool.or_true, Bool.true_or, if_true, if_false,
      Bool.false_eq_true, Bool.not_true, Bool.not_false] at $h:ident)
macro "meta_simp" hm:term : tactic =>
  `(tactic| simp (config := { decide := true }) only [meta_isStart $hm, meta_isEnd $hm, meta_kind_end $hm,
      meta_kind_start $hm, meta_isName $hm, Bool.or_false, Bool.false_or, Bool.or_true, Bool.true_or, if_true, if_false,
      Bool.false_eq_true, Bool.not_true, Bool.not_false])

/-! ### modes that use the "in head" rule directly -/

theorem route_inHead (tag : Tag) : step .inHead (.tag tag) = stepInHead (.tag tag) := rfl

theorem route_inBody {tag : Tag} (hm : isMetaStart tag) : step .inBody (.tag tag) = stepInHead (.tag tag) := by
  unfold step stepInBody
  meta_simp hm

theorem route_inHeadNoscript {tag : Tag} (hm : isMetaStart tag) :
    step .inHeadNoscript (.tag tag) = stepInHead (.tag tag) := by
  unfold step stepInHeadNoscript
  meta_simp hm

theorem route_inTemplate {tag : Tag} (hm : isMetaStart tag) :
    step .inTemplate (.tag tag) = stepInHead (.tag tag) := by
  unfold step stepInTemplate
  meta_simp hm

theorem route_inCaption {tag : Tag} (hm : isMetaStart tag) :
    step .inCaption (.tag tag) = stepInHead (.tag tag) := by
  rw [← route_inBody hm]
  unfold step stepInCaption
  meta_simp hm

theorem route_inCell {tag : Tag} (hm : isMetaStart tag) :
    step .inCell (.tag tag) = stepInHead (.tag tag) := by
  rw [← route_inBody hm]
  unfold step stepInCell
  meta_simp hm

/-! ### "after head": the head element is pushed back for the duration of the rule -/

/-- rules.rs:395: `unexpected; push(head); step(InHead); remove_from_stack(head)` -/
def withHeadPushed (tok : Token) : M ProcessResult := do
  let _ ← unexpected
  match (← getS).headElem with
  | none => panicAt "no-head-element" "rules.rs:399" "expect(\"no head element\")"
  | some head =>
    push head
    let result ← stepInHead tok
    removeFromStack head
    pure result

theorem route_afterHead {tag : Tag} (hm : isMetaStart tag) :
    step .afterHead (.tag tag) = withHeadPushed (.tag tag) := by
  unfold step stepAfterHead withHeadPushed
  meta_simp hm
  rfl

/-! ### the table modes: "anything else" is processed by the rules for "in body", foster-parenting -/

/-- rules.rs:1136 + `foster_parent_in_body`: a parse error, then the "in head" rule with foster
parenting switched on -/
def fosteredInHead (tok : Token) : M ProcessResult := do
  let _ ← unexpected
  modS fun s => { s with fosterParenting := true }
  let res ← stepInHead tok
  modS fun s => { s with fosterParenting := false }
  pure res

theorem route_inTable {tag : Tag} (hm : isMetaStart tag) :
    step .inTable (.tag tag) = fosteredInHead (.tag tag) := by
  have hb : stepInBody (.tag tag) = stepInHead (.tag tag) := route_inBody hm
  unfold step stepInTable fosteredInHead fosterParentInBody
  meta_simp hm
  rw [hb]

theorem route_inTableBody {tag : Tag} (hm : isMetaStart tag) :
    step .inTableBody (.tag tag) = fosteredInHead (.tag tag) := by
  rw [← route_inTable hm]
  unfold step stepInTableBody
  meta_simp hm

theorem route_inRow {tag : Tag} (hm : isMetaStart tag) :
    step .inRow (.tag tag) = fosteredInHead (.tag tag) := by
  rw [← route_inTable hm]
  unfold step stepInRow
  meta_simp hm

/-- "in column group": close the `colgroup` and try again "in table", or ignore the token -/
def colgroupAnythingElse (tok : Token) : M ProcessResult := do
  if ← currentNodeNamed "colgroup" then
    let _ ← pop
    pure (.reprocess .inTable tok)
  else unexpected

theorem route_inColumnGroup {tag : Tag} (hm : isMetaStart tag) :
    step .inColumnGroup (.tag tag) = colgroupAnythingElse (.tag tag) := by
  unfold step stepInColumnGroup colgroupAnythingElse
  meta_simp hm

/-! ### modes that ignore the token (parse error only) -/

theorem route_inFrameset {tag : Tag} (hm : isMetaStart tag) : step .inFrameset (.tag tag) = unexpected := by
  unfold step stepInFrameset
  meta_simp hm

theorem route_afterFrameset {tag : Tag} (hm : isMetaStart tag) : step .afterFrameset (.tag tag) = unexpected := by
  unfold step stepAfterFrameset
  meta_simp hm

theorem route_afterAfterFrameset {tag : Tag} (hm : isMetaStart tag) :
    step .afterAfterFrameset (.tag tag) = unexpected := by
  unfold step stepAfterAfterFrameset
  meta_simp hm

/-- a start tag in "text" mode is the `unreachable!` of rules.rs:1037 -/
theorem route_text {tag : Tag} (hm : isMetaStart tag) :
    step .text (.tag tag) = panicAt "unreachable" "rules.rs:1037" "impossible case in Text mode" := by
  unfold step stepText
  meta_simp hm

/-! ### modes that hand the token on (`Reprocess`) -/

theorem route_initial (tag : Tag) :
    Ans (fun r => r = .reprocess .beforeHtml (.tag tag)) (step .initial (.tag tag)) := by
  unfold step stepInitial
  ans_walk

theorem route_beforeHtml {tag : Tag} (hm : isMetaStart tag) :
    Ans (fun r => r = .reprocess .beforeHead (.tag tag)) (step .beforeHtml (.tag tag)) := by
  unfold step stepBeforeHtml
  meta_simp hm
  ans_walk

theorem route_beforeHead {tag : Tag} (hm : isMetaStart tag) :
    Ans (fun r => r = .reprocess .inHead (.tag tag)) (step .beforeHead (.tag tag)) := by
  unfold step stepBeforeHead
  meta_simp hm
  ans_walk

theorem route_afterBody {tag : Tag} (hm : isMetaStart tag) :
    Ans (fun r => r = .reprocess .inBody (.tag tag)) (step .afterBody (.tag tag)) := by
  unfold step stepAfterBody
  meta_simp hm
  ans_walk

theorem route_afterAfterBody {tag : Tag} (hm : isMetaStart tag) :
    Ans (fun r => r = .reprocess .inBody (.tag tag)) (step .afterAfterBody (.tag tag)) := by
  unfold step stepAfterAfterBody
  meta_simp hm
  ans_walk

/-- "in table text": the pending text is flushed, the token goes back to the original mode -/
theorem route_inTableText (tag : Tag) :
    Ans (fun r => ∃ m, r = .reprocess m (.tag tag)) (step .inTableText (.tag tag)) := by
  unfold step stepInTableText
  ans_walk
  all_goals exact Ans.pure ⟨_, rfl⟩

/-! ### foreign content: `meta` is a break-out tag -/

theorem route_foreign {tag : Tag} (hm : isMetaStart tag) :
    stepForeign (.tag tag) = unexpectedStartTagInForeignContent tag := by
  unfold stepForeign
  meta_simp hm

end H5V.Props.C19
