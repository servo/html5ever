import H5V.Lemmas.HtmlTBModesBodyNav
/-!
"in body": the non-tag tokens (comment, U+0000, end of file, runs of characters) and the tag
arms `body`, `frameset`, `</body>`, `</html>`.
-/
namespace H5V.Lemmas.HtmlTBModes
open H5V.Model.HtmlTB
open H5V.Model.Dom (Id SinkOp Output Dom QualName Attr NodeOrText ElementFlags NodeData QuirksMode)
open H5V.Lemmas.HtmlTBAlgo
open H5V.Lemmas.TBSafe (TI HInv SInv Rooted)
open H5V.Spec.TreeAlgo2 (Elem Entry PState Ctx Edit Place)
open H5V.Spec.TreeModes (STok ETok IMode Config Out TokSwitch XOp Op Step Edition)

/-! ### (A) the non-tag tokens -/

theorem body_comment (d : Str) : ∀ s, MInv s →
    PC (stepInBody (.comment d)) s (TokPost (fun σ => Spec.TreeModes.inBody (cfgOf s) σ (stokOf (.comment d))) s (.comment d)) := by
  intro s hm
  simp only [stepInBody]
  exact pc_comment_tok hm d

theorem body_nullChar : ∀ s, MInv s →
    PC (stepInBody .nullChar) s (TokPost (fun σ => Spec.TreeModes.inBody (cfgOf s) σ (stokOf .nullChar)) s .nullChar) := by
  intro s hm
  have h0 : ('\x00' == '\x00') = true := by decide
  simp only [stepInBody, stokOf, Spec.TreeModes.inBody, h0, if_true]
  exact pc_unexpected_err hm _ _

/-! #### end of file -/

/-- "pop the current template insertion mode off the stack of template insertion modes" -/
theorem b1_pc_dropTm {s : State} (hm : MInv s) :
    PC (modS fun s => { s with templateModes := s.templateModes.dropLast }) s (fun _ s' calls =>
      s' = { s with templateModes := s.templateModes.dropLast } ∧
      Tr s s' calls (fun x x' => x' = x ∧
        absF s' x' = { absF s x with templateModes := (absF s x).templateModes.dropLast })) := by
  refine pc_modS rfl rfl ⟨rfl, ?_⟩
  refine (Tr.of_upd (s' := { s with templateModes := s.templateModes.dropLast }) hm rfl (fun _ h => h)
    (MInv.of_fields' hm (TBSafe.Ext.refl _) rfl rfl rfl rfl (fun _ h => mem_of_mem_dropLast' h)) rfl).conseq ?_
  rintro x x' _ _ rfl
  refine ⟨rfl, ?_⟩
  simp only [absF, List.map_dropLast]
  rfl

/-- the insertion mode "reset the insertion mode appropriately" switches to -/
def b1_resetMode (cfg : Config Id) (σ : SState) : Spec.TreeModes.M IMode :=
  match cfg.edition with
  | .customizableSelect =>
    Spec.TreeModes.req ((Spec.TreeAlgo.resetInsertionMode (cfg.context.map (fun c : Elem Id => c.name)) σ.headPointer.isNone
      (σ.templateModes.getLast?.bind IMode.toAlgo) σ.names).map IMode.ofAlgo)
      "reset the insertion mode appropriately: no current template insertion mode"
  | .selectModes =>
    Spec.TreeModes.req (Spec.TreeModes.resetLegacy (cfg.context.map (fun c : Elem Id => c.name)) σ.headPointer.isNone
      (σ.templateModes.getLast?.bind IMode.toAlgo) σ.names)
      "reset the insertion mode appropriately: no current template insertion mode"

theorem b1_reset_eq (cfg : Config Id) (σ : SState) :
    Spec.TreeModes.resetInsertionMode cfg σ = (b1_resetMode cfg σ >>= fun m => pure (σ.setMode m)) := by
  unfold Spec.TreeModes.resetInsertionMode b1_resetMode
  cases cfg.edition <;> rfl

/-- "reset the insertion mode appropriately" does not look at the insertion mode -/
theorem b1_reset_idem {cfg : Config Id} {σ σ' : SState} (h : Spec.TreeModes.resetInsertionMode cfg σ = .ok σ') :
    Spec.TreeModes.resetInsertionMode cfg σ' = .ok σ' := by
  rw [b1_reset_eq] at h ⊢
  cases hm : b1_resetMode cfg σ with
  | error e => rw [hm] at h; cases h
  | ok m =>
    rw [hm] at h
    have : σ' = σ.setMode m := by cases h; rfl
    subst this
    have e : b1_resetMode cfg (σ.setMode m) = b1_resetMode cfg σ := rfl
    rw [e, hm]
    rfl

/-- an `Aux` for every state -/
theorem b1_auxOk_exists {s : State} (hm : MInv s) (sup : List Id) : ∃ x, AuxOk s x ∧ x.supply = sup := by
  refine ⟨{ supply := sup, annot := s.openElems.filter (fun h => ipOfDom s.dom h) }, ⟨rfl, ?_, ?_, ?_⟩, rfl⟩
  · intro h hh _
    show (s.openElems.filter (fun h => ipOfDom s.dom h)).contains h = _
    cases hi : ipOfDom s.dom h with
    | true => simp [List.mem_filter, hh, hi]
    | false =>
      have : ¬ h ∈ s.openElems.filter (fun h => ipOfDom s.dom h) := by simp [List.mem_filter, hi]
      simpa [List.contains_iff_mem] using this
  · intro a ha
    exact hm.elems a (List.mem_filter.mp ha).1
  · exact ⟨by simp, by simp⟩

/-- a stretch that keeps the stack of template insertion modes of the abstract state keeps the model's -/
theorem b1_tr_tm {s s' : State} {c : List Call} {R : Aux → Aux → Prop} (hm : MInv s) (h : Tr s s' c R)
    (hR : ∀ x x', AuxOk s x → AuxOk s' x' → R x x' → (absF s' x').templateModes = (absF s x).templateModes) :
    s'.templateModes = s.templateModes := by
  obtain ⟨hm', -, -, ids, hfi, f⟩ := h
  obtain ⟨x, hx, hsup⟩ := b1_auxOk_exists hm ids
  obtain ⟨x', l, r⟩ := f x [] hx (by simp [hsup])
  exact (List.map_inj_right (fun a b => imode_inj)).mp (hR x x' hx l.aux r)

theorem b1_tr_tm_query {s s' : State} {c : List Call} {P : Aux → Prop} (hm : MInv s)
    (h : Tr s s' c (fun x x' => x' = x ∧ absF s x = absF s' x ∧ P x)) : s'.templateModes = s.templateModes :=
  b1_tr_tm hm h (by rintro x x' _ _ ⟨hx, e, -⟩; subst x'; rw [e])

/-- **An end-of-file token** in "in template" (also reached from "in body") -/
theorem b1_inTemplateEof {s : State} (hm : MInv s) (htm : ∀ m ∈ s.templateModes, m ≠ .inTableText) :
    PC inTemplateEof s (TokPost (fun σ => Spec.TreeModes.inTemplateEof (cfgOf s) σ) s .eof) := by
  unfold inTemplateEof
  refine pc_seq (pc_inHtmlElemNamed_template hm) ?_
  rintro b s1 c1 _ htr1
  have hm1 : MInv s1 := htr1.1
  have ht1 : s1.templateModes = s.templateModes := b1_tr_tm_query hm htr1
  cases b with
  | false =>
    simp only [Bool.not_false, if_true]
    refine pc_pure (tokPost_of_tr (by rw [List.append_nil]; exact htr1) trivial ?_)
    rintro x x' hx hx' ⟨hxx, e, hb⟩
    subst x'
    refine ⟨{ x with stopped := true }, ?_, ⟨rfl, rfl, rfl, rfl, rfl⟩, Or.inr ⟨rfl, rfl⟩, rfl, rfl⟩
    simp only [Spec.TreeModes.inTemplateEof, ← hb, Bool.not_false, if_true]
    rw [e]
    rfl
  | true =>
    simp only [Bool.not_true, Bool.false_eq_true, if_false]
    refine pc_seq (pc_unexpected hm1) ?_
    rintro _ s2 c2 _ ⟨-, htr2⟩
    have hm2 : MInv s2 := htr2.1
    have ht2 : s2.templateModes = s1.templateModes :=
      b1_tr_tm hm1 htr2 (by rintro x x' _ _ ⟨hx, e⟩; subst x'; rw [e])
    refine pc_seq (pc_popUntilNamed hm2 "template") ?_
    rintro k s3 c3 _ htr3
    have hm3 : MInv s3 := htr3.1
    have ht3 : s3.templateModes = s2.templateModes :=
      b1_tr_tm hm2 htr3 (by rintro x x' _ _ ⟨hx, e, -⟩; subst x'; rw [e]; rfl)
    refine pc_seq (pc_clearActiveFormattingToMarker hm3) ?_
    rintro _ s4 c4 _ ⟨hs4, htr4⟩
    have hm4 : MInv s4 := htr4.1
    have ht4 : s4.templateModes = s3.templateModes := by rw [hs4]
    refine pc_seq (b1_pc_dropTm hm4) ?_
    rintro _ s5 c5 _ ⟨hs5, htr5⟩
    have hm5 : MInv s5 := htr5.1
    have ht5 : s5.templateModes = s.templateModes.dropLast := by rw [hs5, ← ht1, ← ht2, ← ht3, ← ht4]
    have htm5 : s5.templateModes.getLast? ≠ some .inTableText := by
      rw [ht5]
      intro e
      exact htm _ (List.dropLast_subset _ (List.mem_of_getLast? e)) rfl
    refine pc_seq (pc_resetInsertionMode hm5) ?_
    rintro m1 s5' c5' _ ⟨hs5', hne1, htr5'⟩
    refine pc_seq (pc_setMode_junk htr5'.1 m1 (fun h => htm5 (hne1 h))) ?_
    rintro _ s6 c6' _ ⟨-, htr6'⟩
    have htr6 : Tr s5 s6 (c5' ++ c6') (fun x x' =>
        Spec.TreeModes.resetInsertionMode (cfgOf s5) (absF s5 x) = .ok (absF s6 x')) := by
      refine (htr5'.trans htr6').conseq ?_
      rintro x x2 _ _ ⟨x1, ⟨hx1, e1, r1⟩, _, r2⟩
      subst hx1
      rw [r1, r2, e1]
    have hm6 : MInv s6 := htr6.1
    refine pc_seq (pc_resetInsertionMode hm6) ?_
    rintro m2 s7 c7 _ ⟨hs7, -, htr7⟩
    refine pc_pure ?_
    have hall := ((((((((Tr.err hm "in template: end of file").trans htr1).trans htr2).trans htr3).trans htr4).trans
      htr5).trans htr6).trans htr7)
    simp only [List.nil_append, List.append_nil, List.append_assoc] at hall ⊢
    refine tokPost_of_tr hall rfl ?_
    rintro x x7 hx hx7 ⟨x6, ⟨x5, ⟨x4, ⟨x3, ⟨x2, ⟨x1, ⟨x0, hx0, hx1, e1, hb⟩, hx2, e2⟩, hx3, e3, -⟩, hx4, e4⟩, hx5, e5⟩, e6⟩, hx7', e7, e7'⟩
    subst x7 x5 x4 x3 x2 x1
    have hc5 : cfgOf s5 = cfgOf s :=
      htr5.2.1.trans (htr4.2.1.trans (htr3.2.1.trans (htr2.2.1.trans htr1.2.1)))
    have hid := b1_reset_idem e6
    rw [← htr6.2.1, e7'] at hid
    have hmode : imode m2 = imode s6.mode := by
      have := congrArg Spec.TreeModes.State.mode (Except.ok.inj hid)
      exact this
    have hm2 : m2 = s7.mode := by rw [hs7.fields.mode]; exact imode_inj hmode
    subst hm2
    refine ⟨x6, ?_, AuxSame.rfl', Or.inl rfl, rfl, rfl⟩
    have hb' : (absF s x).templateOnStack = true := by subst hx0; exact hb.symm
    have key : ({ ((Spec.TreeModes.popUntilPopped ((absF s x).err "in template: end of file") "template").clearToLastMarker) with
        templateModes := ((Spec.TreeModes.popUntilPopped ((absF s x).err "in template: end of file") "template").clearToLastMarker).templateModes.dropLast } : SState)
        = absF s5 x0 := by
      subst hx0
      rw [e5, ← e4, e3, ← e2, ← e1]
      rfl
    simp only [Spec.TreeModes.inTemplateEof, hb', Bool.not_true, Bool.false_eq_true, if_false]
    rw [key, ← hc5, e6]
    show _ = Except.ok (Step.reprocess (absF s7 x6))
    rw [← e7]
    rfl

theorem body_eof : ∀ s, MInv s → (∀ m ∈ s.templateModes, m ≠ .inTableText) →
    PC (stepInBody .eof) s (TokPost (fun σ => Spec.TreeModes.inBody (cfgOf s) σ (stokOf .eof)) s .eof) := by
  intro s hm htm
  simp only [stepInBody, stokOf, Spec.TreeModes.inBody]
  refine pc_getS_bind ?_
  have hemp : ∀ x, (absF s x).templateModes.isEmpty = s.templateModes.isEmpty := by
    intro x; simp [absF]
  cases hte : s.templateModes.isEmpty with
  | false =>
    simp only [Bool.not_false, if_true]
    refine pc_tokPost_congr (b1_inTemplateEof hm htm) ?_
    intro x hx
    simp only [hemp, hte, Bool.not_false, if_true]
  | true =>
    simp only [Bool.not_true, Bool.false_eq_true, if_false]
    refine pc_seq (pc_checkBodyEnd hm "in body: end of file with open elements") ?_
    rintro _ s1 c1 _ htr
    refine pc_pure (tokPost_of_tr (by rw [List.append_nil]; exact htr) trivial ?_)
    rintro x x' hx hx' ⟨hxx, e⟩
    refine ⟨{ x' with stopped := true }, ?_, ⟨rfl, rfl, rfl, rfl, rfl⟩, Or.inr ⟨rfl, rfl⟩, rfl, rfl⟩
    simp only [hemp, hte, Bool.not_true, Bool.false_eq_true, if_false]
    rw [← e]
    rfl

/-! #### runs of characters -/

section ReconStack
variable {N T : Type} [DecidableEq N]

/-- "reconstruct the active formatting elements" pushes HTML elements -/
theorem b1_reconstruct_stack (cx : Ctx T) (st st' : PState N T)
    (h : Spec.TreeAlgo2.reconstructActiveFormattingElements cx st = some st') :
    ∃ new, st'.stack = st.stack ++ new ∧ (∀ e ∈ new, e.name.ns = Spec.TreeAlgo.nsHtml) ∧ (new ≠ [] → st.stack ≠ []) := by
  refine reconstruct_ind cx (fun st2 => ∃ new, st2.stack = st.stack ++ new ∧
    (∀ e ∈ new, e.name.ns = Spec.TreeAlgo.nsHtml) ∧ (new ≠ [] → st.stack ≠ [])) ?_ ⟨[], by simp, by simp, by simp⟩ h
  rintro st2 st1 i m tok el ⟨new, h1, h2, h3⟩ _ hins
  obtain ⟨_, _, _, hel, hstack, _, _, _, hne, _, _⟩ := insertForeignElement_some hins
  refine ⟨new ++ [el], by simp [hstack, h1], ?_, fun _ hs => ?_⟩
  · intro e he
    rcases List.mem_append.mp he with he | he
    · exact h2 e he
    · rw [List.mem_singleton.mp he, hel]
  · cases new with
    | nil => exact hne (by rw [h1, hs]; rfl)
    | cons a l => exact h3 (List.cons_ne_nil _ _) hs

end ReconStack

theorem b1_acn_two {α : Type} (a b : α) (l : List α) (ctx : Option α) :
    Spec.TreeAlgo.adjustedCurrentNode (a :: b :: l) ctx = some a := by
  cases ctx <;> rfl

/-- after "reconstruct the active formatting elements": what the dispatcher looks at -/
theorem b1_reconstruct_disp {cfg : Config Id} {σ σ' : SState} (h : Spec.TreeModes.reconstruct σ = .ok σ') :
    σ'.mode = σ.mode ∧ σ'.stopped = σ.stopped ∧ σ'.ignoreLf = σ.ignoreLf ∧
    (Spec.TreeAlgo.useHtmlRules (Spec.TreeModes.adjustedCurrentNode cfg σ) .character = true →
      Spec.TreeAlgo.useHtmlRules (Spec.TreeModes.adjustedCurrentNode cfg σ') .character = true) := by
  unfold Spec.TreeModes.reconstruct at h
  cases hr : Spec.TreeAlgo2.reconstructActiveFormattingElements Spec.TreeModes.cx σ.p with
  | none => rw [hr] at h; cases h
  | some p =>
    rw [hr] at h
    have : σ' = { σ with p := p } := by cases h; rfl
    subst this
    refine ⟨rfl, rfl, rfl, ?_⟩
    obtain ⟨new, hst, hall, hne⟩ := b1_reconstruct_stack _ _ _ hr
    intro hu
    cases hrv : new.reverse with
    | nil =>
      have hn : new = [] := List.reverse_eq_nil_iff.mp hrv
      rw [hn, List.append_nil] at hst
      have := adjustedCurrentNode_congr (cfg := cfg) (σ := σ) (σ1 := { σ with p := p }) hst rfl
      rw [this]
      exact hu
    | cons a r =>
      have hn : new = r.reverse ++ [a] := by
        have := congrArg List.reverse hrv
        simpa using this
      have hane : new ≠ [] := by rw [hn]; simp
      have ha : a.name.ns = Spec.TreeAlgo.nsHtml := hall a (by rw [hn]; simp)
      have hs0 := hne hane
      unfold Spec.TreeModes.adjustedCurrentNode
      show Spec.TreeAlgo.useHtmlRules (Spec.TreeAlgo.adjustedCurrentNode (p.stack.reverse.map _) _) _ = true
      rw [hst, hn]
      simp only [List.reverse_append, List.reverse_cons, List.reverse_nil, List.nil_append, List.reverse_reverse,
        List.cons_append, List.map_cons]
      generalize hq : List.map (Spec.TreeModes.openElem { σ with p := p }) (r ++ σ.p.stack.reverse) = q
      cases q with
      | nil =>
        exfalso
        have : σ.p.stack = [] := by
          have := congrArg List.length hq
          simp at this
          exact this.2
        exact hs0 this
      | cons b l =>
        rw [b1_acn_two]
        simp [Spec.TreeAlgo.useHtmlRules, Spec.TreeModes.openElem, ha]

/-- what "in body" does with a character once the formatting elements are reconstructed -/
def b1_g (σ : SState) (c : Char) : Spec.TreeModes.M SState := do
  let σ' ← Spec.TreeModes.insertChar σ c
  pure (if Spec.TreeModes.isWs c then σ' else σ'.notOk)

theorem b1_inBody_char {cfg : Config Id} {σ σ1 : SState} {c : Char} (hc : c ≠ '\x00')
    (hr : Spec.TreeModes.reconstruct σ = .ok σ1) :
    Spec.TreeModes.inBody cfg σ (.character c) = (Step.done <$> b1_g σ1 c) := by
  have h0 : (c == '\x00') = false := by simp [hc]
  simp only [Spec.TreeModes.inBody, h0, Bool.false_eq_true, if_false, b1_g, hr]
  cases hw : Spec.TreeModes.isWs c <;> cases hi : Spec.TreeModes.insertChar σ1 c <;> simp [hi, bind, Except.bind, pure, Except.pure, Functor.map, Except.map]

theorem b1_g_ok {σ σ1 : SState} {c : Char} (h : b1_g σ c = .ok σ1) :
    ∃ σi, Spec.TreeModes.insertChar σ c = .ok σi ∧ σ1 = (if Spec.TreeModes.isWs c then σi else σi.notOk) := by
  unfold b1_g at h
  cases hi : Spec.TreeModes.insertChar σ c with
  | error e => rw [hi] at h; cases h
  | ok σi =>
    rw [hi] at h
    refine ⟨σi, rfl, ?_⟩
    cases h; rfl

theorem b1_sameDisp_notOk (σ : SState) : SameDisp σ σ.notOk := ⟨rfl, rfl, rfl, rfl, rfl⟩

theorem b1_g_disp {σ σ1 : SState} {c : Char} (h : b1_g σ c = .ok σ1) : SameDisp σ σ1 ∧ (ReconDone σ → ReconDone σ1) := by
  obtain ⟨σi, hi, h1⟩ := b1_g_ok h
  have sd := SameDisp.insertChar hi
  cases hw : Spec.TreeModes.isWs c
  · simp only [hw, Bool.false_eq_true, if_false] at h1
    subst h1
    refine ⟨⟨sd.stack, sd.annot, sd.mode, sd.stopped, sd.ignoreLf⟩, fun hd => ?_⟩
    have := reconDone_insertChar hd hi
    exact this
  · simp only [hw, if_true] at h1
    subst h1
    exact ⟨sd, fun hd => reconDone_insertChar hd hi⟩

/-- a run of characters, each handled by "in body", after the formatting elements were reconstructed -/
theorem b1_run {cfg : Config Id} : ∀ (t : Str) (σ σ' : SState), (∀ c ∈ t, c ≠ '\x00') → ReconDone σ →
    σ.stopped = false → σ.ignoreLf = false →
    Spec.TreeAlgo.useHtmlRules (Spec.TreeModes.adjustedCurrentNode cfg σ) .character = true →
    t.foldlM b1_g σ = .ok σ' → CharsRunK cfg (Spec.TreeModes.inBody cfg) σ t σ' := by
  intro t
  induction t with
  | nil =>
    intro σ σ' _ _ _ _ _ h
    cases h
    exact CharsRunK.nil σ
  | cons c cs ih =>
    intro σ σ' hnz hd hs hl hu h
    rw [List.foldlM_cons] at h
    cases h1 : b1_g σ c with
    | error e => rw [h1] at h; cases h
    | ok σ1 =>
      rw [h1] at h
      obtain ⟨sd, hd1⟩ := b1_g_disp h1
      have hu1 : Spec.TreeAlgo.useHtmlRules (Spec.TreeModes.adjustedCurrentNode cfg σ1) .character = true := by
        rw [adjustedCurrentNode_congr sd.stack sd.annot]; exact hu
      refine CharsRunK.cons ?_ sd.mode (sd.stopped.trans hs) (sd.ignoreLf.trans hl) hu1
        (ih σ1 σ' (fun c hc => hnz c (List.mem_cons_of_mem _ hc)) (hd1 hd) (sd.stopped.trans hs) (sd.ignoreLf.trans hl) hu1 h)
      rw [b1_inBody_char (hnz c List.mem_cons_self) (reconstruct_of_reconDone hd), h1]
      rfl

/-- the first character is handled in the state before the reconstruction -/
theorem b1_run_first {cfg : Config Id} {σ0 σ1 σ' : SState} {t : Str} (hne : t ≠ []) (hnz : ∀ c ∈ t, c ≠ '\x00')
    (hr : Spec.TreeModes.reconstruct σ0 = .ok σ1) (hmode : σ1.mode = σ0.mode)
    (h : CharsRunK cfg (Spec.TreeModes.inBody cfg) σ1 t σ') : CharsRunK cfg (Spec.TreeModes.inBody cfg) σ0 t σ' := by
  cases h with
  | nil => exact absurd rfl hne
  | cons e h2 h3 h4 h5 hrest =>
    refine CharsRunK.cons ?_ (h2.trans hmode) h3 h4 h5 hrest
    rw [b1_inBody_char (hnz _ List.mem_cons_self) hr, ← b1_inBody_char (hnz _ List.mem_cons_self) (reconstruct_idem hr)]
    exact e

theorem b1_fold_notOk : ∀ (t : Str) (σ σ' : SState), t.foldlM (fun σ c => Spec.TreeModes.insertChar σ c) σ = .ok σ' →
    t.foldlM (fun σ c => Spec.TreeModes.insertChar σ c) σ.notOk = .ok σ'.notOk := by
  intro t σ σ' h
  cases t with
  | nil => cases h; rfl
  | cons c cs =>
    cases hp : Spec.TreeAlgo2.appropriatePlace σ.p.stack σ.p.fosterParenting none with
    | none =>
      exfalso
      rw [List.foldlM_cons] at h
      have : Spec.TreeModes.insertChar σ c = .error "insert a character: no place" := by
        simp only [Spec.TreeModes.insertChar, Spec.TreeAlgo2.insertCharacters, hp, Option.map_none, Spec.TreeModes.req]
        rfl
      rw [this] at h
      cases h
    | some pl =>
      rw [foldlM_insertChar σ pl hp] at h
      rw [foldlM_insertChar σ.notOk pl hp]
      cases h
      rfl

theorem b1_fold_g : ∀ (t : Str) (σ σ' : SState), t.foldlM (fun σ c => Spec.TreeModes.insertChar σ c) σ = .ok σ' →
    t.foldlM b1_g σ = .ok (if t.all Spec.TreeModes.isWs then σ' else σ'.notOk) := by
  intro t
  induction t with
  | nil => intro σ σ' h; cases h; rfl
  | cons c cs ih =>
    intro σ σ' h
    rw [List.foldlM_cons] at h ⊢
    cases hi : Spec.TreeModes.insertChar σ c with
    | error e => rw [hi] at h; cases h
    | ok σi =>
      rw [hi] at h
      have hg : b1_g σ c = .ok (if Spec.TreeModes.isWs c then σi else σi.notOk) := by
        simp only [b1_g, hi]; rfl
      rw [hg]
      cases hw : Spec.TreeModes.isWs c with
      | true =>
        simp only [if_true, List.all_cons, hw, Bool.true_and]
        exact ih σi σ' h
      | false =>
        simp only [Bool.false_eq_true, if_false, List.all_cons, hw, Bool.false_and]
        have := ih σi.notOk σ'.notOk (b1_fold_notOk cs σi σ' h)
        show List.foldlM b1_g σi.notOk cs = _
        rw [this]
        cases cs.all Spec.TreeModes.isWs <;> rfl

theorem b1_fold_g_notOk (t : Str) (hne : t ≠ []) (σ σ3 : SState)
    (h : t.foldlM (fun σ c => Spec.TreeModes.insertChar σ c) σ.notOk = .ok σ3)
    (hall : t.all Spec.TreeModes.isWs = false) : t.foldlM b1_g σ = .ok σ3 := by
  cases hp : Spec.TreeAlgo2.appropriatePlace σ.p.stack σ.p.fosterParenting none with
  | none =>
    exfalso
    cases t with
    | nil => exact hne rfl
    | cons c cs =>
      rw [List.foldlM_cons] at h
      have : Spec.TreeModes.insertChar σ.notOk c = .error "insert a character: no place" := by
        simp only [Spec.TreeModes.insertChar, Spec.TreeAlgo2.insertCharacters]
        rw [show σ.notOk.p = σ.p from rfl, hp]
        rfl
      rw [this] at h
      cases h
  | some pl =>
    rw [foldlM_insertChar σ.notOk pl hp] at h
    have := b1_fold_g t σ _ (foldlM_insertChar σ pl hp t)
    rw [hall] at this
    simp only [Bool.false_eq_true, if_false] at this
    rw [this]
    cases h
    rfl

theorem b1_all_any (t : Str) : t.all Spec.TreeModes.isWs = !anyNotWhitespace t := by
  unfold anyNotWhitespace
  induction t with
  | nil => rfl
  | cons c cs ih => simp [List.all_cons, List.any_cons, ih, isWs_eq_ascii]

/-- **runs of characters** in "in body" -/
theorem simChars_inBody : StepSimChars stepInBody Spec.TreeModes.inBody := by
  intro st text hwf s hm hlf hdisp
  obtain ⟨hne, hnul, hcls⟩ := hwf
  have hnz : ∀ c ∈ text, c ≠ '\x00' := fun c hc e => hnul (e ▸ hc)
  simp only [stepInBody]
  refine pc_seq (pc_reconstruct hm) ?_
  rintro _ s1 c1 _ ⟨hS1, -, htr1⟩
  have hm1 : MInv s1 := htr1.1
  have hlf1 : s1.ignoreLf = s.ignoreLf := (sbsl_fields hS1).ignoreLf
  -- the specification's run, from the state after the reconstruction
  have hrun : ∀ x x1 σ3, AuxOk s x → Spec.TreeModes.reconstruct (absF s x) = .ok (absF s1 x1) →
      text.foldlM b1_g (absF s1 x1) = .ok σ3 →
      CharsRunK (cfgOf s) (Spec.TreeModes.inBody (cfgOf s)) (absF s x) text σ3 := by
    intro x x1 σ3 hx r1 hf
    obtain ⟨d1, d2, d3, d4⟩ := b1_reconstruct_disp (cfg := cfgOf s) r1
    exact b1_run_first hne hnz r1 d1 (b1_run text _ _ hnz (reconDone_of_reconstruct r1) (d2.trans hx.live) (d3.trans hlf)
      (d4 (hdisp x hx)) hf)
  cases hany : anyNotWhitespace text with
  | false =>
    simp only [Bool.false_eq_true, if_false]
    refine pc_conseq (pc_appendText hm1 text) ?_
    rintro r s3 c3 _ ⟨rfl, hs3, htr3⟩
    refine ⟨hs3.fields.ignoreLf.trans hlf1, (htr1.trans htr3).conseq ?_⟩
    rintro x x3 hx hx3 ⟨x1, r1, r3⟩
    refine hrun x x1 _ hx r1 ?_
    have := b1_fold_g text _ _ r3
    rw [b1_all_any, hany] at this
    exact this
  | true =>
    simp only [if_true]
    refine pc_seq (pc_setFramesetNotOk hm1) ?_
    rintro _ s2 c2 _ ⟨hs2, htr2⟩
    have hm2 : MInv s2 := htr2.1
    refine pc_conseq (pc_appendText hm2 text) ?_
    rintro r s3 c3 _ ⟨rfl, hs3, htr3⟩
    have hlf2 : s2.ignoreLf = s1.ignoreLf := by rw [hs2]
    rw [← List.append_assoc]
    refine ⟨hs3.fields.ignoreLf.trans (hlf2.trans hlf1), ((htr1.trans htr2).trans htr3).conseq ?_⟩
    rintro x x3 hx hx3 ⟨x2, ⟨x1, r1, hx2, r2⟩, r3⟩
    subst x2
    refine hrun x x1 _ hx r1 ?_
    rw [r2] at r3
    refine b1_fold_g_notOk text hne _ _ r3 ?_
    rw [b1_all_any, hany]
    rfl

/-! ### (B) the tag arms `body`, `frameset`, `</body>`, `</html>` -/

/-! #### the `body` start tag -/

/-- the clause for a `body` start tag, after the parse error -/
def b1_specBody (σ : SState) (attrs : List Spec.TreeModes.Attr) : Spec.TreeModes.M (Step Id) :=
  match σ.p.stack[1]? with
  | some body =>
    if !body.name.isHtml "body" || σ.templateOnStack then pure (.done σ)
    else pure (.done (σ.notOk.xop (.addMissingAttributes body.id attrs)))
  | none => pure (.done σ)

theorem b1_specBody_of_none {σ : SState} (attrs : List Spec.TreeModes.Attr) (h : specBodyElem σ = none) :
    b1_specBody σ attrs = pure (.done σ) := by
  unfold b1_specBody
  cases h1 : σ.p.stack[1]? with
  | none => rfl
  | some e => simp only [specBodyElem_none h e h1, Bool.not_false, Bool.true_or, if_true]

theorem b1_specBody_of_some {σ : SState} (attrs : List Spec.TreeModes.Attr) {n : Id} (h : specBodyElem σ = some n) :
    b1_specBody σ attrs = (if σ.templateOnStack then pure (.done σ)
      else pure (.done (σ.notOk.xop (.addMissingAttributes n attrs)))) := by
  obtain ⟨e, h1, h2, h3⟩ := specBodyElem_some h
  unfold b1_specBody
  simp only [h1, h2, h3, Bool.not_true, Bool.false_or]

/-- **A start tag whose tag name is "body"** -/
theorem body_startBody {t : Tag} (hwf : TagWf t) {s : State} (hm : MInv s) :
    PC (do
        let _ ← unexpected
        match ← bodyElem with
        | some node =>
          if (← getS).openElems.length != 1 then
            if !(← inHtmlElemNamed "template") then
              setFramesetOk false
              sinkUnit (.addAttrsIfMissing node t.attrs)
        | none => pure ()
        pure .done) s
      (TokPost (fun σ => b1_specBody (σ.err "in body: body start tag") (specTag t).attrs) s (.tag t)) := by
  refine pc_seq (pc_unexpected hm) ?_
  rintro _ s1 c1 _ ⟨-, htr1⟩
  have hm1 : MInv s1 := htr1.1
  refine pc_seq (pc_bodyElem hm1) ?_
  rintro b s2 c2 _ htr2
  have hm2 : MInv s2 := htr2.1
  have h12 := ((Tr.err hm "in body: body start tag").trans htr1).trans htr2
  cases b with
  | none =>
    simp only []
    refine pc_pure ?_
    simp only [List.nil_append, List.append_nil] at h12 ⊢
    refine tokPost_of_tr h12 trivial ?_
    rintro x x2 hx hx2 ⟨x1, ⟨x0, hx0, hx1, e1⟩, hx2', e2, hb⟩
    subst x2 x1
    refine ⟨x0, ?_, AuxSame.rfl', Or.inl rfl, rfl, rfl⟩
    have e0 : (absF s x).err "in body: body start tag" = absF s x0 := by subst hx0; rfl
    rw [e0, b1_specBody_of_none _ (by rw [e1]; exact hb.symm), e1, e2]
    rfl
  | some node =>
    simp only []
    refine pc_getS_bind ?_
    by_cases hl : s2.openElems.length = 1
    · have hne : (s2.openElems.length != 1) = false := by simp [hl]
      simp only [hne, Bool.false_eq_true, ↓reduceIte]
      refine pc_pure ?_
      simp only [List.nil_append, List.append_nil] at h12 ⊢
      refine tokPost_of_tr h12 trivial ?_
      rintro x x2 hx hx2 ⟨x1, ⟨x0, hx0, hx1, e1⟩, hx2', e2, hb⟩
      subst x2 x1
      exfalso
      obtain ⟨e, he1, -, -⟩ := specBodyElem_some hb.symm
      have hlen := absF_stack_length hx2
      rw [← e2, hl] at hlen
      obtain ⟨hlt, -⟩ := List.getElem?_eq_some_iff.mp he1
      omega
    · have hne : (s2.openElems.length != 1) = true := by simp [hl]
      simp only [hne, ↓reduceIte]
      refine pc_seq (pc_inHtmlElemNamed_template hm2) ?_
      rintro b3 s3 c3 _ htr3
      have hm3 : MInv s3 := htr3.1
      have h123 := h12.trans htr3
      cases b3 with
      | true =>
        simp only [Bool.not_true, Bool.false_eq_true, ↓reduceIte]
        refine pc_pure ?_
        simp only [List.nil_append, List.append_nil, List.append_assoc] at h123 ⊢
        refine tokPost_of_tr h123 trivial ?_
        rintro x x3 hx hx3 ⟨x2, ⟨x1, ⟨x0, hx0, hx1, e1⟩, hx2', e2, hb⟩, hx3', e3, hb3⟩
        subst x3 x2 x1
        refine ⟨x0, ?_, AuxSame.rfl', Or.inl rfl, rfl, rfl⟩
        have e0 : (absF s x).err "in body: body start tag" = absF s x0 := by subst hx0; rfl
        have ht : (absF s x0).templateOnStack = true := by rw [e1, e2]; exact hb3.symm
        rw [e0, b1_specBody_of_some _ (by rw [e1]; exact hb.symm), ht]
        simp only [if_true]
        rw [e1, e2, e3]
        rfl
      | false =>
        simp only [Bool.not_false, ↓reduceIte]
        refine pc_seq (pc_setFramesetNotOk hm3) ?_
        rintro _ s4 c4 _ ⟨-, htr4⟩
        refine pc_seq (pc_addAttrsIfMissing htr4.1 node hwf.plain) ?_
        rintro _ s5 c5 _ ⟨-, htr5⟩
        refine pc_pure ?_
        have hall := (h123.trans htr4).trans htr5
        simp only [List.nil_append, List.append_nil, List.append_assoc] at hall ⊢
        refine tokPost_of_tr hall trivial ?_
        rintro x x5 hx hx5 ⟨x4, ⟨x3, ⟨x2, ⟨x1, ⟨x0, hx0, hx1, e1⟩, hx2', e2, hb⟩, hx3', e3, hb3⟩, hx4', e4⟩, e5⟩
        subst x4 x3 x2 x1
        refine ⟨x5, ?_, AuxSame.rfl', Or.inl rfl, rfl, rfl⟩
        have e0 : (absF s x).err "in body: body start tag" = absF s x0 := by subst hx0; rfl
        have ht : (absF s x0).templateOnStack = false := by rw [e1, e2]; exact hb3.symm
        rw [e0, b1_specBody_of_some _ (by rw [e1]; exact hb.symm), ht]
        simp only [Bool.false_eq_true, if_false]
        show _ = Except.ok (Step.done (absF s5 x5))
        rw [e5, e4, ← e3, ← e2, ← e1]
        rfl

/-! #### the `frameset` start tag -/

/-- the clause for a `frameset` start tag, after the parse error -/
def b1_specFrameset (σ : SState) (t : STag) : Spec.TreeModes.M (Step Id) :=
  match σ.p.stack[1]? with
  | some body =>
    if !body.name.isHtml "body" then pure (.done σ)
    else if !σ.framesetOk then pure (.done σ)
    else do
      let s : SState := { σ with p := { σ.p with log := σ.p.log ++ [Edit.remove body.id] } }
      let s := s.setStack (s.p.stack.take 1)
      let s ← Spec.TreeModes.insertHtml' s t
      pure (.done (s.setMode .inFrameset))
  | none => pure (.done σ)

theorem b1_specFrameset_of_none {σ : SState} (t : STag) (h : specBodyElem σ = none) :
    b1_specFrameset σ t = pure (.done σ) := by
  unfold b1_specFrameset
  cases h1 : σ.p.stack[1]? with
  | none => rfl
  | some e => simp only [specBodyElem_none h e h1, Bool.not_false, if_true]

/-- the state in which the `frameset` element is inserted -/
def b1_fsState (σ : SState) (n : Id) : SState :=
  ({ σ with p := { σ.p with log := σ.p.log ++ [Edit.remove n] } } : SState).setStack (σ.p.stack.take 1)

theorem b1_specFrameset_of_some {σ : SState} (t : STag) {n : Id} (h : specBodyElem σ = some n) :
    b1_specFrameset σ t = (if σ.framesetOk then do
      let s ← Spec.TreeModes.insertHtml' (b1_fsState σ n) t
      pure (.done (s.setMode .inFrameset)) else pure (.done σ)) := by
  obtain ⟨e, h1, h2, h3⟩ := specBodyElem_some h
  unfold b1_specFrameset b1_fsState
  cases hf : σ.framesetOk <;> simp only [h1, h2, h3, Bool.not_true, Bool.not_false, Bool.false_eq_true, if_false, if_true]

/-- `sink.remove_from_parent(node)`: "remove the node from its parent node, if it has one" -/
theorem b1_pc_removeFromParent {s : State} (hm : MInv s) (node : Id) :
    PC (sinkUnit (.removeFromParent node)) s (fun _ s' calls => SameTB s s' ∧
      Tr s s' calls (fun x x' => absF s' x' =
        { absF s x with p := { (absF s x).p with log := (absF s x).p.log ++ [Edit.remove node] } })) := by
  refine pc_conseq (pc_sinkUnit s) ?_
  rintro _ s' calls he ⟨d', out, ha, hs', hc⟩
  have hout : out = .unit := unit_removeFromParent node _ _ _ ha
  subst hout
  have hs : SameTB s s' := hs' ▸ SameTB.afterCall ..
  refine ⟨hs, ?_⟩
  refine (Tr.of_edits (hm.sameTB hs he.ext) (cfgOf_of_same hm hs he.ext) he [] [Edit.remove node] [] (FreshIds.nil _)
    ?_ (annot_of_sub he.ext hm (by rw [hs.openElems]; exact fun _ h => h)) (by simp)).conseq ?_
  · intro tc _
    rw [hc]
    rfl
  · rintro x x' hx _ ⟨hx', rest, hsup⟩
    subst hx'
    rw [absF_step_same hm hs he.ext]
    simp [absF, absP, Edit.mapTok]

/-- "pop all the nodes from the current node up to, but not including, the root `html` element" -/
theorem b1_pc_take1 {s : State} (hm : MInv s) :
    PC (modS fun s => { s with openElems := s.openElems.take 1 }) s (fun _ s' calls =>
      Tr s s' calls (fun x x' => x' = x ∧ absF s' x = (absF s x).setStack ((absF s x).p.stack.take 1))) := by
  refine pc_modS rfl rfl ?_
  refine (Tr.of_prefix (s' := { s with openElems := s.openElems.take 1 }) hm rfl (List.take_prefix 1 _)
    (Ext2.of_eq rfl rfl) rfl).conseq ?_
  rintro x x' hx _ ⟨hxx, e⟩
  refine ⟨hxx, ?_⟩
  rw [e, absF_stack hx]
  simp [absStack, List.map_take]

/-- **A start tag whose tag name is "frameset"** -/
theorem body_startFrameset {t : Tag} (hwf : TagWf t) {s : State} (hm : MInv s) :
    PC (do
        let _ ← unexpected
        if !(← getS).framesetOk then pure .done
        else
          match ← bodyElem with
          | none => pure .done
          | some body =>
            sinkUnit (.removeFromParent body)
            modS fun s => { s with openElems := s.openElems.take 1 }
            let _ ← insertElementFor t
            setMode .inFrameset
            pure .done) s
      (TokPost (fun σ => b1_specFrameset (σ.err "in body: frameset start tag") (specTag t)) s (.tag t)) := by
  refine pc_seq (pc_unexpected hm) ?_
  rintro _ s1 c1 _ ⟨-, htr1⟩
  have hm1 : MInv s1 := htr1.1
  have h01 := (Tr.err hm "in body: frameset start tag").trans htr1
  refine pc_getS_bind ?_
  cases hfo : s1.framesetOk with
  | false =>
    simp only [Bool.not_false, ↓reduceIte]
    refine pc_pure ?_
    simp only [List.nil_append, List.append_nil] at h01 ⊢
    refine tokPost_of_tr h01 trivial ?_
    rintro x x1 hx hx1 ⟨x0, hx0, hx1', e1⟩
    subst x1
    refine ⟨x0, ?_, AuxSame.rfl', Or.inl rfl, rfl, rfl⟩
    have e0 : (absF s x).err "in body: frameset start tag" = absF s x0 := by subst hx0; rfl
    have hf : (absF s x0).framesetOk = false := by rw [e1]; exact hfo
    rw [e0]
    cases hb : specBodyElem (absF s x0) with
    | none => rw [b1_specFrameset_of_none _ hb, e1]; rfl
    | some n =>
      rw [b1_specFrameset_of_some _ hb]
      simp only [hf, Bool.false_eq_true, if_false]
      rw [e1]; rfl
  | true =>
    simp only [Bool.not_true, Bool.false_eq_true, ↓reduceIte]
    refine pc_seq (pc_bodyElem hm1) ?_
    rintro b s2 c2 _ htr2
    have hm2 : MInv s2 := htr2.1
    have h12 := h01.trans htr2
    cases b with
    | none =>
      simp only []
      refine pc_pure ?_
      simp only [List.nil_append, List.append_nil] at h12 ⊢
      refine tokPost_of_tr h12 trivial ?_
      rintro x x2 hx hx2 ⟨x1, ⟨x0, hx0, hx1, e1⟩, hx2', e2, hb⟩
      subst x2 x1
      refine ⟨x0, ?_, AuxSame.rfl', Or.inl rfl, rfl, rfl⟩
      have e0 : (absF s x).err "in body: frameset start tag" = absF s x0 := by subst hx0; rfl
      rw [e0, b1_specFrameset_of_none _ (by rw [e1]; exact hb.symm), e1, e2]
      rfl
    | some body =>
      simp only []
      refine pc_seq (b1_pc_removeFromParent hm2 body) ?_
      rintro _ s3 c3 _ ⟨-, htr3⟩
      have hm3 : MInv s3 := htr3.1
      refine pc_seq (b1_pc_take1 hm3) ?_
      rintro _ s4 c4 _ htr4
      have hm4 : MInv s4 := htr4.1
      refine pc_seq (pc_insertElementFor' hm4 hwf.plain) ?_
      rintro a s5 c5 _ ⟨-, -, -, -, -, htr5⟩
      have hm5 : MInv s5 := htr5.1
      refine pc_seq (pc_setMode_junk hm5 .inFrameset (by decide)) ?_
      rintro _ s6 c6 _ ⟨-, htr6⟩
      refine pc_pure ?_
      have hall := (((h12.trans htr3).trans htr4).trans htr5).trans htr6
      simp only [List.nil_append, List.append_nil, List.append_assoc] at hall ⊢
      refine tokPost_of_tr hall trivial ?_
      rintro x x6 hx hx6 ⟨x5, ⟨x4, ⟨x3, ⟨x2, ⟨x1, ⟨x0, hx0, hx1, e1⟩, hx2', e2, hb⟩, e3⟩, hx4', e4⟩, e5⟩, hx6', e6⟩
      subst x4 x2 x1
      refine ⟨x6, ?_, AuxSame.rfl', Or.inl rfl, rfl, rfl⟩
      have e0 : (absF s x).err "in body: frameset start tag" = absF s x0 := by subst hx0; rfl
      have hf : (absF s x0).framesetOk = true := by rw [e1]; exact hfo
      rw [e0, b1_specFrameset_of_some _ (by rw [e1]; exact hb.symm)]
      simp only [hf, if_true]
      have key : b1_fsState (absF s x0) body = absF s4 x3 := by
        rw [e4, e3, ← e2, ← e1]
        rfl
      rw [key, e5]
      show _ = Except.ok (Step.done (absF s6 x6))
      rw [e6]
      rfl

/-! #### the `body` and `html` end tags -/

/-- **An end tag whose tag name is "body"** -/
theorem body_endBody {t : Tag} {s : State} (hm : MInv s) :
    PC (do
        if ← inScopeNamed defaultScope "body" then
          checkBodyEnd
          setMode .afterBody
        else parseError "</body> with no <body> in scope"
        pure .done) s
      (TokPost (fun σ => if !Spec.TreeModes.hasInScope (cfgOf s) σ "body" then
          pure (.done (σ.err "in body: body end tag without body in scope"))
        else pure (.done ((Spec.TreeModes.bodyEndCheck σ "in body: body end tag with open elements").setMode .afterBody))) s (.tag t)) := by
  refine pc_seq (pc_inScopeNamed_default hm "body") ?_
  rintro b s1 c1 _ htr1
  have hm1 : MInv s1 := htr1.1
  cases b with
  | true =>
    simp only [↓reduceIte]
    refine pc_seq (pc_checkBodyEnd hm1 "in body: body end tag with open elements") ?_
    rintro _ s2 c2 _ htr2
    have hm2 : MInv s2 := htr2.1
    refine pc_seq (pc_setMode_junk hm2 .afterBody (by decide)) ?_
    rintro _ s3 c3 _ ⟨-, htr3⟩
    refine pc_pure ?_
    have hall := (htr1.trans htr2).trans htr3
    simp only [List.append_nil, List.append_assoc] at hall ⊢
    refine tokPost_of_tr hall trivial ?_
    rintro x x3 hx hx3 ⟨x2, ⟨x1, ⟨hx1, e1, hb⟩, hx2, e2⟩, hx3', e3⟩
    subst x1
    refine ⟨x3, ?_, AuxSame.rfl', Or.inl rfl, rfl, rfl⟩
    simp only [← hb, Bool.not_true, Bool.false_eq_true, if_false]
    show _ = Except.ok (Step.done (absF s3 x3))
    rw [e3, e2, ← e1]
    rfl
  | false =>
    simp only [Bool.false_eq_true, ↓reduceIte]
    refine pc_seq (pc_parseError hm1 _) ?_
    rintro _ s2 c2 _ htr2
    refine pc_pure ?_
    have hall := htr1.trans htr2
    simp only [List.append_nil] at hall ⊢
    refine tokPost_of_tr hall trivial ?_
    rintro x x2 hx hx2 ⟨x1, ⟨hx1, e1, hb⟩, hx2', e2⟩
    subst x2 x1
    refine ⟨{ x with errors := x.errors ++ ["in body: body end tag without body in scope"] }, ?_, ⟨rfl, rfl, rfl, rfl, rfl⟩,
      Or.inl rfl, rfl, rfl⟩
    simp only [← hb, Bool.not_false, if_true]
    rw [e1, e2]
    rfl

/-- **An end tag whose tag name is "html"** -/
theorem body_endHtml {t : Tag} {s : State} (hm : MInv s) :
    PC (do
        if ← inScopeNamed defaultScope "body" then
          checkBodyEnd
          pure (.reprocess .afterBody (.tag t))
        else
          parseError "</html> with no <body> in scope"
          pure .done) s
      (TokPost (fun σ => if !Spec.TreeModes.hasInScope (cfgOf s) σ "body" then
          pure (.done (σ.err "in body: html end tag without body in scope"))
        else pure (.reprocess ((Spec.TreeModes.bodyEndCheck σ "in body: html end tag with open elements").setMode .afterBody))) s (.tag t)) := by
  refine pc_seq (pc_inScopeNamed_default hm "body") ?_
  rintro b s1 c1 _ htr1
  have hm1 : MInv s1 := htr1.1
  cases b with
  | true =>
    simp only [↓reduceIte]
    refine pc_seq (pc_checkBodyEnd hm1 "in body: html end tag with open elements") ?_
    rintro _ s2 c2 _ htr2
    refine pc_pure ?_
    have hall := htr1.trans htr2
    simp only [List.append_nil] at hall ⊢
    refine tokPost_of_tr hall rfl ?_
    rintro x x2 hx hx2 ⟨x1, ⟨hx1, e1, hb⟩, hx2', e2⟩
    subst x1
    refine ⟨{ x2 with pendingJunk := (absF s2 x2).pendingTableChars }, ?_, ⟨rfl, rfl, rfl, rfl, rfl⟩, Or.inl rfl, rfl, rfl⟩
    simp only [← hb, Bool.not_true, Bool.false_eq_true, if_false, stepOf]
    rw [e1, ← e2]
    rfl
  | false =>
    simp only [Bool.false_eq_true, ↓reduceIte]
    refine pc_seq (pc_parseError hm1 _) ?_
    rintro _ s2 c2 _ htr2
    refine pc_pure ?_
    have hall := htr1.trans htr2
    simp only [List.append_nil] at hall ⊢
    refine tokPost_of_tr hall trivial ?_
    rintro x x2 hx hx2 ⟨x1, ⟨hx1, e1, hb⟩, hx2', e2⟩
    subst x2 x1
    refine ⟨{ x with errors := x.errors ++ ["in body: html end tag without body in scope"] }, ?_, ⟨rfl, rfl, rfl, rfl, rfl⟩,
      Or.inl rfl, rfl, rfl⟩
    simp only [← hb, Bool.not_false, if_true]
    rw [e1, e2]
    rfl

end H5V.Lemmas.HtmlTBModes
