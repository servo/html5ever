import H5V.Lemmas.HtmlTBModesInvPrim
/-!
C02 (insertion modes), the invariant `Good` of the specification's run, tool box part 2: reconstruct the active
formatting elements, removing a node from the stack, "any other end tag", the dispatcher, the context `Ctx` of the
clauses of "in body" / "in head", facts about tag names, the node supply (`Suf`), the shapes of the answer of "in head" to a start tag.
-/
set_option linter.unusedSectionVars false
namespace H5V.Lemmas.ModesInv
open H5V.Spec H5V.Spec.TreeModes
open H5V.Spec.TreeAlgo (Str Name nsHtml nsMathml nsSvg inHtml)
open H5V.Spec.TreeAlgo2 (Elem Entry PState)

section
variable {N : Type} [DecidableEq N]

/-! ### stacks that differ in neutral elements only -/

/-- the non-neutral elements of a stack -/
def core (st : List (Elem N)) : List (Elem N) := st.filter fun e => !neutralN e.name

theorem cellR_core (st : List (Elem N)) : cellR (namesOf (core st)) = cellR (namesOf st) := by
  have : namesOf (core st) = (namesOf st).filter fun n => !neutralN n := by
    simp only [namesOf, core, List.filter_reverse, List.filter_map]
    rfl
  rw [this, cellR_filter]

/-- two stacks with the same non-neutral elements agree on "td/th in table scope" -/
theorem cellR_of_core {st st' : List (Elem N)} (h : core st' = core st) : cellR (namesOf st') = cellR (namesOf st) := by
  rw [← cellR_core st', h, cellR_core]

theorem core_append (a b : List (Elem N)) : core (a ++ b) = core a ++ core b := List.filter_append ..

theorem core_of_neutral {es : List (Elem N)} (h : ∀ e ∈ es, neutralN e.name = true) : core es = [] := by
  simp only [core, List.filter_eq_nil_iff]
  intro e he; simp [h e he]

theorem core_eraseIdx {st : List (Elem N)} {i : Nat} {e : Elem N} (hi : st[i]? = some e) (hn : neutralN e.name = true) :
    core (st.eraseIdx i) = core st := by
  induction st generalizing i with
  | nil => rfl
  | cons a l ih =>
    cases i with
    | zero =>
      simp only [List.getElem?_cons_zero, Option.some.injEq] at hi
      subst hi
      simp [core, hn]
    | succ i =>
      simp only [List.getElem?_cons_succ] at hi
      simp only [List.eraseIdx_cons_succ, core, List.filter_cons]
      have := ih hi
      simp only [core] at this
      rw [this]

theorem core_set {st : List (Elem N)} {i : Nat} {e e' : Elem N} (hi : st[i]? = some e) (hn : neutralN e.name = true)
    (hn' : neutralN e'.name = true) : core (st.set i e') = core st := by
  induction st generalizing i with
  | nil => rfl
  | cons a l ih =>
    cases i with
    | zero =>
      simp only [List.getElem?_cons_zero, Option.some.injEq] at hi
      subst hi
      simp [core, hn, hn']
    | succ i =>
      simp only [List.getElem?_cons_succ] at hi
      simp only [List.set_cons_succ, core, List.filter_cons]
      have := ih hi
      simp only [core] at this
      rw [this]

theorem core_insertIdx {st : List (Elem N)} (i : Nat) {e : Elem N} (hn : neutralN e.name = true) :
    core (st.insertIdx i e) = core st := by
  induction st generalizing i with
  | nil => cases i <;> simp [core, hn, List.insertIdx]
  | cons a l ih =>
    cases i with
    | zero => simp [core, hn]
    | succ i =>
      simp only [List.insertIdx_succ_cons, core, List.filter_cons]
      have := ih i
      simp only [core] at this
      rw [this]

theorem cellR_append_neutral (st : List (Elem N)) {es : List (Elem N)} (h : ∀ e ∈ es, neutralN e.name = true) :
    cellR (namesOf (st ++ es)) = cellR (namesOf st) := by
  apply cellR_of_core
  rw [core_append, core_of_neutral h, List.append_nil]

theorem cellR_snoc_neutral (st : List (Elem N)) {e : Elem N} (h : neutralN e.name = true) :
    cellR (namesOf (st ++ [e])) = cellR (namesOf st) :=
  cellR_append_neutral st (by intro x hx; simp at hx; subst hx; exact h)

/-! ### "reconstruct the active formatting elements" -/

theorem reconstructCreate_eff : ∀ (n i : Nat) (st st' : PState N ETok), AFOk st.list →
    TreeAlgo2.reconstructCreate cx n i st = some st' →
    ∃ es, st'.stack = st.stack ++ es ∧ (∀ e ∈ es, neutralN e.name = true ∧ e.name.ns = nsHtml) ∧ AFOk st'.list ∧
      st'.formPointer = st.formPointer
  | 0, _, st, st', haf, h => by
    simp only [TreeAlgo2.reconstructCreate, Option.some.injEq] at h
    subst h
    exact ⟨[], by simp, by simp, haf, rfl⟩
  | n + 1, i, st, st', haf, h => by
    unfold TreeAlgo2.reconstructCreate at h
    cases hi : st.list[i]? with
    | none => rw [hi] at h; cases h
    | some ent =>
      rw [hi] at h
      cases ent with
      | marker => cases h
      | element x tok =>
        dsimp only at h
        cases hins : TreeAlgo2.insertHtmlElement cx st tok with
        | none => rw [hins] at h; cases h
        | some r =>
          obtain ⟨st1, ne⟩ := r
          rw [hins] at h
          simp only [Option.bind_some] at h
          obtain ⟨hname, _, hstack, hlist, hform⟩ := insertForeignElement_eff hins
          have hfmt : fmtN tok.name = true := haf.getElem hi
          have hneu : neutralN ne.name = true ∧ ne.name.ns = nsHtml := by
            rw [hname]; exact ⟨neutralN_of_fmt hfmt, rfl⟩
          have haf2 : AFOk (st1.list.set i (.element ne.id tok)) := by
            rw [hlist]; exact haf.set hfmt
          rcases ite_cases h with ⟨_, h⟩ | ⟨_, h⟩
          · obtain ⟨es, h1, h2, h3, h4⟩ := reconstructCreate_eff n (i + 1) _ st' haf2 h
            refine ⟨ne :: es, ?_, ?_, h3, ?_⟩
            · rw [h1]; simp [hstack]
            · intro e he
              rcases List.mem_cons.mp he with rfl | he
              · exact hneu
              · exact h2 e he
            · rw [h4]; exact hform
          · simp only [Option.some.injEq] at h
            subst h
            refine ⟨[ne], by simp [hstack], ?_, haf2, hform⟩
            intro e he; simp at he; subst he; exact hneu

/-- **"reconstruct the active formatting elements"** pushes elements created for formatting start tags -/
theorem reconstruct_eff {s s' : State N} (haf : AFOk s.p.list) (h : reconstruct s = .ok s') :
    ∃ es l', Upd s s' (s.p.stack ++ es) l' ∧ (∀ e ∈ es, neutralN e.name = true ∧ e.name.ns = nsHtml) ∧ AFOk l' ∧
      s'.p.formPointer = s.p.formPointer := by
  unfold reconstruct at h
  obtain ⟨p, hr, h2⟩ := bind_ok h
  have hr' := req_ok hr
  cases pure_ok h2
  unfold TreeAlgo2.reconstructActiveFormattingElements at hr'
  split at hr'
  · cases hr'; exact ⟨[], _, ⟨rfl, rfl, rfl, rfl, by simp, rfl⟩, by simp, haf, rfl⟩
  · split at hr'
    · cases hr'; exact ⟨[], _, ⟨rfl, rfl, rfl, rfl, by simp, rfl⟩, by simp, haf, rfl⟩
    · obtain ⟨es, h1, h2, h3, h4⟩ := reconstructCreate_eff _ _ _ _ haf hr'
      exact ⟨es, _, ⟨rfl, rfl, rfl, rfl, h1, rfl⟩, h2, h3, h4⟩

/-- "reconstruct" keeps "td/th in table scope" (both ways) -/
theorem cellR_reconstruct {s s' : State N} (haf : AFOk s.p.list) (h : reconstruct s = .ok s') :
    cellR s'.names = cellR s.names := by
  obtain ⟨es, l', hu, hes, _, _⟩ := reconstruct_eff haf h
  rw [names_eq, hu.stack]
  exact cellR_append_neutral _ (fun e he => (hes e he).1)

/-! ### removing a node from the stack / the list -/

theorem lastPos_spec {p : Elem N → Bool} : ∀ {l : List (Elem N)} {i : Nat}, TreeAlgo2.lastPos p l = some i →
    ∃ e, l[i]? = some e ∧ p e = true
  | [], _, h => by cases h
  | a :: l, i, h => by
    unfold TreeAlgo2.lastPos at h
    cases hl : TreeAlgo2.lastPos p l with
    | some j =>
      rw [hl] at h
      simp only [Option.some.injEq] at h
      subst h
      obtain ⟨e, he, hp⟩ := lastPos_spec hl
      exact ⟨e, by simpa using he, hp⟩
    | none =>
      rw [hl] at h
      dsimp only at h
      rcases ite_cases h with ⟨_, h⟩ | ⟨_, h⟩
      · cases h; rename_i hp; exact ⟨a, rfl, hp⟩
      · cases h

theorem stackPos_spec {x : N} {st : List (Elem N)} {i : Nat} (h : TreeAlgo2.stackPos x st = some i) :
    ∃ e, st[i]? = some e ∧ e.id = x := by
  obtain ⟨e, he, hp⟩ := lastPos_spec h
  exact ⟨e, he, by simpa using hp⟩

@[simp] theorem removeFromStack_mode (s : State N) (x) : (removeFromStack s x).mode = s.mode := by
  unfold removeFromStack; split <;> rfl
@[simp] theorem removeFromStack_orig (s : State N) (x) : (removeFromStack s x).originalMode = s.originalMode := by
  unfold removeFromStack; split <;> rfl
@[simp] theorem removeFromStack_tms (s : State N) (x) : (removeFromStack s x).templateModes = s.templateModes := by
  unfold removeFromStack; split <;> rfl
@[simp] theorem removeFromStack_stopped (s : State N) (x) : (removeFromStack s x).stopped = s.stopped := by
  unfold removeFromStack; split <;> rfl
@[simp] theorem removeFromStack_list (s : State N) (x) : (removeFromStack s x).p.list = s.p.list := by
  unfold removeFromStack; split <;> rfl

/-- removing a node all of whose stack entries are neutral keeps "td/th in table scope" -/
theorem cellR_removeFromStack {s : State N} {x : N} (hx : ∀ e ∈ s.p.stack, e.id = x → neutralN e.name = true) :
    cellR (removeFromStack s x).names = cellR s.names := by
  unfold removeFromStack
  split
  · rename_i i hi
    obtain ⟨e, he, hid⟩ := stackPos_spec hi
    rw [setStack_names, names_eq]
    exact cellR_of_core (core_eraseIdx he (hx e (List.mem_of_getElem? he) hid))
  · rfl

@[simp] theorem removeFromList_mode (s : State N) (x) : (removeFromList s x).mode = s.mode := by
  unfold removeFromList; split <;> rfl
@[simp] theorem removeFromList_orig (s : State N) (x) : (removeFromList s x).originalMode = s.originalMode := by
  unfold removeFromList; split <;> rfl
@[simp] theorem removeFromList_tms (s : State N) (x) : (removeFromList s x).templateModes = s.templateModes := by
  unfold removeFromList; split <;> rfl
@[simp] theorem removeFromList_stopped (s : State N) (x) : (removeFromList s x).stopped = s.stopped := by
  unfold removeFromList; split <;> rfl
@[simp] theorem removeFromList_stack (s : State N) (x) : (removeFromList s x).p.stack = s.p.stack := by
  unfold removeFromList; split <;> rfl
@[simp] theorem removeFromList_names (s : State N) (x) : (removeFromList s x).names = s.names := by
  unfold removeFromList; split <;> rfl
theorem removeFromList_af {s : State N} (x : N) (h : AFOk s.p.list) : AFOk (removeFromList s x).p.list := by
  unfold removeFromList; split
  · exact h.eraseIdx _
  · exact h

/-! ### "any other end tag" -/

theorem special_of_tdTh {e : Elem N} (h : tdThN e.name = true) : TreeAlgo2.isSpecial e = true :=
  inTable_of_inHtml (l := ["td", "th"]) (by decide +kernel) h

theorem anyOtherEndTagSearch_noTd {name : Str} (hn : name ≠ "td".toList ∧ name ≠ "th".toList) :
    ∀ {l : List (Elem N)} {k : Nat}, TreeAlgo2.anyOtherEndTagSearch name l = some k →
      ∀ e ∈ l.take (k + 1), tdThN e.name = false
  | [], _, h, _, _ => by cases h
  | node :: rest, k, h, e, he => by
    unfold TreeAlgo2.anyOtherEndTagSearch at h
    rcases ite_cases h with ⟨_, h⟩ | ⟨_, h⟩
    · rename_i hm
      simp only [Option.some.injEq] at h
      subst h
      simp only [Nat.zero_add, List.take_succ_cons, List.take_zero, List.mem_singleton] at he
      subst he
      exact isNamed_noTd hn _ hm
    rcases ite_cases h with ⟨_, h⟩ | ⟨_, h⟩
    · cases h
    · rename_i hsp
      cases hr : TreeAlgo2.anyOtherEndTagSearch name rest with
      | none => rw [hr] at h; cases h
      | some k' =>
        rw [hr] at h
        simp only [Option.map_some, Option.some.injEq] at h
        subst h
        simp only [List.take_succ_cons, List.mem_cons] at he
        rcases he with rfl | he
        · cases hc : tdThN e.name
          · rfl
          · exact absurd (special_of_tdTh hc) hsp
        · exact anyOtherEndTagSearch_noTd hn hr e he

theorem take_takeWhile_length {α : Type} (p : α → Bool) : ∀ l : List α, l.take (l.takeWhile p).length = l.takeWhile p
  | [] => rfl
  | a :: l => by
    by_cases h : p a = true
    · rw [List.takeWhile_cons_of_pos h]; simp [take_takeWhile_length p l]
    · rw [List.takeWhile_cons_of_neg h]; rfl

theorem genImplied_stack_take (ex : Option Str) (st : List (Elem N)) :
    ∃ j, TreeAlgo2.generateImpliedEndTags ex st = st.take (st.length - j) ∧
      ∀ e ∈ st.reverse.take j, TreeAlgo.impliedEndTag ex e.name = true := by
  unfold TreeAlgo2.generateImpliedEndTags
  refine ⟨(st.reverse.takeWhile fun e => TreeAlgo.impliedEndTag ex e.name).length, ?_, ?_⟩
  · have h := List.takeWhile_append_dropWhile (p := fun e : Elem N => TreeAlgo.impliedEndTag ex e.name) (l := st.reverse)
    have hlen : st.length = (st.reverse.takeWhile fun e => TreeAlgo.impliedEndTag ex e.name).length +
        (st.reverse.dropWhile fun e => TreeAlgo.impliedEndTag ex e.name).length := by
      have := congrArg List.length h
      simp only [List.length_append, List.length_reverse] at this
      omega
    have h2 : st = (st.reverse.dropWhile fun e => TreeAlgo.impliedEndTag ex e.name).reverse ++
        (st.reverse.takeWhile fun e => TreeAlgo.impliedEndTag ex e.name).reverse := by
      have := congrArg List.reverse h
      simp only [List.reverse_append, List.reverse_reverse] at this
      exact this.symm
    conv => rhs; rw [h2]
    rw [List.take_left' (by simp)]
  · intro e he
    rw [take_takeWhile_length] at he
    exact mem_takeWhile_p (p := fun e : Elem N => TreeAlgo.impliedEndTag ex e.name) he

/-- **"any other end tag"** (tag name neither `td` nor `th`) pops no `td`/`th` element -/
theorem anyOtherEndTag_noTd {name : Str} (hn : name ≠ "td".toList ∧ name ≠ "th".toList) (st : List (Elem N)) :
    ∃ j, TreeAlgo2.anyOtherEndTag name st = st.take (st.length - j) ∧ ∀ n ∈ (namesOf st).take j, tdThN n = false := by
  unfold TreeAlgo2.anyOtherEndTag
  cases hs : TreeAlgo2.anyOtherEndTagSearch name st.reverse with
  | none => exact ⟨0, by simp, by simp⟩
  | some k =>
    dsimp only
    obtain ⟨j, hj, hjm⟩ := genImplied_stack_take (some name) st
    rw [hj, List.take_take]
    have hk := anyOtherEndTagSearch_noTd hn hs
    by_cases hle : st.length - 1 - k ≤ st.length - j
    · refine ⟨st.length - (st.length - 1 - k), by rw [Nat.min_eq_left hle]; congr 1; omega, ?_⟩
      intro n hn'
      simp only [namesOf, ← List.map_take, List.mem_map] at hn'
      obtain ⟨e, he, rfl⟩ := hn'
      exact hk e ((List.take_subset_take_left st.reverse (show st.length - (st.length - 1 - k) ≤ k + 1 by omega)) he)
    · refine ⟨st.length - (st.length - j), by rw [Nat.min_eq_right (by omega)]; congr 1; omega, ?_⟩
      intro n hn'
      simp only [namesOf, ← List.map_take, List.mem_map] at hn'
      obtain ⟨e, he, rfl⟩ := hn'
      have : e ∈ st.reverse.take j := (List.take_subset_take_left st.reverse (show st.length - (st.length - j) ≤ j by omega)) he
      exact impliedEndTag_noTd (hjm e this)

theorem cellR_anyOtherEndTag {name : Str} (hn : name ≠ "td".toList ∧ name ≠ "th".toList) {st : List (Elem N)}
    (h : cellR (namesOf st) = true) : cellR (namesOf (TreeAlgo2.anyOtherEndTag name st)) = true := by
  obtain ⟨j, hj, hno⟩ := anyOtherEndTag_noTd hn st
  rw [hj, namesOf_take_drop]
  exact cellR_drop j hno h

/-! ### the dispatcher -/

/-- if the stack has at least two elements (or there is no context element), the adjusted current node is the
current node -/
theorem adjustedCurrentNode_top (cfg : Config N) (s : State N) {top : Elem N} (ht : s.p.stack.getLast? = some top)
    (h2 : 2 ≤ s.p.stack.length ∨ cfg.context = none) :
    adjustedCurrentNode cfg s = some (openElem s top) := by
  unfold adjustedCurrentNode
  have hr : s.p.stack.reverse = top :: s.p.stack.dropLast.reverse := by
    obtain ⟨ys, hys⟩ := List.getLast?_eq_some_iff.mp ht
    rw [hys]; simp
  rw [hr]
  simp only [List.map_cons]
  unfold TreeAlgo.adjustedCurrentNode
  rcases h2 with h2 | h2
  · cases hd : s.p.stack.dropLast.reverse with
    | nil =>
      exfalso
      have : s.p.stack.dropLast.length = 0 := by
        have := congrArg List.length hd; simpa using this
      simp at this; omega
    | cons a l => rfl
  · rw [h2]
    cases s.p.stack.dropLast.reverse <;> rfl

/-- an HTML adjusted current node: the dispatcher chooses the rules of the insertion mode -/
theorem useHtml_of_top_html (cfg : Config N) (s : State N) {top : Elem N} (ht : s.p.stack.getLast? = some top)
    (h2 : 2 ≤ s.p.stack.length ∨ cfg.context = none) (hns : top.name.ns = nsHtml) (k : TreeAlgo.TokenKind) :
    TreeAlgo.useHtmlRules (adjustedCurrentNode cfg s) k = true := by
  rw [adjustedCurrentNode_top cfg s ht h2]
  unfold TreeAlgo.useHtmlRules
  simp [openElem, hns]

/-- the dispatcher chose the foreign rules and the adjusted current node is the current node: it is not an HTML
element -/
theorem top_foreign_of_not_useHtml (cfg : Config N) (s : State N) {top : Elem N} (ht : s.p.stack.getLast? = some top)
    (h2 : 2 ≤ s.p.stack.length ∨ cfg.context = none) {k : TreeAlgo.TokenKind}
    (h : TreeAlgo.useHtmlRules (adjustedCurrentNode cfg s) k = false) : top.name.ns ≠ nsHtml := by
  intro hns
  rw [useHtml_of_top_html cfg s ht h2 hns k] at h
  cases h

/-! ### "in body", a character token (any insertion mode: used by "in table text" for the pending characters) -/

theorem inBody_char_eff {cfg : Config N} {σ : State N} {c : Char} {r : Step N} (haf : AFOk σ.p.list)
    (h : inBody cfg σ (.character c) = .ok r) :
    ∃ s', r = .done s' ∧ ∃ es l', Upd σ s' (σ.p.stack ++ es) l' ∧
      (∀ e ∈ es, neutralN e.name = true ∧ e.name.ns = nsHtml) ∧ AFOk l' := by
  unfold inBody at h
  dsimp only at h
  rcases ite_cases h with ⟨_, h⟩ | ⟨_, h⟩
  · cases pure_ok h
    exact ⟨_, rfl, [], _, ⟨rfl, rfl, rfl, rfl, by simp, rfl⟩, by simp, haf⟩
  rcases ite_cases h with ⟨_, h⟩ | ⟨_, h⟩
  · obtain ⟨s1, h1, h2⟩ := bind_ok h
    obtain ⟨s2, h3, rfl⟩ := map_ok h2
    obtain ⟨es, l', hu, hes, haf', _⟩ := reconstruct_eff haf h1
    have hu2 := insertChar_eff h3
    exact ⟨_, rfl, es, l', hu.trans (by rw [← hu.stack, ← hu.list]; exact hu2), hes, haf'⟩
  · obtain ⟨s1, h1, h2⟩ := bind_ok h
    obtain ⟨s2, h3, h4⟩ := bind_ok h2
    cases pure_ok h4
    obtain ⟨es, l', hu, hes, haf', _⟩ := reconstruct_eff haf h1
    have hu2 := insertChar_eff h3
    refine ⟨_, rfl, es, l', ?_, hes, haf'⟩
    have hu3 : Upd σ s2 (σ.p.stack ++ es) l' := hu.trans (by rw [← hu.stack, ← hu.list]; exact hu2)
    exact ⟨hu3.mode, hu3.orig, hu3.tms, hu3.stopped, hu3.stack, hu3.list⟩

/-! ### the context of a rule of "in body" / "in head" & co. -/

/-- the standing hypotheses of a rule that may be run in any insertion mode but "text" / "in table text" -/
structure Ctx (cfg : Config N) (σ : State N) : Prop where
  ed : cfg.edition = .customizableSelect
  good : Good σ
  live : σ.stopped = false
  nt : σ.mode ≠ .text
  ntt : σ.mode ≠ .inTableText

/-- the rule left the mode, the original mode, the template modes alone; the stack became `st` (keeping "td/th in
table scope"), the list `l` (still formatting tokens) -/
theorem Ctx.upd {cfg : Config N} {σ σ' : State N} {st l} (hc : Ctx cfg σ) (hu : Upd σ σ' st l)
    (hcell : cellR σ.names = true → cellR (namesOf st) = true) (haf : AFOk l) : Good σ' :=
  hc.good.upd hu hc.nt hc.ntt (fun _ h => hcell h) haf

theorem Ctx.live' {cfg : Config N} {σ σ' : State N} {st l} (hc : Ctx cfg σ) (hu : Upd σ σ' st l) : σ'.stopped = false := by
  rw [hu.stopped]; exact hc.live

/-- the same state up to fields `Good` does not look at (an `err`, `notOk`, `ack`, … on top of `σ`) is again a
context -/
theorem Ctx.same {cfg : Config N} {σ σ' : State N} (hc : Ctx cfg σ) (hm : σ'.mode = σ.mode := by rfl)
    (ho : σ'.originalMode = σ.originalMode := by rfl) (ht : σ'.templateModes = σ.templateModes := by rfl)
    (hst : σ'.stopped = σ.stopped := by rfl) (hs : σ'.p.stack = σ.p.stack := by rfl) (hl : σ'.p.list = σ.p.list := by rfl) :
    Ctx cfg σ' :=
  ⟨hc.ed, hc.good.same hm ho ht hs hl, by rw [hst]; exact hc.live, by rw [hm]; exact hc.nt, by rw [hm]; exact hc.ntt⟩

/-- a context after a change of the stack that keeps "td/th in table scope" -/
theorem Ctx.of_upd {cfg : Config N} {σ σ' : State N} {st l} (hc : Ctx cfg σ) (hu : Upd σ σ' st l)
    (hcell : cellR σ.names = true → cellR (namesOf st) = true) (haf : AFOk l) : Ctx cfg σ' :=
  ⟨hc.ed, hc.upd hu hcell haf, hc.live' hu, by rw [hu.mode]; exact hc.nt, by rw [hu.mode]; exact hc.ntt⟩

/-- entering "text" from a context (the generic raw text / RCDATA algorithms, `textarea`, `script`) -/
theorem Ctx.enterText {cfg : Config N} {σ σ' : State N} (hc : Ctx cfg σ) {e : Elem N} (he : e.name.ns = nsHtml)
    (hne : σ.p.stack ≠ []) (hm : σ'.mode = .text) (ho : σ'.originalMode = σ.mode)
    (ht : σ'.templateModes = σ.templateModes) (hs : σ'.p.stack = σ.p.stack ++ [e]) (hl : σ'.p.list = σ.p.list) : Good σ' :=
  hc.good.enterText hc.nt hc.ntt he hne hm ho ht hs hl

/-- an HTML element whose tag name is in a list without `td`, `th`, `html`, `table`, `template` is neutral -/
theorem neutral_of_isOneOf {t : Tag} {l : List String} (h : t.isOneOf l = true)
    (hl : l.all (fun x => !(["td", "th", "html", "table", "template"].contains x)) = true) :
    neutralN ⟨nsHtml, t.name⟩ = true :=
  neutralN_of_strIsOneOf h hl

theorem neutral_of_is {t : Tag} {x : String} (h : t.is x = true)
    (hx : (["td", "th", "html", "table", "template"].contains x) = false) : neutralN ⟨nsHtml, t.name⟩ = true :=
  neutral_of_isOneOf (l := [x]) (by simpa [Tag.isOneOf, Tag.is, strIs, strIsOneOf] using h)
    (by simp only [List.all_cons, List.all_nil, Bool.and_true, hx]; rfl)

/-- … and so is one whose tag name is none of the five -/
theorem neutral_of_not {t : Tag} (h1 : t.is "td" = false) (h2 : t.is "th" = false) (h3 : t.is "html" = false)
    (h4 : t.is "table" = false) (h5 : t.is "template" = false) : neutralN ⟨nsHtml, t.name⟩ = true := by
  apply neutralN_of_loc
  simp only [Tag.is, strIs, beq_eq_false_iff_ne, ne_eq] at h1 h2 h3 h4 h5
  exact ⟨h1, h2, h3, h4, h5⟩

/-- an HTML element with the tag name of a token whose tag name is in `l` -/
theorem inHtml_of_named {x : Str} {l : List String} (h : strIsOneOf x l = true) {n : Name}
    (hn : isNamed x n = true) : inHtml l n = true := by
  simp only [strIsOneOf, List.any_eq_true, beq_iff_eq] at h
  obtain ⟨y, hy, hxy⟩ := h
  simp only [isNamed, Bool.and_eq_true, beq_iff_eq] at hn
  simp only [inHtml, Bool.and_eq_true, List.any_eq_true, beq_iff_eq]
  exact ⟨hn.1, y, hy, by rw [hn.2, hxy]⟩

theorem named_self (x : Str) : isNamed x ⟨nsHtml, x⟩ = true := by
  simp [isNamed]

/-- a tag name in a list without `td`, `th` is neither -/
theorem ne_of_strIsOneOf {x : Str} {l : List String} (h : strIsOneOf x l = true)
    (hl : l.all (fun y => !(["td", "th"].contains y)) = true) : x ≠ "td".toList ∧ x ≠ "th".toList := by
  have h1 : inHtml l ⟨nsHtml, x⟩ = true := inHtml_of_named h (named_self x)
  have h2 : inHtml ["td", "th"] ⟨nsHtml, x⟩ = false := inHtml_false_of_inHtml hl h1
  simp only [inHtml, List.any_cons, List.any_nil, Bool.or_false, Bool.and_eq_false_iff, Bool.or_eq_false_iff,
    beq_eq_false_iff_ne, ne_eq] at h2
  rcases h2 with h2 | h2
  · exact absurd trivial h2
  · exact ⟨fun hc => h2.1 hc.symm, fun hc => h2.2 hc.symm⟩

/-- the tag name is not one of those that have an implied end tag: the side condition "generate implied end tags
does not pop the target" of the block-like end tags -/
theorem notImplied_of_strIsOneOf {x : Str} {l : List String} (h : strIsOneOf x l = true)
    (hl : l.all (fun y => !(TreeTables.impliedEnd.contains y)) = true) (ex : Option Str) :
    TreeAlgo.impliedEndTag ex ⟨nsHtml, x⟩ = false := by
  have h1 : inHtml l ⟨nsHtml, x⟩ = true := inHtml_of_named h (named_self x)
  have h2 : inHtml TreeTables.impliedEnd ⟨nsHtml, x⟩ = false := inHtml_false_of_inHtml hl h1
  simp only [TreeAlgo.impliedEndTag, h2, Bool.false_and]

theorem notImplied_of_notMem {x : String} (hx : TreeTables.impliedEnd.contains x = false) (ex : Option Str) :
    TreeAlgo.impliedEndTag ex ⟨nsHtml, x.toList⟩ = false :=
  notImplied_of_strIsOneOf (l := [x]) (by simp [strIsOneOf])
    (by simp only [List.all_cons, List.all_nil, Bool.and_true, hx]; rfl) ex

theorem fmtN_of_isOneOf {t : Tag} {l : List String} (h : t.isOneOf l = true)
    (hl : l.all (fun x => fmtNames.contains x) = true) : fmtN t.name = true := by
  simp only [Tag.isOneOf, strIsOneOf, List.any_eq_true, beq_iff_eq] at h
  obtain ⟨x, hx, hxe⟩ := h
  have := List.all_eq_true.mp hl x hx
  simp only [fmtN, strIsOneOf, List.any_eq_true, beq_iff_eq]
  exact ⟨x, by simpa using this, hxe⟩

/-! ### the `html` start tag of "in body" -/

theorem inBodyStartHtml_eff {σ : State N} {t : Tag} {r : Step N} (h : inBodyStartHtml σ t = .ok r) :
    ∃ s', r = .done s' ∧ Upd σ s' σ.p.stack σ.p.list := by
  unfold inBodyStartHtml at h
  dsimp only at h
  rcases ite_cases h with ⟨_, h⟩ | ⟨_, h⟩
  · exact ⟨_, (pure_ok h).symm, rfl, rfl, rfl, rfl, rfl, rfl⟩
  · obtain ⟨top, _, h2⟩ := bind_ok h
    exact ⟨_, (pure_ok h2).symm, rfl, rfl, rfl, rfl, rfl, rfl⟩

theorem post_inBodyStartHtml {σ : State N} (hg : Good σ) {t : Tag} {r : Step N} (h : inBodyStartHtml σ t = .ok r) :
    Post r := by
  obtain ⟨s', rfl, hu⟩ := inBodyStartHtml_eff h
  exact fun _ => hg.same hu.mode hu.orig hu.tms hu.stack hu.list

/-! ### the node supply only loses a prefix -/

/-- `σ'` has a suffix of the supply of `σ` -/
def Suf (σ σ' : State N) : Prop := ∃ u, σ.p.supply = u ++ σ'.p.supply

theorem Suf.refl (σ : State N) : Suf σ σ := ⟨[], rfl⟩
theorem Suf.of_eq {σ σ' : State N} (h : σ'.p.supply = σ.p.supply) : Suf σ σ' := ⟨[], by rw [h]; rfl⟩
theorem Suf.trans {a b c : State N} (h1 : Suf a b) (h2 : Suf b c) : Suf a c := by
  obtain ⟨u, hu⟩ := h1
  obtain ⟨v, hv⟩ := h2
  exact ⟨u ++ v, by rw [hu, hv, List.append_assoc]⟩

@[simp] theorem setStack_supply (s : State N) (st) : (s.setStack st).p.supply = s.p.supply := rfl
@[simp] theorem setList_supply (s : State N) (l) : (s.setList l).p.supply = s.p.supply := rfl
@[simp] theorem setFoster_supply (s : State N) (b) : (s.setFoster b).p.supply = s.p.supply := rfl
@[simp] theorem setForm_supply (s : State N) (f) : (s.setForm f).p.supply = s.p.supply := rfl
@[simp] theorem pop_supply (s : State N) : s.pop.p.supply = s.p.supply := rfl
@[simp] theorem pushFormatting_supply (s : State N) (e t) : (pushFormatting s e t).p.supply = s.p.supply := rfl
@[simp] theorem removeFromStack_supply (s : State N) (x) : (removeFromStack s x).p.supply = s.p.supply := by
  unfold removeFromStack; split <;> rfl
@[simp] theorem removeFromList_supply (s : State N) (x) : (removeFromList s x).p.supply = s.p.supply := by
  unfold removeFromList; split <;> rfl
@[simp] theorem insertMarker_supply (s : State N) : s.insertMarker.p.supply = s.p.supply := rfl
@[simp] theorem clearToLastMarker_supply (s : State N) : s.clearToLastMarker.p.supply = s.p.supply := rfl
@[simp] theorem genImplied_supply (s : State N) (ex) : (genImplied s ex).p.supply = s.p.supply := rfl
@[simp] theorem popUntilPopped_supply (s : State N) (n) : (popUntilPopped s n).p.supply = s.p.supply := rfl

theorem insertForeignElement_supply {cxx : TreeAlgo2.Ctx ETok} {st st' : PState N ETok} {tok : ETok} {ns : Str} {b : Bool}
    {e : Elem N} (h : TreeAlgo2.insertForeignElement cxx st tok ns b = some (st', e)) : st.supply = e.id :: st'.supply := by
  unfold TreeAlgo2.insertForeignElement at h
  cases hp : TreeAlgo2.appropriatePlace st.stack st.fosterParenting none with
  | none => rw [hp] at h; cases h
  | some loc =>
    rw [hp] at h
    cases hn : st.newNode with
    | none => rw [hn] at h; cases h
    | some r =>
      obtain ⟨n, st1⟩ := r
      rw [hn] at h
      simp only [Option.bind_some, Option.map_some, Option.some.injEq, Prod.mk.injEq] at h
      obtain ⟨h2, h3⟩ := h
      subst h3 h2
      exact (newNode_eff hn).2.2.2

theorem insertHtml_supply {s s' : State N} {t : Tag} {e : Elem N} (h : insertHtml s t = .ok (s', e)) :
    s.p.supply = e.id :: s'.p.supply := by
  unfold insertHtml at h
  obtain ⟨r, hr, h2⟩ := bind_ok h
  have hr' := req_ok hr
  obtain ⟨r1, r2⟩ := r
  cases pure_ok h2
  exact insertForeignElement_supply hr'

theorem insertHtml_suf {s s' : State N} {t : Tag} {e : Elem N} (h : insertHtml s t = .ok (s', e)) : Suf s s' :=
  ⟨[e.id], by rw [insertHtml_supply h]; rfl⟩

theorem insertHtml'_suf {s s' : State N} {t : Tag} (h : insertHtml' s t = .ok s') : Suf s s' := by
  unfold insertHtml' at h
  obtain ⟨r, hr, h2⟩ := bind_ok h
  obtain ⟨r1, r2⟩ := r
  cases pure_ok h2
  exact insertHtml_suf hr

theorem insertVoid_suf {s s' : State N} {t : Tag} (h : insertVoid s t = .ok s') : Suf s s' := by
  unfold insertVoid at h
  obtain ⟨s1, hr, h2⟩ := bind_ok h
  cases pure_ok h2
  obtain ⟨u, hu⟩ := insertHtml'_suf hr
  exact ⟨u, by rw [hu]; simp⟩

theorem reconstructCreate_suf : ∀ (n i : Nat) (st st' : PState N ETok),
    TreeAlgo2.reconstructCreate cx n i st = some st' → ∃ u, st.supply = u ++ st'.supply
  | 0, _, st, st', h => by
    simp only [TreeAlgo2.reconstructCreate, Option.some.injEq] at h
    subst h; exact ⟨[], rfl⟩
  | n + 1, i, st, st', h => by
    unfold TreeAlgo2.reconstructCreate at h
    cases hi : st.list[i]? with
    | none => rw [hi] at h; cases h
    | some ent =>
      rw [hi] at h
      cases ent with
      | marker => cases h
      | element x tok =>
        dsimp only at h
        cases hins : TreeAlgo2.insertHtmlElement cx st tok with
        | none => rw [hins] at h; cases h
        | some r =>
          obtain ⟨st1, ne⟩ := r
          rw [hins] at h
          simp only [Option.bind_some] at h
          have hs := insertForeignElement_supply hins
          rcases ite_cases h with ⟨_, h⟩ | ⟨_, h⟩
          · obtain ⟨u, hu⟩ := reconstructCreate_suf n (i + 1) _ st' h
            exact ⟨ne.id :: u, by rw [hs]; simpa using hu⟩
          · simp only [Option.some.injEq] at h
            subst h
            exact ⟨[ne.id], by rw [hs]; rfl⟩

theorem reconstruct_suf {s s' : State N} (h : reconstruct s = .ok s') : Suf s s' := by
  unfold reconstruct at h
  obtain ⟨p, hr, h2⟩ := bind_ok h
  have hr' := req_ok hr
  cases pure_ok h2
  unfold TreeAlgo2.reconstructActiveFormattingElements at hr'
  split at hr'
  · cases hr'; exact Suf.refl _
  · split at hr'
    · cases hr'; exact Suf.refl _
    · exact reconstructCreate_suf _ _ _ _ hr'

/-- the td/th elements of `st ++ es` with neutral `es` are elements of `st` -/
theorem tdTh_of_append_neutral {st es : List (Elem N)} (hes : ∀ e ∈ es, neutralN e.name = true) :
    ∀ e ∈ st ++ es, tdThN e.name = true → e ∈ st := by
  intro e he htd
  rcases List.mem_append.mp he with h | h
  · exact h
  · have := hes e h
    simp [neutralN, htd] at this

/-! ### the entries "reconstruct" writes into the list -/

theorem reconstructCreate_entries : ∀ (n i : Nat) (st st' : PState N ETok),
    TreeAlgo2.reconstructCreate cx n i st = some st' →
    ∃ u, st.supply = u ++ st'.supply ∧ ∀ x t, Entry.element x t ∈ st'.list → Entry.element x t ∈ st.list ∨ x ∈ u
  | 0, _, st, st', h => by
    simp only [TreeAlgo2.reconstructCreate, Option.some.injEq] at h
    subst h; exact ⟨[], rfl, fun x t hm => Or.inl hm⟩
  | n + 1, i, st, st', h => by
    unfold TreeAlgo2.reconstructCreate at h
    cases hi : st.list[i]? with
    | none => rw [hi] at h; cases h
    | some ent =>
      rw [hi] at h
      cases ent with
      | marker => cases h
      | element x0 tok =>
        dsimp only at h
        cases hins : TreeAlgo2.insertHtmlElement cx st tok with
        | none => rw [hins] at h; cases h
        | some r =>
          obtain ⟨st1, ne⟩ := r
          rw [hins] at h
          simp only [Option.bind_some] at h
          have hs := insertForeignElement_supply hins
          obtain ⟨_, _, _, hlist, _⟩ := insertForeignElement_eff hins
          have hset : ∀ x t, Entry.element x t ∈ st1.list.set i (.element ne.id tok) →
              Entry.element x t ∈ st.list ∨ x = ne.id := by
            intro x t hm
            rcases List.mem_or_eq_of_mem_set hm with hm | hm
            · left; rw [← hlist]; exact hm
            · right; cases hm; rfl
          rcases ite_cases h with ⟨_, h⟩ | ⟨_, h⟩
          · obtain ⟨u, hu, hent⟩ := reconstructCreate_entries n (i + 1) _ st' h
            refine ⟨ne.id :: u, by rw [hs]; simpa using hu, fun x t hm => ?_⟩
            rcases hent x t hm with h1 | h1
            · rcases hset x t h1 with h2 | h2
              · exact Or.inl h2
              · exact Or.inr (by simp [h2])
            · exact Or.inr (by simp [h1])
          · simp only [Option.some.injEq] at h
            subst h
            refine ⟨[ne.id], by rw [hs]; rfl, fun x t hm => ?_⟩
            rcases hset x t hm with h2 | h2
            · exact Or.inl h2
            · exact Or.inr (by simp [h2])

/-- an entry of the list after "reconstruct" is an old entry or has the id of a node taken from the supply -/
theorem reconstruct_entries {s s' : State N} (h : reconstruct s = .ok s') :
    ∃ u, s.p.supply = u ++ s'.p.supply ∧ ∀ x t, Entry.element x t ∈ s'.p.list → Entry.element x t ∈ s.p.list ∨ x ∈ u := by
  unfold reconstruct at h
  obtain ⟨p, hr, h2⟩ := bind_ok h
  have hr' := req_ok hr
  cases pure_ok h2
  unfold TreeAlgo2.reconstructActiveFormattingElements at hr'
  split at hr'
  · cases hr'; exact ⟨[], rfl, fun x t hm => Or.inl hm⟩
  · split at hr'
    · cases hr'; exact ⟨[], rfl, fun x t hm => Or.inl hm⟩
    · exact reconstructCreate_entries _ _ _ _ hr'

/-- `WLink` after "reconstruct" (the new entries have fresh ids, the new elements are neutral) -/
theorem reconstruct_wlink {s s' : State N} {sup' : List N} (haf : AFOk s.p.list) (hl : WLink s)
    (hfr : FreshL s.p.stack s.p.supply sup') (hsuf : ∃ v, s'.p.supply = v ++ sup') (h : reconstruct s = .ok s') :
    WLink s' := by
  obtain ⟨es, l', hu, hes, _, _⟩ := reconstruct_eff haf h
  obtain ⟨u, hsu, hent⟩ := reconstruct_entries h
  obtain ⟨v, hv⟩ := hsuf
  intro e he t ht
  rw [hu.stack] at he
  rcases List.mem_append.mp he with he | he
  · cases htd : tdThN e.name
    · rfl
    · exfalso
      rcases hent e.id t ht with h1 | h1
      · have := hl e he t h1
        rw [htd] at this; cases this
      · exact hfr (u ++ v) (by rw [hsu, hv, List.append_assoc]) e.id (by simp [h1]) e he htd rfl
  · have := (hes e he).1
    simp only [neutralN, Bool.and_eq_true, Bool.not_eq_true'] at this
    exact this.1

/-! ### the start tags of "in head" -/

theorem tmOk_snoc {l : List IMode} (h : ∀ m ∈ l, tmOk m) : ∀ m ∈ l ++ [.inTemplate], tmOk m := by
  intro m hm
  rcases List.mem_append.mp hm with hm | hm
  · exact h m hm
  · rw [List.mem_singleton.mp hm]; exact Or.inl rfl

/-- what "in head" answers to a start tag: the state up to what `Good` does not look at; or an element is inserted and
"text" entered; or an element is inserted and the mode becomes "in head noscript"; or (`template`) a marker and a
template insertion mode are pushed, an element is inserted, the mode becomes "in template"; or "anything else" -/
theorem inHead_start_eff {cfg : Config N} {s : State N} {t : Tag} {r : Step N}
    (h : inHead cfg s (.startTag t) = .ok r) :
    (∃ s', r = .done s' ∧ Upd s s' s.p.stack s.p.list) ∨
    (∃ s' e, r = .done s' ∧ e.name = ⟨nsHtml, t.name⟩ ∧ s.p.stack ≠ [] ∧ s'.mode = .text ∧ s'.originalMode = s.mode ∧
      s'.templateModes = s.templateModes ∧ s'.stopped = s.stopped ∧ s'.p.stack = s.p.stack ++ [e] ∧
      s'.p.list = s.p.list) ∨
    (∃ s', r = .done s' ∧ s'.mode = .inHeadNoscript ∧ s'.templateModes = s.templateModes ∧ s'.stopped = s.stopped ∧
      s'.p.list = s.p.list) ∨
    (∃ s', r = .done s' ∧ s'.mode = .inTemplate ∧ s'.templateModes = s.templateModes ++ [.inTemplate] ∧
      s'.stopped = s.stopped ∧ s'.p.list = s.p.list ++ [.marker]) ∨
    r = .reprocess (s.pop.setMode .afterHead) := by
  unfold inHead at h
  dsimp only at h
  rcases ite_cases h with ⟨_, h⟩ | ⟨_, h⟩
  · exact .inl (inBodyStartHtml_eff h)
  rcases ite_cases h with ⟨_, h⟩ | ⟨_, h⟩
  · -- base, basefont, bgsound, link
    obtain ⟨s1, h1, rfl⟩ := map_ok h
    exact .inl ⟨s1, rfl, (insertVoid_eff h1).2⟩
  rcases ite_cases h with ⟨_, h⟩ | ⟨_, h⟩
  · -- meta
    obtain ⟨s1, h1, rfl⟩ := map_ok h
    exact .inl ⟨s1, rfl, (insertVoid_eff h1).2⟩
  rcases ite_cases h with ⟨_, h⟩ | ⟨_, h⟩
  · -- title
    obtain ⟨s1, h1, rfl⟩ := map_ok h
    obtain ⟨e, he⟩ := genericTextElement_eff (sw := .rcdata) h1
    exact .inr (.inl ⟨s1, e, rfl, he⟩)
  rcases ite_cases h with ⟨_, h⟩ | ⟨_, h⟩
  · -- noscript (scripting), noframes, style
    obtain ⟨s1, h1, rfl⟩ := map_ok h
    obtain ⟨e, he⟩ := genericTextElement_eff (sw := .rawtext) h1
    exact .inr (.inl ⟨s1, e, rfl, he⟩)
  rcases ite_cases h with ⟨_, h⟩ | ⟨_, h⟩
  · -- noscript (no scripting)
    obtain ⟨s1, h1, h2⟩ := bind_ok h
    obtain ⟨e, _, _, hu, _⟩ := insertHtml'_eff h1
    exact .inr (.inr (.inl ⟨_, (pure_ok h2).symm, rfl, hu.tms, hu.stopped, hu.list⟩))
  rcases ite_cases h with ⟨_, h⟩ | ⟨_, h⟩
  · -- script
    obtain ⟨s1, h1, h2⟩ := bind_ok h
    obtain ⟨e, he, hne, hu, _⟩ := insertHtml'_eff h1
    exact .inr (.inl ⟨_, e, (pure_ok h2).symm, he, hne, rfl, hu.mode, hu.tms, hu.stopped, hu.stack, hu.list⟩)
  rcases ite_cases h with ⟨_, h⟩ | ⟨_, h⟩
  · -- template
    unfold inHeadStartTemplate at h
    obtain ⟨s1, h1, h2⟩ := bind_ok h
    obtain ⟨e, _, _, hu, _⟩ := insertHtml'_eff h1
    exact .inr (.inr (.inr (.inl ⟨s1, (pure_ok h2).symm, hu.mode, hu.tms, hu.stopped, hu.list⟩)))
  rcases ite_cases h with ⟨_, h⟩ | ⟨_, h⟩
  · exact .inl ⟨_, (pure_ok h).symm, rfl, rfl, rfl, rfl, rfl, rfl⟩
  · exact .inr (.inr (.inr (.inr (pure_ok h).symm)))

end
end H5V.Lemmas.ModesInv
