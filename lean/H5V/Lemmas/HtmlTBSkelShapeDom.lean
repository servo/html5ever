import H5V.Lemmas.HtmlTBSkelShapeDef
/-!
C06, second invariant layer: arena-level frame facts relative to a fixed node `r` (the `html`
root): which sink calls leave the child list of `r` and the data of its text children alone.
`RTU r d`: a text child of `r` is in no other child list (so text merging elsewhere cannot touch it).
-/
namespace H5V.Props.C06
open H5V.Model.Dom hiding Str
open H5V.Model.HtmlTB hiding Str
open H5V.Lemmas.Dom

/-- a child of `r` has `r` as its parent pointer and is in no other child list -/
def RTU (r : Id) (d : Dom) : Prop :=
  ∀ c ∈ d.childrenOf r, d.parentOf c = some r ∧ ∀ q, c ∈ d.childrenOf q → q = r

/-- the call left `r` alone: same children, same text -/
structure RS (r : Id) (d d' : Dom) : Prop where
  kids : d'.childrenOf r = d.childrenOf r
  text : ∀ c ∈ d.childrenOf r, d.isText c = true → d'.dataOf c = d.dataOf c
  uniq : RTU r d → RTU r d'

theorem RS.refl (r : Id) (d : Dom) : RS r d d := ⟨rfl, fun _ _ _ => rfl, id⟩

theorem isText_of_data {d d' : Dom} {c : Id} (h : d'.dataOf c = d.dataOf c) : d'.isText c = d.isText c := by
  unfold Dom.isText; rw [h]

theorem RS.trans {r : Id} {a b c : Dom} (h1 : RS r a b) (h2 : RS r b c) : RS r a c := by
  refine ⟨h2.kids.trans h1.kids, ?_, fun h => h2.uniq (h1.uniq h)⟩
  intro x hx ht
  have hx' : x ∈ b.childrenOf r := by rw [h1.kids]; exact hx
  have hd := h1.text x hx ht
  rw [h2.text x hx' (by rw [isText_of_data hd]; exact ht), hd]

theorem RS.of_nodes {r : Id} {d d' : Dom} (h : d'.nodes = d.nodes) : RS r d d' := by
  have hk : ∀ x, d'.childrenOf x = d.childrenOf x := fun x => childrenOf_of_nodes h x
  have hd : ∀ x, d'.dataOf x = d.dataOf x := fun x => by unfold Dom.dataOf; rw [h]
  have hp : ∀ x, d'.parentOf x = d.parentOf x := fun x => by unfold Dom.parentOf; rw [h]
  refine ⟨hk r, fun c _ _ => hd c, ?_⟩
  intro hu c hc
  rw [hk] at hc
  refine ⟨by rw [hp]; exact (hu c hc).1, fun q hq => ?_⟩
  rw [hk] at hq
  exact (hu c hc).2 q hq

theorem Chg.isText_eq {d d' : Dom} (h : Chg d d') {x : Id} (hx : x < d.size) : d'.isText x = d.isText x := by
  have hs := (h.data x hx).skel
  unfold Dom.isText
  cases h1 : d.dataOf x <;> cases h2 : d'.dataOf x <;> simp [h1, h2] at hs ⊢
  rename_i v v'
  cases v <;> cases v' <;> simp [skelT] at hs <;> rfl

/-- generic: `r` keeps its list, its text children keep their data, its children keep their parent
pointer, and every new membership `c ∈ children q` is an old one, or `c` was not a child of `r`, or
`c` is a fresh node -/
theorem RS.of_effects {r : Id} {d d' : Dom} (hb : DomBase d)
    (hk : d'.childrenOf r = d.childrenOf r)
    (hd : ∀ c ∈ d.childrenOf r, d.isText c = true → d'.dataOf c = d.dataOf c)
    (hpar : ∀ c ∈ d.childrenOf r, d'.parentOf c = d.parentOf c)
    (hmem : ∀ q c, c ∈ d'.childrenOf q → c ∈ d.childrenOf q ∨ c ∉ d.childrenOf r ∨ d.size ≤ c) : RS r d d' := by
  refine ⟨hk, hd, ?_⟩
  intro hu c hcm
  rw [hk] at hcm
  refine ⟨by rw [hpar c hcm]; exact (hu c hcm).1, fun q hq => ?_⟩
  rcases hmem q c hq with h | h | h
  · exact (hu c hcm).2 q h
  · exact absurd hcm h
  · exact absurd (hb.kidsValid r c hcm) (Nat.not_lt.mpr h)

theorem rs_alloc (r : Id) {d : Dom} (hb : DomBase d) (v : NodeData) : RS r d (d.alloc v).1 := by
  refine RS.of_effects hb (childrenOf_alloc d v r) ?_ ?_ ?_
  · intro c hc _
    rw [dataOf_alloc]; simp [Nat.ne_of_lt (hb.kidsValid r c hc)]
  · intro c hc
    rw [parentOf_alloc]
  · intro q c hc; rw [childrenOf_alloc] at hc; exact Or.inl hc

theorem rs_createElement (r : Id) {d : Dom} (hb : DomBase d) (name : QualName) (attrs : List Attr) (flags : ElementFlags) :
    RS r d (d.createElement name attrs flags).1 := by
  unfold Dom.createElement
  by_cases hf : flags.template = true
  · simp only [hf, if_true]
    have hb1 : DomBase (d.alloc .document).1 := hb.alloc _ ⟨(by intro t h; cases h), (by intro n a tc ip h; cases h)⟩
    exact (rs_alloc r hb _).trans (rs_alloc r hb1 _)
  · simp only [hf]
    exact rs_alloc r hb _

theorem rs_append_node {r : Id} {d d' : Dom} (hb : DomBase d) {p c : Id} (hp : p ≠ r) (hpc : p ≠ c)
    (hcr : c ∉ d.childrenOf r) (h : d.append p (.node c) = .ok d') : RS r d d' := by
  rw [append_node_eq] at h
  obtain ⟨_, _, _, _, _, hpar, hk, hd, hs, _⟩ := appendRaw_ok h hpc
  refine RS.of_effects hb ?_ (fun c _ _ => hd c) ?_ ?_
  · rw [hk]; simp [Ne.symm hp]
  · intro c' hc'
    rw [hpar]
    have : c' ≠ c := by rintro rfl; exact hcr hc'
    simp [this]
  · intro q c' hc'
    rw [hk] at hc'
    by_cases hq : q = p
    · simp only [hq, if_true, List.mem_append, List.mem_singleton] at hc'
      rcases hc' with h1 | rfl
      · exact Or.inl (hq ▸ h1)
      · exact Or.inr (Or.inl hcr)
    · simp only [hq, if_false] at hc'; exact Or.inl hc'

theorem rs_append_text {r : Id} {d d' : Dom} (hb : DomBase d) (hu : RTU r d) {p : Id} {t : Str} (hp : p ≠ r)
    (h : d.append p (.text t) = .ok d') : RS r d d' := by
  obtain ⟨hplt, h1 | h2⟩ := append_text_ok h
  · obtain ⟨hl, old, hlast, hold, hsh, hd, hs⟩ := h1
    refine RS.of_effects hb (hsh.children r) ?_ (fun c _ => hsh.parent c)
      (fun q c hc => Or.inl (by rw [← hsh.children]; exact hc))
    intro c hc ht
    rw [hd]
    have : c ≠ hl := by
      rintro rfl
      exact hp ((hu c hc).2 p (mem_of_getLast?' hlast))
    simp [this]
  · obtain ⟨_, hraw⟩ := h2
    have hne : p ≠ d.size := Nat.ne_of_lt hplt
    obtain ⟨_, _, _, _, _, hpar, hk, hd, hs, _⟩ := appendRaw_ok hraw hne
    have hk' : ∀ x, d'.childrenOf x = if x = p then d.childrenOf p ++ [d.size] else d.childrenOf x := by
      intro x; rw [hk]; simp only [childrenOf_alloc]
    have hd' : ∀ x, d'.dataOf x = if x = d.size then some (.text t) else d.dataOf x := by
      intro x; rw [hd, dataOf_alloc]
    refine RS.of_effects hb ?_ ?_ ?_ ?_
    · rw [hk']; simp [Ne.symm hp]
    · intro c hc _; rw [hd']; simp [Nat.ne_of_lt (hb.kidsValid r c hc)]
    · intro c hc
      rw [hpar, parentOf_alloc]
      simp [Nat.ne_of_lt (hb.kidsValid r c hc)]
    · intro q c hc
      rw [hk'] at hc
      by_cases hq : q = p
      · simp only [hq, if_true, List.mem_append, List.mem_singleton] at hc
        rcases hc with h1 | rfl
        · exact Or.inl (hq ▸ h1)
        · exact Or.inr (Or.inr (Nat.le_refl _))
      · simp only [hq, if_false] at hc; exact Or.inl hc

theorem rs_removeFromParent {r : Id} {d d' : Dom} (hb : DomBase d) {t : Id} (ht : t ∉ d.childrenOf r)
    (h : d.removeFromParent t = .ok d') : RS r d d' := by
  rcases removeFromParent_ok h with ⟨_, he⟩ | ⟨p, i, _, hi, hpar, hk, hd, hs, _⟩
  · subst he; exact RS.refl r _
  · have hpr : p ≠ r := by rintro rfl; exact ht (mem_of_indexOf? hi)
    refine RS.of_effects hb ?_ (fun c _ _ => hd c) ?_ ?_
    · rw [hk]; simp [Ne.symm hpr]
    · intro c hc
      rw [hpar]
      have : c ≠ t := by rintro rfl; exact ht hc
      simp [this]
    · intro q c hc
      rw [hk] at hc
      by_cases hq : q = p
      · simp only [hq, if_true] at hc; exact Or.inl (hq ▸ mem_removeAt hc)
      · simp only [hq, if_false] at hc; exact Or.inl hc

theorem rs_insertAtIndex {r : Id} {d d' : Dom} (hb : DomBase d) {P c : Id} {i : Nat} (hP : P ≠ r)
    (hcr : c ∉ d.childrenOf r) (h : d.insertAtIndex P i c = .ok d') : RS r d d' := by
  obtain ⟨d1, hr, _, _, _, hpar, hk, hd, hs, _⟩ := insertAtIndex_ok h
  obtain ⟨hb1, _, _, _, _, _⟩ := removeFromParent_spec hb hr
  have r1 := rs_removeFromParent hb hcr hr
  have hcr1 : c ∉ d1.childrenOf r := by rw [r1.kids]; exact hcr
  refine r1.trans (RS.of_effects hb1 ?_ (fun c _ _ => hd c) ?_ ?_)
  · rw [hk]; simp [Ne.symm hP]
  · intro c' hc'
    rw [hpar]
    have : c' ≠ c := by rintro rfl; exact hcr1 hc'
    simp [this]
  · intro q c' hc'
    rw [hk] at hc'
    by_cases hq : q = P
    · simp only [hq, if_true] at hc'
      rcases mem_insertAt_iff.mp hc' with rfl | h1
      · exact Or.inr (Or.inl hcr1)
      · exact Or.inl (hq ▸ h1)
    · simp only [hq, if_false] at hc'; exact Or.inl hc'

/-- what may be inserted next to / below a node other than the root -/
def ChildOkR (r : Id) (d : Dom) : NodeOrText → Prop
  | .node c => c ∉ d.childrenOf r
  | .text _ => True

theorem rs_appendBeforeSibling {r : Id} {e d' : Dom} (he : DomBase e) (hu : RTU r e) {sib : Id} {ch : NodeOrText}
    (hs0 : sib ∉ e.childrenOf r) (hch : ChildOkR r e ch) (h : e.appendBeforeSibling sib ch = .ok d') : RS r e d' := by
  obtain ⟨P, i, _, hi, hPlt, hm⟩ := appendBeforeSibling_ok h
  have hsibP : sib ∈ e.childrenOf P := mem_of_indexOf? hi
  have hP : P ≠ r := by rintro rfl; exact hs0 hsibP
  cases ch with
  | node c => exact rs_insertAtIndex he hP hch hm
  | text t =>
    rcases hm with ⟨prev, old, hi0, hprev, hold, hsh, hd, hs⟩ | ⟨_, hins⟩
    · refine RS.of_effects he (hsh.children r) ?_ (fun c _ => hsh.parent c)
        (fun q c hc => Or.inl (by rw [← hsh.children]; exact hc))
      intro c hc ht
      rw [hd]
      have : c ≠ prev := by
        rintro rfl
        exact hP ((hu c hc).2 P (List.mem_of_getElem? hprev))
      simp [this]
    · obtain ⟨_, hpar, hk, hd, hs, _⟩ := insertAtIndex_fresh_ok hins
      refine RS.of_effects he ?_ ?_ ?_ ?_
      · rw [hk]; simp [Ne.symm hP]
      · intro c hc _; rw [hd]; simp [Nat.ne_of_lt (he.kidsValid r c hc)]
      · intro c hc; rw [hpar]; simp [Nat.ne_of_lt (he.kidsValid r c hc)]
      · intro q c hc
        rw [hk] at hc
        by_cases hq : q = P
        · simp only [hq, if_true] at hc
          rcases mem_insertAt_iff.mp hc with rfl | h1
          · exact Or.inr (Or.inr (Nat.le_refl _))
          · exact Or.inl (hq ▸ h1)
        · simp only [hq, if_false] at hc; exact Or.inl hc

theorem rs_appendBeforeSiblingV {b : Dom.BeforeSiblingVariant} {r : Id} {d d' : Dom} (hb : DomBase d) (hu : RTU r d)
    {sib : Id} {ch : NodeOrText} (hs0 : sib ∉ d.childrenOf r) (hch : ChildOkR r d ch)
    (h : d.appendBeforeSiblingV b sib ch = .ok d') : RS r d d' := by
  rcases appendBeforeSiblingV_ok h with h1 | ⟨c, d1, he, hr, h2⟩
  · exact rs_appendBeforeSibling hb hu hs0 hch h1
  · subst he
    obtain ⟨hb1, _, _, _, _, _⟩ := removeFromParent_spec hb hr
    have r1 := rs_removeFromParent hb hch hr
    exact r1.trans (rs_appendBeforeSibling hb1 (r1.uniq hu) (by rw [r1.kids]; exact hs0)
      (by show c ∉ d1.childrenOf r; rw [r1.kids]; exact hch) h2)

theorem rs_abopn {b : Dom.BeforeSiblingVariant} {r : Id} {d d' : Dom} (hb : DomBase d) (hu : RTU r d)
    {e p : Id} {ch : NodeOrText} (he0 : e ∉ d.childrenOf r) (hp : p ≠ r) (hch : ChildOkR r d ch)
    (hpc : ∀ c, ch = .node c → p ≠ c) (h : d.appendBasedOnParentNodeV b e p ch = .ok d') : RS r d d' := by
  unfold Dom.appendBasedOnParentNodeV at h
  simp only [bind, Except.bind] at h
  cases hg : d.get e with
  | error er => simp [hg] at h
  | ok en =>
    simp only [hg] at h
    by_cases hpar : en.parent.isSome = true
    · simp only [hpar, if_true] at h
      exact rs_appendBeforeSiblingV hb hu he0 hch h
    · simp only [hpar] at h
      cases ch with
      | node c => exact rs_append_node hb hp (hpc c rfl) hch h
      | text t => exact rs_append_text hb hu hp h

theorem rs_reparent {r : Id} {d d' : Dom} (hb : DomBase d) {n np : Id} (hn : n ≠ r) (hnp : np ≠ r)
    (h : d.reparentChildren n np = .ok d') : RS r d d' := by
  obtain ⟨_, _, _, hpar, hk, hd, hs, _⟩ := reparentChildren_ok h
  have hkr : d'.childrenOf r = d.childrenOf r := by rw [hk]; simp [Ne.symm hn, Ne.symm hnp]
  refine ⟨hkr, fun c _ _ => hd c, ?_⟩
  intro hu c hc
  rw [hkr] at hc
  have hcn : c ∉ d.childrenOf n := fun hm => hn ((hu c hc).2 n hm)
  refine ⟨by rw [hpar]; simp [hcn]; exact (hu c hc).1, fun q hq => ?_⟩
  rw [hk] at hq
  by_cases hqn : q = n
  · simp [hqn] at hq
  · by_cases hqp : q = np
    · subst hqp
      simp only [hqn, if_true, if_false, List.mem_append] at hq
      rcases hq with hq | hq
      · exact (hu c hc).2 q hq
      · exact absurd hq hcn
    · simp only [hqn, hqp, if_false] at hq
      exact (hu c hc).2 q hq

theorem rs_addAttrs {r : Id} {d d' : Dom} (hb : DomBase d) {t : Id} {attrs : List Attr}
    (h : d.addAttrsIfMissing t attrs = .ok d') : RS r d d' := by
  obtain ⟨name, ex, tc, ip, hdt, hsh, hd, hs⟩ := addAttrsIfMissing_ok h
  refine RS.of_effects hb (hsh.children r) ?_ (fun c _ => hsh.parent c)
    (fun q c hc => Or.inl (by rw [← hsh.children]; exact hc))
  intro c hc ht
  rw [hd]
  have : c ≠ t := by
    rintro rfl
    unfold Dom.isText at ht; rw [hdt] at ht; cases ht
  simp [this]

/-! ### calls that do change the child list of `r` -/

/-- appending a node that is in no child list yet below `r` -/
theorem root_append_node {r : Id} {d d' : Dom} {c : Id} (hrc : r ≠ c) (hfresh : ∀ q, c ∉ d.childrenOf q)
    (h : d.append r (.node c) = .ok d') :
    d'.childrenOf r = d.childrenOf r ++ [c] ∧ (∀ x, d'.dataOf x = d.dataOf x) ∧ d'.size = d.size ∧
      (∀ q, q ≠ r → d'.childrenOf q = d.childrenOf q) ∧ (RTU r d → RTU r d') := by
  rw [append_node_eq] at h
  obtain ⟨_, _, _, _, _, hpar, hk, hd, hs, _⟩ := appendRaw_ok h hrc
  refine ⟨by rw [hk]; simp, hd, hs, fun q hq => by rw [hk]; simp [hq], ?_⟩
  intro hu x hx
  rw [hk] at hx
  simp only [if_true, List.mem_append, List.mem_singleton] at hx
  rcases hx with hx | rfl
  · refine ⟨by rw [hpar]; have : x ≠ c := (by rintro rfl; exact hfresh r hx); simp [this]; exact (hu x hx).1, ?_⟩
    intro q hq
    rw [hk] at hq
    by_cases hqr : q = r
    · exact hqr
    · simp only [hqr, if_false] at hq; exact (hu x hx).2 q hq
  · refine ⟨by rw [hpar]; simp, ?_⟩
    intro q hq
    rw [hk] at hq
    by_cases hqr : q = r
    · exact hqr
    · simp only [hqr, if_false] at hq; exact absurd hq (hfresh q)

/-- appending text below `r`: merged into a text last child, or a fresh last child -/
theorem root_append_text {r : Id} {d d' : Dom} (hb : DomBase d) {t : Str} (h : d.append r (.text t) = .ok d') :
    (∀ q, q ≠ r → d'.childrenOf q = d.childrenOf q) ∧ (RTU r d → RTU r d') ∧
    ((∃ hl old, d'.childrenOf r = d.childrenOf r ∧ hl ∈ d.childrenOf r ∧ d.dataOf hl = some (.text old) ∧
        (∀ x, d'.dataOf x = if x = hl then some (.text (old ++ t)) else d.dataOf x) ∧ d'.size = d.size) ∨
     (d'.childrenOf r = d.childrenOf r ++ [d.size] ∧
        (∀ x, d'.dataOf x = if x = d.size then some (.text t) else d.dataOf x) ∧ d'.size = d.size + 1)) := by
  obtain ⟨hplt, h1 | h2⟩ := append_text_ok h
  · obtain ⟨hl, old, hlast, hold, hsh, hd, hs⟩ := h1
    refine ⟨fun q _ => hsh.children q, ?_, Or.inl ⟨hl, old, hsh.children r, mem_of_getLast?' hlast, hold, hd, hs⟩⟩
    intro hu x hx
    rw [hsh.children] at hx
    refine ⟨by rw [hsh.parent]; exact (hu x hx).1, fun q hq => ?_⟩
    rw [hsh.children] at hq
    exact (hu x hx).2 q hq
  · obtain ⟨_, hraw⟩ := h2
    have hne : r ≠ d.size := Nat.ne_of_lt hplt
    obtain ⟨_, _, _, _, _, hpar, hk, hd, hs, _⟩ := appendRaw_ok hraw hne
    have hk' : ∀ x, d'.childrenOf x = if x = r then d.childrenOf r ++ [d.size] else d.childrenOf x := by
      intro x; rw [hk]; simp only [childrenOf_alloc]
    have hd' : ∀ x, d'.dataOf x = if x = d.size then some (.text t) else d.dataOf x := by
      intro x; rw [hd, dataOf_alloc]
    refine ⟨fun q hq => by rw [hk']; simp [hq], ?_, Or.inr ⟨by rw [hk']; simp, hd', by rw [hs, size_alloc]⟩⟩
    intro hu x hx
    rw [hk'] at hx
    simp only [if_true, List.mem_append, List.mem_singleton] at hx
    have hnot : ∀ q, d.size ∉ d.childrenOf q := fun q hm => Nat.lt_irrefl _ (hb.kidsValid q _ hm)
    rcases hx with hx | rfl
    · have hxlt := hb.kidsValid r x hx
      refine ⟨by rw [hpar, parentOf_alloc]; simp [Nat.ne_of_lt hxlt]; exact (hu x hx).1, fun q hq => ?_⟩
      rw [hk'] at hq
      by_cases hqr : q = r
      · exact hqr
      · simp only [hqr, if_false] at hq; exact (hu x hx).2 q hq
    · refine ⟨by rw [hpar]; simp, fun q hq => ?_⟩
      rw [hk'] at hq
      by_cases hqr : q = r
      · exact hqr
      · simp only [hqr, if_false] at hq; exact absurd hq (hnot q)

theorem removeAt_indexOf_eq_erase : ∀ {l : List Id} {b : Id} {i : Nat}, indexOf? b l = some i → removeAt l i = l.erase b
  | [], b, i, h => by simp [indexOf?] at h
  | x :: xs, b, i, h => by
    unfold indexOf? at h
    by_cases hx : x = b
    · simp only [hx, if_true, Option.some.injEq] at h
      subst h; subst hx
      simp [removeAt]
    · simp only [hx, if_false] at h
      cases hi : indexOf? b xs with
      | none => simp [hi] at h
      | some j =>
        simp only [hi, Option.map_some, Option.some.injEq] at h
        subst h
        have ih := removeAt_indexOf_eq_erase hi
        unfold removeAt at ih ⊢
        simp only [List.take_succ_cons, List.drop_succ_cons, List.cons_append]
        rw [List.erase_cons_tail (by simpa using hx), ih]

/-- `remove_from_parent(b)` for a child `b` of `r` -/
theorem root_remove {r : Id} {d d' : Dom} (hu : RTU r d) (hnd : (d.childrenOf r).Nodup) {b : Id}
    (hb : b ∈ d.childrenOf r) (h : d.removeFromParent b = .ok d') :
    d'.childrenOf r = (d.childrenOf r).erase b ∧ (∀ x, d'.dataOf x = d.dataOf x) ∧ d'.size = d.size ∧
      (∀ q, q ≠ r → d'.childrenOf q = d.childrenOf q) ∧ RTU r d' := by
  rcases removeFromParent_ok h with ⟨hp, _⟩ | ⟨p, i, hp, hi, hpar, hk, hd, hs, _⟩
  · rw [(hu b hb).1] at hp; cases hp
  · have hpr : p = r := by rw [(hu b hb).1] at hp; cases hp; rfl
    subst hpr
    have hker : d'.childrenOf p = (d.childrenOf p).erase b := by rw [hk]; simp [removeAt_indexOf_eq_erase hi]
    refine ⟨hker, hd, hs, fun q hq => by rw [hk]; simp [hq], ?_⟩
    intro x hx
    rw [hker] at hx
    have hx0 : x ∈ d.childrenOf p := List.mem_of_mem_erase hx
    have hxb : x ≠ b := by rintro rfl; exact (List.Nodup.not_mem_erase hnd) hx
    refine ⟨by rw [hpar]; simp [hxb]; exact (hu x hx0).1, fun q hq => ?_⟩
    rw [hk] at hq
    by_cases hqr : q = p
    · exact hqr
    · simp only [hqr, if_false] at hq; exact (hu x hx0).2 q hq

end H5V.Props.C06
