import H5V.Lemmas.HtmlTokSafe
/-!
Line accounting of the HTML tokenizer model: the potential
`Phi m inp = m.line + brk m.ignoreLf (stash m ++ inp)` — the current line plus the number of line
breaks (CR, LF, CRLF once) still ahead in the logically unread input — is invariant under
`Tokenizer::step`.  The "logically unread input" is what the look-ahead machinery has stashed
(`temp_buf` in the two `eat` states, `name_buf` of a character reference in progress) followed by
the queue.
-/
namespace H5V.Model.HtmlTok
open H5V.Props.C14

def isBrk (c : Char) : Bool := c = '\n' || c = '\r'

/-- number of line breaks in raw text; `f` = the previous character was a CR (a leading LF belongs
to it) -/
def brk : Bool → Str → Nat
  | _, [] => 0
  | f, c :: s =>
    if c = '\r' then 1 + brk true s
    else if c = '\n' then (if f then 0 else 1) + brk false s
    else brk false s

@[simp] theorem brk_nil (f : Bool) : brk f [] = 0 := by simp [brk]

theorem brk_cons_plain (f : Bool) (c : Char) (s : Str) (h : isBrk c = false) :
    brk f (c :: s) = brk false s := by
  simp only [isBrk, Bool.or_eq_false_iff, decide_eq_false_iff_not] at h
  simp [brk, h.1, h.2]

theorem brk_cons_cr (f : Bool) (s : Str) : brk f ('\r' :: s) = 1 + brk true s := by simp [brk]

theorem brk_cons_lf (f : Bool) (s : Str) :
    brk f ('\n' :: s) = (if f then 0 else 1) + brk false s := by
  simp [brk]

/-- a pending-LF flag only matters when the text starts with LF -/
theorem brk_flag (c : Char) (s : Str) (h : c ≠ '\n') : brk true (c :: s) = brk false (c :: s) := by
  by_cases hc : c = '\r'
  · subst hc; simp [brk]
  · simp [brk, hc, h]

theorem brk_plain_append (f : Bool) (a s : Str) (h : ∀ c ∈ a, isBrk c = false) (ha : a ≠ []) :
    brk f (a ++ s) = brk false s := by
  induction a generalizing f with
  | nil => exact absurd rfl ha
  | cons c t ih =>
    rw [List.cons_append, brk_cons_plain _ _ _ (h c (List.mem_cons_self ..))]
    by_cases ht : t = []
    · subst ht; rfl
    · exact ih false (fun x hx => h x (List.mem_cons_of_mem _ hx)) ht

theorem brk_plain_append' (a s : Str) (h : ∀ c ∈ a, isBrk c = false) :
    brk false (a ++ s) = brk false s := by
  by_cases ha : a = []
  · subst ha; rfl
  · exact brk_plain_append false a s h ha

/-- the logically unread text held back by the look-ahead machinery -/
def stash (m : Mach) : Str :=
  match m.charRef with
  | some cr => cr.nameBuf.getD []
  | none => if m.state = .markupDeclarationOpen ∨ m.state = .afterDoctypeName then m.tempBuf else []

def Phi (m : Mach) (inp : Str) : Nat := m.line + brk m.ignoreLf (stash m ++ inp)

/-! ### the entity table contains no line break -/

def keyCharOk (x : Nat) : Bool := x != 10 && x != 13

def tableNoBreak : Bool :=
  Gen.Entities.firstLetters.all (fun c => (Gen.Entities.bucket c).all (fun r => r.1.all keyCharOk))

theorem tableNoBreak_true : tableNoBreak = true := by decide +kernel


theorem isBrk_of_toNat (x : Char) (h : keyCharOk x.toNat = true) : isBrk x = false := by
  simp only [keyCharOk, Bool.and_eq_true, bne_iff_ne, ne_eq] at h
  simp only [isBrk, Bool.or_eq_false_iff, decide_eq_false_iff_not]
  constructor
  · intro hx; subst hx; exact h.1 (by decide)
  · intro hx; subst hx; exact h.2 (by decide)

/-- a buffer that is in the entity map (a name or a prefix of one) contains no line break -/
theorem lookup_no_break (nb : Str) (mt : Nat × Nat) (h : entityLookup nb = some mt) :
    ∀ x ∈ nb, isBrk x = false := by
  unfold entityLookup at h
  cases hk : nb.map Char.toNat with
  | nil =>
    have : nb = [] := by simpa using hk
    subst this
    intro x hx; exact absurd hx List.not_mem_nil
  | cons c rest =>
    have hsome : (entityLookupN (c :: rest)).isSome = true := by rw [← hk, h]; rfl
    obtain ⟨r, hr, hp⟩ := (Walk.lookup_some_iff c rest).mp hsome
    have hc := bucket_letter c r hr
    have ht := tableNoBreak_true
    simp only [tableNoBreak, List.all_eq_true] at ht
    have hrow := ht c hc r hr
    intro x hx
    apply isBrk_of_toNat
    have : x.toNat ∈ c :: rest := by rw [← hk]; exact List.mem_map_of_mem hx
    exact hrow _ (hp.subset this)


/-! ### the reader conserves `line + breaks ahead` -/

theorem foldChar_line (o : Opts) (m : Mach) (c : Char) :
    (foldChar o m c).2.line = m.line + (if isBrk c then 1 else 0) := by
  unfold foldChar isBrk
  dsimp only
  by_cases h1 : c = '\r'
  · subst h1
    simp only [↓reduceIte]
    split <;> simp
  · simp only [h1, ↓reduceIte]
    by_cases h2 : c = '\n'
    · subst h2; simp only [↓reduceIte]; split <;> simp
    · simp only [h2, ↓reduceIte]; split <;> simp [h1, h2]

/-- one character through input preprocessing (flag clear) -/
theorem foldChar_phi (o : Opts) (m : Mach) (c : Char) (rest : Str) (h : m.ignoreLf = false) :
    (foldChar o m c).2.line + brk (foldChar o m c).2.ignoreLf rest = m.line + brk false (c :: rest) := by
  have hf := foldChar_fields o m c
  rw [foldChar_line, hf.2.2.2.2.2.1]
  by_cases h1 : c = '\r'
  · subst h1; simp [isBrk, brk_cons_cr]; omega
  · by_cases h2 : c = '\n'
    · subst h2; simp [isBrk, h, brk_cons_lf]; omega
    · have : isBrk c = false := by simp [isBrk, h1, h2]
      simp [h1, h, this, brk_cons_plain]

theorem preprocess_phi (o : Opts) (m : Mach) (c : Char) (rest : Str) :
    (preprocess o m c rest).2.1.line + brk (preprocess o m c rest).2.1.ignoreLf (preprocess o m c rest).2.2
      = m.line + brk m.ignoreLf (c :: rest) := by
  unfold preprocess
  split
  · rename_i hil
    split
    · rename_i hc
      subst hc
      cases rest with
      | nil => simp [hil, brk_cons_lf]
      | cons y ys =>
        simp only
        rw [foldChar_phi o (m.setIgnoreLf false) y ys (by simp)]
        simp [hil, brk_cons_lf]
    · rename_i hc
      simp only
      rw [foldChar_phi o (m.setIgnoreLf false) c rest (by simp), hil, brk_flag c rest hc]
      simp
  · rename_i hil
    simp only
    rw [foldChar_phi o m c rest (by simpa using hil)]
    simp at hil; rw [hil]

theorem getChar_phi (o : Opts) (m : Mach) (inp : Str) :
    (getChar o m inp).2.1.line + brk (getChar o m inp).2.1.ignoreLf (getChar o m inp).2.2
      = m.line + brk m.ignoreLf inp := by
  unfold getChar
  split
  · simp
  · cases inp with
    | nil => simp
    | cons c rest => exact preprocess_phi o m c rest


theorem not_brk_of_not_mem (S : List Char) (c : Char)
    (hS : S.contains '\r' = true ∧ S.contains '\n' = true) (hc : S.contains c = false) : isBrk c = false := by
  simp only [isBrk, Bool.or_eq_false_iff, decide_eq_false_iff_not]
  constructor
  · intro h; subst h; rw [hS.2] at hc; simp at hc
  · intro h; subst h; rw [hS.1] at hc; simp at hc

theorem popExceptFrom_phi (o : Opts) (S : List Char) (m : Mach) (inp : Str)
    (hS : S.contains '\r' = true ∧ S.contains '\n' = true) :
    (popExceptFrom o S m inp).2.1.line + brk (popExceptFrom o S m inp).2.1.ignoreLf (popExceptFrom o S m inp).2.2
      = m.line + brk m.ignoreLf inp := by
  unfold popExceptFrom
  split
  · exact getChar_phi o m inp
  · rename_i hcond
    simp only [Bool.or_eq_true, not_or, Bool.not_eq_true] at hcond
    cases inp with
    | nil => simp
    | cons c rest =>
      simp only
      split
      · exact preprocess_phi o m c rest
      · rename_i hc
        simp only
        rw [hcond.2, brk_cons_plain _ _ _ (not_brk_of_not_mem S c hS (by simpa using hc))]


/-! ### invariants that the accounting relies on -/

/-- outside the raw-text states a transition leaves `temp_buf` empty if it found it empty -/
theorem transChar_nr (o : Opts) (pol : Pol) (m : Mach) (c : Char)
    (h : isRaw m.state = false → m.tempBuf = []) :
    (transChar o pol m c).1.tempBuf ≠ [] → isRaw (transChar o pol m c).1.state = true := by
  obtain ⟨x, fin, hr, -, hA, -, hC, -⟩ := transChar_ctl o pol m c
  rw [hr]
  rcases hA with rfl | ⟨rfl, -⟩ | ⟨-, e, rfl, -⟩
  · exact fun ht => (hC h ht).1
  · exact fun ht => absurd rfl (hC h (by rwa [ArmEnd.run_tag, emitTag_tempBuf] at ht)).2
  · exact fun ht => (hC h ht).1


theorem transSet_raw (o : Opts) (pol : Pol) (m : Mach) (r : SetRes) (h : isRaw m.state = true) :
    isRaw (transSet o pol m r).1.state = true := by
  rcases transSet_next o pol m r with hs | ⟨hs, -⟩ | ⟨-, hs⟩ | ⟨⟨k, hs⟩, -⟩
  · rwa [hs]
  · rw [hs] at h; cases h
  · exact hs
  · rw [hs] at h; cases h

/-- a transition never asks to reconsume in a state that reads with `peek`/`eat` -/
theorem transChar_recon (o : Opts) (pol : Pol) (m : Mach) (c : Char) (h : m.reconsume = false) :
    (transChar o pol m c).1.reconsume = true →
    (transChar o pol m c).1.state ≠ .beforeAttributeValue ∧
    (transChar o pol m c).1.state ≠ .markupDeclarationOpen ∧
    (transChar o pol m c).1.state ≠ .afterDoctypeName := by
  obtain ⟨x, fin, hr, -, hA, hB, -⟩ := transChar_ctl o pol m c
  rw [hr]
  rcases hA with rfl | ⟨rfl, -, hx⟩ | ⟨-, e, rfl, -⟩
  · exact fun hrc => (hB h hrc).2
  · exact fun hrc => by rw [ArmEnd.run_tag, emitTag_reconsume, hx, h] at hrc; cases hrc
  · exact fun hrc => (hB h hrc).2


/-! ### `eat` (look-ahead) -/

/-- the prologue of `eat` on a machine that is not reconsuming and whose stash is empty whenever a
LF is pending: the flag and the input change together -/
theorem eatSkipLf_phi (m : Mach) (inp : Str) (hr : m.reconsume = false) (hok : EatOk m) :
    (eatSkipLf m inp).1.tempBuf = m.tempBuf ∧ (eatSkipLf m inp).1.line = m.line ∧
    (eatSkipLf m inp).1.reconsume = false ∧
    brk (eatSkipLf m inp).1.ignoreLf ((eatSkipLf m inp).1.tempBuf ++ (eatSkipLf m inp).2)
      = brk m.ignoreLf (m.tempBuf ++ inp) ∧
    ((eatSkipLf m inp).1.ignoreLf = true → m.tempBuf = [] ∧ inp = [] ∧ (eatSkipLf m inp).2 = []) := by
  unfold eatSkipLf
  cases hil : m.ignoreLf with
  | false => simp [hr, hil]
  | true =>
    have ht := hok hil
    cases inp with
    | nil => simp [peek, hr, hil, ht]
    | cons c rest =>
      simp only [peek, hr, Bool.false_eq_true, ↓reduceIte, List.head?_cons]
      by_cases hc : c = '\n'
      · subst hc
        simp [discardChar, hr, ht, brk_cons_lf]
      · simp [hc, hr, ht, brk_flag c rest hc]

/-- the characters a keyword can match are never line breaks -/
def PatOk (eq : Char → Char → Bool) (pat : Str) : Prop :=
  ∀ p ∈ pat, eq '\n' p = false ∧ eq '\r' p = false

theorem patOk_kw : PatOk eqExact kwDashDash ∧ PatOk eqCi kwDoctype ∧ PatOk eqExact kwCdata ∧
    PatOk eqCi kwPublic ∧ PatOk eqCi kwSystem := by
  refine ⟨?_, ?_, ?_, ?_, ?_⟩ <;> (intro p hp; revert p; decide)

theorem patOk_not_brk {eq : Char → Char → Bool} {pat : Str} (h : PatOk eq pat) (a p : Char) (hp : p ∈ pat)
    (he : eq a p = true) : isBrk a = false := by
  simp only [isBrk, Bool.or_eq_false_iff, decide_eq_false_iff_not]
  constructor
  · intro ha; subst ha; rw [(h p hp).1] at he; simp at he
  · intro ha; subst ha; rw [(h p hp).2] at he; simp at he

/-- whatever `eatCmp` accepted as (a prefix of) the keyword contains no line break -/
theorem eatCmp_none_plain (eq : Char → Char → Bool) (all pat : Str) (hp : PatOk eq pat)
    (h : eatCmp eq all pat = none) : ∀ c ∈ all, isBrk c = false := by
  induction all generalizing pat with
  | nil => intro c hc; exact absurd hc List.not_mem_nil
  | cons a t ih =>
    cases pat with
    | nil => simp [eatCmp] at h
    | cons p ps =>
      simp only [eatCmp] at h
      split at h
      · rename_i he
        intro c hc
        rcases List.mem_cons.mp hc with hc | hc
        · subst hc; exact patOk_not_brk hp _ p (List.mem_cons_self ..) he
        · exact ih ps (fun q hq => hp q (List.mem_cons_of_mem _ hq)) h c hc
      · simp at h

theorem eatCmp_true_plain (eq : Char → Char → Bool) (all pat : Str) (hp : PatOk eq pat)
    (h : eatCmp eq all pat = some true) :
    (∀ c ∈ all.take pat.length, isBrk c = false) ∧ pat.length ≤ all.length := by
  induction all generalizing pat with
  | nil =>
    cases pat with
    | nil => simp
    | cons p ps => simp [eatCmp] at h
  | cons a t ih =>
    cases pat with
    | nil => simp
    | cons p ps =>
      simp only [eatCmp] at h
      split at h
      · rename_i he
        obtain ⟨h1, h2⟩ := ih ps (fun q hq => hp q (List.mem_cons_of_mem _ hq)) h
        refine ⟨?_, by simp; omega⟩
        intro c hc
        simp only [List.length_cons, List.take_succ_cons, List.mem_cons] at hc
        rcases hc with hc | hc
        · subst hc; exact patOk_not_brk hp _ p (List.mem_cons_self ..) he
        · exact h1 c hc
      · simp at h


/-- `eat` moves text between the queue and the stash, or consumes a matched keyword (which holds no
line break): the breaks ahead in stash ++ queue do not change -/
theorem eat_phi (m : Mach) (inp pat : Str) (eq : Char → Char → Bool)
    (hr : m.reconsume = false) (hok : EatOk m)
    (hp : PatOk eq pat) (hne : pat ≠ [])
    (b : Option Bool) (m1 : Mach) (i1 : Str) (h : eat m inp pat eq = (b, m1, i1)) :
    m1.line = m.line ∧ m1.reconsume = false ∧ EatOk m1 ∧
    brk m1.ignoreLf (m1.tempBuf ++ i1) = brk m.ignoreLf (m.tempBuf ++ inp) ∧
    (b ≠ none → m1.tempBuf = []) ∧ (b = none → ∀ c ∈ m1.tempBuf, isBrk c = false) := by
  rw [eat_eq_core] at h
  obtain ⟨f1, f2, f3, f4, f5⟩ := eatSkipLf_phi m inp hr hok
  generalize hmi : (eatSkipLf m inp).1 = mi at *
  generalize hii : (eatSkipLf m inp).2 = ii at *
  unfold eatCore at h
  cases hc : eatCmp eq (mi.tempBuf ++ ii) pat with
  | none =>
    cases hae : mi.atEof with
    | true =>
      -- at EOF the look-ahead gives up: everything goes back to the queue
      simp only [hc, hae, ↓reduceIte, Prod.mk.injEq] at h
      obtain ⟨hb, hm1, hi1⟩ := h
      subst hb hm1 hi1
      refine ⟨by simpa using f2, by simpa using f3, fun _ => by simp, ?_, fun _ => by simp, fun hx => by simp at hx⟩
      simpa using f4
    | false =>
      simp only [hc, hae, Bool.false_eq_true, ↓reduceIte, Prod.mk.injEq] at h
      obtain ⟨hb, hm1, hi1⟩ := h
      subst hb hm1 hi1
      refine ⟨by simpa using f2, by simpa using f3, ?_, by simpa using f4, by simp, fun _ => ?_⟩
      · intro hil
        have := f5 (by simpa using hil)
        simp [f1, this.1, this.2.2]
      · simpa using eatCmp_none_plain eq _ pat hp hc
  | some bb =>
    have hall : mi.tempBuf ++ ii ≠ [] := by
      intro hnil
      rw [hnil] at hc
      cases pat with
      | nil => exact hne rfl
      | cons p ps => simp [eatCmp] at hc
    have hig : mi.ignoreLf = false := by
      cases hx : mi.ignoreLf with
      | false => rfl
      | true =>
        have := f5 hx
        exact absurd (by simp [f1, this.1, this.2.2]) hall
    cases bb with
    | false =>
      simp only [hc, Prod.mk.injEq] at h
      obtain ⟨hb, hm1, hi1⟩ := h
      subst hb hm1 hi1
      refine ⟨by simpa using f2, by simpa using f3, fun _ => by simp, ?_, fun _ => by simp, fun hx => by simp at hx⟩
      simpa using f4
    | true =>
      simp only [hc, Prod.mk.injEq] at h
      obtain ⟨hb, hm1, hi1⟩ := h
      subst hb hm1 hi1
      refine ⟨by simpa using f2, by simpa using f3, fun _ => by simp, ?_, fun _ => by simp, fun hx => by simp at hx⟩
      obtain ⟨hpl, hlen⟩ := eatCmp_true_plain eq _ pat hp hc
      have hk : (mi.tempBuf ++ ii).take pat.length ≠ [] := by
        intro hnil
        have : pat.length = 0 ∨ (mi.tempBuf ++ ii) = [] := by
          rcases List.take_eq_nil_iff.mp hnil with h0 | h0
          · exact Or.inl h0
          · exact Or.inr h0
        rcases this with h0 | h0
        · exact hne (List.length_eq_zero_iff.mp h0)
        · exact hall h0
      have hsplit := brk_plain_append mi.ignoreLf _ ((mi.tempBuf ++ ii).drop pat.length) hpl hk
      rw [List.take_append_drop] at hsplit
      simp only [Mach.setTempBuf, List.nil_append]
      rw [← f4, hsplit, hig]


/-! ### the character-reference sub-tokenizer -/

theorem toDigit_not_brk (c : Char) (base n : Nat) (h : toDigit c base = some n) : isBrk c = false := by
  simp only [isBrk, Bool.or_eq_false_iff, decide_eq_false_iff_not]
  constructor
  · intro hc; subst hc; simp [toDigit] at h
  · intro hc; subst hc; simp [toDigit] at h

theorem alnum_not_brk (c : Char) (h : isAsciiAlnum c = true) : isBrk c = false := by
  simp only [isBrk, Bool.or_eq_false_iff, decide_eq_false_iff_not]
  constructor
  · intro hc; subst hc; simp [isAsciiAlnum] at h
  · intro hc; subst hc; simp [isAsciiAlnum] at h

theorem plain_snoc {nb : Str} {c : Char} (h : ∀ x ∈ nb, isBrk x = false) (hc : isBrk c = false) :
    ∀ x ∈ nb ++ [c], isBrk x = false := by
  intro x hx
  rcases List.mem_append.mp hx with hx | hx
  · exact h x hx
  · rw [List.mem_singleton.mp hx]; exact hc

/-- the registers of the sub-tokenizer as far as line accounting cares -/
structure CRLines (cr : CharRefSt) : Prop where
  plain : ∀ c ∈ cr.nameBuf.getD [], isBrk c = false
  noBuf : cr.state ≠ .named → cr.state ≠ .bogusName → cr.nameBuf = none
  hex : ∀ c, cr.hexMarker = some c → isBrk c = false

/-- `m1` differs from `m` at most in what was emitted -/
def SameLines (m1 m : Mach) : Prop :=
  m1.line = m.line ∧ m1.ignoreLf = m.ignoreLf ∧ m1.reconsume = m.reconsume

theorem SameLines.refl (m : Mach) : SameLines m m := ⟨rfl, rfl, rfl⟩
theorem sameLines_emitErr (m : Mach) (s : String) : SameLines (emitErr m s) m := by simp [SameLines]
theorem sameLines_emit (m : Mach) (t : Token) : SameLines (emit m t) m := by simp [SameLines]
theorem sameLines_nameErr (o : Opts) (m : Mach) (nb : Str) : SameLines (nameErr o m nb) m := by
  unfold nameErr; split <;> simp [SameLines]
theorem sameLines_finishNumeric (o : Opts) (m : Mach) (cr : CharRefSt) : SameLines (finishNumeric o m cr).1 m := by
  unfold finishNumeric numericErr
  dsimp only
  split
  · split <;> simp [SameLines]
  · exact SameLines.refl m


/-- what one step of the sub-tokenizer must satisfy: same line, no pending LF, and the breaks ahead
in `name_buf ++ queue` unchanged (on `Done` the buffer has been given back or consumed) -/
def CROk (m : Mach) (nb : Str) (inp : Str) : CRRes → Prop
  | .error _ => True
  | .ok (m1, i1, cr1, st) =>
    m1.line = m.line ∧ m1.ignoreLf = false ∧ m1.reconsume = false ∧
    (match st with
     | .done _ => brk false i1 = brk false (nb ++ inp)
     | _ => CRLines cr1 ∧ brk false (cr1.nameBuf.getD [] ++ i1) = brk false (nb ++ inp))

theorem namedDecision_lines (m : Mach) (cr : CharRefSt) (nb : Str) (c1 c2 : Nat) (m1 : Mach) (chars : Str)
    (h : namedDecision m cr nb c1 c2 = .ok (some (m1, chars))) :
    m1.line = m.line ∧ m1.ignoreLf = false ∧ m1.reconsume = m.reconsume := by
  rcases namedDecision_mach h with rfl | rfl <;> simp

theorem finishNamed_phi (o : Opts) (m : Mach) (inp : Str) (cr : CharRefSt) (ec : Option Char) (nb : Str)
    (hil : m.ignoreLf = false) (hr : m.reconsume = false) (hnb : cr.nameBuf = some nb)
    (h1 : cr.nameMatch ≠ none → ∀ x ∈ nb.take cr.nameLen, isBrk x = false)
    (h2 : ∀ c, ec = some c → isAsciiAlnum c = true → ∀ x ∈ nb, isBrk x = false)
    (hhex : ∀ c, cr.hexMarker = some c → isBrk c = false) :
    CROk m nb inp (finishNamed o m inp cr ec) := by
  unfold finishNamed
  rw [hnb]
  dsimp only
  cases hm : cr.nameMatch with
  | none =>
    dsimp only
    cases ec with
    | none =>
      simp only [Bool.false_eq_true, ↓reduceIte]
      exact ⟨rfl, hil, hr, rfl⟩
    | some c =>
      dsimp only
      by_cases hcb : isAsciiAlnum c = true
      · simp only [hcb, ↓reduceIte]
        refine ⟨rfl, hil, hr, ⟨?_, ?_, hhex⟩, by simp⟩
        · simpa using h2 c rfl hcb
        · intro _ hx; simp at hx
      · simp only [hcb, Bool.false_eq_true, ↓reduceIte]
        have hs : SameLines (if (c = ';' && decide (nb.length > 1)) = true then nameErr o m nb else m) m := by
          split
          · exact sameLines_nameErr o m nb
          · exact SameLines.refl m
        exact ⟨hs.1, by rw [hs.2.1, hil], by rw [hs.2.2, hr], rfl⟩
  | some mt =>
    obtain ⟨c1, c2⟩ := mt
    dsimp only
    cases hd : namedDecision m cr nb c1 c2 with
    | error e => trivial
    | ok r =>
      cases r with
      | none => exact ⟨rfl, hil, hr, rfl⟩
      | some mc =>
        obtain ⟨m1, chars⟩ := mc
        obtain ⟨l1, l2, l3⟩ := namedDecision_lines m cr nb c1 c2 m1 chars hd
        refine ⟨l1, l2, by rw [l3, hr], ?_⟩
        show brk false (nb.drop cr.nameLen ++ inp) = brk false (nb ++ inp)
        have hp := h1 (by rw [hm]; simp)
        conv => rhs; rw [← List.take_append_drop cr.nameLen nb, List.append_assoc]
        exact (brk_plain_append' _ _ hp).symm


/-- what `unconsume_numeric` gives back holds no line break -/
theorem unconsumeNumeric_plain (m : Mach) (inp : Str) (cr : CharRefSt) (hc : CRLines cr) :
    ∃ un, unconsumeNumeric m inp cr =
        .ok (emitErr m "Numeric character reference without digits", un ++ inp, cr, .done []) ∧
      ∀ x ∈ un, isBrk x = false := by
  refine ⟨_, rfl, fun x hx => ?_⟩
  rcases List.mem_cons.mp hx with rfl | hx
  · decide
  · cases hh : cr.hexMarker with
    | none => rw [hh] at hx; cases hx
    | some y =>
      rw [hh] at hx
      rw [List.mem_singleton.mp hx]
      exact hc.hex _ hh

theorem finishNumericStatus_phi (o : Opts) (m m0 : Mach) (inp i0 : Str) (cr : CharRefSt) (nb : Str)
    (hs : SameLines m m0) (hil : m0.ignoreLf = false) (hr : m0.reconsume = false)
    (hb : brk false inp = brk false (nb ++ i0)) :
    CROk m0 nb i0 (finishNumericStatus o m inp cr) := by
  unfold finishNumericStatus
  have hf := sameLines_finishNumeric o m cr
  cases hfn : finishNumeric o m cr with
  | mk m1 r =>
    rw [hfn] at hf
    cases r with
    | error e => trivial
    | ok ch =>
      exact ⟨by rw [hf.1, hs.1], by rw [hf.2.1, hs.2.1, hil], by rw [hf.2.2, hs.2.2, hr], hb⟩

theorem crStep_phi (o : Opts) (m : Mach) (inp : Str) (cr : CharRefSt)
    (hil : m.ignoreLf = false) (hr : m.reconsume = false) (hc : CRLines cr) (hs : CRSafe cr) :
    CROk m (cr.nameBuf.getD []) inp (crStep o m inp cr) := by
  unfold crStep
  cases inp with
  | nil => simp only [peek, hr, Bool.false_eq_true, ↓reduceIte, List.head?_nil]; exact ⟨rfl, hil, hr, hc, rfl⟩
  | cons c rest =>
    simp only [peek, hr, Bool.false_eq_true, ↓reduceIte, List.head?_cons]
    have hd : discardChar m (c :: rest) = (m, rest) := by simp [discardChar, hr]
    cases hst : cr.state with
    | begin =>
      have hnb : cr.nameBuf = none := hc.noBuf (by simp [hst]) (by simp [hst])
      simp only [hnb, Option.getD_none, List.nil_append]
      split
      · refine ⟨rfl, hil, hr, ⟨by simp, by simp, hc.hex⟩, by simp⟩
      · split
        · rename_i hh
          rw [hd]
          refine ⟨rfl, hil, hr, ⟨by simp [hnb], fun _ _ => (by simp [hnb]), hc.hex⟩, ?_⟩
          simp only [hnb, Option.getD_none, List.nil_append]
          rw [hh, brk_cons_plain _ _ _ (by decide)]
        · exact ⟨rfl, hil, hr, rfl⟩
    | octothorpe =>
      have hnb : cr.nameBuf = none := hc.noBuf (by simp [hst]) (by simp [hst])
      simp only [hnb, Option.getD_none, List.nil_append]
      split
      · rename_i hx
        rw [hd]
        have hcb : isBrk c = false := by
          simp only [Bool.or_eq_true, decide_eq_true_eq] at hx
          rcases hx with hx | hx <;> (subst hx; decide)
        refine ⟨rfl, hil, hr, ⟨by simp [hnb], fun _ _ => (by simp [hnb]), ?_⟩, ?_⟩
        · intro c' hc'; simp only [Option.some.injEq] at hc'; subst hc'; exact hcb
        · simp only [hnb, Option.getD_none, List.nil_append]
          rw [brk_cons_plain _ _ _ hcb]
      · refine ⟨rfl, hil, hr, ⟨by simp [hnb], fun _ _ => (by simp [hnb]), by simp⟩, by simp [hnb]⟩
    | numeric base =>
      have hnb : cr.nameBuf = none := hc.noBuf (by simp [hst]) (by simp [hst])
      simp only [hnb, Option.getD_none, List.nil_append]
      cases htd : toDigit c base with
      | some n =>
        simp only
        rw [hd]
        refine ⟨rfl, hil, hr, ⟨by simp [hnb], fun _ _ => (by simp [hnb]), hc.hex⟩, ?_⟩
        simp only [hnb, Option.getD_none, List.nil_append]
        rw [brk_cons_plain _ _ _ (toDigit_not_brk c base n htd)]
      | none =>
        simp only
        split
        · obtain ⟨un, hun, hpl⟩ := unconsumeNumeric_plain m (c :: rest) cr hc
          rw [hun]
          exact ⟨by simp, by simp [hil], by simp [hr], brk_plain_append' _ _ hpl⟩
        · refine ⟨rfl, hil, hr, ⟨by simp [hnb], fun _ _ => (by simp [hnb]), hc.hex⟩, by simp [hnb]⟩
    | numericSemicolon =>
      have hnb : cr.nameBuf = none := hc.noBuf (by simp [hst]) (by simp [hst])
      simp only [hnb, Option.getD_none]
      split
      · rename_i hx
        rw [hd]
        exact finishNumericStatus_phi o m m rest (c :: rest) cr [] (SameLines.refl m) hil hr
          (by rw [hx]; exact (brk_cons_plain _ _ _ (by decide)).symm)
      · exact finishNumericStatus_phi o _ m (c :: rest) (c :: rest) cr [] (sameLines_emitErr m _) hil hr (by simp)
    | named =>
      rw [hd]
      dsimp only
      cases hnb : cr.nameBuf with
      | none => trivial
      | some nb =>
        dsimp only
        have hplain : ∀ x ∈ nb, isBrk x = false := by simpa [hnb] using hc.plain
        have happ : brk false ((nb ++ [c]) ++ rest) = brk false (nb ++ c :: rest) := by simp
        cases hlk : entityLookup (nb ++ [c]) with
        | some mt =>
          dsimp only
          have hp2 := lookup_no_break _ _ hlk
          split <;> exact ⟨rfl, hil, hr, ⟨by simpa using hp2, by simp [hst], hc.hex⟩, by simpa using happ⟩
        | none =>
          dsimp only
          have := finishNamed_phi o m rest { cr with state := .named, nameBuf := some (nb ++ [c]) } (some c) (nb ++ [c]) hil hr rfl
            (by
              -- a match ends inside the old buffer
              intro hm x hx
              rcases hmm : cr.nameMatch with _ | ⟨c1, c2⟩
              · exact absurd hmm hm
              · obtain ⟨nb', hnb', _, hle, _⟩ := hs.matched c1 c2 hmm
                obtain rfl : nb = nb' := Option.some.inj (hnb.symm.trans hnb')
                rw [List.take_append_of_le_length hle] at hx
                exact hplain x (List.mem_of_mem_take hx))
            (by
              intro c' hc' hal
              cases hc'
              exact plain_snoc hplain (alnum_not_brk _ hal))
            hc.hex
          simp only [Option.getD_some]
          unfold CROk at this ⊢
          rw [← happ]
          exact this
    | bogusName =>
      rw [hd]
      dsimp only
      cases hnb : cr.nameBuf with
      | none => trivial
      | some nb =>
        dsimp only
        have hplain : ∀ x ∈ nb, isBrk x = false := by simpa [hnb] using hc.plain
        split
        · rename_i hal
          exact ⟨rfl, hil, hr, ⟨plain_snoc hplain (alnum_not_brk _ hal), by simp [hst], hc.hex⟩, by simp⟩
        · have hsl : SameLines (if c = ';' then nameErr o m (nb ++ [c]) else m) m := by
            split
            · exact sameLines_nameErr o m _
            · exact SameLines.refl m
          exact ⟨hsl.1, by rw [hsl.2.1, hil], by rw [hsl.2.2, hr], by simp⟩


/-! ### the step-level invariant -/

/-- a character reference is only ever started on `&` -/
theorem transSet_amp (o : Opts) (pol : Pol) (m : Mach) (r : SetRes) (hcr : m.charRef = none)
    (h : (transSet o pol m r).1.charRef ≠ none) : r = .fromSet '&' := by
  obtain ⟨x, fin, hr, hx, -, -, hA, -⟩ := transSet_ctl o pol m r
  rw [hr] at h
  rcases hA with rfl | ⟨rfl, -⟩ | ⟨-, -, ha, -⟩ | ⟨rfl, e, rfl, -⟩
  · exact absurd (hx.trans hcr) h
  · exact absurd ((emitTag_charRef pol .data x).trans (hx.trans hcr)) h
  · exact ha
  · exact absurd hcr h

def R.pair? : R → Option (Mach × Str)
  | .cont m i | .suspend m i | .script m i | .indicator m i => some (m, i)
  | .panic _ => none

theorem ofSig_pair (ms : Mach × Sig) (inp : Str) (m' : Mach) (i' : Str)
    (h : (ofSig ms inp).pair? = some (m', i')) : m' = ms.1 ∧ i' = inp := by
  unfold ofSig at h
  split at h <;> simp_all [R.pair?]

theorem pair_mach (r : R) (m' : Mach) (i' : Str) (h : r.pair? = some (m', i')) : r.mach? = some m' := by
  cases r <;> simp_all [R.pair?, R.mach?]

/-- `P` holds of the machine and queue that a step result carries (nothing to show for a panic) -/
def R.All (P : Mach → Str → Prop) (r : R) : Prop := ∀ m' i', r.pair? = some (m', i') → P m' i'

theorem all_cont {P : Mach → Str → Prop} {m : Mach} {i : Str} (h : P m i) : R.All P (.cont m i) := by
  intro m' i' e; cases e; exact h

theorem all_suspend {P : Mach → Str → Prop} {m : Mach} {i : Str} (h : P m i) : R.All P (.suspend m i) := by
  intro m' i' e; cases e; exact h

theorem all_ofSig {P : Mach → Str → Prop} {ms : Mach × Sig} {i : Str} (h : P ms.1 i) : R.All P (ofSig ms i) := by
  intro m' i' e
  obtain ⟨rfl, rfl⟩ := ofSig_pair _ _ _ _ e
  exact h


theorem foldChar_currentChar (o : Opts) (m : Mach) (c : Char) :
    (foldChar o m c).2.currentChar = (foldChar o m c).1 := rfl

theorem getChar_ri (o : Opts) (m m1 : Mach) (inp i1 : Str) (c : Char)
    (hri : m.reconsume = true → m.ignoreLf = true → m.currentChar = '\n')
    (h : getChar o m inp = (some c, m1, i1)) :
    m1.currentChar = c ∧ (m1.ignoreLf = true → c = '\n') := by
  have hf := getChar_fields o m m1 inp i1 c h
  cases hr : m.reconsume with
  | true =>
    unfold getChar at h
    simp only [hr, ↓reduceIte, Prod.mk.injEq, Option.some.injEq] at h
    obtain ⟨h1, h2, _⟩ := h
    subst h1 h2
    refine ⟨by simp, fun hil => ?_⟩
    exact hri hr (by simpa using hil)
  | false =>
    refine ⟨?_, hf.2.2.2.2.2.1 hr⟩
    unfold getChar at h
    simp only [hr, Bool.false_eq_true, ↓reduceIte] at h
    cases inp with
    | nil => simp at h
    | cons x xs =>
      obtain ⟨m0, c0, _, _, hc, hm1⟩ := preprocess_via_fold o m m1 x c xs i1 h
      rw [hm1, hc]
      exact foldChar_currentChar o m0 c0

/-- the accounting invariant of the machine at step boundaries -/
structure LInv (m : Mach) : Prop where
  safe : Safe m
  eatOk : (m.state = .markupDeclarationOpen ∨ m.state = .afterDoctypeName) → EatOk m
  nr : isRaw m.state = false → m.state ≠ .markupDeclarationOpen → m.state ≠ .afterDoctypeName → m.tempBuf = []
  peekNoRecon : (m.state = .beforeAttributeValue ∨ m.state = .markupDeclarationOpen ∨ m.state = .afterDoctypeName) →
    m.reconsume = false
  ri : m.reconsume = true → m.ignoreLf = true → m.currentChar = '\n'
  stashOk : ∀ c ∈ stash m, isBrk c = false
  cr : ∀ cr, m.charRef = some cr → m.ignoreLf = false ∧ m.reconsume = false ∧ CRLines cr

theorem stash_nil_of {m : Mach} (hcr : m.charRef = none)
    (h : (m.state = .markupDeclarationOpen ∨ m.state = .afterDoctypeName) → m.tempBuf = []) : stash m = [] := by
  unfold stash
  rw [hcr]
  dsimp only
  split
  · rename_i hs; exact h hs
  · rfl

theorem stash_eat {m : Mach} (hcr : m.charRef = none)
    (hs : m.state = .markupDeclarationOpen ∨ m.state = .afterDoctypeName) : stash m = m.tempBuf := by
  unfold stash; rw [hcr]; simp [hs]

theorem stash_plain {m : Mach} (hcr : m.charRef = none)
    (h1 : m.state ≠ .markupDeclarationOpen) (h2 : m.state ≠ .afterDoctypeName) : stash m = [] :=
  stash_nil_of hcr (by intro hs; rcases hs with hs | hs; exact absurd hs h1; exact absurd hs h2)

/-- what the table leaves behind after a `get_char!` read (also used for the last read of
`after-doctype-name`) -/
theorem afterChar_lines (o : Opts) (pol : Pol) (m1 : Mach) (c : Char)
    (hcr : m1.charRef = none) (hN : isRaw m1.state = false → m1.tempBuf = [])
    (hrec : m1.reconsume = false) (hcc : m1.currentChar = c) (hil : m1.ignoreLf = true → c = '\n') :
    let m' := (transChar o pol m1 c).1
    (isRaw m'.state = false → m'.tempBuf = []) ∧
    ((m'.state = .beforeAttributeValue ∨ m'.state = .markupDeclarationOpen ∨ m'.state = .afterDoctypeName) →
      m'.reconsume = false) ∧
    (m'.reconsume = true → m'.ignoreLf = true → m'.currentChar = '\n') ∧
    m'.charRef = none ∧ stash m' = [] ∧ m'.line = m1.line ∧ m'.ignoreLf = m1.ignoreLf := by
  intro m'
  have hnr : isRaw m'.state = false → m'.tempBuf = [] := by
    intro hraw
    by_cases ht : m'.tempBuf = []
    · exact ht
    · have := transChar_nr o pol m1 c hN ht
      rw [hraw] at this; simp at this
  have hcr' : m'.charRef = none := by rw [transChar_charRef, hcr]
  refine ⟨hnr, ?_, ?_, hcr', ?_, transChar_line o pol m1 c, transChar_ignoreLf o pol m1 c⟩
  · intro hs
    cases hr' : m'.reconsume with
    | false => rfl
    | true =>
      obtain ⟨a, b, d⟩ := transChar_recon o pol m1 c hrec hr'
      rcases hs with hs | hs | hs
      · exact absurd hs a
      · exact absurd hs b
      · exact absurd hs d
  · intro _ hil'
    rw [transChar_currentChar, hcc]
    rw [transChar_ignoreLf] at hil'
    exact hil hil'
  · apply stash_nil_of hcr'
    intro hs
    apply hnr
    rcases hs with hs | hs <;> rw [hs] <;> rfl


theorem stash_congr {m m' : Mach} (h1 : m'.state = m.state) (h2 : m'.tempBuf = m.tempBuf)
    (h3 : m'.charRef = m.charRef) : stash m' = stash m := by
  unfold stash; rw [h1, h2, h3]

/-- the invariant reads the machine only through these registers -/
theorem LInv.transfer {m m' : Mach} (hi : LInv m) (h1 : m'.state = m.state) (h2 : m'.tempBuf = m.tempBuf)
    (h3 : m'.charRef = m.charRef) (h4 : m'.reconsume = m.reconsume) (h5 : m'.ignoreLf = true → m.ignoreLf = true)
    (h6 : m'.reconsume = true → m'.ignoreLf = true → m'.currentChar = '\n') : LInv m' where
  safe := ⟨fun cr h => by rw [h1]; exact hi.safe.crState cr (h3 ▸ h), fun cr h => hi.safe.crRegs cr (h3 ▸ h)⟩
  eatOk := fun hx hil => by rw [h2]; exact hi.eatOk (h1 ▸ hx) (h5 hil)
  nr := by rw [h1, h2]; exact hi.nr
  peekNoRecon := by rw [h1, h4]; exact hi.peekNoRecon
  ri := h6
  stashOk := by rw [stash_congr h1 h2 h3]; exact hi.stashOk
  cr := by
    intro cr hcr
    obtain ⟨a, b, c⟩ := hi.cr cr (h3 ▸ hcr)
    refine ⟨?_, h4.trans b, c⟩
    cases hx : m'.ignoreLf with
    | false => rfl
    | true => rw [h5 hx] at a; cases a

/-- clearing a pending-LF flag keeps the invariant -/
theorem LInv.setIgnoreLf_false {m : Mach} (hi : LInv m) : LInv (m.setIgnoreLf false) :=
  hi.transfer rfl rfl rfl rfl nofun (fun _ => nofun)

/-- a machine that has not read anything yet satisfies the invariant -/
theorem linv_fresh (m : Mach) (h1 : m.tempBuf = []) (h2 : m.reconsume = false) (h3 : m.charRef = none) :
    LInv m where
  safe := Safe.of_none h3
  eatOk := fun _ _ => h1
  nr := fun _ _ _ => h1
  peekNoRecon := fun _ => h2
  ri := by rw [h2]; nofun
  stashOk := by rw [stash_nil_of h3 (fun _ => h1)]; nofun
  cr := by rw [h3]; intro _ hc; cases hc

theorem phi_eq {m m' : Mach} {i i' : Str} (hs : stash m = []) (hs' : stash m' = [])
    (h : m'.line + brk m'.ignoreLf i' = m.line + brk m.ignoreLf i) : Phi m' i' = Phi m i := by
  unfold Phi; rw [hs, hs']; simpa using h

/-- a suspended read leaves the invariant and the potential alone -/
theorem lines_suspend {m m1 : Mach} {inp : Str} (hi : LInv m) (hst : stash m = [])
    (hm : m1 = m ∨ m1 = m.setIgnoreLf false)
    (hphi : m1.line + brk m1.ignoreLf [] = m.line + brk m.ignoreLf inp) :
    LInv m1 ∧ Phi m1 [] = Phi m inp := by
  rcases hm with rfl | rfl
  · exact ⟨hi, phi_eq hst hst hphi⟩
  · exact ⟨hi.setIgnoreLf_false,
      phi_eq hst (by rw [stash_congr (m := m) (by simp) (by simp) (by simp)]; exact hst) hphi⟩

/-- `afterChar_lines` as the invariant and the potential of the machine the table leaves behind -/
theorem afterChar_linv (o : Opts) (pol : Pol) (m1 : Mach) (c : Char)
    (hcr : m1.charRef = none) (hN : isRaw m1.state = false → m1.tempBuf = [])
    (hrec : m1.reconsume = false) (hcc : m1.currentChar = c) (hil : m1.ignoreLf = true → c = '\n')
    (hs' : Safe (transChar o pol m1 c).1) :
    LInv (transChar o pol m1 c).1 ∧ ∀ i, Phi (transChar o pol m1 c).1 i = m1.line + brk m1.ignoreLf i := by
  obtain ⟨a1, a2, a3, a4, a5, a6, a7⟩ := afterChar_lines o pol m1 c hcr hN hrec hcc hil
  refine ⟨⟨hs', fun hx _ => a1 (by rcases hx with hx | hx <;> rw [hx] <;> rfl), fun hraw _ _ => a1 hraw, a2, a3,
    by rw [a5]; nofun,
    by rw [a4]; intro _ hc; cases hc⟩, fun i => ?_⟩
  unfold Phi; rw [a5, a6, a7]; rfl

theorem lines_getChar (o : Opts) (pol : Pol) (m : Mach) (inp : Str) (hi : LInv m)
    (hcr : m.charRef = none) (hrk : readKind m.state = .getChar) (m' : Mach) (i' : Str)
    (h : (contChar o pol (getChar o m inp)).pair? = some (m', i'))
    (hs' : Safe m') :
    LInv m' ∧ Phi m' i' = Phi m inp := by
  have hf := readKind_getChar_facts hrk
  have hst : stash m = [] := stash_plain hcr hf.1 hf.2.2
  have hphi := getChar_phi o m inp
  cases hgc : getChar o m inp with
  | mk oc r =>
    obtain ⟨m1, i1⟩ := r
    rw [hgc] at h hphi
    simp only at hphi
    cases oc with
    | none =>
      obtain ⟨rfl, _, g3⟩ := getChar_none o m m1 inp i1 hgc
      simp only [contChar, R.pair?, Option.some.injEq, Prod.mk.injEq] at h
      obtain ⟨rfl, rfl⟩ := h
      exact lines_suspend hi hst (by rcases g3 with ⟨_, g4⟩ | ⟨_, _, g4⟩ <;> simp [g4]) hphi
    | some c =>
      obtain ⟨f1, f2, f3, f4, _⟩ := getChar_fields o m m1 inp i1 c hgc
      obtain ⟨r1, r2⟩ := getChar_ri o m m1 inp i1 c hi.ri hgc
      simp only [contChar] at h
      obtain ⟨h1, h2⟩ := ofSig_pair _ _ _ _ h
      subst h1 h2
      obtain ⟨a1, a2⟩ := afterChar_linv o pol m1 c (by rw [f4, hcr])
        (by intro hraw; rw [f2]; rw [f1] at hraw; exact hi.nr hraw hf.1 hf.2.2) f3 r1 r2 hs'
      refine ⟨a1, ?_⟩
      rw [a2, hphi]; unfold Phi; rw [hst]; rfl


theorem CRLines.fresh (b : Bool) : CRLines { inAttr := b } :=
  ⟨by simp, fun _ _ => rfl, by simp⟩

/-- what the table leaves behind after a `pop_except_from` read: the invariant, and the potential
of the machine -/
theorem afterSet_linv (o : Opts) (pol : Pol) (m1 : Mach) (sr : SetRes)
    (hcr : m1.charRef = none) (hk : readKind m1.state = .popExcept ∨ readKind m1.state = .dataSimd)
    (hN : isRaw m1.state = false → m1.tempBuf = []) (hrec : m1.reconsume = false)
    (hamp : m1.ignoreLf = true → sr ≠ .fromSet '&') :
    let m' := (transSet o pol m1 sr).1
    Safe m' → LInv m' ∧ ∀ i, Phi m' i = m1.line + brk m1.ignoreLf i := by
  intro m' hs'
  have hsf := readKind_state_facts hk
  have hne := transSet_not_eat o pol m1 sr ⟨hsf.1, hsf.2.1⟩
  have hcrf := (transSet_charRef o pol m1 sr hcr hk).2
  have hrec' : m'.reconsume = false := by rw [transSet_reconsume, hrec]
  have hcrl : ∀ cr, m'.charRef = some cr → m'.ignoreLf = false ∧ m'.reconsume = false ∧ CRLines cr := by
    intro cr hcr'
    rcases hcrf with hx | ⟨hx, _, _⟩
    · rw [hx] at hcr'; simp at hcr'
    · rw [hx] at hcr'
      simp only [Option.some.injEq] at hcr'
      subst hcr'
      refine ⟨?_, hrec', CRLines.fresh _⟩
      cases hil : m'.ignoreLf with
      | false => rfl
      | true =>
        have h1 : m1.ignoreLf = true := by rw [← transSet_ignoreLf o pol m1 sr]; exact hil
        have h2 := transSet_amp o pol m1 sr hcr (by rw [hx]; simp)
        exact absurd h2 (hamp h1)
  have hst : stash m' = [] := by
    rcases hcrf with hx | ⟨hx, _, _⟩
    · exact stash_plain hx hne.1 hne.2
    · unfold stash; rw [hx]; rfl
  refine ⟨⟨hs', fun hx => (hx.elim hne.1 hne.2).elim, fun hraw _ _ => ?_, fun _ => hrec', by rw [hrec']; nofun,
    by rw [hst]; nofun, hcrl⟩, fun i => ?_⟩
  · rw [transSet_tempBuf]
    cases hr1 : isRaw m1.state with
    | false => exact hN hr1
    | true =>
      have := transSet_raw o pol m1 sr hr1
      rw [hraw] at this; simp at this
  · unfold Phi
    rw [hst, transSet_line, transSet_ignoreLf]; rfl


theorem popExceptFrom_ri (o : Opts) (S : List Char) (m m1 : Mach) (inp i1 : Str) (sr : SetRes)
    (hri : m.reconsume = true → m.ignoreLf = true → m.currentChar = '\n')
    (h : popExceptFrom o S m inp = (some sr, m1, i1)) : m1.ignoreLf = true → sr = .fromSet '\n' := by
  -- a read through `get_char`, on the slow path or for a character of the set
  have key : ∀ r : Option Char × Mach × Str, getChar o m inp = r →
      (r.1.map SetRes.fromSet, r.2) = (some sr, m1, i1) → m1.ignoreLf = true → sr = .fromSet '\n' := by
    rintro ⟨oc, m2, i2⟩ hg h hil
    cases oc with
    | none => simp at h
    | some c =>
      simp only [Option.map_some, Prod.mk.injEq, Option.some.injEq] at h
      obtain ⟨rfl, rfl, _⟩ := h
      rw [(getChar_ri o m m2 inp i2 c hri hg).2 hil]
  unfold popExceptFrom at h
  split at h
  · exact key _ rfl h
  · rename_i hs
    have hs' : o.exactErrors = false ∧ m.reconsume = false ∧ m.ignoreLf = false := by
      simpa [and_assoc] using hs
    cases inp with
    | nil => simp at h
    | cons x xs =>
      simp only at h
      split at h
      · exact key _ (by unfold getChar; simp [hs'.2.1]) h
      · simp only [Prod.mk.injEq, Option.some.injEq] at h
        obtain ⟨_, h2, _⟩ := h
        subst h2
        intro hil; rw [hs'.2.2] at hil; simp at hil

/-- a `pop_except_from` step (the data state's read is one, `readData_eq`) -/
theorem lines_set (o : Opts) (pol : Pol) (m : Mach) (inp : Str) (hi : LInv m)
    (hcr : m.charRef = none) (hk : readKind m.state = .popExcept ∨ readKind m.state = .dataSimd)
    (S : List Char) (hS : S.contains '\r' = true ∧ S.contains '\n' = true)
    (m' : Mach) (i' : Str) (h : (contSet o pol (popExceptFrom o S m inp)).pair? = some (m', i'))
    (hs' : Safe m') :
    LInv m' ∧ Phi m' i' = Phi m inp := by
  have hsf := readKind_state_facts hk
  have hst : stash m = [] := stash_plain hcr hsf.1 hsf.2.1
  have hphi := popExceptFrom_phi o S m inp hS
  rcases hp : popExceptFrom o S m inp with ⟨oc, m1, i1⟩
  rw [hp] at h hphi
  simp only at hphi
  cases oc with
  | none =>
    obtain ⟨rfl, _, g3⟩ := popExceptFrom_none o S m m1 inp i1 hp
    simp only [contSet, R.pair?, Option.some.injEq, Prod.mk.injEq] at h
    obtain ⟨rfl, rfl⟩ := h
    exact lines_suspend hi hst (by rcases g3 with ⟨_, g4⟩ | ⟨_, _, g4⟩ <;> simp [g4]) hphi
  | some sr =>
    obtain ⟨f1, f2, f3, f4, _, _⟩ := popExceptFrom_fields o S m m1 inp i1 sr hp
    have hri := popExceptFrom_ri o S m m1 inp i1 sr hi.ri hp
    simp only [contSet] at h
    obtain ⟨h1, h2⟩ := ofSig_pair _ _ _ _ h
    subst h1 h2
    obtain ⟨a1, a2⟩ := afterSet_linv o pol m1 sr (by rw [f4, hcr]) (by rw [f1]; exact hk)
      (by intro hraw; rw [f2]; rw [f1] at hraw; exact hi.nr hraw hsf.1 hsf.2.1) f3
      (by intro hil hx; have := hri hil; rw [this] at hx; simp at hx) hs'
    refine ⟨a1, ?_⟩
    rw [a2, hphi]; unfold Phi; rw [hst]; rfl


/-- a register that neither `emit_char` nor a push to the attribute value changes survives
`process_char_ref` -/
theorem processCharRef_keeps {α : Type} (f : Mach → α) (h1 : ∀ m c, f (emitChar m c) = f m)
    (h2 : ∀ m c, f (pushValue c m) = f m) (m : Mach) (chars : Str) : f (processCharRef m chars).1 = f m := by
  have g1 : ∀ (cs : Str) (m : Mach), f (cs.foldl emitChar m) = f m := by
    intro cs; induction cs with
    | nil => intro m; rfl
    | cons c cs ih => intro m; rw [List.foldl_cons, ih, h1]
  have g2 : ∀ (cs : Str) (m : Mach), f (cs.foldl (fun m c => pushValue c m) m) = f m := by
    intro cs; induction cs with
    | nil => intro m; rfl
    | cons c cs ih => intro m; rw [List.foldl_cons, ih, h2]
  unfold processCharRef
  dsimp only
  split
  · exact g1 _ m
  · exact g1 _ m
  · exact g2 _ m
  · rfl

theorem processCharRef_line (m : Mach) (chars : Str) : (processCharRef m chars).1.line = m.line :=
  processCharRef_keeps Mach.line (by simp) (by simp) m chars

theorem processCharRef_charRef (m : Mach) (chars : Str) : (processCharRef m chars).1.charRef = m.charRef :=
  processCharRef_keeps Mach.charRef (by simp) (by simp) m chars

/-- a character reference is never in progress in a look-ahead state -/
theorem Safe.charRef_state {m : Mach} (hs : Safe m) {cr : CharRefSt} (hcr : m.charRef = some cr) :
    m.state ≠ .markupDeclarationOpen ∧ m.state ≠ .afterDoctypeName ∧ m.state ≠ .beforeAttributeValue := by
  rcases hs.crState cr hcr with hx | hx | ⟨k, hx⟩ <;> rw [hx] <;> simp

/-- the invariant of a machine that is, as to state and `temp_buf`, one with a character reference
in progress -/
theorem LInv.of_charRef {m mm : Mach} {cr : CharRefSt} (hi : LInv m) (hcr : m.charRef = some cr)
    (e1 : mm.state = m.state) (e2 : mm.tempBuf = m.tempBuf) (e3 : mm.reconsume = false)
    (e4 : ∀ c ∈ stash mm, isBrk c = false)
    (e5 : ∀ cr, mm.charRef = some cr → mm.ignoreLf = false ∧ mm.reconsume = false ∧ CRLines cr)
    (s : Safe mm) : LInv mm := by
  have hne := hi.safe.charRef_state hcr
  refine ⟨s, ?_, ?_, fun _ => e3, by rw [e3]; nofun, e4, e5⟩
  · rw [e1]
    intro hx
    rcases hx with hx | hx
    · exact absurd hx hne.1
    · exact absurd hx hne.2.1
  · rw [e1, e2]; exact hi.nr

theorem lines_charRef (o : Opts) (m : Mach) (inp : Str) (cr : CharRefSt) (hi : LInv m)
    (hcr : m.charRef = some cr) (m' : Mach) (i' : Str)
    (h : (stepCharRef o m inp cr).pair? = some (m', i'))
    (hs' : Safe m') :
    LInv m' ∧ Phi m' i' = Phi m inp := by
  obtain ⟨c1, c2, c3⟩ := hi.cr cr hcr
  have hsafe := hi.safe.crRegs cr hcr
  have hne := hi.safe.charRef_state hcr
  have hphi0 : Phi m inp = m.line + brk false (cr.nameBuf.getD [] ++ inp) := by
    unfold Phi stash; rw [hcr, c1]
  have hok := crStep_phi o m inp cr c1 c2 c3 hsafe
  unfold stepCharRef at h
  cases hc : crStep o m inp cr with
  | error x => rw [hc] at h; simp [R.pair?] at h
  | ok v =>
    obtain ⟨m1, i1, cr1, st⟩ := v
    have hw := crStep_weaker o m m1 inp i1 cr cr1 st hc
    rw [hc] at h hok
    obtain ⟨k1, k2, k3, k4⟩ := hok
    cases st with
    | stuck | progress =>
      -- the sub-tokenizer goes on: its registers are put back into the machine
      simp only [R.pair?, Option.some.injEq, Prod.mk.injEq] at h
      obtain ⟨h1, h2⟩ := h
      subst h1 h2
      simp only at k4
      refine ⟨hi.of_charRef hcr (by simp [hw.1]) (by simp [hw.2.1]) (by simpa using k3)
        (by unfold stash; simpa using k4.1.plain) (by
          intro cr' hcr'
          simp only [Mach.setCharRef, Option.some.injEq] at hcr'
          subst hcr'
          exact ⟨by simpa using k2, by simpa using k3, k4.1⟩) hs', ?_⟩
      rw [hphi0, ← k4.2, ← k1]
      unfold Phi stash
      simp [k2]
    | done chars =>
      simp only at k4
      obtain ⟨h1, h2⟩ := ofSig_pair _ _ _ _ h
      subst h1 h2
      have hp := processCharRef_fields m1 chars
      have hpl := processCharRef_line m1 chars
      have hst' : stash ((processCharRef m1 chars).1.setCharRef none) = [] :=
        stash_plain (by simp) (by simp [hp.1, hw.1, hne.1]) (by simp [hp.1, hw.1, hne.2.1])
      refine ⟨hi.of_charRef hcr (by simp [hp.1, hw.1]) (by simp [hp.2.1, hw.2.1]) (by simp [hp.2.2.2.1, k3])
        (by rw [hst']; nofun)
        (by intro cr' hcr'; simp at hcr') hs', ?_⟩
      rw [hphi0]
      unfold Phi
      rw [hst']
      simp only [List.nil_append, setCharRef_line, setCharRef_ignoreLf, hpl, hp.2.2.1, k1, k2, k4]


/-! ### before-attribute-value (`peek` / `discard_char`) -/

/-- every result of the state: `(fields, accounting)` -/
theorem stepBav_lines (o : Opts) (pol : Pol) (m : Mach) (inp : Str) (hr : m.reconsume = false)
    (m' : Mach) (i' : Str) (h : (stepBav o pol m inp).pair? = some (m', i')) :
    m'.tempBuf = m.tempBuf ∧ m'.reconsume = false ∧
    m'.line + brk m'.ignoreLf i' = m.line + brk m.ignoreLf inp := by
  revert m' i'
  show R.All _ _
  unfold stepBav
  cases inp with
  | nil =>
    simp only [peek, hr, Bool.false_eq_true, ↓reduceIte, List.head?_nil]
    exact all_suspend ⟨rfl, hr, rfl⟩
  | cons c rest =>
    simp only [peek, hr, Bool.false_eq_true, ↓reduceIte, List.head?_cons]
    -- the machine after the pending-LF flag was dealt with
    generalize hmad : (if m.ignoreLf = true then m.setIgnoreLf false else m) = ma
    obtain ⟨t1, t2, t3, t4⟩ :
        ma.tempBuf = m.tempBuf ∧ ma.reconsume = false ∧ ma.line = m.line ∧ ma.ignoreLf = false := by
      subst hmad
      split
      · simp [hr]
      · rename_i hx; simp [hr]; simpa using hx
    have hd : discardChar ma (c :: rest) = (ma, rest) := by simp [discardChar, t2]
    by_cases hskip : (m.ignoreLf && decide (c = '\n')) = true
    · simp only [hskip, ↓reduceIte, hd]
      simp only [Bool.and_eq_true, decide_eq_true_eq] at hskip
      refine all_cont ⟨t1, t2, ?_⟩
      rw [t3, t4, hskip.1, hskip.2, brk_cons_lf]; simp
    · simp only [hskip, Bool.false_eq_true, ↓reduceIte]
      -- from here on the flag no longer matters for `c :: rest`
      have hflag : brk m.ignoreLf (c :: rest) = brk false (c :: rest) := by
        cases hil : m.ignoreLf with
        | false => rfl
        | true =>
          have : c ≠ '\n' := by
            intro hc; simp [hil, hc] at hskip
          exact brk_flag c rest this
      by_cases hbrk : c = '\n' ∨ c = '\r'
      · rw [if_pos (by simpa using hbrk)]
        have hphi := getChar_phi o ma (c :: rest)
        rcases hg : getChar o ma (c :: rest) with ⟨oc, m2, i2⟩
        rw [hg] at hphi
        simp only at hphi
        cases oc with
        | none =>
          obtain ⟨_, _, g3⟩ := getChar_none o ma m2 (c :: rest) i2 hg
          rcases g3 with ⟨g3, _⟩ | ⟨_, g3, _⟩
          · simp at g3
          · rw [t4] at g3; simp at g3
        | some c2 =>
          obtain ⟨f1, f2, f3, _⟩ := getChar_fields o ma m2 (c :: rest) i2 c2 hg
          exact all_cont ⟨by rw [f2, t1], f3, by rw [hphi, t3, t4, hflag]⟩
      · rw [if_neg (by simpa using hbrk)]
        have hnb : isBrk c = false := by
          simp only [not_or] at hbrk
          simp [isBrk, hbrk.1, hbrk.2]
        have hcons : brk m.ignoreLf (c :: rest) = brk false rest := by
          rw [hflag, brk_cons_plain _ _ _ hnb]
        simp only [hd]
        split
        · exact all_cont ⟨t1, t2, by rw [t3, t4, hcons]⟩
        split
        · exact all_cont ⟨by simp [t1], by simp [t2], by simp [t3, t4, hcons]⟩
        split
        · exact all_cont ⟨by simp [t1], by simp [t2], by simp [t3, t4, hcons]⟩
        split
        · exact all_ofSig ⟨by simp [t1], by simp [t2], by simp [t3, t4, hcons]⟩
        · exact all_cont ⟨by simp [t1], by simp [t2], by simp [t3, t4, hflag]⟩


/-! ### the look-ahead states -/

/-- the facts carried from one `eat` to the next inside a look-ahead state -/
structure EatSt (s : State) (K : Nat) (m : Mach) (i : Str) : Prop where
  st : m.state = s
  cr : m.charRef = none
  nrec : m.reconsume = false
  ok : EatOk m
  phi : m.line + brk m.ignoreLf (m.tempBuf ++ i) = K

theorem eat_stage {s : State} {K : Nat} {m : Mach} {i : Str} (h0 : EatSt s K m i)
    (pat : Str) (eq : Char → Char → Bool) (hp : PatOk eq pat) (hne : pat ≠ [])
    (b : Option Bool) (m1 : Mach) (i1 : Str) (h : eat m i pat eq = (b, m1, i1)) :
    EatSt s K m1 i1 ∧ (b ≠ none → m1.tempBuf = []) ∧ (b = none → ∀ c ∈ m1.tempBuf, isBrk c = false) := by
  obtain ⟨p1, p2, p3, p4, p5, p6⟩ := eat_phi m i pat eq h0.nrec h0.ok hp hne b m1 i1 h
  obtain ⟨f1, f2, f3⟩ := eat_fields m m1 i i1 pat eq b h
  exact ⟨⟨by rw [f1, h0.st], by rw [f2, h0.cr], p2, p3, by rw [p1, p4]; exact h0.phi⟩, p5, p6⟩

/-- a terminal result of a look-ahead state: machine `mm` derived from the last `eat`'s machine by
operations that touch neither the line registers nor `temp_buf` (or clear it) -/
theorem eat_exit {s : State} {K : Nat} {m1 : Mach} {i1 : Str} (h1 : EatSt s K m1 i1) (ht : m1.tempBuf = [])
    (mm : Mach) (e1 : mm.line = m1.line) (e2 : mm.ignoreLf = m1.ignoreLf) (e3 : mm.tempBuf = [])
    (e4 : mm.reconsume = false) (e5 : mm.charRef = none)
    (e6 : mm.state ≠ .markupDeclarationOpen) (e7 : mm.state ≠ .afterDoctypeName) :
    mm.reconsume = false ∧ mm.charRef = none ∧ (∀ c ∈ stash mm, isBrk c = false) ∧
    Phi mm i1 = K ∧ (mm.state ≠ s → mm.tempBuf = []) ∧ EatOk mm := by
  have hst := stash_plain e5 e6 e7
  refine ⟨e4, e5, by rw [hst]; nofun, ?_, fun _ => e3, fun _ => e3⟩
  unfold Phi
  rw [hst, e1, e2]
  have := h1.phi
  rw [ht] at this
  simpa using this

/-- `eat_exit` for a machine `mm` that agrees with `m1` on the registers of the accounting -/
theorem eat_leave {s : State} {K : Nat} {m1 : Mach} {i1 : Str} (h1 : EatSt s K m1 i1) (ht : m1.tempBuf = [])
    (mm : Mach)
    (e : mm.line = m1.line ∧ mm.ignoreLf = m1.ignoreLf ∧ mm.tempBuf = [] ∧ mm.reconsume = false ∧
      mm.charRef = none ∧ mm.state ≠ .markupDeclarationOpen ∧ mm.state ≠ .afterDoctypeName) :
    mm.reconsume = false ∧ mm.charRef = none ∧ (∀ c ∈ stash mm, isBrk c = false) ∧
    Phi mm i1 = K ∧ (mm.state ≠ s → mm.tempBuf = []) ∧ EatOk mm :=
  eat_exit h1 ht mm e.1 e.2.1 e.2.2.1 e.2.2.2.1 e.2.2.2.2.1 e.2.2.2.2.2.1 e.2.2.2.2.2.2

theorem eat_suspend {s : State} {K : Nat} {m1 : Mach} {i1 : Str} (h1 : EatSt s K m1 i1)
    (hs : s = .markupDeclarationOpen ∨ s = .afterDoctypeName)
    (hpl : ∀ c ∈ m1.tempBuf, isBrk c = false) :
    m1.reconsume = false ∧ m1.charRef = none ∧ (∀ c ∈ stash m1, isBrk c = false) ∧
    Phi m1 i1 = K ∧ (m1.state ≠ s → m1.tempBuf = []) ∧ EatOk m1 := by
  have hst : stash m1 = m1.tempBuf := stash_eat h1.cr (by rw [h1.st]; exact hs)
  refine ⟨h1.nrec, h1.cr, by rw [hst]; exact hpl, ?_, fun hx => absurd h1.st hx, h1.ok⟩
  unfold Phi; rw [hst]; exact h1.phi

theorem stepMdo_lines (o : Opts) (pol : Pol) (m : Mach) (inp : Str) (K : Nat)
    (h0 : EatSt .markupDeclarationOpen K m inp) (m' : Mach) (i' : Str)
    (h : (stepMdo o pol m inp).pair? = some (m', i')) :
    m'.reconsume = false ∧ m'.charRef = none ∧ (∀ c ∈ stash m', isBrk c = false) ∧
    Phi m' i' = K ∧ (m'.state ≠ .markupDeclarationOpen → m'.tempBuf = []) ∧ EatOk m' := by
  obtain ⟨pk1, pk2, pk3, _, _⟩ := patOk_kw
  obtain ⟨n1, n2, n3, _, _⟩ := kw_ne
  revert m' i'
  show R.All _ _
  unfold stepMdo
  rcases h1 : eat m inp kwDashDash eqExact with ⟨b1, m1, i1⟩
  obtain ⟨s1, t1, u1⟩ := eat_stage h0 _ _ pk1 n1 b1 m1 i1 h1
  rcases b1 with _ | _ | _
  · exact all_suspend (eat_suspend s1 (Or.inl rfl) (u1 rfl))
  · dsimp only
    rcases h2 : eat m1 i1 kwDoctype eqCi with ⟨b2, m2, i2⟩
    obtain ⟨s2, t2, u2⟩ := eat_stage s1 _ _ pk2 n2 b2 m2 i2 h2
    rcases b2 with _ | _ | _
    · exact all_suspend (eat_suspend s2 (Or.inl rfl) (u2 rfl))
    · dsimp only
      split
      · rcases h3 : eat m2 i2 kwCdata eqExact with ⟨b3, m3, i3⟩
        obtain ⟨s3, t3, u3⟩ := eat_stage s2 _ _ pk3 n3 b3 m3 i3 h3
        rcases b3 with _ | _ | _
        · exact all_suspend (eat_suspend s3 (Or.inl rfl) (u3 rfl))
        · exact all_cont (eat_leave s3 (t3 nofun) _ (by simp [t3, s3.nrec, s3.cr]))
        · exact all_cont (eat_leave s3 (t3 nofun) _ (by simp [clearTemp, s3.nrec, s3.cr]))
      · exact all_cont (eat_leave s2 (t2 nofun) _ (by simp [t2, s2.nrec, s2.cr]))
    · exact all_cont (eat_leave s2 (t2 nofun) _ (by simp [t2, s2.nrec, s2.cr]))
  · exact all_cont (eat_leave s1 (t1 nofun) _ (by simp [t1, s1.nrec, s1.cr]))


/-- the end of a look-ahead step in which `reconsume` is clear re-establishes the invariant -/
theorem linv_of_eatEnd {s : State} {K : Nat} {mm : Mach} {ii : Str}
    (hs : s = .markupDeclarationOpen ∨ s = .afterDoctypeName)
    (h : mm.reconsume = false ∧ mm.charRef = none ∧ (∀ c ∈ stash mm, isBrk c = false) ∧
      Phi mm ii = K ∧ (mm.state ≠ s → mm.tempBuf = []) ∧ EatOk mm) (hs' : Safe mm) :
    LInv mm ∧ Phi mm ii = K := by
  obtain ⟨q1, q2, q3, q4, q5, q6⟩ := h
  refine ⟨⟨hs', fun _ => q6, fun _ h1 h2 => q5 ?_, fun _ => q1, by rw [q1]; nofun, q3,
    by rw [q2]; intro _ hc; cases hc⟩, q4⟩
  rcases hs with rfl | rfl
  · exact h1
  · exact h2

theorem stepAdn_lines (o : Opts) (pol : Pol) (m : Mach) (inp : Str) (K : Nat)
    (h0 : EatSt .afterDoctypeName K m inp) (m' : Mach) (i' : Str)
    (h : (stepAdn o pol m inp).pair? = some (m', i')) (hs' : Safe m') :
    LInv m' ∧ Phi m' i' = K := by
  obtain ⟨_, _, _, pk4, pk5⟩ := patOk_kw
  obtain ⟨_, _, _, n4, n5⟩ := kw_ne
  revert m' i'
  show R.All _ _
  unfold stepAdn
  rcases h1 : eat m inp kwPublic eqCi with ⟨b1, m1, i1⟩
  obtain ⟨s1, t1, u1⟩ := eat_stage h0 _ _ pk4 n4 b1 m1 i1 h1
  rcases b1 with _ | _ | _
  · exact all_suspend (linv_of_eatEnd (Or.inr rfl) (eat_suspend s1 (Or.inr rfl) (u1 rfl)))
  · dsimp only
    rcases h2 : eat m1 i1 kwSystem eqCi with ⟨b2, m2, i2⟩
    obtain ⟨s2, t2, u2⟩ := eat_stage s1 _ _ pk5 n5 b2 m2 i2 h2
    rcases b2 with _ | _ | _
    · exact all_suspend (linv_of_eatEnd (Or.inr rfl) (eat_suspend s2 (Or.inr rfl) (u2 rfl)))
    · dsimp only
      have ht2 := t2 nofun
      have hK : m2.line + brk m2.ignoreLf i2 = K := by
        have := s2.phi; rw [ht2] at this; simpa using this
      have hphi := getChar_phi o m2 i2
      rcases hg : getChar o m2 i2 with ⟨oc, m3, i3⟩
      rw [hg] at hphi
      simp only at hphi
      cases oc with
      | none =>
        obtain ⟨_, _, g3⟩ := getChar_none o m2 m3 i2 i3 hg
        have hf : m3.state = .afterDoctypeName ∧ m3.tempBuf = [] ∧ m3.reconsume = false ∧ m3.charRef = none := by
          rcases g3 with ⟨_, g4⟩ | ⟨_, _, g4⟩ <;> subst g4
          · exact ⟨s2.st, ht2, s2.nrec, s2.cr⟩
          · exact ⟨by simp [s2.st], by simp [ht2], by simp [s2.nrec], by simp [s2.cr]⟩
        have hst : stash m3 = [] := by rw [stash_eat hf.2.2.2 (Or.inr hf.1)]; exact hf.2.1
        refine all_suspend (linv_of_eatEnd (Or.inr rfl)
          ⟨hf.2.2.1, hf.2.2.2, by rw [hst]; nofun, ?_,
            fun hx => absurd hf.1 hx, fun _ => hf.2.1⟩)
        unfold Phi; rw [hst]; simp only [List.nil_append]; rw [hphi, hK]
      | some c =>
        obtain ⟨f1, f2, f3, f4, _⟩ := getChar_fields o m2 m3 i2 i3 c hg
        obtain ⟨r1, r2⟩ := getChar_ri o m2 m3 i2 i3 c (by rw [s2.nrec]; nofun) hg
        refine all_ofSig fun hs' => ?_
        obtain ⟨a1, a2⟩ := afterChar_linv o pol m3 c (by rw [f4, s2.cr]) (by intro _; rw [f2, ht2]) f3 r1 r2 hs'
        exact ⟨a1, by rw [a2, hphi, hK]⟩
    · exact all_cont (linv_of_eatEnd (Or.inr rfl) (eat_leave s2 (t2 nofun) _ (by simp [t2, s2.nrec, s2.cr])))
  · exact all_cont (linv_of_eatEnd (Or.inr rfl) (eat_leave s1 (t1 nofun) _ (by simp [t1, s1.nrec, s1.cr])))


/-! ### every step conserves `Phi` and keeps the invariant -/

theorem step_lines (o : Opts) (pol : Pol) (m : Mach) (inp : Str) (hi : LInv m) (m' : Mach) (i' : Str)
    (h : (step o pol m inp).pair? = some (m', i')) : LInv m' ∧ Phi m' i' = Phi m inp := by
  have hmach := pair_mach _ _ _ h
  have hs' := (step_safe o pol m inp hi.safe).2 m' hmach
  cases hcr : m.charRef with
  | some cr =>
    rw [step_kind_charRef o pol m inp cr hcr] at h
    exact lines_charRef o m inp cr hi hcr m' i' h hs'
  | none =>
    cases hrk : readKind m.state with
    | getChar =>
      rw [step_getChar o pol m inp hcr hrk] at h
      exact lines_getChar o pol m inp hi hcr hrk m' i' h hs'
    | popExcept =>
      rw [step_popExcept o pol m inp hcr hrk] at h
      exact lines_set o pol m inp hi hcr (Or.inl hrk) _ (setOf_crlf _ (Or.inl hrk)) m' i' h hs'
    | dataSimd =>
      rw [step_dataSimd o pol m inp hcr hrk, readData_eq] at h
      exact lines_set o pol m inp hi hcr (Or.inr hrk) _ (setOf_crlf .data (Or.inr rfl)) m' i' h hs'
    | peekBav =>
      have hst := readKind_bav hrk
      rw [step_kind_bav o pol m inp hcr hrk] at h
      have hr := hi.peekNoRecon (Or.inl hst)
      obtain ⟨b1, b2, b3⟩ := stepBav_lines o pol m inp hr m' i' h
      have hcr' : m'.charRef = none := by
        rw [(stepBav_charRef o pol m inp).2 m' (pair_mach _ _ _ h), hcr]
      have htb : m.tempBuf = [] := hi.nr (by rw [hst]; rfl) (by rw [hst]; simp) (by rw [hst]; simp)
      have htb' : m'.tempBuf = [] := by rw [b1, htb]
      have hs0 : stash m = [] := stash_nil_of hcr (fun _ => htb)
      have hs1 : stash m' = [] := stash_nil_of hcr' (fun _ => htb')
      exact ⟨linv_fresh m' htb' b2 hcr', phi_eq hs0 hs1 b3⟩
    | eatMdo =>
      have hst := readKind_mdo hrk
      rw [step_kind_mdo o pol m inp hcr hrk] at h
      have h0 : EatSt .markupDeclarationOpen (Phi m inp) m inp :=
        ⟨hst, hcr, hi.peekNoRecon (Or.inr (Or.inl hst)), hi.eatOk (Or.inl hst),
          by unfold Phi; rw [stash_eat hcr (Or.inl hst)]⟩
      exact linv_of_eatEnd (Or.inl rfl) (stepMdo_lines o pol m inp _ h0 m' i' h) hs'
    | eatAdn =>
      have hst := readKind_adn hrk
      rw [step_kind_adn o pol m inp hcr hrk] at h
      have h0 : EatSt .afterDoctypeName (Phi m inp) m inp :=
        ⟨hst, hcr, hi.peekNoRecon (Or.inr (Or.inr hst)), hi.eatOk (Or.inr hst),
          by unfold Phi; rw [stash_eat hcr (Or.inr hst)]⟩
      exact stepAdn_lines o pol m inp _ h0 m' i' h hs'

/-! ### whole runs -/

theorem brk_plain (f : Bool) (s : Str) (h : ∀ c ∈ s, isBrk c = false) : brk f s = 0 := by
  induction s generalizing f with
  | nil => rfl
  | cons c t ih =>
    rw [brk_cons_plain _ _ _ (h c (List.mem_cons_self ..))]
    exact ih false (fun x hx => h x (List.mem_cons_of_mem _ hx))

theorem runsTo_lines (o : Opts) (pol : Pol) {m : Mach} {inp : Str} {m' : Mach}
    (hrun : RunsTo o pol m inp m') : LInv m → LInv m' ∧ Phi m' [] = Phi m inp := by
  induction hrun with
  | @susp m0 i0 m0' hs =>
    intro hi
    exact step_lines o pol m0 i0 hi m0' [] (by rw [hs]; rfl)
  | @cont m0 i0 mx ix m0' hs _ ih | @script m0 i0 mx ix m0' hs _ ih | @indicator m0 i0 mx ix m0' hs _ ih =>
    intro hi
    obtain ⟨h1, h2⟩ := step_lines o pol m0 i0 hi mx ix (by rw [hs]; rfl)
    obtain ⟨h3, h4⟩ := ih h1
    exact ⟨h3, by rw [h4, h2]⟩

/-- when the tokenizer has taken everything it was given, its line counter is the line it started
on plus the number of line breaks in that text -/
theorem runsTo_line (o : Opts) (pol : Pol) {m : Mach} {inp : Str} {m' : Mach}
    (hrun : RunsTo o pol m inp m') (hi : LInv m) :
    m'.line = m.line + brk m.ignoreLf (stash m ++ inp) := by
  obtain ⟨h1, h2⟩ := runsTo_lines o pol hrun hi
  have : Phi m' [] = m'.line := by
    unfold Phi
    rw [List.append_nil, brk_plain _ _ h1.stashOk]; rfl
  rw [← this, h2]; rfl

theorem Sim.line {m1 m2 : Mach} (h : Sim m1 m2) : m1.line = m2.line := by
  rcases h with h | ⟨_, a, h⟩ <;> subst h <;> simp

theorem session_line (o : Opts) (pol : Pol) {m : Mach} {cs : List Str} {mf : Mach}
    (hs : Session o pol m cs mf) (hi : LInv m) (hg : Good m) (hat : m.atEof = false) (hne : cs ≠ []) :
    mf.line = m.line + brk m.ignoreLf (stash m ++ cs.flatten) := by
  rcases session_flatten o pol hs hg hat with ⟨h, _⟩ | ⟨mf', hr, hsim⟩
  · exact absurd h hne
  · rw [← hsim.line]; exact runsTo_line o pol hr hi

/-! ### `Tokenizer::end` -/

theorem transEof_line (o : Opts) (m : Mach) : (transEof o m).1.line = m.line := by
  rw [transEof_eq]; exact untouched_line.runOps o _ m

theorem eofLoop_line (o : Opts) (fuel : Nat) (m mf : Mach) (h : eofLoop o fuel m = .ok mf) : mf.line = m.line := by
  induction fuel generalizing m with
  | zero => simp [eofLoop] at h
  | succ n ih =>
    unfold eofLoop at h
    have hl := transEof_line o m
    cases ht : transEof o m with
    | mk m1 sig =>
      rw [ht] at h hl
      simp only at hl
      cases sig with
      | cont => simp only at h; rw [ih m1 h, hl]
      | done => simp only [Except.ok.injEq] at h; rw [← h, hl]
      | panic e => simp at h

theorem run_lines (o : Opts) (pol : Pol) (fuel : Nat) (m : Mach) (inp : Str) (m' : Mach) (i' : Str)
    (h : run o pol fuel m inp = .done m' i') (hi : LInv m) : LInv m' ∧ Phi m' i' = Phi m inp := by
  induction fuel generalizing m inp with
  | zero => simp [run] at h
  | succ n ih =>
    unfold run at h
    cases hs : step o pol m inp with
    | cont m1 i1 =>
      rw [hs] at h
      simp only at h
      obtain ⟨h1, h2⟩ := step_lines o pol m inp hi m1 i1 (by rw [hs]; rfl)
      obtain ⟨h3, h4⟩ := ih m1 i1 h h1
      exact ⟨h3, by rw [h4, h2]⟩
    | suspend m1 i1 =>
      rw [hs] at h
      simp only [RunRes.done.injEq] at h
      obtain ⟨e1, e2⟩ := h; subst e1 e2
      exact step_lines o pol m inp hi m1 i1 (by rw [hs]; rfl)
    | script | indicator | panic => rw [hs] at h; simp at h

theorem LInv.setAtEof {m : Mach} (hi : LInv m) (b : Bool) : LInv (m.setAtEof b) :=
  hi.transfer rfl rfl rfl rfl id hi.ri

/-- one round of `end_of_file` of the character-reference tokenizer (the `once` of `crEof`) -/
def crEofOnce (o : Opts) (m : Mach) (inp : Str) (cr : CharRefSt) : CRRes :=
  match cr.state with
  | .begin => .ok (m, inp, cr, .done [])
  | .numeric _ =>
    if !cr.seenDigit then unconsumeNumeric m inp cr
    else finishNumericStatus o (emitErr m "EOF in numeric character reference") inp cr
  | .numericSemicolon =>
    finishNumericStatus o (emitErr m "EOF in numeric character reference") inp cr
  | .named => finishNamed o m inp cr none
  | .bogusName =>
    match cr.nameBuf with
    | none => .error "unconsume_name: unwrap on None"
    | some nb => .ok (m, nb ++ inp, { cr with nameBuf := none }, .done [])
  | .octothorpe =>
    .ok (emitErr m "EOF after '#' in character reference", '#' :: inp, cr, .done [])

theorem crEof_eq (o : Opts) (m : Mach) (inp : Str) (cr : CharRefSt) :
    crEof o m inp cr =
      (match crEofOnce o m inp cr with
       | .error e => .error e
       | .ok (m, inp, _, .done chars) => .ok (m, inp, chars)
       | .ok (m, inp, _, .stuck) => .ok (m, inp, [])
       | .ok (m, inp, cr, .progress) =>
         match crEofOnce o m inp cr with
         | .error e => .error e
         | .ok (m, inp, _, .done chars) => .ok (m, inp, chars)
         | .ok (m, inp, _, _) => .ok (m, inp, [])) := rfl

/-- what `crEofOnce` must return: a `Done`, on the same line, with flags cleared at most, and what it
gives back to the queue holds no line break -/
def CREofOk (m : Mach) : CRRes → Prop
  | .error _ => True
  | .ok (m1, i1, _, st) => (∃ chars, st = .done chars) ∧ m1.line = m.line ∧ Weaker m1 m ∧ brk false i1 = 0

theorem finishNumericStatus_eof (o : Opts) (x m : Mach) (cr : CharRefSt) (hl : x.line = m.line)
    (hw : Weaker x m) : CREofOk m (finishNumericStatus o x [] cr) := by
  unfold finishNumericStatus
  have hf := sameLines_finishNumeric o x cr
  have hwk := finishNumeric_weaker o x cr
  generalize finishNumeric o x cr = r at hf hwk ⊢
  obtain ⟨mx, _ | ch⟩ := r
  · trivial
  · exact ⟨⟨_, rfl⟩, hf.1.trans hl, hwk.trans hw, rfl⟩

theorem crEofOnce_eofOk (o : Opts) (m : Mach) (cr : CharRefSt) (hc : CRLines cr) :
    CREofOk m (crEofOnce o m [] cr) := by
  have hnum := finishNumericStatus_eof o (emitErr m "EOF in numeric character reference") m cr rfl
    (emitErr_weaker m _)
  unfold crEofOnce
  cases hst : cr.state with
  | begin => exact ⟨⟨_, rfl⟩, rfl, Weaker.refl m, rfl⟩
  | octothorpe => exact ⟨⟨_, rfl⟩, rfl, emitErr_weaker m _, by decide⟩
  | numeric base =>
    dsimp only
    split
    · obtain ⟨un, hun, hpl⟩ := unconsumeNumeric_plain m [] cr hc
      rw [hun]
      exact ⟨⟨_, rfl⟩, rfl, emitErr_weaker m _, by rw [List.append_nil]; exact brk_plain _ _ hpl⟩
    · exact hnum
  | numericSemicolon => exact hnum
  | bogusName =>
    dsimp only
    cases hnb : cr.nameBuf with
    | none => trivial
    | some nb =>
      refine ⟨⟨_, rfl⟩, rfl, Weaker.refl m, ?_⟩
      rw [List.append_nil]
      exact brk_plain _ _ (by simpa [hnb] using hc.plain)
  | named =>
    dsimp only
    unfold finishNamed
    cases hnb : cr.nameBuf with
    | none => trivial
    | some nb =>
      have hpl : ∀ x ∈ nb, isBrk x = false := by simpa [hnb] using hc.plain
      -- `unconsume_name`
      have hback : CREofOk m (.ok (m, nb ++ [], { cr with nameBuf := none }, .done [])) :=
        ⟨⟨_, rfl⟩, rfl, Weaker.refl m, by rw [List.append_nil]; exact brk_plain _ _ hpl⟩
      dsimp only
      cases hm : cr.nameMatch with
      | none => exact hback
      | some mt =>
        dsimp only
        cases hd : namedDecision m cr nb mt.1 mt.2 with
        | error e => trivial
        | ok r =>
          cases r with
          | none => exact hback
          | some mc =>
            refine ⟨⟨_, rfl⟩, (namedDecision_lines m cr nb _ _ _ _ hd).1, namedDecision_weaker m cr nb _ _ _ _ hd, ?_⟩
            rw [List.append_nil]
            exact brk_plain _ _ (fun x hx => hpl x (List.mem_of_mem_drop hx))

/-- a round of `end_of_file` always finishes, leaves the line registers alone, and what it gives
back to the (empty) queue holds no line break -/
theorem crEofOnce_lines (o : Opts) (m : Mach) (cr : CharRefSt) (hil : m.ignoreLf = false) (hr : m.reconsume = false)
    (hc : CRLines cr) (m1 : Mach) (i1 : Str) (cr1 : CharRefSt) (st : CRStatus)
    (h : crEofOnce o m [] cr = .ok (m1, i1, cr1, st)) :
    (∃ chars, st = .done chars) ∧
    m1.line = m.line ∧ m1.ignoreLf = false ∧ m1.reconsume = false ∧ brk false i1 = 0 ∧
    m1.state = m.state ∧ m1.tempBuf = m.tempBuf := by
  have hok := crEofOnce_eofOk o m cr hc
  rw [h] at hok
  obtain ⟨hd, hl, hw, hb⟩ := hok
  refine ⟨hd, hl, ?_, ?_, hb, hw.1, hw.2.1⟩
  · cases hx : m1.ignoreLf with
    | false => rfl
    | true => rw [hw.2.2.1 hx] at hil; cases hil
  · cases hx : m1.reconsume with
    | false => rfl
    | true => rw [hw.2.2.2.1 hx] at hr; cases hr

theorem crEof_lines (o : Opts) (m : Mach) (cr : CharRefSt) (hil : m.ignoreLf = false) (hr : m.reconsume = false)
    (hc : CRLines cr) (m1 : Mach) (i1 chars : Str) (h : crEof o m [] cr = .ok (m1, i1, chars)) :
    m1.line = m.line ∧ m1.ignoreLf = false ∧ m1.reconsume = false ∧ brk false i1 = 0 ∧
    m1.state = m.state ∧ m1.tempBuf = m.tempBuf := by
  rw [crEof_eq] at h
  cases hon : crEofOnce o m [] cr with
  | error e => rw [hon] at h; simp at h
  | ok v =>
    obtain ⟨mx, ix, crx, st⟩ := v
    obtain ⟨⟨cs, hcs⟩, rest⟩ := crEofOnce_lines o m cr hil hr hc mx ix crx st hon
    subst hcs
    rw [hon] at h
    simp only [Except.ok.injEq, Prod.mk.injEq] at h
    obtain ⟨e1, e2, _⟩ := h; subst e1 e2
    exact rest

theorem phi_nil_eq_line {m : Mach} (hi : LInv m) : Phi m [] = m.line := by
  unfold Phi
  rw [List.append_nil, brk_plain _ _ hi.stashOk]; rfl

/-- the part of `Tokenizer::end` after the character-reference hand-back -/
theorem finish_tail_line (o : Opts) (pol : Pol) (m : Mach) (inp : Str) (mf : Mach) (hi : LInv m)
    (hb : brk m.ignoreLf (stash m ++ inp) = 0)
    (h : (match run o pol (fuelFor (m.setAtEof true) inp) (m.setAtEof true) inp with
          | .done m inp => if !inp.isEmpty then .error "assertion failed: input.is_empty()" else eofLoop o 8 m
          | .script _ _ | .indicator _ _ =>
            .error "assertion failed: matches!(self.run(&input), TokenizerResult::Done)"
          | .panic e => .error e
          | .outOfFuel => .error "run out of fuel") = Except.ok mf) : mf.line = m.line := by
  cases hrun : run o pol (fuelFor (m.setAtEof true) inp) (m.setAtEof true) inp with
  | done m4 i4 =>
    rw [hrun] at h
    simp only at h
    split at h
    · simp at h
    · rename_i hemp
      have hi4 : i4 = [] := by simpa using hemp
      subst hi4
      obtain ⟨h1, h2⟩ := run_lines o pol _ _ _ m4 [] hrun (hi.setAtEof true)
      rw [eofLoop_line o 8 m4 mf h, ← phi_nil_eq_line h1, h2]
      unfold Phi
      rw [stash_congr (m := m) (by simp) (by simp) (by simp)]
      simp only [setAtEof_line, setAtEof_ignoreLf]
      rw [hb]; rfl
  | script | indicator | panic | outOfFuel => rw [hrun] at h; simp at h

/-- **`Tokenizer::end` never moves the line**: whatever the look-ahead machinery still holds at the
end of the input contains no line break, so everything `end()` emits — the EOF token included —
carries the line reached after the last feed -/
theorem finish_line (o : Opts) (pol : Pol) (m mf : Mach) (hi : LInv m) (h : finish o pol m = .ok mf) :
    mf.line = m.line := by
  unfold finish at h
  cases hcr : m.charRef with
  | none =>
    simp only [hcr] at h
    refine finish_tail_line o pol m [] mf hi ?_ h
    rw [List.append_nil]; exact brk_plain _ _ hi.stashOk
  | some cr =>
    obtain ⟨c1, c2, c3⟩ := hi.cr cr hcr
    simp only [hcr] at h
    cases hce : crEof o m [] cr with
    | error e => rw [hce] at h; simp at h
    | ok v =>
      obtain ⟨m1, i1, chars⟩ := v
      obtain ⟨l1, l2, l3, l4, l5, l6⟩ := crEof_lines o m cr c1 c2 c3 m1 i1 chars hce
      rw [hce] at h
      simp only at h
      have hp := processCharRef_fields (m1.setCharRef none) chars
      have hpl := processCharRef_line (m1.setCharRef none) chars
      cases hpc : processCharRef (m1.setCharRef none) chars with
      | mk m2 sig =>
        rw [hpc] at h hp hpl
        simp only at hp hpl
        cases sig with
        | cont =>
          simp only at h
          have hne := hi.safe.charRef_state hcr
          have hst1 : m2.state = m.state := by rw [hp.1, setCharRef_state, l5]
          have hcr2 : m2.charRef = none := by
            have := (processCharRef_charRef (m1.setCharRef none) chars)
            rw [hpc] at this; simpa using this
          have hst2 : stash m2 = [] := stash_plain hcr2 (by rw [hst1]; exact hne.1) (by rw [hst1]; exact hne.2.1)
          have hi2 : LInv m2 := hi.of_charRef hcr hst1 (by rw [hp.2.1, setCharRef_tempBuf, l6])
            (by rw [hp.2.2.2.1]; simpa using l3) (by rw [hst2]; nofun) (by rw [hcr2]; intro _ hc; cases hc) (Safe.of_none hcr2)
          have := finish_tail_line o pol m2 i1 mf hi2 (by
            rw [hst2, hp.2.2.1]; simp only [setCharRef_ignoreLf, List.nil_append]; rw [l2, l4]) h
          rw [this, hpl]; simpa using l1
        | script | indicator | panic => simp at h

theorem LInv.of_sim {m1 m2 : Mach} (hi : LInv m1) (h : Sim m1 m2) : LInv m2 := by
  rcases h with rfl | ⟨hd, a, rfl⟩
  · exact hi
  · exact hi.transfer rfl rfl rfl rfl id (fun hx => by rw [setCurrentChar_reconsume, hd.1] at hx; cases hx)

/-- after a session (any chunking) the invariant holds and the line is start + breaks fed -/
theorem session_linv (o : Opts) (pol : Pol) {m : Mach} {cs : List Str} {mf : Mach}
    (hs : Session o pol m cs mf) (hi : LInv m) (hg : Good m) (hat : m.atEof = false) : LInv mf := by
  rcases session_flatten o pol hs hg hat with ⟨_, h⟩ | ⟨mf', hr, hsim⟩
  · rw [h]; exact hi
  · exact (runsTo_lines o pol hr hi).1.of_sim hsim

/-! ### `brk` is the number of LF after the standard's newline normalisation -/

/-- CRLF → LF, lone CR → LF (`f`: the previous character was a CR) -/
def normNl : Bool → Str → Str
  | _, [] => []
  | f, c :: s =>
    if c = '\r' then '\n' :: normNl true s
    else if c = '\n' then (if f then normNl false s else '\n' :: normNl false s)
    else c :: normNl false s

theorem brk_eq_count (f : Bool) (s : Str) : brk f s = (normNl f s).count '\n' := by
  induction s generalizing f with
  | nil => rfl
  | cons c t ih =>
    by_cases h1 : c = '\r'
    · subst h1; simp [brk, normNl, ih]; omega
    · by_cases h2 : c = '\n'
      · subst h2
        cases f <;> simp [brk, normNl, ih] <;> omega
      · have : ('\n' == c) = false := by simp; exact fun h => h2 h.symm
        simp [brk, normNl, h1, h2, ih, List.count_cons, this]

end H5V.Model.HtmlTok
