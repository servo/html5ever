import H5V.Lemmas.HtmlTBModesInvPrim2
/-!
C02 (insertion modes), the invariant `Good` of the specification's run: the rules of the ten small modes
"initial", "before html", "before head", "in head noscript", "after head", "after body", "in frameset",
"after frameset", "after after body", "after after frameset".
-/
set_option linter.unusedSectionVars false
namespace H5V.Lemmas.ModesInv
open H5V.Spec H5V.Spec.TreeModes
open H5V.Spec.TreeAlgo (Str Name nsHtml nsMathml nsSvg inHtml)
open H5V.Spec.TreeAlgo2 (Elem Entry PState)

section
variable {N : Type} [DecidableEq N]

/-! ### helpers -/

theorem sm_newNode_list {st st1 : PState N ETok} {n : N} (h : st.newNode = some (n, st1)) :
    st1.list = st.list ∧ st1.stack = st.stack :=
  ⟨(newNode_eff h).2.1, (newNode_eff h).1⟩

theorem sm_ite {P : State N → Prop} {c : Prop} [Decidable c] {a b : State N} (ha : P a) (hb : P b) :
    P (if c then a else b) := by split <;> assumption

/-! ### "initial" -/

theorem keeps_initial : Keeps0 (initial (N := N)) (PreMode .initial) := by
  intro cfg hed σ tok r hg hst hm h
  have hm : σ.mode = .initial := hm
  -- "anything else"
  have hany : ∀ s' : State N, Upd σ s' σ.p.stack σ.p.list → Post (.reprocess (s'.setMode .beforeHtml)) := fun s' hu =>
    hg.afterUpd hst hu (m := .beforeHtml) rfl (by decide)
  have hupd : Upd σ (if (!cfg.srcdoc) = true then
        if (!cfg.cannotChangeMode) = true then
          { (σ.err "initial: no doctype").xop (.setDocumentMode .quirks) with quirks := .quirks }
        else σ.err "initial: no doctype"
      else σ) σ.p.stack σ.p.list := by
    split
    · split <;> exact ⟨rfl, rfl, rfl, rfl, rfl, rfl⟩
    · exact Upd.refl σ
  unfold initial at h
  cases tok with
  | character c =>
    dsimp only at h
    rcases ite_cases h with ⟨_, h⟩ | ⟨_, h⟩
    · cases pure_ok h; exact fun _ => hg
    · cases pure_ok h; exact hany _ hupd
  | comment d =>
    dsimp only at h
    exact post_insert hg h insertCommentIn_eff
  | doctype name pub sys fq =>
    dsimp only at h
    obtain ⟨r1, h1, h2⟩ := bind_ok h
    have h1' := req_ok h1
    obtain ⟨n1, st1⟩ := r1
    cases pure_ok h2
    rw [errIte_p] at h1'
    have hl := (newNode_eff h1').2.1
    have ht : ∀ (c : Prop) [Decidable c] w, (if c then σ.err w else σ).templateModes = σ.templateModes := by
      intro c _ w; split <;> rfl
    exact fun _ => sm_ite (P := fun s => Good (s.setMode .beforeHtml))
      (hg.toPlain' (m := .beforeHtml) rfl (by decide) (ht _ _) hl) (hg.toPlain' (m := .beforeHtml) rfl (by decide) (ht _ _) hl)
  | startTag t => dsimp only at h; cases pure_ok h; exact hany _ hupd
  | endTag t => dsimp only at h; cases pure_ok h; exact hany _ hupd
  | eof => dsimp only at h; cases pure_ok h; exact hany _ hupd

/-! ### "before html" -/

theorem sm_createRootHtml_eff {cfg : Config N} {s s' : State N} {t : Tag} (h : createRootHtml cfg s t = .ok s') :
    ∃ e : Elem N, Upd s s' (s.p.stack ++ [e]) s.p.list := by
  unfold createRootHtml at h
  obtain ⟨r1, h1, h2⟩ := bind_ok h
  have h1' := req_ok h1
  obtain ⟨n1, st1⟩ := r1
  obtain ⟨hl, hs⟩ := sm_newNode_list h1'
  cases pure_ok h2
  exact ⟨_, rfl, rfl, rfl, rfl, by show st1.stack ++ _ = _; rw [hs], hl⟩

theorem keeps_beforeHtml : Keeps0 (beforeHtml (N := N)) (PreMode .beforeHtml) := by
  intro cfg hed σ tok r hg hst hm h
  have hm : σ.mode = .beforeHtml := hm
  -- create the root element, switch to "before head"
  have hroot : ∀ {t : Tag} (s1 : State N), createRootHtml cfg σ t = .ok s1 →
      (s1.setMode .beforeHead).stopped = false ∧ Good (s1.setMode .beforeHead) := fun s1 h1 => by
    obtain ⟨e, hu⟩ := sm_createRootHtml_eff h1
    exact hg.afterUpd hst hu (m := .beforeHead) rfl (by decide)
  have hany : ∀ {r}, (createRootHtml cfg σ (bareTag "html") >>= fun s => pure (.reprocess (s.setMode .beforeHead))) = .ok r →
      Post r := fun h => post_bind h hroot
  unfold beforeHtml at h
  cases tok with
  | doctype _ _ _ _ => exact post_ignore hg h
  | comment d =>
    dsimp only at h
    exact post_insert hg h insertCommentIn_eff
  | character c =>
    dsimp only at h
    rcases ite_cases h with ⟨_, h⟩ | ⟨_, h⟩
    · cases pure_ok h; exact fun _ => hg
    · exact hany h
  | startTag t =>
    dsimp only at h
    rcases ite_cases h with ⟨_, h⟩ | ⟨_, h⟩
    · exact post_bind h fun s1 h1 _ => (hroot s1 h1).2
    · exact hany h
  | endTag t =>
    dsimp only at h
    rcases ite_cases h with ⟨_, h⟩ | ⟨_, h⟩
    · exact hany h
    · exact post_ignore hg h
  | eof => exact hany h

/-! ### "before head" -/

theorem keeps_beforeHead (hbody : Keeps (inBody (N := N)) PreBody) :
    Keeps (beforeHead (N := N)) (PreMode .beforeHead) := by
  intro cfg hed σ tok r hg hst hl hfr hm h
  have hm : σ.mode = .beforeHead := hm
  -- insert a `head` element, switch to "in head" (and set the head element pointer)
  have hins : ∀ {t : Tag} (r1 : State N × Elem N), insertHtml σ t = .ok r1 →
      (r1.1.setMode .inHead).stopped = false ∧ Good (r1.1.setMode .inHead) := fun r1 h1 =>
    hg.afterUpd hst (insertHtml_eff h1).2.2.1 (m := .inHead) rfl (by decide)
  have hany : ∀ {r}, (insertHtml σ (bareTag "head") >>= fun r =>
      pure (.reprocess { r.1 with headPointer := some r.2, mode := .inHead })) = .ok r → Post r :=
    fun h => post_bind h fun r1 h1 => ⟨(hins r1 h1).1, (hins r1 h1).2.same⟩
  unfold beforeHead at h
  cases tok with
  | character c =>
    dsimp only at h
    rcases ite_cases h with ⟨_, h⟩ | ⟨_, h⟩
    · cases pure_ok h; exact fun _ => hg
    · exact hany h
  | comment d =>
    dsimp only at h
    exact post_insert hg h insertComment_eff
  | doctype _ _ _ _ => exact post_ignore hg h
  | startTag t =>
    dsimp only at h
    rcases ite_cases h with ⟨_, h⟩ | ⟨_, h⟩
    · exact hbody.body hed hg hst hl hfr hm (by decide) h
    rcases ite_cases h with ⟨_, h⟩ | ⟨_, h⟩
    · exact post_bind h fun r1 h1 _ => (hins r1 h1).2.same
    · exact hany h
  | endTag t =>
    dsimp only at h
    rcases ite_cases h with ⟨_, h⟩ | ⟨_, h⟩
    · exact hany h
    · exact post_ignore hg h
  | eof => exact hany h

/-! ### "in head noscript" -/

theorem keeps_inHeadNoscript (hbody : Keeps (inBody (N := N)) PreBody) (hhead : Keeps0 (inHead (N := N)) PreHead) :
    Keeps (inHeadNoscript (N := N)) (PreMode .inHeadNoscript) := by
  intro cfg hed σ tok r hg hst hl hfr hm h
  have hm : σ.mode = .inHeadNoscript := hm
  have hh := hhead.head (tok := tok) (r := r) hed hg hst hm (by decide)
  have hany : Post (.reprocess ((σ.err "in head noscript: unexpected token").pop.setMode .inHead)) :=
    ⟨hst, hg.toPlain' (m := .inHead) rfl (by decide)⟩
  unfold inHeadNoscript at h
  cases tok with
  | doctype _ _ _ _ => exact post_ignore hg h
  | character c =>
    dsimp only at h
    rcases ite_cases h with ⟨_, h⟩ | ⟨_, h⟩
    · exact hh h
    · cases pure_ok h; exact hany
  | comment d => exact hh h
  | startTag t =>
    dsimp only at h
    rcases ite_cases h with ⟨_, h⟩ | ⟨_, h⟩
    · exact hbody.body hed hg hst hl hfr hm (by decide) h
    rcases ite_cases h with ⟨_, h⟩ | ⟨_, h⟩
    · exact hh h
    rcases ite_cases h with ⟨_, h⟩ | ⟨_, h⟩
    · exact post_ignore hg h
    · cases pure_ok h; exact hany
  | endTag t =>
    dsimp only at h
    rcases ite_cases h with ⟨_, h⟩ | ⟨_, h⟩
    · cases pure_ok h; exact fun _ => hg.toPlain' (m := .inHead) rfl (by decide)
    rcases ite_cases h with ⟨_, h⟩ | ⟨_, h⟩
    · cases pure_ok h; exact hany
    · exact post_ignore hg h
  | eof => cases pure_ok h; exact hany

/-! ### "after head" -/

/-- what "in head", run for a start tag in a state whose insertion mode is "after head", leaves behind -/
def smHeadRes (s s0 : State N) : Prop :=
  AFOk s0.p.list ∧ (∀ m ∈ s0.templateModes, tmOk m) ∧ s0.stopped = s.stopped ∧
    (plainMode s0.mode ∨ (s0.mode = .text ∧ s0.originalMode = .afterHead))

theorem sm_headRes_upd {s s0 : State N} {st l} (hm : s.mode = .afterHead) (haf : AFOk s.p.list)
    (htm : ∀ m ∈ s.templateModes, tmOk m) (hu : Upd s s0 st l) (hl : l = s.p.list) : smHeadRes s s0 :=
  ⟨by rw [hu.list, hl]; exact haf, by rw [hu.tms]; exact htm, hu.stopped,
    Or.inl (by rw [hu.mode, hm]; decide)⟩

theorem sm_inHead_start {cfg : Config N} {s : State N} {t : Tag} {r : Step N} (hm : s.mode = .afterHead)
    (haf : AFOk s.p.list) (htm : ∀ m ∈ s.templateModes, tmOk m) (h : inHead cfg s (.startTag t) = .ok r) :
    smHeadRes s r.state := by
  rcases inHead_start_eff h with ⟨s', rfl, hu⟩ | ⟨s', e, rfl, _, _, hm', ho, ht, hst, _, hl⟩ |
    ⟨s', rfl, hm', ht, hst, hl⟩ | ⟨s', rfl, hm', ht, hst, hl⟩ | rfl
  · exact sm_headRes_upd hm haf htm hu rfl
  · exact ⟨hl ▸ haf, ht ▸ htm, hst, Or.inr ⟨hm', ho.trans hm⟩⟩
  · exact ⟨hl ▸ haf, ht ▸ htm, hst, Or.inl (hm' ▸ by decide)⟩
  · exact ⟨hl ▸ haf.marker, ht ▸ tmOk_snoc htm, hst, Or.inl (hm' ▸ by decide)⟩
  · exact ⟨haf, htm, rfl, Or.inl (by show plainMode IMode.afterHead; decide)⟩

theorem sm_good_removeHead {s0 : State N} {x : N} (haf : AFOk s0.p.list) (htm : ∀ m ∈ s0.templateModes, tmOk m)
    (hmode : plainMode s0.mode ∨ (s0.mode = .text ∧ s0.originalMode = .afterHead)) : Good (removeFromStack s0 x) := by
  rcases hmode with hp | ⟨h1, h2⟩
  · exact Good.plain (by rw [removeFromStack_mode]; exact hp) (by rw [removeFromStack_list]; exact haf)
      (by rw [removeFromStack_tms]; exact htm)
  · refine ⟨fun h => ?_, fun _ => ?_, fun h => ?_, ?_, ?_, ?_⟩
    · rw [removeFromStack_mode, h1] at h; cases h
    · rw [removeFromStack_orig, h2]
      exact ⟨⟨by decide, by decide, by decide, by decide⟩, fun h => by cases h⟩
    · rw [removeFromStack_mode, h1] at h; cases h
    · rw [removeFromStack_mode, h1]; exact ⟨by decide, by decide⟩
    · rw [removeFromStack_list]; exact haf
    · rw [removeFromStack_tms]; exact htm

theorem keeps_afterHead (hbody : Keeps (inBody (N := N)) PreBody) (hhead : Keeps0 (inHead (N := N)) PreHead) :
    Keeps (afterHead (N := N)) (PreMode .afterHead) := by
  intro cfg hed σ tok r hg hst hl hfr hm h
  have hm : σ.mode = .afterHead := hm
  have hb := hbody.body hed hg hst hl hfr hm (by decide)
  have hh := hhead.head (tok := tok) (r := r) hed hg hst hm (by decide)
  -- insert an element, switch to the plain mode `m`
  have hins : ∀ {t : Tag} {m : IMode} (s1 : State N), plainMode m → insertHtml' σ t = .ok s1 →
      (s1.setMode m).stopped = false ∧ Good (s1.setMode m) := fun s1 hp h1 => by
    obtain ⟨e, _, _, hu, _⟩ := insertHtml'_eff h1
    exact hg.afterUpd hst hu rfl hp
  have hany : ∀ {r}, (insertHtml' σ (bareTag "body") >>= fun s => pure (.reprocess (s.setMode .inBody))) = .ok r →
      Post r := fun h => post_bind h fun s1 h1 => hins s1 (by decide) h1
  unfold afterHead at h
  cases tok with
  | character c =>
    dsimp only at h
    rcases ite_cases h with ⟨_, h⟩ | ⟨_, h⟩
    · exact post_insert hg h insertChar_eff
    · exact hany h
  | comment d =>
    dsimp only at h
    exact post_insert hg h insertComment_eff
  | doctype _ _ _ _ => exact post_ignore hg h
  | startTag t =>
    dsimp only at h
    rcases ite_cases h with ⟨_, h⟩ | ⟨_, h⟩
    · exact hb h
    rcases ite_cases h with ⟨_, h⟩ | ⟨_, h⟩
    · -- <body>
      exact post_bind h fun s1 h1 _ => (hins (m := .inBody) s1 (by decide) h1).2.same
    rcases ite_cases h with ⟨_, h⟩ | ⟨_, h⟩
    · -- <frameset>
      exact post_bind h fun s1 h1 _ => (hins s1 (by decide) h1).2
    rcases ite_cases h with ⟨_, h⟩ | ⟨_, h⟩
    · -- base … title: "in head" with the head element pushed, then removed
      obtain ⟨head, _, h2⟩ := bind_ok h
      obtain ⟨r0, h3, h4⟩ := bind_ok h2
      cases pure_ok h4
      obtain ⟨qaf, qtm, qst, qm⟩ := sm_inHead_start (s := (σ.err "after head: head content").setStack
        ((σ.err "after head: head content").p.stack ++ [head])) hm hg.af hg.tm h3
      have qst' : r0.state.stopped = false := qst.trans hst
      cases r0 with
      | done s0 => exact fun _ => sm_good_removeHead qaf qtm qm
      | reprocess s0 =>
        exact ⟨by rw [removeFromStack_stopped]; exact qst', sm_good_removeHead qaf qtm qm⟩
      | reprocessHtml s0 =>
        have hgp : Good ((σ.err "after head: head content").setStack
            ((σ.err "after head: head content").p.stack ++ [head])) :=
          Good.plain' (m := .afterHead) hm (by decide) hg.af hg.tm
        exact (hhead cfg hed _ _ _ hgp hst
          ⟨(by intro hc; have h' : σ.mode = _ := hc; rw [‹σ.mode = IMode.afterHead›] at h'; cases h'),
           (by intro hc; have h' : σ.mode = _ := hc; rw [‹σ.mode = IMode.afterHead›] at h'; cases h')⟩ h3).elim
    rcases ite_cases h with ⟨_, h⟩ | ⟨_, h⟩
    · exact post_ignore hg h
    · exact hany h
  | endTag t =>
    dsimp only at h
    rcases ite_cases h with ⟨_, h⟩ | ⟨_, h⟩
    · exact hh h
    rcases ite_cases h with ⟨_, h⟩ | ⟨_, h⟩
    · exact hany h
    · exact post_ignore hg h
  | eof => exact hany h

/-! ### "after body" -/

theorem keeps_afterBody (hbody : Keeps (inBody (N := N)) PreBody) :
    Keeps (afterBody (N := N)) (PreMode .afterBody) := by
  intro cfg hed σ tok r hg hst hl hfr hm h
  have hm : σ.mode = .afterBody := hm
  have hb := hbody.body hed hg hst hl hfr hm (by decide)
  have hany : Post (.reprocess ((σ.err "after body: unexpected token").setMode .inBody)) :=
    ⟨hst, hg.toPlain' (m := .inBody) rfl (by decide)⟩
  unfold afterBody at h
  cases tok with
  | character c =>
    dsimp only at h
    rcases ite_cases h with ⟨_, h⟩ | ⟨_, h⟩
    · exact hb h
    · cases pure_ok h; exact hany
  | comment d =>
    dsimp only at h
    obtain ⟨html, _, h2⟩ := bind_ok h
    obtain ⟨s1, h1, rfl⟩ := map_ok h2
    have hu := insertCommentIn_eff h1
    exact fun _ => hg.same hu.mode hu.orig hu.tms hu.stack hu.list
  | doctype _ _ _ _ => exact post_ignore hg h
  | startTag t =>
    dsimp only at h
    rcases ite_cases h with ⟨_, h⟩ | ⟨_, h⟩
    · exact hb h
    · cases pure_ok h; exact hany
  | endTag t =>
    dsimp only at h
    rcases ite_cases h with ⟨_, h⟩ | ⟨_, h⟩
    · rcases ite_cases h with ⟨_, h⟩ | ⟨_, h⟩
      · exact post_ignore hg h
      · cases pure_ok h; exact fun _ => hg.toPlain' (m := .afterAfterBody) rfl (by decide)
    · cases pure_ok h; exact hany
  | eof => cases pure_ok h; exact inv_stopParsing σ

/-! ### "in frameset" -/

theorem keeps_inFrameset (hbody : Keeps (inBody (N := N)) PreBody) (hhead : Keeps0 (inHead (N := N)) PreHead) :
    Keeps (inFrameset (N := N)) (PreMode .inFrameset) := by
  intro cfg hed σ tok r hg hst hl hfr hm h
  have hm : σ.mode = .inFrameset := hm
  have hb := hbody.body hed hg hst hl hfr hm (by decide)
  have hh := hhead.head (tok := tok) (r := r) hed hg hst hm (by decide)
  unfold inFrameset at h
  cases tok with
  | character c =>
    dsimp only at h
    rcases ite_cases h with ⟨_, h⟩ | ⟨_, h⟩
    · exact post_insert hg h insertChar_eff
    · exact post_ignore hg h
  | comment d =>
    dsimp only at h
    exact post_insert hg h insertComment_eff
  | doctype _ _ _ _ => exact post_ignore hg h
  | startTag t =>
    dsimp only at h
    rcases ite_cases h with ⟨_, h⟩ | ⟨_, h⟩
    · exact hb h
    rcases ite_cases h with ⟨_, h⟩ | ⟨_, h⟩
    · obtain ⟨s1, h1, rfl⟩ := map_ok h
      obtain ⟨e, _, _, hu, _⟩ := insertHtml'_eff h1
      exact fun _ => (hg.afterUpd hst hu (hu.mode.trans hm) (by decide)).2
    rcases ite_cases h with ⟨_, h⟩ | ⟨_, h⟩
    · exact post_insert hg h fun h => (insertVoid_eff h).2
    rcases ite_cases h with ⟨_, h⟩ | ⟨_, h⟩
    · exact hh h
    · exact post_ignore hg h
  | endTag t =>
    dsimp only at h
    rcases ite_cases h with ⟨_, h⟩ | ⟨_, h⟩
    · rcases ite_cases h with ⟨_, h⟩ | ⟨_, h⟩
      · exact post_ignore hg h
      · cases pure_ok h
        refine fun _ => sm_ite (P := Good) ?_ ?_
        · exact hg.toPlain' (m := .afterFrameset) rfl (by decide)
        · exact hg.toPlain' (m := .inFrameset) hm (by decide)
    · exact post_ignore hg h
  | eof => cases pure_ok h; exact inv_stopParsing _

/-! ### "after frameset" -/

theorem keeps_afterFrameset (hbody : Keeps (inBody (N := N)) PreBody) (hhead : Keeps0 (inHead (N := N)) PreHead) :
    Keeps (afterFrameset (N := N)) (PreMode .afterFrameset) := by
  intro cfg hed σ tok r hg hst hl hfr hm h
  have hm : σ.mode = .afterFrameset := hm
  have hb := hbody.body hed hg hst hl hfr hm (by decide)
  have hh := hhead.head (tok := tok) (r := r) hed hg hst hm (by decide)
  unfold afterFrameset at h
  cases tok with
  | character c =>
    dsimp only at h
    rcases ite_cases h with ⟨_, h⟩ | ⟨_, h⟩
    · exact post_insert hg h insertChar_eff
    · exact post_ignore hg h
  | comment d =>
    dsimp only at h
    exact post_insert hg h insertComment_eff
  | doctype _ _ _ _ => exact post_ignore hg h
  | startTag t =>
    dsimp only at h
    rcases ite_cases h with ⟨_, h⟩ | ⟨_, h⟩
    · exact hb h
    rcases ite_cases h with ⟨_, h⟩ | ⟨_, h⟩
    · exact hh h
    · exact post_ignore hg h
  | endTag t =>
    dsimp only at h
    rcases ite_cases h with ⟨_, h⟩ | ⟨_, h⟩
    · cases pure_ok h; exact fun _ => hg.toPlain' (m := .afterAfterFrameset) rfl (by decide)
    · exact post_ignore hg h
  | eof => cases pure_ok h; exact inv_stopParsing σ

/-! ### "after after body" -/

theorem keeps_afterAfterBody (hbody : Keeps (inBody (N := N)) PreBody) :
    Keeps (afterAfterBody (N := N)) (PreMode .afterAfterBody) := by
  intro cfg hed σ tok r hg hst hl hfr hm h
  have hm : σ.mode = .afterAfterBody := hm
  have hb := hbody.body hed hg hst hl hfr hm (by decide)
  have hany : Post (.reprocess ((σ.err "after after body: unexpected token").setMode .inBody)) :=
    ⟨hst, hg.toPlain' (m := .inBody) rfl (by decide)⟩
  unfold afterAfterBody at h
  cases tok with
  | comment d =>
    dsimp only at h
    exact post_insert hg h insertCommentIn_eff
  | doctype _ _ _ _ => exact hb h
  | character c =>
    dsimp only at h
    rcases ite_cases h with ⟨_, h⟩ | ⟨_, h⟩
    · exact hb h
    · cases pure_ok h; exact hany
  | startTag t =>
    dsimp only at h
    rcases ite_cases h with ⟨_, h⟩ | ⟨_, h⟩
    · exact hb h
    · cases pure_ok h; exact hany
  | eof => cases pure_ok h; exact inv_stopParsing σ
  | endTag t => cases pure_ok h; exact hany

/-! ### "after after frameset" -/

theorem keeps_afterAfterFrameset (hbody : Keeps (inBody (N := N)) PreBody) (hhead : Keeps0 (inHead (N := N)) PreHead) :
    Keeps (afterAfterFrameset (N := N)) (PreMode .afterAfterFrameset) := by
  intro cfg hed σ tok r hg hst hl hfr hm h
  have hm : σ.mode = .afterAfterFrameset := hm
  have hb := hbody.body hed hg hst hl hfr hm (by decide)
  have hh := hhead.head (tok := tok) (r := r) hed hg hst hm (by decide)
  unfold afterAfterFrameset at h
  cases tok with
  | comment d =>
    dsimp only at h
    exact post_insert hg h insertCommentIn_eff
  | doctype _ _ _ _ => exact hb h
  | character c =>
    dsimp only at h
    rcases ite_cases h with ⟨_, h⟩ | ⟨_, h⟩
    · exact hb h
    · exact post_ignore hg h
  | startTag t =>
    dsimp only at h
    rcases ite_cases h with ⟨_, h⟩ | ⟨_, h⟩
    · exact hb h
    rcases ite_cases h with ⟨_, h⟩ | ⟨_, h⟩
    · exact hh h
    · exact post_ignore hg h
  | eof => cases pure_ok h; exact inv_stopParsing σ
  | endTag t => exact post_ignore hg h

end
end H5V.Lemmas.ModesInv
