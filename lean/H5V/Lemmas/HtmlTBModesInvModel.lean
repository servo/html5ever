import H5V.Lemmas.HtmlTBModesDefs
import H5V.Lemmas.HtmlTBModesInvAll
import H5V.Lemmas.HtmlTBModesInvNoRH
/-!
C02 (insertion modes), the invariant `Good` of the specification's run: what the MODEL provides for the abstract
state `absF s x` of a state `s` of the model that satisfies the C04 invariant `TI` and `MInv`:

* `Link`: an element's type is a function of the node (the sink's `elem_name`), and the listed formatting elements /
  the form element pointer are what `TI` says;
* `FreshL`: the node ids the sink hands out during a stretch are not elements of the arena at its start;
* in "text" the current node is an HTML element and not the only one (`TI`), so the dispatcher applies the rules of
  "text".

With these, one step of the dispatcher (`dispatchFull`) of the completed specification is a step of the UNMODIFIED
specification and keeps the invariant (`full_post`).
-/
namespace H5V.Lemmas.HtmlTBModes
open H5V.Model.HtmlTB
open H5V.Model.Dom (Id SinkOp Output Dom QualName Attr NodeOrText ElementFlags NodeData QuirksMode)
open H5V.Lemmas.HtmlTBAlgo
open H5V.Lemmas.TBSafe (TI HInv SInv Rooted ForeignTop textTok)
open H5V.Spec.TreeAlgo2 (Elem Entry PState Ctx Edit Place)
open H5V.Spec.TreeModes (STok ETok IMode Config Out TokSwitch XOp Op Step Edition)
open H5V.Lemmas.ModesInv (Good Inv Post PostF WLink FreshL FreshFor LinkFor TextHtml isChar GStep StdLoops stdRule
  bind_ok map_ok pure_ok req_ok ite_cases useHtml_of_top_html)

/-- `Link` of the specification-side invariant (not the `Link` of `Tr`) -/
abbrev SLink (σ : SState) : Prop := H5V.Lemmas.ModesInv.Link σ

theorem absF_stack {s : State} {x : Aux} (hx : AuxOk s x) : (absF s x).p.stack = absStack s.dom s.openElems := by
  simp only [absF, absP, hx.live, Bool.false_eq_true, if_false]

theorem cfgOf_edition (s : State) : (cfgOf s).edition = .customizableSelect := rfl

/-- `Link` of the abstract state -/
theorem link_absF {s : State} {x : Aux} (ht : TI s) (hx : AuxOk s x) : SLink (absF s x) := by
  constructor
  · intro e he t hmem
    rw [absF_stack hx] at he
    obtain ⟨h, hh, rfl⟩ := List.mem_map.mp he
    have hl : (absF s x).p.list = absListE s.activeFormatting := rfl
    rw [hl] at hmem
    obtain ⟨fe, hfe, hfee⟩ := List.mem_map.mp hmem
    cases fe with
    | marker => cases hfee
    | element h' tag =>
      simp only [entryE, Entry.element.injEq] at hfee
      obtain ⟨h1, h2⟩ := hfee
      have h1' : h' = h := h1
      subst h1'
      subst h2
      have := (ht.h.af h' tag hfe).2.1
      rw [nm_eq_nameOf] at this
      show HtmlTBSpec.toName (nameOf s.dom h') = _
      rw [this]; rfl
  · intro e he hf
    rw [absF_stack hx] at he
    obtain ⟨h, hh, rfl⟩ := List.mem_map.mp he
    have hf' : s.formElem = some h := hf
    have := (ht.h.form h hf').2
    rw [nm_eq_nameOf] at this
    show HtmlTBSpec.toName (nameOf s.dom h) = _
    rw [this]; rfl

/-- freshness of the node ids taken between `x` and `x'` -/
theorem freshL_absF {s : State} {x x' : Aux} (hm : MInv s) (hx : AuxOk s x) (hf : FreshSup s x x') :
    FreshL (absF s x).p.stack x.supply x'.supply := by
  intro used hu n hn e he _ hid
  rw [absF_stack hx] at he
  obtain ⟨h, hh, rfl⟩ := List.mem_map.mp he
  have h1 : s.dom.isElement h = true := hm.elems h hh
  have h2 : s.dom.isElement n = false := hf used hu n hn
  have : h = n := hid
  rw [this, h2] at h1
  cases h1

theorem imode_text {m : Mode} (h : imode m = .text) : m = .text := by cases m <;> first | rfl | cases h

/-- in "text" the dispatcher chooses the rules of the insertion mode -/
theorem textHtml_absF {s : State} {x : Aux} (ht : TI s) (hx : AuxOk s x) (tok : STok) :
    TextHtml (cfgOf s) (absF s x) tok := by
  intro _ hm
  have hm' : s.mode = .text := imode_text hm
  obtain ⟨om, _, _, hlen, _, _⟩ := ht.s.text hm'
  have hst := ht.s.stack
  rw [hm'] at hst
  obtain ⟨t, hlast, hns⟩ := hst
  have hl : (absF s x).p.stack.getLast? = some (elemOf s.dom t) := by
    rw [absF_stack hx]; unfold absStack; rw [List.getLast?_map, hlast]; rfl
  refine useHtml_of_top_html (cfgOf s) (absF s x) hl (Or.inl ?_) ?_ _
  · rw [absF_stack hx]; unfold absStack; rw [List.length_map]; exact hlen
  · show (HtmlTBSpec.toName (nameOf s.dom t)).ns = _
    rw [← nm_eq_nameOf]; exact hns

/-! ### one step of the dispatcher -/

/-- the three facts for the state `σ`, the token and the result of the step -/
structure Side (cfg : Config Id) (σ : SState) (tok : STok) (sup' : List Id) : Prop where
  link : LinkFor σ tok
  fresh : isChar tok = false → FreshL σ.p.stack σ.p.supply sup'
  text : TextHtml cfg σ tok

/-- `foreign` answers "reprocess in HTML content" only by breaking out: the state has a part of the stack, the same
list, form pointer and supply -/
theorem foreign_reprocessHtml {cfg : Config Id} {σ σa : SState} {tok : STok}
    (h : Spec.TreeModes.foreign cfg σ tok = .ok (.reprocessHtml σa)) :
    σa.p.list = σ.p.list ∧ σa.p.formPointer = σ.p.formPointer ∧ σa.p.supply = σ.p.supply ∧
      ∀ e ∈ σa.p.stack, e ∈ σ.p.stack := by
  have hbo : ∀ s0 : SState, s0.p = σ.p → Spec.TreeModes.foreignBreakOut s0 = .reprocessHtml σa →
      σa.p.list = σ.p.list ∧ σa.p.formPointer = σ.p.formPointer ∧ σa.p.supply = σ.p.supply ∧
        ∀ e ∈ σa.p.stack, e ∈ σ.p.stack := by
    intro s0 hp hb
    unfold Spec.TreeModes.foreignBreakOut at hb
    have hb' := Step.reprocessHtml.inj hb
    rw [← hb']
    refine ⟨by rw [← hp]; rfl, by rw [← hp]; rfl, by rw [← hp]; rfl, ?_⟩
    intro e he
    have he' : e ∈ ((s0.err "foreign content: HTML tag breaks out").p.stack.reverse.dropWhile
        (fun e => !Spec.TreeModes.stopsBreakOut (s0.err "foreign content: HTML tag breaks out") e)).reverse := he
    have h1 := List.mem_reverse.mp he'
    have h2 := List.mem_reverse.mp (List.dropWhile_subset _ h1)
    rw [← hp]; exact h2
  unfold Spec.TreeModes.foreign at h
  cases tok with
  | character c =>
    dsimp only at h
    split at h
    · obtain ⟨a, _, ha⟩ := map_ok h; cases ha
    · split at h
      · obtain ⟨a, _, ha⟩ := map_ok h; cases ha
      · obtain ⟨a, _, ha⟩ := bind_ok h; cases pure_ok ha
  | comment d => obtain ⟨a, _, ha⟩ := map_ok h; cases ha
  | doctype _ _ _ _ => cases pure_ok h
  | eof => cases h
  | startTag t =>
    dsimp only at h
    split at h
    · exact hbo σ rfl (pure_ok h)
    · unfold Spec.TreeModes.foreignAnyOtherStartTag at h
      obtain ⟨acn, _, h⟩ := bind_ok h
      obtain ⟨r, _, h⟩ := bind_ok h
      dsimp only at h
      rcases ite_cases h with ⟨_, h⟩ | ⟨_, h⟩
      · rcases ite_cases h with ⟨_, h⟩ | ⟨_, h⟩
        · unfold Spec.TreeModes.foreignEndSvgScript at h
          obtain ⟨sc, _, h⟩ := bind_ok h
          cases pure_ok h
        · cases pure_ok h
      · cases pure_ok h
  | endTag t =>
    dsimp only at h
    split at h
    · exact hbo σ rfl (pure_ok h)
    · split at h
      · unfold Spec.TreeModes.foreignEndSvgScript at h
        obtain ⟨sc, _, h⟩ := bind_ok h
        cases pure_ok h
      · unfold Spec.TreeModes.foreignAnyOtherEndTag at h
        dsimp only at h
        split at h
        · cases pure_ok h
        · cases pure_ok h
        · exact absurd h (H5V.Lemmas.ModesInv.norh_byMode _ _ _ _)

/-- **one step of the dispatcher** (`foreignFull`: the "reprocess in HTML content" of the foreign-content rules
carried out) from a good state, with the facts the model provides: the step is a step of the UNMODIFIED
specification and keeps the invariant -/
theorem full_post {cfg : Config Id} (hed : cfg.edition = .customizableSelect) {σ : SState} {tok : STok} {st : Step Id}
    (hg : Good σ) (hst : σ.stopped = false) (hside : Side cfg σ tok st.state.p.supply)
    (e : (if Spec.TreeAlgo.useHtmlRules (Spec.TreeModes.adjustedCurrentNode cfg σ) (Spec.TreeModes.tokenKind tok)
          then byModeDev cfg σ tok else foreignFull cfg σ tok) = .ok st) :
    Post st ∧ (∀ σ', st = .done σ' → StdLoops cfg false σ tok σ') ∧
      (∀ σ1 σ', st = .reprocess σ1 → StdLoops cfg false σ1 tok σ' → StdLoops cfg false σ tok σ') := by
  have hfr : FreshFor σ tok st := hside.fresh
  by_cases hu : Spec.TreeAlgo.useHtmlRules (Spec.TreeModes.adjustedCurrentNode cfg σ) (Spec.TreeModes.tokenKind tok) = true
  · rw [if_pos hu, H5V.Lemmas.ModesInv.byModeDev_of_good hg] at e
    have hr : stdRule cfg false σ tok = .ok st := by
      simp only [stdRule, Bool.false_eq_true, if_false, Spec.TreeModes.dispatch, hu, if_true]; exact e
    refine ⟨H5V.Lemmas.ModesInv.keeps_byMode cfg hed σ tok st hg hst hside.link hfr trivial e, ?_, ?_⟩
    · intro σ' h; subst h; exact StdLoops.done hr
    · intro σ1 σ' h h2; subst h; exact StdLoops.reprocess hr h2
  · rw [if_neg hu] at e
    have hu' : Spec.TreeAlgo.useHtmlRules (Spec.TreeModes.adjustedCurrentNode cfg σ) (Spec.TreeModes.tokenKind tok) = false := by
      simpa using hu
    unfold foreignFull at e
    obtain ⟨r, hf, e2⟩ := bind_ok e
    have hrule : stdRule cfg false σ tok = .ok r := by
      simp only [stdRule, Bool.false_eq_true, if_false, Spec.TreeModes.dispatch, hu']; exact hf
    have htext : σ.mode = .text → isChar tok = true := by
      intro hm
      cases hc : isChar tok
      · exact absurd (hside.text hc hm) hu
      · rfl
    cases r with
    | done σa =>
      cases pure_ok e2
      have hp := H5V.Lemmas.ModesInv.post_foreign H5V.Lemmas.ModesInv.keeps_byMode hed hg hst hside.link hfr htext hu' hf
      exact ⟨hp, (fun σ' h => by cases h; exact StdLoops.done hrule), (fun σ1 σ' h _ => by cases h)⟩
    | reprocess σa =>
      cases pure_ok e2
      have hp := H5V.Lemmas.ModesInv.post_foreign H5V.Lemmas.ModesInv.keeps_byMode hed hg hst hside.link hfr htext hu' hf
      exact ⟨hp, (fun σ' h => by cases h), (fun σ1 σ' h h2 => by cases h; exact StdLoops.reprocess hrule h2)⟩
    | reprocessHtml σa =>
      dsimp only at e2
      obtain ⟨hlist, hform, hsup, hsub⟩ := foreign_reprocessHtml hf
      -- the break-out takes no node: its freshness condition is void
      have hfr0 : FreshFor σ tok (.reprocessHtml σa) := by
        intro _ used hu2 n hn
        have h0 : σ.p.supply = used ++ σ.p.supply := by
          have : (Step.reprocessHtml σa).state.p.supply = σ.p.supply := hsup
          rw [this] at hu2; exact hu2
        have hl := congrArg List.length h0
        simp only [List.length_append] at hl
        have : used = [] := List.eq_nil_of_length_eq_zero (by omega)
        rw [this] at hn; cases hn
      have hp := H5V.Lemmas.ModesInv.post_foreign H5V.Lemmas.ModesInv.keeps_byMode hed hg hst hside.link hfr0 htext hu' hf
      obtain ⟨hsta, hga⟩ : σa.stopped = false ∧ Good σa := hp
      -- the facts for the state after the break-out: its stack is a part of the stack of `σ`
      have hla : LinkFor σa tok := by
        intro hc
        obtain ⟨l1, l2⟩ := hside.link hc
        refine ⟨fun e0 he0 t ht => l1 e0 (hsub e0 he0) t (by rw [← hlist]; exact ht),
          fun e0 he0 hfp => l2 e0 (hsub e0 he0) (by rw [← hform]; exact hfp)⟩
      have hfa : FreshFor σa tok st := by
        intro hc used hu2 n hn e0 he0 htd
        exact hside.fresh hc used (by rw [← hsup]; exact hu2) n hn e0 (hsub e0 he0) htd
      rw [H5V.Lemmas.ModesInv.byModeDev_of_good hga] at e2
      have hr2 : stdRule cfg true σa tok = .ok st := by simp only [stdRule, if_true]; exact e2
      refine ⟨H5V.Lemmas.ModesInv.keeps_byMode cfg hed σa tok st hga hsta hla hfa trivial e2, ?_, ?_⟩
      · intro σ' h; subst h; exact StdLoops.reprocessHtml hrule (StdLoops.done hr2)
      · intro σ1 σ' h h2; subst h; exact StdLoops.reprocessHtml hrule (StdLoops.reprocess hr2 h2)

end H5V.Lemmas.HtmlTBModes
