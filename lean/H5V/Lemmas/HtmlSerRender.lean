import H5V.Lemmas.HtmlSerEscape
/-!
C07: the serializer with its `ElemInfo` stack equals a pure renderer
that carries only the parent's `ElemInfo`; the rcdom op loop equals the recursive traversal.
-/
namespace H5V.Lemmas.HtmlSerRender
open H5V.Model.HtmlSer H5V.Lemmas.HtmlSerEscape

/-! ### the pure renderer -/

def renderAttr (cfg : Cfg) (a : Attr) : Bytes :=
  [0x20] ++ attrPrefix a.name ++ utf8 a.name.loc ++ [0x3D, 0x22]
    ++ escBytes cfg true (utf8 a.value) ++ [0x22]

def renderAttrs (cfg : Cfg) (as : List Attr) : Bytes := as.flatMap (renderAttr cfg)

/-- `<name attr="value"…>` -/
def startTagBytes (cfg : Cfg) (name : QualName) (attrs : List Attr) : Bytes :=
  [0x3C] ++ utf8 name.loc ++ renderAttrs cfg attrs ++ [0x3E]

/-- HTML-namespace element in the void list of `start_elem` -/
def isVoid (name : QualName) : Bool := name.ns == .html && isVoidName name.loc

/-- the `ElemInfo` `start_elem` pushes for an element that is written -/
def infoOf (name : QualName) : ElemInfo := ⟨htmlNameOf name, isVoid name⟩

/-- `</name>`, nothing for a void element -/
def endTagOf (name : QualName) : Bytes := if isVoid name then [] else endTagBytes name

def renderText (cfg : Cfg) (o : Opts) (p : ElemInfo) (t : List Char) : Bytes :=
  if escapeDecision o p.htmlName then escBytes cfg false (utf8 t) else utf8 t

def commentBytes (t : List Char) : Bytes := [0x3C, 0x21, 0x2D, 0x2D] ++ utf8 t ++ [0x2D, 0x2D, 0x3E]
def doctypeBytes (n : List Char) : Bytes :=
  [0x3C, 0x21, 0x44, 0x4F, 0x43, 0x54, 0x59, 0x50, 0x45, 0x20] ++ utf8 n ++ [0x3E]
def piBytes (t d : List Char) : Bytes := [0x3C, 0x3F] ++ utf8 t ++ [0x20] ++ utf8 d ++ [0x3E]

mutual
/-- bytes written for a node whose parent has info `p`; `none` = a Document node is met -/
def renderNode (cfg : Cfg) (o : Opts) (p : ElemInfo) : Node → Option Bytes
  | .element name attrs ch =>
    if p.ignoreChildren then renderForest cfg o ⟨htmlNameOf name, true⟩ ch
    else (renderForest cfg o (infoOf name) ch).map
      (fun inner => startTagBytes cfg name attrs ++ inner ++ endTagOf name)
  | .text t => some (renderText cfg o p t)
  | .comment t => some (commentBytes t)
  | .doctype n => some (doctypeBytes n)
  | .pi t d => some (piBytes t d)
  | .document _ => none
def renderForest (cfg : Cfg) (o : Opts) (p : ElemInfo) : List Node → Option Bytes
  | [] => some []
  | n :: ns =>
    match renderNode cfg o p n with
    | none => none
    | some a => (renderForest cfg o p ns).map (fun b => a ++ b)
end

def docSite : String := "Can't serialize Document node itself"

/-- the result of a traversal step described by a rendering -/
def Agrees (r : R Ser) (w : Option Bytes) (out : Bytes) (stack : List ElemInfo) : Prop :=
  match w with
  | some w => r = .ok ⟨out ++ w, stack⟩
  | none => ∃ out', r = .error ⟨docSite, out'⟩

/-! ### serializer methods on a non-empty stack -/

theorem writeAttrs_eq (cfg : Cfg) (as : List Attr) (out : Bytes) :
    writeAttrs cfg as out = .ok (out ++ renderAttrs cfg as) := by
  induction as generalizing out with
  | nil => simp [writeAttrs, renderAttrs]
  | cons a t ih =>
    simp only [writeAttrs, writeAttr, writeEscaped_eq, bind, Except.bind]
    rw [ih]
    simp [renderAttrs, renderAttr]

theorem startElem_eq (cfg : Cfg) (o : Opts) (name : QualName) (attrs : List Attr) (out : Bytes)
    (p : ElemInfo) (rest : List ElemInfo) :
    startElem cfg o name attrs ⟨out, p :: rest⟩ =
      if p.ignoreChildren then .ok ⟨out, ⟨htmlNameOf name, true⟩ :: p :: rest⟩
      else .ok ⟨out ++ startTagBytes cfg name attrs, infoOf name :: p :: rest⟩ := by
  simp only [startElem, parent, bind, Except.bind, writeAttrs_eq]
  split <;> simp [startTagBytes, infoOf, isVoid]

theorem endElem_eq (o : Opts) (name : QualName) (out : Bytes) (info : ElemInfo)
    (rest : List ElemInfo) :
    endElem o name ⟨out, info :: rest⟩ =
      .ok ⟨if info.ignoreChildren then out else out ++ endTagBytes name, rest⟩ := by
  simp only [endElem]
  split <;> simp_all

theorem writeText_eq (cfg : Cfg) (o : Opts) (t : List Char) (out : Bytes) (p : ElemInfo)
    (rest : List ElemInfo) :
    writeText cfg o t ⟨out, p :: rest⟩ = .ok ⟨out ++ renderText cfg o p t, p :: rest⟩ := by
  simp only [writeText, parent, bind, Except.bind, writeEscaped_eq, renderText]
  split <;> simp

/-! ### traversal = renderer -/

mutual
theorem serNode_agrees (cfg : Cfg) (o : Opts) :
    ∀ (n : Node) (p : ElemInfo) (rest : List ElemInfo) (out : Bytes),
      Agrees (serNode cfg o n ⟨out, p :: rest⟩) (renderNode cfg o p n) out (p :: rest)
  | .element name attrs ch, p, rest, out => by
    unfold serNode renderNode
    rw [startElem_eq]
    cases hp : p.ignoreChildren
    case true =>
      simp only [if_true, bind, Except.bind]
      have ih := serForest_agrees cfg o ch ⟨htmlNameOf name, true⟩ (p :: rest) out
      revert ih
      cases renderForest cfg o ⟨htmlNameOf name, true⟩ ch with
      | none => rintro ⟨out', h⟩; exact ⟨out', by rw [h]⟩
      | some w => intro h; simp only [Agrees] at h ⊢; rw [h]; simp [endElem_eq]
    case false =>
      simp only [Bool.false_eq_true, if_false, bind, Except.bind]
      have ih := serForest_agrees cfg o ch (infoOf name) (p :: rest)
        (out ++ startTagBytes cfg name attrs)
      revert ih
      cases renderForest cfg o (infoOf name) ch with
      | none => rintro ⟨out', h⟩; exact ⟨out', by rw [h]⟩
      | some w =>
        intro h; simp only [Agrees, Option.map] at h ⊢; rw [h]
        simp only [endElem_eq, infoOf, endTagOf]
        cases isVoid name <;> simp
  | .text t, p, rest, out => by
    simp [serNode, renderNode, Agrees, writeText_eq]
  | .comment t, p, rest, out => by
    simp [serNode, renderNode, Agrees, writeComment, commentBytes]
  | .doctype t, p, rest, out => by
    simp [serNode, renderNode, Agrees, writeDoctype, doctypeBytes]
  | .pi t d, p, rest, out => by
    simp [serNode, renderNode, Agrees, writePI, piBytes]
  | .document ch, p, rest, out => by
    simp [serNode, renderNode, Agrees, docSite]
theorem serForest_agrees (cfg : Cfg) (o : Opts) :
    ∀ (f : List Node) (p : ElemInfo) (rest : List ElemInfo) (out : Bytes),
      Agrees (serForest cfg o f ⟨out, p :: rest⟩) (renderForest cfg o p f) out (p :: rest)
  | [], p, rest, out => by simp [serForest, renderForest, Agrees]
  | n :: ns, p, rest, out => by
    unfold serForest renderForest
    have h1 := serNode_agrees cfg o n p rest out
    revert h1
    cases renderNode cfg o p n with
    | none => rintro ⟨out', h⟩; exact ⟨out', by simp [h, bind, Except.bind]⟩
    | some a =>
      intro h; simp only [Agrees] at h
      simp only [h, bind, Except.bind]
      have h2 := serForest_agrees cfg o ns p rest (out ++ a)
      revert h2
      cases renderForest cfg o p ns with
      | none => rintro ⟨out', h⟩; exact ⟨out', h⟩
      | some b => intro h; simp only [Agrees, Option.map] at h ⊢; rw [h]; simp
end

/-! ### whole serialisations -/

/-- the root `ElemInfo` built by `HtmlSerializer::new` -/
def scopeInfo (cfg : Cfg) : Scope → ElemInfo
  | .includeNode => ⟨none, false⟩
  | .childrenOnly none => ⟨none, false⟩
  | .childrenOnly (some n) =>
    ⟨if cfg.fixNs && n.ns != .html then none else some n.loc, cfg.fixVoid && isVoid n⟩

theorem new_eq (cfg : Cfg) (scope : Scope) : new cfg scope = ⟨[], [scopeInfo cfg scope]⟩ := by
  cases scope with
  | includeNode => rfl
  | childrenOnly n => cases n <;> rfl

/-- what `serialize` writes, as a rendering -/
def renderRoot (cfg : Cfg) (scope : Scope) (o : Opts) (root : Node) : Option Bytes :=
  match scope with
  | .includeNode => renderNode cfg o (scopeInfo cfg scope) root
  | .childrenOnly _ => renderForest cfg o (scopeInfo cfg scope) root.children

theorem serialize_eq (cfg : Cfg) (scope : Scope) (o : Opts) (root : Node) :
    match renderRoot cfg scope o root with
    | some w => serialize cfg scope o root = .ok w
    | none => ∃ out', serialize cfg scope o root = .error ⟨docSite, out'⟩ := by
  unfold serialize renderRoot
  rw [new_eq]
  cases scope with
  | includeNode =>
    have h := serNode_agrees cfg o root (scopeInfo cfg .includeNode) [] []
    revert h
    simp only []
    cases renderNode cfg o (scopeInfo cfg .includeNode) root with
    | none => rintro ⟨out', h⟩; exact ⟨out', by rw [h]; rfl⟩
    | some w => intro h; simp only [Agrees] at h; rw [h]; simp [Except.map]
  | childrenOnly x =>
    have h := serForest_agrees cfg o root.children (scopeInfo cfg (.childrenOnly x)) [] []
    revert h
    simp only []
    cases renderForest cfg o (scopeInfo cfg (.childrenOnly x)) root.children with
    | none => rintro ⟨out', h⟩; exact ⟨out', by rw [h]; rfl⟩
    | some w => intro h; simp only [Agrees] at h; rw [h]; simp [Except.map]

/-! ### the renderer reads the parent's info only through two bits -/

theorem renderNode_congr (cfg : Cfg) (o : Opts) (p q : ElemInfo)
    (hi : p.ignoreChildren = q.ignoreChildren)
    (he : escapeDecision o p.htmlName = escapeDecision o q.htmlName) (n : Node) :
    renderNode cfg o p n = renderNode cfg o q n := by
  cases n <;> simp [renderNode, renderText, hi, he]

theorem renderForest_congr (cfg : Cfg) (o : Opts) (p q : ElemInfo)
    (hi : p.ignoreChildren = q.ignoreChildren)
    (he : escapeDecision o p.htmlName = escapeDecision o q.htmlName) (f : List Node) :
    renderForest cfg o p f = renderForest cfg o q f := by
  induction f with
  | nil => simp [renderForest]
  | cons n ns ih => simp [renderForest, renderNode_congr cfg o p q hi he n, ih]

/-! ### rcdom's op loop = the recursive traversal -/

/-- the op list read recursively -/
def serOps (cfg : Cfg) (o : Opts) : List SerOp → Ser → R Ser
  | [], s => .ok s
  | .close name :: ops, s => do
    let s ← endElem o name s
    serOps cfg o ops s
  | .openNode n :: ops, s => do
    let s ← serNode cfg o n s
    serOps cfg o ops s

theorem serOps_open_append (cfg : Cfg) (o : Opts) (f : List Node) (ops : List SerOp) (s : Ser) :
    serOps cfg o (f.map .openNode ++ ops) s = (serForest cfg o f s >>= serOps cfg o ops) := by
  induction f generalizing s with
  | nil => simp [serForest, bind, Except.bind]
  | cons n ns ih =>
    simp only [List.map_cons, List.cons_append, serOps, serForest, bind, Except.bind]
    cases serNode cfg o n s with
    | error e => rfl
    | ok s' => simpa [bind, Except.bind] using ih s'

theorem opsSize_open_append (f : List Node) (ops : List SerOp) :
    opsSize (f.map .openNode ++ ops) = forestSize f + opsSize ops := by
  induction f with
  | nil => simp [forestSize]
  | cons n ns ih => simp [opsSize, forestSize, SerOp.size, ih]; omega

theorem runOps_eq_serOps (cfg : Cfg) (o : Opts) :
    ∀ (fuel : Nat) (ops : List SerOp) (s : Ser), opsSize ops ≤ fuel →
      runOps cfg o fuel ops s = serOps cfg o ops s := by
  intro fuel
  induction fuel with
  | zero =>
    intro ops s h
    cases ops with
    | nil => simp [runOps, serOps]
    | cons op t =>
      exfalso
      cases op with
      | close n => simp [opsSize, SerOp.size] at h
      | openNode n => cases n <;> simp [opsSize, SerOp.size, Node.size] at h
  | succ fuel ih =>
    intro ops s h
    cases ops with
    | nil => simp [runOps, serOps]
    | cons op t =>
      cases op with
      | close name =>
        simp only [runOps, serOps, bind, Except.bind]
        cases endElem o name s with
        | error e => rfl
        | ok s' => exact ih t s' (by simp [opsSize, SerOp.size] at h; omega)
      | openNode n =>
        cases n with
        | element name attrs ch =>
          simp only [runOps, serOps, serNode, bind, Except.bind]
          cases startElem cfg o name attrs s with
          | error e => rfl
          | ok s' =>
            simp only []
            rw [ih _ s' (by
              rw [opsSize_open_append]
              simp [opsSize, SerOp.size, Node.size] at h ⊢; omega)]
            rw [serOps_open_append]
            simp only [bind, Except.bind, serOps]
            cases serForest cfg o ch s' <;> rfl
        | text x =>
          simp only [runOps, serOps, serNode, bind, Except.bind]
          cases writeText cfg o x s with
          | error e => rfl
          | ok s' => exact ih t s' (by simp [opsSize, SerOp.size, Node.size] at h; omega)
        | comment x =>
          simp only [runOps, serOps, serNode, bind, Except.bind]
          cases writeComment x s with
          | error e => rfl
          | ok s' => exact ih t s' (by simp [opsSize, SerOp.size, Node.size] at h; omega)
        | doctype x =>
          simp only [runOps, serOps, serNode, bind, Except.bind]
          cases writeDoctype x s with
          | error e => rfl
          | ok s' => exact ih t s' (by simp [opsSize, SerOp.size, Node.size] at h; omega)
        | pi x y =>
          simp only [runOps, serOps, serNode, bind, Except.bind]
          cases writePI x y s with
          | error e => rfl
          | ok s' => exact ih t s' (by simp [opsSize, SerOp.size, Node.size] at h; omega)
        | document ch =>
          simp [runOps, serOps, serNode, bind, Except.bind]

/-! ### trees without Document nodes never panic -/

mutual
def docFree : Node → Bool
  | .element _ _ ch => forestDocFree ch
  | .document _ => false
  | _ => true
def forestDocFree : List Node → Bool
  | [] => true
  | n :: ns => docFree n && forestDocFree ns
end

mutual
theorem renderNode_some (cfg : Cfg) (o : Opts) :
    ∀ (n : Node) (p : ElemInfo), docFree n = true → (renderNode cfg o p n).isSome = true
  | .element name attrs ch, p, h => by
    unfold docFree at h
    unfold renderNode
    split
    · exact renderForest_some cfg o ch _ h
    · have := renderForest_some cfg o ch (infoOf name) h
      simpa using this
  | .text _, _, _ => by simp [renderNode]
  | .comment _, _, _ => by simp [renderNode]
  | .doctype _, _, _ => by simp [renderNode]
  | .pi _ _, _, _ => by simp [renderNode]
  | .document _, _, h => by simp [docFree] at h
theorem renderForest_some (cfg : Cfg) (o : Opts) :
    ∀ (f : List Node) (p : ElemInfo), forestDocFree f = true → (renderForest cfg o p f).isSome = true
  | [], _, _ => by simp [renderForest]
  | n :: ns, p, h => by
    unfold forestDocFree at h
    simp only [Bool.and_eq_true] at h
    have h1 := renderNode_some cfg o n p h.1
    have h2 := renderForest_some cfg o ns p h.2
    unfold renderForest
    cases hn : renderNode cfg o p n with
    | none => simp [hn] at h1
    | some a => simpa using h2
end

end H5V.Lemmas.HtmlSerRender
