import H5V.Lemmas.HtmlTokStep
/-!
Resumability of `Tokenizer::step`: a suspended step, re-executed after more input arrived, behaves
like the step on the concatenated input (up to a dead `current_char`).
-/
namespace H5V.Model.HtmlTok

/-- invariant of the machine at step boundaries that the look-ahead discipline relies on -/
structure Good (m : Mach) : Prop where
  eatOk : (m.state = .markupDeclarationOpen ∨ m.state = .afterDoctypeName) → EatOk m
  tagOpen : m.state = .tagOpen → m.reconsume = false
  unq : m.state = .attributeValue .unquoted → m.ignoreLf = false

theorem deadCC_setCurrentChar (m : Mach) (a : Char) : deadCC (m.setCurrentChar a) ↔ deadCC m := by
  unfold deadCC; simp

theorem Sim.symm {m1 m2 : Mach} (h : Sim m1 m2) : Sim m2 m1 := by
  rcases h with h | ⟨hd, a, ha⟩
  · exact Or.inl h.symm
  · subst ha
    exact Or.inr ⟨(deadCC_setCurrentChar m1 a).mpr hd, m1.currentChar, rfl⟩

theorem Sim.trans {m1 m2 m3 : Mach} (h12 : Sim m1 m2) (h23 : Sim m2 m3) : Sim m1 m3 := by
  rcases h12 with h | ⟨hd, a, ha⟩
  · subst h; exact h23
  · subst ha
    rcases h23 with h | ⟨_, b, hb⟩
    · subst h; exact Or.inr ⟨hd, a, rfl⟩
    · subst hb; exact Or.inr ⟨hd, b, rfl⟩

theorem Sim.out {m1 m2 : Mach} (h : Sim m1 m2) : m1.out = m2.out := by
  rcases h with h | ⟨_, a, ha⟩
  · rw [h]
  · subst ha; rfl

/-- suspended `step`s leave no input behind (while more input may still come) -/
theorem peek_some_of_cons (m : Mach) (x : Char) (xs : Str) : ∃ c, peek m (x :: xs) = some c := by
  unfold peek; split <;> simp

/-! ### resume: get_char states -/

theorem resume_getChar (o : Opts) (pol : Pol) (m m' : Mach) (inp inp' e : Str)
    (hcr : m.charRef = none) (hrk : readKind m.state = .getChar)
    (h : getChar o m inp = (none, m', inp')) :
    inp' = [] ∧ step o pol m' e = step o pol m (inp ++ e) := by
  have hres := getChar_resume o m m' inp inp' e h
  obtain ⟨h1, h2, h3⟩ := getChar_none o m m' inp inp' h
  subst h1
  refine ⟨rfl, ?_⟩
  have hs : m'.state = m.state ∧ m'.charRef = m.charRef := by
    rcases h3 with ⟨_, h4⟩ | ⟨_, _, h4⟩ <;> subst h4 <;> simp
  unfold step
  simp only [hs.2, hcr, hs.1, hrk]
  simp only [List.nil_append] at hres
  rw [hres]

/-! ### resume: pop_except_from states -/

theorem popExceptFrom_nil (o : Opts) (S : List Char) (m : Mach) (hr : m.reconsume = false) :
    popExceptFrom o S m [] = (none, m, []) := by
  simp [popExceptFrom_eq, getChar, hr]

/-- the heart of the matter: after the LF of a CRLF was swallowed at the end of the input, reading
the next character on the fast path (resumed) or on the slow path (one piece) leads to the same
result up to the dead `current_char` -/
theorem resume_lf_core (o : Opts) (pol : Pol) (m : Mach) (x : Char) (xs : Str)
    (hk : readKind m.state = .popExcept ∨ readKind m.state = .dataSimd)
    (hcr : m.charRef = none) (hr : m.reconsume = false) (hil : m.ignoreLf = false)
    (hu : m.state ≠ .attributeValue .unquoted)
    (fast : Option SetRes × Mach × Str)
    (hfast : fast = (some (.fromSet (foldChar o m x).1), (foldChar o m x).2, xs) ∨
             (o.exactErrors = false ∧ (setOf m.state).contains x = false ∧
               fast = (some (.notFromSet [x]), m, xs))) :
    RSim (contSet o pol (some (.fromSet (foldChar o m x).1), (foldChar o m x).2, xs))
         (contSet o pol fast) := by
  rcases hfast with h | ⟨hex, hx, h⟩
  · rw [h]; exact RSim.refl _
  · subst h
    have hcrlf := setOf_crlf m.state hk
    have hxr : x ≠ '\r' := by
      intro h; subst h; rw [hcrlf.1] at hx; exact absurd hx (by simp)
    have hxn : x ≠ '\n' := by
      intro h; subst h; rw [hcrlf.2] at hx; exact absurd hx (by simp)
    rw [foldChar_plain o m x hex hxr hxn]
    simp only [contSet]
    rw [transSet_dead o pol m x x hk hx hu]
    obtain ⟨hst, hcr', _⟩ := transSet_notFromSet o pol m [x]
    have hrec := transSet_reconsume o pol m (.notFromSet [x])
    generalize transSet o pol m (.notFromSet [x]) = T at hst hcr' hrec ⊢
    obtain ⟨T1, T2⟩ := T
    simp only at hst hcr' hrec ⊢
    have hdead : deadCC T1 := ⟨by rw [hrec, hr], by rw [hcr', hcr], by rw [hst]; exact hk⟩
    have hsim : Sim (T1.setCurrentChar x) T1 :=
      Sim.symm (Or.inr ⟨hdead, x, rfl⟩)
    unfold ofSig
    cases T2 <;> simp [RSim, hsim]

/-- a suspended read of a `pop_except_from` / data state resumes (`hu`: no pending LF in the
unquoted-attribute-value state, whose set contains characters that are not dead) -/
theorem resume_setRead (o : Opts) (pol : Pol) (m m' : Mach) (inp inp' e : Str)
    (hu : m.state = .attributeValue .unquoted → m.ignoreLf = false) (hcr : m.charRef = none)
    (hk : readKind m.state = .popExcept ∨ readKind m.state = .dataSimd)
    (h : popExceptFrom o (setOf m.state) m inp = (none, m', inp')) :
    inp' = [] ∧ RSim (step o pol m (inp ++ e)) (step o pol m' e) := by
  obtain ⟨h1, h2, h3⟩ := popExceptFrom_none o _ m m' inp inp' h
  subst h1
  refine ⟨rfl, ?_⟩
  rcases h3 with ⟨h3, h4⟩ | ⟨h3, hil, h4⟩
  · subst h3 h4; exact RSim.refl _
  · subst h3 h4
    have hst : (m.setIgnoreLf false).state = m.state := by simp
    have hu : m.state ≠ .attributeValue .unquoted := by
      intro hs; have := hu hs; rw [this] at hil; exact absurd hil (by simp)
    rw [step_setRead o pol m _ hcr hk, step_setRead o pol (m.setIgnoreLf false) e (by simp [hcr]) (by simpa using hk)]
    simp only [hst]
    -- left: slow path through get_char
    have hl : popExceptFrom o (setOf m.state) m (['\n'] ++ e) =
        ((preprocess o m '\n' e).1.map .fromSet, (preprocess o m '\n' e).2) := by
      unfold popExceptFrom getChar
      simp [hil, h2]
    rw [hl]
    cases e with
    | nil =>
      have : preprocess o m '\n' [] = (none, m.setIgnoreLf false, []) := by
        unfold preprocess; simp [hil]
      rw [this, popExceptFrom_nil o _ _ (by simp [h2])]
      exact RSim.refl _
    | cons x xs =>
      rw [preprocess_resume o m x xs hil, preprocess_plain o _ x xs (by simp)]
      simp only [Option.map_some]
      apply resume_lf_core o pol (m.setIgnoreLf false) x xs (by simpa using hk) (by simp [hcr]) (by simp [h2]) (by simp) (by simpa using hu)
      -- right: whichever path the resumed read takes
      rw [popExceptFrom_eq]
      split
      · left
        simp [getChar, h2, preprocess_plain]
      · rename_i hc
        right
        simpa [h2] using hc

/-! ### resume: character-reference sub-tokenizer, before-attribute-value -/

def CRRes.notStuck (r : CRRes) : Prop :=
  match r with
  | .ok (_, _, _, .stuck) => False
  | _ => True

theorem unconsumeNumeric_notStuck (m : Mach) (inp : Str) (cr : CharRefSt) :
    (unconsumeNumeric m inp cr).notStuck := by
  simp [unconsumeNumeric, CRRes.notStuck]

theorem finishNumericStatus_notStuck (o : Opts) (m : Mach) (inp : Str) (cr : CharRefSt) :
    (finishNumericStatus o m inp cr).notStuck := by
  unfold finishNumericStatus
  split <;> simp [CRRes.notStuck]

theorem finishNamed_notStuck (o : Opts) (m : Mach) (inp : Str) (cr : CharRefSt) (ec : Option Char) :
    (finishNamed o m inp cr ec).notStuck := by
  unfold finishNamed
  repeat' split
  all_goals
    first
      | (simp [CRRes.notStuck]; done)
      | (dsimp only; split <;> simp [CRRes.notStuck])

theorem crStep_notStuck (o : Opts) (m : Mach) (inp : Str) (cr : CharRefSt) (c : Char)
    (h : peek m inp = some c) : (crStep o m inp cr).notStuck := by
  unfold crStep
  simp only [h]
  repeat' split
  all_goals
    first
      | exact unconsumeNumeric_notStuck _ _ _
      | exact finishNumericStatus_notStuck _ _ _ _
      | exact finishNamed_notStuck _ _ _ _ _
      | simp [CRRes.notStuck]

theorem setCharRef_self (m : Mach) (cr : Option CharRefSt) (h : m.charRef = cr) : m.setCharRef cr = m := by
  cases m; simp_all [Mach.setCharRef]

theorem stepCharRef_suspend (o : Opts) (m m' : Mach) (inp inp' : Str) (cr : CharRefSt)
    (hcr : m.charRef = some cr) (h : stepCharRef o m inp cr = .suspend m' inp') :
    m' = m ∧ inp' = [] ∧ inp = [] := by
  cases hpk : peek m inp with
  | some c =>
    exfalso
    have hns := crStep_notStuck o m inp cr c hpk
    unfold stepCharRef at h
    cases hc : crStep o m inp cr with
    | error x => rw [hc] at h; simp at h
    | ok v =>
      obtain ⟨m1, i1, cr1, st⟩ := v
      rw [hc] at h hns
      cases st with
      | stuck => exact hns
      | progress => simp at h
      | done chars => simp only [ofSig] at h; split at h <;> simp at h
  | none =>
    obtain ⟨_, hinp⟩ := peek_none m inp hpk
    unfold stepCharRef at h
    rw [crStep_stuck o m inp cr hpk] at h
    simp only [R.suspend.injEq] at h
    rw [setCharRef_self m _ hcr] at h
    exact ⟨h.1.symm, by rw [← h.2, hinp], hinp⟩

theorem resume_charRef (o : Opts) (pol : Pol) (m m' : Mach) (inp inp' e : Str) (cr : CharRefSt)
    (hcr : m.charRef = some cr) (h : stepCharRef o m inp cr = .suspend m' inp') :
    inp' = [] ∧ step o pol m' e = step o pol m (inp ++ e) := by
  obtain ⟨h1, h2, h3⟩ := stepCharRef_suspend o m m' inp inp' cr hcr h
  subst h1 h2 h3
  exact ⟨rfl, rfl⟩

theorem stepBav_suspend (o : Opts) (pol : Pol) (m m' : Mach) (inp inp' : Str)
    (h : stepBav o pol m inp = .suspend m' inp') : m' = m ∧ inp' = [] ∧ inp = [] := by
  revert h
  apply stepBav_cases (P := fun r => r = .suspend m' inp' → m' = m ∧ inp' = [] ∧ inp = []) o pol m inp
  · intro hpk h
    obtain ⟨_, hinp⟩ := peek_none m inp hpk
    cases h
    exact ⟨rfl, hinp, hinp⟩
  · exact fun _ _ _ h => nomatch h
  · exact fun _ _ _ _ _ _ _ h => nomatch h
  · exact fun _ _ _ _ _ h => nomatch h
  · intro c m2 _ h
    have := ofSig_not_suspend (emitTag pol .data (badChar o (discardChar m2 inp).1)) (discardChar m2 inp).2
    rw [h] at this
    cases this
  · exact fun _ _ _ h => nomatch h

theorem resume_bav (o : Opts) (pol : Pol) (m m' : Mach) (inp inp' e : Str)
    (h : stepBav o pol m inp = .suspend m' inp') :
    inp' = [] ∧ stepBav o pol m' e = stepBav o pol m (inp ++ e) := by
  obtain ⟨h1, h2, h3⟩ := stepBav_suspend o pol m m' inp inp' h
  subst h1 h2 h3
  exact ⟨rfl, rfl⟩

/-! ### resume: the look-ahead states -/

/-- the machine after a definite `eat` answer: no pending LF, nothing stashed -/
def Settled (m : Mach) : Prop := m.ignoreLf = false ∧ m.tempBuf = []

theorem Settled.eat_core {m : Mach} (hs : Settled m) (i pat : Str) (eq : Char → Char → Bool) :
    eat m i pat eq = eatCore m i pat eq := by
  rw [eat_eq_core, eatSkipLf_id m i hs.1, hs.2]; rfl

theorem Settled.eatOk {m : Mach} (hs : Settled m) : EatOk m := fun _ => hs.2

/-- a failed `eat` leaves a settled machine and the whole logical input in the queue; the
mismatch is definite -/
theorem eat_false_settled (m m1 : Mach) (inp i1 pat : Str) (eq : Char → Char → Bool)
    (hg : EatOk m) (hpat : pat ≠ []) (hat : m.atEof = false)
    (h : eat m inp pat eq = (some false, m1, i1)) :
    Settled m1 ∧ eatCmp eq i1 pat = some false ∧ m1.atEof = false := by
  rw [eat_eq_core] at h
  unfold eatCore at h
  have hae : (eatSkipLf m inp).1.atEof = false := by simp [hat]
  split at h
  · simp at h
  · rename_i hc
    simp only [Prod.mk.injEq, true_and] at h
    obtain ⟨h1, h2⟩ := h
    subst h1 h2
    refine ⟨⟨?_, by simp⟩, hc, by simp [hat]⟩
    -- ignoreLf is clear: otherwise nothing was available and nothing stashed, and the
    -- comparison could not have been definite
    simp only [setTempBuf_ignoreLf]
    cases hil : (eatSkipLf m inp).1.ignoreLf with
    | false => rfl
    | true =>
      exfalso
      cases hpk : peek m inp with
      | none =>
        rw [eatSkipLf_none m inp hpk] at hil hc
        obtain ⟨_, hinp⟩ := peek_none m inp hpk
        have := hg hil
        simp [this, hinp, eatCmp_nil_none eq pat hpat] at hc
      | some c => rw [eatSkipLf_clear m inp c hpk] at hil; cases hil
  · simp [hat] at h

theorem eatSkipLf_fields (m : Mach) (inp : Str) :
    (eatSkipLf m inp).1.state = m.state ∧ (eatSkipLf m inp).1.charRef = m.charRef := by
  unfold eatSkipLf discardChar
  repeat' split
  all_goals simp

theorem eat_fields (m m1 : Mach) (inp i1 pat : Str) (eq : Char → Char → Bool) (b : Option Bool)
    (h : eat m inp pat eq = (b, m1, i1)) :
    m1.state = m.state ∧ m1.charRef = m.charRef ∧ m1.atEof = m.atEof := by
  rw [eat_eq_core] at h
  unfold eatCore at h
  have hf := eatSkipLf_fields m inp
  repeat' split at h
  all_goals
    (simp only [Prod.mk.injEq] at h
     obtain ⟨_, h2, _⟩ := h
     subst h2
     simp [hf.1, hf.2])

/-- a failed `eat` leaves machine and queue in a normal form that no later `eat` can tell from
the original, whatever input follows -/
theorem eat_false_norm (m m1 : Mach) (inp i1 pat : Str) (eq : Char → Char → Bool)
    (hg : EatOk m) (hpat : pat ≠ []) (hat : m.atEof = false)
    (h : eat m inp pat eq = (some false, m1, i1)) (e pat' : Str) (eq' : Char → Char → Bool) :
    eat m1 (i1 ++ e) pat' eq' = eat m (inp ++ e) pat' eq' := by
  obtain ⟨hs1, _, _⟩ := eat_false_settled m m1 inp i1 pat eq hg hpat hat h
  rw [hs1.eat_core, eat_eq_core]
  have hm : m1 = (eatSkipLf m inp).1.setTempBuf [] ∧
      i1 = (eatSkipLf m inp).1.tempBuf ++ (eatSkipLf m inp).2 := by
    rw [eat_eq_core] at h
    unfold eatCore at h
    repeat' split at h
    all_goals first
      | (simp at h; done)
      | (simp only [Prod.mk.injEq, true_and] at h; exact ⟨h.1.symm, h.2.symm⟩)
  cases hpk : peek m inp with
  | some c =>
    rw [eatSkipLf_mono m inp e c hpk]
    obtain ⟨rfl, rfl⟩ := hm
    simp [eatCore, List.append_assoc]
  | none =>
    obtain ⟨_, rfl⟩ := peek_none m inp hpk
    rw [eatSkipLf_none m [] hpk] at hm
    obtain ⟨rfl, rfl⟩ := hm
    rw [eatSkipLf_id m _ (by simpa using hs1.1)]
    simp [eatCore]

/-- `r`, if it is a suspension, is a resumable look-ahead of `(m, inp)`: nothing is left in the
queue, and every later `eat` behaves as on the whole input -/
def EatSusp (m : Mach) (inp : Str) (r : R) : Prop :=
  ∀ m' inp', r = .suspend m' inp' → inp' = [] ∧ EatOk m' ∧
    (m'.state = m.state ∧ m'.charRef = m.charRef ∧ m'.atEof = m.atEof) ∧
    ∀ e pat eq, eat m' e pat eq = eat m (inp ++ e) pat eq

theorem eatThen_susp {m : Mach} {inp pat : Str} {eq : Char → Char → Bool} {kt kf : Mach → Str → R}
    (hg : EatOk m) (hpat : pat ≠ []) (hat : m.atEof = false)
    (ht : ∀ m1 i1, (kt m1 i1).isSuspend = false)
    (hf : ∀ m1 i1, Settled m1 → m1.atEof = false → eatCmp eq i1 pat = some false →
      EatSusp m1 i1 (kf m1 i1)) :
    EatSusp m inp (eatThen m inp pat eq kt kf) := by
  intro m' inp' h
  unfold eatThen at h
  cases h1 : eat m inp pat eq with
  | mk b r =>
    obtain ⟨m1, i1⟩ := r
    have f1 := eat_fields m m1 inp i1 pat eq b h1
    rw [h1] at h
    cases b with
    | none =>
      simp only [R.suspend.injEq] at h
      obtain ⟨rfl, rfl⟩ := h
      obtain ⟨hi, hok, _, hre⟩ := eat_none m m1 inp i1 pat eq hg h1
      exact ⟨hi, hok, f1, hre⟩
    | some b =>
      cases b with
      | true =>
        have := ht m1 i1
        simp only at h
        rw [h] at this
        cases this
      | false =>
        obtain ⟨hs1, hc1, hat1⟩ := eat_false_settled m m1 inp i1 pat eq hg hpat hat h1
        obtain ⟨hi, hok, f2, hre⟩ := hf m1 i1 hs1 hat1 hc1 m' inp' h
        refine ⟨hi, hok, ⟨f2.1.trans f1.1, f2.2.1.trans f1.2.1, f2.2.2.trans f1.2.2⟩, fun e pat' eq' => ?_⟩
        rw [hre, eat_false_norm m m1 inp i1 pat eq hg hpat hat h1]

theorem stepMdo_susp (o : Opts) (pol : Pol) (m : Mach) (inp : Str) (hg : EatOk m) (hat : m.atEof = false) :
    EatSusp m inp (stepMdo o pol m inp) := by
  rw [stepMdo_eq]
  refine eatThen_susp hg kw_ne.1 hat (fun _ _ => rfl) fun m1 i1 hs1 hat1 _ => ?_
  refine eatThen_susp hs1.eatOk kw_ne.2.1 hat1 (fun _ _ => rfl) fun m2 i2 hs2 hat2 _ => ?_
  split
  · exact eatThen_susp hs2.eatOk kw_ne.2.2.1 hat2 (fun _ _ => rfl) fun _ _ _ _ _ _ _ h => nomatch h
  · exact fun _ _ h => nomatch h

theorem stepAdn_susp (o : Opts) (pol : Pol) (m : Mach) (inp : Str) (hg : EatOk m) (hat : m.atEof = false) :
    EatSusp m inp (stepAdn o pol m inp) := by
  rw [stepAdn_eq]
  refine eatThen_susp hg kw_ne.2.2.2.1 hat (fun _ _ => rfl) fun m1 i1 hs1 hat1 _ => ?_
  refine eatThen_susp hs1.eatOk kw_ne.2.2.2.2 hat1 (fun _ _ => rfl) fun m2 i2 hs2 _ hc2 m' inp' h => ?_
  -- after two definite mismatches a character is available: get_char cannot suspend
  exfalso
  cases i2 with
  | nil => rw [eatCmp_nil_none eqCi kwSystem kw_ne.2.2.2.2] at hc2; cases hc2
  | cons x xs =>
    obtain ⟨c, hpk⟩ := peek_some_of_cons m2 x xs
    obtain ⟨c1, m3, i3, hgc⟩ := getChar_some o m2 (x :: xs) c hs2.1 hpk
    have := ofSig_not_suspend (transChar o pol m3 c1) i3
    rw [hgc, contChar] at h
    rw [h] at this
    cases this

end H5V.Model.HtmlTok
