import H5V.Lemmas.HtmlTokSpecTac
/-!
# C01 simulation — table lemmas for the states read with `pop_except_from` (`transSet`):
data, RCDATA, RAWTEXT, script data (escaped, double escaped), PLAINTEXT, the three attribute value
states — on a character delivered as `FromSet` (any character other than `&`, which starts a
character reference and is treated with the character references) and on a one-character run
`NotFromSet`
-/
set_option linter.unusedSimpArgs false
set_option linter.unusedVariables false
namespace H5V.Lemmas.HtmlTokSpec
open H5V.Model.HtmlTok
open H5V.Spec.HtmlTokenizer (St Tok Emit Tree Switch Ctl ReturnSt)

/-- in the ambiguous ampersand state a character that is not alphanumeric is reconsumed in the
return state -/
theorem tabOk_of_ambiguous {tree : Tree} {t : Tok} {c : Char} {rest : Str} {r : Mach × Sig}
    (hst : t.state = .ambiguousAmpersand) (hna : H5V.Spec.HtmlTokenizer.isAsciiAlphanumeric c = false)
    (hmain : TabOk tree { t with state := t.returnState.toSt } c rest r) : TabOk tree t c rest r := by
  refine ⟨hmain.1, Reach.stepEq (n := 0) ?_ hmain.2⟩
  by_cases hsc : c = ';'
  · subst hsc
    simp [spec_step, hst]
  · simp [spec_step, hst, hna, hsc]

/-- a return state of character references: the table lemma for the state itself and for an
alphanumeric character in the ambiguous ampersand state give it for every configuration in the
relation -/
theorem tabOk_ret {tree : Tree} {m : Mach} {c : Char} {rest : Str} {r : Mach × Sig} (hret : isRet m.state = true)
    (main : ∀ t, RegCore m t → t.state = stOf m.state → TabOk tree t c rest r)
    (alnum : ∀ t, RegCore m t → t.state = .ambiguousAmpersand → t.returnState.toSt = stOf m.state →
      H5V.Spec.HtmlTokenizer.isAsciiAlphanumeric c = true → TabOk tree t c rest r)
    (t : Tok) (h : RegCore m t) : TabOk tree t c rest r := by
  rcases h.st with hst | ⟨hst, -, hrs⟩ | ⟨h1, -⟩ | ⟨h1, -⟩ | ⟨h1, -⟩
  · exact main t h hst
  · by_cases hna : H5V.Spec.HtmlTokenizer.isAsciiAlphanumeric c = true
    · exact alnum t h hst hrs hna
    · exact tabOk_of_ambiguous hst (by simpa using hna)
        (main _ ⟨h.std, Or.inl hrs, h.cr, h.reg, h.out⟩ hrs)
  all_goals (rw [h1] at hret; exact absurd hret (by decide))

/-- like `tab_state`, for `transSet … (.fromSet c)`; `hd` decides whether `c` is a digit -/
macro "set_state" h:ident hs:ident c:ident "[" ls:term,* "]" : tactic => `(tactic| (
  obtain ⟨hstd, hst, hcr, hreg, hout⟩ := $h
  simp [$hs:ident, stOf, altSt, isRet] at hst
  simp [RegRel, AttrRel, $hs:ident, isTagSt, needsCur, usesTemp, usesComment, usesDoctype] at hreg
  simp [OutRel, cdataBuf, isCdata, $hs:ident] at hout
  unfold transSet
  simp only [$hs:ident]
  repeat' (rcases hst with hst | hst)
  all_goals (try (obtain ⟨hst, hrs⟩ := hst))
  all_goals (by_cases hd : H5V.Spec.HtmlTokenizer.isAsciiDigit $c = true)
  all_goals (try simp only [Bool.not_eq_true] at hd)
  all_goals (tab_cases $c [$ls,*])))

/-- like `set_state`, for `transSet … (.notFromSet [c])`; `hnot : c ∉ setOf m.state` -/
macro "nset_state" h:ident hs:ident hnot:ident c:ident "[" ls:term,* "]" : tactic => `(tactic| (
  obtain ⟨hstd, hst, hcr, hreg, hout⟩ := $h
  simp [$hs:ident, stOf, altSt, isRet] at hst
  simp [RegRel, AttrRel, $hs:ident, isTagSt, needsCur, usesTemp, usesComment, usesDoctype] at hreg
  simp [OutRel, cdataBuf, isCdata, $hs:ident] at hout
  simp [$hs:ident, setOf] at $hnot:ident
  unfold transSet
  simp only [$hs:ident]
  repeat' (rcases hst with hst | hst)
  all_goals (try (obtain ⟨hst, hrs⟩ := hst))
  all_goals (by_cases hd : H5V.Spec.HtmlTokenizer.isAsciiDigit $c = true)
  all_goals (try simp only [Bool.not_eq_true] at hd)
  all_goals (tab_cases $c [$ls,*])))

set_option hygiene false in
/-- like `tab_flat`, for `transSet … (.fromSet c)`. In a return state of character references
(`tabOk_ret`) an alphanumeric character (none of the literals) in the ambiguous ampersand state is one
more leaf. -/
macro "set_flat" h:ident hs:ident c:ident "[" ls:term,* "]" : tactic => `(tactic| (
  first
  | (have hret : isRet (Mach.state ‹Mach›) = true := by rw [$hs:ident]; rfl
     revert ‹Tok›
     refine fun t $h => tabOk_ret hret ?_ ?_ t $h
     · intro t $h hst0
       rw [$hs:ident] at hst0
       simp only [stOf] at hst0
       tab_intro $h $hs
       clear hst
       simp only [transSet]
       tab_cases $c [$ls,*]
     · intro t $h hst0 hrs hna
       have hm : $c ∉ [$ls,*] := fun hc => alnum_not_special hna ((by decide : ∀ x ∈ [$ls,*], x ∈ specials) _ hc)
       simp only [List.mem_cons, List.not_mem_nil, or_false, not_or, not_false_eq_true] at hm
       simp [$hs:ident, stOf] at hrs
       tab_intro $h $hs
       clear hst
       simp only [transSet]
       tab_leaf)
  | (tab_intro $h $hs
     simp only [transSet]
     tab_cases $c [$ls,*])))

/-- the states read with `pop_except_from` other than the unquoted attribute value state; `&` is
excluded where it starts a character reference -/
theorem set_states (o : Opts) (ho : o.exactErrors = false) (pol : Pol) (tree : Tree) (m : Mach) (t : Tok)
    (c : Char) (rest : Str) (h : RegCore m t) (hr : m.reconsume = false)
    (hrk : readKind m.state = .popExcept ∨ readKind m.state = .dataSimd)
    (hu : m.state ≠ .attributeValue .unquoted) (hamp : '&' ∈ setOf m.state → c ≠ '&') :
    TabOk tree t c rest (transSet o pol m (.fromSet c)) := by
  cases hs : m.state
  case data =>
    have hamp := hamp (by rw [hs]; decide)
    set_flat h hs c ['\x00', '<', ';']
  case plaintext => set_flat h hs c ['\x00']
  case rawData k =>
    rcases k with _ | _ | _ | (_ | _)
    · have hamp := hamp (by rw [hs]; decide)
      set_flat h hs c ['\x00', '<', ';']
    · set_flat h hs c ['\x00', '<']
    · set_flat h hs c ['\x00', '<']
    · set_flat h hs c ['\x00', '<', '-']
    · set_flat h hs c ['\x00', '<', '-']
  case attributeValue k =>
    have hamp := hamp (by rw [hs]; cases k <;> decide)
    cases k
    · exact absurd hs hu
    · set_flat h hs c ['\x00', '\'', ';']
    · set_flat h hs c ['\x00', '"', ';']
  all_goals
    rw [hs] at hrk
    simp [readKind] at hrk

/-! ## attribute value (unquoted): the `>` leaf emits the tag -/

theorem set_attrUq (o : Opts) (ho : o.exactErrors = false) (pol : Pol) (tree : Tree) (hpt : PolTree pol tree)
    (m : Mach) (t : Tok) (c : Char) (rest : Str) (h : RegCore m t) (hr : m.reconsume = false)
    (hs : m.state = .attributeValue .unquoted) (hamp : c ≠ '&') :
    TabOk tree t c rest (transSet o pol m (.fromSet c)) := by
  by_cases hgt : c = '>'
  · subst hgt
    have hst := h.st
    simp [hs, stOf, altSt, isRet] at hst
    have hm : transSet o pol m (.fromSet '>') = emitTag pol .data m := by simp [transSet, hs, isWs]
    rw [hm]
    rcases hst with hst | ⟨hst, hrs⟩
    · refine tabOk_gt_of_rel pol tree hpt m t t rest h hr (by rw [hs]; rfl) (Or.inl rfl) ?_
      simp [spec_step, hst]
    · refine tabOk_gt_of_rel pol tree hpt m t { t with state := .attributeValueUnquoted } rest h hr
        (by rw [hs]; rfl) (Or.inr ?_) ?_
      · simp [spec_step, hst, hrs, H5V.Spec.HtmlTokenizer.isAsciiAlphanumeric,
          H5V.Spec.HtmlTokenizer.isAsciiDigit, H5V.Spec.HtmlTokenizer.isAsciiAlpha,
          H5V.Spec.HtmlTokenizer.isAsciiUpperAlpha, H5V.Spec.HtmlTokenizer.isAsciiLowerAlpha]
      · simp [spec_step]
  · set_flat h hs c ['\x00', '\t', '\n', '\x0c', ' ', '"', '\'', '<', '=', '`', ';']

/-! ## one-character runs (`NotFromSet`): the character is not in the state's set

Such a run is treated like the character itself (it is not U+0000, which is in every set), except in
the unquoted attribute value state, where `"`, `'`, `<`, `=` and `` ` `` are errors only as `FromSet`. -/

theorem transSet_notFromSet_single (o : Opts) (pol : Pol) (m : Mach) (c : Char) (hnot : c ∉ setOf m.state)
    (hu : m.state ≠ .attributeValue .unquoted) :
    transSet o pol m (.notFromSet [c]) = transSet o pol m (.fromSet c) := by
  cases hs : m.state with
  | rawData k =>
    rcases k with _ | _ | _ | (_ | _) <;>
      (simp [hs, setOf] at hnot; simp [transSet, hs, hnot, model_ops])
  | attributeValue k =>
    cases k with
    | unquoted => exact absurd hs hu
    | _ => simp [hs, setOf] at hnot; simp [transSet, hs, hnot, model_ops]
  | data => simp [hs, setOf] at hnot; simp [transSet, hs, hnot, model_ops]
  | plaintext => simp [hs, setOf] at hnot; simp [transSet, hs, hnot, model_ops]
  | _ => simp [transSet, hs]

theorem nset_attrUq (o : Opts) (ho : o.exactErrors = false) (pol : Pol) (tree : Tree) (m : Mach) (t : Tok)
    (c : Char) (rest : Str) (h : RegCore m t) (hr : m.reconsume = false) (hs : m.state = .attributeValue .unquoted)
    (hnot : c ∉ setOf m.state) : TabOk tree t c rest (transSet o pol m (.notFromSet [c])) := by
  simp [hs, setOf] at hnot
  set_flat h hs c [';']

end H5V.Lemmas.HtmlTokSpec
