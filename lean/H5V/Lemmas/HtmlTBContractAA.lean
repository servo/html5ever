import H5V.Lemmas.HtmlTBContractAA1
import H5V.Lemmas.HtmlTBContractQuiet
/-!
# TreeSink contract for the HTML tree builder: the adoption agency

Every sink call of `adoption_agency` / `handle_misnested_a_tags` is inside the `TreeSink` contract, and
the stack-order invariant `SAnc` (a later stack entry is never an ancestor-or-self of an earlier one)
holds again afterwards: `cps_adoptionAgency`, `cps_handleMisnestedATags`.
-/
namespace H5V.Lemmas.TBC
open H5V.Model.HtmlTB
open H5V.Model.Dom (Id QualName Attr NodeOrText SinkOp Output ElementFlags QuirksMode Dom NodeData Node Contract)
open H5V.Lemmas.Dom
open H5V.Props.C20 (Inv Run)
open H5V.Lemmas.TBSafe (IsEl nm sigOf Ext apply_ext tmplName fmtNames nm_ext sigOf_ext IsEl.ext sigOf_lt
  namedP)

variable {d0 : Dom}

/-- the postcondition of this file: base invariant, stack-order invariant, elements stay elements -/
abbrev APost (d0 : Dom) (s s' : State) : Prop := CB d0 s' ∧ SAnc s'.dom s'.openElems ∧ Ext s.dom s'.dom

theorem apost_of_q2 {s s' : State} (hcb : CB d0 s) (hsa : SAnc s.dom s.openElems) (hq : Q2 d0 s s') :
    APost d0 s s' :=
  ⟨hq.cb, hsa.grow hcb.d.inv.wf hcb.h.lt hq.g, hq.ext⟩

theorem apost_of_cps {α : Type} {m : M α} {R : α → List Id} (h : CPS d0 [] m R) {s : State} (hcb : CB d0 s)
    (hsa : SAnc s.dom s.openElems) : SatC m s (fun _ s' => APost d0 s s') := by
  refine (h s hcb hsa (CtxOk.nil s)).mono ?_
  rintro a s' ⟨h1, h2, h3, _⟩
  exact ⟨h1, h2, h3⟩


theorem SatC.bind2 {α β γ : Type} {m1 : M α} {m2 : α → M β} {f : β → M γ} {s : State} {Q : β → State → Prop}
    {R : γ → State → Prop} (h : SatC (m1 >>= m2) s Q) (hf : ∀ b s', Q b s' → SatC (f b) s' R) :
    SatC (m1 >>= fun a => m2 a >>= f) s R := by
  have := h.bind hf
  rw [bind_assoc] at this
  exact this

/-- between step 17 and step 19: the clone `new` hangs below the furthest block `fb` and is not on
the stack `l` yet -/
structure Mid (d0 : Dom) (e0 : Dom) (x fb new : Id) (l : List Id) (s : State) : Prop where
  cb : CB d0 s
  sa : SAnc s.dom s.openElems
  stack : s.openElems = l
  par : s.dom.parentOf new = some fb
  ext : Ext e0 s.dom
  xel : IsEl s.dom x
  fbel : IsEl s.dom fb
  newel : IsEl s.dom new
  newtc : TcDoc s.dom new

theorem Mid.q2 {e0 : Dom} {x fb new : Id} {l : List Id} {s s' : State} (h : Mid d0 e0 x fb new l s)
    (hq : Q2 d0 s s') : Mid d0 e0 x fb new l s' where
  cb := hq.cb
  sa := h.sa.grow h.cb.d.inv.wf h.cb.h.lt hq.g
  stack := by rw [hq.openElems]; exact h.stack
  par := by rw [hq.g.oldPar new (lt_of_isEl h.newel)]; exact h.par
  ext := h.ext.trans hq.ext
  xel := h.xel.ext hq.ext
  fbel := h.fbel.ext hq.ext
  newel := h.newel.ext hq.ext
  newtc := h.newtc.ext hq.ext hq.g.kext h.newel

theorem Mid.withAF {e0 : Dom} {x fb new : Id} {l : List Id} {s : State} (h : Mid d0 e0 x fb new l s)
    (af' : List FormatEntry)
    (haf : ∀ y t, FormatEntry.element y t ∈ af' → FormatEntry.element y t ∈ s.activeFormatting ∨
      (IsEl s.dom y ∧ nm s.dom y = ⟨nsHtml, t.name⟩ ∧ isOneOf t.name fmtNames = true ∧ AttrsOk t.attrs)) :
    Mid d0 e0 x fb new l { s with activeFormatting := af' } :=
  ⟨cb_updAF h.cb af' haf, h.sa, h.stack, h.par, h.ext, h.xel, h.fbel, h.newel, h.newtc⟩

theorem Mid.finish {e0 : Dom} {x fb new : Id} {l : List Id} {s : State} (h : Mid d0 e0 x fb new l s)
    (hn : new ∉ l) :
    SatC (do
      removeFromStack x
      let __do_lift ← getS
      let __do_lift ← positionSameNode fb __do_lift.openElems 0
      match __do_lift with
        | none => panicAt "fb-missing" "mod.rs:916" "furthest block missing from open element stack"
        | some nfbi => do
          modS fun s => { s with openElems := s.openElems.insertIdx (nfbi + 1) new }
          pure false) s (fun _ s' => CB d0 s' ∧ SAnc s'.dom s'.openElems ∧ Ext e0 s'.dom) := by
  refine (satc_aaStep19 h.cb h.sa h.xel h.fbel h.newel h.newtc (by rw [h.stack]; exact hn) h.par).mono ?_
  rintro _ s' ⟨h1, h2, h3⟩
  exact ⟨h1, h2, h.ext.trans h3⟩

theorem satc_aaOuterStep {subject : Str} {s : State} (hcb : CB d0 s) (hsa : SAnc s.dom s.openElems)
    (_hsub : isOneOf subject fmtNames = true) :
    SatC (aaOuterStep subject) s (fun _ s' => APost d0 s s') := by
  unfold aaOuterStep
  dsimp only
  refine satc_getS_bind ?_
  split
  · refine (apost_of_cps (cp_toCPS cp_processEndTagInBody) hcb hsa).bind ?_
    intro _ s1 h1
    exact satc_pure h1
  · rename_i fmtElemIndex fmtElem fmtElemTag hfind
    have hname : fmtElemTag.name = subject := by have := List.find?_some hfind; simpa using this
    have hent := TBSafe.mem_afEndToMarker (List.mem_of_find?_eq_some hfind)
    obtain ⟨hfel, hfnm, htfmt, hattrs⟩ := hcb.h.af fmtElem fmtElemTag (List.mem_of_getElem? hent)
    refine (satcv_rposition (P := fun n => n == fmtElem) hcb
      (fun x hx => answersC_sameNode_right hfel (hcb.h.open_el x hx))).bind ?_
    rintro r s1 ⟨rfl, hq1⟩
    rcases TBSafe.rposL_spec (P := fun n => n == fmtElem) s.openElems with ⟨h1, _⟩ | ⟨pre, x, post, heq, h1, h2, h3⟩
    · rw [h1]
      dsimp only
      refine (satcv_parseError hq1.cb).bind ?_
      intro _ s2 hq2
      have hq := hq1.trans hq2
      refine (satc_afRemove).bind ?_
      rintro _ s3 rfl
      obtain ⟨a1, a2, a3⟩ := apost_of_q2 hcb hsa hq
      exact satc_pure ⟨cb_afErase a1 _, a2, a3⟩
    · rw [h1]
      dsimp only
      have hx : x = fmtElem := by simpa using h2
      subst hx
      have hfel1 : IsEl s1.dom x := hfel.ext hq1.ext
      have hopen1 : s1.openElems = pre ++ x :: post := by rw [hq1.openElems]; exact heq
      refine (satcv_inScope (scope := defaultScope) (P := fun n => n == x) hq1.cb
        (fun y hy => answersC_sameNode_right hfel1 (hq1.cb.h.open_el y hy))).bind ?_
      rintro b s2 ⟨rfl, hq2⟩
      have hq12 := hq1.trans hq2
      cases hsc : TBSafe.inScopeP s1.dom defaultScope (fun n => n == x) s1.openElems.reverse with
      | false =>
        refine satc_ite (fun _ => ?_) (fun hn => absurd rfl hn)
        refine (satcv_parseError hq2.cb).bind ?_
        intro _ s3 hq3
        exact satc_pure (apost_of_q2 hcb hsa (hq12.trans hq3))
      | true =>
        refine satc_ite (fun h => absurd h (by decide)) (fun _ => ?_)
        obtain ⟨pre', x', post', hts⟩ := TBSafe.inScopeP_split hsc
        obtain ⟨hpre', hx', hpost'⟩ := split_last_unique (P := fun n => n == x) (hopen1.symm.trans hts.eq) h2 hts.px
          h3 (fun y hy => (hts.above y hy).1)
        subst hpre' hx' hpost'
        have habove : ∀ y ∈ post, defaultScope (nm s1.dom y) = false := fun y hy => (hts.above y hy).2
        refine satcv_currentNode.bind ?_
        rintro cur s2' ⟨rfl, hcur⟩
        have hcurel : IsEl s2'.dom cur := hq2.cb.h.open_el cur (List.mem_of_getLast? hcur)
        refine (satcv_sameNode hq2.cb hcurel (hfel1.ext hq2.ext)).bind ?_
        rintro b3 s3 ⟨-, hq3⟩
        refine satc_if_pre hq3.cb (satcv_parseError hq3.cb) ?_
        intro s4 hq4
        have hq : Q2 d0 s s4 := (hq12.trans hq3).trans hq4
        have hcb4 := hq4.cb
        refine satc_getS_bind ?_
        have hopen4 : s4.openElems = pre ++ x :: post := by rw [hq.openElems]; exact heq
        have hdrop : List.drop pre.length s4.openElems = x :: post := by rw [hopen4]; simp
        rw [hdrop]
        have hall4 : ∀ y ∈ x :: post, IsEl s4.dom y :=
          fun y hy => hcb4.h.open_el y (by rw [hopen4]; exact List.mem_append_right _ hy)
        refine (satcv_findFurthestBlock _ _ s4 hcb4 hall4).bind ?_
        rintro r s5 ⟨rfl, hq5⟩
        have hq05 : Q2 d0 s s5 := hq.trans hq5
        have hcb5 := hq5.cb
        have hsa5 : SAnc s5.dom s5.openElems := (apost_of_q2 hcb hsa hq05).2.1
        have hopen5 : s5.openElems = pre ++ x :: post := by rw [hq5.openElems]; exact hopen4
        cases hffb : TBSafe.ffbP s4.dom (x :: post) pre.length with
        | none =>
          dsimp only
          refine satc_modS_bind ?_
          refine (satc_afRemove).bind ?_
          rintro _ s6 rfl
          obtain ⟨hcb6, _⟩ := cb_dropStack hcb5 (List.take_sublist pre.length s5.openElems)
          exact satc_pure ⟨cb_afErase hcb6 _, hsa5.sublist (List.take_sublist _ _), hq05.ext⟩
        | some p =>
          obtain ⟨fbi, fb⟩ := p
          dsimp only
          obtain ⟨hle, hfbget, hfbsp4, _⟩ := TBSafe.ffbP_some hffb
          refine satc_ite (fun _ => satc_panicAt_bind) (fun hnz => ?_)
          have hprelen : 0 < pre.length := by
            have : ¬ pre.length = 0 := by simpa using hnz
            omega
          refine satc_getS_bind ?_
          cases hca : s5.openElems[pre.length - 1]? with
          | none => exact satc_panicAt_bind
          | some ca =>
            dsimp only
            refine SatC.bind (Q := fun r s' => ca = r ∧ s5 = s') (satc_pure ⟨rfl, rfl⟩) ?_
            rintro ca' s5' ⟨rfl, rfl⟩
            have hcam : ca ∈ pre := by
              rw [hopen5, List.getElem?_append_left (by omega)] at hca
              exact List.mem_of_getElem? hca
            -- the handles
            have he05 : Ext s.dom s5.dom := hq05.ext
            have he15 : Ext s1.dom s5.dom := ((hq2.trans hq3).trans hq4).ext.trans hq5.ext
            have hxel5 : IsEl s5.dom x := hfel.ext he05
            have hfbmem : fb ∈ x :: post := List.mem_of_getElem? hfbget
            have hfbmem5 : fb ∈ s5.openElems := by rw [hopen5]; exact List.mem_append_right _ hfbmem
            have hfbel5 : IsEl s5.dom fb := hcb5.h.open_el fb hfbmem5
            have hfnm5 : nm s5.dom x = ⟨nsHtml, fmtElemTag.name⟩ := by rw [nm_ext he05 hfel]; exact hfnm
            -- the furthest block is above the formatting element
            have hlt : pre.length < fbi := by
              by_cases h0 : fbi - pre.length = 0
              · exfalso
                rw [h0] at hfbget
                simp only [List.getElem?_cons_zero, Option.some.injEq] at hfbget
                subst hfbget
                have hxel4 : IsEl s4.dom x := hall4 x List.mem_cons_self
                rw [← nm_ext hq5.ext hxel4, hfnm5, TBSafe.fmt_not_special htfmt] at hfbsp4
                cases hfbsp4
              · omega
            -- the invariant of the inner loop
            have hv5 : AInv s5 x pre fbi fb := by
              refine ⟨hlt, by rw [hopen5]; simp, by rw [hopen5]; simp, ⟨fbi, Nat.le_refl _, ?_⟩, ?_, hsa5⟩
              · rw [hopen5, List.getElem?_append_right hle]; exact hfbget
              · intro k y hk hy
                rw [hopen5, List.getElem?_append_right hk] at hy
                rcases List.mem_cons.mp (List.mem_of_getElem? hy) with rfl | hy'
                · exact notTT_of_fmt hfnm5 htfmt
                · have hyel : IsEl s1.dom y := hq1.cb.h.open_el y (by rw [hopen1]; simp [hy'])
                  exact (notTT_of_not_scope (habove y hy')).ext he15 hyel
            refine (satc_aaInner fbi 0 s5 fb (.replace x) hcb5 hfbel5 hxel5 hv5).bind ?_
            rintro ⟨lastNode, bm⟩ s6 ⟨hcb6, he56, ⟨hfb6, hbm6⟩, hv6⟩
            dsimp only
            have he06 : Ext s.dom s6.dom := he05.trans he56
            refine SatC.bind2 (satc_aaStep14 hcb6 hv6 hcam) ?_
            rintro _ s9 ⟨hcb9, he69, ho9, haf9, hsa9⟩
            have he09 : Ext s.dom s9.dom := he06.trans he69
            refine (satc_createElement hcb9 (attrKeysNodup_of_attrsOk hattrs)).bind ?_
            intro new s10 hcr
            have hcb10 := hcr.q.cb
            have hfb9 : IsEl s9.dom fb := hfb6.ext he69
            have hfb10 : IsEl s10.dom fb := hfb9.ext hcr.q.ext
            have hsa10 : SAnc s10.dom s10.openElems := hsa9.grow hcb9.d.inv.wf hcb9.h.lt hcr.q.g
            have hnotin10 : new ∉ s10.openElems := by
              intro hmem
              rw [hcr.q.openElems] at hmem
              exact Nat.lt_irrefl _ (Nat.lt_of_lt_of_le (hcb9.h.lt new hmem) hcr.ge)
            have hfbne : fb ≠ new := by
              rintro rfl
              exact Nat.lt_irrefl _ (Nat.lt_of_lt_of_le (lt_of_isEl hfb9) hcr.ge)
            have hk10 : NoKids s10.dom new := noKids_of_children hcb10.d.inv.wf hcr.fresh.kids
            refine (satc_reparentChildren hcb10 hfb10 hcr.el
              (fun ha => hfbne (anc_of_parentless hcr.fresh.par ha))).bind ?_
            rintro _ s11 ⟨ht11, _, hp11⟩
            have hpn11 : s11.dom.parentOf new = none := by
              rw [hp11, hcr.fresh.par]; simp
            refine (satc_append_moved ht11.cb (hfb10.ext ht11.ext) (hcr.el.ext ht11.ext) hpn11
              (not_anc_after_reparent hcb10.d.inv.wf hk10 hfbne hp11)).bind ?_
            rintro _ s12 ⟨ht12, heff12⟩
            have he1012 : Ext s10.dom s12.dom := ht11.ext.trans ht12.ext
            have ho12 : s12.openElems = s10.openElems := by rw [ht12.openElems, ht11.openElems]
            have hmid : Mid d0 s.dom x fb new s10.openElems s12 := by
              refine ⟨ht12.cb, ?_, ho12, by rw [heff12.par]; simp, (he09.trans hcr.q.ext).trans he1012,
                (hfel.ext (he09.trans hcr.q.ext)).ext he1012, hfb10.ext he1012, hcr.el.ext he1012,
                hcr.tc.ext he1012 (ht11.kext.trans ht12.kext) hcr.el⟩
              rw [ho12]
              exact sanc_after_clone hsa10 hnotin10 hcr.fresh.par hk10 hp11 heff12.par
            have hnewnm : nm s10.dom new = ⟨nsHtml, fmtElemTag.name⟩ := hcr.nm
            have hbm12 : IsEl s12.dom (bmId bm) := ((hbm6.ext he69).ext hcr.q.ext).ext he1012
            -- a new entry for the clone in the list of active formatting elements
            have hentry : ∀ {s' : State}, Ext s10.dom s'.dom →
                IsEl s'.dom new ∧ nm s'.dom new = ⟨nsHtml, fmtElemTag.name⟩ ∧
                  isOneOf fmtElemTag.name fmtNames = true ∧ AttrsOk fmtElemTag.attrs :=
              fun he => ⟨hcr.el.ext he, by rw [nm_ext he hcr.el]; exact hnewnm, htfmt, hattrs⟩
            cases bm with
            | replace toReplace =>
              dsimp only
              refine (satc_positionInActiveFormatting ht12.cb hbm12).bind ?_
              intro r s13 hq13
              have hmid13 := hmid.q2 hq13
              cases r with
              | none => exact satc_panicAt_bind
              | some index =>
                dsimp only
                refine satc_modS_bind ?_
                refine (Mid.finish (hmid13.withAF _ ?_) hnotin10).mono ?_
                · intro y t hy
                  rcases List.mem_or_eq_of_mem_set hy with h | h
                  · exact Or.inl h
                  · cases h; exact Or.inr (hentry (he1012.trans hq13.ext))
                · rintro _ s' ⟨a1, a2, a3⟩
                  exact ⟨a1, a2, a3⟩
            | insertAfter previous =>
              dsimp only
              refine (satc_positionInActiveFormatting ht12.cb hbm12).bind ?_
              intro r s13 hq13
              have hmid13 := hmid.q2 hq13
              cases r with
              | none => exact satc_panicAt_bind
              | some index =>
                dsimp only
                refine satc_modS_bind ?_
                have hmid14 := hmid13.withAF
                  (s13.activeFormatting.insertIdx (index + 1) (FormatEntry.element new fmtElemTag)) (by
                    intro y t hy
                    rcases mem_insertIdx_or hy with h | h
                    · cases h; exact Or.inr (hentry (he1012.trans hq13.ext))
                    · exact Or.inl h)
                refine (satc_positionInActiveFormatting hmid14.cb hmid14.xel).bind ?_
                intro r2 s15 hq15
                have hmid15 := hmid14.q2 hq15
                cases r2 with
                | none => exact satc_panicAt_bind
                | some oldIndex =>
                  dsimp only
                  refine (satc_afRemove).bind ?_
                  rintro _ s16 rfl
                  refine (Mid.finish (hmid15.withAF _ ?_) hnotin10).mono ?_
                  · intro y t hy; exact Or.inl (List.mem_of_mem_eraseIdx hy)
                  · rintro _ s' ⟨a1, a2, a3⟩
                    exact ⟨a1, a2, a3⟩

theorem apost_trans {a b c : State} (h1 : APost d0 a b) (h2 : APost d0 b c) : APost d0 a c :=
  ⟨h2.1, h2.2.1, h1.2.2.trans h2.2.2⟩

theorem satc_aaOuter {subject : Str} (hsub : isOneOf subject fmtNames = true) : ∀ (n : Nat) (s : State),
    CB d0 s → SAnc s.dom s.openElems → SatC (aaOuter subject n) s (fun _ s' => APost d0 s s') := by
  intro n
  induction n with
  | zero => intro s hcb hsa; exact satc_pure ⟨hcb, hsa, Ext.refl _⟩
  | succ n ih =>
    intro s hcb hsa
    unfold aaOuter
    refine (satc_aaOuterStep hcb hsa hsub).bind ?_
    intro b s1 h1
    refine satc_ite (fun _ => satc_pure h1) (fun _ => ?_)
    exact (ih s1 h1.1 h1.2.1).mono (fun _ s2 h2 => apost_trans h1 h2)

theorem cps_aaOuter {c : List Id} {subject : Str} (hsub : isOneOf subject fmtNames = true) (n : Nat) :
    CPS d0 c (aaOuter subject n) (fun _ => []) := by
  intro s hcb hsa _
  refine (satc_aaOuter hsub n s hcb hsa).mono ?_
  rintro _ s' ⟨h1, h2, h3⟩
  exact ⟨h1, h2, h3, CtxOk.nil _⟩

/-- **the adoption agency algorithm: every sink call is inside the contract** -/
theorem cps_adoptionAgency {c : List Id} {subject : Str} (hsub : isOneOf subject fmtNames = true) :
    CPS d0 c (adoptionAgency subject) (fun _ => []) := by
  unfold adoptionAgency
  have hjp : ∀ (c' : List Id) (shortcut : Bool), CPS d0 c'
      (if shortcut = true then do
          let _ ← pop
          pure ()
        else aaOuter subject 8) (fun _ => []) := by
    intro c' shortcut
    refine cps_ite (fun _ => ?_) (fun _ => cps_aaOuter hsub 8)
    refine cp_toCPS (cp_bind cp_pop ?_)
    intro _
    exact cp_pure_nil _
  refine cps_bind (R := fun _ => []) (cp_toCPS cp_currentNodeNamedS) ?_
  intro b
  dsimp only
  refine cps_ite (fun _ => ?_) (fun _ => ?_)
  · refine cps_bind (cp_toCPS cp_currentNode) ?_
    intro cur
    refine cps_bind (R := fun _ => [])
      (cp_toCPS (cp_positionInActiveFormatting (List.mem_append_left _ List.mem_cons_self))) ?_
    intro r
    refine cps_bind (R := fun _ => []) (cp_toCPS (cp_pure_nil _)) ?_
    intro sc
    exact hjp _ sc
  · refine cps_bind (R := fun _ => []) (cp_toCPS (cp_pure_nil _)) ?_
    intro sc
    exact hjp _ sc

/-- **`handle_misnested_a_tags`** -/
theorem cps_handleMisnestedATags {c : List Id} : CPS d0 c handleMisnestedATags (fun _ => []) := by
  unfold handleMisnestedATags
  refine cps_getS_bind ?_
  intro s0
  refine cps_bind (cp_toCPS cp_findAInAF_state) ?_
  intro r
  cases r with
  | none => exact cp_toCPS (cp_pure_nil _)
  | some node =>
    dsimp only
    have hnode : ∀ (c' : List Id), node ∈ c' ++ ([node] ++ (stH s0 ++ c)) :=
      fun c' => List.mem_append_right _ (List.mem_append_left _ List.mem_cons_self)
    refine cps_bind (R := fun _ => []) (cp_toCPS cp_unexpected) ?_
    intro _
    refine cps_bind (R := fun _ => []) (cps_adoptionAgency (by decide)) ?_
    intro _
    refine cps_bind (R := fun _ => [])
      (cp_toCPS (cp_positionInActiveFormatting (List.mem_append_right _ (hnode _)))) ?_
    intro r2
    have hrm : ∀ (c' : List Id), node ∈ c' → CPS d0 c' (removeFromStack node) (fun _ => []) :=
      fun c' h => cp_toCPS (cp_removeFromStack h)
    cases r2 with
    | none => exact hrm _ (List.mem_append_right _ (List.mem_append_right _ (hnode _)))
    | some index =>
      dsimp only
      refine cps_bind (R := fun _ => []) (cp_toCPS cp_afRemove) ?_
      intro _
      exact hrm _ (List.mem_append_right _ (List.mem_append_right _ (List.mem_append_right _ (hnode _))))

end H5V.Lemmas.TBC
