import H5V.Lemmas.HtmlTBFuelLogic
/-!
# The fuel of `process_to_completion`: the helpers only shrink the stack (`SH`)
-/
namespace H5V.Lemmas.TBFuel
open H5V.Model.HtmlTB
open H5V.Model.HtmlTok (TagKind)
open H5V.Model.Dom (Id QualName Attr NodeOrText SinkOp Output ElementFlags QuirksMode Dom NodeData Node)
open H5V.Lemmas.TBSafe
open H5V.Lemmas.TBC (ok_bind ok_pure ok_getS_bind ok_modS_bind ok_ite ok_bind_pure)

theorem sh_htmlElemNamedS (h : Id) (name : Str) : SH (htmlElemNamedS h name) := by
  unfold H5V.Model.HtmlTB.htmlElemNamedS; sh_walk
macro_rules | `(tactic| sh_leaf) => `(tactic| with_reducible exact sh_htmlElemNamedS _ _)

theorem sh_htmlElemNamed (h : Id) (name : String) : SH (htmlElemNamed h name) := sh_htmlElemNamedS _ _
macro_rules | `(tactic| sh_leaf) => `(tactic| with_reducible exact sh_htmlElemNamed _ _)

theorem sh_elemIn (h : Id) (set : EName → Bool) : SH (elemIn h set) := by
  unfold H5V.Model.HtmlTB.elemIn; sh_walk
macro_rules | `(tactic| sh_leaf) => `(tactic| with_reducible exact sh_elemIn _ _)

theorem sh_sameNode (x y : Id) : SH (sameNode x y) := sh_sinkBool _
macro_rules | `(tactic| sh_leaf) => `(tactic| with_reducible exact sh_sameNode _ _)

theorem sh_currentNode : SH currentNode := by
  unfold H5V.Model.HtmlTB.currentNode
  refine sh_getS_bind (fun s0 => ?_)
  cases s0.openElems.getLast? <;> sh_walk
macro_rules | `(tactic| sh_leaf) => `(tactic| with_reducible exact sh_currentNode)

theorem sh_adjustedCurrentNode : SH adjustedCurrentNode := by
  unfold H5V.Model.HtmlTB.adjustedCurrentNode
  refine sh_getS_bind (fun s0 => ?_)
  refine sh_ite (fun _ => ?_) (fun _ => sh_currentNode)
  cases s0.contextElem <;> sh_walk
macro_rules | `(tactic| sh_leaf) => `(tactic| with_reducible exact sh_adjustedCurrentNode)

theorem sh_currentNodeIn (set : EName → Bool) : SH (currentNodeIn set) := by
  unfold H5V.Model.HtmlTB.currentNodeIn; sh_walk
macro_rules | `(tactic| sh_leaf) => `(tactic| with_reducible exact sh_currentNodeIn _)

theorem sh_currentNodeNamedS (name : Str) : SH (currentNodeNamedS name) := by
  unfold H5V.Model.HtmlTB.currentNodeNamedS; sh_walk
macro_rules | `(tactic| sh_leaf) => `(tactic| with_reducible exact sh_currentNodeNamedS _)

theorem sh_currentNodeNamed (name : String) : SH (currentNodeNamed name) := sh_currentNodeNamedS _
macro_rules | `(tactic| sh_leaf) => `(tactic| with_reducible exact sh_currentNodeNamed _)

theorem sh_htmlElem : SH htmlElem := by
  unfold H5V.Model.HtmlTB.htmlElem
  refine sh_getS_bind (fun s0 => ?_)
  cases s0.openElems.head? <;> sh_walk
macro_rules | `(tactic| sh_leaf) => `(tactic| with_reducible exact sh_htmlElem)

theorem sh_isFragment : SH isFragment := by
  unfold H5V.Model.HtmlTB.isFragment; sh_walk
macro_rules | `(tactic| sh_leaf) => `(tactic| with_reducible exact sh_isFragment)

theorem shr_dropStack (s : State) {l : List Id} (h : l.Sublist s.openElems) : Shr s { s with openElems := l } :=
  ⟨Ext.refl _, h, rfl, rfl⟩

theorem sh_pop : SH pop := by
  unfold H5V.Model.HtmlTB.pop
  refine sh_getS_bind_at (fun s0 => ?_)
  cases s0.openElems.getLast? with
  | none => exact sh_at sh_panicAt _
  | some h =>
    dsimp only
    refine shat_set_bind (shr_dropStack s0 (List.dropLast_sublist _)) ?_
    sh_walk
macro_rules | `(tactic| sh_leaf) => `(tactic| with_reducible exact sh_pop)

theorem sh_popSilently : SH popSilently := by
  unfold H5V.Model.HtmlTB.popSilently
  refine sh_getS_bind_at (fun s0 => ?_)
  cases s0.openElems.getLast? with
  | none => exact sh_at (sh_pure _) _
  | some h =>
    dsimp only
    refine shat_set_bind (shr_dropStack s0 (List.dropLast_sublist _)) ?_
    sh_walk
macro_rules | `(tactic| sh_leaf) => `(tactic| with_reducible exact sh_popSilently)

/-- an update of builder fields other than the stack and the template modes -/
theorem sh_modS_fields {f : State → State} (hd : ∀ s, (f s).dom = s.dom) (ho : ∀ s, (f s).openElems = s.openElems)
    (ht : ∀ s, (f s).templateModes = s.templateModes) (hor : ∀ s, (f s).origMode = s.origMode := by intro _; rfl) :
    SH (modS f) :=
  sh_modS (fun s => ⟨by rw [hd]; exact Ext.refl _, by rw [ho]; exact List.Sublist.refl _, ht s, hor s⟩)

theorem sh_setMode (m : Mode) : SH (setMode m) := sh_modS_fields (fun _ => rfl) (fun _ => rfl) (fun _ => rfl)
theorem sh_setFramesetOk (b : Bool) : SH (setFramesetOk b) := sh_modS_fields (fun _ => rfl) (fun _ => rfl) (fun _ => rfl)
theorem sh_pushMarker : SH pushMarker := sh_modS_fields (fun _ => rfl) (fun _ => rfl) (fun _ => rfl)
theorem sh_clearActiveFormattingToMarker : SH clearActiveFormattingToMarker :=
  sh_modS_fields (fun _ => rfl) (fun _ => rfl) (fun _ => rfl)
macro_rules | `(tactic| sh_leaf) => `(tactic| with_reducible exact sh_setMode _)
macro_rules | `(tactic| sh_leaf) => `(tactic| with_reducible exact sh_setFramesetOk _)
macro_rules | `(tactic| sh_leaf) => `(tactic| with_reducible exact sh_pushMarker)
macro_rules | `(tactic| sh_leaf) => `(tactic| with_reducible exact sh_clearActiveFormattingToMarker)

theorem sh_unexpected : SH unexpected := by
  unfold H5V.Model.HtmlTB.unexpected; sh_walk
macro_rules | `(tactic| sh_leaf) => `(tactic| with_reducible exact sh_unexpected)

theorem sh_setQuirksMode (m : QuirksMode) : SH (setQuirksMode m) := by
  unfold H5V.Model.HtmlTB.setQuirksMode
  exact sh_bind (sh_modS_fields (fun _ => rfl) (fun _ => rfl) (fun _ => rfl)) (fun _ => sh_sinkUnit _)
macro_rules | `(tactic| sh_leaf) => `(tactic| with_reducible exact sh_setQuirksMode _)

theorem sh_anyHtmlElemNamed (name : String) : ∀ l, SH (anyHtmlElemNamed name l) := by
  intro l
  induction l with
  | nil => unfold anyHtmlElemNamed; exact sh_pure _
  | cons e rest ih => unfold anyHtmlElemNamed; sh_walk; exact ih
macro_rules | `(tactic| sh_leaf) => `(tactic| with_reducible exact sh_anyHtmlElemNamed _ _)

theorem sh_inHtmlElemNamed (name : String) : SH (inHtmlElemNamed name) := by
  unfold H5V.Model.HtmlTB.inHtmlElemNamed; sh_walk
macro_rules | `(tactic| sh_leaf) => `(tactic| with_reducible exact sh_inHtmlElemNamed _)

theorem sh_inScopeLoop (scope : EName → Bool) {pred : Id → M Bool} (hp : ∀ x, SH (pred x)) :
    ∀ l, SH (inScopeLoop scope pred l) := by
  intro l
  induction l with
  | nil => unfold inScopeLoop; exact sh_pure _
  | cons e rest ih =>
    unfold inScopeLoop
    refine sh_bind (hp e) (fun _ => ?_)
    refine sh_ite (fun _ => sh_pure _) (fun _ => ?_)
    refine sh_bind (sh_elemName _) (fun _ => ?_)
    exact sh_ite (fun _ => sh_pure _) (fun _ => ih)

theorem sh_inScope (scope : EName → Bool) {pred : Id → M Bool} (hp : ∀ x, SH (pred x)) : SH (inScope scope pred) := by
  unfold H5V.Model.HtmlTB.inScope
  exact sh_getS_bind (fun _ => sh_inScopeLoop scope hp _)

theorem sh_inScopeNamedS (scope : EName → Bool) (name : Str) : SH (inScopeNamedS scope name) :=
  sh_inScope scope (fun _ => sh_htmlElemNamedS _ _)
theorem sh_inScopeNamed (scope : EName → Bool) (name : String) : SH (inScopeNamed scope name) :=
  sh_inScopeNamedS _ _
theorem sh_inScope_elemIn (scope set : EName → Bool) : SH (inScope scope (fun e => elemIn e set)) :=
  sh_inScope scope (fun _ => sh_elemIn _ _)
theorem sh_inScope_sameNode (scope : EName → Bool) (node : Id) : SH (inScope scope (fun n => sameNode node n)) :=
  sh_inScope scope (fun _ => sh_sameNode _ _)
macro_rules | `(tactic| sh_leaf) => `(tactic| with_reducible exact sh_inScopeNamedS _ _)
macro_rules | `(tactic| sh_leaf) => `(tactic| with_reducible exact sh_inScopeNamed _ _)
macro_rules | `(tactic| sh_leaf) => `(tactic| with_reducible exact sh_inScope_elemIn _ _)
macro_rules | `(tactic| sh_leaf) => `(tactic| with_reducible exact sh_inScope_sameNode _ _)

theorem sh_generateImpliedEndTagsLoop (set : EName → Bool) : ∀ n, SH (generateImpliedEndTagsLoop set n) := by
  intro n
  induction n with
  | zero => unfold generateImpliedEndTagsLoop; exact sh_fuelOut
  | succ n ih =>
    unfold generateImpliedEndTagsLoop
    refine sh_getS_bind (fun s0 => ?_)
    cases s0.openElems.getLast? with
    | none => exact sh_pure _
    | some e => dsimp only; sh_walk; exact ih

theorem sh_generateImpliedEndTags (set : EName → Bool) : SH (generateImpliedEndTags set) := by
  unfold H5V.Model.HtmlTB.generateImpliedEndTags
  exact sh_getS_bind (fun _ => sh_generateImpliedEndTagsLoop _ _)
theorem sh_generateImpliedEndExcept (e : Str) : SH (generateImpliedEndExcept e) := sh_generateImpliedEndTags _
macro_rules | `(tactic| sh_leaf) => `(tactic| with_reducible exact sh_generateImpliedEndTags _)
macro_rules | `(tactic| sh_leaf) => `(tactic| with_reducible exact sh_generateImpliedEndExcept _)

theorem sh_popUntilCurrentLoop (set : EName → Bool) : ∀ n, SH (popUntilCurrentLoop set n) := by
  intro n
  induction n with
  | zero => unfold popUntilCurrentLoop; exact sh_fuelOut
  | succ n ih => unfold popUntilCurrentLoop; sh_walk; exact ih

theorem sh_popUntilCurrent (set : EName → Bool) : SH (popUntilCurrent set) := by
  unfold H5V.Model.HtmlTB.popUntilCurrent
  exact sh_getS_bind (fun _ => sh_popUntilCurrentLoop _ _)
macro_rules | `(tactic| sh_leaf) => `(tactic| with_reducible exact sh_popUntilCurrent _)

theorem sh_popUntilLoop (pred : EName → Bool) : ∀ n k, SH (popUntilLoop pred n k) := by
  intro n
  induction n with
  | zero => intro k; unfold popUntilLoop; exact sh_fuelOut
  | succ n ih =>
    intro k
    unfold popUntilLoop
    dsimp only
    refine sh_bind sh_popSilently (fun o => ?_)
    cases o with
    | none => exact sh_pure _
    | some e => dsimp only; sh_walk; exact ih _

theorem sh_popUntil (pred : EName → Bool) : SH (popUntil pred) := by
  unfold H5V.Model.HtmlTB.popUntil
  exact sh_getS_bind (fun _ => sh_popUntilLoop _ _ _)
theorem sh_popUntilNamedS (name : Str) : SH (popUntilNamedS name) := sh_popUntil _
theorem sh_popUntilNamed (name : String) : SH (popUntilNamed name) := sh_popUntil _
macro_rules | `(tactic| sh_leaf) => `(tactic| with_reducible exact sh_popUntil _)
macro_rules | `(tactic| sh_leaf) => `(tactic| with_reducible exact sh_popUntilNamedS _)
macro_rules | `(tactic| sh_leaf) => `(tactic| with_reducible exact sh_popUntilNamed _)

theorem sh_expectToCloseS (name : Str) : SH (expectToCloseS name) := by
  unfold H5V.Model.HtmlTB.expectToCloseS; sh_walk
theorem sh_expectToClose (name : String) : SH (expectToClose name) := sh_expectToCloseS _
macro_rules | `(tactic| sh_leaf) => `(tactic| with_reducible exact sh_expectToCloseS _)
macro_rules | `(tactic| sh_leaf) => `(tactic| with_reducible exact sh_expectToClose _)

theorem sh_closePElement : SH closePElement := by
  unfold H5V.Model.HtmlTB.closePElement; sh_walk
macro_rules | `(tactic| sh_leaf) => `(tactic| with_reducible exact sh_closePElement)

theorem sh_closePElementInButtonScope : SH closePElementInButtonScope := by
  unfold H5V.Model.HtmlTB.closePElementInButtonScope; sh_walk
macro_rules | `(tactic| sh_leaf) => `(tactic| with_reducible exact sh_closePElementInButtonScope)

theorem sh_checkBodyEndLoop : ∀ l, SH (checkBodyEndLoop l) := by
  intro l
  induction l with
  | nil => unfold checkBodyEndLoop; exact sh_pure _
  | cons e rest ih => unfold checkBodyEndLoop; sh_walk; exact ih

theorem sh_checkBodyEnd : SH checkBodyEnd := by
  unfold H5V.Model.HtmlTB.checkBodyEnd
  exact sh_getS_bind (fun _ => sh_checkBodyEndLoop _)
macro_rules | `(tactic| sh_leaf) => `(tactic| with_reducible exact sh_checkBodyEnd)

theorem sh_closeTheCell : SH closeTheCell := by
  unfold H5V.Model.HtmlTB.closeTheCell; sh_walk
macro_rules | `(tactic| sh_leaf) => `(tactic| with_reducible exact sh_closeTheCell)

theorem sh_popTr (site : String) : SH (popTr site) := by
  unfold H5V.Model.HtmlTB.popTr; sh_walk
macro_rules | `(tactic| sh_leaf) => `(tactic| with_reducible exact sh_popTr _)

theorem sh_resetLoop : ∀ l n, SH (resetLoop l n) := by
  intro l
  induction l with
  | nil => intro n; unfold resetLoop; exact sh_pure _
  | cons node rest ih =>
    intro n
    unfold resetLoop
    refine sh_getS_bind (fun s0 => ?_)
    dsimp only
    refine sh_bind (sh_elemName _) (fun nm => ?_)
    refine sh_ite (fun _ => ih _) (fun _ => ?_)
    refine sh_ite (fun _ => sh_pure _) (fun _ => ?_)
    refine sh_ite (fun _ => sh_pure _) (fun _ => ?_)
    refine sh_ite (fun _ => sh_pure _) (fun _ => ?_)
    refine sh_ite (fun _ => sh_pure _) (fun _ => ?_)
    refine sh_ite (fun _ => sh_pure _) (fun _ => ?_)
    refine sh_ite (fun _ => sh_pure _) (fun _ => ?_)
    refine sh_ite (fun _ => ?_) (fun _ => ?_)
    · cases s0.templateModes.getLast? with
      | none => exact sh_panicAt
      | some m => exact sh_pure _
    refine sh_ite (fun _ => sh_ite (fun _ => sh_pure _) (fun _ => ih _)) (fun _ => ?_)
    refine sh_ite (fun _ => sh_pure _) (fun _ => ?_)
    refine sh_ite (fun _ => sh_pure _) (fun _ => ?_)
    refine sh_ite (fun _ => ?_) (fun _ => ih _)
    cases s0.headElem with
    | none => exact sh_pure _
    | some _ => exact sh_pure _

theorem sh_resetInsertionMode : SH resetInsertionMode := by
  unfold H5V.Model.HtmlTB.resetInsertionMode
  exact sh_getS_bind (fun _ => sh_resetLoop _ _)
macro_rules | `(tactic| sh_leaf) => `(tactic| with_reducible exact sh_resetInsertionMode)

/-! ### the modes `reset_insertion_mode` can answer -/

/-- the modes `reset_insertion_mode` answers without looking at the stack of template modes -/
def resetRange : List Mode :=
  [.inBody, .inCell, .inRow, .inTableBody, .inCaption, .inColumnGroup, .inTable, .inHead, .inFrameset,
   .beforeHead, .afterHead]

theorem range_resetLoop : ∀ (l : List Id) (n : Nat) (s : State) (m : Mode) (s' : State),
    resetLoop l n s = .ok (m, s') → m ∈ resetRange ∨ m ∈ s'.templateModes := by
  intro l
  induction l with
  | nil =>
    intro n s m s' h
    unfold resetLoop at h
    rw [← (ok_pure h).1]; exact Or.inl (by decide)
  | cons node rest ih =>
    intro n s m s' h
    unfold resetLoop at h
    have h1 := ok_getS_bind h
    obtain ⟨nn, s1, hq, h2⟩ := ok_bind h1
    have htm1 : s1.templateModes = s.templateModes := (sh_elemName _ s nn s1 hq).tm
    have hfix : ∀ {x : Mode} {sa sb : State}, x ∈ resetRange → (pure x : M Mode) sa = .ok (m, sb) →
        m ∈ resetRange ∨ m ∈ s'.templateModes := by
      intro x sa sb hx hp
      rw [← (ok_pure hp).1]; exact Or.inl hx
    by_cases c0 : (nn.ns != nsHtml) = true
    · rw [if_pos c0] at h2; exact ih _ _ _ _ h2
    rw [if_neg c0] at h2
    by_cases c1 : (isOneOf nn.loc ["td", "th"] && !(n - 1 == 0)) = true
    · rw [if_pos c1] at h2; exact hfix (by decide) h2
    rw [if_neg c1] at h2
    by_cases c2 : isName nn.loc "tr" = true
    · rw [if_pos c2] at h2; exact hfix (by decide) h2
    rw [if_neg c2] at h2
    by_cases c3 : isOneOf nn.loc ["tbody", "thead", "tfoot"] = true
    · rw [if_pos c3] at h2; exact hfix (by decide) h2
    rw [if_neg c3] at h2
    by_cases c4 : isName nn.loc "caption" = true
    · rw [if_pos c4] at h2; exact hfix (by decide) h2
    rw [if_neg c4] at h2
    by_cases c5 : isName nn.loc "colgroup" = true
    · rw [if_pos c5] at h2; exact hfix (by decide) h2
    rw [if_neg c5] at h2
    by_cases c6 : isName nn.loc "table" = true
    · rw [if_pos c6] at h2; exact hfix (by decide) h2
    rw [if_neg c6] at h2
    by_cases c7 : isName nn.loc "template" = true
    · rw [if_pos c7] at h2
      cases hl : s.templateModes.getLast? with
      | none => rw [hl] at h2; cases h2
      | some x =>
        rw [hl] at h2
        have e := ok_pure h2
        rw [← e.1, ← e.2, htm1]
        exact Or.inr (List.mem_of_getLast? hl)
    rw [if_neg c7] at h2
    by_cases c8 : isName nn.loc "head" = true
    · rw [if_pos c8] at h2
      by_cases c9 : (!(n - 1 == 0)) = true
      · rw [if_pos c9] at h2; exact hfix (by decide) h2
      · rw [if_neg c9] at h2; exact ih _ _ _ _ h2
    rw [if_neg c8] at h2
    by_cases c10 : isName nn.loc "body" = true
    · rw [if_pos c10] at h2; exact hfix (by decide) h2
    rw [if_neg c10] at h2
    by_cases c11 : isName nn.loc "frameset" = true
    · rw [if_pos c11] at h2; exact hfix (by decide) h2
    rw [if_neg c11] at h2
    by_cases c12 : isName nn.loc "html" = true
    · rw [if_pos c12] at h2
      cases hh : s.headElem with
      | none => rw [hh] at h2; exact hfix (by decide) h2
      | some x => rw [hh] at h2; exact hfix (by decide) h2
    rw [if_neg c12] at h2
    exact ih _ _ _ _ h2

theorem range_resetInsertionMode {s s' : State} {m : Mode} (h : resetInsertionMode s = .ok (m, s')) :
    m ∈ resetRange ∨ m ∈ s'.templateModes := by
  unfold resetInsertionMode at h
  exact range_resetLoop _ _ _ _ _ (ok_getS_bind h)

end H5V.Lemmas.TBFuel
