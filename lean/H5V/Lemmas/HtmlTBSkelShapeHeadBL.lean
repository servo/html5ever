import H5V.Lemmas.HtmlTBSkelShapeFrameset
import H5V.Lemmas.HtmlTBSkelShapeTmpl
import H5V.Lemmas.HtmlTBSkelShapeBody3
/-!
C06, second invariant layer: the head-only tags (`base`, `link`, `meta`, `title`, `style`,
`noframes`, `script`, `template`) as the InBody rules delegate them to the InHead rules.
-/
namespace H5V.Props.C06
open H5V.Model.Dom hiding Str
open H5V.Model.HtmlTB hiding Str
open H5V.Lemmas.Dom
theorem plainStr_of_mem {name : Str} {l : List String} (hl : ∀ a ∈ l, keepName (hN a) = false)
    (h : ∃ a ∈ l, name = a.toList) : PlainStr name := by
  obtain ⟨a, ha, rfl⟩ := h
  exact ⟨hl a ha⟩

/-- the nodes of an insertion place are on the stack, or template contents -/
theorem ares_cand {s : State} {t x : Id} {ip : InsertionPoint} (hbase : DomBase s.dom) (ha : ARes s t ip)
    (ht : t ∈ s.openElems) (hx : x ∉ s.openElems) (hxe : s.dom.isElement x = true) :
    ∀ p, ip.nodes.1 = p ∨ ip.nodes.2 = some p → p ≠ x := by
  have htc : ∀ t' tc, s.dom.templateContentsOf t' = some tc → tc ≠ x := by
    intro t' tc h1
    rintro rfl
    have hdoc := (hbase.tcOk t' _ h1).2
    unfold Dom.isElement at hxe
    rw [hdoc] at hxe; cases hxe
  intro p hp
  cases ha with
  | plain =>
    simp only [InsertionPoint.nodes] at hp
    rcases hp with rfl | hp
    · rintro rfl; exact hx ht
    · cases hp
  | tmpl tc h1 _ =>
    simp only [InsertionPoint.nodes] at hp
    rcases hp with rfl | hp
    · exact htc _ _ h1
    · cases hp
  | foster ip' _ _ hres =>
    cases hres with
    | tmpl t' tc _ h1 =>
      simp only [InsertionPoint.nodes] at hp
      rcases hp with rfl | hp
      · exact htc _ _ h1
      · cases hp
    | table pre post e p' hl hn =>
      simp only [InsertionPoint.nodes, Option.some.injEq] at hp
      have he : e ∈ s.openElems := by
        rw [← List.mem_reverse, hl]; simp
      have hp' : p' ∈ s.openElems := by
        rw [← List.mem_reverse, hl]; simp
      rcases hp with rfl | rfl
      · rintro rfl; exact hx he
      · rintro rfl; exact hx hp'
    | bottom h hh _ =>
      simp only [InsertionPoint.nodes] at hp
      rcases hp with rfl | hp
      · rintro rfl
        exact hx (List.mem_of_mem_head? hh)
      · cases hp

/-- the nodes of an insertion place are open elements or template contents of open elements -/
theorem ares_nodes {s : State} {t : Id} {ip : InsertionPoint} (ha : ARes s t ip) (ht : t ∈ s.openElems) :
    ∀ p, ip.nodes.1 = p ∨ ip.nodes.2 = some p →
      p ∈ s.openElems ∨ ∃ t' ∈ s.openElems, s.dom.templateContentsOf t' = some p := by
  intro p hp
  cases ha with
  | plain =>
    simp only [InsertionPoint.nodes] at hp
    rcases hp with rfl | hp
    · exact Or.inl ht
    · cases hp
  | tmpl tc h1 _ =>
    simp only [InsertionPoint.nodes] at hp
    rcases hp with rfl | hp
    · exact Or.inr ⟨t, ht, h1⟩
    · cases hp
  | foster ip' _ _ hres =>
    cases hres with
    | tmpl t' tc ht' h1 =>
      simp only [InsertionPoint.nodes] at hp
      rcases hp with rfl | hp
      · exact Or.inr ⟨t', List.mem_reverse.mp ht', h1⟩
      · cases hp
    | table pre post e p' hl hn =>
      simp only [InsertionPoint.nodes, Option.some.injEq] at hp
      have he : e ∈ s.openElems := by
        rw [← List.mem_reverse, hl]; simp
      have hp' : p' ∈ s.openElems := by
        rw [← List.mem_reverse, hl]; simp
      rcases hp with rfl | rfl
      · exact Or.inl he
      · exact Or.inl hp'
    | bottom h hh _ =>
      simp only [InsertionPoint.nodes] at hp
      rcases hp with rfl | hp
      · exact Or.inl (List.mem_of_mem_head? hh)
      · cases hp

/-- the `<script>` arm in a body-like mode -/
theorem rb_script {tag : Tag} (h : tag.isStart ["script"] = true) : RB (stepInHead (.tag tag)) :=
  ⟨fun m r ph s res s' hb hm hbl e => by
    unfold stepInHead at e
    dsimp only at e
    have hs : ∀ l, (∀ a ∈ ["script"], a ∉ l) → ¬ (tag.isStart l = true) := fun l hl => by
      rw [isStart_name h hl]; simp
    rw [if_neg (hs _ (by simp [lit_name])), if_neg (hs _ (by simp [lit_name])), if_neg (hs _ (by simp [lit_name])), if_neg (hs _ (by simp [lit_name])),
      if_pos h] at e
    obtain ⟨up, hc, hbb, hneed, _⟩ := id hb
    obtain ⟨el, s1, e1, e2⟩ := bind_ok.mp e
    obtain ⟨hc1, hdo1, hchg1, hfresh1, hel1, hnm1, hnol1⟩ := createElement_core hc e1
    obtain ⟨_, hpar1, hkids1, htxt1, htc1, _, _, _, hda1⟩ := createElement_adj hc.late hc.adj e1
    have hsn1 := hc.sameNames hchg1
    have hb1 : Big m r ph s1 := by
      refine ⟨up, hc1, ?_, hneed.congr hsn1, FPok.triv _ _⟩
      have : s1.headElem = s.headElem := by rw [hdo1]
      rw [this]; exact hbb.congr hsn1
    have hfr1 : el ∉ s1.openElems := by
      rw [hdo1]; intro hmem
      exact Nat.lt_irrefl _ (Nat.lt_of_lt_of_le (lt_of_isElement (hc.late.st.oe el hmem)) hfresh1)
    obtain ⟨fr, s2, e3, e4⟩ := bind_ok.mp e2
    obtain ⟨rfl, rfl⟩ := not_fragment hc1.late e3
    simp only [Bool.false_eq_true, if_false] at e4
    obtain ⟨_, s4, e6, e7⟩ := bind_ok.mp e4
    unfold insertAppropriately at e6
    obtain ⟨ip, s3, e8, e9⟩ := bind_ok.mp e6
    obtain ⟨q3, t, ht, hares⟩ := apfi_sem e8
    obtain ⟨_, _, hipok3⟩ := apfi_spec hb1.late e8
    simp only at ht
    have hipr : IpR r s2.dom ip := hb1.ipR (hb1.current ht) hares
    have hc3 := hc1.qs q3
    have hipr3 : IpR r s3.dom ip := hipr.rs (RS.of_nodes q3.nodes)
    have hnol3 : ∀ q, el ∉ s3.dom.childrenOf q := fun q => by
      rw [childrenOf_of_nodes q3.nodes]; exact hnol1 q
    have hel3 : s3.dom.isElement el = true := by rw [isElement_of_nodes q3.nodes]; exact hel1
    obtain ⟨hl5, hext5, hk05, hdo5⟩ := insertAt_spec (child := .node el) hc3.late hipok3
      (Loose.childOk ⟨hel3, hnol3 0⟩) e9
    have hrs : RS r s3.dom s4.dom := by
      refine insertAt_rs (child := .node el) hc3.late.base hc3.rtu hipr3 ⟨hnol3 r, ?_⟩ e9
      exact ares_cand hc1.late.base hares (hb1.current ht).1 hfr1 hel1
    have hcand := ares_cand hc1.late.base hares (hb1.current ht).1 hfr1 hel1
    -- an insertion place consists of old nodes
    have hipn : ∀ p, ip.nodes.1 = p ∨ ip.nodes.2 = some p → p < s.dom.size := by
      intro p hp
      rcases ares_nodes hares (hb1.current ht).1 p hp with h1 | ⟨t', ht', htc'⟩
      · rw [hdo1] at h1
        exact lt_of_isElement (hc.late.st.oe p h1)
      · rw [hdo1] at ht'
        have hlt : t' < s.dom.size := lt_of_isElement (hc.late.st.oe t' ht')
        rw [tc_of_data (hda1 t' hlt)] at htc'
        exact lt_of_data (hc.late.base.tcOk t' p htc').2
    have hst3 : s3.openElems = s.openElems := by rw [q3.openElems, hdo1]
    obtain ⟨hadj5, hadj5p⟩ := insertAt_new_adj (el := el) hc3.late hipok3 hc3.adj
      (by rw [q3.openElems]; exact hfr1)
      (by rw [parentOf_of_nodes q3.nodes]; exact hpar1)
      (by rw [isText_of_data (d := s2.dom) (by unfold Dom.dataOf; rw [q3.nodes])]; exact htxt1)
      (by rw [childrenOf_of_nodes q3.nodes]; exact hkids1)
      (fun tc htc => by
        rw [tc_of_nodes q3.nodes] at htc
        obtain ⟨h1, h2⟩ := htc1 tc htc
        exact ⟨by rw [childrenOf_of_nodes q3.nodes]; exact h1,
          fun p hp => Nat.ne_of_lt (Nat.lt_of_lt_of_le (hipn p hp) h2)⟩)
      hcand
      (fun P a b x hP hpos hxa hxO hxx => by
        refine hb1.no_open_before ht hares P a b x (by rw [← childrenOf_of_nodes q3.nodes]; exact hP)
          (hpos.congr (fun y => (childrenOf_of_nodes q3.nodes y).symm) (fun p _ => (parentOf_of_nodes q3.nodes p).symm))
          hxa (by rw [← q3.openElems]; exact hxO) (by rw [← q3.nm]; exact hxx))
      e9
    have hoe43 : s4.openElems = s3.openElems := by rw [hdo5]
    have hc4 : Core s4 r up ph := hc3.transfer hl5 hext5.chg hrs (by rw [hk05]; exact hc3.rdoc)
      (by rw [hdo5]) (by rw [hdo5]) (by rw [hdo5]) (by rw [hdo5]) (by rw [hdo5]) (by rw [hoe43]; exact hadj5)
    obtain ⟨_, s6, e10, e11⟩ := bind_ok.mp e7
    unfold push at e10
    obtain ⟨_, rfl⟩ := modS_ok.mp e10
    have hst4 : s4.openElems = s.openElems := by
      rw [hdo5]; show s3.openElems = _; rw [q3.openElems, hdo1]
    have hnm4 : nm s4.dom el = hN "script" := by
      rw [nm_chg hext5.chg hel3, q3.nm]; exact hnm1
    have hfr4 : el ∉ s4.openElems := by rw [hst4]; rw [hdo1] at hfr1; exact hfr1
    have hc6 := hc4.push ⟨hext5.chg.isElement hel3, by rw [hk05]; exact hnol3 0⟩ hfr4 (by rw [hnm4]; simp [lit_name])
      (by rw [hoe43]; exact hadj5p)
    have hchg : Chg s.dom s4.dom := (hchg1.trans (SameSk.of_nodes q3.nodes).chg).trans hext5.chg
    have hfields : s4.headElem = s.headElem ∧ s4.mode = s.mode := by
      have h5 := hdo5; have h3 := q3.rest; have h1 := hdo1
      constructor <;> rw [h5, h3, h1]
    have hsn4 := hc.sameNames hchg
    obtain ⟨hgood, hnr⟩ := toRawTextMode_shape hc6
      (by show s4.mode ≠ _; rw [hfields.2, hm]; rintro rfl; cases hbl)
      (by show s4.mode ≠ _; rw [hfields.2, hm]; rintro rfl; cases hbl)
      (by
        show Fits s4.dom s4.headElem s4.mode up ph
        rw [hfields.1, hfields.2, hm]
        exact (fits_of_bl hbl hbb hneed).congr hsn4)
      (by show htmlIn (nm s4.dom el) _ = false; rw [hnm4]; simp [lit_name])
      (by show (nm s4.dom el).ns = nsHtml; rw [hnm4]; rfl) e11
    exact Out.of_good hgood hnr⟩


instance (c : Str) : RB (pure (.encodingIndicator c) : M ProcessResult) :=
  RB.pure ⟨(by intro m t h; cases h), (by intro t h; cases h)⟩

/-- `<base>`, `<basefont>`, `<bgsound>`, `<link>`, `<meta>` in a body-like mode -/
theorem rb_headVoid {tag : Tag} (h : tag.isStart ["base", "basefont", "bgsound", "link", "meta"] = true) :
    RB (stepInHead (.tag tag)) := by
  obtain ⟨a, ha, htn, _⟩ := name_of_isStart h
  haveI : PlainStr tag.name := plainStr_of_mem (l := ["base", "basefont", "bgsound", "link", "meta"]) (by simp [lit_name])
    ⟨a, ha, htn⟩
  have hs : ¬ (tag.isStart ["html"] = true) := by
    rw [isStart_name h (by simp [lit_name])]; simp
  unfold stepInHead
  dsimp only
  rw [if_neg hs, if_pos h]
  unfold insertAndPopElementFor
  rb_walk

/-- `<title>` in a body-like mode -/
theorem rb_title {tag : Tag} (h : tag.isStart ["title"] = true) : RB (stepInHead (.tag tag)) := by
  obtain ⟨a, ha, htn, _⟩ := name_of_isStart h
  haveI : PlainStr tag.name := plainStr_of_mem (l := ["title"]) (by simp [lit_name]) ⟨a, ha, htn⟩
  have hs : ∀ l, (∀ a ∈ ["title"], a ∉ l) → ¬ (tag.isStart l = true) := fun l hl => by
    rw [isStart_name h hl]; simp
  unfold stepInHead
  dsimp only
  rw [if_neg (hs _ (by simp [lit_name])), if_neg (hs _ (by simp [lit_name])), if_pos h]
  exact inferInstance

/-- `<noframes>`, `<style>` in a body-like mode -/
theorem rb_rawtext {tag : Tag} (h : tag.isStart ["noframes", "style"] = true) : RB (stepInHead (.tag tag)) := by
  obtain ⟨a, ha, htn, _⟩ := name_of_isStart h
  haveI : PlainStr tag.name := plainStr_of_mem (l := ["noframes", "style"]) (by simp [lit_name]) ⟨a, ha, htn⟩
  have hs : ∀ l, (∀ a ∈ ["noframes", "style"], a ∉ l) → ¬ (tag.isStart l = true) := fun l hl => by
    rw [isStart_name h hl]; simp
  have hnn : isName tag.name "noscript" = false := by
    simp only [List.mem_cons, List.not_mem_nil, or_false] at ha
    unfold isName
    rcases ha with rfl | rfl <;> (rw [htn]; simp [lit_name])
  unfold stepInHead
  dsimp only
  rw [if_neg (hs _ (by simp [lit_name])), if_neg (hs _ (by simp [lit_name])), if_neg (hs _ (by simp [lit_name])),
    if_pos (isStart_sub h (by simp [lit_name]))]
  rw [hnn]
  simp only [Bool.and_false, Bool.false_eq_true, if_false]
  exact RB.bindPB inferInstance (fun _ => inferInstance)


/-- the head-only tags in a body-like mode -/
theorem rb_headTags (tag : Tag) (h : (tag.isStart ["base", "basefont", "bgsound", "link", "meta", "noframes", "script",
    "style", "template", "title"] || tag.isEnd ["template"]) = true) : RB (stepInHead (.tag tag)) := by
  rcases Bool.or_eq_true_iff.mp h with h | h
  · obtain ⟨l', hl', h1⟩ := isStart_cover h (ls := [["base", "basefont", "bgsound", "link", "meta"], ["noframes", "style"],
      ["script"], ["template"], ["title"]]) (by simp)
    simp only [List.mem_cons, List.not_mem_nil, or_false] at hl'
    rcases hl' with rfl | rfl | rfl | rfl | rfl
    · exact rb_headVoid h1
    · exact rb_rawtext h1
    · exact rb_script h1
    · exact rb_tmplStart h1
    · exact rb_title h1
  · exact rb_tmplEnd h

/-- all delegations of the InBody rules -/
theorem bodyDeleg : BodyDeleg := ⟨rb_headTags, fun _ h => framesetArm h, inferInstance⟩

theorem modeOk_inBody' : ModeOk .inBody := modeOk_inBody bodyDeleg
theorem modeOk_inHead' : ModeOk .inHead := modeOk_inHead tmplOk_inHead
theorem modeOk_afterHead' : ModeOk .afterHead := modeOk_afterHead tmplAfterHead

end H5V.Props.C06
