import H5V.Lemmas.HtmlTBSplitFuel
/-!
C03 lifted to the tree: inserting text in two pieces is inserting the concatenation.
* `appendText_eval`: `append_text` = compute the place (a query), then one text-inserting sink call;
* `fa_add`: `[frameset-ok;] append_text x; … ; [frameset-ok;] append_text y` ends like
  `[frameset-ok;] append_text (x ++ y)` (the DOM text-merging lemmas + stability of the place);
* `reconstruct`: after `reconstruct_active_formatting_elements` ran, running it again (also after a
  text insertion) changes nothing (`RDone`), and if it created elements the current node is a new
  HTML formatting element (`HtmlTop`).
-/
namespace H5V.Lemmas.TBSplit
open H5V.Model.Dom (Id QualName Attr NodeOrText SinkOp Output ElementFlags QuirksMode Dom)
open H5V.Model.HtmlTok (TagKind RawKind)
open H5V.Model.HtmlTB
open H5V.Lemmas.TBSplitDom

/-! ### `Sim` states answer queries alike -/

theorem DQ_wE (d : Dom) (e : List Str) : DQ d (wE d e) := fun _ => ⟨RelE.refl _, RelE.refl _, RelE.refl _⟩

theorem Sim.qsim {s t : State} (h : Sim s t) : QSim s t := by
  obtain ⟨_, tr, cl, er, pt, rfl, _⟩ := h
  exact ⟨s.mode, s.origMode, pt, s.framesetOk, s.ignoreLf, cl, tr, _, rfl, DQ_wE s.dom er⟩

/-- the states differ in the trace only -/
def TrEq (s t : State) : Prop := ∃ tr, t = withTr s tr

theorem TrEq.refl (s : State) : TrEq s s := ⟨s.traceRev, rfl⟩
theorem TrEq.symm {s t : State} (h : TrEq s t) : TrEq t s := by
  obtain ⟨tr, rfl⟩ := h; exact ⟨s.traceRev, rfl⟩
theorem TrEq.trans {s t u : State} (h : TrEq s t) (h' : TrEq t u) : TrEq s u := by
  obtain ⟨tr, rfl⟩ := h; obtain ⟨tr', rfl⟩ := h'; exact ⟨tr', rfl⟩
theorem TrEq.qsim {s t : State} (h : TrEq s t) : QSim s t := by
  obtain ⟨tr, rfl⟩ := h; exact QSim.withTr s tr
theorem TrEq.sim {s t : State} (h : TrEq s t) (hg : Good s) : Sim s t := by
  obtain ⟨tr, rfl⟩ := h
  exact ⟨hg.af, tr, s.currentLine, s.dom.errorsRev, s.pendingTableText, by cases s with | mk _ _ _ _ _ _ _ _ _ _ _ _ _ _ _ _ dom _ => cases dom; rfl,
    PendRel.rfl' hg.pend⟩
theorem TrEq.good {s t : State} (h : TrEq s t) (hg : Good s) : Good t := (h.sim hg).symm.good

/-! ### `append_text` -/

/-- the sink call that inserts text `z` at `p` -/
def insOp (p : InsertionPoint) (z : Str) : SinkOp :=
  match p with
  | .lastChild parent => .append parent (.text z)
  | .beforeSibling sibling => .appendBeforeSibling sibling (.text z)
  | .tableFosterParenting element prev => .appendBasedOnParentNode element prev (.text z)

theorem insOp_isTextIns (p : InsertionPoint) (z : Str) : isTextIns (insOp p z) = true := by
  cases p <;> rfl

theorem insertAt_text (p : InsertionPoint) (z : Str) : insertAt p (.text z) = sinkUnit (insOp p z) := by
  cases p <;> rfl

/-- **text merging**, for each of the three insertion points -/
theorem insOp_merge (d : Dom) (p : InsertionPoint) (x y : Str) :
    Dom.apply d (insOp p (x ++ y)) = (Dom.apply d (insOp p x)) >>= fun r => Dom.apply r.1 (insOp p y) := by
  cases p with
  | lastChild parent => exact append_text_merge d parent x y
  | beforeSibling sib => exact appendBeforeSibling_text_merge d sib x y
  | tableFosterParenting e prev => exact appendBasedOnParentNode_text_merge d e prev x y

local notation "place" => appropriatePlaceForInsertion none

theorem place_run (s : State) : (∃ e, place s = .error e) ∨ ∃ p tr, place s = .ok (p, withTr s tr) :=
  (appropriatePlaceForInsertion_q none).run s

theorem sinkUnit_apply (op : SinkOp) (s : State) :
    sinkUnit op s = match s.dom.apply op with
      | .error e => .error (errClass e ++ "@sink: " ++ e)
      | .ok (d, out) => .ok ((), { s with dom := d, traceRev := (op, out) :: s.traceRev }) := by
  unfold sinkUnit
  rw [bind_apply, sink_apply]
  cases s.dom.apply op with
  | error e => rfl
  | ok v => rfl

/-- **`append_text` evaluated** -/
theorem appendText_eval (z : Str) (s : State) :
    appendText z s = match place s with
      | .error e => .error e
      | .ok (p, s') => match s'.dom.apply (insOp p z) with
        | .error e => .error (errClass e ++ "@sink: " ++ e)
        | .ok (d, out) => .ok (.done, { s' with dom := d, traceRev := (insOp p z, out) :: s'.traceRev }) := by
  unfold appendText insertAppropriately
  simp only [bind_assoc]
  rw [bind_apply]
  cases place s with
  | error e => rfl
  | ok v =>
    obtain ⟨p, s'⟩ := v
    show (insertAt p (.text z) >>= fun _ => (pure ProcessResult.done : M ProcessResult)) s' =
      match s'.dom.apply (insOp p z) with
      | .error e => .error (errClass e ++ "@sink: " ++ e)
      | .ok (d, out) => .ok (.done, { s' with dom := d, traceRev := (insOp p z, out) :: s'.traceRev })
    rw [bind_apply, insertAt_text, sinkUnit_apply]
    cases s'.dom.apply (insOp p z) with
    | error e => rfl
    | ok w => rfl

/-- the state after a text insertion: only `dom` and the trace changed, and the DOM answers queries as before -/
def TextStep (s s' : State) : Prop :=
  ∃ d tr, s' = { s with dom := d, traceRev := tr } ∧ DQ s.dom d

theorem TextStep.qsim {s s' : State} (h : TextStep s s') : QSim s s' := by
  obtain ⟨d, tr, rfl, hd⟩ := h
  exact ⟨s.mode, s.origMode, s.pendingTableText, s.framesetOk, s.ignoreLf, s.currentLine, tr, d, rfl, hd⟩

theorem TextStep.good {s s' : State} (h : TextStep s s') (hg : Good s) : Good s' := by
  obtain ⟨d, tr, rfl, _⟩ := h; exact ⟨hg.af, hg.pend⟩

/-- a successful `append_text` -/
theorem appendText_ok {z : Str} {s s1 : State} {r : ProcessResult} (h : appendText z s = .ok (r, s1)) :
    r = .done ∧ ∃ p tr d out, place s = .ok (p, withTr s tr) ∧ s.dom.apply (insOp p z) = .ok (d, out) ∧
      s1 = { s with dom := d, traceRev := (insOp p z, out) :: tr } := by
  rw [appendText_eval] at h
  rcases place_run s with ⟨e, he⟩ | ⟨p, tr, hp⟩
  · rw [he] at h; cases h
  · rw [hp] at h
    simp only at h
    cases hd : s.dom.apply (insOp p z) with
    | error e =>
      have : (withTr s tr).dom = s.dom := rfl
      rw [this, hd] at h; cases h
    | ok v =>
      obtain ⟨d, out⟩ := v
      have : (withTr s tr).dom = s.dom := rfl
      rw [this, hd] at h
      simp only [Except.ok.injEq, Prod.mk.injEq] at h
      exact ⟨h.1.symm, p, tr, d, out, hp, hd, h.2.symm⟩

theorem appendText_textStep {z : Str} {s s1 : State} {r : ProcessResult} (h : appendText z s = .ok (r, s1)) :
    TextStep s s1 := by
  obtain ⟨_, p, tr, d, out, _, hd, rfl⟩ := appendText_ok h
  exact ⟨d, _, rfl, DQ.of_textIns (insOp_isTextIns p z) hd⟩

/-- states that differ only in components no query looks at **and have the same DOM** -/
def SameDom (s u : State) : Prop := QSim s u ∧ u.dom = s.dom

/-- **`append_text x` then (possibly after queries and frameset-ok updates) `append_text y`**, against
`append_text (x ++ y)` started in a state `s_` that no query can tell from `s` and has the same DOM -/
theorem appendText_add {x y : Str} {s s_ : State} (hqs_ : QSim s s_) (hds_ : s_.dom = s.dom) :
    (∀ e, appendText x s = .error e → ∃ e', appendText (x ++ y) s_ = .error e') ∧
    (∀ r s1, appendText x s = .ok (r, s1) → ∀ u, QSim s1 u → u.dom = s1.dom →
      (∃ e e', appendText y u = .error e ∧ appendText (x ++ y) s_ = .error e') ∨
      ∃ u2 sL, appendText y u = .ok (.done, u2) ∧ appendText (x ++ y) s_ = .ok (.done, sL) ∧
        (∃ d2 tr1 tr2, u2 = { u with dom := d2, traceRev := tr1 } ∧ sL = { s_ with dom := d2, traceRev := tr2 })) := by
  constructor
  · intro e he
    rw [appendText_eval] at he ⊢
    rcases place_run s with ⟨e1, h1⟩ | ⟨p, tr, hp⟩
    · obtain ⟨e', he'⟩ := (appropriatePlaceForInsertion_q none).transfer_err hqs_ h1
      rw [he']; exact ⟨e', rfl⟩
    · obtain ⟨tr_, hp_⟩ := (appropriatePlaceForInsertion_q none).transfer hqs_ hp
      rw [hp] at he
      rw [hp_]
      simp only at he ⊢
      have hdm : (withTr s tr).dom = s.dom := rfl
      have hdm_ : (withTr s_ tr_).dom = s.dom := hds_
      rw [hdm] at he
      rw [hdm_, insOp_merge]
      cases hd : s.dom.apply (insOp p x) with
      | error e2 => exact ⟨_, rfl⟩
      | ok v => rw [hd] at he; cases he
  · intro r s1 h1 u hq hud
    obtain ⟨_, p, tr, d, out, hp, hd, rfl⟩ := appendText_ok h1
    obtain ⟨tr_, hp_⟩ := (appropriatePlaceForInsertion_q none).transfer hqs_ hp
    have hq1 : QSim s { s with dom := d, traceRev := (insOp p x, out) :: tr } :=
      ⟨s.mode, s.origMode, s.pendingTableText, s.framesetOk, s.ignoreLf, s.currentLine, _, d, rfl,
        DQ.of_textIns (insOp_isTextIns p x) hd⟩
    have hqs : QSim s u := hq1.trans hq
    obtain ⟨tr2, hp2⟩ := (appropriatePlaceForInsertion_q none).transfer hqs hp
    have hm := insOp_merge s.dom p x y
    rw [hd] at hm
    have hud' : u.dom = d := hud
    have hdm_ : (withTr s_ tr_).dom = s.dom := hds_
    cases hd2 : d.apply (insOp p y) with
    | error e2 =>
      have hm2 : Dom.apply s.dom (insOp p (x ++ y)) = .error e2 := by
        rw [hm]; show (Dom.apply d (insOp p y)) = _; exact hd2
      refine Or.inl ⟨errClass e2 ++ "@sink: " ++ e2, errClass e2 ++ "@sink: " ++ e2, ?_, ?_⟩
      · rw [appendText_eval, hp2]
        simp only
        have : (withTr u tr2).dom = d := hud'
        rw [this, hd2]
      · rw [appendText_eval, hp_]
        simp only
        rw [hdm_, hm2]
    | ok v2 =>
      obtain ⟨d2, out2⟩ := v2
      have hm2 : Dom.apply s.dom (insOp p (x ++ y)) = .ok (d2, out2) := by
        rw [hm]; show (Dom.apply d (insOp p y)) = _; exact hd2
      refine Or.inr ⟨{ u with dom := d2, traceRev := (insOp p y, out2) :: tr2 },
        { s_ with dom := d2, traceRev := (insOp p (x ++ y), out2) :: tr_ }, ?_, ?_, ⟨d2, _, _, rfl, rfl⟩⟩
      · rw [appendText_eval, hp2]
        simp only
        have : (withTr u tr2).dom = d := hud'
        rw [this, hd2]
      · rw [appendText_eval, hp_]
        simp only
        rw [hdm_, hm2]

/-! ### frameset-ok and `append_text` -/

/-- `if c { frameset_ok = false }` -/
def setF (c : Bool) (s : State) : State := if c then { s with framesetOk := false } else s

theorem fOk_apply (z : Str) (s : State) : fOk z s = .ok ((), setF (anyNotWhitespace z) s) := by
  unfold fOk setF
  cases anyNotWhitespace z <;> rfl

/-- `[frameset-ok;] append_text` -/
def FA (b : Bool) (z : Str) : M ProcessResult := (if b then fOk z else pure ()) >>= fun _ => appendText z

theorem FA_apply (b : Bool) (z : Str) (s : State) : FA b z s = appendText z (setF (b && anyNotWhitespace z) s) := by
  unfold FA
  rw [bind_apply]
  cases b
  · simp only [Bool.false_eq_true, if_false, pure_apply, Bool.false_and]; rfl
  · simp only [if_true, fOk_apply, Bool.true_and]

theorem anyNotWhitespace_append (x y : Str) :
    anyNotWhitespace (x ++ y) = (anyNotWhitespace x || anyNotWhitespace y) := by
  simp [anyNotWhitespace, List.any_append]

theorem setF_qsim (c : Bool) (s : State) : QSim s (setF c s) ∧ (setF c s).dom = s.dom := by
  unfold setF
  cases c
  · exact ⟨QSim.refl s, rfl⟩
  · exact ⟨⟨s.mode, s.origMode, s.pendingTableText, false, s.ignoreLf, s.currentLine, s.traceRev, s.dom, rfl, DQ.refl _⟩, rfl⟩

theorem setF_good {c : Bool} {s : State} (h : Good s) : Good (setF c s) := by
  unfold setF; cases c
  · exact h
  · exact ⟨h.af, h.pend⟩

/-- **`[frameset-ok;] append_text` in two pieces** -/
theorem fa_add (b : Bool) {x y : Str} {s : State} (hg : Good s) :
    (∀ e, FA b x s = .error e → ∃ e', FA b (x ++ y) s = .error e') ∧
    (∀ r s1, FA b x s = .ok (r, s1) → r = .done ∧ Good s1 ∧ ∀ u, TrEq s1 u →
      RelR (· = .done) (FA b (x ++ y) s) (FA b y u)) := by
  have h0 := setF_qsim (b && anyNotWhitespace x) s
  have h1 := setF_qsim (b && anyNotWhitespace (x ++ y)) s
  have hA := appendText_add (x := x) (y := y) (s := setF (b && anyNotWhitespace x) s)
    (s_ := setF (b && anyNotWhitespace (x ++ y)) s) (h0.1.symm.trans h1.1) (by rw [h1.2, h0.2])
  constructor
  · intro e he
    rw [FA_apply] at he ⊢
    exact hA.1 e he
  · intro r s1 hs1
    rw [FA_apply] at hs1
    have hr := (appendText_ok hs1).1
    have hts := appendText_textStep hs1
    have hg1 : Good s1 := hts.good (setF_good hg)
    refine ⟨hr, hg1, ?_⟩
    intro u hu
    obtain ⟨tru, rfl⟩ := hu
    have hu' := setF_qsim (b && anyNotWhitespace y) (withTr s1 tru)
    rcases hA.2 r s1 hs1 (setF (b && anyNotWhitespace y) (withTr s1 tru))
        ((QSim.withTr s1 tru).trans hu'.1) (by rw [hu'.2]) with ⟨e, e', h2, h3⟩ | ⟨u2, sL, h2, h3, d2, tr1, tr2, rfl, rfl⟩
    · rw [FA_apply, FA_apply, h2, h3]; trivial
    · rw [FA_apply, FA_apply, h2, h3]
      refine ⟨rfl, rfl, ?_⟩
      -- the two final states agree up to the trace
      obtain ⟨d, tr, hs1eq, _⟩ := hts
      subst hs1eq
      refine TrEq.sim ⟨tr1, ?_⟩ ⟨(setF_good hg).af, (setF_good hg).pend⟩
      rw [anyNotWhitespace_append]
      cases b <;> cases anyNotWhitespace x <;> cases anyNotWhitespace y <;> rfl

/-! ### running `do` blocks by hand -/

theorem bind_ok {α β : Type} {m : M α} {f : α → M β} {s s2 : State} {b : β}
    (h : (m >>= f) s = .ok (b, s2)) : ∃ a s1, m s = .ok (a, s1) ∧ f a s1 = .ok (b, s2) := by
  rw [bind_apply] at h
  cases hm : m s with
  | error e => rw [hm] at h; cases h
  | ok v => obtain ⟨a, s1⟩ := v; rw [hm] at h; exact ⟨a, s1, rfl, h⟩

/-- an `if` that was run: which branch, and its run -/
theorem ite_ok {α : Type} {c : Prop} {_ : Decidable c} {a b : M α} {s : State} {r : Except String (α × State)}
    (h : (if c then a else b) s = r) : (c ∧ a s = r) ∨ (¬ c ∧ b s = r) := by
  by_cases hc : c
  · rw [if_pos hc] at h; exact Or.inl ⟨hc, h⟩
  · rw [if_neg hc] at h; exact Or.inr ⟨hc, h⟩

theorem sink_ok {op : SinkOp} {s s' : State} {o : Output} (h : sink op s = .ok (o, s')) :
    ∃ d, s.dom.apply op = .ok (d, o) ∧ s' = { s with dom := d, traceRev := (op, o) :: s.traceRev } := by
  rw [sink_apply] at h
  cases hd : s.dom.apply op with
  | error e => rw [hd] at h; cases h
  | ok v =>
    obtain ⟨d, o'⟩ := v
    rw [hd] at h
    simp only [Except.ok.injEq, Prod.mk.injEq] at h
    obtain ⟨rfl, rfl⟩ := h
    exact ⟨d, rfl, rfl⟩

/-- the step keeps the stack-like components and the names of the elements of the DOM -/
structure Ext (s s' : State) : Prop where
  openElems : s'.openElems = s.openElems
  af : s'.activeFormatting = s.activeFormatting
  names : ∀ h r, s.dom.elemName h = .ok r → s'.dom.elemName h = .ok r

theorem Ext.refl (s : State) : Ext s s := ⟨rfl, rfl, fun _ _ h => h⟩
theorem Ext.trans {s t u : State} (h : Ext s t) (h' : Ext t u) : Ext s u :=
  ⟨h'.openElems.trans h.openElems, h'.af.trans h.af, fun x r hx => h'.names x r (h.names x r hx)⟩
theorem Ext.of_trEq {s t : State} (h : TrEq s t) : Ext s t := by
  obtain ⟨tr, rfl⟩ := h; exact ⟨rfl, rfl, fun _ _ h => h⟩

theorem Ext.of_sink {op : SinkOp} {s s' : State} {o : Output}
    (h : sink op s = .ok (o, s')) : Ext s s' := by
  obtain ⟨d, hd, rfl⟩ := sink_ok h
  exact ⟨rfl, rfl, fun x r hx => keepsNames_elemName hd hx⟩

theorem Ext.of_sinkUnit {op : SinkOp} {s s' : State} {o : Unit}
    (h : sinkUnit op s = .ok (o, s')) : Ext s s' := by
  unfold sinkUnit at h
  obtain ⟨o', s1, h1, h2⟩ := bind_ok h
  cases h2
  exact Ext.of_sink h1

theorem QResp.ext {α : Type} {m : M α} (hq : QResp m) {s s' : State} {a : α} (h : m s = .ok (a, s')) : Ext s s' := by
  rcases hq.run s with ⟨e, he⟩ | ⟨a', tr, ha⟩
  · rw [he] at h; cases h
  · rw [ha] at h; cases h; exact Ext.of_trEq ⟨tr, rfl⟩

theorem QResp.trEq {α : Type} {m : M α} (hq : QResp m) {s s' : State} {a : α} (h : m s = .ok (a, s')) : TrEq s s' := by
  rcases hq.run s with ⟨e, he⟩ | ⟨a', tr, ha⟩
  · rw [he] at h; cases h
  · rw [ha] at h; cases h; exact ⟨tr, rfl⟩

/-! ### `insert_element` -/

theorem insertAt_node_ext {ip : InsertionPoint} {e : Id} {s s' : State} {o : Unit}
    (h : insertAt ip (.node e) s = .ok (o, s')) : Ext s s' := by
  cases ip <;> exact Ext.of_sinkUnit h

theorem createElementWithFlags_ok {qn : QualName} {attrs : List Attr} {hd : Bool} {s s' : State} {e : Id}
    (h : createElementWithFlags qn attrs hd s = .ok (e, s')) :
    Ext s s' ∧ s'.dom.elemName e = .ok (qn.ns, qn.loc) := by
  unfold createElementWithFlags sinkNode at h
  obtain ⟨o, s1, h1, h2⟩ := bind_ok h
  obtain ⟨d, hd', rfl⟩ := sink_ok h1
  refine ⟨?_, ?_⟩
  · cases o with
    | node id => cases h2; exact Ext.of_sink h1
    | unit => cases h2
    | bool b => cases h2
    | name a b => cases h2
  · cases o with
    | node id =>
      cases h2
      have : Dom.apply s.dom (.createElement qn attrs _) = .ok (d, .node e) := hd'
      have hc := createElement_elemName s.dom qn attrs
        { template := qn.ns == nsHtml && isName qn.loc "template",
          mathmlIP := if qn.ns == nsMathml && isName qn.loc "annotation-xml" then
              attrs.any (fun a => a.name.ns == [] && isName a.name.loc "encoding" &&
                (eqIgnoreAsciiCase a.value "text/html".toList ||
                 eqIgnoreAsciiCase a.value "application/xhtml+xml".toList))
            else false,
          hadDuplicateAttributes := hd }
      have h3 : Dom.apply s.dom (.createElement qn attrs
        { template := qn.ns == nsHtml && isName qn.loc "template",
          mathmlIP := if qn.ns == nsMathml && isName qn.loc "annotation-xml" then
              attrs.any (fun a => a.name.ns == [] && isName a.name.loc "encoding" &&
                (eqIgnoreAsciiCase a.value "text/html".toList ||
                 eqIgnoreAsciiCase a.value "application/xhtml+xml".toList))
            else false,
          hadDuplicateAttributes := hd }) = .ok ((s.dom.createElement qn attrs _).1, .node (s.dom.createElement qn attrs _).2) := rfl
      rw [h3] at this
      simp only [Except.ok.injEq, Prod.mk.injEq, Output.node.injEq] at this
      obtain ⟨rfl, rfl⟩ := this
      exact hc
    | unit => cases h2
    | bool b => cases h2
    | name a b => cases h2

/-- **`insert_element(Push, …)`**: the new element is pushed, is an element of the DOM with the
requested name; the stack was not empty; the formatting list is untouched -/
theorem insertElement_push_ok {ns name : Str} {attrs : List Attr} {hadDup : Bool} {s s' : State} {e : Id}
    (h : insertElement true ns name attrs hadDup s = .ok (e, s')) :
    s'.openElems = s.openElems ++ [e] ∧ s.openElems ≠ [] ∧ s'.dom.elemName e = .ok (ns, name) ∧
      s'.activeFormatting = s.activeFormatting := by
  unfold insertElement at h
  obtain ⟨ip, s1, h1, h⟩ := bind_ok h
  have e1 := (appropriatePlaceForInsertion_q none).ext h1
  have hne : s.openElems ≠ [] := by
    intro hnil
    unfold appropriatePlaceForInsertion at h1
    obtain ⟨t, s1', ht, _⟩ := bind_ok h1
    unfold currentNode at ht
    obtain ⟨st, s1'', hg, ht⟩ := bind_ok ht
    cases hg
    rw [hnil] at ht
    cases ht
  rcases hn : ip.nodes with ⟨n1, n2⟩
  rw [hn] at h
  simp only at h
  obtain ⟨st, s1', hg, h⟩ := bind_ok h
  cases hg
  -- the tail, for any answer of the `form_is_associatable` computation
  have tail : ∀ (fa : Bool) (s2 : State), Ext s s2 →
      (do
        let elem ← createElementWithFlags { pfx := none, ns := ns, loc := name } attrs hadDup
        have __do_jp : Unit → M Id := fun __r => do
          insertAt ip (NodeOrText.node elem)
          have __do_jp : Unit → M Id := fun __r => pure elem
          if true = true then do
              let __r ← push elem
              __do_jp __r
            else __do_jp ()
        if fa = true then do
            let __do_lift ← getS
            match __do_lift.formElem with
              | some form => do
                let __r ← sinkUnit (SinkOp.associateWithForm elem form n1 n2)
                __do_jp __r
              | none => do
                let __r ← panicAt "unwrap-none" "mod.rs:1401" "form_elem unwrap"
                __do_jp __r
          else __do_jp () : M Id) s2 = .ok (e, s') →
      s'.openElems = s.openElems ++ [e] ∧ s'.dom.elemName e = .ok (ns, name) ∧
        s'.activeFormatting = s.activeFormatting := by
    intro fa s2 e2 ht
    obtain ⟨el, s3, h3, ht⟩ := bind_ok ht
    obtain ⟨e3, hn3⟩ := createElementWithFlags_ok h3
    -- after the optional `associate_with_form`
    have fin : ∀ s4, Ext s3 s4 →
        (do
          insertAt ip (NodeOrText.node el)
          have __do_jp : Unit → M Id := fun __r => pure el
          if true = true then do
              let __r ← push el
              __do_jp __r
            else __do_jp () : M Id) s4 = .ok (e, s') →
        s'.openElems = s.openElems ++ [e] ∧ s'.dom.elemName e = .ok (ns, name) ∧
          s'.activeFormatting = s.activeFormatting := by
      intro s4 e4 hf
      obtain ⟨u, s5, h5, hf⟩ := bind_ok hf
      have e5 := insertAt_node_ext h5
      simp only [if_true] at hf
      obtain ⟨u', s6, h6, hf⟩ := bind_ok hf
      cases hf
      have h6' : s' = { s5 with openElems := s5.openElems ++ [e] } := by
        unfold push at h6; cases h6; rfl
      subst h6'
      have e15 : Ext s s5 := ((e2.trans e3).trans e4).trans e5
      exact ⟨by show s5.openElems ++ [e] = _; rw [e15.openElems],
        (e4.trans e5).names e _ hn3, by show s5.activeFormatting = _; exact e15.af⟩
    cases fa with
    | false =>
      simp only [Bool.false_eq_true, if_false] at ht
      exact fin s3 (Ext.refl _) ht
    | true =>
      simp only [if_true] at ht
      obtain ⟨st, s3', hg, ht⟩ := bind_ok ht
      cases hg
      cases hf : s3.formElem with
      | none =>
        rw [hf] at ht
        simp only at ht
        obtain ⟨_, _, hp, _⟩ := bind_ok ht
        cases hp
      | some form =>
        rw [hf] at ht
        simp only at ht
        obtain ⟨u, s4, h4, ht⟩ := bind_ok ht
        exact fin s4 (Ext.of_sinkUnit h4) ht
  simp only [pure_bind] at h
  rcases ite_ok h with ⟨_, h⟩ | ⟨_, h⟩
  · obtain ⟨t, s2, h2, h⟩ := bind_ok h
    have e2 := (inHtmlElemNamed_q "template").ext h2
    rcases ite_ok h with ⟨_, h⟩ | ⟨_, h⟩
    · obtain ⟨a, b, c⟩ := tail _ s2 (e1.trans e2) h
      exact ⟨a, hne, b, c⟩
    · obtain ⟨a, b, c⟩ := tail _ s2 (e1.trans e2) h
      exact ⟨a, hne, b, c⟩
  · obtain ⟨a, b, c⟩ := tail _ s1 e1 h
    exact ⟨a, hne, b, c⟩

/-! ### `reconstruct_active_formatting_elements` -/

/-- the current node is an HTML formatting element of the DOM, and not the only open element -/
def HtmlTop (s : State) : Prop :=
  ∃ e n, s.openElems.getLast? = some e ∧ 2 ≤ s.openElems.length ∧ s.dom.elemName e = .ok (nsHtml, n) ∧
    isOneOf n fmtNames = true

/-- what `reconstructCreate` leaves behind -/
def RCPost (s : State) : Prop :=
  ∃ e t, s.activeFormatting.getLast? = some (.element e t) ∧ s.openElems.getLast? = some e ∧
    2 ≤ s.openElems.length ∧ s.dom.elemName e = .ok (nsHtml, t.name) ∧ isOneOf t.name fmtNames = true

theorem RCPost.htmlTop {s : State} (h : RCPost s) : HtmlTop s := by
  obtain ⟨e, t, _, h2, h3, h4, h5⟩ := h
  exact ⟨e, t.name, h2, h3, h4, h5⟩

theorem setAF_apply (af : List FormatEntry) (s : State) : setAF af s = .ok ((), { s with activeFormatting := af }) := rfl

theorem reconstructCreate_post : ∀ (fuel i : Nat) (s s' : State), Good s →
    reconstructCreate fuel i s = .ok ((), s') → RCPost s'
  | 0, _, _, _, _, h => by cases h
  | fuel + 1, i, s, s', hg, h => by
    unfold reconstructCreate at h
    obtain ⟨st, s0, hgs, h⟩ := bind_ok h
    cases hgs
    simp (config := { zeta := true }) only [pure_bind] at h
    cases hget : s.activeFormatting[i]? with
    | none =>
      rw [hget] at h
      obtain ⟨_, _, hp, _⟩ := bind_ok h
      cases hp
    | some ent =>
      cases ent with
      | marker =>
        rw [hget] at h
        obtain ⟨_, _, hp, _⟩ := bind_ok h
        cases hp
      | element id0 t =>
        rw [hget] at h
        simp only at h
        have htag : isOneOf t.name fmtNames = true := fmt_of_getElem? hg.af hget
        obtain ⟨new, s1, h1, h⟩ := bind_ok h
        obtain ⟨ho, hne, hnm, haf⟩ := insertElement_push_ok h1
        obtain ⟨st, s1', hgs, h⟩ := bind_ok h
        cases hgs
        by_cases hlt : i < s1.activeFormatting.length
        · rw [if_pos hlt, bind_apply, setAF_apply] at h
          simp only at h
          obtain ⟨st, s2', hgs, h⟩ := bind_ok h
          cases hgs
          have hg1 : Good s1 := ((insertElement_resp _ _ _ _ _).post hg h1).2
          have hg2 : Good { s1 with activeFormatting := s1.activeFormatting.set i (.element new t) } :=
            ⟨fmt_set hg1.af i htag, hg1.pend⟩
          simp only at h
          by_cases hz : ((s1.activeFormatting.set i (FormatEntry.element new t)).length == 0) = true
          · rw [if_pos hz] at h; cases h
          · rw [if_neg hz] at h
            by_cases hlast : (i == (s1.activeFormatting.set i (FormatEntry.element new t)).length - 1) = true
            · rw [if_pos hlast] at h
              cases h
              refine ⟨new, t, ?_, ?_, ?_, hnm, htag⟩
              · show (s1.activeFormatting.set i (.element new t)).getLast? = _
                have hi : i = (s1.activeFormatting.set i (.element new t)).length - 1 := by
                  simpa using hlast
                rw [List.getLast?_eq_getElem?, ← hi, List.getElem?_set_self hlt]
              · show s1.openElems.getLast? = _; rw [ho]; simp
              · show 2 ≤ s1.openElems.length
                rw [ho, List.length_append]
                have := List.length_pos_iff.mpr hne
                simp; omega
            · rw [if_neg hlast] at h
              exact reconstructCreate_post fuel (i + 1) _ s' hg2 h
        · rw [if_neg hlt] at h
          obtain ⟨_, _, hp, _⟩ := bind_ok h
          cases hp

theorem reconstructRewind_q : ∀ n, QResp (reconstructRewind n)
  | 0 => by unfold reconstructRewind; q_auto
  | i + 1 => by
    have ih := reconstructRewind_q i
    unfold reconstructRewind; q_auto

/-- running `reconstruct_active_formatting_elements` again would change nothing -/
def RDone (s : State) : Prop :=
  match s.activeFormatting.getLast? with
  | none => True
  | some last => ∃ tr, isMarkerOrOpen last s = .ok (true, withTr s tr)

theorem reconstruct_apply (s : State) :
    reconstructActiveFormattingElements s = match s.activeFormatting.getLast? with
      | none => .ok ((), s)
      | some last => (isMarkerOrOpen last >>= fun b =>
          if b then pure () else
            reconstructRewind (s.activeFormatting.length - 1) >>= fun start =>
              reconstructCreate (s.activeFormatting.length + 1) start) s := by
  unfold reconstructActiveFormattingElements
  rw [bind_apply, getS_apply]
  simp only
  cases s.activeFormatting.getLast? with
  | none => rfl
  | some last => rfl

theorem QSim.af {s u : State} (h : QSim s u) : u.activeFormatting = s.activeFormatting := by
  obtain ⟨_, _, _, _, _, _, _, _, rfl, _⟩ := h; rfl
theorem QSim.openElems {s u : State} (h : QSim s u) : u.openElems = s.openElems := by
  obtain ⟨_, _, _, _, _, _, _, _, rfl, _⟩ := h; rfl
theorem QSim.dq {s u : State} (h : QSim s u) : DQ s.dom u.dom := by
  obtain ⟨_, _, _, _, _, _, _, _, rfl, hd⟩ := h; exact hd

theorem RDone.of_qsim {s u : State} (h : RDone s) (hq : QSim s u) : RDone u := by
  unfold RDone at h ⊢
  rw [hq.af]
  cases hl : s.activeFormatting.getLast? with
  | none => trivial
  | some last =>
    rw [hl] at h
    obtain ⟨tr, htr⟩ := h
    exact (isMarkerOrOpen_q last).transfer hq htr

/-- nothing to reconstruct: the run only asks -/
theorem RDone.run {s : State} (h : RDone s) : ∃ tr, reconstructActiveFormattingElements s = .ok ((), withTr s tr) := by
  rw [reconstruct_apply]
  unfold RDone at h
  cases hl : s.activeFormatting.getLast? with
  | none => exact ⟨s.traceRev, rfl⟩
  | some last =>
    rw [hl] at h
    obtain ⟨tr, htr⟩ := h
    refine ⟨tr, ?_⟩
    simp only
    rw [bind_apply, htr]
    rfl

theorem sameNode_apply (x y : Id) (s : State) :
    sameNode x y s = .ok (x == y, { s with traceRev := (.sameNode x y, .bool (x == y)) :: s.traceRev }) := by
  unfold sameNode sinkBool
  rw [bind_apply, sink_apply]
  rfl

theorem RCPost.rdone {s : State} (h : RCPost s) : RDone s := by
  obtain ⟨e, t, h1, h2, _, _, _⟩ := h
  unfold RDone
  rw [h1]
  simp only [isMarkerOrOpen]
  rw [bind_apply, getS_apply]
  simp only
  have hrev : ∃ rest, s.openElems.reverse = e :: rest := by
    have := List.getLast?_eq_head?_reverse (xs := s.openElems)
    rw [h2] at this
    cases hr : s.openElems.reverse with
    | nil => rw [hr] at this; cases this
    | cons a rest => rw [hr] at this; simp at this; exact ⟨rest, by rw [this]⟩
  obtain ⟨rest, hr⟩ := hrev
  rw [hr]
  unfold anySameNodeRev
  rw [bind_apply, sameNode_apply]
  simp only [beq_self_eq_true, if_true]
  exact ⟨_, rfl⟩

/-- after the reconstruction a second one would change nothing, and if elements were created the current node
is the last of them -/
theorem reconstruct_post {s s1 : State} (hg : Good s) (h : reconstructActiveFormattingElements s = .ok ((), s1)) :
    RDone s1 ∧ (TrEq s s1 ∨ HtmlTop s1) := by
  rw [reconstruct_apply] at h
  cases hl : s.activeFormatting.getLast? with
  | none =>
    rw [hl] at h
    cases h
    exact ⟨by unfold RDone; rw [hl]; trivial, Or.inl (TrEq.refl s)⟩
  | some last =>
    rw [hl] at h
    simp only at h
    obtain ⟨b, s0, h0, h⟩ := bind_ok h
    obtain ⟨tr, rfl⟩ := (isMarkerOrOpen_q last).trEq h0
    cases b with
    | true =>
      cases h
      refine ⟨?_, Or.inl ⟨tr, rfl⟩⟩
      have : RDone s := by unfold RDone; rw [hl]; exact ⟨tr, h0⟩
      exact this.of_qsim (QSim.withTr s tr)
    | false =>
      simp only [Bool.false_eq_true, if_false] at h
      obtain ⟨start, s2, h2, h⟩ := bind_ok h
      obtain ⟨tr2, rfl⟩ := (reconstructRewind_q _).trEq h2
      have hp := reconstructCreate_post _ _ _ _ (good_withTr (good_withTr hg tr) tr2) h
      exact ⟨hp.rdone, Or.inr hp.htmlTop⟩

/-! ### consequences of `HtmlTop` -/

theorem elemName_apply (h : Id) (s : State) :
    elemName h s = match s.dom.elemName h with
      | .ok (ns, loc) => .ok (⟨ns, loc⟩, { s with traceRev := (.elemName h, .name ns loc) :: s.traceRev })
      | .error e => .error (errClass e ++ "@sink: " ++ e) := by
  unfold elemName
  rw [bind_apply, sink_apply, sink_elemName_apply]
  cases s.dom.elemName h with
  | error e => rfl
  | ok v => rfl

theorem HtmlTop.of_names {s u : State} (h : HtmlTop s) (ho : u.openElems = s.openElems)
    (hn : ∀ x r, s.dom.elemName x = .ok r → u.dom.elemName x = .ok r) : HtmlTop u := by
  obtain ⟨e, n, h1, h2, h3, h4⟩ := h
  exact ⟨e, n, by rw [ho]; exact h1, by rw [ho]; exact h2, hn _ _ h3, h4⟩

theorem DQ.names {d d' : Dom} (h : DQ d d') (x : Id) (r : Str × Str) (hx : d.elemName x = .ok r) : d'.elemName x = .ok r := by
  have := (h x).1
  rw [hx] at this
  cases hd : d'.elemName x with
  | error e => rw [hd] at this; exact this.elim
  | ok v => rw [hd] at this; have : r = v := this; rw [this]

theorem HtmlTop.of_qsim {s u : State} (h : HtmlTop s) (hq : QSim s u) : HtmlTop u :=
  h.of_names hq.openElems (fun x r hx => hq.dq.names x r hx)

theorem isForeign_htmlTop {s : State} (h : HtmlTop s) : ∃ tr, isForeignChars s = .ok (false, withTr s tr) := by
  obtain ⟨e, n, h1, h2, h3, _⟩ := h
  unfold isForeignChars isForeign
  have hne : s.openElems.isEmpty = false := by
    cases ho : s.openElems with
    | nil => rw [ho] at h2; simp at h2
    | cons a t => rfl
  have hl : (s.openElems.length == 1) = false := by
    cases hb : s.openElems.length == 1 with
    | false => rfl
    | true => have : s.openElems.length = 1 := by simpa using hb
              omega
  have hadj : adjustedCurrentNode s = .ok (e, s) := by
    unfold adjustedCurrentNode
    rw [bind_apply, getS_apply]
    simp only [hl, Bool.false_eq_true, if_false]
    unfold currentNode
    rw [bind_apply, getS_apply]
    simp only [h1]
    rfl
  have hdec : (Token.chars SplitStatus.notSplit [] == Token.eof) = false := rfl
  simp only [hdec, Bool.false_eq_true, if_false]
  rw [bind_apply, getS_apply]
  simp only [hne, Bool.false_eq_true, if_false]
  rw [bind_apply, hadj]
  simp only
  rw [bind_apply, elemName_apply, h3]
  simp only [beq_self_eq_true, if_true]
  exact ⟨_, rfl⟩

theorem currentNodeIn_htmlTop {s : State} (h : HtmlTop s) (set : EName → Bool)
    (hset : ∀ n, isOneOf n fmtNames = true → set ⟨nsHtml, n⟩ = false) :
    ∃ tr, currentNodeIn set s = .ok (false, withTr s tr) := by
  obtain ⟨e, n, h1, _, h3, h4⟩ := h
  unfold currentNodeIn currentNode
  rw [bind_apply, bind_apply, getS_apply]
  simp only [h1, pure_apply]
  rw [bind_apply, elemName_apply, h3]
  simp only [hset n h4]
  exact ⟨_, rfl⟩

theorem fmt_not_outer (n : Str) (h : isOneOf n fmtNames = true) : tableOuterChars ⟨nsHtml, n⟩ = false := by
  have table : fmtNames.all (fun x => !tableOuterChars ⟨nsHtml, x.toList⟩) = true := by decide +kernel
  obtain ⟨x, hx, hn⟩ := List.any_eq_true.mp h
  have := List.all_eq_true.mp table x hx
  rw [eq_of_beq hn] at this
  exact Bool.not_eq_true' _ |>.mp this

end H5V.Lemmas.TBSplit
