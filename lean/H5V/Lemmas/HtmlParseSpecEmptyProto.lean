import H5V.Lemmas.HtmlParseSpecCdataFam
import H5V.Lemmas.HtmlParseSpecIgnoreLf
import H5V.Lemmas.HtmlParseSpecTextProto
import H5V.Lemmas.HtmlParseSpecAgree3
/-!
**`EmptyOk` is a FACT about the joint run** (`parse_hist_empty`).

The tokenizer delivers an EMPTY character token for `<![CDATA[]]>` (and for U+0000 / end of input inside an empty
CDATA section).  `process_token` clears the tree builder's `ignore_lf` flag before it drops such a token, so the
model and the standard (which has no token there) would disagree on a following LF — if the flag could be set at
that moment.  It cannot:
* tokenizer side (`H5V.Lemmas.HtmlParseSpecCdataFam`): empty character tokens only come from the CDATA-section
  family of states, which is only entered when the sink said "CDATA allowed", and from which only character tokens,
  U+0000 tokens and parse errors are delivered;
* tree-builder side (`H5V.Lemmas.HtmlParseSpecIgnoreLf`): while `ignore_lf` is set the CDATA question is answered
  "no" (the adjusted current node is the `pre` / `listing` / `textarea` element just inserted), and character tokens,
  U+0000 tokens and parse errors do not set the flag;
* the joint invariant: tokenizer in the CDATA family ⇒ `ignore_lf` clear.
-/
namespace H5V.Lemmas.ParseSpec
open H5V.Model.HtmlTB
open H5V.Lemmas.TBSafe (TI)
open H5V.Model.HtmlTB.Joint (JState absorb polOf conv convTag toSinkRes)
open H5V.Lemmas.JointChunk
open H5V.Model.HtmlTok (Mach Out step clr)

/-- what is known of the tree builder between two tokens -/
structure TbInv (s : State) : Prop where
  ign : IgnQ s

theorem TbInv.step {s s' : State} {t : TokToken} {l : Nat} {r : SinkResult} (h : TbInv s)
    (hr : (processToken t l).run s = .ok (r, s')) : TbInv s' :=
  ⟨processToken_ignQ t l s s' r h.ign hr⟩

/-- tokens that keep a clear flag clear: characters, U+0000, parse errors, EOF (pause markers are not tokens) -/
def PlainTok : TTk → Prop
  | .chars _ => True | .nullChar => True | .error _ => True | .eof => True | .pause _ => True
  | _ => False

theorem conv_emptyChars {tok : TTk} (h : conv tok = some (TokToken.chars [])) : isEmptyChars tok = true := by
  cases tok <;> simp [conv] at h
  subst h; rfl

/-- a delivery without empty character tokens, or of plain tokens with the flag clear -/
theorem absorb_emptyOk : ∀ (toks : List (TTk × Nat)) (j j' : JState), absorb toks j = .ok j' → TbInv j.tb →
    ((∀ p ∈ toks, isEmptyChars p.1 = false) ∨ (j.tb.ignoreLf = false ∧ ∀ p ∈ toks, PlainTok p.1)) →
    EmptyOk j.tb (convAll toks) ∧ TbInv j'.tb ∧
      ((j.tb.ignoreLf = false ∧ ∀ p ∈ toks, PlainTok p.1) → j'.tb.ignoreLf = false)
  | [], j, j', h, hi, _ => by cases h; exact ⟨trivial, hi, fun h => h.1⟩
  | (t, line) :: rest, j, j', h, hi, hH => by
    rw [absorb_cons] at h
    rw [convAll_cons]
    cases hc : conv t with
    | none =>
      rw [hc] at h
      obtain ⟨a, b, c⟩ := absorb_emptyOk rest j j' h hi
        (hH.imp (fun h1 p hp => h1 p (by simp [hp])) (fun h2 => ⟨h2.1, fun p hp => h2.2 p (by simp [hp])⟩))
      exact ⟨a, b, fun h2 => c ⟨h2.1, fun p hp => h2.2 p (by simp [hp])⟩⟩
    | some tt =>
      rw [hc] at h
      simp only at h
      cases hp : (processToken tt line).run j.tb with
      | error e => rw [hp] at h; cases h
      | ok v =>
        obtain ⟨r, tb⟩ := v
        rw [hp] at h
        simp only at h
        by_cases hcnd : (!isTagT tt && r != .continue_) = true
        · rw [if_pos hcnd] at h; cases h
        · rw [if_neg hcnd] at h
          have hi1 := hi.step hp
          -- a plain token keeps a clear flag clear
          have hkeep : (j.tb.ignoreLf = false ∧ PlainTok t) → tb.ignoreLf = false := by
            rintro ⟨hlf, hpl⟩
            refine processToken_ignoreLf_clear tt line j.tb tb r hp hlf ?_
            cases t <;> simp [PlainTok] at hpl <;> simp [conv] at hc <;> subst hc
            · exact Or.inl ⟨_, rfl⟩
            · exact Or.inr (Or.inl rfl)
            · exact Or.inr (Or.inr (Or.inr (Or.inl rfl)))
            · exact Or.inr (Or.inr (Or.inl ⟨_, rfl⟩))
          obtain ⟨a, b, c⟩ := absorb_emptyOk rest _ j' h hi1
            (by
              rcases hH with h1 | h2
              · exact Or.inl (fun p hp => h1 p (by simp [hp]))
              · exact Or.inr ⟨hkeep ⟨h2.1, h2.2 (t, line) (by simp)⟩, fun p hp => h2.2 p (by simp [hp])⟩)
          refine ⟨?_, b, fun h2 => c ⟨hkeep ⟨h2.1, h2.2 (t, line) (by simp)⟩, fun p hp => h2.2 p (by simp [hp])⟩⟩
          show EmptyOk j.tb ((tt, line) :: convAll rest)
          refine ⟨fun he => ?_, fun r' s' hr' => ?_⟩
          · rcases hH with h1 | h2
            · have := h1 (t, line) (by simp)
              rw [he] at hc
              rw [conv_emptyChars hc] at this
              cases this
            · exact h2.1
          · rw [hp] at hr'
            cases hr'
            exact a

/-- the invariant of the joint loop: the registers of the tokenizer, the tree builder, and "CDATA family ⇒ flag clear" -/
structure EInv (m : Mach) (j : JState) : Prop where
  tmp : TmpInv m
  tb : TbInv j.tb
  cd : CdataFam m.state = true → j.tb.ignoreLf = false

theorem tbCdata_ignQ {j : JState} (hq : IgnQ j.tb) (h : tbCdata j = true) : j.tb.ignoreLf = false := by
  cases hlf : j.tb.ignoreLf with
  | false => rfl
  | true =>
    unfold tbCdata at h
    cases hr : adjustedCurrentNodeForeign.run j.tb with
    | error e => rw [hr] at h; cases h
    | ok v =>
      obtain ⟨b, s1⟩ := v
      rw [hr] at h
      simp only at h
      have := hq hlf b s1 hr
      rw [this] at h
      cases h

theorem joint_step_empty {o : TOpts} {m : Mach} {inp : H5V.Model.HtmlTok.Str} {j j1 : JState} (hm : m.out = [])
    {m1 : Mach} {i1 : H5V.Model.HtmlTok.Str} (hs : (step o (polOf j) m inp).pair? = some (m1, i1))
    (ha : absorb m1.out.reverse j = .ok j1) (hI : EInv m j) :
    EmptyOk j.tb (convAll m1.out.reverse) ∧ EInv (clr m1) j1 := by
  have htmp1 : TmpInv (clr m1) := step_tmpInv o (polOf j) m inp hI.tmp m1 i1 hs
  by_cases hc : CdataFam m.state = true
  · obtain ⟨new, hnew, hk⟩ := step_cdata o (polOf j) m inp hc m1 i1 hs
    rw [hm, List.append_nil] at hnew
    have hpl : ∀ p ∈ m1.out.reverse, PlainTok p.1 := by
      intro p hp
      have := hk p (by rw [← hnew]; exact List.mem_reverse.mp hp)
      rcases this with ⟨x, e⟩ | e | ⟨x, e⟩ <;> rw [e] <;> trivial
    obtain ⟨a, b, c⟩ := absorb_emptyOk _ j j1 ha hI.tb (Or.inr ⟨hI.cd hc, hpl⟩)
    exact ⟨a, htmp1, b, fun _ => c ⟨hI.cd hc, hpl⟩⟩
  · have hc' : CdataFam m.state = false := by
      cases h : CdataFam m.state
      · rfl
      · exact absurd h hc
    obtain ⟨new, hnew, hne, hent⟩ := step_notCdata o (polOf j) m inp hc' hI.tmp m1 i1 hs
    rw [hm, List.append_nil] at hnew
    obtain ⟨a, b, _⟩ := absorb_emptyOk _ j j1 ha hI.tb
      (Or.inl (fun p hp => hne p (by rw [← hnew]; exact List.mem_reverse.mp hp)))
    refine ⟨a, htmp1, b, fun hc1 => ?_⟩
    -- the family was entered: the sink allowed CDATA, nothing was delivered
    obtain ⟨hok, hnil⟩ := hent hc1
    rw [hnil] at hnew
    rw [hnew] at ha
    have hj : j1 = j := by
      have : absorb [] j = .ok j1 := ha
      cases this; rfl
    subst hj
    rw [hm, polOf_cdataOk] at hok
    have hok' : tbCdata j1 = true := hok
    exact tbCdata_ignQ hI.tb.ign hok'

theorem jruns_empty {o : TOpts} {m : Mach} {inp : H5V.Model.HtmlTok.Str} {j : JState} {m' : Mach} {j' : JState} {D : Out}
    (h : JRunsD o m inp j m' j' D) :
    m.out = [] → EInv m j → EmptyOk j.tb (convAll D.reverse) ∧ EInv m' j' := by
  induction h with
  | @susp m inp j m1 j1 hs ha =>
    intro hm hI
    have hs' : (step o (polOf j) m inp).pair? = some (m1, []) := by rw [hs]; rfl
    rw [convAll_stepOut hs']
    exact joint_step_empty hm hs' ha hI
  | @scriptEnd m inp j m1 j1 hs ha =>
    intro hm hI
    have hs' : (step o (polOf j) m inp).pair? = some (m1, []) := by rw [hs]; rfl
    rw [convAll_stepOut hs']
    exact joint_step_empty hm hs' ha hI
  | @indicatorEnd m inp j m1 j1 hs ha =>
    intro hm hI
    have hs' : (step o (polOf j) m inp).pair? = some (m1, []) := by rw [hs]; rfl
    rw [convAll_stepOut hs']
    exact joint_step_empty hm hs' ha hI
  | @cont m inp j m1 i1 j1 m' j' D hs ha _ ih =>
    intro hm hI
    have hs' : (step o (polOf j) m inp).pair? = some (m1, i1) := by rw [hs]; rfl
    obtain ⟨a1, a2⟩ := joint_step_empty hm hs' ha hI
    obtain ⟨b1, b2⟩ := ih rfl a2
    rw [List.reverse_append, convAll_append, convAll_stepOut hs']
    exact ⟨emptyOk_append _ _ _ a1 (fun s' hs'' => by rw [hs''.det (absorb_tbRuns _ _ _ ha)]; exact b1), b2⟩
  | @script m inp j m1 i1 j1 m' j' D hs ha _ _ ih =>
    intro hm hI
    have hs' : (step o (polOf j) m inp).pair? = some (m1, i1) := by rw [hs]; rfl
    obtain ⟨a1, a2⟩ := joint_step_empty hm hs' ha hI
    obtain ⟨b1, b2⟩ := ih rfl a2
    rw [List.reverse_append, convAll_append, convAll_stepOut hs']
    exact ⟨emptyOk_append _ _ _ a1 (fun s' hs'' => by rw [hs''.det (absorb_tbRuns _ _ _ ha)]; exact b1), b2⟩
  | @indicator m inp j m1 i1 j1 m' j' D hs ha _ _ ih =>
    intro hm hI
    have hs' : (step o (polOf j) m inp).pair? = some (m1, i1) := by rw [hs]; rfl
    obtain ⟨a1, a2⟩ := joint_step_empty hm hs' ha hI
    obtain ⟨b1, b2⟩ := ih rfl a2
    rw [List.reverse_append, convAll_append, convAll_stepOut hs']
    exact ⟨emptyOk_append _ _ _ a1 (fun s' hs'' => by rw [hs''.det (absorb_tbRuns _ _ _ ha)]; exact b1), b2⟩
where
  emptyOk_append : ∀ (p q : List (TokToken × Nat)) (s : State), EmptyOk s p →
      (∀ s', TbRuns s p s' → EmptyOk s' q) → EmptyOk s (p ++ q)
    | [], _, s, _, h => h s (TbRuns.nil s)
    | (_, _) :: p, q, _, hp, h =>
      ⟨hp.1, fun r s1 hr => emptyOk_append p q s1 (hp.2 r s1 hr) (fun s' hrun => h s' (TbRuns.cons hr hrun))⟩

theorem emptyOk_append' : ∀ (p q : List (TokToken × Nat)) (s : State), EmptyOk s p →
    (∀ s', TbRuns s p s' → EmptyOk s' q) → EmptyOk s (p ++ q)
  | [], _, s, _, h => h s (TbRuns.nil s)
  | (_, _) :: p, q, _, hp, h =>
    ⟨hp.1, fun r s1 hr => emptyOk_append' p q s1 (hp.2 r s1 hr) (fun s' hrun => h s' (TbRuns.cons hr hrun))⟩

/-! ### `Parser::finish` -/

theorem finish_empty {o : TOpts} {m : Mach} {j jf : JState} {Dp : Out} {m1 : Mach} {inp : H5V.Model.HtmlTok.Str}
    {j1 : JState} {D2 : Out} {m2 : Mach} {j2 : JState} {m3 : Mach} {j3 : JState}
    (d : FinishData o m j jf Dp m1 inp j1 D2 m2 j2 m3 j3) (hm : m.out = []) (hI : EInv m j) :
    EmptyOk j.tb (convAll (m3.out ++ (D2 ++ Dp)).reverse) := by
  -- the flush of a pending character reference
  have hpro : EmptyOk j.tb (convAll Dp.reverse) ∧ m1.out = [] ∧ EInv (m1.setAtEof true) j1 ∧
      TbRuns j.tb (convAll Dp.reverse) j1.tb := by
    rcases d.pro with ⟨_, rfl, rfl, _, rfl⟩ | ⟨cr, ma, chars, mb, hcr, hce, hpc, rfl, rfl, hab⟩
    · exact ⟨trivial, hm, ⟨hI.tmp, hI.tb, hI.cd⟩, TbRuns.nil _⟩
    · have hr := absorb_tbRuns _ _ _ hab
      obtain ⟨new, hnew, hne, hst, htb⟩ := crEof_processCharRef_nonEmpty o m cr ma inp chars mb .cont hce hpc
      rw [hm, List.append_nil] at hnew
      have htmp : TmpInv ((clr mb).setAtEof true) := by
        intro ⟨k, hk⟩
        have hk' : mb.state = .rawEndTagName k := hk
        show mb.tempBuf ≠ []
        rw [htb]
        exact hI.tmp ⟨k, by rw [← hst]; exact hk'⟩
      by_cases hc : CdataFam m.state = true
      · obtain ⟨new', hnew', hk, _, _⟩ := crEof_processCharRef_out o m cr ma inp chars mb .cont hce hpc
        rw [hm, List.append_nil] at hnew'
        have hpl : ∀ p ∈ mb.out.reverse, PlainTok p.1 := by
          intro p hp
          have := hk p (by rw [← hnew']; exact List.mem_reverse.mp hp)
          rcases this with ⟨x, e⟩ | ⟨x, e⟩ | e <;> rw [e] <;> trivial
        obtain ⟨a, b, c⟩ := absorb_emptyOk _ j j1 hab hI.tb (Or.inr ⟨hI.cd hc, hpl⟩)
        exact ⟨a, rfl, ⟨htmp, b, fun _ => c ⟨hI.cd hc, hpl⟩⟩, hr⟩
      · obtain ⟨a, b, _⟩ := absorb_emptyOk _ j j1 hab hI.tb
          (Or.inl (fun p hp => hne p (by rw [← hnew]; exact List.mem_reverse.mp hp)))
        refine ⟨a, rfl, ⟨htmp, b, fun hc1 => ?_⟩, hr⟩
        have : CdataFam mb.state = true := hc1
        rw [hst] at this
        exact absurd this hc
  obtain ⟨p1, p2, p3, p4⟩ := hpro
  -- the final run
  obtain ⟨r1, r2⟩ := jruns_empty d.run (by show m1.out = []; exact p2) p3
  have r5 : TbRuns j1.tb (convAll D2.reverse) j2.tb :=
    (jruns_text_runs d.run (by show m1.out = []; exact p2))
  -- `eof_step`
  have hm2 : m2.out = [] := (d.hist (j0 := j) hm [] rfl).2.2.2.1
  have heof : EmptyOk j2.tb (convAll m3.out.reverse) := by
    by_cases hc : CdataFam m2.state = true
    · obtain ⟨new, hnew, hk⟩ := eofLoop_cdata o 8 m2 m3 hc d.eof
      rw [hm2, List.append_nil] at hnew
      have hpl : ∀ p ∈ m3.out.reverse, PlainTok p.1 := by
        intro p hp
        have := hk p (by rw [← hnew]; exact List.mem_reverse.mp hp)
        rcases this with ⟨x, e⟩ | ⟨x, e⟩ | e <;> rw [e] <;> trivial
      exact (absorb_emptyOk _ j2 j3 d.abs r2.tb (Or.inr ⟨r2.cd hc, hpl⟩)).1
    · have hc' : CdataFam m2.state = false := by
        cases h : CdataFam m2.state
        · rfl
        · exact absurd h hc
      obtain ⟨new, hnew, hne⟩ := eofLoop_notCdata o 8 m2 m3 hc' r2.tmp d.eof
      rw [hm2, List.append_nil] at hnew
      exact (absorb_emptyOk _ j2 j3 d.abs r2.tb
        (Or.inl (fun p hp => hne p (by rw [← hnew]; exact List.mem_reverse.mp hp)))).1
  rw [List.reverse_append, List.reverse_append, convAll_append, convAll_append]
  refine emptyOk_append' _ _ _ (emptyOk_append' _ _ _ p1 (fun s' hs' => ?_)) (fun s' hs' => ?_)
  · rw [hs'.det p4]; exact r1
  · rw [hs'.det (p4.append r5)]; exact heof

/-! ### the whole parse -/

/-- **`EmptyOk` holds along every successful joint parse of a document** -/
theorem parse_hist_empty {o : TOpts} {N : Nat} {m0 : Mach} {j0 : JState} {s : H5V.Model.HtmlTok.Str} {jf : JState}
    (hs : H5V.Props.C03.Start m0) (h : H5V.Props.C03.parseChunks o N m0 j0 [s] = .ok jf) (hI : EInv m0 j0) :
    ∃ Hf j3, ParseHist o m0 j0 s jf Hf j3 ∧ EmptyOk j0.tb (convAll Hf.reverse) := by
  obtain ⟨m1, j1, D1, Dp, mx, inp, jx, D2, m2, j2, m3, j3, hfeedJ, d, ph⟩ := parse_hist' hs h
  refine ⟨_, _, ph, ?_⟩
  have hm0 : m0.out = [] := hs.out
  have hfeed : EmptyOk j0.tb (convAll D1.reverse) ∧ m1.out = [] ∧ EInv m1 j1 ∧ TbRuns j0.tb (convAll D1.reverse) j1.tb := by
    rcases hfeedJ with ⟨_, rfl, rfl, rfl⟩ | ⟨hne, hr⟩
    · exact ⟨trivial, hm0, hI, TbRuns.nil _⟩
    · have hb : (H5V.Model.HtmlTok.feedBom m0 s).1.out = [] := by
        rcases H5V.Props.C03.feedBom_fst m0 s with e | e <;> rw [e] <;> exact hm0
      have hIb : EInv (H5V.Model.HtmlTok.feedBom m0 s).1 j0 := by
        rcases H5V.Props.C03.feedBom_fst m0 s with e | e <;> rw [e]
        · exact hI
        · exact ⟨hI.tmp, hI.tb, hI.cd⟩
      obtain ⟨a1, a2⟩ := jruns_empty hr hb hIb
      exact ⟨a1, (jruns_star (j0 := j0) hr hb [] rfl).2.1, a2, jruns_text_runs hr hb⟩
  obtain ⟨f1, f2, f3, f4⟩ := hfeed
  have hfin := finish_empty d f2 f3
  have e : (m3.out ++ (D2 ++ (Dp ++ D1))).reverse = D1.reverse ++ (m3.out ++ (D2 ++ Dp)).reverse := by
    simp [List.reverse_append, List.append_assoc]
  rw [e, convAll_append]
  refine emptyOk_append' _ _ _ f1 (fun s' hs' => ?_)
  rw [hs'.det f4]
  exact hfin

end H5V.Lemmas.ParseSpec
