import H5V.Lemmas.HtmlTBSkelShapeQ
/-!
C06, second invariant layer: what the popping helpers do to the stack of open elements
(`pop`, `generate_implied_end_tags`, `pop_until_current`, `pop_until`, …), in terms of element names.
`PR s s'`: nothing but the stack (a prefix of the old one) and the trace changed.
-/
namespace H5V.Props.C06
open H5V.Model.Dom hiding Str
open H5V.Model.HtmlTB hiding Str
open H5V.Lemmas.Dom

/-- pops only: the new stack is the old one without `popped` on top -/
structure PR (s s' : State) (popped : List Id) : Prop where
  nodes : s'.dom.nodes = s.dom.nodes
  stack : s.openElems = s'.openElems ++ popped
  rest : s' = { s with openElems := s'.openElems, dom := s'.dom, traceRev := s'.traceRev }

theorem PR.of_qs {s s' : State} (h : QS s s') : PR s s' [] :=
  ⟨h.nodes, by rw [h.openElems]; simp, by rw [h.rest]⟩

theorem PR.trans {a b c : State} {p1 p2 : List Id} (h1 : PR a b p1) (h2 : PR b c p2) : PR a c (p2 ++ p1) :=
  ⟨h2.nodes.trans h1.nodes, by rw [h1.stack, h2.stack]; simp, by rw [h2.rest, h1.rest]⟩

theorem PR.qs_right {a b c : State} {p : List Id} (h1 : PR a b p) (h2 : QS b c) : PR a c p := by
  have := h1.trans (PR.of_qs h2); simpa using this

theorem PR.qs_left {a b c : State} {p : List Id} (h1 : QS a b) (h2 : PR b c p) : PR a c p := by
  have := (PR.of_qs h1).trans h2; simpa using this

theorem PR.nm {s s' : State} {p : List Id} (h : PR s s' p) (x : Id) : nm s'.dom x = nm s.dom x := nm_of_nodes h.nodes x

theorem dropLast_append_getLast? {l : List Id} {x : Id} (h : l.getLast? = some x) : l = l.dropLast ++ [x] := by
  rw [List.getLast?_eq_some_iff] at h
  obtain ⟨ys, rfl⟩ := h
  simp

theorem pop_sem {s s' : State} {h : Id} (e : pop s = .ok (h, s')) : PR s s' [h] := by
  unfold pop at e
  rw [getS_bind] at e
  cases hl : s.openElems.getLast? with
  | none => simp only [hl] at e; exact absurd e panicAt_ok
  | some x =>
    simp only [hl] at e
    obtain ⟨u, s1, e1, e2⟩ := bind_ok.mp e
    have hs1 := set_ok.mp e1
    obtain ⟨u2, s2, e3, e4⟩ := bind_ok.mp e2
    obtain ⟨rfl, rfl⟩ := pure_ok.mp e4
    have q := qs_sinkUnit e3
    subst hs1
    refine ⟨q.nodes, ?_, ?_⟩
    · rw [q.openElems]; exact dropLast_append_getLast? hl
    · rw [q.rest]

theorem popSilently_sem {s s' : State} {r : Option Id} (e : popSilently s = .ok (r, s')) :
    (r = none ∧ s' = s ∧ s.openElems = []) ∨ (∃ h, r = some h ∧ PR s s' [h]) := by
  unfold popSilently at e
  rw [getS_bind] at e
  cases hl : s.openElems.getLast? with
  | none =>
    simp only [hl] at e
    obtain ⟨rfl, rfl⟩ := pure_ok.mp e
    exact Or.inl ⟨rfl, rfl, List.getLast?_eq_none_iff.mp hl⟩
  | some x =>
    simp only [hl] at e
    obtain ⟨u, s1, e1, e2⟩ := bind_ok.mp e
    have hs1 := set_ok.mp e1
    obtain ⟨rfl, rfl⟩ := pure_ok.mp e2
    subst hs1
    exact Or.inr ⟨x, rfl, rfl, dropLast_append_getLast? hl, rfl⟩

/-- `generate_implied_end_tags(set)`: pops elements whose names are in `set`; stops at the first other one -/
theorem generateImpliedEndTagsLoop_sem (set : EName → Bool) : ∀ (fuel : Nat) (s s' : State) (u : Unit),
    generateImpliedEndTagsLoop set fuel s = .ok (u, s') →
      ∃ popped, PR s s' popped ∧ (∀ x ∈ popped, set (nm s.dom x) = true) ∧
        (∀ t, s'.openElems.getLast? = some t → set (nm s.dom t) = false)
  | 0, s, s', u, e => by unfold generateImpliedEndTagsLoop at e; exact absurd e fuelOut_ok
  | fuel + 1, s, s', u, e => by
    unfold generateImpliedEndTagsLoop at e
    rw [getS_bind] at e
    cases hl : s.openElems.getLast? with
    | none =>
      simp only [hl] at e
      obtain ⟨_, rfl⟩ := pure_ok.mp e
      exact ⟨[], PR.of_qs (QS.refl _), (by intro x hx; cases hx), (by intro t ht; rw [hl] at ht; cases ht)⟩
    | some el =>
      simp only [hl] at e
      obtain ⟨n, s1, e1, e2⟩ := bind_ok.mp e
      obtain ⟨q1, hn, _⟩ := elemName_sem e1
      by_cases hs : set n = true
      · simp only [hs, Bool.not_true, Bool.false_eq_true, if_false] at e2
        obtain ⟨h, s2, e3, e4⟩ := bind_ok.mp e2
        have p2 := pop_sem e3
        have hh : h = el := by
          have := p2.stack
          rw [q1.openElems, dropLast_append_getLast? hl] at this
          have := List.append_inj_right' this (by simp)
          simpa using this.symm
        subst hh
        obtain ⟨popped, p3, h3, h4⟩ := generateImpliedEndTagsLoop_sem set fuel s2 s' u e4
        have hnm : ∀ x, nm s2.dom x = nm s.dom x := fun x => by rw [p2.nm, q1.nm]
        refine ⟨popped ++ [h], (PR.qs_left q1 p2).trans p3, ?_, ?_⟩
        · intro x hx
          simp only [List.mem_append, List.mem_singleton] at hx
          rcases hx with hx | rfl
          · rw [← hnm]; exact h3 x hx
          · rw [← hn]; exact hs
        · intro t ht; rw [← hnm]; exact h4 t ht
      · simp only [hs, Bool.not_false, if_true] at e2
        obtain ⟨_, rfl⟩ := pure_ok.mp e2
        refine ⟨[], PR.of_qs q1, (by intro x hx; cases hx), ?_⟩
        intro t ht
        rw [q1.openElems, hl] at ht
        cases ht
        rw [← hn]; simpa using hs

theorem generateImpliedEndTags_sem {set : EName → Bool} {s s' : State} {u : Unit}
    (e : generateImpliedEndTags set s = .ok (u, s')) :
    ∃ popped, PR s s' popped ∧ (∀ x ∈ popped, set (nm s.dom x) = true) ∧
      (∀ t, s'.openElems.getLast? = some t → set (nm s.dom t) = false) := by
  unfold generateImpliedEndTags at e
  rw [getS_bind] at e
  exact generateImpliedEndTagsLoop_sem set _ _ _ _ e

theorem PR.of_popSilently {s s' : State} {h : Id} (p : PR s s' [h]) : s.openElems.getLast? = some h := by
  rw [p.stack]; simp

/-- `pop_until_current(set)`: pops elements not in `set`; ends with the current node in `set` -/
theorem popUntilCurrentLoop_sem (set : EName → Bool) : ∀ (fuel : Nat) (s s' : State) (u : Unit),
    popUntilCurrentLoop set fuel s = .ok (u, s') →
      ∃ popped, PR s s' popped ∧ (∀ x ∈ popped, set (nm s.dom x) = false) ∧
        ∃ t, s'.openElems.getLast? = some t ∧ set (nm s.dom t) = true
  | 0, s, s', u, e => by unfold popUntilCurrentLoop at e; exact absurd e fuelOut_ok
  | fuel + 1, s, s', u, e => by
    unfold popUntilCurrentLoop at e
    obtain ⟨b, s1, e1, e2⟩ := bind_ok.mp e
    obtain ⟨q1, t, hl, hb⟩ := currentNodeIn_sem e1
    by_cases hbt : b = true
    · simp only [hbt, if_true] at e2
      obtain ⟨_, rfl⟩ := pure_ok.mp e2
      exact ⟨[], PR.of_qs q1, (by intro x hx; cases hx), t, by rw [q1.openElems]; exact hl, by rw [← hb]; exact hbt⟩
    · simp only [hbt] at e2
      obtain ⟨r, s2, e3, e4⟩ := bind_ok.mp e2
      rcases popSilently_sem e3 with ⟨_, _, hem⟩ | ⟨h, _, p2⟩
      · rw [q1.openElems] at hem
        rw [hem] at hl
        cases hl
      · have hh : h = t := by
          have := p2.of_popSilently
          rw [q1.openElems, hl] at this
          cases this; rfl
        subst hh
        obtain ⟨popped, p3, h3, t', h4, h5⟩ := popUntilCurrentLoop_sem set fuel s2 s' u e4
        have hnm : ∀ x, nm s2.dom x = nm s.dom x := fun x => by rw [p2.nm, q1.nm]
        refine ⟨popped ++ [h], (PR.qs_left q1 p2).trans p3, ?_, t', h4, by rw [← hnm]; exact h5⟩
        intro x hx
        simp only [List.mem_append, List.mem_singleton] at hx
        rcases hx with hx | rfl
        · rw [← hnm]; exact h3 x hx
        · rw [← hb]; simpa using hbt

theorem popUntilCurrent_sem {set : EName → Bool} {s s' : State} {u : Unit}
    (e : popUntilCurrent set s = .ok (u, s')) :
    ∃ popped, PR s s' popped ∧ (∀ x ∈ popped, set (nm s.dom x) = false) ∧
      ∃ t, s'.openElems.getLast? = some t ∧ set (nm s.dom t) = true := by
  unfold popUntilCurrent at e
  rw [getS_bind] at e
  exact popUntilCurrentLoop_sem set _ _ _ _ e

/-- `pop_until(pred)`: pops up to and including the topmost element satisfying `pred` (everything if there is none) -/
theorem popUntilLoop_sem (pred : EName → Bool) : ∀ (fuel n : Nat) (s s' : State) (k : Nat),
    popUntilLoop pred fuel n s = .ok (k, s') →
      ∃ popped, PR s s' popped ∧
        ((∃ m above, popped = m :: above ∧ pred (nm s.dom m) = true ∧ ∀ x ∈ above, pred (nm s.dom x) = false) ∨
         (s'.openElems = [] ∧ ∀ x ∈ popped, pred (nm s.dom x) = false))
  | 0, _, s, s', k, e => by unfold popUntilLoop at e; exact absurd e fuelOut_ok
  | fuel + 1, n, s, s', k, e => by
    unfold popUntilLoop at e
    obtain ⟨r, s1, e1, e2⟩ := bind_ok.mp e
    rcases popSilently_sem e1 with ⟨rfl, rfl, hem⟩ | ⟨h, rfl, p1⟩
    · simp only at e2
      obtain ⟨_, rfl⟩ := pure_ok.mp e2
      exact ⟨[], PR.of_qs (QS.refl _), Or.inr ⟨hem, by intro x hx; cases hx⟩⟩
    · simp only at e2
      obtain ⟨nme, s2, e3, e4⟩ := bind_ok.mp e2
      obtain ⟨q2, hn, _⟩ := elemName_sem e3
      have hn' : nme = nm s.dom h := by rw [hn, p1.nm]
      by_cases hp : pred nme = true
      · simp only [hp, if_true] at e4
        obtain ⟨_, rfl⟩ := pure_ok.mp e4
        exact ⟨[h], p1.qs_right q2, Or.inl ⟨h, [], rfl, by rw [← hn']; exact hp, by intro x hx; cases hx⟩⟩
      · simp only [hp] at e4
        obtain ⟨popped, p3, h3⟩ := popUntilLoop_sem pred fuel _ s2 s' k e4
        have hnm : ∀ x, nm s2.dom x = nm s.dom x := fun x => by rw [q2.nm, p1.nm]
        refine ⟨popped ++ [h], (p1.qs_right q2).trans p3, ?_⟩
        rcases h3 with ⟨m, above, hpo, hm, hab⟩ | ⟨hem, hall⟩
        · refine Or.inl ⟨m, above ++ [h], by rw [hpo]; simp, by rw [← hnm]; exact hm, ?_⟩
          intro x hx
          simp only [List.mem_append, List.mem_singleton] at hx
          rcases hx with hx | rfl
          · rw [← hnm]; exact hab x hx
          · rw [← hn']; simpa using hp
        · refine Or.inr ⟨hem, ?_⟩
          intro x hx
          simp only [List.mem_append, List.mem_singleton] at hx
          rcases hx with hx | rfl
          · rw [← hnm]; exact hall x hx
          · rw [← hn']; simpa using hp

theorem popUntil_sem {pred : EName → Bool} {s s' : State} {k : Nat} (e : popUntil pred s = .ok (k, s')) :
    ∃ popped, PR s s' popped ∧
      ((∃ m above, popped = m :: above ∧ pred (nm s.dom m) = true ∧ ∀ x ∈ above, pred (nm s.dom x) = false) ∨
       (s'.openElems = [] ∧ ∀ x ∈ popped, pred (nm s.dom x) = false)) := by
  unfold popUntil at e
  rw [getS_bind] at e
  exact popUntilLoop_sem pred _ _ _ _ _ e

theorem expectToCloseS_sem {name : Str} {s s' : State} {u : Unit} (e : expectToCloseS name s = .ok (u, s')) :
    ∃ popped, PR s s' popped ∧
      ((∃ m above, popped = m :: above ∧ isHS (nm s.dom m) name = true ∧ ∀ x ∈ above, isHS (nm s.dom x) name = false) ∨
       (s'.openElems = [] ∧ ∀ x ∈ popped, isHS (nm s.dom x) name = false)) := by
  unfold expectToCloseS at e
  obtain ⟨k, s1, e1, e2⟩ := bind_ok.mp e
  unfold popUntilNamedS at e1
  obtain ⟨popped, p1, h1⟩ := popUntil_sem e1
  have hq : QS s1 s' := by
    by_cases hk : (k != 1) = true
    · simp only [hk, if_true] at e2; exact qs_parseError e2
    · simp only [hk] at e2; obtain ⟨_, rfl⟩ := pure_ok.mp e2; exact QS.refl _
  refine ⟨popped, p1.qs_right hq, ?_⟩
  rcases h1 with h | ⟨hem, h⟩
  · exact Or.inl h
  · exact Or.inr ⟨by rw [hq.openElems]; exact hem, h⟩

/-- the search of `process_end_tag_in_body` over the reversed stack `l` (whose last index is `len - 1`) -/
theorem endTagSearch_sem (name : Str) : ∀ (l : List Id) (len : Nat) (s s' : State) (r : Option (Option Nat)),
    endTagSearch name l len s = .ok (r, s') →
      QS s s' ∧ ∀ idx, r = some (some idx) → ∃ pre m post, l = pre ++ m :: post ∧ idx = len - 1 - pre.length ∧
        isHS (nm s.dom m) name = true ∧ ∀ x ∈ pre, specialTag (nm s.dom x) = false ∧ isHS (nm s.dom x) name = false
  | [], len, s, s', r, e => by
    unfold endTagSearch at e
    obtain ⟨rfl, rfl⟩ := pure_ok.mp e
    exact ⟨QS.refl _, by intro idx h; cases h⟩
  | x :: rest, len, s, s', r, e => by
    unfold endTagSearch at e
    obtain ⟨b1, s1, e1, e2⟩ := bind_ok.mp e
    obtain ⟨q1, hb1, _⟩ := htmlElemNamedS_sem e1
    by_cases h1 : b1 = true
    · simp only [h1, if_true] at e2
      obtain ⟨rfl, rfl⟩ := pure_ok.mp e2
      refine ⟨q1, ?_⟩
      intro idx hidx
      cases hidx
      exact ⟨[], x, rest, rfl, by simp, by unfold isHS; rw [← hb1]; exact h1, by intro y hy; cases hy⟩
    · simp only [h1] at e2
      obtain ⟨b2, s2, e3, e4⟩ := bind_ok.mp e2
      obtain ⟨q2, hb2⟩ := elemIn_sem e3
      by_cases h2 : b2 = true
      · simp only [h2, if_true] at e4
        obtain ⟨u, s3, e5, e6⟩ := bind_ok.mp e4
        obtain ⟨rfl, rfl⟩ := pure_ok.mp e6
        exact ⟨(q1.trans q2).trans (qs_parseError e5), by intro idx h; cases h⟩
      · simp only [h2] at e4
        obtain ⟨q3, hr⟩ := endTagSearch_sem name rest (len - 1) s2 s' r e4
        have q12 := q1.trans q2
        refine ⟨q12.trans q3, ?_⟩
        intro idx hidx
        obtain ⟨pre, m, post, hl, hi, hm, hpre⟩ := hr idx hidx
        refine ⟨x :: pre, m, post, by rw [hl]; rfl, by simp only [List.length_cons]; omega, by rw [← q12.nm]; exact hm, ?_⟩
        intro y hy
        simp only [List.mem_cons] at hy
        rcases hy with rfl | hy
        · refine ⟨?_, ?_⟩
          · rw [← q1.nm, ← hb2]; simpa using h2
          · unfold isHS; rw [← hb1]; simpa using h1
        · have := hpre y hy
          rw [q12.nm] at this
          exact this

theorem mem_drop_min {l : List Id} {a b : Nat} {x : Id} (h : x ∈ l.drop (min a b)) : x ∈ l.drop a ∨ x ∈ l.drop b := by
  by_cases hab : a ≤ b
  · rw [Nat.min_eq_left hab] at h; exact Or.inl h
  · rw [Nat.min_eq_right (Nat.le_of_lt (Nat.lt_of_not_le hab))] at h; exact Or.inr h

/-- `process_end_tag_in_body`: every popped element is non-special, or has the tag's name, or is one
of the implied-end elements -/
theorem processEndTagInBody_sem {tag : Tag} {s s' : State} {u : Unit} (e : processEndTagInBody tag s = .ok (u, s')) :
    ∃ popped, PR s s' popped ∧ ∀ x ∈ popped, specialTag (nm s.dom x) = false ∨ isHS (nm s.dom x) tag.name = true ∨
      cursoryImpliedEnd (nm s.dom x) = true := by
  unfold processEndTagInBody at e
  rw [getS_bind] at e
  obtain ⟨r, s1, e1, e2⟩ := bind_ok.mp e
  obtain ⟨q1, hr⟩ := endTagSearch_sem tag.name _ _ _ _ _ e1
  cases r with
  | none =>
    simp only at e2
    obtain ⟨_, rfl⟩ := pure_ok.mp e2
    exact ⟨[], PR.of_qs q1, by intro x hx; cases hx⟩
  | some r1 =>
    cases r1 with
    | none =>
      simp only at e2
      obtain ⟨_, s2, e3, e4⟩ := bind_ok.mp e2
      obtain ⟨_, rfl⟩ := pure_ok.mp e4
      exact ⟨[], PR.of_qs (q1.trans (qs_unexpected e3).1), by intro x hx; cases hx⟩
    | some idx =>
      simp only at e2
      obtain ⟨pre, m, post, hl, hidx, hm, hpre⟩ := hr idx rfl
      obtain ⟨hget, hsplit⟩ := getElem?_of_reverse_split hl
      obtain ⟨_, s2, e3, e4⟩ := bind_ok.mp e2
      unfold generateImpliedEndExcept at e3
      obtain ⟨popped1, p1, hp1, _⟩ := generateImpliedEndTags_sem e3
      rw [getS_bind] at e4
      by_cases hlen : (s2.openElems.length == 0) = true
      · simp only [hlen, if_true] at e4; exact absurd e4 panicAt_ok
      · simp only [hlen] at e4
        -- the optional parse error, then the truncation
        have key : ∀ s3, QS s2 s3 → (modS fun st => { st with openElems := st.openElems.take idx }) s3 = .ok (u, s') →
            ∃ popped, PR s s' popped ∧ ∀ x ∈ popped, specialTag (nm s.dom x) = false ∨
              isHS (nm s.dom x) tag.name = true ∨ cursoryImpliedEnd (nm s.dom x) = true := by
          intro s3 q3 e5
          have hs' := modS_ok.mp e5
          have hst1 : s1.openElems = s.openElems := q1.openElems
          have hst : s.openElems = s2.openElems ++ popped1 := by rw [← hst1]; exact p1.stack
          have hst3 : s3.openElems = s.openElems.take s2.openElems.length := by
            rw [q3.openElems, hst]; simp
          have hstk : s'.openElems = s.openElems.take (min idx s2.openElems.length) := by
            rw [hs']; show s3.openElems.take idx = _; rw [hst3, List.take_take]
          refine ⟨s.openElems.drop (min idx s2.openElems.length), ⟨?_, ?_, ?_⟩, ?_⟩
          · rw [hs']; show s3.dom.nodes = _; rw [q3.nodes, p1.nodes, q1.nodes]
          · rw [hstk]; exact (List.take_append_drop _ _).symm
          · rw [hs']
            have h3 := q3.rest; have h2 := p1.rest; have h1 := q1.rest
            rw [h3, h2, h1]
          · intro x hx
            rcases mem_drop_min hx with hx | hx
            · -- at or above the match
              have hdrop : s.openElems.drop idx = m :: pre.reverse := by
                have hlen' : idx = post.reverse.length := by
                  have : s.openElems.length = post.length + 1 + pre.length := by rw [hsplit]; simp; omega
                  rw [hidx, this]; simp
                rw [hsplit, hlen', List.drop_left]
              rw [hdrop] at hx
              simp only [List.mem_cons, List.mem_reverse] at hx
              rcases hx with rfl | hx
              · exact Or.inr (Or.inl hm)
              · exact Or.inl (hpre x hx).1
            · have : s.openElems.drop s2.openElems.length = popped1 := by rw [hst]; simp
              rw [this] at hx
              have := hp1 x hx
              rw [q1.nm] at this
              unfold impliedExcept at this
              split at this
              · cases this
              · exact Or.inr (Or.inr this)
        by_cases hne : (idx != s2.openElems.length - 1) = true
        · simp only [hne, if_true] at e4
          obtain ⟨_, s3, e5, e6⟩ := bind_ok.mp e4
          exact key s3 (qs_unexpected e5).1 e6
        · simp only [hne] at e4
          exact key s2 (QS.refl _) e4

/-- only the stack (arbitrarily) and the trace changed -/
structure SE (s s' : State) : Prop where
  nodes : s'.dom.nodes = s.dom.nodes
  rest : s' = { s with openElems := s'.openElems, dom := s'.dom, traceRev := s'.traceRev }

theorem PR.se {s s' : State} {p : List Id} (h : PR s s' p) : SE s s' := ⟨h.nodes, h.rest⟩
theorem SE.of_qs {s s' : State} (h : QS s s') : SE s s' := ⟨h.nodes, by rw [h.rest]⟩
theorem SE.trans {a b c : State} (h1 : SE a b) (h2 : SE b c) : SE a c := ⟨h2.nodes.trans h1.nodes, by rw [h2.rest, h1.rest]⟩
theorem SE.nm {s s' : State} (h : SE s s') (x : Id) : nm s'.dom x = nm s.dom x := nm_of_nodes h.nodes x

theorem removeFromStack_sem {x : Id} {s s' : State} {u : Unit} (e : removeFromStack x s = .ok (u, s')) :
    SE s s' ∧ ((s'.openElems = s.openElems ∧ x ∉ s.openElems) ∨
      ∃ pos, s.openElems[pos]? = some x ∧ x ∉ s.openElems.drop (pos + 1) ∧ s'.openElems = s.openElems.eraseIdx pos) := by
  unfold removeFromStack at e
  obtain ⟨r, s1, e1, e2⟩ := bind_ok.mp e
  have e1' : rposition (fun n => if true then sameNode x n else sameNode n x) s = .ok (r, s1) := e1
  obtain ⟨q1, h1, h1n⟩ := rposition_same_sem e1'
  cases r with
  | none =>
    simp only at e2
    obtain ⟨_, rfl⟩ := pure_ok.mp e2
    exact ⟨SE.of_qs q1, Or.inl ⟨q1.openElems, h1n rfl⟩⟩
  | some pos =>
    simp only at e2
    obtain ⟨_, s2, e3, e4⟩ := bind_ok.mp e2
    have hs2 := modS_ok.mp e3
    have q3 := qs_sinkUnit e4
    obtain ⟨hget, hnot⟩ := h1 pos rfl
    refine ⟨⟨by rw [q3.nodes, hs2]; exact q1.nodes, ?_⟩, Or.inr ⟨pos, hget, hnot, ?_⟩⟩
    · have h3 := q3.rest; have h1' := q1.rest
      rw [h3, hs2, h1']
    · rw [q3.openElems, hs2]; show s1.openElems.eraseIdx pos = _; rw [q1.openElems]

/-- the `while` loop of `unexpected_start_tag_in_foreign_content`: pops non-HTML elements only -/
theorem popToIntegrationPointLoop_sem : ∀ (fuel : Nat) (s s' : State) (u : Unit),
    popToIntegrationPointLoop fuel s = .ok (u, s') →
      ∃ popped, PR s s' popped ∧ ∀ x ∈ popped, (nm s.dom x).ns ≠ nsHtml
  | 0, s, s', u, e => by unfold popToIntegrationPointLoop at e; exact absurd e fuelOut_ok
  | fuel + 1, s, s', u, e => by
    unfold popToIntegrationPointLoop at e
    obtain ⟨b, s0, e3, e4⟩ := bind_ok.mp e
    obtain ⟨q0, t, hl, hb⟩ := currentNodeIn_sem e3
    have key : ∀ (stop : Bool) (s1 : State), QS s s1 → (stop = false → (nm s.dom t).ns ≠ nsHtml) →
        (if stop = true then pure () else do let _ ← pop; popToIntegrationPointLoop fuel : M Unit) s1 = .ok (u, s') →
        ∃ popped, PR s s' popped ∧ ∀ x ∈ popped, (nm s.dom x).ns ≠ nsHtml := by
      intro stop s1 q1 hstop e2
      by_cases hs : stop = true
      · simp only [hs, if_true] at e2
        obtain ⟨_, rfl⟩ := pure_ok.mp e2
        exact ⟨[], PR.of_qs q1, by intro x hx; cases hx⟩
      · simp only [hs] at e2
        obtain ⟨h, s2, e5, e6⟩ := bind_ok.mp e2
        have p2 := pop_sem e5
        obtain ⟨popped, p3, h3⟩ := popToIntegrationPointLoop_sem fuel s2 s' u e6
        have hnm : ∀ x, nm s2.dom x = nm s.dom x := fun x => by rw [p2.nm, q1.nm]
        refine ⟨popped ++ [h], (PR.qs_left q1 p2).trans p3, ?_⟩
        intro x hx
        simp only [List.mem_append, List.mem_singleton] at hx
        rcases hx with hx | rfl
        · rw [← hnm]; exact h3 x hx
        · have hl' : s.openElems.getLast? = some x := by
            have := p2.of_popSilently; rw [q1.openElems] at this; exact this
          rw [hl] at hl'; cases hl'
          exact hstop (by simpa using hs)
    by_cases hbt : b = true
    · simp only [hbt, if_true] at e4
      obtain ⟨stop, s1, e5, e6⟩ := bind_ok.mp e4
      obtain ⟨rfl, rfl⟩ := pure_ok.mp e5
      exact key true s0 q0 (by intro h; cases h) e6
    · simp only [hbt] at e4
      obtain ⟨cur, s1, e5, e6⟩ := bind_ok.mp e4
      obtain ⟨rfl, _⟩ := currentNode_sem e5
      obtain ⟨stop, s2, e7, e8⟩ := bind_ok.mp e6
      refine key stop s2 (q0.trans (IsQ.q _ _ _ e7)) ?_ e8
      intro _ hns
      apply hbt
      rw [hb]
      simp [hns]

theorem findFurthestBlock_sem : ∀ (l : List Id) (i : Nat) (s s' : State) (r : Option (Nat × Id)),
    findFurthestBlock l i s = .ok (r, s') →
      QS s s' ∧ (∀ j e, r = some (j, e) → ∃ pre post, l = pre ++ e :: post ∧ j = i + pre.length ∧
        specialTag (nm s.dom e) = true ∧ ∀ x ∈ pre, specialTag (nm s.dom x) = false) ∧
      (r = none → ∀ x ∈ l, specialTag (nm s.dom x) = false)
  | [], i, s, s', r, e => by
    unfold findFurthestBlock at e
    obtain ⟨rfl, rfl⟩ := pure_ok.mp e
    exact ⟨QS.refl _, (by intro j e h; cases h), (by intro _ x hx; cases hx)⟩
  | y :: rest, i, s, s', r, e => by
    unfold findFurthestBlock at e
    obtain ⟨b, s1, e1, e2⟩ := bind_ok.mp e
    obtain ⟨q1, hb⟩ := elemIn_sem e1
    by_cases hbt : b = true
    · simp only [hbt, if_true] at e2
      obtain ⟨rfl, rfl⟩ := pure_ok.mp e2
      refine ⟨q1, ?_, (by intro h; cases h)⟩
      intro j el h
      cases h
      exact ⟨[], rest, rfl, by simp, by rw [← hb]; exact hbt, by intro x hx; cases hx⟩
    · simp only [hbt] at e2
      obtain ⟨q2, h2, h3⟩ := findFurthestBlock_sem rest (i + 1) s1 s' r e2
      have hy : specialTag (nm s.dom y) = false := by rw [← hb]; simpa using hbt
      refine ⟨q1.trans q2, ?_, ?_⟩
      · intro j el h
        obtain ⟨pre, post, hl, hj, hs, hpre⟩ := h2 j el h
        refine ⟨y :: pre, post, by rw [hl]; rfl, by simp only [List.length_cons]; omega, by rw [← q1.nm]; exact hs, ?_⟩
        intro x hx
        simp only [List.mem_cons] at hx
        rcases hx with rfl | hx
        · exact hy
        · rw [← q1.nm]; exact hpre x hx
      · intro hn x hx
        simp only [List.mem_cons] at hx
        rcases hx with rfl | hx
        · exact hy
        · rw [← q1.nm]; exact h3 hn x hx

theorem positionSameNode_sem (x : Id) : ∀ (l : List Id) (i : Nat) (s s' : State) (r : Option Nat),
    positionSameNode x l i s = .ok (r, s') →
      QS s s' ∧ ∀ j, r = some j → ∃ pre post, l = pre ++ x :: post ∧ j = i + pre.length ∧ x ∉ pre
  | [], i, s, s', r, e => by
    unfold positionSameNode at e
    obtain ⟨rfl, rfl⟩ := pure_ok.mp e
    exact ⟨QS.refl _, by intro j h; cases h⟩
  | y :: rest, i, s, s', r, e => by
    unfold positionSameNode at e
    obtain ⟨b, s1, e1, e2⟩ := bind_ok.mp e
    obtain ⟨q1, hb⟩ := sameNode_sem e1
    by_cases hbt : b = true
    · simp only [hbt, if_true] at e2
      obtain ⟨rfl, rfl⟩ := pure_ok.mp e2
      have hyx : y = x := by rw [hb] at hbt; simpa using hbt
      subst hyx
      exact ⟨q1, by intro j h; cases h; exact ⟨[], rest, rfl, by simp, by simp⟩⟩
    · simp only [hbt] at e2
      have hyx : y ≠ x := by rw [hb] at hbt; simpa using hbt
      obtain ⟨q2, h2⟩ := positionSameNode_sem x rest (i + 1) s1 s' r e2
      refine ⟨q1.trans q2, ?_⟩
      intro j h
      obtain ⟨pre, post, hl, hj, hpre⟩ := h2 j h
      refine ⟨y :: pre, post, by rw [hl]; rfl, by simp only [List.length_cons]; omega, ?_⟩
      simp only [List.mem_cons, not_or]
      exact ⟨Ne.symm hyx, hpre⟩

/-- the `<li>/<dd>/<dt>` search over the reversed stack -/
theorem listCloseSearch_sem (list : Bool) : ∀ (l : List Id) (s s' : State) (r : Option Str),
    listCloseSearch list l s = .ok (r, s') →
      QS s s' ∧ ∀ name, r = some name → ∃ pre m post, l = pre ++ m :: post ∧ name = (nm s.dom m).loc ∧
        (if list then closeList (nm s.dom m) else closeDefn (nm s.dom m)) = true ∧
        ∀ x ∈ pre, extraSpecial (nm s.dom x) = false ∧
          (if list then closeList (nm s.dom x) else closeDefn (nm s.dom x)) = false
  | [], s, s', r, e => by
    unfold listCloseSearch at e
    obtain ⟨rfl, rfl⟩ := pure_ok.mp e
    exact ⟨QS.refl _, by intro n h; cases h⟩
  | y :: rest, s, s', r, e => by
    unfold listCloseSearch at e
    obtain ⟨n, s1, e1, e2⟩ := bind_ok.mp e
    obtain ⟨q1, hn, _⟩ := elemName_sem e1
    by_cases hc : (if list = true then closeList n else closeDefn n) = true
    · simp only [hc, if_true] at e2
      obtain ⟨rfl, rfl⟩ := pure_ok.mp e2
      refine ⟨q1, ?_⟩
      intro name h
      cases h
      exact ⟨[], y, rest, rfl, by rw [hn], by rw [← hn]; exact hc, by intro x hx; cases hx⟩
    · simp only [hc] at e2
      by_cases hx : extraSpecial n = true
      · simp only [hx, if_true] at e2
        obtain ⟨rfl, rfl⟩ := pure_ok.mp e2
        exact ⟨q1, by intro n h; cases h⟩
      · simp only [hx] at e2
        obtain ⟨q2, h2⟩ := listCloseSearch_sem list rest s1 s' r e2
        refine ⟨q1.trans q2, ?_⟩
        intro name h
        obtain ⟨pre, m, post, hl, hname, hcl, hpre⟩ := h2 name h
        refine ⟨y :: pre, m, post, by rw [hl]; rfl, by rw [hname, q1.nm], by rw [← q1.nm]; exact hcl, ?_⟩
        intro z hz
        simp only [List.mem_cons] at hz
        rcases hz with rfl | hz
        · rw [← hn]; exact ⟨by simpa using hx, by simpa using hc⟩
        · rw [← q1.nm]; exact hpre z hz

theorem bodyElem_sem {s s' : State} {r : Option Id} (e : bodyElem s = .ok (r, s')) :
    QS s s' ∧ ∀ b, r = some b → s.openElems[1]? = some b ∧ isHS (nm s.dom b) "body".toList = true := by
  unfold bodyElem at e
  rw [getS_bind] at e
  by_cases hlen : s.openElems.length ≤ 1
  · simp only [hlen, if_true] at e
    obtain ⟨rfl, rfl⟩ := pure_ok.mp e
    exact ⟨QS.refl _, by intro b h; cases h⟩
  · simp only [hlen, if_false] at e
    cases h1 : s.openElems[1]? with
    | none =>
      simp only [h1] at e
      obtain ⟨rfl, rfl⟩ := pure_ok.mp e
      exact ⟨QS.refl _, by intro b h; cases h⟩
    | some node =>
      simp only [h1] at e
      obtain ⟨b, s1, e1, e2⟩ := bind_ok.mp e
      obtain ⟨q1, hb, _⟩ := htmlElemNamed_sem e1
      by_cases hbt : b = true
      · simp only [hbt, if_true] at e2
        obtain ⟨rfl, rfl⟩ := pure_ok.mp e2
        exact ⟨q1, by intro b' h; cases h; exact ⟨rfl, by unfold isHS; rw [← hb]; exact hbt⟩⟩
      · simp only [hbt] at e2
        obtain ⟨rfl, rfl⟩ := pure_ok.mp e2
        exact ⟨q1, by intro b h; cases h⟩

end H5V.Props.C06
