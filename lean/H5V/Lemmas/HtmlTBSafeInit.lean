import H5V.Lemmas.HtmlTBSafeRun
/-!
# Tree-builder safety: the constructors establish the invariant

`TreeBuilder::new` (document parsing) and `TreeBuilder::new_for_fragment` (fragment parsing with an
arbitrary context element and an optional form pointer).
-/
namespace H5V.Lemmas.TBSafe
open H5V.Model.HtmlTB
open H5V.Model.Dom (Id QualName Attr NodeOrText SinkOp Output ElementFlags QuirksMode Dom NodeData Node)

variable {al : Allow}

/-- a builder state as the constructors find it: nothing on the stack, no pointers set; the sink
(`dom`) is arbitrary -/
structure Fresh (s : State) : Prop where
  mode : s.mode = .initial
  openElems : s.openElems = []
  af : s.activeFormatting = []
  headElem : s.headElem = none
  formElem : s.formElem = none
  contextElem : s.contextElem = none
  templateModes : s.templateModes = []
  pending : s.pendingTableText = []

theorem fresh_init (opts : Opts) : Fresh (State.init opts) := ⟨rfl, rfl, rfl, rfl, rfl, rfl, rfl, rfl⟩

theorem fresh_init_dom (opts : Opts) (d : Dom) : Fresh { State.init opts with dom := d } :=
  ⟨rfl, rfl, rfl, rfl, rfl, rfl, rfl, rfl⟩

theorem TI.of_fresh {s : State} (h : Fresh s) : TI s where
  h := by
    refine ⟨?_, ?_, ?_, ?_, ?_, ?_⟩
    · rw [h.openElems]; intro x hx; cases hx
    · rw [h.openElems]; intro x hx; cases hx
    · rw [h.af]; intro x t hx; cases hx
    · rw [h.headElem]; intro x hx; cases hx
    · rw [h.formElem]; intro x hx; cases hx
    · rw [h.contextElem]; intro x hx; cases hx
  s := by
    rw [h.mode]
    refine ⟨(fun hh => by cases hh), h.openElems, (fun hh => by cases hh), ?_, (fun hh => by cases hh),
      (fun hh => by cases hh), (fun _ => h.pending), ?_, ?_⟩
    · rw [h.openElems]; rintro ⟨x, hx, _⟩; cases hx
    · rw [h.openElems, h.templateModes]
      unfold ctxTmpl; rw [h.contextElem]; simp [tcount]
    · rw [h.templateModes]; intro x hx; cases hx

theorem sat_getDocument {s : State} : Sat (sinkNode .getDocument) s (fun _ s' => QF s s') := by
  unfold sinkNode
  refine (sat_sink_eq (apply_getDocument _)).bind ?_
  rintro o s' ⟨rfl, hq⟩
  exact sat_pure hq

/-- `TreeBuilder::new` -/
theorem sat_newTB {s : State} (h : Fresh s) : Sat newTB s (fun _ s' => TI s') := by
  unfold newTB
  refine sat_getDocument.bind ?_
  intro doc s1 hq
  refine sat_modS ?_
  have ht : TI s1 := (TI.of_fresh h).of_qf hq
  exact ⟨⟨ht.h.open_el, ht.h.open_tc, ht.h.af, ht.h.head, ht.h.form, ht.h.ctx⟩,
    ⟨ht.s.root, ht.s.stack, ht.s.head, ht.s.headIn, ht.s.text, ht.s.tableText, ht.s.pending, ht.s.tmpl,
     ht.s.tmodes⟩⟩

/-- `TreeBuilder::new_for_fragment`: the context element must be an element of the sink; the form
pointer, if given, an HTML `form` element -/
theorem sat_newForFragment {ctx : Id} {form : Option Id} {s : State} (h : Fresh s)
    (hctx : IsEl s.dom ctx) (hform : ∀ f, form = some f → IsEl s.dom f ∧ nm s.dom f = formName) :
    Sat (newForFragment ctx form) s (fun _ s' => TI s') := by
  unfold newForFragment
  refine sat_getDocument.bind ?_
  intro doc s1 hq1
  refine (sat_elemName (hctx.ext hq1.ext)).bind ?_
  rintro n s2 ⟨rfl, hq2⟩
  have hq := hq1.trans hq2
  dsimp only
  refine sat_modS_bind ?_
  refine sat_createRoot.bind ?_
  rintro _ s3 ⟨r, hfr, ho, haf, hrel, hrnm, hfresh⟩
  -- the state before `create_root`
  have hnmctx : nm s1.dom ctx = nm s.dom ctx := nm_ext hq1.ext hctx
  have ho3 : s3.openElems = [r] := by
    rw [ho]; show s2.openElems ++ [r] = [r]; rw [hq.openElems, h.openElems]; rfl
  have haf3 : s3.activeFormatting = [] := by
    rw [haf]; show s2.activeFormatting = []; rw [hq.activeFormatting, h.af]
  have hctx3 : s3.contextElem = some ctx := by rw [hfr.contextElem]
  have hform3 : s3.formElem = form := by rw [hfr.formElem]
  have hhead3 : s3.headElem = none := by
    rw [hfr.headElem]; show s2.headElem = none; rw [hq.headElem, h.headElem]
  have hpend3 : s3.pendingTableText = [] := by
    rw [hfr.pendingTableText]; show s2.pendingTableText = []; rw [hq.pendingTableText, h.pending]
  have hext : Ext s.dom s3.dom := hq.ext.trans hfr.ext
  have hi3 : HInv s3 := by
    refine ⟨?_, ?_, ?_, ?_, ?_, ?_⟩
    · rw [ho3]; intro x hx; rw [List.mem_singleton.mp hx]; exact hrel
    · rw [ho3]; intro x hx hn; rw [List.mem_singleton.mp hx, hrnm] at hn; exact absurd hn (by decide)
    · rw [haf3]; intro x t hx; cases hx
    · rw [hhead3]; intro x hx; cases hx
    · rw [hform3]; intro f hf
      obtain ⟨h1, h2⟩ := hform f hf
      exact ⟨h1.ext hext, by rw [nm_ext hext h1]; exact h2⟩
    · rw [hctx3]; intro x hx; cases hx; exact hctx.ext hext
  have htm3 : s3.templateModes =
      (if ((nm s1.dom ctx).ns == nsHtml && isName (nm s1.dom ctx).loc "template") = true then [Mode.inTemplate] else []) := by
    rw [hfr.templateModes]
  have hctxT : ctxTmpl s3 ≤ s3.templateModes.length := by
    unfold ctxTmpl
    rw [hctx3, htm3]
    dsimp only
    rw [nm_ext hext hctx, hnmctx]
    by_cases hT : (nm s.dom ctx == tmplName) = true
    · have : nm s.dom ctx = tmplName := beq_iff_eq.mp hT
      rw [this]; decide
    · simp only [hT, Bool.false_eq_true, if_false]; exact Nat.zero_le _
  refine (sat_resetInsertionMode hi3 ?_ ?_ ?_).bind ?_
  · rw [htm3]; intro x hx
    split at hx
    · rw [List.mem_singleton.mp hx]; rfl
    · cases hx
  · have : tcount s3.dom s3.openElems = 0 := by
      rw [ho3]; exact tcount_zero_of_not (by
        intro x hx; rw [List.mem_singleton.mp hx, hrnm]; decide)
    rw [this]; simpa using hctxT
  · rw [ho3]; rintro ⟨x, hx, hn⟩
    rw [List.mem_singleton.mp hx, hrnm] at hn; exact absurd hn (by decide)
  rintro m s4 ⟨hq4, hro⟩
  refine sat_setMode.mono ?_
  rintro _ s5 rfl
  have hi4 : HInv s4 := hi3.of_qf hq4
  refine ⟨hi4.withMode m, ?_⟩
  show SInv m { s4 with mode := m }
  refine SInv.withMode ?_ _
  refine ⟨fun _ => ⟨r, [], by rw [hq4.openElems]; exact ho3, by rw [nm_ext hq4.ext hrel]; exact hrnm⟩,
    hro.stack, hro.head, ?_, (fun e => absurd e hro.notSpecial.1), (fun e => absurd e hro.notSpecial.2.1),
    (fun _ => by rw [hq4.pendingTableText]; exact hpend3), ?_, ?_⟩
  · rw [hq4.openElems, ho3]
    rintro ⟨x, hx, hn⟩
    rw [List.mem_singleton.mp hx, nm_ext hq4.ext hrel, hrnm] at hn; exact absurd hn (by decide)
  · rw [hq4.openElems, hq4.templateModes, ctxTmpl_fr hi3 hq4.fr, tcount_ext hq4.ext hi3.open_el]
    have : tcount s3.dom s3.openElems = 0 := by
      rw [ho3]; exact tcount_zero_of_not (by
        intro x hx; rw [List.mem_singleton.mp hx, hrnm]; decide)
    rw [this]; simpa using hctxT
  · rw [hq4.templateModes, htm3]; intro x hx
    split at hx
    · rw [List.mem_singleton.mp hx]; rfl
    · cases hx

end H5V.Lemmas.TBSafe
