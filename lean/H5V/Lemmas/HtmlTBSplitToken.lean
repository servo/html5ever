import H5V.Lemmas.HtmlTBSplitAdd
/-!
C03 lifted to the tree: from `process_to_completion` to `process_token`:
`ignore_lf`, the line number, the fuel.  `processToken_split`: a character token delivered in two
pieces.
-/
namespace H5V.Lemmas.TBSplit
open H5V.Model.Dom (Id QualName Attr NodeOrText SinkOp Output ElementFlags QuirksMode Dom)
open H5V.Model.HtmlTok (TagKind RawKind)
open H5V.Model.HtmlTB

/-! ### `ignore_lf` is not touched while a character token is processed -/

theorem charsFin_ilf {k : CKind} {st : SplitStatus} {z : Str} {s0 s1 : State} {r : ProcessResult}
    (h : charsFin k st z s0 = .ok (r, s1)) : s1.ignoreLf = s0.ignoreLf := by
  have key : fr s1 = fr s0 ∨ fr s1 = fr { s0 with fosterParenting := false } := by
    cases k with
    | split => cases h; exact Or.inl rfl
    | drop => cases h; exact Or.inl rfl
    | re m => cases h; exact Or.inl rfl
    | fa => exact Or.inl (appendText_keeps z _ _ _ h)
    | ffa => exact Or.inl (keeps_bind (fOk_keeps z) (fun _ => appendText_keeps z) _ _ _ h)
    | body f =>
      cases f
      · exact Or.inl (stepInBody_chars_keeps st z _ _ _ h)
      · exact Or.inr (fosterParentInBody_chars_fr st z h)
    | pend => cases h; exact Or.inl rfl
  rcases key with key | key <;> (simp only [fr, Prod.mk.injEq] at key; exact key.2.2.2.2.1)

theorem ptc_chars_ilf : ∀ (f : Nat) (t : Token) (more : List Token) (s : State) (r : SinkResult) (s1 : State),
    Good s → CT t → (∀ t' ∈ more, CT t') → processToCompletion f t more s = .ok (r, s1) →
    s1.ignoreLf = s.ignoreLf
  | 0, _, _, _, _, _, _, _, _, h => by rw [ptc_zero] at h; cases h
  | f + 1, t, more, s, r, s1, hg, ht, hm, h => by
    obtain ⟨st, x, rfl, hx⟩ := ht
    rw [ptc_succ, D_chars_eq, bind_assoc] at h
    obtain ⟨k, s0, hd, h⟩ := bind_ok h
    obtain ⟨_, hg0⟩ := dPre_post hg hd
    have hi0 : s0.ignoreLf = s.ignoreLf := by
      have := dPre_keeps st _ _ _ hd
      simp only [fr, Prod.mk.injEq] at this
      exact this.2.2.2.2.1
    obtain ⟨pr, s2, hf, h⟩ := bind_ok h
    obtain ⟨hr, hg2⟩ := (charsFin_resp k st x hx).post hg0 hf
    have hi2 : s2.ignoreLf = s.ignoreLf := (charsFin_ilf hf).trans hi0
    have hr' := hr.eq
    subst hr'
    cases k with
    | split =>
      simp only [finRes, K] at h
      cases hpop : popFrontCharRun x with
      | none => rw [hpop] at h; cases h; exact hi2
      | some v =>
        obtain ⟨first, isWs, rest⟩ := v
        rw [hpop] at h
        simp only [] at h
        refine (ptc_chars_ilf f _ _ s2 r s1 hg2 ⟨_, first, rfl, H5V.Props.C06.C06_split_run_nonempty hpop⟩ ?_ h).trans hi2
        intro t' ht'
        split at ht'
        · rename_i hrl
          rcases List.mem_append.mp ht' with h' | h'
          · exact hm t' h'
          · simp at h'; subst h'
            exact ⟨_, rest, rfl, by intro h0; subst h0; simp at hrl⟩
        · exact hm t' ht'
    | re m' =>
      simp only [finRes, K, bind_apply, setMode, modS_apply] at h
      have hgm : Good { s2 with mode := m' } := ⟨hg2.af, hg2.pend⟩
      exact (ptc_chars_ilf f _ more { s2 with mode := m' } r s1 hgm ⟨st, x, rfl, hx⟩ hm h).trans hi2
    | drop | fa | ffa | body _ | pend =>
      all_goals
        simp only [finRes, K, Bool.false_eq_true, if_false] at h
        cases more with
        | nil => cases h; exact hi2
        | cons t2 rest =>
          exact (ptc_chars_ilf f t2 rest s2 r s1 hg2 (hm t2 (List.mem_cons_self ..))
            (fun t' h' => hm t' (List.mem_cons_of_mem _ h')) h).trans hi2

/-! ### `process_token` on a character token -/

theorem dropIgnoredLf_append (ilf : Bool) {a : Str} (ha : a ≠ []) (b : Str) :
    dropIgnoredLf ilf (a ++ b) = dropIgnoredLf ilf a ++ b := by
  obtain ⟨c, a', rfl⟩ := List.exists_cons_of_ne_nil ha
  unfold dropIgnoredLf
  cases ilf
  · rfl
  · simp only [if_true, List.cons_append]
    split
    · rename_i rest heq
      cases heq
      rfl
    · rename_i hne
      split
      · rename_i rest heq
        cases heq
        exact (hne _ rfl).elim
      · rfl

/-- the state after `ignore_lf.take()` -/
@[reducible] def clearLf (s : State) : State := { s with ignoreLf := false }

theorem good_clearLf {s : State} (h : Good s) : Good (clearLf s) := ⟨h.af, h.pend⟩

theorem processTokenRest_chars (x : Str) (s : State) :
    processTokenRest (.chars x) s =
      if (dropIgnoredLf s.ignoreLf x).isEmpty then .ok (.continue_, clearLf s)
      else processToCompletion (ptcFuel (clearLf s) (.chars .notSplit (dropIgnoredLf s.ignoreLf x)))
        (.chars .notSplit (dropIgnoredLf s.ignoreLf x)) [] (clearLf s) := by
  unfold processTokenRest
  rw [bind_apply, getS_apply]
  simp only
  rw [bind_apply, modS_apply]
  simp only [pure_bind, charsToken]
  split
  · rfl
  · show (getS >>= fun st => processToCompletion (ptcFuel st _) _ []) _ = _
    rw [bind_apply, getS_apply]

/-- `process_token` on a character token, fuel-free -/
theorem processTokenRest_chars' {x : Str} {s : State} (hg : Good s) :
    processTokenRest (.chars x) s =
      if (dropIgnoredLf s.ignoreLf x).isEmpty then .ok (.continue_, clearLf s)
      else PTC (.chars .notSplit (dropIgnoredLf s.ignoreLf x)) [] (clearLf s) := by
  rw [processTokenRest_chars]
  split
  · rfl
  · rename_i hne
    have hz : dropIgnoredLf s.ignoreLf x ≠ [] := by
      intro h; rw [h] at hne; exact hne rfl
    exact PTC_of_fuel (good_clearLf hg) ⟨_, _, rfl, hz⟩ (by simp) (mu_lt_ptcFuel _ _ _)

theorem PTC_ilf {s s1 : State} (hg : Good s) {z : Str} (hz : z ≠ []) {r : SinkResult}
    (h : PTC (.chars .notSplit z) [] s = .ok (r, s1)) : s1.ignoreLf = s.ignoreLf :=
  ptc_chars_ilf _ _ _ _ _ _ hg ⟨_, z, rfl, hz⟩ (by simp) h

/-- the second piece, delivered by `process_token` to a state whose `ignore_lf` is clear -/
theorem processToken_chars_clear {b : Str} (hb : b ≠ []) (l : Nat) {s : State} (hg : Good s)
    (hi : s.ignoreLf = false) :
    RelR (fun _ => True) (processToken (.chars b) l s) (PTC (.chars .notSplit b) [] s) := by
  rw [processToken_apply, bind_apply]
  obtain ⟨tr, h1⟩ := lineIf_apply l s.currentLine s
  rw [h1]
  simp only
  have hs : Sim s (upd s tr s.currentLine s.dom.errorsRev s.pendingTableText) := sim_upd_self hg.sim tr
  have hg' := hs.symm.good
  rw [processTokenRest_chars' hg']
  have hi' : (upd s tr s.currentLine s.dom.errorsRev s.pendingTableText).ignoreLf = false := hi
  rw [hi']
  have hd : dropIgnoredLf false b = b := rfl
  rw [hd]
  have hne : b.isEmpty = false := by cases b with | nil => exact (hb rfl).elim | cons _ _ => rfl
  simp only [hne, Bool.false_eq_true, if_false]
  have hs2 : Sim (clearLf (upd s tr s.currentLine s.dom.errorsRev s.pendingTableText)) s := by
    have : clearLf (upd s tr s.currentLine s.dom.errorsRev s.pendingTableText) =
        upd s tr s.currentLine s.dom.errorsRev s.pendingTableText := by
      cases s; simp only at hi; subst hi; rfl
    rw [this]; exact hs.symm
  exact PTC_resp' .notSplit hb _ _ hs2

/-- **a character token delivered in two pieces** (`process_token` level, same start state) -/
theorem processTokenRest_split {a b : Str} (ha : a ≠ []) (hb : b ≠ []) (l2 : Nat) {s : State} (hg : Good s) :
    RelR (fun _ => True) (processTokenRest (.chars (a ++ b)) s)
      ((processTokenRest (.chars a) >>= fun _ => processToken (.chars b) l2) s) := by
  have hgc := good_clearLf hg
  rw [bind_apply, processTokenRest_chars' hg, processTokenRest_chars' hg, dropIgnoredLf_append _ ha]
  by_cases hza : dropIgnoredLf s.ignoreLf a = []
  · -- the first piece was the line feed `ignore_lf` asks to drop
    rw [hza]
    simp only [List.nil_append, List.isEmpty_nil, if_true]
    have hne : b.isEmpty = false := by cases b with | nil => exact (hb rfl).elim | cons _ _ => rfl
    simp only [hne, Bool.false_eq_true, if_false]
    exact (relR_self (PTC_resp' .notSplit hb) hgc).trans
      ((processToken_chars_clear hb l2 hgc rfl).symm)
  · have hne : (dropIgnoredLf s.ignoreLf a).isEmpty = false := by
      cases h : dropIgnoredLf s.ignoreLf a with | nil => exact (hza h).elim | cons _ _ => rfl
    have hne2 : (dropIgnoredLf s.ignoreLf a ++ b).isEmpty = false := by
      cases h : dropIgnoredLf s.ignoreLf a with | nil => exact (hza h).elim | cons _ _ => rfl
    simp only [hne, hne2, Bool.false_eq_true, if_false]
    have hadd := ptc_add _ (clearLf s) .notSplit (dropIgnoredLf s.ignoreLf a) b hgc hza hb trivial (Nat.lt_succ_self _)
    unfold AddAt at hadd
    refine hadd.trans ?_
    rw [bind_apply]
    cases h1 : PTC (.chars .notSplit (dropIgnoredLf s.ignoreLf a)) [] (clearLf s) with
    | error e => trivial
    | ok v =>
      obtain ⟨r, s1⟩ := v
      simp only
      have hg1 : Good s1 := (PTC_cont hgc ⟨_, _, rfl, hza⟩ (by simp) h1).2
      have hi1 : s1.ignoreLf = false := PTC_ilf hgc hza h1
      exact (processToken_chars_clear hb l2 hg1 hi1).symm

/-- **a character token delivered in two pieces**, any line numbers, `Sim` start states -/
theorem processToken_split {a b : Str} (ha : a ≠ []) (hb : b ≠ []) (l l1 l2 : Nat) {s t : State} (hst : Sim s t) :
    RelR (fun _ => True) (processToken (.chars (a ++ b)) l s)
      ((processToken (.chars a) l1 >>= fun _ => processToken (.chars b) l2) t) := by
  rw [processToken_apply, bind_apply]
  obtain ⟨tr, h1⟩ := lineIf_apply l s.currentLine s
  rw [h1]
  simp only
  have hs1 : Sim s (upd s tr s.currentLine s.dom.errorsRev s.pendingTableText) := sim_upd_self hst.left tr
  -- the two-piece side
  have h2 : (processToken (.chars a) l1 >>= fun _ => processToken (.chars b) l2) t =
      ((lineIf l1 t.currentLine >>= fun _ => processTokenRest (.chars a)) >>= fun _ => processToken (.chars b) l2) t := by
    rw [bind_apply, bind_apply, processToken_apply]
  rw [h2, bind_assoc, bind_apply]
  obtain ⟨tr', h3⟩ := lineIf_apply l1 t.currentLine t
  rw [h3]
  simp only
  have hs2 : Sim t (upd t tr' t.currentLine t.dom.errorsRev t.pendingTableText) := sim_upd_self hst.right tr'
  have hs12 := (hs1.symm.trans hst).trans hs2
  refine (processTokenRest_resp inTableText_ok flushText_ok (.chars (a ++ b)) _ _ hs12).trans ?_
  exact processTokenRest_split ha hb l2 hs2.symm.good

end H5V.Lemmas.TBSplit
