import H5V.Lemmas.XmlShapeLex
/-!
C17, shape of parsed trees (tokenizer side): the three transition tables of the XML tokenizer model
preserve `LexE` — `transChar_lexE` (the `get_char!` table outside the ten comment states, which are
`XmlShapeCmt.transChar_cmt`), `transSet_lex` (the `pop_except_from` table), `transEof_lex` (`eof_step`).
-/
namespace H5V.Lemmas.XmlShapeLex
open H5V.Model.XmlTok H5V.Lemmas.XmlRT

/-! ### `LexE` through the helpers -/

theorem modeOK_congr {md : Mode} {m m' : Mach} (h : ModeOK md m) (e1 : m'.tagKind = m.tagKind)
    (e2 : m'.tagName = m.tagName) (e3 : m'.piTarget = m.piTarget) : ModeOK md m' := by
  cases md with
  | other => trivial
  | stag => simp only [ModeOK] at h ⊢; rw [e1, e2]; exact h
  | etag => simp only [ModeOK] at h ⊢; rw [e1]; exact h
  | pi => simp only [ModeOK] at h ⊢; rw [e3]; exact h

/-- an operation that leaves the state and the mode-relevant registers alone -/
theorem Lex_keep {m m' : Mach} (h : LexE m) (hg : LexG m') (es : m'.state = m.state)
    (e1 : m'.tagKind = m.tagKind) (e2 : m'.tagName = m.tagName) (e3 : m'.piTarget = m.piTarget) : LexE m' :=
  ⟨hg, by rw [es]; exact modeOK_congr h.2 e1 e2 e3⟩

section
variable {m : Mach}

theorem Lex_emitErr (h : LexE m) (s : String) : LexE (emitErr m s) := Lex_keep h (LexG_emitErr h.1 s) rfl rfl rfl rfl
theorem Lex_emitT (h : LexE m) {t : Token} (ht : TokA t) : LexE (emit m t) :=
  Lex_keep h (LexG_emit h.1 ht) rfl rfl rfl rfl
theorem Lex_emitE (h : LexE m) (s : Str) : LexE (emit m (.error s)) := Lex_keep h (LexG_emit h.1 trivial) rfl rfl rfl rfl
theorem Lex_badChar (h : LexE m) (o : Opts) : LexE (badChar o m) :=
  Lex_keep h (LexG_badChar h.1 o) (by simp) (by unfold badChar; split <;> rfl) (by unfold badChar; split <;> rfl)
    (by unfold badChar; split <;> rfl)
theorem Lex_badEof (h : LexE m) (o : Opts) : LexE (badEof o m) :=
  Lex_keep h (LexG_badEof h.1 o) (by simp) (by unfold badEof; split <;> rfl) (by unfold badEof; split <;> rfl)
    (by unfold badEof; split <;> rfl)
theorem Lex_emitChar (h : LexE m) (c : Char) : LexE (emitChar m c) := Lex_keep h (LexG_emitChar h.1 c) rfl rfl rfl rfl
theorem Lex_emitChars (h : LexE m) {s : Str} (hs : s ≠ []) : LexE (emitChars m s) :=
  Lex_keep h (LexG_emitChars h.1 hs) rfl rfl rfl rfl
theorem Lex_consumeCharRef (h : LexE m) (x : Option Char) : LexE (consumeCharRef x m) :=
  Lex_keep h (LexG_consumeCharRef h.1 x) rfl rfl rfl rfl
theorem Lex_pushValue (h : LexE m) (c : Char) : LexE (pushValue c m) := Lex_keep h (LexG_pushValue h.1 c) rfl rfl rfl rfl
theorem Lex_appendValue (h : LexE m) (s : Str) : LexE (appendValue s m) :=
  Lex_keep h (LexG_appendValue h.1 s) rfl rfl rfl rfl
theorem Lex_pushComment (h : LexE m) {c : Char} (hc : c ≠ '>' ∨ GtOk m.comment) : LexE (pushComment c m) :=
  Lex_keep h (LexG_pushComment h.1 hc) rfl rfl rfl rfl
theorem Lex_appendComment (h : LexE m) (s : String) (hs : ∀ c ∈ s.toList, c ≠ '>') : LexE (appendComment s m) :=
  Lex_keep h (LexG_appendComment h.1 s hs) rfl rfl rfl rfl
theorem Lex_clearComment (h : LexE m) : LexE (clearComment m) := Lex_keep h (LexG_clearComment h.1) rfl rfl rfl rfl
theorem Lex_emitComment (h : LexE m) : LexE (emitComment m) := Lex_keep h (LexG_emitComment h.1) rfl rfl rfl rfl
theorem Lex_createDoctype (h : LexE m) : LexE (createDoctype m) := Lex_keep h (LexG_createDoctype h.1) rfl rfl rfl rfl
theorem Lex_pushDoctypeName (h : LexE m) {c : Char} (hc : DtCh c) : LexE (pushDoctypeName c m) :=
  Lex_keep h (LexG_pushDoctypeName h.1 hc) rfl rfl rfl rfl
theorem Lex_pushDoctypeId (h : LexE m) (k : DoctypeKind) (c : Char) : LexE (pushDoctypeId k c m) :=
  Lex_keep h (LexG_pushDoctypeId h.1 k c) (by simp) (by cases k <;> rfl) (by cases k <;> rfl) (by cases k <;> rfl)
theorem Lex_clearDoctypeId (h : LexE m) (k : DoctypeKind) : LexE (clearDoctypeId k m) :=
  Lex_keep h (LexG_clearDoctypeId h.1 k) (by simp) (by cases k <;> rfl) (by cases k <;> rfl) (by cases k <;> rfl)
theorem Lex_emitDoctype (h : LexE m) : LexE (emitDoctype m) := Lex_keep h (LexG_emitDoctype h.1) rfl rfl rfl rfl
theorem Lex_pushName (h : LexE m) {c : Char} (hc : NmCh c) (he : c ≠ '=') : LexE (pushName c m) :=
  Lex_keep h (LexG_pushName h.1 hc he) rfl rfl rfl rfl
theorem Lex_pushPiData (h : LexE m) {c : Char} (hq : c ≠ '?') : LexE (pushPiData c m) :=
  Lex_keep h (LexG_pushPiData h.1 hq) rfl rfl rfl rfl
theorem Lex_createAttr (h : LexE m) {c : Char} (hc : NmCh c) : LexE (createAttr c m) := by
  obtain ⟨e1, e2, e3⟩ := finishAttribute_tag m
  exact Lex_keep h (LexG_createAttr h.1 hc) (by simp) e2 e1 e3

theorem Lex_pushTag (h : LexE m) {c : Char} (hc : NmCh c) : LexE (pushTag c m) := by
  refine ⟨LexG_pushTag h.1 c, ?_⟩
  have h2 := h.2
  show ModeOK (modeOf m.state) (pushTag c m)
  cases hm : modeOf m.state with
  | other => trivial
  | stag => rw [hm] at h2; exact ⟨h2.1, tagNameLex_snoc h2.2 hc⟩
  | etag | pi => rw [hm] at h2; exact h2

theorem Lex_pushPiTarget (h : LexE m) {c : Char} (hc : NoWs3 c) (hq : c ≠ '?') : LexE (pushPiTarget c m) := by
  refine ⟨LexG_pushPiTarget h.1 hc hq, ?_⟩
  have h2 := h.2
  show ModeOK (modeOf m.state) (pushPiTarget c m)
  cases hm : modeOf m.state with
  | other => trivial
  | stag | etag => rw [hm] at h2; exact h2
  | pi => simp [ModeOK, pushPiTarget]

theorem Lex_setEmptyTag (h : LexE m) (hm : modeOf m.state = .stag) : LexE (setEmptyTag m) := by
  refine ⟨LexG_setEmptyTag h.1, ?_⟩
  have h2 := h.2
  show ModeOK (modeOf m.state) (setEmptyTag m)
  rw [hm] at h2 ⊢
  exact ⟨Or.inr rfl, h2.2⟩

/-- a transition into a state of mode `other` -/
theorem Lex_to_other (h : LexE m) (s : State) (hs : modeOf s = .other) : LexE (to s m) :=
  ⟨LexG_to h.1 s, by show ModeOK (modeOf s) _; rw [hs]; trivial⟩
theorem Lex_reconsumeTo_other (h : LexE m) (s : State) (hs : modeOf s = .other) : LexE (reconsumeTo s m) :=
  ⟨LexG_reconsumeTo h.1 s, by show ModeOK (modeOf s) _; rw [hs]; trivial⟩
/-- a transition inside a mode -/
theorem Lex_to_md (h : LexE m) (s : State) (md : Mode) (h1 : modeOf m.state = md) (h2 : modeOf s = md) :
    LexE (to s m) :=
  ⟨LexG_to h.1 s, by
    show ModeOK (modeOf s) (to s m)
    rw [h2, ← h1]; exact modeOK_congr h.2 rfl rfl rfl⟩
theorem Lex_reconsumeTo_md (h : LexE m) (s : State) (md : Mode) (h1 : modeOf m.state = md) (h2 : modeOf s = md) :
    LexE (reconsumeTo s m) :=
  ⟨LexG_reconsumeTo h.1 s, by
    show ModeOK (modeOf s) (reconsumeTo s m)
    rw [h2, ← h1]; exact modeOK_congr h.2 rfl rfl rfl⟩

/-- `<` + first name character: a start tag begins -/
theorem Lex_enter_stag (h : LexE m) {c : Char} (hn : TagNameLex [c]) : LexE (to .tagName (createTag .startTag c m)) :=
  ⟨LexG_to (LexG_createTag h.1 _ c) _, ⟨Or.inl rfl, hn⟩⟩
theorem Lex_enter_etag (h : LexE m) (c : Char) : LexE (to .endTagName (createTag .endTag c m)) :=
  ⟨LexG_to (LexG_createTag h.1 _ c) _, rfl⟩
theorem Lex_enter_pi (h : LexE m) {c : Char} (hc : NoWs3 c) : LexE (to .piTarget (createPi c m)) :=
  ⟨LexG_to (LexG_createPi h.1 hc) _, by show [c] ≠ []; simp⟩

theorem emitCurrentTag_lex {m' : Mach} (hg : LexG m')
    (hn : (m'.tagKind = .startTag ∨ m'.tagKind = .emptyTag) → TagNameLex m'.tagName)
    (hs : modeOf m'.state = .other) : LexE (emitCurrentTag m') :=
  ⟨LexG_emitCurrentTag hg hn, by rw [emitCurrentTag_state, hs]; trivial⟩

/-- a tag is emitted from inside a start tag or an end tag -/
theorem Lex_emitTag (h : LexE m) (s : State) (hs : modeOf s = .other)
    (hm : modeOf m.state = .stag ∨ modeOf m.state = .etag) : LexE (emitTag s m) := by
  unfold emitTag
  apply emitCurrentTag_lex (LexG_to h.1 s) _ hs
  intro hk
  have h2 := h.2
  rcases hm with hm | hm
  · rw [hm] at h2; exact h2.2
  · rw [hm] at h2
    have h2' : m.tagKind = .endTag := h2
    have hk' : m.tagKind = .startTag ∨ m.tagKind = .emptyTag := hk
    rw [h2'] at hk'; rcases hk' with e | e <;> cases e
theorem Lex_emitShortTag (h : LexE m) (s : State) (hs : modeOf s = .other) : LexE (emitShortTag s m) := by
  unfold emitShortTag
  dsimp only
  apply emitCurrentTag_lex _ _ hs
  · exact ⟨h.1.out, h.1.aname, h.1.attrs, h.1.nodup, h.1.piT, h.1.piD, h.1.dt, h.1.scan⟩
  · intro hk; rcases hk with e | e <;> cases e
theorem Lex_emitEmptyTag (h : LexE m) (s : State) (hs : modeOf s = .other) (hm : modeOf m.state = .stag) :
    LexE (emitEmptyTag s m) := by
  unfold emitEmptyTag
  dsimp only
  apply emitCurrentTag_lex _ _ hs
  · exact ⟨h.1.out, h.1.aname, h.1.attrs, h.1.nodup, h.1.piT, h.1.piD, h.1.dt, h.1.scan⟩
  · intro _; have h2 := h.2; rw [hm] at h2; exact h2.2
theorem Lex_emitStartTag (h : LexE m) (s : State) (hs : modeOf s = .other) (hm : modeOf m.state = .stag) :
    LexE (emitStartTag s m) := by
  unfold emitStartTag
  dsimp only
  apply emitCurrentTag_lex _ _ hs
  · exact ⟨h.1.out, h.1.aname, h.1.attrs, h.1.nodup, h.1.piT, h.1.piD, h.1.dt, h.1.scan⟩
  · intro _; have h2 := h.2; rw [hm] at h2; exact h2.2

/-- a PI is emitted from inside a PI -/
theorem Lex_emitPi_to (h : LexE m) (s : State) (hs : modeOf s = .other) (hm : modeOf m.state = .pi) :
    LexE (emitPi (to s m)) := by
  have h2 := h.2
  rw [hm] at h2
  exact ⟨LexG_emitPi (LexG_to h.1 s) h2, by show ModeOK (modeOf s) _; rw [hs]; trivial⟩

end

/-! ### character side conditions -/

theorem ws3_of {c : Char} (h : ¬ isWs3 c = true) : NoWs3 c := by
  simp only [isWs3, Bool.or_eq_true, decide_eq_true_eq, not_or] at h
  exact ⟨h.1.1, h.1.2, h.2⟩

theorem nmCh_mk {c : Char} (hq : QC c) (hw : ¬ isWs3 c = true) (h1 : ¬ c = '>') (h2 : ¬ c = '/') : NmCh c := by
  obtain ⟨a, b, d⟩ := ws3_of hw
  exact ⟨a, b, d, h2, h1, hq.1, hq.2⟩

theorem ws4_of {c : Char} (h : ¬ isWs4 c = true) : c ≠ '\t' ∧ c ≠ '\n' ∧ c ≠ '\x0c' ∧ c ≠ ' ' := by
  simp only [isWs4, Bool.or_eq_true, decide_eq_true_eq, not_or] at h
  exact ⟨h.1.1.1, h.1.1.2, h.1.2, h.2⟩

theorem dtCh_mk {c : Char} (hq : QC c) (hw : ¬ isWs4 c = true) (h1 : ¬ c = '>') : DtCh (toAsciiLower c) := by
  obtain ⟨a, b, d, e⟩ := ws4_of hw
  exact dtCh_lower hq a b d e h1

/-! ### the `get_char!` table -/

/-- states outside tags and PIs: every arm stays outside, or enters a start tag / end tag / PI -/
macro "lex_other" : tactic =>
  `(tactic| (repeat' (first
      | assumption
      | (with_reducible refine Lex_to_other ?_ _ rfl) | (with_reducible refine Lex_reconsumeTo_other ?_ _ rfl)
      | with_reducible apply Lex_emitChar | with_reducible apply Lex_badChar | with_reducible apply Lex_badEof
      | with_reducible apply Lex_emitErr | with_reducible apply Lex_emitComment
      | (with_reducible refine Lex_pushComment ?_ (Or.inl (by assumption)))
      | with_reducible apply Lex_clearComment | with_reducible apply Lex_createDoctype
      | with_reducible apply Lex_pushDoctypeId | with_reducible apply Lex_clearDoctypeId
      | with_reducible apply Lex_emitDoctype | with_reducible apply Lex_consumeCharRef
      | (with_reducible refine Lex_emitShortTag ?_ _ rfl)
      | (with_reducible refine Lex_pushDoctypeName ?_ (dtCh_mk (by assumption) (by assumption) (by assumption))))))

/-- the ten states inside `<!--` … `-->` (handled in `XmlShapeCmt`) -/
def isCmtSt : State → Bool
  | .commentStart | .commentStartDash | .comment | .commentLessThan | .commentLessThanBang
  | .commentLessThanBangDash | .commentLessThanBangDashDash | .commentEndDash | .commentEnd | .commentEndBang => true
  | _ => false

/-- the arms of an `if` in a transition table, one by one; used instead of `split`, which is slow on
these terms -/
theorem ite_fst (P : Mach → Prop) {p : Prop} [Decidable p] {a b : Mach × Sig} (ha : p → P a.1) (hb : ¬p → P b.1) :
    P (if p then a else b).1 := by
  split
  · exact ha ‹_›
  · exact hb ‹_›

theorem transChar_lexE (o : Opts) {m : Mach} (h : LexE m) {c : Char} (hc : QC c) (hnc : isCmtSt m.state = false) :
    LexE (transChar o m c).1 := by
  unfold transChar
  split
  -- tagState
  · rename_i hst
    dsimp only
    refine ite_fst LexE (fun _ => ?_) (fun _ => ?_)
    · lex_other
    · refine ite_fst LexE (fun _ => ?_) (fun _ => ?_)
      · lex_other
      · refine ite_fst LexE (fun _ => ?_) (fun _ => ?_)
        · lex_other
        · refine ite_fst LexE (fun _ => ?_) (fun _ => ?_)
          · lex_other
          · rename_i h1 h2 h3 h4
            apply Lex_enter_stag h
            simp only [Bool.or_eq_true, decide_eq_true_eq, not_or] at h4
            exact ⟨c, [], rfl, ⟨h4.1.1.1.1.1, h4.1.1.1.1.2, h4.1.1.1.2, h2, h4.2, hc.1, hc.2⟩,
              ⟨h1, h3, h4.1.1.2, h4.1.2⟩, by simp⟩
  -- endTagState
  · dsimp only
    refine ite_fst LexE (fun _ => ?_) (fun _ => ?_)
    · lex_other
    · refine ite_fst LexE (fun _ => ?_) (fun _ => ?_)
      · lex_other
      · exact Lex_enter_etag h c
  -- endTagName
  · rename_i hst
    have hmd : modeOf m.state = .etag := by rw [hst]; rfl
    dsimp only
    refine ite_fst LexE (fun _ => ?_) (fun _ => ?_)
    · exact Lex_to_md h _ _ hmd rfl
    · refine ite_fst LexE (fun _ => ?_) (fun _ => ?_)
      · exact Lex_to_md (Lex_badChar h o) _ .etag (by simpa using hmd) rfl
      · refine ite_fst LexE (fun _ => ?_) (fun _ => ?_)
        · exact Lex_emitTag h _ rfl (Or.inr hmd)
        · rename_i h1 h2 h3
          exact Lex_pushTag h (nmCh_mk hc h1 h3 h2)
  -- endTagNameAfter
  · rename_i hst
    have hmd : modeOf m.state = .etag := by rw [hst]; rfl
    dsimp only
    refine ite_fst LexE (fun _ => ?_) (fun _ => ?_)
    · exact Lex_emitTag h _ rfl (Or.inr hmd)
    · refine ite_fst LexE (fun _ => ?_) (fun _ => ?_)
      · exact h
      · exact Lex_emitErr h _
  -- pi
  · dsimp only
    refine ite_fst LexE (fun _ => ?_) (fun _ => ?_)
    · lex_other
    · rename_i h1
      exact Lex_enter_pi h (ws3_of h1)
  -- piTarget
  · rename_i hst
    have hmd : modeOf m.state = .pi := by rw [hst]; rfl
    dsimp only
    refine ite_fst LexE (fun _ => ?_) (fun _ => ?_)
    · exact Lex_to_md h _ _ hmd rfl
    · refine ite_fst LexE (fun _ => ?_) (fun _ => ?_)
      · exact Lex_to_md h _ _ hmd rfl
      · rename_i h1 h2
        exact Lex_pushPiTarget h (ws3_of h1) h2
  -- piTargetAfter
  · rename_i hst
    have hmd : modeOf m.state = .pi := by rw [hst]; rfl
    dsimp only
    refine ite_fst LexE (fun _ => ?_) (fun _ => ?_)
    · exact h
    · exact Lex_reconsumeTo_md h _ _ hmd rfl
  -- piData
  · rename_i hst
    have hmd : modeOf m.state = .pi := by rw [hst]; rfl
    dsimp only
    refine ite_fst LexE (fun _ => ?_) (fun _ => ?_)
    · exact Lex_to_md h _ _ hmd rfl
    · rename_i h1; exact Lex_pushPiData h h1
  -- piAfter
  · rename_i hst
    have hmd : modeOf m.state = .pi := by rw [hst]; rfl
    dsimp only
    refine ite_fst LexE (fun _ => ?_) (fun _ => ?_)
    · exact Lex_emitPi_to h _ rfl hmd
    · refine ite_fst LexE (fun _ => ?_) (fun _ => ?_)
      · exact Lex_to_md h _ _ hmd rfl
      · rename_i h1 h2; exact Lex_pushPiData h h2
  -- the ten comment states, commentStart … commentEndBang (`isCmtSt`)
  iterate 10 (rename_i hst; rw [hst] at hnc; cases hnc)
  -- bogusComment, cdata, cdataBracket, cdataEnd
  iterate 4 (dsimp only; (repeat' with_reducible refine ite_fst LexE (fun _ => ?_) (fun _ => ?_)) <;> lex_other)
  -- tagName
  · rename_i hst
    have hmd : modeOf m.state = .stag := by rw [hst]; rfl
    dsimp only
    refine ite_fst LexE (fun _ => ?_) (fun _ => ?_)
    · exact Lex_to_md h _ _ hmd rfl
    · refine ite_fst LexE (fun _ => ?_) (fun _ => ?_)
      · exact Lex_emitTag h _ rfl (Or.inl hmd)
      · refine ite_fst LexE (fun _ => ?_) (fun _ => ?_)
        · exact Lex_to_md (Lex_setEmptyTag h hmd) _ .stag (by simpa using hmd) rfl
        · rename_i h1 h2 h3
          exact Lex_pushTag h (nmCh_mk hc h1 h2 h3)
  -- tagEmpty
  · rename_i hst
    have hmd : modeOf m.state = .stag := by rw [hst]; rfl
    dsimp only
    refine ite_fst LexE (fun _ => ?_) (fun _ => ?_)
    · exact Lex_emitEmptyTag h _ rfl hmd
    · exact Lex_reconsumeTo_md h _ _ hmd rfl
  -- tagAttrNameBefore
  · rename_i hst
    have hmd : modeOf m.state = .stag := by rw [hst]; rfl
    dsimp only
    refine ite_fst LexE (fun _ => ?_) (fun _ => ?_)
    · exact h
    · refine ite_fst LexE (fun _ => ?_) (fun _ => ?_)
      · exact Lex_emitTag h _ rfl (Or.inl hmd)
      · refine ite_fst LexE (fun _ => ?_) (fun _ => ?_)
        · exact Lex_to_md (Lex_setEmptyTag h hmd) _ .stag (by simpa using hmd) rfl
        · refine ite_fst LexE (fun _ => ?_) (fun _ => ?_)
          · exact Lex_badChar h o
          · rename_i h1 h2 h3 h4
            exact Lex_to_md (Lex_createAttr h (nmCh_mk hc h1 h2 h3)) _ .stag (by simpa using hmd) rfl
  -- tagAttrName
  · rename_i hst
    have hmd : modeOf m.state = .stag := by rw [hst]; rfl
    dsimp only
    refine ite_fst LexE (fun _ => ?_) (fun _ => ?_)
    · exact Lex_to_md h _ _ hmd rfl
    · refine ite_fst LexE (fun _ => ?_) (fun _ => ?_)
      · exact Lex_emitTag h _ rfl (Or.inl hmd)
      · refine ite_fst LexE (fun _ => ?_) (fun _ => ?_)
        · exact Lex_to_md h _ _ hmd rfl
        · refine ite_fst LexE (fun _ => ?_) (fun _ => ?_)
          · exact Lex_to_md (Lex_setEmptyTag h hmd) _ .stag (by simpa using hmd) rfl
          · rename_i h1 h2 h3 h4
            exact Lex_pushName h (nmCh_mk hc h3 h2 h4) h1
  -- tagAttrNameAfter
  · rename_i hst
    have hmd : modeOf m.state = .stag := by rw [hst]; rfl
    dsimp only
    refine ite_fst LexE (fun _ => ?_) (fun _ => ?_)
    · exact h
    · refine ite_fst LexE (fun _ => ?_) (fun _ => ?_)
      · exact Lex_to_md h _ _ hmd rfl
      · refine ite_fst LexE (fun _ => ?_) (fun _ => ?_)
        · exact Lex_emitTag h _ rfl (Or.inl hmd)
        · refine ite_fst LexE (fun _ => ?_) (fun _ => ?_)
          · exact Lex_to_md (Lex_setEmptyTag h hmd) _ .stag (by simpa using hmd) rfl
          · rename_i h1 h2 h3 h4
            exact Lex_to_md (Lex_createAttr h (nmCh_mk hc h1 h3 h4)) _ .stag (by simpa using hmd) rfl
  -- tagAttrValueBefore
  · rename_i hst
    have hmd : modeOf m.state = .stag := by rw [hst]; rfl
    dsimp only
    refine ite_fst LexE (fun _ => ?_) (fun _ => ?_)
    · exact h
    · refine ite_fst LexE (fun _ => ?_) (fun _ => ?_)
      · exact Lex_to_md h _ _ hmd rfl
      · refine ite_fst LexE (fun _ => ?_) (fun _ => ?_)
        · exact Lex_to_md h _ _ hmd rfl
        · refine ite_fst LexE (fun _ => ?_) (fun _ => ?_)
          · exact Lex_reconsumeTo_md h _ _ hmd rfl
          · refine ite_fst LexE (fun _ => ?_) (fun _ => ?_)
            · exact Lex_emitTag h _ rfl (Or.inl hmd)
            · exact Lex_to_md (Lex_pushValue h c) _ .stag (by simpa using hmd) rfl
  -- doctype, beforeDoctypeName, doctypeName, afterDoctypeName, afterDoctypeKeyword, beforeDoctypeIdentifier,
  -- doctypeIdentifierDoubleQuoted, doctypeIdentifierSingleQuoted, afterDoctypeIdentifier (pub, sys),
  -- betweenDoctypePublicAndSystemIdentifiers, bogusDoctype
  iterate 12 (dsimp only; (repeat' with_reducible refine ite_fst LexE (fun _ => ?_) (fun _ => ?_)) <;> lex_other)
  -- not a get_char state
  all_goals exact h

/-! ### the `pop_except_from` table -/

/-- what `pop_except_from` hands to the table: a raw run is never empty -/
def SetRes.NonEmpty : SetRes → Prop
  | .fromSet _ => True
  | .notFromSet b => b ≠ []

theorem transSet_lex {m : Mach} (h : LexE m) {r : SetRes} (hr : SetRes.NonEmpty r) : LexE (transSet m r).1 := by
  unfold transSet
  split
  · dsimp only; (repeat' with_reducible refine ite_fst LexE (fun _ => ?_) (fun _ => ?_)) <;> lex_other
  · exact Lex_emitChars h hr
  all_goals first
    | exact h
    | exact Lex_appendValue h _
    | (rename_i hst
       have hmd : modeOf m.state = .stag := by rw [hst]; rfl
       dsimp only
       (repeat' with_reducible refine ite_fst LexE (fun _ => ?_) (fun _ => ?_)) <;>
         first
           | exact Lex_to_md h _ .stag hmd rfl
           | exact Lex_consumeCharRef h _
           | exact Lex_pushValue h _
           | exact Lex_emitTag h _ rfl (Or.inl hmd))

/-! ### the EOF table -/

theorem transEof_lex (o : Opts) {m : Mach} (h : LexE m) : LexE (transEof o m).1 := by
  have hb := Lex_badEof h o
  have hmd : modeOf (badEof o m).state = modeOf m.state := by rw [badEof_state]
  unfold transEof
  split
  all_goals dsimp only
  all_goals rename_i hst; rw [hst] at hmd
  -- the goals come in the order of the arms of `transEof`
  -- data
  · exact Lex_emitT h trivial
  -- commentStart, commentLessThan, commentLessThanBang, commentLessThanBangDash, commentLessThanBangDashDash
  iterate 5 exact Lex_reconsumeTo_other h _ rfl
  -- commentStartDash, comment, commentEndDash, commentEnd, commentEndBang
  iterate 5 exact Lex_emitT (Lex_emitComment hb) trivial
  -- tagState, endTagState, tagEmpty
  · exact Lex_to_other (Lex_emitChar hb _) _ rfl
  · exact Lex_to_other (Lex_emitChar (Lex_emitChar hb _) _) _ rfl
  · exact Lex_to_md hb _ .stag hmd rfl
  -- cdata, cdataBracket, cdataEnd, pi
  iterate 4 exact Lex_to_other hb _ rfl
  -- piTargetAfter, piAfter
  iterate 2 exact Lex_reconsumeTo_md h _ .pi (by rw [hst]; rfl) rfl
  -- markupDecl
  · exact Lex_to_other hb _ rfl
  -- tagName, tagAttrNameBefore, endTagName, tagAttrNameAfter, endTagNameAfter, tagAttrValueBefore, tagAttrValue
  iterate 7 exact Lex_emitTag hb _ rfl (by rw [hmd]; first | exact .inl rfl | exact .inr rfl)
  -- piData, piTarget
  iterate 2 exact Lex_emitPi_to hb _ rfl hmd
  -- tagAttrName
  · exact Lex_emitStartTag hb _ rfl hmd
  -- the ten doctype states before bogusDoctype
  iterate 10 exact Lex_to_other (Lex_emitDoctype hb) _ rfl
  -- bogusDoctype, bogusComment
  · exact Lex_to_other (Lex_emitDoctype h) _ rfl
  · exact Lex_to_other (Lex_emitComment h) _ rfl

end H5V.Lemmas.XmlShapeLex
