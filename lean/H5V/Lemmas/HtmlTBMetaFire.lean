import H5V.Lemmas.HtmlTBMetaRoute
import H5V.Lemmas.HtmlTBMetaHead
import H5V.Lemmas.HtmlTBMetaRun
import H5V.Lemmas.MetaDecodes
/-!
C19: the `meta` arm of "in head", exactly: insert-and-pop, then the answer `qualifies`
prescribes; and `process_to_completion` hands an indicator straight back to the tokenizer.
-/
namespace H5V.Props.C19
open H5V.Model.Dom (Id QualName Attr NodeOrText SinkOp Output ElementFlags QuirksMode Dom)
open H5V.Model.HtmlTB
open H5V.Lemmas.TBM

/-- the answer of the `meta` arm -/
def answerOf : Option Str → ProcessResult
  | some l => .encodingIndicator l
  | none => .doneAckSelfClosing

/-- the only panic of the `meta` arm besides those of the insertion, the extracted slice not being
UTF-8, is not taken (holds for every tag: `C19_metaDecodes`) -/
def MetaDecodes (tag : Tag) : Prop :=
  tag.getAttribute "charset" = none → isPragma tag = true →
    ∀ c, tag.getAttribute "content" = some c → ¬ labelUndecodable c

/-- what follows the insertion in the `meta` arm (rules.rs:190–222) -/
def metaAnswer (tag : Tag) : M ProcessResult :=
  match tag.getAttribute "charset" with
  | some cs => pure (.encodingIndicator cs)
  | none =>
    if isPragma tag then
      match tag.getAttribute "content" with
      | none => pure .doneAckSelfClosing
      | some c => do
        match ← extractEncoding c with
        | some enc => pure (.encodingIndicator enc)
        | none => pure .doneAckSelfClosing
    else pure .doneAckSelfClosing

theorem stepInHead_meta_eq {tag : Tag} (hm : isMetaStart tag) :
    stepInHead (.tag tag) = (insertAndPopElementFor tag >>= fun _ => metaAnswer tag) := by
  unfold stepInHead metaAnswer isPragma
  meta_simp hm
  cases h : tag.getAttribute "http-equiv" <;> rfl

theorem metaAnswer_run (tag : Tag) (s : State) : metaAnswer tag s = .ok (answerOf (qualifies tag), s) := by
  unfold metaAnswer
  cases hcs : tag.getAttribute "charset" with
  | some cs => simp only; rw [qualifies_charset hcs]; rfl
  | none =>
    simp only
    rw [qualifies_pragma hcs]
    by_cases hp : isPragma tag = true
    · simp only [hp, if_true]
      cases hc : tag.getAttribute "content" with
      | none => rfl
      | some c =>
        simp only [Option.bind_some]
        refine bind_ok.mpr ⟨_, s, C19_extractEncoding_total c s, ?_⟩
        cases hl : contentLabel c <;> rfl
    · simp only [hp]; rfl

theorem metaAnswer_ok {tag : Tag} {s s' : State} {r : ProcessResult} (h : metaAnswer tag s = .ok (r, s')) :
    r = answerOf (qualifies tag) ∧ s' = s := by
  rw [metaAnswer_run] at h
  cases h
  exact ⟨rfl, rfl⟩

/-- **the `meta` arm of "in head"** (A1, ⇒): a successful run is the insertion followed by the
answer `qualifies` prescribes; nothing else happens to the state -/
theorem stepInHead_meta_ok {tag : Tag} (hm : isMetaStart tag) {s s' : State} {r : ProcessResult}
    (h : stepInHead (.tag tag) s = .ok (r, s')) :
    (∃ elem, insertAndPopElementFor tag s = .ok (elem, s')) ∧ r = answerOf (qualifies tag) := by
  rw [stepInHead_meta_eq hm] at h
  obtain ⟨elem, s1, e1, e2⟩ := bind_ok.mp h
  obtain ⟨rfl, rfl⟩ := metaAnswer_ok e2
  exact ⟨⟨elem, e1⟩, rfl⟩

/-- (A1, ⇐): if the insertion goes through, so does the rule -/
theorem stepInHead_meta_run {tag : Tag} (hm : isMetaStart tag) {s s' : State} {elem : Id}
    (h : insertAndPopElementFor tag s = .ok (elem, s')) :
    stepInHead (.tag tag) s = .ok (answerOf (qualifies tag), s') := by
  rw [stepInHead_meta_eq hm]
  exact bind_ok.mpr ⟨elem, s', h, metaAnswer_run tag s'⟩

/-- `meta` is neither form-associated nor `template` -/
theorem meta_plain {tag : Tag} (hm : isMetaStart tag) :
    formAssociatable ⟨nsHtml, tag.name⟩ = false ∧ isName tag.name "template" = false := by
  rw [hm.2]; exact ⟨by decide, by decide⟩

/-! ### `process_to_completion` on a `meta` start tag that reaches "in head" -/

theorem ptc_meta_fires {tag : Tag} (hm : isMetaStart tag) {s s1 s2 : State} {elem : Id}
    {l : Str} (hq : qualifies tag = some l)
    (hf : isForeign (.tag tag) s = .ok (false, s1)) (hmode : s1.mode = .inHead)
    (hi : insertAndPopElementFor tag s1 = .ok (elem, s2)) (fuel : Nat) (more : List Token) :
    processToCompletion (fuel + 1) (.tag tag) more s = .ok (.encodingIndicator l, s2) := by
  have hstep := stepInHead_meta_run hm hi
  rw [hq] at hstep
  unfold processToCompletion
  dsimp only
  refine bind_ok.mpr ⟨false, s1, hf, ?_⟩
  simp only [Bool.false_eq_true, if_false]
  refine bind_ok.mpr ⟨s1, s1, getS_ok.mpr ⟨rfl, rfl⟩, ?_⟩
  refine bind_ok.mpr ⟨_, s2, (by rw [hmode]; exact hstep), ?_⟩
  rfl

theorem ptc_meta_silent {tag : Tag} (hm : isMetaStart tag) {s s1 s2 : State} {elem : Id}
    (hq : qualifies tag = none)
    (hf : isForeign (.tag tag) s = .ok (false, s1)) (hmode : s1.mode = .inHead)
    (hi : insertAndPopElementFor tag s1 = .ok (elem, s2)) (fuel : Nat) :
    processToCompletion (fuel + 1) (.tag tag) [] s = .ok (.continue_, s2) := by
  have hstep := stepInHead_meta_run hm hi
  rw [hq] at hstep
  unfold processToCompletion
  dsimp only
  refine bind_ok.mpr ⟨false, s1, hf, ?_⟩
  simp only [Bool.false_eq_true, if_false]
  refine bind_ok.mpr ⟨s1, s1, getS_ok.mpr ⟨rfl, rfl⟩, ?_⟩
  refine bind_ok.mpr ⟨_, s2, (by rw [hmode]; exact hstep), ?_⟩
  rfl

end H5V.Props.C19
