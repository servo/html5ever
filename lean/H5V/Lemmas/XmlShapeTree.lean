import H5V.Props.C17
/-!
C17, shape of parsed trees: the STRUCTURE of every document the tree-builder model builds.

`ShapeC cs s` is an invariant of `XmlTB.step` (`step_shape`, any configuration, any token whose character
data is non-empty): every open frame and the closed root hold element content in the class `nodesOK` (no
doctype, no empty text node, no two adjacent text nodes), every element of the tree was created by a
`create_element` call recorded in `cs` (`s.created`), before the root there are only comments, PIs and at
most one doctype, after it only comments and PIs, and nothing is after the root as long as there is none.
`document_shape` reads the hypotheses of `C17_roundtrip_fixed` off the invariant.
-/
namespace H5V.Lemmas.XmlShape
open H5V.Model.XmlTB H5V.Model.XmlSer H5V.Lemmas.XmlTB H5V.Lemmas.XmlSer H5V.Props.C17

/-! ### the elements of a tree -/

mutual
/-- name and attribute list of every element of the tree, in document order -/
def elemsOf : Node → List Created
  | .elem n as ks => ⟨n, as⟩ :: elemsOfL ks
  | .text _ => []
  | .comment _ => []
  | .pi _ _ => []
  | .doctype _ _ _ => []
def elemsOfL : List Node → List Created
  | [] => []
  | n :: rest => elemsOf n ++ elemsOfL rest
end

theorem elemsOfL_append (a b : List Node) : elemsOfL (a ++ b) = elemsOfL a ++ elemsOfL b := by
  induction a with
  | nil => simp [elemsOfL]
  | cons x xs ih => simp [elemsOfL, ih]

theorem mem_elemsOfL_reverse (l : List Node) (c : Created) : c ∈ elemsOfL l.reverse ↔ c ∈ elemsOfL l := by
  induction l with
  | nil => simp
  | cons x xs ih => simp [elemsOfL_append, elemsOfL, ih, or_comm]

/-! ### the leaves of a tree: text, comment, PI and doctype nodes -/

mutual
def leavesOf : Node → List Node
  | .elem _ _ ks => leavesOfL ks
  | .text s => [.text s]
  | .comment s => [.comment s]
  | .pi t d => [.pi t d]
  | .doctype n p s => [.doctype n p s]
def leavesOfL : List Node → List Node
  | [] => []
  | n :: rest => leavesOf n ++ leavesOfL rest
end

theorem leavesOfL_append (a b : List Node) : leavesOfL (a ++ b) = leavesOfL a ++ leavesOfL b := by
  induction a with
  | nil => simp [leavesOfL]
  | cons x xs ih => simp [leavesOfL, ih]

theorem mem_leavesOfL_reverse (l : List Node) (c : Node) : c ∈ leavesOfL l.reverse ↔ c ∈ leavesOfL l := by
  induction l with
  | nil => simp
  | cons x xs ih => simp [leavesOfL_append, leavesOfL, ih, or_comm]

/-- a predicate on leaves that survives the merging of adjacent character data -/
def TextClosed (Q : Node → Prop) : Prop := ∀ a b, Q (.text a) → Q (.text b) → Q (.text (a ++ b))

/-! ### element content, seen from the end of the child list -/

def isTextB : Node → Bool
  | .text _ => true
  | _ => false

theorem isTextB_eq (n : Node) : (match n with | .text _ => true | _ => false) = isTextB n := by
  cases n <;> rfl

/-- is the last node of the list a text node (`p` for the empty list)? -/
def lastP : Bool → List Node → Bool
  | p, [] => p
  | _, n :: rest => lastP (isTextB n) rest

theorem lastP_snoc (p : Bool) (l : List Node) (x : Node) : lastP p (l ++ [x]) = isTextB x := by
  induction l generalizing p with
  | nil => rfl
  | cons y ys ih => simp only [List.cons_append, lastP]; exact ih _

theorem lastP_reverse (kids : List Node) : lastP false kids.reverse = prevText kids := by
  cases kids with
  | nil => rfl
  | cons x rest =>
    rw [List.reverse_cons, lastP_snoc]
    cases x <;> rfl

theorem nodesOK_snoc (c : SerCfg) (l : List Node) (p : Bool) (x : Node) :
    nodesOK c p (l ++ [x]) ↔ nodesOK c p l ∧ nodeOK c (lastP p l) x := by
  induction l generalizing p with
  | nil => simp [nodesOK, lastP]
  | cons n r ih =>
    simp only [List.cons_append, nodesOK, lastP, isTextB_eq]
    rw [ih]
    exact and_assoc.symm

/-- the children collected so far (most recent first) are good element content, and all their elements
are recorded in `cs` -/
def KidsGood (Q : Node → Prop) (cs : List Created) (kids : List Node) : Prop :=
  nodesOK SerCfg.fixed false kids.reverse ∧ (∀ c ∈ elemsOfL kids, c ∈ cs) ∧ ∀ x ∈ leavesOfL kids, Q x

theorem kidsGood_nil (Q : Node → Prop) (cs : List Created) : KidsGood Q cs [] :=
  ⟨trivial, by simp [elemsOfL], by simp [leavesOfL]⟩

theorem KidsGood.mono {Q : Node → Prop} {cs cs' : List Created} {kids : List Node} (h : KidsGood Q cs kids)
    (hsub : ∀ c ∈ cs, c ∈ cs') : KidsGood Q cs' kids := ⟨h.1, fun c hc => hsub c (h.2.1 c hc), h.2.2⟩

theorem kidsGood_cons {Q : Node → Prop} {cs : List Created} {kids : List Node} (h : KidsGood Q cs kids) (x : Node)
    (hx : nodeOK SerCfg.fixed (prevText kids) x) (he : ∀ c ∈ elemsOf x, c ∈ cs)
    (hq : ∀ y ∈ leavesOf x, Q y) : KidsGood Q cs (x :: kids) := by
  refine ⟨?_, ?_, ?_⟩
  · rw [List.reverse_cons, nodesOK_snoc, lastP_reverse]; exact ⟨h.1, hx⟩
  · intro c hc
    simp only [elemsOfL, List.mem_append] at hc
    rcases hc with hc | hc
    · exact he c hc
    · exact h.2.1 c hc
  · intro y hy
    simp only [leavesOfL, List.mem_append] at hy
    rcases hy with hy | hy
    · exact hq y hy
    · exact h.2.2 y hy

theorem kidsGood_appendText {Q : Node → Prop} (hQ : TextClosed Q) {cs : List Created} {kids : List Node}
    (h : KidsGood Q cs kids) (s : Str) (hs : s ≠ []) (hqs : Q (.text s)) : KidsGood Q cs (appendText kids s) := by
  unfold appendText
  split
  · rename_i t rest
    obtain ⟨h1, h2, h3⟩ := h
    rw [List.reverse_cons, nodesOK_snoc] at h1
    refine ⟨?_, ?_, ?_⟩
    · rw [List.reverse_cons, nodesOK_snoc]
      refine ⟨h1.1, ?_⟩
      have := h1.2
      simp only [nodeOK] at this ⊢
      exact ⟨this.1, by intro e; exact this.2.1 (List.append_eq_nil_iff.mp e).1, Or.inr rfl⟩
    · intro c hc
      apply h2
      simpa [elemsOfL, elemsOf] using hc
    · intro y hy
      simp only [leavesOfL, leavesOf, List.cons_append, List.nil_append, List.mem_cons] at hy
      rcases hy with rfl | hy
      · exact hQ t s (h3 _ (by simp [leavesOfL, leavesOf])) hqs
      · exact h3 y (by simp [leavesOfL, leavesOf, hy])
  · rename_i hno
    apply kidsGood_cons h
    · have hp : prevText kids = false := by
        unfold prevText
        split
        · rename_i t rest; exact absurd rfl (hno t rest)
        · rfl
      simp only [nodeOK]
      exact ⟨hp, hs, Or.inr rfl⟩
    · intro c hc; simp [elemsOf] at hc
    · intro y hy; simp only [leavesOf, List.mem_singleton] at hy; subst hy; exact hqs

/-! ### good elements, good frames -/

/-- an element whose content is in the class, whose elements are all recorded and whose leaves satisfy `Q` -/
def GoodElem (Q : Node → Prop) (cs : List Created) (r : Node) : Prop :=
  ∃ n as ks, r = .elem n as ks ∧ (⟨n, as⟩ : Created) ∈ cs ∧ nodesOK SerCfg.fixed false ks ∧
    (∀ c ∈ elemsOfL ks, c ∈ cs) ∧ ∀ x ∈ leavesOfL ks, Q x

structure FrameGood (Q : Node → Prop) (cs : List Created) (f : Frame) : Prop where
  self : (⟨f.name, f.attrs⟩ : Created) ∈ cs
  kids : KidsGood Q cs f.kids

theorem GoodElem.mono {Q : Node → Prop} {cs cs' : List Created} {r : Node} (h : GoodElem Q cs r)
    (hsub : ∀ c ∈ cs, c ∈ cs') : GoodElem Q cs' r := by
  obtain ⟨n, as, ks, e, h1, h2, h3, h4⟩ := h
  exact ⟨n, as, ks, e, hsub _ h1, h2, fun c hc => hsub c (h3 c hc), h4⟩

theorem FrameGood.mono {Q : Node → Prop} {cs cs' : List Created} {f : Frame} (h : FrameGood Q cs f)
    (hsub : ∀ c ∈ cs, c ∈ cs') : FrameGood Q cs' f := ⟨hsub _ h.self, h.kids.mono hsub⟩

theorem FrameGood.close {Q : Node → Prop} {cs : List Created} {f : Frame} (h : FrameGood Q cs f) :
    GoodElem Q cs f.close :=
  ⟨f.name, f.attrs, f.kids.reverse, rfl, h.self, h.kids.1,
    fun c hc => h.kids.2.1 c ((mem_elemsOfL_reverse _ _).mp hc),
    fun x hx => h.kids.2.2 x ((mem_leavesOfL_reverse _ _).mp hx)⟩

/-- a good element may be appended to good children -/
theorem kidsGood_elem {Q : Node → Prop} {cs : List Created} {kids : List Node} (h : KidsGood Q cs kids) {r : Node}
    (hr : GoodElem Q cs r) : KidsGood Q cs (r :: kids) := by
  obtain ⟨n, as, ks, rfl, h1, h2, h3, h4⟩ := hr
  apply kidsGood_cons h
  · simp only [nodeOK]; exact h2
  · intro c hc
    simp only [elemsOf, List.mem_cons] at hc
    rcases hc with rfl | hc
    · exact h1
    · exact h3 c hc
  · intro y hy; exact h4 y (by simpa [leavesOf] using hy)

theorem goodElem_empty (Q : Node → Prop) (cs : List Created) (n : QName) (as : List Attr)
    (h : (⟨n, as⟩ : Created) ∈ cs) : GoodElem Q cs (.elem n as []) :=
  ⟨n, as, [], rfl, h, trivial, by simp [elemsOfL], by simp [leavesOfL]⟩

/-! ### the prolog: comments, PIs, at most one doctype -/

def isDt : Node → Bool
  | .doctype _ _ _ => true
  | _ => false

theorem preOK_of (l : List Node) (seen : Bool) (hpre : ∀ x ∈ l, isPre x = true)
    (hc : (l.filter isDt).length ≤ (if seen then 0 else 1)) : preOK seen l := by
  induction l generalizing seen with
  | nil => trivial
  | cons x xs ih =>
    have hx := hpre x (by simp)
    have hr : ∀ y ∈ xs, isPre y = true := fun y hy => hpre y (by simp [hy])
    cases x with
    | text s | elem n as ks => simp [isPre] at hx
    | comment s | pi t d =>
      simp only [preOK]
      exact ih seen hr (by simpa [List.filter_cons, isDt] using hc)
    | doctype n p sy =>
      simp only [preOK]
      simp only [List.filter_cons, isDt, ↓reduceIte, List.length_cons] at hc
      cases seen with
      | true => simp at hc
      | false =>
        refine ⟨rfl, ih true hr ?_⟩
        simp only [Bool.false_eq_true, ↓reduceIte] at hc ⊢
        omega

/-! ### the invariant -/

/-- invariant of the tree builder's state; `cs` = the `create_element` trace -/
structure ShapeC (Q : Node → Prop) (cs : List Created) (s : State) : Prop where
  frames : ∀ f ∈ s.opened, FrameGood Q cs f
  root : ∀ r, s.root = some r → GoodElem Q cs r
  rootOpened : s.root.isSome = true → s.opened = []
  start : s.phase = .start → s.opened = [] ∧ s.root = none
  before : ∀ x ∈ s.docBefore, isPre x = true ∧ Q x
  dt1 : (s.docBefore.filter isDt).length ≤ 1
  dt0 : s.doctypeSeen = false → s.docBefore.filter isDt = []
  after : ∀ x ∈ s.docAfter, isMisc x = true ∧ Q x
  afterRoot : s.hasRoot = false → s.docAfter = []

theorem shapeC_init (Q : Node → Prop) : ShapeC Q [] State.init :=
  ⟨by simp [State.init], by simp [State.init], by simp [State.init], by simp [State.init],
   by simp [State.init], by simp [State.init], by simp [State.init], by simp [State.init],
   by simp [State.init]⟩

theorem ShapeC.mono {Q : Node → Prop} {cs cs' : List Created} {s : State} (h : ShapeC Q cs s)
    (hsub : ∀ c ∈ cs, c ∈ cs') : ShapeC Q cs' s :=
  ⟨fun f hf => (h.frames f hf).mono hsub, fun r hr => (h.root r hr).mono hsub, h.rootOpened, h.start,
   h.before, h.dt1, h.dt0, h.after, h.afterRoot⟩

/-- the invariant reads six fields only -/
theorem ShapeC.of_eq {Q : Node → Prop} {cs : List Created} {s s' : State} (h : ShapeC Q cs s) (e1 : s'.phase = s.phase)
    (e2 : s'.docBefore = s.docBefore) (e3 : s'.docAfter = s.docAfter) (e4 : s'.root = s.root)
    (e5 : s'.opened = s.opened) (e6 : s'.doctypeSeen = s.doctypeSeen) : ShapeC Q cs s' := by
  have eh : s'.hasRoot = s.hasRoot := by simp [State.hasRoot, e4, e5]
  exact ⟨by rw [e5]; exact h.frames, by rw [e4]; exact h.root, by rw [e4, e5]; exact h.rootOpened,
    by rw [e1, e4, e5]; exact h.start, by rw [e2]; exact h.before, by rw [e2]; exact h.dt1,
    by rw [e2, e6]; exact h.dt0, by rw [e3]; exact h.after, by rw [e3, eh]; exact h.afterRoot⟩

theorem applyNs_fields (cfg : TbCfg) (s : State) (t : Tag) :
    (applyNs cfg s t).1.phase = s.phase ∧ (applyNs cfg s t).1.docBefore = s.docBefore ∧
    (applyNs cfg s t).1.docAfter = s.docAfter ∧ (applyNs cfg s t).1.root = s.root ∧
    (applyNs cfg s t).1.opened = s.opened ∧ (applyNs cfg s t).1.doctypeSeen = s.doctypeSeen ∧
    (applyNs cfg s t).1.created = s.created := by
  unfold applyNs; simp only []; split <;> exact ⟨rfl, rfl, rfl, rfl, rfl, rfl, rfl⟩

theorem shapeC_applyNs {Q : Node → Prop} {cs : List Created} {s : State} (h : ShapeC Q cs s) (cfg : TbCfg)
    (t : Tag) : ShapeC Q cs (applyNs cfg s t).1 := by
  obtain ⟨a, b, c, d, e, f, _⟩ := applyNs_fields cfg s t
  exact h.of_eq a b c d e f

theorem shapeC_err {Q : Node → Prop} {cs : List Created} {s : State} (h : ShapeC Q cs s) (es : List Err) :
    ShapeC Q cs (s.err es) :=
  h.of_eq rfl rfl rfl rfl rfl rfl

theorem appendDoc_noRoot (s : State) (n : Node) (h : s.hasRoot = false) :
    s.appendDoc n = { s with docBefore := n :: s.docBefore } := by
  unfold State.appendDoc; rw [if_neg (by rw [h]; simp)]

/-- a comment or PI appended to the document -/
theorem shapeC_appendDoc {Q : Node → Prop} {cs : List Created} {s : State} (h : ShapeC Q cs s) (n : Node)
    (hn : isMisc n = true) (hq : Q n) : ShapeC Q cs (s.appendDoc n) := by
  have hpre : isPre n = true := by cases n <;> simp_all [isMisc, isPre]
  have hdt : isDt n = false := by cases n <;> simp_all [isMisc, isDt]
  unfold State.appendDoc
  split
  · rename_i hr
    refine ⟨h.frames, h.root, h.rootOpened, h.start, h.before, h.dt1, h.dt0, ?_, ?_⟩
    · intro x hx
      simp only [List.mem_cons] at hx
      rcases hx with rfl | hx
      · exact ⟨hn, hq⟩
      · exact h.after x hx
    · intro hf
      have : s.hasRoot = false := hf
      rw [hr] at this; cases this
  · rename_i hr
    refine ⟨h.frames, h.root, h.rootOpened, h.start, ?_, ?_, ?_, h.after, ?_⟩
    · intro x hx
      simp only [List.mem_cons] at hx
      rcases hx with rfl | hx
      · exact ⟨hpre, hq⟩
      · exact h.before x hx
    · simpa [List.filter_cons, hdt] using h.dt1
    · intro hd; simpa [List.filter_cons, hdt] using h.dt0 hd
    · intro hf; exact h.afterRoot hf

theorem except_map_ok {f : State → State} {x : Except String State} {s' : State}
    (h : x.map f = .ok s') : ∃ s1, x = .ok s1 ∧ s' = f s1 := by
  cases x with
  | error e => simp [Except.map] at h
  | ok s1 => simp only [Except.map, Except.ok.injEq] at h; exact ⟨s1, rfl, h.symm⟩

theorem except_bind_ok {g : State → Except String State} {x : Except String State} {s' : State}
    (h : x.bind g = .ok s') : ∃ s1, x = .ok s1 ∧ g s1 = .ok s' := by
  cases x with
  | error e => simp [Except.bind] at h
  | ok s1 => exact ⟨s1, rfl, h⟩

theorem shapeC_pop {Q : Node → Prop} {cs : List Created} {s s' : State} (h : ShapeC Q cs s) (hp : pop s = .ok s') :
    ShapeC Q cs s' ∧ s'.created = s.created ∧ s'.phase = s.phase := by
  unfold pop at hp
  split at hp
  · cases hp
  · rename_i f ho
    injection hp with hp; subst hp
    have hf := h.frames f (by rw [ho]; simp)
    refine ⟨⟨by simp, ?_, by simp, ?_, h.before, h.dt1, h.dt0, h.after, ?_⟩, rfl, rfl⟩
    · intro r hr
      simp only [Option.some.injEq] at hr; subst hr
      exact hf.close
    · intro hph
      have := (h.start hph).1
      rw [ho] at this; cases this
    · intro hf'; simp [State.hasRoot] at hf'
  · rename_i f g rest ho
    injection hp with hp; subst hp
    have hf := h.frames f (by rw [ho]; simp)
    have hg := h.frames g (by rw [ho]; simp)
    refine ⟨⟨?_, h.root, ?_, ?_, h.before, h.dt1, h.dt0, h.after, ?_⟩, rfl, rfl⟩
    · intro x hx
      simp only [List.mem_cons] at hx
      rcases hx with rfl | hx
      · exact ⟨hg.self, kidsGood_elem hg.kids hf.close⟩
      · exact h.frames x (by rw [ho]; simp [hx])
    · intro hr
      have := h.rootOpened hr
      rw [ho] at this; cases this
    · intro hph
      have := (h.start hph).1
      rw [ho] at this; cases this
    · intro hf'; simp [State.hasRoot] at hf'

theorem shapeC_popUntil {Q : Node → Prop} {cs : List Created} (nm : QName) (fuel : Nat) {s s' : State} (h : ShapeC Q cs s)
    (hp : popUntil nm fuel s = .ok s') : ShapeC Q cs s' ∧ s'.created = s.created ∧ s'.phase = s.phase := by
  induction fuel generalizing s with
  | zero =>
    unfold popUntil at hp
    split at hp
    · cases hp
    · split at hp
      · injection hp with hp; subst hp; exact ⟨h, rfl, rfl⟩
      · cases hp
  | succ n ih =>
    unfold popUntil at hp
    split at hp
    · cases hp
    · split at hp
      · injection hp with hp; subst hp; exact ⟨h, rfl, rfl⟩
      · obtain ⟨s1, h1, h2⟩ := except_bind_ok hp
        obtain ⟨a, b, c⟩ := shapeC_pop h h1
        obtain ⟨a', b', c'⟩ := ih a h2
        exact ⟨a', b'.trans b, c'.trans c⟩

theorem shapeC_closeTag {Q : Node → Prop} {cs : List Created} (nm : QName) {s s' : State} (h : ShapeC Q cs s)
    (hp : closeTag s nm = .ok s') : ShapeC Q cs s' ∧ s'.created = s.created ∧ s'.phase = s.phase := by
  unfold closeTag at hp
  split at hp
  · cases hp
  · rename_i f rest ho
    simp only [] at hp
    generalize hs0 : (if f.name.loc ≠ nm.loc then s.err [Err.currentMismatch] else s) = s0 at hp
    have h0 : ShapeC Q cs s0 ∧ s0.created = s.created ∧ s0.phase = s.phase := by
      subst hs0; split
      · exact ⟨shapeC_err h _, rfl, rfl⟩
      · exact ⟨h, rfl, rfl⟩
    split at hp
    · obtain ⟨s1, h1, h2⟩ := except_bind_ok hp
      obtain ⟨a, b, c⟩ := shapeC_popUntil nm _ h0.1 h1
      obtain ⟨a', b', c'⟩ := shapeC_pop a h2
      exact ⟨a', b'.trans (b.trans h0.2.1), c'.trans (c.trans h0.2.2)⟩
    · injection hp with hp; subst hp; exact h0

theorem shapeC_setEndIfEmpty {Q : Node → Prop} {cs : List Created} {s : State} (h : ShapeC Q cs s) (hp : s.phase ≠ .start) :
    ShapeC Q cs (setEndIfEmpty s) := by
  unfold setEndIfEmpty
  split
  · exact ⟨h.frames, h.root, h.rootOpened, (by intro e; cases e), h.before, h.dt1, h.dt0, h.after, h.afterRoot⟩
  · exact h

theorem shapeC_appendCur {Q : Node → Prop} {cs : List Created} {s s' : State} (h : ShapeC Q cs s) (upd : List Node → List Node)
    (hupd : ∀ kids, KidsGood Q cs kids → KidsGood Q cs (upd kids)) (hp : appendCur s upd = .ok s') :
    ShapeC Q cs s' ∧ s'.created = s.created := by
  unfold appendCur at hp
  split at hp
  · cases hp
  · rename_i f rest ho
    injection hp with hp; subst hp
    have hf := h.frames f (by rw [ho]; simp)
    refine ⟨⟨?_, h.root, ?_, ?_, h.before, h.dt1, h.dt0, h.after, ?_⟩, rfl⟩
    · intro x hx
      simp only [List.mem_cons] at hx
      rcases hx with rfl | hx
      · exact ⟨hf.self, hupd _ hf.kids⟩
      · exact h.frames x (by rw [ho]; simp [hx])
    · intro hr
      have := h.rootOpened hr
      rw [ho] at this; cases this
    · intro hph
      have := (h.start hph).1
      rw [ho] at this; cases this
    · intro hf'; simp [State.hasRoot] at hf'

/-- `insert_tag`: a new frame on a non-empty stack -/
theorem shapeC_insertTag {Q : Node → Prop} {s s' : State} (b : Bound) (h : ShapeC Q s.created s)
    (hp : insertTag s b = .ok s') : ShapeC Q s'.created s' ∧ s'.phase = s.phase := by
  unfold insertTag at hp
  split at hp
  · cases hp
  · rename_i f rest ho
    injection hp with hp; subst hp
    have hsub : ∀ c ∈ s.created, c ∈ (⟨b.name, b.attrs⟩ : Created) :: s.created :=
      fun c hc => List.mem_cons_of_mem _ hc
    have h' := h.mono hsub
    refine ⟨⟨?_, h'.root, ?_, ?_, h.before, h.dt1, h.dt0, h.after, ?_⟩, rfl⟩
    · intro x hx
      simp only [List.mem_cons] at hx
      rcases hx with rfl | hx
      · exact ⟨by simp, kidsGood_nil _ _⟩
      · exact h'.frames x hx
    · intro hr
      have := h.rootOpened hr
      rw [ho] at this; cases this
    · intro hph
      have := (h.start hph).1
      rw [ho] at this; cases this
    · intro hf'; simp [State.hasRoot] at hf'

/-- what `step` needs to know about the token: character data is not empty (the tokenizer never
delivers an empty character token), and the leaf node it may become satisfies `Q` -/
def TokGood (Q : Node → Prop) : Token → Prop
  | .chars cs => cs ≠ [] ∧ Q (.text cs)
  | .comment c => Q (.comment c)
  | .pi t d => Q (.pi t d)
  | .doctype n p sy => Q (.doctype (optStr n) (optStr p) (optStr sy))
  | _ => True

/-- **the invariant is preserved by every step** (any configuration, any token) -/
theorem step_shape {Q : Node → Prop} (hQ : TextClosed Q) (cfg : TbCfg) (s : State) (tok : Token)
    (h : ShapeC Q s.created s) (ht : TokGood Q tok) :
    ∀ s', step cfg s tok = .ok s' → ShapeC Q s'.created s' := by
  unfold step
  match hp : s.phase with
  | .start =>
    obtain ⟨ho, hr⟩ := h.start hp
    have hroot : s.hasRoot = false := by simp [State.hasRoot, ho, hr]
    match tok with
    | .tag ⟨.start, n, as⟩ =>
      intro s' hs
      have e : s' = { (applyNs cfg s ⟨.start, n, as⟩).1 with
          phase := .main,
          opened := ⟨(applyNs cfg s ⟨.start, n, as⟩).2.name, (applyNs cfg s ⟨.start, n, as⟩).2.attrs, []⟩ ::
            (applyNs cfg s ⟨.start, n, as⟩).1.opened,
          created := ⟨(applyNs cfg s ⟨.start, n, as⟩).2.name, (applyNs cfg s ⟨.start, n, as⟩).2.attrs⟩ ::
            (applyNs cfg s ⟨.start, n, as⟩).1.created } := by
        injection hs with hs; exact hs.symm
      subst e
      obtain ⟨e1, e2, e3, e4, e5, e6, e7⟩ := applyNs_fields cfg s ⟨.start, n, as⟩
      have h1 := shapeC_applyNs h cfg ⟨.start, n, as⟩
      simp only [e7]
      have hsub : ∀ c ∈ s.created, c ∈ (⟨(applyNs cfg s ⟨.start, n, as⟩).2.name,
          (applyNs cfg s ⟨.start, n, as⟩).2.attrs⟩ : Created) :: s.created :=
        fun c hc => List.mem_cons_of_mem _ hc
      have h2 := h1.mono hsub
      refine ⟨?_, h2.root, ?_, (by intro e; cases e), h2.before, h2.dt1, h2.dt0, h2.after, ?_⟩
      · intro x hx
        simp only [List.mem_cons] at hx
        rcases hx with rfl | hx
        · exact ⟨by simp, kidsGood_nil _ _⟩
        · exact h2.frames x hx
      · intro hrs
        have hrs' : (applyNs cfg s ⟨.start, n, as⟩).1.root.isSome = true := hrs
        rw [e4, hr] at hrs'; cases hrs'
      · intro hf'; simp [State.hasRoot] at hf'
    | .tag ⟨.empty, n, as⟩ =>
      intro s' hs
      have e : s' = { (applyNs cfg s ⟨.empty, n, as⟩).1 with
          phase := .end_,
          root := some (.elem (applyNs cfg s ⟨.empty, n, as⟩).2.name (applyNs cfg s ⟨.empty, n, as⟩).2.attrs []),
          created := ⟨(applyNs cfg s ⟨.empty, n, as⟩).2.name, (applyNs cfg s ⟨.empty, n, as⟩).2.attrs⟩ ::
            (applyNs cfg s ⟨.empty, n, as⟩).1.created } := by
        injection hs with hs; exact hs.symm
      subst e
      obtain ⟨e1, e2, e3, e4, e5, e6, e7⟩ := applyNs_fields cfg s ⟨.empty, n, as⟩
      have h1 := shapeC_applyNs h cfg ⟨.empty, n, as⟩
      simp only [e7]
      have hsub : ∀ c ∈ s.created, c ∈ (⟨(applyNs cfg s ⟨.empty, n, as⟩).2.name,
          (applyNs cfg s ⟨.empty, n, as⟩).2.attrs⟩ : Created) :: s.created :=
        fun c hc => List.mem_cons_of_mem _ hc
      have h2 := h1.mono hsub
      refine ⟨h2.frames, ?_, ?_, (by intro e; cases e), h2.before, h2.dt1, h2.dt0, h2.after, ?_⟩
      · intro r hr'
        have hr'' : some (Node.elem (applyNs cfg s ⟨.empty, n, as⟩).2.name (applyNs cfg s ⟨.empty, n, as⟩).2.attrs []) = some r := hr'
        simp only [Option.some.injEq] at hr''; subst hr''
        exact goodElem_empty _ _ _ _ (by simp)
      · intro _
        show (applyNs cfg s ⟨.empty, n, as⟩).1.opened = []
        rw [e5]; exact ho
      · intro hf'; simp [State.hasRoot] at hf'
    | .tag ⟨.end_, n, as⟩ | .tag ⟨.short, n, as⟩ => intro s' hs; injection hs with hs; subst hs; exact shapeC_err h _
    | .comment c =>
      intro s' hs; injection hs with hs; subst hs
      have : (s.appendDoc (.comment c)).created = s.created := by unfold State.appendDoc; split <;> rfl
      rw [this]; exact shapeC_appendDoc h _ rfl ht
    | .pi t d =>
      intro s' hs; injection hs with hs; subst hs
      have : (s.appendDoc (.pi t d)).created = s.created := by unfold State.appendDoc; split <;> rfl
      rw [this]; exact shapeC_appendDoc h _ rfl ht
    | .chars cs =>
      intro s' hs
      simp only [] at hs
      split at hs
      · injection hs with hs; subst hs; exact h
      · injection hs with hs; subst hs; exact shapeC_err h _
    | .eof =>
      intro s' hs; injection hs with hs; subst hs
      exact ⟨h.frames, h.root, h.rootOpened, (by intro e; cases e), h.before, h.dt1, h.dt0, h.after, h.afterRoot⟩
    | .nullChar => intro s' hs; injection hs with hs; subst hs; exact shapeC_err h _
    | .doctype n p sy =>
      intro s' hs
      simp only [] at hs
      split at hs
      · injection hs with hs; subst hs; exact shapeC_err h _
      · rename_i hseen
        injection hs with hs; subst hs
        have hseen' : s.doctypeSeen = false := by simpa using hseen
        have h0 := h.dt0 hseen'
        rw [appendDoc_noRoot _ _ (by exact hroot)]
        refine ⟨h.frames, h.root, h.rootOpened, (fun _ => ⟨ho, hr⟩), ?_, ?_, ?_, h.after, h.afterRoot⟩
        · intro x hx
          simp only [List.mem_cons] at hx
          rcases hx with rfl | hx
          · exact ⟨rfl, ht⟩
          · exact h.before x hx
        · simp [List.filter_cons, isDt, h0]
        · intro e; cases e
  | .main =>
    have hnst : s.phase ≠ .start := by rw [hp]; intro e; cases e
    match tok with
    | .chars cs =>
      intro s' hs
      obtain ⟨a, b⟩ := shapeC_appendCur h (fun k => appendText k cs)
        (fun kids hk => kidsGood_appendText hQ hk cs ht.1 ht.2) hs
      rw [b]; exact a
    | .comment c =>
      intro s' hs
      obtain ⟨a, b⟩ := shapeC_appendCur h (fun k => .comment c :: k)
        (fun kids hk => kidsGood_cons hk _ trivial (by intro c hc; simp [elemsOf] at hc)
          (by intro y hy; simp only [leavesOf, List.mem_singleton] at hy; subst hy; exact ht)) hs
      rw [b]; exact a
    | .pi t d =>
      intro s' hs
      obtain ⟨a, b⟩ := shapeC_appendCur h (fun k => .pi t d :: k)
        (fun kids hk => kidsGood_cons hk _ trivial (by intro c hc; simp [elemsOf] at hc)
          (by intro y hy; simp only [leavesOf, List.mem_singleton] at hy; subst hy; exact ht)) hs
      rw [b]; exact a
    | .eof | .nullChar =>
      intro s' hs; injection hs with hs; subst hs
      exact ⟨h.frames, h.root, h.rootOpened, (by intro e; cases e), h.before, h.dt1, h.dt0, h.after, h.afterRoot⟩
    | .doctype _ _ _ => intro s' hs; injection hs with hs; subst hs; exact shapeC_err h _
    | .tag ⟨.start, n, as⟩ =>
      intro s' hs
      simp only [] at hs
      obtain ⟨e1, e2, e3, e4, e5, e6, e7⟩ := applyNs_fields cfg s ⟨.start, n, as⟩
      have h1 := shapeC_applyNs h cfg ⟨.start, n, as⟩
      rw [← e7] at h1
      exact (shapeC_insertTag _ h1 hs).1
    | .tag ⟨.empty, n, as⟩ =>
      intro s' hs
      simp only [] at hs
      obtain ⟨e1, e2, e3, e4, e5, e6, e7⟩ := applyNs_fields cfg s ⟨.empty, n, as⟩
      have h1 := shapeC_applyNs h cfg ⟨.empty, n, as⟩
      split at hs
      · obtain ⟨s1, hs1, hs2⟩ := except_bind_ok hs
        rw [← e7] at h1
        obtain ⟨a, _⟩ := shapeC_insertTag _ h1 hs1
        obtain ⟨a', b', _⟩ := shapeC_closeTag _ a hs2
        rw [b']; exact a'
      · obtain ⟨s1, hs1, rfl⟩ := except_map_ok hs
        have hsub : ∀ c ∈ s.created, c ∈ (⟨(applyNs cfg s ⟨.empty, n, as⟩).2.name,
            (applyNs cfg s ⟨.empty, n, as⟩).2.attrs⟩ : Created) :: s.created :=
          fun c hc => List.mem_cons_of_mem _ hc
        have h2 := h1.mono hsub
        obtain ⟨a, b⟩ := shapeC_appendCur h2
          (fun k => .elem (applyNs cfg s ⟨.empty, n, as⟩).2.name (applyNs cfg s ⟨.empty, n, as⟩).2.attrs [] :: k)
          (fun kids hk => kidsGood_elem hk (goodElem_empty _ _ _ _ (by simp))) hs1
        simp only [b, e7]
        exact a.of_eq rfl rfl rfl rfl rfl rfl
    | .tag ⟨.end_, n, as⟩ =>
      intro s' hs
      simp only [] at hs
      obtain ⟨e1, e2, e3, e4, e5, e6, e7⟩ := applyNs_fields cfg s ⟨.end_, n, as⟩
      have h1 := shapeC_applyNs h cfg ⟨.end_, n, as⟩
      obtain ⟨s1, hs1, rfl⟩ := except_map_ok hs
      obtain ⟨a, b, c⟩ := shapeC_closeTag _ h1 hs1
      have hc : (setEndIfEmpty s1).created = s.created := by
        unfold setEndIfEmpty; split <;> simp [b, e7]
      rw [hc]
      exact shapeC_setEndIfEmpty a (by rw [c, e1]; exact hnst)
    | .tag ⟨.short, _, _⟩ =>
      intro s' hs
      simp only [] at hs
      obtain ⟨s1, hs1, rfl⟩ := except_map_ok hs
      obtain ⟨a, b, c⟩ := shapeC_pop h hs1
      have hc : (setEndIfEmpty s1).created = s.created := by
        unfold setEndIfEmpty; split <;> simp [b]
      rw [hc]
      exact shapeC_setEndIfEmpty a (by rw [c]; exact hnst)
  | .end_ =>
    match tok with
    | .comment c =>
      intro s' hs; injection hs with hs; subst hs
      have : (s.appendDoc (.comment c)).created = s.created := by unfold State.appendDoc; split <;> rfl
      rw [this]; exact shapeC_appendDoc h _ rfl ht
    | .pi t d =>
      intro s' hs; injection hs with hs; subst hs
      have : (s.appendDoc (.pi t d)).created = s.created := by unfold State.appendDoc; split <;> rfl
      rw [this]; exact shapeC_appendDoc h _ rfl ht
    | .chars cs =>
      intro s' hs
      simp only [] at hs
      split at hs
      · injection hs with hs; subst hs; exact h
      · injection hs with hs; subst hs; exact shapeC_err h _
    | .eof => intro s' hs; injection hs with hs; subst hs; exact h
    | .tag _ | .doctype _ _ _ | .nullChar => intro s' hs; injection hs with hs; subst hs; exact shapeC_err h _

theorem run_shape {Q : Node → Prop} (hQ : TextClosed Q) (cfg : TbCfg) (toks : List Token) (s : State)
    (h : ShapeC Q s.created s) (ht : ∀ t ∈ toks, TokGood Q t) :
    ∀ s', run cfg s toks = .ok s' → ShapeC Q s'.created s' := by
  induction toks generalizing s with
  | nil => intro s' hs; simp only [run] at hs; injection hs with hs; subst hs; exact h
  | cons t rest ih =>
    intro s' hs
    simp only [run] at hs
    obtain ⟨s1, h1, h2⟩ := except_bind_ok hs
    exact ih s1 (step_shape hQ cfg s t h (ht t (by simp)) s1 h1) (fun x hx => ht x (by simp [hx])) s' h2

/-! ### reading the document off the invariant -/

theorem closeAll_good (Q : Node → Prop) (cs : List Created) (frames : List Frame)
    (hf : ∀ f ∈ frames, FrameGood Q cs f) :
    ∀ (acc : Option Node), (∀ r, acc = some r → GoodElem Q cs r) →
      (∀ r, frames.foldl (fun acc f =>
          some (.elem f.name f.attrs (match acc with | some n => n :: f.kids | none => f.kids).reverse)) acc = some r →
        GoodElem Q cs r) ∧
      (frames ≠ [] → (frames.foldl (fun acc f =>
          some (Node.elem f.name f.attrs (match acc with | some n => n :: f.kids | none => f.kids).reverse)) acc).isSome = true) := by
  induction frames with
  | nil => intro acc hacc; exact ⟨by simpa using hacc, by intro e; exact absurd rfl e⟩
  | cons f rest ih =>
    intro acc hacc
    have hfg := hf f (by simp)
    have hstep : ∀ r, (some (Node.elem f.name f.attrs
        (match acc with | some n => n :: f.kids | none => f.kids).reverse)) = some r → GoodElem Q cs r := by
      intro r hr
      simp only [Option.some.injEq] at hr; subst hr
      cases acc with
      | none => exact hfg.close
      | some n =>
        have hk := kidsGood_elem hfg.kids (hacc n rfl)
        exact ⟨_, _, _, rfl, hfg.self, hk.1, fun c hc => hk.2.1 c ((mem_elemsOfL_reverse _ _).mp hc),
          fun x hx => hk.2.2 x ((mem_leavesOfL_reverse _ _).mp hx)⟩
    have := ih (fun g hg => hf g (by simp [hg])) _ hstep
    simp only [List.foldl_cons]
    refine ⟨this.1, fun _ => ?_⟩
    cases rest with
    | nil => rfl
    | cons g gs => exact this.2 (by simp)

/-- **the document of a state satisfying the invariant**: either `pre ++ [root] ++ post` with the
hypotheses of `C17_roundtrip_fixed` on `pre`, `post` and the root's content (every element of the tree
recorded in `cs`, every leaf satisfying `Q`), or there is no root element and the document is a prolog
(`preOK`). -/
theorem document_shape (Q : Node → Prop) (cs : List Created) (s : State) (h : ShapeC Q cs s) :
    (s.hasRoot = true ∧ ∃ pre n as ks post, s.document = pre ++ .elem n as ks :: post ∧ preOK false pre ∧
      (∀ x ∈ post, isMisc x = true) ∧ nodesOK SerCfg.fixed false ks ∧
      (⟨n, as⟩ : Created) ∈ cs ∧ (∀ c ∈ elemsOfL ks, c ∈ cs) ∧
      (∀ x ∈ pre, Q x) ∧ (∀ x ∈ post, Q x) ∧ ∀ x ∈ leavesOfL ks, Q x) ∨
    (s.hasRoot = false ∧ preOK false s.document ∧ ∀ x ∈ s.document, isPre x = true ∧ Q x) := by
  have hpre : preOK false s.docBefore.reverse := by
    apply preOK_of
    · intro x hx; exact (h.before x (List.mem_reverse.mp hx)).1
    · rw [List.filter_reverse, List.length_reverse]; exact h.dt1
  have hpost : ∀ x ∈ s.docAfter.reverse, isMisc x = true := fun x hx => (h.after x (List.mem_reverse.mp hx)).1
  have hqb : ∀ x ∈ s.docBefore.reverse, Q x := fun x hx => (h.before x (List.mem_reverse.mp hx)).2
  have hqa : ∀ x ∈ s.docAfter.reverse, Q x := fun x hx => (h.after x (List.mem_reverse.mp hx)).2
  unfold State.document
  cases hr : s.root with
  | some r =>
    left
    obtain ⟨n, as, ks, rfl, h1, h2, h3, h4⟩ := h.root r hr
    exact ⟨by simp [State.hasRoot, hr], s.docBefore.reverse, n, as, ks, s.docAfter.reverse, by simp, hpre, hpost, h2,
      h1, h3, hqb, hqa, h4⟩
  | none =>
    cases ho : s.opened with
    | nil =>
      right
      have hroot : s.hasRoot = false := by simp [State.hasRoot, hr, ho]
      have ha := h.afterRoot hroot
      simp only [closeAll, List.foldl_nil, Option.toList, ha, List.reverse_nil, List.append_nil]
      exact ⟨hroot, hpre, fun x hx => h.before x (List.mem_reverse.mp hx)⟩
    | cons f rest =>
      left
      have hg := closeAll_good Q cs (f :: rest) (by rw [← ho]; exact h.frames) none (by intro r e; cases e)
      have hsome := hg.2 (by simp)
      unfold closeAll
      cases hc : (f :: rest).foldl (fun acc f =>
          some (Node.elem f.name f.attrs (match acc with | some n => n :: f.kids | none => f.kids).reverse)) none with
      | none => rw [hc] at hsome; cases hsome
      | some r =>
        obtain ⟨n, as, ks, rfl, h1, h2, h3, h4⟩ := hg.1 r hc
        exact ⟨by simp [State.hasRoot, ho], s.docBefore.reverse, n, as, ks, s.docAfter.reverse, by simp [Option.toList],
          hpre, hpost, h2, h1, h3, hqb, hqa, h4⟩

end H5V.Lemmas.XmlShape
