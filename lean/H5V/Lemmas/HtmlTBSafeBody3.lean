import H5V.Lemmas.HtmlTBSafeBody2
/-!
# Tree-builder safety, InBody rules: the arms that change the insertion mode, enter `Text`, or
delegate; from `BK` to `StepPost`
-/
namespace H5V.Lemmas.TBSafe.IB
open H5V.Model.HtmlTB
open H5V.Model.Dom (Id QualName Attr NodeOrText SinkOp Output ElementFlags QuirksMode Dom NodeData Node)

variable {al : Allow}

/-- the situation of an `InBody` rule processing a tag token -/
structure Ctx (s : State) : Prop where
  ti : TI s
  bl : bodyLike s.mode = true
  nh : s.mode ≠ .inHead
  ntt : s.mode ≠ .inTableText

theorem preRoot_of_bodyLike {m : Mode} (h : bodyLike m = true) : preRoot m = false := by
  revert h; cases m <;> decide

theorem Ctx.hi {s : State} (c : Ctx s) : HInv s := c.ti.h
theorem Ctx.hr {s : State} (c : Ctx s) : Rooted s.dom s.openElems := c.ti.rooted (preRoot_of_bodyLike c.bl)

theorem Ctx.origOk {s : State} (c : Ctx s) : origOk s.mode = true := by
  have h1 := c.bl
  have h2 := c.ntt
  revert h1 h2
  cases s.mode <;> simp [bodyLike, preRoot, H5V.Lemmas.TBSafe.origOk]

theorem ti_of_bk {s s' : State} (ht : TI s) (hm : bodyLike s.mode = true) (hnh : s.mode ≠ .inHead)
    (b : BK s s') : TI s' :=
  ⟨b.b.hinv, by rw [b.b.mode]; exact ht.s.of_bstep ht.h b.b hm (Keeps.of_tdTh hnh b.k)⟩

theorem Ctx.of_bk {s s' : State} (c : Ctx s) (b : BK s s') : Ctx s' :=
  ⟨ti_of_bk c.ti c.bl c.nh b, by rw [b.b.mode]; exact c.bl, by rw [b.b.mode]; exact c.nh,
    by rw [b.b.mode]; exact c.ntt⟩

/-- a `BK` step followed by a continuation that needs the whole context -/
theorem ctx_step {α β : Type} {m : M α} {f : α → M β} {s : State} {Q : β → State → Prop} (c : Ctx s)
    (h : Sat m s (fun _ s1 => BK s s1)) (hf : ∀ a s1, Ctx s1 → Sat (f a) s1 Q) : Sat (m >>= f) s Q :=
  h.bind (fun a s1 hb => hf a s1 (c.of_bk hb))

theorem ctx_stepQ {α β : Type} {m : M α} {f : α → M β} {s : State} {P : α → Prop} {Q : β → State → Prop}
    (c : Ctx s) (h : Sat m s (fun a s1 => P a ∧ QF s s1)) (hf : ∀ a s1, P a → QF s s1 → Ctx s1 → Sat (f a) s1 Q) :
    Sat (m >>= f) s Q :=
  h.bind (fun a s1 hb => hf a s1 hb.1 hb.2 (c.of_bk (BK.of_qf c.hi c.hr hb.2)))

/-- the result of an arm that keeps the mode -/
theorem stepPost_of_bk {tok : Token} {res : ProcessResult} {s s' : State} (ht : TI s)
    (hm : bodyLike s.mode = true) (hnh : s.mode ≠ .inHead) (b : BK s s') (hp : PlainRes res)
    (hc : isCharsTok tok = true → res = .done) : StepPost tok res s' := by
  have hk := Keeps.of_tdTh (m := s.mode) hnh b.k
  rcases hp with rfl | rfl | rfl
  · exact StepPost.of_bstep ht hm b.b hk rfl trivial
  · exact StepPost.of_bstep ht hm b.b hk rfl trivial
  · refine StepPost.of_bstep ht hm b.b hk rfl ?_
    show isCharsTok tok = false
    cases h : isCharsTok tok with
    | false => rfl
    | true => cases hc h

/-- from an arm lemma to the statement of `BodySpec` (tag tokens) -/
theorem fin_tag {tag : Tag} {m : M ProcessResult} {s : State} (c : Ctx s)
    (h : Sat m s (fun r s' => PlainRes r ∧ BK s s')) :
    Sat m s (fun res s' => StepPost (.tag tag) res s' ∧ (isCharsTok (.tag tag) = true → res = .done)) :=
  h.mono (fun r s' h => ⟨stepPost_of_bk c.ti c.bl c.nh h.2 h.1 (fun hc => by cases hc), fun hc => by cases hc⟩)

theorem fin_post {tag : Tag} {m : M ProcessResult} {s : State} (h : Sat m s (StepPost (.tag tag))) :
    Sat m s (fun res s' => StepPost (.tag tag) res s' ∧ (isCharsTok (.tag tag) = true → res = .done)) :=
  h.mono (fun r s' h => ⟨h, fun hc => by cases hc⟩)

/-- a `BStep` followed by a switch to a mode without requirements on the stack -/
theorem sinv_to {m m' : Mode} {s s' : State} (hi : HInv s) (h : SInv m s) (hroot : preRoot m = false)
    (b : BStep s s') (hm : m ≠ .inTableText) (hs : ModeStack s'.dom m' s'.openElems)
    (hh : needsHead m' = false) (ht : m' ≠ .text) (htt : m' ≠ .inTableText) : SInv m' s' := by
  have h0 : SInv .inBody s :=
    h.chmode hm (fun _ => h.root hroot) trivial (fun h => absurd h (by decide)) (by decide) (by decide)
  have h1 : SInv .inBody s' := h0.of_bstep hi b rfl (fun x hx hp => by cases hp)
  exact h1.chmode (by decide) (fun _ => b.rooted) hs (fun h => by rw [hh] at h; cases h) ht htt

theorem Ctx.sinv_to {s s' : State} (c : Ctx s) (m' : Mode) (b : BStep s s')
    (hs : ModeStack s'.dom m' s'.openElems) (hh : needsHead m' = false) (ht : m' ≠ .text)
    (htt : m' ≠ .inTableText) : SInv m' s' :=
  IB.sinv_to c.hi c.ti.s (preRoot_of_bodyLike c.bl) b c.ntt hs hh ht htt

/-! ### `<frameset>`, `</body>`, `</html>`, `<table>` -/

theorem arm_frameset {tag : Tag} {s : State} (c : Ctx s) (hn : NewOk ⟨nsHtml, tag.name⟩) :
    Sat (do
      let _ ← unexpected
      if !(← getS).framesetOk then pure .done
      else
        match ← bodyElem with
        | none => pure .done
        | some body =>
          sinkUnit (.removeFromParent body)
          modS fun s => { s with openElems := s.openElems.take 1 }
          let _ ← insertElementFor tag
          setMode .inFrameset
          pure .done) s (StepPost (.tag tag)) := by
  have hdone : ∀ s1, Ctx s1 → Sat (pure ProcessResult.done : M ProcessResult) s1 (StepPost (.tag tag)) := by
    intro s1 c1
    refine sat_pure ?_
    exact stepPost_of_bk c1.ti c1.bl c1.nh (bk_refl c1.hi c1.hr) plain_done (fun h => by cases h)
  refine ctx_step c (bk_unexpected c.hi c.hr) ?_
  intro _ s1 c1
  refine sat_getS_bind ?_
  split
  · exact hdone s1 c1
  · refine ctx_step c1 ((sat_bodyElem c1.hi.open_el).mono (fun _ _ h => BK.of_qf c1.hi c1.hr h.1)) ?_
    intro r s2 c2
    cases r with
    | none => exact hdone s2 c2
    | some body =>
      dsimp only
      refine ctx_step c2 ((sat_sinkUnit_mut (op := SinkOp.removeFromParent body) trivial).mono (fun _ _ h => BK.of_qf c2.hi c2.hr h)) ?_
      intro _ s3 c3
      refine sat_modS_bind ?_
      obtain ⟨r, rest, hl, hnr⟩ := c3.hr
      have hb4 : BStep s3 { s3 with openElems := s3.openElems.take 1 } :=
        BStep.of_st (pre := [r]) (post := rest) c3.hi c3.hr (by rw [hl]; rfl) (by simp)
          ⟨(Fr.refl s3).withOpen _, by rw [hl]; rfl, rfl⟩
      refine (sat_insertElementFor (PlaceOk.of_hinv hb4.hinv hb4.rooted)).bind ?_
      intro _ s5 hins
      have hb5 := BStep.of_inserted hb4.hinv hb4.rooted hins hn
      refine sat_setMode.bind ?_
      rintro _ s6 rfl
      refine sat_pure ?_
      exact ⟨hb5.hinv.withMode _,
        (c3.sinv_to .inFrameset (hb4.trans hb5) trivial rfl (by decide) (by decide)).withMode _, trivial⟩

theorem arm_endBody {tag : Tag} {s : State} (c : Ctx s) :
    Sat (do
      if ← inScopeNamed defaultScope "body" then
        checkBodyEnd
        setMode .afterBody
      else parseError "</body> with no <body> in scope"
      pure .done) s (StepPost (.tag tag)) := by
  refine ctx_step c ((sat_inScopeNamed c.hi.open_el).mono (fun _ _ h => BK.of_qf c.hi c.hr h.2)) ?_
  intro b s1 c1
  split
  · refine ctx_step c1 ((sat_checkBodyEnd c1.hi.open_el).mono (fun _ _ h => BK.of_qf c1.hi c1.hr h)) ?_
    intro _ s2 c2
    refine sat_setMode.bind ?_
    rintro _ s3 rfl
    refine sat_pure ?_
    exact ⟨c2.hi.withMode _,
      (c2.sinv_to .afterBody (bk_refl c2.hi c2.hr).b trivial rfl (by decide) (by decide)).withMode _, trivial⟩
  · refine ctx_step c1 (bk_parseError c1.hi c1.hr) ?_
    intro _ s2 c2
    refine sat_pure ?_
    exact stepPost_of_bk c2.ti c2.bl c2.nh (bk_refl c2.hi c2.hr) plain_done (fun h => by cases h)

theorem arm_endHtml {tag : Tag} {s : State} (c : Ctx s) :
    Sat (do
      if ← inScopeNamed defaultScope "body" then
        checkBodyEnd
        pure (.reprocess .afterBody (.tag tag))
      else
        parseError "</html> with no <body> in scope"
        pure .done) s (StepPost (.tag tag)) := by
  refine ctx_step c ((sat_inScopeNamed c.hi.open_el).mono (fun _ _ h => BK.of_qf c.hi c.hr h.2)) ?_
  intro b s1 c1
  split
  · refine ctx_step c1 ((sat_checkBodyEnd c1.hi.open_el).mono (fun _ _ h => BK.of_qf c1.hi c1.hr h)) ?_
    intro _ s2 c2
    refine sat_pure ?_
    exact ⟨c2.hi, c2.sinv_to .afterBody (bk_refl c2.hi c2.hr).b trivial rfl (by decide) (by decide), rfl, by decide⟩
  · refine ctx_step c1 (bk_parseError c1.hi c1.hr) ?_
    intro _ s2 c2
    refine sat_pure ?_
    exact stepPost_of_bk c2.ti c2.bl c2.nh (bk_refl c2.hi c2.hr) plain_done (fun h => by cases h)

theorem arm_table {tag : Tag} {s : State} (c : Ctx s) (hn : NewOk ⟨nsHtml, tag.name⟩) :
    Sat (do
      if (← getS).quirksMode != .quirks then closePElementInButtonScope
      let _ ← insertElementFor tag
      setFramesetOk false
      setMode .inTable
      pure .done) s (StepPost (.tag tag)) := by
  have hfin : ∀ s1, Ctx s1 →
      Sat (do
        let _ ← insertElementFor tag
        setFramesetOk false
        setMode Mode.inTable
        pure ProcessResult.done) s1 (StepPost (.tag tag)) := by
    intro s1 c1
    refine ctx_step c1 (bk_insertFor c1.hi c1.hr hn) ?_
    intro _ s2 c2
    refine ctx_step c2 (bk_setFramesetOk c2.hi c2.hr) ?_
    intro _ s3 c3
    refine sat_setMode.bind ?_
    rintro _ s4 rfl
    refine sat_pure ?_
    exact ⟨c3.hi.withMode _,
      (c3.sinv_to .inTable (bk_refl c3.hi c3.hr).b trivial rfl (by decide) (by decide)).withMode _, trivial⟩
  refine sat_getS_bind ?_
  split
  · exact ctx_step c (bk_closeP c.hi c.hr) (fun _ s1 c1 => hfin s1 c1)
  · exact hfin s c

/-! ### the arms that switch to `Text` -/

theorem rawData_post {tag : Tag} {k : H5V.Model.HtmlTok.RawKind} {s : State} (c : Ctx s)
    (hn : NewOk ⟨nsHtml, tag.name⟩) : Sat (parseRawData tag k) s (StepPost (.tag tag)) := by
  refine (sat_parseRawData (PlaceOk.of_hinv c.hi c.hr)).mono ?_
  rintro res s' ⟨rfl, s1, r, hins, rfl⟩
  have hb := BStep.of_inserted c.hi c.hr hins hn
  have hs1 : SInv s.mode s1 := c.ti.s.of_bstep c.hi hb c.bl (Keeps.of_inserted hins)
  have ho : s1.openElems = s.openElems ++ [r] := by rw [hins.openElems]; rfl
  refine ⟨⟨hb.hinv.open_el, hb.hinv.open_tc, hb.hinv.af, hb.hinv.head, hb.hinv.form, hb.hinv.ctx⟩, ?_, rfl⟩
  show SInv .text _
  refine ⟨fun _ => hb.rooted, ?_, fun h => absurd h (by decide), hs1.headIn, ?_, (fun h => by cases h),
    fun _ => hs1.pending c.ntt, hs1.tmpl, hs1.tmodes⟩
  · show ∃ t, s1.openElems.getLast? = some t ∧ (nm s1.dom t).ns = nsHtml
    exact ⟨r, by rw [ho]; simp, by rw [hins.nm]⟩
  · intro _
    refine ⟨s1.mode, rfl, ?_, ?_, ?_, ?_⟩
    · rw [hins.fr.mode]; exact c.origOk
    · show 2 ≤ s1.openElems.length
      obtain ⟨r0, rest, hl, _⟩ := c.hr
      rw [ho, hl]; simp
    · show ModeStack s1.dom s1.mode s1.openElems.dropLast
      rw [ho, List.dropLast_concat, hins.fr.mode]
      exact c.ti.s.stack.ext hins.fr.ext c.hi.open_el
    · rw [hins.fr.mode]
      intro h
      show s1.headElem.isSome = true
      rw [hins.fr.headElem]; exact c.ti.s.head h

theorem arm_textarea {tag : Tag} {s : State} (c : Ctx s) (hn : NewOk ⟨nsHtml, tag.name⟩) :
    Sat (do
      modS fun s => { s with ignoreLf := true }
      setFramesetOk false
      parseRawData tag .rcdata) s (StepPost (.tag tag)) := by
  refine ctx_step c (sat_modS (bk_withIgnoreLf c.hi c.hr true)) ?_
  intro _ s1 c1
  refine ctx_step c1 (bk_setFramesetOk c1.hi c1.hr) ?_
  intro _ s2 c2
  exact rawData_post c2 hn

theorem arm_xmp {tag : Tag} {s : State} (c : Ctx s) (hn : NewOk ⟨nsHtml, tag.name⟩) :
    Sat (do
      closePElementInButtonScope
      reconstructActiveFormattingElements
      setFramesetOk false
      parseRawData tag .rawtext) s (StepPost (.tag tag)) := by
  refine ctx_step c (bk_closeP c.hi c.hr) ?_
  intro _ s1 c1
  refine ctx_step c1 (bk_reconstruct c1.hi c1.hr) ?_
  intro _ s2 c2
  refine ctx_step c2 (bk_setFramesetOk c2.hi c2.hr) ?_
  intro _ s3 c3
  exact rawData_post c3 hn

theorem arm_iframe {tag : Tag} {s : State} (c : Ctx s) (hn : NewOk ⟨nsHtml, tag.name⟩) :
    Sat (do
      setFramesetOk false
      parseRawData tag .rawtext) s (StepPost (.tag tag)) := by
  refine ctx_step c (bk_setFramesetOk c.hi c.hr) ?_
  intro _ s1 c1
  exact rawData_post c1 hn

/-- the catch-all start tag -/
theorem arm_otherStart {tag : Tag} {s : State} (c : Ctx s) (hn : NewOk ⟨nsHtml, tag.name⟩) :
    Sat (do
      if (← getS).opts.scriptingEnabled && isName tag.name "noscript" then parseRawData tag .rawtext
      else
        reconstructActiveFormattingElements
        let _ ← insertElementFor tag
        pure .done) s (fun res s' => StepPost (.tag tag) res s' ∧ (isCharsTok (.tag tag) = true → res = .done)) := by
  refine sat_getS_bind ?_
  split
  · exact fin_post (rawData_post c hn)
  · exact fin_tag c (arm_anyStart c.hi c.hr hn)

/-! ### the catch-all end tag -/

theorem modeNeed_false {m : Mode} {n : EName} (h1 : m ≠ .inHead) (h2 : m ≠ .inCell) : modeNeed m n = false := by
  cases m <;> first | rfl | exact absurd rfl h1 | exact absurd rfl h2

theorem arm_otherEnd {tag : Tag} {s : State} (het : EndTagSpec) (c : Ctx s) (hname : tag.name ≠ "html".toList)
    (hcell : s.mode = .inCell → isOneOf tag.name ["td", "th"] = false) :
    Sat (do
      processEndTagInBody tag
      pure .done) s (StepPost (.tag tag)) := by
  refine (het tag s c.hi c.hr hname).bind ?_
  rintro _ s1 ⟨pre, post, heq, st, hne, hp⟩
  refine sat_pure ?_
  have hb : BStep s s1 := BStep.of_st c.hi c.hr heq hne st
  refine StepPost.of_bstep c.ti c.bl hb ?_ rfl trivial
  by_cases hm : s.mode = .inCell
  · refine Keeps.of_tdTh c.nh (Keeps.of_pops heq st.openElems ?_)
    intro y hy
    rcases hp y hy with h | h
    · exact popOk_tdTh (popOk_of_not_special h)
    · rw [namedP_nm h]
      unfold tdTh htmlIn
      rw [hcell hm]; simp
  · intro x hx hP
    rw [modeNeed_false c.nh hm] at hP
    cases hP

end H5V.Lemmas.TBSafe.IB
