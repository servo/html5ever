import H5V.Lemmas.HtmlParseSpecAgree
import H5V.Lemmas.HtmlParseSpecNoEsc
/-!
**`agrees_of_stream`** — for a document parse whose delivered token stream is protocol-abiding
and on which the model and `Spec.TreeModes` run in lock-step (`StreamData`), the policy `polOfTree (treeOfSpec c)`
of the specification's coupling agrees with the tree-builder model on every history the joint run passes through
while it can still consult the sink (`Before Hf`: the histories followed by at least one more token).
-/
namespace H5V.Lemmas.ParseSpec
open H5V.Model.HtmlTB
open H5V.Model.Dom (Id SinkOp Output Dom QualName Attr NodeOrText ElementFlags NodeData QuirksMode)
open H5V.Lemmas.HtmlTBAlgo
open H5V.Lemmas.HtmlTBModes
open H5V.Lemmas.TBSafe (TI HInv SInv)
open H5V.Props.C04TB (docStart)
open H5V.Spec.TreeModes (STok ETok IMode Config Out TokSwitch XOp Op Step Edition)
open H5V.Model.HtmlTB.Joint (JState absorb polOf conv convTag toSinkRes)
open H5V.Lemmas.JointChunk
open H5V.Lemmas.HtmlTokSpec (flat flatTok PolTree)
open H5V.Spec.HtmlTokenizer (Emit Tree Switch)
open H5V.Spec.Parse (Cfg treeOfSpec stateAfter treeTok treeTag lastSwitch acnForeign)

/-- the joint state of a document parse before the first token -/
def j0Of (opts : Opts) : JState := { tb := docStart opts }

/-- the histories after which at least one more token is delivered -/
def Before (Hf : TOut) (X : TOut) : Prop := ∃ Y, Hf = Y ++ X ∧ convAll Y.reverse ≠ []

/-- what is known about the token stream of a finished document parse: `Hf` everything the tokenizer delivered
(newest first), `j3` the joint state after it, `x'` the specification's auxiliary state at the end -/
structure StreamData (opts : Opts) (c : Cfg) (Hf : TOut) (j3 : JState) (x' : Aux) : Prop where
  tree : c.tree = cfgOf (docStart opts)
  hist : absorb Hf.reverse (j0Of opts) = .ok j3
  lock : Lock (cfgOf (docStart opts)) c.fuel (docStart opts) { supply := c.supply } (convAll Hf.reverse) j3.tb x'
  resp : Respects2 (docStart opts) (convAll Hf.reverse)
  single : SingleChars Hf

theorem good_docStart (opts : Opts) : H5V.Props.C03.GoodS (docStart opts) :=
  ⟨(fun e he => by cases he), (fun p hp => by cases hp)⟩

/-- the start of a document parse satisfies the invariant of the specification's run -/
theorem xinv_docStart (opts : Opts) : XInv (docStart opts) := by
  intro x hx _
  refine H5V.Lemmas.ModesInv.Good.plain' (m := .initial) (by show imode (docStart opts).mode = _; rfl) (by decide) ?_ ?_
  · intro n t hm; cases hm
  · intro m hm; cases hm

theorem mem_convAll {l : List (TTok × Nat)} {p : TTok × Nat} (hp : p ∈ l) {tt : TokToken} (hc : conv p.1 = some tt) :
    (tt, p.2) ∈ convAll l := by
  unfold convAll
  rw [List.mem_filterMap]
  exact ⟨p, hp, by rw [hc]; rfl⟩

/-- the answers collected by the joint driver only grow -/
theorem absorb_results : ∀ (toks : List (TTok × Nat)) (j j' : JState), absorb toks j = .ok j' →
    ∀ r ∈ j.results, r ∈ j'.results
  | [], j, j', h => by cases h; exact fun _ hr => hr
  | (t, line) :: rest, j, j', h => by
    rw [absorb_cons] at h
    cases hc : conv t with
    | none => rw [hc] at h; exact absorb_results rest j j' h
    | some tt =>
      rw [hc] at h
      simp only at h
      cases hp : (processToken tt line).run j.tb with
      | error e => rw [hp] at h; cases h
      | ok v =>
        obtain ⟨r, tb⟩ := v
        rw [hp] at h
        simp only at h
        by_cases hcnd : (!isTagT tt && r != .continue_) = true
        · rw [if_pos hcnd] at h; cases h
        · rw [if_neg hcnd] at h
          intro r' hr'
          refine absorb_results rest _ j' h r' ?_
          show r' ∈ (if r == .continue_ then j.results else r :: j.results)
          split
          · exact hr'
          · exact List.mem_cons_of_mem _ hr'

/-- delivering one tag token -/
theorem absorb_tag {tag : H5V.Model.HtmlTok.Tag} {l : Nat} {j j' : JState}
    (h : absorb [(H5V.Model.HtmlTok.Token.tag tag, l)] j = .ok j') :
    ∃ r, (processToken (.tag (convTag tag)) l).run j.tb = .ok (r, j'.tb) ∧ (r ≠ .continue_ → r ∈ j'.results) := by
  rw [absorb_cons] at h
  simp only [conv] at h
  cases hp : (processToken (.tag (convTag tag)) l).run j.tb with
  | error e => rw [hp] at h; cases h
  | ok v =>
    obtain ⟨r, tb⟩ := v
    rw [hp] at h
    simp only [isTagT, Bool.not_true, Bool.false_and, Bool.false_eq_true, if_false] at h
    have h' : Except.ok _ = Except.ok j' := h
    cases h'
    refine ⟨r, rfl, fun hr => ?_⟩
    show r ∈ (if r == .continue_ then j.results else r :: j.results)
    have : (r == SinkResult.continue_) = false := by simpa using hr
    rw [this]
    simp

section
variable {opts : Opts} {c : Cfg} {Hf : TOut} {j3 : JState} {x' : Aux}

/-- the two sides after a history that is followed by at least one more token -/
theorem StreamData.pre (hq : opts.quirksMode = .noQuirks) (d : StreamData opts c Hf j3 x') {X Y : TOut}
    (hXY : Hf = Y ++ X) (hY : convAll Y.reverse ≠ []) {jx : JState} (hjx : absorb X.reverse (j0Of opts) = .ok jx) :
    ∃ xp, Lock (cfgOf (docStart opts)) c.fuel (docStart opts) { supply := c.supply } (convAll X.reverse) jx.tb xp ∧
      AuxOk jx.tb xp ∧ MInv jx.tb ∧ TI jx.tb ∧ H5V.Props.C03.GoodS jx.tb ∧ cfgOf jx.tb = cfgOf (docStart opts) ∧
      stateAfter c (flat X) = .ok (absF jx.tb xp) := by
  have hts : convAll Hf.reverse = convAll X.reverse ++ convAll Y.reverse := by
    rw [hXY, List.reverse_append, convAll_append]
  have hl := d.lock
  rw [hts] at hl
  obtain ⟨sp, xp, h1, h2⟩ := Lock.split hl
  have hmod := absorb_model _ _ _ hjx
  have hsp : jx.tb = sp := h1.det hmod
  subst hsp
  have hresp : Respects2 (docStart opts) (convAll X.reverse ++ convAll Y.reverse) := by rw [← hts]; exact d.resp
  have hne := h1.noEof hY hresp
  have hneX : NoEof X := by
    intro p hp he
    have hm : (TokToken.eof, p.2) ∈ convAll X.reverse :=
      mem_convAll (l := X.reverse) (p := p) (by simpa using hp) (by rw [he]; rfl)
    exact hne _ hm rfl
  have hsX : SingleChars X := fun p hp => d.single p (by rw [hXY]; simp [hp])
  obtain ⟨a1, a2, a3, _⟩ := h1.inv (H5V.Props.C04TB.C04_tb_inv_new opts) (H5V.Props.C02.minv_docStart opts)
  refine ⟨xp, h1, h1.aux (H5V.Props.C02.auxOk_docStart opts _) hne, a2, a1, h1.good (good_docStart opts), a3, ?_⟩
  unfold stateAfter
  rw [← specToks_convAll X hsX hneX, d.tree]
  have := (h1.runStd (xinv_docStart opts _ (H5V.Props.C02.auxOk_docStart opts _))).1
  rw [H5V.Props.C02.absF_docStart opts hq] at this
  exact this

theorem StreamData.agC (hq : opts.quirksMode = .noQuirks) (d : StreamData opts c Hf j3 x') {X : TOut}
    (hP : Before Hf X) : AgC (polOfTree (treeOfSpec c)) (j0Of opts) X := by
  intro jx hjx
  obtain ⟨Y, hXY, hY⟩ := hP
  obtain ⟨xp, _, haux, hminv, _, _, hcfg, hst⟩ := d.pre hq hXY hY hjx
  show (match stateAfter c (flat X) with | .ok s => acnForeign c.tree s | .error _ => false) = tbCdata jx
  rw [hst]
  obtain ⟨s1, hs1⟩ := acn_bridge hminv xp haux
  unfold tbCdata
  rw [hs1, d.tree, hcfg]

theorem tbTag_of_run {jx : JState} {tag : H5V.Model.HtmlTok.Tag} {l : Nat} {r : SinkResult} {s1 : State}
    (hg : H5V.Props.C03.GoodS jx.tb) (h : (processToken (.tag (convTag tag)) l).run jx.tb = .ok (r, s1)) :
    tbTag jx tag = toSinkRes r := by
  have hsim := H5V.Props.C03.C03_tb_sim_step (.tag (convTag tag)) l 1 jx.tb jx.tb hg.sim
  have h' : processToken (.tag (convTag tag)) l jx.tb = .ok (r, s1) := h
  rw [h'] at hsim
  unfold tbTag
  cases h1 : (processToken (.tag (convTag tag)) 1).run jx.tb with
  | error e =>
    have h1' : processToken (.tag (convTag tag)) 1 jx.tb = .error e := h1
    rw [h1'] at hsim
    exact hsim.elim
  | ok v =>
    obtain ⟨r', t'⟩ := v
    have h1' : processToken (.tag (convTag tag)) 1 jx.tb = .ok (r', t') := h1
    rw [h1'] at hsim
    obtain ⟨e, _, _⟩ := hsim
    subst e
    rfl

theorem answer_eq {r : SinkResult} {o : Out Id} (hrel : OutRelR r {} o)
    (hesc : ∀ e, r ≠ SinkResult.rawData (.scriptDataEscaped e)) :
    sinkResOf (H5V.Spec.Parse.switchOf o.switch) = np (toSinkRes r) := by
  cases r with
  | continue_ =>
    obtain ⟨h1, _⟩ := hrel
    rw [h1]; rfl
  | script n =>
    obtain ⟨_, h1⟩ := hrel
    rw [h1]; rfl
  | plaintext =>
    obtain ⟨h1, _⟩ := hrel
    rw [h1]; rfl
  | rawData k =>
    obtain ⟨h1, _⟩ := hrel
    rw [h1]
    cases k with
    | rcdata => rfl
    | rawtext => rfl
    | scriptData => rfl
    | scriptDataEscaped e => exact absurd rfl (hesc e)
  | encodingIndicator e =>
    obtain ⟨h1, _⟩ := hrel
    rw [h1]; rfl

theorem StreamData.agT (hq : opts.quirksMode = .noQuirks) (d : StreamData opts c Hf j3 x') {X : TOut}
    {tag : H5V.Model.HtmlTok.Tag} {l : Nat} (hP : Before Hf ((H5V.Model.HtmlTok.Token.tag tag, l) :: X)) :
    AgT (polOfTree (treeOfSpec c)) (j0Of opts) X tag := by
  intro jx hjx
  obtain ⟨Y, hXY, hY⟩ := hP
  -- the joint state after the tag
  have hh := d.hist
  rw [hXY, List.reverse_append, List.reverse_cons] at hh
  obtain ⟨jx', hjx', hrest⟩ := absorb_append_ok hh
  obtain ⟨jx0, hjx0, htag⟩ := absorb_append_ok hjx'
  rw [hjx] at hjx0
  cases hjx0
  obtain ⟨r, hrun, hres⟩ := absorb_tag htag
  -- the state before the tag
  have hXY0 : Hf = (Y ++ [(H5V.Model.HtmlTok.Token.tag tag, l)]) ++ X := by rw [hXY]; simp
  have hY0 : convAll (Y ++ [(H5V.Model.HtmlTok.Token.tag tag, l)]).reverse ≠ [] := by
    rw [List.reverse_append, convAll_append]
    simp [convAll, conv]
  obtain ⟨xp0, hl0, _, _, _, hgood, _, _⟩ := d.pre hq hXY0 hY0 hjx
  -- the state after the tag
  have hjx'' : absorb ((H5V.Model.HtmlTok.Token.tag tag, l) :: X).reverse (j0Of opts) = .ok jx' := by
    rw [List.reverse_cons]; exact hjx'
  obtain ⟨xp, hl, _, _, _, _, _, hst⟩ := d.pre hq hXY hY hjx''
  have hcv : convAll ((H5V.Model.HtmlTok.Token.tag tag, l) :: X).reverse =
      convAll X.reverse ++ [(TokToken.tag (convTag tag), l)] := by
    rw [List.reverse_cons, convAll_append]; rfl
  rw [hcv] at hl
  obtain ⟨sp0, xq, r0, hlq, hs⟩ := Lock.last hl
  have hsp0 : jx.tb = sp0 := hlq.det (absorb_model _ _ _ hjx)
  subst hsp0
  have hr0 : r0 = r := by
    have := hs.run
    rw [hrun] at this
    cases this; rfl
  subst hr0
  rcases hs.spec with ⟨h0, _⟩ | ⟨st, o, _, ho, hrel, _⟩
  · simp [specTokOf] at h0
  · show sinkResOf (match stateAfter c (Emit.tag tag :: flat X) with | .ok s => lastSwitch s | .error _ => Switch.none)
        = np (tbTag jx tag)
    have hfl : flat ((H5V.Model.HtmlTok.Token.tag tag, l) :: X) = Emit.tag tag :: flat X := rfl
    rw [hfl] at hst
    rw [hst, tbTag_of_run hgood hrun]
    have hlast : lastSwitch (absF jx'.tb xp) = H5V.Spec.Parse.switchOf o.switch := by
      unfold lastSwitch
      show (match xp.outs.getLast? with | some o => H5V.Spec.Parse.switchOf o.switch | none => Switch.none) = _
      rw [ho]
      simp
    simp only [hlast]
    refine answer_eq hrel (fun e he => ?_)
    rw [he] at hrun
    have := processToken_rawKind _ _ _ _ _ hrun
    simp at this

/-- **the bridge**: the policy of the specification's coupling agrees with the tree-builder model on every
history the joint run passes through while it can still consult the sink -/
theorem agrees_of_stream (hq : opts.quirksMode = .noQuirks) (d : StreamData opts c Hf j3 x') :
    Agrees (polOfTree (treeOfSpec c)) (j0Of opts) (Before Hf) where
  suf := by
    rintro Z X ⟨Y, hY, hne⟩
    refine ⟨Y ++ Z, by rw [hY, List.append_assoc], ?_⟩
    rw [List.reverse_append, convAll_append]
    intro h
    exact hne (List.append_eq_nil_iff.mp h).2
  tag := fun X tag l hP => d.agT hq hP
  cdata := fun X hP => d.agC hq hP

end

end H5V.Lemmas.ParseSpec
