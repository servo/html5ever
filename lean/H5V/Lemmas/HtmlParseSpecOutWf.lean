import H5V.Lemmas.HtmlTokOptE
import H5V.Lemmas.HtmlTokOut
import H5V.Lemmas.HtmlJointChunkTok
/-!
Well-formedness of the OUTPUT of the HTML tokenizer model, for every sink policy and every input:

1. every tag token delivered has a tag name without ASCII upper-case letters and pairwise distinct attribute
   names;
2. no character token delivered contains U+0000;
3. the end-of-file token is delivered exactly once, as the very last token (`feed_finish_outWf`).

The proof is a traversal of the transition tables with the register invariant `WfM`:
the tag-name register has no `A`–`Z`, the attribute register has distinct names, the `temp_buf` register has no
U+0000 (also while it is the look-ahead stash of `eat`: a stash is a proper prefix of a keyword), and the log
is well-formed and EOF-free.
-/
namespace H5V.Lemmas.ParseSpec
open H5V.Model.HtmlTok

/-- a well-formed delivered token -/
def TokWfT : Token → Prop
  | .tag t => (∀ c ∈ t.name, ¬ ('A' ≤ c ∧ c ≤ 'Z')) ∧ (t.attrs.map (·.name)).Nodup
  | .chars x => '\x00' ∉ x
  | _ => True

/-- every token of the log is well-formed and there is no end-of-file token in it -/
def OutWf (out : Out) : Prop := ∀ p ∈ out, TokWfT p.1 ∧ p.1 ≠ .eof

/-- not an ASCII upper-case letter -/
def NoUpC (c : Char) : Prop := ¬ ('A' ≤ c ∧ c ≤ 'Z')

instance (c : Char) : Decidable (NoUpC c) := by unfold NoUpC; infer_instance

/-- no ASCII upper-case letter -/
def NoUp (s : Str) : Prop := ∀ c ∈ s, ¬ ('A' ≤ c ∧ c ≤ 'Z')

/-- the register invariant -/
def WfM (m : Mach) : Prop :=
  NoUp m.tagName ∧ (m.tagAttrs.map (·.name)).Nodup ∧ '\x00' ∉ m.tempBuf ∧ OutWf m.out

/-! ### characters -/

theorem ow_char_le_iff (a b : Char) : a ≤ b ↔ a.toNat ≤ b.toNat := by
  rw [Char.le_def, UInt32.le_iff_toNat_le]; rfl

theorem ow_ofNat_toNat_small : ∀ n, n < 91 → (Char.ofNat (n + 32)).toNat = n + 32 := by decide

theorem noUpC_shift {c : Char} (h : 'A' ≤ c ∧ c ≤ 'Z') : NoUpC (Char.ofNat (c.toNat + 32)) := by
  unfold NoUpC
  simp only [ow_char_le_iff, Char.reduceToNat] at h ⊢
  rw [ow_ofNat_toNat_small _ (by omega)]
  omega

theorem shift_ne_zero {c : Char} (h : 'A' ≤ c ∧ c ≤ 'Z') : Char.ofNat (c.toNat + 32) ≠ '\x00' := by
  intro e
  have e2 := congrArg Char.toNat e
  simp only [ow_char_le_iff, Char.reduceToNat] at h e2
  rw [ow_ofNat_toNat_small _ (by omega)] at e2
  omega

theorem toAsciiLower_noUp (c : Char) : NoUpC (toAsciiLower c) := by
  unfold toAsciiLower
  split
  · rename_i h; exact noUpC_shift h
  · rename_i h; exact h

theorem lal_noUp {c cl : Char} (h : lowerAsciiLetter c = some cl) : NoUpC cl := by
  unfold lowerAsciiLetter at h
  split at h
  · rename_i h1
    simp only [Option.some.injEq] at h; subst h
    unfold NoUpC
    simp only [ow_char_le_iff, Char.reduceToNat] at h1 ⊢
    omega
  · split at h
    · rename_i h1
      simp only [Option.some.injEq] at h; subst h
      exact noUpC_shift h1
    · cases h

theorem lal_src_ne {c cl : Char} (h : lowerAsciiLetter c = some cl) : c ≠ '\x00' := by
  intro e; subst e
  have : lowerAsciiLetter '\x00' = none := by decide
  rw [this] at h; cases h

theorem lal_ne {c cl : Char} (h : lowerAsciiLetter c = some cl) : cl ≠ '\x00' := by
  unfold lowerAsciiLetter at h
  split at h
  · rename_i h1
    simp only [Option.some.injEq] at h; subst h
    intro e; subst e; revert h1; decide
  · split at h
    · rename_i h1
      simp only [Option.some.injEq] at h; subst h
      exact shift_ne_zero h1
    · cases h

/-! ### the log -/

theorem OutWf_nil : OutWf [] := by intro p hp; cases hp

theorem OutWf_cons {out : Out} (h : OutWf out) (t : Token) (l : Nat) (ht : TokWfT t) (hne : t ≠ .eof) :
    OutWf ((t, l) :: out) := by
  intro p hp
  rcases List.mem_cons.mp hp with rfl | hp
  · exact ⟨ht, hne⟩
  · exact h p hp

/-! ### helper lemmas: one per `go!` shorthand -/

theorem WfM_emit {m : Mach} (h : WfM m) (t : Token) (ht : TokWfT t) (hne : t ≠ .eof) : WfM (emit m t) :=
  ⟨h.1, h.2.1, h.2.2.1, OutWf_cons h.2.2.2 t m.line ht hne⟩

theorem WfM_emitErr {m : Mach} (h : WfM m) (s : String) : WfM (emitErr m s) :=
  WfM_emit h _ trivial (by intro e; cases e)
theorem WfM_emitErrL {m : Mach} (h : WfM m) (s : Str) : WfM (emit m (.error s)) :=
  WfM_emit h _ trivial (by intro e; cases e)
theorem WfM_emitPause {m : Mach} (h : WfM m) (b : Bool) : WfM (emit m (.pause b)) :=
  WfM_emit h _ trivial (by intro e; cases e)

theorem WfM_emitChar {m : Mach} (h : WfM m) (c : Char) : WfM (emitChar m c) := by
  unfold emitChar
  split
  · exact WfM_emit h _ trivial (by intro e; cases e)
  · rename_i hc
    refine WfM_emit h _ ?_ (by intro e; cases e)
    show '\x00' ∉ [c]
    intro hm
    rcases List.mem_cons.mp hm with e | e
    · exact hc e.symm
    · cases e

theorem WfM_emitChars {m : Mach} (h : WfM m) (b : Str) (hb : '\x00' ∉ b) : WfM (emitChars m b) :=
  WfM_emit h _ hb (by intro e; cases e)

theorem WfM_badChar {m : Mach} (h : WfM m) (o : Opts) : WfM (badChar o m) := by
  unfold badChar; split
  · exact WfM_emitErr h _
  · exact WfM_emitErrL h _

theorem WfM_badEof {m : Mach} (h : WfM m) (o : Opts) : WfM (badEof o m) := by
  unfold badEof; split <;> exact WfM_emitErr h _

theorem WfM_to {m : Mach} (h : WfM m) (s : State) : WfM (to s m) := h
theorem WfM_reconsumeTo {m : Mach} (h : WfM m) (s : State) : WfM (reconsumeTo s m) := h

theorem WfM_discardTag {m : Mach} (h : WfM m) : WfM (discardTag m) :=
  ⟨(by intro c hc; cases hc), List.nodup_nil, h.2.2.1, h.2.2.2⟩

theorem WfM_pushTag {m : Mach} (h : WfM m) (c : Char) (hc : NoUpC c) : WfM (pushTag c m) := by
  refine ⟨?_, h.2.1, h.2.2.1, h.2.2.2⟩
  intro x hx
  rcases List.mem_append.mp hx with hx | hx
  · exact h.1 x hx
  · rcases List.mem_cons.mp hx with rfl | hx
    · exact hc
    · cases hx

theorem WfM_createTag {m : Mach} (h : WfM m) (k : TagKind) (c : Char) (hc : NoUpC c) : WfM (createTag k c m) := by
  refine ⟨?_, List.nodup_nil, h.2.2.1, h.2.2.2⟩
  intro x hx
  rcases List.mem_cons.mp hx with rfl | hx
  · exact hc
  · cases hx

theorem WfM_pushTemp {m : Mach} (h : WfM m) (c : Char) (hc : c ≠ '\x00') : WfM (pushTemp c m) := by
  refine ⟨h.1, h.2.1, ?_, h.2.2.2⟩
  intro hx
  rcases List.mem_append.mp hx with hx | hx
  · exact h.2.2.1 hx
  · rcases List.mem_cons.mp hx with e | hx
    · exact hc e.symm
    · cases hx

theorem WfM_clearTemp {m : Mach} (h : WfM m) : WfM (clearTemp m) :=
  ⟨h.1, h.2.1, (by intro hx; cases hx), h.2.2.2⟩

theorem WfM_setTempBuf {m : Mach} (h : WfM m) (s : Str) (hs : '\x00' ∉ s) : WfM (m.setTempBuf s) :=
  ⟨h.1, h.2.1, hs, h.2.2.2⟩

theorem WfM_emitTempBuf {m : Mach} (h : WfM m) : WfM (emitTempBuf m) := by
  unfold emitTempBuf
  exact WfM_emitChars (m := { m with tempBuf := [] }) ⟨h.1, h.2.1, (by intro hx; cases hx), h.2.2.2⟩ _ h.2.2.1

theorem WfM_pushName {m : Mach} (h : WfM m) (c : Char) : WfM (pushName c m) := h
theorem WfM_pushValue {m : Mach} (h : WfM m) (c : Char) : WfM (pushValue c m) := h
theorem WfM_appendValue {m : Mach} (h : WfM m) (s : Str) : WfM (appendValue s m) := h
theorem WfM_pushComment {m : Mach} (h : WfM m) (c : Char) : WfM (pushComment c m) := h
theorem WfM_appendComment {m : Mach} (h : WfM m) (s : String) : WfM (appendComment s m) := h
theorem WfM_clearComment {m : Mach} (h : WfM m) : WfM (clearComment m) := h
theorem WfM_createDoctype {m : Mach} (h : WfM m) : WfM (createDoctype m) := h
theorem WfM_pushDoctypeName {m : Mach} (h : WfM m) (c : Char) : WfM (pushDoctypeName c m) := h
theorem WfM_pushDoctypeId {m : Mach} (h : WfM m) (k : DoctypeIdKind) (c : Char) : WfM (pushDoctypeId k c m) := by
  cases k <;> exact h
theorem WfM_clearDoctypeId {m : Mach} (h : WfM m) (k : DoctypeIdKind) : WfM (clearDoctypeId k m) := by
  cases k <;> exact h
theorem WfM_forceQuirks {m : Mach} (h : WfM m) : WfM (forceQuirks m) := h
theorem WfM_selfClosing {m : Mach} (h : WfM m) : WfM { m with tagSelfClosing := true } := h
theorem WfM_setIgnoreLf {m : Mach} (h : WfM m) (x : Bool) : WfM (m.setIgnoreLf x) := h
theorem WfM_setReconsume {m : Mach} (h : WfM m) (x : Bool) : WfM (m.setReconsume x) := h
theorem WfM_setCharRef {m : Mach} (h : WfM m) (x : Option CharRefSt) : WfM (m.setCharRef x) := h
theorem WfM_setAtEof {m : Mach} (h : WfM m) (x : Bool) : WfM (m.setAtEof x) := h
theorem WfM_setDiscardBom {m : Mach} (h : WfM m) (x : Bool) : WfM (m.setDiscardBom x) := h
theorem WfM_bumpLine {m : Mach} (h : WfM m) : WfM m.bumpLine := h
theorem WfM_setCurrentChar {m : Mach} (h : WfM m) (x : Char) : WfM (m.setCurrentChar x) := h

theorem WfM_emitComment {m : Mach} (h : WfM m) : WfM (emitComment m) := by
  unfold emitComment
  exact WfM_emit (m := { m with comment := [] }) h _ trivial (by intro e; cases e)

theorem WfM_emitDoctype {m : Mach} (h : WfM m) : WfM (emitDoctype m) := by
  unfold emitDoctype
  exact WfM_emit (m := { m with doctype := {} }) h _ trivial (by intro e; cases e)

theorem WfM_ite (c : Prop) [Decidable c] {a b : Mach} (ha : WfM a) (hb : WfM b) : WfM (if c then a else b) := by
  split <;> assumption

theorem WfM_finishAttribute {m : Mach} (h : WfM m) : WfM (finishAttribute m) := by
  obtain ⟨h1, h2, h3, h4⟩ := h
  unfold finishAttribute
  split
  · exact ⟨h1, h2, h3, h4⟩
  · dsimp only
    split
    · exact WfM_emitErr (m := { m with attrName := [] }) ⟨h1, h2, h3, h4⟩ _
    · rename_i hany
      refine ⟨h1, ?_, h3, h4⟩
      show ((m.tagAttrs ++ [Attr.mk m.attrName m.attrValue]).map Attr.name).Nodup
      rw [List.map_append, List.nodup_append]
      refine ⟨h2, List.nodup_cons.mpr ⟨(by intro hx; cases hx), List.nodup_nil⟩, ?_⟩
      intro a ha b hb e
      rcases List.mem_cons.mp hb with rfl | hb
      · apply hany
        rw [List.any_eq_true]
        obtain ⟨x, hx, rfl⟩ := List.mem_map.mp ha
        exact ⟨x, hx, by simpa using e⟩
      · cases hb

theorem WfM_createAttr {m : Mach} (h : WfM m) (c : Char) : WfM (createAttr c m) := by
  unfold createAttr
  exact WfM_finishAttribute h

theorem WfM_tagPrologue {m : Mach} (h : WfM m) : WfM (tagPrologue m) := by
  have h1 := WfM_finishAttribute h
  unfold tagPrologue
  dsimp only
  generalize finishAttribute m = x at h1
  split
  · exact h1
  · split
    · split
      · exact WfM_emitErr (WfM_emitErr h1 _) _
      · exact WfM_emitErr h1 _
    · split
      · exact WfM_emitErr h1 _
      · exact h1

theorem WfM_applySinkRes {m : Mach} (h : WfM m) (r : SinkRes) : WfM (applySinkRes m r).1 := by
  cases r with
  | continue_ => exact h
  | plaintext => exact h
  | script => exact WfM_emitPause (WfM_to h _) _
  | rawData k => exact h
  | indicator => exact WfM_emitPause h _

theorem WfM_emitCurrentTag {m : Mach} (h : WfM m) (pol : Pol) : WfM (emitCurrentTag pol m).1 := by
  have h1 := WfM_tagPrologue h
  unfold emitCurrentTag
  dsimp only
  generalize tagPrologue m = x at h1
  apply WfM_applySinkRes
  refine WfM_emit (m := takeTag x) ⟨(by intro c hc; cases hc), List.nodup_nil, h1.2.2.1, h1.2.2.2⟩ _ ?_
    (by intro e; cases e)
  exact ⟨h1.1, h1.2.1⟩

theorem WfM_emitTag {m : Mach} (h : WfM m) (pol : Pol) (s : State) : WfM (emitTag pol s m).1 :=
  WfM_emitCurrentTag (WfM_to h s) pol

theorem WfM_consumeCharRef {m : Mach} (h : WfM m) : WfM (consumeCharRef m).1 := by
  unfold consumeCharRef
  split
  · exact h
  · exact h

/-! ### the transition tables -/

/-- close a table arm by chaining the helper lemmas; the side goals are facts about the character pushed -/
macro "wf_chain" h:ident : tactic =>
  `(tactic| (repeat' (first
      | with_reducible exact $h
      | with_reducible apply WfM_to | with_reducible apply WfM_reconsumeTo | with_reducible apply WfM_discardTag
      | with_reducible apply WfM_createTag | with_reducible apply WfM_pushTag
      | with_reducible apply WfM_pushTemp | with_reducible apply WfM_clearTemp | with_reducible apply WfM_pushName
      | with_reducible apply WfM_pushValue | with_reducible apply WfM_appendValue
      | with_reducible apply WfM_pushComment | with_reducible apply WfM_appendComment
      | with_reducible apply WfM_clearComment | with_reducible apply WfM_createDoctype
      | with_reducible apply WfM_pushDoctypeName | with_reducible apply WfM_pushDoctypeId
      | with_reducible apply WfM_clearDoctypeId | with_reducible apply WfM_forceQuirks
      | with_reducible apply WfM_emitChar | with_reducible apply WfM_emitChars | with_reducible apply WfM_badChar
      | with_reducible apply WfM_badEof | with_reducible apply WfM_emitTempBuf
      | with_reducible apply WfM_emitComment | with_reducible apply WfM_emitDoctype
      | with_reducible apply WfM_createAttr | with_reducible apply WfM_finishAttribute
      | with_reducible apply WfM_emitTag | with_reducible apply WfM_consumeCharRef
      | with_reducible apply WfM_selfClosing | with_reducible apply WfM_ite
      | assumption
      | exact toAsciiLower_noUp _
      | (apply lal_noUp; assumption)
      | (apply lal_src_ne; assumption)
      | (apply lal_ne; assumption)
      | decide)))

/-- the `get_char!` table -/
theorem transChar_wf (o : Opts) (pol : Pol) {m : Mach} (h : WfM m) (c : Char) : WfM (transChar o pol m c).1 := by
  unfold transChar
  split <;> (repeat' split) <;> (try dsimp only) <;> wf_chain h

/-- a read result of `pop_except_from`: a run contains no U+0000 -/
def SetResOk : SetRes → Prop
  | .fromSet _ => True
  | .notFromSet b => '\x00' ∉ b

/-- the `pop_except_from` table -/
theorem transSet_wf (o : Opts) (pol : Pol) {m : Mach} (h : WfM m) (r : SetRes) (hr : SetResOk r) :
    WfM (transSet o pol m r).1 := by
  unfold transSet
  split <;> (repeat' split) <;> (try dsimp only) <;> wf_chain h

/-! ### the reader -/

theorem WfM_discardChar {m : Mach} (h : WfM m) (inp : Str) : WfM (discardChar m inp).1 := by
  unfold discardChar; split <;> exact h

/-- the chain with the setters of the reader -/
macro "wf_rd" h:ident : tactic =>
  `(tactic| (repeat' (first
      | with_reducible exact $h
      | with_reducible apply WfM_setCurrentChar | with_reducible apply WfM_setIgnoreLf
      | with_reducible apply WfM_setReconsume | with_reducible apply WfM_setCharRef
      | with_reducible apply WfM_setAtEof | with_reducible apply WfM_setDiscardBom
      | with_reducible apply WfM_bumpLine | with_reducible apply WfM_emitErrL | with_reducible apply WfM_emitErr
      | with_reducible apply WfM_discardChar | with_reducible apply WfM_to
      | with_reducible apply WfM_clearComment | with_reducible apply WfM_clearTemp
      | with_reducible apply WfM_badChar)))

theorem foldChar_wf (o : Opts) {m : Mach} (h : WfM m) (c : Char) : WfM (foldChar o m c).2 := by
  unfold foldChar
  dsimp only
  split <;> split <;> split <;> wf_rd h

theorem preprocess_wf (o : Opts) {m : Mach} (h : WfM m) (c : Char) (inp : Str) :
    WfM (preprocess o m c inp).2.1 := by
  unfold preprocess
  split
  · split
    · cases inp with
      | nil => exact h
      | cons y ys => exact foldChar_wf o (WfM_setIgnoreLf h false) y
    · exact foldChar_wf o (WfM_setIgnoreLf h false) c
  · exact foldChar_wf o h c

theorem getChar_wf (o : Opts) {m : Mach} (h : WfM m) (inp : Str) : WfM (getChar o m inp).2.1 := by
  unfold getChar
  split
  · exact h
  · cases inp with
    | nil => exact h
    | cons c rest => exact preprocess_wf o h c rest

/-- an optional read result of `pop_except_from` -/
def OptSetOk : Option SetRes → Prop
  | none => True
  | some r => SetResOk r

theorem OptSetOk_map (x : Option Char) : OptSetOk (x.map .fromSet) := by
  cases x <;> trivial

theorem single_notin {c : Char} {S : List Char} (hS : S.contains '\x00' = true) (hc : ¬ S.contains c = true) :
    '\x00' ∉ [c] := by
  intro hm
  rcases List.mem_cons.mp hm with e | e
  · subst e; exact hc hS
  · cases e

theorem popExceptFrom_wf (o : Opts) (S : List Char) (hS : S.contains '\x00' = true) {m : Mach} (h : WfM m)
    (inp : Str) : WfM (popExceptFrom o S m inp).2.1 ∧ OptSetOk (popExceptFrom o S m inp).1 := by
  unfold popExceptFrom
  split
  · exact ⟨getChar_wf o h inp, OptSetOk_map _⟩
  · cases inp with
    | nil => exact ⟨h, trivial⟩
    | cons c rest =>
      dsimp only
      split
      · exact ⟨preprocess_wf o h c rest, OptSetOk_map _⟩
      · rename_i hc
        exact ⟨h, single_notin hS hc⟩

theorem readData_wf (o : Opts) {m : Mach} (h : WfM m) (inp : Str) :
    WfM (readData o m inp).2.1 ∧ OptSetOk (readData o m inp).1 := by
  unfold readData
  split
  · exact popExceptFrom_wf o _ (by decide) h inp
  · cases inp with
    | nil => exact ⟨h, trivial⟩
    | cons c rest =>
      dsimp only
      split
      · exact popExceptFrom_wf o _ (by decide) h (c :: rest)
      · rename_i hc
        refine ⟨?_, single_notin (S := simdFirst) (by decide) hc⟩
        split <;> exact h

theorem eatSkipLf_wf {m : Mach} (h : WfM m) (inp : Str) : WfM (eatSkipLf m inp).1 := by
  unfold eatSkipLf discardChar
  repeat' split
  all_goals exact h

theorem eatCmp_none_mem (eq : Char → Char → Bool) : ∀ (s pat : Str), eatCmp eq s pat = none →
    ∀ c ∈ s, ∃ p ∈ pat, eq c p = true := by
  intro s
  induction s with
  | nil => intro pat _ c hc; cases hc
  | cons x xs ih =>
    intro pat h c hc
    cases pat with
    | nil => simp [eatCmp] at h
    | cons p ps =>
      simp only [eatCmp] at h
      split at h
      · rename_i hxp
        rcases List.mem_cons.mp hc with rfl | hc
        · exact ⟨p, List.mem_cons_self, hxp⟩
        · obtain ⟨q, hq, hq2⟩ := ih ps h c hc
          exact ⟨q, List.mem_cons_of_mem _ hq, hq2⟩
      · cases h

/-- `eat` with a keyword no character of which matches U+0000: the look-ahead stash is U+0000-free -/
theorem eat_wf {m : Mach} (h : WfM m) (inp pat : Str) (eq : Char → Char → Bool)
    (hp : ∀ p ∈ pat, eq '\x00' p = false) : WfM (eat m inp pat eq).2.1 := by
  rw [eat_eq_core]
  have hs := eatSkipLf_wf h inp
  generalize (eatSkipLf m inp).2 = i1
  generalize (eatSkipLf m inp).1 = m1 at hs
  unfold eatCore
  split
  · exact WfM_setTempBuf hs [] (by intro hx; cases hx)
  · exact WfM_setTempBuf hs [] (by intro hx; cases hx)
  · rename_i hnone
    split
    · exact WfM_setTempBuf hs [] (by intro hx; cases hx)
    · refine WfM_setTempBuf hs _ ?_
      intro hm
      obtain ⟨p, hp1, hp2⟩ := eatCmp_none_mem eq _ _ hnone _ hm
      rw [hp p hp1] at hp2
      cases hp2

/-! ### step results -/

/-- the machine of a step result is well-formed -/
def RWf : R → Prop
  | .cont m _ => WfM m
  | .suspend m _ => WfM m
  | .script m _ => WfM m
  | .indicator m _ => WfM m
  | .panic _ => True

theorem RWf_ofSig {x : Mach × Sig} (h : WfM x.1) (i : Str) : RWf (ofSig x i) := by
  obtain ⟨a, b⟩ := x
  cases b <;> first | exact h | trivial

theorem contChar_wf (o : Opts) (pol : Pol) (r : Option Char × Mach × Str) (h : WfM r.2.1) :
    RWf (contChar o pol r) := by
  obtain ⟨c, m1, i1⟩ := r
  cases c with
  | none => exact h
  | some c => exact RWf_ofSig (transChar_wf o pol h c) i1

theorem contSet_wf (o : Opts) (pol : Pol) (r : Option SetRes × Mach × Str) (h : WfM r.2.1) (hr : OptSetOk r.1) :
    RWf (contSet o pol r) := by
  obtain ⟨c, m1, i1⟩ := r
  cases c with
  | none => exact h
  | some c => exact RWf_ofSig (transSet_wf o pol h c hr) i1

/-! ### the character-reference sub-tokenizer -/

/-- the machine of a char-ref step result is well-formed -/
def CRWf : CRRes → Prop
  | .ok v => WfM v.1
  | .error _ => True

theorem CRWf_ok {m : Mach} (h : WfM m) (i : Str) (c : CharRefSt) (s : CRStatus) : CRWf (.ok (m, i, c, s)) := h

theorem WfM_numericErr {m : Mach} (h : WfM m) (o : Opts) (n : Nat) : WfM (numericErr o m n) := by
  unfold numericErr; split
  · exact WfM_emitErrL h _
  · exact WfM_emitErr h _

theorem WfM_nameErr {m : Mach} (h : WfM m) (o : Opts) (nb : Str) : WfM (nameErr o m nb) := by
  unfold nameErr; split
  · exact WfM_emitErrL h _
  · exact WfM_emitErr h _

theorem finishNumericStatus_wf (o : Opts) {m : Mach} (h : WfM m) (inp : Str) (cr : CharRefSt) :
    CRWf (finishNumericStatus o m inp cr) := by
  unfold finishNumericStatus finishNumeric
  dsimp only
  generalize numericValue cr = v
  obtain ⟨v1, v2⟩ := v
  cases v1 <;> cases v2 <;> first | trivial | exact WfM_numericErr h _ _ | exact h

theorem namedDecision_wf {m : Mach} (hm : WfM m) (cr : CharRefSt) (nb : Str) (c1 c2 : Nat) (m1 : Mach) (chars : Str)
    (h : namedDecision m cr nb c1 c2 = .ok (some (m1, chars))) : WfM m1 := by
  rcases (namedDecision_inv h).1 with rfl | rfl
  · exact WfM_setIgnoreLf hm false
  · exact WfM_setIgnoreLf (WfM_emitErr hm _) false

theorem finishNamed_wf (o : Opts) {m : Mach} (h : WfM m) (inp : Str) (cr : CharRefSt) (e : Option Char) :
    CRWf (finishNamed o m inp cr e) := by
  unfold finishNamed
  split
  · trivial
  · split
    · dsimp only
      (repeat' split) <;> first | exact h | exact WfM_nameErr h _ _
    · split
      · trivial
      · exact h
      · rename_i hnd
        exact namedDecision_wf h _ _ _ _ _ _ hnd

theorem crStep_wf (o : Opts) {m : Mach} (h : WfM m) (inp : Str) (cr : CharRefSt) : CRWf (crStep o m inp cr) := by
  unfold crStep unconsumeNumeric
  dsimp only
  split
  · exact h
  · split <;> (repeat' split) <;>
      first
      | trivial
      | exact h
      | exact WfM_discardChar h _
      | exact WfM_emitErr h _
      | exact finishNumericStatus_wf o (WfM_discardChar h _) _ _
      | exact finishNumericStatus_wf o (WfM_emitErr h _) _ _
      | exact finishNamed_wf o (WfM_discardChar h _) _ _ _
      | exact WfM_nameErr (WfM_discardChar h _) _ _

theorem foldl_emitChar_wf (cs : Str) : ∀ {m : Mach}, WfM m → WfM (cs.foldl emitChar m) := by
  induction cs with
  | nil => intro m h; exact h
  | cons c cs ih => intro m h; exact ih (WfM_emitChar h c)

theorem foldl_pushValue_wf (cs : Str) : ∀ {m : Mach}, WfM m → WfM (cs.foldl (fun m c => pushValue c m) m) := by
  induction cs with
  | nil => intro m h; exact h
  | cons c cs ih => intro m h; exact ih (WfM_pushValue h c)

theorem processCharRef_wf {m : Mach} (h : WfM m) (chars : Str) : WfM (processCharRef m chars).1 := by
  unfold processCharRef
  dsimp only
  split
  · exact foldl_emitChar_wf _ h
  · exact foldl_emitChar_wf _ h
  · exact foldl_pushValue_wf _ h
  · exact h

theorem stepCharRef_wf (o : Opts) {m : Mach} (h : WfM m) (inp : Str) (cr : CharRefSt) :
    RWf (stepCharRef o m inp cr) := by
  unfold stepCharRef
  have h1 := crStep_wf o h inp cr
  generalize crStep o m inp cr = r at h1
  cases r with
  | error e => trivial
  | ok v =>
    obtain ⟨m1, i1, c1, s1⟩ := v
    cases s1 with
    | stuck => exact h1
    | progress => exact h1
    | done chars =>
      dsimp only
      exact RWf_ofSig (x := ((processCharRef m1 chars).1.setCharRef none, _))
        (WfM_setCharRef (processCharRef_wf h1 chars) none) i1

/-! ### `peek`/`discard_char` and `eat` states -/

theorem stepBav_wf (o : Opts) (pol : Pol) {m : Mach} (h : WfM m) (inp : Str) : RWf (stepBav o pol m inp) := by
  unfold stepBav
  cases peek m inp with
  | none => exact h
  | some c =>
    dsimp only
    have hm : WfM (if m.ignoreLf = true then m.setIgnoreLf false else m) := by
      split <;> exact h
    generalize (if m.ignoreLf = true then m.setIgnoreLf false else m) = m' at hm
    split
    · exact WfM_discardChar hm inp
    · split
      · have hg := getChar_wf o hm inp
        generalize getChar o m' inp = r at hg
        obtain ⟨c1, m1, i1⟩ := r
        cases c1 <;> exact hg
      · repeat' split
        all_goals
          first
          | exact WfM_discardChar hm inp
          | exact WfM_to (WfM_discardChar hm inp) _
          | exact WfM_to hm _
          | exact RWf_ofSig (WfM_emitTag (WfM_badChar (WfM_discardChar hm inp) o) pol _) _

theorem stepMdo_wf (o : Opts) (pol : Pol) {m : Mach} (h : WfM m) (inp : Str) : RWf (stepMdo o pol m inp) := by
  unfold stepMdo
  have e1 := eat_wf h inp kwDashDash eqExact (by decide)
  generalize eat m inp kwDashDash eqExact = r1 at e1
  obtain ⟨x1, m1, i1⟩ := r1
  cases x1 with
  | none => exact e1
  | some t1 =>
    cases t1 with
    | true => exact e1
    | false =>
      dsimp only
      have e2 := eat_wf e1 i1 kwDoctype eqCi (by decide)
      generalize eat m1 i1 kwDoctype eqCi = r2 at e2
      obtain ⟨x2, m2, i2⟩ := r2
      cases x2 with
      | none => exact e2
      | some t2 =>
        cases t2 with
        | true => exact e2
        | false =>
          dsimp only
          split
          · have e3 := eat_wf e2 i2 kwCdata eqExact (by decide)
            generalize eat m2 i2 kwCdata eqExact = r3 at e3
            obtain ⟨x3, m3, i3⟩ := r3
            cases x3 with
            | none => exact e3
            | some t3 =>
              cases t3 with
              | true => exact WfM_to (WfM_clearTemp e3) _
              | false => exact WfM_to (WfM_clearComment (WfM_badChar e3 o)) _
          · exact WfM_to (WfM_clearComment (WfM_badChar e2 o)) _

theorem stepAdn_wf (o : Opts) (pol : Pol) {m : Mach} (h : WfM m) (inp : Str) : RWf (stepAdn o pol m inp) := by
  unfold stepAdn
  have e1 := eat_wf h inp kwPublic eqCi (by decide)
  generalize eat m inp kwPublic eqCi = r1 at e1
  obtain ⟨x1, m1, i1⟩ := r1
  cases x1 with
  | none => exact e1
  | some t1 =>
    cases t1 with
    | true => exact e1
    | false =>
      dsimp only
      have e2 := eat_wf e1 i1 kwSystem eqCi (by decide)
      generalize eat m1 i1 kwSystem eqCi = r2 at e2
      obtain ⟨x2, m2, i2⟩ := r2
      cases x2 with
      | none => exact e2
      | some t2 =>
        cases t2 with
        | true => exact e2
        | false =>
          dsimp only
          exact contChar_wf o pol (getChar o m2 i2) (getChar_wf o e2 i2)

/-! ### one step, `run`, `feed` -/

theorem setOf_zero {s : State} (h : readKind s = .popExcept) : (setOf s).contains '\x00' = true := by
  cases s with
  | rawData k =>
    cases k with
    | scriptDataEscaped k2 => cases k2 <;> decide
    | _ => decide
  | plaintext => decide
  | attributeValue k => cases k <;> decide
  | _ => cases h

/-- **one `Tokenizer::step` preserves the register invariant** -/
theorem step_wf (o : Opts) (pol : Pol) {m : Mach} (h : WfM m) (inp : Str) : RWf (step o pol m inp) := by
  cases hcr : m.charRef with
  | some cr =>
    rw [step_kind_charRef o pol m inp cr hcr]
    exact stepCharRef_wf o h inp cr
  | none =>
    cases hrk : readKind m.state with
    | getChar =>
      rw [step_getChar o pol m inp hcr hrk]
      exact contChar_wf o pol _ (getChar_wf o h inp)
    | popExcept =>
      rw [step_popExcept o pol m inp hcr hrk]
      have hp := popExceptFrom_wf o (setOf m.state) (setOf_zero hrk) h inp
      exact contSet_wf o pol _ hp.1 hp.2
    | dataSimd =>
      rw [step_dataSimd o pol m inp hcr hrk]
      have hp := readData_wf o h inp
      exact contSet_wf o pol _ hp.1 hp.2
    | peekBav =>
      rw [step_kind_bav o pol m inp hcr hrk]
      exact stepBav_wf o pol h inp
    | eatMdo =>
      rw [step_kind_mdo o pol m inp hcr hrk]
      exact stepMdo_wf o pol h inp
    | eatAdn =>
      rw [step_kind_adn o pol m inp hcr hrk]
      exact stepAdn_wf o pol h inp

/-- the machine of a run result is well-formed -/
def RunWf : RunRes → Prop
  | .done m _ => WfM m
  | .script m _ => WfM m
  | .indicator m _ => WfM m
  | .panic _ => True
  | .outOfFuel => True

theorem run_wf (o : Opts) (pol : Pol) : ∀ (fuel : Nat) {m : Mach}, WfM m → ∀ inp : Str,
    RunWf (run o pol fuel m inp) := by
  intro fuel
  induction fuel with
  | zero => intro m _ inp; trivial
  | succ n ih =>
    intro m h inp
    unfold run
    have hs := step_wf o pol h inp
    generalize step o pol m inp = r at hs
    cases r with
    | cont m1 i1 => exact ih hs i1
    | suspend m1 i1 => exact hs
    | script m1 i1 => exact hs
    | indicator m1 i1 => exact hs
    | panic e => trivial

theorem feedBom_wf {m : Mach} (h : WfM m) (inp : Str) : WfM (feedBom m inp).1 := by
  unfold feedBom
  cases inp with
  | nil => exact h
  | cons c rest =>
    dsimp only
    split <;> exact h

theorem feed_wf (o : Opts) (pol : Pol) {m : Mach} (h : WfM m) (inp chunk : Str) :
    RunWf (feed o pol m inp chunk) := by
  unfold feed
  dsimp only
  split
  · exact h
  · exact run_wf o pol _ (feedBom_wf h _) _

/-! ### end of input -/

/-- the log is the EOF token on top of a well-formed EOF-free log -/
def EofOut (out : Out) : Prop := ∃ l rest, out = (Token.eof, l) :: rest ∧ OutWf rest

/-- result of an `eof_step` -/
def EofWf (x : Mach × EofSig) : Prop :=
  match x.2 with
  | .cont => WfM x.1
  | .done => EofOut x.1.out
  | .panic _ => True

theorem EofWf_cont {m : Mach} (h : WfM m) : EofWf (m, .cont) := h
theorem EofWf_done {m : Mach} (h : WfM m) : EofWf (emit m .eof, .done) := ⟨m.line, m.out, rfl, h.2.2.2⟩

/-- the `eof_step` table: `Continue` preserves the invariant, `Done` pushes exactly the EOF token -/
theorem transEof_wf (o : Opts) {m : Mach} (h : WfM m) : EofWf (transEof o m) := by
  unfold transEof
  split <;> (try dsimp only) <;>
    first
    | exact EofWf_done h
    | (apply EofWf_cont; wf_chain h)

theorem eofLoop_wf (o : Opts) : ∀ (n : Nat) {m : Mach}, WfM m → ∀ mf, eofLoop o n m = .ok mf → EofOut mf.out := by
  intro n
  induction n with
  | zero => intro m _ mf e; cases e
  | succ n ih =>
    intro m h mf e
    unfold eofLoop at e
    have ht := transEof_wf o h
    generalize transEof o m = r at ht e
    obtain ⟨m1, s1⟩ := r
    cases s1 with
    | cont => exact ih ht mf e
    | done =>
      simp only [Except.ok.injEq] at e
      subst e
      exact ht
    | panic x => cases e

theorem crEofOnceE_wf (o : Opts) {m : Mach} (h : WfM m) (inp : Str) (cr : CharRefSt) :
    CRWf (crEofOnceE o m inp cr) := by
  unfold crEofOnceE unconsumeNumeric
  split <;> (repeat' split) <;>
    first
    | trivial
    | exact h
    | exact WfM_emitErr h _
    | exact finishNumericStatus_wf o (WfM_emitErr h _) _ _
    | exact finishNamed_wf o h _ _ _

/-- result of the char-ref tokenizer's `end_of_file` -/
def CEWf : Except String (Mach × Str × Str) → Prop
  | .ok v => WfM v.1
  | .error _ => True

theorem crEofLast_wf {r : CRRes} (h : CRWf r) : CEWf (crEofLast r) := by
  cases r with
  | error e => trivial
  | ok v =>
    obtain ⟨m1, i1, c1, s1⟩ := v
    cases s1 <;> exact h

theorem crEofDrive_wf (o : Opts) {r : CRRes} (h : CRWf r) : CEWf (crEofDrive o r) := by
  cases r with
  | error e => trivial
  | ok v =>
    obtain ⟨m1, i1, c1, s1⟩ := v
    cases s1 with
    | stuck => exact h
    | done chars => exact h
    | progress => exact crEofLast_wf (crEofOnceE_wf o h _ _)

theorem crEof_wf (o : Opts) {m : Mach} (h : WfM m) (inp : Str) (cr : CharRefSt) : CEWf (crEof o m inp cr) := by
  rw [crEof_eqE]
  exact crEofDrive_wf o (crEofOnceE_wf o h inp cr)

theorem finishPreE_wf (o : Opts) {m : Mach} (h : WfM m) (mi : Mach × Str) (e : finishPreE o m = .ok mi) :
    WfM mi.1 := by
  unfold finishPreE at e
  split at e
  · simp only [Except.ok.injEq] at e
    subst e; exact h
  · rename_i cr _
    have hc := crEof_wf o h [] cr
    generalize crEof o m [] cr = r at hc e
    cases r with
    | error x => cases e
    | ok v =>
      obtain ⟨m1, i1, ch⟩ := v
      dsimp only at e
      have hp := processCharRef_wf (WfM_setCharRef (m := m1) hc none) ch
      generalize processCharRef (m1.setCharRef none) ch = p at hp e
      obtain ⟨p1, p2⟩ := p
      cases p2 with
      | cont =>
        simp only [Except.ok.injEq] at e
        subst e; exact hp
      | _ => cases e

theorem finishPost_wf (o : Opts) (pol : Pol) (mi : Mach × Str) (h : WfM mi.1) (mf : Mach)
    (e : finishPost o pol mi = .ok mf) : EofOut mf.out := by
  unfold finishPost at e
  dsimp only at e
  have hr := run_wf o pol (fuelFor (mi.1.setAtEof true) mi.2) (WfM_setAtEof h true) mi.2
  generalize run o pol (fuelFor (mi.1.setAtEof true) mi.2) (mi.1.setAtEof true) mi.2 = r at hr e
  cases r with
  | done m1 i1 =>
    dsimp only at e
    split at e
    · cases e
    · exact eofLoop_wf o 8 hr mf e
  | script m1 i1 => cases e
  | indicator m1 i1 => cases e
  | panic x => cases e
  | outOfFuel => cases e

/-- `Tokenizer::end` from a machine satisfying the register invariant -/
theorem finish_wf (o : Opts) (pol : Pol) {m : Mach} (h : WfM m) (mf : Mach) (e : finish o pol m = .ok mf) :
    EofOut mf.out := by
  rw [finish_eqE] at e
  have hp := finishPreE_wf o h
  generalize finishPreE o m = r at hp e
  cases r with
  | error x => cases e
  | ok mi => exact finishPost_wf o pol mi (hp mi rfl) mf e

theorem WfM_fresh (st : State) (last : Option Str) (bom : Bool) :
    WfM { state := st, lastStartTag := last, discardBom := bom } :=
  ⟨(by intro c hc; cases hc), List.nodup_nil, (by intro hx; cases hx), OutWf_nil⟩

/-- `Tokenizer::feed` from a fresh tokenizer (any start state `st`, last start tag, BOM flag), then
`Tokenizer::end`: the log is the EOF token on top of a well-formed EOF-free log -/
theorem feed_finish_outWf (o : Opts) (pol : Pol) (st : State) (last : Option Str) (bom : Bool) (s : Str)
    (m1 : Mach) (i1 : Str) (mf : Mach)
    (h1 : feed o pol { state := st, lastStartTag := last, discardBom := bom } [] s = .done m1 i1)
    (h2 : finish o pol m1 = .ok mf) :
    ∃ l rest, mf.out = (Token.eof, l) :: rest ∧ OutWf rest := by
  have hf := feed_wf o pol (WfM_fresh st last bom) [] s
  rw [h1] at hf
  exact finish_wf o pol hf mf h2

/-- corollary: every token of the final log is well-formed -/
theorem feed_finish_tokWf (o : Opts) (pol : Pol) (st : State) (last : Option Str) (bom : Bool) (s : Str)
    (m1 : Mach) (i1 : Str) (mf : Mach)
    (h1 : feed o pol { state := st, lastStartTag := last, discardBom := bom } [] s = .done m1 i1)
    (h2 : finish o pol m1 = .ok mf) :
    ∀ p ∈ mf.out, TokWfT p.1 := by
  obtain ⟨l, rest, e, hw⟩ := feed_finish_outWf o pol st last bom s m1 i1 mf h1 h2
  rw [e]
  intro p hp
  rcases List.mem_cons.mp hp with rfl | hp
  · trivial
  · exact (hw p hp).1

end H5V.Lemmas.ParseSpec
