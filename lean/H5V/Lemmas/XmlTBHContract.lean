import H5V.Lemmas.XmlTBHBase
import H5V.Lemmas.HtmlTBContractKinds
import H5V.Props.C05
/-!
C05 for the handle-level XML tree builder: the sink-side invariant `Good`, the rule for one
sink call, and what each of the nine `TreeSink` calls the builder makes does to the arena.
(`H5V.Lemmas.TBC.KExt` / `apply_kext` — node kinds never change — is a `Dom`-level fact despite the
file name it lives in.)
-/
namespace H5V.Lemmas.XmlTBH
open H5V.Model.Dom (Id SinkOp Output Dom NodeOrText NodeData Contract QualName Attr ElementFlags)
open H5V.Model.XmlTBH
open H5V.Lemmas.Dom
open H5V.Lemmas.TBC (KExt kindOf apply_kext)
open H5V.Props.C20 (Inv Run)
open H5V.Props.C05 (NotMirror C05_no_panic_partial)

/-! ## kinds -/

theorem isElement_kind (d : Dom) (x : Id) : d.isElement x = ((d.dataOf x).map kindOf == some 4) := by
  unfold Dom.isElement
  cases d.dataOf x with
  | none => rfl
  | some v => cases v <;> rfl

theorem isDoctype_kind (d : Dom) (x : Id) : d.isDoctype x = ((d.dataOf x).map kindOf == some 1) := by
  unfold Dom.isDoctype
  cases d.dataOf x with
  | none => rfl
  | some v => cases v <;> rfl

theorem isDocument_kind (d : Dom) (x : Id) :
    d.dataOf x = some .document ↔ (d.dataOf x).map kindOf = some 0 := by
  cases d.dataOf x with
  | none => simp
  | some v => cases v <;> simp [kindOf]

theorem isElement_kext {d d' : Dom} (hk : KExt d d') {x : Id} (hx : x < d.size) :
    d'.isElement x = d.isElement x := by
  rw [isElement_kind, isElement_kind, hk x hx]

theorem isDoctype_kext {d d' : Dom} (hk : KExt d d') {x : Id} (hx : x < d.size) :
    d'.isDoctype x = d.isDoctype x := by
  rw [isDoctype_kind, isDoctype_kind, hk x hx]

theorem isDocument_kext {d d' : Dom} (hk : KExt d d') {x : Id} (h : d.dataOf x = some .document) :
    d'.dataOf x = some .document := by
  have hx : x < d.size := lt_of_dataOf_some h
  rw [isDocument_kind] at h ⊢
  rw [hk x hx]
  exact h

theorem isContainer_of_isElement {d : Dom} {x : Id} (h : d.isElement x = true) : d.isContainer x = true := by
  unfold Dom.isElement at h
  unfold Dom.isContainer
  cases hd : d.dataOf x with
  | none => simp [hd] at h
  | some v => cases v <;> simp_all

theorem isInsertable_of_isElement {d : Dom} {x : Id} (h : d.isElement x = true) : d.isInsertable x = true := by
  unfold Dom.isElement at h
  unfold Dom.isInsertable
  cases hd : d.dataOf x with
  | none => simp [hd] at h
  | some v => cases v <;> simp_all

theorem isContainer_of_doc {d : Dom} {x : Id} (h : d.dataOf x = some .document) : d.isContainer x = true := by
  unfold Dom.isContainer; rw [h]

/-! ## the sink-side invariant -/

/-- the sink calls made so far, oldest first -/
def calls (s : State) : List SinkOp := s.traceRev.reverse.map Prod.fst

theorem run_snoc {d0 d d' : Dom} {ops : List SinkOp} {op : SinkOp} {out : Output} (hr : Run d0 ops d)
    (hc : Contract d op) (ha : d.apply op = .ok (d', out)) : Run d0 (ops ++ [op]) d' := by
  induction hr with
  | nil => exact Run.cons hc ha Run.nil
  | cons hc1 ha1 _ ih => exact Run.cons hc1 ha1 (ih hc ha)

/-- arena invariant; the recorded calls are a contract-abiding run from the empty arena; the
document handle is the document node; every open element is an element of the arena -/
structure Good (s : State) : Prop where
  inv : Inv s.dom
  run : Run Dom.new (calls s) s.dom
  doc : s.dom.dataOf 0 = some .document
  dh : s.docHandle = 0
  elems : ∀ h ∈ s.opened, s.dom.isElement h = true

/-- only the builder's own fields change -/
theorem Good.ctl {s : State} (h : Good s) {s' : State} (hd : s'.dom = s.dom) (ht : s'.traceRev = s.traceRev)
    (hh : s'.docHandle = s.docHandle) (ho : ∀ x ∈ s'.opened, x ∈ s.opened) : Good s' :=
  ⟨hd ▸ h.inv, by unfold calls; rw [ht, hd]; exact h.run, hd ▸ h.doc, hh ▸ h.dh,
    fun x hx => hd ▸ h.elems x (ho x hx)⟩

/-- the state after the sink call `op` that returned `out` and left the arena `d` -/
abbrev after (s : State) (op : SinkOp) (d : Dom) (out : Output) : State :=
  { s with dom := d, traceRev := (op, out) :: s.traceRev }

theorem Good.step {s : State} (h : Good s) {op : SinkOp} {d : Dom} {out : Output}
    (hc : Contract s.dom op) (ha : s.dom.apply op = .ok (d, out)) : Good (after s op d out) := by
  have hk := apply_kext ha
  refine ⟨H5V.Props.C20.C20_parent_links_step h.inv hc ha, ?_, isDocument_kext hk h.doc, h.dh, ?_⟩
  · show Run Dom.new (((op, out) :: s.traceRev).reverse.map Prod.fst) d
    rw [List.reverse_cons, List.map_append]
    exact run_snoc h.run hc ha
  · intro x hx
    have hx' := h.elems x hx
    show d.isElement x = true
    rw [isElement_kext hk (lt_of_isElement hx')]; exact hx'

/-- **one sink call**: within the contract it returns normally, `Good` is kept, kinds are kept -/
theorem sat_sink {s : State} {op : SinkOp} {Q : Output → State → Prop} (hg : Good s)
    (hc : Contract s.dom op) (hnm : NotMirror op)
    (hq : ∀ d out, s.dom.apply op = .ok (d, out) → Good (after s op d out) → KExt s.dom d →
      Q out (after s op d out)) : Sat (sink op) s Q := by
  obtain ⟨d, out, ha⟩ := C05_no_panic_partial hg.inv hc hnm
  exact ⟨out, _, sink_run ha, hq d out ha (hg.step hc ha) (apply_kext ha)⟩

/-! ## the frame -/

/-- the builder's control fields the invariant speaks about are unchanged -/
structure Ctl (s s' : State) : Prop where
  opened : s'.opened = s.opened
  phase : s'.phase = s.phase
  dts : s'.doctypeSeen = s.doctypeSeen

theorem Ctl.refl (s : State) : Ctl s s := ⟨rfl, rfl, rfl⟩
theorem Ctl.trans {a b c : State} (h1 : Ctl a b) (h2 : Ctl b c) : Ctl a c :=
  ⟨h2.opened.trans h1.opened, h2.phase.trans h1.phase, h2.dts.trans h1.dts⟩
theorem Ctl.after (s : State) (op : SinkOp) (d : Dom) (out : Output) : Ctl s (after s op d out) := ⟨rfl, rfl, rfl⟩

/-- no child of the document is an element / a doctype -/
def NoElemKids (d : Dom) : Prop := ∀ c ∈ d.childrenOf 0, d.isElement c = false
def NoDtKids (d : Dom) : Prop := ∀ c ∈ d.childrenOf 0, d.isDoctype c = false

theorem child_lt {d : Dom} (hi : Inv d) {c p : Id} (hc : c ∈ d.childrenOf p) : c < d.size :=
  child_lt_size ((hi.wf.links c p).mpr hc)

theorem NoElemKids.keep {d d' : Dom} (h : NoElemKids d) (hi : Inv d) (hk : KExt d d')
    (hc : d'.childrenOf 0 = d.childrenOf 0) : NoElemKids d' := by
  intro c hm
  rw [hc] at hm
  rw [isElement_kext hk (child_lt hi hm)]; exact h c hm

theorem NoDtKids.keep {d d' : Dom} (h : NoDtKids d) (hi : Inv d) (hk : KExt d d')
    (hc : d'.childrenOf 0 = d.childrenOf 0) : NoDtKids d' := by
  intro c hm
  rw [hc] at hm
  rw [isDoctype_kext hk (child_lt hi hm)]; exact h c hm

theorem NoElemKids.snoc {d d' : Dom} (h : NoElemKids d) (hi : Inv d) (hk : KExt d d') {c : Id}
    (hc : d'.childrenOf 0 = d.childrenOf 0 ++ [c]) (hn : d'.isElement c = false) : NoElemKids d' := by
  intro x hm
  rw [hc] at hm
  rcases List.mem_append.mp hm with hm | hm
  · rw [isElement_kext hk (child_lt hi hm)]; exact h x hm
  · simp at hm; subst hm; exact hn

theorem NoDtKids.snoc {d d' : Dom} (h : NoDtKids d) (hi : Inv d) (hk : KExt d d') {c : Id}
    (hc : d'.childrenOf 0 = d.childrenOf 0 ++ [c]) (hn : d'.isDoctype c = false) : NoDtKids d' := by
  intro x hm
  rw [hc] at hm
  rcases List.mem_append.mp hm with hm | hm
  · rw [isDoctype_kext hk (child_lt hi hm)]; exact h x hm
  · simp at hm; subst hm; exact hn

/-! ## the calls that leave the nodes alone: `parse_error`, `pop`, `elem_name`, `get_document` -/

/-- control fields and nodes unchanged (only the error list and the trace grow) -/
structure Same (s s' : State) : Prop extends Ctl s s' where
  nodes : s'.dom.nodes = s.dom.nodes

theorem Same.refl (s : State) : Same s s := ⟨Ctl.refl s, rfl⟩
theorem Same.trans {a b c : State} (h1 : Same a b) (h2 : Same b c) : Same a c :=
  ⟨h1.toCtl.trans h2.toCtl, h2.nodes.trans h1.nodes⟩

theorem childrenOf_nodes {d d' : Dom} (h : d'.nodes = d.nodes) (x : Id) : d'.childrenOf x = d.childrenOf x := by
  unfold Dom.childrenOf; rw [h]
theorem dataOf_nodes {d d' : Dom} (h : d'.nodes = d.nodes) (x : Id) : d'.dataOf x = d.dataOf x := by
  unfold Dom.dataOf; rw [h]
theorem isElement_nodes {d d' : Dom} (h : d'.nodes = d.nodes) (x : Id) : d'.isElement x = d.isElement x := by
  unfold Dom.isElement; rw [dataOf_nodes h]
theorem isDoctype_nodes {d d' : Dom} (h : d'.nodes = d.nodes) (x : Id) : d'.isDoctype x = d.isDoctype x := by
  unfold Dom.isDoctype; rw [dataOf_nodes h]

theorem NoElemKids.same {s s' : State} (h : NoElemKids s.dom) (hs : Same s s') : NoElemKids s'.dom := by
  intro c hm
  rw [childrenOf_nodes hs.nodes] at hm
  rw [isElement_nodes hs.nodes]; exact h c hm

theorem NoDtKids.same {s s' : State} (h : NoDtKids s.dom) (hs : Same s s') : NoDtKids s'.dom := by
  intro c hm
  rw [childrenOf_nodes hs.nodes] at hm
  rw [isDoctype_nodes hs.nodes]; exact h c hm

theorem sat_sinkUnit {s : State} {op : SinkOp} {Q : Unit → State → Prop}
    (h : Sat (sink op) s (fun _ s' => Q () s')) : Sat (sinkUnit op) s Q := by
  unfold sinkUnit
  exact Sat.bind (h.mono fun _ s' hq => Sat.pure hq)

theorem sat_parseError {s : State} (hg : Good s) (msg : List Char) :
    Sat (sinkUnit (.parseError msg)) s (fun _ s' => Good s' ∧ Same s s') := by
  refine sat_sinkUnit (sat_sink hg rfl rfl ?_)
  intro d out ha hg' _
  refine ⟨hg', Ctl.after .., ?_⟩
  have : d = s.dom.parseError msg := by
    have : s.dom.apply (.parseError msg) = .ok (s.dom.parseError msg, .unit) := rfl
    rw [this] at ha; cases ha; rfl
  show d.nodes = s.dom.nodes
  rw [this]; rfl

theorem sat_parseErr {s : State} (hg : Good s) (e : H5V.Model.XmlTB.Err) :
    Sat (parseErr e) s (fun _ s' => Good s' ∧ Same s s') := sat_parseError hg _

theorem sat_parseErrs {s : State} (hg : Good s) (es : List H5V.Model.XmlTB.Err) :
    Sat (parseErrs es) s (fun _ s' => Good s' ∧ Same s s') := by
  induction es generalizing s with
  | nil => exact Sat.pure ⟨hg, Same.refl s⟩
  | cons e rest ih =>
    unfold parseErrs
    refine (sat_parseErr hg e).seq ?_
    intro _ s1 ⟨hg1, hs1⟩
    exact (ih hg1).mono fun _ s2 ⟨hg2, hs2⟩ => ⟨hg2, hs1.trans hs2⟩

theorem sat_popOp {s : State} (hg : Good s) {n : Id} (hn : s.dom.isElement n = true) :
    Sat (sinkUnit (.pop n)) s (fun _ s' => Good s' ∧ Same s s') := by
  refine sat_sinkUnit (sat_sink hg hn rfl ?_)
  intro d out ha hg' _
  refine ⟨hg', Ctl.after .., ?_⟩
  have : s.dom.apply (.pop n) = .ok (s.dom, .unit) := rfl
  rw [this] at ha; cases ha; rfl

/-- the expanded name of an element node -/
def nameOf (d : Dom) (h : Id) : Option (List Char × List Char) :=
  match d.dataOf h with
  | some (.element n _ _ _) => some (n.ns, n.loc)
  | _ => none

theorem nameOf_nodes {d d' : Dom} (h : d'.nodes = d.nodes) (x : Id) : nameOf d' x = nameOf d x := by
  unfold nameOf; rw [dataOf_nodes h]

theorem nameOf_isSome {d : Dom} {h : Id} (he : d.isElement h = true) : ∃ p, nameOf d h = some p := by
  unfold Dom.isElement at he
  unfold nameOf
  cases hd : d.dataOf h with
  | none => simp [hd] at he
  | some v => cases v <;> simp_all

theorem apply_elemName {d : Dom} {h : Id} {p : List Char × List Char} (hn : nameOf d h = some p) :
    d.apply (.elemName h) = .ok (d, .name p.1 p.2) := by
  unfold nameOf at hn
  cases hd : d.dataOf h with
  | none => simp [hd] at hn
  | some v =>
    obtain ⟨n, hnode⟩ : ∃ n, d.node? h = some n := by
      unfold Dom.dataOf at hd
      cases hq : d.nodes[h]? with
      | none => simp [hq] at hd
      | some n => exact ⟨n, hq⟩
    have hdata : n.data = v := by
      rw [dataOf_of_node hnode] at hd; cases hd; rfl
    have hget : d.get h = .ok n := get_ok_of hnode
    cases v with
    | element q as tc ip =>
      simp only [hd, Option.some.injEq] at hn
      subst hn
      show d.applyV _ _ (.elemName h) = _
      simp only [Dom.applyV, Dom.elemName, hget, hdata, bind, Except.bind]
    | _ => simp [hd] at hn

theorem sat_elemName {s : State} (hg : Good s) {h : Id} (he : s.dom.isElement h = true) :
    Sat (elemName h) s (fun p s' => Good s' ∧ Same s s' ∧ nameOf s.dom h = some p) := by
  obtain ⟨p, hp⟩ := nameOf_isSome he
  unfold elemName
  refine Sat.bind (sat_sink hg he rfl ?_)
  intro d out ha hg' _
  rw [apply_elemName hp] at ha
  cases ha
  exact Sat.pure ⟨hg', ⟨Ctl.after .., rfl⟩, hp⟩

theorem sat_getDocument {s : State} (hg : Good s) :
    Sat (sinkNode .getDocument) s (fun h s' => h = 0 ∧ Good s' ∧ Same s s') := by
  unfold sinkNode
  refine Sat.bind (sat_sink hg rfl rfl ?_)
  intro d out ha hg' _
  have : s.dom.apply .getDocument = .ok (s.dom, .node 0) := rfl
  rw [this] at ha; cases ha
  exact Sat.pure ⟨rfl, hg', ⟨Ctl.after .., rfl⟩⟩

/-! ## `create_comment`, `create_pi`, `create_element` -/

/-- what a `create_*` call leaves: a fresh node `c` without parent and children; parent links and child
lists as before -/
structure Fresh (d d' : Dom) (c : Id) : Prop where
  ge : d.size ≤ c
  par : d'.parentOf c = none
  kids : d'.childrenOf c = []
  shape : SameShape d d'

theorem fresh_alloc (d : Dom) (data : NodeData) : Fresh d (d.alloc data).1 d.size :=
  ⟨Nat.le_refl _, by rw [parentOf_alloc]; exact parentOf_none_of_ge (Nat.le_refl _),
   by rw [childrenOf_alloc]; exact childrenOf_nil_of_ge (Nat.le_refl _),
   ⟨parentOf_alloc d data, childrenOf_alloc d data⟩⟩

theorem sat_sinkNode {s : State} {op : SinkOp} {Q : Id → State → Prop}
    (h : Sat (sink op) s (fun out s' => ∃ c, out = .node c ∧ Q c s')) : Sat (sinkNode op) s Q := by
  unfold sinkNode
  refine Sat.bind (h.mono ?_)
  rintro _ s' ⟨c, rfl, hq⟩
  exact Sat.pure hq

/-- a sink call that allocates one leaf node with data `nd` -/
theorem sat_createLeaf {s : State} (hg : Good s) (op : SinkOp) (nd : NodeData) (hc : Contract s.dom op)
    (hnm : NotMirror op) (hop : s.dom.apply op = .ok ((s.dom.alloc nd).1, .node s.dom.size)) :
    Sat (sinkNode op) s (fun c s' => Good s' ∧ Ctl s s' ∧ KExt s.dom s'.dom ∧
      Fresh s.dom s'.dom c ∧ s'.dom.dataOf c = some nd) := by
  refine sat_sinkNode (sat_sink hg hc hnm ?_)
  intro d out ha hg' hk
  rw [hop] at ha; cases ha
  exact ⟨_, rfl, hg', Ctl.after .., hk, fresh_alloc _ _, by
    show (s.dom.alloc nd).1.dataOf s.dom.size = _
    rw [dataOf_alloc]; simp⟩

theorem createElement_fresh (d : Dom) (name : QualName) (attrs : List Attr) (flags : ElementFlags) :
    Fresh d (d.createElement name attrs flags).1 (d.createElement name attrs flags).2 ∧
    ∃ tc, (d.createElement name attrs flags).1.dataOf (d.createElement name attrs flags).2 =
      some (.element name attrs tc flags.mathmlIP) := by
  unfold Dom.createElement
  by_cases ht : flags.template = true
  · simp only [ht, if_true]
    have h1 := fresh_alloc d .document
    have h2 := fresh_alloc (d.alloc .document).1 (.element name attrs (some (d.alloc .document).2) flags.mathmlIP)
    refine ⟨⟨?_, h2.par, h2.kids, ⟨fun x => (h2.shape.parent x).trans (h1.shape.parent x),
      fun x => (h2.shape.children x).trans (h1.shape.children x)⟩⟩, some (d.alloc .document).2, ?_⟩
    · show d.size ≤ (d.alloc .document).1.size
      simp
    · show ((d.alloc .document).1.alloc _).1.dataOf (d.alloc .document).1.size = _
      rw [dataOf_alloc]; simp
  · simp only [ht]
    refine ⟨fresh_alloc d _, none, ?_⟩
    show (d.alloc _).1.dataOf d.size = _
    rw [dataOf_alloc]; simp

theorem isElement_of_data {d : Dom} {c : Id} {n : QualName} {as : List Attr} {tc : Option Id} {ip : Bool}
    (h : d.dataOf c = some (.element n as tc ip)) : d.isElement c = true := by
  unfold Dom.isElement; rw [h]

theorem nameOf_of_data {d : Dom} {c : Id} {n : QualName} {as : List Attr} {tc : Option Id} {ip : Bool}
    (h : d.dataOf c = some (.element n as tc ip)) : nameOf d c = some (n.ns, n.loc) := by
  unfold nameOf; rw [h]

theorem sat_createElementOp {s : State} (hg : Good s) (name : QualName) (attrs : List Attr) (flags : ElementFlags)
    (hn : Dom.attrKeysNodup attrs = true) :
    Sat (sinkNode (.createElement name attrs flags)) s (fun c s' => Good s' ∧ Ctl s s' ∧ KExt s.dom s'.dom ∧
      Fresh s.dom s'.dom c ∧ s'.dom.isElement c = true ∧ nameOf s'.dom c = some (name.ns, name.loc)) := by
  refine sat_sinkNode (sat_sink hg hn rfl ?_)
  intro d out ha hg' hk
  have : s.dom.apply (.createElement name attrs flags) =
      .ok ((s.dom.createElement name attrs flags).1, .node (s.dom.createElement name attrs flags).2) := rfl
  rw [this] at ha; cases ha
  obtain ⟨h1, tc, h2⟩ := createElement_fresh s.dom name attrs flags
  exact ⟨_, rfl, hg', Ctl.after .., hk, h1, isElement_of_data h2, nameOf_of_data h2⟩

/-! ## `append`, `append_doctype_to_document` -/

theorem apply_append_ok {d d' : Dom} {p : Id} {c : NodeOrText} {out : Output}
    (h : d.apply (.append p c) = .ok (d', out)) : d.append p c = .ok d' := by
  have : d.apply (.append p c) = (do let d ← d.append p c; .ok (d, Output.unit)) := rfl
  rw [this] at h
  cases hd : d.append p c with
  | error e => rw [hd] at h; cases h
  | ok d1 => rw [hd] at h; cases h; rfl

theorem apply_doctype_ok {d d' : Dom} {n p s : List Char} {out : Output}
    (h : d.apply (.appendDoctypeToDocument n p s) = .ok (d', out)) : d.appendDoctypeToDocument n p s = .ok d' := by
  have : d.apply (.appendDoctypeToDocument n p s) =
      (do let d ← d.appendDoctypeToDocument n p s; .ok (d, Output.unit)) := rfl
  rw [this] at h
  cases hd : d.appendDoctypeToDocument n p s with
  | error e => rw [hd] at h; cases h
  | ok d1 => rw [hd] at h; cases h; rfl

theorem sat_appendNode {s : State} (hg : Good s) {p c : Id} (hp : s.dom.isContainer p = true)
    (hc : s.dom.isInsertable c = true) (hpar : s.dom.parentOf c = none) (hkids : s.dom.childrenOf c = [])
    (hne : c ≠ p) :
    Sat (sinkUnit (.append p (.node c))) s (fun _ s' => Good s' ∧ Ctl s s' ∧ KExt s.dom s'.dom ∧
      (∀ x, s'.dom.dataOf x = s.dom.dataOf x) ∧
      (∀ x, s'.dom.childrenOf x = if x = p then s.dom.childrenOf p ++ [c] else s.dom.childrenOf x)) := by
  have hanc : s.dom.isAncOrSelf c p = false := by
    cases hb : s.dom.isAncOrSelf c p with
    | false => rfl
    | true =>
      have := (isAncOrSelf_iff hg.inv.wf (lt_of_isContainer hp)).mp hb
      exact absurd (anc_eq_of_no_children hg.inv.wf hkids this) hne
  have hcon : Contract s.dom (.append p (.node c)) := by
    show s.dom.contractOk _ = true
    simp [Dom.contractOk, Dom.contractAppend, Dom.childOk, hp, hc, hpar, hanc]
  refine sat_sinkUnit (sat_sink hg hcon rfl ?_)
  intro d out ha hg' hk
  have h1 := apply_append_ok ha
  rw [append_node_eq] at h1
  obtain ⟨_, _, _, _, _, _, h5, h6, _, _⟩ := appendRaw_ok h1 (Ne.symm hne)
  exact ⟨hg', Ctl.after .., hk, h6, h5⟩

theorem sat_appendTextOp {s : State} (hg : Good s) {p : Id} (hp : s.dom.isContainer p = true) (t : List Char) :
    Sat (sinkUnit (.append p (.text t))) s (fun _ s' => Good s' ∧ Ctl s s' ∧ KExt s.dom s'.dom) := by
  have hcon : Contract s.dom (.append p (.text t)) := by
    show s.dom.contractOk _ = true
    simp [Dom.contractOk, Dom.contractAppend, Dom.childOk, hp]
  refine sat_sinkUnit (sat_sink hg hcon rfl ?_)
  intro d out ha hg' hk
  exact ⟨hg', Ctl.after .., hk⟩

theorem sat_appendDoctypeOp {s : State} (hg : Good s) (h1 : NoElemKids s.dom) (h2 : NoDtKids s.dom)
    (n p sy : List Char) :
    Sat (sinkUnit (.appendDoctypeToDocument n p sy)) s (fun _ s' => Good s' ∧ Ctl s s' ∧ NoElemKids s'.dom) := by
  have hcon : Contract s.dom (.appendDoctypeToDocument n p sy) := by
    show s.dom.contractOk _ = true
    simp only [Dom.contractOk, Bool.and_eq_true, List.all_eq_true, Bool.not_eq_eq_eq_not, Bool.not_true]
    exact ⟨isContainer_of_doc hg.doc, fun c hc => ⟨h2 c hc, h1 c hc⟩⟩
  refine sat_sinkUnit (sat_sink hg hcon rfl ?_)
  intro d out ha hg' hk
  refine ⟨hg', Ctl.after .., ?_⟩
  have hd := apply_doctype_ok ha
  unfold Dom.appendDoctypeToDocument at hd
  have h0 : (0 : Id) < s.dom.size := lt_of_dataOf_some hg.doc
  obtain ⟨_, hch, hdat, _, _⟩ := allocAppend_ok h0 hd
  refine h1.snoc hg.inv hk (c := s.dom.size) ?_ ?_
  · show d.childrenOf 0 = _
    rw [hch]; simp
  · show d.isElement s.dom.size = false
    unfold Dom.isElement
    rw [hdat]; simp

end H5V.Lemmas.XmlTBH
