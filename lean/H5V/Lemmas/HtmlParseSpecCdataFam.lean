import H5V.Model.HtmlTok
import H5V.Lemmas.HtmlParseSpecRawFam
/-!
Where the EMPTY character token of the HTML tokenizer model comes from.

The model (like html5ever) can deliver `.chars []`: `emitTempBuf` with an empty `temp_buf`, which happens for
`<![CDATA[]]>`, for U+0000 inside an empty CDATA section and for end of input inside an empty CDATA section.

* `step_notCdata`: a step from OUTSIDE the CDATA-section family of states delivers no empty character token; the
  family is only entered from `markup declaration open`, after the sink answered "CDATA allowed", and that step
  delivers nothing;
* `step_cdata`: a step from INSIDE the family delivers character tokens, U+0000 tokens and parse errors only;
* `eofLoop_cdata` / `eofLoop_notCdata`: the same for `eof_step`;
* `crEof_processCharRef_nonEmpty`: the flush of a pending character reference at the start of `Tokenizer::end`;
* `step_tmpInv`: the register invariant `TmpInv` (in `RawEndTagName` the temporary buffer is not empty) that makes
  the `emitTempBuf` of the raw end-tag-name fallback harmless.

The traversals instantiate the generic "the log grew by `P`-tokens" relation `RF.Gr` with `CF.NE` (not the empty
character token); the class `RF.PC` does not hold of `CF.NE`, so the emitting helpers get their own lemmas here.
-/
namespace H5V.Lemmas.ParseSpec
open H5V.Model.HtmlTok

/-- the CDATA-section family of states -/
def CdataFam : State → Bool
  | .cdataSection | .cdataSectionBracket | .cdataSectionEnd => true
  | _ => false

def isEmptyChars : Token → Bool
  | .chars [] => true
  | _ => false

/-- register invariant needed to know that `emitTempBuf` in the raw end-tag-name fallback is never empty:
in `.rawEndTagName _` the temporary buffer holds at least the first letter of the name -/
def TmpInv (m : Mach) : Prop := (∃ k, m.state = .rawEndTagName k) → m.tempBuf ≠ []

theorem tmpInv_fresh (st : State) (last : Option Str) (bom : Bool) (h : ∀ k, st ≠ .rawEndTagName k) :
    TmpInv { state := st, lastStartTag := last, discardBom := bom } := by
  intro ⟨k, hk⟩
  exact absurd hk (h k)

namespace CF

/-- not the empty character token -/
def NE (t : Token) : Prop := isEmptyChars t = false

theorem tmpInv_iff (m : Mach) : TmpInv m ↔ (isRawEndTagName m.state = true → m.tempBuf ≠ []) := by
  unfold TmpInv
  constructor
  · intro h hs
    apply h
    cases hst : m.state <;> rw [hst] at hs <;> first | exact ⟨_, rfl⟩ | cases hs
  · intro h ⟨k, hk⟩
    apply h
    rw [hk]; rfl

theorem tmp_of_state {y : Mach} (h : isRawEndTagName y.state = false) : TmpInv y := by
  rw [tmpInv_iff]
  intro h2
  rw [h] at h2
  cases h2

theorem tmp_of_buf {y : Mach} (h : y.tempBuf ≠ []) : TmpInv y := fun _ => h

/-! ### the emitting helpers, for `RF.Gr NE` -/

section
variable {m x : Mach}

theorem G_emitErr (h : RF.Gr NE m x) (s : String) : RF.Gr NE m (emitErr x s) := RF.Gr_emit h _ rfl
theorem G_emitErrL (h : RF.Gr NE m x) (s : Str) : RF.Gr NE m (emit x (.error s)) := RF.Gr_emit h _ rfl

theorem G_emitChar (h : RF.Gr NE m x) (c : Char) : RF.Gr NE m (emitChar x c) := by
  unfold emitChar; split
  · exact RF.Gr_emit h _ rfl
  · exact RF.Gr_emit h _ rfl

theorem NE_chars {s : Str} (hs : s ≠ []) : NE (.chars s) := by
  cases s with
  | nil => exact absurd rfl hs
  | cons c cs => rfl

theorem G_emitChars (hs : s ≠ []) (h : RF.Gr NE m x) : RF.Gr NE m (emitChars x s) := RF.Gr_emit h _ (NE_chars hs)

theorem G_emitTempBuf (ht : x.tempBuf ≠ []) (h : RF.Gr NE m x) : RF.Gr NE m (emitTempBuf x) := by
  unfold emitTempBuf
  exact G_emitChars (x := { x with tempBuf := [] }) ht h

theorem G_badChar (h : RF.Gr NE m x) (o : Opts) : RF.Gr NE m (badChar o x) := by
  unfold badChar; split
  · exact G_emitErr h _
  · exact G_emitErrL h _

theorem G_badEof (h : RF.Gr NE m x) (o : Opts) : RF.Gr NE m (badEof o x) := by
  unfold badEof; split <;> exact G_emitErr h _

theorem G_emitComment (h : RF.Gr NE m x) : RF.Gr NE m (emitComment x) := by
  unfold emitComment
  exact RF.Gr_emit (x := { x with comment := [] }) h _ rfl

theorem G_emitDoctype (h : RF.Gr NE m x) : RF.Gr NE m (emitDoctype x) := by
  unfold emitDoctype
  exact RF.Gr_emit (x := { x with doctype := {} }) h _ rfl

theorem G_finishAttribute (h : RF.Gr NE m x) : RF.Gr NE m (finishAttribute x) := by
  unfold finishAttribute
  split
  · exact h
  · dsimp only
    split
    · exact G_emitErr (x := { x with attrName := [] }) h _
    · exact h

theorem G_createAttr (h : RF.Gr NE m x) (c : Char) : RF.Gr NE m (createAttr c x) := by
  unfold createAttr
  exact G_finishAttribute h

theorem G_tagPrologue (h : RF.Gr NE m x) : RF.Gr NE m (tagPrologue x) := by
  have h1 := G_finishAttribute h
  unfold tagPrologue
  dsimp only
  generalize finishAttribute x = y at h1
  split
  · exact h1
  · split
    · split
      · exact G_emitErr (G_emitErr h1 _) _
      · exact G_emitErr h1 _
    · split
      · exact G_emitErr h1 _
      · exact h1

theorem G_applySinkRes (h : RF.Gr NE m x) (r : SinkRes) : RF.Gr NE m (applySinkRes x r).1 := by
  cases r with
  | continue_ => exact h
  | plaintext => exact h
  | rawData k => exact h
  | script => exact RF.Gr_emit (x := to .data x) h _ rfl
  | indicator => exact RF.Gr_emit h _ rfl

theorem G_emitTag (h : RF.Gr NE m x) (pol : Pol) (s : State) : RF.Gr NE m (emitTag pol s x).1 := by
  unfold emitTag emitCurrentTag
  exact G_applySinkRes (RF.Gr_emit (RF.Gr_takeTag (G_tagPrologue (RF.Gr_to h s))) (Token.tag _) rfl) _

theorem G_numericErr (h : RF.Gr NE m x) (o : Opts) (n : Nat) : RF.Gr NE m (numericErr o x n) := by
  unfold numericErr; split
  · exact G_emitErrL h _
  · exact G_emitErr h _

theorem G_nameErr (h : RF.Gr NE m x) (o : Opts) (nb : Str) : RF.Gr NE m (nameErr o x nb) := by
  unfold nameErr; split
  · exact G_emitErrL h _
  · exact G_emitErr h _

end

/-! ### states the sink can leave the tokenizer in -/

theorem sinkState_cd {s0 s : State} (h : sinkState s0 s) (h0 : CdataFam s0 = false) : CdataFam s = false := by
  rcases h with rfl | rfl | rfl | ⟨k, rfl⟩
  · exact h0
  · rfl
  · rfl
  · rfl

theorem sinkState_ret {s0 s : State} (h : sinkState s0 s) (h0 : isRawEndTagName s0 = false) :
    isRawEndTagName s = false := by
  rcases h with rfl | rfl | rfl | ⟨k, rfl⟩
  · exact h0
  · rfl
  · rfl
  · rfl

theorem emitTag_cd (pol : Pol) (x : Mach) : CdataFam (emitTag pol .data x).1.state = false :=
  sinkState_cd (emitTag_state pol .data x) rfl

theorem emitTag_ret (pol : Pol) (x : Mach) : isRawEndTagName (emitTag pol .data x).1.state = false :=
  sinkState_ret (emitTag_state pol .data x) rfl

end CF

/-- close a goal `RF.Gr CF.NE m (helper (… m))`; side goals `s ≠ []` / `x.tempBuf ≠ []` are closed from the
context -/
macro "cf_chain" h:ident : tactic =>
  `(tactic| (repeat' (first
      | with_reducible exact $h
      | with_reducible apply RF.Gr_to | with_reducible apply RF.Gr_reconsumeTo | with_reducible apply RF.Gr_discardTag
      | with_reducible apply RF.Gr_createTag | with_reducible apply RF.Gr_pushTag
      | with_reducible apply RF.Gr_pushTemp | with_reducible apply RF.Gr_clearTemp | with_reducible apply RF.Gr_pushName
      | with_reducible apply RF.Gr_pushValue | with_reducible apply RF.Gr_appendValue
      | with_reducible apply RF.Gr_pushComment | with_reducible apply RF.Gr_appendComment
      | with_reducible apply RF.Gr_clearComment | with_reducible apply RF.Gr_createDoctype
      | with_reducible apply RF.Gr_pushDoctypeName | with_reducible apply RF.Gr_pushDoctypeId
      | with_reducible apply RF.Gr_clearDoctypeId | with_reducible apply RF.Gr_forceQuirks
      | with_reducible apply CF.G_emitChar
      | with_reducible apply CF.G_emitChars | with_reducible apply CF.G_badChar
      | with_reducible apply CF.G_badEof | with_reducible apply CF.G_emitTempBuf
      | with_reducible apply CF.G_emitComment | with_reducible apply CF.G_emitDoctype
      | with_reducible apply CF.G_createAttr | with_reducible apply CF.G_finishAttribute
      | with_reducible apply CF.G_tagPrologue | with_reducible apply RF.Gr_takeTag
      | with_reducible apply RF.Gr_selfClosing | with_reducible apply RF.Gr_ite
      | with_reducible apply CF.G_emitTag
      | with_reducible apply RF.Gr_consumeCharRef
      | with_reducible apply RF.Gr_setCurrentChar | with_reducible apply RF.Gr_setIgnoreLf
      | with_reducible apply RF.Gr_setReconsume | with_reducible apply RF.Gr_setCharRef
      | with_reducible apply RF.Gr_setAtEof | with_reducible apply RF.Gr_setDiscardBom
      | with_reducible apply RF.Gr_setTempBuf
      | with_reducible apply RF.Gr_bumpLine | with_reducible apply CF.G_emitErrL | with_reducible apply CF.G_emitErr
      | with_reducible apply RF.Gr_discardChar
      | assumption
      | (simp only [emitChar_tempBuf, discardTag_tempBuf]; assumption))))

namespace CF

/-! ### the tables from OUTSIDE the family -/

/-- result of a table arm from outside the family: no empty character token, not in the family, `TmpInv` -/
def OK (m y : Mach) : Prop := RF.Gr NE m y ∧ CdataFam y.state = false ∧ TmpInv y

end CF

/-- the two register facts of `CF.OK` for a table arm; `hs : m.state = _` is the case of the table -/
macro "cf_regs" hs:ident : tactic =>
  `(tactic| (refine ⟨?_, ?_⟩
             · first
               | exact CF.emitTag_cd _ _
               | (simp only [emitChar_state, emitChars_state, badChar_state, to_state, reconsumeTo_state,
                    discardTag_state, createTag_state, pushTag_state, pushTemp_state, clearTemp_state,
                    emitTempBuf_state, createAttr_state, pushName_state, pushValue_state, appendValue_state,
                    pushComment_state, appendComment_state, clearComment_state, emitComment_state,
                    createDoctype_state, pushDoctypeName_state, pushDoctypeId_state, clearDoctypeId_state,
                    forceQuirks_state, emitDoctype_state, consumeCharRef_state, emit_state, badEof_state,
                    emitErr_state, $hs:ident]
                  try rfl)
             · first
               | exact CF.tmp_of_state (CF.emitTag_ret _ _)
               | (apply CF.tmp_of_state
                  simp only [emitChar_state, emitChars_state, badChar_state, to_state, reconsumeTo_state,
                    discardTag_state, createTag_state, pushTag_state, pushTemp_state, clearTemp_state,
                    emitTempBuf_state, createAttr_state, pushName_state, pushValue_state, appendValue_state,
                    pushComment_state, appendComment_state, clearComment_state, emitComment_state,
                    createDoctype_state, pushDoctypeName_state, pushDoctypeId_state, clearDoctypeId_state,
                    forceQuirks_state, emitDoctype_state, consumeCharRef_state, emit_state, badEof_state,
                    emitErr_state, $hs:ident]
                  try rfl
                  done)
               | (apply CF.tmp_of_buf
                  first
                  | assumption
                  | simp only [to_tempBuf, pushTemp_tempBuf, ne_eq, List.append_eq_nil_iff, List.cons_ne_self,
                      and_false, not_false_eq_true, reduceCtorEq])))

/-- `cf_regs` with the emit-tag form recognised by its shape -/
macro "cf_ctl" hs:ident : tactic =>
  `(tactic| (refine ⟨?_, ?_⟩
             · first
               | with_reducible exact CF.emitTag_cd _ _
               | (simp only [emitChar_state, emitChars_state, badChar_state, to_state, reconsumeTo_state,
                    discardTag_state, createTag_state, pushTag_state, pushTemp_state, clearTemp_state,
                    emitTempBuf_state, createAttr_state, pushName_state, pushValue_state, appendValue_state,
                    pushComment_state, appendComment_state, clearComment_state, emitComment_state,
                    createDoctype_state, pushDoctypeName_state, pushDoctypeId_state, clearDoctypeId_state,
                    forceQuirks_state, emitDoctype_state, consumeCharRef_state, emit_state, badEof_state,
                    emitErr_state, $hs:ident]
                  try rfl)
             · first
               | with_reducible exact CF.tmp_of_state (CF.emitTag_ret _ _)
               | (apply CF.tmp_of_state
                  simp only [emitChar_state, emitChars_state, badChar_state, to_state, reconsumeTo_state,
                    discardTag_state, createTag_state, pushTag_state, pushTemp_state, clearTemp_state,
                    emitTempBuf_state, createAttr_state, pushName_state, pushValue_state, appendValue_state,
                    pushComment_state, appendComment_state, clearComment_state, emitComment_state,
                    createDoctype_state, pushDoctypeName_state, pushDoctypeId_state, clearDoctypeId_state,
                    forceQuirks_state, emitDoctype_state, consumeCharRef_state, emit_state, badEof_state,
                    emitErr_state, $hs:ident]
                  try rfl
                  done)
               | (apply CF.tmp_of_buf
                  first
                  | assumption
                  | simp only [to_tempBuf, pushTemp_tempBuf, ne_eq, List.append_eq_nil_iff, List.cons_ne_self,
                      and_false, not_false_eq_true, reduceCtorEq])))


namespace CF

/-- the `get_char!` table from outside the family -/
theorem transChar_ok (o : Opts) (pol : Pol) {m0 m : Mach} (hn : CdataFam m.state = false) (ht : TmpInv m)
    (hG : RF.Gr NE m0 m) (c : Char) : OK m0 (transChar o pol m c).1 := by
  unfold OK
  unfold transChar
  generalize hs : m.state = s at hn
  cases s <;> first | (exfalso; cases hn; done) | skip
  all_goals (try (have htb : m.tempBuf ≠ [] := ht ⟨_, hs⟩))
  all_goals (clear ht hn)
  all_goals (try (rename_i k; cases k))
  all_goals (try (rename_i k; cases k))
  all_goals (dsimp only)
  all_goals ((repeat' split) <;> (try dsimp only) <;> (refine ⟨by cf_chain hG, ?_⟩) <;> cf_ctl hs)

/-- the `pop_except_from` table from outside the family (a run of characters is never empty) -/
theorem transSet_ok (o : Opts) (pol : Pol) {m0 m : Mach} (hn : CdataFam m.state = false) (ht : TmpInv m)
    (hG : RF.Gr NE m0 m) (r : SetRes) (hr : ∀ b, r = .notFromSet b → b ≠ []) : OK m0 (transSet o pol m r).1 := by
  unfold OK
  unfold transSet
  generalize hs : m.state = s at hn
  cases s <;> first | (exfalso; cases hn; done) | skip
  all_goals (try (have htb : m.tempBuf ≠ [] := ht ⟨_, hs⟩))
  all_goals (clear ht hn)
  all_goals (try (rename_i k; cases k))
  all_goals (try (rename_i k; cases k))
  all_goals (cases r)
  all_goals (try (have hb := hr _ rfl))
  all_goals (clear hr)
  all_goals (dsimp only)
  all_goals ((repeat' split) <;> (try dsimp only) <;> (refine ⟨by cf_chain hG, ?_⟩) <;> cf_ctl hs)

/-! ### the reader and the character-reference sub-tokenizer: no empty character token, `state` and `temp_buf`
kept -/

/-- the log grows without empty character tokens; the `state` and `tempBuf` registers are unchanged -/
def K (m x : Mach) : Prop := RF.Gr NE m x ∧ x.state = m.state ∧ x.tempBuf = m.tempBuf

theorem K.refl (m : Mach) : K m m := ⟨RF.Gr.refl NE m, rfl, rfl⟩

theorem K.trans {m x y : Mach} (h1 : K m x) (h2 : K x y) : K m y :=
  ⟨h1.1.trans h2.1, h2.2.1.trans h1.2.1, h2.2.2.trans h1.2.2⟩

section
variable {m x : Mach}

theorem K_emit (h : K m x) (t : Token) (ht : NE t) : K m (emit x t) := ⟨RF.Gr_emit h.1 t ht, h.2.1, h.2.2⟩
theorem K_emitErr (h : K m x) (s : String) : K m (emitErr x s) := K_emit h _ rfl
theorem K_emitErrL (h : K m x) (s : Str) : K m (emit x (.error s)) := K_emit h _ rfl
theorem K_setIgnoreLf (h : K m x) (b : Bool) : K m (x.setIgnoreLf b) := h
theorem K_setReconsume (h : K m x) (b : Bool) : K m (x.setReconsume b) := h
theorem K_setCharRef (h : K m x) (c : Option CharRefSt) : K m (x.setCharRef c) := h
theorem K_setAtEof (h : K m x) (b : Bool) : K m (x.setAtEof b) := h
theorem K_bumpLine (h : K m x) : K m x.bumpLine := h
theorem K_setCurrentChar (h : K m x) (c : Char) : K m (x.setCurrentChar c) := h
theorem K_pushValue (h : K m x) (c : Char) : K m (pushValue c x) := h

theorem K_discardChar (h : K m x) (inp : Str) : K m (discardChar x inp).1 := by
  unfold discardChar; split <;> exact h

theorem K_numericErr (h : K m x) (o : Opts) (n : Nat) : K m (numericErr o x n) := by
  unfold numericErr; split
  · exact K_emitErrL h _
  · exact K_emitErr h _

theorem K_nameErr (h : K m x) (o : Opts) (nb : Str) : K m (nameErr o x nb) := by
  unfold nameErr; split
  · exact K_emitErrL h _
  · exact K_emitErr h _

theorem K_emitChar (h : K m x) (c : Char) : K m (emitChar x c) := by
  unfold emitChar; split
  · exact K_emit h _ rfl
  · exact K_emit h _ rfl

end

end CF

/-- the chain with the setters of the reader, for `CF.K` -/
macro "cfk_rd" h:ident : tactic =>
  `(tactic| (repeat' (first
      | with_reducible exact $h
      | with_reducible apply CF.K_setCurrentChar | with_reducible apply CF.K_setIgnoreLf
      | with_reducible apply CF.K_setReconsume
      | with_reducible apply CF.K_setAtEof
      | with_reducible apply CF.K_bumpLine | with_reducible apply CF.K_emitErrL
      | with_reducible apply CF.K_emitErr
      | with_reducible apply CF.K_discardChar
      | with_reducible apply CF.K_nameErr | with_reducible apply CF.K_numericErr)))

namespace CF

section
variable {m x : Mach}

theorem foldChar_k (o : Opts) (h : K m x) (c : Char) : K m (foldChar o x c).2 := by
  unfold foldChar
  dsimp only
  split <;> split <;> split <;> cfk_rd h

theorem preprocess_k (o : Opts) (h : K m x) (c : Char) (inp : Str) : K m (preprocess o x c inp).2.1 := by
  unfold preprocess
  split
  · split
    · cases inp with
      | nil => exact h
      | cons y ys => exact foldChar_k o (K_setIgnoreLf h false) y
    · exact foldChar_k o (K_setIgnoreLf h false) c
  · exact foldChar_k o h c

theorem getChar_k (o : Opts) (h : K m x) (inp : Str) : K m (getChar o x inp).2.1 := by
  unfold getChar
  split
  · exact h
  · cases inp with
    | nil => exact h
    | cons c rest => exact preprocess_k o h c rest

theorem popExceptFrom_k (o : Opts) (S : List Char) (h : K m x) (inp : Str) : K m (popExceptFrom o S x inp).2.1 := by
  unfold popExceptFrom
  split
  · exact getChar_k o h inp
  · cases inp with
    | nil => exact h
    | cons c rest =>
      dsimp only
      split
      · exact preprocess_k o h c rest
      · exact h

theorem readData_k (o : Opts) (h : K m x) (inp : Str) : K m (readData o x inp).2.1 := by
  unfold readData
  split
  · exact popExceptFrom_k o _ h inp
  · cases inp with
    | nil => exact h
    | cons c rest =>
      dsimp only
      split
      · exact popExceptFrom_k o _ h (c :: rest)
      · split <;> exact h

/-- a run of characters returned by `pop_except_from` is one character -/
theorem popExceptFrom_run (o : Opts) (S : List Char) (x : Mach) (inp : Str) (b : Str)
    (h : (popExceptFrom o S x inp).1 = some (.notFromSet b)) : b ≠ [] := by
  unfold popExceptFrom at h
  split at h
  · dsimp only at h
    cases hg : (getChar o x inp).1 <;> rw [hg] at h <;> simp at h
  · cases inp with
    | nil => simp at h
    | cons c rest =>
      dsimp only at h
      split at h
      · dsimp only at h
        cases hg : (preprocess o x c rest).1 <;> rw [hg] at h <;> simp at h
      · simp only [Option.some.injEq, SetRes.notFromSet.injEq] at h
        rw [← h]; exact List.cons_ne_nil _ _

theorem readData_run (o : Opts) (x : Mach) (inp : Str) (b : Str)
    (h : (readData o x inp).1 = some (.notFromSet b)) : b ≠ [] := by
  unfold readData at h
  split at h
  · exact popExceptFrom_run o _ x inp b h
  · cases inp with
    | nil => simp at h
    | cons c rest =>
      dsimp only at h
      split at h
      · exact popExceptFrom_run o _ x _ b h
      · simp only [Option.some.injEq, SetRes.notFromSet.injEq] at h
        rw [← h]; exact List.cons_ne_nil _ _

/-- `eat`: nothing is logged, the state is kept (the temporary buffer is the look-ahead stash) -/
def KS (m x : Mach) : Prop := RF.Gr NE m x ∧ x.state = m.state

theorem K.ks (h : K m x) : KS m x := ⟨h.1, h.2.1⟩

theorem eatSkipLf_ks (h : KS m x) (inp : Str) : KS m (eatSkipLf x inp).1 := by
  unfold eatSkipLf discardChar
  repeat' split
  all_goals exact h

theorem eat_ks (h : KS m x) (inp pat : Str) (eq : Char → Char → Bool) : KS m (eat x inp pat eq).2.1 := by
  rw [eat_eq_core]
  have hs := eatSkipLf_ks h inp
  generalize (eatSkipLf x inp).2 = i1
  generalize (eatSkipLf x inp).1 = m1 at hs
  unfold eatCore
  split
  · exact hs
  · exact hs
  · split <;> exact hs

theorem eat_out' (x : Mach) (inp pat : Str) (eq : Char → Char → Bool) : (eat x inp pat eq).2.1.out = x.out :=
  eat_out x _ inp _ pat eq _ rfl

/-! #### character references -/

/-- a char-ref step result -/
def CRK (m : Mach) : CRRes → Prop
  | .ok v => K m v.1
  | .error _ => True

theorem finishNumericStatus_k (o : Opts) (hk : K m x) (cr : CharRefSt) (inp : Str) :
    CRK m (finishNumericStatus o x inp cr) := by
  unfold finishNumericStatus finishNumeric
  dsimp only
  generalize numericValue cr = v
  obtain ⟨v1, v2⟩ := v
  cases v1 with
  | error e => trivial
  | ok c =>
    cases v2
    · exact hk
    · exact K_numericErr hk _ _

theorem namedDecision_k (hk : K m x) (cr : CharRefSt) (nb : Str) (c1 c2 : Nat) (m1 : Mach) (chars : Str)
    (h : namedDecision x cr nb c1 c2 = .ok (some (m1, chars))) : K m m1 := by
  rcases (namedDecision_inv h).1 with rfl | rfl <;> cfk_rd hk

theorem finishNamed_k (o : Opts) (hk : K m x) (cr : CharRefSt) (inp : Str) (e : Option Char) :
    CRK m (finishNamed o x inp cr e) := by
  unfold finishNamed
  split
  · trivial
  · split
    · dsimp only
      (repeat' split) <;> (show K m _) <;> cfk_rd hk
    · split
      · trivial
      · exact hk
      · rename_i m1 chars hnd
        exact namedDecision_k hk _ _ _ _ _ _ hnd

theorem crStep_k (o : Opts) (m : Mach) (inp : Str) (cr : CharRefSt) : CRK m (crStep o m inp cr) := by
  have hk := K.refl m
  unfold crStep unconsumeNumeric
  dsimp only
  split
  · exact hk
  · split <;> (repeat' split) <;>
      first
      | trivial
      | exact finishNumericStatus_k o (K_discardChar hk _) _ _
      | exact finishNumericStatus_k o (K_emitErr hk _) _ _
      | exact finishNamed_k o (K_discardChar hk _) _ _ _
      | ((show K m _); cfk_rd hk)

theorem foldl_emitChar_k (cs : Str) : ∀ {x : Mach}, K m x → K m (cs.foldl emitChar x) := by
  induction cs with
  | nil => intro x h; exact h
  | cons c cs ih => intro x h; exact ih (K_emitChar h c)

theorem foldl_pushValue_k (cs : Str) : ∀ {x : Mach}, K m x → K m (cs.foldl (fun m c => pushValue c m) x) := by
  induction cs with
  | nil => intro x h; exact h
  | cons c cs ih => intro x h; exact ih (K_pushValue h c)

theorem processCharRef_k (h : K m x) (chars : Str) : K m (processCharRef x chars).1 := by
  unfold processCharRef
  dsimp only
  split
  · exact foldl_emitChar_k _ h
  · exact foldl_emitChar_k _ h
  · exact foldl_pushValue_k _ h
  · exact h

theorem crEofOnceE_k (o : Opts) (hk : K m x) (cr : CharRefSt) (inp : Str) : CRK m (crEofOnceE o x inp cr) := by
  unfold crEofOnceE unconsumeNumeric
  split <;> (repeat' split) <;>
    first
    | trivial
    | exact finishNumericStatus_k o (K_emitErr hk _) _ _
    | exact finishNamed_k o hk _ _ _
    | ((show K m _); cfk_rd hk)

/-- result of the char-ref tokenizer's `end_of_file` -/
def CEK (m : Mach) : Except String (Mach × Str × Str) → Prop
  | .ok v => K m v.1
  | .error _ => True

theorem crEofLast_k {r : CRRes} (h : CRK m r) : CEK m (crEofLast r) := by
  cases r with
  | error e => trivial
  | ok v =>
    obtain ⟨m1, i1, c1, s1⟩ := v
    cases s1 <;> exact h

theorem crEofDrive_k (o : Opts) {r : CRRes} (h : CRK m r) : CEK m (crEofDrive o r) := by
  cases r with
  | error e => trivial
  | ok v =>
    obtain ⟨m1, i1, c1, s1⟩ := v
    cases s1 with
    | done chars => exact h
    | stuck => exact h
    | progress => exact crEofLast_k (crEofOnceE_k o h _ _)

theorem crEof_k (o : Opts) (m : Mach) (inp : Str) (cr : CharRefSt) : CEK m (crEof o m inp cr) := by
  rw [crEof_eqE]
  exact crEofDrive_k o (crEofOnceE_k o (K.refl m) _ inp)

end

/-! ### a step from OUTSIDE the family -/

/-- `eat`: nothing is logged, the state is kept (the temporary buffer is the look-ahead stash) -/
def KE (m x : Mach) : Prop := x.out = m.out ∧ x.state = m.state

theorem KE.refl (m : Mach) : KE m m := ⟨rfl, rfl⟩

theorem KE.gr {m x : Mach} (h : KE m x) : RF.Gr NE m x := ⟨[], by rw [h.1]; rfl, fun _ hp => by cases hp⟩

theorem eat_ke {m x : Mach} (h : KE m x) (inp pat : Str) (eq : Char → Char → Bool) : KE m (eat x inp pat eq).2.1 :=
  ⟨(eat_out' x inp pat eq).trans h.1, (eat_ks (m := x) ⟨RF.Gr.refl NE x, rfl⟩ inp pat eq).2.trans h.2⟩

theorem TmpInv_k {m x : Mach} (h : K m x) (ht : TmpInv m) : TmpInv x := by
  intro ⟨k, hk⟩
  rw [h.2.2]
  exact ht ⟨k, by rw [← h.2.1]; exact hk⟩

theorem OK_k {m x : Mach} (hn : CdataFam m.state = false) (ht : TmpInv m) (h : K m x) : OK m x :=
  ⟨h.1, by rw [h.2.1]; exact hn, TmpInv_k h ht⟩

theorem OK_st {m x : Mach} (hg : RF.Gr NE m x) (h1 : CdataFam x.state = false) (h2 : isRawEndTagName x.state = false) :
    OK m x := ⟨hg, h1, tmp_of_state h2⟩

theorem OK_to {m x : Mach} (hg : RF.Gr NE m x) (s : State) (h1 : CdataFam s = false)
    (h2 : isRawEndTagName s = false) : OK m (to s x) := OK_st (RF.Gr_to hg s) h1 h2

theorem OK_emitTag {m x : Mach} (hg : RF.Gr NE m x) (pol : Pol) : OK m (emitTag pol .data x).1 :=
  OK_st (G_emitTag hg pol .data) (emitTag_cd pol x) (emitTag_ret pol x)

/-- what `step_tmpInv` and `step_notCdata` say of the machine `y` a step from `m` leads to -/
def Res (pol : Pol) (m y : Mach) : Prop :=
  (∃ new, y.out = new ++ m.out ∧ (∀ p ∈ new, isEmptyChars p.1 = false) ∧
    (CdataFam y.state = true → pol.cdataOk m.out = true ∧ new = [])) ∧ TmpInv y

theorem Res_ok {pol : Pol} {m y : Mach} (h : OK m y) : Res pol m y := by
  obtain ⟨⟨n, e, p⟩, hc, ht⟩ := h
  refine ⟨⟨n, e, p, fun hc2 => ?_⟩, ht⟩
  rw [hc] at hc2
  cases hc2

/-- a step result from outside the family -/
def RRes (pol : Pol) (m : Mach) (r : R) : Prop := ∀ m1 i1, r.pair? = some (m1, i1) → Res pol m m1

theorem RRes_cont {pol : Pol} {m x : Mach} (h : Res pol m x) (i : Str) : RRes pol m (.cont x i) := by
  intro m1 i1 e
  simp only [R.pair?, Option.some.injEq, Prod.mk.injEq] at e
  obtain ⟨rfl, rfl⟩ := e
  exact h

theorem RRes_suspend {pol : Pol} {m x : Mach} (h : Res pol m x) (i : Str) : RRes pol m (.suspend x i) := by
  intro m1 i1 e
  simp only [R.pair?, Option.some.injEq, Prod.mk.injEq] at e
  obtain ⟨rfl, rfl⟩ := e
  exact h

theorem RRes_panic {pol : Pol} {m : Mach} (s : String) : RRes pol m (.panic s) := by
  intro m1 i1 e
  simp [R.pair?] at e

theorem RRes_ofSig {pol : Pol} {m : Mach} {y : Mach × Sig} (h : Res pol m y.1) (i : Str) : RRes pol m (ofSig y i) := by
  intro m1 i1 e
  obtain ⟨e1, _⟩ := ofSig_pair _ _ _ _ e
  subst e1
  exact h

theorem contChar_res (o : Opts) (pol : Pol) {m0 : Mach} (hn : CdataFam m0.state = false)
    (r : Option Char × Mach × Str) (hg : RF.Gr NE m0 r.2.1) (hst : r.2.1.state = m0.state) (ht : TmpInv r.2.1) :
    RRes pol m0 (contChar o pol r) := by
  obtain ⟨c, m1, i1⟩ := r
  have hn1 : CdataFam m1.state = false := by rw [hst]; exact hn
  cases c with
  | none => exact RRes_suspend (Res_ok ⟨hg, hn1, ht⟩) _
  | some c => exact RRes_ofSig (Res_ok (transChar_ok o pol hn1 ht hg c)) i1

theorem contSet_res (o : Opts) (pol : Pol) {m0 : Mach} (hn : CdataFam m0.state = false) (ht : TmpInv m0)
    (r : Option SetRes × Mach × Str) (hk : K m0 r.2.1) (hrun : ∀ b, r.1 = some (.notFromSet b) → b ≠ []) :
    RRes pol m0 (contSet o pol r) := by
  obtain ⟨c, m1, i1⟩ := r
  have hn1 : CdataFam m1.state = false := by rw [hk.2.1]; exact hn
  cases c with
  | none => exact RRes_suspend (Res_ok (OK_k hn ht hk)) _
  | some c =>
    refine RRes_ofSig (Res_ok (transSet_ok o pol hn1 (TmpInv_k hk ht) hk.1 c ?_)) i1
    intro b hb
    exact hrun b (by rw [hb])

theorem stepCharRef_res (o : Opts) (pol : Pol) {m : Mach} (hn : CdataFam m.state = false) (ht : TmpInv m)
    (inp : Str) (cr : CharRefSt) : RRes pol m (stepCharRef o m inp cr) := by
  unfold stepCharRef
  have h1 := crStep_k o m inp cr
  generalize crStep o m inp cr = r at h1
  cases r with
  | error e => exact RRes_panic _
  | ok v =>
    obtain ⟨m1, i1, c1, s1⟩ := v
    cases s1 with
    | stuck => exact RRes_suspend (Res_ok (OK_k hn ht (K_setCharRef h1 _))) _
    | progress => exact RRes_cont (Res_ok (OK_k hn ht (K_setCharRef h1 _))) _
    | done chars =>
      dsimp only
      exact RRes_ofSig (y := ((processCharRef m1 chars).1.setCharRef none, _))
        (Res_ok (OK_k hn ht (K_setCharRef (processCharRef_k h1 chars) none))) i1

theorem stepBav_res (o : Opts) (pol : Pol) {m : Mach} (hs : m.state = .beforeAttributeValue) (inp : Str) :
    RRes pol m (stepBav o pol m inp) := by
  have hn : CdataFam m.state = false := by rw [hs]; rfl
  have ht : TmpInv m := tmp_of_state (by rw [hs]; rfl)
  have h := K.refl m
  unfold stepBav
  cases peek m inp with
  | none => exact RRes_suspend (Res_ok (OK_k hn ht h)) _
  | some c =>
    dsimp only
    have hm : K m (if m.ignoreLf = true then m.setIgnoreLf false else m) := by
      split <;> exact h
    generalize (if m.ignoreLf = true then m.setIgnoreLf false else m) = m' at hm
    have hd := K_discardChar hm inp
    split
    · exact RRes_cont (Res_ok (OK_k hn ht hd)) _
    · split
      · have hg := getChar_k o hm inp
        generalize getChar o m' inp = r at hg
        obtain ⟨c1, m1, i1⟩ := r
        cases c1
        · exact RRes_suspend (Res_ok (OK_k hn ht hg)) _
        · exact RRes_cont (Res_ok (OK_k hn ht hg)) _
      · repeat' split
        all_goals
          first
          | exact RRes_cont (Res_ok (OK_k hn ht hd)) _
          | exact RRes_cont (Res_ok (OK_to hd.1 _ rfl rfl)) _
          | exact RRes_cont (Res_ok (OK_to hm.1 _ rfl rfl)) _
          | exact RRes_ofSig (Res_ok (OK_emitTag (G_badChar hd.1 o) pol)) _

theorem OK_ke {m x : Mach} (hn : CdataFam m.state = false) (hr : isRawEndTagName m.state = false) (h : KE m x) :
    OK m x := OK_st h.gr (by rw [h.2]; exact hn) (by rw [h.2]; exact hr)

theorem stepMdo_res (o : Opts) (pol : Pol) {m : Mach} (hs : m.state = .markupDeclarationOpen) (inp : Str) :
    RRes pol m (stepMdo o pol m inp) := by
  have hn : CdataFam m.state = false := by rw [hs]; rfl
  have hr : isRawEndTagName m.state = false := by rw [hs]; rfl
  have h := KE.refl m
  unfold stepMdo
  have e1 := eat_ke h inp kwDashDash eqExact
  generalize eat m inp kwDashDash eqExact = r1 at e1
  obtain ⟨x1, m1, i1⟩ := r1
  cases x1 with
  | none => exact RRes_suspend (Res_ok (OK_ke hn hr e1)) _
  | some t1 =>
    cases t1 with
    | true => exact RRes_cont (Res_ok (OK_to (RF.Gr_clearComment e1.gr) _ rfl rfl)) _
    | false =>
      dsimp only
      have e2 := eat_ke e1 i1 kwDoctype eqCi
      generalize eat m1 i1 kwDoctype eqCi = r2 at e2
      obtain ⟨x2, m2, i2⟩ := r2
      cases x2 with
      | none => exact RRes_suspend (Res_ok (OK_ke hn hr e2)) _
      | some t2 =>
        cases t2 with
        | true => exact RRes_cont (Res_ok (OK_to e2.gr _ rfl rfl)) _
        | false =>
          dsimp only
          split
          · rename_i hcd
            have e3 := eat_ke e2 i2 kwCdata eqExact
            generalize eat m2 i2 kwCdata eqExact = r3 at e3
            obtain ⟨x3, m3, i3⟩ := r3
            cases x3 with
            | none => exact RRes_suspend (Res_ok (OK_ke hn hr e3)) _
            | some t3 =>
              cases t3 with
              | true =>
                -- the family is entered: the sink allowed CDATA, nothing was delivered
                refine RRes_cont ⟨⟨[], ?_, (fun _ hp => by cases hp), fun _ => ⟨?_, rfl⟩⟩, tmp_of_state rfl⟩ _
                · show m3.out = [] ++ m.out
                  rw [e3.1]; rfl
                · have e2o : m2.out = m.out := e2.1
                  rw [← e2o]; exact hcd
              | false => exact RRes_cont (Res_ok (OK_to (RF.Gr_clearComment (G_badChar e3.gr o)) _ rfl rfl)) _
          · exact RRes_cont (Res_ok (OK_to (RF.Gr_clearComment (G_badChar e2.gr o)) _ rfl rfl)) _

theorem stepAdn_res (o : Opts) (pol : Pol) {m : Mach} (hs : m.state = .afterDoctypeName) (inp : Str) :
    RRes pol m (stepAdn o pol m inp) := by
  have hn : CdataFam m.state = false := by rw [hs]; rfl
  have hr : isRawEndTagName m.state = false := by rw [hs]; rfl
  have h := KE.refl m
  unfold stepAdn
  have e1 := eat_ke h inp kwPublic eqCi
  generalize eat m inp kwPublic eqCi = r1 at e1
  obtain ⟨x1, m1, i1⟩ := r1
  cases x1 with
  | none => exact RRes_suspend (Res_ok (OK_ke hn hr e1)) _
  | some t1 =>
    cases t1 with
    | true => exact RRes_cont (Res_ok (OK_to e1.gr _ rfl rfl)) _
    | false =>
      dsimp only
      have e2 := eat_ke e1 i1 kwSystem eqCi
      generalize eat m1 i1 kwSystem eqCi = r2 at e2
      obtain ⟨x2, m2, i2⟩ := r2
      cases x2 with
      | none => exact RRes_suspend (Res_ok (OK_ke hn hr e2)) _
      | some t2 =>
        cases t2 with
        | true => exact RRes_cont (Res_ok (OK_to e2.gr _ rfl rfl)) _
        | false =>
          dsimp only
          have hg := getChar_k o (K.refl m2) i2
          have hst : (getChar o m2 i2).2.1.state = m.state := hg.2.1.trans e2.2
          exact contChar_res o pol hn (getChar o m2 i2) (e2.gr.trans hg.1) hst
            (tmp_of_state (by rw [hst]; exact hr))

theorem readKind_fam {s : State} (h : CdataFam s = true) : readKind s = .getChar := by
  cases s <;> first | rfl | cases h

theorem step_res (o : Opts) (pol : Pol) {m : Mach} (hn : CdataFam m.state = false) (ht : TmpInv m) (inp : Str) :
    RRes pol m (step o pol m inp) := by
  cases hcr : m.charRef with
  | some cr =>
    rw [step_kind_charRef o pol m inp cr hcr]
    exact stepCharRef_res o pol hn ht inp cr
  | none =>
    cases hrk : readKind m.state with
    | getChar =>
      rw [step_getChar o pol m inp hcr hrk]
      have hg := getChar_k o (K.refl m) inp
      exact contChar_res o pol hn _ hg.1 hg.2.1 (TmpInv_k hg ht)
    | popExcept =>
      rw [step_popExcept o pol m inp hcr hrk]
      exact contSet_res o pol hn ht _ (popExceptFrom_k o _ (K.refl m) inp) (popExceptFrom_run o _ m inp)
    | dataSimd =>
      rw [step_dataSimd o pol m inp hcr hrk]
      exact contSet_res o pol hn ht _ (readData_k o (K.refl m) inp) (readData_run o m inp)
    | peekBav =>
      rw [step_kind_bav o pol m inp hcr hrk]
      exact stepBav_res o pol (RF.readKind_bav hrk) inp
    | eatMdo =>
      rw [step_kind_mdo o pol m inp hcr hrk]
      exact stepMdo_res o pol (readKind_mdo hrk) inp
    | eatAdn =>
      rw [step_kind_adn o pol m inp hcr hrk]
      exact stepAdn_res o pol (readKind_adn hrk) inp

/-! ### a step from INSIDE the family -/

/-- result of a step from inside the family: character tokens, U+0000 tokens, parse errors; not in
`RawEndTagName` -/
def IN (m y : Mach) : Prop := RF.Gr RF.CEN m y ∧ isRawEndTagName y.state = false

theorem transChar_in (o : Opts) (pol : Pol) {m0 m : Mach} (hc : CdataFam m.state = true) (hG : RF.Gr RF.CEN m0 m)
    (c : Char) : IN m0 (transChar o pol m c).1 := by
  unfold IN
  unfold transChar
  generalize hs : m.state = s at hc
  cases s <;> first | (exfalso; cases hc; done) | skip
  all_goals (dsimp only)
  all_goals ((repeat' split) <;> (refine ⟨by rfg_chain hG, ?_⟩) <;>
    (simp only [emitChar_state, to_state, reconsumeTo_state, pushTemp_state, emitTempBuf_state, hs]
     try rfl))

def RIn (m : Mach) (r : R) : Prop := ∀ m1 i1, r.pair? = some (m1, i1) → IN m m1

theorem fam_ret {s : State} (h : CdataFam s = true) : isRawEndTagName s = false := by
  cases s <;> first | rfl | cases h

theorem step_in (o : Opts) (pol : Pol) {m : Mach} (hc : CdataFam m.state = true) (inp : Str) :
    RIn m (step o pol m inp) := by
  intro m1 i1 hs
  cases hcr : m.charRef with
  | some cr =>
    rw [step_kind_charRef o pol m inp cr hcr] at hs
    unfold stepCharRef at hs
    have h1 := RF.crStep_crk (P := RF.CEN) o m inp cr
    generalize crStep o m inp cr = r at h1 hs
    cases r with
    | error e => simp [R.pair?] at hs
    | ok v =>
      obtain ⟨m2, i2, c2, s2⟩ := v
      obtain ⟨hk, _⟩ := h1
      cases s2 with
      | stuck =>
        simp only [R.pair?, Option.some.injEq, Prod.mk.injEq] at hs
        obtain ⟨rfl, _⟩ := hs
        exact ⟨RF.Gr_setCharRef hk.1 _, by show isRawEndTagName m2.state = false; rw [hk.2.1]; exact fam_ret hc⟩
      | progress =>
        simp only [R.pair?, Option.some.injEq, Prod.mk.injEq] at hs
        obtain ⟨rfl, _⟩ := hs
        exact ⟨RF.Gr_setCharRef hk.1 _, by show isRawEndTagName m2.state = false; rw [hk.2.1]; exact fam_ret hc⟩
      | done chars =>
        dsimp only at hs
        obtain ⟨e1, _⟩ := ofSig_pair _ _ _ _ hs
        subst e1
        have hp := RF.processCharRef_keep hk chars
        exact ⟨RF.Gr_setCharRef hp.1 none, by
          show isRawEndTagName (processCharRef m2 chars).1.state = false
          rw [hp.2.1]; exact fam_ret hc⟩
  | none =>
    rw [step_getChar o pol m inp hcr (readKind_fam hc)] at hs
    have hg := RF.getChar_keep (P := RF.CEN) o (RF.Keep.refl RF.CEN m) inp
    generalize getChar o m inp = r at hg hs
    obtain ⟨c, m2, i2⟩ := r
    cases c with
    | none =>
      simp only [contChar, R.pair?, Option.some.injEq, Prod.mk.injEq] at hs
      obtain ⟨rfl, _⟩ := hs
      exact ⟨hg.1, by rw [hg.2.1]; exact fam_ret hc⟩
    | some c =>
      simp only [contChar] at hs
      obtain ⟨e1, _⟩ := ofSig_pair _ _ _ _ hs
      subst e1
      exact transChar_in o pol (by rw [hg.2.1]; exact hc) hg.1 c

/-! ### `eof_step` -/

/-- character tokens, parse errors, the end-of-file token -/
def CEE4 (t : Token) : Prop := (∃ x, t = .chars x) ∨ (∃ e, t = .error e) ∨ t = .eof

instance : RF.PC CEE4 := ⟨fun s => Or.inr (Or.inl ⟨s, rfl⟩), fun s => Or.inl ⟨s, rfl⟩⟩
instance : RF.PE CEE4 := ⟨Or.inr (Or.inr rfl)⟩

/-- the states `eof_step` runs through when started in the family -/
def eofCd (s : State) : Bool := CdataFam s || s == .data

theorem transEof_cd (o : Opts) {m0 m : Mach} (hf : eofCd m.state = true) (hg : RF.Gr CEE4 m0 m) :
    RF.Gr CEE4 m0 (transEof o m).1 ∧ ((transEof o m).2 = .cont → eofCd (transEof o m).1.state = true) := by
  unfold transEof
  generalize hs : m.state = s at hf ⊢
  cases s <;> first | (exfalso; simp [eofCd, CdataFam] at hf; done) | skip
  all_goals (dsimp only)
  all_goals
    first
    | exact ⟨RF.Gr_emit hg _ RF.PE.eof, fun e => nomatch e⟩
    | exact ⟨by rfg_chain hg, fun _ => rfl⟩

theorem eofLoop_cd (o : Opts) :
    ∀ (n : Nat) {m0 m : Mach}, eofCd m.state = true → RF.Gr CEE4 m0 m → ∀ mf, eofLoop o n m = .ok mf →
      RF.Gr CEE4 m0 mf := by
  intro n
  induction n with
  | zero => intro m0 m _ _ mf e; cases e
  | succ n ih =>
    intro m0 m hf h mf e
    unfold eofLoop at e
    have ht := transEof_cd o hf h
    generalize transEof o m = r at ht e
    obtain ⟨m1, s1⟩ := r
    cases s1 with
    | cont => exact ih (ht.2 rfl) ht.1 mf e
    | done =>
      simp only [Except.ok.injEq] at e
      subst e
      exact ht.1
    | panic x => cases e

/-- the `eof_step` table from outside the family -/
theorem transEof_ok (o : Opts) {m0 m : Mach} (hn : CdataFam m.state = false) (ht : TmpInv m) (hG : RF.Gr NE m0 m) :
    OK m0 (transEof o m).1 := by
  unfold OK
  unfold transEof
  generalize hs : m.state = s at hn
  cases s <;> first | (exfalso; cases hn; done) | skip
  all_goals (try (have htb : m.tempBuf ≠ [] := ht ⟨_, hs⟩))
  all_goals (clear ht hn)
  all_goals (try (rename_i k; cases k))
  all_goals (try (rename_i k; cases k))
  all_goals (dsimp only)
  all_goals (refine ⟨(by first | exact RF.Gr_emit hG _ rfl | cf_chain hG), ?_⟩)
  all_goals (cf_ctl hs)

theorem eofLoop_ok (o : Opts) :
    ∀ (n : Nat) {m0 m : Mach}, CdataFam m.state = false → TmpInv m → RF.Gr NE m0 m → ∀ mf, eofLoop o n m = .ok mf →
      RF.Gr NE m0 mf := by
  intro n
  induction n with
  | zero => intro m0 m _ _ _ mf e; cases e
  | succ n ih =>
    intro m0 m hn htm h mf e
    unfold eofLoop at e
    have ht := transEof_ok o hn htm h
    generalize transEof o m = r at ht e
    obtain ⟨m1, s1⟩ := r
    cases s1 with
    | cont => exact ih ht.2.1 ht.2.2 ht.1 mf e
    | done =>
      simp only [Except.ok.injEq] at e
      subst e
      exact ht.1
    | panic x => cases e

end CF

/-! ### the theorems -/

/-- every step preserves `TmpInv` -/
theorem step_tmpInv (o : Opts) (pol : Pol) (m : Mach) (inp : Str) (h : TmpInv m) (m1 : Mach) (i1 : Str)
    (hs : (step o pol m inp).pair? = some (m1, i1)) : TmpInv m1 := by
  cases hc : CdataFam m.state with
  | false => exact (CF.step_res o pol hc h inp m1 i1 hs).2
  | true => exact CF.tmp_of_state (CF.step_in o pol hc inp m1 i1 hs).2

/-- a step from OUTSIDE the CDATA family delivers no empty character token; if it ENTERS the family, the sink
allowed CDATA at the current history and the step delivered nothing -/
theorem step_notCdata (o : Opts) (pol : Pol) (m : Mach) (inp : Str) (hn : CdataFam m.state = false) (ht : TmpInv m)
    (m1 : Mach) (i1 : Str) (hs : (step o pol m inp).pair? = some (m1, i1)) :
    ∃ new, m1.out = new ++ m.out ∧ (∀ p ∈ new, isEmptyChars p.1 = false) ∧
      (CdataFam m1.state = true → pol.cdataOk m.out = true ∧ new = []) :=
  (CF.step_res o pol hn ht inp m1 i1 hs).1

/-- a step from INSIDE the family delivers only character tokens (possibly empty), U+0000 tokens and parse
errors -/
theorem step_cdata (o : Opts) (pol : Pol) (m : Mach) (inp : Str) (hc : CdataFam m.state = true)
    (m1 : Mach) (i1 : Str) (hs : (step o pol m inp).pair? = some (m1, i1)) :
    ∃ new, m1.out = new ++ m.out ∧ ∀ p ∈ new, (∃ x, p.1 = .chars x) ∨ p.1 = .nullChar ∨ (∃ e, p.1 = .error e) := by
  obtain ⟨n, e, p⟩ := (CF.step_in o pol hc inp m1 i1 hs).1
  refine ⟨n, e, fun q hq => ?_⟩
  rcases p q hq with h | h | h
  · exact Or.inl h
  · exact Or.inr (Or.inr h)
  · exact Or.inr (Or.inl h)

/-- a step from inside the family stays in the family or goes back to `data` … in particular not to
`RawEndTagName` -/
theorem step_cdata_state (o : Opts) (pol : Pol) (m : Mach) (inp : Str) (hc : CdataFam m.state = true)
    (m1 : Mach) (i1 : Str) (hs : (step o pol m inp).pair? = some (m1, i1)) : isRawEndTagName m1.state = false :=
  (CF.step_in o pol hc inp m1 i1 hs).2

/-- `eof_step` from inside the family: only character tokens, parse errors and EOF -/
theorem eofLoop_cdata (o : Opts) (n : Nat) (m m' : Mach) (hc : CdataFam m.state = true) (he : eofLoop o n m = .ok m') :
    ∃ new, m'.out = new ++ m.out ∧ ∀ p ∈ new, (∃ x, p.1 = .chars x) ∨ (∃ e, p.1 = .error e) ∨ p.1 = .eof :=
  CF.eofLoop_cd o n (by unfold CF.eofCd; rw [hc]; rfl) (RF.Gr.refl _ m) m' he

/-- `eof_step` from outside the family: no empty character token -/
theorem eofLoop_notCdata (o : Opts) (n : Nat) (m m' : Mach) (hn : CdataFam m.state = false) (ht : TmpInv m)
    (he : eofLoop o n m = .ok m') : ∃ new, m'.out = new ++ m.out ∧ ∀ p ∈ new, isEmptyChars p.1 = false :=
  CF.eofLoop_ok o n hn ht (RF.Gr.refl _ m) m' he

/-- the flush of a pending character reference at the start of `Tokenizer::end` delivers no empty character
token, keeps the state, keeps the temporary buffer (hence `TmpInv`) -/
theorem crEof_processCharRef_nonEmpty (o : Opts) (m : Mach) (cr : CharRefSt) (ma : Mach) (inp chars : Str) (mb : Mach)
    (sg : Sig) (h1 : crEof o m [] cr = .ok (ma, inp, chars)) (h2 : processCharRef (ma.setCharRef none) chars = (mb, sg)) :
    ∃ new, mb.out = new ++ m.out ∧ (∀ p ∈ new, isEmptyChars p.1 = false) ∧ mb.state = m.state ∧
      mb.tempBuf = m.tempBuf := by
  have hc := CF.crEof_k o m [] cr
  rw [h1] at hc
  have hk : CF.K m ma := hc
  have hp := CF.processCharRef_k (CF.K_setCharRef hk none) chars
  rw [h2] at hp
  obtain ⟨⟨n, e, p⟩, e1, e2⟩ := hp
  exact ⟨n, e, p, e1, e2⟩

end H5V.Lemmas.ParseSpec
