import H5V.Model.XmlTB
/-! Helper lemmas about the tree-builder model: `pop`, `popUntil`, `closeTag` seen through the list
of open element names and the namespace stack; at the end, an equality test on trees (`nodesBeq`) and
`docIsB`, for the evaluated examples. -/
namespace H5V.Lemmas.XmlTB
open H5V.Model.XmlTB

/-- names of the open elements, top first -/
def names (s : State) : List QName := s.opened.map (·.name)

/-- everything `pop` leaves alone -/
structure SameRest (s s' : State) : Prop where
  phase : s'.phase = s.phase
  created : s'.created = s.created
  errors : s'.errors = s.errors
  docBefore : s'.docBefore = s.docBefore
  docAfter : s'.docAfter = s.docAfter

theorem SameRest.refl (s : State) : SameRest s s := ⟨rfl, rfl, rfl, rfl, rfl⟩
theorem SameRest.trans {a b c : State} (h1 : SameRest a b) (h2 : SameRest b c) : SameRest a c :=
  ⟨h2.phase.trans h1.phase, h2.created.trans h1.created, h2.errors.trans h1.errors,
   h2.docBefore.trans h1.docBefore, h2.docAfter.trans h1.docAfter⟩

theorem pop_spec (s : State) (h : s.opened ≠ []) :
    ∃ s', pop s = .ok s' ∧ names s' = (names s).tail ∧ s'.nsStack = s.nsStack.tail ∧ SameRest s s' := by
  unfold pop
  match hs : s.opened with
  | [] => exact absurd hs h
  | [f] | f :: g :: rest => exact ⟨_, rfl, by simp [names, hs], rfl, ⟨rfl, rfl, rfl, rfl, rfl⟩⟩

theorem pop_error (s : State) (h : s.opened = []) : ∃ e, pop s = .error e := by
  unfold pop; simp [h]

/-- index of the first open element with the expanded name of `nm` -/
def firstMatch (nm : QName) : List QName → Option Nat
  | [] => none
  | n :: rest => if sameExpanded n nm then some 0 else (firstMatch nm rest).map (· + 1)

theorem firstMatch_isSome_iff (nm : QName) (l : List QName) :
    (firstMatch nm l).isSome = l.any (fun n => sameExpanded n nm) := by
  induction l with
  | nil => rfl
  | cons n rest ih =>
    simp only [firstMatch, List.any_cons]
    by_cases h : sameExpanded n nm = true
    · simp [h]
    · simp [h, ih]

theorem firstMatch_lt (nm : QName) (l : List QName) (k : Nat) (h : firstMatch nm l = some k) :
    k < l.length := by
  induction l generalizing k with
  | nil => simp [firstMatch] at h
  | cons n rest ih =>
    simp only [firstMatch] at h
    split at h
    · simp at h; subst h; simp
    · match hr : firstMatch nm rest with
      | none => simp [hr] at h
      | some j => simp [hr] at h; subst h; have := ih j hr; simp; omega

theorem popUntil_spec (nm : QName) (fuel : Nat) (s : State) (k : Nat)
    (hk : firstMatch nm (names s) = some k) (hf : k ≤ fuel) :
    ∃ s', popUntil nm fuel s = .ok s' ∧ names s' = (names s).drop k ∧
      s'.nsStack = s.nsStack.drop k ∧ SameRest s s' ∧ firstMatch nm (names s') = some 0 := by
  induction fuel generalizing s k with
  | zero =>
    have hk0 : k = 0 := by omega
    subst hk0
    unfold popUntil
    match hs : s.opened with
    | [] => simp [names, hs, firstMatch] at hk
    | f :: rest =>
      simp only [names, hs, List.map_cons, firstMatch] at hk
      split at hk
      · rename_i hm
        exact ⟨s, by simp [hm], by simp, by simp, SameRest.refl s, by simp [names, hs, firstMatch, hm]⟩
      · match hr : firstMatch nm (rest.map (·.name)) with
        | none | some j => simp [hr] at hk
  | succ n ih =>
    unfold popUntil
    match hs : s.opened with
    | [] => simp [names, hs, firstMatch] at hk
    | f :: rest =>
      simp only [names, hs, List.map_cons, firstMatch] at hk
      split at hk
      · rename_i hm
        simp at hk; subst hk
        exact ⟨s, by simp [hm], by simp, by simp, SameRest.refl s, by simp [names, hs, firstMatch, hm]⟩
      · rename_i hm
        match hr : firstMatch nm (rest.map (·.name)) with
        | none => simp [hr] at hk
        | some j =>
          simp [hr] at hk; subst hk
          obtain ⟨s1, hp, hn1, hns1, hsr1⟩ := pop_spec s (by simp [hs])
          have hn1' : names s1 = rest.map (·.name) := by rw [hn1]; simp [names, hs]
          obtain ⟨s2, hp2, hn2, hns2, hsr2, hfm⟩ := ih s1 j (by rw [hn1']; exact hr) (by omega)
          refine ⟨s2, ?_, ?_, ?_, hsr1.trans hsr2, hfm⟩
          · simp [hm, hp, Except.bind, hp2]
          · rw [hn2, hn1']; simp [names, hs]
          · simp [hns2, hns1]

@[simp] theorem names_err (s : State) (es : List Err) : names (s.err es) = names s := rfl
@[simp] theorem nsStack_err (s : State) (es : List Err) : (s.err es).nsStack = s.nsStack := rfl
@[simp] theorem phase_err (s : State) (es : List Err) : (s.err es).phase = s.phase := rfl
@[simp] theorem created_err (s : State) (es : List Err) : (s.err es).created = s.created := rfl
@[simp] theorem opened_err (s : State) (es : List Err) : (s.err es).opened = s.opened := rfl
@[simp] theorem root_err (s : State) (es : List Err) : (s.err es).root = s.root := rfl

/-- `close_tag` on the names and the namespace stack: an end tag whose expanded name is carried by
the `k`-th open element pops `k+1` elements and `k+1` namespace maps; otherwise nothing is popped. -/
theorem closeTag_spec (s : State) (nm : QName) (h : s.opened ≠ []) :
    ∃ s', closeTag s nm = .ok s' ∧ s'.phase = s.phase ∧ s'.created = s.created ∧
      match firstMatch nm (names s) with
      | some k => names s' = (names s).drop (k + 1) ∧ s'.nsStack = s.nsStack.drop (k + 1)
      | none => names s' = names s ∧ s'.nsStack = s.nsStack := by
  unfold closeTag
  match hs : s.opened with
  | [] => exact absurd hs h
  | f :: rest =>
    simp only []
    generalize hs0 : (if f.name.loc ≠ nm.loc then s.err [Err.currentMismatch] else s) = s0
    have hn0 : names s0 = names s := by subst hs0; split <;> simp
    have hns0 : s0.nsStack = s.nsStack := by subst hs0; split <;> simp
    have hph0 : s0.phase = s.phase := by subst hs0; split <;> simp
    have hcr0 : s0.created = s.created := by subst hs0; split <;> simp
    have hany : s0.opened.any (fun g => sameExpanded g.name nm) = (firstMatch nm (names s)).isSome := by
      rw [firstMatch_isSome_iff, ← hn0]; simp [names, List.any_map]; rfl
    match hfm : firstMatch nm (names s) with
    | none =>
      simp [hfm] at hany
      refine ⟨s0, ?_, hph0, hcr0, hn0, hns0⟩
      have : (s0.opened.any fun g => sameExpanded g.name nm) = false := by
        simpa [List.any_eq_false] using hany
      simp [this]
    | some k =>
      simp [hfm] at hany
      have hlt := firstMatch_lt nm (names s) k hfm
      have hlen : (names s).length = s0.opened.length := by rw [← hn0]; simp [names]
      obtain ⟨s1, hp1, hn1, hns1, hsr1, hfm1⟩ :=
        popUntil_spec nm s0.opened.length s0 k (by rw [hn0]; exact hfm) (by omega)
      have hne1 : s1.opened ≠ [] := by
        intro h0; simp [names, h0, firstMatch] at hfm1
      obtain ⟨s2, hp2, hn2, hns2, hsr2⟩ := pop_spec s1 hne1
      refine ⟨s2, ?_, ?_, ?_, ?_, ?_⟩
      · have : (s0.opened.any fun g => sameExpanded g.name nm) = true := by
          obtain ⟨g, hg, hgm⟩ := hany; exact List.any_eq_true.mpr ⟨g, hg, hgm⟩
        simp [this, hp1, Except.bind, hp2]
      · rw [hsr2.phase, hsr1.phase, hph0]
      · rw [hsr2.created, hsr1.created, hcr0]
      · rw [hn2, hn1, hn0]; simp
      · rw [hns2, hns1, hns0]; simp

/-! ### `applyNs` touches only the error list and (for start tags and `<script/>`) the stack -/
@[simp] theorem applyNs_snd (cfg : TbCfg) (s : State) (t : Tag) :
    (applyNs cfg s t).2 = processNamespaces cfg s.nsStack t := by
  unfold applyNs; rfl
@[simp] theorem applyNs_opened (cfg : TbCfg) (s : State) (t : Tag) :
    (applyNs cfg s t).1.opened = s.opened := by
  unfold applyNs; simp only []; split <;> rfl
@[simp] theorem applyNs_phase (cfg : TbCfg) (s : State) (t : Tag) :
    (applyNs cfg s t).1.phase = s.phase := by
  unfold applyNs; simp only []; split <;> rfl
@[simp] theorem applyNs_created (cfg : TbCfg) (s : State) (t : Tag) :
    (applyNs cfg s t).1.created = s.created := by
  unfold applyNs; simp only []; split <;> rfl
@[simp] theorem applyNs_root (cfg : TbCfg) (s : State) (t : Tag) :
    (applyNs cfg s t).1.root = s.root := by
  unfold applyNs; simp only []; split <;> rfl
theorem applyNs_nsStack (cfg : TbCfg) (s : State) (t : Tag) :
    (applyNs cfg s t).1.nsStack =
      if pushesMap t.kind (processNamespaces cfg s.nsStack t).name
      then (processNamespaces cfg s.nsStack t).map :: s.nsStack else s.nsStack := by
  unfold applyNs; simp only []; split <;> rfl
@[simp] theorem applyNs_names (cfg : TbCfg) (s : State) (t : Tag) :
    names (applyNs cfg s t).1 = names s := by
  simp [names]

/-! ### the qualified-name state machine (`qname.rs`) -/

theorem afterColon_noColon (v : Nat) (l : List Char) (h : ':' ∉ l) : afterColon v l = some v := by
  induction l with
  | nil => rfl
  | cons c rest ih =>
    have hc : c ≠ ':' := by intro e; subst e; simp at h
    have hr : ':' ∉ rest := by intro e; exact h (by simp [e])
    simp [afterColon, hc, ih hr]

theorem afterColon_some (v j : Nat) (l : List Char) (h : afterColon v l = some j) : ':' ∉ l ∧ j = v := by
  induction l with
  | nil => simp [afterColon] at h; exact ⟨by simp, h.symm⟩
  | cons c rest ih =>
    simp only [afterColon] at h
    split at h
    · simp at h
    · rename_i hc
      obtain ⟨h1, h2⟩ := ih h
      exact ⟨by simp [h1, Ne.symm hc], h2⟩

theorem inName_app (i : Nat) (pre post : List Char) (hpre : ':' ∉ pre) (hpost : post ≠ []) :
    inName i (pre ++ ':' :: post) = afterColon (i + pre.length) post := by
  induction pre generalizing i with
  | nil => simp [inName, hpost]
  | cons c rest ih =>
    have hc : c ≠ ':' := by intro e; subst e; simp at hpre
    have hr : ':' ∉ rest := by intro e; exact hpre (by simp [e])
    simp only [List.cons_append, inName, hc, false_and, ↓reduceIte]
    rw [ih (i + 1) hr]
    simp only [List.length_cons]
    congr 1; omega

theorem inName_some (i j : Nat) (l : List Char) (h : inName i l = some j) :
    ∃ pre post, l = pre ++ ':' :: post ∧ ':' ∉ pre ∧ post ≠ [] ∧ ':' ∉ post ∧ j = i + pre.length := by
  induction l generalizing i with
  | nil => simp [inName] at h
  | cons c rest ih =>
    simp only [inName] at h
    split at h
    · rename_i hc
      obtain ⟨rfl, hne⟩ := hc
      obtain ⟨h1, h2⟩ := afterColon_some _ _ _ h
      exact ⟨[], rest, rfl, by simp, hne, h1, by simp [h2]⟩
    · rename_i hc
      obtain ⟨pre, post, rfl, h1, h2, h3, h4⟩ := ih (i + 1) h
      have hcc : c ≠ ':' := by
        intro e; subst e
        apply hc
        refine ⟨rfl, ?_⟩
        simp
      exact ⟨c :: pre, post, rfl, by simp [h1, Ne.symm hcc], h2, h3, by simp [h4]; omega⟩

theorem take_app (pre post : List Char) : (pre ++ post).take pre.length = pre := by
  induction pre <;> simp [*]
theorem drop_app (pre : List Char) (x : Char) (post : List Char) :
    (pre ++ x :: post).drop (pre.length + 1) = post := by
  induction pre <;> simp [*]

theorem utf8Len_ge (s : Str) : s.length ≤ utf8Len s := by
  induction s with
  | nil => simp [utf8Len]
  | cons c rest ih =>
    have : 1 ≤ c.utf8Size := Char.utf8Size_pos c
    simp only [utf8Len, List.map_cons, List.sum_cons, List.length_cons] at ih ⊢
    omega


end H5V.Lemmas.XmlTB

/-! ### structural equality of trees, and "the run succeeds with this document", both as tests that
can be evaluated -/
namespace H5V.Lemmas.XmlRT
open H5V.Model.XmlTB

mutual
def nodeBeq : Node → Node → Bool
  | .elem n a k, .elem n' a' k' => n == n' && a == a' && nodesBeq k k'
  | .text s, .text s' => s == s'
  | .comment s, .comment s' => s == s'
  | .pi t d, .pi t' d' => t == t' && d == d'
  | .doctype n p s, .doctype n' p' s' => n == n' && p == p' && s == s'
  | _, _ => false
def nodesBeq : List Node → List Node → Bool
  | [], [] => true
  | x :: xs, y :: ys => nodeBeq x y && nodesBeq xs ys
  | _, _ => false
end

mutual
theorem nodeBeq_eq : ∀ (a b : Node), nodeBeq a b = true → a = b
  | .elem n a k, .elem n' a' k', h => by
    simp only [nodeBeq, Bool.and_eq_true, beq_iff_eq] at h
    rw [h.1.1, h.1.2, nodesBeq_eq k k' h.2]
  | .text s, .text s', h | .comment s, .comment s', h => by simp only [nodeBeq, beq_iff_eq] at h; rw [h]
  | .pi t d, .pi t' d', h => by simp only [nodeBeq, Bool.and_eq_true, beq_iff_eq] at h; rw [h.1, h.2]
  | .doctype n p s, .doctype n' p' s', h => by
    simp only [nodeBeq, Bool.and_eq_true, beq_iff_eq] at h; rw [h.1.1, h.1.2, h.2]
  | .elem _ _ _, .text _, h | .elem _ _ _, .comment _, h | .elem _ _ _, .pi _ _, h | .elem _ _ _, .doctype _ _ _, h
  | .text _, .elem _ _ _, h | .text _, .comment _, h | .text _, .pi _ _, h | .text _, .doctype _ _ _, h
  | .comment _, .elem _ _ _, h | .comment _, .text _, h | .comment _, .pi _ _, h | .comment _, .doctype _ _ _, h
  | .pi _ _, .elem _ _ _, h | .pi _ _, .text _, h | .pi _ _, .comment _, h | .pi _ _, .doctype _ _ _, h
  | .doctype _ _ _, .elem _ _ _, h | .doctype _ _ _, .text _, h | .doctype _ _ _, .comment _, h
  | .doctype _ _ _, .pi _ _, h => by simp [nodeBeq] at h
theorem nodesBeq_eq : ∀ (a b : List Node), nodesBeq a b = true → a = b
  | [], [], _ => rfl
  | x :: xs, y :: ys, h => by
    simp only [nodesBeq, Bool.and_eq_true] at h
    rw [nodeBeq_eq x y h.1, nodesBeq_eq xs ys h.2]
  | [], _ :: _, h | _ :: _, [], h => by simp [nodesBeq] at h
end

def docIsB (r : Except String State) (d : List Node) : Bool :=
  match r with
  | .ok s => nodesBeq s.document d
  | .error _ => false

theorem docIsB_sound {r : Except String State} {d : List Node} (h : docIsB r d = true) :
    ∃ s, r = .ok s ∧ s.document = d := by
  cases r with
  | error e => cases h
  | ok s => exact ⟨s, rfl, nodesBeq_eq _ _ h⟩

end H5V.Lemmas.XmlRT
