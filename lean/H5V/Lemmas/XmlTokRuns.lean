import H5V.Lemmas.XmlTokChunk
/-!
`step` respects the dead-`current_char` simulation; big-step runs; the chunk-merging theorem for the
XML tokenizer model (the counterpart of `H5V.Lemmas.HtmlTokRuns`).
-/
namespace H5V.Model.XmlTok

/-! ### `step` respects `Sim` -/

theorem preprocess_setCC (o : Opts) (m : Mach) (a x : Char) (xs : Str) :
    preprocess o (m.setCurrentChar a) x xs =
      match preprocess o m x xs with
      | (some c, m', i') => (some c, m', i')
      | (none, m', i') => (none, m'.setCurrentChar a, i') := by
  unfold preprocess
  simp only [setCurrentChar_ignoreLf, setIgnoreLf_setCurrentChar, foldChar_setCurrentChar]
  repeat' split
  all_goals simp_all

theorem getChar_setCC (o : Opts) (m : Mach) (a : Char) (inp : Str) (hr : m.reconsume = false) :
    getChar o (m.setCurrentChar a) inp =
      match getChar o m inp with
      | (some c, m', i') => (some c, m', i')
      | (none, m', i') => (none, m'.setCurrentChar a, i') := by
  unfold getChar
  simp only [setCurrentChar_reconsume, hr, Bool.false_eq_true, ↓reduceIte]
  cases inp with
  | nil => rfl
  | cons x xs => exact preprocess_setCC o m a x xs

/-- how a read result relates when only the (dead) `current_char` differs -/
def liftSetCC (a : Char) (r : Option SetRes × Mach × Str) : Option SetRes × Mach × Str :=
  match r with
  | (some (.fromSet c), m', i') => (some (.fromSet c), m', i')
  | (some (.notFromSet b), m', i') => (some (.notFromSet b), m'.setCurrentChar a, i')
  | (none, m', i') => (none, m'.setCurrentChar a, i')

theorem popExceptFrom_setCC (o : Opts) (S : List Char) (m : Mach) (a : Char) (inp : Str)
    (hr : m.reconsume = false) :
    popExceptFrom o S (m.setCurrentChar a) inp = liftSetCC a (popExceptFrom o S m inp) := by
  unfold popExceptFrom
  simp only [setCurrentChar_reconsume, setCurrentChar_ignoreLf]
  split
  · rw [getChar_setCC o m a inp hr]
    cases hg : getChar o m inp with
    | mk c r => obtain ⟨m1, i1⟩ := r; cases c <;> simp [liftSetCC]
  · cases inp with
    | nil => simp [liftSetCC]
    | cons x xs =>
      simp only
      split
      · rw [preprocess_setCC]
        cases hg : preprocess o m x xs with
        | mk c r => obtain ⟨m1, i1⟩ := r; cases c <;> simp [liftSetCC]
      · simp [liftSetCC]

theorem deadCC_of_fields {m m1 : Mach} (hd : deadCC m) (h1 : m1.state = m.state)
    (h2 : m1.reconsume = false) (h3 : m1.charRef = m.charRef) : deadCC m1 :=
  ⟨h2, by rw [h3]; exact hd.2.1, by rw [h1]; exact hd.2.2⟩

/-- **`step` respects the simulation** -/
theorem step_sim (o : Opts) (m1 m2 : Mach) (inp : Str) (h : Sim m1 m2) :
    RSim (step o m1 inp) (step o m2 inp) := by
  rcases h with h | ⟨hd, a, ha⟩
  · subst h; exact RSim.refl _
  · subst ha
    obtain ⟨hr, hcr, hk⟩ := hd
    rw [step_popExcept o m1 inp hcr hk,
      step_popExcept o (m1.setCurrentChar a) inp (by simp [hcr]) (by simp [hk])]
    simp only [setCurrentChar_state]
    rw [popExceptFrom_setCC o _ m1 a inp hr]
    cases hp : popExceptFrom o (setOf m1.state) m1 inp with
    | mk c r =>
      obtain ⟨m', i'⟩ := r
      obtain ⟨_, _, f3, f4⟩ := popExceptFrom_fields o _ m1 m' inp i' c hp
      cases c with
      | none =>
        obtain ⟨_, _, g3⟩ := popExceptFrom_none o _ m1 m' inp i' hp
        have hrec : m'.reconsume = false := by
          rcases g3 with ⟨_, g4⟩ | ⟨_, _, g4⟩ <;> subst g4 <;> simp [hr]
        simp only [liftSetCC, contSet, RSim]
        exact ⟨Or.inr ⟨deadCC_of_fields ⟨hr, hcr, hk⟩ f3 hrec f4, a, rfl⟩, trivial⟩
      | some s =>
        cases s with
        | fromSet c => simp only [liftSetCC]; exact RSim.refl _
        | notFromSet b =>
          -- a run is only produced on the fast path, which leaves the machine alone
          have hm' : m' = m1 := by
            unfold popExceptFrom at hp
            split at hp
            · cases hg : getChar o m1 inp with
              | mk c r => obtain ⟨m2, i2⟩ := r; rw [hg] at hp; cases c <;> simp at hp
            · cases inp with
              | nil => simp at hp
              | cons x xs =>
                simp only at hp
                split at hp
                · cases hg : preprocess o m1 x xs with
                  | mk c r => obtain ⟨m2, i2⟩ := r; rw [hg] at hp; cases c <;> simp at hp
                · simp only [Prod.mk.injEq] at hp; exact hp.2.1.symm
          subst hm'
          simp only [liftSetCC, contSet]
          rw [transSet_setCC]
          obtain ⟨hst, hcr', hrec, hsig⟩ := transSet_notFromSet m' b hk
          generalize transSet m' (.notFromSet b) = T at hst hcr' hrec hsig ⊢
          obtain ⟨T1, T2⟩ := T
          simp only at hst hcr' hrec hsig ⊢
          subst hsig
          have hdead : deadCC T1 := ⟨by rw [hrec, hr], by rw [hcr', hcr], by rw [hst]; exact hk⟩
          have hsim : Sim T1 (T1.setCurrentChar a) := Or.inr ⟨hdead, a, rfl⟩
          simp [ofSig, RSim, hsim]

/-! ### big-step runs -/

/-- `RunsTo m inp m'`: starting the tokenizer loop (`XmlTokenizer::run`) on machine `m` with unread
input `inp`, it consumes all of `inp` and returns `Done` ("needs more input") in machine `m'` -/
inductive RunsTo (o : Opts) : Mach → Str → Mach → Prop
  | susp {m inp m'} : step o m inp = .suspend m' [] → RunsTo o m inp m'
  | cont {m inp m1 i1 m'} : step o m inp = .cont m1 i1 → RunsTo o m1 i1 m' → RunsTo o m inp m'

/-- one step onward from an `RSim`-related step result -/
theorem runsTo_of_rsim (o : Opts) {ma mb : Mach} {ia ib : Str} {m' : Mach}
    (ih : ∀ x y i, Sim x y → RunsTo o y i m' → ∃ m'', RunsTo o x i m'' ∧ Sim m'' m')
    (hrs : RSim (step o ma ia) (step o mb ib)) (hrun : RunsTo o mb ib m') :
    ∃ m'', RunsTo o ma ia m'' ∧ Sim m'' m' := by
  cases hrun with
  | susp hs =>
    rw [hs] at hrs
    cases hsa : step o ma ia with
    | suspend x i =>
      rw [hsa] at hrs
      obtain ⟨h1, h2⟩ := hrs
      subst h2
      exact ⟨x, RunsTo.susp hsa, h1⟩
    | cont x i => rw [hsa] at hrs; exact absurd hrs (by simp [RSim])
    | panic e => rw [hsa] at hrs; exact absurd hrs (by simp [RSim])
  | cont hs hr =>
    rw [hs] at hrs
    cases hsa : step o ma ia with
    | cont x i =>
      rw [hsa] at hrs
      obtain ⟨h1, h2⟩ := hrs
      subst h2
      obtain ⟨m'', hr', hs'⟩ := ih x _ i h1 hr
      exact ⟨m'', RunsTo.cont hsa hr', hs'⟩
    | suspend x i => rw [hsa] at hrs; exact absurd hrs (by simp [RSim])
    | panic e => rw [hsa] at hrs; exact absurd hrs (by simp [RSim])

/-- runs from `Sim`-related machines on the same input end in `Sim`-related machines -/
theorem runsTo_sim (o : Opts) {y : Mach} {i : Str} {m' : Mach}
    (hrun : RunsTo o y i m') : ∀ x, Sim x y → ∃ m'', RunsTo o x i m'' ∧ Sim m'' m' := by
  induction hrun with
  | @susp m0 inp0 m0' hs =>
    intro x hsim
    have hrs := step_sim o x m0 inp0 hsim
    rw [hs] at hrs
    cases hsa : step o x inp0 with
    | suspend x1 i1 =>
      rw [hsa] at hrs
      obtain ⟨h1, h2⟩ := hrs
      subst h2
      exact ⟨x1, RunsTo.susp hsa, h1⟩
    | cont _ _ => rw [hsa] at hrs; exact absurd hrs (by simp [RSim])
    | panic _ => rw [hsa] at hrs; exact absurd hrs (by simp [RSim])
  | @cont m0 inp0 m1 i1 m0' hs hr ih =>
    intro x hsim
    have hrs := step_sim o x m0 inp0 hsim
    rw [hs] at hrs
    cases hsa : step o x inp0 with
    | cont x1 i1 =>
      rw [hsa] at hrs
      obtain ⟨h1, h2⟩ := hrs
      subst h2
      obtain ⟨m'', hr', hs'⟩ := ih x1 h1
      exact ⟨m'', RunsTo.cont hsa hr', hs'⟩
    | suspend _ _ => rw [hsa] at hrs; exact absurd hrs (by simp [RSim])
    | panic _ => rw [hsa] at hrs; exact absurd hrs (by simp [RSim])

/-- **chunk merging.** If the tokenizer, fed `a`, runs to suspension in `m1`, and then, fed `b`,
runs to suspension in `m2`, then fed `a ++ b` in one piece it runs to suspension in a machine
equal to `m2` up to a dead `current_char` — in particular with the same tokens and parse errors
delivered to the sink. -/
theorem runsTo_chunk (o : Opts) {m : Mach} {a : Str} {m1 : Mach}
    (hrun : RunsTo o m a m1) :
    Good m → m.atEof = false → ∀ (b : Str) (m2 : Mach), RunsTo o m1 b m2 →
      ∃ m2', RunsTo o m (a ++ b) m2' ∧ Sim m2' m2 := by
  induction hrun with
  | @susp m0 inp0 m0' hs =>
    intro hg hat b m2 hr2
    obtain ⟨_, hrs, _, _⟩ := step_resume o m0 m0' inp0 [] b hg hat hs
    exact runsTo_of_rsim o (fun x y i hsim hr => runsTo_sim o hr x hsim) hrs hr2
  | @cont m0 inp0 mx ix m0' hs hr ih =>
    intro hg hat b m2 hr2
    have hmono := step_mono o m0 inp0 b (fun _ => hg.eatOk) hat (by rw [hs]; rfl)
    rw [hs] at hmono
    obtain ⟨hgx, hax⟩ := step_good o m0 inp0 mx hg hat (by rw [hs]; rfl)
    obtain ⟨m2', hr', hsim⟩ := ih hgx hax b m2 hr2
    exact ⟨m2', RunsTo.cont hmono hr', hsim⟩

/-- the invariant and `at_eof` at the end of a run -/
theorem runsTo_good (o : Opts) {m : Mach} {a : Str} {m1 : Mach}
    (hrun : RunsTo o m a m1) : Good m → m.atEof = false → Good m1 ∧ m1.atEof = false := by
  induction hrun with
  | @susp m0 inp0 m0' hs =>
    intro hg hat
    exact step_good o m0 inp0 m0' hg hat (by rw [hs]; rfl)
  | @cont m0 inp0 mx ix m0' hs hr ih =>
    intro hg hat
    obtain ⟨hgx, hax⟩ := step_good o m0 inp0 mx hg hat (by rw [hs]; rfl)
    exact ih hgx hax

/-- a session: the chunks are fed one after the other, each run to suspension -/
inductive Session (o : Opts) : Mach → List Str → Mach → Prop
  | nil {m} : Session o m [] m
  | cons {m c m1 cs mf} : RunsTo o m c m1 → Session o m1 cs mf → Session o m (c :: cs) mf

/-- **chunk independence of the tokenizer loop**: whatever the partition of the input into
chunks (empty and one-character chunks included), the one-piece run reaches a machine equal, up
to a dead `current_char`, to the one the chunked session reaches -/
theorem session_flatten (o : Opts) {m : Mach} {cs : List Str} {mf : Mach}
    (hs : Session o m cs mf) : Good m → m.atEof = false →
    (cs = [] ∧ mf = m) ∨ ∃ mf', RunsTo o m cs.flatten mf' ∧ Sim mf' mf := by
  induction hs with
  | nil => intro _ _; exact Or.inl ⟨rfl, rfl⟩
  | @cons m0 c m1 cs0 mf0 hr hsess ih =>
    intro hg hat
    right
    obtain ⟨hg1, hat1⟩ := runsTo_good o hr hg hat
    rcases ih hg1 hat1 with ⟨hnil, hmf⟩ | ⟨mf', hr', hsim⟩
    · subst hnil
      rw [hmf]
      exact ⟨m1, by simpa using hr, Sim.refl _⟩
    · obtain ⟨m2', hr2, hsim2⟩ := runsTo_chunk o hr hg hat cs0.flatten mf' hr'
      exact ⟨m2', by simpa using hr2, Sim.trans hsim2 hsim⟩

end H5V.Model.XmlTok
