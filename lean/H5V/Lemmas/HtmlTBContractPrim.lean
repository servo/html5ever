import H5V.Lemmas.HtmlTBContractLogic
/-!
# TreeSink contract for the HTML tree builder: primitive leaves

The sink queries (`elem_name`, `same_node`, `pop`, `parse_error`, …) whose contract is "the handle is
an element of this sink" — discharged from the handle context — and the small accessors of `mod.rs`.
-/
namespace H5V.Lemmas.TBC
open H5V.Model.HtmlTB
open H5V.Model.Dom (Id QualName Attr NodeOrText SinkOp Output ElementFlags QuirksMode Dom NodeData Node Contract)
open H5V.Lemmas.TBSafe (IsEl nm sigOf Ext apply_ext tmplName fmtNames nm_ext sigOf_ext IsEl.ext sigOf_lt)

variable {d0 : Dom}

theorem contract_elemName {d : Dom} {h : Id} (hi : IsEl d h) : Contract d (.elemName h) :=
  isElement_of_isEl hi
theorem contract_pop {d : Dom} {h : Id} (hi : IsEl d h) : Contract d (.pop h) := isElement_of_isEl hi
theorem contract_mark {d : Dom} {h : Id} (hi : IsEl d h) : Contract d (.markScriptAlreadyStarted h) :=
  isElement_of_isEl hi
theorem contract_isMathml {d : Dom} {h : Id} (hi : IsEl d h) :
    Contract d (.isMathmlAnnotationXmlIntegrationPoint h) := isElement_of_isEl hi
theorem contract_sameNode {d : Dom} {x y : Id} (hx : IsEl d x) (hy : IsEl d y) : Contract d (.sameNode x y) := by
  show (decide (x < d.size) && decide (y < d.size)) = true
  simp [lt_of_isEl hx, lt_of_isEl hy]
theorem contract_parseError {d : Dom} {m : List Char} : Contract d (.parseError m) := rfl

/-! ### sink queries -/

@[cp]
theorem cp_parseError {c : List Id} {msg : String} : CP d0 c (parseError msg) (fun _ => []) := by
  unfold H5V.Model.HtmlTB.parseError
  exact cp_sinkUnit_nt rfl (fun _ _ _ => contract_parseError)


@[cp]
theorem cp_unexpected {c : List Id} : CP d0 c unexpected (fun _ => []) := by
  unfold H5V.Model.HtmlTB.unexpected
  cp_walk


@[cp]
theorem cp_elemName {c : List Id} {h : Id} (hh : h ∈ c) : CP d0 c (elemName h) (fun _ => []) := by
  unfold H5V.Model.HtmlTB.elemName
  refine cp_bind (cp_sink_nt rfl (fun s _ hc => contract_elemName (hc h hh))) ?_
  intro out
  cases out <;> first | exact cp_pure_nil _ | exact cp_throw (Or.inl (by decide +kernel))


@[cp]
theorem cp_sameNode {c : List Id} {x y : Id} (hx : x ∈ c) (hy : y ∈ c) : CP d0 c (sameNode x y) (fun _ => []) := by
  unfold H5V.Model.HtmlTB.sameNode sinkBool
  refine cp_bind (cp_sink_nt rfl (fun s _ hc => contract_sameNode (hc x hx) (hc y hy))) ?_
  intro out
  cases out <;> first | exact cp_pure_nil _ | exact cp_throw (Or.inl (by decide +kernel))


@[cp]
theorem cp_isMathmlIP {c : List Id} {h : Id} (hh : h ∈ c) :
    CP d0 c (sinkBool (.isMathmlAnnotationXmlIntegrationPoint h)) (fun _ => []) := by
  unfold sinkBool
  refine cp_bind (cp_sink_nt rfl (fun s _ hc => contract_isMathml (hc h hh))) ?_
  intro out
  cases out <;> first | exact cp_pure_nil _ | exact cp_throw (Or.inl (by decide +kernel))


@[cp]
theorem cp_htmlElemNamedS {c : List Id} {h : Id} {name : Str} (hh : h ∈ c) :
    CP d0 c (htmlElemNamedS h name) (fun _ => []) := by
  unfold H5V.Model.HtmlTB.htmlElemNamedS
  cp_walk


@[cp]
theorem cp_htmlElemNamed {c : List Id} {h : Id} {name : String} (hh : h ∈ c) :
    CP d0 c (htmlElemNamed h name) (fun _ => []) := cp_htmlElemNamedS hh


@[cp]
theorem cp_elemIn {c : List Id} {h : Id} {set : EName → Bool} (hh : h ∈ c) :
    CP d0 c (elemIn h set) (fun _ => []) := by
  unfold H5V.Model.HtmlTB.elemIn
  cp_walk


/-! ### the stack -/

theorem getLast?_mem' {l : List Id} {x : Id} (h : l.getLast? = some x) : x ∈ l := List.mem_of_getLast? h

theorem satcv_currentNode {s : State} :
    SatC currentNode s (fun h s' => s' = s ∧ s.openElems.getLast? = some h) := by
  unfold H5V.Model.HtmlTB.currentNode
  refine satc_getS_bind ?_
  cases hl : s.openElems.getLast? with
  | none => exact satc_panicAt
  | some h => exact satc_pure ⟨rfl, rfl⟩

theorem satcv_htmlElem {s : State} : SatC htmlElem s (fun h s' => s' = s ∧ s.openElems.head? = some h) := by
  unfold H5V.Model.HtmlTB.htmlElem
  refine satc_getS_bind ?_
  cases hl : s.openElems.head? with
  | none => exact satc_panicAt
  | some h => exact satc_pure ⟨rfl, rfl⟩

theorem satcv_htmlElemFn {s : State} : SatC htmlElemFn s (fun h s' => s' = s ∧ s.openElems.head? = some h) := by
  unfold H5V.Model.HtmlTB.htmlElemFn
  refine satc_getS_bind ?_
  cases hl : s.openElems.head? with
  | none => exact satc_panicAt
  | some h => exact satc_pure ⟨rfl, rfl⟩

/-- a query that answers a handle of the stack and leaves the state alone -/
theorem cp_of_stackRead {c : List Id} {m : M Id} (h : ∀ s, SatC m s (fun r s' => s' = s ∧ r ∈ s.openElems)) :
    CP d0 c m (fun r => [r]) := by
  intro s hcb _
  refine (h s).mono ?_
  rintro r _ ⟨rfl, hr⟩
  exact ⟨hcb, GrowRel.refl _, fun x hx => by rw [List.mem_singleton.mp hx]; exact hcb.h.open_el r hr⟩

@[cp]
theorem cp_currentNode {c : List Id} : CP d0 c currentNode (fun h => [h]) :=
  cp_of_stackRead (fun _ => satcv_currentNode.mono (fun _ _ h => ⟨h.1, List.mem_of_getLast? h.2⟩))

@[cp]
theorem cp_htmlElem {c : List Id} : CP d0 c htmlElem (fun h => [h]) :=
  cp_of_stackRead (fun _ => satcv_htmlElem.mono (fun _ _ h => ⟨h.1, List.mem_of_mem_head? h.2⟩))

@[cp]
theorem cp_htmlElemFn {c : List Id} : CP d0 c htmlElemFn (fun h => [h]) :=
  cp_of_stackRead (fun _ => satcv_htmlElemFn.mono (fun _ _ h => ⟨h.1, List.mem_of_mem_head? h.2⟩))

@[cp]
theorem cp_currentNodeIn {c : List Id} {set : EName → Bool} : CP d0 c (currentNodeIn set) (fun _ => []) := by
  unfold H5V.Model.HtmlTB.currentNodeIn
  cp_walk


@[cp]
theorem cp_currentNodeNamedS {c : List Id} {name : Str} : CP d0 c (currentNodeNamedS name) (fun _ => []) := by
  unfold H5V.Model.HtmlTB.currentNodeNamedS
  cp_walk


@[cp]
theorem cp_currentNodeNamed {c : List Id} {name : String} : CP d0 c (currentNodeNamed name) (fun _ => []) :=
  cp_currentNodeNamedS


/-- a builder-field update that only shrinks the stack / the AF list -/
theorem cp_modS_shrink {c : List Id} {f : State → State}
    (hd : ∀ s, (f s).dom = s.dom) (ht : ∀ s, (f s).traceRev = s.traceRev)
    (hdoc : ∀ s, (f s).docHandle = s.docHandle)
    (ho : ∀ s, (f s).openElems.Sublist s.openElems)
    (ha : ∀ s, ∀ e ∈ (f s).activeFormatting, e ∈ s.activeFormatting)
    (hh : ∀ s x, (f s).headElem = some x → s.headElem = some x)
    (hf : ∀ s x, (f s).formElem = some x → s.formElem = some x)
    (hc : ∀ s x, (f s).contextElem = some x → s.contextElem = some x)
    (hl : ∀ s, LateS s → LateS (f s)) : CP d0 c (H5V.Model.HtmlTB.modS f) (fun _ => []) :=
  cp_modS (fun s hcb _ =>
    ⟨hcb.of_shrink (hd s) (ht s) (hdoc s) (fun x hx => (ho s).subset hx) (ha s) (hh s) (hf s) (hc s) (hl s hcb.l),
     GrowRel.of_sublist (hd s) (ho s)⟩)

theorem lateS_of_eq {s s' : State} (h : LateS s) (h1 : s'.mode = s.mode) (h2 : s'.origMode = s.origMode)
    (h3 : s'.templateModes = s.templateModes) : LateS s' :=
  ⟨by rw [h1]; exact h.mode, by rw [h2]; exact h.orig, by rw [h3]; exact h.tm⟩

/-- the state with a shorter stack -/
theorem cb_dropStack {s : State} {l : List Id} (hcb : CB d0 s) (hl : l.Sublist s.openElems) :
    CB d0 { s with openElems := l } ∧ GrowRel s { s with openElems := l } :=
  ⟨hcb.of_shrink rfl rfl rfl (fun x hx => hl.subset hx) (fun _ h => h) (fun _ h => h) (fun _ h => h)
    (fun _ h => h) (lateS_of_eq hcb.l rfl rfl rfl), GrowRel.of_sublist rfl hl⟩

/-- `pop()`: the popped node was on the stack -/
@[cp]
theorem cp_pop {c : List Id} : CP d0 c pop (fun h => [h]) := by
  unfold H5V.Model.HtmlTB.pop
  refine cp_getS_bind_at ?_
  intro s0
  cases hl : s0.openElems.getLast? with
  | none => exact cp_at cp_panicAt s0
  | some h =>
    dsimp only
    have hmem : h ∈ stH s0 ++ c := by
      simp only [stH, List.mem_append]
      exact Or.inl (Or.inl (Or.inl (Or.inl (Or.inl (getLast?_mem' hl)))))
    refine cpat_set_bind (fun hcb => cb_dropStack hcb (List.dropLast_sublist _)) ?_
    refine cp_bind (R := fun _ => []) (cp_sinkUnit_nt rfl (fun s _ hc => contract_pop (hc h hmem))) ?_
    intro _
    exact cp_pure h (by intro x hx; rw [List.mem_singleton.mp hx]; simp [hmem])


/-- `open_elems.pop()` without telling the sink -/
@[cp]
theorem cp_popSilently {c : List Id} : CP d0 c popSilently (fun r => r.toList) := by
  unfold H5V.Model.HtmlTB.popSilently
  refine cp_getS_bind_at ?_
  intro s0
  cases hl : s0.openElems.getLast? with
  | none => exact cp_at (cp_pure none (by intro x hx; cases hx)) s0
  | some h =>
    dsimp only
    have hmem : h ∈ stH s0 ++ c := by
      simp only [stH, List.mem_append]
      exact Or.inl (Or.inl (Or.inl (Or.inl (Or.inl (getLast?_mem' hl)))))
    refine cpat_set_bind (fun hcb => cb_dropStack hcb (List.dropLast_sublist _)) ?_
    exact cp_pure (some h) (by intro x hx; simp at hx; subst hx; exact hmem)


@[cp]
theorem cp_setMode {c : List Id} {m : Mode} (hm : m ≠ .initial) : CP d0 c (setMode m) (fun _ => []) := by
  unfold H5V.Model.HtmlTB.setMode
  exact cp_modS_shrink (fun _ => rfl) (fun _ => rfl) (fun _ => rfl) (fun _ => List.Sublist.refl _)
    (fun _ _ h => h) (fun _ _ h => h) (fun _ _ h => h) (fun _ _ h => h) (fun s hl => ⟨hm, hl.orig, hl.tm⟩)

@[cp]
theorem cp_setFramesetOk {c : List Id} {b : Bool} : CP d0 c (setFramesetOk b) (fun _ => []) := by
  unfold H5V.Model.HtmlTB.setFramesetOk
  exact cp_modS_shrink (fun _ => rfl) (fun _ => rfl) (fun _ => rfl) (fun _ => List.Sublist.refl _)
    (fun _ _ h => h) (fun _ _ h => h) (fun _ _ h => h) (fun _ _ h => h) (fun s hl => ⟨hl.mode, hl.orig, hl.tm⟩)


/-- a first loop over the stack: `in_html_elem_named` -/
theorem cp_anyHtmlElemNamed {c : List Id} {name : String} : ∀ (l : List Id), (∀ x ∈ l, x ∈ c) →
    CP d0 c (anyHtmlElemNamed name l) (fun _ => []) := by
  intro l
  induction l with
  | nil => intro _; unfold H5V.Model.HtmlTB.anyHtmlElemNamed; cp_walk
  | cons e rest ih =>
    intro hl
    unfold H5V.Model.HtmlTB.anyHtmlElemNamed
    have he : e ∈ c := hl e List.mem_cons_self
    have ih' := ih (fun x hx => hl x (List.mem_cons_of_mem _ hx))
    refine cp_bind (cp_htmlElemNamed he) ?_
    intro b
    refine cp_ite (fun _ => cp_pure_nil _) (fun _ => cp_ctx_mono ih' (fun x hx => List.mem_append_right _ hx))

@[cp]
theorem cp_inHtmlElemNamed {c : List Id} {name : String} : CP d0 c (inHtmlElemNamed name) (fun _ => []) := by
  unfold H5V.Model.HtmlTB.inHtmlElemNamed
  refine cp_getS_bind ?_
  intro s0
  exact cp_anyHtmlElemNamed _ (fun x hx => by simp only [stH, List.mem_append]; exact Or.inl (Or.inl (Or.inl (Or.inl (Or.inl hx)))))


/-- a fuel loop: `generate_implied_end_tags` -/
theorem cp_generateImpliedEndTagsLoop {c : List Id} {set : EName → Bool} : ∀ (fuel : Nat),
    CP d0 c (generateImpliedEndTagsLoop set fuel) (fun _ => []) := by
  intro fuel
  induction fuel generalizing c with
  | zero => unfold H5V.Model.HtmlTB.generateImpliedEndTagsLoop; exact cp_fuelOut
  | succ fuel ih =>
    unfold H5V.Model.HtmlTB.generateImpliedEndTagsLoop
    refine cp_getS_bind ?_
    intro s0
    cases hl : s0.openElems.getLast? with
    | none => exact cp_pure_nil _
    | some elem =>
      dsimp only
      have hmem : elem ∈ stH s0 ++ c := by
        simp only [stH, List.mem_append]
        exact Or.inl (Or.inl (Or.inl (Or.inl (Or.inl (getLast?_mem' hl)))))
      refine cp_bind (cp_elemName hmem) ?_
      intro n
      refine cp_ite (fun _ => cp_pure_nil _) (fun _ => ?_)
      refine cp_bind cp_pop ?_
      intro _
      exact ih

@[cp]
theorem cp_generateImpliedEndTags {c : List Id} {set : EName → Bool} :
    CP d0 c (generateImpliedEndTags set) (fun _ => []) := by
  unfold H5V.Model.HtmlTB.generateImpliedEndTags
  refine cp_getS_bind ?_
  intro s0
  exact cp_generateImpliedEndTagsLoop _


end H5V.Lemmas.TBC
