import H5V.Model.XmlSer
import H5V.Lemmas.XmlTB
/-! Lemmas for C17: reversibility of escaping; the tree builder on a well-nested token stream. -/
namespace H5V.Lemmas.XmlSer
open H5V.Model.XmlTB H5V.Model.XmlSer H5V.Lemmas.XmlTB

/-! ### escaping -/

/-- the last equation of `unescape`: each of the six reference patterns starts with `&` -/
theorem unescape_plain (c : Char) (rest : Str) (h : c ≠ '&') :
    unescape (c :: rest) = c :: unescape rest :=
  unescape.eq_8 c rest (fun _ e _ => h e) (fun _ e _ => h e) (fun _ e _ => h e) (fun _ e _ => h e)
    (fun _ e _ => h e) (fun _ e _ => h e)

/-- the arms of `escapeChar` as an elimination rule: `P` holds of a character and its escaped form if it
holds of each reference, where that reference is written, and of a character written as itself -/
theorem escapeChar_cases (cfg : SerCfg) (m : Bool) {P : Char → Str → Prop}
    (amp : P '&' ['&', 'a', 'm', 'p', ';'])
    (apos : m = true → P '\'' ['&', 'a', 'p', 'o', 's', ';'])
    (quot : m = true → P '"' ['&', 'q', 'u', 'o', 't', ';'])
    (lt : m = false → P '<' ['&', 'l', 't', ';'])
    (gt : m = false → P '>' ['&', 'g', 't', ';'])
    (cr : cfg.escapeCR = true → P '\r' ['&', '#', '1', '3', ';'])
    (plain : ∀ c, c ≠ '&' → (c = '\'' → m = false) → (c = '"' → m = false) → (c = '<' → m = true) →
      (c = '>' → m = true) → (c = '\r' → cfg.escapeCR = false) → P c [c]) (c : Char) :
    P c (escapeChar cfg m c) := by
  unfold escapeChar
  by_cases h1 : c = '&'
  · rw [if_pos h1]; exact h1 ▸ amp
  rw [if_neg h1]
  by_cases h2 : c = '\'' ∧ m = true
  · rw [if_pos h2]; exact h2.1 ▸ apos h2.2
  rw [if_neg h2]
  by_cases h3 : c = '"' ∧ m = true
  · rw [if_pos h3]; exact h3.1 ▸ quot h3.2
  rw [if_neg h3]
  by_cases h4 : c = '<' ∧ (!m) = true
  · rw [if_pos h4]; exact h4.1 ▸ lt (by simpa using h4.2)
  rw [if_neg h4]
  by_cases h5 : c = '>' ∧ (!m) = true
  · rw [if_pos h5]; exact h5.1 ▸ gt (by simpa using h5.2)
  rw [if_neg h5]
  by_cases h6 : c = '\r' ∧ cfg.escapeCR = true
  · rw [if_pos h6]; exact h6.1 ▸ cr h6.2
  rw [if_neg h6]
  refine plain c h1 (fun e => ?_) (fun e => ?_) (fun e => ?_) (fun e => ?_) (fun e => ?_)
  · simpa [e] using h2
  · simpa [e] using h3
  · simpa [e] using h4
  · simpa [e] using h5
  · simpa [e] using h6

theorem unescape_escapeChar (cfg : SerCfg) (m : Bool) (c : Char) (rest : Str) :
    unescape (escapeChar cfg m c ++ rest) = c :: unescape rest :=
  escapeChar_cases cfg m (P := fun c e => unescape (e ++ rest) = c :: unescape rest)
    rfl (fun _ => rfl) (fun _ => rfl) (fun _ => rfl) (fun _ => rfl) (fun _ => rfl)
    (fun c h _ _ _ _ _ => unescape_plain c rest h) c

theorem escape_cons (cfg : SerCfg) (m : Bool) (c : Char) (s : Str) :
    escape cfg m (c :: s) = escapeChar cfg m c ++ escape cfg m s := by
  simp [escape]

/-- decoding the references undoes the escaping, in both modes, for every string -/
theorem unescape_escape (cfg : SerCfg) (m : Bool) (s : Str) : unescape (escape cfg m s) = s := by
  induction s with
  | nil => rfl
  | cons c s ih => rw [escape_cons, unescape_escapeChar, ih]

theorem normalize_noCR (s : Str) (h : '\r' ∉ s) : normalizeNewlines s = s := by
  induction s with
  | nil => simp [normalizeNewlines]
  | cons c s ih =>
    have hc : c ≠ '\r' := by intro e; subst e; simp at h
    have hs : '\r' ∉ s := by intro e; exact h (by simp [e])
    conv => lhs; unfold normalizeNewlines
    split <;> simp_all

theorem escapeChar_noCR (cfg : SerCfg) (m : Bool) (c : Char) (h : c ≠ '\r' ∨ cfg.escapeCR = true) :
    '\r' ∉ escapeChar cfg m c :=
  escapeChar_cases cfg m (P := fun c e => c ≠ '\r' ∨ cfg.escapeCR = true → '\r' ∉ e)
    (fun _ => by decide) (fun _ _ => by decide) (fun _ _ => by decide) (fun _ _ => by decide)
    (fun _ _ => by decide) (fun _ _ => by decide)
    (fun c _ _ _ _ _ hcr h e => by
      have e' : c = '\r' := (List.mem_singleton.mp e).symm
      rcases h with h | h
      · exact h e'
      · rw [hcr e'] at h; cases h) c h

theorem escape_noCR (cfg : SerCfg) (m : Bool) (s : Str) (h : '\r' ∉ s ∨ cfg.escapeCR = true) :
    '\r' ∉ escape cfg m s := by
  induction s with
  | nil => simp [escape]
  | cons c s ih =>
    rw [escape_cons]
    simp only [List.mem_append, not_or]
    constructor
    · apply escapeChar_noCR
      rcases h with h | h
      · left; intro e; subst e; simp at h
      · right; exact h
    · apply ih
      rcases h with h | h
      · left; intro e; exact h (by simp [e])
      · right; exact h

theorem escapeChar_text_no_lt (cfg : SerCfg) (c : Char) : '<' ∉ escapeChar cfg false c :=
  escapeChar_cases cfg false (P := fun _ e => '<' ∉ e)
    (by decide) nofun nofun (fun _ => by decide) (fun _ => by decide) (fun _ => by decide)
    (fun c _ _ _ hlt _ _ e => nomatch hlt (List.mem_singleton.mp e).symm) c

theorem escapeChar_attr_no_quote (cfg : SerCfg) (c : Char) : '"' ∉ escapeChar cfg true c :=
  escapeChar_cases cfg true (P := fun _ e => '"' ∉ e)
    (by decide) (fun _ => by decide) (fun _ => by decide) nofun nofun (fun _ => by decide)
    (fun c _ _ hq _ _ _ e => nomatch hq (List.mem_singleton.mp e).symm) c

theorem mem_escape (cfg : SerCfg) (m : Bool) (x : Char) (s : Str) (h : x ∈ escape cfg m s) :
    ∃ c ∈ s, x ∈ escapeChar cfg m c := by
  induction s with
  | nil => simp [escape] at h
  | cons c s ih =>
    rw [escape_cons] at h
    rcases List.mem_append.mp h with h | h
    · exact ⟨c, by simp, h⟩
    · obtain ⟨c', hc', hx⟩ := ih h; exact ⟨c', by simp [hc'], hx⟩

/-! ### the serializer's events spell the tree -/

/-- `evs` is a well-nested event stream for the node list (declarations arbitrary) -/
inductive Spells : List Ev → List Node → Prop where
  | nil : Spells [] []
  | elem {n : QName} {decls : SMap} {as : List Attr} {evs : List Ev} {ks : List Node}
      {rest : List Ev} {ns : List Node} :
      Spells evs ks → Spells rest ns →
      Spells (.startTag n decls as :: (evs ++ .endTag n :: rest)) (.elem n as ks :: ns)
  | text {s : Str} {rest : List Ev} {ns : List Node} :
      Spells rest ns → Spells (.text s :: rest) (.text s :: ns)
  | comment {s : Str} {rest : List Ev} {ns : List Node} :
      Spells rest ns → Spells (.comment s :: rest) (.comment s :: ns)
  | pi {t d : Str} {rest : List Ev} {ns : List Node} :
      Spells rest ns → Spells (.pi t d :: rest) (.pi t d :: ns)
  | doctype {n p sy : Str} {rest : List Ev} {ns : List Node} :
      Spells rest ns → Spells (.doctype n :: rest) (.doctype n p sy :: ns)

theorem Spells.append {e1 e2 : List Ev} {n1 n2 : List Node} (h1 : Spells e1 n1) (h2 : Spells e2 n2) :
    Spells (e1 ++ e2) (n1 ++ n2) := by
  induction h1 with
  | nil => simpa using h2
  | elem hk _ _ ih2 =>
    simp only [List.cons_append, List.append_assoc]
    exact Spells.elem hk ih2
  | text _ ih => exact Spells.text ih
  | comment _ ih => exact Spells.comment ih
  | pi _ ih => exact Spells.pi ih
  | doctype _ ih => exact Spells.doctype ih

theorem startElem_ev (cfg : SerCfg) (st : List SMap) (n : QName) (as : List Attr) :
    ∃ decls, (startElem cfg st n as).1 = .startTag n decls as := by
  unfold startElem; exact ⟨_, rfl⟩

theorem endElem_ev (cfg : SerCfg) (st : List SMap) (n : QName) : (endElem cfg st n).1 = .endTag n := rfl

mutual
theorem serNode_spells (cfg : SerCfg) : ∀ (st : List SMap) (n : Node), Spells (serNode cfg st n).1 [n]
  | st, .elem n as ks => by
    obtain ⟨decls, hd⟩ := startElem_ev cfg st n as
    have hk := serNodes_spells cfg (startElem cfg st n as).2 ks
    simp only [serNode, hd, endElem_ev]
    have := Spells.elem (n := n) (decls := decls) (as := as) hk Spells.nil
    simpa using this
  | st, .text s => by simpa [serNode] using Spells.text Spells.nil
  | st, .comment s => by simpa [serNode] using Spells.comment Spells.nil
  | st, .pi t d => by simpa [serNode] using Spells.pi Spells.nil
  | st, .doctype n p sy => by simpa [serNode] using Spells.doctype (p := p) (sy := sy) Spells.nil
theorem serNodes_spells (cfg : SerCfg) : ∀ (st : List SMap) (ns : List Node), Spells (serNodes cfg st ns).1 ns
  | st, [] => by simpa [serNodes] using Spells.nil
  | st, n :: rest => by
    have h1 := serNode_spells cfg st n
    have h2 := serNodes_spells cfg (serNode cfg st n).2 rest
    simp only [serNodes]
    simpa using Spells.append h1 h2
end

/-! ### the check: every written start tag resolves to its own name and attributes -/

/-- the tag the tokenizer delivers for a start-tag event -/
def tagOf (scfg : SerCfg) (lcfg : LexCfg) (n : QName) (decls : SMap) (attrs : List Attr) : Tag :=
  finishTag lcfg.tok ⟨.start, rawName n,
    decls.map (fun d => ⟨declName d.1, lexAttrValue lcfg (declValue scfg d.2)⟩) ++
    attrs.map (fun a => ⟨rawName a.name, lexAttrValue lcfg (escape scfg true a.value)⟩)⟩

theorem tagOf_kind (scfg : SerCfg) (lcfg : LexCfg) (n : QName) (decls : SMap) (attrs : List Attr) :
    tagOf scfg lcfg n decls attrs =
      ⟨.start, splitQName (rawName n), (tagOf scfg lcfg n decls attrs).attrs⟩ := rfl

/-- **the decidable side condition of `C17_partial`**: walking the event stream with the parser's
namespace stack (`pst`), every start tag — lexed, passed through the tokenizer's attribute step and
`process_namespaces` — yields exactly the element's own qualified name and attribute list. -/
def okEvs (scfg : SerCfg) (lcfg : LexCfg) (tcfg : TbCfg) : List NsMap → List Ev → Bool
  | _, [] => true
  | pst, .startTag n decls as :: rest =>
    let b := processNamespaces tcfg pst (tagOf scfg lcfg n decls as)
    b.name == n && b.attrs == as && okEvs scfg lcfg tcfg (b.map :: pst) rest
  | pst, .endTag _ :: rest => okEvs scfg lcfg tcfg pst.tail rest
  | pst, .text _ :: rest => okEvs scfg lcfg tcfg pst rest
  | pst, .comment _ :: rest => okEvs scfg lcfg tcfg pst rest
  | pst, .pi _ _ :: rest => okEvs scfg lcfg tcfg pst rest
  | pst, .doctype _ :: rest => okEvs scfg lcfg tcfg pst rest

theorem okEvs_append (scfg : SerCfg) (lcfg : LexCfg) (tcfg : TbCfg) {evs : List Ev} {ns : List Node}
    (h : Spells evs ns) (pst : List NsMap) (rest : List Ev) :
    okEvs scfg lcfg tcfg pst (evs ++ rest) =
      (okEvs scfg lcfg tcfg pst evs && okEvs scfg lcfg tcfg pst rest) := by
  induction h generalizing pst rest with
  | nil => simp [okEvs]
  | elem hk hr ihk ihr =>
    simp only [List.cons_append, List.append_assoc, okEvs]
    rw [ihk, ihk]
    simp only [okEvs, List.tail_cons]
    rw [ihr]
    simp [Bool.and_assoc]
  | text _ ih | comment _ ih | pi _ ih | doctype _ ih => simp only [List.cons_append, okEvs]; exact ih pst rest

/-! ### what a parsed tree's content looks like -/

mutual
/-- element content the parser can produce and the lexer gives back unchanged: no doctype, no empty
text, no two adjacent text nodes (`prev` = the previous sibling is a text node), no U+000D in text
unless the serializer escapes it -/
def nodesOK (scfg : SerCfg) : Bool → List Node → Prop
  | _, [] => True
  | prev, n :: rest => nodeOK scfg prev n ∧ nodesOK scfg (match n with | .text _ => true | _ => false) rest
def nodeOK (scfg : SerCfg) : Bool → Node → Prop
  | prev, .text s => prev = false ∧ s ≠ [] ∧ ('\r' ∉ s ∨ scfg.escapeCR = true)
  | _, .elem _ _ ks => nodesOK scfg false ks
  | _, .comment _ => True
  | _, .pi _ _ => True
  | _, .doctype _ _ _ => False
end

def prevText : List Node → Bool
  | .text _ :: _ => true
  | _ => false

/-! ### the tree builder on such a stream -/

theorem processNamespaces_name (cfg : TbCfg) (st : List NsMap) (t : Tag) :
    (processNamespaces cfg st t).name = (bindQName st (processNamespaces cfg st t).map t.name).1 := by
  unfold processNamespaces
  generalize declareAll [] [] (t.attrs.filter (isDeclLike cfg)) = r
  obtain ⟨cur, derrs⟩ := r
  rfl

/-- an end tag without attributes resolves its name in the scope of the open element exactly as that
element's start tag did -/
theorem endTag_name (cfg : TbCfg) (m : NsMap) (pst : List NsMap) (nm : RName) :
    (processNamespaces cfg (m :: pst) ⟨.end_, nm, []⟩).name = (bindQName pst m nm).1 := by
  have h : Model.XmlTB.findUri (m :: pst) [] nm.pfx = Model.XmlTB.findUri pst m nm.pfx := by
    simp [Model.XmlTB.findUri, List.findSome?_cons]
  simp [processNamespaces, declareAll, bindQName, h]

theorem closeTag_top (s : State) (nm : QName) (g f : Frame) (fr : List Frame)
    (hs : s.opened = g :: f :: fr) (hnm : g.name = nm) :
    closeTag s nm = .ok { s with nsStack := s.nsStack.tail,
                                 opened := { f with kids := g.close :: f.kids } :: fr } := by
  subst hnm
  unfold closeTag
  simp only [hs, ne_eq, not_true_eq_false, ↓reduceIte, List.any_cons, sameExpanded, beq_self_eq_true,
    Bool.and_self, Bool.true_or, List.length_cons]
  unfold popUntil
  simp only [hs, sameExpanded, beq_self_eq_true, Bool.and_self, ↓reduceIte, Except.bind]
  unfold pop
  simp only [hs]

theorem closeTag_root (s : State) (nm : QName) (g : Frame)
    (hs : s.opened = [g]) (hnm : g.name = nm) :
    closeTag s nm = .ok { s with nsStack := s.nsStack.tail, opened := [], root := some g.close } := by
  subst hnm
  unfold closeTag
  simp only [hs, ne_eq, not_true_eq_false, ↓reduceIte, List.any_cons, sameExpanded, beq_self_eq_true,
    Bool.and_self, Bool.true_or, List.length_cons]
  unfold popUntil
  simp only [hs, sameExpanded, beq_self_eq_true, Bool.and_self, ↓reduceIte, Except.bind]
  unfold pop
  simp only [hs]

theorem run_cons (cfg : TbCfg) (s : State) (t : Token) (rest : List Token) :
    run cfg s (t :: rest) = (step cfg s t).bind (fun s' => run cfg s' rest) := rfl

/-- the document-level fields are untouched -/
structure SameDoc (s s' : State) : Prop where
  docBefore : s'.docBefore = s.docBefore
  docAfter : s'.docAfter = s.docAfter
  root : s'.root = s.root

theorem SameDoc.refl (s : State) : SameDoc s s := ⟨rfl, rfl, rfl⟩
theorem SameDoc.trans {a b c : State} (h1 : SameDoc a b) (h2 : SameDoc b c) : SameDoc a c :=
  ⟨h2.docBefore.trans h1.docBefore, h2.docAfter.trans h1.docAfter, h2.root.trans h1.root⟩

theorem step_main_append (cfg : TbCfg) (s : State) (f : Frame) (fr : List Frame) (tok : Token)
    (upd : List Node → List Node) (hp : s.phase = .main) (hs : s.opened = f :: fr)
    (htok : step cfg s tok = appendCur s upd) :
    ∃ s', step cfg s tok = .ok s' ∧ s'.phase = .main ∧
      s'.opened = { f with kids := upd f.kids } :: fr ∧ s'.nsStack = s.nsStack ∧ SameDoc s s' := by
  rw [htok]; unfold appendCur; simp only [hs]
  exact ⟨_, rfl, hp, rfl, rfl, ⟨rfl, rfl, rfl⟩⟩

theorem step_main_start (cfg : TbCfg) (s : State) (f : Frame) (fr : List Frame) (nm : RName)
    (as : List RAttr) (hp : s.phase = .main) (hs : s.opened = f :: fr) :
    ∃ s', step cfg s (.tag ⟨.start, nm, as⟩) = .ok s' ∧ s'.phase = .main ∧
      s'.opened = ⟨(processNamespaces cfg s.nsStack ⟨.start, nm, as⟩).name,
                   (processNamespaces cfg s.nsStack ⟨.start, nm, as⟩).attrs, []⟩ :: f :: fr ∧
      s'.nsStack = (processNamespaces cfg s.nsStack ⟨.start, nm, as⟩).map :: s.nsStack ∧ SameDoc s s' := by
  unfold step
  simp only [hp]
  unfold insertTag
  match hs' : (applyNs cfg s ⟨.start, nm, as⟩).1.opened with
  | [] => simp [hs] at hs'
  | g :: rest' =>
    simp [hs] at hs'
    refine ⟨_, rfl, by simpa using hp, ?_, ?_, ?_⟩
    · simp [hs'.1, hs'.2]
    · simp [applyNs_nsStack, pushesMap]
    · unfold applyNs; simp only []; split <;> exact ⟨rfl, rfl, rfl⟩

theorem step_main_end (cfg : TbCfg) (s : State) (g f : Frame) (fr : List Frame) (nm : RName)
    (hp : s.phase = .main) (hs : s.opened = g :: f :: fr)
    (hnm : (processNamespaces cfg s.nsStack ⟨.end_, nm, []⟩).name = g.name) :
    ∃ s', step cfg s (.tag ⟨.end_, nm, []⟩) = .ok s' ∧ s'.phase = .main ∧
      s'.opened = { f with kids := g.close :: f.kids } :: fr ∧ s'.nsStack = s.nsStack.tail ∧
      SameDoc s s' := by
  unfold step
  simp only [hp]
  have ho : (applyNs cfg s ⟨.end_, nm, []⟩).1.opened = g :: f :: fr := by simp [hs]
  have hns : (applyNs cfg s ⟨.end_, nm, []⟩).1.nsStack = s.nsStack := by simp [applyNs_nsStack, pushesMap]
  rw [closeTag_top _ _ g f fr ho (by simpa using hnm.symm)]
  simp only [Except.map, setEndIfEmpty, List.isEmpty_cons, Bool.false_eq_true, ↓reduceIte]
  refine ⟨_, rfl, by simpa using hp, rfl, by simp [hns], ?_⟩
  unfold applyNs; simp only []; split <;> exact ⟨rfl, rfl, rfl⟩

theorem appendText_noPrev (kids : List Node) (s : Str) (h : prevText kids = false) :
    appendText kids s = .text s :: kids := by
  unfold appendText
  split
  · simp [prevText] at h
  · rfl

theorem lexText_escape (scfg : SerCfg) (s : Str) (h : '\r' ∉ s ∨ scfg.escapeCR = true) :
    lexText (escape scfg false s) = s := by
  unfold lexText
  rw [normalize_noCR _ (escape_noCR scfg false s h), unescape_escape]

theorem frame_eta (f : Frame) : ({ f with kids := f.kids } : Frame) = f := by cases f; rfl

/-- **the tree builder rebuilds what the events spell**: in the Main phase, with current node `f`, a
well-nested event stream for `ns` whose start tags pass `okEvs` appends exactly `ns` to `f`, leaves
the namespace stack as it was and touches nothing else. -/
theorem run_spells (scfg : SerCfg) (lcfg : LexCfg) (tcfg : TbCfg) {evs : List Ev} {ns : List Node}
    (h : Spells evs ns) :
    ∀ (s : State) (f : Frame) (fr : List Frame) (more : List Token),
      s.phase = .main → s.opened = f :: fr →
      okEvs scfg lcfg tcfg s.nsStack evs = true → nodesOK scfg (prevText f.kids) ns →
      ∃ s', run tcfg s (evs.filterMap (lexEv scfg lcfg) ++ more) = run tcfg s' more ∧
        s'.phase = .main ∧ s'.opened = { f with kids := ns.reverse ++ f.kids } :: fr ∧
        s'.nsStack = s.nsStack ∧ SameDoc s s' := by
  induction h with
  | nil =>
    intro s f fr more hp hs _ _
    exact ⟨s, rfl, hp, by simp [hs], rfl, SameDoc.refl s⟩
  | @text str rest ns' _ ih =>
    intro s f fr more hp hs hok hn
    simp only [nodesOK, nodeOK] at hn
    obtain ⟨⟨hprev, hne, hcr⟩, hrest⟩ := hn
    simp only [okEvs] at hok
    obtain ⟨s1, h1, hp1, ho1, hns1, hd1⟩ := step_main_append tcfg s f fr (.chars str)
      (fun k => appendText k str) hp hs (by unfold step; simp only [hp])
    rw [appendText_noPrev _ _ hprev] at ho1
    obtain ⟨s2, h2, hp2, ho2, hns2, hd2⟩ := ih s1 _ fr more hp1 ho1 (by rw [hns1]; exact hok) (by simpa [prevText] using hrest)
    refine ⟨s2, ?_, hp2, ?_, by rw [hns2, hns1], hd1.trans hd2⟩
    · simp only [List.filterMap_cons, lexEv, hne, ↓reduceIte, lexText_escape scfg str hcr, List.cons_append]
      rw [run_cons, h1]; exact h2
    · rw [ho2]; simp
  | @comment str rest ns' _ ih =>
    intro s f fr more hp hs hok hn
    simp only [nodesOK, nodeOK, true_and] at hn
    simp only [okEvs] at hok
    obtain ⟨s1, h1, hp1, ho1, hns1, hd1⟩ := step_main_append tcfg s f fr (.comment str)
      (fun k => .comment str :: k) hp hs (by unfold step; simp only [hp])
    obtain ⟨s2, h2, hp2, ho2, hns2, hd2⟩ := ih s1 _ fr more hp1 ho1 (by rw [hns1]; exact hok) (by simpa [prevText] using hn)
    refine ⟨s2, ?_, hp2, ?_, by rw [hns2, hns1], hd1.trans hd2⟩
    · simp only [List.filterMap_cons, lexEv, List.cons_append]
      rw [run_cons, h1]; exact h2
    · rw [ho2]; simp
  | @pi t d rest ns' _ ih =>
    intro s f fr more hp hs hok hn
    simp only [nodesOK, nodeOK, true_and] at hn
    simp only [okEvs] at hok
    obtain ⟨s1, h1, hp1, ho1, hns1, hd1⟩ := step_main_append tcfg s f fr (.pi t d)
      (fun k => .pi t d :: k) hp hs (by unfold step; simp only [hp])
    obtain ⟨s2, h2, hp2, ho2, hns2, hd2⟩ := ih s1 _ fr more hp1 ho1 (by rw [hns1]; exact hok) (by simpa [prevText] using hn)
    refine ⟨s2, ?_, hp2, ?_, by rw [hns2, hns1], hd1.trans hd2⟩
    · simp only [List.filterMap_cons, lexEv, List.cons_append]
      rw [run_cons, h1]; exact h2
    · rw [ho2]; simp
  | doctype _ _ =>
    intro s f fr more _ _ _ hn
    simp [nodesOK, nodeOK] at hn
  | @elem n decls as evs' ks rest ns' hk hr ihk ihr =>
    intro s f fr more hp hs hok hn
    simp only [nodesOK, nodeOK] at hn
    obtain ⟨hks, hrest⟩ := hn
    simp only [okEvs, Bool.and_eq_true, beq_iff_eq] at hok
    obtain ⟨⟨hbn, hba⟩, hok2⟩ := hok
    rw [okEvs_append scfg lcfg tcfg hk, Bool.and_eq_true] at hok2
    obtain ⟨hokk, hok3⟩ := hok2
    simp only [okEvs, List.tail_cons] at hok3
    -- start tag
    obtain ⟨s1, h1, hp1, ho1, hns1, hd1⟩ := step_main_start tcfg s f fr (splitQName (rawName n))
      (tagOf scfg lcfg n decls as).attrs hp hs
    rw [← tagOf_kind] at ho1 hns1
    rw [hbn, hba] at ho1
    -- children
    obtain ⟨s2, h2, hp2, ho2, hns2, hd2⟩ := ihk s1 ⟨n, as, []⟩ (f :: fr)
      (.tag ⟨.end_, splitQName (rawName n), []⟩ :: (rest.filterMap (lexEv scfg lcfg) ++ more))
      hp1 ho1 (by rw [hns1]; exact hokk) (by simpa [prevText] using hks)
    -- end tag
    have hname : (processNamespaces tcfg s2.nsStack ⟨.end_, splitQName (rawName n), []⟩).name = n := by
      rw [hns2, hns1, endTag_name]
      have := processNamespaces_name tcfg s.nsStack (tagOf scfg lcfg n decls as)
      exact this.symm.trans hbn
    obtain ⟨s3, h3, hp3, ho3, hns3, hd3⟩ := step_main_end tcfg s2 _ f fr (splitQName (rawName n)) hp2 ho2
      (by rw [hname])
    have hns3' : s3.nsStack = s.nsStack := by rw [hns3, hns2, hns1]; rfl
    -- following siblings
    obtain ⟨s4, h4, hp4, ho4, hns4, hd4⟩ := ihr s3 _ fr more hp3 ho3 (by rw [hns3']; exact hok3)
      (by simpa [prevText, Frame.close] using hrest)
    refine ⟨s4, ?_, hp4, ?_, by rw [hns4, hns3'], ((hd1.trans hd2).trans hd3).trans hd4⟩
    · simp only [List.filterMap_cons, lexEv, List.filterMap_append, List.cons_append, List.append_assoc]
      rw [run_cons]
      have : (Token.tag (finishTag lcfg.tok ⟨.start, rawName n,
          decls.map (fun d => ⟨declName d.1, lexAttrValue lcfg (declValue scfg d.2)⟩) ++
          as.map (fun a => ⟨rawName a.name, lexAttrValue lcfg (escape scfg true a.value)⟩)⟩)) =
          .tag ⟨.start, splitQName (rawName n), (tagOf scfg lcfg n decls as).attrs⟩ := rfl
      rw [this, h1]
      simp only [Except.bind]
      rw [h2, run_cons, h3]
      exact h4
    · rw [ho4]; simp [Frame.close]

end H5V.Lemmas.XmlSer
