import H5V.Lemmas.HtmlTBReachBase
/-!
C18, tree-builder side: the helper algorithms of `tree_builder/mod.rs` pass only known handles
to the sink (`PV`), one `Call` instance per helper.
-/
namespace H5V.Props.C18
open H5V.Model.Dom (Id QualName Attr NodeOrText SinkOp Output ElementFlags QuirksMode Dom)
open H5V.Model.HtmlTB
open H5V.Lemmas.TBM

/-! ### sink wrappers -/

instance pv_sinkUnit (op : SinkOp) : Call (sinkUnit op) (opArgs op) nil := ⟨by unfold sinkUnit; pv_walk⟩

instance pv_sinkNode (op : SinkOp) : Call (sinkNode op) (opArgs op) one := ⟨by
  unfold sinkNode; pv_walk⟩

instance pv_sinkBool (op : SinkOp) : Call (sinkBool op) (opArgs op) nil := ⟨by
  unfold sinkBool; pv_walk⟩

instance pv_parseError (msg : String) : Call (parseError msg) [] nil := ⟨by unfold parseError; pv_walk⟩

instance pv_elemName (h : Id) : Call (elemName h) [h] nil := ⟨by
  unfold elemName; pv_walk⟩

instance pv_sameNode (x y : Id) : Call (sameNode x y) [x, y] nil := ⟨by unfold sameNode; pv_walk⟩

/-! ### small accessors -/

instance pv_htmlElemNamedS (h : Id) (n : Str) : Call (htmlElemNamedS h n) [h] nil := ⟨by unfold htmlElemNamedS; pv_walk⟩

instance pv_htmlElemNamed (h : Id) (n : String) : Call (htmlElemNamed h n) [h] nil := pv_htmlElemNamedS h _

instance pv_elemIn (h : Id) (f : EName → Bool) : Call (elemIn h f) [h] nil := ⟨by unfold elemIn; pv_walk⟩

instance pv_currentNode : Call currentNode [] one := ⟨by unfold currentNode; pv_walk⟩

instance pv_adjustedCurrentNode : Call adjustedCurrentNode [] one := ⟨by unfold adjustedCurrentNode; pv_walk⟩

instance pv_currentNodeIn (f : EName → Bool) : Call (currentNodeIn f) [] nil := ⟨by unfold currentNodeIn; pv_walk⟩

instance pv_currentNodeNamedS (n : Str) : Call (currentNodeNamedS n) [] nil := ⟨by unfold currentNodeNamedS; pv_walk⟩

instance pv_currentNodeNamed (n : String) : Call (currentNodeNamed n) [] nil := pv_currentNodeNamedS _

instance pv_htmlElem : Call htmlElem [] one := ⟨by unfold htmlElem; pv_walk⟩

instance pv_htmlElemFn : Call htmlElemFn [] one := ⟨by unfold htmlElemFn; pv_walk⟩

instance pv_isFragment : Call isFragment [] nil := ⟨by unfold isFragment; pv_walk⟩

instance pv_push (h : Id) : Call (push h) [h] nil := ⟨by unfold push; pv_walk⟩

instance pv_pop : Call pop [] one := ⟨by unfold pop; pv_walk⟩

instance pv_popSilently : Call popSilently [] Option.toList := ⟨by unfold popSilently; pv_walk⟩

instance pv_setMode (m : Mode) : Call (setMode m) [] nil := ⟨by unfold setMode; pv_walk⟩
instance pv_setFramesetOk (b : Bool) : Call (setFramesetOk b) [] nil := ⟨by unfold setFramesetOk; pv_walk⟩
instance pv_pushMarker : Call pushMarker [] nil := ⟨by unfold pushMarker; pv_walk⟩

/-- the handle an answer of a rule carries (`Script(node)`) -/
def prH : ProcessResult → List Id
  | .script n => [n]
  | _ => []

@[pv_mem] theorem prH_script (n : Id) : prH (.script n) = [n] := rfl
@[pv_mem] theorem prH_done : prH .done = [] := rfl
@[pv_mem] theorem prH_doneAck : prH .doneAckSelfClosing = [] := rfl
@[pv_mem] theorem prH_split (s : Str) : prH (.splitWhitespace s) = [] := rfl
@[pv_mem] theorem prH_reprocess (m : Mode) (t : Token) : prH (.reprocess m t) = [] := rfl
@[pv_mem] theorem prH_reprocessForeign (t : Token) : prH (.reprocessForeign t) = [] := rfl
@[pv_mem] theorem prH_toPlaintext : prH .toPlaintext = [] := rfl
@[pv_mem] theorem prH_toRawData (k : H5V.Model.HtmlTok.RawKind) : prH (.toRawData k) = [] := rfl
@[pv_mem] theorem prH_indicator (s : Str) : prH (.encodingIndicator s) = [] := rfl

instance pv_unexpected : Call unexpected [] prH := ⟨by unfold unexpected; pv_walk⟩

instance pv_setQuirksMode (m : QuirksMode) : Call (setQuirksMode m) [] nil := ⟨by unfold setQuirksMode; pv_walk⟩

instance pv_toRawTextMode (k : H5V.Model.HtmlTok.RawKind) : Call (toRawTextMode k) [] prH := ⟨by
  unfold toRawTextMode; pv_walk⟩

/-! ### creating and inserting nodes -/

instance pv_createElementWithFlags (n : QualName) (a : List Attr) (d : Bool) :
    Call (createElementWithFlags n a d) [] one := ⟨by unfold createElementWithFlags; pv_walk⟩

/-- the handles of an insertion point -/
def ipH : InsertionPoint → List Id
  | .lastChild p => [p]
  | .beforeSibling s => [s]
  | .tableFosterParenting e p => [e, p]

@[pv_mem] theorem ipH_lastChild (p : Id) : ipH (.lastChild p) = [p] := rfl
@[pv_mem] theorem ipH_beforeSibling (p : Id) : ipH (.beforeSibling p) = [p] := rfl
@[pv_mem] theorem ipH_foster (e p : Id) : ipH (.tableFosterParenting e p) = [e, p] := rfl

theorem nodes_fst_mem (ip : InsertionPoint) : ip.nodes.1 ∈ ipH ip := by cases ip <;> simp [InsertionPoint.nodes, ipH]
theorem nodes_snd_mem {ip : InsertionPoint} {x : Id} (h : ip.nodes.2 = some x) : x ∈ ipH ip := by
  cases ip <;> simp_all [InsertionPoint.nodes, ipH]

instance pv_fosterLoop : ∀ l : List Id, Call (fosterLoop l) l ipH
  | [] => ⟨by unfold fosterLoop; pv_walk⟩
  | e :: rest => ⟨by have ih := pv_fosterLoop rest; unfold fosterLoop; pv_walk⟩

instance pv_appropriatePlaceForInsertion (o : Option Id) : Call (appropriatePlaceForInsertion o) o.toList ipH := ⟨by
  unfold appropriatePlaceForInsertion; pv_walk⟩

instance pv_insertAt (p : InsertionPoint) (ch : NodeOrText) : Call (insertAt p ch) (ipH p ++ childIds ch) nil := ⟨by
  cases p <;> (unfold insertAt; pv_walk)⟩

instance pv_insertAppropriately (ch : NodeOrText) (o : Option Id) :
    Call (insertAppropriately ch o) (o.toList ++ childIds ch) nil := ⟨by unfold insertAppropriately; pv_walk⟩

instance pv_anyHtmlElemNamed (n : String) : ∀ l : List Id, Call (anyHtmlElemNamed n l) l nil
  | [] => ⟨by unfold anyHtmlElemNamed; pv_walk⟩
  | e :: rest => ⟨by have ih := pv_anyHtmlElemNamed n rest; unfold anyHtmlElemNamed; pv_walk⟩

instance pv_inHtmlElemNamed (n : String) : Call (inHtmlElemNamed n) [] nil := ⟨by unfold inHtmlElemNamed; pv_walk⟩

instance pv_insertElement (p : Bool) (ns n : Str) (a : List Attr) (d : Bool) : Call (insertElement p ns n a d) [] one := ⟨by
  unfold insertElement
  refine PV.bindCall (by mem_tac) fun ip => ?_
  have h1 := nodes_fst_mem ip
  have h2 := @nodes_snd_mem ip
  pv_walk⟩

instance pv_insertElementFor (t : Tag) : Call (insertElementFor t) [] one := pv_insertElement ..
instance pv_insertAndPopElementFor (t : Tag) : Call (insertAndPopElementFor t) [] one := pv_insertElement ..
instance pv_insertPhantom (n : String) : Call (insertPhantom n) [] one := pv_insertElement ..

instance pv_insertForeignElement (t : Tag) (ns : Str) (b : Bool) : Call (insertForeignElement t ns b) [] one := ⟨by
  unfold insertForeignElement; pv_walk⟩

instance pv_createRoot (a : List Attr) : Call (createRoot a) [] nil := ⟨by unfold createRoot; pv_walk⟩

instance pv_appendText (t : Str) : Call (appendText t) [] prH := ⟨by unfold appendText; pv_walk⟩
instance pv_appendComment (t : Str) : Call (appendComment t) [] prH := ⟨by unfold appendComment; pv_walk⟩
instance pv_appendCommentToDoc (t : Str) : Call (appendCommentToDoc t) [] prH := ⟨by unfold appendCommentToDoc; pv_walk⟩
instance pv_appendCommentToHtml (t : Str) : Call (appendCommentToHtml t) [] prH := ⟨by
  unfold appendCommentToHtml; pv_walk⟩
instance pv_parseRawData (t : Tag) (k : H5V.Model.HtmlTok.RawKind) : Call (parseRawData t k) [] prH := ⟨by
  unfold parseRawData; pv_walk⟩

/-! ### scope predicates, implied end tags, popping -/

/-- `pred` only asks the sink about its argument and the handles `c0` -/
theorem pv_inScopeLoop (scope : EName → Bool) (pred : Id → M Bool) (c0 : List Id) (hp : ∀ h, Call (pred h) (h :: c0) nil) :
    ∀ l : List Id, Call (inScopeLoop scope pred l) (l ++ c0) nil
  | [] => ⟨by unfold inScopeLoop; pv_walk⟩
  | e :: rest => ⟨by have ih := pv_inScopeLoop scope pred c0 hp rest; unfold inScopeLoop; pv_walk⟩

theorem pv_inScope (scope : EName → Bool) (pred : Id → M Bool) (c0 : List Id) (hp : ∀ h, Call (pred h) (h :: c0) nil) :
    Call (inScope scope pred) c0 nil := ⟨by
  have hl := pv_inScopeLoop scope pred c0 hp
  unfold inScope; pv_walk⟩

instance pv_inScopeNamedS (scope : EName → Bool) (n : Str) : Call (inScopeNamedS scope n) [] nil :=
  pv_inScope scope _ [] fun h => pv_htmlElemNamedS h n
instance pv_inScopeNamed (scope : EName → Bool) (n : String) : Call (inScopeNamed scope n) [] nil :=
  pv_inScopeNamedS scope _
instance pv_inScope_elemIn (scope f : EName → Bool) : Call (inScope scope (fun n => elemIn n f)) [] nil :=
  pv_inScope scope _ [] fun h => pv_elemIn h f
instance pv_inScope_sameNode_l (scope : EName → Bool) (x : Id) : Call (inScope scope (fun n => sameNode x n)) [x] nil :=
  pv_inScope scope _ [x] fun h => ⟨(pv_sameNode x h).pv.weaken (by mem_tac)⟩
instance pv_inScope_sameNode_r (scope : EName → Bool) (x : Id) : Call (inScope scope (fun n => sameNode n x)) [x] nil :=
  pv_inScope scope _ [x] fun h => pv_sameNode h x

instance pv_generateImpliedEndTagsLoop (set : EName → Bool) : ∀ fuel : Nat, Call (generateImpliedEndTagsLoop set fuel) [] nil
  | 0 => ⟨by unfold generateImpliedEndTagsLoop; pv_walk⟩
  | fuel + 1 => ⟨by have ih := pv_generateImpliedEndTagsLoop set fuel; unfold generateImpliedEndTagsLoop; pv_walk⟩

instance pv_generateImpliedEndTags (set : EName → Bool) : Call (generateImpliedEndTags set) [] nil := ⟨by
  unfold generateImpliedEndTags; pv_walk⟩
instance pv_generateImpliedEndExcept (e : Str) : Call (generateImpliedEndExcept e) [] nil := pv_generateImpliedEndTags _

instance pv_popUntilCurrentLoop (set : EName → Bool) : ∀ fuel : Nat, Call (popUntilCurrentLoop set fuel) [] nil
  | 0 => ⟨by unfold popUntilCurrentLoop; pv_walk⟩
  | fuel + 1 => ⟨by have ih := pv_popUntilCurrentLoop set fuel; unfold popUntilCurrentLoop; pv_walk⟩
instance pv_popUntilCurrent (set : EName → Bool) : Call (popUntilCurrent set) [] nil := ⟨by
  unfold popUntilCurrent; pv_walk⟩

instance pv_popUntilLoop (pred : EName → Bool) : ∀ fuel n : Nat, Call (popUntilLoop pred fuel n) [] nil
  | 0, _ => ⟨by unfold popUntilLoop; pv_walk⟩
  | fuel + 1, n => ⟨by have ih := pv_popUntilLoop pred fuel; unfold popUntilLoop; pv_walk⟩
instance pv_popUntil (pred : EName → Bool) : Call (popUntil pred) [] nil := ⟨by unfold popUntil; pv_walk⟩
instance pv_popUntilNamedS (n : Str) : Call (popUntilNamedS n) [] nil := pv_popUntil _
instance pv_popUntilNamed (n : String) : Call (popUntilNamed n) [] nil := pv_popUntil _
instance pv_expectToCloseS (n : Str) : Call (expectToCloseS n) [] nil := ⟨by unfold expectToCloseS; pv_walk⟩
instance pv_expectToClose (n : String) : Call (expectToClose n) [] nil := pv_expectToCloseS _
instance pv_closePElement : Call closePElement [] nil := ⟨by unfold closePElement; pv_walk⟩
instance pv_closePElementInButtonScope : Call closePElementInButtonScope [] nil := ⟨by
  unfold closePElementInButtonScope; pv_walk⟩

instance pv_checkBodyEndLoop : ∀ l : List Id, Call (checkBodyEndLoop l) l nil
  | [] => ⟨by unfold checkBodyEndLoop; pv_walk⟩
  | e :: rest => ⟨by have ih := pv_checkBodyEndLoop rest; unfold checkBodyEndLoop; pv_walk⟩
instance pv_checkBodyEnd : Call checkBodyEnd [] nil := ⟨by unfold checkBodyEnd; pv_walk⟩

instance pv_bodyElem : Call bodyElem [] Option.toList := ⟨by unfold bodyElem; pv_walk⟩

end H5V.Props.C18
