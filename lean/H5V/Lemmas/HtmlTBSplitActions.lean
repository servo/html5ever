import H5V.Lemmas.HtmlTBSplitBase
/-!
C03 lifted to the tree: every helper algorithm of `H5V.Model.HtmlTB.Actions` respects `Sim`
(`foo_resp : Resp (foo …)`, tagged `@[resp]` for the walk `resp_auto`).
-/
namespace H5V.Lemmas.TBSplit
open H5V.Model.Dom (Id QualName Attr NodeOrText SinkOp Output ElementFlags QuirksMode Dom)
open H5V.Model.HtmlTok (TagKind RawKind)
open H5V.Model.HtmlTB

/-! ### small accessors -/

@[resp]
theorem htmlElemNamedS_resp (h : Id) (name : Str) : Resp (htmlElemNamedS h name) := by
  unfold htmlElemNamedS; resp_auto

@[resp]
theorem htmlElemNamed_resp (h : Id) (name : String) : Resp (htmlElemNamed h name) := htmlElemNamedS_resp _ _

@[resp]
theorem elemIn_resp (h : Id) (set : EName → Bool) : Resp (elemIn h set) := by
  unfold elemIn; resp_auto

@[resp]
theorem currentNode_resp : Resp currentNode := by
  unfold currentNode; resp_auto

@[resp]
theorem adjustedCurrentNode_resp : Resp adjustedCurrentNode := by
  unfold adjustedCurrentNode; resp_auto

@[resp]
theorem currentNodeIn_resp (set : EName → Bool) : Resp (currentNodeIn set) := by
  unfold currentNodeIn; resp_auto

@[resp]
theorem currentNodeNamedS_resp (name : Str) : Resp (currentNodeNamedS name) := by
  unfold currentNodeNamedS; resp_auto

@[resp]
theorem currentNodeNamed_resp (name : String) : Resp (currentNodeNamed name) := currentNodeNamedS_resp _

@[resp]
theorem htmlElem_resp : Resp htmlElem := by
  unfold htmlElem; resp_auto

@[resp]
theorem htmlElemFn_resp : Resp htmlElemFn := by
  unfold htmlElemFn; resp_auto

@[resp]
theorem isFragment_resp : Resp isFragment := by
  unfold isFragment; resp_auto

@[resp]
theorem push_resp (h : Id) : Resp (push h) := by
  unfold push; resp_auto

/-- `set s'` after the state was read: both sides store `Sim`-related states -/
theorem relR_set_bind {β : Type} {Q : β → Prop} {s' t' s t : State} {k : M β} (h : Sim s' t') (hk : RespQ Q k) :
    RelR Q (((set s' : M PUnit) >>= fun _ => k) s) (((set t' : M PUnit) >>= fun _ => k) t) := by
  rw [bind_apply, bind_apply, set_apply, set_apply]
  exact hk s' t' h

theorem sim_upd_of {s : State} {tr cl er pt} (hi : AFInv s) (hp : PendRel s.pendingTableText pt) :
    Sim s (upd s tr cl er pt) := ⟨hi, tr, cl, er, pt, rfl, hp⟩

@[resp]
theorem pop_resp : Resp pop := by
  intro s t hst
  obtain ⟨hi, tr, cl, er, pt, rfl, hp⟩ := hst
  unfold pop
  rw [bind_apply, bind_apply, getS_apply, getS_apply]
  show RelR _ ((match s.openElems.getLast? with
      | none => panicAt "no-current-element" "mod.rs:934" "expect(\"no current element\")"
      | some h => (set { s with openElems := s.openElems.dropLast } : M PUnit) >>= fun _ =>
          (sinkUnit (.pop h) >>= fun _ => pure h)) s)
    ((match s.openElems.getLast? with
      | none => panicAt "no-current-element" "mod.rs:934" "expect(\"no current element\")"
      | some h => (set { upd s tr cl er pt with openElems := s.openElems.dropLast } : M PUnit) >>= fun _ =>
          (sinkUnit (.pop h) >>= fun _ => pure h)) (upd s tr cl er pt))
  cases s.openElems.getLast? with
  | none => trivial
  | some h =>
    refine relR_set_bind (sim_upd_of (s := { s with openElems := s.openElems.dropLast }) hi hp) ?_
    resp_auto

@[resp]
theorem popSilently_resp : Resp popSilently := by
  intro s t hst
  obtain ⟨hi, tr, cl, er, pt, rfl, hp⟩ := hst
  unfold popSilently
  rw [bind_apply, bind_apply, getS_apply, getS_apply]
  show RelR _ ((match s.openElems.getLast? with
      | none => pure none
      | some h => (set { s with openElems := s.openElems.dropLast } : M PUnit) >>= fun _ => pure (some h)) s)
    ((match s.openElems.getLast? with
      | none => pure none
      | some h => (set { upd s tr cl er pt with openElems := s.openElems.dropLast } : M PUnit) >>= fun _ =>
          pure (some h)) (upd s tr cl er pt))
  cases s.openElems.getLast? with
  | none => exact ⟨rfl, trivial, sim_upd_of hi hp⟩
  | some h =>
    refine relR_set_bind (sim_upd_of (s := { s with openElems := s.openElems.dropLast }) hi hp) ?_
    resp_auto

@[resp]
theorem setMode_resp (m : Mode) : Resp (setMode m) := by
  unfold setMode; resp_auto

@[resp]
theorem setFramesetOk_resp (b : Bool) : Resp (setFramesetOk b) := by
  unfold setFramesetOk; resp_auto

/-- an update of the list of active formatting elements that keeps the invariant -/
theorem resp_modAF {F : List FormatEntry → List FormatEntry}
    (h : ∀ l, (∀ e ∈ l, FmtEntry e) → ∀ e ∈ F l, FmtEntry e) :
    Resp (modS fun s => { s with activeFormatting := F s.activeFormatting }) :=
  resp_modS' (fun _ _ _ _ _ => rfl) (fun _ hs => h _ hs) (fun _ => rfl)

@[resp]
theorem pushMarker_resp : Resp pushMarker := by
  unfold pushMarker
  refine resp_modAF (F := fun l => l ++ [.marker]) ?_
  intro l hl e he
  rcases List.mem_append.mp he with he | he
  · exact hl e he
  · simp at he; subst he; trivial

@[resp]
theorem unexpected_done : RespQ (· = .done) unexpected := by
  unfold unexpected; resp_auto

@[resp]
theorem setQuirksMode_resp (m : QuirksMode) : Resp (setQuirksMode m) := by
  unfold setQuirksMode; resp_auto

@[resp]
theorem toRawTextMode_notRe (k : RawKind) : RespQ NotRe (toRawTextMode k) := by
  unfold toRawTextMode; resp_auto
@[resp]
theorem toRawTextMode_resp (k : RawKind) : Resp (toRawTextMode k) := respQ_resp (toRawTextMode_notRe k)

/-! ### creating and inserting nodes -/

@[resp]
theorem createElementWithFlags_resp (name : QualName) (attrs : List Attr) (hadDup : Bool) :
    Resp (createElementWithFlags name attrs hadDup) := by
  unfold createElementWithFlags; resp_auto

@[resp]
theorem fosterLoop_resp : ∀ l, Resp (fosterLoop l)
  | [] => by unfold fosterLoop; resp_auto
  | e :: rest => by
    have ih := fosterLoop_resp rest
    unfold fosterLoop; resp_auto

@[resp]
theorem appropriatePlaceForInsertion_resp (o : Option Id) : Resp (appropriatePlaceForInsertion o) := by
  unfold appropriatePlaceForInsertion; resp_auto

@[resp]
theorem insertAt_resp (p : InsertionPoint) (c : NodeOrText) : Resp (insertAt p c) := by
  unfold insertAt; resp_auto

@[resp]
theorem insertAppropriately_resp (c : NodeOrText) (o : Option Id) : Resp (insertAppropriately c o) := by
  unfold insertAppropriately; resp_auto

@[resp]
theorem anyHtmlElemNamed_resp (name : String) : ∀ l, Resp (anyHtmlElemNamed name l)
  | [] => by unfold anyHtmlElemNamed; resp_auto
  | e :: rest => by
    have ih := anyHtmlElemNamed_resp name rest
    unfold anyHtmlElemNamed; resp_auto

@[resp]
theorem inHtmlElemNamed_resp (name : String) : Resp (inHtmlElemNamed name) := by
  unfold inHtmlElemNamed; resp_auto

@[resp]
theorem insertElement_resp (pushIt : Bool) (ns name : Str) (attrs : List Attr) (hadDup : Bool) :
    Resp (insertElement pushIt ns name attrs hadDup) := by
  unfold insertElement; resp_auto

@[resp]
theorem insertElementFor_resp (tag : Tag) : Resp (insertElementFor tag) := insertElement_resp _ _ _ _ _
@[resp]
theorem insertAndPopElementFor_resp (tag : Tag) : Resp (insertAndPopElementFor tag) := insertElement_resp _ _ _ _ _
@[resp]
theorem insertPhantom_resp (name : String) : Resp (insertPhantom name) := insertElement_resp _ _ _ _ _

@[resp]
theorem insertForeignElement_resp (tag : Tag) (ns : Str) (b : Bool) : Resp (insertForeignElement tag ns b) := by
  unfold insertForeignElement; resp_auto

@[resp]
theorem createRoot_resp (attrs : List Attr) : Resp (createRoot attrs) := by
  unfold createRoot; resp_auto

@[resp]
theorem appendText_resp (text : Str) : RespQ (· = .done) (appendText text) := by
  unfold appendText; resp_auto
@[resp]
theorem appendComment_resp (text : Str) : RespQ (· = .done) (appendComment text) := by
  unfold appendComment; resp_auto
@[resp]
theorem appendCommentToDoc_resp (text : Str) : RespQ (· = .done) (appendCommentToDoc text) := by
  unfold appendCommentToDoc; resp_auto
@[resp]
theorem appendCommentToHtml_resp (text : Str) : RespQ (· = .done) (appendCommentToHtml text) := by
  unfold appendCommentToHtml; resp_auto


@[resp]
theorem parseRawData_notRe (tag : Tag) (k : RawKind) : RespQ NotRe (parseRawData tag k) := by
  unfold parseRawData; resp_auto
@[resp]
theorem parseRawData_resp (tag : Tag) (k : RawKind) : Resp (parseRawData tag k) := respQ_resp (parseRawData_notRe _ _)

/-! ### scope predicates, implied end tags, popping -/

theorem inScopeLoop_resp (scope : EName → Bool) (pred : Id → M Bool) (hp : ∀ n, Resp (pred n)) :
    ∀ l, Resp (inScopeLoop scope pred l)
  | [] => by unfold inScopeLoop; resp_auto
  | node :: rest => by
    have ih := inScopeLoop_resp scope pred hp rest
    have h1 := hp node
    unfold inScopeLoop; resp_auto

@[resp]
theorem inScope_resp (scope : EName → Bool) (pred : Id → M Bool) (hp : ∀ n, Resp (pred n)) :
    Resp (inScope scope pred) := by
  unfold inScope
  refine respQ_getS_bind (fun _ _ => inScopeLoop_resp scope pred hp _) (by resp_stable)


@[resp]
theorem inScopeNamedS_resp (scope : EName → Bool) (name : Str) : Resp (inScopeNamedS scope name) :=
  inScope_resp _ _ (fun _ => htmlElemNamedS_resp _ _)

@[resp]
theorem inScopeNamed_resp (scope : EName → Bool) (name : String) : Resp (inScopeNamed scope name) :=
  inScopeNamedS_resp _ _

@[resp]
theorem generateImpliedEndTagsLoop_resp (set : EName → Bool) : ∀ n, Resp (generateImpliedEndTagsLoop set n)
  | 0 => by unfold generateImpliedEndTagsLoop; resp_auto
  | n + 1 => by
    have ih := generateImpliedEndTagsLoop_resp set n
    unfold generateImpliedEndTagsLoop; resp_auto

@[resp]
theorem generateImpliedEndTags_resp (set : EName → Bool) : Resp (generateImpliedEndTags set) := by
  unfold generateImpliedEndTags; resp_auto

@[resp]
theorem generateImpliedEndExcept_resp (e : Str) : Resp (generateImpliedEndExcept e) := generateImpliedEndTags_resp _

@[resp]
theorem popUntilCurrentLoop_resp (set : EName → Bool) : ∀ n, Resp (popUntilCurrentLoop set n)
  | 0 => by unfold popUntilCurrentLoop; resp_auto
  | n + 1 => by
    have ih := popUntilCurrentLoop_resp set n
    unfold popUntilCurrentLoop; resp_auto

@[resp]
theorem popUntilCurrent_resp (set : EName → Bool) : Resp (popUntilCurrent set) := by
  unfold popUntilCurrent; resp_auto

@[resp]
theorem popUntilLoop_resp (pred : EName → Bool) : ∀ n k, Resp (popUntilLoop pred n k)
  | 0, _ => by unfold popUntilLoop; resp_auto
  | n + 1, k => by
    have ih := popUntilLoop_resp pred n (k + 1)
    unfold popUntilLoop; resp_auto

@[resp]
theorem popUntil_resp (pred : EName → Bool) : Resp (popUntil pred) := by
  unfold popUntil; resp_auto

@[resp]
theorem popUntilNamedS_resp (name : Str) : Resp (popUntilNamedS name) := popUntil_resp _
@[resp]
theorem popUntilNamed_resp (name : String) : Resp (popUntilNamed name) := popUntil_resp _

@[resp]
theorem expectToCloseS_resp (name : Str) : Resp (expectToCloseS name) := by
  unfold expectToCloseS; resp_auto
@[resp]
theorem expectToClose_resp (name : String) : Resp (expectToClose name) := expectToCloseS_resp _

@[resp]
theorem closePElement_resp : Resp closePElement := by
  unfold closePElement; resp_auto

@[resp]
theorem closePElementInButtonScope_resp : Resp closePElementInButtonScope := by
  unfold closePElementInButtonScope; resp_auto

@[resp]
theorem checkBodyEndLoop_resp : ∀ l, Resp (checkBodyEndLoop l)
  | [] => by unfold checkBodyEndLoop; resp_auto
  | e :: rest => by
    have ih := checkBodyEndLoop_resp rest
    unfold checkBodyEndLoop; resp_auto

@[resp]
theorem checkBodyEnd_resp : Resp checkBodyEnd := by
  unfold checkBodyEnd; resp_auto

@[resp]
theorem bodyElem_resp : Resp bodyElem := by
  unfold bodyElem; resp_auto

theorem rpositionLoop_resp (p : Id → M Bool) (hp : ∀ n, Resp (p n)) : ∀ l k, Resp (rpositionLoop p l k)
  | [], _ => by unfold rpositionLoop; resp_auto
  | x :: rest, k => by
    have ih := rpositionLoop_resp p hp rest (k - 1)
    have h1 := hp x
    unfold rpositionLoop; resp_auto

@[resp]
theorem rposition_resp (p : Id → M Bool) (hp : ∀ n, Resp (p n)) : Resp (rposition p) := by
  unfold rposition
  refine respQ_getS_bind (fun s _ => rpositionLoop_resp p hp _ _) (by resp_stable)


@[resp]
theorem removeFromStack_resp (elem : Id) : Resp (removeFromStack elem) := by
  unfold removeFromStack
  refine respQ_bind (P := fun _ => True) (rposition_resp _ (fun _ => sameNode_resp _ _)) ?_
  resp_auto

/-! ### the list of active formatting elements -/

@[resp]
theorem positionInAFLoop_resp (element : Id) : ∀ l i, Resp (positionInAFLoop element l i)
  | [], _ => by unfold positionInAFLoop; resp_auto
  | .marker :: rest, i => by
    have ih := positionInAFLoop_resp element rest (i + 1)
    unfold positionInAFLoop; resp_auto
  | .element h _ :: rest, i => by
    have ih := positionInAFLoop_resp element rest (i + 1)
    unfold positionInAFLoop; resp_auto

@[resp]
theorem positionInActiveFormatting_resp (element : Id) : Resp (positionInActiveFormatting element) := by
  unfold positionInActiveFormatting; resp_auto

theorem setAF_resp (af : List FormatEntry) (h : ∀ e ∈ af, FmtEntry e) : Resp (setAF af) := by
  unfold setAF
  exact resp_modAF (F := fun _ => af) (fun _ _ => h)

theorem fmt_eraseIdx {l : List FormatEntry} (h : ∀ e ∈ l, FmtEntry e) (i : Nat) : ∀ e ∈ l.eraseIdx i, FmtEntry e :=
  fun e he => h e (List.mem_of_mem_eraseIdx he)

theorem fmt_set {l : List FormatEntry} (h : ∀ e ∈ l, FmtEntry e) (i : Nat) {x : FormatEntry} (hx : FmtEntry x) :
    ∀ e ∈ l.set i x, FmtEntry e := by
  intro e he
  rcases List.mem_or_eq_of_mem_set he with he | rfl
  · exact h e he
  · exact hx

@[resp]
theorem afRemove_resp (i : Nat) (site : String) : Resp (afRemove i site) := by
  unfold afRemove
  refine respQ_getS_bind ?_ (by resp_stable)
  intro s hs
  show RespQ _ (if i < s.activeFormatting.length then setAF (s.activeFormatting.eraseIdx i)
    else panicAt "remove-oob" site "Vec::remove")
  split
  · exact setAF_resp _ (fmt_eraseIdx hs.af i)
  · resp_auto

@[resp]
theorem anySameNodeRev_resp (node : Id) : ∀ l, Resp (anySameNodeRev node l)
  | [] => by unfold anySameNodeRev; resp_auto
  | n :: rest => by
    have ih := anySameNodeRev_resp node rest
    unfold anySameNodeRev; resp_auto

@[resp]
theorem isMarkerOrOpen_resp : ∀ e, Resp (isMarkerOrOpen e)
  | .marker => by unfold isMarkerOrOpen; resp_auto
  | .element node _ => by unfold isMarkerOrOpen; resp_auto

@[resp]
theorem reconstructRewind_resp : ∀ n, Resp (reconstructRewind n)
  | 0 => by unfold reconstructRewind; resp_auto
  | i + 1 => by
    have ih := reconstructRewind_resp i
    unfold reconstructRewind; resp_auto

/-- the entry read from the list carries a formatting tag -/
theorem fmt_of_getElem? {l : List FormatEntry} (h : ∀ e ∈ l, FmtEntry e) {i : Nat} {e : FormatEntry}
    (he : l[i]? = some e) : FmtEntry e := h e (List.mem_of_getElem? he)

@[resp]
theorem reconstructCreate_resp : ∀ fuel i, Resp (reconstructCreate fuel i)
  | 0, _ => by unfold reconstructCreate; resp_auto
  | fuel + 1, i => by
    have ih := reconstructCreate_resp fuel (i + 1)
    unfold reconstructCreate
    refine respQ_getS_bind ?_ (by resp_stable)
    intro s hs
    simp (config := { zeta := true }) only [pure_bind]
    split
    · rename_i t heq
      have htag := fmt_of_getElem? hs.af heq
      resp_auto
      rename_i hg _
      exact setAF_resp _ (fmt_set hg.af _ htag)
    · resp_auto
    · resp_auto

@[resp]
theorem reconstructActiveFormattingElements_resp : Resp reconstructActiveFormattingElements := by
  unfold reconstructActiveFormattingElements; resp_auto

theorem fmt_append {l : List FormatEntry} (h : ∀ e ∈ l, FmtEntry e) {x : FormatEntry} (hx : FmtEntry x) :
    ∀ e ∈ l ++ [x], FmtEntry e := by
  intro e he
  rcases List.mem_append.mp he with he | he
  · exact h e he
  · simp at he; subst he; exact hx

theorem createFormattingElementFor_resp (tag : Tag) (htag : isOneOf tag.name fmtNames = true) :
    Resp (createFormattingElementFor tag) := by
  unfold createFormattingElementFor
  resp_auto
  all_goals
    rename_i elem _
    exact resp_modAF (F := fun l => l ++ [.element elem tag]) (fun l hl => fmt_append hl (x := .element elem tag) htag)

theorem clearToMarkerRev_sub : ∀ (l : List FormatEntry), ∀ e ∈ clearToMarkerRev l, e ∈ l
  | [], _, h => by simp [clearToMarkerRev] at h
  | .marker :: rest, e, h => by simp only [clearToMarkerRev] at h; exact List.mem_cons_of_mem _ h
  | .element _ _ :: rest, e, h => by
    simp only [clearToMarkerRev] at h
    exact List.mem_cons_of_mem _ (clearToMarkerRev_sub rest e h)

@[resp]
theorem clearActiveFormattingToMarker_resp : Resp clearActiveFormattingToMarker := by
  unfold clearActiveFormattingToMarker
  refine resp_modAF (F := fun l => (clearToMarkerRev l.reverse).reverse) ?_
  intro l hl e he
  exact hl e (List.mem_reverse.mp (clearToMarkerRev_sub _ _ (List.mem_reverse.mp he)))

/-! ### "any other end tag" and the adoption agency -/

@[resp]
theorem endTagSearch_resp (name : Str) : ∀ l k, Resp (endTagSearch name l k)
  | [], _ => by unfold endTagSearch; resp_auto
  | e :: rest, k => by
    have ih := endTagSearch_resp name rest (k - 1)
    unfold endTagSearch; resp_auto

@[resp]
theorem processEndTagInBody_resp (tag : Tag) : Resp (processEndTagInBody tag) := by
  unfold processEndTagInBody; resp_auto

@[resp]
theorem findFurthestBlock_resp : ∀ l i, Resp (findFurthestBlock l i)
  | [], _ => by unfold findFurthestBlock; resp_auto
  | e :: rest, i => by
    have ih := findFurthestBlock_resp rest (i + 1)
    unfold findFurthestBlock; resp_auto

@[resp]
theorem positionSameNode_resp (x : Id) : ∀ l i, Resp (positionSameNode x l i)
  | [], _ => by unfold positionSameNode; resp_auto
  | n :: rest, i => by
    have ih := positionSameNode_resp x rest (i + 1)
    unfold positionSameNode; resp_auto

@[resp]
theorem aaInner_resp (fmtElem furthestBlock : Id) :
    ∀ n c l b, Resp (aaInner fmtElem furthestBlock n c l b)
  | 0, _, _, _ => by unfold aaInner; resp_auto
  | n + 1, c, l, b => by
    have ih := fun c l b => aaInner_resp fmtElem furthestBlock n c l b
    unfold aaInner
    resp_auto
    rename_i hg _ _ t heq _ _ _ _ _
    have hf : FmtEntry (.element _ t) := fmt_of_getElem? hg.af heq
    exact resp_modS' (fun _ _ _ _ _ => rfl) (fun s hs => fmt_set hs _ hf) (fun _ => rfl)

theorem afEndToMarkerAux_mem : ∀ (l : List (FormatEntry × Nat)) (i : Nat) (h : Id) (t : Tag),
    (i, h, t) ∈ afEndToMarkerAux l → (FormatEntry.element h t, i) ∈ l
  | [], _, _, _, hm => by simp [afEndToMarkerAux] at hm
  | (.marker, _) :: _, _, _, _, hm => by simp [afEndToMarkerAux] at hm
  | (.element h' t', j) :: rest, i, h, t, hm => by
    simp only [afEndToMarkerAux, List.mem_cons] at hm
    rcases hm with hm | hm
    · cases hm; exact List.mem_cons_self ..
    · exact List.mem_cons_of_mem _ (afEndToMarkerAux_mem rest i h t hm)

theorem afEndToMarker_mem {af : List FormatEntry} {i : Nat} {h : Id} {t : Tag}
    (hm : (i, h, t) ∈ afEndToMarker af) : FormatEntry.element h t ∈ af := by
  unfold afEndToMarker at hm
  have := afEndToMarkerAux_mem _ _ _ _ hm
  exact List.fst_mem_of_mem_zipIdx (List.mem_reverse.mp this)

theorem fmt_insertIdx {l : List FormatEntry} (h : ∀ e ∈ l, FmtEntry e) (i : Nat) {x : FormatEntry} (hx : FmtEntry x) :
    ∀ e ∈ l.insertIdx i x, FmtEntry e := by
  intro e he
  by_cases hi : i ≤ l.length
  · rcases (List.mem_insertIdx hi).mp he with rfl | he
    · exact hx
    · exact h e he
  · rw [List.insertIdx_of_length_lt (by omega)] at he
    exact h e he

@[resp]
theorem aaOuterStep_resp (subject : Str) : Resp (aaOuterStep subject) := by
  unfold aaOuterStep
  refine respQ_getS_bind ?_ (by resp_stable)
  intro s hs
  split
  · resp_auto
  · rename_i fmtElemIndex fmtElem fmtElemTag hfind
    have htag : FmtEntry (.element fmtElem fmtElemTag) := hs.af _ (afEndToMarker_mem (List.mem_of_find?_eq_some hfind))
    resp_auto
    all_goals first
      | exact resp_modAF (F := fun l => l.set _ (.element _ fmtElemTag)) (fun l hl => fmt_set hl _ htag)
      | exact resp_modAF (F := fun l => l.insertIdx _ (.element _ fmtElemTag)) (fun l hl => fmt_insertIdx hl _ htag)

@[resp]
theorem aaOuter_resp (subject : Str) : ∀ n, Resp (aaOuter subject n)
  | 0 => by unfold aaOuter; resp_auto
  | n + 1 => by
    have ih := aaOuter_resp subject n
    unfold aaOuter; resp_auto

@[resp]
theorem adoptionAgency_resp (subject : Str) : Resp (adoptionAgency subject) := by
  unfold adoptionAgency; resp_auto

@[resp]
theorem findAInAF_resp : ∀ l, Resp (findAInAF l)
  | [] => by unfold findAInAF; resp_auto
  | (_, n, _) :: rest => by
    have ih := findAInAF_resp rest
    unfold findAInAF; resp_auto

@[resp]
theorem handleMisnestedATags_resp : Resp handleMisnestedATags := by
  unfold handleMisnestedATags; resp_auto

/-! ### reset the insertion mode, tables, cells, foreign content -/

@[resp]
theorem resetLoop_resp : ∀ l k, Resp (resetLoop l k)
  | [], _ => by unfold resetLoop; resp_auto
  | node :: rest, k => by
    have ih := resetLoop_resp rest (k - 1)
    unfold resetLoop; resp_auto

@[resp]
theorem resetInsertionMode_resp : Resp resetInsertionMode := by
  unfold resetInsertionMode; resp_auto

@[resp]
theorem closeTheCell_resp : Resp closeTheCell := by
  unfold closeTheCell; resp_auto

@[resp]
theorem enterForeign_notRe (tag : Tag) (ns : Str) : RespQ NotRe (enterForeign tag ns) := by
  unfold enterForeign; resp_auto
@[resp]
theorem enterForeign_resp (tag : Tag) (ns : Str) : Resp (enterForeign tag ns) := respQ_resp (enterForeign_notRe _ _)

@[resp]
theorem foreignStartTag_notRe (tag : Tag) : RespQ NotRe (foreignStartTag tag) := by
  unfold foreignStartTag; resp_auto
@[resp]
theorem foreignStartTag_resp (tag : Tag) : Resp (foreignStartTag tag) := respQ_resp (foreignStartTag_notRe _)

@[resp]
theorem isForeign_resp (token : Token) : Resp (isForeign token) := by
  unfold isForeign; resp_auto

@[resp]
theorem popToIntegrationPointLoop_resp : ∀ n, Resp (popToIntegrationPointLoop n)
  | 0 => by unfold popToIntegrationPointLoop; resp_auto
  | n + 1 => by
    have ih := popToIntegrationPointLoop_resp n
    unfold popToIntegrationPointLoop; resp_auto

end H5V.Lemmas.TBSplit
