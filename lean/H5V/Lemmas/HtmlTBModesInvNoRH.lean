import H5V.Lemmas.HtmlTBModesInvBase
import H5V.Lemmas.HtmlTBModesInvAttr
/-!
C02 (insertion modes): the rules of the insertion modes never answer "reprocess the token according to the rules of
the current insertion mode in HTML content" (`Step.reprocessHtml`) — only the rules for foreign content do.
A purely syntactic fact about `Spec.TreeModes` (2025 text), proved by walking through the rule functions.
-/
set_option linter.unusedSectionVars false
namespace H5V.Lemmas.ModesInv
open H5V.Spec H5V.Spec.TreeModes
open H5V.Spec.TreeAlgo (Str Name nsHtml nsMathml nsSvg inHtml)
open H5V.Spec.TreeAlgo2 (Elem Entry PState)

section
variable {N : Type}

/-- `m` does not answer `reprocessHtml` -/
def NoRH (m : M (Step N)) : Prop := ∀ s', m ≠ .ok (.reprocessHtml s')

attribute [norh] implies_true and_self true_and and_true

@[norh] theorem norh_done (s : State N) : NoRH (pure (.done s)) := fun _ h => by cases pure_ok h
@[norh] theorem norh_reprocess (s : State N) : NoRH (pure (.reprocess s)) := fun _ h => by cases pure_ok h
@[norh] theorem norh_map_done (m : M (State N)) : NoRH (.done <$> m) := fun _ h => by
  obtain ⟨a, _, ha⟩ := map_ok h; cases ha
@[norh] theorem norh_map_reprocess (m : M (State N)) : NoRH (.reprocess <$> m) := fun _ h => by
  obtain ⟨a, _, ha⟩ := map_ok h; cases ha
@[norh] theorem norh_throw (e : String) : NoRH (throw e : M (Step N)) := fun _ h => by cases h
@[norh] theorem norh_ite {c : Prop} [Decidable c] {a b : M (Step N)} :
    NoRH (if c then a else b) ↔ (c → NoRH a) ∧ (¬c → NoRH b) := by
  by_cases h : c <;> simp [h]
@[norh] theorem norh_bind {α : Type} {m : M α} {f : α → M (Step N)} :
    NoRH (m >>= f) ↔ ∀ a, m = .ok a → NoRH (f a) := by
  constructor
  · intro h a ha; subst ha; exact h
  · intro h s' hh
    obtain ⟨a, ha, hfa⟩ := bind_ok hh
    exact h a ha s' hfa
/-- (tried before `norh_bind`) -/
@[norh high] theorem norh_bind_map {m : M (Step N)} {f : State N → State N} :
    NoRH (m >>= fun r => pure (r.map f)) ↔ NoRH m := by
  constructor
  · intro h s' hm; subst hm; exact h _ rfl
  · intro h s' hh
    obtain ⟨r, hr, hp⟩ := bind_ok hh
    cases r with
    | done s => cases pure_ok hp
    | reprocess s => cases pure_ok hp
    | reprocessHtml s => exact h s hr
@[norh] theorem norh_pure_ite {c : Prop} [Decidable c] {a b : Step N} :
    NoRH (pure (if c then a else b)) ↔ (c → NoRH (pure a)) ∧ (¬c → NoRH (pure b)) := by
  by_cases h : c <;> simp [h]

variable [DecidableEq N]

/-! The walk over a rule function is `simp only` with the set `norh`: `if`, `do`, `<$>`, and the rule functions walked
before. -/

@[norh] theorem norh_inBodyStartHtml (s : State N) (t : Tag) : NoRH (inBodyStartHtml s t) := by
  unfold inBodyStartHtml; simp only [norh]
@[norh] theorem norh_inHeadStartTemplate (s : State N) (t : Tag) : NoRH (inHeadStartTemplate s t) := by
  unfold inHeadStartTemplate; simp only [norh]
@[norh] theorem norh_inHeadEndTemplate (cfg : Config N) (s : State N) : NoRH (inHeadEndTemplate cfg s) := by
  unfold inHeadEndTemplate; simp only [norh]

@[norh] theorem norh_inHead (cfg : Config N) (s : State N) (tok : STok) : NoRH (inHead cfg s tok) := by
  unfold inHead
  cases tok <;> simp only [norh]

@[norh] theorem norh_inBodyBlockEnd (cfg : Config N) (s : State N) (t : Tag) : NoRH (pure (inBodyBlockEnd cfg s t)) := by
  unfold inBodyBlockEnd; simp only [norh]
@[norh] theorem norh_inBodyEndForm (cfg : Config N) (s : State N) : NoRH (pure (inBodyEndForm cfg s)) := by
  unfold inBodyEndForm
  cases s.p.formPointer <;> simp only [norh]

@[norh] theorem norh_inTemplateEof (cfg : Config N) (s : State N) : NoRH (inTemplateEof cfg s) := by
  unfold inTemplateEof; simp only [norh]
@[norh] theorem norh_inBodyListItem (cfg : Config N) (s : State N) (t : Tag) (names : List String) :
    NoRH (inBodyListItem cfg s t names) := by
  unfold inBodyListItem; simp only [norh]
@[norh] theorem norh_inBodyStartA (s : State N) (t : Tag) : NoRH (inBodyStartA s t) := by
  unfold inBodyStartA; split <;> simp only [norh]
@[norh] theorem norh_inBodyStartNobr (cfg : Config N) (s : State N) (t : Tag) : NoRH (inBodyStartNobr cfg s t) := by
  unfold inBodyStartNobr; simp only [norh]
@[norh] theorem norh_inBodyStartForeignRoot (s : State N) (t : Tag) (k : TreeAlgo.ForeignKind) (ns : Str) :
    NoRH (inBodyStartForeignRoot s t k ns) := by
  unfold inBodyStartForeignRoot; simp only [norh]
@[norh] theorem norh_inBodyStartSelectLegacy (s : State N) (t : Tag) : NoRH (inBodyStartSelectLegacy s t) := by
  unfold inBodyStartSelectLegacy; simp only [norh]
@[norh] theorem norh_inBodyStartOptionLegacy (s : State N) (t : Tag) : NoRH (inBodyStartOptionLegacy s t) := by
  unfold inBodyStartOptionLegacy; simp only [norh]
@[norh] theorem norh_inBodyStartSelect2025 (cfg : Config N) (s : State N) (t : Tag) :
    NoRH (inBodyStartSelect2025 cfg s t) := by
  unfold inBodyStartSelect2025; simp only [norh]
@[norh] theorem norh_inBodyStartOption2025 (cfg : Config N) (s : State N) (t : Tag) :
    NoRH (inBodyStartOption2025 cfg s t) := by
  unfold inBodyStartOption2025; simp only [norh]
@[norh] theorem norh_inBodyStartOptgroup2025 (cfg : Config N) (s : State N) (t : Tag) :
    NoRH (inBodyStartOptgroup2025 cfg s t) := by
  unfold inBodyStartOptgroup2025; simp only [norh]
@[norh] theorem norh_inBodyStartHr (cfg : Config N) (s : State N) (t : Tag) : NoRH (inBodyStartHr cfg s t) := by
  unfold inBodyStartHr; simp only [norh]
@[norh] theorem norh_inBodyStartInput (cfg : Config N) (s : State N) (t : Tag) : NoRH (inBodyStartInput cfg s t) := by
  unfold inBodyStartInput; simp only [norh]

@[norh] theorem norh_inBodyStartTagCore (cfg : Config N) (s : State N) (t : Tag) :
    NoRH (inBodyStartTagCore cfg s t) := by
  unfold inBodyStartTagCore; simp only [norh]
  generalize (s.err _).p.stack[1]? = o1
  generalize (s.err _).p.stack[1]? = o2
  cases o1 <;> cases o2 <;> cases cfg.edition <;> simp only [norh]

@[norh] theorem norh_inBodyStartTag (cfg : Config N) (s : State N) (t : Tag) : NoRH (inBodyStartTag cfg s t) := by
  unfold inBodyStartTag; simp only [norh]

@[norh] theorem norh_inBodyEndTag (cfg : Config N) (s : State N) (t : Tag) : NoRH (inBodyEndTag cfg s t) := by
  unfold inBodyEndTag; simp only [norh]

@[norh] theorem norh_inBody (cfg : Config N) (s : State N) (tok : STok) : NoRH (inBody cfg s tok) := by
  unfold inBody
  cases tok <;> simp only [norh]

@[norh] theorem norh_text (s : State N) (tok : STok) : NoRH (text s tok) := by
  unfold text
  cases tok <;> simp only [norh]

@[norh] theorem norh_inTableAnythingElse (cfg : Config N) (s : State N) (tok : STok) :
    NoRH (inTableAnythingElse cfg s tok) := by
  unfold inTableAnythingElse; simp only [norh]

@[norh] theorem norh_inTable (cfg : Config N) (s : State N) (tok : STok) : NoRH (inTable cfg s tok) := by
  unfold inTable
  cases tok <;> simp only [norh]

@[norh] theorem norh_inTableText (cfg : Config N) (s : State N) (tok : STok) : NoRH (inTableText cfg s tok) := by
  unfold inTableText
  cases tok <;> simp only [norh]

@[norh] theorem norh_inCaption (cfg : Config N) (s : State N) (tok : STok) : NoRH (inCaption cfg s tok) := by
  unfold inCaption
  cases closeCaption s <;> cases tok <;> simp only [norh]

@[norh] theorem norh_inColumnGroup (cfg : Config N) (s : State N) (tok : STok) : NoRH (inColumnGroup cfg s tok) := by
  unfold inColumnGroup
  cases tok <;> simp only [norh]

@[norh] theorem norh_inTableBody (cfg : Config N) (s : State N) (tok : STok) : NoRH (inTableBody cfg s tok) := by
  unfold inTableBody
  cases tok <;> simp only [norh]

@[norh] theorem norh_inRow (cfg : Config N) (s : State N) (tok : STok) : NoRH (inRow cfg s tok) := by
  unfold inRow
  cases tok <;> simp only [norh]

@[norh] theorem norh_inCell (cfg : Config N) (s : State N) (tok : STok) : NoRH (inCell cfg s tok) := by
  unfold inCell
  cases tok <;> simp only [norh]

@[norh] theorem norh_inSelect (cfg : Config N) (s : State N) (tok : STok) : NoRH (inSelect cfg s tok) := by
  unfold inSelect
  cases tok <;> simp only [norh]

@[norh] theorem norh_inSelectInTable (cfg : Config N) (s : State N) (tok : STok) :
    NoRH (inSelectInTable cfg s tok) := by
  unfold inSelectInTable
  cases tok <;> simp only [norh]

@[norh] theorem norh_inTemplate (cfg : Config N) (s : State N) (tok : STok) : NoRH (inTemplate cfg s tok) := by
  unfold inTemplate
  cases tok <;> simp only [norh]

@[norh] theorem norh_initial (cfg : Config N) (s : State N) (tok : STok) : NoRH (initial cfg s tok) := by
  unfold initial
  cases tok <;> simp only [norh]

@[norh] theorem norh_beforeHtml (cfg : Config N) (s : State N) (tok : STok) : NoRH (beforeHtml cfg s tok) := by
  unfold beforeHtml
  cases tok <;> simp only [norh]

@[norh] theorem norh_beforeHead (cfg : Config N) (s : State N) (tok : STok) : NoRH (beforeHead cfg s tok) := by
  unfold beforeHead
  cases tok <;> simp only [norh]

@[norh] theorem norh_inHeadNoscript (cfg : Config N) (s : State N) (tok : STok) : NoRH (inHeadNoscript cfg s tok) := by
  unfold inHeadNoscript
  cases tok <;> simp only [norh]

@[norh] theorem norh_afterHead (cfg : Config N) (s : State N) (tok : STok) : NoRH (afterHead cfg s tok) := by
  unfold afterHead
  cases tok <;> simp only [norh]

@[norh] theorem norh_afterBody (cfg : Config N) (s : State N) (tok : STok) : NoRH (afterBody cfg s tok) := by
  unfold afterBody
  cases tok <;> simp only [norh]

@[norh] theorem norh_inFrameset (cfg : Config N) (s : State N) (tok : STok) : NoRH (inFrameset cfg s tok) := by
  unfold inFrameset
  cases tok <;> simp only [norh]

@[norh] theorem norh_afterFrameset (cfg : Config N) (s : State N) (tok : STok) : NoRH (afterFrameset cfg s tok) := by
  unfold afterFrameset
  cases tok <;> simp only [norh]

@[norh] theorem norh_afterAfterBody (cfg : Config N) (s : State N) (tok : STok) : NoRH (afterAfterBody cfg s tok) := by
  unfold afterAfterBody
  cases tok <;> simp only [norh]

@[norh] theorem norh_afterAfterFrameset (cfg : Config N) (s : State N) (tok : STok) :
    NoRH (afterAfterFrameset cfg s tok) := by
  unfold afterAfterFrameset
  cases tok <;> simp only [norh]

/-- **the rules of the insertion modes never answer `reprocessHtml`** -/
theorem norh_byMode (cfg : Config N) (s : State N) (tok : STok) : NoRH (byMode cfg s tok) := by
  unfold byMode
  cases s.mode <;> simp only [norh]

end
end H5V.Lemmas.ModesInv
