import H5V.Lemmas.HtmlTBSkelShapeInv
/-!
C06, second invariant layer: the invariant of the body-like insertion modes (`Big`): the stack
is `r :: anchor :: …` with a protected anchor (`body`; `head`, `template`; `template`), the table mode's
needs are met, and — while foster parenting is on — a `table` or `template` is on the stack.
Popping elements other than the protected ones, and pushing fresh unconstrained ones, preserves it.
-/
namespace H5V.Props.C06
open H5V.Model.Dom hiding Str
open H5V.Model.HtmlTB hiding Str
open H5V.Lemmas.Dom

/-- the names the generic pops must never remove: the table structure, `html`, `body`, `head` -/
def keepName (n : EName) : Bool := isStruct n || htmlIn n ["body", "head", "frameset"]
attribute [lit_name] keepName

def FPok (s : State) (up : List Id) : Prop :=
  (s.fosterParenting = true ∧ False) → ∃ x ∈ up, htmlIn (nm s.dom x) ["table", "template"] = true

theorem FPok.triv (s : State) (up : List Id) : FPok s up := fun h => h.2.elim

/-- the invariant inside a rule of a body-like mode `m` -/
def Big (m : Mode) (r : Id) (ph : Phase) (s : State) : Prop :=
  ∃ up, Core s r up ph ∧ BodyBase s.dom s.headElem up ph ∧ Need s.dom m up ∧ FPok s up

theorem BodyBase.notPf {d : Dom} {head : Option Id} {up : List Id} {ph : Phase} (h : BodyBase d head up ph) :
    ¬ ph.isPf := by
  rcases h with ⟨b, _, _, h2, _⟩ | ⟨_, _, _, _, _, _, h4⟩ | ⟨_, _, _, _, h4, _⟩ <;> (subst_vars; exact fun h => h)

theorem Big.notPf {m : Mode} {r : Id} {ph : Phase} {s : State} (h : Big m r ph s) : ¬ ph.isPf := by
  obtain ⟨_, _, hbb, _, _⟩ := h; exact hbb.notPf

theorem Late.pr {s s' : State} {popped : List Id} (h : Late s) (p : PR s s' popped) : Late s' := by
  have hr := p.rest
  have e1 : s'.headElem = s.headElem := by rw [hr]
  have e2 : s'.docHandle = s.docHandle := by rw [hr]
  have e3 : s'.contextElem = s.contextElem := by rw [hr]
  have e4 : s'.pendingTableText = s.pendingTableText := by rw [hr]
  have e5 : s'.opts = s.opts := by rw [hr]
  have e6 : s'.activeFormatting = s.activeFormatting := by rw [hr]
  have e7 : s'.formElem = s.formElem := by rw [hr]
  have e8 : s'.framesetOk = s.framesetOk := by rw [hr]
  have e9 : s'.mode = s.mode := by rw [hr]
  have e10 : s'.origMode = s.origMode := by rw [hr]
  have e11 : s'.templateModes = s.templateModes := by rw [hr]
  exact h.qrel ⟨SameSk.of_nodes p.nodes, by rw [p.stack]; exact List.sublist_append_left _ _, e1, e2, e3, e4, e5,
    fun x t hx => by rw [e6] at hx; exact hx, Or.inl e7, fun hx => by rw [e8] at hx; exact hx⟩
    ⟨by rw [e9]; exact h.ml.mode, by rw [e10]; exact h.ml.orig, by rw [e11]; exact h.ml.tm⟩

theorem countP_append_le {α : Type} (p : α → Bool) (a b : List α) : a.countP p ≤ (a ++ b).countP p := by
  rw [List.countP_append]; exact Nat.le_add_right _ _

/-- popping from the top, the root staying -/
theorem Core.pr {s s' : State} {r : Id} {up up' popped : List Id} {ph : Phase} (h : Core s r up ph)
    (p : PR s s' popped) (hup : up = up' ++ popped) : Core s' r up' ph := by
  have hr := p.rest
  have hst : s'.openElems = r :: up' := by
    have := p.stack
    rw [h.stack, hup] at this
    have h2 : r :: (up' ++ popped) = (r :: up') ++ popped := rfl
    rw [h2] at this
    exact (List.append_cancel_right this).symm
  have hk : ∀ x, s'.dom.childrenOf x = s.dom.childrenOf x := childrenOf_of_nodes p.nodes
  have hnm : ∀ x, nm s'.dom x = nm s.dom x := nm_of_nodes p.nodes
  have hel : ∀ x, s'.dom.isElement x = s.dom.isElement x := isElement_of_nodes p.nodes
  have hdata : ∀ x, s'.dom.dataOf x = s.dom.dataOf x := fun x => by unfold Dom.dataOf; rw [p.nodes]
  have hsplit : s.openElems = s'.openElems ++ popped := p.stack
  refine ⟨h.late.pr p, hst, by rw [hk]; exact h.rdoc, ?_, ?_, ?_, ?_, ?_, ?_, (RS.of_nodes p.nodes).uniq h.rtu,
    by rw [hk]; exact h.rnd, ?_, ?_, ?_, ?_,
    (h.adj.of_nodes p.nodes).sub h.nodup (by rw [hsplit]; exact List.sublist_append_left _ _)⟩
  · have := h.nodup; rw [hsplit] at this; exact (List.nodup_append.mp this).1
  · exact (h.tg.prefix hsplit).congr (fun x _ => hnm x)
  · intro x t hx
    rw [hr] at hx
    obtain ⟨h1, h2, h3⟩ := h.afn x t hx
    exact ⟨h1, by rw [hnm]; exact h2, by rw [hel]; exact h3⟩
  · have h1 : s'.templateModes = s.templateModes := by rw [hr]
    rw [h1]
    refine Nat.le_trans ?_ h.tc
    unfold tcount
    rw [hsplit]
    have : (fun x => nm s'.dom x == hN "template") = (fun x => nm s.dom x == hN "template") := by
      funext x; rw [hnm]
    rw [this]
    exact countP_append_le _ _ _
  · intro m hm; rw [hr] at hm; exact h.tmm m hm
  · intro f hf
    rw [hr] at hf
    obtain ⟨h1, h2⟩ := h.form f hf
    exact ⟨by rw [hnm]; exact h1, by rw [hel]; exact h2⟩
  · intro c hc
    rw [hk] at hc
    rcases h.kids c hc with h1 | ⟨t, h1⟩ | ⟨t, h1, h2⟩
    · exact Or.inl (by rw [hel]; exact h1)
    · exact Or.inr (Or.inl ⟨t, by rw [hdata]; exact h1⟩)
    · exact Or.inr (Or.inr ⟨t, by rw [hdata]; exact h1, h2⟩)
  · have hhead : s'.headElem = s.headElem := by rw [hr]
    rw [hhead]
    exact h.elems.congr h.late.base (SameSk.of_nodes p.nodes).chg (hk r)
  · intro y hy
    rw [hnm]
    refine h.bh y ?_
    rw [hup]
    cases up' with
    | nil => simp at hy
    | cons a t => simp only [List.cons_append, List.tail_cons] at hy ⊢; exact List.mem_append_left _ hy
  · have haf : s'.activeFormatting = s.activeFormatting := by rw [hr]
    rw [haf]; exact h.afx.of_nodes p.nodes

theorem Core.root_mem {s : State} {r : Id} {up : List Id} {ph : Phase} (h : Core s r up ph) : r ∈ s.openElems := by
  rw [h.stack]; simp

/-- the bottom of the stack is the HTML `html` element -/
theorem Core.root_name {s : State} {r : Id} {up : List Id} {ph : Phase} (h : Core s r up ph) :
    nm s.dom r = hN "html" := by
  have hel := h.late.st.oe r h.root_mem
  have hk : docKid s.dom r ≠ .other := docPattern_mem h.late.pat _ (List.mem_map_of_mem h.rdoc)
  unfold docKid at hk
  unfold nm
  unfold Dom.isElement at hel
  cases hd : s.dom.dataOf r with
  | none => simp [hd] at hel
  | some v =>
    cases v <;> simp [hd] at hel
    rename_i n a tc ip
    simp only [hd] at hk
    by_cases hc : (n.ns == nsHtml && n.loc == "html".toList) = true
    · simp only [Bool.and_eq_true, beq_iff_eq] at hc
      simp [hN, hc.1, hc.2]
    · exfalso; apply hc; simp [hc] at hk; simp [hk.1, hk.2]

theorem keepName_html : keepName (hN "html") = true := by simp [lit_name]
theorem keepName_body : keepName (hN "body") = true := by simp [lit_name]
theorem keepName_head : keepName (hN "head") = true := by simp [lit_name]
theorem keepName_template : keepName (hN "template") = true := by simp [lit_name]

theorem keepName_of_htmlIn {n : EName} {l : List String} (h : htmlIn n l = true)
    (hl : ∀ a ∈ l, keepName (hN a) = true) : keepName n = true := by
  unfold htmlIn isOneOf at h
  simp only [Bool.and_eq_true, beq_iff_eq, List.any_eq_true] at h
  obtain ⟨hns, a, ha, hloc⟩ := h
  have : n = hN a := by cases n; simp_all [hN]
  rw [this]; exact hl a ha

theorem split_of_not_popped {l l' popped : List Id} {x : Id} (h : l = l' ++ popped) (hx : x ∈ l) (hn : x ∉ popped) :
    x ∈ l' := by
  rw [h] at hx
  rcases List.mem_append.mp hx with h1 | h1
  · exact h1
  · exact absurd h1 hn

theorem head_of_split {b : Id} {t l' popped : List Id} (h : b :: t = l' ++ popped) (hn : b ∉ popped) :
    ∃ t', l' = b :: t' ∧ t = t' ++ popped := by
  cases l' with
  | nil => simp at h; rw [← h] at hn; simp at hn
  | cons a t' =>
    simp only [List.cons_append, List.cons.injEq] at h
    exact ⟨t', by rw [h.1], h.2⟩

/-- popping elements that are neither part of the table structure nor `html` / `body` / `head` -/
theorem Big.pop {m : Mode} {r : Id} {ph : Phase} {s s' : State} {popped : List Id} (h : Big m r ph s)
    (p : PR s s' popped) (hp : ∀ x ∈ popped, keepName (nm s.dom x) = false) : Big m r ph s' := by
  obtain ⟨up, hc, hbb, hneed, hfp⟩ := h
  have hnm : ∀ x, nm s'.dom x = nm s.dom x := nm_of_nodes p.nodes
  have hr : r ∉ popped := fun hm => by
    have := hp r hm; rw [hc.root_name, keepName_html] at this; cases this
  have hst := p.stack
  rw [hc.stack] at hst
  obtain ⟨up', hs', hup⟩ := head_of_split hst hr
  have hc' : Core s' r up' ph := hc.pr p hup
  have keep : ∀ x ∈ up, keepName (nm s.dom x) = true → x ∈ up' := fun x hx hk =>
    split_of_not_popped hup hx (fun hm => by rw [hp x hm] at hk; cases hk)
  have hhead : s'.headElem = s.headElem := by rw [p.rest]
  have hfoster : s'.fosterParenting = s.fosterParenting := by rw [p.rest]
  refine ⟨up', hc', ?_, ?_, ?_⟩
  · rw [hhead]
    rcases hbb with ⟨b, upb, h1, h2, h3⟩ | ⟨hh, t, upt, h1, h2, h3, h4⟩ | ⟨t, upt, h2, h3, h4, h5⟩
    · have hbn : nm s.dom b = hN "body" := by
        subst h2
        obtain ⟨_, _, _, _, hb⟩ := hc.elems
        exact hb
      rw [h1] at hup
      obtain ⟨t', e1, e2⟩ := head_of_split hup (fun hm => by
        have := hp b hm; rw [hbn, keepName_body] at this; cases this)
      refine Or.inl ⟨b, t', e1, h2, fun x hx hm => h3 x hx ?_⟩
      rw [h1, e2]; rw [e1] at hm
      simp only [List.mem_cons] at hm ⊢
      rcases hm with hm | hm
      · exact Or.inl hm
      · exact Or.inr (List.mem_append_left _ hm)
    · have hhn : nm s.dom hh = hN "head" := by
        subst h4
        obtain ⟨h', e1, _, e3⟩ := hc.elems
        rw [h1] at e1; cases e1; exact e3
      rw [h2] at hup
      obtain ⟨t1, e1, e2⟩ := head_of_split hup (fun hm => by
        have := hp hh hm; rw [hhn, keepName_head] at this; cases this)
      obtain ⟨t2, e3, e4⟩ := head_of_split e2 (fun hm => by
        have := hp t hm; rw [h3, keepName_template] at this; cases this)
      exact Or.inr (Or.inl ⟨hh, t, t2, h1, by rw [e1, e3], by rw [hnm]; exact h3, h4⟩)
    · rw [h2] at hup
      obtain ⟨t1, e1, e2⟩ := head_of_split hup (fun hm => by
        have := hp t hm; rw [h3, keepName_template] at this; cases this)
      refine Or.inr (Or.inr ⟨t, t1, e1, by rw [hnm]; exact h3, h4, fun x hx hm => h5 x hx ?_⟩)
      rw [h2, e2]; rw [e1] at hm
      simp only [List.mem_cons] at hm ⊢
      rcases hm with hm | hm
      · exact Or.inl hm
      · exact Or.inr (List.mem_append_left _ hm)
  · cases m <;> try trivial
    all_goals
      obtain ⟨x, hx, hh⟩ := hneed
      exact ⟨x, keep x hx (keepName_of_htmlIn hh (by decide)), by rw [hnm]; exact hh⟩
  · intro hf
    rw [hfoster] at hf
    obtain ⟨x, hx, hh⟩ := hfp hf
    exact ⟨x, keep x hx (keepName_of_htmlIn hh (by decide)), by rw [hnm]; exact hh⟩

theorem Big.qs {m : Mode} {r : Id} {ph : Phase} {s s' : State} (h : Big m r ph s) (q : QS s s') : Big m r ph s' :=
  h.pop (PR.of_qs q) (by intro x hx; cases hx)

/-! ### the judgement of the body-like rules -/

/-- `prog` preserves `Big` (for every body-like mode, root and phase) and leaves the mode fields alone -/
class PB {α : Type} (prog : M α) : Prop where
  p : ∀ m r ph s a s', Big m r ph s → prog s = .ok (a, s') →
    Big m r ph s' ∧ s'.mode = s.mode ∧ s'.origMode = s.origMode

theorem PB.bind {α β : Type} {m : M α} {f : α → M β} (h1 : PB m) (h2 : ∀ a, PB (f a)) : PB (m >>= f) :=
  ⟨fun md r ph s b s'' hb e => by
    obtain ⟨a, s', e1, e2⟩ := bind_ok.mp e
    obtain ⟨b1, m1, o1⟩ := h1.p md r ph s a s' hb e1
    obtain ⟨b2, m2, o2⟩ := (h2 a).p md r ph s' b s'' b1 e2
    exact ⟨b2, m2.trans m1, o2.trans o1⟩⟩
theorem PB.pure {α : Type} (a : α) : PB (pure a : M α) :=
  ⟨fun _ _ _ s b s' hb e => by obtain ⟨_, rfl⟩ := pure_ok.mp e; exact ⟨hb, rfl, rfl⟩⟩
theorem PB.ite {α : Type} {c : Prop} [Decidable c] {a b : M α} (h1 : PB a) (h2 : PB b) : PB (if c then a else b) := by
  by_cases hc : c
  · simp only [hc, if_true]; exact h1
  · simp only [hc, if_false]; exact h2
theorem PB.dite {α : Type} {c : Prop} [Decidable c] {a b : M α} (h1 : c → PB a) (h2 : ¬c → PB b) :
    PB (if c then a else b) := by
  by_cases hc : c
  · simp only [hc, if_true]; exact h1 hc
  · simp only [hc, if_false]; exact h2 hc
theorem PB.throw {α : Type} (e : String) : PB (throw e : M α) := ⟨fun _ _ _ _ _ _ _ h => absurd h throw_ok⟩
theorem PB.of_isQ {α : Type} {m : M α} (h : IsQ m) : PB m :=
  ⟨fun _ _ _ s a s' hb e => by
    have q := h.q s a s' e
    exact ⟨hb.qs q, q.mode, by rw [q.rest]⟩⟩

instance (priority := low) {α : Type} (m : M α) [h : IsQ m] : PB m := PB.of_isQ h
instance {α β : Type} (m : M α) (f : α → M β) [h1 : PB m] [h2 : ∀ a, PB (f a)] : PB (m >>= f) := PB.bind h1 h2
instance {α : Type} (a : α) : PB (pure a : M α) := PB.pure a
instance {α : Type} (c : Prop) [Decidable c] (a b : M α) [h1 : PB a] [h2 : PB b] : PB (if c then a else b) := PB.ite h1 h2
instance {α : Type} (e : String) : PB (throw e : M α) := PB.throw e
instance {α : Type} (c f t : String) : PB (panicAt c f t : M α) := PB.throw _
instance {α : Type} (w : String) : PB (fuelOut w : M α) := PB.throw _

syntax "pb_step" : tactic
macro_rules
  | `(tactic| pb_step) => `(tactic|
    first
      | exact inferInstance
      | with_reducible apply PB.bind
      | with_reducible apply PB.dite
      | intro _
      | split
      | dsimp only)
syntax "pb_walk" : tactic
macro_rules
  | `(tactic| pb_walk) => `(tactic| repeat' pb_step)

/-- pops described by `PR` whose victims are disposable -/
theorem PB.of_pops {α : Type} {prog : M α}
    (h : ∀ s a s', prog s = .ok (a, s') → ∃ popped, PR s s' popped ∧ ∀ x ∈ popped, keepName (nm s.dom x) = false) :
    PB prog :=
  ⟨fun _ _ _ s a s' hb e => by
    obtain ⟨popped, p, hp⟩ := h s a s' e
    exact ⟨hb.pop p hp, by rw [p.rest], by rw [p.rest]⟩⟩

theorem htmlIn_eq {n : EName} {l : List String} (h : htmlIn n l = true) : ∃ a ∈ l, n = hN a := by
  unfold htmlIn isOneOf at h
  simp only [Bool.and_eq_true, beq_iff_eq, List.any_eq_true] at h
  obtain ⟨hns, a, ha, hloc⟩ := h
  exact ⟨a, ha, by cases n; simp_all [hN]⟩

theorem keepName_cursory {n : EName} (h : cursoryImpliedEnd n = true) : keepName n = false := by
  obtain ⟨a, ha, rfl⟩ := htmlIn_eq h
  revert a; decide +kernel

instance : PB (generateImpliedEndTags cursoryImpliedEnd) :=
  PB.of_pops fun s a s' e => by
    obtain ⟨popped, p, h1, _⟩ := generateImpliedEndTags_sem e
    exact ⟨popped, p, fun x hx => keepName_cursory (h1 x hx)⟩

instance : PB (generateImpliedEndTags impliedExceptP) :=
  PB.of_pops fun s a s' e => by
    obtain ⟨popped, p, h1, _⟩ := generateImpliedEndTags_sem e
    refine ⟨popped, p, fun x hx => keepName_cursory ?_⟩
    have := h1 x hx
    unfold impliedExceptP at this
    split at this
    · cases this
    · exact this

instance (ex : Str) : PB (generateImpliedEndExcept ex) :=
  PB.of_pops fun s a s' e => by
    unfold generateImpliedEndExcept at e
    obtain ⟨popped, p, h1, _⟩ := generateImpliedEndTags_sem e
    refine ⟨popped, p, fun x hx => keepName_cursory ?_⟩
    have := h1 x hx
    unfold impliedExcept at this
    split at this
    · cases this
    · exact this

/-! ### pops guarded by a scope test -/

theorem keepName_constrained {n : EName} (h : constrained n = true) : keepName n = true := by
  obtain ⟨a, ha, rfl⟩ := htmlIn_eq h
  revert a; decide +kernel

theorem constrained_pred {c p : EName} (hc : constrained c = true) (hp : predOk c p = true) : keepName p = true := by
  obtain ⟨a, ha, rfl⟩ := htmlIn_eq hc
  simp only [List.mem_cons, List.not_mem_nil, or_false] at ha
  have e1 : predOk (hN "tr") p = htmlIn p ["tbody", "thead", "tfoot", "template"] := rfl
  have e2 : ∀ a, a = "tbody" ∨ a = "thead" ∨ a = "tfoot" ∨ a = "caption" ∨ a = "colgroup" →
      predOk (hN a) p = htmlIn p ["table", "template"] := by
    intro a ha; rcases ha with rfl | rfl | rfl | rfl | rfl <;> rfl
  have e3 : ∀ a, a = "td" ∨ a = "th" → predOk (hN a) p = htmlIn p ["tr", "template"] := by
    intro a ha; rcases ha with rfl | rfl <;> rfl
  rcases ha with rfl | rfl | rfl | rfl | rfl | rfl | rfl | rfl
  · rw [e1] at hp; exact keepName_of_htmlIn hp (by decide)
  · rw [e2 _ (Or.inl rfl)] at hp; exact keepName_of_htmlIn hp (by decide)
  · rw [e2 _ (Or.inr (Or.inl rfl))] at hp; exact keepName_of_htmlIn hp (by decide)
  · rw [e2 _ (Or.inr (Or.inr (Or.inl rfl)))] at hp; exact keepName_of_htmlIn hp (by decide)
  · rw [e2 _ (Or.inr (Or.inr (Or.inr (Or.inl rfl))))] at hp; exact keepName_of_htmlIn hp (by decide)
  · rw [e2 _ (Or.inr (Or.inr (Or.inr (Or.inr rfl))))] at hp; exact keepName_of_htmlIn hp (by decide)
  · rw [e3 _ (Or.inl rfl)] at hp; exact keepName_of_htmlIn hp (by decide)
  · rw [e3 _ (Or.inr rfl)] at hp; exact keepName_of_htmlIn hp (by decide)

/-- a kept name is constrained, or one of `html table template body head` -/
theorem keepName_cases {n : EName} (h : keepName n = true) :
    constrained n = true ∨ htmlIn n ["html", "table", "template", "body", "head", "frameset"] = true := by
  unfold keepName isStruct at h
  simp only [Bool.or_eq_true] at h
  rcases h with h | h
  · obtain ⟨a, ha, rfl⟩ := htmlIn_eq h
    revert a; decide +kernel
  · obtain ⟨a, ha, rfl⟩ := htmlIn_eq h
    revert a; decide +kernel

/-- above a disposable element, everything up to the top is disposable as long as no
`html table template body head` occurs there (table grammar) -/
theorem tg_above {name : Id → EName} : ∀ (above below : List Id) (x : Id), TG name (below ++ x :: above) →
    keepName (name x) = false →
    (∀ y ∈ above, htmlIn (name y) ["html", "table", "template", "body", "head", "frameset"] = false) →
    ∀ y ∈ above, keepName (name y) = false
  | [], _, _, _, _, _ => by intro y hy; cases hy
  | z :: rest, below, x, htg, hx, hab => by
    have hz : keepName (name z) = false := by
      cases hk : keepName (name z) with
      | false => rfl
      | true =>
        rcases keepName_cases hk with hc | hc
        · have hp := htg below x z rest rfl
          have := constrained_pred hc hp
          rw [hx] at this; cases this
        · rw [hab z (by simp)] at hc; cases hc
    intro y hy
    simp only [List.mem_cons] at hy
    rcases hy with rfl | hy
    · exact hz
    · have htg' : TG name ((below ++ [x]) ++ z :: rest) := by
        have : (below ++ [x]) ++ z :: rest = below ++ x :: z :: rest := by simp
        rw [this]; exact htg
      exact tg_above rest (below ++ [x]) z htg' hz (fun y hy => hab y (List.mem_cons_of_mem _ hy)) y hy

theorem htmlIn_split5 {n : EName}
    (h1 : htmlIn n ["html", "table", "template"] = false) (h2 : htmlIn n ["html", "body", "head", "frameset"] = false) :
    htmlIn n ["html", "table", "template", "body", "head", "frameset"] = false := by
  unfold htmlIn isOneOf at *
  simp only [List.any_cons, List.any_nil, Bool.or_false, Bool.and_eq_false_iff, Bool.or_eq_false_iff] at *
  rcases h1 with h1 | h1
  · exact Or.inl h1
  · rcases h2 with h2 | h2
    · exact Or.inl h2
    · exact Or.inr ⟨h1.1, h1.2.1, h1.2.2, h2.2.1, h2.2.2.1, h2.2.2.2⟩

/-- everything above a disposable element `x` is disposable if no `html table template` is above it;
so popping any top segment of `x :: above` preserves `Big` -/
theorem Big.pop_above {m : Mode} {r : Id} {ph : Phase} {s s' : State} {popped below above : List Id} {x : Id}
    (h : Big m r ph s) (hst : s.openElems = below ++ x :: above) (hx : keepName (nm s.dom x) = false)
    (hab : ∀ y ∈ above, htmlIn (nm s.dom y) ["html", "table", "template"] = false)
    (p : PR s s' popped) (hsub : ∀ y ∈ popped, y = x ∨ y ∈ above) : Big m r ph s' := by
  have h0 := h
  obtain ⟨up, hc, _, _, _⟩ := h0
  refine h.pop p ?_
  -- x is not the root
  have hbelow : ∃ below', below = r :: below' := by
    cases below with
    | nil =>
      rw [hc.stack] at hst
      simp only [List.nil_append, List.cons.injEq] at hst
      rw [← hst.1, hc.root_name, keepName_html] at hx; cases hx
    | cons a t =>
      rw [hc.stack] at hst
      simp only [List.cons_append, List.cons.injEq] at hst
      exact ⟨t, by rw [hst.1]⟩
  obtain ⟨below', rfl⟩ := hbelow
  have hup : up = below' ++ x :: above := by
    rw [hc.stack] at hst
    simp only [List.cons_append, List.cons.injEq, true_and] at hst
    exact hst
  have habove : ∀ y ∈ above, keepName (nm s.dom y) = false := by
    refine tg_above above (r :: below') x (by rw [← hst]; exact hc.tg) hx ?_
    intro y hy
    refine htmlIn_split5 (hab y hy) (hc.bh4 h.notPf y ?_)
    rw [hup]
    cases below' with
    | nil => simpa using hy
    | cons a t => simp only [List.cons_append, List.tail_cons]; simp [hy]
  intro y hy
  rcases hsub y hy with rfl | hy'
  · exact hx
  · exact habove y hy'

end H5V.Props.C06
