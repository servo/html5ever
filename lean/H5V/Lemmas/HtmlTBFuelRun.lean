import H5V.Lemmas.HtmlTBFuelBase
/-!
# The fuel of `process_to_completion`: the loop

Relative to `AllDec` — every rule decreases the measure along `Reprocess` (`HtmlTBFuelRules*`) — the loop
`process_to_completion fuel tok more` never runs out of fuel when `mu s tok more ≤ fuel`, and
`ptcFuel s tok` is at least `mu s tok []`.
-/
namespace H5V.Lemmas.TBFuel
open H5V.Model.HtmlTB
open H5V.Model.HtmlTok (TagKind)
open H5V.Model.Dom (Id QualName Attr NodeOrText SinkOp Output ElementFlags QuirksMode Dom NodeData Node)
open H5V.Lemmas.TBSafe
open H5V.Lemmas.TBC (ok_bind ok_pure ok_getS_bind ok_modS_bind ok_ite ok_bind_pure res_unexpected res_appendText
  res_appendComment)

variable {al : Allow}

/-- an allowance, to read the first-pass `Sat` lemmas on successful runs -/
@[reducible] def anyAl : Allow := ⟨True, True⟩

/-- **every rule decreases the measure**: the answer of `step(mode, token)` from a state satisfying the
invariant -/
def AllDec : Prop := ∀ (tok : Token) (s : State), TI s → ∀ r s', step s.mode tok s = .ok (r, s') →
  Dec s s.mode tok r s'

theorem dec_of_noRep {s s' : State} {m : Mode} {tok : Token} {r : ProcessResult} (h : H5V.Lemmas.TBC.NoRep r)
    (hs : ∀ b, r ≠ .splitWhitespace b) : Dec s m tok r s' := by
  cases r with
  | reprocess m' t => exact h.elim
  | reprocessForeign t => exact h.elim
  | splitWhitespace b => exact absurd rfl (hs b)
  | _ => trivial

theorem dec_done {s s' : State} {m : Mode} {tok : Token} : Dec s m tok .done s' := trivial

/-! ### foreign content -/

theorem dec_unexpectedStartTagInForeignContent (hd : AllDec) {tag : Tag} {s : State} (ht : TI s)
    (hbl : bodyLike s.mode = true) {r : ProcessResult} {s' : State}
    (h : unexpectedStartTagInForeignContent tag s = .ok (r, s')) : Dec s s.mode (.tag tag) r s' := by
  have hpre : preRoot s.mode = false := by
    cases hm : s.mode <;> simp [bodyLike, hm, preRoot] at hbl ⊢
  unfold unexpectedStartTagInForeignContent at h
  obtain ⟨_, s1, h1, h2⟩ := ok_bind h
  have hq1 : QF s s1 := (sat_ok (al := anyAl) sat_unexpected h1).2
  have ht1 : TI s1 := ht.of_qf hq1
  have hpre1 : preRoot s1.mode = false := by rw [hq1.mode]; exact hpre
  have hr1 := ht1.rooted hpre1
  have h3 := ok_getS_bind h2
  obtain ⟨_, s2, h4, h5⟩ := ok_bind h3
  obtain ⟨r0, rest, hl, hn⟩ := hr1
  obtain ⟨pre, post, x, heq, hx, hpx, hpost⟩ :=
    split_last_sat (p := fun h => (nm s1.dom h).ns == nsHtml) (l := s1.openElems)
      ⟨r0, by rw [hl]; exact List.mem_cons_self, by rw [hn]; rfl⟩
  obtain ⟨post1, post2, hp, st⟩ := sat_ok (al := anyAl)
    (sat_popToIntegrationPointLoop _ s1 pre post x ht1.h.open_el heq hx (by simpa using hpx)
      (by rw [heq]; simp; omega)) h4
  have hne : pre ++ post1 ≠ [] := by
    intro e
    have : pre = [] := (List.append_eq_nil_iff.mp e).1
    rw [this] at hx; cases hx
  have heq2 : s1.openElems = (pre ++ post1) ++ post2 := by rw [heq, hp]; simp
  have hb : BStep s1 s2 := BStep.of_st ht1.h ⟨r0, rest, hl, hn⟩ heq2 hne st
  have hk : Keeps (fun n => n.ns == nsHtml) s1 s2 :=
    keeps_html_of_pops heq2 st.openElems (fun y hy => by
      have := hpost y (by rw [hp]; exact List.mem_append_right _ hy)
      simpa using this)
  have ht2 : TI s2 := ⟨hb.hinv, by
    rw [hb.mode]
    exact ht1.s.of_bstep ht1.h hb (by rw [hq1.mode]; exact hbl) (Keeps.of_html hk)⟩
  have h6 := ok_getS_bind h5
  have hm2 : s2.mode = s.mode := by rw [hb.mode, hq1.mode]
  have hdec := hd (.tag tag) s2 ht2 r s' h6
  rw [hm2] at hdec
  refine hdec.mono ?_
  refine (WLe.of_qf ht.h.open_el hq1).trans (WLe.of_st_sublist ht1.h.open_el st ?_)
  rw [heq2]; exact List.sublist_append_left _ _

theorem dec_foreignEndTagLoop (hd : AllDec) {tag : Tag} : ∀ (n : Nat) (first : Bool) (s : State), TI s →
    n < s.openElems.length → ∀ r s', foreignEndTagLoop tag n first s = .ok (r, s') →
    Dec s s.mode (.tag tag) r s' := by
  intro n
  induction n with
  | zero =>
    intro first s ht hlt r s' h
    unfold foreignEndTagLoop at h
    have h1 := ok_getS_bind h
    have hget : s.openElems[0]? = some s.openElems[0] := List.getElem?_eq_getElem hlt
    rw [hget] at h1
    dsimp only at h1
    simp only [pure_bind] at h1
    have hmem : s.openElems[0] ∈ s.openElems := List.getElem_mem hlt
    obtain ⟨nn, s1, h2, h3⟩ := ok_bind h1
    obtain ⟨rfl, hq1⟩ := sat_ok (al := anyAl) (sat_elemName (ht.h.open_el _ hmem)) h2
    by_cases c1 : (!first && (nm s.dom s.openElems[0]).ns == nsHtml) = true
    · rw [if_pos c1] at h3
      have h4 := ok_getS_bind h3
      have hdec := hd (.tag tag) s1 (ht.of_qf hq1) r s' h4
      rw [hq1.mode] at hdec
      exact hdec.mono (WLe.of_qf ht.h.open_el hq1)
    · rw [if_neg c1] at h3
      rw [(ok_pure h3).1.symm]; trivial
  | succ n ih =>
    intro first s ht hlt r s' h
    unfold foreignEndTagLoop at h
    have h1 := ok_getS_bind h
    have hget : s.openElems[n + 1]? = some s.openElems[n + 1] := List.getElem?_eq_getElem hlt
    rw [hget] at h1
    dsimp only at h1
    simp only [pure_bind] at h1
    have hmem : s.openElems[n + 1] ∈ s.openElems := List.getElem_mem hlt
    have hel := ht.h.open_el _ hmem
    obtain ⟨nn, s1, h2, h3⟩ := ok_bind h1
    obtain ⟨rfl, hq1⟩ := sat_ok (al := anyAl) (sat_elemName hel) h2
    have ht1 : TI s1 := ht.of_qf hq1
    have hw1 : WLe s s1 := WLe.of_qf ht.h.open_el hq1
    by_cases c1 : (!first && (nm s.dom s.openElems[n + 1]).ns == nsHtml) = true
    · rw [if_pos c1] at h3
      have h4 := ok_getS_bind h3
      have hdec := hd (.tag tag) s1 ht1 r s' h4
      rw [hq1.mode] at hdec
      exact hdec.mono hw1
    rw [if_neg c1] at h3
    by_cases c2 : eqIgnoreAsciiCase (nm s.dom s.openElems[n + 1]).loc tag.name = true
    · rw [if_pos c2] at h3
      have h4 := ok_modS_bind h3
      rw [(ok_pure h4).1.symm]; trivial
    rw [if_neg c2] at h3
    have hcont : ∀ s2, QF s1 s2 → foreignEndTagLoop tag n false s2 = .ok (r, s') →
        Dec s s.mode (.tag tag) r s' := by
      intro s2 hq2 h5
      have hq := hq1.trans hq2
      have hdec := ih false s2 (ht.of_qf hq) (by rw [hq.openElems]; omega) r s' h5
      rw [hq.mode] at hdec
      exact hdec.mono (WLe.of_qf ht.h.open_el hq)
    by_cases c3 : first = true
    · rw [if_pos c3] at h3
      obtain ⟨_, s2, h5, h6⟩ := ok_bind h3
      exact hcont s2 (sat_ok (al := anyAl) sat_unexpected h5).2 h6
    · rw [if_neg c3] at h3
      exact hcont s1 (QF.refl _) h3

theorem res_foreignStartTag' {tag : Tag} {s s' : State} {r : ProcessResult}
    (h : foreignStartTag tag s = .ok (r, s')) : r = .done ∨ r = .doneAckSelfClosing := by
  unfold foreignStartTag at h
  obtain ⟨_, s1, _, h2⟩ := ok_bind h
  obtain ⟨_, s2, _, h3⟩ := ok_bind h2
  dsimp only at h3
  refine ok_ite (P := fun r => r = .done ∨ r = .doneAckSelfClosing) h3 ?_ ?_
  · intro s3 s4 r1 h4; exact Or.inr (ok_bind_pure h4)
  · intro s3 s4 r1 h4; exact Or.inl (ok_bind_pure h4)

theorem dec_stepForeign (hd : AllDec) {tok : Token} {s : State} (ht : TI s) (hf : ForeignTop s)
    {r : ProcessResult} {s' : State} (h : stepForeign tok s = .ok (r, s')) : Dec s s.mode tok r s' := by
  have hbl := bodyLike_of_foreign ht hf
  have hpre : preRoot s.mode = false := by
    cases hm : s.mode <;> simp [bodyLike, hm, preRoot] at hbl ⊢
  unfold stepForeign at h
  cases tok with
  | eof => exact absurd h (by intro e; cases e)
  | nullChar =>
    dsimp only at h
    obtain ⟨_, s1, _, h2⟩ := ok_bind h
    rw [res_appendText h2]; trivial
  | chars st text =>
    dsimp only at h
    by_cases c0 : anyNotWhitespace text = true
    · rw [if_pos c0] at h
      obtain ⟨_, s1, _, h2⟩ := ok_bind h
      rw [res_appendText h2]; trivial
    · rw [if_neg c0] at h
      rw [res_appendText h]; trivial
  | comment text =>
    dsimp only at h
    rw [res_appendComment h]; trivial
  | tag tag =>
    dsimp only at h
    by_cases c1 : (tag.isStart foreignBreakoutStart || tag.isEnd ["br", "p"]) = true
    · rw [if_pos c1] at h; exact dec_unexpectedStartTagInForeignContent hd ht hbl h
    rw [if_neg c1] at h
    by_cases c2 : tag.isStart ["font"] = true
    · rw [if_pos c2] at h
      by_cases c3 : (tag.attrs.any fun a => a.name.ns == [] && isOneOf a.name.loc ["color", "face", "size"]) = true
      · rw [if_pos c3] at h; exact dec_unexpectedStartTagInForeignContent hd ht hbl h
      · rw [if_neg c3] at h
        rcases res_foreignStartTag' h with e | e <;> (rw [e]; trivial)
    rw [if_neg c2] at h
    by_cases c3 : (tag.kind == .startTag) = true
    · rw [if_pos c3] at h
      rcases res_foreignStartTag' h with e | e <;> (rw [e]; trivial)
    rw [if_neg c3] at h
    have h1 := ok_getS_bind h
    have hr := ht.rooted hpre
    have hlen : 0 < s.openElems.length := by
      obtain ⟨r0, rest, hl, _⟩ := hr; rw [hl]; simp
    by_cases c4 : (s.openElems.length == 0) = true
    · have := beq_iff_eq.mp c4; omega
    rw [if_neg c4] at h1
    exact dec_foreignEndTagLoop hd _ true s ht (by omega) r s' h1

/-! ### the loop -/

/-- the length of the character tokens still queued -/
def moreLen (more : List Token) : Nat := (more.map tokenCharLen).sum

/-- the number of iterations `process_to_completion` may still need -/
def mu (s : State) (tok : Token) (more : List Token) : Nat :=
  if isCharsTok tok = true then 16 * moreLen more + 16 * (tokenCharLen tok - 1) + ms s s.mode tok + 1
  else ms s s.mode tok + 1

/-- the queue: empty unless a run of characters is being split; all character tokens are non-empty -/
structure MoreOk2 (tok : Token) (more : List Token) : Prop where
  nonchars : isCharsTok tok = false → more = []
  pos : isCharsTok tok = true → 1 ≤ tokenCharLen tok
  more : ∀ t ∈ more, isCharsTok t = true ∧ 1 ≤ tokenCharLen t

theorem MoreOk2.toMoreOk {tok : Token} {more : List Token} (h : MoreOk2 tok more) : MoreOk tok more := by
  by_cases hc : isCharsTok tok = true
  · exact Or.inr ⟨hc, fun t ht => (h.more t ht).1⟩
  · exact Or.inl (h.nonchars (by cases hb : isCharsTok tok <;> simp [hb] at hc ⊢))

theorem ms_of_same_shape {s s' : State} {m : Mode} {tok : Token} (hd : s'.dom = s.dom)
    (ho : s'.openElems = s.openElems) (htm : s'.templateModes = s.templateModes) : ms s' m tok = ms s m tok := by
  unfold ms wW tmW
  rw [hd, ho, htm]

theorem ms_qf {s s' : State} (hel : AllEl s.dom s.openElems) (h : QF s s') (m : Mode) (tok : Token) :
    ms s' m tok = ms s m tok := by
  unfold ms wW tmW
  rw [h.openElems, h.templateModes, tabCount_ext h.ext hel]

theorem popFrontCharRun_spec {buf first rest : Str} {ws : Bool} (h : popFrontCharRun buf = some (first, ws, rest)) :
    1 ≤ first.length ∧ first.length + rest.length = buf.length := by
  unfold popFrontCharRun at h
  cases buf with
  | nil => cases h
  | cons c t =>
    dsimp only at h
    cases h
    constructor
    · rw [List.takeWhile_cons_of_pos (by simp)]
      simp
    · rw [← List.length_append, List.takeWhile_append_dropWhile]

theorem moreLen_cons (t : Token) (l : List Token) : moreLen (t :: l) = tokenCharLen t + moreLen l := by
  unfold moreLen; simp

theorem moreLen_append (a b : List Token) : moreLen (a ++ b) = moreLen a + moreLen b := by
  unfold moreLen; simp

theorem ms_chars_bound (s : State) (m : Mode) {t : Token} (h : isCharsTok t = true) : ms s m t ≤ 13 := by
  cases t with
  | chars st x => exact ms_chars_le s m st x
  | _ => simp [isCharsTok] at h

/-- the continuation of `process_to_completion` after a rule has answered -/
theorem sat_ptcCont2 {fuel : Nat} {tok : Token} {more : List Token}
    (ih : ∀ tok more s, TI s → MoreOk2 tok more → Prot s tok → mu s tok more ≤ fuel →
      Sat (processToCompletion fuel tok more) s (fun _ s' => TI s'))
    {result : ProcessResult} {s s1 : State} (hp : StepPost tok result s1) (hdec : Dec s s.mode tok result s1)
    (hmo : MoreOk2 tok more) (hmu : mu s tok more ≤ fuel + 1) :
    Sat (ptcCont fuel tok more result) s1 (fun _ s' => TI s') := by
  have hnext : ∀ s2, TI s2 → Sat (ptcNext fuel more) s2 (fun _ s' => TI s') := by
    intro s2 ht2
    unfold ptcNext
    cases hmore : more with
    | nil => exact sat_pure ht2
    | cons t rest =>
      dsimp only
      have hct : isCharsTok tok = true := by
        cases hb : isCharsTok tok with
        | true => rfl
        | false => have := hmo.nonchars hb; rw [hmore] at this; cases this
      have ht := hmo.more t (by rw [hmore]; exact List.mem_cons_self)
      refine ih t rest s2 ht2 ⟨(fun hb => by rw [ht.1] at hb; cases hb), (fun _ => ht.2),
        (fun x hx => hmo.more x (by rw [hmore]; exact List.mem_cons_of_mem _ hx))⟩
        (fun _ => Or.inr (textTok_of_chars ht.1)) ?_
      -- the measure
      have hpos := hmo.pos hct
      unfold mu at hmu ⊢
      rw [if_pos hct, hmore, moreLen_cons] at hmu
      rw [if_pos ht.1]
      have := ms_chars_bound s2 s2.mode ht.1
      omega
  unfold ptcCont
  dsimp only
  cases result with
  | done =>
    dsimp only
    have ht1 : TI s1 := ⟨hp.h, hp.s⟩
    have hack : ∀ (c : Bool), Sat (if c = true then do
          parseError "Unacknowledged self-closing tag"
          ptcNext fuel more
        else ptcNext fuel more) s1 (fun _ s' => TI s') := by
      intro c
      split
      · exact sat_parseError.bind (fun _ s2 hq => hnext s2 (ht1.of_qf hq))
      · exact hnext s1 ht1
    exact hack _
  | doneAckSelfClosing => exact hnext s1 ⟨hp.h, hp.s⟩
  | reprocess m t =>
    dsimp only
    refine sat_setMode.bind ?_
    rintro _ s2 rfl
    have : t = tok := hp.r.1
    subst this
    refine ih t more _ ⟨hp.h.withMode m, hp.s.withMode m⟩ hmo (fun h => absurd h hp.r.2) ?_
    have hd : ms s1 m t < ms s s.mode t := hdec
    have he : ms ({ s1 with mode := m } : State) m t = ms s1 m t := ms_of_same_shape rfl rfl rfl
    unfold mu at hmu ⊢
    show (if isCharsTok t = true then _ + ms ({ s1 with mode := m } : State) m t + 1
      else ms ({ s1 with mode := m } : State) m t + 1) ≤ fuel
    rw [he]
    by_cases hc : isCharsTok t = true
    · rw [if_pos hc] at hmu ⊢; omega
    · rw [if_neg hc] at hmu ⊢; omega
  | reprocessForeign t =>
    exact absurd hp.r id
  | splitWhitespace buf =>
    dsimp only
    obtain ⟨htok, hmode⟩ : tok = .chars .notSplit buf ∧ s1.mode = s.mode := hdec
    subst htok
    cases hpf : popFrontCharRun buf with
    | none => exact sat_pure ⟨hp.h, hp.s⟩
    | some x =>
      obtain ⟨first, isWs, rest⟩ := x
      dsimp only
      obtain ⟨hf1, hflen⟩ := popFrontCharRun_spec hpf
      have hmore' : ∀ t ∈ (if rest.length > 0 then more ++ [Token.chars .notSplit rest] else more),
          isCharsTok t = true ∧ 1 ≤ tokenCharLen t := by
        intro t ht
        by_cases hl : rest.length > 0
        · rw [if_pos hl] at ht
          rcases List.mem_append.mp ht with h | h
          · exact hmo.more t h
          · rw [List.mem_singleton.mp h]; exact ⟨rfl, hl⟩
        · rw [if_neg hl] at ht; exact hmo.more t ht
      refine ih _ _ s1 ⟨hp.h, hp.s⟩ ⟨(fun hb => by cases hb), (fun _ => hf1), hmore'⟩ (fun _ => Or.inr rfl) ?_
      -- the measure: the split token is one unit cheaper
      have hlenmore : moreLen (if rest.length > 0 then more ++ [Token.chars .notSplit rest] else more) =
          moreLen more + rest.length := by
        by_cases hl : rest.length > 0
        · rw [if_pos hl, moreLen_append]; unfold moreLen; simp [tokenCharLen]
        · rw [if_neg hl]; omega
      unfold mu at hmu ⊢
      rw [if_pos (show isCharsTok (Token.chars SplitStatus.notSplit buf) = true from rfl)] at hmu
      rw [if_pos (show isCharsTok (Token.chars _ first) = true from rfl), hlenmore, hmode]
      have e1 : ms s s.mode (.chars .notSplit buf) = 2 * rank s.mode .chars + 1 := rfl
      have e2 : ms s1 s.mode (.chars (if isWs = true then SplitStatus.whitespace else .notWhitespace) first) =
          2 * rank s.mode .chars + 0 := by
        cases isWs <;> rfl
      rw [e1] at hmu
      rw [e2]
      show 16 * (moreLen more + rest.length) + 16 * (first.length - 1) + (2 * rank s.mode .chars + 0) + 1 ≤ fuel
      have : tokenCharLen (.chars .notSplit buf) = buf.length := rfl
      rw [this] at hmu
      omega
  | script node =>
    dsimp only
    have hm : more = [] := hmo.nonchars hp.r
    subst hm
    exact sat_pure ⟨hp.h, hp.s⟩
  | toPlaintext =>
    dsimp only
    have hm : more = [] := hmo.nonchars hp.r
    subst hm
    exact sat_pure ⟨hp.h, hp.s⟩
  | toRawData k =>
    dsimp only
    have hm : more = [] := hmo.nonchars hp.r
    subst hm
    exact sat_pure ⟨hp.h, hp.s⟩
  | encodingIndicator e => exact sat_pure ⟨hp.h, hp.s⟩

/-- a `Sat` fact and a fact about every successful run hold together -/
theorem sat_and_ok {α : Type} {m : M α} {s : State} {Q : α → State → Prop} {P : α → State → Prop}
    (h : Sat m s Q) (hp : ∀ a s', m s = .ok (a, s') → P a s') : Sat m s (fun a s' => Q a s' ∧ P a s') := by
  unfold Sat at h ⊢
  cases hm : m s with
  | error e => rw [hm] at h; exact h
  | ok r => obtain ⟨a, s'⟩ := r; rw [hm] at h; exact ⟨h, hp a s' hm⟩

/-- **`process_to_completion` with enough fuel never runs out of it** (no `al.fuel` allowance) -/
theorem sat_processToCompletion2 (hall : AllSpec (al := al)) (hd : AllDec) :
    ∀ (fuel : Nat) (tok : Token) (more : List Token) (s : State),
    TI s → MoreOk2 tok more → Prot s tok → mu s tok more ≤ fuel →
    Sat (processToCompletion fuel tok more) s (fun _ s' => TI s') := by
  intro fuel
  induction fuel with
  | zero =>
    intro tok more s _ _ _ hmu
    unfold mu at hmu
    by_cases hc : isCharsTok tok = true
    · rw [if_pos hc] at hmu; omega
    · rw [if_neg hc] at hmu; omega
  | succ fuel ih =>
    intro tok more s ht hmo hprot hmu
    rw [processToCompletion_succ]
    dsimp only
    by_cases heof : tok = .eof
    · subst heof
      rw [isForeign_eof]
      refine Sat.bind (Q := fun b s1 => b = false ∧ s = s1) (sat_pure ⟨rfl, rfl⟩) ?_
      rintro b s1 ⟨rfl, rfl⟩
      simp only [Bool.false_eq_true, if_false]
      refine sat_getS_bind ?_
      refine Sat.bind (sat_and_ok (hall .eof s ht (fun _ => Or.inr rfl)) (hd .eof s ht)) ?_
      rintro result s1 ⟨hp, hdec⟩
      exact sat_ptcCont2 ih hp hdec hmo hmu
    · refine (sat_isForeign ht.h).bind ?_
      rintro b s1 ⟨hq, hb⟩
      have ht1 : TI s1 := ht.of_qf hq
      have hmu1 : mu s1 tok more ≤ fuel + 1 := by
        unfold mu at hmu ⊢
        rw [hq.mode, ms_qf ht.h.open_el hq]
        exact hmu
      split
      · rename_i hbt
        obtain ⟨c, hc, hns⟩ := hb hbt
        have hf1 : ForeignTop s1 := by
          refine ⟨c, ?_, ?_⟩
          · unfold adjNode at hc ⊢
            rw [hq.openElems, hq.contextElem]; exact hc
          · rw [nm_ext hq.ext (adjNode_el ht.h hc)]; exact hns
        refine Sat.bind (sat_and_ok (sat_stepForeign hall ht1 hf1 heof)
          (fun r s' h => dec_stepForeign hd ht1 hf1 h)) ?_
        rintro result s2 ⟨hp, hdec⟩
        exact sat_ptcCont2 ih hp hdec hmo hmu1
      · refine sat_getS_bind ?_
        refine Sat.bind (sat_and_ok (hall tok s1 ht1 (by rw [hq.mode]; exact hprot)) (hd tok s1 ht1)) ?_
        rintro result s2 ⟨hp, hdec⟩
        exact sat_ptcCont2 ih hp hdec hmo hmu1

/-- the fuel `process_token` provides is enough -/
theorem mu_le_ptcFuel (s : State) (t : Token) : mu s t [] ≤ ptcFuel s t := by
  unfold mu ptcFuel
  have h := ms_le s s.mode t
  by_cases hc : isCharsTok t = true
  · rw [if_pos hc]
    have := ms_chars_bound s s.mode hc
    show 16 * moreLen [] + _ + _ + 1 ≤ _
    have e : moreLen [] = 0 := rfl
    rw [e]
    omega
  · rw [if_neg hc]; omega

end H5V.Lemmas.TBFuel
