import H5V.Lemmas.HtmlTokSpecDefs
import Lean.Meta.Tactic.Simp.RegisterCommand
/-!
# C01 simulation — basic lemmas: steps of the specification (`Reach`), the canonical output form,
the register part of the relation (`RegCore`)
-/
namespace H5V.Lemmas.HtmlTokSpec
open H5V.Model.HtmlTok
open H5V.Spec.HtmlTokenizer (St Tok Emit Tree Switch Ctl ReturnSt normalizeNewlinesFrom normalizeNewlines
  dedupAttrs)

/-- the step function of the specification, its state functions and register operations -/
register_simp_attr spec_step
/-- the register operations of the model -/
register_simp_attr model_ops

/-! ## steps -/

def ctlAdv : Ctl → Bool
  | .advance _ => true
  | .stop => false

def ctlN : Ctl → Nat
  | .advance n => n
  | .stop => 0

@[simp] theorem ctlAdv_advance (n : Nat) : ctlAdv (.advance n) = true := rfl
@[simp] theorem ctlAdv_stop : ctlAdv .stop = false := rfl
@[simp] theorem ctlN_advance (n : Nat) : ctlN (.advance n) = n := rfl

theorem Steps.trans {tree : Tree} {t1 : Tok} {r1 : Str} {t2 : Tok} {r2 : Str} {t3 : Tok} {r3 : Str}
    (h1 : Steps tree t1 r1 t2 r2) (h2 : Steps tree t2 r2 t3 r3) : Steps tree t1 r1 t3 r3 := by
  induction h1 with
  | refl => exact h2
  | step hs _ ih => exact Steps.step hs (ih h2)

/-- some configuration satisfying `P` is reached after `k ≥ 0` steps (none of which stops) -/
def Reach (tree : Tree) (t : Tok) (rest : Str) (P : Tok → Str → Prop) : Prop :=
  ∃ t' rest', Steps tree t rest t' rest' ∧ P t' rest'

theorem Reach.done {tree : Tree} {t : Tok} {rest : Str} {P : Tok → Str → Prop} (h : P t rest) :
    Reach tree t rest P := ⟨t, rest, Steps.refl _ _, h⟩

theorem Reach.stepEq {tree : Tree} {t : Tok} {rest : Str} {P : Tok → Str → Prop} {t1 : Tok} {n : Nat}
    (h1 : sstep tree t rest = (t1, .advance n)) (h2 : Reach tree t1 (rest.drop n) P) :
    Reach tree t rest P := by
  obtain ⟨t', rest', hs, hp⟩ := h2
  exact ⟨t', rest', Steps.step h1 hs, hp⟩

/-- one step, in a form that mentions `sstep tree t rest` once, to be computed by `simp` -/
theorem Reach.step1 {tree : Tree} {t : Tok} {rest : Str} {P : Tok → Str → Prop}
    (h : match sstep tree t rest with
      | (t1, .advance n) => Reach tree t1 (rest.drop n) P
      | (_, .stop) => False) : Reach tree t rest P := by
  split at h
  · next h1 => exact Reach.stepEq h1 h
  · exact h.elim

theorem Reach.mono {tree : Tree} {t : Tok} {rest : Str} {P Q : Tok → Str → Prop}
    (h : Reach tree t rest P) (hpq : ∀ t' r', P t' r' → Q t' r') : Reach tree t rest Q := by
  obtain ⟨t', rest', hs, hp⟩ := h
  exact ⟨t', rest', hs, hpq _ _ hp⟩

theorem Reach.bind {tree : Tree} {t : Tok} {rest : Str} {P Q : Tok → Str → Prop}
    (h : Reach tree t rest P) (hpq : ∀ t' r', P t' r' → Reach tree t' r' Q) : Reach tree t rest Q := by
  obtain ⟨t', rest', hs, hp⟩ := h
  obtain ⟨t'', rest'', hs2, hq⟩ := hpq _ _ hp
  exact ⟨t'', rest'', hs.trans hs2, hq⟩

/-! ## output -/

@[simp] theorem flat_nil : flat [] = [] := rfl
@[simp] theorem flat_cons (tok : Token) (l : Nat) (out : Out) :
    flat ((tok, l) :: out) = (flatTok tok).reverse ++ flat out := rfl

@[simp] theorem flatTok_error (s : Str) : flatTok (.error s) = [] := rfl
@[simp] theorem flatTok_eof : flatTok .eof = [] := rfl
@[simp] theorem flatTok_pause (b : Bool) : flatTok (.pause b) = [] := rfl
@[simp] theorem flatTok_chars (s : Str) : flatTok (.chars s) = s.map .char := rfl
@[simp] theorem flatTok_null : flatTok .nullChar = [.null] := rfl
@[simp] theorem flatTok_tag (t : Tag) : flatTok (.tag t) = [.tag t] := rfl
@[simp] theorem flatTok_comment (s : Str) : flatTok (.comment s) = [.comment s] := rfl
@[simp] theorem flatTok_doctype (d : Doctype) : flatTok (.doctype d) = [.doctype d] := rfl

/-! ## the register part of the relation -/

/-- everything of the relation that does not concern the reader: state, registers, output; no
character reference in progress -/
structure RegCore (m : Mach) (t : Tok) : Prop where
  std : Std m.state
  st : t.state = stOf m.state ∨ altSt m.state t
  cr : m.charRef = none
  reg : RegRel m t
  out : OutRel m t

theorem regCore_iff (m : Mach) (t : Tok) : RegCore m t ↔
    Std m.state ∧ (t.state = stOf m.state ∨ altSt m.state t) ∧ m.charRef = none ∧ RegRel m t ∧ OutRel m t :=
  ⟨fun h => ⟨h.std, h.st, h.cr, h.reg, h.out⟩, fun ⟨a, b, c, d, e⟩ => ⟨a, b, c, d, e⟩⟩

/-- the reader's registers: a machine that differs from `m` only in `ignore_lf`, `reconsume`,
the line counter and `current_char` -/
def readerUpd (m : Mach) (il rc : Bool) (ln : Nat) (cc : Char) : Mach :=
  { m with ignoreLf := il, reconsume := rc, line := ln, currentChar := cc }

theorem RegCore.readerUpd {m : Mach} {t : Tok} (h : RegCore m t) (il rc : Bool) (ln : Nat) (cc : Char) :
    RegCore (readerUpd m il rc ln cc) t :=
  ⟨h.std, h.st, h.cr, h.reg, h.out⟩

end H5V.Lemmas.HtmlTokSpec
