import H5V.Lemmas.HtmlTBModesPrimPop
/-!
The rule function of "after frameset" on non-character tokens.
-/
namespace H5V.Lemmas.HtmlTBModes
open H5V.Model.HtmlTB
open H5V.Model.Dom (Id SinkOp Output Dom QualName Attr NodeOrText ElementFlags NodeData QuirksMode)
open H5V.Lemmas.HtmlTBAlgo
open H5V.Lemmas.TBSafe (TI HInv SInv Rooted)
open H5V.Spec.TreeAlgo2 (Elem Entry PState Ctx Edit Place)
open H5V.Spec.TreeModes (STok ETok IMode Config Out TokSwitch XOp Op Step Edition)

@[simp] theorem isWs_nul : Spec.TreeModes.isWs '\x00' = false := by decide

theorem sim_afterFrameset (hhead : StepSimTok stepInHead Spec.TreeModes.inHead)
    (hbody : StepSimTok stepInBody Spec.TreeModes.inBody) :
    StepSimTok stepAfterFrameset Spec.TreeModes.afterFrameset := by
  intro tok hch hwf s hm
  cases tok with
  | chars st text => cases hch
  | comment text => exact pc_comment_tokPost hm text _
  | eof =>
    simp only [stepAfterFrameset]
    refine pc_pure (tokPost_of_tr (Tr.refl hm) trivial ?_)
    intro x x' hx hx' hr
    subst x'
    exact ⟨{ x with stopped := true }, rfl, ⟨rfl, rfl, rfl, rfl, rfl⟩, Or.inr ⟨rfl, rfl⟩, rfl, rfl⟩
  | nullChar =>
    simp only [stepAfterFrameset]
    refine pc_conseq (pc_unexpected hm) ?_
    rintro r s' calls _ ⟨rfl, htr⟩
    refine tokPost_of_tr htr trivial ?_
    rintro x x' hx hx' ⟨hr, he⟩
    subst x'
    refine ⟨{ x with errors := x.errors ++ ["after frameset: unexpected token"] }, ?_, ⟨rfl, rfl, rfl, rfl, rfl⟩, Or.inl rfl, rfl, rfl⟩
    simp only [stokOf, Spec.TreeModes.afterFrameset, stepOf, he, isWs_nul]
    rfl
  | tag t =>
    simp only [stepAfterFrameset, Tag.isStart, Tag.isEnd, isOneOf_cons, isOneOf_nil, Bool.or_false]
    have hunexp : ∀ w, PC unexpected s (TokPost (fun σ => pure (Step.done (Spec.TreeModes.State.err σ w))) s (.tag t)) := by
      intro w
      refine pc_conseq (pc_unexpected hm) ?_
      rintro r s' calls _ ⟨rfl, htr⟩
      refine tokPost_of_tr htr trivial ?_
      rintro x x' hx hx' ⟨hr, he⟩
      subst x'
      refine ⟨{ x with errors := x.errors ++ [w] }, ?_, ⟨rfl, rfl, rfl, rfl, rfl⟩, Or.inl rfl, rfl, rfl⟩
      simp only [stepOf, he]
      rfl
    cases hk : t.kind with
    | startTag =>
      simp only [stokOf, stokOfTag_start hk, Spec.TreeModes.afterFrameset, Spec.TreeModes.Tag.is, strIs_eq, specTag_name]
      by_cases h1 : t.name = "html".toList
      · simp +decide only [h1, if_true]
        refine pc_tokPost_congr (hbody (.tag t) rfl hwf s hm) ?_
        intro x hx
        simp only [stokOf, stokOfTag_start hk]
      · by_cases h2 : t.name = "noframes".toList
        · simp +decide only [h2, if_true, if_false]
          refine pc_tokPost_congr (hhead (.tag t) rfl hwf s hm) ?_
          intro x hx
          simp only [stokOf, stokOfTag_start hk]
        · simp +decide only [h1, h2, if_false]
          exact hunexp _
    | endTag =>
      simp only [stokOf, stokOfTag_end hk, Spec.TreeModes.afterFrameset, Spec.TreeModes.Tag.is, strIs_eq, specTag_name]
      by_cases h1 : t.name = "html".toList
      · simp +decide only [h1, if_true, if_false]
        refine pc_seq (pc_setMode hm _) ?_
        rintro _ s1 c1 _ ⟨rfl, htr⟩
        refine pc_pure (tokPost_of_tr (by rw [List.append_nil]; exact htr) trivial ?_)
        intro x x' hx hx' hr
        subst x'
        refine ⟨{ x with pendingJunk := (absF s x).pendingTableChars }, ?_, ⟨rfl, rfl, rfl, rfl, rfl⟩, Or.inl rfl, rfl, rfl⟩
        rfl
      · simp +decide only [h1, if_false]
        exact hunexp _

end H5V.Lemmas.HtmlTBModes
