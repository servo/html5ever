import H5V.Model.HtmlTB
import H5V.Lemmas.HtmlTBSafeDom
/-!
# Tree-builder safety: the program logic

* `Benign e` — the failures that are **not** excluded by the safety theorems: a failure of the DOM
  model inside one of the tree-*mutating* sink calls (`MutOp`: the calls whose success depends on the shape
  of the tree; `C05_tb_contract` in `Props/C05TB` shows they are made inside the `TreeSink` contract, and
  `C04_tb_total_full` combines the two), exhaustion of the fuel of `process_to_completion`, the `unreachable!` of the Text insertion
  mode (reached exactly when the token source breaks the tokenizer protocol and sends something else
  than characters / an end tag / EOF while the builder is in Text mode), and the two failures of
  the `<meta>` encoding extraction (a different model).  Everything else — every `panicAt` site of
  the model, the fuel of every helper loop, a failure of any *query* sink call — is not benign.
* `Sat m s Q` — run from `s`, `m` either fails benignly or ends in a result/state satisfying `Q`.
* `QF s s'` — `s'` is `s` with an extended DOM and some other trace: what a sink call does to the state.
-/
namespace H5V.Lemmas.TBSafe
open H5V.Model.HtmlTB
open H5V.Model.Dom (Id QualName Attr NodeOrText SinkOp Output ElementFlags QuirksMode Dom NodeData Node)

/-- the sink calls whose success depends on the shape of the tree -/
def MutOp : SinkOp → Prop
  | .append _ _ => True
  | .appendBasedOnParentNode _ _ _ => True
  | .appendBeforeSibling _ _ => True
  | .appendDoctypeToDocument _ _ _ => True
  | .removeFromParent _ => True
  | .reparentChildren _ _ => True
  | .maybeCloneAnOptionIntoSelectedcontent _ => True
  | _ => False

def textProtoMsg : String := "unreachable@rules.rs:1037: impossible case in Text mode"
def ptcFuelMsg : String := "model-fuel@model: process_to_completion"

/-- Which of the two *context-dependent* failures are tolerated: `text` — the `unreachable!` of the
Text insertion mode (excluded when the token source keeps the tokenizer protocol); `fuel` — running
out of the fuel of `process_to_completion`.  All lemmas are generic in the instance. -/
class Allow where
  text : Prop
  fuel : Prop

variable {al : Allow}

inductive Benign [Allow] : String → Prop
  | sinkMut (d : Dom) (op : SinkOp) (x : String) : d.apply op = .error x → MutOp op →
      Benign (errClass x ++ "@sink: " ++ x)
  | ptcFuel : Allow.fuel → Benign ptcFuelMsg
  | textProto : Allow.text → Benign textProtoMsg
  | metaExtract (e : String) : Benign ("meta-extract@encoding.rs: " ++ e)
  | metaUtf8 : Benign "subtendril-utf8@encoding.rs: subtendril is not valid UTF-8"

/-- run from `s`, `m` fails benignly or ends in a result/state satisfying `Q` -/
def Sat [Allow] {α : Type} (m : M α) (s : State) (Q : α → State → Prop) : Prop :=
  match m s with
  | .ok (a, s') => Q a s'
  | .error e => Benign e

theorem sat_pure {α : Type} {a : α} {s : State} {Q : α → State → Prop} (h : Q a s) :
    Sat (pure a : M α) s Q := h

theorem Sat.bind {α β : Type} {m : M α} {f : α → M β} {s : State} {Q : α → State → Prop}
    {R : β → State → Prop} (h : Sat m s Q) (hf : ∀ a s', Q a s' → Sat (f a) s' R) :
    Sat (m >>= f) s R := by
  unfold Sat at h ⊢
  show match (StateT.bind m f) s with | .ok (a, s') => R a s' | .error e => Benign e
  unfold StateT.bind
  cases hm : m s with
  | error e => simp only [hm] at h ⊢; exact h
  | ok r =>
    obtain ⟨a, s'⟩ := r
    simp only [hm] at h ⊢
    exact hf a s' h

theorem Sat.mono {α : Type} {m : M α} {s : State} {Q Q' : α → State → Prop} (h : Sat m s Q)
    (hq : ∀ a s', Q a s' → Q' a s') : Sat m s Q' := by
  unfold Sat at h ⊢
  cases hm : m s with
  | error e => simp only [hm] at h ⊢; exact h
  | ok r => obtain ⟨a, s'⟩ := r; simp only [hm] at h ⊢; exact hq a s' h

theorem sat_getS {s : State} {Q : State → State → Prop} (h : Q s s) : Sat getS s Q := h
theorem sat_get {s : State} {Q : State → State → Prop} (h : Q s s) : Sat (get : M State) s Q := h
theorem sat_set {s s1 : State} {Q : Unit → State → Prop} (h : Q () s1) : Sat (set s1 : M Unit) s Q := h
theorem sat_modS {s : State} {f : State → State} {Q : Unit → State → Prop} (h : Q () (f s)) :
    Sat (modS f) s Q := h
theorem sat_throw {α : Type} {e : String} {s : State} {Q : α → State → Prop} (h : Benign e) :
    Sat (throw e : M α) s Q := h

/-- what holds of both branches holds of the conditional: the `if` rule of every judgement on programs -/
theorem ite_rule {α : Sort _} {P : α → Prop} {c : Prop} [Decidable c] {a b : α} (h1 : c → P a) (h2 : ¬ c → P b) :
    P (if c then a else b) := by
  split
  · exact h1 ‹_›
  · exact h2 ‹_›

theorem sat_ite {α : Type} {c : Prop} [Decidable c] {m1 m2 : M α} {s : State} {Q : α → State → Prop}
    (h1 : c → Sat m1 s Q) (h2 : ¬ c → Sat m2 s Q) : Sat (if c then m1 else m2) s Q :=
  ite_rule (P := fun m => Sat m s Q) h1 h2

/-- what is left of a `do` block that starts with `let s ← getS` -/
theorem sat_getS_bind {β : Type} {f : State → M β} {s : State} {R : β → State → Prop}
    (h : Sat (f s) s R) : Sat (getS >>= f) s R :=
  Sat.bind (sat_getS (Q := fun a s' => a = s ∧ s' = s) ⟨rfl, rfl⟩) (by rintro a s' ⟨rfl, rfl⟩; exact h)

theorem sat_pure_bind {α β : Type} {a : α} {f : α → M β} {s : State} {R : β → State → Prop}
    (h : Sat (f a) s R) : Sat (pure a >>= f) s R :=
  Sat.bind (sat_pure (Q := fun x s' => x = a ∧ s' = s) ⟨rfl, rfl⟩) (by rintro x s' ⟨rfl, rfl⟩; exact h)

theorem sat_modS_bind {β : Type} {g : State → State} {f : Unit → M β} {s : State} {R : β → State → Prop}
    (h : Sat (f ()) (g s) R) : Sat (modS g >>= f) s R :=
  Sat.bind (sat_modS (Q := fun _ s' => s' = g s) rfl) (by rintro a s' rfl; exact h)

theorem sat_set_bind {β : Type} {s1 : State} {f : Unit → M β} {s : State} {R : β → State → Prop}
    (h : Sat (f ()) s1 R) : Sat ((set s1 : M Unit) >>= f) s R :=
  Sat.bind (sat_set (Q := fun _ s' => s' = s1) rfl) (by rintro a s' rfl; exact h)

/-! ### the frame of a sink call -/

/-- `s'` is `s` with an extended DOM (and some other trace) -/
def QF (s s' : State) : Prop :=
  ∃ d t, s' = { s with dom := d, traceRev := t } ∧ Ext s.dom d

theorem QF.refl (s : State) : QF s s := ⟨s.dom, s.traceRev, rfl, Ext.refl _⟩

theorem QF.trans {a b c : State} (h1 : QF a b) (h2 : QF b c) : QF a c := by
  obtain ⟨d1, t1, rfl, e1⟩ := h1
  obtain ⟨d2, t2, rfl, e2⟩ := h2
  exact ⟨d2, t2, rfl, e1.trans e2⟩

theorem QF.ext {s s' : State} (h : QF s s') : Ext s.dom s'.dom := by
  obtain ⟨d, t, rfl, e⟩ := h; exact e

section fields
variable {s s' : State} (h : QF s s')
include h
theorem QF.openElems : s'.openElems = s.openElems := by obtain ⟨d, t, rfl, e⟩ := h; rfl
theorem QF.activeFormatting : s'.activeFormatting = s.activeFormatting := by obtain ⟨d, t, rfl, e⟩ := h; rfl
theorem QF.mode : s'.mode = s.mode := by obtain ⟨d, t, rfl, e⟩ := h; rfl
theorem QF.origMode : s'.origMode = s.origMode := by obtain ⟨d, t, rfl, e⟩ := h; rfl
theorem QF.templateModes : s'.templateModes = s.templateModes := by obtain ⟨d, t, rfl, e⟩ := h; rfl
theorem QF.pendingTableText : s'.pendingTableText = s.pendingTableText := by obtain ⟨d, t, rfl, e⟩ := h; rfl
theorem QF.headElem : s'.headElem = s.headElem := by obtain ⟨d, t, rfl, e⟩ := h; rfl
theorem QF.formElem : s'.formElem = s.formElem := by obtain ⟨d, t, rfl, e⟩ := h; rfl
theorem QF.contextElem : s'.contextElem = s.contextElem := by obtain ⟨d, t, rfl, e⟩ := h; rfl
theorem QF.docHandle : s'.docHandle = s.docHandle := by obtain ⟨d, t, rfl, e⟩ := h; rfl
theorem QF.opts : s'.opts = s.opts := by obtain ⟨d, t, rfl, e⟩ := h; rfl
theorem QF.fosterParenting : s'.fosterParenting = s.fosterParenting := by obtain ⟨d, t, rfl, e⟩ := h; rfl
theorem QF.framesetOk : s'.framesetOk = s.framesetOk := by obtain ⟨d, t, rfl, e⟩ := h; rfl
theorem QF.quirksMode : s'.quirksMode = s.quirksMode := by obtain ⟨d, t, rfl, e⟩ := h; rfl
theorem QF.ignoreLf : s'.ignoreLf = s.ignoreLf := by obtain ⟨d, t, rfl, e⟩ := h; rfl
theorem QF.currentLine : s'.currentLine = s.currentLine := by obtain ⟨d, t, rfl, e⟩ := h; rfl
end fields

/-! ### sink calls -/

/-- a sink call: either the call is tree-mutating (then it may fail benignly) or it succeeds -/
theorem sat_sink {op : SinkOp} {s : State} {Q : Output → State → Prop}
    (hok : MutOp op ∨ ∃ d' out, s.dom.apply op = .ok (d', out))
    (hQ : ∀ d' out, s.dom.apply op = .ok (d', out) →
      Q out { s with dom := d', traceRev := (op, out) :: s.traceRev }) : Sat (sink op) s Q := by
  unfold Sat H5V.Model.HtmlTB.sink
  cases ha : s.dom.apply op with
  | error x =>
    simp only
    rcases hok with hm | ⟨d', out, h⟩
    · exact Benign.sinkMut s.dom op x ha hm
    · rw [ha] at h; cases h
  | ok r => obtain ⟨d', out⟩ := r; simp only; exact hQ d' out ha

theorem qf_of_apply {s : State} {op : SinkOp} {d' : Dom} {out : Output} (h : s.dom.apply op = .ok (d', out)) :
    QF s { s with dom := d', traceRev := (op, out) :: s.traceRev } :=
  ⟨d', _, rfl, apply_ext h⟩

/-- a sink call with a known answer -/
theorem sat_sink_eq {op : SinkOp} {s : State} {d' : Dom} {out : Output} (h : s.dom.apply op = .ok (d', out)) :
    Sat (sink op) s (fun o s' => o = out ∧ QF s s') := by
  refine sat_sink (Or.inr ⟨_, _, h⟩) ?_
  intro d1 o1 h1
  have h' := h1
  rw [h] at h1; cases h1
  exact ⟨rfl, qf_of_apply h'⟩

/-- a mutating call whose result is thrown away -/
theorem sat_sinkUnit_mut {op : SinkOp} {s : State} (hm : MutOp op) :
    Sat (sinkUnit op) s (fun _ s' => QF s s') := by
  unfold sinkUnit
  refine Sat.bind (sat_sink (Q := fun _ s' => QF s s') (Or.inl hm) (fun d' out h => qf_of_apply h)) ?_
  intro a s' h; exact sat_pure h

/-- a call that cannot fail (`Dom.apply` is total on it) and whose result is thrown away -/
theorem sat_sinkUnit_total {op : SinkOp} {s : State} (hok : ∃ d' out, s.dom.apply op = .ok (d', out)) :
    Sat (sinkUnit op) s (fun _ s' => QF s s') := by
  unfold sinkUnit
  refine Sat.bind (sat_sink (Q := fun _ s' => QF s s') (Or.inr hok) (fun d' out h => qf_of_apply h)) ?_
  intro a s' h; exact sat_pure h

theorem apply_parseError (d : Dom) (m : List Char) : d.apply (.parseError m) = .ok (d.parseError m, .unit) := rfl
theorem apply_pop (d : Dom) (h : Id) : d.apply (.pop h) = .ok (d, .unit) := rfl
theorem apply_setQuirks (d : Dom) (m : QuirksMode) : d.apply (.setQuirksMode m) = .ok (d.setQuirksMode m, .unit) := rfl
theorem apply_setLine (d : Dom) (n : Nat) : d.apply (.setCurrentLine n) = .ok (d, .unit) := rfl
theorem apply_mark (d : Dom) (h : Id) : d.apply (.markScriptAlreadyStarted h) = .ok (d, .unit) := rfl
theorem apply_assoc (d : Dom) (a b c : Id) (p : Option Id) : d.apply (.associateWithForm a b c p) = .ok (d, .unit) := rfl
theorem apply_sameNode (d : Dom) (x y : Id) : d.apply (.sameNode x y) = .ok (d, .bool (x == y)) := rfl
theorem apply_getDocument (d : Dom) : d.apply .getDocument = .ok (d, .node 0) := rfl
theorem apply_allow (d : Dom) (p : Id) : d.apply (.allowDeclarativeShadowRoots p) = .ok (d, .bool true) := rfl
theorem apply_attach (d : Dom) (l t : Id) (a : List Attr) : d.apply (.attachDeclarativeShadow l t a) = .ok (d, .bool false) := rfl
theorem apply_createComment (d : Dom) (t : List Char) :
    d.apply (.createComment t) = .ok ((d.createComment t).1, .node (d.createComment t).2) := rfl
theorem apply_createElement (d : Dom) (n : QualName) (a : List Attr) (f : ElementFlags) :
    d.apply (.createElement n a f) = .ok ((d.createElement n a f).1, .node (d.createElement n a f).2) := rfl

theorem sat_parseError {msg : String} {s : State} : Sat (parseError msg) s (fun _ s' => QF s s') :=
  sat_sinkUnit_total ⟨_, _, apply_parseError _ _⟩

theorem sat_unexpected {s : State} : Sat unexpected s (fun r s' => r = .done ∧ QF s s') := by
  unfold unexpected
  exact sat_parseError.bind (fun _ s' h => sat_pure ⟨rfl, h⟩)

theorem sat_sameNode {x y : Id} {s : State} : Sat (sameNode x y) s (fun b s' => b = (x == y) ∧ QF s s') := by
  unfold H5V.Model.HtmlTB.sameNode sinkBool
  refine (sat_sink_eq (apply_sameNode _ _ _)).bind ?_
  rintro o s' ⟨rfl, hq⟩; exact sat_pure ⟨rfl, hq⟩

/-! ### names of elements -/

def enameOfSig (x : Sig) : EName := ⟨x.1.ns, x.1.loc⟩

/-- the element's expanded name as the sink reports it (junk for non-elements) -/
def nm (d : Dom) (h : Id) : EName := match sigOf d h with | some x => enameOfSig x | none => ⟨[], []⟩

def IsEl (d : Dom) (h : Id) : Prop := ∃ x, sigOf d h = some x

theorem IsEl.ext {d d' : Dom} {h : Id} (he : Ext d d') (hi : IsEl d h) : IsEl d' h := by
  obtain ⟨x, hx⟩ := hi; exact ⟨x, he h x hx⟩

theorem nm_ext {d d' : Dom} {h : Id} (he : Ext d d') (hi : IsEl d h) : nm d' h = nm d h := by
  obtain ⟨x, hx⟩ := hi; unfold nm; rw [hx, he h x hx]

theorem sigOf_ext {d d' : Dom} {h : Id} (he : Ext d d') (hi : IsEl d h) : sigOf d' h = sigOf d h := by
  obtain ⟨x, hx⟩ := hi; rw [hx, he h x hx]

/-- a handle with a signature is an element node with that name, template contents and flag -/
theorem sigOf_some {d : Dom} {h : Id} {x : Sig} (hx : sigOf d h = some x) :
    ∃ n a, d.nodes[h]? = some n ∧ n.data = .element x.1 a x.2.1 x.2.2 := by
  unfold sigOf Dom.dataOf at hx
  cases hn : d.nodes[h]? with
  | none => simp [hn] at hx
  | some n =>
    simp only [hn, Option.map_some, Option.bind_some] at hx
    cases hdat : n.data <;> simp [hdat, sigData] at hx
    subst hx
    exact ⟨n, _, rfl, hdat⟩

theorem apply_elemName {d : Dom} {h : Id} {x : Sig} (hx : sigOf d h = some x) :
    d.apply (.elemName h) = .ok (d, .name x.1.ns x.1.loc) := by
  obtain ⟨n, a, hn, hdat⟩ := sigOf_some hx
  simp [Dom.apply, Dom.applyV, Dom.elemName, Dom.get, hn, hdat, bind, Except.bind]

theorem sat_elemName {h : Id} {s : State} (hi : IsEl s.dom h) :
    Sat (elemName h) s (fun n s' => n = nm s.dom h ∧ QF s s') := by
  obtain ⟨x, hx⟩ := hi
  unfold H5V.Model.HtmlTB.elemName
  refine (sat_sink_eq (apply_elemName hx)).bind ?_
  rintro o s' ⟨rfl, hq⟩
  exact sat_pure ⟨by simp [nm, hx, enameOfSig], hq⟩

theorem sat_htmlElemNamedS {h : Id} {name : Str} {s : State} (hi : IsEl s.dom h) :
    Sat (htmlElemNamedS h name) s
      (fun b s' => b = ((nm s.dom h).ns == nsHtml && (nm s.dom h).loc == name) ∧ QF s s') := by
  unfold H5V.Model.HtmlTB.htmlElemNamedS
  refine (sat_elemName hi).bind ?_
  rintro n s' ⟨rfl, hq⟩
  exact sat_pure ⟨rfl, hq⟩

theorem sat_htmlElemNamed {h : Id} {name : String} {s : State} (hi : IsEl s.dom h) :
    Sat (htmlElemNamed h name) s
      (fun b s' => b = ((nm s.dom h).ns == nsHtml && (nm s.dom h).loc == name.toList) ∧ QF s s') :=
  sat_htmlElemNamedS hi

theorem sat_elemIn {h : Id} {set : EName → Bool} {s : State} (hi : IsEl s.dom h) :
    Sat (elemIn h set) s (fun b s' => b = set (nm s.dom h) ∧ QF s s') := by
  unfold H5V.Model.HtmlTB.elemIn
  refine (sat_elemName hi).bind ?_
  rintro n s' ⟨rfl, hq⟩
  exact sat_pure ⟨rfl, hq⟩

theorem apply_isMathmlIP {d : Dom} {h : Id} {x : Sig} (hx : sigOf d h = some x) :
    d.apply (.isMathmlAnnotationXmlIntegrationPoint h) = .ok (d, .bool x.2.2) := by
  obtain ⟨n, a, hn, hdat⟩ := sigOf_some hx
  simp [Dom.apply, Dom.applyV, Dom.isMathmlAnnotationXmlIntegrationPoint, Dom.get, hn, hdat, bind, Except.bind]

theorem sat_isMathmlIP {h : Id} {s : State} (hi : IsEl s.dom h) :
    Sat (sinkBool (.isMathmlAnnotationXmlIntegrationPoint h)) s (fun _ s' => QF s s') := by
  obtain ⟨x, hx⟩ := hi
  unfold sinkBool
  refine (sat_sink_eq (apply_isMathmlIP hx)).bind ?_
  rintro o s' ⟨rfl, hq⟩
  exact sat_pure hq

/-- template contents of an element that has them -/
theorem apply_getTemplateContents {d : Dom} {h : Id} {q : QualName} {tc : Id} {ip : Bool}
    (hx : sigOf d h = some (q, some tc, ip)) :
    d.apply (.getTemplateContents h) = .ok (d, .node tc) := by
  obtain ⟨n, a, hn, hdat⟩ := sigOf_some hx
  simp [Dom.apply, Dom.applyV, Dom.getTemplateContents, Dom.get, hn, hdat, bind, Except.bind]

theorem sat_getTemplateContents {h : Id} {s : State} {q : QualName} {tc : Id} {ip : Bool}
    (hx : sigOf s.dom h = some (q, some tc, ip)) :
    Sat (sinkNode (.getTemplateContents h)) s (fun r s' => r = tc ∧ QF s s') := by
  unfold sinkNode
  refine (sat_sink_eq (apply_getTemplateContents hx)).bind ?_
  rintro o s' ⟨rfl, hq⟩
  exact sat_pure ⟨rfl, hq⟩

theorem apply_addAttrs {d : Dom} {h : Id} (hi : IsEl d h) (attrs : List Attr) :
    ∃ d', d.apply (.addAttrsIfMissing h attrs) = .ok (d', .unit) := by
  obtain ⟨x, hx⟩ := hi
  obtain ⟨n, a, hn, hdat⟩ := sigOf_some hx
  simp [Dom.apply, Dom.applyV, Dom.addAttrsIfMissing, Dom.get, hn, hdat, bind, Except.bind]

theorem sat_addAttrs {h : Id} {attrs : List Attr} {s : State} (hi : IsEl s.dom h) :
    Sat (sinkUnit (.addAttrsIfMissing h attrs)) s (fun _ s' => QF s s') := by
  obtain ⟨d', hd⟩ := apply_addAttrs hi attrs
  exact sat_sinkUnit_total ⟨_, _, hd⟩

/-! ### tag names

Tag sets are lists of `String`s compared by their characters.  Evaluating `String.toList` on a literal is
slow, `String` equality is not: these lemmas move the comparisons to the strings. -/

theorem isOneOf_cases {n : Str} {l : List String} (h : isOneOf n l = true) : ∃ x ∈ l, n = x.toList := by
  unfold isOneOf at h
  rw [List.any_eq_true] at h
  obtain ⟨x, hx, hn⟩ := h
  exact ⟨x, hx, (beq_iff_eq.mp hn).symm⟩

theorem toList_beq (x y : String) : (y.toList == x.toList) = (x == y) := by
  by_cases h : x = y
  · subst h; simp
  · have : y.toList ≠ x.toList := fun e => h (String.toList_inj.mp e).symm
    rw [beq_eq_false_iff_ne.mpr this, beq_eq_false_iff_ne.mpr h]

theorem toList_bne {x y : String} (h : x ≠ y) : (x.toList == y.toList) = false :=
  beq_eq_false_iff_ne.mpr fun e => h (String.toList_inj.mp e)

theorem isName_toList (x y : String) : isName x.toList y = (x == y) := toList_beq x y

theorem isOneOf_toList (x : String) (l : List String) : isOneOf x.toList l = l.contains x := by
  unfold isOneOf
  induction l with
  | nil => rfl
  | cons y l ih => rw [List.any_cons, List.contains_cons, ih, toList_beq]

theorem isOneOf_ne {n : Str} {l : List String} (h : isOneOf n l = true) {y : String} (hy : y ∉ l) :
    n ≠ y.toList := by
  obtain ⟨x, hx, rfl⟩ := isOneOf_cases h
  intro e
  exact hy (String.toList_inj.mp e ▸ hx)

theorem htmlIn_html (n : Str) (l : List String) : htmlIn ⟨nsHtml, n⟩ l = isOneOf n l := by
  simp [htmlIn]

theorem ename_ne {ns : Str} {x y : String} (h : x ≠ y) : (⟨ns, x.toList⟩ : EName) ≠ ⟨ns, y.toList⟩ := by
  intro e; injection e with _ e; exact h (String.toList_inj.mp e)

theorem nsHtml_ne_mathml : (nsHtml == nsMathml) = false := toList_bne (by decide)
theorem nsHtml_ne_svg : (nsHtml == nsSvg) = false := toList_bne (by decide)

theorem specialTag_html (n : Str) : specialTag ⟨nsHtml, n⟩ = isOneOf n htmlSpecialTagNames := by
  simp [specialTag, htmlSpecialTag, htmlIn_html, mathmlTextIntegrationPoint, mathmlAnnotationXml,
    svgHtmlIntegrationPoint, nsHtml_ne_mathml, nsHtml_ne_svg]

end H5V.Lemmas.TBSafe
