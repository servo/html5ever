import H5V.Lemmas.HtmlJointChunkTok
import H5V.Model.HtmlTB
/-!
C03 for the JOINT model (tokenizer model with the tree-builder model as its sink,
`H5V.Model.HtmlTB.Joint`): a fuel-free big-step reading of `Joint.run` / `Joint.feed` /
`Joint.processChunk`.

`JRunsTo o m inp j m' j'`: started on machine `m` (whose `out` has been delivered) with unread input
`inp` and joint state `j`, the loop of `Parser::process` — every step under the policy `polOf j` of the
*current* tree-builder state, the tokens of the step delivered (`absorb`) right after it, Script /
EncodingIndicator pauses resumed at once — consumes all input and stops in machine `m'`, joint state
`j'`.  `processChunk_sound` / `processChunk_complete` tie it to the model's functions (BOM prologue,
fuel of `run`, fuel of `loop_until_done`).
-/
namespace H5V.Lemmas.JointChunk
open H5V.Model.HtmlTok (Mach R Sim RSim clr step TInv mu fuelFor feedBom)
open H5V.Model.HtmlTB.Joint (JState absorb polOf RunRes)

abbrev TOpts := H5V.Model.HtmlTok.Opts
abbrev TGood := H5V.Model.HtmlTok.Good
abbrev Chars := List Char
abbrev jrun := @H5V.Model.HtmlTB.Joint.run
abbrev jfeed := @H5V.Model.HtmlTB.Joint.feed
abbrev jprocessChunk := @H5V.Model.HtmlTB.Joint.processChunk

/-! ### `Joint.run` unfolded -/

/-- deliver the tokens of a step, empty `out` -/
def deliver (j : JState) (m : Mach) (k : Mach → JState → RunRes) : RunRes :=
  match absorb m.out.reverse j with
  | .error e => .panic e
  | .ok j' => k (clr m) j'

theorem run_zero (o : TOpts) (m : Mach) (inp : Chars) (j : JState) :
    jrun o 0 m inp j = .panic "model-fuel@model: tokenizer run" := rfl

theorem run_succ (o : TOpts) (fuel : Nat) (m : Mach) (inp : Chars) (j : JState) :
    jrun o (fuel + 1) m inp j =
      match step o (polOf j) m inp with
      | .cont m1 i1 => deliver j m1 (fun m j => jrun o fuel m i1 j)
      | .suspend m1 i1 => deliver j m1 (fun m j => .done m i1 j)
      | .script m1 i1 => deliver j m1 (fun m j => .script m i1 j)
      | .indicator m1 i1 => deliver j m1 (fun m j => .indicator m i1 j)
      | .panic e => .panic ("tokenizer@tokenizer: " ++ e) := by
  rw [jrun, H5V.Model.HtmlTB.Joint.run]
  cases step o (polOf j) m inp <;> rfl

/-! ### the big-step relation -/

inductive JRunsTo (o : TOpts) : Mach → Chars → JState → Mach → JState → Prop
  | susp {m inp j m1 j1} : step o (polOf j) m inp = .suspend m1 [] → absorb m1.out.reverse j = .ok j1 →
      JRunsTo o m inp j (clr m1) j1
  | cont {m inp j m1 i1 j1 m' j'} : step o (polOf j) m inp = .cont m1 i1 → absorb m1.out.reverse j = .ok j1 →
      JRunsTo o (clr m1) i1 j1 m' j' → JRunsTo o m inp j m' j'
  | script {m inp j m1 i1 j1 m' j'} : step o (polOf j) m inp = .script m1 i1 → absorb m1.out.reverse j = .ok j1 →
      i1 ≠ [] → JRunsTo o (clr m1) i1 j1 m' j' → JRunsTo o m inp j m' j'
  | scriptEnd {m inp j m1 j1} : step o (polOf j) m inp = .script m1 [] → absorb m1.out.reverse j = .ok j1 →
      JRunsTo o m inp j (clr m1) j1
  | indicator {m inp j m1 i1 j1 m' j'} : step o (polOf j) m inp = .indicator m1 i1 →
      absorb m1.out.reverse j = .ok j1 → i1 ≠ [] → JRunsTo o (clr m1) i1 j1 m' j' → JRunsTo o m inp j m' j'
  | indicatorEnd {m inp j m1 j1} : step o (polOf j) m inp = .indicator m1 [] → absorb m1.out.reverse j = .ok j1 →
      JRunsTo o m inp j (clr m1) j1

/-! ### `processChunk` in terms of `run` -/

/-- what `processChunk` does with the answer of `feed` -/
def afterRun (o : TOpts) (N : Nat) : RunRes → Except String (Mach × Chars × JState)
  | .done m inp j => .ok (m, inp, j)
  | .script m inp j => jprocessChunk o N m inp [] j
  | .indicator m inp j => jprocessChunk o N m inp [] j
  | .panic e => .error e

theorem processChunk_zero (o : TOpts) (m : Mach) (inp chunk : Chars) (j : JState) :
    jprocessChunk o 0 m inp chunk j = .error "model-fuel@model: loop_until_done" := rfl

theorem processChunk_succ (o : TOpts) (N : Nat) (m : Mach) (inp chunk : Chars) (j : JState) :
    jprocessChunk o (N + 1) m inp chunk j =
      if (inp ++ chunk).isEmpty then .ok (m, [], j)
      else afterRun o N (jrun o (fuelFor (feedBom m (inp ++ chunk)).1 (feedBom m (inp ++ chunk)).2)
        (feedBom m (inp ++ chunk)).1 (feedBom m (inp ++ chunk)).2 j) := by
  rw [jprocessChunk, H5V.Model.HtmlTB.Joint.processChunk]
  unfold H5V.Model.HtmlTB.Joint.feed
  by_cases he : (inp ++ chunk).isEmpty = true
  · simp only [he, if_true]
  · simp only [he, Bool.false_eq_true, if_false]
    show (match jrun o (fuelFor (feedBom m (inp ++ chunk)).1 (feedBom m (inp ++ chunk)).2)
      (feedBom m (inp ++ chunk)).1 (feedBom m (inp ++ chunk)).2 j with
      | .done m inp j => (Except.ok (m, inp, j) : Except String (Mach × Chars × JState))
      | .script m inp j => H5V.Model.HtmlTB.Joint.processChunk o N m inp [] j
      | .indicator m inp j => H5V.Model.HtmlTB.Joint.processChunk o N m inp [] j
      | .panic e => .error e) = _
    cases jrun o (fuelFor (feedBom m (inp ++ chunk)).1 (feedBom m (inp ++ chunk)).2)
      (feedBom m (inp ++ chunk)).1 (feedBom m (inp ++ chunk)).2 j <;> rfl

/-! ### invariants along a step -/

/-- what we keep at step boundaries of the joint loop -/
structure JInv (m : Mach) : Prop where
  tinv : TInv m
  good : TGood m
  atEof : m.atEof = false
  out : m.out = []
  bom : m.discardBom = false

theorem clr_out (m : Mach) : (clr m).out = [] := rfl
theorem clr_atEof (m : Mach) : (clr m).atEof = m.atEof := rfl
theorem clr_discardBom (m : Mach) : (clr m).discardBom = m.discardBom := rfl

theorem step_jinv {o : TOpts} {pol : H5V.Model.HtmlTok.Pol} {m : Mach} {inp : Chars} (hi : JInv m) {m1 : Mach} {i1 : Chars}
    (h : (step o pol m inp).pair? = some (m1, i1)) : JInv (clr m1) := by
  have hm : (step o pol m inp).mach? = some m1 := H5V.Model.HtmlTok.pair_mach _ _ _ h
  obtain ⟨hg, hat⟩ := H5V.Model.HtmlTok.step_good o pol m inp hi.good hi.atEof m1 hm
  exact ⟨H5V.Model.HtmlTok.tinv_clr.mpr (H5V.Model.HtmlTok.step_tinv o pol m inp hi.tinv m1 i1 h),
    H5V.Model.HtmlTok.good_clr.mpr hg, by rw [clr_atEof, hat, hi.atEof], rfl,
    by rw [clr_discardBom, H5V.Model.HtmlTok.step_discardBom o pol m inp m1 hm, hi.bom]⟩

theorem jrunsTo_inv {o : TOpts} {m : Mach} {inp : Chars} {j : JState} {m' : Mach} {j' : JState}
    (h : JRunsTo o m inp j m' j') : JInv m → JInv m' := by
  induction h with
  | susp hs _ => intro hi; exact step_jinv hi (by rw [hs]; rfl)
  | cont hs _ _ ih => intro hi; exact ih (step_jinv hi (by rw [hs]; rfl))
  | script hs _ _ _ ih => intro hi; exact ih (step_jinv hi (by rw [hs]; rfl))
  | scriptEnd hs _ => intro hi; exact step_jinv hi (by rw [hs]; rfl)
  | indicator hs _ _ _ ih => intro hi; exact ih (step_jinv hi (by rw [hs]; rfl))
  | indicatorEnd hs _ => intro hi; exact step_jinv hi (by rw [hs]; rfl)

/-! ### soundness: what the model's functions compute is a `JRunsTo` -/

theorem feedBom_of_inv {m : Mach} (hi : JInv m) (inp : Chars) : feedBom m inp = (m, inp) :=
  H5V.Model.HtmlTok.feedBom_id' m inp hi.bom

theorem afterRun_sound (o : TOpts) : ∀ (N fuel : Nat) (m : Mach) (inp : Chars) (j : JState) (m' : Mach) (i' : Chars)
    (j' : JState), JInv m → afterRun o N (jrun o fuel m inp j) = .ok (m', i', j') →
    i' = [] ∧ JRunsTo o m inp j m' j'
  | N, 0, m, inp, j, m', i', j', _, h => by rw [run_zero] at h; cases h
  | N, fuel + 1, m, inp, j, m', i', j', hi, h => by
    rw [run_succ] at h
    cases hs : step o (polOf j) m inp with
    | panic e => rw [hs] at h; cases h
    | cont m1 i1 =>
      rw [hs] at h
      simp only [deliver] at h
      cases ha : absorb m1.out.reverse j with
      | error e => rw [ha] at h; cases h
      | ok j1 =>
        rw [ha] at h
        obtain ⟨h1, h2⟩ := afterRun_sound o N fuel (clr m1) i1 j1 m' i' j' (step_jinv hi (by rw [hs]; rfl)) h
        exact ⟨h1, JRunsTo.cont hs ha h2⟩
    | suspend m1 i1 =>
      rw [hs] at h
      simp only [deliver] at h
      cases ha : absorb m1.out.reverse j with
      | error e => rw [ha] at h; cases h
      | ok j1 =>
        rw [ha] at h
        simp only [afterRun, Except.ok.injEq, Prod.mk.injEq] at h
        obtain ⟨rfl, rfl, rfl⟩ := h
        have hnil : i1 = [] := H5V.Model.HtmlTok.step_suspend_nil o _ m inp hi.tinv m1 i1 hs
        subst hnil
        exact ⟨rfl, JRunsTo.susp hs ha⟩
    | script m1 i1 =>
      rw [hs] at h
      simp only [deliver] at h
      cases ha : absorb m1.out.reverse j with
      | error e => rw [ha] at h; cases h
      | ok j1 =>
        rw [ha] at h
        simp only [afterRun] at h
        have hi1 := step_jinv hi (m1 := m1) (i1 := i1) (by rw [hs]; rfl)
        cases N with
        | zero => rw [processChunk_zero] at h; cases h
        | succ N' =>
          rw [processChunk_succ, List.append_nil] at h
          cases i1 with
          | nil =>
            simp only [List.isEmpty_nil, if_true, Except.ok.injEq, Prod.mk.injEq] at h
            obtain ⟨rfl, rfl, rfl⟩ := h
            exact ⟨rfl, JRunsTo.scriptEnd hs ha⟩
          | cons x xs =>
            simp only [List.isEmpty_cons, Bool.false_eq_true, if_false, feedBom_of_inv hi1] at h
            obtain ⟨h1, h2⟩ := afterRun_sound o N' _ (clr m1) (x :: xs) j1 m' i' j' hi1 h
            exact ⟨h1, JRunsTo.script hs ha (by simp) h2⟩
    | indicator m1 i1 =>
      rw [hs] at h
      simp only [deliver] at h
      cases ha : absorb m1.out.reverse j with
      | error e => rw [ha] at h; cases h
      | ok j1 =>
        rw [ha] at h
        simp only [afterRun] at h
        have hi1 := step_jinv hi (m1 := m1) (i1 := i1) (by rw [hs]; rfl)
        cases N with
        | zero => rw [processChunk_zero] at h; cases h
        | succ N' =>
          rw [processChunk_succ, List.append_nil] at h
          cases i1 with
          | nil =>
            simp only [List.isEmpty_nil, if_true, Except.ok.injEq, Prod.mk.injEq] at h
            obtain ⟨rfl, rfl, rfl⟩ := h
            exact ⟨rfl, JRunsTo.indicatorEnd hs ha⟩
          | cons x xs =>
            simp only [List.isEmpty_cons, Bool.false_eq_true, if_false, feedBom_of_inv hi1] at h
            obtain ⟨h1, h2⟩ := afterRun_sound o N' _ (clr m1) (x :: xs) j1 m' i' j' hi1 h
            exact ⟨h1, JRunsTo.indicator hs ha (by simp) h2⟩
termination_by N fuel => (N, fuel)

/-! ### completeness: a `JRunsTo` is computed by the model's functions, given enough fuel -/

theorem afterRun_complete {o : TOpts} {m : Mach} {inp : Chars} {j : JState} {m' : Mach} {j' : JState}
    (h : JRunsTo o m inp j m' j') : JInv m → ∀ fuel, mu m inp < fuel →
    ∃ N, ∀ N', N ≤ N' → afterRun o N' (jrun o fuel m inp j) = .ok (m', [], j') := by
  induction h with
  | @susp m inp j m1 j1 hs ha =>
    intro hi fuel hf
    obtain ⟨f, rfl⟩ : ∃ f, fuel = f + 1 := ⟨fuel - 1, by omega⟩
    refine ⟨0, fun N' _ => ?_⟩
    rw [run_succ, hs]
    simp only [deliver, ha, afterRun]
  | @cont m inp j m1 i1 j1 m' j' hs ha _ ih =>
    intro hi fuel hf
    obtain ⟨f, rfl⟩ : ∃ f, fuel = f + 1 := ⟨fuel - 1, by omega⟩
    have hdec := H5V.Model.HtmlTok.step_dec o _ m inp hi.tinv m1 i1 hs
    obtain ⟨N, hN⟩ := ih (step_jinv hi (by rw [hs]; rfl)) f (by rw [H5V.Model.HtmlTok.mu_clr]; omega)
    refine ⟨N, fun N' hN' => ?_⟩
    rw [run_succ, hs]
    simp only [deliver, ha]
    exact hN N' hN'
  | @script m inp j m1 i1 j1 m' j' hs ha hne _ ih =>
    intro hi fuel hf
    obtain ⟨f, rfl⟩ : ∃ f, fuel = f + 1 := ⟨fuel - 1, by omega⟩
    have hi1 := step_jinv hi (m1 := m1) (i1 := i1) (by rw [hs]; rfl)
    obtain ⟨N, hN⟩ := ih hi1 (fuelFor (clr m1) i1) (H5V.Model.HtmlTok.mu_lt_fuelFor _ _)
    refine ⟨N + 1, fun N' hN' => ?_⟩
    obtain ⟨N'', rfl⟩ : ∃ N'', N' = N'' + 1 := ⟨N' - 1, by omega⟩
    rw [run_succ, hs]
    simp only [deliver, ha, afterRun]
    rw [processChunk_succ, List.append_nil]
    have : i1.isEmpty = false := by cases i1 with | nil => exact (hne rfl).elim | cons _ _ => rfl
    simp only [this, Bool.false_eq_true, if_false, feedBom_of_inv hi1]
    exact hN N'' (by omega)
  | @scriptEnd m inp j m1 j1 hs ha =>
    intro hi fuel hf
    obtain ⟨f, rfl⟩ : ∃ f, fuel = f + 1 := ⟨fuel - 1, by omega⟩
    refine ⟨1, fun N' hN' => ?_⟩
    obtain ⟨N'', rfl⟩ : ∃ N'', N' = N'' + 1 := ⟨N' - 1, by omega⟩
    rw [run_succ, hs]
    simp only [deliver, ha, afterRun]
    rw [processChunk_succ]
    rfl
  | @indicator m inp j m1 i1 j1 m' j' hs ha hne _ ih =>
    intro hi fuel hf
    obtain ⟨f, rfl⟩ : ∃ f, fuel = f + 1 := ⟨fuel - 1, by omega⟩
    have hi1 := step_jinv hi (m1 := m1) (i1 := i1) (by rw [hs]; rfl)
    obtain ⟨N, hN⟩ := ih hi1 (fuelFor (clr m1) i1) (H5V.Model.HtmlTok.mu_lt_fuelFor _ _)
    refine ⟨N + 1, fun N' hN' => ?_⟩
    obtain ⟨N'', rfl⟩ : ∃ N'', N' = N'' + 1 := ⟨N' - 1, by omega⟩
    rw [run_succ, hs]
    simp only [deliver, ha, afterRun]
    rw [processChunk_succ, List.append_nil]
    have : i1.isEmpty = false := by cases i1 with | nil => exact (hne rfl).elim | cons _ _ => rfl
    simp only [this, Bool.false_eq_true, if_false, feedBom_of_inv hi1]
    exact hN N'' (by omega)
  | @indicatorEnd m inp j m1 j1 hs ha =>
    intro hi fuel hf
    obtain ⟨f, rfl⟩ : ∃ f, fuel = f + 1 := ⟨fuel - 1, by omega⟩
    refine ⟨1, fun N' hN' => ?_⟩
    obtain ⟨N'', rfl⟩ : ∃ N'', N' = N'' + 1 := ⟨N' - 1, by omega⟩
    rw [run_succ, hs]
    simp only [deliver, ha, afterRun]
    rw [processChunk_succ]
    rfl

end H5V.Lemmas.JointChunk
