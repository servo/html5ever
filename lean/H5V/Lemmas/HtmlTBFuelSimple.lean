import H5V.Lemmas.HtmlTBFuelRules1
/-!
# The fuel of `process_to_completion`: the small insertion modes

`DJ (stepX tok) .x tok` for Initial, BeforeHtml, BeforeHead, InHeadNoscript, AfterHead, Text, InTemplate,
AfterBody, InFrameset, AfterFrameset, AfterAfterBody, AfterAfterFrameset, relative to what the delegated
rules may answer (`HeadE`, `BodyE`).
-/
namespace H5V.Lemmas.TBFuel
open H5V.Model.HtmlTB
open H5V.Model.HtmlTok (TagKind)
open H5V.Model.Dom (Id QualName Attr NodeOrText SinkOp Output ElementFlags QuirksMode Dom NodeData Node)
open H5V.Lemmas.TBSafe
open H5V.Lemmas.TBC (ok_bind ok_pure ok_getS_bind ok_modS_bind ok_ite ok_bind_pure)

theorem headElse_startOrEnd {tag : Tag} {l1 l2 : List String} (h : (tag.isStart l1 || tag.isEnd l2) = true)
    (h1 : ∀ x ∈ l1, x ∈ headStarts := by decide) (h2 : ∀ x ∈ l2, x ∉ ["body", "html", "br"] := by decide) :
    headElse (.tag tag) = false := by
  rw [Bool.or_eq_true] at h
  rcases h with h | h
  · exact headElse_start h h1
  · exact headElse_end h h2

theorem not_eHtml_start {tag : Tag} {l : List String} {P : Prop} (h : tag.isStart l = true)
    (hc : cls (.tag tag) = .eHtml) : P := by
  obtain ⟨hk, _⟩ := start_spec h
  have : clsTag tag.kind tag.name = .eHtml := hc
  rw [hk] at this
  unfold clsTag at this
  dsimp only at this
  repeat' split at this
  all_goals cases this

theorem tag_ne_notSplit {tag : Tag} : ∀ b, Token.tag tag ≠ .chars .notSplit b := fun _ h => by cases h

theorem dj_stepInitial (tok : Token) : DJ (stepInitial tok) .initial tok := by
  unfold stepInitial
  cases tok with
  | chars st text =>
    cases st with
    | notSplit => exact dj_split
    | whitespace => dj_quiet
    | notWhitespace => dsimp only; dj_edge_tac
  | comment t => dj_quiet
  | nullChar => dsimp only; dj_edge_tac
  | eof => dsimp only; dj_edge_tac
  | tag tag => dsimp only; dj_edge_tac

theorem dj_stepBeforeHtml (tok : Token) : DJ (stepBeforeHtml tok) .beforeHtml tok := by
  unfold stepBeforeHtml
  cases tok with
  | chars st text =>
    cases st with
    | notSplit => exact dj_split
    | whitespace => dj_quiet
    | notWhitespace => dsimp only; dj_edge_tac
  | comment t => dj_quiet
  | nullChar => dsimp only; dj_edge_tac
  | eof => dsimp only; dj_edge_tac
  | tag tag =>
    dsimp only
    refine dj_ite (fun _ => by dj_quiet) (fun _ => ?_)
    refine dj_ite (fun _ => by dj_edge_tac) (fun _ => ?_)
    refine dj_ite (fun _ => by dj_quiet) (fun _ => by dj_edge_tac)

theorem dj_stepBeforeHead (hB : BodyE) (tok : Token) : DJ (stepBeforeHead tok) .beforeHead tok := by
  unfold stepBeforeHead
  cases tok with
  | chars st text =>
    cases st with
    | notSplit => exact dj_split
    | whitespace => dj_quiet
    | notWhitespace => dsimp only; dj_edge_tac
  | comment t => dj_quiet
  | nullChar => dsimp only; dj_edge_tac
  | eof => dsimp only; dj_edge_tac
  | tag tag =>
    dsimp only
    refine dj_ite (fun h => dj_body hB (not_eHtml_start h)) (fun _ => ?_)
    refine dj_ite (fun _ => by dj_quiet) (fun _ => ?_)
    refine dj_ite (fun _ => by dj_edge_tac) (fun _ => ?_)
    refine dj_ite (fun _ => by dj_quiet) (fun _ => by dj_edge_tac)

theorem dj_stepInHeadNoscript (hH : HeadE) (hB : BodyE) (tok : Token) :
    DJ (stepInHeadNoscript tok) .inHeadNoscript tok := by
  unfold stepInHeadNoscript
  cases tok with
  | chars st text =>
    cases st with
    | notSplit => exact dj_split
    | whitespace => exact dj_head hH rfl (fun _ h => by cases h)
    | notWhitespace => dsimp only; dj_edge_tac
  | comment t => exact dj_head hH rfl (fun _ h => by cases h)
  | nullChar => dsimp only; dj_edge_tac
  | eof => dsimp only; dj_edge_tac
  | tag tag =>
    dsimp only
    refine dj_ite (fun h => dj_body hB (not_eHtml_start h)) (fun _ => ?_)
    refine dj_ite (fun _ => by dj_quiet) (fun _ => ?_)
    refine dj_ite (fun h => dj_head hH (headElse_start h) tag_ne_notSplit) (fun _ => ?_)
    refine dj_ite (fun _ => by dj_edge_tac) (fun _ => ?_)
    refine dj_ite (fun _ => by dj_quiet) (fun _ => by dj_edge_tac)

theorem dj_stepAfterBody (hB : BodyE) (tok : Token) : DJ (stepAfterBody tok) .afterBody tok := by
  unfold stepAfterBody
  cases tok with
  | chars st text =>
    cases st with
    | notSplit => exact dj_split
    | whitespace => exact dj_body hB (fun h => by cases h)
    | notWhitespace => dsimp only; dj_edge_tac
  | comment t => dj_quiet
  | nullChar => dsimp only; dj_edge_tac
  | eof => dj_quiet
  | tag tag =>
    dsimp only
    refine dj_ite (fun h => dj_body hB (fun hc => ?_)) (fun _ => ?_)
    · exact absurd hc (cls_of_isStart (P := fun c => c ≠ .eHtml) h (by decide))
    refine dj_ite (fun _ => by dj_quiet) (fun hne => ?_)
    -- anything else: not `</html>`
    apply dj_of_ed
    case h => ed_walk
    case hm => decide
    case hr =>
      have hc : cls (.tag tag) ≠ .eHtml := fun hc => hne ((isStart_of_cls hc).2.2.2.2.2.1 rfl)
      generalize cls (Token.tag tag) = c at hc
      cases c <;> first | decide | exact absurd rfl hc

theorem dj_stepInFrameset (hH : HeadE) (hB : BodyE) (tok : Token) : DJ (stepInFrameset tok) .inFrameset tok := by
  unfold stepInFrameset
  cases tok with
  | chars st text =>
    cases st with
    | notSplit => exact dj_split
    | whitespace => dj_quiet
    | notWhitespace => dj_quiet
  | comment t => dj_quiet
  | nullChar => dj_quiet
  | eof => dj_quiet
  | tag tag =>
    dsimp only
    refine dj_ite (fun h => dj_body hB (not_eHtml_start h)) (fun _ => ?_)
    refine dj_ite (fun _ => by dj_quiet) (fun _ => ?_)
    refine dj_ite (fun _ => by dj_quiet) (fun _ => ?_)
    refine dj_ite (fun _ => by dj_quiet) (fun _ => ?_)
    refine dj_ite (fun h => dj_head hH (headElse_start h) tag_ne_notSplit) (fun _ => by dj_quiet)

theorem dj_stepAfterFrameset (hH : HeadE) (hB : BodyE) (tok : Token) :
    DJ (stepAfterFrameset tok) .afterFrameset tok := by
  unfold stepAfterFrameset
  cases tok with
  | chars st text =>
    cases st with
    | notSplit => exact dj_split
    | whitespace => dj_quiet
    | notWhitespace => dj_quiet
  | comment t => dj_quiet
  | nullChar => dj_quiet
  | eof => dj_quiet
  | tag tag =>
    dsimp only
    refine dj_ite (fun h => dj_body hB (not_eHtml_start h)) (fun _ => ?_)
    refine dj_ite (fun _ => by dj_quiet) (fun _ => ?_)
    refine dj_ite (fun h => dj_head hH (headElse_start h) tag_ne_notSplit) (fun _ => by dj_quiet)

theorem dj_stepAfterAfterBody (hB : BodyE) (tok : Token) : DJ (stepAfterAfterBody tok) .afterAfterBody tok := by
  unfold stepAfterAfterBody
  cases tok with
  | chars st text =>
    cases st with
    | notSplit => exact dj_split
    | whitespace => exact dj_body hB (fun h => by cases h)
    | notWhitespace => dsimp only; dj_edge_tac
  | comment t => dj_quiet
  | nullChar => dsimp only; dj_edge_tac
  | eof => dj_quiet
  | tag tag =>
    dsimp only
    refine dj_ite (fun h => dj_body hB (not_eHtml_start h)) (fun _ => by dj_edge_tac)

theorem dj_stepAfterAfterFrameset (hH : HeadE) (hB : BodyE) (tok : Token) :
    DJ (stepAfterAfterFrameset tok) .afterAfterFrameset tok := by
  unfold stepAfterAfterFrameset
  cases tok with
  | chars st text =>
    cases st with
    | notSplit => exact dj_split
    | whitespace => exact dj_body hB (fun h => by cases h)
    | notWhitespace => dj_quiet
  | comment t => dj_quiet
  | nullChar => dj_quiet
  | eof => dj_quiet
  | tag tag =>
    dsimp only
    refine dj_ite (fun h => dj_body hB (not_eHtml_start h)) (fun _ => ?_)
    refine dj_ite (fun h => dj_head hH (headElse_start h) tag_ne_notSplit) (fun _ => by dj_quiet)

/-! ### AfterHead -/

theorem ro_bind' {α β : Type} {m : M α} {f : α → M β} {P1 : α → Prop} {P : β → Prop} (h1 : RO m P1)
    (h2 : ∀ a, P1 a → RO (f a) P) : RO (m >>= f) P := by
  intro s b s'' hr
  obtain ⟨a, s', hm, hf⟩ := ok_bind hr
  exact h2 a (h1 s a s' hm) s' b s'' hf

theorem dj_stepAfterHead (hH : HeadE) (hB : BodyE) (tok : Token) : DJ (stepAfterHead tok) .afterHead tok := by
  unfold stepAfterHead
  cases tok with
  | chars st text =>
    cases st with
    | notSplit => exact dj_split
    | whitespace => dj_quiet
    | notWhitespace => dsimp only; dj_edge_tac
  | comment t => dj_quiet
  | nullChar => dsimp only; dj_edge_tac
  | eof => dsimp only; dj_edge_tac
  | tag tag =>
    dsimp only
    refine dj_ite (fun h => dj_body hB (not_eHtml_start h)) (fun _ => ?_)
    refine dj_ite (fun _ => by dj_quiet) (fun _ => ?_)
    refine dj_ite (fun _ => by dj_quiet) (fun _ => ?_)
    refine dj_ite (fun h => ?_) (fun _ => ?_)
    · -- the head element is pushed, `stepInHead` runs, the head element is removed again
      refine dj_of_ro ?_
      refine ro_bind (fun _ => ro_bind (fun s0 => ?_))
      cases s0.headElem with
      | none => exact ro_panicAt
      | some head =>
        dsimp only
        refine ro_bind (fun _ => ?_)
        refine ro_bind' (ro_stepInHead hH (headElse_start h) tag_ne_notSplit) (fun r hr => ?_)
        exact ro_bind (fun _ => ro_pure _ hr)
    refine dj_ite (fun h => dj_head hH (headElse_end h) tag_ne_notSplit) (fun _ => ?_)
    refine dj_ite (fun _ => by dj_edge_tac) (fun _ => ?_)
    refine dj_ite (fun _ => by dj_quiet) (fun _ => by dj_edge_tac)

/-! ### Text -/

theorem rank_origOk {m : Mode} (h : origOk m = true) : rank m .eof ≤ 3 := by
  cases m <;> first | decide | (simp [origOk] at h)

/-- `let m = orig_mode.take().unwrap(); Reprocess(m, eof)` after helpers that shrink the stack -/
theorem dj_textEof {α : Type} {pre : M α} (hpre : SH pre) {cls' site text : String} :
    DJ (pre >>= fun _ => do
      let s ← getS
      match s.origMode with
      | none => panicAt cls' site text
      | some m =>
        set { s with origMode := none }
        pure (ProcessResult.reprocess m Token.eof)) .text .eof := by
  intro s r s' ht hm hrun
  obtain ⟨a, s1, h1, h2⟩ := ok_bind hrun
  have hs1 := hpre s a s1 h1
  have h3 := ok_getS_bind h2
  obtain ⟨om, hom, hok, _⟩ := (hm ▸ ht.s).text rfl
  have hom1 : s1.origMode = some om := by rw [hs1.orig]; exact hom
  rw [hom1] at h3
  dsimp only at h3
  have h4 : (pure (ProcessResult.reprocess om Token.eof) : M ProcessResult) { s1 with origMode := none } =
      .ok (r, s') := h3
  obtain ⟨e1, e2⟩ := ok_pure h4
  rw [← e1, ← e2]
  refine dec_of_slack rfl ?_ (rank_origOk hok) (by decide)
  have hw0 := hs1.wle ht.h.open_el
  have hw : WLe s ({ s1 with origMode := none } : State) := ⟨hw0.tab, hw0.tm⟩
  unfold wW
  have h5 := hw.tab
  have h6 := tmW_le ({ s1 with origMode := none } : State) om
  have h7 : ({ s1 with origMode := none } : State).templateModes.length ≤ s.templateModes.length := hw.tm
  have h8 : s.templateModes.length ≤ tmW s .text := by unfold tmW; omega
  omega

theorem dj_stepText (tok : Token) : DJ (stepText tok) .text tok := by
  unfold stepText
  cases tok with
  | chars st text => dj_quiet
  | comment t => exact dj_of_ro ro_panicAt
  | nullChar => exact dj_of_ro ro_panicAt
  | eof =>
    dsimp only
    intro s r s' ht hm hrun
    -- normalise: everything before the final `getS` shrinks the stack
    obtain ⟨_, s1, h1, h2⟩ := ok_bind hrun
    obtain ⟨b, s2, h3, h4⟩ := ok_bind h2
    have hs12 : Shr s s2 := (sh_unexpected s _ s1 h1).trans (sh_currentNodeNamed _ s1 b s2 h3)
    have htail : ∀ s3, Shr s s3 → (do
        let _ ← pop
        let s ← getS
        match s.origMode with
        | none => panicAt "unwrap-none" "rules.rs:1023" "orig_mode.take().unwrap()"
        | some m =>
          set { s with origMode := none }
          pure (ProcessResult.reprocess m Token.eof) : M ProcessResult) s3 = .ok (r, s') →
        Dec s .text .eof r s' := by
      intro s3 hs3 h5
      obtain ⟨h0, s4, h6, h7⟩ := ok_bind h5
      have hs4 : Shr s s4 := hs3.trans (sh_pop s3 h0 s4 h6)
      have h8 := ok_getS_bind h7
      obtain ⟨om, hom, hok, _⟩ := (hm ▸ ht.s).text rfl
      have hom4 : s4.origMode = some om := by rw [hs4.orig]; exact hom
      rw [hom4] at h8
      dsimp only at h8
      have h9 : (pure (ProcessResult.reprocess om Token.eof) : M ProcessResult) { s4 with origMode := none } =
          .ok (r, s') := h8
      obtain ⟨e1, e2⟩ := ok_pure h9
      rw [← e1, ← e2]
      refine dec_of_slack rfl ?_ (rank_origOk hok) (by decide)
      have hw0 := hs4.wle ht.h.open_el
      have hw : WLe s ({ s4 with origMode := none } : State) := ⟨hw0.tab, hw0.tm⟩
      unfold wW
      have h5' := hw.tab
      have h6' := tmW_le ({ s4 with origMode := none } : State) om
      have h7' : ({ s4 with origMode := none } : State).templateModes.length ≤ s.templateModes.length := hw.tm
      have h8' : s.templateModes.length ≤ tmW s .text := by unfold tmW; omega
      omega
    by_cases hb : b = true
    · rw [if_pos hb] at h4
      have h5 := ok_getS_bind h4
      cases hl : s2.openElems.getLast? with
      | none =>
        rw [hl] at h5
        obtain ⟨_, _, h6, _⟩ := ok_bind h5
        cases h6
      | some cur =>
        rw [hl] at h5
        dsimp only at h5
        simp only [pure_bind] at h5
        obtain ⟨_, s3, h6, h7⟩ := ok_bind h5
        exact htail s3 (hs12.trans (sh_sinkUnit _ s2 _ s3 h6)) h7
    · rw [if_neg hb] at h4
      exact htail s2 hs12 h4
  | tag tag =>
    dsimp only
    refine dj_ite (fun _ => ?_) (fun _ => dj_of_ro ro_panicAt)
    refine dj_of_ro (ro_bind (fun node => ro_bind (fun s0 => ?_)))
    cases s0.origMode with
    | none => exact ro_panicAt
    | some m =>
      dsimp only
      exact ro_bind (fun _ => ro_ite (fun _ => ro_pure _ trivial) (fun _ => ro_pure _ trivial))

/-! ### InTemplate -/

/-- a template on the stack: there is a template mode -/
theorem tm_pos_of_template {s : State} (ht : TI s) (h : hasNamed s.dom s.openElems "template".toList = true) :
    1 ≤ s.templateModes.length := by
  obtain ⟨x, hx, hp⟩ : ∃ x ∈ s.openElems, namedP s.dom "template".toList x = true := by
    unfold hasNamed at h
    rw [List.any_eq_true] at h
    exact h
  have hxn : nm s.dom x = tmplName := namedP_tmpl hp
  have h1 : 1 ≤ tcount s.dom s.openElems := by
    unfold tcount
    exact List.countP_pos_iff.mpr ⟨x, hx, by simp [isTmpl, hxn]⟩
  have := ht.s.tmpl
  omega

/-- **EOF inside a template**: `Done`, or `Reprocess(reset_insertion_mode(), EOF)` with a template mode popped -/
theorem ef_inTemplateEof {s s' : State} {r : ProcessResult} (ht : TI s) (h : inTemplateEof s = .ok (r, s')) :
    r = .done ∨ ∃ m', r = .reprocess m' .eof ∧ Pay s s' m' .eof := by
  unfold inTemplateEof at h
  obtain ⟨b, s1, h1, h2⟩ := ok_bind h
  obtain ⟨hb, hq1⟩ := sat_ok (al := anyAl) (sat_inHtmlElemNamed ht.h.open_el) h1
  by_cases c : (!b) = true
  · rw [if_pos c] at h2; exact Or.inl (ok_pure h2).1.symm
  rw [if_neg c] at h2
  have hb' : hasNamed s.dom s.openElems "template".toList = true := by rw [← hb]; simpa using c
  have htm := tm_pos_of_template ht hb'
  right
  obtain ⟨_, s2, h3, h4⟩ := ok_bind h2
  obtain ⟨_, s3, h5, h6⟩ := ok_bind h4
  obtain ⟨_, s4, h7, h8⟩ := ok_bind h6
  have h9 := ok_modS_bind h8
  obtain ⟨m1, s5, h10, h11⟩ := ok_bind h9
  obtain ⟨_, s6, h12, h13⟩ := ok_bind h11
  obtain ⟨m', s7, h14, h15⟩ := ok_bind h13
  obtain ⟨e1, e2⟩ := ok_pure h15
  refine ⟨m', e1.symm, ?_⟩
  rw [← e2]
  -- before the template mode is popped
  have sh14 : Shr s s4 :=
    ((⟨hq1.ext, by rw [hq1.openElems]; exact List.Sublist.refl _, hq1.templateModes, hq1.origMode⟩ : Shr s s1).trans
      (sh_unexpected s1 _ s2 h3)).trans
      ((sh_popUntilNamed _ s2 _ s3 h5).trans (sh_clearActiveFormattingToMarker s3 _ s4 h7))
  obtain ⟨hw4, hel4⟩ := sh14.wa ht.h.open_el
  -- after
  have sh57 : Shr ({ s4 with templateModes := s4.templateModes.dropLast } : State) s7 :=
    ((sh_resetInsertionMode _ m1 s5 h10).trans (sh_setMode _ s5 _ s6 h12)).trans
      (sh_resetInsertionMode s6 m' s7 h14)
  obtain ⟨hw7, _⟩ := sh57.wa (s := ({ s4 with templateModes := s4.templateModes.dropLast } : State)) hel4
  have htm7 : s7.templateModes = s.templateModes.dropLast := by rw [sh57.tm]; show s4.templateModes.dropLast = _; rw [sh14.tm]
  have hrange := range_resetInsertionMode h14
  refine ⟨?_, ?_, ?_⟩
  · have t1 : tabCount s7.dom s7.openElems ≤ tabCount s4.dom s4.openElems := hw7.tab
    have t2 := hw4.tab
    rw [htm7, List.length_dropLast]
    omega
  · rcases hrange with hr | hr
    · exact rank_resetRange hr .eof (Or.inl rfl)
    · rw [htm7] at hr
      exact rank_tmplMode (ht.s.tmodes m' (List.dropLast_subset _ hr)) .eof (Or.inl rfl)
  · intro hm'
    rcases hrange with hr | hr
    · rw [hm'] at hr; exact absurd hr (by decide)
    · intro e; rw [e] at hr; cases hr

/-- `set_template_mode(m'); Reprocess(m', token)` -/
theorem dj_setTemplateMode {m' : Mode} {tok t : Token} (hm' : m' ≠ .inTemplate)
    (hr : rank m' (cls tok) < rank .inTemplate (cls tok)) :
    DJ (do setTemplateMode m'; pure (ProcessResult.reprocess m' t)) .inTemplate tok := by
  intro s r s' ht hm hrun
  unfold setTemplateMode at hrun
  have h1 := ok_modS_bind hrun
  obtain ⟨e1, e2⟩ := ok_pure h1
  rw [← e1, ← e2]
  show ms _ m' tok < ms s .inTemplate tok
  unfold ms
  by_cases hc : isCharsTok tok = true
  · rw [if_pos hc, if_pos hc]
    have : cls tok = .chars := by
      cases tok <;> first | rfl | (simp [isCharsTok] at hc)
    rw [this] at hr
    omega
  · rw [if_neg hc, if_neg hc]
    have hw : wW ({ s with templateModes := s.templateModes.dropLast ++ [m'] } : State) m' ≤ wW s .inTemplate := by
      unfold wW tmW
      rw [if_neg hm', if_pos rfl]
      show 4 * tabCount s.dom s.openElems + 4 * max (s.templateModes.dropLast ++ [m']).length 0 ≤ _
      rw [List.length_append, List.length_dropLast]
      simp only [List.length_singleton]
      omega
    omega

theorem dj_stepInTemplate (hH : HeadE) (hB : BodyE) (tok : Token) : DJ (stepInTemplate tok) .inTemplate tok := by
  unfold stepInTemplate
  cases tok with
  | chars st text => exact dj_body hB (fun h => by cases h)
  | comment t => exact dj_body hB (fun h => by cases h)
  | nullChar => dj_quiet
  | eof =>
    intro s r s' ht _ hrun
    rcases ef_inTemplateEof ht hrun with e | ⟨m', e, hp⟩
    · rw [e]; trivial
    · rw [e]; exact dec_of_payS rfl hp
  | tag tag =>
    dsimp only
    refine dj_ite (fun h => dj_head hH (headElse_startOrEnd h) tag_ne_notSplit) (fun _ => ?_)
    refine dj_ite (fun h => dj_setTemplateMode (by decide)
      (cls_of_isStart (P := fun c => rank .inTable c < rank .inTemplate c) h (by decide))) (fun _ => ?_)
    refine dj_ite (fun h => dj_setTemplateMode (by decide)
      (cls_of_isStart (P := fun c => rank .inColumnGroup c < rank .inTemplate c) h (by decide))) (fun _ => ?_)
    refine dj_ite (fun h => dj_setTemplateMode (by decide)
      (cls_of_isStart (P := fun c => rank .inTableBody c < rank .inTemplate c) h (by decide))) (fun _ => ?_)
    refine dj_ite (fun h => dj_setTemplateMode (by decide)
      (cls_of_isStart (P := fun c => rank .inRow c < rank .inTemplate c) h (by decide))) (fun _ => ?_)
    refine dj_ite (fun h => dj_setTemplateMode (by decide) ?_) (fun _ => by dj_quiet)
    -- any other start tag → InBody
    have hk : tag.kind = .startTag := eq_of_beq h
    show rank .inBody (clsTag tag.kind tag.name) < rank .inTemplate (clsTag tag.kind tag.name)
    rw [hk]
    unfold clsTag
    dsimp only
    repeat' split
    all_goals decide

end H5V.Lemmas.TBFuel
