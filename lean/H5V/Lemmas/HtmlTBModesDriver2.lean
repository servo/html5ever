import H5V.Lemmas.HtmlTBModesDriver
/-!
The driver, continued: `process_token` against `processTokenDev`, a token list against `runDev`.
-/
namespace H5V.Lemmas.HtmlTBModes
open H5V.Model.HtmlTB
open H5V.Model.Dom (Id SinkOp Output Dom QualName Attr NodeOrText ElementFlags NodeData QuirksMode)
open H5V.Lemmas.HtmlTBAlgo
open H5V.Lemmas.TBSafe (TI HInv SInv Rooted ForeignTop textTok)
open H5V.Spec.TreeAlgo2 (Elem Entry PState Ctx Edit Place)
open H5V.Spec.TreeModes (STok ETok IMode Config Out TokSwitch XOp Op Step Edition)

/-! ### tokens of the tokenizer -/

/-- the standard's token for a token of html5ever's tokenizer (a parse error is not a token) -/
def specTokOf : TokToken → Option Spec.TreeModes.Token
  | .parseError _ => none
  | .doctype d => some (.doctype d.name d.publicId d.systemId d.forceQuirks)
  | .tag t => some (if t.kind == .startTag then .startTag (specTag t) else .endTag (specTag t))
  | .comment d => some (.comment d)
  | .chars x => some (.chars x)
  | .nullChar => some (.chars ['\x00'])
  | .eof => some .eof

/-- the adjusted current node, if any, is an element in the HTML namespace (in the "in table text" insertion mode
the current node is a `table`, `tbody`, `template`, `tfoot`, `thead` or `tr` element: that is how the mode is
entered, and it does not touch the stack) -/
def AcnHtml (s : State) : Prop := ∀ c, TBSafe.adjNode s = some c → (nameOf s.dom c).ns = nsHtml

/-- what the token source has to respect when it sends `token` in state `s` (the html5ever tokenizer
does): well-formed tags, non-empty character tokens without U+0000, in the "text" insertion mode
only characters, end tags and EOF; `drop_doctype` is off; a DOCTYPE in "initial" finds the Document in
no-quirks mode -/
structure TokTokOk (s : State) (token : TokToken) : Prop where
  tag : ∀ t, token = .tag t → TagWf t
  chars : ∀ x, token = .chars x → x ≠ [] ∧ '\x00' ∉ x
  text : s.mode = .text → (∃ x, token = .chars x) ∨ token = .eof ∨ (∃ t, token = .tag t ∧ t.kind = .endTag) ∨
    (∃ e, token = .parseError e)
  doctype : ∀ d, token = .doctype d → s.opts.dropDoctype = false ∧ (s.mode = .initial → s.quirksMode = .noQuirks)

/-- the `then` branch of the DOCTYPE arm of `process_token`, with the rest of `process_token` as `k` -/
def ptDoctypeInitialK {β : Type} (dt : Doctype) (k : Option Token → M β) : M β := do
  let (err, quirk) := doctypeErrorAndQuirks dt (← getS).opts.iframeSrcdoc
  if err then parseError "Bad DOCTYPE"
  if !(← getS).opts.dropDoctype then
    sinkUnit (.appendDoctypeToDocument (dt.name.getD []) (dt.publicId.getD []) (dt.systemId.getD []))
  setQuirksMode quirk
  setMode .beforeHtml
  k none

/-- the DOCTYPE token in the "initial" insertion mode (handled by `process_token` in html5ever), in
continuation-passing form: whatever follows (`k none`) runs in a state `s'` reached by a stretch that
the specification's "initial" rule for the DOCTYPE token matches -/
def DoctypeInitialSim : Prop :=
  ∀ (dt : Doctype) (s : State), TI s → MInv s → s.mode = .initial → s.opts.dropDoctype = false →
    s.quirksMode = .noQuirks →
    ∀ (β : Type) (k : Option Token → M β) (Q : β → State → List Call → Prop),
      (∀ s' c, Ext2 s c s' → Tr s s' c (fun x x' =>
          Spec.TreeModes.initial (cfgOf s) (absF s x) (.doctype dt.name dt.publicId dt.systemId dt.forceQuirks)
            = .ok (.done (absF s' x'))) →
        PC (k none) s' (fun b s2 c2 => Q b s2 (c ++ c2))) →
      PC (ptDoctypeInitialK dt k) s Q

/-- the post-condition of `process_token` -/
def PtPost (s : State) (token : TokToken) : SinkResult → State → List Call → Prop :=
  fun r s' calls => MInv s' ∧ cfgOf s' = cfgOf s ∧ TBSafe.Ext s.dom s'.dom ∧
    ∃ ids, ∀ x rest, AuxOk s x → x.supply = ids ++ rest →
      ∃ x', (x'.stopped = false → AuxOk s' x') ∧ x'.supply = rest ∧
        (∃ ops, x'.fullLog = x.fullLog ++ ops ∧
          ∀ tc, TcOk s'.dom tc → flatCalls (edits2 calls) = flatCalls (ops.map (opCall tc))) ∧
        (x'.stopped = true → token = .eof) ∧
        match specTokOf token with
        | none => r = .continue_ ∧ absF s' x' = absF s x ∧ x'.outs = x.outs
        | some t => ∃ o, x'.outs = x.outs ++ [o] ∧ OutRelR r {} o ∧
            (∃ F, ∀ fuel, F ≤ fuel → processTokenDev (cfgOf s) fuel (absF s x) t = .ok (absF s' x')) ∧
            -- from a state that satisfies the invariant `Good` of the specification's run, the UNMODIFIED
            -- specification processes the token to the same state, which satisfies the invariant again
            (H5V.Lemmas.ModesInv.Inv (absF s x) → H5V.Lemmas.ModesInv.Inv (absF s' x') ∧
              ∃ F, ∀ fuel, F ≤ fuel → Spec.TreeModes.processToken (cfgOf s) fuel (absF s x) t = .ok (absF s' x'))

theorem qshape_sinkUnit {op : SinkOp} (h : isEdit op = false) : QShape (sinkUnit op) := by
  unfold sinkUnit
  exact qshape_bind (qshape_sink h) (fun _ => qshape_pure _)

theorem pc_ite_jp {β : Type} {c : Prop} [Decidable c] {a : M PUnit} {k : PUnit → M β} {s : State}
    {Q1 : State → List Call → Prop} {R : β → State → List Call → Prop}
    (ha : c → PC a s (fun _ s1 c1 => Q1 s1 c1)) (hn : ¬c → Q1 s [])
    (hk : ∀ s1 c1, Ext2 s c1 s1 → Q1 s1 c1 → PC (k PUnit.unit) s1 (fun b s2 c2 => R b s2 (c1 ++ c2))) :
    PC (if c then a >>= k else k PUnit.unit) s R := by
  split
  · rename_i hc; exact pc_seq (ha hc) (fun _ s1 c1 he h => hk s1 c1 he h)
  · rename_i hc
    refine pc_conseq (hk s [] (Ext2.refl s) (hn hc)) ?_
    intro b s2 c2 _ h
    simpa using h

/-! ### a DOCTYPE token outside the "initial" insertion mode is ignored -/

theorem byModeDev_doctype (cfg : Config Id) (m : Mode) (hi : m ≠ .initial) (ht : m ≠ .text) (htt : m ≠ .inTableText)
    (σ : SState) (hm : σ.mode = imode m) (n p sy : Option Str) (f : Bool) :
    ∃ w, byModeDev cfg σ (.doctype n p sy f) = .ok (.done (σ.err w)) := by
  cases m <;> first
    | exact absurd rfl hi
    | exact absurd rfl ht
    | exact absurd rfl htt
    | (apply Exists.intro
       simp only [byModeDev, isDoctype, hm, imode, Bool.true_and, Bool.false_eq_true, if_false,
         cellAssertFails, isStartTag, Bool.and_false, Bool.false_and,
         Spec.TreeModes.byMode, Spec.TreeModes.beforeHtml, Spec.TreeModes.beforeHead, Spec.TreeModes.inHead,
         Spec.TreeModes.inHeadNoscript, Spec.TreeModes.afterHead, Spec.TreeModes.inBody, Spec.TreeModes.inTable,
         Spec.TreeModes.inCaption, Spec.TreeModes.inColumnGroup, Spec.TreeModes.inTableBody, Spec.TreeModes.inRow,
         Spec.TreeModes.inCell, Spec.TreeModes.inTemplate, Spec.TreeModes.afterBody, Spec.TreeModes.inFrameset,
         Spec.TreeModes.afterFrameset, Spec.TreeModes.afterAfterBody, Spec.TreeModes.afterAfterFrameset]
       first | rfl | (simp; rfl))

/-- an HTML adjusted current node: the dispatcher chooses the rules of the insertion mode for every token -/
theorem useHtml_of_acnHtml {s : State} (h : AcnHtml s) (x : Aux) (hx : AuxOk s x) (k : Spec.TreeAlgo.TokenKind) :
    Spec.TreeAlgo.useHtmlRules (Spec.TreeModes.adjustedCurrentNode (cfgOf s) (absF s x)) k = true := by
  have hstack : (absF s x).p.stack = absStack s.dom s.openElems := by
    simp only [absF, absP, hx.live, Bool.false_eq_true, if_false]
  have key : ∀ e : Spec.TreeAlgo.OpenElem, e.name.ns = Spec.TreeAlgo.nsHtml → Spec.TreeAlgo.useHtmlRules (some e) k = true := by
    intro e he
    simp [Spec.TreeAlgo.useHtmlRules, he]
  unfold Spec.TreeModes.adjustedCurrentNode
  rw [hstack]
  cases hl : s.openElems.reverse with
  | nil =>
    have he : s.openElems = [] := by simpa using hl
    simp [he, absStack, Spec.TreeAlgo.adjustedCurrentNode, Spec.TreeAlgo.useHtmlRules]
  | cons top rest =>
    have hrev : (absStack s.dom s.openElems).reverse = elemOf s.dom top :: rest.map (elemOf s.dom) := by
      unfold absStack; rw [← List.map_reverse, hl]; rfl
    have hlast : s.openElems.getLast? = some top := by
      rw [List.getLast?_eq_head?_reverse, hl]; rfl
    have hlen : s.openElems.length = rest.length + 1 := by
      have := congrArg List.length hl
      simpa using this
    rw [hrev]
    cases rest with
    | nil =>
      cases hc : s.contextElem with
      | none =>
        have hadj : TBSafe.adjNode s = some top := by
          unfold TBSafe.adjNode; rw [hlast]; simp [hc]
        have := h top hadj
        simp only [cfgOf, hc, Option.map_none, List.map_nil, List.map_cons, Spec.TreeAlgo.adjustedCurrentNode]
        exact key _ this
      | some c =>
        have hadj : TBSafe.adjNode s = some c := by
          unfold TBSafe.adjNode; rw [hlast]; simp [hc, hlen]
        have := h c hadj
        simp only [cfgOf, hc, Option.map_some, List.map_nil, List.map_cons, Spec.TreeAlgo.adjustedCurrentNode]
        exact key _ this
    | cons r rs =>
      have hadj : TBSafe.adjNode s = some top := by
        unfold TBSafe.adjNode; rw [hlast]; simp [hlen]
      have := h top hadj
      simp only [List.map_cons, Spec.TreeAlgo.adjustedCurrentNode]
      exact key _ this

/-! ### a DOCTYPE token in the "in table text" insertion mode: flush, then ignored in the original mode -/

/-- the "anything else" arm of "in table text" is `flush_pending_table_text` followed by "reprocess" -/
theorem stepInTableText_comment_eq (d : Str) :
    stepInTableText (.comment d) = flushPendingTableText >>= fun m => pure (.reprocess m (.comment d)) := by
  simp only [stepInTableText, flushPendingTableText, bind_assoc]
  congr 1; funext s0
  congr 1; funext u
  split
  · simp only [bind_assoc]
    congr 1; funext u1; congr 1; funext u2; congr 1; funext s1
    cases s1.origMode <;> simp
    rfl
  · simp only [bind_assoc]
    congr 1; funext u2; congr 1; funext s1
    cases s1.origMode <;> simp
    rfl

/-- `flush_pending_table_text` answers the original insertion mode, a table mode (C04's lemmas, with the
answer made explicit) -/
theorem sat_flush_tableMode [al : TBSafe.Allow] {s : State} (ht : TI s) (hm : s.mode = .inTableText) :
    TBSafe.Sat flushPendingTableText s (fun m _ => TBSafe.tableMode m = true) := by
  have hs : SInv .inTableText s := by have := ht.s; rw [hm] at this; exact this
  have hr : Rooted s.dom s.openElems := hs.root rfl
  obtain ⟨om, ho, hom⟩ := hs.tableText rfl
  unfold flushPendingTableText
  dsimp only
  refine TBSafe.sat_getS_bind ?_
  refine TBSafe.sat_modS_bind ?_
  have hi0 : HInv { s with pendingTableText := [] } :=
    ⟨ht.h.open_el, ht.h.open_tc, ht.h.af, ht.h.head, ht.h.form, ht.h.ctx⟩
  have htail : ∀ s2, s2.origMode = some om → TBSafe.Sat (do
      let s ← getS
      match s.origMode with
      | none => panicAt "unwrap-none" "rules.rs:1172" "orig_mode.take().unwrap()"
      | some m =>
        set { s with origMode := none }
        pure m) s2 (fun m _ => TBSafe.tableMode m = true) := by
    intro s2 ho2
    refine TBSafe.sat_getS_bind ?_
    rw [ho2]
    dsimp only
    refine TBSafe.sat_set_bind ?_
    exact TBSafe.sat_pure hom
  split
  · refine TBSafe.sat_parseError.bind ?_
    intro _ s1 hq1
    have b1 : TBSafe.BStep { s with pendingTableText := [] } s1 := TBSafe.BStep.of_qf hi0 hr hq1
    refine (TBSafe.sat_flushPendingFoster _ s1 b1.hinv b1.rooted).bind ?_
    intro _ s2 b2
    exact htail s2 (by rw [(b1.trans b2).origMode]; exact ho)
  · refine (TBSafe.sat_flushPendingPlain _ _ hi0 hr).bind ?_
    intro _ s2 b2
    exact htail s2 (by rw [b2.origMode]; exact ho)

/-- the flush of a DOCTYPE token in "in table text", with the switch to the original mode: the specification's
"anything else" of "in table text" answers "reprocess" with the same state -/
theorem pc_flushSetMode (hmode : ModeSim .inTableText) {s : State} (ht : TI s) (hm : MInv s) (hmd : s.mode = .inTableText) :
    PC (flushPendingTableText >>= fun m => setMode m) s (fun _ sB calls => TI sB ∧ MInv sB ∧ TBSafe.tableMode sB.mode = true ∧
      DTr s sB calls (fun x x1 => byModeDev (cfgOf s) (absF s x) (.comment []) = .ok (.reprocess (absF sB x1)) ∧
        (x1.out.switch = x.out.switch ∧ x1.out.script = x.out.script) ∧ x1.stopped = false)) := by
  intro u sB hr
  rw [StateT.run_bind] at hr
  cases hf : flushPendingTableText.run s with
  | error e => rw [hf] at hr; cases hr
  | ok p =>
    obtain ⟨m, s3⟩ := p
    rw [hf] at hr
    have hsB : sB = { s3 with mode := m } := by
      have : (Except.ok (m, s3) >>= fun p : Mode × State => (setMode p.1).run p.2) = .ok ((), { s3 with mode := m }) := rfl
      rw [this] at hr; cases hr; rfl
    subst hsB
    have hstep : (step .inTableText (.comment [])).run s = .ok (.reprocess m (.comment []), s3) := by
      show (stepInTableText (.comment [])).run s = _
      rw [stepInTableText_comment_eq, StateT.run_bind, hf]
      rfl
    have htm : TBSafe.tableMode m = true :=
      ((@H5V.Props.C04TB.sat_iff H5V.Props.C04TB.allowAll _ _ _ _).mp (@sat_flush_tableMode H5V.Props.C04TB.allowAll s ht hmd)).1 m s3 hf
    obtain ⟨calls, he, hpost⟩ := hmode (.comment []) rfl trivial s ht hm hmd (fun h => by cases h) _ _ hstep
    have hd := DTr.of_tokPost he.ext hpost
    have hsp := (@H5V.Props.C04TB.C04_tb_no_panic_step H5V.Props.C04TB.allowAll s (.comment []) ht (fun _ => Or.inl trivial)).1
      _ _ (by rw [hmd]; exact hstep)
    have htB : TI ({ s3 with mode := m } : State) := ⟨hsp.h.withMode m, hsp.s.withMode m⟩
    refine ⟨calls, ⟨he.trace, he.replay⟩, htB, hpost.2.1, htm, hd.conseq ?_⟩
    rintro x x1 hx ⟨e, ho, hst, _⟩
    have hlive : x1.stopped = false := by
      cases h : x1.stopped
      · rfl
      · cases (hst h).1
    exact ⟨e, ho, hlive⟩

/-! ### `process_token` -/

/-- the `Aux` at the end of a token: the answer goes to `outs`, the parse error for an unacknowledged
self-closing flag to `errors` -/
def Aux.finish (x : Aux) (s : State) (t : Spec.TreeModes.Token) : Aux :=
  { x with outs := x.outs ++ [x.out], errors := (finishTok t (absF s x)).errors }

theorem absF_finish (s : State) (x : Aux) (t : Spec.TreeModes.Token) : absF s (x.finish s t) = finishTok t (absF s x) := by
  cases t with
  | startTag tg =>
    simp only [Aux.finish, finishTok]
    split <;> rfl
  | _ => rfl

theorem AuxOk.finish_ok {s : State} {x : Aux} (h : AuxOk s x) (t : Spec.TreeModes.Token) : AuxOk s (x.finish s t) :=
  ⟨h.live, h.annot, h.annotEl, h.xlog⟩

theorem AuxOk.prelude {s s1 : State} {x : Aux} {c1 : List Call} (h : AuxOk s x) (hm : MInv s) (hs : SameTB s s1)
    (he : Ext2 s c1 s1) (o : Out Id) (b : Bool) : AuxOk { s1 with ignoreLf := b } { x with out := o } := by
  have h1 := h.of_same hm hs he.ext
  exact ⟨h1.live, h1.annot, h1.annotEl, h1.xlog⟩

theorem absF_prelude {s s1 : State} {c1 : List Call} (x : Aux) (hm : MInv s) (hs : SameTB s s1) (he : Ext2 s c1 s1) :
    absF { s1 with ignoreLf := false } { x with out := {} } = { absF s x with out := {}, ignoreLf := false } := by
  rw [← absF_of_same x hm hs he.ext]
  rfl

/-- an answer of the dispatcher other than "reprocess in HTML content" is the answer of `dispatchFull` -/
theorem dispatchFull_of_dev {cfg : Config Id} {σ : SState} {tok : STok} {r : Step Id}
    (h : dispatchDev cfg σ tok = .ok r) (hr : ∀ σa, r ≠ .reprocessHtml σa) : dispatchFull cfg σ tok = .ok r := by
  unfold dispatchDev at h
  unfold dispatchFull
  split
  · rename_i hu; rw [if_pos hu] at h; exact h
  · rename_i hu; rw [if_neg hu] at h
    unfold foreignFull
    rw [h]
    cases r with
    | reprocessHtml σa => exact absurd rfl (hr σa)
    | _ => rfl

/-- a non-character token that one step of the dispatcher finishes: the unmodified specification -/
theorem std_of_rule_done {s s1 s' : State} {x x' : Aux} {c1 : List Call} {t : Spec.TreeModes.Token}
    (hct : isCharsSTok t = false) (ht2 : TI { s1 with ignoreLf := false }) (hm2 : MInv { s1 with ignoreLf := false })
    (hm : MInv s) (hs : SameTB s s1) (he1 : Ext2 s c1 s1) (hx : AuxOk s x)
    (hfs : FreshSup { s1 with ignoreLf := false } { x with out := {} } x')
    (hrule : dispatchDev (cfgOf s) { absF s x with out := {}, ignoreLf := false } (soleSTok t) = .ok (.done (absF s' x')))
    (hi : H5V.Lemmas.ModesInv.Inv (absF s x)) :
    H5V.Lemmas.ModesInv.Inv (finishTok t (absF s' x')) ∧
      ∃ F, ∀ fuel, F ≤ fuel → Spec.TreeModes.processToken (cfgOf s) fuel (absF s x) t = .ok (finishTok t (absF s' x')) := by
  have hc0 : cfgOf ({ s1 with ignoreLf := false } : State) = cfgOf s := cfgOf_of_same hm hs he1.ext (s' := s1)
  have hgs : GS { s1 with ignoreLf := false } { x with out := {} } (soleSTok t) s' x' :=
    gs_done ht2 hm2 (hx.prelude hm hs he1 _ _) hfs
      (dispatchFull_of_dev (by rw [hc0, absF_prelude x hm hs he1]; exact hrule) fun _ e => by cases e)
  unfold GS at hgs
  rw [hc0, absF_prelude x hm hs he1] at hgs
  exact std_of_gs hct hx.live hgs hi

/-- from the result of `process_to_completion` (started in the state after the prelude of `process_token`)
to the post-condition of `process_token` -/
theorem ptPost_of_dtr {s s1 s' : State} {token : TokToken} {t : Spec.TreeModes.Token} {r : SinkResult} {c1 c2 : List Call}
    {R : Aux → Aux → Prop} (hspec : specTokOf token = some t) (hm : MInv s) (hs : SameTB s s1) (he1 : Ext2 s c1 s1)
    (hc1 : edits c1 = []) (hd : DTr { s1 with ignoreLf := false } s' c2 R) (hm' : MInv s')
    (hR : ∀ x x', AuxOk s x → R { x with out := {} } x' → OutRelR r {} x'.out ∧ (x'.stopped = true → token = .eof) ∧
      ∃ F, ∀ fuel, F ≤ fuel → processTokenDev (cfgOf s) fuel (absF s x) t = .ok (finishTok t (absF s' x')))
    (hstd : isCharsSTok t = false → ∀ x x', AuxOk s x → R { x with out := {} } x' →
      FreshSup { s1 with ignoreLf := false } { x with out := {} } x' → H5V.Lemmas.ModesInv.Inv (absF s x) →
      H5V.Lemmas.ModesInv.Inv (finishTok t (absF s' x')) ∧
        ∃ F, ∀ fuel, F ≤ fuel → Spec.TreeModes.processToken (cfgOf s) fuel (absF s x) t = .ok (finishTok t (absF s' x'))) :
    PtPost s token r s' (c1 ++ c2) := by
  obtain ⟨hc, he, ids, hfi, f⟩ := hd
  have hc0 : cfgOf ({ s1 with ignoreLf := false } : State) = cfgOf s := cfgOf_of_same hm hs he1.ext (s' := s1)
  refine ⟨hm', hc.trans hc0, he1.ext.trans he, ids, fun x rest hx hsup => ?_⟩
  obtain ⟨x', l, r1⟩ := f { x with out := {} } rest (hx.prelude hm hs he1 _ _) hsup
  obtain ⟨ho, hst, F, hF⟩ := hR x x' hx r1
  refine ⟨x'.finish s' t, fun h => (l.aux h).finish_ok t, l.supply, ?_, hst, ?_⟩
  · obtain ⟨ops, e, k⟩ := l.log
    refine ⟨ops, e, fun tc htc => ?_⟩
    rw [edits2_append, ← edits2_edits c1, hc1]
    exact k tc htc
  · rw [hspec]
    refine ⟨x'.out, ?_, ho, ⟨F, fun fuel hfu => ?_⟩, ?_⟩
    · show x'.outs ++ [x'.out] = x.outs ++ [x'.out]
      rw [l.outs]
    · rw [absF_finish]; exact hF fuel hfu
    · rw [absF_finish]
      cases hct : isCharsSTok t
      · refine hstd hct x x' hx r1 ?_
        intro used hu
        rw [show ({ x with out := {} } : Aux).supply = x.supply from rfl, hsup, l.supply] at hu
        rw [← List.append_cancel_right hu]
        exact hfi
      · cases t with
        | chars cs => exact std_of_dev_chars (cfgOf_edition s) hF
        | _ => cases hct

theorem textTok_of_ok {s : State} {token : TokToken} (h : TokTokOk s token) (hm : s.mode = .text) (t : Tag)
    (ht : token = .tag t) : textTok (.tag t) = true := by
  rcases h.text hm with ⟨x, hx⟩ | hx | ⟨t', ht', hk⟩ | ⟨e, he⟩
  · rw [ht] at hx; cases hx
  · rw [ht] at hx; cases hx
  · rw [ht] at ht'; cases ht'
    simp [textTok, hk]
  · rw [ht] at he; cases he

/-- the non-character tokens: from `pc_ptc_tok` to `PtPost` -/
theorem ptPost_tok {s s1 s' : State} {token : TokToken} {tok : Token} {t : Spec.TreeModes.Token} {r : SinkResult}
    {c1 c2 : List Call} (hspec : specTokOf token = some t) (hct : isCharsSTok t = false) (hsole : soleSTok t = stokOf tok)
    (heof : tok = .eof → token = .eof) (hm : MInv s) (hs : SameTB s s1)
    (he1 : Ext2 s c1 s1) (hc1 : edits c1 = []) (h : PtcTokPost { s1 with ignoreLf := false } tok r s' c2) :
    PtPost s token r s' (c1 ++ c2) := by
  obtain ⟨_, hm', hd⟩ := h
  have hc0 : cfgOf ({ s1 with ignoreLf := false } : State) = cfgOf s := cfgOf_of_same hm hs he1.ext (s' := s1)
  refine ptPost_of_dtr hspec hm hs he1 hc1 hd hm' ?_ ?_
  · rintro x x' hx ⟨ho, hl, hst, _⟩
    refine ⟨ho, fun h => heof (hst h), ?_⟩
    rw [hc0, absF_prelude x hm hs he1, ← hsole] at hl
    exact processTokenDev_tok hct hx.live hl
  · rintro _ x x' hx ⟨_, _, _, hgs⟩ _ hi
    unfold GS at hgs
    rw [hc0, absF_prelude x hm hs he1, ← hsole] at hgs
    exact std_of_gs hct hx.live hgs hi

theorem charsToken_spec {lf : Bool} {x : Str} (hx : x ≠ []) (hn : '\x00' ∉ x) :
    (charsToken lf x = none ∧ dropIgnoredLf lf x = []) ∨
    (charsToken lf x = some (.chars .notSplit (dropIgnoredLf lf x)) ∧ TokWf (.chars .notSplit (dropIgnoredLf lf x))) := by
  unfold charsToken
  by_cases he : (dropIgnoredLf lf x).isEmpty = true
  · left; rw [if_pos he]; exact ⟨rfl, by simpa using he⟩
  · right; rw [if_neg he]
    refine ⟨rfl, by simpa using he, ?_, trivial⟩
    intro h
    apply hn
    unfold dropIgnoredLf at h
    split at h
    · split at h
      · exact List.mem_cons_of_mem _ h
      · exact h
    · exact h

theorem AuxOk.not_stopped {s : State} {x : Aux} (hx : AuxOk s x) {P : Prop} (h : x.stopped = true) : P := by
  rw [hx.live] at h; cases h

theorem DTr.refl (s : State) : DTr s s [] (fun x x' => x' = x) :=
  ⟨rfl, TBSafe.Ext.refl _, [], FreshIds.nil _, fun x rest hx hs => ⟨x, ⟨fun _ => hx, by simpa using hs, rfl, [], by simp, fun _ _ => rfl⟩, rfl⟩⟩

theorem DTr.reaux {s s' : State} {c : List Call} {R : Aux → Aux → Prop} (h : DTr s s' c R) (g : Aux → Aux → Aux)
    (hg : ∀ x x', AuxSame x' (g x x') ∧ (g x x').stopped = x'.stopped) :
    DTr s s' c (fun x x'' => ∃ x', R x x' ∧ x'' = g x x') := by
  obtain ⟨hc, he, ids, hfi, f⟩ := h
  refine ⟨hc, he, ids, hfi, fun x rest hx hs => ?_⟩
  obtain ⟨x', l, r⟩ := f x rest hx hs
  obtain ⟨hsame, hst⟩ := hg x x'
  refine ⟨g x x', ⟨fun h => ?_, hsame.supply.trans l.supply, hsame.outs.trans l.outs, ?_⟩, x', r, rfl⟩
  · have hx' := l.aux (hst ▸ h)
    exact ⟨h, by rw [hsame.annot]; exact hx'.annot, by rw [hsame.annot]; exact hx'.annotEl,
      by rw [hsame.xlog, hsame.log]; exact hx'.xlog⟩
  · obtain ⟨ops, e, k⟩ := l.log
    refine ⟨ops, ?_, k⟩
    unfold Aux.fullLog at e ⊢
    rw [hsame.xlog, hsame.log]; exact e

/-- a DOCTYPE token outside "initial" and "text": the dispatcher's answer is "parse error, ignore" -/
theorem dispatchDev_doctype (cfg : Config Id) (m : Mode) (hi : m ≠ .initial) (ht : m ≠ .text) (htt : m ≠ .inTableText)
    (σ : SState) (hm : σ.mode = imode m) (n p sy : Option Str) (f : Bool) :
    ∃ w, dispatchDev cfg σ (.doctype n p sy f) = .ok (.done (σ.err w)) := by
  unfold dispatchDev
  split
  · exact byModeDev_doctype cfg m hi ht htt σ hm n p sy f
  · exact ⟨_, by simp [Spec.TreeModes.foreign]; rfl⟩

theorem sameTB_of_fields {s s' : State} (f : SameFields s s') (hl : s'.currentLine = s.currentLine) : SameTB s s' := by
  obtain ⟨h1, h2, h3, h4, h5, h6, h7, h8, h9, h10, h11, h12, h13, h14, h15⟩ := f
  cases s; cases s'
  simp only at h1 h2 h3 h4 h5 h6 h7 h8 h9 h10 h11 h12 h13 h14 h15 hl
  subst h1 h2 h3 h4 h5 h6 h7 h8 h9 h10 h11 h12 h13 h14 h15 hl
  rfl

/-- a DOCTYPE token outside "initial", "text", "in table text": parse error, ignored — on both sides -/
theorem pc_doctypeIgnored {sA : State} (hmA : MInv sA) (hi : sA.mode ≠ .initial) (ht : sA.mode ≠ .text)
    (htt : sA.mode ≠ .inTableText) (n p sy : Option Str) (f : Bool) :
    PC (parseError "DOCTYPE in body") sA (fun _ s' calls => MInv s' ∧ DTr sA s' calls (fun x x' =>
      dispatchDev (cfgOf sA) (absF sA x) (.doctype n p sy f) = .ok (.done (absF s' x')) ∧ AuxOk s' x' ∧
      x'.out.switch = x.out.switch ∧ x'.out.script = x.out.script)) := by
  refine pc_conseq (PC.of_tot (tot_parseError sA _)) ?_
  rintro _ s3 c3 he3 ⟨-, hs3, hc3⟩
  let errs : Aux → List String := fun x0 =>
    match dispatchDev (cfgOf sA) (absF sA x0) (.doctype n p sy f) with
    | .ok r => r.state.errors
    | .error _ => []
  have htr3 := Tr.of_same hmA hs3 he3 (by rw [← edits2_edits, hc3]; rfl)
  have hd := (DTr.of_tr htr3).reaux
    (fun x0 x' => { x' with errors := errs x0 }) (fun _ _ => ⟨⟨rfl, rfl, rfl, rfl, rfl⟩, rfl⟩)
  refine ⟨htr3.1, hd.conseq ?_⟩
  rintro x x'' hx ⟨x', ⟨⟨hxx, he⟩, hx', h1, h2⟩, hx''⟩
  subst x' x''
  obtain ⟨w, hw⟩ := dispatchDev_doctype (cfgOf sA) sA.mode hi ht htt (absF sA x) rfl n p sy f
  have herr : errs x = ((absF sA x).err w).errors := by
    show (match dispatchDev (cfgOf sA) _ _ with | .ok r => r.state.errors | .error _ => []) = _
    rw [hw]; rfl
  refine ⟨?_, ⟨hx'.live, hx'.annot, hx'.annotEl, hx'.xlog⟩, h1, h2⟩
  rw [hw, herr]
  have e2 : ∀ E, absF s3 { x with errors := E } = { absF s3 x with errors := E } := fun _ => rfl
  rw [e2, ← he]
  rfl

/-- **`process_token`** -/
theorem pc_processToken (hmode : ∀ m, ModeSim m) (hchar : ∀ m, ModeCharSim m) (hfor : ForeignSim)
    (hforc : ForeignCharSim) (hdt : DoctypeInitialSim) (token : TokToken) (line : Nat) (s : State) (ht : TI s)
    (hm : MInv s) (hok : TokTokOk s token) (hacnH : s.mode = .inTableText → AcnHtml s) :
    PC (processToken token line) s (PtPost s token) := by
  unfold processToken
  refine pc_getS_bind ?_
  dsimp only
  refine pc_ite_jp (Q1 := fun s1 c1 => SameTB s s1 ∧ edits c1 = [])
    (fun _ => pc_conseq (qshape_sinkUnit rfl s) (fun _ _ _ _ h => h)) (fun _ => ⟨SameTB.refl s, rfl⟩) ?_
  rintro s1 c1 he1 ⟨hs1, hc1⟩
  have ht1 : TI s1 := ht.of_qf (qf_of_same hs1 he1)
  refine pc_getS_bind ?_
  refine pc_bind (pc_modS rfl rfl ?_)
  have ht2 : TI { s1 with ignoreLf := false } := ht1.withIgnoreLf false
  have hm2 : MInv ({ s1 with ignoreLf := false } : State) := (hm.sameTB hs1 he1.ext).withIgnoreLf false
  have hlf2 : ({ s1 with ignoreLf := false } : State).ignoreLf = false := rfl
  have hmode2 : ({ s1 with ignoreLf := false } : State).mode = s.mode := hs1.fields.mode
  have hc0 : cfgOf ({ s1 with ignoreLf := false } : State) = cfgOf s := cfgOf_of_same hm hs1 he1.ext (s' := s1)
  cases token with
  | parseError e =>
    dsimp only
    refine pc_seq (qshape_sinkUnit rfl _) ?_
    rintro _ s3 c3 he3 ⟨hs3, hc3⟩
    refine pc_bind (pc_modS rfl rfl ?_)
    refine pc_bind (pc_pure ?_)
    refine pc_pure ?_
    simp only [List.nil_append, List.append_nil]
    have hs4 : SameTB s { s3 with ignoreLf := s1.ignoreLf } := by
      have f1 := hs1.fields
      have f3 := hs3.fields
      refine sameTB_of_fields ⟨f3.opts.trans f1.opts, f3.mode.trans f1.mode, f3.origMode.trans f1.origMode,
        f3.templateModes.trans f1.templateModes, f3.pendingTableText.trans f1.pendingTableText,
        f3.quirksMode.trans f1.quirksMode, f3.docHandle.trans f1.docHandle, f3.openElems.trans f1.openElems,
        f3.activeFormatting.trans f1.activeFormatting, f3.headElem.trans f1.headElem, f3.formElem.trans f1.formElem,
        f3.framesetOk.trans f1.framesetOk, f1.ignoreLf, f3.fosterParenting.trans f1.fosterParenting,
        f3.contextElem.trans f1.contextElem⟩ ?_
      have e3 : s3.currentLine = ({ s1 with ignoreLf := false } : State).currentLine := by
        unfold SameTB at hs3; rw [hs3]
      have e1 : s1.currentLine = s.currentLine := by unfold SameTB at hs1; rw [hs1]
      exact e3.trans e1
    have he3' : Ext2 s1 c3 s3 := ⟨he3.trace, he3.replay⟩
    have he4 : Ext2 s (c1 ++ c3) { s3 with ignoreLf := s1.ignoreLf } :=
      ⟨(he1.trans he3').trace, (he1.trans he3').replay⟩
    refine ⟨hm.sameTB hs4 he4.ext, cfgOf_of_same hm hs4 he4.ext, he4.ext, [], fun x rest hx hsup => ?_⟩
    refine ⟨x, fun _ => hx.of_same hm hs4 he4.ext, by simpa using hsup, ⟨[], by simp, fun _ _ => ?_⟩,
      fun h => hx.not_stopped h, ?_⟩
    · rw [edits2_append, ← edits2_edits c1, hc1, ← edits2_edits c3, hc3]
      rfl
    · show _ ∧ _ ∧ _
      exact ⟨rfl, absF_of_same x hm hs4 he4.ext, rfl⟩
  | doctype dt =>
    dsimp only
    refine pc_getS_bind ?_
    have hdrop : ({ s1 with ignoreLf := false } : State).opts.dropDoctype = false := by
      have := (hok.doctype dt rfl).1
      rw [← hs1.fields.opts] at this; exact this
    by_cases hmi : s.mode = .initial
    · have hmi2 : ({ s1 with ignoreLf := false } : State).mode = .initial := hmode2.trans hmi
      have hmi' : (({ s1 with ignoreLf := false } : State).mode == Mode.initial) = true := by rw [hmi2]; rfl
      rw [if_pos hmi']
      have hq2 : ({ s1 with ignoreLf := false } : State).quirksMode = .noQuirks :=
        hs1.fields.quirksMode.trans ((hok.doctype dt rfl).2 hmi)
      refine hdt dt _ ht2 hm2 hmi2 hdrop hq2 _ (fun _ => pure SinkResult.continue_) _ ?_
      intro s' c he htr
      refine pc_pure ?_
      simp only [List.nil_append, List.append_nil]
      have hempty : s.openElems = [] := by
        have hst := ht.s.stack
        rw [hmi] at hst
        simpa only [TBSafe.ModeStack] using hst
      have hrule : ∀ x x', AuxOk s x →
          Spec.TreeModes.initial (cfgOf ({ s1 with ignoreLf := false } : State)) (absF { s1 with ignoreLf := false } { x with out := {} })
            (.doctype dt.name dt.publicId dt.systemId dt.forceQuirks) = .ok (.done (absF s' x')) →
          dispatchDev (cfgOf s) { absF s x with out := {}, ignoreLf := false }
            (soleSTok (.doctype dt.name dt.publicId dt.systemId dt.forceQuirks)) = .ok (.done (absF s' x')) := by
        intro x x' hx hi
        rw [hc0, absF_prelude x hm hs1 he1] at hi
        have hstack : ({ absF s x with out := {}, ignoreLf := false } : SState).p.stack = [] := by
          show (absF s x).p.stack = []
          simp only [absF, absP, hx.live, Bool.false_eq_true, if_false, hempty, absStack, List.map_nil]
        have hmσ : ({ absF s x with out := {}, ignoreLf := false } : SState).mode = .initial := by
          show imode s.mode = .initial
          rw [hmi]; rfl
        generalize ({ absF s x with out := {}, ignoreLf := false } : SState) = σ at hi hstack hmσ ⊢
        simp only [Bool.false_eq_true, if_false, dispatchDev, Spec.TreeModes.adjustedCurrentNode, hstack,
          List.reverse_nil, List.map_nil, Spec.TreeAlgo.adjustedCurrentNode, Spec.TreeAlgo.useHtmlRules, if_true,
          soleSTok, byModeDev, Bool.false_and, hmσ, Spec.TreeModes.byMode,
          cellAssertFails, isStartTag, Bool.and_false, Bool.true_and]
        have hmc : (IMode.initial == IMode.inCell) = false := rfl
        try simp only [hmc, Bool.false_eq_true, if_false, Bool.false_and]
        exact hi
      refine ptPost_of_dtr (t := .doctype dt.name dt.publicId dt.systemId dt.forceQuirks) rfl hm hs1 he1 hc1 (DTr.of_tr htr) htr.1 ?_ ?_
      · rintro x x' hx ⟨hi, hx', h1, h2⟩
        refine ⟨⟨h1, h2⟩, fun h => hx'.not_stopped h, ?_⟩
        exact processTokenDev_tok rfl hx.live (LoopsTo.done (by simp only [ruleOf, Bool.false_eq_true, if_false]; exact hrule x x' hx hi))
      · rintro _ x x' hx ⟨hi, _, _, _⟩ hfs hinv
        exact std_of_rule_done rfl ht2 hm2 hm hs1 he1 hx hfs (hrule x x' hx hi) hinv
    · have hmi2 : ({ s1 with ignoreLf := false } : State).mode ≠ .initial := fun h => hmi (hmode2.symm.trans h)
      have hmi' : (({ s1 with ignoreLf := false } : State).mode == Mode.initial) = false := by
        cases hmm : ({ s1 with ignoreLf := false } : State).mode <;> first | rfl | exact absurd hmm hmi2
      rw [hmi']
      simp only [Bool.false_eq_true, if_false]
      have hnt : s.mode ≠ .text := by
        intro h
        rcases hok.text h with ⟨y, hy⟩ | hy | ⟨t', ht', _⟩ | ⟨e, he⟩ <;> first | cases hy | cases ht' | cases he
      refine pc_getS_bind ?_
      by_cases hmt : s.mode = .inTableText
      · -- "in table text": the pending table text is flushed, the mode switched back, the token ignored there
        have hmt2 : ({ s1 with ignoreLf := false } : State).mode = .inTableText := hmode2.trans hmt
        have hmt' : (({ s1 with ignoreLf := false } : State).mode == Mode.inTableText) = true := by rw [hmt2]; rfl
        rw [if_pos hmt']
        rw [← bind_assoc]
        refine pc_seq (pc_flushSetMode (hmode .inTableText) ht2 hm2 hmt2) ?_
        rintro _ sB cB heB ⟨htB, hmB, htmB, hdB⟩
        have hBi : sB.mode ≠ .initial := by intro h; rw [h] at htmB; cases htmB
        have hBt : sB.mode ≠ .text := by intro h; rw [h] at htmB; cases htmB
        have hBtt : sB.mode ≠ .inTableText := by intro h; rw [h] at htmB; cases htmB
        refine pc_seq (pc_doctypeIgnored hmB hBi hBt hBtt dt.name dt.publicId dt.systemId dt.forceQuirks) ?_
        rintro _ s3 c3 he3 ⟨hm3, hd3⟩
        refine pc_bind (pc_pure ?_)
        refine pc_pure ?_
        simp only [List.nil_append, List.append_nil]
        have hd := hdB.withFresh.trans (fun _ _ h => h.1.2.2) hd3.withFresh
        have hcB : cfgOf sB = cfgOf s := hdB.1.trans hc0
        have hdtok : soleSTok (.doctype dt.name dt.publicId dt.systemId dt.forceQuirks)
            = STok.doctype dt.name dt.publicId dt.systemId dt.forceQuirks := rfl
        -- first iteration: "in table text", anything else: reprocess
        have hfirst : ∀ x xB, AuxOk s x →
            byModeDev (cfgOf ({ s1 with ignoreLf := false } : State)) (absF { s1 with ignoreLf := false } { x with out := {} })
              (.comment []) = .ok (.reprocess (absF sB xB)) →
            dispatchDev (cfgOf s) { absF s x with out := {}, ignoreLf := false }
              (STok.doctype dt.name dt.publicId dt.systemId dt.forceQuirks) = .ok (.reprocess (absF sB xB)) := by
          intro x xB hx e1
          rw [hc0, absF_prelude x hm hs1 he1] at e1
          have hacn := hacnH hmt
          have hu := useHtml_of_acnHtml hacn x hx (Spec.TreeModes.tokenKind (STok.doctype dt.name dt.publicId dt.systemId dt.forceQuirks))
          have hmσ : ({ absF s x with out := {}, ignoreLf := false } : SState).mode = .inTableText := by
            show imode s.mode = .inTableText
            rw [hmt]; rfl
          have hacnσ : Spec.TreeModes.adjustedCurrentNode (cfgOf s) ({ absF s x with out := {}, ignoreLf := false } : SState)
              = Spec.TreeModes.adjustedCurrentNode (cfgOf s) (absF s x) := rfl
          simp only [dispatchDev, hacnσ, hu, if_true]
          have hca : cellAssertFails ({ absF s x with out := {}, ignoreLf := false } : SState)
              (STok.doctype dt.name dt.publicId dt.systemId dt.forceQuirks) = false :=
            cellAssertFails_of_mode _ _ (by rw [hmσ]; decide)
          have hcb : cellAssertFails ({ absF s x with out := {}, ignoreLf := false } : SState) (STok.comment []) = false :=
            cellAssertFails_of_mode _ _ (by rw [hmσ]; decide)
          rw [byModeDev_eq _ _ _ hca]
          rw [byModeDev_eq _ _ _ hcb] at e1
          have hmσ' : (absF s x).mode = .inTableText := hmσ
          simp only [Spec.TreeModes.byMode, hmσ'] at e1 ⊢
          exact e1
        refine ptPost_of_dtr (t := .doctype dt.name dt.publicId dt.systemId dt.forceQuirks) rfl hm hs1 he1 hc1 hd hm3 ?_ ?_
        · rintro x x3 hx ⟨xB, ⟨⟨e1, hoB, _⟩, _⟩, hxB, ⟨e3, hx3, h1, h2⟩, _⟩
          refine ⟨⟨h1.trans hoB.1, h2.trans hoB.2⟩, fun h => hx3.not_stopped h, ?_⟩
          refine processTokenDev_tok rfl hx.live ?_
          rw [hcB] at e3
          refine LoopsTo.reprocess (σ1 := absF sB xB) ?_ (LoopsTo.done (by simpa [ruleOf, soleSTok] using e3))
          simp only [ruleOf, Bool.false_eq_true, if_false, hdtok]
          exact hfirst x xB hx e1
        · rintro _ x x3 hx ⟨xB, ⟨⟨e1, _, _⟩, hfB⟩, hxB, ⟨e3, _, _, _⟩, hf3⟩ _ hinv
          have hx0 := hx.prelude hm hs1 he1 ({} : Out Id) false
          have e1' := dispatchFull_of_dev (hfirst x xB hx e1) fun _ e => by cases e
          have hg3 : GS sB xB (STok.doctype dt.name dt.publicId dt.systemId dt.forceQuirks) s3 x3 :=
            gs_done htB hmB hxB hf3 (dispatchFull_of_dev e3 fun _ e => by cases e)
          have hgs : GS { s1 with ignoreLf := false } { x with out := {} }
              (STok.doctype dt.name dt.publicId dt.systemId dt.forceQuirks) s3 x3 :=
            gs_reprocess ht2 hm2 hx0 hfB (by rw [hc0, absF_prelude x hm hs1 he1]; exact e1') (hdB.1) hg3
          unfold GS at hgs
          rw [hc0, absF_prelude x hm hs1 he1] at hgs
          exact std_of_gs (tok := .doctype dt.name dt.publicId dt.systemId dt.forceQuirks) rfl hx.live hgs hinv
      · have hmt2 : ({ s1 with ignoreLf := false } : State).mode ≠ .inTableText := fun h => hmt (hmode2.symm.trans h)
        have hmt' : (({ s1 with ignoreLf := false } : State).mode == Mode.inTableText) = false := by
          cases hmm : ({ s1 with ignoreLf := false } : State).mode <;> first | rfl | exact absurd hmm hmt2
        rw [hmt']
        simp only [Bool.false_eq_true, if_false]
        have hnt2 : ({ s1 with ignoreLf := false } : State).mode ≠ .text := fun h => hnt (hmode2.symm.trans h)
        refine pc_seq (pc_doctypeIgnored hm2 hmi2 hnt2 hmt2 dt.name dt.publicId dt.systemId dt.forceQuirks) ?_
        rintro _ s3 c3 he3 ⟨hm3, hd3⟩
        refine pc_bind (pc_pure ?_)
        refine pc_pure ?_
        simp only [List.nil_append, List.append_nil]
        refine ptPost_of_dtr (t := .doctype dt.name dt.publicId dt.systemId dt.forceQuirks) rfl hm hs1 he1 hc1 hd3 hm3 ?_ ?_
        · rintro x x3 hx ⟨e3, hx3, h1, h2⟩
          refine ⟨⟨h1, h2⟩, fun h => hx3.not_stopped h, ?_⟩
          refine processTokenDev_tok rfl hx.live (LoopsTo.done ?_)
          rw [hc0, absF_prelude x hm hs1 he1] at e3
          simpa [ruleOf, soleSTok] using e3
        · rintro _ x x3 hx ⟨e3, _, _, _⟩ hfs hinv
          rw [hc0, absF_prelude x hm hs1 he1] at e3
          exact std_of_rule_done rfl ht2 hm2 hm hs1 he1 hx hfs e3 hinv
  | tag t =>
    dsimp only
    refine pc_bind (pc_pure ?_)
    dsimp only
    refine pc_getS_bind ?_
    generalize ptcFuel _ (Token.tag t) = fuel
    have hprot : ({ s1 with ignoreLf := false } : State).mode = .text → textTok (.tag t) = true :=
      fun h => textTok_of_ok hok (hmode2.symm.trans h) t rfl
    have hwf : TokWf (.tag t) := hok.tag t rfl
    refine pc_conseq (pc_ptc_tok hmode hfor (.tag t) rfl hwf fuel _ ht2 hm2 hprot) ?_
    intro r s' c2 _ hp
    simp only [List.nil_append]
    refine ptPost_tok (t := if t.kind == .startTag then .startTag (specTag t) else .endTag (specTag t))
      rfl ?_ ?_ (fun h => by cases h) hm hs1 he1 hc1 hp
    · split <;> rfl
    · simp only [stokOf, stokOfTag]; split <;> rfl
  | comment d =>
    dsimp only
    refine pc_bind (pc_pure ?_)
    dsimp only
    refine pc_getS_bind ?_
    generalize ptcFuel _ (Token.comment d) = fuel
    have hprot : ({ s1 with ignoreLf := false } : State).mode = .text → textTok (.comment d) = true := by
      intro h
      rcases hok.text (hmode2.symm.trans h) with ⟨x, hx⟩ | hx | ⟨t', ht', _⟩ | ⟨e, he⟩ <;> first | cases hx | cases ht' | cases he
    refine pc_conseq (pc_ptc_tok hmode hfor (.comment d) rfl trivial fuel _ ht2 hm2 hprot) ?_
    intro r s' c2 _ hp
    simp only [List.nil_append]
    exact ptPost_tok (t := .comment d) rfl rfl rfl (fun h => by cases h) hm hs1 he1 hc1 hp
  | eof =>
    dsimp only
    refine pc_bind (pc_pure ?_)
    dsimp only
    refine pc_getS_bind ?_
    generalize ptcFuel _ Token.eof = fuel
    refine pc_conseq (pc_ptc_tok hmode hfor .eof rfl trivial fuel _ ht2 hm2 (fun _ => rfl)) ?_
    intro r s' c2 _ hp
    simp only [List.nil_append]
    exact ptPost_tok (t := .eof) rfl rfl rfl (fun _ => rfl) hm hs1 he1 hc1 hp
  | nullChar =>
    dsimp only
    refine pc_bind (pc_pure ?_)
    dsimp only
    refine pc_getS_bind ?_
    generalize ptcFuel _ Token.nullChar = fuel
    have hprot : ({ s1 with ignoreLf := false } : State).mode = .text → textTok .nullChar = true := by
      intro h
      rcases hok.text (hmode2.symm.trans h) with ⟨x, hx⟩ | hx | ⟨t', ht', _⟩ | ⟨e, he⟩ <;> first | cases hx | cases ht' | cases he
    refine pc_conseq (pc_ptc_tok hmode hfor .nullChar rfl trivial fuel _ ht2 hm2 hprot) ?_
    rintro r s' c2 _ ⟨_, hm', hd⟩
    simp only [List.nil_append]
    refine ptPost_of_dtr (t := .chars ['\x00']) rfl hm hs1 he1 hc1 hd hm' ?_ (fun h => by cases h)
    rintro x x' hx ⟨ho, hl, hst, _⟩
    refine ⟨ho, fun h => absurd (hst h) (by intro h'; cases h'), ?_⟩
    rw [hc0, absF_prelude x hm hs1 he1] at hl
    have hct : CharsTo (cfgOf s) { absF s x with out := {}, ignoreLf := false } ['\x00'] (absF s' x') :=
      CharsTo.cons hx.live rfl hl (CharsTo.nil _ _)
    have hd0 : dropIgnoredLf ({ absF s x with out := {} } : SState).ignoreLf ['\x00'] = ['\x00'] := by
      unfold dropIgnoredLf; split <;> rfl
    obtain ⟨F, hF⟩ := processCharsDev_lf (σ := { absF s x with out := {} }) (text := ['\x00']) hx.live
      (by rw [hd0]; exact hct) (fun h => by cases h)
    refine ⟨F, fun fuel hfu => ?_⟩
    unfold processTokenDev
    simp only [hF fuel hfu, finishTok]
    rfl
  | chars x =>
    dsimp only
    refine pc_bind (pc_pure ?_)
    obtain ⟨hxne, hxnul⟩ := hok.chars x rfl
    have hlfσ : ∀ y : Aux, ({ absF s y with out := {} } : SState).ignoreLf = s1.ignoreLf := fun y => hs1.fields.ignoreLf.symm
    rcases charsToken_spec (lf := s1.ignoreLf) hxne hxnul with ⟨hcn, hdn⟩ | ⟨hcs, hwf⟩
    · rw [hcn]
      dsimp only
      refine pc_pure ?_
      refine ptPost_of_dtr (t := .chars x) rfl hm hs1 he1 hc1 (DTr.refl _) hm2 ?_ (fun h => by cases h)
      rintro y y' hy hyy
      subst y'
      refine ⟨⟨rfl, rfl⟩, fun h => hy.not_stopped h, ?_⟩
      have hct : CharsTo (cfgOf s) { absF s y with out := {}, ignoreLf := false }
          (dropIgnoredLf ({ absF s y with out := {} } : SState).ignoreLf x)
          (absF { s1 with ignoreLf := false } { y with out := {} }) := by
        rw [hlfσ y, hdn, absF_prelude y hm hs1 he1]
        exact CharsTo.nil _ _
      obtain ⟨F, hF⟩ := processCharsDev_lf (σ := { absF s y with out := {} }) (text := x) hy.live hct
        (fun h => absurd h hxne)
      refine ⟨F, fun fuel hfu => ?_⟩
      unfold processTokenDev
      simp only [hF fuel hfu, finishTok]
      rfl
    · rw [hcs]
      dsimp only
      refine pc_getS_bind ?_
      generalize ptcFuel _ (Token.chars .notSplit (dropIgnoredLf s1.ignoreLf x)) = fuel
      refine pc_conseq (pc_ptc_chars hchar hforc fuel .notSplit _ [] _ hwf (Or.inl rfl) ht2 hm2 hlf2) ?_
      rintro r s' c2 _ ⟨hr, _, hm', hlf', hd⟩
      subst hr
      simp only [List.nil_append]
      refine ptPost_of_dtr (t := .chars x) rfl hm hs1 he1 hc1 hd hm' ?_ (fun h => by cases h)
      rintro y y' hy ⟨hy', h1, h2, c, cs, σ1, htext, l1, l2⟩
      refine ⟨⟨h1, h2⟩, fun h => hy'.not_stopped h, ?_⟩
      rw [hc0, absF_prelude y hm hs1 he1] at l1
      rw [hc0] at l2
      have hct : CharsTo (cfgOf s) { absF s y with out := {}, ignoreLf := false }
          (dropIgnoredLf ({ absF s y with out := {} } : SState).ignoreLf x) (absF s' y') := by
        rw [hlfσ y, htext]
        exact CharsTo.cons hy.live rfl l1 (by simpa [moreText] using l2)
      obtain ⟨F, hF⟩ := processCharsDev_lf (σ := { absF s y with out := {} }) (text := x) hy.live hct
        (fun h => absurd h hxne)
      refine ⟨F, fun fuel hfu => ?_⟩
      unfold processTokenDev
      simp only [hF fuel hfu, finishTok]
      rfl

/-! ### the invariant `Good` of the specification's run, at the states between two tokens -/

/-- the abstract states of `s` satisfy the invariant of the specification's run -/
def XInv (s : State) : Prop := ∀ x, AuxOk s x → H5V.Lemmas.ModesInv.Inv (absF s x)

theorem imode_inTableText {m : Mode} (h : imode m = .inTableText) : m = .inTableText := by
  cases m <;> first | rfl | cases h

/-- `Good` does not depend on the `Aux` (between two tokens) -/
theorem good_absF_indep {s : State} {x x' : Aux} (ht : TI s) (hx : AuxOk s x) (hx' : AuxOk s x')
    (hg : H5V.Lemmas.ModesInv.Good (absF s x)) : H5V.Lemmas.ModesInv.Good (absF s x') := by
  have hstack : (absF s x').p.stack = (absF s x).p.stack := by rw [absF_stack hx', absF_stack hx]
  have horig : (s.mode = .text ∨ s.mode = .inTableText) → (absF s x').originalMode = (absF s x).originalMode := by
    intro hmode
    have : ∃ om, s.origMode = some om := by
      rcases hmode with h | h
      · obtain ⟨om, ho, _⟩ := ht.s.text h; exact ⟨om, ho⟩
      · obtain ⟨om, ho, _⟩ := ht.s.tableText h; exact ⟨om, ho⟩
    obtain ⟨om, ho⟩ := this
    simp only [absF, ho, Option.map_some, Option.getD_some]
  have hnames : (absF s x').names = (absF s x).names := by
    simp only [Spec.TreeModes.State.names, hstack]
  constructor
  · intro h; rw [hnames]; exact hg.cell h
  · intro h
    have hm' : s.mode = .text := imode_text h
    rw [horig (Or.inl hm'), hnames]
    exact hg.text h
  · intro h
    have hm' : s.mode = .inTableText := imode_inTableText h
    rw [horig (Or.inr hm')]
    have := hg.ttext h
    simp only [Spec.TreeModes.State.curIn, Spec.TreeModes.State.cur, hstack] at this ⊢
    exact this
  · exact hg.nosel
  · exact hg.af
  · exact hg.tm

/-- in "in table text" the adjusted current node is an HTML element (the current node is the `table`, `tbody`,
`template`, `tfoot`, `thead` or `tr` element under which the mode was entered) -/
theorem acnHtml_of_xinv {s : State} (ht : TI s) (hm : MInv s) (hinv : XInv s) (hmode : s.mode = .inTableText) :
    AcnHtml s := by
  obtain ⟨x, hx, _⟩ := auxOk_exists hm []
  have hg := hinv x hx hx.live
  obtain ⟨_, hc⟩ := hg.ttext (by show imode s.mode = _; rw [hmode]; rfl)
  have hs : SInv .inTableText s := by have := ht.s; rw [hmode] at this; exact this
  obtain ⟨r, rest, hl, hr⟩ := hs.root rfl
  rw [absF_stack hx] at hc
  -- the first element of the stack is the `html` element: not one of the six
  have hhead : ((absStack s.dom s.openElems).head?.any fun e =>
      Spec.TreeAlgo.inHtml H5V.Lemmas.ModesInv.tableish e.name) = false := by
    rw [hl]
    simp only [absStack, List.map_cons, List.head?_cons, Option.any_some, elemOf]
    rw [← nm_eq_nameOf, hr]
    decide
  have hcur : (absF s x).curIn H5V.Lemmas.ModesInv.tableish = true := by
    rcases hc with hc | hc
    · exact hc
    · rw [hhead] at hc; cases hc
  simp only [Spec.TreeModes.State.curIn, Spec.TreeModes.State.cur, absF_stack hx] at hcur
  intro c hcn
  unfold TBSafe.adjNode at hcn
  cases hlast : s.openElems.getLast? with
  | none => rw [hlast] at hcn; cases hcn
  | some top =>
    rw [hlast] at hcn
    have htop : Spec.TreeAlgo.inHtml H5V.Lemmas.ModesInv.tableish (elemOf s.dom top).name = true := by
      unfold absStack at hcur
      rw [List.getLast?_map, hlast] at hcur
      simpa using hcur
    have hns : (nameOf s.dom top).ns = nsHtml := by
      simp only [Spec.TreeAlgo.inHtml, Bool.and_eq_true, beq_iff_eq] at htop
      exact htop.1
    dsimp only at hcn
    split at hcn
    · rename_i hlen
      -- a one-element stack: the current node would be the `html` element
      exfalso
      have hlen' : s.openElems.length = 1 := by simpa using hlen
      rw [hl] at hlen' hlast
      have hrest : rest = [] := by
        cases rest with
        | nil => rfl
        | cons a b => simp at hlen'
      subst hrest
      simp only [List.getLast?_singleton, Option.some.injEq] at hlast
      subst hlast
      have : Spec.TreeAlgo.inHtml H5V.Lemmas.ModesInv.tableish (elemOf s.dom r).name = true := htop
      simp only [elemOf] at this
      rw [← nm_eq_nameOf, hr] at this
      revert this; decide
    · cases hcn; exact hns

/-! ### a list of tokens -/

/-- the protocol of the token source along the model's run: every token is acceptable in the state it
arrives in (`TokTokOk`), nothing follows the end-of-file token -/
def Respects2 : State → List (TokToken × Nat) → Prop
  | _, [] => True
  | s, (t, line) :: rest =>
    TokTokOk s t ∧ (t = .eof → rest = []) ∧
    ∀ r s', (processToken t line).run s = .ok (r, s') → Respects2 s' rest

/-- the answer to the tokenizer, as a value: a script to run or a tokenizer state to switch to -/
def outAnswer (o : Out Id) : Option (Id ⊕ TokSwitch) :=
  match o.script with
  | some n => some (.inl n)
  | none => o.switch.map .inr

def resAnswer : SinkResult → Option (Id ⊕ TokSwitch)
  | .script n => some (.inl n)
  | .plaintext => some (.inr .plaintext)
  | .rawData k => some (.inr (rawSwitch k))
  | _ => none

theorem answer_of_outRelR {r : SinkResult} {o : Out Id} (h : OutRelR r {} o) : resAnswer r = outAnswer o := by
  cases r <;> simp only [OutRelR] at h <;> simp [resAnswer, outAnswer, h.1, h.2]

/-- the standard's tokens of a list of tokenizer tokens -/
def specToks (toks : List (TokToken × Nat)) : List Spec.TreeModes.Token := toks.filterMap (fun p => specTokOf p.1)

/-- the post-condition of a token list -/
def RunPost (s : State) (toks : List (TokToken × Nat)) (acc : List SinkResult) :
    List SinkResult → State → List Call → Prop :=
  fun res s' calls => TI s' ∧ MInv s' ∧ cfgOf s' = cfgOf s ∧ TBSafe.Ext s.dom s'.dom ∧
    ∃ ids, ∀ x rest, AuxOk s x → x.supply = ids ++ rest →
      ∃ x' os, (x'.stopped = false → AuxOk s' x') ∧ x'.supply = rest ∧
        (∃ ops, x'.fullLog = x.fullLog ++ ops ∧
          ∀ tc, TcOk s'.dom tc → flatCalls (edits2 calls) = flatCalls (ops.map (opCall tc))) ∧
        x'.outs = x.outs ++ os ∧
        res.reverse.filterMap resAnswer = acc.reverse.filterMap resAnswer ++ os.filterMap outAnswer ∧
        (∃ F, ∀ fuel, F ≤ fuel → runDev (cfgOf s) fuel (absF s x) (specToks toks) = .ok (absF s' x')) ∧
        -- the UNMODIFIED specification, from a state that satisfies the invariant of its run
        (H5V.Lemmas.ModesInv.Inv (absF s x) → H5V.Lemmas.ModesInv.Inv (absF s' x') ∧
          ∃ F, ∀ fuel, F ≤ fuel → Spec.TreeModes.run (cfgOf s) fuel (absF s x) (specToks toks) = .ok (absF s' x'))

/-- one token, then the rest: the unmodified specification -/
theorem std_cons {s s1 : State} {x x1 : Aux} {t : TokToken} {line : Nat} {rest : List (TokToken × Nat)} {r : SinkResult}
    {σ2 : SState}
    (hm1 : match specTokOf t with
      | none => r = .continue_ ∧ absF s1 x1 = absF s x ∧ x1.outs = x.outs
      | some st => ∃ o, x1.outs = x.outs ++ [o] ∧ OutRelR r {} o ∧
          (∃ F, ∀ fuel, F ≤ fuel → processTokenDev (cfgOf s) fuel (absF s x) st = .ok (absF s1 x1)) ∧
          (H5V.Lemmas.ModesInv.Inv (absF s x) → H5V.Lemmas.ModesInv.Inv (absF s1 x1) ∧
            ∃ F, ∀ fuel, F ≤ fuel → Spec.TreeModes.processToken (cfgOf s) fuel (absF s x) st = .ok (absF s1 x1)))
    (hi : H5V.Lemmas.ModesInv.Inv (absF s x)) :
    H5V.Lemmas.ModesInv.Inv (absF s1 x1) ∧
      ((∃ F, ∀ fuel, F ≤ fuel → Spec.TreeModes.run (cfgOf s) fuel (absF s1 x1) (specToks rest) = .ok σ2) →
        ∃ F, ∀ fuel, F ≤ fuel → Spec.TreeModes.run (cfgOf s) fuel (absF s x) (specToks ((t, line) :: rest)) = .ok σ2) := by
  cases hsp : specTokOf t with
  | none =>
    rw [hsp] at hm1
    obtain ⟨_, ha, _⟩ := hm1
    refine ⟨by rw [ha]; exact hi, ?_⟩
    rintro ⟨F2, hF2⟩
    refine ⟨F2, fun fuel hfu => ?_⟩
    have : specToks ((t, line) :: rest) = specToks rest := by simp [specToks, hsp]
    rw [this, ← ha]; exact hF2 fuel hfu
  | some st =>
    rw [hsp] at hm1
    obtain ⟨o, _, _, _, hstd⟩ := hm1
    obtain ⟨hi1, F1, hF1⟩ := hstd hi
    refine ⟨hi1, ?_⟩
    rintro ⟨F2, hF2⟩
    refine ⟨max F1 F2, fun fuel hfu => ?_⟩
    have : specToks ((t, line) :: rest) = st :: specToks rest := by simp [specToks, hsp]
    rw [this]
    simp only [Spec.TreeModes.run]
    rw [hF1 fuel (by omega)]
    exact hF2 fuel (by omega)

theorem pc_processTokens (hmode : ∀ m, ModeSim m) (hchar : ∀ m, ModeCharSim m) (hfor : ForeignSim)
    (hforc : ForeignCharSim) (hdt : DoctypeInitialSim) :
    ∀ (toks : List (TokToken × Nat)) (acc : List SinkResult) (s : State), TI s → MInv s → XInv s → Respects2 s toks →
    PC (processTokens toks acc) s (RunPost s toks acc) := by
  intro toks
  induction toks with
  | nil =>
    intro acc s ht hm _ _
    unfold processTokens
    refine pc_pure ⟨ht, hm, rfl, TBSafe.Ext.refl _, [], fun x rest hx hs => ?_⟩
    exact ⟨x, [], fun _ => hx, by simpa using hs, ⟨[], by simp, fun _ _ => rfl⟩, by simp, by simp, ⟨0, fun _ _ => rfl⟩,
      fun hi => ⟨hi, 0, fun _ _ => rfl⟩⟩
  | cons tk rest ih =>
    intro acc s ht hm hinv hresp
    obtain ⟨t, line⟩ := tk
    obtain ⟨hok, heof, hnext⟩ := hresp
    unfold processTokens
    refine pc_seq (pc_with_run (pc_and_run
      (@H5V.Props.C04TB.C04_tb_no_panic_token H5V.Props.C04TB.allowAll trivial s t line ht (fun _ => Or.inl trivial)).1
      (pc_processToken hmode hchar hfor hforc hdt t line s ht hm hok (acnHtml_of_xinv ht hm hinv)))) ?_
    rintro r s1 c1 he1 ⟨⟨ht1, hp⟩, hrun⟩
    obtain ⟨hm1, hc1, hext1, ids1, f1⟩ := hp
    -- the results collected so far
    have hacc : (if r == SinkResult.continue_ then acc else r :: acc).reverse.filterMap resAnswer
        = acc.reverse.filterMap resAnswer ++ (resAnswer r).toList := by
      by_cases hr : r = .continue_
      · subst hr; simp [resAnswer]
      · have : (r == SinkResult.continue_) = false := by simpa using hr
        rw [this]
        simp only [Bool.false_eq_true, if_false, List.reverse_cons, List.filterMap_append, List.filterMap_cons,
          List.filterMap_nil]
        cases resAnswer r <;> rfl
    -- the specification's run over the first token and the rest
    have hspec : ∀ (x x1 : Aux) (σ2 : SState) (os1 : List (Out Id)),
        (match specTokOf t with
          | none => r = .continue_ ∧ absF s1 x1 = absF s x ∧ x1.outs = x.outs
          | some st => ∃ o, x1.outs = x.outs ++ [o] ∧ OutRelR r {} o ∧
              (∃ F, ∀ fuel, F ≤ fuel → processTokenDev (cfgOf s) fuel (absF s x) st = .ok (absF s1 x1)) ∧
              (H5V.Lemmas.ModesInv.Inv (absF s x) → H5V.Lemmas.ModesInv.Inv (absF s1 x1) ∧
                ∃ F, ∀ fuel, F ≤ fuel → Spec.TreeModes.processToken (cfgOf s) fuel (absF s x) st = .ok (absF s1 x1))) →
        (∃ F, ∀ fuel, F ≤ fuel → runDev (cfgOf s) fuel (absF s1 x1) (specToks rest) = .ok σ2) →
        (∃ o1, x1.outs = x.outs ++ o1 ∧ (resAnswer r).toList = o1.filterMap outAnswer) ∧
        ∃ F, ∀ fuel, F ≤ fuel → runDev (cfgOf s) fuel (absF s x) (specToks ((t, line) :: rest)) = .ok σ2 := by
      intro x x1 σ2 os1 hm1 ⟨F2, hF2⟩
      cases hsp : specTokOf t with
      | none =>
        rw [hsp] at hm1
        obtain ⟨hr, ha, ho⟩ := hm1
        refine ⟨⟨[], by simpa using ho, by subst hr; rfl⟩, F2, fun fuel hfu => ?_⟩
        have : specToks ((t, line) :: rest) = specToks rest := by simp [specToks, hsp]
        rw [this, ← ha]; exact hF2 fuel hfu
      | some st =>
        rw [hsp] at hm1
        obtain ⟨o, ho, hrel, ⟨F1, hF1⟩, _⟩ := hm1
        refine ⟨⟨[o], ho, ?_⟩, max F1 F2, fun fuel hfu => ?_⟩
        · rw [answer_of_outRelR hrel]
          simp only [List.filterMap_cons, List.filterMap_nil]
          cases outAnswer o <;> rfl
        · have : specToks ((t, line) :: rest) = st :: specToks rest := by simp [specToks, hsp]
          rw [this]
          simp only [runDev]
          rw [hF1 fuel (by omega)]
          exact hF2 fuel (by omega)
    by_cases hte : t = .eof
    · -- the end-of-file token is the last one
      have hrest := heof hte
      subst hrest
      unfold processTokens
      refine pc_pure ?_
      refine ⟨ht1, hm1, hc1, hext1, ids1, fun x rst hx hs => ?_⟩
      obtain ⟨x1, hx1, hs1, ⟨ops1, e1, k1⟩, hst1, hm1⟩ := f1 x rst hx hs
      obtain ⟨⟨o1, ho1, ha1⟩, hF⟩ := hspec x x1 (absF s1 x1) [] hm1 ⟨0, fun _ _ => rfl⟩
      refine ⟨x1, o1, hx1, hs1, ⟨ops1, e1, by simpa using k1⟩, ho1, ?_, hF, ?_⟩
      · rw [hacc, ha1]
      · intro hi
        obtain ⟨hi1, hrun1⟩ := std_cons (rest := []) (line := line) (σ2 := absF s1 x1) hm1 hi
        exact ⟨hi1, hrun1 ⟨0, fun _ _ => rfl⟩⟩
    · -- the invariant of the specification's run at the state between the two tokens
      have hinv1 : XInv s1 := by
        intro x1' hx1'
        obtain ⟨x, hx, hxs⟩ := auxOk_exists hm (ids1 ++ x1'.supply)
        obtain ⟨x1, hx1, _, _, hst1, hm1'⟩ := f1 x x1'.supply hx hxs
        have hlive : x1.stopped = false := by
          cases h : x1.stopped
          · rfl
          · exact absurd (hst1 h) hte
        have hi1 := (std_cons (rest := rest) (line := line) (σ2 := absF s1 x1) hm1' (hinv x hx)).1
        intro _
        exact good_absF_indep ht1 (hx1 hlive) hx1' (hi1 hlive)
      refine pc_conseq (ih (if r == .continue_ then acc else r :: acc) s1 ht1 hm1 hinv1 (hnext r s1 hrun)) ?_
      rintro res s2 c2 he2 ⟨ht2, hm2, hc2, hext2, ids2, f2⟩
      refine ⟨ht2, hm2, hc2.trans hc1, hext1.trans hext2, ids1 ++ ids2, fun x rst hx hs => ?_⟩
      obtain ⟨x1, hx1, hs1, ⟨ops1, e1, k1⟩, hst1, hm1⟩ := f1 x (ids2 ++ rst) hx (by rw [hs, List.append_assoc])
      have hlive : x1.stopped = false := by
        cases h : x1.stopped
        · rfl
        · exact absurd (hst1 h) hte
      obtain ⟨x2, os2, hx2, hs2, ⟨ops2, e2, k2⟩, ho2, hfb2, hF2, hstd2⟩ := f2 x1 rst (hx1 hlive) hs1
      rw [hc1] at hF2 hstd2
      obtain ⟨⟨o1, ho1, ha1⟩, hF⟩ := hspec x x1 (absF s2 x2) [] hm1 hF2
      refine ⟨x2, o1 ++ os2, hx2, hs2, ⟨ops1 ++ ops2, by rw [e2, e1, List.append_assoc], ?_⟩,
        by rw [ho2, ho1, List.append_assoc], ?_, hF, ?_⟩
      · intro tc htc
        rw [edits2_append, flatCalls_append, List.map_append, flatCalls_append, k1 tc (tcOk_of_ext htc hext2), k2 tc htc]
      · rw [hfb2, hacc, ha1, List.filterMap_append, List.append_assoc]
      · intro hi
        obtain ⟨hi1, hrun1⟩ := std_cons (rest := rest) (line := line) (σ2 := absF s2 x2) hm1 hi
        obtain ⟨hi2, hrun2⟩ := hstd2 hi1
        exact ⟨hi2, hrun1 hrun2⟩

end H5V.Lemmas.HtmlTBModes
