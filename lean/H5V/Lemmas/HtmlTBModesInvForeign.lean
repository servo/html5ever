import H5V.Lemmas.HtmlTBModesInvPrim2
/-!
C02 (insertion modes), the invariant `Good` of the specification's run: the rules for parsing tokens in foreign
content (§13.2.6.5, `Spec.TreeModes.foreign`).

The rules never touch the insertion mode, the original insertion mode, the template insertion modes or the list of
active formatting elements; they push elements outside the HTML namespace and pop elements outside the HTML
namespace (`FgRel`).  Hence "has a td/th in table scope" is kept, and an HTML element at the bottom of the stack
stays there.
-/
set_option linter.unusedSectionVars false
namespace H5V.Lemmas.ModesInv
open H5V.Spec H5V.Spec.TreeModes
open H5V.Spec.TreeAlgo (Str Name nsHtml nsMathml nsSvg inHtml)
open H5V.Spec.TreeAlgo2 (Elem Entry PState)

section
variable {N : Type} [DecidableEq N]

/-! ### stacks that differ by pushed / popped foreign elements only -/

/-- `st` arises from `st0` by pushing elements outside the HTML namespace (`ps`) and popping elements outside the
HTML namespace (`fs`) -/
def FgRel (st0 st : List (Elem N)) : Prop :=
  ∃ ps fs : List (Elem N), (∀ e ∈ ps, e.name.ns ≠ nsHtml) ∧ (∀ e ∈ fs, e.name.ns ≠ nsHtml) ∧ st0 ++ ps = st ++ fs

theorem fg_rel_refl (st : List (Elem N)) : FgRel st st :=
  ⟨[], [], fun _ h => (by cases h), fun _ h => (by cases h), rfl⟩

/-- popping foreign elements: `st0 = st ++ fs` -/
theorem fg_rel_pop {st0 st fs : List (Elem N)} (hfs : ∀ e ∈ fs, e.name.ns ≠ nsHtml) (h : st0 = st ++ fs) :
    FgRel st0 st :=
  ⟨[], fs, fun _ h => (by cases h), hfs, (by rw [List.append_nil, h])⟩

/-- (a) "has a td/th in table scope" is the same -/
theorem fg_rel_cellR {st0 st : List (Elem N)} (h : FgRel st0 st) : cellR (namesOf st) = cellR (namesOf st0) := by
  obtain ⟨ps, fs, hps, hfs, he⟩ := h
  rw [← cellR_append_neutral st (es := fs) (fun e he => neutralN_of_ns (hfs e he)), ← he,
    cellR_append_neutral st0 (fun e he => neutralN_of_ns (hps e he))]

/-- (b) an HTML element at the bottom of the stack stays there -/
theorem fg_rel_head {st0 st : List (Elem N)} (h : FgRel st0 st) {b : Elem N} (hb : st0.head? = some b)
    (hns : b.name.ns = nsHtml) : st.head? = some b := by
  obtain ⟨ps, fs, hps, hfs, he⟩ := h
  cases st0 with
  | nil => cases hb
  | cons a l =>
    simp only [List.head?_cons, Option.some.injEq] at hb
    subst hb
    cases st with
    | nil =>
      simp only [List.nil_append] at he
      exact absurd hns (hfs a (by rw [← he]; simp))
    | cons x st' =>
      simp only [List.cons_append, List.cons.injEq] at he
      rw [← he.1]; rfl

/-! ### the pieces of `foreign` -/

theorem fg_stops_ns {s : State N} {e : Elem N} (h : (!stopsBreakOut s e) = true) : e.name.ns ≠ nsHtml := by
  unfold stopsBreakOut at h
  simp only [Bool.not_eq_true', Bool.or_eq_false_iff] at h
  simpa using h.2

theorem fg_breakOut (σ : State N) :
    ∃ s' st, foreignBreakOut σ = .reprocessHtml s' ∧ Upd σ s' st σ.p.list ∧ FgRel σ.p.stack st := by
  refine ⟨_, _, rfl, ⟨rfl, rfl, rfl, rfl, rfl, rfl⟩, ?_⟩
  refine fg_rel_pop (fs := (σ.p.stack.reverse.takeWhile fun e =>
    !stopsBreakOut (σ.err "foreign content: HTML tag breaks out") e).reverse) ?_ ?_
  · intro e he
    have he' : e ∈ σ.p.stack.reverse.takeWhile fun e =>
        !stopsBreakOut (σ.err "foreign content: HTML tag breaks out") e := List.mem_reverse.mp he
    have hp := mem_takeWhile_p he'
    exact fg_stops_ns hp
  · show σ.p.stack = (List.dropWhile _ σ.p.stack.reverse).reverse ++ _
    rw [← List.reverse_append, List.takeWhile_append_dropWhile, List.reverse_reverse]

theorem fg_svgScript {s : State N} {r : Step N} (h : foreignEndSvgScript s = .ok r) :
    ∃ s', r = .done s' ∧ Upd s s' s.p.stack.dropLast s.p.list := by
  unfold foreignEndSvgScript at h
  obtain ⟨sc, _, h2⟩ := bind_ok h
  cases pure_ok h2
  exact ⟨_, rfl, ⟨rfl, rfl, rfl, rfl, rfl, rfl⟩⟩

/-- the dispatcher chose the foreign rules: the adjusted current node is not an HTML element -/
theorem fg_acn_ns {acn : Option TreeAlgo.OpenElem} {k : TreeAlgo.TokenKind} {e : TreeAlgo.OpenElem}
    (hu : TreeAlgo.useHtmlRules acn k = false) (ha : acn = some e) : e.name.ns ≠ nsHtml := by
  subst ha
  unfold TreeAlgo.useHtmlRules at hu
  simp only [Bool.or_eq_false_iff] at hu
  simpa using hu.1.1.1.1.1.1

theorem fg_startTag {cfg : Config N} {σ : State N} {t : Tag} {k : TreeAlgo.TokenKind} {r : Step N}
    (hu : TreeAlgo.useHtmlRules (adjustedCurrentNode cfg σ) k = false)
    (h : foreignAnyOtherStartTag cfg σ t = .ok r) :
    ∃ s' st, r = .done s' ∧ Upd σ s' st σ.p.list ∧ FgRel σ.p.stack st := by
  unfold foreignAnyOtherStartTag at h
  obtain ⟨acn, ha, h⟩ := bind_ok h
  have hns : acn.name.ns ≠ nsHtml := fg_acn_ns hu (req_ok ha)
  dsimp only at h
  obtain ⟨⟨s1, e⟩, hi, h⟩ := bind_ok h
  obtain ⟨he, hne, hu1⟩ := insertForeign_eff hi
  dsimp only at h
  have hpop : (σ.p.stack ++ [e]).dropLast = σ.p.stack := by simp
  have tail : ∀ c : Bool, (if t.selfClosing = true then
      (if c = true then foreignEndSvgScript (s1.ack t) else pure (.done (s1.pop.ack t)))
      else pure (.done s1)) = .ok r → ∃ s' st, r = .done s' ∧ Upd σ s' st σ.p.list ∧ FgRel σ.p.stack st := by
    intro c h
    rcases ite_cases h with ⟨_, h⟩ | ⟨_, h⟩
    · rcases ite_cases h with ⟨_, h⟩ | ⟨_, h⟩
      · obtain ⟨s', rfl, hu2⟩ := fg_svgScript h
        refine ⟨s', σ.p.stack, rfl, ?_, fg_rel_refl _⟩
        have h1 := hu2.stack
        have h2 := hu2.list
        have h3 := hu2.mode
        have h4 := hu2.orig
        have h5 := hu2.tms
        have h6 := hu2.stopped
        simp only [ack_p, ack_mode, ack_orig, ack_tms, ack_stopped, hu1.stack, hu1.list, hu1.mode, hu1.orig, hu1.tms,
          hu1.stopped, hpop] at h1 h2 h3 h4 h5 h6
        exact ⟨h3, h4, h5, h6, h1, h2⟩
      · cases pure_ok h
        refine ⟨_, σ.p.stack, rfl, ?_, fg_rel_refl _⟩
        constructor <;> simp [hu1.stack, hu1.list, hu1.mode, hu1.orig, hu1.tms, hu1.stopped]
    · cases pure_ok h
      exact ⟨s1, _, rfl, hu1, [e], [], (by intro x hx; simp at hx; subst hx; rw [he]; exact hns),
        fun _ h => (by cases h), (by simp)⟩
  exact tail _ h

/-- the loop of "any other end tag": the elements between the current node and the matching node (inclusive) are
not HTML elements, and the matching node is not the first element of the stack -/
theorem fg_loop {name : Str} : ∀ (l : List (Elem N)) (n k : Nat), foreignEndLoop name l n = .popThrough k →
    ∃ j, k = n + j ∧ 2 ≤ l.length ∧ ∀ e ∈ (l.take (j + 1)).drop 1, e.name.ns ≠ nsHtml
  | [], _, _, h => by simp [foreignEndLoop] at h
  | [_], _, _, h => by simp [foreignEndLoop] at h
  | node :: prev :: rest, n, k, h => by
    unfold foreignEndLoop at h
    rcases ite_cases h with ⟨_, h⟩ | ⟨_, h⟩
    · cases h
      exact ⟨0, rfl, by simp, by simp⟩
    rcases ite_cases h with ⟨_, h⟩ | ⟨_, h⟩
    · rename_i hp
      obtain ⟨j, hk, _, hj⟩ := fg_loop (prev :: rest) (n + 1) k h
      refine ⟨j + 1, by omega, by simp, ?_⟩
      intro e he
      simp only [List.take_succ_cons, List.drop_one, List.tail_cons, List.mem_cons] at he
      rcases he with rfl | he
      · simpa using hp
      · exact hj e (by simpa using he)
    · cases h

theorem fg_popThrough {cfg : Config N} {σ : State N} {name : Str} {k : Nat} {kind : TreeAlgo.TokenKind}
    (hu : TreeAlgo.useHtmlRules (adjustedCurrentNode cfg σ) kind = false)
    (h : foreignEndLoop name σ.p.stack.reverse 0 = .popThrough k) :
    FgRel σ.p.stack (σ.p.stack.take (σ.p.stack.length - (k + 1))) := by
  obtain ⟨j, hk, h2, hj⟩ := fg_loop _ _ _ h
  have hk : k = j := by omega
  subst hk
  have h2 : 2 ≤ σ.p.stack.length := by simpa using h2
  cases ht : σ.p.stack.getLast? with
  | none =>
    rw [List.getLast?_eq_none_iff.mp ht] at h2
    simp at h2
  | some top =>
    have htop : top.name.ns ≠ nsHtml := top_foreign_of_not_useHtml cfg σ ht (Or.inl h2) hu
    have hr : σ.p.stack.reverse = top :: σ.p.stack.dropLast.reverse := by
      obtain ⟨ys, hys⟩ := List.getLast?_eq_some_iff.mp ht
      rw [hys]; simp
    refine fg_rel_pop (fs := (σ.p.stack.reverse.take (k + 1)).reverse) ?_ ?_
    · intro e he
      have he := List.mem_reverse.mp he
      rw [hr] at he hj
      simp only [List.take_succ_cons, List.mem_cons] at he
      rcases he with rfl | he
      · exact htop
      · exact hj e (by simpa using he)
    · have : σ.p.stack.take (σ.p.stack.length - (k + 1)) = (σ.p.stack.reverse.drop (k + 1)).reverse := by
        rw [← reverse_take', List.reverse_reverse]
      rw [this, ← List.reverse_append, List.take_append_drop, List.reverse_reverse]

theorem fg_popThrough' {cfg : Config N} {σ s : State N} {name : Str} {k : Nat} {kind : TreeAlgo.TokenKind}
    (hu : TreeAlgo.useHtmlRules (adjustedCurrentNode cfg σ) kind = false) (hs : s.p.stack = σ.p.stack)
    (h : foreignEndLoop name s.p.stack.reverse 0 = .popThrough k) :
    FgRel σ.p.stack (s.p.stack.take (s.p.stack.length - (k + 1))) := by
  rw [hs] at h ⊢
  exact fg_popThrough hu h

theorem fg_upd_setStack {σ s : State N} (hs : Upd σ s σ.p.stack σ.p.list) (st : List (Elem N)) :
    Upd σ (s.setStack st) st σ.p.list := ⟨hs.mode, hs.orig, hs.tms, hs.stopped, rfl, hs.list⟩

/-- the effect of `foreign`: either it hands the end tag to the rules of the insertion mode, or it only pushes /
pops elements outside the HTML namespace -/
theorem fg_eff {cfg : Config N} {σ : State N} {tok : STok} {r : Step N}
    (hu : TreeAlgo.useHtmlRules (adjustedCurrentNode cfg σ) (tokenKind tok) = false)
    (h : foreign cfg σ tok = .ok r) :
    (∃ t s, tok = .endTag t ∧ (s = σ ∨ ∃ w, s = σ.err w) ∧ byMode cfg s (.endTag t) = .ok r) ∨
    (∃ s' st, (r = .done s' ∨ r = .reprocessHtml s') ∧ Upd σ s' st σ.p.list ∧ FgRel σ.p.stack st ∧
      (isChar tok = true → st = σ.p.stack)) := by
  unfold foreign at h
  cases tok with
  | character c =>
    dsimp only at h
    right
    rcases ite_cases h with ⟨_, h⟩ | ⟨_, h⟩
    · obtain ⟨s1, h1, rfl⟩ := map_ok h
      have hu' := insertChar_eff h1
      exact ⟨s1, _, Or.inl rfl, ⟨hu'.mode, hu'.orig, hu'.tms, hu'.stopped, hu'.stack, hu'.list⟩, fg_rel_refl _,
        fun _ => rfl⟩
    rcases ite_cases h with ⟨_, h⟩ | ⟨_, h⟩
    · obtain ⟨s1, h1, rfl⟩ := map_ok h
      exact ⟨s1, _, Or.inl rfl, insertChar_eff h1, fg_rel_refl _, fun _ => rfl⟩
    · obtain ⟨s1, h1, h2⟩ := bind_ok h
      cases pure_ok h2
      have hu' := insertChar_eff h1
      exact ⟨_, _, Or.inl rfl, ⟨hu'.mode, hu'.orig, hu'.tms, hu'.stopped, hu'.stack, hu'.list⟩, fg_rel_refl _,
        fun _ => rfl⟩
  | comment d =>
    dsimp only at h
    obtain ⟨s1, h1, rfl⟩ := map_ok h
    exact Or.inr ⟨s1, _, Or.inl rfl, insertComment_eff h1, fg_rel_refl _, fun _ => rfl⟩
  | doctype _ _ _ _ =>
    cases pure_ok h
    exact Or.inr ⟨_, _, Or.inl rfl, ⟨rfl, rfl, rfl, rfl, rfl, rfl⟩, fg_rel_refl _, fun _ => rfl⟩
  | eof => cases h
  | startTag t =>
    dsimp only at h
    right
    rcases ite_cases h with ⟨_, h⟩ | ⟨_, h⟩
    · cases pure_ok h
      obtain ⟨s', st, he, hu', hr⟩ := fg_breakOut σ
      exact ⟨s', st, Or.inr he, hu', hr, fun hc => by cases hc⟩
    · obtain ⟨s', st, he, hu', hr⟩ := fg_startTag hu h
      exact ⟨s', st, Or.inl he, hu', hr, fun hc => by cases hc⟩
  | endTag t =>
    dsimp only at h
    rcases ite_cases h with ⟨_, h⟩ | ⟨_, h⟩
    · cases pure_ok h
      obtain ⟨s', st, he, hu', hr⟩ := fg_breakOut σ
      exact Or.inr ⟨s', st, Or.inr he, hu', hr, fun hc => by cases hc⟩
    rcases ite_cases h with ⟨_, h⟩ | ⟨_, h⟩
    · rename_i hsc
      obtain ⟨s', rfl, hu'⟩ := fg_svgScript h
      refine Or.inr ⟨s', _, Or.inl rfl, hu', ?_, fun hc => by cases hc⟩
      simp only [Bool.and_eq_true] at hsc
      have hc := hsc.2
      unfold State.cur at hc
      cases hl : σ.p.stack.getLast? with
      | none => rw [hl] at hc; cases hc
      | some top =>
        rw [hl] at hc
        simp only [Option.any_some, Bool.and_eq_true, beq_iff_eq] at hc
        obtain ⟨ys, hys⟩ := List.getLast?_eq_some_iff.mp hl
        rw [hys]
        simp only [List.dropLast_concat]
        refine fg_rel_pop (fs := [top]) ?_ rfl
        intro x hx
        simp only [List.mem_singleton] at hx
        subst hx
        rw [hc.1]; exact nsSvg_ne_nsHtml
    · unfold foreignAnyOtherEndTag at h
      dsimp only at h
      have hs : Upd σ _ σ.p.stack σ.p.list :=
        upd_ite (c := (σ.cur.any fun e => e.name.loc.map TreeAlgo.lower == t.name) = true) (Upd.refl σ)
          (b := σ.err "foreign content: end tag does not match the current node") ⟨rfl, rfl, rfl, rfl, rfl, rfl⟩
      split at h
      · cases pure_ok h
        exact Or.inr ⟨_, σ.p.stack, Or.inl rfl, hs, fg_rel_refl _, fun hc => by cases hc⟩
      · rename_i k hk
        cases pure_ok h
        exact Or.inr ⟨_, _, Or.inl rfl, fg_upd_setStack hs _, fg_popThrough' hu hs.stack hk, fun hc => by cases hc⟩
      · left
        refine ⟨t, _, rfl, ?_, h⟩
        split
        · exact Or.inl rfl
        · exact Or.inr ⟨_, rfl⟩

/-! ### the invariant -/

/-- the current node is an HTML element and the dispatcher chose the foreign rules: the stack has exactly one
element (fragment case with a foreign context element) -/
theorem fg_head_of_cur {cfg : Config N} {σ : State N} {kind : TreeAlgo.TokenKind} {top : Elem N}
    (hu : TreeAlgo.useHtmlRules (adjustedCurrentNode cfg σ) kind = false) (ht : σ.p.stack.getLast? = some top)
    (hns : top.name.ns = nsHtml) : σ.p.stack.head? = some top := by
  by_cases h2 : 2 ≤ σ.p.stack.length
  · exact absurd hns (top_foreign_of_not_useHtml cfg σ ht (Or.inl h2) hu)
  · obtain ⟨ys, hys⟩ := List.getLast?_eq_some_iff.mp ht
    rw [hys] at h2 ⊢
    cases ys with
    | nil => rfl
    | cons a l => simp at h2

theorem fg_inHtml_ns {l : List String} {n : Name} (h : inHtml l n = true) : n.ns = nsHtml := by
  unfold inHtml at h
  simp only [Bool.and_eq_true, beq_iff_eq] at h
  exact h.1

/-- the rules for parsing tokens in foreign content keep the invariant -/
theorem post_foreign (hmode : Keeps (byMode (N := N)) (fun _ _ => True)) {cfg : Config N}
    (hed : cfg.edition = .customizableSelect) {σ : State N} {tok : STok} {r : Step N} (hg : Good σ) (hst : σ.stopped = false)
    (hl : LinkFor σ tok) (hfr : FreshFor σ tok r) (htext : σ.mode = .text → isChar tok = true)
    (hu : TreeAlgo.useHtmlRules (adjustedCurrentNode cfg σ) (tokenKind tok) = false)
    (h : foreign cfg σ tok = .ok r) : PostF r := by
  rcases fg_eff hu h with ⟨t, s, rfl, hs, hb⟩ | ⟨s', st, hr, hu', hrel, hch⟩
  · rcases hs with rfl | ⟨w, rfl⟩
    · exact (hmode cfg hed _ _ r hg hst hl hfr trivial hb).toF
    · exact (hmode cfg hed (σ.err w) _ r hg.same hst (fun hc => (hl hc).same) hfr trivial hb).toF
  · have hgood : Good s' := by
      by_cases hmt : σ.mode = .text
      · have := hch (htext hmt)
        subst this
        exact hg.same hu'.mode hu'.orig hu'.tms hu'.stack hu'.list
      · by_cases hmtt : σ.mode = .inTableText
        · obtain ⟨ho, hc⟩ := hg.ttext hmtt
          -- the first element of the stack is an HTML tableish element
          have hhead : ∃ b, σ.p.stack.head? = some b ∧ inHtml tableish b.name = true := by
            rcases hc with hc | hc
            · unfold State.curIn State.cur at hc
              cases ht : σ.p.stack.getLast? with
              | none => rw [ht] at hc; cases hc
              | some top =>
                rw [ht] at hc
                simp only [Option.any_some] at hc
                exact ⟨top, fg_head_of_cur hu ht (fg_inHtml_ns hc), hc⟩
            · cases hh : σ.p.stack.head? with
              | none => rw [hh] at hc; cases hc
              | some b =>
                rw [hh] at hc
                simp only [Option.any_some] at hc
                exact ⟨b, rfl, hc⟩
          obtain ⟨b, hb, hbt⟩ := hhead
          have hb' := fg_rel_head hrel hb (fg_inHtml_ns hbt)
          refine ⟨fun hm => ?_, fun hm => ?_, fun _ => ⟨?_, Or.inr ?_⟩, ?_, ?_, ?_⟩
          · rw [hu'.mode, hmtt] at hm; cases hm
          · rw [hu'.mode, hmtt] at hm; cases hm
          · rw [hu'.orig]; exact ho
          · rw [hu'.stack, hb']; simpa using hbt
          · rw [hu'.mode]; exact hg.nosel
          · rw [hu'.list]; exact hg.af
          · rw [hu'.tms]; exact hg.tm
        · exact hg.upd hu' hmt hmtt (fun _ hc => by rw [fg_rel_cellR hrel]; exact hc) hg.af
    rcases hr with rfl | rfl
    · exact fun _ => hgood
    · exact ⟨by rw [hu'.stopped]; exact hst, hgood⟩

end
end H5V.Lemmas.ModesInv
