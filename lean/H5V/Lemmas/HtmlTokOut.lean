import H5V.Lemmas.HtmlTokOutFields
/-!
Every token a `Tokenizer::step` delivers is stamped with the line the step ends on: the reader
moves the line before anything of that step is emitted, and no transition changes it afterwards.
Together with `step_lines` this gives the per-token reading of C09.
-/
namespace H5V.Model.HtmlTok

theorem OutExt.trans {l : Nat} {a b c : Out} (h1 : OutExt l a b) (h2 : OutExt l b c) : OutExt l a c := by
  induction h2 with
  | refl => exact h1
  | cons t _ ih => exact .cons t ih

theorem Ext.trans {m x y : Mach} (h1 : Ext m x) (h2 : Ext x y) : Ext m y :=
  ⟨by rw [h2.1, h1.1], h1.2.trans (by rw [← h1.1]; exact h2.2)⟩

theorem selfClosing_ext {m x : Mach} (h : Ext m x) : Ext m { x with tagSelfClosing := true } := h.of_eq rfl rfl

theorem applySinkRes_ext {m x : Mach} (h : Ext m x) (r : SinkRes) : Ext m (applySinkRes x r).1 := by
  unfold applySinkRes
  cases r with
  | continue_ => exact h
  | plaintext => exact to_ext h _
  | script => exact emit_ext (to_ext h _) _
  | rawData k => exact to_ext h _
  | indicator => exact emit_ext h _

theorem emitCurrentTag_ext {m x : Mach} (h : Ext m x) (pol : Pol) : Ext m (emitCurrentTag pol x).1 := by
  unfold emitCurrentTag
  exact applySinkRes_ext (emit_ext (takeTag_ext (tagPrologue_ext h)) _) _

theorem emitTag_ext {m x : Mach} (h : Ext m x) (pol : Pol) (s : State) : Ext m (emitTag pol s x).1 := by
  unfold emitTag; exact emitCurrentTag_ext (to_ext h s) pol

theorem consumeCharRef_ext {m x : Mach} (h : Ext m x) : Ext m (consumeCharRef x).1 := by
  unfold consumeCharRef; split
  · exact h
  · exact h.of_eq rfl rfl

@[simp] theorem selfClosing_ext_iff {m x : Mach} : Ext m { x with tagSelfClosing := true } ↔ Ext m x := Iff.rfl

theorem TokOp.run_ext (o : Opts) {m x : Mach} (h : Ext m x) (op : TokOp) : Ext m (op.run o x) := by
  cases op with
  | badChar => exact badChar_ext h o
  | badEof => exact badEof_ext h o
  | emit t => exact emit_ext h t
  | emitChar c => exact emitChar_ext h c
  | emitChars s => exact emitChars_ext h s
  | emitTempBuf => exact emitTempBuf_ext h
  | emitComment => exact emitComment_ext h
  | emitDoctype => exact emitDoctype_ext h
  | createAttr c => exact createAttr_ext h c
  | pushDoctypeId k c | clearDoctypeId k => cases k <;> exact h
  -- every other action leaves `line` and `out` alone
  | _ => exact h

theorem runOps_ext (o : Opts) (ops : List TokOp) (m : Mach) : Ext m (runOps o ops m) :=
  runOps_induct (P := Ext m) o (fun op _ h => TokOp.run_ext o h op) ops m (Ext.refl m)

theorem ArmEnd.run_ext (pol : Pol) {m x : Mach} (h : Ext m x) : ∀ fin : ArmEnd, Ext m (fin.run pol x).1
  | .cont => h
  | .tag => emitTag_ext h pol .data
  | .charRef => consumeCharRef_ext h
  | .panic _ => h

/-- a `get_char!`-state transition logs only tokens stamped with the current line -/
theorem transChar_ext (o : Opts) (pol : Pol) (m : Mach) (c : Char) : Ext m (transChar o pol m c).1 := by
  rw [transChar_eq]; exact ArmEnd.run_ext pol (runOps_ext o _ m) _

theorem transSet_ext (o : Opts) (pol : Pol) (m : Mach) (r : SetRes) : Ext m (transSet o pol m r).1 := by
  rw [transSet_eq]; exact ArmEnd.run_ext pol (runOps_ext o _ m) _

/-! ### the reader -/

/-- `x` was reached from `m` logging only tokens stamped with the line `x` is on -/
def ExtTo (m x : Mach) : Prop := OutExt x.line m.out x.out

theorem ExtTo.refl (m : Mach) : ExtTo m m := OutExt.refl

theorem ExtTo.of_eq {m x y : Mach} (h : ExtTo m x) (h1 : y.line = x.line) (h2 : y.out = x.out) : ExtTo m y := by
  unfold ExtTo; rw [h1, h2]; exact h

theorem ExtTo.of_out {m x : Mach} (h : x.out = m.out) : ExtTo m x := by
  unfold ExtTo; rw [h]; exact OutExt.refl

theorem ExtTo.of_out_eq {m m0 x : Mach} (h : ExtTo m0 x) (ho : m0.out = m.out) : ExtTo m x := by
  unfold ExtTo; rw [← ho]; exact h

theorem ExtTo.then {m x y : Mach} (h1 : ExtTo m x) (h2 : Ext x y) : ExtTo m y := by
  unfold ExtTo
  rw [h2.1]
  exact OutExt.trans h1 h2.2

theorem Ext.extTo {m x : Mach} (h : Ext m x) : ExtTo m x := by
  unfold ExtTo; rw [h.1]; exact h.2

theorem foldChar_extTo (o : Opts) (m : Mach) (c : Char) : ExtTo m (foldChar o m c).2 := by
  unfold foldChar
  dsimp only
  split <;> split <;> split <;>
    first
    | exact ExtTo.of_out rfl
    | (unfold ExtTo; exact OutExt.cons _ OutExt.refl)

theorem preprocess_extTo (o : Opts) (m : Mach) (c : Char) (rest : Str) : ExtTo m (preprocess o m c rest).2.1 := by
  unfold preprocess
  split
  · split
    · cases rest with
      | nil => exact ExtTo.of_out rfl
      | cons y ys =>
        exact foldChar_extTo o (m.setIgnoreLf false) y
    · exact foldChar_extTo o (m.setIgnoreLf false) c
  · exact foldChar_extTo o m c

theorem getChar_extTo (o : Opts) (m : Mach) (inp : Str) : ExtTo m (getChar o m inp).2.1 := by
  unfold getChar
  split
  · exact ExtTo.of_out rfl
  · cases inp with
    | nil => exact ExtTo.refl m
    | cons c rest => exact preprocess_extTo o m c rest

theorem popExceptFrom_extTo (o : Opts) (S : List Char) (m : Mach) (inp : Str) :
    ExtTo m (popExceptFrom o S m inp).2.1 := by
  unfold popExceptFrom
  split
  · exact getChar_extTo o m inp
  · cases inp with
    | nil => exact ExtTo.refl m
    | cons c rest =>
      dsimp only
      split
      · exact preprocess_extTo o m c rest
      · exact ExtTo.refl m

/-! ### step results -/

/-- whatever machine the step result `r` carries was reached from `m` logging only tokens stamped with
the line it is on -/
def ExtToR (m : Mach) (r : R) : Prop := ∀ m' i', r.pair? = some (m', i') → ExtTo m m'

theorem ExtToR.cont {m x : Mach} {i : Str} (h : ExtTo m x) : ExtToR m (.cont x i) := by
  intro m' i' e; cases e; exact h
theorem ExtToR.suspend {m x : Mach} {i : Str} (h : ExtTo m x) : ExtToR m (.suspend x i) := by
  intro m' i' e; cases e; exact h
theorem ExtToR.ofSig {m : Mach} {ms : Mach × Sig} {i : Str} (h : ExtTo m ms.1) : ExtToR m (ofSig ms i) := by
  intro m' i' e; rw [(ofSig_pair _ _ _ _ e).1]; exact h

theorem contChar_extTo (o : Opts) (pol : Pol) {m : Mach} {r : Option Char × Mach × Str} (h : ExtTo m r.2.1) :
    ExtToR m (contChar o pol r) := by
  obtain ⟨c, m1, i1⟩ := r
  cases c with
  | none => exact .suspend h
  | some c => exact .ofSig (h.then (transChar_ext o pol m1 c))

theorem contSet_extTo (o : Opts) (pol : Pol) {m : Mach} {r : Option SetRes × Mach × Str} (h : ExtTo m r.2.1) :
    ExtToR m (contSet o pol r) := by
  obtain ⟨c, m1, i1⟩ := r
  cases c with
  | none => exact .suspend h
  | some c => exact .ofSig (h.then (transSet_ext o pol m1 c))

/-! ### the character-reference sub-tokenizer -/

theorem discardChar_ext' (m : Mach) (inp : Str) : Ext m (discardChar m inp).1 := by
  unfold discardChar; split
  · exact (Ext.refl m).of_eq (by simp) rfl
  · exact Ext.refl m

theorem emitErr_ext0 (m : Mach) (s : String) : Ext m (emitErr m s) := emitErr_ext (Ext.refl m) s

theorem nameErr_ext0 (o : Opts) (m : Mach) (nb : Str) : Ext m (nameErr o m nb) := by
  unfold nameErr; split
  · exact emit_ext (Ext.refl m) _
  · exact emitErr_ext (Ext.refl m) _

theorem finishNumeric_ext0 (o : Opts) (x m' : Mach) (cr : CharRefSt) (r : Except String Char)
    (h : finishNumeric o x cr = (m', r)) : Ext x m' := by
  unfold finishNumeric numericErr at h
  dsimp only at h
  simp only [Prod.mk.injEq] at h
  obtain ⟨h1, _⟩ := h
  subst h1
  split
  · split
    · exact emit_ext (Ext.refl x) _
    · exact emitErr_ext (Ext.refl x) _
  · exact Ext.refl x

theorem namedDecision_ext0 (m : Mach) (cr : CharRefSt) (nb : Str) (c1 c2 : Nat) (m1 : Mach) (chars : Str)
    (h : namedDecision m cr nb c1 c2 = .ok (some (m1, chars))) : Ext m m1 := by
  rcases namedDecision_mach h with rfl | rfl
  · exact (Ext.refl m).of_eq (by simp) rfl
  · exact (emitErr_ext0 m _).of_eq (by simp) rfl

theorem ext_ite (c : Prop) [Decidable c] (a b m : Mach) (ha : Ext m a) (hb : Ext m b) :
    Ext m (if c then a else b) := by
  split <;> assumption

/-- every machine a char-ref step can return was reached by logging only tokens
stamped with the (unchanged) line -/
theorem crStep_ext (o : Opts) (m m1 : Mach) (inp i1 : Str) (cr cr1 : CharRefSt) (st : CRStatus)
    (h : crStep o m inp cr = .ok (m1, i1, cr1, st)) : Ext m m1 := by
  unfold crStep unconsumeNumeric finishNumericStatus finishNamed at h
  dsimp only at h
  repeat' split at h
  all_goals
    first
      | (simp at h; done)
      | (simp only [Except.ok.injEq, Prod.mk.injEq] at h
         obtain ⟨h1, _⟩ := h
         subst h1
         first
           | exact Ext.refl _
           | exact discardChar_ext' _ _
           | exact emitErr_ext0 _ _
           | exact Ext.trans (discardChar_ext' _ _) (emitErr_ext0 _ _)
           | exact Ext.trans (discardChar_ext' _ _) (nameErr_ext0 _ _ _)
           | exact nameErr_ext0 _ _ _
           | exact Ext.trans (discardChar_ext' _ _) (finishNumeric_ext0 _ _ _ _ _ (by assumption))
           | exact Ext.trans (emitErr_ext0 _ _) (finishNumeric_ext0 _ _ _ _ _ (by assumption))
           | exact finishNumeric_ext0 _ _ _ _ _ (by assumption)
           | exact Ext.trans (discardChar_ext' _ _) (namedDecision_ext0 _ _ _ _ _ _ _ (by assumption))
           | exact namedDecision_ext0 _ _ _ _ _ _ _ (by assumption)
           | (apply ext_ite <;> first | exact Ext.refl _ | exact discardChar_ext' _ _ | exact nameErr_ext0 _ _ _ | exact Ext.trans (discardChar_ext' _ _) (nameErr_ext0 _ _ _)))

theorem processCharRef_ext (m : Mach) (chars : Str) : Ext m (processCharRef m chars).1 := by
  have hf : ∀ (f : Mach → Char → Mach), (∀ x c, Ext m x → Ext m (f x c)) →
      ∀ (cs : Str) (x : Mach), Ext m x → Ext m (cs.foldl f x) := by
    intro f hf cs; induction cs with
    | nil => intro x hx; exact hx
    | cons c cs ih => intro x hx; exact ih _ (hf x c hx)
  unfold processCharRef
  dsimp only
  split
  · exact hf _ (fun _ c h => emitChar_ext h c) _ m (Ext.refl m)
  · exact hf _ (fun _ c h => emitChar_ext h c) _ m (Ext.refl m)
  · exact hf _ (fun _ c h => pushValue_ext h c) _ m (Ext.refl m)
  · exact Ext.refl m

theorem stepCharRef_extTo (o : Opts) (m : Mach) (inp : Str) (cr : CharRefSt) :
    ExtToR m (stepCharRef o m inp cr) := by
  unfold stepCharRef
  cases hc : crStep o m inp cr with
  | error x => intro m' i' h; cases h
  | ok v =>
    obtain ⟨m1, i1, cr1, st⟩ := v
    have he := crStep_ext o m m1 inp i1 cr cr1 st hc
    cases st
    · exact .suspend he.extTo
    · exact .cont he.extTo
    · exact .ofSig (he.trans (processCharRef_ext m1 _)).extTo

/-! ### `peek`/`discard_char` and `eat` states -/

theorem stepBav_extTo (o : Opts) (pol : Pol) (m : Mach) (inp : Str) : ExtToR m (stepBav o pol m inp) := by
  unfold stepBav
  cases peek m inp with
  | none => exact .suspend (.refl m)
  | some c =>
    dsimp only
    -- neither dropping the `ignore_lf` flag nor `discard_char` logs anything
    have hma : (if m.ignoreLf = true then m.setIgnoreLf false else m).out = m.out := by split <;> rfl
    generalize (if m.ignoreLf = true then m.setIgnoreLf false else m) = ma at hma
    have hd : (discardChar ma inp).1.out = m.out := by unfold discardChar; split <;> exact hma
    split
    · exact .cont (.of_out hd)
    · split
      · have hg := (getChar_extTo o ma inp).of_out_eq hma
        generalize getChar o ma inp = r at hg
        obtain ⟨c, m2, i2⟩ := r
        cases c
        · exact .suspend hg
        · exact .cont hg
      · repeat' split
        all_goals
          first
          | exact .cont (.of_out hd)
          | exact .cont (.of_out hma)
          | exact .ofSig ((emitTag_ext (badChar_ext (Ext.refl _) o) pol _).extTo.of_out_eq hd)

/-- `eat` only moves input between `temp_buf` and the queue -/
theorem eat_silent (m : Mach) (inp pat : Str) (eq : Char → Char → Bool) :
    ∃ b m1 i1, eat m inp pat eq = (b, m1, i1) ∧ m1.out = m.out := by
  refine ⟨_, _, _, rfl, ?_⟩
  show (eat m inp pat eq).2.1.out = m.out
  rw [eat_eq_core]
  unfold eatCore eatSkipLf discardChar
  repeat' split
  all_goals rfl


theorem stepMdo_extTo (o : Opts) (pol : Pol) (m : Mach) (inp : Str) : ExtToR m (stepMdo o pol m inp) := by
  unfold stepMdo
  obtain ⟨b1, m1, i1, e1, o1⟩ := eat_silent m inp kwDashDash eqExact
  rw [e1]
  rcases b1 with _ | _ | _
  · exact .suspend (.of_out o1)
  · dsimp only
    obtain ⟨b2, m2, i2, e2, o2⟩ := eat_silent m1 i1 kwDoctype eqCi
    rw [e2]
    replace o2 := o2.trans o1
    -- the error of the bogus-comment exit is the only token logged
    have hb : ExtTo m (badChar o m2) := (badChar_ext (Ext.refl m2) o).extTo.of_out_eq o2
    rcases b2 with _ | _ | _
    · exact .suspend (.of_out o2)
    · dsimp only
      split
      · obtain ⟨b3, m3, i3, e3, o3⟩ := eat_silent m2 i2 kwCdata eqExact
        rw [e3]
        replace o3 := o3.trans o2
        rcases b3 with _ | _ | _
        · exact .suspend (.of_out o3)
        · exact .cont ((badChar_ext (Ext.refl m3) o).extTo.of_out_eq o3)
        · exact .cont (.of_out o3)
      · exact .cont hb
    · exact .cont (.of_out o2)
  · exact .cont (.of_out o1)

theorem stepAdn_extTo (o : Opts) (pol : Pol) (m : Mach) (inp : Str) : ExtToR m (stepAdn o pol m inp) := by
  unfold stepAdn
  obtain ⟨b1, m1, i1, e1, o1⟩ := eat_silent m inp kwPublic eqCi
  rw [e1]
  rcases b1 with _ | _ | _
  · exact .suspend (.of_out o1)
  · dsimp only
    obtain ⟨b2, m2, i2, e2, o2⟩ := eat_silent m1 i1 kwSystem eqCi
    rw [e2]
    replace o2 := o2.trans o1
    rcases b2 with _ | _ | _
    · exact .suspend (.of_out o2)
    · -- nothing was logged before the read: the entries of the read carry the new line
      exact contChar_extTo o pol ((getChar_extTo o m2 i2).of_out_eq o2)
    · exact .cont (.of_out o2)
  · exact .cont (.of_out o1)


/-- **every token delivered during a step is stamped with the line the step ends on** -/
theorem step_extTo (o : Opts) (pol : Pol) (m : Mach) (inp : Str) (m' : Mach) (i' : Str)
    (h : (step o pol m inp).pair? = some (m', i')) : ExtTo m m' := by
  revert m' i'
  show ExtToR m (step o pol m inp)
  cases hcr : m.charRef with
  | some cr =>
    rw [step_kind_charRef o pol m inp cr hcr]
    exact stepCharRef_extTo o m inp cr
  | none =>
    cases hrk : readKind m.state with
    | getChar =>
      rw [step_getChar o pol m inp hcr hrk]
      exact contChar_extTo o pol (getChar_extTo o m inp)
    | popExcept =>
      rw [step_setRead o pol m inp hcr (.inl hrk)]
      exact contSet_extTo o pol (popExceptFrom_extTo o _ m inp)
    | dataSimd =>
      rw [step_setRead o pol m inp hcr (.inr hrk)]
      exact contSet_extTo o pol (popExceptFrom_extTo o _ m inp)
    | peekBav =>
      rw [step_kind_bav o pol m inp hcr hrk]
      exact stepBav_extTo o pol m inp
    | eatMdo =>
      rw [step_kind_mdo o pol m inp hcr hrk]
      exact stepMdo_extTo o pol m inp
    | eatAdn =>
      rw [step_kind_adn o pol m inp hcr hrk]
      exact stepAdn_extTo o pol m inp

end H5V.Model.HtmlTok
