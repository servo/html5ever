import H5V.Lemmas.XmlSerFixed
/-!
C17: the class of tags the (fixed) parser produces — `TagOKW` — and the theorem "the fixed serializer
declares everything" (`okEvs_fixedW`) for it; the class `TagOKP` of `C17_roundtrip_fixed` is a special case
(`serNode_ok`, `okEvs_fixed` at the end).

`XmlSerFixed.TagOKP` asks, in its field `consistent`, that two names of one tag with the same prefix have
the same namespace as soon as ONE of them needs a declaration.  A parser-produced tag violates that whenever
the element is in a default namespace and carries an unprefixed attribute (`<a xmlns="u" k="1"/>`: the
element `a` has prefix `none` and namespace `u`, the attribute `k` prefix `none` and no namespace) — see
`C17Shape.C17_witness_class_gap`.  The chain `topFixed_satW → elem_okW → serNode(s)_okW → okEvs_fixedW` only
needs the weaker field of `TagOKW` (both names need a declaration).
-/
namespace H5V.Lemmas.XmlShape
open H5V.Model.XmlTB H5V.Model.XmlSer H5V.Spec.XmlNs H5V.Lemmas.XmlNs H5V.Lemmas.XmlSer H5V.Props.C16
open H5V.Lemmas.XmlSerFixed

/-- a tag as the (fixed) parser produces it.  Differs from `TagOKP` in `consistent` only: the namespaces of
two names with one prefix must agree if BOTH need a declaration (an unprefixed attribute never does). -/
structure TagOKW (n : QName) (as : List Attr) : Prop where
  name : ElemNameOK n
  attrs : ∀ a ∈ as, AttrNameOK a.name
  distinct : (as.map (fun a => (⟨a.name.pfx, a.name.loc⟩ : RName))).Nodup
  expanded : ((as.filter (fun a => a.name.pfx.isSome)).map (fun a => (a.name.ns, a.name.loc))).Nodup
  consistent : ∀ x ∈ n :: as.map (·.name), ∀ y ∈ n :: as.map (·.name),
    y.pfx = x.pfx → needs y = true → needs x = true → y.ns = x.ns

theorem TagOKW.of_TagOKP {n : QName} {as : List Attr} (h : TagOKP n as) : TagOKW n as :=
  ⟨h.name, h.attrs, h.distinct, h.expanded, fun x hx y hy hp hn _ => h.consistent x hx y hy hp hn⟩

theorem reg1_preservesW (sst : List SMap) (F : SMap) (x y : QName) (hy : Sat y (F :: sst))
    (hc : y.pfx = x.pfx → needs y = true → needs x = true → y.ns = x.ns) : Sat y (reg1 sst F x :: sst) := by
  unfold reg1
  split
  · rename_i hins
    have hnx : needs x = true := by
      simp only [Bool.and_eq_true] at hins; exact hins.1
    rcases hy with hy | hy
    · exact Or.inl hy
    · by_cases hp : y.pfx = x.pfx
      · by_cases hny : needs y = true
        · have hns := hc hp hny hnx
          have : Model.XmlSer.findUri (F :: sst) x = true := by
            rw [← findUri_congr (F :: sst) x y hp hns]; exact hy
          simp [this] at hins
        · exact Or.inl (by simpa using hny)
      · right
        rw [findUri_cons, lookup_insert]
        simp only [hp, ↓reduceIte]
        rw [findUri_cons] at hy; exact hy
  · exact hy

theorem regAll_satW (sst : List SMap) (xs : List QName) (F : SMap) (done : List QName)
    (hdone : ∀ y ∈ done, Sat y (F :: sst))
    (hc : ∀ x ∈ done ++ xs, ∀ y ∈ done ++ xs, y.pfx = x.pfx → needs y = true → needs x = true → y.ns = x.ns) :
    ∀ y ∈ done ++ xs, Sat y (regAll sst F xs :: sst) := by
  induction xs generalizing F done with
  | nil => simpa [regAll] using hdone
  | cons x rest ih =>
    have := ih (reg1 sst F x) (done ++ [x]) (by
      intro y hy
      rcases List.mem_append.mp hy with hy | hy
      · exact reg1_preservesW sst F x y (hdone y hy) (hc x (by simp) y (by simp [hy]))
      · simp at hy; subst hy; exact reg1_sat sst F y) (by simpa using hc)
    simpa [regAll] using this

theorem topFixed_goodW (sst : List SMap) (n : QName) (as : List Attr) (ht : TagOKW n as) :
    GoodMap (topFixed sst n as) := by
  unfold topFixed
  apply goodMap_regAll
  · have h0 := goodMap_reg1 sst [] n goodMap_nil ht.name.regOK
    split
    · exact goodMap_insert _ none [] h0 (fun e => absurd e (by decide +kernel)) (fun p hp => by cases hp)
    · exact h0
  · intro x hx
    obtain ⟨a, ha, rfl⟩ := List.mem_map.mp hx
    exact (ht.attrs a ha).regOK

theorem topFixed_satW (sst : List SMap) (n : QName) (as : List Attr) (ht : TagOKW n as) :
    ∀ y ∈ n :: as.map (·.name), Sat y (topFixed sst n as :: sst) := by
  unfold topFixed
  simp only []
  have h0 : Sat n (reg1 sst [] n :: sst) := reg1_sat sst [] n
  have h1 : Sat n ((if (n.pfx.isNone && n.ns == [] && defaultBound (reg1 sst [] n :: sst)) = true
      then (reg1 sst [] n).insert none [] else reg1 sst [] n) :: sst) := by
    split
    · rename_i hc
      left
      simp only [Bool.and_eq_true, Option.isNone_iff_eq_none, beq_iff_eq] at hc
      simp [needs, hc.1.1, hc.1.2]
    · exact h0
  have := regAll_satW sst (as.map (·.name)) _ [n] (by intro y hy; simp at hy; subst hy; exact h1)
    (by simpa using ht.consistent)
  simpa using this

theorem topFixed_defaultW (sst : List SMap) (n : QName) (as : List Attr) (ht : TagOKW n as)
    (hn : needs n = false) : defaultBound (topFixed sst n as :: sst) = false := by
  have hpn : n.pfx = none ∧ n.ns = [] := by
    unfold needs at hn
    simp only [Bool.or_eq_false_iff, Option.isSome_eq_false_iff, Option.isNone_iff_eq_none, bne_eq_false_iff_eq] at hn
    exact hn
  have hattr : ∀ x ∈ as.map (·.name), x.pfx = none → needs x = false := by
    intro x hx hp
    obtain ⟨a, ha, rfl⟩ := List.mem_map.mp hx
    have := ((ht.attrs a ha).unprefixed hp).1
    simp [needs, hp, this]
  have h0 : reg1 sst [] n = [] := by unfold reg1; simp [hn]
  rw [defaultBound_cons]
  unfold topFixed
  simp only [h0]
  rw [regAll_lookup_none sst _ _ hattr]
  by_cases hc : defaultBound ([] :: sst) = true
  · simp [hpn.1, hpn.2, hc, lookup_insert]
  · have hc' : defaultBound ([] :: sst) = false := by simpa using hc
    simp only [hpn.1, hpn.2, hc', Option.isNone_none, beq_self_eq_true, Bool.and_false, Bool.false_eq_true, ↓reduceIte]
    rw [defaultBound_cons] at hc'
    simpa using hc'

/-- **the tag the tokenizer delivers for a fixed start tag** (`consistent` is not needed) -/
theorem tagOf_fixedW (n : QName) (as : List Attr) (decls : SMap) (hd : GoodMap decls) (ht : TagOKW n as) :
    tagOf SerCfg.fixed LexCfg.fixed n decls as =
      ⟨.start, ⟨n.pfx, n.loc⟩, (declRAttrs decls).reverse ++ attrRAttrs as⟩ := by
  have hraw : (decls.map declRaw ++ as.map attrRaw).map splitAttr = declRAttrs decls ++ attrRAttrs as := by
    simp only [List.map_append, List.map_map, declRAttrs, attrRAttrs]
    congr 1
    · apply List.map_congr_left
      intro d hdm
      exact splitAttr_declRaw d (fun p hp => hd.keyOK p d.2 (by rw [← hp]; exact hdm))
    · apply List.map_congr_left
      intro a ha
      exact splitAttr_attrRaw a (ht.attrs a ha).toNameOK
  have hne : ∀ r ∈ decls.map declRaw ++ as.map attrRaw, r.name ≠ [] := by
    intro r hr
    rcases List.mem_append.mp hr with hr | hr
    · obtain ⟨d, _, rfl⟩ := List.mem_map.mp hr
      simp only [declRaw, declName]
      cases d.1 <;> simp [sXmlns] <;> decide +kernel
    · obtain ⟨a, ha, rfl⟩ := List.mem_map.mp hr
      exact (ht.attrs a ha).toNameOK.nonempty
  have hnames : (decls.map declRaw ++ as.map attrRaw).map (fun r => splitQName r.name) =
      (declRAttrs decls ++ attrRAttrs as).map (·.name) := by
    rw [← hraw, List.map_map]; rfl
  have hnd : ((decls.map declRaw ++ as.map attrRaw).map (fun r => splitQName r.name)).Nodup := by
    rw [hnames, List.map_append, List.nodup_append]
    refine ⟨?_, ?_, ?_⟩
    · have : (declRAttrs decls).map (·.name) = (decls.map Prod.fst).map declNameOf := by
        simp [declRAttrs]
      rw [this]
      exact nodup_map_of_inj declNameOf declNameOf_inj _ hd.nodup
    · have : (attrRAttrs as).map (·.name) = as.map (fun a => (⟨a.name.pfx, a.name.loc⟩ : RName)) := by
        simp [attrRAttrs]
      rw [this]; exact ht.distinct
    · intro x hx y hy hxy
      subst hxy
      obtain ⟨d, hdm, rfl⟩ := List.mem_map.mp hx
      obtain ⟨d', _, rfl⟩ := List.mem_map.mp hdm
      obtain ⟨a, ham, hae⟩ := List.mem_map.mp hy
      obtain ⟨a', ha', rfl⟩ := List.mem_map.mp ham
      have h1 := isDecl_declNameOf d'.1
      have h2 := attr_not_decl a'.name (ht.attrs a' ha')
      simp only at hae
      rw [← hae] at h1
      rw [h1] at h2; cases h2
  have hs := tagAttrs_fixed_struct _ hne hnd
  rw [hraw] at hs
  simp only [List.filter_append, filter_decl_D, filter_decl_A as ht.attrs, filter_ndecl_D,
    filter_ndecl_A as ht.attrs, List.append_nil, List.nil_append] at hs
  unfold tagOf finishTag
  simp only [LexCfg.fixed, ht.name.split]
  have hl : (decls.map (fun d => (⟨declName d.1, lexAttrValue ⟨TokCfg.fixed, true⟩ (declValue SerCfg.fixed d.2)⟩ : RawAttr)) ++
      as.map (fun a => (⟨rawName a.name, lexAttrValue ⟨TokCfg.fixed, true⟩ (escape SerCfg.fixed true a.value)⟩ : RawAttr))) =
      decls.map declRaw ++ as.map attrRaw := rfl
  rw [hl, hs]

/-- **one element**: the tag the fixed serializer writes, lexed and run through `process_namespaces`
in the parser's current scope, gives back the element's own name and attribute list; and the three
stacks stay in step for the element's content -/
theorem elem_okW (sst : List SMap) (pst : List NsMap) (env : List NsFrame) (hR : Rel sst pst env)
    (n : QName) (as : List Attr) (ht : TagOKW n as) :
    (processNamespaces TbCfg.fixed pst
        (tagOf SerCfg.fixed LexCfg.fixed n (sortDecls (topFixed sst n as)) as)).name = n ∧
    (processNamespaces TbCfg.fixed pst
        (tagOf SerCfg.fixed LexCfg.fixed n (sortDecls (topFixed sst n as)) as)).attrs = as ∧
    Rel (topFixed sst n as :: sst)
      ((processNamespaces TbCfg.fixed pst
        (tagOf SerCfg.fixed LexCfg.fixed n (sortDecls (topFixed sst n as)) as)).map :: pst)
      (frameOf (tagOf SerCfg.fixed LexCfg.fixed n (sortDecls (topFixed sst n as)) as).attrs :: env) := by
  have hF := topFixed_goodW sst n as ht
  have hFs : GoodMap (sortDecls (topFixed sst n as)) := goodMap_perm (sortDecls_perm _) hF
  have htag := tagOf_fixedW n as (sortDecls (topFixed sst n as)) hFs ht
  generalize hF' : topFixed sst n as = F at *
  have hnd : NoDupDecl (tagOf SerCfg.fixed LexCfg.fixed n (sortDecls F) as).attrs :=
    noDupDecl_of_nodup_names _ (C16_tok_no_dup_qname_fixed _)
  have hok : TagOK TbCfg.fixed (tagOf SerCfg.fixed LexCfg.fixed n (sortDecls F) as) := ⟨Or.inl rfl, hnd⟩
  obtain ⟨hbn, hba, hbm⟩ := processNamespaces_eq TbCfg.fixed pst (env.map (fun f => (⟨[], [], f⟩ : Scope)))
    (tagOf SerCfg.fixed LexCfg.fixed n (sortDecls F) as) hok
    (by rw [envOf_dummy]; exact hR.stack) (by rw [envOf_dummy]; exact hR.clean)
  rw [hbn, hba]
  unfold resolveTag
  simp only [envOf_dummy]
  rw [htag] at hbm ⊢
  simp only []
  have hfa : FA (F :: sst) (frameOf ((declRAttrs (sortDecls F)).reverse ++ attrRAttrs as) :: env) :=
    ⟨frame_lookup F hF as ht.attrs, hR.fa⟩
  have hgood : GoodStack (F :: sst) := by
    intro G hG; simp at hG; rcases hG with rfl | hG; exact hF; exact hR.good G hG
  have hsat := topFixed_satW sst n as ht
  rw [hF'] at hsat
  refine ⟨?_, ?_, ?_⟩
  · unfold resolveElemName
    simp only []
    by_cases hn : needs n = true
    · rw [lookupNs_sat (F :: sst) _ hfa hgood n (hsat n (by simp)) hn ht.name.xml ht.name.xmlns]
    · have hn' : needs n = false := by simpa using hn
      have hpn : n.pfx = none ∧ n.ns = [] := by
        unfold needs at hn'
        simp only [Bool.or_eq_false_iff, Option.isSome_eq_false_iff, Option.isNone_iff_eq_none, bne_eq_false_iff_eq] at hn'
        exact hn'
      have hd := topFixed_defaultW sst n as ht hn'
      rw [hF'] at hd
      rw [hpn.1, lookupNs_default (F :: sst) _ hfa hgood hd]
      cases n; simp_all
  · unfold resolveAttrs
    have hfilt : ((declRAttrs (sortDecls F)).reverse ++ attrRAttrs as).filter (fun a => !isDecl a.name) =
        attrRAttrs as := by
      rw [List.filter_append, List.filter_reverse, filter_ndecl_D, filter_ndecl_A as ht.attrs]; simp
    rw [hfilt]
    generalize (frameOf ((declRAttrs (sortDecls F)).reverse ++ attrRAttrs as) :: env) = env' at hfa ⊢
    have hmap : (attrRAttrs as).map (fun a => (⟨resolveAttrName env' a.name, a.value⟩ : Attr)) = as := by
      unfold attrRAttrs
      rw [List.map_map]
      conv => rhs; rw [← List.map_id as]
      apply List.map_congr_left
      intro a ha
      simp only [Function.comp, id]
      have hao := ht.attrs a ha
      unfold resolveAttrName
      cases hp : a.name.pfx with
      | none =>
        have := (hao.unprefixed hp).1
        cases a with
        | mk nm v => cases nm; simp_all
      | some q =>
        simp only []
        have hn : needs a.name = true := by simp [needs, hp]
        have := lookupNs_sat (F :: sst) _ hfa hgood a.name (hsat a.name (by simp; right; exact ⟨a, ha, rfl⟩)) hn
          hao.xml (fun e => absurd e hao.notXmlns)
        rw [hp] at this
        rw [this]
        cases a with
        | mk nm v => cases nm; simp_all
    rw [hmap]
    exact dedup_id [] as ht.expanded (by simp)
  · exact ⟨by rw [stackAgree_cons]; exact ⟨hbm, hR.stack⟩,
      by intro f hf; simp at hf; rcases hf with rfl | hf; exact frameOf_clean _; exact hR.clean f hf,
      hfa, hgood⟩

/-! ### whole trees -/

mutual
/-- every tag of the tree is one the (fixed) parser can have produced (`TagOKW`) -/
def treeOKW : Node → Prop
  | .elem n as ks => TagOKW n as ∧ treesOKW ks
  | _ => True
def treesOKW : List Node → Prop
  | [] => True
  | n :: rest => treeOKW n ∧ treesOKW rest
end

mutual
theorem treeOKW_of_treeOK : ∀ (nd : Node), treeOK nd → treeOKW nd
  | .elem n as ks, h => by
    simp only [treeOK] at h; simp only [treeOKW]
    exact ⟨TagOKW.of_TagOKP h.1, treesOKW_of_treesOK ks h.2⟩
  | .text _, _ | .comment _, _ | .pi _ _, _ | .doctype _ _ _, _ => trivial
theorem treesOKW_of_treesOK : ∀ (ns : List Node), treesOK ns → treesOKW ns
  | [], _ => trivial
  | n :: rest, h => by
    simp only [treesOK] at h; simp only [treesOKW]
    exact ⟨treeOKW_of_treeOK n h.1, treesOKW_of_treesOK rest h.2⟩
end

mutual
theorem serNode_okW : ∀ (nd : Node) (sst : List SMap) (pst : List NsMap) (env : List NsFrame),
    Rel sst pst env → treeOKW nd →
    okEvs SerCfg.fixed LexCfg.fixed TbCfg.fixed pst (serNode SerCfg.fixed sst nd).1 = true ∧
      (serNode SerCfg.fixed sst nd).2 = sst
  | .elem n as ks, sst, pst, env, hR, hT => by
    simp only [treeOKW] at hT
    obtain ⟨ht, hks⟩ := hT
    obtain ⟨hbn, hba, hR'⟩ := elem_okW sst pst env hR n as ht
    have ih := serNodes_okW ks _ _ _ hR' hks
    have hsp := serNodes_spells SerCfg.fixed (topFixed sst n as :: sst) ks
    simp only [serNode, startElem_fixed, endElem_fixed]
    refine ⟨?_, by rw [ih.2]; rfl⟩
    simp only [List.cons_append, okEvs, hbn, hba, beq_self_eq_true, Bool.true_and]
    rw [okEvs_append SerCfg.fixed LexCfg.fixed TbCfg.fixed hsp, ih.1]
    simp [okEvs]
  | .text s, sst, pst, env, _, _ | .comment s, sst, pst, env, _, _ | .pi t d, sst, pst, env, _, _
  | .doctype n p sy, sst, pst, env, _, _ =>
    by simp [serNode, okEvs]
theorem serNodes_okW : ∀ (ns : List Node) (sst : List SMap) (pst : List NsMap) (env : List NsFrame),
    Rel sst pst env → treesOKW ns →
    okEvs SerCfg.fixed LexCfg.fixed TbCfg.fixed pst (serNodes SerCfg.fixed sst ns).1 = true ∧
      (serNodes SerCfg.fixed sst ns).2 = sst
  | [], sst, pst, env, _, _ => by simp [serNodes, okEvs]
  | nd :: rest, sst, pst, env, hR, hT => by
    simp only [treesOKW] at hT
    have h1 := serNode_okW nd sst pst env hR hT.1
    have hsp := serNode_spells SerCfg.fixed sst nd
    simp only [serNodes]
    rw [h1.2]
    have h2 := serNodes_okW rest sst pst env hR hT.2
    refine ⟨?_, h2.2⟩
    rw [okEvs_append SerCfg.fixed LexCfg.fixed TbCfg.fixed hsp, h1.1, h2.1]
    rfl
end

/-- **the fixed serializer declares everything**: for every tree whose tags are parser-produced, each
written start tag resolves, in the scope of the declarations written so far, to the element's own name
and attributes -/
theorem okEvs_fixedW (doc : List Node) (h : treesOKW doc) :
    okEvs SerCfg.fixed LexCfg.fixed TbCfg.fixed [defaultMap] (serDoc SerCfg.fixed doc) = true :=
  (serNodes_okW doc [] [defaultMap] [] rel_init h).1

end H5V.Lemmas.XmlShape

namespace H5V.Lemmas.XmlSerFixed
open H5V.Model.XmlTB H5V.Model.XmlSer H5V.Spec.XmlNs H5V.Lemmas.XmlNs H5V.Lemmas.XmlSer H5V.Props.C16
open H5V.Lemmas.XmlShape

theorem serNode_ok : ∀ (nd : Node) (sst : List SMap) (pst : List NsMap) (env : List NsFrame),
    Rel sst pst env → treeOK nd →
    okEvs SerCfg.fixed LexCfg.fixed TbCfg.fixed pst (serNode SerCfg.fixed sst nd).1 = true ∧
      (serNode SerCfg.fixed sst nd).2 = sst :=
  fun nd sst pst env hR hT => serNode_okW nd sst pst env hR (treeOKW_of_treeOK nd hT)

theorem okEvs_fixed (doc : List Node) (h : treesOK doc) :
    okEvs SerCfg.fixed LexCfg.fixed TbCfg.fixed [defaultMap] (serDoc SerCfg.fixed doc) = true :=
  okEvs_fixedW doc (treesOKW_of_treesOK doc h)

end H5V.Lemmas.XmlSerFixed
