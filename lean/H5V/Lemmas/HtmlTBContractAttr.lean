import Lean.Meta.Tactic.Simp.RegisterCommand
/-!
TreeSink contract for the HTML tree builder: the simp set `cp` through which the walks over the model find, by the
head function of the code, the lemma about a call (`CP`, `CPP`, `CPSP` judgements).
-/
register_simp_attr cp
