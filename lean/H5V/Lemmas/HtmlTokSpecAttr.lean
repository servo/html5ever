import H5V.Lemmas.HtmlTokSpecBasic
import H5V.Props.C01
/-!
# C01 simulation — attributes and tag emission

html5ever keeps the finished attributes de-duplicated (`tagAttrs`, `tagHadDup`) plus the current one in
two registers (`attrName`, `attrValue`); the standard keeps all attributes (the last one is the current
one) and de-duplicates when the tag token is emitted.
-/
set_option linter.unusedSimpArgs false
namespace H5V.Lemmas.HtmlTokSpec
open H5V.Model.HtmlTok
open H5V.Spec.HtmlTokenizer (St Tok Emit Tree Switch Ctl ReturnSt dedupAttrs)

/-! ## `dedupAttrs` -/

@[simp] theorem dedupAttrs_nil : dedupAttrs [] = [] := rfl

theorem dedupAttrs_concat (l : List Attr) (a : Attr) :
    dedupAttrs (l ++ [a]) =
      if (dedupAttrs l).any (fun b => b.name == a.name) then dedupAttrs l else dedupAttrs l ++ [a] := by
  unfold dedupAttrs
  rw [List.foldl_append]
  rfl

theorem dedupAttrs_length_le (l : List Attr) : (dedupAttrs l).length ≤ l.length :=
  (H5V.Props.C01.C01_dedupAttrs_sublist l).length_le

/-! ## the current attribute of the specification -/

/-- `modifyCurrentAttribute` on the attribute list -/
def modLast (f : Attr → Attr) (L : List Attr) : List Attr :=
  match L.getLast? with
  | some a => L.dropLast ++ [f a]
  | none => [f ⟨[], []⟩]

@[simp] theorem modLast_nil (f : Attr → Attr) : modLast f [] = [f ⟨[], []⟩] := rfl

@[simp] theorem modLast_concat (f : Attr → Attr) (L : List Attr) (a : Attr) :
    modLast f (L ++ [a]) = L ++ [f a] := by
  unfold modLast
  simp

@[simp] theorem modLast_ne_nil (f : Attr → Attr) (L : List Attr) : modLast f L ≠ [] := by
  unfold modLast
  split <;> simp

theorem modifyCurrentAttribute_eq (t : Tok) (f : Attr → Attr) :
    t.modifyCurrentAttribute f = { t with attrs := modLast f t.attrs } := by
  unfold Tok.modifyCurrentAttribute modLast
  split <;> simp_all

@[simp] theorem appendAttributeName_eq (t : Tok) (c : Char) :
    t.appendAttributeName c = { t with attrs := modLast (fun a => { a with name := a.name ++ [c] }) t.attrs } := by
  unfold Tok.appendAttributeName; exact modifyCurrentAttribute_eq _ _

@[simp] theorem appendAttributeValue_eq (t : Tok) (c : Char) :
    t.appendAttributeValue c = { t with attrs := modLast (fun a => { a with value := a.value ++ [c] }) t.attrs } := by
  unfold Tok.appendAttributeValue; exact modifyCurrentAttribute_eq _ _

@[simp] theorem startAttribute_eq (t : Tok) :
    t.startAttribute = { t with attrs := t.attrs ++ [⟨[], []⟩] } := rfl

/-! ## `AttrR` -/

@[simp] theorem attrR_nil : AttrR [] false [] [] [] := by
  simp [AttrR]

theorem attrR_nil_iff (ta : List Attr) (hd : Bool) (an av : Str) :
    AttrR ta hd an av [] ↔ ta = [] ∧ hd = false ∧ an = [] ∧ av = [] := by
  simp [AttrR]

theorem attrR_concat_iff (ta : List Attr) (hd : Bool) (an av : Str) (L : List Attr) (a : Attr) :
    AttrR ta hd an av (L ++ [a]) ↔
      (∀ b ∈ L, b.name ≠ []) ∧ a.name ≠ [] ∧ ta = dedupAttrs L ∧
      hd = ((dedupAttrs L).length != L.length) ∧ an = a.name ∧ av = a.value := by
  simp only [AttrR, List.dropLast_concat, List.getLast?_concat, Option.map_some, Option.getD_some,
    List.mem_append, List.mem_singleton]
  constructor
  · rintro ⟨h1, h2, h3, h4, h5⟩
    exact ⟨fun b hb => h1 b (Or.inl hb), h1 a (Or.inr rfl), h2, h3, h4, h5⟩
  · rintro ⟨h1, h1', h2, h3, h4, h5⟩
    refine ⟨fun b hb => ?_, h2, h3, h4, h5⟩
    rcases hb with hb | hb
    · exact h1 b hb
    · rw [hb]; exact h1'

theorem list_nil_or_concat (L : List Attr) : L = [] ∨ ∃ pre a, L = pre ++ [a] := by
  rcases List.eq_nil_or_concat L with h | ⟨pre, a, h⟩
  · exact Or.inl h
  · exact Or.inr ⟨pre, a, by simpa using h⟩

/-- appending to the current attribute's name (`push_name` / "append to the current attribute's name") -/
theorem attrR_pushName {ta : List Attr} {hd : Bool} {an av : Str} {L : List Attr} (c : Char)
    (h : AttrR ta hd an av L) :
    AttrR ta hd (an ++ [c]) av (modLast (fun a => { a with name := a.name ++ [c] }) L) := by
  rcases list_nil_or_concat L with rfl | ⟨pre, a, rfl⟩
  · rw [attrR_nil_iff] at h
    obtain ⟨rfl, rfl, rfl, rfl⟩ := h
    rw [modLast_nil]
    have := (attrR_concat_iff [] false ([] ++ [c]) [] [] ⟨[] ++ [c], []⟩).mpr (by simp)
    simpa using this
  · rw [attrR_concat_iff] at h
    obtain ⟨h1, h1', h2, h3, h4, h5⟩ := h
    rw [modLast_concat, attrR_concat_iff]
    simp [h1, h2, h3, h4, h5]
    exact h1

/-- appending to the current attribute's value; there must be a current attribute -/
theorem attrR_appendValue {ta : List Attr} {hd : Bool} {an av : Str} {L : List Attr} (c : Char)
    (h : AttrR ta hd an av L) (hne : L ≠ []) :
    AttrR ta hd an (av ++ [c]) (modLast (fun a => { a with value := a.value ++ [c] }) L) := by
  rcases list_nil_or_concat L with rfl | ⟨pre, a, rfl⟩
  · exact absurd rfl hne
  · rw [attrR_concat_iff] at h
    obtain ⟨h1, h1', h2, h3, h4, h5⟩ := h
    rw [modLast_concat, attrR_concat_iff]
    simp [h1', h2, h3, h4, h5]
    exact h1

/-! ## `finish_attribute` -/

/-- `finish_attribute` under the relation: the registers afterwards -/
theorem finishAttribute_spec (m : Mach) (L : List Attr)
    (h : AttrR m.tagAttrs m.tagHadDup m.attrName m.attrValue L) :
    ∃ out', flat out' = flat m.out ∧
      finishAttribute m = { m with tagAttrs := dedupAttrs L,
                                   tagHadDup := ((dedupAttrs L).length != L.length),
                                   attrName := [], attrValue := [], out := out' } := by
  rcases list_nil_or_concat L with rfl | ⟨pre, a, rfl⟩
  · rw [attrR_nil_iff] at h
    obtain ⟨h1, h2, h3, h4⟩ := h
    refine ⟨m.out, rfl, ?_⟩
    cases m
    simp only at h1 h2 h3 h4
    subst h1 h2 h3 h4
    rfl
  · rw [attrR_concat_iff] at h
    obtain ⟨h1, h1', h2, h3, h4, h5⟩ := h
    have hlen := dedupAttrs_length_le pre
    obtain ⟨st, cr, cc, rcn, il, tk, tn, tsc, thd, ta, an0, av0, com, dt, lst, tb, ln, ae, db, out⟩ := m
    simp only at h2 h3 h4 h5
    subst h2 h3 h4 h5
    obtain ⟨an, av⟩ := a
    simp only at h1'
    have hne : an.isEmpty = false := by
      cases an with
      | nil => exact absurd rfl h1'
      | cons _ _ => rfl
    unfold finishAttribute
    simp only [hne, Bool.false_eq_true, if_false]
    rw [dedupAttrs_concat]
    by_cases hd : ((dedupAttrs pre).any fun b => b.name == an) = true
    · simp only [hd, if_true]
      refine ⟨(Token.error "Duplicate attribute".toList, ln) :: out, by simp, ?_⟩
      simp only [emitErr, emit, Mach.mk.injEq, true_and, List.length_append, List.length_singleton, and_true]
      symm
      simp only [bne_iff_ne, ne_eq]
      omega
    · simp only [hd, Bool.false_eq_true, if_false]
      refine ⟨out, rfl, ?_⟩
      simp only [Mach.mk.injEq, true_and, List.length_append, List.length_singleton, and_true]
      cases hb : ((dedupAttrs pre).length != pre.length) <;> simp_all

/-- `create_attr` against "start a new attribute, append `c` to its name" -/
theorem attrR_createAttr (m : Mach) (L : List Attr) (c : Char)
    (h : AttrR m.tagAttrs m.tagHadDup m.attrName m.attrValue L) :
    AttrR (createAttr c m).tagAttrs (createAttr c m).tagHadDup (createAttr c m).attrName
      (createAttr c m).attrValue (L ++ [⟨[c], []⟩]) := by
  obtain ⟨out', _, hf⟩ := finishAttribute_spec m L h
  unfold createAttr
  rw [hf]
  rw [attrR_concat_iff]
  exact ⟨h.1, by simp, rfl, rfl, by simp, rfl⟩

/-! ### `create_attr` leaves everything else alone -/

@[simp] theorem createAttr_state' (c : Char) (m : Mach) : (createAttr c m).state = m.state := by
  unfold createAttr finishAttribute; split
  · rfl
  · dsimp only; split <;> rfl
@[simp] theorem createAttr_charRef' (c : Char) (m : Mach) : (createAttr c m).charRef = m.charRef := by
  unfold createAttr finishAttribute; split
  · rfl
  · dsimp only; split <;> rfl
@[simp] theorem createAttr_tagKind' (c : Char) (m : Mach) : (createAttr c m).tagKind = m.tagKind := by
  unfold createAttr finishAttribute; split
  · rfl
  · dsimp only; split <;> rfl
@[simp] theorem createAttr_tagName' (c : Char) (m : Mach) : (createAttr c m).tagName = m.tagName := by
  unfold createAttr finishAttribute; split
  · rfl
  · dsimp only; split <;> rfl
@[simp] theorem createAttr_tagSelfClosing' (c : Char) (m : Mach) : (createAttr c m).tagSelfClosing = m.tagSelfClosing := by
  unfold createAttr finishAttribute; split
  · rfl
  · dsimp only; split <;> rfl
@[simp] theorem createAttr_lastStartTag' (c : Char) (m : Mach) : (createAttr c m).lastStartTag = m.lastStartTag := by
  unfold createAttr finishAttribute; split
  · rfl
  · dsimp only; split <;> rfl
@[simp] theorem createAttr_comment' (c : Char) (m : Mach) : (createAttr c m).comment = m.comment := by
  unfold createAttr finishAttribute; split
  · rfl
  · dsimp only; split <;> rfl
@[simp] theorem createAttr_doctype' (c : Char) (m : Mach) : (createAttr c m).doctype = m.doctype := by
  unfold createAttr finishAttribute; split
  · rfl
  · dsimp only; split <;> rfl
@[simp] theorem createAttr_tempBuf' (c : Char) (m : Mach) : (createAttr c m).tempBuf = m.tempBuf := by
  unfold createAttr finishAttribute; split
  · rfl
  · dsimp only; split <;> rfl
@[simp] theorem createAttr_reconsume' (c : Char) (m : Mach) : (createAttr c m).reconsume = m.reconsume := by
  unfold createAttr finishAttribute; split
  · rfl
  · dsimp only; split <;> rfl
@[simp] theorem createAttr_currentChar' (c : Char) (m : Mach) : (createAttr c m).currentChar = m.currentChar := by
  unfold createAttr finishAttribute; split
  · rfl
  · dsimp only; split <;> rfl
@[simp] theorem createAttr_ignoreLf' (c : Char) (m : Mach) : (createAttr c m).ignoreLf = m.ignoreLf := by
  unfold createAttr finishAttribute; split
  · rfl
  · dsimp only; split <;> rfl
@[simp] theorem createAttr_flat (c : Char) (m : Mach) : flat (createAttr c m).out = flat m.out := by
  unfold createAttr finishAttribute; split
  · rfl
  · dsimp only; split <;> simp [emitErr, emit]

/-! ## tag emission -/

theorem filter_named (L : List Attr) (h : ∀ a ∈ L, a.name ≠ []) :
    L.filter (fun a => !a.name.isEmpty) = L := by
  rw [List.filter_eq_self]
  intro a ha
  have := h a ha
  cases hn : a.name with
  | nil => exact absurd hn this
  | cons _ _ => rfl

/-- `emit_current_tag`, part 1, under the relation -/
theorem tagPrologue_spec (m : Mach) (L : List Attr)
    (h : AttrR m.tagAttrs m.tagHadDup m.attrName m.attrValue L) :
    ∃ out', flat out' = flat m.out ∧
      tagPrologue m = { m with tagAttrs := dedupAttrs L,
                               tagHadDup := ((dedupAttrs L).length != L.length),
                               attrName := [], attrValue := [],
                               lastStartTag := (if m.tagKind = .startTag then some m.tagName else m.lastStartTag),
                               out := out' } := by
  obtain ⟨out1, hfl, hf⟩ := finishAttribute_spec m L h
  unfold tagPrologue
  rw [hf]
  obtain ⟨st, cr, cc, rcn, il, tk, tn, tsc, thd, ta, an0, av0, com, dt, lst, tb, ln, ae, db, out⟩ := m
  simp only at hfl ⊢
  cases tk
  · exact ⟨out1, hfl, by simp⟩
  · simp only [reduceCtorEq, if_false]
    by_cases h1 : (!(dedupAttrs L).isEmpty) = true <;> by_cases h2 : tsc = true
    · refine ⟨(Token.error "Self-closing end tag".toList, ln) :: (Token.error "Attributes on an end tag".toList, ln) :: out1, by simp [hfl], ?_⟩
      simp [h1, h2, emitErr, emit]
    · refine ⟨(Token.error "Attributes on an end tag".toList, ln) :: out1, by simp [hfl], ?_⟩
      simp [h1, h2, emitErr, emit]
    · refine ⟨(Token.error "Self-closing end tag".toList, ln) :: out1, by simp [hfl], ?_⟩
      simp [h1, h2, emitErr, emit]
    · refine ⟨out1, hfl, ?_⟩
      simp [h1, h2]

/-- **`emit_current_tag` against "Emit the current tag token"**: same tag token (attributes
de-duplicated, duplicate flag), same last start tag, same tokenizer state afterwards -/
theorem emitTag_sim (pol : Pol) (tree : Tree) (hpt : PolTree pol tree) (m : Mach) (t : Tok)
    (hcr : m.charRef = none) (hlast : m.lastStartTag = t.lastStartTag)
    (hk : m.tagKind = t.tagKind) (hn : m.tagName = t.tagName) (hsc : m.tagSelfClosing = t.selfClosing)
    (ha : AttrR m.tagAttrs m.tagHadDup m.attrName m.attrValue t.attrs) (hout : t.out = flat m.out)
    (hcom : m.comment = []) :
    (emitTag pol .data m).2 = .cont ∧ (emitTag pol .data m).1.reconsume = m.reconsume ∧
    RegCore (emitTag pol .data m).1 ((t.setState .data).emitCurrentTag tree) := by
  obtain ⟨out', hfl, hf⟩ := tagPrologue_spec (to .data m) t.attrs ha
  have hnamed := filter_named t.attrs ha.1
  unfold emitTag emitCurrentTag
  rw [hf]
  unfold Tok.emitCurrentTag Tok.currentTag
  simp only [hnamed, to, takeTag, currentTag, emit, Tok.setState, Tok.emit] at hfl ⊢
  rw [← hk, ← hn, ← hsc]
  generalize htag : Tag.mk m.tagKind m.tagName m.tagSelfClosing (dedupAttrs t.attrs)
    ((dedupAttrs t.attrs).length != t.attrs.length) = tag
  -- the history the specification hands to the tree construction stage: the tag, then everything before
  have hes : ∀ (x y : Tok), x.out = Emit.tag tag :: t.out → y.out = Emit.tag tag :: t.out →
      ∀ (c : Prop) [Decidable c], (if c then x else y).out = Emit.tag tag :: flat out' := by
    intro x y hx hy c _
    split
    · rw [hx, hout, hfl]
    · rw [hy, hout, hfl]
  rw [hes _ _ rfl rfl, hpt.onTag out']
  have hnp := hpt.noPause out' tag
  have hkind : tag.kind = m.tagKind := by rw [← htag]
  have hname : tag.name = m.tagName := by rw [← htag]
  have hls : (if tag.kind = TagKind.startTag then some tag.name else t.lastStartTag) =
      (if m.tagKind = TagKind.startTag then some m.tagName else m.lastStartTag) := by
    rw [hkind, hname, hlast]
  cases hr : pol.onTag out' tag with
  | continue_ =>
    simp only [applySinkRes, switchOf, Switch.apply]
    refine ⟨trivial, trivial, ⟨by simp [Std], Or.inl ?_, hcr, ?_, ?_⟩⟩
    · split <;> rfl
    · simp only [RegRel, isTagSt, needsCur, usesTemp, usesComment, usesDoctype, Bool.false_eq_true, false_imp_iff,
        true_imp_iff, and_true, true_and]
      split <;> simp_all
    · simp only [OutRel, cdataBuf, isCdata, flat_cons, flatTok_tag, hfl, hout]
      split <;> simp
  | plaintext =>
    simp only [applySinkRes, switchOf, Switch.apply, to, Tok.setState]
    refine ⟨trivial, trivial, ⟨by simp [Std], Or.inl ?_, hcr, ?_, ?_⟩⟩
    · split <;> rfl
    · simp only [RegRel, isTagSt, needsCur, usesTemp, usesComment, usesDoctype, Bool.false_eq_true, false_imp_iff,
        true_imp_iff, and_true, true_and]
      split <;> simp_all
    · simp only [OutRel, cdataBuf, isCdata, flat_cons, flatTok_tag, hfl, hout]
      split <;> simp
  | rawData k =>
    have hsw : ∀ (x : Tok), ((switchOf (SinkRes.rawData k)).apply x).state = stOf (.rawData k) ∧
        (switchOf (SinkRes.rawData k)).apply x = { x with state := stOf (.rawData k) } := by
      intro x
      rcases k with _ | _ | _ | (_ | _) <;> exact ⟨rfl, rfl⟩
    simp only [applySinkRes, to]
    refine ⟨trivial, trivial, ⟨by simp [Std], Or.inl (hsw _).1, hcr, ?_, ?_⟩⟩
    · rw [(hsw _).2]
      simp only [RegRel, isTagSt, needsCur, usesTemp, usesComment, usesDoctype, Bool.false_eq_true, false_imp_iff,
        true_imp_iff, and_true, true_and]
      split <;> simp_all
    · rw [(hsw _).2]
      simp only [OutRel, cdataBuf, isCdata, flat_cons, flatTok_tag, hfl, hout]
      split <;> simp
  | script => exact absurd hr hnp.1
  | indicator => exact absurd hr hnp.2

end H5V.Lemmas.HtmlTokSpec
