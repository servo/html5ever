import H5V.Lemmas.HtmlTokSpecTac
/-!
# C01 simulation — table lemmas (`transChar`) for the tag and attribute states:
tag open, end tag open, tag name, before / in / after attribute name, after attribute value (quoted),
self-closing start tag

In the states that emit the tag on `>` as it stands that leaf goes through `tabOk_gt_of_rel` (`tab_gt`);
the specification either emits the tag in its corresponding state, or first reconsumes `>` in the after
attribute name state. The self-closing start tag state sets the flag on both sides first; its `>` leaf
goes through `tabOk_gt` itself.
-/
namespace H5V.Lemmas.HtmlTokSpec
open H5V.Model.HtmlTok
open H5V.Spec.HtmlTokenizer (St Tok Emit Tree Switch Ctl ReturnSt)

/-- the opening of `tab_state`: the parts of `h : RegCore m t` in normal form at the state `hs`, on the
records as they are -/
macro "gt_intro" h:ident hs:ident : tactic => `(tactic| (
  obtain ⟨hstd, hst, hcr, hreg, hout⟩ := $h
  simp [$hs:ident, stOf, altSt, isRet] at hst
  simp [RegRel, AttrRel, $hs:ident, isTagSt, needsCur, usesTemp, usesComment, usesDoctype] at hreg
  simp [OutRel, cdataBuf, isCdata, $hs:ident] at hout))

/-- the `>` leaf of the states that emit the tag and otherwise leave it as it is -/
theorem tab_gt (o : Opts) (pol : Pol) (tree : Tree) (hpt : PolTree pol tree) (m : Mach) (t : Tok) (rest : Str)
    (h : RegCore m t) (hr : m.reconsume = false)
    (hs : m.state = .tagName ∨ m.state = .afterAttributeName ∨ m.state = .afterAttributeValueQuoted ∨
      m.state = .beforeAttributeName ∨ m.state = .attributeName) :
    TabOk tree t '>' rest (transChar o pol m '>') := by
  have hm : transChar o pol m '>' = emitTag pol .data m := by
    rcases hs with hs | hs | hs | hs | hs <;> simp [transChar, hs, isWs]
  have hst := h.st
  rw [hm]
  rcases hs with hs | hs | hs | hs | hs
  iterate 3
    simp [hs, stOf, altSt, isRet] at hst
    refine tabOk_gt_of_rel pol tree hpt m t t rest h hr (by rw [hs]; rfl) (Or.inl rfl) ?_
    simp [spec_step, hst]
  iterate 2
    simp [hs, stOf, altSt, isRet] at hst
    refine tabOk_gt_of_rel pol tree hpt m t { t with state := .afterAttributeName } rest h hr (by rw [hs]; rfl)
      (Or.inr ?_) ?_
    · simp [spec_step, hst]
    · simp [spec_step]

/-- the tag and attribute states read with `get_char!` -/
theorem tab_tags (o : Opts) (ho : o.exactErrors = false) (pol : Pol) (tree : Tree) (hpt : PolTree pol tree)
    (m : Mach) (t : Tok) (c : Char) (rest : Str) (h : RegCore m t) (hr : m.reconsume = false)
    (ht : m.state ∈ [State.tagOpen, .endTagOpen, .tagName, .beforeAttributeName, .attributeName, .afterAttributeName,
      .afterAttributeValueQuoted, .selfClosingStartTag]) :
    TabOk tree t c rest (transChar o pol m c) := by
  cases hs : m.state
  case tagOpen => tab_flat h hs c ['!', '/', '?']
  case endTagOpen => tab_flat h hs c ['>']
  case selfClosingStartTag =>
    by_cases hgt : c = '>'
    · subst hgt
      have hst := h.st
      simp [hs, stOf, altSt, isRet] at hst
      have hm : transChar o pol m '>' = emitTag pol .data { m with tagSelfClosing := true } := by
        simp [transChar, hs]
      rw [hm]
      obtain ⟨hstd, -, hcr, hreg, hout⟩ := h
      simp [RegRel, AttrRel, hs, isTagSt, needsCur, usesTemp, usesComment, usesDoctype] at hreg
      simp [OutRel, cdataBuf, isCdata, hs] at hout
      obtain ⟨r1, ⟨r2, r3, r4, r5⟩, rcm⟩ := hreg
      refine tabOk_gt pol tree hpt { m with tagSelfClosing := true } t t t.setSelfClosing rest (Or.inl rfl) ?_
        hcr hr r1 r2 r3 rfl r5 hout rcm
      simp [spec_step, hst]
    · tab_flat h hs c []
  case tagName =>
    by_cases hgt : c = '>'
    · subst hgt
      exact tab_gt o pol tree hpt m t rest h hr (by simp [hs])
    · tab_flat h hs c ['\t', '\n', '\x0c', ' ', '/', '\x00']
  case beforeAttributeName | attributeName | afterAttributeName =>
    by_cases hgt : c = '>'
    · subst hgt
      exact tab_gt o pol tree hpt m t rest h hr (by simp [hs])
    · tab_flat h hs c ['\t', '\n', '\x0c', ' ', '/', '\x00', '"', '\'', '<', '=']
  case afterAttributeValueQuoted =>
    by_cases hgt : c = '>'
    · subst hgt
      exact tab_gt o pol tree hpt m t rest h hr (by simp [hs])
    · tab_flat h hs c ['\t', '\n', '\x0c', ' ', '/']
  all_goals
    rw [hs] at ht
    simp at ht

end H5V.Lemmas.HtmlTokSpec
