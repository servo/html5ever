import H5V.Lemmas.HtmlTBModesBodyNav
/-!
The small insertion modes "initial", "before html", "before head", "in head noscript",
"after head", "text" — `ModeSim` / `ModeCharSim` of `HtmlTBModesDefs`.
-/
namespace H5V.Lemmas.HtmlTBModes
open H5V.Model.HtmlTB
open H5V.Model.Dom (Id SinkOp Output Dom QualName Attr NodeOrText ElementFlags NodeData QuirksMode)
open H5V.Lemmas.HtmlTBAlgo
open H5V.Lemmas.TBSafe (TI HInv SInv Rooted)
open H5V.Spec.TreeAlgo2 (Elem Entry PState Ctx Edit Place)
open H5V.Spec.TreeModes (STok ETok IMode Config Out TokSwitch XOp Op Step Edition)

/-! ### generalities -/

/-- outside the table modes, for a token that is not a DOCTYPE, html5ever's rules are the standard's -/
theorem byModeDev_eq_byMode (cfg : Config Id) (σ : SState) (tok : STok) (hd : isDoctype tok = false)
    (h1 : σ.mode ≠ .inTable) (h2 : σ.mode ≠ .inTableBody) (h3 : σ.mode ≠ .inRow) (hc : σ.mode ≠ .inCell) :
    byModeDev cfg σ tok = Spec.TreeModes.byMode cfg σ tok :=
  byModeDev_eq cfg σ tok (cellAssertFails_of_mode σ tok hc)

theorem dispatchDev_char {cfg : Config Id} {σ : SState} {c : Char}
    (h : Spec.TreeAlgo.useHtmlRules (Spec.TreeModes.adjustedCurrentNode cfg σ) .character = true) :
    dispatchDev cfg σ (.character c) = byModeDev cfg σ (.character c) := by
  simp only [dispatchDev, Spec.TreeModes.tokenKind, h, if_true]

/-- "anything else" of a small mode, which is what the rule does on EOF and ends with "reprocess the token" -/
theorem pc_else_tokPost {rule : SState → STok → Spec.TreeModes.M (Step Id)} {m : M ProcessResult} {s : State} {tok : Token}
    {m' : Mode} (hpc : PC m s (fun r s' calls => r = .reprocess m' tok ∧ s'.ignoreLf = s.ignoreLf ∧
      Tr s s' calls (fun x x' => rule (absF s x) .eof = .ok (.reprocess (absF { s' with mode := m' } x'))))) :
    PC m s (TokPost (fun σ => rule σ .eof) s tok) :=
  pc_conseq hpc fun _ _ _ _ ⟨hr, _, htr⟩ => hr ▸ tokPost_of_reprocess htr

/-- a rule that ends with "reprocess the token" (run of characters) -/
theorem charsPost_of_reprocess {rule : SState → STok → Spec.TreeModes.M (Step Id)} {s s' : State} {st : SplitStatus}
    {text : Str} {calls : List Call} {m : Mode} {c : Char} {cs : Str} (htext : text = c :: cs)
    (hlf : s'.ignoreLf = s.ignoreLf)
    (h : Tr s s' calls (fun x x' => rule (absF s x) (.character c) = .ok (.reprocess (absF { s' with mode := m } x')))) :
    CharsPost rule s st text (.reprocess m (.chars st text)) s' calls :=
  ⟨rfl, hlf, c, cs, htext, h.withMode m⟩

/-- the final abstract state of a rule: new mode, parse errors, junk -/
theorem absF_fin (s : State) (x : Aux) (m : Mode) (E : List String) (J : Str) (hm : (m == .inTableText) = false) :
    absF { s with mode := m } { x with errors := E, pendingJunk := J }
      = { absF s x with mode := imode m, errors := E, pendingTableChars := J } := by
  simp only [absF, hm]
  rfl

/-- the final `Aux` of a rule: new parse errors; the junk table text is what the abstract state has -/
def Aux.fin (s' : State) (x' : Aux) (E : List String) : Aux :=
  { x' with errors := E, pendingJunk := (absF s' x').pendingTableChars }

theorem absF_fin' (s' : State) (x' : Aux) (E : List String) (m : Mode) (hm : (m == .inTableText) = false) :
    absF { s' with mode := m } (x'.fin s' E) = { absF s' x' with mode := imode m, errors := E } :=
  absF_fin s' x' m E _ hm

theorem Aux.fin_same (s' : State) (x' : Aux) (E : List String) :
    AuxSame x' (x'.fin s' E) ∧ (x'.fin s' E).stopped = x'.stopped ∧ (x'.fin s' E).out.switch = x'.out.switch ∧
      (x'.fin s' E).out.script = x'.out.script :=
  ⟨⟨rfl, rfl, rfl, rfl, rfl⟩, rfl, rfl, rfl⟩

/-! ### runs of characters -/

theorem insertChar_ok {σ σ1 : SState} {c : Char} (h : Spec.TreeModes.insertChar σ c = .ok σ1) :
    σ1.mode = σ.mode ∧ σ1.stopped = σ.stopped ∧ σ1.ignoreLf = σ.ignoreLf ∧
      ∀ cfg : Config Id, Spec.TreeModes.adjustedCurrentNode cfg σ1 = Spec.TreeModes.adjustedCurrentNode cfg σ := by
  unfold Spec.TreeModes.insertChar Spec.TreeAlgo2.insertCharacters at h
  cases hp : Spec.TreeAlgo2.appropriatePlace σ.p.stack σ.p.fosterParenting none with
  | none => rw [hp] at h; cases h
  | some place =>
    rw [hp] at h
    have e : σ1 = { σ with p := { σ.p with log := σ.p.log ++ [Edit.insertText place [c]] } } := by
      cases h; rfl
    subst e
    exact ⟨rfl, rfl, rfl, fun _ => rfl⟩

/-- every character is inserted: the run of the specification -/
theorem charsRunK_fold {cfg : Config Id} {rule : SState → STok → Spec.TreeModes.M (Step Id)} {m : IMode} {text : Str}
    (hrule : ∀ σ c, c ∈ text → σ.mode = m → rule σ (.character c) = Step.done <$> Spec.TreeModes.insertChar σ c) :
    ∀ (t : Str) (σ σ' : SState), (∀ c ∈ t, c ∈ text) → σ.mode = m → σ.stopped = false → σ.ignoreLf = false →
      Spec.TreeAlgo.useHtmlRules (Spec.TreeModes.adjustedCurrentNode cfg σ) .character = true →
      t.foldlM (fun σ c => Spec.TreeModes.insertChar σ c) σ = .ok σ' → CharsRunK cfg rule σ t σ' := by
  intro t
  induction t with
  | nil =>
    intro σ σ' _ _ _ _ _ h
    cases h
    exact CharsRunK.nil σ
  | cons c r ih =>
    intro σ σ' hsub hmode hst hlf hu h
    rw [List.foldlM_cons] at h
    cases h1 : Spec.TreeModes.insertChar σ c with
    | error e => rw [h1] at h; cases h
    | ok σ1 =>
      rw [h1] at h
      obtain ⟨e1, e2, e3, e4⟩ := insertChar_ok h1
      refine CharsRunK.cons (by rw [hrule σ c (hsub c List.mem_cons_self) hmode, h1]; rfl) e1 (e2.trans hst)
        (e3.trans hlf) (by rw [e4]; exact hu) ?_
      exact ih σ1 σ' (fun c hc => hsub c (List.mem_cons_of_mem _ hc)) (e1.trans hmode) (e2.trans hst) (e3.trans hlf)
        (by rw [e4]; exact hu) h

theorem specChars_insert {cfg : Config Id} {m : IMode} {text : Str} {σ σ' : SState}
    (hrule : ∀ σ c, c ∈ text → σ.mode = m → byModeDev cfg σ (.character c) = Step.done <$> Spec.TreeModes.insertChar σ c)
    (hmode : σ.mode = m) (hst : σ.stopped = false) (hlf : σ.ignoreLf = false)
    (hu : Spec.TreeAlgo.useHtmlRules (Spec.TreeModes.adjustedCurrentNode cfg σ) .character = true)
    (hfold : text.foldlM (fun σ c => Spec.TreeModes.insertChar σ c) σ = .ok σ') :
    specChars cfg (byModeDev cfg) σ text = .ok σ' :=
  specChars_of_run (charsRunK_fold hrule text σ σ' (fun _ h => h) hmode hst hlf hu hfold) (fun _ _ => rfl)
    (fun _ _ _ _ hu1 => dispatchDev_char hu1)

/-- every character is ignored: the run of the specification -/
theorem charsRunK_const {cfg : Config Id} {rule : SState → STok → Spec.TreeModes.M (Step Id)} {σ : SState}
    (hst : σ.stopped = false) (hlf : σ.ignoreLf = false)
    (hu : Spec.TreeAlgo.useHtmlRules (Spec.TreeModes.adjustedCurrentNode cfg σ) .character = true) :
    ∀ (t : Str), (∀ c ∈ t, rule σ (.character c) = .ok (.done σ)) → CharsRunK cfg rule σ t σ
  | [], _ => CharsRunK.nil σ
  | c :: r, h => CharsRunK.cons (h c List.mem_cons_self) rfl hst hlf hu
      (charsRunK_const hst hlf hu r fun c hc => h c (List.mem_cons_of_mem _ hc))

theorem specChars_ignore {cfg : Config Id} {text : Str} {σ : SState}
    (hrule : ∀ c ∈ text, byModeDev cfg σ (.character c) = .ok (.done σ))
    (hst : σ.stopped = false) (hlf : σ.ignoreLf = false)
    (hu : Spec.TreeAlgo.useHtmlRules (Spec.TreeModes.adjustedCurrentNode cfg σ) .character = true) :
    specChars cfg (byModeDev cfg) σ text = .ok σ :=
  specChars_of_run (charsRunK_const hst hlf hu text hrule) (fun _ _ => rfl) (fun _ _ _ _ hu1 => dispatchDev_char hu1)

/-- a run of whitespace that the mode ignores -/
theorem pc_chars_ignored {s : State} (hm : MInv s) (hlf : s.ignoreLf = false) {st : SplitStatus} {text : Str}
    (hu : ∀ x, AuxOk s x → Spec.TreeAlgo.useHtmlRules (Spec.TreeModes.adjustedCurrentNode (cfgOf s) (absF s x)) .character = true)
    (hrule : ∀ x, AuxOk s x → ∀ c ∈ text, byModeDev (cfgOf s) (absF s x) (.character c) = .ok (.done (absF s x))) :
    PC (pure ProcessResult.done : M ProcessResult) s (CharsPost (byModeDev (cfgOf s)) s st text) := by
  refine pc_pure ⟨rfl, (Tr.refl hm).conseq ?_⟩
  intro x x' hx _ hxx
  subst x'
  exact specChars_ignore (hrule x hx) hx.live hlf (hu x hx)

/-- a run of characters other than whitespace in a mode that treats them as it treats EOF ("anything else", which
ends with "reprocess the token") -/
theorem pc_chars_else {rule : SState → STok → Spec.TreeModes.M (Step Id)} {elseM : Token → M ProcessResult} {m' : Mode}
    {s : State} {text : Str}
    (helse : ∀ tok, PC (elseM tok) s (fun r s' calls => r = .reprocess m' tok ∧ s'.ignoreLf = s.ignoreLf ∧
      Tr s s' calls (fun x x' => rule (absF s x) .eof = .ok (.reprocess (absF { s' with mode := m' } x')))))
    (hne : text ≠ [])
    (hb : ∀ x, AuxOk s x → ∀ c ∈ text, byModeDev (cfgOf s) (absF s x) (.character c) = rule (absF s x) .eof) :
    PC (elseM (.chars .notWhitespace text)) s (CharsPost (byModeDev (cfgOf s)) s .notWhitespace text) := by
  cases text with
  | nil => exact absurd rfl hne
  | cons c cs =>
    refine pc_conseq (helse _) ?_
    rintro r s' calls _ ⟨rfl, hlf', htr⟩
    refine charsPost_of_reprocess rfl hlf' (htr.conseq fun x x' hx _ h => ?_)
    rw [hb x hx c List.mem_cons_self, h]

/-! ### "initial" -/

theorem byModeDev_initial (cfg : Config Id) {σ : SState} (hm : σ.mode = .initial) {tok : STok} (hd : isDoctype tok = false) :
    byModeDev cfg σ tok = Spec.TreeModes.initial cfg σ tok := by
  rw [byModeDev_eq_byMode cfg σ tok hd (by simp [hm]) (by simp [hm]) (by simp [hm]) (by simp [hm])]
  simp only [Spec.TreeModes.byMode, hm]

/-- "anything else" of `stepInitial` -/
def initialElseM (tok : Token) : M ProcessResult := do
  if !(← getS).opts.iframeSrcdoc then
    let _ ← unexpected
    setQuirksMode .quirks
  pure (.reprocess .beforeHtml tok)

theorem pc_initialElse {s : State} (hm : MInv s) (tok : Token) :
    PC (initialElseM tok) s (fun r s' calls => r = .reprocess .beforeHtml tok ∧ s'.ignoreLf = s.ignoreLf ∧
      Tr s s' calls (fun x x' => Spec.TreeModes.initial (cfgOf s) (absF s x) .eof
        = .ok (.reprocess (absF { s' with mode := .beforeHtml } x')))) := by
  unfold initialElseM
  refine pc_getS_bind ?_
  by_cases hsrc : s.opts.iframeSrcdoc = true
  · simp only [hsrc, Bool.not_true, Bool.false_eq_true, if_false]
    refine pc_pure ⟨rfl, rfl, ?_⟩
    refine (Tr.refl hm).reaux (fun x x' => { x' with pendingJunk := (absF s x).pendingTableChars })
      (fun _ _ => ⟨⟨rfl, rfl, rfl, rfl, rfl⟩, rfl, rfl, rfl⟩) ?_
    intro x x' hx _ hxx
    subst x'
    simp only [Spec.TreeModes.initial, cfgOf, hsrc, Bool.not_true, Bool.false_eq_true, if_false]
    rfl
  · have hsrc' : s.opts.iframeSrcdoc = false := by simpa using hsrc
    simp only [hsrc', Bool.not_false, if_true]
    refine pc_seq (pc_unexpected_same hm) ?_
    rintro _ s1 c1 he1 ⟨-, hs1, htr1⟩
    refine pc_seq (pc_setQuirksMode htr1.1 .quirks (fun h => by cases h)) ?_
    rintro _ s2 c2 he2 ⟨hs2, htr2⟩
    refine pc_pure ⟨rfl, ?_, ?_⟩
    · rw [hs2]; exact hs1.fields.ignoreLf
    · rw [List.append_nil]
      refine (htr1.trans htr2).reaux
        (fun x x' => { x' with errors := x.errors ++ ["initial: no doctype"], pendingJunk := (absF s x).pendingTableChars })
        (fun _ _ => ⟨⟨rfl, rfl, rfl, rfl, rfl⟩, rfl, rfl, rfl⟩) ?_
      rintro x x' hx hx' ⟨x1, ⟨hxx, e1⟩, e2⟩
      subst x1
      rw [absF_fin s2 x' .beforeHtml _ _ rfl, e2, ← e1]
      simp only [Spec.TreeModes.initial, cfgOf, hsrc', Bool.not_false, if_true]
      rfl

theorem sim_initial : StepSimTok stepInitial Spec.TreeModes.initial := by
  intro tok hch hwf s hm
  have helse := fun tok' : Token => pc_else_tokPost (rule := Spec.TreeModes.initial (cfgOf s)) (pc_initialElse hm tok')
  cases tok with
  | chars st text => cases hch
  | comment text => exact pc_commentDoc_tokPost hm text _
  | eof => exact helse .eof
  | nullChar => exact helse .nullChar
  | tag t =>
    refine pc_tokPost_congr (helse (.tag t)) fun x _ => ?_
    simp only [stokOf, stokOfTag]
    split <;> rfl

theorem modeSim_initial : ModeSim .initial := by
  intro tok hch hwf s hti hm hmode _
  exact pc_tokPost_congr (sim_initial tok hch hwf s hm) fun x _ =>
    byModeDev_initial _ (by simp only [absF, hmode, imode]) (isDoctype_stokOf tok)

theorem modeCharSim_initial : ModeCharSim .initial :=
  modeCharSim_split (wsR := fun _ σ _ => pure (.done σ)) (nwsR := fun cfg σ _ => Spec.TreeModes.initial cfg σ .eof)
    (fun _ hm hmσ hlf hu hb => pc_chars_ignored hm hlf hu fun x _ => hb _ hmσ)
    (fun hwf hm hmσ _ _ hb => pc_chars_else (elseM := initialElseM) (pc_initialElse hm) hwf.1 fun x _ => hb _ hmσ)
    (fun cfg _ h _ => (byModeDev_initial cfg h rfl).trans rfl) fun _ => rfl

/-! ### "before html" -/

theorem byModeDev_beforeHtml (cfg : Config Id) {σ : SState} (hm : σ.mode = .beforeHtml) {tok : STok}
    (hd : isDoctype tok = false) : byModeDev cfg σ tok = Spec.TreeModes.beforeHtml cfg σ tok := by
  rw [byModeDev_eq_byMode cfg σ tok hd (by simp [hm]) (by simp [hm]) (by simp [hm]) (by simp [hm])]
  simp only [Spec.TreeModes.byMode, hm]

/-- "anything else" of `stepBeforeHtml` -/
def beforeHtmlElseM (tok : Token) : M ProcessResult := do
  createRoot []
  pure (.reprocess .beforeHead tok)

theorem pc_beforeHtmlElse {s : State} (hm : MInv s) (tok : Token) :
    PC (beforeHtmlElseM tok) s (fun r s' calls => r = .reprocess .beforeHead tok ∧ s'.ignoreLf = s.ignoreLf ∧
      Tr s s' calls (fun x x' => Spec.TreeModes.beforeHtml (cfgOf s) (absF s x) .eof
        = .ok (.reprocess (absF { s' with mode := .beforeHead } x')))) := by
  unfold beforeHtmlElseM
  refine pc_seq (pc_createRoot_bare hm) ?_
  rintro _ s1 c1 he1 ⟨a, f, ho, hfresh, hel, hnm, htr⟩
  refine pc_pure ⟨rfl, f.ignoreLf, ?_⟩
  rw [List.append_nil]
  refine htr.reaux (fun _ x' => x'.fin s1 x'.errors) (fun _ x' => x'.fin_same s1 _) ?_
  intro x x' hx hx' h
  rw [absF_fin' s1 x' _ .beforeHead rfl]
  simp only [Spec.TreeModes.beforeHtml, h]
  rfl

theorem stepBeforeHtml_tag (t : Tag) : stepBeforeHtml (.tag t) =
    (if t.isStart ["html"] then do
      createRoot t.attrs
      setMode .beforeHead
      pure .done
    else if t.isEnd ["head", "body", "html", "br"] then beforeHtmlElseM (.tag t)
    else if t.kind == .endTag then unexpected
    else beforeHtmlElseM (.tag t)) := rfl

theorem sim_beforeHtml : StepSimTok stepBeforeHtml Spec.TreeModes.beforeHtml := by
  intro tok hch hwf s hm
  have helse := fun tok' : Token => pc_else_tokPost (rule := Spec.TreeModes.beforeHtml (cfgOf s)) (pc_beforeHtmlElse hm tok')
  cases tok with
  | chars st text => cases hch
  | comment text => exact pc_commentDoc_tokPost hm text _
  | eof => exact helse .eof
  | nullChar => exact helse .nullChar
  | tag t =>
    have hp : PlainTag t := (hwf : TagWf t).plain
    rw [stepBeforeHtml_tag]
    cases hk : t.kind with
    | startTag =>
      simp +decide only [stokOf, stokOfTag_start hk, isStart_of_start hk, isEnd_of_start hk, Spec.TreeModes.beforeHtml,
        specTag_is, Bool.false_eq_true, if_false]
      refine pc_tok_ite (fun h1 => ?_) fun _ => helse _
      refine pc_seq (pc_createRoot_tag hm hp (name_of_isOneOf h1)) ?_
      rintro _ s1 c1 he1 ⟨a, f, ho, hfresh, hel, hnm, htr1⟩
      refine pc_seq (pc_setMode htr1.1 _) ?_
      rintro _ s2 c2 _ ⟨rfl, htr2⟩
      refine pc_pure (tokPost_of_tr (by rw [List.append_nil]; exact htr1.trans htr2) trivial ?_)
      rintro x x'' hx hx'' ⟨x1, r1, r2⟩
      subst x''
      refine ⟨x1.fin s1 x1.errors, ?_, (x1.fin_same s1 _).1, Or.inl rfl, rfl, rfl⟩
      simp only [r1, stepOf]
      rw [absF_fin' s1 x1 _ .beforeHead rfl]
      rfl
    | endTag =>
      simp +decide only [stokOf, stokOfTag_end hk, isStart_of_end hk, isEnd_of_end hk, Spec.TreeModes.beforeHtml,
        specTag_isOneOf, Bool.false_eq_true, if_false, if_true]
      exact pc_tok_ite (fun _ => helse _) fun _ => pc_unexpected_err hm _ _

theorem modeSim_beforeHtml : ModeSim .beforeHtml := by
  intro tok hch hwf s hti hm hmode _
  exact pc_tokPost_congr (sim_beforeHtml tok hch hwf s hm) fun x _ =>
    byModeDev_beforeHtml _ (by simp only [absF, hmode, imode]) (isDoctype_stokOf tok)

theorem modeCharSim_beforeHtml : ModeCharSim .beforeHtml :=
  modeCharSim_split (wsR := fun _ σ _ => pure (.done σ)) (nwsR := fun cfg σ _ => Spec.TreeModes.beforeHtml cfg σ .eof)
    (fun _ hm hmσ hlf hu hb => pc_chars_ignored hm hlf hu fun x _ => hb _ hmσ)
    (fun hwf hm hmσ _ _ hb => pc_chars_else (elseM := beforeHtmlElseM) (pc_beforeHtmlElse hm) hwf.1 fun x _ => hb _ hmσ)
    (fun cfg _ h _ => (byModeDev_beforeHtml cfg h rfl).trans rfl) fun _ => rfl

/-! ### "before head" -/

theorem byModeDev_beforeHead (cfg : Config Id) {σ : SState} (hm : σ.mode = .beforeHead) {tok : STok}
    (hd : isDoctype tok = false) : byModeDev cfg σ tok = Spec.TreeModes.beforeHead cfg σ tok := by
  rw [byModeDev_eq_byMode cfg σ tok hd (by simp [hm]) (by simp [hm]) (by simp [hm]) (by simp [hm])]
  simp only [Spec.TreeModes.byMode, hm]

/-- `self.head_elem = Some(h)`: "set the head element pointer to the newly created `head` element" -/
theorem pc_setHead {s : State} (hm : MInv s) (h : Id) (hel : s.dom.isElement h = true) :
    PC (modS fun s => { s with headElem := some h }) s (fun _ s' calls => s' = { s with headElem := some h } ∧
      Tr s s' calls (fun x x' => x' = x ∧ absF s' x' = { absF s x with headPointer := some (elemOf s.dom h) })) := by
  have hm' : MInv { s with headElem := some h } :=
    { hm with head := fun y hy => by cases hy; exact hel }
  refine pc_modS rfl rfl ⟨rfl, (Tr.of_upd (s' := { s with headElem := some h }) hm rfl (fun _ h => h) hm' rfl).conseq ?_⟩
  intro x x' _ _ hxx
  subst x'
  exact ⟨rfl, rfl⟩

/-- "anything else" of `stepBeforeHead` -/
def beforeHeadElseM (tok : Token) : M ProcessResult := do
  let h ← insertPhantom "head"
  modS fun s => { s with headElem := some h }
  pure (.reprocess .inHead tok)

theorem pc_beforeHeadElse {s : State} (hm : MInv s) (tok : Token) :
    PC (beforeHeadElseM tok) s (fun r s' calls => r = .reprocess .inHead tok ∧ s'.ignoreLf = s.ignoreLf ∧
      Tr s s' calls (fun x x' => Spec.TreeModes.beforeHead (cfgOf s) (absF s x) .eof
        = .ok (.reprocess (absF { s' with mode := .inHead } x')))) := by
  unfold beforeHeadElseM
  refine pc_seq (pc_insertPhantom hm "head") ?_
  rintro a s1 c1 he1 ⟨f, ho, hfresh, hel, hnm, htr1⟩
  refine pc_seq (pc_setHead htr1.1 a hel) ?_
  rintro _ s2 c2 he2 ⟨hs2, htr2⟩
  refine pc_pure ⟨rfl, by rw [hs2]; exact f.ignoreLf, ?_⟩
  rw [List.append_nil]
  refine (htr1.trans htr2).reaux (fun _ x' => x'.fin s2 x'.errors) (fun _ x' => x'.fin_same s2 _) ?_
  rintro x x' hx hx' ⟨x1, r1, hxx, r2⟩
  subst x'
  rw [absF_fin' s2 x1 _ .inHead rfl, r2]
  simp only [Spec.TreeModes.beforeHead, r1]
  rfl

theorem stepBeforeHead_tag (t : Tag) : stepBeforeHead (.tag t) =
    (if t.isStart ["html"] then stepInBody (.tag t)
    else if t.isStart ["head"] then do
      let h ← insertElementFor t
      modS fun s => { s with headElem := some h }
      setMode .inHead
      pure .done
    else if t.isEnd ["head", "body", "html", "br"] then beforeHeadElseM (.tag t)
    else if t.kind == .endTag then unexpected
    else beforeHeadElseM (.tag t)) := rfl

theorem sim_beforeHead (hbody : StepSimTok stepInBody Spec.TreeModes.inBody) :
    StepSimTok stepBeforeHead Spec.TreeModes.beforeHead := by
  intro tok hch hwf s hm
  have helse := fun tok' : Token => pc_else_tokPost (rule := Spec.TreeModes.beforeHead (cfgOf s)) (pc_beforeHeadElse hm tok')
  cases tok with
  | chars st text => cases hch
  | comment text => exact pc_comment_tokPost hm text _
  | eof => exact helse .eof
  | nullChar => exact helse .nullChar
  | tag t =>
    have hp : PlainTag t := (hwf : TagWf t).plain
    rw [stepBeforeHead_tag]
    cases hk : t.kind with
    | startTag =>
      simp +decide only [stokOf, stokOfTag_start hk, isStart_of_start hk, isEnd_of_start hk, Spec.TreeModes.beforeHead,
        specTag_is, Bool.false_eq_true, if_false]
      refine pc_tok_ite (fun _ => ?_) fun _ => pc_tok_ite (fun _ => ?_) fun _ => helse _
      · have := hbody (.tag t) rfl hwf s hm
        rwa [stokOf, stokOfTag_start hk] at this
      refine pc_seq (pc_insertElementFor hm hp) ?_
      rintro a s1 c1 he1 ⟨f, ho, hfresh, hel, hnm, htr1⟩
      refine pc_seq (pc_setHead htr1.1 a hel) ?_
      rintro _ s2 c2 he2 ⟨hs2, htr2⟩
      refine pc_seq (pc_setMode htr2.1 _) ?_
      rintro _ s3 c3 _ ⟨rfl, htr3⟩
      refine pc_pure (tokPost_of_tr (calls := c1 ++ (c2 ++ (c3 ++ [])))
        (by rw [List.append_nil, ← List.append_assoc]; exact (htr1.trans htr2).trans htr3) trivial ?_)
      rintro x x'' hx hx'' ⟨x2, ⟨x1, r1, hxx, r2⟩, r3⟩
      subst x'' x2
      refine ⟨x1.fin s2 x1.errors, ?_, (x1.fin_same s2 _).1, Or.inl rfl, rfl, rfl⟩
      simp only [r1, stepOf]
      rw [absF_fin' s2 x1 _ .inHead rfl, r2]
      rfl
    | endTag =>
      simp +decide only [stokOf, stokOfTag_end hk, isStart_of_end hk, isEnd_of_end hk, Spec.TreeModes.beforeHead,
        specTag_isOneOf, Bool.false_eq_true, if_false, if_true]
      exact pc_tok_ite (fun _ => helse _) fun _ => pc_unexpected_err hm _ _

theorem modeSim_beforeHead (hbody : StepSimTok stepInBody Spec.TreeModes.inBody) : ModeSim .beforeHead := by
  intro tok hch hwf s hti hm hmode _
  exact pc_tokPost_congr (sim_beforeHead hbody tok hch hwf s hm) fun x _ =>
    byModeDev_beforeHead _ (by simp only [absF, hmode, imode]) (isDoctype_stokOf tok)

theorem modeCharSim_beforeHead : ModeCharSim .beforeHead :=
  modeCharSim_split (wsR := fun _ σ _ => pure (.done σ)) (nwsR := fun cfg σ _ => Spec.TreeModes.beforeHead cfg σ .eof)
    (fun _ hm hmσ hlf hu hb => pc_chars_ignored hm hlf hu fun x _ => hb _ hmσ)
    (fun hwf hm hmσ _ _ hb => pc_chars_else (elseM := beforeHeadElseM) (pc_beforeHeadElse hm) hwf.1 fun x _ => hb _ hmσ)
    (fun cfg _ h _ => (byModeDev_beforeHead cfg h rfl).trans rfl) fun _ => rfl

/-! ### "in head noscript" -/

theorem byModeDev_inHeadNoscript (cfg : Config Id) {σ : SState} (hm : σ.mode = .inHeadNoscript) {tok : STok}
    (hd : isDoctype tok = false) : byModeDev cfg σ tok = Spec.TreeModes.inHeadNoscript cfg σ tok := by
  rw [byModeDev_eq_byMode cfg σ tok hd (by simp [hm]) (by simp [hm]) (by simp [hm]) (by simp [hm])]
  simp only [Spec.TreeModes.byMode, hm]

/-- "anything else" of `stepInHeadNoscript` -/
def inHeadNoscriptElseM (tok : Token) : M ProcessResult := do
  let _ ← unexpected
  let _ ← pop
  pure (.reprocess .inHead tok)

theorem pc_inHeadNoscriptElse {s : State} (hm : MInv s) (tok : Token) :
    PC (inHeadNoscriptElseM tok) s (fun r s' calls => r = .reprocess .inHead tok ∧ s'.ignoreLf = s.ignoreLf ∧
      Tr s s' calls (fun x x' => Spec.TreeModes.inHeadNoscript (cfgOf s) (absF s x) .eof
        = .ok (.reprocess (absF { s' with mode := .inHead } x')))) := by
  unfold inHeadNoscriptElseM
  refine pc_seq (pc_unexpected_same hm) ?_
  rintro _ s1 c1 he1 ⟨-, hs1, htr1⟩
  refine pc_seq (pc_pop htr1.1) ?_
  rintro h s2 c2 he2 ⟨-, -, hso, htr2⟩
  refine pc_pure ⟨rfl, (SameButSL.of_stackOnly hso).ignoreLf.trans hs1.fields.ignoreLf, ?_⟩
  rw [List.append_nil]
  refine (htr1.trans htr2).reaux (fun x x' => x'.fin s2 (x.errors ++ ["in head noscript: unexpected token"]))
    (fun _ x' => x'.fin_same s2 _) ?_
  rintro x x' hx hx' ⟨x1, ⟨hxx, r1⟩, hxx', r2, -⟩
  subst x' x1
  rw [absF_fin' s2 x _ .inHead rfl, r2, ← r1]
  rfl

theorem stepInHeadNoscript_tag (t : Tag) : stepInHeadNoscript (.tag t) =
    (if t.isStart ["html"] then stepInBody (.tag t)
    else if t.isEnd ["noscript"] then do
      let _ ← pop
      setMode .inHead
      pure .done
    else if t.isStart ["basefont", "bgsound", "link", "meta", "noframes", "style"] then stepInHead (.tag t)
    else if t.isEnd ["br"] then inHeadNoscriptElseM (.tag t)
    else if t.isStart ["head", "noscript"] || t.kind == .endTag then unexpected
    else inHeadNoscriptElseM (.tag t)) := rfl

theorem sim_inHeadNoscript (hhead : StepSimTok stepInHead Spec.TreeModes.inHead)
    (hbody : StepSimTok stepInBody Spec.TreeModes.inBody) :
    StepSimTok stepInHeadNoscript Spec.TreeModes.inHeadNoscript := by
  intro tok hch hwf s hm
  have helse := fun tok' : Token => pc_else_tokPost (rule := Spec.TreeModes.inHeadNoscript (cfgOf s)) (pc_inHeadNoscriptElse hm tok')
  cases tok with
  | chars st text => cases hch
  | comment text =>
    show PC (stepInHead (.comment text)) s _
    exact pc_tokPost_congr (hhead (.comment text) rfl hwf s hm) fun x hx => rfl
  | eof => exact helse .eof
  | nullChar => exact helse .nullChar
  | tag t =>
    rw [stepInHeadNoscript_tag]
    cases hk : t.kind with
    | startTag =>
      have hb := hbody (.tag t) rfl hwf s hm
      have hh := hhead (.tag t) rfl hwf s hm
      rw [stokOf, stokOfTag_start hk] at hb hh
      simp +decide only [stokOf, stokOfTag_start hk, isStart_of_start hk, isEnd_of_start hk, kind_se, Spec.TreeModes.inHeadNoscript,
        specTag_is, specTag_isOneOf, Bool.or_false, Bool.false_eq_true, if_false]
      exact pc_tok_ite (fun _ => hb) fun _ => pc_tok_ite (fun _ => hh) fun _ =>
        pc_tok_ite (fun _ => pc_unexpected_err hm _ _) fun _ => helse _
    | endTag =>
      simp +decide only [stokOf, stokOfTag_end hk, isStart_of_end hk, isEnd_of_end hk, kind_ee, Spec.TreeModes.inHeadNoscript,
        specTag_is, Bool.false_or, Bool.false_eq_true, if_false, if_true]
      refine pc_tok_ite (fun _ => ?_) fun _ => pc_tok_ite (fun _ => helse _) fun _ => pc_unexpected_err hm _ _
      refine pc_seq (pc_pop hm) ?_
      rintro h s1 c1 he1 ⟨-, -, hso, htr1⟩
      refine pc_seq (pc_setMode htr1.1 _) ?_
      rintro _ s2 c2 _ ⟨rfl, htr2⟩
      refine pc_pure (tokPost_of_tr (by rw [List.append_nil]; exact htr1.trans htr2) trivial ?_)
      rintro x x'' hx hx'' ⟨x1, ⟨hxx, r1, -⟩, hxx'⟩
      subst x'' x1
      refine ⟨x.fin s1 x.errors, ?_, (x.fin_same s1 _).1, Or.inl rfl, rfl, rfl⟩
      simp only [stepOf]
      rw [absF_fin' s1 x _ .inHead rfl, r1]
      rfl

theorem modeSim_inHeadNoscript (hhead : StepSimTok stepInHead Spec.TreeModes.inHead)
    (hbody : StepSimTok stepInBody Spec.TreeModes.inBody) : ModeSim .inHeadNoscript := by
  intro tok hch hwf s hti hm hmode _
  exact pc_tokPost_congr (sim_inHeadNoscript hhead hbody tok hch hwf s hm) fun x _ =>
    byModeDev_inHeadNoscript _ (by simp only [absF, hmode, imode]) (isDoctype_stokOf tok)

theorem modeCharSim_inHeadNoscript (hheadc : StepSimChars stepInHead Spec.TreeModes.inHead) :
    ModeCharSim .inHeadNoscript := 
  modeCharSim_split (nwsR := fun cfg σ _ => Spec.TreeModes.inHeadNoscript cfg σ .eof) (pc_chars_delegate hheadc)
    (fun hwf hm hmσ _ _ hb => pc_chars_else (elseM := inHeadNoscriptElseM) (pc_inHeadNoscriptElse hm) hwf.1 fun x _ => hb _ hmσ)
    (fun cfg _ h _ => (byModeDev_inHeadNoscript cfg h rfl).trans rfl) fun _ => rfl

/-! ### a rule function called in the middle of a rule -/

theorem done_of_map {m : Spec.TreeModes.M SState} {r : Step Id} (h : Step.done <$> m = .ok r) : ∃ σ', r = .done σ' := by
  cases m with
  | error e => cases h
  | ok a => cases h; exact ⟨a, rfl⟩

theorem done_of_bind {m : Spec.TreeModes.M SState} {f : SState → SState} {r : Step Id}
    (h : (m >>= fun σ => pure (Step.done (f σ))) = .ok r) : ∃ σ', r = .done σ' := by
  cases m with
  | error e => cases h
  | ok a => cases h; exact ⟨_, rfl⟩

theorem ite_ok_cases {α : Type} {c : Prop} [Decidable c] {a b : Spec.TreeModes.M α} {r : α}
    (h : (if c then a else b) = .ok r) : (c ∧ a = .ok r) ∨ (¬c ∧ b = .ok r) := by
  by_cases hc : c
  · exact Or.inl ⟨hc, by rwa [if_pos hc] at h⟩
  · exact Or.inr ⟨hc, by rwa [if_neg hc] at h⟩

/-- "in head" handles the start tags of head content at once -/
theorem inHead_headContent_done (cfg : Config Id) (σ : SState) (t : STag)
    (h : t.isOneOf ["base", "basefont", "bgsound", "link", "meta", "noframes", "script", "style", "template", "title"] = true)
    {r : Step Id} (hr : Spec.TreeModes.inHead cfg σ (.startTag t) = .ok r) : ∃ σ', r = .done σ' := by
  simp only [Spec.TreeModes.inHead] at hr
  simp only [Spec.TreeModes.Tag.is, Spec.TreeModes.Tag.isOneOf, strIs_eq, strIsOneOf_cons, strIsOneOf_nil, Bool.or_false,
      Bool.or_eq_true, decide_eq_true_eq] at h hr
  -- down the arms for start tags: each returns "done", except "anything else", which `h` excludes
  rcases ite_ok_cases hr with ⟨c1, -⟩ | ⟨c1, hr⟩
  · rw [c1] at h; exact absurd h (by decide)
  rcases ite_ok_cases hr with ⟨-, hr⟩ | ⟨c2, hr⟩
  · exact done_of_map hr
  rcases ite_ok_cases hr with ⟨-, hr⟩ | ⟨c3, hr⟩
  · exact done_of_map hr
  rcases ite_ok_cases hr with ⟨-, hr⟩ | ⟨c4, hr⟩
  · exact done_of_map hr
  rcases ite_ok_cases hr with ⟨-, hr⟩ | ⟨c5, hr⟩
  · exact done_of_map hr
  rcases ite_ok_cases hr with ⟨-, hr⟩ | ⟨-, hr⟩
  · exact done_of_bind hr
  rcases ite_ok_cases hr with ⟨-, hr⟩ | ⟨c7, hr⟩
  · exact done_of_bind hr
  rcases ite_ok_cases hr with ⟨-, hr⟩ | ⟨c8, hr⟩
  · exact done_of_bind hr
  rcases ite_ok_cases hr with ⟨-, hr⟩ | ⟨-, -⟩
  · cases hr; exact ⟨_, rfl⟩
  simp only [not_or] at c2 c5
  rcases h with h | h | h | h | h | h | h | h | h | h
  · exact absurd h c2.1
  · exact absurd h c2.2.1
  · exact absurd h c2.2.2.1
  · exact absurd h c2.2.2.2
  · exact absurd h c3
  · exact absurd h c5.2.1
  · exact absurd h c7
  · exact absurd h c5.2.2
  · exact absurd h c8
  · exact absurd h c4
/-! ### "after head" -/

theorem byModeDev_afterHead (cfg : Config Id) {σ : SState} (hm : σ.mode = .afterHead) {tok : STok}
    (hd : isDoctype tok = false) : byModeDev cfg σ tok = Spec.TreeModes.afterHead cfg σ tok := by
  rw [byModeDev_eq_byMode cfg σ tok hd (by simp [hm]) (by simp [hm]) (by simp [hm]) (by simp [hm])]
  simp only [Spec.TreeModes.byMode, hm]

/-- "anything else" of `stepAfterHead` -/
def afterHeadElseM (tok : Token) : M ProcessResult := do
  let _ ← insertPhantom "body"
  pure (.reprocess .inBody tok)

theorem pc_afterHeadElse {s : State} (hm : MInv s) (tok : Token) :
    PC (afterHeadElseM tok) s (fun r s' calls => r = .reprocess .inBody tok ∧ s'.ignoreLf = s.ignoreLf ∧
      Tr s s' calls (fun x x' => Spec.TreeModes.afterHead (cfgOf s) (absF s x) .eof
        = .ok (.reprocess (absF { s' with mode := .inBody } x')))) := by
  unfold afterHeadElseM
  refine pc_seq (pc_insertPhantom' hm "body") ?_
  rintro a s1 c1 he1 ⟨f, ho, hfresh, hel, hnm, htr1⟩
  refine pc_pure ⟨rfl, f.ignoreLf, ?_⟩
  rw [List.append_nil]
  refine htr1.reaux (fun _ x' => x'.fin s1 x'.errors) (fun _ x' => x'.fin_same s1 _) ?_
  intro x x' hx hx' r1
  rw [absF_fin' s1 x' _ .inBody rfl]
  simp only [Spec.TreeModes.afterHead, r1]
  rfl

/-- the start tags of head content in `stepAfterHead` -/
def afterHeadHeadM (t : Tag) : M ProcessResult := do
  let _ ← unexpected
  match (← getS).headElem with
  | none => panicAt "no-head-element" "rules.rs:399" "expect(\"no head element\")"
  | some head =>
    push head
    let result ← stepInHead (.tag t)
    removeFromStack head
    pure result

theorem stepAfterHead_tag (t : Tag) : stepAfterHead (.tag t) =
    (if t.isStart ["html"] then stepInBody (.tag t)
    else if t.isStart ["body"] then do
      let _ ← insertElementFor t
      setFramesetOk false
      setMode .inBody
      pure .done
    else if t.isStart ["frameset"] then do
      let _ ← insertElementFor t
      setMode .inFrameset
      pure .done
    else if t.isStart ["base", "basefont", "bgsound", "link", "meta", "noframes", "script", "style",
                        "template", "title"] then afterHeadHeadM t
    else if t.isEnd ["template"] then stepInHead (.tag t)
    else if t.isEnd ["body", "html", "br"] then afterHeadElseM (.tag t)
    else if t.isStart ["head"] || t.kind == .endTag then unexpected
    else afterHeadElseM (.tag t)) := rfl

theorem headName_ne_html : TBSafe.headName ≠ (⟨nsHtml, "html".toList⟩ : EName) := by decide
theorem headName_ne_annot : TBSafe.headName ≠ annotName := html_ne_annot _

theorem pc_afterHeadHead (hhead : StepSimTok stepInHead Spec.TreeModes.inHead) {s : State} (hti : TI s) (hm : MInv s)
    (hne : s.openElems ≠ []) {t : Tag} (hwf : TagWf t) (hk : t.kind = .startTag)
    (hl : (specTag t).isOneOf ["base", "basefont", "bgsound", "link", "meta", "noframes", "script", "style",
      "template", "title"] = true) :
    PC (afterHeadHeadM t) s (TokPost (fun σ => do
      let σ1 := Spec.TreeModes.State.err σ "after head: head content"
      let head ← Spec.TreeModes.req σ1.headPointer "after head: the head element pointer is null"
      let r ← Spec.TreeModes.inHead (cfgOf s) (σ1.setStack (σ1.p.stack ++ [head])) (.startTag (specTag t))
      pure (r.map fun σ => Spec.TreeModes.removeFromStack σ head.id)) s (.tag t)) := by
  unfold afterHeadHeadM
  refine pc_seq (pc_unexpected_same hm) ?_
  rintro _ s0 c0 he0 ⟨-, hs0, htr0⟩
  have hm0 := htr0.1
  refine pc_getS_bind ?_
  cases hh : s0.headElem with
  | none => exact pc_panicAt
  | some head =>
    have hhs : s.headElem = some head := by rw [← hs0.fields.headElem]; exact hh
    obtain ⟨hel, hnm⟩ := hti.h.head head hhs
    have hel' : s.dom.isElement head = true := isEl_iff.mp hel
    have hnm' : nameOf s.dom head = TBSafe.headName := by rw [← nm_eq_nameOf]; exact hnm
    have hnm0 : nameOf s0.dom head = TBSafe.headName := by rw [nameOf_ext he0.ext hel']; exact hnm'
    have hne0 : s0.openElems ≠ [] := by rw [hs0.openElems]; exact hne
    refine pc_seq (pc_push hm0 head (hm0.head head hh) (fun h => absurd h hne0) ?_ (by rw [hnm0]; exact headName_ne_annot)
      (ip_of_html (name := "head".toList) hnm0)) ?_
    · intro t' ht'
      rw [hs0.activeFormatting] at ht'
      rw [nameOf_ext he0.ext hel', ← nm_eq_nameOf]
      exact (hti.h.af head t' ht').2.1
    rintro _ s1 c1 he1 ⟨hs1, hc1, htr1⟩
    subst hc1
    have htr01 := (htr0.trans htr1).reaux (fun x x' => { x' with errors := x.errors ++ ["after head: head content"] })
      (fun _ _ => ⟨⟨rfl, rfl, rfl, rfl, rfl⟩, rfl, rfl, rfl⟩)
      (R' := fun x x1 => absF s1 x1 = ((absF s x).err "after head: head content").setStack
        ((absF s x).p.stack ++ [elemOf s.dom head])) (by
        rintro x x' hx hx' ⟨xm, ⟨hxm, r0⟩, hxx, r1⟩
        subst x' xm
        rw [absF_errors, r1, ← r0, elemOf_ext he0.ext hel']
        rfl)
    refine pc_seq (hhead (.tag t) rfl hwf s1 htr1.1) ?_
    intro res s2 c2 he2 hpost
    have hn2 : nameOf s2.dom head ≠ ⟨nsHtml, "html".toList⟩ := by
      have hd1 : s1.dom = s0.dom := by rw [hs1]
      rw [nameOf_ext he2.ext (by rw [hd1]; exact hm0.head head hh), hd1, hnm0]
      exact headName_ne_html
    refine pc_seq (Q1 := fun _ s3 c3 => MInv s2 → Tr s2 s3 c3 (fun x x' => x' = x ∧
        absF s3 x = Spec.TreeModes.removeFromStack (absF s2 x) head)) ?_ ?_
    · intro a s3 hr
      by_cases hm2 : MInv s2
      · obtain ⟨calls, he, hq⟩ := pc_removeFromStack_of_name hm2 head hn2 a s3 hr
        exact ⟨calls, he, fun _ => hq⟩
      · obtain ⟨calls, he, -⟩ := PC.of_tot (tot_removeFromStack s2 head) a s3 hr
        exact ⟨calls, he, fun h => absurd h hm2⟩
    rintro _ s3 c3 he3 htr3
    refine pc_pure ?_
    have := tokPost_inner (F := fun σ => Spec.TreeModes.removeFromStack σ head) (spec := fun σ => do
      let σ1 := Spec.TreeModes.State.err σ "after head: head content"
      let head ← Spec.TreeModes.req σ1.headPointer "after head: the head element pointer is null"
      let r ← Spec.TreeModes.inHead (cfgOf s) (σ1.setStack (σ1.p.stack ++ [head])) (.startTag (specTag t))
      pure (r.map fun σ => Spec.TreeModes.removeFromStack σ head.id)) (by intro h; cases h) htr01 he2 hpost htr3 ?_
    · simpa only [List.append_nil, List.nil_append] using this
    intro x x1 x2 hx hx1 r1 hx2 e2 r3
    have hhp : (absF s x).headPointer = some (elemOf s.dom head) := by
      simp only [absF, hhs, Option.map_some]
    have hcfg : cfgOf s1 = cfgOf s := htr01.2.1
    rw [hcfg, r1] at e2
    simp only [stokOf, stokOfTag_start hk] at e2
    simp only [Spec.TreeModes.State.err, hhp, Spec.TreeModes.req] at e2 ⊢
    show (do
      let r ← Spec.TreeModes.inHead (cfgOf s) _ (.startTag (specTag t))
      pure (r.map fun σ => Spec.TreeModes.removeFromStack σ head)) = _
    rw [e2]
    obtain ⟨σ', hσ'⟩ := inHead_headContent_done _ _ _ hl e2
    cases res with
    | reprocess m t' => cases hσ'
    | _ => simp only [stepOf] at r3 ⊢ <;> rw [r3] <;> rfl

theorem sim_afterHead (hhead : StepSimTok stepInHead Spec.TreeModes.inHead)
    (hbody : StepSimTok stepInBody Spec.TreeModes.inBody) :
    ∀ tok, isCharsTok tok = false → TokWf tok → ∀ s, TI s → MInv s → s.openElems ≠ [] →
      PC (stepAfterHead tok) s (TokPost (fun σ => Spec.TreeModes.afterHead (cfgOf s) σ (stokOf tok)) s tok) := by
  intro tok hch hwf s hti hm hne
  have helse := fun tok' : Token => pc_else_tokPost (rule := Spec.TreeModes.afterHead (cfgOf s)) (pc_afterHeadElse hm tok')
  cases tok with
  | chars st text => cases hch
  | comment text => exact pc_comment_tokPost hm text _
  | eof => exact helse .eof
  | nullChar => exact helse .nullChar
  | tag t =>
    have hp : PlainTag t := (hwf : TagWf t).plain
    rw [stepAfterHead_tag]
    cases hk : t.kind with
    | startTag =>
      have hb := hbody (.tag t) rfl hwf s hm
      rw [stokOf, stokOfTag_start hk] at hb
      simp +decide only [stokOf, stokOfTag_start hk, isStart_of_start hk, isEnd_of_start hk, kind_se, Spec.TreeModes.afterHead,
        specTag_is, specTag_isOneOf, Bool.or_false, Bool.false_eq_true, if_false]
      refine pc_tok_ite (fun _ => hb) fun _ => pc_tok_ite (fun _ => ?_) fun _ => pc_tok_ite (fun _ => ?_) fun _ =>
        pc_tok_ite (fun h => pc_afterHeadHead hhead hti hm hne hwf hk (by rwa [specTag_isOneOf])) fun _ =>
        pc_tok_ite (fun _ => pc_unexpected_err hm _ _) fun _ => helse _
      · refine pc_seq (pc_insertElementFor' hm hp) ?_
        rintro a s1 c1 he1 ⟨f, ho, hfresh, hel, hnm, htr1⟩
        refine pc_seq (pc_setFramesetNotOk htr1.1) ?_
        rintro _ s2 c2 he2 ⟨hs2, htr2⟩
        refine pc_seq (pc_setMode htr2.1 _) ?_
        rintro _ s3 c3 _ ⟨rfl, htr3⟩
        refine pc_pure (tokPost_of_tr (calls := c1 ++ (c2 ++ (c3 ++ [])))
          (by rw [List.append_nil, ← List.append_assoc]; exact (htr1.trans htr2).trans htr3) trivial ?_)
        rintro x x'' hx hx'' ⟨x2, ⟨x1, r1, hxx, r2⟩, r3⟩
        subst x'' x2
        refine ⟨x1.fin s2 x1.errors, ?_, (x1.fin_same s2 _).1, Or.inl rfl, rfl, rfl⟩
        simp only [r1, stepOf]
        rw [absF_fin' s2 x1 _ .inBody rfl, r2]
        rfl
      · refine pc_seq (pc_insertElementFor' hm hp) ?_
        rintro a s1 c1 he1 ⟨f, ho, hfresh, hel, hnm, htr1⟩
        refine pc_seq (pc_setMode htr1.1 _) ?_
        rintro _ s2 c2 _ ⟨rfl, htr2⟩
        refine pc_pure (tokPost_of_tr (by rw [List.append_nil]; exact htr1.trans htr2) trivial ?_)
        rintro x x'' hx hx'' ⟨x1, r1, hxx⟩
        subst x''
        refine ⟨x1.fin s1 x1.errors, ?_, (x1.fin_same s1 _).1, Or.inl rfl, rfl, rfl⟩
        simp only [r1, stepOf]
        rw [absF_fin' s1 x1 _ .inFrameset rfl]
        rfl
    | endTag =>
      have hh := hhead (.tag t) rfl hwf s hm
      rw [stokOf, stokOfTag_end hk] at hh
      simp +decide only [stokOf, stokOfTag_end hk, isStart_of_end hk, isEnd_of_end hk, kind_ee, Spec.TreeModes.afterHead,
        specTag_is, specTag_isOneOf, Bool.false_or, Bool.false_eq_true, if_false, if_true]
      exact pc_tok_ite (fun _ => hh) fun _ => pc_tok_ite (fun _ => helse _) fun _ => pc_unexpected_err hm _ _

theorem modeSim_afterHead (hhead : StepSimTok stepInHead Spec.TreeModes.inHead)
    (hbody : StepSimTok stepInBody Spec.TreeModes.inBody) : ModeSim .afterHead := by
  intro tok hch hwf s hti hm hmode _
  have hne : s.openElems ≠ [] := by
    obtain ⟨r, rest, hl, -⟩ := hti.s.root (by rw [hmode]; rfl)
    rw [hl]; exact List.cons_ne_nil _ _
  exact pc_tokPost_congr (sim_afterHead hhead hbody tok hch hwf s hti hm hne) fun x _ =>
    byModeDev_afterHead _ (by simp only [absF, hmode, imode]) (isDoctype_stokOf tok)

theorem modeCharSim_afterHead : ModeCharSim .afterHead :=
  modeCharSim_split (nwsR := fun cfg σ _ => Spec.TreeModes.afterHead cfg σ .eof) (fun _ hm => pc_chars_insert hm)
    (fun hwf hm hmσ _ _ hb => pc_chars_else (elseM := afterHeadElseM) (pc_afterHeadElse hm) hwf.1 fun x _ => hb _ hmσ)
    (fun cfg _ h _ => (byModeDev_afterHead cfg h rfl).trans rfl) fun _ => rfl

/-! ### "text" -/

theorem byModeDev_text (cfg : Config Id) {σ : SState} (hm : σ.mode = .text) {tok : STok}
    (hd : isDoctype tok = false) : byModeDev cfg σ tok = Spec.TreeModes.text σ tok := by
  rw [byModeDev_eq_byMode cfg σ tok hd (by simp [hm]) (by simp [hm]) (by simp [hm]) (by simp [hm])]
  simp only [Spec.TreeModes.byMode, hm]

/-- the abstract state after `orig_mode.take()` and the switch to that mode -/
theorem absF_origTaken (s : State) (x : Aux) (m : Mode) (E : List String) (o : Out Id)
    (hm : (m == .inTableText) = false) (ho : s.origMode = some m) :
    absF { s with origMode := none, mode := m }
        { x with errors := E, origDefault := imode m, pendingJunk := (absF s x).pendingTableChars, out := o }
      = { absF s x with mode := imode m, errors := E, out := o } := by
  simp only [absF, hm, ho]
  rfl

/-- a `set` that changes neither the DOM nor the stack, the list, the head / context element -/
theorem pc_set_upd {s s2 : State} (hm : MInv s) (hd : s2.dom = s.dom) (ht : s2.traceRev = s.traceRev)
    (ho : s2.openElems = s.openElems) (haf : s2.activeFormatting = s.activeFormatting)
    (hh : s2.headElem = s.headElem) (hc : s2.contextElem = s.contextElem) (hcfg : cfgOf s2 = cfgOf s)
    (htm : s2.templateModes = s.templateModes) (hfe : s2.formElem = s.formElem)
    (hpe : s2.pendingTableText = s.pendingTableText) :
    PC (set s2 : M Unit) s (fun _ s' calls => s' = s2 ∧ Tr s s' calls (fun x x' => x' = x)) :=
  pc_set hd ht ⟨rfl, Tr.of_upd hm hd (by rw [ho]; exact fun _ h => h)
    (hm.of_fields (by rw [hd]; exact TBSafe.Ext.refl _) ho haf hh hc htm hfe hpe) hcfg⟩

/-- `current_node_named(name)`: the fields of the tree builder are unchanged (the answer is not used) -/
theorem pc_currentNodeNamed_same {s : State} (hm : MInv s) (name : String) :
    PC (currentNodeNamed name) s (fun _ s' calls => SameTB s s' ∧
      Tr s s' calls (fun x x' => x' = x ∧ absF s x = absF s' x)) := by
  cases hl : s.openElems.getLast? with
  | none => unfold currentNodeNamed currentNodeNamedS; exact pc_bind (pc_currentNode_empty hl)
  | some h0 =>
    have ht : Tot (currentNodeNamed name) s
        (fun _ s' calls => SameTB s s' ∧ edits calls = []) := by
      unfold currentNodeNamed currentNodeNamedS
      refine tot_query_bind (pop_tot_currentNode hl) fun s1 c1 he1 hs1 hc1 => ?_
      exact tot_conseq (tot_htmlElemNamedS s1 h0 name.toList) fun b s2 c2 _ ⟨_, h2, h3⟩ =>
        ⟨hs1.trans h2, by simp [edits_append, hc1, h3]⟩
    exact pc_conseq (PC.of_tot ht) fun _ _ _ he ⟨hs, hc⟩ =>
      ⟨hs, Tr.of_same hm hs he (by rw [← edits2_edits, hc]; rfl)⟩

/-- `sink.mark_script_already_started(node)`: not a tree operation -/
theorem pc_markScript {s : State} (hm : MInv s) (node : Id) :
    PC (sinkUnit (.markScriptAlreadyStarted node)) s (fun _ s' calls => SameTB s s' ∧
      Tr s s' calls (fun x x' => x' = x ∧ absF s x = absF s' x)) := by
  refine pc_conseq (pc_sinkUnit s) ?_
  rintro _ s' calls he ⟨d', out, ha, hs', hc⟩
  have hs : SameTB s s' := hs' ▸ SameTB.afterCall ..
  exact ⟨hs, Tr.of_same hm hs he (by rw [hc]; rfl)⟩

/-- `pop` in "text": the abstract state after the original insertion mode is taken -/
theorem pc_text_pop {s : State} (hm : MInv s) {om : Mode} (hom : s.origMode = some om)
    (hnt : (om == .inTableText) = false) :
    PC pop s (fun node s1 calls => s1.origMode = some om ∧
      Tr s s1 calls (fun x x' => x' = x ∧ (absF s x).cur = some (elemOf s.dom node) ∧ ∀ E o,
        absF { s1 with origMode := none, mode := om }
          { x with errors := E, origDefault := imode om, pendingJunk := (absF s1 x).pendingTableChars, out := o }
        = { (absF s x).pop.setMode (absF s x).originalMode with errors := E, out := o })) := by
  refine pc_conseq (pc_pop hm) ?_
  rintro node s1 calls _ ⟨-, -, hso, htr⟩
  have hom1 : s1.origMode = some om := (SameButSL.of_stackOnly hso).origMode.trans hom
  refine ⟨hom1, htr.conseq ?_⟩
  rintro x x' hx _ ⟨hxx, r1, r2⟩
  refine ⟨hxx, r2, fun E o => ?_⟩
  rw [absF_origTaken s1 x om E o hnt hom1, r1]
  have : (absF s x).originalMode = imode om := by simp only [absF, hom, Option.map_some, Option.getD_some]
  rw [this]
  rfl

/-- the end of the EOF clause of `stepText` -/
def textEofTailM : M ProcessResult := do
  let _ ← pop
  let s ← getS
  match s.origMode with
  | none => panicAt "unwrap-none" "rules.rs:1023" "orig_mode.take().unwrap()"
  | some m =>
    set { s with origMode := none }
    pure (.reprocess m .eof)

theorem pc_textEofTail {s : State} (hm : MInv s) {om : Mode} (hom : s.origMode = some om)
    (hnt : (om == .inTableText) = false) :
    PC textEofTailM s (fun r s' calls => r = .reprocess om .eof ∧
      Tr s s' calls (fun x x' => x' = x ∧ ∃ J, ∀ E o,
        absF { s' with mode := om } { x with errors := E, origDefault := imode om, pendingJunk := J, out := o }
        = { (absF s x).pop.setMode (absF s x).originalMode with errors := E, out := o })) := by
  unfold textEofTailM
  refine pc_seq (pc_text_pop hm hom hnt) ?_
  rintro node s1 c1 he1 ⟨hom1, htr1⟩
  refine pc_getS_bind ?_
  simp only [hom1]
  refine pc_seq (pc_set_upd htr1.1 rfl rfl rfl rfl rfl rfl rfl rfl rfl rfl) ?_
  rintro _ s2 c2 _ ⟨rfl, htr2⟩
  refine pc_pure ⟨rfl, ?_⟩
  rw [List.append_nil]
  refine (htr1.trans htr2).conseq ?_
  rintro x x' hx _ ⟨x1, ⟨hxx, -, r1⟩, hxx'⟩
  subst x' x1
  exact ⟨rfl, _, r1⟩

theorem sim_text : ∀ tok, isCharsTok tok = false → TokWf tok → TBSafe.textTok tok = true → ∀ s, TI s → MInv s →
    s.mode = .text → PC (stepText tok) s (TokPost (fun σ => Spec.TreeModes.text σ (stokOf tok)) s tok) := by
  intro tok hch hwf htt s hti hm hmode
  obtain ⟨om, hom, hok, -, -, -⟩ := hti.s.text hmode
  have hnt : (om == .inTableText) = false := by
    cases om <;> first | rfl | (revert hok; decide)
  cases tok with
  | chars st text => cases hch
  | comment text => cases htt
  | nullChar => cases htt
  | eof =>
    simp only [stepText, pure_bind]
    refine pc_seq (pc_unexpected_same hm) ?_
    rintro _ s0 c0 he0 ⟨-, hs0, htr0⟩
    have hom0 : s0.origMode = some om := hs0.fields.origMode.trans hom
    refine pc_seq (pc_currentNodeNamed_same htr0.1 "script") ?_
    rintro b s1 c1 he1 ⟨hs1, htr1⟩
    have hom1 : s1.origMode = some om := hs1.fields.origMode.trans hom0
    have hfinal : ∀ {s2 : State} {c2 : List Call}, s2.origMode = some om →
        Tr s s2 c2 (fun x x' => x' = x ∧ absF s x = absF s2 x) →
        PC textEofTailM s2 (fun r s3 c3 => TokPost (fun σ => Spec.TreeModes.text σ (stokOf .eof)) s .eof r s3 (c2 ++ c3)) := by
      intro s2 c2 hom2 htr2
      refine pc_conseq (pc_textEofTail htr2.1 hom2 hnt) ?_
      rintro r s3 c3 _ ⟨rfl, htr3⟩
      refine tokPost_of_tr (htr2.trans htr3) rfl ?_
      rintro x x'' hx hx'' ⟨x2, ⟨hxx, r2⟩, hxx', J, r3⟩
      subst x'' x2
      refine ⟨{ x with errors := x.errors ++ ["text: end of file"], origDefault := imode om, pendingJunk := J },
        ?_, ⟨rfl, rfl, rfl, rfl, rfl⟩, Or.inl rfl, rfl, rfl⟩
      simp only [stokOf, Spec.TreeModes.text, stepOf, applyRes]
      rw [r3 _ x.out, ← r2]
      rfl
    cases b with
    | false =>
      simp only [Bool.false_eq_true, if_false]
      refine pc_conseq (hfinal hom1 ((htr0.trans htr1).conseq ?_)) fun r s3 c3 _ h => by
        rw [List.append_assoc] at h; exact h
      rintro x x' _ _ ⟨x1, ⟨e1, r1⟩, e2, r2⟩
      subst x' x1
      exact ⟨rfl, r1.trans r2⟩
    | true =>
      simp only [if_true]
      refine pc_getS_bind ?_
      cases hl : s1.openElems.getLast? with
      | none => exact pc_bind pc_panicAt
      | some cur =>
        simp only []
        refine pc_seq (pc_markScript htr1.1 cur) ?_
        rintro _ s2 c2 he2 ⟨hs2, htr2⟩
        have hom2 : s2.origMode = some om := hs2.fields.origMode.trans hom1
        refine pc_conseq (hfinal hom2 (((htr0.trans htr1).trans htr2).conseq ?_)) fun r s3 c3 _ h => by
          simp only [List.append_assoc] at h
          exact h
        rintro x x' _ _ ⟨x2, ⟨x1, ⟨e1, r1⟩, e2, r2⟩, e3, r3⟩
        subst x' x2 x1
        exact ⟨rfl, (r1.trans r2).trans r3⟩
  | tag t =>
    have hk : t.kind = .endTag := by simpa [TBSafe.textTok] using htt
    simp only [stepText, hk, beq_self_eq_true, if_true]
    refine pc_seq (pc_text_pop hm hom hnt) ?_
    rintro node s1 c1 he1 ⟨hom1, htr1⟩
    refine pc_getS_bind ?_
    simp only [hom1]
    refine pc_seq (pc_set_upd htr1.1 rfl rfl rfl rfl rfl rfl rfl rfl rfl rfl) ?_
    rintro _ s2 c2 _ ⟨rfl, htr2⟩
    have htr := htr1.trans htr2
    simp only [isName_eq]
    by_cases hs : t.name = "script".toList
    · simp only [hs, decide_true, if_true]
      refine pc_pure (tokPost_of_tr (by rw [List.append_nil]; exact htr) trivial ?_)
      rintro x x'' hx hx'' ⟨x1, ⟨hxx, rc, r1⟩, hxx'⟩
      subst x'' x1
      refine ⟨{ x with errors := x.errors, origDefault := imode om, pendingJunk := (absF s1 x).pendingTableChars,
                       out := { x.out with script := some node } },
        ?_, ⟨rfl, rfl, rfl, rfl, rfl⟩, Or.inl rfl, ⟨rfl, rfl⟩⟩
      simp only [stokOf, stokOfTag_end hk, Spec.TreeModes.text, Spec.TreeModes.Tag.is, strIs_eq, specTag_name, hs,
        decide_true, if_true, rc, Spec.TreeModes.req, stepOf]
      rw [r1]
      rfl
    · simp only [hs, decide_false, Bool.false_eq_true, if_false]
      refine pc_pure (tokPost_of_tr (by rw [List.append_nil]; exact htr) trivial ?_)
      rintro x x'' hx hx'' ⟨x1, ⟨hxx, rc, r1⟩, hxx'⟩
      subst x'' x1
      refine ⟨{ x with errors := x.errors, origDefault := imode om, pendingJunk := (absF s1 x).pendingTableChars,
                       out := x.out },
        ?_, ⟨rfl, rfl, rfl, rfl, rfl⟩, Or.inl rfl, rfl, rfl⟩
      simp only [stokOf, stokOfTag_end hk, Spec.TreeModes.text, Spec.TreeModes.Tag.is, strIs_eq, specTag_name, hs,
        decide_false, Bool.false_eq_true, if_false, stepOf]
      rw [r1]
      rfl

theorem modeSim_text : ModeSim .text := by
  intro tok hch hwf s hti hm hmode htext
  exact pc_tokPost_congr (sim_text tok hch hwf (htext rfl) s hti hm hmode) fun x _ =>
    byModeDev_text _ (by simp only [absF, hmode, imode]) (isDoctype_stokOf tok)

theorem modeCharSim_text : ModeCharSim .text := by
  intro st text hwf s hti hm hmode hlf hu
  have hσ : ∀ x, (absF s x).mode = .text := fun x => by simp only [absF, hmode, imode]
  show PC (appendText text) s _
  refine pc_conseq (pc_appendText hm text) ?_
  rintro r s' calls _ ⟨rfl, hs, htr⟩
  refine ⟨hs.fields.ignoreLf, htr.conseq ?_⟩
  intro x x' hx _ hfold
  refine specChars_insert (m := .text) ?_ (hσ x) hx.live hlf (hu x hx) hfold
  intro σ c hc hmσ
  rw [byModeDev_text _ hmσ rfl]
  rfl

end H5V.Lemmas.HtmlTBModes
