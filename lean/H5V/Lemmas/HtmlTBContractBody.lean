import H5V.Lemmas.HtmlTBContractBody1
/-!
# TreeSink contract for the HTML tree builder: the "in body" rules

`rs_stepInBody`: `RS d0 tok (stepInBody tok)` for every token, against the delegation hypothesis `HeadH`
(the "in head" rules); `bodyH` discharges `BodyH` from `HeadH`.

The `if … else if …` chain of the tag arm is peeled arm by arm; an arm made of registered leaves is closed by
the walker `rs_walk`, the special arms (`<body>`, `<frameset>`, `<li>`, `</form>`, `</option>`, `<a>`, `<nobr>`,
the adoption agency, `</br>`) are navigated by hand with the lemmas of `HtmlTBContractBody1`.
-/
namespace H5V.Lemmas.TBC
open H5V.Model.HtmlTB
open H5V.Model.Dom (Id Dom)
open H5V.Lemmas.TBSafe (Ext fmtNames)
variable {d0 : Dom}

/- `apply` finds the arity of its goal by `whnf` at default transparency; with `SatC` unfoldable that runs the code
of the rule on a symbolic state at every step of the walk. -/
attribute [local irreducible] SatC

/-- peel one arm off an `if … else if …` chain, naming the guard -/
macro "peel" h:ident : tactic => `(tactic| ((with_reducible apply cpsp_ite) <;> intro $h:ident))

theorem rs_stepInBody (hH : HeadH d0) : ∀ tok, TokOk tok → RS d0 tok (stepInBody tok) := by
  unfold H5V.Model.HtmlTB.stepInBody
  intro tok ht
  unfold RS
  cases tok with
  | chars st text => dsimp only; rs_walk
  | comment t => dsimp only; rs_walk
  | nullChar => dsimp only; rs_walk
  | eof => dsimp only; rs_walk
  | tag tag =>
    have ha : AttrsOk tag.attrs := ht
    dsimp only
    -- <html>
    peel h1
    · rs_walk
    -- head elements, </template>: the in-head rules
    peel h2
    · rs_walk
    -- <body>
    peel h3
    · refine cpsp_bind_cp cp_unexpected (fun _ => ?_)
      refine cpsp_bind_cp cp_bodyElem (fun r => ?_)
      cases r with
      | none => exact cpsp_pure_nil _ trivial
      | some node => dsimp only; rs_walk
    -- <frameset>
    peel h4
    · refine cpsp_bind_cp cp_unexpected (fun _ => ?_)
      refine cpsp_getS_bind (fun s0 => ?_)
      refine cpsp_ite (fun _ => cpsp_pure_nil _ trivial) (fun _ => ?_)
      refine cpsp_bind_cp cp_bodyElem (fun r => ?_)
      cases r with
      | none => exact cpsp_pure_nil _ trivial
      | some node =>
        dsimp only
        refine cpsp_bind (cps_removeFromParent (by ctx_mem)) (fun _ => ?_)
        rs_walk
    -- </body>
    peel h5
    · rs_walk
    -- </html>
    peel h6
    · rs_walk
    -- <address> … <ul>
    peel h7
    · rs_walk
    -- <menu>
    peel h8
    · rs_walk
    -- <h1> … <h6>
    peel h9
    · rs_walk
    -- <pre>, <listing>
    peel h10
    · rs_walk
    -- <form>
    peel h11
    · rs_walk
    -- <li>, <dd>, <dt>
    peel h12
    · refine cpsp_bind_cp cp_setFramesetOk (fun _ => ?_)
      refine cpsp_getS_bind (fun s0 => ?_)
      refine cpsp_bind_cp cp_listCloseSearch_state (fun r => ?_)
      cases r with
      | none => dsimp only; rs_walk
      | some name => dsimp only; rs_walk
    -- <plaintext>
    peel h13
    · rs_walk
    -- <button>
    peel h14
    · rs_walk
    -- </address> … </ul>
    peel h15
    · rs_walk
    -- </form>
    peel h16
    · refine cpsp_bind_cp cp_inHtmlElemNamed (fun b => ?_)
      refine cpsp_ite (fun _ => ?_) (fun _ => by rs_walk)
      refine cpsp_getS_bind_at (fun s0 => ?_)
      cases hf : s0.formElem with
      | none => dsimp only; refine cpsp_at ?_ s0; rs_walk
      | some node =>
        dsimp only
        intro hcb hsa hc
        refine cpspat_set_bind (fun h1 h2 => cb_clearForm h1 h2) ?_ hcb hsa hc
        have hn : node ∈ stH s0 := by simp [stH, hf]
        refine cpsp_bind_cp (cp_inScope_sameNodeL (by simp [hn])) (fun b2 => ?_)
        refine cpsp_ite (fun _ => by rs_walk) (fun _ => ?_)
        refine cpsp_bind_cp cp_generateImpliedEndTags (fun _ => ?_)
        refine cpsp_bind_cp cp_currentNode (fun current => ?_)
        refine cpsp_bind_cp (cp_removeFromStack (by simp [hn])) (fun _ => ?_)
        refine cpsp_bind_cp (cp_sameNode (by simp) (by simp [hn])) (fun b3 => ?_)
        rs_walk
    -- </option>
    peel h17
    · refine cpsp_findOption_bind (fun r s hcb hsa hr => ?_)
      cases r with
      | none => exact satc_pure ⟨hcb, hsa, Ext.refl _, trivial⟩
      | some o => exact satc_optionMirror hcb hsa (hr o rfl).1 (hr o rfl).2
    -- </p>
    peel h18
    · rs_walk
    -- </li>, </dd>, </dt>
    peel h19
    · rs_walk
    -- </h1> … </h6>
    peel h20
    · rs_walk
    -- <a>
    peel h21
    · have hfmt : isOneOf tag.name fmtNames = true := start_sub h21
      refine cpsp_bind cps_handleMisnestedATags (fun _ => ?_)
      rs_walk
    -- <b> … <u>
    peel h22
    · have hfmt : isOneOf tag.name fmtNames = true := start_sub h22
      rs_walk
    -- <nobr>
    peel h23
    · have hfmt : isOneOf tag.name fmtNames = true := start_sub h23
      refine cpsp_bind_cp cp_reconstructActiveFormattingElements (fun _ => ?_)
      refine cpsp_bind_cp cp_inScopeNamed (fun b => ?_)
      refine cpsp_ite (fun _ => ?_) (fun _ => by rs_walk)
      refine cpsp_bind_cp cp_parseError (fun _ => ?_)
      refine cpsp_bind (cps_adoptionAgency (by decide)) (fun _ => ?_)
      rs_walk
    -- </a> … </u>: the adoption agency
    peel h24
    · refine cpsp_bind (cps_adoptionAgency (end_sub h24)) (fun _ => ?_)
      rs_walk
    -- <applet>, <marquee>, <object>
    peel h25
    · rs_walk
    -- </applet>, </marquee>, </object>
    peel h26
    · rs_walk
    -- <table>
    peel h27
    · rs_walk
    -- </br>
    peel h28
    · have hnil : AttrsOk ({ tag with kind := .startTag, attrs := [] } : Tag).attrs := attrsOk_nil
      rs_walk
    -- <area> … <wbr>
    peel h29
    · rs_walk
    -- <input>
    peel h30
    · rs_walk
    -- <param>, <source>, <track>
    peel h31
    · rs_walk
    -- <hr>
    peel h32
    · rs_walk
    -- <image>
    peel h33
    · rs_walk
    -- <textarea>
    peel h34
    · rs_walk
    -- <xmp>
    peel h35
    · rs_walk
    -- <iframe>
    peel h36
    · rs_walk
    -- <noembed>
    peel h37
    · rs_walk
    -- <select>
    peel h38
    · rs_walk
    -- <option>
    peel h39
    · rs_walk
    -- <optgroup>
    peel h40
    · rs_walk
    -- <rb>, <rtc>
    peel h41
    · rs_walk
    -- <rp>, <rt>
    peel h42
    · rs_walk
    -- <math>
    peel h43
    · rs_walk
    -- <svg>
    peel h44
    · rs_walk
    -- <caption> … <tr>
    peel h45
    · rs_walk
    -- any other start tag
    peel h46
    · rs_walk
    -- any other end tag
    rs_walk

theorem bodyH (hH : HeadH d0) : BodyH d0 := rs_stepInBody hH

end H5V.Lemmas.TBC
