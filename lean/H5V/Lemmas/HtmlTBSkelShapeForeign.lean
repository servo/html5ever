import H5V.Lemmas.HtmlTBSkelShapeTable2
/-!
C06, second invariant layer: the rules for foreign content.
-/
namespace H5V.Props.C06
open H5V.Model.Dom hiding Str
open H5V.Model.HtmlTB hiding Str
open H5V.Lemmas.Dom

/-- the answer `true` of `is_foreign`: the current node is not an HTML element -/
theorem isForeign_cur {tok : Token} {s s0 : State} (hl : Late s) (e : isForeign tok s = .ok (true, s0)) :
    QS s s0 ∧ ∃ t, s.openElems.getLast? = some t ∧ ((nm s.dom t).ns == nsHtml) = false := by
  refine ⟨IsQ.q _ _ _ e, ?_⟩
  unfold isForeign at e
  rcases ite_run e with ⟨_, e⟩ | ⟨_, e⟩
  · obtain ⟨h, _⟩ := pure_ok.mp e; cases h
  rw [getS_bind] at e
  rcases ite_run e with ⟨_, e⟩ | ⟨_, e⟩
  · obtain ⟨h, _⟩ := pure_ok.mp e; cases h
  obtain ⟨cur, s1, e1, e2⟩ := bind_ok.mp e
  have hcur : s1 = s ∧ s.openElems.getLast? = some cur := by
    unfold adjustedCurrentNode at e1
    rw [getS_bind] at e1
    rw [hl.st.ctx] at e1
    rcases ite_run e1 with ⟨_, e1⟩ | ⟨_, e1⟩
    · exact currentNode_sem e1
    · exact currentNode_sem e1
  obtain ⟨rfl, hlast⟩ := hcur
  obtain ⟨n, s2, e3, e4⟩ := bind_ok.mp e2
  obtain ⟨q2, rfl, _⟩ := elemName_sem e3
  rcases ite_run e4 with ⟨_, e4⟩ | ⟨hns, e4⟩
  · obtain ⟨h, _⟩ := pure_ok.mp e4; cases h
  · exact ⟨cur, hlast, by simpa using hns⟩

/-- where foreign elements can be the current node: the body phase.  The state is `Big m0`, and any
state that is `Big m0` with the same mode fields satisfies the invariant -/
theorem Good.foreign_ctx {r t : Id} {s : State} (hg : Good r s) (hl : s.openElems.getLast? = some t)
    (hns : ((nm s.dom t).ns == nsHtml) = false) :
    ∃ m0 ph, Big m0 r ph s ∧
      ∀ s' : State, Big m0 r ph s' → s'.mode = s.mode → s'.origMode = s.origMode → Good r s' := by
  obtain ⟨up, ph, hs, _⟩ := id hg
  have hc := hs.core
  have hf := hs.fits
  -- the current node is an HTML element: impossible
  have html_last : ∀ y, s.openElems.getLast? = some y → (nm s.dom y).ns = nsHtml → False := by
    intro y hy hn
    rw [hl] at hy; cases hy
    rw [hn] at hns; simp at hns
  have hroot : (nm s.dom r).ns = nsHtml := by rw [hc.root_name]; rfl
  have lastOf : ∀ (u0 : List Id) (z : Id), up = u0 ++ [z] → s.openElems.getLast? = some z := by
    intro u0 z h0
    rw [hc.stack, h0, show r :: (u0 ++ [z]) = (r :: u0) ++ [z] from rfl, List.getLast?_append]; simp
  have lastNil : up = [] → s.openElems.getLast? = some r := by
    intro h0; rw [hc.stack, h0]; rfl
  unfold FitsM at hf
  cases hm : s.mode <;> rw [hm] at hf
  case initial => exact absurd hf id
  case beforeHtml => exact absurd hf id
  case beforeHead => exact absurd (html_last r (lastNil hf.1) hroot) id
  case inHead =>
    obtain ⟨h, hh, hu, rfl⟩ := hf
    have hhn : nm s.dom h = hN "head" := by
      obtain ⟨h', e1, _, e3⟩ := hc.elems; rw [hh] at e1; cases e1; exact e3
    exact absurd (html_last h (lastOf [] h hu) (by rw [hhn]; rfl)) id
  case inHeadNoscript =>
    obtain ⟨h, x, hh, hu, _, hxn⟩ := hf
    exact absurd (html_last x (lastOf [h] x hu) (by rw [hxn]; rfl)) id
  case afterHead => exact absurd (html_last r (lastNil hf.1) hroot) id
  case text =>
    obtain ⟨om, up0, x, _, hu, _, _, _, _, hxns⟩ := hf
    exact absurd (html_last x (lastOf up0 x hu) hxns) id
  case inFrameset =>
    obtain ⟨fs, up', hu, _, hall⟩ := hf
    rcases nil_or_concat up with h0 | ⟨u0, z, h0⟩
    · rw [h0] at hu; cases hu
    · exact absurd (html_last z (lastOf u0 z h0) (by rw [hall z (by rw [h0]; simp)]; rfl)) id
  case afterFrameset => exact absurd (html_last r (lastNil hf.1) hroot) id
  case afterAfterFrameset =>
    rcases nil_or_concat up with h0 | ⟨u0, z, h0⟩
    · exact absurd (html_last r (lastNil h0) hroot) id
    · have := hf.2 z (by rw [h0]; simp)
      obtain ⟨a, _, heq⟩ := htmlIn_eq this
      exact absurd (html_last z (lastOf u0 z h0) (by rw [heq]; rfl)) id
  case inTableText =>
    obtain ⟨om, ho, h3, hfit⟩ := hf
    have hbl : isBL om = true := isT3.bl h3
    obtain ⟨hbb, hneed⟩ := bl_of_fits hbl hfit
    refine ⟨om, ph, ⟨up, hc, hbb, hneed, FPok.triv _ _⟩, fun s' hb' hm' ho' => ?_⟩
    obtain ⟨up2, hc2, hbb2, hn2, _⟩ := hb'
    refine Good.mk' (up := up2) (ph := ph) ⟨hc2, ?_⟩
    unfold FitsM
    rw [hm']
    exact ⟨om, by rw [ho', ho], h3, fits_of_bl hbl hbb2 hn2⟩
  case afterBody =>
    obtain ⟨b, _, hs', hb⟩ := hg.ab (by rw [hm]; rfl)
    obtain ⟨up2, ph2, hs2, _⟩ := id hg
    exact ⟨.inBody, .pb b, hb, fun s' hb' hm' _ => good_of_big_pb hb' (Or.inl (by rw [hm']; rfl))⟩
  case afterAfterBody =>
    obtain ⟨b, _, hs', hb⟩ := hg.ab (by rw [hm]; rfl)
    exact ⟨.inBody, .pb b, hb, fun s' hb' hm' _ => good_of_big_pb hb' (Or.inl (by rw [hm']; rfl))⟩
  all_goals
    (obtain ⟨ph', hb⟩ := hg.big hm rfl
     exact ⟨_, ph', hb, fun s' hb' hm' _ => hb'.good hm' rfl⟩)


theorem keepName_of_foreign {n : EName} (h : (n.ns == nsHtml) = false) : keepName n = false := by
  cases n with
  | mk ns loc => exact keepName_foreign h

theorem appendText_res {text : Str} {s s' : State} {res : ProcessResult} (e : appendText text s = .ok (res, s')) :
    res = .done := by
  unfold appendText at e
  obtain ⟨_, _, _, e2⟩ := bind_ok.mp e
  exact (pure_ok.mp e2).1.symm

theorem appendComment_res {text : Str} {s s' : State} {res : ProcessResult}
    (e : appendComment text s = .ok (res, s')) : res = .done := by
  unfold appendComment at e
  obtain ⟨_, _, _, e2⟩ := bind_ok.mp e
  obtain ⟨_, _, _, e3⟩ := bind_ok.mp e2
  exact (pure_ok.mp e3).1.symm

/-- `unexpected_start_tag_in_foreign_content`: foreign elements are popped, the token goes to the
rules of the current insertion mode -/
theorem unexpectedStart_good (MO : ∀ m, isLate m = true → ModeOk m) {tag : Tag} {r : Id} {s s' : State} {m0 : Mode}
    {ph : Phase} {res : ProcessResult} (hb : Big m0 r ph s)
    (rebuild : ∀ s' : State, Big m0 r ph s' → s'.mode = s.mode → s'.origMode = s.origMode → Good r s')
    (e : unexpectedStartTagInForeignContent tag s = .ok (res, s')) : Out r s' res := by
  unfold unexpectedStartTagInForeignContent at e
  obtain ⟨_, s1, e1, e2⟩ := bind_ok.mp e
  have q1 := (qs_unexpected e1).1
  rw [getS_bind] at e2
  obtain ⟨_, s2, e3, e4⟩ := bind_ok.mp e2
  rw [getS_bind] at e4
  obtain ⟨popped, p, hp⟩ := popToIntegrationPointLoop_sem _ _ _ _ e3
  have hb2 : Big m0 r ph s2 := (hb.qs q1).pop p (fun x hx => keepName_of_foreign (by
    have := hp x hx
    cases hq : ((nm s1.dom x).ns == nsHtml) with
    | false => rfl
    | true => exact absurd (by simpa using hq) this))
  have hg2 : Good r s2 := rebuild s2 hb2 (by rw [p.rest]; exact q1.mode) (by rw [p.rest, q1.rest])
  exact MO s2.mode hg2.late.ml.mode (.tag tag) inferInstance r s2 res s' hg2 rfl e4

/-- the end-tag loop of the foreign-content rules -/
theorem foreignEndTagLoop_good (MO : ∀ m, isLate m = true → ModeOk m) {tag : Tag} {r : Id} {m0 : Mode} {ph : Phase}
    {s0 : State}
    (rebuild : ∀ s' : State, Big m0 r ph s' → s'.mode = s0.mode → s'.origMode = s0.origMode → Good r s') :
    ∀ (idx : Nat) (first : Bool) (s s' : State) (res : ProcessResult), Big m0 r ph s → QS s0 s →
      (∀ j y, idx < j → s.openElems[j]? = some y → ((nm s.dom y).ns == nsHtml) = false) →
      (first = true → ∀ y, s.openElems[idx]? = some y → ((nm s.dom y).ns == nsHtml) = false) →
      foreignEndTagLoop tag idx first s = .ok (res, s') → Out r s' res
  | 0, first, s, s', res, hb, q0, _, _, e => by
    unfold foreignEndTagLoop at e
    rw [getS_bind] at e
    cases hget : s.openElems[0]? with
    | none =>
      rw [hget] at e; dsimp only at e
      obtain ⟨_, _, h1, _⟩ := bind_ok.mp e
      exact absurd h1 panicAt_ok
    | some node =>
      rw [hget] at e; dsimp only at e
      obtain ⟨nd, s1, e1, e2⟩ := bind_ok.mp e
      obtain ⟨rfl, rfl⟩ := pure_ok.mp e1
      obtain ⟨n, s2, e3, e4⟩ := bind_ok.mp e2
      obtain ⟨q2, rfl, _⟩ := elemName_sem e3
      have hg2 : Good r s2 := rebuild s2 (hb.qs q2) (q2.mode.trans q0.mode) (by rw [q2.rest, q0.rest])
      rcases ite_run e4 with ⟨h1, e4⟩ | ⟨h1, e4⟩
      · rw [getS_bind] at e4
        exact MO s2.mode hg2.late.ml.mode (.tag tag) inferInstance r s2 res s' hg2 rfl e4
      · obtain ⟨rfl, rfl⟩ := pure_ok.mp e4
        exact hg2
  | idx + 1, first, s, s', res, hb, q0, habove, hfirst, e => by
    unfold foreignEndTagLoop at e
    rw [getS_bind] at e
    cases hget : s.openElems[idx + 1]? with
    | none =>
      rw [hget] at e; dsimp only at e
      obtain ⟨_, _, h1, _⟩ := bind_ok.mp e
      exact absurd h1 panicAt_ok
    | some node =>
      rw [hget] at e; dsimp only at e
      obtain ⟨nd, s1, e1, e2⟩ := bind_ok.mp e
      obtain ⟨rfl, rfl⟩ := pure_ok.mp e1
      obtain ⟨n, s2, e3, e4⟩ := bind_ok.mp e2
      obtain ⟨q2, rfl, _⟩ := elemName_sem e3
      have hg2 : Good r s2 := rebuild s2 (hb.qs q2) (q2.mode.trans q0.mode) (by rw [q2.rest, q0.rest])
      rcases ite_run e4 with ⟨h1, e4⟩ | ⟨h1, e4⟩
      · rw [getS_bind] at e4
        exact MO s2.mode hg2.late.ml.mode (.tag tag) inferInstance r s2 res s' hg2 rfl e4
      -- the node is not an HTML element
      have hnf : ((nm s.dom node).ns == nsHtml) = false := by
        cases hf : first with
        | true => exact hfirst hf node hget
        | false =>
          cases hq : ((nm s.dom node).ns == nsHtml) with
          | false => rfl
          | true => exfalso; apply h1; rw [hf, hq]; rfl
      rcases ite_run e4 with ⟨h2, e4⟩ | ⟨h2, e4⟩
      · obtain ⟨_, s3, e5, e6⟩ := bind_ok.mp e4
        obtain ⟨rfl, rfl⟩ := pure_ok.mp e6
        obtain ⟨_, rfl⟩ := modS_ok.mp e5
        -- everything from index idx + 1 on is removed
        have p : PR s2 { s2 with openElems := s2.openElems.take (idx + 1) } (s2.openElems.drop (idx + 1)) :=
          ⟨rfl, (List.take_append_drop _ _).symm, rfl⟩
        have hb3 := (hb.qs q2).pop p (fun x hx => keepName_of_foreign (by
          obtain ⟨j, hj⟩ := List.getElem?_of_mem hx
          rw [List.getElem?_drop] at hj
          rw [q2.openElems] at hj
          rw [q2.nm]
          cases j with
          | zero =>
            have : s.openElems[idx + 1]? = some x := by simpa using hj
            rw [hget] at this; cases this; exact hnf
          | succ j' => exact habove (idx + 1 + (j' + 1)) x (by omega) hj))
        exact rebuild _ hb3 (q2.mode.trans q0.mode) (by show s2.origMode = _; rw [q2.rest, q0.rest])
      · -- one step down
        have cont : ∀ s3 : State, QS s2 s3 → foreignEndTagLoop tag idx false s3 = .ok (res, s') → Out r s' res := by
          intro s3 q3 e5
          have q13 := q2.trans q3
          refine foreignEndTagLoop_good MO rebuild idx false s3 s' res (hb.qs q13) (q0.trans q13) ?_ ?_ e5
          · intro j y hj hy
            rw [q13.openElems] at hy
            rw [q13.nm]
            by_cases hj' : j = idx + 1
            · subst hj'; rw [hget] at hy; cases hy; exact hnf
            · exact habove j y (by omega) hy
          · intro h; cases h
        rcases ite_run e4 with ⟨_, e4⟩ | ⟨_, e4⟩
        · obtain ⟨_, s3, e5, e6⟩ := bind_ok.mp e4
          exact cont s3 (qs_unexpected e5).1 e6
        · exact cont s2 (QS.refl _) e4


/-- `foreign_start_tag`: an element in the namespace of the current node is inserted -/
theorem foreignStartTag_good {tag : Tag} {r t : Id} {s s' : State} {m0 : Mode} {ph : Phase} {res : ProcessResult}
    (hb : Big m0 r ph s)
    (rebuild : ∀ s' : State, Big m0 r ph s' → s'.mode = s.mode → s'.origMode = s.origMode → Good r s')
    (hl : s.openElems.getLast? = some t) (hns : ((nm s.dom t).ns == nsHtml) = false)
    (e : foreignStartTag tag s = .ok (res, s')) : Out r s' res := by
  obtain ⟨_, hc, _⟩ := id hb
  unfold foreignStartTag at e
  obtain ⟨cur, s1, e1, e2⟩ := bind_ok.mp e
  have hcur : s1 = s ∧ s.openElems.getLast? = some cur := by
    unfold adjustedCurrentNode at e1
    rw [getS_bind] at e1
    rw [hc.late.st.ctx] at e1
    rcases ite_run e1 with ⟨_, e1⟩ | ⟨_, e1⟩
    · exact currentNode_sem e1
    · exact currentNode_sem e1
  obtain ⟨rfl, hlast⟩ := hcur
  rw [hl] at hlast; cases hlast
  obtain ⟨n, s2, e3, e4⟩ := bind_ok.mp e2
  obtain ⟨q2, rfl, _⟩ := elemName_sem e3
  haveI : ForeignNs (nm s1.dom t).ns := ⟨hns⟩
  have hb2 := hb.qs q2
  rcases ite_run e4 with ⟨_, e4⟩ | ⟨_, e4⟩
  · obtain ⟨el, s3, e5, e6⟩ := bind_ok.mp e4
    obtain ⟨rfl, rfl⟩ := pure_ok.mp e6
    obtain ⟨g1, g2, g3⟩ := (inferInstance : PB (insertElement false (nm s1.dom t).ns _ _ _)).p _ _ _ _ _ _ hb2 e5
    exact rebuild _ g1 (g2.trans q2.mode) (g3.trans (by rw [q2.rest]))
  · obtain ⟨el, s3, e5, e6⟩ := bind_ok.mp e4
    obtain ⟨rfl, rfl⟩ := pure_ok.mp e6
    obtain ⟨g1, g2, g3⟩ := (inferInstance : PB (insertElement true (nm s1.dom t).ns _ _ _)).p _ _ _ _ _ _ hb2 e5
    exact rebuild _ g1 (g2.trans q2.mode) (g3.trans (by rw [q2.rest]))

/-- **the rules for foreign content** -/
theorem foreignOk (MO : ∀ m, isLate m = true → ModeOk m) : ForeignOk := by
  intro tok ht r s s0 res s' hg e1 e2
  obtain ⟨q, t, hl, hns⟩ := isForeign_cur hg.late e1
  have hg0 := hg.qs q
  have hl0 : s0.openElems.getLast? = some t := by rw [q.openElems]; exact hl
  have hns0 : ((nm s0.dom t).ns == nsHtml) = false := by rw [q.nm]; exact hns
  obtain ⟨m0, ph, hb, rebuild⟩ := hg0.foreign_ctx hl0 hns0
  unfold stepForeign at e2
  cases tok with
  | nullChar =>
    dsimp only at e2
    obtain ⟨_, s1, e3, e4⟩ := bind_ok.mp e2
    have q1 := (qs_unexpected e3).1
    haveI : NE ['�'] := ⟨by intro h; cases h⟩
    obtain ⟨g1, g2, g3⟩ := (inferInstance : PB (appendText ['�'])).p _ _ _ _ _ _ (hb.qs q1) e4
    rw [appendText_res e4]
    exact rebuild _ g1 (g2.trans q1.mode) (g3.trans (by rw [q1.rest]))
  | chars st text =>
    dsimp only at e2
    haveI : NE text := ⟨ht.ne _ _ rfl⟩
    rcases ite_run e2 with ⟨_, e2⟩ | ⟨_, e2⟩
    · obtain ⟨_, s1, e3, e4⟩ := bind_ok.mp e2
      have h1 := (inferInstance : PB (setFramesetOk false)).p _ _ _ _ _ _ hb e3
      obtain ⟨g1, g2, g3⟩ := (inferInstance : PB (appendText text)).p _ _ _ _ _ _ h1.1 e4
      rw [appendText_res e4]
      exact rebuild _ g1 (g2.trans h1.2.1) (g3.trans h1.2.2)
    · obtain ⟨g1, g2, g3⟩ := (inferInstance : PB (appendText text)).p _ _ _ _ _ _ hb e2
      rw [appendText_res e2]
      exact rebuild _ g1 g2 g3
  | comment c =>
    dsimp only at e2
    obtain ⟨g1, g2, g3⟩ := (inferInstance : PB (appendComment c)).p _ _ _ _ _ _ hb e2
    rw [appendComment_res e2]
    exact rebuild _ g1 g2 g3
  | eof => dsimp only at e2; exact absurd e2 panicAt_ok
  | tag tag =>
    dsimp only at e2
    rcases ite_run e2 with ⟨_, e2⟩ | ⟨_, e2⟩
    · exact unexpectedStart_good MO hb rebuild e2
    rcases ite_run e2 with ⟨_, e2⟩ | ⟨_, e2⟩
    · rcases ite_run e2 with ⟨_, e2⟩ | ⟨_, e2⟩
      · exact unexpectedStart_good MO hb rebuild e2
      · exact foreignStartTag_good hb rebuild hl0 hns0 e2
    rcases ite_run e2 with ⟨_, e2⟩ | ⟨_, e2⟩
    · exact foreignStartTag_good hb rebuild hl0 hns0 e2
    · rw [getS_bind] at e2
      rcases ite_run e2 with ⟨_, e2⟩ | ⟨hlen, e2⟩
      · exact absurd e2 panicAt_ok
      · refine foreignEndTagLoop_good MO rebuild _ true s0 s' res hb (QS.refl _) ?_ ?_ e2
        · intro j y hj hy
          exfalso
          have : j < s0.openElems.length := by
            rcases Nat.lt_or_ge j s0.openElems.length with h | h
            · exact h
            · rw [List.getElem?_eq_none h] at hy; cases hy
          omega
        · intro _ y hy
          have hlast : s0.openElems.getLast? = some y := by
            rw [List.getLast?_eq_getElem?]; exact hy
          rw [hl0] at hlast; cases hlast
          exact hns0

end H5V.Props.C06
