import H5V.Lemmas.HtmlTBAlgoPlace
/-!
(j) insert an HTML element against `Spec.TreeAlgo2.insertForeignElement`, and (l) reconstruct the
active formatting elements.
-/
namespace H5V.Lemmas.HtmlTBAlgo
open H5V.Model.HtmlTB
open H5V.Model.Dom (Id SinkOp Output Dom QualName Attr NodeOrText ElementFlags NodeData)
open H5V.Lemmas.Dom
open H5V.Lemmas.HtmlTBSpec (NamesOk toName)
open H5V.Spec.TreeAlgo2
open H5V.Spec.TreeAlgo (Name)

/-- the stack starts with an element of the special category that is not a `table` (in the standard
it starts with `html`) -/
def HeadOk (d : Dom) (l : List Id) : Prop :=
  ∃ h0, l.head? = some h0 ∧ (elemOf d h0).name.isHtml "table" = false ∧ isSpecial (elemOf d h0) = true

theorem elemOf_stable {d d' : Dom} (hs : Stable d d') {h : Id} (he : d.isElement h = true) : elemOf d' h = elemOf d h := by
  unfold elemOf; rw [nameOf_stable hs he]

/-- `HeadOk` only depends on the first entry and its name -/
theorem HeadOk.transfer {d d' : Dom} {l l' : List Id} (h : HeadOk d l) (hok : ElemsOk d l) (hs : Stable d d')
    (hl : l'.head? = l.head?) : HeadOk d' l' := by
  obtain ⟨h0, hh, hn, hsp⟩ := h
  refine ⟨h0, by rw [hl]; exact hh, ?_, ?_⟩
  · rw [elemOf_stable hs (hok h0 (List.mem_of_head? hh))]; exact hn
  · rw [elemOf_stable hs (hok h0 (List.mem_of_head? hh))]; exact hsp

theorem absStack_ids (d : Dom) (l : List Id) : (absStack d l).map (·.id) = l := by
  unfold absStack
  induction l with
  | nil => rfl
  | cons a r ih => simp only [List.map_cons, ih]; rfl

theorem absStack_head? (d : Dom) (l : List Id) : (absStack d l).head? = l.head?.map (elemOf d) := by
  simp [absStack]

theorem insertForeignElement_abs (s : State) (ns : Str) (tag : Tag) (place : Place Id)
    (hplace : appropriatePlace (absStack s.dom s.openElems) s.fosterParenting none = some place)
    (elem : Id) (rest : List Id) (log0 : List (Edit Id Tag)) :
    Spec.TreeAlgo2.insertForeignElement tagCtx (absState s (elem :: rest) log0) tag ns false
      = some ({ absState s rest (log0 ++ insertEdits s ns tag place elem) with
                  stack := absStack s.dom s.openElems ++ [⟨elem, ⟨ns, tag.name⟩⟩] }, ⟨elem, ⟨ns, tag.name⟩⟩) := by
  unfold Spec.TreeAlgo2.insertForeignElement
  simp only [absState, hplace, Option.bind_some, PState.newNode, Option.map_some, insertEdits]
  cases s.formElem with
  | none => simp [associatesWithForm, tagCtx]
  | some f => simp [tagCtx]

/-- **(j)** `insert_element` is "insert a foreign element" (with *onlyAddToElementStack* false), followed by
a pop when `pushIt` is false -/
theorem tot_insertElement_spec (s : State) (pushIt : Bool) (ns : Str) (tag : Tag) (hok : ElemsOk s.dom s.openElems)
    (hhead : HeadOk s.dom s.openElems) :
    Tot (insertElement pushIt ns tag.name tag.attrs tag.hadDup) s (fun elem s' calls =>
      s' = { s with openElems := if pushIt then s.openElems ++ [elem] else s.openElems,
                    dom := s'.dom, traceRev := s'.traceRev } ∧
      s.dom.size ≤ elem ∧ s'.dom.isElement elem = true ∧ nameOf s'.dom elem = ⟨ns, tag.name⟩ ∧
      ∃ L, (∀ tc, TcOk s.dom tc → edits calls = L.map (editCall tc)) ∧
        ∀ rest log0, Spec.TreeAlgo2.insertForeignElement tagCtx (absState s (elem :: rest) log0) tag ns false
          = some ({ absState s rest (log0 ++ L) with
                      stack := absStack s.dom s.openElems ++ [⟨elem, ⟨ns, tag.name⟩⟩] }, ⟨elem, ⟨ns, tag.name⟩⟩)) := by
  obtain ⟨h0, hh0, hnt, _⟩ := hhead
  obtain ⟨place, hplace, hnodes⟩ := appropriatePlace_some (absStack s.dom s.openElems) s.fosterParenting none
    (elemOf s.dom h0) (by rw [absStack_head?, hh0]; rfl) hnt
  refine tot_conseq (tot_insertElement s pushIt ns tag hok place hplace) fun elem s' calls _ ⟨h1, h2, h3, h4, h5⟩ => ?_
  refine ⟨h1, h2, h3, h4, insertEdits s ns tag place elem, ?_, fun rest log0 => insertForeignElement_abs s ns tag place hplace elem rest log0⟩
  intro tc htc
  rw [h5]
  have hip : ipOf tc place = ipOf (tcOf s.dom) place := by
    refine ipOf_congr htc fun x hx => ?_
    rcases hnodes x hx with hm | ⟨t, ht, _⟩
    · rw [absStack_ids] at hm; exact hok x hm
    · cases ht
  apply List.map_congr_left
  intro e he
  simp only [insertEdits, List.mem_append, List.mem_cons, List.mem_nil_iff, or_false] at he
  rcases he with (rfl | he) | rfl
  · rfl
  · split at he
    · simp only [Option.mem_toList, Option.map_eq_some_iff] at he
      obtain ⟨f, _, rfl⟩ := he
      simp only [editCall, hip]
    · cases he
  · simp only [editCall, hip]

/-! ### (l) reconstruct the active formatting elements -/

theorem tot_anySameNodeRev (node : Id) : ∀ (l : List Id) (s : State),
    Tot (anySameNodeRev node l) s (QueryQ s (l.any fun n => n == node)) := by
  intro l
  induction l with
  | nil => intro s; exact tot_pure ⟨rfl, SameTB.refl _, rfl⟩
  | cons n rest ih =>
    intro s
    unfold anySameNodeRev
    refine tot_query_query (tot_sameNode s n node) fun s1 c1 _ _ => ?_
    by_cases h : (n == node) = true
    · simp only [h, if_true, List.any_cons, Bool.true_or]; exact tot_pure ⟨rfl, SameTB.refl _, rfl⟩
    · simp only [h, Bool.false_eq_true, if_false, List.any_cons, Bool.false_or]; exact ih s1

theorem markerOrOpen_abs (d : Dom) (l : List Id) (e : FormatEntry) :
    markerOrOpen (absStack d l) (absEntry e) = (match e with | .marker => true | .element n _ => l.reverse.any fun x => x == n) := by
  cases e with
  | marker => rfl
  | element n t =>
    simp only [absEntry, markerOrOpen, absStack, List.any_map, List.any_reverse]
    rfl

theorem tot_isMarkerOrOpen (s : State) (e : FormatEntry) :
    Tot (isMarkerOrOpen e) s (QueryQ s (markerOrOpen (absStack s.dom s.openElems) (absEntry e))) := by
  rw [markerOrOpen_abs]
  cases e with
  | marker => exact tot_pure ⟨rfl, SameTB.refl _, rfl⟩
  | element n t =>
    unfold isMarkerOrOpen
    refine tot_getS_bind ?_
    exact tot_anySameNodeRev n s.openElems.reverse s

theorem absList_getElem? (af : List FormatEntry) (i : Nat) : (absList af)[i]? = (af[i]?).map absEntry := by
  simp [absList]

theorem tot_reconstructRewind (d0 : Dom) (stack : List Id) (af : List FormatEntry) :
    ∀ (i : Nat) (s : State), i ≤ af.length → s.openElems = stack → s.activeFormatting = af →
      Tot (H5V.Model.HtmlTB.reconstructRewind i) s (QueryQ s (Spec.TreeAlgo2.reconstructRewind (absStack d0 stack) (absList af) i)) := by
  intro i
  induction i with
  | zero => intro s _ _ _; exact tot_pure ⟨rfl, SameTB.refl _, rfl⟩
  | succ i ih =>
    intro s hi hst haf
    unfold H5V.Model.HtmlTB.reconstructRewind
    refine tot_getS_bind ?_
    rw [haf]
    have hlt : i < af.length := by omega
    rw [List.getElem?_eq_getElem hlt]
    simp only []
    refine tot_query_query (tot_isMarkerOrOpen s af[i]) fun s1 c1 _ hs1 => ?_
    unfold Spec.TreeAlgo2.reconstructRewind
    rw [absList_getElem?, List.getElem?_eq_getElem hlt]
    simp only [Option.map_some, Option.any_some]
    have e : markerOrOpen (absStack s.dom s.openElems) (absEntry af[i]) = markerOrOpen (absStack d0 stack) (absEntry af[i]) := by
      rw [markerOrOpen_abs, markerOrOpen_abs, hst]
    rw [e]
    by_cases h : markerOrOpen (absStack d0 stack) (absEntry af[i]) = true
    · simp only [h, if_true]; exact tot_pure ⟨rfl, SameTB.refl _, rfl⟩
    · simp only [h, Bool.false_eq_true, if_false]
      exact ih s1 (by omega) (hs1.openElems.trans hst) (hs1.activeFormatting.trans haf)

/-! `reconstructCreate`, cut into chunks -/

def rcAfterSet (fuel entryIndex : Nat) : M Unit := do
  let len := (← getS).activeFormatting.length
  if len == 0 then panicAt "sub-overflow" "mod.rs:1032" "len() - 1"
  else if entryIndex == len - 1 then pure ()
  else H5V.Model.HtmlTB.reconstructCreate fuel (entryIndex + 1)

def rcAfterTag (fuel entryIndex : Nat) (tag : Tag) : M Unit := do
  let newElement ← insertElement true nsHtml tag.name tag.attrs tag.hadDup
  let af := (← getS).activeFormatting
  if entryIndex < af.length then setAF (af.set entryIndex (.element newElement tag))
  else panicAt "index-oob" "mod.rs:1027" "active_formatting[entry_index] ="
  rcAfterSet fuel entryIndex

theorem reconstructCreate_succ (fuel entryIndex : Nat) :
    H5V.Model.HtmlTB.reconstructCreate (fuel + 1) entryIndex = (do
      let tag ← match (← getS).activeFormatting[entryIndex]? with
        | some (.element _ t) => pure t
        | some .marker => panicAt "marker-in-reconstruct" "mod.rs:1012" "Found marker during formatting element reconstruction"
        | none => panicAt "index-oob" "mod.rs:1009" "active_formatting[entry_index]"
      rcAfterTag fuel entryIndex tag) := rfl

theorem nsHtml_eq : Spec.TreeAlgo.nsHtml = nsHtml := rfl

/-- only the stack, the list, the sink and the trace differ -/
def SameButStackList (s s' : State) : Prop :=
  s' = { s with openElems := s'.openElems, activeFormatting := s'.activeFormatting, dom := s'.dom, traceRev := s'.traceRev }

theorem absList_set (af : List FormatEntry) (i : Nat) (e : FormatEntry) :
    absList (af.set i e) = (absList af).set i (absEntry e) := by
  simp [absList, List.map_set]

theorem HeadOk.append {d d' : Dom} {l : List Id} (h : HeadOk d l) (hok : ElemsOk d l) (hs : Stable d d') (x : Id) :
    HeadOk d' (l ++ [x]) := by
  refine h.transfer hok hs ?_
  obtain ⟨h0, hh, _⟩ := h
  cases l with
  | nil => simp at hh
  | cons a r => rfl

/-- the create loop of `reconstruct_active_formatting_elements` is steps 8–10 (and 7) -/
theorem tot_reconstructCreate : ∀ (n fuel i : Nat) (s : State), n + 1 ≤ fuel + 1 → 0 < n →
    i + n = s.activeFormatting.length →
    (∀ j, i ≤ j → j < s.activeFormatting.length → ∃ h t, s.activeFormatting[j]? = some (.element h t)) →
    ElemsOk s.dom s.openElems → HeadOk s.dom s.openElems →
    Tot (H5V.Model.HtmlTB.reconstructCreate fuel i) s (fun _ s' calls => ∃ ids L,
      (∀ tc, TcOk s'.dom tc → edits calls = L.map (editCall tc)) ∧
      (∀ rest log0, Spec.TreeAlgo2.reconstructCreate tagCtx n i (absState s (ids ++ rest) log0)
          = some (absState s' rest (log0 ++ L))) ∧
      SameButStackList s s' ∧ ElemsOk s'.dom s'.openElems ∧ HeadOk s'.dom s'.openElems ∧
      (∀ x ∈ ids, s.dom.size ≤ x) ∧ ids.length = n) := by
  intro n
  induction n with
  | zero => intro fuel i s _ h0; omega
  | succ n ih =>
    intro fuel i s hfuel _ hlen hent hok hhead
    obtain ⟨fuel, rfl⟩ : ∃ f, fuel = f + 1 := ⟨fuel - 1, by omega⟩
    rw [reconstructCreate_succ]
    refine tot_getS_bind ?_
    have hi : i < s.activeFormatting.length := by omega
    obtain ⟨h, t, hit⟩ := hent i (Nat.le_refl _) hi
    rw [hit]
    refine tot_bind (tot_pure ?_)
    unfold rcAfterTag
    refine tot_bind (tot_conseq (tot_insertElement_spec s true nsHtml t hok hhead) fun elem s1 c1 he1 ⟨hs1, hfresh, hel, hnm, L1, hL1, hspec1⟩ => ?_)
    simp only [if_true] at hs1
    refine tot_getS_bind ?_
    have haf1 : s1.activeFormatting = s.activeFormatting := by rw [hs1]
    have hopen1 : s1.openElems = s.openElems ++ [elem] := by rw [hs1]
    rw [haf1]
    simp only [hi, if_true]
    unfold setAF
    refine tot_bind (tot_modS rfl rfl ?_)
    -- the state after the replacement
    generalize hs2 : ({ s1 with activeFormatting := s.activeFormatting.set i (.element elem t) } : State) = s2
    have hdom2 : s2.dom = s1.dom := by rw [← hs2]
    have haf2 : s2.activeFormatting = s.activeFormatting.set i (.element elem t) := by rw [← hs2]
    have hopen2 : s2.openElems = s.openElems ++ [elem] := by rw [← hs2]; exact hopen1
    have hst1 : Stable s.dom s1.dom := he1.stable
    have hok2 : ElemsOk s2.dom s2.openElems := by
      rw [hdom2, hopen2]
      intro x hx
      rcases List.mem_append.mp hx with h1 | h1
      · exact isElement_stable hst1 (hok x h1)
      · simp at h1; subst h1; exact hel
    have hhead2 : HeadOk s2.dom s2.openElems := by
      rw [hdom2, hopen2]; exact hhead.append hok hst1 elem
    have hS2 : SameButStackList s s2 := by
      unfold SameButStackList; rw [← hs2, hs1]
    -- the spec's step
    have hstack2 : absStack s1.dom (s.openElems ++ [elem]) = absStack s.dom s.openElems ++ [⟨elem, ⟨nsHtml, t.name⟩⟩] := by
      have e : elemOf s1.dom elem = ⟨elem, ⟨nsHtml, t.name⟩⟩ := by simp only [elemOf, hnm]; rfl
      simp only [absStack, List.map_append, List.map_cons, List.map_nil, e]
      rw [show List.map (elemOf s1.dom) s.openElems = List.map (elemOf s.dom) s.openElems from absStack_stable hok hst1]
    have hf2 : s2.fosterParenting = s.fosterParenting := by rw [← hs2, hs1]
    have hfm2 : s2.formElem = s.formElem := by rw [← hs2, hs1]
    have hstep : ∀ rest log0, ∃ X : PState Id Tag,
        Spec.TreeAlgo2.insertHtmlElement tagCtx (absState s (elem :: rest) log0) t = some (X, ⟨elem, ⟨nsHtml, t.name⟩⟩) ∧
        ({ X with list := X.list.set i (.element elem t) } : PState Id Tag) = absState s2 rest (log0 ++ L1) ∧
        X.list.length = s.activeFormatting.length := by
      intro rest log0
      refine ⟨{ absState s rest (log0 ++ L1) with stack := absStack s.dom s.openElems ++ [⟨elem, ⟨nsHtml, t.name⟩⟩] }, ?_, ?_, ?_⟩
      · unfold Spec.TreeAlgo2.insertHtmlElement
        rw [nsHtml_eq]; exact hspec1 rest log0
      · simp only [absState, haf2, hopen2, hdom2, absList_set, absEntry, hstack2, hf2, hfm2]
      · simp [absState, absList]
    have hlist_i : ∀ rest log0, (absState s (elem :: rest) log0).list[i]? = some (.element h t) := by
      intro rest log0
      simp only [absState, absList_getElem?, hit, Option.map_some, absEntry]
    have hlen2 : s2.activeFormatting.length = s.activeFormatting.length := by rw [haf2]; simp
    unfold rcAfterSet
    refine tot_getS_bind ?_
    rw [hlen2]
    have hne : (s.activeFormatting.length == 0) = false := by
      rw [beq_eq_false_iff_ne]; omega
    simp only [hne, Bool.false_eq_true, if_false]
    by_cases hlast : (i == s.activeFormatting.length - 1) = true
    · simp only [hlast, if_true]
      have hn0 : n = 0 := by
        have := beq_iff_eq.mp hlast; omega
      subst hn0
      refine tot_pure ⟨[elem], L1, ?_, ?_, hS2, hok2, hhead2, ?_, rfl⟩
      · intro tc htc
        have : TcOk s.dom tc := by
          refine TcOk.of_stable ?_ hst1
          rw [← hdom2]; exact htc
        simpa using hL1 tc this
      · intro rest log0
        obtain ⟨X, hX1, hX2, hX3⟩ := hstep rest log0
        have hlenX : ¬ (i + 1 < (X.list.set i (Entry.element elem t)).length) := by
          rw [List.length_set, hX3]; omega
        simp only [List.singleton_append, Spec.TreeAlgo2.reconstructCreate, hlist_i, hX1, Option.bind_some, hX2, hlenX, if_false]
      · intro x hx; simp at hx; subst hx; exact hfresh
    · simp only [hlast, Bool.false_eq_true, if_false]
      have hne1 : i ≠ s.activeFormatting.length - 1 := by
        intro h; rw [h] at hlast; simp at hlast
      have hn1 : 0 < n := by omega
      refine tot_conseq (ih fuel (i + 1) s2 (by omega) hn1 (by rw [hlen2]; omega) ?_ hok2 hhead2)
        fun _ s3 c3 he3 ⟨ids', L2, hL2, hspec2, hS3, hok3, hhead3, hfresh3, hlen3⟩ => ?_
      · intro j hj hjl
        rw [haf2]
        rw [hlen2] at hjl
        obtain ⟨h', t', hjt⟩ := hent j (by omega) hjl
        refine ⟨h', t', ?_⟩
        rw [List.getElem?_set_ne (by omega)]; exact hjt
      · have hst3 : Stable s.dom s3.dom := by
          refine hst1.trans ?_
          rw [← hdom2]; exact he3.stable
        refine ⟨elem :: ids', L1 ++ L2, ?_, ?_, ?_, hok3, hhead3, ?_, by simp [hlen3]⟩
        · intro tc htc
          simp only [List.nil_append]
          rw [edits_append, hL1 tc (htc.of_stable hst3), hL2 tc htc, List.map_append]
        · intro rest log0
          obtain ⟨X, hX1, hX2, hX3⟩ := hstep (ids' ++ rest) log0
          have hlenX : i + 1 < (X.list.set i (Entry.element elem t)).length := by
            rw [List.length_set, hX3]; omega
          have := hspec2 rest (log0 ++ L1)
          simp only [List.cons_append, Spec.TreeAlgo2.reconstructCreate, hlist_i, hX1, Option.bind_some, hX2, hlenX, if_true]
          rw [this, List.append_assoc]
        · unfold SameButStackList at hS2 hS3 ⊢
          rw [hS3, hS2]
        · intro x hx
          rcases List.mem_cons.mp hx with rfl | hx
          · exact hfresh
          · exact Nat.le_trans (by rw [hdom2]; exact hst1.size) (hfresh3 x hx)

theorem absState_sameTB {s s' : State} (h : SameTB s s') (hs : Stable s.dom s'.dom) (hok : ElemsOk s.dom s.openElems)
    (supply : List Id) (log : List (Edit Id Tag)) : absState s' supply log = absState s supply log := by
  simp only [absState, h.openElems, h.activeFormatting, h.fosterParenting, h.formElem, absStack_stable hok hs]

/-- what the rewinding finds: a position `r ≤ i` such that none of the entries `r … i-1` is a marker or open -/
theorem rewind_spec {N T : Type} [DecidableEq N] (stack : List (Elem N)) (list : List (Entry N T)) :
    ∀ i, Spec.TreeAlgo2.reconstructRewind stack list i ≤ i ∧
      ∀ j, Spec.TreeAlgo2.reconstructRewind stack list i ≤ j → j < i → (list[j]?).any (markerOrOpen stack) = false := by
  intro i
  induction i with
  | zero => exact ⟨Nat.le_refl _, fun j _ hj => by omega⟩
  | succ i ih =>
    unfold Spec.TreeAlgo2.reconstructRewind
    by_cases h : (list[i]?).any (markerOrOpen stack) = true
    · simp only [h, if_true]
      exact ⟨Nat.le_refl _, fun j h1 h2 => by omega⟩
    · simp only [h, Bool.false_eq_true, if_false]
      refine ⟨Nat.le_succ_of_le ih.1, fun j h1 h2 => ?_⟩
      by_cases hj : j = i
      · subst hj; simpa using h
      · exact ih.2 j h1 (by omega)

theorem not_markerOrOpen_element (d : Dom) (l : List Id) (e : FormatEntry)
    (h : markerOrOpen (absStack d l) (absEntry e) = false) : ∃ x t, e = .element x t := by
  cases e with
  | marker => simp [absEntry, markerOrOpen] at h
  | element x t => exact ⟨x, t, rfl⟩

/-- **(l)** `reconstruct_active_formatting_elements` is the standard's "reconstruct the active
formatting elements" -/
theorem tot_reconstruct (s : State) (hok : ElemsOk s.dom s.openElems) (hhead : HeadOk s.dom s.openElems) :
    Tot H5V.Model.HtmlTB.reconstructActiveFormattingElements s (fun _ s' calls => ∃ ids L,
      (∀ tc, TcOk s'.dom tc → edits calls = L.map (editCall tc)) ∧
      (∀ rest log0, Spec.TreeAlgo2.reconstructActiveFormattingElements tagCtx (absState s (ids ++ rest) log0)
          = some (absState s' rest (log0 ++ L))) ∧
      SameButStackList s s' ∧ ElemsOk s'.dom s'.openElems ∧ HeadOk s'.dom s'.openElems ∧
      (∀ x ∈ ids, s.dom.size ≤ x)) := by
  have htriv : ∀ (s1 : State) (c1 : List Call), Ext s c1 s1 → SameTB s s1 → edits c1 = [] →
      (∀ rest log0, Spec.TreeAlgo2.reconstructActiveFormattingElements tagCtx (absState s rest log0) = some (absState s rest log0)) →
      ∃ ids L, (∀ tc, TcOk s1.dom tc → edits c1 = L.map (editCall tc)) ∧
        (∀ rest log0, Spec.TreeAlgo2.reconstructActiveFormattingElements tagCtx (absState s (ids ++ rest) log0)
          = some (absState s1 rest (log0 ++ L))) ∧
        SameButStackList s s1 ∧ ElemsOk s1.dom s1.openElems ∧ HeadOk s1.dom s1.openElems ∧
        (∀ x ∈ ids, s.dom.size ≤ x) := by
    intro s1 c1 he1 hs1 hc1 hspec
    refine ⟨[], [], fun _ _ => by simp [hc1], ?_, ?_, ?_, ?_, fun _ h => by cases h⟩
    · intro rest log0
      simp only [List.nil_append, List.append_nil]
      rw [hspec, absState_sameTB hs1 he1.stable hok]
    · unfold SameButStackList; unfold SameTB at hs1; rw [hs1]
    · rw [hs1.openElems]; exact hok.stable he1.stable
    · exact hhead.transfer hok he1.stable (by rw [hs1.openElems])
  unfold H5V.Model.HtmlTB.reconstructActiveFormattingElements
  refine tot_getS_bind ?_
  cases hlast : s.activeFormatting.getLast? with
  | none =>
    simp only [hlast]
    refine tot_pure (htriv s [] (Ext.refl _) (SameTB.refl _) rfl ?_)
    intro rest log0
    unfold Spec.TreeAlgo2.reconstructActiveFormattingElements
    simp [absState, absList, hlast]
  | some last =>
    simp only [hlast]
    have hlast' : ∀ rest log0, (absState s rest log0).list.getLast? = some (absEntry last) := by
      intro rest log0; simp [absState, absList, hlast]
    refine tot_bind (tot_conseq (tot_isMarkerOrOpen s last) fun b s1 c1 he1 ⟨hb, hs1, hc1⟩ => ?_)
    subst hb
    by_cases hmo : markerOrOpen (absStack s.dom s.openElems) (absEntry last) = true
    · simp only [hmo, if_true]
      refine tot_pure ?_
      simp only [List.append_nil]
      refine htriv s1 c1 he1 hs1 hc1 ?_
      intro rest log0
      unfold Spec.TreeAlgo2.reconstructActiveFormattingElements
      rw [hlast']
      simp only [absState] at hmo ⊢
      simp [hmo]
    · have hmo' : markerOrOpen (absStack s.dom s.openElems) (absEntry last) = false := by simpa using hmo
      simp only [hmo', Bool.false_eq_true, if_false]
      -- the rewinding
      have hlen : 0 < s.activeFormatting.length := by
        cases hl : s.activeFormatting with
        | nil => simp [hl] at hlast
        | cons a r => simp
      refine tot_bind (tot_conseq (tot_reconstructRewind s.dom s.openElems s.activeFormatting (s.activeFormatting.length - 1) s1
        (by omega) hs1.openElems hs1.activeFormatting) fun start s2 c2 he2 ⟨hstart, hs2, hc2⟩ => ?_)
      subst hstart
      generalize hst : Spec.TreeAlgo2.reconstructRewind (absStack s.dom s.openElems) (absList s.activeFormatting)
        (s.activeFormatting.length - 1) = start
      obtain ⟨hle, hbetween⟩ := rewind_spec (absStack s.dom s.openElems) (absList s.activeFormatting) (s.activeFormatting.length - 1)
      rw [hst] at hle hbetween
      have hS2 : SameTB s s2 := hs1.trans hs2
      have hE2 : Ext s (c1 ++ c2) s2 := he1.trans he2
      have hst2 : Stable s.dom s2.dom := hE2.stable
      have hok2 : ElemsOk s2.dom s2.openElems := by rw [hS2.openElems]; exact hok.stable hst2
      have hhead2 : HeadOk s2.dom s2.openElems := hhead.transfer hok hst2 (by rw [hS2.openElems])
      -- the last entry
      have hlastIdx : s.activeFormatting[s.activeFormatting.length - 1]? = some last := by
        rw [List.getLast?_eq_getElem?] at hlast; exact hlast
      have hent : ∀ j, start ≤ j → j < s2.activeFormatting.length → ∃ h t, s2.activeFormatting[j]? = some (.element h t) := by
        intro j hj hjl
        rw [hS2.activeFormatting] at hjl ⊢
        obtain ⟨e, hjv⟩ : ∃ e, s.activeFormatting[j]? = some e := ⟨_, List.getElem?_eq_getElem hjl⟩
        have hnot : markerOrOpen (absStack s.dom s.openElems) (absEntry e) = false := by
          by_cases hjlast : j = s.activeFormatting.length - 1
          · subst hjlast
            rw [hlastIdx] at hjv
            cases hjv; exact hmo'
          · have := hbetween j hj (by omega)
            rw [absList_getElem?, hjv] at this
            simpa using this
        obtain ⟨x, t, hx⟩ := not_markerOrOpen_element _ _ _ hnot
        exact ⟨x, t, by rw [hjv, hx]⟩
      refine tot_conseq (tot_reconstructCreate (s.activeFormatting.length - start) (s.activeFormatting.length + 1) start s2
        (by omega) (by omega) (by rw [hS2.activeFormatting]; omega) hent hok2 hhead2)
        fun _ s3 c3 he3 ⟨ids, L, hL, hspec, hS3, hok3, hhead3, hfresh, _⟩ => ?_
      refine ⟨ids, L, ?_, ?_, ?_, hok3, hhead3, fun x hx => Nat.le_trans hst2.size (hfresh x hx)⟩
      · intro tc htc
        rw [edits_append, edits_append, hc1, hc2, hL tc htc]; rfl
      · intro rest log0
        unfold Spec.TreeAlgo2.reconstructActiveFormattingElements
        rw [hlast']
        have e1 : (absState s (ids ++ rest) log0).stack = absStack s.dom s.openElems := rfl
        have e2 : (absState s (ids ++ rest) log0).list = absList s.activeFormatting := rfl
        have e3 : (absList s.activeFormatting).length = s.activeFormatting.length := by simp [absList]
        simp only [e1, e2, e3, hmo', Bool.false_eq_true, if_false, hst]
        rw [← absState_sameTB hS2 hst2 hok]
        exact hspec rest log0
      · unfold SameButStackList at hS3 ⊢
        unfold SameTB at hS2
        rw [hS3, hS2]

/-! ### which entries are re-created -/
section Suffix
variable {N T : Type} [DecidableEq N]

/-- number of entries directly before position `i` that are neither markers nor open -/
def trailing (stack : List (Elem N)) (list : List (Entry N T)) (i : Nat) : Nat :=
  ((list.take i).reverse.takeWhile fun e => !markerOrOpen stack e).length

theorem trailing_le (stack : List (Elem N)) (list : List (Entry N T)) (i : Nat) : trailing stack list i ≤ i := by
  unfold trailing
  have h1 : ((list.take i).reverse.takeWhile fun e => !markerOrOpen stack e).length ≤ (list.take i).reverse.length :=
    (List.takeWhile_sublist _).length_le
  have h2 : (list.take i).reverse.length ≤ i := by simp [List.length_take]; omega
  omega

theorem trailing_succ (stack : List (Elem N)) (list : List (Entry N T)) (i : Nat) (hi : i < list.length) :
    trailing stack list (i + 1) = if (list[i]?).any (markerOrOpen stack) then 0 else trailing stack list i + 1 := by
  unfold trailing
  have : list.take (i + 1) = list.take i ++ [list[i]] := by
    rw [List.take_add_one, List.getElem?_eq_getElem hi]; rfl
  rw [this, List.reverse_append, List.getElem?_eq_getElem hi]
  simp only [List.reverse_cons, List.reverse_nil, List.nil_append, List.singleton_append, List.takeWhile_cons, Option.any_some]
  by_cases hm : markerOrOpen stack list[i] = true
  · simp [hm]
  · have hm' : markerOrOpen stack list[i] = false := by simpa using hm
    simp [hm']

theorem rewind_eq (stack : List (Elem N)) (list : List (Entry N T)) : ∀ i, i ≤ list.length →
    Spec.TreeAlgo2.reconstructRewind stack list i = i - trailing stack list i := by
  intro i
  induction i with
  | zero => intro _; simp [Spec.TreeAlgo2.reconstructRewind]
  | succ i ih =>
    intro hi
    unfold Spec.TreeAlgo2.reconstructRewind
    rw [trailing_succ stack list i (by omega)]
    by_cases h : (list[i]?).any (markerOrOpen stack) = true
    · simp [h]
    · simp only [h, Bool.false_eq_true, if_false]
      rw [ih (by omega)]
      have := trailing_le stack list i
      omega

/-- the entries re-created by "reconstruct the active formatting elements" are exactly the longest
suffix of the list without markers and open elements -/
theorem reconstruct_suffix (stack : List (Elem N)) (list : List (Entry N T)) (last : Entry N T)
    (hl : list.getLast? = some last) (hm : markerOrOpen stack last = false) :
    list.length - Spec.TreeAlgo2.reconstructRewind stack list (list.length - 1) = reconstructSuffixLength stack list := by
  have hlen : 0 < list.length := by
    cases list with
    | nil => simp at hl
    | cons a r => simp
  have hidx : list[list.length - 1]? = some last := by rw [← List.getLast?_eq_getElem?]; exact hl
  rw [rewind_eq stack list _ (by omega)]
  have h1 := trailing_succ stack list (list.length - 1) (by omega)
  rw [hidx] at h1
  simp only [Option.any_some, hm, Bool.false_eq_true, if_false] at h1
  have h2 : list.length - 1 + 1 = list.length := by omega
  rw [h2] at h1
  have h3 : trailing stack list list.length = reconstructSuffixLength stack list := by
    unfold trailing reconstructSuffixLength; rw [List.take_length]
  have := trailing_le stack list (list.length - 1)
  rw [← h3, h1]; omega
end Suffix

end H5V.Lemmas.HtmlTBAlgo
