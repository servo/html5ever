import H5V.Lemmas.DomKinds
/-!
The repaired "clone an option into a selectedcontent" (`Dom.cloneOptionInto .fixed`, /repo ebdbd68)
preserves the invariant: every step of the deep copy is an allocation of a parentless node or an
attachment (`fn append`) of a freshly copied, parentless subtree under a node that cannot be inside
it; "replace all" detaches all old children at once.
-/
namespace H5V.Lemmas.Dom
open H5V.Model.Dom

/-- node data with the template-contents link erased (a copy links to a *copy* of the contents) -/
def eraseTc : NodeData → NodeData
  | .element n a _ ip => .element n a none ip
  | o => o

theorem eraseTc_document {v : NodeData} (h : eraseTc v = .document) : v = .document := by
  cases v <;> simp_all [eraseTc]

/-- `d'` extends `d`: every node of `d` keeps parent, data and — except for `ex` — children -/
structure FrameX (d d' : Dom) (ex : Option Id) : Prop where
  size : d.size ≤ d'.size
  parent : ∀ y, y < d.size → d'.parentOf y = d.parentOf y
  data : ∀ y, y < d.size → d'.dataOf y = d.dataOf y
  children : ∀ y, y < d.size → some y ≠ ex → d'.childrenOf y = d.childrenOf y

abbrev Frame (d d' : Dom) : Prop := FrameX d d' none

theorem FrameX.refl (d : Dom) (ex : Option Id) : FrameX d d ex :=
  ⟨Nat.le_refl _, fun _ _ => rfl, fun _ _ => rfl, fun _ _ _ => rfl⟩

theorem FrameX.trans {d1 d2 d3 : Dom} {ex : Option Id} (h1 : FrameX d1 d2 ex) (h2 : FrameX d2 d3 ex) :
    FrameX d1 d3 ex where
  size := Nat.le_trans h1.size h2.size
  parent := fun y hy => (h2.parent y (Nat.lt_of_lt_of_le hy h1.size)).trans (h1.parent y hy)
  data := fun y hy => (h2.data y (Nat.lt_of_lt_of_le hy h1.size)).trans (h1.data y hy)
  children := fun y hy he =>
    (h2.children y (Nat.lt_of_lt_of_le hy h1.size) he).trans (h1.children y hy he)

theorem FrameX.weaken {d d' : Dom} {ex : Option Id} (h : Frame d d') : FrameX d d' ex :=
  ⟨h.size, h.parent, h.data, fun y hy _ => h.children y hy (by simp)⟩

/-- an exception outside the old arena does not matter -/
theorem FrameX.strengthen {d d' : Dom} {i : Id} (h : FrameX d d' (some i)) (hi : d.size ≤ i) : Frame d d' :=
  ⟨h.size, h.parent, h.data, fun y hy _ => h.children y hy (by
    intro e; cases e; exact Nat.lt_irrefl _ (Nat.lt_of_lt_of_le hy hi))⟩

theorem frame_alloc (d : Dom) (data : NodeData) : Frame d (d.alloc data).1 where
  size := by simp
  parent := fun y _ => parentOf_alloc d data y
  data := fun y hy => by rw [dataOf_alloc]; simp [Nat.ne_of_lt hy]
  children := fun y _ _ => childrenOf_alloc d data y

/-- the result of copying the subtree of `x`: the invariant holds again, nothing old changed, the
copy `k` is a fresh parentless node carrying the data of `x` -/
structure CloneSpec (d d' : Dom) (x k : Id) : Prop where
  wf : WF d'
  kinds : Kinds d'
  frame : Frame d d'
  fresh : d.size ≤ k
  valid : k < d'.size
  root : d'.parentOf k = none
  data : (d'.dataOf k).map eraseTc = (d.dataOf x).map eraseTc

theorem anc_eq_of_parentless {d : Dom} {a x : Id} (hx : d.parentOf x = none) (h : Anc d a x) : a = x := by
  cases h with
  | refl => rfl
  | step hp _ => rw [hx] at hp; cases hp

theorem isContainer_of_eraseTc {d d' : Dom} {x k : Id}
    (h : (d'.dataOf k).map eraseTc = (d.dataOf x).map eraseTc) : d'.isContainer k = d.isContainer x := by
  unfold Dom.isContainer
  cases h1 : d'.dataOf k <;> cases h2 : d.dataOf x <;> simp [h1, h2] at h
  · rfl
  · rename_i v w
    cases v <;> cases w <;> simp_all [eraseTc]

theorem not_doc_of_eraseTc {d d' : Dom} {x k : Id}
    (h : (d'.dataOf k).map eraseTc = (d.dataOf x).map eraseTc) (hx : d.dataOf x ≠ some .document) :
    d'.dataOf k ≠ some .document := by
  intro hk
  rw [hk] at h
  cases h2 : d.dataOf x with
  | none => simp [h2] at h
  | some w =>
    simp [h2, eraseTc] at h
    exact hx (by rw [h2, eraseTc_document h.symm])

/-- one unfolding of the children loop of `clone_with_subtree` -/
theorem cloneKidsWith_cons_inv {cl : Dom → Id → Except String (Dom × Id)} {id c : Id} {cs : List Id} {d d' : Dom}
    (h : Dom.cloneKidsWith cl id d (c :: cs) = .ok d') :
    ∃ d1 k d2, cl d c = .ok (d1, k) ∧ d1.appendRaw id k = .ok d2 ∧ Dom.cloneKidsWith cl id d2 cs = .ok d' := by
  obtain ⟨⟨d1, k⟩, h1, h⟩ := bind_ok_inv h
  obtain ⟨d2, h2, h⟩ := bind_ok_inv h
  exact ⟨d1, k, d2, h1, h2, h⟩

/-- the children loop of the repaired `clone_with_subtree` -/
theorem cloneKidsWith_spec {cl : Dom → Id → Except String (Dom × Id)}
    (hcl : ∀ d c d' k, WF d → Kinds d → cl d c = .ok (d', k) → CloneSpec d d' c k) {n0 id : Id} (hid0 : n0 ≤ id) :
    ∀ (cs : List Id) (d d' : Dom), WF d → Kinds d → id < d.size → d.parentOf id = none →
      (∀ c ∈ cs, c < n0 ∧ d.dataOf c ≠ some .document ∧ d.isContainer id = true) →
      Dom.cloneKidsWith cl id d cs = .ok d' →
      WF d' ∧ Kinds d' ∧ FrameX d d' (some id) ∧ d'.parentOf id = none := by
  intro cs
  induction cs with
  | nil =>
    intro d d' hw hk _ hp _ h
    simp [Dom.cloneKidsWith] at h; subst h
    exact ⟨hw, hk, FrameX.refl _ _, hp⟩
  | cons c cs ih =>
    intro d d' hw hk hid hp hcs h
    obtain ⟨d1, k, d2, h1, h2, h⟩ := cloneKidsWith_cons_inv h
    have sp := hcl d c d1 k hw hk h1
    obtain ⟨hcn0, hcnd, hcont⟩ := hcs c (by simp)
    have hclt : c < d.size := Nat.lt_of_lt_of_le hcn0 (Nat.le_trans hid0 (Nat.le_of_lt hid))
    have hid1 : id < d1.size := Nat.lt_of_lt_of_le hid sp.frame.size
    have hp1 : d1.parentOf id = none := by rw [sp.frame.parent id hid]; exact hp
    have hne : id ≠ k := fun e => Nat.lt_irrefl _ (Nat.lt_of_lt_of_le (e ▸ hid) sp.fresh)
    have hanc : ¬ Anc d1 k id := fun ha => hne (anc_eq_of_parentless hp1 ha).symm
    obtain ⟨_, _, _, _, _, hpar2, hch2, hd2, hsz2, _⟩ := appendRaw_ok h2 hne
    have hw2 : WF d2 := sp.wf.appendRaw hanc h2
    have hcont1 : d1.isContainer id = true := by rw [isContainer_congr (sp.frame.data id hid)]; exact hcont
    have hk2 : Kinds d2 := sp.kinds.attach hpar2 hd2 hcont1 (not_doc_of_eraseTc sp.data hcnd)
    -- frame d → d2 (children of `id` excepted)
    have hf2 : FrameX d d2 (some id) := by
      refine ⟨by rw [hsz2]; exact sp.frame.size, ?_, ?_, ?_⟩
      · intro y hy
        rw [hpar2]
        have : y ≠ k := fun e => Nat.lt_irrefl _ (Nat.lt_of_lt_of_le (e ▸ hy) sp.fresh)
        simp [this]; exact sp.frame.parent y hy
      · intro y hy; rw [hd2]; exact sp.frame.data y hy
      · intro y hy hne'
        rw [hch2]
        have : y ≠ id := fun e => hne' (by rw [e])
        simp [this]; exact sp.frame.children y hy (by simp)
    have hid2 : id < d2.size := by rw [hsz2]; exact hid1
    have hp2 : d2.parentOf id = none := by rw [hpar2]; simp [hne, hp1]
    have hcs2 : ∀ c' ∈ cs, c' < n0 ∧ d2.dataOf c' ≠ some .document ∧ d2.isContainer id = true := by
      intro c' hc'
      obtain ⟨a1, a2, a3⟩ := hcs c' (by simp [hc'])
      have hc'lt : c' < d.size := Nat.lt_of_lt_of_le a1 (Nat.le_trans hid0 (Nat.le_of_lt hid))
      exact ⟨a1, by rw [hf2.data c' hc'lt]; exact a2, by rw [isContainer_congr (hf2.data id hid)]; exact a3⟩
    obtain ⟨hw', hk', hf', hp'⟩ := ih d2 d' hw2 hk2 hid2 hp2 hcs2 h
    exact ⟨hw', hk', hf2.trans hf', hp'⟩

/-- **the repaired `clone_with_subtree` preserves the invariant** and satisfies `CloneSpec` -/
theorem cloneFixed_spec : ∀ (fuel : Nat) (d : Dom) (x : Id) (d' : Dom) (k : Id), WF d → Kinds d →
    Dom.cloneFixed d fuel x = .ok (d', k) → CloneSpec d d' x k := by
  intro fuel
  induction fuel with
  | zero => intro d x d' k _ _ h; simp [Dom.cloneFixed] at h
  | succ fuel ih =>
    intro d x d' k hw hk h
    simp only [Dom.cloneFixed, bind, Except.bind] at h
    cases hx : d.get x with
    | error e => simp [hx] at h
    | ok n =>
      have hn := get_ok.mp hx
      have hxlt := node?_lt hn
      simp only [hx] at h
      -- what remains to be done once the template contents (if any) are copied into `d1`
      have finish : ∀ (d1 : Dom) (data : NodeData), WF d1 → Kinds d1 → Frame d d1 →
          eraseTc data = eraseTc n.data → ∀ d3,
          Dom.cloneKidsWith (fun d c => Dom.cloneFixed d fuel c) d1.size (d1.alloc data).1 n.children = .ok d3 →
          CloneSpec d d3 x d1.size := by
        intro d1 data hw1 hk1 hf1 hdat d3 hl
        have hw2 := hw1.alloc data
        have hk2 := hk1.alloc data
        have hf2 : Frame d (d1.alloc data).1 := hf1.trans (frame_alloc d1 data)
        have hidlt : d1.size < (d1.alloc data).1.size := by simp
        have hpid : (d1.alloc data).1.parentOf d1.size = none := by
          rw [parentOf_alloc]; exact parentOf_none_of_ge (Nat.le_refl _)
        have hdid : (d1.alloc data).1.dataOf d1.size = some data := by rw [dataOf_alloc]; simp
        have hcontid : d.isContainer x = true → (d1.alloc data).1.isContainer d1.size = true := by
          intro hc
          have : (((d1.alloc data).1.dataOf d1.size).map eraseTc) = ((d.dataOf x).map eraseTc) := by
            rw [hdid, dataOf_of_node hn]; simp [hdat]
          rw [isContainer_of_eraseTc this]; exact hc
        have hcs : ∀ c ∈ n.children, c < d.size ∧ (d1.alloc data).1.dataOf c ≠ some .document ∧
            (d1.alloc data).1.isContainer d1.size = true := by
          intro c hc
          have hcx : c ∈ d.childrenOf x := by rw [childrenOf_of_node hn]; exact hc
          have hclt := child_valid hw hcx
          have hpar := (hw.links c x).mpr hcx
          exact ⟨hclt, by rw [hf2.data c hclt]; exact hk.childNotDoc c x hpar,
            hcontid (hk.parentContainer c x hpar)⟩
        obtain ⟨hw3, hk3, hf3, hp3⟩ := cloneKidsWith_spec (cl := fun d c => Dom.cloneFixed d fuel c)
          (fun d c d' k hw hk h => ih d c d' k hw hk h) (n0 := d.size) (id := d1.size) hf1.size
          n.children _ _ hw2 hk2 hidlt hpid hcs hl
        have hf3' : Frame d d3 :=
          (FrameX.weaken hf2 : FrameX d (d1.alloc data).1 (some d1.size)).trans
            ⟨hf3.size, hf3.parent, hf3.data, hf3.children⟩ |>.strengthen hf1.size
        refine ⟨hw3, hk3, hf3', hf1.size, Nat.lt_of_lt_of_le hidlt hf3.size, hp3, ?_⟩
        rw [hf3.data d1.size hidlt, hdid, dataOf_of_node hn]; simp [hdat]
      cases hdata : n.data with
      | element name attrs tc ip =>
        cases tc with
        | none =>
          simp only [hdata, pure, Except.pure] at h
          split at h
          · cases h
          · rename_i d3 hl
            rw [alloc_id] at hl h
            obtain ⟨h1, h2⟩ := Prod.mk.inj (Except.ok.inj h)
            subst h1; subst h2
            exact finish d _ hw hk (FrameX.refl _ _) (by rw [hdata]) _ hl
        | some tc =>
          simp only [hdata, pure, Except.pure] at h
          cases htc : Dom.cloneFixed d fuel tc with
          | error e => simp [htc] at h
          | ok r =>
            obtain ⟨d1, tc'⟩ := r
            simp only [htc] at h
            have sp := ih d tc d1 tc' hw hk htc
            split at h
            · cases h
            · rename_i d3 hl
              rw [alloc_id] at hl h
              obtain ⟨h1, h2⟩ := Prod.mk.inj (Except.ok.inj h)
              subst h1; subst h2
              exact finish d1 _ sp.wf sp.kinds sp.frame (by rw [hdata]; simp [eraseTc]) _ hl
      | document | doctype _ _ _ | text _ | comment _ | pi _ _ =>
        simp only [hdata, pure, Except.pure] at h
        split at h
        · cases h
        · rename_i d3 hl
          rw [alloc_id] at hl h
          obtain ⟨h1, h2⟩ := Prod.mk.inj (Except.ok.inj h)
          subst h1; subst h2
          exact finish d _ hw hk (FrameX.refl _ _) (by rw [hdata]) _ hl

/-! ### "clone an option into a selectedcontent" -/

/-- element-wise relation between two lists of the same length -/
inductive Pairs (R : Id → Id → Prop) : List Id → List Id → Prop
  | nil : Pairs R [] []
  | cons {a b : Id} {l1 l2 : List Id} : R a b → Pairs R l1 l2 → Pairs R (a :: l1) (b :: l2)

theorem Pairs.length_eq {R : Id → Id → Prop} {l1 l2 : List Id} (h : Pairs R l1 l2) : l1.length = l2.length := by
  induction h with
  | nil => rfl
  | cons _ _ ih => simp [ih]

/-- one unfolding of the loop that copies a list of nodes -/
theorem cloneListWith_cons_inv {cl : Dom → Id → Except String (Dom × Id)} {c : Id} {cs ks : List Id} {d d' : Dom}
    (h : Dom.cloneListWith cl d (c :: cs) = .ok (d', ks)) :
    ∃ d1 k d2 ks', cl d c = .ok (d1, k) ∧ Dom.cloneListWith cl d1 cs = .ok (d2, ks') ∧ d2 = d' ∧ k :: ks' = ks := by
  obtain ⟨⟨d1, k⟩, h1, h⟩ := bind_ok_inv h
  obtain ⟨⟨d2, ks'⟩, h2, h⟩ := bind_ok_inv h
  obtain ⟨e1, e2⟩ := Prod.mk.inj (Except.ok.inj h)
  exact ⟨d1, k, d2, ks', h1, h2, e1, e2⟩

/-- step 2: the list of copies -/
theorem cloneListWith_spec {cl : Dom → Id → Except String (Dom × Id)}
    (hcl : ∀ d c d' k, WF d → Kinds d → cl d c = .ok (d', k) → CloneSpec d d' c k) :
    ∀ (cs : List Id) (d d' : Dom) (ks : List Id), WF d → Kinds d →
      (∀ c ∈ cs, c < d.size) → Dom.cloneListWith cl d cs = .ok (d', ks) →
      WF d' ∧ Kinds d' ∧ Frame d d' ∧ ks.Nodup ∧
      (∀ k ∈ ks, d.size ≤ k ∧ k < d'.size ∧ d'.parentOf k = none) ∧
      Pairs (fun c k => (d'.dataOf k).map eraseTc = (d.dataOf c).map eraseTc) cs ks := by
  intro cs
  induction cs with
  | nil =>
    intro d d' ks hw hk _ h
    simp [Dom.cloneListWith] at h
    obtain ⟨h1, h2⟩ := h; subst h1; subst h2
    exact ⟨hw, hk, FrameX.refl _ _, by simp, by simp, Pairs.nil⟩
  | cons c cs ih =>
    intro d d' ks hw hk hcs h
    obtain ⟨d1, k, d2, ks', h1, h2, rfl, rfl⟩ := cloneListWith_cons_inv h
    have sp := hcl d c d1 k hw hk h1
    have hcs1 : ∀ c' ∈ cs, c' < d1.size := fun c' hc' =>
      Nat.lt_of_lt_of_le (hcs c' (by simp [hc'])) sp.frame.size
    obtain ⟨hw2, hk2, hf2, hnd, hks, hfa⟩ := ih d1 d2 ks' sp.wf sp.kinds hcs1 h2
    refine ⟨hw2, hk2, sp.frame.trans hf2, ?_, ?_, ?_⟩
    · refine List.nodup_cons.mpr ⟨?_, hnd⟩
      intro hm
      exact Nat.lt_irrefl _ (Nat.lt_of_lt_of_le sp.valid (hks k hm).1)
    · intro k' hk'
      simp only [List.mem_cons] at hk'
      rcases hk' with e | hk'
      · subst e
        exact ⟨sp.fresh, Nat.lt_of_lt_of_le sp.valid hf2.size, by rw [hf2.parent _ sp.valid]; exact sp.root⟩
      · obtain ⟨a1, a2, a3⟩ := hks k' hk'
        exact ⟨Nat.le_trans sp.frame.size a1, a2, a3⟩
    · refine Pairs.cons ?_ ?_
      · rw [hf2.data k sp.valid]; exact sp.data
      · -- the data of the remaining originals did not change while `c` was copied
        have : ∀ (l1 l2 : List Id), (∀ c' ∈ l1, c' < d.size) →
            Pairs (fun c k => (d2.dataOf k).map eraseTc = (d1.dataOf c).map eraseTc) l1 l2 →
            Pairs (fun c k => (d2.dataOf k).map eraseTc = (d.dataOf c).map eraseTc) l1 l2 := by
          intro l1 l2 hl hf
          induction hf with
          | nil => exact Pairs.nil
          | @cons a b l1 l2 hab _ ih2 =>
            refine Pairs.cons ?_ (ih2 (fun c' hc' => hl c' (by simp [hc'])))
            rw [hab, sp.frame.data a (hl a (by simp))]
        exact this cs ks' (fun c' hc' => hcs c' (by simp [hc'])) hfa

theorem clearParents_ok : ∀ (cs : List Id) (d : Dom),
    (∀ x, (d.clearParents cs).parentOf x = if x ∈ cs then none else d.parentOf x) ∧
    (∀ x, (d.clearParents cs).childrenOf x = d.childrenOf x) ∧
    (∀ x, (d.clearParents cs).dataOf x = d.dataOf x) ∧ (d.clearParents cs).size = d.size := by
  intro cs
  induction cs with
  | nil => intro d; simp [Dom.clearParents]
  | cons c cs ih =>
    intro d
    simp only [Dom.clearParents]
    cases hc : d.nodes[c]? with
    | none =>
      simp only
      obtain ⟨i1, i2, i3, i4⟩ := ih d
      refine ⟨?_, i2, i3, i4⟩
      intro x; rw [i1]
      by_cases hx : x ∈ cs
      · simp [hx]
      · by_cases hxc : x = c
        · subst hxc; simp [Dom.parentOf, hc]
        · simp [hx, hxc]
    | some cn =>
      simp only
      have hcn : d.node? c = some cn := hc
      obtain ⟨i1, i2, i3, i4⟩ := ih (d.setNode c { cn with parent := none })
      refine ⟨?_, ?_, ?_, ?_⟩
      · intro x; rw [i1, parentOf_setNode hcn]
        by_cases hx : x ∈ cs
        · simp [hx]
        · by_cases hxc : x = c
          · simp [hxc]
          · simp [hx, hxc]
      · intro x; rw [i2, childrenOf_setNode hcn]
        by_cases hxc : x = c
        · subst hxc; simp [childrenOf_of_node hcn]
        · simp [hxc]
      · intro x; rw [i3, dataOf_setNode hcn]
        by_cases hxc : x = c
        · subst hxc; simp [dataOf_of_node hcn]
        · simp [hxc]
      · rw [i4]; simp

theorem detachChildren_ok {d d' : Dom} {p : Id} (h : d.detachChildren p = .ok d') :
    p < d.size ∧
    (∀ x, d'.parentOf x = if x ∈ d.childrenOf p then none else d.parentOf x) ∧
    (∀ x, d'.childrenOf x = if x = p then [] else d.childrenOf x) ∧
    (∀ x, d'.dataOf x = d.dataOf x) ∧ d'.size = d.size := by
  unfold Dom.detachChildren at h
  simp only [bind, Except.bind] at h
  cases hp : d.get p with
  | error e => simp [hp] at h
  | ok pn =>
    have hpn := get_ok.mp hp
    simp only [hp] at h
    obtain ⟨c1, c2, c3, c4⟩ := clearParents_ok pn.children d
    have hplt : p < (d.clearParents pn.children).size := by rw [c4]; exact node?_lt hpn
    obtain ⟨pn1, hpn1⟩ := node?_of_lt hplt
    rw [get_ok_of hpn1] at h
    simp at h
    subst h
    refine ⟨node?_lt hpn, ?_, ?_, ?_, by simp [c4]⟩
    · intro x; rw [parentOf_setNode hpn1, childrenOf_of_node hpn]
      by_cases hx : x = p
      · subst hx; simp; rw [← parentOf_of_node hpn1, c1]
      · simp [hx]; exact c1 x
    · intro x; rw [childrenOf_setNode hpn1]
      by_cases hx : x = p
      · simp [hx]
      · simp [hx]; exact c2 x
    · intro x; rw [dataOf_setNode hpn1]
      by_cases hx : x = p
      · subst hx; simp; rw [← dataOf_of_node hpn1, c3]
      · simp [hx]; exact c3 x

/-- all children of `p` cut loose at once -/
theorem WF.detachAll {d d' : Dom} (h : WF d) {p : Id}
    (hp : ∀ x, d'.parentOf x = if x ∈ d.childrenOf p then none else d.parentOf x)
    (hch : ∀ x, d'.childrenOf x = if x = p then [] else d.childrenOf x) : WF d' where
  links := by
    intro c q
    rw [hp, hch]
    by_cases hc : c ∈ d.childrenOf p
    · have hpar := (h.links c p).mpr hc
      simp only [hc, if_true]
      by_cases hq : q = p
      · simp [hq]
      · have : ¬ c ∈ d.childrenOf q := fun hm => by
          have := (h.links c q).mpr hm; rw [hpar] at this; exact hq (Option.some.inj this).symm
        simp [hq, this]
    · simp only [hc, if_false]
      by_cases hq : q = p
      · subst hq; simp
        intro hh; exact hc ((h.links c q).mp hh)
      · simp [hq]; exact h.links c q
  nodup := by
    intro q; rw [hch]
    by_cases hq : q = p
    · simp [hq]
    · simp [hq]; exact h.nodup q
  rooted := by
    intro x
    refine rooted_redirect (S := fun _ => False) (q := p) (h.rooted p) ?_ ?_ ?_ x (h.rooted x)
    · intro s hs; exact hs.elim
    · intro x hx; exact hx.elim
    · intro x _; rw [hp]
      by_cases hx : x ∈ d.childrenOf p
      · exact Or.inr (by simp [hx])
      · exact Or.inl (by simp [hx])

/-- parents of the first `n0` nodes are among the first `n0` nodes -/
def OldClosed (n0 : Nat) (d : Dom) : Prop := ∀ y, y < n0 → ∀ q, d.parentOf y = some q → q < n0

theorem OldClosed.anc {n0 : Nat} {d : Dom} (ho : OldClosed n0 d) {a x : Id} (hx : x < n0) (h : Anc d a x) :
    a < n0 := by
  induction h with
  | refl => exact hx
  | @step x q hp _ ih => exact ih (ho x hx q hp)

/-- "replace all", second half -/
theorem attachAll_spec {n0 : Nat} {p : Id} (hpn : p < n0) : ∀ (ks : List Id) (d d' : Dom), WF d → Kinds d →
    OldClosed n0 d → d.isContainer p = true → ks.Nodup →
    (∀ k ∈ ks, n0 ≤ k ∧ d.parentOf k = none ∧ d.dataOf k ≠ some .document) →
    d.attachAll p ks = .ok d' →
    WF d' ∧ Kinds d' ∧ OldClosed n0 d' ∧ d'.childrenOf p = d.childrenOf p ++ ks ∧
    (∀ x, d'.parentOf x = if x ∈ ks then some p else d.parentOf x) ∧
    (∀ x, x ≠ p → d'.childrenOf x = d.childrenOf x) ∧ (∀ x, d'.dataOf x = d.dataOf x) ∧ d'.size = d.size := by
  intro ks
  induction ks with
  | nil =>
    intro d d' hw hk ho _ _ _ h
    simp [Dom.attachAll] at h; subst h
    exact ⟨hw, hk, ho, by simp, by simp, fun _ _ => rfl, fun _ => rfl, rfl⟩
  | cons k ks ih =>
    intro d d' hw hk ho hcont hnd hks h
    obtain ⟨d1, h1, h⟩ := bind_ok_inv h
    obtain ⟨hk0, hkp, hkd⟩ := hks k (by simp)
    have hne : p ≠ k := fun e => Nat.lt_irrefl _ (Nat.lt_of_lt_of_le (e ▸ hpn) hk0)
    have hanc : ¬ Anc d k p := fun ha => Nat.lt_irrefl _ (Nat.lt_of_lt_of_le (ho.anc hpn ha) hk0)
    obtain ⟨_, _, _, _, _, hp1, hc1, hd1, hs1, _⟩ := appendRaw_ok h1 hne
    have hw1 := hw.appendRaw hanc h1
    have hk1 := hk.attach hp1 hd1 hcont hkd
    have ho1 : OldClosed n0 d1 := by
      intro y hy q hq
      rw [hp1] at hq
      have : y ≠ k := fun e => Nat.lt_irrefl _ (Nat.lt_of_lt_of_le (e ▸ hy) hk0)
      simp [this] at hq
      exact ho y hy q hq
    obtain ⟨hkn, hndt⟩ := List.nodup_cons.mp hnd
    have hks1 : ∀ k' ∈ ks, n0 ≤ k' ∧ d1.parentOf k' = none ∧ d1.dataOf k' ≠ some .document := by
      intro k' hk'
      obtain ⟨a1, a2, a3⟩ := hks k' (by simp [hk'])
      have : k' ≠ k := fun e => hkn (e ▸ hk')
      exact ⟨a1, by rw [hp1]; simp [this, a2], by rw [hd1]; exact a3⟩
    obtain ⟨r1, r2, r3, r4, r5, r6, r7, r8⟩ := ih d1 d' hw1 hk1 ho1
      (by rw [isContainer_congr (hd1 p)]; exact hcont) hndt hks1 h
    refine ⟨r1, r2, r3, ?_, ?_, ?_, ?_, by rw [r8, hs1]⟩
    · rw [r4, hc1]; simp
    · intro x; rw [r5, hp1]
      by_cases hx : x ∈ ks
      · simp [hx]
      · by_cases hxk : x = k
        · simp [hxk]
        · simp [hx, hxk]
    · intro x hx; rw [r6 x hx, hc1]; simp [hx]
    · intro x; rw [r7, hd1]

theorem Pairs.mem_right {R : Id → Id → Prop} {l1 l2 : List Id} (h : Pairs R l1 l2) :
    ∀ b ∈ l2, ∃ a ∈ l1, R a b := by
  induction h with
  | nil => intro b hb; cases hb
  | @cons a b l1 l2 hab _ ih =>
    intro b' hb'
    simp only [List.mem_cons] at hb'
    rcases hb' with e | hb'
    · subst e; exact ⟨a, by simp, hab⟩
    · obtain ⟨a', ha', hr⟩ := ih b' hb'
      exact ⟨a', by simp [ha'], hr⟩

theorem Pairs.imp {R S : Id → Id → Prop} {l1 l2 : List Id} (h : Pairs R l1 l2)
    (hi : ∀ a b, a ∈ l1 → b ∈ l2 → R a b → S a b) : Pairs S l1 l2 := by
  induction h with
  | nil => exact Pairs.nil
  | @cons a b l1 l2 hab _ ih =>
    exact Pairs.cons (hi a b (by simp) (by simp) hab)
      (ih (fun a' b' ha' hb' => hi a' b' (by simp [ha']) (by simp [hb'])))

/-- the three steps of the repaired mirroring: copy the option's children, detach the old children
of the selectedcontent, attach the copies -/
theorem cloneOptionInto_fixed_ok {d d' : Dom} {o sc : Id} (h : d.cloneOptionInto .fixed o sc = .ok d') :
    ∃ on d1 ks d2, d.node? o = some on ∧
      Dom.cloneListWith (fun d c => Dom.cloneFixed d (d.size + 1) c) d on.children = .ok (d1, ks) ∧
      d1.detachChildren sc = .ok d2 ∧ d2.attachAll sc ks = .ok d' := by
  obtain ⟨on, ho, h⟩ := bind_ok_inv h
  obtain ⟨⟨d1, ks⟩, h1, h⟩ := bind_ok_inv h
  obtain ⟨d2, h2, h⟩ := bind_ok_inv h
  exact ⟨on, d1, ks, d2, get_ok.mp ho, h1, h2, h⟩

/-- **"clone an option into a selectedcontent" (repaired) preserves the invariant**, and at the top
level does what the standard says: the children of the selectedcontent are fresh nodes, one per child
of the option, in order, carrying the same data; they point to the selectedcontent; the old
children are detached; nothing else that existed before changes. -/
theorem cloneOptionInto_fixed_spec {d d' : Dom} {o sc : Id} (hw : WF d) (hk : Kinds d)
    (hsc : d.isContainer sc = true) (h : d.cloneOptionInto .fixed o sc = .ok d') :
    WF d' ∧ Kinds d' ∧
    Pairs (fun c k => (d'.dataOf k).map eraseTc = (d.dataOf c).map eraseTc) (d.childrenOf o) (d'.childrenOf sc) ∧
    (∀ k ∈ d'.childrenOf sc, d.size ≤ k ∧ d'.parentOf k = some sc) ∧
    (∀ c ∈ d.childrenOf sc, d'.parentOf c = none) ∧
    (∀ y, y < d.size → d'.dataOf y = d.dataOf y) ∧
    (∀ y, y < d.size → y ≠ sc → d'.childrenOf y = d.childrenOf y) ∧
    (∀ y, y < d.size → y ∉ d.childrenOf sc → d'.parentOf y = d.parentOf y) := by
  obtain ⟨on, d1, ks, d2, hon, h1, h2, h⟩ := cloneOptionInto_fixed_ok h
  have hsclt := lt_of_isContainer hsc
  have hoch : d.childrenOf o = on.children := childrenOf_of_node hon
  obtain ⟨hw1, hk1, hf1, hnd, hks, hpairs⟩ := cloneListWith_spec
    (cl := fun d c => Dom.cloneFixed d (d.size + 1) c)
    (fun d c d' k hw hk h => cloneFixed_spec _ d c d' k hw hk h) on.children d d1 ks hw hk
    (fun c hc => child_valid hw (by rw [hoch]; exact hc)) h1
  obtain ⟨_, hp2, hc2, hd2, hs2⟩ := detachChildren_ok h2
  have hw2 : WF d2 := hw1.detachAll hp2 hc2
  have hk2 : Kinds d2 := by
    refine hk1.of_effects ?_ ?_ ?_
    · intro x hx; rw [isContainer_congr (hd2 x)]; exact hx
    · intro x _ hh; rw [← hd2 x]; exact hh
    · intro c q hh; rw [hp2] at hh
      by_cases hc : c ∈ d1.childrenOf sc
      · simp [hc] at hh
      · simp [hc] at hh; exact Or.inl hh
  have hsc1 : d1.childrenOf sc = d.childrenOf sc := hf1.children sc hsclt (by simp)
  have ho2 : OldClosed d.size d2 := by
    intro y hy q hq
    rw [hp2] at hq
    by_cases hc : y ∈ d1.childrenOf sc
    · simp [hc] at hq
    · simp [hc] at hq
      rw [hf1.parent y hy] at hq
      exact parent_lt_size hw hq
  have hcont2 : d2.isContainer sc = true := by
    rw [isContainer_congr (hd2 sc), isContainer_congr (hf1.data sc hsclt)]; exact hsc
  have hks2 : ∀ k ∈ ks, d.size ≤ k ∧ d2.parentOf k = none ∧ d2.dataOf k ≠ some .document := by
    intro k hkm
    obtain ⟨a1, _, a3⟩ := hks k hkm
    refine ⟨a1, ?_, ?_⟩
    · rw [hp2]; split
      · rfl
      · exact a3
    · rw [hd2]
      obtain ⟨c, hc, hr⟩ := hpairs.mem_right k hkm
      have hcx : c ∈ d.childrenOf o := by rw [hoch]; exact hc
      exact not_doc_of_eraseTc hr (hk.childNotDoc c o ((hw.links c o).mpr hcx))
  obtain ⟨r1, r2, _, r4, r5, r6, r7, r8⟩ :=
    attachAll_spec (n0 := d.size) hsclt ks d2 d' hw2 hk2 ho2 hcont2 hnd hks2 h
  have hch' : d'.childrenOf sc = ks := by rw [r4, hc2]; simp
  refine ⟨r1, r2, ?_, ?_, ?_, ?_, ?_, ?_⟩
  · rw [hch', hoch]
    exact hpairs.imp (fun a b _ _ hr => by rw [r7, hd2]; exact hr)
  · intro k hkm
    rw [hch'] at hkm
    exact ⟨(hks k hkm).1, by rw [r5]; simp [hkm]⟩
  · intro c hc
    rw [r5]
    have hcl : c < d.size := child_valid hw hc
    have : c ∉ ks := fun hm => Nat.lt_irrefl _ (Nat.lt_of_lt_of_le hcl (hks c hm).1)
    simp [this]; rw [hp2, hsc1]; simp [hc]
  · intro y hy; rw [r7, hd2]; exact hf1.data y hy
  · intro y hy hne; rw [r6 y hne, hc2]; simp [hne]; exact hf1.children y hy (by simp)
  · intro y hy hnc
    rw [r5]
    have : y ∉ ks := fun hm => Nat.lt_irrefl _ (Nat.lt_of_lt_of_le hy (hks y hm).1)
    simp [this]; rw [hp2, hsc1]; simp [hnc]; exact hf1.parent y hy

theorem enabledSelectedcontent_fixed_element {d : Dom} {select sc : Id}
    (h : d.enabledSelectedcontent .fixed select = .ok (some sc)) : d.isContainer sc = true := by
  unfold Dom.enabledSelectedcontent at h
  simp only [bind, Except.bind] at h
  cases hs : d.get select with
  | error e => simp [hs] at h
  | ok sn =>
    simp only [hs] at h
    cases hdata : sn.data with
    | element name attrs tc ip =>
      simp only [hdata] at h
      by_cases hn : name.loc ≠ sSelect
      · simp [hn, throw, throwThe, MonadExceptOf.throw] at h
      · simp only [hn, if_false] at h
        by_cases hm : Dom.hasAttrLocal attrs sMultiple = true
        · simp [hm] at h
        · simp [hm] at h
          have := List.find?_some h
          simp only [beq_iff_eq] at this
          unfold Dom.localNameOf at this
          unfold Dom.isContainer
          cases hd : d.dataOf sc with
          | none => simp [hd] at this
          | some v => cases v <;> simp_all
    | document | doctype _ _ _ | comment _ | text _ | pi _ _ =>
      simp [hdata, throw, throwThe, MonadExceptOf.throw] at h

theorem cloneTarget_fixed_element {d : Dom} {o sc : Id} (h : d.cloneTarget .fixed o = .ok (some sc)) :
    d.isContainer sc = true := by
  unfold Dom.cloneTarget at h
  simp only [bind, Except.bind] at h
  cases ho : d.get o with
  | error e => simp [ho] at h
  | ok on =>
    simp only [ho] at h
    cases hdata : on.data with
    | element name attrs tc ip =>
      simp only [hdata] at h
      by_cases hn : name.loc ≠ sOption
      · simp [hn, throw, throwThe, MonadExceptOf.throw] at h
      · simp only [hn, if_false] at h
        cases hsel : d.nearestAncestorSelect o with
        | error e => simp [hsel] at h
        | ok sel =>
          simp only [hsel] at h
          cases sel with
          | none => simp at h
          | some select =>
            simp only at h
            cases hsc : d.enabledSelectedcontent .fixed select with
            | error e => simp [hsc] at h
            | ok r =>
              simp only [hsc] at h
              cases r with
              | none => simp at h
              | some sc' =>
                simp only at h
                split at h
                · simp at h; subst h; exact enabledSelectedcontent_fixed_element hsc
                · simp at h
    | document | doctype _ _ _ | comment _ | text _ | pi _ _ =>
      simp [hdata, throw, throwThe, MonadExceptOf.throw] at h

/-- `maybe_clone_an_option_into_selectedcontent` (repaired) preserves the invariant -/
theorem maybeCloneOption_fixed_inv {d d' : Dom} {o : Id} (hw : WF d) (hk : Kinds d)
    (h : d.maybeCloneOption .fixed o = .ok d') : WF d' ∧ Kinds d' := by
  rcases maybeCloneOption_ok h with ⟨_, rfl⟩ | ⟨sc, ht, h⟩
  · exact ⟨hw, hk⟩
  · obtain ⟨a, b, _⟩ := cloneOptionInto_fixed_spec hw hk (cloneTarget_fixed_element ht) h
    exact ⟨a, b⟩

end H5V.Lemmas.Dom
