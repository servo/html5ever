import H5V.Lemmas.HtmlTokSpecTac
/-!
# C01 simulation — the goal of the step lemmas (`StepOk`) and the interface between the register part
(`RegCore`), the reader part (`InpRel`) and the whole relation (`RelCore`, `Rel`); before that the
equations of `normalizeNewlinesFrom`
-/
namespace H5V.Lemmas.HtmlTokSpec
open H5V.Model.HtmlTok
open H5V.Spec.HtmlTokenizer (St Tok Emit Tree Switch Ctl ReturnSt normalizeNewlinesFrom normalizeNewlines)

/-! ## newline normalisation -/

@[simp] theorem norm_nil (b : Bool) : normalizeNewlinesFrom b [] = [] := by
  unfold normalizeNewlinesFrom; rfl

theorem norm_cr (b : Bool) (s : Str) :
    normalizeNewlinesFrom b ('\r' :: s) = '\n' :: normalizeNewlinesFrom true s := by
  rw [normalizeNewlinesFrom]; simp

theorem norm_lf_true (s : Str) :
    normalizeNewlinesFrom true ('\n' :: s) = normalizeNewlinesFrom false s := by
  rw [normalizeNewlinesFrom]; simp

theorem norm_lf_false (s : Str) :
    normalizeNewlinesFrom false ('\n' :: s) = '\n' :: normalizeNewlinesFrom false s := by
  rw [normalizeNewlinesFrom]; simp

theorem norm_other (b : Bool) (c : Char) (s : Str) (h1 : c ≠ '\r') (h2 : c ≠ '\n') :
    normalizeNewlinesFrom b (c :: s) = c :: normalizeNewlinesFrom false s := by
  rw [normalizeNewlinesFrom]; simp [h1, h2]

/-- a character other than the LF of a CR LF pair, folded -/
theorem norm_fold (b : Bool) (c : Char) (s : Str) (h : ¬ (b = true ∧ c = '\n')) :
    normalizeNewlinesFrom b (c :: s) = foldCh c :: normalizeNewlinesFrom (decide (c = '\r')) s := by
  unfold foldCh
  by_cases h1 : c = '\r'
  · subst h1; simp [norm_cr]
  · by_cases h2 : c = '\n'
    · subst h2
      cases b
      · simp [norm_lf_false]
      · simp at h
    · simp [h1, norm_other b c s h1 h2]

/-- the pending-LF flag only matters for a LF -/
theorem norm_flag (c : Char) (s : Str) (h : c ≠ '\n') :
    normalizeNewlinesFrom true (c :: s) = normalizeNewlinesFrom false (c :: s) := by
  simp [normalizeNewlinesFrom, h]

theorem brk_ne {c : Char} (h : isBrk c = false) : c ≠ '\r' ∧ c ≠ '\n' := by
  simp only [isBrk, Bool.or_eq_false_iff, decide_eq_false_iff_not] at h
  exact ⟨h.2, h.1⟩

/-! ## scalar values as characters -/

theorem toNat_ofNat_valid (k : Nat) (h : isValidScalar k = true) : (Char.ofNat k).toNat = k := by
  have hv : k.isValidChar := by
    unfold isValidScalar at h
    simp only [Bool.or_eq_true, decide_eq_true_eq, Bool.and_eq_true] at h
    unfold Nat.isValidChar
    omega
  simp [Char.ofNat, hv, Char.toNat, Char.ofNatAux]

theorem ofNat_ne_nul (k : Nat) (h : isValidScalar k = true) (h0 : k ≠ 0) : Char.ofNat k ≠ '\x00' := by
  intro e
  have := toNat_ofNat_valid k h
  rw [e] at this
  simp at this
  exact h0 this.symm

/-- the goal of a step lemma; `r` is the result of one `Tokenizer::step` of the model:
* Continue: the specification reaches, in `k ≥ 0` steps, a configuration related to the new one;
* Suspend (needs more input): nothing happens in the specification, the relation still holds;
* the sink never pauses the tokenizer (`PolTree`), and the model does not panic. -/
def StepOk (tree : Tree) (t : Tok) (rest : Str) : R → Prop
  | .cont m' inp' => Reach tree t rest (fun t' rest' => Rel m' inp' t' rest')
  | .suspend m' inp' => Rel m' inp' t rest
  | .script _ _ => False
  | .indicator _ _ => False
  | .panic _ => False

@[simp] theorem stepOk_cont (tree : Tree) (t : Tok) (rest : Str) (m' : Mach) (inp' : Str) :
    StepOk tree t rest (.cont m' inp') ↔ Reach tree t rest (fun t' rest' => Rel m' inp' t' rest') := Iff.rfl
@[simp] theorem stepOk_suspend (tree : Tree) (t : Tok) (rest : Str) (m' : Mach) (inp' : Str) :
    StepOk tree t rest (.suspend m' inp') ↔ Rel m' inp' t rest := Iff.rfl
@[simp] theorem stepOk_script (tree : Tree) (t : Tok) (rest : Str) (m' : Mach) (inp' : Str) :
    StepOk tree t rest (.script m' inp') ↔ False := Iff.rfl
@[simp] theorem stepOk_indicator (tree : Tree) (t : Tok) (rest : Str) (m' : Mach) (inp' : Str) :
    StepOk tree t rest (.indicator m' inp') ↔ False := Iff.rfl
@[simp] theorem stepOk_panic (tree : Tree) (t : Tok) (rest : Str) (e : String) :
    StepOk tree t rest (.panic e) ↔ False := Iff.rfl

/-! ## `RelCore` from and to its parts -/

theorem RelCore.std {m : Mach} {inp : Str} {t : Tok} {rest : Str} (h : RelCore m inp t rest) : Std m.state := h.d.1
theorem RelCore.st {m : Mach} {inp : Str} {t : Tok} {rest : Str} (h : RelCore m inp t rest) : StRelD m t rest := h.d.2.1
theorem RelCore.reg {m : Mach} {inp : Str} {t : Tok} {rest : Str} (h : RelCore m inp t rest) : RegRel m t := h.d.2.2.1
theorem RelCore.out {m : Mach} {inp : Str} {t : Tok} {rest : Str} (h : RelCore m inp t rest) : OutRel m t := h.d.2.2.2.1
theorem RelCore.inp {m : Mach} {inp : Str} {t : Tok} {rest : Str} (h : RelCore m inp t rest) : InpRel m inp rest :=
  h.d.2.2.2.2

/-- no character reference in progress: the register part -/
theorem RelCore.regCore {m : Mach} {inp : Str} {t : Tok} {rest : Str} (h : RelCore m inp t rest)
    (hcr : m.charRef = none) : RegCore m t := by
  refine ⟨h.std, ?_, hcr, h.reg, h.out⟩
  have := h.st
  unfold StRelD at this
  rw [hcr] at this
  exact this

theorem RelCore.ofRegCore {m : Mach} {inp : Str} {t : Tok} {rest : Str} (h : RegCore m t)
    (hi : InpRel m inp rest) (ht : TInv m) : RelCore m inp t rest := by
  refine ⟨⟨h.std, ?_, h.reg, h.out, hi⟩, ht, fun cr hc => ?_⟩
  · unfold StRelD; rw [h.cr]; exact h.st
  · rw [h.cr] at hc; simp at hc

/-- a character reference in progress: the parts -/
theorem RelCore.crRel {m : Mach} {inp : Str} {t : Tok} {rest : Str} (h : RelCore m inp t rest)
    {cr : CharRefSt} (hcr : m.charRef = some cr) : CRRelD m cr t rest := by
  have := h.st
  unfold StRelD at this
  rw [hcr] at this
  exact this

theorem RelCore.ofCR {m : Mach} {inp : Str} {t : Tok} {rest : Str} {cr : CharRefSt}
    (hcr : m.charRef = some cr) (hstd : Std m.state) (hc : CRRelD m cr t rest) (hg : CRStG cr cr.state)
    (hreg : RegRel m t) (hout : OutRel m t) (hi : InpRel m inp rest) (ht : TInv m) : RelCore m inp t rest := by
  refine ⟨⟨hstd, ?_, hreg, hout, hi⟩, ht, fun cr' hc' => ?_⟩
  · unfold StRelD; rw [hcr]; exact hc
  · rw [hcr] at hc'
    simp only [Option.some.injEq] at hc'
    subst hc'
    exact hg

/-- a lag only occurs in the lag states -/
theorem Rel.core_of_not_lag {m : Mach} {inp : Str} {t : Tok} {rest : Str} (h : Rel m inp t rest)
    (hl : isLagSt m.state = false ∨ m.charRef ≠ none ∨ m.reconsume = true ∨ m.ignoreLf = true) :
    RelCore m inp t rest := by
  obtain ⟨lag, inp0, hinp, hok, hc⟩ := h
  rcases hok with rfl | ⟨h1, h2, h3, h4, _⟩
  · simpa [absorb, hinp] using hc
  · rcases hl with hl | hl | hl | hl
    · rw [hl] at h1; simp at h1
    · exact absurd h2 hl
    · rw [hl] at h3; simp at h3
    · rw [hl] at h4; simp at h4

/-! ## the model's invariant only looks at the control registers -/

theorem tinv_congr {m m' : Mach} (h : TInv m) (h1 : m'.state = m.state) (h2 : m'.charRef = m.charRef)
    (h3 : m'.tempBuf = m.tempBuf) (h4 : m'.reconsume = m.reconsume) (h5 : m'.ignoreLf = m.ignoreLf)
    (h6 : m'.currentChar = m.currentChar) : TInv m' := by
  have hstash : stash m' = stash m := stash_congr h1 h3 h2
  refine ⟨⟨⟨?_, ?_⟩, ?_, ?_, ?_, ?_, ?_, ?_⟩, ?_⟩
  · intro cr hc; rw [h1]; exact h.linv.safe.crState cr (by rw [← h2]; exact hc)
  · intro cr hc; exact h.linv.safe.crRegs cr (by rw [← h2]; exact hc)
  · intro hs; have := h.linv.eatOk (by rw [← h1]; exact hs)
    intro hil; rw [h3]; exact this (by rw [← h5]; exact hil)
  · intro a b c; rw [h3]; exact h.linv.nr (by rw [← h1]; exact a) (by rw [← h1]; exact b) (by rw [← h1]; exact c)
  · intro hs; rw [h4]; exact h.linv.peekNoRecon (by rw [← h1]; exact hs)
  · intro a b; rw [h6]; exact h.linv.ri (by rw [← h4]; exact a) (by rw [← h5]; exact b)
  · rw [hstash]; exact h.linv.stashOk
  · intro cr hc
    have := h.linv.cr cr (by rw [← h2]; exact hc)
    rw [h5, h4]; exact this
  · intro cr hc; exact h.crt cr (by rw [← h2]; exact hc)

theorem tinv_absorb {m : Mach} (h : TInv m) (lag : Str) : TInv (absorb m lag) := by
  unfold absorb
  split
  · exact h
  · split
    · exact tinv_congr h rfl rfl rfl rfl rfl rfl
    · split
      · exact tinv_congr h rfl rfl rfl rfl rfl rfl
      · exact tinv_congr h rfl rfl rfl rfl rfl rfl

theorem tinv_setAtEof {m : Mach} (h : TInv m) (b : Bool) : TInv (m.setAtEof b) :=
  tinv_congr h rfl rfl rfl rfl rfl rfl

end H5V.Lemmas.HtmlTokSpec
