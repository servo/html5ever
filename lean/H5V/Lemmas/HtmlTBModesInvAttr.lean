import Lean.Meta.Tactic.Simp.RegisterCommand
/-!
C02 (insertion modes): the simp set `norh` of `H5V.Lemmas.HtmlTBModesInvNoRH`: how "never answers `reprocessHtml`"
passes through `if`, `do`, `<$>`, and the facts about the rule functions already walked.
-/
register_simp_attr norh
