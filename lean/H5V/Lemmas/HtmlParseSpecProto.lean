import H5V.Lemmas.HtmlParseSpecAgree3
/-!
**The protocol hypothesis `Respects2`, split into what is a fact about the tokenizer's output and
what is not.**

`Respects2 s ts` (C02Modes) asks of every token, in the tree-builder state it arrives in, `TokTokOk`: (1) tags are
well-formed (`TagWf`), (2) character tokens are non-empty and free of U+0000, (3) in the "text" insertion mode
only characters / end tags / EOF / parse errors arrive, (4) the DOCTYPE clauses, and (5) nothing follows EOF.

(1) except the `shadowrootmode` clause, (2) and (5) only depend on the tokens: `TokOkT` / `EofLast`, and they are
FACTS about the tokenizer model's output (`H5V.Lemmas.HtmlParseSpecOutWf`), for the exploded stream.  What remains
is `RespectsP`: the state-dependent clauses (3), (4) and "no `shadowrootmode` attribute" (declarative shadow roots
are outside `Spec.TreeModes`).
-/
namespace H5V.Lemmas.ParseSpec
open H5V.Model.HtmlTB
open H5V.Model.Dom (Id QualName Attr)
open H5V.Lemmas.HtmlTBAlgo
open H5V.Lemmas.HtmlTBModes
open H5V.Model.HtmlTB.Joint (conv convTag)

/-- the state-independent part of `TokTokOk` -/
def TokOkT : TokToken → Prop
  | .tag t => PlainTag t ∧ (∀ c ∈ t.name, ¬ ('A' ≤ c ∧ c ≤ 'Z')) ∧ (t.attrs.map (·.name.loc)).Nodup
  | .chars x => x ≠ [] ∧ '\x00' ∉ x
  | _ => True

/-- the residual protocol: what is NOT a fact about the tokenizer alone -/
structure ProtoOk (s : State) (token : TokToken) : Prop where
  noShadow : ∀ t, token = .tag t → ∀ a ∈ t.attrs, a.name.loc ≠ "shadowrootmode".toList
  text : s.mode = .text → (∃ x, token = .chars x) ∨ token = .eof ∨ (∃ t, token = .tag t ∧ t.kind = .endTag) ∨
    (∃ e, token = .parseError e)
  doctype : ∀ d, token = .doctype d → s.opts.dropDoctype = false ∧ (s.mode = .initial → s.quirksMode = .noQuirks)

/-- `ProtoOk` along the model's run -/
def RespectsP : State → List (TokToken × Nat) → Prop
  | _, [] => True
  | s, (t, line) :: rest =>
    ProtoOk s t ∧ ∀ r s', (processToken t line).run s = .ok (r, s') → RespectsP s' rest

/-- the end-of-file token only occurs as the last token -/
def EofLast : List (TokToken × Nat) → Prop
  | [] => True
  | (t, _) :: rest => (t = .eof → rest = []) ∧ EofLast rest

theorem respects2_of_parts : ∀ (ts : List (TokToken × Nat)) (s : State), RespectsP s ts →
    (∀ p ∈ ts, TokOkT p.1) → EofLast ts → Respects2 s ts
  | [], _, _, _, _ => trivial
  | (t, line) :: rest, s, hp, hw, he => by
    obtain ⟨hp1, hp2⟩ := hp
    obtain ⟨he1, he2⟩ := he
    refine ⟨⟨?_, ?_, hp1.text, hp1.doctype⟩, he1, fun r s' hr =>
      respects2_of_parts rest s' (hp2 r s' hr) (fun p hp => hw p (by simp [hp])) he2⟩
    · intro tg e
      have h := hw (t, line) (by simp)
      rw [e] at h
      exact ⟨h.1, h.2.1, h.2.2, hp1.noShadow tg e⟩
    · intro x e
      have h := hw (t, line) (by simp)
      rw [e] at h
      exact h

/-- decidable form of `RespectsP` -/
def protoOkB (s : State) : TokToken → Bool
  | .tag t => t.attrs.all (fun a => a.name.loc != "shadowrootmode".toList) && (s.mode != .text || t.kind == .endTag)
  | .chars _ => true
  | .eof => true
  | .parseError _ => true
  | .comment _ => s.mode != .text
  | .nullChar => s.mode != .text
  | .doctype _ => s.mode != .text && !s.opts.dropDoctype && (s.mode != .initial || s.quirksMode == .noQuirks)

theorem protoOk_of_B {s : State} {t : TokToken} (h : protoOkB s t = true) : ProtoOk s t := by
  cases t with
  | tag tg =>
    simp only [protoOkB, Bool.and_eq_true, Bool.or_eq_true, bne_iff_ne, ne_eq, beq_iff_eq, List.all_eq_true] at h
    constructor
    · intro t' e a ha; cases e; exact h.1 a ha
    · intro hm
      rcases h.2 with h2 | h2
      · exact absurd hm h2
      · exact Or.inr (Or.inr (Or.inl ⟨tg, rfl, h2⟩))
    · intro d e; cases e
  | chars x =>
    constructor
    · intro t' e; cases e
    · intro _; exact Or.inl ⟨x, rfl⟩
    · intro d e; cases e
  | eof =>
    constructor
    · intro t' e; cases e
    · intro _; exact Or.inr (Or.inl rfl)
    · intro d e; cases e
  | parseError m =>
    constructor
    · intro t' e; cases e
    · intro _; exact Or.inr (Or.inr (Or.inr ⟨m, rfl⟩))
    · intro d e; cases e
  | comment c =>
    simp only [protoOkB, bne_iff_ne, ne_eq] at h
    constructor
    · intro t' e; cases e
    · intro hm; exact absurd hm h
    · intro d e; cases e
  | nullChar =>
    simp only [protoOkB, bne_iff_ne, ne_eq] at h
    constructor
    · intro t' e; cases e
    · intro hm; exact absurd hm h
    · intro d e; cases e
  | doctype d =>
    simp only [protoOkB, Bool.and_eq_true, bne_iff_ne, ne_eq, Bool.not_eq_true', Bool.or_eq_true, beq_iff_eq] at h
    constructor
    · intro t' e; cases e
    · intro hm; exact absurd hm h.1.1
    · intro d' _
      refine ⟨h.1.2, fun hi => ?_⟩
      rcases h.2 with h2 | h2
      · exact absurd hi h2
      · exact h2

def respectsPB : State → List (TokToken × Nat) → Bool
  | _, [] => true
  | s, (t, line) :: rest =>
    protoOkB s t &&
    match (processToken t line).run s with
    | .ok (_, s') => respectsPB s' rest
    | .error _ => true

theorem respectsP_of_B : ∀ (toks : List (TokToken × Nat)) (s : State), respectsPB s toks = true → RespectsP s toks
  | [], _, _ => trivial
  | (t, line) :: rest, s, h => by
    simp only [respectsPB, Bool.and_eq_true] at h
    refine ⟨protoOk_of_B h.1, fun r s' hr => ?_⟩
    have h3 := h.2
    rw [hr] at h3
    exact respectsP_of_B rest s' h3

/-! ### the token-only parts for the exploded stream of a tokenizer log -/

/-- well-formedness of the tokenizer's tokens, as in `H5V.Lemmas.HtmlParseSpecOutWf` -/
def TokWfT' : TTok → Prop
  | .tag t => (∀ c ∈ t.name, ¬ ('A' ≤ c ∧ c ≤ 'Z')) ∧ (t.attrs.map (·.name)).Nodup
  | .chars x => '\x00' ∉ x
  | _ => True

theorem tokOkT_convTag {t : H5V.Model.HtmlTok.Tag} (h : TokWfT' (.tag t)) : TokOkT (.tag (convTag t)) := by
  obtain ⟨h1, h2⟩ := h
  refine ⟨?_, h1, ?_⟩
  · intro a ha
    simp only [convTag, List.mem_map] at ha
    obtain ⟨b, _, rfl⟩ := ha
    rfl
  · have : (convTag t).attrs.map (·.name.loc) = t.attrs.map (·.name) := by
      simp only [convTag, List.map_map]
      rfl
    rw [this]; exact h2

/-- the exploded stream of a well-formed log satisfies the token-only parts of the protocol -/
theorem tokOkT_explode {l : List (TTok × Nat)} (h : ∀ p ∈ l, TokWfT' p.1) :
    ∀ q ∈ explode (convAll l), TokOkT q.1 := by
  intro q hq
  unfold explode at hq
  rw [List.mem_flatMap] at hq
  obtain ⟨p, hp, hqp⟩ := hq
  unfold convAll at hp
  rw [List.mem_filterMap] at hp
  obtain ⟨p0, hp0, e0⟩ := hp
  have hw := h p0 hp0
  obtain ⟨t0, l0⟩ := p0
  cases t0 with
  | doctype d => cases e0; simp only [explodeTok, List.mem_singleton] at hqp; subst hqp; trivial
  | tag t =>
    cases e0; simp only [explodeTok, List.mem_singleton] at hqp; subst hqp
    exact tokOkT_convTag hw
  | comment c => cases e0; simp only [explodeTok, List.mem_singleton] at hqp; subst hqp; trivial
  | chars x =>
    cases e0
    simp only [explodeTok, List.mem_map] at hqp
    obtain ⟨c, hc, rfl⟩ := hqp
    refine ⟨by simp, ?_⟩
    intro hm
    have : c = '\x00' := by simpa [eq_comm] using hm
    subst this
    exact hw hc
  | nullChar => cases e0; simp only [explodeTok, List.mem_singleton] at hqp; subst hqp; trivial
  | eof => cases e0; simp only [explodeTok, List.mem_singleton] at hqp; subst hqp; trivial
  | error m => cases e0; simp only [explodeTok, List.mem_singleton] at hqp; subst hqp; trivial
  | pause b => cases e0

theorem eofLast_append_eof : ∀ (a : List (TokToken × Nat)) (l : Nat), (∀ p ∈ a, p.1 ≠ .eof) →
    EofLast (a ++ [(TokToken.eof, l)])
  | [], _, _ => ⟨fun _ => rfl, trivial⟩
  | (t, k) :: rest, l, h =>
    ⟨fun e => absurd e (h (t, k) (by simp)), eofLast_append_eof rest l (fun p hp => h p (by simp [hp]))⟩

theorem noEof_explode {l : List (TTok × Nat)} (h : ∀ p ∈ l, p.1 ≠ .eof) :
    ∀ q ∈ explode (convAll l), q.1 ≠ .eof := by
  intro q hq
  unfold explode at hq
  rw [List.mem_flatMap] at hq
  obtain ⟨p, hp, hqp⟩ := hq
  unfold convAll at hp
  rw [List.mem_filterMap] at hp
  obtain ⟨p0, hp0, e0⟩ := hp
  have hw := h p0 hp0
  obtain ⟨t0, l0⟩ := p0
  cases t0 with
  | eof => exact absurd rfl hw
  | chars x =>
    cases e0
    simp only [explodeTok, List.mem_map] at hqp
    obtain ⟨c, _, rfl⟩ := hqp
    simp
  | pause b => cases e0
  | doctype d => cases e0; simp only [explodeTok, List.mem_singleton] at hqp; subst hqp; simp
  | tag t => cases e0; simp only [explodeTok, List.mem_singleton] at hqp; subst hqp; simp
  | comment c => cases e0; simp only [explodeTok, List.mem_singleton] at hqp; subst hqp; simp
  | nullChar => cases e0; simp only [explodeTok, List.mem_singleton] at hqp; subst hqp; simp
  | error m => cases e0; simp only [explodeTok, List.mem_singleton] at hqp; subst hqp; simp

end H5V.Lemmas.ParseSpec
