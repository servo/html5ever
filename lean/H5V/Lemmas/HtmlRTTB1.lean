import H5V.Lemmas.HtmlRTDefs
import H5V.Lemmas.HtmlTBSpecStack
/-!
C07 round trip, tree-builder half: the monad calculus (`Runs`: a computation's answer and
final state, modulo the recorded sink trace), the arena facts for the three sink calls that occur
(`create_element`, `append` of a node, `append` of text), and the representation predicates
`RepT`/`RepF`/`Lower` tying an arena to a forest with a path of open elements.
-/
namespace H5V.Lemmas.HtmlRT
open H5V.Model.HtmlTB
open H5V.Model.Dom (Id SinkOp Output Dom NodeData NodeOrText)
open H5V.Lemmas.HtmlTBSpec

/-! ### `Runs` -/

/-- started in `s` — with any recorded trace — `m` answers `a` and ends in `s'` (with some trace) -/
def Runs {α : Type} (m : M α) (s : State) (a : α) (s' : State) : Prop :=
  ∀ tr, ∃ tr', m.run (withTr s tr) = .ok (a, withTr s' tr')

theorem Runs.of_query {α : Type} {m : M α} {s : State} {a : α} (h : Query m s a) : Runs m s a s := h

theorem runs_pure {α : Type} (s : State) (a : α) : Runs (pure a : M α) s a s := fun tr => ⟨tr, rfl⟩

theorem runs_bind {α β : Type} {m : M α} {f : α → M β} {s s1 s2 : State} {a : α} {b : β}
    (h1 : Runs m s a s1) (h2 : Runs (f a) s1 b s2) : Runs (m >>= f) s b s2 := by
  intro tr
  obtain ⟨tr1, e1⟩ := h1 tr
  obtain ⟨tr2, e2⟩ := h2 tr1
  refine ⟨tr2, ?_⟩
  simp only [StateT.run_bind, e1]
  exact e2

theorem runs_getS_bind {β : Type} {f : State → M β} {s s' : State} {b : β}
    (h : ∀ tr, Runs (f (withTr s tr)) s b s') : Runs (getS >>= f) s b s' := by
  intro tr
  obtain ⟨tr', e⟩ := h tr tr
  exact ⟨tr', e⟩

theorem runs_modS_bind {β : Type} {g : State → State} {f : Unit → M β} {s s' : State} {b : β}
    (hg : ∀ tr, g (withTr s tr) = withTr (g s) tr) (h : Runs (f ()) (g s) b s') :
    Runs (modS g >>= f) s b s' := by
  intro tr
  obtain ⟨tr', e⟩ := h tr
  refine ⟨tr', ?_⟩
  rw [← e, ← hg tr]
  rfl

theorem runs_modS {g : State → State} {s : State}
    (hg : ∀ tr, g (withTr s tr) = withTr (g s) tr) : Runs (modS g) s () (g s) := by
  intro tr
  exact ⟨tr, by rw [← hg tr]; rfl⟩

theorem runs_sink {s : State} {op : SinkOp} {d' : Dom} {out : Output}
    (h : s.dom.apply op = .ok (d', out)) : Runs (sink op) s out { s with dom := d' } := by
  intro tr
  refine ⟨(op, out) :: tr, ?_⟩
  simp [sink, withTr, h, StateT.run]

theorem runs_sinkUnit {s : State} {op : SinkOp} {d' : Dom} {out : Output}
    (h : s.dom.apply op = .ok (d', out)) : Runs (sinkUnit op) s () { s with dom := d' } := by
  unfold sinkUnit
  exact runs_bind (runs_sink h) (runs_pure _ _)

theorem runs_sinkNode {s : State} {op : SinkOp} {d' : Dom} {id : Id}
    (h : s.dom.apply op = .ok (d', .node id)) : Runs (sinkNode op) s id { s with dom := d' } := by
  unfold sinkNode
  exact runs_bind (runs_sink h) (runs_pure _ _)

theorem runs_congr {α : Type} {m : M α} {s s1 s2 : State} {a : α} (h : Runs m s a s1) (e : s1 = s2) :
    Runs m s a s2 := e ▸ h

/-! ### projections of `withTr` -/

@[simp] theorem withTr_opts (s : State) (tr) : (withTr s tr).opts = s.opts := rfl
@[simp] theorem withTr_mode (s : State) (tr) : (withTr s tr).mode = s.mode := rfl
@[simp] theorem withTr_templateModes (s : State) (tr) : (withTr s tr).templateModes = s.templateModes := rfl
@[simp] theorem withTr_openElems (s : State) (tr) : (withTr s tr).openElems = s.openElems := rfl
@[simp] theorem withTr_af (s : State) (tr) : (withTr s tr).activeFormatting = s.activeFormatting := rfl
@[simp] theorem withTr_formElem (s : State) (tr) : (withTr s tr).formElem = s.formElem := rfl
@[simp] theorem withTr_ignoreLf (s : State) (tr) : (withTr s tr).ignoreLf = s.ignoreLf := rfl
@[simp] theorem withTr_foster (s : State) (tr) : (withTr s tr).fosterParenting = s.fosterParenting := rfl
@[simp] theorem withTr_contextElem (s : State) (tr) : (withTr s tr).contextElem = s.contextElem := rfl
@[simp] theorem withTr_currentLine (s : State) (tr) : (withTr s tr).currentLine = s.currentLine := rfl
@[simp] theorem withTr_dom (s : State) (tr) : (withTr s tr).dom = s.dom := rfl
@[simp] theorem withTr_docHandle (s : State) (tr) : (withTr s tr).docHandle = s.docHandle := rfl
@[simp] theorem withTr_framesetOk (s : State) (tr) : (withTr s tr).framesetOk = s.framesetOk := rfl

/-! ### arena facts -/

/-- the data of an HTML element created for a tag with these attributes -/
def elData (n : Str) (as : List (Str × Str)) : NodeData := .element (htmlQual n) (tbAttrs as) none false

theorem dom_get {d : Dom} {i : Nat} {n : H5V.Model.Dom.Node} (h : d.nodes[i]? = some n) : d.get i = .ok n := by
  simp [Dom.get, h]

theorem dom_elemName {d : Dom} {i : Nat} {q : H5V.Model.Dom.QualName} {as tc ip} {p ch}
    (h : d.nodes[i]? = some ⟨.element q as tc ip, p, ch⟩) : d.elemName i = .ok (q.ns, q.loc) := by
  simp [Dom.elemName, dom_get h, bind, Except.bind]

theorem setNode_get? (d : Dom) (i j : Nat) (n : H5V.Model.Dom.Node) :
    (d.setNode i n).nodes[j]? = if i = j ∧ i < d.nodes.size then some n else d.nodes[j]? := by
  simp only [Dom.setNode, Array.getElem?_setIfInBounds]
  by_cases hij : i = j
  · subst hij
    by_cases hlt : i < d.nodes.size
    · simp [hlt]
    · have : d.nodes[i]? = none := Array.getElem?_eq_none (Nat.le_of_not_lt hlt)
      simp [hlt]
  · simp [hij]

theorem lt_of_get? {d : Dom} {i : Nat} {n : H5V.Model.Dom.Node} (h : d.nodes[i]? = some n) : i < d.nodes.size := by
  rcases Nat.lt_or_ge i d.nodes.size with hl | hl
  · exact hl
  · rw [Array.getElem?_eq_none hl] at h; cases h

theorem setNode_size (d : Dom) (i : Nat) (n : H5V.Model.Dom.Node) : (d.setNode i n).nodes.size = d.nodes.size := by
  simp [Dom.setNode]

/-- what `create_element` followed by `append(parent, node)` (or the allocation of a text node
inside `append(parent, text)`) does to the arena: the new node `n = size` with parent `top`, `top`
gets `n` as last child, nothing else changes -/
structure Pushed (d d' : Dom) (top : Nat) (ptop : H5V.Model.Dom.Node) (data : NodeData) : Prop where
  size : d'.nodes.size = d.nodes.size + 1
  atTop : d'.nodes[top]? = some { ptop with children := ptop.children ++ [d.nodes.size] }
  atNew : d'.nodes[d.nodes.size]? = some ⟨data, some top, []⟩
  frame : ∀ i, i ≠ top → i ≠ d.nodes.size → d'.nodes[i]? = d.nodes[i]?
  errs : d'.errorsRev = d.errorsRev

theorem alloc_get? (d : Dom) (data : NodeData) (i : Nat) :
    (d.alloc data).1.nodes[i]? = if i = d.nodes.size then some { data := data } else d.nodes[i]? := by
  simp only [Dom.alloc, Array.getElem?_push]

theorem alloc_size (d : Dom) (data : NodeData) : (d.alloc data).1.nodes.size = d.nodes.size + 1 := by
  simp [Dom.alloc]

theorem alloc_appendRaw (d : Dom) (top : Nat) (ptop : H5V.Model.Dom.Node) (data : NodeData)
    (htop : d.nodes[top]? = some ptop) :
    ∃ d', (d.alloc data).1.appendRaw top d.nodes.size = .ok d' ∧ Pushed d d' top ptop data := by
  have hlt : top < d.nodes.size := lt_of_get? htop
  have hne : top ≠ d.nodes.size := by omega
  generalize hd1 : (d.alloc data).1 = d1
  have g1 : d1.nodes[d.nodes.size]? = some { data := data } := by rw [← hd1, alloc_get?]; simp
  have s1 : d1.nodes.size = d.nodes.size + 1 := by rw [← hd1, alloc_size]
  have f1 : ∀ i, i ≠ d.nodes.size → d1.nodes[i]? = d.nodes[i]? := by
    intro i hi; rw [← hd1, alloc_get?]; simp [hi]
  generalize hd2 : d1.setNode d.nodes.size ⟨data, some top, []⟩ = d2
  have g2 : d2.nodes[top]? = some ptop := by
    rw [← hd2, setNode_get?, if_neg (fun h => hne h.1.symm), f1 top hne, htop]
  have s2 : d2.nodes.size = d.nodes.size + 1 := by rw [← hd2, setNode_size, s1]
  have g2n : d2.nodes[d.nodes.size]? = some ⟨data, some top, []⟩ := by
    rw [← hd2, setNode_get?, if_pos ⟨rfl, by omega⟩]
  have f2 : ∀ i, i ≠ d.nodes.size → d2.nodes[i]? = d.nodes[i]? := by
    intro i hi; rw [← hd2, setNode_get?, if_neg (fun h => hi h.1.symm), f1 i hi]
  have q1 : d1.errorsRev = d.errorsRev := by rw [← hd1]; rfl
  have q2 : d2.errorsRev = d.errorsRev := by rw [← hd2]; exact q1
  refine ⟨d2.setNode top { ptop with children := ptop.children ++ [d.nodes.size] }, ?_, ?_, ?_, ?_, ?_, q2⟩
  · have e1 : d1.get d.nodes.size = .ok { data := data } := dom_get g1
    have e2 : d2.get top = .ok ptop := dom_get g2
    simp only [Dom.appendRaw, e1, bind, Except.bind, Option.isSome_none, Bool.false_eq_true, if_false]
    rw [hd2, e2]
  · rw [setNode_size, s2]
  · rw [setNode_get?, if_pos ⟨rfl, by omega⟩]
  · rw [setNode_get?, if_neg (fun h => hne h.1), g2n]
  · intro i h1 h2
    rw [setNode_get?, if_neg (fun h => h1 h.1.symm), f2 i h2]

def plainFlags : H5V.Model.Dom.ElementFlags := { template := false, mathmlIP := false, hadDuplicateAttributes := false }

/-- `create_element` for an HTML element that is neither a template nor an integration point,
then `append(top, node)` -/
theorem dom_create_append (d : Dom) (top : Nat) (ptop : H5V.Model.Dom.Node) (n : Str) (as : List (Str × Str))
    (htop : d.nodes[top]? = some ptop) :
    ∃ d1 d', d.apply (.createElement (htmlQual n) (tbAttrs as) plainFlags) = .ok (d1, .node d.nodes.size) ∧
      d1.apply (.append top (.node d.nodes.size)) = .ok (d', .unit) ∧
      Pushed d d' top ptop (elData n as) := by
  obtain ⟨d', h, hp⟩ := alloc_appendRaw d top ptop (elData n as) htop
  refine ⟨(d.alloc (elData n as)).1, d', rfl, ?_, hp⟩
  simp only [Dom.apply, Dom.applyV, Dom.append, h, bind, Except.bind]

/-- `append(top, text)` when `top` has no children or its last child is an element: a text node is
allocated -/
theorem dom_append_text_new (d : Dom) (top : Nat) (ptop : H5V.Model.Dom.Node) (s : Str)
    (htop : d.nodes[top]? = some ptop)
    (hlast : ptop.children.getLast? = none ∨
      ∃ h q as tc ip p ch, ptop.children.getLast? = some h ∧ d.nodes[h]? = some ⟨.element q as tc ip, p, ch⟩) :
    ∃ d', d.apply (.append top (.text s)) = .ok (d', .unit) ∧ Pushed d d' top ptop (.text s) := by
  obtain ⟨d', h, hp⟩ := alloc_appendRaw d top ptop (.text s) htop
  refine ⟨d', ?_, hp⟩
  have ha : d.alloc (.text s) = ((d.alloc (.text s)).1, d.nodes.size) := rfl
  rcases hlast with hl | ⟨x, q, as, tc, ip, p, ch, hl, hx⟩
  · simp only [Dom.apply, Dom.applyV, Dom.append, dom_get htop, hl, bind, Except.bind]
    rw [ha]; simp only [h]
  · simp only [Dom.apply, Dom.applyV, Dom.append, dom_get htop, hl, dom_get hx, bind, Except.bind]
    rw [ha]; simp only [h]

/-- `append(top, text)` when the last child of `top` is a text node: the text is extended -/
theorem dom_append_text_merge (d : Dom) (top : Nat) (ptop : H5V.Model.Dom.Node) (s old : Str) (h : Nat)
    (p : Option Nat) (ch : List Nat)
    (htop : d.nodes[top]? = some ptop) (hl : ptop.children.getLast? = some h)
    (hh : d.nodes[h]? = some ⟨.text old, p, ch⟩) :
    ∃ d', d.apply (.append top (.text s)) = .ok (d', .unit) ∧
      d'.nodes.size = d.nodes.size ∧ d'.nodes[h]? = some ⟨.text (old ++ s), p, ch⟩ ∧
      (∀ i, i ≠ h → d'.nodes[i]? = d.nodes[i]?) ∧ d'.errorsRev = d.errorsRev := by
  have hlt : h < d.nodes.size := lt_of_get? hh
  refine ⟨d.setNode h ⟨.text (old ++ s), p, ch⟩, ?_, setNode_size .., ?_, ?_, rfl⟩
  · simp only [Dom.apply, Dom.applyV, Dom.append, dom_get htop, hl, dom_get hh, bind, Except.bind]
  · rw [setNode_get?]; simp [hlt]
  · intro i hi
    rw [setNode_get?]
    simp [show ¬ (h = i) from fun e => hi e.symm]

/-! ### representation of a forest in the arena -/

/-- ids of the roots of a forest laid out in pre-order from `start` -/
def childIds : Nat → Forest → List Nat
  | _, [] => []
  | start, t :: ts => start :: childIds (start + t.size) ts

mutual
/-- node `id` (child of `p`) is the root of a pre-order layout of the tree -/
def RepT (d : Dom) (p : Nat) : Nat → HNode → Prop
  | id, .text s => d.nodes[id]? = some ⟨.text s, some p, []⟩
  | id, .elem n as ch =>
    d.nodes[id]? = some ⟨elData n as, some p, childIds (id + 1) ch⟩ ∧ RepF d id (id + 1) ch
def RepF (d : Dom) (p : Nat) : Nat → Forest → Prop
  | _, [] => True
  | start, t :: ts => RepT d p start t ∧ RepF d p (start + t.size) ts
end

mutual
theorem repT_frame (d d' : Dom) (p : Nat) : ∀ (t : HNode) (id : Nat),
    (∀ i, id ≤ i → i < id + t.size → d'.nodes[i]? = d.nodes[i]?) → RepT d p id t → RepT d' p id t
  | .text s, id, hf, h => by
    simp only [RepT] at h ⊢
    rw [hf id (Nat.le_refl _) (by simp [HNode.size])]; exact h
  | .elem n as ch, id, hf, h => by
    simp only [RepT] at h ⊢
    refine ⟨by rw [hf id (Nat.le_refl _) (by simp [HNode.size]; omega)]; exact h.1, ?_⟩
    exact repF_frame d d' id ch (id + 1) (fun i h1 h2 => hf i (by omega) (by simp [HNode.size]; omega)) h.2
theorem repF_frame (d d' : Dom) (p : Nat) : ∀ (f : Forest) (start : Nat),
    (∀ i, start ≤ i → i < start + sizeF f → d'.nodes[i]? = d.nodes[i]?) → RepF d p start f → RepF d' p start f
  | [], _, _, _ => by simp [RepF]
  | t :: ts, start, hf, h => by
    simp only [RepF] at h ⊢
    refine ⟨repT_frame d d' p t start (fun i h1 h2 => hf i h1 (by simp [sizeF]; omega)) h.1, ?_⟩
    exact repF_frame d d' p ts (start + t.size) (fun i h1 h2 => hf i (by omega) (by simp [sizeF]; omega)) h.2
end

theorem HNode.size_pos (t : HNode) : 0 < t.size := by cases t <;> simp [HNode.size] <;> omega

theorem sizeF_append (a b : Forest) : sizeF (a ++ b) = sizeF a + sizeF b := by
  induction a with
  | nil => simp [sizeF]
  | cons t ts ih => simp [sizeF, ih]; omega

theorem childIds_append (start : Nat) (a b : Forest) :
    childIds start (a ++ b) = childIds start a ++ childIds (start + sizeF a) b := by
  induction a generalizing start with
  | nil => simp [childIds, sizeF]
  | cons t ts ih => simp [childIds, sizeF, ih, Nat.add_assoc]

theorem repF_append (d : Dom) (p start : Nat) (a b : Forest) :
    RepF d p start (a ++ b) ↔ RepF d p start a ∧ RepF d p (start + sizeF a) b := by
  induction a generalizing start with
  | nil => simp [RepF, sizeF]
  | cons t ts ih => simp [RepF, sizeF, ih, Nat.add_assoc, and_assoc]

/-- a frame of the open path: element name, attributes, children closed so far -/
structure Frame where
  name : Str
  attrs : List (Str × Str)
  cs : Forest

/-- the open elements below the current node: each has its closed children followed by the next open
element; `tp`, `tid` = parent and id of the element that follows the last of them -/
def Lower (d : Dom) : Nat → Nat → List Frame → Nat → Nat → Prop
  | p, id, [], tp, tid => p = tp ∧ id = tid
  | p, id, f :: rest, tp, tid =>
    d.nodes[id]? = some ⟨elData f.name f.attrs, some p, childIds (id + 1) f.cs ++ [id + 1 + sizeF f.cs]⟩ ∧
    RepF d id (id + 1) f.cs ∧ Lower d id (id + 1 + sizeF f.cs) rest tp tid

def openIds : Nat → List Frame → List Nat
  | _, [] => []
  | id, f :: rest => id :: openIds (id + 1 + sizeF f.cs) rest

theorem lower_le (d : Dom) (p id : Nat) (l : List Frame) (tp tid : Nat) (h : Lower d p id l tp tid) :
    id ≤ tid := by
  induction l generalizing p id with
  | nil => simp [Lower] at h; omega
  | cons f rest ih => simp only [Lower] at h; have := ih _ _ h.2.2; omega

theorem lower_frame (d d' : Dom) (p id : Nat) (l : List Frame) (tp tid : Nat)
    (hf : ∀ i, id ≤ i → i < tid → d'.nodes[i]? = d.nodes[i]?) (h : Lower d p id l tp tid) :
    Lower d' p id l tp tid := by
  induction l generalizing p id with
  | nil => exact h
  | cons f rest ih =>
    simp only [Lower] at h ⊢
    have hle := lower_le d _ _ rest tp tid h.2.2
    refine ⟨by rw [hf id (Nat.le_refl _) (by omega)]; exact h.1, ?_, ?_⟩
    · exact repF_frame d d' id f.cs (id + 1) (fun i h1 h2 => hf i (by omega) (by omega)) h.2.1
    · exact ih _ _ (fun i h1 h2 => hf i (by omega) h2) h.2.2

theorem lower_snoc (d : Dom) (p id : Nat) (l : List Frame) (tp tid : Nat) (f : Frame)
    (h : Lower d p id l tp tid)
    (hn : d.nodes[tid]? = some ⟨elData f.name f.attrs, some tp, childIds (tid + 1) f.cs ++ [tid + 1 + sizeF f.cs]⟩)
    (hr : RepF d tid (tid + 1) f.cs) :
    Lower d p id (l ++ [f]) tid (tid + 1 + sizeF f.cs) := by
  induction l generalizing p id with
  | nil =>
    simp only [Lower] at h
    obtain ⟨rfl, rfl⟩ := h
    refine ⟨hn, hr, ?_⟩
    simp [Lower]
  | cons g rest ih =>
    simp only [Lower, List.cons_append] at h ⊢
    exact ⟨h.1, h.2.1, ih _ _ h.2.2⟩

theorem lower_snoc_inv (d : Dom) (p id : Nat) (l : List Frame) (tp tid : Nat) (f : Frame)
    (h : Lower d p id (l ++ [f]) tp tid) :
    ∃ tp0 tid0, Lower d p id l tp0 tid0 ∧ tp = tid0 ∧ tid = tid0 + 1 + sizeF f.cs ∧
      d.nodes[tid0]? = some ⟨elData f.name f.attrs, some tp0, childIds (tid0 + 1) f.cs ++ [tid0 + 1 + sizeF f.cs]⟩ ∧
      RepF d tid0 (tid0 + 1) f.cs := by
  induction l generalizing p id with
  | nil =>
    simp only [List.nil_append, Lower] at h
    obtain ⟨h1, h2, h3, h4⟩ := h
    exact ⟨p, id, ⟨rfl, rfl⟩, h3.symm, h4.symm, h1, h2⟩
  | cons g rest ih =>
    simp only [Lower, List.cons_append] at h
    obtain ⟨tp0, tid0, h0, e1, e2, e3, e4⟩ := ih _ _ h.2.2
    exact ⟨tp0, tid0, by simp only [Lower]; exact ⟨h.1, h.2.1, h0⟩, e1, e2, e3, e4⟩

theorem openIds_snoc (id : Nat) (l : List Frame) (f : Frame) (d : Dom) (p tp tid : Nat)
    (h : Lower d p id l tp tid) : openIds id (l ++ [f]) = openIds id l ++ [tid] := by
  induction l generalizing p id with
  | nil => simp only [Lower] at h; simp [openIds, h.2]
  | cons g rest ih =>
    simp only [Lower] at h
    simp [openIds, ih _ _ h.2.2]

end H5V.Lemmas.HtmlRT
