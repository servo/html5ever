import H5V.Lemmas.DomWF
/-!
Effect lemmas: what each operation of `H5V.Model.Dom` (the model of rcdom's TreeSink impl) does to
the observations `parentOf` / `childrenOf` / `dataOf` / `size`, and preservation of `WF`; at the
end `applyV_ind`, the case analysis of a whole sink call through which the invariants of the arena
are carried over calls.
-/
namespace H5V.Lemmas.Dom
open H5V.Model.Dom

/-- the observations of two arenas that an operation does not touch -/
structure SameShape (d d' : Dom) : Prop where
  parent : ∀ x, d'.parentOf x = d.parentOf x
  children : ∀ x, d'.childrenOf x = d.childrenOf x

theorem anc_mono {d d' : Dom} (hp : ∀ x q, d'.parentOf x = some q → d.parentOf x = some q) {a x : Id} :
    Anc d' a x → Anc d a x := by
  intro h
  induction h with
  | refl => exact Anc.refl
  | step hpar _ ih => exact Anc.step (hp _ _ hpar) ih

theorem anc_eq_of_no_children {d : Dom} (hw : WF d) {a x : Id} (ha : d.childrenOf a = [])
    (h : Anc d a x) : a = x := by
  induction h with
  | refl => rfl
  | @step x p hpar _ ih =>
    subst ih
    have := (hw.links x a).mp hpar
    rw [ha] at this; cases this

/-! ### `fn append` -/

theorem appendRaw_ok {d d' : Dom} {p c : Id} (h : d.appendRaw p c = .ok d') (hne : p ≠ c) :
    ∃ cn pn, d.node? c = some cn ∧ cn.parent = none ∧ d.node? p = some pn ∧
      (∀ x, d'.parentOf x = if x = c then some p else d.parentOf x) ∧
      (∀ x, d'.childrenOf x = if x = p then d.childrenOf p ++ [c] else d.childrenOf x) ∧
      (∀ x, d'.dataOf x = d.dataOf x) ∧ d'.size = d.size ∧ d'.quirks = d.quirks := by
  unfold Dom.appendRaw at h
  simp only [bind, Except.bind] at h
  cases hc : d.get c with
  | error e => simp [hc] at h
  | ok cn =>
    have hcn := get_ok.mp hc
    simp only [hc] at h
    by_cases hpar : cn.parent.isSome = true
    · simp [hpar, throw, throwThe, MonadExceptOf.throw] at h
    · simp only [hpar] at h
      have hnone : cn.parent = none := by
        cases hq : cn.parent with
        | none => rfl
        | some q => simp [hq] at hpar
      cases hp : (d.setNode c { data := cn.data, parent := some p, children := cn.children }).get p with
      | error e => simp [hp] at h
      | ok pn =>
        simp [hp] at h
        have hpn := get_ok.mp hp
        have hpn0 : d.node? p = some pn := by
          rw [node?_setNode_of hcn] at hpn; simpa [hne] using hpn
        refine ⟨cn, pn, hcn, hnone, hpn0, ?_, ?_, ?_, ?_, ?_⟩
        · intro x; subst h
          rw [parentOf_setNode hpn, parentOf_setNode hcn]
          by_cases hxp : x = p
          · subst hxp; simp [hne, parentOf_of_node hpn0]
          · simp [hxp]
        · intro x; subst h
          rw [childrenOf_setNode hpn, childrenOf_setNode hcn]
          by_cases hxp : x = p
          · subst hxp; simp [childrenOf_of_node hpn0]
          · simp [hxp]
            intro hxc; subst hxc; simp [childrenOf_of_node hcn]
        · intro x; subst h
          rw [dataOf_setNode hpn, dataOf_setNode hcn]
          by_cases hxp : x = p
          · subst hxp; simp [dataOf_of_node hpn0]
          · simp [hxp]
            intro hxc; subst hxc; simp [dataOf_of_node hcn]
        · subst h; simp
        · subst h; simp

theorem WF.appendRaw {d d' : Dom} (hw : WF d) {p c : Id} (hanc : ¬ Anc d c p)
    (h : d.appendRaw p c = .ok d') : WF d' := by
  have hne : p ≠ c := fun e => hanc (e ▸ Anc.refl)
  obtain ⟨cn, pn, hcn, hnone, _, hp, hch, _, _, _⟩ := appendRaw_ok h hne
  have hc0 : d.parentOf c = none := by rw [parentOf_of_node hcn, hnone]
  have hnotin : c ∉ d.childrenOf p := fun hm => by
    have := (hw.links c p).mpr hm; rw [hc0] at this; cases this
  refine hw.attach hc0 hanc (l' := d.childrenOf p ++ [c]) ?_ ?_ hp hch
  · intro y; simp [or_comm]
  · refine List.nodup_append.mpr ⟨hw.nodup p, by simp, ?_⟩
    intro a ha b hb e
    simp at hb; subst hb; subst e; exact hnotin ha

/-! ### `fn get_parent_and_index`, `fn remove_from_parent` -/

theorem getParentAndIndex_ok {d : Dom} {t : Id} {r : Option (Id × Nat)} (h : d.getParentAndIndex t = .ok r) :
    (r = none ∧ d.parentOf t = none ∧ t < d.size) ∨
    (∃ p i, r = some (p, i) ∧ d.parentOf t = some p ∧ indexOf? t (d.childrenOf p) = some i ∧ p < d.size) := by
  unfold Dom.getParentAndIndex at h
  simp only [bind, Except.bind] at h
  cases ht : d.get t with
  | error e => simp [ht] at h
  | ok tn =>
    have htn := get_ok.mp ht
    simp only [ht] at h
    cases hpar : tn.parent with
    | none =>
      simp [hpar] at h
      exact Or.inl ⟨h.symm, by rw [parentOf_of_node htn, hpar], node?_lt htn⟩
    | some p =>
      simp only [hpar] at h
      cases hp : d.get p with
      | error e => simp [hp] at h
      | ok pn =>
        have hpn := get_ok.mp hp
        simp only [hp] at h
        cases hi : indexOf? t pn.children with
        | none => simp [hi, throw, throwThe, MonadExceptOf.throw] at h
        | some i =>
          simp [hi] at h
          refine Or.inr ⟨p, i, h.symm, by rw [parentOf_of_node htn, hpar], ?_, node?_lt hpn⟩
          rw [childrenOf_of_node hpn]; exact hi

theorem removeFromParent_ok {d d' : Dom} {t : Id} (h : d.removeFromParent t = .ok d') :
    (d.parentOf t = none ∧ d' = d) ∨
    (∃ p i, d.parentOf t = some p ∧ indexOf? t (d.childrenOf p) = some i ∧
      (∀ x, d'.parentOf x = if x = t then none else d.parentOf x) ∧
      (∀ x, d'.childrenOf x = if x = p then removeAt (d.childrenOf p) i else d.childrenOf x) ∧
      (∀ x, d'.dataOf x = d.dataOf x) ∧ d'.size = d.size ∧ d'.quirks = d.quirks) := by
  unfold Dom.removeFromParent at h
  simp only [bind, Except.bind] at h
  cases hg : d.getParentAndIndex t with
  | error e => simp [hg] at h
  | ok r =>
    simp only [hg] at h
    rcases getParentAndIndex_ok hg with ⟨hr, hpar, _⟩ | ⟨p, i, hr, hpar, hi, hplt⟩
    · subst hr; simp at h; exact Or.inl ⟨hpar, h.symm⟩
    · subst hr
      simp only at h
      obtain ⟨pn, hpn⟩ := node?_of_lt hplt
      rw [get_ok_of hpn] at h
      simp only at h
      have htlt : t < d.size := child_lt_size hpar
      obtain ⟨tn0, htn0⟩ := node?_of_lt htlt
      cases ht : (d.setNode p { data := pn.data, parent := pn.parent, children := removeAt pn.children i }).get t with
      | error e => simp [ht] at h
      | ok tn =>
        have htn := get_ok.mp ht
        simp [ht] at h
        refine Or.inr ⟨p, i, hpar, hi, ?_, ?_, ?_, ?_, ?_⟩
        · intro x; subst h
          rw [parentOf_setNode htn, parentOf_setNode hpn]
          by_cases hxt : x = t
          · simp [hxt]
          · simp [hxt]; intro hxp; subst hxp; simp [parentOf_of_node hpn]
        · intro x; subst h
          rw [childrenOf_setNode htn, childrenOf_setNode hpn]
          by_cases hxt : x = t
          · subst hxt
            simp only [if_true]
            rw [node?_setNode_of hpn] at htn
            by_cases hxp : x = p
            · subst hxp; simp at htn; subst htn; simp [childrenOf_of_node hpn]
            · simp [hxp] at htn; simp [hxp, childrenOf_of_node htn]
          · simp [hxt, childrenOf_of_node hpn]
        · intro x; subst h
          rw [dataOf_setNode htn, dataOf_setNode hpn]
          by_cases hxt : x = t
          · subst hxt
            simp only [if_true]
            rw [node?_setNode_of hpn] at htn
            by_cases hxp : x = p
            · subst hxp; simp at htn; subst htn; simp [dataOf_of_node hpn]
            · simp [hxp] at htn; simp [dataOf_of_node htn]
          · simp [hxt]; intro hxp; subst hxp; simp [dataOf_of_node hpn]
        · subst h; simp
        · subst h; simp

theorem WF.removeFromParent {d d' : Dom} (hw : WF d) {t : Id} (h : d.removeFromParent t = .ok d') : WF d' := by
  rcases removeFromParent_ok h with ⟨_, he⟩ | ⟨p, i, hpar, hi, hp, hch, _, _, _⟩
  · subst he; exact hw
  · obtain ⟨hsplit, _, _⟩ := indexOf?_some hi
    exact hw.detach (c := t) (p := p) (l' := removeAt (d.childrenOf p) i)
      (fun y => mem_removeAt_of_split hsplit) (not_mem_removeAt (hw.nodup p) hsplit)
      (nodup_removeAt (hw.nodup p) i) hp hch

/-! ### the tail of `append_before_sibling` -/

theorem insertAtIndex_ok {d d' : Dom} {P c : Id} {i : Nat} (h : d.insertAtIndex P i c = .ok d') :
    ∃ d1, d.removeFromParent c = .ok d1 ∧ i ≤ (d1.childrenOf P).length ∧ c < d1.size ∧ P < d1.size ∧
      (∀ x, d'.parentOf x = if x = c then some P else d1.parentOf x) ∧
      (∀ x, d'.childrenOf x = if x = P then insertAt (d1.childrenOf P) i c else d1.childrenOf x) ∧
      (∀ x, d'.dataOf x = d1.dataOf x) ∧ d'.size = d1.size ∧ d'.quirks = d1.quirks := by
  unfold Dom.insertAtIndex at h
  simp only [bind, Except.bind] at h
  cases hr : d.removeFromParent c with
  | error e => simp [hr] at h
  | ok d1 =>
    simp only [hr] at h
    cases hc : d1.get c with
    | error e => simp [hc] at h
    | ok cn =>
      have hcn := get_ok.mp hc
      simp only [hc] at h
      cases hp : (d1.setNode c { data := cn.data, parent := some P, children := cn.children }).get P with
      | error e => simp [hp] at h
      | ok pn =>
        have hpn := get_ok.mp hp
        simp only [hp] at h
        have hpn' := hpn
        rw [node?_setNode_of hcn] at hpn'
        by_cases hlen : i > pn.children.length
        · simp [hlen, throw, throwThe, MonadExceptOf.throw] at h
        · simp [hlen] at h
          have hPch : d1.childrenOf P = pn.children := by
            by_cases hPc : P = c
            · subst hPc; simp at hpn'; subst hpn'; simp [childrenOf_of_node hcn]
            · simp [hPc] at hpn'; simp [childrenOf_of_node hpn']
          have hPlt : P < d1.size := by
            have := node?_lt hpn; simpa using this
          refine ⟨d1, rfl, by rw [hPch]; omega, node?_lt hcn, hPlt, ?_, ?_, ?_, ?_, ?_⟩
          · intro x; subst h
            rw [parentOf_setNode hpn, parentOf_setNode hcn]
            by_cases hxP : x = P
            · subst hxP
              simp only [if_true]
              by_cases hxc : x = c
              · subst hxc; simp at hpn'; subst hpn'; simp
              · simp [hxc] at hpn'; simp [hxc, parentOf_of_node hpn']
            · simp [hxP]
          · intro x; subst h
            rw [childrenOf_setNode hpn, childrenOf_setNode hcn, hPch]
            by_cases hxP : x = P
            · simp [hxP]
            · simp [hxP]; intro hxc; subst hxc; simp [childrenOf_of_node hcn]
          · intro x; subst h
            rw [dataOf_setNode hpn, dataOf_setNode hcn]
            by_cases hxP : x = P
            · subst hxP
              simp only [if_true]
              by_cases hxc : x = c
              · subst hxc; simp at hpn'; subst hpn'; simp [dataOf_of_node hcn]
              · simp [hxc] at hpn'; simp [dataOf_of_node hpn']
            · simp [hxP]; intro hxc; subst hxc; simp [dataOf_of_node hcn]
          · subst h; simp
          · subst h; simp

theorem removeFromParent_parent_none {d d' : Dom} {t : Id} (h : d.removeFromParent t = .ok d') :
    d'.parentOf t = none := by
  rcases removeFromParent_ok h with ⟨h0, he⟩ | ⟨p, i, _, _, hp, _⟩
  · subst he; exact h0
  · rw [hp]; simp

theorem removeFromParent_parent_sub {d d' : Dom} {t : Id} (h : d.removeFromParent t = .ok d') :
    ∀ x q, d'.parentOf x = some q → d.parentOf x = some q := by
  rcases removeFromParent_ok h with ⟨h0, he⟩ | ⟨p, i, _, _, hp, _⟩
  · subst he; exact fun _ _ h => h
  · intro x q hx; rw [hp] at hx
    by_cases hxt : x = t
    · simp [hxt] at hx
    · simpa [hxt] using hx

theorem removeFromParent_size {d d' : Dom} {t : Id} (h : d.removeFromParent t = .ok d') : d'.size = d.size := by
  rcases removeFromParent_ok h with ⟨h0, he⟩ | ⟨p, i, _, _, _, _, _, hs, _⟩
  · subst he; rfl
  · exact hs

theorem WF.insertAtIndex {d d' : Dom} (hw : WF d) {P c : Id} {i : Nat} (hanc : ¬ Anc d c P)
    (h : d.insertAtIndex P i c = .ok d') : WF d' := by
  obtain ⟨d1, hr, _, _, _, hp, hch, _, _, _⟩ := insertAtIndex_ok h
  have hw1 := hw.removeFromParent hr
  have hc0 := removeFromParent_parent_none hr
  have hanc1 : ¬ Anc d1 c P := fun ha => hanc (anc_mono (removeFromParent_parent_sub hr) ha)
  have hnotin : c ∉ d1.childrenOf P := fun hm => by
    have := (hw1.links c P).mpr hm; rw [hc0] at this; cases this
  exact hw1.attach hc0 hanc1 (l' := insertAt (d1.childrenOf P) i c) (fun y => mem_insertAt)
    (nodup_insertAt (hw1.nodup P) hnotin) hp hch

/-! ### allocation followed by attachment -/

theorem WF.alloc {d : Dom} (hw : WF d) (data : NodeData) : WF (d.alloc data).1 :=
  hw.congr (parentOf_alloc d data) (childrenOf_alloc d data)

theorem not_anc_fresh {d : Dom} (hw : WF d) (data : NodeData) {p : Id} (hp : p < d.size) :
    ¬ Anc (d.alloc data).1 d.size p := by
  intro ha
  have := anc_eq_of_no_children (hw.alloc data) (by rw [childrenOf_alloc]; exact childrenOf_nil_of_ge (Nat.le_refl _)) ha
  exact Nat.lt_irrefl _ (this ▸ hp)

theorem allocAppend_ok {d d' : Dom} {data : NodeData} {p : Id} (hp : p < d.size)
    (h : (d.alloc data).1.appendRaw p d.size = .ok d') :
    (∀ x, d'.parentOf x = if x = d.size then some p else d.parentOf x) ∧
    (∀ x, d'.childrenOf x = if x = p then d.childrenOf p ++ [d.size] else d.childrenOf x) ∧
    (∀ x, d'.dataOf x = if x = d.size then some data else d.dataOf x) ∧ d'.size = d.size + 1 ∧
    d'.quirks = d.quirks := by
  obtain ⟨_, _, _, _, _, h1, h2, h3, h4, h5⟩ := appendRaw_ok h (Nat.ne_of_lt hp)
  refine ⟨?_, ?_, ?_, ?_, ?_⟩
  · intro x; rw [h1, parentOf_alloc]
  · intro x; rw [h2, childrenOf_alloc, childrenOf_alloc]
  · intro x; rw [h3, dataOf_alloc]
  · rw [h4]; simp
  · rw [h5]; rfl

theorem WF.allocAppend {d d' : Dom} (hw : WF d) {data : NodeData} {p : Id} (hp : p < d.size)
    (h : (d.alloc data).1.appendRaw p d.size = .ok d') : WF d' :=
  (hw.alloc data).appendRaw (not_anc_fresh hw data hp) h

/-! ### `append` -/

theorem append_node_eq (d : Dom) (p c : Id) : d.append p (.node c) = d.appendRaw p c := by
  simp [Dom.append]

theorem append_text_ok {d d' : Dom} {p : Id} {s : Str} (h : d.append p (.text s) = .ok d') :
    p < d.size ∧
    ((∃ hl old, (d.childrenOf p).getLast? = some hl ∧ d.dataOf hl = some (.text old) ∧
        SameShape d d' ∧ (∀ x, d'.dataOf x = if x = hl then some (.text (old ++ s)) else d.dataOf x) ∧
        d'.size = d.size) ∨
     ((∀ hl, (d.childrenOf p).getLast? = some hl → d.isText hl = false) ∧
        (d.alloc (.text s)).1.appendRaw p d.size = .ok d')) := by
  unfold Dom.append at h
  simp only [bind, Except.bind] at h
  cases hp : d.get p with
  | error e => simp [hp] at h
  | ok pn =>
    have hpn := get_ok.mp hp
    refine ⟨node?_lt hpn, ?_⟩
    simp only [hp] at h
    rw [childrenOf_of_node hpn]
    cases hlast : pn.children.getLast? with
    | none =>
      simp only [hlast] at h
      exact Or.inr ⟨(by intro hl hh; cases hh), h⟩
    | some hl =>
      simp only [hlast] at h
      cases hg : d.get hl with
      | error e => simp [hg] at h
      | ok hn =>
        have hhn := get_ok.mp hg
        simp only [hg] at h
        cases hdata : hn.data with
        | text old =>
          simp [hdata] at h
          refine Or.inl ⟨hl, old, rfl, by rw [dataOf_of_node hhn, hdata], ⟨?_, ?_⟩, ?_, ?_⟩
          · intro x; subst h; rw [parentOf_setNode hhn]
            by_cases hx : x = hl
            · subst hx; simp [parentOf_of_node hhn]
            · simp [hx]
          · intro x; subst h; rw [childrenOf_setNode hhn]
            by_cases hx : x = hl
            · subst hx; simp [childrenOf_of_node hhn]
            · simp [hx]
          · intro x; subst h; rw [dataOf_setNode hhn]
          · subst h; simp
        | document | doctype _ _ _ | comment _ | element _ _ _ _ | pi _ _ =>
          simp only [hdata] at h
          refine Or.inr ⟨?_, h⟩
          intro hl' hh; cases hh
          simp [Dom.isText, dataOf_of_node hhn, hdata]

theorem WF.append_text {d d' : Dom} (hw : WF d) {p : Id} {s : Str} (h : d.append p (.text s) = .ok d') :
    WF d' := by
  obtain ⟨hp, h1 | h2⟩ := append_text_ok h
  · obtain ⟨_, _, _, _, hs, _, _⟩ := h1
    exact hw.congr hs.parent hs.children
  · exact hw.allocAppend hp h2.2

/-! ### `append_before_sibling` -/

/-- what `append_before_sibling(sibling, text)` does once the parent `P` and index `i` are known -/
def BeforeSiblingText (d d' : Dom) (P : Id) (i : Nat) (s : Str) : Prop :=
  (∃ prev old, 0 < i ∧ (d.childrenOf P)[i - 1]? = some prev ∧ d.dataOf prev = some (.text old) ∧
      SameShape d d' ∧ (∀ x, d'.dataOf x = if x = prev then some (.text (old ++ s)) else d.dataOf x) ∧
      d'.size = d.size) ∨
  ((i = 0 ∨ ∃ prev, (d.childrenOf P)[i - 1]? = some prev ∧ d.isText prev = false) ∧
      (d.alloc (.text s)).1.insertAtIndex P i d.size = .ok d')

theorem appendBeforeSibling_ok {d d' : Dom} {sib : Id} {child : NodeOrText}
    (h : d.appendBeforeSibling sib child = .ok d') :
    ∃ P i, d.parentOf sib = some P ∧ indexOf? sib (d.childrenOf P) = some i ∧ P < d.size ∧
      match child with
      | .node c => d.insertAtIndex P i c = .ok d'
      | .text s => BeforeSiblingText d d' P i s := by
  unfold Dom.appendBeforeSibling at h
  simp only [bind, Except.bind] at h
  cases hg : d.getParentAndIndex sib with
  | error e => simp [hg] at h
  | ok r =>
    simp only [hg] at h
    rcases getParentAndIndex_ok hg with ⟨hr, _, _⟩ | ⟨P, i, hr, hpar, hi, hPlt⟩
    · subst hr; simp [throw, throwThe, MonadExceptOf.throw] at h
    · subst hr
      simp only at h
      refine ⟨P, i, hpar, hi, hPlt, ?_⟩
      cases child with
      | node c => simpa using h
      | text s =>
        simp only at h
        unfold BeforeSiblingText
        by_cases hi0 : i = 0
        · simp only [hi0, if_true] at h
          exact Or.inr ⟨Or.inl hi0, by rw [hi0]; exact h⟩
        · simp only [hi0, if_false] at h
          obtain ⟨pn, hpn⟩ := node?_of_lt hPlt
          rw [get_ok_of hpn] at h
          simp only at h
          rw [childrenOf_of_node hpn]
          cases hprev : pn.children[i - 1]? with
          | none => simp [hprev, throw, throwThe, MonadExceptOf.throw] at h
          | some prev =>
            simp only [hprev] at h
            cases hg2 : d.get prev with
            | error e => simp [hg2] at h
            | ok prevn =>
              have hprevn := get_ok.mp hg2
              simp only [hg2] at h
              cases hdata : prevn.data with
              | text old =>
                simp [hdata] at h
                refine Or.inl ⟨prev, old, Nat.pos_of_ne_zero hi0, rfl, by rw [dataOf_of_node hprevn, hdata],
                  ⟨?_, ?_⟩, ?_, ?_⟩
                · intro x; subst h; rw [parentOf_setNode hprevn]
                  by_cases hx : x = prev
                  · subst hx; simp [parentOf_of_node hprevn]
                  · simp [hx]
                · intro x; subst h; rw [childrenOf_setNode hprevn]
                  by_cases hx : x = prev
                  · subst hx; simp [childrenOf_of_node hprevn]
                  · simp [hx]
                · intro x; subst h; rw [dataOf_setNode hprevn]
                · subst h; simp
              | document | doctype _ _ _ | comment _ | element _ _ _ _ | pi _ _ =>
                simp only [hdata] at h
                refine Or.inr ⟨Or.inr ⟨prev, rfl, ?_⟩, h⟩
                simp [Dom.isText, dataOf_of_node hprevn, hdata]

theorem insertAtIndex_fresh_ok {d d' : Dom} {data : NodeData} {P : Id} {i : Nat}
    (h : (d.alloc data).1.insertAtIndex P i d.size = .ok d') :
    i ≤ (d.childrenOf P).length ∧
    (∀ x, d'.parentOf x = if x = d.size then some P else d.parentOf x) ∧
    (∀ x, d'.childrenOf x = if x = P then insertAt (d.childrenOf P) i d.size else d.childrenOf x) ∧
    (∀ x, d'.dataOf x = if x = d.size then some data else d.dataOf x) ∧ d'.size = d.size + 1 ∧
    d'.quirks = d.quirks := by
  obtain ⟨d1, hr, hlen, _, _, h1, h2, h3, h4, h5⟩ := insertAtIndex_ok h
  have hpn : (d.alloc data).1.parentOf d.size = none := by
    rw [parentOf_alloc]; exact parentOf_none_of_ge (Nat.le_refl _)
  rcases removeFromParent_ok hr with ⟨_, he⟩ | ⟨p, _, hpar, _⟩
  · subst he
    refine ⟨by rw [childrenOf_alloc] at hlen; exact hlen, ?_, ?_, ?_, ?_, ?_⟩
    · intro x; rw [h1, parentOf_alloc]
    · intro x; rw [h2, childrenOf_alloc, childrenOf_alloc]
    · intro x; rw [h3, dataOf_alloc]
    · rw [h4]; simp
    · rw [h5]; rfl
  · rw [hpn] at hpar; cases hpar

theorem WF.appendBeforeSibling_text {d d' : Dom} (hw : WF d) {P : Id} {i : Nat} {s : Str} (hP : P < d.size)
    (h : BeforeSiblingText d d' P i s) : WF d' := by
  rcases h with ⟨_, _, _, _, _, hs, _, _⟩ | ⟨_, h2⟩
  · exact hw.congr hs.parent hs.children
  · exact (hw.alloc _).insertAtIndex (not_anc_fresh hw _ hP) h2

/-! ### `reparent_children` -/

theorem reparentLoop_ok {n np : Id} : ∀ (cs : List Id) {d d' : Dom}, Dom.reparentLoop d n np cs = .ok d' →
    (∀ x, d'.parentOf x = if x ∈ cs then some np else d.parentOf x) ∧
    (∀ x, d'.childrenOf x = d.childrenOf x) ∧ (∀ x, d'.dataOf x = d.dataOf x) ∧ d'.size = d.size ∧
    d'.quirks = d.quirks := by
  intro cs
  induction cs with
  | nil => intro d d' h; simp [Dom.reparentLoop] at h; subst h; simp
  | cons c cs ih =>
    intro d d' h
    unfold Dom.reparentLoop at h
    simp only [bind, Except.bind] at h
    cases hc : d.get c with
    | error e => simp [hc] at h
    | ok cn =>
      have hcn := get_ok.mp hc
      simp only [hc] at h
      cases hpar : cn.parent with
      | none => simp [hpar, throw, throwThe, MonadExceptOf.throw] at h
      | some pp =>
        simp only [hpar] at h
        by_cases hpp : pp ≠ n
        · simp [hpp, throw, throwThe, MonadExceptOf.throw] at h
        · simp only [hpp, if_false] at h
          obtain ⟨i2, i3, i4, i5, i6⟩ := ih h
          refine ⟨?_, ?_, ?_, ?_, ?_⟩
          · intro x; rw [i2, parentOf_setNode hcn]
            by_cases hx : x = c
            · subst hx; simp
            · simp [hx]
          · intro x; rw [i3, childrenOf_setNode hcn]
            by_cases hx : x = c
            · subst hx; simp [childrenOf_of_node hcn]
            · simp [hx]
          · intro x; rw [i4, dataOf_setNode hcn]
            by_cases hx : x = c
            · subst hx; simp [dataOf_of_node hcn]
            · simp [hx]
          · rw [i5]; simp
          · rw [i6]; rfl

theorem reparentChildren_ok {d d' : Dom} {n np : Id} (h : d.reparentChildren n np = .ok d') :
    n ≠ np ∧ n < d.size ∧ np < d.size ∧
    (∀ x, d'.parentOf x = if x ∈ d.childrenOf n then some np else d.parentOf x) ∧
    (∀ x, d'.childrenOf x =
      if x = n then [] else if x = np then d.childrenOf np ++ d.childrenOf n else d.childrenOf x) ∧
    (∀ x, d'.dataOf x = d.dataOf x) ∧ d'.size = d.size ∧ d'.quirks = d.quirks := by
  unfold Dom.reparentChildren at h
  simp only [bind, Except.bind] at h
  cases hn : d.get n with
  | error e => simp [hn] at h
  | ok nn =>
    have hnn := get_ok.mp hn
    simp only [hn] at h
    cases hnp : d.get np with
    | error e => simp [hnp] at h
    | ok npn =>
      have hnpn := get_ok.mp hnp
      simp only [hnp] at h
      by_cases hne : n = np
      · simp [hne, throw, throwThe, MonadExceptOf.throw] at h
      · simp only [hne, if_false] at h
        cases hl : Dom.reparentLoop d n np nn.children with
        | error e => simp [hl] at h
        | ok d1 =>
          simp only [hl] at h
          obtain ⟨l1, l2, l3, l4, l5⟩ := reparentLoop_ok _ hl
          have hn1lt : n < d1.size := by rw [l4]; exact node?_lt hnn
          have hnp1lt : np < d1.size := by rw [l4]; exact node?_lt hnpn
          obtain ⟨nn1, hnn1⟩ := node?_of_lt hn1lt
          obtain ⟨npn1, hnpn1⟩ := node?_of_lt hnp1lt
          rw [get_ok_of hnn1] at h; simp only at h
          rw [get_ok_of hnpn1] at h; simp only at h
          have hset : (d1.setNode np { data := npn1.data, parent := npn1.parent, children := npn1.children ++ nn1.children }).node? n = some nn1 := by
            rw [node?_setNode_of hnpn1]; simp [hne, hnn1]
          rw [get_ok_of hset] at h
          simp at h
          have hc_n : nn1.children = d.childrenOf n := by rw [← childrenOf_of_node hnn1, l2]
          have hc_np : npn1.children = d.childrenOf np := by rw [← childrenOf_of_node hnpn1, l2]
          refine ⟨hne, node?_lt hnn, node?_lt hnpn, ?_, ?_, ?_, ?_, ?_⟩
          · intro x; subst h
            rw [parentOf_setNode hset, parentOf_setNode hnpn1, l1, childrenOf_of_node hnn]
            by_cases hxn : x = n
            · subst hxn; simp
              rw [← parentOf_of_node hnn1, l1]
            · simp [hxn]
              by_cases hxp : x = np
              · subst hxp; simp
                rw [← parentOf_of_node hnpn1, l1]
              · simp [hxp]
          · intro x; subst h
            rw [childrenOf_setNode hset, childrenOf_setNode hnpn1, l2]
            by_cases hxn : x = n
            · simp [hxn]
            · simp [hxn]
              by_cases hxp : x = np
              · simp [hxp, hc_n, hc_np]
              · simp [hxp]
          · intro x; subst h
            rw [dataOf_setNode hset, dataOf_setNode hnpn1, l3]
            by_cases hxn : x = n
            · subst hxn; simp; rw [← dataOf_of_node hnn1, l3]
            · simp [hxn]
              intro hxp; subst hxp; rw [← dataOf_of_node hnpn1, l3]
          · subst h; simp [l4]
          · subst h; simp; exact l5

theorem WF.reparentChildren {d d' : Dom} (hw : WF d) {n np : Id} (hanc : ¬ Anc d n np)
    (h : d.reparentChildren n np = .ok d') : WF d' := by
  obtain ⟨_, _, _, hp, hch, _, _, _⟩ := reparentChildren_ok h
  exact hw.reparent hanc hp hch

/-! ### operations that only allocate or only touch node data -/

theorem createElement_shape (d : Dom) (name : QualName) (attrs : List Attr) (flags : ElementFlags) :
    SameShape d (d.createElement name attrs flags).1 := by
  unfold Dom.createElement
  split
  · constructor
    · intro x; simp only [parentOf_alloc]
    · intro x; simp only [childrenOf_alloc]
  · constructor
    · intro x; simp only [parentOf_alloc]
    · intro x; simp only [childrenOf_alloc]

theorem addAttrsIfMissing_ok {d d' : Dom} {t : Id} {attrs : List Attr} (h : d.addAttrsIfMissing t attrs = .ok d') :
    ∃ name existing tc ip, d.dataOf t = some (.element name existing tc ip) ∧ SameShape d d' ∧
      (∀ x, d'.dataOf x = if x = t then some (.element name (existing ++ Dom.missingAttrs existing attrs) tc ip)
        else d.dataOf x) ∧ d'.size = d.size := by
  unfold Dom.addAttrsIfMissing at h
  simp only [bind, Except.bind] at h
  cases ht : d.get t with
  | error e => simp [ht] at h
  | ok tn =>
    have htn := get_ok.mp ht
    simp only [ht] at h
    cases hdata : tn.data with
    | element name existing tc ip =>
      simp [hdata] at h
      refine ⟨name, existing, tc, ip, by rw [dataOf_of_node htn, hdata], ⟨?_, ?_⟩, ?_, ?_⟩
      · intro x; subst h; rw [parentOf_setNode htn]
        by_cases hx : x = t
        · subst hx; simp [parentOf_of_node htn]
        · simp [hx]
      · intro x; subst h; rw [childrenOf_setNode htn]
        by_cases hx : x = t
        · subst hx; simp [childrenOf_of_node htn]
        · simp [hx]
      · intro x; subst h; rw [dataOf_setNode htn]
      · subst h; simp
    | document | doctype _ _ _ | comment _ | text _ | pi _ _ =>
      simp [hdata, throw, throwThe, MonadExceptOf.throw] at h

/-! ### `maybe_clone_an_option_into_selectedcontent` as the code stands: never changes anything -/

theorem bfsAsCode_none {d : Dom} {selfLoc : Str} (hne : selfLoc ≠ sSelectedcontent) :
    ∀ (fuel : Nat) (q : List Id) (r : Option Id), Dom.bfsAsCode d selfLoc fuel q = .ok r → r = none := by
  intro fuel
  induction fuel with
  | zero =>
    intro q r h
    cases q with
    | nil => simp [Dom.bfsAsCode] at h; exact h.symm
    | cons a t => simp [Dom.bfsAsCode] at h
  | succ f ih =>
    intro q r h
    cases q with
    | nil => simp [Dom.bfsAsCode] at h; exact h.symm
    | cons a t =>
      simp only [Dom.bfsAsCode, bind, Except.bind] at h
      cases ha : d.get a with
      | error e => simp [ha] at h
      | ok an =>
        simp only [ha, hne, if_false] at h
        exact ih _ _ h

theorem sSelect_ne_sSelectedcontent : sSelect ≠ sSelectedcontent := by decide

theorem enabledSelectedcontent_asCode_none {d : Dom} {select : Id} {r : Option Id}
    (h : d.enabledSelectedcontent .asCode select = .ok r) : r = none := by
  unfold Dom.enabledSelectedcontent at h
  simp only [bind, Except.bind] at h
  cases hs : d.get select with
  | error e => simp [hs] at h
  | ok sn =>
    simp only [hs] at h
    cases hdata : sn.data with
    | element name attrs tc ip =>
      simp only [hdata] at h
      by_cases hn : name.loc ≠ sSelect
      · simp [hn, throw, throwThe, MonadExceptOf.throw] at h
      · have hloc : name.loc = sSelect := Classical.not_not.mp hn
        simp only [hn, if_false] at h
        by_cases hm : Dom.hasAttrLocal attrs sMultiple = true
        · simp [hm] at h; exact h.symm
        · simp [hm] at h
          exact bfsAsCode_none (by rw [hloc]; exact sSelect_ne_sSelectedcontent) _ _ _ h
    | document | doctype _ _ _ | comment _ | text _ | pi _ _ =>
      simp [hdata, throw, throwThe, MonadExceptOf.throw] at h

/-- as the code stands, no `selectedcontent` is ever selected for mirroring -/
theorem cloneTarget_asCode_none {d : Dom} {o : Id} {r : Option Id} (h : d.cloneTarget .asCode o = .ok r) :
    r = none := by
  unfold Dom.cloneTarget at h
  simp only [bind, Except.bind] at h
  cases ho : d.get o with
  | error e => simp [ho] at h
  | ok on =>
    simp only [ho] at h
    cases hdata : on.data with
    | element name attrs tc ip =>
      simp only [hdata] at h
      by_cases hn : name.loc ≠ sOption
      · simp [hn, throw, throwThe, MonadExceptOf.throw] at h
      · simp only [hn, if_false] at h
        cases hsel : d.nearestAncestorSelect o with
        | error e => simp [hsel] at h
        | ok sel =>
          simp only [hsel] at h
          cases sel with
          | none => simp at h; exact h.symm
          | some select =>
            simp only at h
            cases hsc : d.enabledSelectedcontent .asCode select with
            | error e => simp [hsc] at h
            | ok sc =>
              have := enabledSelectedcontent_asCode_none hsc
              subst this
              simp [hsc] at h
              exact h.symm
    | document | doctype _ _ _ | comment _ | text _ | pi _ _ =>
      simp [hdata, throw, throwThe, MonadExceptOf.throw] at h

/-- DESIGN 1.3 item 11, first half: as the code stands the call never changes the DOM -/
theorem bind_ok_inv {α β : Type} {x : Except String α} {f : α → Except String β} {b : β}
    (h : (x >>= f) = .ok b) : ∃ a, x = .ok a ∧ f a = .ok b := by
  cases x with
  | error e => cases h
  | ok a => exact ⟨a, rfl, h⟩

/-- the mirroring does nothing when the standard names no selectedcontent, and otherwise clones into it -/
theorem maybeCloneOption_ok {v : Dom.CloneVariant} {d d' : Dom} {o : Id} (h : d.maybeCloneOption v o = .ok d') :
    (d.cloneTarget v o = .ok none ∧ d' = d) ∨
    ∃ sc, d.cloneTarget v o = .ok (some sc) ∧ d.cloneOptionInto v o sc = .ok d' := by
  obtain ⟨r, ht, h⟩ := bind_ok_inv h
  cases r with
  | none => exact .inl ⟨ht, (Except.ok.inj h).symm⟩
  | some sc => exact .inr ⟨sc, ht, h⟩

theorem maybeCloneOption_asCode_eq {d d' : Dom} {o : Id} (h : d.maybeCloneOption .asCode o = .ok d') :
    d' = d := by
  rcases maybeCloneOption_ok h with ⟨_, e⟩ | ⟨sc, ht, _⟩
  · exact e
  · cases cloneTarget_asCode_none ht

/-! ### `append` and `append_before_sibling` within the contract keep `WF`; the `.asCode` variants are the code as it is -/

theorem lt_of_dataOf_some {d : Dom} {x : Id} {v : NodeData} (h : d.dataOf x = some v) : x < d.size := by
  rw [dataOf_eq] at h
  cases hn : d.node? x with
  | none => simp [hn] at h
  | some n => exact node?_lt hn

theorem lt_of_isContainer {d : Dom} {x : Id} (h : d.isContainer x = true) : x < d.size := by
  unfold Dom.isContainer at h
  cases hd : d.dataOf x with
  | none => simp [hd] at h
  | some v => exact lt_of_dataOf_some hd

theorem lt_of_isElement {d : Dom} {x : Id} (h : d.isElement x = true) : x < d.size := by
  unfold Dom.isElement at h
  cases hd : d.dataOf x with
  | none => simp [hd] at h
  | some v => exact lt_of_dataOf_some hd

theorem templateContentsOf_congr {d d' : Dom} {x : Id} (h : d'.dataOf x = d.dataOf x) :
    d'.templateContentsOf x = d.templateContentsOf x := by unfold Dom.templateContentsOf; rw [h]

theorem templateContentsOf_lt {d : Dom} {x t : Id} (h : d.templateContentsOf x = some t) : x < d.size := by
  unfold Dom.templateContentsOf at h
  cases hd : d.dataOf x with
  | none => simp [hd] at h
  | some v => exact lt_of_dataOf_some hd

theorem ne_of_not_isAncOrSelf {d : Dom} {a x : Id} (hx : x < d.size) (h : d.isAncOrSelf a x = false) : a ≠ x := by
  intro e; subst e
  unfold Dom.isAncOrSelf at h
  cases hs : d.size with
  | zero => rw [hs] at hx; exact Nat.not_lt_zero _ hx
  | succ s => rw [hs] at h; simp [Dom.ancestorsOrSelf] at h

theorem WF.append {d d' : Dom} (hw : WF d) {p : Id} {ch : NodeOrText}
    (hc : d.contractAppend p ch = true) (h : d.append p ch = .ok d') : WF d' := by
  cases ch with
  | text s => exact hw.append_text h
  | node c =>
    rw [append_node_eq] at h
    simp only [Dom.contractAppend, Dom.childOk, Bool.and_eq_true, Bool.not_eq_true'] at hc
    exact hw.appendRaw (not_anc_of_isAncOrSelf_false hw (lt_of_isContainer hc.1) hc.2.2) h

theorem WF.appendBeforeSibling {d d' : Dom} (hw : WF d) {s : Id} {ch : NodeOrText}
    (hc : d.contractAppendBeforeSibling s ch = true) (h : d.appendBeforeSibling s ch = .ok d') : WF d' := by
  obtain ⟨P, i, hpar, _, hPlt, hm⟩ := appendBeforeSibling_ok h
  simp only [Dom.contractAppendBeforeSibling, hpar, Bool.and_eq_true] at hc
  cases ch with
  | text t => exact hw.appendBeforeSibling_text hPlt hm
  | node c =>
    simp only [Dom.childOk, Bool.and_eq_true, Bool.not_eq_true'] at hc
    exact hw.insertAtIndex (not_anc_of_isAncOrSelf_false hw hPlt hc.2.1.2.2) hm

theorem appendBasedOnParentNode_eq {d : Dom} {e p : Id} {ch : NodeOrText} {r : Except String Dom}
    (h : d.appendBasedOnParentNode e p ch = r) (he : e < d.size) :
    r = if (d.parentOf e).isSome then d.appendBeforeSibling e ch else d.append p ch := by
  obtain ⟨en, hen⟩ := node?_of_lt he
  unfold Dom.appendBasedOnParentNode at h
  simp only [bind, Except.bind, get_ok_of hen] at h
  rw [parentOf_of_node hen, ← h]

theorem appendBeforeSiblingV_asCode (d : Dom) (s : Id) (c : NodeOrText) :
    d.appendBeforeSiblingV .asCode s c = d.appendBeforeSibling s c := by
  cases c <;> rfl

theorem appendBasedOnParentNodeV_asCode (d : Dom) (e p : Id) (c : NodeOrText) :
    d.appendBasedOnParentNodeV .asCode e p c = d.appendBasedOnParentNode e p c := by
  unfold Dom.appendBasedOnParentNodeV Dom.appendBasedOnParentNode
  simp only [appendBeforeSiblingV_asCode]

/-! ### one inversion of `applyV` for every invariant -/

/-- the calls that cannot take a node out of a child list: everything except `remove_from_parent`,
`reparent_children`, `append_before_sibling` / `append_based_on_parent_node` of a node that still
has a parent, and the option → selectedcontent mirroring -/
def NeverDetaches (d : Dom) : SinkOp → Prop
  | .removeFromParent _ => False
  | .reparentChildren _ _ => False
  | .appendBeforeSibling _ (.node c) => d.parentOf c = none
  | .appendBasedOnParentNode _ _ (.node c) => d.parentOf c = none
  | .maybeCloneAnOptionIntoSelectedcontent _ => False  -- replaces a whole child list by deep copies
  | _ => True

/-- What a successful sink call did to the arena: nothing (the queries and the calls RcDom ignores), a
change outside the nodes (`parse_error`, `set_quirks_mode`), an allocation, or one of the mutating
operations — each with what the contract and `NeverDetaches` say about its arguments.  A property
of arenas is kept by every call once it is kept in these cases. -/
theorem applyV_ind {v : Dom.CloneVariant} {b : Dom.BeforeSiblingVariant} {d d' : Dom} {op : SinkOp}
    {out : Output} {P : Dom → Prop} (h : d.applyV v b op = .ok (d', out))
    (same : P d)
    (other : ∀ q es, P ⟨d.nodes, q, es⟩)
    (create : ∀ name attrs flags, P (d.createElement name attrs flags).1)
    (alloc : ∀ data, (∀ n a tc ip, data ≠ .element n a tc ip) → P (d.alloc data).1)
    (append : ∀ p c d1, (d.contractOk op = true → d.contractAppend p c = true) →
      d.append p c = .ok d1 → P d1)
    (before : ∀ s c d1, (d.contractOk op = true → d.contractAppendBeforeSibling s c = true) →
      (NeverDetaches d op → ∀ n, c = .node n → d.parentOf n = none) →
      d.appendBeforeSiblingV b s c = .ok d1 → P d1)
    (doctype : ∀ n p s d1, (d.contractOk op = true → d.isContainer Dom.document = true) →
      (d.alloc (.doctype n p s)).1.appendRaw Dom.document d.size = .ok d1 → P d1)
    (attrs : ∀ t a d1, d.addAttrsIfMissing t a = .ok d1 → P d1)
    (remove : ∀ t d1, ¬ NeverDetaches d op → d.removeFromParent t = .ok d1 → P d1)
    (reparent : ∀ n np d1, ¬ NeverDetaches d op →
      (d.contractOk op = true → d.isContainer np = true ∧ d.isAncOrSelf n np = false) →
      d.reparentChildren n np = .ok d1 → P d1)
    (clone : ∀ o d1, ¬ NeverDetaches d op → d.maybeCloneOption v o = .ok d1 → P d1) : P d' := by
  -- a call that answers from `d` without changing it
  have query : ∀ {α} {x : Except String α} {f : α → Output},
      (x >>= fun a => (.ok (d, f a) : Except String (Dom × Output))) = .ok (d', out) → P d' := by
    intro α x f hx
    cases x with
    | error e => cases hx
    | ok a => cases hx; exact same
  -- a call that returns the arena of a mutating operation
  have run : ∀ {x : Except String Dom},
      (x >>= fun d1 => (.ok (d1, .unit) : Except String (Dom × Output))) = .ok (d', out) → x = .ok d' := by
    intro x hx
    cases x with
    | error e => cases hx
    | ok a => cases hx; rfl
  cases op with
  | getDocument | markScriptAlreadyStarted _ | pop _ | sameNode _ _ | associateWithForm _ _ _ _
  | setCurrentLine _ | allowDeclarativeShadowRoots _ | attachDeclarativeShadow _ _ _ =>
    cases h; exact same
  | elemName t => exact query h
  | getTemplateContents t => exact query h
  | isMathmlAnnotationXmlIntegrationPoint t => exact query h
  | parseError msg => cases h; exact other _ _
  | setQuirksMode m => cases h; exact other _ _
  | createElement name attrs flags => cases h; exact create name attrs flags
  | createComment text => cases h; exact alloc _ (by intro _ _ _ _ e; cases e)
  | createPi t dd => cases h; exact alloc _ (by intro _ _ _ _ e; cases e)
  | append p c => exact append p c d' id (run h)
  | appendBeforeSibling s c =>
    refine before s c d' id (fun hn n e => ?_) (run h)
    subst e; exact hn
  | appendBasedOnParentNode e p c =>
    have ha := run h
    unfold Dom.appendBasedOnParentNodeV at ha
    cases hg : d.get e with
    | error err => rw [hg] at ha; cases ha
    | ok en =>
      rw [hg] at ha
      have hpar : (d.parentOf e).isSome = en.parent.isSome := by rw [parentOf_of_node (get_ok.mp hg)]
      simp only [bind, Except.bind] at ha
      by_cases hp : en.parent.isSome = true
      · rw [if_pos hp] at ha
        refine before e c d' (fun hc => ?_) (fun hn n e' => ?_) ha
        · simp only [Dom.contractOk, Bool.and_eq_true, hpar, hp, if_true] at hc; exact hc.2
        · subst e'; exact hn
      · rw [if_neg hp] at ha
        refine append p c d' (fun hc => ?_) ha
        simp only [Dom.contractOk, Bool.and_eq_true, hpar, hp] at hc; exact hc.2
  | appendDoctypeToDocument n p s =>
    refine doctype n p s d' (fun hc => ?_) (run h)
    simp only [Dom.contractOk, Bool.and_eq_true] at hc; exact hc.1
  | addAttrsIfMissing t a => exact attrs t a d' (run h)
  | removeFromParent t => exact remove t d' id (run h)
  | reparentChildren n np =>
    refine reparent n np d' id (fun hc => ?_) (run h)
    simp only [Dom.contractOk, Bool.and_eq_true, Bool.not_eq_true'] at hc; exact ⟨hc.1.2, hc.2⟩
  | maybeCloneAnOptionIntoSelectedcontent o => exact clone o d' id (run h)

end H5V.Lemmas.Dom
