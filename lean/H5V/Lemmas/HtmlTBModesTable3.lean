import H5V.Lemmas.HtmlTBModesTable2
/-!
The table family of insertion modes: "in caption", "in column group", "in cell" — the rule-level
simulations `tblc_sim_inCaption`, `tblc_sim_inColumnGroup`, `tblc_sim_inCell` and the per-mode statements
`modeSim_*` / `modeCharSim_*`.

"in cell", a start tag `caption`, `col`, `colgroup`, `tbody`, `td`, `tfoot`, `th`, `thead`, `tr`: the standard
asserts "the stack of open elements has a `td` or `th` element in table scope" (the specification throws when
the assertion fails, html5ever reports a parse error and ignores the token).  The invariant `TI` only knows
that a `td` / `th` element is on the stack in this mode (`SInv.stack`), so the assertion is an explicit
hypothesis of `tblc_sim_inCell` / `modeSim_inCell` (`tblc_hasAny_absF` states it without the `Aux`).
-/
namespace H5V.Lemmas.HtmlTBModes
open H5V.Model.HtmlTB
open H5V.Model.Dom (Id SinkOp Output Dom QualName Attr NodeOrText ElementFlags NodeData QuirksMode)
open H5V.Lemmas.HtmlTBAlgo
open H5V.Lemmas.TBSafe (TI HInv SInv Rooted)
open H5V.Spec.TreeAlgo2 (Elem Entry PState Ctx Edit Place)
open H5V.Spec.TreeModes (STok ETok IMode Config Out TokSwitch XOp Op Step Edition)

/-- "anything else" of "in column group" -/
theorem tblc_pc_cgElse {s : State} (hm : MInv s) (tok : Token) (htok : tok ≠ .eof) :
    PC (currentNodeNamed "colgroup" >>= fun b =>
        if b = true then (pop >>= fun _ => pure (ProcessResult.reprocess Mode.inTable tok)) else unexpected) s
      (TokPost (fun σ => if (!Spec.TreeModes.State.curIs σ "colgroup") = true then
          pure (Step.done (Spec.TreeModes.State.err σ "in column group: current node is not colgroup"))
        else pure (Step.reprocess ((Spec.TreeModes.State.pop σ).setMode IMode.inTable))) s tok) := by
  refine pc_seq (pc_currentNodeNamed hm "colgroup") ?_
  rintro b s1 c1 _ htr1
  cases b with
  | false =>
    simp only [Bool.false_eq_true, if_false]
    exact pc_tok_after htok htr1 (pc_unexpected_err htr1.1 _ "in column group: current node is not colgroup")
      fun x x1 _ ⟨hx1, e1, hb⟩ => by subst x1; simp only [← e1, ← hb, Bool.not_false, if_true]
  | true =>
    simp only [if_true]
    refine pc_seq (pc_pop htr1.1) ?_
    rintro h s2 c2 _ ⟨-, -, -, htr2⟩
    refine pc_pure ?_
    rw [List.append_nil]
    refine tokPost_of_tr (htr1.trans htr2) rfl ?_
    rintro x x2 hx hx2 ⟨x1, ⟨hx1, e1, hb⟩, hx2e, e2, -⟩
    subst x2
    subst x1
    refine ⟨{ x with pendingJunk := (absF s2 x).pendingTableChars }, ?_, ⟨rfl, rfl, rfl, rfl, rfl⟩, Or.inl rfl, rfl, rfl⟩
    rw [← hb]
    simp only [Bool.not_true, Bool.false_eq_true, if_false, stepOf, applyRes]
    rw [tbl_absF_setMode _ _ _ (by decide), e2, ← e1]
    rfl

theorem tblc_sim_inColumnGroup (hhead : StepSimTok stepInHead Spec.TreeModes.inHead)
    (hbody : StepSimTok stepInBody Spec.TreeModes.inBody) :
    StepSimTok stepInColumnGroup Spec.TreeModes.inColumnGroup := by
  intro tok hch hwf s hm
  cases tok with
  | chars st text => cases hch
  | comment text =>
    simp only [stepInColumnGroup]
    exact pc_comment_tok hm text
  | eof =>
    simp only [stepInColumnGroup]
    refine pc_tokPost_congr (hbody .eof rfl hwf s hm) ?_
    intro x hx
    simp only [stokOf, Spec.TreeModes.inColumnGroup]
  | nullChar =>
    simp only [stepInColumnGroup]
    simp only [stokOf, Spec.TreeModes.inColumnGroup, isWs_nul, Bool.false_eq_true, if_false]
    exact tblc_pc_cgElse hm _ (fun h => Token.noConfusion h)
  | tag t =>
    have hB := hbody (.tag t) rfl hwf s hm
    have hH := hhead (.tag t) rfl hwf s hm
    have helse := tblc_pc_cgElse hm (.tag t) (tag_ne_eof t)
    cases hk : t.kind with
    | startTag =>
      simp only [stepInColumnGroup, Spec.TreeModes.inColumnGroup, tag_chain, stokOfTag_start hk, isStart_of_start hk,
        isEnd_of_start hk, ↓reduceIte] at hB hH ⊢
      refine pc_tok_ite (fun _ => hB) fun _ => pc_tok_ite (fun _ => ?_) fun _ => pc_tok_ite (fun _ => hH) fun _ => helse
      -- `col`
      refine pc_seq (pc_insertVoid hm (hwf : TagWf t).plain) ?_
      rintro a s' calls _ ⟨-, -, -, -, -, htr⟩
      refine pc_pure (tokPost_of_tr (by rw [List.append_nil]; exact htr) trivial ?_)
      intro x x' hx hx' hr
      refine ⟨x', ?_, AuxSame.rfl', Or.inl rfl, rfl, rfl⟩
      simp only [hr]
      rfl
    | endTag =>
      simp only [stepInColumnGroup, Spec.TreeModes.inColumnGroup, tag_chain, stokOfTag_end hk, isStart_of_end hk,
        isEnd_of_end hk, ↓reduceIte] at hH ⊢
      refine pc_tok_ite (fun _ => ?_) fun _ => pc_tok_ite (fun _ => pc_unexpected_err hm _ _) fun _ =>
        pc_tok_ite (fun _ => hH) fun _ => helse
      -- `</colgroup>`
      refine pc_seq (pc_currentNodeNamed hm "colgroup") ?_
      rintro b s1 c1 _ htr1
      cases b with
      | false =>
        simp only [Bool.false_eq_true, if_false]
        exact pc_tok_after (tag_ne_eof t) htr1
          (pc_unexpected_done htr1.1 _ "in column group: colgroup end tag, current node is not colgroup")
          fun x x1 _ ⟨hx1, e1, hb⟩ => by subst x1; simp only [← e1, ← hb, Bool.not_false, if_true]
      | true =>
        simp only [if_true]
        refine pc_seq (pc_pop htr1.1) ?_
        rintro h s2 c2 _ ⟨-, -, -, htr2⟩
        refine pc_seq (pc_setMode_junk htr2.1 .inTable (by decide)) ?_
        rintro _ s3 c3 _ ⟨-, htr3⟩
        refine pc_pure ?_
        rw [List.append_nil, ← List.append_assoc]
        refine tokPost_of_tr ((htr1.trans htr2).trans htr3) trivial ?_
        rintro x x3 hx hx3 ⟨x2, ⟨x1, ⟨hx1, e1, hb⟩, hx2e, e2, -⟩, hx3e, e3⟩
        subst x2
        subst x1
        refine ⟨x3, ?_, AuxSame.rfl', Or.inl rfl, rfl, rfl⟩
        rw [← hb]
        simp only [Bool.not_true, Bool.false_eq_true, if_false, stepOf]
        rw [e3, e2, ← e1]
        rfl

theorem modeSim_inColumnGroup (hhead : StepSimTok stepInHead Spec.TreeModes.inHead)
    (hbody : StepSimTok stepInBody Spec.TreeModes.inBody) : ModeSim .inColumnGroup := by
  intro tok hch hwf s _ hm hmode _
  refine pc_tokPost_congr (tblc_sim_inColumnGroup hhead hbody tok hch hwf s hm) ?_
  intro x hx
  exact byModeDev_inColumnGroup (by show imode s.mode = _; rw [hmode]; rfl) _

/-! ### runs of characters in "in column group" -/

/-- a stretch that keeps the abstract "ignore LF" flag keeps the model's -/
theorem tblc_tr_ignoreLf {s s' : State} {c : List Call} {R : Aux → Aux → Prop} (hm : MInv s) (h : Tr s s' c R)
    (hR : ∀ x x', AuxOk s x → AuxOk s' x' → R x x' → (absF s' x').ignoreLf = (absF s x).ignoreLf) :
    s'.ignoreLf = s.ignoreLf := by
  obtain ⟨hm', -, -, ids, hfi, f⟩ := h
  obtain ⟨x, hx, hsup⟩ := auxOk_exists hm ids
  obtain ⟨x', l, r⟩ := f x [] hx (by simp [hsup])
  exact hR x x' hx l.aux r

theorem tblc_curIs_of_stack {σ σ1 : SState} (h : σ1.p.stack = σ.p.stack) (n : String) :
    Spec.TreeModes.State.curIs σ1 n = Spec.TreeModes.State.curIs σ n := by
  unfold Spec.TreeModes.State.curIs Spec.TreeModes.State.cur
  rw [h]

theorem modeCharSim_inColumnGroup : ModeCharSim .inColumnGroup := by
  intro st text hwf s _ hm hmode hlf hdisp
  have hcls := hwf.2.2
  have hmσ : imode s.mode = .inColumnGroup := by rw [hmode]; rfl
  show PC (stepInColumnGroup (.chars st text)) s _
  cases st with
  | notSplit => simp only [stepInColumnGroup]; exact pc_pure (charsPost_split hm text)
  | whitespace =>
    simp only [stepInColumnGroup]
    refine pc_chars_insert hm hmσ hlf hdisp ?_
    intro σ1 h1 c hc
    rw [byModeDev_inColumnGroup h1]
    simp only [Spec.TreeModes.inColumnGroup, isWs_eq_ascii, hcls c hc, if_true]
  | notWhitespace =>
    simp only [stepInColumnGroup]
    refine pc_seq (pc_currentNodeNamed hm "colgroup") ?_
    rintro b s1 c1 _ htr1
    have hlf1 : s1.ignoreLf = s.ignoreLf := tblc_tr_ignoreLf hm htr1 (by
      rintro x x' _ _ ⟨hx', e, -⟩
      subst x'
      rw [← e])
    cases b with
    | false =>
      simp only [Bool.false_eq_true, if_false]
      refine pc_conseq (pc_unexpected_same htr1.1) ?_
      rintro r s2 c2 _ ⟨rfl, hs, htr2⟩
      refine ⟨hs.fields.ignoreLf.trans hlf1, (htr1.trans htr2).reaux
        (fun _ x' => { x' with errors := x'.errors ++ List.replicate text.length "in column group: current node is not colgroup" })
        (fun _ _ => ⟨⟨rfl, rfl, rfl, rfl, rfl⟩, rfl, rfl, rfl⟩) ?_⟩
      rintro x x2 hx hx2 ⟨x1, ⟨hx1, e1, hb⟩, hx2e, e2⟩
      subst x2
      subst x1
      refine specChars_of_byModeRun (charsRunK_foldlM_stack (m := .inColumnGroup)
        (fun σ _ => pure (σ.err "in column group: current node is not colgroup")) (absF s x).p.stack ?_
        (fun σ _ _ h => ?_) (fun _ h => h) hmσ rfl hx.live hlf (hdisp x hx) ?_)
      · intro σ1 h1 hstk c hc
        rw [byModeDev_inColumnGroup h1]
        simp only [Spec.TreeModes.inColumnGroup, isWs_eq_ascii, hcls c hc, Bool.false_eq_true, if_false,
          tblc_curIs_of_stack hstk, ← hb, Bool.not_false, if_true]
        rfl
      · cases h; exact SameDisp.err σ _
      · rw [foldlM_err, e1, e2]; rfl
    | true =>
      simp only [if_true]
      refine pc_seq (pc_pop htr1.1) ?_
      rintro h s2 c2 _ ⟨-, -, hso, htr2⟩
      refine pc_pure ?_
      rw [List.append_nil]
      obtain ⟨hne, -, -⟩ := hwf
      cases text with
      | nil => exact absurd rfl hne
      | cons c cs =>
        have hlf2 : s2.ignoreLf = s1.ignoreLf := by unfold StackOnly at hso; rw [hso]
        refine ⟨rfl, hlf2.trans hlf1, c, cs, rfl, ?_⟩
        refine (Tr.withMode (htr1.trans htr2) .inTable).reaux
          (fun _ x' => { x' with pendingJunk := (absF s2 x').pendingTableChars })
          (fun _ _ => ⟨⟨rfl, rfl, rfl, rfl, rfl⟩, rfl, rfl, rfl⟩) ?_
        rintro x x2 hx hx2 ⟨x1, ⟨hx1, e1, hb⟩, hx2e, e2, -⟩
        subst x2
        subst x1
        rw [byModeDev_inColumnGroup hmσ]
        simp only [Spec.TreeModes.inColumnGroup, isWs_eq_ascii, hcls c List.mem_cons_self, Bool.false_eq_true, if_false,
          ← hb, Bool.not_true]
        rw [tbl_absF_setMode _ _ _ (by decide), e2, ← e1]
        rfl


/-! ### "in caption" -/

theorem tblc_closeCaption_some (σ : SState) (h : Spec.TreeModes.hasInTableScope σ "caption" = true) :
    ∃ E, Spec.TreeModes.closeCaption σ = some { ((Spec.TreeModes.popUntilPopped (Spec.TreeModes.genImplied σ) "caption").clearToLastMarker).setMode
      .inTable with errors := E } := by
  unfold Spec.TreeModes.closeCaption
  simp only [h, Bool.not_true, Bool.false_eq_true, if_false]
  by_cases hc : (Spec.TreeModes.genImplied σ).curIs "caption" = true
  · simp only [hc, if_true]
    exact ⟨σ.errors, rfl⟩
  · simp only [hc]
    exact ⟨σ.errors ++ ["in caption: current node is not caption"], rfl⟩

theorem tblc_closeCaption_none (σ : SState) (h : Spec.TreeModes.hasInTableScope σ "caption" = false) :
    Spec.TreeModes.closeCaption σ = none := by
  unfold Spec.TreeModes.closeCaption
  simp only [h, Bool.not_false, if_true]

theorem tblc_absF_setMode_err (s : State) (x : Aux) (m : Mode) (hne : m ≠ .inTableText) (E : List String) :
    absF { s with mode := m } { x with errors := E, pendingJunk := (absF s x).pendingTableChars }
      = { (absF s x).setMode (imode m) with errors := E } := by
  rw [← tbl_absF_setMode s x m hne]
  rfl


/-- the specification's answer in the arms of "in caption" that close the caption -/
def tblc_capSpec (w : String) (re : Bool) (σ : SState) : Spec.TreeModes.M (Step Id) :=
  match Spec.TreeModes.closeCaption σ with
  | none => pure (Step.done (Spec.TreeModes.State.err σ w))
  | some s => pure (if re then Step.reprocess s else Step.done s)

/-- "Generate implied end tags. … Pop elements from this stack until a caption element has been popped
from the stack.  Clear the list of active formatting elements up to the last marker." -/
theorem tblc_pc_closeCaptionThen {α : Type} {s : State} (hm : MInv s) {k : M α} {Q : α → State → List Call → Prop}
    (hk : ∀ s' c, Tr s s' c (fun x x' => x' = x ∧ absF s' x
        = (Spec.TreeModes.popUntilPopped (Spec.TreeModes.genImplied (absF s x)) "caption").clearToLastMarker) →
      PC k s' (fun a s2 c2 => Q a s2 (c ++ c2))) :
    PC (generateImpliedEndTags cursoryImpliedEnd >>= fun _ => expectToClose "caption" >>= fun _ =>
      clearActiveFormattingToMarker >>= fun _ => k) s Q := by
  refine pc_seq (pc_generateImpliedEndTags_cursory hm) ?_
  rintro _ s1 c1 _ htr1
  refine pc_seq (pc_expectToClose htr1.1 "caption") ?_
  rintro _ s2 c2 _ htr2
  refine pc_seq (pc_clearActiveFormattingToMarker htr2.1) ?_
  rintro _ s3 c3 _ ⟨-, htr3⟩
  have h := hk s3 ((c1 ++ c2) ++ c3) (((htr1.trans htr2).trans htr3).conseq (by
    rintro x x3 _ _ ⟨x2, ⟨x1, ⟨hx1, e1⟩, hx2, e2⟩, hx3, e3⟩
    subst x3
    subst x2
    subst x1
    exact ⟨rfl, by rw [← e3, e2, e1]⟩))
  simp only [List.append_assoc] at h
  exact h

theorem tblc_pc_caption {s : State} (hm : MInv s) (tok : Token) (htok : tok ≠ .eof) (w : String) (re : Bool) :
    PC (inScopeNamed tableScope "caption" >>= fun b =>
        if b = true then
          generateImpliedEndTags cursoryImpliedEnd >>= fun _ => expectToClose "caption" >>= fun _ =>
            clearActiveFormattingToMarker >>= fun _ =>
              (if re = true then pure (ProcessResult.reprocess Mode.inTable tok)
               else setMode Mode.inTable >>= fun _ => pure ProcessResult.done)
        else unexpected >>= fun _ => pure ProcessResult.done) s
      (TokPost (tblc_capSpec w re) s tok) := by
  refine pc_seq (pc_inScopeNamed_table hm "caption") ?_
  rintro b s1 c1 _ htr1
  cases b with
  | false =>
    simp only [Bool.false_eq_true, if_false]
    exact pc_tok_after htok htr1 (pc_unexpected_done htr1.1 _ w)
      fun x x1 _ ⟨hx1, e1, hb⟩ => by subst x1; simp only [tblc_capSpec, tblc_closeCaption_none _ hb.symm, ← e1]
  | true =>
    simp only [if_true]
    refine tblc_pc_closeCaptionThen htr1.1 ?_
    intro s2 c2 htr2
    cases re with
    | true =>
      simp only [if_true]
      refine pc_pure ?_
      rw [List.append_nil]
      refine tokPost_of_tr (htr1.trans htr2) rfl ?_
      rintro x x2 hx hx2 ⟨x1, ⟨hx1, e1, hb⟩, hx2e, e2⟩
      subst x2
      subst x1
      obtain ⟨E, hE⟩ := tblc_closeCaption_some (absF s x) hb.symm
      refine ⟨{ x with errors := E, pendingJunk := (absF s2 x).pendingTableChars }, ?_, ⟨rfl, rfl, rfl, rfl, rfl⟩, Or.inl rfl,
        rfl, rfl⟩
      simp only [tblc_capSpec, hE, stepOf, applyRes, if_true]
      rw [tblc_absF_setMode_err _ _ _ (by decide), e2, ← e1]
      rfl
    | false =>
      simp only [Bool.false_eq_true, if_false]
      refine pc_seq (pc_setMode htr2.1 .inTable) ?_
      rintro _ s3 c3 _ ⟨rfl, htr3⟩
      refine pc_pure ?_
      rw [List.append_nil, ← List.append_assoc]
      refine tokPost_of_tr ((htr1.trans htr2).trans htr3) trivial ?_
      rintro x x3 hx hx3 ⟨x2, ⟨x1, ⟨hx1, e1, hb⟩, hx2e, e2⟩, hx3e⟩
      subst x3
      subst x2
      subst x1
      obtain ⟨E, hE⟩ := tblc_closeCaption_some (absF s x) hb.symm
      refine ⟨{ x with errors := E, pendingJunk := (absF s2 x).pendingTableChars }, ?_, ⟨rfl, rfl, rfl, rfl, rfl⟩, Or.inl rfl,
        rfl, rfl⟩
      simp only [tblc_capSpec, hE, stepOf, Bool.false_eq_true, if_false]
      rw [tblc_absF_setMode_err _ _ _ (by decide), e2, ← e1]
      rfl

theorem tblc_sim_inCaption (hbody : StepSimTok stepInBody Spec.TreeModes.inBody) :
    StepSimTok stepInCaption Spec.TreeModes.inCaption := by
  intro tok hch hwf s hm
  have hB := hbody tok hch hwf s hm
  cases tok with
  | chars st text => cases hch
  | tag t =>
    have hcap := tblc_pc_caption hm (.tag t) (tag_ne_eof t)
    cases hk : t.kind with
    | startTag =>
      simp only [stepInCaption, Spec.TreeModes.inCaption, tag_chain, stokOfTag_start hk, isStart_of_start hk,
        isEnd_of_start hk, ↓reduceIte] at hB ⊢
      refine pc_tok_ite (fun _ => pc_tokPost_congr
        (hcap "in caption: table start tag without caption in table scope" true) fun x _ => ?_) fun _ => hB
      simp only [tblc_capSpec, if_true]
      cases Spec.TreeModes.closeCaption (absF s x) <;> rfl
    | endTag =>
      -- one arm of the model for `</caption>` and `</table>`; the specification has a clause for each
      have e : isOneOf t.name ["table", "caption"] = (isOneOf t.name ["caption"] || isOneOf t.name ["table"]) := by
        rw [Bool.or_comm]; exact isOneOf_append t.name ["table"] ["caption"]
      simp only [stepInCaption, Spec.TreeModes.inCaption, tag_chain, stokOfTag_end hk, isStart_of_end hk,
        isEnd_of_end hk, e] at hB ⊢
      refine pc_tok_bor_ite (fun h => ?_) (fun h _ => ?_) fun _ _ =>
        pc_tok_ite (fun _ => pc_unexpected_err hm _ _) fun _ => hB
      · simp only [h, ↓reduceIte]
        refine pc_tokPost_congr (hcap "in caption: caption end tag without caption in table scope" false) fun x _ => ?_
        simp only [tblc_capSpec, Bool.false_eq_true, if_false]
        cases Spec.TreeModes.closeCaption (absF s x) <;> rfl
      · simp only [h, Bool.false_eq_true, ↓reduceIte]
        refine pc_tokPost_congr (hcap "in caption: table end tag without caption in table scope" true) fun x _ => ?_
        simp only [tblc_capSpec, if_true]
        cases Spec.TreeModes.closeCaption (absF s x) <;> rfl
  | _ => exact hB

theorem modeSim_inCaption (hbody : StepSimTok stepInBody Spec.TreeModes.inBody) : ModeSim .inCaption := by
  intro tok hch hwf s _ hm hmode _
  refine pc_tokPost_congr (tblc_sim_inCaption hbody tok hch hwf s hm) ?_
  intro x hx
  exact byModeDev_inCaption (by show imode s.mode = _; rw [hmode]; rfl) _

theorem modeCharSim_inCaption (hbodyc : StepSimChars stepInBody Spec.TreeModes.inBody) : ModeCharSim .inCaption := by
  intro st text hwf s _ hm hmode hlf hdisp
  have hmσ : imode s.mode = .inCaption := by rw [hmode]; rfl
  show PC (stepInCaption (.chars st text)) s _
  simp only [stepInCaption]
  refine pc_chars_delegate hbodyc hwf hm hmσ hlf hdisp ?_
  intro σ1 h1 c hc
  rw [byModeDev_inCaption h1]
  simp only [Spec.TreeModes.inCaption]


/-! ### "in cell" -/


theorem tblc_cellEnd_eq (σ : SState) (name : Str) :
    ∃ E, (Spec.TreeModes.popUntilPoppedStr
        (if Option.any (fun e => Spec.TreeModes.isNamed name e.name) (Spec.TreeModes.genImplied σ).cur = true then
          Spec.TreeModes.genImplied σ
        else (Spec.TreeModes.genImplied σ).err "in cell: current node differs") name).clearToLastMarker.setMode IMode.inRow
      = { ((Spec.TreeModes.popUntilPoppedStr (Spec.TreeModes.genImplied σ) name).clearToLastMarker).setMode .inRow with
          errors := E } := by
  by_cases hc : Option.any (fun e => Spec.TreeModes.isNamed name e.name) (Spec.TreeModes.genImplied σ).cur = true
  · simp only [hc, if_true]
    exact ⟨σ.errors, rfl⟩
  · simp only [hc]
    exact ⟨σ.errors ++ ["in cell: current node differs"], rfl⟩

/-- an end tag `td` / `th` in "in cell" -/
theorem tblc_pc_cellEnd {s : State} (hm : MInv s) (tok : Token) (htok : tok ≠ .eof) (name : Str) (w : String) :
    PC (inScopeNamedS tableScope name >>= fun b =>
        if b = true then
          generateImpliedEndTags cursoryImpliedEnd >>= fun _ => expectToCloseS name >>= fun _ =>
            clearActiveFormattingToMarker >>= fun _ => setMode Mode.inRow >>= fun _ => pure ProcessResult.done
        else unexpected >>= fun _ => pure ProcessResult.done) s
      (TokPost (fun σ =>
        if (!Spec.TreeModes.hasStrInTableScope σ name) = true then pure (Step.done (Spec.TreeModes.State.err σ w))
        else pure (Step.done ((Spec.TreeModes.popUntilPoppedStr
          (if Option.any (fun e => Spec.TreeModes.isNamed name e.name) (Spec.TreeModes.genImplied σ).cur = true then
            Spec.TreeModes.genImplied σ
          else (Spec.TreeModes.genImplied σ).err "in cell: current node differs") name).clearToLastMarker.setMode
            IMode.inRow))) s tok) := by
  refine pc_seq (pc_inScopeNamedS_table hm name) ?_
  rintro b s1 c1 _ htr1
  cases b with
  | false =>
    simp only [Bool.false_eq_true, if_false]
    exact pc_tok_after htok htr1 (pc_unexpected_done htr1.1 _ w)
      fun x x1 _ ⟨hx1, e1, hb⟩ => by subst x1; simp only [← e1, ← hb, Bool.not_false, if_true]
  | true =>
    simp only [if_true]
    refine pc_seq (pc_generateImpliedEndTags_cursory htr1.1) ?_
    rintro _ s2 c2 _ htr2
    refine pc_seq (pc_expectToCloseS htr2.1 name) ?_
    rintro _ s3 c3 _ htr3
    refine pc_seq (pc_clearActiveFormattingToMarker htr3.1) ?_
    rintro _ s4 c4 _ ⟨-, htr4⟩
    refine pc_seq (pc_setMode htr4.1 .inRow) ?_
    rintro _ s5 c5 _ ⟨rfl, htr5⟩
    refine pc_pure ?_
    rw [List.append_nil, ← List.append_assoc, ← List.append_assoc, ← List.append_assoc]
    refine tokPost_of_tr ((((htr1.trans htr2).trans htr3).trans htr4).trans htr5) trivial ?_
    rintro x x5 hx hx5 ⟨x4, ⟨x3, ⟨x2, ⟨x1, ⟨hx1, e1, hb⟩, hx2e, e2⟩, hx3e, e3⟩, hx4e, e4⟩, hx5e⟩
    subst x5
    subst x4
    subst x3
    subst x2
    subst x1
    obtain ⟨E, hE⟩ := tblc_cellEnd_eq (absF s x) name
    refine ⟨{ x with errors := E, pendingJunk := (absF s4 x).pendingTableChars }, ?_, ⟨rfl, rfl, rfl, rfl, rfl⟩, Or.inl rfl,
      rfl, rfl⟩
    rw [← hb]
    simp only [Bool.not_true, Bool.false_eq_true, if_false, stepOf, hE]
    rw [tblc_absF_setMode_err _ _ _ (by decide), ← e4, e3, e2, ← e1]
    rfl

/-- "close the cell and reprocess the token", after the test `q` -/
theorem tblc_pc_cellClose {s : State} (tok : Token) (htok : tok ≠ .eof) {q : M Bool} {g : SState → Bool}
    (hq : PC q s (fun b s' calls => Tr s s' calls (fun x x' => x' = x ∧ absF s x = absF s' x ∧ b = g (absF s x))))
    (w : String) :
    PC (q >>= fun b =>
        if b = true then closeTheCell >>= fun _ => pure (ProcessResult.reprocess Mode.inRow tok) else unexpected) s
      (TokPost (fun σ => if (!g σ) = true then pure (Step.done (Spec.TreeModes.State.err σ w))
        else pure (Step.reprocess (Spec.TreeModes.closeCell σ))) s tok) := by
  refine pc_seq hq ?_
  rintro b s1 c1 _ htr1
  cases b with
  | false =>
    simp only [Bool.false_eq_true, if_false]
    exact pc_tok_after htok htr1 (pc_unexpected_err htr1.1 _ w)
      fun x x1 _ ⟨hx1, e1, hb⟩ => by subst x1; simp only [← e1, ← hb, Bool.not_false, if_true]
  | true =>
    simp only [if_true]
    refine pc_seq (pc_closeTheCell htr1.1) ?_
    rintro _ s2 c2 _ ⟨-, htr2⟩
    refine pc_pure ?_
    rw [List.append_nil]
    refine tokPost_of_tr (htr1.trans htr2) rfl ?_
    rintro x x2 hx hx2 ⟨x1, ⟨hx1, e1, hb⟩, hx2e, e2⟩
    subst x1
    refine ⟨{ x2 with pendingJunk := (absF s2 x2).pendingTableChars }, ?_, ⟨rfl, rfl, rfl, rfl, rfl⟩, Or.inl rfl, rfl, rfl⟩
    rw [← hb]
    simp only [Bool.not_true, Bool.false_eq_true, if_false, stepOf, applyRes]
    rw [tbl_absF_setMode _ _ _ (by decide), e1, ← e2]
    rfl

/-- the token is one of the start tags for which "in cell" asserts a cell in table scope -/
def cellAssertTag (tok : STok) : Bool :=
  match isStartTag tok with
  | some t => t.isOneOf ["caption", "col", "colgroup", "tbody", "td", "tfoot", "th", "thead", "tr"]
  | none => false

/-- "in cell" with the standard's one assertion made total as html5ever does (parse error, ignore the token):
what `byModeDev` is in the "in cell" insertion mode -/
def inCellDev (cfg : Config Id) (σ : SState) (tok : STok) : Spec.TreeModes.M (Step Id) :=
  if cellAssertTag tok && !Spec.TreeModes.hasAnyInTableScope σ ["td", "th"] then
    pure (.done (σ.err "in cell: no cell in table scope (asserted impossible)"))
  else Spec.TreeModes.inCell cfg σ tok

theorem cellAssertFails_inCell {σ : SState} (h : σ.mode = .inCell) (tok : STok) :
    cellAssertFails σ tok = (cellAssertTag tok && !Spec.TreeModes.hasAnyInTableScope σ ["td", "th"]) := by
  simp only [cellAssertFails, h, beq_self_eq_true, Bool.true_and]
  cases tok <;> rfl

theorem byModeDev_inCellDev {cfg : Config Id} {σ : SState} (h : σ.mode = .inCell) (tok : STok) :
    byModeDev cfg σ tok = inCellDev cfg σ tok := by
  cases hc : cellAssertFails σ tok with
  | false =>
    rw [byModeDev_inCell h tok hc]
    rw [cellAssertFails_inCell h] at hc
    simp only [inCellDev, hc, Bool.false_eq_true, if_false]
  | true =>
    rw [byModeDev_inCell_assert h tok hc]
    rw [cellAssertFails_inCell h] at hc
    simp only [inCellDev, hc, if_true]

theorem inCellDev_of_tag {cfg : Config Id} {σ : SState} {tok : STok} (h : cellAssertTag tok = false) :
    inCellDev cfg σ tok = Spec.TreeModes.inCell cfg σ tok := by
  simp only [inCellDev, h, Bool.false_and, Bool.false_eq_true, if_false]

theorem tblc_sim_inCell (hbody : StepSimTok stepInBody Spec.TreeModes.inBody) (tok : Token) (hch : isCharsTok tok = false)
    (hwf : TokWf tok) (s : State) (hm : MInv s) :
    PC (stepInCell tok) s (TokPost (fun σ => inCellDev (cfgOf s) σ (stokOf tok)) s tok) := by
  have hB := hbody tok hch hwf s hm
  cases tok with
  | chars st text => cases hch
  | tag t =>
    cases hk : t.kind with
    | startTag =>
      simp only [stepInCell, inCellDev, cellAssertTag, isStartTag, Spec.TreeModes.inCell, tag_chain, stokOfTag_start hk,
        isStart_of_start hk, isEnd_of_start hk, ↓reduceIte] at hB ⊢
      cases h9 : isOneOf t.name ["caption", "col", "colgroup", "tbody", "td", "tfoot", "th", "thead", "tr"] with
      | true =>
        simp only [Bool.true_and, ↓reduceIte]
        refine pc_tokPost_congr (tblc_pc_cellClose (.tag t) (tag_ne_eof t) (g := fun σ => Spec.TreeModes.hasAnyInTableScope σ ["td", "th"])
          (pc_inScope_table_tdTh hm) "in cell: no cell in table scope (asserted impossible)") ?_
        intro x hx
        cases Spec.TreeModes.hasAnyInTableScope (absF s x) ["td", "th"] <;>
          simp only [Bool.not_true, Bool.not_false, Bool.false_eq_true, if_false, if_true]
      | false =>
        simp only [Bool.false_and, Bool.false_eq_true, ↓reduceIte]
        exact hB
    | endTag =>
      simp only [stepInCell, inCellDev, cellAssertTag, isStartTag, Bool.false_and, Spec.TreeModes.inCell, tag_chain,
        stokOfTag_end hk, isStart_of_end hk, isEnd_of_end hk, ↓reduceIte] at hB ⊢
      exact pc_tok_ite (fun _ => tblc_pc_cellEnd hm _ (tag_ne_eof t) _ _) fun _ => pc_tok_ite (fun _ => pc_unexpected_err hm _ _) fun _ =>
        pc_tok_ite (fun _ => tblc_pc_cellClose (.tag t) (tag_ne_eof t) (g := fun σ => Spec.TreeModes.hasStrInTableScope σ t.name)
          (pc_inScopeNamedS_table hm t.name) _) fun _ => hB
  | _ =>
    refine pc_tokPost_congr hB fun x _ => ?_
    rw [inCellDev_of_tag (by rfl)]
    simp only [stokOf, Spec.TreeModes.inCell]

/-- "has one of `l` in table scope" of the abstract state, in terms of the model state only -/
theorem tblc_hasAny_absF {s : State} {x : Aux} (hx : AuxOk s x) (l : List String) :
    Spec.TreeModes.hasAnyInTableScope (absF s x) l
      = Spec.TreeAlgo.hasInScope (Spec.TreeAlgo.inHtml l) Spec.TreeAlgo.tableScopeList
          (namesRev (absStack s.dom s.openElems)) := by
  unfold Spec.TreeModes.hasAnyInTableScope
  rw [absF_names hx]

theorem modeSim_inCell (hbody : StepSimTok stepInBody Spec.TreeModes.inBody) : ModeSim .inCell := by
  intro tok hch hwf s hti hm hmode _
  refine pc_tokPost_congr (tblc_sim_inCell hbody tok hch hwf s hm) ?_
  intro x hx
  exact byModeDev_inCellDev (by show imode s.mode = _; rw [hmode]; rfl) _

theorem modeCharSim_inCell (hbodyc : StepSimChars stepInBody Spec.TreeModes.inBody) : ModeCharSim .inCell := by
  intro st text hwf s _ hm hmode hlf hdisp
  have hmσ : imode s.mode = .inCell := by rw [hmode]; rfl
  show PC (stepInCell (.chars st text)) s _
  simp only [stepInCell]
  refine pc_chars_delegate hbodyc hwf hm hmσ hlf hdisp ?_
  intro σ1 h1 c hc
  rw [byModeDev_inCellDev h1, inCellDev_of_tag (by rfl)]
  simp only [Spec.TreeModes.inCell]

end H5V.Lemmas.HtmlTBModes
