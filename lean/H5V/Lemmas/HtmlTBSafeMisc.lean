import H5V.Lemmas.HtmlTBSafeInv
/-!
# Tree-builder safety: composing steps; the remaining helpers of `mod.rs`
-/
namespace H5V.Lemmas.TBSafe
open H5V.Model.HtmlTB
open H5V.Model.Dom (Id QualName Attr NodeOrText SinkOp Output ElementFlags QuirksMode Dom NodeData Node)

variable {al : Allow}

/-! ### building `BStep`s and `Keeps` -/

theorem tcount_append (d : Dom) (l1 l2 : List Id) : tcount d (l1 ++ l2) = tcount d l1 + tcount d l2 := by
  unfold tcount; exact List.countP_append

theorem tcount_le_of_sublist {d : Dom} {l1 l2 : List Id} (h : l1.Sublist l2) : tcount d l1 ≤ tcount d l2 :=
  List.Sublist.countP_le h

theorem tcount_zero_of_not {d : Dom} {l : List Id} (h : ∀ x ∈ l, nm d x ≠ tmplName) : tcount d l = 0 := by
  unfold tcount
  rw [List.countP_eq_zero]
  intro x hx
  simpa [isTmpl] using h x hx

/-- pops and removals from the list of active formatting elements -/
theorem BStep.of_fr {s s' : State} {pre post : List Id} (hi : HInv s) (hr : Rooted s.dom s.openElems)
    (heq : s.openElems = pre ++ post) (hne : pre ≠ []) (fr : Fr s s') (ho : s'.openElems = pre)
    (ha : ∀ e ∈ s'.activeFormatting, e ∈ s.activeFormatting) : BStep s s' where
  mode := fr.mode
  origMode := fr.origMode
  templateModes := fr.templateModes
  pendingTableText := fr.pendingTableText
  headElem := fr.headElem
  contextElem := fr.contextElem
  ext := fr.ext
  hinv := hi.of_fr fr (by rw [ho]; intro x hx; rw [heq]; exact List.mem_append_left _ hx) ha
  rooted := by
    rw [ho]
    obtain ⟨r, rest, hl, hn⟩ := hr
    cases pre with
    | nil => exact absurd rfl hne
    | cons a t =>
      rw [hl] at heq
      have : r = a := by simp at heq; exact heq.1
      subst this
      exact ⟨r, t, rfl, by rw [nm_ext fr.ext (hi.open_el r (by rw [hl]; exact List.mem_cons_self))]; exact hn⟩
  news := by
    rw [ho]
    intro x hx; exact Or.inl (by rw [heq]; exact List.mem_append_left _ hx)
  tcnt := by
    rw [ho]
    have hsub : ∀ x ∈ pre, x ∈ s.openElems := fun x hx => by rw [heq]; exact List.mem_append_left _ hx
    rw [tcount_ext fr.ext (hi.open_el.sub hsub), heq, tcount_append]
    omega

/-- pops: the new stack is a non-empty prefix of the old one -/
theorem BStep.of_st {s s' : State} {pre post : List Id} (hi : HInv s) (hr : Rooted s.dom s.openElems)
    (heq : s.openElems = pre ++ post) (hne : pre ≠ []) (st : St s s' pre) : BStep s s' :=
  BStep.of_fr hi hr heq hne st.fr st.openElems (by rw [st.af]; exact fun _ h => h)

theorem BStep.of_same {s s' : State} (hi : HInv s) (hr : Rooted s.dom s.openElems) (st : Same s s') : BStep s s' := by
  have hne : s.openElems ≠ [] := by obtain ⟨r, rest, hl, _⟩ := hr; rw [hl]; simp
  exact BStep.of_st (post := []) hi hr (by simp) hne st

theorem BStep.of_qf {s s' : State} (hi : HInv s) (hr : Rooted s.dom s.openElems) (q : QF s s') : BStep s s' :=
  BStep.of_same hi hr q.same

theorem BStep.trans {a b c : State} (h1 : BStep a b) (h2 : BStep b c) : BStep a c where
  mode := h2.mode.trans h1.mode
  origMode := h2.origMode.trans h1.origMode
  templateModes := h2.templateModes.trans h1.templateModes
  pendingTableText := h2.pendingTableText.trans h1.pendingTableText
  headElem := h2.headElem.trans h1.headElem
  contextElem := h2.contextElem.trans h1.contextElem
  ext := h1.ext.trans h2.ext
  hinv := h2.hinv
  rooted := h2.rooted
  news := by
    intro x hx
    rcases h2.news x hx with hx1 | hn
    · rcases h1.news x hx1 with hx0 | hn
      · exact Or.inl hx0
      · exact Or.inr (by rw [nm_ext h2.ext (h1.hinv.open_el x hx1)]; exact hn)
    · exact Or.inr hn
  tcnt := Nat.le_trans h2.tcnt h1.tcnt

/-- a fresh element was created (and possibly pushed); its name is neither `template` nor `head` -/
theorem BStep.of_inserted {s s' : State} {r : Id} {ns name : Str} {pushIt : Bool} (hi : HInv s)
    (hr : Rooted s.dom s.openElems) (h : Inserted s s' r ns name pushIt) (hn : NewOk ⟨ns, name⟩) : BStep s s' where
  mode := h.fr.mode
  origMode := h.fr.origMode
  templateModes := h.fr.templateModes
  pendingTableText := h.fr.pendingTableText
  headElem := h.fr.headElem
  contextElem := h.fr.contextElem
  ext := h.fr.ext
  hinv := h.hinv hi
  rooted := by
    rw [h.openElems]
    split
    · exact hr.append_ext h.fr.ext hi.open_el
    · exact hr.ext h.fr.ext hi.open_el
  news := by
    rw [h.openElems]
    intro x hx
    split at hx
    · rcases List.mem_append.mp hx with hx | hx
      · exact Or.inl hx
      · rw [List.mem_singleton.mp hx, h.nm]; exact Or.inr hn
    · exact Or.inl hx
  tcnt := by
    rw [h.openElems]
    split
    · rw [tcount_append, tcount_ext h.fr.ext hi.open_el]
      have : tcount s'.dom [r] = 0 := tcount_zero_of_not (by
        intro x hx; rw [List.mem_singleton.mp hx, h.nm]; exact hn.1)
      omega
    · rw [tcount_ext h.fr.ext hi.open_el]; exact Nat.le_refl _

theorem BStep.of_grown {s s' : State} (hi : HInv s) (hr : Rooted s.dom s.openElems) (h : Grown s s') : BStep s s' := by
  obtain ⟨news, ho, hn⟩ := h.open_
  exact {
    mode := h.fr.mode
    origMode := h.fr.origMode
    templateModes := h.fr.templateModes
    pendingTableText := h.fr.pendingTableText
    headElem := h.fr.headElem
    contextElem := h.fr.contextElem
    ext := h.fr.ext
    hinv := h.hinv
    rooted := h.rooted hi hr
    news := by
      rw [ho]
      intro x hx
      rcases List.mem_append.mp hx with hx | hx
      · exact Or.inl hx
      · exact Or.inr (NewOk.of_fmt (hn x hx))
    tcnt := by
      rw [ho, tcount_append, tcount_ext h.fr.ext hi.open_el]
      have : tcount s'.dom news = 0 := tcount_zero_of_not (fun x hx => (NewOk.of_fmt (hn x hx)).1)
      omega }

theorem Keeps.refl {P : EName → Bool} {s s' : State} (h : s'.openElems = s.openElems) : Keeps P s s' :=
  fun x hx _ => by rw [h]; exact hx

theorem Keeps.of_grow {P : EName → Bool} {s s' : State} {news : List Id}
    (h : s'.openElems = s.openElems ++ news) : Keeps P s s' :=
  fun x hx _ => by rw [h]; exact List.mem_append_left _ hx

theorem Keeps.of_pops {P : EName → Bool} {s s' : State} {pre post : List Id} (heq : s.openElems = pre ++ post)
    (ho : s'.openElems = pre) (hp : ∀ y ∈ post, P (nm s.dom y) = false) : Keeps P s s' := by
  intro x hx hP
  rw [heq] at hx
  rcases List.mem_append.mp hx with hx | hx
  · rw [ho]; exact hx
  · rw [hp x hx] at hP; cases hP

theorem Keeps.trans {P : EName → Bool} {a b c : State} (hi : HInv a) (he : Ext a.dom b.dom)
    (h1 : Keeps P a b) (h2 : Keeps P b c) : Keeps P a c := by
  intro x hx hP
  exact h2 x (h1 x hx hP) (by rw [nm_ext he (hi.open_el x hx)]; exact hP)

theorem Keeps.of_inserted {P : EName → Bool} {s s' : State} {r : Id} {ns name : Str} {pushIt : Bool}
    (h : Inserted s s' r ns name pushIt) : Keeps P s s' := by
  intro x hx _
  rw [h.openElems]
  split
  · exact List.mem_append_left _ hx
  · exact hx

theorem Keeps.of_grown {P : EName → Bool} {s s' : State} (h : Grown s s') : Keeps P s s' := by
  obtain ⟨news, ho, _⟩ := h.open_
  exact Keeps.of_grow ho

/-- `BStep` together with "no `td`/`th` popped" -/
structure BK (s s' : State) : Prop where
  b : BStep s s'
  k : Keeps tdTh s s'

theorem BK.trans {a b c : State} (hi : HInv a) (h1 : BK a b) (h2 : BK b c) : BK a c :=
  ⟨h1.b.trans h2.b, Keeps.trans hi h1.b.ext h1.k h2.k⟩

theorem BK.of_qf {s s' : State} (hi : HInv s) (hr : Rooted s.dom s.openElems) (q : QF s s') : BK s s' :=
  ⟨BStep.of_qf hi hr q, Keeps.refl q.openElems⟩

theorem BK.of_same {s s' : State} (hi : HInv s) (hr : Rooted s.dom s.openElems) (q : Same s s') : BK s s' :=
  ⟨BStep.of_same hi hr q, Keeps.refl q.openElems⟩

theorem BK.of_inserted {s s' : State} {r : Id} {ns name : Str} {pushIt : Bool} (hi : HInv s)
    (hr : Rooted s.dom s.openElems) (h : Inserted s s' r ns name pushIt) (hn : NewOk ⟨ns, name⟩) : BK s s' :=
  ⟨BStep.of_inserted hi hr h hn, Keeps.of_inserted h⟩

theorem BK.of_grown {s s' : State} (hi : HInv s) (hr : Rooted s.dom s.openElems) (h : Grown s s') : BK s s' :=
  ⟨BStep.of_grown hi hr h, Keeps.of_grown h⟩

theorem BK.of_pops {s s' : State} {pre post : List Id} (hi : HInv s) (hr : Rooted s.dom s.openElems)
    (heq : s.openElems = pre ++ post) (hne : pre ≠ []) (st : St s s' pre)
    (hp : ∀ y ∈ post, tdTh (nm s.dom y) = false) : BK s s' :=
  ⟨BStep.of_st hi hr heq hne st, Keeps.of_pops heq st.openElems hp⟩

/-! ### small wrappers -/

theorem sat_setQuirksMode {m : QuirksMode} {s : State} : Sat (setQuirksMode m) s (fun _ s' => Same s s') := by
  unfold H5V.Model.HtmlTB.setQuirksMode
  refine sat_modS_bind ?_
  refine (sat_sinkUnit_total ⟨_, _, apply_setQuirks _ _⟩).mono ?_
  intro _ s' hq
  exact ⟨⟨hq.mode, hq.origMode, hq.templateModes, hq.pendingTableText, hq.headElem, hq.formElem,
    hq.contextElem, hq.docHandle, hq.opts, hq.ext⟩, hq.openElems, hq.activeFormatting⟩

theorem sat_toRawTextMode {k : H5V.Model.HtmlTok.RawKind} {s : State} :
    Sat (toRawTextMode k) s
      (fun r s' => r = .toRawData k ∧ s' = { s with origMode := some s.mode, mode := .text }) := by
  unfold toRawTextMode
  exact sat_modS_bind (sat_pure ⟨rfl, rfl⟩)

theorem sat_appendText {text : Str} {s : State} (hp : PlaceOk s none) :
    Sat (appendText text) s (fun r s' => r = .done ∧ QF s s') := by
  unfold appendText
  exact (sat_insertAppropriately hp).bind (fun _ s' h => sat_pure ⟨rfl, h⟩)

theorem sat_appendComment {text : Str} {s : State} (hp : PlaceOk s none) :
    Sat (appendComment text) s (fun r s' => r = .done ∧ QF s s') := by
  unfold appendComment
  refine sat_createComment.bind ?_
  intro c s1 hq1
  refine (sat_insertAppropriately (hp.of_qf hq1)).bind ?_
  intro _ s2 hq2
  exact sat_pure ⟨rfl, hq1.trans hq2⟩

theorem sat_appendCommentToDoc {text : Str} {s : State} :
    Sat (appendCommentToDoc text) s (fun r s' => r = .done ∧ QF s s') := by
  unfold appendCommentToDoc
  refine sat_createComment.bind ?_
  intro c s1 hq1
  refine sat_getS_bind ?_
  refine (sat_sinkUnit_mut (op := SinkOp.append _ _) trivial).bind ?_
  intro _ s2 hq2
  exact sat_pure ⟨rfl, hq1.trans hq2⟩

theorem sat_appendCommentToHtml {text : Str} {s : State} {r : Id} {rest : List Id} (hl : s.openElems = r :: rest) :
    Sat (appendCommentToHtml text) s (fun r s' => r = .done ∧ QF s s') := by
  unfold appendCommentToHtml
  refine (sat_htmlElemFn hl).bind ?_
  rintro t s0 ⟨-, rfl⟩
  refine sat_createComment.bind ?_
  intro c s1 hq1
  refine (sat_sinkUnit_mut (op := SinkOp.append _ _) trivial).bind ?_
  intro _ s2 hq2
  exact sat_pure ⟨rfl, hq1.trans hq2⟩

theorem sat_insertElementFor {tag : Tag} {s : State} (hp : PlaceOk s none) :
    Sat (insertElementFor tag) s (fun r s' => Inserted s s' r nsHtml tag.name true) := sat_insertElement hp

theorem sat_insertAndPopElementFor {tag : Tag} {s : State} (hp : PlaceOk s none) :
    Sat (insertAndPopElementFor tag) s (fun r s' => Inserted s s' r nsHtml tag.name false) := sat_insertElement hp

theorem sat_insertPhantom {name : String} {s : State} (hp : PlaceOk s none) :
    Sat (insertPhantom name) s (fun r s' => Inserted s s' r nsHtml name.toList true) := sat_insertElement hp

/-- `insert_foreign_element` (used for declarative shadow roots with `ns = html`) -/
theorem sat_insertForeignElement {tag : Tag} {ns : Str} {only : Bool} {s : State} (hp : PlaceOk s none) :
    Sat (insertForeignElement tag ns only) s (fun r s' => Inserted s s' r ns tag.name true) := by
  unfold insertForeignElement
  refine (sat_appropriatePlaceForInsertion hp).bind ?_
  intro loc s1 hq1
  refine sat_createElementWithFlags.bind ?_
  intro elem s2 hc
  have hfin : ∀ s3, QF s2 s3 →
      Sat (do push elem; pure elem) s3 (fun r s' => Inserted s s' r ns tag.name true) := by
    intro s3 hq3
    refine sat_push.bind ?_
    rintro _ s4 rfl
    have hq : QF s s3 := (hq1.trans hc.qf).trans hq3
    have hnm : nm s3.dom elem = ⟨ns, tag.name⟩ := by rw [nm_ext hq3.ext hc.el]; exact hc.nm
    refine sat_pure ⟨hq.fr.withOpen _, hq.activeFormatting, by simp [hq.openElems],
      fun x hx => hc.ne (hx.ext hq1.ext), hc.el.ext hq3.ext, hnm, ?_⟩
    intro hn
    rw [hnm] at hn
    have : (ns == nsHtml && isName tag.name "template") = true := by
      simp only [tmplName, EName.mk.injEq] at hn
      simp [hn.1, hn.2, isName]
    obtain ⟨q, tc, ip', hs⟩ := hc.tc this
    exact ⟨q, tc, ip', hq3.ext _ _ hs⟩
  split
  · refine sat_insertAt.bind ?_
    intro _ s3 hq3
    exact hfin s3 hq3
  · exact hfin s2 (QF.refl _)

/-! ### `generate_implied_end_tags` below a known element, `close_p_element` -/

/-- if an element `x` whose name is not in the set sits on the stack, the implied-end-tags loop
stops at or above it -/
theorem sat_generateImpliedEndTags_keep {set : EName → Bool} {s : State} {pre post : List Id} {x : Id}
    (hall : AllEl s.dom s.openElems) (heq : s.openElems = pre ++ x :: post) (hx : set (nm s.dom x) = false) :
    Sat (generateImpliedEndTags set) s (fun _ s' => ∃ post0 post1, post = post0 ++ post1 ∧
      St s s' (pre ++ x :: post0) ∧ ∀ y ∈ post1, set (nm s.dom y) = true) := by
  refine (sat_generateImpliedEndTags hall).mono ?_
  rintro _ s' ⟨pre1, post1, heq1, st, hpost1, _⟩
  rw [heq] at heq1
  rcases List.append_eq_append_iff.mp heq1 with ⟨a', h1, h2⟩ | ⟨c', h1, h2⟩
  · cases a' with
    | nil =>
      exfalso
      simp only [List.nil_append] at h2
      have := hpost1 x (by rw [← h2]; exact List.mem_cons_self)
      rw [hx] at this; cases this
    | cons a t =>
      simp only [List.cons_append, List.cons.injEq] at h2
      obtain ⟨rfl, h2⟩ := h2
      exact ⟨t, post1, h2, by rw [← h1]; exact st, hpost1⟩
  · exfalso
    have := hpost1 x (by rw [h2]; exact List.mem_append_right _ List.mem_cons_self)
    rw [hx] at this; cases this

/-- … and what is left of the stack are the same elements as before -/
theorem sat_generateImpliedEndTags_keep' {set : EName → Bool} {s : State} {pre post : List Id} {x : Id}
    (hall : AllEl s.dom s.openElems) (heq : s.openElems = pre ++ x :: post) (hx : set (nm s.dom x) = false) :
    Sat (generateImpliedEndTags set) s (fun _ s' => ∃ post0, St s s' (pre ++ x :: post0) ∧
      (∀ y ∈ post0, y ∈ post) ∧ AllEl s'.dom s'.openElems ∧
      ∀ z ∈ pre ++ x :: post0, nm s'.dom z = nm s.dom z) := by
  refine (sat_generateImpliedEndTags_keep hall heq hx).mono ?_
  rintro _ s1 ⟨post0, post1, hp, st, _⟩
  have hsub : ∀ z ∈ pre ++ x :: post0, z ∈ s.openElems := by
    intro z hz
    rw [heq, hp]
    rcases List.mem_append.mp hz with h | h
    · exact List.mem_append_left _ h
    · rcases List.mem_cons.mp h with h | h
      · exact List.mem_append_right _ (by rw [h]; exact List.mem_cons_self)
      · exact List.mem_append_right _ (List.mem_cons_of_mem _ (List.mem_append_left _ h))
  exact ⟨post0, st, fun y hy => by rw [hp]; exact List.mem_append_left _ hy,
    by rw [st.openElems]; exact (hall.sub hsub).ext st.fr.ext,
    fun z hz => (hall.sub hsub).nm_eq st.fr.ext hz⟩

theorem sat_closePElement {s : State} {pre post : List Id} {x : Id}
    (hall : AllEl s.dom s.openElems) (heq : s.openElems = pre ++ x :: post)
    (hx : namedP s.dom "p".toList x = true) (hpost : ∀ y ∈ post, namedP s.dom "p".toList y = false) :
    Sat closePElement s (fun _ s' => St s s' pre) := by
  unfold closePElement
  have hxs : impliedExceptP (nm s.dom x) = false := by
    unfold namedP at hx
    cases hn : nm s.dom x with
    | mk ns loc =>
      rw [hn] at hx
      simp only [Bool.and_eq_true, beq_iff_eq] at hx
      rw [hx.1, hx.2]; decide
  refine (sat_generateImpliedEndTags_keep' hall heq hxs).bind ?_
  rintro _ s1 ⟨post0, st, hp, hall1, hnm⟩
  unfold expectToClose
  refine (sat_expectToCloseS hall1 st.openElems ?_ ?_).mono ?_
  · unfold namedP; rw [hnm x (by simp)]; exact hx
  · intro y hy
    unfold namedP; rw [hnm y (by simp [hy])]
    exact hpost y (hp y hy)
  · intro _ s2 st2
    exact ⟨st.fr.trans st2.fr, st2.openElems, st2.af.trans st.af⟩

/-- `close_p_element_in_button_scope`: pops at most the topmost `p` and what is above it, none of
which is a scope boundary of the button scope -/
theorem sat_closePElementInButtonScope {s : State} (hall : AllEl s.dom s.openElems) :
    Sat closePElementInButtonScope s (fun _ s' => ∃ pre post, s.openElems = pre ++ post ∧ St s s' pre ∧
      ∀ y ∈ post, namedP s.dom "p".toList y = true ∨ buttonScope (nm s.dom y) = false) := by
  unfold closePElementInButtonScope
  refine (sat_inScopeNamed hall).bind ?_
  rintro b s1 ⟨rfl, hq1⟩
  split
  · rename_i hb
    obtain ⟨pre, x, post, hs⟩ := inScopeP_split hb
    have hall1 : AllEl s1.dom s1.openElems := by rw [hq1.openElems]; exact hall.ext hq1.ext
    have hnm : ∀ z ∈ s.openElems, nm s1.dom z = nm s.dom z := fun z hz => hall.nm_eq hq1.ext hz
    have hmem : ∀ z ∈ post, z ∈ s.openElems := fun z hz => by
      rw [hs.eq]; exact List.mem_append_right _ (List.mem_cons_of_mem _ hz)
    refine (sat_closePElement (pre := pre) (x := x) (post := post) hall1 (by rw [hq1.openElems]; exact hs.eq) ?_ ?_).mono ?_
    · unfold namedP; rw [hnm x (by rw [hs.eq]; simp)]; exact hs.px
    · intro y hy; unfold namedP; rw [hnm y (hmem y hy)]; exact (hs.above y hy).1
    · intro _ s2 st
      refine ⟨pre, x :: post, hs.eq, hq1.same.st_left st, ?_⟩
      intro y hy
      rcases List.mem_cons.mp hy with h | h
      · rw [h]; exact Or.inl hs.px
      · exact Or.inr (hs.above y h).2
  · exact sat_pure ⟨s.openElems, [], by simp, hq1.same, by simp⟩

/-! ### `reset_insertion_mode` -/

/-- what the result of `reset_insertion_mode` guarantees about the stack it was computed from -/
structure ResetOk (s : State) (m : Mode) : Prop where
  notPre : preRoot m = false
  notSpecial : m ≠ .text ∧ m ≠ .inTableText ∧ m ≠ .inHeadNoscript
  stack : ModeStack s.dom m s.openElems
  head : needsHead m = true → s.headElem.isSome = true

theorem isName_eq {n : Str} {x : String} (h : isName n x = true) : n = x.toList := by
  simpa [isName] using (beq_iff_eq.mp h).symm

theorem ename_eq {n : EName} {loc : String} (hns : (n.ns != nsHtml) = false) (hl : isName n.loc loc = true) :
    n = ⟨nsHtml, loc.toList⟩ := by
  cases n with
  | mk ns l =>
    simp only [bne_eq_false_iff_eq] at hns
    simp only at hns hl
    rw [hns, isName_eq hl]

theorem sat_resetLoop : ∀ (l : List Id) (len : Nat) (s : State), HInv s →
    (∀ x ∈ l, x ∈ s.openElems) → len = l.length →
    (∀ x ∈ s.templateModes, tmplModeOk x = true) →
    (tcount s.dom l + ctxTmpl s ≤ s.templateModes.length) →
    ((∃ x ∈ s.openElems, nm s.dom x = headName) → s.headElem.isSome = true) →
    Sat (resetLoop l len) s (fun m s' => QF s s' ∧ ResetOk s' m) := by
  intro l
  induction l with
  | nil =>
    intro len s _ _ _ _ _ _
    exact sat_pure ⟨QF.refl s, ⟨rfl, by decide, trivial, fun h => absurd h (by decide)⟩⟩
  | cons node rest ih =>
    intro len s hi hmem hlen htm htc hhead
    unfold resetLoop
    refine sat_getS_bind ?_
    dsimp only
    have hrest : ∀ (last : Bool) (nd : Id), IsEl s.dom nd → (last = false → nd = node) →
        (nm s.dom nd = tmplName → s.templateModes ≠ []) →
        Sat (do
          let n ← elemName nd
          if (n.ns != nsHtml) = true then resetLoop rest (len - 1)
            else
              if (isOneOf n.loc ["td", "th"] && !last) = true then pure Mode.inCell
              else
                if isName n.loc "tr" = true then pure Mode.inRow
                else
                  if isOneOf n.loc ["tbody", "thead", "tfoot"] = true then pure Mode.inTableBody
                  else
                    if isName n.loc "caption" = true then pure Mode.inCaption
                    else
                      if isName n.loc "colgroup" = true then pure Mode.inColumnGroup
                      else
                        if isName n.loc "table" = true then pure Mode.inTable
                        else
                          if isName n.loc "template" = true then
                            match s.templateModes.getLast? with
                            | some m => pure m
                            | none => panicAt "unwrap-none" "mod.rs:1294" "template_modes.last().unwrap()"
                          else
                            if isName n.loc "head" = true then
                              if (!last) = true then pure Mode.inHead else resetLoop rest (len - 1)
                            else
                              if isName n.loc "body" = true then pure Mode.inBody
                              else
                                if isName n.loc "frameset" = true then pure Mode.inFrameset
                                else
                                  if isName n.loc "html" = true then
                                    match s.headElem with
                                    | none => pure Mode.beforeHead
                                    | some val => pure Mode.afterHead
                                  else resetLoop rest (len - 1)) s (fun m s' => QF s s' ∧ ResetOk s' m) := by
      intro last nd hel hnl htmpl
      refine (sat_elemName hel).bind ?_
      rintro n s1 ⟨rfl, hq⟩
      have hcont : Sat (resetLoop rest (len - 1)) s1 (fun m s' => QF s s' ∧ ResetOk s' m) := by
        refine (ih (len - 1) s1 (hi.of_qf hq) ?_ ?_ ?_ ?_ ?_).mono (fun m s2 h => ⟨hq.trans h.1, h.2⟩)
        · intro x hx; rw [hq.openElems]; exact hmem x (List.mem_cons_of_mem _ hx)
        · simp [hlen]
        · rw [hq.templateModes]; exact htm
        · rw [hq.templateModes, ctxTmpl_fr hi hq.fr,
            tcount_ext hq.ext (hi.open_el.sub (fun x hx => hmem x (List.mem_cons_of_mem _ hx)))]
          have : tcount s.dom rest ≤ tcount s.dom (node :: rest) := by
            unfold tcount; rw [List.countP_cons]; omega
          omega
        · rw [hq.openElems, hq.headElem]
          rintro ⟨x, hx, hn⟩
          exact hhead ⟨x, hx, by rw [← hi.open_el.nm_eq hq.ext hx]; exact hn⟩
      have triv : ∀ (m : Mode), preRoot m = false → (m ≠ .text ∧ m ≠ .inTableText ∧ m ≠ .inHeadNoscript) →
          ModeStack s1.dom m s1.openElems → (needsHead m = true → s1.headElem.isSome = true) →
          Sat (pure m : M Mode) s1 (fun m s' => QF s s' ∧ ResetOk s' m) :=
        fun m h1 h2 h3 h4 => sat_pure ⟨hq, ⟨h1, h2, h3, h4⟩⟩
      refine sat_ite (fun hns => hcont) fun hns => ?_
      have hns' : ((nm s.dom nd).ns != nsHtml) = false := by simpa using hns
      refine sat_ite (fun h1 => ?_) fun h1 => ?_
      · simp only [Bool.and_eq_true, Bool.not_eq_true'] at h1
        have hnode := hnl h1.2
        subst hnode
        refine triv .inCell rfl (by decide) ?_ (fun h => absurd h (by decide))
        refine ⟨nd, by rw [hq.openElems]; exact hmem nd List.mem_cons_self, ?_⟩
        rw [nm_ext hq.ext hel]
        unfold tdTh htmlIn
        simp only [Bool.and_eq_true, beq_iff_eq]
        exact ⟨by simpa using hns', h1.1⟩
      refine sat_ite (fun h2 => triv .inRow rfl (by decide) trivial (fun h => absurd h (by decide))) fun h2 => ?_
      refine sat_ite (fun h3 => triv .inTableBody rfl (by decide) trivial (fun h => absurd h (by decide))) fun h3 => ?_
      refine sat_ite (fun h4 => triv .inCaption rfl (by decide) trivial (fun h => absurd h (by decide))) fun h4 => ?_
      refine sat_ite (fun h5 => triv .inColumnGroup rfl (by decide) trivial (fun h => absurd h (by decide))) fun h5 => ?_
      refine sat_ite (fun h6 => triv .inTable rfl (by decide) trivial (fun h => absurd h (by decide))) fun h6 => ?_
      refine sat_ite (fun htp => ?_) fun htp => ?_
      · have hne := htmpl (ename_eq hns' htp)
        cases hgl : s.templateModes.getLast? with
        | none => exact absurd (List.getLast?_eq_none_iff.mp hgl) hne
        | some m =>
          dsimp only
          have hm := htm m (List.mem_of_getLast? hgl)
          have hcases : m = .inTemplate ∨ m = .inTable ∨ m = .inColumnGroup ∨ m = .inTableBody ∨
              m = .inRow ∨ m = .inBody := by
            revert hm; cases m <;> decide
          rcases hcases with h | h | h | h | h | h <;> subst h <;>
            exact triv _ rfl (by decide) trivial (fun h => absurd h (by decide))
      refine sat_ite (fun hhd => ?_) fun hhd => ?_
      · by_cases hnl' : (!last) = true
        · rw [if_pos hnl']
          have hnode := hnl (by simpa using hnl')
          subst hnode
          have hmemn : nd ∈ s.openElems := hmem nd List.mem_cons_self
          have hname : nm s.dom nd = headName := ename_eq hns' hhd
          refine triv .inHead rfl (by decide) ?_ ?_
          · exact ⟨nd, by rw [hq.openElems]; exact hmemn, by rw [nm_ext hq.ext hel]; exact hname⟩
          · intro _; rw [hq.headElem]; exact hhead ⟨nd, hmemn, hname⟩
        · rw [if_neg hnl']; exact hcont
      refine sat_ite (fun h7 => triv .inBody rfl (by decide) trivial (fun h => absurd h (by decide))) fun h7 => ?_
      refine sat_ite (fun h8 => triv .inFrameset rfl (by decide) trivial (fun h => absurd h (by decide))) fun h8 => ?_
      refine sat_ite (fun h9 => ?_) fun h9 => ?_
      · cases hh : s.headElem with
        | none => exact triv .beforeHead rfl (by decide) trivial (fun h => absurd h (by decide))
        | some v => exact triv .afterHead rfl (by decide) trivial (fun _ => by rw [hq.headElem, hh]; rfl)
      exact hcont
    -- the node looked at
    have hnodeEl : IsEl s.dom node := hi.open_el node (hmem node List.mem_cons_self)
    have hnodeT : nm s.dom node = tmplName → s.templateModes ≠ [] := by
      intro hn hnil
      rw [hnil] at htc
      have : 1 ≤ tcount s.dom (node :: rest) := by
        unfold tcount; rw [List.countP_cons]; simp [isTmpl, hn]
      simp at htc; omega
    cases hlast : (len - 1 == 0) with
    | false => exact hrest false node hnodeEl (fun _ => rfl) hnodeT
    | true =>
      cases hc : s.contextElem with
      | none => exact hrest true node hnodeEl (fun _ => rfl) hnodeT
      | some ctx =>
        refine hrest true ctx (hi.ctx ctx hc) (fun h => by cases h) ?_
        intro hn hnil
        rw [hnil] at htc
        have : ctxTmpl s = 1 := by unfold ctxTmpl; rw [hc]; simp [hn]
        simp at htc; omega

theorem sat_resetInsertionMode {s : State} (hi : HInv s)
    (htm : ∀ x ∈ s.templateModes, tmplModeOk x = true)
    (htc : tcount s.dom s.openElems + ctxTmpl s ≤ s.templateModes.length)
    (hhead : (∃ x ∈ s.openElems, nm s.dom x = headName) → s.headElem.isSome = true) :
    Sat resetInsertionMode s (fun m s' => QF s s' ∧ ResetOk s' m) := by
  unfold resetInsertionMode
  refine sat_getS_bind ?_
  refine sat_resetLoop _ _ s hi (fun x hx => List.mem_reverse.mp hx) (by simp) htm ?_ hhead
  have : tcount s.dom s.openElems.reverse = tcount s.dom s.openElems := by
    unfold tcount; exact List.countP_reverse
  rw [this]; exact htc

/-! ### `close_the_cell`, `create_root`, `parse_raw_data` -/

theorem tdTh_not_cursory {n : EName} (h : tdTh n = true) : cursoryImpliedEnd n = false := by
  cases n with
  | mk ns loc =>
    simp only [tdTh, htmlIn, Bool.and_eq_true, beq_iff_eq] at h
    obtain ⟨rfl, h2⟩ := h
    obtain ⟨x, hx, rfl⟩ := isOneOf_cases h2
    rw [cursoryImpliedEnd, htmlIn_html, isOneOf_toList]
    revert x
    decide

theorem sat_closeTheCell {s : State} {pre post : List Id} {x : Id}
    (hall : AllEl s.dom s.openElems) (heq : s.openElems = pre ++ x :: post)
    (hx : tdTh (nm s.dom x) = true) (hpost : ∀ y ∈ post, tdTh (nm s.dom y) = false) :
    Sat closeTheCell s (fun _ s' => Fr s s' ∧ s'.openElems = pre ∧
      ∀ e ∈ s'.activeFormatting, e ∈ s.activeFormatting) := by
  unfold closeTheCell
  refine (sat_generateImpliedEndTags_keep' hall heq (tdTh_not_cursory hx)).bind ?_
  rintro _ s1 ⟨post0, st, hp, hall1, hnm⟩
  refine (sat_popUntil (pred := tdTh) hall1 st.openElems ?_ ?_).bind ?_
  · rw [hnm x (by simp)]; exact hx
  · intro y hy
    rw [hnm y (by simp [hy])]
    exact hpost y (hp y hy)
  · rintro n s2 ⟨st2, -⟩
    have hfin : ∀ s3, QF s2 s3 → Sat clearActiveFormattingToMarker s3 (fun _ s' => Fr s s' ∧ s'.openElems = pre ∧
        ∀ e ∈ s'.activeFormatting, e ∈ s.activeFormatting) := by
      intro s3 hq3
      refine sat_clearActiveFormattingToMarker.mono ?_
      rintro _ s4 rfl
      refine ⟨((st.fr.trans st2.fr).trans hq3.fr).withAF _, by rw [hq3.openElems]; exact st2.openElems, ?_⟩
      intro e he
      have := mem_clearedAF he
      rw [hq3.activeFormatting, st2.af, st.af] at this
      exact this
    split
    · exact sat_parseError.bind (fun _ s3 hq3 => hfin s3 hq3)
    · exact hfin s2 (QF.refl _)

/-- `create_root` on the empty stack -/
theorem sat_createRoot {attrs : List Attr} {s : State} :
    Sat (createRoot attrs) s (fun _ s' => ∃ r, Fr s s' ∧ s'.openElems = s.openElems ++ [r] ∧
      s'.activeFormatting = s.activeFormatting ∧ IsEl s'.dom r ∧ nm s'.dom r = htmlName ∧
      (∀ x, IsEl s.dom x → x ≠ r)) := by
  unfold createRoot
  refine sat_createElementWithFlags.bind ?_
  intro elem s1 hc
  refine sat_push.bind ?_
  rintro _ s2 rfl
  refine sat_getS_bind ?_
  refine (sat_sinkUnit_mut (op := SinkOp.append _ _) trivial).mono ?_
  intro _ s3 hq3
  refine ⟨elem, (hc.qf.fr.withOpen _).trans hq3.fr, ?_, ?_, hc.el.ext hq3.ext, ?_, fun x hx => hc.ne hx⟩
  · rw [hq3.openElems]; show s1.openElems ++ [elem] = _; rw [hc.qf.openElems]
  · rw [hq3.activeFormatting]; exact hc.qf.activeFormatting
  · rw [nm_ext hq3.ext hc.el, hc.nm]; rfl

theorem sat_parseRawData {tag : Tag} {k : H5V.Model.HtmlTok.RawKind} {s : State} (hp : PlaceOk s none) :
    Sat (parseRawData tag k) s (fun res s' => res = .toRawData k ∧ ∃ s1 r, Inserted s s1 r nsHtml tag.name true ∧
      s' = { s1 with origMode := some s1.mode, mode := .text }) := by
  unfold parseRawData
  refine (sat_insertElementFor hp).bind ?_
  intro r s1 hins
  exact sat_toRawTextMode.mono (fun res s2 h => ⟨h.1, s1, r, hins, h.2⟩)

/-! ### foreign content -/

def adjNode (s : State) : Option Id :=
  match s.openElems.getLast? with
  | none => none
  | some top => if s.openElems.length == 1 then (match s.contextElem with | some c => some c | none => some top)
                else some top

theorem adjNode_el {s : State} (hi : HInv s) {c : Id} (h : adjNode s = some c) : IsEl s.dom c := by
  unfold adjNode at h
  cases hl : s.openElems.getLast? with
  | none => rw [hl] at h; cases h
  | some top =>
    rw [hl] at h
    simp only at h
    have htop := hi.open_el top (getLast?_mem hl)
    split at h
    · cases hc : s.contextElem with
      | none => rw [hc] at h; cases h; exact htop
      | some c' => rw [hc] at h; cases h; exact hi.ctx _ hc
    · cases h; exact htop

theorem sat_adjustedCurrentNode' {s : State} {top : Id} (hl : s.openElems.getLast? = some top) :
    Sat adjustedCurrentNode s (fun r s' => s' = s ∧ adjNode s = some r) := by
  refine (sat_adjustedCurrentNode hl).mono ?_
  rintro r s' ⟨rfl, hr⟩
  refine ⟨rfl, ?_⟩
  unfold adjNode
  rw [hl, hr]
  simp only
  split
  · cases s'.contextElem <;> rfl
  · rfl

/-- `is_foreign`: a `true` answer means the adjusted current node is not in the HTML namespace -/
theorem sat_isForeign {token : Token} {s : State} (hi : HInv s) :
    Sat (isForeign token) s (fun b s' => QF s s' ∧
      (b = true → ∃ c, adjNode s = some c ∧ (nm s.dom c).ns ≠ nsHtml)) := by
  unfold isForeign
  refine sat_ite (fun _ => sat_pure ⟨QF.refl s, fun h => by cases h⟩) fun _ => ?_
  · refine sat_getS_bind ?_
    refine sat_ite (fun _ => sat_pure ⟨QF.refl s, fun h => by cases h⟩) fun hne => ?_
    · have hne' : s.openElems ≠ [] := by intro e; rw [e] at hne; simp at hne
      obtain ⟨top, hl⟩ := getLast?_of_ne_nil hne'
      refine (sat_adjustedCurrentNode' hl).bind ?_
      rintro cur s0 ⟨rfl, hadj⟩
      have hel := adjNode_el hi hadj
      refine (sat_elemName hel).bind ?_
      rintro n s1 ⟨rfl, hq1⟩
      refine sat_ite (fun hns => sat_pure ⟨hq1, fun h => by cases h⟩) fun hns => ?_
      have hres : ∃ c, adjNode s0 = some c ∧ (nm s0.dom c).ns ≠ nsHtml :=
        ⟨cur, hadj, by simpa using hns⟩
      have hl1 : s1.openElems.getLast? = some top := by rw [hq1.openElems]; exact hl
      have hip : Sat (do
          let cur ← adjustedCurrentNode
          pure (!(← sinkBool (.isMathmlAnnotationXmlIntegrationPoint cur)))) s1
          (fun b s' => QF s0 s' ∧ (b = true → ∃ c, adjNode s0 = some c ∧ (nm s0.dom c).ns ≠ nsHtml)) := by
        refine (sat_adjustedCurrentNode' hl1).bind ?_
        rintro cur' s1' ⟨rfl, hadj'⟩
        have hel' := adjNode_el (hi.of_qf hq1) hadj'
        refine (sat_isMathmlIP hel').bind ?_
        intro b s2 hq2
        exact sat_pure ⟨hq1.trans hq2, fun _ => hres⟩
      have hf : Sat (pure false : M Bool) s1
          (fun b s' => QF s0 s' ∧ (b = true → ∃ c, adjNode s0 = some c ∧ (nm s0.dom c).ns ≠ nsHtml)) := by
        refine sat_pure ?_; exact ⟨hq1, fun h => by cases h⟩
      have ht : Sat (pure true : M Bool) s1
          (fun b s' => QF s0 s' ∧ (b = true → ∃ c, adjNode s0 = some c ∧ (nm s0.dom c).ns ≠ nsHtml)) := by
        refine sat_pure ?_; exact ⟨hq1, fun _ => hres⟩
      dsimp only
      refine sat_ite (fun _ => hf) fun _ => sat_ite (fun _ => hf) fun _ => sat_ite (fun _ => ?_) fun _ => ht
      split
      · exact sat_ite (fun _ => hf) fun _ => hip
      · exact sat_ite (fun _ => hip) fun _ => ht

theorem sat_popToIntegrationPointLoop : ∀ (fuel : Nat) (s : State) (pre post : List Id) (x : Id),
    AllEl s.dom s.openElems → s.openElems = pre ++ post → pre.getLast? = some x → (nm s.dom x).ns = nsHtml →
    post.length < fuel →
    Sat (popToIntegrationPointLoop fuel) s (fun _ s' => ∃ post1 post2, post = post1 ++ post2 ∧
      St s s' (pre ++ post1)) := by
  intro fuel
  induction fuel with
  | zero => intro s pre post x _ _ _ _ h; exact absurd h (Nat.not_lt_zero _)
  | succ fuel ih =>
    intro s pre post x hall heq hx hns hlen
    unfold popToIntegrationPointLoop
    dsimp only
    rcases List.eq_nil_or_concat post with rfl | ⟨post0, y, rfl⟩
    · have hl : s.openElems.getLast? = some x := by rw [heq]; simpa using hx
      refine (sat_currentNodeIn hl (hall x (getLast?_mem hl))).bind ?_
      rintro b s1 ⟨rfl, hq⟩
      have : ((nm s.dom x).ns == nsHtml || mathmlTextIntegrationPoint (nm s.dom x) ||
          svgHtmlIntegrationPoint (nm s.dom x)) = true := by simp [hns]
      rw [if_pos this]
      refine Sat.bind (Q := fun stop s2 => stop = true ∧ s2 = s1) (sat_pure ⟨rfl, rfl⟩) ?_
      rintro stop s2 ⟨rfl, rfl⟩
      simp only [if_true]
      exact sat_pure ⟨[], [], rfl, hq.fr, by rw [hq.openElems, heq], hq.activeFormatting⟩
    · have heq' : s.openElems = (pre ++ post0) ++ [y] := by rw [heq]; simp
      have hl : s.openElems.getLast? = some y := by rw [heq']; exact List.getLast?_concat
      have hyel := hall y (getLast?_mem hl)
      have htail : ∀ (stop : Bool) (s1 : State), QF s s1 →
          Sat (if stop = true then pure ()
            else do
              let _ ← pop
              popToIntegrationPointLoop fuel) s1
            (fun _ s' => ∃ post1 post2, post0.concat y = post1 ++ post2 ∧ St s s' (pre ++ post1)) := by
        intro stop s1 hq
        split
        · refine sat_pure ⟨post0 ++ [y], [], by simp, hq.fr, ?_, hq.activeFormatting⟩
          rw [hq.openElems, heq]; simp
        · have hl1 : s1.openElems.getLast? = some y := by rw [hq.openElems]; exact hl
          refine (sat_pop hl1).bind ?_
          rintro _ s2 ⟨-, st⟩
          have hdrop : s1.openElems.dropLast = pre ++ post0 := by
            rw [hq.openElems, heq', List.dropLast_concat]
          have hallp : AllEl s.dom (pre ++ post0) := hall.sub (fun z hz => by
            rw [heq']; exact List.mem_append_left _ hz)
          have he2 : Ext s.dom s2.dom := hq.ext.trans st.fr.ext
          refine (ih s2 pre post0 x ?_ (by rw [st.openElems]; exact hdrop) hx ?_ ?_).mono ?_
          · rw [st.openElems, hdrop]; exact hallp.ext he2
          · rw [hallp.nm_eq he2 (List.mem_append_left _ (getLast?_mem hx))]; exact hns
          · simp at hlen; omega
          · rintro _ s3 ⟨post1, post2, hp, st3⟩
            refine ⟨post1, post2 ++ [y], by rw [hp]; simp, hq.fr.trans (st.fr.trans st3.fr), st3.openElems, ?_⟩
            rw [st3.af, st.af]; exact hq.activeFormatting
      refine (sat_currentNodeIn hl hyel).bind ?_
      rintro b s1 ⟨rfl, hq⟩
      split
      · exact sat_pure_bind (htail _ _ hq)
      · have hl1 : s1.openElems.getLast? = some y := by rw [hq.openElems]; exact hl
        refine (sat_currentNode hl1).bind ?_
        rintro c s1' ⟨rfl, rfl⟩
        refine (sat_isMathmlIP (hyel.ext hq.ext)).bind ?_
        intro stop s2 hq2
        exact htail stop s2 (hq.trans hq2)

end H5V.Lemmas.TBSafe
