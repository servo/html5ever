import H5V.Lemmas.XmlTokRuns
import H5V.Props.C14
/-!
No-panic invariant of the XML tokenizer model (`H5V.Model.XmlTok`): every `assert!`/`unwrap`/`expect`/
`panic!`/slice index/`from_u32(..).unwrap()` site of `xml5ever/src/tokenizer/mod.rs` and
`char_ref/mod.rs` that the model represents as `.panic`/`.error` is unreachable from a machine that
satisfies `Safe` (the counterpart of `H5V.Lemmas.HtmlTokSafe`).

* `CRSafe`, `crStateOk`, `Safe` — the invariant;
* `crStep_safe` — the character-reference sub-tokenizer (`discard_char`'s `assert!(c.is_some())`, the
  `name_buf` `expect`s, `name_len > 0`, the slice indices and `from_u32(c).unwrap()` of `finish_named`
  via the kernel-checked table fact `C14_rows_wellformed`, `conv` and the `C1_REPLACEMENTS` index of
  `finish_numeric`);
* `transChar_no_panic`, `transSet_charRef`, `processCharRef_no_panic` — the tables;
* `step_safe`, `run_safe`, `run_drains`, `feed_safe`, `feed_drains`;
* `finishPre_ok`, `eofLoop_ok`, `finish_safe_partial`, `finish_eof_last` — `XmlTokenizer::end`.
-/
namespace H5V.Model.XmlTok

/-- the sub-tokenizer's registers are consistent -/
structure CRSafe (cr : CharRefSt) : Prop where
  named : (cr.state = .named ∨ cr.state = .bogusName) → cr.nameBuf ≠ none
  matchState : cr.nameMatch ≠ none → cr.state = .named
  matched : ∀ c1 c2, cr.nameMatch = some (c1, c2) →
    ∃ nb, cr.nameBuf = some nb ∧ 0 < cr.nameLen ∧ cr.nameLen ≤ nb.length ∧
      isValidScalar c1 = true ∧ isValidScalar c2 = true

/-- a character reference is only ever in progress in a state that can take its result -/
def crStateOk (s : State) : Prop := s = .data ∨ ∃ k, s = .tagAttrValue k

structure Safe (m : Mach) : Prop where
  crState : ∀ cr, m.charRef = some cr → crStateOk m.state
  crRegs : ∀ cr, m.charRef = some cr → CRSafe cr

theorem c1_entries_valid : ∀ i ∈ List.range 32,
    (match Gen.C1.table[i]? with
     | some (some r) => isValidScalar r
     | some none => true
     | none => false) = true := by decide

theorem c1_entries_nonzero : ∀ i ∈ List.range 32,
    (match Gen.C1.table[i]? with
     | some (some r) => decide (r ≠ 0)
     | _ => true) = true := by decide

/-- `finish_numeric` always delivers a character: U+FFFD, or a valid non-zero scalar value -/
theorem finishNumeric_char (o : Opts) (m : Mach) (cr : CharRefSt) :
    (finishNumeric o m cr).2 = .ok '�' ∨
    ∃ n, isValidScalar n = true ∧ n ≠ 0 ∧ (finishNumeric o m cr).2 = .ok (Char.ofNat n) := by
  unfold finishNumeric
  dsimp only
  split
  · exact Or.inl rfl
  · rename_i h1
    split
    · exact Or.inl rfl
    · rename_i h2
      have hle : cr.num ≤ 0x10FFFF := by
        simp only [Bool.or_eq_true, decide_eq_true_eq, not_or] at h1; omega
      simp only [Bool.or_eq_true, decide_eq_true_eq, Bool.and_eq_true, not_or, not_and] at h2
      have hvalid : isValidScalar cr.num = true := by
        unfold isValidScalar; simp; omega
      have self : ∃ n, isValidScalar n = true ∧ n ≠ 0 ∧
          (Except.ok (Char.ofNat cr.num) : Except String Char) = .ok (Char.ofNat n) :=
        ⟨cr.num, hvalid, h2.1, rfl⟩
      split
      · rename_i h3
        have hi : cr.num - 0x80 ∈ List.range 32 := by
          simp only [Bool.and_eq_true, decide_eq_true_eq] at h3; simp; omega
        have hv := c1_entries_valid (cr.num - 0x80) hi
        have hz := c1_entries_nonzero (cr.num - 0x80) hi
        split
        · rename_i r heq
          simp [heq] at hv hz
          exact Or.inr ⟨r, hv, hz, by simp [hv]⟩
        · exact Or.inr self
        · rename_i heq; simp [heq] at hv
      · split
        · exact Or.inr self
        · split <;> exact Or.inr self

theorem finishNumeric_ok (o : Opts) (m : Mach) (cr : CharRefSt) :
    ∃ c, (finishNumeric o m cr).2 = .ok c := by
  rcases finishNumeric_char o m cr with h | ⟨n, _, _, h⟩ <;> exact ⟨_, h⟩

theorem finishNumericStatus_ok (o : Opts) (m : Mach) (inp : Str) (cr : CharRefSt) :
    ∃ m1 c, finishNumericStatus o m inp cr = .ok (m1, inp, cr, .done [c]) := by
  obtain ⟨c, hc⟩ := finishNumeric_ok o m cr
  unfold finishNumericStatus
  cases hf : finishNumeric o m cr with
  | mk m1 r =>
    rw [hf] at hc
    simp only at hc
    subst hc
    exact ⟨m1, c, rfl⟩

theorem isValidScalar_eq (n : Nat) : isValidScalar n = H5V.Model.HtmlTok.isValidScalar n := rfl

theorem bucket_letter (c : Nat) (r : Gen.Entities.Row) (hr : r ∈ Gen.Entities.bucket c) :
    c ∈ Gen.Entities.firstLetters := by
  by_cases h : c ∈ Gen.Entities.firstLetters
  · exact h
  · exfalso
    have hb : Gen.Entities.bucket c = [] := by
      simp only [Gen.Entities.firstLetters, List.mem_cons, List.not_mem_nil, or_false, not_or] at h
      unfold Gen.Entities.bucket
      simp [h]
    rw [hb] at hr
    exact absurd hr List.not_mem_nil

/-- a full match found by the walk carries Unicode scalar values -/
theorem entityLookup_valid (nb : Str) (mt : Nat × Nat) (h : entityLookup nb = some mt) (h0 : mt.1 ≠ 0) :
    isValidScalar mt.1 = true ∧ isValidScalar mt.2 = true := by
  unfold entityLookup entityLookupN at h
  cases hk : nb.map Char.toNat with
  | nil => rw [hk] at h; simp at h; rw [← h] at h0; simp at h0
  | cons c rest =>
    rw [hk] at h
    simp only at h
    split at h
    · rename_i r hfind
      simp only [Option.some.injEq] at h
      have hmem := List.mem_of_find?_eq_some hfind
      have hc := bucket_letter c r hmem
      have := H5V.Props.C14.C14_rows_wellformed c hc r hmem
      rw [← h]
      exact ⟨this.2.2.1, this.2.2.2⟩
    · split at h
      · simp only [Option.some.injEq] at h; rw [← h] at h0; simp at h0
      · simp at h

theorem namedDecision_ok (m : Mach) (cr : CharRefSt) (nb : Str) (c1 c2 : Nat)
    (h1 : 0 < cr.nameLen) (h2 : cr.nameLen ≤ nb.length)
    (hv : isValidScalar c1 = true ∧ isValidScalar c2 = true) :
    ∃ r, namedDecision m cr nb c1 c2 = .ok r := by
  unfold namedDecision
  dsimp only
  have hne : cr.nameLen ≠ 0 := by omega
  simp only [hne, ↓reduceIte]
  have hidx : cr.nameLen - 1 < nb.length := by omega
  rw [List.getElem?_eq_getElem hidx]
  simp only [hv.1, hv.2, Bool.and_self, Bool.not_true, Bool.false_eq_true, ↓reduceIte]
  exact ite_ind (P := fun x : Except String (Mach × Option Str) => ∃ r, x = .ok r) ⟨_, rfl⟩ ⟨_, rfl⟩


theorem finishNamed_ok (o : Opts) (m : Mach) (inp : Str) (cr : CharRefSt) (ec : Option Char)
    (hs : CRSafe cr) (hnb : cr.nameBuf ≠ none) :
    ∃ r, finishNamed o m inp cr ec = .ok r := by
  unfold finishNamed
  cases hb : cr.nameBuf with
  | none => exact absurd hb hnb
  | some nb =>
    dsimp only
    cases hm : cr.nameMatch with
    | none =>
      dsimp only
      unfold unconsumeName
      simp only [hb]
      (repeat' split) <;> exact ⟨_, rfl⟩
    | some mt =>
      obtain ⟨c1, c2⟩ := mt
      obtain ⟨nb', hnb', h1, h2, hv1, hv2⟩ := hs.matched c1 c2 hm
      rw [hb] at hnb'
      simp only [Option.some.injEq] at hnb'
      subst hnb'
      obtain ⟨r, hr⟩ := namedDecision_ok m cr nb c1 c2 h1 h2 ⟨hv1, hv2⟩
      dsimp only
      rw [hr]
      obtain ⟨m1, v⟩ := r
      cases v with
      | none => simp only [unconsumeName, hb]; exact ⟨_, rfl⟩
      | some v => exact ⟨_, rfl⟩


theorem unconsumeName_done (m : Mach) (inp : Str) (cr : CharRefSt) (m1 : Mach) (i1 : Str) (cr1 : CharRefSt)
    (st : CRStatus) (h : unconsumeName m inp cr = .ok (m1, i1, cr1, st)) : st = .done [] := by
  unfold unconsumeName at h
  split at h
  · simp at h
  · simp only [Except.ok.injEq, Prod.mk.injEq] at h
    exact h.2.2.2.symm

/-- `finish_named` either finishes the reference, or (no match yet, alphanumeric end character)
switches to the bogus-name state keeping the name buffer, still without a match -/
theorem finishNamed_progress (o : Opts) (m : Mach) (inp : Str) (cr : CharRefSt) (ec : Option Char)
    (m1 : Mach) (i1 : Str) (cr1 : CharRefSt) (st : CRStatus)
    (h : finishNamed o m inp cr ec = .ok (m1, i1, cr1, st)) :
    (∃ chars, st = .done chars) ∨
      (cr1.nameBuf = cr.nameBuf ∧ cr1.nameMatch = none ∧ ∃ c, ec = some c) := by
  unfold finishNamed at h
  cases hb : cr.nameBuf with
  | none => simp [hb] at h
  | some nb =>
    simp only [hb] at h
    cases hm : cr.nameMatch with
    | none =>
      simp only [hm] at h
      cases ec with
      | none =>
        simp only [Bool.false_eq_true, ↓reduceIte] at h
        exact Or.inl ⟨_, unconsumeName_done _ _ _ _ _ _ _ h⟩
      | some c =>
        simp only at h
        split at h
        · simp only [Except.ok.injEq, Prod.mk.injEq] at h
          obtain ⟨_, _, h3, h4⟩ := h
          right
          subst h3
          exact ⟨rfl, rfl, c, rfl⟩
        · exact Or.inl ⟨_, unconsumeName_done _ _ _ _ _ _ _ h⟩
    | some mt =>
      obtain ⟨c1, c2⟩ := mt
      simp only [hm] at h
      split at h
      · simp at h
      · exact Or.inl ⟨_, unconsumeName_done _ _ _ _ _ _ _ h⟩
      · simp only [Except.ok.injEq, Prod.mk.injEq] at h
        exact Or.inl ⟨_, h.2.2.2.symm⟩

theorem CRSafe.with_nameBuf {cr : CharRefSt} (hs : CRSafe cr) (nb : Str) (c : Char)
    (hb : cr.nameBuf = some nb) : CRSafe { cr with nameBuf := some (nb ++ [c]) } where
  named := fun _ => by simp
  matchState := fun h => hs.matchState h
  matched := fun c1 c2 hm => by
    obtain ⟨nb', hnb', h1, h2, hv⟩ := hs.matched c1 c2 hm
    rw [hb] at hnb'; simp only [Option.some.injEq] at hnb'; subst hnb'
    exact ⟨nb ++ [c], rfl, h1, by simp; omega, hv⟩


theorem CRSafe.of_nomatch {cr : CharRefSt} (h1 : cr.nameMatch = none)
    (h2 : (cr.state = .named ∨ cr.state = .bogusName) → cr.nameBuf ≠ none) : CRSafe cr :=
  ⟨h2, fun h => absurd h1 h, fun c1 c2 hm => by rw [h1] at hm; cases hm⟩

/-- a char-ref step from consistent registers never panics, and leaves consistent registers
unless it finishes the reference -/
theorem crStep_safe (o : Opts) (m : Mach) (inp : Str) (cr : CharRefSt) (hs : CRSafe cr) :
    ∃ m1 i1 cr1 st, crStep o m inp cr = .ok (m1, i1, cr1, st) ∧ ((∀ chars, st ≠ .done chars) → CRSafe cr1) := by
  have hnomatch : cr.state ≠ .named → cr.nameMatch = none := by
    intro hne
    cases hm : cr.nameMatch with
    | none => rfl
    | some v => exact absurd (hs.matchState (by simp [hm])) hne
  unfold crStep
  cases hst : cr.state with
  | begin =>
    have hnm := hnomatch (by rw [hst]; simp)
    simp only
    cases hpk : peek m inp with
    | none => exact ⟨_, _, _, _, rfl, fun _ => hs⟩
    | some c =>
      simp only
      by_cases hws : (c = '\t' || c = '\n' || c = '\x0c' || c = ' ' || c = '<' || c = '&') = true
      · simp only [hws, ↓reduceIte]
        exact ⟨_, _, _, _, rfl, fun h => absurd rfl (h [])⟩
      · simp only [hws, Bool.false_eq_true, ↓reduceIte]
        by_cases hadd : some c = cr.addnlAllowed
        · simp only [hadd, ↓reduceIte]
          exact ⟨_, _, _, _, rfl, fun h => absurd rfl (h [])⟩
        · simp only [hadd, ↓reduceIte]
          by_cases hh : c = '#'
          · obtain ⟨m', i', hd1, _⟩ := discardChar_ok o m inp c hpk (by rw [hh]; decide)
            simp only [hh, ↓reduceIte]
            rw [hh] at hpk
            rw [hd1]
            exact ⟨_, _, _, _, rfl, fun _ => CRSafe.of_nomatch hnm (fun h => by simp at h)⟩
          · simp only [hh, ↓reduceIte]
            exact ⟨_, _, _, _, rfl, fun _ => CRSafe.of_nomatch hnm (fun _ => by simp)⟩
  | octothorpe =>
    have hnm := hnomatch (by rw [hst]; simp)
    simp only
    cases hpk : peek m inp with
    | none => exact ⟨_, _, _, _, rfl, fun _ => hs⟩
    | some c =>
      simp only
      by_cases hx : (c = 'x' || c = 'X') = true
      · obtain ⟨m', i', hd1, _⟩ := discardChar_ok o m inp c hpk (by
          intro hc; subst hc; simp at hx)
        simp only [hx, ↓reduceIte, hd1]
        exact ⟨_, _, _, _, rfl, fun _ => CRSafe.of_nomatch hnm (fun h => by simp at h)⟩
      · simp only [hx, Bool.false_eq_true, ↓reduceIte]
        exact ⟨_, _, _, _, rfl, fun _ => CRSafe.of_nomatch hnm (fun h => by simp at h)⟩
  | numeric base =>
    have hnm := hnomatch (by rw [hst]; simp)
    simp only
    cases hpk : peek m inp with
    | none => exact ⟨_, _, _, _, rfl, fun _ => hs⟩
    | some c =>
      simp only
      cases hd : toDigit c base with
      | some n =>
        obtain ⟨m', i', hd1, _⟩ := discardChar_ok o m inp c hpk (by
          intro hc; subst hc; simp [toDigit] at hd)
        simp only [hd1]
        exact ⟨_, _, _, _, rfl, fun _ => CRSafe.of_nomatch hnm (fun h => by simp at h)⟩
      | none =>
        simp only
        split
        · exact ⟨_, _, _, _, rfl, fun h => absurd rfl (h [])⟩
        · exact ⟨_, _, _, _, rfl, fun _ => CRSafe.of_nomatch hnm (fun h => by simp at h)⟩
  | numericSemicolon =>
    simp only
    cases hpk : peek m inp with
    | none => exact ⟨_, _, _, _, rfl, fun _ => hs⟩
    | some c =>
      simp only
      by_cases hsc : c = ';'
      · obtain ⟨m', i', hd1, _⟩ := discardChar_ok o m inp c hpk (by rw [hsc]; decide)
        simp only [hsc, ↓reduceIte, hd1]
        obtain ⟨m1, c', h'⟩ := finishNumericStatus_ok o m' i' cr
        exact ⟨_, _, _, _, h', fun h => absurd rfl (h [c'])⟩
      · simp only [hsc, ↓reduceIte]
        obtain ⟨m1, c', h'⟩ := finishNumericStatus_ok o
          (emitErr m "Semicolon missing after numeric character reference") inp cr
        exact ⟨_, _, _, _, h', fun h => absurd rfl (h [c'])⟩
  | named =>
    simp only
    cases hg : getChar o m inp with
    | mk c r =>
      obtain ⟨m2, i2⟩ := r
      cases c with
      | none => exact ⟨_, _, _, _, rfl, fun _ => hs⟩
      | some c =>
        simp only
        cases hb : cr.nameBuf with
        | none => exact absurd hb (hs.named (Or.inl hst))
        | some nb =>
          simp only
          have hs' := hs.with_nameBuf nb c hb
          rw [hst] at hs'
          cases hl : entityLookup (nb ++ [c]) with
          | none =>
            simp only
            obtain ⟨r, hr⟩ := finishNamed_ok o m2 i2 _ (some c) hs' (by simp)
            obtain ⟨m1, i1, cr1, st⟩ := r
            refine ⟨m1, i1, cr1, st, hr, fun hnd => ?_⟩
            rcases finishNamed_progress o _ _ _ _ m1 i1 cr1 st hr with ⟨chars, hd⟩ | ⟨hnb1, hnm1, _⟩
            · exact absurd hd (hnd chars)
            · exact CRSafe.of_nomatch hnm1 (fun _ => by rw [hnb1]; simp)
          | some mt =>
            simp only
            split
            · rename_i h0
              have hv := entityLookup_valid (nb ++ [c]) mt hl h0
              refine ⟨_, _, _, _, rfl, fun _ => ⟨fun _ => by simp, fun _ => rfl, fun c1 c2 hm => ?_⟩⟩
              simp only [Option.some.injEq] at hm
              subst hm
              exact ⟨nb ++ [c], rfl, by simp, by simp, hv⟩
            · exact ⟨_, _, _, _, rfl, fun _ => hs'⟩
  | bogusName =>
    simp only
    cases hg : getChar o m inp with
    | mk c r =>
      obtain ⟨m2, i2⟩ := r
      cases c with
      | none => exact ⟨_, _, _, _, rfl, fun _ => hs⟩
      | some c =>
        simp only
        cases hb : cr.nameBuf with
        | none => exact absurd hb (hs.named (Or.inr hst))
        | some nb =>
          simp only
          split
          · have hs' := hs.with_nameBuf nb c hb
            rw [hst] at hs'
            exact ⟨_, _, _, _, rfl, fun _ => hs'⟩
          · simp only [unconsumeName]
            exact ⟨_, _, _, _, rfl, fun h => absurd rfl (h [])⟩


/-! ### the tables never panic when called from `step` -/

theorem transChar_no_panic (o : Opts) (m : Mach) (c : Char) (e : String)
    (hk : readKind m.state = .getChar ∨ m.state = .afterDoctypeName) :
    (transChar o m c).2 ≠ .panic e := by
  unfold transChar
  split <;> (repeat' with_reducible refine ite_ind (P := fun x : Mach × Sig => x.2 ≠ .panic e) ?_ ?_) <;>
    first | exact fun h => Sig.noConfusion h | simp_all [readKind]

/-- `transSet` either leaves `char_ref_tokenizer` alone or starts a fresh one, in a state that can
take its result and without changing the state; it never panics from a `pop_except_from` state -/
theorem transSet_charRef (m : Mach) (r : SetRes) (hcr : m.charRef = none)
    (hk : readKind m.state = .popExcept) :
    (∀ e, (transSet m r).2 ≠ .panic e) ∧
    ((transSet m r).1.charRef = none ∨
      ((∃ a, (transSet m r).1.charRef = some { addnlAllowed := a }) ∧
        crStateOk m.state ∧ (transSet m r).1.state = m.state)) := by
  cases hs : m.state with
  | data => cases r <;> simp only [transSet, hs] <;> (repeat' split) <;> simp_all [crStateOk]
  | tagAttrValue k =>
    cases k <;> cases r <;> simp only [transSet, hs] <;> (repeat' split) <;> simp_all [crStateOk]
  | _ => simp [hs, readKind] at hk


/-! ### `step` never panics and preserves `Safe` -/

theorem Safe.of_none {m : Mach} (h : m.charRef = none) : Safe m :=
  ⟨fun cr hcr => by rw [h] at hcr; simp at hcr, fun cr hcr => by rw [h] at hcr; simp at hcr⟩

theorem CRSafe.fresh (a : Option Char) : CRSafe { addnlAllowed := a } :=
  ⟨fun h => by simp at h, fun h => by simp at h, fun c1 c2 h => by simp at h⟩

theorem ofSig_panic (ms : Mach × Sig) (inp : Str) (e : String) (h : ofSig ms inp = .panic e) :
    ms.2 = .panic e := by
  unfold ofSig at h; split at h <;> simp_all

theorem processCharRef_no_panic (m : Mach) (chars : Str) (h : crStateOk m.state) (e : String) :
    (processCharRef m chars).2 ≠ .panic e := by
  unfold processCharRef
  dsimp only
  rcases h with h | ⟨k, h⟩ <;> simp [h]

theorem stepCharRef_safe (o : Opts) (m : Mach) (inp : Str) (cr : CharRefSt) (hs : Safe m)
    (hcr : m.charRef = some cr) :
    (∀ e, stepCharRef o m inp cr ≠ .panic e) ∧
    (∀ m', (stepCharRef o m inp cr).mach? = some m' → Safe m') := by
  obtain ⟨m1, i1, cr1, st, hc, hsafe⟩ := crStep_safe o m inp cr (hs.crRegs cr hcr)
  have hw : Pres m1 m := by
    have := crStep_pres o m inp cr
    rw [hc] at this; exact this
  have hst : crStateOk m1.state := by rw [hw.2.2.1]; exact hs.crState cr hcr
  unfold stepCharRef
  rw [hc]
  cases st with
  | stuck =>
    refine ⟨fun e => by simp, fun m' h => ?_⟩
    simp only [R.mach?, Option.some.injEq] at h; subst h
    exact ⟨fun cr' h' => by simpa using hst, fun cr' h' => by
      simp only [setCharRef_charRef, Option.some.injEq] at h'; subst h'; exact hsafe (by simp)⟩
  | progress =>
    refine ⟨fun e => by simp, fun m' h => ?_⟩
    simp only [R.mach?, Option.some.injEq] at h; subst h
    exact ⟨fun cr' h' => by simpa using hst, fun cr' h' => by
      simp only [setCharRef_charRef, Option.some.injEq] at h'; subst h'; exact hsafe (by simp)⟩
  | done chars =>
    refine ⟨fun e h => ?_, fun m' h => ?_⟩
    · have h' : ofSig ((processCharRef m1 chars).1.setCharRef none, (processCharRef m1 chars).2) i1 = .panic e := h
      exact processCharRef_no_panic m1 chars hst e
        (ofSig_panic ((processCharRef m1 chars).1.setCharRef none, (processCharRef m1 chars).2) i1 e h')
    · have := ofSig_mach _ _ _ h
      subst this
      exact Safe.of_none (by simp)

/-- a `get_char!` read followed by the table neither panics nor touches `char_ref_tokenizer` -/
theorem contChar_charRef (o : Opts) (m : Mach) (inp : Str)
    (hk : readKind m.state = .getChar ∨ m.state = .afterDoctypeName) :
    (∀ e, contChar o (getChar o m inp) ≠ .panic e) ∧
    (∀ m', (contChar o (getChar o m inp)).mach? = some m' → m'.charRef = m.charRef) := by
  cases hgc : getChar o m inp with
  | mk c r =>
    obtain ⟨m1, i1⟩ := r
    obtain ⟨_, _, g3, g4⟩ := getChar_fields o m m1 inp i1 c hgc
    cases c with
    | none => exact ⟨fun e h => (by cases h), fun m' h => by cases h; exact g4⟩
    | some c =>
      refine ⟨fun e h => ?_, fun m' h => ?_⟩
      · exact transChar_no_panic o m1 c e (by rw [g3]; exact hk) (ofSig_panic _ _ e h)
      · have := ofSig_mach _ _ _ h
        subst this
        rw [transChar_charRef, g4]

/-- the look-ahead states: `eat` keeps `char_ref_tokenizer` and the state, the keyword continuations
only change the state -/
theorem eatChain_charRef (o : Opts) (dflt : Mach → Str → R) (alts : List (Str × (Mach → Mach)))
    (ha : ∀ p ∈ alts, p ∈ mdAlts ++ adnAlts) (m : Mach) (inp : Str)
    (hd : ∀ m1 i1, m1.state = m.state → (∀ e, dflt m1 i1 ≠ .panic e) ∧
      ∀ m', (dflt m1 i1).mach? = some m' → m'.charRef = m1.charRef) :
    (∀ e, eatChain o dflt alts m inp ≠ .panic e) ∧
    (∀ m', (eatChain o dflt alts m inp).mach? = some m' → m'.charRef = m.charRef) := by
  refine eatChain_ind (I := fun x _ => x.charRef = m.charRef ∧ x.state = m.state)
    (Post := fun r => (∀ e, r ≠ .panic e) ∧ ∀ m', r.mach? = some m' → m'.charRef = m.charRef) o dflt alts
    (fun _ _ _ _ _ _ hi he => ?_) (fun _ _ hi => ⟨fun e h => (by cases h), fun _ hm => by cases hm; exact hi.1⟩)
    (fun p hp x _ hi => ⟨fun e h => (by cases h), fun _ hm => ?_⟩)
    (fun _ _ hi => ⟨(hd _ _ hi.2).1, fun _ hm => ((hd _ _ hi.2).2 _ hm).trans hi.1⟩) m inp ⟨rfl, rfl⟩
  · have f := eat_fields o _ _ _ _ _ _ he
    exact ⟨f.2.1.trans hi.1, f.1.trans hi.2⟩
  · cases hm
    obtain ⟨s, hc⟩ := alts_ctl p (ha p hp) x
    exact hc.2.2.2.2.2.1.trans hi.1

theorem stepMd_charRef (o : Opts) (m : Mach) (inp : Str) :
    (∀ e, stepMd o m inp ≠ .panic e) ∧
    (∀ m', (stepMd o m inp).mach? = some m' → m'.charRef = m.charRef) :=
  eatChain_charRef o _ mdAlts (fun _ => List.mem_append_left _) m inp
    fun m1 i1 _ => ⟨fun e h => (by cases h), fun m' h => by cases h; exact badChar_charRef _ _⟩

theorem stepAdn_charRef (o : Opts) (m : Mach) (inp : Str) (hs : m.state = .afterDoctypeName) :
    (∀ e, stepAdn o m inp ≠ .panic e) ∧
    (∀ m', (stepAdn o m inp).mach? = some m' → m'.charRef = m.charRef) :=
  eatChain_charRef o _ adnAlts (fun _ => List.mem_append_right _) m inp
    fun m1 i1 h1 => contChar_charRef o m1 i1 (Or.inr (h1.trans hs))

/-- with no character reference pending a step does not panic, and it leaves none pending unless
it starts a fresh one, in a state that can take its result -/
theorem step_charRef (o : Opts) (m : Mach) (inp : Str) (hcr : m.charRef = none) :
    (∀ e, step o m inp ≠ .panic e) ∧
    ∀ m', (step o m inp).mach? = some m' → m'.charRef = none ∨
      ((∃ a, m'.charRef = some { addnlAllowed := a }) ∧ crStateOk m'.state) := by
  refine step_cases (Post := fun r => (∀ e, r ≠ .panic e) ∧ ∀ m', r.mach? = some m' → m'.charRef = none ∨
      ((∃ a, m'.charRef = some { addnlAllowed := a }) ∧ crStateOk m'.state)) o m inp
    (fun cr h => by rw [hcr] at h; cases h) (fun _ hrk => ?_) (fun _ hrk => ?_) (fun _ _ => ?_)
    (fun _ hst => ?_)
  · obtain ⟨h1, h2⟩ := contChar_charRef o m inp (Or.inl hrk)
    exact ⟨h1, fun m' h => Or.inl ((h2 m' h).trans hcr)⟩
  · cases hgc : popExceptFrom o (setOf m.state) m inp with
    | mk c r =>
      obtain ⟨m1, i1⟩ := r
      obtain ⟨_, _, g3, g4⟩ := popExceptFrom_fields o _ m m1 inp i1 c hgc
      cases c with
      | none => exact ⟨fun e h => (by cases h), fun m' h => by cases h; exact Or.inl (g4.trans hcr)⟩
      | some c =>
        obtain ⟨hnp, hcase⟩ := transSet_charRef m1 c (g4.trans hcr) (by rw [g3]; exact hrk)
        refine ⟨fun e h => hnp e (ofSig_panic _ _ e h), fun m' h => ?_⟩
        have := ofSig_mach _ _ _ h
        subst this
        exact hcase.imp id fun ⟨ha, hok, hst⟩ => ⟨ha, by rw [hst]; exact hok⟩
  · obtain ⟨h1, h2⟩ := stepMd_charRef o m inp
    exact ⟨h1, fun m' h => Or.inl ((h2 m' h).trans hcr)⟩
  · obtain ⟨h1, h2⟩ := stepAdn_charRef o m inp hst
    exact ⟨h1, fun m' h => Or.inl ((h2 m' h).trans hcr)⟩

theorem step_safe (o : Opts) (m : Mach) (inp : Str) (hs : Safe m) :
    (∀ e, step o m inp ≠ .panic e) ∧ (∀ m', (step o m inp).mach? = some m' → Safe m') := by
  cases hcr : m.charRef with
  | some cr =>
    rw [step_kind_charRef o m inp cr hcr]
    exact stepCharRef_safe o m inp cr hs hcr
  | none =>
    obtain ⟨h1, h2⟩ := step_charRef o m inp hcr
    refine ⟨h1, fun m' h => ?_⟩
    rcases h2 m' h with hn | ⟨⟨a, hsome⟩, hok⟩
    · exact Safe.of_none hn
    · exact ⟨fun _ _ => hok, fun cr' h' => by
        rw [hsome] at h'; simp only [Option.some.injEq] at h'; subst h'; exact CRSafe.fresh _⟩


/-- the required shape: a step from a `Safe` machine is `.cont` or `.suspend`, into a `Safe` machine -/
theorem step_safe' (o : Opts) (m : Mach) (inp : Str) (hs : Safe m) :
    (∀ e, step o m inp ≠ .panic e) ∧
    (∀ m' inp', step o m inp = .cont m' inp' ∨ step o m inp = .suspend m' inp' → Safe m') := by
  obtain ⟨h1, h2⟩ := step_safe o m inp hs
  refine ⟨h1, fun m' inp' h => ?_⟩
  rcases h with h | h <;> exact h2 m' (by rw [h]; rfl)

/-! ### `run`, `feed` -/

/-- the executable loop never stops for a panic, and the machine it suspends in is `Safe` -/
theorem run_safe (o : Opts) (fuel : Nat) (m : Mach) (inp : Str) (hs : Safe m) :
    (∀ e, run o fuel m inp ≠ .panic e) ∧ (∀ m' inp', run o fuel m inp = .done m' inp' → Safe m') := by
  induction fuel generalizing m inp with
  | zero => simp [run]
  | succ f ih =>
    obtain ⟨h1, h2⟩ := step_safe o m inp hs
    simp only [run]
    cases hst : step o m inp with
    | cont m1 i1 => exact ih m1 i1 (h2 m1 (by rw [hst]; rfl))
    | suspend m1 i1 =>
      refine ⟨fun e => by simp, fun m' inp' h => ?_⟩
      simp only [RunRes.done.injEq] at h
      obtain ⟨h, _⟩ := h; subst h
      exact h2 m1 (by rw [hst]; rfl)
    | panic e => exact absurd hst (h1 e)

/-- when the loop answers "need more input" the queue is empty (and the look-ahead invariant holds) -/
theorem run_drains (o : Opts) (fuel : Nat) (m m' : Mach) (inp inp' : Str) (hg : Good m)
    (hat : m.atEof = false) (h : run o fuel m inp = .done m' inp') :
    inp' = [] ∧ Good m' ∧ m'.atEof = false := by
  induction fuel generalizing m inp with
  | zero => simp [run] at h
  | succ f ih =>
    simp only [run] at h
    cases hst : step o m inp with
    | cont m1 i1 =>
      rw [hst] at h
      obtain ⟨hg1, hat1⟩ := step_good o m inp m1 hg hat (by rw [hst]; rfl)
      exact ih m1 i1 hg1 hat1 h
    | suspend m1 i1 =>
      rw [hst] at h
      simp only [RunRes.done.injEq] at h
      obtain ⟨h1, h2⟩ := h; subst h1 h2
      obtain ⟨hi, _, hg1, hat1⟩ := step_resume o m m1 inp i1 [] hg hat hst
      exact ⟨hi, hg1, hat1⟩
    | panic e => rw [hst] at h; simp at h

theorem feedBom_safe (m : Mach) (inp : Str) (hs : Safe m) : Safe (feedBom m inp).1 := by
  cases inp with
  | nil => exact hs
  | cons c rest =>
    simp only [feedBom]
    split
    · exact ⟨fun cr h => by simpa using hs.crState cr (by simpa using h),
        fun cr h => hs.crRegs cr (by simpa using h)⟩
    · exact hs

theorem feedBom_good_atEof (m : Mach) (c : Str) (hg : Good m) (hat : m.atEof = false) :
    Good (feedBom m c).1 ∧ (feedBom m c).1.atEof = false := by
  cases c with
  | nil => exact ⟨hg, hat⟩
  | cons x xs =>
    simp only [feedBom]
    split
    · refine ⟨?_, by simpa using hat⟩
      rcases hg with h | ⟨h1, h2, h3⟩
      · exact Or.inl (by simpa using h)
      · exact Or.inr ⟨by simpa using h1, by simpa using h2, by simpa using h3⟩
    · exact ⟨hg, hat⟩

theorem feed_safe (o : Opts) (m : Mach) (inp chunk : Str) (hs : Safe m) :
    (∀ e, feed o m inp chunk ≠ .panic e) ∧ (∀ m' inp', feed o m inp chunk = .done m' inp' → Safe m') := by
  unfold feed
  dsimp only
  split
  · refine ⟨fun e => by simp, fun m' inp' h => ?_⟩
    simp only [RunRes.done.injEq] at h
    rw [← h.1]; exact hs
  · exact run_safe o _ _ _ (feedBom_safe m _ hs)

theorem feed_drains (o : Opts) (m m' : Mach) (inp chunk inp' : Str) (hg : Good m) (hat : m.atEof = false)
    (h : feed o m inp chunk = .done m' inp') : inp' = [] ∧ Good m' ∧ m'.atEof = false := by
  unfold feed at h
  dsimp only at h
  split at h
  · simp only [RunRes.done.injEq] at h
    obtain ⟨h1, h2⟩ := h; subst h1 h2
    exact ⟨rfl, hg, hat⟩
  · obtain ⟨hg1, hat1⟩ := feedBom_good_atEof m (inp ++ chunk) hg hat
    exact run_drains o _ _ _ _ _ hg1 hat1 h


/-! ### `end()` -/

/-- one round of the char-ref tokenizer's `end_of_file` (the local `once` of `crEof`) -/
def crEofOnce (o : Opts) (m : Mach) (inp : Str) (cr : CharRefSt) : CRRes :=
  match cr.state with
  | .begin => .ok (m, inp, cr, .done [])
  | .numeric _ =>
    if !cr.seenDigit then unconsumeNumeric m inp cr
    else finishNumericStatus o (emitErr m "EOF in numeric character reference") inp cr
  | .numericSemicolon =>
    finishNumericStatus o (emitErr m "EOF in numeric character reference") inp cr
  | .named => finishNamed o m inp cr none
  | .bogusName => unconsumeName m inp cr
  | .octothorpe =>
    let mi := unconsume m inp ['#']
    .ok (emitErr mi.1 "EOF after '#' in character reference", mi.2, cr, .done [])

theorem crEof_eq (o : Opts) (m : Mach) (inp : Str) (cr : CharRefSt) :
    crEof o m inp cr =
      match crEofOnce o m inp cr with
      | .error e => .error e
      | .ok (m, inp, _, .done chars) => .ok (m, inp, chars)
      | .ok (_, _, _, .stuck) => .error "end_of_file: unexpected Stuck"
      | .ok (m, inp, cr, .progress) =>
        match crEofOnce o m inp cr with
        | .error e => .error e
        | .ok (m, inp, _, .done chars) => .ok (m, inp, chars)
        | .ok (_, _, _, _) => .error "end_of_file: does not terminate" := rfl

theorem crEofOnce_inv {I : Mach → Prop} (hI : CRClosed I) {m : Mach} (h : I m) (o : Opts) (inp : Str)
    (cr : CharRefSt) : (crEofOnce o m inp cr).All I := by
  unfold crEofOnce
  cases cr.state with
  | begin => exact h
  | octothorpe => exact hI.err _ _ (hI.unc _ _ _ h)
  | numeric _ =>
    exact ite_ind (P := CRRes.All I) (unconsumeNumeric_inv hI h _ _)
      (finishNumericStatus_inv hI (hI.err _ _ h) _ _ _)
  | numericSemicolon => exact finishNumericStatus_inv hI (hI.err _ _ h) _ _ _
  | named => exact finishNamed_inv hI h _ _ _ _
  | bogusName => exact unconsumeName_inv hI h _ _

/-- from consistent registers the first round of `end_of_file` already finishes the reference,
without panic and without touching the tokenizer state -/
theorem crEofOnce_ok (o : Opts) (m : Mach) (inp : Str) (cr : CharRefSt) (hs : CRSafe cr) :
    ∃ m1 i1 cr1 chars, crEofOnce o m inp cr = .ok (m1, i1, cr1, .done chars) ∧ Pres m1 m := by
  have hp := crEofOnce_inv (pres_closed m) (Pres.refl m) o inp cr
  suffices ∃ m1 i1 cr1 chars, crEofOnce o m inp cr = .ok (m1, i1, cr1, .done chars) by
    obtain ⟨m1, i1, cr1, chars, h⟩ := this
    rw [h] at hp
    exact ⟨m1, i1, cr1, chars, h, hp⟩
  unfold crEofOnce
  cases hst : cr.state with
  | begin => exact ⟨_, _, _, _, rfl⟩
  | octothorpe => exact ⟨_, _, _, _, rfl⟩
  | numeric base =>
    simp only
    split
    · exact ⟨_, _, _, _, rfl⟩
    · obtain ⟨m1, c, h⟩ := finishNumericStatus_ok o (emitErr m "EOF in numeric character reference") inp cr
      exact ⟨_, _, _, _, h⟩
  | numericSemicolon =>
    obtain ⟨m1, c, h⟩ := finishNumericStatus_ok o (emitErr m "EOF in numeric character reference") inp cr
    exact ⟨_, _, _, _, h⟩
  | named =>
    simp only
    obtain ⟨r, hr⟩ := finishNamed_ok o m inp cr none hs (hs.named (Or.inl hst))
    obtain ⟨m1, i1, cr1, st⟩ := r
    rcases finishNamed_progress o m inp cr none m1 i1 cr1 st hr with ⟨chars, hd⟩ | ⟨_, _, c, hc⟩
    · subst hd; exact ⟨_, _, _, _, hr⟩
    · cases hc
  | bogusName =>
    simp only
    cases hb : cr.nameBuf with
    | none => exact absurd hb (hs.named (Or.inr hst))
    | some nb =>
      simp only [unconsumeName, hb]
      exact ⟨_, _, _, _, rfl⟩

theorem crEof_ok (o : Opts) (m : Mach) (inp : Str) (cr : CharRefSt) (hs : CRSafe cr) :
    ∃ m1 i1 chars, crEof o m inp cr = .ok (m1, i1, chars) ∧ Pres m1 m := by
  obtain ⟨m1, i1, cr1, chars, h, hp⟩ := crEofOnce_ok o m inp cr hs
  rw [crEof_eq, h]
  exact ⟨m1, i1, chars, rfl, hp⟩

/-- the first half of `end()`: a pending character reference is finished -/
def finishPre (o : Opts) (m : Mach) : Except String (Mach × Str) :=
  match m.charRef with
  | none => .ok (m, [])
  | some cr =>
    match crEof o m [] cr with
    | .error e => .error e
    | .ok (m, inp, chars) =>
      match processCharRef (m.setCharRef none) chars with
      | (m, .cont) => .ok (m, inp)
      | (_, .panic e) => .error e

theorem finish_eq (o : Opts) (m : Mach) :
    finish o m =
      match finishPre o m with
      | .error e => .error e
      | .ok (m, inp) =>
        match run o (fuelFor (m.setAtEof true) inp) (m.setAtEof true) inp with
        | .done m _ => eofLoop o 8 m
        | .panic e => .error e
        | .outOfFuel => .error "run out of fuel" := rfl

theorem processCharRef_charRef (m : Mach) (chars : Str) : (processCharRef m chars).1.charRef = m.charRef := by
  unfold processCharRef
  dsimp only
  split
  · exact (foldl_emitChar_pres _ _).2
  · exact (foldl_emitChar_pres _ _).2
  · exact (foldl_pushValue_pres _ _).2
  · rfl

theorem finishPre_ok (o : Opts) (m : Mach) (hs : Safe m) :
    ∃ m1 i1, finishPre o m = .ok (m1, i1) ∧ m1.charRef = none := by
  unfold finishPre
  cases hcr : m.charRef with
  | none => exact ⟨m, [], rfl, hcr⟩
  | some cr =>
    simp only
    obtain ⟨m1, i1, chars, h, hp⟩ := crEof_ok o m [] cr (hs.crRegs cr hcr)
    rw [h]
    simp only
    have hst : crStateOk (m1.setCharRef none).state := by
      rw [setCharRef_state, hp.2.2.1]; exact hs.crState cr hcr
    have hnp := processCharRef_no_panic (m1.setCharRef none) chars hst
    have hc := processCharRef_charRef (m1.setCharRef none) chars
    cases hpc : processCharRef (m1.setCharRef none) chars with
    | mk m2 sig =>
      rw [hpc] at hnp hc
      cases sig with
      | cont => exact ⟨m2, i1, rfl, by simpa using hc⟩
      | panic e => exact absurd rfl (hnp e)

/-- distance of a state from the end of the `eof_step` loop -/
def eofRank : State → Nat
  | .data | .commentStartDash | .comment | .commentEndDash | .commentEnd | .commentEndBang => 0
  | .tagEmpty | .pi | .piTargetAfter | .piAfter | .markupDecl => 2
  | _ => 1

theorem transEof_rank (o : Opts) (m : Mach) :
    match (transEof o m).2 with
    | .done => True
    | .cont => eofRank (transEof o m).1.state < eofRank m.state
    | .panic _ => False := by
  cases hs : m.state <;> simp [transEof, hs, eofRank]

/-- the `eof_step` loop ends within `rank + 1 ≤ 3` rounds: the model's fuel (8) is never exhausted -/
theorem eofLoop_ok (o : Opts) (fuel : Nat) (m : Mach) (h : eofRank m.state < fuel) :
    ∃ m', eofLoop o fuel m = .ok m' := by
  induction fuel generalizing m with
  | zero => omega
  | succ f ih =>
    have hr := transEof_rank o m
    unfold eofLoop
    cases ht : transEof o m with
    | mk m1 sig =>
      rw [ht] at hr
      cases sig with
      | done => exact ⟨m1, rfl⟩
      | panic e => exact hr.elim
      | cont =>
        simp only at hr ⊢
        exact ih m1 (by omega)

theorem eofRank_le (s : State) : eofRank s ≤ 2 := by
  cases s <;> simp [eofRank]

/-- the `eof_step` loop ends by delivering EOF -/
theorem eofLoop_eof_last (o : Opts) (fuel : Nat) (m m' : Mach) (h : eofLoop o fuel m = .ok m') :
    ∃ rest, m'.out = Token.eof :: rest := by
  induction fuel generalizing m with
  | zero => simp [eofLoop] at h
  | succ n ih =>
    unfold eofLoop at h
    cases ht : transEof o m with
    | mk m1 sig =>
      rw [ht] at h
      cases sig with
      | cont => exact ih m1 h
      | panic e => simp at h
      | done =>
        simp only [Except.ok.injEq] at h
        subst h
        unfold transEof at ht
        repeat' split at ht
        all_goals
          first
            | (simp only [Prod.mk.injEq] at ht
               obtain ⟨h1, h2⟩ := ht
               first
                 | (simp at h2; done)
                 | (subst h1; exact ⟨_, rfl⟩))

/-- `end()` from a `Safe` machine: the only error the model can report is exhaustion of the fuel of
the `run` loop — every panic branch is excluded, and the `eof_step` loop's fuel is sufficient -/
theorem finish_safe_partial (o : Opts) (m : Mach) (hs : Safe m) (e : String)
    (h : finish o m = .error e) : e = "run out of fuel" := by
  rw [finish_eq] at h
  obtain ⟨m1, i1, hpre, hcr⟩ := finishPre_ok o m hs
  rw [hpre] at h
  simp only at h
  have hs1 : Safe (m1.setAtEof true) := Safe.of_none (by simpa using hcr)
  obtain ⟨hnp, _⟩ := run_safe o (fuelFor (m1.setAtEof true) i1) (m1.setAtEof true) i1 hs1
  cases hr : run o (fuelFor (m1.setAtEof true) i1) (m1.setAtEof true) i1 with
  | done m2 i2 =>
    rw [hr] at h
    simp only at h
    obtain ⟨m3, h3⟩ := eofLoop_ok o 8 m2 (by have := eofRank_le m2.state; omega)
    rw [h3] at h; cases h
  | panic e' => exact absurd hr (hnp e')
  | outOfFuel =>
    rw [hr] at h
    simp only [Except.error.injEq] at h
    exact h.symm

/-- when `end()` succeeds the last token delivered is EOF -/
theorem finish_eof_last (o : Opts) (m m' : Mach) (h : finish o m = .ok m') :
    ∃ rest, m'.out = Token.eof :: rest := by
  rw [finish_eq] at h
  split at h
  · cases h
  · split at h
    · exact eofLoop_eof_last o 8 _ m' h
    · cases h
    · cases h

end H5V.Model.XmlTok

