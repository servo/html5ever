import H5V.Lemmas.HtmlTBSafeStack
/-!
# Tree-builder safety: scope tests and the popping loops

The fuel every caller passes to the popping loops (`open_elems.len() + 1`) suffices: the `fuelOut`
branches are not benign, so the `Sat` statements below exclude them.
-/
namespace H5V.Lemmas.TBSafe
open H5V.Model.HtmlTB
open H5V.Model.Dom (Id QualName Attr NodeOrText SinkOp Output ElementFlags QuirksMode Dom NodeData Node)

variable {al : Allow}

/-! ### `in_scope` -/

/-- `in_scope` on the reversed stack with pure answers -/
def inScopeP (d : Dom) (scope : EName → Bool) (P : Id → Bool) : List Id → Bool
  | [] => false
  | x :: rest => if P x then true else if scope (nm d x) then false else inScopeP d scope P rest

theorem inScopeP_congr {d d' : Dom} {scope : EName → Bool} {P : Id → Bool} :
    ∀ {l : List Id}, (∀ x ∈ l, nm d' x = nm d x) → inScopeP d' scope P l = inScopeP d scope P l := by
  intro l
  induction l with
  | nil => intro _; rfl
  | cons a t ih =>
    intro h
    simp only [inScopeP]
    rw [h a List.mem_cons_self, ih (fun x hx => h x (List.mem_cons_of_mem _ hx))]

/-- a query that answers `P x` -/
def Answers [al : Allow] (pred : Id → M Bool) (P : Id → Bool) (d0 : Dom) (x : Id) : Prop :=
  ∀ s1, Ext d0 s1.dom → Sat (pred x) s1 (fun b s2 => b = P x ∧ QF s1 s2)

theorem sat_inScopeLoop {scope : EName → Bool} {pred : Id → M Bool} {P : Id → Bool} :
    ∀ (l : List Id) (s : State), AllEl s.dom l → (∀ x ∈ l, Answers pred P s.dom x) →
    Sat (inScopeLoop scope pred l) s (fun b s' => b = inScopeP s.dom scope P l ∧ QF s s') := by
  intro l
  induction l with
  | nil => intro s _ _; exact sat_pure ⟨rfl, QF.refl s⟩
  | cons node rest ih =>
    intro s hall hp
    unfold inScopeLoop
    refine (hp node List.mem_cons_self s (Ext.refl _)).bind ?_
    rintro b s1 ⟨rfl, hq1⟩
    by_cases hP : P node = true
    · simp only [hP, if_true]
      exact sat_pure ⟨by simp [inScopeP, hP], hq1⟩
    · simp only [hP, if_false, Bool.false_eq_true]
      refine (sat_elemName ((hall node List.mem_cons_self).ext hq1.ext)).bind ?_
      rintro n s2 ⟨rfl, hq2⟩
      rw [nm_ext hq1.ext (hall node List.mem_cons_self)]
      by_cases hsc : scope (nm s.dom node) = true
      · simp only [hsc, if_true]
        exact sat_pure ⟨by simp [inScopeP, hP, hsc], hq1.trans hq2⟩
      · simp only [hsc, if_false, Bool.false_eq_true]
        have hq := hq1.trans hq2
        have hall' : AllEl s.dom rest := hall.sub (fun x hx => List.mem_cons_of_mem _ hx)
        refine (ih s2 (hall'.ext hq.ext) ?_).mono ?_
        · intro x hx s3 he
          exact hp x (List.mem_cons_of_mem _ hx) s3 (hq.ext.trans he)
        · rintro b s3 ⟨rfl, hq3⟩
          refine ⟨?_, hq.trans hq3⟩
          simp only [inScopeP, hP, hsc, if_false, Bool.false_eq_true]
          exact inScopeP_congr (fun x hx => hall'.nm_eq hq.ext hx)

theorem sat_inScope {scope : EName → Bool} {pred : Id → M Bool} {P : Id → Bool} {s : State}
    (hall : AllEl s.dom s.openElems) (hp : ∀ x ∈ s.openElems, Answers pred P s.dom x) :
    Sat (inScope scope pred) s (fun b s' => b = inScopeP s.dom scope P s.openElems.reverse ∧ QF s s') := by
  unfold inScope
  refine sat_getS_bind ?_
  exact sat_inScopeLoop _ s (hall.sub (fun x hx => List.mem_reverse.mp hx))
    (fun x hx => hp x (List.mem_reverse.mp hx))

/-- `html_elem_named(h, name)` as a predicate on handles -/
def namedP (d : Dom) (name : Str) (h : Id) : Bool := (nm d h).ns == nsHtml && (nm d h).loc == name

theorem named_eq {n : EName} {name : Str} (h : (n.ns == nsHtml && n.loc == name) = true) : n = ⟨nsHtml, name⟩ := by
  cases n with
  | mk ns loc =>
    simp only [Bool.and_eq_true, beq_iff_eq] at h
    rw [h.1, h.2]

theorem namedP_nm {d : Dom} {name : Str} {x : Id} (h : namedP d name x = true) : nm d x = ⟨nsHtml, name⟩ :=
  named_eq h

theorem answers_named {d : Dom} {name : Str} {x : Id} (hx : IsEl d x) :
    Answers (fun h => htmlElemNamedS h name) (namedP d name) d x := by
  intro s1 he
  refine (sat_htmlElemNamedS (hx.ext he)).mono ?_
  rintro b s2 ⟨rfl, hq⟩
  exact ⟨by unfold namedP; rw [nm_ext he hx], hq⟩

theorem answers_elemIn {d : Dom} {set : EName → Bool} {x : Id} (hx : IsEl d x) :
    Answers (fun h => elemIn h set) (fun h => set (nm d h)) d x := by
  intro s1 he
  refine (sat_elemIn (hx.ext he)).mono ?_
  rintro b s2 ⟨rfl, hq⟩
  exact ⟨by rw [nm_ext he hx], hq⟩

theorem answers_sameNode_left {d : Dom} {node x : Id} :
    Answers (fun n => sameNode node n) (fun n => node == n) d x := fun _ _ => sat_sameNode

theorem answers_sameNode_right {d : Dom} {node x : Id} :
    Answers (fun n => sameNode n node) (fun n => n == node) d x := fun _ _ => sat_sameNode

theorem sat_inScopeNamedS {scope : EName → Bool} {name : Str} {s : State} (hall : AllEl s.dom s.openElems) :
    Sat (inScopeNamedS scope name) s
      (fun b s' => b = inScopeP s.dom scope (namedP s.dom name) s.openElems.reverse ∧ QF s s') := by
  unfold inScopeNamedS
  exact sat_inScope hall (fun x hx => answers_named (hall x hx))

theorem sat_inScopeNamed {scope : EName → Bool} {name : String} {s : State} (hall : AllEl s.dom s.openElems) :
    Sat (inScopeNamed scope name) s
      (fun b s' => b = inScopeP s.dom scope (namedP s.dom name.toList) s.openElems.reverse ∧ QF s s') :=
  sat_inScopeNamedS hall

/-- the element found by a successful scope test: the topmost one satisfying `P`, nothing above it
satisfies `P` or is a scope boundary -/
structure TopSplit (d : Dom) (scope : EName → Bool) (P : Id → Bool) (l pre : List Id) (x : Id) (post : List Id) : Prop where
  eq : l = pre ++ x :: post
  px : P x = true
  above : ∀ y ∈ post, P y = false ∧ scope (nm d y) = false

theorem inScopeP_split_rev {d : Dom} {scope : EName → Bool} {P : Id → Bool} :
    ∀ {r : List Id}, inScopeP d scope P r = true →
      ∃ a x b, r = a ++ x :: b ∧ P x = true ∧ ∀ y ∈ a, P y = false ∧ scope (nm d y) = false := by
  intro r
  induction r with
  | nil => intro h; simp [inScopeP] at h
  | cons z t ih =>
    intro h
    simp only [inScopeP] at h
    by_cases hP : P z = true
    · exact ⟨[], z, t, rfl, hP, by simp⟩
    · simp only [hP, if_false, Bool.false_eq_true] at h
      by_cases hsc : scope (nm d z) = true
      · simp [hsc] at h
      · simp only [hsc, if_false, Bool.false_eq_true] at h
        obtain ⟨a, x, b, rfl, hx, ha⟩ := ih h
        refine ⟨z :: a, x, b, rfl, hx, ?_⟩
        intro y hy
        rcases List.mem_cons.mp hy with rfl | hy
        · exact ⟨by simpa using hP, by simpa using hsc⟩
        · exact ha y hy

theorem inScopeP_split {d : Dom} {scope : EName → Bool} {P : Id → Bool} {l : List Id}
    (h : inScopeP d scope P l.reverse = true) : ∃ pre x post, TopSplit d scope P l pre x post := by
  obtain ⟨a, x, b, hr, hx, ha⟩ := inScopeP_split_rev h
  refine ⟨b.reverse, x, a.reverse, ⟨?_, hx, fun y hy => ha y (List.mem_reverse.mp hy)⟩⟩
  have := congrArg List.reverse hr
  simpa using this

/-! ### `generate_implied_end_tags` -/

theorem sat_generateImpliedEndTagsLoop {set : EName → Bool} : ∀ (fuel : Nat) (s : State),
    AllEl s.dom s.openElems → s.openElems.length < fuel →
    Sat (generateImpliedEndTagsLoop set fuel) s (fun _ s' => ∃ pre post, s.openElems = pre ++ post ∧
      St s s' pre ∧ (∀ h ∈ post, set (nm s.dom h) = true) ∧
      (∀ h, pre.getLast? = some h → set (nm s.dom h) = false)) := by
  intro fuel
  induction fuel with
  | zero => intro s _ h; exact absurd h (Nat.not_lt_zero _)
  | succ fuel ih =>
    intro s hall hlen
    unfold generateImpliedEndTagsLoop
    refine sat_getS_bind ?_
    cases hl : s.openElems.getLast? with
    | none =>
      have : s.openElems = [] := List.getLast?_eq_none_iff.mp hl
      exact sat_pure ⟨[], [], by simp [this], ⟨Fr.refl s, this, rfl⟩, by simp, by simp⟩
    | some elem =>
      simp only
      have hel := hall elem (getLast?_mem hl)
      refine (sat_elemName hel).bind ?_
      rintro n s1 ⟨rfl, hq1⟩
      by_cases hset : set (nm s.dom elem) = true
      · simp only [hset, Bool.not_true, Bool.false_eq_true, if_false]
        have hl1 : s1.openElems.getLast? = some elem := by rw [hq1.openElems]; exact hl
        refine (sat_pop hl1).bind ?_
        rintro _ s2 ⟨-, hst⟩
        have hdl : s.openElems = s.openElems.dropLast ++ [elem] := dropLast_append_getLast hl
        have he2 : Ext s.dom s2.dom := hq1.ext.trans hst.fr.ext
        have hall2 : AllEl s2.dom s2.openElems := by
          rw [hst.openElems, hq1.openElems]
          exact (hall.sub (fun x hx => List.dropLast_subset _ hx)).ext he2
        have hlen2 : s2.openElems.length < fuel := by
          rw [hst.openElems, hq1.openElems, List.length_dropLast]
          have : 0 < s.openElems.length := by rw [hdl]; simp
          omega
        refine (ih s2 hall2 hlen2).mono ?_
        rintro _ s3 ⟨pre, post, heq, hst3, hpost, hpre⟩
        rw [hst.openElems, hq1.openElems] at heq
        have hsub : ∀ x ∈ s.openElems.dropLast, x ∈ s.openElems := fun x hx => List.dropLast_subset _ hx
        have hnm : ∀ x ∈ s.openElems.dropLast, nm s2.dom x = nm s.dom x :=
          fun x hx => (hall.sub hsub).nm_eq he2 hx
        refine ⟨pre, post ++ [elem], by rw [← List.append_assoc, ← heq]; exact hdl, ?_, ?_, ?_⟩
        · exact ⟨hq1.fr.trans (hst.fr.trans hst3.fr), hst3.openElems,
            by rw [hst3.af, hst.af, hq1.activeFormatting]⟩
        · intro h hh
          rcases List.mem_append.mp hh with hh | hh
          · rw [← hnm h (by rw [heq]; exact List.mem_append_right _ hh)]; exact hpost h hh
          · rw [List.mem_singleton.mp hh]; exact hset
        · intro h hh
          rw [← hnm h (by rw [heq]; exact List.mem_append_left _ (getLast?_mem hh))]; exact hpre h hh
      · simp only [hset, Bool.not_false, if_true]
        refine sat_pure ⟨s.openElems, [], by simp, hq1.same, by simp, ?_⟩
        intro h hh
        rw [hl] at hh; cases hh
        simpa using hset

theorem sat_generateImpliedEndTags {set : EName → Bool} {s : State} (hall : AllEl s.dom s.openElems) :
    Sat (generateImpliedEndTags set) s (fun _ s' => ∃ pre post, s.openElems = pre ++ post ∧
      St s s' pre ∧ (∀ h ∈ post, set (nm s.dom h) = true) ∧
      (∀ h, pre.getLast? = some h → set (nm s.dom h) = false)) := by
  unfold generateImpliedEndTags
  exact sat_getS_bind (sat_generateImpliedEndTagsLoop _ s hall (Nat.lt_succ_self _))

/-! ### `pop_until_current` -/

theorem sat_popUntilCurrentLoop {set : EName → Bool} : ∀ (fuel : Nat) (s : State) (pre post : List Id) (x : Id),
    AllEl s.dom s.openElems → s.openElems = pre ++ post → pre.getLast? = some x → set (nm s.dom x) = true →
    (∀ y ∈ post, set (nm s.dom y) = false) → post.length < fuel →
    Sat (popUntilCurrentLoop set fuel) s (fun _ s' => St s s' pre) := by
  intro fuel
  induction fuel with
  | zero => intro s pre post x _ _ _ _ _ h; exact absurd h (Nat.not_lt_zero _)
  | succ fuel ih =>
    intro s pre post x hall heq hx hsx hpost hlen
    unfold popUntilCurrentLoop
    rcases List.eq_nil_or_concat post with rfl | ⟨post0, y, rfl⟩
    · -- the current node is `x`
      have hl : s.openElems.getLast? = some x := by rw [heq]; simpa using hx
      refine (sat_currentNodeIn hl (hall x (getLast?_mem hl))).bind ?_
      rintro b s1 ⟨rfl, hq⟩
      simp only [hsx, if_true]
      exact sat_pure ⟨hq.fr, by rw [hq.openElems, heq]; simp, hq.activeFormatting⟩
    · have hl : s.openElems.getLast? = some y := by
        rw [heq, List.concat_eq_append, ← List.append_assoc]; simp
      refine (sat_currentNodeIn hl (hall y (getLast?_mem hl))).bind ?_
      rintro b s1 ⟨rfl, hq⟩
      have hy : set (nm s.dom y) = false := hpost y (by simp)
      simp only [hy, if_false, Bool.false_eq_true]
      have hl1 : s1.openElems.getLast? = some y := by rw [hq.openElems]; exact hl
      refine (sat_popSilently_some hl1).bind ?_
      rintro r s2 ⟨rfl, rfl⟩
      have hdrop : s1.openElems.dropLast = pre ++ post0 := by
        rw [hq.openElems, heq, List.concat_eq_append, ← List.append_assoc, List.dropLast_concat]
      have hallp : AllEl s.dom (pre ++ post0) := hall.sub (fun z hz => by
        rw [heq, List.concat_eq_append, ← List.append_assoc]; exact List.mem_append_left _ hz)
      refine (ih { s1 with openElems := s1.openElems.dropLast } pre post0 x ?_ hdrop hx ?_ ?_ ?_).mono ?_
      · show AllEl s1.dom s1.openElems.dropLast
        rw [hdrop]; exact hallp.ext hq.ext
      · show set (nm s1.dom x) = true
        rw [hallp.nm_eq hq.ext (List.mem_append_left _ (getLast?_mem hx))]; exact hsx
      · intro z hz
        show set (nm s1.dom z) = false
        rw [hallp.nm_eq hq.ext (List.mem_append_right _ hz)]
        exact hpost z (by simp [hz])
      · simp at hlen; omega
      · intro _ s3 hst
        exact ⟨hq.fr.trans ((st_dropLast s1).fr.trans hst.fr), hst.openElems,
          by rw [hst.af]; exact hq.activeFormatting⟩

/-- split a list at the last element satisfying `p` -/
theorem split_last_sat {p : Id → Bool} : ∀ {l : List Id}, (∃ x ∈ l, p x = true) →
    ∃ pre post x, l = pre ++ post ∧ pre.getLast? = some x ∧ p x = true ∧ ∀ y ∈ post, p y = false := by
  intro l
  induction l with
  | nil => rintro ⟨x, hx, _⟩; simp at hx
  | cons a t ih =>
    rintro ⟨x, hx, hp⟩
    by_cases ht : ∃ y ∈ t, p y = true
    · obtain ⟨pre, post, y, rfl, hy, hpy, hpost⟩ := ih ht
      refine ⟨a :: pre, post, y, rfl, ?_, hpy, hpost⟩
      have hne : pre ≠ [] := by intro e; subst e; simp at hy
      rw [List.getLast?_cons_of_ne_nil hne]; exact hy
    · have hall : ∀ y ∈ t, p y = false := by
        intro y hy
        cases hpy : p y with
        | false => rfl
        | true => exact absurd ⟨y, hy, hpy⟩ ht
      have hxa : x = a := by
        rcases List.mem_cons.mp hx with h | h
        · exact h
        · rw [hall x h] at hp; cases hp
      subst hxa
      exact ⟨[x], t, x, rfl, rfl, hp, hall⟩

theorem sat_popUntilCurrent {set : EName → Bool} {s : State} (hall : AllEl s.dom s.openElems)
    (hex : ∃ x ∈ s.openElems, set (nm s.dom x) = true) :
    Sat (popUntilCurrent set) s (fun _ s' => ∃ pre post x, s.openElems = pre ++ post ∧ St s s' pre ∧
      pre.getLast? = some x ∧ set (nm s.dom x) = true ∧ ∀ y ∈ post, set (nm s.dom y) = false) := by
  unfold popUntilCurrent
  refine sat_getS_bind ?_
  obtain ⟨pre, post, x, heq, hx, hsx, hpost⟩ := split_last_sat (p := fun h => set (nm s.dom h)) hex
  refine (sat_popUntilCurrentLoop _ s pre post x hall heq hx hsx hpost ?_).mono ?_
  · rw [heq]; simp; omega
  · intro _ s' hst; exact ⟨pre, post, x, heq, hst, hx, hsx, hpost⟩

/-! ### `pop_until` -/

theorem sat_popUntilLoop {pred : EName → Bool} : ∀ (fuel : Nat) (s : State) (n : Nat) (pre post : List Id) (x : Id),
    AllEl s.dom s.openElems → s.openElems = pre ++ x :: post → pred (nm s.dom x) = true →
    (∀ y ∈ post, pred (nm s.dom y) = false) → post.length < fuel →
    Sat (popUntilLoop pred fuel n) s (fun r s' => St s s' pre ∧ r = n + post.length + 1) := by
  intro fuel
  induction fuel with
  | zero => intro s n pre post x _ _ _ _ h; exact absurd h (Nat.not_lt_zero _)
  | succ fuel ih =>
    intro s n pre post x hall heq hpx hpost hlen
    unfold popUntilLoop
    rcases List.eq_nil_or_concat post with rfl | ⟨post0, y, rfl⟩
    · have hl : s.openElems.getLast? = some x := by rw [heq]; simp
      refine (sat_popSilently_some hl).bind ?_
      rintro r s1 ⟨rfl, rfl⟩
      simp only
      have hx : IsEl s.dom x := hall x (getLast?_mem hl)
      refine (sat_elemName (s := { s with openElems := s.openElems.dropLast }) hx).bind ?_
      rintro nn s2 ⟨rfl, hq⟩
      show Sat (if pred (nm s.dom x) = true then _ else _) s2 _
      simp only [hpx, if_true]
      refine sat_pure ⟨?_, by simp⟩
      refine ⟨(st_dropLast s).fr.trans hq.fr, ?_, hq.activeFormatting⟩
      rw [hq.openElems]; show s.openElems.dropLast = pre
      rw [heq]; simp
    · have hl : s.openElems.getLast? = some y := by
        have : s.openElems = (pre ++ x :: post0) ++ [y] := by rw [heq]; simp
        rw [this]; exact List.getLast?_concat
      refine (sat_popSilently_some hl).bind ?_
      rintro r s1 ⟨rfl, rfl⟩
      simp only
      have hy : IsEl s.dom y := hall y (getLast?_mem hl)
      refine (sat_elemName (s := { s with openElems := s.openElems.dropLast }) hy).bind ?_
      rintro nn s2 ⟨rfl, hq⟩
      show Sat (if pred (nm s.dom y) = true then _ else _) s2 _
      have hpy : pred (nm s.dom y) = false := hpost y (by simp)
      simp only [hpy, if_false, Bool.false_eq_true]
      have hdrop : s.openElems.dropLast = pre ++ x :: post0 := by
        rw [heq, List.concat_eq_append, ← List.cons_append, ← List.append_assoc, List.dropLast_concat]
      have hallp : AllEl s.dom (pre ++ x :: post0) := hall.sub (fun z hz => by
        rw [heq, List.concat_eq_append, ← List.cons_append, ← List.append_assoc]
        exact List.mem_append_left _ hz)
      have hopen2 : s2.openElems = pre ++ x :: post0 := by rw [hq.openElems]; exact hdrop
      refine (ih s2 (n + 1) pre post0 x ?_ hopen2 ?_ ?_ ?_).mono ?_
      · rw [hopen2]; exact hallp.ext hq.ext
      · rw [hallp.nm_eq hq.ext (by simp)]; exact hpx
      · intro z hz
        rw [hallp.nm_eq hq.ext (by simp [hz])]
        exact hpost z (by simp [hz])
      · simp at hlen; omega
      · rintro r s3 ⟨hst, rfl⟩
        refine ⟨⟨(st_dropLast s).fr.trans (hq.fr.trans hst.fr), hst.openElems, ?_⟩, by simp; omega⟩
        rw [hst.af]; exact hq.activeFormatting

theorem sat_popUntil {pred : EName → Bool} {s : State} {pre post : List Id} {x : Id}
    (hall : AllEl s.dom s.openElems) (heq : s.openElems = pre ++ x :: post) (hpx : pred (nm s.dom x) = true)
    (hpost : ∀ y ∈ post, pred (nm s.dom y) = false) :
    Sat (popUntil pred) s (fun r s' => St s s' pre ∧ r = post.length + 1) := by
  unfold popUntil
  refine sat_getS_bind ?_
  refine (sat_popUntilLoop _ s 0 pre post x hall heq hpx hpost ?_).mono ?_
  · rw [heq]; simp; omega
  · rintro r s' ⟨h1, h2⟩; exact ⟨h1, by omega⟩

theorem sat_popUntilNamedS {name : Str} {s : State} {pre post : List Id} {x : Id}
    (hall : AllEl s.dom s.openElems) (heq : s.openElems = pre ++ x :: post) (hpx : namedP s.dom name x = true)
    (hpost : ∀ y ∈ post, namedP s.dom name y = false) :
    Sat (popUntilNamedS name) s (fun r s' => St s s' pre ∧ r = post.length + 1) := by
  unfold popUntilNamedS
  exact sat_popUntil hall heq hpx hpost

theorem sat_expectToCloseS {name : Str} {s : State} {pre post : List Id} {x : Id}
    (hall : AllEl s.dom s.openElems) (heq : s.openElems = pre ++ x :: post) (hpx : namedP s.dom name x = true)
    (hpost : ∀ y ∈ post, namedP s.dom name y = false) :
    Sat (expectToCloseS name) s (fun _ s' => St s s' pre) := by
  unfold expectToCloseS
  refine (sat_popUntilNamedS hall heq hpx hpost).bind ?_
  rintro r s1 ⟨hst, _⟩
  split
  · exact sat_parseError.mono (fun _ s2 hq => hst.same_right hq.same)
  · exact sat_pure hst

/-! ### `remove_from_stack` -/

/-- `iter().rposition(p)` on the reversed list -/
def rposL (P : Id → Bool) : List Id → Nat → Option Nat
  | [], _ => none
  | x :: rest, len => if P x then some (len - 1) else rposL P rest (len - 1)

theorem sat_rpositionLoop {p : Id → M Bool} {P : Id → Bool} : ∀ (l : List Id) (n : Nat) (s : State),
    (∀ x ∈ l, Answers p P s.dom x) →
    Sat (rpositionLoop p l n) s (fun r s' => r = rposL P l n ∧ QF s s') := by
  intro l
  induction l with
  | nil => intro n s _; exact sat_pure ⟨rfl, QF.refl s⟩
  | cons x rest ih =>
    intro n s hp
    unfold rpositionLoop
    refine (hp x List.mem_cons_self s (Ext.refl _)).bind ?_
    rintro b s1 ⟨rfl, hq⟩
    by_cases hP : P x = true
    · simp only [hP, if_true]; exact sat_pure ⟨by simp [rposL, hP], hq⟩
    · simp only [hP, if_false, Bool.false_eq_true]
      refine (ih (n - 1) s1 (fun y hy s2 he => hp y (List.mem_cons_of_mem _ hy) s2 (hq.ext.trans he))).mono ?_
      rintro r s2 ⟨rfl, hq2⟩
      exact ⟨by simp [rposL, hP], hq.trans hq2⟩

theorem sat_rposition {p : Id → M Bool} {P : Id → Bool} {s : State}
    (hp : ∀ x ∈ s.openElems, Answers p P s.dom x) :
    Sat (rposition p) s (fun r s' => r = rposL P s.openElems.reverse s.openElems.length ∧ QF s s') := by
  unfold rposition
  exact sat_getS_bind (sat_rpositionLoop _ _ s (fun x hx => hp x (List.mem_reverse.mp hx)))

theorem rposL_rev {P : Id → Bool} : ∀ (r : List Id) (n : Nat), n = r.length →
    (rposL P r n = none ∧ ∀ x ∈ r, P x = false) ∨
    (∃ a x b, r = a ++ x :: b ∧ rposL P r n = some b.length ∧ P x = true ∧ ∀ y ∈ a, P y = false) := by
  intro r
  induction r with
  | nil => intro n _; exact Or.inl ⟨rfl, by simp⟩
  | cons z t ih =>
    intro n hn
    by_cases hP : P z = true
    · refine Or.inr ⟨[], z, t, rfl, ?_, hP, by simp⟩
      simp [rposL, hP, hn]
    · rcases ih (n - 1) (by simp [hn]) with ⟨h1, h2⟩ | ⟨a, x, b, rfl, h1, h2, h3⟩
      · refine Or.inl ⟨by simp [rposL, hP, h1], ?_⟩
        intro y hy
        rcases List.mem_cons.mp hy with rfl | hy
        · simpa using hP
        · exact h2 y hy
      · refine Or.inr ⟨z :: a, x, b, rfl, by simp [rposL, hP, h1], h2, ?_⟩
        intro y hy
        rcases List.mem_cons.mp hy with rfl | hy
        · simpa using hP
        · exact h3 y hy

/-- the answer of `rposition`: `none` and nothing satisfies `P`, or the index of the last element
satisfying `P` -/
theorem rposL_spec {P : Id → Bool} (l : List Id) :
    (rposL P l.reverse l.length = none ∧ ∀ x ∈ l, P x = false) ∨
    (∃ pre x post, l = pre ++ x :: post ∧ rposL P l.reverse l.length = some pre.length ∧ P x = true ∧
      ∀ y ∈ post, P y = false) := by
  rcases rposL_rev (P := P) l.reverse l.length (by simp) with ⟨h1, h2⟩ | ⟨a, x, b, hr, h1, h2, h3⟩
  · exact Or.inl ⟨h1, fun x hx => h2 x (List.mem_reverse.mpr hx)⟩
  · refine Or.inr ⟨b.reverse, x, a.reverse, ?_, by simpa using h1, h2, fun y hy => h3 y (List.mem_reverse.mp hy)⟩
    have := congrArg List.reverse hr
    simpa using this

theorem eraseIdx_append_cons (pre : List Id) (x : Id) (post : List Id) :
    (pre ++ x :: post).eraseIdx pre.length = pre ++ post := by
  induction pre with
  | nil => rfl
  | cons a t ih => simp [ih]

theorem sat_removeFromStack {elem : Id} {s : State} :
    Sat (removeFromStack elem) s (fun _ s' =>
      (elem ∉ s.openElems ∧ Same s s') ∨
      (∃ pre post, s.openElems = pre ++ elem :: post ∧ elem ∉ post ∧ St s s' (pre ++ post))) := by
  unfold removeFromStack
  refine (sat_rposition (P := fun x => elem == x) (fun x _ => answers_sameNode_left)).bind ?_
  rintro r s1 ⟨rfl, hq⟩
  rcases rposL_spec (P := fun x => elem == x) s.openElems with ⟨h1, h2⟩ | ⟨pre, x, post, heq, h1, h2, h3⟩
  · rw [h1]
    refine sat_pure (Or.inl ⟨?_, hq.same⟩)
    intro hmem
    have := h2 elem hmem
    simp at this
  · rw [h1]
    simp only
    have hx : x = elem := by simpa using (beq_iff_eq.mp h2).symm
    subst hx
    refine sat_modS_bind ?_
    refine (sat_sinkUnit_total ⟨_, _, apply_pop _ _⟩).mono ?_
    intro _ s2 hq2
    refine Or.inr ⟨pre, post, heq, ?_, ?_⟩
    · intro hm; have := h3 x hm; simp at this
    · refine ⟨hq.fr.trans ?_, ?_, ?_⟩
      · exact ⟨hq2.mode, hq2.origMode, hq2.templateModes, hq2.pendingTableText, hq2.headElem, hq2.formElem,
          hq2.contextElem, hq2.docHandle, hq2.opts, hq2.ext⟩
      · rw [hq2.openElems]
        show s1.openElems.eraseIdx pre.length = pre ++ post
        rw [hq.openElems, heq, eraseIdx_append_cons]
      · rw [hq2.activeFormatting]; exact hq.activeFormatting

/-! ### `check_body_end`, `body_elem` -/

theorem sat_checkBodyEndLoop : ∀ (l : List Id) (s : State), AllEl s.dom l →
    Sat (checkBodyEndLoop l) s (fun _ s' => QF s s') := by
  intro l
  induction l with
  | nil => intro s _; exact sat_pure (QF.refl s)
  | cons e rest ih =>
    intro s hall
    unfold checkBodyEndLoop
    refine (sat_elemName (hall e List.mem_cons_self)).bind ?_
    rintro n s1 ⟨rfl, hq⟩
    split
    · exact (ih s1 ((hall.sub (fun x hx => List.mem_cons_of_mem _ hx)).ext hq.ext)).mono
        (fun _ s2 h2 => hq.trans h2)
    · exact sat_parseError.mono (fun _ s2 h2 => hq.trans h2)

theorem sat_checkBodyEnd {s : State} (hall : AllEl s.dom s.openElems) :
    Sat checkBodyEnd s (fun _ s' => QF s s') := by
  unfold checkBodyEnd
  exact sat_getS_bind (sat_checkBodyEndLoop _ s hall)

theorem sat_bodyElem {s : State} (hall : AllEl s.dom s.openElems) :
    Sat bodyElem s (fun r s' => QF s s' ∧ ∀ b, r = some b → s.openElems[1]? = some b ∧
      nm s.dom b = ⟨nsHtml, "body".toList⟩) := by
  unfold bodyElem
  refine sat_getS_bind ?_
  split
  · exact sat_pure ⟨QF.refl s, by simp⟩
  · cases h1 : s.openElems[1]? with
    | none => exact sat_pure ⟨QF.refl s, by simp⟩
    | some node =>
      simp only
      have hmem : node ∈ s.openElems := List.mem_of_getElem? h1
      refine (sat_htmlElemNamed (hall node hmem)).bind ?_
      rintro b s1 ⟨rfl, hq⟩
      split
      · rename_i hb
        refine sat_pure ⟨hq, ?_⟩
        intro b hb'
        cases hb'
        refine ⟨rfl, ?_⟩
        simp only [Bool.and_eq_true, beq_iff_eq] at hb
        cases hn : nm s.dom node with
        | mk ns loc => rw [hn] at hb; simp at hb; rw [hb.1, hb.2]; rfl
      · exact sat_pure ⟨hq, by simp⟩

end H5V.Lemmas.TBSafe
