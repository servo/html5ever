import H5V.Lemmas.HtmlTBSkelShapeIns
/-!
C06, second invariant layer: the list of active formatting elements (entries are HTML
formatting elements, hence disposable and not special), `process_end_tag_in_body`, removal of a
disposable element from the middle of the stack, reconstruction of the formatting elements.
-/
namespace H5V.Props.C06
open H5V.Model.Dom hiding Str
open H5V.Model.HtmlTB hiding Str
open H5V.Lemmas.Dom

theorem keepName_fmt {n : Str} (h : isOneOf n fmtNames = true) : keepName ⟨nsHtml, n⟩ = false := by
  unfold isOneOf at h
  simp only [List.any_eq_true, beq_iff_eq] at h
  obtain ⟨a, ha, rfl⟩ := h
  revert a; decide +kernel

theorem special_of_keepName {n : EName} (h : keepName n = true) : specialTag n = true := by
  rcases keepName_cases h with hc | hc
  · obtain ⟨a, ha, rfl⟩ := htmlIn_eq hc
    revert a; decide +kernel
  · obtain ⟨a, ha, rfl⟩ := htmlIn_eq hc
    revert a; decide +kernel

theorem special_fmt {n : Str} (h : isOneOf n fmtNames = true) : specialTag ⟨nsHtml, n⟩ = false := by
  unfold isOneOf at h
  simp only [List.any_eq_true, beq_iff_eq] at h
  obtain ⟨a, ha, rfl⟩ := h
  revert a; decide +kernel

/-- "any other end tag" for a disposable tag name -/
instance (tag : Tag) [hk : PlainStr tag.name] : PB (processEndTagInBody tag) :=
  PB.of_pops fun s a s' e => by
    obtain ⟨popped, p, hp⟩ := processEndTagInBody_sem e
    refine ⟨popped, p, fun x hx => ?_⟩
    rcases hp x hx with h | h | h
    · cases hkn : keepName (nm s.dom x) with
      | false => rfl
      | true => rw [special_of_keepName hkn] at h; cases h
    · have : nm s.dom x = ⟨nsHtml, tag.name⟩ := by
        unfold isHS at h
        simp only [Bool.and_eq_true, beq_iff_eq] at h
        cases hn : nm s.dom x; simp_all
      rw [this]; exact hk.h
    · exact keepName_cursory h

/-! ### removing a disposable element from the middle of the stack -/

theorem TG.erase {name : Id → EName} {pre post : List Id} {x : Id} (h : TG name (pre ++ x :: post))
    (hx : keepName (name x) = false) : TG name (pre ++ post) := by
  intro pre' a b post' hs
  -- where does the pair (a, b) sit?
  rcases List.append_eq_append_iff.mp hs with ⟨c, hc1, hc2⟩ | ⟨c, hc1, hc2⟩
  · -- pre' = pre ++ c, post = c ++ a :: b :: post'
    exact h (pre ++ x :: c) a b post' (by rw [hc2]; simp)
  · -- pre = pre' ++ c, a :: b :: post' = c ++ post
    cases c with
    | nil =>
      simp only [List.nil_append, List.append_nil] at hc1 hc2
      exact h (pre ++ [x]) a b post' (by rw [← hc2]; simp)
    | cons a' c' =>
      simp only [List.cons_append, List.cons.injEq] at hc2
      obtain ⟨rfl, hc2⟩ := hc2
      cases c' with
      | nil =>
        simp only [List.nil_append] at hc2
        -- a is the last of pre, b the first of post: the pair created by the removal
        have hxa := h pre' a x post (by rw [hc1]; simp)
        have hbx := h (pre' ++ [a]) x b post' (by rw [hc1, ← hc2])
        cases hcb : constrained (name b) with
        | false => exact predOk_of_not_constrained hcb
        | true => rw [constrained_pred hcb hbx] at hx; cases hx
      | cons b' c'' =>
        simp only [List.cons_append, List.cons.injEq] at hc2
        obtain ⟨rfl, hc2⟩ := hc2
        exact h pre' a b (c'' ++ x :: post) (by rw [hc1]; simp)

theorem eraseIdx_split {l : List Id} {pos : Nat} {x : Id} (h : l[pos]? = some x) :
    ∃ pre post, l = pre ++ x :: post ∧ pre.length = pos ∧ l.eraseIdx pos = pre ++ post := by
  induction l generalizing pos with
  | nil => simp at h
  | cons a t ih =>
    cases pos with
    | zero => simp at h; subst h; exact ⟨[], t, rfl, rfl, rfl⟩
    | succ n =>
      simp only [List.getElem?_cons_succ] at h
      obtain ⟨pre, post, h1, h2, h3⟩ := ih h
      exact ⟨a :: pre, post, by rw [h1]; rfl, by simp [h2], by simp [h3]⟩

/-- the stack loses one disposable element that is not the root -/
theorem Big.erase {m : Mode} {r : Id} {ph : Phase} {s s' : State} {x : Id} {pos : Nat} (h : Big m r ph s)
    (hse : SE s s') (hget : s.openElems[pos]? = some x) (hst : s'.openElems = s.openElems.eraseIdx pos)
    (hx : keepName (nm s.dom x) = false) : Big m r ph s' := by
  obtain ⟨up, hc, hbb, hneed, hfp⟩ := h
  obtain ⟨pre, post, hsplit, hlen, herase⟩ := eraseIdx_split hget
  have hr := hse.rest
  have hk : ∀ y, s'.dom.childrenOf y = s.dom.childrenOf y := childrenOf_of_nodes hse.nodes
  have hnm : ∀ y, nm s'.dom y = nm s.dom y := nm_of_nodes hse.nodes
  have hel : ∀ y, s'.dom.isElement y = s.dom.isElement y := isElement_of_nodes hse.nodes
  have hdata : ∀ y, s'.dom.dataOf y = s.dom.dataOf y := fun y => by unfold Dom.dataOf; rw [hse.nodes]
  -- x is not the root
  have hpre : ∃ pre', pre = r :: pre' := by
    cases pre with
    | nil =>
      rw [hc.stack] at hsplit
      simp only [List.nil_append, List.cons.injEq] at hsplit
      rw [← hsplit.1, hc.root_name, keepName_html] at hx; cases hx
    | cons a t =>
      rw [hc.stack] at hsplit
      simp only [List.cons_append, List.cons.injEq] at hsplit
      exact ⟨t, by rw [hsplit.1]⟩
  obtain ⟨pre', rfl⟩ := hpre
  have hup : up = pre' ++ x :: post := by
    rw [hc.stack] at hsplit
    simp only [List.cons_append, List.cons.injEq, true_and] at hsplit
    exact hsplit
  have hst' : s'.openElems = r :: (pre' ++ post) := by rw [hst, herase]; rfl
  have hsub : ∀ y, y ∈ pre' ++ post → y ∈ up := by
    intro y hy; rw [hup]
    rcases List.mem_append.mp hy with h1 | h1
    · exact List.mem_append_left _ h1
    · exact List.mem_append_right _ (List.mem_cons_of_mem _ h1)
  have hkeep : ∀ y ∈ up, keepName (nm s.dom y) = true → y ∈ pre' ++ post := by
    intro y hy hky
    rw [hup] at hy
    rcases List.mem_append.mp hy with h1 | h1
    · exact List.mem_append_left _ h1
    · simp only [List.mem_cons] at h1
      rcases h1 with rfl | h1
      · rw [hx] at hky; cases hky
      · exact List.mem_append_right _ h1
  have hsubl : (r :: (pre' ++ post)).Sublist s.openElems := by
    rw [hsplit]
    exact List.Sublist.cons₂ _ (List.Sublist.append (List.Sublist.refl _) (List.sublist_cons_self _ _))
  have hlate : Late s' := by
    refine hc.late.qrel ⟨SameSk.of_nodes hse.nodes, by rw [hst']; exact hsubl, ?_, ?_, ?_, ?_, ?_, ?_, ?_, ?_⟩ ⟨?_, ?_, ?_⟩
    · rw [hr]
    · rw [hr]
    · rw [hr]
    · rw [hr]
    · rw [hr]
    · intro a t ha; rw [hr] at ha; exact ha
    · left; rw [hr]
    · intro ha; rw [hr] at ha; exact ha
    · rw [hr]; exact hc.late.ml.mode
    · rw [hr]; exact hc.late.ml.orig
    · rw [hr]; exact hc.late.ml.tm
  have hcore : Core s' r (pre' ++ post) ph := by
    refine ⟨hlate, hst', by rw [hk]; exact hc.rdoc, ?_, ?_, ?_, ?_, ?_, ?_, (RS.of_nodes hse.nodes).uniq hc.rtu,
      by rw [hk]; exact hc.rnd, ?_, ?_, ?_, (Afx.of_elems hc.elems hbb.notPf).of_nodes hse.nodes,
      by rw [hst']; exact (hc.adj.of_nodes hse.nodes).sub hc.nodup hsubl⟩
    · rw [hst']; exact hsubl.nodup hc.nodup
    · rw [hst']
      have := hc.tg
      rw [hsplit] at this
      exact (this.erase hx).congr (fun y _ => hnm y)
    · intro a t ha
      rw [hr] at ha
      obtain ⟨h1, h2, h3⟩ := hc.afn a t ha
      exact ⟨h1, by rw [hnm]; exact h2, by rw [hel]; exact h3⟩
    · have h1 : s'.templateModes = s.templateModes := by rw [hr]
      rw [h1, hst']
      refine Nat.le_trans ?_ hc.tc
      unfold tcount
      have : (fun y => nm s'.dom y == hN "template") = (fun y => nm s.dom y == hN "template") := by
        funext y; rw [hnm]
      rw [this]
      exact List.Sublist.countP_le hsubl
    · intro md hm; rw [hr] at hm; exact hc.tmm md hm
    · intro f hf
      rw [hr] at hf
      obtain ⟨h1, h2⟩ := hc.form f hf
      exact ⟨by rw [hnm]; exact h1, by rw [hel]; exact h2⟩
    · intro c hcm
      rw [hk] at hcm
      rcases hc.kids c hcm with h1 | ⟨t, h1⟩ | ⟨t, h1, h2⟩
      · exact Or.inl (by rw [hel]; exact h1)
      · exact Or.inr (Or.inl ⟨t, by rw [hdata]; exact h1⟩)
      · exact Or.inr (Or.inr ⟨t, by rw [hdata]; exact h1, h2⟩)
    · have hhead : s'.headElem = s.headElem := by rw [hr]
      rw [hhead]
      exact hc.elems.congr hc.late.base (SameSk.of_nodes hse.nodes).chg (hk r)
    · intro y hy
      rw [hnm]
      refine hc.bh y ?_
      -- the tail of the erased list is a sublist of the old tail
      have : (pre' ++ post).Sublist up := by
        rw [hup]; exact List.Sublist.append (List.Sublist.refl _) (List.sublist_cons_self _ _)
      exact this.tail.subset hy
  have hhead : s'.headElem = s.headElem := by rw [hr]
  have hfl : s'.fosterParenting = s.fosterParenting := by rw [hr]
  refine ⟨pre' ++ post, hcore, ?_, ?_, ?_⟩
  · rw [hhead]
    -- the anchors are kept
    have hbb' : BodyBase s.dom s.headElem (pre' ++ post) ph := by
      rcases hbb with ⟨b, u, h1, h2, h3⟩ | ⟨hh, t, u, h0, h1, h2, h3⟩ | ⟨t, u, h1, h2, h3, h4⟩
      · have hbn : nm s.dom b = hN "body" := by
          subst h2; obtain ⟨_, _, _, _, hb⟩ := hc.elems; exact hb
        -- b is the head of up, and it is not x
        cases pre' with
        | nil =>
          rw [h1] at hup; simp only [List.nil_append, List.cons.injEq] at hup
          rw [← hup.1, hbn, keepName_body] at hx; cases hx
        | cons a t =>
          rw [h1] at hup; simp only [List.cons_append, List.cons.injEq] at hup
          refine Or.inl ⟨a, t ++ post, rfl, by rw [← hup.1]; exact h2, fun y hy hm => h3 y hy (hsub y hm)⟩
      · have hhn : nm s.dom hh = hN "head" := by
          subst h3; obtain ⟨h', e1, _, e3⟩ := hc.elems; rw [h0] at e1; cases e1; exact e3
        cases pre' with
        | nil =>
          rw [h1] at hup; simp only [List.nil_append, List.cons.injEq] at hup
          rw [← hup.1, hhn, keepName_head] at hx; cases hx
        | cons a t' =>
          rw [h1] at hup; simp only [List.cons_append, List.cons.injEq] at hup
          cases t' with
          | nil =>
            simp only [List.nil_append, List.cons.injEq] at hup
            rw [← hup.2.1, h2, keepName_template] at hx; cases hx
          | cons a2 t2 =>
            simp only [List.cons_append, List.cons.injEq] at hup
            exact Or.inr (Or.inl ⟨hh, t, t2 ++ post, h0, by rw [hup.1, hup.2.1]; rfl, h2, h3⟩)
      · cases pre' with
        | nil =>
          rw [h1] at hup; simp only [List.nil_append, List.cons.injEq] at hup
          rw [← hup.1, h2, keepName_template] at hx; cases hx
        | cons a t' =>
          rw [h1] at hup; simp only [List.cons_append, List.cons.injEq] at hup
          exact Or.inr (Or.inr ⟨t, t' ++ post, by rw [hup.1]; rfl, h2, h3, fun y hy hm => h4 y hy (hsub y hm)⟩)
    exact hbb'.congr (fun y _ => hnm y)
  · cases m <;> try trivial
    all_goals
      obtain ⟨y, hy, hh⟩ := hneed
      exact ⟨y, hkeep y hy (keepName_of_htmlIn hh (by simp [lit_name])), by rw [hnm]; exact hh⟩
  · intro hf
    rw [hfl] at hf
    obtain ⟨y, hy, hh⟩ := hfp hf
    exact ⟨y, hkeep y hy (keepName_of_htmlIn hh (by simp [lit_name])), by rw [hnm]; exact hh⟩


/-! ### updates of state fields outside the arena and the stack -/

def AFok (d : Dom) (af : List FormatEntry) : Prop :=
  ∀ h t, FormatEntry.element h t ∈ af →
    isOneOf t.name fmtNames = true ∧ nm d h = ⟨nsHtml, t.name⟩ ∧ d.isElement h = true

theorem Big.afok {m : Mode} {r : Id} {ph : Phase} {s : State} (h : Big m r ph s) : AFok s.dom s.activeFormatting := by
  obtain ⟨_, hc, _⟩ := h; exact hc.afn

theorem Big.upd {m : Mode} {r : Id} {ph : Phase} {s s' : State} (h : Big m r ph s)
    (h1 : s'.dom = s.dom) (h2 : s'.openElems = s.openElems) (h3 : s'.headElem = s.headElem)
    (h4 : s'.docHandle = s.docHandle) (h5 : s'.contextElem = s.contextElem)
    (h6 : s'.pendingTableText = s.pendingTableText) (h7 : s'.mode = s.mode) (h8 : s'.origMode = s.origMode)
    (h9 : s'.templateModes = s.templateModes)
    (haf : AFok s.dom s'.activeFormatting)
    (hform : ∀ f, s'.formElem = some f → nm s.dom f = hN "form" ∧ s.dom.isElement f = true)
    (hfp : s'.fosterParenting = true → s.fosterParenting = true) : Big m r ph s' := by
  obtain ⟨up, hc, hbb, hneed, hfpo⟩ := h
  have hl : Late s' := hc.late.free h1 h2 h3 h4 h5 h6 h7 h8 h9
  refine ⟨up, ⟨hl, by rw [h2]; exact hc.stack, by rw [h1]; exact hc.rdoc, by rw [h2]; exact hc.nodup,
    by rw [h1, h2]; exact hc.tg, by rw [h1]; exact haf, by rw [h1, h2, h9]; exact hc.tc, by rw [h9]; exact hc.tmm,
    by rw [h1]; exact hform, by rw [h1]; exact hc.rtu, by rw [h1]; exact hc.rnd, by rw [h1]; exact hc.kids,
    by rw [h1, h3]; exact hc.elems, by rw [h1]; exact hc.bh, by rw [h1]; exact Afx.of_elems hc.elems hbb.notPf,
    by rw [h1, h2]; exact hc.adj⟩,
    by rw [h1, h3]; exact hbb, by rw [h1]; exact hneed, ?_⟩
  intro hf
  rw [h1]
  exact hfpo ⟨hfp hf.1, hf.2⟩

theorem AFok.eraseIdx {d : Dom} {af : List FormatEntry} (h : AFok d af) (i : Nat) : AFok d (af.eraseIdx i) :=
  fun x t hx => h x t ((List.eraseIdx_sublist af i).subset hx)

theorem AFok.set {d : Dom} {af : List FormatEntry} (h : AFok d af) (i : Nat) {x : Id} {t : Tag}
    (ht : isOneOf t.name fmtNames = true) (hn : nm d x = ⟨nsHtml, t.name⟩) (he : d.isElement x = true) :
    AFok d (af.set i (.element x t)) := by
  intro y t' hy
  rcases List.mem_or_eq_of_mem_set hy with h1 | h1
  · exact h y t' h1
  · cases h1; exact ⟨ht, hn, he⟩

theorem AFok.snoc {d : Dom} {af : List FormatEntry} (h : AFok d af) {x : Id} {t : Tag}
    (ht : isOneOf t.name fmtNames = true) (hn : nm d x = ⟨nsHtml, t.name⟩) (he : d.isElement x = true) :
    AFok d (af ++ [.element x t]) := by
  intro y t' hy
  rcases List.mem_append.mp hy with h1 | h1
  · exact h y t' h1
  · simp only [List.mem_singleton] at h1
    cases h1; exact ⟨ht, hn, he⟩

theorem mem_insertIdx_or {α : Type} : ∀ (l : List α) (i : Nat) (a b : α), a ∈ l.insertIdx i b → a = b ∨ a ∈ l
  | l, 0, a, b, h => by simpa using h
  | [], i + 1, a, b, h => by simp at h
  | x :: t, i + 1, a, b, h => by
    simp only [List.insertIdx_succ_cons, List.mem_cons] at h
    rcases h with h | h
    · exact Or.inr (by simp [h])
    · rcases mem_insertIdx_or t i a b h with h | h
      · exact Or.inl h
      · exact Or.inr (List.mem_cons_of_mem _ h)

theorem AFok.insertIdx {d : Dom} {af : List FormatEntry} (h : AFok d af) (i : Nat) {x : Id} {t : Tag}
    (ht : isOneOf t.name fmtNames = true) (hn : nm d x = ⟨nsHtml, t.name⟩) (he : d.isElement x = true) :
    AFok d (af.insertIdx i (.element x t)) := by
  intro y t' hy
  rcases mem_insertIdx_or _ _ _ _ hy with h1 | h1
  · cases h1; exact ⟨ht, hn, he⟩
  · exact h y t' h1

theorem AFok.sub {d : Dom} {af af' : List FormatEntry} (h : AFok d af) (hs : ∀ e ∈ af', e ∈ af) : AFok d af' :=
  fun x t hx => h x t (hs _ hx)

theorem AFok.marker {d : Dom} {af : List FormatEntry} (h : AFok d af) : AFok d (af ++ [.marker]) := by
  intro y t' hy
  rcases List.mem_append.mp hy with h1 | h1
  · exact h y t' h1
  · simp at h1

/-- `setAF` with a good list -/
theorem setAF_big {m : Mode} {r : Id} {ph : Phase} {s s' : State} {af : List FormatEntry} {u : Unit}
    (h : Big m r ph s) (haf : AFok s.dom af) (e : setAF af s = .ok (u, s')) :
    Big m r ph s' ∧ s' = { s with activeFormatting := af } := by
  unfold setAF at e
  obtain ⟨_, rfl⟩ := modS_ok.mp e
  exact ⟨h.upd rfl rfl rfl rfl rfl rfl rfl rfl rfl haf (by obtain ⟨_, hc, _⟩ := h; exact hc.form) (fun hf => hf), rfl⟩

instance (i : Nat) (site : String) : PB (afRemove i site) :=
  ⟨fun m r ph s a s' hb e => by
    unfold afRemove at e
    rw [getS_bind] at e
    by_cases hi : i < s.activeFormatting.length
    · rw [if_pos hi] at e
      obtain ⟨hb', rfl⟩ := setAF_big hb (hb.afok.eraseIdx i) e
      exact ⟨hb', rfl, rfl⟩
    · rw [if_neg hi] at e
      exact absurd e throw_ok⟩

theorem mem_clearToMarkerRev : ∀ (l : List FormatEntry) (e : FormatEntry), e ∈ clearToMarkerRev l → e ∈ l
  | [], _, h => by simp [clearToMarkerRev] at h
  | .marker :: rest, e, h => by
    simp only [clearToMarkerRev] at h; exact List.mem_cons_of_mem _ h
  | .element _ _ :: rest, e, h => by
    simp only [clearToMarkerRev] at h; exact List.mem_cons_of_mem _ (mem_clearToMarkerRev rest e h)

instance : PB clearActiveFormattingToMarker :=
  ⟨fun m r ph s a s' hb e => by
    unfold clearActiveFormattingToMarker at e
    obtain ⟨_, rfl⟩ := modS_ok.mp e
    refine ⟨hb.upd rfl rfl rfl rfl rfl rfl rfl rfl rfl (hb.afok.sub ?_) (by obtain ⟨_, hc, _⟩ := hb; exact hc.form)
      (fun hf => hf), rfl, rfl⟩
    intro x hx
    have := mem_clearToMarkerRev _ _ (List.mem_reverse.mp hx)
    exact List.mem_reverse.mp this⟩

instance : PB pushMarker :=
  ⟨fun m r ph s a s' hb e => by
    unfold pushMarker at e
    obtain ⟨_, rfl⟩ := modS_ok.mp e
    exact ⟨hb.upd rfl rfl rfl rfl rfl rfl rfl rfl rfl hb.afok.marker (by obtain ⟨_, hc, _⟩ := hb; exact hc.form)
      (fun hf => hf), rfl, rfl⟩⟩

instance (b : Bool) : PB (setFramesetOk b) :=
  ⟨fun m r ph s a s' hb e => by
    unfold setFramesetOk at e
    obtain ⟨_, rfl⟩ := modS_ok.mp e
    exact ⟨hb.upd rfl rfl rfl rfl rfl rfl rfl rfl rfl hb.afok (by obtain ⟨_, hc, _⟩ := hb; exact hc.form)
      (fun hf => hf), rfl, rfl⟩⟩

/-! ### `remove_from_stack` of a disposable element -/

theorem removeFromStack_big {m : Mode} {r : Id} {ph : Phase} {s s' : State} {x : Id} {u : Unit}
    (h : Big m r ph s) (hx : keepName (nm s.dom x) = false) (e : removeFromStack x s = .ok (u, s')) :
    Big m r ph s' ∧ s'.mode = s.mode ∧ s'.origMode = s.origMode := by
  obtain ⟨hse, hcase⟩ := removeFromStack_sem e
  have hm : s'.mode = s.mode := by rw [hse.rest]
  have ho : s'.origMode = s.origMode := by rw [hse.rest]
  refine ⟨?_, hm, ho⟩
  rcases hcase with ⟨h1, _⟩ | ⟨pos, hget, _, hst⟩
  · -- nothing removed: a pure query
    have hq : QS s s' := ⟨hse.nodes, by rw [hse.rest, h1]⟩
    exact h.qs hq
  · exact h.erase hse hget hst hx

/-! ### reconstruction of the active formatting elements -/

instance : PB (isMarkerOrOpen e) := by
  cases e <;> unfold isMarkerOrOpen <;> infer_instance


theorem reconstructRewind_pb : ∀ i, PB (reconstructRewind i)
  | 0 => by unfold reconstructRewind; infer_instance
  | i + 1 => by
    unfold reconstructRewind
    with_reducible apply PB.bind inferInstance
    intro s
    cases s.activeFormatting[i]? with
    | none => exact PB.throw _
    | some e =>
      have := reconstructRewind_pb i
      show PB (isMarkerOrOpen e >>= fun b => if b = true then pure (i + 1) else reconstructRewind i)
      infer_instance
instance (i : Nat) : PB (reconstructRewind i) := reconstructRewind_pb i

theorem reconstructCreate_pb : ∀ fuel i, PB (reconstructCreate fuel i)
  | 0, _ => by unfold reconstructCreate; infer_instance
  | fuel + 1, i => ⟨fun m r ph s a s' hb e => by
    unfold reconstructCreate at e
    rw [getS_bind] at e
    cases hget : s.activeFormatting[i]? with
    | none =>
      rw [hget] at e
      dsimp only at e
      obtain ⟨_, _, h1, _⟩ := bind_ok.mp e
      exact absurd h1 throw_ok
    | some ent =>
      rw [hget] at e
      cases ent with
      | marker =>
        dsimp only at e
        obtain ⟨_, _, h1, _⟩ := bind_ok.mp e
        exact absurd h1 throw_ok
      | element x0 tag =>
        dsimp only at e
        simp only [pure_bind] at e
        obtain ⟨el, s1, e1, e2⟩ := bind_ok.mp e
        have hmem : FormatEntry.element x0 tag ∈ s.activeFormatting := List.mem_of_getElem? hget
        obtain ⟨hfn, _, _⟩ := hb.afok x0 tag hmem
        obtain ⟨hb1, hm1, ho1, hn1, he1, _, _, haf1, _⟩ := insertElement_big hb (keepName_fmt hfn) e1
        rw [getS_bind] at e2
        rcases ite_run e2 with ⟨hi, e2⟩ | ⟨hi, e2⟩
        · obtain ⟨u, s2, e3, e4⟩ := bind_ok.mp e2
          obtain ⟨hb2, hs2⟩ := setAF_big hb1 (hb1.afok.set i hfn hn1 he1) e3
          have hm2 : s2.mode = s1.mode := by rw [hs2]
          have ho2 : s2.origMode = s1.origMode := by rw [hs2]
          rw [getS_bind] at e4
          by_cases h0 : (s2.activeFormatting.length == 0) = true
          · rw [if_pos h0] at e4; exact absurd e4 throw_ok
          · rw [if_neg h0] at e4
            by_cases hlast : (i == s2.activeFormatting.length - 1) = true
            · rw [if_pos hlast] at e4
              obtain ⟨_, rfl⟩ := pure_ok.mp e4
              exact ⟨hb2, hm2.trans hm1, ho2.trans ho1⟩
            · rw [if_neg hlast] at e4
              obtain ⟨hb3, hm3, ho3⟩ := (reconstructCreate_pb fuel (i + 1)).p m r ph s2 a s' hb2 e4
              exact ⟨hb3, hm3.trans (hm2.trans hm1), ho3.trans (ho2.trans ho1)⟩
        · obtain ⟨_, _, h1, _⟩ := bind_ok.mp e2
          exact absurd h1 throw_ok⟩
instance (fuel i : Nat) : PB (reconstructCreate fuel i) := reconstructCreate_pb fuel i

instance : PB reconstructActiveFormattingElements := by
  unfold reconstructActiveFormattingElements
  with_reducible apply PB.bind inferInstance
  intro s
  dsimp only
  cases s.activeFormatting.getLast? with
  | none => exact PB.pure _
  | some last =>
    dsimp only
    infer_instance

/-- the tag is one of the formatting elements -/
class FmtTag (tag : Tag) : Prop where
  h : isOneOf tag.name fmtNames = true

theorem cfe_tail {m : Mode} {r : Id} {ph : Phase} {s s' : State} {tag : Tag} {el : Id}
    (hb : Big m r ph s) (hf : isOneOf tag.name fmtNames = true)
    (e : (insertElement true nsHtml tag.name tag.attrs tag.hadDup >>= fun elem =>
      (modS fun s => { s with activeFormatting := s.activeFormatting ++ [.element elem tag] }) >>= fun _ => pure elem) s
        = .ok (el, s')) :
    Big m r ph s' ∧ s'.mode = s.mode ∧ s'.origMode = s.origMode := by
  obtain ⟨el', s2, e3, e4⟩ := bind_ok.mp e
  obtain ⟨hb2, hm2, ho2, hn2, he2, _, _, _, _⟩ := insertElement_big hb (keepName_fmt hf) e3
  obtain ⟨u', s3, e5, e6⟩ := bind_ok.mp e4
  obtain ⟨_, rfl⟩ := modS_ok.mp e5
  obtain ⟨rfl, rfl⟩ := pure_ok.mp e6
  exact ⟨hb2.upd rfl rfl rfl rfl rfl rfl rfl rfl rfl (hb2.afok.snoc hf hn2 he2)
    (by obtain ⟨_, hc, _⟩ := hb2; exact hc.form) (fun h => h), hm2, ho2⟩

theorem createFormattingElementFor_big {m : Mode} {r : Id} {ph : Phase} {s s' : State} {tag : Tag} {el : Id}
    (hb : Big m r ph s) (hf : isOneOf tag.name fmtNames = true) (e : createFormattingElementFor tag s = .ok (el, s')) :
    Big m r ph s' ∧ s'.mode = s.mode ∧ s'.origMode = s.origMode := by
  unfold createFormattingElementFor at e
  rw [getS_bind] at e
  dsimp only at e
  generalize List.filter _ (afEndToMarker s.activeFormatting) = ms at e
  rcases ite_run e with ⟨_, e⟩ | ⟨_, e⟩
  · cases hl : ms.getLast? with
    | none =>
      rw [hl] at e; dsimp only at e
      obtain ⟨_, _, h1, _⟩ := bind_ok.mp e
      exact absurd h1 throw_ok
    | some x =>
      obtain ⟨i, x1, x2⟩ := x
      rw [hl] at e; dsimp only at e
      obtain ⟨u, s1, e1, e2⟩ := bind_ok.mp e
      obtain ⟨hb1, hm1, ho1⟩ := (inferInstance : PB (afRemove i "mod.rs:1530")).p m r ph s u s1 hb e1
      obtain ⟨hb2, hm2, ho2⟩ := cfe_tail hb1 hf e2
      exact ⟨hb2, hm2.trans hm1, ho2.trans ho1⟩
  · exact cfe_tail hb hf e

instance (tag : Tag) [h : FmtTag tag] : PB (createFormattingElementFor tag) :=
  ⟨fun _ _ _ _ _ _ hb e => createFormattingElementFor_big hb h.h e⟩

end H5V.Props.C06
