import H5V.Lemmas.XmlTBHContractFns
import H5V.Lemmas.HtmlTBAlgoBase
import H5V.Lemmas.XmlTB
/-!
# Bridge between the two models of xml5ever's tree builder

`H5V.Model.XmlTB` (tree-valued, zipper; the model C16 is proved for) and `H5V.Model.XmlTBH`
(handle-level, every `TreeSink` call recorded; the model tied to the Rust by the `xmltb` trace
correspondence) are related by the simulation `BSim`:

* same phase, same namespace stack, same `doctype_seen`;
* the stacks of open elements correspond entry by entry: the handle is an element node of the arena whose
  qualified name **and attribute list** are those of the frame (`IsElem`, `Match`);
* the `create_element` calls recorded in the trace — name, attributes **and flags**, newest first — are
  the `created` list of the tree-valued model (`createOps`, `crop`).

The simulation is proved by *partial correctness* (`PC`): whenever both models return normally on the
same token, `BSim` is re-established.  That neither model panics is C16 (`step_inv`) and C05
(`sat_processToken`); it is not needed here.

Sink side: only `Stable` (element data survive every call the builder makes, `HtmlTBAlgoBase`) and the
shape of the answers of `create_element` / `elem_name` are used.
-/
namespace H5V.Lemmas.XmlTBHBridge
open H5V.Model.Dom (Id SinkOp Output Dom NodeOrText NodeData QualName Attr ElementFlags)
open H5V.Model.XmlTB (QName Tag TagKind Token TbCfg Bound Phase Created NsMap Err pushesMap sameExpanded sScript)
open H5V.Model.XmlTBH
open H5V.Lemmas.XmlTBH (bind_ok pure_ok getS_ok modS_ok throw_ok sink_ok nameOf Named apply_elemName
  createElement_fresh nameOf_of_data)
open H5V.Lemmas.HtmlTBAlgo (Stable Tame)

/-- the state of the tree-valued model -/
abbrev TState := H5V.Model.XmlTB.State
abbrev XAttr := H5V.Model.XmlTB.Attr

/-! ## partial correctness in the monad `M` -/

/-- if `m`, started in `h`, returns normally, the answer and the final state satisfy `Q` -/
def PC {α : Type} (m : M α) (h : State) (Q : α → State → Prop) : Prop :=
  ∀ a h', m h = .ok (a, h') → Q a h'

theorem pc_pure {α : Type} {a : α} {h : State} {Q : α → State → Prop} (hq : Q a h) : PC (pure a) h Q := by
  intro b h' e
  obtain ⟨rfl, rfl⟩ := pure_ok.mp e
  exact hq

theorem pc_bind {α β : Type} {m : M α} {f : α → M β} {h : State} {Q : β → State → Prop}
    (hm : PC m h (fun a h1 => PC (f a) h1 Q)) : PC (m >>= f) h Q := by
  intro b h' e
  obtain ⟨a, h1, e1, e2⟩ := bind_ok.mp e
  exact hm a h1 e1 b h' e2

theorem pc_seq {α β : Type} {m : M α} {f : α → M β} {h : State} {P : α → State → Prop} {Q : β → State → Prop}
    (hm : PC m h P) (hf : ∀ a h1, P a h1 → PC (f a) h1 Q) : PC (m >>= f) h Q :=
  pc_bind (fun a h1 e => hf a h1 (hm a h1 e))

theorem pc_mono {α : Type} {m : M α} {h : State} {P Q : α → State → Prop} (hm : PC m h P)
    (hq : ∀ a h', P a h' → Q a h') : PC m h Q := fun a h' e => hq a h' (hm a h' e)

theorem pc_read_bind {β : Type} {f : State → M β} {h : State} {Q : β → State → Prop}
    (hf : PC (f h) h Q) : PC (getS >>= f) h Q := by
  intro b h' e
  obtain ⟨a, h1, e1, e2⟩ := bind_ok.mp e
  obtain ⟨rfl, rfl⟩ := getS_ok.mp e1
  exact hf b h' e2

theorem pc_modify_bind {β : Type} {g : State → State} {f : Unit → M β} {h : State} {Q : β → State → Prop}
    (hf : PC (f ()) (g h) Q) : PC (modS g >>= f) h Q := by
  intro b h' e
  obtain ⟨a, h1, e1, e2⟩ := bind_ok.mp e
  have := modS_ok.mp e1
  subst this
  exact hf b h' e2

theorem pc_modify {g : State → State} {h : State} {Q : Unit → State → Prop} (hq : Q () (g h)) :
    PC (modS g) h Q := by
  intro a h' e
  have := modS_ok.mp e
  subst this
  exact hq

theorem pc_throw {α : Type} {e : String} {h : State} {Q : α → State → Prop} : PC (throw e : M α) h Q :=
  fun _ _ e' => absurd e' throw_ok

/-! ## the `create_element` calls of a trace; what a computation may do to the state -/

/-- what a `create_element` call carries: name, attributes, flags -/
abbrev CrOp := QualName × List Attr × ElementFlags

def crOf : SinkOp × Output → Option CrOp
  | (.createElement n a f, _) => some (n, a, f)
  | _ => none

/-- the `create_element` calls of a trace (newest first, as the trace is) -/
def createOps (tr : List (SinkOp × Output)) : List CrOp := tr.filterMap crOf

/-- the control fields are untouched, the data of every element node survive, the trace has grown by the
`create_element` calls `cs` (newest first) and any number of other calls -/
structure Eff (h h' : State) (cs : List CrOp) : Prop where
  opened : h'.opened = h.opened
  ns : h'.nsStack = h.nsStack
  phase : h'.phase = h.phase
  dts : h'.doctypeSeen = h.doctypeSeen
  stable : Stable h.dom h'.dom
  created : createOps h'.traceRev = cs ++ createOps h.traceRev

theorem Eff.refl (h : State) : Eff h h [] := ⟨rfl, rfl, rfl, rfl, Stable.refl _, rfl⟩

theorem Eff.trans {a b c : State} {c1 c2 : List CrOp} (h1 : Eff a b c1) (h2 : Eff b c c2) : Eff a c (c2 ++ c1) :=
  ⟨h2.opened.trans h1.opened, h2.ns.trans h1.ns, h2.phase.trans h1.phase, h2.dts.trans h1.dts,
   h1.stable.trans h2.stable, by rw [h2.created, h1.created, List.append_assoc]⟩

theorem Eff.trans0 {a b c : State} {cs : List CrOp} (h1 : Eff a b []) (h2 : Eff b c cs) : Eff a c cs := by
  have := h1.trans h2
  rwa [List.append_nil] at this

theorem Eff.trans1 {a b c : State} {cs : List CrOp} (h1 : Eff a b cs) (h2 : Eff b c []) : Eff a c cs :=
  h1.trans h2

theorem pc_sink {op : SinkOp} {h : State} (ht : Tame op) : PC (sink op) h (fun out h' =>
    Eff h h' (crOf (op, out)).toList ∧ ∃ d, h.dom.apply op = .ok (d, out) ∧ h'.dom = d) := by
  intro out h' e
  obtain ⟨d, ha, rfl⟩ := sink_ok.mp e
  refine ⟨⟨rfl, rfl, rfl, rfl, Stable.apply ht ha, ?_⟩, d, ha, rfl⟩
  show ((op, out) :: h.traceRev).filterMap crOf = _
  rw [List.filterMap_cons]
  cases crOf (op, out) <;> rfl

/-- computations that make no `create_element` call and leave the control fields alone -/
def Quiet {α : Type} (m : M α) : Prop := ∀ h, PC m h (fun _ h' => Eff h h' [])

theorem quiet_pure {α : Type} (a : α) : Quiet (pure a : M α) := fun h => pc_pure (Eff.refl h)

theorem quiet_throw {α : Type} (e : String) : Quiet (throw e : M α) := fun _ => pc_throw

theorem quiet_bind {α β : Type} {m : M α} {f : α → M β} (hm : Quiet m) (hf : ∀ a, Quiet (f a)) :
    Quiet (m >>= f) := fun h =>
  pc_seq (hm h) fun a h1 e1 => pc_mono (hf a h1) fun _ _ e2 => e1.trans0 e2

theorem quiet_read_bind {β : Type} {f : State → M β} (hf : ∀ st, Quiet (f st)) : Quiet (getS >>= f) :=
  fun h => pc_read_bind (hf h h)

theorem quiet_sink {op : SinkOp} (ht : Tame op) (hc : ∀ out, crOf (op, out) = none) : Quiet (sink op) := by
  intro h
  refine pc_mono (pc_sink ht) ?_
  rintro out h' ⟨he, _⟩
  rw [hc out] at he
  exact he

theorem quiet_sinkUnit {op : SinkOp} (ht : Tame op) (hc : ∀ out, crOf (op, out) = none) :
    Quiet (sinkUnit op) := by
  unfold sinkUnit
  exact quiet_bind (quiet_sink ht hc) fun _ => quiet_pure _

theorem quiet_sinkNode {op : SinkOp} (ht : Tame op) (hc : ∀ out, crOf (op, out) = none) :
    Quiet (sinkNode op) := by
  unfold sinkNode
  refine quiet_bind (quiet_sink ht hc) fun out => ?_
  cases out
  case node id => exact quiet_pure _
  all_goals exact quiet_throw _

theorem quiet_parseErr (e : Err) : Quiet (parseErr e) := quiet_sinkUnit trivial (fun _ => rfl)

theorem quiet_parseErrs : ∀ es : List Err, Quiet (parseErrs es)
  | [] => quiet_pure _
  | e :: rest => by
    unfold parseErrs
    exact quiet_bind (quiet_parseErr e) fun _ => quiet_parseErrs rest

theorem quiet_currentNode (site : String) : Quiet (currentNode site) := by
  unfold currentNode
  refine quiet_read_bind fun st => ?_
  cases st.opened with
  | nil => exact quiet_throw _
  | cons x xs => exact quiet_pure _

theorem quiet_appendToDoc (c : Id) : Quiet (getS >>= fun st => sinkUnit (.append st.docHandle (.node c))) :=
  quiet_read_bind fun _ => quiet_sinkUnit trivial (fun _ => rfl)

theorem quiet_appendCommentToDoc (t : List Char) : Quiet (appendCommentToDoc t) := by
  unfold appendCommentToDoc
  exact quiet_bind (quiet_sinkNode trivial (fun _ => rfl)) fun c => quiet_appendToDoc c

theorem quiet_appendPiToDoc (t d : List Char) : Quiet (appendPiToDoc t d) := by
  unfold appendPiToDoc
  exact quiet_bind (quiet_sinkNode trivial (fun _ => rfl)) fun c => quiet_appendToDoc c

theorem quiet_appendCommentToTag (t : List Char) : Quiet (appendCommentToTag t) := by
  unfold appendCommentToTag
  exact quiet_bind (quiet_currentNode _) fun _ =>
    quiet_bind (quiet_sinkNode trivial (fun _ => rfl)) fun _ => quiet_sinkUnit trivial (fun _ => rfl)

theorem quiet_appendPiToTag (t d : List Char) : Quiet (appendPiToTag t d) := by
  unfold appendPiToTag
  exact quiet_bind (quiet_currentNode _) fun _ =>
    quiet_bind (quiet_sinkNode trivial (fun _ => rfl)) fun _ => quiet_sinkUnit trivial (fun _ => rfl)

theorem quiet_insertAppropriately (c : NodeOrText) : Quiet (insertAppropriately c) := by
  unfold insertAppropriately
  exact quiet_bind (quiet_currentNode _) fun _ => quiet_sinkUnit trivial (fun _ => rfl)

theorem quiet_appendText (t : List Char) : Quiet (appendText t) := quiet_insertAppropriately _

theorem quiet_appendDoctypeToDoc (n p s : Option (List Char)) : Quiet (appendDoctypeToDoc n p s) :=
  quiet_sinkUnit trivial (fun _ => rfl)

theorem quiet_popAll : ∀ l : List Id, Quiet (popAll l)
  | [] => quiet_pure _
  | x :: rest => by
    unfold popAll
    exact quiet_bind (quiet_sinkUnit trivial (fun _ => rfl)) fun _ => quiet_popAll rest

/-! ## element nodes and the correspondence of the two stacks -/

/-- `x` is an element node of the arena with the qualified name `n` and the attribute list `as` -/
def IsElem (d : Dom) (n : QName) (as : List XAttr) (x : Id) : Prop :=
  ∃ tc ip, d.dataOf x = some (.element (toQual n) (as.map toAttr) tc ip)

theorem IsElem.stable {d d' : Dom} {n : QName} {as : List XAttr} {x : Id} (h : IsElem d n as x)
    (hs : Stable d d') : IsElem d' n as x := by
  obtain ⟨tc, ip, hd⟩ := h
  exact ⟨tc, ip, (hs.data x (H5V.Lemmas.XmlTBH.isElement_of_data hd)).trans hd⟩

theorem IsElem.nameOf {d : Dom} {n : QName} {as : List XAttr} {x : Id} (h : IsElem d n as x) :
    nameOf d x = some (n.ns, n.loc) := by
  obtain ⟨tc, ip, hd⟩ := h
  exact nameOf_of_data hd

theorem IsElem.named_iff {d : Dom} {n nm : QName} {as : List XAttr} {x : Id} (h : IsElem d n as x) :
    Named d nm x ↔ sameExpanded n nm = true := by
  unfold Named sameExpanded
  rw [h.nameOf]
  simp only [Option.some.injEq, Prod.mk.injEq, Bool.and_eq_true, beq_iff_eq]

/-- the frames of the tree-valued model (name and attributes; top first) against the handles -/
def Match (d : Dom) : List (QName × List XAttr) → List Id → Prop
  | [], [] => True
  | f :: fs, x :: xs => IsElem d f.1 f.2 x ∧ Match d fs xs
  | [], _ :: _ => False
  | _ :: _, [] => False

theorem Match.stable {d d' : Dom} (hs : Stable d d') : ∀ {fs : List (QName × List XAttr)} {xs : List Id},
    Match d fs xs → Match d' fs xs
  | [], [], _ => trivial
  | _ :: _, _ :: _, ⟨h1, h2⟩ => ⟨h1.stable hs, Match.stable hs h2⟩
  | [], _ :: _, h | _ :: _, [], h => h.elim

theorem Match.length {d : Dom} : ∀ {fs : List (QName × List XAttr)} {xs : List Id},
    Match d fs xs → fs.length = xs.length
  | [], [], _ => rfl
  | _ :: _, _ :: _, ⟨_, h2⟩ => by simp [Match.length h2]
  | [], _ :: _, h | _ :: _, [], h => h.elim

theorem Match.nil_left {d : Dom} {xs : List Id} (h : Match d [] xs) : xs = [] := by
  cases xs with
  | nil => rfl
  | cons _ _ => exact h.elim

theorem Match.nil_right {d : Dom} {fs : List (QName × List XAttr)} (h : Match d fs []) : fs = [] := by
  cases fs with
  | nil => rfl
  | cons _ _ => exact h.elim

theorem Match.cons_left {d : Dom} {f : QName × List XAttr} {fs : List (QName × List XAttr)} {xs : List Id}
    (h : Match d (f :: fs) xs) : ∃ x rest, xs = x :: rest ∧ IsElem d f.1 f.2 x ∧ Match d fs rest := by
  cases xs with
  | nil => exact h.elim
  | cons x rest => exact ⟨x, rest, rfl, h.1, h.2⟩

theorem Match.any_iff {d : Dom} (nm : QName) : ∀ {fs : List (QName × List XAttr)} {xs : List Id},
    Match d fs xs → ((∃ x ∈ xs, Named d nm x) ↔ fs.any (fun f => sameExpanded f.1 nm) = true)
  | [], [], _ => by simp
  | f :: fs, x :: xs, ⟨h1, h2⟩ => by
    have ih := Match.any_iff nm h2
    simp only [List.any_cons, Bool.or_eq_true, ← ih, ← h1.named_iff (nm := nm)]
    constructor
    · rintro ⟨y, hy, hn⟩
      rcases List.mem_cons.mp hy with rfl | hy
      · exact Or.inl hn
      · exact Or.inr ⟨y, hy, hn⟩
    · rintro (hn | ⟨y, hy, hn⟩)
      · exact ⟨x, List.mem_cons_self, hn⟩
      · exact ⟨y, List.mem_cons_of_mem _ hy, hn⟩
  | [], _ :: _, h | _ :: _, [], h => h.elim

theorem Match.all_named {d : Dom} : ∀ {fs : List (QName × List XAttr)} {xs : List Id},
    Match d fs xs → ∀ x ∈ xs, ∃ p, nameOf d x = some p
  | [], [], _ => fun _ hx => nomatch hx
  | _ :: _, _ :: _, ⟨h1, h2⟩ => fun y hy => by
    rcases List.mem_cons.mp hy with rfl | hy
    · exact ⟨_, h1.nameOf⟩
    · exact Match.all_named h2 y hy
  | [], _ :: _, h | _ :: _, [], h => h.elim

/-! ## the simulation relation -/

/-- name and attributes of the open elements of the tree-valued model, top first -/
def frames (s : TState) : List (QName × List XAttr) := s.opened.map (fun f => (f.name, f.attrs))

/-- what `create_element(&self.sink, name, attrs)` hands to the sink for a bound tag: the converted name
and attributes and the flags `markup5ever::interface::create_element` computes from them -/
def crop (n : QName) (as : List XAttr) : CrOp :=
  (toQual n, as.map toAttr, elementFlags (toQual n) (as.map toAttr))

/-- **the simulation** between the tree-valued and the handle-level model -/
structure BSim (s : TState) (h : State) : Prop where
  phase : s.phase = h.phase
  ns : s.nsStack = h.nsStack
  dts : s.doctypeSeen = h.doctypeSeen
  opened : Match h.dom (frames s) h.opened
  created : createOps h.traceRev = s.created.map (fun c => crop c.name c.attrs)

/-- a quiet computation on the handle side against a change of the tree-valued state that leaves the
compared fields alone -/
theorem BSim.eff {s s1 : TState} {h h1 : State} (hb : BSim s h) (he : Eff h h1 [])
    (hp : s1.phase = s.phase) (hn : s1.nsStack = s.nsStack) (hd : s1.doctypeSeen = s.doctypeSeen)
    (hf : frames s1 = frames s) (hc : s1.created = s.created) : BSim s1 h1 :=
  ⟨by rw [hp, he.phase]; exact hb.phase, by rw [hn, he.ns]; exact hb.ns, by rw [hd, he.dts]; exact hb.dts,
   by rw [hf, he.opened]; exact hb.opened.stable he.stable,
   by rw [he.created, hc]; exact hb.created⟩

theorem BSim.quiet {s : TState} {h h1 : State} (hb : BSim s h) (he : Eff h h1 []) : BSim s h1 :=
  hb.eff he rfl rfl rfl rfl rfl

theorem BSim.opened_nil_iff {s : TState} {h : State} (hb : BSim s h) : s.opened = [] ↔ h.opened = [] := by
  constructor
  · intro h0
    have := hb.opened
    rw [frames, h0] at this
    exact this.nil_left
  · intro h0
    have := hb.opened
    rw [h0] at this
    have := this.nil_right
    cases hs : s.opened with
    | nil => rfl
    | cons f r => rw [frames, hs] at this; cases this

/-! ## sink answers -/

theorem nameOf_stable {d d' : Dom} (hs : Stable d d') {x : Id} {p : List Char × List Char}
    (hn : nameOf d x = some p) : nameOf d' x = some p := by
  have he : d.isElement x = true := by
    unfold nameOf at hn
    unfold Dom.isElement
    cases hd : d.dataOf x with
    | none => simp [hd] at hn
    | some v => cases v <;> simp_all
  unfold nameOf at hn ⊢
  rw [hs.data x he]
  exact hn

theorem named_stable_iff {d d' : Dom} (hs : Stable d d') {x : Id} (nm : QName)
    (hx : ∃ p, nameOf d x = some p) : Named d' nm x ↔ Named d nm x := by
  obtain ⟨p, hp⟩ := hx
  unfold Named
  rw [hp, nameOf_stable hs hp]

theorem pc_currentNode (site : String) (h : State) :
    PC (currentNode site) h (fun x h' => h' = h ∧ ∃ rest, h.opened = x :: rest) := by
  unfold currentNode
  refine pc_read_bind ?_
  cases h.opened with
  | nil => exact pc_throw
  | cons x xs => exact pc_pure ⟨rfl, xs, rfl⟩

/-- `elem_name` of an element node answers its expanded name -/
theorem pc_elemName {h : State} {x : Id} {p : List Char × List Char} (hn : nameOf h.dom x = some p) :
    PC (elemName x) h (fun q h' => q = p ∧ Eff h h' []) := by
  unfold elemName
  refine pc_seq (pc_sink trivial) ?_
  rintro out h1 ⟨he, d, ha, _⟩
  rw [apply_elemName hn] at ha
  cases ha
  exact pc_pure ⟨rfl, he⟩

theorem pc_createElementOp (name : QualName) (attrs : List Attr) (flags : ElementFlags) (h : State) :
    PC (sinkNode (.createElement name attrs flags)) h (fun c h' => Eff h h' [(name, attrs, flags)] ∧
      ∃ tc, h'.dom.dataOf c = some (.element name attrs tc flags.mathmlIP)) := by
  unfold sinkNode
  refine pc_seq (pc_sink trivial) ?_
  rintro out h1 ⟨he, d, ha, hd⟩
  have hrfl : h.dom.apply (.createElement name attrs flags) =
      .ok ((h.dom.createElement name attrs flags).1, .node (h.dom.createElement name attrs flags).2) := rfl
  rw [hrfl] at ha
  cases ha
  obtain ⟨_, tc, h2⟩ := createElement_fresh h.dom name attrs flags
  refine pc_pure ⟨he, tc, ?_⟩
  rw [hd]
  exact h2

/-- `create_element`: one call with the converted name, attributes and the computed flags; the answer is
an element node carrying that name and those attributes -/
theorem pc_createElement (b : Bound) (h : State) :
    PC (createElement b) h (fun c h' => Eff h h' [crop b.name b.attrs] ∧ IsElem h'.dom b.name b.attrs c) :=
  pc_mono (pc_createElementOp (toQual b.name) (b.attrs.map toAttr)
    (elementFlags (toQual b.name) (b.attrs.map toAttr)) h) (fun _ _ ⟨he, tc, hd⟩ => ⟨he, tc, _, hd⟩)

theorem pc_anyNamed (nm : QName) : ∀ (l : List Id) (h : State), (∀ x ∈ l, ∃ p, nameOf h.dom x = some p) →
    PC (anyNamed nm l) h (fun b h' => Eff h h' [] ∧ (b = true ↔ ∃ x ∈ l, Named h.dom nm x)) := by
  intro l
  induction l with
  | nil => intro h _; exact pc_pure ⟨Eff.refl h, by simp⟩
  | cons a rest ih =>
    intro h hl
    obtain ⟨p, hp⟩ := hl a List.mem_cons_self
    unfold anyNamed
    refine pc_seq (pc_elemName hp) ?_
    intro q h1 hqe
    obtain ⟨hq, he⟩ := hqe
    subst q
    show PC (if (p.1 == nm.ns && p.2 == nm.loc) = true then pure true else anyNamed nm rest) h1 _
    by_cases hb : (p.1 == nm.ns && p.2 == nm.loc) = true
    · rw [if_pos hb]
      refine pc_pure ⟨he, iff_of_true rfl ⟨a, List.mem_cons_self, ?_⟩⟩
      simp only [Bool.and_eq_true, beq_iff_eq] at hb
      unfold Named
      rw [hp, ← hb.1, ← hb.2]
    · rw [if_neg hb]
      have hl1 : ∀ x ∈ rest, ∃ p, nameOf h1.dom x = some p := fun x hx => by
        obtain ⟨q, hq⟩ := hl x (List.mem_cons_of_mem _ hx)
        exact ⟨q, nameOf_stable he.stable hq⟩
      have hna : ¬ Named h.dom nm a := by
        intro hn
        unfold Named at hn
        rw [hp] at hn
        simp only [Option.some.injEq] at hn
        rw [hn] at hb
        simp at hb
      refine pc_mono (ih h1 hl1) ?_
      rintro b h2 ⟨he2, hb2⟩
      refine ⟨he.trans0 he2, hb2.trans ?_⟩
      constructor
      · rintro ⟨x, hx, hn⟩
        exact ⟨x, List.mem_cons_of_mem _ hx,
          (named_stable_iff he.stable nm (hl x (List.mem_cons_of_mem _ hx))).mp hn⟩
      · rintro ⟨x, hx, hn⟩
        rcases List.mem_cons.mp hx with rfl | hx
        · exact absurd hn hna
        · exact ⟨x, hx, (named_stable_iff he.stable nm (hl x (List.mem_cons_of_mem _ hx))).mpr hn⟩

theorem pc_tagInOpenElems (nm : QName) (h : State) (hl : ∀ x ∈ h.opened, ∃ p, nameOf h.dom x = some p) :
    PC (tagInOpenElems nm) h (fun b h' => Eff h h' [] ∧ (b = true ↔ ∃ x ∈ h.opened, Named h.dom nm x)) := by
  unfold tagInOpenElems
  refine pc_read_bind ?_
  refine pc_mono (pc_anyNamed nm h.opened.reverse h (fun x hx => hl x (List.mem_reverse.mp hx))) ?_
  rintro b h' ⟨he, hb⟩
  refine ⟨he, hb.trans ?_⟩
  constructor
  · rintro ⟨x, hx, hn⟩; exact ⟨x, List.mem_reverse.mp hx, hn⟩
  · rintro ⟨x, hx, hn⟩; exact ⟨x, List.mem_reverse.mpr hx, hn⟩

theorem pc_currentNodeIs {h : State} {x : Id} {xs : List Id} {n : QName} {as : List XAttr} (nm : QName)
    (ho : h.opened = x :: xs) (hx : IsElem h.dom n as x) :
    PC (currentNodeIs nm) h (fun b h' => b = sameExpanded n nm ∧ Eff h h' []) := by
  unfold currentNodeIs
  refine pc_seq (pc_currentNode _ h) ?_
  rintro y _ ⟨rfl, rest, ho'⟩
  rw [ho] at ho'
  cases ho'
  refine pc_seq (pc_elemName hx.nameOf) ?_
  rintro _ h1 ⟨rfl, he⟩
  exact pc_pure ⟨rfl, he⟩

/-! ## the tree-valued side, function by function -/

theorem exc_map_ok {ε α β : Type} {x : Except ε α} {f : α → β} {b : β} (e : x.map f = .ok b) :
    ∃ a, x = .ok a ∧ b = f a := by
  cases x with
  | error _ => cases e
  | ok a => cases e; exact ⟨a, rfl, rfl⟩

theorem exc_bind_ok {ε α β : Type} {x : Except ε α} {f : α → Except ε β} {b : β} (e : x.bind f = .ok b) :
    ∃ a, x = .ok a ∧ f a = .ok b := by
  cases x with
  | error _ => cases e
  | ok a => exact ⟨a, rfl, e⟩

/-- the fields `BSim` compares are equal -/
structure TEq (s s1 : TState) : Prop where
  phase : s1.phase = s.phase
  ns : s1.nsStack = s.nsStack
  dts : s1.doctypeSeen = s.doctypeSeen
  fr : frames s1 = frames s
  created : s1.created = s.created

theorem TEq.refl (s : TState) : TEq s s := ⟨rfl, rfl, rfl, rfl, rfl⟩

theorem TEq.err (s : TState) (es : List Err) : TEq s (s.err es) := ⟨rfl, rfl, rfl, rfl, rfl⟩

theorem TEq.appendDoc (s : TState) (n : H5V.Model.XmlTB.Node) : TEq s (s.appendDoc n) := by
  unfold H5V.Model.XmlTB.State.appendDoc
  split <;> exact ⟨rfl, rfl, rfl, rfl, rfl⟩

theorem BSim.teq {s s1 : TState} {h h1 : State} (hb : BSim s h) (ht : TEq s s1) (he : Eff h h1 []) :
    BSim s1 h1 := hb.eff he ht.phase ht.ns ht.dts ht.fr ht.created

theorem xappendCur {s s1 : TState} {upd : List H5V.Model.XmlTB.Node → List H5V.Model.XmlTB.Node}
    (e : H5V.Model.XmlTB.appendCur s upd = .ok s1) : TEq s s1 ∧ s.opened ≠ [] := by
  unfold H5V.Model.XmlTB.appendCur at e
  cases ho : s.opened with
  | nil => rw [ho] at e; cases e
  | cons f rest =>
    rw [ho] at e
    cases e
    exact ⟨⟨rfl, rfl, rfl, by rw [frames, frames, ho]; rfl, rfl⟩, fun h => nomatch h⟩

theorem xpop {s s1 : TState} (e : H5V.Model.XmlTB.pop s = .ok s1) :
    ∃ f rest, frames s = f :: rest ∧ frames s1 = rest ∧ s1.nsStack = s.nsStack.tail ∧ s1.phase = s.phase ∧
      s1.doctypeSeen = s.doctypeSeen ∧ s1.created = s.created := by
  unfold H5V.Model.XmlTB.pop at e
  cases ho : s.opened with
  | nil => rw [ho] at e; cases e
  | cons f rest =>
    cases rest with
    | nil =>
      rw [ho] at e
      cases e
      exact ⟨(f.name, f.attrs), [], by rw [frames, ho]; rfl, rfl, rfl, rfl, rfl, rfl⟩
    | cons g r =>
      rw [ho] at e
      cases e
      exact ⟨(f.name, f.attrs), (g :: r).map (fun f => (f.name, f.attrs)), by rw [frames, ho]; rfl,
        rfl, rfl, rfl, rfl, rfl⟩

theorem xinsertTag {s s1 : TState} {b : Bound} (e : H5V.Model.XmlTB.insertTag s b = .ok s1) :
    s.opened ≠ [] ∧ frames s1 = (b.name, b.attrs) :: frames s ∧ s1.created = ⟨b.name, b.attrs⟩ :: s.created ∧
      s1.nsStack = s.nsStack ∧ s1.phase = s.phase ∧ s1.doctypeSeen = s.doctypeSeen := by
  unfold H5V.Model.XmlTB.insertTag at e
  cases ho : s.opened with
  | nil => rw [ho] at e; cases e
  | cons f rest =>
    rw [ho] at e
    cases e
    exact ⟨fun h => (nomatch h), by rw [frames, frames, ho]; rfl, rfl, rfl, rfl, rfl⟩

theorem xpopUntil_cases {nm : QName} {n : Nat} {s s1 : TState}
    (e : H5V.Model.XmlTB.popUntil nm n s = .ok s1) :
    ∃ f rest, s.opened = f :: rest ∧
      ((sameExpanded f.name nm = true ∧ s1 = s) ∨
       (sameExpanded f.name nm = false ∧ ∃ n' s2, n = n' + 1 ∧ H5V.Model.XmlTB.pop s = .ok s2 ∧
          H5V.Model.XmlTB.popUntil nm n' s2 = .ok s1)) := by
  cases n with
  | zero =>
    unfold H5V.Model.XmlTB.popUntil at e
    cases ho : s.opened with
    | nil => rw [ho] at e; cases e
    | cons f rest =>
      rw [ho] at e
      refine ⟨f, rest, rfl, ?_⟩
      by_cases hm : sameExpanded f.name nm = true
      · simp only [hm, if_true] at e
        cases e
        exact Or.inl ⟨hm, rfl⟩
      · simp only [hm] at e
        cases e
  | succ n' =>
    unfold H5V.Model.XmlTB.popUntil at e
    cases ho : s.opened with
    | nil => rw [ho] at e; cases e
    | cons f rest =>
      rw [ho] at e
      refine ⟨f, rest, rfl, ?_⟩
      by_cases hm : sameExpanded f.name nm = true
      · simp only [hm, if_true] at e
        cases e
        exact Or.inl ⟨hm, rfl⟩
      · simp only [hm] at e
        obtain ⟨s2, e1, e2⟩ := exc_bind_ok e
        exact Or.inr ⟨by simpa using hm, n', s2, rfl, e1, e2⟩

/-! ## the stack-changing functions, pairwise -/

theorem sim_pop {s s1 : TState} {h : State} (hb : BSim s h) (e : H5V.Model.XmlTB.pop s = .ok s1) :
    PC pop h (fun _ h1 => BSim s1 h1) := by
  obtain ⟨f, rest, hf, hf1, hn1, hp1, hd1, hc1⟩ := xpop e
  have hm := hb.opened
  rw [hf] at hm
  obtain ⟨x, xs, ho, hx, hms⟩ := hm.cons_left
  unfold pop
  refine pc_modify_bind (pc_read_bind ?_)
  simp only [ho]
  refine pc_modify_bind ?_
  refine pc_seq (quiet_sinkUnit (op := .pop x) trivial (fun _ => rfl) _) ?_
  intro _ h2 he
  refine pc_pure ?_
  exact ⟨by rw [hp1, he.phase]; exact hb.phase, by rw [hn1, he.ns, hb.ns], by rw [hd1, he.dts]; exact hb.dts,
    by rw [hf1, he.opened]; exact hms.stable he.stable, by rw [he.created, hc1]; exact hb.created⟩

theorem BSim.top {s : TState} {h : State} (hb : BSim s h) {f : H5V.Model.XmlTB.Frame}
    {rest : List H5V.Model.XmlTB.Frame} (ho : s.opened = f :: rest) :
    ∃ x xs, h.opened = x :: xs ∧ IsElem h.dom f.name f.attrs x := by
  have hm := hb.opened
  rw [frames, ho] at hm
  obtain ⟨x, xs, hxo, hx, _⟩ := hm.cons_left
  exact ⟨x, xs, hxo, hx⟩

theorem sim_popUntil (nm : QName) : ∀ (n m : Nat) {s s1 : TState} {h : State}, BSim s h →
    H5V.Model.XmlTB.popUntil nm n s = .ok s1 → PC (popUntil nm m) h (fun _ h1 => BSim s1 h1) := by
  intro n
  induction n with
  | zero =>
    intro m s s1 h hb e
    obtain ⟨f, rest, ho, hc⟩ := xpopUntil_cases e
    rcases hc with ⟨hm, rfl⟩ | ⟨_, n', _, hn, _⟩
    · cases m with
      | zero => unfold popUntil; exact pc_throw
      | succ m =>
        obtain ⟨x, xs, hxo, hx⟩ := hb.top ho
        unfold popUntil
        refine pc_seq (pc_currentNodeIs nm hxo hx) ?_
        rintro b h1 ⟨rfl, he⟩
        rw [if_pos hm]
        exact pc_pure (hb.quiet he)
    · cases hn
  | succ n ih =>
    intro m s s1 h hb e
    obtain ⟨f, rest, ho, hc⟩ := xpopUntil_cases e
    cases m with
    | zero => unfold popUntil; exact pc_throw
    | succ m =>
      obtain ⟨x, xs, hxo, hx⟩ := hb.top ho
      unfold popUntil
      refine pc_seq (pc_currentNodeIs nm hxo hx) ?_
      rintro b h1 ⟨rfl, he⟩
      rcases hc with ⟨hm, rfl⟩ | ⟨hm, n', s2, hn, e1, e2⟩
      · rw [if_pos hm]
        exact pc_pure (hb.quiet he)
      · rw [if_neg (by rw [hm]; exact Bool.false_ne_true)]
        cases hn
        refine pc_seq (sim_pop (hb.quiet he) e1) ?_
        intro _ h2 hb2
        exact ih m hb2 e2

theorem sim_closeTag {s s1 : TState} {h : State} (nm : QName) (hb : BSim s h)
    (e : H5V.Model.XmlTB.closeTag s nm = .ok s1) : PC (closeTag nm) h (fun _ h1 => BSim s1 h1) := by
  unfold H5V.Model.XmlTB.closeTag at e
  cases ho : s.opened with
  | nil => rw [ho] at e; cases e
  | cons f rest =>
    obtain ⟨x, xs, hxo, hx⟩ := hb.top ho
    rw [ho] at e
    simp only [] at e
    generalize hs0 : (if f.name.loc ≠ nm.loc then s.err [Err.currentMismatch] else s) = s0 at e
    have ht : TEq s s0 := by
      subst hs0
      split
      · exact TEq.err s _
      · exact TEq.refl s
    have hop : s0.opened.any (fun g => sameExpanded g.name nm) =
        (frames s).any (fun f => sameExpanded f.1 nm) := by
      rw [← ht.fr, frames, List.any_map]
      rfl
    have hlen : s0.opened.length = h.opened.length := by
      have := hb.opened.length
      rw [← ht.fr, frames, List.length_map] at this
      exact this
    unfold closeTag
    refine pc_seq (pc_currentNode _ h) ?_
    rintro y _ ⟨rfl, rest', ho'⟩
    rw [hxo] at ho'
    cases ho'
    refine pc_seq (pc_elemName hx.nameOf) ?_
    rintro _ h1 ⟨rfl, he1⟩
    show PC ((if (f.name.loc != nm.loc) = true then parseErr .currentMismatch else pure ()) >>= _) h1 _
    have hmid : PC (if (f.name.loc != nm.loc) = true then parseErr .currentMismatch else pure ()) h1
        (fun _ h2 => Eff h1 h2 []) := by
      by_cases hc : (f.name.loc != nm.loc) = true
      · rw [if_pos hc]; exact quiet_parseErr _ h1
      · rw [if_neg hc]; exact quiet_pure _ h1
    refine pc_seq hmid ?_
    intro _ h2 he2
    have hb2 : BSim s0 h2 := hb.teq ht (he1.trans0 he2)
    refine pc_seq (pc_tagInOpenElems nm h2 hb2.opened.all_named) ?_
    rintro b h3 ⟨he3, hb3⟩
    have hb3' : BSim s0 h3 := hb2.quiet he3
    have hbe : b = s0.opened.any (fun g => sameExpanded g.name nm) := by
      have h1' := hb3.trans (hb2.opened.any_iff nm)
      rw [ht.fr, ← hop] at h1'
      cases b <;> cases hq : s0.opened.any (fun g => sameExpanded g.name nm) <;> simp_all
    subst hbe
    by_cases hany : s0.opened.any (fun g => sameExpanded g.name nm) = true
    · rw [if_pos hany] at e
      rw [if_pos hany]
      obtain ⟨s2, e1, e2⟩ := exc_bind_ok e
      refine pc_read_bind (pc_seq (sim_popUntil nm _ _ hb3' e1) ?_)
      intro _ h4 hb4
      refine pc_seq (sim_pop hb4 e2) ?_
      intro _ h5 hb5
      exact pc_pure hb5
    · rw [if_neg hany] at e
      rw [if_neg hany]
      cases e
      exact pc_pure hb3'

theorem sim_insertTag {s s1 : TState} {h : State} {b : Bound} (hb : BSim s h)
    (e : H5V.Model.XmlTB.insertTag s b = .ok s1) : PC (insertTag b) h (fun _ h1 => BSim s1 h1) := by
  obtain ⟨_, hf1, hc1, hn1, hp1, hd1⟩ := xinsertTag e
  unfold insertTag
  refine pc_seq (pc_createElement b h) ?_
  rintro c h1 ⟨he1, hc⟩
  refine pc_seq (quiet_insertAppropriately _ h1) ?_
  intro _ h2 he2
  have he := he1.trans1 he2
  unfold push
  refine pc_modify ?_
  exact ⟨by rw [hp1]; exact hb.phase.trans he.phase.symm, by rw [hn1]; exact hb.ns.trans he.ns.symm,
    by rw [hd1]; exact hb.dts.trans he.dts.symm,
    by rw [hf1]
       exact ⟨hc.stable he2.stable, by rw [he.opened]; exact hb.opened.stable he.stable⟩,
    by rw [hc1, List.map_cons, ← hb.created]; exact he.created⟩

/-- `process_namespaces` against `applyNs` -/
theorem applyNs_dts (cfg : TbCfg) (s : TState) (t : Tag) :
    (H5V.Model.XmlTB.applyNs cfg s t).1.doctypeSeen = s.doctypeSeen := by
  unfold H5V.Model.XmlTB.applyNs
  simp only []
  split <;> rfl

theorem applyNs_frames (cfg : TbCfg) (s : TState) (t : Tag) :
    frames (H5V.Model.XmlTB.applyNs cfg s t).1 = frames s := by
  unfold frames
  rw [H5V.Lemmas.XmlTB.applyNs_opened]

theorem sim_processNamespaces (cfg : TbCfg) (t : Tag) {s : TState} {h : State} (hb : BSim s h) :
    PC (processNamespaces cfg t) h (fun b h' =>
      b = H5V.Model.XmlTB.processNamespaces cfg s.nsStack t ∧ BSim (H5V.Model.XmlTB.applyNs cfg s t).1 h') := by
  unfold processNamespaces
  refine pc_read_bind ?_
  show PC (parseErrs _ >>= _) h _
  refine pc_seq (quiet_parseErrs _ h) ?_
  intro _ h1 he
  have hb1 : BSim s h1 := hb.quiet he
  rw [← hb.ns]
  by_cases hp : pushesMap t.kind (H5V.Model.XmlTB.processNamespaces cfg s.nsStack t).name = true
  · simp only [hp, if_true]
    refine pc_modify_bind (pc_pure ⟨rfl, ?_⟩)
    exact ⟨by rw [H5V.Lemmas.XmlTB.applyNs_phase]; exact hb1.phase,
      by rw [H5V.Lemmas.XmlTB.applyNs_nsStack, if_pos hp, hb1.ns],
      by rw [applyNs_dts]; exact hb1.dts,
      by rw [applyNs_frames]; exact hb1.opened,
      by rw [H5V.Lemmas.XmlTB.applyNs_created]; exact hb1.created⟩
  · simp only [hp]
    refine pc_bind (pc_pure (pc_pure ⟨rfl, ?_⟩))
    exact ⟨by rw [H5V.Lemmas.XmlTB.applyNs_phase]; exact hb1.phase,
      by rw [H5V.Lemmas.XmlTB.applyNs_nsStack, if_neg hp, hb1.ns],
      by rw [applyNs_dts]; exact hb1.dts,
      by rw [applyNs_frames]; exact hb1.opened,
      by rw [H5V.Lemmas.XmlTB.applyNs_created]; exact hb1.created⟩

/-! ## creating an element -/

theorem Match.cons {d : Dom} {n : QName} {as : List XAttr} {x : Id} {fs : List (QName × List XAttr)} {xs : List Id}
    (h1 : IsElem d n as x) (h2 : Match d fs xs) : Match d ((n, as) :: fs) (x :: xs) := ⟨h1, h2⟩

theorem created_cons {h0 h3 : State} {s1 : TState} {n : QName} {as : List XAttr} {cr : List Created}
    (he : createOps h3.traceRev = [crop n as] ++ createOps h0.traceRev)
    (hb : createOps h0.traceRev = s1.created.map (fun c => crop c.name c.attrs))
    (hcr : cr = ⟨n, as⟩ :: s1.created) : createOps h3.traceRev = cr.map (fun c => crop c.name c.attrs) := by
  subst hcr
  rw [he, hb]
  rfl

theorem BSim.setPhase {s : TState} {h : State} (hb : BSim s h) (p : Phase) :
    BSim { s with phase := p } { h with phase := p } := ⟨rfl, hb.ns, hb.dts, hb.opened, hb.created⟩

/-- one `create_element`, nothing pushed -/
theorem BSim.created1 {s1 s' : TState} {h1 h' : State} {n : QName} {as : List XAttr} (hb : BSim s1 h1)
    (he : Eff h1 h' [crop n as]) (hp : s'.phase = s1.phase) (hn : s'.nsStack = s1.nsStack)
    (hd : s'.doctypeSeen = s1.doctypeSeen) (hf : frames s' = frames s1)
    (hc : s'.created = ⟨n, as⟩ :: s1.created) : BSim s' h' :=
  ⟨by rw [hp, he.phase]; exact hb.phase, by rw [hn, he.ns]; exact hb.ns, by rw [hd, he.dts]; exact hb.dts,
   by rw [hf, he.opened]; exact hb.opened.stable he.stable, created_cons he.created hb.created hc⟩

/-- one `create_element`, the new element pushed -/
theorem BSim.created_push {s1 s' : TState} {h1 h' : State} {n : QName} {as : List XAttr} {c : Id}
    (hb : BSim s1 h1) (he : Eff h1 h' [crop n as]) (hc : IsElem h'.dom n as c) (hp : s'.phase = s1.phase)
    (hn : s'.nsStack = s1.nsStack) (hd : s'.doctypeSeen = s1.doctypeSeen)
    (hf : frames s' = (n, as) :: frames s1) (hcr : s'.created = ⟨n, as⟩ :: s1.created) :
    BSim s' { h' with opened := c :: h'.opened } :=
  ⟨by rw [hp]; exact hb.phase.trans he.phase.symm, by rw [hn]; exact hb.ns.trans he.ns.symm,
   by rw [hd]; exact hb.dts.trans he.dts.symm,
   by rw [hf]; exact Match.cons hc (by rw [he.opened]; exact hb.opened.stable he.stable),
   created_cons he.created hb.created hcr⟩

theorem pc_appendTagToDoc (b : Bound) (h : State) :
    PC (appendTagToDoc b) h (fun c h' => Eff h h' [crop b.name b.attrs] ∧ IsElem h'.dom b.name b.attrs c) := by
  unfold appendTagToDoc
  refine pc_seq (pc_createElement b h) ?_
  rintro c h1 ⟨he1, hc⟩
  refine pc_read_bind ?_
  refine pc_seq (quiet_sinkUnit (op := .append h1.docHandle (.node c)) trivial (fun _ => rfl) h1) ?_
  intro _ h2 he2
  exact pc_pure ⟨he1.trans1 he2, hc.stable he2.stable⟩

/-! ## `step`, phase by phase -/

/-- what `step` leaves: the simulation — for `Reprocess` (always `(End, Eof)`) once the phase is set -/
def StepPostB (s' : TState) (r : StepResult) (h1 : State) : Prop :=
  match r with
  | .reprocess p t => p = .end_ ∧ t = .eof ∧ BSim s' { h1 with phase := .end_ }
  | _ => BSim s' h1

theorem pc_done {s' : TState} {h : State} {m : M Unit} (hm : PC m h (fun _ h1 => BSim s' h1)) :
    PC (m >>= fun _ => pure StepResult.done) h (StepPostB s') :=
  pc_seq hm fun _ _ hb => pc_pure hb

theorem pc_peDone {s : TState} {h : State} (hb : BSim s h) (e : Err) (es : List Err) :
    PC (parseErr e >>= fun _ => pure StepResult.done) h (StepPostB (s.err es)) :=
  pc_done (pc_mono (quiet_parseErr e h) fun _ _ he => hb.teq (TEq.err s es) he)

theorem sim_endIf {s : TState} {h : State} (hb : BSim s h) :
    PC endIfNoOpenElems h (fun _ h' => BSim (H5V.Model.XmlTB.setEndIfEmpty s) h') := by
  unfold endIfNoOpenElems
  refine pc_modify ?_
  unfold H5V.Model.XmlTB.setEndIfEmpty
  have h1 : s.opened.isEmpty = h.opened.isEmpty := by
    have := hb.opened_nil_iff
    cases hs : s.opened <;> cases hh : h.opened <;> simp_all
  by_cases hq : h.opened.isEmpty = true
  · rw [if_pos (h1.trans hq), if_pos hq]
    exact ⟨rfl, hb.ns, hb.dts, hb.opened, hb.created⟩
  · rw [if_neg (by rw [h1]; exact hq), if_neg hq]
    exact hb

theorem bsim_stepStart (cfg : TbCfg) {s s' : TState} {h : State} (hb : BSim s h) (hp : s.phase = .start)
    (tok : Token) (e : H5V.Model.XmlTB.step cfg s tok = .ok s') : PC (step cfg .start tok) h (StepPostB s') := by
  unfold H5V.Model.XmlTB.step at e
  simp only [hp] at e
  cases tok with
  | tag t =>
    obtain ⟨k, n, as⟩ := t
    cases k with
    | start =>
      cases e
      show PC (processNamespaces cfg ⟨.start, n, as⟩ >>= _) h _
      refine pc_seq (sim_processNamespaces cfg _ hb) ?_
      rintro b h1 ⟨rfl, hb1⟩
      unfold setPhase
      refine pc_modify_bind ?_
      refine pc_seq (pc_appendTagToDoc _ _) ?_
      rintro c h3 ⟨he3, hc3⟩
      unfold push
      refine pc_modify_bind (pc_pure ?_)
      exact BSim.created_push (hb1.setPhase .main) he3 hc3 rfl rfl rfl rfl rfl
    | empty =>
      cases e
      show PC (processNamespaces cfg ⟨.empty, n, as⟩ >>= _) h _
      refine pc_seq (sim_processNamespaces cfg _ hb) ?_
      rintro b h1 ⟨rfl, hb1⟩
      unfold setPhase
      refine pc_modify_bind ?_
      refine pc_seq (pc_appendTagToDoc _ _) ?_
      rintro c h3 ⟨he3, hc3⟩
      refine pc_seq (quiet_sinkUnit (op := .pop c) trivial (fun _ => rfl) h3) ?_
      intro _ h4 he4
      refine pc_pure ?_
      exact BSim.created1 (hb1.setPhase .end_) (he3.trans1 he4) rfl rfl rfl rfl rfl
    | end_ | short => cases e; exact pc_peDone hb _ _
  | doctype n p sy =>
    show PC (getS >>= _) h _
    refine pc_read_bind (pc_modify_bind ?_)
    have hb0 : BSim { s with doctypeSeen := true } { h with doctypeSeen := true } :=
      ⟨hb.phase, hb.ns, rfl, hb.opened, hb.created⟩
    refine pc_bind ?_
    by_cases hs : s.doctypeSeen = true
    · have hs' : h.doctypeSeen = true := hb.dts ▸ hs
      simp only [hs, if_true] at e
      cases e
      simp only [hs', if_true]
      refine pc_mono (quiet_parseErr _ _) ?_
      intro _ h2 he
      refine pc_pure ?_
      exact hb0.eff he rfl rfl hs rfl rfl
    · have hs' : ¬ h.doctypeSeen = true := hb.dts ▸ hs
      simp only [hs] at e
      cases e
      simp only [hs']
      refine pc_mono (quiet_appendDoctypeToDoc _ _ _ _) ?_
      intro _ h2 he
      refine pc_pure ?_
      have hb0' : BSim { s with phase := .start, doctypeSeen := true } { h with doctypeSeen := true } :=
        ⟨hp.symm.trans hb.phase, hb.ns, rfl, hb.opened, hb.created⟩
      exact hb0'.teq (TEq.appendDoc _ _) he
  | comment c =>
    cases e
    show PC (appendCommentToDoc c >>= _) h _
    exact pc_done (pc_mono (quiet_appendCommentToDoc c h) fun _ _ he => hb.teq (TEq.appendDoc _ _) he)
  | pi t d =>
    cases e
    show PC (appendPiToDoc t d >>= _) h _
    exact pc_done (pc_mono (quiet_appendPiToDoc t d h) fun _ _ he => hb.teq (TEq.appendDoc _ _) he)
  | chars cs =>
    show PC (if (!H5V.Model.XmlTB.anyNotWhitespace cs) = true then pure StepResult.done else _) h _
    by_cases hw : (!H5V.Model.XmlTB.anyNotWhitespace cs) = true
    · simp only [hw, if_true] at e
      cases e
      rw [if_pos hw]
      exact pc_pure hb
    · simp only [hw] at e
      cases e
      rw [if_neg hw]
      exact pc_peDone hb _ _
  | nullChar => cases e; exact pc_peDone hb _ _
  | eof =>
    cases e
    show PC (parseErr .eofInStart >>= _) h _
    refine pc_seq (quiet_parseErr _ h) ?_
    intro _ h1 he
    exact pc_pure ⟨rfl, rfl, (hb.teq (TEq.err s _) he).setPhase .end_⟩

theorem bsim_stepMain (cfg : TbCfg) {s s' : TState} {h : State} (hb : BSim s h) (hp : s.phase = .main)
    (tok : Token) (e : H5V.Model.XmlTB.step cfg s tok = .ok s') : PC (step cfg .main tok) h (StepPostB s') := by
  unfold H5V.Model.XmlTB.step at e
  simp only [hp] at e
  cases tok with
  | tag t =>
    obtain ⟨k, n, as⟩ := t
    cases k with
    | start =>
      have e' : H5V.Model.XmlTB.insertTag (H5V.Model.XmlTB.applyNs cfg s ⟨.start, n, as⟩).1
          (H5V.Model.XmlTB.processNamespaces cfg s.nsStack ⟨.start, n, as⟩) = .ok s' := e
      show PC (processNamespaces cfg ⟨.start, n, as⟩ >>= _) h _
      refine pc_seq (sim_processNamespaces cfg _ hb) ?_
      rintro b h1 ⟨rfl, hb1⟩
      exact pc_done (sim_insertTag hb1 e')
    | empty =>
      have e' : (if (H5V.Model.XmlTB.processNamespaces cfg s.nsStack ⟨.empty, n, as⟩).name.loc = sScript then
          (H5V.Model.XmlTB.insertTag (H5V.Model.XmlTB.applyNs cfg s ⟨.empty, n, as⟩).1
            (H5V.Model.XmlTB.processNamespaces cfg s.nsStack ⟨.empty, n, as⟩)).bind
            (fun s1 => H5V.Model.XmlTB.closeTag s1 (H5V.Model.XmlTB.processNamespaces cfg s.nsStack ⟨.empty, n, as⟩).name)
        else
          (H5V.Model.XmlTB.appendCur (H5V.Model.XmlTB.applyNs cfg s ⟨.empty, n, as⟩).1
            (fun k => .elem (H5V.Model.XmlTB.processNamespaces cfg s.nsStack ⟨.empty, n, as⟩).name
              (H5V.Model.XmlTB.processNamespaces cfg s.nsStack ⟨.empty, n, as⟩).attrs [] :: k)).map
            (fun s1 => { s1 with created := ⟨(H5V.Model.XmlTB.processNamespaces cfg s.nsStack ⟨.empty, n, as⟩).name,
              (H5V.Model.XmlTB.processNamespaces cfg s.nsStack ⟨.empty, n, as⟩).attrs⟩ :: s1.created })) = .ok s' := e
      show PC (processNamespaces cfg ⟨.empty, n, as⟩ >>= _) h _
      refine pc_seq (sim_processNamespaces cfg _ hb) ?_
      rintro b h1 ⟨rfl, hb1⟩
      by_cases hsc : (H5V.Model.XmlTB.processNamespaces cfg s.nsStack ⟨.empty, n, as⟩).name.loc = sScript
      · rw [if_pos hsc] at e'
        simp only [hsc, if_true]
        obtain ⟨s2, e1, e2⟩ := exc_bind_ok e'
        refine pc_seq (sim_insertTag hb1 e1) ?_
        intro _ h2 hb2
        refine pc_seq (pc_currentNode _ h2) ?_
        rintro y _ ⟨rfl, _⟩
        refine pc_seq (sim_closeTag _ hb2 e2) ?_
        intro _ h3 hb3
        exact pc_pure hb3
      · rw [if_neg hsc] at e'
        simp only [hsc, if_false]
        obtain ⟨s2, e1, rfl⟩ := exc_map_ok e'
        obtain ⟨ht, _⟩ := xappendCur e1
        refine pc_done ?_
        unfold appendTag
        refine pc_seq (pc_createElement _ h1) ?_
        rintro c h2 ⟨he2, hc⟩
        refine pc_seq (quiet_insertAppropriately _ h2) ?_
        intro _ h3 he3
        refine pc_mono (quiet_sinkUnit (op := .pop c) trivial (fun _ => rfl) h3) ?_
        intro _ h4 he4
        exact BSim.created1 hb1 ((he2.trans1 he3).trans1 he4) ht.phase ht.ns ht.dts ht.fr
          (by rw [← ht.created])
    | end_ =>
      have e' : (H5V.Model.XmlTB.closeTag (H5V.Model.XmlTB.applyNs cfg s ⟨.end_, n, as⟩).1
          (H5V.Model.XmlTB.processNamespaces cfg s.nsStack ⟨.end_, n, as⟩).name).map
            H5V.Model.XmlTB.setEndIfEmpty = .ok s' := e
      obtain ⟨s2, e1, rfl⟩ := exc_map_ok e'
      show PC (processNamespaces cfg ⟨.end_, n, as⟩ >>= _) h _
      refine pc_seq (sim_processNamespaces cfg _ hb) ?_
      rintro b h1 ⟨rfl, hb1⟩
      by_cases hsc : (H5V.Model.XmlTB.processNamespaces cfg s.nsStack ⟨.end_, n, as⟩).name.loc = sScript
      · simp only [hsc, if_true]
        refine pc_seq (pc_currentNode _ h1) ?_
        rintro y _ ⟨rfl, _⟩
        refine pc_seq (sim_closeTag _ hb1 e1) ?_
        intro _ h2 hb2
        refine pc_seq (sim_endIf hb2) ?_
        intro _ h3 hb3
        exact pc_pure hb3
      · simp only [hsc, if_false]
        refine pc_seq (sim_closeTag _ hb1 e1) ?_
        intro _ h2 hb2
        refine pc_seq (sim_endIf hb2) ?_
        intro _ h3 hb3
        exact pc_pure hb3
    | short =>
      obtain ⟨s2, e1, rfl⟩ := exc_map_ok e
      show PC (pop >>= _) h _
      refine pc_seq (sim_pop hb e1) ?_
      intro _ h1 hb1
      refine pc_seq (sim_endIf hb1) ?_
      intro _ h2 hb2
      exact pc_pure hb2
  | doctype n p sy => cases e; exact pc_peDone hb _ _
  | comment c =>
    obtain ⟨ht, _⟩ := xappendCur e
    show PC (appendCommentToTag c >>= _) h _
    exact pc_done (pc_mono (quiet_appendCommentToTag c h) fun _ _ he => hb.teq ht he)
  | pi t d =>
    obtain ⟨ht, _⟩ := xappendCur e
    show PC (appendPiToTag t d >>= _) h _
    exact pc_done (pc_mono (quiet_appendPiToTag t d h) fun _ _ he => hb.teq ht he)
  | chars cs =>
    obtain ⟨ht, _⟩ := xappendCur e
    show PC (appendText cs >>= _) h _
    exact pc_done (pc_mono (quiet_appendText cs h) fun _ _ he => hb.teq ht he)
  | nullChar | eof => cases e; exact pc_pure ⟨rfl, rfl, hb.setPhase .end_⟩

theorem bsim_stepEnd (cfg : TbCfg) {s s' : TState} {h : State} (hb : BSim s h) (hp : s.phase = .end_)
    (tok : Token) (e : H5V.Model.XmlTB.step cfg s tok = .ok s') : PC (step cfg .end_ tok) h (StepPostB s') := by
  unfold H5V.Model.XmlTB.step at e
  simp only [hp] at e
  cases tok with
  | tag t | doctype n p sy | nullChar => cases e; exact pc_peDone hb _ _
  | comment c =>
    cases e
    show PC (appendCommentToDoc c >>= _) h _
    exact pc_done (pc_mono (quiet_appendCommentToDoc c h) fun _ _ he => hb.teq (TEq.appendDoc _ _) he)
  | pi t d =>
    cases e
    show PC (appendPiToDoc t d >>= _) h _
    exact pc_done (pc_mono (quiet_appendPiToDoc t d h) fun _ _ he => hb.teq (TEq.appendDoc _ _) he)
  | chars cs =>
    show PC (if (!H5V.Model.XmlTB.anyNotWhitespace cs) = true then pure StepResult.done else _) h _
    by_cases hw : (!H5V.Model.XmlTB.anyNotWhitespace cs) = true
    · simp only [hw, if_true] at e
      cases e
      rw [if_pos hw]
      exact pc_pure hb
    · simp only [hw] at e
      cases e
      rw [if_neg hw]
      exact pc_peDone hb _ _
  | eof => cases e; exact pc_pure hb

theorem bsim_stepAny (cfg : TbCfg) {s s' : TState} {h : State} (hb : BSim s h) (tok : Token)
    (e : H5V.Model.XmlTB.step cfg s tok = .ok s') : PC (step cfg h.phase tok) h (StepPostB s') := by
  rw [← hb.phase]
  cases hp : s.phase with
  | start => exact bsim_stepStart cfg hb hp tok e
  | main => exact bsim_stepMain cfg hb hp tok e
  | end_ => exact bsim_stepEnd cfg hb hp tok e

/-! ## `process_token`, whole runs -/

/-- one input of the handle-level model, seen by the tree-valued one: a tokenizer `ParseError` is only
forwarded to the sink and changes nothing -/
def stepInput (cfg : TbCfg) (s : TState) : Input → Except String TState
  | .token t => H5V.Model.XmlTB.step cfg s t
  | .parseError _ => .ok s

/-- the tokens among the inputs -/
def tokensOf : List Input → List Token
  | [] => []
  | .token t :: rest => t :: tokensOf rest
  | .parseError _ :: rest => tokensOf rest

theorem bsim_processToken_pc (cfg : TbCfg) {s s' : TState} {h : State} (hb : BSim s h) (inp : Input)
    (e : stepInput cfg s inp = .ok s') : PC (processToken cfg inp) h (fun _ h' => BSim s' h') := by
  cases inp with
  | parseError msg =>
    cases e
    show PC (sinkUnit (.parseError msg) >>= _) h _
    refine pc_seq (quiet_sinkUnit (op := .parseError msg) trivial (fun _ => rfl) h) ?_
    intro _ h1 he
    exact pc_pure (hb.quiet he)
  | token tok =>
    have e' : H5V.Model.XmlTB.step cfg s tok = .ok s' := e
    show PC (processToCompletion cfg 2 tok) h _
    unfold processToCompletion
    refine pc_read_bind ?_
    refine pc_seq (bsim_stepAny cfg hb tok e') ?_
    intro r h1 hr
    cases r with
    | done | script n => exact pc_pure hr
    | reprocess p t =>
      obtain ⟨rfl, rfl, hb1⟩ := hr
      show PC (setPhase .end_ >>= _) h1 _
      unfold setPhase
      refine pc_modify_bind ?_
      unfold processToCompletion
      refine pc_read_bind ?_
      show PC (step cfg .end_ .eof >>= _) _ _
      rw [show step cfg .end_ .eof = (pure StepResult.done : M StepResult) from rfl]
      exact pc_bind (pc_pure (pc_pure hb1))

theorem run_tokensOf_cons_token (cfg : TbCfg) (s : TState) (t : Token) (rest : List Input) :
    H5V.Model.XmlTB.run cfg s (tokensOf (.token t :: rest)) =
      (H5V.Model.XmlTB.step cfg s t).bind (fun s1 => H5V.Model.XmlTB.run cfg s1 (tokensOf rest)) := rfl

theorem bsim_processTokens_pc (cfg : TbCfg) : ∀ (toks : List Input) {s s' : TState} {h : State}, BSim s h →
    H5V.Model.XmlTB.run cfg s (tokensOf toks) = .ok s' →
    PC (processTokens cfg toks) h (fun _ h' => BSim s' h') := by
  intro toks
  induction toks with
  | nil =>
    intro s s' h hb e
    cases e
    exact pc_pure hb
  | cons inp rest ih =>
    intro s s' h hb e
    unfold processTokens
    cases inp with
    | parseError msg =>
      refine pc_seq (bsim_processToken_pc cfg hb (.parseError msg) rfl) ?_
      intro _ h1 hb1
      exact ih hb1 e
    | token t =>
      rw [run_tokensOf_cons_token] at e
      obtain ⟨s1, e1, e2⟩ := exc_bind_ok e
      refine pc_seq (bsim_processToken_pc cfg hb (.token t) e1) ?_
      intro _ h1 hb1
      exact ih hb1 e2

/-- `XmlTreeBuilder::new` against the initial state of the tree-valued model -/
theorem bsim_newTB : PC newTB State.init (fun _ h => BSim H5V.Model.XmlTB.State.init h) := by
  unfold newTB
  refine pc_seq (quiet_sinkNode (op := .getDocument) trivial (fun _ => rfl) State.init) ?_
  intro doc h1 he
  refine pc_modify ?_
  refine ⟨he.phase.symm, he.ns.symm, he.dts.symm, ?_, he.created⟩
  show Match h1.dom [] h1.opened
  rw [he.opened]
  exact trivial

/-- `end()` makes no `create_element` call -/
theorem pc_finish (h : State) : PC finish h (fun _ h' => createOps h'.traceRev = createOps h.traceRev) := by
  unfold finish
  refine pc_read_bind (pc_modify_bind ?_)
  exact pc_mono (quiet_popAll h.opened _) fun _ _ he => he.created

/-- `new`, the inputs, `end()`: the `create_element` calls are the `created` list of the tree-valued run -/
theorem bsim_parseAll_pc (cfg : TbCfg) (toks : List Input) {s' : TState}
    (e : H5V.Model.XmlTB.run cfg H5V.Model.XmlTB.State.init (tokensOf toks) = .ok s') :
    PC (parseAll cfg toks) State.init
      (fun _ h' => createOps h'.traceRev = s'.created.map (fun c => crop c.name c.attrs)) := by
  unfold parseAll
  refine pc_seq bsim_newTB ?_
  intro _ h1 hb1
  refine pc_seq (bsim_processTokens_pc cfg toks hb1 e) ?_
  intro _ h2 hb2
  refine pc_mono (pc_finish h2) ?_
  intro _ h3 hc
  rw [hc]
  exact hb2.created

end H5V.Lemmas.XmlTBHBridge
