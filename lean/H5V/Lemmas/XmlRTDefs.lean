import H5V.Props.C15
import H5V.Lemmas.XmlTokTerm
import H5V.Model.XmlSer
/-!
C17, tokenizer half (the XML tokenizer model on the XML serializer model's output):
* the conversion from the tokenizer model's tokens to the tree-builder model's tokens (`cvTok`:
  parse errors are forwarded to the sink and change nothing, so they are dropped; everything else is
  mapped field by field) and the merging of adjacent character tokens (`mergeChars`; the tokenizer
  model delivers text one character at a time, the comparison is made on merged tokens as in the
  `xmltok` correspondence, `XmlTokDriver.canon`);
* `Reach`: a finite chain of `Continue` steps;
* what one `XmlTokenizer::step` does in terms of the transition tables, `exact_errors` off, no
  pending reconsume / CR, ordinary character (`step_char`, `Ctl.char_step`, `step_set_plain`,
  `step_set_from`, `step_reconsume`).
-/
namespace H5V.Lemmas.XmlRT
open H5V.Model.XmlTok

/-! ### tokens of the tokenizer model as tree-builder tokens -/

def cvKind : TagKind → Model.XmlTB.TagKind
  | .startTag => .start | .endTag => .end_ | .emptyTag => .empty | .shortTag => .short

def cvName (q : QName) : Model.XmlTB.RName := ⟨q.pfx, q.loc⟩

def cvAttr (a : Attr) : Model.XmlTB.RAttr := ⟨cvName a.name, a.value⟩

/-- the tree builder's view of a token: `ParseError` tokens go to the sink's `parse_error` and do
not reach `process_token`'s state machine -/
def cvTok : Token → Option Model.XmlTB.Token
  | .doctype d => some (.doctype d.name d.publicId d.systemId)
  | .tag t => some (.tag ⟨cvKind t.kind, cvName t.name, t.attrs.map cvAttr⟩)
  | .pi t d => some (.pi t d)
  | .comment s => some (.comment s)
  | .chars s => some (.chars s)
  | .eof => some .eof
  | .error _ => none

/-- the token log (newest first) in delivery order, as tree-builder tokens -/
def cvOut (out : Out) : List Model.XmlTB.Token := out.reverse.filterMap cvTok

theorem cvOut_cons (t : Token) (out : Out) : cvOut (t :: out) = cvOut out ++ (cvTok t).toList := by
  unfold cvOut
  simp only [List.reverse_cons, List.filterMap_append, List.filterMap_cons, List.filterMap_nil]
  cases cvTok t <;> rfl

theorem cvOut_err (e : Str) (out : Out) : cvOut (.error e :: out) = cvOut out := by
  rw [cvOut_cons]; simp [cvTok]

/-- merge adjacent character tokens (`XmlTokDriver.canon` on tree-builder tokens) -/
def mergeChars : List Model.XmlTB.Token → List Model.XmlTB.Token
  | .chars a :: .chars b :: rest => mergeChars (.chars (a ++ b) :: rest)
  | x :: rest => x :: mergeChars rest
  | [] => []
termination_by l => l.length

/-! ### chains of `Continue` steps -/

inductive Reach (o : Opts) : Mach → Str → Mach → Str → Prop
  | refl (m inp) : Reach o m inp m inp
  | cons {m inp m1 i1 m2 i2} : step o m inp = R.cont m1 i1 → Reach o m1 i1 m2 i2 → Reach o m inp m2 i2

theorem Reach.one {o : Opts} {m : Mach} {inp : Str} {m1 : Mach} {i1 : Str} (h : step o m inp = .cont m1 i1) :
    Reach o m inp m1 i1 := Reach.cons h (Reach.refl _ _)

theorem Reach.trans {o : Opts} {m inp m1 i1 m2 i2} (h1 : Reach o m inp m1 i1) (h2 : Reach o m1 i1 m2 i2) :
    Reach o m inp m2 i2 := by
  induction h1 with
  | refl => exact h2
  | cons hs _ ih => exact Reach.cons hs (ih h2)

theorem Reach.runsTo {o : Opts} {m inp m1 i1 mf} (h1 : Reach o m inp m1 i1) (h2 : RunsTo o m1 i1 mf) :
    RunsTo o m inp mf := by
  induction h1 with
  | refl => exact h2
  | cons hs _ ih => exact RunsTo.cont hs (ih h2)

theorem runsTo_det {o : Opts} {m : Mach} {inp : Str} {a b : Mach} (h1 : RunsTo o m inp a) (h2 : RunsTo o m inp b) :
    a = b := by
  induction h1 with
  | susp hs =>
    cases h2 with
    | susp hs' => rw [hs] at hs'; injection hs'
    | cont hs' _ => rw [hs] at hs'; cases hs'
  | cont hs _ ih =>
    cases h2 with
    | susp hs' => rw [hs] at hs'; cases hs'
    | cont hs' hr' =>
      rw [hs] at hs'
      injection hs' with e1 e2
      subst e1 e2
      exact ih hr'

/-! ### the reader, once and for all -/

/-- the control registers of a machine between two steps of an ordinary run -/
structure Ctl (m : Mach) (st : State) : Prop where
  st : m.state = st
  cr : m.charRef = none
  rc : m.reconsume = false
  ilf : m.ignoreLf = false
  tb : m.tempBuf = []

theorem step_char (o : Opts) (ho : o.exactErrors = false) (m : Mach) (c : Char) (rest : Str)
    (hcr : m.charRef = none) (hk : readKind m.state = .getChar) (hrc : m.reconsume = false)
    (hilf : m.ignoreLf = false) (h1 : c ≠ '\r') (h2 : c ≠ '\x00') :
    step o m (c :: rest) = ofSig (transChar o (m.setCurrentChar c) c) rest := by
  simp [step, hcr, hk, getChar, hrc, preprocess, hilf, foldChar, h1, h2, ho]

/-- one step on an ordinary character in a `get_char!` state: the table decides; of the control registers
it can only change the state and `reconsume` -/
theorem Ctl.char_step {m : Mach} {st : State} (h : Ctl m st) (o : Opts) (ho : o.exactErrors = false)
    (hk : readKind st = .getChar) (c : Char) (h1 : c ≠ '\r') (h2 : c ≠ '\x00') (rest : Str) {m' : Mach} {st' : State}
    (ht : transChar o (m.setCurrentChar c) c = (m', .cont)) (hst : m'.state = st') (hrc : m'.reconsume = m.reconsume) :
    step o m (c :: rest) = .cont m' rest ∧ Ctl m' st' := by
  obtain ⟨ftb, _, filf, _, _, fcr⟩ := transChar_frame o (m.setCurrentChar c) c
  rw [ht] at ftb filf fcr
  refine ⟨?_, hst, fcr.trans h.cr, hrc.trans h.rc, filf.trans h.ilf, ftb.trans h.tb⟩
  rw [step_char o ho m c rest h.cr (by rw [h.st]; exact hk) h.rc h.ilf h1 h2, ht]; rfl

theorem step_reconsume (o : Opts) (m : Mach) (inp : Str)
    (hcr : m.charRef = none) (hk : readKind m.state = .getChar) (hrc : m.reconsume = true) :
    step o m inp = ofSig (transChar o (m.setReconsume false) m.currentChar) inp := by
  simp [step, hcr, hk, getChar, hrc]

theorem step_set_plain (o : Opts) (ho : o.exactErrors = false) (m : Mach) (c : Char) (rest : Str)
    (hcr : m.charRef = none) (hk : readKind m.state = .popExcept) (hrc : m.reconsume = false)
    (hilf : m.ignoreLf = false) (hc : c ∉ setOf m.state) :
    step o m (c :: rest) = ofSig (transSet m (.notFromSet [c])) rest := by
  simp [step, hcr, hk, popExceptFrom, ho, hrc, hilf, hc]

theorem step_set_from (o : Opts) (ho : o.exactErrors = false) (m : Mach) (c : Char) (rest : Str)
    (hcr : m.charRef = none) (hk : readKind m.state = .popExcept) (hrc : m.reconsume = false)
    (hilf : m.ignoreLf = false) (hc : c ∈ setOf m.state) (h1 : c ≠ '\r') (h2 : c ≠ '\x00') :
    step o m (c :: rest) = ofSig (transSet (m.setCurrentChar c) (.fromSet c)) rest := by
  simp [step, hcr, hk, popExceptFrom, ho, hrc, hilf, hc, preprocess, foldChar, h1, h2]

end H5V.Lemmas.XmlRT
