import H5V.Lemmas.HtmlTBModesInvAAA
/-!
C02 (insertion modes), the invariant `Good` of the specification's run: the helper clauses of "in body"
(`Spec.TreeModes2`, the functions before `inBodyStartTagCore`).
-/
set_option linter.unusedSectionVars false
namespace H5V.Lemmas.ModesInv
open H5V.Spec H5V.Spec.TreeModes
open H5V.Spec.TreeAlgo (Str Name nsHtml nsMathml nsSvg inHtml)
open H5V.Spec.TreeAlgo2 (Elem Entry PState)

section
variable {N : Type} [DecidableEq N]

/-! ### contexts through the helper algorithms -/

theorem bh_post_done {cfg : Config N} {σ : State N} (hc : Ctx cfg σ) : Post (.done σ) := fun _ => hc.good

theorem bh_ctx_iteErr {cfg : Config N} {σ : State N} (hc : Ctx cfg σ) (c : Prop) [Decidable c] (w : String) :
    Ctx cfg (if c then σ else σ.err w) := by
  split
  · exact hc
  · exact hc.same

theorem bh_ctx_errIte {cfg : Config N} {σ : State N} (hc : Ctx cfg σ) (c : Prop) [Decidable c] (w : String) :
    Ctx cfg (if c then σ.err w else σ) := by
  split
  · exact hc.same
  · exact hc

@[simp] theorem bh_errIte_names (s : State N) (c : Prop) [Decidable c] (w : String) :
    (if c then s.err w else s).names = s.names := errIte_names c s w
@[simp] theorem bh_iteErr_p (s : State N) (c : Prop) [Decidable c] (w : String) :
    (if c then s else s.err w).p = s.p := iteErr_p c s w
@[simp] theorem bh_errIte_p (s : State N) (c : Prop) [Decidable c] (w : String) :
    (if c then s.err w else s).p = s.p := errIte_p c s w

theorem bh_ctx_genImplied {cfg : Config N} {σ : State N} (hc : Ctx cfg σ) (ex : Option String) :
    Ctx cfg (genImplied σ ex) :=
  hc.of_upd (st := (genImplied σ ex).p.stack) (l := σ.p.list) ⟨rfl, rfl, rfl, rfl, rfl, rfl⟩
    (cellR_genImplied ex) hc.good.af

theorem bh_ctx_genImpliedExceptStr {cfg : Config N} {σ : State N} (hc : Ctx cfg σ) (ex : Str) :
    Ctx cfg (genImpliedExceptStr σ ex) :=
  hc.of_upd (st := (genImpliedExceptStr σ ex).p.stack) (l := σ.p.list) ⟨rfl, rfl, rfl, rfl, rfl, rfl⟩
    (cellR_genImpliedExceptStr ex) hc.good.af

theorem bh_ctx_closeP {cfg : Config N} {σ : State N} (hc : Ctx cfg σ) : Ctx cfg (closePIfInButtonScope cfg σ) :=
  hc.of_upd (st := (closePIfInButtonScope cfg σ).p.stack) (l := σ.p.list)
    ⟨closePIfInButtonScope_mode .., closePIfInButtonScope_orig .., closePIfInButtonScope_tms ..,
      closePIfInButtonScope_stopped .., rfl, closePIfInButtonScope_list ..⟩
    (cellR_closePIfInButtonScope cfg hc.ed) hc.good.af

theorem bh_ctx_popUntilPopped {cfg : Config N} {σ : State N} (hc : Ctx cfg σ) {x : String}
    (hx : x.toList ≠ "td".toList ∧ x.toList ≠ "th".toList) (hs : hasInScope cfg σ x = true) :
    Ctx cfg (popUntilPopped σ x) :=
  hc.of_upd (st := (popUntilPopped σ x).p.stack) (l := σ.p.list) ⟨rfl, rfl, rfl, rfl, rfl, rfl⟩
    (cellR_popUntilPopped_inScope cfg hc.ed hx hs) hc.good.af

theorem bh_ctx_popUntilPoppedStr {cfg : Config N} {σ : State N} (hc : Ctx cfg σ) {x : Str}
    (hx : x ≠ "td".toList ∧ x ≠ "th".toList) (hs : hasStrInScope cfg σ x = true) :
    Ctx cfg (popUntilPoppedStr σ x) :=
  hc.of_upd (st := (popUntilPoppedStr σ x).p.stack) (l := σ.p.list) ⟨rfl, rfl, rfl, rfl, rfl, rfl⟩
    (cellR_popUntilPoppedStr_inScope cfg hc.ed hx hs) hc.good.af

theorem bh_ctx_reconstruct {cfg : Config N} {σ s1 : State N} (hc : Ctx cfg σ) (h : reconstruct σ = .ok s1) :
    Ctx cfg s1 := by
  obtain ⟨es, l', hu, hes, haf, _⟩ := reconstruct_eff hc.good.af h
  exact hc.of_upd hu (by rw [cellR_append_neutral _ (fun e he => (hes e he).1)]; exact id) haf

theorem bh_ctx_insertHtml {cfg : Config N} {σ s1 : State N} (hc : Ctx cfg σ) {t : Tag} {e : Elem N}
    (hn : neutralN ⟨nsHtml, t.name⟩ = true) (h : insertHtml σ t = .ok (s1, e)) : Ctx cfg s1 := by
  obtain ⟨he, _, hu, _⟩ := insertHtml_eff h
  exact hc.of_upd hu (by rw [cellR_snoc_neutral _ (by rw [he]; exact hn)]; exact id) hc.good.af

theorem bh_ctx_insertHtml' {cfg : Config N} {σ s1 : State N} (hc : Ctx cfg σ) {t : Tag}
    (hn : neutralN ⟨nsHtml, t.name⟩ = true) (h : insertHtml' σ t = .ok s1) : Ctx cfg s1 := by
  obtain ⟨e, he, _, hu, _⟩ := insertHtml'_eff h
  exact hc.of_upd hu (by rw [cellR_snoc_neutral _ (by rw [he]; exact hn)]; exact id) hc.good.af

theorem bh_ctx_insertVoid {cfg : Config N} {σ s1 : State N} (hc : Ctx cfg σ) {t : Tag}
    (h : insertVoid σ t = .ok s1) : Ctx cfg s1 := by
  obtain ⟨_, hu⟩ := insertVoid_eff h
  exact hc.of_upd hu id hc.good.af

/-- popping the current node, an HTML `x` element (`x` not td/th) -/
theorem bh_ctx_pop_cur {cfg : Config N} {σ : State N} (hc : Ctx cfg σ) {x : String}
    (hx : x.toList ≠ "td".toList ∧ x.toList ≠ "th".toList) (h : σ.curIs x = true) : Ctx cfg σ.pop := by
  refine hc.of_upd (st := σ.pop.p.stack) (l := σ.p.list) ⟨rfl, rfl, rfl, rfl, rfl, rfl⟩ ?_ hc.good.af
  intro hcell
  show cellR σ.pop.names = true
  rw [pop_names]
  refine cellR_drop 1 ?_ hcell
  intro n hn
  simp only [State.curIs, State.cur, Option.any_eq_true] at h
  obtain ⟨e, he, hen⟩ := h
  obtain ⟨ys, hys⟩ := List.getLast?_eq_some_iff.mp he
  rw [names_eq, hys, namesOf_snoc] at hn
  simp only [List.take_succ_cons, List.take_zero, List.mem_singleton] at hn
  subst hn
  exact isNamed_noTd hx _ hen

/-- "has an `x` element in scope" is not changed by "generate implied end tags" when `x` has no implied end tag -/
theorem bh_hasStrInScope_genImplied (cfg : Config N) (hed : cfg.edition = .customizableSelect) (s : State N)
    {ex : Option String} {x : Str} (hx : TreeAlgo.impliedEndTag (ex.map String.toList) ⟨nsHtml, x⟩ = false) :
    hasStrInScope cfg (genImplied s ex) x = hasStrInScope cfg s x := by
  unfold hasStrInScope
  rw [genImplied_names]
  exact hasInScope_dropWhile
    (fun n hn => ⟨implied_notNamed hx hn, (implied_notScope cfg hed (implied_inHtml hn)).1⟩) _

theorem bh_hasInScope_genImplied (cfg : Config N) (hed : cfg.edition = .customizableSelect) (s : State N)
    {ex : Option String} {x : String} (hx : TreeAlgo.impliedEndTag (ex.map String.toList) ⟨nsHtml, x.toList⟩ = false) :
    hasInScope cfg (genImplied s ex) x = hasInScope cfg s x :=
  bh_hasStrInScope_genImplied cfg hed s hx

/-! ### "in template", end of file -/

theorem post_inTemplateEof {cfg : Config N} {σ : State N} (hc : Ctx cfg σ) {r : Step N}
    (h : inTemplateEof cfg σ = .ok r) : Post r := by
  unfold inTemplateEof at h
  rcases ite_cases h with ⟨_, h⟩ | ⟨_, h⟩
  · cases pure_ok h
    exact inv_stopParsing σ
  · obtain ⟨s1, h1, h2⟩ := bind_ok h
    cases pure_ok h2
    obtain ⟨m, hm, h3, h4, h5, h6, h7⟩ := resetInsertionMode_eff cfg hc.ed
      (fun m hm => hc.good.tm m (List.dropLast_subset _ hm)) h1
    subst hm
    have haf : AFOk (TreeAlgo2.clearToLastMarker σ.p.list) := hc.good.af.clear
    have htm : ∀ m ∈ σ.templateModes.dropLast, tmOk m := fun m hm => hc.good.tm m (List.dropLast_subset _ hm)
    refine ⟨hc.live, ?_⟩
    by_cases hmc : m = .inCell
    · exact Good.ofCell hmc (h7 hmc) haf htm
    · exact Good.plain (σ := State.setMode _ m) ⟨hmc, h3, h4, h5, h6⟩ haf htm

/-! ### `li`, `dd`, `dt` -/

theorem bh_tdTh_special {e : Elem N} (h : tdThN e.name = true) :
    (TreeAlgo2.isSpecial e && !inHtml ["address", "div", "p"] e.name) = true := by
  rw [special_of_tdTh h, inHtml_false_of_inHtml (l := ["td", "th"]) (by decide +kernel) h]; rfl

/-- the `li` / `dd`,`dt` loop: the name found is that of a list item, and no td/th lies above the first such element -/
theorem bh_listItemLoop {names : List String} (hnames : names = ["li"] ∨ names = ["dd", "dt"]) :
    ∀ {l : List (Elem N)} {n : Str}, listItemLoop names l = some n →
      (n ≠ "td".toList ∧ n ≠ "th".toList) ∧
        ∀ m ∈ (l.map (·.name)).takeWhile (fun m => !isNamed n m), tdThN m = false
  | [], _, h => by simp [listItemLoop] at h
  | node :: rest, n, h => by
    unfold listItemLoop at h
    rcases ite_cases h with ⟨_, h⟩ | ⟨_, h⟩
    · rename_i hin
      simp only [Option.some.injEq] at h
      subst h
      have hns : (node.name.ns == nsHtml) = true := by
        simp only [inHtml, Bool.and_eq_true] at hin; exact hin.1
      constructor
      · rcases hnames with rfl | rfl <;>
          simp only [inHtml, List.any_cons, List.any_nil, Bool.or_false, Bool.and_eq_true, Bool.or_eq_true,
            beq_iff_eq] at hin
        · rw [← hin.2]; exact ⟨by decide, by decide⟩
        · rcases hin.2 with h | h <;> rw [← h] <;> exact ⟨by decide, by decide⟩
      · intro m hm
        have hnm : isNamed node.name.loc node.name = true := by simp [isNamed, hns]
        rw [List.map_cons, List.takeWhile_cons_of_neg (by simp [hnm])] at hm
        cases hm
    rcases ite_cases h with ⟨_, h⟩ | ⟨_, h⟩
    · cases h
    · rename_i hnin hsp
      obtain ⟨h1, h2⟩ := bh_listItemLoop hnames h
      refine ⟨h1, ?_⟩
      intro m hm
      rw [List.map_cons] at hm
      by_cases hp : (!isNamed n node.name) = true
      · rw [List.takeWhile_cons_of_pos (p := fun m => !isNamed n m) hp] at hm
        rcases List.mem_cons.mp hm with hm | hm
        · subst hm
          cases hc : tdThN node.name
          · rfl
          · exact absurd (bh_tdTh_special hc) hsp
        · exact h2 m hm
      · rw [List.takeWhile_cons_of_neg (p := fun m => !isNamed n m) hp] at hm; cases hm

theorem bh_cellR_popTo {p : Name → Bool} {l : List Name} (h1 : ∀ n ∈ l.takeWhile p, tdThN n = false)
    (h2 : ∀ n, p n = false → tdThN n = false) (h : cellR l = true) : cellR ((l.dropWhile p).drop 1) = true := by
  have h3 := cellR_dropWhile (p := p) h1 h
  cases hd : l.dropWhile p with
  | nil => rw [hd] at h3; cases h3
  | cons m rest =>
    rw [hd] at h3
    have hm : p m = false := by
      have := List.head_dropWhile_not (p := p) (l := l) (by rw [hd]; simp)
      simpa [hd] using this
    exact cellR_drop 1 (by intro n hn; simp at hn; subst hn; exact h2 _ hm) h3

theorem bh_takeWhile_dropWhile {α : Type} {p q : α → Bool} (hqp : ∀ a, q a = true → p a = true) :
    ∀ (l : List α) (a : α), a ∈ (l.dropWhile q).takeWhile p → a ∈ l.takeWhile p
  | [], _, h => h
  | b :: l, a, h => by
    by_cases hb : q b = true
    · rw [List.dropWhile_cons_of_pos hb] at h
      rw [List.takeWhile_cons_of_pos (hqp b hb)]
      exact List.mem_cons_of_mem _ (bh_takeWhile_dropWhile hqp l a h)
    · rw [List.dropWhile_cons_of_neg hb] at h; exact h

/-- "pop until an `n` element has been popped" when no td/th lies above the first `n` element -/
theorem bh_ctx_popUntilPoppedStr_noTd {cfg : Config N} {σ : State N} (hc : Ctx cfg σ) {n : Str}
    (hn : n ≠ "td".toList ∧ n ≠ "th".toList)
    (h : ∀ m ∈ σ.names.takeWhile (fun m => !isNamed n m), tdThN m = false) : Ctx cfg (popUntilPoppedStr σ n) := by
  refine hc.of_upd (st := (popUntilPoppedStr σ n).p.stack) (l := σ.p.list) ⟨rfl, rfl, rfl, rfl, rfl, rfl⟩ ?_ hc.good.af
  intro hcell
  show cellR (popUntilPoppedStr σ n).names = true
  rw [popUntilPoppedStr_names]
  refine bh_cellR_popTo h ?_ hcell
  intro m hm
  exact isNamed_noTd hn m (by simpa using hm)

theorem post_inBodyListItem {cfg : Config N} {σ : State N} (hc : Ctx cfg σ) {t : Tag} {names : List String}
    (hn : neutralN ⟨nsHtml, t.name⟩ = true) (hnames : names = ["li"] ∨ names = ["dd", "dt"]) {r : Step N}
    (h : inBodyListItem cfg σ t names = .ok r) : Post r := by
  unfold inBodyListItem at h
  dsimp only at h
  obtain ⟨s1, h1, rfl⟩ := map_ok h
  have hc0 : Ctx cfg σ.notOk := hc.same
  split at h1
  · rename_i n hloop
    obtain ⟨hn1, hn2⟩ := bh_listItemLoop hnames hloop
    have hcG := bh_ctx_genImpliedExceptStr hc0 n
    refine bh_post_done (bh_ctx_insertHtml' (bh_ctx_closeP
      (bh_ctx_popUntilPoppedStr_noTd (bh_ctx_iteErr hcG _ _) hn1 ?_)) hn h1)
    intro m hm
    rw [iteErr_names, genImpliedExceptStr_names] at hm
    refine hn2 m (bh_takeWhile_dropWhile ?_ _ m hm)
    intro a ha
    cases hc : isNamed n a
    · rfl
    · exfalso
      simp only [isNamed, Bool.and_eq_true, beq_iff_eq] at hc
      simp only [TreeAlgo.impliedEndTag, Bool.and_eq_true, Bool.not_eq_true', Bool.and_eq_false_iff] at ha
      rcases ha.2 with h | h
      · rw [beq_eq_false_iff_ne] at h; exact h hc.1
      · simp [hc.2] at h
  · exact bh_post_done (bh_ctx_insertHtml' (bh_ctx_closeP hc0) hn h1)

/-! ### block end tags, `</form>` -/

/-- a tag name from a list without `dd`, `dt`, `li`, … has no implied end tag (the extra hypothesis of
`post_inBodyBlockEnd`, for its callers) -/
theorem bh_notImplied_of_isOneOf {t : Tag} {l : List String} (h : t.isOneOf l = true)
    (hl : l.all (fun x => !(TreeTables.impliedEnd.contains x)) = true) :
    TreeAlgo.impliedEndTag none ⟨nsHtml, t.name⟩ = false :=
  notImplied_of_strIsOneOf h hl none

theorem bh_notImplied_of_is {t : Tag} {x : String} (h : t.is x = true)
    (hx : TreeTables.impliedEnd.contains x = false) : TreeAlgo.impliedEndTag none ⟨nsHtml, t.name⟩ = false :=
  bh_notImplied_of_isOneOf (l := [x]) (by simpa [Tag.isOneOf, Tag.is, strIs, strIsOneOf] using h)
    (by simp only [List.all_cons, List.all_nil, Bool.and_true, hx]; rfl)

/-- a tag name from a list without `td`, `th` -/
theorem bh_notTdTh_of_isOneOf {t : Tag} {l : List String} (h : t.isOneOf l = true)
    (hl : l.all (fun x => !(["td", "th"].contains x)) = true) : t.name ≠ "td".toList ∧ t.name ≠ "th".toList :=
  ne_of_strIsOneOf h hl

theorem post_inBodyBlockEnd {cfg : Config N} {σ : State N} (hc : Ctx cfg σ) {t : Tag}
    (ht : t.name ≠ "td".toList ∧ t.name ≠ "th".toList)
    (hni : TreeAlgo.impliedEndTag none ⟨nsHtml, t.name⟩ = false) : Post (inBodyBlockEnd cfg σ t) := by
  unfold inBodyBlockEnd
  dsimp only
  split
  · exact bh_post_done hc.same
  · rename_i hs
    have hs' : hasStrInScope cfg σ t.name = true := by simpa using hs
    have hcG := bh_ctx_genImplied hc none
    refine bh_post_done (bh_ctx_popUntilPoppedStr (bh_ctx_iteErr hcG _ _) ht ?_)
    unfold hasStrInScope
    rw [iteErr_names]
    exact (bh_hasStrInScope_genImplied cfg hc.ed σ (ex := none) hni).trans hs'

theorem post_ite {c : Prop} [Decidable c] {a b : Step N} (ha : c → Post a) (hb : ¬c → Post b) :
    Post (if c then a else b) := by
  by_cases hc : c
  · rw [if_pos hc]; exact ha hc
  · rw [if_neg hc]; exact hb hc

theorem post_inBodyEndForm {cfg : Config N} {σ : State N} (hc : Ctx cfg σ) (hl : Link σ) :
    Post (inBodyEndForm cfg σ) := by
  unfold inBodyEndForm
  dsimp only
  have hc0 : Ctx cfg (σ.setForm none) := hc.same
  refine post_ite (fun _ => ?_) fun _ => post_ite (fun _ => bh_post_done hc.same) fun hs => ?_
  · cases hnode : σ.p.formPointer with
    | none => exact bh_post_done hc0.same
    | some node =>
      refine post_ite (fun _ => bh_post_done hc0.same) fun _ => ?_
      have hcG := bh_ctx_genImplied hc0 none
      have hcI := bh_ctx_iteErr hcG (((genImplied (σ.setForm none)).cur.any fun e => decide (e.id = node)) = true)
        "in body: form end tag, current node is not the form"
      refine bh_post_done (hcI.of_upd (st := (removeFromStack _ node).p.stack) (l := σ.p.list)
        ⟨by simp, by simp, by simp, by simp, rfl, by simp⟩ ?_ hc.good.af)
      intro hcell
      show cellR (removeFromStack _ node).names = true
      rw [cellR_removeFromStack]
      · exact hcell
      · intro e he hid
        rw [iteErr_p] at he
        have he' : e ∈ σ.p.stack := by
          obtain ⟨j, hj, _⟩ := genImplied_stack_take (none : Option Str) σ.p.stack
          have : e ∈ TreeAlgo2.generateImpliedEndTags (none : Option Str) σ.p.stack := he
          rw [hj] at this
          exact List.mem_of_mem_take this
        have := hl.2 e he' (by rw [hid]; exact hnode)
        rw [this]; exact neutralN_of_loc (by decide +kernel)
  · have hs' : hasInScope cfg σ "form" = true := by simpa using hs
    have hcG := bh_ctx_genImplied hc none
    refine bh_post_done (bh_ctx_popUntilPopped (bh_ctx_iteErr hcG _ _) (by decide +kernel) ?_)
    show hasStrInScope cfg _ "form".toList = true
    unfold hasStrInScope
    rw [iteErr_names]
    exact (bh_hasStrInScope_genImplied cfg hc.ed σ (ex := none) (notImplied_of_notMem (x := "form") (by decide +kernel) _)).trans hs'

/-! ### `a`, `nobr` -/

theorem bh_findFormattingRev_mem {T : Type} {cxx : TreeAlgo2.Ctx T} {subj : Str} :
    ∀ {l : List (Entry N T)} {len i : Nat} {x : N} {tok : T},
      TreeAlgo2.findFormattingRev cxx subj l len = some (i, x, tok) → Entry.element x tok ∈ l
  | [], _, _, _, _, h => by simp [TreeAlgo2.findFormattingRev] at h
  | .marker :: _, _, _, _, _, h => by simp [TreeAlgo2.findFormattingRev] at h
  | .element n tk :: rest, len, i, x, tok, h => by
    unfold TreeAlgo2.findFormattingRev at h
    rcases ite_cases h with ⟨_, h⟩ | ⟨_, h⟩
    · simp only [Option.some.injEq, Prod.mk.injEq] at h
      obtain ⟨_, h1, h2⟩ := h
      subst h1 h2
      exact List.mem_cons_self ..
    · exact List.mem_cons_of_mem _ (bh_findFormattingRev_mem h)

/-- the formatting element found by step 4.3 of the adoption agency algorithm is an entry of the list -/
theorem bh_findFormattingElement_mem {T : Type} {cxx : TreeAlgo2.Ctx T} {subj : Str} {l : List (Entry N T)} {i : Nat}
    {x : N} {tok : T} (h : TreeAlgo2.findFormattingElement cxx subj l = some (i, x, tok)) : Entry.element x tok ∈ l :=
  List.mem_reverse.mp (bh_findFormattingRev_mem (l := l.reverse) h)

/-- the common tail of the `a` and `nobr` clauses: insert, push onto the list -/
theorem bh_fmt_tail0 {cfg : Config N} {s2 : State N} {t : Tag} (hfmt : fmtN t.name = true) {r : Step N}
    (h : (do
      let r ← insertHtml s2 t
      pure (Step.done (pushFormatting r.1 r.2 t))) = .ok r) :
    Suf s2 r.state ∧ (Ctx cfg s2 → Post r) := by
  obtain ⟨r1, h5, h6⟩ := bind_ok h
  cases pure_ok h6
  obtain ⟨s3, e⟩ := r1
  refine ⟨(insertHtml_suf h5).trans (Suf.of_eq (pushFormatting_supply s3 e t)), fun hc2 => ?_⟩
  have hc3 := bh_ctx_insertHtml hc2 (neutralN_of_fmt hfmt) h5
  exact bh_post_done (hc3.of_upd (st := s3.p.stack) (l := (pushFormatting s3 e t).p.list)
    ⟨pushFormatting_mode .., pushFormatting_orig .., pushFormatting_tms .., pushFormatting_stopped ..,
      pushFormatting_stack .., rfl⟩ id (AFOk.push hc3.good.af e hfmt))

/-- … with "reconstruct the active formatting elements" first -/
theorem bh_fmt_tail {cfg : Config N} {s1 : State N} {t : Tag} (hfmt : fmtN t.name = true) {r : Step N}
    (h : (do
      let s ← reconstruct s1
      let r ← insertHtml s t
      pure (Step.done (pushFormatting r.1 r.2 t))) = .ok r) :
    Suf s1 r.state ∧ (Ctx cfg s1 → Post r) := by
  obtain ⟨s2, h3, h4⟩ := bind_ok h
  obtain ⟨hsuf, hpost⟩ := bh_fmt_tail0 (cfg := cfg) hfmt h4
  exact ⟨(reconstruct_suf h3).trans hsuf, fun hc1 => hpost (bh_ctx_reconstruct hc1 h3)⟩

theorem post_inBodyStartA {cfg : Config N} {σ : State N} (hc : Ctx cfg σ) (hl : Link σ) {t : Tag} (ht : t.is "a" = true)
    {r : Step N} (hfr : FreshL σ.p.stack σ.p.supply r.state.p.supply) (h : inBodyStartA σ t = .ok r) : Post r := by
  have hfmt : fmtN t.name = true :=
    fmtN_of_isOneOf (l := ["a"]) (by simpa [Tag.isOneOf, Tag.is, strIs, strIsOneOf] using ht) (by decide +kernel)
  unfold inBodyStartA at h
  dsimp only at h
  split at h
  · rename_i i a tok hfind
    obtain ⟨s', ha, h2⟩ := bind_ok h
    obtain ⟨s1, hp, h3⟩ := bind_ok h2
    cases pure_ok hp
    obtain ⟨hsuf, hpost⟩ := bh_fmt_tail (cfg := cfg) hfmt h3
    apply hpost
    have hmem : Entry.element a tok ∈ σ.p.list := bh_findFormattingElement_mem hfind
    have hc0 : Ctx cfg (σ.err "in body: a start tag with an a element in the list") := hc.same
    have hsuf' : ∃ v, s'.p.supply = v ++ r.state.p.supply := by
      obtain ⟨v, hv⟩ := hsuf
      exact ⟨v, by simpa using hv⟩
    obtain ⟨st', l', hu, haf', hcell, hold, _⟩ := adoptionAgency_eff hfmt hc0.good.af hl.same
      (FreshL.mono hfr ⟨[], rfl⟩ hsuf' (fun e he _ => he)) ha
    have hc' : Ctx cfg s' := hc0.of_upd hu hcell haf'
    refine hc'.of_upd (st := (removeFromStack (removeFromList s' a) a).p.stack) (l := (removeFromList s' a).p.list)
      ⟨by simp, by simp, by simp, by simp, rfl, by simp⟩ ?_ (removeFromList_af a hc'.good.af)
    intro hcl
    show cellR (removeFromStack (removeFromList s' a) a).names = true
    rw [cellR_removeFromStack, removeFromList_names]
    · exact hcl
    · intro e he hid
      rw [removeFromList_stack, hu.stack] at he
      rcases hold e he with h | h
      · have := hl.1 e h tok (by rw [hid]; exact hmem)
        rw [this]; exact neutralN_of_fmt (hc.good.af a tok hmem)
      · exact h
  · obtain ⟨s1, hp, h3⟩ := bind_ok h
    cases pure_ok hp
    exact (bh_fmt_tail hfmt h3).2 hc

/-! #### `Link` through "reconstruct the active formatting elements"

`Link` of the state after "reconstruct" does not follow from `Link` of the state before it without a freshness
assumption on the node ids the algorithm takes from the supply (a new element gets the entry of its token: an
old stack element with the same id, an old entry for that id, or a form element pointer equal to that id would
break `Link`).  `bh_NewIds` is that assumption; `FreshL` (td/th elements only) is too weak. -/

/-- the node ids `u` are new for the parser state: pairwise distinct, not ids of elements of the stack, not ids of
entries of the list of active formatting elements, not the form element pointer -/
def bh_NewIds (u : List N) (p : PState N ETok) : Prop :=
  u.Nodup ∧ ∀ n ∈ u, (∀ e ∈ p.stack, e.id ≠ n) ∧ (∀ t, Entry.element n t ∉ p.list) ∧ p.formPointer ≠ some n

/-- `Link` on the parser state -/
def bh_LinkP (p : PState N ETok) : Prop :=
  (∀ e ∈ p.stack, ∀ t, Entry.element e.id t ∈ p.list → e.name = ⟨nsHtml, t.name⟩) ∧
  (∀ e ∈ p.stack, p.formPointer = some e.id → e.name = ⟨nsHtml, "form".toList⟩)

theorem bh_link_step {st st2 : PState N ETok} {ne : Elem N} {tok : ETok} {i : Nat} {u' : List N}
    (hname : ne.name = ⟨nsHtml, tok.name⟩) (hs : st2.stack = st.stack ++ [ne])
    (hl : st2.list = st.list.set i (.element ne.id tok)) (hf : st2.formPointer = st.formPointer)
    (hnew : bh_NewIds (ne.id :: u') st) (hlink : bh_LinkP st) : bh_NewIds u' st2 ∧ bh_LinkP st2 := by
  obtain ⟨hnd, hfr⟩ := hnew
  obtain ⟨hnotin, hnd'⟩ := List.nodup_cons.mp hnd
  obtain ⟨f1, f2, f3⟩ := hfr ne.id (List.mem_cons_self ..)
  refine ⟨⟨hnd', ?_⟩, ?_, ?_⟩
  · intro n hn
    obtain ⟨g1, g2, g3⟩ := hfr n (List.mem_cons_of_mem _ hn)
    rw [hs, hl, hf]
    refine ⟨?_, ?_, g3⟩
    · intro e he
      rcases List.mem_append.mp he with he | he
      · exact g1 e he
      · simp only [List.mem_singleton] at he
        subst he
        intro hc
        exact hnotin (hc ▸ hn)
    · intro t ht
      rcases List.mem_or_eq_of_mem_set ht with ht | ht
      · exact g2 t ht
      · injection ht with h1 h2
        exact hnotin (h1 ▸ hn)
  · rw [hs, hl]
    intro e he t ht
    rcases List.mem_append.mp he with he | he
    · rcases List.mem_or_eq_of_mem_set ht with ht | ht
      · exact hlink.1 e he t ht
      · injection ht with h1 h2
        exact absurd h1 (f1 e he)
    · simp only [List.mem_singleton] at he
      subst he
      rcases List.mem_or_eq_of_mem_set ht with ht | ht
      · exact absurd ht (f2 t)
      · injection ht with h1 h2
        subst h2
        exact hname
  · rw [hs, hf]
    intro e he hfp
    rcases List.mem_append.mp he with he | he
    · exact hlink.2 e he hfp
    · simp only [List.mem_singleton] at he
      subst he
      exact absurd hfp f3

theorem bh_reconstructCreate_link : ∀ (k i : Nat) (st st' : PState N ETok),
    TreeAlgo2.reconstructCreate cx k i st = some st' →
    ∃ u, st.supply = u ++ st'.supply ∧ (bh_NewIds u st → bh_LinkP st → bh_LinkP st')
  | 0, _, st, st', h => by
    simp only [TreeAlgo2.reconstructCreate, Option.some.injEq] at h
    subst h
    exact ⟨[], rfl, fun _ hl => hl⟩
  | k + 1, i, st, st', h => by
    unfold TreeAlgo2.reconstructCreate at h
    cases hi : st.list[i]? with
    | none => rw [hi] at h; cases h
    | some ent =>
      rw [hi] at h
      cases ent with
      | marker => cases h
      | element x tok =>
        dsimp only at h
        cases hins : TreeAlgo2.insertHtmlElement cx st tok with
        | none => rw [hins] at h; cases h
        | some r =>
          obtain ⟨st1, ne⟩ := r
          rw [hins] at h
          simp only [Option.bind_some] at h
          obtain ⟨hname, _, hstack, hlist, hform⟩ := insertForeignElement_eff hins
          have hs := insertForeignElement_supply hins
          have hl2 : ({ st1 with list := st1.list.set i (.element ne.id tok) } : PState N ETok).list =
              st.list.set i (.element ne.id tok) := by
            show st1.list.set i (.element ne.id tok) = _
            rw [hlist]
          rcases ite_cases h with ⟨_, h⟩ | ⟨_, h⟩
          · obtain ⟨u', hu', himp⟩ := bh_reconstructCreate_link k (i + 1) _ st' h
            refine ⟨ne.id :: u', by rw [hs]; simpa using hu', fun hnew hl => ?_⟩
            obtain ⟨a, b⟩ := bh_link_step (st2 := { st1 with list := st1.list.set i (.element ne.id tok) }) hname hstack hl2
              hform hnew hl
            exact himp a b
          · simp only [Option.some.injEq] at h
            subst h
            exact ⟨[ne.id], by rw [hs]; rfl, fun hnew hl =>
              (bh_link_step (st2 := { st1 with list := st1.list.set i (.element ne.id tok) }) (u' := []) hname hstack hl2
                hform hnew hl).2⟩

/-- **`Link` survives "reconstruct the active formatting elements"** if the node ids it takes from the supply are new -/
theorem bh_reconstruct_link {s s1 : State N} (h : reconstruct s = .ok s1) (hl : Link s)
    (hnew : ∀ u, s.p.supply = u ++ s1.p.supply → bh_NewIds u s.p) : Link s1 := by
  unfold reconstruct at h
  obtain ⟨p, hr, h2⟩ := bind_ok h
  have hr' := req_ok hr
  cases pure_ok h2
  unfold TreeAlgo2.reconstructActiveFormattingElements at hr'
  split at hr'
  · cases hr'; exact hl
  · split at hr'
    · cases hr'; exact hl
    · obtain ⟨u, hu, himp⟩ := bh_reconstructCreate_link _ _ _ _ hr'
      exact himp (hnew u hu) hl

theorem post_inBodyStartNobr {cfg : Config N} {σ : State N} (hc : Ctx cfg σ) (hl : Link σ) {t : Tag}
    (ht : t.is "nobr" = true) {r : Step N} (hfr : FreshL σ.p.stack σ.p.supply r.state.p.supply)
    (h : inBodyStartNobr cfg σ t = .ok r) : Post r := by
  have hfmt : fmtN t.name = true :=
    fmtN_of_isOneOf (l := ["nobr"]) (by simpa [Tag.isOneOf, Tag.is, strIs, strIsOneOf] using ht) (by decide +kernel)
  unfold inBodyStartNobr at h
  obtain ⟨s1, h1, h2⟩ := bind_ok h
  have hc1 := bh_ctx_reconstruct hc h1
  dsimp only at h2
  rcases ite_cases h2 with ⟨_, h2⟩ | ⟨_, h2⟩
  · obtain ⟨s', ha, h3⟩ := bind_ok h2
    obtain ⟨s2, hrec, h4⟩ := bind_ok h3
    obtain ⟨hsuf, hpost⟩ := bh_fmt_tail0 (cfg := cfg) hfmt h4
    apply hpost
    obtain ⟨es, l1, hu1, hes, _, _⟩ := reconstruct_eff hc.good.af h1
    have hsuf' : Suf s' r.state := (reconstruct_suf hrec).trans hsuf
    have hfr1 : FreshL s1.p.stack s1.p.supply s'.p.supply :=
      FreshL.mono hfr (reconstruct_suf h1) hsuf'
        (by rw [hu1.stack]; exact tdTh_of_append_neutral (fun e he => (hes e he).1))
    have hc0 : Ctx cfg (s1.err "in body: nobr start tag with nobr in scope") := hc1.same
    have hl1 : WLink s1 := reconstruct_wlink hc.good.af (hl.weak hc.good.af) hfr
      (by obtain ⟨a, ha'⟩ := adoptionAgency_suf ha; obtain ⟨b, hb⟩ := hsuf'; exact ⟨a ++ b, by have h0 : s1.p.supply = a ++ s'.p.supply := ha'; rw [h0, hb, List.append_assoc]⟩) h1
    obtain ⟨st', l', hu, haf', hcell, _, _⟩ := adoptionAgency_eff' hfmt hc0.good.af hl1.same hfr1 ha
    exact bh_ctx_reconstruct (hc0.of_upd hu hcell haf') hrec
  · obtain ⟨s2, hp, h3⟩ := bind_ok h2
    cases pure_ok hp
    exact (bh_fmt_tail0 hfmt h3).2 hc1

theorem bh_ctx_ite {cfg : Config N} {a b : State N} (c : Prop) [Decidable c] (ha : c → Ctx cfg a) (hb : ¬c → Ctx cfg b) :
    Ctx cfg (if c then a else b) := by
  split
  · exact ha ‹_›
  · exact hb ‹_›

theorem post_inBodyStartForeignRoot {cfg : Config N} {σ : State N} (hc : Ctx cfg σ) {t : Tag}
    {kind : TreeAlgo.ForeignKind} {ns : Str} (hns : ns ≠ nsHtml) {r : Step N}
    (h : inBodyStartForeignRoot σ t kind ns = .ok r) : Post r := by
  unfold inBodyStartForeignRoot at h
  obtain ⟨s1, h1, h2⟩ := bind_ok h
  obtain ⟨r1, h3, h4⟩ := bind_ok h2
  cases pure_ok h4
  obtain ⟨s2, e⟩ := r1
  have hc1 := bh_ctx_reconstruct hc h1
  obtain ⟨he, _, hu⟩ := insertForeign_eff h3
  have hne : neutralN e.name = true := neutralN_of_ns (by rw [he]; exact hns)
  have hc2 : Ctx cfg s2 := hc1.of_upd hu (by rw [cellR_snoc_neutral _ hne]; exact id) hc1.good.af
  dsimp only
  split
  · refine bh_post_done (hc2.of_upd (st := s1.p.stack) (l := s2.p.list)
      ⟨by simp, by simp, by simp, by simp, by simp [hu.stack], by simp⟩ ?_ hc2.good.af)
    rw [names_eq, hu.stack, cellR_snoc_neutral _ hne]; exact id
  · exact bh_post_done hc2

/-! ### the `select` family (2025), `hr`, `input` -/

theorem post_inBodyStartSelect2025 {cfg : Config N} {σ : State N} (hc : Ctx cfg σ) {t : Tag} (ht : t.is "select" = true)
    {r : Step N} (h : inBodyStartSelect2025 cfg σ t = .ok r) : Post r := by
  unfold inBodyStartSelect2025 at h
  rcases ite_cases h with ⟨_, h⟩ | ⟨_, h⟩
  · cases pure_ok h; exact bh_post_done hc.same
  rcases ite_cases h with ⟨_, h⟩ | ⟨_, h⟩
  · rename_i hs
    cases pure_ok h
    exact bh_post_done (bh_ctx_popUntilPopped (σ := σ.err _) hc.same (by decide +kernel) hs)
  · obtain ⟨s1, h1, h2⟩ := bind_ok h
    obtain ⟨s2, h3, h4⟩ := bind_ok h2
    cases pure_ok h4
    exact bh_post_done (Ctx.same (bh_ctx_insertHtml' (bh_ctx_reconstruct hc h1) (neutral_of_is ht (by decide +kernel)) h3))

theorem post_inBodyStartOption2025 {cfg : Config N} {σ : State N} (hc : Ctx cfg σ) {t : Tag} (ht : t.is "option" = true)
    {r : Step N} (h : inBodyStartOption2025 cfg σ t = .ok r) : Post r := by
  unfold inBodyStartOption2025 at h
  dsimp only at h
  obtain ⟨s1, h1, h2⟩ := bind_ok h
  obtain ⟨s2, h3, rfl⟩ := map_ok h2
  refine bh_post_done (cfg := cfg) (bh_ctx_insertHtml' (bh_ctx_reconstruct ?_ h1) (neutral_of_is ht (by decide +kernel)) h3)
  exact bh_ctx_ite _ (fun _ => bh_ctx_errIte (bh_ctx_genImplied hc _) _ _)
    (fun _ => bh_ctx_ite _ (fun hcur => bh_ctx_pop_cur hc (by decide +kernel) hcur) (fun _ => hc))

theorem post_inBodyStartOptgroup2025 {cfg : Config N} {σ : State N} (hc : Ctx cfg σ) {t : Tag}
    (ht : t.is "optgroup" = true) {r : Step N} (h : inBodyStartOptgroup2025 cfg σ t = .ok r) : Post r := by
  unfold inBodyStartOptgroup2025 at h
  dsimp only at h
  obtain ⟨s1, h1, h2⟩ := bind_ok h
  obtain ⟨s2, h3, rfl⟩ := map_ok h2
  refine bh_post_done (cfg := cfg) (bh_ctx_insertHtml' (bh_ctx_reconstruct ?_ h1) (neutral_of_is ht (by decide +kernel)) h3)
  exact bh_ctx_ite _ (fun _ => bh_ctx_errIte (bh_ctx_genImplied hc _) _ _)
    (fun _ => bh_ctx_ite _ (fun hcur => bh_ctx_pop_cur hc (by decide +kernel) hcur) (fun _ => hc))

theorem post_inBodyStartHr {cfg : Config N} {σ : State N} (hc : Ctx cfg σ) {t : Tag} {r : Step N}
    (h : inBodyStartHr cfg σ t = .ok r) : Post r := by
  unfold inBodyStartHr at h
  dsimp only at h
  obtain ⟨s1, h1, h2⟩ := bind_ok h
  cases pure_ok h2
  refine bh_post_done (cfg := cfg) (Ctx.same (bh_ctx_insertVoid ?_ h1))
  exact bh_ctx_ite _ (fun _ => bh_ctx_errIte (bh_ctx_genImplied (bh_ctx_closeP hc) _) _ _) (fun _ => bh_ctx_closeP hc)

theorem post_inBodyStartInput {cfg : Config N} {σ : State N} (hc : Ctx cfg σ) {t : Tag} {r : Step N}
    (h : inBodyStartInput cfg σ t = .ok r) : Post r := by
  unfold inBodyStartInput at h
  rcases ite_cases h with ⟨_, h⟩ | ⟨_, h⟩
  · cases pure_ok h; exact bh_post_done hc.same
  · dsimp only at h
    obtain ⟨s1, h1, h2⟩ := bind_ok h
    obtain ⟨s2, h3, h4⟩ := bind_ok h2
    cases pure_ok h4
    have hc1 : Ctx cfg s1 := by
      refine bh_ctx_reconstruct ?_ h1
      refine bh_ctx_ite _ (fun hcond => ?_) (fun _ => hc)
      simp only [Bool.and_eq_true] at hcond
      exact bh_ctx_popUntilPopped (σ := σ.err _) hc.same (by decide +kernel) hcond.2
    have hc2 := bh_ctx_insertVoid hc1 h3
    split
    · exact bh_post_done hc2
    · exact bh_post_done hc2.same

end
end H5V.Lemmas.ModesInv
