import H5V.Lemmas.DomStep
/-! A sink call within the TreeSink contract never makes (the model of) RcDom panic. -/
namespace H5V.Lemmas.Dom
open H5V.Model.Dom

/-! ### success of the primitive operations on a well-formed arena -/

theorem appendRaw_succeeds {d : Dom} {p c : Id} (hc : c < d.size) (hpar : d.parentOf c = none) (hp : p < d.size) :
    ∃ d', d.appendRaw p c = .ok d' := by
  obtain ⟨cn, hcn⟩ := node?_of_lt hc
  have hcp : cn.parent = none := by rw [← parentOf_of_node hcn]; exact hpar
  have hp' : p < (d.setNode c { data := cn.data, parent := some p, children := cn.children }).size := by simpa using hp
  obtain ⟨pn, hpn⟩ := node?_of_lt hp'
  simp only [Dom.appendRaw, bind, Except.bind, get_ok_of hcn, hcp, Option.isSome_none, Bool.false_eq_true,
    if_false, get_ok_of hpn]
  exact ⟨_, rfl⟩

theorem getParentAndIndex_succeeds {d : Dom} (hw : WF d) {t : Id} (ht : t < d.size) :
    (d.parentOf t = none ∧ d.getParentAndIndex t = .ok none) ∨
    (∃ p i, d.parentOf t = some p ∧ indexOf? t (d.childrenOf p) = some i ∧ d.getParentAndIndex t = .ok (some (p, i))) := by
  obtain ⟨tn, htn⟩ := node?_of_lt ht
  cases hpar : tn.parent with
  | none =>
    left
    refine ⟨by rw [parentOf_of_node htn, hpar], ?_⟩
    simp only [Dom.getParentAndIndex, bind, Except.bind, get_ok_of htn, hpar]
  | some p =>
    right
    have hpo : d.parentOf t = some p := by rw [parentOf_of_node htn, hpar]
    obtain ⟨pn, hpn⟩ := node?_of_lt (parent_lt_size hw hpo)
    have hmem : t ∈ pn.children := by rw [← childrenOf_of_node hpn]; exact (hw.links t p).mp hpo
    obtain ⟨i, hi⟩ := indexOf?_of_mem hmem
    refine ⟨p, i, hpo, by rw [childrenOf_of_node hpn]; exact hi, ?_⟩
    simp only [Dom.getParentAndIndex, bind, Except.bind, get_ok_of htn, hpar, get_ok_of hpn, hi]

theorem removeFromParent_succeeds {d : Dom} (hw : WF d) {t : Id} (ht : t < d.size) :
    ∃ d', d.removeFromParent t = .ok d' := by
  rcases getParentAndIndex_succeeds hw ht with ⟨_, hg⟩ | ⟨p, i, hpo, _, hg⟩
  · simp only [Dom.removeFromParent, bind, Except.bind, hg]; exact ⟨_, rfl⟩
  · obtain ⟨pn, hpn⟩ := node?_of_lt (parent_lt_size hw hpo)
    have ht' : t < (d.setNode p { data := pn.data, parent := pn.parent, children := removeAt pn.children i }).size := by
      simpa using ht
    obtain ⟨tn, htn⟩ := node?_of_lt ht'
    simp only [Dom.removeFromParent, bind, Except.bind, hg, get_ok_of hpn, get_ok_of htn]
    exact ⟨_, rfl⟩

theorem length_removeAt {l : List Id} {i : Nat} (hi : i < l.length) : (removeAt l i).length = l.length - 1 := by
  unfold removeAt
  simp only [List.length_append, List.length_take, List.length_drop]
  omega

/-- `insertAtIndex parent i c` succeeds when `i` is the index of some *other* child `s` of `parent` -/
theorem insertAtIndex_succeeds {d : Dom} (hw : WF d) {P c s : Id} {i : Nat} (hc : c < d.size) (hP : P < d.size)
    (hi : indexOf? s (d.childrenOf P) = some i) (hsc : s ≠ c) : ∃ d', d.insertAtIndex P i c = .ok d' := by
  obtain ⟨d1, hr⟩ := removeFromParent_succeeds hw hc
  have hsz := removeFromParent_size hr
  obtain ⟨cn, hcn⟩ := node?_of_lt (show c < d1.size by rw [hsz]; exact hc)
  have hP' : P < (d1.setNode c { data := cn.data, parent := some P, children := cn.children }).size := by
    simp; rw [hsz]; exact hP
  obtain ⟨pn, hpn⟩ := node?_of_lt hP'
  -- the child list of `P` after the removal still has room for index `i`
  obtain ⟨hsplit, _, hilt⟩ := indexOf?_some hi
  have hlen : i ≤ (d1.childrenOf P).length := by
    rcases removeFromParent_ok hr with ⟨_, he⟩ | ⟨p', j, _, hj, _, hch, _⟩
    · rw [he]; exact Nat.le_of_lt hilt
    · rw [hch]
      by_cases hpp : P = p'
      · subst hpp
        simp only [if_true]
        rw [length_removeAt (indexOf?_some hj).2.2]; omega
      · simp [hpp]; exact Nat.le_of_lt hilt
  have hpc : pn.children = d1.childrenOf P := by
    rw [node?_setNode_of hcn] at hpn
    by_cases hPc : P = c
    · subst hPc; simp at hpn; subst hpn; simp [childrenOf_of_node hcn]
    · simp [hPc] at hpn; simp [childrenOf_of_node hpn]
  simp only [Dom.insertAtIndex, bind, Except.bind, hr, get_ok_of hcn, get_ok_of hpn]
  rw [hpc]
  simp only [gt_iff_lt, Nat.not_lt.mpr hlen, if_false]
  exact ⟨_, rfl⟩


theorem allocAppend_succeeds {d : Dom} (data : NodeData) {p : Id} (hp : p < d.size) :
    ∃ d', (d.alloc data).1.appendRaw p (d.alloc data).2 = .ok d' := by
  rw [alloc_id]
  exact appendRaw_succeeds (by simp) (by rw [parentOf_alloc]; exact parentOf_none_of_ge (Nat.le_refl _))
    (by simp; exact Nat.lt_succ_of_lt hp)

theorem append_succeeds {d : Dom} (hw : WF d) {p : Id} {ch : NodeOrText} (hc : d.contractAppend p ch = true) :
    ∃ d', d.append p ch = .ok d' := by
  simp only [Dom.contractAppend, Bool.and_eq_true] at hc
  have hp := lt_of_isContainer hc.1
  cases ch with
  | node c =>
    rw [append_node_eq]
    simp only [Dom.childOk, Bool.and_eq_true, Bool.not_eq_true', Bool.or_eq_true] at hc
    have hcv : c < d.size := by
      have := hc.2.1.1
      unfold Dom.isInsertable at this
      cases hd : d.dataOf c with
      | none => simp [hd] at this
      | some v => exact lt_of_dataOf_some hd
    have hpar : d.parentOf c = none := by
      have := hc.2.1.2
      cases hpc : d.parentOf c with
      | none => rfl
      | some q => simp [hpc] at this
    exact appendRaw_succeeds hcv hpar hp
  | text s =>
    obtain ⟨pn, hpn⟩ := node?_of_lt hp
    simp only [Dom.append, bind, Except.bind, get_ok_of hpn]
    cases hl : pn.children.getLast? with
    | none => simp only; exact allocAppend_succeeds _ hp
    | some h =>
      simp only
      have hh : h ∈ d.childrenOf p := by rw [childrenOf_of_node hpn]; exact List.mem_of_getLast? hl
      obtain ⟨hn, hhn⟩ := node?_of_lt (child_valid hw hh)
      simp only [get_ok_of hhn]
      cases hn.data with
      | text old => exact ⟨_, rfl⟩
      | document | doctype _ _ _ | comment _ | element _ _ _ _ | pi _ _ => exact allocAppend_succeeds _ hp

/-- the pinned and the repaired `append_before_sibling` body succeed on a sibling that has a parent -/
theorem appendBeforeSibling_succeeds {d : Dom} (hw : WF d) {s P : Id} {ch : NodeOrText} (hs : d.parentOf s = some P)
    (hch : match ch with | .text _ => True | .node c => c < d.size ∧ s ≠ c) :
    ∃ d', d.appendBeforeSibling s ch = .ok d' := by
  have hsv := child_lt_size hs
  have hP := parent_lt_size hw hs
  rcases getParentAndIndex_succeeds hw hsv with ⟨h0, _⟩ | ⟨P', i, hs', hi, hg⟩
  · rw [hs] at h0; cases h0
  · rw [hs] at hs'; cases hs'
    simp only [Dom.appendBeforeSibling, bind, Except.bind, hg]
    have fresh : ∃ d', (d.alloc (.text (match ch with | .text t => t | _ => []))).1.insertAtIndex P i
        (d.alloc (.text (match ch with | .text t => t | _ => []))).2 = .ok d' := by
      rw [alloc_id]
      exact insertAtIndex_succeeds (hw.alloc _) (s := s) (by simp) (by simp; exact Nat.lt_succ_of_lt hP)
        (by rw [childrenOf_alloc]; exact hi) (Nat.ne_of_lt hsv)
    cases ch with
    | node c => simp only; exact insertAtIndex_succeeds hw hch.1 hP hi hch.2
    | text t =>
      simp only at fresh ⊢
      by_cases hi0 : i = 0
      · simp only [hi0, if_true]; rw [hi0] at fresh; exact fresh
      · simp only [hi0, if_false]
        obtain ⟨pn, hpn⟩ := node?_of_lt hP
        simp only [get_ok_of hpn]
        have hilt := (indexOf?_some hi).2.2
        rw [childrenOf_of_node hpn] at hilt
        have hlt : i - 1 < pn.children.length := by omega
        rw [List.getElem?_eq_getElem hlt]
        simp only
        have hmem : pn.children[i - 1] ∈ d.childrenOf P := by
          rw [childrenOf_of_node hpn]; exact List.getElem_mem hlt
        obtain ⟨prevn, hprevn⟩ := node?_of_lt (child_valid hw hmem)
        simp only [get_ok_of hprevn]
        cases prevn.data with
        | text old => exact ⟨_, rfl⟩
        | document | doctype _ _ _ | comment _ | element _ _ _ _ | pi _ _ => exact fresh

theorem lt_of_isInsertable {d : Dom} {x : Id} (h : d.isInsertable x = true) : x < d.size := by
  unfold Dom.isInsertable at h
  cases hd : d.dataOf x with
  | none => simp [hd] at h
  | some v => exact lt_of_dataOf_some hd

theorem appendBeforeSiblingV_succeeds {b : Dom.BeforeSiblingVariant} {d : Dom} (hw : WF d) {s : Id} {ch : NodeOrText}
    (hc : d.contractAppendBeforeSibling s ch = true) : ∃ d', d.appendBeforeSiblingV b s ch = .ok d' := by
  have hc0 := hc
  unfold Dom.contractAppendBeforeSibling at hc
  cases hps : d.parentOf s with
  | none => simp [hps] at hc
  | some P =>
    simp only [hps, Bool.and_eq_true] at hc
    cases ch with
    | text t =>
      rw [show d.appendBeforeSiblingV b s (.text t) = d.appendBeforeSibling s (.text t) from rfl]
      exact appendBeforeSibling_succeeds hw hps trivial
    | node c =>
      simp only [Dom.childOk, Bool.and_eq_true] at hc
      have hcv := lt_of_isInsertable hc.2.1.2.1.1
      have hsc : s ≠ c := by
        intro e; subst e; have := hc.2.2; simp at this
      cases b with
      | asCode =>
        rw [show d.appendBeforeSiblingV .asCode s (.node c) = d.appendBeforeSibling s (.node c) from rfl]
        exact appendBeforeSibling_succeeds hw hps ⟨hcv, hsc⟩
      | detachFirst =>
        obtain ⟨d1, hr⟩ := removeFromParent_succeeds hw hcv
        simp only [Dom.appendBeforeSiblingV, Dom.preDetach, bind, Except.bind, hr]
        have hps1 : d1.parentOf s = some P := by
          rcases removeFromParent_ok hr with ⟨_, he⟩ | ⟨_, _, _, _, hp, _⟩
          · rw [he]; exact hps
          · rw [hp]; simp [hsc, hps]
        exact appendBeforeSibling_succeeds (hw.removeFromParent hr) hps1
          ⟨by rw [removeFromParent_size hr]; exact hcv, hsc⟩


theorem reparentLoop_succeeds {n np : Id} : ∀ (cs : List Id) (d : Dom), cs.Nodup →
    (∀ c ∈ cs, d.parentOf c = some n) → ∃ d', Dom.reparentLoop d n np cs = .ok d' := by
  intro cs
  induction cs with
  | nil => intro d _ _; exact ⟨d, rfl⟩
  | cons c cs ih =>
    intro d hnd hp
    have hpc := hp c (by simp)
    obtain ⟨cn, hcn⟩ := node?_of_lt (child_lt_size hpc)
    have hcp : cn.parent = some n := by rw [← parentOf_of_node hcn]; exact hpc
    obtain ⟨hnotin, hnd'⟩ := List.nodup_cons.mp hnd
    simp only [Dom.reparentLoop, bind, Except.bind, get_ok_of hcn, hcp, ne_eq, not_true_eq_false, if_false]
    apply ih _ hnd'
    intro c' hc'
    rw [parentOf_setNode hcn]
    have : c' ≠ c := fun e => hnotin (e ▸ hc')
    simp [this]; exact hp c' (by simp [hc'])

theorem reparentChildren_succeeds {d : Dom} (hw : WF d) {n np : Id} (hn : n < d.size) (hnp : np < d.size)
    (hne : n ≠ np) : ∃ d', d.reparentChildren n np = .ok d' := by
  obtain ⟨nn, hnn⟩ := node?_of_lt hn
  obtain ⟨npn, hnpn⟩ := node?_of_lt hnp
  obtain ⟨d1, hl⟩ := reparentLoop_succeeds (n := n) (np := np) nn.children d
    (by rw [← childrenOf_of_node hnn]; exact hw.nodup n)
    (fun c hc => (hw.links c n).mpr (by rw [childrenOf_of_node hnn]; exact hc))
  obtain ⟨_, _, _, l4, _⟩ := reparentLoop_ok _ hl
  obtain ⟨nn1, hnn1⟩ := node?_of_lt (show n < d1.size by rw [l4]; exact hn)
  obtain ⟨npn1, hnpn1⟩ := node?_of_lt (show np < d1.size by rw [l4]; exact hnp)
  have hset : (d1.setNode np { data := npn1.data, parent := npn1.parent, children := npn1.children ++ nn1.children }).node? n
      = some nn1 := by
    rw [node?_setNode_of hnpn1]; simp [hne, hnn1]
  simp only [Dom.reparentChildren, bind, Except.bind, get_ok_of hnn, get_ok_of hnpn, hne, if_false, hl,
    get_ok_of hnn1, get_ok_of hnpn1, get_ok_of hset]
  exact ⟨_, rfl⟩

/-- **A contract-abiding call never panics** (every `TreeSink` method except the option →
selectedcontent mirroring, for either behaviour of `append_before_sibling`): on every arena
satisfying the invariant, `Dom.applyV` returns normally. -/
theorem applyV_succeeds {v : Dom.CloneVariant} {b : Dom.BeforeSiblingVariant} {d : Dom} {op : SinkOp} (hw : WF d)
    (hc : d.contractOk op = true) (hop : ∀ o, op ≠ .maybeCloneAnOptionIntoSelectedcontent o) :
    ∃ d' out, d.applyV v b op = .ok (d', out) := by
  cases op with
  | parseError _ | getDocument | createElement _ _ _ | createComment _ | createPi _ _ | markScriptAlreadyStarted _
  | pop _ | sameNode _ _ | setQuirksMode _ | associateWithForm _ _ _ _ | setCurrentLine _
  | allowDeclarativeShadowRoots _ | attachDeclarativeShadow _ _ _ => exact ⟨_, _, rfl⟩
  | elemName t =>
    obtain ⟨tn, htn⟩ := node?_of_lt (lt_of_isElement (by simpa [Dom.contractOk] using hc))
    have he : d.isElement t = true := by simpa [Dom.contractOk] using hc
    simp only [Dom.isElement, dataOf_of_node htn] at he
    simp only [Dom.applyV, Dom.elemName, bind, Except.bind, get_ok_of htn]
    cases hd : tn.data <;> simp [hd] at he ⊢
  | isMathmlAnnotationXmlIntegrationPoint t =>
    obtain ⟨tn, htn⟩ := node?_of_lt (lt_of_isElement (by simpa [Dom.contractOk] using hc))
    have he : d.isElement t = true := by simpa [Dom.contractOk] using hc
    simp only [Dom.isElement, dataOf_of_node htn] at he
    simp only [Dom.applyV, Dom.isMathmlAnnotationXmlIntegrationPoint, bind, Except.bind, get_ok_of htn]
    cases hd : tn.data <;> simp [hd] at he ⊢
  | getTemplateContents t =>
    have he : (d.templateContentsOf t).isSome = true := by simpa [Dom.contractOk] using hc
    unfold Dom.templateContentsOf at he
    cases hdt : d.dataOf t with
    | none => simp [hdt] at he
    | some v =>
      rw [hdt] at he
      obtain ⟨tn, htn⟩ := node?_of_lt (lt_of_dataOf_some hdt)
      rw [dataOf_of_node htn] at hdt
      have hv : tn.data = v := Option.some.inj hdt
      simp only [Dom.applyV, Dom.getTemplateContents, bind, Except.bind, get_ok_of htn, hv]
      cases v with
      | element n a tc ip => cases tc <;> simp at he ⊢
      | document | doctype _ _ _ | comment _ | text _ | pi _ _ => simp at he
  | addAttrsIfMissing t a =>
    have he : d.isElement t = true := by
      simp only [Dom.contractOk, Bool.and_eq_true] at hc
      exact hc.1
    obtain ⟨tn, htn⟩ := node?_of_lt (lt_of_isElement he)
    simp only [Dom.isElement, dataOf_of_node htn] at he
    simp only [Dom.applyV, Dom.addAttrsIfMissing, bind, Except.bind, get_ok_of htn]
    cases hd : tn.data <;> simp [hd] at he ⊢
  | append p c =>
    obtain ⟨d', h⟩ := append_succeeds hw (p := p) (ch := c) (by simpa [Dom.contractOk] using hc)
    exact ⟨d', .unit, by simp [Dom.applyV, bind, Except.bind, h]⟩
  | appendBeforeSibling s c =>
    obtain ⟨d', h⟩ := appendBeforeSiblingV_succeeds (b := b) hw (s := s) (ch := c) (by simpa [Dom.contractOk] using hc)
    exact ⟨d', .unit, by simp [Dom.applyV, bind, Except.bind, h]⟩
  | appendBasedOnParentNode e p c =>
    simp only [Dom.contractOk, Bool.and_eq_true] at hc
    obtain ⟨en, hen⟩ := node?_of_lt (lt_of_isElement hc.1.1)
    have hpe : d.parentOf e = en.parent := parentOf_of_node hen
    by_cases hp : (d.parentOf e).isSome = true
    · simp only [hp, if_true] at hc
      obtain ⟨d', h⟩ := appendBeforeSiblingV_succeeds (b := b) hw hc.2
      rw [hpe] at hp
      exact ⟨d', .unit, by simp [Dom.applyV, Dom.appendBasedOnParentNodeV, bind, Except.bind, get_ok_of hen, hp, h]⟩
    · simp only [hp] at hc
      obtain ⟨d', h⟩ := append_succeeds hw hc.2
      rw [hpe] at hp
      exact ⟨d', .unit, by simp [Dom.applyV, Dom.appendBasedOnParentNodeV, bind, Except.bind, get_ok_of hen, hp, h]⟩
  | appendDoctypeToDocument n p s =>
    simp only [Dom.contractOk, Bool.and_eq_true] at hc
    obtain ⟨d', h⟩ := allocAppend_succeeds (d := d) (.doctype n p s) (lt_of_isContainer hc.1)
    exact ⟨d', .unit, by simp [Dom.applyV, Dom.appendDoctypeToDocument, bind, Except.bind, h]⟩
  | removeFromParent t =>
    obtain ⟨d', h⟩ := removeFromParent_succeeds hw (t := t) (by simpa [Dom.contractOk] using hc)
    exact ⟨d', .unit, by simp [Dom.applyV, bind, Except.bind, h]⟩
  | reparentChildren n np =>
    simp only [Dom.contractOk, Bool.and_eq_true, Bool.not_eq_true'] at hc
    have hnp := lt_of_isContainer hc.1.2
    obtain ⟨d', h⟩ := reparentChildren_succeeds hw (lt_of_isContainer hc.1.1) hnp (ne_of_not_isAncOrSelf hnp hc.2)
    exact ⟨d', .unit, by simp [Dom.applyV, bind, Except.bind, h]⟩
  | maybeCloneAnOptionIntoSelectedcontent o => exact absurd rfl (hop o)

end H5V.Lemmas.Dom
