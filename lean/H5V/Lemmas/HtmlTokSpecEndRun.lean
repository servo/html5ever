import H5V.Lemmas.HtmlTokSpecStepDefs
/-!
# C01 simulation — two facts about the model used at the end of a run

* `step_atEof`: a step never touches `at_eof` (no invariant needed);
* `suspend_clean`: with `at_eof` set and no character reference in progress, a step that asks for more
  input leaves no character reference in progress and nothing stashed.
-/
namespace H5V.Lemmas.HtmlTokSpec
open H5V.Model.HtmlTok

/-! ## `at_eof` is never written by a step -/

theorem stepCharRef_atEof (o : Opts) (m : Mach) (inp : Str) (cr : CharRefSt)
    (m' : Mach) (h : (stepCharRef o m inp cr).mach? = some m') : m'.atEof = m.atEof := by
  unfold stepCharRef at h
  cases hc : crStep o m inp cr with
  | error x => rw [hc] at h; simp [R.mach?] at h
  | ok v =>
    obtain ⟨m1, i1, cr1, st⟩ := v
    have hw := crStep_weaker o m m1 inp i1 cr cr1 st hc
    rw [hc] at h
    cases st with
    | stuck =>
      simp only [R.mach?, Option.some.injEq] at h
      subst h
      simp [hw.2.2.2.2.1]
    | progress =>
      simp only [R.mach?, Option.some.injEq] at h
      subst h
      simp [hw.2.2.2.2.1]
    | done chars =>
      have := ofSig_mach _ _ _ h
      subst this
      have hp := processCharRef_fields m1 chars
      simp [hp.2.2.2.2, hw.2.2.2.2.1]

theorem getChar_atEof (o : Opts) (m : Mach) (inp : Str) (c : Option Char) (m1 : Mach) (i1 : Str)
    (h : getChar o m inp = (c, m1, i1)) : m1.atEof = m.atEof := by
  cases c with
  | none =>
    obtain ⟨_, _, g3⟩ := getChar_none o m m1 inp i1 h
    rcases g3 with ⟨_, g4⟩ | ⟨_, _, g4⟩ <;> subst g4 <;> simp
  | some c => exact (getChar_fields o m m1 inp i1 c h).2.2.2.2.1

theorem popExceptFrom_atEof (o : Opts) (S : List Char) (m : Mach) (inp : Str) (r : Option SetRes) (m1 : Mach)
    (i1 : Str) (h : popExceptFrom o S m inp = (r, m1, i1)) : m1.atEof = m.atEof := by
  cases r with
  | none =>
    obtain ⟨_, _, g3⟩ := popExceptFrom_none o S m m1 inp i1 h
    rcases g3 with ⟨_, g4⟩ | ⟨_, _, g4⟩ <;> subst g4 <;> simp
  | some r => exact (popExceptFrom_fields o S m m1 inp i1 r h).2.2.2.2.1

theorem readData_atEof (o : Opts) (m : Mach) (inp : Str) (r : Option SetRes) (m1 : Mach)
    (i1 : Str) (h : readData o m inp = (r, m1, i1)) : m1.atEof = m.atEof := by
  cases r with
  | none =>
    obtain ⟨_, _, g3⟩ := readData_none o m m1 inp i1 h
    rcases g3 with ⟨_, g4⟩ | ⟨_, _, g4⟩ <;> subst g4 <;> simp
  | some r => exact (readData_fields o m m1 inp i1 r h).2.2.2.2.1

theorem stepBav_atEof (o : Opts) (pol : Pol) (m : Mach) (inp : Str)
    (m' : Mach) (h : (stepBav o pol m inp).mach? = some m') : m'.atEof = m.atEof := by
  unfold stepBav at h
  cases hpk : peek m inp with
  | none =>
    simp only [hpk, R.mach?, Option.some.injEq] at h; subst h; rfl
  | some c =>
    simp only [hpk] at h
    have hm2 : (if m.ignoreLf = true then m.setIgnoreLf false else m).atEof = m.atEof := by
      split <;> simp
    generalize (if m.ignoreLf = true then m.setIgnoreLf false else m) = m2 at h hm2
    have hd := (discardChar_fields m2 inp).2.1
    repeat' split at h
    all_goals
      first
        | (simp only [R.mach?, Option.some.injEq] at h
           subst h
           first
             | (simp [hd, hm2]; done)
             | (rename_i hgc; rw [getChar_atEof o m2 inp _ _ _ hgc, hm2]))
        | (have := ofSig_mach _ _ _ h
           subst this
           simp [hd, hm2])

theorem stepMdo_atEof (o : Opts) (pol : Pol) (m : Mach) (inp : Str)
    (m' : Mach) (h : (stepMdo o pol m inp).mach? = some m') : m'.atEof = m.atEof := by
  unfold stepMdo at h
  cases h1 : eat m inp kwDashDash eqExact with
  | mk b1 r1 =>
    obtain ⟨m1, i1⟩ := r1
    have f1 := (eat_fields m m1 inp i1 _ _ b1 h1).2.2
    cases h2 : eat m1 i1 kwDoctype eqCi with
    | mk b2 r2 =>
      obtain ⟨m2, i2⟩ := r2
      have f2 := (eat_fields m1 m2 i1 i2 _ _ b2 h2).2.2
      cases h3 : eat m2 i2 kwCdata eqExact with
      | mk b3 r3 =>
        obtain ⟨m3, i3⟩ := r3
        have f3 := (eat_fields m2 m3 i2 i3 _ _ b3 h3).2.2
        repeat' split at h
        all_goals
          (simp only [R.mach?, Option.some.injEq] at h
           subst h
           simp_all)

theorem stepAdn_atEof (o : Opts) (pol : Pol) (m : Mach) (inp : Str)
    (m' : Mach) (h : (stepAdn o pol m inp).mach? = some m') : m'.atEof = m.atEof := by
  unfold stepAdn at h
  cases h1 : eat m inp kwPublic eqCi with
  | mk b1 r1 =>
    obtain ⟨m1, i1⟩ := r1
    have f1 := (eat_fields m m1 inp i1 _ _ b1 h1).2.2
    rw [h1] at h
    cases b1 with
    | none => simp only [R.mach?, Option.some.injEq] at h; rw [← h, f1]
    | some b1 =>
      cases b1 with
      | true => simp only [R.mach?, Option.some.injEq] at h; rw [← h]; simp [f1]
      | false =>
        dsimp only at h
        cases h2 : eat m1 i1 kwSystem eqCi with
        | mk b2 r2 =>
          obtain ⟨m2, i2⟩ := r2
          have f2 := (eat_fields m1 m2 i1 i2 _ _ b2 h2).2.2
          rw [h2] at h
          cases b2 with
          | none => simp only [R.mach?, Option.some.injEq] at h; rw [← h, f2, f1]
          | some b2 =>
            cases b2 with
            | true => simp only [R.mach?, Option.some.injEq] at h; rw [← h]; simp [f2, f1]
            | false =>
              dsimp only at h
              cases hgc : getChar o m2 i2 with
              | mk c3 r3 =>
                obtain ⟨m3, i3⟩ := r3
                have g := getChar_atEof o m2 i2 c3 m3 i3 hgc
                rw [hgc] at h
                cases c3 with
                | none =>
                  simp only [R.mach?, Option.some.injEq] at h
                  rw [← h, g, f2, f1]
                | some c3 =>
                  have := ofSig_mach _ _ _ h
                  subst this
                  rw [transChar_atEof, g, f2, f1]

theorem step_atEof_mach (o : Opts) (pol : Pol) (m : Mach) (inp : Str) (m' : Mach)
    (h : (step o pol m inp).mach? = some m') : m'.atEof = m.atEof := by
  cases hcr : m.charRef with
  | some cr =>
    rw [step_kind_charRef o pol m inp cr hcr] at h
    exact stepCharRef_atEof o m inp cr m' h
  | none =>
    cases hrk : readKind m.state with
    | getChar =>
      rw [step_getChar o pol m inp hcr hrk] at h
      cases hgc : getChar o m inp with
      | mk c r =>
        obtain ⟨m1, i1⟩ := r
        have g := getChar_atEof o m inp c m1 i1 hgc
        rw [hgc] at h
        cases c with
        | none =>
          simp only [contChar, R.mach?, Option.some.injEq] at h
          rw [← h, g]
        | some c =>
          have := ofSig_mach _ _ _ h
          subst this
          rw [transChar_atEof, g]
    | popExcept =>
      rw [step_popExcept o pol m inp hcr hrk] at h
      cases hgc : popExceptFrom o (setOf m.state) m inp with
      | mk c r =>
        obtain ⟨m1, i1⟩ := r
        have g := popExceptFrom_atEof o _ m inp c m1 i1 hgc
        rw [hgc] at h
        cases c with
        | none =>
          simp only [contSet, R.mach?, Option.some.injEq] at h
          rw [← h, g]
        | some c =>
          have := ofSig_mach _ _ _ h
          subst this
          rw [transSet_atEof, g]
    | dataSimd =>
      rw [step_dataSimd o pol m inp hcr hrk] at h
      cases hgc : readData o m inp with
      | mk c r =>
        obtain ⟨m1, i1⟩ := r
        have g := readData_atEof o m inp c m1 i1 hgc
        rw [hgc] at h
        cases c with
        | none =>
          simp only [contSet, R.mach?, Option.some.injEq] at h
          rw [← h, g]
        | some c =>
          have := ofSig_mach _ _ _ h
          subst this
          rw [transSet_atEof, g]
    | peekBav =>
      rw [step_kind_bav o pol m inp hcr hrk] at h
      exact stepBav_atEof o pol m inp m' h
    | eatMdo =>
      rw [step_kind_mdo o pol m inp hcr hrk] at h
      exact stepMdo_atEof o pol m inp m' h
    | eatAdn =>
      rw [step_kind_adn o pol m inp hcr hrk] at h
      exact stepAdn_atEof o pol m inp m' h

/-- a step never touches `at_eof` -/
theorem step_atEof (o : Opts) (pol : Pol) (m : Mach) (inp : Str) (m' : Mach) (i' : Str)
    (h : (step o pol m inp).pair? = some (m', i')) : m'.atEof = m.atEof :=
  step_atEof_mach o pol m inp m' (pair_mach _ _ _ h)

/-! ## a suspension at the end of the input leaves nothing behind -/

theorem eatSkipLf_atEof (m : Mach) (inp : Str) : (eatSkipLf m inp).1.atEof = m.atEof := by
  unfold eatSkipLf discardChar
  repeat' split
  all_goals simp

/-- with `at_eof` set `eat` always answers, and the answer leaves `temp_buf` empty -/
theorem eat_atEof_some (m m1 : Mach) (inp i1 pat : Str) (eq : Char → Char → Bool) (b : Option Bool)
    (hat : m.atEof = true) (h : eat m inp pat eq = (b, m1, i1)) :
    (∃ b', b = some b') ∧ m1.tempBuf = [] := by
  rw [eat_eq_core] at h
  unfold eatCore at h
  have hsk := eatSkipLf_atEof m inp
  rw [hat] at hsk
  repeat' split at h
  all_goals
    (simp only [Prod.mk.injEq] at h
     obtain ⟨h1, h2, _⟩ := h
     subst h1 h2
     first
       | exact ⟨⟨_, rfl⟩, by simp⟩
       | (exfalso; simp_all))

theorem stepMdo_not_suspend (o : Opts) (pol : Pol) (m : Mach) (inp : Str) (hat : m.atEof = true)
    (m' : Mach) (i' : Str) : stepMdo o pol m inp ≠ .suspend m' i' := by
  intro h
  unfold stepMdo at h
  cases h1 : eat m inp kwDashDash eqExact with
  | mk b1 r1 =>
    obtain ⟨m1, i1⟩ := r1
    have f1 := (eat_fields m m1 inp i1 _ _ b1 h1).2.2
    obtain ⟨⟨b1', e1⟩, _⟩ := eat_atEof_some m m1 inp i1 _ _ b1 hat h1
    subst e1
    rw [h1] at h
    cases b1' with
    | true => simp at h
    | false =>
      dsimp only at h
      have hat1 : m1.atEof = true := by rw [f1, hat]
      cases h2 : eat m1 i1 kwDoctype eqCi with
      | mk b2 r2 =>
        obtain ⟨m2, i2⟩ := r2
        have f2 := (eat_fields m1 m2 i1 i2 _ _ b2 h2).2.2
        obtain ⟨⟨b2', e2⟩, _⟩ := eat_atEof_some m1 m2 i1 i2 _ _ b2 hat1 h2
        subst e2
        rw [h2] at h
        cases b2' with
        | true => simp at h
        | false =>
          dsimp only at h
          have hat2 : m2.atEof = true := by rw [f2, hat1]
          split at h
          · cases h3 : eat m2 i2 kwCdata eqExact with
            | mk b3 r3 =>
              obtain ⟨m3, i3⟩ := r3
              obtain ⟨⟨b3', e3⟩, _⟩ := eat_atEof_some m2 m3 i2 i3 _ _ b3 hat2 h3
              subst e3
              rw [h3] at h
              cases b3' <;> simp at h
          · simp at h

theorem stepAdn_suspend_clean (o : Opts) (pol : Pol) (m : Mach) (inp : Str) (hat : m.atEof = true)
    (m' : Mach) (i' : Str) (h : stepAdn o pol m inp = .suspend m' i') :
    m'.tempBuf = [] ∧ m'.charRef = m.charRef := by
  unfold stepAdn at h
  cases h1 : eat m inp kwPublic eqCi with
  | mk b1 r1 =>
    obtain ⟨m1, i1⟩ := r1
    have f1 := eat_fields m m1 inp i1 _ _ b1 h1
    obtain ⟨⟨b1', e1⟩, _⟩ := eat_atEof_some m m1 inp i1 _ _ b1 hat h1
    subst e1
    rw [h1] at h
    cases b1' with
    | true => simp at h
    | false =>
      dsimp only at h
      have hat1 : m1.atEof = true := by rw [f1.2.2, hat]
      cases h2 : eat m1 i1 kwSystem eqCi with
      | mk b2 r2 =>
        obtain ⟨m2, i2⟩ := r2
        have f2 := eat_fields m1 m2 i1 i2 _ _ b2 h2
        obtain ⟨⟨b2', e2⟩, htb⟩ := eat_atEof_some m1 m2 i1 i2 _ _ b2 hat1 h2
        subst e2
        rw [h2] at h
        cases b2' with
        | true => simp at h
        | false =>
          dsimp only at h
          cases hgc : getChar o m2 i2 with
          | mk c3 r3 =>
            obtain ⟨m3, i3⟩ := r3
            rw [hgc] at h
            cases c3 with
            | some c3 =>
              simp only [ofSig] at h
              split at h <;> simp at h
            | none =>
              simp only [R.suspend.injEq] at h
              obtain ⟨e1, _⟩ := h
              subst e1
              obtain ⟨_, _, g3⟩ := getChar_none o m2 m3 i2 i3 hgc
              rcases g3 with ⟨_, g4⟩ | ⟨_, _, g4⟩ <;> subst g4
              · exact ⟨htb, by rw [f2.2.1, f1.2.1]⟩
              · exact ⟨by simpa using htb, by simp [f2.2.1, f1.2.1]⟩

/-- with `at_eof` set and no character reference in progress, a step that asks for more input leaves
no character reference in progress and nothing stashed -/
theorem suspend_clean (o : Opts) (pol : Pol) (m : Mach) (inp : Str) (hi : TInv m) (hcr : m.charRef = none)
    (hat : m.atEof = true) (m' : Mach) (i' : Str) (h : step o pol m inp = .suspend m' i') :
    m'.charRef = none ∧ stash m' = [] := by
  -- a read that finds nothing changes `ignore_lf` only
  have key : ∀ m1 : Mach, (m1 = m ∨ m1 = m.setIgnoreLf false) → m.state ≠ .markupDeclarationOpen →
      m.state ≠ .afterDoctypeName → m1.charRef = none ∧ stash m1 = [] := by
    intro m1 hm1 n1 n2
    rcases hm1 with e | e <;> subst e
    · exact ⟨hcr, stash_plain hcr n1 n2⟩
    · exact ⟨by simpa using hcr, stash_plain (by simpa using hcr) (by simpa using n1) (by simpa using n2)⟩
  cases hrk : readKind m.state with
  | getChar =>
    have hf := readKind_getChar_facts hrk
    rw [step_getChar o pol m inp hcr hrk] at h
    cases hgc : getChar o m inp with
    | mk c r =>
      obtain ⟨m1, i1⟩ := r
      rw [hgc] at h
      cases c with
      | some c => simp only [contChar, ofSig] at h; split at h <;> simp at h
      | none =>
        simp only [contChar, R.suspend.injEq] at h
        obtain ⟨e1, _⟩ := h
        subst e1
        obtain ⟨_, _, g3⟩ := getChar_none o m m1 inp i1 hgc
        exact key m1 (by rcases g3 with ⟨_, g4⟩ | ⟨_, _, g4⟩ <;> simp [g4]) hf.1 hf.2.2
  | popExcept =>
    have hf := readKind_state_facts (Or.inl hrk)
    rw [step_popExcept o pol m inp hcr hrk] at h
    cases hgc : popExceptFrom o (setOf m.state) m inp with
    | mk c r =>
      obtain ⟨m1, i1⟩ := r
      rw [hgc] at h
      cases c with
      | some c => simp only [contSet, ofSig] at h; split at h <;> simp at h
      | none =>
        simp only [contSet, R.suspend.injEq] at h
        obtain ⟨e1, _⟩ := h
        subst e1
        obtain ⟨_, _, g3⟩ := popExceptFrom_none o _ m m1 inp i1 hgc
        exact key m1 (by rcases g3 with ⟨_, g4⟩ | ⟨_, _, g4⟩ <;> simp [g4]) hf.1 hf.2.1
  | dataSimd =>
    have hf := readKind_state_facts (Or.inr hrk)
    rw [step_dataSimd o pol m inp hcr hrk] at h
    cases hgc : readData o m inp with
    | mk c r =>
      obtain ⟨m1, i1⟩ := r
      rw [hgc] at h
      cases c with
      | some c => simp only [contSet, ofSig] at h; split at h <;> simp at h
      | none =>
        simp only [contSet, R.suspend.injEq] at h
        obtain ⟨e1, _⟩ := h
        subst e1
        obtain ⟨_, _, g3⟩ := readData_none o m m1 inp i1 hgc
        exact key m1 (by rcases g3 with ⟨_, g4⟩ | ⟨_, _, g4⟩ <;> simp [g4]) hf.1 hf.2.1
  | peekBav =>
    rw [step_kind_bav o pol m inp hcr hrk] at h
    have hs := readKind_bav hrk
    obtain ⟨e1, _, _⟩ := stepBav_suspend o pol m m' inp i' h
    exact key m' (Or.inl e1) (by rw [hs]; simp) (by rw [hs]; simp)
  | eatMdo =>
    rw [step_kind_mdo o pol m inp hcr hrk] at h
    exact absurd h (stepMdo_not_suspend o pol m inp hat m' i')
  | eatAdn =>
    rw [step_kind_adn o pol m inp hcr hrk] at h
    obtain ⟨h1, h2⟩ := stepAdn_suspend_clean o pol m inp hat m' i' h
    have hc' : m'.charRef = none := by rw [h2, hcr]
    exact ⟨hc', stash_nil_of hc' (fun _ => h1)⟩

end H5V.Lemmas.HtmlTokSpec
