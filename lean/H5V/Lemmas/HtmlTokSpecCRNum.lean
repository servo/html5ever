import H5V.Lemmas.HtmlTokSpecStepDefs
set_option linter.unusedSimpArgs false
set_option linter.unusedVariables false
/-!
# C01 simulation — layer L3a, character references (start and numeric)

* the reader under `InpRel` while a reference is in progress (`peek`, `discard_char`, newline normalisation);
* `crTok`: the registers of the specification that a character reference touches (state, temporary
  buffer, character reference code) in normal form; one lemma per specification step;
* delivering the result: `process_char_ref` (`delivM`) against "flush code points consumed as a
  character reference" (`crnum_flush_eq`), the relation afterwards (`crnum_deliver`, with lag);
* `toDigit` against ASCII (hex) digit; the u32 accumulator with overflow latch against the unbounded
  character reference code; no digit at all: `#`/`#x` are un-consumed (lag);
* `stepCharRef_sim_num`: one `Tokenizer::step` inside a character reference whose sub-state is `Begin`,
  `Octothorpe`, `Numeric(base)` or `NumericSemicolon` is simulated by `k ≥ 0` steps of the
  specification (states 13.2.5.72, 13.2.5.75–80);
* `crEof_sim_num`: the same for `end_of_file` of the character-reference tokenizer followed by
  `process_char_ref` (what `Tokenizer::end` does first when a reference is pending).
-/
namespace H5V.Lemmas.HtmlTokSpec
open H5V.Model.HtmlTok
open H5V.Spec.HtmlTokenizer (St Tok Emit Tree Switch Ctl ReturnSt normalizeNewlinesFrom)

/-! ## reader -/

theorem crnum_peek {m : Mach} (inp : Str) (hr : m.reconsume = false) : peek m inp = inp.head? := by
  unfold peek; simp [hr]

theorem crnum_discard {m : Mach} (inp : Str) (hr : m.reconsume = false) : discardChar m inp = (m, inp.tail) := by
  unfold discardChar; simp [hr]

@[simp] theorem crnum_norm_nil (b : Bool) : normalizeNewlinesFrom b [] = [] := by
  simp [normalizeNewlinesFrom]

/-- the first character the specification sees -/
theorem crnum_norm_head (c : Char) (s : Str) :
    ∃ r, normalizeNewlinesFrom false (c :: s) = foldCh c :: r :=
  ⟨_, norm_fold false c s (by simp)⟩

theorem crnum_foldCh_plain {c : Char} (h1 : c ≠ '\r') : foldCh c = c := by
  unfold foldCh; simp [h1]

theorem crnum_norm_eq_nil {s : Str} (h : normalizeNewlinesFrom false s = []) : s = [] := by
  cases s with
  | nil => rfl
  | cons c s => obtain ⟨r, hr⟩ := crnum_norm_head c s; rw [hr] at h; simp at h

/-! ## the registers of the specification in normal form -/

/-- the registers a character reference touches -/
def crTok (t : Tok) (s : St) (b : Str) (n : Nat) : Tok :=
  { t with state := s, temporaryBuffer := b, characterReferenceCode := n }

theorem crTok_self (t : Tok) : crTok t t.state t.temporaryBuffer t.characterReferenceCode = t := rfl

@[simp] theorem crTok_crTok (t : Tok) (s s' : St) (b b' : Str) (n n' : Nat) :
    crTok (crTok t s b n) s' b' n' = crTok t s' b' n' := rfl
@[simp] theorem crTok_state (t : Tok) (s : St) (b : Str) (n : Nat) : (crTok t s b n).state = s := rfl
@[simp] theorem crTok_buf (t : Tok) (s : St) (b : Str) (n : Nat) : (crTok t s b n).temporaryBuffer = b := rfl
@[simp] theorem crTok_code (t : Tok) (s : St) (b : Str) (n : Nat) : (crTok t s b n).characterReferenceCode = n := rfl
@[simp] theorem crTok_returnState (t : Tok) (s : St) (b : Str) (n : Nat) :
    (crTok t s b n).returnState = t.returnState := rfl
@[simp] theorem crTok_attrs (t : Tok) (s : St) (b : Str) (n : Nat) : (crTok t s b n).attrs = t.attrs := rfl
@[simp] theorem crTok_out (t : Tok) (s : St) (b : Str) (n : Nat) : (crTok t s b n).out = t.out := rfl

theorem crnum_regRel_crTok {m : Mach} {t : Tok} (h : RegRel m t) (hu : usesTemp m.state = false)
    (s : St) (b : Str) (n : Nat) : RegRel m (crTok t s b n) := by
  unfold RegRel at h ⊢
  simp only [hu, Bool.false_eq_true, false_imp_iff, and_false, true_and] at h ⊢
  exact h

theorem crnum_outRel_crTok {m : Mach} {t : Tok} (h : OutRel m t) (s : St) (b : Str) (n : Nat) :
    OutRel m (crTok t s b n) := h

theorem crnum_usesTemp_ret {s : State} (h : isRet s = true) : usesTemp s = false := by
  cases s <;> simp_all [isRet, usesTemp]
  all_goals (rename_i k; cases k <;> simp_all [isRet, usesTemp])

/-! ## the context of a step inside a character reference -/

/-- what the relation gives while a character reference is in progress (without the sub-state) -/
structure CRCtx (m : Mach) (t : Tok) (cr : CharRefSt) : Prop where
  hcr : m.charRef = some cr
  std : Std m.state
  ret : isRet m.state = true
  rs : t.returnState.toSt = stOf m.state
  ia : cr.inAttr = isAttrValueState m.state
  reg : RegRel m t
  out : OutRel m t
  il : m.ignoreLf = false
  rcn : m.reconsume = false
  lines : CRLines cr
  tinv : TInv m

theorem crnum_ctx {m : Mach} {inp : Str} {t : Tok} {rest : Str} (h : RelCore m inp t rest) {cr : CharRefSt}
    (hcr : m.charRef = some cr) : CRCtx m t cr ∧ CRStD cr t rest cr.state ∧
      rest = normalizeNewlinesFrom false (cr.nameBuf.getD [] ++ inp) := by
  obtain ⟨c1, c2, c3, c4⟩ := h.crRel hcr
  obtain ⟨l1, l2, l3⟩ := h.tinv.linv.cr cr hcr
  refine ⟨⟨hcr, h.std, c1, c2, c3, h.reg, h.out, l1, l2, l3, h.tinv⟩, c4, ?_⟩
  have := h.inp
  unfold InpRel at this
  rw [rc_false l2, l1] at this
  simpa [stash, hcr] using this

theorem CRCtx.stash_none {m : Mach} {t : Tok} {cr : CharRefSt} (c : CRCtx m t cr) (m' : Mach)
    (h1 : m'.state = m.state) (h2 : m'.charRef = none) : stash m' = [] := by
  unfold stash
  rw [h2, h1]
  have := c.ret
  cases hs : m.state <;> simp_all [isRet]

/-- the input relation for a machine without a reference in progress in the same (return) state -/
theorem CRCtx.inpRel_none {m : Mach} {t : Tok} {cr : CharRefSt} (c : CRCtx m t cr) (m' : Mach) (inp : Str)
    (h1 : m'.state = m.state) (h2 : m'.charRef = none) (h3 : m'.reconsume = false) (h4 : m'.ignoreLf = false) :
    InpRel m' inp (normalizeNewlinesFrom false inp) := by
  unfold InpRel
  rw [rc_false h3, h4, c.stash_none m' h1 h2]
  rfl

/-- the input relation for a machine with a reference in progress -/
theorem crnum_inpRel_some (m' : Mach) (cr' : CharRefSt) (inp : Str)
    (h2 : m'.charRef = some cr') (h3 : m'.reconsume = false) (h4 : m'.ignoreLf = false) :
    InpRel m' inp (normalizeNewlinesFrom false (cr'.nameBuf.getD [] ++ inp)) := by
  unfold InpRel
  rw [rc_false h3, h4]
  simp [stash, h2]

/-- `Progress`: the new configuration, still inside the reference -/
theorem CRCtx.progress {m : Mach} {t : Tok} {cr : CharRefSt} (c : CRCtx m t cr) (cr' : CharRefSt) (inp' : Str)
    (s : St) (b : Str) (n : Nat) (rest' : Str)
    (hia : cr'.inAttr = cr.inAttr)
    (hst : CRStD cr' (crTok t s b n) rest' cr'.state) (hg : CRStG cr' cr'.state)
    (hi : rest' = normalizeNewlinesFrom false (cr'.nameBuf.getD [] ++ inp'))
    (ht : TInv (m.setCharRef (some cr'))) :
    Rel (m.setCharRef (some cr')) inp' (crTok t s b n) rest' := by
  apply RelCore.toRel
  refine RelCore.ofCR (cr := cr') (by simp) (by simpa using c.std) ?_ hg ?_ ?_ ?_ ht
  · refine ⟨by simpa using c.ret, by simpa using c.rs, by rw [hia]; simpa using c.ia, hst⟩
  · have := crnum_regRel_crTok c.reg (crnum_usesTemp_ret c.ret) s b n
    simpa [RegRel, AttrRel, Mach.setCharRef] using this
  · exact c.out
  · rw [hi]
    exact crnum_inpRel_some _ cr' inp' (by simp) (by simpa using c.rcn) (by simpa using c.il)

/-- the invariant after a step inside a character reference -/
theorem crnum_step_tinv (o : Opts) (pol : Pol) {m : Mach} (inp : Str) {cr : CharRefSt} (ht : TInv m)
    (hcr : m.charRef = some cr) (m' : Mach) (i' : Str)
    (h : (stepCharRef o m inp cr).pair? = some (m', i')) : TInv m' :=
  step_tinv o pol m inp ht m' i' (by rw [step_kind_charRef o pol m inp cr hcr]; exact h)

/-! ## delivering the result -/

/-- the model after `process_char_ref` delivered `cs` (not empty, no U+0000) -/
def delivM (m : Mach) (cs : Str) : Mach :=
  if isAttrValueState m.state then { m with attrValue := m.attrValue ++ cs }
  else { m with out := (cs.map fun c => (Token.chars [c], m.line)).reverse ++ m.out }

theorem crnum_foldl_emitChar (cs : Str) (m : Mach) (h : ∀ c ∈ cs, c ≠ '\x00') :
    cs.foldl emitChar m = { m with out := (cs.map fun c => (Token.chars [c], m.line)).reverse ++ m.out } := by
  induction cs generalizing m with
  | nil => rfl
  | cons c cs ih =>
    have hc : c ≠ '\x00' := h c (by simp)
    rw [List.foldl_cons, ih _ (fun x hx => h x (by simp [hx]))]
    simp [emitChar, hc, emit]

theorem crnum_foldl_pushValue (cs : Str) (m : Mach) :
    cs.foldl (fun m c => pushValue c m) m = { m with attrValue := m.attrValue ++ cs } := by
  induction cs generalizing m with
  | nil => simp
  | cons c cs ih =>
    rw [List.foldl_cons, ih]
    simp [pushValue]

theorem crnum_processCharRef {m : Mach} (hret : isRet m.state = true) (cs : Str) (hne : cs ≠ [])
    (h : ∀ c ∈ cs, c ≠ '\x00') : processCharRef m cs = (delivM m cs, .cont) := by
  have he : cs.isEmpty = false := by cases cs <;> simp_all
  unfold processCharRef delivM
  simp only [he, Bool.false_eq_true, if_false]
  cases hs : m.state <;> simp_all [isRet, isAttrValueState, crnum_foldl_emitChar, crnum_foldl_pushValue]
  rename_i k
  cases k <;> simp_all [isRet, isAttrValueState, crnum_foldl_emitChar, crnum_foldl_pushValue]

theorem crnum_processCharRef_nil {m : Mach} (hret : isRet m.state = true) :
    processCharRef m [] = (delivM m ['&'], .cont) := by
  have : processCharRef m [] = processCharRef m ['&'] := by
    unfold processCharRef; simp
  rw [this]
  exact crnum_processCharRef hret ['&'] (by simp) (by simp)

theorem crnum_flat_map (cs : Str) (l : Nat) (out : Out) :
    flat ((cs.map fun c => (Token.chars [c], l)).reverse ++ out) = (cs.map Emit.char).reverse ++ flat out := by
  induction cs generalizing out with
  | nil => simp
  | cons c cs ih =>
    simp only [List.map_cons, List.reverse_cons, List.append_assoc, List.singleton_append]
    rw [ih]
    simp

/-- appending characters to the current attribute's value, on the attribute list -/
def appL (cs : Str) (A : List Attr) : List Attr :=
  cs.foldl (fun A c => modLast (fun a => { a with value := a.value ++ [c] }) A) A

@[simp] theorem appL_nil (A : List Attr) : appL [] A = A := rfl
@[simp] theorem appL_cons (c : Char) (cs : Str) (A : List Attr) :
    appL (c :: cs) A = appL cs (modLast (fun a => { a with value := a.value ++ [c] }) A) := rfl

theorem crnum_foldl_appendValue (cs : Str) (t : Tok) :
    cs.foldl Tok.appendAttributeValue t = { t with attrs := appL cs t.attrs } := by
  induction cs generalizing t with
  | nil => rfl
  | cons c cs ih =>
    rw [List.foldl_cons, ih, appendAttributeValue_eq]
    rfl

/-- "flush code points consumed as a character reference" in closed form -/
theorem crnum_flush_eq (t : Tok) :
    t.flushCodePoints =
      if t.returnState.inAttribute then { t with attrs := appL t.temporaryBuffer t.attrs }
      else { t with out := (t.temporaryBuffer.map Emit.char).reverse ++ t.out } := by
  unfold Tok.flushCodePoints
  split
  · exact crnum_foldl_appendValue _ _
  · exact emitChars_eq t t.temporaryBuffer

theorem crnum_appL_ne_nil (cs : Str) (A : List Attr) (h : A ≠ []) : appL cs A ≠ [] := by
  induction cs generalizing A with
  | nil => exact h
  | cons c cs ih => exact ih _ (modLast_ne_nil _ _)

theorem crnum_attrR_appL {ta : List Attr} {hd : Bool} {an av : Str} {L : List Attr} (cs : Str)
    (h : AttrR ta hd an av L) (hne : L ≠ []) : AttrR ta hd an (av ++ cs) (appL cs L) := by
  induction cs generalizing av L with
  | nil => simpa using h
  | cons c cs ih =>
    have := ih (attrR_appendValue c h hne) (modLast_ne_nil _ _)
    simpa using this

theorem crnum_inAttr {m : Mach} {t : Tok} (hret : isRet m.state = true) (hrs : t.returnState.toSt = stOf m.state) :
    t.returnState.inAttribute = isAttrValueState m.state := by
  cases hs : m.state <;> simp_all [isRet]
  · cases hr : t.returnState <;> simp_all [ReturnSt.toSt, stOf, ReturnSt.inAttribute, isAttrValueState]
  · rename_i k
    cases k <;> simp_all [isRet]
    cases hr : t.returnState <;> simp_all [ReturnSt.toSt, stOf, ReturnSt.inAttribute, isAttrValueState]
  · rename_i k
    cases k <;> cases hr : t.returnState <;> simp_all [ReturnSt.toSt, stOf, ReturnSt.inAttribute, isAttrValueState]

/-- the specification's configuration after the flush: back in the return state -/
def finT (t : Tok) (b : Str) (n : Nat) : Tok :=
  (crTok t t.state b n).flushCodePoints.setState t.returnState.toSt

/-- **delivery**: the model hands `cs` to `process_char_ref` and will read `lag` again as plain text;
the specification flushes `cs ++ lag` -/
theorem crnum_deliver_regCore {m : Mach} {t : Tok} (hstd : Std m.state) (hret : isRet m.state = true)
    (hrs : t.returnState.toSt = stOf m.state) (hreg : RegRel m t) (hout : OutRel m t)
    (cs lag : Str) (n : Nat) :
    RegCore (absorb ((delivM m cs).setCharRef none) lag) (finT t (cs ++ lag) n) := by
  have hia := crnum_inAttr hret hrs
  have hut := crnum_usesTemp_ret hret
  unfold finT
  rw [crnum_flush_eq]
  simp only [crTok_returnState, crTok_buf, crTok_attrs, crTok_out, hia]
  unfold absorb delivM
  by_cases ha : isAttrValueState m.state = true
  · -- attribute value
    obtain ⟨k, hk⟩ : ∃ k, m.state = .attributeValue k := by
      cases hs : m.state <;> simp_all [isAttrValueState]
    have hreg' := hreg
    simp only [RegRel, AttrRel, hk, isTagSt, needsCur, usesTemp, usesComment, usesDoctype, Bool.false_eq_true,
      false_imp_iff, true_imp_iff, and_true, true_and, and_false, Bool.true_eq_false] at hreg'
    obtain ⟨r1, ⟨r2, r3, r4, r5⟩, r6, r7⟩ := hreg'
    have hA := crnum_attrR_appL (cs ++ lag) r5 r6
    have hne := crnum_appL_ne_nil (cs ++ lag) _ r6
    have ho : t.out = flat m.out := by simpa [OutRel, cdataBuf, isCdata, hk] using hout
    simp only [ha, if_true, Mach.setCharRef, Tok.setState, crTok]
    by_cases hl : lag = []
    · subst hl
      simp only [if_true, List.append_nil] at hA hne ⊢
      refine ⟨by simpa [hk] using hstd, Or.inl (by simpa [hk] using hrs), rfl, ?_, ?_⟩
      · simp only [RegRel, AttrRel, hk, isTagSt, needsCur, usesTemp, usesComment, usesDoctype, Bool.false_eq_true,
          false_imp_iff, true_imp_iff, and_true, true_and, and_false, Bool.true_eq_false]
        exact ⟨r1, ⟨r2, r3, r4, hA⟩, hne, r7⟩
      · simpa [OutRel, cdataBuf, isCdata, hk] using ho
    · simp only [hl, if_false, hk, isAttrValueState, if_true, appendValue]
      refine ⟨by simp [Std], Or.inl (by simpa [hk] using hrs), rfl, ?_, ?_⟩
      · simp only [RegRel, AttrRel, isTagSt, needsCur, usesTemp, usesComment, usesDoctype, Bool.false_eq_true,
          false_imp_iff, true_imp_iff, and_true, true_and, and_false, Bool.true_eq_false]
        refine ⟨r1, ⟨r2, r3, r4, ?_⟩, hne, r7⟩
        simpa [List.append_assoc] using hA
      · simpa [OutRel, cdataBuf, isCdata] using ho
  · -- data / RCDATA
    have ha' : isAttrValueState m.state = false := by simpa using ha
    have hcd : isCdata m.state = false := by cases hs : m.state <;> simp_all [isRet, isCdata]
    have htag : isTagSt m.state = false := by
      cases hs : m.state <;> simp_all [isRet, isTagSt, isAttrValueState]
    have hnc : needsCur m.state = false := by
      cases hs : m.state <;> simp_all [isRet, needsCur, isAttrValueState]
    have hbc : m.state ≠ .bogusComment := by
      intro hs; rw [hs] at hret; simp [isRet] at hret
    have ho : t.out = flat m.out := by simpa [OutRel, cdataBuf, hcd] using hout
    simp only [ha', Bool.false_eq_true, if_false, Mach.setCharRef, Tok.setState, crTok]
    by_cases hl : lag = []
    · subst hl
      simp only [if_true, List.append_nil]
      refine ⟨hstd, Or.inl hrs, rfl, ?_, ?_⟩
      · simpa [RegRel, AttrRel, htag, hnc, hut] using hreg
      · simp only [OutRel, cdataBuf, hcd, Bool.false_eq_true, if_false, List.reverse_nil, List.map_nil,
          List.nil_append, crnum_flat_map, ho]
    · simp only [hl, if_false, ha', Bool.false_eq_true, hbc, emitChars, emit]
      refine ⟨hstd, Or.inl hrs, rfl, ?_, ?_⟩
      · simpa [RegRel, AttrRel, htag, hnc, hut] using hreg
      · simp only [OutRel, cdataBuf, hcd, Bool.false_eq_true, if_false, List.reverse_nil, List.map_nil,
          List.nil_append, flat_cons, flatTok_chars, crnum_flat_map, ho, List.map_append, List.reverse_append,
          List.append_assoc]

/-! ### fields of `delivM` and `absorb` -/

@[simp] theorem delivM_state (m : Mach) (cs : Str) : (delivM m cs).state = m.state := by
  unfold delivM; split <;> rfl
@[simp] theorem delivM_charRef (m : Mach) (cs : Str) : (delivM m cs).charRef = m.charRef := by
  unfold delivM; split <;> rfl
@[simp] theorem delivM_reconsume (m : Mach) (cs : Str) : (delivM m cs).reconsume = m.reconsume := by
  unfold delivM; split <;> rfl
@[simp] theorem delivM_ignoreLf (m : Mach) (cs : Str) : (delivM m cs).ignoreLf = m.ignoreLf := by
  unfold delivM; split <;> rfl

theorem delivM_setCharRef (m : Mach) (cs : Str) (x : Option CharRefSt) :
    delivM (m.setCharRef x) cs = (delivM m cs).setCharRef x := by
  unfold delivM
  simp only [setCharRef_state]
  split <;> rfl

@[simp] theorem crnum_absorb_state (m : Mach) (lag : Str) : (absorb m lag).state = m.state := by
  unfold absorb; split; rfl; split; rfl; split <;> rfl
@[simp] theorem crnum_absorb_charRef (m : Mach) (lag : Str) : (absorb m lag).charRef = m.charRef := by
  unfold absorb; split; rfl; split; rfl; split <;> rfl
@[simp] theorem crnum_absorb_reconsume (m : Mach) (lag : Str) : (absorb m lag).reconsume = m.reconsume := by
  unfold absorb; split; rfl; split; rfl; split <;> rfl
@[simp] theorem crnum_absorb_ignoreLf (m : Mach) (lag : Str) : (absorb m lag).ignoreLf = m.ignoreLf := by
  unfold absorb; split; rfl; split; rfl; split <;> rfl

theorem crnum_isLagSt_ret {s : State} (h : isRet s = true) : isLagSt s = true := by
  cases s <;> simp_all [isRet, isLagSt]
  all_goals (rename_i k; cases k <;> simp_all [isRet, isLagSt])

/-- `Done`: the new configuration, outside the reference, possibly with a lag -/
theorem CRCtx.done {m : Mach} {t : Tok} {cr : CharRefSt} (c : CRCtx m t cr) (cs lag inp : Str) (n : Nat)
    (hlag : ∀ x ∈ lag, lagCh x = true) (ht : TInv ((delivM m cs).setCharRef none)) :
    Rel ((delivM m cs).setCharRef none) (lag ++ inp) (finT t (cs ++ lag) n) (normalizeNewlinesFrom false inp) := by
  refine ⟨lag, inp, rfl, Or.inr ⟨?_, by simp, by simpa using c.rcn, by simpa using c.il, hlag⟩, ?_⟩
  · simpa using crnum_isLagSt_ret c.ret
  · refine RelCore.ofRegCore (crnum_deliver_regCore c.std c.ret c.rs c.reg c.out cs lag n) ?_ (tinv_absorb ht lag)
    exact c.inpRel_none _ inp (by simp) (by simp) (by simpa using c.rcn) (by simpa using c.il)

/-! ### parse errors change nothing -/

/-- `m1` is `m` with parse errors emitted -/
def ErrOnly (m1 m : Mach) : Prop := ∃ out1, m1 = { m with out := out1 } ∧ flat out1 = flat m.out

theorem ErrOnly.refl (m : Mach) : ErrOnly m m := ⟨m.out, rfl, rfl⟩

theorem ErrOnly.emitErr (m : Mach) (s : String) : ErrOnly (emitErr m s) m :=
  ⟨_, rfl, by simp⟩

theorem ErrOnly.trans {m2 m1 m : Mach} (h2 : ErrOnly m2 m1) (h1 : ErrOnly m1 m) : ErrOnly m2 m := by
  obtain ⟨o2, e2, f2⟩ := h2
  obtain ⟨o1, e1, f1⟩ := h1
  subst e1
  exact ⟨o2, e2, by rw [f2]; exact f1⟩

theorem CRCtx.errOnly {m m1 : Mach} {t : Tok} {cr : CharRefSt} (c : CRCtx m t cr) (h : ErrOnly m1 m) :
    CRCtx m1 t cr := by
  obtain ⟨o1, e1, f1⟩ := h
  subst e1
  refine ⟨c.hcr, c.std, c.ret, c.rs, c.ia, ?_, ?_, c.il, c.rcn, c.lines, tinv_congr c.tinv rfl rfl rfl rfl rfl rfl⟩
  · simpa [RegRel, AttrRel] using c.reg
  · have := c.out
    simp only [OutRel, cdataBuf] at this ⊢
    rw [f1]; exact this

theorem crnum_finishNumeric_errOnly (o : Opts) (ho : o.exactErrors = false) (m : Mach) (cr : CharRefSt) :
    ErrOnly (finishNumeric o m cr).1 m := by
  unfold finishNumeric numericErr
  simp only [ho, Bool.false_eq_true, if_false]
  split
  · exact ErrOnly.emitErr m _
  · exact ErrOnly.refl m

/-! ## the character classes of the two sides and the arms of the specification's states 13.2.5.72, 75–80 -/

theorem crnum_sstep_begin (tree : Tree) (t : Tok) (rest : Str) (hs : t.state = .characterReference) :
    sstep tree t rest = H5V.Spec.HtmlTokenizer.characterReferenceState t rest.head? := by
  simp only [sstep, H5V.Spec.HtmlTokenizer.step, hs]

theorem crnum_begin_hash (t : Tok) :
    H5V.Spec.HtmlTokenizer.characterReferenceState t (some '#') =
      (crTok t .numericCharacterReference ['&', '#'] t.characterReferenceCode, .advance 1) := rfl

theorem crnum_toDigit16_some {c : Char} {d : Nat} (h : toDigit c 16 = some d) :
    (H5V.Spec.HtmlTokenizer.isAsciiDigit c = true ∧ d = c.toNat - 0x30) ∨
    (H5V.Spec.HtmlTokenizer.isAsciiDigit c = false ∧ H5V.Spec.HtmlTokenizer.isAsciiUpperHexDigit c = true ∧
      d = c.toNat - 0x37) ∨
    (H5V.Spec.HtmlTokenizer.isAsciiDigit c = false ∧ H5V.Spec.HtmlTokenizer.isAsciiUpperHexDigit c = false ∧
      H5V.Spec.HtmlTokenizer.isAsciiLowerHexDigit c = true ∧ d = c.toNat - 0x57) := by
  unfold toDigit at h
  simp only [char_le_iff, Char.reduceToNat] at h
  simp only [H5V.Spec.HtmlTokenizer.isAsciiDigit, H5V.Spec.HtmlTokenizer.isAsciiUpperHexDigit,
    H5V.Spec.HtmlTokenizer.isAsciiLowerHexDigit, char_le_iff, Char.reduceToNat, Bool.and_eq_true, decide_eq_true_eq,
    Bool.and_eq_false_iff, decide_eq_false_iff_not]
  by_cases h1 : 48 ≤ c.toNat ∧ c.toNat ≤ 57
  · simp [h1] at h; omega
  · by_cases h2 : 97 ≤ c.toNat ∧ c.toNat ≤ 122
    · simp [h1, h2] at h; omega
    · by_cases h3 : 65 ≤ c.toNat ∧ c.toNat ≤ 90
      · simp [h1, h2, h3] at h; omega
      · simp [h1, h2, h3] at h

theorem crnum_toDigit16_none {c : Char} (h : toDigit c 16 = none) :
    H5V.Spec.HtmlTokenizer.isAsciiHexDigit c = false := by
  unfold toDigit at h
  simp only [char_le_iff, Char.reduceToNat] at h
  simp only [H5V.Spec.HtmlTokenizer.isAsciiHexDigit, H5V.Spec.HtmlTokenizer.isAsciiDigit,
    H5V.Spec.HtmlTokenizer.isAsciiUpperHexDigit,
    H5V.Spec.HtmlTokenizer.isAsciiLowerHexDigit, char_le_iff, Char.reduceToNat, Bool.and_eq_true, decide_eq_true_eq,
    Bool.and_eq_false_iff, decide_eq_false_iff_not, Bool.or_eq_false_iff]
  by_cases h1 : 48 ≤ c.toNat ∧ c.toNat ≤ 57
  · simp [h1] at h; omega
  · by_cases h2 : 97 ≤ c.toNat ∧ c.toNat ≤ 122
    · simp [h1, h2] at h; omega
    · by_cases h3 : 65 ≤ c.toNat ∧ c.toNat ≤ 90
      · simp [h1, h2, h3] at h; omega
      · omega

theorem crnum_toDigit10_some {c : Char} {d : Nat} (h : toDigit c 10 = some d) :
    H5V.Spec.HtmlTokenizer.isAsciiDigit c = true ∧ d = c.toNat - 0x30 := by
  unfold toDigit at h
  simp only [char_le_iff, Char.reduceToNat] at h
  simp only [H5V.Spec.HtmlTokenizer.isAsciiDigit, char_le_iff, Char.reduceToNat, Bool.and_eq_true, decide_eq_true_eq]
  by_cases h1 : 48 ≤ c.toNat ∧ c.toNat ≤ 57
  · simp [h1] at h; omega
  · by_cases h2 : 97 ≤ c.toNat ∧ c.toNat ≤ 122
    · simp [h1, h2] at h; omega
    · by_cases h3 : 65 ≤ c.toNat ∧ c.toNat ≤ 90
      · simp [h1, h2, h3] at h; omega
      · simp [h1, h2, h3] at h

theorem crnum_toDigit10_none {c : Char} (h : toDigit c 10 = none) :
    H5V.Spec.HtmlTokenizer.isAsciiDigit c = false := by
  unfold toDigit at h
  simp only [char_le_iff, Char.reduceToNat] at h
  simp only [H5V.Spec.HtmlTokenizer.isAsciiDigit, char_le_iff, Char.reduceToNat, Bool.and_eq_false_iff,
    decide_eq_false_iff_not]
  by_cases h1 : 48 ≤ c.toNat ∧ c.toNat ≤ 57
  · simp [h1] at h; omega
  · omega

theorem crnum_toDigit_lt {c : Char} {b d : Nat} (h : toDigit c b = some d) : d < b := by
  unfold toDigit at h
  dsimp only at h
  split at h
  · split at h
    · simp only [Option.some.injEq] at h; omega
    · simp at h
  · simp at h

theorem crnum_toDigit_semicolon (b : Nat) : toDigit ';' b = none := by
  simp [toDigit]
theorem crnum_toDigit_lf (b : Nat) : toDigit '\n' b = none := by
  simp [toDigit]

theorem crnum_toDigit_foldCh {c : Char} {b : Nat} (h : toDigit c b = none) : toDigit (foldCh c) b = none := by
  unfold foldCh
  split
  · exact crnum_toDigit_lf b
  · exact h

/-! ## the steps of the specification -/

theorem crnum_begin_alnum (t : Tok) (c : Char) (h : isAsciiAlnum c = true) :
    H5V.Spec.HtmlTokenizer.characterReferenceState t (some c) =
      (crTok t .namedCharacterReference ['&'] t.characterReferenceCode, .advance 0) := by
  have hne : c ≠ '#' := by intro hc; subst hc; simp [isAsciiAlnum] at h
  unfold H5V.Spec.HtmlTokenizer.characterReferenceState
  split
  · rename_i heq; simp at heq; exact absurd heq hne
  · rename_i heq; simp only [Option.some.injEq] at heq; subst heq
    simp only [alnum_eq, h, if_true]
    rfl
  · rename_i heq; simp at heq

theorem crnum_finT_eq (t : Tok) (s : St) (b : Str) (n : Nat) :
    (crTok t s b n).flushCodePoints.setState t.returnState.toSt = finT t b n := by
  unfold finT
  rw [crnum_flush_eq, crnum_flush_eq]
  by_cases hx : t.returnState.inAttribute = true
  · have h1 : (crTok t s b n).returnState.inAttribute = true := hx
    have h2 : (crTok t t.state b n).returnState.inAttribute = true := hx
    rw [if_pos h1, if_pos h2]; rfl
  · have h1 : ¬ (crTok t s b n).returnState.inAttribute = true := hx
    have h2 : ¬ (crTok t t.state b n).returnState.inAttribute = true := hx
    rw [if_neg h1, if_neg h2]; rfl

@[simp] theorem crnum_finT_crTok (t : Tok) (s : St) (b b' : Str) (n n' : Nat) :
    finT (crTok t s b n) b' n' = finT t b' n' := by
  unfold finT
  rw [crTok_crTok, crTok_returnState]
  exact crnum_finT_eq t _ b' n'

theorem crnum_begin_other (t : Tok) (oc : Option Char)
    (h : ∀ c, oc = some c → c ≠ '#' ∧ isAsciiAlnum c = false) :
    H5V.Spec.HtmlTokenizer.characterReferenceState t oc = (finT t ['&'] t.characterReferenceCode, .advance 0) := by
  unfold H5V.Spec.HtmlTokenizer.characterReferenceState
  split
  · exact absurd rfl (h _ rfl).1
  · rename_i c _
    simp only [alnum_eq, (h c rfl).2, Bool.false_eq_true, if_false]
    rfl
  · rfl

/-! ### 13.2.5.75 numeric character reference state -/

theorem crnum_sstep_num (tree : Tree) (t : Tok) (rest : Str) (hs : t.state = .numericCharacterReference) :
    sstep tree t rest = H5V.Spec.HtmlTokenizer.numericCharacterReferenceState t rest.head? := by
  simp only [sstep, H5V.Spec.HtmlTokenizer.step, hs]

theorem crnum_num_x (t : Tok) (c : Char) (h : c = 'x' ∨ c = 'X') :
    H5V.Spec.HtmlTokenizer.numericCharacterReferenceState t (some c) =
      (crTok t .hexadecimalCharacterReferenceStart (t.temporaryBuffer ++ [c]) 0, .advance 1) := by
  rcases h with rfl | rfl <;> rfl

theorem crnum_num_other (t : Tok) (oc : Option Char) (h1 : oc ≠ some 'x') (h2 : oc ≠ some 'X') :
    H5V.Spec.HtmlTokenizer.numericCharacterReferenceState t oc =
      (crTok t .decimalCharacterReferenceStart t.temporaryBuffer 0, .advance 0) := by
  unfold H5V.Spec.HtmlTokenizer.numericCharacterReferenceState
  split
  · exact absurd rfl h1
  · exact absurd rfl h2
  · rfl

/-! ### 13.2.5.78/79 digit states -/

theorem crnum_sstep_hex (tree : Tree) (t : Tok) (rest : Str) (hs : t.state = .hexadecimalCharacterReference) :
    sstep tree t rest = H5V.Spec.HtmlTokenizer.hexadecimalCharacterReferenceState t rest.head? := by
  simp only [sstep, H5V.Spec.HtmlTokenizer.step, hs]

theorem crnum_sstep_dec (tree : Tree) (t : Tok) (rest : Str) (hs : t.state = .decimalCharacterReference) :
    sstep tree t rest = H5V.Spec.HtmlTokenizer.decimalCharacterReferenceState t rest.head? := by
  simp only [sstep, H5V.Spec.HtmlTokenizer.step, hs]

theorem crnum_hex_semi (t : Tok) :
    H5V.Spec.HtmlTokenizer.hexadecimalCharacterReferenceState t (some ';') =
      (crTok t .numericCharacterReferenceEnd t.temporaryBuffer t.characterReferenceCode, .advance 1) := rfl

theorem crnum_dec_semi (t : Tok) :
    H5V.Spec.HtmlTokenizer.decimalCharacterReferenceState t (some ';') =
      (crTok t .numericCharacterReferenceEnd t.temporaryBuffer t.characterReferenceCode, .advance 1) := rfl

theorem crnum_hex_digit (t : Tok) (c : Char) (d : Nat) (h : toDigit c 16 = some d) :
    H5V.Spec.HtmlTokenizer.hexadecimalCharacterReferenceState t (some c) =
      (crTok t t.state t.temporaryBuffer (t.characterReferenceCode * 16 + d), .advance 1) := by
  have hne : c ≠ ';' := by intro hc; subst hc; simp [toDigit] at h
  unfold H5V.Spec.HtmlTokenizer.hexadecimalCharacterReferenceState
  split
  · rename_i heq; simp at heq; exact absurd heq hne
  · rename_i heq; simp only [Option.some.injEq] at heq; subst heq
    rcases crnum_toDigit16_some h with ⟨h1, h2⟩ | ⟨h0, h1, h2⟩ | ⟨h0, h0', h1, h2⟩
    · simp only [h1, if_true, h2]; rfl
    · simp only [h0, h1, Bool.false_eq_true, if_false, if_true, h2]; rfl
    · simp only [h0, h0', h1, Bool.false_eq_true, if_false, if_true, h2]; rfl
  · rename_i heq; simp at heq

theorem crnum_hex_other (t : Tok) (oc : Option Char) (h : (oc.bind fun c => toDigit c 16) = none)
    (h2 : oc ≠ some ';') :
    H5V.Spec.HtmlTokenizer.hexadecimalCharacterReferenceState t oc =
      (crTok t .numericCharacterReferenceEnd t.temporaryBuffer t.characterReferenceCode, .advance 0) := by
  unfold H5V.Spec.HtmlTokenizer.hexadecimalCharacterReferenceState
  split
  · exact absurd rfl h2
  · rename_i c _
    have := crnum_toDigit16_none (c := c) (by simpa using h)
    simp only [H5V.Spec.HtmlTokenizer.isAsciiHexDigit, Bool.or_eq_false_iff] at this
    simp only [this.1.1, this.1.2, this.2, Bool.false_eq_true, if_false]
    rfl
  · rfl

theorem crnum_dec_digit (t : Tok) (c : Char) (d : Nat) (h : toDigit c 10 = some d) :
    H5V.Spec.HtmlTokenizer.decimalCharacterReferenceState t (some c) =
      (crTok t t.state t.temporaryBuffer (t.characterReferenceCode * 10 + d), .advance 1) := by
  have hne : c ≠ ';' := by intro hc; subst hc; simp [toDigit] at h
  unfold H5V.Spec.HtmlTokenizer.decimalCharacterReferenceState
  split
  · rename_i heq; simp at heq; exact absurd heq hne
  · rename_i heq; simp only [Option.some.injEq] at heq; subst heq
    obtain ⟨h1, h2⟩ := crnum_toDigit10_some h
    simp only [h1, if_true, h2]; rfl
  · rename_i heq; simp at heq

theorem crnum_dec_other (t : Tok) (oc : Option Char) (h : (oc.bind fun c => toDigit c 10) = none)
    (h2 : oc ≠ some ';') :
    H5V.Spec.HtmlTokenizer.decimalCharacterReferenceState t oc =
      (crTok t .numericCharacterReferenceEnd t.temporaryBuffer t.characterReferenceCode, .advance 0) := by
  unfold H5V.Spec.HtmlTokenizer.decimalCharacterReferenceState
  split
  · exact absurd rfl h2
  · rename_i c _
    have := crnum_toDigit10_none (c := c) (by simpa using h)
    simp only [this, Bool.false_eq_true, if_false]
    rfl
  · rfl

/-! ### 13.2.5.80 numeric character reference end state -/

theorem crnum_sstep_end (tree : Tree) (t : Tok) (rest : Str) (hs : t.state = .numericCharacterReferenceEnd) :
    sstep tree t rest =
      (finT t [Char.ofNat (H5V.Spec.HtmlTokenizer.numericReferenceCodePoint t.characterReferenceCode)]
        (H5V.Spec.HtmlTokenizer.numericReferenceCodePoint t.characterReferenceCode), .advance 0) := by
  simp only [sstep, H5V.Spec.HtmlTokenizer.step, hs]
  rfl

theorem crnum_codePoint_eq (v : Nat) :
    H5V.Spec.HtmlTokenizer.numericReferenceCodePoint v = H5V.Props.C14.specNumeric v := by
  unfold H5V.Spec.HtmlTokenizer.numericReferenceCodePoint H5V.Props.C14.specNumeric
  by_cases h1 : v = 0
  · rw [if_pos h1, if_pos h1]
  · rw [if_neg h1, if_neg h1]
    by_cases h2 : v > 0x10FFFF
    · rw [if_pos h2, if_pos h2]
    · rw [if_neg h2, if_neg h2]
      by_cases h3 : 0xD800 ≤ v ∧ v ≤ 0xDFFF
      · rw [if_pos h3, if_pos h3]
      · rw [if_neg h3, if_neg h3]
        by_cases h4 : 0x80 ≤ v ∧ v ≤ 0x9F
        · rw [if_pos h4, if_pos h4]
          cases H5V.Spec.C1.table[v - 0x80]? with
          | none => rfl
          | some y => cases y <;> rfl
        · rw [if_neg h4, if_neg h4]

/-! ## the sub-states `Begin` and `Octothorpe` -/

/-- no character available: `Stuck`, the machine is unchanged -/
theorem crnum_stuck (o : Opts) {m : Mach} {cr : CharRefSt} (hcr : m.charRef = some cr) (hr : m.reconsume = false) :
    stepCharRef o m [] cr = .suspend m [] := by
  unfold stepCharRef crStep
  simp only [crnum_peek _ hr, List.head?_nil, setCharRef_self m _ hcr]

theorem crnum_alnum_plain {c : Char} (h : isAsciiAlnum c = true) : c ≠ '\r' ∧ c ≠ '\n' := by
  have := alnum_not_brk c h
  simp only [isBrk, Bool.or_eq_false_iff, decide_eq_false_iff_not] at this
  exact ⟨this.2, this.1⟩

theorem crnum_foldCh_cases (c : Char) : (c = '\r' ∧ foldCh c = '\n') ∨ (c ≠ '\r' ∧ foldCh c = c) := by
  unfold foldCh
  by_cases h : c = '\r'
  · exact Or.inl ⟨h, by simp [h]⟩
  · exact Or.inr ⟨h, by simp [h]⟩

/-- the delivery step of `stepCharRef`, in closed form -/
theorem crnum_ofSig_deliver {m1 : Mach} (hret : isRet m1.state = true) (cs : Str) (hne : cs ≠ [])
    (h0 : ∀ c ∈ cs, c ≠ '\x00') (inp : Str) :
    ofSig ((processCharRef m1 cs).1.setCharRef none, (processCharRef m1 cs).2) inp =
      .cont ((delivM m1 cs).setCharRef none) inp := by
  rw [crnum_processCharRef hret cs hne h0]
  rfl

theorem crnum_ofSig_deliver_nil {m1 : Mach} (hret : isRet m1.state = true) (inp : Str) :
    ofSig ((processCharRef m1 []).1.setCharRef none, (processCharRef m1 []).2) inp =
      .cont ((delivM m1 ['&']).setCharRef none) inp := by
  rw [crnum_processCharRef_nil hret]
  rfl

theorem crnum_begin (o : Opts) (ho : o.exactErrors = false) (pol : Pol) (tree : Tree)
    (m : Mach) (inp : Str) (t : Tok) (rest : Str) (h : RelCore m inp t rest) (cr : CharRefSt)
    (hcr : m.charRef = some cr) (hst : cr.state = .begin) :
    StepOk tree t rest (stepCharRef o m inp cr) := by
  obtain ⟨c, hd, hrest⟩ := crnum_ctx h hcr
  rw [hst] at hd
  obtain ⟨hts, hf1, hf2, hf3, hf4, hf5, hf6, hf7⟩ := hd
  rw [hf5] at hrest
  simp only [Option.getD_none, List.nil_append] at hrest
  cases inp with
  | nil => rw [crnum_stuck o hcr c.rcn]; exact h.toRel
  | cons c0 inp' =>
    by_cases hal : isAsciiAlnum c0 = true
    · -- named reference
      have hstep : stepCharRef o m (c0 :: inp') cr =
          .cont (m.setCharRef (some { cr with state := .named, nameBuf := some [] })) (c0 :: inp') := by
        unfold stepCharRef crStep
        simp only [crnum_peek _ c.rcn, List.head?_cons, hst, hal, if_true]
      rw [hstep]
      have ht := crnum_step_tinv o pol _ c.tinv hcr _ _ (by rw [hstep]; rfl)
      obtain ⟨p1, p2⟩ := crnum_alnum_plain hal
      rw [norm_other false _ _ p1 p2] at hrest
      refine Reach.stepEq (t1 := crTok t .namedCharacterReference ['&'] t.characterReferenceCode) (n := 0) ?_
        (Reach.done ?_)
      · rw [crnum_sstep_begin tree t rest hts, hrest]
        exact crnum_begin_alnum t c0 hal
      · refine c.progress _ (c0 :: inp') _ _ _ _ rfl ⟨rfl, rfl, by simp⟩ ?_ ?_ ht
        · intro nb hnb
          simp only [Option.some.injEq] at hnb
          subst hnb
          exact ⟨Or.inl rfl, by rw [hf6, hf7]; exact H5V.Props.C14.Walk.best_nil⟩
        · simp only [Option.getD_some, List.nil_append, List.drop_zero]
          rw [hrest, norm_other false _ _ p1 p2]
    · by_cases hh : c0 = '#'
      · -- numeric reference
        subst hh
        have hstep : stepCharRef o m ('#' :: inp') cr =
            .cont (m.setCharRef (some { cr with state := .octothorpe })) inp' := by
          unfold stepCharRef crStep
          simp (config := {decide := true}) only [crnum_peek _ c.rcn, List.head?_cons, hst, hal, if_true, if_false,
            crnum_discard _ c.rcn, List.tail_cons, Bool.false_eq_true]
        rw [hstep]
        have ht := crnum_step_tinv o pol _ c.tinv hcr _ _ (by rw [hstep]; rfl)
        rw [norm_other false _ _ (by decide) (by decide)] at hrest
        refine Reach.stepEq (t1 := crTok t .numericCharacterReference ['&', '#'] t.characterReferenceCode) (n := 1) ?_
          (Reach.done ?_)
        · rw [crnum_sstep_begin tree t rest hts, hrest]
          exact crnum_begin_hash t
        · refine c.progress _ inp' _ _ _ _ rfl ⟨rfl, rfl, hf1, hf2, hf3, hf4, hf5, hf6, hf7⟩ trivial ?_ ht
          simp only [hf5, Option.getD_none, List.nil_append]
          rw [hrest]; rfl
      · -- not a reference: `&` is text
        have hal' : isAsciiAlnum c0 = false := by simpa using hal
        have hstep : stepCharRef o m (c0 :: inp') cr =
            .cont ((delivM m ['&']).setCharRef none) (c0 :: inp') := by
          unfold stepCharRef crStep
          simp only [crnum_peek _ c.rcn, List.head?_cons, hst, hal', hh, if_false, Bool.false_eq_true]
          exact crnum_ofSig_deliver_nil c.ret _
        rw [hstep]
        have ht := crnum_step_tinv o pol _ c.tinv hcr _ _ (by rw [hstep]; rfl)
        obtain ⟨r, hr⟩ := crnum_norm_head c0 inp'
        refine Reach.stepEq (t1 := finT t ['&'] t.characterReferenceCode) (n := 0) ?_ (Reach.done ?_)
        · rw [crnum_sstep_begin tree t rest hts, hrest, hr]
          apply crnum_begin_other
          intro x hx
          simp only [List.head?_cons, Option.some.injEq] at hx
          subst hx
          rcases crnum_foldCh_cases c0 with ⟨_, e⟩ | ⟨_, e⟩ <;> rw [e]
          · exact ⟨by decide, by decide⟩
          · exact ⟨hh, hal'⟩
        · have := c.done ['&'] [] (c0 :: inp') t.characterReferenceCode (by simp) ht
          simpa [hrest] using this

theorem crnum_octothorpe (o : Opts) (ho : o.exactErrors = false) (pol : Pol) (tree : Tree)
    (m : Mach) (inp : Str) (t : Tok) (rest : Str) (h : RelCore m inp t rest) (cr : CharRefSt)
    (hcr : m.charRef = some cr) (hst : cr.state = .octothorpe) :
    StepOk tree t rest (stepCharRef o m inp cr) := by
  obtain ⟨c, hd, hrest⟩ := crnum_ctx h hcr
  rw [hst] at hd
  obtain ⟨hts, htb, hf1, hf2, hf3, hf4, hf5, hf6, hf7⟩ := hd
  rw [hf5] at hrest
  simp only [Option.getD_none, List.nil_append] at hrest
  cases inp with
  | nil => rw [crnum_stuck o hcr c.rcn]; exact h.toRel
  | cons c0 inp' =>
    by_cases hx : c0 = 'x' ∨ c0 = 'X'
    · have hstep : stepCharRef o m (c0 :: inp') cr =
          .cont (m.setCharRef (some { cr with hexMarker := some c0, state := .numeric 16 })) inp' := by
        unfold stepCharRef crStep
        have hx' : (c0 = 'x' || c0 = 'X') = true := by simpa using hx
        simp only [crnum_peek _ c.rcn, List.head?_cons, hst, hx', if_true, crnum_discard _ c.rcn, List.tail_cons]
      rw [hstep]
      have ht := crnum_step_tinv o pol _ c.tinv hcr _ _ (by rw [hstep]; rfl)
      have hpl : c0 ≠ '\r' ∧ c0 ≠ '\n' := by rcases hx with rfl | rfl <;> exact ⟨by decide, by decide⟩
      rw [norm_other false _ _ hpl.1 hpl.2] at hrest
      refine Reach.stepEq (t1 := crTok t .hexadecimalCharacterReferenceStart (t.temporaryBuffer ++ [c0]) 0) (n := 1) ?_
        (Reach.done ?_)
      · rw [crnum_sstep_num tree t rest hts, hrest]
        exact crnum_num_x t c0 hx
      · refine c.progress _ inp' _ _ _ _ rfl ?_ trivial ?_ ht
        · show CRStD _ _ _ (.numeric 16)
          simp only [CRStD, crBase, Option.isSome_some, if_true, hf5, hf3, Bool.false_eq_true, if_false, numStart,
            crTok_state, crTok_buf, crTok_code, htb, hf1, hf2, Option.toList_some, true_and]
        · simp only [hf5, Option.getD_none, List.nil_append]
          rw [hrest]; rfl
    · have hx1 : c0 ≠ 'x' := fun e => hx (Or.inl e)
      have hx2 : c0 ≠ 'X' := fun e => hx (Or.inr e)
      have hstep : stepCharRef o m (c0 :: inp') cr =
          .cont (m.setCharRef (some { cr with hexMarker := none, state := .numeric 10 })) (c0 :: inp') := by
        unfold stepCharRef crStep
        simp only [crnum_peek _ c.rcn, List.head?_cons, hst, hx1, hx2, decide_false, Bool.or_self, Bool.false_eq_true,
          if_false]
      rw [hstep]
      have ht := crnum_step_tinv o pol _ c.tinv hcr _ _ (by rw [hstep]; rfl)
      obtain ⟨r, hr⟩ := crnum_norm_head c0 inp'
      refine Reach.stepEq (t1 := crTok t .decimalCharacterReferenceStart t.temporaryBuffer 0) (n := 0) ?_
        (Reach.done ?_)
      · rw [crnum_sstep_num tree t rest hts, hrest, hr]
        have hne : ∀ y, y ≠ '\r' → y ≠ '\n' → c0 ≠ y → foldCh c0 ≠ y := by
          intro y y1 y2 y3
          rcases crnum_foldCh_cases c0 with ⟨_, e⟩ | ⟨_, e⟩ <;> rw [e]
          · exact fun e => y2 e.symm
          · exact y3
        apply crnum_num_other
        · simpa using hne 'x' (by decide) (by decide) hx1
        · simpa using hne 'X' (by decide) (by decide) hx2
      · refine c.progress _ (c0 :: inp') _ _ _ _ rfl ?_ trivial ?_ ht
        · show CRStD _ _ _ (.numeric 10)
          simp only [CRStD, crBase, Option.isSome_none, Bool.false_eq_true, if_false, hf5, hf3, numStart,
            crTok_state, crTok_buf, crTok_code, htb, hf1, hf2, Option.toList_none, true_and, List.append_nil]
        · simp only [hf5, Option.getD_none, List.nil_append, List.drop_zero]
          exact hrest

/-! ## the sub-state `Numeric(base)` -/

/-- one digit: the u32 accumulator with its latch against the unbounded code -/
theorem crnum_numRel_step (cr : CharRefSt) (b n code : Nat) (hb : 2 ≤ b ∧ b ≤ 16) (hn : n < b)
    (h : NumRel cr code) :
    NumRel { cr with num := ((cr.num * b) % 4294967296 + n) % 4294967296,
                     numTooBig := cr.numTooBig || decide ((cr.num * b) % 4294967296 > 0x10FFFF),
                     seenDigit := true } (code * b + n) := by
  have := H5V.Props.C14.accum_inv b hb [n] (by simpa using hn) cr.num cr.numTooBig code h
  simpa [H5V.Props.C14.accum, H5V.Props.C14.valueOf, NumRel] using this

theorem crnum_toDigit_plain {c : Char} {b n : Nat} (h : toDigit c b = some n) : c ≠ '\r' ∧ c ≠ '\n' := by
  have := toDigit_not_brk c b n h
  simp only [isBrk, Bool.or_eq_false_iff, decide_eq_false_iff_not] at this
  exact ⟨this.2, this.1⟩

theorem crnum_crBase (cr : CharRefSt) : 2 ≤ crBase cr ∧ crBase cr ≤ 16 := by
  unfold crBase; split <;> omega

/-- what `unconsume_numeric` puts back -/
theorem crnum_unconsumeNumeric (m : Mach) (inp : Str) (cr : CharRefSt) :
    unconsumeNumeric m inp cr =
      .ok (emitErr m "Numeric character reference without digits", ('#' :: cr.hexMarker.toList) ++ inp, cr, .done []) := by
  unfold unconsumeNumeric
  cases cr.hexMarker <;> rfl

theorem crnum_lag_ok {cr : CharRefSt} (h : CRT cr) : ∀ x ∈ '#' :: cr.hexMarker.toList, lagCh x = true := by
  intro x hx
  simp only [List.mem_cons, Option.mem_toList] at hx
  rcases hx with rfl | hx
  · decide
  · rcases h.hexOk x hx with rfl | rfl <;> decide


/-! ### the specification's numeric states (13.2.5.76 – 79), hexadecimal and decimal at once -/

/-- the specification's digit test of the base -/
theorem crnum_isDigit (cr : CharRefSt) (oc : Option Char) :
    oc.any (if cr.hexMarker.isSome then H5V.Spec.HtmlTokenizer.isAsciiHexDigit
      else H5V.Spec.HtmlTokenizer.isAsciiDigit) = (oc.bind fun c => toDigit c (crBase cr)).isSome := by
  unfold crBase
  cases oc with
  | none => rfl
  | some c =>
    cases hh : cr.hexMarker.isSome <;> simp only [hh, if_true, if_false, Bool.false_eq_true, Option.any_some,
      Option.bind_some]
    · cases hd : toDigit c 10 with
      | none => exact crnum_toDigit10_none hd
      | some d => exact (crnum_toDigit10_some hd).1
    · cases hd : toDigit c 16 with
      | none => exact crnum_toDigit16_none hd
      | some d =>
        unfold H5V.Spec.HtmlTokenizer.isAsciiHexDigit
        rcases crnum_toDigit16_some hd with ⟨h1, _⟩ | ⟨_, h1, _⟩ | ⟨_, _, h1, _⟩ <;> simp [h1]

/-- the start state tests the next character with `crnum_isDigit` -/
theorem crnum_sstep_start (tree : Tree) (t : Tok) (cr : CharRefSt) (rest : Str) (hts : t.state = numStart cr) :
    sstep tree t rest =
      if (rest.head?.bind fun c => toDigit c (crBase cr)).isSome then t.reconsumeIn (numSt cr)
      else t.flushCodePoints.reconsumeIn t.returnState.toSt := by
  rw [← crnum_isDigit]
  unfold numStart at hts
  unfold numSt
  cases hh : cr.hexMarker.isSome <;> simp only [hh, if_true, if_false, Bool.false_eq_true] at hts ⊢ <;>
    simp only [sstep, H5V.Spec.HtmlTokenizer.step, hts] <;> rfl

theorem crnum_spec_start_digit (tree : Tree) (t : Tok) (cr : CharRefSt) (c0 : Char) (r : Str) (n : Nat)
    (hts : t.state = numStart cr) (hd : toDigit c0 (crBase cr) = some n) :
    sstep tree t (c0 :: r) = (crTok t (numSt cr) t.temporaryBuffer t.characterReferenceCode, .advance 0) := by
  rw [crnum_sstep_start tree t cr _ hts, List.head?_cons, Option.bind_some, hd]
  rfl

theorem crnum_spec_start_other (tree : Tree) (t : Tok) (cr : CharRefSt) (rest : Str)
    (hts : t.state = numStart cr) (hd : (rest.head?.bind fun c => toDigit c (crBase cr)) = none) :
    sstep tree t rest = (finT t t.temporaryBuffer t.characterReferenceCode, .advance 0) := by
  rw [crnum_sstep_start tree t cr _ hts, hd]
  rfl

theorem crnum_spec_digit (tree : Tree) (t : Tok) (cr : CharRefSt) (c0 : Char) (r : Str) (n : Nat)
    (hts : t.state = numSt cr) (hd : toDigit c0 (crBase cr) = some n) :
    sstep tree t (c0 :: r) =
      (crTok t (numSt cr) t.temporaryBuffer (t.characterReferenceCode * crBase cr + n), .advance 1) := by
  rw [← hts]
  unfold numSt at hts
  unfold crBase at hd ⊢
  by_cases hh : cr.hexMarker.isSome = true
  · simp only [hh, if_true] at hts hd ⊢
    rw [crnum_sstep_hex tree t _ hts]
    exact crnum_hex_digit t c0 n hd
  · simp only [hh, if_false] at hts hd ⊢
    rw [crnum_sstep_dec tree t _ hts]
    exact crnum_dec_digit t c0 n hd

theorem crnum_spec_semi (tree : Tree) (t : Tok) (cr : CharRefSt) (r : Str) (hts : t.state = numSt cr) :
    sstep tree t (';' :: r) =
      (crTok t .numericCharacterReferenceEnd t.temporaryBuffer t.characterReferenceCode, .advance 1) := by
  unfold numSt at hts
  by_cases hh : cr.hexMarker.isSome = true
  · simp only [hh, if_true] at hts
    rw [crnum_sstep_hex tree t _ hts]
    exact crnum_hex_semi t
  · simp only [hh, if_false] at hts
    rw [crnum_sstep_dec tree t _ hts]
    exact crnum_dec_semi t

theorem crnum_spec_other (tree : Tree) (t : Tok) (cr : CharRefSt) (rest : Str) (hts : t.state = numSt cr)
    (hd : (rest.head?.bind fun c => toDigit c (crBase cr)) = none) (h2 : rest.head? ≠ some ';') :
    sstep tree t rest =
      (crTok t .numericCharacterReferenceEnd t.temporaryBuffer t.characterReferenceCode, .advance 0) := by
  unfold numSt at hts
  unfold crBase at hd
  by_cases hh : cr.hexMarker.isSome = true
  · simp only [hh, if_true] at hts hd
    rw [crnum_sstep_hex tree t _ hts]
    exact crnum_hex_other t _ hd h2
  · simp only [hh, if_false] at hts hd
    rw [crnum_sstep_dec tree t _ hts]
    exact crnum_dec_other t _ hd h2


theorem crnum_numeric (o : Opts) (ho : o.exactErrors = false) (pol : Pol) (tree : Tree)
    (m : Mach) (inp : Str) (t : Tok) (rest : Str) (h : RelCore m inp t rest) (cr : CharRefSt)
    (hcr : m.charRef = some cr) (b : Nat) (hst : cr.state = .numeric b) :
    StepOk tree t rest (stepCharRef o m inp cr) := by
  obtain ⟨c, hd, hrest⟩ := crnum_ctx h hcr
  rw [hst] at hd
  obtain ⟨hb, hnb, hd⟩ := hd
  rw [hnb] at hrest
  simp only [Option.getD_none, List.nil_append] at hrest
  cases inp with
  | nil => rw [crnum_stuck o hcr c.rcn]; exact h.toRel
  | cons c0 inp' =>
    cases hdg : toDigit c0 b with
    | some n =>
      -- a digit: consumed on both sides
      have hstep : stepCharRef o m (c0 :: inp') cr =
          .cont (m.setCharRef (some { cr with
            num := ((cr.num * b) % 4294967296 + n) % 4294967296,
            numTooBig := cr.numTooBig || decide ((cr.num * b) % 4294967296 > 0x10FFFF),
            seenDigit := true })) inp' := by
        unfold stepCharRef crStep
        simp only [crnum_peek _ c.rcn, List.head?_cons, hst, hdg, crnum_discard _ c.rcn, List.tail_cons]
      rw [hstep]
      have ht := crnum_step_tinv o pol _ c.tinv hcr _ _ (by rw [hstep]; rfl)
      obtain ⟨p1, p2⟩ := crnum_toDigit_plain hdg
      rw [norm_other false _ _ p1 p2] at hrest
      have hlt := crnum_toDigit_lt hdg
      have hbb := crnum_crBase cr
      rw [hb] at hdg hlt
      cases hsd : cr.seenDigit with
      | false =>
        simp only [hsd, Bool.false_eq_true, if_false] at hd
        obtain ⟨hts, htb, hn0, hbig, hc0⟩ := hd
        have hnr : NumRel cr t.characterReferenceCode := by
          unfold NumRel; simp [hbig, hn0, hc0]
        have hnr' := crnum_numRel_step cr (crBase cr) n _ hbb hlt hnr
        refine Reach.stepEq (crnum_spec_start_digit tree t cr c0 _ n hts hdg |> fun e => by rw [hrest]; exact e) ?_
        simp only [List.drop_zero]
        refine Reach.stepEq (n := 1) (t1 := crTok t (numSt cr) t.temporaryBuffer
          (t.characterReferenceCode * crBase cr + n)) ?_ (Reach.done ?_)
        · rw [hrest]
          have := crnum_spec_digit tree (crTok t (numSt cr) t.temporaryBuffer t.characterReferenceCode) cr c0
            (normalizeNewlinesFrom false inp') n rfl hdg
          simpa using this
        · refine c.progress _ inp' _ _ _ _ rfl ?_ (by rw [hst]; trivial) ?_ ht
          · rw [hst]
            refine ⟨hb, hnb, ?_⟩
            simp only [if_true, crTok_state, crTok_code]
            exact ⟨rfl, by rw [hb]; exact hnr'⟩
          · simp only [hnb, Option.getD_none, List.nil_append]
            rw [hrest]; rfl
      | true =>
        simp only [hsd, if_true] at hd
        obtain ⟨hts, hnr⟩ := hd
        have hnr' := crnum_numRel_step cr (crBase cr) n _ hbb hlt hnr
        refine Reach.stepEq (n := 1) (t1 := crTok t (numSt cr) t.temporaryBuffer
          (t.characterReferenceCode * crBase cr + n)) ?_ (Reach.done ?_)
        · rw [hrest]
          exact crnum_spec_digit tree t cr c0 _ n hts hdg
        · refine c.progress _ inp' _ _ _ _ rfl ?_ (by rw [hst]; trivial) ?_ ht
          · rw [hst]
            refine ⟨hb, hnb, ?_⟩
            simp only [if_true, crTok_state, crTok_code]
            exact ⟨rfl, by rw [hb]; exact hnr'⟩
          · simp only [hnb, Option.getD_none, List.nil_append]
            rw [hrest]; rfl
    | none =>
      obtain ⟨r, hr⟩ := crnum_norm_head c0 inp'
      have hdg' : (rest.head?.bind fun x => toDigit x (crBase cr)) = none := by
        rw [hrest, hr, ← hb]
        simpa using crnum_toDigit_foldCh hdg
      cases hsd : cr.seenDigit with
      | false =>
        -- no digit at all: `#` (and `x`) are given back
        simp only [hsd, Bool.false_eq_true, if_false] at hd
        obtain ⟨hts, htb, hn0, hbig, hc0⟩ := hd
        have hstep : stepCharRef o m (c0 :: inp') cr =
            .cont ((delivM (emitErr m "Numeric character reference without digits") ['&']).setCharRef none)
              (('#' :: cr.hexMarker.toList) ++ (c0 :: inp')) := by
          unfold stepCharRef crStep
          simp only [crnum_peek _ c.rcn, List.head?_cons, hst, hdg, hsd, Bool.not_false, if_true,
            crnum_unconsumeNumeric]
          exact crnum_ofSig_deliver_nil (by simpa [emitErr, emit] using c.ret) _
        rw [hstep]
        have ht := crnum_step_tinv o pol _ c.tinv hcr _ _ (by rw [hstep]; rfl)
        refine Reach.stepEq (crnum_spec_start_other tree t cr rest hts hdg') (Reach.done ?_)
        have c' := c.errOnly (ErrOnly.emitErr m "Numeric character reference without digits")
        have := c'.done ['&'] ('#' :: cr.hexMarker.toList) (c0 :: inp') t.characterReferenceCode
          (crnum_lag_ok (c.tinv.crt cr hcr)) ht
        rw [htb]
        simpa [hrest] using this
      | true =>
        -- the digits are over: nothing happens in the specification
        simp only [hsd, if_true] at hd
        obtain ⟨hts, hnr⟩ := hd
        have hstep : stepCharRef o m (c0 :: inp') cr =
            .cont (m.setCharRef (some { cr with state := .numericSemicolon })) (c0 :: inp') := by
          unfold stepCharRef crStep
          simp only [crnum_peek _ c.rcn, List.head?_cons, hst, hdg, hsd, Bool.not_true, Bool.false_eq_true, if_false]
        rw [hstep]
        have ht := crnum_step_tinv o pol _ c.tinv hcr _ _ (by rw [hstep]; rfl)
        refine Reach.done ?_
        have := c.progress { cr with state := .numericSemicolon } (c0 :: inp') t.state t.temporaryBuffer
          t.characterReferenceCode rest rfl ⟨hnb, hts, hnr, hdg'⟩ trivial
          (by simpa [hnb] using hrest) ht
        rwa [crTok_self] at this

/-! ## the code point of a numeric reference -/

theorem crnum_c1_ok : ∀ i ∈ List.range 32,
    (match H5V.Spec.C1.table[i]? with
     | some (some r) => decide (r ≠ 0) && isValidScalar r
     | _ => true) = true := by decide

/-- the standard's code point is never U+0000 and always a scalar value -/
theorem crnum_specNumeric_ok (v : Nat) :
    H5V.Props.C14.specNumeric v ≠ 0 ∧ isValidScalar (H5V.Props.C14.specNumeric v) = true := by
  unfold H5V.Props.C14.specNumeric
  by_cases h1 : v = 0
  · rw [if_pos h1]; exact ⟨by decide, by decide⟩
  · rw [if_neg h1]
    by_cases h2 : v > 0x10FFFF
    · rw [if_pos h2]; exact ⟨by decide, by decide⟩
    · rw [if_neg h2]
      by_cases h3 : 0xD800 ≤ v ∧ v ≤ 0xDFFF
      · rw [if_pos h3]; exact ⟨by decide, by decide⟩
      · rw [if_neg h3]
        have hvv : isValidScalar v = true := by
          unfold isValidScalar; simp; omega
        by_cases h4 : 0x80 ≤ v ∧ v ≤ 0x9F
        · rw [if_pos h4]
          have := crnum_c1_ok (v - 0x80) (by simp; omega)
          cases hx : H5V.Spec.C1.table[v - 0x80]? with
          | none => exact ⟨h1, hvv⟩
          | some y =>
            cases y with
            | none => exact ⟨h1, hvv⟩
            | some r =>
              rw [hx] at this
              simp only [Bool.and_eq_true, decide_eq_true_eq] at this
              exact this
        · rw [if_neg h4]; exact ⟨h1, hvv⟩

theorem crnum_char_ne_nul (v : Nat) : Char.ofNat (H5V.Props.C14.specNumeric v) ≠ '\x00' :=
  ofNat_ne_nul _ (crnum_specNumeric_ok v).2 (crnum_specNumeric_ok v).1

/-- `finish_numeric` under the accumulator invariant -/
theorem crnum_finishNumericStatus (o : Opts) (m : Mach) (inp : Str) (cr : CharRefSt) (v : Nat) (h : NumRel cr v) :
    finishNumericStatus o m inp cr =
      .ok ((finishNumeric o m cr).1, inp, cr, .done [Char.ofNat (H5V.Props.C14.specNumeric v)]) := by
  have h2 := H5V.Props.C14.C14_finish_numeric o m cr v (by
      unfold NumRel at h
      cases hb : cr.numTooBig with
      | true => simp [hb] at h ⊢; exact h
      | false => simp [hb] at h ⊢; omega) (by
      unfold NumRel at h
      cases hb : cr.numTooBig with
      | true => simp [hb] at h; omega
      | false => simp [hb] at h; intro _; exact h.1)
  unfold finishNumericStatus
  cases hfn : finishNumeric o m cr with
  | mk m1 r =>
    rw [hfn] at h2
    simp only at h2
    subst h2
    rfl


/-! ## the end of a numeric reference -/

/-- from the numeric character reference end state: one step of the specification against
`finish_numeric` + `process_char_ref`; `m0` is the model's machine with the parse errors so far -/
theorem crnum_finish (o : Opts) (ho : o.exactErrors = false) (tree : Tree) {m : Mach} {t : Tok} {cr : CharRefSt}
    (c : CRCtx m t cr) (hnr : NumRel cr t.characterReferenceCode) (m0 : Mach) (he : ErrOnly m0 m) (inp1 : Str)
    (ht : TInv ((delivM (finishNumeric o m0 cr).1
      [Char.ofNat (H5V.Props.C14.specNumeric t.characterReferenceCode)]).setCharRef none)) :
    Reach tree (crTok t .numericCharacterReferenceEnd t.temporaryBuffer t.characterReferenceCode)
      (normalizeNewlinesFrom false inp1)
      (fun t' rest' => Rel ((delivM (finishNumeric o m0 cr).1
        [Char.ofNat (H5V.Props.C14.specNumeric t.characterReferenceCode)]).setCharRef none) inp1 t' rest') := by
  refine Reach.stepEq (crnum_sstep_end tree _ _ rfl) (Reach.done ?_)
  have c' := c.errOnly ((crnum_finishNumeric_errOnly o ho m0 cr).trans he)
  have := c'.done [Char.ofNat (H5V.Props.C14.specNumeric t.characterReferenceCode)] [] inp1
    (H5V.Props.C14.specNumeric t.characterReferenceCode) (by simp) ht
  simpa [crnum_codePoint_eq] using this

theorem crnum_finishNumeric_ret (o : Opts) (ho : o.exactErrors = false) {m : Mach} {t : Tok} {cr : CharRefSt}
    (c : CRCtx m t cr) (m0 : Mach) (he : ErrOnly m0 m) : isRet (finishNumeric o m0 cr).1.state = true :=
  (c.errOnly ((crnum_finishNumeric_errOnly o ho m0 cr).trans he)).ret

/-! ### the sub-state `NumericSemicolon` -/

theorem crnum_numericSemicolon (o : Opts) (ho : o.exactErrors = false) (pol : Pol) (tree : Tree)
    (m : Mach) (inp : Str) (t : Tok) (rest : Str) (h : RelCore m inp t rest) (cr : CharRefSt)
    (hcr : m.charRef = some cr) (hst : cr.state = .numericSemicolon) :
    StepOk tree t rest (stepCharRef o m inp cr) := by
  obtain ⟨c, hd, hrest⟩ := crnum_ctx h hcr
  rw [hst] at hd
  obtain ⟨hnb, hts, hnr, hdg⟩ := hd
  rw [hnb] at hrest
  simp only [Option.getD_none, List.nil_append] at hrest
  cases inp with
  | nil => rw [crnum_stuck o hcr c.rcn]; exact h.toRel
  | cons c0 inp' =>
    by_cases hsc : c0 = ';'
    · subst hsc
      have hstep : stepCharRef o m (';' :: inp') cr =
          .cont ((delivM (finishNumeric o m cr).1
            [Char.ofNat (H5V.Props.C14.specNumeric t.characterReferenceCode)]).setCharRef none) inp' := by
        unfold stepCharRef crStep
        simp only [crnum_peek _ c.rcn, List.head?_cons, hst, if_true, crnum_discard _ c.rcn, List.tail_cons,
          crnum_finishNumericStatus o m inp' cr _ hnr]
        exact crnum_ofSig_deliver (crnum_finishNumeric_ret o ho c m (ErrOnly.refl m)) _ (by simp)
          (by simpa using crnum_char_ne_nul _) _
      rw [hstep]
      have ht := crnum_step_tinv o pol _ c.tinv hcr _ _ (by rw [hstep]; rfl)
      rw [norm_other false _ _ (by decide) (by decide)] at hrest
      refine Reach.stepEq (by rw [hrest]; exact crnum_spec_semi tree t cr _ hts) ?_
      rw [hrest, List.drop_one, List.tail_cons]
      exact crnum_finish o ho tree c hnr m (ErrOnly.refl m) inp' ht
    · have hstep : stepCharRef o m (c0 :: inp') cr =
          .cont ((delivM (finishNumeric o (emitErr m "Semicolon missing after numeric character reference") cr).1
            [Char.ofNat (H5V.Props.C14.specNumeric t.characterReferenceCode)]).setCharRef none) (c0 :: inp') := by
        unfold stepCharRef crStep
        simp only [crnum_peek _ c.rcn, List.head?_cons, hst, hsc, if_false,
          crnum_finishNumericStatus o _ (c0 :: inp') cr _ hnr]
        exact crnum_ofSig_deliver (crnum_finishNumeric_ret o ho c _ (ErrOnly.emitErr m _)) _ (by simp)
          (by simpa using crnum_char_ne_nul _) _
      rw [hstep]
      have ht := crnum_step_tinv o pol _ c.tinv hcr _ _ (by rw [hstep]; rfl)
      have hne : rest.head? ≠ some ';' := by
        obtain ⟨r, hr⟩ := crnum_norm_head c0 inp'
        rw [hrest, hr]
        simp only [List.head?_cons, ne_eq, Option.some.injEq]
        rcases crnum_foldCh_cases c0 with ⟨_, e⟩ | ⟨_, e⟩ <;> rw [e]
        · decide
        · exact hsc
      refine Reach.stepEq (crnum_spec_other tree t cr rest hts hdg hne) ?_
      rw [List.drop_zero, hrest]
      exact crnum_finish o ho tree c hnr _ (ErrOnly.emitErr m _) (c0 :: inp') ht

/-- **one step of the model inside a character reference (start and numeric sub-states)** -/
theorem stepCharRef_sim_num (o : Opts) (ho : o.exactErrors = false) (pol : Pol) (tree : Tree)
    (m : Mach) (inp : Str) (t : Tok) (rest : Str) (h : RelCore m inp t rest) (cr : CharRefSt)
    (hcr : m.charRef = some cr)
    (hst : cr.state = .begin ∨ cr.state = .octothorpe ∨ (∃ b, cr.state = .numeric b) ∨ cr.state = .numericSemicolon) :
    StepOk tree t rest (stepCharRef o m inp cr) := by
  rcases hst with hst | hst | ⟨b, hst⟩ | hst
  · exact crnum_begin o ho pol tree m inp t rest h cr hcr hst
  · exact crnum_octothorpe o ho pol tree m inp t rest h cr hcr hst
  · exact crnum_numeric o ho pol tree m inp t rest h cr hcr b hst
  · exact crnum_numericSemicolon o ho pol tree m inp t rest h cr hcr hst

/-! ## end of input with a reference pending -/

theorem crnum_eof_m2_nil {m0 : Mach} (hret : isRet m0.state = true) (m2 : Mach)
    (hp : processCharRef (m0.setCharRef none) [] = (m2, .cont)) : m2 = (delivM m0 ['&']).setCharRef none := by
  rw [crnum_processCharRef_nil (by simpa using hret), delivM_setCharRef] at hp
  simp only [Prod.mk.injEq, and_true] at hp
  exact hp.symm

theorem crnum_eof_m2 {m0 : Mach} (hret : isRet m0.state = true) (cs : Str) (hne : cs ≠ [])
    (h0 : ∀ c ∈ cs, c ≠ '\x00') (m2 : Mach)
    (hp : processCharRef (m0.setCharRef none) cs = (m2, .cont)) : m2 = (delivM m0 cs).setCharRef none := by
  rw [crnum_processCharRef (by simpa using hret) cs hne h0, delivM_setCharRef] at hp
  simp only [Prod.mk.injEq, and_true] at hp
  exact hp.symm

/-- the digits are over at the end of input: (reconsume in) the numeric character reference end
state, then that state's step -/
theorem crnum_eof_finish (o : Opts) (ho : o.exactErrors = false) (tree : Tree) {m : Mach} {t : Tok} {cr : CharRefSt}
    (c : CRCtx m t cr) (hts : t.state = numSt cr) (hnr : NumRel cr t.characterReferenceCode)
    (m1 : Mach) (inp1 chars : Str)
    (he : finishNumericStatus o (emitErr m "EOF in numeric character reference") [] cr = .ok (m1, inp1, cr, .done chars))
    (m2 : Mach) (hp : processCharRef (m1.setCharRef none) chars = (m2, .cont)) (ht2 : TInv m2) :
    Reach tree t [] (fun t' rest' => Rel m2 inp1 t' rest') := by
  rw [crnum_finishNumericStatus o _ [] cr _ hnr] at he
  simp only [Except.ok.injEq, Prod.mk.injEq, true_and, CRStatus.done.injEq] at he
  obtain ⟨e1, e2, e3⟩ := he
  subst e1 e2 e3
  have hm2 := crnum_eof_m2 (crnum_finishNumeric_ret o ho c _ (ErrOnly.emitErr m _)) _ (by simp)
    (by simpa using crnum_char_ne_nul _) m2 hp
  subst hm2
  refine Reach.stepEq (crnum_spec_other tree t cr [] hts (by simp) (by simp)) ?_
  have := crnum_finish o ho tree c hnr _ (ErrOnly.emitErr m "EOF in numeric character reference") [] ht2
  simpa using this

/-- **`end_of_file` of the character-reference tokenizer (start and numeric sub-states)** -/
theorem crEof_sim_num (o : Opts) (ho : o.exactErrors = false) (tree : Tree)
    (m : Mach) (t : Tok) (rest : Str) (h : RelCore m [] t rest) (cr : CharRefSt) (hcr : m.charRef = some cr)
    (hst : cr.state = .begin ∨ cr.state = .octothorpe ∨ (∃ b, cr.state = .numeric b) ∨ cr.state = .numericSemicolon)
    (m1 : Mach) (inp1 chars : Str) (he : crEof o m [] cr = .ok (m1, inp1, chars))
    (m2 : Mach) (hp : processCharRef (m1.setCharRef none) chars = (m2, .cont)) :
    Reach tree t rest (fun t' rest' => Rel m2 inp1 t' rest') := by
  obtain ⟨c, hd, hrest⟩ := crnum_ctx h hcr
  have ht2 : TInv m2 := by
    have := (finish_charRef_inv o m cr h.tinv.linv hcr m1 inp1 chars he).1
    rw [hp] at this; exact this
  have hnb : cr.nameBuf = none := by
    apply c.lines.noBuf
    · rcases hst with hst | hst | ⟨b, hst⟩ | hst <;> rw [hst] <;> simp
    · rcases hst with hst | hst | ⟨b, hst⟩ | hst <;> rw [hst] <;> simp
  rw [hnb] at hrest
  simp only [Option.getD_none, List.nil_append, crnum_norm_nil] at hrest
  subst hrest
  rw [crEof_eq] at he
  unfold crEofOnce at he
  rcases hst with hst | hst | ⟨b, hst⟩ | hst
  · -- `&` at the very end
    rw [hst] at hd
    obtain ⟨hts, hf⟩ := hd
    simp only [hst, Except.ok.injEq, Prod.mk.injEq] at he
    obtain ⟨e1, e2, e3⟩ := he
    subst e1 e2 e3
    have hm2 := crnum_eof_m2_nil c.ret m2 hp
    subst hm2
    refine Reach.stepEq (t1 := finT t ['&'] t.characterReferenceCode) (n := 0) ?_ (Reach.done ?_)
    · rw [crnum_sstep_begin tree t [] hts]
      exact crnum_begin_other t none (by simp)
    · have := c.done ['&'] [] [] t.characterReferenceCode (by simp) ht2
      simpa using this
  · -- `&#` at the very end
    rw [hst] at hd
    obtain ⟨hts, htb, hf⟩ := hd
    simp only [hst, Except.ok.injEq, Prod.mk.injEq] at he
    obtain ⟨e1, e2, e3⟩ := he
    subst e1 e2 e3
    have c' := c.errOnly (ErrOnly.emitErr m "EOF after '#' in character reference")
    have hm2 := crnum_eof_m2_nil c'.ret m2 hp
    subst hm2
    refine Reach.stepEq (t1 := crTok t .decimalCharacterReferenceStart t.temporaryBuffer 0) (n := 0) ?_ ?_
    · rw [crnum_sstep_num tree t [] hts]
      exact crnum_num_other t none (by simp) (by simp)
    refine Reach.stepEq (t1 := finT t t.temporaryBuffer 0) (n := 0) ?_ (Reach.done ?_)
    · have := crnum_spec_start_other tree (crTok t .decimalCharacterReferenceStart t.temporaryBuffer 0)
        { inAttr := false } [] rfl rfl
      simpa using this
    · have := c'.done ['&'] ['#'] [] 0 (by decide) ht2
      rw [htb]
      simpa using this
  · rw [hst] at hd
    obtain ⟨hb, _, hd⟩ := hd
    simp only [hst] at he
    cases hsd : cr.seenDigit with
    | false =>
      -- `&#` / `&#x` without digits at the very end
      simp only [hsd, Bool.false_eq_true, if_false] at hd
      obtain ⟨hts, htb, hn0, hbig, hc0⟩ := hd
      simp only [hsd, Bool.not_false, if_true, crnum_unconsumeNumeric, Except.ok.injEq, Prod.mk.injEq] at he
      obtain ⟨e1, e2, e3⟩ := he
      subst e1 e2 e3
      have c' := c.errOnly (ErrOnly.emitErr m "Numeric character reference without digits")
      have hm2 := crnum_eof_m2_nil c'.ret m2 hp
      subst hm2
      refine Reach.stepEq (crnum_spec_start_other tree t cr [] hts (by simp)) (Reach.done ?_)
      have := c'.done ['&'] ('#' :: cr.hexMarker.toList) [] t.characterReferenceCode
        (crnum_lag_ok (c.tinv.crt cr hcr)) ht2
      rw [htb]
      simpa using this
    | true =>
      simp only [hsd, if_true] at hd
      obtain ⟨hts, hnr⟩ := hd
      simp only [hsd, Bool.not_true, Bool.false_eq_true, if_false] at he
      cases hfs : finishNumericStatus o (emitErr m "EOF in numeric character reference") [] cr with
      | error e => rw [hfs] at he; simp at he
      | ok v =>
        obtain ⟨mx, ix, crx, stx⟩ := v
        have hfs' := hfs
        rw [crnum_finishNumericStatus o _ [] cr _ hnr] at hfs'
        simp only [Except.ok.injEq, Prod.mk.injEq] at hfs'
        obtain ⟨_, _, e3, e4⟩ := hfs'
        subst e3 e4
        rw [hfs] at he
        simp only [Except.ok.injEq, Prod.mk.injEq] at he
        obtain ⟨e1, e2, e3⟩ := he
        subst e1 e2 e3
        exact crnum_eof_finish o ho tree c hts hnr _ _ _ hfs m2 hp ht2
  · rw [hst] at hd
    obtain ⟨_, hts, hnr, _⟩ := hd
    simp only [hst] at he
    cases hfs : finishNumericStatus o (emitErr m "EOF in numeric character reference") [] cr with
    | error e => rw [hfs] at he; simp at he
    | ok v =>
      obtain ⟨mx, ix, crx, stx⟩ := v
      have hfs' := hfs
      rw [crnum_finishNumericStatus o _ [] cr _ hnr] at hfs'
      simp only [Except.ok.injEq, Prod.mk.injEq] at hfs'
      obtain ⟨_, _, e3, e4⟩ := hfs'
      subst e3 e4
      rw [hfs] at he
      simp only [Except.ok.injEq, Prod.mk.injEq] at he
      obtain ⟨e1, e2, e3⟩ := he
      subst e1 e2 e3
      exact crnum_eof_finish o ho tree c hts hnr _ _ _ hfs m2 hp ht2

end H5V.Lemmas.HtmlTokSpec
