import H5V.Lemmas.HtmlTBSkelShapeAfter
import H5V.Lemmas.HtmlTBSkelShapeIns2
/-!
C06, second invariant layer: steps that keep the invariant in every mode (`PS`), the Text mode,
BeforeHead.
-/
namespace H5V.Props.C06
open H5V.Model.Dom hiding Str
open H5V.Model.HtmlTB hiding Str
open H5V.Lemmas.Dom

/-- `prog` keeps the core of the invariant, the stack, the names and the mode fields, whatever the mode -/
class PS {α : Type} (prog : M α) : Prop where
  p : ∀ s r up ph a s', Core s r up ph → prog s = .ok (a, s') →
    Core s' r up ph ∧ SameNames s.dom s'.dom up ∧ s'.mode = s.mode ∧ s'.origMode = s.origMode ∧
      s'.headElem = s.headElem

instance (priority := low) {α : Type} (m : M α) [h : IsQ m] : PS m :=
  ⟨fun s r up ph a s' hs e => by
    have q := h.q s a s' e
    exact ⟨hs.qs q, fun y _ => q.nm y, q.mode, by rw [q.rest], by rw [q.rest]⟩⟩
instance {α β : Type} (m : M α) (f : α → M β) [h1 : PS m] [h2 : ∀ a, PS (f a)] : PS (m >>= f) :=
  ⟨fun s r up ph b s'' hs e => by
    obtain ⟨a, s', e1, e2⟩ := bind_ok.mp e
    obtain ⟨a1, a2, a3, a4, a5⟩ := h1.p s r up ph a s' hs e1
    obtain ⟨b1, b2, b3, b4, b5⟩ := (h2 a).p s' r up ph b s'' a1 e2
    exact ⟨b1, fun y hy => by rw [b2 y hy, a2 y hy], b3.trans a3, b4.trans a4, b5.trans a5⟩⟩
instance {α : Type} (a : α) : PS (pure a : M α) :=
  ⟨fun s r up ph b s' hs e => by obtain ⟨_, rfl⟩ := pure_ok.mp e; exact ⟨hs, fun _ _ => rfl, rfl, rfl, rfl⟩⟩
instance {α : Type} (c : Prop) [Decidable c] (a b : M α) [h1 : PS a] [h2 : PS b] : PS (if c then a else b) := by
  by_cases hc : c
  · simp only [hc, if_true]; exact h1
  · simp only [hc, if_false]; exact h2

instance (t : Id) (attrs : List Attr) : PS (sinkUnit (.addAttrsIfMissing t attrs)) :=
  ⟨fun s r up ph a s' hs e => by
    obtain ⟨out, e⟩ := sinkUnit_ok.mp e
    obtain ⟨d, hd, rfl⟩ := sink_ok.mp e
    have hl := hs.late
    have hd' : s.dom.addAttrsIfMissing t attrs = .ok d := apply_unit hd
    obtain ⟨hb', hc', hk⟩ := addAttrsIfMissing_spec hl.base hd'
    exact ⟨hs.transfer (hl.dom hb' hc' (hk 0)).1 hc' (rs_addAttrs hl.base hd') (by rw [hk]; exact hs.rdoc)
      rfl rfl rfl rfl rfl (addAttrs_adj hs.adj hd'), hs.sameNames hc', rfl, rfl, rfl⟩⟩

instance (tag : Tag) : PS (inBodyHtml tag) := by unfold inBodyHtml; infer_instance

theorem PS.shape {α : Type} {prog : M α} (h : PS prog) {s s' : State} {r : Id} {up : List Id} {ph : Phase} {a : α}
    (hs : ShapeAt s r up ph) (e : prog s = .ok (a, s')) : ShapeAt s' r up ph ∧ s'.mode = s.mode := by
  obtain ⟨h1, h2, h3, h4, h5⟩ := h.p s r up ph a s' hs.core e
  exact ⟨⟨h1, hs.fits.transfer h2 h5 h3 h4⟩, h3⟩

/-- `Good` through a `PS` step -/
theorem Good.ps {α : Type} {prog : M α} [h : PS prog] {r : Id} {s s' : State} {a : α} (hg : Good r s)
    (e : prog s = .ok (a, s')) : Good r s' ∧ s'.mode = s.mode := by
  obtain ⟨up, ph, hs, _⟩ := hg
  obtain ⟨h1, h2⟩ := h.shape hs e
  exact ⟨⟨up, ph, h1, fun _ => FPok.triv _ _⟩, h2⟩

theorem Good.mk' {r : Id} {s : State} {up : List Id} {ph : Phase} (h : ShapeAt s r up ph) : Good r s :=
  ⟨up, ph, h, fun _ => FPok.triv _ _⟩


/-! ### the Text mode -/

theorem fitsM_of_fits {s : State} {om : Mode} {up : List Id} {ph : Phase} (h1 : om ≠ .text) (h2 : om ≠ .inTableText)
    (hm : s.mode = om) (h : Fits s.dom s.headElem om up ph) : FitsM s up ph := by
  unfold FitsM
  rw [hm]
  cases om <;> first | exact h | exact absurd rfl h1 | exact absurd rfl h2

theorem isLate_of_fits {d : Dom} {head : Option Id} {om : Mode} {up : List Id} {ph : Phase}
    (h : Fits d head om up ph) : isLate om = true := by
  cases om <;> first | rfl | exact absurd h id

/-- leaving the Text mode: the raw-text element is popped, the original mode is current again -/
theorem text_exit {s s3 : State} {r x : Id} {up0 : List Id} {ph : Phase} {om : Mode}
    (hs : ShapeAt s r (up0 ++ [x]) ph) (hom1 : om ≠ .text) (hom2 : om ≠ .inTableText)
    (hfit : Fits s.dom s.headElem om up0 ph) (p : PR s s3 [x]) :
    ShapeAt { s3 with origMode := none, mode := om } r up0 ph := by
  have hc3 : Core s3 r up0 ph := hs.core.pr p rfl
  have hnm : ∀ y, nm s3.dom y = nm s.dom y := nm_of_nodes p.nodes
  have hhead : s3.headElem = s.headElem := by rw [p.rest]
  refine ⟨hc3.modes (isLate_of_fits hfit) (by intro o ho; cases ho), ?_⟩
  refine fitsM_of_fits hom1 hom2 rfl ?_
  show Fits s3.dom s3.headElem om up0 ph
  rw [hhead]
  exact hfit.congr (fun y _ => hnm y)

theorem modeOk_text : ModeOk .text := by
  intro tok ht r s res s' hg hm e
  obtain ⟨up, ph, hs, _⟩ := hg
  have hf := hs.fits
  unfold FitsM at hf
  rw [hm] at hf
  obtain ⟨om, up0, x, ho, hup, hom1, hom2, hfit, hxn, _⟩ := hf
  subst hup
  have hc := hs.core
  have hlast : s.openElems.getLast? = some x := by
    rw [hc.stack, show r :: (up0 ++ [x]) = (r :: up0) ++ [x] from rfl, List.getLast?_append]; simp
  have hxr : x ≠ r := hc.up_ne_root (by simp)
  have hnf : fosterTarget (nm s.dom x) = false := by
    cases hq : fosterTarget (nm s.dom x) with
    | false => rfl
    | true =>
      obtain ⟨a, ha, heq⟩ := htmlIn_eq hq
      rw [heq] at hxn
      simp only [List.mem_cons, List.not_mem_nil, or_false] at ha
      rcases ha with rfl | rfl | rfl | rfl | rfl <;> (simp [lit_name] at hxn)
  have hnt : nm s.dom x ≠ hN "template" := by
    intro h0; rw [h0] at hxn; simp [lit_name] at hxn
  have e' : stepText tok s = .ok (res, s') := e
  unfold stepText at e'
  cases tok with
  | chars st text =>
    dsimp only at e'
    obtain ⟨h1, rfl, _⟩ := appendText_shape hs hlast hnf hnt (ht.ne _ _ rfl) (fun h0 => absurd h0 hxr) e'
    exact Good.mk' h1
  | eof =>
    dsimp only at e'
    obtain ⟨_, s1, e1, e2⟩ := bind_ok.mp e'
    have q1 := (qs_unexpected e1).1
    obtain ⟨b, s2, e3, e4⟩ := bind_ok.mp e2
    have q2 : QS s1 s2 := IsQ.q _ _ _ e3
    -- the optional `mark_script_already_started`
    have key : ∀ s3 : State, QS s s3 →
        (pop >>= fun _ => getS >>= fun s => match s.origMode with
          | none => panicAt "unwrap-none" "rules.rs:1023" "orig_mode.take().unwrap()"
          | some m => set { s with origMode := none } >>= fun _ => pure (ProcessResult.reprocess m Token.eof)) s3
          = .ok (res, s') → Out r s' res := by
      intro s3 q3 e5
      obtain ⟨y, s4, e6, e7⟩ := bind_ok.mp e5
      have p4 := pop_sem e6
      have hs3 := hs.qs q3
      have hy : y = x := by
        have := p4.stack
        rw [q3.openElems, hc.stack, show r :: (up0 ++ [x]) = (r :: up0) ++ [x] from rfl] at this
        obtain ⟨_, hz⟩ := List.append_inj' this rfl
        simpa using hz.symm
      subst hy
      rw [getS_bind] at e7
      have ho4 : s4.origMode = some om := by rw [p4.rest, q3.rest]; exact ho
      rw [ho4] at e7
      dsimp only at e7
      obtain ⟨_, s5, e8, e9⟩ := bind_ok.mp e7
      obtain ⟨rfl, rfl⟩ := pure_ok.mp e9
      have hs5 := set_ok.mp e8
      have hfit3 : Fits s3.dom s3.headElem om up0 ph := by
        have : s3.headElem = s.headElem := by rw [q3.rest]
        rw [this]
        exact hfit.congr (fun z _ => q3.nm z)
      have := text_exit hs3 hom1 hom2 hfit3 p4
      refine ⟨?_, inferInstance⟩
      rw [hs5]
      exact Good.mk' this
    rcases ite_run e4 with ⟨_, e4⟩ | ⟨_, e4⟩
    · rw [getS_bind] at e4
      cases hgl : s2.openElems.getLast? with
      | none =>
        rw [hgl] at e4; dsimp only at e4
        obtain ⟨_, _, h1, _⟩ := bind_ok.mp e4
        exact absurd h1 panicAt_ok
      | some c =>
        rw [hgl] at e4; dsimp only at e4
        obtain ⟨cur, s3, e5, e6⟩ := bind_ok.mp e4
        obtain ⟨rfl, rfl⟩ := pure_ok.mp e5
        obtain ⟨_, s4, e7, e8⟩ := bind_ok.mp e6
        have q4 : QS s2 s4 := qs_sinkUnit e7
        exact key s4 ((q1.trans q2).trans q4) e8
    · exact key s2 (q1.trans q2) e4
  | tag tag =>
    dsimp only at e'
    rcases ite_run e' with ⟨_, e'⟩ | ⟨_, e'⟩
    · obtain ⟨y, s4, e6, e7⟩ := bind_ok.mp e'
      have p4 := pop_sem e6
      have hy : y = x := by
        have := p4.stack
        rw [hc.stack, show r :: (up0 ++ [x]) = (r :: up0) ++ [x] from rfl] at this
        obtain ⟨_, hz⟩ := List.append_inj' this rfl
        simpa using hz.symm
      subst hy
      rw [getS_bind] at e7
      have ho4 : s4.origMode = some om := by rw [p4.rest]; exact ho
      rw [ho4] at e7
      dsimp only at e7
      obtain ⟨_, s5, e8, e9⟩ := bind_ok.mp e7
      have hs5 := set_ok.mp e8
      have hgood : Good r s5 := by
        rw [hs5]
        exact Good.mk' (text_exit hs hom1 hom2 hfit p4)
      rcases ite_run e9 with ⟨_, e9⟩ | ⟨_, e9⟩
      · obtain ⟨rfl, rfl⟩ := pure_ok.mp e9; exact hgood
      · obtain ⟨rfl, rfl⟩ := pure_ok.mp e9; exact hgood
    · exact absurd e' panicAt_ok
  | _ => dsimp only at e'; exact absurd e' panicAt_ok


/-! ### BeforeHead -/

theorem root_last {s : State} {r : Id} {ph : Phase} (hc : Core s r [] ph) :
    s.openElems.getLast? = some r ∧ fosterTarget (nm s.dom r) = false ∧ nm s.dom r ≠ hN "template" := by
  refine ⟨by rw [hc.stack]; rfl, by rw [hc.root_name]; decide, by rw [hc.root_name]; decide⟩

/-- the `head` element is inserted below the root: from BeforeHead to InHead -/
theorem beforeHead_insertHead {s s1 : State} {r el : Id} {attrs : List Attr} {dup : Bool}
    (hs : ShapeAt s r [] .p0) (e : insertElement true nsHtml "head".toList attrs dup s = .ok (el, s1)) :
    ShapeAt { s1 with headElem := some el, mode := .inHead } r [el] .p1 := by
  have hc := hs.core
  obtain ⟨hl, hnf, hnt⟩ := root_last hc
  obtain ⟨s5, hs1, hres⟩ := insertElement_res hc hl hnf hnt e
  simp only [if_true] at hs1
  obtain ⟨hre, _, hcore⟩ := hc.insRoot hres (by decide) (by decide)
  have he0 : rootElems s.dom r = [] := hc.elems.2
  have he1 : ElemsOk s5.dom (some el) r .p1 := ⟨el, rfl, by rw [hre, he0]; rfl, hres.nmel⟩
  have hcore' := hcore .p1 (some el) (by intro x hx; cases hx; exact ⟨hres.elel, hres.loose⟩)
    he1 (Afx.of_elems he1 (fun h => h))
  have hm := hcore'.modes (m' := .inHead) (om' := s5.origMode) rfl hres.late.ml.orig
  rw [hs1]
  exact ⟨hm, ⟨el, rfl, rfl, rfl⟩⟩

theorem modeOk_beforeHead : ModeOk .beforeHead := by
  intro tok ht r s res s' hg hm e
  obtain ⟨up, ph, hs, _⟩ := id hg
  have hf := hs.fits
  unfold FitsM at hf
  rw [hm] at hf
  obtain ⟨rfl, rfl⟩ : up = [] ∧ ph = .p0 := hf
  have hc := hs.core
  obtain ⟨hl, hnf, hnt⟩ := root_last hc
  have e' : stepBeforeHead tok s = .ok (res, s') := e
  unfold stepBeforeHead at e'
  -- "anything else"
  have anyElse : ∀ (t : Token), TokW t →
      (insertPhantom "head" >>= fun h => (modS fun s => { s with headElem := some h }) >>= fun _ =>
        pure (ProcessResult.reprocess .inHead t)) s = .ok (res, s') → Out r s' res := by
    intro t htw e0
    obtain ⟨el, s1, e1, e2⟩ := bind_ok.mp e0
    obtain ⟨_, s2, e3, e4⟩ := bind_ok.mp e2
    obtain ⟨rfl, rfl⟩ := pure_ok.mp e4
    rw [modS_ok.mp e3]
    have := beforeHead_insertHead hs e1
    exact ⟨Good.mk' this, htw⟩
  cases tok with
  | chars st text =>
    cases st with
    | notSplit => dsimp only at e'; obtain ⟨rfl, rfl⟩ := pure_ok.mp e'; exact hg
    | whitespace => dsimp only at e'; obtain ⟨rfl, rfl⟩ := pure_ok.mp e'; exact hg
    | notWhitespace => dsimp only at e'; exact anyElse _ ht e'
  | comment text =>
    dsimp only at e'
    obtain ⟨h1, rfl, _⟩ := appendComment_shape hs hl hnf hnt e'
    exact Good.mk' h1
  | eof => dsimp only at e'; exact anyElse _ ht e'
  | nullChar => dsimp only at e'; exact anyElse _ ht e'
  | tag tag =>
    dsimp only at e'
    rcases ite_run e' with ⟨h1, e'⟩ | ⟨h1, e'⟩
    · rw [stepInBody_html h1] at e'
      rw [done_of_inBodyHtml e']
      exact (hg.ps e').1
    · rcases ite_run e' with ⟨h2, e'⟩ | ⟨h2, e'⟩
      · obtain ⟨a, ha, hn, _⟩ := name_of_isStart h2
        simp only [List.mem_cons, List.not_mem_nil, or_false] at ha
        subst ha
        obtain ⟨el, s1, e1, e2⟩ := bind_ok.mp e'
        obtain ⟨_, s2, e3, e4⟩ := bind_ok.mp e2
        obtain ⟨_, s3, e5, e6⟩ := bind_ok.mp e4
        obtain ⟨rfl, rfl⟩ := pure_ok.mp e6
        rw [modS_ok.mp e5, modS_ok.mp e3]
        unfold insertElementFor at e1
        rw [hn] at e1
        have := beforeHead_insertHead hs e1
        exact Good.mk' this
      · rcases ite_run e' with ⟨h3, e'⟩ | ⟨h3, e'⟩
        · exact anyElse _ ht e'
        · rcases ite_run e' with ⟨h4, e'⟩ | ⟨h4, e'⟩
          · obtain ⟨q, rfl⟩ := qs_unexpected e'
            exact hg.qs q
          · exact anyElse _ ht e'

end H5V.Props.C06
