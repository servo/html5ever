import H5V.Lemmas.HtmlTokCharRefRun
/-!
The character-reference sub-tokenizer against `Spec.CharRef.specCharRef`, case by case: neither a
name nor a number, named references (no match / match / legacy attribute exception), numeric
references; each for text that decides the outcome and for text cut off by the end of input.
The headline statements are in `H5V.Props.C14Run`.
-/
namespace H5V.Props.C14
open H5V H5V.Model.HtmlTok

/-- the parse-error tokens `errs` (all at the current line) amount to "parse error" iff `err` -/
def ErrsOk (m : Mach) (errs : Out) (err : Bool) : Prop :=
  (∀ t ∈ errs, ∃ msg, t = (Token.error msg, m.line)) ∧ (errs ≠ [] ↔ err = true)

theorem errsOk_nil (m : Mach) : ErrsOk m [] false := ⟨by simp, by simp⟩

theorem errsOk_one (m : Mach) (t : Token) (h : ∃ msg, t = .error msg) : ErrsOk m [(t, m.line)] true := by
  obtain ⟨msg, rfl⟩ := h
  exact ⟨by simp, by simp⟩

theorem errsOk_two (m : Mach) (t u : Token) (ht : ∃ msg, t = .error msg) (hu : ∃ msg, u = .error msg) :
    ErrsOk m [(t, m.line), (u, m.line)] true := by
  obtain ⟨_, rfl⟩ := ht
  obtain ⟨_, rfl⟩ := hu
  exact ⟨by simp, by simp⟩

/-- the sub-tokenizer, started on `M.setCharRef (some cr)` with the text `s`, resolves the reference
after `k ≤ |s| + 3` steps: `chars` delivered, `s.drop n` left in the input, parse error iff `err` -/
def ResolvesFrom (o : Opts) (b : Bool) (M : Mach) (cr : CharRefSt) (s : Str) (chars : Str) (n : Nat)
    (err : Bool) : Prop :=
  ∃ errs lf k, Steps o (M.setCharRef (some cr)) s (deliver b M errs lf chars) (s.drop n) k ∧
    k ≤ s.length + 3 ∧ ErrsOk M errs err ∧ (lf = M.ignoreLf ∨ lf = false)

theorem done_step (o : Opts) {M : Mach} (b : Bool) (hs : StartState b M.state) {cr : CharRefSt} {inp : Str}
    {e : Out} {lf : Bool} {c : Option CharRefSt} {i1 : Str} {cr1 : CharRefSt} {chars : Str}
    (h : crStep o (M.setCharRef (some cr)) inp cr = .ok (pend M e lf c, i1, cr1, .done chars)) :
    stepCharRef o (M.setCharRef (some cr)) inp cr =
      .cont (deliver b M e lf (if chars.isEmpty then ['&'] else chars)) i1 := by
  rw [stepCharRef_done h]; exact process_deliver b M e lf c chars i1 hs

/-- packaging: some steps, then the step that delivers -/
theorem resolves_mk (o : Opts) (b : Bool) {M : Mach} {cr0 : CharRefSt} {s : Str} {crm : CharRefSt} {imid : Str}
    {k : Nat} (hsteps : Steps o (M.setCharRef (some cr0)) s (M.setCharRef (some crm)) imid k)
    {e : Out} {lf : Bool} {chars' chars : Str} {i1 : Str} {n : Nat} {err : Bool}
    (hlast : stepCharRef o (M.setCharRef (some crm)) imid crm = .cont (deliver b M e lf chars') i1)
    (hchars : chars' = chars) (hi : i1 = s.drop n) (hk : k + 1 ≤ s.length + 3) (he : ErrsOk M e err)
    (hlf : lf = M.ignoreLf ∨ lf = false) : ResolvesFrom o b M cr0 s chars n err := by
  subst hchars hi
  exact ⟨e, lf, 1 + k, hsteps.trans (Steps.one (setCR_charRef _ _) hlast), by omega, he, hlf⟩

/-! ### neither a name nor a number -/

theorem run_none (o : Opts) (b : Bool) {M : Mach} (hr : M.reconsume = false) (hst : StartState b M.state)
    (c : Char) (rest : Str) (hc : isAsciiAlnum c = false) (hh : c ≠ '#') :
    ResolvesFrom o b M { inAttr := b } (c :: rest) ['&'] 0 false := by
  have h := begin_other o hr { inAttr := b } c rest rfl hc hh
  rw [pend_start] at h
  have hs := done_step o b hst h
  exact resolves_mk o b (Steps.refl _ _) hs rfl rfl (by simp) (errsOk_nil M) (Or.inl rfl)

/-! ### the spec of named references, in the walk's terms -/

theorem legacyKeep_spec (b : Bool) (last next : Option Char) :
    (b && last != some ';' && (next == some '=' || next.any Spec.CharRef.isAlnum)) = legacyKeep b last next := by
  rw [isAlnum_fun]; rfl

theorem specNamed_match (b : Bool) (s : Str) (atEof : Bool) (k : Nat) (v : Nat × Nat)
    (hnp : (!atEof && Spec.CharRef.isNamePrefix s) = false)
    (hl : Spec.CharRef.longestName s = some (k, v)) :
    Spec.CharRef.specNamed b s atEof =
      if legacyKeep b s[k - 1]? s[k]? = true then Spec.CharRef.literal false
      else .resolved (Spec.CharRef.nameChars v) k (s[k - 1]? != some ';') := by
  unfold Spec.CharRef.specNamed
  simp only [hnp, Bool.false_eq_true, ↓reduceIte, hl, legacyKeep_spec]

theorem specNamed_nomatch (b : Bool) (s : Str) (atEof : Bool)
    (hnp : (!atEof && Spec.CharRef.isNamePrefix s) = false)
    (hl : Spec.CharRef.longestName s = none) :
    Spec.CharRef.specNamed b s atEof = Spec.CharRef.specAmbiguous s atEof := by
  unfold Spec.CharRef.specNamed
  simp only [hnp, Bool.false_eq_true, ↓reduceIte, hl]

theorem specAmbiguous_nil (s : Str) (atEof : Bool) (h : s.dropWhile isAsciiAlnum = []) :
    Spec.CharRef.specAmbiguous s atEof = if atEof then Spec.CharRef.literal false else .needMore := by
  unfold Spec.CharRef.specAmbiguous
  rw [isAlnum_fun]
  simp only [h]

theorem specAmbiguous_cons (s : Str) (atEof : Bool) (f : Char) (t : Str)
    (h : s.dropWhile isAsciiAlnum = f :: t) :
    Spec.CharRef.specAmbiguous s atEof = Spec.CharRef.literal (f == ';') := by
  unfold Spec.CharRef.specAmbiguous
  rw [isAlnum_fun]
  simp only [h]

/-- a text that ran the walk dry is in the map -/
theorem walk_dry_lookup (inp : Str) : ∀ (nb : Str) (mt : Option (Nat × Nat)) (len : Nat) nb' mt' len',
    Walk.walk nb mt len inp = (nb', mt', len', true) → inp ≠ [] → (entityLookup (nb ++ inp)).isSome = true := by
  induction inp with
  | nil => intro nb mt len nb' mt' len' _ h; exact absurd rfl h
  | cons c rest ih =>
    intro nb mt len nb' mt' len' h _
    simp only [Walk.walk] at h
    cases hl : entityLookup (nb ++ [c]) with
    | none => rw [hl] at h; simp at h
    | some v =>
      rw [hl] at h
      simp only at h
      cases rest with
      | nil => rw [hl]; rfl
      | cons d rest' =>
        have e : nb ++ c :: d :: rest' = (nb ++ [c]) ++ d :: rest' := by simp
        rw [e]
        split at h
        · exact ih _ _ _ _ _ _ h (by simp)
        · exact ih _ _ _ _ _ _ h (by simp)

/-- a text one of whose non-empty initial segments is outside the map is outside the map -/
theorem lookup_none_of_prefix (q p : Str) (hq : q ≠ []) (hpre : q <+: p) (h : entityLookup q = none) :
    entityLookup p = none := by
  cases hp : entityLookup p with
  | none => rfl
  | some v =>
    have := Walk.lookup_prefix_closed (p.map Char.toNat) (q.map Char.toNat) (by simpa using hq)
      (List.IsPrefix.map _ hpre) (by unfold entityLookup at hp; rw [hp]; rfl)
    unfold entityLookup at h
    rw [h] at this; simp at this

theorem isNamePrefix_false_of {s : Str} {atEof : Bool} {chars : Str} {n : Nat} {err : Bool} {b : Bool}
    (h : Spec.CharRef.specNamed b s atEof = .resolved chars n err) :
    (!atEof && Spec.CharRef.isNamePrefix s) = false := by
  unfold Spec.CharRef.specNamed at h
  cases hx : (!atEof && Spec.CharRef.isNamePrefix s) with
  | false => rfl
  | true => simp [hx] at h

/-! ### named references, decided by the text -/

/-- everything the walk knows when it stops on the character `c` that takes the buffer out of the
map: `s = pre ++ c :: post`, the sub-tokenizer stands before `c` with buffer `pre` -/
structure Stopped (o : Opts) (b : Bool) (M : Mach) (s pre : Str) (c : Char) (post : Str)
    (mt : Option (Nat × Nat)) (len : Nat) (cr : CharRefSt) : Prop where
  split : s = pre ++ c :: post
  out : entityLookup (pre ++ [c]) = none
  steps : Steps o (M.setCharRef (some { inAttr := b })) s (M.setCharRef (some cr)) (c :: post) (pre.length + 1)
  named : NamedSt cr b pre mt len
  best : Walk.Best pre mt len
  longest : Spec.CharRef.longestName s = mt.map (fun v => (len, v))

theorem walk_stopped (o : Opts) (b : Bool) {M : Mach} (hr : M.reconsume = false) (c0 : Char) (rest : Str)
    (hc0 : isAsciiAlnum c0 = true) (nb' : Str) (mt' : Option (Nat × Nat)) (len' : Nat)
    (hw : Walk.walk [] none 0 (c0 :: rest) = (nb', mt', len', false)) :
    ∃ pre c post cr, Stopped o b M (c0 :: rest) pre c post mt' len' cr := by
  have hb0 := begin_alnum o hr { inAttr := b } c0 rest rfl hc0
  have hn0 : NamedSt { ({ inAttr := b } : CharRefSt) with state := .named, nameBuf := some [] } b [] none 0 :=
    ⟨rfl, rfl, rfl, rfl, rfl, Or.inl rfl⟩
  obtain ⟨pre, c, post, cr, e1, e2, e3, hs, hn⟩ := (named_loop o hr b (c0 :: rest) [] none 0 _ hn0 nb' mt' len' false hw).2 rfl
  simp only [List.nil_append] at e2 hn
  subst e2
  obtain ⟨_, _, h3, _⟩ := Walk.walk_best (c0 :: rest) [] none 0 Walk.best_nil _ mt' len' false hw
  obtain ⟨hbest, _, _⟩ := h3 rfl
  have htk : (pre ++ [c]).take ((pre ++ [c]).length - 1) = pre := by simp
  rw [htk] at hbest
  obtain ⟨l1, l2⟩ := Walk.C14_named_longest (c0 :: rest) _ mt' len' hw
  refine ⟨pre, c, post, cr, e1, e3, ?_, hn, hbest, ?_⟩
  · exact ((Steps.one (setCR_charRef _ _) hb0).trans hs).cast (by omega)
  · apply longestName_of_best _ _ _ _ l2
    intro v hv
    obtain ⟨a1, a2, a3⟩ := l1 v hv
    obtain ⟨b1, b2, _, _⟩ := hbest.1 v hv
    refine ⟨a3, ?_, a1, a2⟩
    rw [e1]; simp; omega

/-- no identifier matched and the walk stopped on something that is not an ASCII alphanumeric -/
theorem run_nomatch_other (o : Opts) (b : Bool) {M : Mach} (hr : M.reconsume = false)
    (hst : StartState b M.state) {s pre : Str} {c : Char} {post : Str} {len : Nat} {cr : CharRefSt}
    (h : Stopped o b M s pre c post none len cr) (hc : isAsciiAlnum c = false) (hpre : pre ≠ []) :
    ResolvesFrom o b M { inAttr := b } s ['&'] 0 (c == ';') := by
  have h1 := named_last o hr h.named c post h.out
  rw [finishNamed_nomatch o _ post { cr with nameBuf := some (pre ++ [c]) } (pre ++ [c]) c rfl h.named.mt hc] at h1
  have hlen : (pre ++ [c]).length > 1 := by
    cases pre with
    | nil => exact absurd rfl hpre
    | cons x xs => simp
  have hinp : (pre ++ [c]) ++ post = s.drop 0 := by rw [h.split]; simp
  have hk : pre.length + 1 + 1 ≤ s.length + 3 := by rw [h.split]; simp; omega
  by_cases hsemi : c = ';'
  · have hc2 : (c = ';' ∧ (pre ++ [c]).length > 1) := ⟨hsemi, hlen⟩
    rw [if_pos hc2, pend_start, pend_nameErr] at h1
    refine resolves_mk o b h.steps (done_step o b hst h1) rfl hinp hk ?_ (Or.inl rfl)
    simp only [hsemi, beq_self_eq_true]
    exact errsOk_one M _ (nameErrTok_isErr o _)
  · have hc2 : ¬ (c = ';' ∧ (pre ++ [c]).length > 1) := fun x => hsemi x.1
    rw [if_neg hc2, pend_start] at h1
    refine resolves_mk o b h.steps (done_step o b hst h1) rfl hinp hk ?_ (Or.inl rfl)
    have : (c == ';') = false := by simpa using hsemi
    rw [this]; exact errsOk_nil M

/-- the bogus-name loop after a stop on an ASCII alphanumeric without a match -/
theorem nomatch_bogus_steps (o : Opts) (b : Bool) {M : Mach} (hr : M.reconsume = false)
    {s pre : Str} {c : Char} {post : Str} {len : Nat} {cr : CharRefSt}
    (h : Stopped o b M s pre c post none len cr) (hc : isAsciiAlnum c = true) :
    ∃ cr', Steps o (M.setCharRef (some { inAttr := b })) s (M.setCharRef (some cr'))
        (post.dropWhile isAsciiAlnum) ((post.takeWhile isAsciiAlnum).length + (1 + (pre.length + 1))) ∧
      BogusSt cr' b (pre ++ [c] ++ post.takeWhile isAsciiAlnum) := by
  have h1 := named_last o hr h.named c post h.out
  rw [finishNamed_bogus o _ post { cr with nameBuf := some (pre ++ [c]) } (pre ++ [c]) c rfl h.named.mt hc] at h1
  have hs1 := step_prog h1
  obtain ⟨cr', hs2, hb2⟩ := bogus_loop o hr b post (pre ++ [c])
    { cr with nameBuf := some (pre ++ [c]), state := .bogusName } ⟨rfl, h.named.attr, rfl⟩
  exact ⟨cr', (h.steps.trans (Steps.one (setCR_charRef _ _) hs1)).trans hs2, hb2⟩

theorem run_nomatch_bogus (o : Opts) (b : Bool) {M : Mach} (hr : M.reconsume = false)
    (hst : StartState b M.state) {s pre : Str} {c : Char} {post : Str} {len : Nat} {cr : CharRefSt}
    (h : Stopped o b M s pre c post none len cr) (hc : isAsciiAlnum c = true) (f : Char) (post' : Str)
    (hdw : post.dropWhile isAsciiAlnum = f :: post') :
    ResolvesFrom o b M { inAttr := b } s ['&'] 0 (f == ';') := by
  obtain ⟨cr', hs, hb⟩ := nomatch_bogus_steps o b hr h hc
  rw [hdw] at hs
  have hf := dropWhile_head_false _ _ _ _ hdw
  have h1 := bogus_last o hr hb f post' hf
  have hpost : post = post.takeWhile isAsciiAlnum ++ f :: post' := by
    rw [← hdw]; exact (List.takeWhile_append_dropWhile).symm
  have hinp : (pre ++ [c] ++ post.takeWhile isAsciiAlnum ++ [f]) ++ post' = s.drop 0 := by
    rw [h.split]
    conv => rhs; rw [hpost]
    simp
  have hk : (post.takeWhile isAsciiAlnum).length + (1 + (pre.length + 1)) + 1 ≤ s.length + 3 := by
    rw [h.split]
    conv => rhs; rw [hpost]
    simp; omega
  by_cases hsemi : f = ';'
  · rw [if_pos hsemi, pend_start, pend_nameErr] at h1
    refine resolves_mk o b hs (done_step o b hst h1) rfl hinp hk ?_ (Or.inl rfl)
    simp only [hsemi, beq_self_eq_true]
    exact errsOk_one M _ (nameErrTok_isErr o _)
  · rw [if_neg hsemi, pend_start] at h1
    refine resolves_mk o b hs (done_step o b hst h1) rfl hinp hk ?_ (Or.inl rfl)
    have : (f == ';') = false := by simpa using hsemi
    rw [this]; exact errsOk_nil M

/-- what `process_char_ref` makes of the characters of a match (never empty) is the standard's -/
theorem nameChars_deliver (v : Nat × Nat) :
    (if (if v.2 = 0 then [Char.ofNat v.1] else [Char.ofNat v.1, Char.ofNat v.2]).isEmpty = true then ['&']
      else (if v.2 = 0 then [Char.ofNat v.1] else [Char.ofNat v.1, Char.ofNat v.2])) = Spec.CharRef.nameChars v := by
  unfold Spec.CharRef.nameChars
  split <;> rfl

/-- facts about a remembered match -/
theorem stopped_match_facts {o : Opts} {b : Bool} {M : Mach} {s pre : Str} {c : Char} {post : Str}
    {v : Nat × Nat} {len : Nat} {cr : CharRefSt} (h : Stopped o b M s pre c post (some v) len cr) :
    0 < len ∧ len ≤ pre.length ∧ isValidScalar v.1 = true ∧ isValidScalar v.2 = true ∧
    (pre ++ [c])[len - 1]? = s[len - 1]? ∧ (pre ++ [c])[len]? = s[len]? := by
  obtain ⟨a1, a2, a3, a4⟩ := h.best.1 v rfl
  obtain ⟨v1, v2⟩ := key_valid _ v a3 a4
  have e : s = (pre ++ [c]) ++ post := by rw [h.split]; simp
  have hl1 : len - 1 < (pre ++ [c]).length := by simp; omega
  have hl2 : len < (pre ++ [c]).length := by simp; omega
  refine ⟨a1, a2, v1, v2, ?_, ?_⟩
  · rw [e]; exact (List.getElem?_append_left hl1).symm
  · rw [e]; exact (List.getElem?_append_left hl2).symm

/-- a match, kept as text by the legacy attribute rule -/
theorem run_match_keep (o : Opts) (b : Bool) {M : Mach} (hr : M.reconsume = false)
    (hst : StartState b M.state) {s pre : Str} {c : Char} {post : Str} {v : Nat × Nat} {len : Nat}
    {cr : CharRefSt} (h : Stopped o b M s pre c post (some v) len cr)
    (hk : legacyKeep b s[len - 1]? s[len]? = true) :
    ResolvesFrom o b M { inAttr := b } s ['&'] 0 false := by
  obtain ⟨f1, f2, f3, f4, f5, f6⟩ := stopped_match_facts h
  have h1 := named_last o hr h.named c post h.out
  rw [finishNamed_match o _ post { cr with nameBuf := some (pre ++ [c]) } (pre ++ [c]) (some c) v.1 v.2 rfl
      h.named.mt (by show 0 < cr.nameLen; rw [h.named.len]; exact f1)
      (by show cr.nameLen ≤ _; rw [h.named.len]; simp; omega) f3 f4] at h1
  have e1 : ({ cr with nameBuf := some (pre ++ [c]) } : CharRefSt).nameLen = len := h.named.len
  have e2 : ({ cr with nameBuf := some (pre ++ [c]) } : CharRefSt).inAttr = b := h.named.attr
  rw [e1, e2, f5, f6, if_pos hk, pend_start] at h1
  have hinp : (pre ++ [c]) ++ post = s.drop 0 := by rw [h.split]; simp
  have hk' : pre.length + 1 + 1 ≤ s.length + 3 := by rw [h.split]; simp; omega
  exact resolves_mk o b h.steps (done_step o b hst h1) rfl hinp hk' (errsOk_nil M) (Or.inl rfl)

/-- a match that is delivered -/
theorem run_match_deliver (o : Opts) (b : Bool) {M : Mach} (hr : M.reconsume = false)
    (hst : StartState b M.state) {s pre : Str} {c : Char} {post : Str} {v : Nat × Nat} {len : Nat}
    {cr : CharRefSt} (h : Stopped o b M s pre c post (some v) len cr)
    (hk : ¬ legacyKeep b s[len - 1]? s[len]? = true) :
    ResolvesFrom o b M { inAttr := b } s (Spec.CharRef.nameChars v) len (s[len - 1]? != some ';') := by
  obtain ⟨f1, f2, f3, f4, f5, f6⟩ := stopped_match_facts h
  have h1 := named_last o hr h.named c post h.out
  rw [finishNamed_match o _ post { cr with nameBuf := some (pre ++ [c]) } (pre ++ [c]) (some c) v.1 v.2 rfl
      h.named.mt (by show 0 < cr.nameLen; rw [h.named.len]; exact f1)
      (by show cr.nameLen ≤ _; rw [h.named.len]; simp; omega) f3 f4] at h1
  have e1 : ({ cr with nameBuf := some (pre ++ [c]) } : CharRefSt).nameLen = len := h.named.len
  have e2 : ({ cr with nameBuf := some (pre ++ [c]) } : CharRefSt).inAttr = b := h.named.attr
  rw [e1, e2, f5, f6, if_neg hk] at h1
  have hinp : (pre ++ [c]).drop len ++ post = s.drop len := by
    have e : s = (pre ++ [c]) ++ post := by rw [h.split]; simp
    have hl : len ≤ (pre ++ [c]).length := by simp; omega
    rw [e]; exact (List.drop_append_of_le_length hl).symm
  have hk' : pre.length + 1 + 1 ≤ s.length + 3 := by rw [h.split]; simp; omega
  by_cases hsemi : s[len - 1]? = some ';'
  · rw [if_pos hsemi, pend_start, pend_setLf] at h1
    refine resolves_mk o b h.steps (done_step o b hst h1) (nameChars_deliver v) hinp hk' ?_ (Or.inr rfl)
    have : (s[len - 1]? != some ';') = false := by simp [hsemi]
    rw [this]; exact errsOk_nil M
  · rw [if_neg hsemi, pend_start, pend_emitErr, pend_setLf] at h1
    refine resolves_mk o b h.steps (done_step o b hst h1) (nameChars_deliver v) hinp hk' ?_ (Or.inr rfl)
    have : (s[len - 1]? != some ';') = true := by simp [hsemi]
    rw [this]; exact errsOk_one M _ ⟨_, rfl⟩

theorem literal_inj {e : Bool} {chars : Str} {n : Nat} {err : Bool}
    (h : Spec.CharRef.literal e = .resolved chars n err) : chars = ['&'] ∧ n = 0 ∧ err = e := by
  unfold Spec.CharRef.literal at h
  injection h with h1 h2 h3
  exact ⟨h1.symm, h2.symm, h3.symm⟩

theorem stopped_pre_alnum {o : Opts} {b : Bool} {M : Mach} {s pre : Str} {c : Char} {post : Str} {len : Nat}
    {cr : CharRefSt} (h : Stopped o b M s pre c post none len cr) : ∀ x ∈ pre, isAsciiAlnum x = true := by
  apply alnum_of_prefix_nokey
  · rcases h.named.inmap with e | e
    · rw [e]; rfl
    · exact e
  · cases hp : pre with
    | nil => rintro ⟨v, hv1, hv2⟩; simp [entityLookup, entityLookupN] at hv1; rw [← hv1] at hv2; simp at hv2
    | cons x xs =>
      have := h.best.2 pre.length (by simp [Walk.bestLen, hp]) (Nat.le_refl _)
      rw [List.take_length, hp] at this
      exact this

/-- without a match the buffer is alphanumeric, so the alphanumeric run of the text goes on from the
character the walk stopped on -/
theorem stopped_dropWhile {o : Opts} {b : Bool} {M : Mach} {s pre : Str} {c : Char} {post : Str} {len : Nat}
    {cr : CharRefSt} (h : Stopped o b M s pre c post none len cr) :
    s.dropWhile isAsciiAlnum = (c :: post).dropWhile isAsciiAlnum := by
  rw [h.split, dropWhile_append_all _ _ _ (stopped_pre_alnum h)]

/-- **named references (decided by the text).** -/
theorem run_named (o : Opts) (b : Bool) {M : Mach} (hr : M.reconsume = false) (hst : StartState b M.state)
    (c0 : Char) (rest : Str) (hc0 : isAsciiAlnum c0 = true) (chars : Str) (n : Nat) (err : Bool)
    (hspec : Spec.CharRef.specNamed b (c0 :: rest) false = .resolved chars n err) :
    ResolvesFrom o b M { inAttr := b } (c0 :: rest) chars n err := by
  have hnp := isNamePrefix_false_of hspec
  rcases hw : Walk.walk [] none 0 (c0 :: rest) with ⟨nb', mt', len', dry⟩
  cases dry with
  | true =>
    have := walk_dry_lookup (c0 :: rest) [] none 0 nb' mt' len' hw (by simp)
    simp only [List.nil_append] at this
    rw [← isNamePrefix_eq] at this
    simp [this] at hnp
  | false =>
    obtain ⟨pre, c, post, cr, h⟩ := walk_stopped o b hr c0 rest hc0 nb' mt' len' hw
    cases mt' with
    | some v =>
      rw [specNamed_match b _ false len' v hnp h.longest] at hspec
      by_cases hk : legacyKeep b (c0 :: rest)[len' - 1]? (c0 :: rest)[len']? = true
      · rw [if_pos hk] at hspec
        obtain ⟨rfl, rfl, rfl⟩ := literal_inj hspec
        exact run_match_keep o b hr hst h hk
      · rw [if_neg hk] at hspec
        injection hspec with h1 h2 h3
        subst h1 h2 h3
        exact run_match_deliver o b hr hst h hk
    | none =>
      rw [specNamed_nomatch b _ false hnp h.longest] at hspec
      by_cases hc : isAsciiAlnum c = true
      · have hdw : (c0 :: rest).dropWhile isAsciiAlnum = post.dropWhile isAsciiAlnum := by
          rw [stopped_dropWhile h, List.dropWhile_cons, if_pos hc]
        cases hd : post.dropWhile isAsciiAlnum with
        | nil =>
          rw [specAmbiguous_nil _ _ (hdw.trans hd)] at hspec
          simp at hspec
        | cons f post' =>
          rw [specAmbiguous_cons _ _ f post' (hdw.trans hd)] at hspec
          obtain ⟨rfl, rfl, rfl⟩ := literal_inj hspec
          exact run_nomatch_bogus o b hr hst h hc f post' hd
      · have hc' : isAsciiAlnum c = false := by simpa using hc
        have hdw : (c0 :: rest).dropWhile isAsciiAlnum = c :: post := by
          rw [stopped_dropWhile h, List.dropWhile_cons, if_neg hc]
        rw [specAmbiguous_cons _ _ c post hdw] at hspec
        obtain ⟨rfl, rfl, rfl⟩ := literal_inj hspec
        have hpre : pre ≠ [] := by
          intro e
          have := h.split
          rw [e] at this
          simp only [List.nil_append, List.cons.injEq] at this
          rw [← this.1, hc0] at hc'
          simp at hc'
        exact run_nomatch_other o b hr hst h hc' hpre

/-! ### numeric references -/

theorem digitPred_eq (base : Nat) (hb : base = 10 ∨ base = 16) :
    (fun c => (toDigit c base).isSome) = (fun c => (Spec.CharRef.digitVal base c).isSome) := by
  funext c; rw [toDigit_eq c base hb]

theorem digitFun_eq (base : Nat) (hb : base = 10 ∨ base = 16) :
    (fun c => toDigit c base) = Spec.CharRef.digitVal base := by
  funext c; rw [toDigit_eq c base hb]

/-- the register and latch after the digit loop stand for the value of the digits -/
theorem accum_value (base : Nat) (hb : base = 10 ∨ base = 16) (tw : Str) (cr : CharRefSt)
    (hnum : cr.num = (accum base (tw.filterMap (fun c => toDigit c base)) (0, false)).1)
    (hbig : cr.numTooBig = (accum base (tw.filterMap (fun c => toDigit c base)) (0, false)).2) :
    let v := Spec.CharRef.digitsValue base (tw.filterMap (Spec.CharRef.digitVal base))
    ((decide (cr.num > 0x10FFFF) || cr.numTooBig) = true ↔ v > 0x10FFFF) ∧ (v ≤ 0x10FFFF → cr.num = v) := by
  have hb' : 2 ≤ base ∧ base ≤ 16 := by rcases hb with rfl | rfl <;> omega
  have hd : ∀ d ∈ tw.filterMap (fun c => toDigit c base), d < base := by
    intro d hd
    rw [List.mem_filterMap] at hd
    obtain ⟨c, _, hc⟩ := hd
    rw [toDigit_eq c base hb] at hc
    exact digitVal_lt base hb c d hc
  have := C14_numeric_accumulator base hb' _ hd
  simp only at this
  rw [valueOf_eq, digitFun_eq base hb] at this
  rw [digitFun_eq base hb] at hnum hbig
  intro v
  rw [hnum, hbig]
  exact this

/-- the digits and what follows them (`s = # x? u`, the sub-tokenizer stands before `u` in state
`numeric base` with nothing accumulated) -/
theorem run_digits (o : Opts) (b : Bool) {M : Mach} (hr : M.reconsume = false) (hst : StartState b M.state)
    (s u : Str) (base : Nat) (hb : base = 10 ∨ base = 16) (hex : Option Char) (cr2 : CharRefSt) (k0 : Nat)
    (hs0 : Steps o (M.setCharRef (some { inAttr := b })) s (M.setCharRef (some cr2)) u k0) (hk0 : k0 ≤ 2)
    (hn : NumSt cr2 b base hex (0, false) false) (hsu : s = ('#' :: hex.toList) ++ u)
    (chars : Str) (n : Nat) (err : Bool)
    (hspec : Spec.CharRef.specDigits base (1 + hex.toList.length) u false = .resolved chars n err) :
    ResolvesFrom o b M { inAttr := b } s chars n err := by
  unfold Spec.CharRef.specDigits at hspec
  rw [← digitPred_eq base hb] at hspec
  dsimp only at hspec
  rw [drop_length_takeWhile] at hspec
  obtain ⟨cr3, hs3, hn3⟩ := digit_loop o hr b base hex u (0, false) false cr2 hn
  have hu : u = u.takeWhile (fun c => (toDigit c base).isSome) ++ u.dropWhile (fun c => (toDigit c base).isSome) :=
    List.takeWhile_append_dropWhile.symm
  generalize htw : u.takeWhile (fun c => (toDigit c base).isSome) = tw at hspec hs3 hn3 hu
  cases hdw : u.dropWhile (fun c => (toDigit c base).isSome) with
  | nil => simp [hdw] at hspec
  | cons f post =>
    have hf : toDigit f base = none := by
      have := dropWhile_head_false _ _ _ _ hdw
      simpa using this
    rw [hdw] at hs3 hu hspec
    simp only [List.isEmpty_cons, Bool.false_and, Bool.false_eq_true, ↓reduceIte, List.head?_cons] at hspec
    cases tw with
    | nil =>
      simp only [List.isEmpty_nil, ↓reduceIte] at hspec
      obtain ⟨rfl, rfl, rfl⟩ := literal_inj hspec
      simp only [List.isEmpty_nil, Bool.not_true, Bool.or_false, List.length_nil] at hn3 hs3
      have h1 := numeric_nodigits o hr hn3 f post hf
      rw [pend_start, pend_emitErr] at h1
      have hinp : ('#' :: hex.toList) ++ (f :: post) = s.drop 0 := by
        rw [hsu, hu]; rfl
      refine resolves_mk o b (hs0.trans hs3) (done_step o b hst h1) rfl hinp (by omega) ?_ (Or.inl rfl)
      exact errsOk_one M _ ⟨_, rfl⟩
    | cons d0 tw' =>
      simp only [List.isEmpty_cons, Bool.false_eq_true, ↓reduceIte] at hspec
      simp only [List.isEmpty_cons, Bool.not_false, Bool.or_true] at hn3
      have hs4 := numeric_to_semi o hr hn3 f post hf
      have hstep4 := (hs0.trans hs3).trans (Steps.one (setCR_charRef _ _) hs4)
      have h5 := semi_step o hr { cr3 with state := .numericSemicolon } f post rfl
      obtain ⟨hbig, hval⟩ := accum_value base hb (d0 :: tw') { cr3 with state := .numericSemicolon } hn3.num hn3.big
      have hlen : s.length = 1 + hex.toList.length + (d0 :: tw').length + (1 + post.length) := by
        rw [hsu, hu]; simp; omega
      have hkk : 1 + ((d0 :: tw').length + k0) + 1 ≤ s.length + 3 := by rw [hlen]; omega
      by_cases hsemi : f = ';'
      · subst hsemi
        simp only [beq_self_eq_true, ↓reduceIte] at hspec
        injection hspec with e1 e2 e3
        subst e1 e2 e3
        rw [if_pos rfl, finishNumericStatus_eq o _ post _ _ hbig hval] at h5
        have hinp : post = s.drop (1 + hex.toList.length + (d0 :: tw').length + 1) := by
          rw [hsu, hu]
          have e : ('#' :: hex.toList) ++ ((d0 :: tw') ++ ';' :: post) =
              (('#' :: hex.toList) ++ (d0 :: tw') ++ [';']) ++ post := by simp
          rw [e, List.drop_left' (by simp; omega)]
        cases herr : (Spec.CharRef.numericEnd (Spec.CharRef.digitsValue base
            ((d0 :: tw').filterMap (Spec.CharRef.digitVal base)))).2 with
        | true =>
          rw [herr, if_pos rfl, pend_start, pend_numericErr] at h5
          exact resolves_mk o b hstep4 (done_step o b hst h5) rfl hinp hkk
            (errsOk_one M _ (numErrTok_isErr o _)) (Or.inl rfl)
        | false =>
          rw [herr, if_neg (by simp), pend_start] at h5
          exact resolves_mk o b hstep4 (done_step o b hst h5) rfl hinp hkk (errsOk_nil M) (Or.inl rfl)
      · have hne : (some f == some ';') = false := by simpa using hsemi
        simp only [hne, Bool.false_eq_true, ↓reduceIte] at hspec
        injection hspec with e1 e2 e3
        subst e1 e2 e3
        rw [if_neg hsemi, finishNumericStatus_eq o _ (f :: post) _ _ hbig hval] at h5
        have hinp : f :: post = s.drop (1 + hex.toList.length + (d0 :: tw').length) := by
          rw [hsu, hu]
          have e : ('#' :: hex.toList) ++ ((d0 :: tw') ++ f :: post) =
              (('#' :: hex.toList) ++ (d0 :: tw')) ++ f :: post := by simp
          rw [e, List.drop_left' (by simp; omega)]
        cases herr : (Spec.CharRef.numericEnd (Spec.CharRef.digitsValue base
            ((d0 :: tw').filterMap (Spec.CharRef.digitVal base)))).2 with
        | true =>
          rw [herr, if_pos rfl, pend_start, pend_emitErr, pend_numericErr] at h5
          exact resolves_mk o b hstep4 (done_step o b hst h5) rfl hinp hkk
            (errsOk_two M _ _ (numErrTok_isErr o _) ⟨_, rfl⟩) (Or.inl rfl)
        | false =>
          rw [herr, if_neg (by simp), pend_start, pend_emitErr] at h5
          exact resolves_mk o b hstep4 (done_step o b hst h5) rfl hinp hkk
            (errsOk_one M _ ⟨_, rfl⟩) (Or.inl rfl)

theorem hexCond_true (c : Char) (rest : Str) (hx : c = 'x' ∨ c = 'X') :
    ((c :: rest).head? == some 'x' || (c :: rest).head? == some 'X') = true := by
  rcases hx with rfl | rfl <;> simp

theorem hexCond_false (c : Char) (rest : Str) (hx : ¬ (c = 'x' ∨ c = 'X')) :
    ((c :: rest).head? == some 'x' || (c :: rest).head? == some 'X') = false := by
  rw [Bool.eq_false_iff]
  intro h
  apply hx
  simp only [List.head?_cons, Bool.or_eq_true, beq_iff_eq, Option.some.injEq] at h
  exact h

/-- **numeric references (decided by the text).** -/
theorem run_numeric (o : Opts) (b : Bool) {M : Mach} (hr : M.reconsume = false) (hst : StartState b M.state)
    (t : Str) (chars : Str) (n : Nat) (err : Bool)
    (hspec : Spec.CharRef.specNumeric t false = .resolved chars n err) :
    ResolvesFrom o b M { inAttr := b } ('#' :: t) chars n err := by
  have hb0 := begin_hash o hr { inAttr := b } t rfl
  cases t with
  | nil => simp [Spec.CharRef.specNumeric, Spec.CharRef.specDigits] at hspec
  | cons c rest =>
    unfold Spec.CharRef.specNumeric at hspec
    by_cases hx : c = 'x' ∨ c = 'X'
    · rw [if_pos (hexCond_true c rest hx)] at hspec
      have h2 := octo_hex o hr { ({ inAttr := b } : CharRefSt) with state := .octothorpe } c rest rfl hx
      exact run_digits o b hr hst _ rest 16 (Or.inr rfl) (some c) _ 2
        ((Steps.one (setCR_charRef _ _) hb0).trans (Steps.one (setCR_charRef _ _) h2)) (by omega)
        ⟨rfl, rfl, rfl, rfl, rfl, rfl⟩ rfl chars n err hspec
    · rw [if_neg (by rw [hexCond_false c rest hx]; simp)] at hspec
      have hx' : c ≠ 'x' ∧ c ≠ 'X' := ⟨fun e => hx (Or.inl e), fun e => hx (Or.inr e)⟩
      have h2 := octo_dec o hr { ({ inAttr := b } : CharRefSt) with state := .octothorpe } c rest rfl hx'
      exact run_digits o b hr hst _ (c :: rest) 10 (Or.inl rfl) none _ 2
        ((Steps.one (setCR_charRef _ _) hb0).trans (Steps.one (setCR_charRef _ _) h2)) (by omega)
        ⟨rfl, rfl, rfl, rfl, rfl, rfl⟩ rfl chars n err hspec

/-- **every reference whose text decides the outcome.** -/
theorem run_resolves (o : Opts) (b : Bool) {M : Mach} (hr : M.reconsume = false) (hst : StartState b M.state)
    (s : Str) (chars : Str) (n : Nat) (err : Bool)
    (hspec : Spec.CharRef.specCharRef b s false = .resolved chars n err) :
    ResolvesFrom o b M { inAttr := b } s chars n err := by
  cases s with
  | nil => simp [Spec.CharRef.specCharRef] at hspec
  | cons c t =>
    simp only [Spec.CharRef.specCharRef, isAlnum_eq] at hspec
    by_cases hc : isAsciiAlnum c = true
    · rw [if_pos hc] at hspec
      exact run_named o b hr hst c t hc chars n err hspec
    · rw [if_neg hc] at hspec
      by_cases hh : c = '#'
      · subst hh
        rw [if_pos rfl] at hspec
        exact run_numeric o b hr hst t chars n err hspec
      · rw [if_neg hh] at hspec
        obtain ⟨rfl, rfl, rfl⟩ := literal_inj hspec
        exact run_none o b hr hst c t (by simpa using hc) hh

/-! ### references cut off by the end of input -/

/-- the text `s` is used up with the reference still pending (`k` steps, then `Stuck`);
`end_of_file` on that state delivers `chars` (`chars'` before the "empty means `&`" rule), gives
`s.drop n` back and reports an error iff `err` -/
def ResolvesAtEof (o : Opts) (M : Mach) (cr0 : CharRefSt) (s chars : Str) (n : Nat) (err : Bool) :
    Prop :=
  ∃ crm k errs lf cx chars', Steps o (M.setCharRef (some cr0)) s (M.setCharRef (some crm)) [] k ∧
    k ≤ s.length + 3 ∧
    crEof o (M.setCharRef (some crm)) [] crm = .ok (pend M errs lf cx, s.drop n, chars') ∧
    (if chars'.isEmpty then ['&'] else chars') = chars ∧ ErrsOk M errs err ∧ (lf = M.ignoreLf ∨ lf = false)

theorem eof_mk (o : Opts) {M : Mach} {cr0 : CharRefSt} {s : Str} {crm : CharRefSt} {k : Nat}
    (hsteps : Steps o (M.setCharRef (some cr0)) s (M.setCharRef (some crm)) [] k)
    {e : Out} {lf : Bool} {cx : Option CharRefSt} {chars' chars : Str} {i1 : Str} {cr1 : CharRefSt} {n : Nat}
    {err : Bool}
    (hlast : eofOnce o (M.setCharRef (some crm)) [] crm = .ok (pend M e lf cx, i1, cr1, .done chars'))
    (hchars : (if chars'.isEmpty then ['&'] else chars') = chars) (hi : i1 = s.drop n) (hk : k ≤ s.length + 3)
    (he : ErrsOk M e err) (hlf : lf = M.ignoreLf ∨ lf = false) : ResolvesAtEof o M cr0 s chars n err := by
  subst hi
  exact ⟨crm, k, e, lf, cx, chars', hsteps, hk, crEof_of_done o _ _ _ _ _ _ _ hlast, hchars, he, hlf⟩

/-- everything the walk knows when the text runs out inside the map -/
structure Dry (o : Opts) (b : Bool) (M : Mach) (s : Str) (mt : Option (Nat × Nat)) (len : Nat) (cr : CharRefSt) :
    Prop where
  inmap : (entityLookup s).isSome = true
  steps : Steps o (M.setCharRef (some { inAttr := b })) s (M.setCharRef (some cr)) [] (s.length + 1)
  named : NamedSt cr b s mt len
  best : Walk.Best s mt len
  longest : Spec.CharRef.longestName s = mt.map (fun v => (len, v))

theorem walk_dry (o : Opts) (b : Bool) {M : Mach} (hr : M.reconsume = false) (c0 : Char) (rest : Str)
    (hc0 : isAsciiAlnum c0 = true) (nb' : Str) (mt' : Option (Nat × Nat)) (len' : Nat)
    (hw : Walk.walk [] none 0 (c0 :: rest) = (nb', mt', len', true)) :
    ∃ cr, Dry o b M (c0 :: rest) mt' len' cr := by
  have hb0 := begin_alnum o hr { inAttr := b } c0 rest rfl hc0
  have hn0 : NamedSt { ({ inAttr := b } : CharRefSt) with state := .named, nameBuf := some [] } b [] none 0 :=
    ⟨rfl, rfl, rfl, rfl, rfl, Or.inl rfl⟩
  obtain ⟨cr, hs, hn⟩ := (named_loop o hr b (c0 :: rest) [] none 0 _ hn0 nb' mt' len' true hw).1 rfl
  obtain ⟨_, _, _, h4⟩ := Walk.walk_best (c0 :: rest) [] none 0 Walk.best_nil _ mt' len' true hw
  obtain ⟨hbest, e⟩ := h4 rfl
  simp only [List.nil_append] at e
  subst e
  have hin := walk_dry_lookup (c0 :: rest) [] none 0 _ mt' len' hw (by simp)
  simp only [List.nil_append] at hin
  refine ⟨cr, hin, ((Steps.one (setCR_charRef _ _) hb0).trans hs).cast (by simp), hn, hbest, ?_⟩
  exact longestName_of_best _ _ _ hbest.1 hbest.2

theorem dry_alnum {o : Opts} {b : Bool} {M : Mach} {s : Str} {len : Nat} {cr : CharRefSt}
    (h : Dry o b M s none len cr) (hne : s ≠ []) : ∀ x ∈ s, isAsciiAlnum x = true := by
  apply alnum_of_prefix_nokey _ h.inmap
  have := h.best.2 s.length (by
    simp only [Walk.bestLen]
    cases s with
    | nil => exact absurd rfl hne
    | cons x xs => simp) (Nat.le_refl _)
  rw [List.take_length] at this
  exact this

theorem dropWhile_all_nil {α : Type} (p : α → Bool) (l : List α) (h : ∀ x ∈ l, p x = true) :
    l.dropWhile p = [] := by
  have := dropWhile_append_all p l [] h
  simpa using this

/-- **named references cut off by the end of input.** -/
theorem eof_named (o : Opts) (b : Bool) {M : Mach} (hr : M.reconsume = false)
    (c0 : Char) (rest : Str) (hc0 : isAsciiAlnum c0 = true)
    (hspec : Spec.CharRef.specNamed b (c0 :: rest) false = .needMore) :
    ∃ chars n err, Spec.CharRef.specNamed b (c0 :: rest) true = .resolved chars n err ∧
      ResolvesAtEof o M { inAttr := b } (c0 :: rest) chars n err := by
  have hnpT : (!true && Spec.CharRef.isNamePrefix (c0 :: rest)) = false := rfl
  rcases hw : Walk.walk [] none 0 (c0 :: rest) with ⟨nb', mt', len', dry⟩
  cases dry with
  | true =>
    obtain ⟨cr, h⟩ := walk_dry o b hr c0 rest hc0 nb' mt' len' hw
    have hk : (c0 :: rest).length + 1 ≤ (c0 :: rest).length + 3 := by omega
    cases mt' with
    | none =>
      rw [specNamed_nomatch b _ true hnpT h.longest,
        specAmbiguous_nil _ true (dropWhile_all_nil _ _ (dry_alnum h (by simp)))]
      refine ⟨_, _, _, rfl, ?_⟩
      have h1 : eofOnce o (M.setCharRef (some cr)) [] cr = finishNamed o (M.setCharRef (some cr)) [] cr none := by
        simp only [eofOnce, h.named.st]
      rw [finishNamed_nomatch_eof o _ [] cr _ h.named.buf h.named.mt, pend_start] at h1
      exact eof_mk o h.steps h1 rfl (by simp) hk (errsOk_nil M) (Or.inl rfl)
    | some v =>
      obtain ⟨a1, a2, a3, a4⟩ := h.best.1 v rfl
      obtain ⟨v1, v2⟩ := key_valid _ v a3 a4
      rw [specNamed_match b _ true len' v hnpT h.longest]
      have h1 : eofOnce o (M.setCharRef (some cr)) [] cr = finishNamed o (M.setCharRef (some cr)) [] cr none := by
        simp only [eofOnce, h.named.st]
      rw [finishNamed_match o _ [] cr (c0 :: rest) none v.1 v.2 h.named.buf h.named.mt
        (by rw [h.named.len]; exact a1) (by rw [h.named.len]; exact a2) v1 v2, h.named.len, h.named.attr] at h1
      by_cases hkp : legacyKeep b (c0 :: rest)[len' - 1]? (c0 :: rest)[len']? = true
      · rw [if_pos hkp] at h1 ⊢
        rw [pend_start] at h1
        exact ⟨_, _, _, rfl, eof_mk o h.steps h1 rfl (by simp) hk (errsOk_nil M) (Or.inl rfl)⟩
      · rw [if_neg hkp] at h1 ⊢
        refine ⟨_, _, _, rfl, ?_⟩
        by_cases hsemi : (c0 :: rest)[len' - 1]? = some ';'
        · rw [if_pos hsemi, pend_start, pend_setLf] at h1
          refine eof_mk o h.steps h1 (nameChars_deliver v) (by simp) hk ?_ (Or.inr rfl)
          have : ((c0 :: rest)[len' - 1]? != some ';') = false := by simp [hsemi]
          rw [this]; exact errsOk_nil M
        · rw [if_neg hsemi, pend_start, pend_emitErr, pend_setLf] at h1
          refine eof_mk o h.steps h1 (nameChars_deliver v) (by simp) hk ?_ (Or.inr rfl)
          have : ((c0 :: rest)[len' - 1]? != some ';') = true := by simp [hsemi]
          rw [this]; exact errsOk_one M _ ⟨_, rfl⟩
  | false =>
    obtain ⟨pre, c, post, cr, h⟩ := walk_stopped o b hr c0 rest hc0 nb' mt' len' hw
    have hnone : entityLookup (c0 :: rest) = none := by
      apply lookup_none_of_prefix (pre ++ [c]) _ (by simp) _ h.out
      rw [h.split]; exact ⟨post, by simp⟩
    have hnp : (!false && Spec.CharRef.isNamePrefix (c0 :: rest)) = false := by
      rw [isNamePrefix_eq, hnone]; rfl
    cases mt' with
    | some v =>
      rw [specNamed_match b _ false len' v hnp h.longest] at hspec
      split at hspec <;> simp [Spec.CharRef.literal] at hspec
    | none =>
      rw [specNamed_nomatch b _ false hnp h.longest] at hspec
      rw [specNamed_nomatch b _ true hnpT h.longest]
      by_cases hc : isAsciiAlnum c = true
      · have hdw : (c0 :: rest).dropWhile isAsciiAlnum = post.dropWhile isAsciiAlnum := by
          rw [stopped_dropWhile h, List.dropWhile_cons, if_pos hc]
        cases hd : post.dropWhile isAsciiAlnum with
        | cons f post' =>
          rw [specAmbiguous_cons _ _ f post' (hdw.trans hd)] at hspec
          simp [Spec.CharRef.literal] at hspec
        | nil =>
          rw [specAmbiguous_nil _ true (hdw.trans hd)]
          refine ⟨_, _, _, rfl, ?_⟩
          obtain ⟨cr', hs, hb⟩ := nomatch_bogus_steps o b hr h hc
          rw [hd] at hs
          have htw : post.takeWhile isAsciiAlnum = post := by
            have := @List.takeWhile_append_dropWhile _ isAsciiAlnum post
            rw [hd, List.append_nil] at this
            exact this
          rw [htw] at hs hb
          have h1 : eofOnce o (M.setCharRef (some cr')) [] cr' =
              .ok (M.setCharRef (some cr'), (pre ++ [c] ++ post) ++ [], { cr' with nameBuf := none }, .done []) := by
            simp only [eofOnce, hb.st, hb.buf]
          rw [pend_start] at h1
          refine eof_mk o hs h1 rfl ?_ ?_ (errsOk_nil M) (Or.inl rfl)
          · rw [h.split]; simp
          · rw [h.split]; simp; omega
      · have hc' : isAsciiAlnum c = false := by simpa using hc
        have hdw : (c0 :: rest).dropWhile isAsciiAlnum = c :: post := by
          rw [stopped_dropWhile h, List.dropWhile_cons, if_neg hc]
        rw [specAmbiguous_cons _ _ c post hdw] at hspec
        simp [Spec.CharRef.literal] at hspec

/-- the digits cut off by the end of input -/
theorem eof_digits (o : Opts) (b : Bool) {M : Mach} (hr : M.reconsume = false)
    (s u : Str) (base : Nat) (hb : base = 10 ∨ base = 16) (hex : Option Char) (cr2 : CharRefSt) (k0 : Nat)
    (hs0 : Steps o (M.setCharRef (some { inAttr := b })) s (M.setCharRef (some cr2)) u k0) (hk0 : k0 ≤ 2)
    (hn : NumSt cr2 b base hex (0, false) false) (hsu : s = ('#' :: hex.toList) ++ u)
    (hspec : Spec.CharRef.specDigits base (1 + hex.toList.length) u false = .needMore) :
    ∃ chars n err, Spec.CharRef.specDigits base (1 + hex.toList.length) u true = .resolved chars n err ∧
      ResolvesAtEof o M { inAttr := b } s chars n err := by
  unfold Spec.CharRef.specDigits at hspec ⊢
  rw [← digitPred_eq base hb] at hspec ⊢
  dsimp only at hspec ⊢
  rw [drop_length_takeWhile] at hspec ⊢
  obtain ⟨cr3, hs3, hn3⟩ := digit_loop o hr b base hex u (0, false) false cr2 hn
  have hu : u = u.takeWhile (fun c => (toDigit c base).isSome) ++ u.dropWhile (fun c => (toDigit c base).isSome) :=
    List.takeWhile_append_dropWhile.symm
  generalize htw : u.takeWhile (fun c => (toDigit c base).isSome) = tw at hspec hs3 hn3 hu ⊢
  cases hdw : u.dropWhile (fun c => (toDigit c base).isSome) with
  | cons f post =>
    rw [hdw] at hspec
    simp only [List.isEmpty_cons, Bool.false_and, Bool.false_eq_true, ↓reduceIte] at hspec
    split at hspec
    · simp [Spec.CharRef.literal] at hspec
    · split at hspec <;> simp at hspec
  | nil =>
    rw [hdw] at hs3 hu
    simp only [List.append_nil] at hu
    simp only [List.isEmpty_nil, Bool.not_true, Bool.and_false, Bool.false_eq_true, ↓reduceIte, List.head?_nil]
    cases tw with
    | nil =>
      simp only [List.isEmpty_nil, ↓reduceIte]
      refine ⟨_, _, _, rfl, ?_⟩
      simp only [List.isEmpty_nil, Bool.not_true, Bool.or_false, List.length_nil] at hn3 hs3
      have h1 : eofOnce o (M.setCharRef (some cr3)) [] cr3 =
          .ok (emitErr (M.setCharRef (some cr3)) "Numeric character reference without digits",
               ('#' :: hex.toList) ++ [], cr3, .done []) := by
        simp only [eofOnce, hn3.st, hn3.seen, Bool.not_false, ↓reduceIte, unconsumeNumeric]
        rw [← hn3.hex]
        cases cr3.hexMarker <;> rfl
      rw [pend_start, pend_emitErr] at h1
      refine eof_mk o (hs0.trans hs3) h1 rfl ?_ ?_ (errsOk_one M _ ⟨_, rfl⟩) (Or.inl rfl)
      · rw [hsu, hu]; simp
      · omega
    | cons d0 tw' =>
      simp only [List.isEmpty_cons, Bool.false_eq_true, ↓reduceIte]
      have hne : ((none : Option Char) == some ';') = false := rfl
      simp only [hne, Bool.false_eq_true, ↓reduceIte]
      refine ⟨_, _, _, rfl, ?_⟩
      simp only [List.isEmpty_cons, Bool.not_false, Bool.or_true] at hn3
      obtain ⟨hbig, hval⟩ := accum_value base hb (d0 :: tw') cr3 hn3.num hn3.big
      have h1 : eofOnce o (M.setCharRef (some cr3)) [] cr3 =
          finishNumericStatus o (emitErr (M.setCharRef (some cr3)) "EOF in numeric character reference") [] cr3 := by
        simp only [eofOnce, hn3.st, hn3.seen, Bool.not_true, Bool.false_eq_true, ↓reduceIte]
      rw [finishNumericStatus_eq o _ [] _ _ hbig hval] at h1
      have hlen : s.length = 1 + hex.toList.length + (d0 :: tw').length := by
        rw [hsu, hu]; simp; omega
      have hinp : ([] : Str) = s.drop (1 + hex.toList.length + (d0 :: tw').length) := by
        rw [← hlen]; simp
      have hkk : (d0 :: tw').length + k0 ≤ s.length + 3 := by rw [hlen]; omega
      cases herr : (Spec.CharRef.numericEnd (Spec.CharRef.digitsValue base
          ((d0 :: tw').filterMap (Spec.CharRef.digitVal base)))).2 with
      | true =>
        rw [herr, if_pos rfl, pend_start, pend_emitErr, pend_numericErr] at h1
        exact eof_mk o (hs0.trans hs3) h1 rfl hinp hkk
          (errsOk_two M _ _ (numErrTok_isErr o _) ⟨_, rfl⟩) (Or.inl rfl)
      | false =>
        rw [herr, if_neg (by simp), pend_start, pend_emitErr] at h1
        exact eof_mk o (hs0.trans hs3) h1 rfl hinp hkk (errsOk_one M _ ⟨_, rfl⟩) (Or.inl rfl)

/-- **numeric references cut off by the end of input.** -/
theorem eof_numeric (o : Opts) (b : Bool) {M : Mach} (hr : M.reconsume = false) (t : Str)
    (hspec : Spec.CharRef.specNumeric t false = .needMore) :
    ∃ chars n err, Spec.CharRef.specNumeric t true = .resolved chars n err ∧
      ResolvesAtEof o M { inAttr := b } ('#' :: t) chars n err := by
  have hb0 := begin_hash o hr { inAttr := b } t rfl
  cases t with
  | nil =>
    refine ⟨['&'], 0, true, by simp [Spec.CharRef.specNumeric, Spec.CharRef.specDigits, Spec.CharRef.literal], ?_⟩
    have h1 : eofOnce o (M.setCharRef (some { ({ inAttr := b } : CharRefSt) with state := .octothorpe })) []
        { ({ inAttr := b } : CharRefSt) with state := .octothorpe } =
        .ok (emitErr (M.setCharRef (some { ({ inAttr := b } : CharRefSt) with state := .octothorpe }))
              "EOF after '#' in character reference", ['#'],
             { ({ inAttr := b } : CharRefSt) with state := .octothorpe }, .done []) := rfl
    rw [pend_start, pend_emitErr] at h1
    exact eof_mk o (Steps.one (setCR_charRef _ _) hb0) h1 rfl rfl (by simp) (errsOk_one M _ ⟨_, rfl⟩) (Or.inl rfl)
  | cons c rest =>
    unfold Spec.CharRef.specNumeric at hspec ⊢
    by_cases hx : c = 'x' ∨ c = 'X'
    · rw [if_pos (hexCond_true c rest hx)] at hspec ⊢
      have h2 := octo_hex o hr { ({ inAttr := b } : CharRefSt) with state := .octothorpe } c rest rfl hx
      exact eof_digits o b hr _ rest 16 (Or.inr rfl) (some c) _ 2
        ((Steps.one (setCR_charRef _ _) hb0).trans (Steps.one (setCR_charRef _ _) h2)) (by omega)
        ⟨rfl, rfl, rfl, rfl, rfl, rfl⟩ rfl hspec
    · rw [if_neg (by rw [hexCond_false c rest hx]; simp)] at hspec ⊢
      have hx' : c ≠ 'x' ∧ c ≠ 'X' := ⟨fun e => hx (Or.inl e), fun e => hx (Or.inr e)⟩
      have h2 := octo_dec o hr { ({ inAttr := b } : CharRefSt) with state := .octothorpe } c rest rfl hx'
      exact eof_digits o b hr _ (c :: rest) 10 (Or.inl rfl) none _ 2
        ((Steps.one (setCR_charRef _ _) hb0).trans (Steps.one (setCR_charRef _ _) h2)) (by omega)
        ⟨rfl, rfl, rfl, rfl, rfl, rfl⟩ rfl hspec

/-- **every reference cut off by the end of input.** -/
theorem eof_resolves (o : Opts) (b : Bool) {M : Mach} (hr : M.reconsume = false) (s : Str)
    (hspec : Spec.CharRef.specCharRef b s false = .needMore) :
    ∃ chars n err, Spec.CharRef.specCharRef b s true = .resolved chars n err ∧
      ResolvesAtEof o M { inAttr := b } s chars n err := by
  cases s with
  | nil =>
    refine ⟨['&'], 0, false, rfl, ?_⟩
    have h1 : eofOnce o (M.setCharRef (some { inAttr := b })) [] { inAttr := b } =
        .ok (M.setCharRef (some { inAttr := b }), [], { inAttr := b }, .done []) := rfl
    rw [pend_start] at h1
    exact eof_mk o (Steps.refl _ _) h1 rfl rfl (by simp) (errsOk_nil M) (Or.inl rfl)
  | cons c t =>
    simp only [Spec.CharRef.specCharRef, isAlnum_eq] at hspec ⊢
    by_cases hc : isAsciiAlnum c = true
    · rw [if_pos hc] at hspec ⊢
      exact eof_named o b hr c t hc hspec
    · rw [if_neg hc] at hspec ⊢
      by_cases hh : c = '#'
      · subst hh
        rw [if_pos rfl] at hspec ⊢
        exact eof_numeric o b hr t hspec
      · rw [if_neg hh] at hspec
        simp [Spec.CharRef.literal] at hspec

end H5V.Props.C14
