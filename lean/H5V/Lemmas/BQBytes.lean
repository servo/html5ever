import H5V.Model.BufferQueue
/-!
Byte-level model of `BufferQueue::eat` (`markup5ever/util/buffer_queue.rs`) and the lemmas that
bridge it to the character-level model `H5V.Model.BQ.eatGo` / `eat`.

* `eatLoop` / `commit` / `eatBytes`: the Rust function transcribed literally over byte buffers
  (`List (List UInt8)`), with the two index variables `buffers_exhausted`, `consumed_from_last`
  as natural numbers and every panic site explicit.
* the UTF-8 encoding is core's `String.utf8EncodeChar` (the function that defines the bytes of a
  Lean `String`); its shapes are read off its definition, that it is a prefix code comes from core's
  decoder (`ByteArray.utf8DecodeChar?_utf8EncodeChar_append`).
* `goB`: the same loop written structurally on the remaining byte queue; `loop_goB` relates the two.
* `StepAgree`: what one character of the pattern needs from a byte comparator / char comparator
  pair; `goB_enc` is the simulation for any such pair; the two comparator pairs html5ever uses are
  shown to satisfy it for *every* pattern character (not only ASCII ones).
-/
namespace H5V.Lemmas.BQBytes
open H5V.Model.BQ

/-! ## UTF-8 encoding of buffers and queues -/

/-- the bytes of a character buffer: concatenation of core's `String.utf8EncodeChar` -/
def encBuf (b : List Char) : List UInt8 := b.flatMap String.utf8EncodeChar

/-- the byte queue of a character queue, buffer by buffer -/
def encBufs (bufs : List Buf) : List (List UInt8) := bufs.map encBuf

/-- `encBuf` is literally core's `List.utf8Encode` (the bytes of `String.ofList b`). -/
theorem encBuf_toByteArray (b : List Char) : (encBuf b).toByteArray = b.utf8Encode := rfl

@[simp] theorem encBuf_nil : encBuf [] = [] := rfl
@[simp] theorem encBuf_cons (c : Char) (cs : List Char) :
    encBuf (c :: cs) = String.utf8EncodeChar c ++ encBuf cs := by
  simp [encBuf]
@[simp] theorem encBufs_nil : encBufs [] = [] := rfl
@[simp] theorem encBufs_cons (b : Buf) (bs : List Buf) : encBufs (b :: bs) = encBuf b :: encBufs bs := rfl

/-! ## the byte-level model -/

/-- a UTF-8 continuation byte `0x80..0xBF` -/
def isCont (b : UInt8) : Bool := decide (0x80 ≤ b.toNat) && decide (b.toNat ≤ 0xBF)

/-- `str::is_char_boundary` on the bytes: position 0, the end, or a byte that is not a continuation
byte.  For `n ≠ 0` this is what `Tendril::<UTF8>::try_pop_front(n)` checks (`n ≤ len`, and the
remaining suffix is empty or starts with a whole character). -/
def isCharBoundary (buf : List UInt8) (n : Nat) : Bool :=
  n == 0 || n == buf.length ||
    (match buf[n]? with
     | some b => !isCont b
     | none => false)

/-- where the byte-level `eat` can panic -/
inductive PanicSite where
  /-- `buf.as_bytes()[consumed_from_last]` out of bounds (an empty buffer in the queue) -/
  | index
  /-- `assert_eq!(consumed_from_last, 0)` when no buffer is left -/
  | assertZero
  /-- `buf.pop_front(consumed_from_last)` not at a character boundary of the buffer -/
  | popFront
deriving DecidableEq, Repr

/-- outcome of the `for pattern_byte in pat.bytes()` loop -/
inductive LoopR where
  | needMore
  | mismatch
  | panicIndex
  | done (buffersExhausted consumedFromLast : Nat)
deriving DecidableEq, Repr

/-- the loop of `BufferQueue::eat`, literally: `be` = `buffers_exhausted`,
`cfl` = `consumed_from_last` -/
def eatLoop (eq : UInt8 → UInt8 → Bool) (bufs : List (List UInt8)) : List UInt8 → Nat → Nat → LoopR
  | [], be, cfl => .done be cfl
  | pb :: ps, be, cfl =>
    match bufs[be]? with
    | none => .needMore                       -- `buffers_exhausted >= self.buffers.len()`
    | some buf =>
      match buf[cfl]? with
      | none => .panicIndex                   -- `buf.as_bytes()[consumed_from_last]`
      | some b =>
        if !eq b pb then .mismatch
        else if cfl + 1 ≥ buf.length then eatLoop eq bufs ps (be + 1) 0
        else eatLoop eq bufs ps be (cfl + 1)

/-- result of the byte-level `eat`: the verdict with the queue afterwards, or a panic -/
inductive EatBR where
  | ok (verdict : Option Bool) (queue : List (List UInt8))
  | panic (site : PanicSite)
deriving DecidableEq, Repr

/-- "We have a match. Commit changes to the BufferQueue.": pop `be` buffers, then
`pop_front(cfl)` on the new front buffer (or `assert_eq!(cfl, 0)` if there is none) -/
def commit (bufs : List (List UInt8)) (be cfl : Nat) : EatBR :=
  match bufs.drop be with
  | [] => if cfl = 0 then .ok (some true) [] else .panic .assertZero
  | buf :: rest =>
    if isCharBoundary buf cfl then .ok (some true) (buf.drop cfl :: rest) else .panic .popFront

/-- **byte-level `BufferQueue::eat`** -/
def eatBytes (pat : List UInt8) (eq : UInt8 → UInt8 → Bool) (bufs : List (List UInt8)) : EatBR :=
  match eatLoop eq bufs pat 0 0 with
  | .needMore => .ok none bufs
  | .mismatch => .ok (some false) bufs
  | .panicIndex => .panic .index
  | .done be cfl => commit bufs be cfl

/-! ### the comparators html5ever passes -/

/-- `|&a, &b| a == b` -/
def byteEq (a b : UInt8) : Bool := a == b

/-- `u8::to_ascii_lowercase`: `*self | ((self.is_ascii_uppercase() as u8) * 0x20)` -/
def byteLower (b : UInt8) : UInt8 :=
  if 0x41 ≤ b ∧ b ≤ 0x5A then b ||| 0x20 else b

/-- `u8::eq_ignore_ascii_case` -/
def byteEqCi (a b : UInt8) : Bool := byteLower a == byteLower b

/-- the byte comparator for the driver's flag `ci` -/
def byteEqOf (ci : Bool) : UInt8 → UInt8 → Bool := if ci then byteEqCi else byteEq

/-! ## the loop, structurally -/

inductive GoR where
  | needMore
  | mismatch
  | matched (rest : List (List UInt8))
  | panic
deriving DecidableEq, Repr

/-- the queue after one byte of its front buffer `x :: cs` was consumed -/
def adv {α : Type} (cs : List α) (rest : List (List α)) : List (List α) :=
  if cs.isEmpty then rest else cs :: rest

/-- `eatGo` over bytes: the argument is the remaining queue -/
def goB (eq : UInt8 → UInt8 → Bool) : List UInt8 → List (List UInt8) → GoR
  | [], bufs => .matched bufs
  | _ :: _, [] => .needMore
  | _ :: _, [] :: _ => .panic
  | p :: ps, (c :: cs) :: rest => if !eq c p then .mismatch else goB eq ps (adv cs rest)

/-- the remaining queue seen from the index pair -/
def view (bufs : List (List UInt8)) (be cfl : Nat) : List (List UInt8) :=
  match bufs.drop be with
  | [] => []
  | b :: r => b.drop cfl :: r

/-- agreement of the structural loop with the indexed one -/
def Agrees (bufs : List (List UInt8)) : GoR → LoopR → Prop
  | .needMore, r => r = .needMore
  | .mismatch, r => r = .mismatch
  | .panic, r => r = .panicIndex
  | .matched rest, r => ∃ be cfl, r = .done be cfl ∧ view bufs be cfl = rest ∧
      (be < bufs.length ∨ cfl = 0)

theorem view_zero (bufs : List (List UInt8)) (be : Nat) : view bufs be 0 = bufs.drop be := by
  unfold view
  cases h : bufs.drop be <;> simp

theorem loop_goB (eq : UInt8 → UInt8 → Bool) (bufs : List (List UInt8)) (pat : List UInt8) :
    ∀ be cfl, (be < bufs.length ∨ cfl = 0) →
      Agrees bufs (goB eq pat (view bufs be cfl)) (eatLoop eq bufs pat be cfl) := by
  induction pat with
  | nil =>
    intro be cfl hinv
    simp only [goB, eatLoop, Agrees]
    exact ⟨be, cfl, rfl, rfl, hinv⟩
  | cons pb ps ih =>
    intro be cfl hinv
    unfold view
    cases hd : bufs.drop be with
    | nil =>
      have hlen : bufs.length ≤ be := List.drop_eq_nil_iff.mp hd
      simp [goB, eatLoop, Agrees, List.getElem?_eq_none hlen]
    | cons b r =>
      have hb : bufs[be]? = some b := by
        have := List.head?_drop (l := bufs) (i := be)
        rw [hd] at this; simpa using this.symm
      have hlt : be < bufs.length := by
        rcases Nat.lt_or_ge be bufs.length with h | h
        · exact h
        · rw [List.drop_eq_nil_iff.mpr h] at hd; cases hd
      have hr : bufs.drop (be + 1) = r := by
        have := List.tail_drop (l := bufs) (i := be)
        rw [hd] at this; simpa using this.symm
      show Agrees bufs (goB eq (pb :: ps) (b.drop cfl :: r)) _
      cases hc : b.drop cfl with
      | nil =>
        have hlen : b.length ≤ cfl := List.drop_eq_nil_iff.mp hc
        simp [goB, eatLoop, Agrees, hb, List.getElem?_eq_none hlen]
      | cons x cs =>
        have hx : b[cfl]? = some x := by
          have := List.head?_drop (l := b) (i := cfl)
          rw [hc] at this; simpa using this.symm
        have hcs : b.drop (cfl + 1) = cs := by
          have := List.tail_drop (l := b) (i := cfl)
          rw [hc] at this; simpa using this.symm
        have hl : b.length - cfl = cs.length + 1 := by
          have := congrArg List.length hc
          simpa using this
        simp only [goB, eatLoop, hb, hx]
        by_cases he : eq x pb = true
        · simp only [he, Bool.not_true, Bool.false_eq_true, ↓reduceIte]
          by_cases hemp : cs = []
          · subst hemp
            have hge : cfl + 1 ≥ b.length := by simp at hl; omega
            have hv : view bufs (be + 1) 0 = r := by rw [view_zero, hr]
            have := ih (be + 1) 0 (Or.inr rfl)
            rw [hv] at this
            simpa [adv, hge] using this
          · have hlt' : ¬ (cfl + 1 ≥ b.length) := by
              have : cs.length ≠ 0 := by simpa using hemp
              omega
            have hv : view bufs be (cfl + 1) = cs :: r := by
              unfold view; rw [hd]; simp [hcs]
            have := ih be (cfl + 1) (Or.inl hlt)
            rw [hv] at this
            have hemp' : cs.isEmpty = false := by cases cs <;> simp_all
            simpa [adv, hemp', hlt'] using this
        · have he' : eq x pb = false := by simpa using he
          simp [he', Agrees]

/-! ## facts about core's UTF-8 encoding of a character -/

theorem char_toNat_lt (c : Char) : c.val.toNat < 0x110000 := by
  have := c.valid
  simp only [UInt32.isValidChar, Nat.isValidChar] at this
  omega

/-- the four shapes of core's `String.utf8EncodeChar` -/
theorem enc_cases (c : Char) :
    (c.val.toNat < 0x80 ∧ String.utf8EncodeChar c = [UInt8.ofNat c.val.toNat]) ∨
    (0x80 ≤ c.val.toNat ∧ c.val.toNat < 0x800 ∧ String.utf8EncodeChar c =
      [UInt8.ofNat (c.val.toNat / 64 + 0xC0), UInt8.ofNat (c.val.toNat % 64 + 0x80)]) ∨
    (0x800 ≤ c.val.toNat ∧ c.val.toNat < 0x10000 ∧ String.utf8EncodeChar c =
      [UInt8.ofNat (c.val.toNat / 4096 + 0xE0), UInt8.ofNat (c.val.toNat / 64 % 64 + 0x80),
       UInt8.ofNat (c.val.toNat % 64 + 0x80)]) ∨
    (0x10000 ≤ c.val.toNat ∧ c.val.toNat < 0x110000 ∧ String.utf8EncodeChar c =
      [UInt8.ofNat (c.val.toNat / 262144 + 0xF0), UInt8.ofNat (c.val.toNat / 4096 % 64 + 0x80),
       UInt8.ofNat (c.val.toNat / 64 % 64 + 0x80), UInt8.ofNat (c.val.toNat % 64 + 0x80)]) := by
  have hlt := char_toNat_lt c
  generalize hn : c.val.toNat = n at *
  unfold String.utf8EncodeChar
  simp only [hn]
  by_cases h1 : n ≤ 0x7f
  · left; exact ⟨by omega, by simp [h1]⟩
  · by_cases h2 : n ≤ 0x7ff
    · right; left
      refine ⟨by omega, by omega, ?_⟩
      have : n / 64 % 0x20 = n / 64 := Nat.mod_eq_of_lt (by omega)
      simp [h1, h2, this]
    · by_cases h3 : n ≤ 0xffff
      · right; right; left
        refine ⟨by omega, by omega, ?_⟩
        have : n / 4096 % 0x10 = n / 4096 := Nat.mod_eq_of_lt (by omega)
        simp [h1, h2, h3, this]
      · right; right; right
        refine ⟨by omega, by omega, ?_⟩
        have : n / 262144 % 0x08 = n / 262144 := Nat.mod_eq_of_lt (by omega)
        simp [h1, h2, h3, this]

theorem toNat_ofNat_lt {a : Nat} (ha : a < 256) : (UInt8.ofNat a).toNat = a := by
  simp only [UInt8.toNat_ofNat']; omega

/-- two byte strings that differ at some position inside both -/
def Diverge (a b : List UInt8) : Prop :=
  ∃ l x l1 y l2, a = l ++ x :: l1 ∧ b = l ++ y :: l2 ∧ x ≠ y

theorem diverge_head {x y : UInt8} (l1 l2 : List UInt8) (h : x ≠ y) : Diverge (x :: l1) (y :: l2) :=
  ⟨[], x, l1, y, l2, rfl, rfl, h⟩

/-- two byte strings diverge, or one is a prefix of the other -/
theorem diverge_or_prefix : ∀ (a b : List UInt8), Diverge a b ∨ (∃ r, b = a ++ r) ∨ (∃ r, a = b ++ r)
  | [], b => .inr (.inl ⟨b, rfl⟩)
  | a, [] => .inr (.inr ⟨a, rfl⟩)
  | x :: a, y :: b => by
    by_cases hxy : x = y
    · subst hxy
      rcases diverge_or_prefix a b with ⟨l, u, l1, v, l2, h1, h2, h3⟩ | ⟨r, rfl⟩ | ⟨r, rfl⟩
      · exact .inl ⟨x :: l, u, l1, v, l2, by rw [h1]; rfl, by rw [h2]; rfl, h3⟩
      · exact .inr (.inl ⟨r, rfl⟩)
      · exact .inr (.inr ⟨r, rfl⟩)
    · exact .inl (diverge_head a b hxy)

/-- core's decoder reads a character back from any string that starts with its encoding, so no
encoding is a prefix of another -/
theorem enc_prefix {c p : Char} {r : List UInt8} (e : String.utf8EncodeChar c = String.utf8EncodeChar p ++ r) :
    c = p := by
  have h1 := ByteArray.utf8DecodeChar?_utf8EncodeChar_append (b := ByteArray.empty) (c := c)
  have h2 := ByteArray.utf8DecodeChar?_utf8EncodeChar_append (b := r.toByteArray) (c := p)
  rw [ByteArray.append_empty, e, List.toByteArray_append, h2] at h1
  exact (Option.some.inj h1).symm

/-- UTF-8 is a prefix code: the encodings of two different characters differ at a position
inside both. -/
theorem enc_diverge {c p : Char} (hne : c ≠ p) :
    Diverge (String.utf8EncodeChar p) (String.utf8EncodeChar c) := by
  rcases diverge_or_prefix (String.utf8EncodeChar p) (String.utf8EncodeChar c) with h | ⟨r, e⟩ | ⟨r, e⟩
  · exact h
  · exact absurd (enc_prefix e) hne
  · exact absurd (enc_prefix e).symm hne

theorem char_eq_of_toNat {c p : Char} (h : c.val.toNat = p.val.toNat) : c = p :=
  Char.ext (UInt32.toNat_inj.mp h)

/-- an ASCII character is the single byte of its code -/
theorem enc_ascii {c : Char} (h : c.val.toNat < 128) :
    String.utf8EncodeChar c = [UInt8.ofNat c.val.toNat] := by
  rcases enc_cases c with ⟨_, e⟩ | ⟨h1, _, _⟩ | ⟨h1, _, _⟩ | ⟨h1, _, _⟩
  · exact e
  all_goals omega

/-- a non-ASCII character is a lead byte `≥ 0xC0` followed by at least one byte, all of the
following bytes being continuation bytes -/
theorem enc_nonascii {c : Char} (h : 128 ≤ c.val.toNat) :
    ∃ b0 b1 rest, String.utf8EncodeChar c = b0 :: b1 :: rest ∧ 0xC0 ≤ b0.toNat ∧
      ∀ b ∈ b1 :: rest, isCont b = true := by
  rcases enc_cases c with ⟨h1, _⟩ | ⟨h1, h2, e⟩ | ⟨h1, h2, e⟩ | ⟨h1, h2, e⟩
  · omega
  all_goals
    refine ⟨_, _, _, e, ?_, ?_⟩
    · simp only [UInt8.toNat_ofNat']; omega
    · intro b hb
      simp only [List.mem_cons, List.not_mem_nil, or_false] at hb
      rcases hb with rfl | rfl | rfl | rfl <;>
        (simp only [isCont, UInt8.toNat_ofNat', Bool.and_eq_true, decide_eq_true_eq]; omega)

/-- every byte of a non-ASCII character is `≥ 0x80` -/
theorem enc_nonascii_bytes {c : Char} (h : 128 ≤ c.val.toNat) :
    ∀ b ∈ String.utf8EncodeChar c, 128 ≤ b.toNat := by
  obtain ⟨b0, b1, rest, e, h0, hr⟩ := enc_nonascii h
  intro b hb
  rw [e] at hb
  rcases List.mem_cons.mp hb with rfl | hb
  · omega
  · have := hr b hb
    simp only [isCont, Bool.and_eq_true, decide_eq_true_eq] at this
    omega

theorem isCont_false_of_lt {b : UInt8} (h : b.toNat < 0x80) : isCont b = false := by
  simp only [isCont, Bool.and_eq_false_iff, decide_eq_false_iff_not]; omega

theorem isCont_false_of_ge {b : UInt8} (h : 0xC0 ≤ b.toNat) : isCont b = false := by
  simp only [isCont, Bool.and_eq_false_iff, decide_eq_false_iff_not]; omega

/-- the first byte of any character is not a continuation byte -/
theorem enc_head (c : Char) :
    ∃ b0 rest, String.utf8EncodeChar c = b0 :: rest ∧ isCont b0 = false := by
  by_cases h : c.val.toNat < 128
  · refine ⟨_, _, enc_ascii h, isCont_false_of_lt ?_⟩
    simp only [UInt8.toNat_ofNat']; omega
  · obtain ⟨b0, b1, rest, e, h0, _⟩ := enc_nonascii (Nat.le_of_not_lt h)
    exact ⟨b0, b1 :: rest, e, isCont_false_of_ge h0⟩

theorem enc_ne_nil (c : Char) : String.utf8EncodeChar c ≠ [] := by
  obtain ⟨b0, rest, e, _⟩ := enc_head c
  rw [e]; simp

theorem encBuf_eq_nil {b : List Char} : encBuf b = [] ↔ b = [] := by
  cases b with
  | nil => simp
  | cons c cs => simp

/-! ## the structural loop on encoded queues -/

theorem goB_cons_cons (eq : UInt8 → UInt8 → Bool) (p c : UInt8) (ps cs : List UInt8)
    (rest : List (List UInt8)) :
    goB eq (p :: ps) ((c :: cs) :: rest) = if eq c p then goB eq ps (adv cs rest) else .mismatch := by
  simp only [goB]
  cases eq c p <;> simp

theorem adv_append_ne {α : Type} {l : List α} (h : l ≠ []) (tail : List α) (R : List (List α)) :
    adv (l ++ tail) R = (l ++ tail) :: R := by
  unfold adv
  cases l with
  | nil => exact absurd rfl h
  | cons x xs => simp

/-- the pattern starts with the same (reflexively comparable) non-empty byte string as the front
buffer: all of it is consumed -/
theorem goB_append_same (eq : UInt8 → UInt8 → Bool) :
    ∀ (l : List UInt8), l ≠ [] → (∀ x ∈ l, eq x x = true) → ∀ (ps tail : List UInt8)
      (R : List (List UInt8)),
      goB eq (l ++ ps) ((l ++ tail) :: R) = goB eq ps (adv tail R)
  | [], h, _, _, _, _ => absurd rfl h
  | [x], _, hr, ps, tail, R => by
    simp [goB_cons_cons, hr x (by simp)]
  | x :: y :: l, _, hr, ps, tail, R => by
    have ih := goB_append_same eq (y :: l) (by simp) (fun z hz => hr z (by simp [hz])) ps tail R
    rw [List.cons_append, List.cons_append (as := y :: l), goB_cons_cons, hr x (by simp),
      if_pos rfl, adv_append_ne (by simp)]
    exact ih

/-- pattern and front buffer share a prefix and then differ: mismatch -/
theorem goB_append_diff (eq : UInt8 → UInt8 → Bool) (x y : UInt8) (hxy : eq y x = false) :
    ∀ (l : List UInt8), (∀ z ∈ l, eq z z = true) → ∀ (l1 l2 : List UInt8) (R : List (List UInt8)),
      goB eq (l ++ x :: l1) ((l ++ y :: l2) :: R) = .mismatch
  | [], _, l1, l2, R => by simp [goB_cons_cons, hxy]
  | z :: l, hr, l1, l2, R => by
    have ih := goB_append_diff eq x y hxy l (fun w hw => hr w (by simp [hw])) l1 l2 R
    rw [List.cons_append, List.cons_append, goB_cons_cons, hr z (by simp), if_pos rfl]
    cases l with
    | nil => simpa [adv] using ih
    | cons w l' => simpa [adv] using ih

/-- what one pattern character needs from a (byte comparator, char comparator) pair: comparing the
encoding of `p` against a front buffer that starts with the encoding of `c` consumes exactly that
encoding if `ceq c p`, and is a mismatch otherwise -/
def StepAgree (beq : UInt8 → UInt8 → Bool) (ceq : Char → Char → Bool) (P : Char → Prop) : Prop :=
  ∀ c p, P p → ∀ (ps tail : List UInt8) (R : List (List UInt8)),
    goB beq (String.utf8EncodeChar p ++ ps) ((String.utf8EncodeChar c ++ tail) :: R) =
      if ceq c p then goB beq ps (adv tail R) else .mismatch

/-- "no empty buffer" on the bare list (`QInv q` is `NoEmpty q.bufs`) -/
def NoEmpty (bufs : List Buf) : Prop := ∀ b ∈ bufs, b ≠ []

theorem qinv_iff (q : Queue) : QInv q ↔ NoEmpty q.bufs := Iff.rfl

theorem noEmpty_adv {cs : List Char} {rest : List Buf} (h : NoEmpty rest) : NoEmpty (adv cs rest) := by
  unfold adv
  cases cs with
  | nil => simpa using h
  | cons c cs' =>
    intro b hb
    simp at hb
    rcases hb with rfl | hb
    · simp
    · exact h b hb

theorem eatGo_cons_cons (eq : Char → Char → Bool) (p c : Char) (ps cs : List Char) (rest : List Buf) :
    eatGo eq (p :: ps) ((c :: cs) :: rest) = if eq c p then eatGo eq ps (adv cs rest) else .mismatch := by
  cases cs <;> cases h : eq c p <;> simp [eatGo, adv, h]

theorem encBufs_adv (cs : List Char) (rest : List Buf) :
    adv (encBuf cs) (encBufs rest) = encBufs (adv cs rest) := by
  unfold adv
  cases cs with
  | nil => simp
  | cons c cs' =>
    have : (String.utf8EncodeChar c ++ encBuf cs').isEmpty = false := by
      obtain ⟨b0, r, e, _⟩ := enc_head c
      rw [e]; simp
    simp [this]

/-- the char-level verdict, carried over to bytes -/
def encR : EatR → GoR
  | .needMore => .needMore
  | .mismatch => .mismatch
  | .matched rest => .matched (encBufs rest)
  | .panic => .panic

/-- on a queue without empty buffers the char-level loop does not panic, and the committed queue
has no empty buffer either -/
theorem eatGo_ok (eq : Char → Char → Bool) (pat : List Char) :
    ∀ bufs, NoEmpty bufs → eatGo eq pat bufs ≠ .panic ∧
      ∀ rest, eatGo eq pat bufs = .matched rest → NoEmpty rest := by
  induction pat with
  | nil =>
    intro bufs h
    simp only [eatGo]
    exact ⟨by simp, fun rest hr => by cases hr; exact h⟩
  | cons p ps ih =>
    intro bufs h
    match bufs, h with
    | [], _ => simp [eatGo]
    | [] :: rest, h => exact absurd rfl (h [] (by simp))
    | (c :: cs) :: rest, h =>
      have hr : NoEmpty rest := fun b hb => h b (by simp [hb])
      rw [eatGo_cons_cons]
      by_cases hcp : eq c p = true
      · rw [if_pos hcp]; exact ih _ (noEmpty_adv hr)
      · rw [if_neg hcp]; simp

/-- **simulation**: the structural byte loop on the encoded queue and pattern computes the
encoding of what the char-level loop computes -/
theorem goB_enc (beq : UInt8 → UInt8 → Bool) (ceq : Char → Char → Bool) (P : Char → Prop)
    (hA : StepAgree beq ceq P) (pat : List Char) :
    ∀ bufs, (∀ p ∈ pat, P p) → NoEmpty bufs →
      goB beq (encBuf pat) (encBufs bufs) = encR (eatGo ceq pat bufs) := by
  induction pat with
  | nil => intro bufs _ _; simp [goB, eatGo, encR]
  | cons p ps ih =>
    intro bufs hp h
    have hps : ∀ q ∈ ps, P q := fun q hq => hp q (by simp [hq])
    match bufs, h with
    | [], _ =>
      obtain ⟨b0, r, e, _⟩ := enc_head p
      simp [goB, eatGo, encR, e]
    | [] :: rest, h => exact absurd rfl (h [] (by simp))
    | (c :: cs) :: rest, h =>
      have hr : NoEmpty rest := fun b hb => h b (by simp [hb])
      rw [eatGo_cons_cons, encBuf_cons, encBufs_cons, encBuf_cons, hA c p (hp p (by simp))]
      by_cases hcp : ceq c p = true
      · rw [if_pos hcp, if_pos hcp, encBufs_adv]
        exact ih _ hps (noEmpty_adv hr)
      · rw [if_neg hcp, if_neg hcp]; rfl

/-! ## assembly: `eatBytes` on an encoded queue -/

/-- the byte-level result that corresponds to a char-level loop result -/
def encEat (bufs : List Buf) : EatR → EatBR
  | .needMore => .ok none (encBufs bufs)
  | .mismatch => .ok (some false) (encBufs bufs)
  | .matched rest => .ok (some true) (encBufs rest)
  | .panic => .panic .index

theorem isCharBoundary_of_drop {b : List UInt8} {n : Nat} {x : UInt8} {xs : List UInt8}
    (h : b.drop n = x :: xs) (hx : isCont x = false) : isCharBoundary b n = true := by
  have hx' : b[n]? = some x := by
    have := List.head?_drop (l := b) (i := n)
    rw [h] at this; simpa using this.symm
  simp [isCharBoundary, hx', hx]

/-- **the literal byte loop = the char-level loop**, for any comparator pair with `StepAgree` -/
theorem eatBytes_enc (beq : UInt8 → UInt8 → Bool) (ceq : Char → Char → Bool) (P : Char → Prop)
    (hA : StepAgree beq ceq P) (pat : List Char) (bufs : List Buf)
    (hp : ∀ p ∈ pat, P p) (h : NoEmpty bufs) :
    eatBytes (encBuf pat) beq (encBufs bufs) = encEat bufs (eatGo ceq pat bufs) := by
  have hsim := goB_enc beq ceq P hA pat bufs hp h
  have hloop := loop_goB beq (encBufs bufs) (encBuf pat) 0 0 (Or.inr rfl)
  rw [view_zero, List.drop_zero, hsim] at hloop
  obtain ⟨hnp, hinv⟩ := eatGo_ok ceq pat bufs h
  unfold eatBytes
  cases hg : eatGo ceq pat bufs with
  | needMore => rw [hg] at hloop; simp only [encR, Agrees] at hloop; rw [hloop]; rfl
  | mismatch => rw [hg] at hloop; simp only [encR, Agrees] at hloop; rw [hloop]; rfl
  | panic => exact absurd hg hnp
  | matched rest =>
    rw [hg] at hloop
    simp only [encR, Agrees] at hloop
    obtain ⟨be, cfl, hl, hv, hi⟩ := hloop
    have hne : NoEmpty rest := hinv rest hg
    rw [hl]
    simp only [encEat, commit]
    unfold view at hv
    cases hd : (encBufs bufs).drop be with
    | nil =>
      rw [hd] at hv
      have hlen : (encBufs bufs).length ≤ be := List.drop_eq_nil_iff.mp hd
      have h0 : cfl = 0 := by
        rcases hi with hi | hi
        · omega
        · exact hi
      simp [h0, ← hv]
    | cons b r =>
      rw [hd] at hv
      simp only at hv
      -- the committed front buffer is the encoding of a non-empty char buffer
      match rest, hv, hne with
      | [], hv, _ => simp at hv
      | cur :: rest', hv, hne =>
        have hcur : cur ≠ [] := hne cur (by simp)
        simp only [encBufs_cons, List.cons.injEq] at hv
        obtain ⟨hv1, hv2⟩ := hv
        match cur, hcur, hv1 with
        | [], hcur, _ => exact absurd rfl hcur
        | c :: cs, _, hv1 =>
          obtain ⟨b0, r0, e0, hb0⟩ := enc_head c
          have hdrop : b.drop cfl = b0 :: (r0 ++ encBuf cs) := by
            rw [hv1, encBuf_cons, e0]; rfl
          dsimp only
          rw [isCharBoundary_of_drop hdrop hb0, if_pos rfl, hv1, hv2]
          rfl

/-! ## the two comparator pairs -/

/-- ASCII lower-casing on code points / byte values -/
def lowerNat (n : Nat) : Nat := if 65 ≤ n ∧ n ≤ 90 then n + 32 else n

theorem toLower_toNat (c : Char) : c.toLower.val.toNat = lowerNat c.val.toNat := by
  unfold Char.toLower lowerNat
  split
  · rename_i h
    have h1 : 65 ≤ c.val.toNat := by
      have := UInt32.le_iff_toNat_le.mp h.1; simpa using this
    have h2 : c.val.toNat ≤ 90 := by
      have := UInt32.le_iff_toNat_le.mp h.2; simpa using this
    rw [if_pos ⟨h1, h2⟩]
    show (c.val + ('a'.val - 'A'.val)).toNat = _
    rw [UInt32.toNat_add]
    have : ('a'.val - 'A'.val).toNat = 32 := by decide
    rw [this]; omega
  · rename_i h
    have : ¬ (65 ≤ c.val.toNat ∧ c.val.toNat ≤ 90) := by
      intro ⟨h1, h2⟩
      apply h
      constructor
      · apply UInt32.le_iff_toNat_le.mpr; simpa using h1
      · apply UInt32.le_iff_toNat_le.mpr; simpa using h2
    rw [if_neg this]

theorem or32 (n : Nat) (h1 : 65 ≤ n) (h2 : n ≤ 90) : n ||| 32 = n + 32 := by
  have : n = 65 ∨ n = 66 ∨ n = 67 ∨ n = 68 ∨ n = 69 ∨ n = 70 ∨ n = 71 ∨ n = 72 ∨ n = 73 ∨ n = 74 ∨
      n = 75 ∨ n = 76 ∨ n = 77 ∨ n = 78 ∨ n = 79 ∨ n = 80 ∨ n = 81 ∨ n = 82 ∨ n = 83 ∨ n = 84 ∨
      n = 85 ∨ n = 86 ∨ n = 87 ∨ n = 88 ∨ n = 89 ∨ n = 90 := by omega
  rcases this with h | h | h | h | h | h | h | h | h | h | h | h | h | h | h | h | h | h | h | h |
    h | h | h | h | h | h <;> subst h <;> rfl


theorem byteLower_toNat (b : UInt8) : (byteLower b).toNat = lowerNat b.toNat := by
  unfold byteLower lowerNat
  have hb := b.toNat_lt
  by_cases h : 0x41 ≤ b ∧ b ≤ 0x5A
  · have h1 : 65 ≤ b.toNat := by have := UInt8.le_iff_toNat_le.mp h.1; simpa using this
    have h2 : b.toNat ≤ 90 := by have := UInt8.le_iff_toNat_le.mp h.2; simpa using this
    rw [if_pos h, if_pos ⟨h1, h2⟩, UInt8.toNat_or]
    exact or32 _ h1 h2
  · have : ¬ (65 ≤ b.toNat ∧ b.toNat ≤ 90) := by
      intro ⟨h1, h2⟩
      exact h ⟨UInt8.le_iff_toNat_le.mpr (by simpa using h1), UInt8.le_iff_toNat_le.mpr (by simpa using h2)⟩
    rw [if_neg h, if_neg this]

theorem byteEq_iff {a b : UInt8} : byteEq a b = true ↔ a = b := by simp [byteEq]

theorem byteEqCi_eq (a b : UInt8) : byteEqCi a b = decide (lowerNat a.toNat = lowerNat b.toNat) := by
  unfold byteEqCi
  rw [← byteLower_toNat, ← byteLower_toNat]
  by_cases h : byteLower a = byteLower b
  · simp [h]
  · have : ¬ (byteLower a).toNat = (byteLower b).toNat := fun h' => h (UInt8.toNat_inj.mp h')
    rw [beq_eq_false_iff_ne.mpr h, decide_eq_false this]

theorem ceqCi_eq (c p : Char) :
    (c.toLower == p.toLower) = decide (lowerNat c.val.toNat = lowerNat p.val.toNat) := by
  rw [← toLower_toNat, ← toLower_toNat]
  by_cases h : c.toLower = p.toLower
  · simp [h]
  · have : ¬ c.toLower.val.toNat = p.toLower.val.toNat := fun h' => h (char_eq_of_toNat h')
    rw [beq_eq_false_iff_ne.mpr h, decide_eq_false this]

/-- plain byte equality against plain character equality: every pattern character is fine -/
theorem stepAgree_exact : StepAgree byteEq (fun a b => a == b) (fun _ => True) := by
  intro c p _ ps tail R
  by_cases hcp : c = p
  · subst hcp
    simp only [beq_self_eq_true, if_true]
    exact goB_append_same byteEq _ (enc_ne_nil c) (fun x _ => by simp [byteEq]) ps tail R
  · have hf : (c == p) = false := by simpa using hcp
    simp only [hf, Bool.false_eq_true, if_false]
    obtain ⟨l, x, l1, y, l2, e1, e2, hxy⟩ := enc_diverge hcp
    rw [e1, e2, List.append_assoc, List.append_assoc, List.cons_append, List.cons_append]
    refine goB_append_diff byteEq x y ?_ l (fun z _ => by simp [byteEq]) _ _ R
    simpa [byteEq] using fun h => hxy h.symm

/-- `u8::eq_ignore_ascii_case` against `Char.toLower`-equality: every pattern character is fine -/
theorem stepAgree_ci :
    StepAgree byteEqCi (fun a b => a.toLower == b.toLower) (fun _ => True) := by
  intro c p _ ps tail R
  simp only [ceqCi_eq, decide_eq_true_eq]
  by_cases hc : c.val.toNat < 128
  · by_cases hp : p.val.toNat < 128
    · -- both ASCII: one byte each
      rw [enc_ascii hc, enc_ascii hp]
      simp only [List.cons_append, List.nil_append, goB_cons_cons, byteEqCi_eq, UInt8.toNat_ofNat', decide_eq_true_eq]
      have h1 : c.val.toNat % 2 ^ 8 = c.val.toNat := Nat.mod_eq_of_lt (by omega)
      have h2 : p.val.toNat % 2 ^ 8 = p.val.toNat := Nat.mod_eq_of_lt (by omega)
      rw [h1, h2]
    · -- ASCII buffer character, non-ASCII pattern character
      obtain ⟨b0, b1, rest, e, h0, _⟩ := enc_nonascii (Nat.le_of_not_lt hp)
      rw [enc_ascii hc, e]
      simp only [List.cons_append, List.nil_append, goB_cons_cons, byteEqCi_eq, UInt8.toNat_ofNat', decide_eq_true_eq]
      have hne : ¬ lowerNat (c.val.toNat % 2 ^ 8) = lowerNat b0.toNat := by
        unfold lowerNat; split <;> split <;> omega
      have hne' : ¬ lowerNat c.val.toNat = lowerNat p.val.toNat := by
        unfold lowerNat; split <;> split <;> omega
      rw [if_neg hne, if_neg hne']
  · have hc' : 128 ≤ c.val.toNat := Nat.le_of_not_lt hc
    by_cases hp : p.val.toNat < 128
    · -- non-ASCII buffer character, ASCII pattern character
      obtain ⟨b0, b1, rest, e, h0, _⟩ := enc_nonascii hc'
      rw [enc_ascii hp, e]
      simp only [List.cons_append, List.nil_append, goB_cons_cons, byteEqCi_eq, UInt8.toNat_ofNat', decide_eq_true_eq]
      have hne : ¬ lowerNat b0.toNat = lowerNat (p.val.toNat % 2 ^ 8) := by
        unfold lowerNat; split <;> split <;> omega
      have hne' : ¬ lowerNat c.val.toNat = lowerNat p.val.toNat := by
        unfold lowerNat; split <;> split <;> omega
      rw [if_neg hne, if_neg hne']
    · -- both non-ASCII: lowering is the identity on the characters and on all their bytes
      have hp' : 128 ≤ p.val.toNat := Nat.le_of_not_lt hp
      have hl : (lowerNat c.val.toNat = lowerNat p.val.toNat) ↔ c = p := by
        constructor
        · intro h
          apply char_eq_of_toNat
          revert h; unfold lowerNat; split <;> split <;> omega
        · rintro rfl; rfl
      by_cases hcp : c = p
      · subst hcp
        simp only [if_true]
        exact goB_append_same byteEqCi _ (enc_ne_nil c) (fun x _ => by simp [byteEqCi]) ps tail R
      · rw [if_neg (fun h => hcp (hl.mp h))]
        obtain ⟨l, x, l1, y, l2, e1, e2, hxy⟩ := enc_diverge hcp
        have hx : 128 ≤ x.toNat := enc_nonascii_bytes hp' x (by rw [e1]; simp)
        have hy : 128 ≤ y.toNat := enc_nonascii_bytes hc' y (by rw [e2]; simp)
        rw [e1, e2, List.append_assoc, List.append_assoc, List.cons_append, List.cons_append]
        refine goB_append_diff byteEqCi x y ?_ l (fun z _ => by simp [byteEqCi]) _ _ R
        rw [byteEqCi_eq]
        have : ¬ lowerNat y.toNat = lowerNat x.toNat := by
          intro h
          apply hxy
          apply UInt8.toNat_inj.mp
          revert h; unfold lowerNat; split <;> split <;> omega
        simp [this]

end H5V.Lemmas.BQBytes
