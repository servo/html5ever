import H5V.Lemmas.HtmlTokSpecTac
set_option linter.unusedSimpArgs false
set_option linter.unusedVariables false
/-!
# C01 simulation — table lemmas (`TabOk`) for the comment states and the CDATA section states

For every state of the model's `transChar`: the specification, reading the same character, reaches a
configuration related (`RegCore`) to the model's result.
-/
namespace H5V.Lemmas.HtmlTokSpec
open H5V.Model.HtmlTok
open H5V.Spec.HtmlTokenizer (St Tok Emit Tree Switch Ctl ReturnSt)

/-- the comment states (13.2.5.41, 13.2.5.43 – 52). On `<` and on anything else the comment start states
of the specification reconsume in the comment state (two steps); in the comment, comment end dash and
comment end states the specification may also be in a comment less-than sign state (`altSt`). -/
theorem tab_comments (o : Opts) (ho : o.exactErrors = false) (pol : Pol) (tree : Tree)
    (m : Mach) (t : Tok) (c : Char) (rest : Str) (h : RegCore m t) (hr : m.reconsume = false)
    (hc : usesComment m.state = true) : TabOk tree t c rest (transChar o pol m c) := by
  cases hs : m.state
  case bogusComment => tab_flat h hs c ['>', '\x00']
  case commentStart => tab_flat h hs c ['-', '\x00', '>', '<']
  case commentStartDash => tab_flat h hs c ['-', '\x00', '>', '<']
  case comment => tab_flat h hs c ['<', '-', '\x00', '!']
  case commentLessThanSign => tab_flat h hs c ['!', '<']
  case commentLessThanSignBang => tab_flat h hs c ['-']
  case commentLessThanSignBangDash => tab_flat h hs c ['-']
  case commentLessThanSignBangDashDash => tab_flat h hs c ['>']
  case commentEndDash => tab_flat h hs c ['-', '\x00', '<']
  case commentEnd => tab_flat h hs c ['>', '!', '-', '<', '\x00']
  case commentEndBang => tab_flat h hs c ['-', '>', '\x00', '<']
  all_goals
    rw [hs] at hc
    exact absurd hc Bool.false_ne_true

/-- the CDATA section states (13.2.5.69 – 71) -/
theorem tab_cdata (o : Opts) (ho : o.exactErrors = false) (pol : Pol) (tree : Tree)
    (m : Mach) (t : Tok) (c : Char) (rest : Str) (h : RegCore m t) (hr : m.reconsume = false)
    (hc : isCdata m.state = true) : TabOk tree t c rest (transChar o pol m c) := by
  cases hs : m.state
  case cdataSection => tab_flat h hs c [']', '\x00']
  case cdataSectionBracket => tab_flat h hs c [']', '\x00']
  case cdataSectionEnd => tab_flat h hs c [']', '>', '\x00']
  all_goals
    rw [hs] at hc
    exact absurd hc Bool.false_ne_true

end H5V.Lemmas.HtmlTokSpec
