import H5V.Lemmas.HtmlTBContractIns
import H5V.Lemmas.HtmlTBContractConj
import H5V.Lemmas.HtmlTBSafeAA
/-!
# TreeSink contract for the HTML tree builder: the adoption agency, DOM side

What the tree-mutating calls of the adoption agency (`remove_from_parent`, `append` of an existing
node, `reparent_children`, and the insertion of an existing node at the appropriate place) need and
do, phrased with the parent function only:

* `contract_ipOp_moved` — inserting an existing parentless node at a valid insertion point is inside
  the contract when the node is not an ancestor-or-self of the parent-to-be;
* `anc_attach`, `anc_reparent` — the ancestor relation after attaching a parentless node / after
  moving all children of a node;
* `SAnc.of_oldSub`, `sanc_move`, `sanc_set_fresh`, `sanc_insert_above` — preservation of the
  stack-order invariant `SAnc` by the steps of the algorithm;
* the two `SatC` leaves `satc_removeFromParent_shrink`, `satc_maybeCloneOption`.
-/
namespace H5V.Lemmas.TBC
open H5V.Model.HtmlTB
open H5V.Model.Dom (Id QualName Attr NodeOrText SinkOp Output ElementFlags QuirksMode Dom NodeData Node Contract)
open H5V.Lemmas.Dom
open H5V.Props.C20 (Inv Run)
open H5V.Lemmas.TBSafe (IsEl nm sigOf Ext apply_ext tmplName fmtNames nm_ext sigOf_ext IsEl.ext sigOf_lt
  namedP)

variable {d0 : Dom}

/-! ### ancestry and the parent function -/

/-- no node has parent `x` -/
def NoKids (d : Dom) (x : Id) : Prop := ∀ c, d.parentOf c ≠ some x

theorem noKids_of_children {d : Dom} (hw : WF d) {x : Id} (h : d.childrenOf x = []) : NoKids d x := by
  intro c hc
  have := (hw.links c x).mp hc
  rw [h] at this; cases this

theorem anc_of_noKids {d : Dom} {a x : Id} (h : NoKids d a) (ha : Anc d a x) : x = a := by
  induction ha with
  | refl => rfl
  | @step y p hpar _ ih => subst ih; exact absurd hpar (h y)

theorem anc_of_parentless {d : Dom} {a x : Id} (h : d.parentOf x = none) (ha : Anc d a x) : a = x := by
  cases ha with
  | refl => rfl
  | step hpar _ => rw [h] at hpar; cases hpar

/-- a well-formed arena has no cycle -/
theorem no_cycle {d : Dom} (hw : WF d) {c p : Id} (hp : d.parentOf c = some p) : ¬ Anc d c p := by
  intro ha
  obtain ⟨l, hl⟩ := Chain.of_rooted (hw.rooted p)
  have hc : Chain d c (c :: l) := Chain.step hp hl
  have hm : c ∈ l := (hl.mem_iff_anc c).mpr ha
  have := hc.nodup
  rw [List.nodup_cons] at this
  exact this.1 hm

/-- old nodes keep their parent or lose it: ancestry among old nodes only shrinks -/
theorem anc_old_sub {d d' : Dom} (hw : WF d)
    (h : ∀ x q, x < d.size → d'.parentOf x = some q → d.parentOf x = some q) {b a : Id}
    (hab : Anc d' b a) : a < d.size → Anc d b a := by
  induction hab with
  | refl => intro _; exact Anc.refl
  | @step x p hpar _ ih =>
    intro hx
    have hp := h x p hx hpar
    exact Anc.step hp (ih (parent_lt_size hw hp))

theorem SAnc.of_oldSub {d d' : Dom} {l : List Id} (hw : WF d) (hl : ∀ x ∈ l, x < d.size)
    (h : ∀ x q, x < d.size → d'.parentOf x = some q → d.parentOf x = some q) (hs : SAnc d l) : SAnc d' l := by
  unfold SAnc at hs ⊢
  refine hs.imp_of_mem ?_
  intro a b ha _ hn hab
  exact hn (anc_old_sub hw h hab (hl a ha))

theorem SAnc.sublist {d : Dom} {l l' : List Id} (hs : SAnc d l) (h : l'.Sublist l) : SAnc d l' :=
  List.Pairwise.sublist h hs

theorem SAnc.nodup {d : Dom} {l : List Id} (hs : SAnc d l) : l.Nodup := by
  unfold SAnc at hs
  refine hs.imp ?_
  intro a b h e
  exact h (e ▸ Anc.refl)

/-- after attaching the parentless node `c` under `P` -/
theorem anc_attach {d d' : Dom} {c P : Id}
    (he : ∀ x, d'.parentOf x = if x = c then some P else d.parentOf x) {a y : Id} (h : Anc d' a y) :
    Anc d a y ∨ (Anc d c y ∧ Anc d a P) := by
  induction h with
  | refl => exact Or.inl Anc.refl
  | @step y p hpar _ ih =>
    rw [he y] at hpar
    by_cases hy : y = c
    · rw [if_pos hy] at hpar
      cases hpar
      rw [hy]
      rcases ih with h1 | h1
      · exact Or.inr ⟨Anc.refl, h1⟩
      · exact Or.inr ⟨Anc.refl, h1.2⟩
    · rw [if_neg hy] at hpar
      rcases ih with h1 | h1
      · exact Or.inl (Anc.step hpar h1)
      · exact Or.inr ⟨Anc.step hpar h1.1, h1.2⟩

/-- after moving the children of `n` under `np` -/
theorem anc_reparent {d d' : Dom} {n np : Id}
    (he : ∀ x, d'.parentOf x = if d.parentOf x = some n then some np else d.parentOf x) {a y : Id}
    (h : Anc d' a y) : Anc d a y ∨ ∃ c, d.parentOf c = some n ∧ Anc d c y ∧ Anc d a np := by
  induction h with
  | refl => exact Or.inl Anc.refl
  | @step y p hpar _ ih =>
    rw [he y] at hpar
    by_cases hy : d.parentOf y = some n
    · rw [if_pos hy] at hpar
      cases hpar
      rcases ih with h1 | ⟨c, _, _, h1⟩
      · exact Or.inr ⟨y, hy, Anc.refl, h1⟩
      · exact Or.inr ⟨y, hy, Anc.refl, h1⟩
    · rw [if_neg hy] at hpar
      rcases ih with h1 | ⟨c, h1, h2, h3⟩
      · exact Or.inl (Anc.step hpar h1)
      · exact Or.inr ⟨c, h1, Anc.step hpar h2, h3⟩

/-! ### the stack-order invariant under the steps of the adoption agency -/

theorem pairwise_set {α : Type} {R : α → α → Prop} {a : α} : ∀ {l : List α} (m : Nat), l.Pairwise R →
    (∀ x ∈ l, R x a ∧ R a x) → (l.set m a).Pairwise R := by
  intro l
  induction l with
  | nil => intro m _ _; simp
  | cons z t ih =>
    intro m hp ha
    rw [List.pairwise_cons] at hp
    cases m with
    | zero =>
      rw [List.set_cons_zero, List.pairwise_cons]
      exact ⟨fun x hx => (ha x (List.mem_cons_of_mem _ hx)).2, hp.2⟩
    | succ m =>
      rw [List.set_cons_succ, List.pairwise_cons]
      refine ⟨?_, ih m hp.2 (fun x hx => ha x (List.mem_cons_of_mem _ hx))⟩
      intro x hx
      rcases List.mem_or_eq_of_mem_set hx with h | h
      · exact hp.1 x h
      · subst h; exact (ha z List.mem_cons_self).1

/-- a fresh node (parentless, childless, not on the stack) may replace any stack entry -/
theorem sanc_set_fresh {d : Dom} {l : List Id} {new : Id} (m : Nat) (hs : SAnc d l)
    (hpar : d.parentOf new = none) (hk : NoKids d new) (hn : new ∉ l) : SAnc d (l.set m new) := by
  refine pairwise_set m hs ?_
  intro x hx
  constructor
  · intro ha
    have := anc_of_noKids hk ha
    subst this; exact hn hx
  · intro ha
    have := anc_of_parentless hpar ha
    subst this; exact hn hx

/-- moving the parentless stack element `x ∈ B` under a node `P` none of whose ancestors-or-self is
in the upper part `B` of the stack -/
theorem sanc_move {d d' : Dom} {A B : List Id} {x P : Id} (hs : SAnc d (A ++ B)) (hx : x ∈ B)
    (hC : ∀ b ∈ B, ¬ Anc d b P)
    (heff : ∀ a y, Anc d' a y → Anc d a y ∨ (Anc d x y ∧ Anc d a P)) : SAnc d' (A ++ B) := by
  unfold SAnc at hs ⊢
  rw [List.pairwise_append] at hs ⊢
  obtain ⟨h1, h2, h3⟩ := hs
  refine ⟨?_, ?_, ?_⟩
  · refine h1.imp_of_mem ?_
    intro a b ha _ hn hab
    rcases heff b a hab with h | h
    · exact hn h
    · exact h3 a ha x hx h.1
  · refine h2.imp_of_mem ?_
    intro a b _ hb hn hab
    rcases heff b a hab with h | h
    · exact hn h
    · exact hC b hb h.2
  · intro a ha b hb hab
    rcases heff b a hab with h | h
    · exact h3 a ha b hb h
    · exact hC b hb h.2

theorem anc_cases {d : Dom} {a x : Id} (h : Anc d a x) : a = x ∨ ∃ p, d.parentOf x = some p ∧ Anc d a p := by
  cases h with
  | refl => exact Or.inl rfl
  | step hp ha => exact Or.inr ⟨_, hp, ha⟩

/-- the clone `new` of the formatting element, a child of the furthest block `fb` and not on the
stack, may be put on the stack right above `fb` -/
theorem sanc_insert_above {d : Dom} (hw : WF d) {pre post : List Id} {new fb : Id}
    (hs : SAnc d (pre ++ fb :: post)) (hn : new ∉ pre ++ fb :: post) (hp : d.parentOf new = some fb) :
    SAnc d (pre ++ fb :: new :: post) := by
  unfold SAnc at hs ⊢
  rw [List.pairwise_append, List.pairwise_cons] at hs
  obtain ⟨h1, ⟨h2, h3⟩, h4⟩ := hs
  rw [List.pairwise_append, List.pairwise_cons, List.pairwise_cons]
  have hup : ∀ b, b ≠ new → Anc d b new → Anc d b fb := by
    intro b hb ha
    rcases anc_cases ha with h | ⟨p, hpp, hap⟩
    · exact absurd h hb
    · rw [hp] at hpp; cases hpp; exact hap
  refine ⟨h1, ⟨?_, ?_, h3⟩, ?_⟩
  · intro b hb
    rcases List.mem_cons.mp hb with rfl | hb
    · exact no_cycle hw hp
    · exact h2 b hb
  · intro b hb ha
    have hbn : b ≠ new := by rintro rfl; exact hn (by simp [hb])
    exact h2 b hb (hup b hbn ha)
  · intro a ha b hb
    rcases List.mem_cons.mp hb with rfl | hb
    · exact h4 a ha b List.mem_cons_self
    · rcases List.mem_cons.mp hb with rfl | hb
      · intro hab
        exact h4 a ha fb List.mem_cons_self (Anc.parent hab hp)
      · exact h4 a ha b (List.mem_cons_of_mem _ hb)

/-- steps 15–17: the children of `fb` are moved to the fresh node `new`: `new` does not become an
ancestor of `fb` -/
theorem not_anc_after_reparent {d d1 : Dom} (hw : WF d) {fb new : Id} (hk : NoKids d new) (hne : fb ≠ new)
    (h1 : ∀ x, d1.parentOf x = if d.parentOf x = some fb then some new else d.parentOf x) :
    ¬ Anc d1 new fb := by
  intro ha
  rcases anc_reparent h1 ha with h | ⟨c, hc, hcf, _⟩
  · exact hne (anc_of_noKids hk h)
  · exact no_cycle hw hc hcf

/-- … and after `new` has been appended to `fb`, ancestry among the other nodes is what it was -/
theorem anc_after_clone {d d1 d2 : Dom} {fb new : Id} (hpar : d.parentOf new = none) (hk : NoKids d new)
    (h1 : ∀ x, d1.parentOf x = if d.parentOf x = some fb then some new else d.parentOf x)
    (h2 : ∀ x, d2.parentOf x = if x = new then some fb else d1.parentOf x) {a y : Id} (ha : a ≠ new)
    (hy : y ≠ new) (h : Anc d2 a y) : Anc d a y := by
  have e1 : ∀ {u v : Id}, u ≠ new → Anc d1 u v → Anc d u v := by
    intro u v hu huv
    rcases anc_reparent h1 huv with h | ⟨c, _, _, hun⟩
    · exact h
    · exact absurd (anc_of_parentless hpar hun) hu
  rcases anc_attach h2 h with h | ⟨hny, haf⟩
  · exact e1 ha h
  · have hfy : Anc d fb y := by
      rcases anc_reparent h1 hny with h | ⟨c, hc, hcy, _⟩
      · exact absurd (anc_of_noKids hk h) hy
      · exact Anc.parent hcy hc
    exact (e1 ha haf).trans hfy

/-! ### the calls -/

theorem apply_removeFromParent_inv {d d' : Dom} {t : Id} {out : Output}
    (h : d.apply (.removeFromParent t) = .ok (d', out)) : d.removeFromParent t = .ok d' := by
  have h' : d.applyV Dom.cloneVariant Dom.beforeSiblingVariant (.removeFromParent t) = .ok (d', out) := h
  simp only [Dom.applyV, bind, Except.bind] at h'
  cases ha : d.removeFromParent t with
  | error e => simp [ha] at h'
  | ok d1 => simp [ha] at h'; rw [h'.1]

theorem apply_reparentChildren_inv {d d' : Dom} {n np : Id} {out : Output}
    (h : d.apply (.reparentChildren n np) = .ok (d', out)) : d.reparentChildren n np = .ok d' := by
  have h' : d.applyV Dom.cloneVariant Dom.beforeSiblingVariant (.reparentChildren n np) = .ok (d', out) := h
  simp only [Dom.applyV, bind, Except.bind] at h'
  cases ha : d.reparentChildren n np with
  | error e => simp [ha] at h'
  | ok d1 => simp [ha] at h'; rw [h'.1]

theorem apply_mirror_inv {d d' : Dom} {o : Id} {out : Output}
    (h : d.apply (.maybeCloneAnOptionIntoSelectedcontent o) = .ok (d', out)) :
    d.maybeCloneOption .fixed o = .ok d' := by
  have h' : d.applyV Dom.cloneVariant Dom.beforeSiblingVariant (.maybeCloneAnOptionIntoSelectedcontent o)
      = .ok (d', out) := h
  simp only [Dom.applyV, bind, Except.bind] at h'
  cases ha : d.maybeCloneOption Dom.cloneVariant o with
  | error e => simp [ha] at h'
  | ok d1 => simp [ha] at h'; rw [← h'.1]; exact ha

/-- effect of `remove_from_parent` on the parent function -/
theorem removeFromParent_eff {d d' : Dom} {t : Id} (h : d.removeFromParent t = .ok d') :
    d'.size = d.size ∧ ∀ x, d'.parentOf x = if x = t then none else d.parentOf x := by
  rcases removeFromParent_ok h with ⟨h0, he⟩ | ⟨p, i, _, _, hp, _, _, hs, _⟩
  · subst he
    refine ⟨rfl, fun x => ?_⟩
    by_cases hx : x = t
    · rw [if_pos hx, hx]; exact h0
    · rw [if_neg hx]
  · exact ⟨hs, hp⟩

/-- effect of `reparent_children` on the parent function -/
theorem reparentChildren_eff {d d' : Dom} (hw : WF d) {n np : Id} (h : d.reparentChildren n np = .ok d') :
    d'.size = d.size ∧ ∀ x, d'.parentOf x = if d.parentOf x = some n then some np else d.parentOf x := by
  obtain ⟨_, _, _, hp, _, _, hs, _⟩ := reparentChildren_ok h
  refine ⟨hs, fun x => ?_⟩
  rw [hp x]
  by_cases hx : x ∈ d.childrenOf n
  · rw [if_pos hx, if_pos ((hw.links x n).mpr hx)]
  · rw [if_neg hx, if_neg (fun e => hx ((hw.links x n).mp e))]

/-- **inserting an existing parentless node at a valid insertion point is inside the contract** when
the node is not an ancestor-or-self of the parent-to-be -/
theorem contract_ipOp_moved {d : Dom} (hi : Inv d) {ip : InsertionPoint} {x : Id} (hv : IpValid d ip)
    (hx : d.isInsertable x = true) (hpar : d.parentOf x = none)
    (hanc : ∀ P, ipParent d ip = some P → ¬ Anc d x P) (hne : ∀ y ∈ ipIds ip, y ≠ x) :
    Contract d (ipOp ip (.node x)) := by
  have hchild : ∀ (P : Id) (mp : Bool), P < d.size → ¬ Anc d x P → d.childOk P mp (.node x) = true := by
    intro P mp hP hn
    simp only [Dom.childOk, Bool.and_eq_true, Bool.not_eq_true', Bool.or_eq_true]
    refine ⟨⟨hx, Or.inr (by rw [hpar]; rfl)⟩, ?_⟩
    cases h : d.isAncOrSelf x P with
    | false => rfl
    | true => exact absurd ((isAncOrSelf_iff hi.wf hP).mp h) hn
  cases ip with
  | beforeSibling sb => exact absurd hv id
  | lastChild p =>
    show d.contractAppend p (.node x) = true
    simp only [Dom.contractAppend, Bool.and_eq_true]
    exact ⟨hv, hchild p true (lt_of_isContainer hv) (hanc p rfl)⟩
  | tableFosterParenting e pe =>
    obtain ⟨he, hpe⟩ := hv
    show (d.isElement e && d.isElement pe &&
      (if (d.parentOf e).isSome then d.contractAppendBeforeSibling e (.node x)
        else d.contractAppend pe (.node x))) = true
    rw [he, hpe]
    simp only [Bool.true_and]
    cases hpe' : d.parentOf e with
    | none =>
      simp only [Option.isSome_none, Bool.false_eq_true, if_false, Dom.contractAppend, Bool.and_eq_true]
      refine ⟨isContainer_of_isElement hpe, hchild pe true (lt_of_isElement hpe) (hanc pe ?_)⟩
      simp [ipParent, hpe']
    | some P =>
      simp only [Option.isSome_some, if_true, Dom.contractAppendBeforeSibling, hpe', Bool.and_eq_true]
      have hPc : d.isContainer P = true := hi.kinds.parentContainer e P hpe'
      refine ⟨isInsertable_of_isElement he, ⟨hPc, hchild P false (lt_of_isContainer hPc) (hanc P ?_)⟩, ?_⟩
      · simp [ipParent, hpe']
      · have : x ≠ e := fun e' => hne e (by simp [ipIds]) e'.symm
        simp [this]

/-- a `Document` node is parentless -/
theorem parentless_of_doc {d : Dom} (hk : Kinds d) {x : Id} (h : d.dataOf x = some .document) :
    d.parentOf x = none := by
  cases hp : d.parentOf x with
  | none => rfl
  | some p => exact absurd h (hk.childNotDoc x p hp)

theorem not_doc_of_isEl {d : Dom} {x : Id} (h : IsEl d x) : d.dataOf x ≠ some .document := by
  intro hd
  obtain ⟨y, hy⟩ := h
  unfold sigOf at hy
  rw [hd] at hy
  simp [TBSafe.sigData] at hy

theorem isInsertable_of_isEl {d : Dom} {x : Id} (h : IsEl d x) : d.isInsertable x = true :=
  isInsertable_of_isElement (isElement_of_isEl h)

theorem isContainer_of_isEl {d : Dom} {x : Id} (h : IsEl d x) : d.isContainer x = true :=
  isContainer_of_isElement (isElement_of_isEl h)

/-! ### the frame of one tree-mutating call -/

theorem t2_of_apply {s : State} (hcb : CB d0 s) {op : SinkOp} {d' : Dom} {out : Output}
    (ha : s.dom.apply op = .ok (d', out))
    (hd : DomI d0 { s with dom := d', traceRev := (op, out) :: s.traceRev }) :
    T2 d0 s { s with dom := d', traceRev := (op, out) :: s.traceRev } :=
  ⟨hcb.of_dom hd (apply_ext ha) (apply_kext ha), apply_ext ha, apply_kext ha, d', _, rfl⟩

section t2fields
variable {s s' : State} (h : T2 d0 s s')
include h
theorem T2.openElems : s'.openElems = s.openElems := by obtain ⟨d, t, e⟩ := h.same; rw [e]
theorem T2.activeFormatting : s'.activeFormatting = s.activeFormatting := by obtain ⟨d, t, e⟩ := h.same; rw [e]
theorem T2.fosterParenting : s'.fosterParenting = s.fosterParenting := by obtain ⟨d, t, e⟩ := h.same; rw [e]
end t2fields

/-- `remove_from_parent(t)` -/
theorem satc_removeFromParent {t : Id} {s : State} (hcb : CB d0 s) (ht : IsEl s.dom t) :
    SatC (sinkUnit (.removeFromParent t)) s (fun _ s' => T2 d0 s s' ∧ s'.dom.size = s.dom.size ∧
      ∀ x, s'.dom.parentOf x = if x = t then none else s.dom.parentOf x) := by
  refine satc_sinkUnit hcb.d ?_ ?_
  · show decide (t < s.dom.size) = true
    simpa using lt_of_isEl ht
  · intro d' out ha hd
    exact ⟨t2_of_apply hcb ha hd, removeFromParent_eff (apply_removeFromParent_inv ha)⟩

theorem parSub_of_remove {d d' : Dom} {t : Id}
    (h : ∀ x, d'.parentOf x = if x = t then none else d.parentOf x) :
    ∀ x q, d'.parentOf x = some q → d.parentOf x = some q := by
  intro x q hx
  rw [h x] at hx
  by_cases hxt : x = t
  · rw [if_pos hxt] at hx; cases hx
  · rw [if_neg hxt] at hx; exact hx

theorem satc_removeFromParent_shrink {t : Id} {s : State} (hcb : CB d0 s) (hsa : SAnc s.dom s.openElems)
    (ht : IsEl s.dom t) :
    SatC (sinkUnit (.removeFromParent t)) s (fun _ s' => T2 d0 s s' ∧ SAnc s'.dom s'.openElems) := by
  refine (satc_removeFromParent hcb ht).mono ?_
  rintro _ s' ⟨h2, _, hp⟩
  refine ⟨h2, ?_⟩
  rw [h2.openElems]
  exact hsa.of_oldSub hcb.d.inv.wf hcb.h.lt (fun x q _ => parSub_of_remove hp x q)

/-- what the selectedcontent mirror does to old nodes: they keep their parent or lose it -/
theorem maybeCloneOption_oldSub {d d' : Dom} {o : Id} (hw : WF d) (hk : Kinds d)
    (h : d.maybeCloneOption .fixed o = .ok d') :
    ∀ x q, x < d.size → d'.parentOf x = some q → d.parentOf x = some q := by
  unfold Dom.maybeCloneOption at h
  simp only [bind, Except.bind] at h
  cases ht : d.cloneTarget .fixed o with
  | error e => simp [ht] at h
  | ok r =>
    simp only [ht] at h
    cases r with
    | none => simp at h; subst h; exact fun _ _ _ hx => hx
    | some sc =>
      simp only at h
      obtain ⟨_, _, _, _, h5, _, _, h8⟩ := cloneOptionInto_fixed_spec hw hk (cloneTarget_fixed_element ht) h
      intro x q hx hq
      by_cases hm : x ∈ d.childrenOf sc
      · rw [h5 x hm] at hq; cases hq
      · rw [h8 x hx hm] at hq; exact hq

theorem satc_maybeCloneOption {o : Id} {s : State} (hcb : CB d0 s) (hsa : SAnc s.dom s.openElems)
    (ho : IsEl s.dom o) (hn : (nm s.dom o).loc = "option".toList) :
    SatC (sinkUnit (.maybeCloneAnOptionIntoSelectedcontent o)) s
      (fun _ s' => T2 d0 s s' ∧ SAnc s'.dom s'.openElems) := by
  refine satc_sinkUnit hcb.d ?_ ?_
  · show (s.dom.localNameOf o == some H5V.Model.Dom.sOption) = true
    obtain ⟨x, hx⟩ := ho
    have hx' := hx
    unfold nm at hn
    rw [hx] at hn
    unfold sigOf at hx
    unfold Dom.localNameOf
    cases hd : s.dom.dataOf o with
    | none => rw [hd] at hx; cases hx
    | some v =>
      rw [hd] at hx
      cases v <;> simp [TBSafe.sigData] at hx
      subst hx
      simp only [TBSafe.enameOfSig] at hn
      simp only [hn]
      decide
  · intro d' out ha hd
    refine ⟨t2_of_apply hcb ha hd, ?_⟩
    show SAnc d' s.openElems
    exact hsa.of_oldSub hcb.d.inv.wf hcb.h.lt
      (maybeCloneOption_oldSub hcb.d.inv.wf hcb.d.inv.kinds (apply_mirror_inv ha))

/-! ### valued query leaves -/

theorem satcv_sameNode {x y : Id} {s : State} (hcb : CB d0 s) (hx : IsEl s.dom x) (hy : IsEl s.dom y) :
    SatC (sameNode x y) s (fun b s' => b = (x == y) ∧ Q2 d0 s s') := by
  unfold H5V.Model.HtmlTB.sameNode sinkBool
  refine SatC.bind (satc_sink (Q := fun o s' => o = .bool (x == y) ∧ Q2 d0 s s') hcb.d
    (contract_sameNode hx hy) ?_) ?_
  · intro d' out ha hd
    have ha' := ha
    rw [TBSafe.apply_sameNode] at ha; cases ha
    exact ⟨rfl, q2_of_nt hcb rfl ha' hd⟩
  · rintro o s' ⟨rfl, hq⟩
    exact satc_pure ⟨rfl, hq⟩

theorem satcv_parseError {msg : String} {s : State} (hcb : CB d0 s) :
    SatC (parseError msg) s (fun _ s' => Q2 d0 s s') := by
  unfold H5V.Model.HtmlTB.parseError
  refine satc_sinkUnit hcb.d contract_parseError ?_
  intro d' out ha hd
  exact q2_of_nt hcb rfl ha hd

/-- a query that answers `P x` -/
def AnswersC (d0 : Dom) (pred : Id → M Bool) (P : Id → Bool) (d : Dom) (x : Id) : Prop :=
  ∀ s1, CB d0 s1 → Ext d s1.dom → SatC (pred x) s1 (fun b s2 => b = P x ∧ Q2 d0 s1 s2)

theorem answersC_sameNode_right {d : Dom} {node x : Id} (hn : IsEl d node) (hx : IsEl d x) :
    AnswersC d0 (fun n => sameNode n node) (fun n => n == node) d x :=
  fun _ hcb he => satcv_sameNode hcb (hx.ext he) (hn.ext he)

theorem answersC_sameNode_left {d : Dom} {node x : Id} (hn : IsEl d node) (hx : IsEl d x) :
    AnswersC d0 (fun n => sameNode node n) (fun n => node == n) d x :=
  fun _ hcb he => satcv_sameNode hcb (hn.ext he) (hx.ext he)

theorem satcv_inScopeLoop {scope : EName → Bool} {pred : Id → M Bool} {P : Id → Bool} :
    ∀ (l : List Id) (s : State), CB d0 s → (∀ x ∈ l, IsEl s.dom x) → (∀ x ∈ l, AnswersC d0 pred P s.dom x) →
    SatC (inScopeLoop scope pred l) s (fun b s' => b = TBSafe.inScopeP s.dom scope P l ∧ Q2 d0 s s') := by
  intro l
  induction l with
  | nil => intro s hcb _ _; exact satc_pure ⟨rfl, Q2.refl hcb⟩
  | cons node rest ih =>
    intro s hcb hall hp
    unfold inScopeLoop
    have hel := hall node List.mem_cons_self
    refine (hp node List.mem_cons_self s hcb (Ext.refl _)).bind ?_
    rintro b s1 ⟨rfl, hq1⟩
    by_cases hP : P node = true
    · simp only [hP, if_true]
      exact satc_pure ⟨by simp [TBSafe.inScopeP, hP], hq1⟩
    · simp only [hP, if_false, Bool.false_eq_true]
      refine (satcv_elemName hq1.cb (hel.ext hq1.ext)).bind ?_
      rintro n s2 ⟨rfl, hq2⟩
      rw [nm_ext hq1.ext hel]
      by_cases hsc : scope (nm s.dom node) = true
      · simp only [hsc, if_true]
        exact satc_pure ⟨by simp [TBSafe.inScopeP, hP, hsc], hq1.trans hq2⟩
      · simp only [hsc, if_false, Bool.false_eq_true]
        have hq := hq1.trans hq2
        have hall' : ∀ x ∈ rest, IsEl s.dom x := fun x hx => hall x (List.mem_cons_of_mem _ hx)
        refine (ih s2 hq.cb (fun x hx => (hall' x hx).ext hq.ext) ?_).mono ?_
        · intro x hx s3 hcb3 he
          exact hp x (List.mem_cons_of_mem _ hx) s3 hcb3 (hq.ext.trans he)
        · rintro b s3 ⟨rfl, hq3⟩
          refine ⟨?_, hq.trans hq3⟩
          simp only [TBSafe.inScopeP, hP, hsc, if_false, Bool.false_eq_true]
          exact TBSafe.inScopeP_congr (fun x hx => nm_ext hq.ext (hall' x hx))

theorem satcv_inScope {scope : EName → Bool} {pred : Id → M Bool} {P : Id → Bool} {s : State} (hcb : CB d0 s)
    (hp : ∀ x ∈ s.openElems, AnswersC d0 pred P s.dom x) :
    SatC (inScope scope pred) s
      (fun b s' => b = TBSafe.inScopeP s.dom scope P s.openElems.reverse ∧ Q2 d0 s s') := by
  unfold inScope
  refine satc_getS_bind ?_
  exact satcv_inScopeLoop _ s hcb (fun x hx => hcb.h.open_el x (List.mem_reverse.mp hx))
    (fun x hx => hp x (List.mem_reverse.mp hx))

theorem satcv_rpositionLoop {p : Id → M Bool} {P : Id → Bool} : ∀ (l : List Id) (n : Nat) (s : State), CB d0 s →
    (∀ x ∈ l, AnswersC d0 p P s.dom x) →
    SatC (rpositionLoop p l n) s (fun r s' => r = TBSafe.rposL P l n ∧ Q2 d0 s s') := by
  intro l
  induction l with
  | nil => intro n s hcb _; exact satc_pure ⟨rfl, Q2.refl hcb⟩
  | cons x rest ih =>
    intro n s hcb hp
    unfold rpositionLoop
    refine (hp x List.mem_cons_self s hcb (Ext.refl _)).bind ?_
    rintro b s1 ⟨rfl, hq⟩
    by_cases hP : P x = true
    · simp only [hP, if_true]; exact satc_pure ⟨by simp [TBSafe.rposL, hP], hq⟩
    · simp only [hP, if_false, Bool.false_eq_true]
      refine (ih (n - 1) s1 hq.cb
        (fun y hy s2 hcb2 he => hp y (List.mem_cons_of_mem _ hy) s2 hcb2 (hq.ext.trans he))).mono ?_
      rintro r s2 ⟨rfl, hq2⟩
      exact ⟨by simp [TBSafe.rposL, hP], hq.trans hq2⟩

theorem satcv_rposition {p : Id → M Bool} {P : Id → Bool} {s : State} (hcb : CB d0 s)
    (hp : ∀ x ∈ s.openElems, AnswersC d0 p P s.dom x) :
    SatC (rposition p) s
      (fun r s' => r = TBSafe.rposL P s.openElems.reverse s.openElems.length ∧ Q2 d0 s s') := by
  unfold rposition
  exact satc_getS_bind (satcv_rpositionLoop _ _ s hcb (fun x hx => hp x (List.mem_reverse.mp hx)))

theorem satcv_findFurthestBlock : ∀ (l : List Id) (i : Nat) (s : State), CB d0 s → (∀ x ∈ l, IsEl s.dom x) →
    SatC (findFurthestBlock l i) s (fun r s' => r = TBSafe.ffbP s.dom l i ∧ Q2 d0 s s') := by
  intro l
  induction l with
  | nil => intro i s hcb _; exact satc_pure ⟨rfl, Q2.refl hcb⟩
  | cons e rest ih =>
    intro i s hcb hall
    unfold findFurthestBlock
    have hel := hall e List.mem_cons_self
    refine (satcv_elemIn hcb hel).bind ?_
    rintro b s1 ⟨rfl, hq1⟩
    by_cases hsp : specialTag (nm s.dom e) = true
    · simp only [hsp, if_true]
      exact satc_pure ⟨by simp [TBSafe.ffbP, hsp], hq1⟩
    · simp only [hsp, if_false, Bool.false_eq_true]
      have hall' : ∀ x ∈ rest, IsEl s.dom x := fun x hx => hall x (List.mem_cons_of_mem _ hx)
      refine (ih (i + 1) s1 hq1.cb (fun x hx => (hall' x hx).ext hq1.ext)).mono ?_
      rintro r s2 ⟨rfl, hq2⟩
      refine ⟨?_, hq1.trans hq2⟩
      simp only [TBSafe.ffbP, hsp, if_false, Bool.false_eq_true]
      exact TBSafe.ffbP_congr (fun x hx => nm_ext hq1.ext (hall' x hx))

theorem satcv_positionSameNode {x : Id} : ∀ (l : List Id) (i : Nat) (s : State), CB d0 s → IsEl s.dom x →
    (∀ y ∈ l, IsEl s.dom y) →
    SatC (positionSameNode x l i) s (fun r s' => r = TBSafe.posP x l i ∧ Q2 d0 s s') := by
  intro l
  induction l with
  | nil => intro i s hcb _ _; exact satc_pure ⟨rfl, Q2.refl hcb⟩
  | cons n rest ih =>
    intro i s hcb hx hall
    unfold positionSameNode
    refine (satcv_sameNode hcb (hall n List.mem_cons_self) hx).bind ?_
    rintro b s1 ⟨rfl, hq1⟩
    by_cases hb : (n == x) = true
    · simp only [hb, if_true]; exact satc_pure ⟨by simp [TBSafe.posP, hb], hq1⟩
    · simp only [hb, if_false, Bool.false_eq_true]
      refine (ih (i + 1) s1 hq1.cb (hx.ext hq1.ext)
        (fun y hy => (hall y (List.mem_cons_of_mem _ hy)).ext hq1.ext)).mono ?_
      rintro r s2 ⟨rfl, hq2⟩
      exact ⟨by simp [TBSafe.posP, hb], hq1.trans hq2⟩

theorem posP_some {x : Id} : ∀ {l : List Id} {i j : Nat}, TBSafe.posP x l i = some j →
    i ≤ j ∧ l[j - i]? = some x := by
  intro l
  induction l with
  | nil => intro i j h; simp [TBSafe.posP] at h
  | cons n rest ih =>
    intro i j h
    simp only [TBSafe.posP] at h
    by_cases hb : (n == x) = true
    · simp only [hb, if_true, Option.some.injEq] at h
      subst h
      have : n = x := by simpa using hb
      simp [this]
    · simp only [hb, if_false, Bool.false_eq_true] at h
      obtain ⟨h1, h2⟩ := ih h
      have hji : j - i = (j - (i + 1)) + 1 := by omega
      exact ⟨by omega, by rw [hji, List.getElem?_cons_succ]; exact h2⟩

/-- `position_in_active_formatting`: a query (its value is re-checked by the callers) -/
theorem satc_positionInAFLoop {element : Id} : ∀ (l : List FormatEntry) (i : Nat) (s : State), CB d0 s →
    IsEl s.dom element → (∀ h t, FormatEntry.element h t ∈ l → IsEl s.dom h) →
    SatC (positionInAFLoop element l i) s (fun _ s' => Q2 d0 s s') := by
  intro l
  induction l with
  | nil => intro i s hcb _ _; exact satc_pure (Q2.refl hcb)
  | cons e rest ih =>
    intro i s hcb hel hall
    cases e with
    | marker =>
      unfold positionInAFLoop
      exact ih (i + 1) s hcb hel (fun h t hm => hall h t (List.mem_cons_of_mem _ hm))
    | element h t =>
      unfold positionInAFLoop
      refine (satcv_sameNode hcb (hall h t List.mem_cons_self) hel).bind ?_
      rintro b s1 ⟨-, hq1⟩
      refine satc_ite (fun _ => satc_pure hq1) (fun _ => ?_)
      refine (ih (i + 1) s1 hq1.cb (hel.ext hq1.ext)
        (fun h' t' hm => (hall h' t' (List.mem_cons_of_mem _ hm)).ext hq1.ext)).mono ?_
      intro r s2 hq2
      exact hq1.trans hq2

theorem satc_positionInActiveFormatting {element : Id} {s : State} (hcb : CB d0 s) (hel : IsEl s.dom element) :
    SatC (positionInActiveFormatting element) s (fun _ s' => Q2 d0 s s') := by
  unfold positionInActiveFormatting
  refine satc_getS_bind ?_
  exact satc_positionInAFLoop _ 0 s hcb hel (fun h t hm => (hcb.h.af h t hm).1)

/-! ### where the appropriate place for inserting comes from -/

theorem IpFromA.kext {d d' : Dom} {pre : List Id} {ip : InsertionPoint} (h : IpFromA d pre ip) (hk : KExt d d') :
    IpFromA d' pre ip := by
  cases ip with
  | lastChild p =>
    rcases h with h | h
    · exact Or.inl h
    · exact Or.inr (isDoc_kext hk h)
  | beforeSibling sb => exact h
  | tableFosterParenting e pe => exact h

/-- **the appropriate place for inserting with override target `ca`**, where the stack is
`pre ++ post`, `ca ∈ pre`, and no element of `post` is an HTML `table`/`template` -/
theorem satc_appropriatePlace_ov {ca : Id} {s : State} {pre post : List Id} (hcb : CB d0 s)
    (hl : s.openElems = pre ++ post) (hca : ca ∈ pre) (hpost : ∀ x ∈ post, NotTT s.dom x) :
    SatC (appropriatePlaceForInsertion (some ca)) s
      (fun ip s' => Q2 d0 s s' ∧ IpValid s'.dom ip ∧ IpFromA s'.dom pre ip) := by
  have hcam : ca ∈ s.openElems := by rw [hl]; exact List.mem_append_left _ hca
  refine (satc_appropriatePlace hcb (fun t h => ?_)).mono ?_
  · cases h; exact ⟨hcb.h.open_el ca hcam, hcb.h.open_tc ca hcam⟩
  · rintro ip s' ⟨hq, hg⟩
    exact ⟨hq, hg.valid, hg.low pre post ca rfl hl hca hpost⟩

/-! ### inserting / appending an existing node, `reparent_children` -/

theorem satc_insertAt_moved {ip : InsertionPoint} {x : Id} {s : State} (hcb : CB d0 s) (hv : IpValid s.dom ip)
    (hx : IsEl s.dom x) (hpar : s.dom.parentOf x = none)
    (hanc : ∀ P, ipParent s.dom ip = some P → ¬ Anc s.dom x P) (hne : ∀ y ∈ ipIds ip, y ≠ x) :
    SatC (H5V.Model.HtmlTB.insertAt ip (.node x)) s (fun _ s' => T2 d0 s s' ∧
      ∃ P, ipParent s.dom ip = some P ∧ NodeEff s.dom s'.dom x P) := by
  rw [insertAt_eq]
  refine satc_sinkUnit hcb.d (contract_ipOp_moved hcb.d.inv hv (isInsertable_of_isEl hx) hpar hanc hne) ?_
  intro d' out ha hd
  exact ⟨t2_of_apply hcb ha hd, nodeEff_ipOp hv hpar hne ha⟩

theorem satc_append_moved {p x : Id} {s : State} (hcb : CB d0 s) (hp : IsEl s.dom p) (hx : IsEl s.dom x)
    (hpar : s.dom.parentOf x = none) (hanc : ¬ Anc s.dom x p) :
    SatC (sinkUnit (.append p (.node x))) s (fun _ s' => T2 d0 s s' ∧ NodeEff s.dom s'.dom x p) := by
  have hne : ∀ y ∈ ipIds (.lastChild p), y ≠ x := by
    intro y hy
    simp only [ipIds, List.mem_singleton] at hy
    subst hy
    intro e; exact hanc (e ▸ Anc.refl)
  have h := satc_insertAt_moved (ip := .lastChild p) hcb (isContainer_of_isEl hp) hx hpar
    (fun P hP => by simp only [ipParent, Option.some.injEq] at hP; subst hP; exact hanc) hne
  refine SatC.mono h ?_
  rintro _ s' ⟨h2, P, hP, he⟩
  simp only [ipParent, Option.some.injEq] at hP
  subst hP
  exact ⟨h2, he⟩

theorem satc_reparentChildren {n np : Id} {s : State} (hcb : CB d0 s) (hn : IsEl s.dom n) (hnp : IsEl s.dom np)
    (hanc : ¬ Anc s.dom n np) :
    SatC (sinkUnit (.reparentChildren n np)) s (fun _ s' => T2 d0 s s' ∧ s'.dom.size = s.dom.size ∧
      ∀ x, s'.dom.parentOf x = if s.dom.parentOf x = some n then some np else s.dom.parentOf x) := by
  refine satc_sinkUnit hcb.d ?_ ?_
  · show (s.dom.isContainer n && s.dom.isContainer np && !s.dom.isAncOrSelf n np) = true
    rw [isContainer_of_isEl hn, isContainer_of_isEl hnp]
    cases h : s.dom.isAncOrSelf n np with
    | false => rfl
    | true => exact absurd ((isAncOrSelf_iff hcb.d.inv.wf (lt_of_isEl hnp)).mp h) hanc
  · intro d' out ha hd
    exact ⟨t2_of_apply hcb ha hd, reparentChildren_eff hcb.d.inv.wf (apply_reparentChildren_inv ha)⟩

/-- where the parent-to-be lies: no element of the upper part of the stack is an ancestor-or-self of it -/
theorem ipFrom_not_anc {d : Dom} (hk : Kinds d) {pre post : List Id} (hs : SAnc d (pre ++ post))
    (hel : ∀ b ∈ post, IsEl d b) {ip : InsertionPoint} (hf : IpFromA d pre ip) {P : Id}
    (hP : ipParent d ip = some P) : ∀ b ∈ post, ¬ Anc d b P := by
  unfold SAnc at hs
  rw [List.pairwise_append] at hs
  obtain ⟨_, _, h3⟩ := hs
  intro b hb hab
  cases ip with
  | beforeSibling sb => exact hf
  | lastChild p =>
    simp only [ipParent, Option.some.injEq] at hP
    subst hP
    rcases hf with h | h
    · exact h3 p h b hb hab
    · have := anc_of_parentless (parentless_of_doc hk h) hab
      subst this
      exact not_doc_of_isEl (hel b hb) h
  | tableFosterParenting e pe =>
    simp only [ipParent] at hP
    cases hpar : d.parentOf e with
    | none =>
      rw [hpar] at hP; simp only [Option.some.injEq] at hP; subst hP
      exact h3 pe hf.2 b hb hab
    | some Q =>
      rw [hpar] at hP; simp only [Option.some.injEq] at hP; subst hP
      exact h3 e hf.1 b hb (Anc.step hpar hab)

theorem ipFrom_ne {d : Dom} {pre post : List Id} (hs : SAnc d (pre ++ post)) {ip : InsertionPoint}
    (hf : IpFromA d pre ip) (hel : ∀ b ∈ post, IsEl d b) {x : Id} (hx : x ∈ post) : ∀ y ∈ ipIds ip, y ≠ x := by
  unfold SAnc at hs
  rw [List.pairwise_append] at hs
  obtain ⟨_, _, h3⟩ := hs
  intro y hy e
  subst e
  cases ip with
  | beforeSibling sb => exact hf
  | lastChild p =>
    simp only [ipIds, List.mem_singleton] at hy
    subst hy
    rcases hf with h | h
    · exact h3 y h y hx Anc.refl
    · exact not_doc_of_isEl (hel y hx) h
  | tableFosterParenting e pe =>
    simp only [ipIds, List.mem_cons, List.not_mem_nil, or_false] at hy
    rcases hy with rfl | rfl
    · exact h3 y hf.1 y hx Anc.refl
    · exact h3 y hf.2 y hx Anc.refl

/-! ### updates of the two lists of the builder -/

theorem cb_upd {s : State} (hcb : CB d0 s) (l' : List Id) (af' : List FormatEntry)
    (hl : ∀ x ∈ l', x ∈ s.openElems ∨ (IsEl s.dom x ∧ TcDoc s.dom x))
    (haf : ∀ x t, FormatEntry.element x t ∈ af' → FormatEntry.element x t ∈ s.activeFormatting ∨
      (IsEl s.dom x ∧ nm s.dom x = ⟨nsHtml, t.name⟩ ∧ isOneOf t.name fmtNames = true ∧ AttrsOk t.attrs)) :
    CB d0 { s with openElems := l', activeFormatting := af' } where
  d := ⟨hcb.d.inv, hcb.d.run⟩
  h := {
    docH := hcb.h.docH
    doc0 := hcb.h.doc0
    open_el := fun x hx => by
      rcases hl x hx with h | h
      · exact hcb.h.open_el x h
      · exact h.1
    open_tc := fun x hx => by
      rcases hl x hx with h | h
      · exact hcb.h.open_tc x h
      · exact h.2
    af := fun x t hx => by
      rcases haf x t hx with h | h
      · exact hcb.h.af x t h
      · exact h
    head := hcb.h.head
    form := hcb.h.form
    ctx := hcb.h.ctx
    headTc := hcb.h.headTc }
  l := ⟨hcb.l.mode, hcb.l.orig, hcb.l.tm⟩

theorem cb_updAF {s : State} (hcb : CB d0 s) (af' : List FormatEntry)
    (haf : ∀ x t, FormatEntry.element x t ∈ af' → FormatEntry.element x t ∈ s.activeFormatting ∨
      (IsEl s.dom x ∧ nm s.dom x = ⟨nsHtml, t.name⟩ ∧ isOneOf t.name fmtNames = true ∧ AttrsOk t.attrs)) :
    CB d0 { s with activeFormatting := af' } :=
  cb_upd hcb s.openElems af' (fun _ h => Or.inl h) haf

theorem cb_updStack {s : State} (hcb : CB d0 s) (l' : List Id)
    (hl : ∀ x ∈ l', x ∈ s.openElems ∨ (IsEl s.dom x ∧ TcDoc s.dom x)) :
    CB d0 { s with openElems := l' } :=
  cb_upd hcb l' s.activeFormatting hl (fun _ _ h => Or.inl h)

/-- an element with a formatting name is not a `template` -/
theorem tcDoc_of_fmt {d : Dom} {x : Id} {n : Str} (hn : nm d x = ⟨nsHtml, n⟩) (hf : isOneOf n fmtNames = true) :
    TcDoc d x := by
  intro ht
  rw [hn] at ht
  simp only [tmplName, EName.mk.injEq] at ht
  rw [ht.2] at hf
  exact absurd hf (by decide +kernel)

theorem notTT_of_fmt {d : Dom} {x : Id} {n : Str} (hn : nm d x = ⟨nsHtml, n⟩) (hf : isOneOf n fmtNames = true) :
    NotTT d x := by
  unfold NotTT namedP
  rw [hn]
  constructor
  · cases h : ((⟨nsHtml, n⟩ : EName).ns == nsHtml && (⟨nsHtml, n⟩ : EName).loc == "template".toList) with
    | false => rfl
    | true =>
      simp only [Bool.and_eq_true, beq_iff_eq] at h
      rw [h.2] at hf; exact absurd hf (by decide +kernel)
  · cases h : ((⟨nsHtml, n⟩ : EName).ns == nsHtml && (⟨nsHtml, n⟩ : EName).loc == "table".toList) with
    | false => rfl
    | true =>
      simp only [Bool.and_eq_true, beq_iff_eq] at h
      rw [h.2] at hf; exact absurd hf (by decide +kernel)

theorem notTT_of_not_scope {d : Dom} {x : Id} (h : defaultScope (nm d x) = false) : NotTT d x := by
  unfold NotTT namedP
  cases hn : nm d x with
  | mk ns loc =>
    rw [hn] at h
    constructor
    · cases hb : (ns == nsHtml && loc == "template".toList) with
      | false => rfl
      | true =>
        simp only [Bool.and_eq_true, beq_iff_eq] at hb
        rw [hb.1, hb.2] at h
        exact absurd h (by decide +kernel)
    · cases hb : (ns == nsHtml && loc == "table".toList) with
      | false => rfl
      | true =>
        simp only [Bool.and_eq_true, beq_iff_eq] at hb
        rw [hb.1, hb.2] at h
        exact absurd h (by decide +kernel)

/-! ### list facts -/

theorem take_eraseIdx_of_le {α : Type} {l : List α} {k m : Nat} (h : k ≤ m) :
    (l.eraseIdx m).take k = l.take k := by
  apply List.ext_getElem?
  intro i
  rw [List.getElem?_take, List.getElem?_take]
  by_cases hi : i < k
  · rw [if_pos hi, if_pos hi, List.getElem?_eraseIdx_of_lt (by omega)]
  · rw [if_neg hi, if_neg hi]

theorem insertIdx_split {α : Type} (pre : List α) (x y : α) (post : List α) :
    (pre ++ x :: post).insertIdx (pre.length + 1) y = pre ++ x :: y :: post := by
  induction pre with
  | nil => rfl
  | cons a t ih => simp only [List.cons_append, List.length_cons, List.insertIdx_succ_cons, ih]

theorem split_at_getElem? {α : Type} {l : List α} {j : Nat} {x : α} (h : l[j]? = some x) :
    ∃ A B, l = A ++ x :: B ∧ A.length = j := by
  have hlt : j < l.length := TBSafe.getElem?_lt_of_some h
  refine ⟨l.take j, l.drop (j + 1), ?_, by rw [List.length_take]; omega⟩
  have := List.take_append_drop j l
  conv => lhs; rw [← this]
  congr 1
  rw [List.drop_eq_getElem_cons hlt]
  congr 1
  rw [List.getElem?_eq_getElem hlt] at h
  exact Option.some.inj h

/-! ### the invariant of the inner loop -/

/-- `pre` = the stack below the formatting element (never touched); `n` = `node_index` before
`node_index -= 1`; `lastNode` sits on the stack at an index `≥ n`; nothing from the formatting element
upwards is an HTML `table`/`template` -/
structure AInv (s : State) (fmtElem : Id) (pre : List Id) (n : Nat) (lastNode : Id) : Prop where
  lt : pre.length < n
  atFmt : s.openElems[pre.length]? = some fmtElem
  take : s.openElems.take pre.length = pre
  last : ∃ j, n ≤ j ∧ s.openElems[j]? = some lastNode
  ntt : ∀ k y, pre.length ≤ k → s.openElems[k]? = some y → NotTT s.dom y
  sa : SAnc s.dom s.openElems

theorem AInv.same_stack {s s' : State} {f : Id} {pre : List Id} {n : Nat} {last : Id} (h : AInv s f pre n last)
    (hel : ∀ x ∈ s.openElems, IsEl s.dom x) (ho : s'.openElems = s.openElems) (he : Ext s.dom s'.dom)
    (hsa : SAnc s'.dom s'.openElems) : AInv s' f pre n last where
  lt := h.lt
  atFmt := by rw [ho]; exact h.atFmt
  take := by rw [ho]; exact h.take
  last := by rw [ho]; exact h.last
  ntt := fun k y hk hy => by
    rw [ho] at hy
    exact (h.ntt k y hk hy).ext he (hel y (List.mem_of_getElem? hy))
  sa := hsa

theorem AInv.q2 {s s' : State} {f : Id} {pre : List Id} {n : Nat} {last : Id} (hcb : CB d0 s)
    (h : AInv s f pre n last) (hq : Q2 d0 s s') : AInv s' f pre n last :=
  h.same_stack hcb.h.open_el hq.openElems hq.ext (h.sa.grow hcb.d.inv.wf hcb.h.lt hq.g)

theorem AInv.mono {s : State} {f : Id} {pre : List Id} {n n' : Nat} {last : Id} (h : AInv s f pre n last)
    (hn : pre.length < n') (hle : n' ≤ n) : AInv s f pre n' last :=
  ⟨hn, h.atFmt, h.take, by obtain ⟨j, hj, hl⟩ := h.last; exact ⟨j, by omega, hl⟩, h.ntt, h.sa⟩

theorem AInv.relast {s : State} {f : Id} {pre : List Id} {n : Nat} {last x : Id} (h : AInv s f pre n last)
    (hx : ∃ j, n ≤ j ∧ s.openElems[j]? = some x) : AInv s f pre n x :=
  ⟨h.lt, h.atFmt, h.take, hx, h.ntt, h.sa⟩

theorem AInv.withAF {s : State} {f : Id} {pre : List Id} {n : Nat} {last : Id} (h : AInv s f pre n last)
    (af : List FormatEntry) : AInv { s with activeFormatting := af } f pre n last :=
  ⟨h.lt, h.atFmt, h.take, h.last, h.ntt, h.sa⟩

theorem AInv.idx_lt {s : State} {f node : Id} {pre : List Id} {m : Nat} {last : Id}
    (h : AInv s f pre (m + 1) last) (hget : s.openElems[m]? = some node) (hne : node ≠ f) : pre.length < m := by
  have := h.lt
  by_cases he : pre.length = m
  · have h2 := h.atFmt; rw [he, hget] at h2; cases h2; exact absurd rfl hne
  · omega

theorem AInv.erase {s : State} {f node : Id} {pre : List Id} {m : Nat} {last : Id}
    (h : AInv s f pre (m + 1) last) (hget : s.openElems[m]? = some node) (hne : node ≠ f) :
    AInv { s with openElems := s.openElems.eraseIdx m } f pre m last where
  lt := h.idx_lt hget hne
  atFmt := by
    show (s.openElems.eraseIdx m)[pre.length]? = _
    rw [List.getElem?_eraseIdx_of_lt (h.idx_lt hget hne)]; exact h.atFmt
  take := by
    show (s.openElems.eraseIdx m).take pre.length = pre
    rw [take_eraseIdx_of_le (Nat.le_of_lt (h.idx_lt hget hne))]; exact h.take
  last := by
    obtain ⟨j, hj, hl⟩ := h.last
    refine ⟨j - 1, by omega, ?_⟩
    show (s.openElems.eraseIdx m)[j - 1]? = _
    rw [List.getElem?_eraseIdx_of_ge (by omega)]
    have : j - 1 + 1 = j := by omega
    rw [this]; exact hl
  ntt := fun k y hk hy => by
    have hy' : (s.openElems.eraseIdx m)[k]? = some y := hy
    by_cases hkm : k < m
    · rw [List.getElem?_eraseIdx_of_lt hkm] at hy'
      exact h.ntt k y hk hy'
    · rw [List.getElem?_eraseIdx_of_ge (by omega)] at hy'
      exact h.ntt (k + 1) y (by omega) hy'
  sa := h.sa.sublist (List.eraseIdx_sublist _ _)

theorem AInv.replace {s : State} {f node new : Id} {pre : List Id} {m : Nat} {last : Id}
    (h : AInv s f pre (m + 1) last) (hget : s.openElems[m]? = some node) (hne : node ≠ f)
    (hpar : s.dom.parentOf new = none) (hk : NoKids s.dom new) (hnotin : new ∉ s.openElems)
    (hntt : NotTT s.dom new) (af : List FormatEntry) :
    AInv { s with openElems := s.openElems.set m new, activeFormatting := af } f pre m last where
  lt := h.idx_lt hget hne
  atFmt := by
    show (s.openElems.set m new)[pre.length]? = _
    have := h.idx_lt hget hne
    rw [List.getElem?_set]
    have hmf : m ≠ pre.length := by omega
    simp only [hmf, if_false]; exact h.atFmt
  take := by
    show (s.openElems.set m new).take pre.length = pre
    rw [List.take_set_of_le (Nat.le_of_lt (h.idx_lt hget hne))]; exact h.take
  last := by
    obtain ⟨j, hj, hl⟩ := h.last
    refine ⟨j, by omega, ?_⟩
    show (s.openElems.set m new)[j]? = _
    rw [List.getElem?_set]
    have hmj : m ≠ j := by omega
    simp only [hmj, if_false]; exact hl
  ntt := fun k y hk hy => by
    have hy' : (s.openElems.set m new)[k]? = some y := hy
    rw [List.getElem?_set] at hy'
    by_cases hmk : m = k
    · simp only [hmk, if_true] at hy'
      split at hy'
      · cases hy'; exact hntt
      · cases hy'
    · simp only [hmk, if_false] at hy'
      exact h.ntt k y hk hy'
  sa := sanc_set_fresh m h.sa hpar hk hnotin

/-- the tree part of one iteration: `last_node` (stack index `j`) is detached and appended to the
fresh clone `new` (stack index `m < j`) -/
theorem sanc_after_append {d d1 d2 : Dom} {l : List Id} {m j : Nat} {new lastNode : Id} (hw : WF d)
    (hl : ∀ x ∈ l, x < d.size) (hs : SAnc d l) (hm : l[m]? = some new) (hj : l[j]? = some lastNode) (hmj : m < j)
    (hpar : d.parentOf new = none)
    (h1 : ∀ x, d1.parentOf x = if x = lastNode then none else d.parentOf x)
    (h2 : ∀ x, d2.parentOf x = if x = lastNode then some new else d1.parentOf x) : SAnc d2 l := by
  have hs1 : SAnc d1 l := hs.of_oldSub hw hl (fun x q _ => parSub_of_remove h1 x q)
  have hsplit := List.take_append_drop (m + 1) l
  rw [← hsplit] at hs1 ⊢
  have hlm : lastNode ∈ l.drop (m + 1) := by
    refine List.mem_of_getElem? (i := j - (m + 1)) ?_
    rw [List.getElem?_drop]
    have : m + 1 + (j - (m + 1)) = j := by omega
    rw [this]; exact hj
  have hnm : new ∈ l.take (m + 1) := by
    refine List.mem_of_getElem? (i := m) ?_
    rw [List.getElem?_take_of_lt (Nat.lt_succ_self m)]; exact hm
  have hpar1 : d1.parentOf new = none := by
    rw [h1 new]; split
    · rfl
    · exact hpar
  refine sanc_move hs1 hlm ?_ (fun a y h => anc_attach h2 h)
  intro b hb hab
  have := anc_of_parentless hpar1 hab
  subst this
  have hcross := (List.pairwise_append.mp hs1).2.2
  exact hcross b hnm b hb Anc.refl

theorem satc_afRemove {i : Nat} {site : String} {s : State}
    (hs : TBSafe.infixL "@sink: ".toList ("remove-oob" ++ "@" ++ site ++ ": " ++ "Vec::remove").toList = false
      := by no_sink) :
    SatC (afRemove i site) s
      (fun _ s' => s' = { s with activeFormatting := s.activeFormatting.eraseIdx i }) := by
  unfold afRemove
  refine satc_getS_bind ?_
  refine satc_ite (fun _ => ?_) (fun _ => satc_panicAt hs)
  unfold setAF
  exact satc_modS rfl

theorem cb_afErase {s : State} (hcb : CB d0 s) (i : Nat) :
    CB d0 { s with activeFormatting := s.activeFormatting.eraseIdx i } :=
  cb_updAF hcb _ (fun _ _ h => Or.inl (List.mem_of_mem_eraseIdx h))

/-- the handle a bookmark mentions -/
def bmId : Bookmark → Id
  | .replace h => h
  | .insertAfter h => h

abbrev InnerPostC (d0 : Dom) (s : State) (fmtElem fb : Id) (pre : List Id) (r : Id × Bookmark) (s' : State) : Prop :=
  CB d0 s' ∧ Ext s.dom s'.dom ∧ (IsEl s'.dom fb ∧ IsEl s'.dom (bmId r.2)) ∧
    AInv s' fmtElem pre (pre.length + 1) r.1

theorem satc_aaInner {fmtElem fb : Id} {pre : List Id} : ∀ (n c : Nat) (s : State) (lastNode : Id) (bm : Bookmark),
    CB d0 s → IsEl s.dom fb → IsEl s.dom (bmId bm) → AInv s fmtElem pre n lastNode →
    SatC (aaInner fmtElem fb n c lastNode bm) s (InnerPostC d0 s fmtElem fb pre) := by
  intro n
  induction n with
  | zero => intro c s lastNode bm _ _ _ hv; exact absurd hv.lt (Nat.not_lt_zero _)
  | succ m ih =>
    intro c s lastNode bm hcb hfb hbm hv
    unfold aaInner
    dsimp only
    refine satc_getS_bind ?_
    cases hget : s.openElems[m]? with
    | none => exact satc_panicAt_bind
    | some node =>
      dsimp only
      refine SatC.bind (Q := fun r s1 => node = r ∧ s = s1) (satc_pure ⟨rfl, rfl⟩) ?_
      rintro node' s0 ⟨rfl, rfl⟩
      have hnel : IsEl s.dom node := hcb.h.open_el node (List.mem_of_getElem? hget)
      have hfel : IsEl s.dom fmtElem := hcb.h.open_el fmtElem (List.mem_of_getElem? hv.atFmt)
      refine (satcv_sameNode hcb hnel hfel).bind ?_
      rintro b s1 ⟨rfl, hq1⟩
      by_cases hb : (node == fmtElem) = true
      · simp only [hb, if_true]
        exact satc_pure ⟨hq1.cb, hq1.ext, ⟨hfb.ext hq1.ext, hbm.ext hq1.ext⟩,
          (hv.q2 hcb hq1).mono (Nat.lt_succ_self _) (Nat.succ_le_of_lt hv.lt)⟩
      · simp only [hb, if_false, Bool.false_eq_true]
        have hne : node ≠ fmtElem := by simpa using hb
        have hcb1 := hq1.cb
        have hv1 := hv.q2 hcb hq1
        have hget1 : s1.openElems[m]? = some node := by rw [hq1.openElems]; exact hget
        have hnel1 : IsEl s1.dom node := hnel.ext hq1.ext
        -- `open_elems.remove(node_index)` and the next iteration
        have hErase : ∀ s2, CB d0 s2 → Ext s.dom s2.dom → IsEl s2.dom fb → AInv s2 fmtElem pre (m + 1) lastNode →
            s2.openElems[m]? = some node →
            SatC (do
              modS fun s => { s with openElems := s.openElems.eraseIdx m }
              aaInner fmtElem fb m (c + 1) lastNode bm) s2 (InnerPostC d0 s fmtElem fb pre) := by
          intro s2 hcb2 he2 hfb2 hv2 hget2
          refine satc_modS_bind ?_
          have hcb3 := (cb_dropStack hcb2 (List.eraseIdx_sublist s2.openElems m)).1
          refine (ih (c + 1) _ lastNode bm hcb3 hfb2 (hbm.ext he2) (hv2.erase hget2 hne)).mono ?_
          rintro r s4 ⟨h1, h2, h3, h4⟩
          exact ⟨h1, he2.trans h2, h3, h4⟩
        -- the two tree operations and the next iteration
        have hRec : ∀ (bm' : Bookmark) (s6 : State) (new : Id) (j : Nat), CB d0 s6 → Ext s.dom s6.dom →
            IsEl s6.dom fb → IsEl s6.dom (bmId bm') → AInv s6 fmtElem pre m lastNode →
            s6.openElems[m]? = some new → m < j →
            s6.openElems[j]? = some lastNode → s6.dom.parentOf new = none →
            SatC (do
              let bookmark ← pure bm'
              sinkUnit (SinkOp.removeFromParent lastNode)
              sinkUnit (SinkOp.append new (NodeOrText.node lastNode))
              aaInner fmtElem fb m (c + 1) new bookmark) s6 (InnerPostC d0 s fmtElem fb pre) := by
          intro bm' s6 new j hcb6 he6 hfb6 hbm6 hv6 hm6 hmj hj6 hpar6
          refine SatC.bind (Q := fun r s' => bm' = r ∧ s6 = s') (satc_pure ⟨rfl, rfl⟩) ?_
          rintro bm'' s6' ⟨rfl, rfl⟩
          have hlel : IsEl s6.dom lastNode := hcb6.h.open_el _ (List.mem_of_getElem? hj6)
          have hnewel : IsEl s6.dom new := hcb6.h.open_el _ (List.mem_of_getElem? hm6)
          have hnl : lastNode ≠ new := by
            rintro rfl
            have hnd := hv6.sa.nodup
            have hlt : j < s6.openElems.length := TBSafe.getElem?_lt_of_some hj6
            have hlt' : m < s6.openElems.length := TBSafe.getElem?_lt_of_some hm6
            have := (List.getElem?_inj hlt hnd).mp (hj6.trans hm6.symm)
            omega
          refine (satc_removeFromParent hcb6 hlel).bind ?_
          rintro _ s7 ⟨ht7, hsz7, hp7⟩
          have hpl7 : s7.dom.parentOf lastNode = none := by rw [hp7]; simp
          have hpn7 : s7.dom.parentOf new = none := by
            rw [hp7]; split
            · rfl
            · exact hpar6
          refine (satc_append_moved ht7.cb (hnewel.ext ht7.ext) (hlel.ext ht7.ext) hpl7 ?_).bind ?_
          · intro ha
            exact hnl (anc_of_parentless hpn7 ha)
          rintro _ s8 ⟨ht8, heff8⟩
          have ho8 : s8.openElems = s6.openElems := by rw [ht8.openElems, ht7.openElems]
          have he68 : Ext s6.dom s8.dom := ht7.ext.trans ht8.ext
          have hsa8 : SAnc s8.dom s8.openElems := by
            rw [ho8]
            exact sanc_after_append hcb6.d.inv.wf hcb6.h.lt hv6.sa hm6 hj6 hmj hpar6 hp7 heff8.par
          have hv8 : AInv s8 fmtElem pre m new :=
            (hv6.same_stack hcb6.h.open_el ho8 he68 hsa8).relast ⟨m, Nat.le_refl _, by rw [ho8]; exact hm6⟩
          refine (ih (c + 1) s8 new bm' ht8.cb (hfb6.ext he68) (hbm6.ext he68) hv8).mono ?_
          rintro r s9 ⟨h1, h2, h3, h4⟩
          exact ⟨h1, (he6.trans he68).trans h2, h3, h4⟩
        -- `create_element` for the clone, the replacement in the two lists
        have hCreate : ∀ (t : Tag) (nfi : Nat) (s3 : State), CB d0 s3 → Ext s.dom s3.dom → IsEl s3.dom fb →
            AInv s3 fmtElem pre (m + 1) lastNode → s3.openElems[m]? = some node →
            isOneOf t.name fmtNames = true → AttrsOk t.attrs →
            SatC (do
              let tag ← pure t
              let newElement ← createElementWithFlags (htmlQual tag.name) tag.attrs tag.hadDup
              modS fun s => { s with
                openElems := s.openElems.set m newElement,
                activeFormatting := s.activeFormatting.set nfi (FormatEntry.element newElement tag) }
              let __do_lift ← sameNode lastNode fb
              if __do_lift = true then do
                  let bookmark ← pure (Bookmark.insertAfter newElement)
                  sinkUnit (SinkOp.removeFromParent lastNode)
                  sinkUnit (SinkOp.append newElement (NodeOrText.node lastNode))
                  aaInner fmtElem fb m (c + 1) newElement bookmark
                else do
                  let bookmark ← pure bm
                  sinkUnit (SinkOp.removeFromParent lastNode)
                  sinkUnit (SinkOp.append newElement (NodeOrText.node lastNode))
                  aaInner fmtElem fb m (c + 1) newElement bookmark) s3 (InnerPostC d0 s fmtElem fb pre) := by
          intro t nfi s3 hcb3 he3 hfb3 hv3 hget3 hfmt hattrs
          refine SatC.bind (Q := fun r s' => t = r ∧ s3 = s') (satc_pure ⟨rfl, rfl⟩) ?_
          rintro t' s3' ⟨rfl, rfl⟩
          refine (satc_createElement hcb3 (attrKeysNodup_of_attrsOk hattrs)).bind ?_
          intro new s4 hcr
          have hcb4 := hcr.q.cb
          have hv4 := hv3.q2 hcb3 hcr.q
          have hget4 : s4.openElems[m]? = some node := by rw [hcr.q.openElems]; exact hget3
          have hnm4 : nm s4.dom new = ⟨nsHtml, t.name⟩ := hcr.nm
          have hnotin : new ∉ s4.openElems := by
            intro hmem
            rw [hcr.q.openElems] at hmem
            exact Nat.lt_irrefl _ (Nat.lt_of_lt_of_le (hcb3.h.lt new hmem) hcr.ge)
          obtain ⟨j, hj, hlj⟩ := hv4.last
          refine satc_modS_bind ?_
          have hmlt : m < s4.openElems.length := TBSafe.getElem?_lt_of_some hget4
          have hcb5 : CB d0 ({ s4 with openElems := s4.openElems.set m new
                                       activeFormatting := s4.activeFormatting.set nfi (FormatEntry.element new t) } : State) := by
            refine cb_upd hcb4 _ _ ?_ ?_
            · intro x hx
              rcases List.mem_or_eq_of_mem_set hx with h | h
              · exact Or.inl h
              · subst h; exact Or.inr ⟨hcr.el, hcr.tc⟩
            · intro x t' hx
              rcases List.mem_or_eq_of_mem_set hx with h | h
              · exact Or.inl h
              · cases h; exact Or.inr ⟨hcr.el, hnm4, hfmt, hattrs⟩
          have hv5 := hv4.replace hget4 hne hcr.fresh.par (noKids_of_children hcb4.d.inv.wf hcr.fresh.kids) hnotin
            (notTT_of_fmt hnm4 hfmt) (s4.activeFormatting.set nfi (FormatEntry.element new t))
          have hm5 : (s4.openElems.set m new)[m]? = some new := by
            rw [List.getElem?_set]; simp [hmlt]
          have hj5 : (s4.openElems.set m new)[j]? = some lastNode := by
            rw [List.getElem?_set]
            have hmj : m ≠ j := by omega
            simp only [hmj, if_false]; exact hlj
          have hlel5 : IsEl s4.dom lastNode := hcb4.h.open_el _ (List.mem_of_getElem? hlj)
          have hfb4 : IsEl s4.dom fb := hfb3.ext hcr.q.ext
          refine (satcv_sameNode hcb5 hlel5 hfb4).bind ?_
          rintro b6 s6 ⟨-, hq6⟩
          have he6 : Ext s.dom s6.dom := (he3.trans hcr.q.ext).trans hq6.ext
          have hpar6 : s6.dom.parentOf new = none := by
            rw [hq6.g.oldPar new hcr.lt]; exact hcr.fresh.par
          have hv6 := hv5.q2 hcb5 hq6
          have hm6 : s6.openElems[m]? = some new := by rw [hq6.openElems]; exact hm5
          have hj6 : s6.openElems[j]? = some lastNode := by rw [hq6.openElems]; exact hj5
          refine satc_ite (fun _ => ?_) (fun _ => ?_)
          · exact hRec _ s6 new j hq6.cb he6 (hfb4.ext hq6.ext) (hcr.el.ext hq6.ext) hv6 hm6 (by omega) hj6 hpar6
          · exact hRec _ s6 new j hq6.cb he6 (hfb4.ext hq6.ext) (hbm.ext he6) hv6 hm6 (by omega) hj6 hpar6
        refine satc_ite (fun _ => ?_) (fun _ => ?_)
        · refine (satc_positionInActiveFormatting hcb1 hnel1).bind ?_
          intro r s2 hq2
          have hq12 := hq1.trans hq2
          have hv2 := hv1.q2 hcb1 hq2
          have hget2 : s2.openElems[m]? = some node := by rw [hq2.openElems]; exact hget1
          cases r with
          | none => dsimp only; exact hErase s2 hq2.cb hq12.ext (hfb.ext hq12.ext) hv2 hget2
          | some pos =>
            dsimp only
            refine (satc_afRemove).bind ?_
            rintro _ s3 rfl
            exact hErase _ (cb_afErase hq2.cb pos) hq12.ext (hfb.ext hq12.ext) (hv2.withAF _) hget2
        · refine (satc_positionInActiveFormatting hcb1 hnel1).bind ?_
          intro r s2 hq2
          have hq12 := hq1.trans hq2
          have hv2 := hv1.q2 hcb1 hq2
          have hget2 : s2.openElems[m]? = some node := by rw [hq2.openElems]; exact hget1
          cases r with
          | none => dsimp only; exact hErase s2 hq2.cb hq12.ext (hfb.ext hq12.ext) hv2 hget2
          | some nfi =>
            dsimp only
            refine satc_getS_bind ?_
            cases hent : s2.activeFormatting[nfi]? with
            | none => exact satc_panicAt_bind
            | some e =>
              cases e with
              | marker => exact satc_panicAt_bind
              | element h t =>
                dsimp only
                obtain ⟨hhel, _, hfmt, hattrs⟩ := hq2.cb.h.af h t (List.mem_of_getElem? hent)
                refine (satcv_sameNode hq2.cb hhel (hnel1.ext hq2.ext)).bind ?_
                rintro b3 s3 ⟨-, hq3⟩
                have hq13 := hq12.trans hq3
                refine satc_ite (fun _ => satc_panicAt_bind) (fun _ => ?_)
                exact hCreate t nfi s3 hq3.cb hq13.ext (hfb.ext hq13.ext) (hv2.q2 hq2.cb hq3)
                  (by rw [hq3.openElems]; exact hget2) hfmt hattrs

/-! ### pieces of the outer step -/

theorem mem_insertIdx_or {α : Type} {l : List α} {i : Nat} {a x : α} (h : x ∈ l.insertIdx i a) : x = a ∨ x ∈ l := by
  by_cases hi : i ≤ l.length
  · exact (List.mem_insertIdx hi).mp h
  · rw [List.insertIdx_of_length_lt (by omega)] at h; exact Or.inr h

/-- the two ways of finding the topmost occurrence agree -/
theorem split_last_unique {P : Id → Bool} {pre pre' post post' : List Id} {x x' : Id}
    (h : pre ++ x :: post = pre' ++ x' :: post') (hx : P x = true) (hx' : P x' = true)
    (hp : ∀ y ∈ post, P y = false) (hp' : ∀ y ∈ post', P y = false) : pre = pre' ∧ x = x' ∧ post = post' := by
  have hlen : pre.length = pre'.length := by
    rcases Nat.lt_trichotomy pre.length pre'.length with hlt | heq | hgt
    · exfalso
      have h1 : (pre ++ x :: post)[pre'.length]? = some x' := by rw [h]; simp
      rw [List.getElem?_append_right (Nat.le_of_lt hlt)] at h1
      have h2 : pre'.length - pre.length = (pre'.length - pre.length - 1) + 1 := by omega
      rw [h2, List.getElem?_cons_succ] at h1
      have := hp x' (List.mem_of_getElem? h1)
      rw [hx'] at this; cases this
    · exact heq
    · exfalso
      have h1 : (pre' ++ x' :: post')[pre.length]? = some x := by rw [← h]; simp
      rw [List.getElem?_append_right (Nat.le_of_lt hgt)] at h1
      have h2 : pre.length - pre'.length = (pre.length - pre'.length - 1) + 1 := by omega
      rw [h2, List.getElem?_cons_succ] at h1
      have := hp' x (List.mem_of_getElem? h1)
      rw [hx] at this; cases this
  obtain ⟨h1, h2⟩ := List.append_inj h hlen
  simp only [List.cons.injEq] at h2
  exact ⟨h1, h2.1, h2.2⟩

theorem satc_if_pre {β : Type} {c : Prop} [Decidable c] {pre : M Unit} {rest : M β} {s : State}
    {R : β → State → Prop} (hcb : CB d0 s) (hpre : SatC pre s (fun _ s' => Q2 d0 s s'))
    (hrest : ∀ s', Q2 d0 s s' → SatC rest s' R) :
    SatC (if c then (do pre; rest) else rest) s R :=
  satc_when_then (I := Q2 d0 s) (Q2.refl hcb) hpre hrest

/-- `remove_from_stack` -/
theorem satc_removeFromStack {elem : Id} {s : State} (hcb : CB d0 s) (hel : IsEl s.dom elem) :
    SatC (removeFromStack elem) s (fun _ s' => CB d0 s' ∧ GrowRel s s' ∧ s'.openElems.Sublist s.openElems ∧
      s'.activeFormatting = s.activeFormatting) := by
  unfold removeFromStack
  refine (satcv_rposition (P := fun x => elem == x) hcb
    (fun x hx => answersC_sameNode_left hel (hcb.h.open_el x hx))).bind ?_
  rintro r s1 ⟨-, hq1⟩
  cases r with
  | none =>
    exact satc_pure ⟨hq1.cb, hq1.g, by rw [hq1.openElems]; exact List.Sublist.refl _, hq1.activeFormatting⟩
  | some pos =>
    dsimp only
    refine satc_modS_bind ?_
    obtain ⟨hcb2, hg2⟩ := cb_dropStack hq1.cb (List.eraseIdx_sublist s1.openElems pos)
    refine satc_sinkUnit hcb2.d (contract_pop (hel.ext hq1.ext)) ?_
    intro d' out ha hd
    have hq3 := q2_of_nt hcb2 rfl ha hd
    refine ⟨hq3.cb, (hq1.g.trans hg2).trans hq3.g, ?_, ?_⟩
    · show (s1.openElems.eraseIdx pos).Sublist s.openElems
      rw [← hq1.openElems]; exact List.eraseIdx_sublist _ _
    · show s1.activeFormatting = s.activeFormatting
      exact hq1.activeFormatting

/-- the stack-order invariant after steps 15–17 -/
theorem sanc_after_clone {d d1 d2 : Dom} {l : List Id} {fb new : Id} (hs : SAnc d l) (hn : new ∉ l)
    (hpar : d.parentOf new = none) (hk : NoKids d new)
    (h1 : ∀ x, d1.parentOf x = if d.parentOf x = some fb then some new else d.parentOf x)
    (h2 : ∀ x, d2.parentOf x = if x = new then some fb else d1.parentOf x) : SAnc d2 l := by
  unfold SAnc at hs ⊢
  refine hs.imp_of_mem ?_
  intro a b ha hb hnab hab
  exact hnab (anc_after_clone hpar hk h1 h2 (fun e => hn (e ▸ hb)) (fun e => hn (e ▸ ha)) hab)

/-- step 14: `last_node` is detached and inserted at the appropriate place for the common ancestor -/
theorem satc_aaStep14 {fmtElem lastNode ca : Id} {pre : List Id} {s : State} (hcb : CB d0 s)
    (hv : AInv s fmtElem pre (pre.length + 1) lastNode) (hca : ca ∈ pre) :
    SatC (do
      sinkUnit (SinkOp.removeFromParent lastNode)
      insertAppropriately (NodeOrText.node lastNode) (some ca)) s
      (fun _ s' => CB d0 s' ∧ Ext s.dom s'.dom ∧ s'.openElems = s.openElems ∧
        s'.activeFormatting = s.activeFormatting ∧ SAnc s'.dom s'.openElems) := by
  obtain ⟨j, hj, hlj⟩ := hv.last
  have hlel : IsEl s.dom lastNode := hcb.h.open_el _ (List.mem_of_getElem? hlj)
  have hsplit : s.openElems = pre ++ s.openElems.drop pre.length := by
    have := List.take_append_drop pre.length s.openElems
    rw [hv.take] at this; exact this.symm
  have hlm : lastNode ∈ s.openElems.drop pre.length := by
    refine List.mem_of_getElem? (i := j - pre.length) ?_
    rw [List.getElem?_drop]
    have : pre.length + (j - pre.length) = j := by omega
    rw [this]; exact hlj
  have hpostmem : ∀ y ∈ s.openElems.drop pre.length, y ∈ s.openElems := fun y hy => List.mem_of_mem_drop hy
  have hntt : ∀ y ∈ s.openElems.drop pre.length, NotTT s.dom y := by
    intro y hy
    obtain ⟨k, hk⟩ := List.mem_iff_getElem?.mp hy
    rw [List.getElem?_drop] at hk
    exact hv.ntt _ y (Nat.le_add_right _ _) hk
  refine (satc_removeFromParent hcb hlel).bind ?_
  rintro _ s7 ⟨ht7, _, hp7⟩
  have hsa7 : SAnc s7.dom s7.openElems := by
    rw [ht7.openElems]
    exact hv.sa.of_oldSub hcb.d.inv.wf hcb.h.lt (fun x q _ => parSub_of_remove hp7 x q)
  have hpl7 : s7.dom.parentOf lastNode = none := by rw [hp7]; simp
  unfold insertAppropriately
  have hl7 : s7.openElems = pre ++ s.openElems.drop pre.length := by rw [ht7.openElems]; exact hsplit
  refine (satc_appropriatePlace_ov ht7.cb hl7 hca
    (fun y hy => (hntt y hy).ext ht7.ext (hcb.h.open_el y (hpostmem y hy)))).bind ?_
  rintro ip s8 ⟨hq8, hv8, hf8⟩
  have hsa8 : SAnc s8.dom (pre ++ s.openElems.drop pre.length) := by
    have := hsa7.grow ht7.cb.d.inv.wf ht7.cb.h.lt hq8.g
    rw [hq8.openElems, hl7] at this; exact this
  have he8 : Ext s.dom s8.dom := ht7.ext.trans hq8.ext
  have hel8 : ∀ b ∈ s.openElems.drop pre.length, IsEl s8.dom b :=
    fun b hb => (hcb.h.open_el b (hpostmem b hb)).ext he8
  have hpl8 : s8.dom.parentOf lastNode = none := by
    rw [hq8.g.oldPar lastNode (lt_of_isEl (hlel.ext ht7.ext))]; exact hpl7
  refine (satc_insertAt_moved hq8.cb hv8 (hlel.ext he8) hpl8
    (fun P hP => ipFrom_not_anc hq8.cb.d.inv.kinds hsa8 hel8 hf8 hP lastNode hlm)
    (ipFrom_ne hsa8 hf8 hel8 hlm)).mono ?_
  rintro _ s9 ⟨ht9, P, hP, heff⟩
  have ho9 : s9.openElems = s.openElems := by rw [ht9.openElems, hq8.openElems, ht7.openElems]
  refine ⟨ht9.cb, he8.trans ht9.ext, ho9, ?_, ?_⟩
  · rw [ht9.activeFormatting, hq8.activeFormatting, ht7.activeFormatting]
  · rw [ho9, hsplit]
    exact sanc_move hsa8 hlm (ipFrom_not_anc hq8.cb.d.inv.kinds hsa8 hel8 hf8 hP)
      (fun a y h => anc_attach heff.par h)

/-- step 19: the formatting element leaves the stack, its clone goes right above the furthest block -/
theorem satc_aaStep19 {fmtElem fb new : Id} {s : State} (hcb : CB d0 s) (hsa : SAnc s.dom s.openElems)
    (hfel : IsEl s.dom fmtElem) (hfbel : IsEl s.dom fb) (hnel : IsEl s.dom new) (htc : TcDoc s.dom new)
    (hn : new ∉ s.openElems) (hp : s.dom.parentOf new = some fb) :
    SatC (do
      removeFromStack fmtElem
      let __do_lift ← getS
      let __do_lift ← positionSameNode fb __do_lift.openElems 0
      match __do_lift with
        | none => panicAt "fb-missing" "mod.rs:916" "furthest block missing from open element stack"
        | some nfbi => do
          modS fun s => { s with openElems := s.openElems.insertIdx (nfbi + 1) new }
          pure false) s (fun _ s' => CB d0 s' ∧ SAnc s'.dom s'.openElems ∧ Ext s.dom s'.dom) := by
  refine (satc_removeFromStack hcb hfel).bind ?_
  rintro _ s1 ⟨hcb1, hg1, hsub1, _⟩
  have hsa1 : SAnc s1.dom s1.openElems := hsa.grow hcb.d.inv.wf hcb.h.lt hg1
  refine satc_getS_bind ?_
  refine (satcv_positionSameNode _ 0 s1 hcb1 (hfbel.ext hg1.ext) hcb1.h.open_el).bind ?_
  rintro r s2 ⟨rfl, hq2⟩
  cases hpos : TBSafe.posP fb s1.openElems 0 with
  | none => exact satc_panicAt
  | some nfbi =>
    dsimp only
    refine satc_modS_bind ?_
    obtain ⟨_, hget⟩ := posP_some hpos
    rw [Nat.sub_zero] at hget
    have he2 : Ext s.dom s2.dom := hg1.ext.trans hq2.ext
    have hsa2 : SAnc s2.dom s2.openElems := hsa1.grow hcb1.d.inv.wf hcb1.h.lt hq2.g
    have hn2 : new ∉ s2.openElems := by
      rw [hq2.openElems]; exact fun h => hn (hsub1.subset h)
    have hp2 : s2.dom.parentOf new = some fb := by
      rw [hq2.g.oldPar new (lt_of_isEl (hnel.ext hg1.ext)), hg1.oldPar new (lt_of_isEl hnel)]; exact hp
    have hget2 : s2.openElems[nfbi]? = some fb := by rw [hq2.openElems]; exact hget
    obtain ⟨A, B, hsplit, hlen⟩ := split_at_getElem? hget2
    refine satc_pure ⟨?_, ?_, he2⟩
    · refine cb_updStack hq2.cb _ ?_
      intro x hx
      rcases mem_insertIdx_or hx with h | h
      · subst h; exact Or.inr ⟨hnel.ext he2, htc.ext he2 (hg1.kext.trans hq2.g.kext) hnel⟩
      · exact Or.inl h
    · show SAnc s2.dom (s2.openElems.insertIdx (nfbi + 1) new)
      rw [hsplit] at hsa2 hn2
      rw [hsplit, ← hlen, insertIdx_split]
      exact sanc_insert_above hq2.cb.d.inv.wf hsa2 hn2 hp2

end H5V.Lemmas.TBC
