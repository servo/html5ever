import H5V.Lemmas.HtmlTBReachRules2
/-!
C18, tree-builder side: `process_to_completion`, `process_token`, `end`, the constructors, and
runs over token lists.
-/
namespace H5V.Props.C18
open H5V.Model.Dom (Id QualName Attr NodeOrText SinkOp Output ElementFlags QuirksMode Dom)
open H5V.Model.HtmlTB
open H5V.Lemmas.TBM

/-- the handle an answer of `process_token` carries (`Script(node)`) -/
def srH : SinkResult → List Id
  | .script n => [n]
  | _ => []

@[pv_mem] theorem srH_script (n : Id) : srH (.script n) = [n] := rfl
@[pv_mem] theorem srH_continue : srH .continue_ = [] := rfl
@[pv_mem] theorem srH_plaintext : srH .plaintext = [] := rfl
@[pv_mem] theorem srH_rawData (k : H5V.Model.HtmlTok.RawKind) : srH (.rawData k) = [] := rfl
@[pv_mem] theorem srH_indicator (s : Str) : srH (.encodingIndicator s) = [] := rfl

instance pv_processToCompletion : ∀ (fuel : Nat) (t : Token) (more : List Token),
    Call (processToCompletion fuel t more) [] srH
  | 0, _, _ => ⟨by unfold processToCompletion; pv_walk⟩
  | fuel + 1, t, more => ⟨by
    have ih := pv_processToCompletion fuel
    unfold processToCompletion
    dsimp only
    pv_walk⟩

/-- **`process_token`** -/
instance pv_processToken (tok : TokToken) (line : Nat) : Call (processToken tok line) [] srH := ⟨by
  unfold processToken; pv_walk⟩

instance pv_endLoop : ∀ l : List Id, Call (endLoop l) l nil
  | [] => ⟨by unfold endLoop; pv_walk⟩
  | e :: rest => ⟨by have ih := pv_endLoop rest; unfold endLoop; pv_walk⟩

/-- **`TreeSink::end`** -/
instance pv_finishTB : Call finishTB [] nil := ⟨by unfold finishTB; pv_walk⟩

/-- `TreeBuilder::new`: the document handle is what `get_document` returns -/
instance pv_newTB : Call newTB [] nil := ⟨by unfold newTB; pv_walk⟩

/-- `TreeBuilder::new_for_fragment`: the context element and the form element come from the caller -/
instance pv_newForFragment (ctx : Id) (form : Option Id) : Call (newForFragment ctx form) (ctx :: form.toList) nil := ⟨by
  unfold newForFragment; pv_walk⟩

theorem pv_adjustedCurrentNodeForeign {c : List Id} : PV c adjustedCurrentNodeForeign nil := by
  unfold adjustedCurrentNodeForeign; pv_walk

theorem pv_tokenizerStateForContextElem {c : List Id} (b : Bool) : PV c (tokenizerStateForContextElem b) nil := by
  unfold tokenizerStateForContextElem; pv_walk

/-- the handles in a list of answers -/
def srsH (l : List SinkResult) : List Id := l.flatMap srH

theorem pv_processTokens : ∀ (toks : List (TokToken × Nat)) (acc : List SinkResult),
    PV (srsH acc) (processTokens toks acc) srsH
  | [], acc => by unfold processTokens; exact PV.pure fun _ h => h
  | (t, line) :: rest, acc => by
    unfold processTokens
    refine PV.bindCall (List.forall_mem_nil _) fun r => (pv_processTokens rest _).weaken ?_
    intro x hx
    split at hx
    · exact List.mem_append_right _ hx
    · simpa only [srsH, List.flatMap_cons] using hx

end H5V.Props.C18
