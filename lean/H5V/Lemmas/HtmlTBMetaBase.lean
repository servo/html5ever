import H5V.Model.HtmlTB.Run
import H5V.Props.C19
/-!
C19 (an encoding indicator fires exactly once per qualifying meta).

* `H5V.Lemmas.TBM` — inversion lemmas for the tree builder's monad `M = StateT State (Except String)`
  (used by the C18 files as well);
* `qualifies tag` — the label a `meta` start tag announces according to the property text: the
  `charset` attribute if there is one, else — for `http-equiv` = `content-type` (ASCII
  case-insensitively) — what the WHATWG extraction algorithm (`H5V.Spec.MetaExtract.extract`) finds in
  the `content` attribute;
* `Ans Q m` — every successful run of `m` answers with a value satisfying `Q`; the bind rule does not
  look at the first computation, so a walk over a rule only visits the tail positions;
* `ROk tok r` — an acceptable answer of a rule that was handed the token `tok`: an encoding
  indicator only for a qualifying `meta` start tag, and re-processing only of the same token.
-/
namespace H5V.Lemmas.TBM
open H5V.Model.Dom (Id QualName Attr NodeOrText SinkOp Output ElementFlags QuirksMode Dom)
open H5V.Model.HtmlTB

theorem bind_ok {α β : Type} {m : M α} {f : α → M β} {s s'' : State} {b : β} :
    (m >>= f) s = .ok (b, s'') ↔ ∃ a s', m s = .ok (a, s') ∧ f a s' = .ok (b, s'') := by
  show (StateT.bind m f) s = _ ↔ _
  unfold StateT.bind
  show (Except.bind (m s) _) = _ ↔ _
  cases h : m s with
  | error e => simp [Except.bind]
  | ok p =>
    obtain ⟨a, s'⟩ := p
    simp only [Except.bind, Except.ok.injEq, Prod.mk.injEq]
    constructor
    · intro h; exact ⟨a, s', ⟨rfl, rfl⟩, h⟩
    · rintro ⟨a', s1, ⟨rfl, rfl⟩, h⟩; exact h

theorem pure_ok {α : Type} {a b : α} {s s' : State} : (pure a : M α) s = .ok (b, s') ↔ a = b ∧ s = s' := by
  show (Except.ok (a, s) : Except String _) = _ ↔ _
  simp

theorem getS_ok {s s' a : State} : getS s = .ok (a, s') ↔ a = s ∧ s' = s := by
  show (Except.ok (s, s) : Except String _) = _ ↔ _
  simp only [Except.ok.injEq, Prod.mk.injEq]
  constructor <;> (rintro ⟨rfl, rfl⟩; exact ⟨rfl, rfl⟩)

theorem modS_ok {f : State → State} {s s' : State} {u : Unit} : modS f s = .ok (u, s') ↔ s' = f s := by
  show (Except.ok ((), f s) : Except String _) = _ ↔ _
  simp only [Except.ok.injEq, Prod.mk.injEq, true_and]
  exact eq_comm

theorem set_ok {x s s' : State} {u : Unit} : (set x : M Unit) s = .ok (u, s') ↔ s' = x := by
  show (Except.ok ((), x) : Except String _) = _ ↔ _
  simp only [Except.ok.injEq, Prod.mk.injEq, true_and]
  exact eq_comm

theorem throw_ok {α : Type} {e : String} {s s' : State} {a : α} : ¬ (throw e : M α) s = .ok (a, s') := by
  show ¬ (Except.error e : Except String _) = _
  simp

theorem panicAt_ok {α : Type} {c f t : String} {s s' : State} {a : α} : ¬ (panicAt c f t : M α) s = .ok (a, s') :=
  throw_ok

theorem fuelOut_ok {α : Type} {w : String} {s s' : State} {a : α} : ¬ (fuelOut w : M α) s = .ok (a, s') :=
  throw_ok

theorem sink_ok {op : SinkOp} {s s' : State} {out : Output} :
    sink op s = .ok (out, s') ↔
      ∃ d, s.dom.apply op = .ok (d, out) ∧ s' = { s with dom := d, traceRev := (op, out) :: s.traceRev } := by
  unfold sink
  cases h : s.dom.apply op with
  | error e => simp
  | ok p =>
    obtain ⟨d, o⟩ := p
    simp only [Except.ok.injEq, Prod.mk.injEq]
    constructor
    · rintro ⟨rfl, rfl⟩; exact ⟨d, ⟨rfl, rfl⟩, rfl⟩
    · rintro ⟨d', ⟨rfl, rfl⟩, rfl⟩; exact ⟨rfl, rfl⟩

theorem sinkUnit_ok {op : SinkOp} {s s' : State} {u : Unit} :
    sinkUnit op s = .ok (u, s') ↔ ∃ out, sink op s = .ok (out, s') := by
  unfold sinkUnit
  constructor
  · intro h
    obtain ⟨out, s1, e1, e2⟩ := bind_ok.mp h
    obtain ⟨_, rfl⟩ := pure_ok.mp e2
    exact ⟨out, e1⟩
  · rintro ⟨out, e⟩
    exact bind_ok.mpr ⟨out, s', e, pure_ok.mpr ⟨rfl, rfl⟩⟩

theorem sinkNode_ok {op : SinkOp} {s s' : State} {id : Id} :
    sinkNode op s = .ok (id, s') ↔ sink op s = .ok (.node id, s') := by
  unfold sinkNode
  rw [bind_ok]
  constructor
  · rintro ⟨out, s1, e1, e2⟩
    cases out <;> first | exact absurd e2 throw_ok | (obtain ⟨rfl, rfl⟩ := pure_ok.mp e2; exact e1)
  · exact fun e => ⟨_, s', e, pure_ok.mpr ⟨rfl, rfl⟩⟩

theorem sinkBool_ok {op : SinkOp} {s s' : State} {b : Bool} :
    sinkBool op s = .ok (b, s') ↔ sink op s = .ok (.bool b, s') := by
  unfold sinkBool
  rw [bind_ok]
  constructor
  · rintro ⟨out, s1, e1, e2⟩
    cases out <;> first | exact absurd e2 throw_ok | (obtain ⟨rfl, rfl⟩ := pure_ok.mp e2; exact e1)
  · exact fun e => ⟨_, s', e, pure_ok.mpr ⟨rfl, rfl⟩⟩

theorem elemName_ok {h : Id} {s s' : State} {n : EName} :
    elemName h s = .ok (n, s') ↔ sink (.elemName h) s = .ok (.name n.ns n.loc, s') := by
  unfold elemName
  rw [bind_ok]
  constructor
  · rintro ⟨out, s1, e1, e2⟩
    cases out <;> first | exact absurd e2 throw_ok | (obtain ⟨rfl, rfl⟩ := pure_ok.mp e2; exact e1)
  · exact fun e => ⟨_, s', e, pure_ok.mpr ⟨rfl, rfl⟩⟩

end H5V.Lemmas.TBM

namespace H5V.Props.C19
open H5V.Model.Dom (Id QualName Attr NodeOrText SinkOp Output ElementFlags QuirksMode Dom)
open H5V.Model.HtmlTB
open H5V.Lemmas.TBM

/-! ## which `meta` announces which label -/

/-- the label a pragma's `content` yields: the WHATWG extraction on the UTF-8 bytes of the attribute
value, read back as text -/
def contentLabel (content : Str) : Option Str :=
  (H5V.Spec.MetaExtract.extract (utf8Bytes content)).bind fun bytes =>
    (String.fromUTF8? (ByteArray.mk bytes.toArray)).map String.toList

/-- `http-equiv` is present and equals `content-type`, ASCII case-insensitively -/
def isPragma (tag : Tag) : Bool :=
  (tag.getAttribute "http-equiv").any fun v => eqIgnoreAsciiCase v "content-type".toList

/-- the property text: `charset` wins; else the pragma's extracted label -/
def qualifies (tag : Tag) : Option Str :=
  (tag.getAttribute "charset").orElse fun _ =>
    if isPragma tag then (tag.getAttribute "content").bind contentLabel else none

/-- a `meta` start tag -/
def isMetaStart (tag : Tag) : Prop := tag.kind = .startTag ∧ tag.name = "meta".toList

/-- the token `tok` is a `meta` start tag that announces the label `l` -/
def Fires (tok : Token) (l : Str) : Prop := ∃ tag, tok = .tag tag ∧ isMetaStart tag ∧ qualifies tag = some l

theorem qualifies_charset {tag : Tag} {cs : Str} (h : tag.getAttribute "charset" = some cs) :
    qualifies tag = some cs := by
  simp [qualifies, h]

theorem qualifies_pragma {tag : Tag} (h : tag.getAttribute "charset" = none) :
    qualifies tag = if isPragma tag then (tag.getAttribute "content").bind contentLabel else none := by
  simp [qualifies, h]

/-- the slice the extraction returns could not be read back as UTF-8 (the model then takes the panic
branch of `subtendril`'s validity check; the extracted slice is cut at ASCII bytes of a UTF-8
string, so this does not happen: `C19_label_decodes`) -/
def labelUndecodable (content : Str) : Prop :=
  ∃ bytes, H5V.Spec.MetaExtract.extract (utf8Bytes content) = some bytes ∧
    String.fromUTF8? (ByteArray.mk bytes.toArray) = none

/-- `extractEncoding` answers `contentLabel`, leaves the state alone, makes no sink call -/
theorem extractEncoding_ok {content : Str} {s s' : State} {r : Option Str}
    (h : extractEncoding content s = .ok (r, s')) : r = contentLabel content ∧ s' = s := by
  unfold extractEncoding at h
  rw [C19_extract] at h
  unfold contentLabel
  cases hx : H5V.Spec.MetaExtract.extract (utf8Bytes content) with
  | none =>
    rw [hx] at h
    obtain ⟨rfl, rfl⟩ := pure_ok.mp h
    exact ⟨rfl, rfl⟩
  | some bytes =>
    rw [hx] at h
    simp only [Option.bind_some] at h ⊢
    cases hu : String.fromUTF8? (ByteArray.mk bytes.toArray) with
    | none => rw [hu] at h; exact absurd h throw_ok
    | some str =>
      rw [hu] at h
      obtain ⟨rfl, rfl⟩ := pure_ok.mp h
      exact ⟨rfl, rfl⟩

theorem extractEncoding_run {content : Str} (hd : ¬ labelUndecodable content) (s : State) :
    extractEncoding content s = .ok (contentLabel content, s) := by
  unfold extractEncoding
  rw [C19_extract]
  unfold contentLabel
  cases hx : H5V.Spec.MetaExtract.extract (utf8Bytes content) with
  | none => rfl
  | some bytes =>
    simp only [Option.bind_some]
    cases hu : String.fromUTF8? (ByteArray.mk bytes.toArray) with
    | none => exact absurd ⟨bytes, hx, hu⟩ hd
    | some str => rfl

/-! ## the answer judgement -/

/-- every successful run of `m` answers with a value satisfying `Q` -/
class Ans {α : Type} (Q : α → Prop) (m : M α) : Prop where
  h : ∀ s a s', m s = .ok (a, s') → Q a

theorem Ans.bind {α β : Type} {Q : β → Prop} {m : M α} {f : α → M β} (h : ∀ a, Ans Q (f a)) :
    Ans Q (m >>= f) := by
  constructor
  intro s b s'' e
  obtain ⟨a, s', _, e2⟩ := bind_ok.mp e
  exact (h a).h s' b s'' e2

/-- the bind rule that does use what the first computation answers -/
theorem Ans.bindK {α β : Type} {P : α → Prop} {Q : β → Prop} {m : M α} {f : α → M β} (h1 : Ans P m)
    (h2 : ∀ a, P a → Ans Q (f a)) : Ans Q (m >>= f) := by
  constructor
  intro s b s'' e
  obtain ⟨a, s', e1, e2⟩ := bind_ok.mp e
  exact (h2 a (h1.h s a s' e1)).h s' b s'' e2

theorem Ans.pure {α : Type} {Q : α → Prop} {a : α} (h : Q a) : Ans Q (pure a : M α) := by
  constructor
  intro s b s' e
  obtain ⟨rfl, _⟩ := pure_ok.mp e
  exact h

theorem Ans.ite {α : Type} {Q : α → Prop} {c : Prop} [Decidable c] {a b : M α} (h1 : Ans Q a) (h2 : Ans Q b) :
    Ans Q (if c then a else b) := by
  by_cases hc : c
  · simp only [hc, if_true]; exact h1
  · simp only [hc, if_false]; exact h2

theorem Ans.pureBind {α β : Type} {Q : β → Prop} {a : α} {f : α → M β} (h : Ans Q (f a)) :
    Ans Q ((Pure.pure a : M α) >>= f) := by
  constructor
  intro s b s'' e
  obtain ⟨a', s', e1, e2⟩ := bind_ok.mp e
  obtain ⟨rfl, rfl⟩ := pure_ok.mp e1
  exact h.h _ _ _ e2

/-- the conditional, remembering the test -/
theorem Ans.iteH {α : Type} {Q : α → Prop} {c : Prop} [Decidable c] {a b : M α} (h1 : c → Ans Q a)
    (h2 : ¬ c → Ans Q b) : Ans Q (if c then a else b) := by
  by_cases hc : c
  · simp only [hc, if_true]; exact h1 hc
  · simp only [hc, if_false]; exact h2 hc

theorem Ans.throw {α : Type} {Q : α → Prop} (e : String) : Ans Q (throw e : M α) :=
  ⟨fun _ _ _ h => absurd h throw_ok⟩

theorem Ans.panicAt {α : Type} {Q : α → Prop} (c f t : String) : Ans Q (panicAt c f t : M α) :=
  ⟨fun _ _ _ h => absurd h throw_ok⟩

theorem Ans.fuelOut {α : Type} {Q : α → Prop} (w : String) : Ans Q (fuelOut w : M α) :=
  ⟨fun _ _ _ h => absurd h throw_ok⟩

theorem Ans.mono {α : Type} {P Q : α → Prop} {m : M α} (h : Ans P m) (hpq : ∀ a, P a → Q a) : Ans Q m :=
  ⟨fun s a s' e => hpq a (h.h s a s' e)⟩

/-! ## acceptable answers of a rule -/

/-- an answer that mentions no token and no label -/
def Plain : ProcessResult → Prop
  | .reprocess _ _ => False
  | .reprocessForeign _ => False
  | .encodingIndicator _ => False
  | _ => True

/-- an acceptable answer of a rule that was handed `tok` -/
def ROk (tok : Token) : ProcessResult → Prop
  | .reprocess _ t => t = tok
  | .reprocessForeign t => t = tok
  | .encodingIndicator l => Fires tok l
  | _ => True

theorem ROk.of_plain {tok : Token} {r : ProcessResult} (h : Plain r) : ROk tok r := by
  cases r <;> first | trivial | exact absurd h (by simp [Plain])

theorem Ans.plain {tok : Token} {m : M ProcessResult} (h : Ans Plain m) : Ans (ROk tok) m :=
  h.mono fun _ => ROk.of_plain

instance (priority := low) {tok : Token} {m : M ProcessResult} [h : Ans Plain m] : Ans (ROk tok) m := h.plain

/-- the walk over a rule: tail positions only -/
syntax "ans_step" : tactic
macro_rules
  | `(tactic| ans_step) => `(tactic|
    first
      | with_reducible apply Ans.pureBind
      | with_reducible apply Ans.bind
      | intro _
      | with_reducible apply Ans.iteH
      | ((with_reducible apply Ans.pure); first | exact trivial | exact rfl | with_reducible assumption)
      | with_reducible exact Ans.panicAt _ _ _
      | with_reducible exact Ans.throw _
      | with_reducible exact Ans.fuelOut _
      | exact inferInstance
      | with_reducible assumption
      | split
      | dsimp only)

syntax "ans_walk" : tactic
macro_rules
  | `(tactic| ans_walk) => `(tactic| repeat' ans_step)

end H5V.Props.C19
