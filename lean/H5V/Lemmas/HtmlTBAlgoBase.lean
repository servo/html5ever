import H5V.Spec.TreeAlgo2
import H5V.Lemmas.HtmlTBSpecStack
import H5V.Lemmas.DomStep
/-!
Foundations for the sub-algorithm equivalences of C02 (`H5V.Props.C02Algo`): a total-correctness
triple for the tree builder's monad *relative to the sink*.

`Tot m s Q`: run in state `s`, the model computation `m`
* either returns `a` in a state `s'` such that `Q a s' calls` holds, where `calls` are exactly the
  `TreeSink` calls made (`s'.traceRev = calls.reverse ++ s.traceRev`), `s'.dom` is the result of
  replaying them on `s.dom`, and element data of `s.dom` survive in `s'.dom` (`Ext`);
* or fails with a panic raised **inside a sink call** (`SinkErr`: the RcDom model refused the
  operation).  Panics of the tree builder itself and exhausted loop fuel are *not* allowed.

Whether a sink call can panic is the business of C05 (the calls satisfy the `TreeSink` contract) and
C20 (under the contract RcDom does not panic); here the question is what the tree builder decides
and which calls it makes.
-/
namespace H5V.Lemmas.HtmlTBAlgo
open H5V.Model.HtmlTB
open H5V.Model.Dom (Id SinkOp Output Dom QualName Attr NodeOrText ElementFlags NodeData)
open H5V.Lemmas.Dom
open H5V.Lemmas.HtmlTBSpec (NamesOk toName)

/-- a `TreeSink` call with its answer -/
abbrev Call := SinkOp × Output

/-- the error string of a panic inside the sink (`sink` in `Model/HtmlTB/Types.lean`) -/
def SinkErr (e : String) : Prop := ∃ e0 : String, e = errClass e0 ++ "@sink: " ++ e0

/-! ### element data are stable under the sink operations the helpers use -/

/-- the arena only grows and the data of elements do not change -/
structure Stable (d d' : Dom) : Prop where
  size : d.size ≤ d'.size
  data : ∀ h, d.isElement h = true → d'.dataOf h = d.dataOf h

theorem Stable.refl (d : Dom) : Stable d d := ⟨Nat.le_refl _, fun _ _ => rfl⟩

theorem isElement_of_data {d d' : Dom} {h : Id} (e : d'.dataOf h = d.dataOf h) : d'.isElement h = d.isElement h := by
  unfold Dom.isElement; rw [e]

theorem Stable.trans {a b c : Dom} (h1 : Stable a b) (h2 : Stable b c) : Stable a c :=
  ⟨Nat.le_trans h1.size h2.size, fun h he => by
    rw [h2.data h (by rw [isElement_of_data (h1.data h he)]; exact he), h1.data h he]⟩

theorem Stable.of_data {d d' : Dom} (hs : d.size ≤ d'.size) (hd : ∀ x, d'.dataOf x = d.dataOf x) : Stable d d' :=
  ⟨hs, fun h _ => hd h⟩

theorem isElement_lt {d : Dom} {h : Id} (he : d.isElement h = true) : h < d.size := lt_of_isElement he

theorem Stable.alloc (d : Dom) (data : NodeData) : Stable d (d.alloc data).1 :=
  ⟨by simp, fun h he => by rw [dataOf_alloc]; simp [Nat.ne_of_lt (isElement_lt he)]⟩

/-- a change of one text node -/
theorem Stable.textChange {d d' : Dom} {t : Id} {old new : NodeData} (hs : d'.size = d.size)
    (hold : d.dataOf t = some old) (hne : ∀ n a tc ip, old ≠ .element n a tc ip)
    (hd : ∀ x, d'.dataOf x = if x = t then some new else d.dataOf x) : Stable d d' :=
  ⟨Nat.le_of_eq hs.symm, fun h he => by
    rw [hd]
    by_cases hx : h = t
    · subst hx
      unfold Dom.isElement at he; rw [hold] at he
      cases old <;> simp at he
      exact absurd rfl (hne _ _ _ _)
    · simp [hx]⟩

theorem appendRaw_data {d d' : Dom} {p c : Id} (h : d.appendRaw p c = .ok d') :
    (∀ x, d'.dataOf x = d.dataOf x) ∧ d'.size = d.size := by
  unfold Dom.appendRaw at h
  simp only [bind, Except.bind] at h
  cases hc : d.get c with
  | error e => simp [hc] at h
  | ok cn =>
    have hcn := get_ok.mp hc
    simp only [hc] at h
    by_cases hpar : cn.parent.isSome = true
    · simp [hpar, throw, throwThe, MonadExceptOf.throw] at h
    · simp only [hpar] at h
      cases hp : (d.setNode c { data := cn.data, parent := some p, children := cn.children }).get p with
      | error e => simp [hp] at h
      | ok pn =>
        simp [hp] at h
        have hpn := get_ok.mp hp
        subst h
        refine ⟨fun x => ?_, ?_⟩
        · rw [dataOf_setNode hpn, dataOf_setNode hcn]
          by_cases hxp : x = p
          · subst hxp
            simp only [if_true]
            by_cases hxc : x = c
            · subst hxc
              rw [node?_setNode_of hcn] at hpn; simp at hpn; subst hpn
              simp [dataOf_of_node hcn]
            · rw [node?_setNode_of hcn] at hpn; simp [hxc] at hpn
              simp [dataOf_of_node hpn]
          · simp only [hxp, if_false]
            by_cases hxc : x = c
            · subst hxc; simp [dataOf_of_node hcn]
            · simp [hxc]
        · simp [Dom.setNode, Dom.size]

theorem Stable.appendRaw {d d' : Dom} {p c : Id} (h : d.appendRaw p c = .ok d') : Stable d d' :=
  let ⟨hd, hs⟩ := appendRaw_data h
  Stable.of_data (Nat.le_of_eq hs.symm) hd

theorem Stable.removeFromParent {d d' : Dom} {t : Id} (h : d.removeFromParent t = .ok d') : Stable d d' :=
  Stable.of_data (Nat.le_of_eq (removeFromParent_size h).symm) (removeFromParent_data h)

theorem Stable.insertAtIndex {d d' : Dom} {P c : Id} {i : Nat} (h : d.insertAtIndex P i c = .ok d') : Stable d d' := by
  obtain ⟨d1, h1, _, _, _, _, _, hd, hs, _⟩ := insertAtIndex_ok h
  exact (Stable.removeFromParent h1).trans (Stable.of_data (Nat.le_of_eq hs.symm) hd)

theorem isText_data {d : Dom} {x : Id} {old : Str} (_h : d.dataOf x = some (.text old)) :
    ∀ n a tc ip, NodeData.text old ≠ .element n a tc ip := by intro _ _ _ _ h'; cases h'

theorem Stable.append {d d' : Dom} {p : Id} {ch : NodeOrText} (h : d.append p ch = .ok d') : Stable d d' := by
  cases ch with
  | node c => rw [append_node_eq] at h; exact Stable.appendRaw h
  | text s =>
    rcases append_text_ok h with ⟨_, ⟨hl, old, _, hold, _, hd, hs⟩ | ⟨_, h2⟩⟩
    · exact Stable.textChange hs hold (isText_data hold) hd
    · exact (Stable.alloc d _).trans (Stable.appendRaw h2)

theorem Stable.appendBeforeSibling {d d' : Dom} {s : Id} {ch : NodeOrText} (h : d.appendBeforeSibling s ch = .ok d') :
    Stable d d' := by
  obtain ⟨P, i, _, _, _, hm⟩ := appendBeforeSibling_ok h
  cases ch with
  | node c => exact Stable.insertAtIndex hm
  | text t =>
    rcases hm with ⟨prev, old, _, _, hold, _, hd, hs⟩ | ⟨_, h2⟩
    · exact Stable.textChange hs hold (isText_data hold) hd
    · exact (Stable.alloc d _).trans (Stable.insertAtIndex h2)

theorem Stable.appendBeforeSiblingV {b : Dom.BeforeSiblingVariant} {d d' : Dom} {s : Id} {ch : NodeOrText}
    (h : d.appendBeforeSiblingV b s ch = .ok d') : Stable d d' := by
  rcases appendBeforeSiblingV_ok h with h1 | ⟨c, d1, _, hr, h2⟩
  · exact Stable.appendBeforeSibling h1
  · exact (Stable.removeFromParent hr).trans (Stable.appendBeforeSibling h2)

theorem Stable.appendBasedOnParentNodeV {b : Dom.BeforeSiblingVariant} {d d' : Dom} {e p : Id} {ch : NodeOrText}
    (h : d.appendBasedOnParentNodeV b e p ch = .ok d') : Stable d d' := by
  unfold Dom.appendBasedOnParentNodeV at h
  simp only [bind, Except.bind] at h
  cases he : d.get e with
  | error x => simp [he] at h
  | ok en =>
    simp only [he] at h
    by_cases hp : en.parent.isSome = true
    · simp only [hp, if_true] at h; exact Stable.appendBeforeSiblingV h
    · simp only [hp] at h; exact Stable.append h

theorem Stable.reparentChildren {d d' : Dom} {n np : Id} (h : d.reparentChildren n np = .ok d') : Stable d d' := by
  obtain ⟨_, _, _, _, _, hd, hs, _⟩ := reparentChildren_ok h
  exact Stable.of_data (Nat.le_of_eq hs.symm) hd

theorem Stable.createElement (d : Dom) (name : QualName) (attrs : List Attr) (flags : ElementFlags) :
    Stable d (d.createElement name attrs flags).1 := by
  unfold Dom.createElement
  by_cases ht : flags.template = true
  · simp only [ht, if_true]
    exact (Stable.alloc d _).trans (Stable.alloc _ _)
  · simp only [ht]
    exact Stable.alloc d _

/-- the sink operations whose effect on element data is covered here (all but
`add_attrs_if_missing`, which changes an element's attributes, and the `selectedcontent` cloning) -/
def Tame : SinkOp → Prop
  | .addAttrsIfMissing _ _ => False
  | .maybeCloneAnOptionIntoSelectedcontent _ => False
  | _ => True

theorem Stable.apply {d d' : Dom} {op : SinkOp} {out : Output} (ht : Tame op) (h : d.apply op = .ok (d', out)) :
    Stable d d' := by
  unfold Dom.apply Dom.applyV at h
  cases op <;> simp only [Tame] at ht <;> simp only [bind, Except.bind] at h
  case parseError msg => cases h; exact Stable.of_data (Nat.le_refl _) (fun _ => rfl)
  case getDocument => cases h; exact Stable.refl _
  case elemName t =>
    cases he : d.elemName t with
    | error e => simp [he] at h
    | ok v => simp [he] at h; rw [← h.1]; exact Stable.refl _
  case createElement name attrs flags => cases h; exact Stable.createElement d name attrs flags
  case createComment text => cases h; exact Stable.alloc d _
  case createPi t dd => cases h; exact Stable.alloc d _
  case append p c =>
    cases he : d.append p c with
    | error e => simp [he] at h
    | ok v => simp [he] at h; rw [← h.1]; exact Stable.append he
  case appendBasedOnParentNode e p c =>
    cases he : d.appendBasedOnParentNodeV Dom.beforeSiblingVariant e p c with
    | error e => simp [he] at h
    | ok v => simp [he] at h; rw [← h.1]; exact Stable.appendBasedOnParentNodeV he
  case appendDoctypeToDocument n p s =>
    cases he : d.appendDoctypeToDocument n p s with
    | error e => simp [he] at h
    | ok v =>
      simp [he] at h; rw [← h.1]
      unfold Dom.appendDoctypeToDocument at he
      exact (Stable.alloc d _).trans (Stable.appendRaw he)
  case markScriptAlreadyStarted n => cases h; exact Stable.refl _
  case pop n => cases h; exact Stable.refl _
  case getTemplateContents t =>
    cases he : d.getTemplateContents t with
    | error e => simp [he] at h
    | ok v => simp [he] at h; rw [← h.1]; exact Stable.refl _
  case sameNode x y => cases h; exact Stable.refl _
  case setQuirksMode m => cases h; exact Stable.of_data (Nat.le_refl _) (fun _ => rfl)
  case appendBeforeSibling s c =>
    cases he : d.appendBeforeSiblingV Dom.beforeSiblingVariant s c with
    | error e => simp [he] at h
    | ok v => simp [he] at h; rw [← h.1]; exact Stable.appendBeforeSiblingV he
  case associateWithForm a b c e => cases h; exact Stable.refl _
  case removeFromParent t =>
    cases he : d.removeFromParent t with
    | error e => simp [he] at h
    | ok v => simp [he] at h; rw [← h.1]; exact Stable.removeFromParent he
  case reparentChildren n np =>
    cases he : d.reparentChildren n np with
    | error e => simp [he] at h
    | ok v => simp [he] at h; rw [← h.1]; exact Stable.reparentChildren he
  case isMathmlAnnotationXmlIntegrationPoint t =>
    cases he : d.isMathmlAnnotationXmlIntegrationPoint t with
    | error e => simp [he] at h
    | ok v => simp [he] at h; rw [← h.1]; exact Stable.refl _
  case setCurrentLine n => cases h; exact Stable.refl _
  case allowDeclarativeShadowRoots p => cases h; exact Stable.refl _
  case attachDeclarativeShadow a b c => cases h; exact Stable.refl _

theorem isElement_of_elemName {d : Dom} {h : Id} {n : Str × Str} (he : d.elemName h = .ok n) :
    d.isElement h = true := by
  unfold Dom.elemName at he
  simp only [bind, Except.bind] at he
  cases hg : d.get h with
  | error e => simp [hg] at he
  | ok nd =>
    simp only [hg] at he
    unfold Dom.isElement; rw [dataOf_of_node (get_ok.mp hg)]
    cases hd : nd.data <;> simp [hd] at he ⊢

/-- what `Stable` is for: the sink's answers about an element do not change -/
theorem Stable.elemName {d d' : Dom} (hs : Stable d d') {h : Id} {n : Str × Str} (he : d.elemName h = .ok n) :
    d'.elemName h = .ok n := by
  have hel := isElement_of_elemName he
  have hdat := hs.data h hel
  have hlt : h < d'.size := Nat.lt_of_lt_of_le (isElement_lt hel) hs.size
  obtain ⟨n0, hn0⟩ := node?_of_lt (isElement_lt hel)
  obtain ⟨n1, hn1⟩ := node?_of_lt hlt
  rw [dataOf_of_node hn0, dataOf_of_node hn1] at hdat
  unfold Dom.elemName at he ⊢
  simp only [bind, Except.bind, get_ok_of hn0, get_ok_of hn1] at he ⊢
  have : n1.data = n0.data := by simpa using hdat
  rw [this]; exact he

theorem elemName_lt {d : Dom} {h : Id} {n : Str × Str} (he : d.elemName h = .ok n) : h < d.size :=
  isElement_lt (isElement_of_elemName he)

/-! ### the triple -/

/-- `calls`, replayed on `d`, succeed with the recorded answers and give `d'` -/
def Replay : Dom → List Call → Dom → Prop
  | d, [], d' => d' = d
  | d, c :: r, d' => ∃ d1, d.apply c.1 = .ok (d1, c.2) ∧ Replay d1 r d'

theorem Replay.append {d d1 d2 : Dom} {a b : List Call} (h1 : Replay d a d1) (h2 : Replay d1 b d2) :
    Replay d (a ++ b) d2 := by
  induction a generalizing d with
  | nil => simp only [Replay] at h1; subst h1; exact h2
  | cons c r ih =>
    obtain ⟨dm, hm, hr⟩ := h1
    exact ⟨dm, hm, ih hr⟩

/-- the state `s'` is reached from `s` by the sink calls `calls` (and changes of the tree
builder's own fields) -/
structure Ext (s : State) (calls : List Call) (s' : State) : Prop where
  trace : s'.traceRev = calls.reverse ++ s.traceRev
  replay : Replay s.dom calls s'.dom
  stable : Stable s.dom s'.dom

theorem Ext.refl (s : State) : Ext s [] s := ⟨rfl, rfl, Stable.refl _⟩

theorem Ext.of_eq {s s' : State} (hd : s'.dom = s.dom) (ht : s'.traceRev = s.traceRev) : Ext s [] s' :=
  ⟨by simpa using ht, hd, hd ▸ Stable.refl _⟩

theorem Ext.trans {s s1 s2 : State} {a b : List Call} (h1 : Ext s a s1) (h2 : Ext s1 b s2) : Ext s (a ++ b) s2 :=
  ⟨by rw [h2.trace, h1.trace]; simp, h1.replay.append h2.replay, h1.stable.trans h2.stable⟩

def Tot {α : Type} (m : M α) (s : State) (Q : α → State → List Call → Prop) : Prop :=
  match m.run s with
  | .ok (a, s') => ∃ calls, Ext s calls s' ∧ Q a s' calls
  | .error e => SinkErr e

theorem tot_pure {α : Type} {s : State} {a : α} {Q : α → State → List Call → Prop} (h : Q a s []) :
    Tot (pure a : M α) s Q := ⟨[], Ext.refl s, h⟩

theorem tot_conseq {α : Type} {m : M α} {s : State} {Q Q' : α → State → List Call → Prop}
    (h : Tot m s Q) (hq : ∀ a s' calls, Ext s calls s' → Q a s' calls → Q' a s' calls) : Tot m s Q' := by
  unfold Tot at h ⊢
  cases hm : m.run s with
  | error e => rw [hm] at h; exact h
  | ok p =>
    obtain ⟨a, s'⟩ := p
    rw [hm] at h
    obtain ⟨calls, he, hq'⟩ := h
    exact ⟨calls, he, hq a s' calls he hq'⟩

theorem tot_bind {α β : Type} {m : M α} {f : α → M β} {s : State} {Q : β → State → List Call → Prop}
    (h : Tot m s (fun a s1 c1 => Tot (f a) s1 (fun b s2 c2 => Q b s2 (c1 ++ c2)))) : Tot (m >>= f) s Q := by
  unfold Tot at h ⊢
  rw [StateT.run_bind]
  cases hm : m.run s with
  | error e => rw [hm] at h; exact h
  | ok p =>
    obtain ⟨a, s1⟩ := p
    rw [hm] at h
    obtain ⟨c1, he1, h2⟩ := h
    show (match (f a).run s1 with
      | .ok (b, s') => ∃ calls, Ext s calls s' ∧ Q b s' calls
      | .error e => SinkErr e)
    cases hf : (f a).run s1 with
    | error e => rw [hf] at h2; exact h2
    | ok q =>
      obtain ⟨b, s2⟩ := q
      rw [hf] at h2
      obtain ⟨c2, he2, hq⟩ := h2
      exact ⟨c1 ++ c2, he1.trans he2, hq⟩

theorem tot_getS_bind {β : Type} {f : State → M β} {s : State} {Q : β → State → List Call → Prop}
    (h : Tot (f s) s Q) : Tot (getS >>= f) s Q := h

theorem tot_getS {s : State} {Q : State → State → List Call → Prop} (h : Q s s []) : Tot getS s Q :=
  ⟨[], Ext.refl s, h⟩

theorem tot_modS {f : State → State} {s : State} {Q : Unit → State → List Call → Prop}
    (hd : (f s).dom = s.dom) (ht : (f s).traceRev = s.traceRev) (h : Q () (f s) []) : Tot (modS f) s Q :=
  ⟨[], Ext.of_eq hd ht, h⟩

theorem tot_set {s2 s : State} {Q : Unit → State → List Call → Prop}
    (hd : s2.dom = s.dom) (ht : s2.traceRev = s.traceRev) (h : Q () s2 []) : Tot (set s2 : M Unit) s Q :=
  ⟨[], Ext.of_eq hd ht, h⟩

/-- the state after a successful sink call -/
def afterCall (s : State) (d' : Dom) (op : SinkOp) (out : Output) : State :=
  { s with dom := d', traceRev := (op, out) :: s.traceRev }

theorem ext_call {s : State} {d' : Dom} {op : SinkOp} {out : Output} (ht : Tame op)
    (h : s.dom.apply op = .ok (d', out)) : Ext s [(op, out)] (afterCall s d' op out) :=
  ⟨rfl, ⟨d', h, rfl⟩, Stable.apply ht h⟩

theorem tot_sink {op : SinkOp} {s : State} {Q : Output → State → List Call → Prop} (ht : Tame op)
    (h : ∀ d' out, s.dom.apply op = .ok (d', out) → Q out (afterCall s d' op out) [(op, out)]) :
    Tot (sink op) s Q := by
  unfold Tot
  have hrun : (sink op).run s = (match s.dom.apply op with
      | .error e => .error (errClass e ++ "@sink: " ++ e)
      | .ok (d, out) => .ok (out, afterCall s d op out)) := rfl
  rw [hrun]
  cases ha : s.dom.apply op with
  | error e => exact ⟨e, rfl⟩
  | ok p =>
    obtain ⟨d', out⟩ := p
    exact ⟨[(op, out)], ext_call ht ha, h d' out ha⟩

/- `Tot` unfolds to a `match` on the run of the model: keep the elaborator from evaluating the model
when a triple is instantiated with a concrete state (the rules above are all that is needed). -/
attribute [irreducible] Tot

end H5V.Lemmas.HtmlTBAlgo
