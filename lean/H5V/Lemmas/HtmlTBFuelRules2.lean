import H5V.Lemmas.HtmlTBFuelBody
/-!
# The fuel of `process_to_completion`: arms with helpers, tests and a `Reprocess` at the end

`AJ f m tok` — from a stack of elements, every successful run of the arm `f` answers quietly or with a
`Reprocess` that decreases the measure relative to the mode `m`; closed under helpers that do not increase
the stack part (`WJ`), `if`, and ending in `pure (.reprocess m' tok)` with `rank m' < rank m`.
-/
namespace H5V.Lemmas.TBFuel
open H5V.Model.HtmlTB
open H5V.Model.HtmlTok (TagKind)
open H5V.Model.Dom (Id QualName Attr NodeOrText SinkOp Output ElementFlags QuirksMode Dom NodeData Node)
open H5V.Lemmas.TBSafe
open H5V.Lemmas.TBC (ok_bind ok_pure ok_getS_bind ok_modS_bind ok_ite ok_bind_pure)

/-- `Dec`, never `SplitWhitespace` -/
def DecA (s : State) (m : Mode) (tok : Token) (r : ProcessResult) (s' : State) : Prop :=
  (∀ b, r ≠ .splitWhitespace b) ∧ Dec s m tok r s'

def AJ (f : M ProcessResult) (m : Mode) (tok : Token) : Prop :=
  ∀ s r s', AllEl s.dom s.openElems → f s = .ok (r, s') → DecA s m tok r s'

theorem decA_of_quiet {s s' : State} {m : Mode} {tok : Token} {r : ProcessResult} (h : Quiet r) :
    DecA s m tok r s' :=
  ⟨(fun b e => by rw [e] at h; exact h), dec_of_quiet h⟩

theorem aj_of_ro {f : M ProcessResult} {m : Mode} {tok : Token} (h : RO f Quiet) : AJ f m tok :=
  fun s r s' _ hr => decA_of_quiet (h s r s' hr)

theorem aj_ite {c : Prop} [Decidable c] {a b : M ProcessResult} {m : Mode} {tok : Token}
    (h1 : c → AJ a m tok) (h2 : ¬c → AJ b m tok) : AJ (if c then a else b) m tok :=
  ite_rule (P := (AJ · m tok)) h1 h2

theorem aj_getS_bind {f : State → M ProcessResult} {m : Mode} {tok : Token} (h : ∀ s0, AJ (f s0) m tok) :
    AJ (getS >>= f) m tok := by
  intro s r s' hel hr
  exact h s s r s' hel (ok_getS_bind hr)

theorem aj_bind {α : Type} {pre : M α} {f : α → M ProcessResult} {m : Mode} {tok : Token} (h1 : WJ pre)
    (h2 : ∀ a, AJ (f a) m tok) : AJ (pre >>= f) m tok := by
  intro s r s'' hel hr
  obtain ⟨a, s', hm, hf⟩ := ok_bind hr
  obtain ⟨hw, hel'⟩ := h1 s a s' hm hel
  obtain ⟨hns, hd⟩ := h2 a s' r s'' hel' hf
  exact ⟨hns, hd.mono hw⟩

/-- the end of an edge -/
theorem aj_reprocess {m m' : Mode} {tok t : Token} (hm : m' ≠ .inTemplate)
    (hr : rank m' (cls tok) < rank m (cls tok)) : AJ (pure (ProcessResult.reprocess m' t)) m tok := by
  intro s r s' _ hrun
  obtain ⟨e1, e2⟩ := ok_pure hrun
  rw [← e1, ← e2]
  exact ⟨(fun b e => by cases e), dec_of_rank (WLe.refl s) (Or.inl hm) hr⟩

theorem dj_of_aj {f : M ProcessResult} {m : Mode} {tok : Token} (h : AJ f m tok) : DJ f m tok :=
  fun s r s' ht _ hr => (h s r s' ht.h.open_el hr).2

/-! ### rank inequalities from the tests of the arm -/

theorem rank_of_isStart {tag : Tag} {l : List String} {m m' : Mode} (h : tag.isStart l = true)
    (hall : ∀ x ∈ l, rank m' (clsTag .startTag x.toList) < rank m (clsTag .startTag x.toList)) :
    rank m' (cls (.tag tag)) < rank m (cls (.tag tag)) :=
  cls_of_isStart (P := fun c => rank m' c < rank m c) h hall

theorem rank_of_isEnd {tag : Tag} {l : List String} {m m' : Mode} (h : tag.isEnd l = true)
    (hall : ∀ x ∈ l, rank m' (clsTag .endTag x.toList) < rank m (clsTag .endTag x.toList)) :
    rank m' (cls (.tag tag)) < rank m (cls (.tag tag)) :=
  cls_of_isEnd (P := fun c => rank m' c < rank m c) h hall

theorem rank_of_startOrEnd {tag : Tag} {l1 l2 : List String} {m m' : Mode}
    (h : (tag.isStart l1 || tag.isEnd l2) = true)
    (h1 : ∀ x ∈ l1, rank m' (clsTag .startTag x.toList) < rank m (clsTag .startTag x.toList))
    (h2 : ∀ x ∈ l2, rank m' (clsTag .endTag x.toList) < rank m (clsTag .endTag x.toList)) :
    rank m' (cls (.tag tag)) < rank m (cls (.tag tag)) :=
  cls_of_startOrEnd (P := fun c => rank m' c < rank m c) h h1 h2

/-- the rank inequality of an edge, from the test that selected the arm -/
syntax "rank_hyp" : tactic
macro_rules
  | `(tactic| rank_hyp) => `(tactic|
    first
      | exact rank_of_isStart (by assumption) (by decide)
      | exact rank_of_isEnd (by assumption) (by decide)
      | exact rank_of_startOrEnd (by assumption) (by decide) (by decide)
      | rank_tac)

syntax "aj_step" : tactic
macro_rules
  | `(tactic| aj_step) => `(tactic|
    first
      | ((with_reducible apply aj_reprocess) <;> first | decide | rank_hyp)
      | exact aj_of_ro (by ro_leaf)
      | with_reducible apply aj_getS_bind
      | with_reducible apply aj_ite
      | ((with_reducible apply aj_bind); focus (wj_walk; done))
      | with_reducible intro _
      | dsimp only)

/-- closes `AJ f m tok` for arms of helpers, tests, quiet ends and `Reprocess` ends -/
syntax "aj_walk" : tactic
macro_rules
  | `(tactic| aj_walk) => `(tactic| repeat' aj_step)

/-- an arm, as a `DJ` -/
syntax "dj_arm" : tactic
macro_rules
  | `(tactic| dj_arm) => `(tactic| (apply dj_of_aj; aj_walk))

end H5V.Lemmas.TBFuel
