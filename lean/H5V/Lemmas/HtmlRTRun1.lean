import H5V.Lemmas.HtmlRTTok2
import H5V.Lemmas.HtmlRTTB3
/-!
C07 round trip: runs.  `GSteps` is the multi-step closure of `Tokenizer::step` against an
abstract sink (`Sink`: the policy the tokenizer sees, and what happens to the tokens a step emitted);
`Seg` is the Hoare-style judgement "from any machine satisfying `Pre`, reading `inp` down to `inp'`
delivers `toks` and ends in a machine satisfying `Post`", stated against a sink specification
(`SinkSpec`) so that the tokenizer-only run and the run into the tree builder share every lemma.
-/
namespace H5V.Lemmas.HtmlRT
open H5V.Model.HtmlTok

/-- `m'` is `m` up to the delivered-token register -/
def SameCore (m m' : Mach) : Prop := m' = { m with out := m'.out }

theorem SameCore.refl (m : Mach) : SameCore m m := rfl

theorem Ctl.core {m m' st} (h : Ctl m st) (c : SameCore m m') : Ctl m' st := by
  obtain ⟨s1, s2, s3, s4, s5⟩ := h
  rw [c]; constructor <;> assumption
theorem Regs.core {m m' k nm as an av} (h : Regs m k nm as an av) (c : SameCore m m') : Regs m' k nm as an av := by
  obtain ⟨r1, r2, r3, r4, r5, r6, r7⟩ := h
  rw [c]; constructor <;> assumption
theorem NoAttr.core {m m'} (h : NoAttr m) (c : SameCore m m') : NoAttr m' := by
  obtain ⟨n1, n2⟩ := h
  rw [c]; constructor <;> assumption
theorem CRCtl.core {m m' st cr} (h : CRCtl m st cr) (c : SameCore m m') : CRCtl m' st cr := by
  obtain ⟨s1, s2, s3, s4, s5⟩ := h
  rw [c]; constructor <;> assumption

theorem TInv.core {m m'} (h : TInv m) (c : SameCore m m') : TInv m' := by
  rw [c]; exact h.congr rfl rfl rfl rfl rfl rfl

theorem mu_core {m m'} (c : SameCore m m') (inp : Str) : mu m' inp = mu m inp := by
  rw [c]; rfl

/-- a sink as the tokenizer's driver sees it -/
structure Sink (σ : Type) where
  /-- the policy consulted during a step, given the sink state before the step -/
  pol : σ → Pol
  /-- after a step: what the driver does with the machine (its freshly emitted tokens) and the sink -/
  hook : Mach → σ → Option (Mach × σ)

variable {σ : Type}

/-- steps that continue; `toks` = the tokens delivered, oldest first -/
inductive GSteps (o : Opts) (S : Sink σ) : Mach → Str → σ → List Token → Mach → Str → σ → Prop
  | refl (m : Mach) (inp : Str) (s : σ) : GSteps o S m inp s [] m inp s
  | silent {m inp s m1 i1 m1' s1 toks m' i' s'} :
      Silent o (S.pol s) m inp m1 i1 → S.hook m1 s = some (m1', s1) →
      GSteps o S m1' i1 s1 toks m' i' s' → GSteps o S m inp s toks m' i' s'
  | emit {m inp s t m1 i1 m1' s1 toks m' i' s'} :
      Emits o (S.pol s) m inp t m1 i1 → S.hook m1 s = some (m1', s1) →
      GSteps o S m1' i1 s1 toks m' i' s' → GSteps o S m inp s (t :: toks) m' i' s'

theorem GSteps.trans {o : Opts} {S : Sink σ} {m inp s t1 m1 i1 s1 t2 m2 i2 s2}
    (h1 : GSteps o S m inp s t1 m1 i1 s1) (h2 : GSteps o S m1 i1 s1 t2 m2 i2 s2) :
    GSteps o S m inp s (t1 ++ t2) m2 i2 s2 := by
  induction h1 with
  | refl => exact h2
  | silent a b _ ih => exact .silent a b (ih h2)
  | emit a b _ ih => exact .emit a b (ih h2)

/-- what the segment lemmas need to know about a sink: an invariant indexed by the open path
(`lower`, `top` as in `TBInv`) that may also constrain the machine's delivered-token register -/
structure SinkSpec (o : Opts) (S : Sink σ) where
  Inv : List Frame → Frame → σ → Out → Prop
  core : ∀ m1 s m1' s1, S.hook m1 s = some (m1', s1) → SameCore m1 m1'
  silent : ∀ L T s out m1, Inv L T s out → m1.out = out →
    ∃ m1' s1, S.hook m1 s = some (m1', s1) ∧ Inv L T s1 m1'.out
  char : ∀ L T s out m1 c ln, Inv L T s out → m1.out = (.chars [c], ln) :: out →
    ∃ m1' s1, S.hook m1 s = some (m1', s1) ∧ Inv L ⟨T.name, T.attrs, appendTextF T.cs [c]⟩ s1 m1'.out
  startPol : ∀ L T s out n as, Inv L T s out → elemNameOk n = true →
    (S.pol s).onTag out (tokStart n as) = .continue_
  start : ∀ L T s out m1 n as ln, Inv L T s out → elemNameOk n = true →
    m1.out = (.tag (tokStart n as), ln) :: out →
    ∃ m1' s1, S.hook m1 s = some (m1', s1) ∧ Inv (L ++ [T]) ⟨n, as, []⟩ s1 m1'.out
  endPol : ∀ L P n as cs s out, Inv (L ++ [P]) ⟨n, as, cs⟩ s out → elemNameOk n = true →
    (S.pol s).onTag out (tokEnd n) = .continue_
  end_ : ∀ L P n as cs s out m1 ln, Inv (L ++ [P]) ⟨n, as, cs⟩ s out → elemNameOk n = true →
    m1.out = (.tag (tokEnd n), ln) :: out →
    ∃ m1' s1, S.hook m1 s = some (m1', s1) ∧ Inv L ⟨P.name, P.attrs, P.cs ++ [.elem n as cs]⟩ s1 m1'.out

/-- a predicate on machines that does not look at the delivered-token register -/
def CoreInv (P : Mach → Prop) : Prop := ∀ m m', SameCore m m' → P m → P m'

/-- reading `inp` down to `inp'` from a machine satisfying `Pre`, with the sink at `(L, T)`:
the tokens `toks` are delivered, the machine ends satisfying `Post`, the sink at `(L', T')` -/
def Seg {o : Opts} {S : Sink σ} (sp : SinkSpec o S) (Pre : Mach → Prop) (L : List Frame) (T : Frame)
    (inp : Str) (toks : List Token) (inp' : Str) (Post : Mach → Prop) (L' : List Frame) (T' : Frame) : Prop :=
  ∀ m s, Pre m → sp.Inv L T s m.out →
    ∃ m' s', GSteps o S m inp s toks m' inp' s' ∧ Post m' ∧ sp.Inv L' T' s' m'.out

variable {o : Opts} {S : Sink σ} (sp : SinkSpec o S)

theorem Seg.refl (P : Mach → Prop) (L T inp) : Seg sp P L T inp [] inp P L T :=
  fun m s hp hi => ⟨m, s, .refl _ _ _, hp, hi⟩

theorem Seg.trans {P Q R : Mach → Prop} {L T L1 T1 L2 T2 inp i1 i2 t1 t2}
    (h1 : Seg sp P L T inp t1 i1 Q L1 T1) (h2 : Seg sp Q L1 T1 i1 t2 i2 R L2 T2) :
    Seg sp P L T inp (t1 ++ t2) i2 R L2 T2 := by
  intro m s hp hi
  obtain ⟨m1, s1, g1, hq, hi1⟩ := h1 m s hp hi
  obtain ⟨m2, s2, g2, hr, hi2⟩ := h2 m1 s1 hq hi1
  exact ⟨m2, s2, g1.trans g2, hr, hi2⟩

theorem Seg.weaken {P P' Q Q' : Mach → Prop} {L T L1 T1 inp i1 t1}
    (h : Seg sp P L T inp t1 i1 Q L1 T1) (hp : ∀ m, P' m → P m) (hq : ∀ m, Q m → Q' m) :
    Seg sp P' L T inp t1 i1 Q' L1 T1 := by
  intro m s hp' hi
  obtain ⟨m1, s1, g1, hq1, hi1⟩ := h m s (hp m hp') hi
  exact ⟨m1, s1, g1, hq m1 hq1, hi1⟩

/-- one silent step -/
theorem Seg.silent {P Q : Mach → Prop} (L T) {inp inp'} (hq : CoreInv Q)
    (h : ∀ m pol, P m → ∃ m1, Silent o pol m inp m1 inp' ∧ Q m1) : Seg sp P L T inp [] inp' Q L T := by
  intro m s hp hi
  obtain ⟨m1, hs, hq1⟩ := h m (S.pol s) hp
  obtain ⟨m1', s1, hh, hi1⟩ := sp.silent L T s m.out m1 hi hs.2
  exact ⟨m1', s1, .silent hs hh (.refl _ _ _), hq m1 m1' (sp.core _ _ _ _ hh) hq1, hi1⟩

/-- one step delivering a character -/
theorem Seg.char {P Q : Mach → Prop} (L T) {inp inp'} (c : Char) (hq : CoreInv Q)
    (h : ∀ m pol, P m → ∃ m1, Emits o pol m inp (.chars [c]) m1 inp' ∧ Q m1) :
    Seg sp P L T inp [.chars [c]] inp' Q L ⟨T.name, T.attrs, appendTextF T.cs [c]⟩ := by
  intro m s hp hi
  obtain ⟨m1, hs, hq1⟩ := h m (S.pol s) hp
  obtain ⟨ln, hout⟩ := hs.2
  obtain ⟨m1', s1, hh, hi1⟩ := sp.char L T s m.out m1 c ln hi hout
  exact ⟨m1', s1, .emit hs hh (.refl _ _ _), hq m1 m1' (sp.core _ _ _ _ hh) hq1, hi1⟩

/-- the step delivering a start tag -/
theorem Seg.startTag {P Q : Mach → Prop} (L T) {inp inp'} (n : Str) (as : List (Str × Str))
    (hn : elemNameOk n = true) (hq : CoreInv Q)
    (h : ∀ m pol, P m → pol.onTag m.out (tokStart n as) = .continue_ →
      ∃ m1, Emits o pol m inp (.tag (tokStart n as)) m1 inp' ∧ Q m1) :
    Seg sp P L T inp [.tag (tokStart n as)] inp' Q (L ++ [T]) ⟨n, as, []⟩ := by
  intro m s hp hi
  obtain ⟨m1, hs, hq1⟩ := h m (S.pol s) hp (sp.startPol L T s m.out n as hi hn)
  obtain ⟨ln, hout⟩ := hs.2
  obtain ⟨m1', s1, hh, hi1⟩ := sp.start L T s m.out m1 n as ln hi hn hout
  exact ⟨m1', s1, .emit hs hh (.refl _ _ _), hq m1 m1' (sp.core _ _ _ _ hh) hq1, hi1⟩

/-- the step delivering an end tag -/
theorem Seg.endTag {P Q : Mach → Prop} (L) (Pf : Frame) (n as cs) {inp inp'}
    (hn : elemNameOk n = true) (hq : CoreInv Q)
    (h : ∀ m pol, P m → pol.onTag m.out (tokEnd n) = .continue_ →
      ∃ m1, Emits o pol m inp (.tag (tokEnd n)) m1 inp' ∧ Q m1) :
    Seg sp P (L ++ [Pf]) ⟨n, as, cs⟩ inp [.tag (tokEnd n)] inp' Q L ⟨Pf.name, Pf.attrs, Pf.cs ++ [.elem n as cs]⟩ := by
  intro m s hp hi
  obtain ⟨m1, hs, hq1⟩ := h m (S.pol s) hp (sp.endPol L Pf n as cs s m.out hi hn)
  obtain ⟨ln, hout⟩ := hs.2
  obtain ⟨m1', s1, hh, hi1⟩ := sp.end_ L Pf n as cs s m.out m1 ln hi hn hout
  exact ⟨m1', s1, .emit hs hh (.refl _ _ _), hq m1 m1' (sp.core _ _ _ _ hh) hq1, hi1⟩

/-! ### core-invariance of the machine predicates used below -/

def Idle (m : Mach) : Prop := Ctl m .data ∧ NoAttr m

theorem coreInv_idle : CoreInv Idle := fun _ _ c h => ⟨h.1.core c, h.2.core c⟩

theorem coreInv_ctl_noattr (st : State) : CoreInv (fun m => Ctl m st ∧ NoAttr m) :=
  fun _ _ c h => ⟨h.1.core c, h.2.core c⟩

theorem coreInv_ctl_regs (st : State) (k nm as an av) : CoreInv (fun m => Ctl m st ∧ Regs m k nm as an av) :=
  fun _ _ c h => ⟨h.1.core c, h.2.core c⟩

/-- a register predicate carried unchanged through the reading of a character reference -/
structure Carried (X : Mach → Prop) : Prop where
  core : CoreInv X
  setCR : ∀ m y, X m → X (m.setCharRef y)

theorem carried_noattr : Carried NoAttr := ⟨fun _ _ c h => h.core c, fun _ y h => h.setCharRef y⟩
theorem carried_regs (k nm as an av) : Carried (fun m => Regs m k nm as an av) :=
  ⟨fun _ _ c h => h.core c, fun _ y h => h.setCharRef y⟩

theorem coreInv_crctl (st : State) (cr : CharRefSt) {X : Mach → Prop} (hx : Carried X) :
    CoreInv (fun m => CRCtl m st cr ∧ X m) := fun _ _ c h => ⟨h.1.core c, hx.core _ _ c h.2⟩

/-! ### reading a character reference -/

theorem crFeed_inv (b : Bool) : ∀ (q p0 : Str) (cr : CharRefSt), cr.state = .named → cr.nameBuf = some p0 →
    cr.inAttr = b →
    (∀ k, k < q.length → (entityLookup (p0 ++ q.take (k + 1))).isSome = true) →
    (q.foldl crFeed cr).state = .named ∧ (q.foldl crFeed cr).nameBuf = some (p0 ++ q) := by
  intro q
  induction q with
  | nil => intro p0 cr h1 h2 _ _; simp [h1, h2]
  | cons c q ih =>
    intro p0 cr h1 h2 h3 hl
    have h0 := hl 0 (by simp)
    simp only [List.take_succ_cons, List.take_zero] at h0
    obtain ⟨mt, hmt⟩ := Option.isSome_iff_exists.mp h0
    have hf1 : (crFeed cr c).state = .named := by
      unfold crFeed; rw [h2]; simp only [Option.getD_some, hmt]; split <;> exact h1
    have hf2 : (crFeed cr c).nameBuf = some (p0 ++ [c]) := by
      unfold crFeed; rw [h2]; simp only [Option.getD_some, hmt]; split <;> rfl
    have hf3 : (crFeed cr c).inAttr = b := by
      unfold crFeed; rw [h2]; simp only [Option.getD_some, hmt]; split <;> exact h3
    have := ih (p0 ++ [c]) (crFeed cr c) hf1 hf2 hf3 (by
      intro k hk
      have := hl (k + 1) (by simp; omega)
      simpa [List.take_succ_cons] using this)
    simpa using this

/-- the name characters of a reference, one `named` step each -/
theorem seg_ref_feed (L T) (st : State) (b : Bool) {X : Mach → Prop} (hx : Carried X) (rest : Str) :
    ∀ (q p0 : Str) (cr : CharRefSt), cr.state = .named → cr.nameBuf = some p0 → cr.inAttr = b →
      (∀ k, k < q.length → (entityLookup (p0 ++ q.take (k + 1))).isSome = true) →
      Seg sp (fun m => CRCtl m st cr ∧ X m) L T (q ++ rest) [] rest
        (fun m => CRCtl m st (q.foldl crFeed cr) ∧ X m) L T := by
  intro q
  induction q with
  | nil => intro p0 cr _ _ _ _; exact Seg.refl sp _ L T rest
  | cons c q ih =>
    intro p0 cr h1 h2 h3 hl
    have h0 := hl 0 (by simp)
    simp only [List.take_succ_cons, List.take_zero] at h0
    obtain ⟨mt, hmt⟩ := Option.isSome_iff_exists.mp h0
    have hinv := crFeed_inv b [c] p0 cr h1 h2 h3 (by
      intro k hk; simp at hk; subst hk; simpa using h0)
    simp only [List.foldl_cons, List.foldl_nil] at hinv
    have hf3 : (crFeed cr c).inAttr = b := by
      unfold crFeed; rw [h2]; simp only [Option.getD_some, hmt]; split <;> exact h3
    have step1 : Seg sp (fun m => CRCtl m st cr ∧ X m) L T (c :: q ++ rest) [] (q ++ rest)
        (fun m => CRCtl m st (crFeed cr c) ∧ X m) L T := by
      refine Seg.silent sp L T (coreInv_crctl st _ hx) ?_
      intro m pol ⟨hc, hxm⟩
      exact ⟨_, cr_feed o pol m c (q ++ rest) st cr p0 mt hc h1 h2 hmt, hc.setCharRef _, hx.setCR _ _ hxm⟩
    have := Seg.trans sp step1 (ih (p0 ++ [c]) (crFeed cr c) hinv.1 hinv.2 hf3 (by
      intro k hk
      have := hl (k + 1) (by simp; omega)
      simpa [List.take_succ_cons] using this))
    simpa using this

/-- after the `&`: the whole name of a reference is read silently and is matched -/
theorem seg_ref_read (L T) (st : State) (b : Bool) {X : Mach → Prop} (hx : Carried X) (rest : Str)
    (nm : Str) (v : Nat) (hr : RefOk nm v) :
    Seg sp (fun m => CRCtl m st { inAttr := b } ∧ X m) L T (nm ++ rest) [] rest
      (fun m => ∃ cr, CRCtl m st cr ∧ CRDone cr nm v ∧ X m) L T := by
  obtain ⟨c0, t, hnm⟩ : ∃ c0 t, nm = c0 :: t := by
    cases hq : nm with
    | nil => exact absurd hq hr.ne
    | cons a b => exact ⟨a, b, rfl⟩
  have hal : isAsciiAlnum c0 = true := hr.alnum c0 (by rw [hnm]; rfl)
  have step1 : Seg sp (fun m => CRCtl m st { inAttr := b } ∧ X m) L T (nm ++ rest) [] (nm ++ rest)
      (fun m => CRCtl m st (crNamed b) ∧ X m) L T := by
    refine Seg.silent sp L T (coreInv_crctl st _ hx) ?_
    intro m pol ⟨hc, hxm⟩
    refine ⟨_, ?_, hc.setCharRef _, hx.setCR _ _ hxm⟩
    rw [hnm]
    exact cr_begin o pol m c0 (t ++ rest) st b hc hal
  have step2 := seg_ref_feed sp L T st b hx rest nm [] (crNamed b) rfl rfl rfl (by
    intro k hk; simpa using hr.pre k hk)
  have := Seg.trans sp step1 step2
  refine Seg.weaken sp this (fun _ h => h) ?_
  intro m ⟨hc, hxm⟩
  rw [hr.fold b] at hc
  exact ⟨_, hc, ⟨rfl, rfl, rfl, rfl⟩, hxm⟩

/-! ### escaped characters -/

open H5V.Spec.HtmlEscape in
/-- the reference an escaped character is written as -/
def refOf (attr : Bool) (c : Char) : Option (Str × Nat) :=
  if c = '&' then some (nAmp, 38)
  else if c = ' ' then some (nNbsp, 160)
  else if c = '<' then some (nLt, 60)
  else if c = '>' then some (nGt, 62)
  else if c = '"' ∧ attr = true then some (nQuot, 34)
  else none

open H5V.Spec.HtmlEscape in
theorem escChar_eq (attr : Bool) (c : Char) :
    escChar attr c = match refOf attr c with
      | some (nm, _) => '&' :: nm
      | none => [c] := by
  unfold escChar refOf
  by_cases h1 : c = '&'
  · simp [h1, eAmp, nAmp]
  by_cases h2 : c = ' '
  · simp [h2, eNbsp, nNbsp]
  by_cases h3 : c = '<'
  · simp [h3, eLt, nLt]
  by_cases h4 : c = '>'
  · simp [h4, eGt, nGt]
  by_cases h5 : c = '"' ∧ attr = true
  · simp [h5, eQuot, nQuot]
  · simp [h1, h2, h3, h4, h5]

theorem refOf_some {attr : Bool} {c : Char} {nm : Str} {v : Nat} (h : refOf attr c = some (nm, v)) :
    RefOk nm v ∧ Char.ofNat v = c := by
  unfold refOf at h
  split at h
  · cases h; rename_i e; subst e; exact ⟨refOk_amp, by decide⟩
  split at h
  · cases h; rename_i e; subst e; exact ⟨refOk_nbsp, by decide⟩
  split at h
  · cases h; rename_i e; subst e; exact ⟨refOk_lt, by decide⟩
  split at h
  · cases h; rename_i e; subst e; exact ⟨refOk_gt, by decide⟩
  split at h
  · cases h; rename_i e; rw [e.1]; exact ⟨refOk_quot, by decide⟩
  · cases h

theorem refOf_none {attr : Bool} {c : Char} (h : refOf attr c = none) :
    c ≠ '&' ∧ c ≠ '<' ∧ (attr = true → c ≠ '"') := by
  unfold refOf at h
  split at h; · cases h
  split at h; · cases h
  split at h; · cases h
  split at h; · cases h
  split at h; · cases h
  rename_i h1 _ h3 _ h5
  refine ⟨h1, h3, fun ha hc => h5 ⟨hc, ha⟩⟩

/-! ### text -/

/-- the machine is in the middle of the reference `&nm`, fully read and matched with value `v` -/
def PendingRef (st : State) (nm : Str) (v : Nat) (X : Mach → Prop) (m : Mach) : Prop :=
  ∃ cr, CRCtl m st cr ∧ CRDone cr nm v ∧ X m

theorem coreInv_pending (st nm v) {X : Mach → Prop} (hx : Carried X) : CoreInv (PendingRef st nm v X) :=
  fun _ _ c ⟨cr, h1, h2, h3⟩ => ⟨cr, h1.core c, h2, hx.core _ _ c h3⟩

open H5V.Spec.HtmlEscape in
/-- `&nm` in text, up to (not including) the delivery of the character -/
theorem seg_text_ref (L T) (ho : o.exactErrors = false) (nm : Str) (v : Nat) (hr : RefOk nm v) (tail : Str) :
    Seg sp Idle L T ('&' :: nm ++ tail) [] tail (PendingRef .data nm v NoAttr) L T := by
  have step1 : Seg sp Idle L T ('&' :: nm ++ tail) [] (nm ++ tail)
      (fun m => CRCtl m .data { inAttr := false } ∧ NoAttr m) L T := by
    refine Seg.silent sp L T (coreInv_crctl _ _ carried_noattr) ?_
    intro m pol ⟨hc, hn⟩
    exact data_amp o ho pol m (nm ++ tail) hc hn
  exact Seg.trans sp step1 (seg_ref_read sp L T .data false carried_noattr tail nm v hr)

open H5V.Spec.HtmlEscape in
/-- one character of text (escaped), followed by something -/
theorem seg_text_char (L T) (ho : o.exactErrors = false) (c : Char) (hc : c ≠ '\r' ∧ c ≠ '\x00')
    (tail : Str) (htail : tail ≠ []) :
    Seg sp Idle L T (escChar false c ++ tail) [.chars [c]] tail Idle L ⟨T.name, T.attrs, appendTextF T.cs [c]⟩ := by
  rw [escChar_eq]
  cases hro : refOf false c with
  | none =>
    obtain ⟨h1, h2, _⟩ := refOf_none hro
    refine Seg.char sp L T c coreInv_idle ?_
    intro m pol ⟨hctl, hn⟩
    obtain ⟨m1, he, h3, h4⟩ := data_plain o ho pol m c tail hctl hn ⟨hc.2, hc.1, h1, h2⟩
    exact ⟨m1, he, h3, h4⟩
  | some p =>
    obtain ⟨nm, v⟩ := p
    obtain ⟨hr, hv⟩ := refOf_some hro
    obtain ⟨x, tail', rfl⟩ : ∃ x t, tail = x :: t := by
      cases tail with
      | nil => exact absurd rfl htail
      | cons a b => exact ⟨a, b, rfl⟩
    have s1 := seg_text_ref sp L T ho nm v hr (x :: tail')
    have s2 : Seg sp (PendingRef .data nm v NoAttr) L T (x :: tail') [.chars [c]] (x :: tail') Idle L
        ⟨T.name, T.attrs, appendTextF T.cs [c]⟩ := by
      refine Seg.char sp L T c coreInv_idle ?_
      intro m pol ⟨cr, h1, h2, h3⟩
      have := cr_finish_data o pol m x tail' cr nm v h1 h3 h2 hr.ne hr.semi hr.valid hr.nz (hr.none x)
      rw [hv] at this
      obtain ⟨m1, he, h4, h5⟩ := this
      exact ⟨m1, he, h4, h5⟩
    have := Seg.trans sp s1 s2
    simpa using this

theorem noCRNUL_cons {c : Char} {s : Str} (h : H5V.Spec.HtmlEscape.noCRNUL (c :: s)) :
    (c ≠ '\r' ∧ c ≠ '\x00') ∧ H5V.Spec.HtmlEscape.noCRNUL s :=
  ⟨h c (by simp), fun x hx => h x (by simp [hx])⟩

open H5V.Spec.HtmlEscape in
theorem escChar_ne_nil (attr : Bool) (c : Char) : escChar attr c ≠ [] := by
  rw [escChar_eq]; split <;> simp

open H5V.Spec.HtmlEscape in
/-- a whole text, followed by something: one character token per character -/
theorem seg_text (L) (ho : o.exactErrors = false) (rest : Str) (hrest : rest ≠ []) :
    ∀ (s : Str) (T : Frame), noCRNUL s →
      Seg sp Idle L T (escape false s ++ rest) (s.map (fun c => .chars [c])) rest Idle L
        ⟨T.name, T.attrs, (s.map (fun c => [c])).foldl appendTextF T.cs⟩ := by
  intro s
  induction s with
  | nil => intro T _; exact Seg.refl sp _ L T rest
  | cons c s ih =>
    intro T hs
    obtain ⟨hc, hs'⟩ := noCRNUL_cons hs
    have htail : escape false s ++ rest ≠ [] := by simp [hrest]
    have s1 := seg_text_char sp L T ho c hc (escape false s ++ rest) htail
    have s2 := ih ⟨T.name, T.attrs, appendTextF T.cs [c]⟩ hs'
    have := Seg.trans sp s1 s2
    simpa [escape, List.flatMap_cons] using this

/-! ### attribute values, names -/

abbrev avDq : State := .attributeValue .doubleQuoted

open H5V.Spec.HtmlEscape in
/-- one character of a double-quoted attribute value (escaped); the value is always followed by `"` -/
theorem seg_av_char (L T) (ho : o.exactErrors = false) (k tn as an av) (c : Char) (hc : c ≠ '\r' ∧ c ≠ '\x00')
    (tail : Str) (htail : tail ≠ []) :
    Seg sp (fun m => Ctl m avDq ∧ Regs m k tn as an av) L T (escChar true c ++ tail) [] tail
      (fun m => Ctl m avDq ∧ Regs m k tn as an (av ++ [c])) L T := by
  rw [escChar_eq]
  cases hro : refOf true c with
  | none =>
    obtain ⟨h1, _, h3⟩ := refOf_none hro
    refine Seg.silent sp L T (coreInv_ctl_regs _ _ _ _ _ _) ?_
    intro m pol ⟨hctl, hr⟩
    exact av_plain o ho pol m c tail k tn as an av hctl hr ⟨hc.2, hc.1, h1, h3 rfl⟩
  | some p =>
    obtain ⟨nm, v⟩ := p
    obtain ⟨hr, hv⟩ := refOf_some hro
    obtain ⟨x, tail', rfl⟩ : ∃ x t, tail = x :: t := by
      cases tail with
      | nil => exact absurd rfl htail
      | cons a b => exact ⟨a, b, rfl⟩
    have hx := carried_regs k tn as an av
    have s0 : Seg sp (fun m => Ctl m avDq ∧ Regs m k tn as an av) L T ('&' :: nm ++ x :: tail') [] (nm ++ x :: tail')
        (fun m => CRCtl m avDq { inAttr := true } ∧ Regs m k tn as an av) L T := by
      refine Seg.silent sp L T (coreInv_crctl _ _ hx) ?_
      intro m pol ⟨hctl, hr⟩
      exact av_amp o ho pol m (nm ++ x :: tail') k tn as an av hctl hr
    have s1 := seg_ref_read sp L T avDq true hx (x :: tail') nm v hr
    have s2 : Seg sp (fun m => ∃ cr, CRCtl m avDq cr ∧ CRDone cr nm v ∧ Regs m k tn as an av) L T (x :: tail') []
        (x :: tail') (fun m => Ctl m avDq ∧ Regs m k tn as an (av ++ [c])) L T := by
      refine Seg.silent sp L T (coreInv_ctl_regs _ _ _ _ _ _) ?_
      intro m pol ⟨cr, h1, h2, h3⟩
      have := cr_finish_attr o pol m x tail' cr nm v k tn as an av h1 h3 h2 hr.ne hr.semi hr.valid (hr.none x)
      rw [hv] at this
      exact this
    have := Seg.trans sp (Seg.trans sp s0 s1) s2
    simpa using this

open H5V.Spec.HtmlEscape in
theorem seg_av (L T) (ho : o.exactErrors = false) (k tn as an) (rest : Str) (hrest : rest ≠ []) :
    ∀ (v av : Str), noCRNUL v →
      Seg sp (fun m => Ctl m avDq ∧ Regs m k tn as an av) L T (escape true v ++ rest) [] rest
        (fun m => Ctl m avDq ∧ Regs m k tn as an (av ++ v)) L T := by
  intro v
  induction v with
  | nil => intro av _; simpa [escape] using Seg.refl sp (fun m => Ctl m avDq ∧ Regs m k tn as an av) L T rest
  | cons c v ih =>
    intro av hs
    obtain ⟨hc, hs'⟩ := noCRNUL_cons hs
    have htail : escape true v ++ rest ≠ [] := by simp [hrest]
    have s1 := seg_av_char sp L T ho k tn as an av c hc (escape true v ++ rest) htail
    have s2 := ih (av ++ [c]) hs'
    have := Seg.trans sp s1 s2
    simpa [escape, List.flatMap_cons] using this

/-- the rest of a tag name -/
theorem seg_tagName (L T) (ho : o.exactErrors = false) (k : TagKind) (rest : Str) :
    ∀ (q p : Str), q.all nameCharOk = true →
      Seg sp (fun m => Ctl m .tagName ∧ Regs m k p [] [] []) L T (q ++ rest) [] rest
        (fun m => Ctl m .tagName ∧ Regs m k (p ++ q) [] [] []) L T := by
  intro q
  induction q with
  | nil => intro p _; simpa using Seg.refl sp _ L T rest
  | cons c q ih =>
    intro p hq
    simp only [List.all_cons, Bool.and_eq_true] at hq
    have s1 : Seg sp (fun m => Ctl m .tagName ∧ Regs m k p [] [] []) L T (c :: q ++ rest) [] (q ++ rest)
        (fun m => Ctl m .tagName ∧ Regs m k (p ++ [c]) [] [] []) L T := by
      refine Seg.silent sp L T (coreInv_ctl_regs _ _ _ _ _ _) ?_
      intro m pol ⟨hctl, hr⟩
      exact tagName_char o ho pol m c (q ++ rest) k p hctl hr hq.1
    have := Seg.trans sp s1 (ih (p ++ [c]) hq.2)
    simpa using this

/-- the rest of an attribute name -/
theorem seg_attrName (L T) (ho : o.exactErrors = false) (k tn as av) (rest : Str) :
    ∀ (q p : Str), q.all attrCharOk = true →
      Seg sp (fun m => Ctl m .attributeName ∧ Regs m k tn as p av) L T (q ++ rest) [] rest
        (fun m => Ctl m .attributeName ∧ Regs m k tn as (p ++ q) av) L T := by
  intro q
  induction q with
  | nil => intro p _; simpa using Seg.refl sp _ L T rest
  | cons c q ih =>
    intro p hq
    simp only [List.all_cons, Bool.and_eq_true] at hq
    have s1 : Seg sp (fun m => Ctl m .attributeName ∧ Regs m k tn as p av) L T (c :: q ++ rest) [] (q ++ rest)
        (fun m => Ctl m .attributeName ∧ Regs m k tn as (p ++ [c]) av) L T := by
      refine Seg.silent sp L T (coreInv_ctl_regs _ _ _ _ _ _) ?_
      intro m pol ⟨hctl, hr⟩
      exact attrName_char o ho pol m c (q ++ rest) k tn as p av hctl hr hq.1
    have := Seg.trans sp s1 (ih (p ++ [c]) hq.2)
    simpa using this

/-! ### attributes and tags -/

def mkA (a : Str × Str) : Attr := ⟨a.1, a.2⟩

theorem tokStart_attrs (n : Str) (as : List (Str × Str)) : tokStart n as = ⟨.startTag, n, false, as.map mkA, false⟩ := rfl

theorem attrNameOk_cons {an : Str} (h : attrNameOk an = true) :
    ∃ c q, an = c :: q ∧ attrCharOk c = true ∧ q.all attrCharOk = true := by
  cases an with
  | nil => simp [attrNameOk] at h
  | cons c q =>
    simp only [attrNameOk, Bool.and_eq_true] at h
    exact ⟨c, q, rfl, h.1, h.2⟩

theorem noCRNULb_iff {s : Str} (h : noCRNULb s = true) : H5V.Spec.HtmlEscape.noCRNUL s := by
  intro c hc
  have := List.all_eq_true.mp h c hc
  simp only [Bool.not_eq_true', Bool.or_eq_false_iff, decide_eq_false_iff_not] at this
  exact this

open H5V.Spec.HtmlEscape in
/-- one attribute ` name="value"` from the before-attribute-name state; the previous attribute (if
any) is finished on the way -/
theorem seg_attr_one (L T) (ho : o.exactErrors = false) (k : TagKind) (tn : Str) (done : List Attr) (pn pv : Str)
    (hfresh : FreshAttr done pn) (hpv : pn = [] → pv = []) (an av : Str) (han : attrNameOk an = true)
    (hav : noCRNUL av) (rest : Str) :
    Seg sp (fun m => Ctl m .beforeAttributeName ∧ Regs m k tn done pn pv) L T
      (an ++ ('=' :: '"' :: (escape true av ++ '"' :: rest))) [] rest
      (fun m => Ctl m .afterAttributeValueQuoted ∧ Regs m k tn (withPending done pn pv) an av) L T := by
  obtain ⟨c, q, rfl, hc, hq⟩ := attrNameOk_cons han
  have hv0 : (if pn = [] then pv else []) = ([] : Str) := by
    by_cases h : pn = [] <;> simp [h, hpv]
  let as' := withPending done pn pv
  have s1 : Seg sp (fun m => Ctl m .beforeAttributeName ∧ Regs m k tn done pn pv) L T
      ((c :: q) ++ ('=' :: '"' :: (escape true av ++ '"' :: rest))) [] (q ++ ('=' :: '"' :: (escape true av ++ '"' :: rest)))
      (fun m => Ctl m .attributeName ∧ Regs m k tn as' [c] []) L T := by
    refine Seg.silent sp L T (coreInv_ctl_regs _ _ _ _ _ _) ?_
    intro m pol ⟨hctl, hr⟩
    have := beforeAttr_char o ho pol m c (q ++ ('=' :: '"' :: (escape true av ++ '"' :: rest))) k tn done pn pv hctl hr
      hfresh hc
    rw [hv0] at this
    exact this
  have s2 := seg_attrName sp L T ho k tn as' [] ('=' :: '"' :: (escape true av ++ '"' :: rest)) q [c] hq
  have s3 : Seg sp (fun m => Ctl m .attributeName ∧ Regs m k tn as' ([c] ++ q) []) L T
      ('=' :: '"' :: (escape true av ++ '"' :: rest)) [] ('"' :: (escape true av ++ '"' :: rest))
      (fun m => Ctl m .beforeAttributeValue ∧ Regs m k tn as' ([c] ++ q) []) L T := by
    refine Seg.silent sp L T (coreInv_ctl_regs _ _ _ _ _ _) ?_
    intro m pol ⟨hctl, hr⟩
    exact attrName_eq o ho pol m _ k tn as' _ [] hctl hr
  have s4 : Seg sp (fun m => Ctl m .beforeAttributeValue ∧ Regs m k tn as' ([c] ++ q) []) L T
      ('"' :: (escape true av ++ '"' :: rest)) [] (escape true av ++ '"' :: rest)
      (fun m => Ctl m avDq ∧ Regs m k tn as' ([c] ++ q) []) L T := by
    refine Seg.silent sp L T (coreInv_ctl_regs _ _ _ _ _ _) ?_
    intro m pol ⟨hctl, hr⟩
    exact bav_quote o pol m _ k tn as' _ [] hctl hr
  have s5 := seg_av sp L T ho k tn as' ([c] ++ q) ('"' :: rest) (by simp) av [] hav
  have s6 : Seg sp (fun m => Ctl m avDq ∧ Regs m k tn as' ([c] ++ q) ([] ++ av)) L T
      ('"' :: rest) [] rest
      (fun m => Ctl m .afterAttributeValueQuoted ∧ Regs m k tn as' ([c] ++ q) ([] ++ av)) L T := by
    refine Seg.silent sp L T (coreInv_ctl_regs _ _ _ _ _ _) ?_
    intro m pol ⟨hctl, hr⟩
    exact av_quote o ho pol m _ k tn as' _ _ hctl hr
  have := Seg.trans sp (Seg.trans sp (Seg.trans sp (Seg.trans sp (Seg.trans sp s1 s2) s3) s4) s5) s6
  simpa using this

theorem fresh_of_nodup (d : List (Str × Str)) (pn : Str) (h : ((d.map (·.1)) ++ [pn]).Nodup) :
    FreshAttr (d.map mkA) pn := by
  unfold FreshAttr
  rw [List.any_eq_false]
  intro a ha he
  simp only [List.mem_map] at ha
  obtain ⟨x, hx, rfl⟩ := ha
  have he' : x.1 = pn := by simpa [mkA] using he
  rw [List.nodup_append] at h
  exact h.2.2 x.1 (List.mem_map.mpr ⟨x, hx, rfl⟩) pn (by simp) he'

theorem withPending_snoc (d : List (Str × Str)) (pn pv : Str) (h : pn ≠ []) :
    withPending (d.map mkA) pn pv = (d ++ [(pn, pv)]).map mkA := by
  simp [withPending, h, mkA]

open H5V.Spec.HtmlEscape in
/-- the remaining attributes and the closing `>` of a start tag, after at least one attribute -/
theorem seg_attrs (L T) (ho : o.exactErrors = false) (n : Str) (hn : elemNameOk n = true) (rest : Str) :
    ∀ (as2 d : List (Str × Str)) (pn pv : Str), pn ≠ [] →
      (∀ a ∈ as2, attrNameOk a.1 = true ∧ noCRNUL a.2) →
      ((d ++ [(pn, pv)] ++ as2).map (·.1)).Nodup →
      Seg sp (fun m => Ctl m .afterAttributeValueQuoted ∧ Regs m .startTag n (d.map mkA) pn pv) L T
        (renderAttrs as2 ++ '>' :: rest) [.tag (tokStart n (d ++ [(pn, pv)] ++ as2))] rest
        Idle (L ++ [T]) ⟨n, d ++ [(pn, pv)] ++ as2, []⟩ := by
  intro as2
  induction as2 with
  | nil =>
    intro d pn pv hpn _ hnd
    simp only [renderAttrs, List.flatMap_nil, List.nil_append, List.append_nil]
    refine Seg.startTag sp L T n (d ++ [(pn, pv)]) hn coreInv_idle ?_
    intro m pol ⟨hctl, hr⟩ hpol
    have hf : FreshAttr (d.map mkA) pn := fresh_of_nodup d pn (by simpa using hnd)
    have := tag_close o ho pol m rest _ (Or.inr rfl) .startTag n (d.map mkA) pn pv hctl hr hf
      (fun e => absurd e hpn) (fun e => by cases e)
      (by rw [withPending_snoc d pn pv hpn, ← tokStart_attrs]; exact hpol)
    rw [withPending_snoc d pn pv hpn, ← tokStart_attrs] at this
    obtain ⟨m1, he, h1, h2⟩ := this
    exact ⟨m1, he, h1, h2⟩
  | cons a as2 ih =>
    intro d pn pv hpn hok hnd
    have hf : FreshAttr (d.map mkA) pn := fresh_of_nodup d pn (by
      rw [List.map_append, List.map_append] at hnd
      have := (List.nodup_append.mp hnd).1
      simpa using this)
    obtain ⟨ha1, ha2⟩ := hok a (by simp)
    have hane : a.1 ≠ [] := by
      obtain ⟨c, q, e, _, _⟩ := attrNameOk_cons ha1
      rw [e]; simp
    have s1 : Seg sp (fun m => Ctl m .afterAttributeValueQuoted ∧ Regs m .startTag n (d.map mkA) pn pv) L T
        (' ' :: (a.1 ++ ('=' :: '"' :: (escape true a.2 ++ '"' :: (renderAttrs as2 ++ '>' :: rest))))) []
        (a.1 ++ ('=' :: '"' :: (escape true a.2 ++ '"' :: (renderAttrs as2 ++ '>' :: rest))))
        (fun m => Ctl m .beforeAttributeName ∧ Regs m .startTag n (d.map mkA) pn pv) L T := by
      refine Seg.silent sp L T (coreInv_ctl_regs _ _ _ _ _ _) ?_
      intro m pol ⟨hctl, hr⟩
      exact aavq_space o ho pol m _ .startTag n _ pn pv hctl hr
    have s2 := seg_attr_one sp L T ho .startTag n (d.map mkA) pn pv hf (fun e => absurd e hpn) a.1 a.2 ha1 ha2
      (renderAttrs as2 ++ '>' :: rest)
    rw [withPending_snoc d pn pv hpn] at s2
    have s3 := ih (d ++ [(pn, pv)]) a.1 a.2 hane (fun b hb => hok b (by simp [hb])) (by simpa using hnd)
    have := Seg.trans sp (Seg.trans sp s1 s2) s3
    simpa [renderAttrs, renderAttr, List.flatMap_cons] using this

theorem tagNameOk_cons {n : Str} (h : tagNameOk n = true) :
    ∃ c t, n = c :: t ∧ ('a' ≤ c ∧ c ≤ 'z') ∧ t.all nameCharOk = true := by
  cases n with
  | nil => simp [tagNameOk] at h
  | cons c t =>
    simp only [tagNameOk, Bool.and_eq_true, decide_eq_true_eq] at h
    exact ⟨c, t, rfl, h.1, h.2⟩

theorem attrsOk_facts {as : List (Str × Str)} (h : attrsOk as = true) :
    (∀ a ∈ as, attrNameOk a.1 = true ∧ H5V.Spec.HtmlEscape.noCRNUL a.2) ∧ (as.map (·.1)).Nodup := by
  simp only [attrsOk, Bool.and_eq_true, decide_eq_true_eq, List.all_eq_true] at h
  exact ⟨fun a ha => ⟨(h.1 a ha).1, noCRNULb_iff (h.1 a ha).2⟩, h.2⟩

open H5V.Spec.HtmlEscape in
/-- **a start tag** `<name attr="value"…>` is read back as the tag token it was written from -/
theorem seg_startTag (L T) (ho : o.exactErrors = false) (n : Str) (as : List (Str × Str))
    (hn : elemNameOk n = true) (has : attrsOk as = true) (rest : Str) :
    Seg sp Idle L T (startTagStr n as ++ rest) [.tag (tokStart n as)] rest Idle (L ++ [T]) ⟨n, as, []⟩ := by
  have htn : tagNameOk n = true := elemNameOk_tagName hn
  obtain ⟨c, t, rfl, hc, ht⟩ := tagNameOk_cons htn
  obtain ⟨hok, hnd⟩ := attrsOk_facts has
  let tail : Str := renderAttrs as ++ '>' :: rest
  have s1 : Seg sp Idle L T ('<' :: c :: (t ++ tail)) [] (c :: (t ++ tail))
      (fun m => Ctl m .tagOpen ∧ NoAttr m) L T := by
    refine Seg.silent sp L T (coreInv_ctl_noattr _) ?_
    intro m pol ⟨hctl, hna⟩
    exact data_lt o ho pol m _ hctl hna
  have s2 : Seg sp (fun m => Ctl m .tagOpen ∧ NoAttr m) L T (c :: (t ++ tail)) [] (t ++ tail)
      (fun m => Ctl m .tagName ∧ Regs m .startTag [c] [] [] []) L T := by
    refine Seg.silent sp L T (coreInv_ctl_regs _ _ _ _ _ _) ?_
    intro m pol ⟨hctl, hna⟩
    exact tagOpen_lower o ho pol m c _ hctl hna hc
  have s3 := seg_tagName sp L T ho .startTag tail t [c] ht
  have s4 : Seg sp (fun m => Ctl m .tagName ∧ Regs m .startTag ([c] ++ t) [] [] []) L T tail
      [.tag (tokStart (c :: t) as)] rest Idle (L ++ [T]) ⟨c :: t, as, []⟩ := by
    cases as with
    | nil =>
      show Seg sp _ L T (renderAttrs [] ++ '>' :: rest) _ rest Idle _ _
      simp only [renderAttrs, List.flatMap_nil, List.nil_append]
      refine Seg.startTag sp L T (c :: t) [] hn coreInv_idle ?_
      intro m pol ⟨hctl, hr⟩ hpol
      have := tag_close o ho pol m rest _ (Or.inl rfl) .startTag ([c] ++ t) [] [] [] hctl hr
        (by simp [FreshAttr]) (fun _ => rfl) (fun e => by cases e) (by simpa [withPending, tokStart] using hpol)
      obtain ⟨m1, he, h1, h2⟩ := this
      exact ⟨m1, by simpa [withPending, tokStart] using he, h1, h2⟩
    | cons a as =>
      obtain ⟨ha1, ha2⟩ := hok a (by simp)
      have hane : a.1 ≠ [] := by
        obtain ⟨c', q, e, _, _⟩ := attrNameOk_cons ha1
        rw [e]; simp
      have t1 : Seg sp (fun m => Ctl m .tagName ∧ Regs m .startTag ([c] ++ t) [] [] []) L T
          (' ' :: (a.1 ++ ('=' :: '"' :: (escape true a.2 ++ '"' :: (renderAttrs as ++ '>' :: rest))))) []
          (a.1 ++ ('=' :: '"' :: (escape true a.2 ++ '"' :: (renderAttrs as ++ '>' :: rest))))
          (fun m => Ctl m .beforeAttributeName ∧ Regs m .startTag ([c] ++ t) [] [] []) L T := by
        refine Seg.silent sp L T (coreInv_ctl_regs _ _ _ _ _ _) ?_
        intro m pol ⟨hctl, hr⟩
        exact tagName_space o ho pol m _ .startTag _ hctl hr
      have t2 := seg_attr_one sp L T ho .startTag ([c] ++ t) [] [] [] (by simp [FreshAttr]) (fun _ => rfl) a.1 a.2
        ha1 ha2 (renderAttrs as ++ '>' :: rest)
      have t3 := seg_attrs sp L T ho (c :: t) hn rest as [] a.1 a.2 hane (fun b hb => hok b (by simp [hb]))
        (by simpa using hnd)
      have := Seg.trans sp (Seg.trans sp t1 t2) t3
      simpa [tail, renderAttrs, renderAttr, List.flatMap_cons, withPending] using this
  have := Seg.trans sp (Seg.trans sp (Seg.trans sp s1 s2) s3) s4
  simpa [startTagStr, tail] using this

/-- **an end tag** `</name>` -/
theorem seg_endTag (L) (Pf : Frame) (ho : o.exactErrors = false) (n : Str) (as : List (Str × Str)) (cs : Forest)
    (hn : elemNameOk n = true) (rest : Str) :
    Seg sp Idle (L ++ [Pf]) ⟨n, as, cs⟩ (endTagStr n ++ rest) [.tag (tokEnd n)] rest Idle L
      ⟨Pf.name, Pf.attrs, Pf.cs ++ [.elem n as cs]⟩ := by
  have htn : tagNameOk n = true := elemNameOk_tagName hn
  obtain ⟨c, t, rfl, hc, ht⟩ := tagNameOk_cons htn
  let L' := L ++ [Pf]
  let T' : Frame := ⟨c :: t, as, cs⟩
  have s1 : Seg sp Idle L' T' ('<' :: '/' :: c :: (t ++ '>' :: rest)) [] ('/' :: c :: (t ++ '>' :: rest))
      (fun m => Ctl m .tagOpen ∧ NoAttr m) L' T' := by
    refine Seg.silent sp L' T' (coreInv_ctl_noattr _) ?_
    intro m pol ⟨hctl, hna⟩
    exact data_lt o ho pol m _ hctl hna
  have s2 : Seg sp (fun m => Ctl m .tagOpen ∧ NoAttr m) L' T' ('/' :: c :: (t ++ '>' :: rest)) []
      (c :: (t ++ '>' :: rest)) (fun m => Ctl m .endTagOpen ∧ NoAttr m) L' T' := by
    refine Seg.silent sp L' T' (coreInv_ctl_noattr _) ?_
    intro m pol ⟨hctl, hna⟩
    exact tagOpen_slash o ho pol m _ hctl hna
  have s3 : Seg sp (fun m => Ctl m .endTagOpen ∧ NoAttr m) L' T' (c :: (t ++ '>' :: rest)) [] (t ++ '>' :: rest)
      (fun m => Ctl m .tagName ∧ Regs m .endTag [c] [] [] []) L' T' := by
    refine Seg.silent sp L' T' (coreInv_ctl_regs _ _ _ _ _ _) ?_
    intro m pol ⟨hctl, hna⟩
    exact endTagOpen_lower o ho pol m c _ hctl hna hc
  have s4 := seg_tagName sp L' T' ho .endTag ('>' :: rest) t [c] ht
  have s5 : Seg sp (fun m => Ctl m .tagName ∧ Regs m .endTag ([c] ++ t) [] [] []) (L ++ [Pf]) ⟨c :: t, as, cs⟩
      ('>' :: rest) [.tag (tokEnd (c :: t))] rest Idle L ⟨Pf.name, Pf.attrs, Pf.cs ++ [.elem (c :: t) as cs]⟩ := by
    refine Seg.endTag sp L Pf (c :: t) as cs hn coreInv_idle ?_
    intro m pol ⟨hctl, hr⟩ hpol
    have := tag_close o ho pol m rest _ (Or.inl rfl) .endTag ([c] ++ t) [] [] [] hctl hr
      (by simp [FreshAttr]) (fun _ => rfl) (fun _ => by simp [withPending]) (by simpa [withPending, tokEnd] using hpol)
    obtain ⟨m1, he, h1, h2⟩ := this
    exact ⟨m1, by simpa [withPending, tokEnd] using he, h1, h2⟩
  have := Seg.trans sp (Seg.trans sp (Seg.trans sp (Seg.trans sp s1 s2) s3) s4) s5
  simpa [endTagStr] using this

/-! ### trees -/

def lastNotText (f : Forest) : Prop := ∀ s, f.getLast? ≠ some (.text s)

open H5V.Spec.HtmlEscape in
theorem escape_ne_nil (attr : Bool) {s : Str} (h : s ≠ []) : escape attr s ≠ [] := by
  cases s with
  | nil => exact absurd rfl h
  | cons c t =>
    simp only [escape, List.flatMap_cons, ne_eq, List.append_eq_nil_iff, not_and]
    intro e; exact absurd e (escChar_ne_nil attr c)

theorem render_ne_nil {t : HNode} (h : okNode t = true) : render t ≠ [] := by
  cases t with
  | elem n as ch => simp [render, startTagStr]
  | text s => simp only [render]; exact escape_ne_nil false (okNode_text h)

theorem renderF_ne_nil {f : Forest} (h : okForest f = true) (hne : f ≠ []) : renderF f ≠ [] := by
  cases f with
  | nil => exact absurd rfl hne
  | cons t ts =>
    simp only [okForest, Bool.and_eq_true] at h
    simp only [renderF, ne_eq, List.append_eq_nil_iff, not_and]
    intro e; exact absurd e (render_ne_nil h.1)

theorem flatten_singletons (s : Str) : (s.map (fun c => [c])).flatten = s := (goodSplit_chars s).1

mutual
theorem seg_node (ho : o.exactErrors = false) :
    ∀ (t : HNode) (L : List Frame) (T : Frame) (rest : Str), okNode t = true →
      (t.isText = true → ∀ old, T.cs.getLast? ≠ some (.text old)) → (t.isText = true → rest ≠ []) →
      Seg sp Idle L T (render t ++ rest) (tokTokens1 t) rest Idle L ⟨T.name, T.attrs, T.cs ++ [t]⟩
  | .text s, L, T, rest, hok, hadj, hrest => by
    have hs := okNode_text hok
    have hcn : H5V.Spec.HtmlEscape.noCRNUL s := by
      simp only [okNode, Bool.and_eq_true] at hok
      exact noCRNULb_iff hok.2
    have := seg_text sp L ho rest (hrest rfl) s T hcn
    rw [foldl_appendTextF_new T.cs (s.map (fun c => [c])) (by simpa using hs) (hadj rfl), flatten_singletons] at this
    simpa [render, tokTokens1] using this
  | .elem n as ch, L, T, rest, hok, _, _ => by
    simp only [okNode, Bool.and_eq_true] at hok
    obtain ⟨⟨⟨hn, has⟩, hch⟩, hadj⟩ := hok
    have s1 := seg_startTag sp L T ho n as hn has (renderF ch ++ (endTagStr n ++ rest))
    have s2 := seg_forest ho ch (L ++ [T]) ⟨n, as, []⟩ (endTagStr n ++ rest) hch (by simpa using hadj)
      (Or.inl (by simp [endTagStr]))
    have s3 := seg_endTag sp L T ho n as ([] ++ ch) hn rest
    have := Seg.trans sp (Seg.trans sp s1 s2) s3
    simpa [render, tokTokens1] using this
theorem seg_forest (ho : o.exactErrors = false) :
    ∀ (f : Forest) (L : List Frame) (T : Frame) (rest : Str), okForest f = true →
      noAdjText (T.cs ++ f) = true → (rest ≠ [] ∨ lastNotText f) →
      Seg sp Idle L T (renderF f ++ rest) (tokTokens1F f) rest Idle L ⟨T.name, T.attrs, T.cs ++ f⟩
  | [], L, T, rest, _, _, _ => by
    simpa [renderF, tokTokens1F] using Seg.refl sp Idle L T rest
  | t :: ts, L, T, rest, hok, hadj, hfol => by
    simp only [okForest, Bool.and_eq_true] at hok
    have hrest1 : t.isText = true → renderF ts ++ rest ≠ [] := by
      intro ht
      cases ts with
      | nil =>
        rcases hfol with h | h
        · simpa [renderF] using h
        · cases t with
          | elem _ _ _ => cases ht
          | text s => exact absurd rfl (h s)
      | cons u us =>
        have := renderF_ne_nil hok.2 (by simp)
        simp [this]
    have hfol2 : rest ≠ [] ∨ lastNotText ts := by
      rcases hfol with h | h
      · exact Or.inl h
      · right
        cases ts with
        | nil => intro s; simp
        | cons u us => intro s; have := h s; simpa using this
    have s1 := seg_node ho t L T (renderF ts ++ rest) hok.1 (noAdj_head hadj) hrest1
    have s2 := seg_forest ho ts L ⟨T.name, T.attrs, T.cs ++ [t]⟩ rest hok.2 (by simpa using hadj) hfol2
    have := Seg.trans sp s1 s2
    simpa [renderF, tokTokens1F] using this
end

end H5V.Lemmas.HtmlRT
