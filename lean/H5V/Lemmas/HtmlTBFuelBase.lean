import H5V.Lemmas.HtmlTBSafeRun
import H5V.Lemmas.HtmlTBContractRes
/-!
# The fuel of `process_to_completion`: the measure

`process_to_completion` loops as long as a rule answers `Reprocess` (or splits a run of characters).  The
model gives it `ptcFuel s tok = 16·(|tok| + 1) + 4·(|open_elems| + |template_modes|) + 64` iterations.
That this suffices is shown with a measure `ms s m tok` that strictly decreases along every `Reprocess`
edge of the 21 rules:

* for a character token `2·rank m chars + [tok is not split yet]` (no stack term is needed);
* otherwise `4·(number of HTML table elements on the stack) + 4·max |template_modes| [m = InTemplate]
  + rank m (class of tok)`.  The two edges that may jump to an arbitrary mode (`Reprocess(reset_insertion_mode(),
  token)` after `<table>` inside a table and at EOF inside a template) pop a table element resp. a template
  mode, which pays 4; `rank` of the modes `reset_insertion_mode` can answer is at most 3 for these two
  token classes.
-/
namespace H5V.Lemmas.TBFuel
open H5V.Model.HtmlTB
open H5V.Model.HtmlTok (TagKind)
open H5V.Model.Dom (Id QualName Attr NodeOrText SinkOp Output ElementFlags QuirksMode Dom NodeData Node)
open H5V.Lemmas.TBSafe
open H5V.Lemmas.TBC (ok_bind ok_pure ok_getS_bind ok_modS_bind ok_ite ok_bind_pure)

/-! ### token classes -/

inductive Cls
  | chars | null | comment | eof
  | sTdTh | sTr | sCol | sCapGrp | sTable | sOther
  | eHtml | eTable | eTbodyGrp | eTr | eOther
deriving DecidableEq, Repr

def clsTag (k : TagKind) (n : Str) : Cls :=
  match k with
  | .startTag =>
    if isOneOf n ["td", "th"] then .sTdTh
    else if isName n "tr" then .sTr
    else if isName n "col" then .sCol
    else if isOneOf n ["caption", "colgroup", "tbody", "tfoot", "thead"] then .sCapGrp
    else if isName n "table" then .sTable
    else .sOther
  | .endTag =>
    if isName n "html" then .eHtml
    else if isName n "table" then .eTable
    else if isOneOf n ["tbody", "tfoot", "thead"] then .eTbodyGrp
    else if isName n "tr" then .eTr
    else .eOther

def cls : Token → Cls
  | .chars _ _ => .chars
  | .nullChar => .null
  | .comment _ => .comment
  | .eof => .eof
  | .tag t => clsTag t.kind t.name

/-- the chain Initial → BeforeHtml → BeforeHead → InHead → AfterHead → InBody (← AfterBody, AfterAfterBody) -/
def chain : Mode → Nat
  | .initial => 5 | .beforeHtml => 4 | .beforeHead => 3 | .inHeadNoscript => 3 | .inHead => 2
  | .afterHead => 1 | .afterBody => 1 | .afterAfterBody => 1 | _ => 0

/-- the rank of a mode for a token class; it decreases along every `Reprocess` edge that is not paid for by
the stack -/
def rank (m : Mode) (c : Cls) : Nat :=
  match c, m with
  -- characters, U+0000: InTable (also reached from InTableBody, InRow) → InTableText
  | .chars, .inTable => 1 | .chars, .inTableBody => 1 | .chars, .inRow => 1 | .chars, .inColumnGroup => 2
  | .null, .inTable => 1 | .null, .inTableBody => 1 | .null, .inRow => 1 | .null, .inColumnGroup => 2
  | .comment, .inTableText => 1
  | .eof, .text => 9 | .eof, .inTableText => 1
  | .sTdTh, .inTable => 2 | .sTdTh, .inTableBody => 1 | .sTdTh, .inCell => 1 | .sTdTh, .inCaption => 3
  | .sTdTh, .inColumnGroup => 3 | .sTdTh, .inTableText => 3 | .sTdTh, .inTemplate => 1
  | .sTr, .inTable => 1 | .sTr, .inRow => 1 | .sTr, .inCell => 2 | .sTr, .inCaption => 2
  | .sTr, .inColumnGroup => 2 | .sTr, .inTableText => 2 | .sTr, .inTemplate => 1
  | .sCol, .inTable => 1 | .sCol, .inTableBody => 2 | .sCol, .inRow => 3 | .sCol, .inCell => 4
  | .sCol, .inCaption => 2 | .sCol, .inTableText => 4 | .sCol, .inTemplate => 1
  | .sCapGrp, .inTableBody => 1 | .sCapGrp, .inRow => 2 | .sCapGrp, .inCell => 3 | .sCapGrp, .inCaption => 1
  | .sCapGrp, .inColumnGroup => 1 | .sCapGrp, .inTableText => 3 | .sCapGrp, .inTemplate => 1
  | .sTable, .inColumnGroup => 1 | .sTable, .inTableText => 1 | .sTable, .inTemplate => 1
  | .sOther, .inColumnGroup => 1 | .sOther, .inTableText => 1 | .sOther, .inTemplate => 1
  | .eHtml, .initial => 6 | .eHtml, .beforeHtml => 5 | .eHtml, .beforeHead => 4 | .eHtml, .inHeadNoscript => 4
  | .eHtml, .inHead => 3 | .eHtml, .afterHead => 2 | .eHtml, .inBody => 1 | .eHtml, .afterBody => 0
  | .eHtml, .afterAfterBody => 2 | .eHtml, .inColumnGroup => 1 | .eHtml, .inTableText => 1
  | .eTable, .inTableBody => 1 | .eTable, .inRow => 2 | .eTable, .inCell => 3 | .eTable, .inCaption => 1
  | .eTable, .inColumnGroup => 1 | .eTable, .inTableText => 3
  | .eTbodyGrp, .inRow => 1 | .eTbodyGrp, .inCell => 2 | .eTbodyGrp, .inColumnGroup => 1
  | .eTbodyGrp, .inTableText => 2
  | .eTr, .inCell => 1 | .eTr, .inColumnGroup => 1 | .eTr, .inTableText => 1
  | .eOther, .inColumnGroup => 1 | .eOther, .inTableText => 1
  | _, m => chain m

theorem rank_le (m : Mode) (c : Cls) : rank m c ≤ 9 := by
  cases m <;> cases c <;> decide

theorem rank_chars_le (m : Mode) : rank m .chars ≤ 6 := by
  cases m <;> decide

/-! ### the stack term -/

def tableName : EName := ⟨nsHtml, "table".toList⟩

/-- the number of HTML `table` elements on the stack of open elements -/
def tabCount (d : Dom) (l : List Id) : Nat := l.countP (fun h => nm d h == tableName)

theorem tabCount_le (d : Dom) (l : List Id) : tabCount d l ≤ l.length := List.countP_le_length

theorem tabCount_ext {d d' : Dom} {l : List Id} (he : Ext d d') (hel : AllEl d l) :
    tabCount d' l = tabCount d l := by
  unfold tabCount
  apply List.countP_congr
  intro x hx
  rw [hel.nm_eq he hx]

theorem tabCount_sublist {d : Dom} {l l' : List Id} (h : l'.Sublist l) : tabCount d l' ≤ tabCount d l :=
  h.countP_le

theorem tabCount_append (d : Dom) (l1 l2 : List Id) : tabCount d (l1 ++ l2) = tabCount d l1 + tabCount d l2 :=
  List.countP_append

/-- the template-mode term: a missing entry in InTemplate mode counts as one (`setTemplateMode` would
create it) -/
def tmW (s : State) (m : Mode) : Nat := max s.templateModes.length (if m = .inTemplate then 1 else 0)

/-- the stack part of the measure -/
def wW (s : State) (m : Mode) : Nat := 4 * tabCount s.dom s.openElems + 4 * tmW s m

def splitBit : Token → Nat
  | .chars .notSplit _ => 1
  | _ => 0

/-- **the measure** -/
def ms (s : State) (m : Mode) (tok : Token) : Nat :=
  if isCharsTok tok = true then 2 * rank m .chars + splitBit tok
  else wW s m + rank m (cls tok)

theorem splitBit_le (tok : Token) : splitBit tok ≤ 1 := by
  cases tok with
  | chars st x => cases st <;> first | exact Nat.le_refl 1 | exact Nat.zero_le 1
  | _ => exact Nat.zero_le _

theorem ms_chars_le (s : State) (m : Mode) (st : SplitStatus) (x : Str) : ms s m (.chars st x) ≤ 13 := by
  show (if isCharsTok (.chars st x) = true then _ else _) ≤ 13
  rw [if_pos (show isCharsTok (.chars st x) = true from rfl)]
  have := rank_chars_le m
  have h2 := splitBit_le (.chars st x)
  omega

theorem tmW_le (s : State) (m : Mode) : tmW s m ≤ s.templateModes.length + 1 := by
  unfold tmW
  by_cases h : m = .inTemplate
  · rw [if_pos h]; omega
  · rw [if_neg h]; omega

theorem ms_le (s : State) (m : Mode) (tok : Token) :
    ms s m tok ≤ 4 * (s.openElems.length + s.templateModes.length) + 13 := by
  unfold ms
  by_cases hc : isCharsTok tok = true
  · rw [if_pos hc]
    have := rank_chars_le m
    have h2 := splitBit_le tok
    omega
  · rw [if_neg hc]
    unfold wW
    have h1 := tabCount_le s.dom s.openElems
    have h2 := tmW_le s m
    have h3 := rank_le m (cls tok)
    omega

/-- what a rule may answer, with `m` the mode that bounds it -/
def Dec (s : State) (m : Mode) (tok : Token) (r : ProcessResult) (s' : State) : Prop :=
  match r with
  | .reprocess m' _ => ms s' m' tok < ms s m tok
  | .splitWhitespace buf => tok = .chars .notSplit buf ∧ s'.mode = m
  | _ => True

/-- the stack part does not grow -/
structure WLe (s s' : State) : Prop where
  tab : tabCount s'.dom s'.openElems ≤ tabCount s.dom s.openElems
  tm : s'.templateModes.length ≤ s.templateModes.length

theorem WLe.refl (s : State) : WLe s s := ⟨Nat.le_refl _, Nat.le_refl _⟩

theorem WLe.trans {a b c : State} (h1 : WLe a b) (h2 : WLe b c) : WLe a c :=
  ⟨Nat.le_trans h2.tab h1.tab, Nat.le_trans h2.tm h1.tm⟩

theorem wW_le {s s' : State} {m m' : Mode} (h : WLe s s') (hm : m' ≠ .inTemplate ∨ s'.templateModes ≠ []) :
    wW s' m' ≤ wW s m := by
  unfold wW tmW
  have h1 := h.tab
  have h2 := h.tm
  have h3 : max s'.templateModes.length (if m' = .inTemplate then 1 else 0) ≤
      max s.templateModes.length (if m = .inTemplate then 1 else 0) := by
    rcases hm with hm | hm
    · rw [if_neg hm]; omega
    · have : 1 ≤ s'.templateModes.length := by
        cases hl : s'.templateModes with
        | nil => exact absurd hl hm
        | cons a t => simp
      by_cases hmm : m' = .inTemplate
      · rw [if_pos hmm]; omega
      · rw [if_neg hmm]; omega
  omega

/-- a `Reprocess` edge whose rank decreases and whose stack part does not grow -/
theorem dec_of_rank {s s' : State} {m m' : Mode} {tok t : Token} (hw : WLe s s')
    (hm : m' ≠ .inTemplate ∨ s'.templateModes ≠ []) (hr : rank m' (cls tok) < rank m (cls tok)) :
    Dec s m tok (.reprocess m' t) s' := by
  show ms s' m' tok < ms s m tok
  unfold ms
  by_cases hc : isCharsTok tok = true
  · rw [if_pos hc, if_pos hc]
    have : cls tok = .chars := by
      cases tok <;> first | rfl | (simp [isCharsTok] at hc)
    rw [this] at hr
    omega
  · rw [if_neg hc, if_neg hc]
    have := wW_le (m := m) hw hm
    omega

/-- a `Reprocess` edge out of a mode of rank at least 8 into a mode of rank at most 3, the stack part
growing by at most 4 (Text → the original mode, which may be InTemplate) -/
theorem dec_of_slack {s s' : State} {m m' : Mode} {tok t : Token} (hc : isCharsTok tok = false)
    (hw : wW s' m' ≤ wW s m + 4) (hr : rank m' (cls tok) ≤ 3) (hr2 : 8 ≤ rank m (cls tok)) :
    Dec s m tok (.reprocess m' t) s' := by
  show ms s' m' tok < ms s m tok
  unfold ms
  rw [hc]
  simp only [Bool.false_eq_true, if_false]
  omega

/-- a `Reprocess` edge that pays 4 with the stack part and lands in a mode of rank at most 3 -/
theorem dec_of_pay {s s' : State} {m m' : Mode} {tok t : Token} (hc : isCharsTok tok = false)
    (hw : wW s' m' + 4 ≤ wW s m) (hr : rank m' (cls tok) ≤ 3) : Dec s m tok (.reprocess m' t) s' := by
  show ms s' m' tok < ms s m tok
  unfold ms
  rw [hc]
  simp only [Bool.false_eq_true, if_false]
  omega

/-- the stack part with the same bounding mode -/
theorem wW_mono {s s' : State} (h : WLe s s') (m : Mode) : wW s' m ≤ wW s m := by
  unfold wW tmW
  have h1 := h.tab
  have h2 := h.tm
  have h3 : max s'.templateModes.length (if m = .inTemplate then 1 else 0) ≤
      max s.templateModes.length (if m = .inTemplate then 1 else 0) := by omega
  omega

theorem ms_mono {s s' : State} (h : WLe s s') (m : Mode) (tok : Token) : ms s' m tok ≤ ms s m tok := by
  unfold ms
  by_cases hc : isCharsTok tok = true
  · rw [if_pos hc, if_pos hc]; exact Nat.le_refl _
  · rw [if_neg hc, if_neg hc]
    have := wW_mono h m
    omega

/-- `Dec` from a later state of smaller weight -/
theorem Dec.mono {s s1 s' : State} {m : Mode} {tok : Token} {r : ProcessResult} (h : Dec s1 m tok r s')
    (hw : WLe s s1) : Dec s m tok r s' := by
  cases r with
  | reprocess m' t =>
    have := ms_mono hw m tok
    exact Nat.lt_of_lt_of_le h this
  | splitWhitespace buf => exact h
  | _ => trivial

/-- the stack part after sink queries only -/
theorem WLe.of_qf {s s' : State} (hel : AllEl s.dom s.openElems) (h : QF s s') : WLe s s' :=
  ⟨by rw [h.openElems, tabCount_ext h.ext hel]; exact Nat.le_refl _, by rw [h.templateModes]; exact Nat.le_refl _⟩

/-- … after a change of the stack to a sublist -/
theorem WLe.of_st_sublist {s s' : State} {l : List Id} (hel : AllEl s.dom s.openElems) (h : St s s' l)
    (hs : l.Sublist s.openElems) : WLe s s' := by
  refine ⟨?_, by rw [h.fr.templateModes]; exact Nat.le_refl _⟩
  rw [h.openElems, tabCount_ext h.fr.ext (fun x hx => hel x (hs.subset hx))]
  exact tabCount_sublist hs

theorem sat_ok {al : Allow} {α : Type} {m : M α} {s s' : State} {a : α} {Q : α → State → Prop} (h : Sat m s Q)
    (hr : m s = .ok (a, s')) : Q a s' := by
  unfold Sat at h
  rw [hr] at h
  exact h

end H5V.Lemmas.TBFuel
