import H5V.Lemmas.HtmlRTDefs
import H5V.Lemmas.HtmlTokTerm
/-!
C07 round trip, tokenizer half: what one `Tokenizer::step` does on each character of a
serialised ordinary fragment (`exact_errors` off).  Every lemma is stated for an arbitrary machine
whose *control registers* (`Ctl`) and *tag registers* (`Regs`) have the stated values; nothing is
said about (or required of) the tokens already delivered (`Mach.out`), so the lemmas serve both the
tokenizer-only run and the run with the tree builder as sink.
-/
namespace H5V.Lemmas.HtmlRT
open H5V.Model.HtmlTok

/-- the control registers of a machine between two steps of an ordinary run -/
structure Ctl (m : Mach) (st : State) : Prop where
  st : m.state = st
  cr : m.charRef = none
  rc : m.reconsume = false
  ilf : m.ignoreLf = false
  tb : m.tempBuf = []

/-- the tag registers -/
structure Regs (m : Mach) (k : TagKind) (nm : Str) (as : List Attr) (an av : Str) : Prop where
  kind : m.tagKind = k
  name : m.tagName = nm
  sc : m.tagSelfClosing = false
  dup : m.tagHadDup = false
  attrs : m.tagAttrs = as
  an : m.attrName = an
  av : m.attrValue = av

/-- no attribute is pending (the state between two tags) -/
structure NoAttr (m : Mach) : Prop where
  an : m.attrName = []
  av : m.attrValue = []

/-- the step goes on, to machine `m'` with input `inp'`, delivering nothing -/
def Silent (o : Opts) (pol : Pol) (m : Mach) (inp : Str) (m' : Mach) (inp' : Str) : Prop :=
  step o pol m inp = .cont m' inp' ∧ m'.out = m.out

/-- the step goes on and delivers exactly the token `t` (stamped with some line number) -/
def Emits (o : Opts) (pol : Pol) (m : Mach) (inp : Str) (t : Token) (m' : Mach) (inp' : Str) : Prop :=
  step o pol m inp = .cont m' inp' ∧ ∃ ln, m'.out = (t, ln) :: m.out

macro "mach_simp" : tactic =>
  `(tactic| simp [to, reconsumeTo, createTag, discardTag, pushTag, createAttr, finishAttribute, pushName,
      pushValue, appendValue, emit, emitChar, emitChars, Mach.setCurrentChar, Mach.bumpLine, Mach.setCharRef,
      Mach.setIgnoreLf, Mach.setReconsume, tagPrologue, takeTag, currentTag, *])

theorem lower_ne {c : Char} (hc : 'a' ≤ c ∧ c ≤ 'z') :
    c ≠ '!' ∧ c ≠ '/' ∧ c ≠ '?' ∧ c ≠ '\r' ∧ c ≠ '\n' ∧ c ≠ '>' := by
  refine ⟨?_, ?_, ?_, ?_, ?_, ?_⟩ <;> (intro e; subst e; revert hc; decide)

/-! ### data state -/

theorem data_plain (o : Opts) (ho : o.exactErrors = false) (pol : Pol) (m : Mach) (c : Char) (rest : Str)
    (h : Ctl m .data) (hn : NoAttr m)
    (hc : c ≠ '\x00' ∧ c ≠ '\r' ∧ c ≠ '&' ∧ c ≠ '<') :
    ∃ m', Emits o pol m (c :: rest) (.chars [c]) m' rest ∧ Ctl m' .data ∧ NoAttr m' := by
  obtain ⟨h1, h2, h3, h4⟩ := hc
  obtain ⟨s1, s2, s3, s4, s5⟩ := h
  obtain ⟨n1, n2⟩ := hn
  by_cases h5 : c = '\n'
  · subst h5
    refine ⟨emitChar (m.bumpLine.setCurrentChar '\n') '\n', ⟨?_, ⟨m.line + 1, ?_⟩⟩, ?_, ?_⟩
    · simp [step, s1, s2, s3, s4, readKind, readData, ho, simdFirst, popExceptFrom, setOf, preprocess,
        foldChar, transSet, ofSig]
    · simp [emitChar, emit, Mach.setCurrentChar, Mach.bumpLine]
    · constructor <;> mach_simp
    · constructor <;> mach_simp
  · refine ⟨emitChars m [c], ⟨?_, ⟨m.line, ?_⟩⟩, ?_, ?_⟩
    · simp [step, s1, s2, s3, s4, readKind, readData, ho, simdFirst, h1, h2, h3, h4, h5, transSet, ofSig]
    · simp [emitChars, emit]
    · constructor <;> mach_simp
    · constructor <;> mach_simp

theorem data_lt (o : Opts) (ho : o.exactErrors = false) (pol : Pol) (m : Mach) (rest : Str)
    (h : Ctl m .data) (hn : NoAttr m) :
    ∃ m', Silent o pol m ('<' :: rest) m' rest ∧ Ctl m' .tagOpen ∧ NoAttr m' := by
  obtain ⟨s1, s2, s3, s4, s5⟩ := h
  obtain ⟨n1, n2⟩ := hn
  refine ⟨to .tagOpen (m.setCurrentChar '<'), ⟨?_, ?_⟩, ?_, ?_⟩
  · simp [step, s1, s2, s3, s4, readKind, readData, ho, simdFirst, popExceptFrom, setOf, preprocess,
      foldChar, transSet, ofSig]
  · mach_simp
  · constructor <;> mach_simp
  · constructor <;> mach_simp

/-! ### tags -/

theorem tagOpen_lower (o : Opts) (ho : o.exactErrors = false) (pol : Pol) (m : Mach) (c : Char) (rest : Str)
    (h : Ctl m .tagOpen) (hn : NoAttr m) (hc : 'a' ≤ c ∧ c ≤ 'z') :
    ∃ m', Silent o pol m (c :: rest) m' rest ∧ Ctl m' .tagName ∧ Regs m' .startTag [c] [] [] [] := by
  obtain ⟨h1, h2, h3, h4, h5, h6⟩ := lower_ne hc
  obtain ⟨s1, s2, s3, s4, s5⟩ := h
  obtain ⟨n1, n2⟩ := hn
  refine ⟨to .tagName (createTag .startTag c (m.setCurrentChar c)), ⟨?_, ?_⟩, ?_, ?_⟩
  · simp [step, s1, s2, s3, s4, readKind, getChar, preprocess, foldChar, ho, h4, h5, transChar, h1, h2, h3,
      lowerAsciiLetter, hc, ofSig]
  · mach_simp
  · constructor <;> mach_simp
  · constructor <;> mach_simp

theorem tagOpen_slash (o : Opts) (ho : o.exactErrors = false) (pol : Pol) (m : Mach) (rest : Str)
    (h : Ctl m .tagOpen) (hn : NoAttr m) :
    ∃ m', Silent o pol m ('/' :: rest) m' rest ∧ Ctl m' .endTagOpen ∧ NoAttr m' := by
  obtain ⟨s1, s2, s3, s4, s5⟩ := h
  obtain ⟨n1, n2⟩ := hn
  refine ⟨to .endTagOpen (m.setCurrentChar '/'), ⟨?_, ?_⟩, ?_, ?_⟩
  · simp [step, s1, s2, s3, s4, readKind, getChar, preprocess, foldChar, ho, transChar, ofSig]
  · mach_simp
  · constructor <;> mach_simp
  · constructor <;> mach_simp

theorem endTagOpen_lower (o : Opts) (ho : o.exactErrors = false) (pol : Pol) (m : Mach) (c : Char) (rest : Str)
    (h : Ctl m .endTagOpen) (hn : NoAttr m) (hc : 'a' ≤ c ∧ c ≤ 'z') :
    ∃ m', Silent o pol m (c :: rest) m' rest ∧ Ctl m' .tagName ∧ Regs m' .endTag [c] [] [] [] := by
  obtain ⟨h1, h2, h3, h4, h5, h6⟩ := lower_ne hc
  obtain ⟨s1, s2, s3, s4, s5⟩ := h
  obtain ⟨n1, n2⟩ := hn
  refine ⟨to .tagName (createTag .endTag c (m.setCurrentChar c)), ⟨?_, ?_⟩, ?_, ?_⟩
  · simp [step, s1, s2, s3, s4, readKind, getChar, preprocess, foldChar, ho, h4, h5, transChar, h6,
      lowerAsciiLetter, hc, ofSig]
  · mach_simp
  · constructor <;> mach_simp
  · constructor <;> mach_simp

theorem nameCharOk_facts {c : Char} (h : nameCharOk c = true) :
    isWs c = false ∧ c ≠ '/' ∧ c ≠ '>' ∧ c ≠ '\x00' ∧ c ≠ '\r' ∧ c ≠ '\n' ∧ toAsciiLower c = c ∧
    (lowerAsciiLetter c = some c ∨ lowerAsciiLetter c = none) := by
  simp only [nameCharOk, Bool.not_eq_true', Bool.or_eq_false_iff, decide_eq_false_iff_not] at h
  obtain ⟨⟨⟨⟨⟨⟨⟨⟨a1, a2⟩, a3⟩, a4⟩, a5⟩, a6⟩, a7⟩, a8⟩, a9⟩ := h
  have a1 : c ≠ '\t' := by simpa using a1
  have a2 : c ≠ '\n' := by simpa using a2
  have a3 : c ≠ '\x0c' := by simpa using a3
  have a4 : c ≠ ' ' := by simpa using a4
  have a5 : c ≠ '\r' := by simpa using a5
  have a6 : c ≠ '/' := by simpa using a6
  have a7 : c ≠ '>' := by simpa using a7
  have a8 : c ≠ '\x00' := by simpa using a8
  refine ⟨by simp [isWs, a1, a2, a3, a4], a6, a7, a8, a5, a2, by simp [toAsciiLower, a9], ?_⟩
  unfold lowerAsciiLetter
  by_cases hl : 'a' ≤ c ∧ c ≤ 'z'
  · left; simp [hl]
  · right; simp [hl, a9]

theorem tagName_char (o : Opts) (ho : o.exactErrors = false) (pol : Pol) (m : Mach) (c : Char) (rest : Str)
    (k : TagKind) (nm : Str) (h : Ctl m .tagName) (hr : Regs m k nm [] [] []) (hc : nameCharOk c = true) :
    ∃ m', Silent o pol m (c :: rest) m' rest ∧ Ctl m' .tagName ∧ Regs m' k (nm ++ [c]) [] [] [] := by
  obtain ⟨h1, h2, h3, h4, h5, h6, h7, _⟩ := nameCharOk_facts hc
  obtain ⟨s1, s2, s3, s4, s5⟩ := h
  obtain ⟨r1, r2, r3, r4, r5, r6, r7⟩ := hr
  refine ⟨pushTag c (m.setCurrentChar c), ⟨?_, ?_⟩, ?_, ?_⟩
  · simp [step, s1, s2, s3, s4, readKind, getChar, preprocess, foldChar, ho, h5, h6, transChar, h1, h2, h3, h4, h7,
      ofSig]
  · mach_simp
  · constructor <;> mach_simp
  · constructor <;> mach_simp

theorem tagName_space (o : Opts) (ho : o.exactErrors = false) (pol : Pol) (m : Mach) (rest : Str)
    (k : TagKind) (nm : Str) (h : Ctl m .tagName) (hr : Regs m k nm [] [] []) :
    ∃ m', Silent o pol m (' ' :: rest) m' rest ∧ Ctl m' .beforeAttributeName ∧ Regs m' k nm [] [] [] := by
  obtain ⟨s1, s2, s3, s4, s5⟩ := h
  obtain ⟨r1, r2, r3, r4, r5, r6, r7⟩ := hr
  refine ⟨to .beforeAttributeName (m.setCurrentChar ' '), ⟨?_, ?_⟩, ?_, ?_⟩
  · simp [step, s1, s2, s3, s4, readKind, getChar, preprocess, foldChar, ho, transChar, isWs, ofSig]
  · mach_simp
  · constructor <;> mach_simp
  · constructor <;> mach_simp

/-- the attributes of the tag once the pending attribute (if any) is finished -/
def withPending (as : List Attr) (an av : Str) : List Attr := if an = [] then as else as ++ [⟨an, av⟩]

/-- the pending attribute does not repeat an earlier name -/
def FreshAttr (as : List Attr) (an : Str) : Prop := as.any (fun a => a.name == an) = false

theorem finishAttribute_eq (m : Mach) (k nm as an av) (hr : Regs m k nm as an av) (hf : FreshAttr as an) :
    finishAttribute m = { m with tagAttrs := withPending as an av, attrName := [], attrValue := if an = [] then av else [] } := by
  obtain ⟨r1, r2, r3, r4, r5, r6, r7⟩ := hr
  unfold finishAttribute withPending
  by_cases ha : an = []
  · subst ha
    simp [r6]
    cases m; simp_all
  · have hne : an.isEmpty = false := by cases an <;> simp_all
    simp only [r5, r6, r7, hne, Bool.false_eq_true, if_false, ha]
    rw [show (as.any fun a => a.name == an) = false from hf]
    simp

/-- `>` in a tag: the tag token is delivered (the sink answering `Continue`), back to the data state -/
theorem tag_close (o : Opts) (ho : o.exactErrors = false) (pol : Pol) (m : Mach) (rest : Str)
    (st : State) (hst : st = .tagName ∨ st = .afterAttributeValueQuoted)
    (k : TagKind) (nm : Str) (as : List Attr) (an av : Str) (h : Ctl m st) (hr : Regs m k nm as an av)
    (hf : FreshAttr as an) (hav : an = [] → av = []) (hk : k = .endTag → withPending as an av = [])
    (hpol : pol.onTag m.out ⟨k, nm, false, withPending as an av, false⟩ = .continue_) :
    ∃ m', Emits o pol m ('>' :: rest) (.tag ⟨k, nm, false, withPending as an av, false⟩) m' rest ∧
      Ctl m' .data ∧ NoAttr m' := by
  obtain ⟨s1, s2, s3, s4, s5⟩ := h
  have hr0 := hr
  obtain ⟨r1, r2, r3, r4, r5, r6, r7⟩ := hr
  have hr' : Regs (to .data (m.setCurrentChar '>')) k nm as an av := by constructor <;> mach_simp
  have hfin := finishAttribute_eq _ k nm as an av hr' hf
  have hstep : step o pol m ('>' :: rest) = ofSig (emitTag pol .data (m.setCurrentChar '>')) rest := by
    rcases hst with e | e <;> subst e <;>
      simp [step, s1, s2, s3, s4, readKind, getChar, preprocess, foldChar, ho, transChar, isWs]
  unfold Emits
  rw [hstep]
  unfold emitTag emitCurrentTag tagPrologue
  rw [hfin]
  cases k with
  | startTag =>
    simp only [to, Mach.setCurrentChar, r1, takeTag, currentTag, r2, r3, r4, emit]
    rw [show pol.onTag m.out _ = SinkRes.continue_ from hpol]
    refine ⟨_, ⟨rfl, ⟨m.line, rfl⟩⟩, ?_, ?_⟩
    · constructor <;> simp [applySinkRes, s2, s3, s4, s5]
    · constructor <;> simp [applySinkRes]
      exact hav
  | endTag =>
    have he := hk rfl
    simp only [to, Mach.setCurrentChar, r1, takeTag, currentTag, r2, r3, r4, emit, he, List.isEmpty_nil,
      Bool.not_true, Bool.false_eq_true, if_false]
    rw [he] at hpol
    rw [show pol.onTag m.out _ = SinkRes.continue_ from hpol]
    refine ⟨_, ⟨rfl, ⟨m.line, rfl⟩⟩, ?_, ?_⟩
    · constructor <;> simp [applySinkRes, s2, s3, s4, s5]
    · constructor <;> simp [applySinkRes]
      exact hav

/-! ### attributes -/

theorem attrCharOk_facts {c : Char} (h : attrCharOk c = true) :
    nameCharOk c = true ∧ c ≠ '=' ∧ c ≠ '"' ∧ c ≠ '\'' ∧ c ≠ '<' := by
  simp only [attrCharOk, Bool.and_eq_true, Bool.not_eq_true', Bool.or_eq_false_iff, decide_eq_false_iff_not] at h
  obtain ⟨h0, ⟨⟨⟨a1, a2⟩, a3⟩, a4⟩⟩ := h
  exact ⟨h0, a1, a2, a3, a4⟩

theorem beforeAttr_char (o : Opts) (ho : o.exactErrors = false) (pol : Pol) (m : Mach) (c : Char) (rest : Str)
    (k : TagKind) (nm : Str) (as : List Attr) (an av : Str)
    (h : Ctl m .beforeAttributeName) (hr : Regs m k nm as an av) (hf : FreshAttr as an) (hc : attrCharOk c = true) :
    ∃ m', Silent o pol m (c :: rest) m' rest ∧ Ctl m' .attributeName ∧
      Regs m' k nm (withPending as an av) [c] (if an = [] then av else []) := by
  obtain ⟨hc0, b1, b2, b3, b4⟩ := attrCharOk_facts hc
  obtain ⟨h1, h2, h3, h4, h5, h6, h7, h8⟩ := nameCharOk_facts hc0
  obtain ⟨s1, s2, s3, s4, s5⟩ := h
  have hr' : Regs (m.setCurrentChar c) k nm as an av := by
    obtain ⟨r1, r2, r3, r4, r5, r6, r7⟩ := hr
    constructor <;> mach_simp
  have hfin := finishAttribute_eq _ k nm as an av hr' hf
  obtain ⟨r1, r2, r3, r4, r5, r6, r7⟩ := hr
  refine ⟨to .attributeName (createAttr c (m.setCurrentChar c)), ⟨?_, ?_⟩, ?_, ?_⟩
  · rcases h8 with h8 | h8 <;>
      simp [step, s1, s2, s3, s4, readKind, getChar, preprocess, foldChar, ho, h5, h6, transChar, h1, h2, h3, h4, h8,
        b1, b2, b3, b4, ofSig]
  · simp only [to, createAttr, hfin]; rfl
  · constructor <;> (simp only [to, createAttr, hfin]; first | done | simp [Mach.setCurrentChar, s2, s3, s4, s5])
  · constructor <;> (simp only [to, createAttr, hfin]; first | done | simp [Mach.setCurrentChar, r1, r2, r3, r4])

theorem attrName_char (o : Opts) (ho : o.exactErrors = false) (pol : Pol) (m : Mach) (c : Char) (rest : Str)
    (k : TagKind) (nm : Str) (as : List Attr) (an av : Str)
    (h : Ctl m .attributeName) (hr : Regs m k nm as an av) (hc : attrCharOk c = true) :
    ∃ m', Silent o pol m (c :: rest) m' rest ∧ Ctl m' .attributeName ∧ Regs m' k nm as (an ++ [c]) av := by
  obtain ⟨hc0, b1, b2, b3, b4⟩ := attrCharOk_facts hc
  obtain ⟨h1, h2, h3, h4, h5, h6, h7, h8⟩ := nameCharOk_facts hc0
  obtain ⟨s1, s2, s3, s4, s5⟩ := h
  obtain ⟨r1, r2, r3, r4, r5, r6, r7⟩ := hr
  refine ⟨pushName c (m.setCurrentChar c), ⟨?_, ?_⟩, ?_, ?_⟩
  · rcases h8 with h8 | h8 <;>
      simp [step, s1, s2, s3, s4, readKind, getChar, preprocess, foldChar, ho, h5, h6, transChar, h1, h2, h3, h4, h8,
        b1, b2, b3, b4, ofSig]
  · mach_simp
  · constructor <;> mach_simp
  · constructor <;> mach_simp

theorem attrName_eq (o : Opts) (ho : o.exactErrors = false) (pol : Pol) (m : Mach) (rest : Str)
    (k : TagKind) (nm : Str) (as : List Attr) (an av : Str)
    (h : Ctl m .attributeName) (hr : Regs m k nm as an av) :
    ∃ m', Silent o pol m ('=' :: rest) m' rest ∧ Ctl m' .beforeAttributeValue ∧ Regs m' k nm as an av := by
  obtain ⟨s1, s2, s3, s4, s5⟩ := h
  obtain ⟨r1, r2, r3, r4, r5, r6, r7⟩ := hr
  refine ⟨to .beforeAttributeValue (m.setCurrentChar '='), ⟨?_, ?_⟩, ?_, ?_⟩
  · simp [step, s1, s2, s3, s4, readKind, getChar, preprocess, foldChar, ho, transChar, isWs, ofSig]
  · mach_simp
  · constructor <;> mach_simp
  · constructor <;> mach_simp

theorem bav_quote (o : Opts) (pol : Pol) (m : Mach) (rest : Str)
    (k : TagKind) (nm : Str) (as : List Attr) (an av : Str)
    (h : Ctl m .beforeAttributeValue) (hr : Regs m k nm as an av) :
    ∃ m', Silent o pol m ('"' :: rest) m' rest ∧ Ctl m' (.attributeValue .doubleQuoted) ∧ Regs m' k nm as an av := by
  obtain ⟨s1, s2, s3, s4, s5⟩ := h
  obtain ⟨r1, r2, r3, r4, r5, r6, r7⟩ := hr
  refine ⟨to (.attributeValue .doubleQuoted) m, ⟨?_, ?_⟩, ?_, ?_⟩
  · simp [step, s1, s2, s3, s4, readKind, stepBav, peek, discardChar]
  · mach_simp
  · constructor <;> mach_simp
  · constructor <;> mach_simp

theorem av_plain (o : Opts) (ho : o.exactErrors = false) (pol : Pol) (m : Mach) (c : Char) (rest : Str)
    (k : TagKind) (nm : Str) (as : List Attr) (an av : Str)
    (h : Ctl m (.attributeValue .doubleQuoted)) (hr : Regs m k nm as an av)
    (hc : c ≠ '\x00' ∧ c ≠ '\r' ∧ c ≠ '&' ∧ c ≠ '"') :
    ∃ m', Silent o pol m (c :: rest) m' rest ∧ Ctl m' (.attributeValue .doubleQuoted) ∧
      Regs m' k nm as an (av ++ [c]) := by
  obtain ⟨h1, h2, h3, h4⟩ := hc
  obtain ⟨s1, s2, s3, s4, s5⟩ := h
  obtain ⟨r1, r2, r3, r4, r5, r6, r7⟩ := hr
  by_cases h5 : c = '\n'
  · subst h5
    refine ⟨pushValue '\n' (m.bumpLine.setCurrentChar '\n'), ⟨?_, ?_⟩, ?_, ?_⟩
    · simp [step, s1, s2, s3, s4, readKind, popExceptFrom, ho, setOf, preprocess, foldChar, transSet, ofSig]
    · mach_simp
    · constructor <;> mach_simp
    · constructor <;> mach_simp
  · refine ⟨appendValue [c] m, ⟨?_, ?_⟩, ?_, ?_⟩
    · simp [step, s1, s2, s3, s4, readKind, popExceptFrom, ho, setOf, h1, h2, h3, h4, h5, transSet, ofSig]
    · mach_simp
    · constructor <;> mach_simp
    · constructor <;> mach_simp

theorem av_quote (o : Opts) (ho : o.exactErrors = false) (pol : Pol) (m : Mach) (rest : Str)
    (k : TagKind) (nm : Str) (as : List Attr) (an av : Str)
    (h : Ctl m (.attributeValue .doubleQuoted)) (hr : Regs m k nm as an av) :
    ∃ m', Silent o pol m ('"' :: rest) m' rest ∧ Ctl m' .afterAttributeValueQuoted ∧ Regs m' k nm as an av := by
  obtain ⟨s1, s2, s3, s4, s5⟩ := h
  obtain ⟨r1, r2, r3, r4, r5, r6, r7⟩ := hr
  refine ⟨to .afterAttributeValueQuoted (m.setCurrentChar '"'), ⟨?_, ?_⟩, ?_, ?_⟩
  · simp [step, s1, s2, s3, s4, readKind, popExceptFrom, ho, setOf, preprocess, foldChar, transSet, ofSig]
  · mach_simp
  · constructor <;> mach_simp
  · constructor <;> mach_simp

theorem aavq_space (o : Opts) (ho : o.exactErrors = false) (pol : Pol) (m : Mach) (rest : Str)
    (k : TagKind) (nm : Str) (as : List Attr) (an av : Str)
    (h : Ctl m .afterAttributeValueQuoted) (hr : Regs m k nm as an av) :
    ∃ m', Silent o pol m (' ' :: rest) m' rest ∧ Ctl m' .beforeAttributeName ∧ Regs m' k nm as an av := by
  obtain ⟨s1, s2, s3, s4, s5⟩ := h
  obtain ⟨r1, r2, r3, r4, r5, r6, r7⟩ := hr
  refine ⟨to .beforeAttributeName (m.setCurrentChar ' '), ⟨?_, ?_⟩, ?_, ?_⟩
  · simp [step, s1, s2, s3, s4, readKind, getChar, preprocess, foldChar, ho, transChar, isWs, ofSig]
  · mach_simp
  · constructor <;> mach_simp
  · constructor <;> mach_simp

/-! ### character references -/

/-- control registers while a character reference is being read -/
structure CRCtl (m : Mach) (st : State) (cr : CharRefSt) : Prop where
  st : m.state = st
  cr : m.charRef = some cr
  rc : m.reconsume = false
  ilf : m.ignoreLf = false
  tb : m.tempBuf = []

theorem Regs.setCharRef {m k nm as an av} (h : Regs m k nm as an av) (x : Option CharRefSt) :
    Regs (m.setCharRef x) k nm as an av := by
  obtain ⟨r1, r2, r3, r4, r5, r6, r7⟩ := h
  constructor <;> mach_simp

theorem NoAttr.setCharRef {m} (h : NoAttr m) (x : Option CharRefSt) : NoAttr (m.setCharRef x) := by
  obtain ⟨n1, n2⟩ := h
  constructor <;> mach_simp

theorem CRCtl.setCharRef {m st cr} (h : CRCtl m st cr) (cr' : CharRefSt) : CRCtl (m.setCharRef (some cr')) st cr' := by
  obtain ⟨s1, s2, s3, s4, s5⟩ := h
  constructor <;> mach_simp

theorem data_amp (o : Opts) (ho : o.exactErrors = false) (pol : Pol) (m : Mach) (rest : Str)
    (h : Ctl m .data) (hn : NoAttr m) :
    ∃ m', Silent o pol m ('&' :: rest) m' rest ∧ CRCtl m' .data { inAttr := false } ∧ NoAttr m' := by
  obtain ⟨s1, s2, s3, s4, s5⟩ := h
  obtain ⟨n1, n2⟩ := hn
  refine ⟨{ m.setCurrentChar '&' with charRef := some { inAttr := false } }, ⟨?_, ?_⟩, ?_, ?_⟩
  · simp [step, s1, s2, s3, s4, readKind, readData, ho, simdFirst, popExceptFrom, setOf, preprocess,
      foldChar, transSet, ofSig, consumeCharRef, Mach.setCurrentChar, isAttrValueState]
  · mach_simp
  · constructor <;> mach_simp
  · constructor <;> mach_simp

theorem av_amp (o : Opts) (ho : o.exactErrors = false) (pol : Pol) (m : Mach) (rest : Str)
    (k : TagKind) (nm : Str) (as : List Attr) (an av : Str)
    (h : Ctl m (.attributeValue .doubleQuoted)) (hr : Regs m k nm as an av) :
    ∃ m', Silent o pol m ('&' :: rest) m' rest ∧ CRCtl m' (.attributeValue .doubleQuoted) { inAttr := true } ∧
      Regs m' k nm as an av := by
  obtain ⟨s1, s2, s3, s4, s5⟩ := h
  obtain ⟨r1, r2, r3, r4, r5, r6, r7⟩ := hr
  refine ⟨{ m.setCurrentChar '&' with charRef := some { inAttr := true } }, ⟨?_, ?_⟩, ?_, ?_⟩
  · simp [step, s1, s2, s3, s4, readKind, popExceptFrom, ho, setOf, preprocess,
      foldChar, transSet, ofSig, consumeCharRef, Mach.setCurrentChar, isAttrValueState]
  · mach_simp
  · constructor <;> mach_simp
  · constructor <;> mach_simp

def crNamed (b : Bool) : CharRefSt := { state := .named, inAttr := b, nameBuf := some [] }

/-- the `named` state after one more character whose extended name is still in the table -/
def crFeed (cr : CharRefSt) (c : Char) : CharRefSt :=
  match entityLookup ((cr.nameBuf.getD []) ++ [c]) with
  | some mt =>
    if mt.1 ≠ 0 then { cr with nameBuf := some ((cr.nameBuf.getD []) ++ [c]), nameMatch := some mt,
                               nameLen := ((cr.nameBuf.getD []) ++ [c]).length }
    else { cr with nameBuf := some ((cr.nameBuf.getD []) ++ [c]) }
  | none => cr

theorem cr_begin (o : Opts) (pol : Pol) (m : Mach) (c : Char) (rest : Str) (st : State) (b : Bool)
    (h : CRCtl m st { inAttr := b }) (hc : isAsciiAlnum c = true) :
    Silent o pol m (c :: rest) (m.setCharRef (some (crNamed b))) (c :: rest) := by
  obtain ⟨s1, s2, s3, s4, s5⟩ := h
  constructor
  · simp [step, s2, stepCharRef, crStep, peek, s3, hc, crNamed]
  · mach_simp

theorem cr_feed (o : Opts) (pol : Pol) (m : Mach) (c : Char) (rest : Str) (st : State) (cr : CharRefSt)
    (nb : Str) (mt : Nat × Nat)
    (h : CRCtl m st cr) (hs : cr.state = .named) (hnb : cr.nameBuf = some nb)
    (hl : entityLookup (nb ++ [c]) = some mt) :
    Silent o pol m (c :: rest) (m.setCharRef (some (crFeed cr c))) rest := by
  obtain ⟨s1, s2, s3, s4, s5⟩ := h
  constructor
  · by_cases h0 : mt.1 = 0
    · simp [step, s2, stepCharRef, crStep, peek, s3, hs, hnb, discardChar, hl, h0, crFeed]
    · simp [step, s2, stepCharRef, crStep, peek, s3, hs, hnb, discardChar, hl, h0, crFeed]
  · mach_simp

/-- the state of the sub-tokenizer when the whole name `nm` (ending in `;`) has been read and matched
with value `v` -/
structure CRDone (cr : CharRefSt) (nm : Str) (v : Nat) : Prop where
  st : cr.state = .named
  nb : cr.nameBuf = some nm
  mt : cr.nameMatch = some (v, 0)
  len : cr.nameLen = nm.length

theorem getElem?_snoc_last (nm : Str) (x : Char) (hne : nm ≠ []) :
    (nm ++ [x])[nm.length - 1]? = nm.getLast? := by
  have hl : 0 < nm.length := List.length_pos_iff.mpr hne
  rw [List.getElem?_append_left (by omega), List.getLast?_eq_getElem?]

theorem namedDecision_semi (m : Mach) (nm : Str) (v : Nat) (x : Char)
    (hne : nm ≠ []) (hsemi : nm.getLast? = some ';') (hv : isValidScalar v = true) (cr' : CharRefSt)
    (hlen : cr'.nameLen = nm.length) :
    namedDecision m cr' (nm ++ [x]) v 0 = .ok (some (m.setIgnoreLf false, [Char.ofNat v])) := by
  have hl : 0 < nm.length := List.length_pos_iff.mpr hne
  have h0 : nm.length ≠ 0 := by omega
  unfold namedDecision
  simp only [hlen, h0, if_false, getElem?_snoc_last nm x hne, hsemi, if_true, Bool.false_eq_true, hv]
  simp [isValidScalar]

theorem cr_finish_step (o : Opts) (pol : Pol) (m : Mach) (x : Char) (rest : Str) (st : State) (cr : CharRefSt)
    (nm : Str) (v : Nat)
    (h : CRCtl m st cr) (hd : CRDone cr nm v) (hne : nm ≠ []) (hsemi : nm.getLast? = some ';')
    (hv : isValidScalar v = true) (hnone : entityLookup (nm ++ [x]) = none) :
    step o pol m (x :: rest) =
      ofSig ((processCharRef (m.setIgnoreLf false) [Char.ofNat v]).1.setCharRef none,
             (processCharRef (m.setIgnoreLf false) [Char.ofNat v]).2) (x :: rest) := by
  obtain ⟨s1, s2, s3, s4, s5⟩ := h
  obtain ⟨d1, d2, d3, d4⟩ := hd
  simp only [step, s2, stepCharRef, crStep, peek, s3, Bool.false_eq_true, if_false, List.head?_cons, d1, d2,
    discardChar, List.tail_cons, hnone, finishNamed, d3]
  simp only [namedDecision_semi m nm v x hne hsemi hv, d4]
  simp

theorem cr_finish_data (o : Opts) (pol : Pol) (m : Mach) (x : Char) (rest : Str) (cr : CharRefSt)
    (nm : Str) (v : Nat)
    (h : CRCtl m .data cr) (hn : NoAttr m) (hd : CRDone cr nm v) (hne : nm ≠ [])
    (hsemi : nm.getLast? = some ';') (hv : isValidScalar v = true) (hv0 : Char.ofNat v ≠ '\x00')
    (hnone : entityLookup (nm ++ [x]) = none) :
    ∃ m', Emits o pol m (x :: rest) (.chars [Char.ofNat v]) m' (x :: rest) ∧ Ctl m' .data ∧ NoAttr m' := by
  have hs := cr_finish_step o pol m x rest _ cr nm v h hd hne hsemi hv hnone
  obtain ⟨s1, s2, s3, s4, s5⟩ := h
  obtain ⟨n1, n2⟩ := hn
  refine ⟨(emitChar (m.setIgnoreLf false) (Char.ofNat v)).setCharRef none, ⟨?_, ⟨m.line, ?_⟩⟩, ?_, ?_⟩
  · rw [hs]
    simp [processCharRef, Mach.setIgnoreLf, s1, ofSig]
  · simp [emitChar, hv0, emit, Mach.setCharRef, Mach.setIgnoreLf]
  · constructor <;> mach_simp
  · constructor <;> mach_simp

theorem cr_finish_attr (o : Opts) (pol : Pol) (m : Mach) (x : Char) (rest : Str) (cr : CharRefSt)
    (nm : Str) (v : Nat) (k : TagKind) (tn : Str) (as : List Attr) (an av : Str)
    (h : CRCtl m (.attributeValue .doubleQuoted) cr) (hr : Regs m k tn as an av) (hd : CRDone cr nm v) (hne : nm ≠ [])
    (hsemi : nm.getLast? = some ';') (hv : isValidScalar v = true)
    (hnone : entityLookup (nm ++ [x]) = none) :
    ∃ m', Silent o pol m (x :: rest) m' (x :: rest) ∧ Ctl m' (.attributeValue .doubleQuoted) ∧
      Regs m' k tn as an (av ++ [Char.ofNat v]) := by
  have hs := cr_finish_step o pol m x rest _ cr nm v h hd hne hsemi hv hnone
  obtain ⟨s1, s2, s3, s4, s5⟩ := h
  obtain ⟨r1, r2, r3, r4, r5, r6, r7⟩ := hr
  refine ⟨(pushValue (Char.ofNat v) (m.setIgnoreLf false)).setCharRef none, ⟨?_, ?_⟩, ?_, ?_⟩
  · rw [hs]
    simp [processCharRef, Mach.setIgnoreLf, s1, ofSig]
  · mach_simp
  · constructor <;> mach_simp
  · constructor <;> mach_simp

/-! ### running out of input -/

theorem data_suspend (o : Opts) (ho : o.exactErrors = false) (pol : Pol) (m : Mach) (h : Ctl m .data) :
    step o pol m [] = .suspend m [] := by
  obtain ⟨s1, s2, s3, s4, s5⟩ := h
  simp [step, s1, s2, s3, s4, readKind, readData, ho]

theorem cr_suspend (o : Opts) (pol : Pol) (m : Mach) (st : State) (cr : CharRefSt) (h : CRCtl m st cr) :
    step o pol m [] = .suspend m [] := by
  obtain ⟨s1, s2, s3, s4, s5⟩ := h
  have : m.setCharRef (some cr) = m := by cases m; simp_all [Mach.setCharRef]
  simp [step, s2, stepCharRef, crStep, peek, s3, this]

/-- `Tokenizer::end` hands a completed reference back: the character is delivered, nothing is left -/
theorem crEof_done (o : Opts) (m : Mach) (cr : CharRefSt) (nm : Str) (v : Nat)
    (hd : CRDone cr nm v) (hne : nm ≠ []) (hsemi : nm.getLast? = some ';') (hv : isValidScalar v = true) :
    crEof o m [] cr = .ok (m.setIgnoreLf false, [], [Char.ofNat v]) := by
  obtain ⟨d1, d2, d3, d4⟩ := hd
  have hl : 0 < nm.length := List.length_pos_iff.mpr hne
  have h0 : nm.length ≠ 0 := by omega
  have hnd : namedDecision m cr nm v 0 = .ok (some (m.setIgnoreLf false, [Char.ofNat v])) := by
    unfold namedDecision
    simp only [d4, h0, if_false, ← List.getLast?_eq_getElem?, hsemi, if_true, Bool.false_eq_true, hv]
    simp [isValidScalar]
  simp [crEof, d1, finishNamed, d2, d3, hnd, d4]

end H5V.Lemmas.HtmlRT
