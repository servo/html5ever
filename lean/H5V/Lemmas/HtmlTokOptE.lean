import H5V.Lemmas.HtmlTokRuns
/-!
`exact_errors` never changes what is tokenized (HTML tokenizer model).

Two runs of the tokenizer on the same input that differ only in the `Opts` value stay related by
`E`: same machine up to (a) parse-error tokens in the log `out` and (b) a `current_char` that nobody
will read (it is read only after `reconsume` was set, and `reconsume` is only ever set right after a
`get_char`, which synchronises it; the non-exact `badChar` message mentions it, but that is an error
token).  `E0` is the part of `E` that every transition helper preserves.
-/
namespace H5V.Model.HtmlTok

/-- is this log entry a parse-error token? -/
def isErr : Token × Nat → Bool
  | (.error _, _) => true
  | _ => false

/-- the token log with the parse-error tokens erased -/
def noErr (out : Out) : Out := out.filter (fun t => !isErr t)

@[simp] theorem noErr_nil : noErr [] = [] := rfl
theorem noErr_cons (p : Token × Nat) (x : Out) :
    noErr (p :: x) = if isErr p then noErr x else p :: noErr x := by
  unfold noErr; rw [List.filter_cons]; cases isErr p <;> simp
theorem noErr_cons_congr (p : Token × Nat) {x y : Out} (h : noErr x = noErr y) :
    noErr (p :: x) = noErr (p :: y) := by
  rw [noErr_cons, noErr_cons, h]
theorem noErr_err_l (s : Str) (l : Nat) {x y : Out} (h : noErr x = noErr y) :
    noErr ((Token.error s, l) :: x) = noErr y := by
  rw [noErr_cons]; simpa [isErr] using h
theorem noErr_err_r (s : Str) (l : Nat) {x y : Out} (h : noErr x = noErr y) :
    noErr x = noErr ((Token.error s, l) :: y) := by
  rw [noErr_cons]; simpa [isErr] using h
theorem noErr_err_lr (s t : Str) (l k : Nat) {x y : Out} (h : noErr x = noErr y) :
    noErr ((Token.error s, l) :: x) = noErr ((Token.error t, k) :: y) :=
  noErr_err_l s l (noErr_err_r t k h)

/-- equal except for parse errors in the log and for `current_char` -/
def E0 (a b : Mach) : Prop :=
  ∃ ob cb, b = { a with out := ob, currentChar := cb } ∧ noErr a.out = noErr ob

/-! ### `E0` is an equivalence; the fields it fixes -/

theorem E0.refl (a : Mach) : E0 a a := ⟨a.out, a.currentChar, rfl, rfl⟩

theorem E0.symm {a b : Mach} (h : E0 a b) : E0 b a := by
  obtain ⟨ob, cb, rfl, hh⟩ := h
  exact ⟨a.out, a.currentChar, rfl, hh.symm⟩

theorem E0.trans {a b c : Mach} (h1 : E0 a b) (h2 : E0 b c) : E0 a c := by
  obtain ⟨ob, cb, rfl, hh⟩ := h1
  obtain ⟨oc, cc, rfl, hh2⟩ := h2
  exact ⟨oc, cc, rfl, hh.trans hh2⟩

theorem E0.state {a b : Mach} (h : E0 a b) : b.state = a.state := by
  obtain ⟨ob, cb, rfl, h⟩ := h; rfl
theorem E0.tempBuf {a b : Mach} (h : E0 a b) : b.tempBuf = a.tempBuf := by
  obtain ⟨ob, cb, rfl, h⟩ := h; rfl
theorem E0.hae {a b : Mach} (h : E0 a b) : haveAppropriateEndTag b = haveAppropriateEndTag a := by
  obtain ⟨ob, cb, rfl, h⟩ := h; rfl
theorem E0.tagKind {a b : Mach} (h : E0 a b) : b.tagKind = a.tagKind := by
  obtain ⟨ob, cb, rfl, h⟩ := h; rfl
theorem E0.tagAttrs {a b : Mach} (h : E0 a b) : b.tagAttrs = a.tagAttrs := by
  obtain ⟨ob, cb, rfl, h⟩ := h; rfl
theorem E0.tagSelfClosing {a b : Mach} (h : E0 a b) : b.tagSelfClosing = a.tagSelfClosing := by
  obtain ⟨ob, cb, rfl, h⟩ := h; rfl
theorem E0.out {a b : Mach} (h : E0 a b) : noErr a.out = noErr b.out := by
  obtain ⟨ob, cb, rfl, h⟩ := h; exact h
theorem E0.reconsume {a b : Mach} (h : E0 a b) : b.reconsume = a.reconsume := by
  obtain ⟨ob, cb, rfl, h⟩ := h; rfl
theorem E0.ignoreLf {a b : Mach} (h : E0 a b) : b.ignoreLf = a.ignoreLf := by
  obtain ⟨ob, cb, rfl, h⟩ := h; rfl
theorem E0.charRef {a b : Mach} (h : E0 a b) : b.charRef = a.charRef := by
  obtain ⟨ob, cb, rfl, h⟩ := h; rfl
theorem E0.atEof {a b : Mach} (h : E0 a b) : b.atEof = a.atEof := by
  obtain ⟨ob, cb, rfl, h⟩ := h; rfl
theorem E0.discardBom {a b : Mach} (h : E0 a b) : b.discardBom = a.discardBom := by
  obtain ⟨ob, cb, rfl, h⟩ := h; rfl
theorem E0.fuelFor {a b : Mach} (h : E0 a b) (inp : Str) : fuelFor b inp = fuelFor a inp := by
  obtain ⟨ob, cb, rfl, h⟩ := h; rfl

/-- the sink does not look at parse errors (true of the tree builder: a `ParseError` token only calls
`sink.parse_error`) -/
structure PolE (pol : Pol) : Prop where
  onTag : ∀ a b tag, noErr a = noErr b → pol.onTag a tag = pol.onTag b tag
  cdataOk : ∀ a b, noErr a = noErr b → pol.cdataOk a = pol.cdataOk b

/-- relation between two results of a table transition -/
def RelS (x y : Mach × Sig) : Prop := E0 x.1 y.1 ∧ x.2 = y.2

theorem RelS.symm {x y : Mach × Sig} (h : RelS x y) : RelS y x := ⟨h.1.symm, h.2.symm⟩

/-! ### helper congruences -/

theorem E0_emit {a b : Mach} (h : E0 a b) (t : Token) : E0 (emit a t) (emit b t) := by
  obtain ⟨ob, cb, rfl, h⟩ := h
  exact ⟨_, cb, rfl, noErr_cons_congr _ h⟩
theorem E0_badChar {a b : Mach} (h : E0 a b) (o1 o2 : Opts) : E0 (badChar o1 a) (badChar o2 b) := by
  obtain ⟨ob, cb, rfl, h⟩ := h
  unfold badChar emitErr emit
  split <;> split <;> exact ⟨_, cb, rfl, noErr_err_lr _ _ _ _ h⟩

/-- `f` commutes with overwriting the two fields `E0` ignores: it neither reads nor writes them.
For an update of other fields the equation holds by `rfl`; that is the default proof `E0.map` and
`E.map` try. -/
def SilentOp (f : Mach → Mach) : Prop :=
  ∀ m o c, f { m with out := o, currentChar := c } = { f m with out := o, currentChar := c }

theorem SilentOp.keeps {f : Mach → Mach} (hf : SilentOp f) (m : Mach) :
    (f m).out = m.out ∧ (f m).currentChar = m.currentChar := by
  have h := hf m m.out m.currentChar
  have h1 := congrArg Mach.out h
  have h2 := congrArg Mach.currentChar h
  exact ⟨h1, h2⟩

/-- every `go!` shorthand that is a plain field update goes through `E0` -/
theorem E0.map {a b : Mach} (h : E0 a b) (f : Mach → Mach) (hf : SilentOp f := by intro _ _ _; rfl) :
    E0 (f a) (f b) := by
  obtain ⟨ob, cb, rfl, hh⟩ := h
  refine ⟨ob, cb, hf a ob cb, ?_⟩
  rw [(hf.keeps a).1]
  exact hh

theorem E0_selfClosing {a b : Mach} (h : E0 a b) :
    E0 { a with tagSelfClosing := true } { b with tagSelfClosing := true } :=
  h.map fun m => { m with tagSelfClosing := true }
theorem E0_setIgnoreLf {a b : Mach} (h : E0 a b) (x : Bool) : E0 (a.setIgnoreLf x) (b.setIgnoreLf x) :=
  h.map (·.setIgnoreLf x)
theorem E0_setCurrentChar {a b : Mach} (h : E0 a b) (x y : Char) : E0 (a.setCurrentChar x) (b.setCurrentChar y) := by
  obtain ⟨ob, cb, rfl, hh⟩ := h; exact ⟨ob, y, rfl, hh⟩

theorem E0_emitErr2 {a b : Mach} (h : E0 a b) (s t : Str) : E0 (emit a (.error s)) (emit b (.error t)) := by
  obtain ⟨ob, cb, rfl, h⟩ := h
  exact ⟨_, cb, rfl, noErr_err_lr _ _ _ _ h⟩
theorem E0_emitErr_l {a b : Mach} (h : E0 a b) (s : Str) : E0 (emit a (.error s)) b := by
  obtain ⟨ob, cb, rfl, h⟩ := h
  exact ⟨ob, cb, rfl, noErr_err_l _ _ h⟩
theorem E0_emitErr_r {a b : Mach} (h : E0 a b) (s : Str) : E0 a (emit b (.error s)) := by
  obtain ⟨ob, cb, rfl, h⟩ := h
  exact ⟨_, cb, rfl, noErr_err_r _ _ h⟩
theorem E0_setCC_l {a b : Mach} (h : E0 a b) (x : Char) : E0 (a.setCurrentChar x) b :=
  (E0_setCurrentChar (E0.refl a) a.currentChar x).symm.trans h
theorem E0_badChar_l {a b : Mach} (h : E0 a b) (o : Opts) : E0 (badChar o a) b := by
  unfold badChar emitErr
  split <;> exact E0_emitErr_l h _
theorem E0_emitErr {a b : Mach} (h : E0 a b) (s : String) : E0 (emitErr a s) (emitErr b s) := E0_emit h _
theorem E0_emitChar {a b : Mach} (h : E0 a b) (c : Char) : E0 (emitChar a c) (emitChar b c) := by
  unfold emitChar; split <;> exact E0_emit h _
theorem E0_badEof {a b : Mach} (h : E0 a b) (o1 o2 : Opts) : E0 (badEof o1 a) (badEof o2 b) := by
  unfold badEof emitErr
  split <;> split <;> exact E0_emitErr2 h _ _
theorem E0_finishAttribute {a b : Mach} (h : E0 a b) : E0 (finishAttribute a) (finishAttribute b) := by
  obtain ⟨ob, cb, rfl, h⟩ := h
  unfold finishAttribute
  dsimp only
  split
  · exact ⟨ob, cb, rfl, h⟩
  · split
    · exact ⟨_, cb, rfl, noErr_err_lr _ _ _ _ h⟩
    · exact ⟨ob, cb, rfl, h⟩
theorem E0_createAttr {a b : Mach} (h : E0 a b) (c : Char) : E0 (createAttr c a) (createAttr c b) := by
  have h1 := E0_finishAttribute h
  unfold createAttr
  dsimp only
  generalize finishAttribute a = x at h1
  generalize finishAttribute b = y at h1
  obtain ⟨ob, cb, rfl, hh⟩ := h1
  exact ⟨ob, cb, rfl, hh⟩
theorem E0_consumeCharRef {a b : Mach} (h : E0 a b) : RelS (consumeCharRef a) (consumeCharRef b) := by
  obtain ⟨ob, cb, rfl, h⟩ := h
  unfold consumeCharRef
  dsimp only
  split
  · exact ⟨⟨ob, cb, rfl, h⟩, rfl⟩
  · exact ⟨⟨ob, cb, rfl, h⟩, rfl⟩
theorem E0_ite (c : Prop) [Decidable c] {a b a' b' : Mach} (h1 : E0 a b) (h2 : E0 a' b') :
    E0 (if c then a else a') (if c then b else b') := by
  split <;> assumption
theorem E0_tagPrologue {a b : Mach} (h : E0 a b) : E0 (tagPrologue a) (tagPrologue b) := by
  have h1 := E0_finishAttribute h
  unfold tagPrologue
  dsimp only
  generalize finishAttribute a = x at h1
  generalize finishAttribute b = y at h1
  rw [h1.tagKind]
  split
  · obtain ⟨ob, cb, rfl, hh⟩ := h1
    exact ⟨ob, cb, rfl, hh⟩
  · rw [h1.tagAttrs]
    have h2 : E0 (if (!x.tagAttrs.isEmpty) = true then emitErr x "Attributes on an end tag" else x)
        (if (!x.tagAttrs.isEmpty) = true then emitErr y "Attributes on an end tag" else y) :=
      E0_ite _ (E0_emitErr h1 _) h1
    generalize (if (!x.tagAttrs.isEmpty) = true then emitErr x "Attributes on an end tag" else x) = x' at h2
    generalize (if (!x.tagAttrs.isEmpty) = true then emitErr y "Attributes on an end tag" else y) = y' at h2
    rw [h2.tagSelfClosing]
    exact E0_ite _ (E0_emitErr h2 _) h2
theorem E0_currentTag {a b : Mach} (h : E0 a b) : currentTag b = currentTag a := by
  obtain ⟨ob, cb, rfl, h⟩ := h; rfl
theorem E0_applySinkRes {a b : Mach} (h : E0 a b) (r : SinkRes) : RelS (applySinkRes a r) (applySinkRes b r) := by
  unfold applySinkRes
  cases r with
  | continue_ => exact ⟨h, rfl⟩
  | plaintext => exact ⟨h.map (to _), rfl⟩
  | script => exact ⟨E0_emit (h.map (to _)) _, rfl⟩
  | rawData k => exact ⟨h.map (to _), rfl⟩
  | indicator => exact ⟨E0_emit h _, rfl⟩
theorem E0_emitCurrentTag {pol : Pol} (hp : PolE pol) {a b : Mach} (h : E0 a b) :
    RelS (emitCurrentTag pol a) (emitCurrentTag pol b) := by
  unfold emitCurrentTag
  dsimp only
  have h1 := E0_tagPrologue h
  have h2 := h1.map takeTag
  rw [E0_currentTag h1, hp.onTag _ _ _ h2.out.symm]
  exact E0_applySinkRes (E0_emit h2 _) _
theorem E0_emitTag {pol : Pol} (hp : PolE pol) {a b : Mach} (h : E0 a b) (s : State) :
    RelS (emitTag pol s a) (emitTag pol s b) := by
  unfold emitTag; exact E0_emitCurrentTag hp (h.map (to s))
theorem RelS_ok {a b : Mach} (h : E0 a b) : RelS (a, .cont) (b, .cont) := ⟨h, rfl⟩
theorem RelS_panic {a b : Mach} (h : E0 a b) (s : String) : RelS (a, .panic s) (b, .panic s) := ⟨h, rfl⟩

theorem TokOp.run_E0 (o1 o2 : Opts) {a b : Mach} (h : E0 a b) (op : TokOp) : E0 (op.run o1 a) (op.run o2 b) := by
  cases op with
  | badChar => exact E0_badChar h o1 o2
  | badEof => exact E0_badEof h o1 o2
  | emitChar c => exact E0_emitChar h c
  | createAttr c => exact E0_createAttr h c
  | emit t | emitChars s | emitTempBuf | emitComment | emitDoctype =>
    -- one more log entry, the same on both sides
    obtain ⟨ob, cb, rfl, hh⟩ := h
    exact ⟨_, cb, rfl, noErr_cons_congr _ hh⟩
  | pushDoctypeId k c | clearDoctypeId k => cases k <;> exact h.map _
  | _ => exact h.map _

theorem runOps_E0 (o1 o2 : Opts) (ops : List TokOp) {a b : Mach} (h : E0 a b) :
    E0 (runOps o1 ops a) (runOps o2 ops b) :=
  runOps_induct₂ (R := E0) o1 o2 (fun op _ _ h => TokOp.run_E0 o1 o2 h op) ops a b h

theorem ArmEnd.run_E0 {pol : Pol} (hp : PolE pol) {a b : Mach} (h : E0 a b) : ∀ fin : ArmEnd,
    RelS (fin.run pol a) (fin.run pol b)
  | .cont => RelS_ok h
  | .tag => E0_emitTag hp h .data
  | .charRef => E0_consumeCharRef h
  | .panic e => RelS_panic h e

/-! ### the transition tables

Related machines are in the same state with the same registers, so both run the same program. -/

/-- the `get_char!` table: any two option values, `E0`-related machines, same character -/
theorem transChar_E0 (o1 o2 : Opts) (pol : Pol) (hp : PolE pol) {a b : Mach} (h : E0 a b) (c : Char) :
    RelS (transChar o1 pol a c) (transChar o2 pol b c) := by
  rw [transChar_eq, transChar_eq, h.state, h.tempBuf, h.hae]
  exact ArmEnd.run_E0 hp (runOps_E0 o1 o2 _ h) _

/-- the `pop_except_from` table on the same read result -/
theorem transSet_E0 (o1 o2 : Opts) (pol : Pol) (hp : PolE pol) {a b : Mach} (h : E0 a b) (r : SetRes) :
    RelS (transSet o1 pol a r) (transSet o2 pol b r) := by
  rw [transSet_eq, transSet_eq, h.state]
  exact ArmEnd.run_E0 hp (runOps_E0 o1 o2 _ h) _

/-! ### `E`: `E0` plus "a pending reconsume sees the same character" -/

/-- the invariant of two runs that differ only in `Opts` -/
def E (a b : Mach) : Prop := E0 a b ∧ (a.reconsume = true → a.currentChar = b.currentChar)

theorem E.refl (a : Mach) : E a a := ⟨E0.refl a, fun _ => rfl⟩
theorem E.symm {a b : Mach} (h : E a b) : E b a :=
  ⟨h.1.symm, fun hr => (h.2 (by rw [← h.1.reconsume]; exact hr)).symm⟩
theorem E.of_nrc {a b : Mach} (h : E0 a b) (hr : a.reconsume = false) : E a b :=
  ⟨h, fun h' => by rw [hr] at h'; cases h'⟩
theorem E.of_cc {a b : Mach} (h : E0 a b) (hc : a.currentChar = b.currentChar) : E a b := ⟨h, fun _ => hc⟩
theorem E.lift {a b a' b' : Mach} (h : E a b) (h0 : E0 a' b') (hr : a'.reconsume = a.reconsume)
    (hc1 : a'.currentChar = a.currentChar) (hc2 : b'.currentChar = b.currentChar) : E a' b' :=
  ⟨h0, fun hr' => by rw [hc1, hc2]; exact h.2 (by rw [← hr]; exact hr')⟩
theorem E.out {a b : Mach} (h : E a b) : noErr a.out = noErr b.out := h.1.out

/-! ### the reader -/

theorem E0_maybeErr (p q : Prop) [Decidable p] [Decidable q] {x y : Mach} (h : E0 x y) (s t : Str) :
    E0 (if p then emit x (.error s) else x) (if q then emit y (.error t) else y) := by
  split <;> split
  · exact E0_emitErr2 h _ _
  · exact E0_emitErr_l h _
  · exact E0_emitErr_r h _
  · exact h

theorem foldChar_E0 (o1 o2 : Opts) {a b : Mach} (h : E0 a b) (c : Char) :
    (foldChar o1 a c).1 = (foldChar o2 b c).1 ∧ E0 (foldChar o1 a c).2 (foldChar o2 b c).2 ∧
    (foldChar o1 a c).2.currentChar = (foldChar o2 b c).2.currentChar := by
  unfold foldChar
  dsimp only
  by_cases hc : c = '\r'
  · simp only [hc, ↓reduceIte]
    refine ⟨trivial, ?_, rfl⟩
    exact E0_setCurrentChar (E0_maybeErr _ _ (h.map fun m => (m.setIgnoreLf true).bumpLine) _ _) _ _
  · simp only [hc, ↓reduceIte]
    refine ⟨trivial, ?_, rfl⟩
    exact E0_setCurrentChar (E0_maybeErr _ _ (E0_ite _ (h.map (·.bumpLine)) h) _ _) _ _

/-- a character that is neither CR nor LF: folding it changes only `current_char` and may log an error -/
theorem foldChar_nb (o : Opts) (m : Mach) (c : Char) (h1 : c ≠ '\r') (h2 : c ≠ '\n') :
    (foldChar o m c).1 = c ∧ E0 (foldChar o m c).2 m := by
  unfold foldChar
  dsimp only
  simp only [h1, h2, ↓reduceIte]
  refine ⟨trivial, ?_⟩
  apply E0_setCC_l
  split
  · exact E0_emitErr_l (E0.refl m) _
  · exact E0.refl m

/-- relation between two `get_char`-style read results -/
def RdC (r1 r2 : Option Char × Mach × Str) : Prop :=
  r1.1 = r2.1 ∧ r1.2.2 = r2.2.2 ∧ E0 r1.2.1 r2.2.1 ∧
  (r1.1.isSome = true → r1.2.1.currentChar = r2.2.1.currentChar)

theorem preprocess_RdC (o1 o2 : Opts) {a b : Mach} (h : E0 a b) (c : Char) (inp : Str) :
    RdC (preprocess o1 a c inp) (preprocess o2 b c inp) := by
  unfold preprocess
  rw [h.ignoreLf]
  split
  · split
    · cases inp with
      | nil => exact ⟨rfl, rfl, E0_setIgnoreLf h false, by simp⟩
      | cons c' rest =>
        obtain ⟨f1, f2, f3⟩ := foldChar_E0 o1 o2 (E0_setIgnoreLf h false) c'
        exact ⟨by simp only [f1], rfl, f2, fun _ => f3⟩
    · obtain ⟨f1, f2, f3⟩ := foldChar_E0 o1 o2 (E0_setIgnoreLf h false) c
      exact ⟨by simp only [f1], rfl, f2, fun _ => f3⟩
  · obtain ⟨f1, f2, f3⟩ := foldChar_E0 o1 o2 h c
    exact ⟨by simp only [f1], rfl, f2, fun _ => f3⟩

theorem preprocess_reconsume (o : Opts) (m : Mach) (c : Char) (inp : Str) :
    (preprocess o m c inp).2.1.reconsume = m.reconsume := by
  unfold preprocess
  split
  · split
    · cases inp with
      | nil => rfl
      | cons c' rest => simp only [foldChar_reconsume]; rfl
    · simp only [foldChar_reconsume]; rfl
  · simp only [foldChar_reconsume]

theorem preprocess_state (o : Opts) (m : Mach) (c : Char) (inp : Str) :
    (preprocess o m c inp).2.1.state = m.state := by
  unfold preprocess
  split
  · split
    · cases inp with
      | nil => rfl
      | cons c' rest => simp only [foldChar_state]; rfl
    · simp only [foldChar_state]; rfl
  · simp only [foldChar_state]

theorem getChar_RdC (o1 o2 : Opts) {a b : Mach} (h : E a b) (inp : Str) :
    RdC (getChar o1 a inp) (getChar o2 b inp) ∧ (getChar o1 a inp).2.1.reconsume = false ∧
    (getChar o1 a inp).2.1.state = a.state := by
  unfold getChar
  rw [h.1.reconsume]
  split
  · rename_i hr
    exact ⟨⟨congrArg some (h.2 hr), rfl, h.1.map (·.setReconsume false), fun _ => h.2 hr⟩, rfl, rfl⟩
  · rename_i hr
    cases inp with
    | nil => exact ⟨⟨rfl, rfl, h.1, by simp⟩, by simpa using hr, rfl⟩
    | cons c rest =>
      exact ⟨preprocess_RdC o1 o2 h.1 c rest, by rw [preprocess_reconsume]; simpa using hr,
        preprocess_state _ _ _ _⟩

theorem peek_E {a b : Mach} (h : E a b) (inp : Str) : peek b inp = peek a inp := by
  unfold peek
  rw [h.1.reconsume]
  split
  · rename_i hr; rw [h.2 hr]
  · rfl

theorem discardChar_E {a b : Mach} (h : E a b) (inp : Str) :
    E (discardChar a inp).1 (discardChar b inp).1 ∧ (discardChar b inp).2 = (discardChar a inp).2 := by
  unfold discardChar
  rw [h.1.reconsume]
  split
  · exact ⟨E.of_nrc (h.1.map (·.setReconsume false)) rfl, rfl⟩
  · exact ⟨h, rfl⟩

/-! ### `pop_except_from` / the data state's read -/

/-- read results of `pop_except_from`: equal, or the same character outside the set once as
`FromSet` (slow path) and once as a one-character `NotFromSet` run (fast path) -/
inductive SRel (S : List Char) : Option SetRes → Option SetRes → Prop
  | none : SRel S none none
  | same (r : SetRes) : SRel S (some r) (some r)
  | fs (c : Char) : S.contains c = false → SRel S (some (.fromSet c)) (some (.notFromSet [c]))
  | sf (c : Char) : S.contains c = false → SRel S (some (.notFromSet [c])) (some (.fromSet c))

theorem SRel.symm {S : List Char} {x y : Option SetRes} (h : SRel S x y) : SRel S y x := by
  cases h with
  | none => exact .none
  | same r => exact .same r
  | fs c hc => exact .sf c hc
  | sf c hc => exact .fs c hc

theorem SRel.of_map {S : List Char} {x y : Option Char} (h : x = y) :
    SRel S (x.map .fromSet) (y.map .fromSet) := by
  subst h; cases x with
  | none => exact .none
  | some c => exact .same _

/-- relation between two `pop_except_from` results -/
def RdS (S : List Char) (st : State) (r1 r2 : Option SetRes × Mach × Str) : Prop :=
  SRel S r1.1 r2.1 ∧ r1.2.2 = r2.2.2 ∧ E0 r1.2.1 r2.2.1 ∧ r1.2.1.reconsume = false ∧ r1.2.1.state = st

theorem RdS.symm {S : List Char} {st : State} {r1 r2 : Option SetRes × Mach × Str} (h : RdS S st r1 r2) :
    RdS S st r2 r1 :=
  ⟨h.1.symm, h.2.1.symm, h.2.2.1.symm, by rw [h.2.2.1.reconsume]; exact h.2.2.2.1,
   by rw [h.2.2.1.state]; exact h.2.2.2.2⟩

/-- the slow path of `pop_except_from`: `get_char` -/
def popSlow (o : Opts) (m : Mach) (inp : Str) : Option SetRes × Mach × Str :=
  ((getChar o m inp).1.map .fromSet, (getChar o m inp).2)

theorem popSlow_RdS (o1 o2 : Opts) (S : List Char) {a b : Mach} (h : E a b) (inp : Str) :
    RdS S a.state (popSlow o1 a inp) (popSlow o2 b inp) := by
  obtain ⟨⟨g1, g2, g3, _⟩, g5, g6⟩ := getChar_RdC o1 o2 h inp
  exact ⟨SRel.of_map g1, g2, g3, g5, g6⟩

/-- a character outside the set, read by `get_char` on one side and passed over on the other -/
theorem popSlow_notFromSet (o : Opts) (S : List Char) (hS : S.contains '\r' = true ∧ S.contains '\n' = true)
    {a b : Mach} (h : E0 a b) (hr : a.reconsume = false) (hil : a.ignoreLf = false) (c : Char) (rest : Str)
    (hc : S.contains c = false) :
    RdS S a.state (popSlow o a (c :: rest)) (some (.notFromSet [c]), b, rest) := by
  unfold popSlow
  have hg : getChar o a (c :: rest) = preprocess o a c rest := by simp [getChar, hr]
  have h1 : c ≠ '\r' := by intro e; rw [e, hS.1] at hc; cases hc
  have h2 : c ≠ '\n' := by intro e; rw [e, hS.2] at hc; cases hc
  rw [hg, preprocess_plain o a c rest hil]
  obtain ⟨f1, f2⟩ := foldChar_nb o a c h1 h2
  dsimp only
  rw [f1]
  exact ⟨.fs c hc, rfl, f2.trans h, by rw [foldChar_reconsume]; exact hr, foldChar_state _ _ _⟩

theorem popExceptFrom_RdS (o1 o2 : Opts) (S : List Char)
    (hS : S.contains '\r' = true ∧ S.contains '\n' = true) {a b : Mach} (h : E a b) (inp : Str) :
    RdS S a.state (popExceptFrom o1 S a inp) (popExceptFrom o2 S b inp) := by
  rw [popExceptFrom_eq, popExceptFrom_eq, h.1.reconsume, h.1.ignoreLf]
  have slow := popSlow_RdS o1 o2 S h inp
  unfold popSlow at slow
  by_cases hr : a.reconsume = true
  · simp only [hr, Bool.or_true, Bool.true_or, ↓reduceIte]
    exact slow
  by_cases hil : a.ignoreLf = true
  · simp only [hil, Bool.or_true, Bool.true_or, ↓reduceIte]
    exact slow
  by_cases hc : inp.head?.all S.contains = true
  · simp only [hc, Bool.or_true, ↓reduceIte]
    exact slow
  -- the fast path applies unless `exact_errors` is on
  cases inp with
  | nil => simp at hc
  | cons c rest =>
    have hr' : a.reconsume = false := by simpa using hr
    have hil' : a.ignoreLf = false := by simpa using hil
    have hc' : S.contains c = false := by simpa using hc
    simp only [hr', hil', hc', Bool.or_false, List.head?_cons, Option.all_some, Option.map_some, List.tail_cons]
      at slow ⊢
    cases o1.exactErrors <;> cases o2.exactErrors <;>
      simp only [Bool.false_eq_true, ↓reduceIte] at slow ⊢
    · exact ⟨.same _, rfl, h.1, hr', rfl⟩
    · have := popSlow_notFromSet o2 S hS h.1.symm (by rw [h.1.reconsume]; exact hr')
        (by rw [h.1.ignoreLf]; exact hil') c rest hc'
      rw [h.1.state] at this
      exact this.symm
    · exact popSlow_notFromSet o1 S hS h.1 hr' hil' c rest hc'
    · exact slow

/-! ### step results -/

/-- relation between two step results: same constructor, same remaining input, `E`-related machines,
same panic -/
def RE : R → R → Prop
  | .cont a i, .cont b j => E a b ∧ i = j
  | .suspend a i, .suspend b j => E a b ∧ i = j
  | .script a i, .script b j => E a b ∧ i = j
  | .indicator a i, .indicator b j => E a b ∧ i = j
  | .panic x, .panic y => x = y
  | _, _ => False

theorem RE_ofSig {x y : Mach × Sig} (h : RelS x y)
    (he : x.1.reconsume = true → x.1.currentChar = y.1.currentChar) (i : Str) :
    RE (ofSig x i) (ofSig y i) := by
  obtain ⟨x1, x2⟩ := x
  obtain ⟨y1, y2⟩ := y
  obtain ⟨h1, h2⟩ := h
  dsimp only at h1 h2 he
  subst h2
  unfold ofSig
  cases x2 with
  | cont => exact ⟨⟨h1, he⟩, rfl⟩
  | script => exact ⟨⟨h1, he⟩, rfl⟩
  | indicator => exact ⟨⟨h1, he⟩, rfl⟩
  | panic e => exact rfl

theorem contChar_RE (o1 o2 : Opts) (pol : Pol) (hp : PolE pol) {r1 r2 : Option Char × Mach × Str}
    (h : RdC r1 r2) (hr : r1.2.1.reconsume = false) : RE (contChar o1 pol r1) (contChar o2 pol r2) := by
  obtain ⟨c1, m1, i1⟩ := r1
  obtain ⟨c2, m2, i2⟩ := r2
  obtain ⟨g1, g2, g3, g4⟩ := h
  dsimp only at g1 g2 g3 g4 hr
  subst g1 g2
  cases c1 with
  | none => exact ⟨E.of_nrc g3 hr, rfl⟩
  | some c =>
    exact RE_ofSig (transChar_E0 o1 o2 pol hp g3 c)
      (fun _ => by rw [transChar_currentChar, transChar_currentChar]; exact g4 rfl) _

/-- a character outside the set: slow path (`FromSet`) on one side, fast path (`NotFromSet`) on the other -/
theorem transSet_fs (o1 o2 : Opts) (pol : Pol) (hp : PolE pol) {m1 m2 : Mach} (h : E0 m1 m2) (c : Char)
    (hk : readKind m1.state = .popExcept ∨ readKind m1.state = .dataSimd)
    (hc : (setOf m1.state).contains c = false) :
    RelS (transSet o1 pol m1 (.fromSet c)) (transSet o2 pol m2 (.notFromSet [c])) := by
  by_cases hu : m1.state = .attributeValue .unquoted
  · have hs2 : m2.state = .attributeValue .unquoted := by rw [h.state]; exact hu
    rw [hu] at hc
    have hc' : c ≠ '\x00' ∧ c ≠ '\t' ∧ c ≠ '\n' ∧ c ≠ '\x0c' ∧ c ≠ '\r' ∧ c ≠ ' ' ∧ c ≠ '&' ∧ c ≠ '>' := by
      simpa [setOf] using hc
    obtain ⟨a0, a1, a2, a3, a4, a5, a6, a7⟩ := hc'
    have hws : isWs c = false := by simp [isWs, a1, a2, a3, a5]
    have e1 : transSet o2 pol m2 (.notFromSet [c]) = (appendValue [c] m2, .cont) := by
      unfold transSet; simp [hs2]
    have e2 : transSet o1 pol m1 (.fromSet c) =
        (pushValue c (if c = '"' || c = '\'' || c = '<' || c = '=' || c = '`' then badChar o1 m1 else m1), .cont) := by
      unfold transSet; simp [hu, hws, a0, a6, a7]
    rw [e1, e2]
    refine ⟨?_, rfl⟩
    show E0 (appendValue [c] _) (appendValue [c] m2)
    refine E0.map ?_ (appendValue [c])
    split
    · exact E0_badChar_l h _
    · exact h
  · have hd := transSet_dead o1 pol m1 m1.currentChar c hk hc hu
    have e : m1.setCurrentChar m1.currentChar = m1 := rfl
    rw [e] at hd
    rw [hd]
    obtain ⟨t1, t2⟩ := transSet_E0 o1 o2 pol hp h (.notFromSet [c])
    exact ⟨E0_setCC_l t1 _, t2⟩

theorem contSet_RE (o1 o2 : Opts) (pol : Pol) (hp : PolE pol) {st : State}
    (hk : readKind st = .popExcept ∨ readKind st = .dataSimd) {r1 r2 : Option SetRes × Mach × Str}
    (h : RdS (setOf st) st r1 r2) : RE (contSet o1 pol r1) (contSet o2 pol r2) := by
  obtain ⟨c1, m1, i1⟩ := r1
  obtain ⟨c2, m2, i2⟩ := r2
  obtain ⟨g1, g2, g3, g4, g5⟩ := h
  dsimp only at g1 g2 g3 g4 g5
  subst g2
  cases g1 with
  | none => exact ⟨E.of_nrc g3 g4, rfl⟩
  | same r =>
    refine RE_ofSig (transSet_E0 o1 o2 pol hp g3 r) ?_ _
    intro hr; rw [transSet_reconsume, g4] at hr; cases hr
  | fs c hc =>
    refine RE_ofSig (transSet_fs o1 o2 pol hp g3 c (by rw [g5]; exact hk) (by rw [g5]; exact hc)) ?_ _
    intro hr; rw [transSet_reconsume, g4] at hr; cases hr
  | sf c hc =>
    have g5' : m2.state = st := by rw [g3.state]; exact g5
    refine RE_ofSig (transSet_fs o2 o1 pol hp g3.symm c (by rw [g5']; exact hk) (by rw [g5']; exact hc)).symm ?_ _
    intro hr; rw [transSet_reconsume, g4] at hr; cases hr

/-! ### E-level congruences for the helpers used outside the tables -/

theorem E0_nameErr {a b : Mach} (h : E0 a b) (o1 o2 : Opts) (nb : Str) : E0 (nameErr o1 a nb) (nameErr o2 b nb) := by
  unfold nameErr emitErr
  split <;> split <;> exact E0_emitErr2 h _ _
theorem E0_numericErr {a b : Mach} (h : E0 a b) (o1 o2 : Opts) (n : Nat) :
    E0 (numericErr o1 a n) (numericErr o2 b n) := by
  unfold numericErr emitErr
  split <;> split <;> exact E0_emitErr2 h _ _
@[simp] theorem nameErr_reconsume (o : Opts) (m : Mach) (nb : Str) : (nameErr o m nb).reconsume = m.reconsume := by
  unfold nameErr; split <;> rfl
@[simp] theorem nameErr_currentChar (o : Opts) (m : Mach) (nb : Str) : (nameErr o m nb).currentChar = m.currentChar := by
  unfold nameErr; split <;> rfl
@[simp] theorem numericErr_reconsume (o : Opts) (m : Mach) (n : Nat) : (numericErr o m n).reconsume = m.reconsume := by
  unfold numericErr; split <;> rfl
@[simp] theorem numericErr_currentChar (o : Opts) (m : Mach) (n : Nat) : (numericErr o m n).currentChar = m.currentChar := by
  unfold numericErr; split <;> rfl

theorem E_emitErr {a b : Mach} (h : E a b) (s : String) : E (emitErr a s) (emitErr b s) :=
  h.lift (E0_emitErr h.1 s) (by simp) (by simp) (by simp)
theorem E_nameErr {a b : Mach} (h : E a b) (o1 o2 : Opts) (nb : Str) : E (nameErr o1 a nb) (nameErr o2 b nb) :=
  h.lift (E0_nameErr h.1 o1 o2 nb) (by simp) (by simp) (by simp)
theorem E_numericErr {a b : Mach} (h : E a b) (o1 o2 : Opts) (n : Nat) : E (numericErr o1 a n) (numericErr o2 b n) :=
  h.lift (E0_numericErr h.1 o1 o2 n) (by simp) (by simp) (by simp)
/-- a plain field update other than of `reconsume` goes through `E` -/
theorem E.map {a b : Mach} (h : E a b) (f : Mach → Mach) (hf : SilentOp f := by intro _ _ _; rfl)
    (hr : ∀ m, (f m).reconsume = m.reconsume := by intro _; rfl) : E (f a) (f b) :=
  h.lift (h.1.map f hf) (hr a) (hf.keeps a).2 (hf.keeps b).2
theorem E_setIgnoreLf {a b : Mach} (h : E a b) (x : Bool) : E (a.setIgnoreLf x) (b.setIgnoreLf x) :=
  h.map (·.setIgnoreLf x)
theorem E_badChar {a b : Mach} (h : E a b) (o1 o2 : Opts) : E (badChar o1 a) (badChar o2 b) :=
  h.lift (E0_badChar h.1 o1 o2) (by simp) (by simp) (by simp)
theorem E_emitChar {a b : Mach} (h : E a b) (c : Char) : E (emitChar a c) (emitChar b c) :=
  h.lift (E0_emitChar h.1 c) (by simp) (by simp) (by simp)
theorem E_ite (c : Prop) [Decidable c] {a b a' b' : Mach} (h1 : E a b) (h2 : E a' b') :
    E (if c then a else a') (if c then b else b') := by
  split <;> assumption

/-! ### the character-reference sub-tokenizer -/

/-- relation between two results that may fail: the same failure, or success with `E`-related
machines and the same rest (used for char-ref steps, `crEof` and the first half of `end`) -/
inductive ResE {β : Type} : Except String (Mach × β) → Except String (Mach × β) → Prop
  | ok {m1 m2 : Mach} (h : E m1 m2) (x : β) : ResE (.ok (m1, x)) (.ok (m2, x))
  | err (e : String) : ResE (.error e) (.error e)

theorem ResE.okCR {m1 m2 : Mach} (h : E m1 m2) (i : Str) (c : CharRefSt) (s : CRStatus) :
    ResE (.ok (m1, i, c, s)) (.ok (m2, i, c, s)) := .ok h _
theorem ResE.errCR (e : String) : ResE (β := Str × CharRefSt × CRStatus) (.error e) (.error e) := .err e

theorem finishNumericStatus_ResE (o1 o2 : Opts) {a b : Mach} (h : E a b) (inp : Str) (cr : CharRefSt) :
    ResE (finishNumericStatus o1 a inp cr) (finishNumericStatus o2 b inp cr) := by
  unfold finishNumericStatus finishNumeric
  dsimp only
  generalize numericValue cr = v
  obtain ⟨v1, v2⟩ := v
  cases v1 with
  | error e => exact ResE.errCR _
  | ok c => exact ResE.okCR (E_ite _ (E_numericErr h o1 o2 _) h) _ _ _

/-- relation between two results of `namedDecision` -/
inductive NDE : Except String (Option (Mach × Str)) → Except String (Option (Mach × Str)) → Prop
  | none : NDE (.ok none) (.ok none)
  | some {m1 m2 : Mach} (h : E m1 m2) (s : Str) : NDE (.ok (some (m1, s))) (.ok (some (m2, s)))
  | err (e : String) : NDE (.error e) (.error e)

theorem namedDecision_NDE {a b : Mach} (h : E a b) (cr : CharRefSt) (nb : Str) (c1 c2 : Nat) :
    NDE (namedDecision a cr nb c1 c2) (namedDecision b cr nb c1 c2) := by
  by_cases h0 : cr.nameLen = 0
  · rw [namedDecision_zero a cr nb c1 c2 h0, namedDecision_zero b cr nb c1 c2 h0]; exact .err _
  · cases hl : nb[cr.nameLen - 1]? with
    | none => rw [namedDecision_none a cr nb c1 c2 h0 hl, namedDecision_none b cr nb c1 c2 h0 hl]; exact .err _
    | some last =>
      rw [namedDecision_some a cr nb c1 c2 last h0 hl, namedDecision_some b cr nb c1 c2 last h0 hl]
      repeat' split
      all_goals
        first
        | exact .err _
        | exact .none
        | exact .some (E_setIgnoreLf h false) _
        | exact .some (E_setIgnoreLf (E_emitErr h _) false) _

theorem finishNamed_ResE (o1 o2 : Opts) {a b : Mach} (h : E a b) (inp : Str) (cr : CharRefSt) (e : Option Char) :
    ResE (finishNamed o1 a inp cr e) (finishNamed o2 b inp cr e) := by
  unfold finishNamed
  split
  · exact ResE.errCR _
  · split
    · dsimp only
      repeat' split
      all_goals
        first
        | exact ResE.okCR h _ _ _
        | exact ResE.okCR (E_nameErr h o1 o2 _) _ _ _
    · rename_i nb _ _ c1 c2 _
      have hn := namedDecision_NDE h cr nb c1 c2
      generalize namedDecision a cr nb c1 c2 = r1 at hn
      generalize namedDecision b cr nb c1 c2 = r2 at hn
      cases hn with
      | none => exact ResE.okCR h _ _ _
      | some g s => exact ResE.okCR g _ _ _
      | err e => exact ResE.errCR _

theorem crStep_ResE (o1 o2 : Opts) {a b : Mach} (h : E a b) (inp : Str) (cr : CharRefSt) :
    ResE (crStep o1 a inp cr) (crStep o2 b inp cr) := by
  obtain ⟨hd1, hd2⟩ := discardChar_E h inp
  unfold crStep unconsumeNumeric
  dsimp only
  rw [peek_E h, hd2]
  split
  · exact ResE.okCR h _ _ _
  · split <;> (repeat' split) <;>
      first
      | exact ResE.okCR h _ _ _
      | exact ResE.okCR hd1 _ _ _
      | exact ResE.errCR _
      | exact ResE.okCR (E_emitErr h _) _ _ _
      | exact ResE.okCR (E_nameErr hd1 o1 o2 _) _ _ _
      | exact finishNumericStatus_ResE o1 o2 hd1 _ _
      | exact finishNumericStatus_ResE o1 o2 (E_emitErr h _) _ _
      | exact finishNamed_ResE o1 o2 hd1 _ _ _

theorem foldl_E {f : Mach → Char → Mach} (hf : ∀ {a b : Mach} c, E a b → E (f a c) (f b c)) (cs : Str) :
    ∀ {a b : Mach}, E a b → E (cs.foldl f a) (cs.foldl f b) := by
  induction cs with
  | nil => intro a b h; exact h
  | cons c cs ih => intro a b h; exact ih (hf c h)

theorem processCharRef_E {a b : Mach} (h : E a b) (chars : Str) :
    E (processCharRef a chars).1 (processCharRef b chars).1 ∧
    (processCharRef a chars).2 = (processCharRef b chars).2 := by
  unfold processCharRef
  rw [h.1.state]
  dsimp only
  split
  · exact ⟨foldl_E (fun c h => E_emitChar h c) _ h, rfl⟩
  · exact ⟨foldl_E (fun c h => E_emitChar h c) _ h, rfl⟩
  · exact ⟨foldl_E (fun c h => h.map (pushValue c)) _ h, rfl⟩
  · exact ⟨h, rfl⟩

theorem RE_ofSig' {x y : Mach × Sig} (h1 : E x.1 y.1) (h2 : x.2 = y.2) (i : Str) : RE (ofSig x i) (ofSig y i) :=
  RE_ofSig ⟨h1.1, h2⟩ h1.2 i

theorem stepCharRef_RE (o1 o2 : Opts) {a b : Mach} (h : E a b) (inp : Str) (cr : CharRefSt) :
    RE (stepCharRef o1 a inp cr) (stepCharRef o2 b inp cr) := by
  unfold stepCharRef
  have hc := crStep_ResE o1 o2 h inp cr
  generalize crStep o1 a inp cr = r1 at hc
  generalize crStep o2 b inp cr = r2 at hc
  cases hc with
  | err e => exact rfl
  | ok g1 x =>
    obtain ⟨i1, c1, s1⟩ := x
    cases s1 with
    | stuck => exact ⟨g1.map (·.setCharRef _), rfl⟩
    | progress => exact ⟨g1.map (·.setCharRef _), rfl⟩
    | done chars =>
      obtain ⟨p1, p2⟩ := processCharRef_E g1 chars
      exact RE_ofSig' (x := ((processCharRef _ chars).1.setCharRef none, (processCharRef _ chars).2))
        (y := ((processCharRef _ chars).1.setCharRef none, (processCharRef _ chars).2))
        (p1.map (·.setCharRef none)) p2 _

/-! ### `peek`/`discard_char` and `eat` states -/

theorem stepBav_RE (o1 o2 : Opts) (pol : Pol) (hp : PolE pol) {a b : Mach} (h : E a b) (inp : Str) :
    RE (stepBav o1 pol a inp) (stepBav o2 pol b inp) := by
  unfold stepBav
  rw [peek_E h, h.1.ignoreLf]
  cases peek a inp with
  | none => exact ⟨h, rfl⟩
  | some c =>
    dsimp only
    have hm : E (if a.ignoreLf = true then a.setIgnoreLf false else a)
        (if a.ignoreLf = true then b.setIgnoreLf false else b) := E_ite _ (E_setIgnoreLf h false) h
    generalize (if a.ignoreLf = true then a.setIgnoreLf false else a) = a' at hm
    generalize (if a.ignoreLf = true then b.setIgnoreLf false else b) = b' at hm
    obtain ⟨hd1, hd2⟩ := discardChar_E hm inp
    rw [hd2]
    split
    · exact ⟨hd1, rfl⟩
    · split
      · obtain ⟨⟨g1, g2, g3, g4⟩, g5, _⟩ := getChar_RdC o1 o2 hm inp
        generalize getChar o1 a' inp = r1 at g1 g2 g3 g4 g5
        generalize getChar o2 b' inp = r2 at g1 g2 g3 g4
        obtain ⟨c1, m1, i1⟩ := r1
        obtain ⟨c2, m2, i2⟩ := r2
        dsimp only at g1 g2 g3 g4 g5
        subst g1 g2
        cases c1 <;> exact ⟨E.of_nrc g3 g5, rfl⟩
      · -- white space / `"` / `'` / `>` / anything else
        split
        · exact ⟨hd1, rfl⟩
        split
        · exact ⟨hd1.map (to _), rfl⟩
        split
        · exact ⟨hd1.map (to _), rfl⟩
        split
        · exact RE_ofSig (E0_emitTag hp (E0_badChar hd1.1 o1 o2) _)
            (fun hr => by
              simp only [emitTag_reconsume, emitTag_currentChar, badChar_reconsume, badChar_currentChar] at hr ⊢
              exact hd1.2 hr) _
        · exact ⟨hm.map (to _), rfl⟩

theorem eatSkipLf_E {a b : Mach} (h : E a b) (inp : Str) :
    E (eatSkipLf a inp).1 (eatSkipLf b inp).1 ∧ (eatSkipLf b inp).2 = (eatSkipLf a inp).2 := by
  unfold eatSkipLf
  rw [peek_E h, h.1.ignoreLf]
  split
  · split
    · split
      · exact discardChar_E (E_setIgnoreLf h false) inp
      · exact ⟨E_setIgnoreLf h false, rfl⟩
    · exact ⟨h, rfl⟩
  · exact ⟨h, rfl⟩

theorem eat_E {a b : Mach} (h : E a b) (inp pat : Str) (eq : Char → Char → Bool) :
    ∃ x m n i, E m n ∧ eat a inp pat eq = (x, m, i) ∧ eat b inp pat eq = (x, n, i) := by
  rw [eat_eq_core, eat_eq_core]
  obtain ⟨h1, h2⟩ := eatSkipLf_E h inp
  rw [h2]
  generalize (eatSkipLf a inp).1 = a' at h1
  generalize (eatSkipLf b inp).1 = b' at h1
  generalize (eatSkipLf a inp).2 = i'
  unfold eatCore
  rw [h1.1.tempBuf, h1.1.atEof]
  repeat' split
  all_goals exact ⟨_, _, _, _, h1.map (·.setTempBuf _), rfl, rfl⟩

theorem stepMdo_RE (o1 o2 : Opts) (pol : Pol) (hp : PolE pol) {a b : Mach} (h : E a b) (inp : Str) :
    RE (stepMdo o1 pol a inp) (stepMdo o2 pol b inp) := by
  unfold stepMdo
  obtain ⟨x1, m1, n1, i1, g1, e1, e1'⟩ := eat_E h inp kwDashDash eqExact
  rw [e1, e1']
  rcases x1 with _ | _ | _
  · exact ⟨g1, rfl⟩
  · dsimp only
    obtain ⟨x2, m2, n2, i2, g2, e2, e2'⟩ := eat_E g1 i1 kwDoctype eqCi
    rw [e2, e2']
    rcases x2 with _ | _ | _
    · exact ⟨g2, rfl⟩
    · dsimp only
      rw [hp.cdataOk n2.out m2.out g2.out.symm]
      split
      · obtain ⟨x3, m3, n3, i3, g3, e3, e3'⟩ := eat_E g2 i2 kwCdata eqExact
        rw [e3, e3']
        rcases x3 with _ | _ | _
        · exact ⟨g3, rfl⟩
        · exact ⟨((E_badChar g3 o1 o2).map clearComment).map (to _), rfl⟩
        · exact ⟨(g3.map clearTemp).map (to _), rfl⟩
      · exact ⟨((E_badChar g2 o1 o2).map clearComment).map (to _), rfl⟩
    · exact ⟨g2.map (to _), rfl⟩
  · exact ⟨(g1.map clearComment).map (to _), rfl⟩

theorem stepAdn_RE (o1 o2 : Opts) (pol : Pol) (hp : PolE pol) {a b : Mach} (h : E a b) (inp : Str) :
    RE (stepAdn o1 pol a inp) (stepAdn o2 pol b inp) := by
  unfold stepAdn
  obtain ⟨x1, m1, n1, i1, g1, e1, e1'⟩ := eat_E h inp kwPublic eqCi
  rw [e1, e1']
  rcases x1 with _ | _ | _
  · exact ⟨g1, rfl⟩
  · dsimp only
    obtain ⟨x2, m2, n2, i2, g2, e2, e2'⟩ := eat_E g1 i1 kwSystem eqCi
    rw [e2, e2']
    rcases x2 with _ | _ | _
    · exact ⟨g2, rfl⟩
    · -- what is left is the continuation of a `get_char!` state
      obtain ⟨k1, k2, _⟩ := getChar_RdC o1 o2 g2 i2
      exact contChar_RE o1 o2 pol hp k1 k2
    · exact ⟨g2.map (to _), rfl⟩
  · exact ⟨g1.map (to _), rfl⟩

/-! ### one step, whole runs -/

/-- **one step with any two option values on `E`-related machines gives `E`-related results** -/
theorem step_RE (o1 o2 : Opts) (pol : Pol) (hp : PolE pol) {a b : Mach} (h : E a b) (inp : Str) :
    RE (step o1 pol a inp) (step o2 pol b inp) := by
  cases hcr : a.charRef with
  | some cr =>
    rw [step_kind_charRef o1 pol a inp cr hcr,
      step_kind_charRef o2 pol b inp cr (by rw [h.1.charRef]; exact hcr)]
    exact stepCharRef_RE o1 o2 h inp cr
  | none =>
    have hcr' : b.charRef = none := by rw [h.1.charRef]; exact hcr
    -- one arm for both set readers
    have setArm : readKind a.state = .popExcept ∨ readKind a.state = .dataSimd →
        RE (step o1 pol a inp) (step o2 pol b inp) := by
      intro hk
      rw [step_setRead o1 pol a inp hcr hk, step_setRead o2 pol b inp hcr' (by rw [h.1.state]; exact hk),
        h.1.state]
      exact contSet_RE o1 o2 pol hp hk (popExceptFrom_RdS o1 o2 _ (setOf_crlf a.state hk) h inp)
    cases hrk : readKind a.state with
    | getChar =>
      rw [step_getChar o1 pol a inp hcr hrk, step_getChar o2 pol b inp hcr' (by rw [h.1.state]; exact hrk)]
      obtain ⟨k1, k2, _⟩ := getChar_RdC o1 o2 h inp
      exact contChar_RE o1 o2 pol hp k1 k2
    | popExcept => exact setArm (.inl hrk)
    | dataSimd => exact setArm (.inr hrk)
    | peekBav =>
      rw [step_kind_bav o1 pol a inp hcr hrk, step_kind_bav o2 pol b inp hcr' (by rw [h.1.state]; exact hrk)]
      exact stepBav_RE o1 o2 pol hp h inp
    | eatMdo =>
      rw [step_kind_mdo o1 pol a inp hcr hrk, step_kind_mdo o2 pol b inp hcr' (by rw [h.1.state]; exact hrk)]
      exact stepMdo_RE o1 o2 pol hp h inp
    | eatAdn =>
      rw [step_kind_adn o1 pol a inp hcr hrk, step_kind_adn o2 pol b inp hcr' (by rw [h.1.state]; exact hrk)]
      exact stepAdn_RE o1 o2 pol hp h inp

/-- relation between two results of `run` -/
def RunE : RunRes → RunRes → Prop
  | .done a i, .done b j => E a b ∧ i = j
  | .script a i, .script b j => E a b ∧ i = j
  | .indicator a i, .indicator b j => E a b ∧ i = j
  | .panic x, .panic y => x = y
  | .outOfFuel, .outOfFuel => True
  | _, _ => False

theorem run_RunE (o1 o2 : Opts) (pol : Pol) (hp : PolE pol) (fuel : Nat) :
    ∀ {a b : Mach}, E a b → ∀ inp, RunE (run o1 pol fuel a inp) (run o2 pol fuel b inp) := by
  induction fuel with
  | zero => intro a b _ inp; exact True.intro
  | succ n ih =>
    intro a b h inp
    have hs := step_RE o1 o2 pol hp h inp
    unfold run
    generalize step o1 pol a inp = r1 at hs
    generalize step o2 pol b inp = r2 at hs
    cases r1 <;> cases r2 <;> first | exact hs.elim | skip
    · obtain ⟨g1, g2⟩ := hs; subst g2; exact ih g1 _
    · exact hs
    · exact hs
    · exact hs
    · exact hs

theorem feedBom_E {a b : Mach} (h : E a b) (inp : Str) :
    E (feedBom a inp).1 (feedBom b inp).1 ∧ (feedBom b inp).2 = (feedBom a inp).2 := by
  unfold feedBom
  cases inp with
  | nil => exact ⟨h, rfl⟩
  | cons c rest =>
    dsimp only
    rw [h.1.discardBom]
    split
    · exact ⟨h.map (·.setDiscardBom false), rfl⟩
    · exact ⟨h, rfl⟩

theorem feed_RunE (o1 o2 : Opts) (pol : Pol) (hp : PolE pol) {a b : Mach} (h : E a b) (inp chunk : Str) :
    RunE (feed o1 pol a inp chunk) (feed o2 pol b inp chunk) := by
  unfold feed
  dsimp only
  split
  · exact ⟨h, rfl⟩
  · obtain ⟨h1, h2⟩ := feedBom_E h (inp ++ chunk)
    rw [h2, h1.1.fuelFor]
    exact run_RunE o1 o2 pol hp _ h1 _

/-! ### `Tokenizer::end` -/

/-- the `eof_step` table (it never reads `current_char` outside an error message, so `E0` suffices) -/
theorem transEof_E0 (o1 o2 : Opts) {a b : Mach} (h : E0 a b) :
    E0 (transEof o1 a).1 (transEof o2 b).1 ∧ (transEof o1 a).2 = (transEof o2 b).2 := by
  rw [transEof_eq, transEof_eq, h.state]
  exact ⟨runOps_E0 o1 o2 _ h, rfl⟩

theorem eofLoop_E0 (o1 o2 : Opts) (fuel : Nat) : ∀ {a b : Mach}, E0 a b →
    (eofLoop o1 fuel a).map (fun m => noErr m.out) = (eofLoop o2 fuel b).map (fun m => noErr m.out) := by
  induction fuel with
  | zero => intro a b _; rfl
  | succ n ih =>
    intro a b h
    obtain ⟨t1, t2⟩ := transEof_E0 o1 o2 h
    unfold eofLoop
    generalize transEof o1 a = r1 at t1 t2
    generalize transEof o2 b = r2 at t1 t2
    obtain ⟨m1, s1⟩ := r1
    obtain ⟨m2, s2⟩ := r2
    dsimp only at t1 t2
    subst t2
    cases s1 with
    | cont => exact ih t1
    | done => simp only [Except.map]; rw [t1.out]
    | panic e => rfl

/-- one round of the char-ref tokenizer's `end_of_file` (the local `once` of `crEof`) -/
def crEofOnceE (o : Opts) (m : Mach) (inp : Str) (cr : CharRefSt) : CRRes :=
  match cr.state with
  | .begin => .ok (m, inp, cr, .done [])
  | .numeric _ =>
    if !cr.seenDigit then unconsumeNumeric m inp cr
    else finishNumericStatus o (emitErr m "EOF in numeric character reference") inp cr
  | .numericSemicolon =>
    finishNumericStatus o (emitErr m "EOF in numeric character reference") inp cr
  | .named => finishNamed o m inp cr none
  | .bogusName =>
    match cr.nameBuf with
    | none => .error "unconsume_name: unwrap on None"
    | some nb => .ok (m, nb ++ inp, { cr with nameBuf := none }, .done [])
  | .octothorpe =>
    .ok (emitErr m "EOF after '#' in character reference", '#' :: inp, cr, .done [])

def crEofLast : CRRes → Except String (Mach × Str × Str)
  | .error e => .error e
  | .ok (m, inp, _, .done chars) => .ok (m, inp, chars)
  | .ok (m, inp, _, _) => .ok (m, inp, [])

def crEofDrive (o : Opts) : CRRes → Except String (Mach × Str × Str)
  | .error e => .error e
  | .ok (m, inp, _, .done chars) => .ok (m, inp, chars)
  | .ok (m, inp, _, .stuck) => .ok (m, inp, [])
  | .ok (m, inp, cr, .progress) => crEofLast (crEofOnceE o m inp cr)

theorem crEof_eqE (o : Opts) (m : Mach) (inp : Str) (cr : CharRefSt) :
    crEof o m inp cr = crEofDrive o (crEofOnceE o m inp cr) := by
  unfold crEof crEofDrive crEofLast crEofOnceE
  rfl

theorem crEofOnce_ResE (o1 o2 : Opts) {a b : Mach} (h : E a b) (inp : Str) (cr : CharRefSt) :
    ResE (crEofOnceE o1 a inp cr) (crEofOnceE o2 b inp cr) := by
  unfold crEofOnceE unconsumeNumeric
  split <;> (repeat' split) <;>
    first
    | exact ResE.okCR h _ _ _
    | exact ResE.errCR _
    | exact ResE.okCR (E_emitErr h _) _ _ _
    | exact finishNumericStatus_ResE o1 o2 (E_emitErr h _) _ _
    | exact finishNamed_ResE o1 o2 h _ _ _

theorem crEofLast_ResE {r1 r2 : CRRes} (h : ResE r1 r2) : ResE (crEofLast r1) (crEofLast r2) := by
  cases h with
  | err e => exact .err e
  | ok g x =>
    obtain ⟨i, c, s⟩ := x
    cases s <;> exact .ok g _

theorem crEofDrive_ResE (o1 o2 : Opts) {r1 r2 : CRRes} (h : ResE r1 r2) :
    ResE (crEofDrive o1 r1) (crEofDrive o2 r2) := by
  cases h with
  | err e => exact .err e
  | ok g x =>
    obtain ⟨i, c, s⟩ := x
    cases s with
    | stuck => exact .ok g _
    | done chars => exact .ok g _
    | progress => exact crEofLast_ResE (crEofOnce_ResE o1 o2 g _ _)

theorem crEof_ResE (o1 o2 : Opts) {a b : Mach} (h : E a b) (inp : Str) (cr : CharRefSt) :
    ResE (crEof o1 a inp cr) (crEof o2 b inp cr) := by
  rw [crEof_eqE, crEof_eqE]
  exact crEofDrive_ResE o1 o2 (crEofOnce_ResE o1 o2 h inp cr)

/-- the part of `Tokenizer::end` before the final `run`: finish a pending character reference -/
def finishPreE (o : Opts) (m : Mach) : Except String (Mach × Str) :=
  match m.charRef with
  | none => .ok (m, [])
  | some cr =>
    match crEof o m [] cr with
    | .error e => .error e
    | .ok (m, inp, chars) =>
      match processCharRef (m.setCharRef none) chars with
      | (m, .cont) => .ok (m, inp)
      | (_, .panic e) => .error e
      | (_, _) => .error "process_char_ref: unexpected signal"

/-- the final `run` and the `eof_step` loop -/
def finishPost (o : Opts) (pol : Pol) (mi : Mach × Str) : Except String Mach :=
  let m := mi.1.setAtEof true
  match run o pol (fuelFor m mi.2) m mi.2 with
  | .done m inp =>
    if !inp.isEmpty then .error "assertion failed: input.is_empty()" else
    eofLoop o 8 m
  | .script _ _ | .indicator _ _ =>
    .error "assertion failed: matches!(self.run(&input), TokenizerResult::Done)"
  | .panic e => .error e
  | .outOfFuel => .error "run out of fuel"

theorem finish_eqE (o : Opts) (pol : Pol) (m : Mach) :
    finish o pol m = match finishPreE o m with
      | .error e => .error e
      | .ok mi => finishPost o pol mi := by
  unfold finish finishPreE finishPost
  cases m.charRef with
  | none => rfl
  | some cr =>
    dsimp only
    cases crEof o m [] cr with
    | error e => rfl
    | ok v =>
      obtain ⟨m1, i1, ch⟩ := v
      dsimp only
      generalize processCharRef (m1.setCharRef none) ch = p
      obtain ⟨p1, p2⟩ := p
      cases p2 <;> rfl

theorem finishPre_ResE (o1 o2 : Opts) {a b : Mach} (h : E a b) :
    ResE (finishPreE o1 a) (finishPreE o2 b) := by
  unfold finishPreE
  rw [h.1.charRef]
  cases a.charRef with
  | none => exact .ok h _
  | some cr =>
    dsimp only
    have hc := crEof_ResE o1 o2 h [] cr
    generalize crEof o1 a [] cr = r1 at hc
    generalize crEof o2 b [] cr = r2 at hc
    cases hc with
    | err e => exact .err e
    | ok g1 x =>
      obtain ⟨i1, ch1⟩ := x
      dsimp only
      obtain ⟨p1, p2⟩ := processCharRef_E (g1.map (·.setCharRef none)) ch1
      generalize processCharRef (Mach.setCharRef _ none) ch1 = q1 at p1 p2
      generalize processCharRef (Mach.setCharRef _ none) ch1 = q2 at p1 p2
      obtain ⟨x1, s1⟩ := q1
      obtain ⟨x2, s2⟩ := q2
      dsimp only at p1 p2
      subst p2
      cases s1 with
      | cont => exact .ok p1 _
      | panic e => exact .err _
      | script => exact .err _
      | indicator => exact .err _

theorem finishPost_E (o1 o2 : Opts) (pol : Pol) (hp : PolE pol) {a b : Mach} (h : E a b) (inp : Str) :
    (finishPost o1 pol (a, inp)).map (fun m => noErr m.out) =
    (finishPost o2 pol (b, inp)).map (fun m => noErr m.out) := by
  unfold finishPost
  dsimp only
  have h1 := h.map (·.setAtEof true)
  rw [h1.1.fuelFor]
  have hr := run_RunE o1 o2 pol hp (H5V.Model.HtmlTok.fuelFor (a.setAtEof true) inp) h1 inp
  generalize run o1 pol _ (a.setAtEof true) inp = r1 at hr
  generalize run o2 pol _ (b.setAtEof true) inp = r2 at hr
  cases r1 <;> cases r2 <;> first | exact hr.elim | skip
  · obtain ⟨g1, g2⟩ := hr
    subst g2
    dsimp only
    split
    · rfl
    · exact eofLoop_E0 o1 o2 8 g1.1
  · rfl
  · rfl
  · have : _ = _ := hr
    subst this; rfl
  · rfl

/-- **`Tokenizer::end` on `E`-related machines with any two option values: same failure, or success
with the same tokens up to parse errors** -/
theorem finish_E (o1 o2 : Opts) (pol : Pol) (hp : PolE pol) {a b : Mach} (h : E a b) :
    (finish o1 pol a).map (fun m => noErr m.out) = (finish o2 pol b).map (fun m => noErr m.out) := by
  rw [finish_eqE, finish_eqE]
  have hpre := finishPre_ResE o1 o2 h
  generalize finishPreE o1 a = r1 at hpre
  generalize finishPreE o2 b = r2 at hpre
  cases hpre with
  | err e => rfl
  | ok g1 i1 => exact finishPost_E o1 o2 pol hp g1 i1

end H5V.Model.HtmlTok
