import H5V.Lemmas.HtmlTBModesDefs
/-!
Simulation lemmas for the stack-popping and query primitives of `H5V.Model.HtmlTB` (`Actions.lean`)
against the helpers of `H5V.Spec.TreeModes` (section `Helpers` of `TreeModes1`, `clearBackToTable*` /
`closeCell` of `TreeModes3`, `bodyEndCheck` / `removeFromStack` / "any other end tag" of `TreeModes2`).

Two transports do the work: `Tr.of_pops` (a phase-1 `PopsTo` result is a stretch whose abstract state
is the old one with the stack replaced) and `pc_query_spec` (a phase-1 `QueryQ` result is a stretch that
leaves the abstract state alone and whose answer is the specification's).
-/
namespace H5V.Lemmas.HtmlTBModes
open H5V.Model.HtmlTB
open H5V.Model.Dom (Id SinkOp Output Dom QualName Attr NodeOrText ElementFlags NodeData QuirksMode)
open H5V.Lemmas.HtmlTBAlgo
open H5V.Lemmas.TBSafe (TI HInv SInv Rooted)
open H5V.Spec.TreeAlgo2 (Elem Entry PState Ctx Edit Place)
open H5V.Spec.TreeModes (STok ETok IMode Config Out TokSwitch XOp Op Step Edition)
open H5V.Lemmas.HtmlTBSpec (toName)

/-- the stack of a live abstract state -/
theorem absF_stack {s : State} {x : Aux} (hx : AuxOk s x) : (absF s x).p.stack = absStack s.dom s.openElems := by
  simp only [absF, absP, hx.live, Bool.false_eq_true, if_false]

theorem absF_list (s : State) (x : Aux) : (absF s x).p.list = absListE s.activeFormatting := rfl

/-- the abstract state after the stack and the list changed -/
theorem absF_of_sameButSL {s s' : State} {x : Aux} (hm : MInv s) (hx : AuxOk s x) (hf : SameButSL s s')
    (he : TBSafe.Ext s.dom s'.dom) (ho : ∀ h ∈ s'.openElems, h ∈ s.openElems) :
    absF s' x = ((absF s x).setStack (absStack s.dom s'.openElems)).setList (absListE s'.activeFormatting) := by
  have e1 : absStack s'.dom s'.openElems = absStack s.dom s'.openElems :=
    absStack_ext (fun h hh => hm.elems h (ho h hh)) he
  have e2 : s'.headElem.map (elemOf s'.dom) = s.headElem.map (elemOf s.dom) := by
    rw [hf.headElem]; exact headPointer_ext hm he
  simp only [absF, absP, e1, e2, hf.mode, hf.origMode, hf.templateModes, hf.pendingTableText, hf.quirksMode,
    hf.formElem, hf.framesetOk, hf.ignoreLf, hf.fosterParenting, hx.live, Bool.false_eq_true, if_false,
    Spec.TreeModes.State.setStack, Spec.TreeModes.State.setList]

/-- **transport (a), general form**: a stretch in which the stack and the list of active formatting
elements shrank and no call was made that the specification sees -/
theorem Tr.of_shrink {s s' : State} {calls : List Call} (hm : MInv s) (hf : SameButSL s s')
    (he : Ext2 s calls s') (hc : edits calls = [])
    (ho : ∀ h ∈ s'.openElems, h ∈ s.openElems)
    (hhead : ∀ h0, s'.openElems.head? = some h0 → s.openElems.head? = some h0)
    (haf : ∀ e ∈ s'.activeFormatting, e ∈ s.activeFormatting) :
    Tr s s' calls (fun x x' => x' = x ∧
      absF s' x = ((absF s x).setStack (absStack s.dom s'.openElems)).setList (absListE s'.activeFormatting)) := by
  refine ⟨hm.of_shrink hf he.ext ho hhead haf, cfgOf_of_sameButSL hm hf he.ext, he.ext, [], FreshIds.nil _, fun x rest hx hs =>
    ⟨x, ⟨⟨hx.live, ?_, fun a ha => isElement_ext he.ext (hx.annotEl a ha), hx.xlog⟩, by simpa using hs, rfl, rfl, rfl,
      [], by simp, fun _ _ => ?_⟩, rfl, absF_of_sameButSL hm hx hf he.ext ho⟩⟩
  · intro h hh hn
    rw [nameOf_ext he.ext (hm.elems h (ho h hh))] at hn
    rw [hx.annot h (ho h hh) hn, ipOfDom_ext he.ext (hm.elems h (ho h hh))]
  · rw [← edits2_edits, hc]; rfl

/-- **transport (a)**: a stretch in which the stack shrank to a prefix (`StackOnly`, no edit) -/
theorem Tr.of_prefix {s s' : State} {calls : List Call} (hm : MInv s) (hso : StackOnly s s')
    (hp : s'.openElems <+: s.openElems) (he : Ext2 s calls s') (hc : edits calls = []) :
    Tr s s' calls (fun x x' => x' = x ∧ absF s' x = (absF s x).setStack (absStack s.dom s'.openElems)) := by
  have haf := hso.activeFormatting
  refine (Tr.of_shrink hm (SameButSL.of_stackOnly hso) he hc (fun h hh => hp.subset hh) (head?_of_prefix hp)
    (fun e h => haf ▸ h)).conseq ?_
  rintro x x' _ _ ⟨rfl, e⟩
  refine ⟨rfl, ?_⟩
  rw [e, haf]
  rfl

/-- **transport (a)** for a phase-1 `PopsTo` result: the new abstract state is the old one with `f`
applied to the stack -/
theorem Tr.of_pops {s s' : State} {calls : List Call} {f : List (Elem Id) → List (Elem Id)} (hm : MInv s)
    (h : PopsTo s f s' calls) (he : Ext2 s calls s') :
    Tr s s' calls (fun x x' => x' = x ∧ absF s' x = (absF s x).setStack (f (absF s x).p.stack)) := by
  obtain ⟨hso, hp, hab, hc⟩ := h
  refine (Tr.of_prefix hm hso hp he hc).conseq ?_
  rintro x x' hx _ ⟨rfl, e⟩
  refine ⟨rfl, ?_⟩
  rw [e, hab, absF_stack hx]

/-- a `PopsTo` triple of phase 1 as a `PC` triple over the abstract state -/
theorem pc_of_pops {α : Type} {m : M α} {s : State} {f : List (Elem Id) → List (Elem Id)} (hm : MInv s)
    (h : Tot m s (fun _ s' calls => PopsTo s f s' calls)) :
    PC m s (fun _ s' calls => Tr s s' calls (fun x x' => x' = x ∧
      absF s' x = (absF s x).setStack (f (absF s x).p.stack))) :=
  pc_conseq (PC.of_tot h) fun _ _ _ he hp => Tr.of_pops hm hp he

/-! ### queries -/

/-- **transport (b)**: a query of phase 1 leaves the abstract state alone -/
theorem pc_of_query {α : Type} {q : M α} {s : State} {v : α} (hm : MInv s) (h : Tot q s (QueryQ s v)) :
    PC q s (fun b s' calls => b = v ∧ Tr s s' calls (fun x x' => x' = x ∧ absF s x = absF s' x)) :=
  pc_conseq (PC.of_tot h) fun _ _ _ he ⟨ha, hs, hc⟩ =>
    ⟨ha, Tr.of_same hm hs he (by rw [← edits2_edits, hc]; rfl)⟩

/-- **transport (b)**, with the answer as a function `g` of the abstract state -/
theorem pc_query_spec {α : Type} {q : M α} {s : State} {v : α} (hm : MInv s) (h : Tot q s (QueryQ s v))
    (g : SState → α) (hg : ∀ x, AuxOk s x → g (absF s x) = v) :
    PC q s (fun b s' calls => Tr s s' calls (fun x x' => x' = x ∧ absF s x = absF s' x ∧ b = g (absF s x))) :=
  pc_conseq (pc_of_query hm h) fun b _ _ _ ⟨hb, htr⟩ =>
    htr.conseq fun x _ hx _ ⟨h1, h2⟩ => ⟨h1, h2, by rw [hg x hx]; exact hb⟩


/-! ### the stack of the abstract state -/

theorem absStack_getLast? (d : Dom) (l : List Id) : (absStack d l).getLast? = l.getLast?.map (elemOf d) := by
  unfold absStack; rw [List.getLast?_map]

theorem absStack_dropLast (d : Dom) (l : List Id) : absStack d l.dropLast = (absStack d l).dropLast := by
  unfold absStack; rw [List.map_dropLast]

/-- the current node of a live abstract state -/
theorem absF_cur {s : State} {x : Aux} (hx : AuxOk s x) :
    (absF s x).cur = s.openElems.getLast?.map (elemOf s.dom) := by
  unfold Spec.TreeModes.State.cur
  rw [absF_stack hx, absStack_getLast?]

/-- the element types of a live abstract state, current node first -/
theorem absF_names {s : State} {x : Aux} (hx : AuxOk s x) :
    (absF s x).names = namesRev (absStack s.dom s.openElems) := by
  unfold Spec.TreeModes.State.names namesRev
  rw [absF_stack hx]

/-- with the edition of `cfgOf`, the scope lists are those of `Spec.TreeAlgo` (2025 text: `select` is
in the default list) -/
theorem scopeList_cfgOf (s : State) (base : Spec.TreeAlgo.Name → Bool) :
    Spec.TreeModes.scopeList (cfgOf s) base = base := rfl

/-! ### the current node -/

/-- `current_node()` — `State.cur` -/
theorem pc_currentNode {s : State} (hm : MInv s) :
    PC currentNode s (fun h s' calls => s.openElems.getLast? = some h ∧ s' = s ∧ calls = [] ∧
      Tr s s' calls (fun x x' => x' = x ∧ absF s x = absF s' x ∧ (absF s x).cur = some (elemOf s.dom h))) := by
  cases hl : s.openElems.getLast? with
  | none => exact pc_currentNode_empty hl
  | some h0 =>
    refine pc_conseq (PC.of_tot (pop_tot_currentNode_eq hl)) ?_
    rintro a s' calls he ⟨rfl, rfl, rfl⟩
    refine ⟨rfl, rfl, rfl, (Tr.refl hm).conseq ?_⟩
    rintro x x' hx _ rfl
    exact ⟨rfl, rfl, by rw [absF_cur hx, hl]; rfl⟩

/-- `current_node_in(set)` — `State.curIn l` (for a set that is the list `l` of HTML element types) -/
theorem pc_currentNodeIn {s : State} (hm : MInv s) (set : EName → Bool) (l : List String)
    (hset : ∀ n, set n = Spec.TreeAlgo.inHtml l (toName n)) :
    PC (currentNodeIn set) s (fun b s' calls =>
      Tr s s' calls (fun x x' => x' = x ∧ absF s x = absF s' x ∧ b = (absF s x).curIn l)) := by
  cases hl : s.openElems.getLast? with
  | none => unfold currentNodeIn; exact pc_bind (pc_currentNode_empty hl)
  | some h0 =>
    refine pc_query_spec hm (pop_tot_currentNodeIn hl set) (fun σ => σ.curIn l) ?_
    intro x hx
    show (absF s x).curIn l = set (nameOf s.dom h0)
    unfold Spec.TreeModes.State.curIn
    rw [absF_cur hx, hl, hset]
    rfl

/-- `current_node_in(heading_tag)` — `State.curIn TreeTables.heading` -/
theorem pc_currentNodeIn_heading {s : State} (hm : MInv s) :
    PC (currentNodeIn headingTag) s (fun b s' calls =>
      Tr s s' calls (fun x x' => x' = x ∧ absF s x = absF s' x ∧ b = (absF s x).curIn Spec.TreeTables.heading)) :=
  pc_currentNodeIn hm headingTag _ fun _ => rfl

/-- `current_node_in(table_outer)` of `process_chars_in_table` —
`State.curIn ["table", "tbody", "template", "tfoot", "thead", "tr"]` -/
theorem pc_currentNodeIn_tableOuterChars {s : State} (hm : MInv s) :
    PC (currentNodeIn tableOuterChars) s (fun b s' calls =>
      Tr s s' calls (fun x x' => x' = x ∧ absF s x = absF s' x ∧
        b = (absF s x).curIn ["table", "tbody", "template", "tfoot", "thead", "tr"])) :=
  pc_currentNodeIn hm tableOuterChars _ fun _ => rfl

/-- `current_node_named(name)` (a `Str`) — `σ.cur.any fun e => isNamed name e.name` -/
theorem pc_currentNodeNamedS {s : State} (hm : MInv s) (name : Str) :
    PC (currentNodeNamedS name) s (fun b s' calls =>
      Tr s s' calls (fun x x' => x' = x ∧ absF s x = absF s' x ∧
        b = (absF s x).cur.any (fun e => Spec.TreeModes.isNamed name e.name))) := by
  cases hl : s.openElems.getLast? with
  | none => unfold currentNodeNamedS; exact pc_bind (pc_currentNode_empty hl)
  | some h0 =>
    have ht : Tot (currentNodeNamedS name) s
        (QueryQ s ((nameOf s.dom h0).ns == nsHtml && (nameOf s.dom h0).loc == name)) := by
      unfold currentNodeNamedS
      refine tot_query_bind (pop_tot_currentNode hl) fun s1 c1 he1 hs1 hc1 => ?_
      refine tot_conseq (tot_htmlElemNamedS s1 h0 name) fun b s2 c2 _ ⟨h1, h2, h3⟩ => ⟨?_, hs1.trans h2, by simp [edits_append, hc1, h3]⟩
      rw [h1, nameOf_stable he1.stable (hm.elems h0 (List.mem_of_getLast? hl))]
    refine pc_query_spec hm ht (fun σ => σ.cur.any (fun e => Spec.TreeModes.isNamed name e.name)) ?_
    intro x hx
    show (absF s x).cur.any _ = _
    rw [absF_cur hx, hl]
    rfl

/-- `current_node_named(name)` — `State.curIs name` -/
theorem pc_currentNodeNamed {s : State} (hm : MInv s) (name : String) :
    PC (currentNodeNamed name) s (fun b s' calls =>
      Tr s s' calls (fun x x' => x' = x ∧ absF s x = absF s' x ∧ b = (absF s x).curIs name)) :=
  pc_currentNodeNamedS hm name.toList

/-! ### `pop` -/

/-- `pop` — `State.pop`; on the empty stack the model panics -/
theorem pc_pop {s : State} (hm : MInv s) :
    PC pop s (fun h s' calls => s.openElems.getLast? = some h ∧ s'.openElems = s.openElems.dropLast ∧
      StackOnly s s' ∧
      Tr s s' calls (fun x x' => x' = x ∧ absF s' x = (absF s x).pop ∧ (absF s x).cur = some (elemOf s.dom h))) := by
  cases hl : s.openElems.getLast? with
  | none =>
    unfold pop
    refine pc_getS_bind ?_
    simp only [hl]
    exact pc_panicAt
  | some h0 =>
    refine pc_conseq (PC.of_tot (pop_tot_pop hl)) ?_
    rintro a s' calls he ⟨rfl, hso, hst, hc⟩
    refine ⟨rfl, hst, hso, (Tr.of_prefix hm hso (hst ▸ List.dropLast_prefix _) he hc).conseq ?_⟩
    rintro x x' hx _ ⟨rfl, e⟩
    refine ⟨rfl, ?_, by rw [absF_cur hx, hl]; rfl⟩
    rw [e, hst, absStack_dropLast, ← absF_stack hx]
    rfl

/-! ### "is there a … element on the stack", scopes -/

/-- `in_html_elem_named(name)` — `σ.p.stack.any fun e => e.name.isHtml name` -/
theorem pc_inHtmlElemNamed {s : State} (hm : MInv s) (name : String) :
    PC (inHtmlElemNamed name) s (fun b s' calls =>
      Tr s s' calls (fun x x' => x' = x ∧ absF s x = absF s' x ∧
        b = (absF s x).p.stack.any (fun e => e.name.isHtml name))) := by
  refine pc_query_spec hm (pop_tot_inHtmlElemNamed s hm.elems name) (fun σ => σ.p.stack.any (fun e => e.name.isHtml name)) ?_
  intro x hx
  show (absF s x).p.stack.any _ = _
  rw [absF_stack hx]

/-- `in_html_elem_named("template")` — `State.templateOnStack` -/
theorem pc_inHtmlElemNamed_template {s : State} (hm : MInv s) :
    PC (inHtmlElemNamed "template") s (fun b s' calls =>
      Tr s s' calls (fun x x' => x' = x ∧ absF s x = absF s' x ∧ b = (absF s x).templateOnStack)) :=
  pc_inHtmlElemNamed hm "template"

/-- `in_scope_named(default_scope, name)` — `hasStrInScope` -/
theorem pc_inScopeNamedS_default {s : State} (hm : MInv s) (name : Str) :
    PC (inScopeNamedS defaultScope name) s (fun b s' calls =>
      Tr s s' calls (fun x x' => x' = x ∧ absF s x = absF s' x ∧
        b = Spec.TreeModes.hasStrInScope (cfgOf s) (absF s x) name)) := by
  refine pc_query_spec hm (tot_inScopeNamedS_default s hm.elems name) (fun σ => Spec.TreeModes.hasStrInScope (cfgOf s) σ name) ?_
  intro x hx
  show Spec.TreeModes.hasStrInScope (cfgOf s) (absF s x) name = _
  unfold Spec.TreeModes.hasStrInScope
  rw [absF_names hx]
  rfl

/-- `in_scope_named(default_scope, name)` — `hasInScope` -/
theorem pc_inScopeNamed_default {s : State} (hm : MInv s) (name : String) :
    PC (inScopeNamed defaultScope name) s (fun b s' calls =>
      Tr s s' calls (fun x x' => x' = x ∧ absF s x = absF s' x ∧
        b = Spec.TreeModes.hasInScope (cfgOf s) (absF s x) name)) :=
  pc_inScopeNamedS_default hm name.toList

/-- `in_scope_named(list_item_scope, name)` — `hasInListItemScope` (for a `Str`) -/
theorem pc_inScopeNamedS_listItem {s : State} (hm : MInv s) (name : Str) :
    PC (inScopeNamedS listItemScope name) s (fun b s' calls =>
      Tr s s' calls (fun x x' => x' = x ∧ absF s x = absF s' x ∧
        b = Spec.TreeAlgo.hasInScope (Spec.TreeModes.isNamed name)
          (Spec.TreeModes.scopeList (cfgOf s) Spec.TreeAlgo.listItemScopeList) (absF s x).names)) := by
  refine pc_query_spec hm (tot_inScopeNamedS_listItem s hm.elems name)
    (fun σ => Spec.TreeAlgo.hasInScope (Spec.TreeModes.isNamed name)
      (Spec.TreeModes.scopeList (cfgOf s) Spec.TreeAlgo.listItemScopeList) σ.names) ?_
  intro x hx
  show Spec.TreeAlgo.hasInScope _ _ (absF s x).names = _
  rw [absF_names hx]
  rfl

/-- `in_scope_named(list_item_scope, name)` — `hasInListItemScope` -/
theorem pc_inScopeNamed_listItem {s : State} (hm : MInv s) (name : String) :
    PC (inScopeNamed listItemScope name) s (fun b s' calls =>
      Tr s s' calls (fun x x' => x' = x ∧ absF s x = absF s' x ∧
        b = Spec.TreeModes.hasInListItemScope (cfgOf s) (absF s x) name)) :=
  pc_inScopeNamedS_listItem hm name.toList

/-- `in_scope_named(button_scope, name)` — `hasInButtonScope` (for a `Str`) -/
theorem pc_inScopeNamedS_button {s : State} (hm : MInv s) (name : Str) :
    PC (inScopeNamedS buttonScope name) s (fun b s' calls =>
      Tr s s' calls (fun x x' => x' = x ∧ absF s x = absF s' x ∧
        b = Spec.TreeAlgo.hasInScope (Spec.TreeModes.isNamed name)
          (Spec.TreeModes.scopeList (cfgOf s) Spec.TreeAlgo.buttonScopeList) (absF s x).names)) := by
  refine pc_query_spec hm (tot_inScopeNamedS_button s hm.elems name)
    (fun σ => Spec.TreeAlgo.hasInScope (Spec.TreeModes.isNamed name)
      (Spec.TreeModes.scopeList (cfgOf s) Spec.TreeAlgo.buttonScopeList) σ.names) ?_
  intro x hx
  show Spec.TreeAlgo.hasInScope _ _ (absF s x).names = _
  rw [absF_names hx]
  rfl

/-- `in_scope_named(button_scope, name)` — `hasInButtonScope` -/
theorem pc_inScopeNamed_button {s : State} (hm : MInv s) (name : String) :
    PC (inScopeNamed buttonScope name) s (fun b s' calls =>
      Tr s s' calls (fun x x' => x' = x ∧ absF s x = absF s' x ∧
        b = Spec.TreeModes.hasInButtonScope (cfgOf s) (absF s x) name)) :=
  pc_inScopeNamedS_button hm name.toList

/-- `in_scope_named(table_scope, name)` — `hasStrInTableScope` -/
theorem pc_inScopeNamedS_table {s : State} (hm : MInv s) (name : Str) :
    PC (inScopeNamedS tableScope name) s (fun b s' calls =>
      Tr s s' calls (fun x x' => x' = x ∧ absF s x = absF s' x ∧
        b = Spec.TreeModes.hasStrInTableScope (absF s x) name)) := by
  refine pc_query_spec hm (tot_inScopeNamedS_table s hm.elems name) (fun σ => Spec.TreeModes.hasStrInTableScope σ name) ?_
  intro x hx
  show Spec.TreeModes.hasStrInTableScope (absF s x) name = _
  unfold Spec.TreeModes.hasStrInTableScope
  rw [absF_names hx]

/-- `in_scope_named(table_scope, name)` — `hasInTableScope` -/
theorem pc_inScopeNamed_table {s : State} (hm : MInv s) (name : String) :
    PC (inScopeNamed tableScope name) s (fun b s' calls =>
      Tr s s' calls (fun x x' => x' = x ∧ absF s x = absF s' x ∧
        b = Spec.TreeModes.hasInTableScope (absF s x) name)) :=
  pc_inScopeNamedS_table hm name.toList


/-! ### `in_scope(scope, pred)` for a predicate on the handle and its element type -/

/-- the loop of `in_scope` as a function of the names: `pv h n` = the predicate for the handle `h`
whose element type is `n`; the list has the current node first -/
def scopePure (pv : Id → EName → Bool) (scope : EName → Bool) (nm : Id → EName) : List Id → Bool
  | [] => false
  | h :: r => if pv h (nm h) then true else if scope (nm h) then false else scopePure pv scope nm r

theorem tot_inScopeLoop_gen (scope : EName → Bool) (pred : Id → M Bool) (pv : Id → EName → Bool) (nm : Id → EName)
    (hpred : ∀ h (s : State), s.dom.isElement h = true → nameOf s.dom h = nm h →
      Tot (pred h) s (QueryQ s (pv h (nm h)))) :
    ∀ (r : List Id) (s : State), NamedBy s.dom r nm →
      Tot (inScopeLoop scope pred r) s (QueryQ s (scopePure pv scope nm r)) := by
  intro r
  induction r with
  | nil => intro s _; exact tot_pure ⟨rfl, rfl, rfl⟩
  | cons h r ih =>
    intro s hn
    simp only [inScopeLoop, scopePure]
    have hh := hn h (List.mem_cons_self ..)
    refine tot_query_bind (hpred h s hh.1 hh.2) fun s1 c1 he1 hs1 hc1 => ?_
    by_cases hp : pv h (nm h) = true
    · simp only [hp, if_true]
      exact tot_pure ⟨rfl, hs1, by simp [hc1]⟩
    · simp only [hp, Bool.false_eq_true, if_false]
      have hn1 := hn.stable he1.stable
      refine tot_query_bind (tot_elemName' s1 h) fun s2 c2 he2 hs2 hc2 => ?_
      rw [(hn1 h (List.mem_cons_self ..)).2]
      by_cases hsc : scope (nm h) = true
      · simp only [hsc, if_true]
        exact tot_pure ⟨rfl, hs1.trans hs2, by simp [edits_append, hc1, hc2]⟩
      · simp only [hsc, Bool.false_eq_true, if_false]
        refine tot_conseq (ih s2 (hn1.tail.stable he2.stable)) fun _ s3 c3 _ ⟨h1, h2, h3⟩ =>
          ⟨h1, hs1.trans (hs2.trans h2), by simp [edits_append, hc1, hc2, h3]⟩

theorem tot_inScope_gen (s : State) (hok : ElemsOk s.dom s.openElems) (scope : EName → Bool) (pred : Id → M Bool)
    (pv : Id → EName → Bool)
    (hpred : ∀ h (s1 : State), s1.dom.isElement h = true → nameOf s1.dom h = nameOf s.dom h →
      Tot (pred h) s1 (QueryQ s1 (pv h (nameOf s.dom h)))) :
    Tot (inScope scope pred) s (QueryQ s (scopePure pv scope (nameOf s.dom) s.openElems.reverse)) := by
  unfold inScope
  refine tot_getS_bind ?_
  exact tot_inScopeLoop_gen scope pred pv (nameOf s.dom) hpred s.openElems.reverse s (NamedBy.of_elemsOk hok).reverse

theorem scopePure_set (d : Dom) (set scope : EName → Bool) (tq q : Spec.TreeAlgo.Name → Bool)
    (hset : ∀ n, set n = tq (toName n)) (hq : ∀ n, scope n = q (toName n)) : ∀ r : List Id,
    scopePure (fun _ n => set n) scope (nameOf d) r
      = Spec.TreeAlgo.hasInScope tq q (r.map fun h => toName (nameOf d h))
  | [] => rfl
  | h :: r => by
    simp only [scopePure, List.map_cons, Spec.TreeAlgo.hasInScope]
    rw [← scopePure_set d set scope tq q hset hq r]
    have e1 := hset (nameOf d h)
    have e2 := hq (nameOf d h)
    simp only [e1, e2]

theorem scopePure_node (d : Dom) (node : Id) (scope : EName → Bool) (q : Spec.TreeAlgo.Name → Bool)
    (hq : ∀ n, scope n = q (toName n)) : ∀ r : List Id,
    scopePure (fun h _ => node == h) scope (nameOf d) r
      = Spec.TreeAlgo2.hasNodeInScope node q (absStack d r)
  | [] => rfl
  | h :: r => by
    have e0 : (elemOf d h).id = h := rfl
    have e1 : (elemOf d h).name = toName (nameOf d h) := rfl
    simp only [scopePure, absStack, List.map_cons, Spec.TreeAlgo2.hasNodeInScope, e0, e1, hq]
    rw [show List.map (elemOf d) r = absStack d r from rfl, ← scopePure_node d node scope q hq r]
    by_cases hx : node = h
    · subst hx; simp
    · have hx' : ¬ h = node := fun e => hx e.symm
      have : (node == h) = false := by simpa using hx
      simp only [this, hx', Bool.false_eq_true, if_false]

theorem namesRev_absStack (d : Dom) (l : List Id) :
    namesRev (absStack d l) = l.reverse.map fun h => toName (nameOf d h) := by
  unfold namesRev absStack; rw [← List.map_reverse, List.map_map]; rfl

/-- `in_scope(scope, |n| elem_in(n, set))` — `TreeAlgo.hasInScope (inHtml l) q names` (`q`: the scope list, `l`:
the list of HTML element types that is `set`) -/
theorem pc_inScope_elemIn {s : State} (hm : MInv s) (scope : EName → Bool) (q : Spec.TreeAlgo.Name → Bool)
    (hq : ∀ n, scope n = q (toName n)) (set : EName → Bool) (l : List String)
    (hset : ∀ n, set n = Spec.TreeAlgo.inHtml l (toName n)) :
    PC (inScope scope (fun n => elemIn n set)) s (fun b s' calls =>
      Tr s s' calls (fun x x' => x' = x ∧ absF s x = absF s' x ∧
        b = Spec.TreeAlgo.hasInScope (Spec.TreeAlgo.inHtml l) q (absF s x).names)) := by
  have ht := tot_inScope_gen s hm.elems scope (fun n => elemIn n set) (fun _ n => set n) (by
    intro h s1 _ hn
    have := tot_elemIn s1 h set
    rw [hn] at this
    exact this)
  refine pc_query_spec hm ht (fun σ => Spec.TreeAlgo.hasInScope (Spec.TreeAlgo.inHtml l) q σ.names) ?_
  intro x hx
  show Spec.TreeAlgo.hasInScope _ _ (absF s x).names = _
  rw [absF_names hx, namesRev_absStack, scopePure_set s.dom set scope _ q hset hq]

/-- `in_scope(default_scope, |n| elem_in(n, heading_tag))` — `hasAnyInScope cfg σ TreeTables.heading` -/
theorem pc_inScope_default_heading {s : State} (hm : MInv s) :
    PC (inScope defaultScope (fun n => elemIn n headingTag)) s (fun b s' calls =>
      Tr s s' calls (fun x x' => x' = x ∧ absF s x = absF s' x ∧
        b = Spec.TreeModes.hasAnyInScope (cfgOf s) (absF s x) Spec.TreeTables.heading)) :=
  pc_inScope_elemIn hm defaultScope _ (fun n => (HtmlTBSpec.scope_sets_eq_spec n).1) headingTag _ fun _ => rfl

/-- `in_scope(table_scope, |e| elem_in(e, table_outer))` of "in table body" —
`hasAnyInTableScope σ ["tbody", "thead", "tfoot"]` -/
theorem pc_inScope_table_tableOuterBody {s : State} (hm : MInv s) :
    PC (inScope tableScope (fun n => elemIn n tableOuterBody)) s (fun b s' calls =>
      Tr s s' calls (fun x x' => x' = x ∧ absF s x = absF s' x ∧
        b = Spec.TreeModes.hasAnyInTableScope (absF s x) ["tbody", "thead", "tfoot"])) :=
  pc_inScope_elemIn hm tableScope _ (fun n => (HtmlTBSpec.scope_sets_eq_spec n).2.2.2) tableOuterBody _ fun _ => rfl

/-- `in_scope(table_scope, |n| elem_in(n, td_th))` — `hasAnyInTableScope σ ["td", "th"]` -/
theorem pc_inScope_table_tdTh {s : State} (hm : MInv s) :
    PC (inScope tableScope (fun n => elemIn n tdTh)) s (fun b s' calls =>
      Tr s s' calls (fun x x' => x' = x ∧ absF s x = absF s' x ∧
        b = Spec.TreeModes.hasAnyInTableScope (absF s x) ["td", "th"])) :=
  pc_inScope_elemIn hm tableScope _ (fun n => (HtmlTBSpec.scope_sets_eq_spec n).2.2.2) tdTh _ fun _ => rfl

/-- `in_scope(default_scope, |n| same_node(node, n))` — `hasNodeInScope cfg σ node` -/
theorem pc_inScope_default_sameNode {s : State} (hm : MInv s) (node : Id) :
    PC (inScope defaultScope (fun n => sameNode node n)) s (fun b s' calls =>
      Tr s s' calls (fun x x' => x' = x ∧ absF s x = absF s' x ∧
        b = Spec.TreeModes.hasNodeInScope (cfgOf s) (absF s x) node)) := by
  have ht := tot_inScope_gen s hm.elems defaultScope (fun n => sameNode node n) (fun h _ => node == h)
    (fun h s1 _ _ => tot_sameNode s1 node h)
  refine pc_query_spec hm ht (fun σ => Spec.TreeModes.hasNodeInScope (cfgOf s) σ node) ?_
  intro x hx
  show Spec.TreeModes.hasNodeInScope (cfgOf s) (absF s x) node = _
  unfold Spec.TreeModes.hasNodeInScope
  rw [absF_stack hx, scopeList_cfgOf, ← pop_absStack_reverse,
    scopePure_node s.dom node defaultScope _ (fun n => (HtmlTBSpec.scope_sets_eq_spec n).1)]

/-- the same with the arguments of `same_node` swapped (adoption agency) -/
theorem pc_inScope_default_sameNode' {s : State} (hm : MInv s) (node : Id) :
    PC (inScope defaultScope (fun n => sameNode n node)) s (fun b s' calls =>
      Tr s s' calls (fun x x' => x' = x ∧ absF s x = absF s' x ∧
        b = Spec.TreeModes.hasNodeInScope (cfgOf s) (absF s x) node)) := by
  refine pc_query_spec hm (tot_inScope_node s node hm.elems) (fun σ => Spec.TreeModes.hasNodeInScope (cfgOf s) σ node) ?_
  intro x hx
  show Spec.TreeModes.hasNodeInScope (cfgOf s) (absF s x) node = _
  unfold Spec.TreeModes.hasNodeInScope
  rw [absF_stack hx, scopeList_cfgOf]


/-! ### parse errors of the specification: absorbed by the `Aux` -/

theorem absF_errors (s : State) (x : Aux) (E : List String) :
    absF s { x with errors := E } = { absF s x with errors := E } := rfl

/-- a helper `H` of the specification that is `F` up to the parse errors it reports -/
theorem Tr.withErrors {s s' : State} {calls : List Call} {F H : SState → SState}
    (hH : ∀ σ, H σ = { F σ with errors := (H σ).errors })
    (h : Tr s s' calls (fun x x' => x' = x ∧ absF s' x = F (absF s x))) :
    Tr s s' calls (fun x x' => x' = { x with errors := (H (absF s x)).errors } ∧ absF s' x' = H (absF s x)) := by
  obtain ⟨hm, hc, he, ids, hfi, f⟩ := h
  refine ⟨hm, hc, he, ids, hfi, fun x rest hx hs => ?_⟩
  obtain ⟨x', l, hxx, e⟩ := f x rest hx hs
  subst x'
  refine ⟨{ x with errors := (H (absF s x)).errors },
    ⟨⟨l.aux.live, l.aux.annot, l.aux.annotEl, l.aux.xlog⟩, l.supply, l.switch, l.script, l.outs, l.log⟩, rfl, ?_⟩
  rw [absF_errors, e, ← hH]

/-! ### implied end tags -/

/-- `generate_implied_end_tags(cursory_implied_end)` — `genImplied` -/
theorem pc_generateImpliedEndTags_cursory {s : State} (hm : MInv s) :
    PC (generateImpliedEndTags cursoryImpliedEnd) s (fun _ s' calls =>
      Tr s s' calls (fun x x' => x' = x ∧ absF s' x = Spec.TreeModes.genImplied (absF s x))) :=
  pc_of_pops hm (tot_generateImpliedEndTags_cursory s hm.elems)

/-- `generate_implied_end_except(name)` — `genImpliedExceptStr` -/
theorem pc_generateImpliedEndExcept {s : State} (hm : MInv s) (name : Str) :
    PC (generateImpliedEndExcept name) s (fun _ s' calls =>
      Tr s s' calls (fun x x' => x' = x ∧ absF s' x = Spec.TreeModes.genImpliedExceptStr (absF s x) name)) :=
  pc_of_pops hm (tot_generateImpliedEndExcept s hm.elems name)

/-- `generate_implied_end_except(name)` for a literal — `genImplied σ (some name)` -/
theorem pc_generateImpliedEndExcept_lit {s : State} (hm : MInv s) (name : String) :
    PC (generateImpliedEndExcept name.toList) s (fun _ s' calls =>
      Tr s s' calls (fun x x' => x' = x ∧ absF s' x = Spec.TreeModes.genImplied (absF s x) (some name))) :=
  pc_of_pops hm (tot_generateImpliedEndExcept s hm.elems name.toList)

/-- `generate_implied_end_tags([cursory_implied_end] - "p")` — `genImplied σ (some "p")` -/
theorem pc_generateImpliedEndTags_exceptP {s : State} (hm : MInv s) :
    PC (generateImpliedEndTags impliedExceptP) s (fun _ s' calls =>
      Tr s s' calls (fun x x' => x' = x ∧ absF s' x = Spec.TreeModes.genImplied (absF s x) (some "p"))) :=
  pc_of_pops hm (tot_generateImpliedEndTags_exceptP s hm.elems)

/-- `generate_implied_end_tags(thorough_implied_end)` — `genAllImpliedThoroughly` -/
theorem pc_generateImpliedEndTags_thorough {s : State} (hm : MInv s) :
    PC (generateImpliedEndTags thoroughImpliedEnd) s (fun _ s' calls =>
      Tr s s' calls (fun x x' => x' = x ∧ absF s' x = Spec.TreeModes.genAllImpliedThoroughly (absF s x))) := by
  refine pc_conseq (PC.of_tot (tot_generateImpliedEndTags_thorough s hm.elems)) ?_
  rintro _ s' calls he ⟨hso, hp, hc, hn⟩
  refine (Tr.of_prefix hm hso hp he hc).conseq ?_
  rintro x x' hx _ ⟨hxx, e⟩
  subst x'
  refine ⟨rfl, ?_⟩
  have hk : (Spec.TreeAlgo.generateAllImpliedEndTagsThoroughly (absF s x).names).length = s'.openElems.length := by
    rw [absF_names hx, ← hn]; simp [namesRev, absStack]
  rw [e]
  unfold Spec.TreeModes.genAllImpliedThoroughly
  simp only [hk]
  rw [absF_stack hx, ← pop_absStack_take, ← List.prefix_iff_eq_take.mp hp]

/-! ### "pop elements until … has been popped" -/

/-- `pop_until(pred)` — `setStack (popUntilPopped (fun e => q e.name) stack)`; the count is `popCount` -/
theorem pc_popUntil {s : State} (hm : MInv s) (pred : EName → Bool) (q : Spec.TreeAlgo.Name → Bool)
    (hq : ∀ n, pred n = q (toName n)) :
    PC (popUntil pred) s (fun k s' calls =>
      Tr s s' calls (fun x x' => x' = x ∧
        absF s' x = (absF s x).setStack (Spec.TreeAlgo2.popUntilPopped (fun e => q e.name) (absF s x).p.stack) ∧
        k = popCount (fun e => q e.name) (absF s x).p.stack)) := by
  refine pc_conseq (PC.of_tot (tot_popUntil s hm.elems pred q hq)) ?_
  rintro k s' calls he ⟨hp, hk⟩
  refine (Tr.of_pops hm hp he).conseq ?_
  rintro x x' hx _ ⟨hxx, e⟩
  exact ⟨hxx, e, by rw [absF_stack hx]; exact hk⟩

/-- `pop_until(heading_tag)` — `popUntilPoppedAny σ TreeTables.heading` -/
theorem pc_popUntil_heading {s : State} (hm : MInv s) :
    PC (popUntil headingTag) s (fun _ s' calls =>
      Tr s s' calls (fun x x' => x' = x ∧
        absF s' x = Spec.TreeModes.popUntilPoppedAny (absF s x) Spec.TreeTables.heading)) :=
  pc_conseq (pc_popUntil hm headingTag (Spec.TreeAlgo.inHtml Spec.TreeTables.heading) fun _ => rfl)
    fun _ _ _ _ h => h.conseq fun _ _ _ _ ⟨h1, h2, _⟩ => ⟨h1, h2⟩

/-- `pop_until(td_th)` — `popUntilPoppedAny σ ["td", "th"]` -/
theorem pc_popUntil_tdTh {s : State} (hm : MInv s) :
    PC (popUntil tdTh) s (fun _ s' calls =>
      Tr s s' calls (fun x x' => x' = x ∧
        absF s' x = Spec.TreeModes.popUntilPoppedAny (absF s x) ["td", "th"])) :=
  pc_conseq (pc_popUntil hm tdTh (Spec.TreeAlgo.inHtml ["td", "th"]) fun _ => rfl)
    fun _ _ _ _ h => h.conseq fun _ _ _ _ ⟨h1, h2, _⟩ => ⟨h1, h2⟩

/-- `pop_until_named(name)` (a `Str`) — `popUntilPoppedStr`; the count is `popCount` -/
theorem pc_popUntilNamedS {s : State} (hm : MInv s) (name : Str) :
    PC (popUntilNamedS name) s (fun k s' calls =>
      Tr s s' calls (fun x x' => x' = x ∧ absF s' x = Spec.TreeModes.popUntilPoppedStr (absF s x) name ∧
        k = popCount (fun e => Spec.TreeModes.isNamed name e.name) (absF s x).p.stack)) := by
  refine pc_conseq (PC.of_tot (tot_popUntilNamedS s hm.elems name)) ?_
  rintro k s' calls he ⟨hp, hk⟩
  refine (Tr.of_pops hm hp he).conseq ?_
  rintro x x' hx _ ⟨hxx, e⟩
  exact ⟨hxx, e, by rw [absF_stack hx]; exact hk⟩

/-- `pop_until_named(name)` — `popUntilPopped σ name` -/
theorem pc_popUntilNamed {s : State} (hm : MInv s) (name : String) :
    PC (popUntilNamed name) s (fun k s' calls =>
      Tr s s' calls (fun x x' => x' = x ∧ absF s' x = Spec.TreeModes.popUntilPopped (absF s x) name ∧
        k = popCount (fun e => e.name.isHtml name) (absF s x).p.stack)) :=
  pc_popUntilNamedS hm name.toList

/-- `expect_to_close(name)` (a `Str`) — `popUntilPoppedStr` (the parse error is the caller's in the
specification) -/
theorem pc_expectToCloseS {s : State} (hm : MInv s) (name : Str) :
    PC (expectToCloseS name) s (fun _ s' calls =>
      Tr s s' calls (fun x x' => x' = x ∧ absF s' x = Spec.TreeModes.popUntilPoppedStr (absF s x) name)) :=
  pc_of_pops hm (tot_expectToCloseS s hm.elems name)

/-- `expect_to_close(name)` — `popUntilPopped σ name` -/
theorem pc_expectToClose {s : State} (hm : MInv s) (name : String) :
    PC (expectToClose name) s (fun _ s' calls =>
      Tr s s' calls (fun x x' => x' = x ∧ absF s' x = Spec.TreeModes.popUntilPopped (absF s x) name)) :=
  pc_expectToCloseS hm name.toList

/-! ### "clear the stack back to a … context" -/

/-- `pop_until_current(set)` panics on the empty stack -/
theorem pc_popUntilCurrent_empty {s : State} (hnil : s.openElems = []) (set : EName → Bool)
    {Q : Unit → State → List Call → Prop} : PC (popUntilCurrent set) s Q := by
  unfold popUntilCurrent
  refine pc_getS_bind ?_
  rw [hnil]
  show PC (popUntilCurrentLoop set (0 + 1)) s Q
  simp only [popUntilCurrentLoop, currentNodeIn]
  exact pc_bind (pc_bind (pc_currentNode_empty (by rw [hnil]; rfl)))

/-- `pop_until_current(set)` for a set that contains `html` — pop while the current node is not in the set -/
theorem pc_popUntilCurrent {s : State} (hm : MInv s) (set : EName → Bool) (q : Spec.TreeAlgo.Name → Bool)
    (hq : ∀ n, set n = q (toName n)) (hroot : set ⟨nsHtml, "html".toList⟩ = true) :
    PC (popUntilCurrent set) s (fun _ s' calls =>
      Tr s s' calls (fun x x' => x' = x ∧
        absF s' x = (absF s x).setStack (((absF s x).p.stack.reverse.dropWhile (fun e => !q e.name)).reverse))) := by
  cases hl : s.openElems with
  | nil => exact pc_popUntilCurrent_empty hl set
  | cons h0 r =>
    have hn := hm.root h0 (by rw [hl]; rfl)
    have hex : (absStack s.dom s.openElems).any (fun e => q e.name) = true := by
      rw [hl]
      simp only [absStack, List.map_cons, List.any_cons, Bool.or_eq_true]
      left
      show q (toName (nameOf s.dom h0)) = true
      rw [← hq, hn]; exact hroot
    exact pc_of_pops hm (tot_popUntilCurrent s hm.elems set q hq hex)

/-- `pop_until_current(table_scope)` — `clearBackToTable` -/
theorem pc_popUntilCurrent_table {s : State} (hm : MInv s) :
    PC (popUntilCurrent tableScope) s (fun _ s' calls =>
      Tr s s' calls (fun x x' => x' = x ∧ absF s' x = Spec.TreeModes.clearBackToTable (absF s x))) :=
  pc_popUntilCurrent hm tableScope _ pop_tableScope_eq (by decide +kernel)

/-- `pop_until_current(table_body_context)` — `clearBackToTableBody` -/
theorem pc_popUntilCurrent_tableBody {s : State} (hm : MInv s) :
    PC (popUntilCurrent tableBodyContext) s (fun _ s' calls =>
      Tr s s' calls (fun x x' => x' = x ∧ absF s' x = Spec.TreeModes.clearBackToTableBody (absF s x))) :=
  pc_popUntilCurrent hm tableBodyContext _ (fun _ => rfl) (by decide +kernel)

/-- `pop_until_current(table_row_context)` — `clearBackToTableRow` -/
theorem pc_popUntilCurrent_tableRow {s : State} (hm : MInv s) :
    PC (popUntilCurrent tableRowContext) s (fun _ s' calls =>
      Tr s s' calls (fun x x' => x' = x ∧ absF s' x = Spec.TreeModes.clearBackToTableRow (absF s x))) :=
  pc_popUntilCurrent hm tableRowContext _ (fun _ => rfl) (by decide +kernel)


/-! ### "close a p element" -/

theorem closeP_eq (σ : SState) :
    Spec.TreeModes.closeP σ = { σ.setStack (Spec.TreeAlgo2.closePElement σ.p.stack) with
      errors := (Spec.TreeModes.closeP σ).errors } := by
  by_cases hc : (Spec.TreeModes.genImplied σ (some "p")).curIs "p" = true
  · simp only [Spec.TreeModes.closeP, hc, ↓reduceIte]
  · simp only [Spec.TreeModes.closeP, hc]; rfl

/-- `close_p_element` — `closeP` (the `Aux` takes the parse error of the specification) -/
theorem pc_closePElement {s : State} (hm : MInv s) :
    PC closePElement s (fun _ s' calls =>
      Tr s s' calls (fun x x' => x' = { x with errors := (Spec.TreeModes.closeP (absF s x)).errors } ∧
        absF s' x' = Spec.TreeModes.closeP (absF s x))) :=
  pc_conseq (pc_of_pops hm (tot_closePElement s hm.elems)) fun _ _ _ _ h => Tr.withErrors closeP_eq h

theorem closePIfInButtonScope_eq (s : State) (σ : SState) :
    Spec.TreeModes.closePIfInButtonScope (cfgOf s) σ
      = { σ.setStack (if Spec.TreeAlgo.hasElementInButtonScope "p".toList (namesRev σ.p.stack)
            then Spec.TreeAlgo2.closePElement σ.p.stack else σ.p.stack) with
          errors := (Spec.TreeModes.closePIfInButtonScope (cfgOf s) σ).errors } := by
  have e : Spec.TreeModes.hasInButtonScope (cfgOf s) σ "p"
      = Spec.TreeAlgo.hasElementInButtonScope "p".toList (namesRev σ.p.stack) := rfl
  unfold Spec.TreeModes.closePIfInButtonScope
  rw [e]
  by_cases hb : Spec.TreeAlgo.hasElementInButtonScope "p".toList (namesRev σ.p.stack) = true
  · simp only [hb, ↓reduceIte]; exact closeP_eq σ
  · simp only [hb]; rfl

/-- `close_p_element_in_button_scope` — `closePIfInButtonScope` -/
theorem pc_closePElementInButtonScope {s : State} (hm : MInv s) :
    PC closePElementInButtonScope s (fun _ s' calls =>
      Tr s s' calls (fun x x' =>
        x' = { x with errors := (Spec.TreeModes.closePIfInButtonScope (cfgOf s) (absF s x)).errors } ∧
        absF s' x' = Spec.TreeModes.closePIfInButtonScope (cfgOf s) (absF s x))) :=
  pc_conseq (pc_of_pops hm (tot_closePElementInButtonScope s hm.elems)) fun _ _ _ _ h =>
    Tr.withErrors (closePIfInButtonScope_eq s) h

/-! ### "close the cell" -/

theorem absEntry_inj : ∀ a b : FormatEntry, absEntry a = absEntry b → a = b
  | .marker, .marker, _ => rfl
  | .marker, .element _ _, h => by cases h
  | .element _ _, .marker, h => by cases h
  | .element _ _, .element _ _, h => by cases h; rfl

theorem clearToMarkerRev_subset : ∀ l : List FormatEntry, ∀ e ∈ clearToMarkerRev l, e ∈ l
  | [], _, h => h
  | .marker :: _, _, h => List.mem_cons_of_mem _ h
  | .element _ _ :: rest, e, h => List.mem_cons_of_mem _ (clearToMarkerRev_subset rest e h)

theorem absListE_eq (af : List FormatEntry) : absListE af = (absList af).map (Entry.mapTok etokOf) := by
  simp only [absListE, absList, List.map_map]
  apply List.map_congr_left
  intro e _
  cases e <;> rfl

/-- `closeCell` without its parse error and its mode switch -/
theorem closeCell_eq (σ : SState) :
    Spec.TreeModes.closeCell σ = { σ with p := Spec.TreeAlgo2.closeTheCell σ.p, mode := .inRow,
                                          errors := (Spec.TreeModes.closeCell σ).errors } := by
  by_cases hc : (Spec.TreeModes.genImplied σ).curIn ["td", "th"] = true
  · simp only [Spec.TreeModes.closeCell, hc, ↓reduceIte]
  · simp only [Spec.TreeModes.closeCell, hc]; rfl

theorem setMode_withMode {σ : SState} {μ : IMode} (h : σ.mode = μ) (m : IMode) :
    Spec.TreeModes.State.setMode { σ with mode := m } μ = σ := by
  subst h; rfl

/-- `close_the_cell` — `closeCell` (the mode switch of the specification is the model's
`Reprocess(InRow, …)`; the `Aux` takes the parse error) -/
theorem pc_closeTheCell {s : State} (hm : MInv s) :
    PC closeTheCell s (fun _ s' calls => s'.mode = s.mode ∧
      Tr s s' calls (fun x x' => x' = { x with errors := (Spec.TreeModes.closeCell (absF s x)).errors } ∧
        (absF s' x').setMode .inRow = Spec.TreeModes.closeCell (absF s x))) := by
  refine pc_conseq (PC.of_tot (tot_closeTheCell s hm.elems [] [])) ?_
  rintro _ s' calls he ⟨hs', hp, hc, heq⟩
  have hf : SameButSL s s' := SameButSL.of_eq hs'
  have hS : absStack s.dom s'.openElems = (Spec.TreeAlgo2.closeTheCell (absState s [] [])).stack := by
    rw [← heq]
  have hL : absList s'.activeFormatting = (Spec.TreeAlgo2.closeTheCell (absState s [] [])).list := by
    rw [← heq]
  have hL' : absList s'.activeFormatting = Spec.TreeAlgo2.clearToLastMarker (absList s.activeFormatting) := hL
  have haf : s'.activeFormatting = (clearToMarkerRev s.activeFormatting.reverse).reverse := by
    rw [← pop_clearToLastMarker_eq] at hL'
    exact (List.map_inj_right absEntry_inj).mp hL'
  refine ⟨hf.mode, ?_⟩
  have htr := Tr.of_shrink hm hf he hc (fun h hh => hp.subset hh) (head?_of_prefix hp) (by
    intro e hmem
    rw [haf] at hmem
    exact List.mem_reverse.mp (clearToMarkerRev_subset _ e (List.mem_reverse.mp hmem)))
  have htr2 : Tr s s' calls (fun x x' => x' = x ∧
      absF s' x = (fun σ : SState => { σ with p := Spec.TreeAlgo2.closeTheCell σ.p }) (absF s x)) := by
    refine htr.conseq ?_
    rintro x x' hx _ ⟨hxx, e⟩
    refine ⟨hxx, ?_⟩
    rw [e, hS, absListE_eq, hL', ← clearToLastMarker_map, ← absListE_eq]
    simp only [Spec.TreeModes.State.setStack, Spec.TreeModes.State.setList, Spec.TreeAlgo2.closeTheCell]
    rw [absF_list, absF_stack hx]
    rfl
  refine (Tr.withErrors (F := fun σ : SState => { σ with p := Spec.TreeAlgo2.closeTheCell σ.p })
    (H := fun σ => { Spec.TreeModes.closeCell σ with mode := σ.mode }) ?_ htr2).conseq ?_
  · intro σ
    show _ = _
    rw [closeCell_eq]
  · rintro x x' _ _ ⟨hxx, e⟩
    dsimp only at hxx e
    refine ⟨hxx, ?_⟩
    rw [e]
    exact setMode_withMode (by rw [closeCell_eq]) _

/-! ### `check_body_end`, "any other end tag", `remove_from_stack` -/

theorem bodyEndCheck_eq (what : String) (σ : SState) :
    Spec.TreeModes.bodyEndCheck σ what = { σ with errors := (Spec.TreeModes.bodyEndCheck σ what).errors } := by
  unfold Spec.TreeModes.bodyEndCheck
  split <;> rfl

/-- `check_body_end` — `bodyEndCheck` (only parse errors) -/
theorem pc_checkBodyEnd {s : State} (hm : MInv s) (what : String) :
    PC checkBodyEnd s (fun _ s' calls =>
      Tr s s' calls (fun x x' => x' = { x with errors := (Spec.TreeModes.bodyEndCheck (absF s x) what).errors } ∧
        absF s' x' = Spec.TreeModes.bodyEndCheck (absF s x) what)) := by
  refine pc_conseq (pc_of_query hm (tot_checkBodyEnd s)) ?_
  rintro _ s' calls _ ⟨_, htr⟩
  refine Tr.withErrors (F := fun σ => σ) (bodyEndCheck_eq what) (htr.conseq ?_)
  rintro x x' _ _ ⟨hxx, e⟩
  exact ⟨hxx, e.symm⟩

/-- `process_end_tag_in_body(tag)` — the "any other end tag" clause of "in body":
`σ.setStack (TreeAlgo2.anyOtherEndTag tag.name σ.p.stack)` -/
theorem pc_processEndTagInBody {s : State} (hm : MInv s) (tag : Tag) :
    PC (processEndTagInBody tag) s (fun _ s' calls =>
      Tr s s' calls (fun x x' => x' = x ∧
        absF s' x = (absF s x).setStack (Spec.TreeAlgo2.anyOtherEndTag tag.name (absF s x).p.stack))) :=
  pc_of_pops hm (tot_processEndTagInBody s hm.elems tag)

theorem head?_eraseIdx_succ {α : Type} : ∀ (l : List α) (p : Nat) (a : α), p ≠ 0 → (l.eraseIdx p).head? = some a →
    l.head? = some a
  | [], _, _, _, h => by cases h
  | _ :: _, 0, _, hp, _ => absurd rfl hp
  | _ :: _, _ + 1, _, _, h => h

/-- `remove_from_stack(elem)` — `removeFromStack σ elem`, for an `elem` that is not the root of the stack -/
theorem pc_removeFromStack {s : State} (hm : MInv s) (elem : Id) (hnr : s.openElems.head? ≠ some elem) :
    PC (removeFromStack elem) s (fun _ s' calls =>
      Tr s s' calls (fun x x' => x' = x ∧ absF s' x = Spec.TreeModes.removeFromStack (absF s x) elem)) := by
  refine pc_conseq (PC.of_tot (tot_removeFromStack s elem)) ?_
  rintro _ s' calls he ⟨hs', hc⟩
  cases hpos : Spec.TreeAlgo2.stackPos elem (absStack s.dom s.openElems) with
  | none =>
    rw [hpos] at hs'
    have hs : SameTB s s' := hs'
    refine (Tr.of_same hm hs he (by rw [← edits2_edits, hc]; rfl)).conseq ?_
    rintro x x' hx _ ⟨hxx, e⟩
    refine ⟨hxx, ?_⟩
    unfold Spec.TreeModes.removeFromStack
    rw [absF_stack hx, hpos]
    exact e.symm
  | some p =>
    rw [hpos] at hs'
    obtain ⟨hlt, hget⟩ := stackPos_lt hpos
    have ho : s'.openElems = s.openElems.eraseIdx p := by rw [hs']
    have haf : s'.activeFormatting = s.activeFormatting := by rw [hs']
    have hf : SameButSL s s' := by constructor <;> rw [hs']
    have hp0 : p ≠ 0 := by
      intro h0; subst h0
      apply hnr
      rw [List.head?_eq_getElem?]; exact hget
    refine (Tr.of_shrink hm hf he hc (fun h hh => List.mem_of_mem_eraseIdx (ho ▸ hh))
      (fun h0 hh => head?_eraseIdx_succ _ p h0 hp0 (ho ▸ hh)) (fun e h => haf ▸ h)).conseq ?_
    rintro x x' hx _ ⟨hxx, e⟩
    refine ⟨hxx, ?_⟩
    unfold Spec.TreeModes.removeFromStack
    rw [absF_stack hx, hpos]
    simp only []
    have hmap : absStack s.dom (s.openElems.eraseIdx p) = (absStack s.dom s.openElems).eraseIdx p :=
      map_eraseIdx _ _ _
    rw [e, ho, haf, hmap]
    rfl

/-- `remove_from_stack(elem)` for an element that is not an `html` element -/
theorem pc_removeFromStack_of_name {s : State} (hm : MInv s) (elem : Id)
    (hn : nameOf s.dom elem ≠ ⟨nsHtml, "html".toList⟩) :
    PC (removeFromStack elem) s (fun _ s' calls =>
      Tr s s' calls (fun x x' => x' = x ∧ absF s' x = Spec.TreeModes.removeFromStack (absF s x) elem)) :=
  pc_removeFromStack hm elem fun h => hn (hm.root elem h)


/-! ### `body_elem`, `html_elem`, `is_fragment`, `push` -/

/-- "the second element on the stack of open elements, if it is a `body` element" -/
def specBodyElem (σ : SState) : Option Id :=
  match σ.p.stack[1]? with
  | some e => if e.name.isHtml "body" then some e.id else none
  | none => none

theorem specBodyElem_some {σ : SState} {n : Id} (h : specBodyElem σ = some n) :
    ∃ e, σ.p.stack[1]? = some e ∧ e.name.isHtml "body" = true ∧ e.id = n := by
  unfold specBodyElem at h
  cases h1 : σ.p.stack[1]? with
  | none => rw [h1] at h; cases h
  | some e =>
    rw [h1] at h
    by_cases hb : e.name.isHtml "body" = true
    · simp only [hb, if_true, Option.some.injEq] at h; exact ⟨e, rfl, hb, h⟩
    · simp only [hb] at h; cases h

theorem specBodyElem_none {σ : SState} (h : specBodyElem σ = none) :
    ∀ e, σ.p.stack[1]? = some e → e.name.isHtml "body" = false := by
  intro e h1
  unfold specBodyElem at h
  rw [h1] at h
  by_cases hb : e.name.isHtml "body" = true
  · simp only [hb, if_true] at h; cases h
  · simpa using hb

/-- the model's `body_elem` as a function of the names -/
def bodyElemPure (d : Dom) (l : List Id) : Option Id :=
  match l[1]? with
  | some node => if (elemOf d node).name.isHtml "body" then some node else none
  | none => none

theorem tot_bodyElem (s : State) : Tot bodyElem s (QueryQ s (bodyElemPure s.dom s.openElems)) := by
  unfold bodyElem
  refine tot_getS_bind ?_
  by_cases hlen : s.openElems.length ≤ 1
  · simp only [hlen, if_true]
    have h1 : s.openElems[1]? = none := List.getElem?_eq_none (by omega)
    exact tot_pure ⟨by simp only [bodyElemPure, h1], SameTB.refl s, rfl⟩
  · simp only [hlen, if_false]
    cases h1 : s.openElems[1]? with
    | none => exact tot_pure ⟨by simp only [bodyElemPure, h1], SameTB.refl s, rfl⟩
    | some node =>
      simp only []
      refine tot_query_bind (tot_htmlElemNamed s node "body") fun s1 c1 _ hs1 hc1 => ?_
      by_cases hb : (elemOf s.dom node).name.isHtml "body" = true
      · simp only [hb, if_true]
        exact tot_pure ⟨by simp only [bodyElemPure, h1, hb, if_true], hs1, by simp [hc1]⟩
      · simp only [hb, Bool.false_eq_true, if_false]
        exact tot_pure ⟨by simp only [bodyElemPure, h1, hb, Bool.false_eq_true, if_false], hs1, by simp [hc1]⟩

/-- `body_elem()` — `specBodyElem` (the second entry of the stack if it is a `body` element) -/
theorem pc_bodyElem {s : State} (hm : MInv s) :
    PC bodyElem s (fun b s' calls =>
      Tr s s' calls (fun x x' => x' = x ∧ absF s x = absF s' x ∧ b = specBodyElem (absF s x))) := by
  refine pc_query_spec hm (tot_bodyElem s) specBodyElem ?_
  intro x hx
  unfold specBodyElem bodyElemPure
  rw [absF_stack hx]
  simp only [absStack, List.getElem?_map]
  cases s.openElems[1]? <;> rfl

/-- a computation that answers the first entry of the stack and panics on the empty stack -/
theorem pc_stackHead {m : M Id} {s : State} (hm : MInv s)
    (hnone : s.openElems.head? = none → ∀ Q, PC m s Q)
    (hsome : ∀ h0, s.openElems.head? = some h0 → Tot m s (QueryQ s h0)) :
    PC m s (fun h s' calls => s.openElems.head? = some h ∧
      Tr s s' calls (fun x x' => x' = x ∧ absF s x = absF s' x ∧
        (absF s x).p.stack.head? = some (elemOf s.dom h))) := by
  cases hl : s.openElems.head? with
  | none => exact hnone hl _
  | some h0 =>
    refine pc_conseq (pc_of_query hm (hsome h0 hl)) ?_
    rintro a s' calls _ ⟨rfl, htr⟩
    refine ⟨rfl, htr.conseq ?_⟩
    rintro x x' hx _ ⟨hxx, e⟩
    refine ⟨hxx, e, ?_⟩
    rw [absF_stack hx]
    simp only [absStack, List.head?_map, hl, Option.map_some]

/-- `html_elem()` — the first entry of the stack; on the empty stack the model panics -/
theorem pc_htmlElem {s : State} (hm : MInv s) :
    PC htmlElem s (fun h s' calls => s.openElems.head? = some h ∧
      Tr s s' calls (fun x x' => x' = x ∧ absF s x = absF s' x ∧
        (absF s x).p.stack.head? = some (elemOf s.dom h))) :=
  pc_stackHead hm (fun hl _ => by unfold htmlElem; exact pc_getS_bind (by simp only [hl]; exact pc_panicAt))
    fun _ hl => tot_htmlElem hl

/-- the free function `html_elem(&open_elems)` — the same -/
theorem pc_htmlElemFn {s : State} (hm : MInv s) :
    PC htmlElemFn s (fun h s' calls => s.openElems.head? = some h ∧
      Tr s s' calls (fun x x' => x' = x ∧ absF s x = absF s' x ∧
        (absF s x).p.stack.head? = some (elemOf s.dom h))) :=
  pc_stackHead hm (fun hl _ => by unfold htmlElemFn; exact pc_getS_bind (by simp only [hl]; exact pc_panicAt))
    fun _ hl => tot_htmlElemFn hl

/-- `is_fragment()` — `cfg.context.isSome` -/
theorem pc_isFragment {s : State} (hm : MInv s) :
    PC isFragment s (fun b s' calls => s' = s ∧ calls = [] ∧ b = s.contextElem.isSome ∧
      Tr s s' calls (fun x x' => x' = x ∧ absF s x = absF s' x ∧ b = (cfgOf s).context.isSome)) := by
  unfold isFragment
  refine pc_getS_bind (pc_pure ⟨rfl, rfl, rfl, (Tr.refl hm).conseq ?_⟩)
  rintro x x' _ _ hxx
  refine ⟨hxx, rfl, ?_⟩
  simp only [cfgOf, Option.isSome_map]

/-- `push(h)` for an element `h` of the DOM — `σ.setStack (σ.p.stack ++ [elemOf s.dom h])`.
`hroot`: the first entry of the stack is an `html` element; `haf`: if `h` is in the list of active
formatting elements, its entry has the right name; `hna`: `h` is not a MathML `annotation-xml` element;
`hip`: the integration-point flag of a non-HTML `h` is not set (`MInv.ip` for the new entry) -/
theorem pc_push {s : State} (hm : MInv s) (h : Id) (hel : s.dom.isElement h = true)
    (hroot : s.openElems = [] → nameOf s.dom h = ⟨nsHtml, "html".toList⟩)
    (haf : ∀ t, FormatEntry.element h t ∈ s.activeFormatting → nameOf s.dom h = ⟨nsHtml, t.name⟩)
    (hna : nameOf s.dom h ≠ annotName)
    (hip : (nameOf s.dom h).ns ≠ nsHtml → ipOfDom s.dom h = true → nameOf s.dom h = annotName) :
    PC (push h) s (fun _ s' calls => s' = { s with openElems := s.openElems ++ [h] } ∧ calls = [] ∧
      Tr s s' calls (fun x x' => x' = x ∧
        absF s' x = (absF s x).setStack ((absF s x).p.stack ++ [elemOf s.dom h]))) := by
  refine pc_conseq (PC.of_tot (tot_push s h)) ?_
  rintro _ s' calls _ ⟨rfl, rfl⟩
  refine ⟨rfl, rfl, ?_⟩
  have hm' : MInv { s with openElems := s.openElems ++ [h] } := by
    refine ⟨?_, ?_, ?_, hm.afEl, hm.head, hm.ctx, hm.afwf, ?_, hm.tmodes, hm.form, hm.pend⟩
    · intro y hy
      rcases List.mem_append.mp hy with hy | hy
      · exact hm.elems y hy
      · rw [List.mem_singleton.mp hy]; exact hel
    · intro h0 hh
      cases hl : s.openElems with
      | nil =>
        simp only [hl, List.nil_append, List.head?_cons, Option.some.injEq] at hh
        subst hh; exact hroot hl
      | cons a r =>
        simp only [hl, List.cons_append, List.head?_cons, Option.some.injEq] at hh
        subst hh; exact hm.root a (by rw [hl]; rfl)
    · intro y t hmem
      obtain ⟨a, b, c⟩ := hm.af y t hmem
      refine ⟨a, b, fun hy => ?_⟩
      rcases List.mem_append.mp hy with hy | hy
      · exact c hy
      · have : y = h := List.mem_singleton.mp hy
        subst this; exact haf t hmem
    · intro y hy
      rcases List.mem_append.mp hy with hy | hy
      · exact hm.ip y hy
      · rw [List.mem_singleton.mp hy]; exact hip
  refine ⟨hm', rfl, TBSafe.Ext.refl _, [], FreshIds.nil _, fun x rest hx hs =>
    ⟨x, ⟨⟨hx.live, ?_, hx.annotEl, hx.xlog⟩, by simpa using hs, rfl, rfl, rfl, [], by simp, fun _ _ => rfl⟩, rfl, ?_⟩⟩
  · intro y hy hn
    rcases List.mem_append.mp hy with hy | hy
    · exact hx.annot y hy hn
    · have : y = h := List.mem_singleton.mp hy
      subst this; exact absurd hn hna
  · simp only [absF, absP, hx.live, Bool.false_eq_true, if_false, absStack, List.map_append, List.map_cons,
      List.map_nil, Spec.TreeModes.State.setStack]


/-! ### `pop` without the notification, `append_comment` without the non-emptiness hypothesis -/

/-- `open_elems.pop()` (no `TreeSink::pop` call) — `State.pop`; `none` on the empty stack -/
theorem pc_popSilently {s : State} (hm : MInv s) :
    PC popSilently s (fun a s' calls => a = s.openElems.getLast? ∧ s'.openElems = s.openElems.dropLast ∧
      StackOnly s s' ∧ calls = [] ∧
      Tr s s' calls (fun x x' => x' = x ∧ absF s' x = (absF s x).pop ∧ (absF s x).cur = a.map (elemOf s.dom))) := by
  refine pc_conseq (PC.of_tot (pop_tot_popSilently s)) ?_
  rintro a s' calls he ⟨rfl, hso, hst, rfl⟩
  refine ⟨rfl, hst, hso, rfl, (Tr.of_prefix hm hso (hst ▸ List.dropLast_prefix _) he rfl).conseq ?_⟩
  rintro x x' hx _ ⟨hxx, e⟩
  refine ⟨hxx, ?_, absF_cur hx⟩
  rw [e, hst, absStack_dropLast, ← absF_stack hx]
  rfl

/-- "insert a comment" (`pc_appendComment` of `HtmlTBModesSim2` without the hypothesis that the stack is
not empty: on the empty stack `current_node()` panics) -/
theorem pc_appendComment' {s : State} (hm : MInv s) (text : Str) :
    PC (appendComment text) s (fun r s' calls => r = .done ∧
      Tr s s' calls (fun x x' => Spec.TreeModes.insertComment (absF s x) text = .ok (absF s' x'))) := by
  by_cases hne : s.openElems = []
  · unfold appendComment
    refine pc_seq (PC.of_tot (tot_createComment s text)) ?_
    rintro c s1 c1 _ ⟨hs1, _, _⟩
    have hl : s1.openElems.getLast? = none := by rw [hs1.openElems, hne]; rfl
    unfold insertAppropriately appropriatePlaceForInsertion
    exact pc_bind (pc_bind (pc_bind (pc_currentNode_empty hl)))
  · exact pc_appendComment hm hne text

/-- "Insert a comment.", as a whole rule -/
theorem pc_comment_tokPost {s : State} (hm : MInv s) (text : Str) (tok : Token) :
    PC (appendComment text) s (TokPost (fun σ => Step.done <$> Spec.TreeModes.insertComment σ text) s tok) :=
  pc_conseq (pc_appendComment' hm text) fun _ _ _ _ ⟨hr, htr⟩ =>
    hr ▸ tokPost_of_done (htr.conseq fun _ _ _ _ h => by rw [h]; rfl)

end H5V.Lemmas.HtmlTBModes
