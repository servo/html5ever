import H5V.Lemmas.XmlShapeLexTab
/-!
C17, shape of parsed trees (tokenizer side): the comment states.

`LexE` (the invariant of `XmlShapeLexTab`) carries `GtScanP m.comment`: every `>` already in the comment
register stands where the XML tokenizer would not have ended the comment (`GtOk` of the text before it).
To push a `>` the comment state must know `GtOk` of the register; this file adds the state-dependent facts
about the register that make it so (`CmtOK`), proves them through the ten comment states of the
`get_char!` table (`transChar_cmt`), and shows that no other state enters a comment state
(`transChar_cmtOf`).  The full invariant is `Lex m = LexE m ∧ CmtOK (cmtOf m.state) m`.

The comment state is entered by RECONSUMING a character `c` from seven other states; whether `c` may be
pushed depends on `c` (`CR p c`), so between two steps the clause for the comment state mentions the
reconsume flag and `current_char`; the table itself is entered with `CmtPre` (the flag consumed, `c` in hand).
-/
namespace H5V.Lemmas.XmlShapeLex
open H5V.Model.XmlTok H5V.Lemmas.XmlRT

inductive CMode | none | c0 | cC | cLt | cLtB | cED
deriving DecidableEq, Repr

def cmtOf : State → CMode
  | .commentStart | .commentStartDash => .c0
  | .comment => .cC
  | .commentLessThan => .cLt
  | .commentLessThanBang | .commentLessThanBangDash | .commentLessThanBangDashDash => .cLtB
  | .commentEndDash => .cED
  | _ => .none

/-- between two steps -/
def CmtOK : CMode → Mach → Prop
  | .none, _ => True
  | .c0, m => m.comment = []
  | .cC, m => CW m.comment ∨ (m.reconsume = true ∧ CR m.comment m.currentChar)
  | .cLt, m => m.comment.getLast? = some '<'
  | .cLtB, m => ['<', '!'] <:+ m.comment
  | .cED, m => m.comment ≠ [] ∧ m.comment.getLast? ≠ some '-'

/-- when the table is about to see `c` -/
def CmtPre : CMode → Mach → Char → Prop
  | .cC, m, c => CR m.comment c
  | .none, _, _ => True
  | .c0, m, _ => m.comment = []
  | .cLt, m, _ => m.comment.getLast? = some '<'
  | .cLtB, m, _ => ['<', '!'] <:+ m.comment
  | .cED, m, _ => m.comment ≠ [] ∧ m.comment.getLast? ≠ some '-'

/-- **the lexical invariant of the tokenizer model** -/
def Lex (m : Mach) : Prop := LexE m ∧ CmtOK (cmtOf m.state) m

def LexT (m : Mach) (c : Char) : Prop := LexE m ∧ CmtPre (cmtOf m.state) m c

theorem Lex.of_none {m : Mach} (h : LexE m) (hs : cmtOf m.state = .none) : Lex m :=
  ⟨h, by rw [hs]; trivial⟩

/-! ### list facts -/

theorem snoc_of_last {p : Str} {a : Char} (h : p.getLast? = some a) : ∃ q, p = q ++ [a] := by
  rcases List.eq_nil_or_concat p with rfl | ⟨q, x, e⟩
  · simp at h
  · rw [List.concat_eq_append] at e; subst e
    rw [getLast_snoc] at h; injection h with h; subst h
    exact ⟨q, rfl⟩

theorem not_ends2_of_last {p : Str} {a b x : Char} (h : p.getLast? = some x) (hx : x ≠ b) : ¬ [a, b] <:+ p := by
  intro e
  have := last_of_ends (u := [a]) e
  rw [h] at this; injection this with this; exact hx this

theorem not_ends3_of_last {p : Str} {a b d x : Char} (h : p.getLast? = some x) (hx : x ≠ d) : ¬ [a, b, d] <:+ p := by
  intro e
  have := last_of_ends (u := [a, b]) e
  rw [h] at this; injection this with this; exact hx this

theorem last_of_ltb {p : Str} (h : ['<', '!'] <:+ p) : p.getLast? = some '!' := last_of_ends (u := ['<']) h

theorem gtOk_of_ltb {p : Str} (h : ['<', '!'] <:+ p) : GtOk p := by
  obtain ⟨q, rfl⟩ := h
  refine ⟨by simp, ?_, ?_, ?_⟩
  · intro e
    have := congrArg List.length e
    simp at this
  · exact not_ends2_of_last (x := '!') (by simp) (by decide)
  · intro e
    have e' : (['-', '-'] ++ ['!']) <:+ ((q ++ ['<']) ++ ['!']) := by simpa using e
    rw [ends_snoc] at e'
    have e'' : (['-'] ++ ['-']) <:+ (q ++ ['<']) := e'.2
    rw [ends_snoc] at e''
    exact absurd e''.1 (by decide)

theorem gtOk_of_lt {p : Str} (h : p.getLast? = some '<') : GtOk p := by
  obtain ⟨q, rfl⟩ := snoc_of_last h
  exact gtOk_snoc (by decide) (by decide)

/-! ### the comment states of the `get_char!` table -/

theorem transChar_cmt (o : Opts) {m : Mach} {c : Char} (h : LexT m c) (hcc : m.currentChar = c)
    (hst : isCmtSt m.state = true) : Lex (transChar o m c).1 := by
  obtain ⟨he, hp⟩ := h
  unfold transChar
  split
  -- tagState, endTagState, endTagName, endTagNameAfter, pi, piTarget, piTargetAfter, piData, piAfter: not comment states
  iterate 9 (rename_i hs; rw [hs] at hst; cases hst)
  -- commentStart
  · rename_i hs
    rw [hs] at hp
    have hp : m.comment = [] := hp
    dsimp only
    refine ite_fst Lex (fun _ => ?_) (fun _ => ?_)
    · exact ⟨Lex_to_other he _ rfl, hp⟩
    · refine ite_fst Lex (fun _ => ?_) (fun _ => ?_)
      · exact Lex.of_none (Lex_to_other (Lex_emitComment (Lex_badChar he o)) _ rfl) rfl
      · rename_i h1 h2
        refine ⟨Lex_reconsumeTo_other he _ rfl, Or.inr ⟨rfl, ?_⟩⟩
        show CR m.comment m.currentChar
        rw [hp, hcc]
        exact ⟨fun e => absurd e h2, fun e => absurd e h1, fun _ => ends_nil_snoc (u := ['-'])⟩
  -- commentStartDash
  · rename_i hs
    rw [hs] at hp
    have hp : m.comment = [] := hp
    dsimp only
    refine ite_fst Lex (fun _ => ?_) (fun _ => ?_)
    · exact Lex.of_none (Lex_to_other he _ rfl) rfl
    · refine ite_fst Lex (fun _ => ?_) (fun _ => ?_)
      · exact Lex.of_none (Lex_to_other (Lex_emitComment (Lex_badChar he o)) _ rfl) rfl
      · rename_i h1 h2
        refine ⟨Lex_reconsumeTo_other (Lex_pushComment he (Or.inl (by decide))) _ rfl, Or.inr ⟨rfl, ?_⟩⟩
        show CR (m.comment ++ ['-']) m.currentChar
        rw [hp, hcc]
        exact ⟨fun e => absurd e h2, fun e => absurd e h1, fun _ => by decide⟩
  -- comment
  · rename_i hs
    rw [hs] at hp
    have hp : CR m.comment c := hp
    dsimp only
    refine ite_fst Lex (fun _ => ?_) (fun _ => ?_)
    · refine ⟨Lex_to_other (Lex_pushComment he (Or.inl (by decide))) _ rfl, ?_⟩
      show (m.comment ++ ['<']).getLast? = some '<'
      simp
    · refine ite_fst Lex (fun _ => ?_) (fun _ => ?_)
      · rename_i h1 h2
        exact ⟨Lex_to_other he _ rfl, hp.2.1 h2⟩
      · rename_i h1 h2
        have hpush : c ≠ '>' ∨ GtOk m.comment := by
          by_cases e : c = '>'
          · exact Or.inr (hp.1 e)
          · exact Or.inl e
        refine ⟨Lex_pushComment he hpush, ?_⟩
        show CmtOK (cmtOf m.state) (pushComment c m)
        rw [hs]
        exact Or.inl (CW_push hp h2)
  -- commentLessThan
  · rename_i hs
    rw [hs] at hp
    have hp : m.comment.getLast? = some '<' := hp
    obtain ⟨q, hq⟩ := snoc_of_last hp
    dsimp only
    refine ite_fst Lex (fun _ => ?_) (fun _ => ?_)
    · refine ⟨Lex_to_other (Lex_pushComment he (Or.inl (by decide))) _ rfl, ?_⟩
      show ['<', '!'] <:+ (m.comment ++ ['!'])
      rw [hq]
      exact ⟨q, by simp⟩
    · refine ite_fst Lex (fun _ => ?_) (fun _ => ?_)
      · refine ⟨Lex_pushComment he (Or.inl (by decide)), ?_⟩
        show CmtOK (cmtOf m.state) (pushComment '<' m)
        rw [hs]
        show (m.comment ++ ['<']).getLast? = some '<'
        simp
      · rename_i h1 h2
        refine ⟨Lex_reconsumeTo_other he _ rfl, Or.inr ⟨rfl, ?_⟩⟩
        show CR m.comment m.currentChar
        rw [hcc]
        refine ⟨fun _ => gtOk_of_lt hp, fun _ => ⟨by rw [hq]; simp, by rw [hp]; decide⟩, fun e => absurd e h1⟩
  -- commentLessThanBang
  · rename_i hs
    rw [hs] at hp
    have hp : ['<', '!'] <:+ m.comment := hp
    dsimp only
    refine ite_fst Lex (fun _ => ?_) (fun _ => ?_)
    · exact ⟨Lex_to_other he _ rfl, hp⟩
    · rename_i h1
      refine ⟨Lex_reconsumeTo_other he _ rfl, Or.inr ⟨rfl, ?_⟩⟩
      show CR m.comment m.currentChar
      rw [hcc]
      exact ⟨fun _ => gtOk_of_ltb hp, fun e => absurd e h1,
        fun _ => not_ends2_of_last (last_of_ltb hp) (by decide)⟩
  -- commentLessThanBangDash
  · rename_i hs
    rw [hs] at hp
    have hp : ['<', '!'] <:+ m.comment := hp
    dsimp only
    refine ite_fst Lex (fun _ => ?_) (fun _ => ?_)
    · exact ⟨Lex_to_other he _ rfl, hp⟩
    · refine ⟨Lex_reconsumeTo_other he _ rfl, ?_⟩
      show m.comment ≠ [] ∧ m.comment.getLast? ≠ some '-'
      have hl := last_of_ltb hp
      refine ⟨?_, by rw [hl]; decide⟩
      intro e; rw [e] at hl; simp at hl
  -- commentLessThanBangDashDash
  · dsimp only
    refine ite_fst Lex (fun _ => ?_) (fun _ => ?_)
    · exact Lex.of_none (Lex_reconsumeTo_other he _ rfl) rfl
    · exact Lex.of_none (Lex_reconsumeTo_other (Lex_badChar he o) _ rfl) rfl
  -- commentEndDash
  · rename_i hs
    rw [hs] at hp
    have hp : m.comment ≠ [] ∧ m.comment.getLast? ≠ some '-' := hp
    dsimp only
    refine ite_fst Lex (fun _ => ?_) (fun _ => ?_)
    · exact Lex.of_none (Lex_to_other he _ rfl) rfl
    · rename_i h1
      refine ⟨Lex_reconsumeTo_other (Lex_pushComment he (Or.inl (by decide))) _ rfl, Or.inr ⟨rfl, ?_⟩⟩
      show CR (m.comment ++ ['-']) m.currentChar
      rw [hcc]
      have hne2 : ¬ ['-', '-'] <:+ (m.comment ++ ['-']) := by
        intro e
        have e' : (['-'] ++ ['-']) <:+ (m.comment ++ ['-']) := e
        rw [ends_snoc] at e'
        exact hp.2 (last_of_ends (u := []) e'.2)
      refine ⟨fun _ => ⟨by simp, ?_, hne2, not_ends3_of_last (getLast_snoc _ _) (by decide)⟩,
        fun e => absurd e h1, fun _ => hne2⟩
      intro e
      have := congrArg List.length e
      simp at this
      exact hp.1 this
  -- commentEnd
  · dsimp only
    refine ite_fst Lex (fun _ => ?_) (fun _ => ?_)
    · exact Lex.of_none (Lex_to_other (Lex_emitComment he) _ rfl) rfl
    · refine ite_fst Lex (fun _ => ?_) (fun _ => ?_)
      · exact Lex.of_none (Lex_to_other he _ rfl) rfl
      · refine ite_fst Lex (fun _ => ?_) (fun _ => ?_)
        · rename_i hs _ _ _
          refine ⟨Lex_pushComment he (Or.inl (by decide)), ?_⟩
          show CmtOK (cmtOf m.state) (pushComment '-' m)
          rw [hs]; trivial
        · rename_i h1 h2 h3
          refine ⟨Lex_reconsumeTo_other (Lex_appendComment he _ (by decide)) _ rfl, Or.inr ⟨rfl, ?_⟩⟩
          show CR (m.comment ++ "--".toList) m.currentChar
          rw [hcc]
          exact ⟨fun e => absurd e h1, fun e => absurd e h3, fun e => absurd e h2⟩
  -- commentEndBang
  · dsimp only
    refine ite_fst Lex (fun _ => ?_) (fun _ => ?_)
    · refine ⟨Lex_to_other (Lex_appendComment he _ (by decide)) _ rfl, ?_⟩
      show m.comment ++ "--!".toList ≠ [] ∧ (m.comment ++ "--!".toList).getLast? ≠ some '-'
      have e : "--!".toList = ['-', '-'] ++ ['!'] := by decide
      rw [e, ← List.append_assoc, getLast_snoc]
      exact ⟨by simp, by decide⟩
    · refine ite_fst Lex (fun _ => ?_) (fun _ => ?_)
      · exact Lex.of_none (Lex_to_other (Lex_emitComment (Lex_badChar he o)) _ rfl) rfl
      · rename_i h1 h2
        refine ⟨Lex_reconsumeTo_other (Lex_appendComment he _ (by decide)) _ rfl, Or.inr ⟨rfl, ?_⟩⟩
        show CR (m.comment ++ "--!".toList) m.currentChar
        rw [hcc]
        have e : "--!".toList = ['-', '-'] ++ ['!'] := by decide
        refine ⟨fun e => absurd e h2, fun e => absurd e h1, fun _ => ?_⟩
        rw [e, ← List.append_assoc]
        exact not_ends2_of_last (getLast_snoc _ _) (by decide)
  -- everything after: not comment states
  all_goals (rename_i hs; rw [hs] at hst; cases hst)

/-- outside the comment states the `get_char!` table never enters one (the PI state may enter the bogus
comment state, which needs nothing) -/
theorem transChar_cmtOf (o : Opts) (m : Mach) (c : Char) (hst : isCmtSt m.state = false) :
    cmtOf (transChar o m c).1.state = .none := by
  unfold transChar
  split
  all_goals first
    | (rename_i hs; rw [hs] at hst; exact absurd hst (by decide))
    | (dsimp only; (repeat' with_reducible refine ite_fst (fun x => cmtOf x.state = .none) (fun _ => ?_) (fun _ => ?_)) <;> simp [cmtOf, *]; done)
    | (rename_i hs; simp [hs, cmtOf])

theorem lexT_lexE {m : Mach} {c : Char} (h : LexT m c) : LexE m := h.1

/-- **the `get_char!` table preserves the lexical invariant** -/
theorem transChar_lex (o : Opts) {m : Mach} {c : Char} (h : LexT m c) (hc : QC c) (hcc : m.currentChar = c) :
    Lex (transChar o m c).1 := by
  cases hst : isCmtSt m.state with
  | true => exact transChar_cmt o h hcc hst
  | false => exact Lex.of_none (transChar_lexE o h.1 hc hst) (transChar_cmtOf o m c hst)

end H5V.Lemmas.XmlShapeLex
