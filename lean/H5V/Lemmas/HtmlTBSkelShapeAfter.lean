import H5V.Lemmas.HtmlTBSkelShapeRoot
import H5V.Lemmas.HtmlTBSkelShapeBody2
import H5V.Lemmas.HtmlTBSkelShapeRun
/-!
C06, second invariant layer: the modes AfterBody and AfterAfterBody.
-/
namespace H5V.Props.C06
open H5V.Model.Dom hiding Str
open H5V.Model.HtmlTB hiding Str
open H5V.Lemmas.Dom

instance (tag : Tag) : PB (inBodyHtml tag) := by unfold inBodyHtml; pb_walk

instance (st : SplitStatus) (text : Str) [NE text] : PB (stepInBody (.chars st text)) := by
  unfold stepInBody
  dsimp only
  pb_walk

theorem stepInBody_html {tag : Tag} (h : tag.isStart ["html"] = true) : stepInBody (.tag tag) = inBodyHtml tag := by
  unfold stepInBody
  simp only [h, if_true]

/-- the modes whose stack is `html body …` with `body` a child of `html` -/
def isAB (m : Mode) : Bool := m == .afterBody || m == .afterAfterBody

theorem Good.ab {r : Id} {s : State} (h : Good r s) (hm : isAB s.mode = true) :
    ∃ b up, ShapeAt s r up (.pb b) ∧ Big .inBody r (.pb b) s := by
  obtain ⟨up, ph, hs, _⟩ := h
  have hf := hs.fits
  unfold FitsM at hf
  have key : ∃ b up', up = b :: up' ∧ ph = .pb b ∧ ∀ h, s.headElem = some h → h ∉ up := by
    unfold isAB at hm
    simp only [Bool.or_eq_true, beq_iff_eq] at hm
    rcases hm with hm | hm <;> (rw [hm] at hf; exact hf)
  obtain ⟨b, up', hu, hph, hh⟩ := key
  subst hph
  exact ⟨b, up, hs, up, hs.core, Or.inl ⟨b, up', hu, rfl, hh⟩, trivial, FPok.triv _ _⟩

theorem good_of_big_pb {r b : Id} {s : State} (h : Big .inBody r (.pb b) s)
    (hm : isAB s.mode = true ∨ s.mode = .inBody) : Good r s := by
  obtain ⟨up, hc, hbb, _, _⟩ := h
  have hd : ∃ b' up', up = b' :: up' ∧ Phase.pb b = .pb b' ∧ ∀ h, s.headElem = some h → h ∉ up := by
    rcases hbb with ⟨b', u, h1, h2, h3⟩ | ⟨_, _, _, _, _, _, h4⟩ | ⟨_, _, _, _, h4, _⟩
    · exact ⟨b', u, h1, h2, h3⟩
    · cases h4
    · cases h4
  refine ⟨up, .pb b, ⟨hc, ?_⟩, fun _ => FPok.triv _ _⟩
  unfold FitsM
  rcases hm with hm | hm
  · unfold isAB at hm
    simp only [Bool.or_eq_true, beq_iff_eq] at hm
    rcases hm with hm | hm <;> (rw [hm]; exact hd)
  · rw [hm]; exact ⟨hbb, trivial⟩

/-- a `Big`-preserving rule run in one of these modes -/
theorem pb_ab {prog : M ProcessResult} (hp : PB prog) {r : Id} {s s' : State} {res : ProcessResult}
    (hg : Good r s) (hm : isAB s.mode = true) (e : prog s = .ok (res, s')) : Good r s' := by
  obtain ⟨b, up, _, hb⟩ := hg.ab hm
  obtain ⟨hb', hm', _⟩ := hp.p .inBody r (.pb b) s res s' hb e
  exact good_of_big_pb hb' (Or.inl (by rw [hm']; exact hm))

theorem done_of_inBodyHtml {tag : Tag} {s s' : State} {res : ProcessResult} (e : inBodyHtml tag s = .ok (res, s')) :
    res = .done := by
  unfold inBodyHtml at e
  obtain ⟨_, s1, _, e2⟩ := bind_ok.mp e
  obtain ⟨b, s2, _, e4⟩ := bind_ok.mp e2
  rcases ite_run e4 with ⟨_, e4⟩ | ⟨_, e4⟩
  · obtain ⟨_, _, _, e5⟩ := bind_ok.mp e4
    obtain ⟨_, _, _, e6⟩ := bind_ok.mp e5
    exact (pure_ok.mp e6).1.symm
  · exact (pure_ok.mp e4).1.symm

theorem done_of_bodyChars {st : SplitStatus} {text : Str} {s s' : State} {res : ProcessResult}
    (e : stepInBody (.chars st text) s = .ok (res, s')) : res = .done := by
  unfold stepInBody at e
  dsimp only at e
  obtain ⟨_, s1, _, e2⟩ := bind_ok.mp e
  rcases ite_run e2 with ⟨_, e2⟩ | ⟨_, e2⟩
  · obtain ⟨_, _, _, e3⟩ := bind_ok.mp e2
    unfold appendText at e3
    obtain ⟨_, _, _, e4⟩ := bind_ok.mp e3
    exact (pure_ok.mp e4).1.symm
  · unfold appendText at e2
    obtain ⟨_, _, _, e4⟩ := bind_ok.mp e2
    exact (pure_ok.mp e4).1.symm

/-- "anything else": back to InBody -/
theorem ab_reprocess {r : Id} {s s' : State} {tok : Token} [ht : TokW tok] {res : ProcessResult} (hg : Good r s)
    (hm : isAB s.mode = true)
    (e : (unexpected >>= fun _ => pure (ProcessResult.reprocess .inBody tok)) s = .ok (res, s')) : Out r s' res := by
  obtain ⟨x, s1, e1, e2⟩ := bind_ok.mp e
  obtain ⟨rfl, rfl⟩ := pure_ok.mp e2
  obtain ⟨q, _⟩ := qs_unexpected e1
  have hg1 := hg.qs q
  obtain ⟨b, up, _, hb⟩ := hg1.ab (by rw [q.mode]; exact hm)
  exact ⟨good_of_big_pb (hb.setMode rfl) (Or.inr rfl), ht⟩

theorem modeOk_afterBody : ModeOk .afterBody := by
  intro tok ht r s res s' hg hm e
  have hab : isAB s.mode = true := by rw [hm]; rfl
  have e' : stepAfterBody tok s = .ok (res, s') := e
  unfold stepAfterBody at e'
  cases tok with
  | chars st text =>
    cases st with
    | notSplit => dsimp only at e'; obtain ⟨rfl, rfl⟩ := pure_ok.mp e'; exact hg
    | whitespace =>
      dsimp only at e'
      haveI : NE text := ⟨ht.ne _ _ rfl⟩
      rw [done_of_bodyChars e']
      exact pb_ab inferInstance hg hab e'
    | notWhitespace => dsimp only at e'; exact ab_reprocess hg hab e'
  | comment text =>
    dsimp only at e'
    obtain ⟨up, ph, hs, hfp⟩ := hg
    obtain ⟨hs', rfl, _⟩ := appendCommentToHtml_shape hs e'
    exact ⟨up, ph, hs', fun _ => FPok.triv _ _⟩
  | eof => dsimp only at e'; obtain ⟨rfl, rfl⟩ := pure_ok.mp e'; exact hg
  | nullChar => dsimp only at e'; exact ab_reprocess hg hab e'
  | tag tag =>
    dsimp only at e'
    rcases ite_run e' with ⟨h1, e'⟩ | ⟨h1, e'⟩
    · rw [stepInBody_html h1] at e'
      rw [done_of_inBodyHtml e']
      exact pb_ab inferInstance hg hab e'
    · rcases ite_run e' with ⟨h2, e'⟩ | ⟨h2, e'⟩
      · obtain ⟨fr, s1, e1, e2⟩ := bind_ok.mp e'
        have q1 : QS s s1 := IsQ.q _ _ _ e1
        have hg1 := hg.qs q1
        rcases ite_run e2 with ⟨_, e2⟩ | ⟨_, e2⟩
        · obtain ⟨x, s2, e3, e4⟩ := bind_ok.mp e2
          obtain ⟨rfl, rfl⟩ := pure_ok.mp e4
          exact hg1.qs (qs_unexpected e3).1
        · obtain ⟨x, s2, e3, e4⟩ := bind_ok.mp e2
          obtain ⟨rfl, rfl⟩ := pure_ok.mp e4
          unfold setMode at e3
          rw [modS_ok.mp e3]
          obtain ⟨b, up, _, hb⟩ := hg1.ab (by rw [q1.mode]; exact hab)
          exact good_of_big_pb (hb.setMode rfl) (Or.inl rfl)
      · exact ab_reprocess hg hab e'

theorem modeOk_afterAfterBody : ModeOk .afterAfterBody := by
  intro tok ht r s res s' hg hm e
  have hab : isAB s.mode = true := by rw [hm]; rfl
  have e' : stepAfterAfterBody tok s = .ok (res, s') := e
  unfold stepAfterAfterBody at e'
  cases tok with
  | chars st text =>
    cases st with
    | notSplit => dsimp only at e'; obtain ⟨rfl, rfl⟩ := pure_ok.mp e'; exact hg
    | whitespace =>
      dsimp only at e'
      haveI : NE text := ⟨ht.ne _ _ rfl⟩
      rw [done_of_bodyChars e']
      exact pb_ab inferInstance hg hab e'
    | notWhitespace => dsimp only at e'; exact ab_reprocess hg hab e'
  | comment text =>
    dsimp only at e'
    obtain ⟨up, ph, hs, hfp⟩ := hg
    obtain ⟨hs', rfl, _⟩ := appendCommentToDoc_shape hs e'
    exact ⟨up, ph, hs', fun _ => FPok.triv _ _⟩
  | eof => dsimp only at e'; obtain ⟨rfl, rfl⟩ := pure_ok.mp e'; exact hg
  | nullChar => dsimp only at e'; exact ab_reprocess hg hab e'
  | tag tag =>
    dsimp only at e'
    rcases ite_run e' with ⟨h1, e'⟩ | ⟨h1, e'⟩
    · rw [stepInBody_html h1] at e'
      rw [done_of_inBodyHtml e']
      exact pb_ab inferInstance hg hab e'
    · exact ab_reprocess hg hab e'

theorem fin_of_ab {r : Id} {s : State} (hg : Good r s) (hm : isAB s.mode = true) : Fin s := by
  obtain ⟨b, up, hs, _⟩ := hg.ab hm
  exact ⟨r, up, .pb b, hs, trivial⟩

theorem eofOk_afterBody : EofOk .afterBody := by
  intro r s res s' hg hm e
  have e' : stepAfterBody .eof s = .ok (res, s') := e
  unfold stepAfterBody at e'
  dsimp only at e'
  obtain ⟨rfl, rfl⟩ := pure_ok.mp e'
  exact Or.inl ⟨rfl, fin_of_ab hg (by rw [hm]; rfl)⟩

theorem eofOk_afterAfterBody : EofOk .afterAfterBody := by
  intro r s res s' hg hm e
  have e' : stepAfterAfterBody .eof s = .ok (res, s') := e
  unfold stepAfterAfterBody at e'
  dsimp only at e'
  obtain ⟨rfl, rfl⟩ := pure_ok.mp e'
  exact Or.inl ⟨rfl, fin_of_ab hg (by rw [hm]; rfl)⟩

end H5V.Props.C06
