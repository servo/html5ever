import H5V.Spec.TreeModes
/-!
C02 (insertion modes), the standard's "Assert" of "in cell": an invariant of the SPECIFICATION's own run.

`Good σ` is preserved by every rule of `Spec.TreeModes` (this file: definitions and the tool box; the rules:
`HtmlTBModesInv*.lean`):

* `cell`:  insertion mode "in cell" ⇒ a `td`/`th` element is in table scope (the Assert of §13.2.6.4.15);
* `text`:  "text" ⇒ the original insertion mode is neither "text" nor "in table text", and if it is "in cell", the
  stack below the current node has a `td`/`th` in table scope (that the rules of "text" and not those of foreign
  content are applied to tags in this mode is a fact the model provides, see `textHtml_absF` in `H5V.Lemmas.HtmlTBModesInvModel`);
* `ttext`: "in table text" ⇒ the original insertion mode is "in table" / "in table body" / "in row", and the current
  node is an HTML `table`, `tbody`, `template`, `tfoot`, `thead`, `tr` element (or — a case that the specification
  alone cannot exclude, the model can — the *first* element of the stack is one);
* `af`:    the tokens in the list of active formatting elements are formatting start tags;
* `tm`:    the stack of template insertion modes holds only the modes "in template" pushes;
* `nosel`: (2025 text) the insertion mode is not one of the two select modes.

Everything here is about the specification only (no model, no html5ever).
-/
set_option linter.unusedSectionVars false
namespace H5V.Lemmas.ModesInv
open H5V.Spec H5V.Spec.TreeModes
open H5V.Spec.TreeAlgo (Str Name nsHtml nsMathml nsSvg inHtml)
open H5V.Spec.TreeAlgo2 (Elem Entry PState)

/-! ## names -/

/-- an HTML `td` or `th` element -/
def tdThN (n : Name) : Bool := inHtml ["td", "th"] n
/-- one of the element types of "has an element in table scope": HTML `html`, `table`, `template` -/
def markN (n : Name) : Bool := TreeAlgo.tableScopeList n
/-- neither: pushing or popping such an element does not change "has a td/th in table scope" -/
def neutralN (n : Name) : Bool := !tdThN n && !markN n

/-- "has a `td` or `th` element in table scope" on the element types, **current node first** -/
def cellR : List Name → Bool := TreeAlgo.hasInScope tdThN markN

theorem cellR_nil : cellR [] = false := rfl
theorem cellR_cons (n : Name) (l : List Name) :
    cellR (n :: l) = if tdThN n then true else if markN n then false else cellR l := rfl

theorem cellR_cons_neutral {n : Name} (h : neutralN n = true) (l : List Name) : cellR (n :: l) = cellR l := by
  simp only [neutralN, Bool.and_eq_true, Bool.not_eq_true'] at h
  rw [cellR_cons, h.1, h.2]; rfl

theorem cellR_cons_td {n : Name} (h : tdThN n = true) (l : List Name) : cellR (n :: l) = true := by
  rw [cellR_cons, h]; rfl

theorem nsMathml_ne_nsHtml : nsMathml ≠ nsHtml := by decide +kernel
theorem nsSvg_ne_nsHtml : nsSvg ≠ nsHtml := by decide +kernel

/-- a name outside the HTML namespace is neutral -/
theorem neutralN_of_ns {n : Name} (h : n.ns ≠ nsHtml) : neutralN n = true := by
  have h1 : (n.ns == nsHtml) = false := by simpa using h
  have h2 : tdThN n = false := by simp [tdThN, inHtml, h1]
  have h3 : markN n = false := by
    simp only [markN, TreeAlgo.tableScopeList, TreeAlgo.inTable, TreeTables.tableScope, TreeAlgo.nsUrl,
      List.any_cons, List.any_nil, Bool.or_false]
    have : (nsHtml == n.ns) = false := by simpa using fun h' => h h'.symm
    simp [this]
  simp [neutralN, h2, h3]

/-- an HTML name other than `td`, `th`, `html`, `table`, `template` is neutral -/
theorem neutralN_of_loc {n : Name}
    (h : n.loc ≠ "td".toList ∧ n.loc ≠ "th".toList ∧ n.loc ≠ "html".toList ∧ n.loc ≠ "table".toList ∧
      n.loc ≠ "template".toList) : neutralN n = true := by
  obtain ⟨h1, h2, h3, h4, h5⟩ := h
  have k : ∀ (a : String), n.loc ≠ a.toList → (a.toList == n.loc) = false := by
    intro a ha; simpa using fun h' => ha h'.symm
  simp only [neutralN, tdThN, markN, inHtml, TreeAlgo.tableScopeList, TreeAlgo.inTable, TreeTables.tableScope,
    List.any_cons, List.any_nil, k _ h1, k _ h2, k _ h3, k _ h4, k _ h5, Bool.and_false, Bool.or_self, Bool.not_false,
    Bool.and_self]

/-- dropping elements none of which is a `td`/`th` keeps "td/th in table scope" -/
theorem cellR_dropWhile {p : Name → Bool} : ∀ {l : List Name}, (∀ n ∈ l.takeWhile p, tdThN n = false) →
    cellR l = true → cellR (l.dropWhile p) = true
  | [], _, h => h
  | n :: l, hn, h => by
    by_cases hp : p n = true
    · rw [List.dropWhile_cons_of_pos hp]
      have hn' : ∀ m ∈ (n :: l).takeWhile p, tdThN m = false := hn
      rw [List.takeWhile_cons_of_pos hp] at hn'
      have h1 : tdThN n = false := hn' n (List.mem_cons_self ..)
      rw [cellR_cons, h1] at h
      by_cases hm : markN n = true
      · rw [hm] at h; cases h
      · have hm' : markN n = false := by simpa using hm
        rw [hm'] at h
        exact cellR_dropWhile (fun m hmm => hn' m (List.mem_cons_of_mem _ hmm)) h
    · rw [List.dropWhile_cons_of_neg hp]; exact h

theorem cellR_drop : ∀ (k : Nat) {l : List Name}, (∀ n ∈ l.take k, tdThN n = false) →
    cellR l = true → cellR (l.drop k) = true
  | 0, _, _, h => h
  | _ + 1, [], _, h => h
  | k + 1, n :: l, hn, h => by
    have h1 : tdThN n = false := hn n (by simp)
    rw [cellR_cons, h1] at h
    by_cases hm : markN n = true
    · rw [hm] at h; cases h
    · have hm' : markN n = false := by simpa using hm
      rw [hm'] at h
      exact cellR_drop k (fun m hmm => hn m (by simp [hmm])) h

/-- "td/th in table scope" only looks at the non-neutral elements -/
theorem cellR_filter : ∀ (l : List Name), cellR (l.filter fun n => !neutralN n) = cellR l
  | [] => rfl
  | n :: l => by
    by_cases hn : neutralN n = true
    · rw [List.filter_cons_of_neg (by simp [hn]), cellR_cons_neutral hn, cellR_filter l]
    · have hn' : neutralN n = false := by simpa using hn
      rw [List.filter_cons_of_pos (by simp [hn']), cellR_cons, cellR_cons, cellR_filter l]

/-- two stacks with the same non-neutral elements agree on "td/th in table scope" -/
theorem cellR_congr {l l' : List Name} (h : (l'.filter fun n => !neutralN n) = l.filter fun n => !neutralN n) :
    cellR l' = cellR l := by
  rw [← cellR_filter l', h, cellR_filter]

/-- in a specific scope whose list contains `td`, `th`: no `td`/`th` above the target -/
theorem noTd_above_target {isTarget list : Name → Bool} (hl : ∀ n, tdThN n = true → list n = true) :
    ∀ {l : List Name}, TreeAlgo.hasInScope isTarget list l = true →
      ∀ n ∈ l.takeWhile (fun n => !isTarget n), tdThN n = false
  | [], h, _, _ => by cases h
  | m :: l, h, n, hn => by
    unfold TreeAlgo.hasInScope at h
    by_cases ht : isTarget m = true
    · rw [List.takeWhile_cons_of_neg (by simp [ht])] at hn; cases hn
    · have ht' : isTarget m = false := by simpa using ht
      rw [List.takeWhile_cons_of_pos (by simp [ht'])] at hn
      rw [ht'] at h
      simp only [Bool.false_eq_true, if_false] at h
      by_cases hlm : list m = true
      · rw [hlm] at h; simp at h
      · rw [if_neg hlm] at h
        rcases List.mem_cons.mp hn with rfl | hn
        · cases hh : tdThN n
          · rfl
          · exact absurd (hl n hh) hlm
        · exact noTd_above_target hl h n hn

/-! ## the state -/
section
variable {N : Type} [DecidableEq N]

/-- the element types of the stack, current node first (`= State.names`) -/
def namesOf (st : List (Elem N)) : List Name := st.reverse.map (·.name)

theorem names_eq (σ : State N) : σ.names = namesOf σ.p.stack := rfl
theorem namesOf_snoc (st : List (Elem N)) (e : Elem N) : namesOf (st ++ [e]) = e.name :: namesOf st := by
  simp [namesOf]
theorem namesOf_append (st es : List (Elem N)) : namesOf (st ++ es) = namesOf es ++ namesOf st := by
  simp [namesOf]

/-- the Assert of "in cell" is `cellR` of the stack -/
theorem hasAnyInTableScope_td (σ : State N) : hasAnyInTableScope σ ["td", "th"] = cellR σ.names := rfl

/-- the formatting start tags: the only tokens "push onto the list of active formatting elements" is used for -/
def fmtNames : List String := ["a", "b", "big", "code", "em", "font", "i", "nobr", "s", "small", "strike", "strong", "tt", "u"]
def fmtN (name : Str) : Bool := strIsOneOf name fmtNames

/-- an HTML element whose name is in a list without `td`, `th`, `html`, `table`, `template` (a finite check) is neutral -/
theorem neutralN_of_strIsOneOf {name : Str} {l : List String} (h : strIsOneOf name l = true)
    (hl : l.all (fun x => !(["td", "th", "html", "table", "template"].contains x)) = true) :
    neutralN ⟨nsHtml, name⟩ = true := by
  simp only [strIsOneOf, List.any_eq_true, beq_iff_eq] at h
  obtain ⟨x, hx, hxe⟩ := h
  have hnot : x ∉ ["td", "th", "html", "table", "template"] := by simpa using List.all_eq_true.mp hl x hx
  have hne : ∀ y ∈ ["td", "th", "html", "table", "template"], name ≠ y.toList :=
    fun y hy hc => hnot (String.toList_inj.mp (hxe.symm.trans hc) ▸ hy)
  exact neutralN_of_loc ⟨hne _ (by simp), hne _ (by simp), hne _ (by simp), hne _ (by simp), hne _ (by simp)⟩

theorem neutralN_of_fmt {name : Str} (h : fmtN name = true) : neutralN ⟨nsHtml, name⟩ = true :=
  neutralN_of_strIsOneOf h (by decide +kernel)

/-- the tokens of the list of active formatting elements are formatting start tags -/
def AFOk (l : List (Entry N ETok)) : Prop := ∀ n t, Entry.element n t ∈ l → fmtN t.name = true

def tableish : List String := ["table", "tbody", "template", "tfoot", "thead", "tr"]

/-- what "in template" pushes onto the stack of template insertion modes -/
def tmOk (m : IMode) : Prop :=
  m = .inTemplate ∨ m = .inTable ∨ m = .inColumnGroup ∨ m = .inTableBody ∨ m = .inRow ∨ m = .inBody

def tblOrig (m : IMode) : Prop := m = .inTable ∨ m = .inTableBody ∨ m = .inRow

/-- the mode is one of those `Good` says nothing about (beyond `af`, `tm`) -/
def plainMode (m : IMode) : Prop :=
  m ≠ .inCell ∧ m ≠ .text ∧ m ≠ .inTableText ∧ m ≠ .inSelect ∧ m ≠ .inSelectInTable

instance (m : IMode) : Decidable (plainMode m) := by unfold plainMode; infer_instance

/-- what the original insertion mode of "text" can be -/
def origOk (m : IMode) : Prop := m ≠ .text ∧ m ≠ .inTableText ∧ m ≠ .inSelect ∧ m ≠ .inSelectInTable

structure Good (σ : State N) : Prop where
  cell : σ.mode = .inCell → cellR σ.names = true
  text : σ.mode = .text → origOk σ.originalMode ∧ (σ.originalMode = .inCell → cellR (σ.names.drop 1) = true)
  ttext : σ.mode = .inTableText → tblOrig σ.originalMode ∧
    (σ.curIn tableish = true ∨ (σ.p.stack.head?.any fun e => inHtml tableish e.name) = true)
  nosel : σ.mode ≠ .inSelect ∧ σ.mode ≠ .inSelectInTable
  af : AFOk σ.p.list
  tm : ∀ m ∈ σ.templateModes, tmOk m

/-- the invariant: `Good` unless "stop parsing" was reached -/
def Inv (σ : State N) : Prop := σ.stopped = false → Good σ

/-- the link between the two lists that the MODEL provides for free (an element's type is a function of the
node): an element of the stack that has an entry in the list of active formatting elements has the type of the
entry's token -/
def Link (σ : State N) : Prop :=
  (∀ e ∈ σ.p.stack, ∀ t, Entry.element e.id t ∈ σ.p.list → e.name = ⟨nsHtml, t.name⟩) ∧
  (∀ e ∈ σ.p.stack, σ.p.formPointer = some e.id → e.name = ⟨nsHtml, "form".toList⟩)

/-- the consequence of `Link` (and `AFOk`) the adoption agency algorithm needs: no td/th element of the stack has an
entry in the list -/
def WLink (σ : State N) : Prop :=
  ∀ e ∈ σ.p.stack, ∀ t, Entry.element e.id t ∈ σ.p.list → tdThN e.name = false

theorem WLink.same {σ σ' : State N} (h : WLink σ) (hs : σ'.p.stack = σ.p.stack := by rfl)
    (hl : σ'.p.list = σ.p.list := by rfl) : WLink σ' := by
  unfold WLink; rw [hs, hl]; exact h

theorem Link.same {σ σ' : State N} (h : Link σ) (hs : σ'.p.stack = σ.p.stack := by rfl)
    (hl : σ'.p.list = σ.p.list := by rfl) (hf : σ'.p.formPointer = σ.p.formPointer := by rfl) : Link σ' := by
  unfold Link; rw [hs, hl, hf]; exact h

/-- the node ids taken from the supply between `sup` and its suffix `sup'` are not ids of td/th elements of `st`
(node ids are fresh: a fact about the node supply that the MODEL provides; it is needed for the adoption agency
algorithm only, which finds stack elements by their node id) -/
def FreshL (st : List (Elem N)) (sup sup' : List N) : Prop :=
  ∀ used, sup = used ++ sup' → ∀ n ∈ used, ∀ e ∈ st, tdThN e.name = true → e.id ≠ n

/-- freshness for a later stretch: the ids taken between `sup1` and `sup2`, where `sup = u ++ sup1`, `sup2 = v ++ sup'`,
for a stack whose td/th elements are elements of `st` -/
theorem FreshL.mono {st st1 : List (Elem N)} {sup sup' sup1 sup2 : List N} (h : FreshL st sup sup')
    (h1 : ∃ u, sup = u ++ sup1) (h2 : ∃ v, sup2 = v ++ sup')
    (hst : ∀ e ∈ st1, tdThN e.name = true → e ∈ st) : FreshL st1 sup1 sup2 := by
  obtain ⟨u, hu⟩ := h1
  obtain ⟨v, hv⟩ := h2
  intro used hused n hn e he htd
  exact h (u ++ used ++ v) (by rw [hu, hused, hv]; simp) n (by simp [hn]) e (hst e he htd) htd

theorem Link.weak {σ : State N} (h : Link σ) (haf : AFOk σ.p.list) : WLink σ := by
  intro e he t ht
  have hn := neutralN_of_fmt (haf _ _ ht)
  rw [← h.1 e he t ht] at hn
  simp only [neutralN, Bool.and_eq_true, Bool.not_eq_true'] at hn
  exact hn.1

def isChar : STok → Bool
  | .character _ => true
  | _ => false

/-- `Link` is needed for tags only (the adoption agency algorithm) -/
def LinkFor (σ : State N) (tok : STok) : Prop := isChar tok = false → Link σ

/-- the node ids a rule takes from the supply are fresh (needed for tags only) -/
def FreshFor (σ : State N) (tok : STok) (r : Step N) : Prop :=
  isChar tok = false → FreshL σ.p.stack σ.p.supply r.state.p.supply

/-- the post-condition of a rule of an insertion mode: the invariant; a state that is reprocessed has not stopped;
the rules of the insertion modes never answer "reprocess according to the rules of the current insertion mode in
HTML content" (only the rules for foreign content do) -/
def Post : Step N → Prop
  | .done s => Inv s
  | .reprocess s => s.stopped = false ∧ Good s
  | .reprocessHtml _ => False

@[simp] theorem post_done (s : State N) : Post (.done s) = Inv s := rfl
@[simp] theorem post_reprocess (s : State N) : Post (.reprocess s) = (s.stopped = false ∧ Good s) := rfl
@[simp] theorem post_reprocessHtml (s : State N) : Post (.reprocessHtml s) = False := rfl

/-- the post-condition of the rules for foreign content -/
def PostF : Step N → Prop
  | .done s => Inv s
  | .reprocess s => s.stopped = false ∧ Good s
  | .reprocessHtml s => s.stopped = false ∧ Good s

theorem Post.toF {r : Step N} (h : Post r) : PostF r := by
  cases r with
  | done s => exact h
  | reprocess s => exact h
  | reprocessHtml s => exact h.elim

theorem Post.inv {r : Step N} (h : Post r) : Inv r.state := by
  cases r with
  | done s => exact h
  | reprocess s => exact fun _ => h.2
  | reprocessHtml s => exact h.elim

/-- a `td` / `th` end tag: the token "in cell" never hands to "in body" -/
def cellEnd : STok → Bool
  | .endTag t => t.isOneOf ["td", "th"]
  | _ => false

/-- the rule function `f`, called in a good state in which `pre` holds, keeps the invariant (2025 text) -/
def Keeps (f : Config N → State N → STok → M (Step N)) (pre : State N → STok → Prop) : Prop :=
  ∀ (cfg : Config N), cfg.edition = .customizableSelect → ∀ (σ : State N) (tok : STok) (r : Step N),
    Good σ → σ.stopped = false → LinkFor σ tok → FreshFor σ tok r → pre σ tok → f cfg σ tok = .ok r → Post r

/-- the same for a rule function that does not need `Link` -/
def Keeps0 (f : Config N → State N → STok → M (Step N)) (pre : State N → STok → Prop) : Prop :=
  ∀ (cfg : Config N), cfg.edition = .customizableSelect → ∀ (σ : State N) (tok : STok) (r : Step N),
    Good σ → σ.stopped = false → pre σ tok → f cfg σ tok = .ok r → Post r

theorem Keeps0.keeps {f : Config N → State N → STok → M (Step N)} {pre : State N → STok → Prop} (h : Keeps0 f pre) :
    Keeps f pre := fun cfg hed σ tok r hg hst _ _ hp he => h cfg hed σ tok r hg hst hp he

/-- when "in body" may be called: not in "text" / "in table text" (see `inBody_char_eff` for the characters of
"in table text"); in "in cell" not for the `td`/`th` end tags -/
def PreBody (σ : State N) (tok : STok) : Prop :=
  σ.mode ≠ .text ∧ σ.mode ≠ .inTableText ∧ (σ.mode = .inCell → cellEnd tok = false)

/-- when "in head" may be called -/
def PreHead (σ : State N) (_ : STok) : Prop := σ.mode ≠ .text ∧ σ.mode ≠ .inTableText

/-- the rule function of the mode `m` is called in the mode `m` -/
def PreMode (m : IMode) (σ : State N) (_ : STok) : Prop := σ.mode = m

/-- "in table" is called from "in table", "in table body", "in row" -/
def PreTable (σ : State N) (_ : STok) : Prop := tblOrig σ.mode

/-- the rules of "in body", called by the rules of a mode that is none of "text", "in table text", "in cell" -/
theorem Keeps.body (hbody : Keeps (inBody (N := N)) PreBody) {cfg : Config N} (hed : cfg.edition = .customizableSelect)
    {σ : State N} {tok : STok} {r : Step N} (hg : Good σ) (hst : σ.stopped = false) (hl : LinkFor σ tok)
    (hfr : FreshFor σ tok r) {m : IMode} (hm : σ.mode = m) (hp : m ≠ .text ∧ m ≠ .inTableText ∧ m ≠ .inCell)
    (h : inBody cfg σ tok = .ok r) : Post r :=
  hbody cfg hed σ tok r hg hst hl hfr ⟨hm ▸ hp.1, hm ▸ hp.2.1, fun hc => absurd (hm.symm.trans hc) hp.2.2⟩ h

/-- the rules of "in head", called by the rules of a mode that is neither "text" nor "in table text" -/
theorem Keeps0.head (hhead : Keeps0 (inHead (N := N)) PreHead) {cfg : Config N} (hed : cfg.edition = .customizableSelect)
    {σ : State N} {tok : STok} {r : Step N} (hg : Good σ) (hst : σ.stopped = false) {m : IMode} (hm : σ.mode = m)
    (hp : m ≠ .text ∧ m ≠ .inTableText) (h : inHead cfg σ tok = .ok r) : Post r :=
  hhead cfg hed σ tok r hg hst ⟨hm ▸ hp.1, hm ▸ hp.2⟩ h

/-! ### states that differ only where `Good` does not look -/

/-- `σ'` has the insertion mode, the original insertion mode, the template insertion modes and the stopped flag
of `σ`; its stack is `st`, its list `l` -/
structure Upd (σ σ' : State N) (st : List (Elem N)) (l : List (Entry N ETok)) : Prop where
  mode : σ'.mode = σ.mode
  orig : σ'.originalMode = σ.originalMode
  tms : σ'.templateModes = σ.templateModes
  stopped : σ'.stopped = σ.stopped
  stack : σ'.p.stack = st
  list : σ'.p.list = l

theorem Upd.refl (σ : State N) : Upd σ σ σ.p.stack σ.p.list := ⟨rfl, rfl, rfl, rfl, rfl, rfl⟩

theorem Upd.trans {σ σ1 σ2 : State N} {st1 st2 l1 l2} (h1 : Upd σ σ1 st1 l1) (h2 : Upd σ1 σ2 st2 l2) : Upd σ σ2 st2 l2 :=
  ⟨h2.mode.trans h1.mode, h2.orig.trans h1.orig, h2.tms.trans h1.tms, h2.stopped.trans h1.stopped, h2.stack, h2.list⟩

/-- `Good` from its parts, for a state in a plain mode -/
theorem Good.plain {σ : State N} (hm : plainMode σ.mode) (haf : AFOk σ.p.list) (htm : ∀ m ∈ σ.templateModes, tmOk m) :
    Good σ where
  cell := fun h => absurd h hm.1
  text := fun h => absurd h hm.2.1
  ttext := fun h => absurd h hm.2.2.1
  nosel := ⟨hm.2.2.2.1, hm.2.2.2.2⟩
  af := haf
  tm := htm

/-- same mode, same original mode (neither "text" nor "in table text"); the stack changed in a way that keeps
"td/th in table scope" -/
theorem Good.upd {σ σ' : State N} {st l} (hg : Good σ) (hu : Upd σ σ' st l) (hnt : σ.mode ≠ .text)
    (hntt : σ.mode ≠ .inTableText) (hc : σ.mode = .inCell → cellR σ.names = true → cellR (namesOf st) = true)
    (haf : AFOk l) : Good σ' where
  cell := by
    intro h
    rw [names_eq, hu.stack]
    rw [hu.mode] at h
    exact hc h (hg.cell h)
  text := fun h => absurd (hu.mode ▸ h) hnt
  ttext := fun h => absurd (hu.mode ▸ h) hntt
  nosel := by rw [hu.mode]; exact hg.nosel
  af := by rw [hu.list]; exact haf
  tm := by rw [hu.tms]; exact hg.tm

/-- nothing `Good` looks at changed -/
theorem Good.same {σ σ' : State N} (hg : Good σ) (hm : σ'.mode = σ.mode := by rfl)
    (ho : σ'.originalMode = σ.originalMode := by rfl) (ht : σ'.templateModes = σ.templateModes := by rfl)
    (hs : σ'.p.stack = σ.p.stack := by rfl) (hl : σ'.p.list = σ.p.list := by rfl) : Good σ' := by
  have hn : σ'.names = σ.names := by rw [names_eq, names_eq, hs]
  have hc : σ'.curIn tableish = σ.curIn tableish := by simp only [State.curIn, State.cur, hs]
  constructor
  · intro h; rw [hn]; exact hg.cell (hm ▸ h)
  · intro h
    rw [hm, ho, hs, hn] at *
    exact hg.text h
  · intro h
    rw [ho, hc, hs]
    exact hg.ttext (hm ▸ h)
  · rw [hm]; exact hg.nosel
  · rw [hl]; exact hg.af
  · rw [ht]; exact hg.tm

theorem Inv.same {σ σ' : State N} (hg : Good σ) (hm : σ'.mode = σ.mode := by rfl)
    (ho : σ'.originalMode = σ.originalMode := by rfl) (ht : σ'.templateModes = σ.templateModes := by rfl)
    (hs : σ'.p.stack = σ.p.stack := by rfl) (hl : σ'.p.list = σ.p.list := by rfl) : Inv σ' :=
  fun _ => hg.same hm ho ht hs hl

/-- "Parse error.  Ignore the token.": the answer differs from the good state only where `Good` does not look -/
theorem post_ignore {σ σ' : State N} {r : Step N} (hg : Good σ) (h : (pure (.done σ') : M (Step N)) = .ok r)
    (hm : σ'.mode = σ.mode := by rfl) (ho : σ'.originalMode = σ.originalMode := by rfl)
    (ht : σ'.templateModes = σ.templateModes := by rfl) (hs : σ'.p.stack = σ.p.stack := by rfl)
    (hl : σ'.p.list = σ.p.list := by rfl) : Post r := by
  cases Except.ok.inj h
  exact Inv.same hg hm ho ht hs hl

/-- a rule that only inserts something (a character, a comment, a void element) that does not stay on the stack -/
theorem post_insert {σ : State N} {x : M (State N)} {r : Step N} (hg : Good σ) (h : Step.done <$> x = .ok r)
    (hx : ∀ {s}, x = .ok s → Upd σ s σ.p.stack σ.p.list) : Post r := by
  cases x with
  | error e => cases h
  | ok s =>
    cases Except.ok.inj h
    have hu := hx rfl
    exact Inv.same hg hu.mode hu.orig hu.tms hu.stack hu.list

/-- a state in a plain mode whose list and template modes are those of a good state -/
theorem Good.toPlain {σ σ' : State N} (hg : Good σ) (hm : plainMode σ'.mode)
    (ht : σ'.templateModes = σ.templateModes := by rfl) (hl : σ'.p.list = σ.p.list := by rfl) : Good σ' :=
  Good.plain hm (hl ▸ hg.af) (ht ▸ hg.tm)

/-- `Good.plain` / `Good.toPlain` with the mode named: `Good.plain' (m := .inRow) rfl (by decide) …` -/
theorem Good.plain' {σ : State N} {m : IMode} (hm : σ.mode = m) (hp : plainMode m) (haf : AFOk σ.p.list)
    (htm : ∀ m ∈ σ.templateModes, tmOk m) : Good σ := Good.plain (hm ▸ hp) haf htm

theorem Good.toPlain' {σ σ' : State N} (hg : Good σ) {m : IMode} (hm : σ'.mode = m) (hp : plainMode m)
    (ht : σ'.templateModes = σ.templateModes := by rfl) (hl : σ'.p.list = σ.p.list := by rfl) : Good σ' :=
  hg.toPlain (hm ▸ hp) ht hl

/-- after something was inserted into a good state (`hu`: the list is the old one): a state in a plain mode `m` that has
the list, the template modes and the stopped flag of the result -/
theorem Good.afterUpd {σ s1 s' : State N} {st} (hg : Good σ) (hst : σ.stopped = false) (hu : Upd σ s1 st σ.p.list)
    {m : IMode} (hm : s'.mode = m) (hp : plainMode m) (ht : s'.templateModes = s1.templateModes := by rfl)
    (hl : s'.p.list = s1.p.list := by rfl) (hs : s'.stopped = s1.stopped := by rfl) :
    s'.stopped = false ∧ Good s' :=
  ⟨hs.trans (hu.stopped.trans hst), hg.toPlain' hm hp (ht.trans hu.tms) (hl.trans hu.list)⟩

/-- `Good` for a state in "in cell" -/
theorem Good.ofCell {σ : State N} (hm : σ.mode = .inCell) (hc : cellR σ.names = true) (haf : AFOk σ.p.list)
    (htm : ∀ m ∈ σ.templateModes, tmOk m) : Good σ where
  cell := fun _ => hc
  text := fun h => by rw [hm] at h; cases h
  ttext := fun h => by rw [hm] at h; cases h
  nosel := by rw [hm]; exact ⟨(by decide), (by decide)⟩
  af := haf
  tm := htm

/-- "stop parsing" -/
theorem inv_stopParsing (σ : State N) : Inv (stopParsing σ) := fun h => by cases h

/-! ### the monad -/

theorem bind_ok {α β : Type} {x : M α} {f : α → M β} {b : β} (h : x >>= f = .ok b) :
    ∃ a, x = .ok a ∧ f a = .ok b := by
  cases x with
  | error e => cases h
  | ok a => exact ⟨a, rfl, h⟩

theorem map_ok {α β : Type} {x : M α} {f : α → β} {b : β} (h : f <$> x = .ok b) : ∃ a, x = .ok a ∧ f a = b := by
  cases x with
  | error e => cases h
  | ok a => exact ⟨a, rfl, Except.ok.inj h⟩

theorem pure_ok {α : Type} {a b : α} (h : (pure a : M α) = .ok b) : a = b := Except.ok.inj h

/-- a conditional that has the value `z` has taken one of its branches (the rules of the insertion modes are chains
of conditionals; `split at h` simplifies the whole chain at every step and is slow on them) -/
theorem ite_cases {α : Type} {c : Prop} [Decidable c] {x y z : α} (h : (if c then x else y) = z) :
    c ∧ x = z ∨ ¬c ∧ y = z := by
  by_cases hc : c
  · exact .inl ⟨hc, (if_pos hc).symm.trans h⟩
  · exact .inr ⟨hc, (if_neg hc).symm.trans h⟩

/-- a rule of the form "run `x`, answer `f` of its result" -/
theorem post_bind {α : Type} {x : M α} {f : α → Step N} {r : Step N} (h : (x >>= fun a => pure (f a)) = .ok r)
    (hx : ∀ a, x = .ok a → Post (f a)) : Post r := by
  obtain ⟨a, ha, hr⟩ := bind_ok h
  cases pure_ok hr
  exact hx a ha

theorem req_ok {α : Type} {o : Option α} {msg : String} {a : α} (h : req o msg = .ok a) : o = some a := by
  cases o with
  | none => cases h
  | some x => exact congrArg some (Except.ok.inj h)

end
end H5V.Lemmas.ModesInv
