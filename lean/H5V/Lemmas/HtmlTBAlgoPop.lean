import H5V.Lemmas.HtmlTBAlgoNoah
/-!
The model's *popping* helpers (`generate_implied_end_tags`, `pop_until_current`,
`pop_until`, `close_p_element`, `close_the_cell`, `process_end_tag_in_body`) and stack queries
against the functions of `H5V.Spec.TreeAlgo2` (stack = `List (Elem N)`, current node last), as
total-correctness triples relative to the sink (`Tot`).

Every triple says: only `openElems` (and, for `close_the_cell`, `activeFormatting`) of the tree
builder's fields changes, no edit call is made (only queries, `pop` notifications, parse errors),
the new stack is a prefix of the old one and, abstracted with the names of the *initial* DOM, it is
the stack the standard's steps produce.
-/
namespace H5V.Lemmas.HtmlTBAlgo
open H5V.Model.HtmlTB
open H5V.Model.Dom (Id SinkOp Output Dom QualName Attr NodeOrText ElementFlags NodeData)
open H5V.Lemmas.Dom
open H5V.Lemmas.HtmlTBSpec (NamesOk toName)
open H5V.Lemmas.HtmlTBTables
open H5V.Spec.TreeAlgo2 (Elem Entry PState)

/-! ### rules -/

/-- `tot_bind` with the `Ext` fact of the first computation at hand -/
theorem pop_tot_bind {α β : Type} {m : M α} {f : α → M β} {s : State} {P : α → State → List Call → Prop}
    {Q : β → State → List Call → Prop} (hm : Tot m s P)
    (hf : ∀ a s1 c1, Ext s c1 s1 → P a s1 c1 → Tot (f a) s1 (fun b s2 c2 => Q b s2 (c1 ++ c2))) :
    Tot (m >>= f) s Q :=
  tot_bind (tot_conseq hm hf)

/-- of the tree builder's fields only the stack of open elements changed -/
def StackOnly (s s' : State) : Prop :=
  s' = { s with openElems := s'.openElems, dom := s'.dom, traceRev := s'.traceRev }

theorem StackOnly.refl (s : State) : StackOnly s s := rfl

theorem StackOnly.trans {a b c : State} (h1 : StackOnly a b) (h2 : StackOnly b c) : StackOnly a c := by
  unfold StackOnly at *; rw [h2, h1]

theorem StackOnly.of_sameTB {s s' : State} (h : SameTB s s') : StackOnly s s' := by
  unfold SameTB at h; unfold StackOnly; rw [h]

theorem StackOnly.activeFormatting {s s' : State} (h : StackOnly s s') : s'.activeFormatting = s.activeFormatting := by
  unfold StackOnly at h; rw [h]

/-- the sink names the handles of `l` as `nm` says (a DOM-independent naming, stable under `Ext`) -/
def NamedBy (d : Dom) (l : List Id) (nm : Id → EName) : Prop :=
  ∀ h ∈ l, d.isElement h = true ∧ nameOf d h = nm h

theorem NamedBy.stable {d d' : Dom} {l : List Id} {nm : Id → EName} (h : NamedBy d l nm) (hs : Stable d d') :
    NamedBy d' l nm :=
  fun x hx => ⟨isElement_stable hs (h x hx).1, by rw [nameOf_stable hs (h x hx).1]; exact (h x hx).2⟩

theorem NamedBy.of_elemsOk {d : Dom} {l : List Id} (h : ElemsOk d l) : NamedBy d l (nameOf d) :=
  fun x hx => ⟨h x hx, rfl⟩

theorem NamedBy.sub {d : Dom} {l l' : List Id} {nm : Id → EName} (h : NamedBy d l nm) (hs : ∀ x ∈ l', x ∈ l) :
    NamedBy d l' nm := fun x hx => h x (hs x hx)

theorem NamedBy.tail {d : Dom} {x : Id} {l : List Id} {nm : Id → EName} (h : NamedBy d (x :: l) nm) :
    NamedBy d l nm := h.sub fun _ hy => List.mem_cons_of_mem _ hy

theorem NamedBy.reverse {d : Dom} {l : List Id} {nm : Id → EName} (h : NamedBy d l nm) :
    NamedBy d l.reverse nm := h.sub fun _ hy => List.mem_reverse.mp hy

/-! ### list lemmas -/

theorem pop_dropWhile_nil {α : Type} {p : α → Bool} {l : List α} (h : l.dropWhile p = []) :
    ∀ x ∈ l, p x = true := by
  induction l with
  | nil => intro x hx; cases hx
  | cons y l ih =>
    simp only [List.dropWhile_cons] at h
    cases hp : p y with
    | false => simp [hp] at h
    | true =>
      simp only [hp, if_true] at h
      intro x hx
      rcases List.mem_cons.mp hx with rfl | hx
      · exact hp
      · exact ih h x hx

/-- the abstraction of a stack given current node first -/
theorem pop_absStack_reverse (d : Dom) (l : List Id) : absStack d l.reverse = (absStack d l).reverse := by
  unfold absStack; rw [List.map_reverse]

theorem pop_absStack_take (d : Dom) (l : List Id) (n : Nat) : absStack d (l.take n) = (absStack d l).take n := by
  unfold absStack; rw [List.map_take]

theorem pop_elemOf_name (d : Dom) (h : Id) : (elemOf d h).name = toName (nameOf d h) := rfl

theorem ElemsOk.of_prefix {d : Dom} {l l' : List Id} (h : ElemsOk d l) (hp : l' <+: l) : ElemsOk d l' :=
  fun x hx => h x (hp.subset hx)

/-! ### `pop`, `pop` without notification, `current_node` -/

theorem pop_tot_pop {s : State} {h : Id} (hl : s.openElems.getLast? = some h) :
    Tot pop s (fun a s' calls => a = h ∧ StackOnly s s' ∧ s'.openElems = s.openElems.dropLast ∧ edits calls = []) := by
  unfold pop
  refine tot_getS_bind ?_
  simp only [hl]
  refine tot_bind (tot_set rfl rfl ?_)
  refine tot_bind (tot_conseq (tot_sinkUnit _ trivial) fun _ s1 c1 _ ⟨d', out, _, hs1, hc1⟩ => ?_)
  subst hs1 hc1
  exact tot_pure ⟨rfl, rfl, rfl, rfl⟩

theorem pop_tot_popSilently (s : State) :
    Tot popSilently s (fun a s' calls => a = s.openElems.getLast? ∧ StackOnly s s' ∧
      s'.openElems = s.openElems.dropLast ∧ calls = []) := by
  unfold popSilently
  refine tot_getS_bind ?_
  cases hl : s.openElems.getLast? with
  | none =>
    have : s.openElems = [] := List.getLast?_eq_none_iff.mp hl
    exact tot_pure ⟨rfl, rfl, by rw [this]; rfl, rfl⟩
  | some h =>
    refine tot_bind (tot_set rfl rfl ?_)
    exact tot_pure ⟨rfl, rfl, rfl, rfl⟩

/-- `current_node()`: the last entry of the stack -/
theorem pop_tot_currentNode_eq {s : State} {h : Id} (hl : s.openElems.getLast? = some h) :
    Tot currentNode s (fun a s' calls => a = h ∧ s' = s ∧ calls = []) := by
  unfold currentNode
  refine tot_getS_bind ?_
  simp only [hl]
  exact tot_pure ⟨rfl, rfl, rfl⟩

theorem pop_tot_currentNode {s : State} {h : Id} (hl : s.openElems.getLast? = some h) :
    Tot currentNode s (QueryQ s h) :=
  tot_conseq (pop_tot_currentNode_eq hl) fun _ _ _ _ ⟨h1, h2, h3⟩ => ⟨h1, h2 ▸ SameTB.refl s, by rw [h3]; rfl⟩

/-! ### 1. generate implied end tags -/

/-- the loop pops exactly the maximal run of current nodes in `set`; `r`: the stack, current node first -/
theorem pop_impliedLoop (set : EName → Bool) (nm : Id → EName) :
    ∀ (r : List Id) (s : State) (fuel : Nat), s.openElems = r.reverse → NamedBy s.dom r nm → r.length + 1 ≤ fuel →
      Tot (generateImpliedEndTagsLoop set fuel) s (fun _ s' calls => StackOnly s s' ∧
        s'.openElems = (r.dropWhile (fun h => set (nm h))).reverse ∧ edits calls = []) := by
  intro r
  induction r with
  | nil =>
    intro s fuel hs _ hf
    obtain ⟨f, rfl⟩ : ∃ f, fuel = f + 1 := ⟨fuel - 1, by omega⟩
    simp only [generateImpliedEndTagsLoop]
    refine tot_getS_bind ?_
    have hl : s.openElems.getLast? = none := by simp [hs]
    simp only [hl]
    exact tot_pure ⟨rfl, by simpa using hs, rfl⟩
  | cons h r ih =>
    intro s fuel hs hn hf
    obtain ⟨f, rfl⟩ : ∃ f, fuel = f + 1 := ⟨fuel - 1, by simp at hf; omega⟩
    have hl : s.openElems.getLast? = some h := by simp [hs]
    simp only [generateImpliedEndTagsLoop]
    refine tot_getS_bind ?_
    simp only [hl]
    refine tot_query_bind (tot_elemName' s h) fun s1 c1 he1 hs1 hc1 => ?_
    rw [(hn h (List.mem_cons_self ..)).2]
    cases hset : set (nm h) with
    | false =>
      simp only [Bool.not_false, if_true, List.dropWhile_cons, hset, Bool.false_eq_true, if_false]
      exact tot_pure ⟨StackOnly.of_sameTB hs1, by rw [hs1.openElems, hs], by simp [hc1]⟩
    | true =>
      simp only [Bool.not_true, Bool.false_eq_true, if_false, List.dropWhile_cons, hset, if_true]
      have hl1 : s1.openElems.getLast? = some h := by rw [hs1.openElems]; exact hl
      refine pop_tot_bind (pop_tot_pop hl1) fun a s2 c2 he2 ⟨_, hso, hst, hc2⟩ => ?_
      have hs2 : s2.openElems = r.reverse := by rw [hst, hs1.openElems, hs]; simp
      have hn2 : NamedBy s2.dom r nm := hn.tail.stable (he1.stable.trans he2.stable)
      refine tot_conseq (ih s2 f hs2 hn2 (by simp at hf; omega)) fun _ s3 c3 _ ⟨h1, h2, h3⟩ => ?_
      exact ⟨(StackOnly.of_sameTB hs1).trans (hso.trans h1), h2, by simp [edits_append, hc1, hc2, h3]⟩

/-- the common postcondition: of the tree builder's fields only the stack changed, it shrank to a
prefix, no edit was made, and — with the names of the initial DOM — the new stack is `f` of the old -/
def PopsTo (s : State) (f : List (Elem Id) → List (Elem Id)) (s' : State) (calls : List Call) : Prop :=
  StackOnly s s' ∧ s'.openElems <+: s.openElems ∧
    absStack s.dom s'.openElems = f (absStack s.dom s.openElems) ∧ edits calls = []

theorem pop_prefix_dropWhile {α : Type} (p : α → Bool) (l : List α) : (l.reverse.dropWhile p).reverse <+: l := by
  have := List.reverse_prefix.mpr (List.dropWhile_suffix p (l := l.reverse))
  simpa using this

/-- a set of the model, read on handles, is the standard's predicate on the abstracted entries -/
theorem pop_set_comp (d : Dom) (set : EName → Bool) (q : Spec.TreeAlgo.Name → Bool) (hq : ∀ n, set n = q (toName n)) :
    (fun h => set (nameOf d h)) = (fun e : Elem Id => q e.name) ∘ elemOf d := funext fun _ => hq _

theorem pop_abs_dropWhile (d : Dom) (l : List Id) (set : EName → Bool) (q : Spec.TreeAlgo.Name → Bool)
    (hq : ∀ n, set n = q (toName n)) :
    absStack d (l.reverse.dropWhile (fun h => set (nameOf d h))).reverse
      = ((absStack d l).reverse.dropWhile (fun e => q e.name)).reverse := by
  rw [pop_set_comp d set q hq, pop_absStack_reverse, ← pop_absStack_reverse d l]
  exact congrArg List.reverse List.dropWhile_map.symm

/-- **1.** `generate_implied_end_tags(set)`: pop while the current node is in `set` -/
theorem tot_generateImpliedEndTags (s : State) (hok : ElemsOk s.dom s.openElems) (set : EName → Bool)
    (q : Spec.TreeAlgo.Name → Bool) (hq : ∀ n, set n = q (toName n)) :
    Tot (generateImpliedEndTags set) s (fun _ s' calls =>
      PopsTo s (fun st => (st.reverse.dropWhile (fun e => q e.name)).reverse) s' calls) := by
  unfold generateImpliedEndTags
  refine tot_getS_bind ?_
  refine tot_conseq (pop_impliedLoop set (nameOf s.dom) s.openElems.reverse s _ (by simp)
    (NamedBy.of_elemsOk hok).reverse (by simp)) fun _ s' calls _ ⟨h1, h2, h3⟩ => ?_
  refine ⟨h1, ?_, ?_, h3⟩
  · rw [h2]; exact pop_prefix_dropWhile _ _
  · rw [h2]; exact pop_abs_dropWhile s.dom s.openElems set q hq

theorem PopsTo.congr {s s' : State} {calls : List Call} {f g : List (Elem Id) → List (Elem Id)}
    (h : PopsTo s f s' calls) (hfg : f (absStack s.dom s.openElems) = g (absStack s.dom s.openElems)) :
    PopsTo s g s' calls := ⟨h.1, h.2.1, hfg ▸ h.2.2.1, h.2.2.2⟩

/-- **1a.** "generate implied end tags" -/
theorem tot_generateImpliedEndTags_cursory (s : State) (hok : ElemsOk s.dom s.openElems) :
    Tot (Model.HtmlTB.generateImpliedEndTags cursoryImpliedEnd) s
      (fun _ s' calls => PopsTo s (Spec.TreeAlgo2.generateImpliedEndTags none) s' calls) :=
  tot_generateImpliedEndTags s hok _ _ fun n => (HtmlTBSpec.implied_sets_eq_spec n []).1

/-- **1b.** "generate implied end tags, except for `x` elements" -/
theorem tot_generateImpliedEndExcept (s : State) (hok : ElemsOk s.dom s.openElems) (x : Str) :
    Tot (generateImpliedEndExcept x) s
      (fun _ s' calls => PopsTo s (Spec.TreeAlgo2.generateImpliedEndTags (some x)) s' calls) :=
  tot_generateImpliedEndTags s hok _ _ fun n => (HtmlTBSpec.implied_sets_eq_spec n x).2.1

/-- **1c.** "generate implied end tags, except for `p` elements" -/
theorem tot_generateImpliedEndTags_exceptP (s : State) (hok : ElemsOk s.dom s.openElems) :
    Tot (Model.HtmlTB.generateImpliedEndTags impliedExceptP) s
      (fun _ s' calls => PopsTo s (Spec.TreeAlgo2.generateImpliedEndTags (some "p".toList)) s' calls) :=
  tot_generateImpliedEndTags s hok _ _ fun n => (HtmlTBSpec.implied_sets_eq_spec n []).2.2.1

/-- the element types of a stack, current node first (the convention of `Spec.TreeAlgo`) -/
def namesRev (st : List (Elem Id)) : List Spec.TreeAlgo.Name := st.reverse.map (·.name)

theorem pop_namesRev_popWhile (q : Spec.TreeAlgo.Name → Bool) (st : List (Elem Id)) :
    namesRev (st.reverse.dropWhile (fun e => q e.name)).reverse = (namesRev st).dropWhile q := by
  unfold namesRev
  rw [List.reverse_reverse]
  exact List.dropWhile_map.symm

/-- **1d.** "generate all implied end tags thoroughly" (`Spec.TreeAlgo`, names, current node first) -/
theorem tot_generateImpliedEndTags_thorough (s : State) (hok : ElemsOk s.dom s.openElems) :
    Tot (Model.HtmlTB.generateImpliedEndTags thoroughImpliedEnd) s (fun _ s' calls =>
      StackOnly s s' ∧ s'.openElems <+: s.openElems ∧ edits calls = [] ∧
      namesRev (absStack s.dom s'.openElems)
        = Spec.TreeAlgo.generateAllImpliedEndTagsThoroughly (namesRev (absStack s.dom s.openElems))) := by
  refine tot_conseq (tot_generateImpliedEndTags s hok _ _ fun n => (HtmlTBSpec.implied_sets_eq_spec n []).2.2.2)
    fun _ s' calls _ ⟨h1, h2, h3, h4⟩ => ⟨h1, h2, h4, ?_⟩
  rw [h3]; exact pop_namesRev_popWhile _ _

/-! ### 2. clear the stack back to a table / table body / table row context -/

theorem pop_tot_currentNodeIn {s : State} {h : Id} (hl : s.openElems.getLast? = some h) (set : EName → Bool) :
    Tot (currentNodeIn set) s (QueryQ s (set (nameOf s.dom h))) := by
  unfold currentNodeIn
  refine pop_tot_bind (pop_tot_currentNode_eq hl) fun a s1 c1 _ ⟨ha, hs1, hc1⟩ => ?_
  subst ha hs1 hc1
  refine tot_query_bind (tot_elemName' s1 a) fun s2 c2 he2 hs2 hc2 => ?_
  exact tot_pure ⟨rfl, hs2, by simp [hc2]⟩

/-- the loop pops exactly the maximal run of current nodes *not* in `set` -/
theorem pop_untilCurrentLoop (set : EName → Bool) (nm : Id → EName) :
    ∀ (r : List Id) (s : State) (fuel : Nat), s.openElems = r.reverse → NamedBy s.dom r nm → r.length + 1 ≤ fuel →
      r.any (fun h => set (nm h)) = true →
      Tot (popUntilCurrentLoop set fuel) s (fun _ s' calls => StackOnly s s' ∧
        s'.openElems = (r.dropWhile (fun h => !set (nm h))).reverse ∧ edits calls = []) := by
  intro r
  induction r with
  | nil => intro s fuel _ _ _ hex; simp at hex
  | cons h r ih =>
    intro s fuel hs hn hf hex
    obtain ⟨f, rfl⟩ : ∃ f, fuel = f + 1 := ⟨fuel - 1, by simp at hf; omega⟩
    have hl : s.openElems.getLast? = some h := by simp [hs]
    simp only [popUntilCurrentLoop]
    refine tot_query_bind (pop_tot_currentNodeIn hl set) fun s1 c1 he1 hs1 hc1 => ?_
    rw [(hn h (List.mem_cons_self ..)).2]
    cases hset : set (nm h) with
    | true =>
      simp only [if_true, List.dropWhile_cons, hset, Bool.not_true, Bool.false_eq_true, if_false]
      exact tot_pure ⟨StackOnly.of_sameTB hs1, by rw [hs1.openElems, hs], by simp [hc1]⟩
    | false =>
      simp only [Bool.false_eq_true, if_false, List.dropWhile_cons, hset, Bool.not_false, if_true]
      refine pop_tot_bind (pop_tot_popSilently s1) fun a s2 c2 he2 ⟨_, hso, hst, hc2⟩ => ?_
      have hs2 : s2.openElems = r.reverse := by rw [hst, hs1.openElems, hs]; simp
      have hn2 : NamedBy s2.dom r nm := hn.tail.stable (he1.stable.trans he2.stable)
      have hex2 : r.any (fun h => set (nm h)) = true := by simpa [hset] using hex
      refine tot_conseq (ih s2 f hs2 hn2 (by simp at hf; omega) hex2) fun _ s3 c3 _ ⟨h1, h2, h3⟩ => ?_
      exact ⟨(StackOnly.of_sameTB hs1).trans (hso.trans h1), h2, by simp [edits_append, hc1, hc2, h3]⟩

theorem pop_abs_any (d : Dom) (l : List Id) (set : EName → Bool) (q : Spec.TreeAlgo.Name → Bool)
    (hq : ∀ n, set n = q (toName n)) :
    (absStack d l).any (fun e => q e.name) = l.any (fun h => set (nameOf d h)) := by
  rw [pop_set_comp d set q hq]; exact List.any_map

/-- **2.** `pop_until_current(set)`: pop while the current node is not in `set` (some entry of the
stack is in `set`: otherwise "the current node" runs out — the model panics) -/
theorem tot_popUntilCurrent (s : State) (hok : ElemsOk s.dom s.openElems) (set : EName → Bool)
    (q : Spec.TreeAlgo.Name → Bool) (hq : ∀ n, set n = q (toName n))
    (hex : (absStack s.dom s.openElems).any (fun e => q e.name) = true) :
    Tot (popUntilCurrent set) s (fun _ s' calls =>
      PopsTo s (fun st => (st.reverse.dropWhile (fun e => !q e.name)).reverse) s' calls) := by
  unfold popUntilCurrent
  refine tot_getS_bind ?_
  have hex' : s.openElems.reverse.any (fun h => set (nameOf s.dom h)) = true := by
    rw [List.any_reverse, ← pop_abs_any s.dom s.openElems set q hq]; exact hex
  refine tot_conseq (pop_untilCurrentLoop set (nameOf s.dom) s.openElems.reverse s _ (by simp)
    (NamedBy.of_elemsOk hok).reverse (by simp) hex') fun _ s' calls _ ⟨h1, h2, h3⟩ => ?_
  refine ⟨h1, ?_, ?_, h3⟩
  · rw [h2]; exact pop_prefix_dropWhile _ _
  · rw [h2]
    exact pop_abs_dropWhile s.dom s.openElems (fun n => !set n) (fun n => !q n) fun n => by rw [hq]

theorem pop_tableScope_eq (n : EName) :
    tableScope n = Spec.TreeAlgo.inHtml Spec.TreeTables.tableContext (toName n) := by
  unfold tableScope
  rw [htmlIn_eq, memName_of_sameSet (b := rows "html" Spec.TreeTables.tableContext) (by decide +kernel), ← htmlIn_eq]
  rfl

/-- **2a.** "clear the stack back to a table context" -/
theorem tot_popUntilCurrent_table (s : State) (hok : ElemsOk s.dom s.openElems)
    (hex : (absStack s.dom s.openElems).any
      (fun e => Spec.TreeAlgo.inHtml Spec.TreeTables.tableContext e.name) = true) :
    Tot (popUntilCurrent tableScope) s
      (fun _ s' calls => PopsTo s Spec.TreeAlgo2.clearStackBackToTableContext s' calls) :=
  tot_popUntilCurrent s hok _ _ pop_tableScope_eq hex

/-- **2b.** "clear the stack back to a table body context" -/
theorem tot_popUntilCurrent_tableBody (s : State) (hok : ElemsOk s.dom s.openElems)
    (hex : (absStack s.dom s.openElems).any
      (fun e => Spec.TreeAlgo.inHtml Spec.TreeTables.tableBodyContext e.name) = true) :
    Tot (popUntilCurrent tableBodyContext) s
      (fun _ s' calls => PopsTo s Spec.TreeAlgo2.clearStackBackToTableBodyContext s' calls) :=
  tot_popUntilCurrent s hok _ _ (fun _ => rfl) hex

/-- **2c.** "clear the stack back to a table row context" -/
theorem tot_popUntilCurrent_tableRow (s : State) (hok : ElemsOk s.dom s.openElems)
    (hex : (absStack s.dom s.openElems).any
      (fun e => Spec.TreeAlgo.inHtml Spec.TreeTables.tableRowContext e.name) = true) :
    Tot (popUntilCurrent tableRowContext) s
      (fun _ s' calls => PopsTo s Spec.TreeAlgo2.clearStackBackToTableRowContext s' calls) :=
  tot_popUntilCurrent s hok _ _ (fun _ => rfl) hex

/-! ### 3. pop elements until an element of a kind has been popped -/

/-- `pop_until`: the loop pops up to and including the first entry with `pred` (everything if there
is none) and counts its iterations; `r`: the stack, current node first -/
theorem pop_untilLoop (pred : EName → Bool) (nm : Id → EName) :
    ∀ (r : List Id) (s : State) (fuel n : Nat), s.openElems = r.reverse → NamedBy s.dom r nm → r.length + 1 ≤ fuel →
      Tot (popUntilLoop pred fuel n) s (fun k s' calls => StackOnly s s' ∧
        s'.openElems = ((r.dropWhile (fun h => !pred (nm h))).drop 1).reverse ∧
        k = n + (r.takeWhile (fun h => !pred (nm h))).length + 1 ∧ edits calls = []) := by
  intro r
  induction r with
  | nil =>
    intro s fuel n hs _ hf
    obtain ⟨f, rfl⟩ : ∃ f, fuel = f + 1 := ⟨fuel - 1, by omega⟩
    simp only [popUntilLoop]
    refine pop_tot_bind (pop_tot_popSilently s) fun a s1 c1 _ ⟨ha, hso, hst, hc1⟩ => ?_
    have hl : s.openElems.getLast? = none := by simp [hs]
    rw [hl] at ha; subst ha
    refine tot_pure ⟨hso, ?_, by simp, by simp [hc1]⟩
    rw [hst, hs]; rfl
  | cons h r ih =>
    intro s fuel n hs hn hf
    obtain ⟨f, rfl⟩ : ∃ f, fuel = f + 1 := ⟨fuel - 1, by simp at hf; omega⟩
    have hl : s.openElems.getLast? = some h := by simp [hs]
    simp only [popUntilLoop]
    refine pop_tot_bind (pop_tot_popSilently s) fun a s1 c1 he1 ⟨ha, hso, hst, hc1⟩ => ?_
    rw [hl] at ha; subst ha
    have hs1 : s1.openElems = r.reverse := by rw [hst, hs]; simp
    have hn1 : NamedBy s1.dom (h :: r) nm := hn.stable he1.stable
    simp only []
    refine tot_query_bind (tot_elemName' s1 h) fun s2 c2 he2 hs2 hc2 => ?_
    rw [(hn1 h (List.mem_cons_self ..)).2]
    cases hp : pred (nm h) with
    | true =>
      simp only [if_true, List.dropWhile_cons, List.takeWhile_cons, hp, Bool.not_true, Bool.false_eq_true, if_false,
        List.drop_succ_cons, List.drop_zero, List.length_nil]
      exact tot_pure ⟨hso.trans (StackOnly.of_sameTB hs2), by rw [hs2.openElems, hs1], by omega,
        by simp [hc1, hc2]⟩
    | false =>
      simp only [Bool.false_eq_true, if_false, List.dropWhile_cons, List.takeWhile_cons, hp, Bool.not_false, if_true,
        List.length_cons]
      have hs2' : s2.openElems = r.reverse := by rw [hs2.openElems, hs1]
      refine tot_conseq (ih s2 f (n + 1) hs2' (hn1.tail.stable he2.stable) (by simp at hf; omega))
        fun _ s3 c3 _ ⟨h1, h2, h3, h4⟩ => ?_
      exact ⟨hso.trans ((StackOnly.of_sameTB hs2).trans h1), h2, by omega, by simp [edits_append, hc1, hc2, h4]⟩

theorem pop_prefix_dropWhile_drop {α : Type} (p : α → Bool) (l : List α) :
    ((l.reverse.dropWhile p).drop 1).reverse <+: l := by
  have h1 : (l.reverse.dropWhile p).drop 1 <:+ l.reverse :=
    (List.drop_suffix 1 _).trans (List.dropWhile_suffix p)
  have := List.reverse_prefix.mpr h1
  simpa using this

theorem pop_abs_dropWhile_drop (d : Dom) (l : List Id) (set : EName → Bool) (q : Spec.TreeAlgo.Name → Bool)
    (hq : ∀ n, set n = q (toName n)) :
    absStack d ((l.reverse.dropWhile (fun h => set (nameOf d h))).drop 1).reverse
      = (((absStack d l).reverse.dropWhile (fun e => q e.name)).drop 1).reverse := by
  rw [pop_set_comp d set q hq, pop_absStack_reverse, ← pop_absStack_reverse d l]
  exact congrArg List.reverse ((List.map_drop ..).trans (congrArg (List.drop 1) List.dropWhile_map.symm))

theorem pop_abs_takeWhile_length (d : Dom) (l : List Id) (set : EName → Bool) (q : Spec.TreeAlgo.Name → Bool)
    (hq : ∀ n, set n = q (toName n)) :
    ((absStack d l).reverse.takeWhile (fun e => q e.name)).length
      = (l.reverse.takeWhile (fun h => set (nameOf d h))).length := by
  rw [pop_set_comp d set q hq, ← pop_absStack_reverse d l]
  exact (congrArg List.length List.takeWhile_map).trans (List.length_map _)

/-- the number of iterations `pop_until` reports: the entries popped before the hit, plus one -/
def popCount (p : Elem Id → Bool) (stack : List (Elem Id)) : Nat :=
  (stack.reverse.takeWhile fun e => !p e).length + 1

/-- `popCount = 1` iff the current node (if there is one) is a hit -/
theorem popCount_eq_one (p : Elem Id → Bool) (stack : List (Elem Id)) :
    popCount p stack = 1 ↔ ∀ e, stack.getLast? = some e → p e = true := by
  unfold popCount
  rw [← List.head?_reverse]
  cases stack.reverse with
  | nil => simp
  | cons x r =>
    simp only [List.takeWhile_cons, List.head?_cons, Option.some.injEq]
    cases hp : p x with
    | true => simp [hp]
    | false =>
      simp only [Bool.not_false, if_true, List.length_cons]
      constructor
      · intro h; omega
      · intro h; have := h x rfl; rw [hp] at this; cases this

/-- **3.** `pop_until(pred)`: "pop elements from the stack of open elements until a `pred` element
has been popped from the stack"; the count returned is `popCount` -/
theorem tot_popUntil (s : State) (hok : ElemsOk s.dom s.openElems) (pred : EName → Bool)
    (q : Spec.TreeAlgo.Name → Bool) (hq : ∀ n, pred n = q (toName n)) :
    Tot (popUntil pred) s (fun k s' calls =>
      PopsTo s (Spec.TreeAlgo2.popUntilPopped (fun e => q e.name)) s' calls ∧
      k = popCount (fun e => q e.name) (absStack s.dom s.openElems)) := by
  unfold popUntil
  refine tot_getS_bind ?_
  refine tot_conseq (pop_untilLoop pred (nameOf s.dom) s.openElems.reverse s _ 0 (by simp)
    (NamedBy.of_elemsOk hok).reverse (by simp)) fun k s' calls _ ⟨h1, h2, h3, h4⟩ => ?_
  refine ⟨⟨h1, ?_, ?_, h4⟩, ?_⟩
  · rw [h2]; exact pop_prefix_dropWhile_drop _ _
  · rw [h2]
    exact pop_abs_dropWhile_drop s.dom s.openElems (fun n => !pred n) (fun n => !q n) fun n => by rw [hq]
  · rw [h3, popCount, pop_abs_takeWhile_length s.dom s.openElems (fun n => !pred n) (fun n => !q n) fun n => by rw [hq]]
    omega

/-- is `e` an HTML element with the tag name `name` -/
def isNamed (name : Str) (e : Elem Id) : Bool := e.name.ns == Spec.TreeAlgo.nsHtml && e.name.loc == name

/-- **3a.** `pop_until_named(name)` -/
theorem tot_popUntilNamedS (s : State) (hok : ElemsOk s.dom s.openElems) (name : Str) :
    Tot (popUntilNamedS name) s (fun k s' calls =>
      PopsTo s (Spec.TreeAlgo2.popUntilPopped (isNamed name)) s' calls ∧
      k = popCount (isNamed name) (absStack s.dom s.openElems)) :=
  tot_popUntil s hok _ (fun n => n.ns == Spec.TreeAlgo.nsHtml && n.loc == name) fun _ => rfl

/-- **3b.** `expect_to_close(name)` -/
theorem tot_expectToCloseS (s : State) (hok : ElemsOk s.dom s.openElems) (name : Str) :
    Tot (expectToCloseS name) s (fun _ s' calls =>
      PopsTo s (Spec.TreeAlgo2.popUntilPopped (isNamed name)) s' calls) := by
  unfold expectToCloseS
  refine pop_tot_bind (tot_popUntilNamedS s hok name) fun k s1 c1 he1 ⟨⟨h1, h2, h3, h4⟩, _⟩ => ?_
  by_cases hk : (k != 1) = true
  · simp only [hk, if_true]
    refine tot_conseq (tot_parseError s1 _) fun _ s2 c2 _ ⟨_, hs2, hc2⟩ => ?_
    exact ⟨h1.trans (StackOnly.of_sameTB hs2), by rw [hs2.openElems]; exact h2, by rw [hs2.openElems]; exact h3,
      by simp [edits_append, h4, hc2]⟩
  · simp only [hk]
    exact tot_pure ⟨h1, h2, h3, by simp [h4]⟩

/-! ### 4. close a p element, close the cell -/

theorem PopsTo.elemsOk {s s1 : State} {c1 : List Call} {f : List (Elem Id) → List (Elem Id)}
    (hok : ElemsOk s.dom s.openElems) (he : Ext s c1 s1) (h1 : PopsTo s f s1 c1) : ElemsOk s1.dom s1.openElems :=
  (hok.of_prefix h1.2.1).stable he.stable

/-- two popping steps in a row -/
theorem PopsTo.comp {s s1 s2 : State} {c1 c2 : List Call} {f g : List (Elem Id) → List (Elem Id)}
    (hok : ElemsOk s.dom s.openElems) (he : Ext s c1 s1) (h1 : PopsTo s f s1 c1) (h2 : PopsTo s1 g s2 c2) :
    PopsTo s (fun st => g (f st)) s2 (c1 ++ c2) := by
  obtain ⟨a1, a2, a3, a4⟩ := h1
  obtain ⟨b1, b2, b3, b4⟩ := h2
  refine ⟨a1.trans b1, b2.trans a2, ?_, by simp [edits_append, a4, b4]⟩
  have hok1 : ElemsOk s.dom s1.openElems := hok.of_prefix a2
  have hok2 : ElemsOk s.dom s2.openElems := hok1.of_prefix b2
  rw [← absStack_stable hok2 he.stable, b3, absStack_stable hok1 he.stable, a3]

theorem pop_isHtml_p (e : Elem Id) : e.name.isHtml "p" = isNamed "p".toList e := rfl

/-- **4a.** `close_p_element` -/
theorem tot_closePElement (s : State) (hok : ElemsOk s.dom s.openElems) :
    Tot Model.HtmlTB.closePElement s (fun _ s' calls => PopsTo s Spec.TreeAlgo2.closePElement s' calls) := by
  unfold Model.HtmlTB.closePElement
  refine pop_tot_bind (tot_generateImpliedEndTags_exceptP s hok) fun _ s1 c1 he1 h1 => ?_
  refine tot_conseq (tot_expectToCloseS s1 (h1.elemsOk hok he1) "p".toList) fun _ s2 c2 _ h2 => ?_
  exact PopsTo.comp (f := Spec.TreeAlgo2.generateImpliedEndTags (some "p".toList))
    (g := Spec.TreeAlgo2.popUntilPopped (isNamed "p".toList)) hok he1 h1 h2

theorem pop_tdTh_eq (n : EName) : tdTh n = ((toName n).isHtml "td" || (toName n).isHtml "th") := by
  rw [HtmlTBSpec.isHtml_eq, HtmlTBSpec.isHtml_eq]
  unfold tdTh htmlIn isOneOf isName
  cases (n.ns == nsHtml) <;> simp

/-- the model's `clear_active_formatting_to_marker` is "clear the list of active formatting elements
up to the last marker" -/
theorem pop_clearToLastMarker_eq (af : List FormatEntry) :
    absList ((clearToMarkerRev af.reverse).reverse) = Spec.TreeAlgo2.clearToLastMarker (absList af) :=
  clearToMarker_eq af

theorem pop_closeTheCell_abs (s : State) (supply : List Id) (log : List (Spec.TreeAlgo2.Edit Id Tag))
    (stk : List (Elem Id)) (lst : List (Entry Id Tag))
    (h1 : stk = Spec.TreeAlgo2.popUntilPopped (fun e => e.name.isHtml "td" || e.name.isHtml "th")
      (Spec.TreeAlgo2.generateImpliedEndTags none (absStack s.dom s.openElems)))
    (h2 : lst = Spec.TreeAlgo2.clearToLastMarker (absList s.activeFormatting)) :
    ({ absState s supply log with stack := stk, list := lst } : PState Id Tag)
      = Spec.TreeAlgo2.closeTheCell (absState s supply log) := by
  subst h1 h2; rfl

/-- **4b.** `close_the_cell`: steps 1–4 of "close the cell" on the stack and the list of active
formatting elements (names of the initial DOM); everything else is unchanged -/
theorem tot_closeTheCell (s : State) (hok : ElemsOk s.dom s.openElems) (supply : List Id)
    (log : List (Spec.TreeAlgo2.Edit Id Tag)) :
    Tot Model.HtmlTB.closeTheCell s (fun _ s' calls =>
      s' = { s with openElems := s'.openElems, activeFormatting := s'.activeFormatting,
                    dom := s'.dom, traceRev := s'.traceRev } ∧
      s'.openElems <+: s.openElems ∧ edits calls = [] ∧
      ({ absState s supply log with stack := absStack s.dom s'.openElems, list := absList s'.activeFormatting }
        : PState Id Tag) = Spec.TreeAlgo2.closeTheCell (absState s supply log)) := by
  unfold Model.HtmlTB.closeTheCell
  refine pop_tot_bind (tot_generateImpliedEndTags_cursory s hok) fun _ s1 c1 he1 h1 => ?_
  have hok1 := h1.elemsOk hok he1
  refine pop_tot_bind (tot_popUntil s1 hok1 tdTh (fun n => n.isHtml "td" || n.isHtml "th") pop_tdTh_eq)
    fun k s2 c2 he2 ⟨h2, _⟩ => ?_
  have h12 := PopsTo.comp (f := Spec.TreeAlgo2.generateImpliedEndTags none)
    (g := Spec.TreeAlgo2.popUntilPopped fun e => e.name.isHtml "td" || e.name.isHtml "th") hok he1 h1 h2
  -- the parse error (or not), then the list
  have hfin : ∀ s3 c3, SameTB s2 s3 → edits c3 = [] →
      Tot clearActiveFormattingToMarker s3 (fun _ s' c4 =>
        s' = { s with openElems := s'.openElems, activeFormatting := s'.activeFormatting,
                      dom := s'.dom, traceRev := s'.traceRev } ∧
        s'.openElems <+: s.openElems ∧ edits (c1 ++ (c2 ++ (c3 ++ c4))) = [] ∧
        ({ absState s supply log with stack := absStack s.dom s'.openElems, list := absList s'.activeFormatting }
          : PState Id Tag) = Spec.TreeAlgo2.closeTheCell (absState s supply log)) := by
    intro s3 c3 hs3 hc3
    unfold clearActiveFormattingToMarker
    refine tot_modS rfl rfl ⟨?_, ?_, ?_, ?_⟩
    · have e1 := h12.1
      unfold StackOnly at e1
      unfold SameTB at hs3
      rw [hs3, e1]
    · show s3.openElems <+: s.openElems
      rw [hs3.openElems]; exact h12.2.1
    · have := h12.2.2.2
      simp only [edits_append] at this ⊢
      simp [hc3, List.append_eq_nil_iff.mp this]
    · refine pop_closeTheCell_abs s supply log _ _ ?_ ?_
      · show absStack s.dom s3.openElems = _
        rw [hs3.openElems, h12.2.2.1]
      · show absList (clearToMarkerRev s3.activeFormatting.reverse).reverse = _
        rw [hs3.activeFormatting, h12.1.activeFormatting, pop_clearToLastMarker_eq]
  by_cases hk : (k != 1) = true
  · simp only [hk, if_true]
    refine tot_query_bind (tot_parseError s2 _) fun s3 c3 _ hs3 hc3 => ?_
    exact hfin s3 c3 hs3 hc3
  · simp only [hk]
    have := hfin s2 [] (SameTB.refl _) rfl
    simpa using this

/-! ### 5. "any other end tag" -/

/-- the special category of the model is the standard's -/
theorem pop_specialTag_eq (n : EName) :
    specialTag n = Spec.TreeAlgo.inTable Spec.TreeTables.special (toName n) := by
  rw [specialTag_rows, ← HtmlTBSpec.memName_eq_inTable, memName_of_sameSet special_model_gen,
    memName_of_sameSet special_gen_spec]

/-- the search loop of `process_end_tag_in_body` as a function of the names -/
def endTagSearchPure (name : Str) (nm : Id → EName) : List Id → Nat → Option (Option Nat)
  | [], _ => some none
  | h :: rest, len =>
    if (nm h).ns == nsHtml && (nm h).loc == name then some (some (len - 1))
    else if specialTag (nm h) then none
    else endTagSearchPure name nm rest (len - 1)

theorem pop_endTagSearch (name : Str) (nm : Id → EName) :
    ∀ (r : List Id) (s : State) (len : Nat), NamedBy s.dom r nm →
      Tot (endTagSearch name r len) s (QueryQ s (endTagSearchPure name nm r len)) := by
  intro r
  induction r with
  | nil => intro s len _; exact tot_pure ⟨rfl, rfl, rfl⟩
  | cons h r ih =>
    intro s len hn
    simp only [endTagSearch, endTagSearchPure]
    refine tot_query_query (tot_htmlElemNamedS s h name) fun s1 c1 he1 _ => ?_
    rw [(hn h (List.mem_cons_self ..)).2]
    by_cases hnamed : ((nm h).ns == nsHtml && (nm h).loc == name) = true
    · simp only [hnamed, if_true]
      exact tot_pure ⟨rfl, SameTB.refl _, rfl⟩
    · simp only [hnamed, Bool.false_eq_true, if_false]
      have hn1 := hn.stable he1.stable
      refine tot_query_query (tot_elemIn s1 h specialTag) fun s2 c2 he2 _ => ?_
      rw [(hn1 h (List.mem_cons_self ..)).2]
      by_cases hsp : specialTag (nm h) = true
      · simp only [hsp, if_true]
        exact tot_query_query (tot_parseError s2 _) fun s3 _ _ _ => tot_pure ⟨rfl, SameTB.refl _, rfl⟩
      · simp only [hsp, Bool.false_eq_true, if_false]
        exact ih s2 (len - 1) (hn1.tail.stable he2.stable)

theorem pop_search_bound (name : Str) (nm : Id → EName) :
    ∀ (r : List Id) (len i : Nat), endTagSearchPure name nm r len = some (some i) → r.length ≤ len →
      len - r.length ≤ i ∧ i < len := by
  intro r
  induction r with
  | nil => intro len i h; simp [endTagSearchPure] at h
  | cons x r ih =>
    intro len i h hl
    simp only [List.length_cons] at hl
    simp only [endTagSearchPure] at h
    by_cases hnamed : ((nm x).ns == nsHtml && (nm x).loc == name) = true
    · simp only [hnamed, if_true, Option.some.injEq] at h
      simp only [List.length_cons]; omega
    · simp only [hnamed, Bool.false_eq_true, if_false] at h
      by_cases hsp : specialTag (nm x) = true
      · simp [hsp] at h
      · simp only [hsp, Bool.false_eq_true, if_false] at h
        have := ih (len - 1) i h (by omega)
        simp only [List.length_cons]; omega

theorem pop_search_mem (name : Str) (nm : Id → EName) :
    ∀ (r : List Id) (len i : Nat), endTagSearchPure name nm r len = some (some i) →
      ∃ h ∈ r, ((nm h).ns == nsHtml && (nm h).loc == name) = true := by
  intro r
  induction r with
  | nil => intro len i h; simp [endTagSearchPure] at h
  | cons x r ih =>
    intro len i h
    simp only [endTagSearchPure] at h
    by_cases hnamed : ((nm x).ns == nsHtml && (nm x).loc == name) = true
    · exact ⟨x, List.mem_cons_self .., hnamed⟩
    · simp only [hnamed, Bool.false_eq_true, if_false] at h
      by_cases hsp : specialTag (nm x) = true
      · simp [hsp] at h
      · simp only [hsp, Bool.false_eq_true, if_false] at h
        obtain ⟨y, hy, hy'⟩ := ih (len - 1) i h
        exact ⟨y, List.mem_cons_of_mem _ hy, hy'⟩

/-- the model's search and the standard's: index from the top of the stack ↔ distance from the
current node -/
theorem pop_search_spec (name : Str) (nm : Id → EName) :
    ∀ (r : List Id) (len : Nat), r.length ≤ len →
      Spec.TreeAlgo2.anyOtherEndTagSearch name (r.map fun h => (⟨h, toName (nm h)⟩ : Elem Id))
        = ((endTagSearchPure name nm r len).getD none).map (fun i => len - 1 - i) := by
  intro r
  induction r with
  | nil => intro len _; rfl
  | cons x r ih =>
    intro len hl
    simp only [List.length_cons] at hl
    simp only [List.map_cons, Spec.TreeAlgo2.anyOtherEndTagSearch, endTagSearchPure, Spec.TreeAlgo2.isSpecial,
      ← pop_specialTag_eq]
    have hnm : ((toName (nm x)).ns == Spec.TreeAlgo.nsHtml && (toName (nm x)).loc == name)
        = ((nm x).ns == nsHtml && (nm x).loc == name) := rfl
    rw [hnm]
    by_cases hnamed : ((nm x).ns == nsHtml && (nm x).loc == name) = true
    · simp only [hnamed, if_true, Option.getD_some, Option.map_some]
      congr 1; omega
    · simp only [hnamed, Bool.false_eq_true, if_false]
      by_cases hsp : specialTag (nm x) = true
      · simp [hsp]
      · simp only [hsp, Bool.false_eq_true, if_false]
        rw [ih (len - 1) (by omega)]
        cases hres : endTagSearchPure name nm r (len - 1) with
        | none => rfl
        | some o =>
          cases o with
          | none => rfl
          | some i =>
            have := pop_search_bound name nm r (len - 1) i hres (by omega)
            simp only [Option.getD_some, Option.map_some]
            congr 1; omega

theorem pop_tot_unexpected (s : State) : Tot unexpected s (QueryQ s ProcessResult.done) := by
  unfold unexpected
  refine tot_query_bind (tot_parseError s _) fun s1 c1 _ hs1 hc1 => ?_
  exact tot_pure ⟨rfl, hs1, by simp [hc1]⟩

theorem PopsTo.of_sameTB {s s' : State} {calls : List Call} {f : List (Elem Id) → List (Elem Id)}
    (hs : SameTB s s') (hc : edits calls = []) (hf : f (absStack s.dom s.openElems) = absStack s.dom s.openElems) :
    PopsTo s f s' calls :=
  ⟨StackOnly.of_sameTB hs, by rw [hs.openElems]; exact List.prefix_refl _, by rw [hs.openElems, hf], hc⟩

/-- **5.** `process_end_tag_in_body(tag)` is the "any other end tag" entry of "in body" -/
theorem tot_processEndTagInBody (s : State) (hok : ElemsOk s.dom s.openElems) (tag : Tag) :
    Tot (processEndTagInBody tag) s (fun _ s' calls =>
      PopsTo s (Spec.TreeAlgo2.anyOtherEndTag tag.name) s' calls) := by
  unfold processEndTagInBody
  refine tot_getS_bind ?_
  have hnamed := (NamedBy.of_elemsOk hok).reverse
  refine tot_query_bind (pop_endTagSearch tag.name (nameOf s.dom) s.openElems.reverse s s.openElems.length hnamed)
    fun s1 c1 he1 hs1 hc1 => ?_
  -- the standard's search on the abstract stack
  have hspec := pop_search_spec tag.name (nameOf s.dom) s.openElems.reverse s.openElems.length (by simp)
  have habs : (s.openElems.reverse.map fun h => (⟨h, toName (nameOf s.dom h)⟩ : Elem Id))
      = (absStack s.dom s.openElems).reverse := by
    rw [← pop_absStack_reverse]; rfl
  rw [habs] at hspec
  cases hres : endTagSearchPure tag.name (nameOf s.dom) s.openElems.reverse s.openElems.length with
  | none =>
    simp only []
    rw [hres] at hspec
    refine tot_pure (PopsTo.of_sameTB hs1 (by simp [hc1]) ?_)
    unfold Spec.TreeAlgo2.anyOtherEndTag; rw [hspec]; rfl
  | some o =>
    cases o with
    | none =>
      simp only []
      rw [hres] at hspec
      refine tot_query_bind (pop_tot_unexpected s1) fun s2 c2 _ hs2 hc2 => ?_
      refine tot_pure (PopsTo.of_sameTB (hs1.trans hs2) (by simp [edits_append, hc1, hc2]) ?_)
      unfold Spec.TreeAlgo2.anyOtherEndTag; rw [hspec]; rfl
    | some i =>
      simp only []
      rw [hres] at hspec
      obtain ⟨hlo, hi⟩ := pop_search_bound tag.name (nameOf s.dom) _ _ i hres (by simp)
      obtain ⟨x, hx, hxn⟩ := pop_search_mem tag.name (nameOf s.dom) _ _ i hres
      have hok1 : ElemsOk s1.dom s1.openElems := by rw [hs1.openElems]; exact hok.stable he1.stable
      refine pop_tot_bind (tot_generateImpliedEndExcept s1 hok1 tag.name) fun _ s2 c2 he2 h2 => ?_
      refine tot_getS_bind ?_
      obtain ⟨g1, g2, g3, g4⟩ := h2
      rw [hs1.openElems] at g2
      rw [hs1.openElems, absStack_stable hok he1.stable,
        absStack_stable (hok.of_prefix g2) he1.stable] at g3
      -- the implied end tags stop at the matched node at the latest
      have hne : s2.openElems.length ≠ 0 := by
        intro h0
        have h1 : (absStack s.dom s2.openElems).length = 0 := by unfold absStack; simpa using h0
        rw [g3] at h1
        unfold Spec.TreeAlgo2.generateImpliedEndTags at h1
        have h2 : ((absStack s.dom s.openElems).reverse.dropWhile
            fun e => Spec.TreeAlgo.impliedEndTag (some tag.name) e.name) = [] := by
          simpa using h1
        have h2 := pop_dropWhile_nil h2
        have hmem : elemOf s.dom x ∈ (absStack s.dom s.openElems).reverse := by
          rw [← pop_absStack_reverse]; exact List.mem_map_of_mem hx
        have h3 := h2 _ hmem
        rw [pop_elemOf_name, ← (HtmlTBSpec.implied_sets_eq_spec (nameOf s.dom x) tag.name).2.1] at h3
        unfold impliedExcept at h3
        simp [hxn] at h3
      have hlen : (s2.openElems.length == 0) = false := by simpa using hne
      simp only [hlen, Bool.false_eq_true, if_false]
      -- the parse error (or not), then the truncation
      have hfin : ∀ s3 c3, SameTB s2 s3 → edits c3 = [] →
          Tot (modS fun s => { s with openElems := s.openElems.take i }) s3 (fun _ s' c4 =>
            PopsTo s (Spec.TreeAlgo2.anyOtherEndTag tag.name) s' (c1 ++ (c2 ++ (c3 ++ c4)))) := by
        intro s3 c3 hs3 hc3
        refine tot_modS rfl rfl ⟨?_, ?_, ?_, ?_⟩
        · have e1 := StackOnly.of_sameTB hs1
          have e3 := StackOnly.of_sameTB hs3
          unfold StackOnly at e1 g1 e3 ⊢
          rw [e3, g1, e1]
        · show s3.openElems.take i <+: s.openElems
          rw [hs3.openElems]; exact (List.take_prefix _ _).trans g2
        · show absStack s.dom (s3.openElems.take i) = _
          rw [hs3.openElems, pop_absStack_take, g3]
          unfold Spec.TreeAlgo2.anyOtherEndTag
          rw [hspec]
          have hl : (absStack s.dom s.openElems).length = s.openElems.length := by unfold absStack; simp
          simp only [Option.getD_some, Option.map_some, hl]
          congr 1; omega
        · simp [edits_append, hc1, g4, hc3]
      by_cases hm : (i != s2.openElems.length - 1) = true
      · simp only [hm, if_true]
        refine tot_query_bind (pop_tot_unexpected s2) fun s3 c3 _ hs3 hc3 => ?_
        exact hfin s3 c3 hs3 hc3
      · simp only [hm]
        have := hfin s2 [] (SameTB.refl _) rfl
        simpa using this

/-! ### 6. queries -/

theorem pop_checkBodyEndLoop : ∀ (l : List Id) (s : State), Tot (checkBodyEndLoop l) s (QueryQ s ()) := by
  intro l
  induction l with
  | nil => intro s; exact tot_pure ⟨rfl, rfl, rfl⟩
  | cons h l ih =>
    intro s
    simp only [checkBodyEndLoop]
    refine tot_query_bind (tot_elemName' s h) fun s1 c1 _ hs1 hc1 => ?_
    by_cases hb : bodyEndOk (nameOf s.dom h) = true
    · simp only [hb, if_true]
      refine tot_conseq (ih s1) fun _ s2 c2 _ ⟨_, h2, h3⟩ => ⟨rfl, hs1.trans h2, by simp [edits_append, hc1, h3]⟩
    · simp only [hb, Bool.false_eq_true, if_false]
      refine tot_conseq (tot_parseError s1 _) fun _ s2 c2 _ ⟨_, h2, h3⟩ => ⟨rfl, hs1.trans h2, by simp [edits_append, hc1, h3]⟩

/-- **6a.** `check_body_end` changes nothing (it only reports a parse error, or not) -/
theorem tot_checkBodyEnd (s : State) : Tot checkBodyEnd s (QueryQ s ()) := by
  unfold checkBodyEnd
  exact tot_getS_bind (pop_checkBodyEndLoop _ s)

theorem pop_anyHtmlElemNamed (name : String) (nm : Id → EName) :
    ∀ (l : List Id) (s : State), NamedBy s.dom l nm →
      Tot (anyHtmlElemNamed name l) s (QueryQ s (l.any fun h => (toName (nm h)).isHtml name)) := by
  intro l
  induction l with
  | nil => intro s _; exact tot_pure ⟨rfl, rfl, rfl⟩
  | cons h l ih =>
    intro s hn
    simp only [anyHtmlElemNamed, List.any_cons]
    refine tot_query_bind (tot_htmlElemNamed s h name) fun s1 c1 he1 hs1 hc1 => ?_
    rw [pop_elemOf_name, (hn h (List.mem_cons_self ..)).2]
    by_cases hb : (toName (nm h)).isHtml name = true
    · simp only [hb, if_true, Bool.true_or]
      exact tot_pure ⟨rfl, hs1, by simp [hc1]⟩
    · simp only [hb, Bool.false_eq_true, if_false, Bool.false_or]
      refine tot_conseq (ih s1 (hn.tail.stable he1.stable)) fun _ s2 c2 _ ⟨h1, h2, h3⟩ =>
        ⟨h1, hs1.trans h2, by simp [edits_append, hc1, h3]⟩

/-- **6b.** `in_html_elem_named(name)`: is there a `name` element on the stack of open elements -/
theorem pop_tot_inHtmlElemNamed (s : State) (hok : ElemsOk s.dom s.openElems) (name : String) :
    Tot (inHtmlElemNamed name) s (QueryQ s ((absStack s.dom s.openElems).any fun e => e.name.isHtml name)) := by
  unfold inHtmlElemNamed
  refine tot_getS_bind ?_
  have := pop_anyHtmlElemNamed name (nameOf s.dom) s.openElems s (NamedBy.of_elemsOk hok)
  have e : ((absStack s.dom s.openElems).any fun e => e.name.isHtml name)
      = s.openElems.any fun h => (toName (nameOf s.dom h)).isHtml name := by
    unfold absStack; rw [List.any_map]; rfl
  rw [e]; exact this

/-- **6c.** `current_node()` is the last entry of the stack (the model panics on the empty stack) -/
theorem pop_tot_currentNode_abs (s : State) (e : Elem Id) (h : (absStack s.dom s.openElems).getLast? = some e) :
    Tot currentNode s (QueryQ s e.id) := by
  unfold absStack at h
  rw [List.getLast?_map] at h
  cases hl : s.openElems.getLast? with
  | none => simp [hl] at h
  | some x =>
    simp only [hl, Option.map_some, Option.some.injEq] at h
    subst h
    exact pop_tot_currentNode hl

theorem pop_inScopeLoop (scope : EName → Bool) (q : Spec.TreeAlgo.Name → Bool) (hq : ∀ n, scope n = q (toName n))
    (name : Str) (nm : Id → EName) :
    ∀ (r : List Id) (s : State), NamedBy s.dom r nm →
      Tot (inScopeLoop scope (fun h => htmlElemNamedS h name) r) s
        (QueryQ s (Spec.TreeAlgo.hasInScope (fun n => n.ns == Spec.TreeAlgo.nsHtml && n.loc == name) q
          (r.map fun h => toName (nm h)))) := by
  intro r
  induction r with
  | nil => intro s _; exact tot_pure ⟨rfl, rfl, rfl⟩
  | cons h r ih =>
    intro s hn
    simp only [inScopeLoop, List.map_cons, Spec.TreeAlgo.hasInScope]
    have hnm : ((toName (nm h)).ns == Spec.TreeAlgo.nsHtml && (toName (nm h)).loc == name)
        = ((nm h).ns == nsHtml && (nm h).loc == name) := rfl
    rw [hnm, ← hq]
    refine tot_query_query (tot_htmlElemNamedS s h name) fun s1 c1 he1 _ => ?_
    rw [(hn h (List.mem_cons_self ..)).2]
    by_cases hnamed : ((nm h).ns == nsHtml && (nm h).loc == name) = true
    · simp only [hnamed, if_true]
      exact tot_pure ⟨rfl, SameTB.refl _, rfl⟩
    · simp only [hnamed, Bool.false_eq_true, if_false]
      have hn1 := hn.stable he1.stable
      refine tot_query_query (tot_elemName' s1 h) fun s2 c2 he2 _ => ?_
      rw [(hn1 h (List.mem_cons_self ..)).2]
      by_cases hsc : scope (nm h) = true
      · simp only [hsc, if_true]
        exact tot_pure ⟨rfl, SameTB.refl _, rfl⟩
      · simp only [hsc, Bool.false_eq_true, if_false]
        exact ih s2 (hn1.tail.stable he2.stable)

/-- **6d.** `in_scope_named(scope, name)` is "has a `name` element in the specific scope" -/
theorem tot_inScopeNamedS (s : State) (hok : ElemsOk s.dom s.openElems) (scope : EName → Bool)
    (q : Spec.TreeAlgo.Name → Bool) (hq : ∀ n, scope n = q (toName n)) (name : Str) :
    Tot (inScopeNamedS scope name) s
      (QueryQ s (Spec.TreeAlgo.hasInScope (fun n => n.ns == Spec.TreeAlgo.nsHtml && n.loc == name) q
        (namesRev (absStack s.dom s.openElems)))) := by
  unfold inScopeNamedS inScope
  refine tot_getS_bind ?_
  have := pop_inScopeLoop scope q hq name (nameOf s.dom) s.openElems.reverse s (NamedBy.of_elemsOk hok).reverse
  have e : namesRev (absStack s.dom s.openElems) = s.openElems.reverse.map fun h => toName (nameOf s.dom h) := by
    unfold namesRev absStack; rw [← List.map_reverse, List.map_map]; rfl
  rw [e]; exact this

/-- "has a `name` element in scope" -/
theorem tot_inScopeNamedS_default (s : State) (hok : ElemsOk s.dom s.openElems) (name : Str) :
    Tot (inScopeNamedS defaultScope name) s
      (QueryQ s (Spec.TreeAlgo.hasElementInScope name (namesRev (absStack s.dom s.openElems)))) :=
  tot_inScopeNamedS s hok _ _ (fun n => (HtmlTBSpec.scope_sets_eq_spec n).1) name

/-- "has a `name` element in list item scope" -/
theorem tot_inScopeNamedS_listItem (s : State) (hok : ElemsOk s.dom s.openElems) (name : Str) :
    Tot (inScopeNamedS listItemScope name) s
      (QueryQ s (Spec.TreeAlgo.hasElementInListItemScope name (namesRev (absStack s.dom s.openElems)))) :=
  tot_inScopeNamedS s hok _ _ (fun n => (HtmlTBSpec.scope_sets_eq_spec n).2.1) name

/-- "has a `name` element in button scope" -/
theorem tot_inScopeNamedS_button (s : State) (hok : ElemsOk s.dom s.openElems) (name : Str) :
    Tot (inScopeNamedS buttonScope name) s
      (QueryQ s (Spec.TreeAlgo.hasElementInButtonScope name (namesRev (absStack s.dom s.openElems)))) :=
  tot_inScopeNamedS s hok _ _ (fun n => (HtmlTBSpec.scope_sets_eq_spec n).2.2.1) name

/-- "has a `name` element in table scope" -/
theorem tot_inScopeNamedS_table (s : State) (hok : ElemsOk s.dom s.openElems) (name : Str) :
    Tot (inScopeNamedS tableScope name) s
      (QueryQ s (Spec.TreeAlgo.hasElementInTableScope name (namesRev (absStack s.dom s.openElems)))) :=
  tot_inScopeNamedS s hok _ _ (fun n => (HtmlTBSpec.scope_sets_eq_spec n).2.2.2) name

/-- **6e.** `close_p_element_in_button_scope`: "if the stack of open elements has a `p` element in
button scope, then close a `p` element" -/
theorem tot_closePElementInButtonScope (s : State) (hok : ElemsOk s.dom s.openElems) :
    Tot closePElementInButtonScope s (fun _ s' calls =>
      PopsTo s (fun st => if Spec.TreeAlgo.hasElementInButtonScope "p".toList (namesRev st)
        then Spec.TreeAlgo2.closePElement st else st) s' calls) := by
  unfold closePElementInButtonScope inScopeNamed
  refine tot_query_bind (tot_inScopeNamedS_button s hok "p".toList) fun s1 c1 he1 hs1 hc1 => ?_
  by_cases hb : Spec.TreeAlgo.hasElementInButtonScope "p".toList (namesRev (absStack s.dom s.openElems)) = true
  · simp only [hb, if_true]
    have hok1 : ElemsOk s1.dom s1.openElems := by rw [hs1.openElems]; exact hok.stable he1.stable
    refine tot_conseq (tot_closePElement s1 hok1) fun _ s2 c2 _ h2 => ?_
    have h1 : PopsTo s (fun st => st) s1 c1 := PopsTo.of_sameTB hs1 hc1 rfl
    have := PopsTo.comp (f := fun st => st) (g := Spec.TreeAlgo2.closePElement) hok he1 h1 h2
    exact this.congr (by simp only [hb, if_true])
  · simp only [hb, Bool.false_eq_true, if_false]
    exact tot_pure (PopsTo.of_sameTB hs1 (by simp [hc1]) (by simp only [hb, Bool.false_eq_true, if_false]))

/-! ### the `String` variants and the shape of the final state -/

theorem tot_popUntilNamed (s : State) (hok : ElemsOk s.dom s.openElems) (name : String) :
    Tot (popUntilNamed name) s (fun k s' calls =>
      PopsTo s (Spec.TreeAlgo2.popUntilPopped (isNamed name.toList)) s' calls ∧
      k = popCount (isNamed name.toList) (absStack s.dom s.openElems)) :=
  tot_popUntilNamedS s hok name.toList

theorem tot_expectToClose (s : State) (hok : ElemsOk s.dom s.openElems) (name : String) :
    Tot (expectToClose name) s (fun _ s' calls =>
      PopsTo s (Spec.TreeAlgo2.popUntilPopped (isNamed name.toList)) s' calls) :=
  tot_expectToCloseS s hok name.toList

theorem tot_inScopeNamed (s : State) (hok : ElemsOk s.dom s.openElems) (scope : EName → Bool)
    (q : Spec.TreeAlgo.Name → Bool) (hq : ∀ n, scope n = q (toName n)) (name : String) :
    Tot (inScopeNamed scope name) s
      (QueryQ s (Spec.TreeAlgo.hasInScope (fun n => n.ns == Spec.TreeAlgo.nsHtml && n.loc == name.toList) q
        (namesRev (absStack s.dom s.openElems)))) :=
  tot_inScopeNamedS s hok scope q hq name.toList

/-- `PopsTo`, spelled out -/
theorem PopsTo.unfold {s s' : State} {calls : List Call} {f : List (Elem Id) → List (Elem Id)}
    (h : PopsTo s f s' calls) :
    s' = { s with openElems := s'.openElems, dom := s'.dom, traceRev := s'.traceRev } ∧
    s'.openElems <+: s.openElems ∧
    absStack s.dom s'.openElems = f (absStack s.dom s.openElems) ∧ edits calls = [] := h

end H5V.Lemmas.HtmlTBAlgo

section Axioms
open H5V.Lemmas.HtmlTBAlgo
#print axioms tot_generateImpliedEndTags
#print axioms tot_generateImpliedEndTags_cursory
#print axioms tot_generateImpliedEndExcept
#print axioms tot_generateImpliedEndTags_exceptP
#print axioms tot_generateImpliedEndTags_thorough
#print axioms tot_popUntilCurrent
#print axioms tot_popUntilCurrent_table
#print axioms tot_popUntilCurrent_tableBody
#print axioms tot_popUntilCurrent_tableRow
#print axioms tot_popUntil
#print axioms popCount_eq_one
#print axioms tot_popUntilNamedS
#print axioms tot_expectToCloseS
#print axioms tot_closePElement
#print axioms pop_clearToLastMarker_eq
#print axioms tot_closeTheCell
#print axioms pop_specialTag_eq
#print axioms tot_processEndTagInBody
#print axioms tot_checkBodyEnd
#print axioms pop_tot_inHtmlElemNamed
#print axioms pop_tot_currentNode
#print axioms pop_tot_currentNode_abs
#print axioms tot_inScopeNamedS
#print axioms tot_inScopeNamedS_default
#print axioms tot_inScopeNamedS_listItem
#print axioms tot_inScopeNamedS_button
#print axioms tot_inScopeNamedS_table
#print axioms tot_closePElementInButtonScope
end Axioms
