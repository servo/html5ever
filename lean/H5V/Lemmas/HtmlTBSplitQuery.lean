import H5V.Lemmas.HtmlTBSplitBase
/-!
C03 lifted to the tree: the *queries* of the tree builder (current node, "is foreign",
appropriate place for insertion, "is marker or open" …) give the same answer in two states that
agree on the stack-like components (`openElems`, `activeFormatting`, `contextElem`,
`fosterParenting`, …) and whose DOMs answer the element queries (`elem_name`,
`get_template_contents`, `is_mathml_annotation_xml_integration_point`) alike — in particular before
and after a text insertion (`TBSplitDom.textIns_queries`).  They change nothing but the trace.
-/
namespace H5V.Lemmas.TBSplit
open H5V.Model.Dom (Id QualName Attr NodeOrText SinkOp Output ElementFlags QuirksMode Dom)
open H5V.Model.HtmlTok (TagKind RawKind)
open H5V.Model.HtmlTB
open H5V.Lemmas.TBSplitDom

/-- the two DOMs answer the element queries alike (error messages aside) -/
def DQ (d d' : Dom) : Prop :=
  ∀ h : Id, RelE (d.elemName h) (d'.elemName h) ∧ RelE (d.getTemplateContents h) (d'.getTemplateContents h) ∧
    RelE (d.isMathmlAnnotationXmlIntegrationPoint h) (d'.isMathmlAnnotationXmlIntegrationPoint h)

theorem DQ.refl (d : Dom) : DQ d d := fun _ => ⟨RelE.refl _, RelE.refl _, RelE.refl _⟩
theorem DQ.symm {d d' : Dom} (h : DQ d d') : DQ d' d := fun x => ⟨(h x).1.symm, (h x).2.1.symm, (h x).2.2.symm⟩
theorem DQ.trans {d d' d'' : Dom} (h : DQ d d') (h' : DQ d' d'') : DQ d d'' :=
  fun x => ⟨(h x).1.trans (h' x).1, (h x).2.1.trans (h' x).2.1, (h x).2.2.trans (h' x).2.2⟩

theorem DQ.of_textIns {d d' : Dom} {op : SinkOp} {o : Output} (hop : isTextIns op = true)
    (h : Dom.apply d op = .ok (d', o)) : DQ d d' := fun t => textIns_queries hop h t

/-- `s` with the components that no query looks at replaced -/
@[reducible] def qupd (s : State) (mode : Mode) (origMode : Option Mode) (pt : List (SplitStatus × Str))
    (fo : Bool) (il : Bool) (cl : Nat) (tr : List (SinkOp × Output)) (d : Dom) : State :=
  { s with mode := mode, origMode := origMode, pendingTableText := pt, framesetOk := fo, ignoreLf := il,
           currentLine := cl, traceRev := tr, dom := d }

def QSim (s t : State) : Prop :=
  ∃ mode origMode pt fo il cl tr d, t = qupd s mode origMode pt fo il cl tr d ∧ DQ s.dom d

theorem QSim.refl (s : State) : QSim s s := ⟨_, _, _, _, _, _, _, _, rfl, DQ.refl _⟩

theorem QSim.symm {s t : State} (h : QSim s t) : QSim t s := by
  obtain ⟨m, o, p, f, i, c, tr, d, rfl, hd⟩ := h
  exact ⟨s.mode, s.origMode, s.pendingTableText, s.framesetOk, s.ignoreLf, s.currentLine, s.traceRev, s.dom, rfl, hd.symm⟩

theorem QSim.trans {s t u : State} (h : QSim s t) (h' : QSim t u) : QSim s u := by
  obtain ⟨m, o, p, f, i, c, tr, d, rfl, hd⟩ := h
  obtain ⟨m', o', p', f', i', c', tr', d', rfl, hd'⟩ := h'
  exact ⟨m', o', p', f', i', c', tr', d', rfl, hd.trans hd'⟩

/-- only the trace differs -/
@[reducible] def withTr (s : State) (tr : List (SinkOp × Output)) : State := { s with traceRev := tr }

theorem QSim.withTr (s : State) (tr : List (SinkOp × Output)) : QSim s (withTr s tr) :=
  ⟨_, _, _, _, _, _, tr, _, rfl, DQ.refl _⟩

theorem withTr_withTr (s : State) (tr tr' : List (SinkOp × Output)) : withTr (withTr s tr) tr' = withTr s tr' := rfl
theorem withTr_self (s : State) : withTr s s.traceRev = s := rfl

/-- answers agree; each side changed only its trace -/
def QRel {α : Type} (s t : State) : Except String (α × State) → Except String (α × State) → Prop
  | .ok (a, s'), .ok (b, t') => a = b ∧ (∃ tr, s' = withTr s tr) ∧ (∃ tr, t' = withTr t tr)
  | .error _, .error _ => True
  | _, _ => False

/-- `m` is a query: it answers alike in `QSim` states and changes only the trace -/
def QResp {α : Type} (m : M α) : Prop := ∀ s t, QSim s t → QRel s t (m s) (m t)

theorem qresp_pure {α : Type} (a : α) : QResp (pure a : M α) :=
  fun s t _ => ⟨rfl, ⟨s.traceRev, rfl⟩, ⟨t.traceRev, rfl⟩⟩

@[qresp]
theorem qresp_throw {α : Type} (e : String) : QResp (throw e : M α) := fun _ _ _ => trivial

/-- related results of a query are two failures, or equal answers with only the traces changed -/
theorem QRel.inv {α : Type} {s t : State} {x y : Except String (α × State)} (h : QRel s t x y) :
    (∃ e e', x = .error e ∧ y = .error e') ∨
      ∃ a tr tr', x = .ok (a, withTr s tr) ∧ y = .ok (a, withTr t tr') := by
  cases x with
  | error e => cases y with
    | error e' => exact .inl ⟨e, e', rfl, rfl⟩
    | ok q => exact h.elim
  | ok p => cases y with
    | error e' => exact h.elim
    | ok q =>
      obtain ⟨a, s'⟩ := p; obtain ⟨b, t'⟩ := q
      obtain ⟨rfl, ⟨tr, rfl⟩, ⟨tr', rfl⟩⟩ := h
      exact .inr ⟨a, tr, tr', rfl, rfl⟩

theorem qresp_bind {α β : Type} {m : M α} {f : α → M β} (hm : QResp m) (hf : ∀ a, QResp (f a)) :
    QResp (m >>= f) := by
  intro s t hst
  rw [bind_apply, bind_apply]
  rcases (hm s t hst).inv with ⟨_, _, h1, h2⟩ | ⟨a, tr1, tr2, h1, h2⟩
  · rw [h1, h2]; trivial
  · rw [h1, h2]
    have hq : QSim (withTr s tr1) (withTr t tr2) := ((QSim.withTr s tr1).symm.trans hst).trans (QSim.withTr t tr2)
    show QRel s t (f a (withTr s tr1)) (f a (withTr t tr2))
    rcases (hf a _ _ hq).inv with ⟨_, _, h3, h4⟩ | ⟨c, tr3, tr4, h3, h4⟩
    · rw [h3, h4]; trivial
    · rw [h3, h4]; exact ⟨rfl, ⟨tr3, rfl⟩, ⟨tr4, rfl⟩⟩

theorem qresp_pure_bind {α β : Type} {a : α} {f : α → M β} (h : QResp (f a)) : QResp ((pure a : M α) >>= f) := h

theorem qresp_throw_bind {α β : Type} (e : String) (f : α → M β) : QResp ((throw e : M α) >>= f) :=
  fun _ _ _ => trivial
theorem qresp_panicAt_bind {α β : Type} (a b c : String) (f : α → M β) : QResp ((panicAt a b c : M α) >>= f) :=
  qresp_throw_bind _ _
@[qresp]
theorem qresp_panicAt {α : Type} (a b c : String) : QResp (panicAt a b c : M α) := qresp_throw _

theorem qresp_getS_bind {β : Type} {f : State → M β}
    (h : ∀ s, QResp (f s)) (hst : ∀ s t, QSim s t → f s = f t) : QResp (getS >>= f) := by
  intro s t hs
  rw [bind_apply, bind_apply, getS_apply, getS_apply]
  show QRel s t (f s s) (f t t)
  rw [← hst s t hs]
  exact h s s t hs

theorem qresp_ite {α : Type} {c : Prop} {_ : Decidable c} {a b : M α}
    (ha : c → QResp a) (hb : ¬ c → QResp b) : QResp (if c then a else b) := by
  split
  · exact ha ‹_›
  · exact hb ‹_›

/-! ### the sink queries -/

theorem sink_elemName_apply (d : Dom) (h : Id) :
    d.apply (.elemName h) = match d.elemName h with
      | .ok (ns, loc) => .ok (d, .name ns loc)
      | .error e => .error e := by
  show d.applyV _ _ (.elemName h) = _
  simp only [Dom.applyV]
  cases d.elemName h <;> rfl

theorem sink_tc_apply (d : Dom) (h : Id) :
    d.apply (.getTemplateContents h) = match d.getTemplateContents h with
      | .ok tc => .ok (d, .node tc)
      | .error e => .error e := by
  show d.applyV _ _ (.getTemplateContents h) = _
  simp only [Dom.applyV]
  cases d.getTemplateContents h <;> rfl

theorem sink_ip_apply (d : Dom) (h : Id) :
    d.apply (.isMathmlAnnotationXmlIntegrationPoint h) = match d.isMathmlAnnotationXmlIntegrationPoint h with
      | .ok b => .ok (d, .bool b)
      | .error e => .error e := by
  show d.applyV _ _ (.isMathmlAnnotationXmlIntegrationPoint h) = _
  simp only [Dom.applyV]
  cases d.isMathmlAnnotationXmlIntegrationPoint h <;> rfl

/-- a sink call whose answer is a function of an element query -/
theorem qresp_sink_of {γ : Type} (op : SinkOp) (q : Dom → Except String γ) (out : γ → Output)
    (hap : ∀ d, d.apply op = match q d with | .ok v => .ok (d, out v) | .error e => .error e)
    (hq : ∀ d d', DQ d d' → RelE (q d) (q d')) : QResp (sink op) := by
  intro s t hst
  obtain ⟨m, o, p, f, i, c, tr, d, rfl, hd⟩ := hst
  rw [sink_apply, sink_apply]
  have h := hq s.dom d hd
  show QRel _ _ (match s.dom.apply op with | .error e => _ | .ok (d, out) => _)
    (match d.apply op with | .error e => _ | .ok (d, out) => _)
  rw [hap s.dom, hap d]
  cases h1 : q s.dom with
  | error e =>
    rw [h1] at h
    cases h2 : q d with
    | error e' => trivial
    | ok v => rw [h2] at h; exact h.elim
  | ok v =>
    rw [h1] at h
    cases h2 : q d with
    | error e' => rw [h2] at h; exact h.elim
    | ok v' =>
      rw [h2] at h
      have : v = v' := h
      subst this
      exact ⟨rfl, ⟨_, rfl⟩, ⟨_, rfl⟩⟩

@[qresp]
theorem qresp_sink_elemName (h : Id) : QResp (sink (.elemName h)) :=
  qresp_sink_of _ (fun d => d.elemName h) (fun v => .name v.1 v.2)
    (fun d => by rw [sink_elemName_apply]; cases d.elemName h <;> rfl) (fun _ _ hd => (hd h).1)

@[qresp]
theorem qresp_sink_tc (h : Id) : QResp (sink (.getTemplateContents h)) :=
  qresp_sink_of _ (fun d => d.getTemplateContents h) (fun v => .node v)
    (fun d => by rw [sink_tc_apply]; cases d.getTemplateContents h <;> rfl) (fun _ _ hd => (hd h).2.1)

@[qresp]
theorem qresp_sink_ip (h : Id) : QResp (sink (.isMathmlAnnotationXmlIntegrationPoint h)) :=
  qresp_sink_of _ (fun d => d.isMathmlAnnotationXmlIntegrationPoint h) (fun v => .bool v)
    (fun d => by rw [sink_ip_apply]; cases d.isMathmlAnnotationXmlIntegrationPoint h <;> rfl) (fun _ _ hd => (hd h).2.2)

@[qresp]
theorem qresp_sink_sameNode (x y : Id) : QResp (sink (.sameNode x y)) :=
  qresp_sink_of _ (fun _ => (.ok (x == y) : Except String Bool)) (fun v => .bool v)
    (fun _ => rfl) (fun _ _ _ => RelE.refl _)

/-! ### automation (same skeleton as `resp_auto`) -/

macro "q_stable" : tactic =>
  `(tactic| (intro s t hst; obtain ⟨_, _, _, _, _, _, _, _, heq, _⟩ := hst; subst heq; rfl))

/-- the lemma about a query of the model is found through the simp set `qresp` -/
macro "q_step" : tactic =>
  `(tactic| first
    | (with_reducible intro _)
    | (with_reducible exact qresp_pure _)
    | (with_reducible refine qresp_ite ?_ ?_)
    | (with_reducible exact qresp_throw_bind _ _)
    | (with_reducible exact qresp_panicAt_bind _ _ _ _)
    | (with_reducible refine qresp_pure_bind ?_)
    | ((with_reducible refine qresp_getS_bind ?_ ?_); rotate_left; q_stable)
    | ((with_reducible refine qresp_bind ?_ ?_); try simp only [qresp])
    | split
    | simp only [qresp]
    | assumption
    | (with_reducible exact ‹∀ _, QResp _› _)
    | (with_reducible exact ‹∀ _ _, QResp _› _ _)
    | (simp (config := { zeta := true }) only [pure_bind]))

macro "q_auto" : tactic => `(tactic| repeat' q_step)

/-! ### the queries of the model -/

@[qresp]
theorem elemName_q (h : Id) : QResp (elemName h) := by unfold elemName; q_auto
@[qresp]
theorem sameNode_q (x y : Id) : QResp (sameNode x y) := by unfold sameNode sinkBool; q_auto
@[qresp]
theorem sinkNode_tc_q (h : Id) : QResp (sinkNode (.getTemplateContents h)) := by unfold sinkNode; q_auto
@[qresp]
theorem sinkBool_ip_q (h : Id) : QResp (sinkBool (.isMathmlAnnotationXmlIntegrationPoint h)) := by
  unfold sinkBool; q_auto

@[qresp]
theorem htmlElemNamedS_q (h : Id) (name : Str) : QResp (htmlElemNamedS h name) := by
  unfold htmlElemNamedS; q_auto
@[qresp]
theorem htmlElemNamed_q (h : Id) (name : String) : QResp (htmlElemNamed h name) := htmlElemNamedS_q _ _

@[qresp]
theorem elemIn_q (h : Id) (set : EName → Bool) : QResp (elemIn h set) := by
  unfold elemIn; q_auto

@[qresp]
theorem currentNode_q : QResp currentNode := by
  unfold currentNode; q_auto

@[qresp]
theorem adjustedCurrentNode_q : QResp adjustedCurrentNode := by
  unfold adjustedCurrentNode; q_auto

@[qresp]
theorem currentNodeIn_q (set : EName → Bool) : QResp (currentNodeIn set) := by
  unfold currentNodeIn; q_auto

@[qresp]
theorem currentNodeNamedS_q (name : Str) : QResp (currentNodeNamedS name) := by
  unfold currentNodeNamedS; q_auto
@[qresp]
theorem currentNodeNamed_q (name : String) : QResp (currentNodeNamed name) := currentNodeNamedS_q _

@[qresp]
theorem htmlElem_q : QResp htmlElem := by
  unfold htmlElem; q_auto

@[qresp]
theorem fosterLoop_q : ∀ l, QResp (fosterLoop l)
  | [] => by unfold fosterLoop; q_auto
  | e :: rest => by
    have ih := fosterLoop_q rest
    unfold fosterLoop; q_auto

@[qresp]
theorem appropriatePlaceForInsertion_q (o : Option Id) : QResp (appropriatePlaceForInsertion o) := by
  unfold appropriatePlaceForInsertion; q_auto

@[qresp]
theorem isForeign_q (token : Token) : QResp (isForeign token) := by
  unfold isForeign; q_auto

@[qresp]
theorem anySameNodeRev_q (node : Id) : ∀ l, QResp (anySameNodeRev node l)
  | [] => by unfold anySameNodeRev; q_auto
  | n :: rest => by
    have ih := anySameNodeRev_q node rest
    unfold anySameNodeRev; q_auto

@[qresp]
theorem isMarkerOrOpen_q : ∀ e, QResp (isMarkerOrOpen e)
  | .marker => by unfold isMarkerOrOpen; q_auto
  | .element node _ => by unfold isMarkerOrOpen; q_auto

@[qresp]
theorem anyHtmlElemNamed_q (name : String) : ∀ l, QResp (anyHtmlElemNamed name l)
  | [] => by unfold anyHtmlElemNamed; q_auto
  | e :: rest => by
    have ih := anyHtmlElemNamed_q name rest
    unfold anyHtmlElemNamed; q_auto

@[qresp]
theorem inHtmlElemNamed_q (name : String) : QResp (inHtmlElemNamed name) := by
  unfold inHtmlElemNamed; q_auto

/-! ### using a query lemma -/

/-- a query run in a state: error, or an answer and only the trace changed -/
theorem QResp.run {α : Type} {m : M α} (h : QResp m) (s : State) :
    (∃ e, m s = .error e) ∨ ∃ a tr, m s = .ok (a, withTr s tr) := by
  rcases (h s s (QSim.refl s)).inv with ⟨e, _, h1, _⟩ | ⟨a, tr, _, h1, _⟩
  · exact .inl ⟨e, h1⟩
  · exact .inr ⟨a, tr, h1⟩

/-- the answer transfers to a `QSim` state -/
theorem QResp.transfer {α : Type} {m : M α} (h : QResp m) {s t : State} (hst : QSim s t) {a : α} {s' : State}
    (hs : m s = .ok (a, s')) : ∃ tr, m t = .ok (a, withTr t tr) := by
  rcases (h s t hst).inv with ⟨_, _, h1, _⟩ | ⟨_, _, tr', h1, h2⟩
  · rw [hs] at h1; cases h1
  · rw [hs] at h1; cases h1; exact ⟨tr', h2⟩

theorem QResp.transfer_err {α : Type} {m : M α} (h : QResp m) {s t : State} (hst : QSim s t) {e : String}
    (hs : m s = .error e) : ∃ e', m t = .error e' := by
  rcases (h s t hst).inv with ⟨_, e', _, h2⟩ | ⟨_, _, _, h1, _⟩
  · exact ⟨e', h2⟩
  · rw [hs] at h1; cases h1

end H5V.Lemmas.TBSplit
