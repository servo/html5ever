import H5V.Lemmas.HtmlTBSafeMisc
/-!
# Tree-builder safety: what a rule (`step mode token`) guarantees

`StepPost tok res s'`: the handle invariant holds, the state invariant holds for the mode the
builder will be in when `process_to_completion` has looked at the result (`nextMode`), and the result
has a shape `process_to_completion` can handle without hitting its `assert!(more_tokens.is_empty())`
(`ResOk`: `Reprocess` carries the same token; character tokens never switch the tokenizer state).

The specifications of the rules that other rules delegate to are stated as `Prop`s (`HeadSpec`,
`BodySpec`, `TableSpec`, `AllSpec`), so that the per-mode lemmas can be proved independently, taking
the specifications of their delegates as hypotheses.
-/
namespace H5V.Lemmas.TBSafe
open H5V.Model.HtmlTB
open H5V.Model.Dom (Id QualName Attr NodeOrText SinkOp Output ElementFlags QuirksMode Dom NodeData Node)

variable {al : Allow}

def isCharsTok : Token → Bool
  | .chars _ _ => true
  | _ => false

/-- the mode after `process_to_completion` has handled the result -/
def nextMode (res : ProcessResult) (cur : Mode) : Mode :=
  match res with
  | .reprocess m _ => m
  | _ => cur

/-- the tokens the Text insertion mode can handle -/
def textTok : Token → Bool
  | .chars _ _ => true
  | .eof => true
  | .tag t => t.kind == .endTag
  | _ => false

def ResOk (tok : Token) : ProcessResult → Prop
  | .reprocess m t => t = tok ∧ m ≠ .text
  | .reprocessForeign _ => False
  | .script _ => isCharsTok tok = false
  | .toPlaintext => isCharsTok tok = false
  | .toRawData _ => isCharsTok tok = false
  | _ => True

structure StepPost (tok : Token) (res : ProcessResult) (s' : State) : Prop where
  h : HInv s'
  s : SInv (nextMode res s'.mode) s'
  r : ResOk tok res

/-! ### changing fields the invariants do not look at -/

theorem HInv.withMode {s : State} (h : HInv s) (m : Mode) : HInv { s with mode := m } :=
  ⟨h.open_el, h.open_tc, h.af, h.head, h.form, h.ctx⟩

theorem SInv.withMode {m : Mode} {s : State} (h : SInv m s) (x : Mode) : SInv m { s with mode := x } :=
  ⟨h.root, h.stack, h.head, h.headIn, h.text, h.tableText, h.pending, h.tmpl, h.tmodes⟩

theorem HInv.withFoster {s : State} (h : HInv s) (b : Bool) : HInv { s with fosterParenting := b } :=
  ⟨h.open_el, h.open_tc, h.af, h.head, h.form, h.ctx⟩

theorem SInv.withFoster {m : Mode} {s : State} (h : SInv m s) (b : Bool) : SInv m { s with fosterParenting := b } :=
  ⟨h.root, h.stack, h.head, h.headIn, h.text, h.tableText, h.pending, h.tmpl, h.tmodes⟩

theorem TI.withFoster {s : State} (h : TI s) (b : Bool) : TI { s with fosterParenting := b } :=
  ⟨h.h.withFoster b, h.s.withFoster b⟩

theorem HInv.withIgnoreLf {s : State} (h : HInv s) (b : Bool) : HInv { s with ignoreLf := b } :=
  ⟨h.open_el, h.open_tc, h.af, h.head, h.form, h.ctx⟩

theorem SInv.withIgnoreLf {m : Mode} {s : State} (h : SInv m s) (b : Bool) : SInv m { s with ignoreLf := b } :=
  ⟨h.root, h.stack, h.head, h.headIn, h.text, h.tableText, h.pending, h.tmpl, h.tmodes⟩

theorem TI.withIgnoreLf {s : State} (h : TI s) (b : Bool) : TI { s with ignoreLf := b } :=
  ⟨h.h.withIgnoreLf b, h.s.withIgnoreLf b⟩

theorem TI.rooted {s : State} (h : TI s) (hm : preRoot s.mode = false) : Rooted s.dom s.openElems := h.s.root hm

theorem TI.place {s : State} (h : TI s) (hm : preRoot s.mode = false) : PlaceOk s none :=
  PlaceOk.of_hinv h.h (h.rooted hm)

/-- switch to a mode without `orig_mode` bookkeeping: the new mode's own requirements suffice -/
theorem SInv.chmode {m m' : Mode} {s : State} (h : SInv m s) (hm : m ≠ .inTableText)
    (hr : preRoot m' = false → Rooted s.dom s.openElems) (hs : ModeStack s.dom m' s.openElems)
    (hh : needsHead m' = true → s.headElem.isSome = true) (ht : m' ≠ .text) (htt : m' ≠ .inTableText) :
    SInv m' s :=
  ⟨hr, hs, hh, h.headIn, fun e => absurd e ht, fun e => absurd e htt, fun _ => h.pending hm, h.tmpl, h.tmodes⟩

/-- the result of a body-like step that keeps the mode -/
theorem StepPost.of_bstep {tok : Token} {res : ProcessResult} {s s' : State} (ht : TI s)
    (hm : bodyLike s.mode = true) (b : BStep s s') (hk : Keeps (modeNeed s.mode) s s')
    (hn : nextMode res s'.mode = s'.mode) (hr : ResOk tok res) : StepPost tok res s' :=
  ⟨b.hinv, by rw [hn, b.mode]; exact ht.s.of_bstep ht.h b hm hk, hr⟩

/-- nothing safety-relevant changed -/
theorem StepPost.of_same {tok : Token} {res : ProcessResult} {s s' : State} (ht : TI s) (st : Same s s')
    (hn : nextMode res s'.mode = s'.mode) (hr : ResOk tok res) : StepPost tok res s' :=
  ⟨ht.h.of_same st, by rw [hn]; exact (ht.of_same st).s, hr⟩

theorem StepPost.of_qf {tok : Token} {res : ProcessResult} {s s' : State} (ht : TI s) (q : QF s s')
    (hn : nextMode res s'.mode = s'.mode) (hr : ResOk tok res) : StepPost tok res s' :=
  StepPost.of_same ht q.same hn hr

/-- `modeNeed` names are HTML names: a step that keeps all HTML elements keeps them -/
theorem Keeps.of_html {m : Mode} {s s' : State} (h : Keeps (fun n => n.ns == nsHtml) s s') :
    Keeps (modeNeed m) s s' := by
  intro x hx hp
  refine h x hx ?_
  cases m <;> simp only [modeNeed] at hp <;> try (cases hp)
  · simp only [beq_iff_eq] at hp; rw [hp]; rfl
  · simp only [tdTh, htmlIn, Bool.and_eq_true] at hp; exact hp.1

theorem Keeps.of_tdTh {m : Mode} {s s' : State} (hm : m ≠ .inHead) (h : Keeps tdTh s s') :
    Keeps (modeNeed m) s s' := by
  intro x hx hp
  cases m <;> simp only [modeNeed] at hp <;> try (cases hp)
  · exact absurd rfl hm
  · exact h x hx hp

/-! ### the tokens `InHead` is delegated -/

/-- the tokens other modes pass on to the `InHead` rules -/
def headDeleg : Token → Bool
  | .chars .whitespace _ => true
  | .comment _ => true
  | .tag tag => tag.isStart ["base", "basefont", "bgsound", "link", "meta", "noframes", "script", "style",
                              "template", "title"] || tag.isEnd ["template"]
  | _ => false

/-! ### the specifications of the delegates -/

/-- `InHead` rules: in mode `InHead` for every token; from any other mode (except the root-less ones,
`Text`, `InTableText`) for the delegated tokens -/
def HeadSpec [al : Allow] : Prop := ∀ (tok : Token) (s : State), TI s → origOk s.mode = true →
  (s.mode = .inHead ∨ headDeleg tok = true) → Sat (stepInHead tok) s (StepPost tok)

/-- `InBody` rules, run in any body-like mode but `InHead`; in `InTableText` only for character
tokens (the flush of the pending table text), in `InCell` not for `</td>`/`</th>` (which `InCell`
handles itself).  Character tokens are answered with `Done`. -/
def BodySpec [al : Allow] : Prop := ∀ (tok : Token) (s : State), TI s → bodyLike s.mode = true → s.mode ≠ .inHead →
  (s.mode = .inTableText → isCharsTok tok = true) → (s.mode = .inCell → isTagEnd tok ["td", "th"] = false) →
  Sat (stepInBody tok) s (fun res s' => StepPost tok res s' ∧ (isCharsTok tok = true → res = .done))

/-- `InTable` rules, run in `InTable`, `InTableBody` or `InRow` -/
def TableSpec [al : Allow] : Prop := ∀ (tok : Token) (s : State), TI s → tableMode s.mode = true →
  Sat (stepInTable tok) s (StepPost tok)

/-- every rule, run in its own mode; in `Text` mode either the `unreachable!` is tolerated
(`Allow.text`) or the token is one the mode can handle -/
def AllSpec [al : Allow] : Prop := ∀ (tok : Token) (s : State), TI s →
  (s.mode = .text → al.text ∨ textTok tok = true) → Sat (step s.mode tok) s (StepPost tok)

/-- what the adoption agency / "any other end tag" do to the builder state (same as `AAPost` of
HtmlTBSafeAA.lean; duplicated so that the InBody rules can be proved against hypotheses) -/
structure AAPostB (s s' : State) : Prop where
  fr : Fr s s'
  hinv : HInv s'
  rooted : Rooted s'.dom s'.openElems
  news : ∀ x ∈ s'.openElems, x ∈ s.openElems ∨ isFmtE (nm s'.dom x) = true
  keeps : ∀ x ∈ s.openElems, specialTag (nm s.dom x) = true → x ∈ s'.openElems
  tcnt : tcount s'.dom s'.openElems ≤ tcount s.dom s.openElems

/-- `process_end_tag_in_body` -/
def EndTagSpec [al : Allow] : Prop := ∀ (tag : Tag) (s : State), HInv s → Rooted s.dom s.openElems →
  tag.name ≠ "html".toList →
  Sat (processEndTagInBody tag) s (fun _ s' => ∃ pre post, s.openElems = pre ++ post ∧ St s s' pre ∧ pre ≠ [] ∧
    ∀ y ∈ post, specialTag (nm s.dom y) = false ∨ namedP s.dom tag.name y = true)

/-- `adoption_agency` -/
def AgencySpec [al : Allow] : Prop := ∀ (subject : Str) (s : State), HInv s → Rooted s.dom s.openElems →
  isOneOf subject fmtNames = true → Sat (adoptionAgency subject) s (fun _ s' => AAPostB s s')

/-- `handle_misnested_a_tags` -/
def MisnestedSpec [al : Allow] : Prop := ∀ (s : State), HInv s → Rooted s.dom s.openElems →
  Sat handleMisnestedATags s (fun _ s' => AAPostB s s')

/-- the EOF arm of `InTemplate` (also reached from `InBody`) -/
def TemplateEofSpec [al : Allow] : Prop := ∀ (s : State), TI s → origOk s.mode = true → Sat inTemplateEof s (StepPost .eof)

/-- the tokens `AfterHead` handles by pushing the head element back and using the `InHead` rules -/
def afterHeadDeleg (tok : Token) : Bool :=
  isTagStart tok ["base", "basefont", "bgsound", "link", "meta", "noframes", "script", "style", "template", "title"]

/-- `AfterHead`: `push(head); step(InHead, token); remove_from_stack(head)` -/
def AfterHeadBlockSpec [al : Allow] : Prop := ∀ (tok : Token) (head : Id) (s : State), TI s → s.mode = .afterHead →
  s.headElem = some head → afterHeadDeleg tok = true →
  Sat (do
    push head
    let result ← stepInHead tok
    removeFromStack head
    pure result) s (StepPost tok)

/-! ### the `<html>` start tag -/

theorem stepInBody_html {tag : Tag} (h : tag.isStart ["html"] = true) :
    stepInBody (.tag tag) = inBodyHtml tag := by
  unfold stepInBody
  simp only [h, if_true]

theorem sat_inBodyHtml {tag : Tag} {s : State} (hi : HInv s) (hr : Rooted s.dom s.openElems) :
    Sat (inBodyHtml tag) s (fun res s' => res = .done ∧ QF s s') := by
  unfold inBodyHtml
  refine sat_unexpected.bind ?_
  rintro _ s1 ⟨-, hq1⟩
  refine (sat_inHtmlElemNamed (by rw [hq1.openElems]; exact hi.open_el.ext hq1.ext)).bind ?_
  rintro b s2 ⟨-, hq2⟩
  have hq := hq1.trans hq2
  split
  · obtain ⟨r, rest, hl, hn⟩ := hr
    have hl2 : s2.openElems = r :: rest := by rw [hq.openElems]; exact hl
    refine (sat_htmlElemFn hl2).bind ?_
    rintro top s2' ⟨rfl, rfl⟩
    have hel : IsEl s2'.dom top := (hi.open_el top (by rw [hl]; exact List.mem_cons_self)).ext hq.ext
    refine (sat_addAttrs hel).bind ?_
    intro _ s3 hq3
    exact sat_pure ⟨rfl, hq.trans hq3⟩
  · exact sat_pure ⟨rfl, hq⟩

/-- the `<html>` start tag, as handled by every mode that has a root -/
theorem sat_stepInBody_html {tag : Tag} {s : State} (ht : TI s) (hm : preRoot s.mode = false)
    (h : tag.isStart ["html"] = true) :
    Sat (stepInBody (.tag tag)) s (StepPost (.tag tag)) := by
  rw [stepInBody_html h]
  refine (sat_inBodyHtml ht.h (ht.rooted hm)).mono ?_
  rintro res s' ⟨rfl, hq⟩
  exact StepPost.of_qf ht hq rfl trivial

end H5V.Lemmas.TBSafe
