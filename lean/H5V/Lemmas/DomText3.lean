import H5V.Lemmas.DomText2
import H5V.Lemmas.DomKinds
/-! "No adjacent text siblings" is kept by allocation, by inserting a node that is not a text node, and by any change that leaves child lists and text-ness alone. -/
namespace H5V.Lemmas.Dom
open H5V.Model.Dom

theorem NoAdjacentText.congr {d d' : Dom} (hn : NoAdjacentText d) (hc : ∀ x, d'.childrenOf x = d.childrenOf x)
    (ht : ∀ p, ∀ x ∈ d.childrenOf p, d'.isText x = d.isText x) : NoAdjacentText d' := by
  intro p
  rw [hc, noAdj_congr (ht p)]; exact hn p

theorem NoAdjacentText.alloc {d : Dom} (hw : WF d) (hn : NoAdjacentText d) (data : NodeData) :
    NoAdjacentText (d.alloc data).1 := by
  refine hn.congr (childrenOf_alloc d data) ?_
  intro p x hx
  exact isText_congr (by rw [dataOf_alloc]; simp [Nat.ne_of_lt (child_valid hw hx)])

/-- a non-text node inserted at index `i` of `P`'s child list, data untouched -/
theorem NoAdjacentText.insertNode {d d' : Dom} (hn : NoAdjacentText d) {P c : Id} {i : Nat}
    (hch : ∀ x, d'.childrenOf x = if x = P then insertAt (d.childrenOf P) i c else d.childrenOf x)
    (hd : ∀ x, d'.dataOf x = d.dataOf x) (hc : d.isText c = false) : NoAdjacentText d' := by
  intro q
  rw [hch, noAdj_congr (isT := d.isText) (fun x _ => isText_congr (hd x))]
  by_cases hq : q = P
  · subst hq
    simp only [if_true]
    unfold insertAt
    have htd := noAdj_take_drop (hn q) i
    rw [noAdj_append, noAdj_cons, htd.1, htd.2]
    simp [headT, hc]
  · simp only [hq, if_false]; exact hn q

theorem NoAdjacentText.appendBeforeSibling_node {d d' : Dom} (hn : NoAdjacentText d) {s c : Id}
    (hc : d.contractAppendBeforeSibling s (.node c) = true) (hpc : d.parentOf c = none)
    (h : d.appendBeforeSibling s (.node c) = .ok d') : NoAdjacentText d' := by
  obtain ⟨P, i, hpar, _, _, hm⟩ := appendBeforeSibling_ok h
  simp only at hm
  simp only [Dom.contractAppendBeforeSibling, hpar, Dom.childOk, Bool.and_eq_true] at hc
  obtain ⟨d1, hr, _, _, _, _, hch, hd, _, _⟩ := insertAtIndex_ok hm
  rcases removeFromParent_ok hr with ⟨_, he⟩ | ⟨p', _, hpar', _⟩
  · subst he
    exact hn.insertNode hch hd (isText_of_insertable hc.2.1.2.1.1)
  · rw [hpc] at hpar'; cases hpar'

end H5V.Lemmas.Dom
