import H5V.Lemmas.HtmlTBSplitText
/-!
C03 lifted to the tree: the fuel-free form `PTC` of `process_to_completion` on queues of
character tokens, its unfolding equation, `Sim`-respect, and the queue lemma (a run token followed by
a queued token = the run token, then the queued token).
-/
namespace H5V.Lemmas.TBSplit
open H5V.Model.Dom (Id QualName Attr NodeOrText SinkOp Output ElementFlags QuirksMode Dom)
open H5V.Model.HtmlTok (TagKind RawKind)
open H5V.Model.HtmlTB
open H5V.Props.C06 (C06_split_run_nonempty C06_split_run_concat)

/-- `process_to_completion` with enough fuel -/
def PTC (t : Token) (more : List Token) : M SinkResult :=
  fun s => processToCompletion (mu s t more + 1) t more s

theorem PTC_of_fuel {s : State} {t : Token} {more : List Token} (hg : Good s) (ht : CT t)
    (hm : ∀ t' ∈ more, CT t') {f : Nat} (hf : mu s t more < f) :
    processToCompletion f t more s = PTC t more s :=
  (ptc_chars_fuel (mu s t more + 1) s t more f (mu s t more + 1) hg ht hm (by omega) (by omega) (by omega)).1

theorem PTC_cont {s : State} {t : Token} {more : List Token} (hg : Good s) (ht : CT t)
    (hm : ∀ t' ∈ more, CT t') {r : SinkResult} {s' : State} (h : PTC t more s = .ok (r, s')) :
    r = .continue_ ∧ Good s' :=
  (ptc_chars_fuel (mu s t more + 1) s t more _ (mu s t more + 1) hg ht hm (by omega) (by omega) (by omega)).2 r s' h

/-- status of a run -/
def cls (w : Bool) : SplitStatus := if w then .whitespace else .notWhitespace

/-- the fuel-free continuation after the dispatch of a character token -/
def KInf (st : SplitStatus) (x : Str) (more : List Token) (r : ProcessResult) : M SinkResult :=
  match r with
  | .done =>
    match more with
    | [] => pure .continue_
    | t2 :: rest => PTC t2 rest
  | .reprocess m t' => fun s1 => PTC t' more { s1 with mode := m }
  | .splitWhitespace buf =>
    match popFrontCharRun buf with
    | none => pure .continue_
    | some (first, w, rest) =>
      PTC (.chars (cls w) first) (if rest.length > 0 then more ++ [.chars .notSplit rest] else more)
  | _ => fun s1 => K (mu s1 (.chars st x) more) (.chars st x) more r s1

/-- **unfolding** -/
theorem PTC_unfold {s : State} (hg : Good s) (st : SplitStatus) {x : Str} (hx : x ≠ []) {more : List Token}
    (hm : ∀ t' ∈ more, CT t') :
    PTC (.chars st x) more s = (D (.chars st x) >>= KInf st x more) s := by
  show processToCompletion (mu s (.chars st x) more + 1) (.chars st x) more s = _
  rw [ptc_succ, bind_apply, bind_apply]
  rcases D_chars_step hg st hx with ⟨e, he⟩ | ⟨k, s1, hg1, hk, hd⟩
  · rw [he]
  · rw [hd]
    simp only
    have hlen : 0 < x.length := List.length_pos_iff.mpr hx
    cases k with
    | split =>
      have hst : st = .notSplit := hk
      subst hst
      simp only [finRes, K, KInf]
      cases hpop : popFrontCharRun x with
      | none => rfl
      | some v =>
        obtain ⟨first, isWs, rest⟩ := v
        have hne := C06_split_run_nonempty hpop
        have hcat := (C06_split_run_concat hpop).1
        have hl : first.length + rest.length = x.length := by rw [← hcat, List.length_append]
        simp only []
        refine PTC_of_fuel hg1 ⟨_, first, rfl, hne⟩ ?_ ?_
        · intro t' ht'
          split at ht'
          · rename_i hr
            rcases List.mem_append.mp ht' with h | h
            · exact hm t' h
            · simp at h; subst h
              exact ⟨_, rest, rfl, by intro h0; subst h0; simp at hr⟩
          · exact hm t' ht'
        · have hb : splitBonus (Token.chars (if isWs = true then SplitStatus.whitespace else .notWhitespace) first) = 0 := by
            cases isWs <;> rfl
          have hr := rank_le s1.mode
          have htot : totLen (if rest.length > 0 then more ++ [Token.chars .notSplit rest] else more) =
              totLen more + rest.length := by
            split
            · rw [totLen_append]; simp [totLen, tokLen]
            · have : rest.length = 0 := by omega
              omega
          have hb0 : splitBonus (Token.chars .notSplit x) = 8 := rfl
          show mu s1 (Token.chars (if isWs = true then SplitStatus.whitespace else .notWhitespace) first) _ < _
          simp only [mu, tokLen]
          rw [hb, htot, hb0]
          omega
    | re m' =>
      have hk' : rank m' < rank s.mode := hk
      simp only [finRes, K, KInf, bind_apply, setMode, modS_apply]
      refine PTC_of_fuel (s := { s1 with mode := m' }) ⟨hg1.af, hg1.pend⟩ ⟨st, x, rfl, hx⟩ hm ?_
      simp only [mu]
      omega
    | drop | fa | ffa | body _ | pend =>
      all_goals
        simp only [finRes, K, KInf, Bool.false_eq_true, if_false]
        cases more with
        | nil => rfl
        | cons t2 rest =>
          have ht2 := hm t2 (List.mem_cons_self ..)
          refine PTC_of_fuel hg1 ht2 (fun t' h => hm t' (List.mem_cons_of_mem _ h)) ?_
          have h1 := rank_le s1.mode
          have h2 := splitBonus_le t2
          simp only [mu, totLen, tokLen]
          omega

/-! ### `Sim`-respect on queues of character tokens -/

theorem dPre_resp (st : SplitStatus) : Resp (dPre st) := by
  unfold dPre
  refine respQ_bind (P := fun _ => True) isForeignChars_resp ?_
  intro b _
  refine respQ_ite (fun _ => resp_pure _) (fun _ => ?_)
  refine respQ_getS_bind (fun s _ => respQ_resp (charsPre_ok s.mode st)) (by resp_stable)

theorem D_chars_resp (st : SplitStatus) {x : Str} (hx : x ≠ []) :
    RespQ (fun r => ∃ k, r = finRes k st x) (D (.chars st x)) := by
  rw [D_chars_eq]
  refine respQ_bind (P := fun _ => True) (dPre_resp st) ?_
  intro k _
  exact respQ_weaken (charsFin_resp k st x hx) (fun r hr => ⟨k, hr.eq⟩)

theorem ptc_chars_resp : ∀ (f : Nat) (t : Token) (more : List Token), CT t → (∀ t' ∈ more, CT t') →
    Resp (processToCompletion f t more)
  | 0, _, _, _, _ => by rw [ptc_zero]; exact fuelOut_resp _
  | f + 1, t, more, ht, hm => by
    obtain ⟨st, x, rfl, hx⟩ := ht
    rw [ptc_succ]
    refine respQ_bind (D_chars_resp st hx) ?_
    rintro r ⟨k, rfl⟩
    cases k with
    | split =>
      simp only [finRes, K]
      cases hpop : popFrontCharRun x with
      | none => exact resp_pure _
      | some v =>
        obtain ⟨first, isWs, rest⟩ := v
        simp only []
        refine ptc_chars_resp f _ _ ⟨_, first, rfl, C06_split_run_nonempty hpop⟩ ?_
        intro t' ht'
        split at ht'
        · rename_i hr
          rcases List.mem_append.mp ht' with h | h
          · exact hm t' h
          · simp at h; subst h
            exact ⟨_, rest, rfl, by intro h0; subst h0; simp at hr⟩
        · exact hm t' ht'
    | re m' =>
      simp only [finRes, K]
      exact respQ_bind (P := fun _ => True) (setMode_resp m') (fun _ _ => ptc_chars_resp f _ more ⟨st, x, rfl, hx⟩ hm)
    | drop | fa | ffa | body _ | pend =>
      all_goals
        simp only [finRes, K, Bool.false_eq_true, if_false]
        cases more with
        | nil => exact resp_pure _
        | cons t2 rest =>
          exact ptc_chars_resp f t2 rest (hm t2 (List.mem_cons_self ..)) (fun t' h => hm t' (List.mem_cons_of_mem _ h))

theorem mu_sim {s t : State} (h : Sim s t) (tok : Token) (more : List Token) : mu s tok more = mu t tok more := by
  simp only [mu, h.mode]

theorem PTC_resp {t : Token} {more : List Token} (ht : CT t) (hm : ∀ t' ∈ more, CT t') : Resp (PTC t more) := by
  intro s u hsu
  show RelR _ (processToCompletion (mu s t more + 1) t more s) (processToCompletion (mu u t more + 1) t more u)
  rw [← mu_sim hsu]
  exact ptc_chars_resp _ t more ht hm s u hsu

/-! ### evaluation helpers -/

/-- `Done` becomes `Continue` -/
def toCont : Except String (ProcessResult × State) → Except String (SinkResult × State)
  | .ok (_, s) => .ok (.continue_, s)
  | .error e => .error e

/-- a dispatch that consumes the token, with an empty queue -/
theorem PTC_term {u u0 : State} (hg : Good u) {st : SplitStatus} {y : Str} (hy : y ≠ []) {k : CKind}
    (hd : dPre st u = .ok (k, u0)) (hk : finRes k st y = .done) :
    PTC (.chars st y) [] u = toCont (charsFin k st y u0) := by
  rw [PTC_unfold hg st hy (by simp), D_chars_eq, bind_apply, bind_apply, hd]
  simp only
  obtain ⟨_, hg0⟩ := dPre_post hg hd
  cases hf : charsFin k st y u0 with
  | error e => rfl
  | ok v =>
    obtain ⟨r, u1⟩ := v
    have := ((charsFin_resp k st y hy).post hg0 hf).1.eq
    rw [hk] at this
    subst this
    rfl

/-- a dispatch that reprocesses the token in another mode -/
theorem PTC_re {u u0 : State} (hg : Good u) {st : SplitStatus} {y : Str} (hy : y ≠ []) {more : List Token}
    (hm : ∀ t' ∈ more, CT t') {m' : Mode} (hd : dPre st u = .ok (.re m', u0)) :
    PTC (.chars st y) more u = PTC (.chars st y) more { u0 with mode := m' } := by
  rw [PTC_unfold hg st hy hm, D_chars_eq, bind_apply, bind_apply, hd]
  rfl

/-- a dispatch that splits the token -/
theorem PTC_split {u u0 : State} (hg : Good u) {y : Str} (hy : y ≠ []) {more : List Token}
    (hm : ∀ t' ∈ more, CT t') (hd : dPre .notSplit u = .ok (.split, u0)) :
    PTC (.chars .notSplit y) more u = KInf .notSplit y more (.splitWhitespace y) u0 := by
  rw [PTC_unfold hg _ hy hm, D_chars_eq, bind_apply, bind_apply, hd]
  rfl

theorem dPre_error {u : State} {st : SplitStatus} {e : String} {x : Str} (hg : Good u) (hx : x ≠ [])
    {more : List Token} (hm : ∀ t' ∈ more, CT t') (hd : dPre st u = .error e) :
    PTC (.chars st x) more u = .error e := by
  rw [PTC_unfold hg st hx hm, D_chars_eq, bind_apply, bind_apply, hd]

theorem dPre_eval_false {u : State} {tr : List (SinkOp × Output)} (st : SplitStatus)
    (h : isForeignChars u = .ok (false, withTr u tr)) : dPre st u = charsPre u.mode st (withTr u tr) := by
  unfold dPre
  rw [bind_apply, h]
  simp only [Bool.false_eq_true, if_false]
  rw [bind_apply, getS_apply]

theorem dPre_eval_true {u : State} {tr : List (SinkOp × Output)} (st : SplitStatus)
    (h : isForeignChars u = .ok (true, withTr u tr)) : dPre st u = .ok (.ffa, withTr u tr) := by
  unfold dPre
  rw [bind_apply, h]
  rfl

/-- what `dPre` did -/
theorem dPre_inv {s s0 : State} {st : SplitStatus} {k : CKind} (h : dPre st s = .ok (k, s0)) :
    ∃ tr, (isForeignChars s = .ok (true, withTr s tr) ∧ k = .ffa ∧ s0 = withTr s tr) ∨
      (isForeignChars s = .ok (false, withTr s tr) ∧ charsPre s.mode st (withTr s tr) = .ok (k, s0)) := by
  rcases isForeignChars_run s with ⟨e, he⟩ | ⟨b, tr, hb⟩
  · unfold dPre at h; rw [bind_apply, he] at h; cases h
  · refine ⟨tr, ?_⟩
    cases b with
    | true =>
      rw [dPre_eval_true st hb] at h
      cases h
      exact Or.inl ⟨hb, rfl, rfl⟩
    | false =>
      rw [dPre_eval_false st hb] at h
      exact Or.inr ⟨hb, h⟩

/-! ### the queue lemma -/

/-- **a run token followed by one queued token** -/
theorem PTC_queue : ∀ (n : Nat) (s : State) (st : SplitStatus) (x : Str) (t2 : Token), Good s → x ≠ [] →
    st ≠ .notSplit → CT t2 → rank s.mode < n →
    PTC (.chars st x) [t2] s = (PTC (.chars st x) [] >>= fun _ => PTC t2 []) s
  | 0, _, _, _, _, _, _, _, _, h => by omega
  | n + 1, s, st, x, t2, hg, hx, hst, ht2, hr => by
    have hm2 : ∀ t' ∈ [t2], CT t' := by intro t' h; simp at h; subst h; exact ht2
    rw [bind_apply]
    cases hd : dPre st s with
    | error e =>
      rw [dPre_error hg hx hm2 hd, dPre_error hg hx (by simp) hd]
    | ok v =>
      obtain ⟨k, s0⟩ := v
      obtain ⟨hk, hg0⟩ := dPre_post hg hd
      cases k with
      | split => exact (hst hk).elim
      | re m' =>
        have hk' : rank m' < rank s.mode := hk
        rw [PTC_re hg hx hm2 hd, PTC_re hg hx (by simp) hd]
        have := PTC_queue n { s0 with mode := m' } st x t2 ⟨hg0.af, hg0.pend⟩ hx hst ht2 (by show rank m' < n; omega)
        rw [bind_apply] at this
        exact this
      | drop | fa | ffa | body _ | pend =>
        all_goals
          rw [PTC_term hg hx hd rfl]
          rw [PTC_unfold hg st hx hm2, D_chars_eq, bind_apply, bind_apply, hd]
          simp only
          cases hf : charsFin _ st x s0 with
          | error e => rfl
          | ok v =>
            obtain ⟨r, s1⟩ := v
            have hr := ((charsFin_resp _ st x hx).post hg0 hf).1.eq
            simp only [finRes] at hr
            subst hr
            rfl

end H5V.Lemmas.TBSplit
