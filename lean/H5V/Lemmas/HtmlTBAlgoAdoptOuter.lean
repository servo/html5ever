import H5V.Lemmas.HtmlTBAlgoAdopt
import H5V.Lemmas.HtmlTBAlgoBookmark
/-!
(o) the adoption agency algorithm, one round of the outer loop (steps 4.3–4.19) and the whole.
-/
namespace H5V.Lemmas.HtmlTBAlgo
open H5V.Model.HtmlTB
open H5V.Model.Dom (Id SinkOp Output Dom QualName Attr NodeOrText ElementFlags NodeData)
open H5V.Lemmas.Dom
open H5V.Lemmas.HtmlTBSpec (NamesOk toName)
open H5V.Spec.TreeAlgo2
open H5V.Spec.TreeAlgo (Name)

/-! ### `aaOuterStep`, cut into chunks -/

def aaStep19 (fmtElem furthestBlock newElement : Id) : M Bool := do
  removeFromStack fmtElem
  match ← positionSameNode furthestBlock (← getS).openElems 0 with
  | none => panicAt "fb-missing" "mod.rs:916" "furthest block missing from open element stack"
  | some nfbi =>
    modS fun s => { s with openElems := s.openElems.insertIdx (nfbi + 1) newElement }
    pure false

def aaStep18 (fmtElem : Id) (fmtElemTag : Tag) (furthestBlock newElement : Id) (bookmark : H5V.Model.HtmlTB.Bookmark) : M Bool := do
  match bookmark with
  | .replace toReplace =>
    match ← positionInActiveFormatting toReplace with
    | none => panicAt "bookmark-missing" "mod.rs:893" "bookmark not found in active formatting elements"
    | some index => modS fun s => { s with activeFormatting := s.activeFormatting.set index (FormatEntry.element newElement fmtElemTag) }
  | .insertAfter previous =>
    match ← positionInActiveFormatting previous with
    | none => panicAt "bookmark-missing" "mod.rs:899" "bookmark not found in active formatting elements"
    | some index =>
      modS fun s => { s with activeFormatting := s.activeFormatting.insertIdx (index + 1) (FormatEntry.element newElement fmtElemTag) }
      match ← positionInActiveFormatting fmtElem with
      | none => panicAt "fmt-missing" "mod.rs:904" "formatting element not found in active formatting elements"
      | some oldIndex => afRemove oldIndex "mod.rs:905"
  aaStep19 fmtElem furthestBlock newElement

def aaStep14 (fmtElem : Id) (fmtElemTag : Tag) (furthestBlock commonAncestor lastNode : Id)
    (bookmark : H5V.Model.HtmlTB.Bookmark) : M Bool := do
  sinkUnit (.removeFromParent lastNode)
  insertAppropriately (.node lastNode) (some commonAncestor)
  let newElement ← createElementWithFlags (htmlQual fmtElemTag.name) fmtElemTag.attrs fmtElemTag.hadDup
  sinkUnit (.reparentChildren furthestBlock newElement)
  sinkUnit (.append furthestBlock (.node newElement))
  aaStep18 fmtElem fmtElemTag furthestBlock newElement bookmark

def aaStep12 (fmtElem : Id) (fmtElemTag : Tag) (furthestBlockIndex : Nat) (furthestBlock commonAncestor : Id) : M Bool := do
  let (lastNode, bookmark) ←
    aaInner fmtElem furthestBlock furthestBlockIndex 0 furthestBlock (.replace fmtElem)
  aaStep14 fmtElem fmtElemTag furthestBlock commonAncestor lastNode bookmark

def aaStep11b (fmtElem : Id) (fmtElemTag : Tag) (fmtElemStackIndex furthestBlockIndex : Nat) (furthestBlock : Id) : M Bool := do
  let commonAncestor ← match (← getS).openElems[fmtElemStackIndex - 1]? with
    | some c => pure c
    | none => panicAt "index-oob" "mod.rs:789" "open_elems[fmt_elem_stack_index - 1]"
  aaStep12 fmtElem fmtElemTag furthestBlockIndex furthestBlock commonAncestor

def aaStep11 (fmtElem : Id) (fmtElemTag : Tag) (fmtElemStackIndex furthestBlockIndex : Nat) (furthestBlock : Id) : M Bool := do
  if fmtElemStackIndex == 0 then panicAt "sub-overflow" "mod.rs:789" "fmt_elem_stack_index - 1"
  aaStep11b fmtElem fmtElemTag fmtElemStackIndex furthestBlockIndex furthestBlock

def aaStep9 (fmtElemIndex : Nat) (fmtElem : Id) (fmtElemTag : Tag) (fmtElemStackIndex : Nat) : M Bool := do
  match ← findFurthestBlock ((← getS).openElems.drop fmtElemStackIndex) fmtElemStackIndex with
  | none =>
    modS fun s => { s with openElems := s.openElems.take fmtElemStackIndex }
    afRemove fmtElemIndex "mod.rs:784"
    pure true
  | some (furthestBlockIndex, furthestBlock) =>
    aaStep11 fmtElem fmtElemTag fmtElemStackIndex furthestBlockIndex furthestBlock

def aaStep8 (fmtElemIndex : Nat) (fmtElem : Id) (fmtElemTag : Tag) (fmtElemStackIndex : Nat) : M Bool := do
  let cur ← currentNode
  if !(← sameNode cur fmtElem) then parseError "Formatting element not current node"
  aaStep9 fmtElemIndex fmtElem fmtElemTag fmtElemStackIndex

theorem aaOuterStep_eq (subject : Str) :
    aaOuterStep subject = (do
      match (afEndToMarker (← getS).activeFormatting).find? (fun (x : Nat × Id × Tag) => x.2.2.name == subject) with
      | none =>
        processEndTagInBody { kind := .endTag, name := subject, selfClosing := false, attrs := [], hadDup := false }
        pure true
      | some (fmtElemIndex, fmtElem, fmtElemTag) =>
        match ← rposition (fun n => sameNode n fmtElem) with
        | none =>
          parseError "Formatting element not open"
          afRemove fmtElemIndex "mod.rs:754"
          pure true
        | some fmtElemStackIndex =>
          if !(← inScope defaultScope (fun n => sameNode n fmtElem)) then
            parseError "Formatting element not in scope"
            pure true
          else aaStep8 fmtElemIndex fmtElem fmtElemTag fmtElemStackIndex) := rfl

/-! ### steps 19 and 18 -/

theorem tot_aaStep19 (s : State) (fe fb new : Id) (p j : Nat)
    (hp : stackPos fe (absStack s.dom s.openElems) = some p)
    (hj : (s.openElems.eraseIdx p).findIdx? (fun n => n == fb) = some j) :
    Tot (aaStep19 fe fb new) s (fun ret s' calls => ret = false ∧
      s' = { s with openElems := (s.openElems.eraseIdx p).insertIdx (j + 1) new,
                    dom := s'.dom, traceRev := s'.traceRev } ∧ edits calls = []) := by
  unfold aaStep19
  refine tot_bind (tot_conseq (tot_removeFromStack s fe) fun _ s1 c1 _ ⟨hs1, hc1⟩ => ?_)
  rw [hp] at hs1
  simp only [] at hs1
  have hopen1 : s1.openElems = s.openElems.eraseIdx p := by rw [hs1]
  refine tot_getS_bind ?_
  refine tot_query_bind (tot_positionSameNode fb s1.openElems 0 s1) fun s2 c2 _ hs2 hc2 => ?_
  rw [hopen1, hj]
  simp only [Option.map_some, Nat.add_zero]
  refine tot_bind (tot_modS rfl rfl ?_)
  refine tot_pure ⟨rfl, ?_, ?_⟩
  · simp only []
    rw [hs2.openElems, hopen1]
    unfold SameTB at hs2; rw [hs2, hs1]
  · simp [edits_append, hc1, hc2]

/-- step 18 on the list, for the standard's bookmark -/
def list18 {N T : Type} [DecidableEq N] (bm : Spec.TreeAlgo2.Bookmark N) (fe : N) (ne : Entry N T) (l : List (Entry N T)) :
    Option (List (Entry N T)) :=
  match bm with
  | .atFormattingElement => (listPos fe l).map fun i => l.set i ne
  | .after x => (listPos fe l).bind fun i => insertAfter x ne (l.eraseIdx i)

theorem absList_length (af : List FormatEntry) : (absList af).length = af.length := by simp [absList]

theorem tot_aaStep18 (s : State) (fe : Id) (tag : Tag) (fb new : Id) (bm : H5V.Model.HtmlTB.Bookmark) (n0 : Nat)
    (hbm : BmOk fe n0 s.activeFormatting bm) (hfel : ∃ t, FormatEntry.element fe t ∈ s.activeFormatting)
    (hfe_old : (fe : Nat) < n0) (hnew : new ≠ fe) (p j : Nat)
    (hp : stackPos fe (absStack s.dom s.openElems) = some p)
    (hj : (s.openElems.eraseIdx p).findIdx? (fun n => n == fb) = some j) :
    Tot (aaStep18 fe tag fb new bm) s (fun ret s' calls => ret = false ∧ edits calls = [] ∧
      ∃ af', list18 (absBm bm) fe (.element new tag) (absList s.activeFormatting) = some (absList af') ∧
        s' = { s with activeFormatting := af', openElems := (s.openElems.eraseIdx p).insertIdx (j + 1) new,
                      dom := s'.dom, traceRev := s'.traceRev }) := by
  obtain ⟨tfe, hfe_mem⟩ := hfel
  obtain ⟨ife, hife⟩ := listPos_isSome_of_mem fe s.activeFormatting tfe hfe_mem
  -- the last chunk
  have h19 : ∀ (s2 : State) (c2 : List Call) (af' : List FormatEntry), Ext s c2 s2 → edits c2 = [] →
      s2 = { s with activeFormatting := af', dom := s2.dom, traceRev := s2.traceRev } →
      list18 (absBm bm) fe (.element new tag) (absList s.activeFormatting) = some (absList af') →
      Tot (aaStep19 fe fb new) s2 (fun ret s' c3 => ret = false ∧ edits (c2 ++ c3) = [] ∧
        ∃ af', list18 (absBm bm) fe (.element new tag) (absList s.activeFormatting) = some (absList af') ∧
          s' = { s with activeFormatting := af', openElems := (s.openElems.eraseIdx p).insertIdx (j + 1) new,
                        dom := s'.dom, traceRev := s'.traceRev }) := by
    intro s2 c2 af' he2 hc2 hs2 hl
    have hopen2 : s2.openElems = s.openElems := by rw [hs2]
    have hp2 : stackPos fe (absStack s2.dom s2.openElems) = some p := by
      rw [hopen2]; unfold stackPos at hp ⊢; rw [lastPos_ids (fun n => n == fe) s2.dom s.dom]; exact hp
    refine tot_conseq (tot_aaStep19 s2 fe fb new p j hp2 (by rw [hopen2]; exact hj)) fun ret s3 c3 _ ⟨hr, hs3, hc3⟩ => ?_
    refine ⟨hr, by rw [edits_append, hc2, hc3]; rfl, af', hl, ?_⟩
    rw [hs3, hopen2, hs2]
  unfold aaStep18
  cases bm with
  | replace h =>
    have hh : h = fe := hbm
    subst hh
    simp only []
    refine tot_query_bind (tot_positionInAF s h) fun s1 c1 he1 hs1 hc1 => ?_
    rw [hife]
    simp only []
    refine tot_bind (tot_modS rfl rfl ?_)
    have := h19 { s1 with activeFormatting := s1.activeFormatting.set ife (.element new tag) } c1
      (s.activeFormatting.set ife (.element new tag))
      ⟨he1.trace, he1.replay, he1.stable⟩ hc1
      (by rw [hs1.activeFormatting]; unfold SameTB at hs1; rw [hs1])
      (by simp only [list18, absBm, hife, Option.map_some, absList_set, absEntry])
    exact this
  | insertAfter x =>
    obtain ⟨hx0, tx, hx_mem⟩ := hbm
    obtain ⟨ix, hix⟩ := listPos_isSome_of_mem x s.activeFormatting tx hx_mem
    have hxfe : x ≠ fe := Nat.ne_of_gt (Nat.lt_of_lt_of_le hfe_old hx0)
    obtain ⟨k, hk, hklt, hkeq⟩ := bookmark_insert_then_remove (absList s.activeFormatting) x fe (.element new tag) ix hxfe
      (by simp [Entry.node?, hnew]) hix (by rw [hife]; rfl)
    simp only []
    refine tot_query_bind (tot_positionInAF s x) fun s1 c1 he1 hs1 hc1 => ?_
    rw [hix]
    simp only []
    refine tot_bind (tot_modS rfl rfl ?_)
    generalize hs2 : ({ s1 with activeFormatting := s1.activeFormatting.insertIdx (ix + 1) (.element new tag) } : State) = s2
    have haf2 : s2.activeFormatting = s.activeFormatting.insertIdx (ix + 1) (.element new tag) := by
      rw [← hs2, hs1.activeFormatting]
    have hE2 : Ext s c1 s2 := by rw [← hs2]; exact ⟨he1.trace, he1.replay, he1.stable⟩
    refine tot_query_bind (tot_positionInAF s2 fe) fun s3 c3 he3 hs3 hc3 => ?_
    rw [haf2, absList_insertIdx, absEntry, hk]
    simp only []
    have hk3 : k < s3.activeFormatting.length := by
      rw [hs3.activeFormatting, haf2]
      have := hklt
      rw [← absEntry, ← absList_insertIdx, absList_length] at this
      exact this
    refine tot_bind (tot_conseq (tot_afRemove s3 k "mod.rs:905" hk3) fun _ s4 c4 he4 ⟨hs4, hc4⟩ => ?_)
    subst hc4
    have := h19 s4 ((c1 ++ c3) ++ []) ((s.activeFormatting.insertIdx (ix + 1) (.element new tag)).eraseIdx k)
      ((hE2.trans he3).trans he4) (by simp [edits_append, hc1, hc3])
      (by rw [hs4, hs3.activeFormatting, haf2]; unfold SameTB at hs3; rw [hs3, ← hs2]; unfold SameTB at hs1; rw [hs1])
      (by simp only [list18, absBm]; rw [hkeq, absList_eraseIdx, absList_insertIdx]; rfl)
    simpa [List.append_assoc] using this

theorem finishRound_some {N T : Type} [DecidableEq N] (cx : Ctx T) (fe : N) (feTok : T) (fb ca : Elem N) (st : PState N T)
    (lastNode : N) (bm : Spec.TreeAlgo2.Bookmark N) (loc : Place N) (n : N) (sup : List N) (list' : List (Entry N T)) (p j : Nat)
    (h1 : appropriatePlace st.stack st.fosterParenting (some ca) = some loc) (h2 : st.supply = n :: sup)
    (h3 : list18 bm fe (.element n feTok) st.list = some list') (h4 : stackPos fe st.stack = some p)
    (h5 : (st.stack.eraseIdx p).findIdx? (fun e => e.id == fb.id) = some j) :
    finishRound cx fe feTok fb ca st lastNode bm = some
      { st with supply := sup,
                log := st.log ++ [Edit.remove lastNode, Edit.insert loc lastNode, Edit.create n Spec.TreeAlgo.nsHtml feTok,
                                  Edit.moveChildren fb.id n, Edit.insert (.lastChildOf fb.id) n],
                list := list',
                stack := (st.stack.eraseIdx p).insertIdx (j + 1) ⟨n, ⟨Spec.TreeAlgo.nsHtml, cx.tokName feTok⟩⟩ } := by
  unfold finishRound
  simp only [h1, Option.bind_some, PState.newNode, h2]
  cases bm with
  | atFormattingElement =>
    simp only [list18] at h3
    simp only [h3, Option.bind_some, h4, h5, Option.map_some]
  | after x =>
    simp only [list18] at h3
    simp only [h3, Option.bind_some, h4, h5, Option.map_some]

theorem absStack_findIdx (d : Dom) (l : List Id) (x : Id) :
    (absStack d l).findIdx? (fun e => e.id == x) = l.findIdx? (fun n => n == x) := by
  unfold absStack; rw [List.findIdx?_map]; rfl

theorem stackPos_dom (x : Id) (d d' : Dom) (l : List Id) : stackPos x (absStack d l) = stackPos x (absStack d' l) :=
  lastPos_ids (fun n => n == x) d d' l

theorem absEntry_inj {a b : FormatEntry} (h : absEntry a = absEntry b) : a = b := by
  cases a <;> cases b <;> simp [absEntry] at h ⊢
  exact h

theorem list18_mem {N T : Type} [DecidableEq N] (bm : Spec.TreeAlgo2.Bookmark N) (fe : N) (ne : Entry N T)
    (l l' : List (Entry N T)) (h : list18 bm fe ne l = some l') : ∀ e ∈ l', e ∈ l ∨ e = ne := by
  intro e he
  cases bm with
  | atFormattingElement =>
    simp only [list18, Option.map_eq_some_iff] at h
    obtain ⟨i, _, rfl⟩ := h
    exact List.mem_or_eq_of_mem_set he
  | after x =>
    simp only [list18, Option.bind_eq_some_iff, insertAfter, Option.map_eq_some_iff] at h
    obtain ⟨i, _, j, _, rfl⟩ := h
    by_cases hj : j + 1 ≤ (l.eraseIdx i).length
    · rcases (List.mem_insertIdx hj).mp he with h1 | h1
      · exact Or.inr h1
      · exact Or.inl ((List.eraseIdx_sublist _ _).subset h1)
    · rw [List.insertIdx_of_length_lt (by omega)] at he
      exact Or.inl ((List.eraseIdx_sublist _ _).subset he)

/-- steps 14–19 -/
theorem tot_aaStep14 (s : State) (fe : Id) (tag : Tag) (fb ca lastNode : Id) (bm : H5V.Model.HtmlTB.Bookmark) (n0 : Nat)
    (hok : ElemsOk s.dom s.openElems) (hhead : HeadOk s.dom s.openElems) (hca : s.dom.isElement ca = true)
    (hbm : BmOk fe n0 s.activeFormatting bm) (hfel : ∃ t, FormatEntry.element fe t ∈ s.activeFormatting)
    (hfe_old : (fe : Nat) < n0) (hn0 : n0 ≤ s.dom.size) (p j : Nat) (hp0 : 0 < p)
    (hp : stackPos fe (absStack s.dom s.openElems) = some p)
    (hj : (s.openElems.eraseIdx p).findIdx? (fun n => n == fb) = some j)
    (hafok : AFOk s.dom s.openElems s.activeFormatting)
    (hsp : Spec.TreeAlgo.inTable Spec.TreeTables.special ⟨Spec.TreeAlgo.nsHtml, tag.name⟩ = false) :
    Tot (aaStep14 fe tag fb ca lastNode bm) s (fun ret s' calls => ret = false ∧ ∃ new L, s.dom.size ≤ new ∧
      (∀ tc, TcOk s'.dom tc → edits calls = L.map (editCall tc)) ∧
      (∀ rest log0, finishRound tagCtx fe tag (elemOf s.dom fb) (elemOf s.dom ca) (absState s (new :: rest) log0) lastNode (absBm bm)
          = some (absState s' rest (log0 ++ L))) ∧
      SameButStackList s s' ∧ ElemsOk s'.dom s'.openElems ∧ HeadOk s'.dom s'.openElems ∧
      AFOk s'.dom s'.openElems s'.activeFormatting) := by
  have hhead' := hhead
  obtain ⟨h0, hh0, hnt, _⟩ := hhead
  obtain ⟨place, hplace, hnodes⟩ := appropriatePlace_some (absStack s.dom s.openElems) s.fosterParenting (some (elemOf s.dom ca))
    (elemOf s.dom h0) (by rw [absStack_head?, hh0]; rfl) hnt
  unfold aaStep14
  refine tot_bind (tot_conseq (tot_sinkUnit_unit' s trivial (unit_removeFromParent lastNode)) fun _ s1 c1 he1 ⟨hs1, hc1⟩ => ?_)
  subst hc1
  have hst1 := he1.stable
  have hok1 : ElemsOk s1.dom s1.openElems := by rw [hs1.openElems]; exact hok.stable hst1
  unfold insertAppropriately
  have hplace1 : appropriatePlace (absStack s1.dom s1.openElems) s1.fosterParenting ((some ca).map (elemOf s1.dom)) = some place := by
    rw [hs1.openElems, hs1.fosterParenting, absStack_stable hok hst1]
    simp only [Option.map_some, elemOf, nameOf_stable hst1 hca]
    exact hplace
  refine tot_bind (tot_query_bind (tot_appropriatePlace s1 (some ca) hok1 (by intro t ht; cases ht; exact isElement_stable hst1 hca) place hplace1)
    fun s2 c2 he2 hs2 hc2 => tot_conseq (tot_insertAt s2 _ (.node lastNode)) fun _ s3 c3 he3 ⟨hs3, hc3⟩ => ?_)
  subst hc3
  have hS3 : SameTB s s3 := (hs1.trans hs2).trans hs3
  have hst3 : Stable s.dom s3.dom := (hst1.trans he2.stable).trans he3.stable
  refine tot_bind (tot_conseq (tot_createElementWithFlags s3 nsHtml tag) fun new s4 c4 he4 ⟨hs4, hc4, hfresh, hel, hnm⟩ => ?_)
  subst hc4
  refine tot_bind (tot_conseq (tot_sinkUnit_unit' s4 trivial (unit_reparentChildren fb new)) fun _ s5 c5 he5 ⟨hs5, hc5⟩ => ?_)
  subst hc5
  refine tot_bind (tot_conseq (tot_sinkUnit_unit' s5 trivial (unit_append' fb (.node new))) fun _ s6 c6 he6 ⟨hs6, hc6⟩ => ?_)
  subst hc6
  have hS6 : SameTB s s6 := ((hS3.trans hs4).trans hs5).trans hs6
  have hst46 : Stable s4.dom s6.dom := he5.stable.trans he6.stable
  have hst6 : Stable s.dom s6.dom := (hst3.trans he4.stable).trans hst46
  have hnew_size : s.dom.size ≤ new := Nat.le_trans hst3.size hfresh
  have hnew_ne : new ≠ fe := Nat.ne_of_gt (Nat.lt_of_lt_of_le hfe_old (Nat.le_trans hn0 hnew_size))
  have hp6 : stackPos fe (absStack s6.dom s6.openElems) = some p := by
    rw [hS6.openElems, stackPos_dom fe s6.dom s.dom]; exact hp
  refine tot_conseq (tot_aaStep18 s6 fe tag fb new bm n0 (by rw [hS6.activeFormatting]; exact hbm)
      (by rw [hS6.activeFormatting]; exact hfel) hfe_old hnew_ne p j hp6 (by rw [hS6.openElems]; exact hj))
    fun ret s7 c7 he7 ⟨hret, hc7, af', hl18, hs7⟩ => ?_
  rw [hS6.activeFormatting] at hl18
  have hs7' : s7 = { s with activeFormatting := af', openElems := (s.openElems.eraseIdx p).insertIdx (j + 1) new,
                            dom := s7.dom, traceRev := s7.traceRev } := by
    rw [hs7, hS6.openElems]; unfold SameTB at hS6; rw [hS6]
  clear hs7
  have hs7 := hs7'
  have hst7 : Stable s.dom s7.dom := hst6.trans he7.stable
  have hel7 : s7.dom.isElement new = true := isElement_stable (hst46.trans he7.stable) hel
  have hnm7 : nameOf s7.dom new = ⟨nsHtml, tag.name⟩ := by
    rw [nameOf_stable (hst46.trans he7.stable) hel]; exact hnm
  have hopen7 : s7.openElems = (s.openElems.eraseIdx p).insertIdx (j + 1) new := by rw [hs7]
  have hok7 : ElemsOk s7.dom s7.openElems := by
    rw [hopen7]; intro x hx
    rcases List.mem_insertIdx (by
        have := List.findIdx?_eq_some_iff_findIdx_eq.mp hj  -- j < length
        omega) |>.mp hx with h | h
    · subst h; exact hel7
    · exact isElement_stable hst7 (hok x ((List.eraseIdx_sublist _ _).subset h))
  refine ⟨hret, new, [Edit.remove lastNode, Edit.insert place lastNode, Edit.create new nsHtml tag,
    Edit.moveChildren fb new, Edit.insert (.lastChildOf fb) new], hnew_size, ?_, ?_, ?_, hok7, ?_, ?_⟩
  · intro tc htc
    have hip : ipOf tc place = ipOf (tcOf s1.dom) place := by
      refine ipOf_congr (htc.of_stable ((he2.stable.trans he3.stable).trans ((he4.stable.trans hst46).trans he7.stable))) fun x hx => ?_
      rcases hnodes x hx with hm | ⟨t, ht, hxt⟩
      · rw [absStack_ids] at hm; exact isElement_stable hst1 (hok x hm)
      · cases ht; subst hxt; exact isElement_stable hst1 hca
    simp only [edits_append, hc2, hc7, List.map_cons, List.map_nil, editCall, hip, List.append_nil, List.nil_append]
    rw [edits_cons_of_isEdit rfl, edits_cons_of_isEdit (isEdit_insertOp _ _), edits_cons_of_isEdit rfl,
      edits_cons_of_isEdit rfl, edits_cons_of_isEdit rfl]
    rfl
  · intro rest log0
    have h1 : appropriatePlace (absState s (new :: rest) log0).stack (absState s (new :: rest) log0).fosterParenting
        (some (elemOf s.dom ca)) = some place := hplace
    have h4 : stackPos fe (absState s (new :: rest) log0).stack = some p := hp
    have h5 : ((absState s (new :: rest) log0).stack.eraseIdx p).findIdx? (fun e => e.id == (elemOf s.dom fb).id) = some j := by
      show ((absStack s.dom s.openElems).eraseIdx p).findIdx? (fun e => e.id == fb) = some j
      rw [← absStack_eraseIdx, absStack_findIdx]; exact hj
    rw [finishRound_some tagCtx fe tag (elemOf s.dom fb) (elemOf s.dom ca) _ lastNode (absBm bm) place new rest (absList af') p j
      h1 rfl hl18 h4 h5]
    simp only [absState, Option.some.injEq]
    rw [hs7]
    simp only []
    have : absStack s7.dom ((s.openElems.eraseIdx p).insertIdx (j + 1) new)
        = ((absStack s.dom s.openElems).eraseIdx p).insertIdx (j + 1) ⟨new, ⟨Spec.TreeAlgo.nsHtml, tagCtx.tokName tag⟩⟩ := by
      have e : elemOf s7.dom new = ⟨new, ⟨Spec.TreeAlgo.nsHtml, tagCtx.tokName tag⟩⟩ := by
        simp only [elemOf, hnm7]; rfl
      unfold absStack
      rw [map_insertIdx', map_eraseIdx', e,
        show List.map (elemOf s7.dom) s.openElems = List.map (elemOf s.dom) s.openElems from absStack_stable hok hst7]
    rw [this]
    rfl
  · unfold SameButStackList; rw [hs7]
  · refine hhead'.transfer hok hst7 ?_
    rw [hopen7]
    cases hl : s.openElems with
    | nil => rw [hl] at hh0; cases hh0
    | cons a r =>
      obtain ⟨p', rfl⟩ : ∃ p', p = p' + 1 := ⟨p - 1, by omega⟩
      simp
  · have haf7 : s7.activeFormatting = af' := by rw [hs7]
    rw [hopen7, haf7]
    refine hafok.extend hok hst7 ?_ ?_ hsp hnew_size (isElement_lt hel7) hnm7
    · intro x hx
      by_cases hjl : j + 1 ≤ (s.openElems.eraseIdx p).length
      · rcases (List.mem_insertIdx hjl).mp hx with h | h
        · exact Or.inr h
        · exact Or.inl ((List.eraseIdx_sublist _ _).subset h)
      · rw [List.insertIdx_of_length_lt (by omega)] at hx
        exact Or.inl ((List.eraseIdx_sublist _ _).subset hx)
    · intro e he
      have := list18_mem _ _ _ _ _ hl18 (absEntry e) (List.mem_map.mpr ⟨e, he, rfl⟩)
      rcases this with h | h
      · obtain ⟨e', he', heq⟩ := List.mem_map.mp h
        rw [← absEntry_inj heq]; exact Or.inl he'
      · exact Or.inr (absEntry_inj (a := e) (b := .element new tag) h)

/-- steps 10–19 -/
theorem tot_aaStep12 (s : State) (fe : Id) (tag : Tag) (fbIdx : Nat) (fb ca : Id) (pfe : Nat)
    (hok : ElemsOk s.dom s.openElems) (hhead : HeadOk s.dom s.openElems)
    (hp : stackPos fe (absStack s.dom s.openElems) = some pfe) (hp0 : 0 < pfe)
    (hca : s.openElems[pfe - 1]? = some ca) (hfbi : pfe < fbIdx) (hfb : s.openElems[fbIdx]? = some fb)
    (hfel : ∃ t, FormatEntry.element fe t ∈ s.activeFormatting)
    (hafok : AFOk s.dom s.openElems s.activeFormatting)
    (hsp : Spec.TreeAlgo.inTable Spec.TreeTables.special ⟨Spec.TreeAlgo.nsHtml, tag.name⟩ = false) :
    Tot (aaStep12 fe tag fbIdx fb ca) s (fun ret s' calls => ret = false ∧ ∃ ids L,
      (∀ tc, TcOk s'.dom tc → edits calls = L.map (editCall tc)) ∧
      (∀ rest log0, ((innerLoop tagCtx fe fb fbIdx 0 fb .atFormattingElement (absState s (ids ++ rest) log0)).bind fun r =>
          finishRound tagCtx fe tag (elemOf s.dom fb) (elemOf s.dom ca) r.1 r.2.1 r.2.2) = some (absState s' rest (log0 ++ L))) ∧
      SameButStackList s s' ∧ ElemsOk s'.dom s'.openElems ∧ HeadOk s'.dom s'.openElems ∧
      (∀ x ∈ ids, s.dom.size ≤ x) ∧ AFOk s'.dom s'.openElems s'.activeFormatting) := by
  obtain ⟨hplt, hfe_at⟩ := stackPos_lt hp
  have hfe_el : s.dom.isElement fe = true := hok fe (List.mem_of_getElem? hfe_at)
  have hca_el : s.dom.isElement ca = true := hok ca (List.mem_of_getElem? hca)
  have hfb_el : s.dom.isElement fb = true := hok fb (List.mem_of_getElem? hfb)
  have hinv : InnerInv fe fb s.dom.size pfe fbIdx s (.replace fe) := by
    refine ⟨hok, Nat.le_refl _, hfe_at, hfbi, ?_, ?_, ⟨fbIdx, Nat.le_refl _, hfb⟩, hfel, rfl, hafok⟩
    · intro p' hp' hc
      have := lastPos_max _ _ _ hp p' (elemOf s.dom fe) hp' (by rw [absStack_getElem?, hc]; rfl)
      simp [elemOf] at this
    · intro p' y _ hy
      exact isElement_lt (hok y (List.mem_of_getElem? hy))
  unfold aaStep12
  refine tot_bind (tot_conseq (tot_aaInner fe fb s.dom.size pfe fbIdx s 0 fb (.replace fe) hinv)
    fun r s1 c1 he1 ⟨ids, L1, hL1, hspec1, hS1, hok1, htake, hfb1, hnfe, hfel1, hbm1, hfresh1, hafok1⟩ => ?_)
  obtain ⟨lastNode, bm'⟩ := r
  simp only []
  have hst1 := he1.stable
  -- the formatting element is where it was
  have hfe_at1 : s1.openElems[pfe]? = some fe := by
    have : (s1.openElems.take (pfe + 1))[pfe]? = (s.openElems.take (pfe + 1))[pfe]? := by rw [htake]
    simpa [List.getElem?_take] using this.trans (by simp [hfe_at])
  have hp1 : stackPos fe (absStack s1.dom s1.openElems) = some pfe := by
    unfold stackPos
    refine (lastPos_eq_some _ _ pfe).mpr ⟨elemOf s1.dom fe, by rw [absStack_getElem?, hfe_at1]; rfl, by simp [elemOf], ?_⟩
    intro j e' hj he'
    rw [absStack_getElem?] at he'
    cases hy : s1.openElems[j]? with
    | none => simp [hy] at he'
    | some y =>
      simp only [hy, Option.map_some, Option.some.injEq] at he'
      subst he'
      have := hnfe j hj
      rw [hy] at this
      simp only [elemOf, beq_eq_false_iff_ne, ne_eq]
      intro h; exact this (by rw [h])
  have hhead1 : HeadOk s1.dom s1.openElems := by
    refine hhead.transfer hok hst1 ?_
    have : (s1.openElems.take (pfe + 1)).head? = (s.openElems.take (pfe + 1)).head? := by rw [htake]
    rw [List.head?_take, List.head?_take] at this
    simpa using this
  obtain ⟨j, hj⟩ : ∃ j, (s1.openElems.eraseIdx pfe).findIdx? (fun n => n == fb) = some j := by
    obtain ⟨q, hq, hqf⟩ := hfb1
    have hmem : fb ∈ s1.openElems.eraseIdx pfe := by
      rw [List.mem_eraseIdx_iff_getElem?]; exact ⟨q, by omega, hqf⟩
    cases hfi : (s1.openElems.eraseIdx pfe).findIdx? (fun n => n == fb) with
    | some j => exact ⟨j, rfl⟩
    | none =>
      rw [List.findIdx?_eq_none_iff] at hfi
      have := hfi fb hmem
      simp at this
  refine tot_conseq (tot_aaStep14 s1 fe tag fb ca lastNode bm' s.dom.size hok1 hhead1 (isElement_stable hst1 hca_el)
      hbm1 hfel1 (isElement_lt hfe_el) hst1.size pfe j hp0 hp1 hj hafok1 hsp)
    fun ret s2 c2 he2 ⟨hret, new, L2, hnew, hL2, hspec2, hS2, hok2, hhead2, hafok2⟩ => ?_
  refine ⟨hret, ids ++ [new], L1 ++ L2, ?_, ?_, ?_, hok2, hhead2, ?_, hafok2⟩
  · intro tc htc
    rw [edits_append, hL1 tc (htc.of_stable he2.stable), hL2 tc htc, List.map_append]
  · intro rest log0
    have h1 := hspec1 (new :: rest) log0
    have e0 : absBm (H5V.Model.HtmlTB.Bookmark.replace fe) = Spec.TreeAlgo2.Bookmark.atFormattingElement := rfl
    rw [e0] at h1
    simp only [List.append_assoc, List.singleton_append] at h1 ⊢
    rw [h1]
    simp only [Option.bind_some]
    have h2 := hspec2 rest (log0 ++ L1)
    rw [elemOf_stable hst1 hfb_el, elemOf_stable hst1 hca_el] at h2
    rw [h2, List.append_assoc]
  · unfold SameButStackList at hS1 hS2 ⊢; rw [hS2, hS1]
  · intro x hx
    rcases List.mem_append.mp hx with h | h
    · exact hfresh1 x h
    · simp at h; subst h; exact Nat.le_trans hst1.size hnew

/-- the outcome of a round as (state, "return") — the fallback to "any other end tag" carried out -/
def roundResult (subject : Str) : Round Id Tag → PState Id Tag × Bool
  | .done st => (st, true)
  | .anyOtherEndTag st => ({ st with stack := anyOtherEndTag subject st.stack }, true)
  | .again st => (st, false)

/-- what one round of the outer loop guarantees -/
def RoundPost (subject : Str) (s : State) : Bool → State → List Call → Prop :=
  fun ret s' calls => ∃ ids L,
    (∀ tc, TcOk s'.dom tc → edits calls = L.map (editCall tc)) ∧
    (∀ rest log0, (outerRound tagCtx subject (absState s (ids ++ rest) log0)).map (roundResult subject)
        = some (absState s' rest (log0 ++ L), ret)) ∧
    SameButStackList s s' ∧ ElemsOk s'.dom s'.openElems ∧
    (ret = false → HeadOk s'.dom s'.openElems ∧ AFOk s'.dom s'.openElems s'.activeFormatting) ∧
    (∀ x ∈ ids, s.dom.size ≤ x)

/-- the furthest block the model finds (it starts the search at the formatting element itself, which is
not special) is the standard's -/
theorem ffb_spec (d : Dom) (l : List Id) (pfe : Nat) (fe : Id) (hfe : l[pfe]? = some fe)
    (hns : isSpecial (elemOf d fe) = false) :
    (ffbPure d (l.drop pfe) pfe).map (fun r => (r.1, elemOf d r.2)) = furthestBlock (absStack d l) pfe := by
  have hlt : pfe < l.length := (List.getElem?_eq_some_iff.mp hfe).1
  have hdrop : l.drop pfe = fe :: l.drop (pfe + 1) := by
    rw [List.drop_eq_getElem_cons hlt, (List.getElem?_eq_some_iff.mp hfe).2]
  rw [hdrop]
  simp only [ffbPure, hns, Bool.false_eq_true, if_false]
  rw [ffbPure_eq]
  unfold furthestBlock
  simp only [absStack, List.map_drop]
  cases List.findIdx? isSpecial (List.drop (pfe + 1) (List.map (elemOf d) l)) with
  | none => rfl
  | some j =>
    simp only [Option.bind_some, Option.map_map]
    cases hje : (List.drop (pfe + 1) (List.map (elemOf d) l))[j]? with
    | none => rfl
    | some e =>
      simp only [Option.map_some, Function.comp]
      have hmem : e ∈ List.map (elemOf d) l := (List.drop_sublist _ _).subset (List.mem_of_getElem? hje)
      obtain ⟨y, _, rfl⟩ := List.mem_map.mp hmem
      rfl

theorem RoundPost.of_query {subject : Str} {s s1 s' : State} {c1 c2 : List Call} {ret : Bool}
    (hs : SameTB s s1) (he : Ext s c1 s1) (hc : edits c1 = []) (hok : ElemsOk s.dom s.openElems)
    (h : RoundPost subject s1 ret s' c2) : RoundPost subject s ret s' (c1 ++ c2) := by
  obtain ⟨ids, L, hL, hspec, hS, hok', hhead', hfresh⟩ := h
  refine ⟨ids, L, ?_, ?_, ?_, hok', hhead', ?_⟩
  · intro tc htc; rw [edits_append, hc, hL tc htc]; rfl
  · intro rest log0
    rw [← absState_sameTB hs he.stable hok]; exact hspec rest log0
  · unfold SameButStackList at hS ⊢; unfold SameTB at hs; rw [hS, hs]
  · intro x hx; exact Nat.le_trans he.stable.size (hfresh x hx)

/-- the abstract state after step 8 -/
def stDone (s : State) (pfe feIdx : Nat) (sup : List Id) (log : List (Edit Id Tag)) : PState Id Tag :=
  { absState s sup log with stack := (absStack s.dom s.openElems).take pfe, list := (absList s.activeFormatting).eraseIdx feIdx }

/-- steps 7–19 -/
theorem tot_aaStep9 (subject : Str) (s : State) (feIdx : Nat) (fe : Id) (tag : Tag) (pfe : Nat)
    (hok : ElemsOk s.dom s.openElems) (hhead : HeadOk s.dom s.openElems)
    (hfind : findFormattingElement tagCtx subject (absList s.activeFormatting) = some (feIdx, fe, tag))
    (hpos : stackPos fe (absStack s.dom s.openElems) = some pfe)
    (hscope : hasNodeInScope fe Spec.TreeAlgo.defaultScopeList (absStack s.dom s.openElems).reverse = true)
    (hp0 : 0 < pfe) (hns : isSpecial (elemOf s.dom fe) = false)
    (hafok : AFOk s.dom s.openElems s.activeFormatting) :
    Tot (aaStep9 feIdx fe tag pfe) s (RoundPost subject s) := by
  obtain ⟨hplt, hfe_at⟩ := stackPos_lt hpos
  obtain ⟨hfi, hfentry, _⟩ := findFormattingElement_some hfind
  have hfel : ∃ t, FormatEntry.element fe t ∈ s.activeFormatting := ⟨tag, List.mem_of_getElem? hfentry⟩
  -- the round of the standard up to step 7
  have hround_none : furthestBlock (absStack s.dom s.openElems) pfe = none → ∀ sup log,
      outerRound tagCtx subject (absState s sup log) = some (Round.done (stDone s pfe feIdx sup log)) := by
    intro h sup log
    have h1 : findFormattingElement tagCtx subject (absState s sup log).list = some (feIdx, fe, tag) := hfind
    have h2 : stackPos fe (absState s sup log).stack = some pfe := hpos
    have h3 : hasNodeInScope fe Spec.TreeAlgo.defaultScopeList (absState s sup log).stack.reverse = true := hscope
    have h4 : furthestBlock (absState s sup log).stack pfe = none := h
    unfold outerRound
    simp only [h1, h2, h3, Bool.not_true, Bool.false_eq_true, if_false, h4]
    rfl
  have hround_some : ∀ fbPos fb, furthestBlock (absStack s.dom s.openElems) pfe = some (fbPos, fb) → ∀ sup log,
      outerRound tagCtx subject (absState s sup log) =
        ((absStack s.dom s.openElems)[pfe - 1]?).bind fun commonAncestor =>
          (innerLoop tagCtx fe fb.id fbPos 0 fb.id .atFormattingElement (absState s sup log)).bind fun r =>
            (finishRound tagCtx fe tag fb commonAncestor r.1 r.2.1 r.2.2).map Round.again := by
    intro fbPos fb h sup log
    have h1 : findFormattingElement tagCtx subject (absState s sup log).list = some (feIdx, fe, tag) := hfind
    have h2 : stackPos fe (absState s sup log).stack = some pfe := hpos
    have h3 : hasNodeInScope fe Spec.TreeAlgo.defaultScopeList (absState s sup log).stack.reverse = true := hscope
    have h4 : furthestBlock (absState s sup log).stack pfe = some (fbPos, fb) := h
    have h6 : ¬ pfe = 0 := by omega
    unfold outerRound
    simp only [h1, h2, h3, Bool.not_true, Bool.false_eq_true, if_false, h4, h6]
    rfl
  unfold aaStep9
  refine tot_getS_bind ?_
  refine tot_query_bind (tot_findFurthestBlock s.dom (s.openElems.drop pfe) pfe s
    (fun x hx => hok x ((List.drop_sublist _ _).subset hx)) (Stable.refl _)) fun s1 c1 he1 hs1 hc1 => ?_
  have hffb := ffb_spec s.dom s.openElems pfe fe hfe_at hns
  cases hf : ffbPure s.dom (s.openElems.drop pfe) pfe with
  | none =>
    rw [hf] at hffb
    simp only [Option.map_none] at hffb
    simp only []
    refine tot_bind (tot_modS rfl rfl ?_)
    refine tot_bind (tot_conseq (tot_afRemove _ feIdx "mod.rs:784" (by show feIdx < s1.activeFormatting.length; rw [hs1.activeFormatting]; exact hfi))
      fun _ s2 c2 _ ⟨hs2, hc2⟩ => ?_)
    subst hc2
    refine tot_pure ?_
    have hst1 := he1.stable
    have hs2' : s2 = { s with openElems := s.openElems.take pfe, activeFormatting := s.activeFormatting.eraseIdx feIdx,
                              dom := s1.dom, traceRev := s1.traceRev } := by
      rw [hs2]; simp only []; rw [hs1.openElems, hs1.activeFormatting]; unfold SameTB at hs1; rw [hs1]
    have hok2 : ElemsOk s2.dom s2.openElems := by
      rw [hs2']; intro x hx
      exact isElement_stable hst1 (hok x ((List.take_sublist _ _).subset hx))
    refine ⟨[], [], by intro tc _; simp [hc1], ?_, ?_, hok2, fun h => Bool.noConfusion h, fun x hx => by cases hx⟩
    · intro rest log0
      rw [hround_none hffb.symm]
      simp only [Option.map_some, roundResult, List.nil_append, List.append_nil, Option.some.injEq, Prod.mk.injEq, and_true]
      rw [hs2']
      simp only [stDone, absState, absList_eraseIdx]
      have : absStack s1.dom (s.openElems.take pfe) = (absStack s.dom s.openElems).take pfe := by
        unfold absStack
        rw [List.map_take,
          show List.map (elemOf s1.dom) s.openElems = List.map (elemOf s.dom) s.openElems from absStack_stable hok hst1]
      rw [this]
    · unfold SameButStackList; rw [hs2']
  | some r =>
    obtain ⟨fbIdx, fb⟩ := r
    rw [hf] at hffb
    simp only [Option.map_some] at hffb
    simp only []
    -- where the furthest block is
    have hfb_facts : pfe < fbIdx ∧ s.openElems[fbIdx]? = some fb := by
      have := hffb.symm
      unfold furthestBlock at this
      simp only [Option.bind_eq_some_iff, Option.map_eq_some_iff] at this
      obtain ⟨j, _, e, hje, heq⟩ := this
      simp only [Prod.mk.injEq] at heq
      obtain ⟨h1, h2⟩ := heq
      refine ⟨by omega, ?_⟩
      rw [List.getElem?_drop, absStack_getElem?, h1] at hje
      cases hy : s.openElems[fbIdx]? with
      | none => simp [hy] at hje
      | some y =>
        simp only [hy, Option.map_some, Option.some.injEq] at hje
        rw [← hje] at h2
        have : y = fb := congrArg Elem.id h2
        rw [this]
    obtain ⟨ca, hca⟩ : ∃ ca, s.openElems[pfe - 1]? = some ca := ⟨_, List.getElem?_eq_getElem (by omega)⟩
    have hst1 := he1.stable
    have hok1 : ElemsOk s1.dom s1.openElems := by rw [hs1.openElems]; exact hok.stable hst1
    have hhead1 : HeadOk s1.dom s1.openElems := hhead.transfer hok hst1 (by rw [hs1.openElems])
    unfold aaStep11
    have hne0 : (pfe == 0) = false := by rw [beq_eq_false_iff_ne]; omega
    simp only [hne0, Bool.false_eq_true, if_false]
    unfold aaStep11b
    refine tot_getS_bind ?_
    rw [hs1.openElems, hca]
    simp only []
    refine tot_bind (tot_pure ?_)
    refine tot_conseq (tot_aaStep12 s1 fe tag fbIdx fb ca pfe hok1 hhead1
        (by rw [hs1.openElems, stackPos_dom fe s1.dom s.dom]; exact hpos) hp0 (by rw [hs1.openElems]; exact hca) hfb_facts.1
        (by rw [hs1.openElems]; exact hfb_facts.2) (by rw [hs1.activeFormatting]; exact hfel)
        (by rw [hs1.openElems, hs1.activeFormatting]; exact hafok.mono hok hst1 (fun _ hx => hx) (fun _ he => he))
        (hafok fe tag (List.mem_of_getElem? hfentry)).2.1)
      fun ret s2 c2 _ ⟨hret, ids, L, hL, hspec, hS, hok2, hhead2, hfresh, hafok2⟩ => ?_
    have hfb_el : s.dom.isElement fb = true := hok fb (List.mem_of_getElem? hfb_facts.2)
    have hca_el : s.dom.isElement ca = true := hok ca (List.mem_of_getElem? hca)
    have := RoundPost.of_query (subject := subject) (ret := ret) (s' := s2) (c2 := c2) hs1 he1 hc1 hok
      ⟨ids, L, hL, ?_, hS, hok2, fun _ => ⟨hhead2, hafok2⟩, hfresh⟩
    · simpa using this
    · intro rest log0
      rw [absState_sameTB hs1 hst1 hok, hround_some fbIdx (elemOf s.dom fb) hffb.symm]
      simp only [absStack_getElem?, hca, Option.map_some, Option.bind_some]
      have := hspec rest log0
      rw [absState_sameTB hs1 hst1 hok, elemOf_stable hst1 hfb_el, elemOf_stable hst1 hca_el] at this
      have hid : (elemOf s.dom fb).id = fb := rfl
      rw [hid]
      simp only [Option.bind_eq_some_iff] at this
      obtain ⟨r, hr1, hr2⟩ := this
      rw [hr1]
      simp only [Option.bind_some, hr2, Option.map_some, roundResult, hret]

/-- steps 6–19 -/
theorem tot_aaStep8 (subject : Str) (s : State) (feIdx : Nat) (fe : Id) (tag : Tag) (pfe : Nat)
    (hok : ElemsOk s.dom s.openElems) (hhead : HeadOk s.dom s.openElems)
    (hfind : findFormattingElement tagCtx subject (absList s.activeFormatting) = some (feIdx, fe, tag))
    (hpos : stackPos fe (absStack s.dom s.openElems) = some pfe)
    (hscope : hasNodeInScope fe Spec.TreeAlgo.defaultScopeList (absStack s.dom s.openElems).reverse = true)
    (hp0 : 0 < pfe) (hns : isSpecial (elemOf s.dom fe) = false)
    (hafok : AFOk s.dom s.openElems s.activeFormatting) :
    Tot (aaStep8 feIdx fe tag pfe) s (RoundPost subject s) := by
  obtain ⟨hplt, _⟩ := stackPos_lt hpos
  obtain ⟨cur, hcur⟩ : ∃ cur, s.openElems.getLast? = some cur := by
    cases h : s.openElems.getLast? with
    | none => rw [List.getLast?_eq_none_iff] at h; rw [h] at hplt; simp at hplt
    | some c => exact ⟨c, rfl⟩
  -- the rest, after the parse-error check
  have hrest : ∀ (s3 : State) (c3 : List Call), Ext s c3 s3 → SameTB s s3 → edits c3 = [] →
      Tot (aaStep9 feIdx fe tag pfe) s3 (fun ret s' c4 => RoundPost subject s ret s' (c3 ++ c4)) := by
    intro s3 c3 he3 hs3 hc3
    have hst3 := he3.stable
    have hok3 : ElemsOk s3.dom s3.openElems := by rw [hs3.openElems]; exact hok.stable hst3
    have hhead3 : HeadOk s3.dom s3.openElems := hhead.transfer hok hst3 (by rw [hs3.openElems])
    have hfe_el : s.dom.isElement fe = true := hok fe (List.mem_of_getElem? (stackPos_lt hpos).2)
    refine tot_conseq (tot_aaStep9 subject s3 feIdx fe tag pfe hok3 hhead3 (by rw [hs3.activeFormatting]; exact hfind)
        (by rw [hs3.openElems, stackPos_dom fe s3.dom s.dom]; exact hpos)
        (by rw [hs3.openElems, absStack_stable hok hst3]; exact hscope) hp0
        (by rw [elemOf_stable hst3 hfe_el]; exact hns)
        (by rw [hs3.openElems, hs3.activeFormatting]; exact hafok.mono hok hst3 (fun _ hx => hx) (fun _ he => he)))
      fun ret s' c4 _ h => RoundPost.of_query hs3 he3 hc3 hok h
  unfold aaStep8
  refine tot_query_bind (tot_currentNode hcur) fun s1 c1 he1 hs1 hc1 => ?_
  refine tot_query_bind (tot_sameNode s1 cur fe) fun s2 c2 he2 hs2 hc2 => ?_
  by_cases hb : (cur == fe) = true
  · simp only [hb, Bool.not_true, Bool.false_eq_true, if_false]
    have := hrest s2 (c1 ++ c2) (he1.trans he2) (hs1.trans hs2) (by rw [edits_append, hc1, hc2]; rfl)
    simpa [List.append_assoc] using this
  · simp only [hb, Bool.not_false, if_true]
    refine tot_query_bind (tot_parseError s2 _) fun s3 c3 he3 hs3 hc3 => ?_
    have := hrest s3 (c1 ++ (c2 ++ c3)) (he1.trans (he2.trans he3)) (hs1.trans (hs2.trans hs3))
      (by rw [edits_append, edits_append, hc1, hc2, hc3]; rfl)
    simpa [List.append_assoc] using this

section SpecRound
variable {N T : Type} [DecidableEq N]

theorem outerRound_noFE (cx : Ctx T) (subject : Str) (st : PState N T)
    (h : findFormattingElement cx subject st.list = none) : outerRound cx subject st = some (.anyOtherEndTag st) := by
  unfold outerRound; simp only [h]

theorem outerRound_notOpen (cx : Ctx T) (subject : Str) (st : PState N T) (i : Nat) (fe : N) (t : T)
    (h : findFormattingElement cx subject st.list = some (i, fe, t)) (h2 : stackPos fe st.stack = none) :
    outerRound cx subject st = some (.done { st with list := st.list.eraseIdx i }) := by
  unfold outerRound; simp only [h, h2]

theorem outerRound_notInScope (cx : Ctx T) (subject : Str) (st : PState N T) (i : Nat) (fe : N) (t : T) (p : Nat)
    (h : findFormattingElement cx subject st.list = some (i, fe, t)) (h2 : stackPos fe st.stack = some p)
    (h3 : hasNodeInScope fe Spec.TreeAlgo.defaultScopeList st.stack.reverse = false) :
    outerRound cx subject st = some (.done st) := by
  unfold outerRound; simp only [h, h2, h3, Bool.not_false, if_true]

end SpecRound

/-- **(o, steps 4.3–4.19)** one round of the outer loop of the adoption agency algorithm.  Hypothesis
`hfe`: the formatting element, if it is on the stack, is not the topmost entry (that is `html`) and is
not in the special category (formatting elements never are). -/
theorem tot_aaOuterStep (subject : Str) (s : State) (hok : ElemsOk s.dom s.openElems) (hhead : HeadOk s.dom s.openElems)
    (hafok : AFOk s.dom s.openElems s.activeFormatting) :
    Tot (aaOuterStep subject) s (RoundPost subject s) := by
  rw [aaOuterStep_eq]
  refine tot_getS_bind ?_
  rw [findFormatting_eq]
  cases hfind : findFormattingElement tagCtx subject (absList s.activeFormatting) with
  | none =>
    simp only []
    refine tot_bind (tot_conseq (tot_processEndTagInBody s hok
      { kind := .endTag, name := subject, selfClosing := false, attrs := [], hadDup := false }) fun _ s1 c1 he1 hP => ?_)
    obtain ⟨hs1, hpre, habs, hc1⟩ := hP.unfold
    refine tot_pure ?_
    have hst1 := he1.stable
    have hok1' : ElemsOk s.dom s1.openElems := fun x hx => hok x (hpre.subset hx)
    refine ⟨[], [], by intro tc _; simp [hc1], ?_, ?_, ?_, fun h => Bool.noConfusion h, fun x hx => by cases hx⟩
    · intro rest log0
      simp only [List.nil_append, List.append_nil]
      rw [outerRound_noFE tagCtx subject (absState s rest log0) hfind]
      simp only [Option.map_some, roundResult, Option.some.injEq, Prod.mk.injEq, and_true]
      rw [hs1]
      simp only [absState]
      rw [absStack_stable hok1' hst1, habs]
    · unfold SameButStackList; rw [hs1]
    · exact hok1'.stable hst1
  | some r =>
    obtain ⟨feIdx, fe, tag⟩ := r
    obtain ⟨hfi, hfentry, _⟩ := findFormattingElement_some hfind
    simp only []
    refine tot_query_bind (tot_rposition s fe) fun s1 c1 he1 hs1 hc1 => ?_
    have hst1 := he1.stable
    cases hpos : stackPos fe (absStack s.dom s.openElems) with
    | none =>
      -- step 4
      simp only []
      refine tot_query_bind (tot_parseError s1 _) fun s2 c2 he2 hs2 hc2 => ?_
      have hS2 : SameTB s s2 := hs1.trans hs2
      refine tot_bind (tot_conseq (tot_afRemove s2 feIdx "mod.rs:754" (by rw [hS2.activeFormatting]; exact hfi))
        fun _ s3 c3 _ ⟨hs3, hc3⟩ => ?_)
      subst hc3
      refine tot_pure ?_
      have hst2 : Stable s.dom s2.dom := hst1.trans he2.stable
      have hs3' : s3 = { s with activeFormatting := s.activeFormatting.eraseIdx feIdx, dom := s2.dom, traceRev := s2.traceRev } := by
        rw [hs3, hS2.activeFormatting]; unfold SameTB at hS2; rw [hS2]
      refine ⟨[], [], by intro tc _; simp [hc1, hc2, edits_append], ?_, ?_, ?_, fun h => Bool.noConfusion h, fun x hx => by cases hx⟩
      · intro rest log0
        simp only [List.nil_append, List.append_nil]
        rw [outerRound_notOpen tagCtx subject (absState s rest log0) feIdx fe tag hfind hpos]
        simp only [Option.map_some, roundResult, Option.some.injEq, Prod.mk.injEq, and_true]
        rw [hs3']
        simp only [absState, absList_eraseIdx, absStack_stable hok hst2]
      · unfold SameButStackList; rw [hs3']
      · rw [hs3']; exact hok.stable hst2
    | some pfe =>
      simp only []
      obtain ⟨hp0, hns⟩ : 0 < pfe ∧ isSpecial (elemOf s.dom fe) = false := by
        obtain ⟨_, hfe_at⟩ := stackPos_lt hpos
        obtain ⟨_, hsp, hnm⟩ := hafok fe tag (List.mem_of_getElem? hfentry)
        have hnm' := hnm (List.mem_of_getElem? hfe_at)
        have hns : isSpecial (elemOf s.dom fe) = false := by
          unfold isSpecial elemOf; rw [hnm']; exact hsp
        refine ⟨?_, hns⟩
        rcases Nat.eq_zero_or_pos pfe with h0 | h0
        · exfalso
          obtain ⟨h0', hh0, _, hsp0⟩ := hhead
          rw [h0] at hfe_at
          have : s.openElems.head? = some fe := by
            cases hl : s.openElems with
            | nil => rw [hl] at hfe_at; cases hfe_at
            | cons a r => rw [hl] at hfe_at; simpa using hfe_at
          rw [this] at hh0; cases hh0
          rw [hns] at hsp0; cases hsp0
        · exact h0
      have hok1 : ElemsOk s1.dom s1.openElems := by rw [hs1.openElems]; exact hok.stable hst1
      refine tot_query_bind (tot_inScope_node s1 fe hok1) fun s2 c2 he2 hs2 hc2 => ?_
      rw [hs1.openElems, absStack_stable hok hst1]
      have hS2 : SameTB s s2 := hs1.trans hs2
      have hst2 : Stable s.dom s2.dom := hst1.trans he2.stable
      by_cases hscope : hasNodeInScope fe Spec.TreeAlgo.defaultScopeList (absStack s.dom s.openElems).reverse = true
      · simp only [hscope, Bool.not_true, Bool.false_eq_true, if_false]
        have hok2 : ElemsOk s2.dom s2.openElems := by rw [hS2.openElems]; exact hok.stable hst2
        have hhead2 : HeadOk s2.dom s2.openElems := hhead.transfer hok hst2 (by rw [hS2.openElems])
        have hfe_el : s.dom.isElement fe = true := hok fe (List.mem_of_getElem? (stackPos_lt hpos).2)
        refine tot_conseq (tot_aaStep8 subject s2 feIdx fe tag pfe hok2 hhead2 (by rw [hS2.activeFormatting]; exact hfind)
            (by rw [hS2.openElems, stackPos_dom fe s2.dom s.dom]; exact hpos)
            (by rw [hS2.openElems, absStack_stable hok hst2]; exact hscope) hp0
            (by rw [elemOf_stable hst2 hfe_el]; exact hns)
            (by rw [hS2.openElems, hS2.activeFormatting]; exact hafok.mono hok hst2 (fun _ hx => hx) (fun _ he => he)))
          fun ret s' c3 _ h => ?_
        have := RoundPost.of_query hS2 (he1.trans he2) (by rw [edits_append, hc1, hc2]; rfl) hok h
        simpa [List.append_assoc] using this
      · -- step 5
        have hscope' : hasNodeInScope fe Spec.TreeAlgo.defaultScopeList (absStack s.dom s.openElems).reverse = false := by
          simpa using hscope
        simp only [hscope', Bool.not_false, if_true]
        refine tot_query_bind (tot_parseError s2 _) fun s3 c3 he3 hs3 hc3 => ?_
        refine tot_pure ?_
        have hS3 : SameTB s s3 := hS2.trans hs3
        have hst3 : Stable s.dom s3.dom := hst2.trans he3.stable
        refine ⟨[], [], by intro tc _; simp [hc1, hc2, hc3, edits_append], ?_, ?_, ?_, fun h => Bool.noConfusion h, fun x hx => by cases hx⟩
        · intro rest log0
          simp only [List.nil_append, List.append_nil]
          rw [outerRound_notInScope tagCtx subject (absState s rest log0) feIdx fe tag pfe hfind hpos hscope']
          simp only [Option.map_some, roundResult, Option.some.injEq, Prod.mk.injEq, and_true]
          exact (absState_sameTB hS3 hst3 hok rest log0).symm
        · unfold SameButStackList; unfold SameTB at hS3; rw [hS3]
        · rw [hS3.openElems]; exact hok.stable hst3

/-! ### the outer loop and the whole algorithm -/

/-- the end result of the algorithm: the fallback to "any other end tag" carried out -/
def finish (subject : Str) (r : PState Id Tag × Bool) : PState Id Tag :=
  if r.2 then { r.1 with stack := anyOtherEndTag subject r.1.stack } else r.1

theorem outerLoop_succ (subject : Str) (n : Nat) (st : PState Id Tag) :
    (outerLoop tagCtx subject (n + 1) st).map (finish subject) =
      ((outerRound tagCtx subject st).map (roundResult subject)).bind fun r =>
        if r.2 then some r.1 else (outerLoop tagCtx subject n r.1).map (finish subject) := by
  simp only [outerLoop]
  cases outerRound tagCtx subject st with
  | none => rfl
  | some r => cases r <;> rfl

/-- what the outer loop guarantees -/
def LoopPost (subject : Str) (n : Nat) (s : State) : Unit → State → List Call → Prop :=
  fun _ s' calls => ∃ ids L,
    (∀ tc, TcOk s'.dom tc → edits calls = L.map (editCall tc)) ∧
    (∀ rest log0, (outerLoop tagCtx subject n (absState s (ids ++ rest) log0)).map (finish subject)
        = some (absState s' rest (log0 ++ L))) ∧
    SameButStackList s s' ∧ ElemsOk s'.dom s'.openElems ∧ (∀ x ∈ ids, s.dom.size ≤ x)

/-- **(o, step 4)** the outer loop -/
theorem tot_aaOuter (subject : Str) : ∀ (n : Nat) (s : State), ElemsOk s.dom s.openElems → HeadOk s.dom s.openElems →
    AFOk s.dom s.openElems s.activeFormatting → Tot (aaOuter subject n) s (LoopPost subject n s) := by
  intro n
  induction n with
  | zero =>
    intro s hok _ _
    unfold aaOuter
    refine tot_pure ⟨[], [], fun _ _ => rfl, ?_, ?_, hok, fun x hx => by cases hx⟩
    · intro rest log0; simp [outerLoop, finish]
    · rfl
  | succ n ih =>
    intro s hok hhead hafok
    unfold aaOuter
    refine tot_bind (tot_conseq (tot_aaOuterStep subject s hok hhead hafok)
      fun ret s1 c1 he1 ⟨ids1, L1, hL1, hspec1, hS1, hok1, hinv1, hfresh1⟩ => ?_)
    cases ret with
    | true =>
      simp only [if_true]
      refine tot_pure ⟨ids1, L1, ?_, ?_, hS1, hok1, hfresh1⟩
      · intro tc htc; simpa using hL1 tc htc
      · intro rest log0
        rw [outerLoop_succ, hspec1 rest log0]; rfl
    | false =>
      simp only [Bool.false_eq_true, if_false]
      obtain ⟨hhead1, hafok1⟩ := hinv1 rfl
      refine tot_conseq (ih s1 hok1 hhead1 hafok1) fun _ s2 c2 he2 ⟨ids2, L2, hL2, hspec2, hS2, hok2, hfresh2⟩ => ?_
      refine ⟨ids1 ++ ids2, L1 ++ L2, ?_, ?_, ?_, hok2, ?_⟩
      · intro tc htc
        rw [edits_append, hL1 tc (htc.of_stable he2.stable), hL2 tc htc, List.map_append]
      · intro rest log0
        rw [outerLoop_succ, List.append_assoc, hspec1 (ids2 ++ rest) log0]
        simp only [Option.bind_some, Bool.false_eq_true, if_false]
        rw [hspec2 rest (log0 ++ L1), List.append_assoc]
      · unfold SameButStackList at hS1 hS2 ⊢; rw [hS2, hS1]
      · intro x hx
        rcases List.mem_append.mp hx with h | h
        · exact hfresh1 x h
        · exact Nat.le_trans he1.stable.size (hfresh2 x h)

def aaAfterShortcut (subject : Str) (shortcut : Bool) : M Unit := do
  if shortcut then
    let _ ← pop
  else aaOuter subject 8

theorem adoptionAgency_eq (subject : Str) :
    H5V.Model.HtmlTB.adoptionAgency subject = (do
      let shortcut ← do
        if ← currentNodeNamedS subject then
          let cur ← currentNode
          pure (← positionInActiveFormatting cur).isNone
        else pure false
      aaAfterShortcut subject shortcut) := rfl

/-- **(o)** `adoption_agency(subject)` is the standard's adoption agency algorithm (with the fallback
of step 4.3 to "any other end tag" carried out), on every state whose stack starts with a special,
non-`table` element (`html`), whose stack entries are elements of the sink, and whose listed
formatting elements carry the name of their token, which is not in the special category. -/
theorem tot_adoptionAgency (subject : Str) (s : State) (hok : ElemsOk s.dom s.openElems) (hhead : HeadOk s.dom s.openElems)
    (hafok : AFOk s.dom s.openElems s.activeFormatting) :
    Tot (H5V.Model.HtmlTB.adoptionAgency subject) s (fun _ s' calls => ∃ ids L,
      (∀ tc, TcOk s'.dom tc → edits calls = L.map (editCall tc)) ∧
      (∀ rest log0, adoptionAgencyWithFallback tagCtx subject (absState s (ids ++ rest) log0)
          = some (absState s' rest (log0 ++ L))) ∧
      SameButStackList s s' ∧ ElemsOk s'.dom s'.openElems ∧ (∀ x ∈ ids, s.dom.size ≤ x)) := by
  obtain ⟨h0, hh0, _⟩ := hhead
  obtain ⟨cur, hcur⟩ : ∃ cur, s.openElems.getLast? = some cur := by
    cases h : s.openElems.getLast? with
    | none => rw [List.getLast?_eq_none_iff] at h; rw [h] at hh0; cases hh0
    | some c => exact ⟨c, rfl⟩
  have hcur_el : s.dom.isElement cur = true := hok cur (List.mem_of_getLast? hcur)
  -- the shortcut test of step 2
  obtain ⟨sc0, hsc0⟩ : ∃ b : Bool, b = ((nameOf s.dom cur).ns == nsHtml && (nameOf s.dom cur).loc == subject &&
      (listPos cur (absList s.activeFormatting)).isNone) := ⟨_, rfl⟩
  have hspec_eq : ∀ sup log, adoptionAgencyWithFallback tagCtx subject (absState s sup log) =
      if sc0 = true then some { absState s sup log with stack := (absStack s.dom s.openElems).dropLast }
      else (outerLoop tagCtx subject 8 (absState s sup log)).map (finish subject) := by
    intro sup log
    have hl : (absState s sup log).stack.getLast? = some (elemOf s.dom cur) := by
      show (absStack s.dom s.openElems).getLast? = _
      rw [absStack_getLast?, hcur]; rfl
    unfold adoptionAgencyWithFallback Spec.TreeAlgo2.adoptionAgency
    rw [hl]
    have hc : ((elemOf s.dom cur).name.ns == Spec.TreeAlgo.nsHtml && (elemOf s.dom cur).name.loc == subject &&
        (listPos (elemOf s.dom cur).id (absState s sup log).list).isNone) = sc0 := hsc0.symm
    simp only [hc]
    cases sc0 <;> rfl
  have hA : ∀ (s2 : State) (c2 : List Call) (sc : Bool), Ext s c2 s2 → SameTB s s2 → edits c2 = [] → sc = sc0 →
      Tot (aaAfterShortcut subject sc) s2 (fun _ s' c3 => ∃ ids L,
        (∀ tc, TcOk s'.dom tc → edits (c2 ++ c3) = L.map (editCall tc)) ∧
        (∀ rest log0, adoptionAgencyWithFallback tagCtx subject (absState s (ids ++ rest) log0)
            = some (absState s' rest (log0 ++ L))) ∧
        SameButStackList s s' ∧ ElemsOk s'.dom s'.openElems ∧ (∀ x ∈ ids, s.dom.size ≤ x)) := by
    intro s2 c2 sc he2 hs2 hc2 hsc
    have hst2 := he2.stable
    unfold aaAfterShortcut
    cases sc with
    | true =>
      simp only [if_true]
      refine tot_bind (tot_conseq (pop_tot_pop (s := s2) (h := cur) (by rw [hs2.openElems]; exact hcur))
        fun _ s3 c3 he3 ⟨_, hs3, hopen3, hc3⟩ => ?_)
      refine tot_pure ⟨[], [], ?_, ?_, ?_, ?_, fun x hx => by cases hx⟩
      · intro tc _; simp [edits_append, hc2, hc3]
      · intro rest log0
        simp only [List.nil_append, List.append_nil]
        rw [hspec_eq, ← hsc]
        simp only [if_true, Option.some.injEq]
        have hst3 : Stable s.dom s3.dom := hst2.trans he3.stable
        have hopen3' : s3.openElems = s.openElems.dropLast := by rw [hopen3, hs2.openElems]
        unfold StackOnly at hs3
        simp only [absState]
        rw [hs3]
        simp only []
        rw [hopen3', hs2.activeFormatting, hs2.fosterParenting, hs2.formElem]
        have : absStack s3.dom s.openElems.dropLast = (absStack s.dom s.openElems).dropLast := by
          unfold absStack
          rw [← List.map_dropLast]
          exact absStack_stable (fun x hx => hok x ((List.dropLast_sublist _).subset hx)) hst3
        rw [this]
      · unfold SameButStackList; unfold StackOnly at hs3; rw [hs3]; unfold SameTB at hs2; rw [hs2]
      · rw [hopen3, hs2.openElems]; intro x hx
        exact isElement_stable (hst2.trans he3.stable) (hok x ((List.dropLast_sublist _).subset hx))
    | false =>
      simp only [Bool.false_eq_true, if_false]
      have hok2 : ElemsOk s2.dom s2.openElems := by rw [hs2.openElems]; exact hok.stable hst2
      refine tot_conseq (tot_aaOuter subject 8 s2 hok2 (HeadOk.transfer ⟨h0, hh0, ‹_›⟩ hok hst2 (by rw [hs2.openElems]))
          (by rw [hs2.openElems, hs2.activeFormatting]; exact hafok.mono hok hst2 (fun _ hx => hx) (fun _ he => he)))
        fun _ s3 c3 _ ⟨ids, L, hL, hspec, hS, hok3, hfresh⟩ => ?_
      refine ⟨ids, L, ?_, ?_, ?_, hok3, fun x hx => Nat.le_trans hst2.size (hfresh x hx)⟩
      · intro tc htc; rw [edits_append, hc2, hL tc htc]; rfl
      · intro rest log0
        rw [hspec_eq, ← hsc]
        simp only [Bool.false_eq_true, if_false]
        rw [← absState_sameTB hs2 hst2 hok]; exact hspec rest log0
      · unfold SameButStackList at hS ⊢; unfold SameTB at hs2; rw [hS, hs2]
  rw [adoptionAgency_eq]
  unfold currentNodeNamedS
  refine tot_bind (tot_query_bind (tot_currentNode hcur) fun s1 c1 he1 hs1 hc1 =>
    tot_conseq (tot_htmlElemNamedS s1 cur subject) fun b s2 c2 he2 ⟨hb, hs2, hc2⟩ => ?_)
  rw [nameOf_stable he1.stable hcur_el] at hb
  have hE2 : Ext s (c1 ++ c2) s2 := he1.trans he2
  have hS2 : SameTB s s2 := hs1.trans hs2
  have hC2 : edits (c1 ++ c2) = [] := by rw [edits_append, hc1, hc2]; rfl
  by_cases hnamed : ((nameOf s.dom cur).ns == nsHtml && (nameOf s.dom cur).loc == subject) = true
  · rw [hnamed] at hb; subst hb
    simp only [if_true]
    refine tot_query_bind (tot_currentNode (s := s2) (h := cur) (by rw [hS2.openElems]; exact hcur)) fun s3 c3 he3 hs3 hc3 => ?_
    refine tot_query_bind (tot_positionInAF s3 cur) fun s4 c4 he4 hs4 hc4 => ?_
    refine tot_bind (tot_pure ?_)
    have hS4 : SameTB s s4 := (hS2.trans hs3).trans hs4
    have := hA s4 (((c1 ++ c2) ++ c3) ++ c4) (listPos cur (absList s3.activeFormatting)).isNone ((hE2.trans he3).trans he4) hS4
      (by simp [edits_append, hc1, hc2, hc3, hc4]) ?_
    · simpa [List.append_assoc] using this
    · rw [(hS2.trans hs3).activeFormatting, hsc0, hnamed, Bool.true_and]
  · have hnamed' : ((nameOf s.dom cur).ns == nsHtml && (nameOf s.dom cur).loc == subject) = false := by simpa using hnamed
    rw [hnamed'] at hb; subst hb
    simp only [Bool.false_eq_true, if_false]
    refine tot_bind (tot_pure ?_)
    have := hA s2 (c1 ++ c2) false hE2 hS2 hC2 ?_
    · simpa [List.append_assoc] using this
    · rw [hsc0, hnamed', Bool.false_and]

end H5V.Lemmas.HtmlTBAlgo
