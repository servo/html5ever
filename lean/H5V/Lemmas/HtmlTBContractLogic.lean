import H5V.Lemmas.HtmlTBContractBase
import H5V.Lemmas.HtmlTBContractAttr
/-!
# TreeSink contract for the HTML tree builder: the state-independent judgements

* `CP d0 c m R` — "growing" code: from every state satisfying the base invariant `CB d0` in which the
  handles of the context `c` are elements, `m` fails at most with `Esc`, or ends in a state
  satisfying `CB d0`, related to the start by `GrowRel`, in which the handles `R a` (a function of the
  result) are elements.  Closed under bind / if / getS; leaves: sink calls whose contract is a fact
  about context handles, state updates, and the composite insertion helpers.
* `CPS d0 c m R` — the same with the stack-order invariant `SAnc` in pre- and postcondition and no
  `GrowRel` (the adoption agency, `<frameset>`, the selectedcontent mirror); `cp_toCPS`.
* `cp_walk` — walk a `do` block structurally; the lemma about a call is found through the simp attribute `cp`.
-/
namespace H5V.Lemmas.TBC
open H5V.Model.HtmlTB
open H5V.Model.Dom (Id QualName Attr NodeOrText SinkOp Output ElementFlags QuirksMode Dom NodeData Node Contract)
open H5V.Lemmas.Dom (Anc WF Kinds)
open H5V.Props.C20 (Inv Run)
open H5V.Lemmas.TBSafe (IsEl nm sigOf Ext apply_ext tmplName fmtNames nm_ext sigOf_ext IsEl.ext sigOf_lt)

variable {d0 : Dom}

/-! ### contexts of handles -/

def CtxOk (c : List Id) (s : State) : Prop := ∀ h ∈ c, IsEl s.dom h

theorem CtxOk.ext {c : List Id} {s s' : State} (h : CtxOk c s) (he : Ext s.dom s'.dom) : CtxOk c s' :=
  fun x hx => (h x hx).ext he

theorem CtxOk.app {a b : List Id} {s : State} (ha : CtxOk a s) (hb : CtxOk b s) : CtxOk (a ++ b) s := by
  intro x hx
  rcases List.mem_append.mp hx with h | h
  · exact ha x h
  · exact hb x h

theorem CtxOk.sub {a b : List Id} {s : State} (hb : CtxOk b s) (h : ∀ x ∈ a, x ∈ b) : CtxOk a s :=
  fun x hx => hb x (h x hx)

theorem CtxOk.nil (s : State) : CtxOk [] s := fun _ h => by cases h

/-- the handles of active formatting entries -/
def afIds : List FormatEntry → List Id
  | [] => []
  | .marker :: rest => afIds rest
  | .element h _ :: rest => h :: afIds rest

theorem mem_afIds {h : Id} : ∀ {l : List FormatEntry}, h ∈ afIds l ↔ ∃ t, FormatEntry.element h t ∈ l := by
  intro l
  induction l with
  | nil => simp [afIds]
  | cons e rest ih =>
    cases e with
    | marker => simp [afIds, ih]
    | element h' t' =>
      simp only [afIds, List.mem_cons, ih]
      constructor
      · rintro (rfl | ⟨t, ht⟩)
        · exact ⟨t', Or.inl rfl⟩
        · exact ⟨t, Or.inr ht⟩
      · rintro ⟨t, ht | ht⟩
        · cases ht; exact Or.inl rfl
        · exact Or.inr ⟨t, ht⟩

/-- every handle stored in the builder state -/
def stH (s : State) : List Id :=
  s.openElems ++ afIds s.activeFormatting ++ s.headElem.toList ++ s.formElem.toList ++ s.contextElem.toList

theorem ctxOk_stH {s : State} (h : HL s) : CtxOk (stH s) s := by
  intro x hx
  simp only [stH, List.mem_append, Option.mem_toList] at hx
  rcases hx with (((hx | hx) | hx) | hx) | hx
  · exact h.open_el x hx
  · obtain ⟨t, ht⟩ := mem_afIds.mp hx; exact (h.af x t ht).1
  · exact h.head x hx
  · exact h.form x hx
  · exact h.ctx x hx

/-! ### the judgements -/

def CP (d0 : Dom) (c : List Id) {α : Type} (m : M α) (R : α → List Id) : Prop :=
  ∀ s, CB d0 s → CtxOk c s → SatC m s (fun a s' => CB d0 s' ∧ GrowRel s s' ∧ CtxOk (R a) s')

def CPS (d0 : Dom) (c : List Id) {α : Type} (m : M α) (R : α → List Id) : Prop :=
  ∀ s, CB d0 s → SAnc s.dom s.openElems → CtxOk c s →
    SatC m s (fun a s' => CB d0 s' ∧ SAnc s'.dom s'.openElems ∧ Ext s.dom s'.dom ∧ CtxOk (R a) s')

theorem HL.lt {s : State} (h : HL s) : ∀ x ∈ s.openElems, x < s.dom.size := by
  intro x hx
  obtain ⟨y, hy⟩ := h.open_el x hx
  exact sigOf_lt hy

theorem cp_toCPS {c : List Id} {α : Type} {m : M α} {R : α → List Id} (h : CP d0 c m R) : CPS d0 c m R := by
  intro s hcb hsa hc
  refine (h s hcb hc).mono ?_
  rintro a s' ⟨hcb', hg, hr⟩
  exact ⟨hcb', hsa.grow hcb.d.inv.wf hcb.h.lt hg, hg.ext, hr⟩

/-! ### structural rules, `CP` -/

theorem cp_bind {c : List Id} {α β : Type} {m : M α} {f : α → M β} {R : α → List Id} {R' : β → List Id}
    (h1 : CP d0 c m R) (h2 : ∀ a, CP d0 (R a ++ c) (f a) R') : CP d0 c (m >>= f) R' := by
  intro s hcb hc
  refine (h1 s hcb hc).bind ?_
  rintro a s1 ⟨hcb1, hg1, hr1⟩
  refine (h2 a s1 hcb1 (hr1.app (hc.ext hg1.ext))).mono ?_
  rintro b s2 ⟨hcb2, hg2, hr2⟩
  exact ⟨hcb2, hg1.trans hg2, hr2⟩

theorem cp_pure {c : List Id} {α : Type} (a : α) {R : α → List Id} (h : ∀ x ∈ R a, x ∈ c) :
    CP d0 c (Pure.pure a : M α) R :=
  fun s hcb hc => satc_pure ⟨hcb, GrowRel.refl s, hc.sub h⟩

@[cp]
theorem cp_pure_nil {c : List Id} {α : Type} (a : α) : CP d0 c (Pure.pure a : M α) (fun _ => []) :=
  cp_pure a (fun _ h => by cases h)

theorem cp_ite {c : List Id} {α : Type} {p : Prop} [Decidable p] {a b : M α} {R : α → List Id}
    (h1 : p → CP d0 c a R) (h2 : ¬p → CP d0 c b R) : CP d0 c (if p then a else b) R := by
  by_cases hp : p
  · rw [if_pos hp]; exact h1 hp
  · rw [if_neg hp]; exact h2 hp

theorem cp_weaken {c : List Id} {α : Type} {m : M α} {R R' : α → List Id} (h : CP d0 c m R)
    (hr : ∀ a x, x ∈ R' a → x ∈ R a ∨ x ∈ c) : CP d0 c m R' := by
  intro s hcb hc
  refine (h s hcb hc).mono ?_
  rintro a s' ⟨hcb', hg, hr'⟩
  refine ⟨hcb', hg, ?_⟩
  intro x hx
  rcases hr a x hx with h1 | h1
  · exact hr' x h1
  · exact (hc x h1).ext hg.ext

theorem cp_drop {c : List Id} {α : Type} {m : M α} {R : α → List Id} (h : CP d0 c m R) :
    CP d0 c m (fun _ => []) := cp_weaken h (fun _ _ h => by cases h)

theorem cp_ctx_mono {c c' : List Id} {α : Type} {m : M α} {R : α → List Id} (h : CP d0 c m R)
    (hs : ∀ x ∈ c, x ∈ c') : CP d0 c' m R :=
  fun s hcb hc => h s hcb (hc.sub hs)

/-- after `getS`, the handles stored in the state are known elements -/
theorem cp_getS_bind {c : List Id} {β : Type} {f : State → M β} {R : β → List Id}
    (h : ∀ s0, CP d0 (stH s0 ++ c) (f s0) R) : CP d0 c (getS >>= f) R := by
  intro s hcb hc
  refine satc_getS_bind ?_
  exact h s s hcb ((ctxOk_stH hcb.h).app hc)

/-- the judgement at one state.  Needed where the code writes back a state it has read (`let s ← getS; …;
set { s with … }`): what is written is good only because `s` is the current state, which `cp_getS_bind` forgets;
`cp_getS_bind_at` keeps it. -/
def CPat (d0 : Dom) (s : State) (c : List Id) {α : Type} (m : M α) (R : α → List Id) : Prop :=
  CB d0 s → CtxOk c s → SatC m s (fun a s' => CB d0 s' ∧ GrowRel s s' ∧ CtxOk (R a) s')

theorem cp_at {c : List Id} {α : Type} {m : M α} {R : α → List Id} (h : CP d0 c m R) (s : State) :
    CPat d0 s c m R := h s

theorem cp_getS_bind_at {c : List Id} {β : Type} {f : State → M β} {R : β → List Id}
    (h : ∀ s0, CPat d0 s0 (stH s0 ++ c) (f s0) R) : CP d0 c (getS >>= f) R := by
  intro s hcb hc
  refine satc_getS_bind ?_
  exact h s hcb ((ctxOk_stH hcb.h).app hc)

/-- `set s1; k` at a known state: continue from `s1` -/
theorem cpat_set_bind {s s1 : State} {c : List Id} {β : Type} {k : Unit → M β} {R : β → List Id}
    (h1 : CB d0 s → CB d0 s1 ∧ GrowRel s s1) (hk : CP d0 c (k ()) R) :
    CPat d0 s c ((set s1 : M Unit) >>= k) R := by
  intro hcb hc
  refine satc_set_bind ?_
  obtain ⟨hcb1, hg1⟩ := h1 hcb
  refine (hk s1 hcb1 (hc.ext hg1.ext)).mono ?_
  rintro b s2 ⟨hcb2, hg2, hr2⟩
  exact ⟨hcb2, hg1.trans hg2, hr2⟩

theorem cp_throw {c : List Id} {α : Type} {e : String} {R : α → List Id} (h : Esc e) :
    CP d0 c (throw e : M α) R := fun _ _ _ => satc_throw h

@[cp]
theorem cp_panicAt {c : List Id} {α : Type} {cls site text : String} {R : α → List Id}
    (h : TBSafe.infixL "@sink: ".toList (cls ++ "@" ++ site ++ ": " ++ text).toList = false := by no_sink) :
    CP d0 c (panicAt cls site text : M α) R := fun _ _ _ => satc_panicAt h

@[cp]
theorem cp_fuelOut {c : List Id} {α : Type} {what : String} {R : α → List Id}
    (h : TBSafe.infixL "@sink: ".toList ("model-fuel@model: " ++ what).toList = false := by decide +kernel) :
    CP d0 c (fuelOut what : M α) R := fun _ _ _ => satc_fuelOut h

/-! ### structural rules, `CPS` -/

theorem cps_bind {c : List Id} {α β : Type} {m : M α} {f : α → M β} {R : α → List Id} {R' : β → List Id}
    (h1 : CPS d0 c m R) (h2 : ∀ a, CPS d0 (R a ++ c) (f a) R') : CPS d0 c (m >>= f) R' := by
  intro s hcb hsa hc
  refine (h1 s hcb hsa hc).bind ?_
  rintro a s1 ⟨hcb1, hsa1, he1, hr1⟩
  refine (h2 a s1 hcb1 hsa1 (hr1.app (hc.ext he1))).mono ?_
  rintro b s2 ⟨hcb2, hsa2, he2, hr2⟩
  exact ⟨hcb2, hsa2, he1.trans he2, hr2⟩

theorem cps_ite {c : List Id} {α : Type} {p : Prop} [Decidable p] {a b : M α} {R : α → List Id}
    (h1 : p → CPS d0 c a R) (h2 : ¬p → CPS d0 c b R) : CPS d0 c (if p then a else b) R := by
  by_cases hp : p
  · rw [if_pos hp]; exact h1 hp
  · rw [if_neg hp]; exact h2 hp

theorem cps_weaken {c : List Id} {α : Type} {m : M α} {R R' : α → List Id} (h : CPS d0 c m R)
    (hr : ∀ a x, x ∈ R' a → x ∈ R a ∨ x ∈ c) : CPS d0 c m R' := by
  intro s hcb hsa hc
  refine (h s hcb hsa hc).mono ?_
  rintro a s' ⟨hcb', hsa', he, hr'⟩
  refine ⟨hcb', hsa', he, ?_⟩
  intro x hx
  rcases hr a x hx with h1 | h1
  · exact hr' x h1
  · exact (hc x h1).ext he

theorem cps_drop {c : List Id} {α : Type} {m : M α} {R : α → List Id} (h : CPS d0 c m R) :
    CPS d0 c m (fun _ => []) := cps_weaken h (fun _ _ h => by cases h)

theorem cps_ctx_mono {c c' : List Id} {α : Type} {m : M α} {R : α → List Id} (h : CPS d0 c m R)
    (hs : ∀ x ∈ c, x ∈ c') : CPS d0 c' m R :=
  fun s hcb hsa hc => h s hcb hsa (hc.sub hs)

theorem cps_getS_bind {c : List Id} {β : Type} {f : State → M β} {R : β → List Id}
    (h : ∀ s0, CPS d0 (stH s0 ++ c) (f s0) R) : CPS d0 c (getS >>= f) R := by
  intro s hcb hsa hc
  refine satc_getS_bind ?_
  exact h s s hcb hsa ((ctxOk_stH hcb.h).app hc)

/-! ### leaves: sink calls that do not touch the tree -/

/-- the sink calls after which every old node has the same parent, and new nodes have none -/
def nonTree : SinkOp → Bool
  | .append _ _ => false
  | .appendBasedOnParentNode _ _ _ => false
  | .appendBeforeSibling _ _ => false
  | .appendDoctypeToDocument _ _ _ => false
  | .removeFromParent _ => false
  | .reparentChildren _ _ => false
  | .maybeCloneAnOptionIntoSelectedcontent _ => false
  | _ => true

open H5V.Lemmas.Dom in
theorem parents_of_nonTree {d d' : Dom} {op : SinkOp} {out : Output} (hnt : nonTree op = true)
    (h : d.apply op = .ok (d', out)) :
    d.size ≤ d'.size ∧ (∀ x, x < d.size → d'.parentOf x = d.parentOf x) ∧
    (∀ x, d.size ≤ x → d'.parentOf x = none) := by
  have same : ∀ {dd : Dom}, dd.nodes = d.nodes →
      d.size ≤ dd.size ∧ (∀ x, x < d.size → dd.parentOf x = d.parentOf x) ∧
      (∀ x, d.size ≤ x → dd.parentOf x = none) := by
    intro dd hn
    have hs : dd.size = d.size := by simp [Dom.size, hn]
    refine ⟨Nat.le_of_eq hs.symm, fun x _ => by simp [Dom.parentOf, hn], fun x hx => ?_⟩
    exact parentOf_none_of_ge (by rw [hs]; exact hx)
  have alloc1 : ∀ (data : NodeData),
      d.size ≤ (d.alloc data).1.size ∧ (∀ x, x < d.size → (d.alloc data).1.parentOf x = d.parentOf x) ∧
      (∀ x, d.size ≤ x → (d.alloc data).1.parentOf x = none) := by
    intro data
    refine ⟨by simp, fun x _ => parentOf_alloc d data x, fun x hx => ?_⟩
    rw [parentOf_alloc]; exact parentOf_none_of_ge hx
  unfold Dom.apply Dom.cloneVariant Dom.beforeSiblingVariant at h
  cases op <;> simp only [nonTree] at hnt <;> try (cases hnt)
  · simp [Dom.applyV] at h; rw [← h.1]; exact same rfl
  · simp [Dom.applyV] at h; rw [← h.1]; exact same rfl
  · rename_i t
    simp only [Dom.applyV, bind, Except.bind] at h
    cases he : d.elemName t with
    | error e => simp [he] at h
    | ok r => simp [he] at h; rw [← h.1]; exact same rfl
  · rename_i name attrs flags
    simp [Dom.applyV] at h; rw [← h.1]
    unfold Dom.createElement
    split
    · have a1 := alloc1 .document
      have hs1 : (d.alloc NodeData.document).1.size = d.size + 1 := by simp
      refine ⟨by simp; omega, fun x hx => ?_, fun x hx => ?_⟩
      · rw [parentOf_alloc, parentOf_alloc]
      · rw [parentOf_alloc, parentOf_alloc]; exact parentOf_none_of_ge hx
    · exact alloc1 _
  · simp [Dom.applyV, Dom.createComment] at h; rw [← h.1]; exact alloc1 _
  · simp [Dom.applyV, Dom.createPi] at h; rw [← h.1]; exact alloc1 _
  · simp [Dom.applyV] at h; rw [← h.1]; exact same rfl
  · simp [Dom.applyV] at h; rw [← h.1]; exact same rfl
  · rename_i t
    simp only [Dom.applyV, bind, Except.bind] at h
    cases he : d.getTemplateContents t with
    | error e => simp [he] at h
    | ok r => simp [he] at h; rw [← h.1]; exact same rfl
  · simp [Dom.applyV] at h; rw [← h.1]; exact same rfl
  · simp [Dom.applyV] at h; rw [← h.1]; exact same rfl
  · rename_i t a
    simp only [Dom.applyV, bind, Except.bind] at h
    cases he : d.addAttrsIfMissing t a with
    | error e => simp [he] at h
    | ok r =>
      simp [he] at h; rw [← h.1]
      obtain ⟨name, existing, tc, ip, _, hsh, _, hs⟩ := addAttrsIfMissing_ok he
      refine ⟨Nat.le_of_eq hs.symm, fun x _ => hsh.parent x, fun x hx => ?_⟩
      exact parentOf_none_of_ge (by rw [hs]; exact hx)
  · simp [Dom.applyV] at h; rw [← h.1]; exact same rfl
  · rename_i t
    simp only [Dom.applyV, bind, Except.bind] at h
    cases he : d.isMathmlAnnotationXmlIntegrationPoint t with
    | error e => simp [he] at h
    | ok r => simp [he] at h; rw [← h.1]; exact same rfl
  · simp [Dom.applyV] at h; rw [← h.1]; exact same rfl
  · simp [Dom.applyV] at h; rw [← h.1]; exact same rfl
  · simp [Dom.applyV] at h; rw [← h.1]; exact same rfl

/-- handles and modes survive a change of the sink only -/
theorem CB.of_dom {s : State} (h : CB d0 s) {d' : Dom} {t : List (SinkOp × Output)}
    (hd : DomI d0 { s with dom := d', traceRev := t }) (he : Ext s.dom d') (hk : KExt s.dom d') :
    CB d0 { s with dom := d', traceRev := t } where
  d := hd
  h := ⟨h.h.docH, isDoc_kext hk h.h.doc0, fun x hx => (h.h.open_el x hx).ext he,
    fun x hx => (h.h.open_tc x hx).ext he hk (h.h.open_el x hx),
    fun x t hx => by
      obtain ⟨h1, h2, h3, h4⟩ := h.h.af x t hx
      exact ⟨h1.ext he, by rw [nm_ext he h1]; exact h2, h3, h4⟩,
    fun x hx => (h.h.head x hx).ext he, fun x hx => (h.h.form x hx).ext he,
    fun x hx => (h.h.ctx x hx).ext he,
    fun x hx => (h.h.headTc x hx).ext he hk (h.h.head x hx)⟩
  l := ⟨h.l.mode, h.l.orig, h.l.tm⟩

theorem GrowRel.of_nonTree {s : State} {op : SinkOp} {d' : Dom} {out : Output} (hnt : nonTree op = true)
    (ha : s.dom.apply op = .ok (d', out)) :
    GrowRel s { s with dom := d', traceRev := (op, out) :: s.traceRev } := by
  obtain ⟨h1, h2, h3⟩ := parents_of_nonTree hnt ha
  refine ⟨apply_ext ha, apply_kext ha, h1, h2, fun x p hx hp => ?_, ⟨s.openElems, [], by simp, List.Sublist.refl _, by simp, List.Pairwise.nil⟩⟩
  have : ({ s with dom := d', traceRev := (op, out) :: s.traceRev } : State).dom.parentOf x = none := h3 x hx
  rw [this] at hp; cases hp

/-- **a sink call that does not touch the tree, inside the contract** -/
theorem satc_sink_nt {op : SinkOp} {s : State} (hcb : CB d0 s) (hnt : nonTree op = true)
    (hc : Contract s.dom op) :
    SatC (sink op) s (fun out s' => CB d0 s' ∧ GrowRel s s' ∧ s.dom.apply op = .ok (s'.dom, out)) := by
  refine satc_sink hcb.d hc ?_
  intro d' out ha hd
  exact ⟨hcb.of_dom hd (apply_ext ha) (apply_kext ha), GrowRel.of_nonTree hnt ha, ha⟩

theorem isElement_of_isEl {d : Dom} {h : Id} (hi : IsEl d h) : d.isElement h = true := by
  obtain ⟨x, hx⟩ := hi
  unfold sigOf at hx
  unfold Dom.isElement
  cases hd : d.dataOf h with
  | none => rw [hd] at hx; cases hx
  | some v =>
    rw [hd] at hx
    cases v <;> simp [TBSafe.sigData] at hx ⊢

theorem lt_of_isEl {d : Dom} {h : Id} (hi : IsEl d h) : h < d.size := by
  obtain ⟨x, hx⟩ := hi; exact sigOf_lt hx

/-- a tree-neutral sink call whose contract follows from the context, result ignored -/
theorem cp_sinkUnit_nt {c : List Id} {op : SinkOp} (hnt : nonTree op = true)
    (hc : ∀ s, CB d0 s → CtxOk c s → Contract s.dom op) : CP d0 c (sinkUnit op) (fun _ => []) := by
  intro s hcb hctx
  unfold sinkUnit
  refine (satc_sink_nt hcb hnt (hc s hcb hctx)).bind ?_
  rintro out s' ⟨h1, h2, _⟩
  exact satc_pure ⟨h1, h2, CtxOk.nil _⟩

theorem cp_sink_nt {c : List Id} {op : SinkOp} (hnt : nonTree op = true)
    (hc : ∀ s, CB d0 s → CtxOk c s → Contract s.dom op) : CP d0 c (sink op) (fun _ => []) := by
  intro s hcb hctx
  refine (satc_sink_nt hcb hnt (hc s hcb hctx)).mono ?_
  rintro out s' ⟨h1, h2, _⟩
  exact ⟨h1, h2, CtxOk.nil _⟩

/-! ### leaves: state updates -/

/-- an update of builder fields only -/
theorem cp_modS {c : List Id} {f : State → State}
    (h : ∀ s, CB d0 s → CtxOk c s → CB d0 (f s) ∧ GrowRel s (f s)) : CP d0 c (modS f) (fun _ => []) :=
  fun s hcb hc => satc_modS ⟨(h s hcb hc).1, (h s hcb hc).2, CtxOk.nil _⟩

theorem GrowRel.of_sublist {s s' : State} (hd : s'.dom = s.dom) (hs : s'.openElems.Sublist s.openElems) :
    GrowRel s s' := by
  refine ⟨by rw [hd]; exact Ext.refl _, by rw [hd]; exact KExt.refl _, by rw [hd]; exact Nat.le_refl _,
    fun x _ => by rw [hd], fun x p hx hp => ?_, ⟨s'.openElems, [], by simp, hs, by simp, List.Pairwise.nil⟩⟩
  rw [hd, H5V.Lemmas.Dom.parentOf_none_of_ge hx] at hp; cases hp

/-- a builder-field update that keeps the sink, shrinks the stack and the list of active formatting
elements, keeps or clears the pointers, and keeps the modes late -/
theorem CB.of_shrink {s s' : State} (h : CB d0 s) (hd : s'.dom = s.dom) (ht : s'.traceRev = s.traceRev)
    (hdoc : s'.docHandle = s.docHandle)
    (ho : ∀ x ∈ s'.openElems, x ∈ s.openElems)
    (ha : ∀ e ∈ s'.activeFormatting, e ∈ s.activeFormatting)
    (hh : ∀ x, s'.headElem = some x → s.headElem = some x)
    (hf : ∀ x, s'.formElem = some x → s.formElem = some x)
    (hc : ∀ x, s'.contextElem = some x → s.contextElem = some x)
    (hl : LateS s') : CB d0 s' where
  d := ⟨by rw [hd]; exact h.d.inv, by rw [hd, ht]; exact h.d.run⟩
  h := ⟨hdoc.trans h.h.docH, by rw [hd]; exact h.h.doc0, fun x hx => by rw [hd]; exact h.h.open_el x (ho x hx),
    fun x hx => by rw [hd]; exact h.h.open_tc x (ho x hx),
    fun x t hx => by rw [hd]; exact h.h.af x t (ha _ hx),
    fun x hx => by rw [hd]; exact h.h.head x (hh x hx), fun x hx => by rw [hd]; exact h.h.form x (hf x hx),
    fun x hx => by rw [hd]; exact h.h.ctx x (hc x hx), fun x hx => by rw [hd]; exact h.h.headTc x (hh x hx)⟩
  l := hl

/-! ### the walker -/

/-- membership goals about contexts -/
syntax "ctx_mem" : tactic
macro_rules
  | `(tactic| ctx_mem) => `(tactic|
    first
      | assumption
      | (simp only [stH, List.mem_append, List.mem_cons, List.mem_singleton, List.not_mem_nil, List.nil_append,
          List.append_nil, Option.mem_toList, or_false, false_or, true_or, or_true]; done)
      | (simp [stH, *]; done))

/-- side conditions of the lemmas about calls (extended by `macro_rules` in `HtmlTBContractIns`,
`HtmlTBContractQuiet`, `HtmlTBContractRules1`) -/
syntax "cp_side" : tactic
macro_rules
  | `(tactic| cp_side) => `(tactic| first | assumption | no_sink | decide +kernel | ctx_mem)

/-- a call of a model function: its lemma carries the attribute `cp`, and `simp` finds it by the head symbol of
the code -/
macro "cp_call" : tactic => `(tactic| simp (disch := cp_side) only [cp])

/-- `pure a` whose handles are in the context; extended by `macro_rules` in `HtmlTBContractQuiet` with the calls
whose lemma takes a lemma about their predicate argument (`in_scope`, `rposition`), which `cp_side` does not find -/
syntax "cp_leaf" : tactic
macro_rules
  | `(tactic| cp_leaf) => `(tactic|
    (with_reducible refine cp_pure _ ?_) <;>
      (intro _ hx
       first
         | (cases hx; done)
         | (simp only [List.mem_singleton, List.mem_cons, List.not_mem_nil, or_false] at hx; subst hx; ctx_mem)))

syntax "cp_walk" : tactic

/-- succeeds on a bind only, so that the rules for binds are tried on binds only -/
theorem cp_isBind {c : List Id} {α β : Type} {m : M α} {f : α → M β} {R : β → List Id}
    (h : CP d0 c (m >>= f) R) : CP d0 c (m >>= f) R := h

/-- the rules for a bind (extended by special first components).  The handles `R` that the first component hands
to the rest are tried in three shapes, which are the only answers of the model's functions that carry handles:
a handle, an optional handle, and (for every other answer) none. -/
syntax "cp_bind_step" : tactic
macro_rules
  | `(tactic| cp_bind_step) => `(tactic|
    first
      | with_reducible refine cp_getS_bind ?_
      | ((with_reducible refine cp_bind (R := fun h => [h]) ?_ ?_); focus (cp_walk; done))
      | ((with_reducible refine cp_bind (R := fun r => r.toList) ?_ ?_); focus (cp_walk; done))
      | ((with_reducible refine cp_bind (R := fun _ => []) ?_ ?_); focus (cp_walk; done)))

/-- one step of the walk: the structural rule for the head of the code, else a call -/
syntax "cp_step" : tactic
macro_rules
  | `(tactic| cp_step) => `(tactic|
    first
      | with_reducible intro _
      | ((with_reducible refine cp_isBind ?_); cp_bind_step)
      | with_reducible apply cp_ite
      | cp_call
      | cp_leaf
      | ((with_reducible refine cp_drop (R := fun h => [h]) ?_); cp_call)
      | dsimp only)

macro_rules
  | `(tactic| cp_walk) => `(tactic| repeat' cp_step)

end H5V.Lemmas.TBC
