import H5V.Model.HtmlTok
import H5V.Lemmas.HtmlTokFields
/-!
Facts about the transition tables (`transChar`, `transSet`, `transEof`) and the two procedures
their arms end in (`emit_current_tag`, `start_consuming_character_reference`) that hold for every
state and character. The tables are restated as programs over register actions
(`progChar`, `progSet`, `progEof`, equal to the model's tables by `transChar_eq` & co.); what every
action preserves is proved action by action, and what depends on the arm (which state follows
which, where `reconsume` is set, what happens to `temp_buf`) is read off the programs once, in
`transChar_ctl` and `transSet_ctl`.
-/
namespace H5V.Model.HtmlTok

/-! ### `emit_current_tag` and `start_consuming_character_reference`: what they leave alone -/

/-- the states the sink's answer to a tag token can leave the tokenizer in -/
def sinkState (s0 s : State) : Prop :=
  s = s0 ∨ s = .plaintext ∨ s = .data ∨ ∃ k, s = .rawData k

theorem sinkState_data_not_eat {s : State} (h : sinkState .data s) :
    s ≠ .markupDeclarationOpen ∧ s ≠ .afterDoctypeName ∧ s ≠ .tagOpen := by
  unfold sinkState at h
  rcases h with h | h | h | ⟨k, h⟩ <;> subst h <;> simp

theorem sinkState_data_not_unq {s : State} (h : sinkState .data s) :
    s ≠ .attributeValue .unquoted := by
  unfold sinkState at h
  rcases h with h | h | h | ⟨k, h⟩ <;> subst h <;> simp

theorem applySinkRes_state (m : Mach) (r : SinkRes) : sinkState m.state (applySinkRes m r).1.state := by
  unfold applySinkRes sinkState
  cases r <;> simp

macro "sink_fields" : tactic =>
  `(tactic| (unfold applySinkRes; split <;> simp))

@[simp] theorem applySinkRes_tempBuf (m : Mach) (r : SinkRes) : (applySinkRes m r).1.tempBuf = m.tempBuf := by sink_fields
@[simp] theorem applySinkRes_reconsume (m : Mach) (r : SinkRes) : (applySinkRes m r).1.reconsume = m.reconsume := by sink_fields
@[simp] theorem applySinkRes_ignoreLf (m : Mach) (r : SinkRes) : (applySinkRes m r).1.ignoreLf = m.ignoreLf := by sink_fields
@[simp] theorem applySinkRes_atEof (m : Mach) (r : SinkRes) : (applySinkRes m r).1.atEof = m.atEof := by sink_fields
@[simp] theorem applySinkRes_charRef (m : Mach) (r : SinkRes) : (applySinkRes m r).1.charRef = m.charRef := by sink_fields
@[simp] theorem applySinkRes_line (m : Mach) (r : SinkRes) : (applySinkRes m r).1.line = m.line := by sink_fields
@[simp] theorem applySinkRes_currentChar (m : Mach) (r : SinkRes) : (applySinkRes m r).1.currentChar = m.currentChar := by sink_fields
@[simp] theorem applySinkRes_discardBom (m : Mach) (r : SinkRes) : (applySinkRes m r).1.discardBom = m.discardBom := by sink_fields

@[simp] theorem emitCurrentTag_tempBuf (pol : Pol) (m : Mach) : (emitCurrentTag pol m).1.tempBuf = m.tempBuf := by simp [emitCurrentTag]
@[simp] theorem emitCurrentTag_reconsume (pol : Pol) (m : Mach) : (emitCurrentTag pol m).1.reconsume = m.reconsume := by simp [emitCurrentTag]
@[simp] theorem emitCurrentTag_ignoreLf (pol : Pol) (m : Mach) : (emitCurrentTag pol m).1.ignoreLf = m.ignoreLf := by simp [emitCurrentTag]
@[simp] theorem emitCurrentTag_atEof (pol : Pol) (m : Mach) : (emitCurrentTag pol m).1.atEof = m.atEof := by simp [emitCurrentTag]
@[simp] theorem emitCurrentTag_charRef (pol : Pol) (m : Mach) : (emitCurrentTag pol m).1.charRef = m.charRef := by simp [emitCurrentTag]
@[simp] theorem emitCurrentTag_line (pol : Pol) (m : Mach) : (emitCurrentTag pol m).1.line = m.line := by simp [emitCurrentTag]
@[simp] theorem emitCurrentTag_currentChar (pol : Pol) (m : Mach) : (emitCurrentTag pol m).1.currentChar = m.currentChar := by simp [emitCurrentTag]
@[simp] theorem emitCurrentTag_discardBom (pol : Pol) (m : Mach) : (emitCurrentTag pol m).1.discardBom = m.discardBom := by simp [emitCurrentTag]

theorem emitCurrentTag_state (pol : Pol) (m : Mach) : sinkState m.state (emitCurrentTag pol m).1.state := by
  unfold emitCurrentTag
  have := applySinkRes_state (emit (takeTag (tagPrologue m)) (.tag (currentTag (tagPrologue m))))
    (pol.onTag (takeTag (tagPrologue m)).out (currentTag (tagPrologue m)))
  simpa using this

@[simp] theorem emitTag_tempBuf (pol : Pol) (s : State) (m : Mach) : (emitTag pol s m).1.tempBuf = m.tempBuf := by simp [emitTag]
@[simp] theorem emitTag_reconsume (pol : Pol) (s : State) (m : Mach) : (emitTag pol s m).1.reconsume = m.reconsume := by simp [emitTag]
@[simp] theorem emitTag_ignoreLf (pol : Pol) (s : State) (m : Mach) : (emitTag pol s m).1.ignoreLf = m.ignoreLf := by simp [emitTag]
@[simp] theorem emitTag_atEof (pol : Pol) (s : State) (m : Mach) : (emitTag pol s m).1.atEof = m.atEof := by simp [emitTag]
@[simp] theorem emitTag_charRef (pol : Pol) (s : State) (m : Mach) : (emitTag pol s m).1.charRef = m.charRef := by simp [emitTag]
@[simp] theorem emitTag_line (pol : Pol) (s : State) (m : Mach) : (emitTag pol s m).1.line = m.line := by simp [emitTag]
@[simp] theorem emitTag_currentChar (pol : Pol) (s : State) (m : Mach) : (emitTag pol s m).1.currentChar = m.currentChar := by simp [emitTag]
@[simp] theorem emitTag_discardBom (pol : Pol) (s : State) (m : Mach) : (emitTag pol s m).1.discardBom = m.discardBom := by simp [emitTag]

theorem emitTag_state (pol : Pol) (s : State) (m : Mach) : sinkState s (emitTag pol s m).1.state := by
  have := emitCurrentTag_state pol (to s m)
  simpa [emitTag] using this

macro "ccr_fields" : tactic => `(tactic| (unfold consumeCharRef; split <;> simp))
@[simp] theorem consumeCharRef_state (m : Mach) : (consumeCharRef m).1.state = m.state := by ccr_fields
@[simp] theorem consumeCharRef_tempBuf (m : Mach) : (consumeCharRef m).1.tempBuf = m.tempBuf := by ccr_fields
@[simp] theorem consumeCharRef_reconsume (m : Mach) : (consumeCharRef m).1.reconsume = m.reconsume := by ccr_fields
@[simp] theorem consumeCharRef_ignoreLf (m : Mach) : (consumeCharRef m).1.ignoreLf = m.ignoreLf := by ccr_fields
@[simp] theorem consumeCharRef_atEof (m : Mach) : (consumeCharRef m).1.atEof = m.atEof := by ccr_fields
@[simp] theorem consumeCharRef_line (m : Mach) : (consumeCharRef m).1.line = m.line := by ccr_fields
@[simp] theorem consumeCharRef_currentChar (m : Mach) : (consumeCharRef m).1.currentChar = m.currentChar := by ccr_fields
@[simp] theorem consumeCharRef_discardBom (m : Mach) : (consumeCharRef m).1.discardBom = m.discardBom := by ccr_fields


/-! ### the tables as programs

Every arm of `transChar`, `transSet` and `transEof` applies a few register actions to the machine
and ends in one of four ways. `progChar`, `progSet`, `progEof` are the same tables with the actions
as data; a fact that every action preserves then holds of every transition (`runOps_induct`), and
a fact about which state follows which is read off the programs without the machine. -/

/-- the register actions (`go!` shorthands) of the transition tables -/
inductive TokOp
  | to (s : State) | reconsumeTo (s : State) | badChar | badEof
  | emit (t : Token) | emitChar (c : Char) | emitChars (s : Str) | emitTempBuf | emitComment | emitDoctype
  | discardTag | createTag (k : TagKind) (c : Char) | pushTag (c : Char) | selfClose
  | pushTemp (c : Char) | clearTemp
  | createAttr (c : Char) | pushName (c : Char) | pushValue (c : Char) | appendValue (s : Str)
  | pushComment (c : Char) | appendComment (s : String) | clearComment
  | createDoctype | pushDoctypeName (c : Char) | pushDoctypeId (k : DoctypeIdKind) (c : Char)
  | clearDoctypeId (k : DoctypeIdKind) | forceQuirks

def TokOp.run (o : Opts) : TokOp → Mach → Mach
  | .to s, m => HtmlTok.to s m
  | .reconsumeTo s, m => HtmlTok.reconsumeTo s m
  | .badChar, m => HtmlTok.badChar o m
  | .badEof, m => HtmlTok.badEof o m
  | .emit t, m => HtmlTok.emit m t
  | .emitChar c, m => HtmlTok.emitChar m c
  | .emitChars s, m => HtmlTok.emitChars m s
  | .emitTempBuf, m => HtmlTok.emitTempBuf m
  | .emitComment, m => HtmlTok.emitComment m
  | .emitDoctype, m => HtmlTok.emitDoctype m
  | .discardTag, m => HtmlTok.discardTag m
  | .createTag k c, m => HtmlTok.createTag k c m
  | .pushTag c, m => HtmlTok.pushTag c m
  | .selfClose, m => { m with tagSelfClosing := true }
  | .pushTemp c, m => HtmlTok.pushTemp c m
  | .clearTemp, m => HtmlTok.clearTemp m
  | .createAttr c, m => HtmlTok.createAttr c m
  | .pushName c, m => HtmlTok.pushName c m
  | .pushValue c, m => HtmlTok.pushValue c m
  | .appendValue s, m => HtmlTok.appendValue s m
  | .pushComment c, m => HtmlTok.pushComment c m
  | .appendComment s, m => HtmlTok.appendComment s m
  | .clearComment, m => HtmlTok.clearComment m
  | .createDoctype, m => HtmlTok.createDoctype m
  | .pushDoctypeName c, m => HtmlTok.pushDoctypeName c m
  | .pushDoctypeId k c, m => HtmlTok.pushDoctypeId k c m
  | .clearDoctypeId k, m => HtmlTok.clearDoctypeId k m
  | .forceQuirks, m => HtmlTok.forceQuirks m

/-- the actions of a list, last one first: the list reads like the nested calls in the model -/
def runOps (o : Opts) : List TokOp → Mach → Mach
  | [], m => m
  | op :: ops, m => op.run o (runOps o ops m)

/-- how an arm of `transChar` / `transSet` ends -/
inductive ArmEnd | cont | tag | charRef | panic (msg : String)

def ArmEnd.run (pol : Pol) : ArmEnd → Mach → Mach × Sig
  | .cont, m => (m, .cont)
  | .tag, m => emitTag pol .data m
  | .charRef, m => consumeCharRef m
  | .panic e, m => (m, .panic e)

theorem ArmEnd.run_tag (pol : Pol) (m : Mach) : ArmEnd.tag.run pol m = emitTag pol .data m := rfl

def progChar (st : State) (hae : Bool) (script : Prop) [Decidable script] (c : Char) : List TokOp × ArmEnd :=
  let ok (ops : List TokOp) : List TokOp × ArmEnd := (ops, .cont)
  let tag (ops : List TokOp) : List TokOp × ArmEnd := (ops, .tag)
  match st with
  | .tagOpen =>
    if c = '!' then ok [.to .markupDeclarationOpen]
    else if c = '/' then ok [.to .endTagOpen]
    else if c = '?' then ok [.reconsumeTo .bogusComment, .clearComment, .badChar]
    else match lowerAsciiLetter c with
      | some cl => ok [.to .tagName, .createTag .startTag cl]
      | none => ok [.reconsumeTo .data, .emitChar '<', .badChar]
  | .endTagOpen =>
    if c = '>' then ok [.to .data, .badChar]
    else match lowerAsciiLetter c with
      | some cl => ok [.to .tagName, .createTag .endTag cl]
      | none => ok [.reconsumeTo .bogusComment, .clearComment, .badChar]
  | .tagName =>
    if isWs c then ok [.to .beforeAttributeName]
    else if c = '/' then ok [.to .selfClosingStartTag]
    else if c = '>' then tag []
    else if c = '\x00' then ok [.pushTag '�', .badChar]
    else ok [.pushTag (toAsciiLower c)]
  | .rawLessThanSign (.scriptDataEscaped .escaped) =>
    if c = '/' then ok [.to (.rawEndTagOpen (.scriptDataEscaped .escaped)), .clearTemp]
    else match lowerAsciiLetter c with
      | some cl =>
        ok [.to (.scriptDataEscapeStart .doubleEscaped), .emitChar c, .emitChar '<', .pushTemp cl, .clearTemp]
      | none => ok [.reconsumeTo (.rawData (.scriptDataEscaped .escaped)), .emitChar '<']
  | .rawLessThanSign (.scriptDataEscaped .doubleEscaped) =>
    if c = '/' then ok [.to .scriptDataDoubleEscapeEnd, .emitChar '/', .clearTemp]
    else ok [.reconsumeTo (.rawData (.scriptDataEscaped .doubleEscaped))]
  | .rawLessThanSign kind =>
    if c = '/' then ok [.to (.rawEndTagOpen kind), .clearTemp]
    else if c = '!' ∧ kind = .scriptData then
      ok [.to (.scriptDataEscapeStart .escaped), .emitChar '!', .emitChar '<']
    else ok [.reconsumeTo (.rawData kind), .emitChar '<']
  | .rawEndTagOpen kind =>
    match lowerAsciiLetter c with
    | some cl => ok [.to (.rawEndTagName kind), .pushTemp c, .createTag .endTag cl]
    | none => ok [.reconsumeTo (.rawData kind), .emitChar '/', .emitChar '<']
  | .rawEndTagName kind =>
    let fallthrough : List TokOp × ArmEnd :=
      match lowerAsciiLetter c with
      | some cl => ok [.pushTemp c, .pushTag cl]
      | none => ok [.reconsumeTo (.rawData kind), .emitTempBuf, .emitChar '/', .emitChar '<', .discardTag]
    if hae then
      if isWs c then ok [.to .beforeAttributeName, .clearTemp]
      else if c = '/' then ok [.to .selfClosingStartTag, .clearTemp]
      else if c = '>' then tag [.clearTemp]
      else fallthrough
    else fallthrough
  | .scriptDataEscapeStart .doubleEscaped =>
    if isWs c || c = '/' || c = '>' then
      ok [.to (.rawData (.scriptDataEscaped (if script then .doubleEscaped else .escaped))), .emitChar c]
    else match lowerAsciiLetter c with
      | some cl => ok [.emitChar c, .pushTemp cl]
      | none => ok [.reconsumeTo (.rawData (.scriptDataEscaped .escaped))]
  | .scriptDataEscapeStart .escaped =>
    if c = '-' then ok [.to .scriptDataEscapeStartDash, .emitChar '-']
    else ok [.reconsumeTo (.rawData .scriptData)]
  | .scriptDataEscapeStartDash =>
    if c = '-' then ok [.to (.scriptDataEscapedDashDash .escaped), .emitChar '-']
    else ok [.reconsumeTo (.rawData .scriptData)]
  | .scriptDataEscapedDash kind =>
    if c = '-' then ok [.to (.scriptDataEscapedDashDash kind), .emitChar '-']
    else if c = '<' then
      ok (.to (.rawLessThanSign (.scriptDataEscaped kind)) :: if kind = .doubleEscaped then [.emitChar '<'] else [])
    else if c = '\x00' then ok [.to (.rawData (.scriptDataEscaped kind)), .emitChar '�', .badChar]
    else ok [.to (.rawData (.scriptDataEscaped kind)), .emitChar c]
  | .scriptDataEscapedDashDash kind =>
    if c = '-' then ok [.emitChar '-']
    else if c = '<' then
      ok (.to (.rawLessThanSign (.scriptDataEscaped kind)) :: if kind = .doubleEscaped then [.emitChar '<'] else [])
    else if c = '>' then ok [.to (.rawData .scriptData), .emitChar '>']
    else if c = '\x00' then ok [.to (.rawData (.scriptDataEscaped kind)), .emitChar '�', .badChar]
    else ok [.to (.rawData (.scriptDataEscaped kind)), .emitChar c]
  | .scriptDataDoubleEscapeEnd =>
    if isWs c || c = '/' || c = '>' then
      ok [.to (.rawData (.scriptDataEscaped (if script then .escaped else .doubleEscaped))), .emitChar c]
    else match lowerAsciiLetter c with
      | some cl => ok [.emitChar c, .pushTemp cl]
      | none => ok [.reconsumeTo (.rawData (.scriptDataEscaped .doubleEscaped))]
  | .beforeAttributeName =>
    if isWs c then ok []
    else if c = '/' then ok [.to .selfClosingStartTag]
    else if c = '>' then tag []
    else if c = '\x00' then ok [.to .attributeName, .createAttr '�', .badChar]
    else match lowerAsciiLetter c with
      | some cl => ok [.to .attributeName, .createAttr cl]
      | none =>
        ok (.to .attributeName :: .createAttr c :: if c = '"' || c = '\'' || c = '<' || c = '=' then [.badChar] else [])
  | .attributeName =>
    if isWs c then ok [.to .afterAttributeName]
    else if c = '/' then ok [.to .selfClosingStartTag]
    else if c = '=' then ok [.to .beforeAttributeValue]
    else if c = '>' then tag []
    else if c = '\x00' then ok [.pushName '�', .badChar]
    else match lowerAsciiLetter c with
      | some cl => ok [.pushName cl]
      | none =>
        ok (.pushName c :: if c = '"' || c = '\'' || c = '<' then [.badChar] else [])
  | .afterAttributeName =>
    if isWs c then ok []
    else if c = '/' then ok [.to .selfClosingStartTag]
    else if c = '=' then ok [.to .beforeAttributeValue]
    else if c = '>' then tag []
    else if c = '\x00' then ok [.to .attributeName, .createAttr '�', .badChar]
    else match lowerAsciiLetter c with
      | some cl => ok [.to .attributeName, .createAttr cl]
      | none =>
        ok (.to .attributeName :: .createAttr c :: if c = '"' || c = '\'' || c = '<' then [.badChar] else [])
  | .afterAttributeValueQuoted =>
    if isWs c then ok [.to .beforeAttributeName]
    else if c = '/' then ok [.to .selfClosingStartTag]
    else if c = '>' then tag []
    else ok [.reconsumeTo .beforeAttributeName, .badChar]
  | .selfClosingStartTag =>
    if c = '>' then tag [.selfClose]
    else ok [.reconsumeTo .beforeAttributeName, .badChar]
  | .commentStart =>
    if c = '-' then ok [.to .commentStartDash]
    else if c = '\x00' then ok [.to .comment, .pushComment '�', .badChar]
    else if c = '>' then ok [.to .data, .emitComment, .badChar]
    else ok [.to .comment, .pushComment c]
  | .commentStartDash =>
    if c = '-' then ok [.to .commentEnd]
    else if c = '\x00' then ok [.to .comment, .appendComment "-�", .badChar]
    else if c = '>' then ok [.to .data, .emitComment, .badChar]
    else ok [.to .comment, .pushComment c, .pushComment '-']
  | .comment =>
    if c = '<' then ok [.to .commentLessThanSign, .pushComment c]
    else if c = '-' then ok [.to .commentEndDash]
    else if c = '\x00' then ok [.pushComment '�', .badChar]
    else ok [.pushComment c]
  | .commentLessThanSign =>
    if c = '!' then ok [.to .commentLessThanSignBang, .pushComment c]
    else if c = '<' then ok [.pushComment c]
    else ok [.reconsumeTo .comment]
  | .commentLessThanSignBang =>
    if c = '-' then ok [.to .commentLessThanSignBangDash]
    else ok [.reconsumeTo .comment]
  | .commentLessThanSignBangDash =>
    if c = '-' then ok [.to .commentLessThanSignBangDashDash]
    else ok [.reconsumeTo .commentEndDash]
  | .commentLessThanSignBangDashDash =>
    if c = '>' then ok [.reconsumeTo .commentEnd]
    else ok [.reconsumeTo .commentEnd, .badChar]
  | .commentEndDash =>
    if c = '-' then ok [.to .commentEnd]
    else if c = '\x00' then ok [.to .comment, .appendComment "-�", .badChar]
    else ok [.to .comment, .pushComment c, .pushComment '-']
  | .commentEnd =>
    if c = '>' then ok [.to .data, .emitComment]
    else if c = '!' then ok [.to .commentEndBang]
    else if c = '-' then ok [.pushComment '-']
    else ok [.reconsumeTo .comment, .appendComment "--"]
  | .commentEndBang =>
    if c = '-' then ok [.to .commentEndDash, .appendComment "--!"]
    else if c = '>' then ok [.to .data, .emitComment, .badChar]
    else if c = '\x00' then ok [.to .comment, .appendComment "--!�", .badChar]
    else ok [.to .comment, .pushComment c, .appendComment "--!"]
  | .doctype =>
    if isWs c then ok [.to .beforeDoctypeName]
    else if c = '>' then ok [.reconsumeTo .beforeDoctypeName]
    else ok [.reconsumeTo .beforeDoctypeName, .badChar]
  | .beforeDoctypeName =>
    if isWs c then ok []
    else if c = '\x00' then ok [.to .doctypeName, .pushDoctypeName '�', .createDoctype, .badChar]
    else if c = '>' then ok [.to .data, .emitDoctype, .forceQuirks, .createDoctype, .badChar]
    else ok [.to .doctypeName, .pushDoctypeName (toAsciiLower c), .createDoctype]
  | .doctypeName =>
    if isWs c then ok [.to .afterDoctypeName, .clearTemp]
    else if c = '>' then ok [.to .data, .emitDoctype]
    else if c = '\x00' then ok [.pushDoctypeName '�', .badChar]
    else ok [.pushDoctypeName (toAsciiLower c)]
  | .afterDoctypeName =>  -- the `else` branch after both `eat!`s failed
    if isWs c then ok []
    else if c = '>' then ok [.to .data, .emitDoctype]
    else ok [.reconsumeTo .bogusDoctype, .forceQuirks, .badChar]
  | .afterDoctypeKeyword kind =>
    if isWs c then ok [.to (.beforeDoctypeIdentifier kind)]
    else if c = '"' then ok [.to (.doctypeIdentifierDoubleQuoted kind), .clearDoctypeId kind, .badChar]
    else if c = '\'' then ok [.to (.doctypeIdentifierSingleQuoted kind), .clearDoctypeId kind, .badChar]
    else if c = '>' then ok [.to .data, .emitDoctype, .forceQuirks, .badChar]
    else ok [.reconsumeTo .bogusDoctype, .forceQuirks, .badChar]
  | .beforeDoctypeIdentifier kind =>
    if isWs c then ok []
    else if c = '"' then ok [.to (.doctypeIdentifierDoubleQuoted kind), .clearDoctypeId kind]
    else if c = '\'' then ok [.to (.doctypeIdentifierSingleQuoted kind), .clearDoctypeId kind]
    else if c = '>' then ok [.to .data, .emitDoctype, .forceQuirks, .badChar]
    else ok [.reconsumeTo .bogusDoctype, .forceQuirks, .badChar]
  | .doctypeIdentifierDoubleQuoted kind =>
    if c = '"' then ok [.to (.afterDoctypeIdentifier kind)]
    else if c = '\x00' then ok [.pushDoctypeId kind '�', .badChar]
    else if c = '>' then ok [.to .data, .emitDoctype, .forceQuirks, .badChar]
    else ok [.pushDoctypeId kind c]
  | .doctypeIdentifierSingleQuoted kind =>
    if c = '\'' then ok [.to (.afterDoctypeIdentifier kind)]
    else if c = '\x00' then ok [.pushDoctypeId kind '�', .badChar]
    else if c = '>' then ok [.to .data, .emitDoctype, .forceQuirks, .badChar]
    else ok [.pushDoctypeId kind c]
  | .afterDoctypeIdentifier .pub =>
    if isWs c then ok [.to .betweenDoctypePublicAndSystemIdentifiers]
    else if c = '>' then ok [.to .data, .emitDoctype]
    else if c = '"' then ok [.to (.doctypeIdentifierDoubleQuoted .sys), .clearDoctypeId .sys, .badChar]
    else if c = '\'' then ok [.to (.doctypeIdentifierSingleQuoted .sys), .clearDoctypeId .sys, .badChar]
    else ok [.reconsumeTo .bogusDoctype, .forceQuirks, .badChar]
  | .afterDoctypeIdentifier .sys =>
    if isWs c then ok []
    else if c = '>' then ok [.to .data, .emitDoctype]
    else ok [.reconsumeTo .bogusDoctype, .badChar]
  | .betweenDoctypePublicAndSystemIdentifiers =>
    if isWs c then ok []
    else if c = '>' then ok [.to .data, .emitDoctype]
    else if c = '"' then ok [.to (.doctypeIdentifierDoubleQuoted .sys), .clearDoctypeId .sys]
    else if c = '\'' then ok [.to (.doctypeIdentifierSingleQuoted .sys), .clearDoctypeId .sys]
    else ok [.reconsumeTo .bogusDoctype, .forceQuirks, .badChar]
  | .bogusDoctype =>
    if c = '>' then ok [.to .data, .emitDoctype]
    else if c = '\x00' then ok [.badChar]
    else ok []
  | .bogusComment =>
    if c = '>' then ok [.to .data, .emitComment]
    else if c = '\x00' then ok [.pushComment '�', .badChar]
    else ok [.pushComment c]
  | .cdataSection =>
    if c = ']' then ok [.to .cdataSectionBracket]
    else if c = '\x00' then ok [.emitChar '\x00', .emitTempBuf]
    else ok [.pushTemp c]
  | .cdataSectionBracket =>
    if c = ']' then ok [.to .cdataSectionEnd]
    else ok [.reconsumeTo .cdataSection, .pushTemp ']']
  | .cdataSectionEnd =>
    if c = ']' then ok [.pushTemp ']']
    else if c = '>' then ok [.to .data, .emitTempBuf]
    else ok [.reconsumeTo .cdataSection, .pushTemp ']', .pushTemp ']']
  | .data | .plaintext | .rawData _ | .attributeValue _ | .beforeAttributeValue
  | .markupDeclarationOpen => ([], .panic "transChar: state is not a get_char state")

def progSet (st : State) (r : SetRes) : List TokOp × ArmEnd :=
  let ok (ops : List TokOp) : List TokOp × ArmEnd := (ops, .cont)
  match st, r with
  | .data, .fromSet c =>
    if c = '\x00' then ok [.emitChar '\x00', .badChar]
    else if c = '&' then ([], .charRef)
    else if c = '<' then ok [.to .tagOpen]
    else ok [.emitChar c]
  | .data, .notFromSet b => ok [.emitChars b]
  | .rawData .rcdata, .fromSet c =>
    if c = '\x00' then ok [.emitChar '�', .badChar]
    else if c = '&' then ([], .charRef)
    else if c = '<' then ok [.to (.rawLessThanSign .rcdata)]
    else ok [.emitChar c]
  | .rawData .rcdata, .notFromSet b => ok [.emitChars b]
  | .rawData .rawtext, .fromSet c =>
    if c = '\x00' then ok [.emitChar '�', .badChar]
    else if c = '<' then ok [.to (.rawLessThanSign .rawtext)]
    else ok [.emitChar c]
  | .rawData .rawtext, .notFromSet b => ok [.emitChars b]
  | .rawData .scriptData, .fromSet c =>
    if c = '\x00' then ok [.emitChar '�', .badChar]
    else if c = '<' then ok [.to (.rawLessThanSign .scriptData)]
    else ok [.emitChar c]
  | .rawData .scriptData, .notFromSet b => ok [.emitChars b]
  | .rawData (.scriptDataEscaped .escaped), .fromSet c =>
    if c = '\x00' then ok [.emitChar '�', .badChar]
    else if c = '-' then ok [.to (.scriptDataEscapedDash .escaped), .emitChar '-']
    else if c = '<' then ok [.to (.rawLessThanSign (.scriptDataEscaped .escaped))]
    else ok [.emitChar c]
  | .rawData (.scriptDataEscaped .escaped), .notFromSet b => ok [.emitChars b]
  | .rawData (.scriptDataEscaped .doubleEscaped), .fromSet c =>
    if c = '\x00' then ok [.emitChar '�', .badChar]
    else if c = '-' then ok [.to (.scriptDataEscapedDash .doubleEscaped), .emitChar '-']
    else if c = '<' then ok [.to (.rawLessThanSign (.scriptDataEscaped .doubleEscaped)), .emitChar '<']
    else ok [.emitChar c]
  | .rawData (.scriptDataEscaped .doubleEscaped), .notFromSet b => ok [.emitChars b]
  | .plaintext, .fromSet c =>
    if c = '\x00' then ok [.emitChar '�', .badChar]
    else ok [.emitChar c]
  | .plaintext, .notFromSet b => ok [.emitChars b]
  | .attributeValue .doubleQuoted, .fromSet c =>
    if c = '"' then ok [.to .afterAttributeValueQuoted]
    else if c = '&' then ([], .charRef)
    else if c = '\x00' then ok [.pushValue '�', .badChar]
    else ok [.pushValue c]
  | .attributeValue .singleQuoted, .fromSet c =>
    if c = '\'' then ok [.to .afterAttributeValueQuoted]
    else if c = '&' then ([], .charRef)
    else if c = '\x00' then ok [.pushValue '�', .badChar]
    else ok [.pushValue c]
  | .attributeValue .unquoted, .fromSet c =>
    if isWs c then ok [.to .beforeAttributeName]
    else if c = '&' then ([], .charRef)
    else if c = '>' then ([], .tag)
    else if c = '\x00' then ok [.pushValue '�', .badChar]
    else
      ok (.pushValue c :: if c = '"' || c = '\'' || c = '<' || c = '=' || c = '`' then [.badChar] else [])
  | .attributeValue _, .notFromSet b => ok [.appendValue b]
  | _, _ => ([], .panic "transSet: state is not a pop_except_from state")

def progEof (st : State) : List TokOp × EofSig :=
  let ok (ops : List TokOp) : List TokOp × EofSig := (ops, .cont)
  match st with
  | .data | .rawData .rcdata | .rawData .rawtext | .rawData .scriptData | .plaintext =>
    ([.emit .eof], .done)
  | .tagName | .rawData (.scriptDataEscaped _) | .beforeAttributeName | .attributeName
  | .afterAttributeName | .attributeValue _ | .afterAttributeValueQuoted | .selfClosingStartTag
  | .scriptDataEscapedDash _ | .scriptDataEscapedDashDash _ => ok [.to .data, .badEof]
  | .beforeAttributeValue => ok [.reconsumeTo (.attributeValue .unquoted)]
  | .tagOpen => ok [.to .data, .emitChar '<', .badEof]
  | .endTagOpen => ok [.to .data, .emitChar '/', .emitChar '<', .badEof]
  | .rawLessThanSign (.scriptDataEscaped .doubleEscaped) =>
    ok [.to (.rawData (.scriptDataEscaped .doubleEscaped))]
  | .rawLessThanSign kind => ok [.to (.rawData kind), .emitChar '<']
  | .rawEndTagOpen kind => ok [.to (.rawData kind), .emitChar '/', .emitChar '<']
  | .rawEndTagName kind => ok [.to (.rawData kind), .emitTempBuf, .emitChar '/', .emitChar '<']
  | .scriptDataEscapeStart kind => ok [.to (.rawData (.scriptDataEscaped kind))]
  | .scriptDataEscapeStartDash => ok [.to (.rawData .scriptData)]
  | .scriptDataDoubleEscapeEnd => ok [.to (.rawData (.scriptDataEscaped .doubleEscaped))]
  | .commentStart | .commentStartDash | .comment | .commentEndDash | .commentEnd | .commentEndBang =>
    ok [.to .data, .emitComment, .badEof]
  | .commentLessThanSign | .commentLessThanSignBang => ok [.reconsumeTo .comment]
  | .commentLessThanSignBangDash => ok [.reconsumeTo .commentEndDash]
  | .commentLessThanSignBangDashDash => ok [.reconsumeTo .commentEnd]
  | .doctype | .beforeDoctypeName =>
    ok [.to .data, .emitDoctype, .forceQuirks, .createDoctype, .badEof]
  | .doctypeName | .afterDoctypeName | .afterDoctypeKeyword _ | .beforeDoctypeIdentifier _
  | .doctypeIdentifierDoubleQuoted _ | .doctypeIdentifierSingleQuoted _ | .afterDoctypeIdentifier _
  | .betweenDoctypePublicAndSystemIdentifiers => ok [.to .data, .emitDoctype, .forceQuirks, .badEof]
  | .bogusDoctype => ok [.to .data, .emitDoctype]
  | .bogusComment => ok [.to .data, .emitComment]
  | .markupDeclarationOpen => ok [.to .bogusComment, .badChar]
  | .cdataSection => ok [.to .data, .badEof, .emitTempBuf]
  | .cdataSectionBracket => ok [.to .cdataSection, .pushTemp ']']
  | .cdataSectionEnd => ok [.to .cdataSection, .pushTemp ']', .pushTemp ']']

/-- one state of the `transChar` table: reduce both matches, split the tests on the character,
compare the arms -/
macro "table_walk" : tactic =>
  `(tactic| (dsimp only; (repeat' (split <;> try dsimp only)) <;> rfl))

theorem transChar_eq (o : Opts) (pol : Pol) (m : Mach) (c : Char) :
    transChar o pol m c =
      (progChar m.state (haveAppropriateEndTag m) (m.tempBuf = "script".toList) c).2.run pol
        (runOps o (progChar m.state (haveAppropriateEndTag m) (m.tempBuf = "script".toList) c).1 m) := by
  unfold transChar progChar
  generalize m.state = st
  -- as a variable the lower-cased letter is split in both tables at once
  generalize lowerAsciiLetter c = l
  cases st
  case scriptDataEscapeStart k | afterDoctypeIdentifier k => cases k <;> table_walk
  case rawLessThanSign k =>
    cases k
    case scriptDataEscaped e => cases e <;> table_walk
    all_goals table_walk
  all_goals table_walk

theorem transSet_eq (o : Opts) (pol : Pol) (m : Mach) (r : SetRes) :
    transSet o pol m r = (progSet m.state r).2.run pol (runOps o (progSet m.state r).1 m) := by
  unfold transSet progSet
  generalize m.state = st
  cases r <;> cases st
  case fromSet.rawData k | notFromSet.rawData k =>
    cases k
    case scriptDataEscaped e => cases e <;> table_walk
    all_goals table_walk
  case fromSet.attributeValue k | notFromSet.attributeValue k => cases k <;> table_walk
  all_goals table_walk

theorem transEof_eq (o : Opts) (m : Mach) :
    transEof o m = (runOps o (progEof m.state).1 m, (progEof m.state).2) := by
  unfold transEof progEof
  generalize m.state = st
  cases st
  case rawData k | rawLessThanSign k =>
    cases k
    case scriptDataEscaped e => cases e <;> rfl
    all_goals rfl
  all_goals rfl

/-- an invariant of every action is an invariant of every program -/
theorem runOps_induct {P : Mach → Prop} (o : Opts) (h : ∀ op x, P x → P (TokOp.run o op x)) :
    ∀ (ops : List TokOp) (m : Mach), P m → P (runOps o ops m)
  | [], _, h0 => h0
  | op :: ops, m, h0 => h op _ (runOps_induct o h ops m h0)

/-- a relation that every action preserves, under two option values, holds between the two runs of
every program -/
theorem runOps_induct₂ {R : Mach → Mach → Prop} (o1 o2 : Opts)
    (h : ∀ op a b, R a b → R (TokOp.run o1 op a) (TokOp.run o2 op b)) :
    ∀ (ops : List TokOp) (a b : Mach), R a b → R (runOps o1 ops a) (runOps o2 ops b)
  | [], _, _, h0 => h0
  | op :: ops, a, b, h0 => h op _ _ (runOps_induct₂ o1 o2 h ops a b h0)

/-! ### registers only the reader may touch are left alone -/

/-- a register that no action and no ending of an arm changes -/
def Untouched {α : Type} (f : Mach → α) : Prop :=
  (∀ o op x, f (TokOp.run o op x) = f x) ∧ ∀ pol (fin : ArmEnd) x, f (fin.run pol x).1 = f x

theorem Untouched.runOps {α : Type} {f : Mach → α} (h : Untouched f) (o : Opts) (ops : List TokOp) (m : Mach) :
    f (runOps o ops m) = f m :=
  runOps_induct (P := fun x => f x = f m) o (fun op x hx => (h.1 o op x).trans hx) ops m rfl

theorem Untouched.transChar {α : Type} {f : Mach → α} (h : Untouched f) (o : Opts) (pol : Pol) (m : Mach)
    (c : Char) : f (transChar o pol m c).1 = f m := by
  rw [transChar_eq, h.2, h.runOps]

theorem Untouched.transSet {α : Type} {f : Mach → α} (h : Untouched f) (o : Opts) (pol : Pol) (m : Mach)
    (r : SetRes) : f (transSet o pol m r).1 = f m := by
  rw [transSet_eq, h.2, h.runOps]

theorem untouched_ignoreLf : Untouched Mach.ignoreLf :=
  ⟨fun o op x => by cases op <;> simp [TokOp.run], fun pol fin x => by cases fin <;> simp [ArmEnd.run]⟩
theorem untouched_atEof : Untouched Mach.atEof :=
  ⟨fun o op x => by cases op <;> simp [TokOp.run], fun pol fin x => by cases fin <;> simp [ArmEnd.run]⟩
theorem untouched_line : Untouched Mach.line :=
  ⟨fun o op x => by cases op <;> simp [TokOp.run], fun pol fin x => by cases fin <;> simp [ArmEnd.run]⟩
theorem untouched_currentChar : Untouched Mach.currentChar :=
  ⟨fun o op x => by cases op <;> simp [TokOp.run], fun pol fin x => by cases fin <;> simp [ArmEnd.run]⟩
theorem untouched_discardBom : Untouched Mach.discardBom :=
  ⟨fun o op x => by cases op <;> simp [TokOp.run], fun pol fin x => by cases fin <;> simp [ArmEnd.run]⟩

theorem transChar_ignoreLf (o : Opts) (pol : Pol) (m : Mach) (c : Char) :
    (transChar o pol m c).1.ignoreLf = m.ignoreLf := untouched_ignoreLf.transChar o pol m c
theorem transChar_atEof (o : Opts) (pol : Pol) (m : Mach) (c : Char) :
    (transChar o pol m c).1.atEof = m.atEof := untouched_atEof.transChar o pol m c
theorem transChar_line (o : Opts) (pol : Pol) (m : Mach) (c : Char) :
    (transChar o pol m c).1.line = m.line := untouched_line.transChar o pol m c
theorem transChar_currentChar (o : Opts) (pol : Pol) (m : Mach) (c : Char) :
    (transChar o pol m c).1.currentChar = m.currentChar := untouched_currentChar.transChar o pol m c
theorem transChar_discardBom (o : Opts) (pol : Pol) (m : Mach) (c : Char) :
    (transChar o pol m c).1.discardBom = m.discardBom := untouched_discardBom.transChar o pol m c

theorem transSet_ignoreLf (o : Opts) (pol : Pol) (m : Mach) (r : SetRes) :
    (transSet o pol m r).1.ignoreLf = m.ignoreLf := untouched_ignoreLf.transSet o pol m r
theorem transSet_atEof (o : Opts) (pol : Pol) (m : Mach) (r : SetRes) :
    (transSet o pol m r).1.atEof = m.atEof := untouched_atEof.transSet o pol m r
theorem transSet_line (o : Opts) (pol : Pol) (m : Mach) (r : SetRes) :
    (transSet o pol m r).1.line = m.line := untouched_line.transSet o pol m r
theorem transSet_currentChar (o : Opts) (pol : Pol) (m : Mach) (r : SetRes) :
    (transSet o pol m r).1.currentChar = m.currentChar := untouched_currentChar.transSet o pol m r
theorem transSet_discardBom (o : Opts) (pol : Pol) (m : Mach) (r : SetRes) :
    (transSet o pol m r).1.discardBom = m.discardBom := untouched_discardBom.transSet o pol m r

/-! ### the control registers -/

/-- states in which `temp_buf` may hold stale text (it is only ever consulted after being reset) -/
def isRaw : State → Bool
  | .rawData _ | .plaintext | .rawLessThanSign _ | .rawEndTagOpen _ | .rawEndTagName _
  | .scriptDataEscapeStart _ | .scriptDataEscapeStartDash | .scriptDataEscapedDash _
  | .scriptDataEscapedDashDash _ | .scriptDataDoubleEscapeEnd
  | .cdataSection | .cdataSectionBracket | .cdataSectionEnd => true
  | _ => false

/-- rank of a tokenizer state in the `reconsume` chains of the table (targets 0) -/
def base : State → Nat
  | .commentEnd => 1
  | .data | .rawData _ | .bogusComment | .beforeAttributeName | .comment | .commentEndDash
  | .beforeDoctypeName | .bogusDoctype | .cdataSection | .attributeValue _ => 0
  | _ => 2

/-- the control registers: state, `reconsume`, `temp_buf` -/
abbrev CtlRegs := State × Bool × Str

/-- what an action does to the control registers -/
def TokOp.ctl : TokOp → CtlRegs → CtlRegs
  | .to s, (_, r, t) => (s, r, t)
  | .reconsumeTo s, (_, _, t) => (s, true, t)
  | .pushTemp c, (s, r, t) => (s, r, t ++ [c])
  | .clearTemp, (s, r, _) => (s, r, [])
  | .emitTempBuf, (s, r, _) => (s, r, [])
  | _, k => k

def ctlOps : List TokOp → CtlRegs → CtlRegs
  | [], k => k
  | op :: ops, k => op.ctl (ctlOps ops k)

/-- an arm of the `get_char!` table seen from the control registers `k` it leaves when started at
`(st, r0, tb)`: how it can end; `reconsume` only towards a state of smaller `base` that reads with
`get_char!` or `pop_except_from`; a non-empty `temp_buf` only in the raw-text family; the look-ahead
states, `tagOpen` and the unquoted attribute value entered only by the listed arms -/
def ProgOk (st : State) (c : Char) (r0 : Bool) (tb : Str) (p : List TokOp × ArmEnd) : Prop :=
  let k := ctlOps p.1 (st, r0, tb)
  (p.2 = .cont ∨ (p.2 = .tag ∧ c = '>' ∧ k.2.1 = r0) ∨
    (p.1 = [] ∧ ∃ e, p.2 = .panic e ∧ readKind st ≠ .getChar ∧ st ≠ .afterDoctypeName)) ∧
  (r0 = false → k.2.1 = true → base k.1 < base st ∧ k.1 ≠ .beforeAttributeValue ∧
    k.1 ≠ .markupDeclarationOpen ∧ k.1 ≠ .afterDoctypeName) ∧
  ((isRaw st = false → tb = []) → k.2.2 ≠ [] → isRaw k.1 = true ∧ p.2 ≠ .tag) ∧
  (k.1 = .markupDeclarationOpen → p.1 = [] ∨ (st = .tagOpen ∧ c = '!' ∧ k.2 = (r0, tb))) ∧
  (k.1 = .afterDoctypeName → p.1 = [] ∨ (k.2 = (r0, []))) ∧
  (k.1 = .tagOpen → p.1 = []) ∧ (k.1 = .attributeValue .unquoted → p.1 = [])

macro "ctl_walk" : tactic =>
  `(tactic| (dsimp only; (repeat' split) <;> simp [ProgOk, ctlOps, TokOp.ctl, base, isRaw, readKind, *]))

theorem progChar_ok (st : State) (hae : Bool) (script : Prop) [Decidable script] (c : Char) (r0 : Bool) (tb : Str) :
    ProgOk st c r0 tb (progChar st hae script c) := by
  unfold progChar
  generalize lowerAsciiLetter c = l
  cases st
  case scriptDataEscapeStart k | afterDoctypeIdentifier k => cases k <;> ctl_walk
  case rawLessThanSign k =>
    cases k
    case scriptDataEscaped e => cases e <;> ctl_walk
    all_goals ctl_walk
  all_goals ctl_walk

def ctlOf (m : Mach) : CtlRegs := (m.state, m.reconsume, m.tempBuf)

theorem TokOp.run_ctl (o : Opts) (op : TokOp) (m : Mach) : ctlOf (op.run o m) = op.ctl (ctlOf m) := by
  cases op <;> simp [TokOp.run, TokOp.ctl, ctlOf]

theorem runOps_ctl (o : Opts) : ∀ (ops : List TokOp) (m : Mach), ctlOf (runOps o ops m) = ctlOps ops (ctlOf m)
  | [], _ => rfl
  | op :: ops, m => by rw [runOps, TokOp.run_ctl, runOps_ctl o ops m, ctlOps]

theorem runOps_charRef (o : Opts) (ops : List TokOp) (m : Mach) : (runOps o ops m).charRef = m.charRef :=
  runOps_induct (P := fun x => x.charRef = m.charRef) o
    (fun op x hx => by rw [← hx]; cases op <;> simp [TokOp.run]) ops m rfl

/-- **what a `get_char!` transition does to the control registers**: the result is `x`, reached by
register actions, followed by one of three endings; the clauses say which endings occur where, that
`reconsume` chains go down in `base` and never into a look-ahead state, that `temp_buf` is non-empty
only in the raw-text family, and from where the look-ahead states, `tagOpen` and the unquoted
attribute value state are entered -/
theorem transChar_ctl (o : Opts) (pol : Pol) (m : Mach) (c : Char) :
    ∃ x fin, transChar o pol m c = ArmEnd.run pol fin x ∧ x.charRef = m.charRef ∧
    (fin = .cont ∨ (fin = .tag ∧ c = '>' ∧ x.reconsume = m.reconsume) ∨
      (x = m ∧ ∃ e, fin = .panic e ∧ readKind m.state ≠ .getChar ∧ m.state ≠ .afterDoctypeName)) ∧
    (m.reconsume = false → x.reconsume = true → base x.state < base m.state ∧
      x.state ≠ .beforeAttributeValue ∧ x.state ≠ .markupDeclarationOpen ∧ x.state ≠ .afterDoctypeName) ∧
    ((isRaw m.state = false → m.tempBuf = []) → x.tempBuf ≠ [] → isRaw x.state = true ∧ fin ≠ .tag) ∧
    (x.state = .markupDeclarationOpen → x = m ∨
      (m.state = .tagOpen ∧ c = '!' ∧ x.reconsume = m.reconsume ∧ x.tempBuf = m.tempBuf)) ∧
    (x.state = .afterDoctypeName → x = m ∨ (x.reconsume = m.reconsume ∧ x.tempBuf = [])) ∧
    (x.state = .tagOpen → x = m) ∧ (x.state = .attributeValue .unquoted → x = m) := by
  have hk := runOps_ctl o (progChar m.state (haveAppropriateEndTag m) (m.tempBuf = "script".toList) c).1 m
  have hnil : (progChar m.state (haveAppropriateEndTag m) (m.tempBuf = "script".toList) c).1 = [] →
      runOps o (progChar m.state (haveAppropriateEndTag m) (m.tempBuf = "script".toList) c).1 m = m :=
    fun h => by rw [h]; rfl
  obtain ⟨hA, hB, hC, hD1, hD2, hD3, hD4⟩ :=
    progChar_ok m.state (haveAppropriateEndTag m) (m.tempBuf = "script".toList) c m.reconsume m.tempBuf
  refine ⟨_, _, transChar_eq o pol m c, runOps_charRef o _ m, ?_, ?_, ?_, ?_, ?_, ?_, ?_⟩
  all_goals simp only [← show ctlOf m = (m.state, m.reconsume, m.tempBuf) from rfl, ← hk] at hA hB hC hD1 hD2 hD3 hD4
  · rcases hA with h | h | ⟨h, e, he⟩
    · exact .inl h
    · exact .inr (.inl h)
    · exact .inr (.inr ⟨hnil h, e, he⟩)
  · exact hB
  · exact hC
  · exact fun h => (hD1 h).imp hnil (fun ⟨a, b, d⟩ => ⟨a, b, congrArg Prod.fst d, congrArg Prod.snd d⟩)
  · exact fun h => (hD2 h).imp hnil (fun d => ⟨congrArg Prod.fst d, congrArg Prod.snd d⟩)
  · exact fun h => hnil (hD3 h)
  · exact fun h => hnil (hD4 h)

theorem transChar_charRef (o : Opts) (pol : Pol) (m : Mach) (c : Char) :
    (transChar o pol m c).1.charRef = m.charRef := by
  obtain ⟨x, fin, hr, hcr, hA, -⟩ := transChar_ctl o pol m c
  rw [hr, ← hcr]
  rcases hA with rfl | ⟨rfl, -⟩ | ⟨-, e, rfl, -⟩
  · rfl
  · exact emitTag_charRef pol .data x
  · rfl

/-- `transChar` enters `markupDeclarationOpen` only from `tagOpen` on `!`, never `tagOpen` nor the
unquoted attribute value state, and `afterDoctypeName` only with an empty temporary buffer or by
staying there -/
theorem transChar_enter (o : Opts) (pol : Pol) (m : Mach) (c : Char) :
    ((transChar o pol m c).1.state = .markupDeclarationOpen →
        (m.state = .tagOpen ∧ c = '!' ∧ (transChar o pol m c).1.tempBuf = m.tempBuf ∧
          (transChar o pol m c).1.reconsume = m.reconsume) ∨ (transChar o pol m c).1 = m) ∧
    ((transChar o pol m c).1.state = .afterDoctypeName →
        ((transChar o pol m c).1.reconsume = m.reconsume ∧
          ((transChar o pol m c).1.tempBuf = [] ∨
           (m.state = .afterDoctypeName ∧ (transChar o pol m c).1.tempBuf = m.tempBuf))) ∨
        (transChar o pol m c).1 = m) ∧
    ((transChar o pol m c).1.state = .tagOpen → (transChar o pol m c).1 = m) ∧
    ((transChar o pol m c).1.state = .attributeValue .unquoted → (transChar o pol m c).1 = m) := by
  obtain ⟨x, fin, hr, -, hA, -, -, hD1, hD2, hD3, hD4⟩ := transChar_ctl o pol m c
  rw [hr]
  have keep : (ArmEnd.run pol fin x).1 = x ∨ sinkState .data (ArmEnd.run pol fin x).1.state := by
    rcases hA with rfl | ⟨rfl, -⟩ | ⟨-, e, rfl, -⟩
    · exact .inl rfl
    · exact .inr (emitTag_state pol .data x)
    · exact .inl rfl
  rcases keep with h | h
  · rw [h]
    exact ⟨fun hs => (hD1 hs).elim .inr (fun ⟨a, b, d, e⟩ => .inl ⟨a, b, e, d⟩),
      fun hs => (hD2 hs).elim .inr (fun ⟨a, b⟩ => .inl ⟨a, .inl b⟩), hD3, hD4⟩
  · have h1 := sinkState_data_not_eat h
    exact ⟨fun hs => absurd hs h1.1, fun hs => absurd hs h1.2.1, fun hs => absurd hs h1.2.2,
      fun hs => absurd hs (sinkState_data_not_unq h)⟩

/-! ### the control registers in the `pop_except_from` table -/

/-- a character reference is only ever in progress in a state that can take its result -/
def crStateOk (s : State) : Prop :=
  s = .data ∨ s = .rawData .rcdata ∨ ∃ k, s = .attributeValue k

/-- what the arms of the `pop_except_from` table do to the control registers -/
def SetOk (st : State) (r : SetRes) (r0 : Bool) (tb : Str) (p : List TokOp × ArmEnd) : Prop :=
  let k := ctlOps p.1 (st, r0, tb)
  k.2 = (r0, tb) ∧
  (p.2 = .cont ∨ (p.2 = .tag ∧ r = .fromSet '>' ∧ st = .attributeValue .unquoted ∧ k.1 = st) ∨
    (p = ([], .charRef) ∧ r = .fromSet '&' ∧ crStateOk st) ∨
    (p.1 = [] ∧ ∃ e, p.2 = .panic e ∧ readKind st ≠ .popExcept ∧ readKind st ≠ .dataSimd)) ∧
  (k.1 = st ∨ (st = .data ∧ k.1 = .tagOpen) ∨ (isRaw st = true ∧ isRaw k.1 = true) ∨
    ((∃ kind, st = .attributeValue kind) ∧
      (k.1 = .afterAttributeValueQuoted ∨ k.1 = .beforeAttributeName))) ∧
  (k.1 = .attributeValue .unquoted → ∀ c, r = .fromSet c → isWs c = false)

macro "set_walk" : tactic =>
  `(tactic| (dsimp only; (repeat' split) <;> simp_all [SetOk, ctlOps, TokOp.ctl, isRaw, readKind, crStateOk]))

theorem progSet_ok (st : State) (r : SetRes) (r0 : Bool) (tb : Str) : SetOk st r r0 tb (progSet st r) := by
  unfold progSet
  cases r <;> cases st
  case fromSet.rawData k | notFromSet.rawData k =>
    cases k
    case scriptDataEscaped e => cases e <;> set_walk
    all_goals set_walk
  case fromSet.attributeValue k | notFromSet.attributeValue k => cases k <;> set_walk
  all_goals set_walk

theorem ArmEnd.run_reconsume (pol : Pol) (fin : ArmEnd) (x : Mach) : (fin.run pol x).1.reconsume = x.reconsume := by
  cases fin <;> simp [ArmEnd.run]

theorem ArmEnd.run_tempBuf (pol : Pol) (fin : ArmEnd) (x : Mach) : (fin.run pol x).1.tempBuf = x.tempBuf := by
  cases fin <;> simp [ArmEnd.run]

/-- **what a `pop_except_from` transition does to the control registers**: `reconsume` and `temp_buf`
stay; the tag is emitted only on `>` in the unquoted attribute value state, a character reference is
started only on `&` in a state that can take its result; the state stays, or moves within the
raw-text family, from `data` to `tagOpen`, or out of an attribute value -/
theorem transSet_ctl (o : Opts) (pol : Pol) (m : Mach) (r : SetRes) :
    ∃ x fin, transSet o pol m r = ArmEnd.run pol fin x ∧ x.charRef = m.charRef ∧
    x.reconsume = m.reconsume ∧ x.tempBuf = m.tempBuf ∧
    (fin = .cont ∨
      (fin = .tag ∧ r = .fromSet '>' ∧ m.state = .attributeValue .unquoted ∧ x.state = m.state) ∨
      (x = m ∧ fin = .charRef ∧ r = .fromSet '&' ∧ crStateOk m.state) ∨
      (x = m ∧ ∃ e, fin = .panic e ∧ readKind m.state ≠ .popExcept ∧ readKind m.state ≠ .dataSimd)) ∧
    (x.state = m.state ∨ (m.state = .data ∧ x.state = .tagOpen) ∨
      (isRaw m.state = true ∧ isRaw x.state = true) ∨
      ((∃ kind, m.state = .attributeValue kind) ∧
        (x.state = .afterAttributeValueQuoted ∨ x.state = .beforeAttributeName))) ∧
    (x.state = .attributeValue .unquoted → ∀ c, r = .fromSet c → isWs c = false) := by
  have hk := runOps_ctl o (progSet m.state r).1 m
  have hnil : (progSet m.state r).1 = [] → runOps o (progSet m.state r).1 m = m := fun h => by rw [h]; rfl
  obtain ⟨h1, h2, h3, h4⟩ := progSet_ok m.state r m.reconsume m.tempBuf
  simp only [← show ctlOf m = (m.state, m.reconsume, m.tempBuf) from rfl, ← hk] at h1 h2 h3 h4
  refine ⟨_, _, transSet_eq o pol m r, runOps_charRef o _ m, congrArg Prod.fst h1, congrArg Prod.snd h1, ?_, h3, h4⟩
  rcases h2 with h | h | ⟨h, ha, hs⟩ | ⟨h, e, he⟩
  · exact .inl h
  · exact .inr (.inl h)
  · exact .inr (.inr (.inl ⟨hnil (congrArg Prod.fst h), congrArg Prod.snd h, ha, hs⟩))
  · exact .inr (.inr (.inr ⟨hnil h, e, he⟩))

theorem transSet_reconsume (o : Opts) (pol : Pol) (m : Mach) (r : SetRes) :
    (transSet o pol m r).1.reconsume = m.reconsume := by
  obtain ⟨x, fin, hr, -, h, -⟩ := transSet_ctl o pol m r
  rw [hr, ArmEnd.run_reconsume, h]

theorem transSet_tempBuf (o : Opts) (pol : Pol) (m : Mach) (r : SetRes) :
    (transSet o pol m r).1.tempBuf = m.tempBuf := by
  obtain ⟨x, fin, hr, -, -, h, -⟩ := transSet_ctl o pol m r
  rw [hr, ArmEnd.run_tempBuf, h]

/-- the state after a `pop_except_from` transition -/
theorem transSet_next (o : Opts) (pol : Pol) (m : Mach) (r : SetRes) :
    (transSet o pol m r).1.state = m.state ∨
    (m.state = .data ∧ (transSet o pol m r).1.state = .tagOpen) ∨
    (isRaw m.state = true ∧ isRaw (transSet o pol m r).1.state = true) ∨
    ((∃ kind, m.state = .attributeValue kind) ∧
      ((transSet o pol m r).1.state = .afterAttributeValueQuoted ∨
       (transSet o pol m r).1.state = .beforeAttributeName ∨
       sinkState .data (transSet o pol m r).1.state)) := by
  obtain ⟨x, fin, hr, -, -, -, hA, hS, -⟩ := transSet_ctl o pol m r
  rw [hr]
  rcases hA with rfl | ⟨rfl, -, hu, -⟩ | ⟨rfl, rfl, -⟩ | ⟨rfl, e, rfl, -⟩
  · exact hS.imp id (Or.imp id (Or.imp id (And.imp id (Or.imp id .inl))))
  · exact .inr (.inr (.inr ⟨⟨_, hu⟩, .inr (.inr (emitTag_state pol .data x))⟩))
  · exact .inl (consumeCharRef_state x)
  · exact .inl rfl

/-- `transSet` never enters a look-ahead (`eat`) state -/
theorem transSet_not_eat (o : Opts) (pol : Pol) (m : Mach) (r : SetRes)
    (hm : m.state ≠ .markupDeclarationOpen ∧ m.state ≠ .afterDoctypeName) :
    (transSet o pol m r).1.state ≠ .markupDeclarationOpen ∧
    (transSet o pol m r).1.state ≠ .afterDoctypeName := by
  rcases transSet_next o pol m r with h | ⟨-, h⟩ | ⟨-, h⟩ | ⟨-, h | h | h⟩
  · rw [h]; exact hm
  · rw [h]; exact ⟨nofun, nofun⟩
  · exact ⟨fun e => (by rw [e] at h; cases h), fun e => (by rw [e] at h; cases h)⟩
  · rw [h]; exact ⟨nofun, nofun⟩
  · rw [h]; exact ⟨nofun, nofun⟩
  · exact ⟨(sinkState_data_not_eat h).1, (sinkState_data_not_eat h).2.1⟩

/-- `transSet` stays in / enters the unquoted attribute value state only from itself, and then
not on whitespace -/
theorem transSet_unq (o : Opts) (pol : Pol) (m : Mach) (r : SetRes)
    (h : (transSet o pol m r).1.state = .attributeValue .unquoted) :
    m.state = .attributeValue .unquoted ∧ ∀ c, r = .fromSet c → isWs c = false := by
  obtain ⟨x, fin, hr, -, -, -, hA, hS, hW⟩ := transSet_ctl o pol m r
  rw [hr] at h
  have hx : x.state = .attributeValue .unquoted := by
    rcases hA with rfl | ⟨rfl, -⟩ | ⟨rfl, rfl, -⟩ | ⟨rfl, e, rfl, -⟩
    · exact h
    · exact absurd h (sinkState_data_not_unq (emitTag_state pol .data x))
    · rwa [ArmEnd.run, consumeCharRef_state] at h
    · exact h
  refine ⟨?_, hW hx⟩
  rw [hx] at hS
  rcases hS with hs | ⟨-, hs⟩ | ⟨-, hs⟩ | ⟨-, hs | hs⟩
  · exact hs.symm
  all_goals cases hs

/-! ### `FromSet(c)` vs `NotFromSet([c])` for a character outside the set -/

theorem emitChar_setCurrentChar (m : Mach) (a c : Char) :
    emitChar (m.setCurrentChar a) c = (emitChar m c).setCurrentChar a := by
  unfold emitChar; split <;> rfl

/-- "`FromSet` can contain characters not in the set ... the fallback `FromSet` case should
always do the same thing as the `NotFromSet` case" — it does, in every state read with
`pop_except_from`, except that the unquoted-attribute state reports five characters as errors
only on the slow path (excluded here; that state is never entered with `ignore_lf` set).
The stale `current_char` is carried along untouched. -/
theorem transSet_dead (o : Opts) (pol : Pol) (m : Mach) (a x : Char)
    (hk : readKind m.state = .popExcept ∨ readKind m.state = .dataSimd)
    (hx : (setOf m.state).contains x = false)
    (hu : m.state ≠ .attributeValue .unquoted) :
    transSet o pol (m.setCurrentChar a) (.fromSet x) =
      ((transSet o pol m (.notFromSet [x])).1.setCurrentChar a,
       (transSet o pol m (.notFromSet [x])).2) := by
  cases hs : m.state with
  | data => simp [transSet, hs, setOf] at hx ⊢; simp [hx, emitChar_setCurrentChar, emitChars, emitChar]; rfl
  | plaintext => simp [transSet, hs, setOf] at hx ⊢; simp [hx, emitChar_setCurrentChar, emitChars, emitChar]; rfl
  | rawData k =>
    cases k with
    | scriptDataEscaped e =>
      cases e <;> (simp [transSet, hs, setOf] at hx ⊢; simp [hx, emitChar_setCurrentChar, emitChars, emitChar]; rfl)
    | _ => simp [transSet, hs, setOf] at hx ⊢; simp [hx, emitChar_setCurrentChar, emitChars, emitChar]; rfl
  | attributeValue k =>
    cases k with
    | unquoted => exact absurd hs hu
    | _ => simp [transSet, hs, setOf] at hx ⊢; simp [hx, pushValue, appendValue]; rfl
  | _ => simp [hs, readKind] at hk

/-- a `NotFromSet` run never changes the state nor starts a character reference, and the handler
does not look at `current_char` -/
theorem transSet_notFromSet (o : Opts) (pol : Pol) (m : Mach) (b : Str) :
    (transSet o pol m (.notFromSet b)).1.state = m.state ∧
    (transSet o pol m (.notFromSet b)).1.charRef = m.charRef ∧
    ∀ a, transSet o pol (m.setCurrentChar a) (.notFromSet b) =
      ((transSet o pol m (.notFromSet b)).1.setCurrentChar a, (transSet o pol m (.notFromSet b)).2) := by
  unfold transSet
  split <;> simp_all [emitChars, appendValue] <;> (try (intro a; rfl))

/-- every `pop_except_from` set contains CR and LF (so a run never contains a line break) -/
theorem setOf_crlf (s : State) (hk : readKind s = .popExcept ∨ readKind s = .dataSimd) :
    (setOf s).contains '\r' = true ∧ (setOf s).contains '\n' = true := by
  cases s with
  | data => decide
  | plaintext => decide
  | rawData k => cases k with
    | scriptDataEscaped e => cases e <;> decide
    | _ => decide
  | attributeValue k => cases k <;> decide
  | _ => simp [readKind] at hk

end H5V.Model.HtmlTok
