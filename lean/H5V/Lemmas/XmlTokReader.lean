import H5V.Lemmas.XmlTokFields
/-!
Reader lemmas for the XML tokenizer model.  Every reading primitive (`preprocess`, `getChar`, `peek`,
`eat`, `popExceptFrom`, the character-reference step `crStep`) is *monotone* in the unread input: a
completed read is unaffected by appending more input.  For the reads that can suspend, the shape of
the suspended machine is given (`getChar_none`, `popExceptFrom_none`, `eat_none`), and `getChar` and
`eat` are shown *resumable*: re-executed after more input arrived they behave like the read on the
concatenated input (`getChar_resume`, `eat_none`).
These are the core of C15's chunk independence (DESIGN.md 3.2.1); the file also has what the
character-reference sub-tokenizer does to the machine (`LogsErr`, `CRClosed`).
-/
namespace H5V.Model.XmlTok

/-! ### preprocess / getChar -/

theorem preprocess_mono (o : Opts) (m m' : Mach) (c c' : Char) (inp inp' e : Str)
    (h : preprocess o m c inp = (some c', m', inp')) :
    preprocess o m c (inp ++ e) = (some c', m', inp' ++ e) := by
  unfold preprocess at h ⊢
  split at h
  · split at h
    · cases inp with
      | nil => simp at h
      | cons x xs => simp_all
    · simp_all
  · simp_all

/-- a `none` from `preprocess` means: the LF after a CR was swallowed and nothing is left -/
theorem preprocess_none (o : Opts) (m m' : Mach) (c : Char) (inp inp' : Str)
    (h : preprocess o m c inp = (none, m', inp')) :
    m.ignoreLf = true ∧ c = '\n' ∧ inp = [] ∧ inp' = [] ∧ m' = m.setIgnoreLf false := by
  unfold preprocess at h
  split at h
  · split at h
    · cases inp with
      | nil => simp_all
      | cons x xs => simp at h
    · simp at h
  · simp at h

/-- resuming after `preprocess` swallowed the LF: reading `x` with the flag cleared is what the
original read would have produced had `x` been available -/
theorem preprocess_resume (o : Opts) (m : Mach) (x : Char) (rest : Str)
    (h1 : m.ignoreLf = true) :
    preprocess o m '\n' (x :: rest) = preprocess o (m.setIgnoreLf false) x rest := by
  have hf : (m.setIgnoreLf false).ignoreLf = false := rfl
  simp [preprocess, h1, hf]

theorem getChar_mono (o : Opts) (m m' : Mach) (c' : Char) (inp inp' e : Str)
    (h : getChar o m inp = (some c', m', inp')) :
    getChar o m (inp ++ e) = (some c', m', inp' ++ e) := by
  unfold getChar at h ⊢
  split
  · simp_all
  · cases inp with
    | nil => simp_all
    | cons x xs =>
      simp_all
      exact preprocess_mono o m m' x c' xs inp' e h

theorem peek_mono (m : Mach) (inp e : Str) (c : Char) (h : peek m inp = some c) :
    peek m (inp ++ e) = some c := by
  unfold peek at h ⊢
  split <;> simp_all

theorem peek_none (m : Mach) (inp : Str) (h : peek m inp = none) : m.reconsume = false ∧ inp = [] := by
  unfold peek at h
  split at h <;> simp_all

/-- shape of a suspended `get_char` -/
theorem getChar_none (o : Opts) (m m' : Mach) (inp inp' : Str)
    (h : getChar o m inp = (none, m', inp')) :
    inp' = [] ∧ m.reconsume = false ∧
      ((inp = [] ∧ m' = m) ∨ (inp = ['\n'] ∧ m.ignoreLf = true ∧ m' = m.setIgnoreLf false)) := by
  unfold getChar at h
  split at h
  · simp at h
  · rename_i hr
    cases inp with
    | nil => simp at h; simp_all
    | cons x xs =>
      simp only at h
      have := preprocess_none o m m' x xs inp' h
      simp_all

/-- **resumable**: re-executing a suspended `get_char` after more input arrived is the read on the
concatenated input -/
theorem getChar_resume (o : Opts) (m m' : Mach) (inp inp' e : Str)
    (h : getChar o m inp = (none, m', inp')) :
    getChar o m' (inp' ++ e) = getChar o m (inp ++ e) := by
  obtain ⟨h1, h2, h3⟩ := getChar_none o m m' inp inp' h
  subst h1
  rcases h3 with ⟨h3, h4⟩ | ⟨h3, h4, h5⟩
  · subst h3 h4; rfl
  · subst h3 h5
    have hr' : (m.setIgnoreLf false).reconsume = false := by simp [h2]
    cases e with
    | nil =>
      simp [getChar, h2, hr', preprocess, h4]
    | cons x xs =>
      simp only [getChar, h2, hr', List.nil_append, List.cons_append, Bool.false_eq_true, ↓reduceIte]
      exact (preprocess_resume o m x xs h4).symm

/-- with no pending "ignore LF", a character that can be peeked can be read -/
theorem getChar_of_peek (o : Opts) (m : Mach) (inp : Str) (c : Char)
    (h : peek m inp = some c) (hil : m.ignoreLf = false) :
    ∃ c' m' i', getChar o m inp = (some c', m', i') ∧ m'.ignoreLf = (decide (c = '\r') && !m.reconsume) ∧
      m'.tempBuf = m.tempBuf ∧ m'.atEof = m.atEof ∧ m'.state = m.state ∧ m'.charRef = m.charRef := by
  unfold peek at h
  unfold getChar
  split
  · rename_i hr
    exact ⟨m.currentChar, m.setReconsume false, inp, rfl, by simp [hil, hr]⟩
  · rename_i hr
    cases inp with
    | nil => simp [hr] at h
    | cons x xs =>
      simp only [hr, Bool.false_eq_true, ↓reduceIte, List.head?_cons, Option.some.injEq] at h
      subst h
      simp only [preprocess, hil, Bool.false_eq_true, ↓reduceIte, foldChar]
      refine ⟨_, _, _, rfl, ?_⟩
      by_cases hx : x = '\r' <;> (simp [hx, hr]; (repeat' split) <;> simp [hil])

/-- a character other than LF that can be peeked can be read, whatever the "ignore LF" flag -/
theorem getChar_of_peek_ne (o : Opts) (m : Mach) (inp : Str) (c : Char)
    (h : peek m inp = some c) (hc : c ≠ '\n' ∨ m.reconsume = true) :
    ∃ c' m' i', getChar o m inp = (some c', m', i') := by
  unfold peek at h
  unfold getChar
  split
  · exact ⟨_, _, _, rfl⟩
  · rename_i hr
    cases inp with
    | nil => simp [hr] at h
    | cons x xs =>
      simp only [hr, Bool.false_eq_true, ↓reduceIte, List.head?_cons, Option.some.injEq] at h
      subst h
      have hx : x ≠ '\n' := by rcases hc with hc | hc; exact hc; simp [hc] at hr
      simp only [preprocess, hx, ↓reduceIte]
      split <;> exact ⟨_, _, _, rfl⟩

theorem discardChar_ok (o : Opts) (m : Mach) (inp : Str) (c : Char)
    (h : peek m inp = some c) (hc : c ≠ '\n') :
    ∃ m' i', discardChar o m inp = .ok (m', i') ∧ ∀ e, discardChar o m (inp ++ e) = .ok (m', i' ++ e) := by
  obtain ⟨c', m', i', hg⟩ := getChar_of_peek_ne o m inp c h (Or.inl hc)
  refine ⟨m', i', by simp [discardChar, hg], fun e => ?_⟩
  simp [discardChar, getChar_mono o m m' c' inp i' e hg]

/-! ### eat -/

theorem eatCmp_mono (eq : Char → Char → Bool) (s pat e : Str) (b : Bool)
    (h : eatCmp eq s pat = some b) : eatCmp eq (s ++ e) pat = some b := by
  induction s generalizing pat with
  | nil =>
    cases pat with
    | nil => simpa [eatCmp] using h
    | cons p ps => simp [eatCmp] at h
  | cons c s ih =>
    cases pat with
    | nil => simpa [eatCmp] using h
    | cons p ps =>
      simp only [List.cons_append, eatCmp] at h ⊢
      split <;> simp_all

theorem eatCmp_nil_none (eq : Char → Char → Bool) (pat : Str) (hp : pat ≠ []) :
    eatCmp eq [] pat = none := by
  cases pat with
  | nil => exact absurd rfl hp
  | cons p ps => rfl

theorem eatCmp_drop (eq : Char → Char → Bool) (s pat e : Str) (h : eatCmp eq s pat = some true) :
    (s ++ e).drop pat.length = s.drop pat.length ++ e := by
  induction s generalizing pat with
  | nil =>
    cases pat with
    | nil => simp
    | cons p ps => simp [eatCmp] at h
  | cons c s ih =>
    cases pat with
    | nil => simp
    | cons p ps =>
      simp only [eatCmp] at h
      split at h
      · simpa using ih ps h
      · simp at h

theorem eatSkipLf_mono (o : Opts) (m : Mach) (inp e : Str) (c : Char) (h : peek m inp = some c) :
    eatSkipLf o m (inp ++ e) = ((eatSkipLf o m inp).1, (eatSkipLf o m inp).2 ++ e) := by
  unfold eatSkipLf
  have hp := peek_mono m inp e c h
  split
  · simp only [h, hp]
    split
    · have hpk : peek (m.setIgnoreLf false) inp = some c := h
      obtain ⟨c', m', i', hg, _⟩ := getChar_of_peek o (m.setIgnoreLf false) inp c hpk rfl
      rw [getChar_mono o _ m' c' inp i' e hg, hg]
    · rfl
  · rfl

theorem eatSkipLf_none (o : Opts) (m : Mach) (inp : Str) (h : peek m inp = none) : eatSkipLf o m inp = (m, inp) := by
  unfold eatSkipLf
  split <;> simp [h]

/-- side condition under which the look-ahead stash is sound: no pending "ignore LF" while text
is stashed (preserved by every step: `Good`) -/
def EatOk (m : Mach) : Prop := m.ignoreLf = true → m.tempBuf = []

@[simp] theorem setTempBuf_setTempBuf (m : Mach) (a b : Str) :
    (m.setTempBuf a).setTempBuf b = m.setTempBuf b := rfl

theorem eatSkipLf_id (o : Opts) (m : Mach) (inp : Str) (h : m.ignoreLf = false) : eatSkipLf o m inp = (m, inp) := by
  unfold eatSkipLf; simp [h]

/-- the prologue touches neither the stash nor the control registers; once it has seen a character
the "ignore LF" flag is clear -/
theorem eatSkipLf_fields (o : Opts) (m : Mach) (inp : Str) :
    (eatSkipLf o m inp).1.atEof = m.atEof ∧ (eatSkipLf o m inp).1.tempBuf = m.tempBuf ∧
    (eatSkipLf o m inp).1.state = m.state ∧ (eatSkipLf o m inp).1.charRef = m.charRef ∧
    (∀ c, peek m inp = some c → (eatSkipLf o m inp).1.ignoreLf = false) := by
  unfold eatSkipLf
  split
  · cases hpk : peek m inp with
    | none => simp
    | some c =>
      simp only
      split
      · rename_i hc
        have hpk' : peek (m.setIgnoreLf false) inp = some c := hpk
        obtain ⟨c', m', i', hg, h1, h2, h3, h4, h5⟩ := getChar_of_peek o (m.setIgnoreLf false) inp c hpk' rfl
        simp only [hg, h2, h3, h4, h5]
        refine ⟨by simp, by simp, by simp, by simp, fun _ _ => ?_⟩
        rw [h1, hc]; simp
      · simp
  · rename_i hil
    refine ⟨rfl, rfl, rfl, rfl, fun _ _ => by simpa using hil⟩

@[simp] theorem eatSkipLf_atEof (o : Opts) (m : Mach) (inp : Str) : (eatSkipLf o m inp).1.atEof = m.atEof :=
  (eatSkipLf_fields o m inp).1

/-- core of `eat` once the `ignore_lf` prologue is done -/
def eatCore (m1 : Mach) (all : Str) (pat : Str) : Option Bool × Mach × Str :=
  match eatCmp eqCi all pat with
  | some true => (some true, m1.setTempBuf [], all.drop pat.length)
  | some false => (some false, m1.setTempBuf [], all)
  | none =>
    if m1.atEof then (some false, m1.setTempBuf [], all)
    else (none, m1.setTempBuf all, [])

theorem eat_eq_core (o : Opts) (m : Mach) (inp pat : Str) :
    eat o m inp pat = eatCore (eatSkipLf o m inp).1 ((eatSkipLf o m inp).1.tempBuf ++ (eatSkipLf o m inp).2) pat := rfl

theorem eatCore_mono (m1 m' : Mach) (all inp' e pat : Str) (b : Bool)
    (hat : m1.atEof = false) (h : eatCore m1 all pat = (some b, m', inp')) :
    eatCore m1 (all ++ e) pat = (some b, m', inp' ++ e) := by
  unfold eatCore at h ⊢
  cases hc : eatCmp eqCi all pat with
  | none => simp [hc, hat] at h
  | some b' =>
    have hc' := eatCmp_mono eqCi all pat e b' hc
    simp only [hc, hc'] at h ⊢
    cases b' with
    | true =>
      simp only [Prod.mk.injEq] at h ⊢
      obtain ⟨h1, h2, h3⟩ := h
      refine ⟨h1, h2, ?_⟩
      rw [← h3]
      exact eatCmp_drop eqCi _ pat e hc
    | false =>
      simp only [Prod.mk.injEq] at h ⊢
      obtain ⟨h1, h2, h3⟩ := h
      exact ⟨h1, h2, by rw [← h3]⟩

theorem eat_mono (o : Opts) (m m' : Mach) (inp inp' e pat : Str) (b : Bool)
    (hg : EatOk m) (hpat : pat ≠ []) (hat : m.atEof = false)
    (h : eat o m inp pat = (some b, m', inp')) :
    eat o m (inp ++ e) pat = (some b, m', inp' ++ e) := by
  rw [eat_eq_core] at h ⊢
  cases hpk : peek m inp with
  | some c =>
    rw [eatSkipLf_mono o m inp e c hpk]
    simp only [← List.append_assoc]
    exact eatCore_mono _ _ _ _ _ _ _ (by simp [hat]) h
  | none =>
    obtain ⟨hr, hinp⟩ := peek_none m inp hpk
    subst hinp
    cases hil : m.ignoreLf with
    | true =>
      have ht := hg hil
      rw [eatSkipLf_none o m [] hpk] at h
      simp [eatCore, ht, eatCmp_nil_none eqCi pat hpat, hat] at h
    | false =>
      rw [eatSkipLf_id o m _ hil] at h ⊢
      simp only [List.append_nil, List.nil_append] at h ⊢
      have := eatCore_mono m m' m.tempBuf inp' e pat b hat h
      simpa using this

/-- shape of a suspended `eat`, and **resumability**: any later `eat` (the state re-executes its
whole look-ahead sequence) behaves as on the concatenated input; the stash stays sound -/
theorem eat_none (o : Opts) (m m' : Mach) (inp inp' pat : Str)
    (hg : EatOk m) (h : eat o m inp pat = (none, m', inp')) :
    inp' = [] ∧ EatOk m' ∧ m'.atEof = m.atEof ∧
    ∀ (e pat' : Str), eat o m' e pat' = eat o m (inp ++ e) pat' := by
  rw [eat_eq_core] at h
  unfold eatCore at h
  split at h
  · simp at h
  · simp at h
  · split at h
    · simp at h
    · simp only [Prod.mk.injEq, true_and] at h
      obtain ⟨h1, h2⟩ := h
      refine ⟨h2.symm, ?_, by simp [← h1], ?_⟩
      · subst h1
        intro hil
        simp only [setTempBuf_ignoreLf] at hil
        -- ignoreLf survived the prologue ⇒ nothing was available ⇒ the stash is the (empty) old one
        cases hpk : peek m inp with
        | none =>
          rw [eatSkipLf_none o m inp hpk] at hil ⊢
          have := hg hil
          obtain ⟨_, hinp⟩ := peek_none m inp hpk
          simp [this, hinp]
        | some c =>
          exfalso
          have := (eatSkipLf_fields o m inp).2.2.2.2 c hpk
          rw [this] at hil; cases hil
      · intro e pat'
        subst h1
        rw [eat_eq_core, eat_eq_core]
        cases hpk : peek m inp with
        | some c =>
          rw [eatSkipLf_mono o m inp e c hpk]
          -- after the prologue saw a character the flag is clear
          have hil : (eatSkipLf o m inp).1.ignoreLf = false := (eatSkipLf_fields o m inp).2.2.2.2 c hpk
          rw [eatSkipLf_id o _ e (by simpa using hil)]
          simp [eatCore, List.append_assoc, setTempBuf_setTempBuf]
        | none =>
          obtain ⟨hr, hinp⟩ := peek_none m inp hpk
          subst hinp
          rw [eatSkipLf_none o m [] hpk]
          simp only [List.append_nil, List.nil_append]
          cases hil : m.ignoreLf with
          | true =>
            have ht := hg hil
            have : m.setTempBuf m.tempBuf = m := rfl
            rw [this]
          | false =>
            have : m.setTempBuf m.tempBuf = m := rfl
            rw [this]


/-! ### pop_except_from / data-state read -/

theorem popExceptFrom_mono (o : Opts) (set : List Char) (m m' : Mach) (r : SetRes) (inp inp' e : Str)
    (h : popExceptFrom o set m inp = (some r, m', inp')) :
    popExceptFrom o set m (inp ++ e) = (some r, m', inp' ++ e) := by
  unfold popExceptFrom at h ⊢
  split
  · rename_i hs
    simp only [hs, ↓reduceIte] at h
    cases hg : getChar o m inp with
    | mk c rest =>
      cases c with
      | none => simp [hg] at h
      | some c =>
        obtain ⟨m1, i1⟩ := rest
        rw [getChar_mono o m m1 c inp i1 e hg]
        simp_all
  · rename_i hs
    simp only [hs, Bool.false_eq_true, ↓reduceIte] at h
    cases inp with
    | nil => simp at h
    | cons x xs =>
      simp only [List.cons_append] at h ⊢
      split
      · rename_i hx
        simp only [hx, ↓reduceIte] at h
        cases hg : preprocess o m x xs with
        | mk c rest =>
          cases c with
          | none => simp [hg] at h
          | some c =>
            obtain ⟨m1, i1⟩ := rest
            rw [preprocess_mono o m m1 x c xs i1 e hg]
            simp_all
      · rename_i hx
        simp only [hx, Bool.false_eq_true, ↓reduceIte] at h
        simp_all

theorem popExceptFrom_none (o : Opts) (set : List Char) (m m' : Mach) (inp inp' : Str)
    (h : popExceptFrom o set m inp = (none, m', inp')) :
    inp' = [] ∧ m.reconsume = false ∧
      ((inp = [] ∧ m' = m) ∨ (inp = ['\n'] ∧ m.ignoreLf = true ∧ m' = m.setIgnoreLf false)) := by
  unfold popExceptFrom at h
  split at h
  · cases hg : getChar o m inp with
    | mk c rest =>
      obtain ⟨m1, i1⟩ := rest
      cases c with
      | some c => simp [hg] at h
      | none =>
        simp only [hg, Option.map_none, Prod.mk.injEq, true_and] at h
        obtain ⟨h1, h2⟩ := h
        subst h1 h2
        exact getChar_none o m m1 inp i1 hg
  · rename_i hs
    have hs' : o.exactErrors = false ∧ m.reconsume = false ∧ m.ignoreLf = false := by
      simpa [and_assoc] using hs
    cases inp with
    | nil => simp at h; simp_all
    | cons x xs =>
      simp only at h
      split at h
      · cases hg : preprocess o m x xs with
        | mk c rest =>
          obtain ⟨m1, i1⟩ := rest
          cases c with
          | some c => simp [hg] at h
          | none =>
            have := preprocess_none o m m1 x xs i1 hg
            simp_all
      · simp at h

/-! ### character-reference sub-tokenizer -/

/-- a char-ref step result with more input appended -/
def CRRes.ext (r : CRRes) (e : Str) : CRRes :=
  match r with
  | .error x => .error x
  | .ok (m, i, cr, st) => .ok (m, i ++ e, cr, st)

def CRRes.notStuck (r : CRRes) : Prop :=
  match r with
  | .ok (_, _, _, .stuck) => False
  | _ => True

theorem unconsume_ext (m : Mach) (inp e buf : Str) :
    unconsume m (inp ++ e) buf = ((unconsume m inp buf).1, (unconsume m inp buf).2 ++ e) := by
  unfold unconsume; split <;> simp [List.append_assoc]

theorem unconsumeNumeric_ext (m : Mach) (inp e : Str) (cr : CharRefSt) :
    unconsumeNumeric m (inp ++ e) cr = (unconsumeNumeric m inp cr).ext e := by
  simp [unconsumeNumeric, CRRes.ext, unconsume_ext]

theorem finishNumericStatus_ext (o : Opts) (m : Mach) (inp e : Str) (cr : CharRefSt) :
    finishNumericStatus o m (inp ++ e) cr = (finishNumericStatus o m inp cr).ext e := by
  unfold finishNumericStatus
  split <;> simp [CRRes.ext]

theorem unconsumeName_ext (m : Mach) (inp e : Str) (cr : CharRefSt) :
    unconsumeName m (inp ++ e) cr = (unconsumeName m inp cr).ext e := by
  unfold unconsumeName
  split <;> simp [CRRes.ext, unconsume_ext]

theorem finishNamed_ext (o : Opts) (m : Mach) (inp e : Str) (cr : CharRefSt) (ec : Option Char) :
    finishNamed o m (inp ++ e) cr ec = (finishNamed o m inp cr ec).ext e := by
  unfold finishNamed
  repeat' split
  all_goals
    first
      | (simp [CRRes.ext, unconsumeName_ext, unconsume_ext]; done)
      | (dsimp only; split <;> simp [CRRes.ext, unconsumeName_ext, unconsume_ext])

theorem unconsumeNumeric_notStuck (m : Mach) (inp : Str) (cr : CharRefSt) :
    (unconsumeNumeric m inp cr).notStuck := by
  simp [unconsumeNumeric, CRRes.notStuck]

theorem finishNumericStatus_notStuck (o : Opts) (m : Mach) (inp : Str) (cr : CharRefSt) :
    (finishNumericStatus o m inp cr).notStuck := by
  unfold finishNumericStatus
  split <;> simp [CRRes.notStuck]

theorem unconsumeName_notStuck (m : Mach) (inp : Str) (cr : CharRefSt) : (unconsumeName m inp cr).notStuck := by
  unfold unconsumeName; split <;> simp [CRRes.notStuck]

theorem finishNamed_notStuck (o : Opts) (m : Mach) (inp : Str) (cr : CharRefSt) (ec : Option Char) :
    (finishNamed o m inp cr ec).notStuck := by
  unfold finishNamed
  repeat' split
  all_goals
    first
      | exact unconsumeName_notStuck _ _ _
      | (simp [CRRes.notStuck]; done)
      | (dsimp only; split <;> first | exact unconsumeName_notStuck _ _ _ | simp [CRRes.notStuck])

/-- **monotone**: a char-ref step that is not stuck does not depend on what follows -/
theorem crStep_mono (o : Opts) (m : Mach) (inp e : Str) (cr : CharRefSt)
    (h : (crStep o m inp cr).notStuck) :
    crStep o m (inp ++ e) cr = (crStep o m inp cr).ext e := by
  unfold crStep at h ⊢
  cases hst : cr.state with
  | named =>
    simp only [hst] at h ⊢
    cases hg : getChar o m inp with
    | mk c r =>
      obtain ⟨m1, i1⟩ := r
      cases c with
      | none => simp [hg, CRRes.notStuck] at h
      | some c =>
        rw [getChar_mono o m m1 c inp i1 e hg]
        simp only
        repeat' split
        all_goals simp [CRRes.ext, finishNamed_ext]
  | bogusName =>
    simp only [hst] at h ⊢
    cases hg : getChar o m inp with
    | mk c r =>
      obtain ⟨m1, i1⟩ := r
      cases c with
      | none => simp [hg, CRRes.notStuck] at h
      | some c =>
        rw [getChar_mono o m m1 c inp i1 e hg]
        simp only
        repeat' split
        all_goals simp [CRRes.ext, unconsumeName_ext]
  | begin =>
    simp only [hst] at h ⊢
    cases hpk : peek m inp with
    | none => simp [hpk, CRRes.notStuck] at h
    | some c =>
      simp only [peek_mono m inp e c hpk]
      by_cases hws : (c = '\t' || c = '\n' || c = '\x0c' || c = ' ' || c = '<' || c = '&') = true
      · simp [hws, CRRes.ext]
      · simp only [hws, Bool.false_eq_true, ↓reduceIte]
        by_cases hadd : some c = cr.addnlAllowed
        · simp [hadd, CRRes.ext]
        · simp only [hadd, ↓reduceIte]
          by_cases hh : c = '#'
          · obtain ⟨m', i', hd1, hd2⟩ := discardChar_ok o m inp c hpk (by rw [hh]; decide)
            simp [hh, hd1, hd2 e, CRRes.ext]
          · simp [hh, CRRes.ext]
  | octothorpe =>
    simp only [hst] at h ⊢
    cases hpk : peek m inp with
    | none => simp [hpk, CRRes.notStuck] at h
    | some c =>
      simp only [peek_mono m inp e c hpk]
      by_cases hx : (c = 'x' || c = 'X') = true
      · obtain ⟨m', i', hd1, hd2⟩ := discardChar_ok o m inp c hpk (by
          intro hc; subst hc; simp at hx)
        simp [hx, hd1, hd2 e, CRRes.ext]
      · simp [hx, CRRes.ext]
  | numeric base =>
    simp only [hst] at h ⊢
    cases hpk : peek m inp with
    | none => simp [hpk, CRRes.notStuck] at h
    | some c =>
      simp only [peek_mono m inp e c hpk]
      cases hd : toDigit c base with
      | some n =>
        obtain ⟨m', i', hd1, hd2⟩ := discardChar_ok o m inp c hpk (by
          intro hc; subst hc; simp [toDigit] at hd)
        simp [hd1, hd2 e, CRRes.ext]
      | none =>
        simp only
        split
        · exact unconsumeNumeric_ext m inp e cr
        · simp [CRRes.ext]
  | numericSemicolon =>
    simp only [hst] at h ⊢
    cases hpk : peek m inp with
    | none => simp [hpk, CRRes.notStuck] at h
    | some c =>
      simp only [peek_mono m inp e c hpk]
      by_cases hsc : c = ';'
      · obtain ⟨m', i', hd1, hd2⟩ := discardChar_ok o m inp c hpk (by rw [hsc]; decide)
        simp [hsc, hd1, hd2 e, finishNumericStatus_ext]
      · simp [hsc, finishNumericStatus_ext]

/-- `m'` is `m` with at most one more parse error in the log -/
def LogsErr (m' m : Mach) : Prop := m' = m ∨ ∃ s, m' = emit m (.error s)

/-- whatever a logged parse error does not disturb holds after at most one -/
theorem LogsErr.elim {P : Mach → Prop} {m' m : Mach} (h : LogsErr m' m) (h0 : P m)
    (h1 : ∀ s, P (emit m (.error s))) : P m' := by
  rcases h with rfl | ⟨s, rfl⟩
  · exact h0
  · exact h1 s

theorem nameErr_logs (o : Opts) (m : Mach) (nb : Str) : LogsErr (nameErr o m nb) m := by
  unfold nameErr; split <;> exact Or.inr ⟨_, rfl⟩

theorem finishNumeric_logs (o : Opts) (m : Mach) (cr : CharRefSt) : LogsErr (finishNumeric o m cr).1 m := by
  unfold finishNumeric
  exact ite_ind (P := (LogsErr · m)) (ite_ind (P := (LogsErr · m)) (Or.inr ⟨_, rfl⟩) (Or.inr ⟨_, rfl⟩))
    (Or.inl rfl)

/-- the character `finish_numeric` delivers depends on the number only -/
theorem finishNumeric_snd (o1 o2 : Opts) (a b : Mach) (cr : CharRefSt) :
    (finishNumeric o1 a cr).2 = (finishNumeric o2 b cr).2 := rfl

/-- every way through `namedDecision` hands the machine back as it was or with one error logged -/
theorem namedDecision_logs {m : Mach} {cr : CharRefSt} {nb : Str} {c1 c2 : Nat} {m1 : Mach} {r : Option Str}
    (h : namedDecision m cr nb c1 c2 = .ok (m1, r)) : LogsErr m1 m := by
  let P (x : Except String (Mach × Option Str)) : Prop := ∀ p, x = .ok p → LogsErr p.1 m
  refine (?_ : P (namedDecision m cr nb c1 c2)) _ h
  unfold namedDecision
  dsimp only
  refine ite_ind (P := P) (fun _ h => nomatch h) ?_
  split
  · exact fun _ h => nomatch h
  · refine ite_ind (P := P) ?_ (ite_ind (P := P) (fun _ h => nomatch h) ?_)
    all_goals
      rintro _ ⟨⟩
      dsimp only
      repeat' refine ite_ind (P := fun x : Bool × Mach => LogsErr x.2 m) ?_ ?_
    all_goals first | exact Or.inl rfl | exact Or.inr ⟨_, rfl⟩

/-- the machine of a successful sub-tokenizer step satisfies `I` -/
def CRRes.All (I : Mach → Prop) (r : CRRes) : Prop :=
  match r with
  | .error _ => True
  | .ok (m1, _, _, _) => I m1

/-- what a property of the machine needs to survive the character-reference sub-tokenizer, which
only reads, pushes back and logs errors -/
structure CRClosed (I : Mach → Prop) : Prop where
  rd : ∀ o m inp, I m → I (getChar o m inp).2.1
  unc : ∀ m inp buf, I m → I (unconsume m inp buf).1
  err : ∀ m s, I m → I (emit m (.error s))

section closed
variable {I : Mach → Prop} (hI : CRClosed I) {m : Mach} (h : I m)
include hI h

theorem CRClosed.logs {m' : Mach} (hl : LogsErr m' m) : I m' := hl.elim h fun s => hI.err m s h

theorem discardChar_inv {o : Opts} {inp : Str} {m1 : Mach} {i1 : Str}
    (hd : discardChar o m inp = .ok (m1, i1)) : I m1 := by
  unfold discardChar at hd
  have hg := hI.rd o m inp h
  generalize getChar o m inp = r at hd hg
  obtain ⟨c, m2, i2⟩ := r
  cases c with
  | none => cases hd
  | some c => cases hd; exact hg

theorem unconsumeNumeric_inv (inp : Str) (cr : CharRefSt) : (unconsumeNumeric m inp cr).All I :=
  hI.err _ _ (hI.unc _ _ _ h)

theorem finishNumericStatus_inv (o : Opts) (inp : Str) (cr : CharRefSt) :
    (finishNumericStatus o m inp cr).All I := by
  unfold finishNumericStatus
  have := hI.logs h (finishNumeric_logs o m cr)
  split
  · rename_i heq; rw [heq] at this; exact this
  · trivial

theorem unconsumeName_inv (inp : Str) (cr : CharRefSt) : (unconsumeName m inp cr).All I := by
  unfold unconsumeName
  split
  · trivial
  · exact hI.unc _ _ _ h

theorem finishNamed_inv (o : Opts) (inp : Str) (cr : CharRefSt) (ec : Option Char) :
    (finishNamed o m inp cr ec).All I := by
  unfold finishNamed
  split
  · trivial
  · split
    · dsimp only
      refine ite_ind (P := CRRes.All I) h (unconsumeName_inv hI ?_ _ _)
      split
      · exact ite_ind (P := I) (hI.logs h (nameErr_logs _ _ _)) h
      · exact h
    · split
      · trivial
      · exact unconsumeName_inv hI (hI.logs h (namedDecision_logs (by assumption))) _ _
      · exact hI.unc _ _ _ (hI.logs h (namedDecision_logs (by assumption)))

/-- **one step of the sub-tokenizer keeps every such property** -/
theorem crStep_inv (o : Opts) (inp : Str) (cr : CharRefSt) : (crStep o m inp cr).All I := by
  unfold crStep
  have hp := hI.rd o m inp h
  have hdc : ∀ m1 i1, discardChar o m inp = .ok (m1, i1) → I m1 := fun _ _ => discardChar_inv hI h
  cases cr.state with
  | named =>
    generalize getChar o m inp = r at hp
    obtain ⟨c, m2, i2⟩ := r
    cases c with
    | none => exact hp
    | some c =>
      dsimp only
      repeat' split
      all_goals first | trivial | exact hp | exact finishNamed_inv hI hp _ _ _ _
  | bogusName =>
    generalize getChar o m inp = r at hp
    obtain ⟨c, m2, i2⟩ := r
    cases c with
    | none => exact hp
    | some c =>
      dsimp only
      repeat' split
      all_goals
        first
          | trivial
          | exact hp
          | exact unconsumeName_inv hI (hI.logs hp (nameErr_logs _ _ _)) _ _
          | exact unconsumeName_inv hI hp _ _
  | begin =>
    dsimp only
    repeat' split
    all_goals first | trivial | exact h | exact hdc _ _ (by assumption)
  | octothorpe =>
    dsimp only
    repeat' split
    all_goals first | trivial | exact h | exact hdc _ _ (by assumption)
  | numeric base =>
    dsimp only
    repeat' split
    all_goals first | trivial | exact h | exact hdc _ _ (by assumption) | exact unconsumeNumeric_inv hI h _ _
  | numericSemicolon =>
    dsimp only
    repeat' split
    all_goals
      first
        | trivial
        | exact finishNumericStatus_inv hI (hdc _ _ (by assumption)) _ _ _
        | exact finishNumericStatus_inv hI (hI.err _ _ h) _ _ _

end closed

end H5V.Model.XmlTok
