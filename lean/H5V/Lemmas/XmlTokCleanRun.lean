import H5V.Lemmas.XmlTokClean
import H5V.Lemmas.XmlTokSafe
/-!
C15, "no raw CR / NUL reaches the sink" — the reader, the character-reference sub-tokenizer,
`step`, `run`, `feed` and `end` of the XML tokenizer model.

`CInv P m` = `CleanP P m` plus: a pending reconsume will deliver a preprocessed character.
-/
namespace H5V.Model.XmlTok

/-- the invariant: clean buffers and token log; a pending reconsume re-delivers a character that
went through `get_preprocessed_char` -/
def CInv (P : Char → Prop) (m : Mach) : Prop := CleanP P m ∧ (m.reconsume = true → QC m.currentChar)

section reader
variable {P : Char → Prop}

theorem CInv.of_fields {m m' : Mach} (h : CInv P m) (hc : CleanP P m') (hr : m'.reconsume = m.reconsume)
    (hcc : m'.currentChar = m.currentChar) : CInv P m' :=
  ⟨hc, fun hr' => by rw [hcc]; exact h.2 (by rw [← hr]; exact hr')⟩
theorem CInv.of_nrc {m' : Mach} (hc : CleanP P m') (hr : m'.reconsume = false) : CInv P m' :=
  ⟨hc, fun hr' => by rw [hr] at hr'; cases hr'⟩
theorem CInv.of_cc {m' : Mach} (hc : CleanP P m') (hcc : QC m'.currentChar) : CInv P m' := ⟨hc, fun _ => hcc⟩

theorem CInv_emit {m : Mach} (h : CInv P m) {t : Token} (ht : t.Clean P) : CInv P (emit m t) :=
  h.of_fields (CleanP_emit h.1 ht) (by simp) (by simp)
theorem CInv_badChar {m : Mach} (h : CInv P m) (o : Opts) : CInv P (badChar o m) :=
  h.of_fields (CleanP_badChar h.1 o) (by simp) (by simp)
theorem CInv_setIgnoreLf {m : Mach} (h : CInv P m) (b : Bool) : CInv P (m.setIgnoreLf b) :=
  h.of_fields (CleanP_setIgnoreLf h.1 b) (by simp) (by simp)
theorem CInv_setTempBuf {m : Mach} (h : CInv P m) (s : Str) : CInv P (m.setTempBuf s) :=
  h.of_fields (CleanP_setTempBuf h.1 s) (by simp) (by simp)
theorem CInv_setCharRef {m : Mach} (h : CInv P m) (x : Option CharRefSt) : CInv P (m.setCharRef x) :=
  h.of_fields (CleanP_setCharRef h.1 x) (by simp) (by simp)
theorem CInv_setAtEof {m : Mach} (h : CInv P m) (b : Bool) : CInv P (m.setAtEof b) :=
  h.of_fields (CleanP_setAtEof h.1 b) (by simp) (by simp)
theorem CInv_setDiscardBom {m : Mach} (h : CInv P m) (b : Bool) : CInv P (m.setDiscardBom b) :=
  h.of_fields (CleanP_setDiscardBom h.1 b) (by simp) (by simp)
theorem CInv_to {m : Mach} (h : CInv P m) (s : State) : CInv P (to s m) :=
  h.of_fields (CleanP_to h.1 s) (by simp) (by simp)
theorem CInv_clearComment {m : Mach} (h : CInv P m) : CInv P (clearComment m) :=
  h.of_fields (CleanP_clearComment h.1) (by simp) (by simp)

/-! ### `get_preprocessed_char` -/

/-- what `get_preprocessed_char` delivers: CR→LF, NUL→U+FFFD, everything else unchanged -/
theorem foldChar_char (o : Opts) (m : Mach) (c : Char) :
    (foldChar o m c).1 = if c = '\r' then '\n' else if c = '\x00' then '�' else c := by
  unfold foldChar
  dsimp only
  by_cases h : c = '\r'
  · subst h; simp
  · simp only [h, ↓reduceIte]

/-- **the character `get_preprocessed_char` delivers is neither CR nor NUL** -/
theorem foldChar_QC (o : Opts) (m : Mach) (c : Char) : QC (foldChar o m c).1 := by
  rw [foldChar_char]
  split
  · decide
  · split
    · decide
    · exact ⟨by assumption, by assumption⟩

theorem foldChar_cc (o : Opts) (m : Mach) (c : Char) : (foldChar o m c).2.currentChar = (foldChar o m c).1 := by
  unfold foldChar; rfl

theorem foldChar_cleanP (o : Opts) {m : Mach} (h : CleanP P m) (c : Char) : CleanP P (foldChar o m c).2 := by
  unfold foldChar
  generalize hcm : (if c = '\r' then ('\n', m.setIgnoreLf true) else (c, m)) = cm
  have h2 : CleanP P cm.2 := by
    rw [← hcm]; split
    · exact CleanP_setIgnoreLf h true
    · exact h
  dsimp only
  generalize (if cm.1 = '\x00' then '�' else cm.1) = c'
  apply CleanP_setCurrentChar
  split
  · exact CleanP_emitE h2 _
  · exact h2

/-- `get_preprocessed_char` proper -/
theorem preprocess_clean (o : Opts) {m : Mach} (h : CleanP P m) (c : Char) (inp : Str) :
    CleanP P (preprocess o m c inp).2.1 ∧
    ∀ x, (preprocess o m c inp).1 = some x → QC x ∧ (preprocess o m c inp).2.1.currentChar = x := by
  unfold preprocess
  split
  · split
    · cases inp with
      | nil => exact ⟨CleanP_setIgnoreLf h false, fun x hx => by cases hx⟩
      | cons c' rest =>
        refine ⟨foldChar_cleanP o (CleanP_setIgnoreLf h false) c', fun x hx => ?_⟩
        simp only [Option.some.injEq] at hx; subst hx
        exact ⟨foldChar_QC _ _ _, foldChar_cc _ _ _⟩
    · refine ⟨foldChar_cleanP o (CleanP_setIgnoreLf h false) c, fun x hx => ?_⟩
      simp only [Option.some.injEq] at hx; subst hx
      exact ⟨foldChar_QC _ _ _, foldChar_cc _ _ _⟩
  · refine ⟨foldChar_cleanP o h c, fun x hx => ?_⟩
    simp only [Option.some.injEq] at hx; subst hx
    exact ⟨foldChar_QC _ _ _, foldChar_cc _ _ _⟩

/-- `get_char`: the machine stays clean, no reconsume is pending afterwards, and the character
delivered (fresh or reconsumed) is preprocessed and is `current_char` -/
theorem getChar_clean (o : Opts) {m : Mach} (h : CInv P m) (inp : Str) :
    CleanP P (getChar o m inp).2.1 ∧ (getChar o m inp).2.1.reconsume = false ∧
    ∀ x, (getChar o m inp).1 = some x → QC x ∧ (getChar o m inp).2.1.currentChar = x := by
  unfold getChar
  split
  · rename_i hr
    refine ⟨CleanP_setReconsume h.1 false, rfl, fun x hx => ?_⟩
    simp only [Option.some.injEq] at hx; subst hx
    exact ⟨h.2 hr, rfl⟩
  · rename_i hr
    cases inp with
    | nil => exact ⟨h.1, by simpa using hr, fun x hx => by cases hx⟩
    | cons c rest =>
      obtain ⟨p1, p2⟩ := preprocess_clean (P := P) o h.1 c rest
      exact ⟨p1, by rw [preprocess_reconsume]; simpa using hr, p2⟩

theorem getChar_cinv (o : Opts) {m : Mach} (h : CInv P m) (inp : Str) : CInv P (getChar o m inp).2.1 :=
  CInv.of_nrc (getChar_clean o h inp).1 (getChar_clean o h inp).2.1

/-- `pop_except_from` with a set that contains CR and NUL: a `FromSet` character went through
`get_preprocessed_char`; a raw `NotFromSet` run contains neither CR nor NUL -/
theorem popExceptFrom_clean (o : Opts) (S : List Char)
    (hS : S.contains '\r' = true ∧ S.contains '\x00' = true) {m : Mach} (h : CInv P m) (inp : Str) :
    CleanP P (popExceptFrom o S m inp).2.1 ∧ (popExceptFrom o S m inp).2.1.reconsume = false ∧
    ∀ r, (popExceptFrom o S m inp).1 = some r → r.Clean := by
  unfold popExceptFrom
  split
  · obtain ⟨g1, g2, g3⟩ := getChar_clean o h inp
    refine ⟨g1, g2, fun r hr => ?_⟩
    dsimp only at hr
    cases hg : (getChar o m inp).1 with
    | none => rw [hg] at hr; cases hr
    | some x =>
      rw [hg] at hr
      simp only [Option.map_some, Option.some.injEq] at hr
      subst hr
      exact (g3 x hg).1
  · rename_i hcond
    have hrc : m.reconsume = false := by
      cases hh : m.reconsume with
      | false => rfl
      | true => simp [hh] at hcond
    cases inp with
    | nil => exact ⟨h.1, hrc, fun r hr => by cases hr⟩
    | cons c rest =>
      dsimp only
      split
      · obtain ⟨p1, p2⟩ := preprocess_clean (P := P) o h.1 c rest
        refine ⟨p1, by rw [preprocess_reconsume]; exact hrc, fun r hr => ?_⟩
        dsimp only at hr
        cases hg : (preprocess o m c rest).1 with
        | none => rw [hg] at hr; cases hr
        | some x =>
          rw [hg] at hr
          simp only [Option.map_some, Option.some.injEq] at hr
          subst hr
          exact (p2 x hg).1
      · rename_i hc
        have hc' : S.contains c = false := by simpa using hc
        refine ⟨h.1, hrc, fun r hr => ?_⟩
        simp only [Option.some.injEq] at hr
        subst hr
        have h1 : c ≠ '\r' := by intro e; rw [e, hS.1] at hc'; cases hc'
        have h2 : c ≠ '\x00' := by intro e; rw [e, hS.2] at hc'; cases hc'
        exact AllS_single ⟨h1, h2⟩

/-! ### look-ahead (`eat`) and `unconsume` -/

theorem eatSkipLf_cinv (o : Opts) {m : Mach} (h : CInv P m) (inp : Str) : CInv P (eatSkipLf o m inp).1 := by
  unfold eatSkipLf
  split
  · split
    · split
      · exact getChar_cinv o (CInv_setIgnoreLf h false) inp
      · exact CInv_setIgnoreLf h false
    · exact h
  · exact h

theorem eat_cinv (o : Opts) {m : Mach} (h : CInv P m) (inp pat : Str) : CInv P (eat o m inp pat).2.1 := by
  have h1 := eatSkipLf_cinv o h inp
  unfold eat
  dsimp only
  generalize eatSkipLf o m inp = mi at h1
  repeat' split
  all_goals exact CInv_setTempBuf h1 _

theorem unconsume_cinv {m : Mach} (h : CInv P m) (inp buf : Str) : CInv P (unconsume m inp buf).1 := by
  unfold unconsume; split
  · exact CInv_setIgnoreLf h false
  · exact h

end reader

/-! ### the character-reference sub-tokenizer keeps the machine clean (it only reads, pushes back
and logs errors); what it *delivers* is handled by `processCharRef_cinv` -/

section charref
variable {P : Char → Prop}

theorem cinv_closed : CRClosed (CInv P) :=
  ⟨fun o _ inp h => getChar_cinv o h inp, fun _ inp buf h => unconsume_cinv h inp buf,
   fun _ _ h => CInv_emit h trivial⟩

/-- **one step of the character-reference sub-tokenizer keeps the machine clean** -/
theorem crStep_good (o : Opts) {m : Mach} (h : CInv P m) (inp : Str) (cr : CharRefSt) :
    (crStep o m inp cr).All (CInv P) :=
  crStep_inv cinv_closed h o inp cr

/-- `process_char_ref`: the delivered characters go to a character token (`emit_char`, which folds
NUL once more) or to the attribute value — **the only place where a character that did not come
through `get_preprocessed_char` enters a token** -/
theorem foldl_emitChar_cinv [Allow P] (chars : Str) {m : Mach} (h : CInv P m) (hc : AllS P chars) :
    CInv P (chars.foldl emitChar m) := by
  induction chars generalizing m with
  | nil => exact h
  | cons c cs ih =>
    exact ih (h.of_fields (CleanP_emitChar' h.1 (hc c (by simp))) (by simp) (by simp))
      (fun x hx => hc x (List.mem_cons_of_mem _ hx))

theorem foldl_pushValue_cinv (chars : Str) {m : Mach} (h : CInv P m) (hc : AllS P chars) :
    CInv P (chars.foldl (fun m c => pushValue c m) m) := by
  induction chars generalizing m with
  | nil => exact h
  | cons c cs ih =>
    exact ih (h.of_fields (CleanP_pushValue' h.1 (hc c (by simp))) (by simp) (by simp))
      (fun x hx => hc x (List.mem_cons_of_mem _ hx))

theorem processCharRef_cinv [Allow P] {m : Mach} (h : CInv P m) {chars : Str} (hc : AllS P chars) :
    CInv P (processCharRef m chars).1 := by
  unfold processCharRef
  dsimp only
  have hc' : AllS P (if chars.isEmpty = true then ['&'] else chars) := by
    split
    · exact AllS_single (Allow.of_qc _ (by decide))
    · exact hc
  split
  · exact foldl_emitChar_cinv _ h hc'
  · exact foldl_emitChar_cinv _ h hc'
  · exact foldl_pushValue_cinv _ h hc'
  · exact h

end charref

/-! ### one `XmlTokenizer::step` -/

section step
variable {P : Char → Prop}

/-- the machine of a step result satisfies the invariant -/
def RInv (P : Char → Prop) : R → Prop
  | .cont m _ => CInv P m
  | .suspend m _ => CInv P m
  | .panic _ => True

theorem ofSig_RInv {ms : Mach × Sig} (h : CInv P ms.1) (inp : Str) : RInv P (ofSig ms inp) := by
  unfold ofSig
  split
  · exact h
  · trivial

/-- a `get_char!` state: read, then the table -/
theorem contChar_RInv [Allow P] (o : Opts) {m : Mach} (h : CInv P m) (inp : Str) :
    RInv P (contChar o (getChar o m inp)) := by
  obtain ⟨g1, g2, g3⟩ := getChar_clean o h inp
  generalize getChar o m inp = r at g1 g2 g3
  obtain ⟨c, m1, i1⟩ := r
  cases c with
  | none => exact CInv.of_nrc g1 g2
  | some c =>
    obtain ⟨q1, q2⟩ := g3 c rfl
    refine ofSig_RInv (CInv.of_cc (transChar_clean o g1 q1) ?_) _
    rw [transChar_currentChar]
    exact q2 ▸ q1

/-- a `pop_except_from` state: read (fast or slow path), then the table -/
theorem contSet_RInv [Allow P] (o : Opts) (S : List Char)
    (hS : S.contains '\r' = true ∧ S.contains '\x00' = true) {m : Mach} (h : CInv P m) (inp : Str) :
    RInv P (contSet (popExceptFrom o S m inp)) := by
  obtain ⟨g1, g2, g3⟩ := popExceptFrom_clean o S hS h inp
  generalize popExceptFrom o S m inp = r at g1 g2 g3
  obtain ⟨c, m1, i1⟩ := r
  cases c with
  | none => exact CInv.of_nrc g1 g2
  | some c =>
    refine ofSig_RInv (CInv.of_nrc (transSet_clean g1 (g3 c rfl)) ?_) _
    rw [transSet_reconsume]
    exact g2

theorem eatChain_RInv (o : Opts) (dflt : Mach → Str → R) (alts : List (Str × (Mach → Mach)))
    (ha : ∀ p ∈ alts, p ∈ mdAlts ++ adnAlts) (hd : ∀ {m : Mach} (i : Str), CInv P m → RInv P (dflt m i))
    {m : Mach} (h : CInv P m) (inp : Str) : RInv P (eatChain o dflt alts m inp) := by
  refine eatChain_ind (I := fun x _ => CInv P x) o dflt alts (fun x i pat _ _ _ hi he => ?_)
    (fun _ _ hi => hi) (fun p hp x _ hi => ?_) (fun _ i hi => hd i hi) m inp h
  · have := eat_cinv o hi i pat
    rw [he] at this
    exact this
  · exact alts_cases (Q := fun k => ∀ x, CInv P x → CInv P (k x)) (fun _ h => CInv_to (CInv_clearComment h) _)
      (fun _ _ h => CInv_to h _) p (ha p hp) x hi

theorem stepMd_RInv (o : Opts) {m : Mach} (h : CInv P m) (inp : Str) : RInv P (stepMd o m inp) :=
  eatChain_RInv o (fun m i => .cont (to .bogusComment (badChar o m)) i) mdAlts (fun _ => List.mem_append_left _)
    (fun _ hi => CInv_to (CInv_badChar hi o) _) h inp

theorem stepAdn_RInv [Allow P] (o : Opts) {m : Mach} (h : CInv P m) (inp : Str) : RInv P (stepAdn o m inp) :=
  eatChain_RInv o (fun m i => contChar o (getChar o m i)) adnAlts (fun _ => List.mem_append_right _)
    (fun i hi => contChar_RInv o hi i) h inp

/-- a step of the character-reference sub-tokenizer; `hd`: what it delivers (if it finishes) is
admissible for a character token / attribute value -/
theorem stepCharRef_RInv [Allow P] (o : Opts) {m : Mach} (h : CInv P m) (inp : Str) (cr : CharRefSt)
    (hd : ∀ m1 i1 cr1 chars, crStep o m inp cr = .ok (m1, i1, cr1, .done chars) → AllS P chars) :
    RInv P (stepCharRef o m inp cr) := by
  unfold stepCharRef
  have hg := crStep_good o h inp cr
  cases hc : crStep o m inp cr with
  | error e => trivial
  | ok v =>
    obtain ⟨m1, i1, cr1, st⟩ := v
    rw [hc] at hg
    cases st with
    | stuck => exact CInv_setCharRef hg _
    | progress => exact CInv_setCharRef hg _
    | done chars =>
      exact ofSig_RInv (ms := ((processCharRef m1 chars).1.setCharRef none, (processCharRef m1 chars).2))
        (CInv_setCharRef (processCharRef_cinv hg (hd _ _ _ _ hc)) none) _

/-- **one step of the tokenizer loop preserves the invariant**, in every state, on the fast and on
the slow path, for both values of `exact_errors`, provided a character reference that completes in
this step delivers admissible characters -/
theorem step_RInv [Allow P] (o : Opts) {m : Mach} (h : CInv P m) (inp : Str)
    (hd : ∀ cr, m.charRef = some cr → ∀ m1 i1 cr1 chars,
      crStep o m inp cr = .ok (m1, i1, cr1, .done chars) → AllS P chars) :
    RInv P (step o m inp) :=
  step_cases (Post := RInv P) o m inp (fun cr hcr => stepCharRef_RInv o h inp cr (hd cr hcr))
    (fun _ _ => contChar_RInv o h inp) (fun _ hrk => contSet_RInv o _ (setOf_has _ hrk) h inp)
    (fun _ _ => stepMd_RInv o h inp) (fun _ _ => stepAdn_RInv o h inp)

/-- the `eof_step` loop -/
theorem eofLoop_clean [Allow P] (o : Opts) (fuel : Nat) {m : Mach} (h : CleanP P m) (m' : Mach)
    (he : eofLoop o fuel m = .ok m') : CleanP P m' := by
  induction fuel generalizing m with
  | zero => simp [eofLoop] at he
  | succ f ih =>
    have ht := transEof_clean (P := P) o h
    simp only [eofLoop] at he
    generalize transEof o m = r at he ht
    obtain ⟨m1, sg⟩ := r
    cases sg with
    | cont => exact ih ht he
    | done => simp only [Except.ok.injEq] at he; subst he; exact ht
    | panic e => simp at he

end step

end H5V.Model.XmlTok
