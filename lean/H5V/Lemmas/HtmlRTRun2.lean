import H5V.Lemmas.HtmlRTRun1
/-!
C07 round trip: the whole input.  The serialisation of an ordinary forest is read either
down to the data state with every token delivered, or — when the forest ends in a text node whose
last character is written as a reference — down to that reference fully read but not yet resolved
(`Tokenizer::end` resolves it).
-/
namespace H5V.Lemmas.HtmlRT
open H5V.Model.HtmlTok

variable {σ : Type} {o : Opts} {S : Sink σ} (sp : SinkSpec o S)

theorem renderF_append (a b : Forest) : renderF (a ++ b) = renderF a ++ renderF b := by
  induction a with
  | nil => rfl
  | cons t ts ih => simp [renderF, ih]

theorem tokTokens1F_append (a b : Forest) : tokTokens1F (a ++ b) = tokTokens1F a ++ tokTokens1F b := by
  induction a with
  | nil => rfl
  | cons t ts ih => simp [tokTokens1F, ih]

theorem okForest_append (a b : Forest) : okForest (a ++ b) = (okForest a && okForest b) := by
  induction a with
  | nil => simp [okForest]
  | cons t ts ih => simp [okForest, ih, Bool.and_assoc]

theorem noAdj_prefix : ∀ (a b : Forest), noAdjText (a ++ b) = true → noAdjText a = true
  | [], _, _ => rfl
  | [_], _, _ => rfl
  | x :: y :: r, b, h => by
    simp only [List.cons_append, noAdjText, Bool.and_eq_true] at h ⊢
    exact ⟨h.1, noAdj_prefix (y :: r) b h.2⟩

/-- how the reading of the whole serialisation ends -/
inductive TopEnd (L : List Frame) (T : Frame) (f : Forest) : Prop
  /-- in the data state, everything delivered -/
  | idle : Seg sp Idle L T (renderF f) (tokTokens1F f) [] Idle L ⟨T.name, T.attrs, T.cs ++ f⟩ → TopEnd L T f
  /-- inside the reference for the last character `c` of the last text node -/
  | pending (nm : Str) (v : Nat) (c : Char) (cs' : Forest) (toks' : List Token) :
      RefOk nm v → Char.ofNat v = c → tokTokens1F f = toks' ++ [.chars [c]] →
      appendTextF cs' [c] = T.cs ++ f →
      Seg sp Idle L T (renderF f) toks' [] (PendingRef .data nm v NoAttr) L ⟨T.name, T.attrs, cs'⟩ →
      TopEnd L T f

open H5V.Spec.HtmlEscape in
theorem seg_top (ho : o.exactErrors = false) (L : List Frame) (T : Frame) (f : Forest) (hok : okForest f = true)
    (hadj : noAdjText (T.cs ++ f) = true) : TopEnd sp L T f := by
  rcases List.eq_nil_or_concat f with hnil | ⟨f0, t, hf⟩
  · subst hnil
    exact .idle (by simpa using seg_forest sp ho [] L T [] hok hadj (Or.inr (by intro s; simp)))
  rw [List.concat_eq_append] at hf
  cases t with
  | elem n as ch =>
    refine .idle ?_
    have := seg_forest sp ho f L T [] hok hadj (Or.inr (by intro s; rw [hf]; simp))
    simpa using this
  | text s =>
    subst hf
    rw [okForest_append, Bool.and_eq_true] at hok
    obtain ⟨hok0, hokt⟩ := hok
    simp only [okForest, Bool.and_true] at hokt
    have hsne := okNode_text hokt
    have hcn : noCRNUL s := by
      simp only [okNode, Bool.and_eq_true] at hokt
      exact noCRNULb_iff hokt.2
    have hadj' : noAdjText ((T.cs ++ f0) ++ [HNode.text s]) = true := by simpa using hadj
    have hadj0 : noAdjText (T.cs ++ f0) = true := noAdj_prefix _ _ hadj'
    have hlast : ∀ old, (T.cs ++ f0).getLast? ≠ some (.text old) := noAdj_head hadj' rfl
    obtain ⟨s0, c, hs⟩ : ∃ s0 c, s = s0 ++ [c] := by
      rcases List.eq_nil_or_concat s with h | ⟨a, b, h⟩
      · exact absurd h hsne
      · exact ⟨a, b, by rw [h, List.concat_eq_append]⟩
    subst hs
    have hc : c ≠ '\r' ∧ c ≠ '\x00' := hcn c (by simp)
    have hcn0 : noCRNUL s0 := fun x hx => hcn x (by simp [hx])
    have hesc : escape false (s0 ++ [c]) = escape false s0 ++ escChar false c := by
      simp [escape, List.flatMap_append]
    -- the forest before the last text, then all but the last character
    have s1 := seg_forest sp ho f0 L T (escape false (s0 ++ [c])) hok0 hadj0
      (Or.inl (escape_ne_nil false (by simp)))
    have s2 := seg_text sp L ho (escChar false c) (escChar_ne_nil false c) s0 ⟨T.name, T.attrs, T.cs ++ f0⟩ hcn0
    have s12 := Seg.trans sp s1 (by rw [hesc]; exact s2)
    have hfold : ((s0 ++ [c]).map (fun c => [c])).foldl appendTextF (T.cs ++ f0) = T.cs ++ f0 ++ [.text (s0 ++ [c])] := by
      rw [foldl_appendTextF_new _ _ (by simp) hlast, flatten_singletons]
    have hfold' : appendTextF ((s0.map (fun c => [c])).foldl appendTextF (T.cs ++ f0)) [c]
        = T.cs ++ (f0 ++ [.text (s0 ++ [c])]) := by
      rw [← List.append_assoc, ← hfold, List.map_append, List.foldl_append]; rfl
    rw [escChar_eq] at s12
    cases hro : refOf false c with
    | none =>
      obtain ⟨h1, h2, _⟩ := refOf_none hro
      rw [hro] at s12
      have s3 : Seg sp Idle L ⟨T.name, T.attrs, (s0.map (fun c => [c])).foldl appendTextF (T.cs ++ f0)⟩ [c]
          [.chars [c]] [] Idle L
          ⟨T.name, T.attrs, appendTextF ((s0.map (fun c => [c])).foldl appendTextF (T.cs ++ f0)) [c]⟩ := by
        refine Seg.char sp L _ c coreInv_idle ?_
        intro m pol ⟨hctl, hn⟩
        obtain ⟨m1, he, h3, h4⟩ := data_plain o ho pol m c [] hctl hn ⟨hc.2, hc.1, h1, h2⟩
        exact ⟨m1, he, h3, h4⟩
      refine .idle ?_
      have := Seg.trans sp s12 s3
      rw [hfold'] at this
      simpa [renderF_append, tokTokens1F_append, renderF, tokTokens1F, render, tokTokens1, hesc, escChar_eq, hro]
        using this
    | some p =>
      obtain ⟨nm, v⟩ := p
      obtain ⟨hr, hv⟩ := refOf_some hro
      rw [hro] at s12
      have s3 := seg_text_ref sp L ⟨T.name, T.attrs, (s0.map (fun c => [c])).foldl appendTextF (T.cs ++ f0)⟩ ho nm v hr []
      have := Seg.trans sp s12 (by simpa using s3)
      refine .pending nm v c _ (tokTokens1F f0 ++ s0.map (fun c => .chars [c])) hr hv ?_ hfold' ?_
      · simp [tokTokens1F_append, tokTokens1F, tokTokens1]
      · simpa [renderF_append, renderF, render, hesc, escChar_eq, hro] using this

end H5V.Lemmas.HtmlRT
