import H5V.Lemmas.HtmlTBSkelAdjEarly
/-!
C06, second invariant layer: insertion in the body-like modes never has the root as parent:
the appropriate place for insertion, `insert_element`, text and comment insertion preserve `Big`.
-/
namespace H5V.Props.C06
open H5V.Model.Dom hiding Str
open H5V.Model.HtmlTB hiding Str
open H5V.Lemmas.Dom

/-- where the foster-parenting loop over `l` (a final part of the reversed stack) ends -/
inductive FRes (s : State) (l : List Id) : InsertionPoint → Prop
  | tmpl (t tc : Id) : t ∈ l → s.dom.templateContentsOf t = some tc →
      (∃ pre post, l = pre ++ t :: post ∧ (∀ y ∈ pre, htmlIn (nm s.dom y) ["table", "template"] = false) ∧
        nm s.dom t = hN "template") →
      FRes s l (.lastChild tc)
  | table (pre post : List Id) (e p : Id) : l = pre ++ e :: p :: post → nm s.dom e = hN "table" →
      (∀ y ∈ pre, htmlIn (nm s.dom y) ["table", "template"] = false) →
      FRes s l (.tableFosterParenting e p)
  | bottom (h : Id) : s.openElems.head? = some h →
      (∀ y ∈ l, htmlIn (nm s.dom y) ["table", "template"] = false) → FRes s l (.lastChild h)

theorem FRes.cons {s : State} {l : List Id} {ip : InsertionPoint} (x : Id)
    (hx : htmlIn (nm s.dom x) ["table", "template"] = false) (h : FRes s l ip) : FRes s (x :: l) ip := by
  cases h with
  | tmpl t tc h1 h2 h3 =>
    obtain ⟨pre, post, hl, hpre, hnt⟩ := h3
    refine .tmpl t tc (List.mem_cons_of_mem _ h1) h2 ⟨x :: pre, post, by rw [hl]; rfl, ?_, hnt⟩
    intro y hy
    rcases List.mem_cons.mp hy with rfl | hy
    · exact hx
    · exact hpre y hy
  | table pre post e p h1 h2 h3 =>
    refine .table (x :: pre) post e p (by rw [h1]; rfl) h2 ?_
    intro y hy
    rcases List.mem_cons.mp hy with rfl | hy
    · exact hx
    · exact h3 y hy
  | bottom hh h1 h2 =>
    refine .bottom hh h1 ?_
    intro y hy
    simp only [List.mem_cons] at hy
    rcases hy with rfl | hy
    · exact hx
    · exact h2 y hy

theorem htmlIn_two_false {n : EName} {a b : String} (h1 : (n.ns == nsHtml && n.loc == a.toList) = false)
    (h2 : (n.ns == nsHtml && n.loc == b.toList) = false) : htmlIn n [a, b] = false := by
  unfold htmlIn isOneOf
  simp only [List.any_cons, List.any_nil, Bool.or_false, Bool.and_eq_false_iff, Bool.or_eq_false_iff] at *
  rcases h1 with h1 | h1
  · exact Or.inl h1
  · rcases h2 with h2 | h2
    · exact Or.inl h2
    · right
      constructor
      · simpa [BEq.comm] using h1
      · simpa [BEq.comm] using h2

theorem fosterLoop_sem : ∀ (l : List Id) (s s' : State) (ip : InsertionPoint),
    fosterLoop l s = .ok (ip, s') → QS s s' ∧ FRes s l ip
  | [], s, s', ip, e => by
    unfold fosterLoop at e
    obtain ⟨h, s1, e1, e2⟩ := bind_ok.mp e
    obtain ⟨rfl, rfl⟩ := pure_ok.mp e2
    unfold htmlElem at e1
    rw [getS_bind] at e1
    cases hh : s.openElems.head? with
    | none => simp only [hh] at e1; exact absurd e1 panicAt_ok
    | some x =>
      simp only [hh] at e1
      obtain ⟨rfl, rfl⟩ := pure_ok.mp e1
      exact ⟨QS.refl _, .bottom _ hh (by intro y hy; cases hy)⟩
  | el :: rest, s, s', ip, e => by
    unfold fosterLoop at e
    obtain ⟨b1, s1, e1, e2⟩ := bind_ok.mp e
    obtain ⟨q1, hb1, _⟩ := htmlElemNamed_sem e1
    by_cases h1 : b1 = true
    · simp only [h1, if_true] at e2
      obtain ⟨tc, s2, e3, e4⟩ := bind_ok.mp e2
      obtain ⟨rfl, rfl⟩ := pure_ok.mp e4
      obtain ⟨htc, q2⟩ := sinkNode_tc e3
      have q2' : QS s1 s2 := IsQ.q _ _ _ e3
      have hnt : nm s.dom el = hN "template" := by
        rw [hb1] at h1
        simp only [Bool.and_eq_true, beq_iff_eq] at h1
        have : nm s.dom el = ⟨(nm s.dom el).ns, (nm s.dom el).loc⟩ := rfl
        rw [this, h1.1, h1.2]; rfl
      refine ⟨q1.trans q2', .tmpl el tc (by simp) ?_ ⟨[], rest, rfl, (by intro y hy; cases hy), hnt⟩⟩
      unfold Dom.templateContentsOf at htc ⊢
      unfold Dom.dataOf at htc ⊢
      rw [← q1.nodes]; exact htc
    · simp only [h1] at e2
      obtain ⟨b2, s2, e3, e4⟩ := bind_ok.mp e2
      obtain ⟨q2, hb2, _⟩ := htmlElemNamed_sem e3
      have q12 := q1.trans q2
      by_cases h2 : b2 = true
      · simp only [h2, if_true] at e4
        cases rest with
        | nil => exact absurd e4 panicAt_ok
        | cons prev r =>
          obtain ⟨rfl, rfl⟩ := pure_ok.mp e4
          refine ⟨q12, .table [] r el prev rfl ?_ (by intro y hy; cases hy)⟩
          rw [hb2, q1.nm] at h2
          simp only [Bool.and_eq_true, beq_iff_eq] at h2
          have : nm s.dom el = ⟨(nm s.dom el).ns, (nm s.dom el).loc⟩ := rfl
          rw [this, h2.1, h2.2]; rfl
      · simp only [h2] at e4
        obtain ⟨q3, hres⟩ := fosterLoop_sem rest s2 s' ip e4
        refine ⟨q12.trans q3, ?_⟩
        have hx : htmlIn (nm s.dom el) ["table", "template"] = false := by
          refine htmlIn_two_false ?_ ?_
          · rw [hb2, q1.nm] at h2; simpa using h2
          · rw [hb1] at h1; simpa using h1
        -- transport the result from s2 to s
        have hres' : FRes s rest ip := by
          cases hres with
          | tmpl t tc h1' h2' h3' =>
            obtain ⟨pre, post, hl, hpre, hnt⟩ := h3'
            refine .tmpl t tc h1' ?_ ⟨pre, post, hl, fun y hy => by rw [← q12.nm]; exact hpre y hy,
              by rw [← q12.nm]; exact hnt⟩
            unfold Dom.templateContentsOf Dom.dataOf at h2' ⊢
            rw [← q12.nodes]; exact h2'
          | table pre post e' p h1' h2' h3' =>
            exact .table pre post e' p h1' (by rw [← q12.nm]; exact h2') (fun y hy => by rw [← q12.nm]; exact h3' y hy)
          | bottom hh h1' h2' =>
            exact .bottom hh (by rw [← q12.openElems]; exact h1') (fun y hy => by rw [← q12.nm]; exact h2' y hy)
        exact hres'.cons el hx

/-- the answer of `appropriate_place_for_insertion` for the target `t` -/
inductive ARes (s : State) (t : Id) : InsertionPoint → Prop
  | plain : ARes s t (.lastChild t)
  | tmpl (tc : Id) : s.dom.templateContentsOf t = some tc → nm s.dom t = hN "template" → ARes s t (.lastChild tc)
  | foster (ip : InsertionPoint) : s.fosterParenting = true → fosterTarget (nm s.dom t) = true →
      FRes s s.openElems.reverse ip → ARes s t ip

theorem tc_of_nodes {d d' : Dom} (h : d'.nodes = d.nodes) (x : Id) : d'.templateContentsOf x = d.templateContentsOf x := by
  unfold Dom.templateContentsOf Dom.dataOf; rw [h]

theorem FRes.qs {s s' : State} {l : List Id} {ip : InsertionPoint} (h : FRes s' l ip) (q : QS s s') : FRes s l ip := by
  cases h with
  | tmpl t tc h1 h2 h3 =>
    obtain ⟨pre, post, hl, hpre, hnt⟩ := h3
    exact .tmpl t tc h1 (by rw [← tc_of_nodes q.nodes]; exact h2)
      ⟨pre, post, hl, fun y hy => by rw [← q.nm]; exact hpre y hy, by rw [← q.nm]; exact hnt⟩
  | table pre post e p h1 h2 h3 =>
    exact .table pre post e p h1 (by rw [← q.nm]; exact h2) (fun y hy => by rw [← q.nm]; exact h3 y hy)
  | bottom hh h1 h2 => exact .bottom hh (by rw [← q.openElems]; exact h1) (fun y hy => by rw [← q.nm]; exact h2 y hy)

theorem apfiRest_sem {s s' : State} {target : Id} {ip : InsertionPoint} (e : apfiRest target s = .ok (ip, s')) :
    QS s s' ∧ ARes s target ip := by
  unfold apfiRest at e
  rw [getS_bind] at e
  have key : ∀ (foster : Bool) (s2 : State), QS s s2 →
      (foster = true → s.fosterParenting = true ∧ fosterTarget (nm s.dom target) = true) →
      (if (!foster) = true then do
          let __do_lift ← htmlElemNamed target "template"
          if __do_lift = true then do
              let contents ← sinkNode (SinkOp.getTemplateContents target)
              pure (InsertionPoint.lastChild contents)
            else pure (InsertionPoint.lastChild target)
        else do
          let __do_lift ← getS
          fosterLoop __do_lift.openElems.reverse) s2 = .ok (ip, s') → QS s s' ∧ ARes s target ip := by
    intro foster s2 q2 hfo e4
    cases foster with
    | false =>
      simp only [Bool.not_false, if_true] at e4
      obtain ⟨b, s3, e5, e6⟩ := bind_ok.mp e4
      have q3 : QS s2 s3 := IsQ.q _ _ _ e5
      by_cases hb : b = true
      · simp only [hb, if_true] at e6
        obtain ⟨tc, s4, e7, e8⟩ := bind_ok.mp e6
        obtain ⟨rfl, rfl⟩ := pure_ok.mp e8
        obtain ⟨htc, _⟩ := sinkNode_tc e7
        have q4 : QS s3 s4 := IsQ.q _ _ _ e7
        refine ⟨(q2.trans q3).trans q4, .tmpl tc ?_ ?_⟩
        · rw [← tc_of_nodes (q2.trans q3).nodes]; exact htc
        · obtain ⟨_, hb5, _⟩ := htmlElemNamed_sem e5
          rw [hb5, q2.nm] at hb
          simp only [Bool.and_eq_true, beq_iff_eq] at hb
          have : nm s.dom target = ⟨(nm s.dom target).ns, (nm s.dom target).loc⟩ := rfl
          rw [this, hb.1, hb.2]; rfl
      · simp only [hb] at e6
        obtain ⟨rfl, rfl⟩ := pure_ok.mp e6
        exact ⟨q2.trans q3, .plain⟩
    | true =>
      simp only [Bool.not_true, Bool.false_eq_true, if_false] at e4
      rw [getS_bind] at e4
      obtain ⟨q3, hres⟩ := fosterLoop_sem _ _ _ _ e4
      refine ⟨q2.trans q3, .foster ip (hfo rfl).1 (hfo rfl).2 ?_⟩
      have := hres.qs q2
      rw [q2.openElems] at this
      exact this
  by_cases hf : s.fosterParenting = true
  · simp only [hf, if_true] at e
    obtain ⟨foster, s2, e3, e4⟩ := bind_ok.mp e
    exact key foster s2 (IsQ.q _ _ _ e3) (fun hft => ⟨hf, by rw [← (elemIn_sem e3).2]; exact hft⟩) e4
  · simp only [hf] at e
    obtain ⟨foster, s2, e3, e4⟩ := bind_ok.mp e
    obtain ⟨rfl, rfl⟩ := pure_ok.mp e3
    exact key false s (QS.refl _) (by intro h; cases h) e4

theorem apfi_sem {s s' : State} {o : Option Id} {ip : InsertionPoint}
    (e : appropriatePlaceForInsertion o s = .ok (ip, s')) :
    QS s s' ∧ ∃ t, (match o with | some t' => t = t' | none => s.openElems.getLast? = some t) ∧ ARes s t ip := by
  rw [apfi_eq] at e
  obtain ⟨target, s1, e1, e2⟩ := bind_ok.mp e
  cases o with
  | some t =>
    simp only at e1
    obtain ⟨rfl, rfl⟩ := pure_ok.mp e1
    obtain ⟨q, h⟩ := apfiRest_sem e2
    exact ⟨q, _, rfl, h⟩
  | none =>
    simp only at e1
    obtain ⟨rfl, hl⟩ := currentNode_sem e1
    obtain ⟨q, h⟩ := apfiRest_sem e2
    exact ⟨q, _, hl, h⟩

/-- the insertion point does not have the root as parent -/
def IpR (r : Id) (d : Dom) : InsertionPoint → Prop
  | .lastChild p => p ≠ r
  | .tableFosterParenting e p => e ∉ d.childrenOf r ∧ p ≠ r
  | .beforeSibling _ => False

/-- the element children of the root have one of these names -/
theorem Core.rootKid_name {s : State} {r : Id} {up : List Id} {ph : Phase} (h : Core s r up ph) {c : Id}
    (hc : c ∈ s.dom.childrenOf r) (hel : s.dom.isElement c = true) :
    htmlIn (nm s.dom c) ["head", "body", "frameset", "noframes"] = true ∨ isFmtE (nm s.dom c) = true := by
  have hm : c ∈ rootElems s.dom r := List.mem_filter.mpr ⟨hc, hel⟩
  have he := h.elems
  cases ph with
  | p0 => rw [he.2] at hm; cases hm
  | p1 =>
    obtain ⟨hh, _, h2, h3⟩ := he
    rw [h2] at hm; simp at hm; subst hm
    rw [h3]; exact Or.inl (by simp [lit_name])
  | pb b =>
    obtain ⟨hh, _, h2, h3, h4⟩ := he
    rw [h2] at hm; simp at hm
    rcases hm with rfl | rfl
    · rw [h3]; exact Or.inl (by simp [lit_name])
    · rw [h4]; exact Or.inl (by simp [lit_name])
  | pf fs =>
    obtain ⟨hh, ex, _, h2, h3, h4, h5⟩ := he
    rw [h2] at hm; simp at hm
    rcases hm with rfl | rfl | hm
    · rw [h3]; exact Or.inl (by simp [lit_name])
    · rw [h4]; exact Or.inl (by simp [lit_name])
    · rcases h5 c hm with h | h
      · rw [h]; exact Or.inl (by simp [lit_name])
      · exact Or.inr h

theorem Core.table_not_rootKid {s : State} {r : Id} {up : List Id} {ph : Phase} (h : Core s r up ph) {e : Id}
    (hel : s.dom.isElement e = true) (hn : nm s.dom e = hN "table") : e ∉ s.dom.childrenOf r := by
  intro hc
  rcases h.rootKid_name hc hel with h1 | h1
  · rw [hn] at h1; simp [lit_name] at h1
  · rw [hn] at h1; simp [lit_name] at h1

theorem Core.tc_ne_root {s : State} {r : Id} {up : List Id} {ph : Phase} (h : Core s r up ph) {t tc : Id}
    (htc : s.dom.templateContentsOf t = some tc) : tc ≠ r := by
  rintro rfl
  have hdoc := (h.late.base.tcOk t tc htc).2
  have hel := h.late.st.oe tc h.root_mem
  unfold Dom.isElement at hel
  rw [hdoc] at hel; cases hel

theorem Core.up_ne_root {s : State} {r : Id} {up : List Id} {ph : Phase} (h : Core s r up ph) {x : Id} (hx : x ∈ up) :
    x ≠ r := by
  rintro rfl
  have := h.nodup
  rw [h.stack] at this
  exact (List.nodup_cons.mp this).1 hx

theorem BodyBase.ne_nil {d : Dom} {head : Option Id} {up : List Id} {ph : Phase} (h : BodyBase d head up ph) : up ≠ [] := by
  rcases h with ⟨b, u, h1, _⟩ | ⟨_, _, u, _, h1, _⟩ | ⟨t, u, h1, _⟩ <;> (rw [h1]; simp)

/-- the first element above the root is `body`, `head` or `template` -/
theorem Big.anchor_name {m : Mode} {r : Id} {ph : Phase} {s : State} {up : List Id} (hc : Core s r up ph)
    (hbb : BodyBase s.dom s.headElem up ph) :
    ∃ a up', up = a :: up' ∧ htmlIn (nm s.dom a) ["body", "head", "template"] = true := by
  rcases hbb with ⟨b, u, h1, h2, _⟩ | ⟨hh, t, u, h0, h1, _, h4⟩ | ⟨t, u, h1, h2, _⟩
  · subst h2
    obtain ⟨_, _, _, _, hb⟩ := hc.elems
    exact ⟨b, u, h1, by rw [hb]; simp [lit_name]⟩
  · subst h4
    obtain ⟨h', e1, _, e3⟩ := hc.elems
    rw [h0] at e1; cases e1
    exact ⟨hh, t :: u, h1, by rw [e3]; simp [lit_name]⟩
  · exact ⟨t, u, h1, by rw [h2]; simp [lit_name]⟩

/-- the predecessor of a non-first element of a list -/
theorem pred_of_mem {l : List Id} {t : Id} (ht : t ∈ l) (hh : l.head? ≠ some t) :
    ∃ pre p post, l = pre ++ p :: t :: post := by
  obtain ⟨a, b, hab⟩ := List.append_of_mem ht
  rcases nil_or_concat a with rfl | ⟨a0, p, rfl⟩
  · rw [hab] at hh; simp at hh
  · exact ⟨a0, p, b, by rw [hab]; simp⟩

/-- a foster-parenting target on a stack with the table grammar has a `table` or `template` on the stack -/
theorem tg_foster_witness {name : Id → EName} {l : List Id} {t : Id} (htg : TG name l) (hne : l ≠ [])
    (hhead : ∀ h, l.head? = some h → name h = hN "html") (ht : t ∈ l) (hf : fosterTarget (name t) = true) :
    ∃ x ∈ l, htmlIn (name x) ["table", "template"] = true := by
  have hnh : ∀ y, y ∈ l → name y ≠ hN "html" → l.head? ≠ some y := by
    intro y _ hy hh; exact hy (hhead y hh)
  obtain ⟨a, ha, hn⟩ := htmlIn_eq hf
  simp only [List.mem_cons, List.not_mem_nil, or_false] at ha
  -- the predecessor of a section element
  have sect : ∀ y, y ∈ l → htmlIn (name y) ["tbody", "tfoot", "thead"] = true →
      ∃ x ∈ l, htmlIn (name x) ["table", "template"] = true := by
    intro y hy hys
    obtain ⟨b, hb, hbn⟩ := htmlIn_eq hys
    obtain ⟨pre, p, post, hl⟩ := pred_of_mem hy (hnh y hy (by
      rw [hbn]; simp only [List.mem_cons, List.not_mem_nil, or_false] at hb
      rcases hb with rfl | rfl | rfl <;> simp [lit_name]))
    have hp := htg pre p y post hl
    refine ⟨p, by rw [hl]; simp, ?_⟩
    rw [hbn] at hp
    simp only [List.mem_cons, List.not_mem_nil, or_false] at hb
    rcases hb with rfl | rfl | rfl <;> exact hp
  rcases ha with rfl | rfl | rfl | rfl | rfl
  · exact ⟨t, ht, by rw [hn]; simp [lit_name]⟩
  · exact sect t ht (by rw [hn]; simp [lit_name])
  · exact sect t ht (by rw [hn]; simp [lit_name])
  · exact sect t ht (by rw [hn]; simp [lit_name])
  · obtain ⟨pre, p, post, hl⟩ := pred_of_mem ht (hnh t ht (by rw [hn]; simp [lit_name]))
    have hp := htg pre p t post hl
    rw [hn] at hp
    have hp' : htmlIn (name p) ["tbody", "thead", "tfoot", "template"] = true := hp
    have hpm : p ∈ l := by rw [hl]; simp
    obtain ⟨b, hb, hbn⟩ := htmlIn_eq hp'
    simp only [List.mem_cons, List.not_mem_nil, or_false] at hb
    rcases hb with rfl | rfl | rfl | rfl
    · exact sect p hpm (by rw [hbn]; simp [lit_name])
    · exact sect p hpm (by rw [hbn]; simp [lit_name])
    · exact sect p hpm (by rw [hbn]; simp [lit_name])
    · exact ⟨p, hpm, by rw [hbn]; simp [lit_name]⟩

/-- in the body-like modes the appropriate place for insertion is never below (or next to a child of) the root -/
theorem Big.ipR {m : Mode} {r : Id} {ph : Phase} {s : State} {t : Id} {ip : InsertionPoint} (h : Big m r ph s)
    (ht : t ∈ s.openElems ∧ t ≠ r) (ha : ARes s t ip) : IpR r s.dom ip := by
  obtain ⟨up, hc, hbb, _, hfp⟩ := h
  cases ha with
  | plain => exact ht.2
  | tmpl tc htc _ => exact hc.tc_ne_root htc
  | foster ip' hflag htgt hres =>
    cases hres with
    | tmpl t' tc _ htc => exact hc.tc_ne_root htc
    | table pre post e p hl hn =>
      obtain ⟨he, hp⟩ := mem_tail_of_reverse hl
      have hel := hc.late.st.oe e (List.mem_of_mem_tail he)
      refine ⟨hc.table_not_rootKid hel hn, ?_⟩
      rintro rfl
      -- p = r is the bottom: then e is the anchor, which is not a table
      obtain ⟨_, hsplit⟩ := getElem?_of_reverse_split (l := s.openElems) (pre := pre ++ [e]) (x := p) (post := post)
        (by rw [hl]; simp)
      rw [hc.stack] at hsplit
      have hpost : post = [] := by
        cases hpr : post.reverse with
        | nil => simpa using hpr
        | cons z zs =>
          rw [hpr] at hsplit
          simp only [List.cons_append, List.cons.injEq] at hsplit
          have : p ∈ up := by rw [hsplit.2]; simp
          exact absurd rfl (hc.up_ne_root this)
      subst hpost
      simp only [List.reverse_nil, List.nil_append, List.reverse_append, List.reverse_cons, List.cons.injEq,
        true_and] at hsplit
      obtain ⟨a, up', hup, han⟩ := Big.anchor_name (m := m) hc hbb
      rw [hup] at hsplit
      simp at hsplit
      rw [hsplit.1, hn] at han
      simp [lit_name] at han
    | bottom hh _ hall =>
      exfalso
      -- the target is one of table/tbody/tfoot/thead/tr: the table grammar puts a table or template below it
      obtain ⟨x, hx, hxn⟩ := tg_foster_witness hc.tg (by rw [hc.stack]; simp) (by rw [hc.stack]; simp [hc.root_name])
        ht.1 htgt
      have := hall x (List.mem_reverse.mpr hx)
      rw [hxn] at this; cases this

theorem exm_of_constrained {n : EName} (h : constrained n = true) : exm n = true := by
  unfold exm; rw [h]; rfl

/-- in the body-like modes no open element (outside `exm`) precedes the place where a node is inserted
for the current node: text put there does not land behind an open element -/
theorem Big.no_open_before {m : Mode} {r : Id} {ph : Phase} {s : State} {t : Id} {ip : InsertionPoint} (h : Big m r ph s)
    (ht : s.openElems.getLast? = some t) (ha : ARes s t ip) :
    ∀ P a b x, s.dom.childrenOf P = a ++ b → NodePos s.dom ip P b → x ∈ a → x ∈ s.openElems →
      exm (nm s.dom x) = false → False := by
  obtain ⟨up, hc, hbb, _, _⟩ := id h
  have hadj := hc.adj
  have htO : t ∈ s.openElems := mem_of_getLast?' ht
  intro P a b x hP hpos hxa hxO hxx
  have hxP : x ∈ s.dom.childrenOf P := by rw [hP]; exact List.mem_append_left _ hxa
  cases ha with
  | plain =>
    cases hpos with
    | last hb hip =>
      rcases hip with hip | ⟨e, hip, _⟩
      · have hPt : t = P := by injection hip
        rw [← hPt] at hxP
        exact not_before_last hc.nodup ht (hadj.pb t x hxP hxO htO)
      · cases hip
    | before e p b' hip _ _ _ => cases hip
  | tmpl tc htc htn =>
    cases hpos with
    | last hb hip =>
      rcases hip with hip | ⟨e, hip, _⟩
      · have hPt : tc = P := by injection hip
        rw [← hPt] at hxP
        exact not_before_last hc.nodup ht (hadj.pbt t tc x htc htn hxP hxO htO)
      · cases hip
    | before e p b' hip _ _ _ => cases hip
  | foster ip' hflag htgt hres =>
    cases hres with
    | tmpl t' tc ht' htc hsp =>
      obtain ⟨pre, post, hl, hpre, htn⟩ := hsp
      cases hpos with
      | last hb hip =>
        rcases hip with hip | ⟨e, hip, _⟩
        · have hPt : tc = P := by injection hip
          rw [← hPt] at hxP
          have ht'O : t' ∈ s.openElems := List.mem_reverse.mp ht'
          have hbf := hadj.pbt t' tc x htc htn hxP hxO ht'O
          have hxpre := mem_pre_of_before hc.nodup hl hbf
          have := pre_constrained hc.tg hl ht htgt hpre x hxpre
          rw [exm_of_constrained this] at hxx; cases hxx
        · cases hip
      | before e p b' hip _ _ _ => cases hip
    | table pre post e p hl hn hpre =>
      have heO : e ∈ s.openElems := List.mem_reverse.mp (by rw [hl]; simp)
      have hpO : p ∈ s.openElems := List.mem_reverse.mp (by rw [hl]; simp)
      cases hpos with
      | last hb hip =>
        rcases hip with hip | ⟨e', hip, hpe⟩
        · cases hip
        · have heq : e = e' ∧ p = P := by
            injection hip with h1 h2; exact ⟨h1, h2⟩
          rw [← heq.1] at hpe
          rw [← heq.2] at hxP
          -- x is a child of p, the element below the parentless table on the stack
          have hbf := hadj.pb p x hxP hxO hpO
          have hl' : s.openElems.reverse = (pre ++ [e]) ++ p :: post := by rw [hl]; simp
          have hxpre := mem_pre_of_before hc.nodup hl' hbf
          rcases List.mem_append.mp hxpre with h1 | h1
          · have := pre_constrained hc.tg hl ht htgt hpre x h1
            rw [exm_of_constrained this] at hxx; cases hxx
          · have hxe : x = e := by simpa using h1
            have := hadj.lk p x hxP
            rw [hxe, hpe] at this; cases this
      | before e' p' b' hip hpe hem hb =>
        have heq : e = e' := by injection hip
        rw [← heq] at hb
        -- x precedes the table among its siblings
        have hbfc : Before (s.dom.childrenOf P) x e := by
          rw [hP, hb]
          obtain ⟨a1, a2, ha⟩ := List.append_of_mem hxa
          rw [ha]
          have : a1 ++ x :: a2 ++ e :: b' = a1 ++ ([x] ++ (a2 ++ ([e] ++ b'))) := by simp
          rw [this]
          exact (List.Sublist.append (List.Sublist.refl [x])
            ((List.sublist_append_left [e] b').trans (List.sublist_append_right a2 _))).trans
            (List.sublist_append_right a1 _)
        have hbf := hadj.tb P x e hbfc hxO heO hxx hn
        have hxpre := mem_pre_of_before hc.nodup hl hbf
        have := pre_constrained hc.tg hl ht htgt hpre x hxpre
        rw [exm_of_constrained this] at hxx; cases hxx
    | bottom hh _ hall =>
      obtain ⟨y, hy, hyn⟩ := tg_foster_witness hc.tg (by rw [hc.stack]; simp) (by rw [hc.stack]; simp [hc.root_name])
        htO htgt
      have := hall y (List.mem_reverse.mpr hy)
      rw [hyn] at this; cases this

/-- `insert_element`, decomposed: place, (queries), create, (query), insert, push -/
theorem insertElement_run {s s' : State} {pushIt : Bool} {ns name : Str} {attrs : List Attr} {dup : Bool} {el : Id}
    (e : insertElement pushIt ns name attrs dup s = .ok (el, s')) :
    ∃ ip s1 s2 s3 s4 s5, appropriatePlaceForInsertion none s = .ok (ip, s1) ∧ QS s1 s2 ∧
      createElementWithFlags { ns := ns, loc := name } attrs dup s2 = .ok (el, s3) ∧ QS s3 s4 ∧
      H5V.Model.HtmlTB.insertAt ip (.node el) s4 = .ok ((), s5) ∧
      s' = (if pushIt then { s5 with openElems := s5.openElems ++ [el] } else s5) := by
  unfold insertElement at e
  obtain ⟨ip, s1, e1, e2⟩ := bind_ok.mp e
  have key : ∀ (fia : Bool) (s2 : State), QS s1 s2 →
      (do
        let elem ← createElementWithFlags { ns := ns, loc := name } attrs dup
        have __do_jp : Unit → M Id := fun __r => do
          H5V.Model.HtmlTB.insertAt ip (NodeOrText.node elem)
          have __do_jp : Unit → M Id := fun __r => pure elem
          if pushIt = true then do
              let __r ← push elem
              __do_jp __r
            else __do_jp ()
        if fia = true then do
            let __do_lift ← getS
            match __do_lift.formElem with
              | some form => do
                let __r ← sinkUnit (SinkOp.associateWithForm elem form ip.nodes.1 ip.nodes.2)
                __do_jp __r
              | none => do
                let __r ← panicAt "unwrap-none" "mod.rs:1401" "form_elem unwrap"
                __do_jp __r
          else __do_jp ()) s2 = .ok (el, s') →
      ∃ s3 s4 s5, createElementWithFlags { ns := ns, loc := name } attrs dup s2 = .ok (el, s3) ∧ QS s3 s4 ∧
        H5V.Model.HtmlTB.insertAt ip (.node el) s4 = .ok ((), s5) ∧
        s' = (if pushIt then { s5 with openElems := s5.openElems ++ [el] } else s5) := by
    intro fia s2 q2 e3
    obtain ⟨el', s3, e4, e5⟩ := bind_ok.mp e3
    have key2 : ∀ (s4 : State), QS s3 s4 →
        (do
          H5V.Model.HtmlTB.insertAt ip (NodeOrText.node el')
          have __do_jp : Unit → M Id := fun __r => pure el'
          if pushIt = true then do
              let __r ← push el'
              __do_jp __r
            else __do_jp ()) s4 = .ok (el, s') →
        el' = el ∧ ∃ s5, H5V.Model.HtmlTB.insertAt ip (.node el') s4 = .ok ((), s5) ∧
          s' = (if pushIt then { s5 with openElems := s5.openElems ++ [el'] } else s5) := by
      intro s4 q4 e6
      obtain ⟨u, s5, e7, e8⟩ := bind_ok.mp e6
      by_cases hp : pushIt = true
      · simp only [hp, if_true] at e8
        obtain ⟨u2, s6, e9, e10⟩ := bind_ok.mp e8
        obtain ⟨rfl, rfl⟩ := pure_ok.mp e10
        unfold push at e9
        exact ⟨rfl, s5, e7, by rw [modS_ok.mp e9]; simp [hp]⟩
      · simp only [hp] at e8
        obtain ⟨rfl, rfl⟩ := pure_ok.mp e8
        exact ⟨rfl, s5, e7, by simp [hp]⟩
    by_cases hf : fia = true
    · simp only [hf, if_true] at e5
      rw [getS_bind] at e5
      cases hform : s3.formElem with
      | none =>
        simp only [hform] at e5
        obtain ⟨_, _, e6, _⟩ := bind_ok.mp e5
        exact absurd e6 panicAt_ok
      | some form =>
        simp only [hform] at e5
        obtain ⟨u, s4, e6, e7⟩ := bind_ok.mp e5
        obtain ⟨rfl, s5, h1, h2⟩ := key2 s4 (qs_sinkUnit e6) e7
        exact ⟨s3, s4, s5, e4, qs_sinkUnit e6, h1, h2⟩
    · simp only [hf] at e5
      obtain ⟨rfl, s5, h1, h2⟩ := key2 s3 (QS.refl _) e5
      exact ⟨s3, s3, s5, e4, QS.refl _, h1, h2⟩
  simp only at e2
  rw [getS_bind] at e2
  by_cases hc : (formAssociatable { ns := ns, loc := name } && s1.formElem.isSome) = true
  · simp only [hc, if_true] at e2
    obtain ⟨b, s2, e3, e4⟩ := bind_ok.mp e2
    have q2 : QS s1 s2 := IsQ.q _ _ _ e3
    by_cases hb : b = true
    · simp only [hb, if_true] at e4
      obtain ⟨fia, s2', e5, e6⟩ := bind_ok.mp e4
      obtain ⟨rfl, rfl⟩ := pure_ok.mp e5
      obtain ⟨s3, s4, s5, h1, h2, h3, h4⟩ := key _ _ q2 e6
      exact ⟨ip, s1, s2, s3, s4, s5, e1, q2, h1, h2, h3, h4⟩
    · simp only [hb] at e4
      obtain ⟨fia, s2', e5, e6⟩ := bind_ok.mp e4
      obtain ⟨rfl, rfl⟩ := pure_ok.mp e5
      obtain ⟨s3, s4, s5, h1, h2, h3, h4⟩ := key _ _ q2 e6
      exact ⟨ip, s1, s2, s3, s4, s5, e1, q2, h1, h2, h3, h4⟩
  · simp only [hc] at e2
    obtain ⟨fia, s2', e5, e6⟩ := bind_ok.mp e2
    obtain ⟨rfl, rfl⟩ := pure_ok.mp e5
    obtain ⟨s3, s4, s5, h1, h2, h3, h4⟩ := key _ _ (QS.refl _) e6
    exact ⟨ip, s1, s1, s3, s4, s5, e1, QS.refl _, h1, h2, h3, h4⟩

/-- everything but the arena and the trace is unchanged -/
def DomOnly (s s' : State) : Prop := s' = { s with dom := s'.dom, traceRev := s'.traceRev }

theorem createElement_core {s s3 : State} {r : Id} {up : List Id} {ph : Phase} {name : QualName} {attrs : List Attr}
    {dup : Bool} {el : Id} (h : Core s r up ph) (e : createElementWithFlags name attrs dup s = .ok (el, s3)) :
    Core s3 r up ph ∧ DomOnly s s3 ∧ Chg s.dom s3.dom ∧ s.dom.size ≤ el ∧ s3.dom.isElement el = true ∧
      nm s3.dom el = ⟨name.ns, name.loc⟩ ∧ (∀ q, el ∉ s3.dom.childrenOf q) := by
  obtain ⟨hl3, _, _, _, hdo⟩ := createElementWithFlags_spec h.late e
  obtain ⟨f1, hb1, hc1, hk1, hfresh, hvalid, tc, ip, hdata⟩ := createElementWithFlags_any h.late.base e
  have hrs : RS r s.dom s3.dom := by
    unfold createElementWithFlags at e
    obtain ⟨hd1, _⟩ := sink_dom (sinkNode_ok.mp e)
    obtain ⟨hdom1, _⟩ := apply_createElement hd1
    rw [hdom1]
    exact rs_createElement r h.late.base _ _ _
  have hr := hdo
  refine ⟨h.transfer hl3 hc1 hrs (by rw [hk1]; exact h.rdoc) ?_ ?_ ?_ ?_ ?_ (createElement_adj h.late h.adj e).1,
    hdo, hc1, hfresh, ?_, ?_, ?_⟩
  · rw [hr]
  · rw [hr]
  · rw [hr]
  · rw [hr]
  · rw [hr]
  · unfold Dom.isElement; rw [hdata]
  · unfold nm; rw [hdata]
  · intro q hq
    rw [hk1] at hq
    exact Nat.lt_irrefl _ (Nat.lt_of_lt_of_le (h.late.base.kidsValid q el hq) hfresh)

/-- `insert_at` at a place that is not below the root -/
theorem insertAt_rs {s s' : State} {r : Id} {ip : InsertionPoint} {child : NodeOrText} {u : Unit}
    (hb : DomBase s.dom) (hu : RTU r s.dom) (hip : IpR r s.dom ip)
    (hch : match child with | .node c => c ∉ s.dom.childrenOf r ∧ (∀ p, ip.nodes.1 = p ∨ ip.nodes.2 = some p → p ≠ c) | .text _ => True)
    (e : H5V.Model.HtmlTB.insertAt ip child s = .ok (u, s')) : RS r s.dom s'.dom := by
  cases ip with
  | beforeSibling _ => exact absurd hip id
  | lastChild p =>
    unfold H5V.Model.HtmlTB.insertAt at e
    obtain ⟨out, hd, _⟩ := sinkUnit_dom e
    have ha := apply_append hd
    cases child with
    | node c => exact rs_append_node hb hip (hch.2 p (Or.inl rfl)) hch.1 ha
    | text t => exact rs_append_text hb hu hip ha
  | tableFosterParenting el p =>
    unfold H5V.Model.HtmlTB.insertAt at e
    obtain ⟨out, hd, _⟩ := sinkUnit_dom e
    have ha := apply_abopn hd
    cases child with
    | node c => exact rs_abopn (ch := .node c) hb hu hip.1 hip.2 hch.1 (fun c' hc' => by cases hc'; exact hch.2 p (Or.inr rfl)) ha
    | text t => exact rs_abopn (ch := .text t) hb hu hip.1 hip.2 trivial (fun c' hc' => by cases hc') ha

theorem constrained_of_keepName_false {n : EName} (h : keepName n = false) : constrained n = false := by
  cases hc : constrained n with
  | false => rfl
  | true => rw [keepName_constrained hc] at h; cases h

theorem not_in_of_keepName_false {n : EName} {l : List String} (h : keepName n = false)
    (hl : ∀ a ∈ l, keepName (hN a) = true) : htmlIn n l = false := by
  cases hc : htmlIn n l with
  | false => rfl
  | true => rw [keepName_of_htmlIn hc hl] at h; cases h

/-- may an element named `n` be pushed on top of the stack `l`: the table grammar allows it, and it
is none of `html body head frameset` -/
def PushOk (s : State) (n : EName) : Prop :=
  (∀ t, s.openElems.getLast? = some t → predOk n (nm s.dom t) = true) ∧
    htmlIn n ["html", "body", "head", "frameset"] = false ∧
    (n = hN "template" → tcount s.dom s.openElems + 1 ≤ s.templateModes.length)

theorem PushOk.of_plain {s : State} {n : EName} (hk : keepName n = false) : PushOk s n :=
  ⟨fun t _ => predOk_of_not_constrained (constrained_of_keepName_false hk), not_in_of_keepName_false hk (by simp [lit_name]),
   fun h => by rw [h, keepName_template] at hk; cases hk⟩

/-- pushing a fresh, loose element -/
theorem Core.pushG {s : State} {r : Id} {up : List Id} {ph : Phase} (h : Core s r up ph) {x : Id}
    (hx : Loose s.dom x) (hfresh : x ∉ s.openElems) (hk : PushOk s (nm s.dom x))
    (hadj : AdjD s.dom (s.openElems ++ [x])) :
    Core { s with openElems := s.openElems ++ [x] } r (up ++ [x]) ph := by
  refine ⟨h.late.push hx, by show s.openElems ++ [x] = _; rw [h.stack]; rfl, h.rdoc, ?_, ?_, h.afn, ?_, h.tmm, h.form,
    h.rtu, h.rnd, h.kids, h.elems, ?_, h.afx, hadj⟩
  · show (s.openElems ++ [x]).Nodup
    rw [List.nodup_append]
    exact ⟨h.nodup, by simp, by intro a ha b hb; simp at hb; subst hb; rintro rfl; exact hfresh ha⟩
  · show TG (nm s.dom) (s.openElems ++ [x])
    exact h.tg.snoc hk.1
  · show tcount s.dom (s.openElems ++ [x]) ≤ _
    unfold tcount
    rw [List.countP_append]
    cases hcn : (nm s.dom x == hN "template") with
    | false =>
      have : List.countP (fun x => nm s.dom x == hN "template") [x] = 0 := by simp [hcn]
      rw [this]; exact h.tc
    | true =>
      have : List.countP (fun x => nm s.dom x == hN "template") [x] = 1 := by simp [hcn]
      rw [this]
      exact hk.2.2 (beq_iff_eq.mp hcn)
  · intro y hy
    cases hup : up with
    | nil => rw [hup] at hy; simp at hy
    | cons a t =>
      rw [hup] at hy
      simp only [List.cons_append, List.tail_cons, List.mem_append, List.mem_singleton] at hy
      rcases hy with hy | rfl
      · exact h.bh y (by rw [hup]; exact hy)
      · exact bh_of4 hk.2.1

theorem Core.push {s : State} {r : Id} {up : List Id} {ph : Phase} (h : Core s r up ph) {x : Id}
    (hx : Loose s.dom x) (hfresh : x ∉ s.openElems) (hk : keepName (nm s.dom x) = false)
    (hadj : AdjD s.dom (s.openElems ++ [x])) :
    Core { s with openElems := s.openElems ++ [x] } r (up ++ [x]) ph :=
  h.pushG hx hfresh (PushOk.of_plain hk) hadj

theorem BodyBase.snoc {d : Dom} {head : Option Id} {up : List Id} {ph : Phase} (h : BodyBase d head up ph) {x : Id}
    (hx : ∀ hh, head = some hh → x ≠ hh) : BodyBase d head (up ++ [x]) ph := by
  rcases h with ⟨b, u, h1, h2, h3⟩ | ⟨hh, t, u, h0, h1, h2, h3⟩ | ⟨t, u, h1, h2, h3, h4⟩
  · refine Or.inl ⟨b, u ++ [x], by rw [h1]; rfl, h2, fun y hy hm => ?_⟩
    rcases List.mem_append.mp hm with hm | hm
    · exact h3 y hy hm
    · simp at hm; exact hx y hy hm.symm
  · exact Or.inr (Or.inl ⟨hh, t, u ++ [x], h0, by rw [h1]; rfl, h2, h3⟩)
  · refine Or.inr (Or.inr ⟨t, u ++ [x], by rw [h1]; rfl, h2, h3, fun y hy hm => ?_⟩)
    rcases List.mem_append.mp hm with hm | hm
    · exact h4 y hy hm
    · simp at hm; exact hx y hy hm.symm

theorem Need.mono {d : Dom} {m : Mode} {up up' : List Id} (h : Need d m up) (hs : ∀ x ∈ up, x ∈ up') : Need d m up' := by
  cases m <;> try exact h
  all_goals
    obtain ⟨x, hx, hh⟩ := h
    exact ⟨x, hs x hx, hh⟩

/-- the arena changed without touching the root, the stack is unchanged -/
theorem Big.dom {m : Mode} {r : Id} {ph : Phase} {s s' : State} (h : Big m r ph s) (hl : Late s')
    (hdo : DomOnly s s') (hc : Chg s.dom s'.dom) (hrs : RS r s.dom s'.dom)
    (hk0 : s'.dom.childrenOf 0 = s.dom.childrenOf 0) (hadj : AdjD s'.dom s'.openElems) : Big m r ph s' := by
  obtain ⟨up, hcore, hbb, hneed, hfp⟩ := h
  have hr := hdo
  have hcore' : Core s' r up ph := hcore.transfer hl hc hrs (by rw [hk0]; exact hcore.rdoc)
    (by rw [hr]) (by rw [hr]) (by rw [hr]) (by rw [hr]) (by rw [hr]) hadj
  have hsn := hcore.sameNames hc
  have hhead : s'.headElem = s.headElem := by rw [hr]
  have hfl : s'.fosterParenting = s.fosterParenting := by rw [hr]
  refine ⟨up, hcore', by rw [hhead]; exact hbb.congr hsn, hneed.congr hsn, ?_⟩
  intro hf
  rw [hfl] at hf
  obtain ⟨x, hx, hh⟩ := hfp hf
  exact ⟨x, hx, by rw [hsn x hx]; exact hh⟩

theorem Big.current {m : Mode} {r : Id} {ph : Phase} {s : State} (h : Big m r ph s) {t : Id}
    (hl : s.openElems.getLast? = some t) : t ∈ s.openElems ∧ t ≠ r := by
  obtain ⟨up, hc, hbb, _, _⟩ := h
  refine ⟨mem_of_getLast?' hl, ?_⟩
  have hne := hbb.ne_nil
  rw [hc.stack] at hl
  have : t ∈ up := by
    rcases nil_or_concat up with rfl | ⟨u0, z, rfl⟩
    · exact absurd rfl hne
    · have : (r :: (u0 ++ [z])).getLast? = some z := by
        rw [show r :: (u0 ++ [z]) = (r :: u0) ++ [z] from rfl, List.getLast?_append]
        simp
      rw [this] at hl; cases hl; simp
  exact hc.up_ne_root this

theorem Big.rtu {m : Mode} {r : Id} {ph : Phase} {s : State} (h : Big m r ph s) : RTU r s.dom := by
  obtain ⟨_, hc, _⟩ := h; exact hc.rtu

theorem Big.late {m : Mode} {r : Id} {ph : Phase} {s : State} (h : Big m r ph s) : Late s := by
  obtain ⟨_, hc, _⟩ := h; exact hc.late

theorem IpR.rs {r : Id} {d d' : Dom} {ip : InsertionPoint} (h : IpR r d ip) (hrs : RS r d d') : IpR r d' ip := by
  cases ip with
  | lastChild p => exact h
  | beforeSibling _ => exact h
  | tableFosterParenting e p => exact ⟨by rw [hrs.kids]; exact h.1, h.2⟩

theorem IpOk.nodes_lt {d : Dom} {ip : InsertionPoint} (h : IpOk d ip) :
    ∀ p, ip.nodes.1 = p ∨ ip.nodes.2 = some p → p < d.size := by
  cases ip with
  | lastChild q =>
    intro p hp
    simp only [InsertionPoint.nodes] at hp
    rcases hp with rfl | hp
    · exact lt_of_isContainer h.2
    · cases hp
  | beforeSibling _ => exact absurd h id
  | tableFosterParenting e q =>
    intro p hp
    simp only [InsertionPoint.nodes, Option.some.injEq] at hp
    rcases hp with rfl | rfl
    · exact lt_of_isElement h.1
    · exact lt_of_isElement h.2.2

/-- `insert_element` with a disposable name, in a body-like mode -/
theorem insertElement_gen {m : Mode} {r : Id} {ph : Phase} {s s' : State} {pushIt : Bool} {ns name : Str}
    {attrs : List Attr} {dup : Bool} {el : Id} (h : Big m r ph s)
    (hk : pushIt = true → PushOk s ⟨ns, name⟩)
    (e : insertElement pushIt ns name attrs dup s = .ok (el, s')) :
    Big m r ph s' ∧ s'.mode = s.mode ∧ s'.origMode = s.origMode ∧ nm s'.dom el = ⟨ns, name⟩ ∧
      s'.dom.isElement el = true ∧ s.dom.size ≤ el ∧
      s'.openElems = (if pushIt then s.openElems ++ [el] else s.openElems) ∧
      s'.activeFormatting = s.activeFormatting ∧ s'.formElem = s.formElem := by
  obtain ⟨ip, s1, s2, s3, s4, s5, e1, q12, e3, q34, e5, hs'⟩ := insertElement_run e
  -- the place
  obtain ⟨q1, t, ht, hares⟩ := apfi_sem e1
  obtain ⟨_, _, hipok1⟩ := apfi_spec h.late e1
  simp only at ht
  have hipr : IpR r s.dom ip := h.ipR (h.current ht) hares
  have hb1 : Big m r ph s2 := (h.qs q1).qs q12
  have q02 : QS s s2 := q1.trans q12
  have hipr2 : IpR r s2.dom ip := hipr.rs (RS.of_nodes q02.nodes)
  have hipok2 : IpOk s2.dom ip := hipok1.ext (SameSk.of_nodes q12.nodes).ext
  -- the new element
  obtain ⟨up, hc2, hbb2, hneed2, hfp2⟩ := hb1
  obtain ⟨hc3, hdo3, hchg3, hfresh3, hel3, hnm3, hnol3⟩ := createElement_core hc2 e3
  have hb3 : Big m r ph s3 := by
    have hsn := hc2.sameNames hchg3
    have hr := hdo3
    refine ⟨up, hc3, ?_, hneed2.congr hsn, ?_⟩
    · have : s3.headElem = s2.headElem := by rw [hr]
      rw [this]; exact hbb2.congr hsn
    · intro hf
      have : s3.fosterParenting = s2.fosterParenting := by rw [hr]
      rw [this] at hf
      obtain ⟨x, hx, hh⟩ := hfp2 hf
      exact ⟨x, hx, by rw [hsn x hx]; exact hh⟩
  have hb4 : Big m r ph s4 := hb3.qs q34
  have hrs23 : RS r s2.dom s3.dom := by
    unfold createElementWithFlags at e3
    obtain ⟨hd1, _⟩ := sink_dom (sinkNode_ok.mp e3)
    obtain ⟨hdom1, _⟩ := apply_createElement hd1
    rw [hdom1]
    exact rs_createElement r hc2.late.base _ _ _
  have hrs24 : RS r s2.dom s4.dom := hrs23.trans (RS.of_nodes q34.nodes)
  have hext24 : Ext s2.dom s4.dom := by
    obtain ⟨_, x, _⟩ := createElementWithFlags_spec hc2.late e3
    exact x.trans (SameSk.of_nodes q34.nodes).ext
  have hipr4 : IpR r s4.dom ip := hipr2.rs hrs24
  have hipok4 : IpOk s4.dom ip := hipok2.ext hext24
  have hnol4 : ∀ q, el ∉ s4.dom.childrenOf q := fun q => by rw [childrenOf_of_nodes q34.nodes]; exact hnol3 q
  have hel4 : s4.dom.isElement el = true := by rw [isElement_of_nodes q34.nodes]; exact hel3
  have hloose4 : Loose s4.dom el := ⟨hel4, hnol4 0⟩
  -- the insertion
  obtain ⟨hl5, hext5, hk05, hdo5⟩ := insertAt_spec (child := .node el) hb4.late hipok4 hloose4.childOk e5
  have hrs45 : RS r s4.dom s5.dom := by
    refine insertAt_rs (child := .node el) hb4.late.base hb4.rtu hipr4 ⟨hnol4 r, ?_⟩ e5
    intro p hp
    have := hipok2.nodes_lt p hp
    exact Nat.ne_of_lt (Nat.lt_of_lt_of_le this hfresh3)
  have hcand : ∀ p, ip.nodes.1 = p ∨ ip.nodes.2 = some p → p ≠ el := fun p hp =>
    Nat.ne_of_lt (Nat.lt_of_lt_of_le (hipok2.nodes_lt p hp) hfresh3)
  obtain ⟨_, hpar3, hkids3, htxt3, htc3, _, hch3, hpo3, hda3⟩ := createElement_adj hc2.late hc2.adj e3
  have hst4 : s4.openElems = s.openElems := by
    rw [q34.openElems, hdo3]; show s2.openElems = _; exact q02.openElems
  have hsz2 : s2.dom.size = s.dom.size := by simp [Dom.size, q02.nodes]
  have hel_nO : el ∉ s4.openElems := by
    rw [hst4]
    intro hm
    exact Nat.lt_irrefl _ (Nat.lt_of_lt_of_le (lt_of_isElement (h.late.st.oe el hm)) (by rw [← hsz2]; exact hfresh3))
  have hch4 : ∀ x, s4.dom.childrenOf x = s.dom.childrenOf x := fun x => by
    rw [childrenOf_of_nodes q34.nodes, hch3, childrenOf_of_nodes q02.nodes]
  obtain ⟨hadj5, hadj5p⟩ := insertAt_new_adj (el := el) hb4.late hipok4
    (by obtain ⟨_, hc4, _⟩ := id hb4; exact hc4.adj) hel_nO
    (by rw [parentOf_of_nodes q34.nodes]; exact hpar3)
    (by rw [isText_of_data (d := s3.dom) (by unfold Dom.dataOf; rw [q34.nodes])]; exact htxt3)
    (by rw [childrenOf_of_nodes q34.nodes]; exact hkids3)
    (fun tc htc => by
      rw [tc_of_nodes q34.nodes] at htc
      obtain ⟨h1, h2⟩ := htc3 tc htc
      refine ⟨by rw [childrenOf_of_nodes q34.nodes]; exact h1, fun p hp => ?_⟩
      exact Nat.ne_of_lt (Nat.lt_of_lt_of_le (hipok2.nodes_lt p hp) h2))
    hcand
    (fun P a b x hP hpos hxa hxO hxx => by
      refine h.no_open_before ht hares P a b x (by rw [← hch4]; exact hP) ?_ hxa (by rw [← hst4]; exact hxO) ?_
      · refine hpos.congr (fun y => (hch4 y).symm) (fun p hp => ?_)
        have hlt := hipok2.nodes_lt p hp
        rw [parentOf_of_nodes q34.nodes, hpo3 p hlt, parentOf_of_nodes q02.nodes]
      · have hxO' : x ∈ s.openElems := by rw [← hst4]; exact hxO
        have hlt : x < s2.dom.size := by rw [hsz2]; exact lt_of_isElement (h.late.st.oe x hxO')
        have : nm s4.dom x = nm s.dom x := by
          rw [nm_of_nodes q34.nodes, nm_of_data (hda3 x hlt), nm_of_nodes q02.nodes]
        rw [← this]; exact hxx)
    e5
  have hb5 : Big m r ph s5 := hb4.dom hl5 hdo5 hext5.chg hrs45 hk05 (by
    have : s5.openElems = s4.openElems := by rw [hdo5]
    rw [this]; exact hadj5)
  have hnm5 : nm s5.dom el = ⟨ns, name⟩ := by
    rw [nm_chg hext5.chg hel4, nm_of_nodes q34.nodes]; exact hnm3
  have hel5 : s5.dom.isElement el = true := hext5.chg.isElement hel4
  have hst5 : s5.openElems = s.openElems := by
    rw [hdo5]; show s4.openElems = _; rw [q34.openElems, hdo3]; show s2.openElems = _; exact q02.openElems
  have hsz : s.dom.size ≤ el := by
    have : s2.dom.size = s.dom.size := by simp [Dom.size, q02.nodes]
    rw [← this]; exact hfresh3
  have hmode5 : s5.mode = s.mode ∧ s5.origMode = s.origMode ∧ s5.activeFormatting = s.activeFormatting ∧
      s5.formElem = s.formElem := by
    have h5 := hdo5; have h3 := hdo3; have h34 := q34.rest; have h02 := q02.rest
    refine ⟨?_, ?_, ?_, ?_⟩ <;> (rw [h5, h34, h3, h02])
  by_cases hp : pushIt = true
  · simp only [hp, if_true] at hs' ⊢
    subst hs'
    obtain ⟨up5, hc5, hbb5, hneed5, hfp5⟩ := hb5
    have hfr : el ∉ s5.openElems := by
      rw [hst5]
      intro hm
      exact Nat.lt_irrefl _ (Nat.lt_of_lt_of_le (lt_of_isElement (h.late.st.oe el hm)) hsz)
    have hloose5 : Loose s5.dom el := ⟨hel5, by rw [hk05]; exact hnol4 0⟩
    have hchg05 : Chg s.dom s5.dom :=
      ((SameSk.of_nodes q02.nodes).chg.trans hchg3).trans ((SameSk.of_nodes q34.nodes).chg.trans hext5.chg)
    have hpk : PushOk s5 (nm s5.dom el) := by
      obtain ⟨hk1, hk2, hk3⟩ := hk hp
      rw [hnm5]
      refine ⟨fun t ht => ?_, hk2, fun hn => ?_⟩
      · rw [hst5] at ht
        rw [nm_chg hchg05 (h.late.st.oe t (mem_of_getLast?' ht))]
        exact hk1 t ht
      · have htm5 : s5.templateModes = s.templateModes := by
          have h5 := hdo5; have h3 := hdo3; have h34 := q34.rest; have h02 := q02.rest
          rw [h5, h34, h3, h02]
        rw [hst5, htm5, tcount_congr (SameNames.of_chg hchg05 h.late.st.oe)]
        exact hk3 hn
    have hcp := hc5.pushG hloose5 hfr hpk (by
      have : s5.openElems = s4.openElems := by rw [hdo5]
      rw [this]; exact hadj5p)
    refine ⟨⟨up5 ++ [el], hcp, ?_, hneed5.mono (fun x hx => List.mem_append_left _ hx), ?_⟩, hmode5.1, hmode5.2.1,
      hnm5, hel5, hsz, by show s5.openElems ++ [el] = _; rw [hst5], hmode5.2.2.1, hmode5.2.2.2⟩
    · refine hbb5.snoc (fun hh hhe => ?_)
      rintro rfl
      -- the head pointer is an old element
      have : s5.headElem = s.headElem := by
        have h5 := hdo5; have h3 := hdo3; have h34 := q34.rest; have h02 := q02.rest
        rw [h5, h34, h3, h02]
      have hhe' : s.headElem = some el := by rw [← this]; exact hhe
      exact Nat.lt_irrefl _ (Nat.lt_of_lt_of_le (lt_of_isElement (h.late.st.head el hhe').1) hsz)
    · intro hf
      obtain ⟨x, hx, hh⟩ := hfp5 hf
      exact ⟨x, List.mem_append_left _ hx, hh⟩
  · simp only [hp] at hs' ⊢
    subst hs'
    exact ⟨hb5, hmode5.1, hmode5.2.1, hnm5, hel5, hsz, hst5, hmode5.2.2.1, hmode5.2.2.2⟩

/-- `insert_element` with a disposable name, in a body-like mode -/
theorem insertElement_big {m : Mode} {r : Id} {ph : Phase} {s s' : State} {pushIt : Bool} {ns name : Str}
    {attrs : List Attr} {dup : Bool} {el : Id} (h : Big m r ph s) (hk : keepName ⟨ns, name⟩ = false)
    (e : insertElement pushIt ns name attrs dup s = .ok (el, s')) :
    Big m r ph s' ∧ s'.mode = s.mode ∧ s'.origMode = s.origMode ∧ nm s'.dom el = ⟨ns, name⟩ ∧
      s'.dom.isElement el = true ∧ s.dom.size ≤ el ∧
      s'.openElems = (if pushIt then s.openElems ++ [el] else s.openElems) ∧
      s'.activeFormatting = s.activeFormatting ∧ s'.formElem = s.formElem :=
  insertElement_gen h (fun _ => PushOk.of_plain hk) e

instance (pushIt : Bool) (name : Str) (attrs : List Attr) (dup : Bool) [hk : PlainStr name] :
    PB (insertElement pushIt nsHtml name attrs dup) :=
  ⟨fun m r ph s a s' hb e => by
    obtain ⟨h1, h2, h3, _⟩ := insertElement_big hb hk.h e
    exact ⟨h1, h2, h3⟩⟩

theorem keepName_foreign {ns name : Str} (h : (ns == nsHtml) = false) : keepName ⟨ns, name⟩ = false := by
  unfold keepName isStruct htmlIn
  simp [h]

instance (tag : Tag) [PlainStr tag.name] : PB (insertElementFor tag) := by unfold insertElementFor; infer_instance
instance (tag : Tag) [PlainStr tag.name] : PB (insertAndPopElementFor tag) := by unfold insertAndPopElementFor; infer_instance
instance (n : String) [PlainStr n.toList] : PB (insertPhantom n) := by unfold insertPhantom; infer_instance

/-- `insert_appropriately` of text, or of a node that is in no child list yet -/
theorem insertAppropriately_big {m : Mode} {r : Id} {ph : Phase} {s s' : State} {child : NodeOrText}
    {u : Unit} (h : Big m r ph s)
    (hch : match child with
      | .node c => (∀ q, c ∉ s.dom.childrenOf q) ∧ (∀ x, x < s.dom.size → s.dom.isContainer x = true → x ≠ c) ∧
          (s.dom.isElement c = true ∨ ∃ t, s.dom.dataOf c = some (.comment t)) ∧ s.dom.parentOf c = none ∧
          c ∉ s.openElems
      | .text t => t ≠ [])
    (e : insertAppropriately child none s = .ok (u, s')) :
    Big m r ph s' ∧ DomOnly s s' ∧ Chg s.dom s'.dom := by
  unfold insertAppropriately at e
  obtain ⟨ip, s1, e1, e2⟩ := bind_ok.mp e
  obtain ⟨q1, t, ht, hares⟩ := apfi_sem e1
  obtain ⟨_, _, hipok1⟩ := apfi_spec h.late e1
  simp only at ht
  have htr : t ∈ s.openElems ∧ t ≠ r := h.current ht
  have hipr : IpR r s.dom ip := h.ipR htr hares
  have hb1 : Big m r ph s1 := h.qs q1
  have hipr1 : IpR r s1.dom ip := hipr.rs (RS.of_nodes q1.nodes)
  have hk : ∀ x, s1.dom.childrenOf x = s.dom.childrenOf x := childrenOf_of_nodes q1.nodes
  have hsz : s1.dom.size = s.dom.size := by simp [Dom.size, q1.nodes]
  have hch1 : ChildOk s1.dom child := by
    cases child with
    | node c =>
      obtain ⟨h1, _, h3, _⟩ := hch
      refine ⟨by rw [hk]; exact h1 0, ?_⟩
      have hd : s1.dom.dataOf c = s.dom.dataOf c := by unfold Dom.dataOf; rw [q1.nodes]
      rw [hd]
      rcases h3 with h3 | ⟨t', h3⟩
      · exact not_doc_of_isElement h3
      · rw [h3]; simp
    | text t' => exact hch
  have hcont : ∀ p, ip.nodes.1 = p ∨ ip.nodes.2 = some p → s.dom.isContainer p = true := by
    intro p hp
    cases ip with
    | lastChild q =>
      simp only [InsertionPoint.nodes] at hp
      rcases hp with rfl | hp
      · have := hipok1.2; unfold Dom.isContainer Dom.dataOf at this ⊢; rw [← q1.nodes]; exact this
      · cases hp
    | beforeSibling _ => exact absurd hipok1 id
    | tableFosterParenting e' q =>
      simp only [InsertionPoint.nodes, Option.some.injEq] at hp
      have he := hipok1.1; have hq := hipok1.2.2
      rw [isElement_of_nodes q1.nodes] at he hq
      rcases hp with rfl | rfl
      · exact isContainer_of_isElement he
      · exact isContainer_of_isElement hq
  obtain ⟨hl2, hext2, hk02, hdo2⟩ := insertAt_spec hb1.late hipok1 hch1 e2
  have hrs : RS r s1.dom s'.dom := by
    refine insertAt_rs hb1.late.base hb1.rtu hipr1 ?_ e2
    cases child with
    | node c =>
      obtain ⟨h1, h2, _⟩ := hch
      exact ⟨by rw [hk]; exact h1 r, fun p hp => h2 p (hsz ▸ hipok1.nodes_lt p hp) (hcont p hp)⟩
    | text t' => trivial
  have hadj1 : AdjD s1.dom s1.openElems := by obtain ⟨_, hc1, _⟩ := id hb1; exact hc1.adj
  have hno : ∀ P a b x, s1.dom.childrenOf P = a ++ b → NodePos s1.dom ip P b → x ∈ a → x ∈ s1.openElems →
      exm (nm s1.dom x) = false → False := fun P a b x hP hpos hxa hxO hxx =>
    h.no_open_before ht hares P a b x (by rw [← hk]; exact hP)
      (hpos.congr (fun y => (hk y).symm) (fun p _ => (parentOf_of_nodes q1.nodes p).symm)) hxa
      (by rw [← q1.openElems]; exact hxO) (by rw [← q1.nm]; exact hxx)
  have hadj' : AdjD s'.dom s'.openElems := by
    have hst : s'.openElems = s1.openElems := by rw [hdo2]
    rw [hst]
    cases child with
    | text t' =>
      refine insertAt_text_adj hb1.late hipok1 hadj1 hb1.late.st.oe (fun x hpx hxO hxx => ?_) e2
      obtain ⟨P, a, b, hP, hpos, hxa⟩ := hpx.pos
      exact hno P a b x hP hpos hxa hxO hxx
    | node c =>
      obtain ⟨_, h2, h3, h4, h5⟩ := hch
      have hd : s1.dom.dataOf c = s.dom.dataOf c := by unfold Dom.dataOf; rw [q1.nodes]
      refine (insertAt_node_adj hb1.late hipok1 hadj1 (by rw [q1.openElems]; exact h5)
        (by rw [parentOf_of_nodes q1.nodes]; exact h4) ?_ ?_ e2).1
      · rw [isText_of_data hd]
        rcases h3 with h3 | ⟨t', h3⟩
        · exact isText_false_of_isElement h3
        · unfold Dom.isText; rw [h3]
      · exact fun p hp => h2 p (hsz ▸ hipok1.nodes_lt p hp) (hcont p hp)
  have hb' : Big m r ph s' := hb1.dom hl2 hdo2 hext2.chg hrs hk02 hadj'
  refine ⟨hb', ?_, (SameSk.of_nodes q1.nodes).chg.trans hext2.chg⟩
  have h1 := q1.rest
  show s' = { s with dom := s'.dom, traceRev := s'.traceRev }
  rw [hdo2, h1]

instance (text : Str) [hne : NE text] : PB (appendText text) :=
  ⟨fun m r ph s a s' hb e => by
    unfold appendText at e
    obtain ⟨u, s1, e1, e2⟩ := bind_ok.mp e
    obtain ⟨_, rfl⟩ := pure_ok.mp e2
    obtain ⟨h1, hdo, _⟩ := insertAppropriately_big (child := .text text) hb hne.h e1
    exact ⟨h1, by rw [hdo], by rw [hdo]⟩⟩

instance (text : Str) : PB (appendComment text) :=
  ⟨fun m r ph s a s' hb e => by
    unfold appendComment at e
    obtain ⟨c, s1, e1, e2⟩ := bind_ok.mp e
    obtain ⟨u, s2, e3, e4⟩ := bind_ok.mp e2
    obtain ⟨_, rfl⟩ := pure_ok.mp e4
    obtain ⟨hl1, hext1, hc1, hcd1, hfresh1, hdo1⟩ := createComment_run hb.late e1
    -- the comment node is fresh
    have hd1 : s.dom.apply (.createComment text) = .ok (s1.dom, .node c) := (sink_dom (sinkNode_ok.mp e1)).1
    obtain ⟨hdom1, hout⟩ := apply_createComment hd1
    obtain ⟨_, _, hk1, hid, hs1, _⟩ := createComment_spec hb.late.base text
    rw [← hdom1] at hk1 hs1
    have hrs1 : RS r s.dom s1.dom := by rw [hdom1]; exact rs_alloc r hb.late.base _
    obtain ⟨hadj1, hpar1, htx1, hnO1⟩ := createComment_adj hb.late
      (by obtain ⟨_, hc0, _⟩ := id hb; exact hc0.adj) e1
    have hb1 : Big m r ph s1 := hb.dom hl1 hdo1 hext1.chg hrs1 (hk1 0) hadj1
    have hnol : ∀ q, c ∉ s1.dom.childrenOf q := fun q hq => by
      rw [hk1] at hq
      exact Nat.lt_irrefl _ (Nat.lt_of_lt_of_le (hb.late.base.kidsValid q _ hq) hfresh1)
    have hncont : ∀ x, x < s1.dom.size → s1.dom.isContainer x = true → x ≠ c := fun x _ hcx hxc => by
      subst hxc
      unfold Dom.isContainer at hcx; rw [hcd1] at hcx; cases hcx
    obtain ⟨h2, hdo2, _⟩ := insertAppropriately_big (child := .node c) hb1
      ⟨hnol, hncont, Or.inr ⟨text, hcd1⟩, hpar1, hnO1⟩ e3
    exact ⟨h2, by rw [hdo2, hdo1], by rw [hdo2, hdo1]⟩⟩

end H5V.Props.C06
