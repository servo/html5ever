import H5V.Lemmas.DomText3
import H5V.Lemmas.DomClone
/-!
One sink call (`Dom.applyV v b`, for either behaviour `v` of the option cloning and `b` of
`append_before_sibling`) preserves
`WF`, `Kinds` and — with the stated exceptions — `NoAdjacentText`, for every call within the
TreeSink contract.
-/
namespace H5V.Lemmas.Dom
open H5V.Model.Dom

/-- the contract of `append_before_sibling(s, node c)` survives detaching `c` first -/
theorem contractAppendBeforeSibling_detach {d d1 : Dom} (hw : WF d) {s c : Id}
    (hr : d.removeFromParent c = .ok d1) (hc : d.contractAppendBeforeSibling s (.node c) = true) :
    d1.contractAppendBeforeSibling s (.node c) = true := by
  have hw1 := hw.removeFromParent hr
  have hd := removeFromParent_data hr
  unfold Dom.contractAppendBeforeSibling at hc ⊢
  cases hps : d.parentOf s with
  | none => simp [hps] at hc
  | some P =>
    simp only [hps, Bool.and_eq_true, Dom.childOk, Bool.not_eq_true'] at hc
    have hsc : s ≠ c := by
      intro e; subst e
      have := hc.2.2
      simp at this
    have hps1 : d1.parentOf s = some P := by
      rcases removeFromParent_ok hr with ⟨_, he⟩ | ⟨_, _, _, _, hp, _⟩
      · subst he; exact hps
      · rw [hp]; simp [hsc, hps]
    have hPlt : P < d1.size := by rw [removeFromParent_size hr]; exact lt_of_isContainer hc.2.1.1
    have hanc : d1.isAncOrSelf c P = false := by
      cases hh : d1.isAncOrSelf c P with
      | false => rfl
      | true =>
        have h1 := (isAncOrSelf_iff hw1 hPlt).mp hh
        have h2 := anc_mono (removeFromParent_parent_sub hr) h1
        have h3 := (isAncOrSelf_iff hw (lt_of_isContainer hc.2.1.1)).mpr h2
        rw [hc.2.1.2.2] at h3; cases h3
    have hins : ∀ x, d1.isInsertable x = d.isInsertable x := fun x => by unfold Dom.isInsertable; rw [hd]
    simp only [hps1, Bool.and_eq_true, Dom.childOk, Bool.not_eq_true']
    refine ⟨by rw [hins]; exact hc.1, ⟨by rw [isContainer_congr (hd P)]; exact hc.2.1.1,
      ⟨⟨by rw [hins]; exact hc.2.1.2.1.1, by simp⟩, hanc⟩⟩, hc.2.2⟩

theorem appendBeforeSiblingV_text (b : Dom.BeforeSiblingVariant) (d : Dom) (s : Id) (t : Str) :
    d.appendBeforeSiblingV b s (.text t) = d.appendBeforeSibling s (.text t) := rfl

theorem appendBeforeSiblingV_ok {b : Dom.BeforeSiblingVariant} {d d' : Dom} {s : Id} {ch : NodeOrText}
    (h : d.appendBeforeSiblingV b s ch = .ok d') :
    d.appendBeforeSibling s ch = .ok d' ∨
    (∃ c d1, ch = .node c ∧ d.removeFromParent c = .ok d1 ∧ d1.appendBeforeSibling s ch = .ok d') := by
  unfold Dom.appendBeforeSiblingV at h
  cases ch with
  | text t => simp [Dom.preDetach, bind, Except.bind] at h; exact Or.inl h
  | node c =>
    cases b with
    | asCode => simp [Dom.preDetach, bind, Except.bind] at h; exact Or.inl h
    | detachFirst =>
      simp only [Dom.preDetach, bind, Except.bind] at h
      cases hr : d.removeFromParent c with
      | error e => simp [hr] at h
      | ok d1 => simp [hr] at h; exact Or.inr ⟨c, d1, rfl, hr, h⟩

theorem WF.appendBeforeSiblingV {b : Dom.BeforeSiblingVariant} {d d' : Dom} (hw : WF d) {s : Id} {ch : NodeOrText}
    (hc : d.contractAppendBeforeSibling s ch = true) (h : d.appendBeforeSiblingV b s ch = .ok d') : WF d' := by
  rcases appendBeforeSiblingV_ok h with h1 | ⟨c, d1, he, hr, h2⟩
  · exact hw.appendBeforeSibling hc h1
  · subst he
    exact (hw.removeFromParent hr).appendBeforeSibling (contractAppendBeforeSibling_detach hw hr hc) h2

theorem Kinds.appendBeforeSiblingV {b : Dom.BeforeSiblingVariant} {d d' : Dom} (hw : WF d) (hk : Kinds d) {s : Id}
    {ch : NodeOrText} (hc : d.contractAppendBeforeSibling s ch = true)
    (h : d.appendBeforeSiblingV b s ch = .ok d') : Kinds d' := by
  rcases appendBeforeSiblingV_ok h with h1 | ⟨c, d1, he, hr, h2⟩
  · exact hk.appendBeforeSibling hc h1
  · subst he
    exact (hk.removeFromParent hr).appendBeforeSibling (contractAppendBeforeSibling_detach hw hr hc) h2

theorem NoAdjacentText.appendBeforeSiblingV_node {b : Dom.BeforeSiblingVariant} {d d' : Dom} (hn : NoAdjacentText d)
    {s c : Id} (hc : d.contractAppendBeforeSibling s (.node c) = true) (hpc : d.parentOf c = none)
    (h : d.appendBeforeSiblingV b s (.node c) = .ok d') : NoAdjacentText d' := by
  rcases appendBeforeSiblingV_ok h with h1 | ⟨c', d1, he, hr, h2⟩
  · exact hn.appendBeforeSibling_node hc hpc h1
  · cases he
    rcases removeFromParent_ok hr with ⟨_, hd1⟩ | ⟨_, _, hpar, _⟩
    · subst hd1; exact hn.appendBeforeSibling_node hc hpc h2
    · rw [hpc] at hpar; cases hpar

theorem appendBasedOnParentNodeV_eq {b : Dom.BeforeSiblingVariant} {d : Dom} {e p : Id} {ch : NodeOrText}
    {r : Except String Dom} (h : d.appendBasedOnParentNodeV b e p ch = r) (he : e < d.size) :
    r = if (d.parentOf e).isSome then d.appendBeforeSiblingV b e ch else d.append p ch := by
  obtain ⟨en, hen⟩ := node?_of_lt he
  unfold Dom.appendBasedOnParentNodeV at h
  simp only [bind, Except.bind, get_ok_of hen] at h
  rw [parentOf_of_node hen, ← h]

theorem WF.applyV {v : Dom.CloneVariant} {b : Dom.BeforeSiblingVariant} {d d' : Dom} {op : SinkOp} {out : Output} (hw : WF d) (HK : Kinds d)
    (hc : d.contractOk op = true) (h : d.applyV v b op = .ok (d', out)) : WF d' := by
  refine applyV_ind h (same := hw) (other := fun _ _ => hw.congr (fun _ => rfl) (fun _ => rfl))
    (alloc := fun _ _ => hw.alloc _) (append := fun _ _ _ hca ha => hw.append (hca hc) ha)
    (before := fun _ _ _ hcb _ ha => hw.appendBeforeSiblingV (hcb hc) ha)
    (doctype := fun _ _ _ _ hdoc ha => hw.allocAppend (lt_of_isContainer (hdoc hc)) ha)
    (remove := fun _ _ _ ha => hw.removeFromParent ha) ?_ ?_ ?_ ?_
  · intro name attrs flags
    have := createElement_shape d name attrs flags
    exact hw.congr this.parent this.children
  · intro t a d1 ha
    obtain ⟨_, _, _, _, _, hs, _, _⟩ := addAttrsIfMissing_ok ha
    exact hw.congr hs.parent hs.children
  · intro n np d1 _ hr ha
    exact hw.reparentChildren (not_anc_of_isAncOrSelf_false hw (lt_of_isContainer (hr hc).1) (hr hc).2) ha
  · intro o d1 _ ha
    cases v with
    | asCode => rw [maybeCloneOption_asCode_eq ha]; exact hw
    | fixed => exact (maybeCloneOption_fixed_inv hw HK ha).1

theorem Kinds.applyV {v : Dom.CloneVariant} {b : Dom.BeforeSiblingVariant} {d d' : Dom} {op : SinkOp} {out : Output} (hw : WF d) (hk : Kinds d)
    (hc : d.contractOk op = true) (h : d.applyV v b op = .ok (d', out)) : Kinds d' := by
  refine applyV_ind h (same := hk) (other := fun _ _ => hk.sameData (fun _ => rfl) (fun _ _ => rfl))
    (alloc := fun _ _ => hk.alloc _) (append := fun _ _ _ hca ha => hk.append (hca hc) ha)
    (before := fun _ _ _ hcb _ ha => hk.appendBeforeSiblingV hw (hcb hc) ha)
    (remove := fun _ _ _ ha => hk.removeFromParent ha) ?_ ?_ ?_ ?_ ?_
  · intro name attrs flags
    unfold Dom.createElement
    split
    · exact (hk.alloc _).alloc _
    · exact hk.alloc _
  · intro n p s d1 hdoc ha
    obtain ⟨hp', _, hd, _, _⟩ := allocAppend_ok (lt_of_isContainer (hdoc hc)) ha
    exact hk.allocAttach hp' hd (hdoc hc) (by intro e; cases e)
  · intro t a d1 ha
    obtain ⟨_, _, _, _, hdt, hs, hd, _⟩ := addAttrsIfMissing_ok ha
    refine hk.dataChange (t := t) hs (fun x hx => by rw [hd]; simp [hx]) ?_ ?_
    · unfold Dom.isContainer; rw [hd, hdt]; simp
    · rw [hd]; simp
  · intro n np d1 _ hr ha
    obtain ⟨_, _, _, hp, _, hd, _, _⟩ := reparentChildren_ok ha
    refine hk.of_effects ?_ ?_ ?_
    · intro x hx; rw [isContainer_congr (hd x)]; exact hx
    · intro x _ hh; rw [← hd x]; exact hh
    · intro c p' hh
      rw [hp] at hh
      by_cases hcn : c ∈ d.childrenOf n
      · simp [hcn] at hh; subst hh
        refine Or.inr ⟨by rw [isContainer_congr (hd _)]; exact (hr hc).1, ?_⟩
        rw [hd]; exact hk.childNotDoc c n ((hw.links c n).mpr hcn)
      · simp [hcn] at hh; exact Or.inl hh
  · intro o d1 _ ha
    cases v with
    | asCode => rw [maybeCloneOption_asCode_eq ha]; exact hk
    | fixed => exact (maybeCloneOption_fixed_inv hw hk ha).2

/-- every sink call other than `remove_from_parent`, `reparent_children` and the re-insertion of an
attached node through `append_before_sibling` keeps "no adjacent text siblings" -/
theorem NoAdjacentText.applyV {v : Dom.CloneVariant} {b : Dom.BeforeSiblingVariant} {d d' : Dom} {op : SinkOp} {out : Output} (hw : WF d) (hn : NoAdjacentText d)
    (hc : d.contractOk op = true) (h : d.applyV v b op = .ok (d', out))
    (hop : NeverDetaches d op) : NoAdjacentText d' := by
  refine applyV_ind h (same := hn) (other := fun _ _ => hn.congr (fun _ => rfl) (fun _ _ _ => rfl))
    (alloc := fun _ _ => hn.alloc hw _) (append := fun _ _ _ hca ha => hn.append hw (hca hc) ha)
    (remove := fun _ _ hnd => (hnd hop).elim) (reparent := fun _ _ _ hnd => (hnd hop).elim)
    (clone := fun _ _ hnd => (hnd hop).elim) ?_ ?_ ?_ ?_
  · intro name attrs flags
    unfold Dom.createElement
    split
    · exact (hn.alloc hw _).alloc (hw.alloc _) _
    · exact hn.alloc hw _
  · intro s c d1 hcb hpar ha
    cases c with
    | text t => exact hn.appendBeforeSibling_text hw (hcb hc) (by rw [← appendBeforeSiblingV_text b]; exact ha)
    | node c => exact hn.appendBeforeSiblingV_node (hcb hc) (hpar hop c rfl) ha
  · intro n p s d1 hdoc ha
    obtain ⟨_, hch, hd, _, _⟩ := allocAppend_ok (lt_of_isContainer (hdoc hc)) ha
    refine hn.insertFresh hw (p := Dom.document) (i := (d.childrenOf Dom.document).length)
      (data := .doctype n p s) ?_ hd ?_
    · intro x; rw [hch, insertAt_length]
    · have : d1.isText d.size = false := by simp [Dom.isText, hd]
      rw [this]; simp
  · intro t a d1 ha
    obtain ⟨_, _, _, _, hdt, hs, hd, _⟩ := addAttrsIfMissing_ok ha
    refine hn.congr hs.children ?_
    intro p x _
    by_cases hx : x = t
    · subst hx; simp [Dom.isText, hd, hdt]
    · exact isText_congr (by rw [hd]; simp [hx])

end H5V.Lemmas.Dom
