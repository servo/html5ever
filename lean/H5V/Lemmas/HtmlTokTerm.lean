import H5V.Lemmas.HtmlTokLines
/-!
Termination of the HTML tokenizer loop: a measure `mu m inp` on (machine, unread input) that
strictly decreases along every `.cont` step of `Tokenizer::step`, and is bounded by the fuel
`fuelFor m inp` that `feed` / `end` hand to `run`.

The only text that can be read more than once is what a named character reference collects in
`name_buf` and gives back (`unconsume_name`): an alphanumeric/`;` run directly after an `&`.
`tripF` counts the characters of the unread input that can still make that trip; every character
weighs 16 (whether unread or stashed in `temp_buf` / `name_buf` / as the `#x` of a numeric
reference), a pending `reconsume` 12, the sub-tokenizer 8 + a rank, a tokenizer state at most 2.
-/
namespace H5V.Model.HtmlTok
open H5V.Props.C14

/-! ### characters that can sit in `name_buf` -/

def runCh (c : Char) : Bool := isAsciiAlnum c || c = ';'

/-- number of characters of `s` that may still travel through `name_buf` and come back;
`b`: we are inside an alphanumeric/`;` run that directly follows an `&` -/
def tripF : Bool → Str → Nat
  | _, [] => 0
  | b, c :: s =>
    if c = '&' then tripF true s
    else if runCh c then (if b then 1 else 0) + tripF b s
    else tripF false s

@[simp] theorem tripF_nil (b : Bool) : tripF b [] = 0 := by simp [tripF]

theorem runCh_ne_amp {c : Char} (h : runCh c = true) : c ≠ '&' := by
  intro hc; subst hc; revert h; decide

theorem tripF_cons_amp (b : Bool) (s : Str) : tripF b ('&' :: s) = tripF true s := by simp [tripF]

theorem tripF_cons_run (b : Bool) (c : Char) (s : Str) (h : runCh c = true) :
    tripF b (c :: s) = (if b then 1 else 0) + tripF b s := by
  simp [tripF, runCh_ne_amp h, h]

theorem tripF_cons_other (b : Bool) (c : Char) (s : Str) (h1 : c ≠ '&') (h2 : runCh c = false) :
    tripF b (c :: s) = tripF false s := by
  simp [tripF, h1, h2]

theorem tripF_le_true (b : Bool) (s : Str) : tripF b s ≤ tripF true s := by
  induction s generalizing b with
  | nil => simp
  | cons c t ih =>
    by_cases h1 : c = '&'
    · subst h1; simp [tripF_cons_amp]
    · cases h2 : runCh c with
      | true =>
        rw [tripF_cons_run _ _ _ h2, tripF_cons_run _ _ _ h2]
        have := ih b
        cases b <;> simp <;> omega
      | false => rw [tripF_cons_other _ _ _ h1 h2, tripF_cons_other _ _ _ h1 h2]; exact Nat.le_refl _

theorem tripF_le_length (b : Bool) (s : Str) : tripF b s ≤ s.length := by
  induction s generalizing b with
  | nil => simp
  | cons c t ih =>
    by_cases h1 : c = '&'
    · subst h1; rw [tripF_cons_amp]; have := ih true; simp; omega
    · cases h2 : runCh c with
      | true =>
        rw [tripF_cons_run _ _ _ h2]
        have := ih b
        cases b <;> simp <;> omega
      | false => rw [tripF_cons_other _ _ _ h1 h2]; have := ih false; simp; omega

/-- consuming a prefix never increases the count -/
theorem tripF_suffix (b : Bool) (a s : Str) : tripF false s ≤ tripF b (a ++ s) := by
  induction a generalizing b with
  | nil =>
    cases b
    · exact Nat.le_refl _
    · exact tripF_le_true false s
  | cons c t ih =>
    rw [List.cons_append]
    by_cases h1 : c = '&'
    · subst h1; rw [tripF_cons_amp]; exact ih true
    · cases h2 : runCh c with
      | true => rw [tripF_cons_run _ _ _ h2]; have := ih b; omega
      | false => rw [tripF_cons_other _ _ _ h1 h2]; exact ih false

/-- a character other than `&` in front, outside a run: no effect -/
theorem tripF_false_cons (c : Char) (s : Str) (h : c ≠ '&') : tripF false (c :: s) = tripF false s := by
  cases h2 : runCh c with
  | true => rw [tripF_cons_run _ _ _ h2]; simp
  | false => rw [tripF_cons_other _ _ _ h h2]

theorem tripF_false_run (nb s : Str) (h : ∀ x ∈ nb, runCh x = true) :
    tripF false (nb ++ s) = tripF false s := by
  induction nb with
  | nil => rfl
  | cons c t ih =>
    rw [List.cons_append, tripF_false_cons _ _ (runCh_ne_amp (h c (List.mem_cons_self ..)))]
    exact ih (fun x hx => h x (List.mem_cons_of_mem _ hx))

theorem tripF_true_cons_run (c : Char) (s : Str) (h : runCh c = true) :
    tripF true (c :: s) = 1 + tripF true s := by
  rw [tripF_cons_run _ _ _ h]; simp

theorem tripF_true_run (nb s : Str) (h : ∀ x ∈ nb, runCh x = true) :
    tripF true (nb ++ s) = nb.length + tripF true s := by
  induction nb with
  | nil => simp
  | cons c t ih =>
    rw [List.cons_append, tripF_true_cons_run _ _ (h c (List.mem_cons_self ..)),
      ih (fun x hx => h x (List.mem_cons_of_mem _ hx))]
    simp; omega

theorem tripF_true_hash (s : Str) : tripF true ('#' :: s) = tripF false s :=
  tripF_cons_other _ _ _ (by decide) (by decide)

/-- the character `get_char` delivers for the raw character `c0` -/
def foldCh (c0 : Char) : Char := if c0 = '\r' then '\n' else c0

theorem tripF_foldCh (c0 : Char) (s : Str) : tripF false (foldCh c0 :: s) ≤ tripF false (c0 :: s) := by
  unfold foldCh
  split
  · rename_i h; subst h
    rw [tripF_false_cons _ _ (by decide), tripF_false_cons _ _ (by decide)]
    exact Nat.le_refl _
  · exact Nat.le_refl _

theorem foldCh_amp {c0 : Char} (h : foldCh c0 = '&') : c0 = '&' := by
  unfold foldCh at h
  split at h
  · exact absurd h (by decide)
  · exact h

/-! ### every character of every entity name is alphanumeric or `;` -/

def keyRunOk (x : Nat) : Bool :=
  (97 ≤ x && x ≤ 122) || (65 ≤ x && x ≤ 90) || (48 ≤ x && x ≤ 57) || x == 59

def tableRunCh : Bool :=
  Gen.Entities.firstLetters.all (fun c => (Gen.Entities.bucket c).all (fun r => r.1.all keyRunOk))

theorem tableRunCh_true : tableRunCh = true := by decide +kernel

theorem runCh_of_toNat (x : Char) (h : keyRunOk x.toNat = true) : runCh x = true := by
  unfold keyRunOk at h
  unfold runCh isAsciiAlnum
  simp only [Bool.or_eq_true, Bool.and_eq_true, decide_eq_true_eq, beq_iff_eq] at h ⊢
  have e1 : ∀ a b : Char, a ≤ b ↔ a.toNat ≤ b.toNat := fun a b => by
    rw [Char.le_def, UInt32.le_iff_toNat_le]; rfl
  simp only [e1]
  rcases h with ((h | h) | h) | h
  · exact Or.inl (Or.inl (Or.inl h))
  · exact Or.inl (Or.inl (Or.inr h))
  · exact Or.inl (Or.inr h)
  · right
    apply Char.ext
    apply UInt32.toNat_inj.mp
    exact h

/-- a buffer that is in the entity map (a name or a prefix of one) is alphanumeric/`;` throughout -/
theorem lookup_runCh (nb : Str) (mt : Nat × Nat) (h : entityLookup nb = some mt) :
    ∀ x ∈ nb, runCh x = true := by
  unfold entityLookup at h
  cases hk : nb.map Char.toNat with
  | nil =>
    have : nb = [] := by simpa using hk
    subst this
    intro x hx; exact absurd hx List.not_mem_nil
  | cons c rest =>
    have hsome : (entityLookupN (c :: rest)).isSome = true := by rw [← hk, h]; rfl
    obtain ⟨r, hr, hp⟩ := (Walk.lookup_some_iff c rest).mp hsome
    have hc := bucket_letter c r hr
    have ht := tableRunCh_true
    simp only [tableRunCh, List.all_eq_true] at ht
    have hrow := ht c hc r hr
    intro x hx
    apply runCh_of_toNat
    have : x.toNat ∈ c :: rest := by rw [← hk]; exact List.mem_map_of_mem hx
    exact hrow _ (hp.subset this)

/-! ### the measure -/

/-- characters of a numeric reference (`#`, `x`) or of `name_buf` the sub-tokenizer may give back -/
def crStash (cr : CharRefSt) : Nat :=
  match cr.state with
  | .octothorpe => 1
  | .numeric _ => if cr.seenDigit then 0 else 1 + (if cr.hexMarker.isSome then 1 else 0)
  | .named | .bogusName => (cr.nameBuf.getD []).length
  | _ => 0

def crFlag : CRState → Bool
  | .begin | .named | .bogusName => true
  | _ => false

def crRank : CRState → Nat
  | .begin => 3 | .octothorpe => 2 | .numeric _ => 1 | .numericSemicolon => 0 | .named => 1 | .bogusName => 1

theorem base_le (s : State) : base s ≤ 2 := by
  cases s <;> simp [base]

/-- the character a pending `reconsume` will deliver again -/
def rc (m : Mach) : Str := if m.reconsume then [m.currentChar] else []

def mu (m : Mach) (inp : Str) : Nat :=
  match m.charRef with
  | some cr => 16 * (crStash cr + inp.length) + tripF (crFlag cr.state) inp + 8 + crRank cr.state
  | none =>
    16 * ((stash m).length + inp.length) + tripF false (rc m ++ (stash m ++ inp))
      + (if m.reconsume then 12 else 0) + base m.state

theorem mu_none {m : Mach} (h : m.charRef = none) (inp : Str) :
    mu m inp = 16 * ((stash m).length + inp.length) + tripF false (rc m ++ (stash m ++ inp))
      + (if m.reconsume then 12 else 0) + base m.state := by
  unfold mu; rw [h]

theorem mu_some {m : Mach} {cr : CharRefSt} (h : m.charRef = some cr) (inp : Str) :
    mu m inp = 16 * (crStash cr + inp.length) + tripF (crFlag cr.state) inp + 8 + crRank cr.state := by
  unfold mu; rw [h]

theorem crStash_le (cr : CharRefSt) : crStash cr ≤ (cr.nameBuf.getD []).length + 2 := by
  unfold crStash
  split
  · omega
  · split <;> (try split) <;> omega
  · omega
  · omega
  · omega

theorem crRank_le (s : CRState) : crRank s ≤ 3 := by cases s <;> simp [crRank]

theorem stash_len_le (m : Mach) (h : m.charRef = none) : (stash m).length ≤ m.tempBuf.length := by
  unfold stash; rw [h]; dsimp only; split <;> simp

/-- **the fuel handed to `run` exceeds the measure** -/
theorem mu_lt_fuelFor (m : Mach) (inp : Str) : mu m inp < fuelFor m inp := by
  unfold fuelFor
  cases hcr : m.charRef with
  | some cr =>
    rw [mu_some hcr]
    have h1 := crStash_le cr
    have h2 := tripF_le_length (crFlag cr.state) inp
    have h3 := crRank_le cr.state
    simp only
    omega
  | none =>
    rw [mu_none hcr]
    have h1 := stash_len_le m hcr
    have h2 := tripF_le_length false (rc m ++ (stash m ++ inp))
    have h3 := base_le m.state
    have h4 : (rc m).length ≤ 1 := by unfold rc; split <;> simp
    simp only [List.length_append] at h2
    simp only
    split <;> omega

/-! ### arithmetic: the shapes of a decreasing step -/

theorem rc_false {m : Mach} (h : m.reconsume = false) : rc m = [] := by unfold rc; simp [h]
theorem rc_true {m : Mach} (h : m.reconsume = true) : rc m = [m.currentChar] := by unfold rc; simp [h]

/-- a read without pending `reconsume` that consumed at least `c0` (possibly asking to reconsume
the character it delivered) -/
theorem mu_dec_consume {m m' : Mach} {inp i' a : Str} {c0 : Char}
    (hcr : m.charRef = none) (hr : m.reconsume = false) (hcr' : m'.charRef = none) (hst' : stash m' = [])
    (hsp : stash m ++ inp = a ++ c0 :: i')
    (hcc : m'.reconsume = true → m'.currentChar = foldCh c0) : mu m' i' < mu m inp := by
  rw [mu_none hcr, mu_none hcr', rc_false hr, hst', hsp]
  have hl : (stash m).length + inp.length = a.length + (i'.length + 1) := by
    have := congrArg List.length hsp
    simpa using this
  have hb := base_le m'.state
  have h1 : tripF false (c0 :: i') ≤ tripF false (a ++ c0 :: i') := tripF_suffix false a _
  have h2 : tripF false i' ≤ tripF false (c0 :: i') := tripF_suffix false [c0] i'
  have h3 := tripF_foldCh c0 i'
  rw [hl]
  cases hr' : m'.reconsume with
  | false => simp [rc_false hr']; omega
  | true =>
    rw [rc_true hr', hcc hr']
    simp only [List.nil_append, List.length_nil, List.cons_append, ↓reduceIte]
    omega

/-- a step without pending `reconsume` before and after, that consumed something or moved down in
the state ranking (what was stashed may have gone back to the queue) -/
theorem mu_dec_plain {m m' : Mach} {inp i' a : Str}
    (hcr : m.charRef = none) (hr : m.reconsume = false) (hcr' : m'.charRef = none) (hr' : m'.reconsume = false)
    (hst' : stash m' = []) (hsp : stash m ++ inp = a ++ i')
    (h : a ≠ [] ∨ base m'.state < base m.state) : mu m' i' < mu m inp := by
  rw [mu_none hcr, mu_none hcr', rc_false hr, rc_false hr', hst', hsp]
  have hl : (stash m).length + inp.length = a.length + i'.length := by
    have := congrArg List.length hsp
    simpa using this
  have hb := base_le m'.state
  have h1 : tripF false i' ≤ tripF false (a ++ i') := tripF_suffix false a _
  rw [hl]
  simp only [hr, hr', List.nil_append, List.length_nil, Bool.false_eq_true, ↓reduceIte]
  rcases h with h | h
  · have : 0 < a.length := List.length_pos_iff.mpr h
    omega
  · omega

/-- a read that re-delivers the pending character -/
theorem mu_dec_recon {m m' : Mach} {inp : Str}
    (hcr : m.charRef = none) (hr : m.reconsume = true) (hst : stash m = []) (hcr' : m'.charRef = none)
    (hst' : stash m' = [])
    (hcc : m'.reconsume = true → m'.currentChar = m.currentChar ∧ base m'.state < base m.state) :
    mu m' inp < mu m inp := by
  rw [mu_none hcr, mu_none hcr', rc_true hr, hst, hst']
  have hb := base_le m'.state
  have h1 : tripF false inp ≤ tripF false (m.currentChar :: inp) := tripF_suffix false [m.currentChar] inp
  cases hr' : m'.reconsume with
  | false => simp [rc_false hr', hr]; omega
  | true =>
    obtain ⟨e1, e2⟩ := hcc hr'
    rw [rc_true hr', e1]
    simp only [hr, List.nil_append, List.cons_append, ↓reduceIte]
    omega

theorem crStash_begin {cr : CharRefSt} (h : cr.state = .begin) : crStash cr = 0 := by
  unfold crStash; rw [h]

/-- a character reference starts on a freshly consumed `&` -/
theorem mu_dec_amp {m m' : Mach} {inp i' a : Str} {cr : CharRefSt}
    (hcr : m.charRef = none) (hr : m.reconsume = false) (hcr' : m'.charRef = some cr) (hb : cr.state = .begin)
    (hsp : stash m ++ inp = a ++ '&' :: i') : mu m' i' < mu m inp := by
  rw [mu_none hcr, mu_some hcr', rc_false hr, hsp, crStash_begin hb, hb]
  have hl : (stash m).length + inp.length = a.length + (i'.length + 1) := by
    have := congrArg List.length hsp
    simpa using this
  have h1 : tripF false ('&' :: i') ≤ tripF false (a ++ '&' :: i') := tripF_suffix false a _
  rw [tripF_cons_amp] at h1
  rw [hl]
  simp only [crFlag, crRank, List.nil_append]
  omega

/-- a character reference starts on a re-delivered `&` -/
theorem mu_dec_amp_recon {m m' : Mach} {inp : Str} {cr : CharRefSt}
    (hcr : m.charRef = none) (hr : m.reconsume = true) (hcc : m.currentChar = '&') (hst : stash m = [])
    (hcr' : m'.charRef = some cr) (hb : cr.state = .begin) : mu m' inp < mu m inp := by
  rw [mu_none hcr, mu_some hcr', rc_true hr, hst, hcc, crStash_begin hb, hb]
  simp only [crFlag, crRank, List.nil_append, List.cons_append, tripF_cons_amp, hr, ↓reduceIte, List.length_nil]
  omega

/-! ### the reader: what a successful read consumed -/

theorem preprocess_shape (o : Opts) (m m1 : Mach) (x c : Char) (xs i1 : Str)
    (h : preprocess o m x xs = (some c, m1, i1)) : ∃ a c0, x :: xs = a ++ c0 :: i1 ∧ c = foldCh c0 := by
  unfold preprocess at h
  split at h
  · split at h
    · cases xs with
      | nil => simp at h
      | cons y ys =>
        simp only [Prod.mk.injEq, Option.some.injEq] at h
        obtain ⟨h1, _, h3⟩ := h
        subst h3
        exact ⟨[x], y, rfl, by rw [← h1, (foldChar_fields o _ y).2.2.2.2.2.2]; rfl⟩
    · simp only [Prod.mk.injEq, Option.some.injEq] at h
      obtain ⟨h1, _, h3⟩ := h
      subst h3
      exact ⟨[], x, rfl, by rw [← h1, (foldChar_fields o _ x).2.2.2.2.2.2]; rfl⟩
  · simp only [Prod.mk.injEq, Option.some.injEq] at h
    obtain ⟨h1, _, h3⟩ := h
    subst h3
    exact ⟨[], x, rfl, by rw [← h1, (foldChar_fields o _ x).2.2.2.2.2.2]; rfl⟩

theorem getChar_shape (o : Opts) (m m1 : Mach) (inp i1 : Str) (c : Char)
    (h : getChar o m inp = (some c, m1, i1)) :
    (m.reconsume = true ∧ i1 = inp ∧ c = m.currentChar) ∨
    (m.reconsume = false ∧ ∃ a c0, inp = a ++ c0 :: i1 ∧ c = foldCh c0) := by
  unfold getChar at h
  split at h
  · rename_i hr
    simp only [Prod.mk.injEq, Option.some.injEq] at h
    exact Or.inl ⟨hr, h.2.2.symm, h.1.symm⟩
  · rename_i hr
    cases inp with
    | nil => simp at h
    | cons x xs => exact Or.inr ⟨by simpa using hr, preprocess_shape o m m1 x c xs i1 h⟩

/-- a read of a `pop_except_from` state, with the character it reports -/
def SetShape (m : Mach) (inp : Str) (r : SetRes) (i1 : Str) : Prop :=
  (m.reconsume = true ∧ i1 = inp ∧ r = .fromSet m.currentChar) ∨
  (m.reconsume = false ∧ ∃ a c0, inp = a ++ c0 :: i1 ∧ ∀ x, r = .fromSet x → x = foldCh c0)

theorem popExceptFrom_shape (o : Opts) (S : List Char) (m m1 : Mach) (inp i1 : Str) (r : SetRes)
    (h : popExceptFrom o S m inp = (some r, m1, i1)) : SetShape m inp r i1 := by
  -- both the slow path and the fast path on a character of the set read through `get_char`
  have viaGet : ∀ g : Option Char × Mach × Str, getChar o m inp = g →
      (g.1.map SetRes.fromSet, g.2) = (some r, m1, i1) → SetShape m inp r i1 := by
    intro ⟨oc, m2, i2⟩ hg h
    cases oc with
    | none => simp at h
    | some c =>
      simp only [Option.map_some, Prod.mk.injEq, Option.some.injEq] at h
      obtain ⟨h1, h2, h3⟩ := h
      subst h1 h2 h3
      rcases getChar_shape o m m2 inp i2 c hg with ⟨g1, g2, g3⟩ | ⟨g1, a, c0, g2, g3⟩
      · exact Or.inl ⟨g1, g2, by rw [g3]⟩
      · refine Or.inr ⟨g1, a, c0, g2, fun x hx => ?_⟩
        simp only [SetRes.fromSet.injEq] at hx
        rw [← hx, g3]
  unfold popExceptFrom at h
  split at h
  · exact viaGet _ rfl h
  · rename_i hs
    have hs' : o.exactErrors = false ∧ m.reconsume = false ∧ m.ignoreLf = false := by
      simpa [and_assoc] using hs
    cases inp with
    | nil => simp at h
    | cons x xs =>
      simp only at h
      split at h
      · exact viaGet _ (by unfold getChar; simp [hs'.2.1]) h
      · simp only [Prod.mk.injEq, Option.some.injEq] at h
        obtain ⟨h1, _, h3⟩ := h
        subst h3
        exact Or.inr ⟨hs'.2.1, [], x, rfl, fun y hy => by rw [← h1] at hy; simp at hy⟩

theorem readData_shape (o : Opts) (m m1 : Mach) (inp i1 : Str) (r : SetRes)
    (h : readData o m inp = (some r, m1, i1)) : SetShape m inp r i1 := by
  unfold readData at h
  split at h
  · exact popExceptFrom_shape o _ m m1 inp i1 r h
  · rename_i hs
    have hs' : o.exactErrors = false ∧ m.reconsume = false ∧ m.ignoreLf = false := by
      simpa [and_assoc] using hs
    cases inp with
    | nil => simp at h
    | cons x xs =>
      simp only at h
      split at h
      · exact popExceptFrom_shape o _ m m1 (x :: xs) i1 r h
      · simp only [Prod.mk.injEq, Option.some.injEq] at h
        obtain ⟨h1, _, h3⟩ := h
        subst h3
        exact Or.inr ⟨hs'.2.1, [], x, rfl, fun y hy => by rw [← h1] at hy; simp at hy⟩

/-! ### the table: `reconsume` chains go down in `base` -/

theorem transChar_base (o : Opts) (pol : Pol) (m : Mach) (c : Char) (h : m.reconsume = false) :
    (transChar o pol m c).1.reconsume = true → base (transChar o pol m c).1.state < base m.state := by
  obtain ⟨x, fin, hr, -, hA, hB, -⟩ := transChar_ctl o pol m c
  rw [hr]
  rcases hA with rfl | ⟨rfl, -, hx⟩ | ⟨-, e, rfl, -⟩
  · exact fun hrc => (hB h hrc).1
  · exact fun hrc => by rw [ArmEnd.run_tag, emitTag_reconsume, hx, h] at hrc; cases hrc
  · exact fun hrc => (hB h hrc).1

/-! ### `get_char!` states -/

theorem ofSig_cont (ms : Mach × Sig) (inp : Str) (m' : Mach) (i' : Str)
    (h : ofSig ms inp = .cont m' i') : m' = ms.1 ∧ i' = inp :=
  ofSig_pair ms inp m' i' (by rw [h]; rfl)

/-- what the table leaves behind after a `get_char` read from a machine whose registers are in order
(a `get_char!` state, or the last read of `after-doctype-name`) -/
theorem getChar_after (o : Opts) (pol : Pol) {m m1 : Mach} {inp i1 : Str} {c : Char}
    (hgc : getChar o m inp = (some c, m1, i1)) (hcr : m.charRef = none)
    (hri : m.reconsume = true → m.ignoreLf = true → m.currentChar = '\n')
    (hnr : isRaw m.state = false → m.tempBuf = []) :
    (transChar o pol m1 c).1.charRef = none ∧ stash (transChar o pol m1 c).1 = [] ∧
    (transChar o pol m1 c).1.currentChar = c ∧ m1.reconsume = false ∧ m1.state = m.state := by
  obtain ⟨f1, f2, f3, f4, _⟩ := getChar_fields o m m1 inp i1 c hgc
  obtain ⟨r1, r2⟩ := getChar_ri o m m1 inp i1 c hri hgc
  obtain ⟨_, _, _, a4, a5, _, _⟩ := afterChar_lines o pol m1 c (by rw [f4, hcr])
    (by rw [f1, f2]; exact hnr) f3 r1 r2
  exact ⟨a4, a5, by rw [transChar_currentChar, r1], f3, f1⟩

theorem LInv.getChar_after {m : Mach} (hi : LInv m) (o : Opts) (pol : Pol) {m1 : Mach} {inp i1 : Str} {c : Char}
    (hcr : m.charRef = none) (hrk : readKind m.state = .getChar) (hgc : getChar o m inp = (some c, m1, i1)) :
    (transChar o pol m1 c).1.charRef = none ∧ stash (transChar o pol m1 c).1 = [] ∧
    (transChar o pol m1 c).1.currentChar = c ∧ m1.reconsume = false ∧ m1.state = m.state :=
  have hf := readKind_getChar_facts hrk
  H5V.Model.HtmlTok.getChar_after o pol hgc hcr hi.ri (fun hraw => hi.nr hraw hf.1 hf.2.2)

theorem dec_getChar (o : Opts) (pol : Pol) (m : Mach) (inp : Str) (hi : LInv m)
    (hcr : m.charRef = none) (m' : Mach) (i' : Str) (c : Char) (m1 : Mach) (i1 : Str)
    (hrk : readKind m.state = .getChar) (hgc : getChar o m inp = (some c, m1, i1))
    (h : ofSig (transChar o pol m1 c) i1 = .cont m' i') : mu m' i' < mu m inp := by
  have hf := readKind_getChar_facts hrk
  have hst : stash m = [] := stash_plain hcr hf.1 hf.2.2
  obtain ⟨a4, a5, hcc, f3, f1⟩ := hi.getChar_after o pol hcr hrk hgc
  obtain ⟨h1, h2⟩ := ofSig_cont _ _ _ _ h
  subst h1 h2
  rcases getChar_shape o m m1 inp _ c hgc with ⟨g1, g2, g3⟩ | ⟨g1, a, c0, g2, g3⟩
  · subst g2
    refine mu_dec_recon hcr g1 hst a4 a5 (fun hr' => ⟨by rw [hcc, g3], ?_⟩)
    have := transChar_base o pol m1 c f3 hr'
    rwa [f1] at this
  · exact mu_dec_consume hcr g1 a4 a5 (by rw [hst]; exact g2) (fun _ => by rw [hcc, g3])

/-! ### `pop_except_from` states and the data state -/

theorem dec_set (o : Opts) (pol : Pol) (m : Mach) (inp : Str)
    (hcr : m.charRef = none) (m' : Mach) (i' : Str) (sr : SetRes) (m1 : Mach) (i1 : Str)
    (hk : readKind m.state = .popExcept ∨ readKind m.state = .dataSimd)
    (hok : ReadOk m m1 sr) (hsh : SetShape m inp sr i1)
    (h : ofSig (transSet o pol m1 sr) i1 = .cont m' i') : mu m' i' < mu m inp := by
  have hsf := readKind_state_facts hk
  have hst : stash m = [] := stash_plain hcr hsf.1 hsf.2.1
  obtain ⟨f1, f2, f3, f4, _, _⟩ := hok
  obtain ⟨h1, h2⟩ := ofSig_cont _ _ _ _ h
  subst h1 h2
  have hcr1 : m1.charRef = none := by rw [f4, hcr]
  have hr' : (transSet o pol m1 sr).1.reconsume = true → False := by rw [transSet_reconsume, f3]; nofun
  have hne := transSet_not_eat o pol m1 sr ⟨by rw [f1]; exact hsf.1, by rw [f1]; exact hsf.2.1⟩
  rcases (transSet_charRef o pol m1 sr hcr1 (by rw [f1]; exact hk)).2 with hx | ⟨hx, _, _⟩
  · have hst' := stash_plain hx hne.1 hne.2
    rcases hsh with ⟨g1, g2, _⟩ | ⟨g1, a, c0, g2, _⟩
    · subst g2
      exact mu_dec_recon hcr g1 hst hx hst' (fun hr => (hr' hr).elim)
    · exact mu_dec_consume hcr g1 hx hst' (by rw [hst]; exact g2) (fun hr => (hr' hr).elim)
  · have hamp := transSet_amp o pol m1 sr hcr1 (by rw [hx]; simp)
    rcases hsh with ⟨g1, g2, g3⟩ | ⟨g1, a, c0, g2, g3⟩
    · subst g2
      rw [hamp] at g3
      simp only [SetRes.fromSet.injEq] at g3
      exact mu_dec_amp_recon hcr g1 g3.symm hst hx rfl
    · have := foldCh_amp (g3 _ hamp).symm
      subst this
      exact mu_dec_amp hcr g1 hx rfl (by rw [hst]; exact g2)

/-! ### pauses -/

def Sig.isPause : Sig → Bool
  | .script | .indicator => true
  | _ => false

def R.isPause : R → Bool
  | .script _ _ | .indicator _ _ => true
  | _ => false

theorem ofSig_isPause (ms : Mach × Sig) (inp : Str) : (ofSig ms inp).isPause = ms.2.isPause := by
  unfold ofSig
  split <;> simp_all [R.isPause, Sig.isPause]

/-! ### before-attribute-value -/

/-- **`before-attribute-value` taken apart**: there is nothing to peek at (or only the LF after a CR)
and the step suspends; or it consumes something or moves on to the unquoted value, through the sink
only when it consumed a `>` -/
theorem stepBav_leaves {P : R → Prop} (o : Opts) (pol : Pol) {m : Mach} (inp : Str) (hr : m.reconsume = false)
    (hSusp : ∀ m1, m1.charRef = m.charRef → m1.reconsume = false → m1.tempBuf = m.tempBuf →
      P (.suspend m1 []))
    (hMove : ∀ ms i' a, ms.1.charRef = m.charRef → ms.1.reconsume = false → ms.1.tempBuf = m.tempBuf →
      inp = a ++ i' → (a ≠ [] ∨ ms.1.state = .attributeValue .unquoted) →
      (ms.2.isPause = true → '>' ∈ inp) → P (ofSig ms i')) :
    P (stepBav o pol m inp) := by
  unfold stepBav
  cases inp with
  | nil =>
    simp only [peek, hr, Bool.false_eq_true, ↓reduceIte, List.head?_nil]
    exact hSusp m rfl hr rfl
  | cons c rest =>
    simp only [peek, hr, Bool.false_eq_true, ↓reduceIte, List.head?_cons]
    have hma : (if m.ignoreLf = true then m.setIgnoreLf false else m).charRef = m.charRef ∧
        (if m.ignoreLf = true then m.setIgnoreLf false else m).reconsume = false ∧
        (if m.ignoreLf = true then m.setIgnoreLf false else m).tempBuf = m.tempBuf := by
      split <;> simp [hr]
    generalize (if m.ignoreLf = true then m.setIgnoreLf false else m) = ma at hma ⊢
    obtain ⟨hm1, hm2, hm3⟩ := hma
    have hd : discardChar ma (c :: rest) = (ma, rest) := by simp [discardChar, hm2]
    -- the arms that discard the peeked character
    have one : ∀ ms : Mach × Sig, ms.1.charRef = ma.charRef → ms.1.reconsume = ma.reconsume →
        ms.1.tempBuf = ma.tempBuf → (ms.2.isPause = true → c = '>') → P (ofSig ms rest) :=
      fun ms e1 e2 e3 e4 => hMove ms rest [c] (e1.trans hm1) (e2.trans hm2) (e3.trans hm3) rfl
        (Or.inl (by simp)) (fun h => by simp [e4 h])
    split
    · simp only [hd]; exact one (ma, .cont) rfl rfl rfl nofun
    · split
      · cases hg : getChar o ma (c :: rest) with
        | mk oc r =>
          obtain ⟨m2, i2⟩ := r
          cases oc with
          | none =>
            obtain ⟨rfl, _, g3⟩ := getChar_none o ma m2 _ i2 hg
            rcases g3 with ⟨_, rfl⟩ | ⟨_, _, rfl⟩
            · exact hSusp _ hm1 hm2 hm3
            · exact hSusp _ (by simp [hm1]) (by simp [hm2]) (by simp [hm3])
          | some c2 =>
            obtain ⟨_, f2, f3, f4, _⟩ := getChar_fields o ma m2 _ i2 c2 hg
            rcases getChar_shape o ma m2 (c :: rest) i2 c2 hg with ⟨g1, _⟩ | ⟨_, a, c0, g2, _⟩
            · rw [hm2] at g1; cases g1
            · exact hMove (m2, .cont) i2 (a ++ [c0]) (f4.trans hm1) f3 (f2.trans hm3) (by rw [g2]; simp)
                (Or.inl (by simp)) nofun
      · split
        · simp only [hd]; exact one (ma, .cont) rfl rfl rfl nofun
        · split
          · simp only [hd]; exact one (to _ ma, .cont) rfl rfl rfl nofun
          · split
            · simp only [hd]; exact one (to _ ma, .cont) rfl rfl rfl nofun
            · split
              · rename_i hgt
                simp only [hd]
                exact one (emitTag pol .data (badChar o ma)) (by simp) (by simp) (by simp) (fun _ => hgt)
              · exact hMove (to (.attributeValue .unquoted) ma, .cont) (c :: rest) [] hm1 hm2 hm3 rfl
                  (Or.inr rfl) nofun

/-! ### the look-ahead states (`eat`) -/

theorem eatCmp_true_len (eq : Char → Char → Bool) (all pat : Str) (h : eatCmp eq all pat = some true) :
    pat.length ≤ all.length := by
  induction all generalizing pat with
  | nil =>
    cases pat with
    | nil => simp
    | cons p ps => simp [eatCmp] at h
  | cons a t ih =>
    cases pat with
    | nil => simp
    | cons p ps =>
      simp only [eatCmp] at h
      split at h
      · have := ih ps h; simp; omega
      · simp at h

/-- the `ignore_lf` prologue of `eat` drops at most a leading LF of stash ++ queue -/
theorem eatSkipLf_shape (m : Mach) (inp : Str) (hr : m.reconsume = false) (hok : EatOk m) :
    ∃ a, m.tempBuf ++ inp = a ++ ((eatSkipLf m inp).1.tempBuf ++ (eatSkipLf m inp).2) := by
  unfold eatSkipLf
  cases hil : m.ignoreLf with
  | false => exact ⟨[], by simp⟩
  | true =>
    have ht := hok hil
    cases inp with
    | nil => exact ⟨[], by simp [peek, hr]⟩
    | cons c rest =>
      simp only [peek, hr, Bool.false_eq_true, ↓reduceIte, List.head?_cons]
      by_cases hc : c = '\n'
      · subst hc
        exact ⟨['\n'], by simp [discardChar, hr, ht]⟩
      · exact ⟨[], by simp [hc]⟩

/-- `eat` only ever removes a prefix of stash ++ queue (non-empty when the keyword matched) -/
theorem eat_shape (m : Mach) (inp pat : Str) (eq : Char → Char → Bool)
    (hr : m.reconsume = false) (hok : EatOk m) (hne : pat ≠ [])
    (b : Option Bool) (m1 : Mach) (i1 : Str) (h : eat m inp pat eq = (b, m1, i1)) :
    ∃ a, m.tempBuf ++ inp = a ++ (m1.tempBuf ++ i1) ∧ (b = some true → a ≠ []) := by
  rw [eat_eq_core] at h
  obtain ⟨a0, ha0⟩ := eatSkipLf_shape m inp hr hok
  generalize (eatSkipLf m inp).1 = mi at *
  generalize (eatSkipLf m inp).2 = ii at *
  unfold eatCore at h
  by_cases hc : eatCmp eq (mi.tempBuf ++ ii) pat = some true
  · simp only [hc, Prod.mk.injEq] at h
    obtain ⟨hb, hm1, hi1⟩ := h
    subst hb hm1 hi1
    have hlen := eatCmp_true_len eq _ pat hc
    refine ⟨a0 ++ (mi.tempBuf ++ ii).take pat.length, ?_, fun _ hnil => ?_⟩
    · rw [ha0]
      simp only [Mach.setTempBuf, List.nil_append, List.append_assoc]
      rw [List.take_append_drop]
    · have h2 : ((mi.tempBuf ++ ii).take pat.length).length = 0 := by
        have := congrArg List.length hnil
        simp only [List.length_append, List.length_nil] at this
        omega
      rw [List.length_take] at h2
      have : 0 < pat.length := List.length_pos_iff.mpr hne
      omega
  · -- otherwise nothing leaves stash ++ queue
    have keep : m1.tempBuf ++ i1 = mi.tempBuf ++ ii ∧ b ≠ some true := by
      repeat' split at h
      all_goals first | exact absurd ‹_› hc | (cases h; simp)
    exact ⟨a0, by rw [ha0, keep.1], fun hb => absurd hb keep.2⟩

theorem eat_none_nil (m m1 : Mach) (inp i1 pat : Str) (eq : Char → Char → Bool)
    (h : eat m inp pat eq = (none, m1, i1)) : i1 = [] := by
  rw [eat_eq_core] at h
  unfold eatCore at h
  repeat' split at h
  all_goals simp_all

/-- a character that can neither complete a tag nor start a character reference -/
def plainCh (x : Char) : Prop := x ≠ '>' ∧ x ≠ '&'

theorem runCh_plain {c : Char} (h : runCh c = true) : plainCh c :=
  ⟨by intro hc; subst hc; revert h; decide, runCh_ne_amp h⟩

theorem foldCh_plain {c : Char} (h : plainCh c) : plainCh (foldCh c) := by
  unfold foldCh
  split
  · exact ⟨by decide, by decide⟩
  · exact h

/-- the characters a keyword can match are neither `>` nor `&` -/
def PatPlain (eq : Char → Char → Bool) (pat : Str) : Prop :=
  ∀ p ∈ pat, eq '>' p = false ∧ eq '&' p = false

theorem patPlain_kw : PatPlain eqExact kwDashDash ∧ PatPlain eqCi kwDoctype ∧ PatPlain eqExact kwCdata ∧
    PatPlain eqCi kwPublic ∧ PatPlain eqCi kwSystem := by
  refine ⟨?_, ?_, ?_, ?_, ?_⟩ <;> (intro p hp; revert p; decide)

theorem eatCmp_none_plainCh (eq : Char → Char → Bool) (all pat : Str) (hp : PatPlain eq pat)
    (h : eatCmp eq all pat = none) : ∀ c ∈ all, plainCh c := by
  induction all generalizing pat with
  | nil => intro c hc; exact absurd hc List.not_mem_nil
  | cons a t ih =>
    cases pat with
    | nil => simp [eatCmp] at h
    | cons p ps =>
      simp only [eatCmp] at h
      split at h
      · rename_i he
        intro c hc
        rcases List.mem_cons.mp hc with hc | hc
        · subst hc
          have := hp p (List.mem_cons_self ..)
          constructor
          · intro hx; subst hx; rw [this.1] at he; simp at he
          · intro hx; subst hx; rw [this.2] at he; simp at he
        · exact ih ps (fun q hq => hp q (List.mem_cons_of_mem _ hq)) h c hc
      · simp at h

/-- what a suspended `eat` has stashed matched a prefix of the keyword -/
theorem eat_none_plainCh (m m1 : Mach) (inp i1 pat : Str) (eq : Char → Char → Bool) (hp : PatPlain eq pat)
    (h : eat m inp pat eq = (none, m1, i1)) : ∀ c ∈ m1.tempBuf, plainCh c := by
  rw [eat_eq_core] at h
  unfold eatCore at h
  split at h
  · simp at h
  · simp at h
  · rename_i hc
    split at h
    · simp at h
    · simp only [Prod.mk.injEq, true_and] at h
      rw [← h.1]
      simpa using eatCmp_none_plainCh eq _ pat hp hc

/-- the text held back by the look-ahead machinery contains neither `>` nor `&` -/
def SP (m : Mach) : Prop := m.charRef = none → ∀ x ∈ stash m, plainCh x

theorem SP.of_nil {m : Mach} (h : stash m = []) : SP m := by
  intro _ x hx; rw [h] at hx; exact absurd hx List.not_mem_nil

theorem SP.of_some {m : Mach} {cr : CharRefSt} (h : m.charRef = some cr) : SP m := by
  intro hx; rw [h] at hx; simp at hx

theorem stash_subset (m : Mach) (hcr : m.charRef = none) : ∀ x ∈ stash m, x ∈ m.tempBuf := by
  unfold stash; rw [hcr]; dsimp only
  split
  · exact fun _ h => h
  · intro x hx; exact absurd hx List.not_mem_nil

theorem SP.of_tempBuf {m : Mach} (h : ∀ x ∈ m.tempBuf, plainCh x) : SP m :=
  fun hcr x hx => h x (stash_subset m hcr x hx)

/-- one look-ahead stage: what `eat` answers, the registers it leaves, what it consumed -/
theorem eat_view {s : State} {K : Nat} {m : Mach} {i : Str} (h0 : EatSt s K m i) {pat : Str}
    {eq : Char → Char → Bool} (hp : PatOk eq pat) (hpp : PatPlain eq pat) (hne : pat ≠ []) :
    ∃ b m1 i1 a, eat m i pat eq = (b, m1, i1) ∧ EatSt s K m1 i1 ∧ m.tempBuf ++ i = a ++ (m1.tempBuf ++ i1) ∧
      (b = none → i1 = [] ∧ ∀ c ∈ m1.tempBuf, plainCh c) ∧ (b ≠ none → m1.tempBuf = []) ∧
      (b = some true → a ≠ []) := by
  cases h : eat m i pat eq with
  | mk b r =>
    obtain ⟨m1, i1⟩ := r
    obtain ⟨s1, t1, _⟩ := eat_stage h0 _ _ hp hne b m1 i1 h
    obtain ⟨a, e, p⟩ := eat_shape m i _ _ h0.nrec h0.ok hne b m1 i1 h
    refine ⟨b, m1, i1, a, rfl, s1, e, fun hb => ?_, t1, p⟩
    subst hb
    exact ⟨eat_none_nil _ _ _ _ _ _ h, eat_none_plainCh _ _ _ _ _ _ hpp h⟩

/-- the two ways a look-ahead state ends without the table: a keyword is incomplete and the step
suspends with the matched part stashed, or the step continues in another state with nothing stashed,
having consumed something or moved down in the state ranking -/
def LookLeaves (P : R → Prop) (m : Mach) (inp : Str) : Prop :=
  (∀ m1, m1.charRef = none → m1.reconsume = false → (∀ c ∈ m1.tempBuf, plainCh c) → P (.suspend m1 [])) ∧
  (∀ m' i' a, m'.charRef = none → m'.reconsume = false → m'.tempBuf = [] →
    m'.state ≠ .markupDeclarationOpen → m'.state ≠ .afterDoctypeName → m.tempBuf ++ inp = a ++ i' →
    (a ≠ [] ∨ base m'.state < 2) → P (.cont m' i'))

/-- **`markup-declaration-open` taken apart** -/
theorem stepMdo_leaves {P : R → Prop} (o : Opts) (pol : Pol) {m : Mach} {inp : Str} {K : Nat}
    (h0 : EatSt .markupDeclarationOpen K m inp)
    (hl : LookLeaves P m inp) :
    P (stepMdo o pol m inp) := by
  obtain ⟨hSusp, hMove⟩ := hl
  obtain ⟨pk1, pk2, pk3, _, _⟩ := patOk_kw
  obtain ⟨q1, q2, q3, _, _⟩ := patPlain_kw
  obtain ⟨n1, n2, n3, _, _⟩ := kw_ne
  have bogus : ∀ (mx : Mach) (ix ax : Str), mx.charRef = none → mx.reconsume = false → mx.tempBuf = [] →
      m.tempBuf ++ inp = ax ++ ix → P (.cont (to .bogusComment (clearComment (badChar o mx))) ix) :=
    fun mx ix ax c1 c2 c3 c4 =>
      hMove _ ix ax (by simp [c1]) (by simp [c2]) (by simp [c3]) (by simp) (by simp) c4 (Or.inr (by simp [base]))
  unfold stepMdo
  obtain ⟨b1, m1, i1, a1, h1, s1, e1, u1, t1, p1⟩ := eat_view h0 pk1 q1 n1
  rw [h1]
  cases b1 with
  | none => obtain ⟨rfl, hpl⟩ := u1 rfl; exact hSusp m1 s1.cr s1.nrec hpl
  | some b1 =>
    have ht1 := t1 nofun
    rw [ht1, List.nil_append] at e1
    cases b1 with
    | true =>
      exact hMove _ i1 a1 (by simp [s1.cr]) (by simp [s1.nrec]) (by simp [ht1]) (by simp) (by simp) e1
        (Or.inl (p1 rfl))
    | false =>
      obtain ⟨b2, m2, i2, a2, h2, s2, e2, u2, t2, p2⟩ := eat_view s1 pk2 q2 n2
      dsimp only
      rw [h2]
      cases b2 with
      | none => obtain ⟨rfl, hpl⟩ := u2 rfl; exact hSusp m2 s2.cr s2.nrec hpl
      | some b2 =>
        have ht2 := t2 nofun
        rw [ht1, ht2, List.nil_append, List.nil_append] at e2
        have e12 : m.tempBuf ++ inp = (a1 ++ a2) ++ i2 := by rw [e1, e2, List.append_assoc]
        cases b2 with
        | true =>
          exact hMove _ i2 _ (by simp [s2.cr]) (by simp [s2.nrec]) (by simp [ht2]) (by simp) (by simp) e12
            (Or.inl (fun hx => p2 rfl (List.append_eq_nil_iff.mp hx).2))
        | false =>
          dsimp only
          split
          · obtain ⟨b3, m3, i3, a3, h3, s3, e3, u3, t3, p3⟩ := eat_view s2 pk3 q3 n3
            rw [h3]
            cases b3 with
            | none => obtain ⟨rfl, hpl⟩ := u3 rfl; exact hSusp m3 s3.cr s3.nrec hpl
            | some b3 =>
              have ht3 := t3 nofun
              rw [ht2, ht3, List.nil_append, List.nil_append] at e3
              have e123 : m.tempBuf ++ inp = (a1 ++ a2 ++ a3) ++ i3 := by rw [e12, e3]; simp
              cases b3 with
              | true =>
                exact hMove _ i3 _ (by simp [s3.cr]) (by simp [s3.nrec]) (by simp [clearTemp]) (by simp)
                  (by simp) e123 (Or.inl (fun hx => p3 rfl (List.append_eq_nil_iff.mp hx).2))
              | false => exact bogus m3 i3 _ s3.cr s3.nrec ht3 e123
          · exact bogus m2 i2 _ s2.cr s2.nrec ht2 e12

/-- **`after-doctype-name` taken apart**: as for `markup-declaration-open`, or neither keyword is there
and the table is applied to the next character -/
theorem stepAdn_leaves {P : R → Prop} (o : Opts) (pol : Pol) {m : Mach} {inp : Str} {K : Nat}
    (h0 : EatSt .afterDoctypeName K m inp)
    (hl : LookLeaves P m inp)
    (hChar : ∀ c m1 i1 a c0, m1.reconsume = false → (transChar o pol m1 c).1.charRef = none →
      stash (transChar o pol m1 c).1 = [] → (transChar o pol m1 c).1.currentChar = c →
      m.tempBuf ++ inp = a ++ c0 :: i1 → c = foldCh c0 → P (ofSig (transChar o pol m1 c) i1)) :
    P (stepAdn o pol m inp) := by
  obtain ⟨hSusp, hMove⟩ := hl
  obtain ⟨_, _, _, pk4, pk5⟩ := patOk_kw
  obtain ⟨_, _, _, q4, q5⟩ := patPlain_kw
  obtain ⟨_, _, _, n4, n5⟩ := kw_ne
  unfold stepAdn
  obtain ⟨b1, m1, i1, a1, h1, s1, e1, u1, t1, p1⟩ := eat_view h0 pk4 q4 n4
  rw [h1]
  cases b1 with
  | none => obtain ⟨rfl, hpl⟩ := u1 rfl; exact hSusp m1 s1.cr s1.nrec hpl
  | some b1 =>
    have ht1 := t1 nofun
    rw [ht1, List.nil_append] at e1
    cases b1 with
    | true =>
      exact hMove _ i1 a1 (by simp [s1.cr]) (by simp [s1.nrec]) (by simp [ht1]) (by simp) (by simp) e1
        (Or.inl (p1 rfl))
    | false =>
      obtain ⟨b2, m2, i2, a2, h2, s2, e2, u2, t2, p2⟩ := eat_view s1 pk5 q5 n5
      dsimp only
      rw [h2]
      cases b2 with
      | none => obtain ⟨rfl, hpl⟩ := u2 rfl; exact hSusp m2 s2.cr s2.nrec hpl
      | some b2 =>
        have ht2 := t2 nofun
        rw [ht1, ht2, List.nil_append, List.nil_append] at e2
        have e12 : m.tempBuf ++ inp = (a1 ++ a2) ++ i2 := by rw [e1, e2, List.append_assoc]
        cases b2 with
        | true =>
          exact hMove _ i2 _ (by simp [s2.cr]) (by simp [s2.nrec]) (by simp [ht2]) (by simp) (by simp) e12
            (Or.inl (fun hx => p2 rfl (List.append_eq_nil_iff.mp hx).2))
        | false =>
          dsimp only
          cases hg : getChar o m2 i2 with
          | mk oc r =>
            obtain ⟨m3, i3⟩ := r
            cases oc with
            | none =>
              obtain ⟨rfl, _, g3⟩ := getChar_none o m2 m3 i2 i3 hg
              rcases g3 with ⟨_, rfl⟩ | ⟨_, _, rfl⟩
              · exact hSusp _ s2.cr s2.nrec (by rw [ht2]; nofun)
              · exact hSusp _ (by simp [s2.cr]) (by simp [s2.nrec]) (by simp [ht2])
            | some c =>
              obtain ⟨a4, a5, hcc, f3, _⟩ := getChar_after o pol hg s2.cr
                (fun hx => by rw [s2.nrec] at hx; cases hx) (fun _ => ht2)
              rcases getChar_shape o m2 m3 i2 _ c hg with ⟨g1, _⟩ | ⟨_, a, c0, g2, g3⟩
              · rw [s2.nrec] at g1; cases g1
              · exact hChar c m3 i3 (a1 ++ a2 ++ a) c0 f3 a4 a5 hcc (by rw [e12, g2]; simp) g3

/-! ### the character-reference sub-tokenizer -/

/-- what the measure needs to know about the sub-tokenizer's registers -/
structure CRT (cr : CharRefSt) : Prop where
  nbRun : ∀ x ∈ cr.nameBuf.getD [], runCh x = true
  hexOk : ∀ c, cr.hexMarker = some c → c = 'x' ∨ c = 'X'

theorem hex_ne_amp {c : Char} (h : c = 'x' ∨ c = 'X') : c ≠ '&' := by
  rcases h with h | h <;> subst h <;> decide

theorem CRT.fresh (b : Bool) : CRT { inAttr := b } := ⟨by simp, by simp⟩

theorem alnum_runCh {c : Char} (h : isAsciiAlnum c = true) : runCh c = true := by
  unfold runCh; simp [h]

/-- weight of a character reference in progress (without the constant 8) -/
def crW (cr : CharRefSt) (inp : Str) : Nat :=
  16 * (crStash cr + inp.length) + tripF (crFlag cr.state) inp + crRank cr.state

theorem mu_some' {m : Mach} {cr : CharRefSt} (h : m.charRef = some cr) (inp : Str) :
    mu m inp = crW cr inp + 8 := by
  rw [mu_some h]; unfold crW; omega

/-- one step of the sub-tokenizer: `Stuck` changes nothing (and the queue is empty), `Progress` decreases the weight and
keeps the registers' invariant, `Done` leaves no more than the weight in the queue -/
def CRDec (cr : CharRefSt) (inp : Str) : CRRes → Prop
  | .error _ => True
  | .ok (_, i1, cr1, st) =>
    match st with
    | .stuck => cr1 = cr ∧ i1 = []
    | .progress => CRT cr1 ∧ crW cr1 i1 < crW cr inp
    | .done _ => 16 * i1.length + tripF false i1 ≤ crW cr inp

theorem finishNamed_shape (o : Opts) (m : Mach) (inp : Str) (cr : CharRefSt) (ec : Option Char) (nb : Str)
    (m1 : Mach) (i1 : Str) (cr1 : CharRefSt) (st : CRStatus) (hnb : cr.nameBuf = some nb)
    (h : finishNamed o m inp cr ec = .ok (m1, i1, cr1, st)) :
    (∃ chars k, st = .done chars ∧ i1 = nb.drop k ++ inp) ∨
    (st = .progress ∧ i1 = inp ∧ (cr1.state = .bogusName ∧ cr1.nameBuf = some nb ∧ cr1.hexMarker = cr.hexMarker) ∧
      ∃ c, ec = some c ∧ isAsciiAlnum c = true) := by
  unfold finishNamed at h
  rw [hnb] at h
  dsimp only at h
  cases hm : cr.nameMatch with
  | none =>
    rw [hm] at h
    dsimp only at h
    cases ec with
    | none =>
      simp only [Bool.false_eq_true, ↓reduceIte, Except.ok.injEq, Prod.mk.injEq] at h
      obtain ⟨_, e2, _, e4⟩ := h
      exact Or.inl ⟨[], 0, e4.symm, by rw [← e2]; rfl⟩
    | some c =>
      dsimp only at h
      by_cases hcb : isAsciiAlnum c = true
      · simp only [hcb, ↓reduceIte, Except.ok.injEq, Prod.mk.injEq] at h
        obtain ⟨_, e2, e3, e4⟩ := h
        exact Or.inr ⟨e4.symm, e2.symm, by rw [← e3]; exact ⟨rfl, rfl, rfl⟩, c, rfl, hcb⟩
      · simp only [hcb, Bool.false_eq_true, ↓reduceIte, Except.ok.injEq, Prod.mk.injEq] at h
        obtain ⟨_, e2, _, e4⟩ := h
        exact Or.inl ⟨[], 0, e4.symm, by rw [← e2]; rfl⟩
  | some mt =>
    obtain ⟨c1, c2⟩ := mt
    rw [hm] at h
    dsimp only at h
    cases hd : namedDecision m cr nb c1 c2 with
    | error e => rw [hd] at h; simp at h
    | ok r =>
      rw [hd] at h
      cases r with
      | none =>
        simp only [Except.ok.injEq, Prod.mk.injEq] at h
        obtain ⟨_, e2, _, e4⟩ := h
        exact Or.inl ⟨[], 0, e4.symm, by rw [← e2]; rfl⟩
      | some mc =>
        obtain ⟨mx, cs⟩ := mc
        simp only [Except.ok.injEq, Prod.mk.injEq] at h
        obtain ⟨_, e2, _, e4⟩ := h
        exact Or.inl ⟨cs, cr.nameLen, e4.symm, e2.symm⟩

/-- text given back by `unconsume_name` / `finish_named` after `nb ++ [c]` was collected: it does not
count as travelling any more -/
theorem tripF_drop_back (nb : Str) (c : Char) (rest : Str) (k : Nat) (h : ∀ x ∈ nb, runCh x = true) :
    tripF false ((nb ++ [c]).drop k ++ rest) ≤ tripF true (c :: rest) := by
  by_cases hk : k ≤ nb.length
  · rw [List.drop_append_of_le_length hk, List.append_assoc, List.singleton_append,
      tripF_false_run _ _ (fun x hx => h x (List.mem_of_mem_drop hx))]
    exact tripF_le_true false _
  · have : (nb ++ [c]).drop k = [] := by
      apply List.drop_eq_nil_of_le; simp; omega
    rw [this, List.nil_append]
    exact tripF_suffix true [c] rest

theorem length_drop_back (nb : Str) (c : Char) (rest : Str) (k : Nat) :
    ((nb ++ [c]).drop k ++ rest).length ≤ nb.length + (rest.length + 1) := by
  simp only [List.length_append, List.length_drop, List.length_cons, List.length_nil]
  omega

theorem crStep_term (o : Opts) (m : Mach) (inp : Str) (cr : CharRefSt)
    (hr : m.reconsume = false) (ht : CRT cr) :
    CRDec cr inp (crStep o m inp cr) := by
  unfold crStep
  cases inp with
  | nil => simp only [peek, hr, Bool.false_eq_true, ↓reduceIte, List.head?_nil]; exact ⟨rfl, rfl⟩
  | cons c rest =>
    simp only [peek, hr, Bool.false_eq_true, ↓reduceIte, List.head?_cons]
    have hd : discardChar m (c :: rest) = (m, rest) := by simp [discardChar, hr]
    have hsuf : tripF false rest ≤ tripF false (c :: rest) := tripF_suffix false [c] rest
    -- while a name is collected in `nb`: the register after pushing a travelling character weighs less,
    -- and so does whatever part of `nb ++ [c]` is given back
    have name : ∀ nb, cr.nameBuf = some nb → (cr.state = .named ∨ cr.state = .bogusName) →
        (∀ cr1 : CharRefSt, (cr1.state = .named ∨ cr1.state = .bogusName) → cr1.nameBuf = some (nb ++ [c]) →
          cr1.hexMarker = cr.hexMarker → runCh c = true → CRT cr1 ∧ crW cr1 rest < crW cr (c :: rest)) ∧
        (∀ k, 16 * ((nb ++ [c]).drop k ++ rest).length + tripF false ((nb ++ [c]).drop k ++ rest)
          ≤ crW cr (c :: rest)) := by
      intro nb hnb hs
      have hrun : ∀ x ∈ nb, runCh x = true := by simpa [hnb] using ht.nbRun
      have hw : crW cr (c :: rest) = 16 * (nb.length + (rest.length + 1)) + tripF true (c :: rest) + 1 := by
        rcases hs with hs | hs <;> simp [crW, crStash, crFlag, crRank, hs, hnb]
      refine ⟨fun cr1 q1 q2 q3 q4 => ⟨⟨?_, by rw [q3]; exact ht.hexOk⟩, ?_⟩, fun k => ?_⟩
      · rw [q2]
        intro x hx
        simp only [Option.getD_some] at hx
        rcases List.mem_append.mp hx with hx | hx
        · exact hrun x hx
        · simp only [List.mem_cons, List.not_mem_nil, or_false] at hx
          subst hx; exact q4
      · rw [hw, tripF_true_cons_run _ _ q4]
        rcases q1 with q1 | q1 <;> simp [crW, crStash, crFlag, crRank, q1, q2] <;> omega
      · have := tripF_drop_back nb c rest k hrun
        have := length_drop_back nb c rest k
        rw [hw]; omega
    cases hst : cr.state with
    | begin =>
      dsimp only
      split
      · refine ⟨⟨by simp, ht.hexOk⟩, ?_⟩
        simp [crW, crStash, crFlag, crRank, hst]
      · split
        · rename_i hh
          rw [hd]
          refine ⟨⟨ht.nbRun, ht.hexOk⟩, ?_⟩
          subst hh
          simp only [crW, crStash, crFlag, crRank, hst, tripF_true_hash, List.length_cons]
          omega
        · show 16 * (c :: rest).length + tripF false (c :: rest) ≤ crW cr (c :: rest)
          have := tripF_le_true false (c :: rest)
          simp only [crW, crStash, crFlag, crRank, hst]
          omega
    | octothorpe =>
      dsimp only
      split
      · rename_i hx
        rw [hd]
        have hcx : c = 'x' ∨ c = 'X' := by simpa using hx
        refine ⟨⟨ht.nbRun, ?_⟩, ?_⟩
        · intro c' hc'; simp only [Option.some.injEq] at hc'; subst hc'; exact hcx
        · simp only [crW, crStash, crFlag, crRank, hst, List.length_cons, Option.isSome_some, ↓reduceIte]
          split <;> omega
      · refine ⟨⟨ht.nbRun, by simp⟩, ?_⟩
        simp only [crW, crStash, crFlag, crRank, hst, Option.isSome_none, Bool.false_eq_true, ↓reduceIte]
        split <;> omega
    | numeric base =>
      dsimp only
      cases htd : toDigit c base with
      | some n =>
        dsimp only
        rw [hd]
        refine ⟨⟨ht.nbRun, ht.hexOk⟩, ?_⟩
        simp only [crW, crStash, crFlag, crRank, hst, List.length_cons, ↓reduceIte]
        split <;> omega
      | none =>
        dsimp only
        split
        · rename_i hsd
          have hsd' : cr.seenDigit = false := by simpa using hsd
          unfold unconsumeNumeric
          show 16 * (('#' :: (match cr.hexMarker with | some c => [c] | none => [])) ++ c :: rest).length
            + tripF false (('#' :: (match cr.hexMarker with | some c => [c] | none => [])) ++ c :: rest)
            ≤ crW cr (c :: rest)
          simp only [crW, crStash, crFlag, crRank, hst, hsd', Bool.false_eq_true, ↓reduceIte]
          rw [List.cons_append, tripF_false_cons _ _ (by decide)]
          cases hh : cr.hexMarker with
          | none => simp; omega
          | some y =>
            simp only [List.cons_append, List.nil_append, tripF_false_cons _ _ (hex_ne_amp (ht.hexOk y hh)),
              List.length_cons, Option.isSome_some, ↓reduceIte]
            omega
        · rename_i hsd
          have hsd' : cr.seenDigit = true := by simpa using hsd
          refine ⟨⟨ht.nbRun, ht.hexOk⟩, ?_⟩
          simp [crW, crStash, crFlag, crRank, hst, hsd']
    | numericSemicolon =>
      dsimp only
      have hw : crW cr (c :: rest) = 16 * (c :: rest).length + tripF false (c :: rest) := by
        simp [crW, crStash, crFlag, crRank, hst]
      split
      · rw [hd]
        obtain ⟨m1, ch, hf⟩ := finishNumericStatus_ok o m rest cr
        rw [hf]
        show 16 * rest.length + tripF false rest ≤ crW cr (c :: rest)
        rw [hw]; simp only [List.length_cons]; omega
      · obtain ⟨m1, ch, hf⟩ := finishNumericStatus_ok o
          (emitErr m "Semicolon missing after numeric character reference") (c :: rest) cr
        rw [hf]
        show 16 * (c :: rest).length + tripF false (c :: rest) ≤ crW cr (c :: rest)
        rw [hw]; exact Nat.le_refl _
    | named =>
      rw [hd]
      dsimp only
      cases hnb : cr.nameBuf with
      | none => trivial
      | some nb =>
        dsimp only
        obtain ⟨push, back⟩ := name nb hnb (Or.inl hst)
        cases hlk : entityLookup (nb ++ [c]) with
        | some mt =>
          dsimp only
          have hcrun : runCh c = true := lookup_runCh _ _ hlk c (by simp)
          split
          · exact push _ (Or.inl (by simp)) rfl rfl hcrun
          · exact push _ (Or.inl (by simp)) rfl rfl hcrun
        | none =>
          dsimp only
          cases hfn : finishNamed o m rest { cr with state := .named, nameBuf := some (nb ++ [c]) } (some c) with
          | error e => trivial
          | ok v =>
            obtain ⟨m1, i1, cr1, st⟩ := v
            rcases finishNamed_shape o m rest _ (some c) (nb ++ [c]) m1 i1 cr1 st rfl hfn with
              ⟨chars, k, e1, e2⟩ | ⟨e1, e2, e3, c', e4, e5⟩
            · subst e1 e2
              exact back k
            · subst e1 e2
              simp only [Option.some.injEq] at e4
              subst e4
              exact push _ (Or.inr e3.1) e3.2.1 e3.2.2 (alnum_runCh e5)
    | bogusName =>
      rw [hd]
      dsimp only
      cases hnb : cr.nameBuf with
      | none => trivial
      | some nb =>
        dsimp only
        obtain ⟨push, back⟩ := name nb hnb (Or.inr hst)
        split
        · rename_i hal
          exact push _ (Or.inr rfl) rfl rfl (alnum_runCh hal)
        · exact back 0

/-! ### the step-level invariant and the decrease -/

/-- invariant at step boundaries: the line-accounting invariant (which contains the no-panic
invariant `Safe` and the look-ahead discipline) plus: `name_buf` holds alphanumerics/`;` only and
the hex marker is `x`/`X` -/
structure TInv (m : Mach) : Prop where
  linv : LInv m
  crt : ∀ cr, m.charRef = some cr → CRT cr

theorem TInv.of_none {m : Mach} (h : LInv m) (hcr : m.charRef = none) : TInv m :=
  ⟨h, fun cr hc => by rw [hcr] at hc; simp at hc⟩

theorem crStateOk_facts {s : State} (h : crStateOk s) :
    s ≠ .markupDeclarationOpen ∧ s ≠ .afterDoctypeName ∧ base s = 0 := by
  rcases h with h | h | ⟨k, h⟩ <;> subst h <;> simp [base]

/-- **a step inside a character reference taken apart**: the sub-tokenizer is stuck on an empty queue,
or made progress (its weight went down), or is done: then the reference is processed, and what is left
in the queue weighs no more than the reference did -/
theorem stepCharRef_leaves {P : R → Prop} (o : Opts) {m : Mach} (inp : Str) {cr : CharRefSt} (hi : TInv m)
    (hcr : m.charRef = some cr)
    (hStuck : ∀ m1 : Mach, m1.reconsume = false → P (.suspend (m1.setCharRef (some cr)) []))
    (hProg : ∀ (m1 : Mach) i1 cr1, m1.reconsume = false → CRT cr1 → crW cr1 i1 < crW cr inp →
      P (.cont (m1.setCharRef (some cr1)) i1))
    (hDone : ∀ (ms : Mach × Sig) i1, ms.1.charRef = none → ms.1.reconsume = false → stash ms.1 = [] →
      base ms.1.state = 0 →
      16 * i1.length + tripF false i1 ≤ crW cr inp → P (ofSig ms i1)) :
    P (stepCharRef o m inp cr) := by
  obtain ⟨_, c2, _⟩ := hi.linv.cr cr hcr
  have hstate := crStateOk_facts (hi.linv.safe.crState cr hcr)
  have hdec := crStep_term o m inp cr c2 (hi.crt cr hcr)
  obtain ⟨m1, i1, cr1, st, hc, _⟩ := crStep_safe o m inp cr (hi.linv.safe.crRegs cr hcr)
  have hw := crStep_weaker o m m1 inp i1 cr cr1 st hc
  have hr1 : m1.reconsume = false := by
    cases hx : m1.reconsume with
    | false => rfl
    | true => have := hw.2.2.2.1 hx; rw [c2] at this; cases this
  unfold stepCharRef
  rw [hc] at hdec ⊢
  cases st with
  | stuck =>
    obtain ⟨rfl, rfl⟩ : cr1 = cr ∧ i1 = [] := hdec
    exact hStuck m1 hr1
  | progress =>
    obtain ⟨d1, d2⟩ : CRT cr1 ∧ crW cr1 i1 < crW cr inp := hdec
    exact hProg m1 i1 cr1 hr1 d1 d2
  | done chars =>
    have hp := processCharRef_fields m1 chars
    have hst : ((processCharRef m1 chars).1.setCharRef none).state = m.state := by simp [hp.1, hw.1]
    exact hDone (_, _) i1 (by simp) (by simp only [setCharRef_reconsume, hp.2.2.2.1]; exact hr1)
      (stash_plain (by simp) (by rw [hst]; exact hstate.1) (by rw [hst]; exact hstate.2.1))
      (by rw [hst]; exact hstate.2.2) hdec

/-! ### taking a step apart -/

theorem LInv.eatSt {m : Mach} (hl : LInv m) (hcr : m.charRef = none) (inp : Str)
    (hk : m.state = .markupDeclarationOpen ∨ m.state = .afterDoctypeName) : EatSt m.state (Phi m inp) m inp :=
  ⟨rfl, hcr, hl.peekNoRecon (Or.inr hk), hl.eatOk hk, by unfold Phi; rw [stash_eat hcr hk]⟩

theorem LInv.bav {m : Mach} (hl : LInv m) (hs : m.state = .beforeAttributeValue) :
    m.reconsume = false ∧ m.tempBuf = [] :=
  ⟨hl.peekNoRecon (Or.inl hs), hl.nr (by rw [hs]; rfl) (by rw [hs]; simp) (by rw [hs]; simp)⟩

/-- **the ways a step outside a character reference can go**: a read (`get_char`, `pop_except_from`, the
data-state reader) that found nothing and suspends, the table applied to what a read delivered, or one
of the three look-ahead states -/
theorem step_kinds {P : R → Prop} (o : Opts) (pol : Pol) {m : Mach} (inp : Str) (hcr : m.charRef = none)
    (hNone : ∀ m1, m.state ≠ .markupDeclarationOpen → m.state ≠ .afterDoctypeName → m.reconsume = false →
      (m1 = m ∨ m1 = m.setIgnoreLf false) → P (.suspend m1 []))
    (hChar : ∀ c m1 i1, readKind m.state = .getChar → getChar o m inp = (some c, m1, i1) →
      P (ofSig (transChar o pol m1 c) i1))
    (hSet : ∀ sr m1 i1, (readKind m.state = .popExcept ∨ readKind m.state = .dataSimd) → ReadOk m m1 sr →
      SetShape m inp sr i1 → P (ofSig (transSet o pol m1 sr) i1))
    (hBav : m.state = .beforeAttributeValue → P (stepBav o pol m inp))
    (hMdo : m.state = .markupDeclarationOpen → P (stepMdo o pol m inp))
    (hAdn : m.state = .afterDoctypeName → P (stepAdn o pol m inp)) :
    P (step o pol m inp) := by
  -- the two set readers
  have set : ∀ rd, (readKind m.state = .popExcept ∨ readKind m.state = .dataSimd) →
      (∀ sr m1 i1, rd = (some sr, m1, i1) → ReadOk m m1 sr ∧ SetShape m inp sr i1) →
      (∀ m1 i1, rd = (none, m1, i1) → i1 = [] ∧ m.reconsume = false ∧
        ((inp = [] ∧ m1 = m) ∨ (inp = ['\n'] ∧ m.ignoreLf = true ∧ m1 = m.setIgnoreLf false))) →
      P (contSet o pol rd) := by
    intro rd hk hs hn
    have hsf := readKind_state_facts hk
    obtain ⟨oc, m1, i1⟩ := rd
    cases oc with
    | none =>
      obtain ⟨g1, g2, g3⟩ := hn m1 i1 rfl
      subst g1
      exact hNone m1 hsf.1 hsf.2.1 g2 (g3.imp (·.2) (·.2.2))
    | some sr => exact hSet sr m1 i1 hk (hs sr m1 i1 rfl).1 (hs sr m1 i1 rfl).2
  cases hrk : readKind m.state with
  | getChar =>
    have hf := readKind_getChar_facts hrk
    rw [step_getChar o pol m inp hcr hrk]
    cases hgc : getChar o m inp with
    | mk oc r =>
      obtain ⟨m1, i1⟩ := r
      cases oc with
      | none =>
        obtain ⟨g1, g2, g3⟩ := getChar_none o m m1 inp i1 hgc
        subst g1
        exact hNone m1 hf.1 hf.2.2 g2 (g3.imp (·.2) (·.2.2))
      | some c => exact hChar c m1 i1 hrk hgc
  | popExcept =>
    rw [step_popExcept o pol m inp hcr hrk]
    exact set _ (Or.inl hrk)
      (fun sr m1 i1 h => ⟨popExceptFrom_fields o _ m m1 inp i1 sr h, popExceptFrom_shape o _ m m1 inp i1 sr h⟩)
      (fun m1 i1 h => popExceptFrom_none o _ m m1 inp i1 h)
  | dataSimd =>
    rw [step_dataSimd o pol m inp hcr hrk]
    exact set _ (Or.inr hrk)
      (fun sr m1 i1 h => ⟨readData_fields o m m1 inp i1 sr h, readData_shape o m m1 inp i1 sr h⟩)
      (fun m1 i1 h => readData_none o m m1 inp i1 h)
  | peekBav => rw [step_kind_bav o pol m inp hcr hrk]; exact hBav (readKind_bav hrk)
  | eatMdo => rw [step_kind_mdo o pol m inp hcr hrk]; exact hMdo (readKind_mdo hrk)
  | eatAdn => rw [step_kind_adn o pol m inp hcr hrk]; exact hAdn (readKind_adn hrk)

/-- outside a character reference a step leaves `char_ref_tokenizer` empty or starts a fresh one -/
theorem step_charRef_after (o : Opts) (pol : Pol) (m : Mach) (inp : Str) (hcr : m.charRef = none)
    (m' : Mach) (i' : Str) (h : (step o pol m inp).pair? = some (m', i')) :
    m'.charRef = none ∨ ∃ b, m'.charRef = some { inAttr := b } := by
  refine step_kinds (P := fun r => r.pair? = some (m', i') → _) o pol inp hcr ?_ ?_ ?_ ?_ ?_ ?_ h
  · intro m1 _ _ _ hm h
    cases h
    rcases hm with rfl | rfl <;> simp [hcr]
  · intro c m1 i1 _ hgc h
    rw [(ofSig_pair _ _ _ _ h).1]
    left
    rw [transChar_charRef, (getChar_fields o m m1 inp i1 c hgc).2.2.2.1, hcr]
  · intro sr m1 i1 hk ⟨g1, _, _, g4, _⟩ _ h
    rw [(ofSig_pair _ _ _ _ h).1]
    rcases (transSet_charRef o pol m1 sr (by rw [g4, hcr]) (by rw [g1]; exact hk)).2 with hx | ⟨hx, _, _⟩
    · exact Or.inl hx
    · exact Or.inr ⟨_, hx⟩
  · intro _ h
    left; rw [(stepBav_charRef o pol m inp).2 m' (pair_mach _ _ _ h), hcr]
  · intro _ h
    left; rw [(stepMdo_charRef o pol m inp).2 m' (pair_mach _ _ _ h), hcr]
  · intro hs h
    left; rw [(stepAdn_charRef o pol m inp hs).2 m' (pair_mach _ _ _ h), hcr]

/-- **the ways a step outside a character reference can go, under the invariant**: it suspends on an
empty queue with a plain stash and no pending `reconsume`; the table is applied to what a read of the
state's own kind delivered; a peeking or look-ahead state moves on without the table (through the sink
only when `before-attribute-value` consumed a `>`); or `after-doctype-name` applies the table to the
character after the absent keywords -/
theorem step_leaves {P : R → Prop} (o : Opts) (pol : Pol) {m : Mach} (inp : Str) (hl : LInv m)
    (hcr : m.charRef = none)
    (hSusp : ∀ m1, m1.charRef = none → m1.reconsume = false → SP m1 → P (.suspend m1 []))
    (hChar : ∀ c m1 i1, readKind m.state = .getChar → getChar o m inp = (some c, m1, i1) →
      P (ofSig (transChar o pol m1 c) i1))
    (hSet : ∀ sr m1 i1, (readKind m.state = .popExcept ∨ readKind m.state = .dataSimd) → ReadOk m m1 sr →
      SetShape m inp sr i1 → P (ofSig (transSet o pol m1 sr) i1))
    (hMove : ∀ ms i' a, m.reconsume = false → ms.1.charRef = none → ms.1.reconsume = false →
      stash ms.1 = [] → stash m ++ inp = a ++ i' → (a ≠ [] ∨ base ms.1.state < base m.state) →
      (ms.2.isPause = true → '>' ∈ inp) → P (ofSig ms i'))
    (hTail : ∀ c m1 i1 a c0, m.reconsume = false → m1.reconsume = false →
      (transChar o pol m1 c).1.charRef = none → stash (transChar o pol m1 c).1 = [] →
      (transChar o pol m1 c).1.currentChar = c → stash m ++ inp = a ++ c0 :: i1 → c = foldCh c0 →
      P (ofSig (transChar o pol m1 c) i1)) :
    P (step o pol m inp) := by
  have look : (m.state = .markupDeclarationOpen ∨ m.state = .afterDoctypeName) → m.reconsume = false →
      LookLeaves P m inp := by
    intro hk hr
    refine ⟨fun m1 c1 c2 c3 => hSusp m1 c1 c2 (SP.of_tempBuf c3), fun m' i' a d1 d2 d3 d4 d5 d6 d7 => ?_⟩
    refine hMove (m', .cont) i' a hr d1 d2 (stash_plain d1 d4 d5) (by rw [stash_eat hcr hk]; exact d6) ?_ nofun
    rcases hk with hk | hk <;> rw [hk] <;> exact d7
  refine step_kinds o pol inp hcr ?_ hChar hSet ?_ ?_ ?_
  · intro m1 h1 h2 hr hm
    rcases hm with rfl | rfl
    · exact hSusp _ hcr hr (SP.of_nil (stash_plain hcr h1 h2))
    · exact hSusp _ (by simp [hcr]) (by simp [hr])
        (SP.of_nil (stash_plain (by simp [hcr]) (by simpa using h1) (by simpa using h2)))
  · intro hst
    obtain ⟨hr, htb⟩ := hl.bav hst
    refine stepBav_leaves o pol inp hr ?_ ?_
    · intro m1 c1 c2 c3
      exact hSusp m1 (c1.trans hcr) c2 (SP.of_tempBuf (by rw [c3, htb]; nofun))
    · intro ms i' a c1 c2 c3 e hq
      refine hMove ms i' a hr (c1.trans hcr) c2 (stash_nil_of (c1.trans hcr) (fun _ => c3.trans htb))
        (by rw [stash_nil_of hcr (fun _ => htb)]; exact e) ?_
      rcases hq with hq | hq
      · exact Or.inl hq
      · right; rw [hq, hst]; decide
  · intro hst
    have h0 := hl.eatSt hcr inp (Or.inl hst)
    rw [hst] at h0
    exact stepMdo_leaves o pol h0 (look (Or.inl hst) h0.nrec)
  · intro hst
    have h0 := hl.eatSt hcr inp (Or.inr hst)
    rw [hst] at h0
    rw [stash_eat hcr (Or.inr hst)] at hTail
    exact stepAdn_leaves o pol h0 (look (Or.inr hst) h0.nrec) (fun c m1 i1 a c0 => hTail c m1 i1 a c0 h0.nrec)

/-- **the invariant is preserved by every step** (whatever the step answers) -/
theorem step_tinv (o : Opts) (pol : Pol) (m : Mach) (inp : Str) (hi : TInv m) (m' : Mach) (i' : Str)
    (h : (step o pol m inp).pair? = some (m', i')) : TInv m' := by
  refine ⟨(step_lines o pol m inp hi.linv m' i' h).1, ?_⟩
  cases hcr : m.charRef with
  | some cr =>
    rw [step_kind_charRef o pol m inp cr hcr] at h
    refine stepCharRef_leaves (P := fun r => r.pair? = some (m', i') → ∀ cr', m'.charRef = some cr' → CRT cr')
      o inp hi hcr ?_ ?_ ?_ h
    · intro m1 _ h cr' hcr'
      cases h
      rw [setCharRef_charRef, Option.some.injEq] at hcr'
      exact hcr' ▸ hi.crt cr hcr
    · intro m1 i1 cr1 _ hc _ h cr' hcr'
      cases h
      rw [setCharRef_charRef, Option.some.injEq] at hcr'
      exact hcr' ▸ hc
    · intro ms i1 d1 _ _ _ _ h cr' hcr'
      rw [(ofSig_pair _ _ _ _ h).1, d1] at hcr'
      cases hcr'
  | none =>
    intro cr' hcr'
    rcases step_charRef_after o pol m inp hcr m' i' h with hx | ⟨b, hx⟩
    · rw [hx] at hcr'; simp at hcr'
    · rw [hx] at hcr'
      simp only [Option.some.injEq] at hcr'
      subst hcr'
      exact CRT.fresh b

/-- **every `Continue` step strictly decreases the measure** -/
theorem step_dec (o : Opts) (pol : Pol) (m : Mach) (inp : Str) (hi : TInv m) (m' : Mach) (i' : Str)
    (h : step o pol m inp = .cont m' i') : mu m' i' < mu m inp := by
  have hl := hi.linv
  cases hcr : m.charRef with
  | some cr =>
    rw [step_kind_charRef o pol m inp cr hcr] at h
    refine stepCharRef_leaves (P := fun r => r = .cont m' i' → _) o inp hi hcr ?_ ?_ ?_ h
    · exact fun _ _ => nofun
    · intro m1 i1 cr1 _ _ hlt h
      cases h
      rw [mu_some' hcr, mu_some' (m := m1.setCharRef (some cr1)) (cr := cr1) (by simp)]
      omega
    · intro ms i1 d1 d2 d3 d4 d5 h
      obtain ⟨rfl, rfl⟩ := ofSig_cont _ _ _ _ h
      rw [mu_some' hcr, mu_none d1, rc_false d2, d2, d3, d4]
      simp only [List.nil_append, List.length_nil, Bool.false_eq_true, ↓reduceIte]
      omega
  | none =>
    refine step_leaves (P := fun r => r = .cont m' i' → _) o pol inp hl hcr ?_ ?_ ?_ ?_ ?_ h
    · exact fun _ _ _ _ => nofun
    · exact dec_getChar o pol m inp hl hcr m' i'
    · exact dec_set o pol m inp hcr m' i'
    · intro ms ix a hr d1 d2 d3 d4 d5 _ h
      obtain ⟨rfl, rfl⟩ := ofSig_cont _ _ _ _ h
      exact mu_dec_plain hcr hr d1 d2 d3 d4 d5
    · intro c m1 i1 a c0 hr _ a4 a5 hcc e g h
      obtain ⟨rfl, rfl⟩ := ofSig_cont _ _ _ _ h
      exact mu_dec_consume hcr hr a4 a5 e (fun _ => by rw [hcc, g])

/-! ### whole runs -/

/-- **`run` never runs out of fuel** when it is given more than the measure -/
theorem run_terminates (o : Opts) (pol : Pol) (fuel : Nat) (m : Mach) (inp : Str) (hi : TInv m)
    (hf : mu m inp < fuel) : run o pol fuel m inp ≠ .outOfFuel := by
  induction fuel generalizing m inp with
  | zero => omega
  | succ n ih =>
    unfold run
    cases hs : step o pol m inp with
    | cont m1 i1 =>
      simp only
      have hd := step_dec o pol m inp hi m1 i1 hs
      exact ih m1 i1 (step_tinv o pol m inp hi m1 i1 (by rw [hs]; rfl)) (by omega)
    | suspend m1 i1 => simp
    | script m1 i1 => simp
    | indicator m1 i1 => simp
    | panic e => simp

/-- **fuel irrelevance**: more fuel than needed changes nothing -/
theorem run_fuel_mono (o : Opts) (pol : Pol) (n k : Nat) (m : Mach) (inp : Str)
    (h : run o pol n m inp ≠ .outOfFuel) (hk : n ≤ k) : run o pol k m inp = run o pol n m inp := by
  induction n generalizing k m inp with
  | zero => exact absurd rfl h
  | succ n ih =>
    cases k with
    | zero => omega
    | succ k =>
      unfold run at h ⊢
      cases hs : step o pol m inp with
      | cont m1 i1 =>
        rw [hs] at h
        exact ih k m1 i1 h (by omega)
      | suspend m1 i1 => rfl
      | script m1 i1 => rfl
      | indicator m1 i1 => rfl
      | panic e => rfl

/-- the machine and left-over input a run ends with -/
def RunRes.pair? : RunRes → Option (Mach × Str)
  | .done m i | .script m i | .indicator m i => some (m, i)
  | .panic _ | .outOfFuel => none

/-- the invariant holds wherever a run stops (suspension or pause) -/
theorem run_tinv (o : Opts) (pol : Pol) (fuel : Nat) (m : Mach) (inp : Str) (hi : TInv m)
    (m' : Mach) (i' : Str) (h : (run o pol fuel m inp).pair? = some (m', i')) : TInv m' := by
  induction fuel generalizing m inp with
  | zero => simp [run, RunRes.pair?] at h
  | succ n ih =>
    unfold run at h
    cases hs : step o pol m inp with
    | cont m1 i1 =>
      rw [hs] at h
      exact ih m1 i1 (step_tinv o pol m inp hi m1 i1 (by rw [hs]; rfl)) h
    | suspend m1 i1 | script m1 i1 | indicator m1 i1 =>
      rw [hs] at h
      simp only [RunRes.pair?, Option.some.injEq, Prod.mk.injEq] at h
      obtain ⟨e1, e2⟩ := h; subst e1 e2
      exact step_tinv o pol m inp hi m1 i1 (by rw [hs]; rfl)
    | panic e => rw [hs] at h; simp [RunRes.pair?] at h

theorem run_no_panic (o : Opts) (pol : Pol) (fuel : Nat) (m : Mach) (inp : Str) (hi : TInv m) (e : String) :
    run o pol fuel m inp ≠ .panic e := by
  induction fuel generalizing m inp with
  | zero => simp [run]
  | succ n ih =>
    unfold run
    cases hs : step o pol m inp with
    | cont m1 i1 => exact ih m1 i1 (step_tinv o pol m inp hi m1 i1 (by rw [hs]; rfl))
    | suspend m1 i1 => simp
    | script m1 i1 => simp
    | indicator m1 i1 => simp
    | panic x => exact absurd hs ((step_safe o pol m inp hi.linv.safe).1 x)

theorem runsTo_tinv (o : Opts) (pol : Pol) {m : Mach} {inp : Str} {m' : Mach}
    (hrun : RunsTo o pol m inp m') : TInv m → TInv m' := by
  induction hrun with
  | @susp m0 i0 m0' hs => intro hi; exact step_tinv o pol m0 i0 hi m0' [] (by rw [hs]; rfl)
  | @cont m0 i0 mx ix m0' hs _ ih | @script m0 i0 mx ix m0' hs _ ih | @indicator m0 i0 mx ix m0' hs _ ih =>
    intro hi; exact ih (step_tinv o pol m0 i0 hi mx ix (by rw [hs]; rfl))

/-- after any sequence of chunks, each run to suspension, the invariant holds -/
theorem session_tinv (o : Opts) (pol : Pol) {m : Mach} {cs : List Str} {mf : Mach}
    (hs : Session o pol m cs mf) : TInv m → TInv mf := by
  induction hs with
  | nil => exact id
  | cons hr _ ih => intro hi; exact ih (runsTo_tinv o pol hr hi)

/-! ### the invariant on fresh machines and under the setters of `feed` / `end` -/

theorem tinv_fresh (m : Mach) (h1 : m.tempBuf = []) (h2 : m.reconsume = false) (h3 : m.charRef = none) :
    TInv m := TInv.of_none (linv_fresh m h1 h2 h3) h3

/-- the invariant only looks at these registers -/
theorem LInv.congr {m m' : Mach} (hi : LInv m) (h1 : m'.state = m.state) (h2 : m'.charRef = m.charRef)
    (h3 : m'.tempBuf = m.tempBuf) (h4 : m'.reconsume = m.reconsume) (h5 : m'.ignoreLf = m.ignoreLf)
    (h6 : m'.currentChar = m.currentChar) : LInv m' where
  safe := ⟨fun cr h => by rw [h1]; exact hi.safe.crState cr (by rw [← h2]; exact h),
           fun cr h => hi.safe.crRegs cr (by rw [← h2]; exact h)⟩
  eatOk := by
    intro hs hil
    rw [h3]
    exact hi.eatOk (by rw [← h1]; exact hs) (by rw [← h5]; exact hil)
  nr := by rw [h1, h3]; exact hi.nr
  peekNoRecon := by rw [h1, h4]; exact hi.peekNoRecon
  ri := by rw [h4, h5, h6]; exact hi.ri
  stashOk := by rw [stash_congr h1 h3 h2]; exact hi.stashOk
  cr := by rw [h2, h4, h5]; exact hi.cr

theorem TInv.congr {m m' : Mach} (hi : TInv m) (h1 : m'.state = m.state) (h2 : m'.charRef = m.charRef)
    (h3 : m'.tempBuf = m.tempBuf) (h4 : m'.reconsume = m.reconsume) (h5 : m'.ignoreLf = m.ignoreLf)
    (h6 : m'.currentChar = m.currentChar) : TInv m' :=
  ⟨hi.linv.congr h1 h2 h3 h4 h5 h6, by rw [h2]; exact hi.crt⟩

theorem TInv.setAtEof {m : Mach} (hi : TInv m) (b : Bool) : TInv (m.setAtEof b) :=
  hi.congr (by simp) (by simp) (by simp) (by simp) (by simp) (by simp)

theorem TInv.setDiscardBom {m : Mach} (hi : TInv m) (b : Bool) : TInv (m.setDiscardBom b) :=
  hi.congr (by simp) (by simp) (by simp) (by simp) (by simp) (by simp)

theorem feedBom_tinv (m : Mach) (inp : Str) (hi : TInv m) : TInv (feedBom m inp).1 := by
  unfold feedBom
  cases inp with
  | nil => exact hi
  | cons c rest =>
    dsimp only
    split
    · exact hi.setDiscardBom false
    · exact hi

/-- **`feed` never runs out of the fuel it hands to `run`** -/
theorem feed_terminates (o : Opts) (pol : Pol) (m : Mach) (inp chunk : Str) (hi : TInv m) :
    feed o pol m inp chunk ≠ .outOfFuel := by
  unfold feed
  dsimp only
  split
  · simp
  · exact run_terminates o pol _ _ _ (feedBom_tinv m _ hi) (mu_lt_fuelFor _ _)

/-- wherever `feed` stops (needs more input, or a Script / EncodingIndicator pause) the invariant
holds again: the next `feed` terminates, too -/
theorem feed_tinv (o : Opts) (pol : Pol) (m : Mach) (inp chunk : Str) (hi : TInv m)
    (m' : Mach) (i' : Str) (h : (feed o pol m inp chunk).pair? = some (m', i')) : TInv m' := by
  unfold feed at h
  dsimp only at h
  split at h
  · simp only [RunRes.pair?, Option.some.injEq, Prod.mk.injEq] at h
    rw [← h.1]; exact hi
  · exact run_tinv o pol _ _ _ (feedBom_tinv m _ hi) m' i' h

theorem feed_no_panic (o : Opts) (pol : Pol) (m : Mach) (inp chunk : Str) (hi : TInv m) (e : String) :
    feed o pol m inp chunk ≠ .panic e := by
  unfold feed
  dsimp only
  split
  · simp
  · exact run_no_panic o pol _ _ _ (feedBom_tinv m _ hi) e

/-! ### a step that asks for more input has drained the queue (also at EOF) -/

theorem ofSig_ne_suspend (ms : Mach × Sig) (inp : Str) (m' : Mach) (i' : Str) :
    ofSig ms inp ≠ .suspend m' i' := by
  intro h
  have := ofSig_not_suspend ms inp
  rw [h] at this
  simp [R.isSuspend] at this

/-- **a step that asks for more input has consumed all there was** (no `at_eof` hypothesis: also
inside `Tokenizer::end`) -/
theorem step_suspend_nil (o : Opts) (pol : Pol) (m : Mach) (inp : Str) (hi : TInv m) (m' : Mach) (i' : Str)
    (h : step o pol m inp = .suspend m' i') : i' = [] := by
  cases hcr : m.charRef with
  | some cr =>
    rw [step_kind_charRef o pol m inp cr hcr] at h
    refine stepCharRef_leaves (P := fun r => r = .suspend m' i' → _) o inp hi hcr ?_ ?_ ?_ h
    · intro m1 _ h
      cases h
      rfl
    · exact fun _ _ _ _ _ _ => nofun
    · exact fun _ _ _ _ _ _ _ h => absurd h (ofSig_ne_suspend _ _ _ _)
  | none =>
    refine step_leaves (P := fun r => r = .suspend m' i' → _) o pol inp hi.linv hcr ?_ ?_ ?_ ?_ ?_ h
    · intro m1 _ _ _ h
      cases h
      rfl
    · exact fun _ _ _ _ _ h => absurd h (ofSig_ne_suspend _ _ _ _)
    · exact fun _ _ _ _ _ _ h => absurd h (ofSig_ne_suspend _ _ _ _)
    · exact fun _ _ _ _ _ _ _ _ _ _ h => absurd h (ofSig_ne_suspend _ _ _ _)
    · exact fun _ _ _ _ _ _ _ _ _ _ _ _ h => absurd h (ofSig_ne_suspend _ _ _ _)

theorem run_done_nil (o : Opts) (pol : Pol) (fuel : Nat) (m : Mach) (inp : Str) (hi : TInv m)
    (m' : Mach) (i' : Str) (h : run o pol fuel m inp = .done m' i') : i' = [] := by
  induction fuel generalizing m inp with
  | zero => simp [run] at h
  | succ n ih =>
    unfold run at h
    cases hs : step o pol m inp with
    | cont m1 i1 =>
      rw [hs] at h
      exact ih m1 i1 (step_tinv o pol m inp hi m1 i1 (by rw [hs]; rfl)) h
    | suspend m1 i1 =>
      rw [hs] at h
      simp only [RunRes.done.injEq] at h
      rw [← h.2]; exact step_suspend_nil o pol m inp hi m1 i1 hs
    | script m1 i1 => rw [hs] at h; simp at h
    | indicator m1 i1 => rw [hs] at h; simp at h
    | panic e => rw [hs] at h; simp at h

/-! ### the `eof_step` loop -/

def rawRank : RawKind → Nat
  | .scriptDataEscaped _ => 1
  | _ => 0

/-- number of `eof_step` rounds before the one that emits EOF -/
def eofRank : State → Nat
  | .data | .plaintext => 0
  | .rawData k => rawRank k
  | .rawLessThanSign k | .rawEndTagOpen k | .rawEndTagName k => 1 + rawRank k
  | .scriptDataEscapeStart _ | .scriptDataDoubleEscapeEnd | .beforeAttributeValue
  | .commentLessThanSign | .commentLessThanSignBang | .commentLessThanSignBangDash
  | .commentLessThanSignBangDashDash | .markupDeclarationOpen | .cdataSectionBracket | .cdataSectionEnd => 2
  | .tagName | .beforeAttributeName | .attributeName | .afterAttributeName | .attributeValue _
  | .afterAttributeValueQuoted | .selfClosingStartTag | .scriptDataEscapedDash _ | .scriptDataEscapedDashDash _
  | .tagOpen | .endTagOpen | .scriptDataEscapeStartDash
  | .commentStart | .commentStartDash | .comment | .commentEndDash | .commentEnd | .commentEndBang
  | .doctype | .beforeDoctypeName | .doctypeName | .afterDoctypeName | .afterDoctypeKeyword _
  | .beforeDoctypeIdentifier _ | .doctypeIdentifierDoubleQuoted _ | .doctypeIdentifierSingleQuoted _
  | .afterDoctypeIdentifier _ | .betweenDoctypePublicAndSystemIdentifiers | .bogusDoctype | .bogusComment
  | .cdataSection => 1

theorem rawRank_le (k : RawKind) : rawRank k ≤ 1 := by cases k <;> simp [rawRank]

theorem eofRank_le (s : State) : eofRank s ≤ 2 := by
  cases s <;> simp [eofRank] <;> (rename_i k; have := rawRank_le k; omega)

theorem transEof_rank (o : Opts) (m : Mach) :
    (∀ e, (transEof o m).2 ≠ .panic e) ∧
    ((transEof o m).2 = .cont → eofRank (transEof o m).1.state < eofRank m.state) := by
  unfold transEof
  split <;> simp_all [eofRank, rawRank]

theorem eofLoop_total_aux (o : Opts) (fuel : Nat) (m : Mach) (h : eofRank m.state < fuel) :
    ∃ m', eofLoop o fuel m = .ok m' := by
  induction fuel generalizing m with
  | zero => omega
  | succ n ih =>
    unfold eofLoop
    obtain ⟨h1, h2⟩ := transEof_rank o m
    cases ht : transEof o m with
    | mk m1 sig =>
      rw [ht] at h1 h2
      cases sig with
      | cont => exact ih m1 (by have := h2 rfl; simp only at this; omega)
      | done => exact ⟨m1, rfl⟩
      | panic e => exact absurd rfl (h1 e)

/-- **the `eof_step` loop of `Tokenizer::end` always finishes within its 8 rounds** (3 suffice) -/
theorem eofLoop_total (o : Opts) (m : Mach) : ∃ m', eofLoop o 8 m = .ok m' :=
  eofLoop_total_aux o 8 m (by have := eofRank_le m.state; omega)

/-! ### a sink that never pauses the tokenizer -/

/-- the sink never answers `Script` / `EncodingIndicator` to a tag token -/
def NoPause (pol : Pol) : Prop := ∀ out t, pol.onTag out t ≠ .script ∧ pol.onTag out t ≠ .indicator

theorem applySinkRes_noPause (m : Mach) (r : SinkRes) (h : r ≠ .script ∧ r ≠ .indicator) :
    (applySinkRes m r).2.isPause = false := by
  unfold applySinkRes
  cases r <;> simp_all [Sig.isPause]

theorem emitTag_noPause (pol : Pol) (hp : NoPause pol) (s : State) (m : Mach) :
    (emitTag pol s m).2.isPause = false := by
  unfold emitTag emitCurrentTag
  exact applySinkRes_noPause _ _ (hp _ _)

theorem transChar_noPause (o : Opts) (pol : Pol) (hp : NoPause pol) (m : Mach) (c : Char) :
    (transChar o pol m c).2.isPause = false := by
  obtain ⟨x, fin, hr, -, hA, -⟩ := transChar_ctl o pol m c
  rw [hr]
  rcases hA with rfl | ⟨rfl, -⟩ | ⟨-, e, rfl, -⟩
  · rfl
  · exact emitTag_noPause pol hp .data x
  · rfl

theorem consumeCharRef_noPause (m : Mach) : (consumeCharRef m).2.isPause = false := by
  unfold consumeCharRef
  split <;> simp [Sig.isPause]

theorem transSet_noPause (o : Opts) (pol : Pol) (hp : NoPause pol) (m : Mach) (r : SetRes) :
    (transSet o pol m r).2.isPause = false := by
  obtain ⟨x, fin, hr, -, -, -, hA, -⟩ := transSet_ctl o pol m r
  rw [hr]
  rcases hA with rfl | ⟨rfl, -⟩ | ⟨-, rfl, -⟩ | ⟨-, e, rfl, -⟩
  · rfl
  · exact emitTag_noPause pol hp .data x
  · exact consumeCharRef_noPause x
  · rfl

theorem processCharRef_noPause (m : Mach) (chars : Str) : (processCharRef m chars).2.isPause = false := by
  unfold processCharRef
  dsimp only
  split <;> simp [Sig.isPause]

theorem stepBav_noPause (o : Opts) (pol : Pol) (hp : NoPause pol) (m : Mach) (inp : Str) :
    (stepBav o pol m inp).isPause = false := by
  unfold stepBav
  cases hpk : peek m inp with
  | none => rfl
  | some c =>
    dsimp only
    generalize (if m.ignoreLf = true then m.setIgnoreLf false else m) = ma
    split
    · rfl
    · split
      · cases hg : getChar o ma inp with
        | mk oc r =>
          obtain ⟨m2, i2⟩ := r
          cases oc <;> rfl
      · repeat' split
        all_goals first | rfl | (rw [ofSig_isPause]; exact emitTag_noPause pol hp _ _)

theorem stepMdo_noPause (o : Opts) (pol : Pol) (m : Mach) (inp : Str) :
    (stepMdo o pol m inp).isPause = false := by
  unfold stepMdo
  repeat' split
  all_goals rfl

theorem stepAdn_noPause (o : Opts) (pol : Pol) (hp : NoPause pol) (m : Mach) (inp : Str) :
    (stepAdn o pol m inp).isPause = false := by
  unfold stepAdn
  repeat' split
  all_goals first | rfl | (rw [ofSig_isPause]; exact transChar_noPause o pol hp _ _)

theorem stepCharRef_noPause (o : Opts) (m : Mach) (inp : Str) (cr : CharRefSt) :
    (stepCharRef o m inp cr).isPause = false := by
  unfold stepCharRef
  repeat' split
  all_goals first | rfl | (rw [ofSig_isPause]; exact processCharRef_noPause _ _)

/-- with a sink that never pauses, no step answers `Script` / `EncodingIndicator` -/
theorem step_noPause (o : Opts) (pol : Pol) (hp : NoPause pol) (m : Mach) (inp : Str) :
    (step o pol m inp).isPause = false := by
  unfold step
  repeat' split
  all_goals
    first
      | exact stepCharRef_noPause o m inp _
      | exact stepBav_noPause o pol hp m inp
      | exact stepMdo_noPause o pol m inp
      | exact stepAdn_noPause o pol hp m inp
      | rfl
      | (rw [ofSig_isPause]; exact transChar_noPause o pol hp _ _)
      | (rw [ofSig_isPause]; exact transSet_noPause o pol hp _ _)

theorem run_noPause (o : Opts) (pol : Pol) (hp : NoPause pol) (fuel : Nat) (m : Mach) (inp : Str) :
    (∀ m' i', run o pol fuel m inp ≠ .script m' i') ∧ (∀ m' i', run o pol fuel m inp ≠ .indicator m' i') := by
  induction fuel generalizing m inp with
  | zero => simp [run]
  | succ n ih =>
    unfold run
    have hs0 := step_noPause o pol hp m inp
    cases hs : step o pol m inp with
    | cont m1 i1 => exact ih m1 i1
    | suspend m1 i1 => simp
    | script m1 i1 => rw [hs] at hs0; simp [R.isPause] at hs0
    | indicator m1 i1 => rw [hs] at hs0; simp [R.isPause] at hs0
    | panic e => simp

/-! ### `Tokenizer::end` -/

theorem crEofOnce_ok (o : Opts) (m : Mach) (inp : Str) (cr : CharRefSt) (hs : CRSafe cr) :
    ∃ v, crEofOnce o m inp cr = .ok v := by
  unfold crEofOnce
  cases hst : cr.state with
  | begin => exact ⟨_, rfl⟩
  | octothorpe => exact ⟨_, rfl⟩
  | numeric base =>
    dsimp only
    split
    · exact ⟨_, rfl⟩
    · obtain ⟨m1, c, h⟩ := finishNumericStatus_ok o (emitErr m "EOF in numeric character reference") inp cr
      exact ⟨_, h⟩
  | numericSemicolon =>
    obtain ⟨m1, c, h⟩ := finishNumericStatus_ok o (emitErr m "EOF in numeric character reference") inp cr
    exact ⟨_, h⟩
  | named => exact finishNamed_ok o m inp cr none hs (hs.named (Or.inl hst))
  | bogusName =>
    dsimp only
    cases hnb : cr.nameBuf with
    | none => exact absurd hnb (hs.named (Or.inr hst))
    | some nb => exact ⟨_, rfl⟩

theorem crEof_ok (o : Opts) (m : Mach) (cr : CharRefSt) (hil : m.ignoreLf = false) (hr : m.reconsume = false)
    (hc : CRLines cr) (hs : CRSafe cr) : ∃ m1 i1 chars, crEof o m [] cr = .ok (m1, i1, chars) := by
  obtain ⟨⟨mx, ix, crx, st⟩, hon⟩ := crEofOnce_ok o m [] cr hs
  obtain ⟨⟨cs, hcs⟩, _⟩ := crEofOnce_lines o m cr hil hr hc mx ix crx st hon
  subst hcs
  rw [crEof_eq, hon]
  exact ⟨_, _, _, rfl⟩

/-- the machine `end()` continues with after handing back an unfinished character reference -/
theorem finish_charRef_inv (o : Opts) (m : Mach) (cr : CharRefSt) (hi : LInv m) (hcr : m.charRef = some cr)
    (m1 : Mach) (i1 chars : Str) (hce : crEof o m [] cr = .ok (m1, i1, chars)) :
    TInv (processCharRef (m1.setCharRef none) chars).1 ∧
    (∀ e, (processCharRef (m1.setCharRef none) chars).2 ≠ .panic e) := by
  obtain ⟨c1, c2, c3⟩ := hi.cr cr hcr
  have hstate := hi.safe.crState cr hcr
  obtain ⟨l1, l2, l3, l4, l5, l6⟩ := crEof_lines o m cr c1 c2 c3 m1 i1 chars hce
  have hp := processCharRef_fields (m1.setCharRef none) chars
  generalize hm2 : (processCharRef (m1.setCharRef none) chars).1 = m2 at hp
  have hst2 : m2.state = m.state := by rw [hp.1]; simp only [setCharRef_state]; exact l5
  have hne : m2.state ≠ .markupDeclarationOpen ∧ m2.state ≠ .afterDoctypeName ∧ m2.state ≠ .beforeAttributeValue := by
    rw [hst2]
    rcases hstate with hx | hx | ⟨k, hx⟩ <;> rw [hx] <;> simp
  have hcr2 : m2.charRef = none := by
    have := processCharRef_charRef (m1.setCharRef none) chars
    rw [hm2] at this; simpa using this
  have hrec2 : m2.reconsume = false := by rw [hp.2.2.2.1]; simpa using l3
  have hsto2 : stash m2 = [] := stash_plain hcr2 hne.1 hne.2.1
  refine ⟨TInv.of_none ⟨Safe.of_none hcr2, ?_, ?_, fun _ => hrec2, by intro hx; rw [hrec2] at hx; simp at hx,
      by rw [hsto2]; intro c hc; exact absurd hc List.not_mem_nil,
      by intro cr' hc'; rw [hcr2] at hc'; simp at hc'⟩ hcr2, ?_⟩
  · intro hx; rcases hx with hx | hx
    · exact absurd hx hne.1
    · exact absurd hx hne.2.1
  · intro hraw h1 h2
    rw [hp.2.1]; simp only [setCharRef_tempBuf]; rw [l6]
    exact hi.nr (by rw [← hst2]; exact hraw) (by rw [← hst2]; exact h1) (by rw [← hst2]; exact h2)
  · intro e
    apply processCharRef_no_panic
    simp only [setCharRef_state]; rw [l5]; exact hstate

/-- the part of `Tokenizer::end` after the character-reference hand-back, when the final `run` does
not pause -/
theorem finish_tail (o : Opts) (pol : Pol) (m : Mach) (inp : Str) (hi : TInv m)
    (hnp : ∀ fuel, (∀ m' i', run o pol fuel (m.setAtEof true) inp ≠ .script m' i') ∧
      (∀ m' i', run o pol fuel (m.setAtEof true) inp ≠ .indicator m' i')) :
    ∃ mf, (match run o pol (fuelFor (m.setAtEof true) inp) (m.setAtEof true) inp with
          | .done m inp => if !inp.isEmpty then .error "assertion failed: input.is_empty()" else eofLoop o 8 m
          | .script _ _ | .indicator _ _ =>
            .error "assertion failed: matches!(self.run(&input), TokenizerResult::Done)"
          | .panic e => .error e
          | .outOfFuel => .error "run out of fuel") = Except.ok mf := by
  have hi' := hi.setAtEof true
  cases hrun : run o pol (fuelFor (m.setAtEof true) inp) (m.setAtEof true) inp with
  | done m4 i4 =>
    have := run_done_nil o pol _ _ _ hi' m4 i4 hrun
    subst this
    simp only [List.isEmpty_nil, Bool.not_true, Bool.false_eq_true, ↓reduceIte]
    exact eofLoop_total o m4
  | script m4 i4 => exact absurd hrun ((hnp _).1 m4 i4)
  | indicator m4 i4 => exact absurd hrun ((hnp _).2 m4 i4)
  | panic e => exact absurd hrun (run_no_panic o pol _ _ _ hi' e)
  | outOfFuel => exact absurd hrun (run_terminates o pol _ _ _ hi' (mu_lt_fuelFor _ _))

/-- **`Tokenizer::end` neither panics nor hangs** (for a sink that does not pause the tokenizer):
it always completes, delivering EOF -/
theorem finish_total (o : Opts) (pol : Pol) (hp : NoPause pol) (m : Mach) (hi : TInv m) :
    ∃ mf, finish o pol m = .ok mf := by
  unfold finish
  cases hcr : m.charRef with
  | none =>
    simp only
    exact finish_tail o pol m [] hi (fun _ => run_noPause o pol hp _ _ _)
  | some cr =>
    obtain ⟨c1, c2, c3⟩ := hi.linv.cr cr hcr
    obtain ⟨m1, i1, chars, hce⟩ := crEof_ok o m cr c1 c2 c3 (hi.linv.safe.crRegs cr hcr)
    obtain ⟨ht, hnp⟩ := finish_charRef_inv o m cr hi.linv hcr m1 i1 chars hce
    have hpa := processCharRef_noPause (m1.setCharRef none) chars
    simp only [hce]
    cases hpc : processCharRef (m1.setCharRef none) chars with
    | mk m2 sig =>
      rw [hpc] at ht hnp hpa
      cases sig with
      | cont =>
        simp only
        exact finish_tail o pol m2 i1 ht (fun _ => run_noPause o pol hp _ _ _)
      | script => simp [Sig.isPause] at hpa
      | indicator => simp [Sig.isPause] at hpa
      | panic e => exact absurd rfl (hnp e)

/-! ### `Tokenizer::end` for every sink: the tokenizer pauses only on reading `>`

A machine that stopped (asked for more input, or paused) has no pending `reconsume`, and what the
look-ahead machinery holds back contains neither `>` nor `&`; `end()` hands back only such text, so
its final `run` never delivers a tag token: the sink is not consulted. -/

/-- the table pauses only on `>`, in branches that leave `reconsume` alone -/
theorem transChar_pause (o : Opts) (pol : Pol) (m : Mach) (c : Char) :
    (transChar o pol m c).2.isPause = true → c = '>' ∧ (transChar o pol m c).1.reconsume = m.reconsume := by
  obtain ⟨x, fin, hr, -, hA, -⟩ := transChar_ctl o pol m c
  rw [hr]
  rcases hA with rfl | ⟨rfl, hc, hx⟩ | ⟨-, e, rfl, -⟩
  · exact fun h => nomatch h
  · exact fun _ => ⟨hc, by rw [ArmEnd.run_tag, emitTag_reconsume, hx]⟩
  · exact fun h => nomatch h

theorem transSet_pause (o : Opts) (pol : Pol) (m : Mach) (r : SetRes) :
    (transSet o pol m r).2.isPause = true → r = .fromSet '>' := by
  obtain ⟨x, fin, hr, -, -, -, hA, -⟩ := transSet_ctl o pol m r
  rw [hr]
  rcases hA with rfl | ⟨rfl, hg, -⟩ | ⟨-, rfl, -⟩ | ⟨-, e, rfl, -⟩
  · nofun
  · exact fun _ => hg
  · exact fun h => absurd h (by rw [ArmEnd.run, consumeCharRef_noPause]; nofun)
  · nofun

/-! ### every step leaves the stash plain; every stop leaves no `reconsume` -/

theorem ofSig_stop (ms : Mach × Sig) (inp : Str) (m' : Mach) (i' : Str)
    (h : (ofSig ms inp).pair? = some (m', i')) (hnc : ∀ mx ix, ofSig ms inp ≠ .cont mx ix) :
    ms.2.isPause = true := by
  unfold ofSig at h hnc
  split at h
  · rename_i hs; simp only [hs] at hnc; exact absurd rfl (hnc _ _)
  · rename_i hs; simp [hs, Sig.isPause]
  · rename_i hs; simp [hs, Sig.isPause]
  · simp [R.pair?] at h

theorem stepCharRef_stop (o : Opts) (m : Mach) (inp : Str) (cr : CharRefSt) (hi : TInv m)
    (hcr : m.charRef = some cr) (m' : Mach) (i' : Str)
    (h : (stepCharRef o m inp cr).pair? = some (m', i')) : SP m' ∧ m'.reconsume = false := by
  refine stepCharRef_leaves (P := fun r => r.pair? = some (m', i') → _) o inp hi hcr ?_ ?_ ?_ h
  · intro m1 hr h
    cases h
    exact ⟨SP.of_some (cr := cr) (by simp), by simpa using hr⟩
  · intro m1 i1 cr1 hr _ _ h
    cases h
    exact ⟨SP.of_some (cr := cr1) (by simp), by simpa using hr⟩
  · intro ms i1 _ d2 d3 _ _ h
    rw [(ofSig_pair _ _ _ _ h).1]
    exact ⟨SP.of_nil d3, d2⟩

/-- **after every step** the look-ahead stash holds neither `>` nor `&` -/
theorem step_sp (o : Opts) (pol : Pol) (m : Mach) (inp : Str) (hi : TInv m) (m' : Mach) (i' : Str)
    (h : (step o pol m inp).pair? = some (m', i')) : SP m' := by
  have hl := hi.linv
  cases hcr : m.charRef with
  | some cr =>
    rw [step_kind_charRef o pol m inp cr hcr] at h
    exact (stepCharRef_stop o m inp cr hi hcr m' i' h).1
  | none =>
    rcases step_charRef_after o pol m inp hcr m' i' h with hc' | ⟨b, hc'⟩
    · refine step_leaves (P := fun r => r.pair? = some (m', i') → _) o pol inp hl hcr ?_ ?_ ?_ ?_ ?_ h
      · intro m1 _ _ hsp h
        cases h
        exact hsp
      · intro c m1 i1 hrk hgc h
        rw [(ofSig_pair _ _ _ _ h).1]
        exact SP.of_nil (hl.getChar_after o pol hcr hrk hgc).2.1
      · -- the state after a `pop_except_from` step is never a look-ahead state
        intro sr m1 i1 hk hok _ h
        have hsf := readKind_state_facts hk
        have hne := transSet_not_eat o pol m1 sr ⟨by rw [hok.1]; exact hsf.1, by rw [hok.1]; exact hsf.2.1⟩
        rw [← (ofSig_pair _ _ _ _ h).1] at hne
        exact SP.of_nil (stash_plain hc' hne.1 hne.2)
      · intro ms ix a _ _ _ d3 _ _ _ h
        rw [(ofSig_pair _ _ _ _ h).1]
        exact SP.of_nil d3
      · intro c m1 i1 a c0 _ _ _ a5 _ _ _ h
        rw [(ofSig_pair _ _ _ _ h).1]
        exact SP.of_nil a5
    · exact SP.of_some hc'

/-- **a step that stops the loop** (asks for more input, or pauses for the sink) **leaves no pending
`reconsume`**: a read that found the queue empty had none, and the table pauses only in branches
that do not set it -/
theorem step_stop_recon (o : Opts) (pol : Pol) (m : Mach) (inp : Str) (hi : TInv m) (m' : Mach) (i' : Str)
    (h : (step o pol m inp).pair? = some (m', i')) (hnc : ∀ mx ix, step o pol m inp ≠ .cont mx ix) :
    m'.reconsume = false := by
  have hl := hi.linv
  cases hcr : m.charRef with
  | some cr =>
    rw [step_kind_charRef o pol m inp cr hcr] at h
    exact (stepCharRef_stop o m inp cr hi hcr m' i' h).2
  | none =>
    -- the table pauses only in branches that leave `reconsume` alone
    have tbl : ∀ c m1 i1, m1.reconsume = false → (ofSig (transChar o pol m1 c) i1).pair? = some (m', i') →
        (∀ mx ix, ofSig (transChar o pol m1 c) i1 ≠ .cont mx ix) → m'.reconsume = false := by
      intro c m1 i1 f3 h hnc
      have hp := ofSig_stop _ _ _ _ h hnc
      rw [(ofSig_pair _ _ _ _ h).1, (transChar_pause o pol m1 c hp).2, f3]
    refine step_leaves (P := fun r => r.pair? = some (m', i') → (∀ mx ix, r ≠ .cont mx ix) → _)
      o pol inp hl hcr ?_ ?_ ?_ ?_ ?_ h hnc
    · intro m1 _ hr _ h _
      cases h
      exact hr
    · exact fun c m1 i1 _ hgc => tbl c m1 i1 (getChar_fields o m m1 inp i1 c hgc).2.2.1
    · intro sr m1 i1 _ hok _ h _
      rw [(ofSig_pair _ _ _ _ h).1, transSet_reconsume, hok.2.2.1]
    · intro ms ix _ _ _ d2 _ _ _ _ h _
      rw [(ofSig_pair _ _ _ _ h).1]
      exact d2
    · exact fun c m1 i1 _ _ _ f3 _ _ _ _ _ => tbl c m1 i1 f3

/-- a machine in which the tokenizer loop can have stopped: the invariant, no pending `reconsume`,
and a stash without `>` / `&` -/
structure Quiet (m : Mach) : Prop where
  tinv : TInv m
  nrec : m.reconsume = false
  sp : SP m

theorem quiet_fresh (m : Mach) (h1 : m.tempBuf = []) (h2 : m.reconsume = false) (h3 : m.charRef = none) :
    Quiet m :=
  ⟨tinv_fresh m h1 h2 h3, h2, SP.of_nil (stash_nil_of h3 (fun _ => h1))⟩

theorem step_stop_quiet (o : Opts) (pol : Pol) (m : Mach) (inp : Str) (hi : TInv m) (m' : Mach) (i' : Str)
    (h : (step o pol m inp).pair? = some (m', i')) (hnc : ∀ mx ix, step o pol m inp ≠ .cont mx ix) : Quiet m' :=
  ⟨step_tinv o pol m inp hi m' i' h, step_stop_recon o pol m inp hi m' i' h hnc, step_sp o pol m inp hi m' i' h⟩

/-- wherever `run` stops the machine is quiet -/
theorem run_stop_quiet (o : Opts) (pol : Pol) (fuel : Nat) (m : Mach) (inp : Str) (hi : TInv m)
    (m' : Mach) (i' : Str) (h : (run o pol fuel m inp).pair? = some (m', i')) : Quiet m' := by
  induction fuel generalizing m inp with
  | zero => simp [run, RunRes.pair?] at h
  | succ n ih =>
    unfold run at h
    cases hs : step o pol m inp with
    | cont m1 i1 =>
      rw [hs] at h
      exact ih m1 i1 (step_tinv o pol m inp hi m1 i1 (by rw [hs]; rfl)) h
    | suspend m1 i1 | script m1 i1 | indicator m1 i1 =>
      rw [hs] at h
      simp only [RunRes.pair?, Option.some.injEq, Prod.mk.injEq] at h
      obtain ⟨e1, e2⟩ := h; subst e1 e2
      exact step_stop_quiet o pol m inp hi m1 i1 (by rw [hs]; rfl) (by rw [hs]; simp)
    | panic e => rw [hs] at h; simp [RunRes.pair?] at h

/-- **every way a `feed` can stop yields a quiet machine** -/
theorem feed_stops_quiet (o : Opts) (pol : Pol) (m : Mach) (inp chunk : Str) (hq : Quiet m)
    (m' : Mach) (i' : Str) (h : (feed o pol m inp chunk).pair? = some (m', i')) : Quiet m' := by
  unfold feed at h
  dsimp only at h
  split at h
  · simp only [RunRes.pair?, Option.some.injEq, Prod.mk.injEq] at h
    rw [← h.1]; exact hq
  · exact run_stop_quiet o pol _ _ _ (feedBom_tinv m _ hq.tinv) m' i' h

theorem runsTo_quiet (o : Opts) (pol : Pol) {m : Mach} {inp : Str} {m' : Mach}
    (hrun : RunsTo o pol m inp m') : TInv m → Quiet m' := by
  induction hrun with
  | @susp m0 i0 m0' hs =>
    intro hi; exact step_stop_quiet o pol m0 i0 hi m0' [] (by rw [hs]; rfl) (by rw [hs]; simp)
  | @cont m0 i0 mx ix m0' hs _ ih | @script m0 i0 mx ix m0' hs _ ih | @indicator m0 i0 mx ix m0' hs _ ih =>
    intro hi; exact ih (step_tinv o pol m0 i0 hi mx ix (by rw [hs]; rfl))

theorem session_quiet (o : Opts) (pol : Pol) {m : Mach} {cs : List Str} {mf : Mach}
    (hs : Session o pol m cs mf) : Quiet m → Quiet mf := by
  induction hs with
  | nil => exact id
  | cons hr _ ih => intro hq; exact ih (runsTo_quiet o pol hr hq.tinv)

/-! ### the final `run` of `Tokenizer::end` never consults the sink -/

/-- everything still to be read: the pending `reconsume`, the stash, the queue -/
def pend (m : Mach) (inp : Str) : Str := rc m ++ (stash m ++ inp)

/-- invariant of the final `run` of `end()`: no character reference in progress, and neither `>`
nor `&` anywhere in what is still to be read -/
structure EndInv (m : Mach) (inp : Str) : Prop where
  tinv : TInv m
  cr : m.charRef = none
  plain : ∀ x ∈ pend m inp, plainCh x

theorem pend_plain {m : Mach} {inp : Str} (h1 : m.reconsume = true → plainCh m.currentChar)
    (h2 : ∀ x ∈ stash m, plainCh x) (h3 : ∀ x ∈ inp, plainCh x) : ∀ x ∈ pend m inp, plainCh x := by
  intro x hx
  unfold pend rc at hx
  rcases List.mem_append.mp hx with hx | hx
  · split at hx
    · rename_i hr
      simp only [List.mem_cons, List.not_mem_nil, or_false] at hx
      subst hx; exact h1 hr
    · exact absurd hx List.not_mem_nil
  · rcases List.mem_append.mp hx with hx | hx
    · exact h2 x hx
    · exact h3 x hx

theorem EndInv.inp {m : Mach} {inp : Str} (he : EndInv m inp) : ∀ x ∈ inp, plainCh x :=
  fun x hx => he.plain x (by unfold pend; simp [hx])

theorem EndInv.stash {m : Mach} {inp : Str} (he : EndInv m inp) : ∀ x ∈ stash m, plainCh x :=
  fun x hx => he.plain x (by unfold pend; simp [hx])

theorem EndInv.cc {m : Mach} {inp : Str} (he : EndInv m inp) (hr : m.reconsume = true) : plainCh m.currentChar :=
  he.plain _ (by unfold pend; rw [rc_true hr]; simp)

/-- the character a `pop_except_from` read reports is plain when everything pending is -/
theorem setShapeX_plain {m : Mach} {inp : Str} {r : SetRes} {i1 : Str} (he : EndInv m inp)
    (h : SetShape m inp r i1) : (∀ x, r = .fromSet x → plainCh x) ∧ (∀ x ∈ i1, plainCh x) := by
  rcases h with ⟨g1, g2, g3⟩ | ⟨_, a, c0, g2, g3⟩
  · subst g2
    refine ⟨fun x hx => ?_, he.inp⟩
    rw [g3] at hx
    simp only [SetRes.fromSet.injEq] at hx
    rw [← hx]; exact he.cc g1
  · refine ⟨fun x hx => ?_, fun x hx => he.inp x (by rw [g2]; simp [hx])⟩
    rw [g3 x hx]
    exact foldCh_plain (he.inp c0 (by rw [g2]; simp))

theorem isPause_false_of {b : Bool} (h : b = true → False) : b = false := by
  cases b
  · rfl
  · exact absurd rfl h

/-- the table applied to a plain character, with only plain text left in the queue -/
theorem end_char (o : Opts) (pol : Pol) {m1 : Mach} {c : Char} {i1 : Str} (hc : plainCh c)
    (hi1 : ∀ x ∈ i1, plainCh x) (a4 : (transChar o pol m1 c).1.charRef = none)
    (a5 : stash (transChar o pol m1 c).1 = []) (hcc : (transChar o pol m1 c).1.currentChar = c) :
    (ofSig (transChar o pol m1 c) i1).isPause = false ∧
    ∀ m' i', ofSig (transChar o pol m1 c) i1 = .cont m' i' →
      m'.charRef = none ∧ ∀ x ∈ pend m' i', plainCh x := by
  constructor
  · rw [ofSig_isPause]
    exact isPause_false_of (fun hp => hc.1 (transChar_pause o pol m1 c hp).1)
  · intro m' i' h
    obtain ⟨rfl, rfl⟩ := ofSig_cont _ _ _ _ h
    exact ⟨a4, pend_plain (fun _ => by rw [hcc]; exact hc) (by rw [a5]; nofun) hi1⟩

theorem end_getChar (o : Opts) (pol : Pol) (m : Mach) (inp : Str) (he : EndInv m inp)
    (c : Char) (m1 : Mach) (i1 : Str) (hrk : readKind m.state = .getChar)
    (hgc : getChar o m inp = (some c, m1, i1)) :
    (ofSig (transChar o pol m1 c) i1).isPause = false ∧
    ∀ m' i', ofSig (transChar o pol m1 c) i1 = .cont m' i' →
      m'.charRef = none ∧ ∀ x ∈ pend m' i', plainCh x := by
  obtain ⟨a4, a5, hcc, _, _⟩ := he.tinv.linv.getChar_after o pol he.cr hrk hgc
  rcases getChar_shape o m m1 inp i1 c hgc with ⟨g1, g2, g3⟩ | ⟨_, a, c0, g2, g3⟩
  · subst g2
    exact end_char o pol (g3 ▸ he.cc g1) he.inp a4 a5 hcc
  · exact end_char o pol (g3 ▸ foldCh_plain (he.inp c0 (by rw [g2]; simp)))
      (fun x hx => he.inp x (by rw [g2]; simp [hx])) a4 a5 hcc

theorem end_set (o : Opts) (pol : Pol) (m : Mach) (inp : Str) (he : EndInv m inp)
    (sr : SetRes) (m1 : Mach) (i1 : Str) (hk : readKind m.state = .popExcept ∨ readKind m.state = .dataSimd)
    (hok : ReadOk m m1 sr) (hsh : SetShape m inp sr i1) :
    (ofSig (transSet o pol m1 sr) i1).isPause = false ∧
    ∀ m' i', ofSig (transSet o pol m1 sr) i1 = .cont m' i' →
      m'.charRef = none ∧ ∀ x ∈ pend m' i', plainCh x := by
  have hsf := readKind_state_facts hk
  obtain ⟨f1, f2, f3, f4, _, _⟩ := hok
  obtain ⟨p1, p2⟩ := setShapeX_plain he hsh
  have hcr1 : m1.charRef = none := by rw [f4, he.cr]
  constructor
  · rw [ofSig_isPause]
    exact isPause_false_of (fun hp => (p1 _ (transSet_pause o pol m1 sr hp)).1 rfl)
  · intro m' i' h
    obtain ⟨h1, h2⟩ := ofSig_cont _ _ _ _ h
    subst h1 h2
    have hr' : (transSet o pol m1 sr).1.reconsume = false := by rw [transSet_reconsume, f3]
    have hne := transSet_not_eat o pol m1 sr ⟨by rw [f1]; exact hsf.1, by rw [f1]; exact hsf.2.1⟩
    have hc' : (transSet o pol m1 sr).1.charRef = none := by
      cases hx : (transSet o pol m1 sr).1.charRef with
      | none => rfl
      | some cr' =>
        have := transSet_amp o pol m1 sr hcr1 (by rw [hx]; simp)
        exact absurd rfl (p1 _ this).2
    refine ⟨hc', pend_plain (fun hr => by rw [hr'] at hr; simp at hr) ?_ p2⟩
    rw [stash_plain hc' hne.1 hne.2]
    intro x hx; exact absurd hx List.not_mem_nil

theorem stepBav_pause (o : Opts) (pol : Pol) (m : Mach) (inp : Str) (hr : m.reconsume = false)
    (h : (stepBav o pol m inp).isPause = true) : '>' ∈ inp := by
  refine stepBav_leaves (P := fun r => r.isPause = true → _) o pol inp hr (fun _ _ _ _ => nofun) ?_ h
  intro ms i' a _ _ _ _ _ hq h
  rw [ofSig_isPause] at h
  exact hq h

/-- **under the invariant of the final run no step pauses, and the invariant is kept** -/
theorem step_end (o : Opts) (pol : Pol) (m : Mach) (inp : Str) (he : EndInv m inp) :
    (step o pol m inp).isPause = false ∧ ∀ m' i', step o pol m inp = .cont m' i' → EndInv m' i' := by
  have hl := he.tinv.linv
  have hcr := he.cr
  have mk : ((step o pol m inp).isPause = false ∧
      ∀ m' i', step o pol m inp = .cont m' i' → m'.charRef = none ∧ ∀ x ∈ pend m' i', plainCh x) →
      ((step o pol m inp).isPause = false ∧ ∀ m' i', step o pol m inp = .cont m' i' → EndInv m' i') := by
    intro ⟨h1, h2⟩
    refine ⟨h1, fun m' i' h => ?_⟩
    obtain ⟨q1, q2⟩ := h2 m' i' h
    exact ⟨step_tinv o pol m inp he.tinv m' i' (by rw [h]; rfl), q1, q2⟩
  apply mk
  have hsi : ∀ x ∈ stash m ++ inp, plainCh x := fun x hx => (List.mem_append.mp hx).elim (he.stash x) (he.inp x)
  refine step_leaves (P := fun r => r.isPause = false ∧
    ∀ m' i', r = .cont m' i' → m'.charRef = none ∧ ∀ x ∈ pend m' i', plainCh x) o pol inp hl hcr ?_ ?_ ?_ ?_ ?_
  · exact fun _ _ _ _ => ⟨rfl, fun _ _ => nofun⟩
  · exact end_getChar o pol m inp he
  · exact end_set o pol m inp he
  · intro ms ix a _ d1 d2 d3 e _ hq
    refine ⟨?_, fun m' i' h => ?_⟩
    · rw [ofSig_isPause]
      exact isPause_false_of (fun hp => (he.inp _ (hq hp)).1 rfl)
    obtain ⟨rfl, rfl⟩ := ofSig_cont _ _ _ _ h
    exact ⟨d1, pend_plain (fun hx => by rw [d2] at hx; cases hx) (by rw [d3]; nofun)
      (fun x hx => hsi x (by rw [e]; simp [hx]))⟩
  · intro c m1 i1 a c0 _ _ a4 a5 hcc e g
    exact end_char o pol (g ▸ foldCh_plain (hsi c0 (by rw [e]; simp)))
      (fun x hx => hsi x (by rw [e]; simp [hx])) a4 a5 hcc

/-- the final `run` of `end()` never answers Script / EncodingIndicator, whatever the sink -/
theorem run_end (o : Opts) (pol : Pol) (fuel : Nat) (m : Mach) (inp : Str) (he : EndInv m inp) :
    (∀ m' i', run o pol fuel m inp ≠ .script m' i') ∧ (∀ m' i', run o pol fuel m inp ≠ .indicator m' i') := by
  induction fuel generalizing m inp with
  | zero => simp [run]
  | succ n ih =>
    unfold run
    obtain ⟨hs0, hnext⟩ := step_end o pol m inp he
    cases hs : step o pol m inp with
    | cont m1 i1 => exact ih m1 i1 (hnext m1 i1 hs)
    | suspend m1 i1 => simp
    | script m1 i1 => rw [hs] at hs0; simp [R.isPause] at hs0
    | indicator m1 i1 => rw [hs] at hs0; simp [R.isPause] at hs0
    | panic e => simp

/-! ### `end()` from a quiet machine, for every sink -/

theorem hex_plain {c : Char} (h : c = 'x' ∨ c = 'X') : plainCh c := by
  rcases h with h | h <;> subst h <;> exact ⟨by decide, by decide⟩

/-- what a round of the sub-tokenizer's `end_of_file` puts back into the (empty) queue contains
neither `>` nor `&` -/
theorem crEofOnce_back (o : Opts) (m : Mach) (cr : CharRefSt) (ht : CRT cr)
    (m1 : Mach) (i1 : Str) (cr1 : CharRefSt) (st : CRStatus)
    (h : crEofOnce o m [] cr = .ok (m1, i1, cr1, st)) : ∀ x ∈ i1, plainCh x := by
  have nil_plain : ∀ x ∈ ([] : Str), plainCh x := fun x hx => absurd hx List.not_mem_nil
  have fin : ∀ mm, finishNumericStatus o mm [] cr = .ok (m1, i1, cr1, st) → ∀ x ∈ i1, plainCh x := by
    intro mm hf
    obtain ⟨mx, c, hok⟩ := finishNumericStatus_ok o mm [] cr
    rw [hok] at hf
    simp only [Except.ok.injEq, Prod.mk.injEq] at hf
    rw [← hf.2.1]; exact nil_plain
  unfold crEofOnce at h
  cases hst : cr.state with
  | begin =>
    simp only [hst, Except.ok.injEq, Prod.mk.injEq] at h
    rw [← h.2.1]; exact nil_plain
  | octothorpe =>
    simp only [hst, Except.ok.injEq, Prod.mk.injEq] at h
    rw [← h.2.1]
    intro x hx
    simp only [List.mem_cons, List.not_mem_nil, or_false] at hx
    subst hx; exact ⟨by decide, by decide⟩
  | numeric base =>
    simp only [hst] at h
    split at h
    · unfold unconsumeNumeric at h
      simp only [Except.ok.injEq, Prod.mk.injEq] at h
      rw [← h.2.1]
      intro x hx
      simp only [List.append_nil, List.mem_cons] at hx
      rcases hx with hx | hx
      · subst hx; exact ⟨by decide, by decide⟩
      · cases hh : cr.hexMarker with
        | none => rw [hh] at hx; simp at hx
        | some y =>
          rw [hh] at hx
          simp only [List.mem_cons, List.not_mem_nil, or_false] at hx
          subst hx; exact hex_plain (ht.hexOk _ hh)
    · exact fin _ h
  | numericSemicolon =>
    simp only [hst] at h
    exact fin _ h
  | bogusName =>
    simp only [hst] at h
    cases hnb : cr.nameBuf with
    | none => rw [hnb] at h; simp at h
    | some nb =>
      rw [hnb] at h
      simp only [Except.ok.injEq, Prod.mk.injEq] at h
      rw [← h.2.1]
      intro x hx
      simp only [List.append_nil] at hx
      exact runCh_plain (ht.nbRun x (by rw [hnb]; exact hx))
  | named =>
    simp only [hst] at h
    cases hnb : cr.nameBuf with
    | none => unfold finishNamed at h; rw [hnb] at h; simp at h
    | some nb =>
      rcases finishNamed_shape o m [] cr none nb m1 i1 cr1 st hnb h with ⟨chars, k, _, e2⟩ | ⟨_, _, _, c, e4, _⟩
      · rw [e2]
        intro x hx
        simp only [List.append_nil] at hx
        exact runCh_plain (ht.nbRun x (by rw [hnb]; exact List.mem_of_mem_drop hx))
      · simp at e4

theorem crEof_back (o : Opts) (m : Mach) (cr : CharRefSt) (hil : m.ignoreLf = false) (hr : m.reconsume = false)
    (hc : CRLines cr) (ht : CRT cr) (m1 : Mach) (i1 chars : Str) (h : crEof o m [] cr = .ok (m1, i1, chars)) :
    ∀ x ∈ i1, plainCh x := by
  rw [crEof_eq] at h
  cases hon : crEofOnce o m [] cr with
  | error e => rw [hon] at h; simp at h
  | ok v =>
    obtain ⟨mx, ix, crx, st⟩ := v
    obtain ⟨⟨cs, hcs⟩, _⟩ := crEofOnce_lines o m cr hil hr hc mx ix crx st hon
    subst hcs
    have hb := crEofOnce_back o m cr ht mx ix crx _ hon
    rw [hon] at h
    simp only [Except.ok.injEq, Prod.mk.injEq] at h
    rw [← h.2.1]; exact hb

theorem pend_setAtEof (m : Mach) (b : Bool) (inp : Str) : pend (m.setAtEof b) inp = pend m inp := by
  unfold pend rc
  rw [stash_congr (m := m) (by simp) (by simp) (by simp)]
  simp

theorem EndInv.setAtEof {m : Mach} {inp : Str} (he : EndInv m inp) (b : Bool) : EndInv (m.setAtEof b) inp :=
  ⟨he.tinv.setAtEof b, by simpa using he.cr, by rw [pend_setAtEof]; exact he.plain⟩

/-- **`Tokenizer::end` completes from every quiet machine, whatever the sink answers to tags**: it
never delivers a tag token, so the sink is not consulted -/
theorem finish_end_total (o : Opts) (pol : Pol) (m : Mach) (hq : Quiet m) : ∃ mf, finish o pol m = .ok mf := by
  have hi := hq.tinv
  unfold finish
  cases hcr : m.charRef with
  | none =>
    simp only
    refine finish_tail o pol m [] hi (fun _ => run_end o pol _ _ _ (EndInv.setAtEof
      ⟨hi, hcr, pend_plain (fun hx => ?_) (hq.sp hcr) (fun x hx => absurd hx List.not_mem_nil)⟩ true))
    rw [hq.nrec] at hx; simp at hx
  | some cr =>
    obtain ⟨c1, c2, c3⟩ := hi.linv.cr cr hcr
    have hstate := crStateOk_facts (hi.linv.safe.crState cr hcr)
    obtain ⟨m1, i1, chars, hce⟩ := crEof_ok o m cr c1 c2 c3 (hi.linv.safe.crRegs cr hcr)
    obtain ⟨ht, hnp⟩ := finish_charRef_inv o m cr hi.linv hcr m1 i1 chars hce
    obtain ⟨_, _, l3, _, l5, _⟩ := crEof_lines o m cr c1 c2 c3 m1 i1 chars hce
    have hback := crEof_back o m cr c1 c2 c3 (hi.crt cr hcr) m1 i1 chars hce
    have hpa := processCharRef_noPause (m1.setCharRef none) chars
    have hp := processCharRef_fields (m1.setCharRef none) chars
    have hpc0 := processCharRef_charRef (m1.setCharRef none) chars
    simp only [hce]
    cases hpc : processCharRef (m1.setCharRef none) chars with
    | mk m2 sig =>
      rw [hpc] at ht hnp hpa hp hpc0
      simp only at hp hpc0
      cases sig with
      | cont =>
        simp only
        have hcr2 : m2.charRef = none := by simpa using hpc0
        have hst2 : m2.state = m.state := by rw [hp.1]; simp only [setCharRef_state]; exact l5
        have hrec2 : m2.reconsume = false := by rw [hp.2.2.2.1]; simpa using l3
        refine finish_tail o pol m2 i1 ht (fun _ => run_end o pol _ _ _ (EndInv.setAtEof
          ⟨ht, hcr2, pend_plain (fun hx => ?_) ?_ hback⟩ true))
        · rw [hrec2] at hx; simp at hx
        · rw [stash_plain hcr2 (by rw [hst2]; exact hstate.1) (by rw [hst2]; exact hstate.2.1)]
          intro x hx; exact absurd hx List.not_mem_nil
      | script => simp [Sig.isPause] at hpa
      | indicator => simp [Sig.isPause] at hpa
      | panic e => exact absurd rfl (hnp e)

end H5V.Model.HtmlTok
