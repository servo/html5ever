import H5V.Model.HtmlTok
/-! Which machine fields each helper leaves alone: one `simp` lemma per helper and field. -/
namespace H5V.Model.HtmlTok

@[simp] theorem emit_state (m : Mach) (t : Token) : (emit m t).state = m.state := by
  unfold emit; rfl
@[simp] theorem emit_tempBuf (m : Mach) (t : Token) : (emit m t).tempBuf = m.tempBuf := by
  unfold emit; rfl
@[simp] theorem emit_reconsume (m : Mach) (t : Token) : (emit m t).reconsume = m.reconsume := by
  unfold emit; rfl
@[simp] theorem emit_ignoreLf (m : Mach) (t : Token) : (emit m t).ignoreLf = m.ignoreLf := by
  unfold emit; rfl
@[simp] theorem emit_atEof (m : Mach) (t : Token) : (emit m t).atEof = m.atEof := by
  unfold emit; rfl
@[simp] theorem emit_charRef (m : Mach) (t : Token) : (emit m t).charRef = m.charRef := by
  unfold emit; rfl
@[simp] theorem emit_line (m : Mach) (t : Token) : (emit m t).line = m.line := by
  unfold emit; rfl
@[simp] theorem emit_currentChar (m : Mach) (t : Token) : (emit m t).currentChar = m.currentChar := by
  unfold emit; rfl
@[simp] theorem emit_discardBom (m : Mach) (t : Token) : (emit m t).discardBom = m.discardBom := by
  unfold emit; rfl
@[simp] theorem emitErr_state (m : Mach) (s : String) : (emitErr m s).state = m.state := by
  unfold emitErr; rfl
@[simp] theorem emitErr_tempBuf (m : Mach) (s : String) : (emitErr m s).tempBuf = m.tempBuf := by
  unfold emitErr; rfl
@[simp] theorem emitErr_reconsume (m : Mach) (s : String) : (emitErr m s).reconsume = m.reconsume := by
  unfold emitErr; rfl
@[simp] theorem emitErr_ignoreLf (m : Mach) (s : String) : (emitErr m s).ignoreLf = m.ignoreLf := by
  unfold emitErr; rfl
@[simp] theorem emitErr_atEof (m : Mach) (s : String) : (emitErr m s).atEof = m.atEof := by
  unfold emitErr; rfl
@[simp] theorem emitErr_charRef (m : Mach) (s : String) : (emitErr m s).charRef = m.charRef := by
  unfold emitErr; rfl
@[simp] theorem emitErr_line (m : Mach) (s : String) : (emitErr m s).line = m.line := by
  unfold emitErr; rfl
@[simp] theorem emitErr_currentChar (m : Mach) (s : String) : (emitErr m s).currentChar = m.currentChar := by
  unfold emitErr; rfl
@[simp] theorem emitErr_discardBom (m : Mach) (s : String) : (emitErr m s).discardBom = m.discardBom := by
  unfold emitErr; rfl
@[simp] theorem emitChar_state (m : Mach) (c : Char) : (emitChar m c).state = m.state := by
  unfold emitChar; split <;> rfl
@[simp] theorem emitChar_tempBuf (m : Mach) (c : Char) : (emitChar m c).tempBuf = m.tempBuf := by
  unfold emitChar; split <;> rfl
@[simp] theorem emitChar_reconsume (m : Mach) (c : Char) : (emitChar m c).reconsume = m.reconsume := by
  unfold emitChar; split <;> rfl
@[simp] theorem emitChar_ignoreLf (m : Mach) (c : Char) : (emitChar m c).ignoreLf = m.ignoreLf := by
  unfold emitChar; split <;> rfl
@[simp] theorem emitChar_atEof (m : Mach) (c : Char) : (emitChar m c).atEof = m.atEof := by
  unfold emitChar; split <;> rfl
@[simp] theorem emitChar_charRef (m : Mach) (c : Char) : (emitChar m c).charRef = m.charRef := by
  unfold emitChar; split <;> rfl
@[simp] theorem emitChar_line (m : Mach) (c : Char) : (emitChar m c).line = m.line := by
  unfold emitChar; split <;> rfl
@[simp] theorem emitChar_currentChar (m : Mach) (c : Char) : (emitChar m c).currentChar = m.currentChar := by
  unfold emitChar; split <;> rfl
@[simp] theorem emitChar_discardBom (m : Mach) (c : Char) : (emitChar m c).discardBom = m.discardBom := by
  unfold emitChar; split <;> rfl
@[simp] theorem emitChars_state (m : Mach) (s : Str) : (emitChars m s).state = m.state := by
  unfold emitChars; rfl
@[simp] theorem emitChars_tempBuf (m : Mach) (s : Str) : (emitChars m s).tempBuf = m.tempBuf := by
  unfold emitChars; rfl
@[simp] theorem emitChars_reconsume (m : Mach) (s : Str) : (emitChars m s).reconsume = m.reconsume := by
  unfold emitChars; rfl
@[simp] theorem emitChars_ignoreLf (m : Mach) (s : Str) : (emitChars m s).ignoreLf = m.ignoreLf := by
  unfold emitChars; rfl
@[simp] theorem emitChars_atEof (m : Mach) (s : Str) : (emitChars m s).atEof = m.atEof := by
  unfold emitChars; rfl
@[simp] theorem emitChars_charRef (m : Mach) (s : Str) : (emitChars m s).charRef = m.charRef := by
  unfold emitChars; rfl
@[simp] theorem emitChars_line (m : Mach) (s : Str) : (emitChars m s).line = m.line := by
  unfold emitChars; rfl
@[simp] theorem emitChars_currentChar (m : Mach) (s : Str) : (emitChars m s).currentChar = m.currentChar := by
  unfold emitChars; rfl
@[simp] theorem emitChars_discardBom (m : Mach) (s : Str) : (emitChars m s).discardBom = m.discardBom := by
  unfold emitChars; rfl
@[simp] theorem badChar_state (m : Mach) (o : Opts) : (badChar o m).state = m.state := by
  unfold badChar; split <;> rfl
@[simp] theorem badChar_tempBuf (m : Mach) (o : Opts) : (badChar o m).tempBuf = m.tempBuf := by
  unfold badChar; split <;> rfl
@[simp] theorem badChar_reconsume (m : Mach) (o : Opts) : (badChar o m).reconsume = m.reconsume := by
  unfold badChar; split <;> rfl
@[simp] theorem badChar_ignoreLf (m : Mach) (o : Opts) : (badChar o m).ignoreLf = m.ignoreLf := by
  unfold badChar; split <;> rfl
@[simp] theorem badChar_atEof (m : Mach) (o : Opts) : (badChar o m).atEof = m.atEof := by
  unfold badChar; split <;> rfl
@[simp] theorem badChar_charRef (m : Mach) (o : Opts) : (badChar o m).charRef = m.charRef := by
  unfold badChar; split <;> rfl
@[simp] theorem badChar_line (m : Mach) (o : Opts) : (badChar o m).line = m.line := by
  unfold badChar; split <;> rfl
@[simp] theorem badChar_currentChar (m : Mach) (o : Opts) : (badChar o m).currentChar = m.currentChar := by
  unfold badChar; split <;> rfl
@[simp] theorem badChar_discardBom (m : Mach) (o : Opts) : (badChar o m).discardBom = m.discardBom := by
  unfold badChar; split <;> rfl
@[simp] theorem badEof_state (m : Mach) (o : Opts) : (badEof o m).state = m.state := by
  unfold badEof; split <;> rfl
@[simp] theorem badEof_tempBuf (m : Mach) (o : Opts) : (badEof o m).tempBuf = m.tempBuf := by
  unfold badEof; split <;> rfl
@[simp] theorem badEof_reconsume (m : Mach) (o : Opts) : (badEof o m).reconsume = m.reconsume := by
  unfold badEof; split <;> rfl
@[simp] theorem badEof_ignoreLf (m : Mach) (o : Opts) : (badEof o m).ignoreLf = m.ignoreLf := by
  unfold badEof; split <;> rfl
@[simp] theorem badEof_atEof (m : Mach) (o : Opts) : (badEof o m).atEof = m.atEof := by
  unfold badEof; split <;> rfl
@[simp] theorem badEof_charRef (m : Mach) (o : Opts) : (badEof o m).charRef = m.charRef := by
  unfold badEof; split <;> rfl
@[simp] theorem badEof_line (m : Mach) (o : Opts) : (badEof o m).line = m.line := by
  unfold badEof; split <;> rfl
@[simp] theorem badEof_currentChar (m : Mach) (o : Opts) : (badEof o m).currentChar = m.currentChar := by
  unfold badEof; split <;> rfl
@[simp] theorem badEof_discardBom (m : Mach) (o : Opts) : (badEof o m).discardBom = m.discardBom := by
  unfold badEof; split <;> rfl
@[simp] theorem to_state (m : Mach) (s : State) : (to s m).state = s := by
  unfold to; rfl
@[simp] theorem to_tempBuf (m : Mach) (s : State) : (to s m).tempBuf = m.tempBuf := by
  unfold to; rfl
@[simp] theorem to_reconsume (m : Mach) (s : State) : (to s m).reconsume = m.reconsume := by
  unfold to; rfl
@[simp] theorem to_ignoreLf (m : Mach) (s : State) : (to s m).ignoreLf = m.ignoreLf := by
  unfold to; rfl
@[simp] theorem to_atEof (m : Mach) (s : State) : (to s m).atEof = m.atEof := by
  unfold to; rfl
@[simp] theorem to_charRef (m : Mach) (s : State) : (to s m).charRef = m.charRef := by
  unfold to; rfl
@[simp] theorem to_line (m : Mach) (s : State) : (to s m).line = m.line := by
  unfold to; rfl
@[simp] theorem to_currentChar (m : Mach) (s : State) : (to s m).currentChar = m.currentChar := by
  unfold to; rfl
@[simp] theorem to_discardBom (m : Mach) (s : State) : (to s m).discardBom = m.discardBom := by
  unfold to; rfl
@[simp] theorem reconsumeTo_state (m : Mach) (s : State) : (reconsumeTo s m).state = s := by
  unfold reconsumeTo; rfl
@[simp] theorem reconsumeTo_tempBuf (m : Mach) (s : State) : (reconsumeTo s m).tempBuf = m.tempBuf := by
  unfold reconsumeTo; rfl
@[simp] theorem reconsumeTo_reconsume (m : Mach) (s : State) : (reconsumeTo s m).reconsume = true := by
  unfold reconsumeTo; rfl
@[simp] theorem reconsumeTo_ignoreLf (m : Mach) (s : State) : (reconsumeTo s m).ignoreLf = m.ignoreLf := by
  unfold reconsumeTo; rfl
@[simp] theorem reconsumeTo_atEof (m : Mach) (s : State) : (reconsumeTo s m).atEof = m.atEof := by
  unfold reconsumeTo; rfl
@[simp] theorem reconsumeTo_charRef (m : Mach) (s : State) : (reconsumeTo s m).charRef = m.charRef := by
  unfold reconsumeTo; rfl
@[simp] theorem reconsumeTo_line (m : Mach) (s : State) : (reconsumeTo s m).line = m.line := by
  unfold reconsumeTo; rfl
@[simp] theorem reconsumeTo_currentChar (m : Mach) (s : State) : (reconsumeTo s m).currentChar = m.currentChar := by
  unfold reconsumeTo; rfl
@[simp] theorem reconsumeTo_discardBom (m : Mach) (s : State) : (reconsumeTo s m).discardBom = m.discardBom := by
  unfold reconsumeTo; rfl
@[simp] theorem discardTag_state (m : Mach)  : (discardTag m).state = m.state := by
  unfold discardTag; rfl
@[simp] theorem discardTag_tempBuf (m : Mach)  : (discardTag m).tempBuf = m.tempBuf := by
  unfold discardTag; rfl
@[simp] theorem discardTag_reconsume (m : Mach)  : (discardTag m).reconsume = m.reconsume := by
  unfold discardTag; rfl
@[simp] theorem discardTag_ignoreLf (m : Mach)  : (discardTag m).ignoreLf = m.ignoreLf := by
  unfold discardTag; rfl
@[simp] theorem discardTag_atEof (m : Mach)  : (discardTag m).atEof = m.atEof := by
  unfold discardTag; rfl
@[simp] theorem discardTag_charRef (m : Mach)  : (discardTag m).charRef = m.charRef := by
  unfold discardTag; rfl
@[simp] theorem discardTag_line (m : Mach)  : (discardTag m).line = m.line := by
  unfold discardTag; rfl
@[simp] theorem discardTag_currentChar (m : Mach)  : (discardTag m).currentChar = m.currentChar := by
  unfold discardTag; rfl
@[simp] theorem discardTag_discardBom (m : Mach)  : (discardTag m).discardBom = m.discardBom := by
  unfold discardTag; rfl
@[simp] theorem createTag_state (m : Mach) (k : TagKind) (c : Char) : (createTag k c m).state = m.state := by
  unfold createTag; rfl
@[simp] theorem createTag_tempBuf (m : Mach) (k : TagKind) (c : Char) : (createTag k c m).tempBuf = m.tempBuf := by
  unfold createTag; rfl
@[simp] theorem createTag_reconsume (m : Mach) (k : TagKind) (c : Char) : (createTag k c m).reconsume = m.reconsume := by
  unfold createTag; rfl
@[simp] theorem createTag_ignoreLf (m : Mach) (k : TagKind) (c : Char) : (createTag k c m).ignoreLf = m.ignoreLf := by
  unfold createTag; rfl
@[simp] theorem createTag_atEof (m : Mach) (k : TagKind) (c : Char) : (createTag k c m).atEof = m.atEof := by
  unfold createTag; rfl
@[simp] theorem createTag_charRef (m : Mach) (k : TagKind) (c : Char) : (createTag k c m).charRef = m.charRef := by
  unfold createTag; rfl
@[simp] theorem createTag_line (m : Mach) (k : TagKind) (c : Char) : (createTag k c m).line = m.line := by
  unfold createTag; rfl
@[simp] theorem createTag_currentChar (m : Mach) (k : TagKind) (c : Char) : (createTag k c m).currentChar = m.currentChar := by
  unfold createTag; rfl
@[simp] theorem createTag_discardBom (m : Mach) (k : TagKind) (c : Char) : (createTag k c m).discardBom = m.discardBom := by
  unfold createTag; rfl
@[simp] theorem pushTag_state (m : Mach) (c : Char) : (pushTag c m).state = m.state := by
  unfold pushTag; rfl
@[simp] theorem pushTag_tempBuf (m : Mach) (c : Char) : (pushTag c m).tempBuf = m.tempBuf := by
  unfold pushTag; rfl
@[simp] theorem pushTag_reconsume (m : Mach) (c : Char) : (pushTag c m).reconsume = m.reconsume := by
  unfold pushTag; rfl
@[simp] theorem pushTag_ignoreLf (m : Mach) (c : Char) : (pushTag c m).ignoreLf = m.ignoreLf := by
  unfold pushTag; rfl
@[simp] theorem pushTag_atEof (m : Mach) (c : Char) : (pushTag c m).atEof = m.atEof := by
  unfold pushTag; rfl
@[simp] theorem pushTag_charRef (m : Mach) (c : Char) : (pushTag c m).charRef = m.charRef := by
  unfold pushTag; rfl
@[simp] theorem pushTag_line (m : Mach) (c : Char) : (pushTag c m).line = m.line := by
  unfold pushTag; rfl
@[simp] theorem pushTag_currentChar (m : Mach) (c : Char) : (pushTag c m).currentChar = m.currentChar := by
  unfold pushTag; rfl
@[simp] theorem pushTag_discardBom (m : Mach) (c : Char) : (pushTag c m).discardBom = m.discardBom := by
  unfold pushTag; rfl
@[simp] theorem pushTemp_state (m : Mach) (c : Char) : (pushTemp c m).state = m.state := by
  unfold pushTemp; rfl
@[simp] theorem pushTemp_tempBuf (m : Mach) (c : Char) : (pushTemp c m).tempBuf = m.tempBuf ++ [c] := by
  unfold pushTemp; rfl
@[simp] theorem pushTemp_reconsume (m : Mach) (c : Char) : (pushTemp c m).reconsume = m.reconsume := by
  unfold pushTemp; rfl
@[simp] theorem pushTemp_ignoreLf (m : Mach) (c : Char) : (pushTemp c m).ignoreLf = m.ignoreLf := by
  unfold pushTemp; rfl
@[simp] theorem pushTemp_atEof (m : Mach) (c : Char) : (pushTemp c m).atEof = m.atEof := by
  unfold pushTemp; rfl
@[simp] theorem pushTemp_charRef (m : Mach) (c : Char) : (pushTemp c m).charRef = m.charRef := by
  unfold pushTemp; rfl
@[simp] theorem pushTemp_line (m : Mach) (c : Char) : (pushTemp c m).line = m.line := by
  unfold pushTemp; rfl
@[simp] theorem pushTemp_currentChar (m : Mach) (c : Char) : (pushTemp c m).currentChar = m.currentChar := by
  unfold pushTemp; rfl
@[simp] theorem pushTemp_discardBom (m : Mach) (c : Char) : (pushTemp c m).discardBom = m.discardBom := by
  unfold pushTemp; rfl
@[simp] theorem clearTemp_state (m : Mach)  : (clearTemp m).state = m.state := by
  unfold clearTemp; rfl
@[simp] theorem clearTemp_tempBuf (m : Mach)  : (clearTemp m).tempBuf = [] := by
  unfold clearTemp; rfl
@[simp] theorem clearTemp_reconsume (m : Mach)  : (clearTemp m).reconsume = m.reconsume := by
  unfold clearTemp; rfl
@[simp] theorem clearTemp_ignoreLf (m : Mach)  : (clearTemp m).ignoreLf = m.ignoreLf := by
  unfold clearTemp; rfl
@[simp] theorem clearTemp_atEof (m : Mach)  : (clearTemp m).atEof = m.atEof := by
  unfold clearTemp; rfl
@[simp] theorem clearTemp_charRef (m : Mach)  : (clearTemp m).charRef = m.charRef := by
  unfold clearTemp; rfl
@[simp] theorem clearTemp_line (m : Mach)  : (clearTemp m).line = m.line := by
  unfold clearTemp; rfl
@[simp] theorem clearTemp_currentChar (m : Mach)  : (clearTemp m).currentChar = m.currentChar := by
  unfold clearTemp; rfl
@[simp] theorem clearTemp_discardBom (m : Mach)  : (clearTemp m).discardBom = m.discardBom := by
  unfold clearTemp; rfl
@[simp] theorem emitTempBuf_state (m : Mach)  : (emitTempBuf m).state = m.state := by
  unfold emitTempBuf; rfl
@[simp] theorem emitTempBuf_tempBuf (m : Mach)  : (emitTempBuf m).tempBuf = [] := by
  unfold emitTempBuf; rfl
@[simp] theorem emitTempBuf_reconsume (m : Mach)  : (emitTempBuf m).reconsume = m.reconsume := by
  unfold emitTempBuf; rfl
@[simp] theorem emitTempBuf_ignoreLf (m : Mach)  : (emitTempBuf m).ignoreLf = m.ignoreLf := by
  unfold emitTempBuf; rfl
@[simp] theorem emitTempBuf_atEof (m : Mach)  : (emitTempBuf m).atEof = m.atEof := by
  unfold emitTempBuf; rfl
@[simp] theorem emitTempBuf_charRef (m : Mach)  : (emitTempBuf m).charRef = m.charRef := by
  unfold emitTempBuf; rfl
@[simp] theorem emitTempBuf_line (m : Mach)  : (emitTempBuf m).line = m.line := by
  unfold emitTempBuf; rfl
@[simp] theorem emitTempBuf_currentChar (m : Mach)  : (emitTempBuf m).currentChar = m.currentChar := by
  unfold emitTempBuf; rfl
@[simp] theorem emitTempBuf_discardBom (m : Mach)  : (emitTempBuf m).discardBom = m.discardBom := by
  unfold emitTempBuf; rfl
@[simp] theorem finishAttribute_state (m : Mach)  : (finishAttribute m).state = m.state := by
  unfold finishAttribute; split; rfl; dsimp only; split <;> rfl
@[simp] theorem finishAttribute_tempBuf (m : Mach)  : (finishAttribute m).tempBuf = m.tempBuf := by
  unfold finishAttribute; split; rfl; dsimp only; split <;> rfl
@[simp] theorem finishAttribute_reconsume (m : Mach)  : (finishAttribute m).reconsume = m.reconsume := by
  unfold finishAttribute; split; rfl; dsimp only; split <;> rfl
@[simp] theorem finishAttribute_ignoreLf (m : Mach)  : (finishAttribute m).ignoreLf = m.ignoreLf := by
  unfold finishAttribute; split; rfl; dsimp only; split <;> rfl
@[simp] theorem finishAttribute_atEof (m : Mach)  : (finishAttribute m).atEof = m.atEof := by
  unfold finishAttribute; split; rfl; dsimp only; split <;> rfl
@[simp] theorem finishAttribute_charRef (m : Mach)  : (finishAttribute m).charRef = m.charRef := by
  unfold finishAttribute; split; rfl; dsimp only; split <;> rfl
@[simp] theorem finishAttribute_line (m : Mach)  : (finishAttribute m).line = m.line := by
  unfold finishAttribute; split; rfl; dsimp only; split <;> rfl
@[simp] theorem finishAttribute_currentChar (m : Mach)  : (finishAttribute m).currentChar = m.currentChar := by
  unfold finishAttribute; split; rfl; dsimp only; split <;> rfl
@[simp] theorem finishAttribute_discardBom (m : Mach)  : (finishAttribute m).discardBom = m.discardBom := by
  unfold finishAttribute; split; rfl; dsimp only; split <;> rfl
@[simp] theorem createAttr_state (m : Mach) (c : Char) : (createAttr c m).state = m.state := by
  simp [createAttr]
@[simp] theorem createAttr_tempBuf (m : Mach) (c : Char) : (createAttr c m).tempBuf = m.tempBuf := by
  simp [createAttr]
@[simp] theorem createAttr_reconsume (m : Mach) (c : Char) : (createAttr c m).reconsume = m.reconsume := by
  simp [createAttr]
@[simp] theorem createAttr_ignoreLf (m : Mach) (c : Char) : (createAttr c m).ignoreLf = m.ignoreLf := by
  simp [createAttr]
@[simp] theorem createAttr_atEof (m : Mach) (c : Char) : (createAttr c m).atEof = m.atEof := by
  simp [createAttr]
@[simp] theorem createAttr_charRef (m : Mach) (c : Char) : (createAttr c m).charRef = m.charRef := by
  simp [createAttr]
@[simp] theorem createAttr_line (m : Mach) (c : Char) : (createAttr c m).line = m.line := by
  simp [createAttr]
@[simp] theorem createAttr_currentChar (m : Mach) (c : Char) : (createAttr c m).currentChar = m.currentChar := by
  simp [createAttr]
@[simp] theorem createAttr_discardBom (m : Mach) (c : Char) : (createAttr c m).discardBom = m.discardBom := by
  simp [createAttr]
@[simp] theorem pushName_state (m : Mach) (c : Char) : (pushName c m).state = m.state := by
  unfold pushName; rfl
@[simp] theorem pushName_tempBuf (m : Mach) (c : Char) : (pushName c m).tempBuf = m.tempBuf := by
  unfold pushName; rfl
@[simp] theorem pushName_reconsume (m : Mach) (c : Char) : (pushName c m).reconsume = m.reconsume := by
  unfold pushName; rfl
@[simp] theorem pushName_ignoreLf (m : Mach) (c : Char) : (pushName c m).ignoreLf = m.ignoreLf := by
  unfold pushName; rfl
@[simp] theorem pushName_atEof (m : Mach) (c : Char) : (pushName c m).atEof = m.atEof := by
  unfold pushName; rfl
@[simp] theorem pushName_charRef (m : Mach) (c : Char) : (pushName c m).charRef = m.charRef := by
  unfold pushName; rfl
@[simp] theorem pushName_line (m : Mach) (c : Char) : (pushName c m).line = m.line := by
  unfold pushName; rfl
@[simp] theorem pushName_currentChar (m : Mach) (c : Char) : (pushName c m).currentChar = m.currentChar := by
  unfold pushName; rfl
@[simp] theorem pushName_discardBom (m : Mach) (c : Char) : (pushName c m).discardBom = m.discardBom := by
  unfold pushName; rfl
@[simp] theorem pushValue_state (m : Mach) (c : Char) : (pushValue c m).state = m.state := by
  unfold pushValue; rfl
@[simp] theorem pushValue_tempBuf (m : Mach) (c : Char) : (pushValue c m).tempBuf = m.tempBuf := by
  unfold pushValue; rfl
@[simp] theorem pushValue_reconsume (m : Mach) (c : Char) : (pushValue c m).reconsume = m.reconsume := by
  unfold pushValue; rfl
@[simp] theorem pushValue_ignoreLf (m : Mach) (c : Char) : (pushValue c m).ignoreLf = m.ignoreLf := by
  unfold pushValue; rfl
@[simp] theorem pushValue_atEof (m : Mach) (c : Char) : (pushValue c m).atEof = m.atEof := by
  unfold pushValue; rfl
@[simp] theorem pushValue_charRef (m : Mach) (c : Char) : (pushValue c m).charRef = m.charRef := by
  unfold pushValue; rfl
@[simp] theorem pushValue_line (m : Mach) (c : Char) : (pushValue c m).line = m.line := by
  unfold pushValue; rfl
@[simp] theorem pushValue_currentChar (m : Mach) (c : Char) : (pushValue c m).currentChar = m.currentChar := by
  unfold pushValue; rfl
@[simp] theorem pushValue_discardBom (m : Mach) (c : Char) : (pushValue c m).discardBom = m.discardBom := by
  unfold pushValue; rfl
@[simp] theorem appendValue_state (m : Mach) (s : Str) : (appendValue s m).state = m.state := by
  unfold appendValue; rfl
@[simp] theorem appendValue_tempBuf (m : Mach) (s : Str) : (appendValue s m).tempBuf = m.tempBuf := by
  unfold appendValue; rfl
@[simp] theorem appendValue_reconsume (m : Mach) (s : Str) : (appendValue s m).reconsume = m.reconsume := by
  unfold appendValue; rfl
@[simp] theorem appendValue_ignoreLf (m : Mach) (s : Str) : (appendValue s m).ignoreLf = m.ignoreLf := by
  unfold appendValue; rfl
@[simp] theorem appendValue_atEof (m : Mach) (s : Str) : (appendValue s m).atEof = m.atEof := by
  unfold appendValue; rfl
@[simp] theorem appendValue_charRef (m : Mach) (s : Str) : (appendValue s m).charRef = m.charRef := by
  unfold appendValue; rfl
@[simp] theorem appendValue_line (m : Mach) (s : Str) : (appendValue s m).line = m.line := by
  unfold appendValue; rfl
@[simp] theorem appendValue_currentChar (m : Mach) (s : Str) : (appendValue s m).currentChar = m.currentChar := by
  unfold appendValue; rfl
@[simp] theorem appendValue_discardBom (m : Mach) (s : Str) : (appendValue s m).discardBom = m.discardBom := by
  unfold appendValue; rfl
@[simp] theorem pushComment_state (m : Mach) (c : Char) : (pushComment c m).state = m.state := by
  unfold pushComment; rfl
@[simp] theorem pushComment_tempBuf (m : Mach) (c : Char) : (pushComment c m).tempBuf = m.tempBuf := by
  unfold pushComment; rfl
@[simp] theorem pushComment_reconsume (m : Mach) (c : Char) : (pushComment c m).reconsume = m.reconsume := by
  unfold pushComment; rfl
@[simp] theorem pushComment_ignoreLf (m : Mach) (c : Char) : (pushComment c m).ignoreLf = m.ignoreLf := by
  unfold pushComment; rfl
@[simp] theorem pushComment_atEof (m : Mach) (c : Char) : (pushComment c m).atEof = m.atEof := by
  unfold pushComment; rfl
@[simp] theorem pushComment_charRef (m : Mach) (c : Char) : (pushComment c m).charRef = m.charRef := by
  unfold pushComment; rfl
@[simp] theorem pushComment_line (m : Mach) (c : Char) : (pushComment c m).line = m.line := by
  unfold pushComment; rfl
@[simp] theorem pushComment_currentChar (m : Mach) (c : Char) : (pushComment c m).currentChar = m.currentChar := by
  unfold pushComment; rfl
@[simp] theorem pushComment_discardBom (m : Mach) (c : Char) : (pushComment c m).discardBom = m.discardBom := by
  unfold pushComment; rfl
@[simp] theorem appendComment_state (m : Mach) (s : String) : (appendComment s m).state = m.state := by
  unfold appendComment; rfl
@[simp] theorem appendComment_tempBuf (m : Mach) (s : String) : (appendComment s m).tempBuf = m.tempBuf := by
  unfold appendComment; rfl
@[simp] theorem appendComment_reconsume (m : Mach) (s : String) : (appendComment s m).reconsume = m.reconsume := by
  unfold appendComment; rfl
@[simp] theorem appendComment_ignoreLf (m : Mach) (s : String) : (appendComment s m).ignoreLf = m.ignoreLf := by
  unfold appendComment; rfl
@[simp] theorem appendComment_atEof (m : Mach) (s : String) : (appendComment s m).atEof = m.atEof := by
  unfold appendComment; rfl
@[simp] theorem appendComment_charRef (m : Mach) (s : String) : (appendComment s m).charRef = m.charRef := by
  unfold appendComment; rfl
@[simp] theorem appendComment_line (m : Mach) (s : String) : (appendComment s m).line = m.line := by
  unfold appendComment; rfl
@[simp] theorem appendComment_currentChar (m : Mach) (s : String) : (appendComment s m).currentChar = m.currentChar := by
  unfold appendComment; rfl
@[simp] theorem appendComment_discardBom (m : Mach) (s : String) : (appendComment s m).discardBom = m.discardBom := by
  unfold appendComment; rfl
@[simp] theorem clearComment_state (m : Mach)  : (clearComment m).state = m.state := by
  unfold clearComment; rfl
@[simp] theorem clearComment_tempBuf (m : Mach)  : (clearComment m).tempBuf = m.tempBuf := by
  unfold clearComment; rfl
@[simp] theorem clearComment_reconsume (m : Mach)  : (clearComment m).reconsume = m.reconsume := by
  unfold clearComment; rfl
@[simp] theorem clearComment_ignoreLf (m : Mach)  : (clearComment m).ignoreLf = m.ignoreLf := by
  unfold clearComment; rfl
@[simp] theorem clearComment_atEof (m : Mach)  : (clearComment m).atEof = m.atEof := by
  unfold clearComment; rfl
@[simp] theorem clearComment_charRef (m : Mach)  : (clearComment m).charRef = m.charRef := by
  unfold clearComment; rfl
@[simp] theorem clearComment_line (m : Mach)  : (clearComment m).line = m.line := by
  unfold clearComment; rfl
@[simp] theorem clearComment_currentChar (m : Mach)  : (clearComment m).currentChar = m.currentChar := by
  unfold clearComment; rfl
@[simp] theorem clearComment_discardBom (m : Mach)  : (clearComment m).discardBom = m.discardBom := by
  unfold clearComment; rfl
@[simp] theorem emitComment_state (m : Mach)  : (emitComment m).state = m.state := by
  unfold emitComment; rfl
@[simp] theorem emitComment_tempBuf (m : Mach)  : (emitComment m).tempBuf = m.tempBuf := by
  unfold emitComment; rfl
@[simp] theorem emitComment_reconsume (m : Mach)  : (emitComment m).reconsume = m.reconsume := by
  unfold emitComment; rfl
@[simp] theorem emitComment_ignoreLf (m : Mach)  : (emitComment m).ignoreLf = m.ignoreLf := by
  unfold emitComment; rfl
@[simp] theorem emitComment_atEof (m : Mach)  : (emitComment m).atEof = m.atEof := by
  unfold emitComment; rfl
@[simp] theorem emitComment_charRef (m : Mach)  : (emitComment m).charRef = m.charRef := by
  unfold emitComment; rfl
@[simp] theorem emitComment_line (m : Mach)  : (emitComment m).line = m.line := by
  unfold emitComment; rfl
@[simp] theorem emitComment_currentChar (m : Mach)  : (emitComment m).currentChar = m.currentChar := by
  unfold emitComment; rfl
@[simp] theorem emitComment_discardBom (m : Mach)  : (emitComment m).discardBom = m.discardBom := by
  unfold emitComment; rfl
@[simp] theorem createDoctype_state (m : Mach)  : (createDoctype m).state = m.state := by
  unfold createDoctype; rfl
@[simp] theorem createDoctype_tempBuf (m : Mach)  : (createDoctype m).tempBuf = m.tempBuf := by
  unfold createDoctype; rfl
@[simp] theorem createDoctype_reconsume (m : Mach)  : (createDoctype m).reconsume = m.reconsume := by
  unfold createDoctype; rfl
@[simp] theorem createDoctype_ignoreLf (m : Mach)  : (createDoctype m).ignoreLf = m.ignoreLf := by
  unfold createDoctype; rfl
@[simp] theorem createDoctype_atEof (m : Mach)  : (createDoctype m).atEof = m.atEof := by
  unfold createDoctype; rfl
@[simp] theorem createDoctype_charRef (m : Mach)  : (createDoctype m).charRef = m.charRef := by
  unfold createDoctype; rfl
@[simp] theorem createDoctype_line (m : Mach)  : (createDoctype m).line = m.line := by
  unfold createDoctype; rfl
@[simp] theorem createDoctype_currentChar (m : Mach)  : (createDoctype m).currentChar = m.currentChar := by
  unfold createDoctype; rfl
@[simp] theorem createDoctype_discardBom (m : Mach)  : (createDoctype m).discardBom = m.discardBom := by
  unfold createDoctype; rfl
@[simp] theorem pushDoctypeName_state (m : Mach) (c : Char) : (pushDoctypeName c m).state = m.state := by
  unfold pushDoctypeName; rfl
@[simp] theorem pushDoctypeName_tempBuf (m : Mach) (c : Char) : (pushDoctypeName c m).tempBuf = m.tempBuf := by
  unfold pushDoctypeName; rfl
@[simp] theorem pushDoctypeName_reconsume (m : Mach) (c : Char) : (pushDoctypeName c m).reconsume = m.reconsume := by
  unfold pushDoctypeName; rfl
@[simp] theorem pushDoctypeName_ignoreLf (m : Mach) (c : Char) : (pushDoctypeName c m).ignoreLf = m.ignoreLf := by
  unfold pushDoctypeName; rfl
@[simp] theorem pushDoctypeName_atEof (m : Mach) (c : Char) : (pushDoctypeName c m).atEof = m.atEof := by
  unfold pushDoctypeName; rfl
@[simp] theorem pushDoctypeName_charRef (m : Mach) (c : Char) : (pushDoctypeName c m).charRef = m.charRef := by
  unfold pushDoctypeName; rfl
@[simp] theorem pushDoctypeName_line (m : Mach) (c : Char) : (pushDoctypeName c m).line = m.line := by
  unfold pushDoctypeName; rfl
@[simp] theorem pushDoctypeName_currentChar (m : Mach) (c : Char) : (pushDoctypeName c m).currentChar = m.currentChar := by
  unfold pushDoctypeName; rfl
@[simp] theorem pushDoctypeName_discardBom (m : Mach) (c : Char) : (pushDoctypeName c m).discardBom = m.discardBom := by
  unfold pushDoctypeName; rfl
@[simp] theorem pushDoctypeId_state (m : Mach) (k : DoctypeIdKind) (c : Char) : (pushDoctypeId k c m).state = m.state := by
  unfold pushDoctypeId; split <;> rfl
@[simp] theorem pushDoctypeId_tempBuf (m : Mach) (k : DoctypeIdKind) (c : Char) : (pushDoctypeId k c m).tempBuf = m.tempBuf := by
  unfold pushDoctypeId; split <;> rfl
@[simp] theorem pushDoctypeId_reconsume (m : Mach) (k : DoctypeIdKind) (c : Char) : (pushDoctypeId k c m).reconsume = m.reconsume := by
  unfold pushDoctypeId; split <;> rfl
@[simp] theorem pushDoctypeId_ignoreLf (m : Mach) (k : DoctypeIdKind) (c : Char) : (pushDoctypeId k c m).ignoreLf = m.ignoreLf := by
  unfold pushDoctypeId; split <;> rfl
@[simp] theorem pushDoctypeId_atEof (m : Mach) (k : DoctypeIdKind) (c : Char) : (pushDoctypeId k c m).atEof = m.atEof := by
  unfold pushDoctypeId; split <;> rfl
@[simp] theorem pushDoctypeId_charRef (m : Mach) (k : DoctypeIdKind) (c : Char) : (pushDoctypeId k c m).charRef = m.charRef := by
  unfold pushDoctypeId; split <;> rfl
@[simp] theorem pushDoctypeId_line (m : Mach) (k : DoctypeIdKind) (c : Char) : (pushDoctypeId k c m).line = m.line := by
  unfold pushDoctypeId; split <;> rfl
@[simp] theorem pushDoctypeId_currentChar (m : Mach) (k : DoctypeIdKind) (c : Char) : (pushDoctypeId k c m).currentChar = m.currentChar := by
  unfold pushDoctypeId; split <;> rfl
@[simp] theorem pushDoctypeId_discardBom (m : Mach) (k : DoctypeIdKind) (c : Char) : (pushDoctypeId k c m).discardBom = m.discardBom := by
  unfold pushDoctypeId; split <;> rfl
@[simp] theorem clearDoctypeId_state (m : Mach) (k : DoctypeIdKind) : (clearDoctypeId k m).state = m.state := by
  unfold clearDoctypeId; split <;> rfl
@[simp] theorem clearDoctypeId_tempBuf (m : Mach) (k : DoctypeIdKind) : (clearDoctypeId k m).tempBuf = m.tempBuf := by
  unfold clearDoctypeId; split <;> rfl
@[simp] theorem clearDoctypeId_reconsume (m : Mach) (k : DoctypeIdKind) : (clearDoctypeId k m).reconsume = m.reconsume := by
  unfold clearDoctypeId; split <;> rfl
@[simp] theorem clearDoctypeId_ignoreLf (m : Mach) (k : DoctypeIdKind) : (clearDoctypeId k m).ignoreLf = m.ignoreLf := by
  unfold clearDoctypeId; split <;> rfl
@[simp] theorem clearDoctypeId_atEof (m : Mach) (k : DoctypeIdKind) : (clearDoctypeId k m).atEof = m.atEof := by
  unfold clearDoctypeId; split <;> rfl
@[simp] theorem clearDoctypeId_charRef (m : Mach) (k : DoctypeIdKind) : (clearDoctypeId k m).charRef = m.charRef := by
  unfold clearDoctypeId; split <;> rfl
@[simp] theorem clearDoctypeId_line (m : Mach) (k : DoctypeIdKind) : (clearDoctypeId k m).line = m.line := by
  unfold clearDoctypeId; split <;> rfl
@[simp] theorem clearDoctypeId_currentChar (m : Mach) (k : DoctypeIdKind) : (clearDoctypeId k m).currentChar = m.currentChar := by
  unfold clearDoctypeId; split <;> rfl
@[simp] theorem clearDoctypeId_discardBom (m : Mach) (k : DoctypeIdKind) : (clearDoctypeId k m).discardBom = m.discardBom := by
  unfold clearDoctypeId; split <;> rfl
@[simp] theorem forceQuirks_state (m : Mach)  : (forceQuirks m).state = m.state := by
  unfold forceQuirks; rfl
@[simp] theorem forceQuirks_tempBuf (m : Mach)  : (forceQuirks m).tempBuf = m.tempBuf := by
  unfold forceQuirks; rfl
@[simp] theorem forceQuirks_reconsume (m : Mach)  : (forceQuirks m).reconsume = m.reconsume := by
  unfold forceQuirks; rfl
@[simp] theorem forceQuirks_ignoreLf (m : Mach)  : (forceQuirks m).ignoreLf = m.ignoreLf := by
  unfold forceQuirks; rfl
@[simp] theorem forceQuirks_atEof (m : Mach)  : (forceQuirks m).atEof = m.atEof := by
  unfold forceQuirks; rfl
@[simp] theorem forceQuirks_charRef (m : Mach)  : (forceQuirks m).charRef = m.charRef := by
  unfold forceQuirks; rfl
@[simp] theorem forceQuirks_line (m : Mach)  : (forceQuirks m).line = m.line := by
  unfold forceQuirks; rfl
@[simp] theorem forceQuirks_currentChar (m : Mach)  : (forceQuirks m).currentChar = m.currentChar := by
  unfold forceQuirks; rfl
@[simp] theorem forceQuirks_discardBom (m : Mach)  : (forceQuirks m).discardBom = m.discardBom := by
  unfold forceQuirks; rfl
@[simp] theorem emitDoctype_state (m : Mach)  : (emitDoctype m).state = m.state := by
  unfold emitDoctype; rfl
@[simp] theorem emitDoctype_tempBuf (m : Mach)  : (emitDoctype m).tempBuf = m.tempBuf := by
  unfold emitDoctype; rfl
@[simp] theorem emitDoctype_reconsume (m : Mach)  : (emitDoctype m).reconsume = m.reconsume := by
  unfold emitDoctype; rfl
@[simp] theorem emitDoctype_ignoreLf (m : Mach)  : (emitDoctype m).ignoreLf = m.ignoreLf := by
  unfold emitDoctype; rfl
@[simp] theorem emitDoctype_atEof (m : Mach)  : (emitDoctype m).atEof = m.atEof := by
  unfold emitDoctype; rfl
@[simp] theorem emitDoctype_charRef (m : Mach)  : (emitDoctype m).charRef = m.charRef := by
  unfold emitDoctype; rfl
@[simp] theorem emitDoctype_line (m : Mach)  : (emitDoctype m).line = m.line := by
  unfold emitDoctype; rfl
@[simp] theorem emitDoctype_currentChar (m : Mach)  : (emitDoctype m).currentChar = m.currentChar := by
  unfold emitDoctype; rfl
@[simp] theorem emitDoctype_discardBom (m : Mach)  : (emitDoctype m).discardBom = m.discardBom := by
  unfold emitDoctype; rfl
@[simp] theorem tagPrologue_state (m : Mach)  : (tagPrologue m).state = m.state := by
  unfold tagPrologue; dsimp only; split; simp; (repeat' split) <;> simp
@[simp] theorem tagPrologue_tempBuf (m : Mach)  : (tagPrologue m).tempBuf = m.tempBuf := by
  unfold tagPrologue; dsimp only; split; simp; (repeat' split) <;> simp
@[simp] theorem tagPrologue_reconsume (m : Mach)  : (tagPrologue m).reconsume = m.reconsume := by
  unfold tagPrologue; dsimp only; split; simp; (repeat' split) <;> simp
@[simp] theorem tagPrologue_ignoreLf (m : Mach)  : (tagPrologue m).ignoreLf = m.ignoreLf := by
  unfold tagPrologue; dsimp only; split; simp; (repeat' split) <;> simp
@[simp] theorem tagPrologue_atEof (m : Mach)  : (tagPrologue m).atEof = m.atEof := by
  unfold tagPrologue; dsimp only; split; simp; (repeat' split) <;> simp
@[simp] theorem tagPrologue_charRef (m : Mach)  : (tagPrologue m).charRef = m.charRef := by
  unfold tagPrologue; dsimp only; split; simp; (repeat' split) <;> simp
@[simp] theorem tagPrologue_line (m : Mach)  : (tagPrologue m).line = m.line := by
  unfold tagPrologue; dsimp only; split; simp; (repeat' split) <;> simp
@[simp] theorem tagPrologue_currentChar (m : Mach)  : (tagPrologue m).currentChar = m.currentChar := by
  unfold tagPrologue; dsimp only; split; simp; (repeat' split) <;> simp
@[simp] theorem tagPrologue_discardBom (m : Mach)  : (tagPrologue m).discardBom = m.discardBom := by
  unfold tagPrologue; dsimp only; split; simp; (repeat' split) <;> simp
@[simp] theorem takeTag_state (m : Mach)  : (takeTag m).state = m.state := by
  unfold takeTag; rfl
@[simp] theorem takeTag_tempBuf (m : Mach)  : (takeTag m).tempBuf = m.tempBuf := by
  unfold takeTag; rfl
@[simp] theorem takeTag_reconsume (m : Mach)  : (takeTag m).reconsume = m.reconsume := by
  unfold takeTag; rfl
@[simp] theorem takeTag_ignoreLf (m : Mach)  : (takeTag m).ignoreLf = m.ignoreLf := by
  unfold takeTag; rfl
@[simp] theorem takeTag_atEof (m : Mach)  : (takeTag m).atEof = m.atEof := by
  unfold takeTag; rfl
@[simp] theorem takeTag_charRef (m : Mach)  : (takeTag m).charRef = m.charRef := by
  unfold takeTag; rfl
@[simp] theorem takeTag_line (m : Mach)  : (takeTag m).line = m.line := by
  unfold takeTag; rfl
@[simp] theorem takeTag_currentChar (m : Mach)  : (takeTag m).currentChar = m.currentChar := by
  unfold takeTag; rfl
@[simp] theorem takeTag_discardBom (m : Mach)  : (takeTag m).discardBom = m.discardBom := by
  unfold takeTag; rfl
@[simp] theorem setIgnoreLf_state (m : Mach) (b : Bool) : (m.setIgnoreLf b).state = m.state := by
  unfold Mach.setIgnoreLf; rfl
@[simp] theorem setIgnoreLf_tempBuf (m : Mach) (b : Bool) : (m.setIgnoreLf b).tempBuf = m.tempBuf := by
  unfold Mach.setIgnoreLf; rfl
@[simp] theorem setIgnoreLf_reconsume (m : Mach) (b : Bool) : (m.setIgnoreLf b).reconsume = m.reconsume := by
  unfold Mach.setIgnoreLf; rfl
@[simp] theorem setIgnoreLf_ignoreLf (m : Mach) (b : Bool) : (m.setIgnoreLf b).ignoreLf = b := by
  unfold Mach.setIgnoreLf; rfl
@[simp] theorem setIgnoreLf_atEof (m : Mach) (b : Bool) : (m.setIgnoreLf b).atEof = m.atEof := by
  unfold Mach.setIgnoreLf; rfl
@[simp] theorem setIgnoreLf_charRef (m : Mach) (b : Bool) : (m.setIgnoreLf b).charRef = m.charRef := by
  unfold Mach.setIgnoreLf; rfl
@[simp] theorem setIgnoreLf_line (m : Mach) (b : Bool) : (m.setIgnoreLf b).line = m.line := by
  unfold Mach.setIgnoreLf; rfl
@[simp] theorem setIgnoreLf_currentChar (m : Mach) (b : Bool) : (m.setIgnoreLf b).currentChar = m.currentChar := by
  unfold Mach.setIgnoreLf; rfl
@[simp] theorem setIgnoreLf_discardBom (m : Mach) (b : Bool) : (m.setIgnoreLf b).discardBom = m.discardBom := by
  unfold Mach.setIgnoreLf; rfl
@[simp] theorem setReconsume_state (m : Mach) (b : Bool) : (m.setReconsume b).state = m.state := by
  unfold Mach.setReconsume; rfl
@[simp] theorem setReconsume_tempBuf (m : Mach) (b : Bool) : (m.setReconsume b).tempBuf = m.tempBuf := by
  unfold Mach.setReconsume; rfl
@[simp] theorem setReconsume_reconsume (m : Mach) (b : Bool) : (m.setReconsume b).reconsume = b := by
  unfold Mach.setReconsume; rfl
@[simp] theorem setReconsume_ignoreLf (m : Mach) (b : Bool) : (m.setReconsume b).ignoreLf = m.ignoreLf := by
  unfold Mach.setReconsume; rfl
@[simp] theorem setReconsume_atEof (m : Mach) (b : Bool) : (m.setReconsume b).atEof = m.atEof := by
  unfold Mach.setReconsume; rfl
@[simp] theorem setReconsume_charRef (m : Mach) (b : Bool) : (m.setReconsume b).charRef = m.charRef := by
  unfold Mach.setReconsume; rfl
@[simp] theorem setReconsume_line (m : Mach) (b : Bool) : (m.setReconsume b).line = m.line := by
  unfold Mach.setReconsume; rfl
@[simp] theorem setReconsume_currentChar (m : Mach) (b : Bool) : (m.setReconsume b).currentChar = m.currentChar := by
  unfold Mach.setReconsume; rfl
@[simp] theorem setReconsume_discardBom (m : Mach) (b : Bool) : (m.setReconsume b).discardBom = m.discardBom := by
  unfold Mach.setReconsume; rfl
@[simp] theorem setTempBuf_state (m : Mach) (s : Str) : (m.setTempBuf s).state = m.state := by
  unfold Mach.setTempBuf; rfl
@[simp] theorem setTempBuf_tempBuf (m : Mach) (s : Str) : (m.setTempBuf s).tempBuf = s := by
  unfold Mach.setTempBuf; rfl
@[simp] theorem setTempBuf_reconsume (m : Mach) (s : Str) : (m.setTempBuf s).reconsume = m.reconsume := by
  unfold Mach.setTempBuf; rfl
@[simp] theorem setTempBuf_ignoreLf (m : Mach) (s : Str) : (m.setTempBuf s).ignoreLf = m.ignoreLf := by
  unfold Mach.setTempBuf; rfl
@[simp] theorem setTempBuf_atEof (m : Mach) (s : Str) : (m.setTempBuf s).atEof = m.atEof := by
  unfold Mach.setTempBuf; rfl
@[simp] theorem setTempBuf_charRef (m : Mach) (s : Str) : (m.setTempBuf s).charRef = m.charRef := by
  unfold Mach.setTempBuf; rfl
@[simp] theorem setTempBuf_line (m : Mach) (s : Str) : (m.setTempBuf s).line = m.line := by
  unfold Mach.setTempBuf; rfl
@[simp] theorem setTempBuf_currentChar (m : Mach) (s : Str) : (m.setTempBuf s).currentChar = m.currentChar := by
  unfold Mach.setTempBuf; rfl
@[simp] theorem setTempBuf_discardBom (m : Mach) (s : Str) : (m.setTempBuf s).discardBom = m.discardBom := by
  unfold Mach.setTempBuf; rfl
@[simp] theorem setCharRef_state (m : Mach) (cr : Option CharRefSt) : (m.setCharRef cr).state = m.state := by
  unfold Mach.setCharRef; rfl
@[simp] theorem setCharRef_tempBuf (m : Mach) (cr : Option CharRefSt) : (m.setCharRef cr).tempBuf = m.tempBuf := by
  unfold Mach.setCharRef; rfl
@[simp] theorem setCharRef_reconsume (m : Mach) (cr : Option CharRefSt) : (m.setCharRef cr).reconsume = m.reconsume := by
  unfold Mach.setCharRef; rfl
@[simp] theorem setCharRef_ignoreLf (m : Mach) (cr : Option CharRefSt) : (m.setCharRef cr).ignoreLf = m.ignoreLf := by
  unfold Mach.setCharRef; rfl
@[simp] theorem setCharRef_atEof (m : Mach) (cr : Option CharRefSt) : (m.setCharRef cr).atEof = m.atEof := by
  unfold Mach.setCharRef; rfl
@[simp] theorem setCharRef_charRef (m : Mach) (cr : Option CharRefSt) : (m.setCharRef cr).charRef = cr := by
  unfold Mach.setCharRef; rfl
@[simp] theorem setCharRef_line (m : Mach) (cr : Option CharRefSt) : (m.setCharRef cr).line = m.line := by
  unfold Mach.setCharRef; rfl
@[simp] theorem setCharRef_currentChar (m : Mach) (cr : Option CharRefSt) : (m.setCharRef cr).currentChar = m.currentChar := by
  unfold Mach.setCharRef; rfl
@[simp] theorem setCharRef_discardBom (m : Mach) (cr : Option CharRefSt) : (m.setCharRef cr).discardBom = m.discardBom := by
  unfold Mach.setCharRef; rfl
@[simp] theorem setAtEof_state (m : Mach) (b : Bool) : (m.setAtEof b).state = m.state := by
  unfold Mach.setAtEof; rfl
@[simp] theorem setAtEof_tempBuf (m : Mach) (b : Bool) : (m.setAtEof b).tempBuf = m.tempBuf := by
  unfold Mach.setAtEof; rfl
@[simp] theorem setAtEof_reconsume (m : Mach) (b : Bool) : (m.setAtEof b).reconsume = m.reconsume := by
  unfold Mach.setAtEof; rfl
@[simp] theorem setAtEof_ignoreLf (m : Mach) (b : Bool) : (m.setAtEof b).ignoreLf = m.ignoreLf := by
  unfold Mach.setAtEof; rfl
@[simp] theorem setAtEof_atEof (m : Mach) (b : Bool) : (m.setAtEof b).atEof = b := by
  unfold Mach.setAtEof; rfl
@[simp] theorem setAtEof_charRef (m : Mach) (b : Bool) : (m.setAtEof b).charRef = m.charRef := by
  unfold Mach.setAtEof; rfl
@[simp] theorem setAtEof_line (m : Mach) (b : Bool) : (m.setAtEof b).line = m.line := by
  unfold Mach.setAtEof; rfl
@[simp] theorem setAtEof_currentChar (m : Mach) (b : Bool) : (m.setAtEof b).currentChar = m.currentChar := by
  unfold Mach.setAtEof; rfl
@[simp] theorem setAtEof_discardBom (m : Mach) (b : Bool) : (m.setAtEof b).discardBom = m.discardBom := by
  unfold Mach.setAtEof; rfl
@[simp] theorem setDiscardBom_state (m : Mach) (b : Bool) : (m.setDiscardBom b).state = m.state := by
  unfold Mach.setDiscardBom; rfl
@[simp] theorem setDiscardBom_tempBuf (m : Mach) (b : Bool) : (m.setDiscardBom b).tempBuf = m.tempBuf := by
  unfold Mach.setDiscardBom; rfl
@[simp] theorem setDiscardBom_reconsume (m : Mach) (b : Bool) : (m.setDiscardBom b).reconsume = m.reconsume := by
  unfold Mach.setDiscardBom; rfl
@[simp] theorem setDiscardBom_ignoreLf (m : Mach) (b : Bool) : (m.setDiscardBom b).ignoreLf = m.ignoreLf := by
  unfold Mach.setDiscardBom; rfl
@[simp] theorem setDiscardBom_atEof (m : Mach) (b : Bool) : (m.setDiscardBom b).atEof = m.atEof := by
  unfold Mach.setDiscardBom; rfl
@[simp] theorem setDiscardBom_charRef (m : Mach) (b : Bool) : (m.setDiscardBom b).charRef = m.charRef := by
  unfold Mach.setDiscardBom; rfl
@[simp] theorem setDiscardBom_line (m : Mach) (b : Bool) : (m.setDiscardBom b).line = m.line := by
  unfold Mach.setDiscardBom; rfl
@[simp] theorem setDiscardBom_currentChar (m : Mach) (b : Bool) : (m.setDiscardBom b).currentChar = m.currentChar := by
  unfold Mach.setDiscardBom; rfl
@[simp] theorem setDiscardBom_discardBom (m : Mach) (b : Bool) : (m.setDiscardBom b).discardBom = b := by
  unfold Mach.setDiscardBom; rfl
@[simp] theorem bumpLine_state (m : Mach)  : (m.bumpLine).state = m.state := by
  unfold Mach.bumpLine; rfl
@[simp] theorem bumpLine_tempBuf (m : Mach)  : (m.bumpLine).tempBuf = m.tempBuf := by
  unfold Mach.bumpLine; rfl
@[simp] theorem bumpLine_reconsume (m : Mach)  : (m.bumpLine).reconsume = m.reconsume := by
  unfold Mach.bumpLine; rfl
@[simp] theorem bumpLine_ignoreLf (m : Mach)  : (m.bumpLine).ignoreLf = m.ignoreLf := by
  unfold Mach.bumpLine; rfl
@[simp] theorem bumpLine_atEof (m : Mach)  : (m.bumpLine).atEof = m.atEof := by
  unfold Mach.bumpLine; rfl
@[simp] theorem bumpLine_charRef (m : Mach)  : (m.bumpLine).charRef = m.charRef := by
  unfold Mach.bumpLine; rfl
@[simp] theorem bumpLine_line (m : Mach)  : (m.bumpLine).line = m.line + 1 := by
  unfold Mach.bumpLine; rfl
@[simp] theorem bumpLine_currentChar (m : Mach)  : (m.bumpLine).currentChar = m.currentChar := by
  unfold Mach.bumpLine; rfl
@[simp] theorem bumpLine_discardBom (m : Mach)  : (m.bumpLine).discardBom = m.discardBom := by
  unfold Mach.bumpLine; rfl
@[simp] theorem setCurrentChar_state (m : Mach) (c : Char) : (m.setCurrentChar c).state = m.state := by
  unfold Mach.setCurrentChar; rfl
@[simp] theorem setCurrentChar_tempBuf (m : Mach) (c : Char) : (m.setCurrentChar c).tempBuf = m.tempBuf := by
  unfold Mach.setCurrentChar; rfl
@[simp] theorem setCurrentChar_reconsume (m : Mach) (c : Char) : (m.setCurrentChar c).reconsume = m.reconsume := by
  unfold Mach.setCurrentChar; rfl
@[simp] theorem setCurrentChar_ignoreLf (m : Mach) (c : Char) : (m.setCurrentChar c).ignoreLf = m.ignoreLf := by
  unfold Mach.setCurrentChar; rfl
@[simp] theorem setCurrentChar_atEof (m : Mach) (c : Char) : (m.setCurrentChar c).atEof = m.atEof := by
  unfold Mach.setCurrentChar; rfl
@[simp] theorem setCurrentChar_charRef (m : Mach) (c : Char) : (m.setCurrentChar c).charRef = m.charRef := by
  unfold Mach.setCurrentChar; rfl
@[simp] theorem setCurrentChar_line (m : Mach) (c : Char) : (m.setCurrentChar c).line = m.line := by
  unfold Mach.setCurrentChar; rfl
@[simp] theorem setCurrentChar_currentChar (m : Mach) (c : Char) : (m.setCurrentChar c).currentChar = c := by
  unfold Mach.setCurrentChar; rfl
@[simp] theorem setCurrentChar_discardBom (m : Mach) (c : Char) : (m.setCurrentChar c).discardBom = m.discardBom := by
  unfold Mach.setCurrentChar; rfl

end H5V.Model.HtmlTok
