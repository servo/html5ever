import H5V.Lemmas.XmlTokRuns
/-!
`exact_errors` never changes what is tokenized (XML tokenizer model; the counterpart of
`H5V.Lemmas.HtmlTokOptE`).

Two runs of the tokenizer on the same input that differ only in the `Opts` value stay related by
`E`: same machine up to (a) parse-error tokens in the log `out` and (b) a `current_char` that nobody
will read (it is read only after `reconsume` was set, and `reconsume` is only ever set right after a
`get_char`, which synchronises it; the exact `bad_char_error` message mentions it, but that is an
error token).  `E0` is the part of `E` that every transition helper preserves.

Differences from the HTML tokenizer: `discard_char` is `get_char` (so it may log an extra "Bad
character" error with `exact_errors`), `peek` is raw, the `pop_except_from` table does not depend
on the options at all, and the fast path must not skip NUL (replaced by U+FFFD) nor CR — both are in
every set (`setOf_cover`).
-/
namespace H5V.Model.XmlTok

/-- is this log entry a parse-error token? -/
def isErr : Token → Bool
  | .error _ => true
  | _ => false

/-- the token log with the parse-error tokens erased -/
def noErr (out : Out) : Out := out.filter (fun t => !isErr t)

@[simp] theorem noErr_nil : noErr [] = [] := rfl
theorem noErr_cons (p : Token) (x : Out) :
    noErr (p :: x) = if isErr p then noErr x else p :: noErr x := by
  unfold noErr; rw [List.filter_cons]; cases isErr p <;> simp
theorem noErr_cons_congr (p : Token) {x y : Out} (h : noErr x = noErr y) :
    noErr (p :: x) = noErr (p :: y) := by
  rw [noErr_cons, noErr_cons, h]
theorem noErr_err_l (s : Str) {x y : Out} (h : noErr x = noErr y) :
    noErr (Token.error s :: x) = noErr y := by
  rw [noErr_cons]; simpa [isErr] using h
theorem noErr_err_r (s : Str) {x y : Out} (h : noErr x = noErr y) :
    noErr x = noErr (Token.error s :: y) := by
  rw [noErr_cons]; simpa [isErr] using h
theorem noErr_err_lr (s t : Str) {x y : Out} (h : noErr x = noErr y) :
    noErr (Token.error s :: x) = noErr (Token.error t :: y) :=
  noErr_err_l s (noErr_err_r t h)

/-- equal except for parse errors in the log and for `current_char` -/
def E0 (a b : Mach) : Prop :=
  ∃ ob cb, b = { a with out := ob, currentChar := cb } ∧ noErr a.out = noErr ob

theorem E0.refl (a : Mach) : E0 a a := ⟨a.out, a.currentChar, rfl, rfl⟩

theorem E0.symm {a b : Mach} (h : E0 a b) : E0 b a := by
  obtain ⟨ob, cb, rfl, hh⟩ := h
  exact ⟨a.out, a.currentChar, rfl, hh.symm⟩

theorem E0.trans {a b c : Mach} (h1 : E0 a b) (h2 : E0 b c) : E0 a c := by
  obtain ⟨ob, cb, rfl, hh⟩ := h1
  obtain ⟨oc, cc, rfl, hh2⟩ := h2
  exact ⟨oc, cc, rfl, hh.trans hh2⟩

theorem E0.out {a b : Mach} (h : E0 a b) : noErr a.out = noErr b.out := by
  obtain ⟨ob, cb, rfl, h⟩ := h; exact h
theorem E0.state {a b : Mach} (h : E0 a b) : b.state = a.state := by
  obtain ⟨ob, cb, rfl, h⟩ := h; rfl
theorem E0.tempBuf {a b : Mach} (h : E0 a b) : b.tempBuf = a.tempBuf := by
  obtain ⟨ob, cb, rfl, h⟩ := h; rfl
theorem E0.reconsume {a b : Mach} (h : E0 a b) : b.reconsume = a.reconsume := by
  obtain ⟨ob, cb, rfl, h⟩ := h; rfl
theorem E0.ignoreLf {a b : Mach} (h : E0 a b) : b.ignoreLf = a.ignoreLf := by
  obtain ⟨ob, cb, rfl, h⟩ := h; rfl
theorem E0.charRef {a b : Mach} (h : E0 a b) : b.charRef = a.charRef := by
  obtain ⟨ob, cb, rfl, h⟩ := h; rfl
theorem E0.atEof {a b : Mach} (h : E0 a b) : b.atEof = a.atEof := by
  obtain ⟨ob, cb, rfl, h⟩ := h; rfl
theorem E0.discardBom {a b : Mach} (h : E0 a b) : b.discardBom = a.discardBom := by
  obtain ⟨ob, cb, rfl, h⟩ := h; rfl
theorem E0.fuelFor {a b : Mach} (h : E0 a b) (inp : Str) : fuelFor b inp = fuelFor a inp := by
  obtain ⟨ob, cb, rfl, h⟩ := h; rfl

/-- relation between two results of a table transition -/
def RelS (x y : Mach × Sig) : Prop := E0 x.1 y.1 ∧ x.2 = y.2

theorem RelS.symm {x y : Mach × Sig} (h : RelS x y) : RelS y x := ⟨h.1.symm, h.2.symm⟩

/-! ### helper congruences: one per `go!` shorthand used by the transition tables -/

set_option hygiene false in
macro "e0_same" h:ident : tactic =>
  `(tactic| (obtain ⟨ob, cb, rfl, hh⟩ := $h; exact ⟨ob, cb, rfl, hh⟩))

theorem E0_to {a b : Mach} (h : E0 a b) (s : State) : E0 (to s a) (to s b) := by e0_same h
theorem E0_reconsumeTo {a b : Mach} (h : E0 a b) (s : State) : E0 (reconsumeTo s a) (reconsumeTo s b) := by e0_same h
theorem E0_discardTag {a b : Mach} (h : E0 a b) : E0 (discardTag a) (discardTag b) := by e0_same h
theorem E0_createTag {a b : Mach} (h : E0 a b) (k : TagKind) (c : Char) : E0 (createTag k c a) (createTag k c b) := by e0_same h
theorem E0_createPi {a b : Mach} (h : E0 a b) (c : Char) : E0 (createPi c a) (createPi c b) := by e0_same h
theorem E0_pushTag {a b : Mach} (h : E0 a b) (c : Char) : E0 (pushTag c a) (pushTag c b) := by e0_same h
theorem E0_pushPiTarget {a b : Mach} (h : E0 a b) (c : Char) : E0 (pushPiTarget c a) (pushPiTarget c b) := by e0_same h
theorem E0_pushPiData {a b : Mach} (h : E0 a b) (c : Char) : E0 (pushPiData c a) (pushPiData c b) := by e0_same h
theorem E0_setEmptyTag {a b : Mach} (h : E0 a b) : E0 (setEmptyTag a) (setEmptyTag b) := by e0_same h
theorem E0_pushName {a b : Mach} (h : E0 a b) (c : Char) : E0 (pushName c a) (pushName c b) := by e0_same h
theorem E0_pushValue {a b : Mach} (h : E0 a b) (c : Char) : E0 (pushValue c a) (pushValue c b) := by e0_same h
theorem E0_appendValue {a b : Mach} (h : E0 a b) (s : Str) : E0 (appendValue s a) (appendValue s b) := by e0_same h
theorem E0_pushComment {a b : Mach} (h : E0 a b) (c : Char) : E0 (pushComment c a) (pushComment c b) := by e0_same h
theorem E0_appendComment {a b : Mach} (h : E0 a b) (s : String) : E0 (appendComment s a) (appendComment s b) := by e0_same h
theorem E0_clearComment {a b : Mach} (h : E0 a b) : E0 (clearComment a) (clearComment b) := by e0_same h
theorem E0_createDoctype {a b : Mach} (h : E0 a b) : E0 (createDoctype a) (createDoctype b) := by e0_same h
theorem E0_pushDoctypeName {a b : Mach} (h : E0 a b) (c : Char) : E0 (pushDoctypeName c a) (pushDoctypeName c b) := by e0_same h
theorem E0_pushDoctypeId {a b : Mach} (h : E0 a b) (k : DoctypeKind) (c : Char) :
    E0 (pushDoctypeId k c a) (pushDoctypeId k c b) := by cases k <;> e0_same h
theorem E0_clearDoctypeId {a b : Mach} (h : E0 a b) (k : DoctypeKind) :
    E0 (clearDoctypeId k a) (clearDoctypeId k b) := by cases k <;> e0_same h
theorem E0_consumeCharRef {a b : Mach} (h : E0 a b) (x : Option Char) :
    E0 (consumeCharRef x a) (consumeCharRef x b) := by e0_same h
theorem E0_setIgnoreLf {a b : Mach} (h : E0 a b) (x : Bool) : E0 (a.setIgnoreLf x) (b.setIgnoreLf x) := by e0_same h
theorem E0_setReconsume {a b : Mach} (h : E0 a b) (x : Bool) : E0 (a.setReconsume x) (b.setReconsume x) := by e0_same h
theorem E0_setTempBuf {a b : Mach} (h : E0 a b) (x : Str) : E0 (a.setTempBuf x) (b.setTempBuf x) := by e0_same h
theorem E0_setCharRef {a b : Mach} (h : E0 a b) (x : Option CharRefSt) : E0 (a.setCharRef x) (b.setCharRef x) := by e0_same h
theorem E0_setAtEof {a b : Mach} (h : E0 a b) (x : Bool) : E0 (a.setAtEof x) (b.setAtEof x) := by e0_same h
theorem E0_setDiscardBom {a b : Mach} (h : E0 a b) (x : Bool) : E0 (a.setDiscardBom x) (b.setDiscardBom x) := by e0_same h
theorem E0_setCurrentChar {a b : Mach} (h : E0 a b) (x y : Char) : E0 (a.setCurrentChar x) (b.setCurrentChar y) := by
  obtain ⟨ob, cb, rfl, hh⟩ := h; exact ⟨ob, y, rfl, hh⟩
theorem E0_setCC_l {a b : Mach} (h : E0 a b) (x : Char) : E0 (a.setCurrentChar x) b :=
  (E0_setCurrentChar (E0.refl a) a.currentChar x).symm.trans h

theorem E0_emit {a b : Mach} (h : E0 a b) (t : Token) : E0 (emit a t) (emit b t) := by
  obtain ⟨ob, cb, rfl, h⟩ := h
  exact ⟨_, cb, rfl, noErr_cons_congr _ h⟩
theorem E0_emitErr2 {a b : Mach} (h : E0 a b) (s t : Str) : E0 (emit a (.error s)) (emit b (.error t)) := by
  obtain ⟨ob, cb, rfl, h⟩ := h
  exact ⟨_, cb, rfl, noErr_err_lr _ _ h⟩
theorem E0_emitErr_l {a b : Mach} (h : E0 a b) (s : Str) : E0 (emit a (.error s)) b := by
  obtain ⟨ob, cb, rfl, h⟩ := h
  exact ⟨ob, cb, rfl, noErr_err_l _ h⟩
theorem E0_emitErr_r {a b : Mach} (h : E0 a b) (s : Str) : E0 a (emit b (.error s)) := by
  obtain ⟨ob, cb, rfl, h⟩ := h
  exact ⟨_, cb, rfl, noErr_err_r _ h⟩
theorem E0_emitErr {a b : Mach} (h : E0 a b) (s : String) : E0 (emitErr a s) (emitErr b s) := E0_emit h _
theorem E0_emitChars {a b : Mach} (h : E0 a b) (s : Str) : E0 (emitChars a s) (emitChars b s) := E0_emit h _
theorem E0_emitChar {a b : Mach} (h : E0 a b) (c : Char) : E0 (emitChar a c) (emitChar b c) := E0_emit h _
theorem E0_badChar {a b : Mach} (h : E0 a b) (o1 o2 : Opts) : E0 (badChar o1 a) (badChar o2 b) := by
  unfold badChar emitErr
  split <;> split <;> exact E0_emitErr2 h _ _
theorem E0_badEof {a b : Mach} (h : E0 a b) (o1 o2 : Opts) : E0 (badEof o1 a) (badEof o2 b) := by
  unfold badEof emitErr
  split <;> split <;> exact E0_emitErr2 h _ _
theorem E0_emitComment {a b : Mach} (h : E0 a b) : E0 (emitComment a) (emitComment b) := by
  obtain ⟨ob, cb, rfl, h⟩ := h
  exact ⟨_, cb, rfl, noErr_cons_congr _ h⟩
theorem E0_emitDoctype {a b : Mach} (h : E0 a b) : E0 (emitDoctype a) (emitDoctype b) := by
  obtain ⟨ob, cb, rfl, h⟩ := h
  exact ⟨_, cb, rfl, noErr_cons_congr _ h⟩
theorem E0_emitPi {a b : Mach} (h : E0 a b) : E0 (emitPi a) (emitPi b) := by
  obtain ⟨ob, cb, rfl, h⟩ := h
  exact ⟨_, cb, rfl, noErr_cons_congr _ h⟩
theorem E0_ite (c : Prop) [Decidable c] {a b a' b' : Mach} (h1 : E0 a b) (h2 : E0 a' b') :
    E0 (if c then a else a') (if c then b else b') :=
  ite_ind₂ h1 h2

theorem E0_finishAttribute {a b : Mach} (h : E0 a b) : E0 (finishAttribute a) (finishAttribute b) := by
  obtain ⟨ob, cb, rfl, h⟩ := h
  unfold finishAttribute
  dsimp only
  repeat' split
  all_goals
    first
    | exact ⟨ob, cb, rfl, h⟩
    | exact ⟨_, cb, rfl, noErr_err_lr _ _ h⟩
theorem E0_createAttr {a b : Mach} (h : E0 a b) (c : Char) : E0 (createAttr c a) (createAttr c b) := by
  have h1 := E0_finishAttribute h
  unfold createAttr
  dsimp only
  generalize finishAttribute a = x at h1
  generalize finishAttribute b = y at h1
  e0_same h1
theorem E0_emitCurrentTag {a b : Mach} (h : E0 a b) : E0 (emitCurrentTag a) (emitCurrentTag b) := by
  have h1 := E0_finishAttribute h
  unfold emitCurrentTag
  dsimp only
  generalize finishAttribute a = x at h1
  generalize finishAttribute b = y at h1
  obtain ⟨ob, cb, rfl, h⟩ := h1
  dsimp only
  repeat' split
  all_goals
    first
    | exact ⟨_, cb, rfl, noErr_cons_congr _ h⟩
    | exact ⟨_, cb, rfl, noErr_cons_congr _ (noErr_err_lr _ _ h)⟩
theorem E0_emitTag {a b : Mach} (h : E0 a b) (s : State) : E0 (emitTag s a) (emitTag s b) := by
  unfold emitTag; exact E0_emitCurrentTag (E0_to h s)
theorem E0_emitShortTag {a b : Mach} (h : E0 a b) (s : State) : E0 (emitShortTag s a) (emitShortTag s b) := by
  unfold emitShortTag; dsimp only; apply E0_emitCurrentTag; e0_same h
theorem E0_emitEmptyTag {a b : Mach} (h : E0 a b) (s : State) : E0 (emitEmptyTag s a) (emitEmptyTag s b) := by
  unfold emitEmptyTag; dsimp only; apply E0_emitCurrentTag; e0_same h
theorem E0_emitStartTag {a b : Mach} (h : E0 a b) (s : State) : E0 (emitStartTag s a) (emitStartTag s b) := by
  unfold emitStartTag; dsimp only; apply E0_emitCurrentTag; e0_same h

theorem RelS_ok {a b : Mach} (h : E0 a b) : RelS (a, .cont) (b, .cont) := ⟨h, rfl⟩
theorem RelS_panic {a b : Mach} (h : E0 a b) (s : String) : RelS (a, .panic s) (b, .panic s) := ⟨h, rfl⟩

/-- close a table arm: the helper congruences as conditional rewrite rules, found by head symbol
(`maxDischargeDepth` bounds how deep the helpers of one arm nest) -/
macro "e0_chain" h:ident : tactic =>
  `(tactic| simp (maxDischargeDepth := 8) only [$h:ident, RelS_ok, RelS_panic, E0_emitTag, E0_emitShortTag, E0_emitEmptyTag, E0_emitStartTag,
      E0_to, E0_reconsumeTo, E0_createTag, E0_createPi, E0_pushTag, E0_pushPiTarget, E0_pushPiData, E0_setEmptyTag,
      E0_createAttr, E0_pushName, E0_pushValue, E0_appendValue, E0_pushComment, E0_appendComment,
      E0_clearComment, E0_createDoctype, E0_pushDoctypeName, E0_pushDoctypeId, E0_clearDoctypeId,
      E0_consumeCharRef, E0_emitChar, E0_emitChars, E0_badChar, E0_badEof, E0_emitErr, E0_emitComment,
      E0_emitDoctype, E0_emitPi, E0_emit])

/-! ### the transition tables -/

/-- the `get_char!` table: any two option values, `E0`-related machines, same character -/
theorem transChar_E0 (o1 o2 : Opts) {a b : Mach} (h : E0 a b) (c : Char) :
    RelS (transChar o1 a c) (transChar o2 b c) := by
  unfold transChar
  simp only [h.state]
  split <;> (repeat' with_reducible apply ite_ind₂) <;> e0_chain h

/-- the `pop_except_from` table on the same read result (it does not depend on the options) -/
theorem transSet_E0 {a b : Mach} (h : E0 a b) (r : SetRes) : RelS (transSet a r) (transSet b r) := by
  unfold transSet
  simp only [h.state]
  split <;> (repeat' with_reducible apply ite_ind₂) <;> e0_chain h

/-- the `eof_step` table (it never reads `current_char` outside an error message, so `E0` suffices) -/
theorem transEof_E0 (o1 o2 : Opts) {a b : Mach} (h : E0 a b) :
    E0 (transEof o1 a).1 (transEof o2 b).1 ∧ (transEof o1 a).2 = (transEof o2 b).2 := by
  unfold transEof
  simp only [h.state]
  split <;> (try dsimp only) <;> refine ⟨?_, rfl⟩ <;> e0_chain h

/-! ### `E`: `E0` plus "a pending reconsume sees the same character" -/

/-- the invariant of two runs that differ only in `Opts` -/
def E (a b : Mach) : Prop := E0 a b ∧ (a.reconsume = true → a.currentChar = b.currentChar)

theorem E.refl (a : Mach) : E a a := ⟨E0.refl a, fun _ => rfl⟩
theorem E.symm {a b : Mach} (h : E a b) : E b a :=
  ⟨h.1.symm, fun hr => (h.2 (by rw [← h.1.reconsume]; exact hr)).symm⟩
theorem E.of_nrc {a b : Mach} (h : E0 a b) (hr : a.reconsume = false) : E a b :=
  ⟨h, fun h' => by rw [hr] at h'; cases h'⟩
theorem E.of_cc {a b : Mach} (h : E0 a b) (hc : a.currentChar = b.currentChar) : E a b := ⟨h, fun _ => hc⟩
theorem E.lift {a b a' b' : Mach} (h : E a b) (h0 : E0 a' b') (hr : a'.reconsume = a.reconsume)
    (hc1 : a'.currentChar = a.currentChar) (hc2 : b'.currentChar = b.currentChar) : E a' b' :=
  ⟨h0, fun hr' => by rw [hc1, hc2]; exact h.2 (by rw [← hr]; exact hr')⟩
theorem E.out {a b : Mach} (h : E a b) : noErr a.out = noErr b.out := h.1.out

/-! ### the reader -/

theorem E0_maybeErr (p q : Prop) [Decidable p] [Decidable q] {x y : Mach} (h : E0 x y) (s t : Str) :
    E0 (if p then emit x (.error s) else x) (if q then emit y (.error t) else y) := by
  split <;> split
  · exact E0_emitErr2 h _ _
  · exact E0_emitErr_l h _
  · exact E0_emitErr_r h _
  · exact h

theorem foldChar_E0 (o1 o2 : Opts) {a b : Mach} (h : E0 a b) (c : Char) :
    (foldChar o1 a c).1 = (foldChar o2 b c).1 ∧ E0 (foldChar o1 a c).2 (foldChar o2 b c).2 ∧
    (foldChar o1 a c).2.currentChar = (foldChar o2 b c).2.currentChar := by
  unfold foldChar
  dsimp only
  by_cases hc : c = '\r'
  · simp only [hc, ↓reduceIte]
    refine ⟨trivial, ?_, rfl⟩
    exact E0_setCurrentChar (E0_maybeErr _ _ (E0_setIgnoreLf h true) _ _) _ _
  · simp only [hc, ↓reduceIte]
    refine ⟨trivial, ?_, rfl⟩
    exact E0_setCurrentChar (E0_maybeErr _ _ h _ _) _ _

/-- a character that is neither CR nor NUL: folding it changes only `current_char` and may log an error -/
theorem foldChar_nb (o : Opts) (m : Mach) (c : Char) (h1 : c ≠ '\r') (h2 : c ≠ '\x00') :
    (foldChar o m c).1 = c ∧ E0 (foldChar o m c).2 m := by
  unfold foldChar
  dsimp only
  simp only [h1, h2, ↓reduceIte]
  refine ⟨trivial, ?_⟩
  apply E0_setCC_l
  split
  · exact E0_emitErr_l (E0.refl m) _
  · exact E0.refl m

theorem foldChar_reconsume (o : Opts) (m : Mach) (c : Char) : (foldChar o m c).2.reconsume = m.reconsume :=
  (foldChar_fields o m c).2.2.2.2
theorem foldChar_state (o : Opts) (m : Mach) (c : Char) : (foldChar o m c).2.state = m.state :=
  (foldChar_fields o m c).2.2.1

/-- relation between two `get_char`-style read results -/
def RdC (r1 r2 : Option Char × Mach × Str) : Prop :=
  r1.1 = r2.1 ∧ r1.2.2 = r2.2.2 ∧ E0 r1.2.1 r2.2.1 ∧
  (r1.1.isSome = true → r1.2.1.currentChar = r2.2.1.currentChar)

theorem preprocess_RdC (o1 o2 : Opts) {a b : Mach} (h : E0 a b) (c : Char) (inp : Str) :
    RdC (preprocess o1 a c inp) (preprocess o2 b c inp) := by
  unfold preprocess
  rw [h.ignoreLf]
  split
  · split
    · cases inp with
      | nil => exact ⟨rfl, rfl, E0_setIgnoreLf h false, by simp⟩
      | cons c' rest =>
        obtain ⟨f1, f2, f3⟩ := foldChar_E0 o1 o2 (E0_setIgnoreLf h false) c'
        exact ⟨by simp only [f1], rfl, f2, fun _ => f3⟩
    · obtain ⟨f1, f2, f3⟩ := foldChar_E0 o1 o2 (E0_setIgnoreLf h false) c
      exact ⟨by simp only [f1], rfl, f2, fun _ => f3⟩
  · obtain ⟨f1, f2, f3⟩ := foldChar_E0 o1 o2 h c
    exact ⟨by simp only [f1], rfl, f2, fun _ => f3⟩

theorem preprocess_reconsume (o : Opts) (m : Mach) (c : Char) (inp : Str) :
    (preprocess o m c inp).2.1.reconsume = m.reconsume := by
  unfold preprocess
  split
  · split
    · cases inp with
      | nil => rfl
      | cons c' rest => simp only [foldChar_reconsume]; rfl
    · simp only [foldChar_reconsume]; rfl
  · simp only [foldChar_reconsume]

theorem preprocess_state (o : Opts) (m : Mach) (c : Char) (inp : Str) :
    (preprocess o m c inp).2.1.state = m.state := by
  unfold preprocess
  split
  · split
    · cases inp with
      | nil => rfl
      | cons c' rest => simp only [foldChar_state]; rfl
    · simp only [foldChar_state]; rfl
  · simp only [foldChar_state]

theorem getChar_RdC (o1 o2 : Opts) {a b : Mach} (h : E a b) (inp : Str) :
    RdC (getChar o1 a inp) (getChar o2 b inp) ∧ (getChar o1 a inp).2.1.reconsume = false ∧
    (getChar o1 a inp).2.1.state = a.state := by
  unfold getChar
  rw [h.1.reconsume]
  split
  · rename_i hr
    exact ⟨⟨congrArg some (h.2 hr), rfl, E0_setReconsume h.1 false, fun _ => h.2 hr⟩, rfl, rfl⟩
  · rename_i hr
    cases inp with
    | nil => exact ⟨⟨rfl, rfl, h.1, by simp⟩, by simpa using hr, rfl⟩
    | cons c rest =>
      exact ⟨preprocess_RdC o1 o2 h.1 c rest, by rw [preprocess_reconsume]; simpa using hr,
        preprocess_state _ _ _ _⟩

/-- `get_char` in the shape the callers use: same character, same rest, `E`-related machines -/
theorem getChar_E (o1 o2 : Opts) {a b : Mach} (h : E a b) (inp : Str) :
    (getChar o2 b inp).1 = (getChar o1 a inp).1 ∧ (getChar o2 b inp).2.2 = (getChar o1 a inp).2.2 ∧
    E (getChar o1 a inp).2.1 (getChar o2 b inp).2.1 := by
  obtain ⟨⟨g1, g2, g3, _⟩, g5, _⟩ := getChar_RdC o1 o2 h inp
  exact ⟨g1.symm, g2.symm, E.of_nrc g3 g5⟩

theorem peek_E {a b : Mach} (h : E a b) (inp : Str) : peek b inp = peek a inp := by
  unfold peek
  rw [h.1.reconsume]
  split
  · rename_i hr; rw [h.2 hr]
  · rfl

/-- relation between two `discard_char` results -/
def DE (r1 r2 : Except String (Mach × Str)) : Prop :=
  match r1, r2 with
  | .ok v1, .ok v2 => E v1.1 v2.1 ∧ v1.2 = v2.2
  | .error x, .error y => x = y
  | _, _ => False

theorem discardChar_DE (o1 o2 : Opts) {a b : Mach} (h : E a b) (inp : Str) :
    DE (discardChar o1 a inp) (discardChar o2 b inp) := by
  unfold discardChar
  obtain ⟨g1, g2, g3⟩ := getChar_E o1 o2 h inp
  generalize getChar o1 a inp = r1 at g1 g2 g3
  generalize getChar o2 b inp = r2 at g1 g2 g3
  obtain ⟨c1, m1, i1⟩ := r1
  obtain ⟨c2, m2, i2⟩ := r2
  dsimp only at g1 g2 g3
  subst g1 g2
  cases c2 with
  | none => exact rfl
  | some c => exact ⟨g3, rfl⟩

/-! ### `pop_except_from` -/

/-- read results of `pop_except_from`: equal, or the same character outside the set once as
`FromSet` (slow path) and once as a one-character `NotFromSet` run (fast path) -/
inductive SRel (S : List Char) : Option SetRes → Option SetRes → Prop
  | none : SRel S none none
  | same (r : SetRes) : SRel S (some r) (some r)
  | fs (c : Char) : S.contains c = false → SRel S (some (.fromSet c)) (some (.notFromSet [c]))
  | sf (c : Char) : S.contains c = false → SRel S (some (.notFromSet [c])) (some (.fromSet c))

theorem SRel.symm {S : List Char} {x y : Option SetRes} (h : SRel S x y) : SRel S y x := by
  cases h with
  | none => exact .none
  | same r => exact .same r
  | fs c hc => exact .sf c hc
  | sf c hc => exact .fs c hc

theorem SRel.of_map {S : List Char} {x y : Option Char} (h : x = y) :
    SRel S (x.map .fromSet) (y.map .fromSet) := by
  subst h; cases x with
  | none => exact .none
  | some c => exact .same _

/-- relation between two `pop_except_from` results -/
def RdS (S : List Char) (st : State) (r1 r2 : Option SetRes × Mach × Str) : Prop :=
  SRel S r1.1 r2.1 ∧ r1.2.2 = r2.2.2 ∧ E0 r1.2.1 r2.2.1 ∧ r1.2.1.reconsume = false ∧ r1.2.1.state = st

theorem RdS.symm {S : List Char} {st : State} {r1 r2 : Option SetRes × Mach × Str} (h : RdS S st r1 r2) :
    RdS S st r2 r1 :=
  ⟨h.1.symm, h.2.1.symm, h.2.2.1.symm, by rw [h.2.2.1.reconsume]; exact h.2.2.2.1,
   by rw [h.2.2.1.state]; exact h.2.2.2.2⟩

def popSlow (o : Opts) (m : Mach) (inp : Str) : Option SetRes × Mach × Str :=
  ((getChar o m inp).1.map .fromSet, (getChar o m inp).2)

def popFast (o : Opts) (S : List Char) (m : Mach) (inp : Str) : Option SetRes × Mach × Str :=
  match inp with
  | [] => (none, m, [])
  | c :: rest =>
    if S.contains c then ((preprocess o m c rest).1.map .fromSet, (preprocess o m c rest).2)
    else (some (.notFromSet [c]), m, rest)

theorem popExceptFrom_eq (o : Opts) (S : List Char) (m : Mach) (inp : Str) :
    popExceptFrom o S m inp =
      if o.exactErrors || m.reconsume || m.ignoreLf then popSlow o m inp else popFast o S m inp := by
  unfold popExceptFrom popSlow popFast
  split
  · rfl
  · cases inp <;> rfl

theorem popSlow_slow (o1 o2 : Opts) (S : List Char) {a b : Mach} (h : E a b) (inp : Str) :
    RdS S a.state (popSlow o1 a inp) (popSlow o2 b inp) := by
  obtain ⟨⟨g1, g2, g3, _⟩, g5, g6⟩ := getChar_RdC o1 o2 h inp
  exact ⟨SRel.of_map g1, g2, g3, g5, g6⟩

theorem popFast_fast (o1 o2 : Opts) (S : List Char) {a b : Mach} (h : E0 a b) (hr : a.reconsume = false)
    (inp : Str) : RdS S a.state (popFast o1 S a inp) (popFast o2 S b inp) := by
  unfold popFast
  cases inp with
  | nil => exact ⟨.none, rfl, h, hr, rfl⟩
  | cons c rest =>
    dsimp only
    split
    · obtain ⟨g1, g2, g3, _⟩ := preprocess_RdC o1 o2 h c rest
      exact ⟨SRel.of_map g1, g2, g3, by rw [preprocess_reconsume]; exact hr, preprocess_state _ _ _ _⟩
    · exact ⟨.same _, rfl, h, hr, rfl⟩

theorem popSlow_fast (o1 o2 : Opts) (S : List Char) (hS : S.contains '\r' = true ∧ S.contains '\x00' = true)
    {a b : Mach} (h : E0 a b) (hr : a.reconsume = false) (hil : a.ignoreLf = false) (inp : Str) :
    RdS S a.state (popSlow o1 a inp) (popFast o2 S b inp) := by
  unfold popSlow popFast
  cases inp with
  | nil =>
    have : getChar o1 a [] = (none, a, []) := by simp [getChar, hr]
    rw [this]
    exact ⟨.none, rfl, h, hr, rfl⟩
  | cons c rest =>
    have hg : getChar o1 a (c :: rest) = preprocess o1 a c rest := by simp [getChar, hr]
    rw [hg]
    dsimp only
    split
    · obtain ⟨g1, g2, g3, _⟩ := preprocess_RdC o1 o2 h c rest
      exact ⟨SRel.of_map g1, g2, g3, by rw [preprocess_reconsume]; exact hr, preprocess_state _ _ _ _⟩
    · rename_i hc
      have hc' : S.contains c = false := by simpa using hc
      have h1 : c ≠ '\r' := by intro e; rw [e, hS.1] at hc'; cases hc'
      have h2 : c ≠ '\x00' := by intro e; rw [e, hS.2] at hc'; cases hc'
      rw [preprocess_plain o1 a c rest hil]
      obtain ⟨f1, f2⟩ := foldChar_nb o1 a c h1 h2
      dsimp only
      rw [f1]
      exact ⟨.fs c hc', rfl, f2.trans h, by rw [foldChar_reconsume]; exact hr, foldChar_state _ _ _⟩

theorem popExceptFrom_RdS (o1 o2 : Opts) (S : List Char)
    (hS : S.contains '\r' = true ∧ S.contains '\x00' = true) {a b : Mach} (h : E a b) (inp : Str) :
    RdS S a.state (popExceptFrom o1 S a inp) (popExceptFrom o2 S b inp) := by
  rw [popExceptFrom_eq, popExceptFrom_eq, h.1.reconsume, h.1.ignoreLf]
  by_cases hr : a.reconsume = true
  · simp only [hr, Bool.or_true, Bool.true_or, ↓reduceIte]
    exact popSlow_slow o1 o2 S h inp
  · have hr' : a.reconsume = false := by simpa using hr
    by_cases hil : a.ignoreLf = true
    · simp only [hil, Bool.or_true, ↓reduceIte]
      exact popSlow_slow o1 o2 S h inp
    · have hil' : a.ignoreLf = false := by simpa using hil
      simp only [hr', hil', Bool.or_false]
      cases h1 : o1.exactErrors <;> cases h2 : o2.exactErrors
      · simp only [Bool.false_eq_true, ↓reduceIte]
        exact popFast_fast o1 o2 S h.1 hr' inp
      · simp only [Bool.false_eq_true, ↓reduceIte]
        have := popSlow_fast o2 o1 S hS h.1.symm (by rw [h.1.reconsume]; exact hr')
          (by rw [h.1.ignoreLf]; exact hil') inp
        rw [h.1.state] at this
        exact this.symm
      · simp only [Bool.false_eq_true, ↓reduceIte]
        exact popSlow_fast o1 o2 S hS h.1 hr' hil' inp
      · simp only [↓reduceIte]
        exact popSlow_slow o1 o2 S h inp

theorem setOf_has (s : State) (hk : readKind s = .popExcept) :
    (setOf s).contains '\r' = true ∧ (setOf s).contains '\x00' = true := by
  cases s <;> simp [readKind] at hk
  · decide
  · rename_i k; cases k <;> decide


/-! ### step results -/

/-- relation between two step results: same constructor, same remaining input, `E`-related machines,
same panic -/
def RE : R → R → Prop
  | .cont a i, .cont b j => E a b ∧ i = j
  | .suspend a i, .suspend b j => E a b ∧ i = j
  | .panic x, .panic y => x = y
  | _, _ => False

theorem RE_ofSig {x y : Mach × Sig} (h : RelS x y)
    (he : x.1.reconsume = true → x.1.currentChar = y.1.currentChar) (i : Str) :
    RE (ofSig x i) (ofSig y i) := by
  obtain ⟨x1, x2⟩ := x
  obtain ⟨y1, y2⟩ := y
  obtain ⟨h1, h2⟩ := h
  dsimp only at h1 h2 he
  subst h2
  unfold ofSig
  cases x2 with
  | cont => exact ⟨⟨h1, he⟩, rfl⟩
  | panic e => exact rfl

theorem RE_ofSig' {x y : Mach × Sig} (h1 : E x.1 y.1) (h2 : x.2 = y.2) (i : Str) : RE (ofSig x i) (ofSig y i) :=
  RE_ofSig ⟨h1.1, h2⟩ h1.2 i

theorem contChar_RE (o1 o2 : Opts) {r1 r2 : Option Char × Mach × Str}
    (h : RdC r1 r2) (hr : r1.2.1.reconsume = false) : RE (contChar o1 r1) (contChar o2 r2) := by
  obtain ⟨c1, m1, i1⟩ := r1
  obtain ⟨c2, m2, i2⟩ := r2
  obtain ⟨g1, g2, g3, g4⟩ := h
  dsimp only at g1 g2 g3 g4 hr
  subst g1 g2
  cases c1 with
  | none => exact ⟨E.of_nrc g3 hr, rfl⟩
  | some c =>
    exact RE_ofSig (transChar_E0 o1 o2 g3 c)
      (fun _ => by rw [transChar_currentChar, transChar_currentChar]; exact g4 rfl) _

/-- a character outside the set: slow path (`FromSet`) on one side, fast path (`NotFromSet`) on the other -/
theorem transSet_fs {m1 m2 : Mach} (h : E0 m1 m2) (c : Char)
    (hk : readKind m1.state = .popExcept) (hc : (setOf m1.state).contains c = false) :
    RelS (transSet m1 (.fromSet c)) (transSet m2 (.notFromSet [c])) := by
  have hx : c ∉ setOf m1.state := by
    intro hm
    have : (setOf m1.state).contains c = true := by simpa using hm
    rw [hc] at this; cases this
  rw [transSet_dead m1 c hk hx]
  exact transSet_E0 h _

theorem contSet_RE {st : State} (hk : readKind st = .popExcept) {r1 r2 : Option SetRes × Mach × Str}
    (h : RdS (setOf st) st r1 r2) : RE (contSet r1) (contSet r2) := by
  obtain ⟨c1, m1, i1⟩ := r1
  obtain ⟨c2, m2, i2⟩ := r2
  obtain ⟨g1, g2, g3, g4, g5⟩ := h
  dsimp only at g1 g2 g3 g4 g5
  subst g2
  cases g1 with
  | none => exact ⟨E.of_nrc g3 g4, rfl⟩
  | same r =>
    refine RE_ofSig (transSet_E0 g3 r) ?_ _
    intro hr; rw [transSet_reconsume, g4] at hr; cases hr
  | fs c hc =>
    refine RE_ofSig (transSet_fs g3 c (by rw [g5]; exact hk) (by rw [g5]; exact hc)) ?_ _
    intro hr; rw [transSet_reconsume, g4] at hr; cases hr
  | sf c hc =>
    have g5' : m2.state = st := by rw [g3.state]; exact g5
    refine RE_ofSig (transSet_fs g3.symm c (by rw [g5']; exact hk) (by rw [g5']; exact hc)).symm ?_ _
    intro hr; rw [transSet_reconsume, g4] at hr; cases hr

/-! ### E-level congruences for the helpers used outside the tables -/

theorem E0_nameErr {a b : Mach} (h : E0 a b) (o1 o2 : Opts) (nb : Str) : E0 (nameErr o1 a nb) (nameErr o2 b nb) := by
  unfold nameErr emitErr
  split <;> split <;> exact E0_emitErr2 h _ _
@[simp] theorem nameErr_reconsume (o : Opts) (m : Mach) (nb : Str) : (nameErr o m nb).reconsume = m.reconsume := by
  unfold nameErr; split <;> rfl
@[simp] theorem nameErr_currentChar (o : Opts) (m : Mach) (nb : Str) : (nameErr o m nb).currentChar = m.currentChar := by
  unfold nameErr; split <;> rfl

theorem E_emitErr {a b : Mach} (h : E a b) (s : String) : E (emitErr a s) (emitErr b s) :=
  h.lift (E0_emitErr h.1 s) (by simp) (by simp) (by simp)
theorem E_emitErr2 {a b : Mach} (h : E a b) (s t : Str) : E (emit a (.error s)) (emit b (.error t)) :=
  h.lift (E0_emitErr2 h.1 s t) (by simp) (by simp) (by simp)
theorem E_nameErr {a b : Mach} (h : E a b) (o1 o2 : Opts) (nb : Str) : E (nameErr o1 a nb) (nameErr o2 b nb) :=
  h.lift (E0_nameErr h.1 o1 o2 nb) (by simp) (by simp) (by simp)
theorem E_setIgnoreLf {a b : Mach} (h : E a b) (x : Bool) : E (a.setIgnoreLf x) (b.setIgnoreLf x) :=
  h.lift (E0_setIgnoreLf h.1 x) (by simp) (by simp) (by simp)
theorem E_setCharRef {a b : Mach} (h : E a b) (x : Option CharRefSt) : E (a.setCharRef x) (b.setCharRef x) :=
  h.lift (E0_setCharRef h.1 x) (by simp) (by simp) (by simp)
theorem E_setTempBuf {a b : Mach} (h : E a b) (x : Str) : E (a.setTempBuf x) (b.setTempBuf x) :=
  h.lift (E0_setTempBuf h.1 x) (by simp) (by simp) (by simp)
theorem E_setAtEof {a b : Mach} (h : E a b) (x : Bool) : E (a.setAtEof x) (b.setAtEof x) :=
  h.lift (E0_setAtEof h.1 x) (by simp) (by simp) (by simp)
theorem E_setDiscardBom {a b : Mach} (h : E a b) (x : Bool) : E (a.setDiscardBom x) (b.setDiscardBom x) :=
  h.lift (E0_setDiscardBom h.1 x) (by simp) (by simp) (by simp)
theorem E_to {a b : Mach} (h : E a b) (s : State) : E (to s a) (to s b) :=
  h.lift (E0_to h.1 s) (by simp) (by simp) (by simp)
theorem E_clearComment {a b : Mach} (h : E a b) : E (clearComment a) (clearComment b) :=
  h.lift (E0_clearComment h.1) (by simp) (by simp) (by simp)
theorem E_badChar {a b : Mach} (h : E a b) (o1 o2 : Opts) : E (badChar o1 a) (badChar o2 b) :=
  h.lift (E0_badChar h.1 o1 o2) (by simp) (by simp) (by simp)
theorem E_emitChar {a b : Mach} (h : E a b) (c : Char) : E (emitChar a c) (emitChar b c) :=
  h.lift (E0_emitChar h.1 c) (by simp) (by simp) (by simp)
theorem E_pushValue {a b : Mach} (h : E a b) (c : Char) : E (pushValue c a) (pushValue c b) :=
  h.lift (E0_pushValue h.1 c) (by simp) (by simp) (by simp)
theorem E_ite (c : Prop) [Decidable c] {a b a' b' : Mach} (h1 : E a b) (h2 : E a' b') :
    E (if c then a else a') (if c then b else b') :=
  ite_ind₂ h1 h2

theorem unconsume_E {a b : Mach} (h : E a b) (inp buf : Str) :
    E (unconsume a inp buf).1 (unconsume b inp buf).1 ∧ (unconsume b inp buf).2 = (unconsume a inp buf).2 := by
  unfold unconsume
  rw [h.1.ignoreLf]
  split
  · exact ⟨E_setIgnoreLf h false, rfl⟩
  · exact ⟨h, rfl⟩

/-! ### the character-reference sub-tokenizer -/

/-- relation between two char-ref step results -/
def CRE (r1 r2 : CRRes) : Prop :=
  match r1, r2 with
  | .ok v1, .ok v2 => E v1.1 v2.1 ∧ v1.2.1 = v2.2.1 ∧ v1.2.2.1 = v2.2.2.1 ∧ v1.2.2.2 = v2.2.2.2
  | .error x, .error y => x = y
  | _, _ => False

theorem CRE_ok {m1 m2 : Mach} (h : E m1 m2) (i : Str) (c : CharRefSt) (s : CRStatus) :
    CRE (.ok (m1, i, c, s)) (.ok (m2, i, c, s)) := ⟨h, rfl, rfl, rfl⟩
theorem CRE_err (e : String) : CRE (.error e) (.error e) := rfl

/-- related results are two equal errors, or two successes that differ in `E`-related machines only -/
@[elab_as_elim] theorem CRE.elim {P : CRRes → CRRes → Prop} {r1 r2 : CRRes} (h : CRE r1 r2) (herr : ∀ e, P (.error e) (.error e))
    (hok : ∀ m1 m2 i c s, E m1 m2 → P (.ok (m1, i, c, s)) (.ok (m2, i, c, s))) : P r1 r2 := by
  cases r1 with
  | error e1 =>
    cases r2 with
    | error e2 => cases (h : e1 = e2); exact herr e1
    | ok v2 => exact False.elim h
  | ok v1 =>
    cases r2 with
    | error e2 => exact False.elim h
    | ok v2 =>
      obtain ⟨m1, i1, c1, s1⟩ := v1
      obtain ⟨m2, i2, c2, s2⟩ := v2
      obtain ⟨g1, g2, g3, g4⟩ := h
      dsimp only at g1 g2 g3 g4
      subst g2 g3 g4
      exact hok _ _ _ _ _ g1

theorem E.of_logs {a b a' b' : Mach} (h : E a b) (ha : LogsErr a' a) (hb : LogsErr b' b) : E a' b' := by
  rcases ha with rfl | ⟨s, rfl⟩ <;> rcases hb with rfl | ⟨t, rfl⟩
  · exact h
  · exact h.lift (E0_emitErr_r h.1 t) rfl rfl rfl
  · exact h.lift (E0_emitErr_l h.1 s) rfl rfl rfl
  · exact E_emitErr2 h s t

theorem finishNumeric_E (o1 o2 : Opts) {a b : Mach} (h : E a b) (cr : CharRefSt) :
    E (finishNumeric o1 a cr).1 (finishNumeric o2 b cr).1 ∧
    (finishNumeric o1 a cr).2 = (finishNumeric o2 b cr).2 :=
  ⟨h.of_logs (finishNumeric_logs o1 a cr) (finishNumeric_logs o2 b cr), finishNumeric_snd o1 o2 a b cr⟩

theorem unconsume_CRE (h : E a b) (inp buf : Str) (cr : CharRefSt) (st : CRStatus) :
    CRE (.ok ((unconsume a inp buf).1, (unconsume a inp buf).2, cr, st))
      (.ok ((unconsume b inp buf).1, (unconsume b inp buf).2, cr, st)) := by
  obtain ⟨u1, u2⟩ := unconsume_E h inp buf
  rw [u2]
  exact CRE_ok u1 _ _ _

theorem unconsume_CRE_err (h : E a b) (inp buf : Str) (s : String) (cr : CharRefSt) (st : CRStatus) :
    CRE (.ok (emitErr (unconsume a inp buf).1 s, (unconsume a inp buf).2, cr, st))
      (.ok (emitErr (unconsume b inp buf).1 s, (unconsume b inp buf).2, cr, st)) := by
  obtain ⟨u1, u2⟩ := unconsume_E h inp buf
  rw [u2]
  exact CRE_ok (E_emitErr u1 _) _ _ _

theorem finishNumericStatus_CRE (o1 o2 : Opts) {a b : Mach} (h : E a b) (inp : Str) (cr : CharRefSt) :
    CRE (finishNumericStatus o1 a inp cr) (finishNumericStatus o2 b inp cr) := by
  unfold finishNumericStatus
  obtain ⟨f1, f2⟩ := finishNumeric_E o1 o2 h cr
  generalize finishNumeric o1 a cr = r1 at f1 f2
  generalize finishNumeric o2 b cr = r2 at f1 f2
  obtain ⟨m1, v1⟩ := r1
  obtain ⟨m2, v2⟩ := r2
  dsimp only at f1 f2
  subst f2
  cases v1 with
  | error e => exact CRE_err _
  | ok c => exact CRE_ok f1 _ _ _

theorem unconsumeNumeric_CRE {a b : Mach} (h : E a b) (inp : Str) (cr : CharRefSt) :
    CRE (unconsumeNumeric a inp cr) (unconsumeNumeric b inp cr) := by
  unfold unconsumeNumeric
  dsimp only
  exact unconsume_CRE_err h _ _ _ _ _

theorem unconsumeName_CRE {a b : Mach} (h : E a b) (inp : Str) (cr : CharRefSt) :
    CRE (unconsumeName a inp cr) (unconsumeName b inp cr) := by
  unfold unconsumeName
  split
  · exact CRE_err _
  · dsimp only
    exact unconsume_CRE h _ _ _ _

/-- relation between two results of `namedDecision` -/
def NDE (r1 r2 : Except String (Mach × Option Str)) : Prop :=
  match r1, r2 with
  | .ok v1, .ok v2 => E v1.1 v2.1 ∧ v1.2 = v2.2
  | .error x, .error y => x = y
  | _, _ => False

/-- the tail of `namedDecision`, once the "un-consume all" flag and the machine are known -/
theorem NDE_tail {ua ub : Bool × Mach} (h1 : ua.1 = ub.1) (h2 : E ua.2 ub.2) (v : Prop) [Decidable v]
    (e : String) (r : Option Str) :
    NDE (if ua.1 = true then .ok (ua.2, none) else if v then .error e else .ok (ua.2, r))
      (if ub.1 = true then .ok (ub.2, none) else if v then .error e else .ok (ub.2, r)) := by
  rw [h1]
  exact ite_ind₂ (P := NDE) ⟨h2, rfl⟩ (ite_ind₂ (P := NDE) rfl ⟨h2, rfl⟩)

theorem namedDecision_NDE {a b : Mach} (h : E a b) (cr : CharRefSt) (nb : Str) (c1 c2 : Nat) :
    NDE (namedDecision a cr nb c1 c2) (namedDecision b cr nb c1 c2) := by
  unfold namedDecision
  dsimp only
  refine ite_ind₂ (P := NDE) rfl ?_
  split
  · exact rfl
  · refine NDE_tail ?_ ?_ _ _ _
    · exact ite_ind₂ (P := fun x y : Bool × Mach => x.1 = y.1) rfl
        (ite_ind₂ (P := fun x y : Bool × Mach => x.1 = y.1) rfl
          (ite_ind₂ (P := fun x y : Bool × Mach => x.1 = y.1) rfl rfl))
    · exact ite_ind₂ (P := fun x y : Bool × Mach => E x.2 y.2) h
        (ite_ind₂ (P := fun x y : Bool × Mach => E x.2 y.2) (E_emitErr h _)
          (ite_ind₂ (P := fun x y : Bool × Mach => E x.2 y.2) h (E_emitErr h _)))

theorem finishNamed_CRE (o1 o2 : Opts) {a b : Mach} (h : E a b) (inp : Str) (cr : CharRefSt) (e : Option Char) :
    CRE (finishNamed o1 a inp cr e) (finishNamed o2 b inp cr e) := by
  unfold finishNamed
  split
  · exact CRE_err _
  · split
    · dsimp only
      repeat' split
      all_goals
        first
        | exact CRE_ok h _ _ _
        | exact unconsumeName_CRE h _ _
        | exact unconsumeName_CRE (E_nameErr h o1 o2 _) _ _
    · rename_i nb _ _ c1 c2 _
      have hn := namedDecision_NDE h cr nb c1 c2
      generalize namedDecision a cr nb c1 c2 = r1 at hn
      generalize namedDecision b cr nb c1 c2 = r2 at hn
      cases r1 with
      | error e1 =>
        cases r2 with
        | error e2 =>
          have : e1 = e2 := hn
          subst this; exact CRE_err _
        | ok v2 => exact hn.elim
      | ok v1 =>
        cases r2 with
        | error e2 => exact hn.elim
        | ok v2 =>
          obtain ⟨x1, y1⟩ := v1
          obtain ⟨x2, y2⟩ := v2
          obtain ⟨g1, g2⟩ := hn
          dsimp only at g1 g2
          subst g2
          cases y1 with
          | none => exact unconsumeName_CRE g1 _ _
          | some chars =>
            dsimp only
            exact unconsume_CRE g1 _ _ _ _

theorem crStep_CRE (o1 o2 : Opts) {a b : Mach} (h : E a b) (inp : Str) (cr : CharRefSt) :
    CRE (crStep o1 a inp cr) (crStep o2 b inp cr) := by
  have hd := discardChar_DE o1 o2 h inp
  obtain ⟨g1, g2, g3⟩ := getChar_E o1 o2 h inp
  unfold crStep
  rw [peek_E h]
  generalize discardChar o1 a inp = d1 at hd
  generalize discardChar o2 b inp = d2 at hd
  generalize getChar o1 a inp = r1 at g1 g2 g3
  generalize getChar o2 b inp = r2 at g1 g2 g3
  obtain ⟨c1, m1, i1⟩ := r1
  obtain ⟨c2, m2, i2⟩ := r2
  dsimp only at g1 g2 g3
  subst g1 g2
  cases d1 with
  | error e1 =>
    cases d2 with
    | ok v2 => exact hd.elim
    | error e2 =>
      have : e1 = e2 := hd
      subst this
      cases c2 <;>
      (dsimp only; split <;> (repeat' split) <;> (try dsimp only) <;>
        first
        | exact CRE_ok h _ _ _
        | exact CRE_ok g3 _ _ _
        | exact CRE_err _
        | exact unconsumeNumeric_CRE h _ _
        | exact unconsumeName_CRE g3 _ _
        | exact unconsumeName_CRE (E_nameErr g3 o1 o2 _) _ _
        | exact finishNumericStatus_CRE o1 o2 (E_emitErr h _) _ _
        | exact finishNamed_CRE o1 o2 g3 _ _ _)
  | ok v1 =>
    cases d2 with
    | error e2 => exact hd.elim
    | ok v2 =>
      obtain ⟨x1, j1⟩ := v1
      obtain ⟨x2, j2⟩ := v2
      obtain ⟨hd1, hd2⟩ := hd
      dsimp only at hd1 hd2
      subst hd2
      cases c2 <;>
      (dsimp only; split <;> (repeat' split) <;> (try dsimp only) <;>
        first
        | exact CRE_ok h _ _ _
        | exact CRE_ok g3 _ _ _
        | exact CRE_ok hd1 _ _ _
        | exact CRE_err _
        | exact unconsumeNumeric_CRE h _ _
        | exact unconsumeName_CRE g3 _ _
        | exact unconsumeName_CRE (E_nameErr g3 o1 o2 _) _ _
        | exact finishNumericStatus_CRE o1 o2 hd1 _ _
        | exact finishNumericStatus_CRE o1 o2 (E_emitErr h _) _ _
        | exact finishNamed_CRE o1 o2 g3 _ _ _)

theorem foldl_emitChar_E (cs : Str) : ∀ {a b : Mach}, E a b → E (cs.foldl emitChar a) (cs.foldl emitChar b) := by
  induction cs with
  | nil => intro a b h; exact h
  | cons c cs ih => intro a b h; exact ih (E_emitChar h c)

theorem foldl_pushValue_E (cs : Str) : ∀ {a b : Mach}, E a b →
    E (cs.foldl (fun m c => pushValue c m) a) (cs.foldl (fun m c => pushValue c m) b) := by
  induction cs with
  | nil => intro a b h; exact h
  | cons c cs ih => intro a b h; exact ih (E_pushValue h c)

theorem processCharRef_E {a b : Mach} (h : E a b) (chars : Str) :
    E (processCharRef a chars).1 (processCharRef b chars).1 ∧
    (processCharRef a chars).2 = (processCharRef b chars).2 := by
  unfold processCharRef
  rw [h.1.state]
  dsimp only
  split
  · exact ⟨foldl_emitChar_E _ h, rfl⟩
  · exact ⟨foldl_emitChar_E _ h, rfl⟩
  · exact ⟨foldl_pushValue_E _ h, rfl⟩
  · exact ⟨h, rfl⟩

theorem stepCharRef_RE (o1 o2 : Opts) {a b : Mach} (h : E a b) (inp : Str) (cr : CharRefSt) :
    RE (stepCharRef o1 a inp cr) (stepCharRef o2 b inp cr) := by
  unfold stepCharRef
  have hc := crStep_CRE o1 o2 h inp cr
  generalize crStep o1 a inp cr = r1 at hc
  generalize crStep o2 b inp cr = r2 at hc
  refine hc.elim ?_ ?_
  · exact fun _ => rfl
  · intro m1 m2 i c s g1
    cases s with
    | stuck => exact ⟨E_setCharRef g1 _, rfl⟩
    | progress => exact ⟨E_setCharRef g1 _, rfl⟩
    | done chars =>
      obtain ⟨p1, p2⟩ := processCharRef_E g1 chars
      exact RE_ofSig' (x := ((processCharRef m1 chars).1.setCharRef none, (processCharRef m1 chars).2))
        (y := ((processCharRef m2 chars).1.setCharRef none, (processCharRef m2 chars).2))
        (E_setCharRef p1 none) p2 _

/-! ### `eat` states -/

theorem eatSkipLf_E (o1 o2 : Opts) {a b : Mach} (h : E a b) (inp : Str) :
    E (eatSkipLf o1 a inp).1 (eatSkipLf o2 b inp).1 ∧ (eatSkipLf o2 b inp).2 = (eatSkipLf o1 a inp).2 := by
  unfold eatSkipLf
  rw [peek_E h, h.1.ignoreLf]
  split
  · split
    · split
      · obtain ⟨_, g2, g3⟩ := getChar_E o1 o2 (E_setIgnoreLf h false) inp
        exact ⟨g3, g2⟩
      · exact ⟨E_setIgnoreLf h false, rfl⟩
    · exact ⟨h, rfl⟩
  · exact ⟨h, rfl⟩

/-- relation between two `eat` results -/
def RdB (r1 r2 : Option Bool × Mach × Str) : Prop := r1.1 = r2.1 ∧ r1.2.2 = r2.2.2 ∧ E r1.2.1 r2.2.1

theorem eat_E (o1 o2 : Opts) {a b : Mach} (h : E a b) (inp pat : Str) :
    RdB (eat o1 a inp pat) (eat o2 b inp pat) := by
  rw [eat_eq_core, eat_eq_core]
  obtain ⟨h1, h2⟩ := eatSkipLf_E o1 o2 h inp
  rw [h2]
  generalize (eatSkipLf o1 a inp).1 = a' at h1
  generalize (eatSkipLf o2 b inp).1 = b' at h1
  generalize (eatSkipLf o1 a inp).2 = i'
  unfold eatCore
  rw [h1.1.tempBuf, h1.1.atEof]
  repeat' split
  all_goals exact ⟨rfl, rfl, E_setTempBuf h1 _⟩

/-- a look-ahead state: `eat` answers alike on both sides, so both runs take the same branch -/
theorem eatChain_RE (o1 o2 : Opts) (d1 d2 : Mach → Str → R) (alts : List (Str × (Mach → Mach)))
    (hk : ∀ p ∈ alts, ∀ {x y : Mach}, E x y → E (p.2 x) (p.2 y))
    (hd : ∀ {x y : Mach} (i : Str), E x y → RE (d1 x i) (d2 y i))
    {a b : Mach} (h : E a b) (inp : Str) :
    RE (eatChain o1 d1 alts a inp) (eatChain o2 d2 alts b inp) := by
  induction alts generalizing a b inp with
  | nil => exact hd inp h
  | cons p alts ih =>
    obtain ⟨pat, k⟩ := p
    unfold eatChain
    have e1 := eat_E o1 o2 h inp pat
    generalize eat o1 a inp pat = r1 at e1
    generalize eat o2 b inp pat = r2 at e1
    obtain ⟨x1, m1, i1⟩ := r1
    obtain ⟨y1, n1, j1⟩ := r2
    obtain ⟨g1, g2, g3⟩ := e1
    dsimp only at g1 g2 g3
    subst g1 g2
    rcases x1 with _ | _ | _
    · exact ⟨g3, rfl⟩
    · exact ih (fun p hp => hk p (.tail _ hp)) g3 i1
    · exact ⟨hk _ (.head _) g3, rfl⟩

theorem alts_E : ∀ p ∈ mdAlts ++ adnAlts, ∀ {x y : Mach}, E x y → E (p.2 x) (p.2 y) :=
  alts_cases (Q := fun k => ∀ {x y : Mach}, E x y → E (k x) (k y)) (fun h => E_to (E_clearComment h) _)
    fun _ _ _ h => E_to h _

theorem stepMd_RE (o1 o2 : Opts) {a b : Mach} (h : E a b) (inp : Str) :
    RE (stepMd o1 a inp) (stepMd o2 b inp) :=
  eatChain_RE o1 o2 (fun m i => .cont (to .bogusComment (badChar o1 m)) i)
    (fun m i => .cont (to .bogusComment (badChar o2 m)) i) mdAlts (fun p hp => alts_E p (List.mem_append_left _ hp))
    (fun _ h => ⟨E_to (E_badChar h o1 o2) _, rfl⟩) h inp

theorem stepAdn_RE (o1 o2 : Opts) {a b : Mach} (h : E a b) (inp : Str) :
    RE (stepAdn o1 a inp) (stepAdn o2 b inp) :=
  eatChain_RE o1 o2 (fun m i => contChar o1 (getChar o1 m i)) (fun m i => contChar o2 (getChar o2 m i)) adnAlts
    (fun p hp => alts_E p (List.mem_append_right _ hp))
    (fun i h => by
      obtain ⟨k1, k2, _⟩ := getChar_RdC o1 o2 h i
      exact contChar_RE o1 o2 k1 k2) h inp

/-! ### one step, whole runs -/

/-- **one step with any two option values on `E`-related machines gives `E`-related results** -/
theorem step_RE (o1 o2 : Opts) {a b : Mach} (h : E a b) (inp : Str) :
    RE (step o1 a inp) (step o2 b inp) := by
  cases hcr : a.charRef with
  | some cr =>
    rw [step_kind_charRef o1 a inp cr hcr, step_kind_charRef o2 b inp cr (by rw [h.1.charRef]; exact hcr)]
    exact stepCharRef_RE o1 o2 h inp cr
  | none =>
    have hcr' : b.charRef = none := by rw [h.1.charRef]; exact hcr
    cases hrk : readKind a.state with
    | getChar =>
      rw [step_getChar o1 a inp hcr hrk, step_getChar o2 b inp hcr' (by rw [h.1.state]; exact hrk)]
      obtain ⟨k1, k2, _⟩ := getChar_RdC o1 o2 h inp
      exact contChar_RE o1 o2 k1 k2
    | popExcept =>
      rw [step_popExcept o1 a inp hcr hrk, step_popExcept o2 b inp hcr' (by rw [h.1.state]; exact hrk),
        h.1.state]
      exact contSet_RE hrk (popExceptFrom_RdS o1 o2 _ (setOf_has a.state hrk) h inp)
    | eatMd =>
      rw [step_kind_md o1 a inp hcr hrk, step_kind_md o2 b inp hcr' (by rw [h.1.state]; exact hrk)]
      exact stepMd_RE o1 o2 h inp
    | eatAdn =>
      rw [step_kind_adn o1 a inp hcr hrk, step_kind_adn o2 b inp hcr' (by rw [h.1.state]; exact hrk)]
      exact stepAdn_RE o1 o2 h inp

/-- relation between two results of `run` -/
def RunE : RunRes → RunRes → Prop
  | .done a i, .done b j => E a b ∧ i = j
  | .panic x, .panic y => x = y
  | .outOfFuel, .outOfFuel => True
  | _, _ => False

theorem run_RunE (o1 o2 : Opts) (fuel : Nat) :
    ∀ {a b : Mach}, E a b → ∀ inp, RunE (run o1 fuel a inp) (run o2 fuel b inp) := by
  induction fuel with
  | zero => intro a b _ inp; exact True.intro
  | succ n ih =>
    intro a b h inp
    have hs := step_RE o1 o2 h inp
    unfold run
    generalize step o1 a inp = r1 at hs
    generalize step o2 b inp = r2 at hs
    cases r1 <;> cases r2 <;> first | exact hs.elim | skip
    · obtain ⟨g1, g2⟩ := hs; subst g2; exact ih g1 _
    · exact hs
    · exact hs

theorem feedBom_E {a b : Mach} (h : E a b) (inp : Str) :
    E (feedBom a inp).1 (feedBom b inp).1 ∧ (feedBom b inp).2 = (feedBom a inp).2 := by
  unfold feedBom
  cases inp with
  | nil => exact ⟨h, rfl⟩
  | cons c rest =>
    dsimp only
    rw [h.1.discardBom]
    split
    · exact ⟨E_setDiscardBom h false, rfl⟩
    · exact ⟨h, rfl⟩

theorem feed_RunE (o1 o2 : Opts) {a b : Mach} (h : E a b) (inp chunk : Str) :
    RunE (feed o1 a inp chunk) (feed o2 b inp chunk) := by
  unfold feed
  dsimp only
  split
  · exact ⟨h, rfl⟩
  · obtain ⟨h1, h2⟩ := feedBom_E h (inp ++ chunk)
    rw [h2, h1.1.fuelFor]
    exact run_RunE o1 o2 _ h1 _

/-! ### `XmlTokenizer::end` -/

theorem eofLoop_E0 (o1 o2 : Opts) (fuel : Nat) : ∀ {a b : Mach}, E0 a b →
    (eofLoop o1 fuel a).map (fun m => noErr m.out) = (eofLoop o2 fuel b).map (fun m => noErr m.out) := by
  induction fuel with
  | zero => intro a b _; rfl
  | succ n ih =>
    intro a b h
    obtain ⟨t1, t2⟩ := transEof_E0 o1 o2 h
    unfold eofLoop
    generalize transEof o1 a = r1 at t1 t2
    generalize transEof o2 b = r2 at t1 t2
    obtain ⟨m1, s1⟩ := r1
    obtain ⟨m2, s2⟩ := r2
    dsimp only at t1 t2
    subst t2
    cases s1 with
    | cont => exact ih t1
    | done => simp only [Except.map]; rw [t1.out]
    | panic e => rfl

/-- one round of the char-ref tokenizer's `end_of_file` (the local `once` of `crEof`) -/
def crEofOnceE (o : Opts) (m : Mach) (inp : Str) (cr : CharRefSt) : CRRes :=
  match cr.state with
  | .begin => .ok (m, inp, cr, .done [])
  | .numeric _ =>
    if !cr.seenDigit then unconsumeNumeric m inp cr
    else finishNumericStatus o (emitErr m "EOF in numeric character reference") inp cr
  | .numericSemicolon =>
    finishNumericStatus o (emitErr m "EOF in numeric character reference") inp cr
  | .named => finishNamed o m inp cr none
  | .bogusName => unconsumeName m inp cr
  | .octothorpe =>
    let mi := unconsume m inp ['#']
    .ok (emitErr mi.1 "EOF after '#' in character reference", mi.2, cr, .done [])

def crEofLast : CRRes → Except String (Mach × Str × Str)
  | .error e => .error e
  | .ok (m, inp, _, .done chars) => .ok (m, inp, chars)
  | .ok (_, _, _, _) => .error "end_of_file: does not terminate"

def crEofDrive (o : Opts) : CRRes → Except String (Mach × Str × Str)
  | .error e => .error e
  | .ok (m, inp, _, .done chars) => .ok (m, inp, chars)
  | .ok (_, _, _, .stuck) => .error "end_of_file: unexpected Stuck"
  | .ok (m, inp, cr, .progress) => crEofLast (crEofOnceE o m inp cr)

theorem crEof_eqE (o : Opts) (m : Mach) (inp : Str) (cr : CharRefSt) :
    crEof o m inp cr = crEofDrive o (crEofOnceE o m inp cr) := by
  unfold crEof crEofDrive crEofLast crEofOnceE
  rfl

theorem crEofOnce_CRE (o1 o2 : Opts) {a b : Mach} (h : E a b) (inp : Str) (cr : CharRefSt) :
    CRE (crEofOnceE o1 a inp cr) (crEofOnceE o2 b inp cr) := by
  unfold crEofOnceE
  dsimp only
  split <;> (repeat' split) <;>
    first
    | exact CRE_ok h _ _ _
    | exact unconsume_CRE_err h _ _ _ _ _
    | exact unconsumeNumeric_CRE h _ _
    | exact unconsumeName_CRE h _ _
    | exact finishNumericStatus_CRE o1 o2 (E_emitErr h _) _ _
    | exact finishNamed_CRE o1 o2 h _ _ _

/-- relation between two results of `crEof` -/
def CEE (r1 r2 : Except String (Mach × Str × Str)) : Prop :=
  match r1, r2 with
  | .ok v1, .ok v2 => E v1.1 v2.1 ∧ v1.2.1 = v2.2.1 ∧ v1.2.2 = v2.2.2
  | .error x, .error y => x = y
  | _, _ => False

theorem crEofLast_CEE {r1 r2 : CRRes} (h : CRE r1 r2) : CEE (crEofLast r1) (crEofLast r2) :=
  h.elim (fun _ => rfl) fun _ _ _ _ s g1 => by
    cases s with
    | done chars => exact ⟨g1, rfl, rfl⟩
    | stuck => exact rfl
    | progress => exact rfl

theorem crEofDrive_CEE (o1 o2 : Opts) {r1 r2 : CRRes} (h : CRE r1 r2) :
    CEE (crEofDrive o1 r1) (crEofDrive o2 r2) :=
  h.elim (fun _ => rfl) fun _ _ _ _ s g1 => by
    cases s with
    | stuck => exact rfl
    | done chars => exact ⟨g1, rfl, rfl⟩
    | progress => exact crEofLast_CEE (crEofOnce_CRE o1 o2 g1 _ _)

theorem crEof_CEE (o1 o2 : Opts) {a b : Mach} (h : E a b) (inp : Str) (cr : CharRefSt) :
    CEE (crEof o1 a inp cr) (crEof o2 b inp cr) := by
  rw [crEof_eqE, crEof_eqE]
  exact crEofDrive_CEE o1 o2 (crEofOnce_CRE o1 o2 h inp cr)

/-- the part of `XmlTokenizer::end` before the final `run`: finish a pending character reference -/
def finishPreE (o : Opts) (m : Mach) : Except String (Mach × Str) :=
  match m.charRef with
  | none => .ok (m, [])
  | some cr =>
    match crEof o m [] cr with
    | .error e => .error e
    | .ok (m, inp, chars) =>
      match processCharRef (m.setCharRef none) chars with
      | (m, .cont) => .ok (m, inp)
      | (_, .panic e) => .error e

/-- the final `run` and the `eof_step` loop -/
def finishPost (o : Opts) (mi : Mach × Str) : Except String Mach :=
  let m := mi.1.setAtEof true
  match run o (fuelFor m mi.2) m mi.2 with
  | .done m _ => eofLoop o 8 m
  | .panic e => .error e
  | .outOfFuel => .error "run out of fuel"

theorem finish_eqE (o : Opts) (m : Mach) :
    finish o m = match finishPreE o m with
      | .error e => .error e
      | .ok mi => finishPost o mi := by
  unfold finish finishPreE finishPost
  cases m.charRef with
  | none => rfl
  | some cr =>
    dsimp only
    cases crEof o m [] cr with
    | error e => rfl
    | ok v =>
      obtain ⟨m1, i1, ch⟩ := v
      dsimp only
      generalize processCharRef (m1.setCharRef none) ch = p
      obtain ⟨p1, p2⟩ := p
      cases p2 <;> rfl

/-- relation between two results of `finishPreE` -/
def PreE (r1 r2 : Except String (Mach × Str)) : Prop :=
  match r1, r2 with
  | .ok v1, .ok v2 => E v1.1 v2.1 ∧ v1.2 = v2.2
  | .error x, .error y => x = y
  | _, _ => False

theorem finishPre_PreE (o1 o2 : Opts) {a b : Mach} (h : E a b) : PreE (finishPreE o1 a) (finishPreE o2 b) := by
  unfold finishPreE
  rw [h.1.charRef]
  cases a.charRef with
  | none => exact ⟨h, rfl⟩
  | some cr =>
    dsimp only
    have hc := crEof_CEE o1 o2 h [] cr
    generalize crEof o1 a [] cr = r1 at hc
    generalize crEof o2 b [] cr = r2 at hc
    cases r1 with
    | error e1 =>
      cases r2 with
      | error e2 => exact hc
      | ok v2 => exact hc.elim
    | ok v1 =>
      cases r2 with
      | error e2 => exact hc.elim
      | ok v2 =>
        obtain ⟨m1, i1, ch1⟩ := v1
        obtain ⟨m2, i2, ch2⟩ := v2
        obtain ⟨g1, g2, g3⟩ := hc
        dsimp only at g1 g2 g3
        subst g2 g3
        dsimp only
        obtain ⟨p1, p2⟩ := processCharRef_E (E_setCharRef g1 none) ch1
        generalize processCharRef (m1.setCharRef none) ch1 = q1 at p1 p2
        generalize processCharRef (m2.setCharRef none) ch1 = q2 at p1 p2
        obtain ⟨x1, s1⟩ := q1
        obtain ⟨x2, s2⟩ := q2
        dsimp only at p1 p2
        subst p2
        cases s1 with
        | cont => exact ⟨p1, rfl⟩
        | panic e => exact rfl

theorem finishPost_E (o1 o2 : Opts) {a b : Mach} (h : E a b) (inp : Str) :
    (finishPost o1 (a, inp)).map (fun m => noErr m.out) =
    (finishPost o2 (b, inp)).map (fun m => noErr m.out) := by
  unfold finishPost
  dsimp only
  have h1 := E_setAtEof h true
  rw [h1.1.fuelFor]
  have hr := run_RunE o1 o2 (H5V.Model.XmlTok.fuelFor (a.setAtEof true) inp) h1 inp
  generalize run o1 _ (a.setAtEof true) inp = r1 at hr
  generalize run o2 _ (b.setAtEof true) inp = r2 at hr
  cases r1 <;> cases r2 <;> first | exact hr.elim | skip
  · obtain ⟨g1, g2⟩ := hr
    exact eofLoop_E0 o1 o2 8 g1.1
  · have : _ = _ := hr
    subst this; rfl
  · rfl

/-- **`XmlTokenizer::end` on `E`-related machines with any two option values: same failure, or success
with the same tokens up to parse errors** -/
theorem finish_E (o1 o2 : Opts) {a b : Mach} (h : E a b) :
    (finish o1 a).map (fun m => noErr m.out) = (finish o2 b).map (fun m => noErr m.out) := by
  rw [finish_eqE, finish_eqE]
  have hpre := finishPre_PreE o1 o2 h
  generalize finishPreE o1 a = r1 at hpre
  generalize finishPreE o2 b = r2 at hpre
  cases r1 with
  | error e1 =>
    cases r2 with
    | error e2 =>
      have : e1 = e2 := hpre
      subst this; rfl
    | ok v2 => exact hpre.elim
  | ok v1 =>
    cases r2 with
    | error e2 => exact hpre.elim
    | ok v2 =>
      obtain ⟨m1, i1⟩ := v1
      obtain ⟨m2, i2⟩ := v2
      obtain ⟨g1, g2⟩ := hpre
      dsimp only at g1 g2
      subst g2
      exact finishPost_E o1 o2 g1 i1

end H5V.Model.XmlTok
