import H5V.Spec.TreeAlgo
import H5V.Lemmas.HtmlTBTables
/-!
(b)–(e): the stack-inspecting sub-algorithms of the model (monadic: every `elem_name` is a sink
call) against the pure functions of `H5V.Spec.TreeAlgo`.

`Query m s a` : started in `s` — with *any* recorded trace — the computation `m` answers `a` and
changes nothing but the trace (it only makes pure sink queries).
-/
namespace H5V.Lemmas.HtmlTBSpec
open H5V.Model.HtmlTB
open H5V.Model.Dom (Id SinkOp Output Dom)
open H5V.Lemmas.HtmlTBTables

def withTr (s : State) (tr : List (SinkOp × Output)) : State := { s with traceRev := tr }

def Query {α : Type} (m : M α) (s : State) (a : α) : Prop :=
  ∀ tr, ∃ tr', m.run (withTr s tr) = .ok (a, withTr s tr')

theorem query_pure {α : Type} (s : State) (a : α) : Query (pure a : M α) s a :=
  fun tr => ⟨tr, rfl⟩

theorem query_bind {α β : Type} {m : M α} {f : α → M β} {s : State} {a : α} {b : β}
    (h1 : Query m s a) (h2 : Query (f a) s b) : Query (m >>= f) s b := by
  intro tr
  obtain ⟨tr1, e1⟩ := h1 tr
  obtain ⟨tr2, e2⟩ := h2 tr1
  refine ⟨tr2, ?_⟩
  simp only [StateT.run_bind, e1]
  exact e2

theorem query_getS_bind {β : Type} {f : State → M β} {s : State} {b : β}
    (h : ∀ tr, Query (f (withTr s tr)) s b) : Query (getS >>= f) s b := by
  intro tr
  obtain ⟨tr', e⟩ := h tr tr
  exact ⟨tr', e⟩

theorem query_ite {α : Type} {c : Prop} [Decidable c] {m1 m2 : M α} {s : State} {a1 a2 : α}
    (h1 : Query m1 s a1) (h2 : Query m2 s a2) : Query (if c then m1 else m2) s (if c then a1 else a2) := by
  split <;> assumption

theorem query_elemName {s : State} {h : Id} {ns loc : Str} (hn : s.dom.elemName h = .ok (ns, loc)) :
    Query (elemName h) s ⟨ns, loc⟩ := by
  intro tr
  refine ⟨(.elemName h, .name ns loc) :: tr, ?_⟩
  simp [elemName, sink, withTr, Dom.apply, Dom.applyV, hn, StateT.run, bind, StateT.bind, Except.bind,
    pure, StateT.pure, Except.pure]

theorem query_sinkBool_ip {s : State} {h : Id} {b : Bool}
    (hn : s.dom.isMathmlAnnotationXmlIntegrationPoint h = .ok b) :
    Query (sinkBool (.isMathmlAnnotationXmlIntegrationPoint h)) s b := by
  intro tr
  refine ⟨(.isMathmlAnnotationXmlIntegrationPoint h, .bool b) :: tr, ?_⟩
  simp [sinkBool, sink, withTr, Dom.apply, Dom.applyV, hn, StateT.run, bind, StateT.bind, Except.bind,
    pure, StateT.pure, Except.pure]


/-! ### names -/

def toName (n : EName) : Spec.TreeAlgo.Name := ⟨n.ns, n.loc⟩

/-- the sink answers `nm h` for every handle of `l` -/
def NamesOk (s : State) (l : List Id) (nm : Id → EName) : Prop :=
  ∀ h ∈ l, s.dom.elemName h = .ok ((nm h).ns, (nm h).loc)

theorem nsOf_eq : nsOf = Spec.TreeAlgo.nsUrl := rfl

theorem memName_eq_inTable (t : List (String × String)) (n : EName) :
    memName t n = Spec.TreeAlgo.inTable t (toName n) := by
  unfold memName Spec.TreeAlgo.inTable
  congr 1

theorem htmlIn_eq_inHtml (l : List String) (n : EName) : htmlIn n l = Spec.TreeAlgo.inHtml l (toName n) := rfl

theorem query_elemName' {s : State} {h : Id} {nm : Id → EName} {l : List Id} (hn : NamesOk s l nm) (hh : h ∈ l) :
    Query (elemName h) s (nm h) := query_elemName (hn h hh)

theorem query_htmlElemNamedS {s : State} {h : Id} {n : EName} (hn : Query (elemName h) s n) (name : Str) :
    Query (htmlElemNamedS h name) s (n.ns == nsHtml && n.loc == name) := by
  unfold htmlElemNamedS
  exact query_bind hn (query_pure _ _)

/-! ### (b) "has an element in a specific scope" -/

theorem inScopeLoop_query (s : State) (scope : EName → Bool) (pred : Id → M Bool) (P : EName → Bool)
    (nm : Id → EName) (l : List Id) (hn : NamesOk s l nm) (hp : ∀ h ∈ l, Query (pred h) s (P (nm h))) :
    Query (inScopeLoop scope pred l) s
      (Spec.TreeAlgo.hasInScope (fun n => P ⟨n.ns, n.loc⟩) (fun n => scope ⟨n.ns, n.loc⟩) (l.map (fun h => toName (nm h)))) := by
  induction l with
  | nil => exact query_pure _ _
  | cons node rest ih =>
    have ih' := ih (fun h hh => hn h (List.mem_cons_of_mem _ hh)) (fun h hh => hp h (List.mem_cons_of_mem _ hh))
    simp only [inScopeLoop, List.map_cons, Spec.TreeAlgo.hasInScope, toName]
    refine query_bind (hp node (List.mem_cons_self ..)) ?_
    cases hP : P (nm node) with
    | true => simpa using query_pure _ _
    | false =>
      simp only [Bool.false_eq_true, if_false]
      refine query_bind (query_elemName (hn node (List.mem_cons_self ..))) ?_
      cases hS : scope (nm node) with
      | true => simpa using query_pure s false
      | false =>
        simp only [hS, Bool.false_eq_true, if_false]
        exact ih'

/-- **(b)** `in_scope_named(scope, name)` is the standard's "has a `name` element in the specific
scope `scope`", for every stack all of whose entries the sink knows as elements -/
theorem inScopeNamedS_query (s : State) (scope : EName → Bool) (name : Str) (nm : Id → EName)
    (hn : NamesOk s s.openElems nm) :
    Query (inScopeNamedS scope name) s
      (Spec.TreeAlgo.hasInScope (fun n => n.ns == nsHtml && n.loc == name) (fun n => scope ⟨n.ns, n.loc⟩)
        (s.openElems.reverse.map (fun h => toName (nm h)))) := by
  unfold inScopeNamedS inScope
  refine query_getS_bind (fun tr => ?_)
  have hn' : NamesOk s s.openElems.reverse nm := fun h hh => hn h (List.mem_reverse.mp hh)
  exact inScopeLoop_query s scope _ (fun n => n.ns == nsHtml && n.loc == name) nm _ hn'
    (fun h hh => query_htmlElemNamedS (query_elemName (hn' h hh)) name)

/-- the model's scope sets are the standard's lists -/
theorem scope_sets_eq_spec (n : EName) :
    defaultScope n = Spec.TreeAlgo.defaultScopeList (toName n) ∧
    listItemScope n = Spec.TreeAlgo.listItemScopeList (toName n) ∧
    buttonScope n = Spec.TreeAlgo.buttonScopeList (toName n) ∧
    tableScope n = Spec.TreeAlgo.tableScopeList (toName n) := by
  refine ⟨?_, ?_, ?_, ?_⟩
  · rw [defaultScope_rows, Spec.TreeAlgo.defaultScopeList, ← memName_eq_inTable]
    exact memName_of_sameSet (by decide +kernel) n
  · unfold listItemScope
    rw [plus_eq, defaultScope_rows, ← memName_append, Spec.TreeAlgo.listItemScopeList, ← memName_eq_inTable]
    exact memName_of_sameSet (by decide +kernel) n
  · unfold buttonScope
    rw [plus_eq, defaultScope_rows, ← memName_append, Spec.TreeAlgo.buttonScopeList, ← memName_eq_inTable]
    exact memName_of_sameSet (by decide +kernel) n
  · unfold tableScope
    rw [htmlIn_eq, Spec.TreeAlgo.tableScopeList, ← memName_eq_inTable]
    exact memName_of_sameSet (by decide +kernel) n


/-! ### (c) generate implied end tags -/

theorem run_bind_ok {α β : Type} {m : M α} {f : α → M β} {s s' : State} {a : α}
    (h : m.run s = .ok (a, s')) : (m >>= f).run s = (f a).run s' := by
  simp only [StateT.run_bind, h]; rfl

theorem elemName_run {s : State} {h : Id} {n : EName} (hn : s.dom.elemName h = .ok (n.ns, n.loc)) :
    (elemName h).run s = .ok (n, { s with traceRev := (.elemName h, .name n.ns n.loc) :: s.traceRev }) := by
  simp [elemName, sink, Dom.apply, Dom.applyV, hn, StateT.run, bind, StateT.bind, Except.bind,
    pure, StateT.pure, Except.pure]

theorem pop_run {s : State} {h : Id} (hl : s.openElems.getLast? = some h) :
    pop.run s = .ok (h, { s with openElems := s.openElems.dropLast, traceRev := (.pop h, .unit) :: s.traceRev }) := by
  simp [pop, getS, hl, sinkUnit, sink, Dom.apply, Dom.applyV, StateT.run, bind, StateT.bind, Except.bind,
    pure, StateT.pure, Except.pure, set, StateT.set, get, getThe, MonadStateOf.get, StateT.get]

/-- the loop pops exactly the maximal run of current nodes in `set`; `r` is the stack, current node first -/
theorem impliedLoop_run (set : EName → Bool) (nm : Id → EName) :
    ∀ (r : List Id) (s : State) (fuel : Nat), s.openElems = r.reverse → NamesOk s r nm → r.length + 1 ≤ fuel →
      ∃ tr, (generateImpliedEndTagsLoop set fuel).run s
        = .ok ((), { s with openElems := (r.dropWhile (fun h => set (nm h))).reverse, traceRev := tr }) := by
  intro r
  induction r with
  | nil =>
    intro s fuel hs _ hf
    obtain ⟨f, rfl⟩ : ∃ f, fuel = f + 1 := ⟨fuel - 1, by omega⟩
    refine ⟨s.traceRev, ?_⟩
    simp only [generateImpliedEndTagsLoop]
    rw [run_bind_ok (s' := s) (a := s) rfl]
    simp only [hs, List.reverse_nil, List.getLast?_nil, List.dropWhile_nil]
    cases s; simp_all; rfl
  | cons h r ih =>
    intro s fuel hs hn hf
    obtain ⟨f, rfl⟩ : ∃ f, fuel = f + 1 := ⟨fuel - 1, by simp at hf; omega⟩
    have hl : s.openElems.getLast? = some h := by simp [hs]
    simp only [generateImpliedEndTagsLoop]
    rw [run_bind_ok (s' := s) (a := s) rfl]
    simp only [hl]
    rw [run_bind_ok (elemName_run (hn h (List.mem_cons_self ..)))]
    cases hset : set (nm h) with
    | false =>
      refine ⟨(.elemName h, .name (nm h).ns (nm h).loc) :: s.traceRev, ?_⟩
      simp only [Bool.not_false, if_true, List.dropWhile_cons, hset, Bool.false_eq_true, if_false]
      rw [← hs]; rfl
    | true =>
      simp only [Bool.not_true, Bool.false_eq_true, if_false, List.dropWhile_cons, hset, if_true]
      let s1 : State := { s with traceRev := (.elemName h, .name (nm h).ns (nm h).loc) :: s.traceRev }
      have hl1 : s1.openElems.getLast? = some h := hl
      rw [run_bind_ok (pop_run hl1)]
      have hs2 : ({ s1 with openElems := s1.openElems.dropLast,
                            traceRev := (.pop h, .unit) :: s1.traceRev } : State).openElems = r.reverse := by
        show s.openElems.dropLast = r.reverse
        rw [hs]; simp
      obtain ⟨tr, e⟩ := ih _ f hs2 (fun x hx => hn x (List.mem_cons_of_mem _ hx)) (by simp at hf; omega)
      exact ⟨tr, e⟩

theorem dropWhile_map_name (set : EName → Bool) (q : Spec.TreeAlgo.Name → Bool) (nm : Id → EName)
    (hq : ∀ n, set n = q (toName n)) (r : List Id) :
    (r.dropWhile (fun h => set (nm h))).map (fun h => toName (nm h))
      = (r.map (fun h => toName (nm h))).dropWhile q := by
  have hfun : (fun h => set (nm h)) = (fun h => q (toName (nm h))) := funext (fun h => hq _)
  rw [hfun]
  induction r with
  | nil => rfl
  | cons h r ih =>
    simp only [List.dropWhile_cons, List.map_cons]
    cases q (toName (nm h)) <;> simp [ih]

/-- **(c)** `generate_implied_end_tags(set)` pops what the standard's "generate implied end tags"
(`ex = none`), "… except for `x` elements" (`ex = some x`) pops — for every stack the sink knows -/
theorem generateImpliedEndTags_spec (s : State) (nm : Id → EName) (hn : NamesOk s s.openElems nm)
    (set : EName → Bool) (q : Spec.TreeAlgo.Name → Bool) (hq : ∀ n, set n = q (toName n)) :
    ∃ stk tr, (generateImpliedEndTags set).run s = .ok ((), { s with openElems := stk, traceRev := tr }) ∧
      stk.reverse.map (fun h => toName (nm h)) = (s.openElems.reverse.map (fun h => toName (nm h))).dropWhile q ∧
      stk <+: s.openElems := by
  have hn' : NamesOk s s.openElems.reverse nm := fun h hh => hn h (List.mem_reverse.mp hh)
  obtain ⟨tr, e⟩ := impliedLoop_run set nm s.openElems.reverse s (s.openElems.length + 1) (by simp) hn' (by simp)
  refine ⟨(s.openElems.reverse.dropWhile (fun h => set (nm h))).reverse, tr, ?_, ?_, ?_⟩
  · unfold generateImpliedEndTags
    rw [run_bind_ok (s' := s) (a := s) rfl]
    exact e
  · rw [List.reverse_reverse]; exact dropWhile_map_name set q nm hq _
  · have := List.dropWhile_suffix (fun h => set (nm h)) (l := s.openElems.reverse)
    have h2 := List.reverse_prefix.mpr this
    simpa using h2

theorem implied_sets_eq_spec (n : EName) (x : Str) :
    cursoryImpliedEnd n = Spec.TreeAlgo.impliedEndTag none (toName n) ∧
    impliedExcept x n = Spec.TreeAlgo.impliedEndTag (some x) (toName n) ∧
    impliedExceptP n = Spec.TreeAlgo.impliedEndTag (some "p".toList) (toName n) ∧
    thoroughImpliedEnd n
      = Spec.TreeAlgo.inHtml (Spec.TreeTables.impliedEnd ++ Spec.TreeTables.impliedEndThoroughExtra) (toName n) := by
  have hc : cursoryImpliedEnd n = Spec.TreeAlgo.inHtml Spec.TreeTables.impliedEnd (toName n) := by
    unfold cursoryImpliedEnd
    rw [htmlIn_eq, memName_of_sameSet (b := rows "html" Spec.TreeTables.impliedEnd) (by decide +kernel), ← htmlIn_eq]
    rfl
  have hx : ∀ y : Str, impliedExcept y n = Spec.TreeAlgo.impliedEndTag (some y) (toName n) := by
    intro y
    show (if (n.ns == nsHtml && n.loc == y) = true then false else cursoryImpliedEnd n) =
      (Spec.TreeAlgo.inHtml Spec.TreeTables.impliedEnd (toName n) && !(n.ns == nsHtml && (some n.loc == some y)))
    rw [← hc, Option.some_beq_some]
    by_cases hB : (n.ns == nsHtml) = true <;> by_cases hC : (n.loc == y) = true <;> simp [hB, hC]
  refine ⟨?_, hx x, ?_, ?_⟩
  · show cursoryImpliedEnd n = (Spec.TreeAlgo.inHtml Spec.TreeTables.impliedEnd (toName n) &&
      !(n.ns == nsHtml && (some n.loc == (none : Option Str))))
    rw [← hc]; simp
  · have h2 : impliedExceptP n = impliedExcept "p".toList n := by
      show (if (n.ns == nsHtml && (("p".toList == n.loc) || false)) = true then false else cursoryImpliedEnd n) =
        (if (n.ns == nsHtml && n.loc == "p".toList) = true then false else cursoryImpliedEnd n)
      generalize "p".toList = y
      rw [Bool.or_false, show (y == n.loc) = (n.loc == y) from BEq.comm]
    rw [h2]; exact hx _
  · unfold thoroughImpliedEnd cursoryImpliedEnd
    rw [plus_eq, htmlIn_eq, ← memName_append,
      memName_of_sameSet (b := rows "html" (Spec.TreeTables.impliedEnd ++ Spec.TreeTables.impliedEndThoroughExtra))
        (by decide +kernel), ← htmlIn_eq]
    rfl


/-! ### (d) reset the insertion mode appropriately -/

def toSpecMode : Mode → Spec.TreeAlgo.Mode
  | .initial => .initial | .beforeHtml => .beforeHtml | .beforeHead => .beforeHead | .inHead => .inHead
  | .inHeadNoscript => .inHeadNoscript | .afterHead => .afterHead | .inBody => .inBody | .text => .text
  | .inTable => .inTable | .inTableText => .inTableText | .inCaption => .inCaption
  | .inColumnGroup => .inColumnGroup | .inTableBody => .inTableBody | .inRow => .inRow | .inCell => .inCell
  | .inTemplate => .inTemplate | .afterBody => .afterBody | .inFrameset => .inFrameset
  | .afterFrameset => .afterFrameset | .afterAfterBody => .afterAfterBody
  | .afterAfterFrameset => .afterAfterFrameset

/-- one iteration of the model's loop on the name `n` of the node under inspection, as a pure
function: `some r` = return `r` (`none` inside = the `unwrap` panic on an empty template-mode
stack), `none` = go on with the next node -/
def modelResetStep (n : EName) (last : Bool) (tm : Option Mode) (headNone : Bool) : Option (Option Mode) :=
  if n.ns != nsHtml then none
  else if isOneOf n.loc ["td", "th"] && !last then some (some .inCell)
  else if isName n.loc "tr" then some (some .inRow)
  else if isOneOf n.loc ["tbody", "thead", "tfoot"] then some (some .inTableBody)
  else if isName n.loc "caption" then some (some .inCaption)
  else if isName n.loc "colgroup" then some (some .inColumnGroup)
  else if isName n.loc "table" then some (some .inTable)
  else if isName n.loc "template" then some tm
  else if isName n.loc "head" then (if !last then some (some .inHead) else none)
  else if isName n.loc "body" then some (some .inBody)
  else if isName n.loc "frameset" then some (some .inFrameset)
  else if isName n.loc "html" then (if headNone then some (some .beforeHead) else some (some .afterHead))
  else none

theorem isName_comm (x : Str) (s : String) : isName x s = (x == s.toList) := BEq.comm

theorem isHtml_eq (n : EName) (s : String) :
    (toName n).isHtml s = (n.ns == nsHtml && isName n.loc s) := by
  rw [isName_comm]; rfl

/-- the two step functions agree (`last` nodes that the model passes on end the loop: the rest of
the stack is empty and the model's `[]` case answers "in body") -/
theorem resetStep_eq (n : EName) (last : Bool) (tm : Option Mode) (headNone : Bool) :
    Spec.TreeAlgo.resetStep (toName n) last (tm.map toSpecMode) headNone
      = match modelResetStep n last tm headNone with
        | some r => some (r.map toSpecMode)
        | none => if last then some (some .inBody) else none := by
  simp only [Spec.TreeAlgo.resetStep, modelResetStep, isHtml_eq, isOneOf, List.any_cons, List.any_nil, Bool.or_false,
    Bool.or_assoc, ← isName.eq_1]
  cases hns : n.ns == nsHtml
  · simp [bne, hns]
  simp only [bne, hns, Bool.true_and, Bool.not_true, Bool.false_eq_true, if_false]
  -- from here the two chains test the same conditions in the same order, except at `head`
  by_cases c1 : ((isName n.loc "td" || isName n.loc "th") && !last) = true
  · simp only [if_pos c1]; rfl
  by_cases c2 : isName n.loc "tr" = true
  · simp only [if_neg c1, if_pos c2]; rfl
  by_cases c3 : (isName n.loc "tbody" || (isName n.loc "thead" || isName n.loc "tfoot")) = true
  · simp only [if_neg c1, if_neg c2, if_pos c3]; rfl
  by_cases c4 : isName n.loc "caption" = true
  · simp only [if_neg c1, if_neg c2, if_neg c3, if_pos c4]; rfl
  by_cases c5 : isName n.loc "colgroup" = true
  · simp only [if_neg c1, if_neg c2, if_neg c3, if_neg c4, if_pos c5]; rfl
  by_cases c6 : isName n.loc "table" = true
  · simp only [if_neg c1, if_neg c2, if_neg c3, if_neg c4, if_neg c5, if_pos c6]; rfl
  by_cases c7 : isName n.loc "template" = true
  · simp only [if_neg c1, if_neg c2, if_neg c3, if_neg c4, if_neg c5, if_neg c6, if_pos c7]
  simp only [if_neg c1, if_neg c2, if_neg c3, if_neg c4, if_neg c5, if_neg c6, if_neg c7]
  by_cases c8 : isName n.loc "head" = true
  · -- a last `head` falls through to the end of the standard's chain: it is none of the later names
    obtain ⟨ns, loc⟩ := n
    obtain rfl : "head".toList = loc := by simpa [isName] using c8
    cases last <;> simp [isName, toSpecMode]
  have c8' : ¬ (isName n.loc "head" && !last) = true := by simp [c8]
  simp only [if_neg c8, if_neg c8']
  by_cases c9 : isName n.loc "body" = true
  · simp only [if_pos c9]; rfl
  by_cases c10 : isName n.loc "frameset" = true
  · simp only [if_neg c9, if_pos c10]; rfl
  by_cases c11 : isName n.loc "html" = true
  · simp only [if_neg c9, if_neg c10, if_pos c11]; cases headNone <;> rfl
  simp only [if_neg c9, if_neg c10, if_neg c11]

/-- what an iteration of the loop needs of the pure step's answer: a mode is the answer `r`, the
`unwrap` panic does not occur, "go on" is answered by the rest of the loop `k` -/
def StepGoal (s : State) (k : M Mode) (r : Mode) : Option (Option Mode) → Prop
  | some (some m) => m = r
  | some none => False
  | none => Query k s r

theorem stepGoal_ite {s : State} {k : M Mode} {r : Mode} {c : Prop} [Decidable c] {m1 m2 : M Mode}
    {o1 o2 : Option (Option Mode)} (h1 : StepGoal s k r o1 → Query m1 s r) (h2 : StepGoal s k r o2 → Query m2 s r) :
    StepGoal s k r (if c then o1 else o2) → Query (if c then m1 else m2) s r := by
  split <;> assumption

theorem stepGoal_pure {s : State} {k : M Mode} {r m : Mode} (h : StepGoal s k r (some (some m))) :
    Query (pure m) s r := (show m = r from h) ▸ query_pure s m

/-- the model's chain of tests is `modelResetStep`'s, with `pure` and the recursive call at the leaves -/
theorem resetLoop_step (s : State) (node : Id) (rest : List Id) (len : Nat) (n : EName) (r : Mode)
    (hq : Query (elemName (match len - 1 == 0, s.contextElem with | true, some ctx => ctx | _, _ => node)) s n)
    (h : StepGoal s (resetLoop rest (len - 1)) r
      (modelResetStep n (len - 1 == 0) s.templateModes.getLast? s.headElem.isNone)) :
    Query (resetLoop (node :: rest) len) s r := by
  simp only [resetLoop]
  refine query_getS_bind (fun tr => ?_)
  refine query_bind hq ?_
  simp only [withTr]
  revert h
  unfold modelResetStep
  refine stepGoal_ite id (stepGoal_ite stepGoal_pure (stepGoal_ite stepGoal_pure (stepGoal_ite stepGoal_pure
    (stepGoal_ite stepGoal_pure (stepGoal_ite stepGoal_pure (stepGoal_ite stepGoal_pure (stepGoal_ite ?_
    (stepGoal_ite (stepGoal_ite stepGoal_pure id) (stepGoal_ite stepGoal_pure (stepGoal_ite stepGoal_pure
    (stepGoal_ite ?_ id)))))))))))
  · cases s.templateModes.getLast? with
    | none => exact False.elim
    | some m => exact stepGoal_pure
  · cases s.headElem <;> exact stepGoal_pure

theorem toSpecMode_inj {a b : Mode} (h : toSpecMode a = toSpecMode b) : a = b := by
  -- `toSpecMode` keeps the position of the constructor
  have e : ∀ m, (toSpecMode m).ctorIdx = m.ctorIdx := fun m => by cases m <;> rfl
  have := congrArg Spec.TreeAlgo.Mode.ctorIdx h
  rw [e, e] at this
  rw [← Mode.ofNat_ctorIdx a, this, Mode.ofNat_ctorIdx]

theorem len_last (rest : List Id) : ((rest.length + 1) - 1 == 0) = rest.isEmpty := by
  cases rest <;> simp

/-- the fragment context element, as the sink names it -/
def CtxOk (s : State) (cn : Option EName) : Prop :=
  match s.contextElem, cn with
  | some c, some n => s.dom.elemName c = .ok (n.ns, n.loc)
  | none, none => True
  | _, _ => False

/-- **(d)** `reset_insertion_mode` answers what the standard's "reset the insertion mode
appropriately" answers, on every stack (fragment case, template modes, head pointer included);
`l` is the stack with the current node first -/
theorem resetLoop_query (s : State) (nm : Id → EName) (cn : Option EName) (hctx : CtxOk s cn) (m : Mode) :
    ∀ (l : List Id), NamesOk s l nm →
      Spec.TreeAlgo.resetInsertionMode (cn.map toName) s.headElem.isNone (s.templateModes.getLast?.map toSpecMode)
        (l.map (fun h => toName (nm h))) = some (toSpecMode m) →
      Query (resetLoop l l.length) s m := by
  intro l
  induction l with
  | nil =>
    intro _ hspec
    simp only [List.map_nil, Spec.TreeAlgo.resetInsertionMode, Option.some.injEq] at hspec
    have : m = .inBody := toSpecMode_inj (by rw [← hspec]; rfl)
    subst this
    exact query_pure _ _
  | cons node rest ih =>
    intro hn hspec
    have ih' := ih (fun x hx => hn x (List.mem_cons_of_mem _ hx))
    simp only [List.length_cons]
    -- the node under inspection and its name
    obtain ⟨n, hq, hnode⟩ : ∃ n : EName,
        Query (elemName (match (rest.length + 1) - 1 == 0, s.contextElem with | true, some ctx => ctx | _, _ => node)) s n ∧
        toName n = (if rest.isEmpty then (cn.map toName).getD (toName (nm node)) else toName (nm node)) := by
      rw [len_last]
      cases hl : rest.isEmpty with
      | false => exact ⟨nm node, query_elemName (hn node (List.mem_cons_self ..)), by simp⟩
      | true =>
        unfold CtxOk at hctx
        cases hc : s.contextElem with
        | none =>
          cases cn with
          | none => exact ⟨nm node, query_elemName (hn node (List.mem_cons_self ..)), by simp⟩
          | some c => simp [hc] at hctx
        | some c =>
          cases cn with
          | none => simp [hc] at hctx
          | some c' =>
            simp only [hc] at hctx
            exact ⟨c', query_elemName hctx, by simp⟩
    refine resetLoop_step s node rest (rest.length + 1) n m hq ?_
    simp only [List.map_cons, Spec.TreeAlgo.resetInsertionMode, List.isEmpty_map] at hspec
    rw [← hnode, resetStep_eq] at hspec
    rw [len_last]
    cases hstep : modelResetStep n rest.isEmpty s.templateModes.getLast? s.headElem.isNone with
    | some r =>
      simp only [hstep, Option.getD_some] at hspec
      cases r with
      | none => simp at hspec
      | some m0 =>
        simp only [Option.map_some, Option.some.injEq] at hspec
        exact toSpecMode_inj hspec
    | none =>
      simp only [hstep] at hspec
      cases hl : rest.isEmpty with
      | true =>
        simp only [hl, if_true, Option.getD_some, Option.some.injEq] at hspec
        have : m = .inBody := toSpecMode_inj (by rw [← hspec]; rfl)
        subst this
        have : rest = [] := List.isEmpty_iff.mp hl
        subst this
        exact query_pure _ _
      | false =>
        simp only [hl, Bool.false_eq_true, if_false, Option.getD_none] at hspec
        have := ih' hspec
        simpa [StepGoal] using this

/-- `reset_insertion_mode()` itself (the stack is stored with the current node last) -/
theorem resetInsertionMode_query (s : State) (nm : Id → EName) (cn : Option EName) (hctx : CtxOk s cn)
    (hn : NamesOk s s.openElems nm) (m : Mode)
    (hspec : Spec.TreeAlgo.resetInsertionMode (cn.map toName) s.headElem.isNone
      (s.templateModes.getLast?.map toSpecMode) (s.openElems.reverse.map (fun h => toName (nm h))) = some (toSpecMode m)) :
    Query resetInsertionMode s m := by
  unfold resetInsertionMode
  refine query_getS_bind (fun tr => ?_)
  have hn' : NamesOk s s.openElems.reverse nm := fun h hh => hn h (List.mem_reverse.mp hh)
  have := resetLoop_query s nm cn hctx m s.openElems.reverse hn' hspec
  simpa [withTr] using this


/-! ### (e) the tree construction dispatcher -/

def tokKind : Token → Spec.TreeAlgo.TokenKind
  | .tag t => if t.kind == .startTag then .startTag t.name else .endTag t.name
  | .comment _ => .comment
  | .chars _ _ => .character
  | .nullChar => .character
  | .eof => .eof

theorem mathmlTIP_eq (n : EName) :
    mathmlTextIntegrationPoint n = Spec.TreeAlgo.isMathmlTextIntegrationPoint (toName n) := rfl

theorem svgHIP_eq (n : EName) :
    svgHtmlIntegrationPoint n
      = ((toName n).ns == Spec.TreeAlgo.nsSvg && Spec.TreeTables.svgHtmlIntegrationPoint.any (fun s => s.toList == (toName n).loc)) := rfl

/-- the adjusted current node (`l` = the stack, current node first) -/
theorem adjustedCurrentNode_query (s : State) (c : Id)
    (h : Spec.TreeAlgo.adjustedCurrentNode s.openElems.reverse s.contextElem = some c) :
    Query adjustedCurrentNode s c := by
  unfold adjustedCurrentNode
  refine query_getS_bind (fun tr => ?_)
  simp only [withTr]
  have hlast : ∀ x, s.openElems.reverse.head? = some x → Query currentNode s x := by
    intro x hx
    unfold currentNode
    refine query_getS_bind (fun tr => ?_)
    have : s.openElems.getLast? = some x := by simpa [List.head?_reverse] using hx
    simp only [withTr, this]
    exact query_pure _ _
  cases hr : s.openElems.reverse with
  | nil => simp [Spec.TreeAlgo.adjustedCurrentNode, hr] at h
  | cons cur rest =>
    have hlen : s.openElems.length = rest.length + 1 := by
      have := congrArg List.length hr; simpa using this
    cases rest with
    | nil =>
      have h1 : (s.openElems.length == 1) = true := by simp [hlen]
      simp only [h1, if_true]
      cases hc : s.contextElem with
      | some ctx =>
        simp only [Spec.TreeAlgo.adjustedCurrentNode, hr, hc, Option.some.injEq] at h
        subst h; exact query_pure _ _
      | none =>
        simp only [Spec.TreeAlgo.adjustedCurrentNode, hr, hc, Option.some.injEq] at h
        subst h; exact hlast _ (by simp [hr])
    | cons x rest' =>
      have h1 : (s.openElems.length == 1) = false := by simp [hlen]
      simp only [h1, Bool.false_eq_true, if_false]
      simp only [Spec.TreeAlgo.adjustedCurrentNode, hr, Option.some.injEq] at h
      subst h; exact hlast _ (by simp [hr])

theorem query_pure_eq {α : Type} {s : State} {a b : α} (h : a = b) : Query (pure a : M α) s b := h ▸ query_pure s a

/-- the model's decision, as a function of the adjusted current node's name `n`, the sink's
annotation-xml integration-point flag `ip` and the token -/
def isForeignPure (tok : Token) (n : EName) (ip : Bool) : Bool :=
  let isStart : Option Tag := match tok with
    | .tag tg => if tg.kind == .startTag then some tg else none
    | _ => none
  let isChars : Bool := match tok with
    | .chars _ _ => true | .nullChar => true | _ => false
  if tok == .eof then false
  else if n.ns == nsHtml then false
  else if mathmlTextIntegrationPoint n &&
      (isChars || (match isStart with | some tg => !isOneOf tg.name ["mglyph", "malignmark"] | none => false)) then false
  else if svgHtmlIntegrationPoint n && (isChars || isStart.isSome) then false
  else if n.ns == nsMathml && isName n.loc "annotation-xml" then
    match isStart with
    | some tg => if isName tg.name "svg" then false else !ip
    | none => if isChars then !ip else true
  else true

theorem isForeign_query_pure (s : State) (tok : Token) (c : Id) (n : EName) (ip : Bool)
    (hc : Spec.TreeAlgo.adjustedCurrentNode s.openElems.reverse s.contextElem = some c)
    (hn : s.dom.elemName c = .ok (n.ns, n.loc))
    (hip : s.dom.isMathmlAnnotationXmlIntegrationPoint c = .ok ip) :
    Query (isForeign tok) s (isForeignPure tok n ip) := by
  have hacn := adjustedCurrentNode_query s c hc
  have hne : s.openElems.isEmpty = false := by
    cases ho : s.openElems with
    | nil => simp [ho, Spec.TreeAlgo.adjustedCurrentNode] at hc
    | cons _ _ => rfl
  have hipq : Query (do let cur ← adjustedCurrentNode; pure (!(← sinkBool (.isMathmlAnnotationXmlIntegrationPoint cur)))) s (!ip) :=
    query_bind hacn (query_bind (query_sinkBool_ip (s := s) hip) (query_pure _ _))
  unfold isForeign isForeignPure
  by_cases he : (tok == Token.eof) = true
  · simp only [if_pos he]; exact query_pure _ _
  simp only [if_neg he]
  refine query_getS_bind (fun tr => ?_)
  simp only [withTr, hne, Bool.false_eq_true, if_false]
  -- after the two queries the model's chain of tests is the pure function's, with `pure` at the leaves
  refine query_bind hacn (query_bind (query_elemName hn) ?_)
  refine query_ite (query_pure _ _) (query_ite (query_pure _ _) (query_ite (query_pure _ _)
    (query_ite ?_ (query_pure _ _))))
  cases tok with
  | tag t =>
    cases hk : t.kind == .startTag
    · simp only [hk, Bool.false_eq_true, if_false]; exact query_pure _ _
    · simp only [hk, if_true]; exact query_ite (query_pure _ _) hipq
  | _ => exact query_ite hipq (query_pure _ _)

/-- the Boolean content of (e): the model's decision is the negation of the dispatcher's -/
theorem isForeignPure_eq_spec (tok : Token) (n : EName) (ip : Bool) :
    isForeignPure tok n ip = !Spec.TreeAlgo.useHtmlRules (some ⟨toName n, ip⟩) (tokKind tok) := by
  have eX : ((toName n).ns == Spec.TreeAlgo.nsMathml && (toName n).loc == "annotation-xml".toList)
      = (n.ns == nsMathml && isName n.loc "annotation-xml") := by rw [isName_comm]; rfl
  have eA : ((toName n).ns == Spec.TreeAlgo.nsHtml) = (n.ns == nsHtml) := rfl
  have eM := (mathmlTIP_eq n).symm
  have eS := (svgHIP_eq n).symm
  simp only [isForeignPure, Spec.TreeAlgo.useHtmlRules, Spec.TreeAlgo.isHtmlIntegrationPoint, eX, eA, eM, eS]
  generalize (n.ns == nsHtml) = A
  generalize mathmlTextIntegrationPoint n = Mt
  generalize svgHtmlIntegrationPoint n = Sv
  generalize (n.ns == nsMathml && isName n.loc "annotation-xml") = X
  -- what is left is a statement about Booleans: the token's kind is known in each case
  cases tok with
  | eof => simp only [tokKind]; decide +revert
  | comment t => cases A <;> cases Mt <;> cases Sv <;> cases X <;> cases ip <;> rfl
  | nullChar => simp only [tokKind]; decide +revert
  | chars st t => cases A <;> cases Mt <;> cases Sv <;> cases X <;> cases ip <;> rfl
  | tag t =>
    have b1 : ∀ x : Str, (Spec.TreeAlgo.TokenKind.startTag x == .character) = false := fun _ => rfl
    have b2 : ∀ x : Str, (Spec.TreeAlgo.TokenKind.startTag x == .eof) = false := fun _ => rfl
    have b3 : ∀ x : Str, (Spec.TreeAlgo.TokenKind.endTag x == .character) = false := fun _ => rfl
    have b4 : ∀ x : Str, (Spec.TreeAlgo.TokenKind.endTag x == .eof) = false := fun _ => rfl
    simp only [tokKind, show (Token.tag t == Token.eof) = false from rfl]
    by_cases hk : (t.kind == .startTag) = true
    · have e1 : (!isOneOf t.name ["mglyph", "malignmark"]) = (t.name != "mglyph".toList && t.name != "malignmark".toList) := by
        simp only [isOneOf, List.any_cons, List.any_nil, Bool.or_false, Bool.not_or, bne]
        rw [show ("mglyph".toList == t.name) = (t.name == "mglyph".toList) from BEq.comm,
          show ("malignmark".toList == t.name) = (t.name == "malignmark".toList) from BEq.comm]
      have e2 : isName t.name "svg" = (t.name == "svg".toList) := isName_comm _ _
      simp only [hk, if_true, e1, e2, b1, b2, Option.isSome_some]
      generalize (t.name != "mglyph".toList && t.name != "malignmark".toList) = G
      generalize (t.name == "svg".toList) = V
      decide +revert
    · simp only [hk, b3, b4, Bool.false_eq_true, if_false]
      decide +revert

/-- **(e)** `is_foreign(token)` is the negation of the dispatcher's "process the token according to
the rules of the current insertion mode": `c` = the adjusted current node, `n` its name, `ip` the
sink's annotation-xml integration-point flag (= the `encoding` attribute test at creation) -/
theorem isForeign_query (s : State) (tok : Token) (c : Id) (n : EName) (ip : Bool)
    (hc : Spec.TreeAlgo.adjustedCurrentNode s.openElems.reverse s.contextElem = some c)
    (hn : s.dom.elemName c = .ok (n.ns, n.loc))
    (hip : s.dom.isMathmlAnnotationXmlIntegrationPoint c = .ok ip) :
    Query (isForeign tok) s (!Spec.TreeAlgo.useHtmlRules (some ⟨toName n, ip⟩) (tokKind tok)) := by
  rw [← isForeignPure_eq_spec]; exact isForeign_query_pure s tok c n ip hc hn hip

/-- an empty stack: HTML rules (the dispatcher's first clause) -/
theorem isForeign_empty (s : State) (tok : Token) (h : s.openElems = []) : Query (isForeign tok) s false := by
  unfold isForeign
  by_cases he : (tok == Token.eof) = true
  · simp only [if_pos he]; exact query_pure _ _
  simp only [if_neg he]
  refine query_getS_bind (fun tr => ?_)
  simp only [withTr, h, List.isEmpty_nil, if_true]
  exact query_pure _ _

end H5V.Lemmas.HtmlTBSpec
