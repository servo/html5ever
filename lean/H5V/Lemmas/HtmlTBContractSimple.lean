import H5V.Lemmas.HtmlTBContractRules1
/-!
# TreeSink contract for the HTML tree builder: the small insertion modes

`RS d0 tok (stepX tok)` for BeforeHtml, BeforeHead, InHeadNoscript, Text, InTemplate, AfterBody, InFrameset,
AfterFrameset, AfterAfterBody, AfterAfterFrameset, and `inTemplateEof`, against the delegation hypotheses
`HeadH`, `BodyH`.  (AfterHead is in `HtmlTBContractHead`.)
-/
namespace H5V.Lemmas.TBC
open H5V.Model.HtmlTB
open H5V.Model.Dom (Id Dom Attr)
variable {d0 : Dom}

/- `apply` finds the arity of its goal by `whnf` at default transparency; with `SatC` unfoldable that runs the code
of the rule on a symbolic state at every step of the walk. -/
attribute [local irreducible] SatC

theorem rs_stepBeforeHtml : ∀ tok, TokOk tok → RS d0 tok (stepBeforeHtml tok) := by
  unfold H5V.Model.HtmlTB.stepBeforeHtml
  rs_open

/-- the head element pointer is set to a freshly inserted element named `head` (`TcDoc` holds of it
vacuously) -/
theorem cpp_insertHead_bind {c : List Id} {β : Type} {name : Str} {attrs : List Attr} {hadDup : Bool}
    (ha : Dom.attrKeysNodup attrs = true) (hn : name = "head".toList) {f : Unit → M β} {R : β → List Id}
    {P : β → Prop} (hk : CPP d0 c (f ()) R P) :
    CPP d0 c (insertElement true nsHtml name attrs hadDup >>= fun h =>
      (modS fun s => { s with headElem := some h }) >>= f) R P := by
  intro s hcb hc
  refine (satc_insertElement_val hcb ha).bind ?_
  rintro r s1 ⟨hcb1, g1, hel, hnm⟩
  refine satc_modS_bind ?_
  have hcb2 : CB d0 { s1 with headElem := some r } :=
    ⟨⟨hcb1.d.inv, hcb1.d.run⟩, ⟨hcb1.h.docH, hcb1.h.doc0, hcb1.h.open_el, hcb1.h.open_tc, hcb1.h.af,
      (fun x hx => by have : r = x := Option.some.inj hx; subst this; exact hel), hcb1.h.form, hcb1.h.ctx,
      (fun x hx => by
        have : r = x := Option.some.inj hx
        subst this
        intro e
        rw [hnm, hn] at e
        exact absurd e (by decide))⟩, ⟨hcb1.l.mode, hcb1.l.orig, hcb1.l.tm⟩⟩
  have g2 : GrowRel s1 { s1 with headElem := some r } := GrowRel.of_sublist rfl (List.Sublist.refl _)
  refine (hk _ hcb2 (hc.ext (g1.trans g2).ext)).mono ?_
  rintro b s3 ⟨hcb3, g3, hr3, hp⟩
  exact ⟨hcb3, (g1.trans g2).trans g3, hr3, hp⟩

theorem name_of_isStart_head {tag : Tag} (h : tag.isStart ["head"] = true) : tag.name = "head".toList := by
  unfold Tag.isStart isOneOf at h
  simp only [Bool.and_eq_true, List.any_cons, List.any_nil, Bool.or_false] at h
  exact (eq_of_beq h.2).symm

/-- BeforeHead, "anything else" -/
theorem cpsp_beforeHead_else {c : List Id} (tok : Token) :
    CPSP d0 c (do
      let h ← insertPhantom "head"
      modS fun s => { s with headElem := some h }
      pure (ProcessResult.reprocess Mode.inHead tok)) (fun _ => []) (ResLate tok) := by
  unfold insertPhantom
  exact cpsp_of_cpp (cpp_insertHead_bind rfl rfl (cpp_pure_nil _ (resLate_rep (by decide))))

theorem rs_stepBeforeHead (hB : BodyH d0) : ∀ tok, TokOk tok → RS d0 tok (stepBeforeHead tok) := by
  unfold H5V.Model.HtmlTB.stepBeforeHead
  intro tok ht
  unfold RS
  cases tok with
  | chars st text =>
    cases st with
    | notSplit => dsimp only; rs_walk
    | whitespace => dsimp only; rs_walk
    | notWhitespace => exact cpsp_beforeHead_else _
  | comment t => dsimp only; rs_walk
  | nullChar => exact cpsp_beforeHead_else _
  | eof => exact cpsp_beforeHead_else _
  | tag tag =>
    have ha : AttrsOk tag.attrs := ht
    dsimp only
    refine cpsp_ite (fun _ => BodyH.cpsp hB ht) (fun _ => ?_)
    refine cpsp_ite (fun h2 => ?_) (fun _ => ?_)
    · unfold insertElementFor
      refine cpsp_of_cpp (cpp_insertHead_bind (attrKeysNodup_of_attrsOk ha) (name_of_isStart_head h2) ?_)
      rs_walk
    refine cpsp_ite (fun _ => cpsp_beforeHead_else _) (fun _ => ?_)
    refine cpsp_ite (fun _ => ?_) (fun _ => cpsp_beforeHead_else _)
    rs_walk

theorem rs_stepInHeadNoscript (hH : HeadH d0) (hB : BodyH d0) : ∀ tok, TokOk tok → RS d0 tok (stepInHeadNoscript tok) := by
  unfold H5V.Model.HtmlTB.stepInHeadNoscript
  rs_open

theorem rs_stepAfterBody (hB : BodyH d0) : ∀ tok, TokOk tok → RS d0 tok (stepAfterBody tok) := by
  unfold H5V.Model.HtmlTB.stepAfterBody
  rs_open

theorem rs_stepInFrameset (hH : HeadH d0) (hB : BodyH d0) : ∀ tok, TokOk tok → RS d0 tok (stepInFrameset tok) := by
  unfold H5V.Model.HtmlTB.stepInFrameset
  rs_open

theorem rs_stepAfterFrameset (hH : HeadH d0) (hB : BodyH d0) : ∀ tok, TokOk tok → RS d0 tok (stepAfterFrameset tok) := by
  unfold H5V.Model.HtmlTB.stepAfterFrameset
  rs_open

theorem rs_stepAfterAfterBody (hB : BodyH d0) : ∀ tok, TokOk tok → RS d0 tok (stepAfterAfterBody tok) := by
  unfold H5V.Model.HtmlTB.stepAfterAfterBody
  rs_open

theorem rs_stepAfterAfterFrameset (hH : HeadH d0) (hB : BodyH d0) :
    ∀ tok, TokOk tok → RS d0 tok (stepAfterAfterFrameset tok) := by
  unfold H5V.Model.HtmlTB.stepAfterAfterFrameset
  rs_open

theorem rs_stepText : ∀ tok, TokOk tok → RS d0 tok (stepText tok) := by
  unfold H5V.Model.HtmlTB.stepText
  intro tok ht
  unfold RS
  cases tok with
  | chars st text => dsimp only; rs_walk
  | comment t => dsimp only; rs_walk
  | nullChar => dsimp only; rs_walk
  | eof =>
    dsimp only
    have htail : ∀ c, CPSP d0 c (do
        let _ ← pop
        let s ← getS
        match s.origMode with
        | none => panicAt "unwrap-none" "rules.rs:1023" "orig_mode.take().unwrap()"
        | some m =>
          set { s with origMode := none }
          pure (ProcessResult.reprocess m Token.eof)) (fun _ => []) (ResLate Token.eof) := by
      intro c
      refine cpsp_bind_cp cp_pop (fun _ => ?_)
      exact cpsp_origReprocess
    refine cpsp_bind_cp cp_unexpected (fun _ => ?_)
    refine cpsp_bind_cp cp_currentNodeNamed (fun b => ?_)
    refine cpsp_ite (fun _ => ?_) (fun _ => htail _)
    refine cpsp_getS_bind (fun s0 => ?_)
    cases hl : s0.openElems.getLast? with
    | none =>
      dsimp only
      exact cpsp_panicAt_bind
    | some cur =>
      dsimp only
      simp only [pure_bind]
      have hmem : cur ∈ s0.openElems := List.mem_of_getLast? hl
      refine cpsp_bind_cp (R := fun _ => []) ?_ (fun _ => htail _)
      refine cp_sinkUnit_nt rfl (fun s hcb hc => ?_)
      exact isElement_of_isEl (hc cur (by simp [stH, hmem]))
  | tag tag =>
    dsimp only
    refine cpsp_ite (fun _ => ?_) (fun _ => cpsp_panicAt)
    refine cpsp_bind_cp cp_pop (fun node => ?_)
    refine cpsp_getS_bind_at (fun s0 => ?_)
    intro hcb hsa hc
    cases hm : s0.origMode with
    | none => exact satc_panicAt
    | some m =>
      dsimp only
      refine cpspat_set_bind (fun h1 h2 => cb_takeOrig (orig_late hcb hm) h1 h2) ?_ hcb hsa hc
      refine cpsp_ite (fun _ => cpsp_pure_nil _ trivial) (fun _ => cpsp_pure_nil _ trivial)

theorem rs_inTemplateEof : RS d0 .eof inTemplateEof := by
  unfold H5V.Model.HtmlTB.inTemplateEof RS
  rs_walk

@[cp]
theorem cpsp_inTemplateEof {c : List Id} : CPSP d0 c inTemplateEof (fun _ => []) (ResLate .eof) :=
  cpsp_of_rs rs_inTemplateEof

theorem rs_stepInTemplate (hH : HeadH d0) (hB : BodyH d0) : ∀ tok, TokOk tok → RS d0 tok (stepInTemplate tok) := by
  unfold H5V.Model.HtmlTB.stepInTemplate
  rs_open

end H5V.Lemmas.TBC
