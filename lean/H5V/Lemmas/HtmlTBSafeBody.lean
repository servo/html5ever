import H5V.Lemmas.HtmlTBSafeBody3
/-!
# Tree-builder safety: the `InBody` rules (`stepInBody`) reach no panic site and re-establish the invariant

`stepInBody_spec`: `BodySpec`, given the specifications of the delegates (`InHead` rules, the EOF arm of
`InTemplate`, "any other end tag", the adoption agency, `handle_misnested_a_tags`).
The arms are proved in HtmlTBSafeBody2/3 (namespace `IB`); here the `if … else if …` chain is walked.
-/
namespace H5V.Lemmas.TBSafe
open H5V.Model.HtmlTB
open H5V.Model.Dom (Id QualName Attr NodeOrText SinkOp Output ElementFlags QuirksMode Dom NodeData Node)

variable {al : Allow}

namespace IB

theorem newOk_start {tag : Tag} {l : List String} (h : tag.isStart l = true)
    (hd : ∀ x ∈ l, x ∉ ["template", "head"] := by decide) : NewOk ⟨nsHtml, tag.name⟩ :=
  newOk_of_in hd (isStart_name h).2

theorem newOk_end {tag : Tag} {l : List String} (h : tag.isEnd l = true)
    (hd : ∀ x ∈ l, x ∉ ["template", "head"] := by decide) : NewOk ⟨nsHtml, tag.name⟩ :=
  newOk_of_in hd (isEnd_name h).2

theorem start_sub {tag : Tag} {l l2 : List String} (h : tag.isStart l = true)
    (hs : ∀ x ∈ l, x ∈ l2 := by decide) : isOneOf tag.name l2 = true := isOneOf_sub hs (isStart_name h).2

theorem end_sub {tag : Tag} {l l2 : List String} (h : tag.isEnd l = true)
    (hs : ∀ x ∈ l, x ∈ l2 := by decide) : isOneOf tag.name l2 = true := isOneOf_sub hs (isEnd_name h).2

theorem end_disj {tag : Tag} {l l2 : List String} (h : tag.isEnd l = true)
    (hd : ∀ x ∈ l, x ∉ l2 := by decide) : isOneOf tag.name l2 = false := isOneOf_disj hd (isEnd_name h).2

theorem stepInBody_tag (hh : HeadSpec) (het : EndTagSpec) (haa : AgencySpec) (hmis : MisnestedSpec)
    {tag : Tag} {s : State} (c : Ctx s) (htd : s.mode = .inCell → isTagEnd (.tag tag) ["td", "th"] = false) :
    Sat (stepInBody (.tag tag)) s
      (fun res s' => StepPost (.tag tag) res s' ∧ (isCharsTok (.tag tag) = true → res = .done)) := by
  have hi := c.hi
  have hr := c.hr
  unfold stepInBody
  dsimp only
  refine sat_ite (fun h1 => ?_) fun h1 => ?_
  · exact fin_tag c ((sat_inBodyHtml hi hr).mono (fun r s' h => ⟨Or.inl h.1, BK.of_qf hi hr h.2⟩))
  refine sat_ite (fun h2 => ?_) fun h2 => ?_
  · exact fin_post (hh (.tag tag) s c.ti c.origOk (Or.inr h2))
  refine sat_ite (fun h3 => ?_) fun h3 => ?_
  · exact fin_tag c (arm_body hi hr)
  refine sat_ite (fun h4 => ?_) fun h4 => ?_
  · exact fin_post (arm_frameset c (newOk_start h4))
  refine sat_ite (fun h5 => ?_) fun h5 => ?_
  · exact fin_post (arm_endBody c)
  refine sat_ite (fun h6 => ?_) fun h6 => ?_
  · exact fin_post (arm_endHtml c)
  refine sat_ite (fun h7 => ?_) fun h7 => ?_
  · exact fin_tag c (arm_block hi hr (newOk_start h7) plain_done)
  refine sat_ite (fun h8 => ?_) fun h8 => ?_
  · exact fin_tag c (arm_block hi hr (newOk_start h8) plain_done)
  refine sat_ite (fun h9 => ?_) fun h9 => ?_
  · exact fin_tag c (arm_heading hi hr (newOk_start h9))
  refine sat_ite (fun h10 => ?_) fun h10 => ?_
  · exact fin_tag c (arm_pre hi hr (newOk_start h10))
  refine sat_ite (fun h11 => ?_) fun h11 => ?_
  · exact fin_tag c (arm_form hi hr (isOneOf_single (isStart_name h11).2))
  refine sat_ite (fun h12 => ?_) fun h12 => ?_
  · exact fin_tag c (arm_li hi hr (newOk_start h12))
  refine sat_ite (fun h13 => ?_) fun h13 => ?_
  · exact fin_tag c (arm_block hi hr (newOk_start h13) (Or.inr (Or.inr rfl)))
  refine sat_ite (fun h14 => ?_) fun h14 => ?_
  · exact fin_tag c (arm_button hi hr (newOk_start h14))
  refine sat_ite (fun h15 => ?_) fun h15 => ?_
  · exact fin_tag c (arm_endBlock (name := tag.name) hi hr (end_disj h15) (end_disj h15))
  refine sat_ite (fun h16 => ?_) fun h16 => ?_
  · exact fin_tag c (arm_endForm hi hr)
  refine sat_ite (fun h17 => ?_) fun h17 => ?_
  · exact fin_tag c (arm_endOption het hi hr (isOneOf_single (isEnd_name h17).2))
  refine sat_ite (fun h18 => ?_) fun h18 => ?_
  · exact fin_tag c (arm_endP hi hr)
  refine sat_ite (fun h19 => ?_) fun h19 => ?_
  · exact fin_tag c (arm_endLi hi hr (end_disj h19))
  refine sat_ite (fun h20 => ?_) fun h20 => ?_
  · exact fin_tag c (arm_endHeading hi hr)
  refine sat_ite (fun h21 => ?_) fun h21 => ?_
  · exact fin_tag c (arm_a hmis hi hr (start_sub h21))
  refine sat_ite (fun h22 => ?_) fun h22 => ?_
  · exact fin_tag c (arm_fmt hi hr (start_sub h22))
  refine sat_ite (fun h23 => ?_) fun h23 => ?_
  · exact fin_tag c (arm_nobr haa hi hr (start_sub h23))
  refine sat_ite (fun h24 => ?_) fun h24 => ?_
  · exact fin_tag c (arm_endFmt haa hi hr (end_sub h24))
  refine sat_ite (fun h25 => ?_) fun h25 => ?_
  · exact fin_tag c (arm_applet hi hr (newOk_start h25))
  refine sat_ite (fun h26 => ?_) fun h26 => ?_
  · exact fin_tag c (arm_endApplet (name := tag.name) hi hr (end_disj h26) (end_disj h26))
  refine sat_ite (fun h27 => ?_) fun h27 => ?_
  · exact fin_post (arm_table c (newOk_start h27))
  refine sat_ite (fun h28 => ?_) fun h28 => ?_
  · exact fin_tag c (arm_unexpectedVoid (tag := { tag with kind := .startTag, attrs := [] }) hi hr (newOk_end (tag := tag) h28))
  refine sat_ite (fun h29 => ?_) fun h29 => ?_
  · exact fin_tag c (arm_void hi hr (newOk_start h29))
  refine sat_ite (fun h30 => ?_) fun h30 => ?_
  · exact fin_tag c (arm_input hi hr (newOk_start h30))
  refine sat_ite (fun h31 => ?_) fun h31 => ?_
  · exact fin_tag c (arm_param hi hr (newOk_start h31))
  refine sat_ite (fun h32 => ?_) fun h32 => ?_
  · exact fin_tag c (arm_hr hi hr (newOk_start h32))
  refine sat_ite (fun h33 => ?_) fun h33 => ?_
  · exact fin_tag c (arm_unexpectedVoid (tag := { tag with name := "img".toList }) hi hr (newOk_mk (name := "img".toList) (by decide)))
  refine sat_ite (fun h34 => ?_) fun h34 => ?_
  · exact fin_post (arm_textarea c (newOk_start h34))
  refine sat_ite (fun h35 => ?_) fun h35 => ?_
  · exact fin_post (arm_xmp c (newOk_start h35))
  refine sat_ite (fun h36 => ?_) fun h36 => ?_
  · exact fin_post (arm_iframe c (newOk_start h36))
  refine sat_ite (fun h37 => ?_) fun h37 => ?_
  · exact fin_post (rawData_post c (newOk_start h37))
  refine sat_ite (fun h38 => ?_) fun h38 => ?_
  · exact fin_tag c (arm_select hi hr (newOk_start h38))
  refine sat_ite (fun h39 => ?_) fun h39 => ?_
  · exact fin_tag c (arm_option hi hr (newOk_start h39))
  refine sat_ite (fun h40 => ?_) fun h40 => ?_
  · exact fin_tag c (arm_optgroup hi hr (newOk_start h40))
  refine sat_ite (fun h41 => ?_) fun h41 => ?_
  · exact fin_tag c (arm_rb hi hr (newOk_start h41))
  refine sat_ite (fun h42 => ?_) fun h42 => ?_
  · exact fin_tag c (arm_rp hi hr (newOk_start h42))
  refine sat_ite (fun h43 => ?_) fun h43 => ?_
  · exact fin_tag c (arm_foreign hi hr (by decide))
  refine sat_ite (fun h44 => ?_) fun h44 => ?_
  · exact fin_tag c (arm_foreign hi hr (by decide))
  refine sat_ite (fun h45 => ?_) fun h45 => ?_
  · exact fin_tag c (arm_unexpected hi hr)
  refine sat_ite (fun hk => ?_) fun hk => ?_
  · have hk' : tag.kind = .startTag := beq_iff_eq.mp hk
    have e1 := isStart_false hk' (fun h => h2 (by rw [h]; rfl))
    have e2 := isStart_false hk' h45
    exact arm_otherStart c (newOk_mk (isOneOf_append (l1 := ["template"]) (l2 := ["head"])
      (isOneOf_not_sub (by decide) e1) (isOneOf_not_sub (by decide) e2)))
  have hk' : tag.kind = .endTag := by
    cases hkk : tag.kind with
    | startTag => rw [hkk] at hk; exact absurd rfl hk
    | endTag => rfl
  refine fin_post (arm_otherEnd het c ?_ ?_)
  · intro e
    have := isEnd_false hk' h6
    rw [e] at this
    revert this; decide
  · intro hm
    have := htd hm
    exact isEnd_false hk' (by rw [show tag.isEnd ["td", "th"] = false from this]; simp)

end IB

theorem stepInBody_spec (hh : HeadSpec) (hte : TemplateEofSpec) (het : EndTagSpec) (haa : AgencySpec)
    (hmis : MisnestedSpec) : BodySpec := by
  intro tok s ht hm hnh htt htd
  have hi := ht.h
  have hr := ht.rooted (IB.preRoot_of_bodyLike hm)
  cases tok with
  | tag tag =>
    exact IB.stepInBody_tag hh het haa hmis ⟨ht, hm, hnh, fun h => by have := htt h; cases this⟩ htd
  | comment text =>
    show Sat (appendComment text) s _
    exact (IB.arm_comment hi hr).mono (fun r s' h =>
      ⟨IB.stepPost_of_bk ht hm hnh h.2 h.1 (fun hc => by cases hc), fun hc => by cases hc⟩)
  | chars st text =>
    show Sat (do
      reconstructActiveFormattingElements
      if anyNotWhitespace text then setFramesetOk false
      appendText text) s _
    refine (IB.arm_chars hi hr).mono ?_
    rintro r s' ⟨rfl, hb⟩
    exact ⟨IB.stepPost_of_bk ht hm hnh hb IB.plain_done (fun _ => rfl), fun _ => rfl⟩
  | nullChar =>
    show Sat unexpected s _
    exact (IB.bk_unexpected_done hi hr).mono (fun r s' h =>
      ⟨IB.stepPost_of_bk ht hm hnh h.2 h.1 (fun hc => by cases hc), fun hc => by cases hc⟩)
  | eof =>
    have hntt : s.mode ≠ .inTableText := fun h => by have := htt h; cases this
    have c : IB.Ctx s := ⟨ht, hm, hnh, hntt⟩
    show Sat (do
      if !(← getS).templateModes.isEmpty then inTemplateEof
      else
        checkBodyEnd
        pure .done) s _
    refine sat_getS_bind ?_
    split
    · exact (hte s ht c.origOk).mono (fun r s' h => ⟨h, fun hc => by cases hc⟩)
    · refine (sat_checkBodyEnd hi.open_el).bind ?_
      intro _ s1 hq
      refine sat_pure ?_
      exact ⟨StepPost.of_qf ht hq rfl trivial, fun hc => by cases hc⟩

end H5V.Lemmas.TBSafe
