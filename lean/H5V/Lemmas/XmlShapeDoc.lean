import H5V.Lemmas.XmlShapeLexRun
import H5V.Lemmas.XmlShapeTag
import H5V.Props.C17RT
/-!
C17, shape of parsed trees: from the tokenizer model's token log to the lexical side conditions
`nodesLex` of the document the tree-builder model builds from it.

* `Corner t` (decidable): the token shapes for which `nodesLex` of the resulting tree can fail —
  a start / empty tag whose name or one of whose attribute names has a prefix containing `=`, or one of whose
  attributes has an (unsplit) name starting with `:`; a PI whose data starts with a blank.  Nothing else:
  comments always satisfy `CommentLex` (`XmlShapeCmt`).
* `tokOK`: what `CleanP NN` and `Lex` say about one token; `cv_tok`: a token that is `tokOK` and no
  `Corner` is, seen by the tree builder (`cvTok`), a `TokShape` token satisfying the token-level lexical
  conditions `TokLexTB`; `mergeChars` keeps both.
* `resolve_lex`: every element `S.resolve` creates from such tokens satisfies `ElemLex`;
  `nodesLex_of_parts`: a tree whose elements satisfy `ElemLex` and whose leaves satisfy `LeafLex` satisfies
  `nodesLex`.
-/
namespace H5V.Lemmas.XmlShape
open H5V.Model.XmlTB H5V.Model.XmlSer H5V.Spec.XmlNs H5V.Lemmas.XmlNs H5V.Lemmas.XmlSer H5V.Props.C16
open H5V.Lemmas.XmlSerFixed H5V.Lemmas.XmlRT H5V.Props.C17
open H5V.Lemmas.XmlShapeLex (TokA TagA AttrA ANameA PiTA DtI)

abbrev XTok := Model.XmlTok.Token

/-! ### corners -/

def pfxHasEq (q : Model.XmlTok.QName) : Bool :=
  match q.pfx with
  | some p => p.contains '='
  | none => false

def attrCorner (a : Model.XmlTok.Attr) : Bool :=
  pfxHasEq a.name || (a.name.pfx.isNone && a.name.loc.head? == some ':')

/-- the token shapes that can break the lexical side conditions of the round trip -/
def Corner : XTok → Bool
  | .tag t => (t.kind == .startTag || t.kind == .emptyTag) && (pfxHasEq t.name || t.attrs.any attrCorner)
  | .pi _ d => match d with
    | c :: _ => Model.XmlTok.isWs3 c
    | [] => false
  | _ => false

/-- what the two tokenizer invariants say about one token -/
def tokOK (t : XTok) : Prop := TokA t ∧ Model.XmlTok.Token.Clean Model.XmlTok.NN t

/-! ### token-level lexical conditions, on tree-builder tokens -/

def rawR (n : RName) : Str :=
  match n.pfx with
  | some p => p ++ ':' :: n.loc
  | none => n.loc

def TagLexTB (t : Tag) : Prop :=
  (t.kind = .start ∨ t.kind = .empty) →
    TagNameLex (rawR t.name) ∧ PfxLex t.name.pfx ∧
      ∀ a ∈ t.attrs, AttrNameLex (rawR a.name) ∧ PfxLex a.name.pfx ∧ NoNul a.value

/-- the lexical condition on a leaf of the tree (`nodeLex` without the element case) -/
def LeafLex : Node → Prop
  | .elem _ _ _ => True
  | .text s => NoNul s
  | .comment s => CommentLex s
  | .pi t d => PiLex t d
  | .doctype n _ _ => ∀ x ∈ n, DtCh x

theorem textClosed_leafLex : TextClosed LeafLex := by
  intro a b ha hb c hc
  rcases List.mem_append.mp hc with h | h
  · exact ha c h
  · exact hb c h

def TokLexTB : Token → Prop
  | .tag t => TagLexTB t
  | t => TokLeafQ LeafLex t

/-! ### names -/

theorem rawR_split (raw : Str) : rawR (splitQName raw) = raw := by
  cases hp : (splitQName raw).pfx with
  | none =>
    have h := C16_splitQName_none raw hp
    rw [h]; rfl
  | some p =>
    have h : splitQName raw = ⟨some p, (splitQName raw).loc⟩ := by
      cases hs : splitQName raw with
      | mk a b => rw [hs] at hp; simp only at hp; subst hp; rfl
    obtain ⟨hraw, _⟩ := C16_splitQName_some raw p _ h
    rw [h]; simp only [rawR]; exact hraw.symm

theorem pfx_sub (raw : Str) (q : Str) (h : (splitQName raw).pfx = some q) : ∀ d ∈ q, d ∈ raw := by
  have h' : splitQName raw = ⟨some q, (splitQName raw).loc⟩ := by
    cases hs : splitQName raw with
    | mk a b => rw [hs] at h; simp only at h; subst h; rfl
  obtain ⟨hraw, _⟩ := C16_splitQName_some raw q _ h'
  intro d hd; rw [hraw]; simp [hd]

theorem splitQName_colon (rest : Str) : splitQName (':' :: rest) = ⟨none, ':' :: rest⟩ := by
  unfold splitQName
  split
  · rfl
  · rename_i col hcol
    split at hcol
    · cases hcol
    · simp [qnameRun] at hcol

theorem tagNameLex_all {s : Str} (h : TagNameLex s) : ∀ d ∈ s, NmCh d := by
  obtain ⟨c, t, rfl, h1, _, h3⟩ := h
  intro d hd
  rcases List.mem_cons.mp hd with rfl | hd
  · exact h1
  · exact h3 d hd

theorem aNameA_all {s : Str} (h : ANameA s) : ∀ d ∈ s, NmCh d := by
  obtain ⟨c, t, rfl, h1, h3⟩ := h
  intro d hd
  rcases List.mem_cons.mp hd with rfl | hd
  · exact h1
  · exact (h3 d hd).1

theorem pfxLex_of_noEq (raw : Str) (hall : ∀ d ∈ raw, NmCh d) (q : Model.XmlTok.QName)
    (hq : cvName q = splitQName raw) (hne : pfxHasEq q = false) : PfxLex (splitQName raw).pfx := by
  intro p hp d hd
  refine ⟨hall d (pfx_sub raw p hp d hd), ?_⟩
  have e : q.pfx = some p := by
    have := congrArg RName.pfx hq
    simp only [cvName] at this
    rw [this]; exact hp
  unfold pfxHasEq at hne
  rw [e] at hne
  simp only [List.contains_eq_mem, decide_eq_false_iff_not] at hne
  intro e2; subst e2; exact hne hd

/-! ### one token: from the tokenizer's invariants to the tree builder's view -/

theorem cv_tag (t : Model.XmlTok.Tag) (h : tokOK (.tag t)) (hc : Corner (.tag t) = false) :
    TagShape ⟨cvKind t.kind, cvName t.name, t.attrs.map cvAttr⟩ ∧
    TagLexTB ⟨cvKind t.kind, cvName t.name, t.attrs.map cvAttr⟩ := by
  obtain ⟨⟨hn, ha, hnd⟩, hcl⟩ := h
  have hattr : ∀ a ∈ t.attrs, ∃ raw, ANameA raw ∧ cvName a.name = splitQName raw := by
    intro a ham
    obtain ⟨raw, e, hr⟩ := ha a ham
    exact ⟨raw, hr, by rw [e, cvName_processQName]⟩
  have hkind : (cvKind t.kind = .start ∨ cvKind t.kind = .empty) → (t.kind = .startTag ∨ t.kind = .emptyTag) := by
    intro hk; cases hkk : t.kind <;> simp_all [cvKind]
  refine ⟨⟨?_, ?_, ?_⟩, ?_⟩
  · intro hk
    obtain ⟨raw, e, hr⟩ := hn (hkind hk)
    refine ⟨raw, by simp only [e, cvName_processQName], ?_⟩
    obtain ⟨c, r, rfl, _⟩ := hr
    simp
  · intro a ham
    obtain ⟨a0, ha0, rfl⟩ := List.mem_map.mp ham
    obtain ⟨raw, hr, e⟩ := hattr a0 ha0
    obtain ⟨c, r, rfl, _⟩ := hr
    exact ⟨c :: r, by simp, e⟩
  · rw [List.map_map]
    have : (t.attrs.map ((·.name) ∘ cvAttr)) = (t.attrs.map (·.name)).map cvName := by
      rw [List.map_map]; rfl
    rw [this]
    exact nodup_map_of_inj cvName (fun a b hab => (cvName_inj a b).mp hab) _ hnd
  · intro hk
    have hk' := hkind hk
    obtain ⟨raw, e, hr⟩ := hn hk'
    have hcn : cvName t.name = splitQName raw := by rw [e, cvName_processQName]
    simp only [Corner, Bool.and_eq_false_iff, Bool.or_eq_false_iff] at hc
    have hc' : pfxHasEq t.name = false ∧ t.attrs.any attrCorner = false := by
      rcases hc with hc | hc
      · rcases hk' with e1 | e1 <;> simp [e1] at hc
      · exact hc
    refine ⟨by simp only [hcn, rawR_split]; exact hr, ?_, ?_⟩
    · simp only [hcn]; exact pfxLex_of_noEq raw (tagNameLex_all hr) t.name hcn hc'.1
    · intro a ham
      obtain ⟨a0, ha0, rfl⟩ := List.mem_map.mp ham
      obtain ⟨raw', hr', e'⟩ := hattr a0 ha0
      have hnc : attrCorner a0 = false := by
        have := hc'.2
        simp only [List.any_eq_false] at this
        simpa using this a0 ha0
      simp only [attrCorner, Bool.or_eq_false_iff, Bool.and_eq_false_iff] at hnc
      have hval : NoNul a0.value := fun c hcm => (hcl.2 a0 ha0).2 c hcm
      refine ⟨?_, ?_, hval⟩
      · show AttrNameLex (rawR (cvName a0.name))
        rw [e', rawR_split]
        obtain ⟨c, r, rfl, h1, h2⟩ := hr'
        refine ⟨c, r, rfl, h1, ?_, h2⟩
        intro ec; subst ec
        rw [splitQName_colon] at e'
        have e1 : a0.name.pfx = none := by have := congrArg RName.pfx e'; simpa [cvName] using this
        have e2 : a0.name.loc = ':' :: r := by have := congrArg RName.loc e'; simpa [cvName] using this
        rcases hnc.2 with h | h
        · simp [e1] at h
        · simp [e2] at h
      · show PfxLex (cvName a0.name).pfx
        rw [e']; exact pfxLex_of_noEq raw' (aNameA_all hr') a0.name e' hnc.1

/-- **one token**: a token satisfying the tokenizer's two invariants that is no `Corner` is, as the tree
builder sees it, a `TokShape` token satisfying the token-level lexical conditions -/
theorem cv_tok (t : XTok) (h : tokOK t) (hc : Corner t = false) (t' : Token) (ht : cvTok t = some t') :
    TokShape t' ∧ TokLexTB t' := by
  cases t with
  | tag tg =>
    simp only [cvTok, Option.some.injEq] at ht; subst ht
    exact cv_tag tg h hc
  | doctype d =>
    simp only [cvTok, Option.some.injEq] at ht; subst ht
    refine ⟨trivial, ?_⟩
    show ∀ x ∈ optStr d.name, DtCh x
    intro x hx
    cases hn : d.name with
    | none => rw [hn] at hx; simp [optStr] at hx
    | some s => rw [hn] at hx; exact h.1 s hn x (by simpa [optStr] using hx)
  | pi a b =>
    simp only [cvTok, Option.some.injEq] at ht; subst ht
    refine ⟨trivial, ?_⟩
    obtain ⟨⟨⟨c, r, rfl, h1, h2⟩, h3⟩, hq1, hq2⟩ := h
    show PiLex (c :: r) b
    refine ⟨⟨c, r, rfl, hq1 c (by simp), h1, fun x hx => ⟨hq1 x (by simp [hx]), (h2 x hx).1, (h2 x hx).2⟩⟩,
      fun x hx => ⟨hq2 x hx, h3 x hx⟩, ?_⟩
    intro x hx
    cases b with
    | nil => cases hx
    | cons y ys =>
      simp only [List.head?_cons, Option.some.injEq] at hx; subst hx
      simp only [Corner] at hc
      have : ¬ Model.XmlTok.isWs3 y = true := by simpa using hc
      exact XmlShapeLex.ws3_of this
  | comment s =>
    simp only [cvTok, Option.some.injEq] at ht; subst ht
    refine ⟨trivial, ?_⟩
    show CommentLex s
    exact ⟨fun c hcm => h.2 c hcm, h.1⟩
  | chars s =>
    simp only [cvTok, Option.some.injEq] at ht; subst ht
    exact ⟨h.1, fun c hcm => h.2 c hcm⟩
  | eof =>
    simp only [cvTok, Option.some.injEq] at ht; subst ht
    exact ⟨trivial, trivial⟩
  | error e => simp [cvTok] at ht

theorem cvOut_ok (out : Model.XmlTok.Out) (h : ∀ t ∈ out, tokOK t) (hc : ∀ t ∈ out, Corner t = false) :
    ∀ t' ∈ cvOut out, TokShape t' ∧ TokLexTB t' := by
  intro t' ht'
  unfold cvOut at ht'
  obtain ⟨t, hm, e⟩ := List.mem_filterMap.mp ht'
  have hm' := List.mem_reverse.mp hm
  exact cv_tok t (h t hm') (hc t hm') t' e

/-- `mergeChars` keeps every property of single tokens that survives the concatenation of character data -/
theorem mergeChars_all (P : Token → Prop) (hP : ∀ a b, P (.chars a) → P (.chars b) → P (.chars (a ++ b))) :
    ∀ (n : Nat) (l : List Token), l.length = n → (∀ t ∈ l, P t) → ∀ t ∈ mergeChars l, P t := by
  intro n
  induction n using Nat.strongRecOn with
  | _ n ih =>
    intro l hl h
    match l, hl with
    | [], _ => intro t ht; simp [mergeChars] at ht
    | [x], _ =>
      intro t ht
      have : mergeChars [x] = [x] := by
        cases x with
        | chars a =>
          rw [mergeChars]
          · simp [mergeChars]
          · intro a' b' r h1; simp at h1; intro h2; cases h2
        | _ => rw [mergeChars_nonchars _ _ rfl]; simp [mergeChars]
      rw [this] at ht; exact h t ht
    | x :: y :: rest, hl =>
      cases x with
      | chars a =>
        cases y with
        | chars b =>
          rw [mergeChars]
          apply ih (rest.length + 1) (by simp at hl; omega) _ (by simp)
          intro t ht
          rcases List.mem_cons.mp ht with rfl | ht
          · exact hP a b (h _ (by simp)) (h _ (by simp))
          · exact h t (by simp [ht])
        | _ =>
          rw [mergeChars_chars_stop _ _ _ rfl]
          intro t ht
          rcases List.mem_cons.mp ht with rfl | ht
          · exact h _ (by simp)
          · exact ih (rest.length + 1) (by simp at hl; omega) _ (by simp)
              (fun u hu => h u (List.mem_cons_of_mem _ hu)) t ht
      | _ =>
        rw [mergeChars_nonchars _ _ rfl]
        intro t ht
        rcases List.mem_cons.mp ht with rfl | ht
        · exact h _ (by simp)
        · exact ih (rest.length + 1) (by simp at hl; omega) _ (by simp)
            (fun u hu => h u (List.mem_cons_of_mem _ hu)) t ht

theorem tbTokens_ok (out : Model.XmlTok.Out) (h : ∀ t ∈ out, tokOK t) (hc : ∀ t ∈ out, Corner t = false) :
    ∀ t' ∈ tbTokens out, TokShape t' ∧ TokLexTB t' := by
  unfold tbTokens
  apply mergeChars_all (fun t => TokShape t ∧ TokLexTB t) _ _ _ rfl (cvOut_ok out h hc)
  intro a b ha hb
  refine ⟨?_, textClosed_leafLex a b ha.2 hb.2⟩
  show a ++ b ≠ []
  intro e; exact ha.1 (List.append_eq_nil_iff.mp e).1

/-! ### the resolver: every created element satisfies `ElemLex` -/

/-- every URI a frame binds is NUL-free -/
def FrameNN (f : NsFrame) : Prop := ∀ p u, (p, some u) ∈ f → NoNul u

theorem frameOf_nn (attrs : List RAttr) (h : ∀ a ∈ attrs, NoNul a.value) : FrameNN (frameOf attrs) := by
  intro p u hm
  obtain ⟨⟨a, ha, rfl⟩, _⟩ := frameOf_bound hm
  exact h a ha

theorem lookupNs_nn (env : List NsFrame) (henv : ∀ f ∈ env, FrameNN f) (p : Option Str) :
    NoNul (lookupNs env p) := by
  rcases lookupNs_cases env p with ⟨_, e⟩ | ⟨_, e⟩ | ⟨f, hf, hm⟩ | e
  · rw [e]; unfold NoNul; decide +kernel
  · rw [e]; unfold NoNul; decide +kernel
  · exact henv f hf p _ hm
  · rw [e]; intro c hc; cases hc

theorem rawName_eq_rawR (n : QName) : rawName n = rawR ⟨n.pfx, n.loc⟩ := by
  unfold rawName rawR; cases n.pfx <;> rfl

theorem resolveTag_lex (scopes : List Scope) (hs : ∀ f ∈ envOf scopes, FrameNN f) (t : Tag) (ht : TagLexTB t)
    (hk : t.kind = .start ∨ t.kind = .empty) :
    ElemLex (resolveTag scopes t).name (resolveTag scopes t).attrs ∧ FrameNN (frameOf t.attrs) := by
  obtain ⟨h1, h2, h3⟩ := ht hk
  have hfr : FrameNN (frameOf t.attrs) := frameOf_nn t.attrs (fun a ha => (h3 a ha).2.2)
  refine ⟨?_, hfr⟩
  unfold resolveTag
  simp only []
  generalize henv : frameOf t.attrs :: envOf scopes = env
  have hE : ∀ f ∈ env, FrameNN f := by
    intro f hf; subst henv
    simp only [List.mem_cons] at hf
    rcases hf with rfl | hf
    · exact hfr
    · exact hs f hf
  refine ⟨?_, ?_, ?_, ?_⟩
  · rw [rawName_eq_rawR]; exact h1
  · exact h2
  · exact lookupNs_nn env hE _
  · intro a ha
    have hsub : (resolveAttrs env t.attrs).Sublist
        ((t.attrs.filter (fun a => !isDecl a.name)).map (fun a => (⟨resolveAttrName env a.name, a.value⟩ : Attr))) := by
      unfold resolveAttrs; exact dedup_sublist _ _
    obtain ⟨r, hr, rfl⟩ := List.mem_map.mp (hsub.subset ha)
    have hr' := (List.mem_filter.mp hr).1
    obtain ⟨g1, g2, g3⟩ := h3 r hr'
    obtain ⟨e1, e2⟩ := resolveAttrName_pfx env r.name
    refine ⟨?_, ?_, ?_, g3⟩
    · rw [rawName_eq_rawR]; simp only [e1, e2]; exact g1
    · simp only [e1]; exact g2
    · simp only []
      unfold resolveAttrName
      cases hp : r.name.pfx with
      | none => intro c hc; cases hc
      | some q => exact lookupNs_nn env hE _

/-- **every element `S.resolve` creates from lexically good tags satisfies `ElemLex`** -/
theorem resolve_lex (toks : List Token) (hts : ∀ t ∈ toks, ∀ tg, t = .tag tg → TagLexTB tg) :
    ∀ c ∈ resolve .prolog toks, ElemLex c.name c.attrs :=
  resolve_all (F := FrameNN) (P := fun c => ElemLex c.name c.attrs)
    (fun scopes t hs ht hk => resolveTag_lex scopes hs t ht hk) toks .prolog trivial hts

/-! ### from elements and leaves to `nodesLex` -/

mutual
theorem nodeLex_of_parts : ∀ (nd : Node), (∀ c ∈ elemsOf nd, ElemLex c.name c.attrs) →
    (∀ x ∈ leavesOf nd, LeafLex x) → nodeLex nd
  | .elem n as ks, h, hl => by
    simp only [nodeLex]
    exact ⟨h ⟨n, as⟩ (by simp [elemsOf]), nodesLex_of_parts ks (fun c hc => h c (by simp [elemsOf, hc]))
      (fun x hx => hl x (by simpa [leavesOf] using hx))⟩
  | .text s, _, hl => by simp only [nodeLex]; exact hl (.text s) (by simp [leavesOf])
  | .comment s, _, hl => by simp only [nodeLex]; exact hl (.comment s) (by simp [leavesOf])
  | .pi t d, _, hl => by simp only [nodeLex]; exact hl (.pi t d) (by simp [leavesOf])
  | .doctype n p s, _, hl => by simp only [nodeLex]; exact hl (.doctype n p s) (by simp [leavesOf])
theorem nodesLex_of_parts : ∀ (ns : List Node), (∀ c ∈ elemsOfL ns, ElemLex c.name c.attrs) →
    (∀ x ∈ leavesOfL ns, LeafLex x) → nodesLex ns
  | [], _, _ => trivial
  | n :: rest, h, hl => by
    simp only [nodesLex]
    exact ⟨nodeLex_of_parts n (fun c hc => h c (by simp [elemsOfL, hc])) (fun x hx => hl x (by simp [leavesOfL, hx])),
      nodesLex_of_parts rest (fun c hc => h c (by simp [elemsOfL, hc])) (fun x hx => hl x (by simp [leavesOfL, hx]))⟩
end

theorem leavesOfL_pre (l : List Node) (h : ∀ x ∈ l, isPre x = true) : leavesOfL l = l := by
  induction l with
  | nil => rfl
  | cons x xs ih =>
    have hx := h x (by simp)
    have := ih (fun y hy => h y (by simp [hy]))
    cases x <;> simp_all [leavesOfL, leavesOf, isPre]

end H5V.Lemmas.XmlShape
