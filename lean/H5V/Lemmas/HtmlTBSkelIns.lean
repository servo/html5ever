import H5V.Lemmas.HtmlTBSkelQuiet
/-!
C06 (skeleton invariant): the mutating helpers of `tree_builder/mod.rs` preserve `Late`:
element creation, the appropriate place for insertion (never the document, never next to a child of
the document — also under foster parenting and in the adoption agency), `insert_element`, text and
comment insertion, reconstruction of the active formatting elements; and the logic `PL` for handles in
flight in which the adoption agency is walked.
-/
namespace H5V.Props.C06
open H5V.Model.Dom hiding Str
open H5V.Model.HtmlTB hiding Str
open H5V.Lemmas.Dom

/-! ### inversion of `Dom.apply` -/

/-- for the sink calls that answer `unit`, `Dom.apply` runs the operation and pairs its result with the answer -/
theorem apply_unit {r : Except String Dom} {d' : Dom} {out : Output}
    (h : (r >>= fun d1 => pure (d1, Output.unit)) = .ok (d', out)) : r = .ok d' := by
  cases r with
  | error e => cases h
  | ok d1 => cases h; rfl

theorem apply_append {d d' : Dom} {p : Id} {c : NodeOrText} {out : Output}
    (h : d.apply (.append p c) = .ok (d', out)) : d.append p c = .ok d' := apply_unit h

theorem apply_abopn {d d' : Dom} {e p : Id} {c : NodeOrText} {out : Output}
    (h : d.apply (.appendBasedOnParentNode e p c) = .ok (d', out)) :
    d.appendBasedOnParentNodeV Dom.beforeSiblingVariant e p c = .ok d' := apply_unit h

theorem apply_abs {d d' : Dom} {sb : Id} {c : NodeOrText} {out : Output}
    (h : d.apply (.appendBeforeSibling sb c) = .ok (d', out)) :
    d.appendBeforeSiblingV Dom.beforeSiblingVariant sb c = .ok d' := apply_unit h

theorem apply_remove {d d' : Dom} {t : Id} {out : Output}
    (h : d.apply (.removeFromParent t) = .ok (d', out)) : d.removeFromParent t = .ok d' := apply_unit h

theorem apply_reparent {d d' : Dom} {n np : Id} {out : Output}
    (h : d.apply (.reparentChildren n np) = .ok (d', out)) : d.reparentChildren n np = .ok d' := apply_unit h

theorem apply_doctype {d d' : Dom} {n p s : Str} {out : Output}
    (h : d.apply (.appendDoctypeToDocument n p s) = .ok (d', out)) : d.appendDoctypeToDocument n p s = .ok d' :=
  apply_unit h

theorem apply_clone {d d' : Dom} {o : Id} {out : Output}
    (h : d.apply (.maybeCloneAnOptionIntoSelectedcontent o) = .ok (d', out)) :
    d.maybeCloneOption .fixed o = .ok d' := apply_unit h

theorem apply_createElement {d d' : Dom} {name : QualName} {attrs : List Attr} {flags : ElementFlags} {out : Output}
    (h : d.apply (.createElement name attrs flags) = .ok (d', out)) :
    d' = (d.createElement name attrs flags).1 ∧ out = .node (d.createElement name attrs flags).2 := by
  have h' : d.applyV Dom.cloneVariant Dom.beforeSiblingVariant (.createElement name attrs flags) = .ok (d', out) := h
  simp only [Dom.applyV, Except.ok.injEq, Prod.mk.injEq] at h'
  exact ⟨h'.1.symm, h'.2.symm⟩

theorem apply_createComment {d d' : Dom} {text : Str} {out : Output}
    (h : d.apply (.createComment text) = .ok (d', out)) :
    d' = (d.createComment text).1 ∧ out = .node (d.createComment text).2 := by
  have h' : d.applyV Dom.cloneVariant Dom.beforeSiblingVariant (.createComment text) = .ok (d', out) := h
  simp only [Dom.applyV, Except.ok.injEq, Prod.mk.injEq] at h'
  exact ⟨h'.1.symm, h'.2.symm⟩

theorem apply_getTemplateContents {d d' : Dom} {t tc : Id}
    (h : d.apply (.getTemplateContents t) = .ok (d', .node tc)) : d' = d ∧ d.templateContentsOf t = some tc := by
  have h' : d.applyV Dom.cloneVariant Dom.beforeSiblingVariant (.getTemplateContents t) = .ok (d', .node tc) := h
  simp only [Dom.applyV, bind, Except.bind] at h'
  cases ha : d.getTemplateContents t with
  | error e => simp [ha] at h'
  | ok r =>
    simp [ha] at h'
    refine ⟨h'.1.symm, ?_⟩
    obtain ⟨_, rfl⟩ := h'
    unfold Dom.getTemplateContents at ha
    simp only [bind, Except.bind] at ha
    cases hg : d.get t with
    | error e => simp [hg] at ha
    | ok n =>
      simp only [hg] at ha
      have hn := get_ok.mp hg
      unfold Dom.templateContentsOf
      rw [dataOf_of_node hn]
      cases hd : n.data <;> simp [hd, throw, throwThe, MonadExceptOf.throw] at ha ⊢
      rename_i nm a tco ip
      cases tco <;> simp [throw, throwThe, MonadExceptOf.throw] at ha ⊢
      exact ha

/-! ### states that differ in the arena only -/

theorem Late.dom {s : State} (h : Late s) {d : Dom} {tr : List (SinkOp × Output)} (hb : DomBase d)
    (hc : Chg s.dom d) (hk : d.childrenOf 0 = s.dom.childrenOf 0) :
    Late { s with dom := d, traceRev := tr } ∧ Ext s.dom d := by
  refine ⟨⟨hb, by rw [kinds_eq h.base hc hk]; exact h.pat, ?_, ⟨h.ml.mode, h.ml.orig, h.ml.tm⟩⟩, Ext.of_kids0 hc hk⟩
  refine ⟨h.st.doc, h.st.ctx, ?_, ?_, ?_, h.st.ptt⟩
  · intro e he; exact hc.isElement (h.st.oe e he)
  · intro e he; show e ∉ d.childrenOf 0; rw [hk]; exact h.st.tail e he
  · intro x hx
    obtain ⟨h1, h2⟩ := h.st.head x hx
    exact ⟨hc.isElement h1, by show x ∉ d.childrenOf 0; rw [hk]; exact h2⟩

/-- a place the builder may insert at -/
def IpOk (d : Dom) : InsertionPoint → Prop
  | .lastChild p => p ≠ 0 ∧ d.isContainer p = true
  | .beforeSibling _ => False
  | .tableFosterParenting e p => d.isElement e = true ∧ e ∉ d.childrenOf 0 ∧ d.isElement p = true

theorem IpOk.ext {d d' : Dom} {ip : InsertionPoint} (h : IpOk d ip) (x : Ext d d') : IpOk d' ip := by
  cases ip with
  | lastChild p => exact ⟨h.1, x.chg.isContainer h.2⟩
  | beforeSibling _ => exact h
  | tableFosterParenting e p =>
    exact ⟨x.chg.isElement h.1, fun hm => h.2.1 ((x.kids0 e h.1).mp hm), x.chg.isElement h.2.2⟩

/-- `insert_at` -/
theorem insertAt_spec {s s' : State} {ip : InsertionPoint} {child : NodeOrText} {u : Unit} (h : Late s)
    (hip : IpOk s.dom ip) (hch : ChildOk s.dom child) (e : H5V.Model.HtmlTB.insertAt ip child s = .ok (u, s')) :
    Late s' ∧ Ext s.dom s'.dom ∧ s'.dom.childrenOf 0 = s.dom.childrenOf 0 ∧
      s' = { s with dom := s'.dom, traceRev := s'.traceRev } := by
  cases ip with
  | beforeSibling _ => exact absurd hip id
  | lastChild p =>
    obtain ⟨hp0, hpc⟩ := hip
    unfold H5V.Model.HtmlTB.insertAt at e
    obtain ⟨out, e⟩ := sinkUnit_ok.mp e
    obtain ⟨d, hd, rfl⟩ := sink_ok.mp e
    have ha := apply_append hd
    cases child with
    | node c =>
      obtain ⟨hb', hc', _, hk⟩ := append_node_spec h.base hpc hch.2 ha
      have hk0 := children0_of_ne hp0 hk
      obtain ⟨l, x⟩ := h.dom hb' hc' hk0
      exact ⟨l, x, hk0, rfl⟩
    | text t =>
      obtain ⟨hb', hc', hk⟩ := append_text_spec h.base hpc hch ha
      have hk0 : d.childrenOf 0 = s.dom.childrenOf 0 := by
        rcases hk with hk | ⟨hk, _⟩
        · exact hk 0
        · exact children0_of_ne hp0 hk
      obtain ⟨l, x⟩ := h.dom hb' hc' hk0
      exact ⟨l, x, hk0, rfl⟩
  | tableFosterParenting el p =>
    obtain ⟨_, he0, hpe⟩ := hip
    unfold H5V.Model.HtmlTB.insertAt at e
    obtain ⟨out, e⟩ := sinkUnit_ok.mp e
    obtain ⟨d, hd, rfl⟩ := sink_ok.mp e
    have ha := apply_abopn hd
    obtain ⟨hb', hc', hk0⟩ := appendBasedOnParentNodeV_spec h.base he0 (isContainer_of_isElement hpe)
      (ne_zero_of_isElement h.base hpe) hch ha
    obtain ⟨l, x⟩ := h.dom hb' hc' hk0
    exact ⟨l, x, hk0, rfl⟩

/-! ### the appropriate place for insertion -/

/-- where the foster-parenting loop over `l` (a part of the reversed stack) may end -/
def FSrc (l : List Id) (s : State) : InsertionPoint → Prop
  | .lastChild p => p ∈ s.openElems ∨ ∃ t ∈ l, s.dom.templateContentsOf t = some p
  | .beforeSibling _ => False
  | .tableFosterParenting e p => ∃ pre post, l = pre ++ e :: p :: post

theorem FSrc.cons {l : List Id} {s : State} {ip : InsertionPoint} (x : Id) (h : FSrc l s ip) :
    FSrc (x :: l) s ip := by
  cases ip with
  | lastChild p =>
    rcases h with h | ⟨t, ht, h⟩
    · exact Or.inl h
    · exact Or.inr ⟨t, List.mem_cons_of_mem _ ht, h⟩
  | beforeSibling _ => exact h
  | tableFosterParenting e p =>
    obtain ⟨pre, post, rfl⟩ := h
    exact ⟨x :: pre, post, rfl⟩

theorem FSrc.qrel {l : List Id} {s s' : State} {ip : InsertionPoint} (h : FSrc l s' ip) (q : QRel s s')
    (hlt : ∀ t ∈ l, t < s.dom.size) : FSrc l s ip := by
  cases ip with
  | lastChild p =>
    rcases h with h | ⟨t, ht, h⟩
    · exact Or.inl (q.oe.subset h)
    · exact Or.inr ⟨t, ht, by rw [← q.sk.chg.templateContentsOf (hlt t ht)]; exact h⟩
  | beforeSibling _ => exact h
  | tableFosterParenting e p => exact h

theorem sinkNode_tc {s s' : State} {t tc : Id} (e : sinkNode (.getTemplateContents t) s = .ok (tc, s')) :
    s.dom.templateContentsOf t = some tc ∧ QRel s s' := by
  have e' := sinkNode_ok.mp e
  obtain ⟨d, hd, rfl⟩ := sink_ok.mp e'
  obtain ⟨rfl, h⟩ := apply_getTemplateContents hd
  exact ⟨h, qrel_dom (SameSk.refl _)⟩

theorem fosterLoop_spec : ∀ (l : List Id) (s s' : State) (ip : InsertionPoint), ML s →
    (∀ t ∈ l, t < s.dom.size) → fosterLoop l s = .ok (ip, s') → FSrc l s ip
  | [], s, s', ip, hml, _, e => by
    unfold fosterLoop at e
    obtain ⟨h, s1, e1, e2⟩ := bind_ok.mp e
    obtain ⟨rfl, rfl⟩ := pure_ok.mp e2
    unfold htmlElem at e1
    rw [getS_bind] at e1
    cases hh : s.openElems.head? with
    | none => simp only [hh] at e1; exact absurd e1 panicAt_ok
    | some x =>
      simp only [hh] at e1
      obtain ⟨rfl, _⟩ := pure_ok.mp e1
      exact Or.inl (List.mem_of_mem_head? hh)
  | el :: rest, s, s', ip, hml, hlt, e => by
    unfold fosterLoop at e
    obtain ⟨b1, s1, e1, e2⟩ := bind_ok.mp e
    obtain ⟨q1, m1⟩ := (inferInstance : Quiet (htmlElemNamed el "template")).q _ _ _ hml e1
    by_cases hb1 : b1 = true
    · simp only [hb1, if_true] at e2
      obtain ⟨tc, s2, e3, e4⟩ := bind_ok.mp e2
      obtain ⟨rfl, rfl⟩ := pure_ok.mp e4
      obtain ⟨htc, _⟩ := sinkNode_tc e3
      refine Or.inr ⟨el, by simp, ?_⟩
      rw [← q1.sk.chg.templateContentsOf (hlt el (by simp))]; exact htc
    · simp only [hb1] at e2
      obtain ⟨b2, s2, e3, e4⟩ := bind_ok.mp e2
      obtain ⟨q2, m2⟩ := (inferInstance : Quiet (htmlElemNamed el "table")).q _ _ _ m1 e3
      have q12 := q1.trans q2
      by_cases hb2 : b2 = true
      · simp only [hb2, if_true] at e4
        cases rest with
        | nil => exact absurd e4 panicAt_ok
        | cons prev r =>
          obtain ⟨rfl, rfl⟩ := pure_ok.mp e4
          exact ⟨[], r, rfl⟩
      · simp only [hb2] at e4
        have hlt2 : ∀ t ∈ rest, t < s2.dom.size := by
          intro t ht; rw [q12.sk.size]; exact hlt t (List.mem_cons_of_mem _ ht)
        have := fosterLoop_spec rest s2 s' ip m2 hlt2 e4
        exact (this.qrel q12 (fun t ht => hlt t (List.mem_cons_of_mem _ ht))).cons el

theorem mem_tail_of_reverse {l : List Id} {pre post : List Id} {e p : Id}
    (h : l.reverse = pre ++ e :: p :: post) : e ∈ l.tail ∧ p ∈ l := by
  have hl : l = (post.reverse ++ [p]) ++ e :: pre.reverse := by
    have := congrArg List.reverse h
    simp only [List.reverse_reverse, List.reverse_append, List.reverse_cons, List.append_assoc] at this
    rw [this]; simp
  constructor
  · rw [hl]
    cases hpr : post.reverse with
    | nil => simp
    | cons a b => simp
  · rw [hl]; simp

theorem isElement_of_elemName {d : Dom} {t : Id} {r : Str × Str} (h : d.elemName t = .ok r) : d.isElement t = true := by
  unfold Dom.elemName at h
  simp only [bind, Except.bind] at h
  cases hg : d.get t with
  | error e => simp [hg] at h
  | ok n =>
    simp only [hg] at h
    unfold Dom.isElement
    rw [dataOf_of_node (get_ok.mp hg)]
    cases hd : n.data <;> simp [hd, throw, throwThe, MonadExceptOf.throw] at h ⊢

theorem elemName_run_isElement {s s' : State} {t : Id} {n : EName} (e : elemName t s = .ok (n, s')) :
    s.dom.isElement t = true := by
  obtain ⟨d, hd, _⟩ := sink_ok.mp (elemName_ok.mp e)
  have hd' : s.dom.applyV Dom.cloneVariant Dom.beforeSiblingVariant (.elemName t) = .ok (d, .name n.ns n.loc) := hd
  simp only [Dom.applyV, bind, Except.bind] at hd'
  cases he : s.dom.elemName t with
  | error e => simp [he] at hd'
  | ok r => exact isElement_of_elemName he

theorem htmlElemNamed_run_isElement {s s' : State} {t : Id} {nm : String} {b : Bool}
    (e : htmlElemNamed t nm s = .ok (b, s')) : s.dom.isElement t = true := by
  unfold htmlElemNamed htmlElemNamedS at e
  obtain ⟨n, s1, e1, _⟩ := bind_ok.mp e
  exact elemName_run_isElement e1

/-- `appropriate_place_for_insertion` once the target is known -/
def apfiRest (target : Id) : M InsertionPoint := do
  let foster ← if (← getS).fosterParenting then elemIn target fosterTarget else pure false
  if !foster then
    if ← htmlElemNamed target "template" then
      let contents ← sinkNode (.getTemplateContents target)
      pure (.lastChild contents)
    else pure (.lastChild target)
  else fosterLoop (← getS).openElems.reverse

theorem apfi_eq (o : Option Id) : appropriatePlaceForInsertion o =
    (match o with | some t => pure t | none => currentNode) >>= apfiRest := by
  unfold appropriatePlaceForInsertion apfiRest
  cases o <;> rfl

theorem apfiRest_spec {s s' : State} {target : Id} {ip : InsertionPoint} (h : Late s)
    (e : apfiRest target s = .ok (ip, s')) : IpOk s'.dom ip := by
  unfold apfiRest at e
  rw [getS_bind] at e
  -- the two branches of the foster test share the continuation
  have key : ∀ (foster : Bool) (s2 : State), QRel s s2 → ML s2 →
      (if (!foster) = true then do
          let __do_lift ← htmlElemNamed target "template"
          if __do_lift = true then do
              let contents ← sinkNode (SinkOp.getTemplateContents target)
              pure (InsertionPoint.lastChild contents)
            else pure (InsertionPoint.lastChild target)
        else do
          let __do_lift ← getS
          fosterLoop __do_lift.openElems.reverse) s2 = .ok (ip, s') → IpOk s'.dom ip := by
    intro foster s2 q12 m2 e4
    have hl2 : Late s2 := h.qrel q12 m2
    cases foster with
    | false =>
      simp only [Bool.not_false, if_true] at e4
      obtain ⟨b, s3, e5, e6⟩ := bind_ok.mp e4
      have htel2 : s2.dom.isElement target = true := htmlElemNamed_run_isElement e5
      obtain ⟨q3, m3⟩ := (inferInstance : Quiet (htmlElemNamed target "template")).q _ _ _ m2 e5
      have hl3 : Late s3 := hl2.qrel q3 m3
      by_cases hb : b = true
      · simp only [hb, if_true] at e6
        obtain ⟨tc, s4, e7, e8⟩ := bind_ok.mp e6
        obtain ⟨rfl, rfl⟩ := pure_ok.mp e8
        obtain ⟨htc, q4⟩ := sinkNode_tc e7
        obtain ⟨h0, hdoc⟩ := hl3.base.tcOk _ _ htc
        refine ⟨h0, q4.sk.chg.isContainer ?_⟩
        unfold Dom.isContainer; rw [hdoc]
      · simp only [hb] at e6
        obtain ⟨rfl, rfl⟩ := pure_ok.mp e6
        have := q3.sk.chg.isElement htel2
        exact ⟨ne_zero_of_isElement hl3.base this, isContainer_of_isElement this⟩
    | true =>
      simp only [Bool.not_true, Bool.false_eq_true, if_false] at e4
      rw [getS_bind] at e4
      have hlt : ∀ t ∈ s2.openElems.reverse, t < s2.dom.size := by
        intro t ht; exact lt_of_isElement (hl2.st.oe t (List.mem_reverse.mp ht))
      have hsrc := fosterLoop_spec _ _ _ _ m2 hlt e4
      obtain ⟨q3, m3⟩ := (inferInstance : Quiet (fosterLoop s2.openElems.reverse)).q _ _ _ m2 e4
      have hx : Ext s2.dom s'.dom := q3.sk.ext
      refine IpOk.ext ?_ hx
      cases ip with
      | lastChild p =>
        rcases hsrc with hsrc | ⟨t, ht, hsrc⟩
        · have := hl2.st.oe p hsrc
          exact ⟨ne_zero_of_isElement hl2.base this, isContainer_of_isElement this⟩
        · obtain ⟨h0, hdoc⟩ := hl2.base.tcOk _ _ hsrc
          exact ⟨h0, by unfold Dom.isContainer; rw [hdoc]⟩
      | beforeSibling _ => exact hsrc
      | tableFosterParenting el p =>
        obtain ⟨pre, post, hrev⟩ := hsrc
        obtain ⟨h1, h2⟩ := mem_tail_of_reverse hrev
        exact ⟨hl2.st.oe el (List.mem_of_mem_tail h1), hl2.st.tail el h1, hl2.st.oe p h2⟩
  by_cases hf : s.fosterParenting = true
  · simp only [hf, if_true] at e
    obtain ⟨foster, s2, e3, e4⟩ := bind_ok.mp e
    obtain ⟨q2, m2⟩ := (inferInstance : Quiet (elemIn target fosterTarget)).q _ _ _ h.ml e3
    exact key foster s2 q2 m2 e4
  · simp only [hf] at e
    obtain ⟨foster, s2, e3, e4⟩ := bind_ok.mp e
    obtain ⟨_, rfl⟩ := pure_ok.mp e3
    exact key foster s (QRel.refl _) h.ml e4

/-- `appropriate_place_for_insertion`: never the document, never next to a child of the document -/
theorem apfi_spec {s s' : State} {o : Option Id} {ip : InsertionPoint} (h : Late s)
    (e : appropriatePlaceForInsertion o s = .ok (ip, s')) : QRel s s' ∧ ML s' ∧ IpOk s'.dom ip := by
  obtain ⟨q, ml⟩ := (inferInstance : Quiet (appropriatePlaceForInsertion o)).q _ _ _ h.ml e
  refine ⟨q, ml, ?_⟩
  rw [apfi_eq] at e
  obtain ⟨target, s1, e1, e2⟩ := bind_ok.mp e
  cases o with
  | some t =>
    simp only at e1
    obtain ⟨rfl, rfl⟩ := pure_ok.mp e1
    exact apfiRest_spec h e2
  | none =>
    simp only at e1
    obtain ⟨q1, m1⟩ := (inferInstance : Quiet currentNode).q _ _ _ h.ml e1
    exact apfiRest_spec (h.qrel q1 m1) e2

/-! ### creating nodes, pushing -/

/-- a node the builder has just made or detached: an element that is not a child of the document -/
def Loose (d : Dom) (x : Id) : Prop := d.isElement x = true ∧ x ∉ d.childrenOf 0

theorem not_doc_of_isElement {d : Dom} {x : Id} (h : d.isElement x = true) : d.dataOf x ≠ some .document := by
  intro hd; unfold Dom.isElement at h; rw [hd] at h; cases h

theorem Loose.childOk {d : Dom} {x : Id} (h : Loose d x) : ChildOk d (.node x) := ⟨h.2, not_doc_of_isElement h.1⟩

theorem Loose.ext {d d' : Dom} {x : Id} (h : Loose d x) (e : Ext d d') : Loose d' x :=
  ⟨e.chg.isElement h.1, fun hm => h.2 ((e.kids0 x h.1).mp hm)⟩

theorem createElementWithFlags_spec {s s' : State} {name : QualName} {attrs : List Attr} {dup : Bool} {elem : Id}
    (h : Late s) (e : createElementWithFlags name attrs dup s = .ok (elem, s')) :
    Late s' ∧ Ext s.dom s'.dom ∧ Loose s'.dom elem ∧ s.dom.size ≤ elem ∧
      s' = { s with dom := s'.dom, traceRev := s'.traceRev } := by
  unfold createElementWithFlags at e
  have e' := sinkNode_ok.mp e
  obtain ⟨d, hd, rfl⟩ := sink_ok.mp e'
  obtain ⟨rfl, hout⟩ := apply_createElement hd
  cases hout
  obtain ⟨hb', hc', hk, hfresh, hvalid, tc, hdata⟩ := createElement_spec h.base name attrs _
  obtain ⟨l, x⟩ := h.dom hb' hc' (hk 0)
  refine ⟨l, x, ⟨?_, ?_⟩, hfresh, rfl⟩
  · show Dom.isElement _ _ = true
    unfold Dom.isElement; rw [hdata]
  · show _ ∉ Dom.childrenOf _ 0
    rw [hk 0]
    intro hm
    exact Nat.lt_irrefl _ (Nat.lt_of_lt_of_le (h.base.kidsLt _ hm) hfresh)

instance (name : QualName) (attrs : List Attr) (dup : Bool) : Pres (createElementWithFlags name attrs dup) :=
  ⟨fun _ _ _ hl e => let ⟨a, b, _⟩ := createElementWithFlags_spec hl e; ⟨a, b⟩⟩

theorem mem_tail_append {l : List Id} {x e : Id} (h : e ∈ (l ++ [x]).tail) : e ∈ l.tail ∨ e = x := by
  cases l with
  | nil => simp at h
  | cons a r => simpa using h

theorem Late.push {s : State} (h : Late s) {x : Id} (hx : Loose s.dom x) :
    Late { s with openElems := s.openElems ++ [x] } := by
  refine ⟨h.base, h.pat, ⟨h.st.doc, h.st.ctx, ?_, ?_, h.st.head, h.st.ptt⟩, ⟨h.ml.mode, h.ml.orig, h.ml.tm⟩⟩
  · intro e he
    simp only [List.mem_append, List.mem_singleton] at he
    rcases he with he | rfl
    · exact h.st.oe e he
    · exact hx.1
  · intro e he
    rcases mem_tail_append he with he | rfl
    · exact h.st.tail e he
    · exact hx.2

theorem push_spec {s s' : State} {x : Id} {u : Unit} (h : Late s) (hx : Loose s.dom x)
    (e : push x s = .ok (u, s')) : Late s' ∧ s'.dom = s.dom := by
  unfold push at e
  rw [modS_ok.mp e]
  exact ⟨h.push hx, rfl⟩

instance (af : List FormatEntry) : Pres (setAF af) := by
  unfold setAF
  exact pres_modS fun s hl => ⟨hl.free rfl rfl rfl rfl rfl rfl rfl rfl rfl, rfl⟩
instance (f : List FormatEntry → List FormatEntry) :
    Pres (modS fun s => { s with activeFormatting := f s.activeFormatting }) :=
  pres_modS fun s hl => ⟨hl.free rfl rfl rfl rfl rfl rfl rfl rfl rfl, rfl⟩
instance (x : Option Id) : Pres (modS fun s => { s with formElem := x }) :=
  pres_modS fun s hl => ⟨hl.free rfl rfl rfl rfl rfl rfl rfl rfl rfl, rfl⟩
instance (b : Bool) : Pres (modS fun s => { s with ignoreLf := b }) :=
  pres_modS fun s hl => ⟨hl.free rfl rfl rfl rfl rfl rfl rfl rfl rfl, rfl⟩
instance (b : Bool) : Pres (modS fun s => { s with fosterParenting := b }) :=
  pres_modS fun s hl => ⟨hl.free rfl rfl rfl rfl rfl rfl rfl rfl rfl, rfl⟩
instance (b : Bool) : Pres (setFramesetOk b) := by
  unfold setFramesetOk
  exact pres_modS fun s hl => ⟨hl.free rfl rfl rfl rfl rfl rfl rfl rfl rfl, rfl⟩

/-! ### `insert_element` and friends -/

theorem insertElement_spec {s s' : State} {pushIt : Bool} {ns name : Str} {attrs : List Attr} {dup : Bool} {elem : Id}
    (h : Late s) (e : insertElement pushIt ns name attrs dup s = .ok (elem, s')) :
    Late s' ∧ Ext s.dom s'.dom ∧ Loose s'.dom elem := by
  unfold insertElement at e
  obtain ⟨ip, s1, e1, e2⟩ := bind_ok.mp e
  obtain ⟨q1, m1, hip1⟩ := apfi_spec h e1
  have hl1 : Late s1 := h.qrel q1 m1
  have x1 : Ext s.dom s1.dom := q1.sk.ext
  -- the form-association test is quiet; everything after it is `rest`
  have key : ∀ (fia : Bool) (s2 : State), Late s2 → Ext s1.dom s2.dom →
      (do
        let elem ← createElementWithFlags { ns := ns, loc := name } attrs dup
        have __do_jp : Unit → M Id := fun __r => do
          H5V.Model.HtmlTB.insertAt ip (NodeOrText.node elem)
          have __do_jp : Unit → M Id := fun __r => pure elem
          if pushIt = true then do
              let __r ← push elem
              __do_jp __r
            else __do_jp ()
        if fia = true then do
            let __do_lift ← getS
            match __do_lift.formElem with
              | some form => do
                let __r ← sinkUnit (SinkOp.associateWithForm elem form ip.nodes.1 ip.nodes.2)
                __do_jp __r
              | none => do
                let __r ← panicAt "unwrap-none" "mod.rs:1401" "form_elem unwrap"
                __do_jp __r
          else __do_jp ()) s2 = .ok (elem, s') → Late s' ∧ Ext s1.dom s'.dom ∧ Loose s'.dom elem := by
    intro fia s2 hl2 x2 e3
    obtain ⟨el, s3, e4, e5⟩ := bind_ok.mp e3
    obtain ⟨hl3, x3, hloose3, _, _⟩ := createElementWithFlags_spec hl2 e4
    -- after the optional `associate_with_form`
    have key2 : ∀ (s4 : State), Late s4 → Ext s3.dom s4.dom →
        (do
          H5V.Model.HtmlTB.insertAt ip (NodeOrText.node el)
          have __do_jp : Unit → M Id := fun __r => pure el
          if pushIt = true then do
              let __r ← push el
              __do_jp __r
            else __do_jp ()) s4 = .ok (elem, s') → Late s' ∧ Ext s3.dom s'.dom ∧ Loose s'.dom elem := by
      intro s4 hl4 x4 e6
      obtain ⟨u, s5, e7, e8⟩ := bind_ok.mp e6
      have hip4 : IpOk s4.dom ip := (hip1.ext x2).ext (x3.trans x4)
      have hloose4 := hloose3.ext x4
      obtain ⟨hl5, x5, hk5, _⟩ := insertAt_spec (child := .node el) hl4 hip4 hloose4.childOk e7
      have hloose5 := hloose4.ext x5
      by_cases hp : pushIt = true
      · simp only [hp, if_true] at e8
        obtain ⟨u2, s6, e9, e10⟩ := bind_ok.mp e8
        obtain ⟨rfl, rfl⟩ := pure_ok.mp e10
        obtain ⟨hl6, hd6⟩ := push_spec hl5 hloose5 e9
        exact ⟨hl6, by rw [hd6]; exact x4.trans x5, by rw [hd6]; exact hloose5⟩
      · simp only [hp] at e8
        obtain ⟨rfl, rfl⟩ := pure_ok.mp e8
        exact ⟨hl5, x4.trans x5, hloose5⟩
    by_cases hf : fia = true
    · simp only [hf, if_true] at e5
      rw [getS_bind] at e5
      cases hform : s3.formElem with
      | none =>
        simp only [hform] at e5
        obtain ⟨_, _, e6, _⟩ := bind_ok.mp e5
        exact absurd e6 panicAt_ok
      | some form =>
        simp only [hform] at e5
        obtain ⟨u, s4, e6, e7⟩ := bind_ok.mp e5
        obtain ⟨q4, m4⟩ := (inferInstance : Quiet (sinkUnit (.associateWithForm el form ip.nodes.1 ip.nodes.2))).q _ _ _ hl3.ml e6
        obtain ⟨a, b, c⟩ := key2 s4 (hl3.qrel q4 m4) q4.sk.ext e7
        exact ⟨a, x2.trans (x3.trans b), c⟩
    · simp only [hf] at e5
      obtain ⟨a, b, c⟩ := key2 s3 hl3 (Ext.refl _) e5
      exact ⟨a, x2.trans (x3.trans b), c⟩
  have fin : ∀ (fia : Bool) (s2 : State), QRel s1 s2 → ML s2 → _ → Late s' ∧ Ext s.dom s'.dom ∧ Loose s'.dom elem :=
    fun fia s2 q2 m2 e3 =>
      let ⟨a, b, c⟩ := key fia s2 (hl1.qrel q2 m2) q2.sk.ext e3
      ⟨a, x1.trans b, c⟩
  simp only at e2
  rw [getS_bind] at e2
  by_cases hc : (formAssociatable { ns := ns, loc := name } && s1.formElem.isSome) = true
  · simp only [hc, if_true] at e2
    obtain ⟨b, s2, e3, e4⟩ := bind_ok.mp e2
    obtain ⟨q2, m2⟩ := (inferInstance : Quiet (inHtmlElemNamed "template")).q _ _ _ m1 e3
    by_cases hb : b = true
    · simp only [hb, if_true] at e4
      obtain ⟨fia, s2', e5, e6⟩ := bind_ok.mp e4
      obtain ⟨rfl, rfl⟩ := pure_ok.mp e5
      exact fin _ _ q2 m2 e6
    · simp only [hb] at e4
      obtain ⟨fia, s2', e5, e6⟩ := bind_ok.mp e4
      obtain ⟨rfl, rfl⟩ := pure_ok.mp e5
      exact fin _ _ q2 m2 e6
  · simp only [hc] at e2
    obtain ⟨fia, s2', e5, e6⟩ := bind_ok.mp e2
    obtain ⟨rfl, rfl⟩ := pure_ok.mp e5
    exact fin _ _ (QRel.refl _) m1 e6

instance (pushIt : Bool) (ns name : Str) (attrs : List Attr) (dup : Bool) :
    Pres (insertElement pushIt ns name attrs dup) :=
  ⟨fun _ _ _ hl e => let ⟨a, b, _⟩ := insertElement_spec hl e; ⟨a, b⟩⟩

instance (tag : Tag) : Pres (insertElementFor tag) := by unfold insertElementFor; infer_instance
instance (tag : Tag) : Pres (insertAndPopElementFor tag) := by unfold insertAndPopElementFor; infer_instance
instance (n : String) : Pres (insertPhantom n) := by unfold insertPhantom; infer_instance

theorem insertAppropriately_spec {s s' : State} {child : NodeOrText} {o : Option Id} {u : Unit} (h : Late s)
    (hch : match child with
      | .node c => Loose s.dom c ∨ (c ∉ s.dom.childrenOf 0 ∧ ∃ t, s.dom.dataOf c = some (.comment t))
      | .text t => t ≠ [])
    (e : insertAppropriately child o s = .ok (u, s')) : Late s' ∧ Ext s.dom s'.dom := by
  unfold insertAppropriately at e
  obtain ⟨ip, s1, e1, e2⟩ := bind_ok.mp e
  obtain ⟨q1, m1, hip1⟩ := apfi_spec h e1
  have hl1 : Late s1 := h.qrel q1 m1
  have hch1 : ChildOk s1.dom child := by
    cases child with
    | node c =>
      rcases hch with hch | ⟨hch, t, ht⟩
      · exact (hch.ext q1.sk.ext).childOk
      · refine ⟨by rw [q1.sk.kids]; exact hch, ?_⟩
        have := (q1.sk.chg.data c (lt_of_data ht)).skel
        rw [ht] at this
        intro hd
        rw [hd] at this
        simp [skelT] at this
    | text t => exact hch
  obtain ⟨a, b, _⟩ := insertAt_spec hl1 hip1 hch1 e2
  exact ⟨a, q1.sk.ext.trans b⟩

instance (text : Str) [hne : NE text] : Pres (insertAppropriately (.text text) none) :=
  ⟨fun _ _ _ hl e => insertAppropriately_spec hl hne.h e⟩

instance (text : Str) [NE text] : PresR (appendText text) := by
  unfold appendText; infer_instance

theorem createComment_run {s s' : State} {text : Str} {c : Id} (h : Late s)
    (e : sinkNode (.createComment text) s = .ok (c, s')) :
    Late s' ∧ Ext s.dom s'.dom ∧ c ∉ s'.dom.childrenOf 0 ∧ s'.dom.dataOf c = some (.comment text) ∧
      s.dom.size ≤ c ∧ s' = { s with dom := s'.dom, traceRev := s'.traceRev } := by
  have e' := sinkNode_ok.mp e
  obtain ⟨d, hd, rfl⟩ := sink_ok.mp e'
  obtain ⟨rfl, hout⟩ := apply_createComment hd
  cases hout
  obtain ⟨hb', hc', hk, hid, hs, hdata⟩ := createComment_spec h.base text
  obtain ⟨l, x⟩ := h.dom hb' hc' (hk 0)
  refine ⟨l, x, ?_, hdata, Nat.le_of_eq hid.symm, rfl⟩
  show _ ∉ Dom.childrenOf _ 0
  rw [hk 0, hid]
  intro hm
  exact Nat.lt_irrefl _ (h.base.kidsLt _ hm)

instance (text : Str) : PresR (appendComment text) := by
  constructor
  intro s r s' hl e
  unfold appendComment at e
  obtain ⟨c, s1, e1, e2⟩ := bind_ok.mp e
  obtain ⟨hl1, x1, hc1, hcd1, _, _⟩ := createComment_run hl e1
  obtain ⟨u, s2, e3, e4⟩ := bind_ok.mp e2
  obtain ⟨rfl, rfl⟩ := pure_ok.mp e4
  obtain ⟨a, b⟩ := insertAppropriately_spec (child := .node c) hl1 (Or.inr ⟨hc1, _, hcd1⟩) e3
  exact ⟨⟨a, x1.trans b⟩, trivial⟩

theorem docKid_comment {d : Dom} {c : Id} {t : Str} (h : d.dataOf c = some (.comment t)) : docKid d c = .comment := by
  unfold docKid; rw [h]

theorem not_isElement_of_comment {d : Dom} {c : Id} {t : Str} (h : d.dataOf c = some (.comment t)) :
    d.isElement c = false := by
  unfold Dom.isElement; rw [h]

/-- appending a fresh comment to the document keeps everything but the list of its children -/
theorem appendDocComment_run {s s' : State} {c : Id} {t : Str} {u : Unit} (hb : DomBase s.dom)
    (hc : s.dom.dataOf c = some (.comment t)) (hdoc : s.docHandle = 0)
    (e : sinkUnit (.append s.docHandle (.node c)) s = .ok (u, s')) :
    ∃ d tr, s' = { s with dom := d, traceRev := tr } ∧ DomBase d ∧ Chg s.dom d ∧
      d.childrenOf 0 = s.dom.childrenOf 0 ++ [c] ∧ kinds d = kinds s.dom ++ [.comment] := by
  rw [hdoc] at e
  obtain ⟨out, e⟩ := sinkUnit_ok.mp e
  obtain ⟨d, hd, rfl⟩ := sink_ok.mp e
  obtain ⟨hb', hc', hlt, hk⟩ := append_doc_spec hb (by rw [hc]; simp) (apply_append hd)
  refine ⟨d, _, rfl, hb', hc', hk, ?_⟩
  rw [kinds_snoc hb hc' hk, hc'.docKid_eq hlt, docKid_comment hc]

theorem Late.appendDocComment {s : State} (h : Late s) {d : Dom} {tr : List (SinkOp × Output)} {c : Id} {t : Str}
    (hcd : s.dom.dataOf c = some (.comment t)) (hb : DomBase d) (hc : Chg s.dom d)
    (hk : d.childrenOf 0 = s.dom.childrenOf 0 ++ [c]) (hkinds : kinds d = kinds s.dom ++ [.comment]) :
    Late { s with dom := d, traceRev := tr } ∧ Ext s.dom d := by
  have hne : ∀ x, s.dom.isElement x = true → x ≠ c := by
    intro x hx hxc; subst hxc; rw [not_isElement_of_comment hcd] at hx; cases hx
  have hk0 : ∀ x, s.dom.isElement x = true → (x ∈ d.childrenOf 0 ↔ x ∈ s.dom.childrenOf 0) := by
    intro x hx
    rw [hk]
    simp only [List.mem_append, List.mem_singleton]
    constructor
    · rintro (hm | hm)
      · exact hm
      · exact absurd hm (hne x hx)
    · intro hm; exact Or.inl hm
  refine ⟨⟨hb, by rw [hkinds]; exact docPattern_append_comment h.pat, ?_, ⟨h.ml.mode, h.ml.orig, h.ml.tm⟩⟩, ⟨hc, hk0⟩⟩
  refine ⟨h.st.doc, h.st.ctx, ?_, ?_, ?_, h.st.ptt⟩
  · intro e he; exact hc.isElement (h.st.oe e he)
  · intro e he
    show e ∉ d.childrenOf 0
    rw [hk0 e (h.st.oe e (List.mem_of_mem_tail he))]
    exact h.st.tail e he
  · intro x hx
    obtain ⟨h1, h2⟩ := h.st.head x hx
    exact ⟨hc.isElement h1, by show x ∉ d.childrenOf 0; rw [hk0 x h1]; exact h2⟩

instance (text : Str) : PresR (appendCommentToDoc text) := by
  constructor
  intro s r s' hl e
  unfold appendCommentToDoc at e
  obtain ⟨c, s1, e1, e2⟩ := bind_ok.mp e
  obtain ⟨hl1, x1, _, hcd, _, _⟩ := createComment_run hl e1
  rw [getS_bind] at e2
  obtain ⟨u, s2, e3, e4⟩ := bind_ok.mp e2
  obtain ⟨rfl, rfl⟩ := pure_ok.mp e4
  obtain ⟨d, tr, rfl, hb, hc, hk, hkinds⟩ := appendDocComment_run hl1.base hcd hl1.st.doc e3
  obtain ⟨a, b⟩ := hl1.appendDocComment hcd hb hc hk hkinds
  exact ⟨⟨a, x1.trans b⟩, trivial⟩

instance (text : Str) : PresR (appendCommentToHtml text) := by
  constructor
  intro s r s' hl e
  unfold appendCommentToHtml at e
  obtain ⟨target, s1, e1, e2⟩ := bind_ok.mp e
  obtain ⟨q1, m1⟩ := (inferInstance : Quiet htmlElemFn).q _ _ _ hl.ml e1
  have htel : s.dom.isElement target = true := by
    unfold htmlElemFn at e1
    rw [getS_bind] at e1
    cases hh : s.openElems.head? with
    | none => simp only [hh] at e1; exact absurd e1 panicAt_ok
    | some x =>
      simp only [hh] at e1
      obtain ⟨rfl, _⟩ := pure_ok.mp e1
      exact hl.st.oe _ (List.mem_of_mem_head? hh)
  have hl1 := hl.qrel q1 m1
  obtain ⟨c, s2, e3, e4⟩ := bind_ok.mp e2
  obtain ⟨hl2, x2, hc2, hcd2, _, _⟩ := createComment_run hl1 e3
  obtain ⟨u, s3, e5, e6⟩ := bind_ok.mp e4
  obtain ⟨rfl, rfl⟩ := pure_ok.mp e6
  have htel2 := x2.chg.isElement (q1.sk.chg.isElement htel)
  have hip : IpOk s2.dom (.lastChild target) := ⟨ne_zero_of_isElement hl2.base htel2, isContainer_of_isElement htel2⟩
  have e5' : H5V.Model.HtmlTB.insertAt (.lastChild target) (.node c) s2 = .ok (u, s3) := e5
  obtain ⟨a, b, _⟩ := insertAt_spec (child := .node c) hl2 hip ⟨hc2, by rw [hcd2]; simp⟩ e5'
  exact ⟨⟨a, q1.sk.ext.trans (x2.trans b)⟩, trivial⟩

instance (tag : Tag) (ns : Str) (only : Bool) : Pres (insertForeignElement tag ns only) := by
  constructor
  intro s r s' hl e
  unfold insertForeignElement at e
  obtain ⟨ip, s1, e1, e2⟩ := bind_ok.mp e
  obtain ⟨q1, m1, hip1⟩ := apfi_spec hl e1
  have hl1 := hl.qrel q1 m1
  obtain ⟨el, s2, e3, e4⟩ := bind_ok.mp e2
  obtain ⟨hl2, x2, hloose2, _, _⟩ := createElementWithFlags_spec hl1 e3
  have fin : ∀ s3, Late s3 → Ext s2.dom s3.dom →
      (do push el; pure el : M Id) s3 = .ok (r, s') → Late s' ∧ Ext s.dom s'.dom := by
    intro s3 hl3 x3 e5
    obtain ⟨u, s4, e6, e7⟩ := bind_ok.mp e5
    obtain ⟨_, rfl⟩ := pure_ok.mp e7
    obtain ⟨hl4, hd4⟩ := push_spec hl3 (hloose2.ext x3) e6
    exact ⟨hl4, by rw [hd4]; exact q1.sk.ext.trans (x2.trans x3)⟩
  by_cases ho : (!only) = true
  · simp only [ho, if_true] at e4
    obtain ⟨u, s3, e5, e6⟩ := bind_ok.mp e4
    obtain ⟨hl3, x3, _⟩ := insertAt_spec (child := .node el) hl2 (hip1.ext x2) hloose2.childOk e5
    exact fin s3 hl3 x3 e6
  · simp only [ho] at e4
    exact fin s2 hl2 (Ext.refl _) e4

instance (k : H5V.Model.HtmlTok.RawKind) : PresR (toRawTextMode k) := by unfold toRawTextMode; infer_instance
instance (tag : Tag) (k : H5V.Model.HtmlTok.RawKind) : PresR (parseRawData tag k) := by
  unfold parseRawData; infer_instance
instance : PresR unexpected := by unfold unexpected; infer_instance

/-! ### the list of active formatting elements -/

theorem pres_reconstructCreate : ∀ (fuel i : Nat), Pres (reconstructCreate fuel i)
  | 0, _ => by unfold reconstructCreate; infer_instance
  | n + 1, i => by
    haveI := fun k => pres_reconstructCreate n k
    unfold reconstructCreate
    tb_walk
instance (fuel i : Nat) : Pres (reconstructCreate fuel i) := pres_reconstructCreate fuel i

instance : Pres reconstructActiveFormattingElements := by
  unfold reconstructActiveFormattingElements; tb_walk

instance (tag : Tag) : Pres (createFormattingElementFor tag) := by
  unfold createFormattingElementFor; tb_walk

instance (tag : Tag) (ns : Str) : PresR (enterForeign tag ns) := by unfold enterForeign; tb_walk
instance (tag : Tag) : PresR (foreignStartTag tag) := by unfold foreignStartTag; tb_walk

/-! ### a small logic for handles in flight

`PL c m R`: started in a `Late` state in which the handles of `c.1` are elements and those of `c.2`
are loose (elements that are not children of the document), `m` ends in a `Late` state, and the
handles `R a` computed from its answer have the same two properties.  Both properties are stable
under `Ext`, so contexts are simply carried along binds. -/

abbrev Ctx := List Id × List Id

structure Ctx.ok (c : Ctx) (d : Dom) : Prop where
  el : ∀ x ∈ c.1, d.isElement x = true
  lo : ∀ x ∈ c.2, Loose d x

def Ctx.app (a b : Ctx) : Ctx := (a.1 ++ b.1, a.2 ++ b.2)

def Ctx.nil : Ctx := ([], [])

theorem Ctx.ok.ext {c : Ctx} {d d' : Dom} (h : c.ok d) (e : Ext d d') : c.ok d' :=
  ⟨fun x hx => e.chg.isElement (h.el x hx), fun x hx => (h.lo x hx).ext e⟩

theorem Ctx.ok_app {a b : Ctx} {d : Dom} (ha : a.ok d) (hb : b.ok d) : (a.app b).ok d :=
  ⟨fun x hx => by
      rcases List.mem_append.mp hx with h | h
      · exact ha.el x h
      · exact hb.el x h,
   fun x hx => by
      rcases List.mem_append.mp hx with h | h
      · exact ha.lo x h
      · exact hb.lo x h⟩

theorem Ctx.ok_nil (d : Dom) : Ctx.nil.ok d := ⟨fun _ h => (by cases h), fun _ h => (by cases h)⟩

/-- `x` is known to be an element in context `c` -/
def Ctx.elem (c : Ctx) (x : Id) : Prop := x ∈ c.1 ∨ x ∈ c.2

theorem Ctx.ok.elemOk {c : Ctx} {d : Dom} {x : Id} (h : c.ok d) (hx : c.elem x) : d.isElement x = true := by
  rcases hx with hx | hx
  · exact h.el x hx
  · exact (h.lo x hx).1

structure PL {α : Type} (c : Ctx) (m : M α) (R : α → Ctx) : Prop where
  p : ∀ s a s', Late s → c.ok s.dom → m s = .ok (a, s') → Late s' ∧ Ext s.dom s'.dom ∧ (R a).ok s'.dom

theorem PL.bind {α β : Type} {c : Ctx} {m : M α} {f : α → M β} {R : α → Ctx} {R' : β → Ctx}
    (h1 : PL c m R) (h2 : ∀ a, PL ((R a).app c) (f a) R') : PL c (m >>= f) R' := by
  constructor
  intro s b s'' hl hc e
  obtain ⟨a, s', e1, e2⟩ := bind_ok.mp e
  obtain ⟨l1, x1, r1⟩ := h1.p s a s' hl hc e1
  obtain ⟨l2, x2, r2⟩ := (h2 a).p s' b s'' l1 (Ctx.ok_app r1 (hc.ext x1)) e2
  exact ⟨l2, x1.trans x2, r2⟩

theorem PL.of_pres {α : Type} {c : Ctx} {m : M α} (h : Pres m) : PL c m (fun _ => Ctx.nil) :=
  ⟨fun s a s' hl _ e => let ⟨a, b⟩ := h.p s a s' hl e; ⟨a, b, Ctx.ok_nil _⟩⟩

theorem PL.weaken {α : Type} {c : Ctx} {m : M α} {R : α → Ctx} (h : PL c m R) : PL c m (fun _ => Ctx.nil) :=
  ⟨fun s a s' hl hc e => let ⟨a, b, _⟩ := h.p s a s' hl hc e; ⟨a, b, Ctx.ok_nil _⟩⟩

theorem PL.pure {α : Type} {c : Ctx} (a : α) {R : α → Ctx}
    (h : (∀ x ∈ (R a).1, c.elem x) ∧ (∀ x ∈ (R a).2, x ∈ c.2)) : PL c (Pure.pure a : M α) R := by
  constructor
  intro s b s' hl hc e
  obtain ⟨rfl, rfl⟩ := pure_ok.mp e
  exact ⟨hl, Ext.refl _, ⟨fun x hx => hc.elemOk (h.1 x hx), fun x hx => hc.lo x (h.2 x hx)⟩⟩

theorem PL.pure_nil {α : Type} {c : Ctx} (a : α) : PL c (Pure.pure a : M α) (fun _ => Ctx.nil) :=
  PL.of_pres inferInstance

theorem PL.ite {α : Type} {c : Ctx} {p : Prop} [Decidable p] {a b : M α} {R : α → Ctx}
    (h1 : PL c a R) (h2 : PL c b R) : PL c (if p then a else b) R := by
  by_cases hp : p
  · simp only [hp, if_true]; exact h1
  · simp only [hp, if_false]; exact h2

theorem PL.dite {α : Type} {c : Ctx} {p : Prop} [Decidable p] {a b : M α} {R : α → Ctx}
    (h1 : p → PL c a R) (h2 : ¬p → PL c b R) : PL c (if p then a else b) R := by
  by_cases hp : p
  · simp only [hp, if_true]; exact h1 hp
  · simp only [hp, if_false]; exact h2 hp

theorem PL.throw {α : Type} {c : Ctx} (e : String) {R : α → Ctx} : PL c (throw e : M α) R :=
  ⟨fun _ _ _ _ _ h => absurd h throw_ok⟩

theorem PL.toPres {α : Type} {m : M α} {R : α → Ctx} (h : PL Ctx.nil m R) : Pres m :=
  ⟨fun s a s' hl e => let ⟨a, b, _⟩ := h.p s a s' hl (Ctx.ok_nil _) e; ⟨a, b⟩⟩

theorem PL.toPresR {m : M ProcessResult} {R : ProcessResult → Ctx} (h : PL Ctx.nil m R)
    (hr : ∀ s a s', m s = .ok (a, s') → ResOk a) : PresR m :=
  ⟨fun s a s' hl e => let ⟨x, y, _⟩ := h.p s a s' hl (Ctx.ok_nil _) e; ⟨⟨x, y⟩, hr s a s' e⟩⟩

/-- reading the state: the continuation is proved for the very state read, with the invariant at hand -/
theorem PL.ofGetS {β : Type} {c : Ctx} {f : State → M β} {R : β → Ctx}
    (h : ∀ s, Late s → c.ok s.dom → ∀ a s', f s s = .ok (a, s') → Late s' ∧ Ext s.dom s'.dom ∧ (R a).ok s'.dom) :
    PL c (getS >>= f) R :=
  ⟨fun s a s' hl hc e => by rw [getS_bind] at e; exact h s hl hc a s' e⟩

/-! leaves -/

theorem PL.create {c : Ctx} (name : QualName) (attrs : List Attr) (dup : Bool) :
    PL c (createElementWithFlags name attrs dup) (fun el => ([], [el])) :=
  ⟨fun s a s' hl _ e => by
    obtain ⟨l, x, lo, _, _⟩ := createElementWithFlags_spec hl e
    exact ⟨l, x, ⟨fun _ h => (by cases h), fun y hy => (by simp at hy; subst hy; exact lo)⟩⟩⟩

theorem PL.insertElement {c : Ctx} (pushIt : Bool) (ns name : Str) (attrs : List Attr) (dup : Bool) :
    PL c (insertElement pushIt ns name attrs dup) (fun el => ([], [el])) :=
  ⟨fun s a s' hl _ e => by
    obtain ⟨l, x, lo⟩ := insertElement_spec hl e
    exact ⟨l, x, ⟨fun _ h => (by cases h), fun y hy => (by simp at hy; subst hy; exact lo)⟩⟩⟩

theorem PL.removeFromParent {c : Ctx} {x : Id} (hx : x ∈ c.2) :
    PL c (sinkUnit (.removeFromParent x)) (fun _ => Ctx.nil) :=
  ⟨fun s a s' hl hc e => by
    obtain ⟨out, e⟩ := sinkUnit_ok.mp e
    obtain ⟨d, hd, rfl⟩ := sink_ok.mp e
    obtain ⟨hb', hc', _, _, _, hsame⟩ := removeFromParent_spec hl.base (apply_remove hd)
    obtain ⟨l, x⟩ := hl.dom hb' hc' (hsame 0 (hc.lo _ hx).2)
    exact ⟨l, x, Ctx.ok_nil _⟩⟩

theorem PL.appendNode {c : Ctx} {p x : Id} (hp : c.elem p) (hx : x ∈ c.2) :
    PL c (sinkUnit (.append p (.node x))) (fun _ => Ctx.nil) :=
  ⟨fun s a s' hl hc e => by
    have hpe := hc.elemOk hp
    have hip : IpOk s.dom (.lastChild p) := ⟨ne_zero_of_isElement hl.base hpe, isContainer_of_isElement hpe⟩
    have e' : H5V.Model.HtmlTB.insertAt (.lastChild p) (.node x) s = .ok (a, s') := e
    obtain ⟨l, x, _⟩ := insertAt_spec (child := .node x) hl hip (hc.lo _ hx).childOk e'
    exact ⟨l, x, Ctx.ok_nil _⟩⟩

theorem PL.reparent {c : Ctx} {n np : Id} (hn : c.elem n) (hnp : c.elem np) :
    PL c (sinkUnit (.reparentChildren n np)) (fun _ => Ctx.nil) :=
  ⟨fun s a s' hl hc e => by
    have hne := hc.elemOk hn
    have hnpe := hc.elemOk hnp
    obtain ⟨out, e⟩ := sinkUnit_ok.mp e
    obtain ⟨d, hd, rfl⟩ := sink_ok.mp e
    obtain ⟨hb', hc', hk⟩ := reparentChildren_spec hl.base (ne_zero_of_isElement hl.base hne)
      (ne_zero_of_isElement hl.base hnpe) (isContainer_of_isElement hnpe) (apply_reparent hd)
    obtain ⟨l, x⟩ := hl.dom hb' hc' hk
    exact ⟨l, x, Ctx.ok_nil _⟩⟩

theorem PL.insertAppropriatelyNode {c : Ctx} {x : Id} (o : Option Id) (hx : x ∈ c.2) :
    PL c (insertAppropriately (.node x) o) (fun _ => Ctx.nil) :=
  ⟨fun s a s' hl hc e => by
    obtain ⟨l, x⟩ := insertAppropriately_spec (child := .node x) hl (Or.inl (hc.lo _ hx)) e
    exact ⟨l, x, Ctx.ok_nil _⟩⟩

theorem PL.push {c : Ctx} {x : Id} (hx : x ∈ c.2) : PL c (push x) (fun _ => Ctx.nil) :=
  ⟨fun s a s' hl hc e => by
    obtain ⟨l, hd⟩ := push_spec hl (hc.lo _ hx) e
    exact ⟨l, by rw [hd]; exact Ext.refl _, Ctx.ok_nil _⟩⟩

theorem Late.setOpen {s : State} (h : Late s) {l : List Id} {af : List FormatEntry}
    (h1 : ∀ e ∈ l, e ∈ s.openElems ∨ Loose s.dom e) (h2 : ∀ e ∈ l.tail, e ∈ s.openElems.tail ∨ Loose s.dom e) :
    Late { s with openElems := l, activeFormatting := af } := by
  refine ⟨h.base, h.pat, ⟨h.st.doc, h.st.ctx, ?_, ?_, h.st.head, h.st.ptt⟩, ⟨h.ml.mode, h.ml.orig, h.ml.tm⟩⟩
  · intro e he
    rcases h1 e he with h' | h'
    · exact h.st.oe e h'
    · exact h'.1
  · intro e he
    rcases h2 e he with h' | h'
    · exact h.st.tail e h'
    · exact h'.2

theorem mem_set_imp {l : List Id} {i : Nat} {x e : Id} (h : e ∈ l.set i x) : e ∈ l ∨ e = x := by
  rcases List.mem_or_eq_of_mem_set h with h | h
  · exact Or.inl h
  · exact Or.inr h

theorem tail_set (l : List Id) (i : Nat) (x : Id) :
    (l.set i x).tail = match i with | 0 => l.tail | j + 1 => l.tail.set j x := by
  cases l with
  | nil => cases i <;> simp
  | cons a r => cases i <;> simp

/-- `open_elems[i] = new` (and any update of the formatting list) with a loose `new` -/
theorem PL.setOpen {c : Ctx} {x : Id} (hx : x ∈ c.2) (i : Nat) (g : State → List FormatEntry) :
    PL c (modS fun s => { s with openElems := s.openElems.set i x, activeFormatting := g s })
      (fun _ => Ctx.nil) :=
  ⟨fun s a s' hl hc e => by
    rw [modS_ok.mp e]
    refine ⟨hl.setOpen ?_ ?_, Ext.refl _, Ctx.ok_nil _⟩
    · intro e he
      rcases mem_set_imp he with h | rfl
      · exact Or.inl h
      · exact Or.inr (hc.lo _ hx)
    · intro e he
      rw [tail_set] at he
      cases i with
      | zero => exact Or.inl he
      | succ j =>
        rcases mem_set_imp he with h | rfl
        · exact Or.inl h
        · exact Or.inr (hc.lo _ hx)⟩

theorem mem_insertIdx_imp {l : List Id} {i : Nat} {x e : Id} (h : e ∈ l.insertIdx i x) : e ∈ l ∨ e = x := by
  by_cases hi : i ≤ l.length
  · rcases (List.mem_insertIdx hi).mp h with h | h
    · exact Or.inr h
    · exact Or.inl h
  · rw [List.insertIdx_of_length_lt (Nat.lt_of_not_le hi)] at h
    exact Or.inl h

theorem mem_tail_insertIdx_succ {l : List Id} {i : Nat} {x e : Id} (h : e ∈ (l.insertIdx (i + 1) x).tail) :
    e ∈ l.tail ∨ e = x := by
  cases l with
  | nil => simp at h
  | cons a r =>
    simp only [List.insertIdx_succ_cons, List.tail_cons] at h
    exact mem_insertIdx_imp h

/-- `open_elems.insert(i + 1, new)` with a loose `new` -/
theorem PL.insertOpen {c : Ctx} {x : Id} (hx : x ∈ c.2) (i : Nat) :
    PL c (modS fun s => { s with openElems := s.openElems.insertIdx (i + 1) x }) (fun _ => Ctx.nil) :=
  ⟨fun s a s' hl hc e => by
    rw [modS_ok.mp e]
    have := hl.setOpen (l := s.openElems.insertIdx (i + 1) x) (af := s.activeFormatting) ?_ ?_
    · exact ⟨this, Ext.refl _, Ctx.ok_nil _⟩
    · intro e he
      rcases mem_insertIdx_imp he with h | rfl
      · exact Or.inl h
      · exact Or.inr (hc.lo _ hx)
    · intro e he
      rcases mem_tail_insertIdx_succ he with h | rfl
      · exact Or.inl h
      · exact Or.inr (hc.lo _ hx)⟩

/-- `open_elems[i]` is an element -/
theorem PL.readOpen {c : Ctx} (i : Nat) (site1 site2 site3 : String) :
    PL c (do match (← getS).openElems[i]? with
            | some n => Pure.pure n
            | none => panicAt site1 site2 site3 : M Id) (fun n => ([n], [])) := by
  apply PL.ofGetS
  intro s hl hc a s' e
  cases hi : s.openElems[i]? with
  | none => simp only [hi] at e; exact absurd e panicAt_ok
  | some n =>
    simp only [hi] at e
    obtain ⟨rfl, rfl⟩ := pure_ok.mp e
    refine ⟨hl, Ext.refl _, ⟨?_, fun _ h => (by cases h)⟩⟩
    intro x hx
    simp at hx; subst hx
    exact hl.st.oe _ (List.mem_of_getElem? hi)

theorem PL.panic_bind {α β : Type} {c : Ctx} (a b t : String) (f : α → M β) {R : β → Ctx} :
    PL c (panicAt a b t >>= f) R :=
  ⟨fun _ _ _ _ _ e => by obtain ⟨_, _, e1, _⟩ := bind_ok.mp e; exact absurd e1 panicAt_ok⟩

theorem findFurthestBlock_mem : ∀ (l : List Id) (i : Nat) (s s' : State) (j : Nat) (e : Id),
    findFurthestBlock l i s = .ok (some (j, e), s') → e ∈ l
  | [], _, s, s', j, e, h => by
    unfold findFurthestBlock at h
    obtain ⟨h1, _⟩ := pure_ok.mp h
    cases h1
  | x :: rest, i, s, s', j, e, h => by
    unfold findFurthestBlock at h
    obtain ⟨b, s1, e1, e2⟩ := bind_ok.mp h
    by_cases hb : b = true
    · simp only [hb, if_true] at e2
      obtain ⟨h1, _⟩ := pure_ok.mp e2
      cases h1
      simp
    · simp only [hb] at e2
      exact List.mem_cons_of_mem _ (findFurthestBlock_mem rest (i + 1) s1 s' j e e2)

/-- what is known about the furthest block found above stack index `k` -/
def fbCtx (k : Nat) : Option (Nat × Id) → Ctx
  | some (_, e) => if (k == 0) = true then Ctx.nil else ([], [e])
  | none => Ctx.nil

theorem PL.furthest {β : Type} {c : Ctx} {k : Nat} {f : Option (Nat × Id) → M β} {R : β → Ctx}
    (h : ∀ r, PL ((fbCtx k r).app c) (f r) R) :
    PL c (getS >>= fun s => findFurthestBlock (List.drop k s.openElems) k >>= f) R := by
  apply PL.ofGetS
  intro s hl hc a s' e
  obtain ⟨r, s1, e1, e2⟩ := bind_ok.mp e
  obtain ⟨q1, m1⟩ := (inferInstance : Quiet (findFurthestBlock (List.drop k s.openElems) k)).q _ _ _ hl.ml e1
  have hl1 := hl.qrel q1 m1
  have hctx : (fbCtx k r).ok s1.dom := by
    cases r with
    | none => exact Ctx.ok_nil _
    | some p =>
      obtain ⟨j, el⟩ := p
      unfold fbCtx
      by_cases hk : (k == 0) = true
      · simp only [hk, if_true]; exact Ctx.ok_nil _
      · simp only [hk]
        refine ⟨fun _ h => (by cases h), fun y hy => ?_⟩
        simp at hy; subst hy
        have hmem := findFurthestBlock_mem _ _ _ _ _ _ e1
        have hk' : k ≠ 0 := by intro h0; subst h0; simp at hk
        have htail : y ∈ s.openElems.tail := by
          obtain ⟨k', rfl⟩ := Nat.exists_eq_succ_of_ne_zero hk'
          rw [← List.drop_one]
          have hd : List.drop (k' + 1) s.openElems = List.drop k' (List.drop 1 s.openElems) := by
            rw [List.drop_drop, Nat.add_comm]
          rw [hd] at hmem
          exact List.mem_of_mem_drop hmem
        have : Loose s.dom y := ⟨hl.st.oe y (List.mem_of_mem_tail htail), hl.st.tail y htail⟩
        exact this.ext q1.sk.ext
  obtain ⟨l2, x2, r2⟩ := (h r).p s1 a s' hl1 (Ctx.ok_app hctx (hc.ext q1.sk.ext)) e2
  exact ⟨l2, q1.sk.ext.trans x2, r2⟩

end H5V.Props.C06
