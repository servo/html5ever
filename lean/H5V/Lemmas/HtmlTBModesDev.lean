import H5V.Lemmas.HtmlTBModesSim2
/-!
**The one place where the standard's insertion modes are not executable as written**, and the
standard's driver (`dispatch`, `loop`, `processSTok`, `processChars`, `processToken`, `run`,
`parseDocument`, `parseFragment`) over the rules completed there.

"in cell", a start tag `caption`, `col`, `colgroup`, `tbody`, `td`, `tfoot`, `th`, `thead`, `tr`: the standard
says "Assert: The stack of open elements has a `td` or `th` element in table scope", and
`Spec.TreeModes.inCell` throws when the asserted condition fails.  html5ever is defensive there (parse
error, ignore the token); `byModeDev` is `Spec.TreeModes.byMode` with exactly this case defined that way
(`cellAssertFails`).  This is NOT a deviation: whenever the unmodified specification succeeds, the completed
one gives the same result (`byModeDev_of_byMode`, …, `parseDocumentDev_of_parseDocument`), and
`byModeDev = byMode` unless `cellAssertFails` (`byModeDev_eq`).  The copies of the driver are literally
those of `Spec.TreeModes4` with `byMode` replaced.

Earlier versions of html5ever deviated from the standard in four places (A: DOCTYPE in "in table text" not
flushing the pending table text; B: `table_outer` of `process_chars_in_table` lacking `template`; C: the
"any other end tag" loop of the foreign-content rules testing the bottom of the stack before the HTML-element
test; D: the `input` start tag in a `select`-context fragment not being ignored).  All four are fixed in the code
the model follows; the inputs that showed them are regression examples in `H5V.Props.C02Modes`.
-/
namespace H5V.Lemmas.HtmlTBModes
open H5V.Spec.TreeModes
open H5V.Spec.TreeAlgo (Str)
open H5V.Spec

section
variable {N : Type} [DecidableEq N]

def isCharacter : STok → Bool
  | .character _ => true
  | _ => false

def isDoctype : STok → Bool
  | .doctype .. => true
  | _ => false

theorem isDoctype_stokOf (tok : H5V.Model.HtmlTB.Token) : isDoctype (stokOf tok) = false := by
  cases tok with
  | tag t => simp only [stokOf, stokOfTag]; split <;> rfl
  | _ => rfl

def isStartTag : STok → Option Spec.TreeModes.Tag
  | .startTag t => some t
  | _ => none

/-- **not a deviation**: the one place where the standard only *asserts* ("in cell", a start tag `caption`,
`col`, `colgroup`, `tbody`, `td`, `tfoot`, `th`, `thead`, `tr`: "Assert: The stack of open elements has a `td` or
`th` element in table scope") and `Spec.TreeModes.inCell` therefore throws when the asserted condition fails.
html5ever is defensive there: parse error, ignore the token.  `cellAssertFails` is that case. -/
@[simp] def cellAssertFails (s : Spec.TreeModes.State N) (tok : STok) : Bool :=
  s.mode == .inCell &&
  (match isStartTag tok with
    | some t => t.isOneOf ["caption", "col", "colgroup", "tbody", "td", "tfoot", "th", "thead", "tr"]
    | none => false) &&
  !hasAnyInTableScope s ["td", "th"]

/-- the rules of the insertion modes, with the asserted-impossible case of "in cell" defined -/
def byModeDev (cfg : Config N) (s : Spec.TreeModes.State N) (tok : STok) : M (Step N) :=
  if cellAssertFails s tok then pure (.done (s.err "in cell: no cell in table scope (asserted impossible)"))
  else byMode cfg s tok

theorem byModeDev_eq (cfg : Config N) (s : Spec.TreeModes.State N) (tok : STok)
    (hc : cellAssertFails s tok = false) : byModeDev cfg s tok = byMode cfg s tok := by
  simp only [byModeDev, hc, Bool.false_eq_true, if_false]

theorem cellAssertFails_of_mode (s : Spec.TreeModes.State N) (tok : STok) (h : s.mode ≠ .inCell) :
    cellAssertFails s tok = false := by
  have : (s.mode == IMode.inCell) = false := by simpa using h
  simp only [cellAssertFails, this, Bool.false_and]

/-! the driver of `Spec.TreeModes4`, over `byModeDev` -/

def dispatchDev (cfg : Config N) (s : Spec.TreeModes.State N) (tok : STok) : M (Step N) :=
  if TreeAlgo.useHtmlRules (adjustedCurrentNode cfg s) (tokenKind tok) then byModeDev cfg s tok
  else foreign cfg s tok

def loopDev (cfg : Config N) : Nat → Bool → Spec.TreeModes.State N → STok → M (Spec.TreeModes.State N)
  | 0, _, _, _ => throw "out of fuel"
  | fuel + 1, html, s, tok => do
    let r ← if html then byModeDev cfg s tok else dispatchDev cfg s tok
    match r with
    | .done s => pure s
    | .reprocess s => loopDev cfg fuel false s tok
    | .reprocessHtml s => loopDev cfg fuel true s tok

def processSTokDev (cfg : Config N) (fuel : Nat) (s : Spec.TreeModes.State N) (tok : STok) : M (Spec.TreeModes.State N) :=
  if s.stopped then pure s
  else if s.ignoreLf then
    let s := { s with ignoreLf := false }
    if tok == .character '\n' then pure s else loopDev cfg fuel false s tok
  else loopDev cfg fuel false s tok

def processCharsDev (cfg : Config N) (fuel : Nat) : Spec.TreeModes.State N → Str → M (Spec.TreeModes.State N)
  | s, [] => pure s
  | s, c :: cs => do
    let s ← processSTokDev cfg fuel s (.character c)
    processCharsDev cfg fuel s cs

def processSToksDev (cfg : Config N) (fuel : Nat) : Spec.TreeModes.State N → List STok → M (Spec.TreeModes.State N)
  | s, [] => pure s
  | s, t :: ts => do
    let s ← processSTokDev cfg fuel s t
    processSToksDev cfg fuel s ts

def processTokenDev (cfg : Config N) (fuel : Nat) (s : Spec.TreeModes.State N) (tok : Spec.TreeModes.Token) :
    M (Spec.TreeModes.State N) := do
  let s := { s with out := {} }
  let s ← match tok with
    | .chars cs => processCharsDev cfg fuel s cs
    | _ => processSToksDev cfg fuel s tok.expand
  let s := match tok with
    | .startTag t => if t.selfClosing && !s.out.ackSelfClosing then s.err "non-void element with self-closing flag" else s
    | _ => s
  pure { s with outs := s.outs ++ [s.out] }

def runDev (cfg : Config N) (fuel : Nat) : Spec.TreeModes.State N → List Spec.TreeModes.Token → M (Spec.TreeModes.State N)
  | s, [] => pure s
  | s, t :: ts => do
    let s ← processTokenDev cfg fuel s t
    runDev cfg fuel s ts

def parseDocumentDev (cfg : Config N) (fuel : Nat) (supply : List N) (toks : List Spec.TreeModes.Token) :
    M (Spec.TreeModes.State N) :=
  runDev cfg fuel (initialState supply) toks

def parseFragmentDev (cfg : Config N) (fuel : Nat) (docMode : TreeAlgo.DocMode) (form : Option N) (supply : List N)
    (toks : List Spec.TreeModes.Token) : M (Spec.TreeModes.State N) := do
  let s ← fragmentState cfg docMode form supply
  runDev cfg fuel s toks


/-! ### whenever the unmodified specification succeeds, the completed one gives the same result -/

/-- the message with which `Spec.TreeModes.inCell` stops when the standard's Assert is violated -/
def cellAssertMsg : String := "in cell: Assert failed: no td or th in table scope"

theorem byMode_error_of_assert' (cfg : Config N) (s : Spec.TreeModes.State N) (tok : STok)
    (h : cellAssertFails s tok = true) : byMode cfg s tok = .error cellAssertMsg := by
  simp only [cellAssertFails, Bool.and_eq_true, beq_iff_eq, Bool.not_eq_true'] at h
  obtain ⟨⟨hm, ht⟩, hs⟩ := h
  cases tok with
  | startTag t =>
    simp only [isStartTag] at ht
    simp only [byMode, hm, inCell, ht, if_true, hs, Bool.not_false]
    rfl
  | _ => simp [isStartTag] at ht

theorem byMode_error_of_assert (cfg : Config N) (s : Spec.TreeModes.State N) (tok : STok)
    (h : cellAssertFails s tok = true) : ∃ e, byMode cfg s tok = .error e :=
  ⟨_, byMode_error_of_assert' cfg s tok h⟩

theorem byModeDev_of_byMode {cfg : Config N} {s : Spec.TreeModes.State N} {tok : STok} {r : Step N}
    (h : byMode cfg s tok = .ok r) : byModeDev cfg s tok = .ok r := by
  cases hc : cellAssertFails s tok
  · rw [byModeDev_eq cfg s tok hc]; exact h
  · obtain ⟨e, he⟩ := byMode_error_of_assert cfg s tok hc
    rw [he] at h; cases h

theorem dispatchDev_of_dispatch {cfg : Config N} {s : Spec.TreeModes.State N} {tok : STok} {r : Step N}
    (h : dispatch cfg s tok = .ok r) : dispatchDev cfg s tok = .ok r := by
  unfold dispatch at h
  unfold dispatchDev
  split
  · rename_i hu; rw [if_pos hu] at h; exact byModeDev_of_byMode h
  · rename_i hu; rw [if_neg hu] at h; exact h

theorem loopDev_of_loop {cfg : Config N} : ∀ (fuel : Nat) (html : Bool) (s : Spec.TreeModes.State N) (tok : STok)
    (r : Spec.TreeModes.State N), loop cfg fuel html s tok = .ok r → loopDev cfg fuel html s tok = .ok r := by
  intro fuel
  induction fuel with
  | zero => intro html s tok r h; simp [loop] at h
  | succ fuel ih =>
    intro html s tok r h
    rw [loop] at h
    rw [loopDev]
    cases html
    · simp only [Bool.false_eq_true, if_false] at h ⊢
      cases hd : dispatch cfg s tok with
      | error e => rw [hd] at h; cases h
      | ok st =>
        rw [hd] at h
        rw [dispatchDev_of_dispatch hd]
        cases st with
        | done s1 => exact h
        | reprocess s1 => exact ih _ _ _ _ h
        | reprocessHtml s1 => exact ih _ _ _ _ h
    · simp only [if_true] at h ⊢
      cases hd : byMode cfg s tok with
      | error e => rw [hd] at h; cases h
      | ok st =>
        rw [hd] at h
        rw [byModeDev_of_byMode hd]
        cases st with
        | done s1 => exact h
        | reprocess s1 => exact ih _ _ _ _ h
        | reprocessHtml s1 => exact ih _ _ _ _ h

theorem processSTokDev_of {cfg : Config N} {fuel : Nat} {s r : Spec.TreeModes.State N} {tok : STok}
    (h : processSTok cfg fuel s tok = .ok r) : processSTokDev cfg fuel s tok = .ok r := by
  unfold processSTok at h
  unfold processSTokDev
  split
  · rename_i hs; rw [if_pos hs] at h; exact h
  · rename_i hs
    rw [if_neg hs] at h
    split
    · rename_i hl
      rw [if_pos hl] at h
      dsimp only at h ⊢
      split
      · rename_i ht; rw [if_pos ht] at h; exact h
      · rename_i ht; rw [if_neg ht] at h; exact loopDev_of_loop _ _ _ _ _ h
    · rename_i hl; rw [if_neg hl] at h; exact loopDev_of_loop _ _ _ _ _ h

theorem processCharsDev_of {cfg : Config N} {fuel : Nat} : ∀ (cs : Str) (s r : Spec.TreeModes.State N),
    processChars cfg fuel s cs = .ok r → processCharsDev cfg fuel s cs = .ok r := by
  intro cs
  induction cs with
  | nil => intro s r h; exact h
  | cons c cs ih =>
    intro s r h
    simp only [processChars] at h
    simp only [processCharsDev]
    cases hp : processSTok cfg fuel s (.character c) with
    | error e => rw [hp] at h; cases h
    | ok s1 => rw [hp] at h; rw [processSTokDev_of hp]; exact ih _ _ h

theorem processSToksDev_of {cfg : Config N} {fuel : Nat} : ∀ (ts : List STok) (s r : Spec.TreeModes.State N),
    processSToks cfg fuel s ts = .ok r → processSToksDev cfg fuel s ts = .ok r := by
  intro ts
  induction ts with
  | nil => intro s r h; exact h
  | cons t ts ih =>
    intro s r h
    simp only [processSToks] at h
    simp only [processSToksDev]
    cases hp : processSTok cfg fuel s t with
    | error e => rw [hp] at h; cases h
    | ok s1 => rw [hp] at h; rw [processSTokDev_of hp]; exact ih _ _ h

theorem processTokenDev_of {cfg : Config N} {fuel : Nat} {s r : Spec.TreeModes.State N} {tok : Spec.TreeModes.Token}
    (h : processToken cfg fuel s tok = .ok r) : processTokenDev cfg fuel s tok = .ok r := by
  unfold processToken at h
  unfold processTokenDev
  cases tok with
  | chars cs =>
    dsimp only at h ⊢
    cases hp : processChars cfg fuel { s with out := {} } cs with
    | error e => rw [hp] at h; cases h
    | ok s1 => rw [hp] at h; rw [processCharsDev_of _ _ _ hp]; exact h
  | _ =>
    dsimp only at h ⊢
    cases hp : processSToks cfg fuel { s with out := {} } _ with
    | error e => rw [hp] at h; cases h
    | ok s1 => rw [hp] at h; rw [processSToksDev_of _ _ _ hp]; exact h

theorem runDev_of_run {cfg : Config N} {fuel : Nat} : ∀ (toks : List Spec.TreeModes.Token) (s r : Spec.TreeModes.State N),
    run cfg fuel s toks = .ok r → runDev cfg fuel s toks = .ok r := by
  intro toks
  induction toks with
  | nil => intro s r h; exact h
  | cons t ts ih =>
    intro s r h
    simp only [run] at h
    simp only [runDev]
    cases hp : processToken cfg fuel s t with
    | error e => rw [hp] at h; cases h
    | ok s1 => rw [hp] at h; rw [processTokenDev_of hp]; exact ih _ _ h

/-- **the completion is conservative**: a successful run of the unmodified specification is a run of the
completed one -/
theorem parseDocumentDev_of_parseDocument {cfg : Config N} {fuel : Nat} {supply : List N} {toks : List Spec.TreeModes.Token}
    {r : Spec.TreeModes.State N} (h : parseDocument cfg fuel supply toks = .ok r) :
    parseDocumentDev cfg fuel supply toks = .ok r := runDev_of_run _ _ _ h

theorem parseFragmentDev_of_parseFragment {cfg : Config N} {fuel : Nat} {docMode : TreeAlgo.DocMode} {form : Option N}
    {supply : List N} {toks : List Spec.TreeModes.Token} {r : Spec.TreeModes.State N}
    (h : parseFragment cfg fuel docMode form supply toks = .ok r) :
    parseFragmentDev cfg fuel docMode form supply toks = .ok r := by
  unfold parseFragment at h
  unfold parseFragmentDev
  cases hf : fragmentState cfg docMode form supply with
  | error e => rw [hf] at h; cases h
  | ok s1 => rw [hf] at h; exact runDev_of_run _ _ _ h

/-! ### conversely: where the completed specification succeeds, the unmodified one gives the same result or stops
at the violated Assert of "in cell" -/

/-- `a` (unmodified) gives the result of `b` (completed) or stops with `cellAssertMsg` -/
def StdOrAssert {α : Type} (a b : M α) : Prop :=
  ∀ r, b = .ok r → a = .ok r ∨ a = .error cellAssertMsg

theorem StdOrAssert.refl {α : Type} (a : M α) : StdOrAssert a a := fun _ h => Or.inl h

theorem StdOrAssert.bind {α β : Type} {a b : M α} {f g : α → M β} (h : StdOrAssert a b)
    (hf : ∀ x, StdOrAssert (f x) (g x)) : StdOrAssert (a >>= f) (b >>= g) := by
  intro r hr
  cases hb : b with
  | error e => rw [hb] at hr; cases hr
  | ok x =>
    rw [hb] at hr
    rcases h x hb with ha | ha
    · rw [ha]; exact hf x r hr
    · rw [ha]; exact Or.inr rfl

theorem stdOrAssert_byMode (cfg : Config N) (s : Spec.TreeModes.State N) (tok : STok) :
    StdOrAssert (byMode cfg s tok) (byModeDev cfg s tok) := by
  intro r hr
  cases hc : cellAssertFails s tok
  · rw [byModeDev_eq cfg s tok hc] at hr; exact Or.inl hr
  · exact Or.inr (byMode_error_of_assert' cfg s tok hc)

theorem stdOrAssert_dispatch (cfg : Config N) (s : Spec.TreeModes.State N) (tok : STok) :
    StdOrAssert (dispatch cfg s tok) (dispatchDev cfg s tok) := by
  unfold dispatch dispatchDev
  split
  · exact stdOrAssert_byMode cfg s tok
  · exact StdOrAssert.refl _

theorem stdOrAssert_loop (cfg : Config N) : ∀ (fuel : Nat) (html : Bool) (s : Spec.TreeModes.State N) (tok : STok),
    StdOrAssert (loop cfg fuel html s tok) (loopDev cfg fuel html s tok) := by
  intro fuel
  induction fuel with
  | zero => intro html s tok r h; simp [loopDev] at h
  | succ fuel ih =>
    intro html s tok
    rw [loop, loopDev]
    have hk : ∀ st : Step N, StdOrAssert
        (match st with
          | Step.done s => pure s
          | Step.reprocess s => loop cfg fuel false s tok
          | Step.reprocessHtml s => loop cfg fuel true s tok)
        (match st with
          | Step.done s => pure s
          | Step.reprocess s => loopDev cfg fuel false s tok
          | Step.reprocessHtml s => loopDev cfg fuel true s tok) := by
      intro st
      cases st with
      | done s1 => exact StdOrAssert.refl _
      | reprocess s1 => exact ih _ _ _
      | reprocessHtml s1 => exact ih _ _ _
    cases html
    · simp only [Bool.false_eq_true, if_false]
      exact StdOrAssert.bind (stdOrAssert_dispatch cfg s tok) hk
    · simp only [if_true]
      exact StdOrAssert.bind (stdOrAssert_byMode cfg s tok) hk

theorem stdOrAssert_processSTok (cfg : Config N) (fuel : Nat) (s : Spec.TreeModes.State N) (tok : STok) :
    StdOrAssert (processSTok cfg fuel s tok) (processSTokDev cfg fuel s tok) := by
  unfold processSTok processSTokDev
  split
  · exact StdOrAssert.refl _
  · split
    · dsimp only
      split
      · exact StdOrAssert.refl _
      · exact stdOrAssert_loop _ _ _ _ _
    · exact stdOrAssert_loop _ _ _ _ _

theorem stdOrAssert_processChars (cfg : Config N) (fuel : Nat) : ∀ (cs : Str) (s : Spec.TreeModes.State N),
    StdOrAssert (processChars cfg fuel s cs) (processCharsDev cfg fuel s cs) := by
  intro cs
  induction cs with
  | nil => intro s; exact StdOrAssert.refl _
  | cons c cs ih =>
    intro s
    simp only [processChars, processCharsDev]
    exact StdOrAssert.bind (stdOrAssert_processSTok _ _ _ _) (fun x => ih x)

theorem stdOrAssert_processSToks (cfg : Config N) (fuel : Nat) : ∀ (ts : List STok) (s : Spec.TreeModes.State N),
    StdOrAssert (processSToks cfg fuel s ts) (processSToksDev cfg fuel s ts) := by
  intro ts
  induction ts with
  | nil => intro s; exact StdOrAssert.refl _
  | cons t ts ih =>
    intro s
    simp only [processSToks, processSToksDev]
    exact StdOrAssert.bind (stdOrAssert_processSTok _ _ _ _) (fun x => ih x)

theorem stdOrAssert_processToken (cfg : Config N) (fuel : Nat) (s : Spec.TreeModes.State N) (tok : Spec.TreeModes.Token) :
    StdOrAssert (processToken cfg fuel s tok) (processTokenDev cfg fuel s tok) := by
  unfold processToken processTokenDev
  cases tok with
  | chars cs =>
    dsimp only
    exact StdOrAssert.bind (stdOrAssert_processChars _ _ _ _) (fun _ => StdOrAssert.refl _)
  | _ =>
    dsimp only
    exact StdOrAssert.bind (stdOrAssert_processSToks _ _ _ _) (fun _ => StdOrAssert.refl _)

theorem stdOrAssert_run (cfg : Config N) (fuel : Nat) : ∀ (toks : List Spec.TreeModes.Token) (s : Spec.TreeModes.State N),
    StdOrAssert (run cfg fuel s toks) (runDev cfg fuel s toks) := by
  intro toks
  induction toks with
  | nil => intro s; exact StdOrAssert.refl _
  | cons t ts ih =>
    intro s
    simp only [run, runDev]
    exact StdOrAssert.bind (stdOrAssert_processToken _ _ _ _) (fun x => ih x)

/-- **the completion only completes**: where `parseDocumentDev` yields `r`, the unmodified `parseDocument` yields `r`
too, or stops at the violated Assert of "in cell" -/
theorem parseDocument_of_parseDocumentDev {cfg : Config N} {fuel : Nat} {supply : List N} {toks : List Spec.TreeModes.Token}
    {r : Spec.TreeModes.State N} (h : parseDocumentDev cfg fuel supply toks = .ok r) :
    parseDocument cfg fuel supply toks = .ok r ∨ parseDocument cfg fuel supply toks = .error cellAssertMsg :=
  stdOrAssert_run cfg fuel toks _ r h

theorem parseFragment_of_parseFragmentDev {cfg : Config N} {fuel : Nat} {docMode : TreeAlgo.DocMode} {form : Option N}
    {supply : List N} {toks : List Spec.TreeModes.Token} {r : Spec.TreeModes.State N}
    (h : parseFragmentDev cfg fuel docMode form supply toks = .ok r) :
    parseFragment cfg fuel docMode form supply toks = .ok r ∨
      parseFragment cfg fuel docMode form supply toks = .error cellAssertMsg := by
  unfold parseFragment
  unfold parseFragmentDev at h
  exact StdOrAssert.bind (StdOrAssert.refl _) (fun x => stdOrAssert_run cfg fuel toks x) r h

end
end H5V.Lemmas.HtmlTBModes
