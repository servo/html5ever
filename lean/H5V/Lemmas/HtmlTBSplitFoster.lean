import H5V.Lemmas.HtmlTBSplitQuery
/-!
C03 lifted to the tree: the queries "is foreign" and "current node in …" do not look at the
`foster_parenting` flag (`FNat`: they commute with setting the flag), so their answers transfer between
states that differ in it.
-/
namespace H5V.Lemmas.TBSplit
open H5V.Model.Dom (Id QualName Attr NodeOrText SinkOp Output ElementFlags QuirksMode Dom)
open H5V.Model.HtmlTok (TagKind RawKind)
open H5V.Model.HtmlTB

/-- set the `foster_parenting` flag -/
@[reducible] def sf (b : Bool) (s : State) : State := { s with fosterParenting := b }

/-- map the state of a result -/
def mapS {α : Type} (g : State → State) : Except String (α × State) → Except String (α × State)
  | .ok (a, s) => .ok (a, g s)
  | .error e => .error e

/-- `m` commutes with setting the flag -/
def FNat {α : Type} (m : M α) : Prop := ∀ s b, m (sf b s) = mapS (sf b) (m s)

theorem fnat_pure {α : Type} (a : α) : FNat (pure a : M α) := fun _ _ => rfl
@[fnat]
theorem fnat_throw {α : Type} (e : String) : FNat (throw e : M α) := fun _ _ => rfl

theorem fnat_bind {α β : Type} {m : M α} {f : α → M β} (hm : FNat m) (hf : ∀ a, FNat (f a)) : FNat (m >>= f) := by
  intro s b
  rw [bind_apply, bind_apply, hm s b]
  cases m s with
  | error e => rfl
  | ok v =>
    obtain ⟨a, s'⟩ := v
    exact hf a s' b

theorem fnat_pure_bind {α β : Type} {a : α} {f : α → M β} (h : FNat (f a)) : FNat ((pure a : M α) >>= f) := h
theorem fnat_throw_bind {α β : Type} (e : String) (f : α → M β) : FNat ((throw e : M α) >>= f) := fun _ _ => rfl
theorem fnat_panicAt_bind {α β : Type} (a b c : String) (f : α → M β) : FNat ((panicAt a b c : M α) >>= f) :=
  fnat_throw_bind _ _
@[fnat]
theorem fnat_panicAt {α : Type} (a b c : String) : FNat (panicAt a b c : M α) := fnat_throw _

theorem fnat_getS_bind {β : Type} {f : State → M β} (h : ∀ s, FNat (f s)) (hst : ∀ s b, f (sf b s) = f s) :
    FNat (getS >>= f) := by
  intro s b
  rw [bind_apply, bind_apply, getS_apply, getS_apply]
  show f (sf b s) (sf b s) = mapS (sf b) (f s s)
  rw [hst s b]
  exact h s s b

theorem fnat_ite {α : Type} {c : Prop} {_ : Decidable c} {a b : M α} (ha : c → FNat a) (hb : ¬ c → FNat b) :
    FNat (if c then a else b) := by
  split
  · exact ha ‹_›
  · exact hb ‹_›

@[fnat]
theorem fnat_sink (op : SinkOp) : FNat (sink op) := by
  intro s b
  rw [sink_apply, sink_apply]
  show (match s.dom.apply op with | .error e => _ | .ok (d, out) => _) = _
  cases s.dom.apply op with
  | error e => rfl
  | ok v => rfl

/-- the lemma about a query of the model is found through the simp set `fnat` -/
macro "f_step" : tactic =>
  `(tactic| first
    | (with_reducible intro _)
    | (with_reducible exact fnat_pure _)
    | (with_reducible refine fnat_ite ?_ ?_)
    | (with_reducible exact fnat_throw_bind _ _)
    | (with_reducible exact fnat_panicAt_bind _ _ _ _)
    | (with_reducible refine fnat_pure_bind ?_)
    | ((with_reducible refine fnat_getS_bind ?_ ?_); rotate_left; exact fun _ _ => rfl)
    | ((with_reducible refine fnat_bind ?_ ?_); try simp only [fnat])
    | split
    | simp only [fnat]
    | assumption
    | (simp (config := { zeta := true }) only [pure_bind]))

macro "f_auto" : tactic => `(tactic| repeat' f_step)

@[fnat]
theorem fnat_sinkBool (op : SinkOp) : FNat (sinkBool op) := by unfold sinkBool; f_auto
@[fnat]
theorem fnat_elemName (h : Id) : FNat (elemName h) := by unfold elemName; f_auto

@[fnat]
theorem currentNode_f : FNat currentNode := by unfold currentNode; f_auto
@[fnat]
theorem adjustedCurrentNode_f : FNat adjustedCurrentNode := by unfold adjustedCurrentNode; f_auto
theorem currentNodeIn_f (set : EName → Bool) : FNat (currentNodeIn set) := by unfold currentNodeIn; f_auto
theorem currentNodeNamedS_f (n : Str) : FNat (currentNodeNamedS n) := by
  unfold currentNodeNamedS htmlElemNamedS; f_auto
theorem isForeign_f (t : Token) : FNat (isForeign t) := by unfold isForeign; f_auto

/-- an answer at `sf b s` comes from the same answer at `s` -/
theorem FNat.back {α : Type} {m : M α} (h : FNat m) (hq : QResp m) {s : State} {b : Bool} {a : α} {s' : State}
    (hs : m (sf b s) = .ok (a, s')) : ∃ tr, m s = .ok (a, withTr s tr) := by
  rw [h s b] at hs
  rcases hq.run s with ⟨e, he⟩ | ⟨a', tr, ha⟩
  · rw [he] at hs; cases hs
  · rw [ha] at hs
    simp only [mapS, Except.ok.injEq, Prod.mk.injEq] at hs
    exact ⟨tr, by rw [ha, hs.1]⟩

theorem FNat.fwd {α : Type} {m : M α} (h : FNat m) {s : State} (b : Bool) {a : α} {tr : List (SinkOp × Output)}
    (hs : m s = .ok (a, withTr s tr)) : m (sf b s) = .ok (a, withTr (sf b s) tr) := by
  rw [h s b, hs]; rfl

/-- **transfer of an answer between states that agree up to the flag and up to `QSim`** -/
theorem answer_transfer {α : Type} {m : M α} (hf : FNat m) (hq : QResp m) {s u : State} {a : α}
    {tr : List (SinkOp × Output)} (hs : m s = .ok (a, withTr s tr)) (hsu : QSim (sf false s) (sf false u)) :
    ∃ tr', m u = .ok (a, withTr u tr') := by
  have h1 := hf.fwd false hs
  obtain ⟨tr2, h2⟩ := hq.transfer hsu h1
  exact hf.back hq h2

end H5V.Lemmas.TBSplit
