import H5V.Lemmas.HtmlTBContractRun
/-!
# TreeSink contract for the HTML tree builder: the constructors `TreeBuilder::new`, `new_for_fragment`

`new_for_fragment` calls `create_root` and `reset_insertion_mode` while the insertion mode is still Initial; both are
independent of the mode (`MI`), so their specifications are transported from a state with a late mode.
-/
namespace H5V.Lemmas.TBC
open H5V.Model.HtmlTB
open H5V.Model.Dom (Id QualName Attr NodeOrText SinkOp Output ElementFlags QuirksMode Dom NodeData Node Contract)
open H5V.Lemmas.Dom
open H5V.Props.C20 (Inv Run)
open H5V.Lemmas.TBSafe (IsEl nm sigOf Ext apply_ext)

variable {d0 : Dom}

/-! ### computations that neither read nor write the insertion mode -/

def setM (x : Mode) (s : State) : State := { s with mode := x }

/-- `m` commutes with a change of the insertion mode -/
def MI {α : Type} (m : M α) : Prop :=
  ∀ s x, m (setM x s) = (m s).map (fun p => (p.1, setM x p.2))

theorem mi_pure {α : Type} (a : α) : MI (pure a : M α) := fun _ _ => rfl

theorem mi_throw {α : Type} (e : String) : MI (throw e : M α) := fun _ _ => rfl

theorem mi_panicAt {α : Type} {cls site text : String} : MI (panicAt cls site text : M α) := fun _ _ => rfl

theorem mi_bind {α β : Type} {m : M α} {f : α → M β} (h1 : MI m) (h2 : ∀ a, MI (f a)) : MI (m >>= f) := by
  intro s x
  show (StateT.bind m f) (setM x s) = ((StateT.bind m f) s).map _
  unfold StateT.bind
  rw [h1 s x]
  cases hm : m s with
  | error e => rfl
  | ok p =>
    obtain ⟨a, s'⟩ := p
    exact h2 a s' x

theorem mi_getS_bind {β : Type} {f : State → M β} (h : ∀ s x, f (setM x s) = f s) (h2 : ∀ s0, MI (f s0)) :
    MI (getS >>= f) := by
  intro s x
  show f (setM x s) (setM x s) = (f s s).map _
  rw [h s x]
  exact h2 s s x

theorem mi_sink (op : SinkOp) : MI (sink op) := by
  intro s x
  unfold sink setM
  dsimp only
  cases s.dom.apply op with
  | error e => rfl
  | ok p => rfl

theorem mi_modS {g : State → State} (h : ∀ s x, g (setM x s) = setM x (g s)) : MI (modS g) := by
  intro s x
  show Except.ok ((), g (setM x s)) = _
  rw [h]; rfl

theorem mi_ite {α : Type} {c : Prop} [Decidable c] {a b : M α} (h1 : MI a) (h2 : MI b) :
    MI (if c then a else b) := by
  by_cases hc : c
  · rw [if_pos hc]; exact h1
  · rw [if_neg hc]; exact h2

theorem mi_sinkUnit (op : SinkOp) : MI (sinkUnit op) := mi_bind (mi_sink op) (fun _ => mi_pure _)

theorem mi_sinkNode (op : SinkOp) : MI (sinkNode op) := by
  unfold sinkNode
  refine mi_bind (mi_sink op) (fun o => ?_)
  cases o <;> first | exact mi_pure _ | exact mi_throw _

theorem mi_elemName (h : Id) : MI (elemName h) := by
  unfold elemName
  refine mi_bind (mi_sink _) (fun o => ?_)
  cases o <;> first | exact mi_pure _ | exact mi_throw _

theorem mi_createRoot (attrs : List Attr) : MI (createRoot attrs) := by
  unfold createRoot createElementWithFlags push
  refine mi_bind (mi_sinkNode _) (fun elem => ?_)
  refine mi_bind (mi_modS (fun _ _ => rfl)) (fun _ => ?_)
  exact mi_getS_bind (fun _ _ => rfl) (fun _ => mi_sinkUnit _)

theorem mi_resetLoop : ∀ (l : List Id) (n : Nat), MI (resetLoop l n) := by
  intro l
  induction l with
  | nil => intro n; unfold resetLoop; exact mi_pure _
  | cons node rest ih =>
    intro n
    unfold resetLoop
    refine mi_getS_bind (fun _ _ => rfl) (fun s0 => ?_)
    dsimp only
    refine mi_bind (mi_elemName _) (fun nm => ?_)
    refine mi_ite (ih _) ?_
    refine mi_ite (mi_pure _) ?_
    refine mi_ite (mi_pure _) ?_
    refine mi_ite (mi_pure _) ?_
    refine mi_ite (mi_pure _) ?_
    refine mi_ite (mi_pure _) ?_
    refine mi_ite (mi_pure _) ?_
    refine mi_ite ?_ ?_
    · cases s0.templateModes.getLast? with
      | none => exact mi_panicAt
      | some m => exact mi_pure _
    refine mi_ite (mi_ite (mi_pure _) (ih _)) ?_
    refine mi_ite (mi_pure _) ?_
    refine mi_ite (mi_pure _) ?_
    refine mi_ite ?_ (ih _)
    cases s0.headElem with
    | none => exact mi_pure _
    | some _ => exact mi_pure _

theorem mi_resetInsertionMode : MI resetInsertionMode := by
  unfold resetInsertionMode
  exact mi_getS_bind (fun _ _ => rfl) (fun s0 => mi_resetLoop _ _)

/-- transport of a `SatC` fact along a change of the insertion mode -/
theorem satc_of_mi {α : Type} {m : M α} (hm : MI m) {s : State} {x : Mode} {Q : α → State → Prop}
    (h : SatC m s Q) : SatC m (setM x s) (fun a s' => ∃ s0, Q a s0 ∧ s' = setM x s0) := by
  unfold SatC at h ⊢
  rw [hm s x]
  cases hr : m s with
  | error e => rw [hr] at h; exact h
  | ok p => obtain ⟨a, s'⟩ := p; rw [hr] at h; exact ⟨s', h, rfl⟩

/-! ### `TreeBuilder::new` -/

theorem pristine_new : ∀ x, Dom.new.isElement x = false ∧ Dom.new.isDoctype x = false := by
  intro x
  cases x with
  | zero => exact ⟨rfl, rfl⟩
  | succ n => exact ⟨rfl, rfl⟩

/-- the state before `TreeBuilder::new` satisfies the Initial-mode invariant -/
theorem ci0_init (opts : Opts) : CI0 Dom.new (State.init opts) :=
  ⟨⟨H5V.Props.C20.inv_new, Run.nil⟩, rfl, rfl, rfl, rfl, rfl, rfl, rfl, rfl, rfl, rfl, pristine_new⟩

theorem ci0_newTB {s : State} (h : CI0 d0 s) : SatC newTB s (fun _ s' => CI0 d0 s') := by
  unfold H5V.Model.HtmlTB.newTB sinkNode
  refine SatC.bind (Q := fun doc s1 => doc = 0 ∧ CI0 d0 s1) ?_ ?_
  · refine SatC.bind (Q := fun o s1 => o = .node 0 ∧ CI0 d0 s1) ?_ ?_
    · refine satc_sink h.d (op := .getDocument) rfl ?_
      intro d' out ha hd
      have ha' : Except.ok (s.dom, Output.node Dom.document) = Except.ok (d', out) := ha
      cases ha'
      exact ⟨rfl, hd, h.mode, h.st, h.af, h.head, h.form, h.ctx, h.docH, h.doc0, h.orig, h.tm, h.pristine⟩
    · rintro o s1 ⟨rfl, h1⟩
      exact satc_pure ⟨rfl, h1⟩
  · rintro doc s1 ⟨rfl, h1⟩
    exact satc_modS ⟨⟨h1.d.inv, h1.d.run⟩, h1.mode, h1.st, h1.af, h1.head, h1.form, h1.ctx, rfl, h1.doc0, h1.orig,
      h1.tm, h1.pristine⟩

/-! ### `TreeBuilder::new_for_fragment` -/

/-- the state of `new_for_fragment` before the root element is created -/
structure FI (d0 : Dom) (s : State) : Prop where
  d : DomI d0 s
  mode : s.mode = .initial
  st : s.openElems = []
  af : s.activeFormatting = []
  head : s.headElem = none
  orig : s.origMode = none
  doc0 : s.dom.dataOf 0 = some .document

theorem FI.sink {s : State} (h : FI d0 s) {op : SinkOp} (hc : Contract s.dom op) :
    SatC (sink op) s (fun o s' => FI d0 s' ∧ Ext s.dom s'.dom ∧ ∃ d', s.dom.apply op = .ok (d', o)) := by
  refine satc_sink h.d hc ?_
  intro d' out ha hd
  exact ⟨⟨hd, h.mode, h.st, h.af, h.head, h.orig, isDoc_kext (apply_kext ha) h.doc0⟩, apply_ext ha, d', ha⟩

/-- a late state from the fragment state -/
theorem FI.toCB {s : State} (h : FI d0 s) (hdoc : s.docHandle = 0)
    (hf : ∀ x, s.formElem = some x → IsEl s.dom x) (hc : ∀ x, s.contextElem = some x → IsEl s.dom x)
    (htm : Mode.initial ∉ s.templateModes) :
    CB d0 (setM .inBody s) ∧ SAnc (setM .inBody s).dom (setM .inBody s).openElems := by
  refine ⟨⟨⟨h.d.inv, h.d.run⟩, ⟨hdoc, h.doc0, ?_, ?_, ?_, ?_, hf, hc, ?_⟩, ⟨(by show Mode.inBody ≠ Mode.initial; decide), ?_, htm⟩⟩, ?_⟩
  · show ∀ x ∈ s.openElems, _; rw [h.st]; intro x hx; cases hx
  · show ∀ x ∈ s.openElems, _; rw [h.st]; intro x hx; cases hx
  · show ∀ x t, _ ∈ s.activeFormatting → _; rw [h.af]; intro x t hx; cases hx
  · show ∀ x, s.headElem = some x → _; rw [h.head]; intro x hx; cases hx
  · show ∀ x, s.headElem = some x → _; rw [h.head]; intro x hx; cases hx
  · show s.origMode ≠ _; rw [h.orig]; intro e; cases e
  · show SAnc s.dom s.openElems; rw [h.st]; exact List.Pairwise.nil

theorem setM_setM (x y : Mode) (s : State) : setM x (setM y s) = setM x s := rfl

theorem setM_self {s : State} {x : Mode} (h : s.mode = x) : setM x s = s := by
  cases s; simp only [setM] at *; subst h; rfl

/-- `create_root(); mode.set(reset_insertion_mode())` from the fragment state -/
theorem satc_fragTail {s3 : State} (h3 : FI d0 s3) (hdoc3 : s3.docHandle = 0)
    (hf3 : ∀ x, s3.formElem = some x → IsEl s3.dom x) (hc3 : ∀ x, s3.contextElem = some x → IsEl s3.dom x)
    (htm3 : Mode.initial ∉ s3.templateModes) :
    SatC (do
      createRoot []
      let m ← resetInsertionMode
      setMode m) s3 (fun _ s' => CB d0 s' ∧ SAnc s'.dom s'.openElems) := by
  obtain ⟨hcb3, hsa3⟩ := h3.toCB hdoc3 hf3 hc3 htm3
  have e3 : s3 = setM .initial (setM .inBody s3) := by rw [setM_setM, setM_self h3.mode]
  rw [e3]
  -- `create_root`
  refine SatC.bind (satc_of_mi (mi_createRoot []) (x := .initial)
    (cp_toCPS (cp_createRoot rfl) _ hcb3 hsa3 (CtxOk.nil _))) ?_
  rintro _ s4 ⟨s40, ⟨hcb4, hsa4, _, _⟩, rfl⟩
  -- `reset_insertion_mode`
  refine SatC.bind (satc_of_mi mi_resetInsertionMode (x := .initial) (satc_resetInsertionMode s40 hcb4)) ?_
  rintro m s5 ⟨s50, ⟨hcb5, hg5, hm⟩, rfl⟩
  have hsa5 : SAnc s50.dom s50.openElems := hsa4.grow hcb4.d.inv.wf hcb4.h.lt hg5
  unfold H5V.Model.HtmlTB.setMode
  refine satc_modS ?_
  exact ⟨hcb5.of_shrink rfl rfl rfl (fun _ hx => hx) (fun _ hx => hx) (fun _ hx => hx) (fun _ hx => hx)
    (fun _ hx => hx) ⟨hm, hcb5.l.orig, hcb5.l.tm⟩, hsa5⟩

/-- **`new_for_fragment`**: from an arena satisfying `Inv`, with a document node at 0, an element as
context and (if given) an element as form owner -/
theorem satc_newForFragment {s : State} (h : FI d0 s) {ctx : Id} {form : Option Id}
    (hctx : IsEl s.dom ctx) (hform : ∀ f, form = some f → IsEl s.dom f) :
    SatC (newForFragment ctx form) s (fun _ s' => CB d0 s' ∧ SAnc s'.dom s'.openElems) := by
  unfold newForFragment sinkNode
  -- `get_document`
  refine SatC.bind (Q := fun doc s1 => doc = 0 ∧ FI d0 s1 ∧ Ext s.dom s1.dom) ?_ ?_
  · refine SatC.bind (Q := fun o s1 => o = .node 0 ∧ FI d0 s1 ∧ Ext s.dom s1.dom) ?_ ?_
    · refine (h.sink (op := .getDocument) rfl).mono ?_
      rintro o s1 ⟨h1, he, d', ha⟩
      have ha' : Except.ok (s.dom, Output.node Dom.document) = Except.ok (d', o) := ha
      cases ha'
      exact ⟨rfl, h1, he⟩
    · rintro o s1 ⟨rfl, h1⟩
      exact satc_pure ⟨rfl, h1⟩
  rintro doc s1 ⟨rfl, h1, he1⟩
  -- `elem_name(context)`
  have hctx1 : IsEl s1.dom ctx := hctx.ext he1
  unfold H5V.Model.HtmlTB.elemName
  refine SatC.bind (Q := fun _ s2 => FI d0 s2 ∧ Ext s.dom s2.dom) ?_ ?_
  · refine SatC.bind (Q := fun _ s2 => FI d0 s2 ∧ Ext s.dom s2.dom) ?_ ?_
    · exact (h1.sink (op := .elemName ctx) (contract_elemName hctx1)).mono
        (fun _ _ h' => ⟨h'.1, he1.trans h'.2.1⟩)
    · rintro o s2 h2
      cases o <;> first | exact satc_pure h2 | exact satc_throw (Or.inl (by decide +kernel))
  rintro n s2 ⟨h2, he2⟩
  dsimp only
  refine satc_modS_bind ?_
  refine satc_fragTail ⟨⟨h2.d.inv, h2.d.run⟩, h2.mode, h2.st, h2.af, h2.head, h2.orig, h2.doc0⟩ rfl ?_ ?_ ?_
  · intro x hx; exact (hform x hx).ext he2
  · intro x hx
    have : ctx = x := Option.some.inj hx
    subst this; exact hctx.ext he2
  · show Mode.initial ∉ (if _ then _ else _)
    by_cases hb : (n.ns == nsHtml && isName n.loc "template") = true
    · rw [if_pos hb]; intro e; simp at e
    · rw [if_neg hb]; intro e; cases e

end H5V.Lemmas.TBC
