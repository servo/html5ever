import H5V.Model.HtmlSer
import H5V.Spec.HtmlEscape
import H5V.Model.HtmlTB
/-!
C07 round trip: vocabulary.

* `HNode` — the trees the round trip is claimed for: elements with a local name, an attribute list
  (name, value) and children; text nodes.
* `ordinaryName` — the element names that fall into the "any other start tag" / "any other end
  tag" rules of the "in body" insertion mode (nothing void, raw text, implied end tags, formatting,
  scoping, table, foreign, …), spelled the way the tokenizer spells a tag name.
* `blockName` — the plain block elements (`div`, `section`, `ul`, …: "close a `p` element in button
  scope" is a no-op when no `p` is open); `fmtName` — the formatting elements `b`, `big`, `code`,
  `em`, `font`, `i`, `s`, `small`, `strike`, `strong`, `tt`, `u`; `elemNameOk` = any of the three.
* `okForest` — well-formedness: such names, attribute names the tokenizer reads back verbatim
  and without a parse error, pairwise distinct; attribute values and text free of CR and U+0000;
  text nodes non-empty and never adjacent.
* the three images of a forest: `toSer` (input of the serializer model), `tokTokens` / `tbTokens`
  (token streams), `toDTree` (what is read off the DOM arena by `extract`).
* `render` — the character-level serialisation.
-/
namespace H5V.Lemmas.HtmlRT
open H5V.Spec.HtmlEscape

abbrev Str := List Char

inductive HNode where
  | elem (name : Str) (attrs : List (Str × Str)) (children : List HNode)
  | text (s : Str)
deriving Repr

abbrev Forest := List HNode

/-! ### names -/

/-- the names that have a rule of their own for the start tag in "in body" (rules.rs `InBody`),
list by list in the order of the rules -/
def startLists : List (List String) := [
  ["html"],
  ["base", "basefont", "bgsound", "link", "meta", "noframes", "script", "style", "template", "title"],
  ["body"], ["frameset"],
  ["address", "article", "aside", "blockquote", "center", "details", "dialog",
   "dir", "div", "dl", "fieldset", "figcaption", "figure", "footer", "header",
   "hgroup", "main", "nav", "ol", "p", "search", "section", "summary", "ul"],
  ["menu"], ["h1", "h2", "h3", "h4", "h5", "h6"], ["pre", "listing"], ["form"], ["li", "dd", "dt"],
  ["plaintext"], ["button"], ["a"],
  ["b", "big", "code", "em", "font", "i", "s", "small", "strike", "strong", "tt", "u"],
  ["nobr"], ["applet", "marquee", "object"], ["table"],
  ["area", "br", "embed", "img", "keygen", "wbr"], ["input"], ["param", "source", "track"], ["hr"],
  ["image"], ["textarea"], ["xmp"], ["iframe"], ["noembed"], ["select"], ["option"], ["optgroup"],
  ["rb", "rtc"], ["rp", "rt"], ["math"], ["svg"],
  ["caption", "col", "colgroup", "frame", "head", "tbody", "td", "tfoot", "th", "thead", "tr"],
  ["noscript"]]

/-- the names that have a rule of their own for the end tag in "in body" -/
def endLists : List (List String) := [
  ["template"], ["body"], ["html"],
  ["address", "article", "aside", "blockquote", "button", "center", "details",
   "dialog", "dir", "div", "dl", "fieldset", "figcaption", "figure", "footer",
   "header", "hgroup", "listing", "main", "menu", "nav", "ol", "pre", "search",
   "section", "select", "summary", "ul"],
  ["form"], ["option"], ["p"], ["li", "dd", "dt"], ["h1", "h2", "h3", "h4", "h5", "h6"],
  ["a", "b", "big", "code", "em", "font", "i", "nobr", "s", "small", "strike", "strong", "tt", "u"],
  ["applet", "marquee", "object"], ["br"]]

/-- every element name with a start- or end-tag rule of its own in "in body" -/
def specialNames : List String := startLists.flatten ++ endLists.flatten

/-- a character the tag-name state appends unchanged: not white space (CR becomes LF), `/`, `>`,
U+0000, and not an upper-case ASCII letter -/
def nameCharOk (c : Char) : Bool :=
  !(c = '\t' || c = '\n' || c = '\x0c' || c = ' ' || c = '\r' || c = '/' || c = '>' || c = '\x00'
    || ('A' ≤ c ∧ c ≤ 'Z'))

/-- a tag name as the tokenizer produces it: a lower-case ASCII letter, then `nameCharOk` characters -/
def tagNameOk : Str → Bool
  | [] => false
  | c :: rest => decide ('a' ≤ c ∧ c ≤ 'z') && rest.all nameCharOk

/-- **ordinary element name**: spelled like a tokenizer tag name and without a rule of its own in
"in body" — start tag: "any other start tag", end tag: "any other end tag" -/
def ordinaryName (n : Str) : Bool := tagNameOk n && !H5V.Model.HtmlTB.isOneOf n specialNames

/-- the plain block elements: start tag "if a `p` element is in button scope, close it; insert",
end tag "if in scope: generate implied end tags, pop up to it" (no `p`, whose end tag differs) -/
def blockNames : List String :=
  ["address", "article", "aside", "blockquote", "center", "details", "dialog", "dir", "div", "dl", "fieldset",
   "figcaption", "figure", "footer", "header", "hgroup", "main", "nav", "ol", "search", "section", "summary", "ul",
   "menu"]

def blockName (n : Str) : Bool := H5V.Model.HtmlTB.isOneOf n blockNames

/-- the formatting elements other than `a` and `nobr` (whose start tags have rules of their own): the
start tag pushes an entry onto the list of active formatting elements, the end tag runs the adoption
agency algorithm -/
def fmtNames : List String := ["b", "big", "code", "em", "font", "i", "s", "small", "strike", "strong", "tt", "u"]

def fmtName (n : Str) : Bool := H5V.Model.HtmlTB.isOneOf n fmtNames

/-- the element names of the round-trip class: ordinary names, the plain block elements and the
formatting elements -/
def elemNameOk (n : Str) : Bool := ordinaryName n || blockName n || fmtName n

/-- a character the attribute-name state appends unchanged and without a parse error -/
def attrCharOk (c : Char) : Bool :=
  nameCharOk c && !(c = '=' || c = '"' || c = '\'' || c = '<')

/-- an attribute name the tokenizer reads back verbatim, without parse error -/
def attrNameOk : Str → Bool
  | [] => false
  | c :: rest => attrCharOk c && rest.all attrCharOk

def noCRNULb (s : Str) : Bool := s.all (fun c => !(c = '\r' || c = '\x00'))

def attrsOk (as : List (Str × Str)) : Bool :=
  as.all (fun a => attrNameOk a.1 && noCRNULb a.2) && decide (as.map (·.1)).Nodup

def HNode.isText : HNode → Bool
  | .text _ => true
  | .elem .. => false

/-- no two adjacent text nodes -/
def noAdjText : Forest → Bool
  | [] => true
  | [_] => true
  | a :: b :: rest => !(a.isText && b.isText) && noAdjText (b :: rest)

mutual
def okNode : HNode → Bool
  | .elem n as ch => elemNameOk n && attrsOk as && okForest ch && noAdjText ch
  | .text s => !s.isEmpty && noCRNULb s
def okForest : Forest → Bool
  | [] => true
  | n :: ns => okNode n && okForest ns
end

/-- the class of forests of the round-trip theorems -/
def Ordinary (f : Forest) : Prop := okForest f = true ∧ noAdjText f = true

instance (f : Forest) : Decidable (Ordinary f) := by unfold Ordinary; infer_instance

/-! ### size -/

mutual
def HNode.size : HNode → Nat
  | .elem _ _ ch => 1 + sizeF ch
  | .text _ => 1
def sizeF : Forest → Nat
  | [] => 0
  | n :: ns => n.size + sizeF ns
end

/-! ### the serializer's input -/

def serName (n : Str) : H5V.Model.HtmlSer.QualName := ⟨.html, n⟩
def serAttr (a : Str × Str) : H5V.Model.HtmlSer.Attr := ⟨⟨.empty, a.1⟩, none, a.2⟩

mutual
def toSer : HNode → H5V.Model.HtmlSer.Node
  | .elem n as ch => .element (serName n) (as.map serAttr) (toSerF ch)
  | .text s => .text s
def toSerF : Forest → List H5V.Model.HtmlSer.Node
  | [] => []
  | n :: ns => toSer n :: toSerF ns
end

/-- the context element of the fragment: an HTML `div` -/
def nDiv : Str := ['d', 'i', 'v']

/-- the node whose children are serialised: a `div` holding the forest -/
def serRoot (f : Forest) : H5V.Model.HtmlSer.Node := .element (serName nDiv) [] (toSerF f)

/-! ### character-level serialisation -/

def renderAttr (a : Str × Str) : Str := ' ' :: a.1 ++ ['=', '"'] ++ escape true a.2 ++ ['"']

def renderAttrs (as : List (Str × Str)) : Str := as.flatMap renderAttr

def startTagStr (n : Str) (as : List (Str × Str)) : Str := '<' :: n ++ renderAttrs as ++ ['>']
def endTagStr (n : Str) : Str := '<' :: '/' :: n ++ ['>']

mutual
def render : HNode → Str
  | .elem n as ch => startTagStr n as ++ renderF ch ++ endTagStr n
  | .text s => escape false s
def renderF : Forest → Str
  | [] => []
  | n :: ns => render n ++ renderF ns
end

/-! ### token streams -/

/-- the start / end tag tokens as the tokenizer delivers them -/
def tokStart (n : Str) (as : List (Str × Str)) : H5V.Model.HtmlTok.Tag :=
  { kind := .startTag, name := n, selfClosing := false, attrs := as.map (fun a => ⟨a.1, a.2⟩), hadDup := false }
def tokEnd (n : Str) : H5V.Model.HtmlTok.Tag :=
  { kind := .endTag, name := n, selfClosing := false, attrs := [], hadDup := false }

/-! tokenizer tokens of a forest, text as one character token per text node -/
mutual
def tokTokens : HNode → List H5V.Model.HtmlTok.Token
  | .elem n as ch => .tag (tokStart n as) :: tokTokensF ch ++ [.tag (tokEnd n)]
  | .text s => [.chars s]
def tokTokensF : Forest → List H5V.Model.HtmlTok.Token
  | [] => []
  | n :: ns => tokTokens n ++ tokTokensF ns
end

/-! the same with one character token per character (what the tokenizer model emits) -/
mutual
def tokTokens1 : HNode → List H5V.Model.HtmlTok.Token
  | .elem n as ch => .tag (tokStart n as) :: tokTokens1F ch ++ [.tag (tokEnd n)]
  | .text s => s.map (fun c => .chars [c])
def tokTokens1F : Forest → List H5V.Model.HtmlTok.Token
  | [] => []
  | n :: ns => tokTokens1 n ++ tokTokens1F ns
end

/-- merge adjacent character tokens (the comparison convention of the tokenizer model) -/
def mergeChars : List H5V.Model.HtmlTok.Token → List H5V.Model.HtmlTok.Token
  | .chars a :: rest =>
    match mergeChars rest with
    | .chars b :: rest' => .chars (a ++ b) :: rest'
    | r => .chars a :: r
  | t :: rest => t :: mergeChars rest
  | [] => []

def tbAttrs (as : List (Str × Str)) : List H5V.Model.Dom.Attr :=
  as.map (fun a => { name := H5V.Model.HtmlTB.plainName a.1, value := a.2 })

/-- the start / end tag tokens as the tree builder receives them -/
def tbStart (n : Str) (as : List (Str × Str)) : H5V.Model.HtmlTB.Tag :=
  { kind := .startTag, name := n, selfClosing := false, attrs := tbAttrs as, hadDup := false }
def tbEnd (n : Str) : H5V.Model.HtmlTB.Tag :=
  { kind := .endTag, name := n, selfClosing := false, attrs := [], hadDup := false }

/-! tree-builder input tokens of a forest; `split` cuts a text into the pieces it arrives in -/
mutual
def tbTokens (split : Str → List Str) : HNode → List H5V.Model.HtmlTB.TokToken
  | .elem n as ch => .tag (tbStart n as) :: tbTokensF split ch ++ [.tag (tbEnd n)]
  | .text s => (split s).map .chars
def tbTokensF (split : Str → List Str) : Forest → List H5V.Model.HtmlTB.TokToken
  | [] => []
  | n :: ns => tbTokens split n ++ tbTokensF split ns
end

/-- a way of cutting text into non-empty pieces -/
def GoodSplit (split : Str → List Str) : Prop :=
  ∀ s, (split s).flatten = s ∧ ∀ p ∈ split s, p ≠ []

theorem goodSplit_whole : GoodSplit (fun s => if s = [] then [] else [s]) := by
  intro s
  by_cases h : s = [] <;> simp [h]

theorem goodSplit_chars : GoodSplit (fun s => s.map (fun c => [c])) := by
  intro s
  constructor
  · induction s with
    | nil => rfl
    | cons c t ih => simp [List.flatten_cons] at ih ⊢; exact ih
  · intro p hp
    simp only [List.mem_map] at hp
    obtain ⟨c, _, rfl⟩ := hp
    simp

/-! ### reading a tree off the DOM arena -/

/-- what `extract` reads: elements (qualified name, attributes), text, anything else -/
inductive DTree where
  | elem (name : H5V.Model.Dom.QualName) (attrs : List H5V.Model.Dom.Attr) (children : List DTree)
  | text (s : Str)
  | other
deriving Repr

/-! `extract d fuel expectedParent x`: the subtree below node `x` of the arena, following the child
lists (depth-bounded by the fuel); `none` when a child id is outside the arena, a parent pointer of a
child does not point back, a text node has children, or the fuel runs out; elements with template
contents / the integration-point flag and all other node kinds read as `other` -/
mutual
def extract (d : H5V.Model.Dom.Dom) : Nat → Option Nat → Nat → Option DTree
  | 0, _, _ => none
  | fuel + 1, expectedParent, x =>
    match d.nodes[x]? with
    | none => none
    | some n =>
      if n.parent ≠ expectedParent then none else
      match n.data with
      | .text s => if n.children = [] then some (.text s) else none
      | .element q as none false => (extractList d fuel x n.children).map (DTree.elem q as)
      | _ => some .other
def extractList (d : H5V.Model.Dom.Dom) : Nat → Nat → List Nat → Option (List DTree)
  | _, _, [] => some []
  | fuel, p, c :: cs =>
    match extract d fuel (some p) c, extractList d fuel p cs with
    | some t, some ts => some (t :: ts)
    | _, _ => none
end

mutual
def toDTree : HNode → DTree
  | .elem n as ch => .elem (H5V.Model.HtmlTB.htmlQual n) (tbAttrs as) (toDTreeF ch)
  | .text s => .text s
def toDTreeF : Forest → List DTree
  | [] => []
  | n :: ns => toDTree n :: toDTreeF ns
end

end H5V.Lemmas.HtmlRT
