import H5V.Lemmas.DomClone
import H5V.Lemmas.DomOps
/-!
# Tree-builder safety: what every `TreeSink` call preserves, contract or not

`sigOf d h` is the part of an element node that the HTML tree builder's control flow depends on —
its qualified name, its template-contents link and its "MathML annotation-xml integration point"
flag.  `Ext d d'` ("`d'` extends `d`"): every element of `d` is an element of `d'` with the same
signature.  `apply_ext`: **every** successful `Dom.apply` — whether or not the call is inside the
`TreeSink` contract — extends the arena.  Hence the answers of `elem_name`,
`get_template_contents`, `is_mathml_annotation_xml_integration_point` for a handle never change
during a parse, and a node created later is different from every handle held before.
-/
namespace H5V.Lemmas.TBSafe
open H5V.Model.Dom (Id QualName Attr NodeOrText SinkOp Output ElementFlags QuirksMode Dom NodeData Node)
open H5V.Lemmas.Dom

abbrev Sig := QualName × Option Id × Bool

def sigData : NodeData → Option Sig
  | .element n _ tc ip => some (n, tc, ip)
  | _ => none

/-- name / template contents / integration-point flag of an element node; `none` for anything else -/
def sigOf (d : Dom) (h : Id) : Option Sig := (d.dataOf h).bind sigData

/-- every element of `d` is an element of `d'` with the same signature -/
def Ext (d d' : Dom) : Prop := ∀ h x, sigOf d h = some x → sigOf d' h = some x

theorem Ext.refl (d : Dom) : Ext d d := fun _ _ h => h
theorem Ext.trans {a b c : Dom} (h1 : Ext a b) (h2 : Ext b c) : Ext a c := fun h x hx => h2 h x (h1 h x hx)

theorem sigOf_lt {d : Dom} {h : Id} {x : Sig} (hs : sigOf d h = some x) : h < d.size := by
  unfold sigOf at hs
  cases hd : d.dataOf h with
  | none => simp [hd] at hs
  | some v => exact lt_of_dataOf_some hd

theorem sigOf_none_of_ge {d : Dom} {h : Id} (hge : d.size ≤ h) : sigOf d h = none := by
  cases hs : sigOf d h with
  | none => rfl
  | some x => exact absurd (sigOf_lt hs) (Nat.not_lt.mpr hge)

theorem ext_of_data {d d' : Dom} (h : ∀ x, x < d.size → d'.dataOf x = d.dataOf x) : Ext d d' := by
  intro i x hx
  have := sigOf_lt hx
  unfold sigOf at hx ⊢
  rw [h i this]; exact hx

theorem ext_of_data_all {d d' : Dom} (h : ∀ x, d'.dataOf x = d.dataOf x) : Ext d d' :=
  ext_of_data (fun x _ => h x)

/-- data changes at one node, keeping its signature -/
theorem ext_of_data_one {d d' : Dom} {t : Id} {v : NodeData}
    (h : ∀ x, d'.dataOf x = if x = t then some v else d.dataOf x)
    (hv : ∀ w, d.dataOf t = some w → sigData w = none ∨ sigData v = sigData w) : Ext d d' := by
  intro i x hx
  unfold sigOf at hx ⊢
  rw [h i]
  by_cases hi : i = t
  · subst hi
    cases hd : d.dataOf i with
    | none => simp [hd] at hx
    | some w =>
      rw [hd] at hx
      rcases hv w hd with h0 | h1
      · simp [h0] at hx
      · simpa [h1] using hx
  · simpa [hi] using hx

theorem ext_alloc (d : Dom) (data : NodeData) : Ext d (d.alloc data).1 :=
  ext_of_data (fun x hx => by rw [dataOf_alloc]; simp [Nat.ne_of_lt hx])

theorem ext_setNode_same {d : Dom} {i : Id} {n0 : Node} (h0 : d.node? i = some n0) (n : Node)
    (hd : n.data = n0.data) : ∀ x, (d.setNode i n).dataOf x = d.dataOf x := by
  intro x
  rw [dataOf_setNode h0]
  by_cases hx : x = i
  · subst hx; simp [dataOf_of_node h0, hd]
  · simp [hx]

/-! ### the free functions of rcdom -/

theorem appendRaw_data {d d' : Dom} {p c : Id} (h : d.appendRaw p c = .ok d') :
    ∀ x, d'.dataOf x = d.dataOf x := by
  unfold Dom.appendRaw at h
  simp only [bind, Except.bind] at h
  cases hc : d.get c with
  | error e => simp [hc] at h
  | ok cn =>
    have hcn := get_ok.mp hc
    simp only [hc] at h
    by_cases hpar : cn.parent.isSome = true
    · simp [hpar, throw, throwThe, MonadExceptOf.throw] at h
    · simp only [hpar] at h
      have h1 := ext_setNode_same hcn { cn with parent := some p } rfl
      cases hp : (d.setNode c { cn with parent := some p }).get p with
      | error e => simp [hp] at h
      | ok pn =>
        have hpn := get_ok.mp hp
        simp only [hp] at h
        simp at h
        subst h
        intro x
        exact (ext_setNode_same hpn { pn with children := pn.children ++ [c] } rfl x).trans (h1 x)

theorem removeFromParent_data' {d d' : Dom} {t : Id} (h : d.removeFromParent t = .ok d') :
    ∀ x, d'.dataOf x = d.dataOf x := removeFromParent_data h

theorem insertAtIndex_data {d d' : Dom} {P c : Id} {i : Nat} (h : d.insertAtIndex P i c = .ok d') :
    ∀ x, d'.dataOf x = d.dataOf x := by
  obtain ⟨d1, hr, _, _, _, _, _, hd, _, _⟩ := insertAtIndex_ok h
  intro x; rw [hd, removeFromParent_data hr]

theorem ext_append {d d' : Dom} {p : Id} {ch : NodeOrText} (h : d.append p ch = .ok d') : Ext d d' := by
  cases ch with
  | node c => rw [append_node_eq] at h; exact ext_of_data_all (appendRaw_data h)
  | text s =>
    obtain ⟨_, h1 | h2⟩ := append_text_ok h
    · obtain ⟨hl, old, _, hdl, _, hd, _⟩ := h1
      exact ext_of_data_one hd (fun w hw => by rw [hdl] at hw; cases hw; exact Or.inl rfl)
    · exact (ext_alloc d _).trans (ext_of_data_all (appendRaw_data h2.2))

theorem ext_appendBeforeSibling {d d' : Dom} {s : Id} {ch : NodeOrText}
    (h : d.appendBeforeSibling s ch = .ok d') : Ext d d' := by
  obtain ⟨P, i, _, _, _, hm⟩ := appendBeforeSibling_ok h
  cases ch with
  | node c => exact ext_of_data_all (insertAtIndex_data hm)
  | text t =>
    rcases hm with ⟨prev, old, _, _, hdl, _, hd, _⟩ | ⟨_, h2⟩
    · exact ext_of_data_one hd (fun w hw => by rw [hdl] at hw; cases hw; exact Or.inl rfl)
    · exact (ext_alloc d _).trans (ext_of_data_all (insertAtIndex_data h2))

theorem ext_preDetach {b : Dom.BeforeSiblingVariant} {d d' : Dom} {ch : NodeOrText}
    (h : Dom.preDetach b d ch = .ok d') : Ext d d' := by
  cases ch with
  | text t => simp [Dom.preDetach] at h; subst h; exact Ext.refl _
  | node c =>
    cases b with
    | asCode => simp [Dom.preDetach] at h; subst h; exact Ext.refl _
    | detachFirst => exact ext_of_data_all (removeFromParent_data (by simpa [Dom.preDetach] using h))

theorem ext_appendBeforeSiblingV {b : Dom.BeforeSiblingVariant} {d d' : Dom} {s : Id} {ch : NodeOrText}
    (h : Dom.appendBeforeSiblingV b d s ch = .ok d') : Ext d d' := by
  unfold Dom.appendBeforeSiblingV at h
  simp only [bind, Except.bind] at h
  cases hp : Dom.preDetach b d ch with
  | error e => simp [hp] at h
  | ok d1 =>
    simp only [hp] at h
    exact (ext_preDetach hp).trans (ext_appendBeforeSibling h)

theorem ext_addAttrs {d d' : Dom} {t : Id} {attrs : List Attr} (h : d.addAttrsIfMissing t attrs = .ok d') :
    Ext d d' := by
  obtain ⟨name, existing, tc, ip, hdt, _, hd, _⟩ := addAttrsIfMissing_ok h
  exact ext_of_data_one hd (fun w hw => by rw [hdt] at hw; cases hw; exact Or.inr rfl)

theorem ext_reparentChildren {d d' : Dom} {n np : Id} (h : d.reparentChildren n np = .ok d') : Ext d d' := by
  obtain ⟨_, _, _, _, _, hd, _, _⟩ := reparentChildren_ok h
  exact ext_of_data_all hd

/-! ### `maybe_clone_an_option_into_selectedcontent` (no invariant assumed) -/

theorem ext_cloneKidsWith {cl : Dom → Id → Except String (Dom × Id)}
    (hcl : ∀ d c d' k, cl d c = .ok (d', k) → Ext d d') (p : Id) :
    ∀ (cs : List Id) (d d' : Dom), Dom.cloneKidsWith cl p d cs = .ok d' → Ext d d' := by
  intro cs
  induction cs with
  | nil => intro d d' h; simp [Dom.cloneKidsWith] at h; subst h; exact Ext.refl _
  | cons c cs ih =>
    intro d d' h
    simp only [Dom.cloneKidsWith, bind, Except.bind] at h
    cases h1 : cl d c with
    | error e => simp [h1] at h
    | ok r =>
      obtain ⟨d1, k⟩ := r
      simp only [h1] at h
      cases h2 : d1.appendRaw p k with
      | error e => simp [h2] at h
      | ok d2 =>
        simp only [h2] at h
        exact ((hcl _ _ _ _ h1).trans (ext_of_data_all (appendRaw_data h2))).trans (ih _ _ h)

theorem bind_ok {ε α β : Type} {x : Except ε α} {f : α → Except ε β} {b : β}
    (h : (x >>= f) = .ok b) : ∃ a, x = .ok a ∧ f a = .ok b := by
  cases x with
  | error e => simp [bind, Except.bind] at h
  | ok a => exact ⟨a, rfl, by simpa [bind, Except.bind] using h⟩

theorem ext_cloneFixed : ∀ (fuel : Nat) (d : Dom) (x : Id) (d' : Dom) (k : Id),
    Dom.cloneFixed d fuel x = .ok (d', k) → Ext d d' := by
  intro fuel
  induction fuel with
  | zero => intro d x d' k h; simp [Dom.cloneFixed] at h
  | succ fuel ih =>
    intro d x d' k h
    simp only [Dom.cloneFixed] at h
    obtain ⟨n, _, h⟩ := bind_ok h
    have fin : ∀ (d1 : Dom) (data : NodeData), Ext d d1 →
        (Dom.cloneKidsWith (fun d c => Dom.cloneFixed d fuel c) (d1.alloc data).2 (d1.alloc data).1 n.children
          >>= fun d2 => (Except.ok (d2, (d1.alloc data).2) : Except String (Dom × Id))) = .ok (d', k) →
        Ext d d' := by
      intro d1 data he hh
      obtain ⟨d2, hk, hh⟩ := bind_ok hh
      simp only [Except.ok.injEq, Prod.mk.injEq] at hh
      rw [← hh.1]
      exact (he.trans (ext_alloc d1 data)).trans
        (ext_cloneKidsWith (fun a c a' k' hc => ih a c a' k' hc) _ _ _ _ hk)
    split at h
    · obtain ⟨⟨dt, tc'⟩, ht, h⟩ := bind_ok h
      exact fin dt _ (ih _ _ _ _ ht) h
    · exact fin d _ (Ext.refl d) h

theorem ext_cloneListWith {cl : Dom → Id → Except String (Dom × Id)}
    (hcl : ∀ d c d' k, cl d c = .ok (d', k) → Ext d d') :
    ∀ (cs : List Id) (d d' : Dom) (ks : List Id), Dom.cloneListWith cl d cs = .ok (d', ks) → Ext d d' := by
  intro cs
  induction cs with
  | nil => intro d d' ks h; simp [Dom.cloneListWith] at h; rw [← h.1]; exact Ext.refl _
  | cons c cs ih =>
    intro d d' ks h
    simp only [Dom.cloneListWith, bind, Except.bind] at h
    cases h1 : cl d c with
    | error e => simp [h1] at h
    | ok r =>
      obtain ⟨d1, k⟩ := r
      simp only [h1] at h
      cases h2 : Dom.cloneListWith cl d1 cs with
      | error e => simp [h2] at h
      | ok r2 =>
        obtain ⟨d2, ks2⟩ := r2
        simp only [h2] at h
        cases h
        exact (hcl _ _ _ _ h1).trans (ih _ _ _ h2)

theorem clearParents_data : ∀ (cs : List Id) (d : Dom) (x : Id), (Dom.clearParents d cs).dataOf x = d.dataOf x := by
  intro cs
  induction cs with
  | nil => intro d x; rfl
  | cons c cs ih =>
    intro d x
    simp only [Dom.clearParents]
    rw [ih]
    cases hc : d.nodes[c]? with
    | none => rfl
    | some cn =>
      have hcn : d.node? c = some cn := hc
      exact ext_setNode_same hcn { cn with parent := none } rfl x

theorem detachChildren_data {d d' : Dom} {p : Id} (h : d.detachChildren p = .ok d') :
    ∀ x, d'.dataOf x = d.dataOf x := by
  unfold Dom.detachChildren at h
  simp only [bind, Except.bind] at h
  cases hp : d.get p with
  | error e => simp [hp] at h
  | ok pn =>
    simp only [hp] at h
    cases hp2 : (d.clearParents pn.children).get p with
    | error e => simp [hp2] at h
    | ok pn2 =>
      simp only [hp2] at h
      cases h
      intro x
      exact (ext_setNode_same (get_ok.mp hp2) { pn2 with children := [] } rfl x).trans (clearParents_data _ _ x)

theorem attachAll_data {p : Id} : ∀ (ks : List Id) (d d' : Dom), d.attachAll p ks = .ok d' →
    ∀ x, d'.dataOf x = d.dataOf x := by
  intro ks
  induction ks with
  | nil => intro d d' h; simp [Dom.attachAll] at h; subst h; intro x; rfl
  | cons k ks ih =>
    intro d d' h
    simp only [Dom.attachAll, bind, Except.bind] at h
    cases h1 : d.appendRaw p k with
    | error e => simp [h1] at h
    | ok d1 =>
      simp only [h1] at h
      intro x; rw [ih _ _ h, appendRaw_data h1]

theorem ext_maybeCloneOption_fixed {d d' : Dom} {o : Id} (h : d.maybeCloneOption .fixed o = .ok d') :
    Ext d d' := by
  unfold Dom.maybeCloneOption at h
  simp only [bind, Except.bind] at h
  cases ht : d.cloneTarget .fixed o with
  | error e => simp [ht] at h
  | ok r =>
    simp only [ht] at h
    cases r with
    | none => simp at h; subst h; exact Ext.refl _
    | some sc =>
      simp only at h
      unfold Dom.cloneOptionInto at h
      simp only [bind, Except.bind] at h
      cases ho : d.get o with
      | error e => simp [ho] at h
      | ok on =>
        simp only [ho] at h
        cases h1 : Dom.cloneListWith (fun d c => Dom.cloneFixed d (d.size + 1) c) d on.children with
        | error e => simp [h1] at h
        | ok r1 =>
          obtain ⟨d1, frag⟩ := r1
          simp only [h1] at h
          cases h2 : d1.detachChildren sc with
          | error e => simp [h2] at h
          | ok d2 =>
            simp only [h2] at h
            exact ((ext_cloneListWith (fun a c a' k hc => ext_cloneFixed _ a c a' k hc) _ _ _ _ h1).trans
              (ext_of_data_all (detachChildren_data h2))).trans (ext_of_data_all (attachAll_data _ _ _ h))

/-! ### every sink call -/

theorem ext_createElement (d : Dom) (name : QualName) (attrs : List Attr) (flags : ElementFlags) :
    Ext d (d.createElement name attrs flags).1 := by
  unfold Dom.createElement
  split
  · exact (ext_alloc d _).trans (ext_alloc _ _)
  · exact ext_alloc d _

/-- **every successful sink call extends the arena** (no contract, no invariant assumed) -/
theorem apply_ext {d d' : Dom} {op : SinkOp} {out : Output} (h : d.apply op = .ok (d', out)) : Ext d d' := by
  refine H5V.Lemmas.Dom.applyV_ind (P := Ext d) h (Ext.refl _) (fun _ _ => ext_of_data_all (fun _ => rfl))
    (fun n a f => ext_createElement d n a f) (fun data _ => ext_alloc d data)
    (fun _ _ _ _ he => ext_append he) (fun _ _ _ _ _ he => ext_appendBeforeSiblingV he)
    (fun _ _ _ _ _ he => (ext_alloc d _).trans (ext_of_data_all (appendRaw_data he)))
    (fun _ _ _ he => ext_addAttrs he) (fun _ _ _ he => ext_of_data_all (removeFromParent_data he))
    (fun _ _ _ _ _ he => ext_reparentChildren he) (fun _ _ _ he => ext_maybeCloneOption_fixed he)

end H5V.Lemmas.TBSafe
