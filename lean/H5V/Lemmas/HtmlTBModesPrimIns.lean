import H5V.Lemmas.HtmlTBModesDefs
/-!
Simulation lemmas for the INSERTION primitives of `Model/HtmlTB/Actions.lean` against the helpers of
`Spec/TreeModes{1,2,3}.lean`.
-/
namespace H5V.Lemmas.HtmlTBModes
open H5V.Model.HtmlTB
open H5V.Model.Dom (Id SinkOp Output Dom QualName Attr NodeOrText ElementFlags NodeData QuirksMode)
open H5V.Lemmas.HtmlTBAlgo
open H5V.Lemmas.Dom
open H5V.Lemmas.HtmlTBSpec (toAdj Plain toName)
open H5V.Lemmas.TBSafe (TI HInv SInv Rooted)
open H5V.Spec.TreeAlgo2 (Elem Entry PState Ctx Edit Place)
open H5V.Spec.TreeModes (STok ETok IMode Config Out TokSwitch XOp Op Step Edition)

/-! ### tokens -/

/-! ### the model panics on the empty stack -/

theorem pc_bind_false {α β : Type} {m : M α} {f : α → M β} {s : State} {Q : β → State → List Call → Prop}
    (h : PC m s (fun _ _ _ => False)) : PC (m >>= f) s Q :=
  pc_bind (pc_conseq h fun _ _ _ _ hf => hf.elim)

theorem pc_apfi_nil {s : State} (h : s.openElems = []) {Q : InsertionPoint → State → List Call → Prop} :
    PC (appropriatePlaceForInsertion none) s Q := by
  rw [apfi_eq]
  exact pc_bind_false (pc_currentNode_nil h)

theorem pc_insertElement_nil {s : State} (h : s.openElems = []) (pushIt : Bool) (ns name : Str) (attrs : List Attr)
    (hadDup : Bool) {Q : Id → State → List Call → Prop} : PC (insertElement pushIt ns name attrs hadDup) s Q := by
  rw [insertElement_eq]
  unfold ieMain
  exact pc_bind_false (pc_apfi_nil h)

theorem pc_insertAppropriately_nil {s : State} (h : s.openElems = []) (child : NodeOrText)
    {Q : Unit → State → List Call → Prop} : PC (insertAppropriately child none) s Q := by
  unfold insertAppropriately
  exact pc_bind_false (pc_apfi_nil h)

/-! ### steps that change the stack of open elements only -/

/-- only the stack of open elements, the sink and the trace changed -/
structure SameButOpen (s s' : State) : Prop where
  opts : s'.opts = s.opts
  mode : s'.mode = s.mode
  origMode : s'.origMode = s.origMode
  templateModes : s'.templateModes = s.templateModes
  pendingTableText : s'.pendingTableText = s.pendingTableText
  quirksMode : s'.quirksMode = s.quirksMode
  docHandle : s'.docHandle = s.docHandle
  activeFormatting : s'.activeFormatting = s.activeFormatting
  headElem : s'.headElem = s.headElem
  formElem : s'.formElem = s.formElem
  framesetOk : s'.framesetOk = s.framesetOk
  ignoreLf : s'.ignoreLf = s.ignoreLf
  fosterParenting : s'.fosterParenting = s.fosterParenting
  contextElem : s'.contextElem = s.contextElem

theorem SameButOpen.of_eq {s s' : State} {l : List Id}
    (h : s' = { s with openElems := l, dom := s'.dom, traceRev := s'.traceRev }) : SameButOpen s s' := by
  constructor <;> rw [h]

theorem SameButOpen.of_same {s s' : State} (h : SameTB s s') : SameButOpen s s' := by
  have f := h.fields
  exact ⟨f.opts, f.mode, f.origMode, f.templateModes, f.pendingTableText, f.quirksMode, f.docHandle,
    f.activeFormatting, f.headElem, f.formElem, f.framesetOk, f.ignoreLf, f.fosterParenting, f.contextElem⟩

theorem cfgOf_sameButOpen {s s' : State} (hm : MInv s) (f : SameButOpen s s') (he : TBSafe.Ext s.dom s'.dom) :
    cfgOf s' = cfgOf s := by
  obtain ⟨c1, c2⟩ := context_ext hm he
  simp only [cfgOf, f.docHandle, f.opts, f.contextElem, c1, c2]

theorem absF_sameButOpen {s s' : State} (hm : MInv s) (f : SameButOpen s s') (he : TBSafe.Ext s.dom s'.dom) (x : Aux) :
    absF s' x = { absF s x with p := absP s' x } := by
  have e2 : s'.headElem.map (elemOf s'.dom) = s.headElem.map (elemOf s.dom) := by
    rw [f.headElem]; exact headPointer_ext hm he
  simp only [absF, e2, f.mode, f.origMode, f.templateModes, f.pendingTableText, f.quirksMode, f.framesetOk, f.ignoreLf]

theorem absP_sameButOpen {s s' : State} (f : SameButOpen s s') (x : Aux) :
    absP s' x = { absP s x with stack := if x.stopped then [] else absStack s'.dom s'.openElems } := by
  simp only [absP, f.activeFormatting, f.fosterParenting, f.formElem]

/-- the invariant after a push of a fresh element -/
theorem MInv.pushed {s s' : State} {a : Id} (hm : MInv s) (f : SameButOpen s s') (he : TBSafe.Ext s.dom s'.dom)
    (ho : s'.openElems = s.openElems ++ [a]) (hfresh : s.dom.size ≤ a) (hel : s'.dom.isElement a = true)
    (hroot : s.openElems = [] → nameOf s'.dom a = ⟨nsHtml, "html".toList⟩)
    (hip : (nameOf s'.dom a).ns ≠ nsHtml → ipOfDom s'.dom a = true → nameOf s'.dom a = annotName) : MInv s' := by
  refine ⟨?_, ?_, ?_, ?_, ?_, ?_, ?_, ?_, by rw [f.templateModes]; exact hm.tmodes, hm.form_ext he f.formElem,
    by rw [f.pendingTableText]; exact hm.pend⟩
  · rw [ho]
    intro y hy
    rcases List.mem_append.mp hy with h | h
    · exact isElement_ext he (hm.elems y h)
    · simp only [List.mem_singleton] at h; subst h; exact hel
  · intro h0 hh
    rw [ho] at hh
    cases hl : s.openElems with
    | nil => rw [hl] at hh; simp at hh; subst hh; exact hroot hl
    | cons b r =>
      rw [hl] at hh; simp at hh; subst hh
      rw [nameOf_ext he (hm.elems b (by rw [hl]; simp))]
      exact hm.root b (by rw [hl]; rfl)
  · rw [ho, f.activeFormatting]
    intro y t hy
    obtain ⟨h1, h2, h3⟩ := hm.af y t hy
    refine ⟨isElement_lt (isElement_ext he (hm.afEl y t hy)), h2, fun hx => ?_⟩
    rcases List.mem_append.mp hx with h | h
    · rw [nameOf_ext he (hm.elems y h)]; exact h3 h
    · simp only [List.mem_singleton] at h; subst h
      exact absurd (Nat.lt_of_lt_of_le h1 hfresh) (Nat.lt_irrefl _)
  · intro y t hy; rw [f.activeFormatting] at hy; exact isElement_ext he (hm.afEl y t hy)
  · intro y hy; rw [f.headElem] at hy; exact isElement_ext he (hm.head y hy)
  · exact hm.ctx_ext he f.contextElem
  · intro y t hy; rw [f.activeFormatting] at hy
    rw [nameOf_ext he (hm.afEl y t hy)]; exact hm.afwf y t hy
  · rw [ho]
    intro y hy
    rcases List.mem_append.mp hy with h | h
    · rw [nameOf_ext he (hm.elems y h), ipOfDom_ext he (hm.elems y h)]; exact hm.ip y h
    · simp only [List.mem_singleton] at h; subst h; exact hip

/-- the invariant when only the sink moved -/
theorem MInv.sameButOpen {s s' : State} (hm : MInv s) (f : SameButOpen s s') (he : TBSafe.Ext s.dom s'.dom)
    (ho : s'.openElems = s.openElems) : MInv s' := by
  refine ⟨by rw [ho]; exact ElemsOk.ext hm.elems he, ?_, ?_, ?_, ?_, ?_, ?_, ?_, by rw [f.templateModes]; exact hm.tmodes,
    hm.form_ext he f.formElem, by rw [f.pendingTableText]; exact hm.pend⟩
  · intro h0 hh; rw [ho] at hh
    rw [nameOf_ext he (hm.elems h0 (List.mem_of_head? hh))]; exact hm.root h0 hh
  · rw [ho, f.activeFormatting]
    intro y t hy
    obtain ⟨h1, h2, h3⟩ := hm.af y t hy
    exact ⟨isElement_lt (isElement_ext he (hm.afEl y t hy)), h2, fun hx => by rw [nameOf_ext he (hm.elems y hx)]; exact h3 hx⟩
  · intro y t hy; rw [f.activeFormatting] at hy; exact isElement_ext he (hm.afEl y t hy)
  · intro y hy; rw [f.headElem] at hy; exact isElement_ext he (hm.head y hy)
  · exact hm.ctx_ext he f.contextElem
  · intro y t hy; rw [f.activeFormatting] at hy
    rw [nameOf_ext he (hm.afEl y t hy)]; exact hm.afwf y t hy
  · rw [ho]
    intro y hy
    rw [nameOf_ext he (hm.elems y hy), ipOfDom_ext he (hm.elems y hy)]; exact hm.ip y hy

/-! ### the new element of a `create_element` call -/

theorem replay_mem : ∀ {d d' : Dom} {calls : List Call}, Replay d calls d' → ∀ c ∈ calls,
    ∃ d0 d1 : Dom, Dom.apply d0 c.1 = Except.ok (d1, c.2) ∧ TBSafe.Ext d1 d' := by
  intro d d' calls
  induction calls generalizing d with
  | nil => intro _ c hc; cases hc
  | cons c0 r ih =>
    intro h c hc
    obtain ⟨dm, h1, h2⟩ := h
    rcases List.mem_cons.mp hc with rfl | hc
    · exact ⟨d, dm, h1, replay_ext h2⟩
    · exact ih h2 c hc

theorem ipOfDom_createElement (d : Dom) (name : QualName) (attrs : List Attr) (flags : ElementFlags) :
    ipOfDom (d.createElement name attrs flags).1 (d.createElement name attrs flags).2 = flags.mathmlIP ∧
    (d.createElement name attrs flags).1.isElement (d.createElement name attrs flags).2 = true := by
  unfold Dom.createElement ipOfDom Dom.isElement
  by_cases ht : flags.template = true
  · simp only [ht, if_true, dataOf_alloc, alloc_id]
    simp
  · have ht' : flags.template = false := by simpa using ht
    simp only [ht', Bool.false_eq_true, if_false, dataOf_alloc, alloc_id]
    simp

/-- the integration-point flag of the element made by a `create_element` call of a replayed call list -/
theorem ipOfDom_of_create {d d' : Dom} {calls : List Call} (h : Replay d calls d') {name : QualName} {attrs : List Attr}
    {flags : ElementFlags} {a : Id} (hc : (SinkOp.createElement name attrs flags, Output.node a) ∈ calls) :
    ipOfDom d' a = flags.mathmlIP := by
  obtain ⟨d0, d1, h1, h2⟩ := replay_mem h _ hc
  rw [TBSafe.apply_createElement] at h1
  have e1 : d1 = (d0.createElement name attrs flags).1 := by cases h1; rfl
  have e2 : a = (d0.createElement name attrs flags).2 := by cases h1; rfl
  obtain ⟨f1, f2⟩ := ipOfDom_createElement d0 name attrs flags
  rw [← e1, ← e2] at f1 f2
  rw [ipOfDom_ext h2 f2, f1]

/-! ### `insert_element` -/

/-- `create_element_with_flags` sets the integration-point flag only on a MathML `annotation-xml` -/
theorem name_of_flagsFor_ip {ns name : Str} {attrs : List Attr} {hadDup : Bool}
    (h : (flagsFor { pfx := none, ns := ns, loc := name } attrs hadDup).mathmlIP = true) :
    (⟨ns, name⟩ : EName) = annotName := by
  unfold flagsFor at h
  by_cases hc : (ns == nsMathml && isName name "annotation-xml") = true
  · simp only [Bool.and_eq_true, beq_iff_eq, isName] at hc
    obtain ⟨h1, h2⟩ := hc
    subst h1; subst h2; rfl
  · simp only [hc] at h
    exact absurd h (by simp)

/-- `MInv.ip` for a new element named `⟨ns, name⟩` made by `create_element_with_flags` -/
theorem ip_of_flagsFor {d : Dom} {a : Id} {ns name : Str} {attrs : List Attr} {hadDup : Bool}
    (hnm : nameOf d a = ⟨ns, name⟩)
    (hip : ipOfDom d a = (flagsFor { pfx := none, ns := ns, loc := name } attrs hadDup).mathmlIP) :
    (nameOf d a).ns ≠ nsHtml → ipOfDom d a = true → nameOf d a = annotName := by
  intro _ h
  rw [hnm]
  exact name_of_flagsFor_ip (by rw [← hip]; exact h)

/-- `MInv.ip` for a new HTML element -/
theorem ip_of_html {d : Dom} {a : Id} {name : Str} (hnm : nameOf d a = ⟨nsHtml, name⟩) :
    (nameOf d a).ns ≠ nsHtml → ipOfDom d a = true → nameOf d a = annotName := by
  intro h; rw [hnm] at h; exact absurd rfl h

/-- the new integration points of "insert a foreign element": the new node if it is a MathML
`annotation-xml` element with a matching `encoding` attribute -/
def newAnnot (ns : Str) (tag : Tag) (a : Id) : List Id :=
  if (flagsFor { pfx := none, ns := ns, loc := tag.name } tag.attrs tag.hadDup).mathmlIP then [a] else []

theorem create_mem_of_spec {s : State} {a : Id} {rest : List Id} {tag : Tag} {ns : Str} {only : Bool}
    {p : PState Id Tag} {e : Elem Id}
    (h : Spec.TreeAlgo2.insertForeignElement tagCtx (absState s (a :: rest) []) tag ns only = some (p, e)) :
    Edit.create a ns tag ∈ p.log := by
  unfold Spec.TreeAlgo2.insertForeignElement at h
  cases hp : Spec.TreeAlgo2.appropriatePlace (absState s (a :: rest) []).stack (absState s (a :: rest) []).fosterParenting none with
  | none => rw [hp] at h; cases h
  | some loc =>
    rw [hp] at h
    simp only [Option.bind_some, PState.newNode, absState, Option.map_some, Option.some.injEq, Prod.mk.injEq] at h
    rw [← h.1]
    simp

theorem absStack_snoc (d : Dom) (l : List Id) (a : Id) : absStack d (l ++ [a]) = absStack d l ++ [elemOf d a] := by
  simp [absStack]

/-- from the phase-1 facts about an insertion (`insert_element`, `insert_foreign_element`) to the stretch -/
theorem tr_insert_of_spec {s s' : State} {calls : List Call} (hm : MInv s) (hne : s.openElems ≠ [])
    (pushIt only : Bool) (ns : Str) (tag : Tag) (a : Id) (he : Ext2 s calls s') (f : SameButOpen s s')
    (ho : s'.openElems = if pushIt then s.openElems ++ [a] else s.openElems)
    (hfresh : s.dom.size ≤ a) (hel : s'.dom.isElement a = true) (hnm : nameOf s'.dom a = ⟨ns, tag.name⟩)
    (L : List (Edit Id Tag)) (hL : ∀ tc, TcOk s.dom tc → edits calls = L.map (editCall tc))
    (hspec : ∀ rest log0, Spec.TreeAlgo2.insertForeignElement tagCtx (absState s (a :: rest) log0) tag ns only
      = some ({ absState s rest (log0 ++ L) with
                  stack := absStack s.dom s.openElems ++ [⟨a, ⟨ns, tag.name⟩⟩] }, ⟨a, ⟨ns, tag.name⟩⟩)) :
    Tr s s' calls (fun x x' => ∃ p1,
      Spec.TreeAlgo2.insertForeignElement Spec.TreeModes.cx (absP s x) (etokOf tag) ns only
        = some (p1, ⟨a, ⟨ns, tag.name⟩⟩) ∧
      absF s' x' = { absF s x with p := if pushIt then p1 else { p1 with stack := p1.stack.dropLast },
                                   annotationHtml := x.annot ++ newAnnot ns tag a }) := by
  have hx := he.ext
  have hcreate : Edit.create a ns tag ∈ L := by
    exact create_mem_of_spec (hspec [] [])
  have hip : ipOfDom s'.dom a = (flagsFor { pfx := none, ns := ns, loc := tag.name } tag.attrs tag.hadDup).mathmlIP := by
    have h1 := hL (tcOf s.dom) (TcOk.self _)
    have hmem : createCall ns tag a ∈ edits calls := by
      rw [h1]; exact List.mem_map.mpr ⟨_, hcreate, rfl⟩
    exact ipOfDom_of_create he.replay (List.mem_filter.mp hmem).1
  have hm' : MInv s' := by
    cases pushIt
    · exact hm.sameButOpen f hx (by simpa using ho)
    · exact hm.pushed f hx (by simpa using ho) hfresh hel (fun h => absurd h hne) (ip_of_flagsFor hnm hip)
  have hold : ∀ h ∈ s.openElems, h ≠ a := by
    intro h hh e
    have := isElement_lt (hm.elems h hh)
    rw [e] at this
    exact absurd (Nat.lt_of_lt_of_le this hfresh) (Nat.lt_irrefl _)
  refine (Tr.of_edits hm' (cfgOf_sameButOpen hm f hx) he [a] L (newAnnot ns tag a)
    (FreshIds.of_size (by intro n hn; simp only [List.mem_singleton] at hn; subst hn; exact hfresh)) ?_ ?_ ?_).conseq ?_
  · intro tc htc; exact hL tc (tcOk_of_ext htc hx)
  · intro x hxa h hh hn
    have hcase : h ∈ s.openElems ∨ h = a := by
      rw [ho] at hh
      cases pushIt
      · exact Or.inl (by simpa using hh)
      · simp only [if_true, List.mem_append, List.mem_singleton] at hh; exact hh
    rcases hcase with hin | rfl
    · rw [nameOf_ext hx (hm.elems h hin)] at hn
      rw [ipOfDom_ext hx (hm.elems h hin), ← hxa.annot h hin hn]
      have : (newAnnot ns tag a).contains h = false := by
        unfold newAnnot; split
        · simp [hold h hin]
        · rfl
      rw [List.contains_append, this, Bool.or_false]
    · have : x.annot.contains h = false := by
        cases hc : x.annot.contains h with
        | false => rfl
        | true =>
          have hmem : h ∈ x.annot := by simpa using hc
          have := isElement_lt (hxa.annotEl h hmem)
          exact absurd (Nat.lt_of_lt_of_le this hfresh) (Nat.lt_irrefl _)
      rw [hip, List.contains_append, this, Bool.false_or]
      unfold newAnnot
      cases (flagsFor { pfx := none, ns := ns, loc := tag.name } tag.attrs tag.hadDup).mathmlIP <;> simp
  · intro b hb
    unfold newAnnot at hb
    split at hb
    · simp only [List.mem_singleton] at hb; subst hb; exact hel
    · cases hb
  · rintro x x' hxa _ ⟨hx', rest, hsup⟩
    subst hx'
    have hsup' : x.supply = a :: rest := hsup
    have h1 := insertForeignElement_mapP etokOf ctxMap_etok (absState s (a :: rest) x.logT) tag ns only
    rw [hspec rest x.logT] at h1
    have hstk : absStack s'.dom s'.openElems = if pushIt then absStack s.dom s.openElems ++ [⟨a, ⟨ns, tag.name⟩⟩]
        else absStack s.dom s.openElems := by
      rw [ho]
      have e1 : elemOf s'.dom a = ⟨a, ⟨ns, tag.name⟩⟩ := by unfold elemOf; rw [hnm]; rfl
      cases pushIt
      · simp only [Bool.false_eq_true, if_false]; exact absStack_ext hm.elems hx
      · simp only [if_true]; rw [absStack_snoc, absStack_ext hm.elems hx, e1]
    let P : PState Id ETok := { absP s x with
      stack := absStack s.dom s.openElems ++ [⟨a, ⟨ns, tag.name⟩⟩], supply := rest,
      log := x.log ++ L.map (Edit.mapTok etokOf) }
    have hP : mapP etokOf { absState s rest (x.logT ++ L) with
        stack := absStack s.dom s.openElems ++ [⟨a, ⟨ns, tag.name⟩⟩] } = P := by
      show ({ mapP etokOf (absState s rest (x.logT ++ L)) with
        stack := absStack s.dom s.openElems ++ [⟨a, ⟨ns, tag.name⟩⟩] } : PState Id ETok) = P
      rw [mapP_absState]
      simp only [P, absP, List.map_append, Aux.logT_map]
    refine ⟨P, ?_, ?_⟩
    · rw [absP_eq s x hxa.live, hsup', h1]
      simp only [Option.map_some, mapFst_mk, hP]
    · rw [absF_sameButOpen hm f hx]
      have : absP s' (x.step [a].length L (newAnnot ns tag a))
          = if pushIt then P else { P with stack := P.stack.dropLast } := by
        rw [absP_sameButOpen f, hstk]
        cases pushIt <;> simp [P, Aux.step, absP, hxa.live, hsup']
      rw [this]; rfl

/-- `insert_element(push, ns, tag)` (mod.rs:1360) against `TreeAlgo2.insertForeignElement` on the abstract
state (`pushIt = false`: the new element is popped again) -/
theorem pc_insertElement_core {s : State} (hm : MInv s) (pushIt : Bool) (ns : Str) (tag : Tag) :
    PC (insertElement pushIt ns tag.name tag.attrs tag.hadDup) s (fun a s' calls =>
      SameButOpen s s' ∧ s'.openElems = (if pushIt then s.openElems ++ [a] else s.openElems) ∧
      s.dom.size ≤ a ∧ s'.dom.isElement a = true ∧ nameOf s'.dom a = ⟨ns, tag.name⟩ ∧
      Tr s s' calls (fun x x' => ∃ p1,
        Spec.TreeAlgo2.insertForeignElement Spec.TreeModes.cx (absP s x) (etokOf tag) ns false
          = some (p1, ⟨a, ⟨ns, tag.name⟩⟩) ∧
        absF s' x' = { absF s x with p := if pushIt then p1 else { p1 with stack := p1.stack.dropLast },
                                     annotationHtml := x.annot ++ newAnnot ns tag a })) := by
  by_cases hne : s.openElems = []
  · exact pc_insertElement_nil hne _ _ _ _ _
  have hhead := hm.headOk hne
  refine pc_conseq (PC.of_tot (tot_insertElement_spec s pushIt ns tag hm.elems hhead)) ?_
  rintro a s' calls he ⟨hs', hfresh, hel, hnm, L, hL, hspec⟩
  have f : SameButOpen s s' := SameButOpen.of_eq hs'
  have ho : s'.openElems = if pushIt then s.openElems ++ [a] else s.openElems := by rw [hs']
  exact ⟨f, ho, hfresh, hel, hnm, tr_insert_of_spec hm hne pushIt false ns tag a he f ho hfresh hel hnm L hL hspec⟩

/-! ### changing the unobserved part of the final `Aux` of a stretch -/

/-- the final `Aux` of a stretch may be replaced by one that differs in what `Link` does not look at
(error labels, the self-closing acknowledgement, the original-mode default, the junk table text) -/
theorem Tr.reaux {s s' : State} {c : List Call} {R R' : Aux → Aux → Prop} (h : Tr s s' c R) (g : Aux → Aux → Aux)
    (hg : ∀ x x', AuxSame x' (g x x') ∧ (g x x').stopped = x'.stopped ∧ (g x x').out.switch = x'.out.switch ∧
      (g x x').out.script = x'.out.script)
    (hr : ∀ x x', AuxOk s x → AuxOk s' x' → R x x' → R' x (g x x')) : Tr s s' c R' := by
  obtain ⟨hm, hc, he, ids, hfi, f⟩ := h
  refine ⟨hm, hc, he, ids, hfi, fun x rest hx hs => ?_⟩
  obtain ⟨x', l, r⟩ := f x rest hx hs
  obtain ⟨hsame, hst, hsw, hsc⟩ := hg x x'
  refine ⟨g x x', ⟨⟨by rw [hst]; exact l.aux.live, by rw [hsame.annot]; exact l.aux.annot,
    by rw [hsame.annot]; exact l.aux.annotEl, by rw [hsame.xlog, hsame.log]; exact l.aux.xlog⟩,
    hsame.supply.trans l.supply, hsw.trans l.switch, hsc.trans l.script, hsame.outs.trans l.outs, ?_⟩, hr x x' hx l.aux r⟩
  obtain ⟨ops, e1, k1⟩ := l.log
  refine ⟨ops, ?_, k1⟩
  unfold Aux.fullLog at e1 ⊢
  rw [hsame.xlog, hsame.log]; exact e1

/-! ### "insert an HTML element" -/

theorem nsHtml_ne_nsMathml : nsHtml ≠ nsMathml := by decide +kernel
theorem nsMathml_ne_nsSvg : nsMathml ≠ nsSvg := by decide +kernel
theorem nsHtml_ne_nsSvg : nsHtml ≠ nsSvg := by decide +kernel

theorem newAnnot_html (tag : Tag) (a : Id) : newAnnot nsHtml tag a = [] := by
  unfold newAnnot flagsFor
  simp [beq_eq_false_iff_ne.mpr nsHtml_ne_nsMathml]

theorem pop_eq (σ : SState) : Spec.TreeModes.State.pop σ = { σ with p := { σ.p with stack := σ.p.stack.dropLast } } := rfl

/-- `insert_element(push, html, tag)` against `insertHtml` for a specification tag `st` with the same
element token -/
theorem pc_insertHtml_core {s : State} (hm : MInv s) (pushIt : Bool) (t : Tag) (st : STag) (het : st.etok = etokOf t) :
    PC (insertElement pushIt nsHtml t.name t.attrs t.hadDup) s (fun a s' calls =>
      SameButOpen s s' ∧ s'.openElems = (if pushIt then s.openElems ++ [a] else s.openElems) ∧
      s.dom.size ≤ a ∧ s'.dom.isElement a = true ∧ nameOf s'.dom a = ⟨nsHtml, t.name⟩ ∧
      Tr s s' calls (fun x x' => ∃ σ1, Spec.TreeModes.insertHtml (absF s x) st = .ok (σ1, elemOf s'.dom a) ∧
        absF s' x' = if pushIt then σ1 else σ1.pop)) := by
  refine pc_conseq (pc_insertElement_core hm pushIt nsHtml t) ?_
  rintro a s' calls he ⟨f, ho, hfresh, hel, hnm, htr⟩
  refine ⟨f, ho, hfresh, hel, hnm, htr.conseq ?_⟩
  rintro x x' hx hx' ⟨p1, h1, h2⟩
  have e1 : elemOf s'.dom a = ⟨a, ⟨nsHtml, t.name⟩⟩ := by unfold elemOf; rw [hnm]; rfl
  refine ⟨{ absF s x with p := p1 }, ?_, ?_⟩
  · unfold Spec.TreeModes.insertHtml Spec.TreeAlgo2.insertHtmlElement
    rw [het, absF_p]
    rw [show Spec.TreeAlgo.nsHtml = nsHtml from rfl, h1, e1]
    rfl
  · rw [h2, newAnnot_html, List.append_nil]
    cases pushIt <;> rfl

/-- `insert_element_for(tag)` (mod.rs:1416) is "insert an HTML element" (`insertHtml`) -/
theorem pc_insertElementFor {s : State} (hm : MInv s) {t : Tag} (hp : PlainTag t) :
    PC (insertElementFor t) s (fun a s' calls =>
      SameButOpen s s' ∧ s'.openElems = s.openElems ++ [a] ∧ s.dom.size ≤ a ∧ s'.dom.isElement a = true ∧
      nameOf s'.dom a = ⟨nsHtml, t.name⟩ ∧
      Tr s s' calls (fun x x' => Spec.TreeModes.insertHtml (absF s x) (specTag t) = .ok (absF s' x', elemOf s'.dom a))) := by
  unfold insertElementFor
  refine pc_conseq (pc_insertHtml_core hm true t (specTag t) (specTag_etok hp)) ?_
  rintro a s' calls he ⟨f, ho, hfresh, hel, hnm, htr⟩
  refine ⟨f, by simpa using ho, hfresh, hel, hnm, htr.conseq ?_⟩
  rintro x x' hx hx' ⟨σ1, h1, h2⟩
  rw [h2]; exact h1

/-- `insert_element_for(tag)` against `insertHtml'` -/
theorem pc_insertElementFor' {s : State} (hm : MInv s) {t : Tag} (hp : PlainTag t) :
    PC (insertElementFor t) s (fun a s' calls =>
      SameButOpen s s' ∧ s'.openElems = s.openElems ++ [a] ∧ s.dom.size ≤ a ∧ s'.dom.isElement a = true ∧
      nameOf s'.dom a = ⟨nsHtml, t.name⟩ ∧
      Tr s s' calls (fun x x' => Spec.TreeModes.insertHtml' (absF s x) (specTag t) = .ok (absF s' x'))) := by
  refine pc_conseq (pc_insertElementFor hm hp) ?_
  rintro a s' calls he ⟨f, ho, hfresh, hel, hnm, htr⟩
  refine ⟨f, ho, hfresh, hel, hnm, htr.conseq ?_⟩
  rintro x x' hx hx' h1
  unfold Spec.TreeModes.insertHtml'
  rw [h1]; rfl

/-- the tag `insert_phantom(name)` creates an element for -/
def phantomTag (name : String) : Tag := { kind := .startTag, name := name.toList }

/-- `insert_phantom(name)` (mod.rs:1436) is "insert an HTML element for a `name` start tag token with no
attributes" -/
theorem pc_insertPhantom {s : State} (hm : MInv s) (name : String) :
    PC (insertPhantom name) s (fun a s' calls =>
      SameButOpen s s' ∧ s'.openElems = s.openElems ++ [a] ∧ s.dom.size ≤ a ∧ s'.dom.isElement a = true ∧
      nameOf s'.dom a = ⟨nsHtml, name.toList⟩ ∧
      Tr s s' calls (fun x x' =>
        Spec.TreeModes.insertHtml (absF s x) (Spec.TreeModes.bareTag name) = .ok (absF s' x', elemOf s'.dom a))) := by
  have e : insertPhantom name = insertElement true nsHtml (phantomTag name).name (phantomTag name).attrs (phantomTag name).hadDup := rfl
  rw [e]
  refine pc_conseq (pc_insertHtml_core hm true (phantomTag name) (Spec.TreeModes.bareTag name) rfl) ?_
  rintro a s' calls he ⟨f, ho, hfresh, hel, hnm, htr⟩
  refine ⟨f, by simpa using ho, hfresh, hel, hnm, htr.conseq ?_⟩
  rintro x x' hx hx' ⟨σ1, h1, h2⟩
  rw [h2]; exact h1

/-- `insert_phantom(name)` against `insertHtml'` -/
theorem pc_insertPhantom' {s : State} (hm : MInv s) (name : String) :
    PC (insertPhantom name) s (fun a s' calls =>
      SameButOpen s s' ∧ s'.openElems = s.openElems ++ [a] ∧ s.dom.size ≤ a ∧ s'.dom.isElement a = true ∧
      nameOf s'.dom a = ⟨nsHtml, name.toList⟩ ∧
      Tr s s' calls (fun x x' =>
        Spec.TreeModes.insertHtml' (absF s x) (Spec.TreeModes.bareTag name) = .ok (absF s' x'))) := by
  refine pc_conseq (pc_insertPhantom hm name) ?_
  rintro a s' calls he ⟨f, ho, hfresh, hel, hnm, htr⟩
  refine ⟨f, ho, hfresh, hel, hnm, htr.conseq ?_⟩
  rintro x x' hx hx' h1
  unfold Spec.TreeModes.insertHtml'
  rw [h1]; rfl

/-- `insert_and_pop_element_for(tag)` (mod.rs:1426) is "insert an HTML element" followed by "pop the
current node" (the caller deals with the acknowledgement of the self-closing flag) -/
theorem pc_insertAndPopElementFor {s : State} (hm : MInv s) {t : Tag} (hp : PlainTag t) :
    PC (insertAndPopElementFor t) s (fun a s' calls =>
      SameButOpen s s' ∧ s'.openElems = s.openElems ∧ s.dom.size ≤ a ∧ s'.dom.isElement a = true ∧
      nameOf s'.dom a = ⟨nsHtml, t.name⟩ ∧
      Tr s s' calls (fun x x' => ∃ σ1, Spec.TreeModes.insertHtml' (absF s x) (specTag t) = .ok σ1 ∧
        absF s' x' = σ1.pop)) := by
  unfold insertAndPopElementFor
  refine pc_conseq (pc_insertHtml_core hm false t (specTag t) (specTag_etok hp)) ?_
  rintro a s' calls he ⟨f, ho, hfresh, hel, hnm, htr⟩
  refine ⟨f, by simpa using ho, hfresh, hel, hnm, htr.conseq ?_⟩
  rintro x x' hx hx' ⟨σ1, h1, h2⟩
  refine ⟨σ1, ?_, by simpa using h2⟩
  unfold Spec.TreeModes.insertHtml'
  rw [h1]; rfl

/-- the `Aux` with the self-closing flag of `t` acknowledged -/
def Aux.ack (x : Aux) (selfClosing : Bool) : Aux :=
  if selfClosing then { x with out := { x.out with ackSelfClosing := true } } else x

theorem absF_ack (s : State) (x : Aux) (t : STag) : absF s (x.ack t.selfClosing) = (absF s x).ack t := by
  unfold Aux.ack Spec.TreeModes.State.ack
  cases t.selfClosing <;> rfl

theorem Aux.ack_same (x : Aux) (b : Bool) : AuxSame x (x.ack b) ∧ (x.ack b).stopped = x.stopped ∧
    (x.ack b).out.switch = x.out.switch ∧ (x.ack b).out.script = x.out.script := by
  unfold Aux.ack
  cases b <;> exact ⟨⟨rfl, rfl, rfl, rfl, rfl⟩, rfl, rfl, rfl⟩

/-- `insert_and_pop_element_for(tag)` is `insertVoid`: "insert an HTML element, immediately pop the
current node, acknowledge the token's self-closing flag" (html5ever: result `DoneAckSelfClosing`) -/
theorem pc_insertVoid {s : State} (hm : MInv s) {t : Tag} (hp : PlainTag t) :
    PC (insertAndPopElementFor t) s (fun a s' calls =>
      SameButOpen s s' ∧ s'.openElems = s.openElems ∧ s.dom.size ≤ a ∧ s'.dom.isElement a = true ∧
      nameOf s'.dom a = ⟨nsHtml, t.name⟩ ∧
      Tr s s' calls (fun x x' => Spec.TreeModes.insertVoid (absF s x) (specTag t) = .ok (absF s' x'))) := by
  refine pc_conseq (pc_insertAndPopElementFor hm hp) ?_
  rintro a s' calls he ⟨f, ho, hfresh, hel, hnm, htr⟩
  refine ⟨f, ho, hfresh, hel, hnm, htr.reaux (fun _ x' => x'.ack t.selfClosing) (fun _ x' => x'.ack_same _) ?_⟩
  rintro x x' hx hx' ⟨σ1, h1, h2⟩
  unfold Spec.TreeModes.insertVoid
  rw [h1]
  show Except.ok (σ1.pop.ack (specTag t)) = _
  rw [← h2, ← absF_ack]; rfl

/-! ### "insert a character" -/

theorem flatCall_insertText (ip : InsertionPoint) (t : Str) (o : Output) :
    flatCall (insertOp ip (.text t), o) = t.map fun c => (insertOp ip (.text [c]), o) := by
  cases ip <;> rfl

theorem isEdit2_insertOp (ip : InsertionPoint) (ch : NodeOrText) : isEdit2 (insertOp ip ch) = true := by
  cases ip <;> rfl

theorem flatCalls_chars (tc : Id → Id) (place : Place Id) (text : Str) :
    flatCalls ((text.map fun c => Edit.insertText place [c]).map (editCall tc))
      = text.map fun c => (insertOp (ipOf tc place) (.text [c]), Output.unit) := by
  induction text with
  | nil => rfl
  | cons c r ih =>
    simp only [List.map_cons, flatCalls, List.flatMap_cons] at ih ⊢
    rw [ih]
    simp only [editCall, flatCall_insertText, List.map_cons, List.map_nil, List.singleton_append]

/-- `append_text(text)` (mod.rs:1322): one insertion of `text` at the appropriate place -/
theorem pc_appendText_flat {s : State} (hm : MInv s) (text : Str) :
    PC (appendText text) s (fun r s' calls => r = .done ∧ SameTB s s' ∧ ∃ place,
      Spec.TreeAlgo2.appropriatePlace (absStack s.dom s.openElems) s.fosterParenting none = some place ∧
      ∀ tc, TcOk s'.dom tc → flatCalls (edits2 calls)
        = text.map fun c => (insertOp (ipOf tc place) (.text [c]), Output.unit)) := by
  by_cases hne : s.openElems = []
  · unfold appendText
    exact pc_bind_false (pc_insertAppropriately_nil hne _)
  have hok := hm.elems
  obtain ⟨place, hplace, hpel⟩ := hm.place hne
  unfold appendText
  refine pc_seq (PC.of_tot (tot_insertAppropriately s (.text text) none hok (by simp) place hplace)) ?_
  rintro _ s1 c1 he1 ⟨hs1, hc1⟩
  refine pc_pure ⟨rfl, hs1, place, hplace, ?_⟩
  intro tc htc
  rw [List.append_nil, ← edits2_edits, hc1]
  rw [← ipOf_congr (tcOk_of_ext htc he1.ext) hpel]
  simp only [edits2, List.filter_cons, isEdit2_insertOp, if_true, List.filter_nil, flatCalls, List.flatMap_cons,
    List.flatMap_nil, List.append_nil, flatCall_insertText]

theorem foldlM_insertChar (σ : SState) (place : Place Id)
    (h : Spec.TreeAlgo2.appropriatePlace σ.p.stack σ.p.fosterParenting none = some place) (text : Str) :
    text.foldlM (fun σ c => Spec.TreeModes.insertChar σ c) σ
      = .ok { σ with p := { σ.p with log := σ.p.log ++ text.map fun c => Edit.insertText place [c] } } := by
  induction text generalizing σ with
  | nil => simp only [List.foldlM_nil, List.map_nil, List.append_nil]; rfl
  | cons c r ih =>
    have e1 : Spec.TreeModes.insertChar σ c
        = .ok { σ with p := { σ.p with log := σ.p.log ++ [Edit.insertText place [c]] } } := by
      simp only [Spec.TreeModes.insertChar, Spec.TreeAlgo2.insertCharacters, h, Option.map_some, Spec.TreeModes.req]
      rfl
    rw [List.foldlM_cons, e1]
    show List.foldlM _ _ r = _
    rw [ih { σ with p := { σ.p with log := σ.p.log ++ [Edit.insertText place [c]] } } h]
    simp only [List.map_cons, List.append_assoc, List.singleton_append]

/-- `append_text(text)` is "insert a character" for every character of `text` (the sink merges the
insertions; `Link.log` compares the calls up to the splitting of text insertions) -/
theorem pc_appendText {s : State} (hm : MInv s) (text : Str) :
    PC (appendText text) s (fun r s' calls => r = .done ∧ SameTB s s' ∧
      Tr s s' calls (fun x x' =>
        text.foldlM (fun σ c => Spec.TreeModes.insertChar σ c) (absF s x) = .ok (absF s' x'))) := by
  refine pc_conseq (pc_appendText_flat hm text) ?_
  rintro r s' calls he ⟨hr, hs, place, hplace, hflat⟩
  refine ⟨hr, hs, ?_⟩
  refine (Tr.of_flat (hm.sameTB hs he.ext) (cfgOf_of_same hm hs he.ext) he []
    (text.map fun c => Edit.insertText place [c]) [] (FreshIds.nil _) ?_
    (annot_of_sub he.ext hm (by rw [hs.openElems]; exact fun _ h => h)) (by simp)).conseq ?_
  · intro tc htc
    rw [hflat tc htc, flatCalls_chars]
  · rintro x x' hx _ ⟨hx', rest, hsup⟩
    subst hx'
    rw [absF_step_same hm hs he.ext]
    have hpl : Spec.TreeAlgo2.appropriatePlace (absF s x).p.stack (absF s x).p.fosterParenting none = some place := by
      simp only [absF_p, absP, hx.live]; exact hplace
    rw [foldlM_insertChar _ place hpl]
    simp [absF, absP, List.map_map, Edit.mapTok, Function.comp]

/-- `append_text([c])` is "insert a character" (`insertChar`) -/
theorem pc_appendText_char {s : State} (hm : MInv s) (c : Char) :
    PC (appendText [c]) s (fun r s' calls => r = .done ∧ SameTB s s' ∧
      Tr s s' calls (fun x x' => Spec.TreeModes.insertChar (absF s x) c = .ok (absF s' x'))) := by
  refine pc_conseq (pc_appendText hm [c]) ?_
  rintro r s' calls he ⟨hr, hs, htr⟩
  refine ⟨hr, hs, htr.conseq ?_⟩
  intro x x' _ _ h
  simp only [List.foldlM_cons, List.foldlM_nil] at h
  cases hi : Spec.TreeModes.insertChar (absF s x) c with
  | error e => rw [hi] at h; cases h
  | ok σ => rw [hi] at h; exact h

/-- the log entry of `insertChars` -/
def charsEdits (place : Place Id) : Str → List (Edit Id Tag)
  | [] => []
  | c :: r => [Edit.insertText place (c :: r)]

/-- `append_text(text)` is "insert the characters `text`" (`insertChars`: nothing for the empty string) -/
theorem pc_appendText_chars {s : State} (hm : MInv s) (text : Str) :
    PC (appendText text) s (fun r s' calls => r = .done ∧ SameTB s s' ∧
      Tr s s' calls (fun x x' => Spec.TreeModes.insertChars (absF s x) text = .ok (absF s' x'))) := by
  refine pc_conseq (pc_appendText_flat hm text) ?_
  rintro r s' calls he ⟨hr, hs, place, hplace, hflat⟩
  refine ⟨hr, hs, ?_⟩
  refine (Tr.of_flat (hm.sameTB hs he.ext) (cfgOf_of_same hm hs he.ext) he []
    (charsEdits place text) [] (FreshIds.nil _) ?_
    (annot_of_sub he.ext hm (by rw [hs.openElems]; exact fun _ h => h)) (by simp)).conseq ?_
  · intro tc htc
    rw [hflat tc htc]
    cases text with
    | nil => rfl
    | cons c r =>
      simp only [charsEdits, List.map_cons, List.map_nil, editCall, flatCalls, List.flatMap_cons, List.flatMap_nil,
        List.append_nil, flatCall_insertText]
  · rintro x x' hx _ ⟨hx', rest, hsup⟩
    subst hx'
    rw [absF_step_same hm hs he.ext]
    have hpl : Spec.TreeAlgo2.appropriatePlace (absF s x).p.stack (absF s x).p.fosterParenting none = some place := by
      simp only [absF_p, absP, hx.live]; exact hplace
    cases text with
    | nil => simp [Spec.TreeModes.insertChars, absF, absP, pure, Except.pure, charsEdits]
    | cons c r =>
      simp only [Spec.TreeModes.insertChars, Spec.TreeAlgo2.insertCharacters, hpl, Option.map_some, Spec.TreeModes.req]
      simp [absF, absP, Edit.mapTok, bind, Except.bind, pure, Except.pure, charsEdits]

/-! ### "insert a comment" -/

/-- `append_comment(text)` (mod.rs:1327) is "insert a comment" (`insertComment`); no hypothesis on the
stack: on the empty stack the model panics -/
theorem pc_appendComment_ins {s : State} (hm : MInv s) (text : Str) :
    PC (appendComment text) s (fun r s' calls => r = .done ∧
      Tr s s' calls (fun x x' => Spec.TreeModes.insertComment (absF s x) text = .ok (absF s' x'))) := by
  by_cases hne : s.openElems = []
  · unfold appendComment
    refine pc_seq (PC.of_tot (tot_createComment s text)) ?_
    rintro c s1 c1 he1 ⟨hs1, -, -⟩
    exact pc_bind_false (pc_insertAppropriately_nil (by rw [hs1.openElems]; exact hne) _)
  · exact pc_appendComment hm hne text

/-- the common part of `append_comment_to_doc` / `append_comment_to_html`: a comment node created and
appended to the node `target` -/
theorem tr_commentIn {s s' : State} {calls : List Call} (hm : MInv s) (hs : SameTB s s') (he : Ext2 s calls s')
    (target : Id) (text : Str) (c : Id) (hfc : s.dom.size ≤ c) (L : List (Edit Id Tag))
    (hL : edits calls = L.map (editCall (tcOf s.dom)))
    (hspec : ∀ rest log0, Spec.TreeAlgo2.insertCommentAsLastChildOf (absState s (c :: rest) log0) target text
        = some (absState s rest (log0 ++ L))) :
    Tr s s' calls (fun x x' => Spec.TreeModes.insertCommentIn (absF s x) target text = .ok (absF s' x')) := by
  have hLe : L = [Edit.createComment c text, Edit.insert (.lastChildOf target) c] := by
    have := hspec [] []
    simp only [Spec.TreeAlgo2.insertCommentAsLastChildOf, PState.newNode, absState, Option.map_some,
      Option.some.injEq, PState.mk.injEq, List.nil_append, true_and] at this
    exact this.symm
  refine (Tr.of_edits (hm.sameTB hs he.ext) (cfgOf_of_same hm hs he.ext) he [c] L [] (FreshIds.of_size (by intro n hn; simp only [List.mem_singleton] at hn; subst hn; exact hfc)) ?_
    (annot_of_sub he.ext hm (by rw [hs.openElems]; exact fun _ h => h)) (by simp)).conseq ?_
  · intro tc htc
    rw [hL, hLe]
    simp [editCall, ipOf]
  · rintro x x' hx _ ⟨hx', rest, hsup⟩
    subst hx'
    rw [absF_step_same hm hs he.ext]
    unfold Spec.TreeModes.insertCommentIn
    rw [absF_p, absP_eq s x hx.live, insertCommentAsLastChildOf_mapP, hsup, List.singleton_append, hspec rest x.logT]
    simp only [Option.map_some, Spec.TreeModes.req, mapP_absState, List.map_append, Aux.logT_map]
    simp [absP, hx.live, hsup, absF, bind, Except.bind, pure, Except.pure]

/-- `append_comment_to_doc(text)` (mod.rs:1333) is "insert a comment as the last child of the Document
object" -/
theorem pc_appendCommentToDoc {s : State} (hm : MInv s) (text : Str) :
    PC (appendCommentToDoc text) s (fun r s' calls => r = .done ∧ SameTB s s' ∧
      Tr s s' calls (fun x x' =>
        Spec.TreeModes.insertCommentIn (absF s x) (cfgOf s).document text = .ok (absF s' x'))) := by
  refine pc_conseq (PC.of_tot (tot_appendCommentToDoc s text)) ?_
  rintro r s' calls he ⟨hr, hs, c, L, hfresh, hL, hspec⟩
  exact ⟨hr, hs, tr_commentIn hm hs he s.docHandle text c hfresh L hL hspec⟩

/-- "Insert a comment as the last child of the Document object.", as a whole rule -/
theorem pc_commentDoc_tokPost {s : State} (hm : MInv s) (text : Str) (tok : Token) :
    PC (appendCommentToDoc text) s
      (TokPost (fun σ => Step.done <$> Spec.TreeModes.insertCommentIn σ (cfgOf s).document text) s tok) :=
  pc_conseq (pc_appendCommentToDoc hm text) fun _ _ _ _ ⟨hr, _, htr⟩ =>
    hr ▸ tokPost_of_done (htr.conseq fun _ _ _ _ h => by rw [h]; rfl)

/-- `append_comment_to_html(text)` (mod.rs:1339) is "insert a comment as the last child of the first
element in the stack of open elements"; on the empty stack the model panics -/
theorem pc_appendCommentToHtml {s : State} (hm : MInv s) (text : Str) :
    PC (appendCommentToHtml text) s (fun r s' calls => r = .done ∧ SameTB s s' ∧
      Tr s s' calls (fun x x' => ∃ html, (absF s x).p.stack.head? = some html ∧
        Spec.TreeModes.insertCommentIn (absF s x) html.id text = .ok (absF s' x'))) := by
  cases hh : s.openElems.head? with
  | none =>
    unfold appendCommentToHtml htmlElemFn
    refine pc_bind_false (pc_getS_bind ?_)
    simp only [hh]
    exact pc_panicAt
  | some h0 =>
    refine pc_conseq (PC.of_tot (tot_appendCommentToHtml s text h0 hh)) ?_
    rintro r s' calls he ⟨hr, hs, c, L, hfresh, hL, hspec⟩
    refine ⟨hr, hs, (tr_commentIn hm hs he h0 text c hfresh L hL hspec).conseq ?_⟩
    intro x x' hx _ h
    refine ⟨elemOf s.dom h0, ?_, h⟩
    simp only [absF_p, absP, hx.live, Bool.false_eq_true, if_false, absStack_head?, hh, Option.map_some]

/-! ### `create_root` -/

/-- the integration-point list stays right when an element that is not `annotation-xml` is pushed -/
theorem annot_push {s s' : State} {a : Id} (he : TBSafe.Ext s.dom s'.dom) (hm : MInv s)
    (ho : s'.openElems = s.openElems ++ [a]) (hna : nameOf s'.dom a ≠ annotName) (x : Aux) (hx : AuxOk s x) :
    ∀ h ∈ s'.openElems, nameOf s'.dom h = annotName → (x.annot ++ []).contains h = ipOfDom s'.dom h := by
  intro h hh hn
  rw [ho] at hh
  rcases List.mem_append.mp hh with hin | hin
  · rw [nameOf_ext he (hm.elems h hin)] at hn
    rw [List.append_nil, hx.annot h hin hn, ipOfDom_ext he (hm.elems h hin)]
  · simp only [List.mem_singleton] at hin; subst hin
    exact absurd hn hna

theorem html_ne_annot (name : Str) : (⟨nsHtml, name⟩ : EName) ≠ annotName :=
  fun h => nsHtml_ne_nsMathml (congrArg EName.ns h)

/-- the tag `create_root(attrs)` creates the element for -/
def rootTag (attrs : List Attr) : Tag := { kind := .startTag, name := "html".toList, attrs := attrs }

/-- `create_root(attrs)` (mod.rs:1348) against `createRootHtml`: "create an element for the token in
the HTML namespace, append it to the Document object, put it in the stack of open elements"; `st` is
the specification's token (an `html` start tag with these attributes) -/
theorem pc_createRoot {s : State} (hm : MInv s) (attrs : List Attr) (st : STag)
    (het : st.etok = etokOf (rootTag attrs)) :
    PC (createRoot attrs) s (fun _ s' calls => ∃ a,
      SameButOpen s s' ∧ s'.openElems = s.openElems ++ [a] ∧ s.dom.size ≤ a ∧ s'.dom.isElement a = true ∧
      nameOf s'.dom a = ⟨nsHtml, "html".toList⟩ ∧
      Tr s s' calls (fun x x' => Spec.TreeModes.createRootHtml (cfgOf s) (absF s x) st = .ok (absF s' x'))) := by
  unfold createRoot
  refine pc_seq (PC.of_tot (tot_createElementWithFlags s nsHtml (rootTag attrs))) ?_
  rintro a s1 c1 he1 ⟨hs1, hc1, hfresh, hel1, hnm1⟩
  subst hc1
  refine pc_seq (PC.of_tot (tot_push s1 a)) ?_
  rintro _ s2 c2 he2 ⟨hs2, hc2⟩
  subst hc2
  refine pc_getS_bind ?_
  refine pc_conseq (PC.of_tot (tot_sinkUnit_unit' s2 trivial (unit_append' s2.docHandle (.node a)))) ?_
  rintro _ s3 c3 he3 ⟨hs3, hc3⟩
  subst hc3
  have he := he1.trans (he2.trans he3)
  have hx := he.ext
  have hdoc : s2.docHandle = s.docHandle := by rw [hs2]; exact hs1.fields.docHandle
  have f : SameButOpen s s3 := by
    have f1 := SameButOpen.of_same hs1
    have f3 := SameButOpen.of_same hs3
    have f2 : SameButOpen s1 s2 := by constructor <;> rw [hs2]
    constructor
    · rw [f3.opts, f2.opts, f1.opts]
    · rw [f3.mode, f2.mode, f1.mode]
    · rw [f3.origMode, f2.origMode, f1.origMode]
    · rw [f3.templateModes, f2.templateModes, f1.templateModes]
    · rw [f3.pendingTableText, f2.pendingTableText, f1.pendingTableText]
    · rw [f3.quirksMode, f2.quirksMode, f1.quirksMode]
    · rw [f3.docHandle, f2.docHandle, f1.docHandle]
    · rw [f3.activeFormatting, f2.activeFormatting, f1.activeFormatting]
    · rw [f3.headElem, f2.headElem, f1.headElem]
    · rw [f3.formElem, f2.formElem, f1.formElem]
    · rw [f3.framesetOk, f2.framesetOk, f1.framesetOk]
    · rw [f3.ignoreLf, f2.ignoreLf, f1.ignoreLf]
    · rw [f3.fosterParenting, f2.fosterParenting, f1.fosterParenting]
    · rw [f3.contextElem, f2.contextElem, f1.contextElem]
  have ho : s3.openElems = s.openElems ++ [a] := by
    rw [hs3.openElems, hs2, ← hs1.openElems]
  have hel : s3.dom.isElement a = true := by
    have h2 : s2.dom = s1.dom := by rw [hs2]
    exact isElement_ext he3.ext (by rw [h2]; exact hel1)
  have hnm : nameOf s3.dom a = ⟨nsHtml, "html".toList⟩ := by
    have h2 : s2.dom = s1.dom := by rw [hs2]
    rw [nameOf_ext he3.ext (by rw [h2]; exact hel1), h2]; exact hnm1
  have hm' : MInv s3 := hm.pushed f hx ho hfresh hel (fun _ => hnm) (ip_of_html hnm)
  refine ⟨a, f, ho, hfresh, hel, hnm, ?_⟩
  refine (Tr.of_edits hm' (cfgOf_sameButOpen hm f hx) he [a]
    [Edit.create a nsHtml (rootTag attrs), Edit.insert (.lastChildOf s.docHandle) a] []
    (FreshIds.of_size (by intro n hn; simp only [List.mem_singleton] at hn; subst hn; exact hfresh)) ?_
    (annot_push hx hm ho (by rw [hnm]; exact html_ne_annot _)) (by simp)).conseq ?_
  · intro tc htc
    rw [hdoc]
    simp [edits, isEdit, editCall, ipOf, insertOp, createCall]
  · rintro x x' hxa _ ⟨hx', rest, hsup⟩
    subst hx'
    have hsup' : x.supply = a :: rest := hsup
    rw [absF_sameButOpen hm f hx, absP_sameButOpen f, ho, absStack_snoc, absStack_ext hm.elems hx]
    have e1 : elemOf s3.dom a = ⟨a, ⟨nsHtml, "html".toList⟩⟩ := by unfold elemOf; rw [hnm]; rfl
    rw [e1]
    simp only [Spec.TreeModes.createRootHtml, absF_p, absP, hxa.live, PState.newNode, hsup', Spec.TreeModes.req, het]
    simp [absF, absP, Aux.step, hxa.live, hsup', Edit.mapTok, bind, Except.bind, pure, Except.pure, cfgOf]
    rfl

/-- `create_root([])` in "before html", anything else: an `html` start tag token with no attributes -/
theorem pc_createRoot_bare {s : State} (hm : MInv s) :
    PC (createRoot []) s (fun _ s' calls => ∃ a,
      SameButOpen s s' ∧ s'.openElems = s.openElems ++ [a] ∧ s.dom.size ≤ a ∧ s'.dom.isElement a = true ∧
      nameOf s'.dom a = ⟨nsHtml, "html".toList⟩ ∧
      Tr s s' calls (fun x x' =>
        Spec.TreeModes.createRootHtml (cfgOf s) (absF s x) (Spec.TreeModes.bareTag "html") = .ok (absF s' x'))) :=
  pc_createRoot hm [] _ rfl

/-- `create_root(tag.attrs)` in "before html" for an `html` start tag -/
theorem pc_createRoot_tag {s : State} (hm : MInv s) {t : Tag} (hp : PlainTag t) (hn : t.name = "html".toList) :
    PC (createRoot t.attrs) s (fun _ s' calls => ∃ a,
      SameButOpen s s' ∧ s'.openElems = s.openElems ++ [a] ∧ s.dom.size ≤ a ∧ s'.dom.isElement a = true ∧
      nameOf s'.dom a = ⟨nsHtml, "html".toList⟩ ∧
      Tr s s' calls (fun x x' =>
        Spec.TreeModes.createRootHtml (cfgOf s) (absF s x) (specTag t) = .ok (absF s' x'))) :=
  pc_createRoot hm t.attrs _ (by rw [specTag_etok hp]; simp only [etokOf, rootTag, hn])

/-! ### field updates, extra operations -/

theorem MInv.of_fields {s s' : State} (hm : MInv s) (he : TBSafe.Ext s.dom s'.dom) (ho : s'.openElems = s.openElems)
    (haf : s'.activeFormatting = s.activeFormatting) (hh : s'.headElem = s.headElem)
    (hcx : s'.contextElem = s.contextElem) (htm : s'.templateModes = s.templateModes)
    (hfe : s'.formElem = s.formElem := by rfl) (hpe : s'.pendingTableText = s.pendingTableText := by rfl) : MInv s' := by
  refine ⟨by rw [ho]; exact ElemsOk.ext hm.elems he, ?_, ?_, ?_, ?_, ?_, ?_, ?_, by rw [htm]; exact hm.tmodes,
    hm.form_ext he hfe, by rw [hpe]; exact hm.pend⟩
  · intro h0 hh; rw [ho] at hh
    rw [nameOf_ext he (hm.elems h0 (List.mem_of_head? hh))]; exact hm.root h0 hh
  · rw [ho, haf]
    intro y t hy
    obtain ⟨h1, h2, h3⟩ := hm.af y t hy
    exact ⟨isElement_lt (isElement_ext he (hm.afEl y t hy)), h2, fun hx => by rw [nameOf_ext he (hm.elems y hx)]; exact h3 hx⟩
  · intro y t hy; rw [haf] at hy; exact isElement_ext he (hm.afEl y t hy)
  · intro y hy; rw [hh] at hy; exact isElement_ext he (hm.head y hy)
  · exact hm.ctx_ext he hcx
  · intro y t hy; rw [haf] at hy
    rw [nameOf_ext he (hm.afEl y t hy)]; exact hm.afwf y t hy
  · rw [ho]
    intro y hy
    rw [nameOf_ext he (hm.elems y hy), ipOfDom_ext he (hm.elems y hy)]; exact hm.ip y hy

/-- as `MInv.of_fields`, the stack of template insertion modes may shrink -/
theorem MInv.of_fields' {s s' : State} (hm : MInv s) (he : TBSafe.Ext s.dom s'.dom) (ho : s'.openElems = s.openElems)
    (haf : s'.activeFormatting = s.activeFormatting) (hh : s'.headElem = s.headElem)
    (hcx : s'.contextElem = s.contextElem) (htm : ∀ m ∈ s'.templateModes, m ∈ s.templateModes)
    (hfe : s'.formElem = s.formElem := by rfl) (hpe : s'.pendingTableText = s.pendingTableText := by rfl) : MInv s' := by
  have h0 : MInv { s' with templateModes := s.templateModes } := MInv.of_fields hm he ho haf hh hcx rfl hfe hpe
  exact { h0 with tmodes := fun m hmem => hm.tmodes m (htm m hmem) }

theorem mem_of_mem_dropLast' {α : Type} {a : α} : ∀ {l : List α}, a ∈ l.dropLast → a ∈ l
  | [], h => by simp at h
  | [_], h => by simp at h
  | b :: c :: l, h => by
    rw [List.dropLast_cons_cons] at h
    rcases List.mem_cons.mp h with h | h
    · exact h ▸ List.mem_cons_self
    · exact List.mem_cons_of_mem _ (mem_of_mem_dropLast' h)

/-- `self.frameset_ok.set(b)` -/
theorem pc_setFramesetOk {s : State} (hm : MInv s) (b : Bool) :
    PC (setFramesetOk b) s (fun _ s' calls => s' = { s with framesetOk := b } ∧
      Tr s s' calls (fun x x' => x' = x ∧ absF s' x' = { absF s x with framesetOk := b })) := by
  unfold setFramesetOk
  refine pc_modS rfl rfl ⟨rfl, (Tr.of_upd (s' := { s with framesetOk := b }) hm rfl (fun _ h => h) ⟨hm.elems, hm.root, hm.af, hm.afEl, hm.head, hm.ctx, hm.afwf, hm.ip, hm.tmodes, hm.form, hm.pend⟩ rfl).conseq ?_⟩
  intro x x' _ _ h
  subst h
  exact ⟨rfl, rfl⟩

/-- `self.frameset_ok.set(false)`: "set the frameset-ok flag to "not ok"" (`State.notOk`) -/
theorem pc_setFramesetNotOk {s : State} (hm : MInv s) :
    PC (setFramesetOk false) s (fun _ s' calls => s' = { s with framesetOk := false } ∧
      Tr s s' calls (fun x x' => x' = x ∧ absF s' x' = (absF s x).notOk)) :=
  pc_setFramesetOk hm false

/-- the `Aux` after an extra operation that consumed `n` nodes -/
def Aux.xstep (x : Aux) (n : Nat) (o : XOp Id) : Aux :=
  { x with supply := x.supply.drop n, xlog := x.xlog ++ [(x.log.length, o)] }

theorem Aux.fullLog_xstep {s : State} {x : Aux} (hx : AuxOk s x) (n : Nat) (o : XOp Id) :
    (x.xstep n o).fullLog = x.fullLog ++ [.x o] := by
  unfold Aux.fullLog Aux.xstep
  have := mergeLog_snoc x.xlog 0 x.log o (by simpa using hx.xlog.2)
  simpa using this

/-- **glue** for the extra operations: a stretch whose only DOM call is the one of `o` -/
theorem Tr.of_xop {s s' : State} {calls : List Call} (hm : MInv s) (hm' : MInv s') (hc : cfgOf s' = cfgOf s)
    (he : Ext2 s calls s') (ids : List Id) (hfi : FreshIds s ids) (o : XOp Id)
    (hcalls : flatCalls (edits2 calls) = flatCalls [xopCall o])
    (ho : ∀ h ∈ s'.openElems, h ∈ s.openElems) :
    Tr s s' calls (fun x x' => x' = x.xstep ids.length o ∧ ∃ rest, x.supply = ids ++ rest) := by
  refine ⟨hm', hc, he.ext, ids, hfi, fun x rest hx hs => ⟨x.xstep ids.length o, ⟨⟨hx.live, ?_, ?_, ?_⟩, ?_, rfl, rfl, rfl, ?_⟩, rfl, rest, hs⟩⟩
  · have := annot_of_sub he.ext hm ho x hx
    simpa [Aux.xstep] using this
  · intro a ha; exact isElement_ext he.ext (hx.annotEl a ha)
  · simp only [Aux.xstep, List.map_append, List.map_cons, List.map_nil]
    refine ⟨?_, ?_⟩
    · rw [List.pairwise_append]
      refine ⟨hx.xlog.1, by simp, ?_⟩
      intro a ha b hb
      simp only [List.mem_singleton] at hb; subst hb
      exact hx.xlog.2 a ha
    · intro j hj
      rcases List.mem_append.mp hj with h | h
      · exact hx.xlog.2 j h
      · simp only [List.mem_singleton] at h; subst h; exact Nat.le_refl _
  · simp [Aux.xstep, hs]
  · exact ⟨_, Aux.fullLog_xstep hx _ _, fun tc _ => by rw [hcalls]; rfl⟩

theorem qmodeOf_dmode (m : QuirksMode) : qmodeOf (dmode m) = m := by cases m <;> rfl

/-- `set_quirks_mode(m)` (mod.rs:658): "set the Document to quirks / limited-quirks mode" as the
standard does it (`initial`: only when the mode is not no-quirks); html5ever also tells the sink
`NoQuirks`, which the comparison drops (`isEdit2`).  For `m = NoQuirks` the model's field must have
been `NoQuirks` already (the standard does not touch the Document's mode then). -/
theorem pc_setQuirksMode {s : State} (hm : MInv s) (m : QuirksMode) (hq : m = .noQuirks → s.quirksMode = .noQuirks) :
    PC (setQuirksMode m) s (fun _ s' calls =>
      s' = { s with quirksMode := m, dom := s'.dom, traceRev := s'.traceRev } ∧
      Tr s s' calls (fun x x' => absF s' x' =
        (if dmode m != .noQuirks then { (absF s x).xop (.setDocumentMode (dmode m)) with quirks := dmode m }
         else absF s x))) := by
  unfold setQuirksMode
  refine pc_seq (pc_modS (f := fun s => { s with quirksMode := m }) (Q := fun _ s1 c1 => s1 = { s with quirksMode := m } ∧ c1 = []) rfl rfl ⟨rfl, rfl⟩) ?_
  rintro _ s1 c1 he1 ⟨hs1, hc1⟩
  subst hc1
  refine pc_conseq (pc_sinkUnit s1) ?_
  rintro _ s' calls he ⟨d', out, ha, hs', hc⟩
  have hout : out = .unit := by
    unfold Dom.apply Dom.applyV at ha
    cases ha; rfl
  subst hout
  have hd1 : s1.dom = s.dom := by rw [hs1]
  have hE : Ext2 s ([] ++ calls) s' := he1.trans he
  have hx := hE.ext
  have hS : s' = { s with quirksMode := m, dom := s'.dom, traceRev := s'.traceRev } := by
    rw [hs', hs1]; rfl
  have ho : s'.openElems = s.openElems := by rw [hS]
  have hm' : MInv s' := hm.of_fields hx ho (by rw [hS]) (by rw [hS]) (by rw [hS]) (by rw [hS]) (by rw [hS]) (by rw [hS])
  have hcfg : cfgOf s' = cfgOf s := by
    obtain ⟨c1, c2⟩ := context_ext hm hx
    have e1 : s'.contextElem = s.contextElem := by rw [hS]
    have e2 : s'.docHandle = s.docHandle := by rw [hS]
    have e3 : s'.opts = s.opts := by rw [hS]
    simp only [cfgOf, e1, e2, e3, c1, c2]
  have habs : ∀ x : Aux, absF s' x = { absF s x with quirks := dmode m } := by
    intro x
    have e1 : absStack s'.dom s.openElems = absStack s.dom s.openElems := absStack_ext hm.elems hx
    have e2 := headPointer_ext hm hx
    rw [hS]
    simp only [absF, absP, e1, e2]
  refine ⟨hS, ?_⟩
  by_cases hmq : m = .noQuirks
  · subst hmq
    have hs : SameTB s s' := by
      have e : ∀ q, s.quirksMode = q → ({ s with quirksMode := q, dom := s'.dom, traceRev := s'.traceRev } : State)
          = { s with dom := s'.dom, traceRev := s'.traceRev } := by
        intro q h; subst h; rfl
      exact hS.trans (e _ (hq rfl))
    have hcalls : edits2 ([] ++ calls) = [] := by rw [hc]; rfl
    refine (Tr.of_same hm hs hE hcalls).conseq ?_
    rintro x x' _ _ ⟨h1, h2⟩
    subst h1
    rw [← h2]; rfl
  · have hd : (dmode m != .noQuirks) = true := by cases m <;> first | rfl | exact absurd rfl hmq
    refine (Tr.of_xop hm hm' hcfg hE [] (FreshIds.nil _) (.setDocumentMode (dmode m)) ?_ (by rw [ho]; exact fun _ h => h)).conseq ?_
    · rw [hc]
      simp only [List.nil_append, xopCall, qmodeOf_dmode]
      have : isEdit2 (SinkOp.setQuirksMode m) = true := by cases m <;> first | rfl | exact absurd rfl hmq
      simp [edits2, this]
    · rintro x x' hxa _ ⟨hx', rest, hsup⟩
      subst hx'
      rw [habs, hd]
      simp [absF, absP, Aux.xstep, Spec.TreeModes.State.xop]

/-- the standard's "append a DocumentType node to the Document node" (part of the DOCTYPE clause of
`initial`): a node from the supply, the operation in the extra log -/
def specAppendDoctype (σ : SState) (n p sy : Str) : Spec.TreeModes.M SState := do
  let r ← Spec.TreeModes.req σ.p.newNode "initial: no node for the DocumentType"
  pure (({ σ with p := r.2 } : SState).xop (.appendDoctype r.1 n p sy))

/-- `sink.append_doctype_to_document(name, public_id, system_id)` in `process_token` (mod.rs:506) -/
theorem pc_appendDoctype {s : State} (hm : MInv s) (n p sy : Str) :
    PC (sinkUnit (.appendDoctypeToDocument n p sy)) s (fun _ s' calls => SameTB s s' ∧
      Tr s s' calls (fun x x' => specAppendDoctype (absF s x) n p sy = .ok (absF s' x'))) := by
  refine pc_conseq (pc_sinkUnit s) ?_
  rintro _ s' calls he ⟨d', out, ha, hs', hc⟩
  have hout : out = .unit := by
    unfold Dom.apply Dom.applyV at ha
    simp only [bind, Except.bind] at ha
    split at ha
    · cases ha
    · cases ha; rfl
  subst hout
  have hs : SameTB s s' := hs' ▸ SameTB.afterCall ..
  refine ⟨hs, ?_⟩
  refine (Tr.of_xop hm (hm.sameTB hs he.ext) (cfgOf_of_same hm hs he.ext) he [s.dom.size] (FreshIds.of_size (by intro n hn; simp only [List.mem_singleton] at hn; subst hn; exact Nat.le_refl _))
    (.appendDoctype s.dom.size n p sy) ?_ (by rw [hs.openElems]; exact fun _ h => h)).conseq ?_
  · rw [hc]; rfl
  · rintro x x' hxa _ ⟨hx', rest, hsup⟩
    subst hx'
    have hsup' : x.supply = s.dom.size :: rest := hsup
    rw [absF_of_same _ hm hs he.ext]
    simp only [specAppendDoctype, absF_p, absP, PState.newNode, hsup', Spec.TreeModes.req]
    simp [absF, absP, Aux.xstep, Spec.TreeModes.State.xop, hsup', bind, Except.bind, pure, Except.pure]

/-! ### raw text: `to_raw_text_mode`, `parse_raw_data` -/

/-- `to_raw_text_mode(k)` (mod.rs:672): "set the original insertion mode to the current insertion mode,
switch the insertion mode to "text"" (the switch of the tokenizer is the result `ToRawData(k)`, see
`tokPost_toRawData`) -/
theorem pc_toRawTextMode {s : State} (hm : MInv s) (k : H5V.Model.HtmlTok.RawKind) :
    PC (toRawTextMode k) s (fun r s' calls => r = .toRawData k ∧
      s' = { s with origMode := some s.mode, mode := .text } ∧
      Tr s s' calls (fun x x' =>
        absF s' x' = { absF s x with originalMode := (absF s x).mode, mode := .text })) := by
  unfold toRawTextMode
  refine pc_seq (pc_modS (f := fun s => { s with origMode := some s.mode, mode := .text })
    (Q := fun _ s1 c1 => s1 = { s with origMode := some s.mode, mode := .text } ∧ c1 = []) rfl rfl ⟨rfl, rfl⟩) ?_
  rintro _ s1 c1 he1 ⟨hs1, hc1⟩
  subst hc1 hs1
  refine pc_pure ⟨rfl, rfl, ?_⟩
  refine (Tr.of_upd (s' := { s with origMode := some s.mode, mode := .text }) hm rfl (fun _ h => h)
    ⟨hm.elems, hm.root, hm.af, hm.afEl, hm.head, hm.ctx, hm.afwf, hm.ip, hm.tmodes, hm.form, hm.pend⟩ rfl).reaux
    (fun x x' => { x' with pendingJunk := (absF s x).pendingTableChars })
    (fun _ _ => ⟨⟨rfl, rfl, rfl, rfl, rfl⟩, rfl, rfl, rfl⟩) ?_
  intro x x' _ _ h
  subst h
  rfl

/-- **the end of a rule that returns `ToRawData(k)`**: the specification's rule ends with "switch the
tokenizer to the RCDATA / RAWTEXT / script data state" -/
theorem tokPost_toRawData {spec : SState → Spec.TreeModes.M (Step Id)} {s s' : State} {tok : Token} {calls : List Call}
    {R : Aux → Aux → Prop} {k : H5V.Model.HtmlTok.RawKind} (h : Tr s s' calls R)
    (hfin : ∀ x x', AuxOk s x → AuxOk s' x' → R x x' →
      spec (absF s x) = .ok (.done ((absF s' x').switchTokenizer (rawSwitch k)))) :
    TokPost spec s tok (.toRawData k) s' calls := by
  refine tokPost_of_tr h trivial ?_
  intro x x' hx hx' r
  refine ⟨{ x' with out := { x'.out with switch := some (rawSwitch k) } }, ?_, ⟨rfl, rfl, rfl, rfl, rfl⟩, Or.inl rfl, rfl, rfl⟩
  rw [hfin x x' hx hx' r]
  rfl

/-- **the end of a rule that returns `ToPlaintext`**: the specification's rule ends with "switch the
tokenizer to the PLAINTEXT state" -/
theorem tokPost_toPlaintext {spec : SState → Spec.TreeModes.M (Step Id)} {s s' : State} {tok : Token} {calls : List Call}
    {R : Aux → Aux → Prop} (h : Tr s s' calls R)
    (hfin : ∀ x x', AuxOk s x → AuxOk s' x' → R x x' →
      spec (absF s x) = .ok (.done ((absF s' x').switchTokenizer .plaintext))) :
    TokPost spec s tok .toPlaintext s' calls := by
  refine tokPost_of_tr h trivial ?_
  intro x x' hx hx' r
  refine ⟨{ x' with out := { x'.out with switch := some .plaintext } }, ?_, ⟨rfl, rfl, rfl, rfl, rfl⟩, Or.inl rfl, rfl, rfl⟩
  rw [hfin x x' hx hx' r]
  rfl

/-- **the end of a rule that returns `DoneAckSelfClosing`**: the specification's rule ends with
"acknowledge the token's self-closing flag, if it is set" -/
theorem tokPost_ack {spec : SState → Spec.TreeModes.M (Step Id)} {s s' : State} {tok : Token} {calls : List Call}
    {R : Aux → Aux → Prop} (t : STag) (h : Tr s s' calls R)
    (hfin : ∀ x x', AuxOk s x → AuxOk s' x' → R x x' → spec (absF s x) = .ok (.done ((absF s' x').ack t))) :
    TokPost spec s tok .doneAckSelfClosing s' calls := by
  refine tokPost_of_tr h trivial ?_
  intro x x' hx hx' r
  obtain ⟨h1, h2, h3, h4⟩ := x'.ack_same t.selfClosing
  refine ⟨x'.ack t.selfClosing, ?_, h1, Or.inl h2, h3, h4⟩
  rw [hfin x x' hx hx' r, ← absF_ack]
  rfl

/-- `parse_raw_data(tag, k)` (mod.rs:679) as a stretch: "insert an HTML element for the token", then the
mode switch of the generic raw text / RCDATA element parsing algorithm -/
theorem pc_parseRawData {s : State} (hm : MInv s) {t : Tag} (hp : PlainTag t) (k : H5V.Model.HtmlTok.RawKind) :
    PC (parseRawData t k) s (fun r s' calls => r = .toRawData k ∧ ∃ a s1,
      SameButOpen s s1 ∧ s1.openElems = s.openElems ++ [a] ∧ s1.dom.isElement a = true ∧
      nameOf s1.dom a = ⟨nsHtml, t.name⟩ ∧ s' = { s1 with origMode := some s1.mode, mode := .text } ∧
      Tr s s' calls (fun x x' => ∃ σ1, Spec.TreeModes.insertHtml' (absF s x) (specTag t) = .ok σ1 ∧
        absF s' x' = { σ1 with originalMode := σ1.mode, mode := .text })) := by
  unfold parseRawData
  refine pc_seq (pc_insertElementFor' hm hp) ?_
  rintro a s1 c1 he1 ⟨f, ho, hfresh, hel, hnm, htr1⟩
  refine pc_conseq (pc_toRawTextMode htr1.1 k) ?_
  rintro r s' c2 he2 ⟨hr, hs', htr2⟩
  refine ⟨hr, a, s1, f, ho, hel, hnm, hs', (htr1.trans htr2).conseq ?_⟩
  rintro x x' _ _ ⟨x1, r1, r2⟩
  exact ⟨_, r1, r2⟩

/-- `parse_raw_data(tag, k)` as a whole rule arm: the generic raw text / RCDATA element parsing algorithm
(`genericRawText`, `genericRcdata`; with `k = ScriptData` the `script` start-tag clause of "in head") -/
theorem pc_parseRawData_tokPost {s : State} (hm : MInv s) {t : Tag} (hp : PlainTag t) (k : H5V.Model.HtmlTok.RawKind)
    (tok : Token) :
    PC (parseRawData t k) s
      (TokPost (fun σ => Step.done <$> Spec.TreeModes.genericTextElement σ (specTag t) (rawSwitch k)) s tok) := by
  refine pc_conseq (pc_parseRawData hm hp k) ?_
  rintro r s' calls he ⟨hr, a, s1, f, ho, hel, hnm, hs', htr⟩
  subst hr
  refine tokPost_toRawData htr ?_
  rintro x x' _ _ ⟨σ1, r1, r2⟩
  simp only [Spec.TreeModes.genericTextElement, r1, r2]
  rfl

/-- `parse_raw_data(tag, Rawtext)` is the generic raw text element parsing algorithm -/
theorem pc_parseRawData_rawtext {s : State} (hm : MInv s) {t : Tag} (hp : PlainTag t) (tok : Token) :
    PC (parseRawData t .rawtext) s
      (TokPost (fun σ => Step.done <$> Spec.TreeModes.genericRawText σ (specTag t)) s tok) :=
  pc_parseRawData_tokPost hm hp .rawtext tok

/-- `parse_raw_data(tag, Rcdata)` is the generic RCDATA element parsing algorithm -/
theorem pc_parseRawData_rcdata {s : State} (hm : MInv s) {t : Tag} (hp : PlainTag t) (tok : Token) :
    PC (parseRawData t .rcdata) s
      (TokPost (fun σ => Step.done <$> Spec.TreeModes.genericRcdata σ (specTag t)) s tok) :=
  pc_parseRawData_tokPost hm hp .rcdata tok

/-! ### the `html` start tag of "in body" -/

theorem specTag_attrs_back {t : Tag} (hp : PlainTag t) :
    (specTag t).attrs.map (fun a => ({ name := plainName a.name, value := a.value } : Attr)) = t.attrs := by
  simp only [specTag, List.map_map]
  rw [List.map_congr_left (g := id)]
  · simp
  · intro a ha
    have h := hp a ha
    unfold Plain at h
    obtain ⟨n, v⟩ := a
    simp only [Function.comp, id]
    rw [← h]

/-- `sink.add_attrs_if_missing(target, tag.attrs)`: "for each attribute on the token, check to see if
the attribute is already present on the element; if it is not, add the attribute" -/
theorem pc_addAttrsIfMissing {s : State} (hm : MInv s) (target : Id) {t : Tag} (hp : PlainTag t) :
    PC (sinkUnit (.addAttrsIfMissing target t.attrs)) s (fun _ s' calls => SameTB s s' ∧
      Tr s s' calls (fun x x' => absF s' x' = (absF s x).xop (.addMissingAttributes target (specTag t).attrs))) := by
  refine pc_conseq (pc_sinkUnit s) ?_
  rintro _ s' calls he ⟨d', out, ha, hs', hc⟩
  have hout : out = .unit := by
    unfold Dom.apply Dom.applyV at ha
    simp only [bind, Except.bind] at ha
    split at ha
    · cases ha
    · cases ha; rfl
  subst hout
  have hs : SameTB s s' := hs' ▸ SameTB.afterCall ..
  refine ⟨hs, ?_⟩
  refine (Tr.of_xop hm (hm.sameTB hs he.ext) (cfgOf_of_same hm hs he.ext) he [] (FreshIds.nil _)
    (.addMissingAttributes target (specTag t).attrs) ?_ (by rw [hs.openElems]; exact fun _ h => h)).conseq ?_
  · rw [hc]
    simp only [xopCall, specTag_attrs_back hp]
    rfl
  · rintro x x' hxa _ ⟨hx', rest, hsup⟩
    subst hx'
    rw [absF_of_same _ hm hs he.ext]
    simp [absF, absP, Aux.xstep, Spec.TreeModes.State.xop]

/-- `<html>` in "in body" (rules.rs:432, used by every mode that delegates it) against `inBodyStartHtml` -/
theorem pc_inBodyHtml {s : State} (hm : MInv s) {t : Tag} (hp : PlainTag t) (tok : Token) :
    PC (inBodyHtml t) s (TokPost (fun σ => Spec.TreeModes.inBodyStartHtml σ (specTag t)) s tok) := by
  unfold inBodyHtml
  refine pc_seq (pc_unexpected hm) ?_
  rintro _ s1 c1 he1 ⟨-, htr1⟩
  have hm1 := htr1.1
  refine pc_query_bind (PC.of_tot (tot_inHtmlElemNamed_place s1 "template" hm1.elems)) ?_
  intro s2 c2 he2 hs2 hc2
  have htr2 := Tr.of_same hm1 hs2 he2 (by rw [← edits2_edits, hc2]; rfl)
  have hm2 := htr2.1
  have htr12 := htr1.trans htr2
  by_cases ht : ((absStack s1.dom s1.openElems).any fun e => e.name.isHtml "template") = true
  · simp only [ht, Bool.not_true, Bool.false_eq_true, if_false]
    refine pc_pure (tokPost_of_tr (by rw [List.append_nil]; exact htr12) trivial ?_)
    rintro x x'' hx hx'' ⟨x1, ⟨e1, r1⟩, e2, r2⟩
    subst e1 e2
    refine ⟨{ x'' with errors := x''.errors ++ ["in body: html start tag"] }, ?_, ⟨rfl, rfl, rfl, rfl, rfl⟩, Or.inl rfl, rfl, rfl⟩
    have hts : (Spec.TreeModes.State.err (absF s x'') "in body: html start tag").templateOnStack = true := by
      rw [r1]
      simp only [Spec.TreeModes.State.templateOnStack, Spec.TreeModes.State.err, absF_p, absP, hx.live,
        Bool.false_eq_true, if_false]
      exact ht
    simp only [Spec.TreeModes.inBodyStartHtml, hts, if_true, stepOf]
    rw [r1, r2]
    rfl
  · have ht' : ((absStack s1.dom s1.openElems).any fun e => e.name.isHtml "template") = false := by simpa using ht
    simp only [ht', Bool.not_false, if_true]
    cases hh : s2.openElems.head? with
    | none =>
      unfold htmlElemFn
      refine pc_bind_false (pc_getS_bind ?_)
      simp only [hh]
      exact pc_panicAt
    | some top =>
      refine pc_query_bind (PC.of_tot (tot_htmlElemFn hh)) ?_
      intro s3 c3 he3 hs3 hc3
      have htr3 := Tr.of_same hm2 hs3 he3 (by rw [← edits2_edits, hc3]; rfl)
      refine pc_seq (pc_addAttrsIfMissing htr3.1 top hp) ?_
      rintro _ s4 c4 he4 ⟨hs4, htr4⟩
      refine pc_pure (tokPost_of_tr (calls := c1 ++ (c2 ++ (c3 ++ (c4 ++ []))))
        (by rw [List.append_nil, ← List.append_assoc c2, ← List.append_assoc c1, ← List.append_assoc]
            exact (htr12.trans htr3).trans htr4) trivial ?_)
      rintro x x'' hx hx'' ⟨x3, ⟨x2, ⟨x1, ⟨e1, r1⟩, e2, r2⟩, e3, r3⟩, r4⟩
      subst e1 e2 e3
      refine ⟨{ x'' with errors := x''.errors ++ ["in body: html start tag"] }, ?_, ⟨rfl, rfl, rfl, rfl, rfl⟩, Or.inl rfl, rfl, rfl⟩
      have hts : (Spec.TreeModes.State.err (absF s x3) "in body: html start tag").templateOnStack = false := by
        rw [r1]
        simp only [Spec.TreeModes.State.templateOnStack, Spec.TreeModes.State.err, absF_p, absP, hx.live,
          Bool.false_eq_true, if_false]
        exact ht'
      have hhd : (Spec.TreeModes.State.err (absF s x3) "in body: html start tag").p.stack.head? = some (elemOf s1.dom top) := by
        rw [r1]
        simp only [Spec.TreeModes.State.err, absF_p, absP, hx.live, Bool.false_eq_true, if_false, absStack_head?]
        rw [← hs2.openElems, hh]; rfl
      simp only [Spec.TreeModes.inBodyStartHtml, hts, Bool.false_eq_true, if_false, hhd, Spec.TreeModes.req, stepOf]
      show Except.ok (Step.done ((Spec.TreeModes.State.err (absF s x3) "in body: html start tag").xop
          (XOp.addMissingAttributes top (specTag t).attrs)))
        = Except.ok (Step.done { absF s4 x'' with errors := (absF s4 x'').errors ++ ["in body: html start tag"] })
      rw [r4, ← r3, ← r2, ← r1]
      rfl

end H5V.Lemmas.HtmlTBModes
