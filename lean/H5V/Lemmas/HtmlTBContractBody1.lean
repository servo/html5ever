import H5V.Lemmas.HtmlTBContractSimple
/-!
# TreeSink contract for the HTML tree builder: leaves and special arms of the "in body" rules

* facts about `Tag.isStart` / `Tag.isEnd` (`start_sub`, `end_sub`);
* leaves: `cp_addAttrs` (`<body>`), `cps_removeFromParent` (`<frameset>`);
* `satcv_findOption` — a valued specification of the `</option>` search, and the two halves of the `</option>`
  arm (`cpsp_findOption_bind`, `satc_optionMirror`), proved at the `SatC` level because the selectedcontent
  mirror needs the *name* of the handle it is called with;
* `cb_clearForm` (`</form>`: the state written back).
-/
namespace H5V.Lemmas.TBC
open H5V.Model.HtmlTB
open H5V.Model.Dom (Id QualName Attr NodeOrText SinkOp Output ElementFlags QuirksMode Dom NodeData Node Contract)
open H5V.Lemmas.TBSafe (IsEl nm sigOf Ext nm_ext fmtNames namedP)
variable {d0 : Dom}

/-! ### tag tests -/

theorem isOneOf_sub' {n : Str} {l1 l2 : List String} (hs : ∀ x ∈ l1, x ∈ l2) (h : isOneOf n l1 = true) :
    isOneOf n l2 = true := by
  unfold isOneOf at *
  rw [List.any_eq_true] at *
  obtain ⟨x, hx, hxn⟩ := h
  exact ⟨x, hs x hx, hxn⟩

theorem start_sub {tag : Tag} {l l2 : List String} (h : tag.isStart l = true)
    (hs : ∀ x ∈ l, x ∈ l2 := by decide) : isOneOf tag.name l2 = true := by
  simp only [Tag.isStart, Bool.and_eq_true] at h
  exact isOneOf_sub' hs h.2

theorem end_sub {tag : Tag} {l l2 : List String} (h : tag.isEnd l = true)
    (hs : ∀ x ∈ l, x ∈ l2 := by decide) : isOneOf tag.name l2 = true := by
  simp only [Tag.isEnd, Bool.and_eq_true] at h
  exact isOneOf_sub' hs h.2

theorem attrsOk_nil : AttrsOk [] := ⟨(fun _ h => by cases h), List.nodup_nil⟩

/-! ### leaves -/

/-- `add_attrs_if_missing(node, attrs)` (the `<body>` arm) -/
@[cp]
theorem cp_addAttrs {c : List Id} {node : Id} {attrs : List Attr} (hn : node ∈ c)
    (ha : Dom.attrKeysNodup attrs = true) : CP d0 c (sinkUnit (.addAttrsIfMissing node attrs)) (fun _ => []) :=
  cp_sinkUnit_nt rfl (fun _ _ hc => contract_addAttrs (hc node hn) ha)

/-- `remove_from_parent(body)` (the `<frameset>` arm): not tree-neutral, but the stack-order invariant
survives because parents are only removed -/
theorem cps_removeFromParent {c : List Id} {t : Id} (ht : t ∈ c) :
    CPS d0 c (sinkUnit (.removeFromParent t)) (fun _ => []) := by
  intro s hcb hsa hc
  refine (satc_removeFromParent_shrink hcb hsa (hc t ht)).mono ?_
  rintro _ s' ⟨h2, hsa'⟩
  exact ⟨h2.cb, hsa', h2.ext, CtxOk.nil _⟩

/-! ### `</option>`: the search for an open `option`, with the name of what it finds -/

theorem loc_of_namedP {d : Dom} {name : Str} {h : Id} (hn : namedP d name h = true) : (nm d h).loc = name := by
  unfold namedP at hn
  simp only [Bool.and_eq_true, beq_iff_eq] at hn
  exact hn.2

theorem satcv_findOption : ∀ (l : List Id) (s : State), CB d0 s → (∀ x ∈ l, IsEl s.dom x) →
    SatC (findOption l) s (fun r s' => Q2 d0 s s' ∧
      ∀ o, r = some o → o ∈ l ∧ namedP s.dom "option".toList o = true) := by
  intro l
  induction l with
  | nil =>
    intro s hcb _
    unfold H5V.Model.HtmlTB.findOption
    exact satc_pure ⟨Q2.refl hcb, fun o h => by cases h⟩
  | cons e rest ih =>
    intro s hcb hall
    unfold H5V.Model.HtmlTB.findOption
    refine (satcv_htmlElemNamed hcb (hall e List.mem_cons_self)).bind ?_
    rintro b s1 ⟨rfl, hq⟩
    refine satc_ite (fun hb => ?_) (fun hb => ?_)
    · refine satc_pure ⟨hq, ?_⟩
      intro o ho
      cases ho
      exact ⟨List.mem_cons_self, hb⟩
    · have hall1 : ∀ x ∈ rest, IsEl s1.dom x := fun x hx => (hall x (List.mem_cons_of_mem _ hx)).ext hq.ext
      refine (ih s1 hq.cb hall1).mono ?_
      rintro r s2 ⟨hq2, hr⟩
      refine ⟨hq.trans hq2, ?_⟩
      intro o ho
      obtain ⟨h1, h2⟩ := hr o ho
      refine ⟨List.mem_cons_of_mem _ h1, ?_⟩
      unfold namedP at h2 ⊢
      rw [nm_ext hq.ext (hall o (List.mem_cons_of_mem _ h1))] at h2
      exact h2

/-- the first half of the `</option>` arm: the continuation runs from a state in which the handle found
is an element whose local name is `option` -/
theorem cpsp_findOption_bind {c : List Id} {tag : Tag} {β : Type} {k : Option Id → M β} {P : β → Prop}
    (hk : ∀ r s, CB d0 s → SAnc s.dom s.openElems →
      (∀ o, r = some o → IsEl s.dom o ∧ (nm s.dom o).loc = "option".toList) →
      SatC (k r) s (fun a s' => CB d0 s' ∧ SAnc s'.dom s'.openElems ∧ Ext s.dom s'.dom ∧ P a)) :
    CPSP d0 c (do
      let st ← getS
      let r ← findOption st.openElems
      processEndTagInBody tag
      k r) (fun _ => []) P := by
  intro s hcb hsa hc
  refine satc_getS_bind ?_
  refine (satcv_findOption s.openElems s hcb hcb.h.open_el).bind ?_
  rintro r s1 ⟨hq1, hr⟩
  have hsa1 : SAnc s1.dom s1.openElems := hsa.grow hcb.d.inv.wf hcb.h.lt hq1.g
  refine ((cp_toCPS (cp_processEndTagInBody (c := []))) s1 hq1.cb hsa1 (CtxOk.nil _)).bind ?_
  rintro _ s2 ⟨hcb2, hsa2, he2, _⟩
  have he : Ext s.dom s2.dom := hq1.ext.trans he2
  refine (hk r s2 hcb2 hsa2 ?_).mono ?_
  · intro o ho
    obtain ⟨hol, hnm⟩ := hr o ho
    have hoel : IsEl s.dom o := hcb.h.open_el o hol
    refine ⟨hoel.ext he, ?_⟩
    rw [nm_ext he hoel]
    exact loc_of_namedP hnm
  · rintro a s3 ⟨h1, h2, h3, h4⟩
    exact ⟨h1, h2, he.trans h3, CtxOk.nil _, h4⟩

/-- the second half: `maybe_clone_an_option_into_selectedcontent` unless the option is still open -/
theorem satc_optionMirror {o : Id} {s : State} {tok : Token} (hcb : CB d0 s) (hsa : SAnc s.dom s.openElems)
    (ho : IsEl s.dom o) (hn : (nm s.dom o).loc = "option".toList) :
    SatC (do
      let st ← getS
      let b ← anySameNode o st.openElems
      if (!b) = true then do
          sinkUnit (SinkOp.maybeCloneAnOptionIntoSelectedcontent o)
          pure ProcessResult.done
        else pure ProcessResult.done) s
      (fun a s' => CB d0 s' ∧ SAnc s'.dom s'.openElems ∧ Ext s.dom s'.dom ∧ ResLate tok a) := by
  refine satc_getS_bind ?_
  have hctx : CtxOk (o :: s.openElems) s := by
    intro x hx
    rcases List.mem_cons.mp hx with rfl | hx
    · exact ho
    · exact hcb.h.open_el x hx
  refine ((cp_anySameNode (c := o :: s.openElems) List.mem_cons_self s.openElems
    (fun y hy => List.mem_cons_of_mem _ hy)) s hcb hctx).bind ?_
  rintro b s1 ⟨hcb1, hg1, _⟩
  have hsa1 : SAnc s1.dom s1.openElems := hsa.grow hcb.d.inv.wf hcb.h.lt hg1
  refine satc_ite (fun _ => ?_) (fun _ => satc_pure ⟨hcb1, hsa1, hg1.ext, trivial⟩)
  refine (satc_maybeCloneOption hcb1 hsa1 (ho.ext hg1.ext) (by rw [nm_ext hg1.ext ho]; exact hn)).bind ?_
  rintro _ s2 ⟨ht, hsa2⟩
  exact satc_pure ⟨ht.cb, hsa2, hg1.ext.trans ht.ext, trivial⟩

/-! ### `</form>`: the state written back keeps the invariants -/

theorem cb_clearForm {s : State} (hcb : CB d0 s) (hsa : SAnc s.dom s.openElems) :
    CB d0 { s with formElem := none } ∧
      SAnc ({ s with formElem := none } : State).dom ({ s with formElem := none } : State).openElems ∧
      Ext s.dom ({ s with formElem := none } : State).dom :=
  ⟨hcb.of_shrink rfl rfl rfl (fun _ h => h) (fun _ h => h) (fun _ h => h) (fun _ h => by cases h) (fun _ h => h)
    ⟨hcb.l.mode, hcb.l.orig, hcb.l.tm⟩, hsa, Ext.refl _⟩

end H5V.Lemmas.TBC
