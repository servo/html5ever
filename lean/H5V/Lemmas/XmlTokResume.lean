import H5V.Lemmas.XmlTokStep
/-!
Resumability of `XmlTokenizer::step`: a suspended step, re-executed after more input arrived,
behaves like the step on the concatenated input (up to a dead `current_char`).
The counterpart of `H5V.Lemmas.HtmlTokResume`; the fast-path/slow-path comparison uses the side condition on
the `small_char_set!`s (`setOf_cover`: every set contains `\r`, `\0` and the state's special characters).
-/
namespace H5V.Model.XmlTok

/-! ### simulation up to a dead `current_char`

`pop_except_from` does not set `current_char` for a run of non-set characters ("It shouldn't
matter for the codepaths that use this", says the source). In a state read with `pop_except_from`,
with no pending reconsume and no character reference in progress, the register is dead: the next
read overwrites it before anything looks at it. -/

def deadCC (m : Mach) : Prop :=
  m.reconsume = false ∧ m.charRef = none ∧ readKind m.state = .popExcept

/-- equal, or equal up to a dead `current_char` -/
def Sim (m1 m2 : Mach) : Prop := m1 = m2 ∨ (deadCC m1 ∧ ∃ a, m2 = m1.setCurrentChar a)

theorem Sim.refl (m : Mach) : Sim m m := Or.inl rfl

def RSim : R → R → Prop
  | .cont a i, .cont b j => Sim a b ∧ i = j
  | .suspend a i, .suspend b j => Sim a b ∧ i = j
  | .panic x, .panic y => x = y
  | _, _ => False

theorem RSim.refl (r : R) : RSim r r := by
  cases r <;> simp [RSim, Sim.refl]

theorem RSim.of_eq {r1 r2 : R} (h : r1 = r2) : RSim r1 r2 := h ▸ RSim.refl r1

@[simp] theorem setCurrentChar_setCurrentChar (m : Mach) (a b : Char) :
    (m.setCurrentChar a).setCurrentChar b = m.setCurrentChar b := by
  cases m; rfl
theorem setIgnoreLf_setCurrentChar (m : Mach) (a : Char) (b : Bool) :
    (m.setCurrentChar a).setIgnoreLf b = (m.setIgnoreLf b).setCurrentChar a := by
  cases m; rfl
theorem emit_setCurrentChar (m : Mach) (a : Char) (t : Token) :
    emit (m.setCurrentChar a) t = (emit m t).setCurrentChar a := by
  cases m; rfl

/-- `foldChar` overwrites `current_char`: its previous value is irrelevant -/
theorem foldChar_setCurrentChar (o : Opts) (m : Mach) (a c : Char) :
    foldChar o (m.setCurrentChar a) c = foldChar o m c := by
  unfold foldChar
  by_cases h1 : c = '\r'
  · simp only [h1, ↓reduceIte, setIgnoreLf_setCurrentChar]
    split <;> split <;> simp only [emit_setCurrentChar, setCurrentChar_setCurrentChar]
  · simp only [h1, ↓reduceIte]
    split <;> split <;> simp only [emit_setCurrentChar, setCurrentChar_setCurrentChar]

theorem deadCC_setCurrentChar (m : Mach) (a : Char) : deadCC (m.setCurrentChar a) ↔ deadCC m := by
  unfold deadCC; simp

theorem Sim.symm {m1 m2 : Mach} (h : Sim m1 m2) : Sim m2 m1 := by
  rcases h with h | ⟨hd, a, ha⟩
  · exact Or.inl h.symm
  · subst ha
    exact Or.inr ⟨(deadCC_setCurrentChar m1 a).mpr hd, m1.currentChar, rfl⟩

theorem Sim.trans {m1 m2 m3 : Mach} (h12 : Sim m1 m2) (h23 : Sim m2 m3) : Sim m1 m3 := by
  rcases h12 with h | ⟨hd, a, ha⟩
  · subst h; exact h23
  · subst ha
    rcases h23 with h | ⟨_, b, hb⟩
    · subst h; exact Or.inr ⟨hd, a, rfl⟩
    · subst hb; exact Or.inr ⟨hd, b, rfl⟩

theorem Sim.out {m1 m2 : Mach} (h : Sim m1 m2) : m1.out = m2.out := by
  rcases h with h | ⟨_, a, ha⟩
  · rw [h]
  · subst ha; rfl

/-! ### resume: get_char states -/

theorem resume_getChar (o : Opts) (m m' : Mach) (inp inp' e : Str)
    (hcr : m.charRef = none) (hrk : readKind m.state = .getChar)
    (h : getChar o m inp = (none, m', inp')) :
    inp' = [] ∧ step o m' e = step o m (inp ++ e) := by
  have hres := getChar_resume o m m' inp inp' e h
  obtain ⟨h1, h2, h3⟩ := getChar_none o m m' inp inp' h
  subst h1
  refine ⟨rfl, ?_⟩
  have hs : m'.state = m.state ∧ m'.charRef = m.charRef := by
    rcases h3 with ⟨_, h4⟩ | ⟨_, _, h4⟩ <;> subst h4 <;> simp
  unfold step
  simp only [hs.2, hcr, hs.1, hrk]
  simp only [List.nil_append] at hres
  rw [hres]

/-! ### resume: pop_except_from states -/

theorem popExceptFrom_nil (o : Opts) (S : List Char) (m : Mach) (hr : m.reconsume = false) :
    popExceptFrom o S m [] = (none, m, []) := by
  unfold popExceptFrom getChar
  split <;> simp [hr]

theorem preprocess_plain (o : Opts) (m : Mach) (x : Char) (xs : Str) (h : m.ignoreLf = false) :
    preprocess o m x xs = (some (foldChar o m x).1, (foldChar o m x).2, xs) := by
  unfold preprocess; simp [h]

/-- the continuation of a `pop_except_from` state after its read -/
def contSet (r : Option SetRes × Mach × Str) : R :=
  match r with
  | (none, m, inp) => .suspend m inp
  | (some r, m, inp) => ofSig (transSet m r) inp

theorem step_popExcept (o : Opts) (m : Mach) (inp : Str)
    (hcr : m.charRef = none) (hrk : readKind m.state = .popExcept) :
    step o m inp = contSet (popExceptFrom o (setOf m.state) m inp) := by
  cases hp : popExceptFrom o (setOf m.state) m inp with
  | mk a b =>
    obtain ⟨m1, i1⟩ := b
    cases a <;> simp [step, contSet, hcr, hrk, hp]

/-- the characters a `pop_except_from` state's table distinguishes -/
def special : State → List Char
  | .data => ['&', '<']
  | .tagAttrValue .doubleQuoted => ['"', '&']
  | .tagAttrValue .singleQuoted => ['\'', '&']
  | .tagAttrValue .unquoted => ['\t', '\n', ' ', '&', '>']
  | _ => []

/-- **Side condition of the fast path** (what DESIGN 1.3 item 12 violated): every `small_char_set!`
contains `\r`, `\0` and every character its state's table treats specially -/
theorem setOf_cover (s : State) (h : readKind s = .popExcept) :
    '\r' ∈ setOf s ∧ '\x00' ∈ setOf s ∧ ∀ c ∈ special s, c ∈ setOf s := by
  cases s <;> simp [readKind] at h
  · decide
  · rename_i k; cases k <;> decide

/-- outside the set `get_preprocessed_char` is the identity (with `exact_errors` off) -/
theorem foldChar_plain (o : Opts) (m : Mach) (x : Char) (hex : o.exactErrors = false)
    (hr : x ≠ '\r') (h0 : x ≠ '\x00') : foldChar o m x = (x, m.setCurrentChar x) := by
  unfold foldChar; simp [hex, hr, h0]

/-- **fast path = slow path**: for a character outside the state's set, the table does the same with
a one-character `NotFromSet` run as with `FromSet` of that character -/
theorem transSet_dead (m : Mach) (x : Char) (hk : readKind m.state = .popExcept)
    (hx : x ∉ setOf m.state) : transSet m (.fromSet x) = transSet m (.notFromSet [x]) := by
  have hc := setOf_cover m.state hk
  have h0 : x ≠ '\x00' := fun h => hx (h ▸ hc.2.1)
  have hsp : ∀ c ∈ special m.state, x ≠ c := fun c hc' h => hx (h ▸ hc.2.2 c hc')
  unfold transSet
  cases hs : m.state <;> simp [hs, readKind] at hk
  · have h1 := hsp '&' (by simp [hs, special]); have h2 := hsp '<' (by simp [hs, special])
    simp [h1, h2, emitChar, emitChars, h0]
  · rename_i k
    cases k with
    | doubleQuoted =>
      have h1 := hsp '"' (by simp [hs, special]); have h2 := hsp '&' (by simp [hs, special])
      simp [h1, h2, pushValue, appendValue]
    | singleQuoted =>
      have h1 := hsp '\'' (by simp [hs, special]); have h2 := hsp '&' (by simp [hs, special])
      simp [h1, h2, pushValue, appendValue]
    | unquoted =>
      have h1 := hsp '\t' (by simp [hs, special]); have h2 := hsp '\n' (by simp [hs, special])
      have h3 := hsp ' ' (by simp [hs, special]); have h4 := hsp '&' (by simp [hs, special])
      have h5 := hsp '>' (by simp [hs, special])
      simp [h1, h2, h3, h4, h5, pushValue, appendValue]


/-! the table never looks at `current_char` in a `pop_except_from` state -/

theorem to_setCC (s : State) (m : Mach) (a : Char) : to s (m.setCurrentChar a) = (to s m).setCurrentChar a := by
  cases m; rfl
theorem consumeCharRef_setCC (x : Option Char) (m : Mach) (a : Char) :
    consumeCharRef x (m.setCurrentChar a) = (consumeCharRef x m).setCurrentChar a := by cases m; rfl
theorem emitChar_setCC (m : Mach) (a c : Char) : emitChar (m.setCurrentChar a) c = (emitChar m c).setCurrentChar a := by
  cases m; rfl
theorem emitChars_setCC (m : Mach) (a : Char) (s : Str) :
    emitChars (m.setCurrentChar a) s = (emitChars m s).setCurrentChar a := by cases m; rfl
theorem pushValue_setCC (m : Mach) (a c : Char) : pushValue c (m.setCurrentChar a) = (pushValue c m).setCurrentChar a := by
  cases m; rfl
theorem appendValue_setCC (m : Mach) (a : Char) (s : Str) :
    appendValue s (m.setCurrentChar a) = (appendValue s m).setCurrentChar a := by cases m; rfl
theorem emitErr_setCC (m : Mach) (a : Char) (s : String) :
    emitErr (m.setCurrentChar a) s = (emitErr m s).setCurrentChar a := by cases m; rfl

theorem finishAttribute_setCC (m : Mach) (a : Char) :
    finishAttribute (m.setCurrentChar a) = (finishAttribute m).setCurrentChar a := by
  unfold finishAttribute
  have e1 : (m.setCurrentChar a).attrName = m.attrName := rfl
  have e2 : (m.setCurrentChar a).tagAttrs = m.tagAttrs := rfl
  have e3 : (m.setCurrentChar a).attrValue = m.attrValue := rfl
  simp only [e1, e2, e3]
  split
  · rfl
  · split
    · cases m; rfl
    · split <;> (cases m; rfl)

theorem emitCurrentTag_setCC (m : Mach) (a : Char) :
    emitCurrentTag (m.setCurrentChar a) = (emitCurrentTag m).setCurrentChar a := by
  unfold emitCurrentTag
  rw [finishAttribute_setCC]
  generalize finishAttribute m = m1
  cases m1 with
  | mk st cr cc rc il tk tn ta an av cm dt pt pd tb ae db out =>
    simp only [Mach.setCurrentChar]
    cases tk <;> cases ta <;> rfl

theorem emitTag_setCC (s : State) (m : Mach) (a : Char) :
    emitTag s (m.setCurrentChar a) = (emitTag s m).setCurrentChar a := by
  unfold emitTag; rw [to_setCC, emitCurrentTag_setCC]

theorem transSet_setCC (m : Mach) (a : Char) (r : SetRes) :
    transSet (m.setCurrentChar a) r = ((transSet m r).1.setCurrentChar a, (transSet m r).2) := by
  unfold transSet
  have e : (m.setCurrentChar a).state = m.state := rfl
  simp only [e]
  split <;> (try split) <;> (try split) <;> (try split) <;>
    simp only [to_setCC, consumeCharRef_setCC, emitChar_setCC, emitChars_setCC, pushValue_setCC,
      appendValue_setCC, emitTag_setCC]


/-- what a `NotFromSet` run does to the control registers: nothing -/
theorem transSet_notFromSet (m : Mach) (b : Str) (hk : readKind m.state = .popExcept) :
    (transSet m (.notFromSet b)).1.state = m.state ∧ (transSet m (.notFromSet b)).1.charRef = m.charRef ∧
    (transSet m (.notFromSet b)).1.reconsume = m.reconsume ∧ (transSet m (.notFromSet b)).2 = .cont := by
  unfold transSet
  cases hs : m.state <;> simp [hs, readKind] at hk <;> simp [hs]

theorem resume_popExcept (o : Opts) (m m' : Mach) (inp inp' e : Str)
    (hcr : m.charRef = none) (hrk : readKind m.state = .popExcept)
    (h : popExceptFrom o (setOf m.state) m inp = (none, m', inp')) :
    inp' = [] ∧ RSim (step o m (inp ++ e)) (step o m' e) := by
  obtain ⟨h1, h2, h3⟩ := popExceptFrom_none o _ m m' inp inp' h
  subst h1
  refine ⟨rfl, ?_⟩
  rcases h3 with ⟨h3, h4⟩ | ⟨h3, hil, h4⟩
  · subst h3 h4; exact RSim.refl _
  · subst h3 h4
    have hst : (m.setIgnoreLf false).state = m.state := by simp
    rw [step_popExcept o m _ hcr hrk, step_popExcept o (m.setIgnoreLf false) e (by simp [hcr]) (by simp [hrk])]
    simp only [hst]
    -- left: slow path through get_char
    have hl : popExceptFrom o (setOf m.state) m (['\n'] ++ e) =
        ((preprocess o m '\n' e).1.map .fromSet, (preprocess o m '\n' e).2) := by
      unfold popExceptFrom getChar
      simp [hil, h2]
    rw [hl]
    cases e with
    | nil =>
      have : preprocess o m '\n' [] = (none, m.setIgnoreLf false, []) := by
        unfold preprocess; simp [hil]
      rw [this, popExceptFrom_nil o _ _ (by simp [h2])]
      exact RSim.refl _
    | cons x xs =>
      rw [preprocess_resume o m x xs hil, preprocess_plain o _ x xs (by simp)]
      simp only [Option.map_some]
      generalize hm2 : m.setIgnoreLf false = m2
      have hr2 : m2.reconsume = false := by rw [← hm2]; simp [h2]
      have hi2 : m2.ignoreLf = false := by rw [← hm2]; simp
      have hc2 : m2.charRef = none := by rw [← hm2]; simp [hcr]
      have hs2 : m2.state = m.state := by rw [← hm2]; simp
      have hk2 : readKind m2.state = .popExcept := by rw [hs2]; exact hrk
      rw [← hs2]
      -- right: whichever path the resumed read takes
      unfold popExceptFrom
      by_cases hex : o.exactErrors = true
      · simp only [hex, Bool.true_or, ↓reduceIte, getChar, hr2, Bool.false_eq_true, preprocess_plain o m2 x xs hi2,
          Option.map_some]
        exact RSim.refl _
      · have hex' : o.exactErrors = false := by simpa using hex
        simp only [hex', hr2, hi2, Bool.or_self, Bool.false_eq_true, ↓reduceIte]
        by_cases hx : (setOf m2.state).contains x = true
        · simp only [hx, ↓reduceIte, preprocess_plain o m2 x xs hi2, Option.map_some]
          exact RSim.refl _
        · have hx' : (setOf m2.state).contains x = false := by simpa using hx
          have hmem : x ∉ setOf m2.state := by simpa using hx'
          simp only [hx', Bool.false_eq_true, ↓reduceIte]
          have hc := setOf_cover m2.state hk2
          have hxr : x ≠ '\r' := fun h => hmem (h ▸ hc.1)
          have hx0 : x ≠ '\x00' := fun h => hmem (h ▸ hc.2.1)
          rw [foldChar_plain o m2 x hex' hxr hx0]
          simp only [contSet]
          rw [transSet_setCC, transSet_dead m2 x hk2 hmem]
          obtain ⟨hst', hcr', hrec, hsig⟩ := transSet_notFromSet m2 [x] hk2
          generalize transSet m2 (.notFromSet [x]) = T at hst' hcr' hrec hsig ⊢
          obtain ⟨T1, T2⟩ := T
          simp only at hst' hcr' hrec hsig ⊢
          subst hsig
          have hdead : deadCC T1 := ⟨by rw [hrec, hr2], by rw [hcr', hc2], by rw [hst']; exact hk2⟩
          have hsim : Sim (T1.setCurrentChar x) T1 := Sim.symm (Or.inr ⟨hdead, x, rfl⟩)
          simp [ofSig, RSim, hsim]


/-! ### resume: character references -/

theorem setCharRef_self (m : Mach) (cr : Option CharRefSt) (h : m.charRef = cr) : m.setCharRef cr = m := by
  cases m; simp_all [Mach.setCharRef]

theorem notStuck_ne {r : CRRes} (h : r.notStuck) (m1 : Mach) (i1 : Str) (cr1 : CharRefSt) :
    r ≠ .ok (m1, i1, cr1, .stuck) := by
  intro he; rw [he] at h; exact h

/-- when a char-ref step is stuck nothing happened, except that `get_char` may have swallowed the LF
of a CRLF (named states only) -/
theorem crStep_stuck_inv (o : Opts) (m m1 : Mach) (inp i1 : Str) (cr cr1 : CharRefSt)
    (h : crStep o m inp cr = .ok (m1, i1, cr1, .stuck)) :
    cr1 = cr ∧ i1 = [] ∧ m.reconsume = false ∧
      ((inp = [] ∧ m1 = m) ∨
       (inp = ['\n'] ∧ m.ignoreLf = true ∧ m1 = m.setIgnoreLf false ∧
         (cr.state = .named ∨ cr.state = .bogusName))) := by
  unfold crStep at h
  cases hst : cr.state with
  | named =>
    simp only [hst] at h
    cases hg : getChar o m inp with
    | mk c r =>
      obtain ⟨m2, i2⟩ := r
      cases c with
      | none =>
        simp only [hg, Except.ok.injEq, Prod.mk.injEq] at h
        obtain ⟨rfl, rfl, rfl, _⟩ := h
        obtain ⟨g1, g2, g3⟩ := getChar_none o m m2 inp i2 hg
        refine ⟨rfl, g1, g2, ?_⟩
        rcases g3 with ⟨a, b⟩ | ⟨a, b, c⟩
        · exact Or.inl ⟨a, b⟩
        · exact Or.inr ⟨a, b, c, Or.inl rfl⟩
      | some c =>
        exfalso
        simp only [hg] at h
        split at h
        · cases h
        · split at h
          · split at h <;> simp at h
          · exact notStuck_ne (finishNamed_notStuck _ _ _ _ _) _ _ _ h
  | bogusName =>
    simp only [hst] at h
    cases hg : getChar o m inp with
    | mk c r =>
      obtain ⟨m2, i2⟩ := r
      cases c with
      | none =>
        simp only [hg, Except.ok.injEq, Prod.mk.injEq] at h
        obtain ⟨rfl, rfl, rfl, _⟩ := h
        obtain ⟨g1, g2, g3⟩ := getChar_none o m m2 inp i2 hg
        refine ⟨rfl, g1, g2, ?_⟩
        rcases g3 with ⟨a, b⟩ | ⟨a, b, c⟩
        · exact Or.inl ⟨a, b⟩
        · exact Or.inr ⟨a, b, c, Or.inr rfl⟩
      | some c =>
        exfalso
        simp only [hg] at h
        split at h
        · cases h
        · split at h
          · simp at h
          · exact notStuck_ne (unconsumeName_notStuck _ _ _) _ _ _ h
  | begin =>
    simp only [hst] at h
    cases hpk : peek m inp with
    | none =>
      simp only [hpk, Except.ok.injEq, Prod.mk.injEq] at h
      obtain ⟨rfl, rfl, rfl, _⟩ := h
      obtain ⟨a, b⟩ := peek_none m inp hpk
      exact ⟨rfl, b, a, Or.inl ⟨b, rfl⟩⟩
    | some c =>
      exfalso
      simp only [hpk] at h
      repeat' split at h
      all_goals simp at h
  | octothorpe =>
    simp only [hst] at h
    cases hpk : peek m inp with
    | none =>
      simp only [hpk, Except.ok.injEq, Prod.mk.injEq] at h
      obtain ⟨rfl, rfl, rfl, _⟩ := h
      obtain ⟨a, b⟩ := peek_none m inp hpk
      exact ⟨rfl, b, a, Or.inl ⟨b, rfl⟩⟩
    | some c =>
      exfalso
      simp only [hpk] at h
      repeat' split at h
      all_goals simp at h
  | numeric base =>
    simp only [hst] at h
    cases hpk : peek m inp with
    | none =>
      simp only [hpk, Except.ok.injEq, Prod.mk.injEq] at h
      obtain ⟨rfl, rfl, rfl, _⟩ := h
      obtain ⟨a, b⟩ := peek_none m inp hpk
      exact ⟨rfl, b, a, Or.inl ⟨b, rfl⟩⟩
    | some c =>
      exfalso
      simp only [hpk] at h
      split at h
      · split at h <;> simp at h
      · split at h
        · exact notStuck_ne (unconsumeNumeric_notStuck _ _ _) _ _ _ h
        · simp at h
  | numericSemicolon =>
    simp only [hst] at h
    cases hpk : peek m inp with
    | none =>
      simp only [hpk, Except.ok.injEq, Prod.mk.injEq] at h
      obtain ⟨rfl, rfl, rfl, _⟩ := h
      obtain ⟨a, b⟩ := peek_none m inp hpk
      exact ⟨rfl, b, a, Or.inl ⟨b, rfl⟩⟩
    | some c =>
      exfalso
      simp only [hpk] at h
      split at h
      · split at h
        · simp at h
        · exact notStuck_ne (finishNumericStatus_notStuck _ _ _ _) _ _ _ h
      · exact notStuck_ne (finishNumericStatus_notStuck _ _ _ _) _ _ _ h


/-- `crStep` in the named states depends on the machine and input only through `get_char` -/
theorem crStep_named_congr (o : Opts) (m m' : Mach) (inp inp' : Str) (cr : CharRefSt)
    (hs : cr.state = .named ∨ cr.state = .bogusName)
    (h : getChar o m' inp' = getChar o m inp) : crStep o m' inp' cr = crStep o m inp cr := by
  unfold crStep
  rcases hs with hs | hs <;> simp only [hs, h]

theorem resume_charRef (o : Opts) (m m' : Mach) (inp inp' e : Str) (cr : CharRefSt)
    (hcr : m.charRef = some cr) (h : stepCharRef o m inp cr = .suspend m' inp') :
    inp' = [] ∧ step o m' e = step o m (inp ++ e) ∧
      m'.state = m.state ∧ m'.charRef = m.charRef ∧ m'.tempBuf = m.tempBuf ∧ m'.atEof = m.atEof ∧
      (m'.ignoreLf = true → m.ignoreLf = true) := by
  unfold stepCharRef at h
  cases hc : crStep o m inp cr with
  | error x => rw [hc] at h; simp at h
  | ok v =>
    obtain ⟨m1, i1, cr1, st⟩ := v
    rw [hc] at h
    cases st with
    | progress => simp at h
    | done chars => simp only [ofSig] at h; split at h <;> simp at h
    | stuck =>
      simp only [R.suspend.injEq] at h
      obtain ⟨h4, h5⟩ := h
      obtain ⟨g1, g2, g3, g4⟩ := crStep_stuck_inv o m m1 inp i1 cr cr1 hc
      subst g1 g2 h5
      rcases g4 with ⟨a, b⟩ | ⟨a, hil, b, hs⟩
      · subst a
        rw [b, setCharRef_self m _ hcr] at h4
        subst h4
        exact ⟨rfl, rfl, rfl, rfl, rfl, rfl, id⟩
      · subst a
        have hcr1 : (m.setIgnoreLf false).charRef = some cr1 := by simp [hcr]
        rw [b, setCharRef_self _ _ hcr1] at h4
        subst h4
        refine ⟨rfl, ?_, by simp, by simp, by simp, by simp, by simp⟩
        have hg : getChar o m ['\n'] = (none, m.setIgnoreLf false, []) := by
          simp [getChar, g3, preprocess, hil]
        have hres := getChar_resume o m _ ['\n'] [] e hg
        unfold step
        simp only [hcr1, hcr, stepCharRef]
        rw [crStep_named_congr o m (m.setIgnoreLf false) (['\n'] ++ e) e cr1 hs (by simpa using hres)]


/-! ### resume: look-ahead states -/

/-- the machine after a definite `eat` answer: no pending LF, nothing stashed -/
def Settled (m : Mach) : Prop := m.ignoreLf = false ∧ m.tempBuf = []

theorem Settled.eat_core {m : Mach} (hs : Settled m) (o : Opts) (i pat : Str) :
    eat o m i pat = eatCore m i pat := by
  rw [eat_eq_core, eatSkipLf_id o m i hs.1, hs.2]; rfl

theorem Settled.setTempBuf {m : Mach} (hs : Settled m) : m.setTempBuf [] = m := by
  obtain ⟨_, h2⟩ := hs
  cases m; simp_all [Mach.setTempBuf]

theorem Settled.eatOk {m : Mach} (hs : Settled m) : EatOk m := fun _ => hs.2

/-- a failed `eat` leaves a settled machine and the whole logical input in the queue; the
mismatch is definite -/
theorem eat_false_settled (o : Opts) (m m1 : Mach) (inp i1 pat : Str)
    (hg : EatOk m) (hpat : pat ≠ []) (hat : m.atEof = false)
    (h : eat o m inp pat = (some false, m1, i1)) :
    Settled m1 ∧ eatCmp eqCi i1 pat = some false ∧ m1.atEof = false := by
  rw [eat_eq_core] at h
  unfold eatCore at h
  have hf := eatSkipLf_fields o m inp
  split at h
  · simp at h
  · rename_i hc
    simp only [Prod.mk.injEq, true_and] at h
    obtain ⟨h1, h2⟩ := h
    subst h1 h2
    refine ⟨⟨?_, by simp⟩, hc, by simp [hat]⟩
    simp only [setTempBuf_ignoreLf]
    cases hil : (eatSkipLf o m inp).1.ignoreLf with
    | false => rfl
    | true =>
      exfalso
      cases hpk : peek m inp with
      | none =>
        rw [eatSkipLf_none o m inp hpk] at hil hc
        obtain ⟨_, hinp⟩ := peek_none m inp hpk
        have := hg hil
        simp [this, hinp, eatCmp_nil_none eqCi pat hpat] at hc
      | some c =>
        have := hf.2.2.2.2 c hpk
        rw [this] at hil; cases hil
  · simp [hat] at h

theorem Settled.eat_false_inv {m : Mach} (hs : Settled m) (hat : m.atEof = false)
    (o : Opts) (i pat : Str) (m2 : Mach) (i2 : Str)
    (h : eat o m i pat = (some false, m2, i2)) :
    m2 = m ∧ i2 = i ∧ eatCmp eqCi i pat = some false := by
  rw [hs.eat_core, eatCore] at h
  split at h
  · simp at h
  · rename_i hc
    simp only [Prod.mk.injEq, true_and] at h
    rw [hs.setTempBuf] at h
    exact ⟨h.1.symm, h.2.symm, hc⟩
  · simp [hat] at h

theorem Settled.eat_false_again {m : Mach} (hs : Settled m) (o : Opts) (i e pat : Str)
    (hc : eatCmp eqCi i pat = some false) : eat o m (i ++ e) pat = (some false, m, i ++ e) := by
  rw [hs.eat_core, eatCore, eatCmp_mono eqCi i pat e false hc, hs.setTempBuf]

theorem eat_fields (o : Opts) (m m1 : Mach) (inp i1 pat : Str) (b : Option Bool)
    (h : eat o m inp pat = (b, m1, i1)) :
    m1.state = m.state ∧ m1.charRef = m.charRef ∧ m1.atEof = m.atEof := by
  rw [eat_eq_core] at h
  unfold eatCore at h
  have hf := eatSkipLf_fields o m inp
  repeat' split at h
  all_goals
    (simp only [Prod.mk.injEq] at h
     obtain ⟨_, h2, _⟩ := h
     subst h2
     simp [hf.1, hf.2.2.1, hf.2.2.2.1])

theorem kw_ne : kwDashDash ≠ [] ∧ kwCdata ≠ [] ∧ kwDoctype ≠ [] ∧ kwPublic ≠ [] ∧ kwSystem ≠ [] := by
  decide

/-- on a settled machine, keywords that definitely do not match are skipped again -/
theorem eatChain_skip (o : Opts) (dflt : Mach → Str → R) (pre alts : List (Str × (Mach → Mach)))
    {m1 : Mach} (hs1 : Settled m1) (i1 e : Str) (hpre : ∀ q ∈ pre, eatCmp eqCi i1 q.1 = some false) :
    eatChain o dflt (pre ++ alts) m1 (i1 ++ e) = eatChain o dflt alts m1 (i1 ++ e) := by
  induction pre with
  | nil => rfl
  | cons q pre ih =>
    simp only [List.cons_append, eatChain, hs1.eat_false_again o i1 e q.1 (hpre q (.head _))]
    exact ih fun q hq => hpre q (.tail _ hq)

/-- two machines whose `eat`s agree run a look-ahead state alike (only its first `eat` sees them) -/
theorem eatChain_congr (o : Opts) (dflt : Mach → Str → R) (l : List (Str × (Mach → Mach))) (hl : l ≠ [])
    {m' m1 : Mach} {e x : Str} (hre : ∀ pat, eat o m' e pat = eat o m1 x pat) :
    eatChain o dflt l m' e = eatChain o dflt l m1 x := by
  cases l with
  | nil => exact absurd rfl hl
  | cons p l => simp only [eatChain, hre]

/-- resuming a look-ahead state that suspended after some definite mismatches: the machine the
mismatches left is settled, so re-running them changes nothing -/
theorem eatChain_resume_settled (o : Opts) (dflt : Mach → Str → R) (alts pre : List (Str × (Mach → Mach)))
    {m1 : Mach} (hs1 : Settled m1) (hat1 : m1.atEof = false) (i1 e : Str)
    (hpre : ∀ q ∈ pre, eatCmp eqCi i1 q.1 = some false)
    (hd : ∀ m' i', dflt m1 i1 ≠ .suspend m' i') (m' : Mach) (inp' : Str)
    (h : eatChain o dflt alts m1 i1 = .suspend m' inp') :
    inp' = [] ∧ EatOk m' ∧ eatChain o dflt (pre ++ alts) m' e = eatChain o dflt alts m1 (i1 ++ e) ∧
      m'.state = m1.state ∧ m'.charRef = m1.charRef ∧ m'.atEof = m1.atEof := by
  induction alts generalizing pre with
  | nil => exact absurd h (hd m' inp')
  | cons p alts ih =>
    unfold eatChain at h
    cases h2 : eat o m1 i1 p.1 with
    | mk b r =>
      obtain ⟨m2, i2⟩ := r
      rw [h2] at h
      rcases b with _ | _ | _
      · cases h
        obtain ⟨hi, hok, _, hre⟩ := eat_none o m1 m' i1 inp' _ hs1.eatOk h2
        refine ⟨hi, hok, ?_, eat_fields o m1 m' i1 inp' _ _ h2⟩
        rw [eatChain_congr o dflt _ (by simp) fun pat => hre e pat, eatChain_skip o dflt pre _ hs1 i1 e hpre]
      · obtain ⟨hm, hi, hc2⟩ := hs1.eat_false_inv hat1 o i1 _ m2 i2 h2
        rw [hm, hi] at h
        have := ih (pre ++ [p]) (fun q hq => by
          rcases List.mem_append.mp hq with hq | hq
          · exact hpre q hq
          · rw [List.mem_singleton.mp hq]; exact hc2) h
        rwa [List.append_assoc, List.singleton_append,
          ← eatChain_skip o dflt [p] alts hs1 i1 e (fun q hq => by rw [List.mem_singleton.mp hq]; exact hc2)] at this
      · cases h

/-- **a look-ahead state is resumable** (`hd`: after a definite mismatch the default branch does not
suspend) -/
theorem eatChain_resume (o : Opts) (dflt : Mach → Str → R) (alts : List (Str × (Mach → Mach)))
    (hne : ∀ p ∈ alts, p.1 ≠ []) (hal : alts ≠ [])
    (hd : ∀ m1 i1 m' i', Settled m1 → i1 ≠ [] → dflt m1 i1 ≠ .suspend m' i')
    (m m' : Mach) (inp inp' e : Str) (hg : EatOk m) (hat : m.atEof = false)
    (h : eatChain o dflt alts m inp = .suspend m' inp') :
    inp' = [] ∧ EatOk m' ∧ eatChain o dflt alts m' e = eatChain o dflt alts m (inp ++ e) ∧
      m'.state = m.state ∧ m'.charRef = m.charRef ∧ m'.atEof = m.atEof := by
  cases alts with
  | nil => exact absurd rfl hal
  | cons p alts =>
    have hp := hne p (.head _)
    unfold eatChain at h
    cases h1 : eat o m inp p.1 with
    | mk b r =>
      obtain ⟨m1, i1⟩ := r
      have f1 := eat_fields o m m1 inp i1 _ b h1
      rw [h1] at h
      rcases b with _ | _ | _
      · cases h
        obtain ⟨hi, hok, _, hre⟩ := eat_none o m m' inp inp' _ hg h1
        exact ⟨hi, hok, eatChain_congr o dflt _ hal fun pat => hre e pat, f1⟩
      · obtain ⟨hs1, hc1, hat1⟩ := eat_false_settled o m m1 inp i1 _ hg hp hat h1
        have hi1 : i1 ≠ [] := fun h0 => by rw [h0, eatCmp_nil_none eqCi _ hp] at hc1; cases hc1
        obtain ⟨hi, hok, hre, f2⟩ := eatChain_resume_settled o dflt alts [p] hs1 hat1 i1 e
          (fun q hq => by rw [List.mem_singleton.mp hq]; exact hc1) (fun m' i' => hd m1 i1 m' i' hs1 hi1) m' inp' h
        refine ⟨hi, hok, ?_, f2.1.trans f1.1, f2.2.1.trans f1.2.1, f2.2.2.trans f1.2.2⟩
        rw [List.singleton_append] at hre
        rw [hre]
        simp only [eatChain, eat_mono o m m1 inp i1 e _ false hg hp hat h1]
      · cases h

theorem resume_md (o : Opts) (m m' : Mach) (inp inp' e : Str)
    (hg : EatOk m) (hat : m.atEof = false)
    (h : stepMd o m inp = .suspend m' inp') :
    inp' = [] ∧ EatOk m' ∧ stepMd o m' e = stepMd o m (inp ++ e) ∧
      m'.state = m.state ∧ m'.charRef = m.charRef ∧ m'.atEof = m.atEof :=
  eatChain_resume o _ mdAlts (by decide) (List.cons_ne_nil _ _) (fun _ _ _ _ _ _ h => by cases h)
    m m' inp inp' e hg hat h

theorem resume_adn (o : Opts) (m m' : Mach) (inp inp' e : Str)
    (hg : EatOk m) (hat : m.atEof = false)
    (h : stepAdn o m inp = .suspend m' inp') :
    inp' = [] ∧ EatOk m' ∧ stepAdn o m' e = stepAdn o m (inp ++ e) ∧
      m'.state = m.state ∧ m'.charRef = m.charRef ∧ m'.atEof = m.atEof := by
  refine eatChain_resume o _ adnAlts (by decide) (List.cons_ne_nil _ _) (fun m1 i1 m' i' hs1 hi1 h => ?_)
    m m' inp inp' e hg hat h
  -- a settled machine with a character available: `get_char` cannot suspend
  cases i1 with
  | nil => exact hi1 rfl
  | cons x xs =>
    have hgc : ∃ c1 m3 i3, getChar o m1 (x :: xs) = (some c1, m3, i3) := by
      unfold getChar
      split
      · exact ⟨_, _, _, rfl⟩
      · exact ⟨_, _, _, preprocess_plain o m1 x xs hs1.1⟩
    obtain ⟨c1, m3, i3, hgc⟩ := hgc
    rw [hgc] at h
    simp only [contChar, ofSig] at h
    split at h <;> cases h

end H5V.Model.XmlTok
