import H5V.Lemmas.HtmlRTTok1
/-!
C07 round trip, tokenizer half: the five character references the serializer emits
(`&amp;` `&lt;` `&gt;` `&quot;` `&nbsp;`) against the entity table: every prefix of the name is known
to the table, the full name (with `;`) matches its value, and nothing in the table continues it.
-/
namespace H5V.Lemmas.HtmlRT
open H5V.Model.HtmlTok

theorem isPrefixOf_length {a b : List Nat} (h : isPrefixOf a b = true) : a.length ≤ b.length := by
  induction a generalizing b with
  | nil => simp
  | cons x xs ih =>
    cases b with
    | nil => simp [isPrefixOf] at h
    | cons y ys =>
      simp only [isPrefixOf, Bool.and_eq_true] at h
      have := ih h.2
      simp; omega

theorem isPrefixOf_append_left {a b l : List Nat} (h : isPrefixOf (a ++ b) l = true) : isPrefixOf a l = true := by
  induction a generalizing l with
  | nil => simp [isPrefixOf]
  | cons x xs ih =>
    cases l with
    | nil => simp [isPrefixOf] at h
    | cons y ys =>
      simp only [List.cons_append, isPrefixOf, Bool.and_eq_true] at h ⊢
      exact ⟨h.1, ih h.2⟩

theorem isPrefixOf_refl (a : List Nat) : isPrefixOf a a = true := by
  induction a with
  | nil => rfl
  | cons x xs ih => simp [isPrefixOf, ih]

/-- no row of the bucket continues `key` -/
def noExt (key : List Nat) (c0 : Nat) : Bool :=
  (Gen.Entities.bucket c0).all (fun r => !isPrefixOf key r.1 || r.1 == key)

theorem lookup_ext_none (key : List Nat) (c0 : Nat) (t : List Nat) (hk : key = c0 :: t)
    (hb : noExt key c0 = true) (x : Nat) : entityLookupN (key ++ [x]) = none := by
  have hrow : ∀ r ∈ Gen.Entities.bucket c0, isPrefixOf key r.1 = true → r.1 = key := by
    intro r hr hp
    have := List.all_eq_true.mp hb r hr
    simp only [hp, Bool.not_true, Bool.false_or, beq_iff_eq] at this
    exact this
  have hlen : ∀ r ∈ Gen.Entities.bucket c0, isPrefixOf (key ++ [x]) r.1 = false := by
    intro r hr
    cases hp : isPrefixOf (key ++ [x]) r.1 with
    | false => rfl
    | true =>
      have h1 := hrow r hr (isPrefixOf_append_left hp)
      have h2 := isPrefixOf_length hp
      rw [h1] at h2
      simp at h2
      omega
  have hk' : key ++ [x] = c0 :: (t ++ [x]) := by rw [hk]; rfl
  unfold entityLookupN
  rw [hk']
  simp only
  rw [← hk']
  have hfind : (Gen.Entities.bucket c0).find? (fun r => r.1 == (key ++ [x])) = none := by
    rw [List.find?_eq_none]
    intro r hr he
    have he' : r.1 = key ++ [x] := by simpa using he
    have := hlen r hr
    rw [he', isPrefixOf_refl] at this
    cases this
  have hany : (Gen.Entities.bucket c0).any (fun r => isPrefixOf (key ++ [x]) r.1) = false := by
    rw [List.any_eq_false]
    intro r hr
    simp [hlen r hr]
  rw [hfind, hany]
  simp

def nAmp : Str := ['a','m','p',';']
def nLt : Str := ['l','t',';']
def nGt : Str := ['g','t',';']
def nQuot : Str := ['q','u','o','t',';']
def nNbsp : Str := ['n','b','s','p',';']

/-- what the round trip needs to know about one reference `&nm` with value `v` -/
structure RefOk (nm : Str) (v : Nat) : Prop where
  ne : nm ≠ []
  alnum : ∀ c, nm.head? = some c → isAsciiAlnum c = true
  semi : nm.getLast? = some ';'
  pre : ∀ k, k < nm.length → (entityLookup (nm.take (k + 1))).isSome = true
  fold : ∀ b, nm.foldl crFeed (crNamed b) =
    { state := .named, inAttr := b, nameBuf := some nm, nameMatch := some (v, 0), nameLen := nm.length }
  none : ∀ x, entityLookup (nm ++ [x]) = none
  valid : isValidScalar v = true
  nz : Char.ofNat v ≠ '\x00'

def preOk (nm : Str) : Bool := (List.range nm.length).all (fun k => (entityLookup (nm.take (k + 1))).isSome)

def foldOk (nm : Str) (v : Nat) (b : Bool) : Bool :=
  decide (nm.foldl crFeed (crNamed b) =
    { state := .named, inAttr := b, nameBuf := some nm, nameMatch := some (v, 0), nameLen := nm.length })

theorem refOk_of (nm : Str) (v : Nat) (c0 : Char) (t : Str) (hk : nm = c0 :: t)
    (h1 : isAsciiAlnum c0 = true) (h2 : nm.getLast? = some ';') (h3 : preOk nm = true)
    (h4 : foldOk nm v true = true ∧ foldOk nm v false = true)
    (h5 : noExt (nm.map Char.toNat) c0.toNat = true) (h6 : isValidScalar v = true) (h7 : Char.ofNat v ≠ '\x00') :
    RefOk nm v where
  ne := by rw [hk]; simp
  alnum := by intro c hc; rw [hk] at hc; simp at hc; subst hc; exact h1
  semi := h2
  pre := by
    intro k hkl
    have := List.all_eq_true.mp h3 k (List.mem_range.mpr hkl)
    exact this
  fold := by
    intro b
    cases b
    · exact of_decide_eq_true h4.2
    · exact of_decide_eq_true h4.1
  none := by
    intro x
    unfold entityLookup
    rw [List.map_append]
    exact lookup_ext_none (nm.map Char.toNat) c0.toNat (t.map Char.toNat) (by rw [hk]; rfl) h5 x.toNat
  valid := h6
  nz := h7

theorem refOk_amp : RefOk nAmp 38 :=
  refOk_of nAmp 38 'a' ['m','p',';'] rfl (by decide) (by decide) (by decide +kernel)
    ⟨by decide +kernel, by decide +kernel⟩ (by decide +kernel) (by decide) (by decide)
theorem refOk_lt : RefOk nLt 60 :=
  refOk_of nLt 60 'l' ['t',';'] rfl (by decide) (by decide) (by decide +kernel)
    ⟨by decide +kernel, by decide +kernel⟩ (by decide +kernel) (by decide) (by decide)
theorem refOk_gt : RefOk nGt 62 :=
  refOk_of nGt 62 'g' ['t',';'] rfl (by decide) (by decide) (by decide +kernel)
    ⟨by decide +kernel, by decide +kernel⟩ (by decide +kernel) (by decide) (by decide)
theorem refOk_quot : RefOk nQuot 34 :=
  refOk_of nQuot 34 'q' ['u','o','t',';'] rfl (by decide) (by decide) (by decide +kernel)
    ⟨by decide +kernel, by decide +kernel⟩ (by decide +kernel) (by decide) (by decide)
theorem refOk_nbsp : RefOk nNbsp 160 :=
  refOk_of nNbsp 160 'n' ['b','s','p',';'] rfl (by decide) (by decide) (by decide +kernel)
    ⟨by decide +kernel, by decide +kernel⟩ (by decide +kernel) (by decide) (by decide)

end H5V.Lemmas.HtmlRT
