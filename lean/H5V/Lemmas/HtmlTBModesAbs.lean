import H5V.Lemmas.HtmlTBModesBase
import H5V.Lemmas.HtmlTBSpecAttrs
/-!
The abstraction of the model's full tree-builder state to the state of `H5V.Spec.TreeModes`, the
conversion of tokens, and the translation of the specification's log to `TreeSink` calls.

* `absF s x : Spec.TreeModes.State Id` — the abstract state of the model state `s`; `x : Aux` carries
  what the model does not have (node supply, logs, parse-error labels, the answers to the tokenizer,
  the list of `annotation-xml` integration points, …) and the values of fields the model forgets
  (`orig_mode` after it was taken, the pending table text after it was flushed).
* `mapP f` — change of the token type of a `PState` (`Tag ↦ ETok`): the algorithms of `Spec.TreeAlgo2`
  are natural in the token type (`H5V.Lemmas.HtmlTBModesNat`).
* `opCall tc` — the `TreeSink` call of an entry of `State.fullLog`; `flatCalls` — a call list with every
  text insertion split into single characters (so that "one `append` of `abc`" and "three insertions of
  one character" compare equal) and the `had_duplicate_attributes` flag erased.
-/
namespace H5V.Lemmas.HtmlTBModes
open H5V.Model.HtmlTB
open H5V.Model.Dom (Id SinkOp Output Dom QualName Attr NodeOrText ElementFlags NodeData QuirksMode)
open H5V.Lemmas.HtmlTBAlgo
open H5V.Lemmas.HtmlTBSpec (toAdj Plain)
open H5V.Spec.TreeAlgo2 (Elem Entry PState Ctx Edit Place)
open H5V.Spec.TreeAlgo (DocMode)
open H5V.Spec.TreeModes (STok ETok IMode Config Out TokSwitch XOp Op Step Edition)

abbrev SState := Spec.TreeModes.State Id
abbrev STag := Spec.TreeModes.Tag

/-! ### tokens -/

/-- the model's tag as the specification's tag token (attribute names: the local names) -/
def specTag (t : Tag) : STag :=
  { name := t.name, attrs := t.attrs.map (fun a => ⟨a.name.loc, a.value⟩), selfClosing := t.selfClosing }

/-- the token an element is created for: the model's tag with its (possibly adjusted) attributes -/
def etokOf (t : Tag) : ETok := { name := t.name, attrs := t.attrs.map toAdj }

/-- a tag as the tokenizer delivers it: no attribute has a prefix or a namespace -/
def PlainTag (t : Tag) : Prop := ∀ a ∈ t.attrs, Plain a

def stokOfTag (t : Tag) : STok := if t.kind == .startTag then .startTag (specTag t) else .endTag (specTag t)

/-- the standard's tokens of a token of the tree builder -/
def stoksOf : Token → List STok
  | .tag t => [stokOfTag t]
  | .comment d => [.comment d]
  | .chars _ text => text.map .character
  | .nullChar => [.character '\x00']
  | .eof => [.eof]

/-! ### scalar fields -/

def imode : Mode → IMode
  | .initial => .initial | .beforeHtml => .beforeHtml | .beforeHead => .beforeHead | .inHead => .inHead
  | .inHeadNoscript => .inHeadNoscript | .afterHead => .afterHead | .inBody => .inBody | .text => .text
  | .inTable => .inTable | .inTableText => .inTableText | .inCaption => .inCaption
  | .inColumnGroup => .inColumnGroup | .inTableBody => .inTableBody | .inRow => .inRow | .inCell => .inCell
  | .inTemplate => .inTemplate | .afterBody => .afterBody | .inFrameset => .inFrameset
  | .afterFrameset => .afterFrameset | .afterAfterBody => .afterAfterBody
  | .afterAfterFrameset => .afterAfterFrameset

/-- a left inverse of `imode` (the specification's modes the model does not have go to "in body") -/
def modeOfI : IMode → Mode
  | .initial => .initial | .beforeHtml => .beforeHtml | .beforeHead => .beforeHead | .inHead => .inHead
  | .inHeadNoscript => .inHeadNoscript | .afterHead => .afterHead | .text => .text
  | .inTable => .inTable | .inTableText => .inTableText | .inCaption => .inCaption
  | .inColumnGroup => .inColumnGroup | .inTableBody => .inTableBody | .inRow => .inRow | .inCell => .inCell
  | .inTemplate => .inTemplate | .afterBody => .afterBody | .inFrameset => .inFrameset
  | .afterFrameset => .afterFrameset | .afterAfterBody => .afterAfterBody
  | .afterAfterFrameset => .afterAfterFrameset | _ => .inBody

theorem imode_inj {a b : Mode} (h : imode a = imode b) : a = b := by
  have key : ∀ m, modeOfI (imode m) = m := fun m => by cases m <;> rfl
  rw [← key a, ← key b, h]

def dmode : QuirksMode → DocMode
  | .quirks => .quirks | .limitedQuirks => .limitedQuirks | .noQuirks => .noQuirks

def entryE : FormatEntry → Entry Id ETok
  | .marker => .marker
  | .element h t => .element h (etokOf t)

def absListE (af : List FormatEntry) : List (Entry Id ETok) := af.map entryE

/-- the pending table character tokens: the chunks of `pending_table_text`, concatenated -/
def pendingChars (l : List (SplitStatus × Str)) : Str := l.flatMap (·.2)

/-! ### change of token type -/
section MapP
variable {N T T' : Type}

def Entry.mapTok (f : T → T') : Entry N T → Entry N T'
  | .marker => .marker
  | .element n t => .element n (f t)

def Edit.mapTok (f : T → T') : Edit N T → Edit N T'
  | .create new ns tok => .create new ns (f tok)
  | .associateForm e fo pl => .associateForm e fo pl
  | .insert pl c => .insert pl c
  | .insertText pl t => .insertText pl t
  | .createComment new t => .createComment new t
  | .remove n => .remove n
  | .moveChildren a b => .moveChildren a b

def mapP (f : T → T') (st : PState N T) : PState N T' :=
  { stack := st.stack, list := st.list.map (Entry.mapTok f), fosterParenting := st.fosterParenting,
    formPointer := st.formPointer, supply := st.supply, log := st.log.map (Edit.mapTok f) }

end MapP

/-! ### the abstraction -/

/-- what the model state does not determine -/
structure Aux where
  supply : List Id := []
  log : List (Edit Id ETok) := []
  xlog : List (Nat × XOp Id) := []
  errors : List String := []
  annot : List Id := []
  out : Out Id := {}
  outs : List (Out Id) := []
  stopped : Bool := false
  /-- the original insertion mode while the model's `orig_mode` is `None` -/
  origDefault : IMode := .initial
  /-- the pending table character tokens while the insertion mode is not "in table text" -/
  pendingJunk : Str := []

/-- (after "stop parsing" the specification's stack is empty; html5ever keeps its stack until
`TokenSink::end`) -/
def absP (s : State) (x : Aux) : PState Id ETok :=
  { stack := if x.stopped then [] else absStack s.dom s.openElems, list := absListE s.activeFormatting,
    fosterParenting := s.fosterParenting, formPointer := s.formElem, supply := x.supply, log := x.log }

def absF (s : State) (x : Aux) : SState :=
  { p := absP s x
    mode := imode s.mode
    originalMode := (s.origMode.map imode).getD x.origDefault
    templateModes := s.templateModes.map imode
    headPointer := s.headElem.map (elemOf s.dom)
    framesetOk := s.framesetOk
    pendingTableChars := if s.mode == .inTableText then pendingChars s.pendingTableText else x.pendingJunk
    quirks := dmode s.quirksMode
    ignoreLf := s.ignoreLf
    annotationHtml := x.annot
    stopped := x.stopped
    xlog := x.xlog
    errors := x.errors
    out := x.out
    outs := x.outs }

/-- the configuration of the specification for a model state: what does not change during a parse -/
def cfgOf (s : State) : Config Id :=
  { document := s.docHandle
    edition := .customizableSelect
    scripting := s.opts.scriptingEnabled
    srcdoc := s.opts.iframeSrcdoc
    cannotChangeMode := false
    context := s.contextElem.map (elemOf s.dom)
    contextEncodingHtml := (s.contextElem.map (ipOfDom s.dom)).getD false }

/-- the MathML `annotation-xml` element name -/
def annotName : EName := ⟨nsMathml, "annotation-xml".toList⟩

/-- the list of integration points is right for the `annotation-xml` elements on the stack (the flag of
other elements is never looked at), and only lists elements -/
structure AuxOk (s : State) (x : Aux) : Prop where
  live : x.stopped = false
  annot : ∀ h ∈ s.openElems, nameOf s.dom h = annotName → x.annot.contains h = ipOfDom s.dom h
  annotEl : ∀ a ∈ x.annot, s.dom.isElement a = true
  /-- the tags of the extra operations are positions of the edit log, in order -/
  xlog : (x.xlog.map (·.1)).Pairwise (· ≤ ·) ∧ ∀ j ∈ x.xlog.map (·.1), j ≤ x.log.length

/-- the abstraction of `absState` (token type `Tag`) and `absP` (token type `ETok`) agree -/
theorem mapP_absState (s : State) (supply : List Id) (log : List (Edit Id Tag)) :
    mapP etokOf (absState s supply log)
      = absP s { supply := supply, log := log.map (Edit.mapTok etokOf) } := by
  simp only [mapP, absState, absP, absListE, absList, List.map_map, Bool.false_eq_true, if_false]
  congr 1
  apply List.map_congr_left
  intro e _
  cases e <;> rfl

/-! ### the log as `TreeSink` calls -/

def attrOfAdj (a : Spec.TreeAlgo.AdjAttr) : Attr := { name := { pfx := a.pfx, ns := a.ns, loc := a.loc }, value := a.value }

def tagOfETok (t : ETok) : Tag := { kind := .startTag, name := t.name, attrs := t.attrs.map attrOfAdj }

/-- the call for an edit of the specification (`tc`: template contents) -/
def editCallE (tc : Id → Id) (e : Edit Id ETok) : Call := editCall tc (Edit.mapTok tagOfETok e)

def qmodeOf : DocMode → QuirksMode
  | .quirks => .quirks | .limitedQuirks => .limitedQuirks | .noQuirks => .noQuirks

def xopCall : XOp Id → Call
  | .appendDoctype _ n p s => (.appendDoctypeToDocument n p s, .unit)
  | .addMissingAttributes e attrs =>
    (.addAttrsIfMissing e (attrs.map fun a => { name := plainName a.name, value := a.value }), .unit)
  | .setDocumentMode m => (.setQuirksMode (qmodeOf m), .unit)

def opCall (tc : Id → Id) : Op Id → Call
  | .edit e => editCallE tc e
  | .x o => xopCall o

/-- the calls the comparison looks at: the edits of `HtmlTBAlgo.isEdit` without the calls the
specification does not model (`mark_script_already_started`, declarative shadow roots, the
`selectedcontent` cloning) and without `set_quirks_mode(NoQuirks)` (which html5ever issues for every
DOCTYPE and the standard only when the mode changes) -/
def isEdit2 : SinkOp → Bool
  | .markScriptAlreadyStarted _ => false
  | .attachDeclarativeShadow _ _ _ => false
  | .maybeCloneAnOptionIntoSelectedcontent _ => false
  | .setQuirksMode .noQuirks => false
  | op => isEdit op

def edits2 (calls : List Call) : List Call := calls.filter fun c => isEdit2 c.1

theorem edits2_append (a b : List Call) : edits2 (a ++ b) = edits2 a ++ edits2 b := by simp [edits2]
@[simp] theorem edits2_nil : edits2 [] = [] := rfl

/-- a call with the `had_duplicate_attributes` flag erased, a text insertion split into characters -/
def flatCall : Call → List Call
  | (.createElement n a f, o) => [(.createElement n a { f with hadDuplicateAttributes := false }, o)]
  | (.append p (.text t), o) => t.map fun c => (.append p (.text [c]), o)
  | (.appendBasedOnParentNode e p (.text t), o) => t.map fun c => (.appendBasedOnParentNode e p (.text [c]), o)
  | (.appendBeforeSibling sib (.text t), o) => t.map fun c => (.appendBeforeSibling sib (.text [c]), o)
  | c => [c]

def flatCalls (calls : List Call) : List Call := calls.flatMap flatCall

theorem flatCalls_append (a b : List Call) : flatCalls (a ++ b) = flatCalls a ++ flatCalls b := by
  simp [flatCalls]
@[simp] theorem flatCalls_nil : flatCalls [] = [] := rfl

/-- the merged log of an `Aux` -/
def Aux.fullLog (x : Aux) : List (Op Id) := Spec.TreeModes.mergeLog x.xlog 0 x.log

theorem absF_fullLog (s : State) (x : Aux) : (absF s x).fullLog = x.fullLog := rfl

end H5V.Lemmas.HtmlTBModes
