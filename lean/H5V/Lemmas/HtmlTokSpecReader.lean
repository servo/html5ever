import H5V.Lemmas.HtmlTokSpecStepDefs
/-!
# C01 simulation — the reader: `get_char`, `pop_except_from`, the data state's read against
"consume the next input character" of the newline-normalised input
-/
set_option linter.unusedSimpArgs false
namespace H5V.Lemmas.HtmlTokSpec
open H5V.Model.HtmlTok
open H5V.Spec.HtmlTokenizer (St Tok Emit Tree Switch Ctl ReturnSt normalizeNewlinesFrom normalizeNewlines)

/-! ## `get_preprocessed_char` without `exact_errors` -/

theorem foldChar_eq (o : Opts) (ho : o.exactErrors = false) (m : Mach) (c : Char) :
    foldChar o m c = (foldCh c, readerUpd m (m.ignoreLf || decide (c = '\r')) m.reconsume
      (if foldCh c = '\n' then m.line + 1 else m.line) (foldCh c)) := by
  unfold foldChar foldCh readerUpd
  by_cases h1 : c = '\r'
  · subst h1
    simp [ho, Mach.setIgnoreLf, Mach.bumpLine, Mach.setCurrentChar]
  · by_cases h2 : c = '\n'
    · subst h2
      simp [ho, Mach.setIgnoreLf, Mach.bumpLine, Mach.setCurrentChar]
    · simp [ho, h1, h2, Mach.setIgnoreLf, Mach.bumpLine, Mach.setCurrentChar]

/-- the result of a read: the character, the rest of the specification's input, and the machine,
which differs from the old one only in the reader's registers -/
structure ReadOk (m : Mach) (rest : Str) (c : Char) (m1 : Mach) (inp1 : Str) : Prop where
  rest_eq : rest = c :: normalizeNewlinesFrom m1.ignoreLf inp1
  upd : m1 = readerUpd m m1.ignoreLf false m1.line c

theorem preprocess_rel (o : Opts) (ho : o.exactErrors = false) (m : Mach) (c0 : Char) (inp0 : Str)
    (hr : m.reconsume = false) (c : Char) (m1 : Mach) (inp1 : Str)
    (h : preprocess o m c0 inp0 = (some c, m1, inp1)) :
    ReadOk m (normalizeNewlinesFrom m.ignoreLf (c0 :: inp0)) c m1 inp1 := by
  unfold preprocess at h
  by_cases hil : m.ignoreLf = true
  · simp only [hil, if_true] at h
    by_cases hc : c0 = '\n'
    · subst hc
      simp only [if_true] at h
      cases inp0 with
      | nil => simp at h
      | cons c' r =>
        simp only [foldChar_eq o ho, Prod.mk.injEq, Option.some.injEq] at h
        obtain ⟨h1, h2, h3⟩ := h
        subst h1 h2 h3
        refine ⟨?_, ?_⟩
        · rw [hil, norm_lf_true, norm_fold false c' r (by simp)]
          simp [readerUpd, Mach.setIgnoreLf]
        · simp [readerUpd, Mach.setIgnoreLf, hr]
    · simp only [hc, if_false, foldChar_eq o ho, Prod.mk.injEq, Option.some.injEq] at h
      obtain ⟨h1, h2, h3⟩ := h
      subst h1 h2 h3
      refine ⟨?_, ?_⟩
      · rw [hil, norm_fold true c0 inp0 (by simp [hc])]
        simp [readerUpd, Mach.setIgnoreLf]
      · simp [readerUpd, Mach.setIgnoreLf, hr]
  · have hil' : m.ignoreLf = false := by simpa using hil
    simp only [hil', Bool.false_eq_true, if_false, foldChar_eq o ho, Prod.mk.injEq, Option.some.injEq] at h
    obtain ⟨h1, h2, h3⟩ := h
    subst h1 h2 h3
    refine ⟨?_, ?_⟩
    · rw [hil', norm_fold false c0 inp0 (by simp)]
      simp [readerUpd, hil']
    · simp [readerUpd, hr, hil']

/-- **`get_char` against "consume the next input character"** (no stash) -/
theorem getChar_rel (o : Opts) (ho : o.exactErrors = false) (m : Mach) (inp : Str) (c : Char) (m1 : Mach)
    (inp1 : Str) (hg : getChar o m inp = (some c, m1, inp1)) (hst : stash m = []) (rest : Str)
    (hin : InpRel m inp rest) : ReadOk m rest c m1 inp1 := by
  unfold InpRel at hin
  rw [hst, List.nil_append] at hin
  unfold getChar at hg
  by_cases hr : m.reconsume = true
  · simp only [hr, if_true, Prod.mk.injEq, Option.some.injEq] at hg
    obtain ⟨h1, h2, h3⟩ := hg
    subst h1 h2 h3
    refine ⟨?_, ?_⟩
    · rw [hin]; simp [rc, hr, Mach.setReconsume]
    · cases m; simp [readerUpd, Mach.setReconsume]
  · have hr' : m.reconsume = false := by simpa using hr
    simp only [hr', Bool.false_eq_true, if_false] at hg
    cases inp with
    | nil => simp at hg
    | cons c0 inp0 =>
      simp only at hg
      have := preprocess_rel o ho m c0 inp0 hr' c m1 inp1 hg
      rw [hin]
      simpa [rc, hr'] using this

/-- `get_char` finds nothing: the specification's input is exhausted too -/
theorem getChar_none_rel (o : Opts) (m : Mach) (inp : Str) (m1 : Mach) (inp1 : Str)
    (hg : getChar o m inp = (none, m1, inp1)) (hst : stash m = []) (rest : Str)
    (hin : InpRel m inp rest) :
    rest = [] ∧ inp1 = [] ∧ m1.reconsume = false ∧ stash m1 = [] ∧ InpRel m1 inp1 rest ∧
      ∃ il, m1 = readerUpd m il false m.line m.currentChar := by
  unfold InpRel at hin
  rw [hst, List.nil_append] at hin
  unfold getChar at hg
  by_cases hr : m.reconsume = true
  · simp [hr] at hg
  · have hr' : m.reconsume = false := by simpa using hr
    simp only [hr', Bool.false_eq_true, if_false] at hg
    cases inp with
    | nil =>
      simp only [Prod.mk.injEq, true_and] at hg
      obtain ⟨h1, h2⟩ := hg
      subst h1 h2
      refine ⟨by rw [hin]; simp [rc, hr', norm_nil], rfl, hr', hst, ?_, m.ignoreLf, ?_⟩
      · unfold InpRel; rw [hst, hin]; rfl
      · cases m; simp [readerUpd] at hr' ⊢; exact hr'
    | cons c0 inp0 =>
      simp only at hg
      unfold preprocess at hg
      by_cases hil : m.ignoreLf = true
      · simp only [hil, if_true] at hg
        by_cases hc : c0 = '\n'
        · subst hc
          simp only [if_true] at hg
          cases inp0 with
          | nil =>
            simp only [Prod.mk.injEq, true_and] at hg
            obtain ⟨h1, h2⟩ := hg
            subst h1 h2
            have hst' : stash (m.setIgnoreLf false) = [] := by
              rw [stash_congr (m := m) (m' := m.setIgnoreLf false) rfl rfl rfl]; exact hst
            refine ⟨by rw [hin]; simp [rc, hr', hil, norm_lf_true, norm_nil], rfl, hr', hst', ?_, false, ?_⟩
            · unfold InpRel; rw [hst', hin]
              simp [rc, hr', hil, norm_lf_true, norm_nil, Mach.setIgnoreLf]
            · cases m; simp [readerUpd, Mach.setIgnoreLf] at hr' ⊢; exact hr'
          | cons c' r => simp at hg
        · simp [hc] at hg
      · have hil' : m.ignoreLf = false := by simpa using hil
        simp [hil'] at hg

/-! ## `pop_except_from` and the data state's read -/

/-- result of a bulk read: a character of the set read like `get_char`, or a one-character run of
plain text (fast path: no pending `reconsume`/`ignore_lf`) -/
def SetReadOk (S : List Char) (m : Mach) (inp : Str) (rest : Str) (r : SetRes) (m1 : Mach) (inp1 : Str) : Prop :=
  (∃ c, r = .fromSet c ∧ ReadOk m rest c m1 inp1) ∨
  (∃ c, r = .notFromSet [c] ∧ c ∉ S ∧ m.reconsume = false ∧ m.ignoreLf = false ∧ m1 = m ∧ inp = c :: inp1 ∧
    rest = c :: normalizeNewlinesFrom false inp1)

theorem popExceptFrom_rel (o : Opts) (ho : o.exactErrors = false) (S : List Char)
    (hS : '\r' ∈ S ∧ '\n' ∈ S) (m : Mach) (inp : Str) (r : SetRes) (m1 : Mach) (inp1 : Str)
    (h : popExceptFrom o S m inp = (some r, m1, inp1)) (hst : stash m = []) (rest : Str)
    (hin : InpRel m inp rest) : SetReadOk S m inp rest r m1 inp1 := by
  unfold popExceptFrom at h
  by_cases hslow : (o.exactErrors || m.reconsume || m.ignoreLf) = true
  · simp only [hslow, if_true] at h
    cases hg : getChar o m inp with
    | mk oc rest2 =>
      obtain ⟨m2, i2⟩ := rest2
      rw [hg] at h
      cases oc with
      | none => simp at h
      | some c =>
        simp only [Option.map_some, Prod.mk.injEq, Option.some.injEq] at h
        obtain ⟨h1, h2, h3⟩ := h
        subst h1 h2 h3
        exact Or.inl ⟨c, rfl, getChar_rel o ho m inp c m2 i2 hg hst rest hin⟩
  · simp only [hslow, Bool.false_eq_true, if_false] at h
    simp only [ho, Bool.false_or, Bool.or_eq_true, not_or, Bool.not_eq_true] at hslow
    obtain ⟨hr, hil⟩ := hslow
    cases inp with
    | nil => simp at h
    | cons c0 inp0 =>
      simp only at h
      by_cases hc : S.contains c0 = true
      · simp only [hc, if_true] at h
        cases hp : preprocess o m c0 inp0 with
        | mk oc rest2 =>
          obtain ⟨m2, i2⟩ := rest2
          rw [hp] at h
          cases oc with
          | none => simp at h
          | some c =>
            simp only [Option.map_some, Prod.mk.injEq, Option.some.injEq] at h
            obtain ⟨h1, h2, h3⟩ := h
            subst h1 h2 h3
            have := preprocess_rel o ho m c0 inp0 hr c m2 i2 hp
            unfold InpRel at hin
            rw [hst, List.nil_append] at hin
            refine Or.inl ⟨c, rfl, ?_⟩
            rw [hin]; simpa [rc, hr] using this
      · simp only [hc, Bool.false_eq_true, if_false, Prod.mk.injEq, Option.some.injEq] at h
        obtain ⟨h1, h2, h3⟩ := h
        subst h1 h2 h3
        have hnot : c0 ∉ S := by simpa using hc
        have h1 : c0 ≠ '\r' := fun e => hnot (e ▸ hS.1)
        have h2 : c0 ≠ '\n' := fun e => hnot (e ▸ hS.2)
        unfold InpRel at hin
        rw [hst, List.nil_append] at hin
        refine Or.inr ⟨c0, rfl, hnot, hr, hil, rfl, rfl, ?_⟩
        rw [hin, hil, norm_other false c0 inp0 h1 h2]
        simp [rc, hr]

theorem readData_rel (o : Opts) (ho : o.exactErrors = false) (m : Mach) (inp : Str) (r : SetRes) (m1 : Mach)
    (inp1 : Str) (h : readData o m inp = (some r, m1, inp1)) (hst : stash m = []) (rest : Str)
    (hin : InpRel m inp rest) : SetReadOk (setOf .data) m inp rest r m1 inp1 := by
  have hS : '\r' ∈ setOf .data ∧ '\n' ∈ setOf .data := by decide
  unfold readData at h
  by_cases hslow : (o.exactErrors || m.reconsume || m.ignoreLf) = true
  · simp only [hslow, if_true] at h
    exact popExceptFrom_rel o ho _ hS m inp r m1 inp1 h hst rest hin
  · simp only [hslow, Bool.false_eq_true, if_false] at h
    simp only [ho, Bool.false_or, Bool.or_eq_true, not_or, Bool.not_eq_true] at hslow
    obtain ⟨hr, hil⟩ := hslow
    cases inp with
    | nil => simp at h
    | cons c0 inp0 =>
      simp only at h
      by_cases hc : simdFirst.contains c0 = true
      · simp only [hc, if_true] at h
        exact popExceptFrom_rel o ho _ hS m (c0 :: inp0) r m1 inp1 h hst rest hin
      · simp only [hc, Bool.false_eq_true, if_false, Prod.mk.injEq, Option.some.injEq] at h
        obtain ⟨h1, h2, h3⟩ := h
        have hnot : c0 ∉ setOf .data := by
          have : c0 ∉ simdFirst := by simpa using hc
          exact this
        have hn1 : c0 ≠ '\r' := fun e => hnot (e ▸ hS.1)
        have hn2 : c0 ≠ '\n' := fun e => hnot (e ▸ hS.2)
        simp only [hn2, if_false] at h2
        subst h1 h2 h3
        unfold InpRel at hin
        rw [hst, List.nil_append] at hin
        refine Or.inr ⟨c0, rfl, hnot, hr, hil, rfl, rfl, ?_⟩
        rw [hin, hil, norm_other false c0 inp0 hn1 hn2]
        simp [rc, hr]

/-- a bulk read finds nothing: like `get_char` -/
theorem popExceptFrom_none_rel (o : Opts) (S : List Char) (m : Mach) (inp : Str) (m1 : Mach) (inp1 : Str)
    (h : popExceptFrom o S m inp = (none, m1, inp1)) (hst : stash m = []) (rest : Str)
    (hin : InpRel m inp rest) :
    rest = [] ∧ inp1 = [] ∧ m1.reconsume = false ∧ stash m1 = [] ∧ InpRel m1 inp1 rest ∧
      ∃ il, m1 = readerUpd m il false m.line m.currentChar := by
  unfold popExceptFrom at h
  by_cases hslow : (o.exactErrors || m.reconsume || m.ignoreLf) = true
  · simp only [hslow, if_true] at h
    cases hg : getChar o m inp with
    | mk oc rest2 =>
      obtain ⟨m2, i2⟩ := rest2
      rw [hg] at h
      cases oc with
      | some c => simp at h
      | none =>
        simp only [Option.map_none, Prod.mk.injEq, true_and] at h
        obtain ⟨h2, h3⟩ := h
        subst h2 h3
        exact getChar_none_rel o m inp m2 i2 hg hst rest hin
  · simp only [hslow, Bool.false_eq_true, if_false] at h
    simp only [Bool.or_eq_true, not_or, Bool.not_eq_true] at hslow
    obtain ⟨⟨_, hr⟩, hil⟩ := hslow
    cases inp with
    | nil =>
      simp only [Prod.mk.injEq, true_and] at h
      obtain ⟨h2, h3⟩ := h
      subst h2 h3
      unfold InpRel at hin ⊢
      rw [hst, List.nil_append] at hin
      refine ⟨by rw [hin]; simp [rc, hr, norm_nil], rfl, hr, hst, by rw [hst, hin]; rfl, m.ignoreLf, ?_⟩
      cases m; simp [readerUpd] at hr ⊢; exact hr
    | cons c0 inp0 =>
      simp only at h
      by_cases hc : S.contains c0 = true
      · simp only [hc, if_true] at h
        have hnone : (preprocess o m c0 inp0).1 = none := by
          cases hp : (preprocess o m c0 inp0).1 with
          | none => rfl
          | some c => rw [hp] at h; simp at h
        unfold preprocess at hnone
        simp [hil] at hnone
      · have hc' : c0 ∉ S := by simpa using hc
        simp [hc'] at h

theorem readData_none_rel (o : Opts) (m : Mach) (inp : Str) (m1 : Mach) (inp1 : Str)
    (h : readData o m inp = (none, m1, inp1)) (hst : stash m = []) (rest : Str)
    (hin : InpRel m inp rest) :
    rest = [] ∧ inp1 = [] ∧ m1.reconsume = false ∧ stash m1 = [] ∧ InpRel m1 inp1 rest ∧
      ∃ il, m1 = readerUpd m il false m.line m.currentChar := by
  unfold readData at h
  by_cases hslow : (o.exactErrors || m.reconsume || m.ignoreLf) = true
  · simp only [hslow, if_true] at h
    exact popExceptFrom_none_rel o _ m inp m1 inp1 h hst rest hin
  · simp only [hslow, Bool.false_eq_true, if_false] at h
    cases inp with
    | nil =>
      have : popExceptFrom o (setOf .data) m [] = (none, m1, inp1) := by
        unfold popExceptFrom; simp only [hslow, Bool.false_eq_true, if_false]; exact h
      exact popExceptFrom_none_rel o _ m [] m1 inp1 this hst rest hin
    | cons c0 inp0 =>
      simp only at h
      by_cases hc : simdFirst.contains c0 = true
      · simp only [hc, if_true] at h
        exact popExceptFrom_none_rel o _ m (c0 :: inp0) m1 inp1 h hst rest hin
      · have hc' : c0 ∉ simdFirst := by simpa using hc
        simp [hc'] at h

end H5V.Lemmas.HtmlTokSpec
