import H5V.Lemmas.HtmlTBSpecQuirksTables
/-!
(a) the DOCTYPE → quirks-mode decision: the model's transcription of `data.rs:
doctype_error_and_quirks` equals `Spec.TreeAlgo.quirksMode` for every doctype token.
-/
namespace H5V.Lemmas.HtmlTBSpec
open H5V.Model.HtmlTB
open H5V.Model.Dom (QuirksMode)
open H5V.Lemmas.HtmlTBTables

theorem containsPfx_any (l : List String) (p : Str) : containsPfx l p = l.any (fun x => x.toList.isPrefixOf p) := rfl

theorem getElem?_of_isPrefixOf {a p : Str} {i : Nat} {c : Char} (h : a.isPrefixOf p = true) (hc : a[i]? = some c) :
    p[i]? = some c := by
  obtain ⟨t, rfl⟩ := List.isPrefixOf_iff_prefix.mp h
  rw [List.getElem?_append_left (List.getElem?_eq_some_iff.mp hc).1]; exact hc

/-- no public identifier starts with both an XHTML 1.0 prefix and an HTML 4.01 prefix: their 13th
characters are `x` and `h` -/
theorem limited_html4_disjoint (p : Str) :
    ¬ (containsPfx limitedQuirkyPublicPrefixes p = true ∧ containsPfx html4PublicPrefixes p = true) := by
  have hx : ∀ a ∈ limitedQuirkyPublicPrefixes, a.toList[12]? = some 'x' := by decide +kernel
  have hh : ∀ b ∈ html4PublicPrefixes, b.toList[12]? = some 'h' := by decide +kernel
  rintro ⟨h1, h2⟩
  simp only [containsPfx, List.any_eq_true] at h1 h2
  obtain ⟨a, ha, hap⟩ := h1
  obtain ⟨b, hb, hbp⟩ := h2
  have := (getElem?_of_isPrefixOf hap (hx a ha)).symm.trans (getElem?_of_isPrefixOf hbp (hh b hb))
  exact absurd this (by decide)

theorem containsPfx_quirky (p : Str) :
    containsPfx quirkyPublicPrefixes (p.map asciiLower)
      = Spec.TreeTables.quirksPublicPrefixes.any (Spec.TreeAlgo.startsWithCI p) := by
  rw [containsPfx_any, any_of_sameSet quirks_prefixes_sameSet, ← quirks_prefixes_lower, ← containsPfx_any,
    containsPfx_lower]

/-- the code's sequential tests against the standard's two lists, on the outcomes of the table
look-ups (`A`, `B`: public / system identifier listed; `C`, `L`, `H`: a quirks / XHTML 1.0 / HTML 4.01
prefix matches) -/
theorem quirks_cases (A B C L H sysSome : Bool) (hdis : ¬ (L = true ∧ H = true)) :
    (if A then .quirks else if B then .quirks else if C then .quirks else if L then .limitedQuirks
      else if H then (if sysSome then .limitedQuirks else .quirks) else .noQuirks : QuirksMode)
      = toQuirks (if A || B || C || (!sysSome && H) then .quirks
          else if L || (sysSome && H) then .limitedQuirks else .noQuirks) := by
  revert A B C L H sysSome; decide

/-- **(a)** for every DOCTYPE token and both values of the iframe-srcdoc flag, the quirks mode the
model (= `data.rs: doctype_error_and_quirks`) computes is the one the standard prescribes -/
theorem quirks_mode_eq_spec (d : Doctype) (srcdoc : Bool) :
    (doctypeErrorAndQuirks d srcdoc).2
      = toQuirks (Spec.TreeAlgo.quirksMode d.name d.publicId d.systemId d.forceQuirks srcdoc) := by
  obtain ⟨hpm, hsm, hlq, hh4⟩ := quirks_tables_eq
  cases srcdoc with
  | true => simp [doctypeErrorAndQuirks, Spec.TreeAlgo.quirksMode, toQuirks]
  | false =>
    simp only [doctypeErrorAndQuirks, Spec.TreeAlgo.quirksMode, Spec.TreeAlgo.quirksCondition,
      Spec.TreeAlgo.limitedQuirksCondition, Bool.false_eq_true, if_false, Bool.not_false, Bool.true_and]
    cases hfq : d.forceQuirks with
    | true => simp [toQuirks]
    | false =>
      by_cases hname : d.name = some "html".toList
      · have hn1 : (d.name != some "html".toList) = false := by simp [hname]
        simp only [hn1, Bool.false_or, Bool.false_eq_true, if_false]
        cases hpub : d.publicId with
        | none =>
          cases hsys : d.systemId with
          | none => simp [toQuirks]
          | some sy =>
            simp only [Option.map_some, Option.map_none, hsm, listContains_lower, Bool.false_or, Bool.or_false,
              Option.isNone_some, Option.isSome_some, Bool.and_false]
            cases Spec.TreeTables.quirksSystemIds.any (Spec.TreeAlgo.eqCI sy) <;> simp [toQuirks]
        | some p =>
          have hdis := limited_html4_disjoint (p.map asciiLower)
          rw [hlq, hh4, containsPfx_lower, containsPfx_lower] at hdis
          simp only [Option.map_some, hpm, hsm, hlq, hh4, listContains_lower, containsPfx_lower, containsPfx_quirky]
          cases d.systemId with
          | none => exact quirks_cases _ false _ _ _ false hdis
          | some sy =>
            simp only [Option.map_some, listContains_lower]
            exact quirks_cases _ _ _ _ _ true hdis
      · have hname' : ¬ d.name = some ['h', 't', 'm', 'l'] := by
          intro h; exact hname (by rw [h]; rfl)
        simp [hname', toQuirks]

/-- non-vacuity: the three outcomes occur, and srcdoc wins over force-quirks -/
example : Spec.TreeAlgo.quirksMode (some "html".toList) none none false false = .noQuirks := by decide +kernel
example : Spec.TreeAlgo.quirksMode (some "html".toList) (some "-//W3C//DTD HTML 4.01 Transitional//EN".toList) none false false
    = .quirks := by
  -- an HTML 4.01 prefix without a system identifier
  have h : Spec.TreeTables.html401PublicPrefixes.any
      (Spec.TreeAlgo.startsWithCI "-//W3C//DTD HTML 4.01 Transitional//EN".toList) = true := by decide +kernel
  simp only [Spec.TreeAlgo.quirksMode, Spec.TreeAlgo.quirksCondition, h, Option.isNone_none, Bool.and_self, Bool.or_true,
    Bool.not_false, if_true]
example : Spec.TreeAlgo.quirksMode (some "html".toList) (some "-//w3c//dtd html 4.01 TRANSITIONAL//EN".toList)
    (some []) false false = .limitedQuirks := by decide +kernel
example : Spec.TreeAlgo.quirksMode (some "foo".toList) none none true true = .noQuirks := by decide +kernel

end H5V.Lemmas.HtmlTBSpec
