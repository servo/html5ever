import H5V.Lemmas.HtmlTBModesPrimIns
/-!
Simulation lemmas for the insertion of FOREIGN elements: `insert_element` with the adjusted attributes
against `Spec.TreeModes.insertForeign`, `enter_foreign`, `foreign_start_tag`.
-/
namespace H5V.Lemmas.HtmlTBModes
open H5V.Model.HtmlTB
open H5V.Model.Dom (Id SinkOp Output Dom QualName Attr NodeOrText ElementFlags NodeData QuirksMode)
open H5V.Lemmas.HtmlTBAlgo
open H5V.Lemmas.Dom
open H5V.Lemmas.HtmlTBSpec (toAdj Plain toName adj1)
open H5V.Lemmas.TBSafe (TI HInv SInv Rooted)
open H5V.Spec.TreeAlgo2 (Elem Entry PState Ctx Edit Place)
open H5V.Spec.TreeAlgo (ForeignKind)
open H5V.Spec.TreeModes (STok ETok IMode Config Out TokSwitch XOp Op Step Edition)

/-! ### the adjusted tag -/

/-- the tag after "adjust MathML / SVG attributes" and "adjust foreign attributes" -/
def adjTag (kind : ForeignKind) (t : Tag) : Tag :=
  adjustForeignAttributes (match kind with
    | .mathml => adjustMathmlAttributes t | .svg => adjustSvgAttributes t | .other => t)

@[simp] theorem adjTag_name (kind : ForeignKind) (t : Tag) : (adjTag kind t).name = t.name := by cases kind <;> rfl
@[simp] theorem adjTag_hadDup (kind : ForeignKind) (t : Tag) : (adjTag kind t).hadDup = t.hadDup := by cases kind <;> rfl
@[simp] theorem adjTag_selfClosing (kind : ForeignKind) (t : Tag) : (adjTag kind t).selfClosing = t.selfClosing := by
  cases kind <;> rfl

/-- the element token of the adjusted model tag is the specification's adjusted element token -/
theorem etokOf_adjTag (kind : ForeignKind) {t : Tag} (hp : PlainTag t) :
    etokOf (adjTag kind t) = Spec.TreeModes.Tag.etokForeign kind (specTag t) := by
  simp only [etokOf, Spec.TreeModes.Tag.etokForeign, adjTag_name, specTag_name]
  congr 1
  have := H5V.Lemmas.HtmlTBSpec.adjust_attributes_eq_spec kind t hp
  have e : (specTag t).attrs.map (fun a => (a.name, a.value)) = t.attrs.map (fun a => (a.name.loc, a.value)) := by
    simp only [specTag, List.map_map]; rfl
  rw [e]
  cases kind <;> exact this

/-! ### the `encoding` attribute survives the adjustments -/

theorem lower_eq : asciiLower = Spec.TreeAlgo.lower := rfl

theorem eqIgnoreAsciiCase_eq (v : Str) (b : String) : eqIgnoreAsciiCase v b.toList = Spec.TreeAlgo.eqCI v b := rfl

/-- no adjusted name is `encoding`, `encoding` is not adjusted -/
theorem tables_encoding :
    Spec.TreeTables.mathmlAttrNames.all (fun r => r.1 != "encoding" && r.2 != "encoding") = true ∧
    Spec.TreeTables.svgAttrNames.all (fun r => r.1 != "encoding" && r.2 != "encoding") = true ∧
    Spec.TreeTables.foreignAttrs.all (fun r => r.1 != "encoding" && Spec.TreeAlgo.nsUrl r.2.2.2 != []) = true := by
  decide +kernel

theorem toList_ne {a b : String} (h : a ≠ b) : a.toList ≠ b.toList := fun e => h (String.toList_inj.mp e)

theorem lookup_encoding (tbl : List (String × String))
    (h : tbl.all (fun r => r.1 != "encoding" && r.2 != "encoding") = true) (n : Str) :
    ((((Spec.TreeAlgo.lookup2 tbl n).map String.toList).getD n) == "encoding".toList) = (n == "encoding".toList) := by
  unfold Spec.TreeAlgo.lookup2
  cases hf : tbl.find? (fun r => r.1.toList == n) with
  | none => rfl
  | some r =>
    have hmem := List.mem_of_find?_eq_some hf
    have hp := List.find?_some hf
    have := List.all_eq_true.mp h r hmem
    simp only [Bool.and_eq_true, bne_iff_ne, ne_eq] at this
    simp only [beq_iff_eq] at hp
    simp only [Option.map_some, Option.getD_some]
    rw [← hp]
    rw [beq_eq_false_iff_ne.mpr (toList_ne this.1), beq_eq_false_iff_ne.mpr (toList_ne this.2)]

theorem adjustName1_encoding (kind : ForeignKind) (n : Str) :
    (Spec.TreeAlgo.adjustName1 kind n == "encoding".toList) = (n == "encoding".toList) := by
  cases kind with
  | mathml => exact lookup_encoding _ tables_encoding.1 n
  | svg => exact lookup_encoding _ tables_encoding.2.1 n
  | other => rfl

theorem adjustForeign1_encoding (m v : Str) :
    ((Spec.TreeAlgo.adjustForeign1 m v).ns == [] && (Spec.TreeAlgo.adjustForeign1 m v).loc == "encoding".toList)
      = (m == "encoding".toList) ∧ (Spec.TreeAlgo.adjustForeign1 m v).value = v := by
  unfold Spec.TreeAlgo.adjustForeign1
  cases hf : Spec.TreeTables.foreignAttrs.find? (fun r => r.1.toList == m) with
  | none => exact ⟨by simp, rfl⟩
  | some r =>
    have hmem := List.mem_of_find?_eq_some hf
    have hp := List.find?_some hf
    have := List.all_eq_true.mp tables_encoding.2.2 r hmem
    simp only [Bool.and_eq_true, bne_iff_ne, ne_eq] at this
    simp only [beq_iff_eq] at hp
    refine ⟨?_, rfl⟩
    simp only []
    rw [← hp, beq_eq_false_iff_ne.mpr (toList_ne this.1), beq_eq_false_iff_ne.mpr this.2]
    rfl

/-- the test "is the `encoding` attribute" on an adjusted attribute -/
theorem adjusted_encoding (kind : ForeignKind) (n v : Str) :
    ((Spec.TreeAlgo.adjustForeign1 (Spec.TreeAlgo.adjustName1 kind n) v).ns == [] &&
      (Spec.TreeAlgo.adjustForeign1 (Spec.TreeAlgo.adjustName1 kind n) v).loc == "encoding".toList)
      = (n == "encoding".toList) ∧
    (Spec.TreeAlgo.adjustForeign1 (Spec.TreeAlgo.adjustName1 kind n) v).value = v := by
  obtain ⟨h1, h2⟩ := adjustForeign1_encoding (Spec.TreeAlgo.adjustName1 kind n) v
  exact ⟨by rw [h1, adjustName1_encoding], h2⟩

/-! ### the integration-point flag of `create_element_with_flags` and of `insertForeign` -/

/-- the test of `Spec.TreeModes.insertForeign`: a MathML `annotation-xml` start tag whose `encoding`
attribute is an ASCII case-insensitive match for `text/html` / `application/xhtml+xml` -/
def specAnnotIp (ns : Str) (t : STag) : Bool :=
  ns == Spec.TreeAlgo.nsMathml && t.is "annotation-xml" &&
    (match t.attr? "encoding" with
     | some v => Spec.TreeAlgo.eqCI v "text/html" || Spec.TreeAlgo.eqCI v "application/xhtml+xml"
     | none => false)

theorem any_of_find_none {l : List Attr} {p q : Attr → Bool} (h : l.find? p = none) :
    l.any (fun a => p a && q a) = false := by
  rw [List.find?_eq_none] at h
  rw [List.any_eq_false]
  intro a ha
  have := h a ha
  simp [this]

theorem any_of_find_some {c : Str} {q : Attr → Bool} : ∀ {l : List Attr} {a : Attr},
    (l.map (·.name.loc)).Nodup → l.find? (fun a => a.name.loc == c) = some a →
    l.any (fun a => a.name.loc == c && q a) = q a := by
  intro l
  induction l with
  | nil => intro a _ h; cases h
  | cons b r ih =>
    intro a hnd h
    simp only [List.map_cons, List.nodup_cons] at hnd
    simp only [List.find?_cons] at h
    by_cases hb : (b.name.loc == c) = true
    · simp only [hb, Option.some.injEq] at h
      subst h
      have hr : r.any (fun a => a.name.loc == c && q a) = false := by
        rw [List.any_eq_false]
        intro x hx
        have hne : ¬ (x.name.loc == c) = true := by
          intro hxc
          simp only [beq_iff_eq] at hxc hb
          exact hnd.1 (List.mem_map.mpr ⟨x, hx, by rw [hxc, hb]⟩)
        simp [hne]
      simp only [List.any_cons, hb, Bool.true_and, hr, Bool.or_false]
    · have hb' : (b.name.loc == c) = false := by simpa using hb
      simp only [hb'] at h
      simp only [List.any_cons, hb', Bool.false_and, Bool.false_or]
      exact ih hnd.2 h

/-- **the flag `mathml_annotation_xml_integration_point` html5ever computes for the adjusted tag is the
one the specification remembers** (for tags without duplicate attribute names) -/
theorem flags_adjTag (kind : ForeignKind) {t : Tag} (hp : PlainTag t) (hnd : (t.attrs.map (·.name.loc)).Nodup) (ns : Str) :
    (flagsFor { pfx := none, ns := ns, loc := (adjTag kind t).name } (adjTag kind t).attrs (adjTag kind t).hadDup).mathmlIP
      = specAnnotIp ns (specTag t) := by
  unfold flagsFor specAnnotIp
  simp only [adjTag_name, isName_eq, Spec.TreeModes.Tag.is, strIs_eq, specTag_name]
  by_cases hc : (ns == nsMathml && decide (t.name = "annotation-xml".toList)) = true
  · have hc' : (ns == Spec.TreeAlgo.nsMathml && decide (t.name = "annotation-xml".toList)) = true := hc
    simp only [hc, hc', if_true, Bool.true_and]
    -- the model's test only looks at `toAdj` of the adjusted attributes
    have h1 : (adjTag kind t).attrs.any (fun a => a.name.ns == [] && decide (a.name.loc = "encoding".toList) &&
          (eqIgnoreAsciiCase a.value "text/html".toList || eqIgnoreAsciiCase a.value "application/xhtml+xml".toList))
        = ((adjTag kind t).attrs.map toAdj).any (fun a => a.ns == [] && a.loc == "encoding".toList &&
          (Spec.TreeAlgo.eqCI a.value "text/html" || Spec.TreeAlgo.eqCI a.value "application/xhtml+xml")) := by
      rw [List.any_map]
      apply H5V.Lemmas.HtmlTBSpec.any_congr_mem
      intro a _
      show (a.name.ns == [] && decide (a.name.loc = "encoding".toList) &&
          (eqIgnoreAsciiCase a.value "text/html".toList || eqIgnoreAsciiCase a.value "application/xhtml+xml".toList))
        = (a.name.ns == [] && (a.name.loc == "encoding".toList) &&
          (Spec.TreeAlgo.eqCI a.value "text/html" || Spec.TreeAlgo.eqCI a.value "application/xhtml+xml"))
      rw [eqIgnoreAsciiCase_eq, eqIgnoreAsciiCase_eq, beq_str a.name.loc]
    rw [h1]
    have h2 : (adjTag kind t).attrs.map toAdj
        = t.attrs.map (fun a => Spec.TreeAlgo.adjustForeign1 (Spec.TreeAlgo.adjustName1 kind a.name.loc) a.value) := by
      have := H5V.Lemmas.HtmlTBSpec.adjust_attributes_eq_spec kind t hp
      simp only [Spec.TreeAlgo.adjustAttributes, List.map_map] at this
      cases kind <;> exact this
    rw [h2, List.any_map]
    have h3 : t.attrs.any ((fun a : Spec.TreeAlgo.AdjAttr => a.ns == [] && a.loc == "encoding".toList &&
          (Spec.TreeAlgo.eqCI a.value "text/html" || Spec.TreeAlgo.eqCI a.value "application/xhtml+xml")) ∘
          fun a => Spec.TreeAlgo.adjustForeign1 (Spec.TreeAlgo.adjustName1 kind a.name.loc) a.value)
        = t.attrs.any (fun a => a.name.loc == "encoding".toList &&
          (Spec.TreeAlgo.eqCI a.value "text/html" || Spec.TreeAlgo.eqCI a.value "application/xhtml+xml")) := by
      apply H5V.Lemmas.HtmlTBSpec.any_congr_mem
      intro a _
      obtain ⟨e1, e2⟩ := adjusted_encoding kind a.name.loc a.value
      simp only [Function.comp, e1, e2]
    rw [h3]
    have h4 : (specTag t).attr? "encoding"
        = (t.attrs.find? (fun a => a.name.loc == "encoding".toList)).map (·.value) := by
      simp only [Spec.TreeModes.Tag.attr?, specTag, List.find?_map, Option.map_map]
      rfl
    rw [h4]
    cases hf : t.attrs.find? (fun a => a.name.loc == "encoding".toList) with
    | none => simp only [Option.map_none]; exact any_of_find_none hf
    | some a => simp only [Option.map_some]; exact any_of_find_some hnd hf
  · have hc1 : (ns == nsMathml && decide (t.name = "annotation-xml".toList)) = false := Bool.eq_false_iff.mpr hc
    have hc' : (ns == Spec.TreeAlgo.nsMathml && decide (t.name = "annotation-xml".toList)) = false := hc1
    simp only [hc1, hc', Bool.false_eq_true, if_false, Bool.false_and]

/-! ### "insert a foreign element" -/

theorem insertForeignElement_stack {cx : Ctx ETok} {st p1 : PState Id ETok} {tok : ETok} {ns : Str} {only : Bool} {e : Elem Id}
    (h : Spec.TreeAlgo2.insertForeignElement cx st tok ns only = some (p1, e)) : p1.stack = st.stack ++ [e] := by
  unfold Spec.TreeAlgo2.insertForeignElement at h
  cases hp : Spec.TreeAlgo2.appropriatePlace st.stack st.fosterParenting none with
  | none => rw [hp] at h; cases h
  | some loc =>
    rw [hp] at h
    cases hs : st.supply with
    | nil => simp [PState.newNode, hs] at h
    | cons n rest =>
      simp only [Option.bind_some, PState.newNode, hs, Option.map_some, Option.some.injEq, Prod.mk.injEq] at h
      rw [← h.1, ← h.2]

theorem insertForeign_eq (σ : SState) (t : STag) (kind : ForeignKind) (ns : Str) (p1 : PState Id ETok) (e : Elem Id)
    (h : Spec.TreeAlgo2.insertForeignElement Spec.TreeModes.cx σ.p (t.etokForeign kind) ns false = some (p1, e)) :
    Spec.TreeModes.insertForeign σ t kind ns
      = .ok (if specAnnotIp ns t then { σ with p := p1, annotationHtml := σ.annotationHtml ++ [e.id] }
             else { σ with p := p1 }, e) := by
  unfold Spec.TreeModes.insertForeign
  rw [h]
  rfl

/-- `insert_element(push, ns, tag')` (mod.rs:1360) for the adjusted tag `tag'` of a start tag token `t`
against `Spec.TreeModes.insertForeign` ("insert a foreign element for the token, with `ns` and false", and
the MathML `annotation-xml` bookkeeping) -/
theorem pc_insertElement_foreign {s : State} (hm : MInv s) (pushIt : Bool) (ns : Str) (kind : ForeignKind) {t : Tag}
    (hp : PlainTag t) (hnd : (t.attrs.map (·.name.loc)).Nodup) :
    PC (insertElement pushIt ns (adjTag kind t).name (adjTag kind t).attrs (adjTag kind t).hadDup) s (fun a s' calls =>
      SameButOpen s s' ∧ s'.openElems = (if pushIt then s.openElems ++ [a] else s.openElems) ∧
      s.dom.size ≤ a ∧ s'.dom.isElement a = true ∧ nameOf s'.dom a = ⟨ns, t.name⟩ ∧
      Tr s s' calls (fun x x' => ∃ σ1,
        Spec.TreeModes.insertForeign (absF s x) (specTag t) kind ns = .ok (σ1, elemOf s'.dom a) ∧
        σ1.cur = some (elemOf s'.dom a) ∧
        absF s' x' = if pushIt then σ1 else σ1.pop)) := by
  refine pc_conseq (pc_insertElement_core hm pushIt ns (adjTag kind t)) ?_
  rintro a s' calls he ⟨f, ho, hfresh, hel, hnm, htr⟩
  rw [adjTag_name] at hnm
  refine ⟨f, ho, hfresh, hel, hnm, htr.conseq ?_⟩
  rintro x x' hx hx' ⟨p1, h1, h2⟩
  have e1 : elemOf s'.dom a = ⟨a, ⟨ns, t.name⟩⟩ := by unfold elemOf; rw [hnm]; rfl
  rw [etokOf_adjTag kind hp, adjTag_name] at h1
  have h3 := insertForeign_eq (absF s x) (specTag t) kind ns p1 ⟨a, ⟨ns, t.name⟩⟩ (by rw [absF_p]; exact h1)
  rw [e1]
  have hst := insertForeignElement_stack h1
  refine ⟨_, h3, ?_, ?_⟩
  · have : ∀ b : Bool, (if b then { absF s x with p := p1, annotationHtml := (absF s x).annotationHtml ++ [a] }
        else { absF s x with p := p1 } : SState).cur = some ⟨a, ⟨ns, t.name⟩⟩ := by
      intro b
      cases b <;> simp [Spec.TreeModes.State.cur, hst]
    exact this _
  · rw [h2]
    unfold newAnnot
    rw [flags_adjTag kind hp hnd ns]
    cases specAnnotIp ns (specTag t) <;> cases pushIt <;> simp [pop_eq, absF]

/-- `insert_foreign_element(tag, ns, only_add_to_element_stack)` (mod.rs:1441; html5ever uses it for the
`template` of a declarative shadow root only) against `TreeAlgo2.insertForeignElement`, for element types
that are not form-associated -/
theorem pc_insertForeignElement {s : State} (hm : MInv s) (tag : Tag) (ns : Str) (onlyAdd : Bool)
    (hnf : Spec.TreeAlgo.inHtml Spec.TreeAlgo2.formAssociatedElements ⟨ns, tag.name⟩ = false) :
    PC (H5V.Model.HtmlTB.insertForeignElement tag ns onlyAdd) s (fun a s' calls =>
      SameButOpen s s' ∧ s'.openElems = s.openElems ++ [a] ∧
      s.dom.size ≤ a ∧ s'.dom.isElement a = true ∧ nameOf s'.dom a = ⟨ns, tag.name⟩ ∧
      Tr s s' calls (fun x x' => ∃ p1,
        Spec.TreeAlgo2.insertForeignElement Spec.TreeModes.cx (absP s x) (etokOf tag) ns onlyAdd
          = some (p1, ⟨a, ⟨ns, tag.name⟩⟩) ∧
        absF s' x' = { absF s x with p := p1, annotationHtml := x.annot ++ newAnnot ns tag a })) := by
  by_cases hne : s.openElems = []
  · unfold H5V.Model.HtmlTB.insertForeignElement
    exact pc_bind_false (pc_apfi_nil hne)
  have hok := hm.elems
  obtain ⟨place, hplace, hpel⟩ := hm.place hne
  refine pc_conseq (PC.of_tot (tot_insertForeignElement s tag ns onlyAdd hok (hm.headOk hne) hnf)) ?_
  rintro a s' calls he ⟨L, hs', hfresh, hel, hnm, hL, hspec⟩
  have f : SameButOpen s s' := SameButOpen.of_eq hs'
  have ho : s'.openElems = if true then s.openElems ++ [a] else s.openElems := by rw [hs']; rfl
  -- the log entries
  have hcomp : Spec.TreeAlgo2.insertForeignElement tagCtx (absState s (a :: []) []) tag ns onlyAdd
      = some ({ absState s [] ([] ++ ([Edit.create a ns tag] ++ (if onlyAdd then [] else [Edit.insert place a]))) with
                  stack := absStack s.dom s.openElems ++ [⟨a, ⟨ns, tag.name⟩⟩] }, ⟨a, ⟨ns, tag.name⟩⟩) := by
    unfold Spec.TreeAlgo2.insertForeignElement
    simp only [absState, hplace, Option.bind_some, PState.newNode, Option.map_some]
    have : Spec.TreeAlgo2.associatesWithForm ⟨ns, tagCtx.tokName tag⟩ (tagCtx.tokHasFormAttr tag) true
        ((absStack s.dom s.openElems).any fun e => e.name.isHtml "template") = false := by
      unfold Spec.TreeAlgo2.associatesWithForm; rw [show tagCtx.tokName tag = tag.name from rfl, hnf]; rfl
    cases s.formElem with
    | none => simp; rfl
    | some fo => simp only [this, Bool.false_eq_true, if_false]; simp; rfl
  have hLe : L = [Edit.create a ns tag] ++ (if onlyAdd then [] else [Edit.insert place a]) := by
    have h := (hspec [] []).symm.trans hcomp
    have h2 := congrArg (fun o => o.map (fun r => r.1.log)) h
    simpa [absState] using h2
  have hL' : ∀ tc, TcOk s.dom tc → edits calls = L.map (editCall tc) := by
    intro tc htc
    rw [hL, hLe]
    have e1 : ipOf tc place = ipOf (tcOf s.dom) place := ipOf_congr htc hpel
    cases onlyAdd <;> simp [editCall, e1]
  have ho' : s'.openElems = s.openElems ++ [a] := by simpa using ho
  refine ⟨f, ho', hfresh, hel, hnm, ?_⟩
  exact tr_insert_of_spec hm hne true onlyAdd ns tag a he f ho hfresh hel hnm L hL' hspec

/-! ### `enter_foreign` -/

/-- the kind of adjustment for a namespace -/
def kindOfNs (ns : Str) : ForeignKind :=
  if ns == nsMathml then .mathml else if ns == nsSvg then .svg else .other

theorem kindOfNs_mathml : kindOfNs nsMathml = .mathml := by
  simp only [kindOfNs, beq_self_eq_true, if_true]
theorem kindOfNs_svg : kindOfNs nsSvg = .svg := by
  simp only [kindOfNs, beq_eq_false_iff_ne.mpr nsMathml_ne_nsSvg.symm, beq_self_eq_true, Bool.false_eq_true, if_false, if_true]

/-- the common tail of `enter_foreign` and `foreign_start_tag` -/
def efBody (tag : Tag) (ns : Str) : M ProcessResult := do
  if tag.selfClosing then
    let _ ← insertElement false ns tag.name tag.attrs tag.hadDup
    pure .doneAckSelfClosing
  else
    let _ ← insertElement true ns tag.name tag.attrs tag.hadDup
    pure .done

theorem enterForeign_eq (t : Tag) (ns : Str) :
    enterForeign t ns = efBody (adjustForeignAttributes (if ns == nsMathml then adjustMathmlAttributes t
      else if ns == nsSvg then adjustSvgAttributes t else t)) ns := rfl

theorem adjTag_kindOfNs (t : Tag) (ns : Str) :
    adjustForeignAttributes (if ns == nsMathml then adjustMathmlAttributes t
      else if ns == nsSvg then adjustSvgAttributes t else t) = adjTag (kindOfNs ns) t := by
  unfold kindOfNs adjTag
  by_cases h1 : (ns == nsMathml) = true
  · simp only [h1, if_true]
  · simp only [h1, Bool.false_eq_true, if_false]
    by_cases h2 : (ns == nsSvg) = true
    · simp only [h2, if_true]
    · simp only [h2, Bool.false_eq_true, if_false]

/-- the result `enter_foreign` / `foreign_start_tag` return -/
def efResult (selfClosing : Bool) : ProcessResult := if selfClosing then .doneAckSelfClosing else .done

/-- the tail of `enter_foreign` / `foreign_start_tag`: "insert a foreign element for the token, with `ns`
and false; if the token has its self-closing flag set, pop the current node off the stack of open
elements and acknowledge the token's self-closing flag" -/
theorem pc_efBody {s : State} (hm : MInv s) (ns : Str) (kind : ForeignKind) {t : Tag}
    (hp : PlainTag t) (hnd : (t.attrs.map (·.name.loc)).Nodup) :
    PC (efBody (adjTag kind t) ns) s (fun r s' calls => r = efResult t.selfClosing ∧ ∃ a,
      s'.dom.isElement a = true ∧ nameOf s'.dom a = ⟨ns, t.name⟩ ∧
      Tr s s' calls (fun x x' => ∃ σ1,
        Spec.TreeModes.insertForeign (absF s x) (specTag t) kind ns = .ok (σ1, elemOf s'.dom a) ∧
        σ1.cur = some (elemOf s'.dom a) ∧
        absF s' x' = if t.selfClosing then σ1.pop.ack (specTag t) else σ1)) := by
  unfold efBody
  by_cases hsc : t.selfClosing = true
  · simp only [adjTag_selfClosing, hsc, if_true]
    refine pc_seq (pc_insertElement_foreign hm false ns kind hp hnd) ?_
    rintro a s' calls he ⟨f, ho, hfresh, hel, hnm, htr⟩
    refine pc_pure ⟨by simp [efResult], a, hel, hnm, ?_⟩
    rw [List.append_nil]
    refine htr.reaux (fun _ x' => x'.ack true) (fun _ x' => x'.ack_same _) ?_
    rintro x x' _ _ ⟨σ1, h1, h2, h3⟩
    refine ⟨σ1, h1, h2, ?_⟩
    have := absF_ack s' x' (specTag t)
    rw [specTag_selfClosing, hsc] at this
    rw [this, h3]; rfl
  · have hsc' : t.selfClosing = false := by simpa using hsc
    simp only [adjTag_selfClosing, hsc', Bool.false_eq_true, if_false]
    refine pc_seq (pc_insertElement_foreign hm true ns kind hp hnd) ?_
    rintro a s' calls he ⟨f, ho, hfresh, hel, hnm, htr⟩
    refine pc_pure ⟨by simp [efResult], a, hel, hnm, ?_⟩
    rw [List.append_nil]
    refine htr.conseq ?_
    rintro x x' _ _ ⟨σ1, h1, h2, h3⟩
    exact ⟨σ1, h1, h2, by simpa using h3⟩

/-- `enter_foreign(tag, ns)` (mod.rs:1667) against the tail of `inBodyStartForeignRoot` (after
"reconstruct the active formatting elements") -/
theorem pc_enterForeign {s : State} (hm : MInv s) (ns : Str) {t : Tag}
    (hp : PlainTag t) (hnd : (t.attrs.map (·.name.loc)).Nodup) :
    PC (enterForeign t ns) s (fun r s' calls => r = efResult t.selfClosing ∧
      Tr s s' calls (fun x x' => ∃ r', Spec.TreeModes.insertForeign (absF s x) (specTag t) (kindOfNs ns) ns = .ok r' ∧
        absF s' x' = if (specTag t).selfClosing then r'.1.pop.ack (specTag t) else r'.1)) := by
  rw [enterForeign_eq, adjTag_kindOfNs]
  refine pc_conseq (pc_efBody hm ns (kindOfNs ns) hp hnd) ?_
  rintro r s' calls he ⟨hr, a, hel, hnm, htr⟩
  refine ⟨hr, htr.conseq ?_⟩
  rintro x x' _ _ ⟨σ1, h1, h2, h3⟩
  exact ⟨_, h1, h3⟩

/-! ### `foreign_start_tag` -/

/-- `adjusted_current_node()` (mod.rs:691) answers the standard's adjusted current node; no sink call -/
theorem pc_adjustedCurrentNode {s : State} (hm : MInv s) :
    PC adjustedCurrentNode s (fun cur s' calls => s' = s ∧ calls = [] ∧ s.dom.isElement cur = true ∧
      ∀ x, AuxOk s x → ∃ e, Spec.TreeModes.adjustedCurrentNode (cfgOf s) (absF s x) = some e ∧
        e.name = toName (nameOf s.dom cur)) := by
  have hstack : ∀ x, AuxOk s x → (absF s x).p.stack = absStack s.dom s.openElems := by
    intro x hx
    simp only [absF, absP, hx.live, Bool.false_eq_true, if_false]
  -- the current node
  have hcur : (s.openElems.length = 1 → s.contextElem = none) →
      PC currentNode s (fun cur s' calls => s' = s ∧ calls = [] ∧ s.dom.isElement cur = true ∧
        ∀ x, AuxOk s x → ∃ e, Spec.TreeModes.adjustedCurrentNode (cfgOf s) (absF s x) = some e ∧
          e.name = toName (nameOf s.dom cur)) := by
    intro hctx
    unfold currentNode
    refine pc_getS_bind ?_
    cases hl : s.openElems.getLast? with
    | none => exact pc_panicAt
    | some h =>
      have hmem := List.mem_of_getLast? hl
      refine pc_pure ⟨rfl, rfl, hm.elems h hmem, ?_⟩
      intro x hx
      unfold Spec.TreeModes.adjustedCurrentNode
      rw [hstack x hx]
      obtain ⟨l', hl'⟩ : ∃ l', s.openElems = l' ++ [h] := List.getLast?_eq_some_iff.mp hl
      rw [hl']
      simp only [absStack, List.map_append, List.map_cons, List.map_nil, List.reverse_append, List.reverse_cons,
        List.reverse_nil, List.nil_append, List.cons_append]
      cases hr : (List.map (elemOf s.dom) l').reverse with
      | nil =>
        have hl0 : l' = [] := by simpa using hr
        have hc := hctx (by rw [hl', hl0]; rfl)
        refine ⟨Spec.TreeModes.openElem (absF s x) (elemOf s.dom h), ?_, rfl⟩
        simp [cfgOf, hc, Spec.TreeAlgo.adjustedCurrentNode]
      | cons y ys =>
        refine ⟨Spec.TreeModes.openElem (absF s x) (elemOf s.dom h), ?_, rfl⟩
        simp [Spec.TreeAlgo.adjustedCurrentNode]
  unfold adjustedCurrentNode
  refine pc_getS_bind ?_
  by_cases hlen : (s.openElems.length == 1) = true
  · simp only [hlen, if_true]
    cases hc : s.contextElem with
    | none => exact hcur (fun _ => hc)
    | some c =>
      refine pc_pure ⟨rfl, rfl, hm.ctx c hc, ?_⟩
      intro x hx
      unfold Spec.TreeModes.adjustedCurrentNode
      rw [hstack x hx]
      have h1 : s.openElems.length = 1 := by simpa using hlen
      obtain ⟨h, hh⟩ : ∃ h, s.openElems = [h] := by
        cases hl : s.openElems with
        | nil => rw [hl] at h1; cases h1
        | cons a r =>
          cases r with
          | nil => exact ⟨a, rfl⟩
          | cons b r' => rw [hl] at h1; simp at h1
      refine ⟨{ name := (elemOf s.dom c).name, encodingHtml := (cfgOf s).contextEncodingHtml }, ?_, rfl⟩
      simp [hh, absStack, cfgOf, hc, Spec.TreeAlgo.adjustedCurrentNode]
  · simp only [hlen, Bool.false_eq_true, if_false]
    exact hcur (fun h => absurd (by simpa using h) hlen)

/-- the SVG tag-name adjustment of `foreign_start_tag` -/
def svgName (ns : Str) (t : Tag) : Tag := if ns == nsSvg then { t with name := adjustSvgTagName t.name } else t

theorem foreignStartTag_eq (t : Tag) : foreignStartTag t = (do
    let cur ← adjustedCurrentNode
    let n ← elemName cur
    efBody (adjustForeignAttributes (if n.ns == nsMathml then adjustMathmlAttributes t
      else if n.ns == nsSvg then adjustSvgAttributes { t with name := adjustSvgTagName t.name } else t)) n.ns) := rfl

theorem adjTag_svgName (t : Tag) (ns : Str) :
    adjustForeignAttributes (if ns == nsMathml then adjustMathmlAttributes t
      else if ns == nsSvg then adjustSvgAttributes { t with name := adjustSvgTagName t.name } else t)
      = adjTag (kindOfNs ns) (svgName ns t) := by
  unfold kindOfNs adjTag svgName
  by_cases h1 : (ns == nsMathml) = true
  · have h2 : (ns == nsSvg) = false := by
      rw [beq_iff_eq.mp h1]; exact beq_eq_false_iff_ne.mpr nsMathml_ne_nsSvg
    simp only [h1, h2, if_true, Bool.false_eq_true, if_false]
  · simp only [h1, Bool.false_eq_true, if_false]
    by_cases h2 : (ns == nsSvg) = true
    · simp only [h2, if_true]
    · simp only [h2, Bool.false_eq_true, if_false]

theorem specTag_svgName (t : Tag) (ns : Str) :
    specTag (svgName ns t) = (if ns == Spec.TreeAlgo.nsSvg
      then { specTag t with name := Spec.TreeAlgo.adjustSvgTagName (specTag t).name } else specTag t) := by
  unfold svgName
  by_cases h2 : (ns == nsSvg) = true
  · have h2' : (ns == Spec.TreeAlgo.nsSvg) = true := h2
    simp only [h2, h2', if_true, specTag, H5V.Lemmas.HtmlTBSpec.adjustSvgTagName_eq]
  · have h2' : ¬ (ns == Spec.TreeAlgo.nsSvg) = true := h2
    simp only [h2, h2', Bool.false_eq_true, if_false]

/-- the specification's SVG tag-name adjustment -/
def specSvgName (ns : Str) (t : STag) : STag :=
  if ns == Spec.TreeAlgo.nsSvg then { t with name := Spec.TreeAlgo.adjustSvgTagName t.name } else t

theorem specTag_svgName' (t : Tag) (ns : Str) : specTag (svgName ns t) = specSvgName ns (specTag t) :=
  specTag_svgName t ns

theorem kindOfNs_spec (ns : Str) :
    (if ns == Spec.TreeAlgo.nsMathml then ForeignKind.mathml else if ns == Spec.TreeAlgo.nsSvg then .svg else .other)
      = kindOfNs ns := rfl

/-- the state `foreignAnyOtherStartTag` ends in, given the result of `insertForeign` -/
def foreignStartFinal (t t' : STag) (σ1 : SState) (el : Elem Id) : SState :=
  if t.selfClosing then
    (if t'.is "script" && el.name.ns == Spec.TreeAlgo.nsSvg
     then { σ1.pop.ack t with out := { (σ1.pop.ack t).out with svgScript := some el.id } }
     else σ1.pop.ack t)
  else σ1

theorem foreignAnyOtherStartTag_unfold (cfg : Config Id) (σ : SState) (t : STag) :
    Spec.TreeModes.foreignAnyOtherStartTag cfg σ t = (do
      let acn ← Spec.TreeModes.req (Spec.TreeModes.adjustedCurrentNode cfg σ) "foreign content: no adjusted current node"
      let r ← Spec.TreeModes.insertForeign σ (specSvgName acn.name.ns t) (kindOfNs acn.name.ns) acn.name.ns
      if t.selfClosing then
        if (specSvgName acn.name.ns t).is "script" && r.2.name.ns == Spec.TreeAlgo.nsSvg
        then Spec.TreeModes.foreignEndSvgScript (r.1.ack t)
        else pure (.done (r.1.pop.ack t))
      else pure (.done r.1)) := rfl

theorem foreignAnyOtherStartTag_eq (cfg : Config Id) (σ : SState) (t : STag) (e : Spec.TreeAlgo.OpenElem)
    (σ1 : SState) (el : Elem Id) (hacn : Spec.TreeModes.adjustedCurrentNode cfg σ = some e)
    (hins : Spec.TreeModes.insertForeign σ (specSvgName e.name.ns t) (kindOfNs e.name.ns) e.name.ns = .ok (σ1, el))
    (hcur : σ1.cur = some el) :
    Spec.TreeModes.foreignAnyOtherStartTag cfg σ t
      = .ok (.done (foreignStartFinal t (specSvgName e.name.ns t) σ1 el)) := by
  rw [foreignAnyOtherStartTag_unfold]
  simp only [hacn, Spec.TreeModes.req, bind, Except.bind, pure, Except.pure, hins]
  unfold foreignStartFinal
  generalize specSvgName e.name.ns t = t'
  cases hsc : t.selfClosing with
  | false => simp only [Bool.false_eq_true, if_false]
  | true =>
    simp only [if_true]
    by_cases hscript : (t'.is "script" && el.name.ns == Spec.TreeAlgo.nsSvg) = true
    · simp only [hscript, if_true]
      have hc : (σ1.ack t).cur = some el := by
        unfold Spec.TreeModes.State.ack; rw [hsc]; exact hcur
      simp only [Spec.TreeModes.foreignEndSvgScript, hc, Spec.TreeModes.req, bind, Except.bind, pure, Except.pure]
      unfold Spec.TreeModes.State.ack; rw [hsc]; rfl
    · simp only [hscript, Bool.false_eq_true, if_false]

theorem ack_congr (σ : SState) (t1 t2 : STag) (h : t1.selfClosing = t2.selfClosing) :
    σ.ack t1 = σ.ack t2 := by
  unfold Spec.TreeModes.State.ack; rw [h]

theorem svgName_selfClosing (ns : Str) (t : Tag) : (svgName ns t).selfClosing = t.selfClosing := by
  unfold svgName; split <;> rfl

theorem svgName_attrs (ns : Str) (t : Tag) : (svgName ns t).attrs = t.attrs := by
  unfold svgName; split <;> rfl

/-- `foreign_start_tag(tag)` (mod.rs:1839) is the "any other start tag" clause of the rules for parsing
tokens in foreign content (`foreignAnyOtherStartTag`); html5ever does not process SVG scripts
(`Out.svgScript` is not compared) -/
theorem pc_foreignStartTag {s : State} (hm : MInv s) {t : Tag} (hp : PlainTag t)
    (hnd : (t.attrs.map (·.name.loc)).Nodup) (tok : Token) :
    PC (foreignStartTag t) s
      (TokPost (fun σ => Spec.TreeModes.foreignAnyOtherStartTag (cfgOf s) σ (specTag t)) s tok) := by
  rw [foreignStartTag_eq]
  refine pc_seq (pc_adjustedCurrentNode hm) ?_
  rintro cur s0 c0 he0 ⟨hs0, hc0, hcel, hacn⟩
  subst hc0
  rw [hs0]
  refine pc_query_bind (PC.of_tot (tot_elemName' s cur)) ?_
  intro s1 c1 he1 hs1 hc1
  rw [adjTag_svgName]
  have htr1 := Tr.of_same hm hs1 he1 (by rw [← edits2_edits, hc1]; rfl)
  have hp' : PlainTag (svgName (nameOf s.dom cur).ns t) := by
    unfold PlainTag; rw [svgName_attrs]; exact hp
  have hnd' : ((svgName (nameOf s.dom cur).ns t).attrs.map (·.name.loc)).Nodup := by
    rw [svgName_attrs]; exact hnd
  refine pc_conseq (pc_efBody htr1.1 (nameOf s.dom cur).ns (kindOfNs (nameOf s.dom cur).ns) hp' hnd') ?_
  rintro r s' c2 he2 ⟨hr, a, hel, hnm, htr2⟩
  have htr := htr1.trans htr2
  have hres : ResTok tok r := by
    rw [hr]; unfold efResult; split <;> trivial
  refine tokPost_of_tr (by rw [List.nil_append]; exact htr) hres ?_
  rintro x x'' hx hx'' ⟨x1, ⟨e1, r1⟩, σ1, h1, h2, h3⟩
  subst e1
  obtain ⟨e, hacn1, hen⟩ := hacn x1 hx
  have hns : e.name.ns = (nameOf s.dom cur).ns := by rw [hen]; rfl
  have hfin := foreignAnyOtherStartTag_eq (cfgOf s) (absF s x1) (specTag t) e σ1 (elemOf s'.dom a) hacn1
    (by rw [hns, ← specTag_svgName', r1]; exact h1) h2
  rw [hfin, hns, ← specTag_svgName']
  rw [svgName_selfClosing] at hr h3
  unfold foreignStartFinal
  rw [specTag_selfClosing]
  cases hsc : t.selfClosing with
  | false =>
    rw [hsc] at hr h3
    simp only [Bool.false_eq_true, if_false] at h3 ⊢
    subst hr
    refine ⟨x'', ?_, AuxSame.rfl', Or.inl rfl, ?_⟩
    · show Except.ok (Step.done σ1) = Except.ok (Step.done (absF s' x''))
      rw [h3]
    · exact ⟨rfl, rfl⟩
  | true =>
    rw [hsc] at hr h3
    simp only [if_true] at h3 ⊢
    have hack : σ1.pop.ack (specTag (svgName (nameOf s.dom cur).ns t)) = σ1.pop.ack (specTag t) :=
      ack_congr _ _ _ (by simp only [specTag_selfClosing, svgName_selfClosing])
    rw [hack] at h3
    by_cases hscript : ((specTag (svgName (nameOf s.dom cur).ns t)).is "script" &&
        (elemOf s'.dom a).name.ns == Spec.TreeAlgo.nsSvg) = true
    · simp only [hscript, if_true]
      subst hr
      refine ⟨{ x'' with out := { x''.out with svgScript := some a } }, ?_, ⟨rfl, rfl, rfl, rfl, rfl⟩, Or.inl rfl, ?_⟩
      · rw [← h3]; rfl
      · exact ⟨rfl, rfl⟩
    · simp only [hscript, Bool.false_eq_true, if_false]
      subst hr
      refine ⟨x'', ?_, AuxSame.rfl', Or.inl rfl, ?_⟩
      · show Except.ok (Step.done (σ1.pop.ack (specTag t))) = Except.ok (Step.done (absF s' x''))
        rw [h3]
      · exact ⟨rfl, rfl⟩

/-! ### the `script` start tag of "in head" -/

/-- the `script` start-tag arm of `step` in "in head" (rules.rs:241) -/
def scriptStart (tag : Tag) : M ProcessResult := do
  let elem ← createElementWithFlags (htmlQual "script".toList) tag.attrs tag.hadDup
  if ← isFragment then sinkUnit (.markScriptAlreadyStarted elem)
  insertAppropriately (.node elem) none
  push elem
  toRawTextMode .scriptData

/-- `scriptStart` after the creation of the element -/
def scriptRest (a : Id) : M ProcessResult := do
  insertAppropriately (.node a) none
  push a
  toRawTextMode .scriptData

theorem script_not_form {name : Str} (hn : name = "script".toList) (b c d : Bool) :
    Spec.TreeAlgo2.associatesWithForm ⟨Spec.TreeAlgo.nsHtml, name⟩ b c d = false := by
  subst hn
  have : Spec.TreeAlgo.inHtml Spec.TreeAlgo2.formAssociatedElements ⟨Spec.TreeAlgo.nsHtml, "script".toList⟩ = false := by
    decide +kernel
  unfold Spec.TreeAlgo2.associatesWithForm
  rw [this]; rfl

theorem pc_scriptRest {s : State} (hm : MInv s) {t : Tag} (hp : PlainTag t) (hn : t.name = "script".toList)
    (tok : Token) (a : Id) (s2 : State) (cpre : List Call) (he2 : Ext2 s cpre s2) (hs2 : SameTB s s2)
    (hpre : edits2 cpre = [createCall nsHtml t a]) (hfresh : s.dom.size ≤ a) (hel2 : s2.dom.isElement a = true)
    (hnm2 : nameOf s2.dom a = ⟨nsHtml, t.name⟩) :
    PC (scriptRest a) s2 (fun b s' c =>
      TokPost (fun σ => Step.done <$> Spec.TreeModes.genericTextElement σ (specTag t) .scriptData) s tok b s' (cpre ++ c)) := by
  unfold scriptRest
  by_cases hne : s.openElems = []
  · exact pc_bind_false (pc_insertAppropriately_nil (by rw [hs2.openElems]; exact hne) _)
  have hok := hm.elems
  obtain ⟨place, hplace, hpel⟩ := hm.place hne
  have hx2 := he2.ext
  have hplace2 : Spec.TreeAlgo2.appropriatePlace (absStack s2.dom s2.openElems) s2.fosterParenting
      ((none : Option Id).map (elemOf s2.dom)) = some place := by
    rw [hs2.openElems, hs2.fosterParenting, absStack_ext hok hx2]; exact hplace
  refine pc_seq (PC.of_tot (tot_insertAppropriately s2 (.node a) none (by rw [hs2.openElems]; exact ElemsOk.ext hok hx2)
    (by simp) place hplace2)) ?_
  rintro _ s3 c3 he3 ⟨hs3, hc3⟩
  refine pc_seq (PC.of_tot (tot_push s3 a)) ?_
  rintro _ s4 c4 he4 ⟨hs4, hc4⟩
  subst hc4
  have hS3 : SameTB s s3 := hs2.trans hs3
  have he : Ext2 s (cpre ++ (c3 ++ [])) s4 := he2.trans (he3.trans he4)
  have hx := he.ext
  have hd4 : s4.dom = s3.dom := by rw [hs4]
  have f : SameButOpen s s4 := by
    have f3 := SameButOpen.of_same hS3
    have f4 : SameButOpen s3 s4 := by constructor <;> rw [hs4]
    constructor
    · rw [f4.opts, f3.opts]
    · rw [f4.mode, f3.mode]
    · rw [f4.origMode, f3.origMode]
    · rw [f4.templateModes, f3.templateModes]
    · rw [f4.pendingTableText, f3.pendingTableText]
    · rw [f4.quirksMode, f3.quirksMode]
    · rw [f4.docHandle, f3.docHandle]
    · rw [f4.activeFormatting, f3.activeFormatting]
    · rw [f4.headElem, f3.headElem]
    · rw [f4.formElem, f3.formElem]
    · rw [f4.framesetOk, f3.framesetOk]
    · rw [f4.ignoreLf, f3.ignoreLf]
    · rw [f4.fosterParenting, f3.fosterParenting]
    · rw [f4.contextElem, f3.contextElem]
  have ho : s4.openElems = s.openElems ++ [a] := by rw [hs4, ← hS3.openElems]
  have hel : s4.dom.isElement a = true := by rw [hd4]; exact isElement_ext he3.ext hel2
  have hnm : nameOf s4.dom a = ⟨nsHtml, t.name⟩ := by
    rw [hd4, nameOf_ext he3.ext hel2]; exact hnm2
  have hm4 : MInv s4 := hm.pushed f hx ho hfresh hel (fun h => absurd h hne) (ip_of_html hnm)
  have htr : Tr s s4 (cpre ++ (c3 ++ [])) (fun x x' => x' = x.step [a].length
      [Edit.create a nsHtml t, Edit.insert place a] [] ∧ ∃ rest, x.supply = [a] ++ rest) := by
    refine Tr.of_flat hm4 (cfgOf_sameButOpen hm f hx) he [a] _ [] (FreshIds.of_size (by intro n hn; simp only [List.mem_singleton] at hn; subst hn; exact hfresh)) ?_
      (annot_push hx hm ho (by rw [hnm]; exact html_ne_annot _)) (by simp)
    intro tc htc
    rw [edits2_append, hpre, List.append_nil, ← edits2_edits, hc3]
    have e1 : ipOf (tcOf s2.dom) place = ipOf tc place := by
      rw [ipOf_congr (tcOk_of_ext htc hx) hpel, ipOf_congr (d := s.dom) (tc := tcOf s2.dom) ?_ hpel]
      intro y hy; exact (tcOf_ext hx2 hy).symm ▸ rfl
    rw [e1]
    simp only [edits2, List.filter_cons, isEdit2_insertOp, if_true, List.filter_nil, List.map_cons, List.map_nil,
      editCall, List.singleton_append]
  refine pc_conseq (pc_toRawTextMode hm4 .scriptData) ?_
  rintro r s5 c5 he5 ⟨hr, hs5, htr5⟩
  subst hr
  have htr' := htr.trans htr5
  rw [show cpre ++ (c3 ++ ([] ++ c5)) = cpre ++ (c3 ++ []) ++ c5 by simp]
  refine tokPost_toRawData htr' ?_
  rintro x x'' hxa _ ⟨x1, ⟨e1, rest, hsup⟩, r2⟩
  subst e1
  have hsup' : x.supply = a :: rest := hsup
  have e1 : elemOf s4.dom a = ⟨a, ⟨nsHtml, t.name⟩⟩ := by unfold elemOf; rw [hnm]; rfl
  have hins : Spec.TreeModes.insertHtml' (absF s x) (specTag t)
      = .ok (absF s4 (x.step [a].length [Edit.create a nsHtml t, Edit.insert place a] [])) := by
    rw [absF_sameButOpen hm f hx, absP_sameButOpen f, ho, absStack_snoc, absStack_ext hm.elems hx, e1]
    unfold Spec.TreeModes.insertHtml' Spec.TreeModes.insertHtml Spec.TreeAlgo2.insertHtmlElement
      Spec.TreeAlgo2.insertForeignElement
    rw [specTag_etok hp]
    have hnf := script_not_form (name := Spec.TreeModes.cx.tokName (etokOf t)) hn
    cases hfe : s.formElem <;>
    · simp only [absF_p, absP, hxa.live, Bool.false_eq_true, if_false, hplace, Option.bind_some, PState.newNode, hsup',
        Option.map_some, Spec.TreeModes.req, hnf, hfe]
      simp [absF, absP, Aux.step, hxa.live, hsup', Edit.mapTok, bind, Except.bind, pure, Except.pure, hfe]
      exact ⟨⟨rfl, rfl⟩, rfl⟩
  simp only [Spec.TreeModes.genericTextElement, hins, r2]
  rfl

/-- the `script` start tag of "in head" (rules.rs:241: create the element, `mark_script_already_started`
in the fragment case — not compared —, insert it at the appropriate place, push it, `to_raw_text_mode`)
is the standard's clause (steps 1, 2, 6–10 = `genericTextElement … scriptData`) -/
theorem pc_scriptStart {s : State} (hm : MInv s) {t : Tag} (hp : PlainTag t) (hn : t.name = "script".toList)
    (tok : Token) :
    PC (scriptStart t) s
      (TokPost (fun σ => Step.done <$> Spec.TreeModes.genericTextElement σ (specTag t) .scriptData) s tok) := by
  unfold scriptStart
  have eq : htmlQual "script".toList = { pfx := none, ns := nsHtml, loc := t.name } := by rw [hn]; rfl
  rw [eq]
  refine pc_seq (PC.of_tot (tot_createElementWithFlags s nsHtml t)) ?_
  rintro a s1 c1 he1 ⟨hs1, hc1, hfresh, hel1, hnm1⟩
  subst hc1
  unfold isFragment
  refine pc_getS_bind ?_
  by_cases hfrag : s1.contextElem.isSome = true
  · simp only [hfrag, if_true]
    refine pc_seq (PC.of_tot (tot_sinkUnit_unit' s1 trivial (fun d d' out h => by
      unfold Dom.apply Dom.applyV at h; cases h; rfl))) ?_
    rintro _ s2 c2 he2 ⟨hs2, hc2⟩
    subst hc2
    have := pc_scriptRest hm hp hn tok a s2 _ (he1.trans he2) (hs1.trans hs2) rfl hfresh
      (isElement_ext he2.ext hel1) (by rw [nameOf_ext he2.ext hel1]; exact hnm1)
    refine pc_conseq this ?_
    intro b s' c _ h
    rw [← List.append_assoc]; exact h
  · simp only [hfrag, Bool.false_eq_true, if_false]
    exact pc_scriptRest hm hp hn tok a s1 _ he1 hs1 rfl hfresh hel1 hnm1

/-- the `script` start-tag arm of `stepInHead` is `scriptStart` -/
theorem stepInHead_script (t : Tag) (hk : t.kind = .startTag) (hn : t.name = "script".toList) :
    stepInHead (.tag t) = scriptStart t := by
  simp +decide only [stepInHead, Tag.isStart, Tag.isEnd, hk, hn, isOneOf_cons, isOneOf_nil, Bool.or_false, if_true,
    if_false]
  rfl

end H5V.Lemmas.HtmlTBModes
