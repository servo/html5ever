import H5V.Lemmas.HtmlTBSafeRules0
/-!
# Tree-builder safety: the table insertion modes

`InTable`, `InTableText`, `InCaption`, `InColumnGroup`, `InTableBody`, `InRow`, `InCell`
and their helpers `foster_parent_in_body`, `process_chars_in_table`.
-/
namespace H5V.Lemmas.TBSafe
open H5V.Model.HtmlTB
open H5V.Model.Dom (Id QualName Attr NodeOrText SinkOp Output ElementFlags QuirksMode Dom NodeData Node)

variable {al : Allow}

/-! ### general helpers -/

private theorem Rooted.ne_nil {d : Dom} {l : List Id} (h : Rooted d l) : l ≠ [] := by
  obtain ⟨r, rest, hl, _⟩ := h; rw [hl]; simp

/-- an element of a rooted stack whose name is not `html` has something below it -/
private theorem Rooted.pre_ne {d : Dom} {l pre post : List Id} {x : Id} (hr : Rooted d l) (heq : l = pre ++ x :: post)
    (hx : nm d x ≠ htmlName) : pre ≠ [] := by
  rintro rfl
  obtain ⟨r, rest, hl, hn⟩ := hr
  rw [hl] at heq
  simp only [List.nil_append, List.cons.injEq] at heq
  rw [← heq.1] at hx
  exact hx hn

private theorem getLast?_pre_ne {pre : List Id} {x : Id} (h : pre.getLast? = some x) : pre ≠ [] := by
  rintro rfl; simp at h

private theorem dropLast_ne_nil {l : List Id} (h : 2 ≤ l.length) : l.dropLast ≠ [] := by
  intro e
  have := congrArg List.length e
  rw [List.length_dropLast] at this
  simp at this
  omega

private theorem keeps_triv {m : Mode} {s s' : State} (h : ∀ n, modeNeed m n = false) : Keeps (modeNeed m) s s' := by
  intro x _ hp; rw [h] at hp; cases hp

private theorem isStart_name {tag : Tag} {l : List String} (h : tag.isStart l = true) : isOneOf tag.name l = true := by
  simp only [Tag.isStart, Bool.and_eq_true] at h; exact h.2

private theorem isEnd_name {tag : Tag} {l : List String} (h : tag.isEnd l = true) : isOneOf tag.name l = true := by
  simp only [Tag.isEnd, Bool.and_eq_true] at h; exact h.2

private theorem isOneOf_mono {n : Str} {l l' : List String} (h : isOneOf n l = true) (hs : ∀ x ∈ l, x ∈ l') :
    isOneOf n l' = true := by
  simp only [isOneOf, List.any_eq_true] at h ⊢
  obtain ⟨x, hx, hb⟩ := h
  exact ⟨x, hs x hx, hb⟩

private theorem isStart_mono {tag : Tag} {l l' : List String} (h : tag.isStart l = true) (hs : ∀ x ∈ l, x ∈ l') :
    tag.isStart l' = true := by
  simp only [Tag.isStart, Bool.and_eq_true] at h ⊢
  exact ⟨h.1, isOneOf_mono h.2 hs⟩

private theorem namedP_of_nm {d : Dom} {name : Str} {x : Id} (h : nm d x = ⟨nsHtml, name⟩) : namedP d name x = true := by
  unfold namedP; rw [h]; simp

/-! ### changing fields the invariants do not look at -/

private theorem SInv.withAF {m : Mode} {s : State} (h : SInv m s) (af : List FormatEntry) :
    SInv m { s with activeFormatting := af } :=
  ⟨h.root, h.stack, h.head, h.headIn, h.text, h.tableText, h.pending, h.tmpl, h.tmodes⟩

private theorem HInv.withForm {s : State} (h : HInv s) {e : Id} (he : IsEl s.dom e) (hn : nm s.dom e = formName) :
    HInv { s with formElem := some e } :=
  ⟨h.open_el, h.open_tc, h.af, h.head, fun x hx => by cases hx; exact ⟨he, hn⟩, h.ctx⟩

private theorem SInv.withForm {m : Mode} {s : State} (h : SInv m s) (f : Option Id) : SInv m { s with formElem := f } :=
  ⟨h.root, h.stack, h.head, h.headIn, h.text, h.tableText, h.pending, h.tmpl, h.tmodes⟩

private theorem HInv.withPending {s : State} (h : HInv s) (p : List (SplitStatus × Str)) :
    HInv { s with pendingTableText := p } :=
  ⟨h.open_el, h.open_tc, h.af, h.head, h.form, h.ctx⟩

private theorem HInv.withOrig {s : State} (h : HInv s) (o : Option Mode) : HInv { s with origMode := o } :=
  ⟨h.open_el, h.open_tc, h.af, h.head, h.form, h.ctx⟩

private theorem SInv.withOrig {m : Mode} {s : State} (h : SInv m s) (h1 : m ≠ .text) (h2 : m ≠ .inTableText)
    (o : Option Mode) : SInv m { s with origMode := o } :=
  ⟨h.root, h.stack, h.head, h.headIn, fun e => absurd e h1, fun e => absurd e h2, h.pending, h.tmpl, h.tmodes⟩

/-- a change of the list of active formatting elements only -/
private theorem BStep.withAF {s : State} (hi : HInv s) (hr : Rooted s.dom s.openElems) (af : List FormatEntry)
    (ha : ∀ x t, FormatEntry.element x t ∈ af → FormatEntry.element x t ∈ s.activeFormatting) :
    BStep s { s with activeFormatting := af } where
  mode := rfl
  origMode := rfl
  templateModes := rfl
  pendingTableText := rfl
  headElem := rfl
  contextElem := rfl
  ext := Ext.refl _
  hinv := hi.withAF af (fun x t hx => hi.af x t (ha x t hx))
  rooted := hr
  news := fun _ hx => Or.inl hx
  tcnt := Nat.le_refl _

private theorem BStep.fosterLeft {s s' : State} {b : Bool} (h : BStep { s with fosterParenting := b } s') : BStep s s' :=
  ⟨h.mode, h.origMode, h.templateModes, h.pendingTableText, h.headElem, h.contextElem, h.ext, h.hinv, h.rooted,
   h.news, h.tcnt⟩

private theorem BStep.fosterRight {s s' : State} {b : Bool} (h : BStep s s') : BStep s { s' with fosterParenting := b } :=
  ⟨h.mode, h.origMode, h.templateModes, h.pendingTableText, h.headElem, h.contextElem, h.ext,
   h.hinv.withFoster b, h.rooted, h.news, h.tcnt⟩

/-- a body-like step followed by a change of the insertion mode -/
private theorem SInv.step_ch {m m' : Mode} {s s' : State} (hi : HInv s) (h : SInv m s) (hr : Rooted s.dom s.openElems)
    (b : BStep s s') (hm : m ≠ .inTableText) (hs : ModeStack s'.dom m' s'.openElems)
    (hh : needsHead m' = true → s'.headElem.isSome = true) (ht : m' ≠ .text) (htt : m' ≠ .inTableText) :
    SInv m' s' := by
  have h1 : SInv .inBody s :=
    h.chmode hm (fun _ => hr) trivial (fun h => absurd h (by decide)) (by decide) (by decide)
  have h2 : SInv .inBody s' := h1.of_bstep hi b rfl (keeps_triv (fun _ => rfl))
  exact h2.chmode (by decide) (fun _ => b.rooted) hs hh ht htt

private theorem StepPost.ofMode {tok : Token} {s : State} {m : Mode} (hi : HInv s) (hs : SInv m s) :
    StepPost tok .done { s with mode := m } :=
  ⟨hi.withMode m, hs.withMode m, trivial⟩

private theorem StepPost.ofReprocess {tok : Token} {s : State} {m : Mode} (hi : HInv s) (hs : SInv m s)
    (hm : m ≠ .text := by decide) : StepPost tok (.reprocess m tok) s :=
  ⟨hi, hs, rfl, hm⟩

/-! ### scope tests, answered in the state after the test -/

/-- a sink call does not change which element a scope test finds -/
theorem TopSplit.of_qf {s s' : State} {scope f : EName → Bool} {pre post : List Id} {x : Id} (hi : HInv s)
    (hq : QF s s') (hs : TopSplit s.dom scope (fun h => f (nm s.dom h)) s.openElems pre x post) :
    TopSplit s'.dom scope (fun h => f (nm s'.dom h)) s'.openElems pre x post := by
  have hnm : ∀ z ∈ s.openElems, nm s'.dom z = nm s.dom z := fun z hz => hi.open_el.nm_eq hq.ext hz
  refine ⟨by rw [hq.openElems]; exact hs.eq, ?_, fun y hy => ?_⟩
  · show f (nm s'.dom x) = true
    rw [hnm x (by rw [hs.eq]; simp)]; exact hs.px
  · show f (nm s'.dom y) = false ∧ _
    rw [hnm y (by rw [hs.eq]; simp [hy])]; exact hs.above y hy

theorem sat_inScopeNamedS' {scope : EName → Bool} {name : Str} {s : State} (hi : HInv s) :
    Sat (inScopeNamedS scope name) s (fun b s' => QF s s' ∧
      (b = true → ∃ pre x post, TopSplit s'.dom scope (namedP s'.dom name) s'.openElems pre x post)) := by
  refine (sat_inScopeNamedS hi.open_el).mono ?_
  rintro b s' ⟨rfl, hq⟩
  refine ⟨hq, fun hb => ?_⟩
  obtain ⟨pre, x, post, hs⟩ := inScopeP_split hb
  exact ⟨pre, x, post, TopSplit.of_qf (f := fun n => n.ns == nsHtml && n.loc == name) hi hq hs⟩

theorem sat_inScopeNamed' {scope : EName → Bool} {name : String} {s : State} (hi : HInv s) :
    Sat (inScopeNamed scope name) s (fun b s' => QF s s' ∧
      (b = true → ∃ pre x post, TopSplit s'.dom scope (namedP s'.dom name.toList) s'.openElems pre x post)) :=
  sat_inScopeNamedS' hi

theorem sat_inScopeElemIn' {scope set : EName → Bool} {s : State} (hi : HInv s) :
    Sat (inScope scope (fun e => elemIn e set)) s (fun b s' => QF s s' ∧
      (b = true → ∃ pre x post, TopSplit s'.dom scope (fun h => set (nm s'.dom h)) s'.openElems pre x post)) := by
  refine (sat_inScope (P := fun h => set (nm s.dom h)) hi.open_el
    (fun x hx => answers_elemIn (hi.open_el x hx))).mono ?_
  rintro b s' ⟨rfl, hq⟩
  refine ⟨hq, fun hb => ?_⟩
  obtain ⟨pre, x, post, hs⟩ := inScopeP_split hb
  exact ⟨pre, x, post, hs.of_qf hi hq⟩

/-! ### `foster_parent_in_body`, character tokens in the body -/

theorem sat_stepInBody_chars {sp : SplitStatus} {text : Str} {s : State} (hi : HInv s)
    (hr : Rooted s.dom s.openElems) :
    Sat (stepInBody (.chars sp text)) s (fun res s' => res = .done ∧ BStep s s') := by
  unfold stepInBody
  dsimp only
  refine (sat_reconstructActiveFormattingElements hi hr).bind ?_
  intro _ s1 hg
  have b1 : BStep s s1 := BStep.of_grown hi hr hg
  have hfin : ∀ s2, Same s1 s2 → Sat (appendText text) s2 (fun res s' => res = .done ∧ BStep s s') := by
    intro s2 st
    have b2 : BStep s1 s2 := BStep.of_same b1.hinv b1.rooted st
    refine (sat_appendText (PlaceOk.of_hinv b2.hinv b2.rooted)).mono ?_
    rintro res s3 ⟨rfl, hq⟩
    exact ⟨rfl, b1.trans (b2.trans (BStep.of_qf b2.hinv b2.rooted hq))⟩
  split
  · refine sat_setFramesetOk.bind ?_
    intro _ s2 st; exact hfin s2 st
  · exact hfin s1 (Same.refl _)

theorem sat_fosterParentInBody_chars {sp : SplitStatus} {text : Str} {s : State} (hi : HInv s)
    (hr : Rooted s.dom s.openElems) :
    Sat (fosterParentInBody (.chars sp text)) s (fun res s' => res = .done ∧ BStep s s') := by
  unfold fosterParentInBody
  refine sat_modS_bind ?_
  refine (sat_stepInBody_chars (s := { s with fosterParenting := true }) (hi.withFoster true) hr).bind ?_
  rintro res s1 ⟨rfl, b⟩
  refine sat_modS_bind ?_
  exact sat_pure ⟨rfl, (BStep.fosterLeft b).fosterRight⟩

/-- `foster_parent_in_body` on behalf of a body-like mode -/
theorem sat_fosterParentInBody (hb : BodySpec) {tok : Token} {s : State} (ht : TI s)
    (hm : bodyLike s.mode = true) (h1 : s.mode ≠ .inHead) (h2 : s.mode = .inTableText → isCharsTok tok = true)
    (h3 : s.mode = .inCell → isTagEnd tok ["td", "th"] = false) :
    Sat (fosterParentInBody tok) s (StepPost tok) := by
  unfold fosterParentInBody
  refine sat_modS_bind ?_
  refine (hb tok { s with fosterParenting := true } (ht.withFoster true) hm h1 h2 h3).bind ?_
  rintro res s1 ⟨hp, -⟩
  refine sat_modS_bind ?_
  exact sat_pure ⟨hp.h.withFoster false, hp.s.withFoster false, hp.r⟩

/-! ### `process_chars_in_table` -/

private theorem tableMode_facts {m : Mode} (h : tableMode m = true) :
    preRoot m = false ∧ bodyLike m = true ∧ m ≠ .inHead ∧ m ≠ .inTableText ∧ m ≠ .inCell ∧ m ≠ .text ∧
    needsHead m = false ∧ origOk m = true ∧ (∀ n, modeNeed m n = false) ∧ (∀ d l, ModeStack d m l) := by
  cases m <;> first | (cases h; done) | exact ⟨rfl, rfl, by decide, by decide, by decide, by decide, rfl, rfl, fun _ => rfl, fun _ _ => trivial⟩

theorem sat_processCharsInTable (hb : BodySpec) {tok : Token} {s : State} (ht : TI s) (hm : tableMode s.mode = true) :
    Sat (processCharsInTable tok) s (StepPost tok) := by
  obtain ⟨hpre, hbl, hnh, hntt, hnc, hnt, hnd, _, hneed, hstk⟩ := tableMode_facts hm
  unfold processCharsInTable
  obtain ⟨top, hl⟩ := getLast?_of_ne_nil (ht.rooted hpre).ne_nil
  refine (sat_currentNodeIn hl (ht.h.open_el top (getLast?_mem hl))).bind ?_
  rintro b s1 ⟨rfl, hq⟩
  have ht1 : TI s1 := ht.of_qf hq
  split
  · refine sat_getS_bind ?_
    have hp : s1.pendingTableText = [] := ht1.s.pending (by rw [hq.mode]; exact hntt)
    simp only [hp, List.isEmpty_nil, Bool.not_true, Bool.false_eq_true, if_false]
    refine sat_modS_bind ?_
    refine sat_pure ?_
    have hs1 : SInv s1.mode s1 := ht1.s
    have hpre1 : preRoot s1.mode = false := by rw [hq.mode]; exact hpre
    exact ⟨ht1.h.withOrig _,
      ⟨fun _ => hs1.root hpre1, trivial, fun h => (by cases h), hs1.headIn, fun h => (by cases h),
       fun _ => ⟨s1.mode, rfl, by rw [hq.mode]; exact hm⟩, fun h => absurd rfl h, hs1.tmpl, hs1.tmodes⟩, rfl, by decide⟩
  · refine sat_parseError.bind ?_
    intro _ s2 hq2
    have ht2 : TI s2 := ht1.of_qf hq2
    have hm2 : s2.mode = s.mode := by rw [hq2.mode, hq.mode]
    exact sat_fosterParentInBody hb ht2 (by rw [hm2]; exact hbl) (by rw [hm2]; exact hnh)
      (fun h => absurd (hm2 ▸ h) hntt) (fun h => absurd (hm2 ▸ h) hnc)

/-! ### `InTable` -/

theorem sat_popUntilCurrent_root {set : EName → Bool} {s : State} (hi : HInv s) (hr : Rooted s.dom s.openElems)
    (hset : set htmlName = true) :
    Sat (popUntilCurrent set) s (fun _ s' => ∃ pre post x, s.openElems = pre ++ post ∧ St s s' pre ∧
      pre.getLast? = some x ∧ set (nm s.dom x) = true ∧ (∀ y ∈ post, set (nm s.dom y) = false) ∧ BStep s s') := by
  obtain ⟨r, rest, hl, hn⟩ := hr
  refine (sat_popUntilCurrent hi.open_el ⟨r, by rw [hl]; exact List.mem_cons_self, by rw [hn]; exact hset⟩).mono ?_
  rintro _ s' ⟨pre, post, x, heq, st, hx, hsx, hpost⟩
  exact ⟨pre, post, x, heq, st, hx, hsx, hpost, BStep.of_st hi ⟨r, rest, hl, hn⟩ heq (getLast?_pre_ne hx) st⟩

theorem sat_clearInsertThen {α : Type} {set : EName → Bool} {name : Str} {attrs : List Attr} {hadDup : Bool}
    {k : Id → M α} {s : State} {Q : α → State → Prop} (hi : HInv s) (hr : Rooted s.dom s.openElems)
    (hset : set htmlName = true) (hn : NewOk ⟨nsHtml, name⟩)
    (hk : ∀ r s', BStep s s' → s'.openElems.getLast? = some r → nm s'.dom r = ⟨nsHtml, name⟩ → Sat (k r) s' Q) :
    Sat (do popUntilCurrent set; let r ← insertElement true nsHtml name attrs hadDup; k r) s Q := by
  refine (sat_popUntilCurrent_root hi hr hset).bind ?_
  rintro _ s1 ⟨_, _, _, _, _, _, _, _, b1⟩
  refine (sat_insertElement (PlaceOk.of_hinv b1.hinv b1.rooted)).bind ?_
  intro r s2 hins
  refine hk r s2 (b1.trans (BStep.of_inserted b1.hinv b1.rooted hins hn)) ?_ hins.nm
  rw [hins.openElems]; simp

theorem sat_setModeDone {tok : Token} {m : Mode} {s : State} (hi : HInv s) (hs : SInv m s) :
    Sat (do setMode m; pure ProcessResult.done) s (StepPost tok) := by
  refine sat_setMode.bind ?_
  rintro _ s' rfl
  exact sat_pure (StepPost.ofMode hi hs)

theorem sat_popNamedResetThen {α : Type} {name : Str} {k : Mode → M α} {s : State} {Q : α → State → Prop}
    {m0 : Mode} {pre post : List Id} {x : Id} (hi : HInv s) (hs : SInv m0 s) (hm0 : m0 ≠ .inTableText)
    (hr : Rooted s.dom s.openElems) (sp : TopSplit s.dom tableScope (namedP s.dom name) s.openElems pre x post)
    (hname : name ≠ "html".toList) (hk : ∀ m s', HInv s' → SInv m s' → m ≠ .text → Sat (k m) s' Q) :
    Sat (do let _ ← popUntilNamedS name; let m ← resetInsertionMode; k m) s Q := by
  have hne : pre ≠ [] := hr.pre_ne sp.eq (by
    rw [namedP_nm sp.px]; intro e; simp only [htmlName, EName.mk.injEq] at e; exact hname e.2)
  refine (sat_popUntilNamedS hi.open_el sp.eq sp.px (fun y hy => (sp.above y hy).1)).bind ?_
  rintro _ s1 ⟨st, -⟩
  have b1 : BStep s s1 := BStep.of_st hi hr sp.eq hne st
  have h1 : SInv .inBody s1 :=
    hs.step_ch hi hr b1 hm0 trivial (fun h => absurd h (by decide)) (by decide) (by decide)
  refine (sat_resetInsertionMode b1.hinv h1.tmodes h1.tmpl h1.headIn).bind ?_
  rintro m s2 ⟨hq, ro⟩
  have h2 : SInv .inBody s2 := h1.of_qf b1.hinv hq
  exact hk m s2 (b1.hinv.of_qf hq)
    (h2.chmode (by decide) (fun _ => h2.root rfl) ro.stack ro.head ro.notSpecial.1 ro.notSpecial.2.1)
    ro.notSpecial.1

theorem stepInTable_spec (hh : HeadSpec) (hb : BodySpec) : TableSpec := by
  intro tok s ht hm
  obtain ⟨hpre, hbl, hnh, hntt, hnc, hnt, hnd, hoo, hneed, hstk⟩ := tableMode_facts hm
  have hr := ht.rooted hpre
  unfold stepInTable
  cases tok with
  | nullChar => exact sat_processCharsInTable hb ht hm
  | chars sp text => exact sat_processCharsInTable hb ht hm
  | comment text =>
    dsimp only
    exact (sat_appendComment (ht.place hpre)).mono (fun res s' h => StepPost.of_qf ht h.2 (by rw [h.1]; rfl) (by rw [h.1]; trivial))
  | eof =>
    dsimp only
    exact (hb .eof s ht hbl hnh (fun h => absurd h hntt) (fun h => absurd h hnc)).mono (fun _ _ h => h.1)
  | tag tag =>
    dsimp only
    -- the invariant after a body-like step followed by a switch to a mode without requirements
    have hch : ∀ (m' : Mode) s', BStep s s' → (∀ d l, ModeStack d m' l) → needsHead m' = false → m' ≠ .text →
        m' ≠ .inTableText → SInv m' s' := fun m' s' b h1 h2 h3 h4 =>
      ht.s.step_ch ht.h hr b hntt (h1 _ _) (fun h => by rw [h2] at h; cases h) h3 h4
    refine sat_ite (fun c1 => ?_) fun c1 => ?_
    · refine (sat_popUntilCurrent_root ht.h hr (htmlIn_htmlName (by decide))).bind ?_
      rintro _ s1 ⟨_, _, _, _, _, _, _, _, b1⟩
      refine sat_pushMarker.bind ?_
      rintro _ s2 rfl
      have b2 := b1.trans (BStep.withAF b1.hinv b1.rooted (s1.activeFormatting ++ [.marker]) (by
        intro x t hx; simpa using hx))
      refine (sat_insertElementFor (PlaceOk.of_hinv b2.hinv b2.rooted)).bind ?_
      intro r s3 hins
      have b3 := b2.trans (BStep.of_inserted b2.hinv b2.rooted hins (NewOk.of_isOneOf (isStart_name c1)))
      exact sat_setModeDone b3.hinv (hch .inCaption _ b3 (fun _ _ => trivial) rfl (by decide) (by decide))
    refine sat_ite (fun c2 => ?_) fun c2 => ?_
    · refine sat_clearInsertThen ht.h hr (htmlIn_htmlName (by decide)) (NewOk.of_isOneOf (isStart_name c2)) ?_
      intro r s' b _ _
      exact sat_setModeDone b.hinv (hch .inColumnGroup _ b (fun _ _ => trivial) rfl (by decide) (by decide))
    refine sat_ite (fun c3 => ?_) fun c3 => ?_
    · refine sat_clearInsertThen ht.h hr (htmlIn_htmlName (by decide)) (NewOk.lit (by decide) (by decide)) ?_
      intro r s' b _ _
      exact sat_pure (StepPost.ofReprocess b.hinv (hch .inColumnGroup _ b (fun _ _ => trivial) rfl (by decide) (by decide)))
    refine sat_ite (fun c4 => ?_) fun c4 => ?_
    · refine sat_clearInsertThen ht.h hr (htmlIn_htmlName (by decide)) (NewOk.of_isOneOf (isStart_name c4)) ?_
      intro r s' b _ _
      exact sat_setModeDone b.hinv (hch .inTableBody _ b (fun _ _ => trivial) rfl (by decide) (by decide))
    refine sat_ite (fun c5 => ?_) fun c5 => ?_
    · refine sat_clearInsertThen ht.h hr (htmlIn_htmlName (by decide)) (NewOk.lit (by decide) (by decide)) ?_
      intro r s' b _ _
      exact sat_pure (StepPost.ofReprocess b.hinv (hch .inTableBody _ b (fun _ _ => trivial) rfl (by decide) (by decide)))
    refine sat_ite (fun c6 => ?_) fun c6 => ?_
    · refine sat_unexpected.bind ?_
      rintro _ s1 ⟨-, hq1⟩
      have ht1 := ht.of_qf hq1
      refine (sat_inScopeNamed' ht1.h).bind ?_
      rintro b s2 ⟨hq2, hsp⟩
      have ht2 := ht1.of_qf hq2
      split
      · rename_i hb2
        obtain ⟨pre, x, post, sp⟩ := hsp hb2
        refine sat_popNamedResetThen ht2.h ht2.s (by rw [hq2.mode, hq1.mode]; exact hntt)
          (ht2.rooted (by rw [hq2.mode, hq1.mode]; exact hpre)) sp (by decide) ?_
        intro m s' h1 h2 h3
        exact sat_pure (StepPost.ofReprocess h1 h2 h3)
      · exact sat_pure (StepPost.of_qf ht (hq1.trans hq2) rfl trivial)
    refine sat_ite (fun c7 => ?_) fun c7 => ?_
    · refine (sat_inScopeNamed' ht.h).bind ?_
      rintro b s2 ⟨hq2, hsp⟩
      have ht2 := ht.of_qf hq2
      split
      · rename_i hb2
        obtain ⟨pre, x, post, sp⟩ := hsp hb2
        refine sat_popNamedResetThen ht2.h ht2.s (by rw [hq2.mode]; exact hntt)
          (ht2.rooted (by rw [hq2.mode]; exact hpre)) sp (by decide) ?_
        intro m s' h1 h2 _
        exact sat_setModeDone h1 h2
      · refine sat_unexpected.bind ?_
        rintro _ s3 ⟨-, hq3⟩
        exact sat_pure (StepPost.of_qf ht (hq2.trans hq3) rfl trivial)
    refine sat_ite (fun c8 => ?_) fun c8 => ?_
    · exact sat_unexpected.mono (fun res s' h => StepPost.of_qf ht h.2 (by rw [h.1]; rfl) (by rw [h.1]; trivial))
    refine sat_ite (fun c9 => ?_) fun c9 => ?_
    · refine hh _ s ht hoo (Or.inr ?_)
      simp only [Bool.or_eq_true] at c9
      simp only [headDeleg, Bool.or_eq_true]
      rcases c9 with c9 | c9
      · exact Or.inl (isStart_mono c9 (by decide))
      · exact Or.inr c9
    have hfoster : ∀ s1, QF s s1 → Sat (fosterParentInBody (.tag tag)) s1 (StepPost (.tag tag)) := by
      intro s1 hq
      have hm1 : s1.mode = s.mode := hq.mode
      exact sat_fosterParentInBody hb (ht.of_qf hq) (by rw [hm1]; exact hbl) (by rw [hm1]; exact hnh)
        (fun h => absurd (hm1 ▸ h) hntt) (fun h => absurd (hm1 ▸ h) hnc)
    refine sat_ite (fun c10 => ?_) fun c10 => ?_
    · refine sat_unexpected.bind ?_
      rintro _ s1 ⟨-, hq1⟩
      split
      · have ht1 := ht.of_qf hq1
        have hr1 := ht1.rooted (by rw [hq1.mode]; exact hpre)
        refine (sat_insertAndPopElementFor (PlaceOk.of_hinv ht1.h hr1)).bind ?_
        intro r s2 hins
        have b := BStep.of_inserted ht1.h hr1 hins (NewOk.of_isOneOf (isStart_name c10))
        exact sat_pure (StepPost.of_bstep ht1 (by rw [hq1.mode]; exact hbl) b
          (keeps_triv (by rw [hq1.mode]; exact hneed)) rfl trivial)
      · exact hfoster s1 hq1
    refine sat_ite (fun c11 => ?_) fun c11 => ?_
    · have htail : ∀ (doIt : Bool) (s1 : State), QF s s1 →
          Sat (if doIt = true then do
                  let e ← insertAndPopElementFor tag
                  modS fun s => { s with formElem := some e }
                  pure ProcessResult.done
                else pure ProcessResult.done) s1 (StepPost (.tag tag)) := by
        intro doIt s1 hq1
        split
        · have ht1 := ht.of_qf hq1
          have hr1 := ht1.rooted (by rw [hq1.mode]; exact hpre)
          refine (sat_insertAndPopElementFor (PlaceOk.of_hinv ht1.h hr1)).bind ?_
          intro r s2 hins
          have b := BStep.of_inserted ht1.h hr1 hins (NewOk.of_isOneOf (isStart_name c11))
          refine sat_modS_bind ?_
          have hs2 : SInv s1.mode s2 := ht1.s.of_bstep ht1.h b (by rw [hq1.mode]; exact hbl)
            (keeps_triv (by rw [hq1.mode]; exact hneed))
          have hname : tag.name = "form".toList := by
            have := isStart_name c11
            simp only [isOneOf, List.any_cons, List.any_nil, Bool.or_false, beq_iff_eq] at this
            exact this.symm
          refine sat_pure ⟨b.hinv.withForm hins.el (by rw [hins.nm, hname]; rfl), ?_, trivial⟩
          have hs2' : SInv s2.mode s2 := by rw [b.mode]; exact hs2
          exact hs2'.withForm _
        · exact sat_pure (StepPost.of_qf ht hq1 rfl trivial)
      refine sat_unexpected.bind ?_
      rintro _ s1 ⟨-, hq1⟩
      refine (sat_inHtmlElemNamed (ht.of_qf hq1).h.open_el).bind ?_
      rintro b s2 ⟨-, hq2⟩
      split
      · exact sat_pure_bind (htail _ _ (hq1.trans hq2))
      · refine sat_getS_bind ?_
        exact sat_pure_bind (htail _ _ (hq1.trans hq2))
    refine sat_unexpected.bind ?_
    rintro _ s1 ⟨-, hq1⟩
    exact hfoster s1 hq1

/-! ### `InTableText` -/

theorem sat_flushPendingFoster : ∀ (l : List (SplitStatus × Str)) (s : State), HInv s → Rooted s.dom s.openElems →
    Sat (flushPendingFoster l) s (fun _ s' => BStep s s') := by
  intro l
  induction l with
  | nil => intro s hi hr; exact sat_pure (BStep.of_same hi hr (Same.refl s))
  | cons a rest ih =>
    intro s hi hr
    obtain ⟨sp, text⟩ := a
    unfold flushPendingFoster
    refine (sat_fosterParentInBody_chars hi hr).bind ?_
    rintro res s1 ⟨rfl, b⟩
    dsimp only
    exact (ih s1 b.hinv b.rooted).mono (fun _ s2 b2 => b.trans b2)

theorem sat_flushPendingPlain : ∀ (l : List (SplitStatus × Str)) (s : State), HInv s → Rooted s.dom s.openElems →
    Sat (flushPendingPlain l) s (fun _ s' => BStep s s') := by
  intro l
  induction l with
  | nil => intro s hi hr; exact sat_pure (BStep.of_same hi hr (Same.refl s))
  | cons a rest ih =>
    intro s hi hr
    obtain ⟨sp, text⟩ := a
    unfold flushPendingPlain
    refine (sat_appendText (PlaceOk.of_hinv hi hr)).bind ?_
    rintro res s1 ⟨-, hq⟩
    have b := BStep.of_qf hi hr hq
    exact (ih s1 b.hinv b.rooted).mono (fun _ s2 b2 => b.trans b2)

/-- `orig_mode.take().unwrap()` at the end of `InTableText` and of `flush_pending_table_text`; `k` makes the
answer from the mode taken -/
theorem sat_takeOrigTable {α : Type} {k : Mode → α} {Q : α → State → Prop} {s : State} {om : Mode} (hi : HInv s)
    (h : SInv .inBody s) (ho : s.origMode = some om) (hom : tableMode om = true)
    (hQ : ∀ s', HInv s' → SInv om s' → om ≠ .text → Q (k om) s') :
    Sat (do
      let s ← getS
      match s.origMode with
      | none => panicAt "unwrap-none" "rules.rs:1172" "orig_mode.take().unwrap()"
      | some m =>
        set { s with origMode := none }
        pure (k m)) s Q := by
  obtain ⟨_, _, _, hntt, _, hnt, hnd, _, _, hstk⟩ := tableMode_facts hom
  refine sat_getS_bind ?_
  rw [ho]
  dsimp only
  refine sat_set_bind ?_
  have h1 : SInv om s := h.chmode (by decide) (fun _ => h.root rfl) (hstk _ _)
    (fun hh => by rw [hnd] at hh; cases hh) hnt hntt
  exact sat_pure (hQ _ (hi.withOrig none) (h1.withOrig hnt hntt none) hnt)

/-- the pending table text is inserted (foster-parented if it contains a non-space character); the builder
stays as `InBody` needs it and keeps its original mode -/
theorem sat_flushPendingThen {α : Type} {c : Prop} [Decidable c] {l : List (SplitStatus × Str)} {rest : M α}
    {Q : α → State → Prop} {s : State} {om : Mode} (ht : TI s) (hm : s.mode = .inTableText)
    (ho : s.origMode = some om)
    (hk : ∀ s2, HInv s2 → SInv .inBody s2 → s2.origMode = some om → Sat rest s2 Q) :
    Sat (if c then do parseError "Non-space table text"; flushPendingFoster l; rest
      else do flushPendingPlain l; rest) { s with pendingTableText := [] } Q := by
  have hs : SInv .inTableText s := by have := ht.s; rw [hm] at this; exact this
  have hr : Rooted s.dom s.openElems := hs.root rfl
  have hi0 : HInv { s with pendingTableText := [] } := ht.h.withPending []
  have hs0 : SInv .inBody { s with pendingTableText := [] } :=
    ⟨fun _ => hr, trivial, fun h => (by cases h), hs.headIn, fun h => (by cases h), fun h => (by cases h),
      fun _ => rfl, hs.tmpl, hs.tmodes⟩
  have hfin : ∀ s2, BStep { s with pendingTableText := [] } s2 → Sat rest s2 Q := fun s2 b =>
    hk s2 b.hinv (hs0.of_bstep hi0 b rfl (keeps_triv (fun _ => rfl))) (by rw [b.origMode]; exact ho)
  refine sat_ite (fun _ => ?_) fun _ => ?_
  · refine sat_parseError.bind ?_
    intro _ s1 hq1
    have b1 : BStep { s with pendingTableText := [] } s1 := BStep.of_qf hi0 hr hq1
    refine (sat_flushPendingFoster _ s1 b1.hinv b1.rooted).bind ?_
    exact fun _ s2 b2 => hfin s2 (b1.trans b2)
  · exact (sat_flushPendingPlain _ _ hi0 hr).bind (fun _ s2 b2 => hfin s2 b2)

theorem stepInTableText_spec (_hb : BodySpec) : ∀ (tok : Token) (s : State), TI s → s.mode = .inTableText →
    Sat (stepInTableText tok) s (StepPost tok) := by
  intro tok s ht hm
  have hs : SInv .inTableText s := by have := ht.s; rw [hm] at this; exact this
  have hr : Rooted s.dom s.openElems := hs.root rfl
  obtain ⟨om, ho, hom⟩ := hs.tableText rfl
  unfold stepInTableText
  cases tok
  case nullChar =>
    dsimp only
    exact sat_unexpected.mono (fun res s' h => StepPost.of_qf ht h.2 (by rw [h.1]; rfl) (by rw [h.1]; trivial))
  case chars sp text =>
    dsimp only
    refine sat_modS_bind ?_
    refine sat_pure ⟨ht.h.withPending _, ?_, trivial⟩
    show SInv s.mode _
    rw [hm]
    exact ⟨hs.root, trivial, hs.head, hs.headIn, fun h => (by cases h), fun _ => ⟨om, ho, hom⟩,
      fun h => absurd rfl h, hs.tmpl, hs.tmodes⟩
  all_goals
    dsimp only
    refine sat_getS_bind ?_
    refine sat_modS_bind ?_
    refine sat_flushPendingThen ht hm ho fun s2 f1 f2 f3 => ?_
    exact sat_takeOrigTable f1 f2 f3 hom (fun _ h1 h2 hnt => ⟨h1, h2, rfl, hnt⟩)

/-- `flush_pending_table_text` (the DOCTYPE token in "in table text"): the pending text is inserted as in the
"anything else" arm; the builder is ready to continue in the original (table) mode -/
theorem sat_flushPendingTableText {s : State} (ht : TI s) (hm : s.mode = .inTableText) :
    Sat flushPendingTableText s (fun m s' => HInv s' ∧ SInv m s') := by
  have hs : SInv .inTableText s := by have := ht.s; rw [hm] at this; exact this
  obtain ⟨om, ho, hom⟩ := hs.tableText rfl
  unfold flushPendingTableText
  dsimp only
  refine sat_getS_bind ?_
  refine sat_modS_bind ?_
  refine sat_flushPendingThen ht hm ho fun s2 f1 f2 f3 => ?_
  exact sat_takeOrigTable (k := id) f1 f2 f3 hom (fun _ h1 h2 _ => ⟨h1, h2⟩)

/-! ### `InCaption` -/

/-- generate implied end tags, pop up to the element found by the scope test, clear the list of active
formatting elements up to the last marker (`</caption>`, `</td>`, `</th>`) -/
theorem sat_closeNamedThen {α : Type} {k : M α} {Q : α → State → Prop} {name : Str} {s : State}
    {pre post : List Id} {x : Id}
    (hall : AllEl s.dom s.openElems) (heq : s.openElems = pre ++ x :: post)
    (hx : namedP s.dom name x = true) (hpost : ∀ y ∈ post, namedP s.dom name y = false)
    (hc : cursoryImpliedEnd ⟨nsHtml, name⟩ = false)
    (hk : ∀ s', Fr s s' → s'.openElems = pre → (∀ e ∈ s'.activeFormatting, e ∈ s.activeFormatting) → Sat k s' Q) :
    Sat (do generateImpliedEndTags cursoryImpliedEnd; expectToCloseS name; clearActiveFormattingToMarker; k) s Q := by
  refine (sat_generateImpliedEndTags_keep' hall heq (by rw [namedP_nm hx]; exact hc)).bind ?_
  rintro _ s1 ⟨post0, st, hp, hall1, hnm⟩
  refine (sat_expectToCloseS hall1 st.openElems ?_ ?_).bind ?_
  · unfold namedP; rw [hnm x (by simp)]; exact hx
  · intro y hy
    unfold namedP; rw [hnm y (by simp [hy])]
    exact hpost y (hp y hy)
  · intro _ s2 st2
    refine sat_clearActiveFormattingToMarker.bind ?_
    rintro _ s3 rfl
    refine hk _ ((st.fr.trans st2.fr).withAF _) st2.openElems ?_
    intro e he
    have := mem_clearedAF he
    rw [st2.af, st.af] at this
    exact this

theorem stepInCaption_spec (hb : BodySpec) : ∀ (tok : Token) (s : State), TI s → s.mode = .inCaption →
    Sat (stepInCaption tok) s (StepPost tok) := by
  intro tok s ht hm
  have hbody : ∀ tok, Sat (stepInBody tok) s (StepPost tok) := fun tok =>
    (hb tok s ht (by rw [hm]; rfl) (by rw [hm]; decide) (fun h => by rw [hm] at h; cases h)
      (fun h => by rw [hm] at h; cases h)).mono (fun _ _ h => h.1)
  unfold stepInCaption
  cases tok
  case tag tag =>
    dsimp only
    have hs : SInv .inCaption s := by have := ht.s; rw [hm] at this; exact this
    have hr : Rooted s.dom s.openElems := hs.root rfl
    by_cases c1 : (tag.isStart ["caption", "col", "colgroup", "tbody", "td", "tfoot", "th", "thead", "tr"] ||
        tag.isEnd ["table", "caption"]) = true
    · rw [if_pos c1]
      refine (sat_inScopeNamed' ht.h).bind ?_
      rintro b s1 ⟨hq1, hsp⟩
      have ht1 := ht.of_qf hq1
      have hs1 : SInv .inCaption s1 := hs.of_qf ht.h hq1
      have hr1 : Rooted s1.dom s1.openElems := hs1.root rfl
      split
      · rename_i hb1
        obtain ⟨pre, x, post, sp⟩ := hsp hb1
        have hne : pre ≠ [] := hr1.pre_ne sp.eq (by rw [namedP_nm sp.px]; decide)
        refine sat_closeNamedThen ht1.h.open_el sp.eq sp.px (fun y hy => (sp.above y hy).1) (by decide) ?_
        intro s2 fr ho ha
        have b : BStep s1 s2 := BStep.of_fr ht1.h hr1 (post := x :: post) sp.eq hne fr ho ha
        have hs2 : SInv .inTable s2 := hs1.step_ch ht1.h hr1 b (by decide) trivial (fun h => (by cases h))
          (by decide) (by decide)
        split
        · exact sat_setModeDone b.hinv hs2
        · exact sat_pure (StepPost.ofReprocess b.hinv hs2)
      · refine sat_unexpected.bind ?_
        rintro _ s2 ⟨-, hq2⟩
        exact sat_pure (StepPost.of_qf ht (hq1.trans hq2) rfl trivial)
    rw [if_neg c1]
    refine sat_ite (fun c2 => ?_) fun c2 => ?_
    · exact sat_unexpected.mono (fun res s' h => StepPost.of_qf ht h.2 (by rw [h.1]; rfl) (by rw [h.1]; trivial))
    exact hbody _
  all_goals exact hbody _

/-! ### `InCell` -/

theorem stepInCell_spec (hb : BodySpec) : ∀ (tok : Token) (s : State), TI s → s.mode = .inCell →
    Sat (stepInCell tok) s (StepPost tok) := by
  intro tok s ht hm
  have hbody : ∀ tok, isTagEnd tok ["td", "th"] = false → Sat (stepInBody tok) s (StepPost tok) := fun tok h =>
    (hb tok s ht (by rw [hm]; rfl) (by rw [hm]; decide) (fun h => by rw [hm] at h; cases h)
      (fun _ => h)).mono (fun _ _ h => h.1)
  unfold stepInCell
  cases tok
  case tag tag =>
    dsimp only
    have hs : SInv .inCell s := by have := ht.s; rw [hm] at this; exact this
    have hr : Rooted s.dom s.openElems := hs.root rfl
    -- `close_the_cell` below a `td`/`th`, then `Reprocess(InRow)`
    have hclose : ∀ s1, QF s s1 → ∀ pre x post, s1.openElems = pre ++ x :: post → tdTh (nm s1.dom x) = true →
        (∀ y ∈ post, tdTh (nm s1.dom y) = false) →
        Sat (do closeTheCell; pure (ProcessResult.reprocess Mode.inRow (Token.tag tag))) s1
          (StepPost (.tag tag)) := by
      intro s1 hq1 pre x post heq hx hpost
      have hi1 := ht.h.of_qf hq1
      have hs1 : SInv .inCell s1 := hs.of_qf ht.h hq1
      have hr1 : Rooted s1.dom s1.openElems := hs1.root rfl
      have hne : pre ≠ [] := hr1.pre_ne heq (by intro e; rw [e] at hx; revert hx; decide)
      refine (sat_closeTheCell hi1.open_el heq hx hpost).bind ?_
      rintro _ s2 ⟨fr, ho, ha⟩
      have b : BStep s1 s2 := BStep.of_fr hi1 hr1 (post := x :: post) heq hne fr ho ha
      exact sat_pure (StepPost.ofReprocess b.hinv (hs1.step_ch hi1 hr1 b (by decide) trivial (fun h => (by cases h))
          (by decide) (by decide)))
    refine sat_ite (fun c1 => ?_) fun c1 => ?_
    · have htd : tdTh ⟨nsHtml, tag.name⟩ = true := by
        simp only [tdTh, htmlIn, isEnd_name c1, Bool.and_true, beq_self_eq_true]
      refine (sat_inScopeNamedS' ht.h).bind ?_
      rintro b s1 ⟨hq1, hsp⟩
      have hi1 := ht.h.of_qf hq1
      have hs1 : SInv .inCell s1 := hs.of_qf ht.h hq1
      have hr1 : Rooted s1.dom s1.openElems := hs1.root rfl
      split
      · rename_i hb1
        obtain ⟨pre, x, post, sp⟩ := hsp hb1
        have hne : pre ≠ [] := hr1.pre_ne sp.eq (by
          rw [namedP_nm sp.px]; intro e; rw [e] at htd; revert htd; decide)
        refine sat_closeNamedThen hi1.open_el sp.eq sp.px (fun y hy => (sp.above y hy).1) (tdTh_not_cursory htd) ?_
        intro s2 fr ho ha
        have b : BStep s1 s2 := BStep.of_fr hi1 hr1 (post := x :: post) sp.eq hne fr ho ha
        exact sat_setModeDone b.hinv (hs1.step_ch hi1 hr1 b (by decide) trivial (fun h => (by cases h))
          (by decide) (by decide))
      · refine sat_unexpected.bind ?_
        rintro _ s2 ⟨-, hq2⟩
        exact sat_pure (StepPost.of_qf ht (hq1.trans hq2) rfl trivial)
    refine sat_ite (fun c2 => ?_) fun c2 => ?_
    · refine (sat_inScopeElemIn' ht.h).bind ?_
      rintro b s1 ⟨hq1, hsp⟩
      split
      · rename_i hb1
        obtain ⟨pre, x, post, sp⟩ := hsp hb1
        exact hclose s1 hq1 pre x post sp.eq sp.px (fun y hy => (sp.above y hy).1)
      · exact sat_unexpected.mono (fun res s' h => StepPost.of_qf ht (hq1.trans h.2) (by rw [h.1]; rfl) (by rw [h.1]; trivial))
    refine sat_ite (fun c3 => ?_) fun c3 => ?_
    · exact sat_unexpected.mono (fun res s' h => StepPost.of_qf ht h.2 (by rw [h.1]; rfl) (by rw [h.1]; trivial))
    refine sat_ite (fun c4 => ?_) fun c4 => ?_
    · refine (sat_inScopeNamedS' ht.h).bind ?_
      rintro b s1 ⟨hq1, _⟩
      split
      · have hs1 : SInv .inCell s1 := hs.of_qf ht.h hq1
        obtain ⟨pre, post, x, heq, hx, hpx, hpost⟩ :=
          split_last_sat (p := fun h => tdTh (nm s1.dom h)) hs1.stack
        have hxm : pre = pre.dropLast ++ [x] := dropLast_append_getLast hx
        refine hclose s1 hq1 pre.dropLast x post ?_ hpx hpost
        rw [heq]; conv => lhs; rw [hxm]
        simp
      · exact sat_unexpected.mono (fun res s' h => StepPost.of_qf ht (hq1.trans h.2) (by rw [h.1]; rfl) (by rw [h.1]; trivial))
    exact hbody _ (by simpa [isTagEnd] using c1)
  all_goals exact hbody _ rfl

/-! ### `InColumnGroup` -/

theorem stepInColumnGroup_spec (hh : HeadSpec) (hb : BodySpec) : ∀ (tok : Token) (s : State), TI s →
    s.mode = .inColumnGroup → Sat (stepInColumnGroup tok) s (StepPost tok) := by
  intro tok s ht hm
  have hs : SInv .inColumnGroup s := by have := ht.s; rw [hm] at this; exact this
  have hr : Rooted s.dom s.openElems := hs.root rfl
  have hbody : ∀ tok, Sat (stepInBody tok) s (StepPost tok) := fun tok =>
    (hb tok s ht (by rw [hm]; rfl) (by rw [hm]; decide) (fun h => by rw [hm] at h; cases h)
      (fun h => by rw [hm] at h; cases h)).mono (fun _ _ h => h.1)
  obtain ⟨top, hl⟩ := getLast?_of_ne_nil hr.ne_nil
  have htopel := ht.h.open_el top (getLast?_mem hl)
  -- pop the current node, a `colgroup`
  have hpop : ∀ s1, QF s s1 → ((nm s.dom top).ns == nsHtml && (nm s.dom top).loc == "colgroup".toList) = true →
      Sat pop s1 (fun _ s2 => HInv s2 ∧ SInv .inTable s2) := by
    intro s1 hq1 hb1
    have hi1 := ht.h.of_qf hq1
    have hs1 : SInv .inColumnGroup s1 := hs.of_qf ht.h hq1
    have hr1 : Rooted s1.dom s1.openElems := hs1.root rfl
    have hl1 : s1.openElems.getLast? = some top := by rw [hq1.openElems]; exact hl
    have heq := dropLast_append_getLast hl1
    have hne : s1.openElems.dropLast ≠ [] := hr1.pre_ne heq (by
      rw [nm_ext hq1.ext htopel, namedP_nm (name := "colgroup".toList) hb1]; decide)
    refine (sat_pop hl1).mono ?_
    rintro _ s2 ⟨-, st⟩
    have b : BStep s1 s2 := BStep.of_st hi1 hr1 heq hne st
    exact ⟨b.hinv, hs1.step_ch hi1 hr1 b (by decide) trivial (fun h => (by cases h)) (by decide) (by decide)⟩
  have hdone : ∀ {tok : Token} {res : ProcessResult} {s' : State}, res = .done ∧ QF s s' → StepPost tok res s' :=
    fun h => StepPost.of_qf ht h.2 (by rw [h.1]; rfl) (by rw [h.1]; trivial)
  have helse : ∀ tok, Sat (do
      let b ← currentNodeNamed "colgroup"
      if b = true then do
          let _ ← pop
          pure (ProcessResult.reprocess Mode.inTable tok)
        else unexpected) s (StepPost tok) := by
    intro tok
    refine (sat_currentNodeNamed hl htopel).bind ?_
    rintro b s1 ⟨rfl, hq1⟩
    split
    · rename_i hb1
      refine (hpop s1 hq1 hb1).bind ?_
      rintro _ s2 ⟨h1, h2⟩
      exact sat_pure (StepPost.ofReprocess h1 h2)
    · exact sat_unexpected.mono (fun res s' h => hdone ⟨h.1, hq1.trans h.2⟩)
  unfold stepInColumnGroup
  dsimp only
  cases tok
  case tag tag =>
    dsimp only
    refine sat_ite (fun c1 => hbody _) fun c1 => ?_
    refine sat_ite (fun c2 => ?_) fun c2 => ?_
    · refine (sat_insertAndPopElementFor (PlaceOk.of_hinv ht.h hr)).bind ?_
      intro r s2 hins
      have b := BStep.of_inserted ht.h hr hins (NewOk.of_isOneOf (isStart_name c2))
      exact sat_pure (StepPost.of_bstep ht (by rw [hm]; rfl) b (keeps_triv (by rw [hm]; exact fun _ => rfl)) rfl trivial)
    refine sat_ite (fun c3 => ?_) fun c3 => ?_
    · refine (sat_currentNodeNamed hl htopel).bind ?_
      rintro b s1 ⟨rfl, hq1⟩
      split
      · rename_i hb1
        refine (hpop s1 hq1 hb1).bind ?_
        rintro _ s2 ⟨h1, h2⟩
        exact sat_setModeDone h1 h2
      · refine sat_unexpected.bind ?_
        rintro _ s2 ⟨-, hq2⟩
        exact sat_pure (hdone ⟨rfl, hq1.trans hq2⟩)
    refine sat_ite (fun c4 => sat_unexpected.mono (fun res s' h => hdone h)) fun c4 => ?_
    refine sat_ite (fun c5 => ?_) fun c5 => ?_
    · refine hh _ s ht (by rw [hm]; rfl) (Or.inr ?_)
      simp only [Bool.or_eq_true] at c5
      simp only [headDeleg, Bool.or_eq_true]
      rcases c5 with c5 | c5
      · exact Or.inl (isStart_mono c5 (by decide))
      · exact Or.inr c5
    exact helse _
  case chars sp text =>
    cases sp
    · dsimp only
      exact sat_pure (StepPost.of_same ht (Same.refl s) rfl trivial)
    · dsimp only
      exact (sat_appendText (PlaceOk.of_hinv ht.h hr)).mono (fun res s' h => hdone h)
    · dsimp only
      exact helse _
  case comment text =>
    dsimp only
    exact (sat_appendComment (PlaceOk.of_hinv ht.h hr)).mono (fun res s' h => hdone h)
  case eof => exact hbody _
  case nullChar => exact helse _

/-! ### clearing the stack back to a table body / table row context -/

private theorem ctx_split {d : Dom} {set : EName → Bool} {l pre post pre' post' : List Id} {x : Id}
    (h1 : l = pre ++ x :: post) (hx : set (nm d x) = true)
    (h2 : l = pre' ++ post') (hpost' : ∀ y ∈ post', set (nm d y) = false) :
    ∃ t, pre' = pre ++ x :: t ∧ post = t ++ post' := by
  rw [h1] at h2
  rcases List.append_eq_append_iff.mp h2 with ⟨a', e1, e2⟩ | ⟨c', e1, e2⟩
  · cases a' with
    | nil =>
      exfalso
      simp only [List.nil_append] at e2
      have := hpost' x (by rw [← e2]; exact List.mem_cons_self)
      rw [hx] at this; cases this
    | cons a t =>
      simp only [List.cons_append, List.cons.injEq] at e2
      obtain ⟨rfl, e2⟩ := e2
      exact ⟨t, e1, e2⟩
  · exfalso
    have := hpost' x (by rw [e2]; exact List.mem_append_right _ List.mem_cons_self)
    rw [hx] at this; cases this

/-- `pop_until_current(ctx)` when an element `x` of the context set, not the root, is on the stack:
the loop stops at or above `x` -/
theorem sat_clearCtx {set : EName → Bool} {s : State} {pre post : List Id} {x : Id} (hi : HInv s)
    (hr : Rooted s.dom s.openElems) (hset : set htmlName = true) (heq : s.openElems = pre ++ x :: post)
    (hx : set (nm s.dom x) = true) :
    Sat (popUntilCurrent set) s (fun _ s1 => ∃ t post' x', post = t ++ post' ∧ St s s1 (pre ++ x :: t) ∧
      (x :: t).getLast? = some x' ∧ set (nm s.dom x') = true ∧ BStep s s1) := by
  refine (sat_popUntilCurrent_root hi hr hset).mono ?_
  rintro _ s1 ⟨pre', post', x', heq', st, hx', hsx', hpost', b⟩
  obtain ⟨t, e1, e2⟩ := ctx_split heq hx heq' hpost'
  subst e1
  refine ⟨t, post', x', e2, st, ?_, hsx', b⟩
  simpa [List.getLast?_append] using hx'

private theorem rowctx_tr {n : EName} (h1 : tableRowContext n = true) (h2 : tableScope n = false) :
    (n.ns == nsHtml && n.loc == "tr".toList) = true := by
  cases n with
  | mk ns loc =>
    simp only [tableRowContext, tableScope, htmlIn, isOneOf, List.any_cons, List.any_nil, Bool.or_false,
      Bool.and_eq_true, Bool.or_eq_true, beq_iff_eq, Bool.and_eq_false_iff, Bool.or_eq_false_iff,
      beq_eq_false_iff_ne, ne_eq] at h1 h2 ⊢
    obtain ⟨hns, hl⟩ := h1
    refine ⟨hns, ?_⟩
    rcases h2 with h2 | ⟨h3, h4, h5⟩
    · exact absurd hns h2
    · rcases hl with hl | hl | hl
      · exact hl.symm
      · exact absurd hl h5
      · exact absurd hl h3

theorem sat_clearCtxPopThen {α : Type} {k : M α} {Q : α → State → Prop} {set : EName → Bool} {s : State}
    {pre post : List Id} {x : Id} (hi : HInv s) (hr : Rooted s.dom s.openElems) (hset : set htmlName = true)
    (heq : s.openElems = pre ++ x :: post) (hx : set (nm s.dom x) = true) (hpre : pre ≠ [])
    (hk : ∀ s', BStep s s' → Sat k s' Q) :
    Sat (do popUntilCurrent set; let _ ← pop; k) s Q := by
  refine (sat_clearCtx hi hr hset heq hx).bind ?_
  rintro _ s1 ⟨t, post', x', _, st, hx', _, b⟩
  have hl1 : s1.openElems.getLast? = some x' := by
    rw [st.openElems]; simpa [List.getLast?_append] using hx'
  have hlen : 2 ≤ s1.openElems.length := by
    rw [st.openElems]
    have : 0 < pre.length := List.length_pos_iff.mpr hpre
    simp; omega
  refine (sat_pop hl1).bind ?_
  rintro _ s2 ⟨-, st2⟩
  exact hk s2 (b.trans (BStep.of_st b.hinv b.rooted (dropLast_append_getLast hl1) (dropLast_ne_nil hlen) st2))

theorem sat_clearRowPopThen {α : Type} {k : M α} {Q : α → State → Prop} {site : String} {s : State}
    {pre post : List Id} {x : Id} (hi : HInv s) (hr : Rooted s.dom s.openElems)
    (sp : TopSplit s.dom tableScope (namedP s.dom "tr".toList) s.openElems pre x post)
    (hk : ∀ s', BStep s s' → Sat k s' Q) :
    Sat (do popUntilCurrent tableRowContext; popTr site; k) s Q := by
  have hxn := namedP_nm sp.px
  have hpre : pre ≠ [] := hr.pre_ne sp.eq (by rw [hxn]; decide)
  refine (sat_clearCtx hi hr (htmlIn_htmlName (by decide)) sp.eq (by rw [hxn]; decide)).bind ?_
  rintro _ s1 ⟨t, post', x', hpost, st, hx', hsx', b⟩
  have hl1 : s1.openElems.getLast? = some x' := by
    rw [st.openElems]; simpa [List.getLast?_append] using hx'
  have hlen : 2 ≤ s1.openElems.length := by
    rw [st.openElems]
    have : 0 < pre.length := List.length_pos_iff.mpr hpre
    simp; omega
  -- the current node is a `tr`
  have htr : ((nm s.dom x').ns == nsHtml && (nm s.dom x').loc == "tr".toList) = true := by
    have hmem : x' ∈ x :: t := List.mem_of_getLast? hx'
    rcases List.mem_cons.mp hmem with e | hm
    · rw [e]; exact sp.px
    · exact rowctx_tr hsx' (sp.above x' (by rw [hpost]; exact List.mem_append_left _ hm)).2
  have hx'mem : x' ∈ s.openElems := by
    have : x' ∈ s1.openElems := getLast?_mem hl1
    rw [st.openElems] at this
    rw [sp.eq, hpost]
    rcases List.mem_append.mp this with h | h
    · exact List.mem_append_left _ h
    · rcases List.mem_cons.mp h with h | h
      · rw [h]; simp
      · simp [h]
  unfold popTr
  refine Sat.bind (m := do
      let node ← pop
      if (!(← htmlElemNamed node "tr")) = true then
        panicAt "assert" site "assert!(self.html_elem_named(node, name))"
      else pure ()) (Q := fun _ s' => BStep s s') ?_ (fun _ s' h => hk s' h)
  refine (sat_pop hl1).bind ?_
  rintro node s2 ⟨rfl, st2⟩
  have b2 : BStep s s2 :=
    b.trans (BStep.of_st b.hinv b.rooted (dropLast_append_getLast hl1) (dropLast_ne_nil hlen) st2)
  have hel := hi.open_el node hx'mem
  refine (sat_htmlElemNamed (hel.ext b2.ext)).bind ?_
  rintro bb s3 ⟨rfl, hq3⟩
  rw [nm_ext b2.ext hel, htr]
  simp only [Bool.not_true, Bool.false_eq_true, if_false]
  exact sat_pure (b2.trans (BStep.of_qf b2.hinv b2.rooted hq3))

/-! ### `InTableBody` -/

private theorem tableOuterBody_ctx {n : EName} (h : tableOuterBody n = true) : tableBodyContext n = true := by
  simp only [tableOuterBody, tableBodyContext, htmlIn, Bool.and_eq_true] at h ⊢
  exact ⟨h.1, isOneOf_mono h.2 (by decide)⟩

theorem stepInTableBody_spec (htb : TableSpec) : ∀ (tok : Token) (s : State), TI s → s.mode = .inTableBody →
    Sat (stepInTableBody tok) s (StepPost tok) := by
  intro tok s ht hm
  have hs : SInv .inTableBody s := by have := ht.s; rw [hm] at this; exact this
  have hr : Rooted s.dom s.openElems := hs.root rfl
  have htable : ∀ tok, Sat (stepInTable tok) s (StepPost tok) := fun tok => htb tok s ht (by rw [hm]; rfl)
  have hdone : ∀ {tok : Token} {res : ProcessResult} {s' : State}, res = .done ∧ QF s s' → StepPost tok res s' :=
    fun h => StepPost.of_qf ht h.2 (by rw [h.1]; rfl) (by rw [h.1]; trivial)
  have hch : ∀ (m' : Mode) s', BStep s s' → (∀ d l, ModeStack d m' l) → needsHead m' = false → m' ≠ .text →
      m' ≠ .inTableText → SInv m' s' := fun m' s' b h1 h2 h3 h4 =>
    hs.step_ch ht.h hr b (by decide) (h1 _ _) (fun h => by rw [h2] at h; cases h) h3 h4
  unfold stepInTableBody
  cases tok
  case tag tag =>
    dsimp only
    refine sat_ite (fun c1 => ?_) fun c1 => ?_
    · refine sat_clearInsertThen ht.h hr (htmlIn_htmlName (by decide)) (NewOk.of_isOneOf (isStart_name c1)) ?_
      intro r s' b _ _
      exact sat_setModeDone b.hinv (hch .inRow _ b (fun _ _ => trivial) rfl (by decide) (by decide))
    refine sat_ite (fun c2 => ?_) fun c2 => ?_
    · refine sat_unexpected.bind ?_
      rintro _ s1 ⟨-, hq1⟩
      have b1 := BStep.of_qf ht.h hr hq1
      refine sat_clearInsertThen b1.hinv b1.rooted (htmlIn_htmlName (by decide)) (NewOk.lit (by decide) (by decide)) ?_
      intro r s' b _ _
      exact sat_pure (StepPost.ofReprocess b.hinv (hch .inRow _ (b1.trans b) (fun _ _ => trivial) rfl (by decide) (by decide)))
    refine sat_ite (fun c3 => ?_) fun c3 => ?_
    · refine (sat_inScopeNamedS' ht.h).bind ?_
      rintro b s1 ⟨hq1, hsp⟩
      have b1 := BStep.of_qf ht.h hr hq1
      split
      · rename_i hb1
        obtain ⟨pre, x, post, sp⟩ := hsp hb1
        have hxn := namedP_nm sp.px
        have hctx : tableBodyContext ⟨nsHtml, tag.name⟩ = true := by
          simp only [tableBodyContext, htmlIn, beq_self_eq_true, Bool.true_and]
          exact isOneOf_mono (isEnd_name c3) (by decide)
        have hne : pre ≠ [] := b1.rooted.pre_ne sp.eq (by
          rw [hxn]; intro e; simp only [htmlName, EName.mk.injEq] at e
          have := isEnd_name c3; rw [e.2] at this; revert this; decide)
        refine sat_clearCtxPopThen b1.hinv b1.rooted rfl sp.eq (by rw [hxn]; exact hctx) hne ?_
        intro s2 b2
        exact sat_setModeDone b2.hinv (hch .inTable _ (b1.trans b2) (fun _ _ => trivial) rfl (by decide) (by decide))
      · refine sat_unexpected.bind ?_
        rintro _ s2 ⟨-, hq2⟩
        exact sat_pure (hdone ⟨rfl, hq1.trans hq2⟩)
    refine sat_ite (fun c4 => ?_) fun c4 => ?_
    · refine (sat_inScopeElemIn' ht.h).bind ?_
      rintro b s1 ⟨hq1, hsp⟩
      have b1 := BStep.of_qf ht.h hr hq1
      split
      · rename_i hb1
        obtain ⟨pre, x, post, sp⟩ := hsp hb1
        have hpx : tableOuterBody (nm s1.dom x) = true := sp.px
        have hne : pre ≠ [] := b1.rooted.pre_ne sp.eq (by
          intro e; rw [e] at hpx; revert hpx; decide)
        refine sat_clearCtxPopThen b1.hinv b1.rooted rfl sp.eq (tableOuterBody_ctx hpx) hne ?_
        intro s2 b2
        exact sat_pure (StepPost.ofReprocess b2.hinv (hch .inTable _ (b1.trans b2) (fun _ _ => trivial) rfl (by decide) (by decide)))
      · exact sat_unexpected.mono (fun res s' h => hdone ⟨h.1, hq1.trans h.2⟩)
    refine sat_ite (fun c5 => sat_unexpected.mono (fun res s' h => hdone h)) fun c5 => ?_
    exact htable _
  all_goals exact htable _

/-! ### `InRow` -/

theorem stepInRow_spec (htb : TableSpec) : ∀ (tok : Token) (s : State), TI s → s.mode = .inRow →
    Sat (stepInRow tok) s (StepPost tok) := by
  intro tok s ht hm
  have hs : SInv .inRow s := by have := ht.s; rw [hm] at this; exact this
  have hr : Rooted s.dom s.openElems := hs.root rfl
  have htable : ∀ tok, Sat (stepInTable tok) s (StepPost tok) := fun tok => htb tok s ht (by rw [hm]; rfl)
  have hdone : ∀ {tok : Token} {res : ProcessResult} {s' : State}, res = .done ∧ QF s s' → StepPost tok res s' :=
    fun h => StepPost.of_qf ht h.2 (by rw [h.1]; rfl) (by rw [h.1]; trivial)
  have hch : ∀ (m' : Mode) s', BStep s s' → (∀ d l, ModeStack d m' l) → needsHead m' = false → m' ≠ .text →
      m' ≠ .inTableText → SInv m' s' := fun m' s' b h1 h2 h3 h4 =>
    hs.step_ch ht.h hr b (by decide) (h1 _ _) (fun h => by rw [h2] at h; cases h) h3 h4
  -- close the row after a successful scope test, reprocess in `InTableBody`
  have hcloseRe : ∀ (tok : Token) s1, QF s s1 →
      (∃ pre x post, TopSplit s1.dom tableScope (namedP s1.dom "tr".toList) s1.openElems pre x post) →
      Sat (do popUntilCurrent tableRowContext; popTr "mod.rs:637"; pure (ProcessResult.reprocess Mode.inTableBody tok))
        s1 (StepPost tok) := by
    rintro tok s1 hq1 ⟨pre, x, post, sp⟩
    have b1 := BStep.of_qf ht.h hr hq1
    refine sat_clearRowPopThen b1.hinv b1.rooted sp ?_
    intro s2 b2
    exact sat_pure (StepPost.ofReprocess b2.hinv (hch .inTableBody _ (b1.trans b2) (fun _ _ => trivial) rfl (by decide) (by decide)))
  unfold stepInRow
  cases tok
  case tag tag =>
    dsimp only
    refine sat_ite (fun c1 => ?_) fun c1 => ?_
    · refine sat_clearInsertThen ht.h hr (htmlIn_htmlName (by decide)) (NewOk.of_isOneOf (isStart_name c1)) ?_
      intro r s2 b hl hn
      refine sat_setMode.bind ?_
      rintro _ s3 rfl
      refine sat_pushMarker.bind ?_
      rintro _ s4 rfl
      have hcell : SInv .inCell s2 := hs.step_ch ht.h hr b (by decide)
        ⟨r, getLast?_mem hl, by
          rw [hn]; simp only [tdTh, htmlIn, beq_self_eq_true, Bool.true_and]
          exact isOneOf_mono (isStart_name c1) (by decide)⟩
        (fun h => (by cases h)) (by decide) (by decide)
      refine sat_pure ⟨?_, ?_, trivial⟩
      · exact (b.hinv.withMode .inCell).withAF _ (fun x t hx => b.hinv.af x t (by simpa using hx))
      · exact (hcell.withMode .inCell).withAF _
    refine sat_ite (fun c2 => ?_) fun c2 => ?_
    · refine (sat_inScopeNamed' ht.h).bind ?_
      rintro b s1 ⟨hq1, hsp⟩
      have b1 := BStep.of_qf ht.h hr hq1
      split
      · rename_i hb1
        obtain ⟨pre, x, post, sp⟩ := hsp hb1
        refine sat_clearRowPopThen b1.hinv b1.rooted sp ?_
        intro s2 b2
        exact sat_setModeDone b2.hinv (hch .inTableBody _ (b1.trans b2) (fun _ _ => trivial) rfl (by decide) (by decide))
      · refine sat_unexpected.bind ?_
        rintro _ s2 ⟨-, hq2⟩
        exact sat_pure (hdone ⟨rfl, hq1.trans hq2⟩)
    refine sat_ite (fun c3 => ?_) fun c3 => ?_
    · refine (sat_inScopeNamed' ht.h).bind ?_
      rintro b s1 ⟨hq1, hsp⟩
      split
      · rename_i hb1
        exact hcloseRe _ s1 hq1 (hsp hb1)
      · exact sat_unexpected.mono (fun res s' h => hdone ⟨h.1, hq1.trans h.2⟩)
    refine sat_ite (fun c4 => ?_) fun c4 => ?_
    · refine (sat_inScopeNamedS' ht.h).bind ?_
      rintro b s1 ⟨hq1, -⟩
      split
      · refine (sat_inScopeNamed' (ht.h.of_qf hq1)).bind ?_
        rintro b' s2 ⟨hq2, hsp⟩
        split
        · rename_i hb2
          exact hcloseRe _ s2 (hq1.trans hq2) (hsp hb2)
        · exact sat_pure (hdone ⟨rfl, hq1.trans hq2⟩)
      · exact sat_unexpected.mono (fun res s' h => hdone ⟨h.1, hq1.trans h.2⟩)
    refine sat_ite (fun c5 => sat_unexpected.mono (fun res s' h => hdone h)) fun c5 => ?_
    exact htable _
  all_goals exact htable _

end H5V.Lemmas.TBSafe
