import H5V.Lemmas.HtmlTBSafeRules0
/-!
# Tree-builder safety, InBody rules: tag-set facts, step combinators, the popping helpers

Everything here lives in the sub-namespace `IB` (helpers of the `InBody` proof).
-/
namespace H5V.Lemmas.TBSafe.IB
open H5V.Model.HtmlTB
open H5V.Model.Dom (Id QualName Attr NodeOrText SinkOp Output ElementFlags QuirksMode Dom NodeData Node)

variable {al : Allow}

/-! ### `isOneOf` -/

theorem isOneOf_iff {n : Str} {l : List String} : isOneOf n l = true ↔ ∃ x ∈ l, x.toList = n := by
  unfold isOneOf
  simp [List.any_eq_true]

theorem isOneOf_sub {n : Str} {l1 l2 : List String} (hs : ∀ x ∈ l1, x ∈ l2) (h : isOneOf n l1 = true) :
    isOneOf n l2 = true := by
  obtain ⟨x, hx, hn⟩ := isOneOf_iff.mp h
  exact isOneOf_iff.mpr ⟨x, hs x hx, hn⟩

theorem isOneOf_not_sub {n : Str} {l1 l2 : List String} (hs : ∀ x ∈ l1, x ∈ l2) (h : isOneOf n l2 = false) :
    isOneOf n l1 = false := by
  cases h1 : isOneOf n l1 with
  | false => rfl
  | true => rw [isOneOf_sub hs h1] at h; cases h

theorem isOneOf_disj {n : Str} {l1 l2 : List String} (hs : ∀ x ∈ l1, x ∉ l2) (h : isOneOf n l1 = true) :
    isOneOf n l2 = false := by
  cases h2 : isOneOf n l2 with
  | false => rfl
  | true =>
    obtain ⟨x, hx, hn⟩ := isOneOf_iff.mp h
    obtain ⟨y, hy, hm⟩ := isOneOf_iff.mp h2
    have : x = y := String.toList_inj.mp (hn.trans hm.symm)
    subst this
    exact absurd hy (hs x hx)

theorem isOneOf_append {n : Str} {l1 l2 : List String} (h1 : isOneOf n l1 = false) (h2 : isOneOf n l2 = false) :
    isOneOf n (l1 ++ l2) = false := by
  unfold isOneOf at *
  rw [List.any_append, h1, h2]; rfl

theorem isOneOf_single {n : Str} {x : String} (h : isOneOf n [x] = true) : n = x.toList := by
  obtain ⟨y, hy, hn⟩ := isOneOf_iff.mp h
  rw [List.mem_singleton.mp hy] at hn; exact hn.symm

theorem isStart_name {tag : Tag} {l : List String} (h : tag.isStart l = true) :
    tag.kind = .startTag ∧ isOneOf tag.name l = true := by
  unfold Tag.isStart at h
  simp only [Bool.and_eq_true, beq_iff_eq] at h
  exact h

theorem isEnd_name {tag : Tag} {l : List String} (h : tag.isEnd l = true) :
    tag.kind = .endTag ∧ isOneOf tag.name l = true := by
  unfold Tag.isEnd at h
  simp only [Bool.and_eq_true, beq_iff_eq] at h
  exact h

theorem isStart_false {tag : Tag} {l : List String} (hk : tag.kind = .startTag) (h : ¬ tag.isStart l = true) :
    isOneOf tag.name l = false := by
  unfold Tag.isStart at h
  cases h1 : isOneOf tag.name l with
  | false => rfl
  | true => exact absurd (by simp [hk, h1]) h

theorem isEnd_false {tag : Tag} {l : List String} (hk : tag.kind = .endTag) (h : ¬ tag.isEnd l = true) :
    isOneOf tag.name l = false := by
  unfold Tag.isEnd at h
  cases h1 : isOneOf tag.name l with
  | false => rfl
  | true => exact absurd (by simp [hk, h1]) h

/-! ### names that may be popped: anything but `html`, `td`, `th` -/

def popOk (n : EName) : Bool := !(htmlIn n ["html", "td", "th"])

theorem popOk_lit {x : String} (h : x ∉ ["html", "td", "th"]) : popOk ⟨nsHtml, x.toList⟩ = true := by
  rw [popOk, htmlIn_html, isOneOf_toList]
  simpa using h

theorem popOk_ne_html {n : EName} (h : popOk n = true) : n ≠ htmlName := by
  rintro rfl; revert h; decide

theorem popOk_tdTh {n : EName} (h : popOk n = true) : tdTh n = false := by
  cases ht : tdTh n with
  | false => rfl
  | true =>
    unfold tdTh htmlIn at ht
    simp only [Bool.and_eq_true] at ht
    unfold popOk htmlIn at h
    rw [ht.1, isOneOf_sub (l2 := ["html", "td", "th"]) (by decide) ht.2] at h
    cases h

theorem popOk_of_htmlIn {n : EName} {l : List String} (hd : ∀ x ∈ l, x ∉ ["html", "td", "th"])
    (h : htmlIn n l = true) : popOk n = true := by
  unfold htmlIn at h
  simp only [Bool.and_eq_true] at h
  unfold popOk htmlIn
  rw [isOneOf_disj hd h.2]; simp

theorem popOk_of_not_htmlIn {n : EName} {l : List String} (hs : ∀ x ∈ ["html", "td", "th"], x ∈ l)
    (h : htmlIn n l = false) : popOk n = true := by
  unfold popOk
  cases h1 : htmlIn n ["html", "td", "th"] with
  | false => rfl
  | true =>
    unfold htmlIn at h h1
    simp only [Bool.and_eq_true] at h1
    rw [h1.1, isOneOf_sub hs h1.2] at h
    cases h

theorem popOk_of_not_default {n : EName} (h : defaultScope n = false) : popOk n = true := by
  unfold defaultScope at h
  simp only [Bool.or_eq_false_iff] at h
  exact popOk_of_not_htmlIn (l := htmlDefaultScopeNames) (by decide) h.1.1.1

theorem popOk_of_not_button {n : EName} (h : buttonScope n = false) : popOk n = true := by
  unfold buttonScope at h
  split at h
  · cases h
  · exact popOk_of_not_default h

theorem popOk_of_not_listItem {n : EName} (h : listItemScope n = false) : popOk n = true := by
  unfold listItemScope at h
  split at h
  · cases h
  · exact popOk_of_not_default h

theorem popOk_of_cursory {n : EName} (h : cursoryImpliedEnd n = true) : popOk n = true :=
  popOk_of_htmlIn (l := cursoryImpliedEndNames) (by decide) h

theorem popOk_of_impliedExcept {e : Str} {n : EName} (h : impliedExcept e n = true) : popOk n = true := by
  unfold impliedExcept at h
  split at h
  · cases h
  · exact popOk_of_cursory h

theorem popOk_of_heading {n : EName} (h : headingTag n = true) : popOk n = true :=
  popOk_of_htmlIn (by decide) h

theorem popOk_of_not_special {n : EName} (h : specialTag n = false) : popOk n = true := by
  unfold specialTag at h
  simp only [Bool.or_eq_false_iff] at h
  exact popOk_of_not_htmlIn (l := htmlSpecialTagNames) (by decide) h.1.1.1

theorem popOk_of_not_extraSpecial {n : EName} (h : extraSpecial n = false) : popOk n = true := by
  unfold extraSpecial at h
  split at h
  · rename_i h1; exact popOk_of_htmlIn (by decide) h1
  · exact popOk_of_not_special h

theorem popOk_mk {name : Str} (h : isOneOf name ["html", "td", "th"] = false) : popOk ⟨nsHtml, name⟩ = true := by
  unfold popOk htmlIn
  simp only [h]; simp

theorem namedP_of_nm {d : Dom} {name : Str} {x : Id} (h : nm d x = ⟨nsHtml, name⟩) : namedP d name x = true := by
  unfold namedP; rw [h]; simp

/-! ### new elements -/

theorem newOk_mk {name : Str} (h : isOneOf name ["template", "head"] = false) : NewOk ⟨nsHtml, name⟩ := by
  constructor
  · intro he
    have : name = "template".toList := by injection he
    rw [this] at h; revert h; decide
  · intro he
    have : name = "head".toList := by injection he
    rw [this] at h; revert h; decide

theorem newOk_of_in {name : Str} {l : List String} (hd : ∀ x ∈ l, x ∉ ["template", "head"])
    (h : isOneOf name l = true) : NewOk ⟨nsHtml, name⟩ := newOk_mk (isOneOf_disj hd h)

theorem newOk_foreign {ns name : Str} (h : ns ≠ nsHtml) : NewOk ⟨ns, name⟩ := by
  constructor
  · intro he; injection he with h1 _; exact h h1
  · intro he; injection he with h1 _; exact h h1

/-! ### building `BK`s -/

theorem bk_refl {s : State} (hi : HInv s) (hr : Rooted s.dom s.openElems) : BK s s := BK.of_qf hi hr (QF.refl s)

theorem pre_ne_nil {s : State} {pre post : List Id} (hr : Rooted s.dom s.openElems)
    (heq : s.openElems = pre ++ post) (hp : ∀ y ∈ post, popOk (nm s.dom y) = true) : pre ≠ [] := by
  rintro rfl
  obtain ⟨r, rest, hl, hn⟩ := hr
  rw [hl] at heq
  have := hp r (by rw [List.nil_append] at heq; rw [← heq]; exact List.mem_cons_self)
  exact popOk_ne_html this hn

/-- pops of elements that are none of `html`, `td`, `th` -/
theorem bk_of_pops {s s' : State} {pre post : List Id} (hi : HInv s) (hr : Rooted s.dom s.openElems)
    (heq : s.openElems = pre ++ post) (st : St s s' pre) (hp : ∀ y ∈ post, popOk (nm s.dom y) = true) : BK s s' :=
  BK.of_pops hi hr heq (pre_ne_nil hr heq hp) st (fun y hy => popOk_tdTh (hp y hy))

/-- one element that is none of `html`, `td`, `th` removed from the middle of the stack -/
theorem bk_of_remove {s s' : State} {pre post : List Id} {x : Id} (hi : HInv s) (hr : Rooted s.dom s.openElems)
    (heq : s.openElems = pre ++ x :: post) (hx : popOk (nm s.dom x) = true) (st : St s s' (pre ++ post)) :
    BK s s' := by
  have hsub : ∀ y ∈ pre ++ post, y ∈ s.openElems := by
    intro y hy
    rw [heq]
    rcases List.mem_append.mp hy with h | h
    · exact List.mem_append_left _ h
    · exact List.mem_append_right _ (List.mem_cons_of_mem _ h)
  have hpre : pre ≠ [] := by
    rintro rfl
    obtain ⟨r, rest, hl, hn⟩ := hr
    rw [hl] at heq
    simp only [List.nil_append, List.cons.injEq] at heq
    rw [← heq.1] at hx
    exact popOk_ne_html hx hn
  refine ⟨⟨st.fr.mode, st.fr.origMode, st.fr.templateModes, st.fr.pendingTableText, st.fr.headElem,
    st.fr.contextElem, st.fr.ext, hi.of_st st hsub, ?_, ?_, ?_⟩, ?_⟩
  · rw [st.openElems]
    obtain ⟨r, rest, hl, hn⟩ := hr
    cases pre with
    | nil => exact absurd rfl hpre
    | cons a t =>
      rw [hl] at heq
      have : r = a := by simp at heq; exact heq.1
      subst this
      exact ⟨r, t ++ post, rfl,
        by rw [nm_ext st.fr.ext (hi.open_el r (by rw [hl]; exact List.mem_cons_self))]; exact hn⟩
  · rw [st.openElems]; intro y hy; exact Or.inl (hsub y hy)
  · rw [st.openElems, tcount_ext st.fr.ext (hi.open_el.sub hsub), heq]
    apply tcount_le_of_sublist
    exact List.Sublist.append_left (List.sublist_cons_self x post) pre
  · intro y hy hP
    rw [st.openElems]
    rw [heq] at hy
    rcases List.mem_append.mp hy with h | h
    · exact List.mem_append_left _ h
    · rcases List.mem_cons.mp h with h | h
      · rw [h, popOk_tdTh hx] at hP; cases hP
      · exact List.mem_append_right _ h

/-- the adoption agency (and friends) as a `BK` step -/
theorem bk_of_aapost {s s' : State} (h : AAPostB s s') : BK s s' := by
  refine ⟨⟨h.fr.mode, h.fr.origMode, h.fr.templateModes, h.fr.pendingTableText, h.fr.headElem,
    h.fr.contextElem, h.fr.ext, h.hinv, h.rooted, ?_, h.tcnt⟩, ?_⟩
  · intro x hx
    rcases h.news x hx with h1 | h1
    · exact Or.inl h1
    · exact Or.inr (NewOk.of_fmt h1)
  · intro x hx hP
    refine h.keeps x hx ?_
    unfold specialTag
    unfold tdTh htmlIn at hP
    simp only [Bool.and_eq_true] at hP
    have : htmlSpecialTag (nm s.dom x) = true := by
      unfold htmlSpecialTag htmlIn
      rw [hP.1, isOneOf_sub (l2 := htmlSpecialTagNames) (by decide) hP.2]; rfl
    rw [this]; rfl

/-- a formatting element was created and pushed -/
theorem bk_of_created {s s' : State} {r : Id} {name : Str} (hi : HInv s) (hr : Rooted s.dom s.openElems)
    (hf : Fr s s') (hi' : HInv s') (ho : s'.openElems = s.openElems ++ [r]) (hn : nm s'.dom r = ⟨nsHtml, name⟩)
    (hnew : NewOk ⟨nsHtml, name⟩) : BK s s' := by
  refine ⟨⟨hf.mode, hf.origMode, hf.templateModes, hf.pendingTableText, hf.headElem, hf.contextElem, hf.ext,
    hi', ?_, ?_, ?_⟩, Keeps.of_grow ho⟩
  · rw [ho]; exact hr.append_ext hf.ext hi.open_el
  · rw [ho]
    intro x hx
    rcases List.mem_append.mp hx with h | h
    · exact Or.inl h
    · rw [List.mem_singleton.mp h, hn]; exact Or.inr hnew
  · rw [ho, tcount_append, tcount_ext hf.ext hi.open_el]
    have : tcount s'.dom [r] = 0 := tcount_zero_of_not (by
      intro x hx; rw [List.mem_singleton.mp hx, hn]; exact hnew.1)
    omega

/-- the list of active formatting elements loses entries / gains markers -/
theorem bk_withAF {s : State} (hi : HInv s) (hr : Rooted s.dom s.openElems) (af : List FormatEntry)
    (ha : ∀ e ∈ af, e ∈ s.activeFormatting ∨ e = .marker) : BK s { s with activeFormatting := af } := by
  have hi' : HInv { s with activeFormatting := af } := by
    refine hi.withAF af ?_
    intro x t hx
    rcases ha _ hx with h | h
    · exact hi.af x t h
    · cases h
  exact ⟨⟨rfl, rfl, rfl, rfl, rfl, rfl, Ext.refl _, hi', hr, fun x hx => Or.inl hx, Nat.le_refl _⟩,
    Keeps.refl rfl⟩

/-- the form pointer changes -/
theorem bk_withForm {s : State} (hi : HInv s) (hr : Rooted s.dom s.openElems) (f : Option Id)
    (hf : ∀ h, f = some h → IsEl s.dom h ∧ nm s.dom h = formName) : BK s { s with formElem := f } :=
  ⟨⟨rfl, rfl, rfl, rfl, rfl, rfl, Ext.refl _, ⟨hi.open_el, hi.open_tc, hi.af, hi.head, hf, hi.ctx⟩, hr,
    fun _ hx => Or.inl hx, Nat.le_refl _⟩, Keeps.refl rfl⟩

theorem bk_withIgnoreLf {s : State} (hi : HInv s) (hr : Rooted s.dom s.openElems) (b : Bool) :
    BK s { s with ignoreLf := b } :=
  ⟨⟨rfl, rfl, rfl, rfl, rfl, rfl, Ext.refl _, hi.withIgnoreLf b, hr, fun _ hx => Or.inl hx, Nat.le_refl _⟩,
    Keeps.refl rfl⟩

/-! ### step combinators -/

/-- a `BK` step followed by a continuation -/
theorem bk_step {α β : Type} {m : M α} {f : α → M β} {s : State} {R : β → Prop} (hi : HInv s)
    (h : Sat m s (fun _ s1 => BK s s1))
    (hf : ∀ a s1, HInv s1 → Rooted s1.dom s1.openElems → Sat (f a) s1 (fun b s2 => R b ∧ BK s1 s2)) :
    Sat (m >>= f) s (fun b s2 => R b ∧ BK s s2) :=
  h.bind (fun a s1 hb => (hf a s1 hb.b.hinv hb.b.rooted).mono (fun _ _ h2 => ⟨h2.1, BK.trans hi hb h2.2⟩))

/-- a `BK` step; the continuation is told the step -/
theorem bk_stepK {α β : Type} {m : M α} {f : α → M β} {s : State} {R : β → Prop} (hi : HInv s)
    (h : Sat m s (fun _ s1 => BK s s1))
    (hf : ∀ a s1, BK s s1 → HInv s1 → Rooted s1.dom s1.openElems →
      Sat (f a) s1 (fun b s2 => R b ∧ BK s1 s2)) :
    Sat (m >>= f) s (fun b s2 => R b ∧ BK s s2) :=
  h.bind (fun a s1 hb => (hf a s1 hb hb.b.hinv hb.b.rooted).mono (fun _ _ h2 => ⟨h2.1, BK.trans hi hb h2.2⟩))

/-- a `BK` step with information about the result -/
theorem bk_stepP {α β : Type} {m : M α} {f : α → M β} {s : State} {P : α → State → Prop} {R : β → Prop}
    (hi : HInv s) (h : Sat m s (fun a s1 => P a s1 ∧ BK s s1))
    (hf : ∀ a s1, P a s1 → HInv s1 → Rooted s1.dom s1.openElems → Sat (f a) s1 (fun b s2 => R b ∧ BK s1 s2)) :
    Sat (m >>= f) s (fun b s2 => R b ∧ BK s s2) :=
  h.bind (fun a s1 hb => (hf a s1 hb.1 hb.2.b.hinv hb.2.b.rooted).mono
    (fun _ _ h2 => ⟨h2.1, BK.trans hi hb.2 h2.2⟩))

/-- a query followed by a continuation -/
theorem q_step {α β : Type} {m : M α} {f : α → M β} {s : State} {P : α → Prop} {R : β → Prop}
    (hi : HInv s) (hr : Rooted s.dom s.openElems) (h : Sat m s (fun a s1 => P a ∧ QF s s1))
    (hf : ∀ a s1, P a → QF s s1 → HInv s1 → Rooted s1.dom s1.openElems →
      Sat (f a) s1 (fun b s2 => R b ∧ BK s1 s2)) :
    Sat (m >>= f) s (fun b s2 => R b ∧ BK s s2) :=
  h.bind (fun a s1 hb =>
    have hbk := BK.of_qf hi hr hb.2
    (hf a s1 hb.1 hb.2 hbk.b.hinv hbk.b.rooted).mono (fun _ _ h2 => ⟨h2.1, BK.trans hi hbk h2.2⟩))

/-- a sink call / query whose result does not matter -/
theorem q_step' {α β : Type} {m : M α} {f : α → M β} {s : State} {R : β → Prop}
    (hi : HInv s) (hr : Rooted s.dom s.openElems) (h : Sat m s (fun _ s1 => QF s s1))
    (hf : ∀ a s1, QF s s1 → HInv s1 → Rooted s1.dom s1.openElems →
      Sat (f a) s1 (fun b s2 => R b ∧ BK s1 s2)) :
    Sat (m >>= f) s (fun b s2 => R b ∧ BK s s2) :=
  q_step (P := fun _ => True) hi hr (h.mono (fun _ _ hq => ⟨trivial, hq⟩)) (fun a s1 _ => hf a s1)

/-- a step that changes nothing safety-relevant (`Same`), followed by a continuation -/
theorem same_step {α β : Type} {m : M α} {f : α → M β} {s : State} {R : β → Prop}
    (hi : HInv s) (hr : Rooted s.dom s.openElems) (h : Sat m s (fun _ s1 => Same s s1))
    (hf : ∀ a s1, Same s s1 → HInv s1 → Rooted s1.dom s1.openElems →
      Sat (f a) s1 (fun b s2 => R b ∧ BK s1 s2)) :
    Sat (m >>= f) s (fun b s2 => R b ∧ BK s s2) :=
  h.bind (fun a s1 hb =>
    have hbk := BK.of_same hi hr hb
    (hf a s1 hb hbk.b.hinv hbk.b.rooted).mono (fun _ _ h2 => ⟨h2.1, BK.trans hi hbk h2.2⟩))

theorem bk_pure {β : Type} {b : β} {s : State} {R : β → Prop} (hi : HInv s) (hr : Rooted s.dom s.openElems)
    (h : R b) : Sat (pure b : M β) s (fun b s2 => R b ∧ BK s s2) := by
  refine sat_pure ?_; exact ⟨h, bk_refl hi hr⟩

/-- the results of the arms that keep the insertion mode -/
def PlainRes (r : ProcessResult) : Prop := r = .done ∨ r = .doneAckSelfClosing ∨ r = .toPlaintext

theorem plain_done : PlainRes .done := Or.inl rfl
theorem plain_ack : PlainRes .doneAckSelfClosing := Or.inr (Or.inl rfl)

/-! ### the basic steps as `BK` steps -/

theorem bk_parseError {msg : String} {s : State} (hi : HInv s) (hr : Rooted s.dom s.openElems) :
    Sat (parseError msg) s (fun _ s' => BK s s') :=
  sat_parseError.mono (fun _ _ h => BK.of_qf hi hr h)

theorem bk_unexpected {s : State} (hi : HInv s) (hr : Rooted s.dom s.openElems) :
    Sat unexpected s (fun _ s' => BK s s') :=
  sat_unexpected.mono (fun _ _ h => BK.of_qf hi hr h.2)

theorem bk_unexpected_done {s : State} (hi : HInv s) (hr : Rooted s.dom s.openElems) :
    Sat unexpected s (fun r s' => PlainRes r ∧ BK s s') :=
  sat_unexpected.mono (fun _ _ h => ⟨Or.inl h.1, BK.of_qf hi hr h.2⟩)

theorem bk_setFramesetOk {b : Bool} {s : State} (hi : HInv s) (hr : Rooted s.dom s.openElems) :
    Sat (setFramesetOk b) s (fun _ s' => BK s s') :=
  sat_setFramesetOk.mono (fun _ _ h => BK.of_same hi hr h)

theorem bk_reconstruct {s : State} (hi : HInv s) (hr : Rooted s.dom s.openElems) :
    Sat reconstructActiveFormattingElements s (fun _ s' => BK s s') :=
  (sat_reconstructActiveFormattingElements hi hr).mono (fun _ _ h => BK.of_grown hi hr h)

theorem bk_insertFor {tag : Tag} {s : State} (hi : HInv s) (hr : Rooted s.dom s.openElems)
    (hn : NewOk ⟨nsHtml, tag.name⟩) : Sat (insertElementFor tag) s (fun _ s' => BK s s') :=
  (sat_insertElementFor (PlaceOk.of_hinv hi hr)).mono (fun _ _ h => BK.of_inserted hi hr h hn)

theorem bk_insertAndPopFor {tag : Tag} {s : State} (hi : HInv s) (hr : Rooted s.dom s.openElems)
    (hn : NewOk ⟨nsHtml, tag.name⟩) : Sat (insertAndPopElementFor tag) s (fun _ s' => BK s s') :=
  (sat_insertAndPopElementFor (PlaceOk.of_hinv hi hr)).mono (fun _ _ h => BK.of_inserted hi hr h hn)

theorem bk_closeP {s : State} (hi : HInv s) (hr : Rooted s.dom s.openElems) :
    Sat closePElementInButtonScope s (fun _ s' => BK s s') := by
  refine (sat_closePElementInButtonScope hi.open_el).mono ?_
  rintro _ s' ⟨pre, post, heq, st, hp⟩
  refine bk_of_pops hi hr heq st ?_
  intro y hy
  rcases hp y hy with h | h
  · rw [namedP_nm h]; decide
  · exact popOk_of_not_button h

theorem bk_implied {set : EName → Bool} {s : State} (hi : HInv s) (hr : Rooted s.dom s.openElems)
    (hset : ∀ n, set n = true → popOk n = true) : Sat (generateImpliedEndTags set) s (fun _ s' => BK s s') := by
  refine (sat_generateImpliedEndTags hi.open_el).mono ?_
  rintro _ s' ⟨pre, post, heq, st, hp, _⟩
  exact bk_of_pops hi hr heq st (fun y hy => hset _ (hp y hy))

theorem last_of_rooted {s : State} (hr : Rooted s.dom s.openElems) : ∃ h, s.openElems.getLast? = some h := by
  obtain ⟨r, rest, hl, _⟩ := hr
  exact getLast?_of_ne_nil (by rw [hl]; simp)

/-- `pop` of a current node that is none of `html`, `td`, `th` -/
theorem bk_pop {s : State} {h : Id} (hi : HInv s) (hr : Rooted s.dom s.openElems)
    (hl : s.openElems.getLast? = some h) (hp : popOk (nm s.dom h) = true) :
    Sat pop s (fun _ s' => BK s s') := by
  refine (sat_pop hl).mono ?_
  rintro _ s' ⟨-, st⟩
  refine bk_of_pops (post := [h]) hi hr (dropLast_append_getLast hl) st ?_
  intro y hy; rw [List.mem_singleton.mp hy]; exact hp

/-- `html_elem_named(·, name)` as a predicate on names -/
abbrev Named (name : Str) : EName → Bool := fun p => p.ns == nsHtml && p.loc == name

/-- the current node has a name satisfying `P` -/
def TopIs (s : State) (P : EName → Bool) : Prop := ∃ h, s.openElems.getLast? = some h ∧ P (nm s.dom h) = true

theorem TopIs.of_same {s s' : State} {P : EName → Bool} (hi : HInv s) (h : TopIs s P) (q : Same s s') :
    TopIs s' P := by
  obtain ⟨x, hl, hp⟩ := h
  exact ⟨x, by rw [q.openElems]; exact hl, by rw [nm_ext q.fr.ext (hi.open_el x (getLast?_mem hl))]; exact hp⟩

theorem TopIs.of_qf {s s' : State} {P : EName → Bool} (hi : HInv s) (h : TopIs s P) (q : QF s s') :
    TopIs s' P := h.of_same hi q.same

theorem bk_pop_top {s : State} {P : EName → Bool} (hi : HInv s) (hr : Rooted s.dom s.openElems)
    (h : TopIs s P) (hP : ∀ n, P n = true → popOk n = true) : Sat pop s (fun _ s' => BK s s') := by
  obtain ⟨x, hl, hp⟩ := h
  exact bk_pop hi hr hl (hP _ hp)

/-- `current_node_named`: a `true` answer names the current node -/
theorem q_currentNodeNamed {name : String} {s : State} (hi : HInv s) (hr : Rooted s.dom s.openElems) :
    Sat (currentNodeNamed name) s (fun b s' => (b = true → TopIs s (Named name.toList)) ∧ QF s s') := by
  obtain ⟨h, hl⟩ := last_of_rooted hr
  refine (sat_currentNodeNamed hl (hi.open_el h (getLast?_mem hl))).mono ?_
  rintro b s' ⟨rfl, hq⟩
  exact ⟨fun hb => ⟨h, hl, hb⟩, hq⟩

theorem q_currentNodeNamedS {name : Str} {s : State} (hi : HInv s) (hr : Rooted s.dom s.openElems) :
    Sat (currentNodeNamedS name) s (fun _ s' => QF s s') := by
  obtain ⟨h, hl⟩ := last_of_rooted hr
  exact (sat_currentNodeNamedS hl (hi.open_el h (getLast?_mem hl))).mono (fun _ _ h => h.2)

theorem q_currentNodeIn {set : EName → Bool} {s : State} (hi : HInv s) (hr : Rooted s.dom s.openElems) :
    Sat (currentNodeIn set) s (fun b s' => (b = true → TopIs s set) ∧ QF s s') := by
  obtain ⟨h, hl⟩ := last_of_rooted hr
  refine (sat_currentNodeIn hl (hi.open_el h (getLast?_mem hl))).mono ?_
  rintro b s' ⟨rfl, hq⟩
  exact ⟨fun hb => ⟨h, hl, hb⟩, hq⟩

/-! ### the element found by a scope test / a search, and popping down to it -/

/-- `x` is on the stack, satisfies `P`; what is above it does not and may be popped -/
structure Split (s : State) (P : EName → Bool) (pre : List Id) (x : Id) (post : List Id) : Prop where
  eq : s.openElems = pre ++ x :: post
  px : P (nm s.dom x) = true
  above : ∀ y ∈ post, P (nm s.dom y) = false ∧ popOk (nm s.dom y) = true

theorem Split.of_same {s s' : State} {P : EName → Bool} {pre post : List Id} {x : Id} (hi : HInv s)
    (h : Split s P pre x post) (st : Same s s') : Split s' P pre x post := by
  have hnm : ∀ y ∈ s.openElems, nm s'.dom y = nm s.dom y := fun y hy => hi.open_el.nm_eq st.fr.ext hy
  refine ⟨by rw [st.openElems]; exact h.eq, ?_, ?_⟩
  · rw [hnm x (by rw [h.eq]; simp)]; exact h.px
  · intro y hy
    rw [hnm y (by rw [h.eq]; simp [hy])]; exact h.above y hy

theorem Split.of_qf {s s' : State} {P : EName → Bool} {pre post : List Id} {x : Id} (hi : HInv s)
    (h : Split s P pre x post) (q : QF s s') : Split s' P pre x post := h.of_same hi q.same

/-- from a successful scope test on names -/
theorem Split.of_top {s : State} {scope P : EName → Bool} {pre post : List Id} {x : Id}
    (h : TopSplit s.dom scope (fun h => P (nm s.dom h)) s.openElems pre x post)
    (hsc : ∀ n, scope n = false → popOk n = true) : Split s P pre x post :=
  ⟨h.eq, h.px, fun y hy => ⟨(h.above y hy).1, hsc _ (h.above y hy).2⟩⟩

/-- implied end tags above an element that is not in the set -/
theorem split_implied {set P : EName → Bool} {s : State} {pre post : List Id} {x : Id} (hi : HInv s)
    (hr : Rooted s.dom s.openElems) (h : Split s P pre x post) (hx : set (nm s.dom x) = false) :
    Sat (generateImpliedEndTags set) s (fun _ s1 => (∃ post0, Split s1 P pre x post0) ∧ BK s s1) := by
  refine (sat_generateImpliedEndTags_keep hi.open_el h.eq hx).mono ?_
  rintro _ s1 ⟨post0, post1, hp, st, _⟩
  have heq : s.openElems = (pre ++ x :: post0) ++ post1 := by rw [h.eq, hp]; simp
  have hsub : ∀ z ∈ pre ++ x :: post0, z ∈ s.openElems := fun z hz => by
    rw [heq]; exact List.mem_append_left _ hz
  have hnm : ∀ z ∈ pre ++ x :: post0, nm s1.dom z = nm s.dom z :=
    fun z hz => (hi.open_el.sub hsub).nm_eq st.fr.ext hz
  refine ⟨⟨post0, st.openElems, ?_, ?_⟩, ?_⟩
  · rw [hnm x (by simp)]; exact h.px
  · intro y hy
    rw [hnm y (by simp [hy])]
    exact h.above y (by rw [hp]; exact List.mem_append_left _ hy)
  · refine bk_of_pops hi hr heq st ?_
    intro y hy
    exact (h.above y (by rw [hp]; exact List.mem_append_right _ hy)).2

/-- `pop_until` down to (and including) the element of a `Split` -/
theorem split_popUntil {P : EName → Bool} {s : State} {pre post : List Id} {x : Id} (hi : HInv s)
    (hr : Rooted s.dom s.openElems) (h : Split s P pre x post) (hx : popOk (nm s.dom x) = true) :
    Sat (popUntil P) s (fun _ s1 => BK s s1) := by
  refine (sat_popUntil hi.open_el h.eq h.px (fun y hy => (h.above y hy).1)).mono ?_
  rintro _ s1 ⟨st, -⟩
  refine bk_of_pops (post := x :: post) hi hr h.eq st ?_
  intro y hy
  rcases List.mem_cons.mp hy with h1 | h1
  · rw [h1]; exact hx
  · exact (h.above y h1).2

theorem split_expectToCloseS {name : Str} {s : State} {pre post : List Id} {x : Id} (hi : HInv s)
    (hr : Rooted s.dom s.openElems) (h : Split s (Named name) pre x post)
    (hx : popOk (nm s.dom x) = true) : Sat (expectToCloseS name) s (fun _ s1 => BK s s1) := by
  unfold expectToCloseS popUntilNamedS
  refine bk_step (R := fun _ => True) hi (split_popUntil hi hr h hx) ?_ |>.mono (fun _ _ h => h.2)
  intro n s1 hi1 hr1
  split
  · exact (bk_parseError hi1 hr1).mono (fun _ _ h => ⟨trivial, h⟩)
  · exact bk_pure hi1 hr1 trivial

/-- `generate_implied_end_tags(set); expect_to_close(name); …` below a `Split` -/
theorem split_implied_close {β : Type} {set : EName → Bool} {name : Str} {s : State} {pre post : List Id} {x : Id}
    {f : Unit → M β} {R : β → Prop} (hi : HInv s) (hr : Rooted s.dom s.openElems)
    (h : Split s (Named name) pre x post)
    (hset : set ⟨nsHtml, name⟩ = false) (hname : isOneOf name ["html", "td", "th"] = false)
    (hf : ∀ a s2, HInv s2 → Rooted s2.dom s2.openElems → Sat (f a) s2 (fun b s3 => R b ∧ BK s2 s3)) :
    Sat (generateImpliedEndTags set >>= fun _ => expectToCloseS name >>= f) s (fun b s3 => R b ∧ BK s s3) := by
  have hnx : nm s.dom x = ⟨nsHtml, name⟩ := named_eq h.px
  refine bk_stepP hi (split_implied hi hr h (by rw [hnx]; exact hset)) ?_
  rintro _ s1 ⟨post0, h1⟩ hi1 hr1
  have hnx1 : nm s1.dom x = ⟨nsHtml, name⟩ := named_eq h1.px
  exact bk_step hi1 (split_expectToCloseS hi1 hr1 h1 (by rw [hnx1]; exact popOk_mk hname)) hf

/-- scope test on a name: a `true` answer finds the element -/
theorem q_inScopeNamedS {scope : EName → Bool} {name : Str} {s : State} (hi : HInv s)
    (hsc : ∀ n, scope n = false → popOk n = true) :
    Sat (inScopeNamedS scope name) s
      (fun b s' => (b = true → ∃ pre x post, Split s (Named name) pre x post) ∧ QF s s') := by
  refine (sat_inScopeNamedS hi.open_el).mono ?_
  rintro b s' ⟨rfl, hq⟩
  refine ⟨fun hb => ?_, hq⟩
  obtain ⟨pre, x, post, hs⟩ := inScopeP_split hb
  exact ⟨pre, x, post, Split.of_top (P := Named name) hs hsc⟩

theorem q_inScopeNamed {scope : EName → Bool} {name : String} {s : State} (hi : HInv s)
    (hsc : ∀ n, scope n = false → popOk n = true) :
    Sat (inScopeNamed scope name) s
      (fun b s' => (b = true → ∃ pre x post, Split s (Named name.toList) pre x post) ∧ QF s s') :=
  q_inScopeNamedS hi hsc

/-- scope test on a set of names -/
theorem q_inScopeIn {scope set : EName → Bool} {s : State} (hi : HInv s)
    (hsc : ∀ n, scope n = false → popOk n = true) :
    Sat (inScope scope (fun n => elemIn n set)) s
      (fun b s' => (b = true → ∃ pre x post, Split s set pre x post) ∧ QF s s') := by
  refine (sat_inScope hi.open_el (fun x hx => answers_elemIn (hi.open_el x hx))).mono ?_
  rintro b s' ⟨rfl, hq⟩
  refine ⟨fun hb => ?_, hq⟩
  obtain ⟨pre, x, post, hs⟩ := inScopeP_split hb
  exact ⟨pre, x, post, Split.of_top (P := set) hs hsc⟩

theorem cursory_mk_false {name : Str} (h : isOneOf name cursoryImpliedEndNames = false) :
    cursoryImpliedEnd ⟨nsHtml, name⟩ = false := by
  unfold cursoryImpliedEnd htmlIn; simp only [h]; simp

theorem impliedExcept_self {name : Str} : impliedExcept name ⟨nsHtml, name⟩ = false := by
  unfold impliedExcept; simp

theorem heading_not_cursory {n : EName} (h : headingTag n = true) : cursoryImpliedEnd n = false := by
  unfold headingTag htmlIn at h
  simp only [Bool.and_eq_true] at h
  unfold cursoryImpliedEnd htmlIn
  rw [isOneOf_disj (l2 := cursoryImpliedEndNames) (by decide) h.2]; simp

/-- `close_p_element` below a `p` found in scope -/
theorem split_closeP {s : State} {pre post : List Id} {x : Id} (hi : HInv s) (hr : Rooted s.dom s.openElems)
    (h : Split s (Named "p".toList) pre x post) : Sat closePElement s (fun _ s1 => BK s s1) := by
  refine (sat_closePElement hi.open_el h.eq h.px (fun y hy => (h.above y hy).1)).mono ?_
  intro _ s1 st
  refine bk_of_pops (post := x :: post) hi hr h.eq st ?_
  intro y hy
  rcases List.mem_cons.mp hy with h1 | h1
  · rw [h1, named_eq h.px]; decide
  · exact (h.above y h1).2

theorem bk_insertForP {tag : Tag} {s : State} (hi : HInv s) (hr : Rooted s.dom s.openElems)
    (hn : NewOk ⟨nsHtml, tag.name⟩) :
    Sat (insertElementFor tag) s
      (fun r s' => (IsEl s'.dom r ∧ nm s'.dom r = ⟨nsHtml, tag.name⟩) ∧ BK s s') :=
  (sat_insertElementFor (PlaceOk.of_hinv hi hr)).mono
    (fun _ _ h => ⟨⟨h.el, h.nm⟩, BK.of_inserted hi hr h hn⟩)

theorem bk_createFmt {tag : Tag} {s : State} (hi : HInv s) (hr : Rooted s.dom s.openElems)
    (hf : isOneOf tag.name fmtNames = true) : Sat (createFormattingElementFor tag) s (fun _ s' => BK s s') := by
  refine (sat_createFormattingElementFor hi hr hf).mono ?_
  rintro r s' ⟨h1, h2, h3, h4, _⟩
  exact bk_of_created hi hr h1 h2 h3 h4 (newOk_of_in (l := fmtNames) (by decide) hf)

end H5V.Lemmas.TBSafe.IB
