import H5V.Lemmas.HtmlParseSpecAgree2
/-!
The bridge **for every grouping of the character tokens** (`agrees_of_streamX`).

The tokenizer model delivers most text one character per token, but `emit_temp_buf` (CDATA sections, `</xy` inside
RCDATA / RAWTEXT / script data) delivers runs.  The specification's tokenizer emits one token per character, and
`Spec.TreeModes.run` is not known to be invariant under regrouping.  So here the lock-step run of the tree
builder and the specification is taken over the EXPLODED stream `explode ts` (every character token cut into
single characters): by C03 (`C03_tree_resplit_run`) the tree builder fed `explode ts` passes through states that
are `Sim`-related (equal up to the trace of sink calls, the line counter, the parse-error log and the cutting of
the pending table text) to those of the actual run, and `Sim`-related states give the same answers to the
tokenizer (`C03_tb_sim_step`, `adjustedCurrentNodeForeign_resp`).
-/
namespace H5V.Lemmas.ParseSpec
open H5V.Model.HtmlTB
open H5V.Model.Dom (Id SinkOp Output Dom QualName Attr NodeOrText ElementFlags NodeData QuirksMode)
open H5V.Lemmas.HtmlTBAlgo
open H5V.Lemmas.HtmlTBModes
open H5V.Lemmas.TBSafe (TI HInv SInv)
open H5V.Props.C04TB (docStart)
open H5V.Spec.TreeModes (STok ETok IMode Config Out TokSwitch XOp Op Step Edition)
open H5V.Model.HtmlTB.Joint (JState absorb polOf conv convTag toSinkRes)
open H5V.Lemmas.JointChunk
open H5V.Lemmas.HtmlTokSpec (flat flatTok PolTree)
open H5V.Spec.HtmlTokenizer (Emit Tree Switch)
open H5V.Spec.Parse (Cfg treeOfSpec stateAfter treeTok treeTag lastSwitch acnForeign)
open H5V.Props.C03 (Resplit RunAlike C03_tree_resplit_run)

/-! ### the exploded stream -/

/-- a character token cut into single characters -/
def explodeTok : TokToken × Nat → List (TokToken × Nat)
  | (.chars x, l) => x.map fun c => (.chars [c], l)
  | p => [p]

def explode (ts : List (TokToken × Nat)) : List (TokToken × Nat) := ts.flatMap explodeTok

theorem explode_append (a b : List (TokToken × Nat)) : explode (a ++ b) = explode a ++ explode b := by
  simp [explode]

/-- whenever an EMPTY character token arrives (the tokenizer delivers one for `<![CDATA[]]>`: `emit_temp_buf` with
an empty buffer), the tree builder's `ignore_lf` flag is clear.  (`process_token` takes the flag before it looks
at the token, so an empty character token would clear a pending "ignore the next LF"; the specification has no
token there.  The flag is only set by `pre` / `listing` / `textarea` start tags, after which no CDATA section
can start — a property of the joint run, proved as `parse_hist_empty` in HtmlParseSpecEmptyProto.lean; here
it is a hypothesis.) -/
def EmptyOk : State → List (TokToken × Nat) → Prop
  | _, [] => True
  | s, (t, line) :: rest =>
    (t = .chars [] → s.ignoreLf = false) ∧ ∀ r s', (processToken t line).run s = .ok (r, s') → EmptyOk s' rest

def emptyOkB : State → List (TokToken × Nat) → Bool
  | _, [] => true
  | s, (t, line) :: rest =>
    (t != .chars [] || !s.ignoreLf) &&
    match (processToken t line).run s with
    | .ok (_, s') => emptyOkB s' rest
    | .error _ => true

theorem emptyOk_of_B : ∀ (toks : List (TokToken × Nat)) (s : State), emptyOkB s toks = true → EmptyOk s toks
  | [], _, _ => trivial
  | (t, line) :: rest, s, h => by
    simp only [emptyOkB, Bool.and_eq_true, Bool.or_eq_true, bne_iff_ne, ne_eq, Bool.not_eq_true'] at h
    refine ⟨fun e => ?_, fun r s' hr => ?_⟩
    · rcases h.1 with h1 | h1
      · exact absurd e h1
      · exact h1
    · have h3 := h.2
      rw [hr] at h3
      exact emptyOk_of_B rest s' h3

theorem emptyOk_prefix : ∀ (p q : List (TokToken × Nat)) (s : State), EmptyOk s (p ++ q) → EmptyOk s p
  | [], _, _, _ => trivial
  | (_, _) :: p, q, _, h => ⟨h.1, fun r s' hr => emptyOk_prefix p q s' (h.2 r s' hr)⟩

theorem resplit_chars (l : Nat) : ∀ (x : List Char), x ≠ [] →
    Resplit [(TokToken.chars x, l)] (x.map fun c => (TokToken.chars [c], l))
  | [], h => absurd rfl h
  | [c], _ => Resplit.refl _
  | c :: c' :: xs, _ => by
    have h1 : Resplit [(TokToken.chars ([c] ++ (c' :: xs)), l)] [(.chars [c], l), (.chars (c' :: xs), l)] :=
      Resplit.split [c] (c' :: xs) l l l (by simp) (by simp)
    have h2 := resplit_chars l (c' :: xs) (by simp)
    exact Resplit.trans h1 (Resplit.append (Resplit.refl [(.chars [c], l)]) h2)

theorem resplit_explodeTok (t : TokToken) (l : Nat) (h : t ≠ .chars []) : Resplit [(t, l)] (explodeTok (t, l)) := by
  cases t with
  | chars x =>
    have hx : x ≠ [] := fun e => h (by rw [e])
    exact resplit_chars l x hx
  | _ => exact Resplit.refl _

/-- an empty character token only moves the line counter (when `ignore_lf` is clear) -/
theorem empty_chars_run (l : Nat) {s : State} (hs : H5V.Lemmas.TBSplit.Sim s s) (hlf : s.ignoreLf = false) :
    ∃ s1, processToken (.chars []) l s = .ok (.continue_, s1) ∧ H5V.Lemmas.TBSplit.Sim s1 s := by
  rw [H5V.Lemmas.TBSplit.processToken_apply, H5V.Lemmas.TBSplit.bind_apply]
  obtain ⟨tr, h1⟩ := H5V.Lemmas.TBSplit.lineIf_apply l s.currentLine s
  rw [h1]
  simp only
  rw [H5V.Lemmas.TBSplit.processTokenRest_chars]
  have hd : (dropIgnoredLf (H5V.Lemmas.TBSplit.upd s tr s.currentLine s.dom.errorsRev s.pendingTableText).ignoreLf
      ([] : List Char)).isEmpty = true := by
    unfold dropIgnoredLf
    split <;> rfl
  rw [if_pos hd]
  have hc : H5V.Lemmas.TBSplit.clearLf (H5V.Lemmas.TBSplit.upd s tr s.currentLine s.dom.errorsRev s.pendingTableText)
      = H5V.Lemmas.TBSplit.upd s tr s.currentLine s.dom.errorsRev s.pendingTableText := by
    cases s
    simp only at hlf
    subst hlf
    rfl
  rw [hc]
  exact ⟨_, rfl, (H5V.Lemmas.TBSplit.sim_upd_self hs tr).symm⟩

theorem processTokens_one_ok {t : TokToken} {l : Nat} {acc acc' : List SinkResult} {s s' : State}
    (h : processTokens [(t, l)] acc s = .ok (acc', s')) : ∃ r, (processToken t l).run s = .ok (r, s') := by
  obtain ⟨r, s1, h1, h2⟩ := processTokens_cons_ok (rest := []) h
  have h2' : (pure (if r == .continue_ then acc else r :: acc) : M (List SinkResult)) s1 = .ok (acc', s') := h2
  cases h2'
  exact ⟨r, h1⟩

/-- **the tree builder fed the exploded stream** (character tokens cut into single characters, empty ones
erased) runs like the tree builder fed the stream itself -/
theorem runAlike_explode : ∀ (ts : List (TokToken × Nat)) (acc : List SinkResult) (s t : State),
    H5V.Lemmas.TBSplit.Sim s t → EmptyOk s ts →
    H5V.Lemmas.TBSplit.RelR (fun _ => True) (processTokens ts acc s) (processTokens (explode ts) acc t)
  | [], acc, s, t, hst, _ => by
    show H5V.Lemmas.TBSplit.RelR _ (processTokens [] acc s) (processTokens [] acc t)
    unfold processTokens
    exact ⟨rfl, trivial, hst⟩
  | (tk, l) :: rest, acc, s, t, hst, he => by
    obtain ⟨he1, he2⟩ := he
    have hex : explode ((tk, l) :: rest) = explodeTok (tk, l) ++ explode rest := by
      simp [explode]
    rw [hex]
    by_cases hemp : tk = .chars []
    · subst hemp
      obtain ⟨s1, hr1, hs1⟩ := empty_chars_run l hst.left (he1 rfl)
      have hx : explodeTok (TokToken.chars [], l) = [] := rfl
      rw [hx, List.nil_append]
      show H5V.Lemmas.TBSplit.RelR _ ((processToken (.chars []) l >>= fun r => processTokens rest
        (if r == .continue_ then acc else r :: acc)) s) _
      rw [H5V.Lemmas.TBSplit.bind_apply, hr1]
      exact runAlike_explode rest acc s1 t (hs1.trans hst) (he2 _ _ hr1)
    · have hhead := C03_tree_resplit_run (resplit_explodeTok tk l hemp) acc s t hst
      have hL : processTokens ((tk, l) :: rest) acc s =
          (processTokens [(tk, l)] acc >>= fun acc' => processTokens rest acc') s := by
        rw [← H5V.Props.C03.processTokens_append]; rfl
      rw [hL, H5V.Props.C03.processTokens_append, H5V.Lemmas.TBSplit.bind_apply, H5V.Lemmas.TBSplit.bind_apply]
      cases h1 : processTokens [(tk, l)] acc s with
      | error e =>
        rw [h1] at hhead
        cases h2 : processTokens (explodeTok (tk, l)) acc t with
        | error e' => trivial
        | ok v => rw [h2] at hhead; exact hhead.elim
      | ok v =>
        obtain ⟨acc', s'⟩ := v
        rw [h1] at hhead
        cases h2 : processTokens (explodeTok (tk, l)) acc t with
        | error e' => rw [h2] at hhead; exact hhead.elim
        | ok w =>
          obtain ⟨acc'', t'⟩ := w
          rw [h2] at hhead
          obtain ⟨e, _, hs'⟩ := hhead
          subst e
          obtain ⟨r, hr⟩ := processTokens_one_ok h1
          exact runAlike_explode rest acc' s' t' hs' (he2 r s' hr)

theorem mem_explode_eof {ts : List (TokToken × Nat)} {l : Nat} (h : (TokToken.eof, l) ∈ ts) :
    (TokToken.eof, l) ∈ explode ts := by
  unfold explode
  rw [List.mem_flatMap]
  exact ⟨_, h, by simp [explodeTok]⟩

theorem specToks_chars_map (l : Nat) : ∀ (s : List Char),
    specToks (s.map fun c => (TokToken.chars [c], l)) = s.map fun c => Spec.TreeModes.Token.chars [c]
  | [] => rfl
  | c :: cs => by
    have ih := specToks_chars_map l cs
    unfold specToks at ih ⊢
    rw [List.map_cons, List.filterMap_cons, List.map_cons, ← ih]
    rfl

/-- the exploded history is, token for token, the history of the specification's tokenizer — whatever the
grouping of the characters was -/
theorem specToks_explode_one (t : TTok) (l : Nat) (he : t ≠ .eof) :
    specToks (explode (convAll [(t, l)])) = (flatTok t).map treeTok := by
  cases t with
  | doctype d => rfl
  | tag t =>
    simp only [convAll, explode, explodeTok, specToks, List.filterMap_cons, List.filterMap_nil, conv, Option.map_some,
      List.flatMap_cons, List.flatMap_nil, List.append_nil, specTokOf, flatTok, List.map_cons, List.map_nil, treeTok,
      specTag_convTag]
    rfl
  | comment c => rfl
  | chars s =>
    have e : explode (convAll [(H5V.Model.HtmlTok.Token.chars s, l)]) = s.map fun c => (TokToken.chars [c], l) := by
      simp [convAll, explode, explodeTok, conv]
    rw [e, specToks_chars_map]
    simp only [flatTok, List.map_map]
    rfl
  | nullChar => rfl
  | eof => exact absurd rfl he
  | error m => rfl
  | pause b => rfl

theorem specToks_explode_convAll : ∀ (out : TOut), NoEof out →
    specToks (explode (convAll out.reverse)) = (flat out).reverse.map treeTok
  | [], _ => rfl
  | (t, l) :: rest, he => by
    have ih := specToks_explode_convAll rest (fun p hp => he p (by simp [hp]))
    rw [List.reverse_cons, convAll_append, explode_append, specToks_append, ih,
      specToks_explode_one t l (he (t, l) (by simp))]
    show _ = (((flatTok t).reverse ++ flat rest).reverse).map treeTok
    rw [List.reverse_append, List.reverse_reverse, List.map_append]

/-! ### the data of a finished parse, exploded -/

/-- as `StreamData`, with the lock-step run taken over the exploded stream; `se` is the state in which the tree
builder ends when it is fed the exploded stream -/
structure StreamDataX (opts : Opts) (c : Cfg) (Hf : TOut) (j3 : JState) (se : State) (x' : Aux) : Prop where
  tree : c.tree = cfgOf (docStart opts)
  hist : absorb Hf.reverse (j0Of opts) = .ok j3
  lock : Lock (cfgOf (docStart opts)) c.fuel (docStart opts) { supply := c.supply } (explode (convAll Hf.reverse)) se x'
  resp : Respects2 (docStart opts) (explode (convAll Hf.reverse))
  emptyOk : EmptyOk (docStart opts) (convAll Hf.reverse)
  eofHead : ∃ l rest, Hf = (H5V.Model.HtmlTok.Token.eof, l) :: rest

section
variable {opts : Opts} {c : Cfg} {Hf : TOut} {j3 : JState} {se : State} {x' : Aux}

/-- the tree builder fed the exploded prefix is in a state `Sim`-related to the state of the actual run -/
theorem sim_of_lock {X : TOut} {jx : JState} (hjx : absorb X.reverse (j0Of opts) = .ok jx)
    (hn : EmptyOk (docStart opts) (convAll X.reverse)) {cfg : Config Id} {fuel : Nat} {x xp : Aux} {sp : State}
    (hl : Lock cfg fuel (docStart opts) x (explode (convAll X.reverse)) sp xp) : H5V.Props.C03.SimS jx.tb sp := by
  have hmod := absorb_model _ _ _ hjx
  obtain ⟨res, hres⟩ := hl.model ([] : List SinkResult)
  have hra := runAlike_explode _ [] (docStart opts) (docStart opts) (good_docStart opts).sim hn
  have h1 : processTokens (convAll X.reverse) [] (docStart opts) = .ok (jx.results, jx.tb) := hmod
  have h2 : processTokens (explode (convAll X.reverse)) [] (docStart opts) = .ok (res, sp) := hres
  rw [h1, h2] at hra
  exact hra.2.2

theorem StreamDataX.pre (hq : opts.quirksMode = .noQuirks) (d : StreamDataX opts c Hf j3 se x') {X Y : TOut}
    (hXY : Hf = Y ++ X) (hY : convAll Y.reverse ≠ []) {jx : JState} (hjx : absorb X.reverse (j0Of opts) = .ok jx) :
    ∃ sp xp, Lock (cfgOf (docStart opts)) c.fuel (docStart opts) { supply := c.supply }
        (explode (convAll X.reverse)) sp xp ∧ H5V.Props.C03.SimS jx.tb sp ∧
      AuxOk sp xp ∧ MInv sp ∧ TI sp ∧ cfgOf sp = cfgOf (docStart opts) ∧
      stateAfter c (flat X) = .ok (absF sp xp) := by
  have hts : convAll Hf.reverse = convAll X.reverse ++ convAll Y.reverse := by
    rw [hXY, List.reverse_append, convAll_append]
  have hne := d.emptyOk
  rw [hts] at hne
  have hnX := emptyOk_prefix _ _ _ hne
  have hYx : explode (convAll Y.reverse) ≠ [] := by
    obtain ⟨le, reste, hE⟩ := d.eofHead
    cases Y with
    | nil => exact absurd rfl hY
    | cons y Y' =>
      rw [hE] at hXY
      simp only [List.cons_append, List.cons.injEq] at hXY
      obtain ⟨rfl, _⟩ := hXY
      intro h0
      have hm : (TokToken.eof, le) ∈ convAll ((H5V.Model.HtmlTok.Token.eof, le) :: Y').reverse :=
        mem_convAll (l := ((H5V.Model.HtmlTok.Token.eof, le) :: Y').reverse) (p := (H5V.Model.HtmlTok.Token.eof, le))
          (by simp) rfl
      have := mem_explode_eof hm
      rw [h0] at this
      cases this
  have htsx : explode (convAll Hf.reverse) = explode (convAll X.reverse) ++ explode (convAll Y.reverse) := by
    rw [hts, explode_append]
  have hl := d.lock
  rw [htsx] at hl
  obtain ⟨sp, xp, h1, h2⟩ := Lock.split hl
  have hresp : Respects2 (docStart opts) (explode (convAll X.reverse) ++ explode (convAll Y.reverse)) := by
    rw [← htsx]; exact d.resp
  have hnoeof := h1.noEof hYx hresp
  have hneX : NoEof X := by
    intro p hp he
    have hm : (TokToken.eof, p.2) ∈ convAll X.reverse :=
      mem_convAll (l := X.reverse) (p := p) (List.mem_reverse.mpr hp) (by rw [he]; rfl)
    exact hnoeof _ (mem_explode_eof hm) rfl
  obtain ⟨a1, a2, a3, _⟩ := h1.inv (H5V.Props.C04TB.C04_tb_inv_new opts) (H5V.Props.C02.minv_docStart opts)
  refine ⟨sp, xp, h1, sim_of_lock hjx hnX h1, h1.aux (H5V.Props.C02.auxOk_docStart opts _) hnoeof, a2, a1, a3, ?_⟩
  unfold stateAfter
  rw [← specToks_explode_convAll X hneX, d.tree]
  have := (h1.runStd (xinv_docStart opts _ (H5V.Props.C02.auxOk_docStart opts _))).1
  rw [H5V.Props.C02.absF_docStart opts hq] at this
  exact this

theorem StreamDataX.agC (hq : opts.quirksMode = .noQuirks) (d : StreamDataX opts c Hf j3 se x') {X : TOut}
    (hP : Before Hf X) : AgC (polOfTree (treeOfSpec c)) (j0Of opts) X := by
  intro jx hjx
  obtain ⟨Y, hXY, hY⟩ := hP
  obtain ⟨sp, xp, _, hsim, haux, hminv, _, hcfg, hst⟩ := d.pre hq hXY hY hjx
  show (match stateAfter c (flat X) with | .ok s => acnForeign c.tree s | .error _ => false) = tbCdata jx
  rw [hst]
  obtain ⟨s1, hs1⟩ := acn_bridge hminv xp haux
  have hr := H5V.Lemmas.TBSplit.adjustedCurrentNodeForeign_resp jx.tb sp hsim
  have hs1' : adjustedCurrentNodeForeign sp = .ok (acnForeign (cfgOf sp) (absF sp xp), s1) := hs1
  rw [hs1'] at hr
  unfold tbCdata
  cases hj : adjustedCurrentNodeForeign.run jx.tb with
  | error e =>
    have hj' : adjustedCurrentNodeForeign jx.tb = .error e := hj
    rw [hj'] at hr
    exact hr.elim
  | ok v =>
    obtain ⟨b, t⟩ := v
    have hj' : adjustedCurrentNodeForeign jx.tb = .ok (b, t) := hj
    rw [hj'] at hr
    obtain ⟨e, _, _⟩ := hr
    simp only
    rw [e, d.tree, hcfg]

theorem StreamDataX.agT (hq : opts.quirksMode = .noQuirks) (d : StreamDataX opts c Hf j3 se x') {X : TOut}
    {tag : H5V.Model.HtmlTok.Tag} {l : Nat} (hP : Before Hf ((H5V.Model.HtmlTok.Token.tag tag, l) :: X)) :
    AgT (polOfTree (treeOfSpec c)) (j0Of opts) X tag := by
  intro jx hjx
  obtain ⟨Y, hXY, hY⟩ := hP
  -- the joint state after the tag
  have hh := d.hist
  rw [hXY, List.reverse_append, List.reverse_cons] at hh
  obtain ⟨jx', hjx', hrest⟩ := absorb_append_ok hh
  obtain ⟨jx0, hjx0, htag⟩ := absorb_append_ok hjx'
  rw [hjx] at hjx0
  cases hjx0
  obtain ⟨r, hrun, hres⟩ := absorb_tag htag
  -- the exploded run after the tag
  have hjx'' : absorb ((H5V.Model.HtmlTok.Token.tag tag, l) :: X).reverse (j0Of opts) = .ok jx' := by
    rw [List.reverse_cons]; exact hjx'
  obtain ⟨sp, xp, hl, _, _, _, _, _, hst⟩ := d.pre hq hXY hY hjx''
  have hcv : explode (convAll ((H5V.Model.HtmlTok.Token.tag tag, l) :: X).reverse) =
      explode (convAll X.reverse) ++ [(TokToken.tag (convTag tag), l)] := by
    rw [List.reverse_cons, convAll_append, explode_append]; rfl
  rw [hcv] at hl
  obtain ⟨sp0, xq, r0, hlq, hs⟩ := Lock.last hl
  -- the exploded run before the tag is `Sim`-related to the actual run
  have hnX : EmptyOk (docStart opts) (convAll X.reverse) := by
    have h := d.emptyOk
    rw [hXY, List.reverse_append, List.reverse_cons, convAll_append, convAll_append, List.append_assoc] at h
    exact emptyOk_prefix _ _ _ h
  have hsim := sim_of_lock hjx hnX hlq
  have hr0 : r0 = r := by
    have h1 := H5V.Props.C03.C03_tb_sim_step (.tag (convTag tag)) l l jx.tb sp0 hsim
    have ha : processToken (.tag (convTag tag)) l jx.tb = .ok (r, jx'.tb) := hrun
    have hb : processToken (.tag (convTag tag)) l sp0 = .ok (r0, sp) := hs.run
    rw [ha, hb] at h1
    exact h1.1.symm
  subst hr0
  rcases hs.spec with ⟨h0, _⟩ | ⟨st, o, _, ho, hrel, _⟩
  · simp [specTokOf] at h0
  · show sinkResOf (match stateAfter c (Emit.tag tag :: flat X) with | .ok s => lastSwitch s | .error _ => Switch.none)
        = np (tbTag jx tag)
    have hfl : flat ((H5V.Model.HtmlTok.Token.tag tag, l) :: X) = Emit.tag tag :: flat X := rfl
    rw [hfl] at hst
    rw [hst, tbTag_of_run hsim.good hrun]
    have hlast : lastSwitch (absF sp xp) = H5V.Spec.Parse.switchOf o.switch := by
      unfold lastSwitch
      show (match xp.outs.getLast? with | some o => H5V.Spec.Parse.switchOf o.switch | none => Switch.none) = _
      rw [ho]
      simp
    simp only [hlast]
    refine answer_eq hrel (fun e he => ?_)
    rw [he] at hrun
    have := processToken_rawKind _ _ _ _ _ hrun
    simp at this

/-- **the bridge, for every grouping of the character tokens** -/
theorem agrees_of_streamX (hq : opts.quirksMode = .noQuirks) (d : StreamDataX opts c Hf j3 se x') :
    Agrees (polOfTree (treeOfSpec c)) (j0Of opts) (Before Hf) where
  suf := by
    rintro Z X ⟨Y, hY, hne⟩
    refine ⟨Y ++ Z, by rw [hY, List.append_assoc], ?_⟩
    rw [List.reverse_append, convAll_append]
    intro h
    exact hne (List.append_eq_nil_iff.mp h).2
  tag := fun X tag l hP => d.agT hq hP
  cdata := fun X hP => d.agC hq hP

end

end H5V.Lemmas.ParseSpec
