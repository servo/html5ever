import H5V.Lemmas.HtmlTBSplitPtc
/-!
C03 lifted to the tree: processing a character token leaves `ignore_lf`, `foster_parenting` (outside the
bracket of `foster_parent_in_body`), `opts`, `template_modes`, `doc_handle`, `form_elem`, `context_elem`, the
line counter and the insertion mode (which only `process_to_completion` itself changes) alone (`Keeps`).
-/
namespace H5V.Lemmas.TBSplit
open H5V.Model.Dom (Id QualName Attr NodeOrText SinkOp Output ElementFlags QuirksMode Dom)
open H5V.Model.HtmlTok (TagKind RawKind)
open H5V.Model.HtmlTB

/-- the components no character token changes -/
def fr (s : State) : Opts × List Mode × Id × Option Id × Bool × Bool × Option Id × Nat × Mode :=
  (s.opts, s.templateModes, s.docHandle, s.formElem, s.ignoreLf, s.fosterParenting, s.contextElem, s.currentLine,
    s.mode)

def Keeps {α : Type} (m : M α) : Prop := ∀ s a s', m s = .ok (a, s') → fr s' = fr s

theorem keeps_pure {α : Type} (a : α) : Keeps (pure a : M α) := by
  intro s b s' h; cases h; rfl

@[keeps]
theorem keeps_throw {α : Type} (e : String) : Keeps (throw e : M α) := by
  intro s b s' h; cases h

theorem keeps_bind {α β : Type} {m : M α} {f : α → M β} (hm : Keeps m) (hf : ∀ a, Keeps (f a)) : Keeps (m >>= f) := by
  intro s b s2 h
  obtain ⟨a, s1, h1, h2⟩ := bind_ok h
  exact (hf a s1 b s2 h2).trans (hm s a s1 h1)

theorem keeps_pure_bind {α β : Type} {a : α} {f : α → M β} (h : Keeps (f a)) : Keeps ((pure a : M α) >>= f) := h

theorem keeps_throw_bind {α β : Type} (e : String) (f : α → M β) : Keeps ((throw e : M α) >>= f) := by
  intro s b s' h; cases h
theorem keeps_panicAt_bind {α β : Type} (a b c : String) (f : α → M β) : Keeps ((panicAt a b c : M α) >>= f) :=
  keeps_throw_bind _ _
@[keeps]
theorem keeps_panicAt {α : Type} (a b c : String) : Keeps (panicAt a b c : M α) := keeps_throw _
@[keeps]
theorem keeps_fuelOut {α : Type} (a : String) : Keeps (fuelOut a : M α) := keeps_throw _

theorem keeps_getS_bind {β : Type} {f : State → M β} (h : ∀ s, Keeps (f s)) : Keeps (getS >>= f) := by
  intro s b s' hs
  rw [bind_apply, getS_apply] at hs
  exact h s s b s' hs

theorem keeps_modS {g : State → State} (h : ∀ s, fr (g s) = fr s) : Keeps (modS g) := by
  intro s a s' hs; cases hs; exact h s

theorem keeps_ite {α : Type} {c : Prop} {_ : Decidable c} {a b : M α} (ha : c → Keeps a) (hb : ¬ c → Keeps b) :
    Keeps (if c then a else b) := by
  split
  · exact ha ‹_›
  · exact hb ‹_›

@[keeps]
theorem keeps_sink (op : SinkOp) : Keeps (sink op) := by
  intro s o s' h
  obtain ⟨d, _, rfl⟩ := sink_ok h
  rfl

@[keeps low]
theorem QResp.keeps {α : Type} {m : M α} (h : QResp m) : Keeps m := by
  intro s a s' hs
  obtain ⟨tr, rfl⟩ := h.trEq hs
  rfl

/-- the lemma about a function of the model is found through the simp set `keeps`; a query keeps the frame -/
macro "k_step" : tactic =>
  `(tactic| first
    | (with_reducible intro _)
    | (with_reducible exact keeps_pure _)
    | (with_reducible refine keeps_ite ?_ ?_)
    | (with_reducible exact keeps_throw_bind _ _)
    | (with_reducible exact keeps_panicAt_bind _ _ _ _)
    | (with_reducible refine keeps_pure_bind ?_)
    | (with_reducible refine keeps_getS_bind ?_)
    | ((with_reducible refine keeps_bind ?_ ?_); try simp only [keeps, qresp])
    | ((with_reducible refine keeps_modS ?_); exact fun _ => rfl)
    | split
    | simp only [keeps, qresp]
    | assumption
    | (with_reducible exact ‹∀ _, Keeps _› _)
    | (with_reducible exact ‹∀ _ _, Keeps _› _ _)
    | (simp (config := { zeta := true }) only [pure_bind]))

macro "k_auto" : tactic => `(tactic| repeat' k_step)

@[keeps]
theorem keeps_sinkUnit (op : SinkOp) : Keeps (sinkUnit op) := by unfold sinkUnit; k_auto
@[keeps]
theorem keeps_sinkNode (op : SinkOp) : Keeps (sinkNode op) := by unfold sinkNode; k_auto
@[keeps]
theorem keeps_parseError (msg : String) : Keeps (parseError msg) := keeps_sinkUnit _

@[keeps]
theorem push_keeps (h : Id) : Keeps (push h) := by unfold push; k_auto

@[keeps]
theorem pop_keeps : Keeps pop := by
  intro s a s' h
  unfold pop at h
  rw [bind_apply, getS_apply] at h
  simp only at h
  cases hl : s.openElems.getLast? with
  | none => rw [hl] at h; cases h
  | some e =>
    rw [hl] at h
    simp only at h
    obtain ⟨u, s1, h1, h⟩ := bind_ok h
    cases h1
    obtain ⟨u2, s2, h2, h⟩ := bind_ok h
    cases h
    exact (keeps_sinkUnit _ _ _ _ h2).trans rfl

@[keeps]
theorem setFramesetOk_keeps (b : Bool) : Keeps (setFramesetOk b) := by unfold setFramesetOk; k_auto
@[keeps]
theorem unexpected_keeps : Keeps unexpected := by unfold unexpected; k_auto
@[keeps]
theorem setQuirksMode_keeps (m : QuirksMode) : Keeps (setQuirksMode m) := by unfold setQuirksMode; k_auto
@[keeps]
theorem createElementWithFlags_keeps (n : QualName) (a : List Attr) (h : Bool) : Keeps (createElementWithFlags n a h) := by
  unfold createElementWithFlags; k_auto
@[keeps]
theorem insertAt_keeps (p : InsertionPoint) (c : NodeOrText) : Keeps (insertAt p c) := by unfold insertAt; k_auto
@[keeps]
theorem insertAppropriately_keeps (c : NodeOrText) (o : Option Id) : Keeps (insertAppropriately c o) := by
  unfold insertAppropriately; k_auto
@[keeps]
theorem insertElement_keeps (p : Bool) (ns name : Str) (a : List Attr) (h : Bool) : Keeps (insertElement p ns name a h) := by
  unfold insertElement; k_auto
@[keeps]
theorem insertPhantom_keeps (name : String) : Keeps (insertPhantom name) := insertElement_keeps _ _ _ _ _
@[keeps]
theorem createRoot_keeps (a : List Attr) : Keeps (createRoot a) := by unfold createRoot; k_auto
@[keeps]
theorem appendText_keeps (z : Str) : Keeps (appendText z) := by unfold appendText; k_auto
@[keeps]
theorem setAF_keeps (af : List FormatEntry) : Keeps (setAF af) := by unfold setAF; k_auto

@[keeps]
theorem reconstructCreate_keeps : ∀ f i, Keeps (reconstructCreate f i)
  | 0, _ => by unfold reconstructCreate; k_auto
  | f + 1, i => by
    have ih := reconstructCreate_keeps f (i + 1)
    unfold reconstructCreate; k_auto

@[keeps]
theorem reconstruct_keeps : Keeps reconstructActiveFormattingElements := by
  unfold reconstructActiveFormattingElements
  have h1 : ∀ n, Keeps (reconstructRewind n) := fun n => (reconstructRewind_q n).keeps
  k_auto

@[keeps]
theorem fOk_keeps (z : Str) : Keeps (fOk z) := by unfold fOk; k_auto

theorem stepInBody_chars_keeps (st : SplitStatus) (z : Str) : Keeps (stepInBody (.chars st z)) := by
  rw [stepInBody_chars_eq]; k_auto

@[keeps]
theorem tablePre_keeps : Keeps tablePre := by unfold tablePre; k_auto

theorem charsPre_keeps (m : Mode) (st : SplitStatus) : Keeps (charsPre m st) := by
  cases m <;> cases st <;> (simp only [charsPre, preShape, unexpectedThen]; k_auto)

theorem isForeignChars_keeps : Keeps isForeignChars := (isForeign_q _).keeps

theorem dPre_keeps (st : SplitStatus) : Keeps (dPre st) := by
  unfold dPre
  refine keeps_bind isForeignChars_keeps (fun b => ?_)
  refine keeps_ite (fun _ => keeps_pure _) (fun _ => keeps_getS_bind (fun s => charsPre_keeps _ _))

theorem fosterParentInBody_apply (t : Token) (s : State) :
    fosterParentInBody t s = match stepInBody t { s with fosterParenting := true } with
      | .error e => .error e
      | .ok (r, s') => .ok (r, { s' with fosterParenting := false }) := by
  unfold fosterParentInBody
  rw [bind_apply, modS_apply]
  simp only
  rw [bind_apply]
  cases stepInBody t { s with fosterParenting := true } with
  | error e => rfl
  | ok v => rfl

/-- the foster-parented in-body rule: the flag ends up cleared, the rest is kept -/
theorem fosterParentInBody_chars_fr (st : SplitStatus) (z : Str) {s s' : State} {r : ProcessResult}
    (h : fosterParentInBody (.chars st z) s = .ok (r, s')) :
    fr s' = fr { s with fosterParenting := false } := by
  rw [fosterParentInBody_apply] at h
  cases hb : stepInBody (.chars st z) { s with fosterParenting := true } with
  | error e => rw [hb] at h; cases h
  | ok v =>
    obtain ⟨r', s1⟩ := v
    rw [hb] at h
    cases h
    have := stepInBody_chars_keeps st z _ _ _ hb
    simp only [fr, Prod.mk.injEq] at this ⊢
    obtain ⟨a, b, c, d, e, _, g, i, j⟩ := this
    exact ⟨a, b, c, d, e, trivial, g, i, j⟩

end H5V.Lemmas.TBSplit
