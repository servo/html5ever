import H5V.Lemmas.XmlShapeCmt
import H5V.Lemmas.XmlTokCleanRefs
/-!
C17, shape of parsed trees (tokenizer side): the lexical invariant `Lex` (`XmlShapeCmt`) through the
reader, the character-reference sub-tokenizer, `step`, `run`, `feed` and `end` of the XML tokenizer model.

`Rd a b`: machine `b` differs from `a` only in reader registers (`ignore_lf`, `reconsume`, `current_char`,
`temp_buf`, `char_ref`, `at_eof`, `discard_bom`, the attribute VALUE register) and in parse-error tokens
added to the log — nothing `LexE` looks at.  The reader and the character-reference sub-tokenizer relate
their input machine to their output machine by `Rd`.  The comment part of `Lex` mentions `reconsume` /
`current_char` in the comment state only; `getChar_lexT` is where a pending reconsume is turned into the
table's precondition.  The characters handed to the tables are preprocessed (C15: `CInv NN`), which is where
`NmCh` / `DtCh` come from; a character reference is only in progress in the data / attribute-value states
(C04: `Safe`).  `LInv = NInv ∧ Safe ∧ Lex` is preserved by `run` and `feed`; `finish_lex`: after `end` the
log satisfies `CleanP NN` and `TokA`.
-/
namespace H5V.Lemmas.XmlShapeLex
open H5V.Model.XmlTok H5V.Lemmas.XmlRT

structure Rd (a b : Mach) : Prop where
  state : b.state = a.state
  tagKind : b.tagKind = a.tagKind
  tagName : b.tagName = a.tagName
  tagAttrs : b.tagAttrs = a.tagAttrs
  attrName : b.attrName = a.attrName
  comment : b.comment = a.comment
  doctype : b.doctype = a.doctype
  piTarget : b.piTarget = a.piTarget
  piData : b.piData = a.piData
  out : ∀ t ∈ b.out, t ∈ a.out ∨ ∃ s, t = .error s

theorem Rd.refl (a : Mach) : Rd a a := ⟨rfl, rfl, rfl, rfl, rfl, rfl, rfl, rfl, rfl, fun _ h => Or.inl h⟩
theorem Rd.trans {a b c : Mach} (h1 : Rd a b) (h2 : Rd b c) : Rd a c :=
  ⟨h2.state.trans h1.state, h2.tagKind.trans h1.tagKind, h2.tagName.trans h1.tagName,
   h2.tagAttrs.trans h1.tagAttrs, h2.attrName.trans h1.attrName, h2.comment.trans h1.comment,
   h2.doctype.trans h1.doctype,
   h2.piTarget.trans h1.piTarget, h2.piData.trans h1.piData, fun t ht => by
     rcases h2.out t ht with h | h
     · exact h1.out t h
     · exact Or.inr h⟩

theorem LexE.of_rd {a b : Mach} (h : LexE a) (r : Rd a b) : LexE b := by
  refine ⟨⟨?_, by rw [r.attrName]; exact h.1.aname, by rw [r.tagAttrs]; exact h.1.attrs,
    by rw [r.tagAttrs]; exact h.1.nodup, by rw [r.piTarget]; exact h.1.piT, by rw [r.piData]; exact h.1.piD,
    by rw [r.doctype]; exact h.1.dt, by rw [r.comment]; exact h.1.scan⟩, ?_⟩
  · intro t ht
    rcases r.out t ht with h' | ⟨s, rfl⟩
    · exact h.1.out t h'
    · trivial
  · rw [r.state]; exact modeOK_congr h.2 r.tagKind r.tagName r.piTarget

section reader
variable {m : Mach}

macro "rd_same" : tactic => `(tactic| exact ⟨rfl, rfl, rfl, rfl, rfl, rfl, rfl, rfl, rfl, fun _ h => Or.inl h⟩)

theorem Rd_setIgnoreLf (m : Mach) (b : Bool) : Rd m (m.setIgnoreLf b) := by rd_same
theorem Rd_setReconsume (m : Mach) (b : Bool) : Rd m (m.setReconsume b) := by rd_same
theorem Rd_setTempBuf (m : Mach) (s : Str) : Rd m (m.setTempBuf s) := by rd_same
theorem Rd_setCharRef (m : Mach) (x : Option CharRefSt) : Rd m (m.setCharRef x) := by rd_same
theorem Rd_setAtEof (m : Mach) (b : Bool) : Rd m (m.setAtEof b) := by rd_same
theorem Rd_setDiscardBom (m : Mach) (b : Bool) : Rd m (m.setDiscardBom b) := by rd_same
theorem Rd_setCurrentChar (m : Mach) (c : Char) : Rd m (m.setCurrentChar c) := by rd_same
theorem Rd_emitE (m : Mach) (s : Str) : Rd m (emit m (.error s)) :=
  ⟨rfl, rfl, rfl, rfl, rfl, rfl, rfl, rfl, rfl, fun t h => by
    rcases List.mem_cons.mp h with rfl | h
    · exact Or.inr ⟨s, rfl⟩
    · exact Or.inl h⟩
theorem Rd_emitErr (m : Mach) (s : String) : Rd m (emitErr m s) := Rd_emitE m _
theorem Rd_nameErr (o : Opts) (m : Mach) (nb : Str) : Rd m (nameErr o m nb) := by
  unfold nameErr; split
  · exact Rd_emitE m _
  · exact Rd_emitErr m _

theorem foldChar_rd (o : Opts) (m : Mach) (c : Char) : Rd m (foldChar o m c).2 := by
  unfold foldChar
  generalize hcm : (if c = '\r' then ('\n', m.setIgnoreLf true) else (c, m)) = cm
  have h2 : Rd m cm.2 := by
    rw [← hcm]; split
    · exact Rd_setIgnoreLf m true
    · exact Rd.refl m
  dsimp only
  generalize (if cm.1 = '\x00' then '�' else cm.1) = c'
  refine Rd.trans ?_ (Rd_setCurrentChar _ c')
  split
  · exact h2.trans (Rd_emitE _ _)
  · exact h2

theorem preprocess_rd (o : Opts) (m : Mach) (c : Char) (inp : Str) : Rd m (preprocess o m c inp).2.1 := by
  unfold preprocess
  split
  · split
    · cases inp with
      | nil => exact Rd_setIgnoreLf m false
      | cons c' rest => exact (Rd_setIgnoreLf m false).trans (foldChar_rd o _ c')
    · exact (Rd_setIgnoreLf m false).trans (foldChar_rd o _ c)
  · exact foldChar_rd o m c

theorem getChar_rd (o : Opts) (m : Mach) (inp : Str) : Rd m (getChar o m inp).2.1 := by
  unfold getChar
  split
  · exact Rd_setReconsume m false
  · cases inp with
    | nil => exact Rd.refl m
    | cons c rest => exact preprocess_rd o m c rest

theorem popExceptFrom_rd (o : Opts) (S : List Char) (m : Mach) (inp : Str) :
    Rd m (popExceptFrom o S m inp).2.1 ∧ ∀ r, (popExceptFrom o S m inp).1 = some r → SetRes.NonEmpty r := by
  unfold popExceptFrom
  split
  · refine ⟨getChar_rd o m inp, fun r hr => ?_⟩
    dsimp only at hr
    cases hg : (getChar o m inp).1 with
    | none => rw [hg] at hr; cases hr
    | some x =>
      rw [hg] at hr
      simp only [Option.map_some, Option.some.injEq] at hr
      subst hr; trivial
  · cases inp with
    | nil => exact ⟨Rd.refl m, fun r hr => by cases hr⟩
    | cons c rest =>
      dsimp only
      split
      · refine ⟨preprocess_rd o m c rest, fun r hr => ?_⟩
        dsimp only at hr
        cases hg : (preprocess o m c rest).1 with
        | none => rw [hg] at hr; cases hr
        | some x =>
          rw [hg] at hr
          simp only [Option.map_some, Option.some.injEq] at hr
          subst hr; trivial
      · refine ⟨Rd.refl m, fun r hr => ?_⟩
        simp only [Option.some.injEq] at hr
        subst hr
        show [c] ≠ []
        simp

theorem eatSkipLf_rd (o : Opts) (m : Mach) (inp : Str) : Rd m (eatSkipLf o m inp).1 := by
  unfold eatSkipLf
  split
  · split
    · split
      · exact (Rd_setIgnoreLf m false).trans (getChar_rd o _ inp)
      · exact Rd_setIgnoreLf m false
    · exact Rd.refl m
  · exact Rd.refl m

theorem eat_rd (o : Opts) (m : Mach) (inp pat : Str) : Rd m (eat o m inp pat).2.1 := by
  have h1 := eatSkipLf_rd o m inp
  unfold eat
  dsimp only
  generalize eatSkipLf o m inp = mi at h1
  repeat' split
  all_goals exact h1.trans (Rd_setTempBuf _ _)

theorem unconsume_rd (m : Mach) (inp buf : Str) : Rd m (unconsume m inp buf).1 := by
  unfold unconsume; split
  · exact Rd_setIgnoreLf m false
  · exact Rd.refl m

end reader

/-! ### the character-reference sub-tokenizer -/

theorem discardChar_rd (o : Opts) (m : Mach) (inp : Str) (m1 : Mach) (i1 : Str)
    (hd : discardChar o m inp = .ok (m1, i1)) : Rd m m1 := by
  unfold discardChar at hd
  have hg := getChar_rd o m inp
  generalize getChar o m inp = r at hd hg
  obtain ⟨c, m2, i2⟩ := r
  cases c with
  | none => simp at hd
  | some c =>
    simp only [Except.ok.injEq, Prod.mk.injEq] at hd
    obtain ⟨h1, _⟩ := hd; subst h1
    exact hg

theorem finishNumeric_rd (o : Opts) (m : Mach) (cr : CharRefSt) : Rd m (finishNumeric o m cr).1 := by
  unfold finishNumeric
  dsimp only
  -- whatever character is chosen, the machine gains at most the error token
  generalize Prod.snd _ = err
  split
  · split
    · exact Rd_emitE m _
    · exact Rd_emitErr m _
  · exact Rd.refl m

/-- the machine of a successful sub-tokenizer step is `Rd`-related to `m0` -/
def CRRes.RdOk (m0 : Mach) (r : CRRes) : Prop :=
  match r with
  | .error _ => True
  | .ok (m1, _, _, _) => Rd m0 m1

theorem unconsumeNumeric_rd {m0 m : Mach} (h : Rd m0 m) (inp : Str) (cr : CharRefSt) :
    CRRes.RdOk m0 (unconsumeNumeric m inp cr) := by
  simp only [unconsumeNumeric, CRRes.RdOk]
  exact (h.trans (unconsume_rd m _ _)).trans (Rd_emitErr _ _)

theorem finishNumericStatus_rd (o : Opts) {m0 m : Mach} (h : Rd m0 m) (inp : Str) (cr : CharRefSt) :
    CRRes.RdOk m0 (finishNumericStatus o m inp cr) := by
  unfold finishNumericStatus
  have := finishNumeric_rd o m cr
  split
  · rename_i heq; rw [heq] at this; exact h.trans this
  · trivial

theorem unconsumeName_rd {m0 m : Mach} (h : Rd m0 m) (inp : Str) (cr : CharRefSt) :
    CRRes.RdOk m0 (unconsumeName m inp cr) := by
  unfold unconsumeName
  split
  · trivial
  · exact h.trans (unconsume_rd m _ _)

theorem namedDecision_rd (m : Mach) (cr : CharRefSt) (nb : Str) (c1 c2 : Nat) (m1 : Mach)
    (r : Option Str) (hd : namedDecision m cr nb c1 c2 = .ok (m1, r)) : Rd m m1 := by
  unfold namedDecision at hd
  dsimp only at hd
  by_cases h0 : cr.nameLen = 0
  · rw [if_pos h0] at hd; cases hd
  rw [if_neg h0] at hd
  cases hlm : nb[cr.nameLen - 1]? with
  | none => rw [hlm] at hd; cases hd
  | some lastMatched =>
    rw [hlm] at hd
    dsimp only at hd
    -- a result, if any, carries the machine `ua.2`, which is `m` with at most one error
    generalize hua : (if lastMatched = ';' then _ else _ : Bool × Mach) = ua at hd
    have hr : Rd m ua.2 := by
      rw [← hua]
      repeat' split
      all_goals first | exact Rd.refl m | exact Rd_emitErr m _
    repeat' split at hd
    all_goals cases hd
    all_goals exact hr

theorem finishNamed_rd (o : Opts) {m0 m : Mach} (h : Rd m0 m) (inp : Str) (cr : CharRefSt) (ec : Option Char) :
    CRRes.RdOk m0 (finishNamed o m inp cr ec) := by
  unfold finishNamed
  split
  · trivial
  · split
    · dsimp only
      repeat' split
      all_goals
        first
          | exact h
          | exact unconsumeName_rd h _ _
          | exact unconsumeName_rd (h.trans (Rd_nameErr _ _ _)) _ _
          | (apply unconsumeName_rd
             repeat' split
             all_goals first | exact h | exact h.trans (Rd_nameErr _ _ _))
    · split
      · trivial
      · exact unconsumeName_rd (h.trans (namedDecision_rd _ _ _ _ _ _ _ (by assumption))) _ _
      · exact (h.trans (namedDecision_rd _ _ _ _ _ _ _ (by assumption))).trans (unconsume_rd _ _ _)

/-- **one step of the character-reference sub-tokenizer changes nothing `LexE` looks at** -/
theorem crStep_rd (o : Opts) (m : Mach) (inp : Str) (cr : CharRefSt) :
    CRRes.RdOk m (crStep o m inp cr) := by
  have h := Rd.refl m
  unfold crStep
  cases hst : cr.state with
  | named =>
    simp only
    have hp := getChar_rd o m inp
    generalize getChar o m inp = r at hp
    obtain ⟨c, m2, i2⟩ := r
    cases c with
    | none => exact hp
    | some c =>
      simp only
      repeat' split
      all_goals first | trivial | exact hp | exact finishNamed_rd o hp _ _ _
  | bogusName =>
    simp only
    have hp := getChar_rd o m inp
    generalize getChar o m inp = r at hp
    obtain ⟨c, m2, i2⟩ := r
    cases c with
    | none => exact hp
    | some c =>
      simp only
      repeat' split
      all_goals
        first
          | trivial
          | exact hp
          | exact unconsumeName_rd (hp.trans (Rd_nameErr _ _ _)) _ _
          | exact unconsumeName_rd hp _ _
  | begin | octothorpe =>
    simp only
    repeat' split
    all_goals first | trivial | exact h | exact discardChar_rd o m _ _ _ (by assumption)
  | numeric base =>
    simp only
    repeat' split
    all_goals
      first
        | trivial
        | exact h
        | exact discardChar_rd o m _ _ _ (by assumption)
        | exact unconsumeNumeric_rd h _ _
  | numericSemicolon =>
    simp only
    repeat' split
    all_goals
      first
        | trivial
        | exact h
        | exact finishNumericStatus_rd o (discardChar_rd o m _ _ _ (by assumption)) _ _
        | exact finishNumericStatus_rd o (Rd_emitErr m _) _ _

theorem foldl_emitChar_lex (chars : Str) {m : Mach} (h : LexE m) : LexE (chars.foldl emitChar m) := by
  induction chars generalizing m with
  | nil => exact h
  | cons c cs ih => exact ih (Lex_emitChar h c)

theorem foldl_pushValue_lex (chars : Str) {m : Mach} (h : LexE m) :
    LexE (chars.foldl (fun m c => pushValue c m) m) := by
  induction chars generalizing m with
  | nil => exact h
  | cons c cs ih => exact ih (Lex_pushValue h c)

theorem processCharRef_lex {m : Mach} (h : LexE m) (chars : Str) : LexE (processCharRef m chars).1 := by
  unfold processCharRef
  dsimp only
  split
  · exact foldl_emitChar_lex _ h
  · exact foldl_emitChar_lex _ h
  · exact foldl_pushValue_lex _ h
  · exact h

/-! ### the comment part of the invariant through the reader -/

/-- outside the comment state, `CmtOK` and `CmtPre` say the same thing, about the comment register only -/
theorem cmt_reg {md : CMode} {a b : Mach} (hmd : md ≠ .cC) (hcm : b.comment = a.comment) (h : CmtOK md a)
    (c : Char) : CmtOK md b ∧ CmtPre md b c := by
  cases md with
  | cC => exact absurd rfl hmd
  | none => exact ⟨trivial, trivial⟩
  | _ => simp only [CmtOK, CmtPre] at h ⊢; rw [hcm]; exact ⟨h, h⟩

theorem cmtOK_congr {md : CMode} {a b : Mach} (h : CmtOK md a) (hcm : b.comment = a.comment)
    (hk : md ≠ .cC ∨ (b.reconsume = a.reconsume ∧ b.currentChar = a.currentChar)) : CmtOK md b := by
  rcases hk with hk | ⟨e1, e2⟩
  · exact (cmt_reg hk hcm h 'x').1
  · by_cases hmd : md = .cC
    · subst hmd; simp only [CmtOK] at h ⊢; rw [hcm, e1, e2]; exact h
    · exact (cmt_reg hmd hcm h 'x').1

theorem Lex.of_rd {a b : Mach} (h : Lex a) (r : Rd a b)
    (hk : cmtOf a.state ≠ .cC ∨ (b.reconsume = a.reconsume ∧ b.currentChar = a.currentChar)) : Lex b :=
  ⟨h.1.of_rd r, by rw [r.state]; exact cmtOK_congr h.2 r.comment hk⟩

/-- a reader operation on a machine that is not in a comment state -/
theorem Lex.of_rd_none {a b : Mach} (h : Lex a) (r : Rd a b) (hs : cmtOf a.state = .none) : Lex b :=
  h.of_rd r (Or.inl (by rw [hs]; decide))

/-- the character handed to the table: a pending reconsume delivers `current_char` -/
theorem cmtPre_of_ok {m m1 : Mach} {c : Char} (h2 : CmtOK (cmtOf m.state) m)
    (hrc : m.reconsume = true → m.currentChar = c) (hcm : m1.comment = m.comment) (hs : m1.state = m.state) :
    CmtPre (cmtOf m1.state) m1 c := by
  rw [hs]
  by_cases hm : cmtOf m.state = .cC
  · rw [hm] at h2 ⊢
    simp only [CmtOK] at h2
    simp only [CmtPre]
    rw [hcm]
    rcases h2 with w | ⟨r, cr⟩
    · exact CR_of_CW w c
    · rw [← hrc r]; exact cr
  · exact (cmt_reg hm hcm h2 c).2

theorem cmtOK_of_ok_nrc {m m1 : Mach} (h2 : CmtOK (cmtOf m.state) m) (hrc : m.reconsume = false)
    (hcm : m1.comment = m.comment) (hs : m1.state = m.state) : CmtOK (cmtOf m1.state) m1 := by
  rw [hs]
  by_cases hm : cmtOf m.state = .cC
  · rw [hm] at h2 ⊢
    simp only [CmtOK] at h2 ⊢
    rw [hcm]
    rcases h2 with w | ⟨r, _⟩
    · exact Or.inl w
    · rw [hrc] at r; cases r
  · exact (cmt_reg hm hcm h2 'x').1

/-- **`get_char`** from a machine satisfying the invariant: no character → the invariant still holds;
a character `c` → the table's precondition `LexT`, `current_char = c`, and `c` is preprocessed -/
theorem getChar_lexT (o : Opts) {m : Mach} (hc : CInv NN m) (h : Lex m) (inp : Str) :
    ((getChar o m inp).1 = none → Lex (getChar o m inp).2.1) ∧
    ∀ c, (getChar o m inp).1 = some c →
      LexT (getChar o m inp).2.1 c ∧ (getChar o m inp).2.1.currentChar = c ∧ QC c := by
  obtain ⟨_, g2, g3⟩ := getChar_clean o hc inp
  have hr := getChar_rd o m inp
  have he := h.1.of_rd hr
  by_cases hrc : m.reconsume = true
  · have e : getChar o m inp = (some m.currentChar, m.setReconsume false, inp) := by
      unfold getChar; simp [hrc]
    refine ⟨(fun hn => by rw [e] at hn; cases hn), fun c hcs => ?_⟩
    obtain ⟨q1, q2⟩ := g3 c hcs
    refine ⟨⟨he, cmtPre_of_ok h.2 (fun _ => ?_) hr.comment hr.state⟩, q2, q1⟩
    rw [e] at hcs; simp only [Option.some.injEq] at hcs; exact hcs
  · have hrc' : m.reconsume = false := by simpa using hrc
    refine ⟨fun _ => ⟨he, cmtOK_of_ok_nrc h.2 hrc' hr.comment hr.state⟩, fun c hcs => ?_⟩
    obtain ⟨q1, q2⟩ := g3 c hcs
    exact ⟨⟨he, cmtPre_of_ok h.2 (fun r => by rw [hrc'] at r; cases r) hr.comment hr.state⟩, q2, q1⟩

/-! ### one `XmlTokenizer::step` -/

def RL : R → Prop
  | .cont m _ => Lex m
  | .suspend m _ => Lex m
  | .panic _ => True

theorem ofSig_RL {ms : Mach × Sig} (h : Lex ms.1) (inp : Str) : RL (ofSig ms inp) := by
  unfold ofSig
  split
  · exact h
  · trivial

theorem contChar_RL (o : Opts) {m : Mach} (hc : CInv NN m) (h : Lex m) (inp : Str) :
    RL (contChar o (getChar o m inp)) := by
  obtain ⟨g1, g2⟩ := getChar_lexT o hc h inp
  generalize getChar o m inp = r at g1 g2
  obtain ⟨c, m1, i1⟩ := r
  cases c with
  | none => exact g1 rfl
  | some c =>
    obtain ⟨q1, q2, q3⟩ := g2 c rfl
    exact ofSig_RL (transChar_lex o q1 q3 q2) _

theorem transSet_cmtOf (m : Mach) (r : SetRes) (hs : cmtOf m.state = .none) :
    cmtOf (transSet m r).1.state = .none := by
  unfold transSet
  split
  all_goals first
    | (dsimp only; (repeat' split) <;> simp [cmtOf, *]; done)
    | exact hs
    | simp [cmtOf, *]

theorem contSet_RL (o : Opts) (S : List Char) {m : Mach} (h : Lex m) (hs : cmtOf m.state = .none) (inp : Str) :
    RL (contSet (popExceptFrom o S m inp)) := by
  obtain ⟨hr, g3⟩ := popExceptFrom_rd o S m inp
  generalize popExceptFrom o S m inp = r at g3 hr
  obtain ⟨c, m1, i1⟩ := r
  cases c with
  | none => exact h.of_rd_none hr hs
  | some c =>
    have hs1 : cmtOf m1.state = .none := by rw [hr.state]; exact hs
    exact ofSig_RL (Lex.of_none (transSet_lex (h.1.of_rd hr) (g3 c rfl)) (transSet_cmtOf m1 c hs1)) _

/-- what the two look-ahead states keep while `eat` runs -/
def EatI (m : Mach) (_ : Str) : Prop := CInv NN m ∧ LexE m ∧ cmtOf m.state = .none

theorem EatI.eat (o : Opts) (m : Mach) (inp pat : Str) (b : Option Bool) (m1 : Mach) (i1 : Str) (h : EatI m inp)
    (e : eat o m inp pat = (b, m1, i1)) : EatI m1 i1 := by
  have r := eat_rd o m inp pat
  have c := eat_cinv o h.1 inp pat
  rw [e] at r c
  exact ⟨c, h.2.1.of_rd r, by rw [r.state]; exact h.2.2⟩

theorem stepMd_RL (o : Opts) {m : Mach} (hc : CInv NN m) (h : Lex m) (hs : m.state = .markupDecl) (inp : Str) :
    RL (stepMd o m inp) := by
  rw [stepMd_eq]
  refine eatChain_ind (I := EatI) (Post := RL) o (fun m inp => .cont (to .bogusComment (badChar o m)) inp) mdAlts
    (EatI.eat o) (fun m _ h => Lex.of_none h.2.1 h.2.2) ?_
    (fun m _ h => Lex.of_none (Lex_to_other (Lex_badChar h.2.1 o) _ rfl) rfl) m inp ⟨hc, h.1, by rw [hs]; rfl⟩
  intro p hp m i h
  simp only [mdAlts, List.mem_cons, List.not_mem_nil, or_false] at hp
  rcases hp with rfl | rfl | rfl
  · exact ⟨Lex_to_other (Lex_clearComment h.2.1) _ rfl, rfl⟩
  · exact Lex.of_none (Lex_to_other h.2.1 _ rfl) rfl
  · exact Lex.of_none (Lex_to_other h.2.1 _ rfl) rfl

theorem stepAdn_RL (o : Opts) {m : Mach} (hc : CInv NN m) (h : Lex m) (hs : m.state = .afterDoctypeName)
    (inp : Str) : RL (stepAdn o m inp) := by
  rw [stepAdn_eq]
  refine eatChain_ind (I := EatI) (Post := RL) o (fun m inp => contChar o (getChar o m inp)) adnAlts (EatI.eat o) (fun m _ h => Lex.of_none h.2.1 h.2.2) ?_
    (fun m i h => contChar_RL o h.1 (Lex.of_none h.2.1 h.2.2) i) m inp ⟨hc, h.1, by rw [hs]; rfl⟩
  intro p hp m i h
  simp only [adnAlts, List.mem_cons, List.not_mem_nil, or_false] at hp
  rcases hp with rfl | rfl
  · exact Lex.of_none (Lex_to_other h.2.1 _ rfl) rfl
  · exact Lex.of_none (Lex_to_other h.2.1 _ rfl) rfl

theorem foldl_emitChar_state (chars : Str) (m : Mach) : (chars.foldl emitChar m).state = m.state := by
  induction chars generalizing m with
  | nil => rfl
  | cons c cs ih => simp only [List.foldl_cons]; rw [ih]; rfl

theorem foldl_pushValue_state (chars : Str) (m : Mach) :
    (chars.foldl (fun m c => pushValue c m) m).state = m.state := by
  induction chars generalizing m with
  | nil => rfl
  | cons c cs ih => simp only [List.foldl_cons]; rw [ih]; rfl

theorem processCharRef_state (m : Mach) (chars : Str) : (processCharRef m chars).1.state = m.state := by
  unfold processCharRef
  dsimp only
  split
  · exact foldl_emitChar_state _ _
  · exact foldl_emitChar_state _ _
  · exact foldl_pushValue_state _ _
  · rfl

theorem cmtOf_crStateOk {s : State} (h : crStateOk s) : cmtOf s = .none := by
  rcases h with rfl | ⟨k, rfl⟩ <;> rfl

theorem stepCharRef_RL (o : Opts) {m : Mach} (h : Lex m) (hs : crStateOk m.state) (inp : Str) (cr : CharRefSt) :
    RL (stepCharRef o m inp cr) := by
  unfold stepCharRef
  have hg := crStep_rd o m inp cr
  have hn := cmtOf_crStateOk hs
  cases hc : crStep o m inp cr with
  | error e => trivial
  | ok v =>
    obtain ⟨m1, i1, cr1, st⟩ := v
    rw [hc] at hg
    have hg' : Rd m m1 := hg
    have h1 : LexE m1 := h.1.of_rd hg'
    have hn1 : cmtOf m1.state = .none := by rw [hg'.state]; exact hn
    cases st with
    | stuck | progress => exact Lex.of_none (h1.of_rd (Rd_setCharRef _ _)) hn1
    | done chars =>
      refine ofSig_RL (ms := ((processCharRef m1 chars).1.setCharRef none, (processCharRef m1 chars).2))
        (Lex.of_none ((processCharRef_lex h1 chars).of_rd (Rd_setCharRef _ _)) ?_) _
      show cmtOf (processCharRef m1 chars).1.state = .none
      rw [processCharRef_state]; exact hn1

theorem state_of_readKind_md {s : State} (h : readKind s = .eatMd) : s = .markupDecl := by
  cases s <;> simp [readKind] at h ⊢

theorem cmtOf_popExcept {s : State} (h : readKind s = .popExcept) : cmtOf s = .none := by
  cases s <;> simp [readKind] at h <;> rfl

/-- **one step of the tokenizer loop preserves the lexical invariant** -/
theorem step_RL (o : Opts) {m : Mach} (hc : CInv NN m) (hs : Safe m) (h : Lex m) (inp : Str) :
    RL (step o m inp) := by
  cases hcr : m.charRef with
  | some cr =>
    rw [step_kind_charRef o m inp cr hcr]
    exact stepCharRef_RL o h (hs.crState cr hcr) inp cr
  | none =>
    cases hrk : readKind m.state with
    | getChar => rw [step_getChar o m inp hcr hrk]; exact contChar_RL o hc h inp
    | popExcept => rw [step_popExcept o m inp hcr hrk]; exact contSet_RL o _ h (cmtOf_popExcept hrk) inp
    | eatMd => rw [step_kind_md o m inp hcr hrk]; exact stepMd_RL o hc h (state_of_readKind_md hrk) inp
    | eatAdn => rw [step_kind_adn o m inp hcr hrk]; exact stepAdn_RL o hc h (readKind_adn hrk) inp

/-! ### `run`, `feed`, `end` -/

/-- the joint invariant: C15's `NInv`, C04's `Safe` and the lexical invariant -/
def LInv (m : Mach) : Prop := NInv m ∧ Safe m ∧ Lex m

theorem run_linv (o : Opts) (fuel : Nat) {m : Mach} (h : LInv m) (inp : Str) (m' : Mach) (i' : Str)
    (hr : run o fuel m inp = .done m' i') : LInv m' := by
  induction fuel generalizing m inp with
  | zero => simp [run] at hr
  | succ f ih =>
    have hs := step_ninv o h.1 inp
    have hsafe := (step_safe' o m inp h.2.1).2
    have hl := step_RL o h.1.1 h.2.1 h.2.2 inp
    simp only [run] at hr
    cases hst : step o m inp with
    | cont m1 i1 =>
      rw [hst] at hr hs hl
      exact ih ⟨hs, hsafe m1 i1 (Or.inl hst), hl⟩ i1 hr
    | suspend m1 i1 =>
      rw [hst] at hr hs hl
      simp only [RunRes.done.injEq] at hr
      obtain ⟨e1, _⟩ := hr; subst e1
      exact ⟨hs, hsafe m1 i1 (Or.inr hst), hl⟩
    | panic e => rw [hst] at hr; simp at hr

theorem feedBom_lex {m : Mach} (h : Lex m) (inp : Str) : Lex (feedBom m inp).1 := by
  unfold feedBom
  split
  · exact h
  · split
    · exact h.of_rd (Rd_setDiscardBom _ _) (Or.inr ⟨rfl, rfl⟩)
    · exact h

theorem feed_linv (o : Opts) {m : Mach} (h : LInv m) (inp chunk : Str) (m' : Mach) (i' : Str)
    (hf : feed o m inp chunk = .done m' i') : LInv m' := by
  unfold feed at hf
  dsimp only at hf
  split at hf
  · simp only [RunRes.done.injEq] at hf
    obtain ⟨e1, _⟩ := hf; subst e1; exact h
  · exact run_linv o _ ⟨feedBom_ninv h.1 _, feedBom_safe _ _ h.2.1, feedBom_lex h.2.2 _⟩ _ m' i' hf

theorem crEofOnce_rd (o : Opts) (m : Mach) (inp : Str) (cr : CharRefSt) :
    CRRes.RdOk m (crEofOnce o m inp cr) := by
  have h := Rd.refl m
  unfold crEofOnce
  split
  · exact h
  · split
    · exact unconsumeNumeric_rd h _ _
    · exact finishNumericStatus_rd o (Rd_emitErr m _) _ _
  · exact finishNumericStatus_rd o (Rd_emitErr m _) _ _
  · exact finishNamed_rd o h _ _ _
  · exact unconsumeName_rd h _ _
  · exact (unconsume_rd m _ _).trans (Rd_emitErr _ _)

theorem crEof_rd (o : Opts) (m : Mach) (inp : Str) (cr : CharRefSt) (m1 : Mach) (i1 chars : Str)
    (he : crEof o m inp cr = .ok (m1, i1, chars)) : Rd m m1 := by
  rw [crEof_eq] at he
  have g1 := crEofOnce_rd o m inp cr
  cases h1 : crEofOnce o m inp cr with
  | error e => rw [h1] at he; simp at he
  | ok v =>
    obtain ⟨m2, i2, cr2, st⟩ := v
    rw [h1] at he g1
    cases st with
    | stuck => simp at he
    | done cs =>
      simp only [Except.ok.injEq, Prod.mk.injEq] at he
      obtain ⟨e1, _, _⟩ := he; subst e1
      exact g1
    | progress =>
      simp only at he
      have g2 := crEofOnce_rd o m2 i2 cr2
      cases h2 : crEofOnce o m2 i2 cr2 with
      | error e => rw [h2] at he; simp at he
      | ok v2 =>
        obtain ⟨m3, i3, cr3, st3⟩ := v2
        rw [h2] at he g2
        cases st3 with
        | stuck | progress => simp at he
        | done cs =>
          simp only [Except.ok.injEq, Prod.mk.injEq] at he
          obtain ⟨e1, _, _⟩ := he; subst e1
          exact Rd.trans g1 g2

theorem finishPre_lex (o : Opts) {m : Mach} (hs : Safe m) (h : Lex m) (m1 : Mach) (i1 : Str)
    (hf : finishPre o m = .ok (m1, i1)) : Lex m1 := by
  unfold finishPre at hf
  cases hcr : m.charRef with
  | none =>
    rw [hcr] at hf
    simp only [Except.ok.injEq, Prod.mk.injEq] at hf
    obtain ⟨e1, _⟩ := hf; subst e1; exact h
  | some cr =>
    rw [hcr] at hf
    simp only at hf
    have hn := cmtOf_crStateOk (hs.crState cr hcr)
    cases he : crEof o m [] cr with
    | error e => rw [he] at hf; simp at hf
    | ok v =>
      obtain ⟨m2, i2, chars⟩ := v
      rw [he] at hf
      simp only at hf
      have r2 := crEof_rd o m [] cr m2 i2 chars he
      have g1 := h.1.of_rd r2
      have hp := processCharRef_lex (g1.of_rd (Rd_setCharRef m2 none)) chars
      have hst := processCharRef_state (m2.setCharRef none) chars
      cases hpc : processCharRef (m2.setCharRef none) chars with
      | mk m3 sig =>
        rw [hpc] at hf hp hst
        cases sig with
        | cont =>
          simp only [Except.ok.injEq, Prod.mk.injEq] at hf
          obtain ⟨e1, _⟩ := hf; subst e1
          refine Lex.of_none hp ?_
          have : m3.state = m.state := by
            have h3 : m3.state = (m2.setCharRef none).state := hst
            rw [h3]; exact r2.state
          rw [this]; exact hn
        | panic e => simp at hf

theorem eofLoop_lex (o : Opts) (fuel : Nat) {m : Mach} (h : LexE m) (m' : Mach)
    (he : eofLoop o fuel m = .ok m') : LexE m' := by
  induction fuel generalizing m with
  | zero => simp [eofLoop] at he
  | succ f ih =>
    have ht := transEof_lex o h
    simp only [eofLoop] at he
    generalize transEof o m = r at he ht
    obtain ⟨m1, sg⟩ := r
    cases sg with
    | cont => exact ih ht he
    | done => simp only [Except.ok.injEq] at he; subst he; exact ht
    | panic e => simp at he

/-- **`XmlTokenizer::end`**: the final machine satisfies C15's `CleanP NN` and the state-independent part of
the lexical invariant (in particular `TokA` for every token of the log) -/
theorem finish_lex (o : Opts) {m : Mach} (h : LInv m) (mf : Mach) (hf : finish o m = .ok mf) :
    CleanP NN mf ∧ LexE mf := by
  refine ⟨finish_clean o h.1 mf hf, ?_⟩
  rw [finish_eq] at hf
  cases hp : finishPre o m with
  | error e => rw [hp] at hf; simp at hf
  | ok v =>
    obtain ⟨m1, i1⟩ := v
    rw [hp] at hf
    simp only at hf
    have h1 := NInv_setAtEof (finishPre_ninv o h.1 m1 i1 hp) true
    have l1 : Lex (m1.setAtEof true) :=
      (finishPre_lex o h.2.1 h.2.2 m1 i1 hp).of_rd (Rd_setAtEof _ _) (Or.inr ⟨rfl, rfl⟩)
    have s1 : Safe (m1.setAtEof true) := by
      obtain ⟨m1', i1', e, hcn⟩ := finishPre_ok o m h.2.1
      rw [hp] at e
      simp only [Except.ok.injEq, Prod.mk.injEq] at e
      obtain ⟨e1, _⟩ := e; subst e1
      exact Safe.of_none (by simpa using hcn)
    cases hr : run o (fuelFor (m1.setAtEof true) i1) (m1.setAtEof true) i1 with
    | done m2 i2 =>
      rw [hr] at hf
      simp only at hf
      exact eofLoop_lex o 8 (run_linv o _ ⟨h1, s1, l1⟩ i1 m2 i2 hr).2.2.1 mf hf
    | panic e | outOfFuel => rw [hr] at hf; simp at hf

theorem lex_initial (bom : Bool) : Lex { discardBom := bom } :=
  ⟨⟨⟨(fun _ h => nomatch h), Or.inl rfl, (fun _ h => nomatch h), List.nodup_nil, Or.inl rfl, (fun _ h => nomatch h),
    dtI_empty, gtScan_nil⟩, trivial⟩, trivial⟩

theorem linv_initial (bom : Bool) : LInv { discardBom := bom } :=
  ⟨ninv_initial .data bom, Safe.of_none rfl, lex_initial bom⟩

end H5V.Lemmas.XmlShapeLex
