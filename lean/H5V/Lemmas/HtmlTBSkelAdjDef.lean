import H5V.Lemmas.HtmlTBSkelShapeDom
/-!
C06, "no two adjacent text siblings": the invariant.

`AdjD d O` relates the arena `d` and the stack of open elements `O`:
* `nat`: no two text nodes are adjacent siblings;
* `ol`: an open element (other than `head` and the table-structure elements, `exm`) has no text node as
  its next sibling — so taking it out of its parent (adoption agency, `<frameset>` replacing `body`)
  cannot bring two text nodes together;
* `pb`, `pbt`: the parent of an open element, if open itself, is lower on the stack (also through
  template contents) — so the current node has no open child, and text appended to it does not land
  behind an open element;
* `tb`: an open element that precedes an open `table` among its siblings is above the table on the
  stack (it was foster-parented) — so text foster-parented before a table does not land behind an
  open element either (what is above a table when text is foster-parented is table structure).
Everything is phrased over child lists; no uniqueness of parents is needed.
-/
namespace H5V.Props.C06
open H5V.Model.Dom hiding Str
open H5V.Model.HtmlTB hiding Str
open H5V.Lemmas.Dom

/-- the open elements the invariant `ol` does not speak about -/
def exm (n : EName) : Bool := constrained n || n == hN "head"

/-- `a` occurs before `b` in `l` -/
def Before (l : List Id) (a b : Id) : Prop := List.Sublist [a, b] l

theorem Before.mono {l l' : List Id} {a b : Id} (h : Before l' a b) (hs : l'.Sublist l) : Before l a b :=
  List.Sublist.trans h hs

theorem Before.mem {l : List Id} {a b : Id} (h : Before l a b) : a ∈ l ∧ b ∈ l :=
  ⟨h.subset (by simp), h.subset (by simp)⟩

theorem before_snoc {l : List Id} {a c : Id} (h : a ∈ l) : Before (l ++ [c]) a c := by
  have h1 : List.Sublist [a] l := List.singleton_sublist.mpr h
  exact List.Sublist.append h1 (List.Sublist.refl [c])

theorem before_mid_pre {pre post : List Id} {a c : Id} (h : a ∈ pre) : Before (pre ++ c :: post) a c := by
  have h1 : List.Sublist [a] pre := List.singleton_sublist.mpr h
  have h2 : List.Sublist [c] (c :: post) := List.Sublist.cons_cons c (List.nil_sublist post)
  exact List.Sublist.append h1 h2

theorem before_mid_post {pre post : List Id} {b c : Id} (h : b ∈ post) : Before (pre ++ c :: post) c b := by
  have h1 : List.Sublist [b] post := List.singleton_sublist.mpr h
  exact (List.Sublist.cons_cons c h1).trans (List.sublist_append_right pre _)

theorem not_before_self {l : List Id} (hn : l.Nodup) (a : Id) : ¬ Before l a a := by
  intro h
  have := h.nodup hn
  simp at this

theorem before_antisymm : ∀ {l : List Id}, l.Nodup → ∀ {a b : Id}, Before l a b → Before l b a → False
  | [], _, a, b, h, _ => by cases h
  | x :: t, hn, a, b, h1, h2 => by
    have hnt := (List.nodup_cons.mp hn).2
    have hxt := (List.nodup_cons.mp hn).1
    unfold Before at h1 h2
    cases h1 with
    | cons _ h1' =>
      cases h2 with
      | cons _ h2' => exact before_antisymm hnt h1' h2'
      | cons_cons _ h2' =>
        -- b = x, [a] <+ t; but [a, b] <+ t puts x in t
        exact hxt (h1'.subset (by simp))
    | cons_cons _ h1' =>
      cases h2 with
      | cons _ h2' => exact hxt (h2'.subset (by simp))
      | cons_cons _ h2' =>
        -- a = x = b
        exact hxt (h1'.subset (by simp))

theorem before_total : ∀ {l : List Id} {a b : Id}, a ∈ l → b ∈ l → a ≠ b → Before l a b ∨ Before l b a
  | [], _, _, h, _, _ => by cases h
  | x :: t, a, b, ha, hb, hab => by
    rcases List.mem_cons.mp ha with rfl | ha'
    · rcases List.mem_cons.mp hb with rfl | hb'
      · exact absurd rfl hab
      · left
        exact List.Sublist.cons_cons _ (List.singleton_sublist.mpr hb')
    · rcases List.mem_cons.mp hb with rfl | hb'
      · right
        exact List.Sublist.cons_cons _ (List.singleton_sublist.mpr ha')
      · rcases before_total ha' hb' hab with h | h
        · exact Or.inl (List.Sublist.cons _ h)
        · exact Or.inr (List.Sublist.cons _ h)

/-- the order of two elements survives in a sublist that keeps both -/
theorem Before.sub {l l' : List Id} {a b : Id} (h : Before l a b) (hn : l.Nodup) (hs : l'.Sublist l)
    (ha : a ∈ l') (hb : b ∈ l') : Before l' a b := by
  have hab : a ≠ b := by
    rintro rfl
    exact not_before_self hn a h
  rcases before_total ha hb hab with h1 | h1
  · exact h1
  · exact absurd (h1.mono hs) (fun h2 => before_antisymm hn h h2)

/-- **the invariant** -/
structure AdjD (d : Dom) (O : List Id) : Prop where
  nat : NoAdjacentText d
  lk : ∀ P e, e ∈ d.childrenOf P → d.parentOf e = some P
  nd : ∀ P, (d.childrenOf P).Nodup
  ol : ∀ e ∈ O, exm (nm d e) = false → ∀ P l1 l2, d.childrenOf P = l1 ++ e :: l2 → headT d.isText l2 = false
  pb : ∀ P e, e ∈ d.childrenOf P → e ∈ O → P ∈ O → Before O P e
  pbt : ∀ T tc e, d.templateContentsOf T = some tc → nm d T = hN "template" → e ∈ d.childrenOf tc → e ∈ O →
    T ∈ O → Before O T e
  tb : ∀ P x y, Before (d.childrenOf P) x y → x ∈ O → y ∈ O → exm (nm d x) = false →
    nm d y = hN "table" → Before O y x

/-- fewer open elements -/
theorem AdjD.sub {d : Dom} {O O' : List Id} (h : AdjD d O) (hn : O.Nodup) (hs : O'.Sublist O) : AdjD d O' :=
  ⟨h.nat, h.lk, h.nd,
   fun e he hx P l1 l2 hc => h.ol e (hs.subset he) hx P l1 l2 hc,
   fun P e hc he hP => (h.pb P e hc (hs.subset he) (hs.subset hP)).sub hn hs hP he,
   fun T tc e htc hT0 hc he hT => (h.pbt T tc e htc hT0 hc (hs.subset he) (hs.subset hT)).sub hn hs hT he,
   fun P x y hc hx hy hxx hyt =>
    (h.tb P x y hc (hs.subset hx) (hs.subset hy) hxx hyt).sub hn hs hy hx⟩

/-- the arena changed without touching child lists, parent pointers of children, text-ness of children,
the names and template contents of open elements -/
theorem AdjD.congr {d d' : Dom} {O : List Id} (h : AdjD d O)
    (hch : ∀ P, d'.childrenOf P = d.childrenOf P)
    (hpar : ∀ P, ∀ x ∈ d.childrenOf P, d'.parentOf x = d.parentOf x)
    (ht : ∀ P, ∀ x ∈ d.childrenOf P, d'.isText x = d.isText x)
    (hnm : ∀ e ∈ O, nm d' e = nm d e)
    (htc : ∀ T ∈ O, d'.templateContentsOf T = d.templateContentsOf T) : AdjD d' O := by
  refine ⟨fun P => ?_, ?_, ?_, ?_, ?_, ?_, ?_⟩
  · rw [hch, noAdj_congr (ht P)]; exact h.nat P
  · intro P e he
    rw [hch] at he
    rw [hpar P e he]; exact h.lk P e he
  · intro P; rw [hch]; exact h.nd P
  · intro e he hx P l1 l2 hc
    rw [hch] at hc
    rw [hnm e he] at hx
    have := h.ol e he hx P l1 l2 hc
    unfold headT at this ⊢
    cases hl : l2.head? with
    | none => rfl
    | some y =>
      rw [hl] at this
      have hy : y ∈ d.childrenOf P := by
        rw [hc]
        have := List.mem_of_head? hl
        simp [this]
      simp only
      rw [ht P y hy]; exact this
  · intro P e hc he hP
    rw [hch] at hc
    exact h.pb P e hc he hP
  · intro T tc e htc' hT0 hc he hT
    rw [hch] at hc
    rw [hnm T hT] at hT0
    rw [htc T hT] at htc'
    exact h.pbt T tc e htc' hT0 hc he hT
  · intro P x y hc hx hy hxx hyt
    rw [hch] at hc
    rw [hnm x hx] at hxx
    rw [hnm y hy] at hyt
    exact h.tb P x y hc hx hy hxx hyt

theorem AdjD.of_nodes {d d' : Dom} {O : List Id} (h : AdjD d O) (hn : d'.nodes = d.nodes) : AdjD d' O :=
  h.congr (fun P => childrenOf_of_nodes hn P) (fun _ x _ => by unfold Dom.parentOf; rw [hn])
    (fun _ x _ => by unfold Dom.isText Dom.dataOf; rw [hn])
    (fun e _ => nm_of_nodes hn e) (fun T _ => by unfold Dom.templateContentsOf Dom.dataOf; rw [hn])

end H5V.Props.C06
