import H5V.Lemmas.HtmlTBMetaBase
/-!
C19: what the `meta` arm of "in head" does to the builder and the sink: a few queries to find
the insertion place, `create_element(meta, attrs)`, one insertion of that element — and nothing else:
the stack of open elements (and every other field of the builder) is as before, the element is never
pushed ("inserted and immediately popped").
-/
namespace H5V.Props.C19
open H5V.Model.Dom (Id QualName Attr NodeOrText SinkOp Output ElementFlags QuirksMode Dom)
open H5V.Model.HtmlTB
open H5V.Lemmas.TBM

/-- the sink calls that only ask -/
def isQuery : SinkOp → Bool
  | .elemName _ => true
  | .getTemplateContents _ => true
  | .sameNode _ _ => true
  | _ => false

/-- every field of the builder but the sink and the record of the calls is the same -/
structure SameBuilder (s s' : State) : Prop where
  opts : s'.opts = s.opts
  mode : s'.mode = s.mode
  origMode : s'.origMode = s.origMode
  templateModes : s'.templateModes = s.templateModes
  pendingTableText : s'.pendingTableText = s.pendingTableText
  quirksMode : s'.quirksMode = s.quirksMode
  docHandle : s'.docHandle = s.docHandle
  openElems : s'.openElems = s.openElems
  activeFormatting : s'.activeFormatting = s.activeFormatting
  headElem : s'.headElem = s.headElem
  formElem : s'.formElem = s.formElem
  framesetOk : s'.framesetOk = s.framesetOk
  ignoreLf : s'.ignoreLf = s.ignoreLf
  fosterParenting : s'.fosterParenting = s.fosterParenting
  contextElem : s'.contextElem = s.contextElem
  currentLine : s'.currentLine = s.currentLine

theorem SameBuilder.refl (s : State) : SameBuilder s s :=
  ⟨rfl, rfl, rfl, rfl, rfl, rfl, rfl, rfl, rfl, rfl, rfl, rfl, rfl, rfl, rfl, rfl⟩

theorem SameBuilder.trans {a b c : State} (h1 : SameBuilder a b) (h2 : SameBuilder b c) : SameBuilder a c :=
  ⟨h2.opts.trans h1.opts, h2.mode.trans h1.mode, h2.origMode.trans h1.origMode,
   h2.templateModes.trans h1.templateModes, h2.pendingTableText.trans h1.pendingTableText,
   h2.quirksMode.trans h1.quirksMode, h2.docHandle.trans h1.docHandle, h2.openElems.trans h1.openElems,
   h2.activeFormatting.trans h1.activeFormatting, h2.headElem.trans h1.headElem, h2.formElem.trans h1.formElem,
   h2.framesetOk.trans h1.framesetOk, h2.ignoreLf.trans h1.ignoreLf, h2.fosterParenting.trans h1.fosterParenting,
   h2.contextElem.trans h1.contextElem, h2.currentLine.trans h1.currentLine⟩

theorem SameBuilder.sink {s s' : State} {op : SinkOp} {out : Output} (h : sink op s = .ok (out, s')) :
    SameBuilder s s' ∧ s'.traceRev = (op, out) :: s.traceRev := by
  obtain ⟨d, _, rfl⟩ := sink_ok.mp h
  exact ⟨⟨rfl, rfl, rfl, rfl, rfl, rfl, rfl, rfl, rfl, rfl, rfl, rfl, rfl, rfl, rfl, rfl⟩, rfl⟩

/-- `m` only asks the sink and leaves the builder alone -/
class QOnly {α : Type} (m : M α) : Prop where
  h : ∀ s a s', m s = .ok (a, s') →
    SameBuilder s s' ∧ ∃ qs, s'.traceRev = qs ++ s.traceRev ∧ ∀ c ∈ qs, isQuery c.1 = true

theorem QOnly.bind {α β : Type} {m : M α} {f : α → M β} (h1 : QOnly m) (h2 : ∀ a, QOnly (f a)) :
    QOnly (m >>= f) := by
  constructor
  intro s b s'' e
  obtain ⟨a, s', e1, e2⟩ := bind_ok.mp e
  obtain ⟨b1, q1, t1, c1⟩ := h1.h s a s' e1
  obtain ⟨b2, q2, t2, c2⟩ := (h2 a).h s' b s'' e2
  refine ⟨b1.trans b2, q2 ++ q1, by rw [t2, t1, List.append_assoc], ?_⟩
  intro c hc
  rcases List.mem_append.mp hc with hc | hc
  · exact c2 c hc
  · exact c1 c hc

theorem QOnly.pure {α : Type} (a : α) : QOnly (Pure.pure a : M α) :=
  ⟨fun s b s' e => by
    obtain ⟨_, rfl⟩ := pure_ok.mp e
    exact ⟨SameBuilder.refl _, [], rfl, fun _ h => nomatch h⟩⟩

theorem QOnly.iteH {α : Type} {c : Prop} [Decidable c] {a b : M α} (h1 : c → QOnly a) (h2 : ¬ c → QOnly b) :
    QOnly (if c then a else b) := by
  by_cases hc : c
  · simp only [hc, if_true]; exact h1 hc
  · simp only [hc, if_false]; exact h2 hc

theorem QOnly.throw {α : Type} (e : String) : QOnly (throw e : M α) := ⟨fun _ _ _ h => absurd h throw_ok⟩

instance {α : Type} (a : α) : QOnly (Pure.pure a : M α) := QOnly.pure a
instance {α : Type} (e : String) : QOnly (throw e : M α) := QOnly.throw e
instance {α : Type} (c f t : String) : QOnly (panicAt c f t : M α) := QOnly.throw _
instance : QOnly getS :=
  ⟨fun s a s' e => by
    obtain ⟨_, rfl⟩ := getS_ok.mp e
    exact ⟨SameBuilder.refl _, [], rfl, fun _ h => nomatch h⟩⟩

theorem QOnly.sink (op : SinkOp) (hq : isQuery op = true) : QOnly (sink op) :=
  ⟨fun s out s' e => by
    obtain ⟨b, t⟩ := SameBuilder.sink e
    refine ⟨b, [(op, out)], t, ?_⟩
    intro c hc
    simp only [List.mem_singleton] at hc
    rw [hc]; exact hq⟩

instance (h : Id) : QOnly (sink (.elemName h)) := QOnly.sink _ rfl
instance (h : Id) : QOnly (sink (.getTemplateContents h)) := QOnly.sink _ rfl
instance (a b : Id) : QOnly (sink (.sameNode a b)) := QOnly.sink _ rfl

syntax "q_step" : tactic
macro_rules
  | `(tactic| q_step) => `(tactic|
    first
      | exact inferInstance
      | with_reducible apply QOnly.bind
      | with_reducible apply QOnly.iteH
      | intro _
      | split
      | dsimp only)
syntax "q_walk" : tactic
macro_rules
  | `(tactic| q_walk) => `(tactic| repeat' q_step)

instance (op : SinkOp) [QOnly (sink op)] : QOnly (sinkNode op) := by unfold sinkNode; q_walk
instance (op : SinkOp) [QOnly (sink op)] : QOnly (sinkBool op) := by unfold sinkBool; q_walk
instance (h : Id) : QOnly (elemName h) := by unfold elemName; q_walk
instance (h : Id) (n : Str) : QOnly (htmlElemNamedS h n) := by unfold htmlElemNamedS; q_walk
instance (h : Id) (n : String) : QOnly (htmlElemNamed h n) := by unfold htmlElemNamed; q_walk
instance (h : Id) (f : EName → Bool) : QOnly (elemIn h f) := by unfold elemIn; q_walk
instance : QOnly currentNode := by unfold currentNode; q_walk
instance : QOnly htmlElem := by unfold htmlElem; q_walk

theorem qonly_fosterLoop : ∀ (l : List Id), QOnly (fosterLoop l)
  | [] => by unfold fosterLoop; q_walk
  | e :: rest => by
    haveI := qonly_fosterLoop rest
    unfold fosterLoop; q_walk
instance (l : List Id) : QOnly (fosterLoop l) := qonly_fosterLoop l

instance (o : Option Id) : QOnly (appropriatePlaceForInsertion o) := by
  unfold appropriatePlaceForInsertion; q_walk

/-- the sink call `insert_at` makes -/
def insOp : InsertionPoint → NodeOrText → SinkOp
  | .lastChild parent, child => .append parent child
  | .beforeSibling sibling, child => .appendBeforeSibling sibling child
  | .tableFosterParenting element prev, child => .appendBasedOnParentNode element prev child

theorem insertAt_eq (p : InsertionPoint) (c : NodeOrText) : insertAt p c = sinkUnit (insOp p c) := by
  cases p <;> rfl

theorem insOp_out {d d' : Dom} {ip : InsertionPoint} {c : NodeOrText} {out : Output}
    (h : d.apply (insOp ip c) = .ok (d', out)) : out = .unit := by
  cases ip <;> simp only [insOp, Dom.apply, Dom.applyV, bind, Except.bind] at h
  all_goals
    split at h
    · cases h
    · cases h; rfl

/-- the flags `create_element_with_flags` computes for an HTML element that is not `template` -/
def plainFlags (dup : Bool) : ElementFlags := { template := false, mathmlIP := false, hadDuplicateAttributes := dup }

/-- **`insert_and_pop_element_for(tag)`** for an element that is neither form-associated nor
`template`: some queries, `create_element`, one insertion; the builder is left as it was -/
theorem insertAndPop_spec {tag : Tag} {s s' : State} {elem : Id}
    (hf : formAssociatable ⟨nsHtml, tag.name⟩ = false) (ht : isName tag.name "template" = false)
    (h : insertAndPopElementFor tag s = .ok (elem, s')) :
    SameBuilder s s' ∧ ∃ ip qs, (∀ c ∈ qs, isQuery c.1 = true) ∧
      s'.traceRev = (insOp ip (.node elem), .unit) ::
        (.createElement (htmlQual tag.name) tag.attrs (plainFlags tag.hadDup), .node elem) :: (qs ++ s.traceRev) := by
  unfold insertAndPopElementFor insertElement at h
  obtain ⟨ip, s1, e1, e2⟩ := bind_ok.mp h
  obtain ⟨b1, qs, t1, c1⟩ := (inferInstance : QOnly (appropriatePlaceForInsertion none)).h _ _ _ e1
  simp only [hf, Bool.false_and, Bool.false_eq_true, if_false] at e2
  simp only [pure_bind, Bool.false_eq_true, if_false] at e2
  obtain ⟨s1', w, e2a, e4⟩ := bind_ok.mp e2
  obtain ⟨_, rfl⟩ := getS_ok.mp e2a
  obtain ⟨el, s3, e5, e6⟩ := bind_ok.mp e4
  unfold createElementWithFlags at e5
  obtain ⟨b3, t3⟩ := SameBuilder.sink (sinkNode_ok.mp e5)
  obtain ⟨_, s4, e7, e8⟩ := bind_ok.mp e6
  rw [insertAt_eq] at e7
  obtain ⟨out, e7⟩ := sinkUnit_ok.mp e7
  obtain ⟨b4, t4⟩ := SameBuilder.sink e7
  obtain ⟨rfl, rfl⟩ := pure_ok.mp e8
  obtain ⟨d, hd, _⟩ := sink_ok.mp e7
  cases insOp_out hd
  refine ⟨(b1.trans b3).trans b4, ip, qs, c1, ?_⟩
  rw [t4, t3, t1]
  have hn : (nsHtml == nsMathml) = false := by decide
  simp only [ht, hn, Bool.and_false, Bool.false_and, Bool.false_eq_true, if_false, htmlQual, plainFlags]

end H5V.Props.C19
