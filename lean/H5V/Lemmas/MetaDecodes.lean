import H5V.Lemmas.BQBytes
import H5V.Lemmas.HtmlTBMetaBase
/-!
C19: the slice the WHATWG "extract a character encoding from a meta element" algorithm
(`H5V.Spec.MetaExtract.extract`) returns from the UTF-8 bytes of a character list is the UTF-8 of a run
of those characters, hence valid UTF-8.

* byte level (any byte string): `extract_cut` — the result is a contiguous slice, the byte before it
  is ASCII, after it comes the end of the input or an ASCII byte;
* character level: `encBuf_split_ascii` — an ASCII byte of a UTF-8 string is a character of its own,
  so a cut next to it is a character boundary; `extract_encBuf` (both together);
* `ByteArray`: `byteArray_toList`, `toByteArray_eq_mk`, `fromUTF8?_encBuf`;
* for the model (`H5V.Props.C19`): `C19_extract_cut`, `C19_extract_boundaries` (on the UTF-8 bytes of
  `content` both cut points are character boundaries: `content = a ++ d :: (b ++ c)`, the slice is the
  UTF-8 of `b`), `C19_label_decodes`, `C19_contentLabel_some` / `_none` (the slice passes
  `String.fromUTF8?` and reads back as `b`; `contentLabel` is `none` only when the extraction returns
  nothing), `C19_extractEncoding_total` (the model's extraction never takes its panic branch).

`encBuf b = b.flatMap String.utf8EncodeChar` is `H5V.Lemmas.BQBytes.encBuf`.
-/
namespace H5V.Lemmas.MetaDecodes
open H5V.Lemmas.BQBytes H5V.Spec.MetaExtract

/-! ## `ByteArray` ↔ `List UInt8` -/

theorem toList_loop (bs : ByteArray) (i : Nat) (r : List UInt8) :
    ByteArray.toList.loop bs i r = r.reverse ++ bs.data.toList.drop i := by
  fun_induction ByteArray.toList.loop bs i r with
  | case1 i r h ih =>
    rw [ih]
    have hi : i < bs.data.size := h
    have : bs.get! i = bs.data[i] := by
      simp only [ByteArray.get!]
      exact getElem!_pos bs.data i hi
    rw [this, List.reverse_cons, List.append_assoc]
    congr 1
    rw [List.singleton_append]
    exact (List.drop_eq_getElem_cons (by simpa using hi)).symm
  | case2 i r h =>
    have hi : bs.data.size ≤ i := Nat.le_of_not_lt h
    rw [List.drop_of_length_le (by simpa using hi), List.append_nil]

theorem byteArray_toList (bs : ByteArray) : bs.toList = bs.data.toList := by
  simp [ByteArray.toList, toList_loop]

theorem toByteArray_eq_mk (l : List UInt8) : l.toByteArray = ByteArray.mk l.toArray := by
  have h := List.toList_data_toByteArray (l := l)
  cases hb : l.toByteArray with
  | mk d =>
    rw [hb] at h
    simp only at h
    subst h
    rfl


/-! ## byte level: where the extraction cuts -/

/-- `t` is a suffix of `s` that starts right after an ASCII byte -/
def Cut (s t : List UInt8) : Prop := ∃ pre b, s = pre ++ b :: t ∧ b.toNat < 128

theorem Cut.trans {s t u : List UInt8} (h1 : Cut s t) (h2 : Cut t u) : Cut s u := by
  obtain ⟨p1, b1, rfl, _⟩ := h1
  obtain ⟨p2, b2, rfl, hb⟩ := h2
  exact ⟨p1 ++ b1 :: p2, b2, by simp, hb⟩

theorem Cut.cons {s t : List UInt8} {b : UInt8} (h : Cut s (b :: t)) (hb : b.toNat < 128) : Cut s t := by
  obtain ⟨p, b0, rfl, _⟩ := h
  exact ⟨p ++ [b0], b, by simp, hb⟩

theorem isWs_ascii {b : UInt8} (h : isWs b = true) : b.toNat < 128 := by
  simp only [isWs, Bool.or_eq_true, beq_iff_eq] at h
  rcases h with (((rfl | rfl) | rfl) | rfl) | rfl <;> decide

theorem toLower_ascii {b : UInt8} (h : (toLower b).toNat < 128) : b.toNat < 128 := by
  unfold toLower at h
  split at h
  · omega
  · exact h

theorem startsWith_split {s : List UInt8} (h : startsWithCharset s = true) :
    ∃ pre b, s = pre ++ b :: s.drop 7 ∧ b.toNat < 128 := by
  simp only [startsWithCharset, beq_iff_eq] at h
  match s, h with
  | b0 :: b1 :: b2 :: b3 :: b4 :: b5 :: b6 :: tl, h =>
    refine ⟨[b0, b1, b2, b3, b4, b5], b6, rfl, ?_⟩
    simp only [word, List.take_succ_cons, List.take_zero, List.map_cons,
      List.map_nil, List.cons.injEq, and_true] at h
    apply toLower_ascii
    rw [h.2.2.2.2.2.2]; decide
  | [], h | [_], h | [_, _], h | [_, _, _], h | [_, _, _, _], h | [_, _, _, _, _], h
  | [_, _, _, _, _, _], h => simp [word] at h

theorem findCharset_cut {s after : List UInt8} (h : findCharset s = some after) : Cut s after := by
  induction s with
  | nil => simp [findCharset] at h
  | cons b tl ih =>
    simp only [findCharset] at h
    split at h
    · rename_i hs
      cases h
      exact startsWith_split hs
    · obtain ⟨p, b1, e, hb⟩ := ih h
      exact ⟨b :: p, b1, by rw [e]; rfl, hb⟩

theorem Cut.skipWs {s : List UInt8} : ∀ {t : List UInt8}, Cut s t → Cut s (skipWs t)
  | [], h => h
  | b :: t, h => by
    unfold H5V.Spec.MetaExtract.skipWs
    rw [List.dropWhile_cons]
    split
    · rename_i hb
      exact Cut.skipWs (h.cons (isWs_ascii hb))
    · exact h

theorem afterEquals_cut : ∀ (n : Nat) (s rest : List UInt8), s.length ≤ n → afterEquals s = some rest → Cut s rest
  | 0, s, rest, hn, h => by
    have : s = [] := List.eq_nil_of_length_eq_zero (by omega)
    subst this
    rw [afterEquals] at h
    split at h
    · cases h
    · rename_i h1; simp [findCharset] at h1
  | n + 1, s, rest, hn, h => by
    rw [afterEquals] at h
    split at h
    · cases h
    · rename_i after hf
      have hc := (findCharset_cut hf).skipWs
      have hl := findCharset_length hf
      have hl2 := skipWs_length after
      split at h
      · rename_i r he
        cases h
        rw [he] at hc
        exact hc.cons (by decide)
      · exact hc.trans (afterEquals_cut n _ rest (by omega) h)

/-- a list is what `takeWhile` keeps, followed by nothing or by a byte that fails the test -/
theorem takeWhile_split (p : UInt8 → Bool) : ∀ (l : List UInt8),
    ∃ post, l = l.takeWhile p ++ post ∧ (post = [] ∨ ∃ b q, post = b :: q ∧ p b = false)
  | [] => ⟨[], rfl, Or.inl rfl⟩
  | x :: xs => by
    rw [List.takeWhile_cons]
    by_cases hx : p x = true
    · obtain ⟨post, e, hp⟩ := takeWhile_split p xs
      refine ⟨post, ?_, hp⟩
      simp only [hx, if_true, List.cons_append]
      rw [← e]
    · have hx' : p x = false := by simpa using hx
      exact ⟨x :: xs, by simp [hx'], Or.inr ⟨x, xs, rfl, hx'⟩⟩

/-- **where the extraction cuts** (any byte string): the result is a contiguous slice of the input;
the byte before it is ASCII; after it comes the end of the input or an ASCII byte -/
theorem extract_cut {s r : List UInt8} (h : extract s = some r) :
    ∃ pre b0 post, s = pre ++ b0 :: (r ++ post) ∧ b0.toNat < 128 ∧
      (post = [] ∨ ∃ b q, post = b :: q ∧ b.toNat < 128) := by
  unfold extract at h
  cases ha : afterEquals s with
  | none => rw [ha] at h; cases h
  | some rest =>
    rw [ha] at h
    simp only [Option.bind_some] at h
    have hc := (afterEquals_cut _ s rest (Nat.le_refl _) ha).skipWs
    unfold value at h
    split at h
    · cases h
    · rename_i q tl he
      rw [he] at hc
      split at h
      · rename_i hq
        have hqa : q.toNat < 128 := by
          simp only [Bool.or_eq_true, beq_iff_eq] at hq
          rcases hq with rfl | rfl <;> decide
        split at h
        · rename_i hcont
          cases h
          obtain ⟨pre, b0, e, hb0⟩ := hc.cons hqa
          obtain ⟨post, e2, hp⟩ := takeWhile_split (fun b => b != q) tl
          refine ⟨pre, b0, post, by rw [← e2]; exact e, hb0, ?_⟩
          rcases hp with rfl | ⟨b, q', rfl, hb⟩
          · exact Or.inl rfl
          · refine Or.inr ⟨b, q', rfl, ?_⟩
            have : b = q := by simpa using hb
            rw [this]; exact hqa
        · cases h
      · cases h
        obtain ⟨pre, b0, e, hb0⟩ := hc
        obtain ⟨post, e2, hp⟩ := takeWhile_split (fun b => !(isWs b || b == 0x3B)) (q :: tl)
        refine ⟨pre, b0, post, by rw [← e2]; exact e, hb0, ?_⟩
        rcases hp with rfl | ⟨b, q', rfl, hb⟩
        · exact Or.inl rfl
        · refine Or.inr ⟨b, q', rfl, ?_⟩
          simp only [Bool.not_eq_false', Bool.or_eq_true, beq_iff_eq] at hb
          rcases hb with hb | rfl
          · exact isWs_ascii hb
          · decide


/-! ## character level: an ASCII byte of a UTF-8 string is a character of its own -/

theorem encBuf_nil : encBuf [] = [] := rfl

theorem encBuf_cons (c : Char) (cs : List Char) : encBuf (c :: cs) = String.utf8EncodeChar c ++ encBuf cs := by
  simp [encBuf]

theorem encBuf_append (a b : List Char) : encBuf (a ++ b) = encBuf a ++ encBuf b := by
  simp [encBuf]

/-- **an ASCII byte is never inside a multi-byte sequence**: if the UTF-8 bytes of `cs` have an ASCII
byte `b` somewhere, the bytes before it, the byte itself and the bytes after it are the encodings of
three consecutive pieces of `cs` -/
theorem encBuf_split_ascii : ∀ (cs : List Char) (pre : List UInt8) {b : UInt8} {post : List UInt8},
    encBuf cs = pre ++ b :: post → b.toNat < 128 →
    ∃ a ch c, cs = a ++ ch :: c ∧ pre = encBuf a ∧ String.utf8EncodeChar ch = [b] ∧ post = encBuf c
  | [], pre, b, post, h, _ => by simp [encBuf] at h
  | ch :: rest, pre, b, post, h, hb => by
    rw [encBuf_cons] at h
    by_cases hc : ch.val.toNat < 128
    · rw [enc_ascii hc] at h
      cases pre with
      | nil =>
        simp only [List.nil_append, List.cons_append, List.cons.injEq] at h
        exact ⟨[], ch, rest, rfl, rfl, by rw [enc_ascii hc, h.1], h.2.symm⟩
      | cons p pre' =>
        simp only [List.cons_append, List.nil_append, List.cons.injEq] at h
        obtain ⟨a, ch', c, e1, e2, e3, e4⟩ := encBuf_split_ascii rest pre' h.2 hb
        refine ⟨ch :: a, ch', c, by rw [e1]; rfl, ?_, e3, e4⟩
        rw [encBuf_cons, enc_ascii hc, e2, h.1]; rfl
    · have hge : 128 ≤ ch.val.toNat := Nat.le_of_not_lt hc
      have hall := enc_nonascii_bytes hge
      rcases List.append_eq_append_iff.mp h with ⟨m, e1, e2⟩ | ⟨m, e1, e2⟩
      · obtain ⟨a, ch', c, f1, f2, f3, f4⟩ := encBuf_split_ascii rest m e2 hb
        refine ⟨ch :: a, ch', c, by rw [f1]; rfl, ?_, f3, f4⟩
        rw [encBuf_cons, e1, f2]
      · cases m with
        | nil =>
          simp only [List.append_nil, List.nil_append] at e1 e2
          obtain ⟨a, ch', c, f1, f2, f3, f4⟩ := encBuf_split_ascii rest [] (b := b) (post := post) e2.symm hb
          refine ⟨ch :: a, ch', c, by rw [f1]; rfl, ?_, f3, f4⟩
          rw [encBuf_cons, e1, ← f2, List.append_nil]
        | cons x m' =>
          simp only [List.cons_append, List.cons.injEq] at e2
          have : 128 ≤ b.toNat := hall b (by rw [e1, e2.1]; simp)
          omega

/-- cut after an ASCII byte: both sides are encodings -/
theorem encBuf_cut_after {cs : List Char} {pre : List UInt8} {b : UInt8} {t : List UInt8}
    (h : encBuf cs = pre ++ b :: t) (hb : b.toNat < 128) :
    ∃ a c, cs = a ++ c ∧ pre ++ [b] = encBuf a ∧ t = encBuf c := by
  obtain ⟨a, ch, c, e1, e2, e3, e4⟩ := encBuf_split_ascii cs pre h hb
  refine ⟨a ++ [ch], c, by rw [e1]; simp, ?_, e4⟩
  rw [encBuf_append, e2]
  simp [encBuf, e3]

/-- cut before the end or before an ASCII byte: both sides are encodings -/
theorem encBuf_cut_before {cs : List Char} {r post : List UInt8} (h : encBuf cs = r ++ post)
    (hp : post = [] ∨ ∃ b q, post = b :: q ∧ b.toNat < 128) :
    ∃ a c, cs = a ++ c ∧ r = encBuf a ∧ post = encBuf c := by
  rcases hp with rfl | ⟨b, q, rfl, hb⟩
  · exact ⟨cs, [], by simp, by simpa using h.symm, rfl⟩
  · obtain ⟨a, ch, c, e1, e2, e3, e4⟩ := encBuf_split_ascii cs r h hb
    refine ⟨a, ch :: c, e1, e2, ?_⟩
    rw [encBuf_cons, e3, e4]; rfl

/-- a character whose encoding is one ASCII byte is an ASCII character -/
theorem ascii_of_enc {ch : Char} {b : UInt8} (h : String.utf8EncodeChar ch = [b]) : ch.val.toNat < 128 := by
  by_cases hc : ch.val.toNat < 128
  · exact hc
  · obtain ⟨b0, b1, rest, e, _, _⟩ := enc_nonascii (Nat.le_of_not_lt hc)
    rw [e] at h; simp at h

/-- **the extracted slice of a UTF-8 string is the UTF-8 of a run of its characters** (item 1): if the
WHATWG extraction, run on the UTF-8 bytes of `content`, returns the bytes `r`, then
`content = a ++ d :: (b ++ c)` with `r` = the UTF-8 bytes of `b`; the character `d` before the label
is ASCII (`=`, a quote or ASCII whitespace), and the label is followed by the end of the string or by
an ASCII character (the matching quote, whitespace, `;`).  The byte-level cut of `extract_cut` is this
one: `encBuf content = encBuf a ++ enc d ++ r ++ encBuf c`. -/
theorem extract_encBuf {content : List Char} {r : List UInt8} (h : extract (encBuf content) = some r) :
    ∃ a d b c, content = a ++ d :: (b ++ c) ∧ r = encBuf b ∧ d.val.toNat < 128 ∧
      (c = [] ∨ ∃ e c', c = e :: c' ∧ e.val.toNat < 128) := by
  obtain ⟨pre, b0, post, e, hb0, hp⟩ := extract_cut h
  obtain ⟨a, d, t, e1, _, e3, e4⟩ := encBuf_split_ascii content pre e hb0
  obtain ⟨b, c, f1, f2, f3⟩ := encBuf_cut_before e4.symm hp
  refine ⟨a, d, b, c, by rw [e1, f1], f2, ascii_of_enc e3, ?_⟩
  rcases hp with rfl | ⟨x, q, rfl, hx⟩
  · exact Or.inl (encBuf_eq_nil.mp f3.symm)
  · obtain ⟨a', ch, c', g1, g2, g3, _⟩ := encBuf_split_ascii c [] (b := x) (post := q) f3.symm hx
    have : a' = [] := encBuf_eq_nil.mp g2.symm
    subst this
    exact Or.inr ⟨ch, c', g1, ascii_of_enc g3⟩

/-! ## validity -/

/-- the bytes of a character list, packed the way the model packs a slice, are valid UTF-8 -/
theorem isValidUTF8_encBuf (b : List Char) : (ByteArray.mk (encBuf b).toArray).IsValidUTF8 := by
  rw [← toByteArray_eq_mk, encBuf_toByteArray]
  exact ByteArray.isValidUTF8_utf8Encode

/-- … and read back by `String.fromUTF8?` as that character list -/
theorem fromUTF8?_encBuf (b : List Char) :
    String.fromUTF8? (ByteArray.mk (encBuf b).toArray) = some (String.ofList b) := by
  have hv := isValidUTF8_encBuf b
  simp only [String.fromUTF8?, hv, dite_true, Option.some.injEq]
  apply String.toByteArray_inj.mp
  rw [String.toByteArray_ofList, ← encBuf_toByteArray, toByteArray_eq_mk]
  rfl

end H5V.Lemmas.MetaDecodes

namespace H5V.Props.C19
open H5V.Model.Dom (Id QualName Attr NodeOrText SinkOp Output ElementFlags QuirksMode Dom)
open H5V.Model.HtmlTB
open H5V.Lemmas.TBM
open H5V.Lemmas.BQBytes (encBuf)
open H5V.Lemmas.MetaDecodes

/-! ## `utf8Bytes` is the concatenation of core's `String.utf8EncodeChar` -/

theorem C19_utf8Bytes_eq (s : Str) : utf8Bytes s = s.flatMap String.utf8EncodeChar := by
  unfold utf8Bytes
  rw [String.toUTF8_eq_toByteArray, String.toByteArray_ofList, byteArray_toList]
  exact List.toList_data_toByteArray

theorem utf8Bytes_eq_encBuf (s : Str) : utf8Bytes s = encBuf s := C19_utf8Bytes_eq s

theorem C19_utf8Bytes_append (a b : Str) : utf8Bytes (a ++ b) = utf8Bytes a ++ utf8Bytes b := by
  simp [C19_utf8Bytes_eq]

/-! ## where the extraction cuts -/

/-- **byte level, any input**: the extracted label is a contiguous slice of the input, preceded by an
ASCII byte and followed by the end of the input or an ASCII byte -/
theorem C19_extract_cut {s r : List UInt8} (h : H5V.Spec.MetaExtract.extract s = some r) :
    ∃ pre b0 post, s = pre ++ b0 :: (r ++ post) ∧ b0.toNat < 128 ∧
      (post = [] ∨ ∃ b q, post = b :: q ∧ b.toNat < 128) :=
  extract_cut h

/-- **both cut points are character boundaries**: if the extraction, run on the UTF-8 bytes of
`content`, returns `r`, then `content = a ++ d :: (b ++ c)` where `r` is the UTF-8 of `b` and lies
where `b` lies; `d` (the character before the label) is ASCII; the label is followed by the end of the
string or by an ASCII character -/
theorem C19_extract_boundaries {content : Str} {r : List UInt8}
    (h : H5V.Spec.MetaExtract.extract (utf8Bytes content) = some r) :
    ∃ (a : Str) (d : Char) (b c : Str), content = a ++ d :: (b ++ c) ∧ r = utf8Bytes b ∧
      utf8Bytes content = utf8Bytes a ++ utf8Bytes [d] ++ r ++ utf8Bytes c ∧
      d.val.toNat < 128 ∧ (c = [] ∨ ∃ e c', c = e :: c' ∧ e.val.toNat < 128) := by
  rw [utf8Bytes_eq_encBuf] at h
  obtain ⟨a, d, b, c, e, hr, hd, hc⟩ := extract_encBuf h
  refine ⟨a, d, b, c, e, by rw [hr, utf8Bytes_eq_encBuf], ?_, hd, hc⟩
  rw [hr, ← utf8Bytes_eq_encBuf, e]
  simp only [C19_utf8Bytes_eq, List.flatMap_append, List.flatMap_cons, List.flatMap_nil, List.append_nil,
    List.append_assoc]

/-! ## the label decodes -/

/-- the extracted slice reads back, through `String.fromUTF8?`, as a run of characters of `content` -/
theorem C19_contentLabel_some {content : Str} {r : List UInt8}
    (h : H5V.Spec.MetaExtract.extract (utf8Bytes content) = some r) :
    ∃ (a : Str) (d : Char) (b c : Str), content = a ++ d :: (b ++ c) ∧ r = utf8Bytes b ∧
      String.fromUTF8? (ByteArray.mk r.toArray) = some (String.ofList b) ∧ contentLabel content = some b := by
  obtain ⟨a, d, b, c, e, hr, _, _, _⟩ := C19_extract_boundaries h
  have hf : String.fromUTF8? (ByteArray.mk r.toArray) = some (String.ofList b) := by
    rw [hr, utf8Bytes_eq_encBuf]; exact fromUTF8?_encBuf b
  refine ⟨a, d, b, c, e, hr, hf, ?_⟩
  simp [contentLabel, h, hf]

/-- **the label always decodes**: the slice extracted from the UTF-8 bytes of any character list
passes `String.fromUTF8?` -/
theorem C19_label_decodes (content : Str) : ¬ labelUndecodable content := by
  rintro ⟨bytes, hx, hu⟩
  obtain ⟨_, _, b, _, _, _, hf, _⟩ := C19_contentLabel_some hx
  rw [hf] at hu
  cases hu

/-- `contentLabel` answers nothing exactly when the standard's algorithm returns nothing -/
theorem C19_contentLabel_none (content : Str) :
    contentLabel content = none ↔ H5V.Spec.MetaExtract.extract (utf8Bytes content) = none := by
  constructor
  · intro h
    cases hx : H5V.Spec.MetaExtract.extract (utf8Bytes content) with
    | none => rfl
    | some r =>
      obtain ⟨_, _, b, _, _, _, _, hl⟩ := C19_contentLabel_some hx
      rw [hl] at h; cases h
  · intro h
    simp [contentLabel, h]

/-- the model's `extract_a_character_encoding_from_a_meta_element` never takes a panic branch -/
theorem C19_extractEncoding_total (content : Str) (s : State) :
    extractEncoding content s = .ok (contentLabel content, s) :=
  extractEncoding_run (C19_label_decodes content) s

end H5V.Props.C19
