import H5V.Lemmas.DomBasic
import H5V.Lemmas.HtmlTBSafeDom
/-!
`H5V.Lemmas.TBSplitDom` — facts about the abstract DOM (`H5V.Model.Dom`) needed to split/merge text
insertions in tree-builder traces:

* **A** `apply_wE`: `Dom.apply` never looks at the parse-error log (`errorsRev`);
* **B** `append_text_merge`, `appendBasedOnParentNode_text_merge`, `appendBeforeSibling_text_merge`:
  inserting `x` and then `y` at the same place is exactly inserting `x ++ y` (for every arena, no
  well-formedness hypothesis, equal error messages included);
* **C** `textIns_queries`: the query operations are stable under text insertion (modulo the message
  of a failing query, `RelE`);
* **D** `createElement_elemName`, `keepsNames_elemName`: element names survive every sink call (from
  `TBSafe.apply_ext`).
-/
namespace H5V.Lemmas.TBSplitDom
open H5V.Model.Dom

theorem get_some {d : Dom} {i : Id} {n : Node} (h : d.nodes[i]? = some n) : d.get i = .ok n := by
  unfold Dom.get; rw [h]
theorem get_none {d : Dom} {i : Id} (h : d.nodes[i]? = none) :
    d.get i = .error "model-bad-id: no such node id" := by
  unfold Dom.get; rw [h]

theorem nodes_setNode (d : Dom) (i : Id) (n : Node) (j : Id) :
    (d.setNode i n).nodes[j]? = if i = j then (if i < d.nodes.size then some n else none) else d.nodes[j]? := by
  unfold Dom.setNode
  simp only [Array.getElem?_setIfInBounds]

theorem nodes_setNode_of {d : Dom} {i : Id} {n0 : Node} (h : d.nodes[i]? = some n0) (n : Node) (j : Id) :
    (d.setNode i n).nodes[j]? = if j = i then some n else d.nodes[j]? := by
  rw [nodes_setNode]
  have hlt : i < d.nodes.size := by
    by_cases hi : i < d.nodes.size
    · exact hi
    · simp [Array.getElem?_eq_none (Nat.le_of_not_lt hi)] at h
  by_cases hij : i = j
  · subst hij; simp [hlt]
  · have : ¬ j = i := fun e => hij e.symm
    simp [hij, this]

theorem lt_of_some {d : Dom} {i : Id} {n0 : Node} (h : d.nodes[i]? = some n0) : i < d.nodes.size := by
  by_cases hi : i < d.nodes.size
  · exact hi
  · simp [Array.getElem?_eq_none (Nat.le_of_not_lt hi)] at h

theorem nodes_alloc (d : Dom) (data : NodeData) (j : Id) :
    (d.alloc data).1.nodes[j]? = if j = d.nodes.size then some { data := data } else d.nodes[j]? := by
  unfold Dom.alloc
  simp only [Array.getElem?_push]

theorem ok_bind {α β : Type} (a : α) (f : α → Except String β) : (Except.ok a >>= f) = f a := rfl

theorem dom_ext {a b : Dom} (h1 : ∀ j : Nat, a.nodes[j]? = b.nodes[j]?) (h2 : a.quirks = b.quirks)
    (h3 : a.errorsRev = b.errorsRev) : a = b := by
  cases a; cases b
  simp only [Dom.mk.injEq]
  exact ⟨Array.ext_getElem? h1, h2, h3⟩

/-- the result of "allocate a text node and `fn append` it to `p`" -/
def freshAppend (d : Dom) (p : Id) (pn : Node) (s : Str) : Dom :=
  (((d.alloc (.text s)).1.setNode d.nodes.size { data := .text s, parent := some p }).setNode p
    { pn with children := pn.children ++ [d.nodes.size] })

theorem allocAppendRaw {d : Dom} {p : Id} {pn : Node} (hp : d.nodes[p]? = some pn) (s : Str) :
    (d.alloc (.text s)).1.appendRaw p d.nodes.size = .ok (freshAppend d p pn s) := by
  have hlt := lt_of_some hp
  have h1 : (d.alloc (.text s)).1.nodes[d.nodes.size]? = some { data := .text s } := by
    rw [nodes_alloc]; simp
  unfold Dom.appendRaw
  simp only [bind, Except.bind, get_some h1]
  have h2 : ((d.alloc (.text s)).1.setNode d.nodes.size { data := .text s, parent := some p }).nodes[p]? = some pn := by
    rw [nodes_setNode_of h1, nodes_alloc]
    have : p ≠ d.nodes.size := Nat.ne_of_lt hlt
    simp [this, hp]
  simp [get_some h2, freshAppend]


/-! ### `append` with text -/

def isTextData : NodeData → Bool
  | .text _ => true
  | _ => false

theorem append_text_ext {d : Dom} {p h : Id} {pn hn : Node} {old : Str} (hp : d.nodes[p]? = some pn)
    (hl : pn.children.getLast? = some h) (hh : d.nodes[h]? = some hn) (hd : hn.data = .text old) (s : Str) :
    d.append p (.text s) = .ok (d.setNode h { hn with data := .text (old ++ s) }) := by
  unfold Dom.append
  simp only [bind, Except.bind, get_some hp, hl, get_some hh, hd]

/-- appending a text, uniformly in the text: an error, a fresh last child of `p`, or a longer last text -/
theorem append_text_shape (d : Dom) (p : Id) :
    (∃ e, ∀ s, d.append p (.text s) = .error e) ∨
    (∃ pn, d.nodes[p]? = some pn ∧ ∀ s, d.append p (.text s) = .ok (freshAppend d p pn s)) ∨
    (∃ pn h hn old, d.nodes[p]? = some pn ∧ pn.children.getLast? = some h ∧ d.nodes[h]? = some hn ∧
      hn.data = .text old ∧ ∀ s, d.append p (.text s) = .ok (d.setNode h { hn with data := .text (old ++ s) })) := by
  cases hp : d.nodes[p]? with
  | none => exact .inl ⟨_, fun s => by unfold Dom.append; simp only [bind, Except.bind, get_none hp]; rfl⟩
  | some pn =>
    have fresh : ∀ s, (d.alloc (.text s)).1.appendRaw p (d.alloc (.text s)).2 = .ok (freshAppend d p pn s) :=
      allocAppendRaw hp
    cases hl : pn.children.getLast? with
    | none =>
      exact .inr (.inl ⟨pn, rfl, fun s => by
        unfold Dom.append; simp only [bind, Except.bind, get_some hp, hl]; exact fresh s⟩)
    | some h =>
      cases hh : d.nodes[h]? with
      | none =>
        exact .inl ⟨_, fun s => by
          unfold Dom.append; simp only [bind, Except.bind, get_some hp, hl, get_none hh]; rfl⟩
      | some hn =>
        cases hd : hn.data with
        | text old => exact .inr (.inr ⟨pn, h, hn, old, rfl, hl, hh, hd, append_text_ext hp hl hh hd⟩)
        | document | doctype _ _ _ | comment _ | element _ _ _ _ | pi _ _ =>
          exact .inr (.inl ⟨pn, rfl, fun s => by
            unfold Dom.append; simp only [bind, Except.bind, get_some hp, hl, get_some hh, hd]; exact fresh s⟩)

theorem freshAppend_nodes {d : Dom} {p : Id} {pn : Node} (hp : d.nodes[p]? = some pn) (s : Str) (j : Id) :
    (freshAppend d p pn s).nodes[j]? =
      if j = p then some { pn with children := pn.children ++ [d.nodes.size] }
      else if j = d.nodes.size then some { data := .text s, parent := some p }
      else d.nodes[j]? := by
  have hlt := lt_of_some hp
  have hne : p ≠ d.nodes.size := Nat.ne_of_lt hlt
  have h1 : (d.alloc (.text s)).1.nodes[d.nodes.size]? = some { data := .text s } := by
    rw [nodes_alloc]; simp
  have h2 : ((d.alloc (.text s)).1.setNode d.nodes.size { data := .text s, parent := some p }).nodes[p]? = some pn := by
    rw [nodes_setNode_of h1, nodes_alloc]
    simp [hne, hp]
  unfold freshAppend
  rw [nodes_setNode_of h2, nodes_setNode_of h1, nodes_alloc]
  by_cases hj : j = p
  · simp [hj]
  · simp only [hj, if_false]
    by_cases hj2 : j = d.nodes.size
    · simp [hj2]
    · simp [hj2]

theorem append_merge (d : Dom) (p : Id) (x y : Str) :
    d.append p (.text (x ++ y)) = d.append p (.text x) >>= fun d1 => d1.append p (.text y) := by
  rcases append_text_shape d p with ⟨e, he⟩ | ⟨pn, hp, hf⟩ | ⟨pn, h, hn, old, hp, hl, hh, hdd, hx⟩
  · rw [he, he]; rfl
  · -- the fresh text node is the last child: the second call extends it
    rw [hf, hf, ok_bind]
    have hne : p ≠ d.nodes.size := Nat.ne_of_lt (lt_of_some hp)
    have hp1 := freshAppend_nodes hp x p
    simp only [if_true] at hp1
    have hh1 := freshAppend_nodes hp x d.nodes.size
    simp only [hne.symm, if_false, if_true] at hh1
    rw [append_text_ext hp1 (by simp) hh1 rfl]
    refine congrArg Except.ok (dom_ext ?_ rfl rfl)
    intro j
    rw [nodes_setNode_of hh1, freshAppend_nodes hp, freshAppend_nodes hp]
    by_cases hj : j = d.nodes.size
    · subst hj; simp [hne.symm]
    · simp [hj]
  · -- the last child is a text node, extended twice
    rw [hx, hx, ok_bind]
    have hh1 : (d.setNode h { hn with data := .text (old ++ x) }).nodes[h]? =
        some { hn with data := .text (old ++ x) } := by
      rw [nodes_setNode_of hh]; simp
    have hp1 : ∃ pn', (d.setNode h { hn with data := .text (old ++ x) }).nodes[p]? = some pn' ∧
        pn'.children = pn.children := by
      rw [nodes_setNode_of hh]
      by_cases hph : p = h
      · subst hph
        rw [hp] at hh; cases hh
        exact ⟨{ pn with data := .text (old ++ x) }, by simp, rfl⟩
      · exact ⟨pn, by simp [hph, hp], rfl⟩
    obtain ⟨pn', hp1, hc⟩ := hp1
    rw [append_text_ext hp1 (hc ▸ hl) hh1 rfl]
    refine congrArg Except.ok (dom_ext ?_ rfl rfl)
    intro j
    rw [nodes_setNode_of hh1, nodes_setNode_of hh, nodes_setNode_of hh]
    by_cases hj : j = h
    · simp [hj, List.append_assoc]
    · simp [hj]


/-! ### `append_before_sibling` with text -/

theorem gpi_some {d : Dom} {t P : Id} {i : Nat} {tn pn : Node} (ht : d.nodes[t]? = some tn)
    (hpar : tn.parent = some P) (hP : d.nodes[P]? = some pn) (hi : indexOf? t pn.children = some i) :
    d.getParentAndIndex t = .ok (some (P, i)) := by
  unfold Dom.getParentAndIndex
  simp only [bind, Except.bind, get_some ht, hpar, get_some hP, hi]

theorem gpi_none {d : Dom} {t : Id} {tn : Node} (ht : d.nodes[t]? = some tn)
    (hpar : tn.parent = none) : d.getParentAndIndex t = .ok none := by
  unfold Dom.getParentAndIndex
  simp only [bind, Except.bind, get_some ht, hpar]

theorem gpi_inv {d : Dom} {t P : Id} {i : Nat} (h : d.getParentAndIndex t = .ok (some (P, i))) :
    ∃ tn pn, d.nodes[t]? = some tn ∧ tn.parent = some P ∧ d.nodes[P]? = some pn ∧
      indexOf? t pn.children = some i := by
  unfold Dom.getParentAndIndex at h
  simp only [bind, Except.bind] at h
  cases ht : d.nodes[t]? with
  | none => rw [get_none ht] at h; cases h
  | some tn =>
    rw [get_some ht] at h
    simp only at h
    cases hpar : tn.parent with
    | none => rw [hpar] at h; cases h
    | some p =>
      rw [hpar] at h
      simp only at h
      cases hP : d.nodes[p]? with
      | none => rw [get_none hP] at h; cases h
      | some pn =>
        rw [get_some hP] at h
        simp only at h
        cases hi : indexOf? t pn.children with
        | none => rw [hi] at h; cases h
        | some j =>
          rw [hi] at h
          simp only [Except.ok.injEq, Option.some.injEq, Prod.mk.injEq] at h
          obtain ⟨rfl, rfl⟩ := h
          exact ⟨tn, pn, rfl, hpar, hP, hi⟩

/-- `append_before_sibling(_, text)` after the parent and the index are known -/
def absText (d : Dom) (parent : Id) (i : Nat) (s : Str) : Except String Dom :=
  if i = 0 then
    (d.alloc (.text s)).1.insertAtIndex parent i (d.alloc (.text s)).2
  else do
    let pn ← d.get parent
    match pn.children[i - 1]? with
    | none => throw "index-oob: append_before_sibling: children[i - 1]"
    | some prev =>
      let prevn ← d.get prev
      match prevn.data with
      | .text old => .ok (d.setNode prev { prevn with data := .text (old ++ s) })
      | _ => (d.alloc (.text s)).1.insertAtIndex parent i (d.alloc (.text s)).2

def absCont (d : Dom) (s : Str) : Option (Id × Nat) → Except String Dom
  | none => .error "abs-no-parent: append_before_sibling called on node without parent"
  | some (P, i) => absText d P i s

theorem abs_text_eq (d : Dom) (sib : Id) (s : Str) :
    d.appendBeforeSibling sib (.text s) = d.getParentAndIndex sib >>= absCont d s := by
  unfold Dom.appendBeforeSibling
  simp only [bind, Except.bind]
  cases d.getParentAndIndex sib with
  | error e => rfl
  | ok r =>
    cases r with
    | none => rfl
    | some pi =>
      obtain ⟨P, i⟩ := pi
      simp only [absCont, absText]
      by_cases hi : i = 0
      · simp only [hi, if_true]
      · simp only [hi, if_false]
        cases d.get P with
        | error e => rfl
        | ok pn =>
          simp only [bind, Except.bind]
          cases pn.children[i - 1]? with
          | none => rfl
          | some prev =>
            simp only
            cases d.get prev with
            | error e => rfl
            | ok prevn =>
              simp only
              cases prevn.data <;> rfl


/-- the result of "allocate a text node and insert it as the `i`-th child of `P`" -/
def freshInsert (d : Dom) (P : Id) (pn : Node) (i : Nat) (s : Str) : Dom :=
  (((d.alloc (.text s)).1.setNode d.nodes.size { data := .text s, parent := some P }).setNode P
    { pn with children := insertAt pn.children i d.nodes.size })

theorem allocInsertAt {d : Dom} {P : Id} {pn : Node} (hP : d.nodes[P]? = some pn) {i : Nat}
    (hi : i ≤ pn.children.length) (s : Str) :
    (d.alloc (.text s)).1.insertAtIndex P i (d.alloc (.text s)).2 = .ok (freshInsert d P pn i s) := by
  have hlt := lt_of_some hP
  have hne : P ≠ d.nodes.size := Nat.ne_of_lt hlt
  have h1 : (d.alloc (.text s)).1.nodes[d.nodes.size]? = some { data := .text s } := by
    rw [nodes_alloc]; simp
  have h0 : (d.alloc (.text s)).1.removeFromParent d.nodes.size = .ok (d.alloc (.text s)).1 := by
    unfold Dom.removeFromParent
    simp only [bind, Except.bind, gpi_none h1 rfl]
  have h2 : ((d.alloc (.text s)).1.setNode d.nodes.size { data := .text s, parent := some P }).nodes[P]? = some pn := by
    rw [nodes_setNode_of h1, nodes_alloc]
    simp [hne, hP]
  show (d.alloc (.text s)).1.insertAtIndex P i d.nodes.size = _
  unfold Dom.insertAtIndex
  simp only [bind, Except.bind, h0, get_some h1, get_some h2]
  have : ¬ i > pn.children.length := Nat.not_lt.mpr hi
  simp [this, freshInsert]

theorem freshInsert_nodes {d : Dom} {P : Id} {pn : Node} (hP : d.nodes[P]? = some pn) (i : Nat) (s : Str) (j : Id) :
    (freshInsert d P pn i s).nodes[j]? =
      if j = P then some { pn with children := insertAt pn.children i d.nodes.size }
      else if j = d.nodes.size then some { data := .text s, parent := some P }
      else d.nodes[j]? := by
  have hlt := lt_of_some hP
  have hne : P ≠ d.nodes.size := Nat.ne_of_lt hlt
  have h1 : (d.alloc (.text s)).1.nodes[d.nodes.size]? = some { data := .text s } := by
    rw [nodes_alloc]; simp
  have h2 : ((d.alloc (.text s)).1.setNode d.nodes.size { data := .text s, parent := some P }).nodes[P]? = some pn := by
    rw [nodes_setNode_of h1, nodes_alloc]
    simp [hne, hP]
  unfold freshInsert
  rw [nodes_setNode_of h2, nodes_setNode_of h1, nodes_alloc]
  by_cases hj : j = P
  · simp [hj]
  · simp only [hj, if_false]
    by_cases hj2 : j = d.nodes.size
    · simp [hj2]
    · simp [hj2]

theorem absText_ext {d : Dom} {P prev : Id} {pn prevn : Node} {i : Nat} {old : Str} (hP : d.nodes[P]? = some pn)
    (hi : i ≠ 0) (hprev : pn.children[i - 1]? = some prev) (hh : d.nodes[prev]? = some prevn)
    (hd : prevn.data = .text old) (s : Str) :
    absText d P i s = .ok (d.setNode prev { prevn with data := .text (old ++ s) }) := by
  unfold absText
  simp only [hi, if_false, bind, Except.bind, get_some hP, hprev, get_some hh, hd]

/-- inserting a text at position `i` of `P`, uniformly in the text: an error, a fresh child, or a longer
text in the child before -/
theorem absText_shape {d : Dom} {P : Id} {pn : Node} {i : Nat} (hP : d.nodes[P]? = some pn)
    (hlen : i < pn.children.length) :
    (∃ e, ∀ s, absText d P i s = .error e) ∨
    (∀ s, absText d P i s = .ok (freshInsert d P pn i s)) ∨
    (∃ prev hn old, i ≠ 0 ∧ pn.children[i - 1]? = some prev ∧ d.nodes[prev]? = some hn ∧ hn.data = .text old ∧
      ∀ s, absText d P i s = .ok (d.setNode prev { hn with data := .text (old ++ s) })) := by
  have fresh : ∀ s, (d.alloc (.text s)).1.insertAtIndex P i (d.alloc (.text s)).2 = .ok (freshInsert d P pn i s) :=
    allocInsertAt hP (Nat.le_of_lt hlen)
  by_cases hi0 : i = 0
  · exact .inr (.inl fun s => by unfold absText; simp only [hi0, if_true]; exact hi0 ▸ fresh s)
  · have hprev : pn.children[i - 1]? = some pn.children[i - 1] := by
      have : i - 1 < pn.children.length := by omega
      simp [this]
    cases hh : d.nodes[pn.children[i - 1]]? with
    | none =>
      exact .inl ⟨_, fun s => by
        unfold absText; simp only [hi0, if_false, bind, Except.bind, get_some hP, hprev, get_none hh]; rfl⟩
    | some hn =>
      cases hd : hn.data with
      | text old => exact .inr (.inr ⟨_, hn, old, hi0, hprev, hh, hd, absText_ext hP hi0 hprev hh hd⟩)
      | document | doctype _ _ _ | comment _ | element _ _ _ _ | pi _ _ =>
        exact .inr (.inl fun s => by
          unfold absText
          simp only [hi0, if_false, bind, Except.bind, get_some hP, hprev, get_some hh, hd]
          exact fresh s)

theorem indexOf?_insertAt {t x : Id} (hx : x ≠ t) : ∀ {l : List Id} {i : Nat}, indexOf? t l = some i →
    indexOf? t (insertAt l i x) = some (i + 1) := by
  intro l
  induction l with
  | nil => intro i h; simp [indexOf?] at h
  | cons a as ih =>
    intro i h
    simp only [indexOf?] at h
    by_cases ha : a = t
    · simp only [ha, if_true, Option.some.injEq] at h
      subst h
      simp [insertAt, indexOf?, hx, ha]
    · simp only [ha, if_false] at h
      cases hj : indexOf? t as with
      | none => simp [hj] at h
      | some j =>
        simp only [hj, Option.map_some, Option.some.injEq] at h
        subst h
        have := ih hj
        simp only [insertAt, List.take_succ_cons, List.drop_succ_cons, List.cons_append, indexOf?, ha, if_false]
        simp only [insertAt] at this
        rw [this]; rfl

theorem insertAt_getElem {l : List Id} {i : Nat} (x : Id) (hi : i ≤ l.length) : (insertAt l i x)[i]? = some x := by
  unfold insertAt
  rw [List.getElem?_append_right (by simp [List.length_take, Nat.min_eq_left hi])]
  simp [List.length_take, Nat.min_eq_left hi]


theorem abs_merge (d : Dom) (s : Id) (x y : Str) :
    d.appendBeforeSibling s (.text (x ++ y)) =
      d.appendBeforeSibling s (.text x) >>= fun d1 => d1.appendBeforeSibling s (.text y) := by
  rw [abs_text_eq, abs_text_eq]
  cases hg : d.getParentAndIndex s with
  | error e => rfl
  | ok r =>
    cases r with
    | none => rfl
    | some pi =>
      obtain ⟨P, i⟩ := pi
      obtain ⟨sn, pn, hs, hpar, hP, hi⟩ := gpi_inv hg
      show absText d P i (x ++ y) = absText d P i x >>= fun d1 => d1.appendBeforeSibling s (.text y)
      have hlen : i < pn.children.length := (H5V.Lemmas.Dom.indexOf?_some hi).2.2
      rcases absText_shape hP hlen with ⟨e, he⟩ | hf | ⟨prev, hn, old, hi0, hprev, hh, hdd, hx⟩
      · rw [he, he]; rfl
      · -- the fresh text node sits before `s`: the second call extends it
        rw [hf, hf, ok_bind]
        have hsne : d.nodes.size ≠ s := (Nat.ne_of_lt (lt_of_some hs)).symm
        have hPne : d.nodes.size ≠ P := (Nat.ne_of_lt (lt_of_some hP)).symm
        have hP1 := freshInsert_nodes hP i x P
        simp only [if_true] at hP1
        have hh1 := freshInsert_nodes hP i x d.nodes.size
        simp only [hPne, if_false, if_true] at hh1
        have hs1 : ∃ sn', (freshInsert d P pn i x).nodes[s]? = some sn' ∧ sn'.parent = some P := by
          rw [freshInsert_nodes hP]
          by_cases hsP : s = P
          · subst hsP
            have e : pn = sn := Option.some.inj (hP.symm.trans hs)
            exact ⟨{ pn with children := insertAt pn.children i d.nodes.size }, by simp, by rw [e]; exact hpar⟩
          · exact ⟨sn, by simp [hsP, hsne.symm, hs], hpar⟩
        obtain ⟨sn', hs1, hpar1⟩ := hs1
        have hg1 := gpi_some hs1 hpar1 hP1 (indexOf?_insertAt hsne hi)
        rw [abs_text_eq, hg1, ok_bind, absCont]
        rw [absText_ext hP1 (Nat.succ_ne_zero i)
          (by simpa using insertAt_getElem d.nodes.size (Nat.le_of_lt hlen)) hh1 rfl]
        refine congrArg Except.ok (dom_ext ?_ rfl rfl)
        intro j
        rw [nodes_setNode_of hh1, freshInsert_nodes hP, freshInsert_nodes hP]
        by_cases hj : j = d.nodes.size
        · subst hj; simp [hPne]
        · simp [hj]
      · -- the child before `s` is a text node, extended twice
        rw [hx, hx, ok_bind]
        have hh1 : (d.setNode prev { hn with data := .text (old ++ x) }).nodes[prev]? =
            some { hn with data := .text (old ++ x) } := by
          rw [nodes_setNode_of hh]; simp
        have keep : ∀ (j : Id) (n : Node), d.nodes[j]? = some n →
            ∃ n', (d.setNode prev { hn with data := .text (old ++ x) }).nodes[j]? = some n' ∧
              n'.parent = n.parent ∧ n'.children = n.children := by
          intro j n hj
          rw [nodes_setNode_of hh]
          by_cases hjp : j = prev
          · subst hjp
            have e : hn = n := Option.some.inj (hh.symm.trans hj)
            exact ⟨{ hn with data := .text (old ++ x) }, by simp, by rw [e], by rw [e]⟩
          · exact ⟨n, by simp [hjp, hj], rfl, rfl⟩
        obtain ⟨sn', hs1, hpar1, _⟩ := keep s sn hs
        obtain ⟨pn', hP1, _, hc1⟩ := keep P pn hP
        have hg1 := gpi_some hs1 (hpar1.trans hpar) hP1 (hc1 ▸ hi)
        rw [abs_text_eq, hg1, ok_bind, absCont]
        rw [absText_ext hP1 hi0 (hc1 ▸ hprev) hh1 rfl]
        refine congrArg Except.ok (dom_ext ?_ rfl rfl)
        intro j
        rw [nodes_setNode_of hh1, nodes_setNode_of hh, nodes_setNode_of hh]
        by_cases hj : j = prev
        · simp [hj, List.append_assoc]
        · simp [hj]


/-! ### what a text insertion changes -/

/-- frame of a text insertion: existing nodes keep their parent pointer and their data (text nodes
may change their text), new nodes are text nodes -/
def TextStep (d d1 : Dom) : Prop :=
  (∀ (j : Id) (n : Node), d.nodes[j]? = some n → ∃ n', d1.nodes[j]? = some n' ∧ n'.parent = n.parent ∧
      (n'.data = n.data ∨ (isTextData n.data = true ∧ isTextData n'.data = true))) ∧
  (∀ (j : Id) (n' : Node), d.nodes[j]? = none → d1.nodes[j]? = some n' → isTextData n'.data = true)

theorem textStep_setData {d : Dom} {h : Id} {hn : Node} {old : Str} (hh : d.nodes[h]? = some hn)
    (hd : hn.data = .text old) (s : Str) : TextStep d (d.setNode h { hn with data := .text s }) := by
  constructor
  · intro j n hj
    rw [nodes_setNode_of hh]
    by_cases hjh : j = h
    · subst hjh
      have e : hn = n := Option.some.inj (hh.symm.trans hj)
      refine ⟨{ hn with data := .text s }, by simp, by rw [e], Or.inr ⟨?_, rfl⟩⟩
      rw [← e, hd]; rfl
    · exact ⟨n, by simp [hjh, hj], rfl, Or.inl rfl⟩
  · intro j n' hj hj'
    rw [nodes_setNode_of hh] at hj'
    by_cases hjh : j = h
    · subst hjh; rw [hh] at hj; cases hj
    · simp [hjh, hj] at hj'

theorem textStep_fresh {d : Dom} {P : Id} {pn : Node} (hP : d.nodes[P]? = some pn) (c : List Id) (s : Str) :
    TextStep d (((d.alloc (.text s)).1.setNode d.nodes.size { data := .text s, parent := some P }).setNode P
      { pn with children := c }) := by
  have hlt := lt_of_some hP
  have hne : P ≠ d.nodes.size := Nat.ne_of_lt hlt
  have h1 : (d.alloc (.text s)).1.nodes[d.nodes.size]? = some { data := .text s } := by
    rw [nodes_alloc]; simp
  have h2 : ((d.alloc (.text s)).1.setNode d.nodes.size { data := .text s, parent := some P }).nodes[P]? = some pn := by
    rw [nodes_setNode_of h1, nodes_alloc]
    simp [hne, hP]
  constructor
  · intro j n hj
    have hjne : j ≠ d.nodes.size := Nat.ne_of_lt (lt_of_some hj)
    rw [nodes_setNode_of h2, nodes_setNode_of h1, nodes_alloc]
    by_cases hjP : j = P
    · subst hjP
      have e : pn = n := Option.some.inj (hP.symm.trans hj)
      exact ⟨{ pn with children := c }, by simp, by rw [e], Or.inl (by rw [e])⟩
    · exact ⟨n, by simp [hjP, hjne, hj], rfl, Or.inl rfl⟩
  · intro j n' hj hj'
    rw [nodes_setNode_of h2, nodes_setNode_of h1, nodes_alloc] at hj'
    by_cases hjP : j = P
    · subst hjP; rw [hP] at hj; cases hj
    · by_cases hjs : j = d.nodes.size
      · rw [hjs] at hj' hjP
        simp [hjP] at hj'
        subst hj'; rfl
      · simp [hjP, hjs, hj] at hj'

theorem append_textStep {d d1 : Dom} {p : Id} {s : Str} (h : d.append p (.text s) = .ok d1) : TextStep d d1 := by
  rcases append_text_shape d p with ⟨e, he⟩ | ⟨pn, hp, hf⟩ | ⟨pn, hh, hn, old, hp, hl, hhn, hdd, hx⟩
  · rw [he] at h; cases h
  · rw [hf] at h; cases h; exact textStep_fresh hp _ s
  · rw [hx] at h; cases h; exact textStep_setData hhn hdd _

theorem abs_textStep {d d1 : Dom} {sib : Id} {s : Str} (h : d.appendBeforeSibling sib (.text s) = .ok d1) :
    TextStep d d1 := by
  rw [abs_text_eq] at h
  cases hg : d.getParentAndIndex sib with
  | error e => rw [hg] at h; cases h
  | ok r =>
    rw [hg] at h
    cases r with
    | none => cases h
    | some pi =>
      obtain ⟨P, i⟩ := pi
      obtain ⟨sn, pn, hs, hpar, hP, hi⟩ := gpi_inv hg
      change absText d P i s = .ok d1 at h
      rcases absText_shape hP (H5V.Lemmas.Dom.indexOf?_some hi).2.2 with
        ⟨e, he⟩ | hf | ⟨prev, hn, old, _, _, hh, hdd, hx⟩
      · rw [he] at h; cases h
      · rw [hf] at h; cases h; exact textStep_fresh hP _ s
      · rw [hx] at h; cases h; exact textStep_setData hh hdd _

/-! ### group B: the three merge theorems at the level of `Dom.apply` -/

theorem apply_append (d : Dom) (p : Id) (c : NodeOrText) :
    Dom.apply d (.append p c) = (d.append p c >>= fun d' => .ok (d', Output.unit)) := rfl

theorem absV_text (d : Dom) (s : Id) (z : Str) :
    Dom.appendBeforeSiblingV Dom.beforeSiblingVariant d s (.text z) = d.appendBeforeSibling s (.text z) := rfl

theorem apply_abs_text (d : Dom) (s : Id) (z : Str) :
    Dom.apply d (.appendBeforeSibling s (.text z)) =
      (d.appendBeforeSibling s (.text z) >>= fun d' => .ok (d', Output.unit)) := rfl

theorem apply_abpn_text (d : Dom) (e p : Id) (z : Str) :
    Dom.apply d (.appendBasedOnParentNode e p (.text z)) =
      (d.get e >>= fun en =>
        (if en.parent.isSome then d.appendBeforeSibling e (.text z) else d.append p (.text z)) >>=
          fun d' => .ok (d', Output.unit)) := by
  show (Dom.appendBasedOnParentNodeV Dom.beforeSiblingVariant d e p (.text z) >>= fun d' => .ok (d', Output.unit)) = _
  unfold Dom.appendBasedOnParentNodeV
  simp only [bind, Except.bind]
  cases d.get e with
  | error x => rfl
  | ok en =>
    simp only
    cases en.parent.isSome <;> rfl

theorem append_text_merge (d : Dom) (p : Id) (x y : Str) :
    Dom.apply d (.append p (.text (x ++ y))) =
      (Dom.apply d (.append p (.text x))) >>= fun r => Dom.apply r.1 (.append p (.text y)) := by
  simp only [apply_append, append_merge]
  cases d.append p (.text x) with
  | error e => rfl
  | ok d1 => rfl

theorem appendBeforeSibling_text_merge (d : Dom) (s : Id) (x y : Str) :
    Dom.apply d (.appendBeforeSibling s (.text (x ++ y))) =
      (Dom.apply d (.appendBeforeSibling s (.text x))) >>= fun r => Dom.apply r.1 (.appendBeforeSibling s (.text y)) := by
  simp only [apply_abs_text, abs_merge]
  cases d.appendBeforeSibling s (.text x) with
  | error e => rfl
  | ok d1 => rfl

theorem appendBasedOnParentNode_text_merge (d : Dom) (e p : Id) (x y : Str) :
    Dom.apply d (.appendBasedOnParentNode e p (.text (x ++ y))) =
      (Dom.apply d (.appendBasedOnParentNode e p (.text x))) >>=
        fun r => Dom.apply r.1 (.appendBasedOnParentNode e p (.text y)) := by
  simp only [apply_abpn_text]
  cases he : d.nodes[e]? with
  | none => rw [get_none he]; rfl
  | some en =>
    rw [get_some he]
    show ((if en.parent.isSome then d.appendBeforeSibling e (.text (x ++ y)) else d.append p (.text (x ++ y))) >>=
          fun d' => .ok (d', Output.unit)) =
      ((if en.parent.isSome then d.appendBeforeSibling e (.text x) else d.append p (.text x)) >>=
          fun d' => Except.ok (d', Output.unit)) >>= fun r => _
    cases hpar : en.parent.isSome with
    | true =>
      simp only [if_true, abs_merge]
      cases h1 : d.appendBeforeSibling e (.text x) with
      | error e => rfl
      | ok d1 =>
        obtain ⟨en', he', hp', _⟩ := (abs_textStep h1).1 e en he
        show (d1.appendBeforeSibling e (.text y) >>= fun d' => .ok (d', Output.unit)) =
          (d1.get e >>= fun en => _)
        rw [get_some he']
        show _ = ((if en'.parent.isSome then d1.appendBeforeSibling e (.text y) else d1.append p (.text y)) >>= fun d' => Except.ok (d', Output.unit))
        rw [hp', hpar]; rfl
    | false =>
      simp only [Bool.false_eq_true, if_false, append_merge]
      cases h1 : d.append p (.text x) with
      | error e => rfl
      | ok d1 =>
        obtain ⟨en', he', hp', _⟩ := (append_textStep h1).1 e en he
        show (d1.append p (.text y) >>= fun d' => .ok (d', Output.unit)) =
          (d1.get e >>= fun en => _)
        rw [get_some he']
        show _ = ((if en'.parent.isSome then d1.appendBeforeSibling e (.text y) else d1.append p (.text y)) >>= fun d' => Except.ok (d', Output.unit))
        rw [hp', hpar]; rfl


/-! ### group A: `Dom.apply` does not look at the parse-error log -/

def wE (d : Dom) (e : List Str) : Dom := { d with errorsRev := e }

def errUpd : SinkOp → List Str → List Str
  | .parseError msg, e => msg :: e
  | _, e => e

/-- map over the `Dom` of an `Except String Dom` -/
def mE (e : List Str) (r : Except String Dom) : Except String Dom :=
  match r with
  | .ok d => .ok (wE d e)
  | .error x => .error x

/-- map over the `Dom` component of an `Except String (Dom × α)` -/
def mP {α : Type} (e : List Str) (r : Except String (Dom × α)) : Except String (Dom × α) :=
  match r with
  | .ok (d, a) => .ok (wE d e, a)
  | .error x => .error x

@[simp] theorem get_wE (d : Dom) (e : List Str) (i : Id) : (wE d e).get i = d.get i := rfl
@[simp] theorem setNode_wE (d : Dom) (e : List Str) (i : Id) (n : Node) :
    (wE d e).setNode i n = wE (d.setNode i n) e := rfl
@[simp] theorem size_wE (d : Dom) (e : List Str) : (wE d e).size = d.size := rfl
@[simp] theorem nodes_wE (d : Dom) (e : List Str) : (wE d e).nodes = d.nodes := rfl
@[simp] theorem childrenOf_wE (d : Dom) (e : List Str) (i : Id) : (wE d e).childrenOf i = d.childrenOf i := rfl
@[simp] theorem localNameOf_wE (d : Dom) (e : List Str) (i : Id) : (wE d e).localNameOf i = d.localNameOf i := rfl
theorem alloc_wE (d : Dom) (e : List Str) (data : NodeData) :
    (wE d e).alloc data = (wE (d.alloc data).1 e, (d.alloc data).2) := rfl
@[simp] theorem alloc_wE_fst (d : Dom) (e : List Str) (data : NodeData) :
    ((wE d e).alloc data).1 = wE (d.alloc data).1 e := rfl
@[simp] theorem alloc_wE_snd (d : Dom) (e : List Str) (data : NodeData) :
    ((wE d e).alloc data).2 = (d.alloc data).2 := rfl

@[simp] theorem mE_ok (e : List Str) (d : Dom) : mE e (.ok d) = .ok (wE d e) := rfl
@[simp] theorem mE_error (e : List Str) (x : String) : mE e (.error x) = .error x := rfl

/-- a step that commutes with `wE`, after a first one that does -/
theorem mE_bind {e : List Str} (r : Except String Dom) {g g' : Dom → Except String Dom}
    (hg : ∀ d1, g (wE d1 e) = mE e (g' d1)) : (mE e r >>= g) = mE e (r >>= g') := by
  cases r with
  | error x => rfl
  | ok d1 => exact hg d1

theorem appendRaw_wE (d : Dom) (e : List Str) (p c : Id) :
    (wE d e).appendRaw p c = mE e (d.appendRaw p c) := by
  unfold Dom.appendRaw
  simp only [bind, Except.bind, get_wE, setNode_wE]
  repeat' split
  all_goals rfl

theorem getParentAndIndex_wE (d : Dom) (e : List Str) (t : Id) :
    (wE d e).getParentAndIndex t = d.getParentAndIndex t := rfl

theorem removeFromParent_wE (d : Dom) (e : List Str) (t : Id) :
    (wE d e).removeFromParent t = mE e (d.removeFromParent t) := by
  unfold Dom.removeFromParent
  simp only [bind, Except.bind, getParentAndIndex_wE, get_wE, setNode_wE]
  repeat' split
  all_goals rfl


theorem append_wE (d : Dom) (e : List Str) (p : Id) (c : NodeOrText) :
    (wE d e).append p c = mE e (d.append p c) := by
  unfold Dom.append
  simp only [bind, Except.bind, get_wE, setNode_wE, alloc_wE_fst, alloc_wE_snd]
  repeat' split
  all_goals first | rfl | exact appendRaw_wE _ e p _

theorem insertAtIndex_wE (d : Dom) (e : List Str) (p : Id) (i : Nat) (c : Id) :
    (wE d e).insertAtIndex p i c = mE e (d.insertAtIndex p i c) := by
  unfold Dom.insertAtIndex
  rw [removeFromParent_wE]
  refine mE_bind _ (fun d1 => ?_)
  simp only [bind, Except.bind, get_wE, setNode_wE]
  repeat' split
  all_goals rfl

theorem appendBeforeSibling_wE (d : Dom) (e : List Str) (s : Id) (c : NodeOrText) :
    (wE d e).appendBeforeSibling s c = mE e (d.appendBeforeSibling s c) := by
  unfold Dom.appendBeforeSibling
  simp only [bind, Except.bind, getParentAndIndex_wE, alloc_wE_fst, alloc_wE_snd, get_wE, setNode_wE]
  repeat' split
  all_goals first | rfl | exact insertAtIndex_wE _ e _ _ _

theorem preDetach_wE (b : Dom.BeforeSiblingVariant) (d : Dom) (e : List Str) (c : NodeOrText) :
    Dom.preDetach b (wE d e) c = mE e (Dom.preDetach b d c) := by
  cases c with
  | text s => rfl
  | node c =>
    cases b with
    | asCode => rfl
    | detachFirst => exact removeFromParent_wE d e c

theorem appendBeforeSiblingV_wE (b : Dom.BeforeSiblingVariant) (d : Dom) (e : List Str) (s : Id) (c : NodeOrText) :
    Dom.appendBeforeSiblingV b (wE d e) s c = mE e (Dom.appendBeforeSiblingV b d s c) := by
  unfold Dom.appendBeforeSiblingV
  rw [preDetach_wE]
  exact mE_bind _ (fun d1 => appendBeforeSibling_wE d1 e s c)

theorem appendBasedOnParentNodeV_wE (b : Dom.BeforeSiblingVariant) (d : Dom) (e : List Str) (el p : Id)
    (c : NodeOrText) :
    Dom.appendBasedOnParentNodeV b (wE d e) el p c = mE e (Dom.appendBasedOnParentNodeV b d el p c) := by
  unfold Dom.appendBasedOnParentNodeV
  simp only [bind, Except.bind, get_wE]
  repeat' split
  all_goals first | rfl | exact appendBeforeSiblingV_wE b d e el c | exact append_wE d e p c

theorem appendDoctypeToDocument_wE (d : Dom) (e : List Str) (n p s : Str) :
    (wE d e).appendDoctypeToDocument n p s = mE e (d.appendDoctypeToDocument n p s) :=
  appendRaw_wE (d.alloc (.doctype n p s)).1 e Dom.document _

theorem addAttrsIfMissing_wE (d : Dom) (e : List Str) (t : Id) (attrs : List Attr) :
    (wE d e).addAttrsIfMissing t attrs = mE e (d.addAttrsIfMissing t attrs) := by
  unfold Dom.addAttrsIfMissing
  simp only [bind, Except.bind, get_wE]
  repeat' split
  all_goals rfl

theorem reparentLoop_wE (e : List Str) (node np : Id) : ∀ (cs : List Id) (d : Dom),
    Dom.reparentLoop (wE d e) node np cs = mE e (Dom.reparentLoop d node np cs) := by
  intro cs
  induction cs with
  | nil => intro d; rfl
  | cons c cs ih =>
    intro d
    simp only [Dom.reparentLoop, bind, Except.bind, get_wE, setNode_wE]
    repeat' split
    all_goals first | rfl | exact ih _

theorem reparentChildren_wE (d : Dom) (e : List Str) (node np : Id) :
    (wE d e).reparentChildren node np = mE e (d.reparentChildren node np) := by
  unfold Dom.reparentChildren
  simp only [bind, Except.bind, get_wE]
  cases d.get node with
  | error x => rfl
  | ok n =>
    simp only
    cases d.get np with
    | error x => rfl
    | ok npn =>
      simp only
      by_cases hn : node = np
      · simp only [hn, if_true]; rfl
      · simp only [hn, if_false, reparentLoop_wE]
        cases Dom.reparentLoop d node np n.children with
        | error x => rfl
        | ok d1 =>
          simp only [mE_ok, get_wE]
          cases d1.get node with
          | error x => rfl
          | ok n1 =>
            simp only
            cases d1.get np with
            | error x => rfl
            | ok np1 =>
              simp only [setNode_wE, get_wE]
              cases (d1.setNode np { np1 with children := np1.children ++ n1.children }).get node <;> rfl

theorem elemName_wE (d : Dom) (e : List Str) (t : Id) : (wE d e).elemName t = d.elemName t := rfl
theorem getTemplateContents_wE (d : Dom) (e : List Str) (t : Id) :
    (wE d e).getTemplateContents t = d.getTemplateContents t := rfl
theorem isMathml_wE (d : Dom) (e : List Str) (t : Id) :
    (wE d e).isMathmlAnnotationXmlIntegrationPoint t = d.isMathmlAnnotationXmlIntegrationPoint t := rfl

theorem createElement_wE (d : Dom) (e : List Str) (name : QualName) (attrs : List Attr) (flags : ElementFlags) :
    (wE d e).createElement name attrs flags =
      (wE (d.createElement name attrs flags).1 e, (d.createElement name attrs flags).2) := by
  unfold Dom.createElement
  cases flags.template <;> rfl
theorem createComment_wE (d : Dom) (e : List Str) (t : Str) :
    (wE d e).createComment t = (wE (d.createComment t).1 e, (d.createComment t).2) := rfl
theorem createPi_wE (d : Dom) (e : List Str) (t s : Str) :
    (wE d e).createPi t s = (wE (d.createPi t s).1 e, (d.createPi t s).2) := rfl


/-! the selectedcontent family (`CloneVariant.fixed`) -/

@[simp] theorem mP_ok {α : Type} (e : List Str) (d : Dom) (a : α) : mP e (.ok (d, a)) = .ok (wE d e, a) := rfl
@[simp] theorem mP_error {α : Type} (e : List Str) (x : String) : mP (α := α) e (.error x) = .error x := rfl

theorem nearestSelectLoop_wE (d : Dom) (e : List Str) : ∀ (fuel : Nat) (cur : Id) (saw : Bool),
    Dom.nearestSelectLoop (wE d e) fuel cur saw = Dom.nearestSelectLoop d fuel cur saw := by
  intro fuel
  induction fuel with
  | zero => intro cur saw; rfl
  | succ fuel ih =>
    intro cur saw
    simp only [Dom.nearestSelectLoop, get_wE, ih]

theorem nearestAncestorSelect_wE (d : Dom) (e : List Str) (o : Id) :
    (wE d e).nearestAncestorSelect o = d.nearestAncestorSelect o := by
  unfold Dom.nearestAncestorSelect
  simp only [get_wE, nearestSelectLoop_wE, size_wE]

theorem preorderAux_wE (d : Dom) (e : List Str) : ∀ (fuel : Nat) (x : Id),
    Dom.preorderAux (wE d e) fuel x = Dom.preorderAux d fuel x := by
  intro fuel
  induction fuel with
  | zero => intro x; rfl
  | succ fuel ih =>
    intro x
    have : Dom.preorderAux (wE d e) fuel = Dom.preorderAux d fuel := funext ih
    simp only [Dom.preorderAux, childrenOf_wE, this]

theorem descendants_wE (d : Dom) (e : List Str) (x : Id) : (wE d e).descendants x = d.descendants x := by
  have : (fun y => (wE d e).subtree y) = fun y => d.subtree y := by
    funext y; exact preorderAux_wE d e _ y
  unfold Dom.descendants
  rw [this]; rfl

theorem enabledSelectedcontent_wE (d : Dom) (e : List Str) (s : Id) :
    Dom.enabledSelectedcontent .fixed (wE d e) s = Dom.enabledSelectedcontent .fixed d s := by
  unfold Dom.enabledSelectedcontent
  simp only [get_wE, descendants_wE, localNameOf_wE]

theorem cloneTarget_wE (d : Dom) (e : List Str) (o : Id) :
    Dom.cloneTarget .fixed (wE d e) o = Dom.cloneTarget .fixed d o := by
  unfold Dom.cloneTarget
  simp only [get_wE, nearestAncestorSelect_wE, enabledSelectedcontent_wE]

theorem cloneKidsWith_wE (e : List Str) (cl : Dom → Id → Except String (Dom × Id))
    (hcl : ∀ d c, cl (wE d e) c = mP e (cl d c)) (parent : Id) : ∀ (cs : List Id) (d : Dom),
    Dom.cloneKidsWith cl parent (wE d e) cs = mE e (Dom.cloneKidsWith cl parent d cs) := by
  intro cs
  induction cs with
  | nil => intro d; rfl
  | cons c cs ih =>
    intro d
    simp only [Dom.cloneKidsWith, bind, Except.bind, hcl]
    cases cl d c with
    | error x => rfl
    | ok r =>
      obtain ⟨d1, k⟩ := r
      simp only [mP_ok, appendRaw_wE]
      cases d1.appendRaw parent k with
      | error x => rfl
      | ok d2 => exact ih d2

theorem cloneListWith_wE (e : List Str) (cl : Dom → Id → Except String (Dom × Id))
    (hcl : ∀ d c, cl (wE d e) c = mP e (cl d c)) : ∀ (cs : List Id) (d : Dom),
    Dom.cloneListWith cl (wE d e) cs = mP e (Dom.cloneListWith cl d cs) := by
  intro cs
  induction cs with
  | nil => intro d; rfl
  | cons c cs ih =>
    intro d
    simp only [Dom.cloneListWith, bind, Except.bind, hcl]
    cases cl d c with
    | error x => rfl
    | ok r =>
      obtain ⟨d1, k⟩ := r
      simp only [mP_ok, ih]
      cases Dom.cloneListWith cl d1 cs with
      | error x => rfl
      | ok r2 => rfl

theorem cloneFixed_wE (e : List Str) : ∀ (fuel : Nat) (d : Dom) (x : Id),
    Dom.cloneFixed (wE d e) fuel x = mP e (Dom.cloneFixed d fuel x) := by
  intro fuel
  induction fuel with
  | zero => intro d x; rfl
  | succ fuel ih =>
    intro d x
    have tail : ∀ (d : Dom) (data : NodeData) (cs : List Id),
        (Dom.cloneKidsWith (fun d c => Dom.cloneFixed d fuel c) ((wE d e).alloc data).2 ((wE d e).alloc data).1 cs >>=
            fun d' => Except.ok (d', ((wE d e).alloc data).2)) =
          mP e (Dom.cloneKidsWith (fun d c => Dom.cloneFixed d fuel c) (d.alloc data).2 (d.alloc data).1 cs >>=
            fun d' => Except.ok (d', (d.alloc data).2)) := by
      intro d data cs
      show (Dom.cloneKidsWith (fun d c => Dom.cloneFixed d fuel c) (d.alloc data).2 (wE (d.alloc data).1 e) cs >>=
            fun d' => Except.ok (d', (d.alloc data).2)) = _
      rw [cloneKidsWith_wE e (fun d c => Dom.cloneFixed d fuel c) (fun d c => ih d c)]
      cases Dom.cloneKidsWith (fun d c => Dom.cloneFixed d fuel c) (d.alloc data).2 (d.alloc data).1 cs <;> rfl
    simp only [Dom.cloneFixed, bind, Except.bind, get_wE]
    cases d.get x with
    | error x => rfl
    | ok n =>
      simp only
      cases n.data with
      | element name attrs tc ip =>
        cases tc with
        | none => exact tail d _ _
        | some tc =>
          simp only [ih]
          cases Dom.cloneFixed d fuel tc with
          | error x => rfl
          | ok r =>
            obtain ⟨d1, tc'⟩ := r
            exact tail d1 _ _
      | document | doctype _ _ _ | comment _ | text _ | pi _ _ => exact tail d _ _

theorem clearParents_wE (e : List Str) : ∀ (cs : List Id) (d : Dom),
    Dom.clearParents (wE d e) cs = wE (Dom.clearParents d cs) e := by
  intro cs
  induction cs with
  | nil => intro d; rfl
  | cons c cs ih =>
    intro d
    simp only [Dom.clearParents, nodes_wE]
    cases d.nodes[c]? with
    | none => exact ih d
    | some cn => simp only [setNode_wE]; exact ih _

theorem detachChildren_wE (d : Dom) (e : List Str) (p : Id) :
    (wE d e).detachChildren p = mE e (d.detachChildren p) := by
  unfold Dom.detachChildren
  simp only [bind, Except.bind, get_wE, clearParents_wE, setNode_wE]
  repeat' split
  all_goals rfl

theorem attachAll_wE (e : List Str) (p : Id) : ∀ (ks : List Id) (d : Dom),
    Dom.attachAll (wE d e) p ks = mE e (Dom.attachAll d p ks) := by
  intro ks
  induction ks with
  | nil => intro d; rfl
  | cons k ks ih =>
    intro d
    simp only [Dom.attachAll]
    rw [appendRaw_wE]
    exact mE_bind _ ih

theorem cloneOptionInto_wE (d : Dom) (e : List Str) (o sc : Id) :
    Dom.cloneOptionInto .fixed (wE d e) o sc = mE e (Dom.cloneOptionInto .fixed d o sc) := by
  unfold Dom.cloneOptionInto
  simp only [bind, Except.bind, get_wE]
  cases d.get o with
  | error x => rfl
  | ok on =>
    simp only
    rw [cloneListWith_wE e _ (fun d c => cloneFixed_wE e (d.size + 1) d c)]
    cases Dom.cloneListWith (fun d c => Dom.cloneFixed d (d.size + 1) c) d on.children with
    | error x => rfl
    | ok r =>
      obtain ⟨d1, frag⟩ := r
      simp only [mP_ok, detachChildren_wE]
      cases d1.detachChildren sc with
      | error x => rfl
      | ok d2 => exact attachAll_wE e sc frag d2

theorem maybeCloneOption_wE (d : Dom) (e : List Str) (o : Id) :
    Dom.maybeCloneOption .fixed (wE d e) o = mE e (Dom.maybeCloneOption .fixed d o) := by
  unfold Dom.maybeCloneOption
  simp only [bind, Except.bind, cloneTarget_wE]
  repeat' split
  all_goals first | rfl | exact cloneOptionInto_wE d e o _


/-- a sink call that runs an operation on the DOM and answers `unit` -/
theorem unit_wE {r r' : Except String Dom} {e : List Str} (h : r' = mE e r) :
    (r' >>= fun d1 => Except.ok (d1, Output.unit)) =
      match r >>= fun d1 => Except.ok (d1, Output.unit) with
      | .ok (d', o) => .ok (wE d' e, o)
      | .error x => .error x := by
  subst h; cases r <;> rfl

/-- a sink call that only asks -/
theorem query_wE {α : Type} {q : Except String α} {d : Dom} {e : List Str} (out : α → Output) :
    (q >>= fun a => Except.ok (wE d e, out a)) =
      match q >>= fun a => Except.ok (d, out a) with
      | .ok (d', o) => .ok (wE d' e, o)
      | .error x => .error x := by
  cases q <;> rfl

theorem apply_wE (d : Dom) (e : List Str) (op : SinkOp) :
    Dom.apply (wE d e) op =
      match Dom.apply d op with
      | .ok (d', o) => .ok (wE d' (errUpd op e), o)
      | .error x => .error x := by
  cases op with
  | elemName t => exact query_wE (fun (r : Str × Str) => .name r.1 r.2)
  | getTemplateContents t => exact query_wE .node
  | isMathmlAnnotationXmlIntegrationPoint t => exact query_wE .bool
  | createElement name attrs flags => unfold Dom.apply; simp only [Dom.applyV, createElement_wE]; rfl
  | append p c => exact unit_wE (append_wE d e p c)
  | appendBasedOnParentNode el p c => exact unit_wE (appendBasedOnParentNodeV_wE _ d e el p c)
  | appendDoctypeToDocument n p s => exact unit_wE (appendDoctypeToDocument_wE d e n p s)
  | appendBeforeSibling s c => exact unit_wE (appendBeforeSiblingV_wE _ d e s c)
  | addAttrsIfMissing t a => exact unit_wE (addAttrsIfMissing_wE d e t a)
  | removeFromParent t => exact unit_wE (removeFromParent_wE d e t)
  | reparentChildren n np => exact unit_wE (reparentChildren_wE d e n np)
  | maybeCloneAnOptionIntoSelectedcontent o => exact unit_wE (maybeCloneOption_wE d e o)
  | _ => rfl

/-! ### group C: queries are stable under text insertion -/

/-- equal results, or both fail (the message is ignored) -/
def RelE {α : Type} (a b : Except String α) : Prop :=
  match a, b with
  | .ok x, .ok y => x = y
  | .error _, .error _ => True
  | _, _ => False

theorem RelE.refl {α : Type} (a : Except String α) : RelE a a := by
  cases a <;> simp [RelE]

theorem RelE.symm {α : Type} {a b : Except String α} (h : RelE a b) : RelE b a := by
  cases a <;> cases b <;> simp_all [RelE]

theorem RelE.trans {α : Type} {a b c : Except String α} (h1 : RelE a b) (h2 : RelE b c) : RelE a c := by
  cases a <;> cases b <;> cases c <;> simp_all [RelE]

theorem RelE.of_eq {α : Type} {a b : Except String α} (h : a = b) : RelE a b := h ▸ RelE.refl a

def isTextIns : SinkOp → Bool
  | .append _ (.text _) => true
  | .appendBeforeSibling _ (.text _) => true
  | .appendBasedOnParentNode _ _ (.text _) => true
  | _ => false

theorem apply_append_ok {d d' : Dom} {p : Id} {c : NodeOrText} {o : Output}
    (h : Dom.apply d (.append p c) = .ok (d', o)) : d.append p c = .ok d' := by
  rw [apply_append] at h
  cases h1 : d.append p c with
  | error x => rw [h1] at h; cases h
  | ok d1 => rw [h1] at h; cases h; rfl

theorem apply_abs_text_ok {d d' : Dom} {s : Id} {z : Str} {o : Output}
    (h : Dom.apply d (.appendBeforeSibling s (.text z)) = .ok (d', o)) :
    d.appendBeforeSibling s (.text z) = .ok d' := by
  rw [apply_abs_text] at h
  cases h1 : d.appendBeforeSibling s (.text z) with
  | error x => rw [h1] at h; cases h
  | ok d1 => rw [h1] at h; cases h; rfl

theorem apply_abpn_text_ok {d d' : Dom} {e p : Id} {z : Str} {o : Output}
    (h : Dom.apply d (.appendBasedOnParentNode e p (.text z)) = .ok (d', o)) :
    d.appendBeforeSibling e (.text z) = .ok d' ∨ d.append p (.text z) = .ok d' := by
  rw [apply_abpn_text] at h
  cases h0 : d.get e with
  | error x => rw [h0] at h; cases h
  | ok en =>
    rw [h0] at h
    change ((if en.parent.isSome then d.appendBeforeSibling e (.text z) else d.append p (.text z)) >>=
          fun d' => Except.ok (d', Output.unit)) = _ at h
    cases hpar : en.parent.isSome with
    | true =>
      rw [hpar] at h
      simp only [if_true] at h
      cases h1 : d.appendBeforeSibling e (.text z) with
      | error x => rw [h1] at h; cases h
      | ok d1 => rw [h1] at h; cases h; exact Or.inl rfl
    | false =>
      rw [hpar] at h
      simp only [Bool.false_eq_true, if_false] at h
      cases h1 : d.append p (.text z) with
      | error x => rw [h1] at h; cases h
      | ok d1 => rw [h1] at h; cases h; exact Or.inr rfl

theorem textIns_textStep {d d' : Dom} {op : SinkOp} {o : Output} (hop : isTextIns op = true)
    (h : Dom.apply d op = .ok (d', o)) : TextStep d d' := by
  cases op with
  | append p c =>
    cases c with
    | text s => exact append_textStep (apply_append_ok h)
    | node c => cases hop
  | appendBeforeSibling s c =>
    cases c with
    | text z => exact abs_textStep (apply_abs_text_ok h)
    | node c => cases hop
  | appendBasedOnParentNode e p c =>
    cases c with
    | text z =>
      rcases apply_abpn_text_ok h with h1 | h1
      · exact abs_textStep h1
      · exact append_textStep h1
    | node c => cases hop
  | _ => cases hop

/-- a query that reads the data of one node and fails on text nodes -/
theorem textStep_query {α : Type} {d d' : Dom} (hs : TextStep d d') (f : NodeData → Except String α)
    (hf : ∀ dt, isTextData dt = true → ∃ x, f dt = .error x) (t : Id) :
    RelE (d.get t >>= fun n => f n.data) (d'.get t >>= fun n => f n.data) := by
  cases ht : d.nodes[t]? with
  | none =>
    rw [get_none ht]
    cases ht' : d'.nodes[t]? with
    | none => rw [get_none ht']; exact True.intro
    | some n' =>
      rw [get_some ht']
      obtain ⟨x, hx⟩ := hf _ (hs.2 t n' ht ht')
      show RelE (Except.error _) (f n'.data)
      rw [hx]; exact True.intro
  | some n =>
    obtain ⟨n', ht', _, hd⟩ := hs.1 t n ht
    rw [get_some ht, get_some ht']
    show RelE (f n.data) (f n'.data)
    rcases hd with hd | ⟨h1, h2⟩
    · rw [hd]; exact RelE.refl _
    · obtain ⟨x, hx⟩ := hf _ h1
      obtain ⟨x', hx'⟩ := hf _ h2
      rw [hx, hx']; exact True.intro

def enD : NodeData → Except String (Str × Str)
  | .element n _ _ _ => .ok (n.ns, n.loc)
  | _ => .error "not-element: elem_name"

def tcD : NodeData → Except String Id
  | .element _ _ (some tc) _ => .ok tc
  | .element _ _ none _ => .error "not-template: get_template_contents: expect(\"not a template element!\")"
  | _ => .error "not-template: get_template_contents: panic!(\"not a template element!\")"

def ipD : NodeData → Except String Bool
  | .element _ _ _ ip => .ok ip
  | _ => .error "not-element: is_mathml_annotation_xml_integration_point"

theorem elemName_eq (d : Dom) (t : Id) : d.elemName t = d.get t >>= fun n => enD n.data := by
  unfold Dom.elemName
  simp only [bind, Except.bind]
  cases d.get t with
  | error x => rfl
  | ok n => simp only; cases n.data <;> rfl

theorem getTemplateContents_eq (d : Dom) (t : Id) :
    d.getTemplateContents t = d.get t >>= fun n => tcD n.data := by
  unfold Dom.getTemplateContents
  simp only [bind, Except.bind]
  cases d.get t with
  | error x => rfl
  | ok n =>
    simp only
    cases n.data with
    | element n a tc ip => cases tc <;> rfl
    | document | doctype _ _ _ | comment _ | text _ | pi _ _ => rfl

theorem isMathml_eq (d : Dom) (t : Id) :
    d.isMathmlAnnotationXmlIntegrationPoint t = d.get t >>= fun n => ipD n.data := by
  unfold Dom.isMathmlAnnotationXmlIntegrationPoint
  simp only [bind, Except.bind]
  cases d.get t with
  | error x => rfl
  | ok n => simp only; cases n.data <;> rfl

theorem textStep_queries {d d' : Dom} (hs : TextStep d d') (t : Id) :
    RelE (d.elemName t) (d'.elemName t) ∧ RelE (d.getTemplateContents t) (d'.getTemplateContents t) ∧
    RelE (d.isMathmlAnnotationXmlIntegrationPoint t) (d'.isMathmlAnnotationXmlIntegrationPoint t) := by
  refine ⟨?_, ?_, ?_⟩
  · rw [elemName_eq, elemName_eq]
    refine textStep_query hs enD ?_ t
    intro dt hdt; cases dt <;> first | exact ⟨_, rfl⟩ | cases hdt
  · rw [getTemplateContents_eq, getTemplateContents_eq]
    refine textStep_query hs tcD ?_ t
    intro dt hdt; cases dt <;> first | exact ⟨_, rfl⟩ | cases hdt
  · rw [isMathml_eq, isMathml_eq]
    refine textStep_query hs ipD ?_ t
    intro dt hdt; cases dt <;> first | exact ⟨_, rfl⟩ | cases hdt

theorem textIns_queries {d d' : Dom} {op : SinkOp} {o : Output} (hop : isTextIns op = true)
    (h : Dom.apply d op = .ok (d', o)) (t : Id) :
    RelE (d.elemName t) (d'.elemName t) ∧ RelE (d.getTemplateContents t) (d'.getTemplateContents t) ∧
    RelE (d.isMathmlAnnotationXmlIntegrationPoint t) (d'.isMathmlAnnotationXmlIntegrationPoint t) :=
  textStep_queries (textIns_textStep hop h) t


/-! ### group D: element names survive every sink call -/

/-- the element names of `d` are still there in `d'` -/
def NameKeep (d d' : Dom) : Prop :=
  ∀ (t : Id) (r : Str × Str), d.elemName t = .ok r → d'.elemName t = .ok r

theorem NameKeep.refl (d : Dom) : NameKeep d d := fun _ _ h => h

theorem NameKeep.trans {a b c : Dom} (h1 : NameKeep a b) (h2 : NameKeep b c) : NameKeep a c :=
  fun t r h => h2 t r (h1 t r h)

theorem elemName_ok_inv {d : Dom} {t : Id} {r : Str × Str} (h : d.elemName t = .ok r) :
    ∃ n, d.nodes[t]? = some n ∧ enD n.data = .ok r := by
  rw [elemName_eq] at h
  cases ht : d.nodes[t]? with
  | none => rw [get_none ht] at h; cases h
  | some n => rw [get_some ht] at h; exact ⟨n, rfl, h⟩

theorem elemName_of {d : Dom} {t : Id} {n : Node} (ht : d.nodes[t]? = some n) : d.elemName t = enD n.data := by
  rw [elemName_eq, get_some ht]; rfl

theorem sigOf_of {d : Dom} {t : Id} {n : Node} (ht : d.nodes[t]? = some n) :
    H5V.Lemmas.TBSafe.sigOf d t = H5V.Lemmas.TBSafe.sigData n.data := by
  unfold H5V.Lemmas.TBSafe.sigOf Dom.dataOf
  rw [ht]; rfl

/-- an arena extension (`TBSafe.Ext`: elements keep their signature) keeps the element names -/
theorem nameKeep_of_ext {d d' : Dom} (h : H5V.Lemmas.TBSafe.Ext d d') : NameKeep d d' := by
  intro t r hr
  obtain ⟨n, ht, hn⟩ := elemName_ok_inv hr
  cases hd : n.data with
  | element name attrs tc ip =>
    have hs : H5V.Lemmas.TBSafe.sigOf d' t = some (name, tc, ip) := h t _ (by rw [sigOf_of ht, hd]; rfl)
    cases ht' : d'.nodes[t]? with
    | none =>
      unfold H5V.Lemmas.TBSafe.sigOf Dom.dataOf at hs
      rw [ht'] at hs; cases hs
    | some n' =>
      rw [sigOf_of ht'] at hs
      rw [elemName_of ht', ← hn, hd]
      cases hd' : n'.data with
      | element name' attrs' tc' ip' => rw [hd'] at hs; cases hs; rfl
      | document | doctype _ _ _ | comment _ | text _ | pi _ _ => rw [hd'] at hs; cases hs
  | document | doctype _ _ _ | comment _ | text _ | pi _ _ => rw [hd] at hn; cases hn

theorem alloc_elemName (d : Dom) (name : QualName) (attrs : List Attr) (tc : Option Id) (ip : Bool) :
    (d.alloc (.element name attrs tc ip)).1.elemName (d.alloc (.element name attrs tc ip)).2 =
      .ok (name.ns, name.loc) := by
  have h1 : (d.alloc (.element name attrs tc ip)).1.nodes[d.nodes.size]? =
      some { data := .element name attrs tc ip } := by
    rw [nodes_alloc]; simp
  exact (elemName_of h1).trans rfl

theorem createElement_elemName (d : Dom) (name : QualName) (attrs : List Attr) (flags : ElementFlags) :
    ((d.createElement name attrs flags).1).elemName (d.createElement name attrs flags).2 =
      .ok (name.ns, name.loc) := by
  unfold Dom.createElement
  cases flags.template with
  | true => exact alloc_elemName _ name attrs _ _
  | false => exact alloc_elemName _ name attrs _ _

theorem keepsNames_elemName {d d' : Dom} {op : SinkOp} {o : Output}
    (h : Dom.apply d op = .ok (d', o)) {t : Id} {r : Str × Str} (ht : d.elemName t = .ok r) :
    d'.elemName t = .ok r :=
  nameKeep_of_ext (H5V.Lemmas.TBSafe.apply_ext h) t r ht

end H5V.Lemmas.TBSplitDom

#print axioms H5V.Lemmas.TBSplitDom.apply_wE
#print axioms H5V.Lemmas.TBSplitDom.append_text_merge
#print axioms H5V.Lemmas.TBSplitDom.appendBasedOnParentNode_text_merge
#print axioms H5V.Lemmas.TBSplitDom.appendBeforeSibling_text_merge
#print axioms H5V.Lemmas.TBSplitDom.textIns_queries
#print axioms H5V.Lemmas.TBSplitDom.RelE.refl
#print axioms H5V.Lemmas.TBSplitDom.RelE.symm
#print axioms H5V.Lemmas.TBSplitDom.RelE.trans
#print axioms H5V.Lemmas.TBSplitDom.createElement_elemName
#print axioms H5V.Lemmas.TBSplitDom.keepsNames_elemName
