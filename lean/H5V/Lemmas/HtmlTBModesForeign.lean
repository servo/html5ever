import H5V.Lemmas.HtmlTBModesPrimIns2
import H5V.Lemmas.HtmlTBModesPrimPop
/-!
The rules for parsing tokens in foreign content: the model's `stepForeign` against
`Spec.TreeModes.foreign`.
-/
namespace H5V.Lemmas.HtmlTBModes
open H5V.Model.HtmlTB
open H5V.Model.Dom (Id SinkOp Output Dom QualName Attr NodeOrText ElementFlags NodeData QuirksMode)
open H5V.Lemmas.HtmlTBAlgo
open H5V.Lemmas.HtmlTBSpec (toName)
open H5V.Lemmas.TBSafe (TI HInv SInv Rooted ForeignTop textTok)
open H5V.Spec.TreeAlgo2 (Elem Entry PState Ctx Edit Place)
open H5V.Spec.TreeModes (STok ETok IMode Config Out TokSwitch XOp Op Step Edition ForeignEnd)

/-! ### small facts -/

theorem insertChar_errF (σ : SState) (w : String) (c : Char) :
    Spec.TreeModes.insertChar (σ.err w) c = (fun σ' : SState => σ'.err w) <$> Spec.TreeModes.insertChar σ c := by
  simp only [Spec.TreeModes.insertChar, Spec.TreeModes.State.err]
  cases Spec.TreeAlgo2.insertCharacters σ.p [c] <;> rfl

/-! ### transports -/

theorem pcF_with_run {α : Type} {m : M α} {s : State} {Q : α → State → List Call → Prop} (h : PC m s Q) :
    PC m s (fun a s' c => Q a s' c ∧ m.run s = .ok (a, s')) := pc_with_run h

/-- a rule run after a stretch -/
theorem TokPost.after_trF {spec spec2 : SState → Spec.TreeModes.M (Step Id)} {s s1 s' : State} {tok : Token}
    {res : ProcessResult} {c1 c2 : List Call} {R : Aux → Aux → Prop} (htr : Tr s s1 c1 R)
    (he2 : TBSafe.Ext s1.dom s'.dom) (h : TokPost spec2 s1 tok res s' c2)
    (hspec : ∀ x x1, AuxOk s x → AuxOk s1 x1 → R x x1 → spec (absF s x) = spec2 (absF s1 x1)) :
    TokPost spec s tok res s' (c1 ++ c2) := by
  obtain ⟨hm1, hc1, he1, ids1, hfi1, f1⟩ := htr
  obtain ⟨hres, hminv, hcfg, ids2, hfi2, f2⟩ := h
  refine ⟨hres, hminv, hcfg.trans hc1, ids1 ++ ids2, hfi1.append (hfi2.of_dom he1), fun x rest hx hsup => ?_⟩
  obtain ⟨x1, l1, r1⟩ := f1 x (ids2 ++ rest) hx (by rw [hsup, List.append_assoc])
  obtain ⟨x', ops, e, p1, p2, p3, p4, p5, p6, p7⟩ := f2 x1 rest l1.aux l1.supply
  obtain ⟨ops1, e1, k1⟩ := l1.log
  refine ⟨x', ops1 ++ ops, (hspec x x1 hx l1.aux r1).trans e, p1, p2, p3, outRel_congr l1.switch l1.script p4,
    p5.trans l1.outs, ?_, ?_⟩
  · rw [p6, e1, List.append_assoc]
  · intro tc htc
    rw [edits2_append, flatCalls_append, List.map_append, flatCalls_append, k1 tc (tcOk_of_ext htc he2), p7 tc htc]

/-- the specification reports parse errors before the rule: they go into the initial `Aux` -/
theorem TokPost.pre_errF {spec spec' : SState → Spec.TreeModes.M (Step Id)} {s s' : State} {tok : Token}
    {res : ProcessResult} {calls : List Call} (h : TokPost spec s tok res s' calls) (E : Aux → List String)
    (he : ∀ x, AuxOk s x → ∀ x', spec (absF s { x with errors := E x }) = .ok (stepOf res s' x') →
      spec' (absF s x) = .ok (stepOf res s' x')) :
    TokPost spec' s tok res s' calls := by
  obtain ⟨h1, h2, h3, ids, hfi, f⟩ := h
  refine ⟨h1, h2, h3, ids, hfi, fun x rest hx hs => ?_⟩
  obtain ⟨x', ops, e, r1, r2, r3, r4, r5, r6, r7⟩ :=
    f { x with errors := E x } rest ⟨hx.live, hx.annot, hx.annotEl, hx.xlog⟩ hs
  exact ⟨x', ops, he x hx x' e, r1, r2, r3, r4, r5, r6, r7⟩

/-! ### the loop of `unexpected_start_tag_in_foreign_content` -/

/-- the integration-point flag of the sink is set for MathML `annotation-xml` elements only (the tree
builder creates every element of the stack with `flagsFor`) -/
def IpNamed (s : State) : Prop :=
  ∀ h ∈ s.openElems, (nameOf s.dom h).ns ≠ nsHtml → ipOfDom s.dom h = true → nameOf s.dom h = annotName

/-- the value of the test for the current node `h` -/
def ipStopV (d : Dom) (h : Id) : Bool :=
  ((nameOf d h).ns == nsHtml || mathmlTextIntegrationPoint (nameOf d h) || svgHtmlIntegrationPoint (nameOf d h))
    || ipOfDom d h

theorem pc_isMathmlIP {s : State} {h : Id} (hel : s.dom.isElement h = true) :
    PC (sinkBool (.isMathmlAnnotationXmlIntegrationPoint h)) s (QueryQ s (ipOfDom s.dom h)) := by
  unfold sinkBool
  refine pc_bind (pc_sink ?_)
  intro d' out ha
  have h1 : s.dom.apply (.isMathmlAnnotationXmlIntegrationPoint h) = .ok (s.dom, .bool (ipOfDom s.dom h)) := by
    simp [Dom.apply, Dom.applyV, ip_of_isElement hel, bind, Except.bind]
  rw [h1] at ha
  cases ha
  exact pc_pure ⟨rfl, SameTB.afterCall .., rfl⟩

theorem dropWhile_congrF {α : Type} {p q : α → Bool} : ∀ {l : List α}, (∀ a ∈ l, p a = q a) → l.dropWhile p = l.dropWhile q
  | [], _ => rfl
  | a :: l, h => by
    simp only [List.dropWhile_cons, h a (by simp)]
    rw [dropWhile_congrF (fun b hb => h b (by simp [hb]))]

theorem mem_takeWhileF {α : Type} {p : α → Bool} : ∀ {l : List α} {a : α}, a ∈ l.takeWhile p → p a = true
  | [], _, h => by cases h
  | b :: l, a, h => by
    by_cases hb : p b = true
    · rw [List.takeWhile_cons, if_pos hb] at h
      rcases List.mem_cons.mp h with rfl | h
      · exact hb
      · exact mem_takeWhileF h
    · rw [List.takeWhile_cons, if_neg hb] at h; cases h

theorem ipStopV_ext {d d' : Dom} (he : TBSafe.Ext d d') {h : Id} (hi : d.isElement h = true) :
    ipStopV d' h = ipStopV d h := by
  unfold ipStopV
  rw [nameOf_ext he hi, ipOfDom_ext he hi]

/-- the `while` loop pops down to the last element for which the test holds -/
theorem pc_popToIP : ∀ (fuel : Nat) (s : State), MInv s → PC (popToIntegrationPointLoop fuel) s (fun _ s' calls =>
    StackOnly s s' ∧ edits calls = [] ∧
      s'.openElems = (s.openElems.reverse.dropWhile (fun h => !ipStopV s.dom h)).reverse) := by
  intro fuel
  induction fuel with
  | zero => intro s _; unfold popToIntegrationPointLoop; exact pc_fuelOut
  | succ fuel ih =>
    intro s hm
    unfold popToIntegrationPointLoop
    cases hl : s.openElems.getLast? with
    | none => unfold currentNodeIn; exact pc_bind (pc_bind (pc_currentNode_empty hl))
    | some h0 =>
      obtain ⟨l, hl'⟩ : ∃ l', s.openElems = l' ++ [h0] := List.getLast?_eq_some_iff.mp hl
      have hrev : s.openElems.reverse = h0 :: l.reverse := by rw [hl']; simp
      have hel0 : s.dom.isElement h0 = true := hm.elems h0 (List.mem_of_getLast? hl)
      refine pc_query_bind (PC.of_tot (pop_tot_currentNodeIn hl _)) ?_
      intro s1 c1 he1 hs1 hc1
      have hl1 : s1.openElems.getLast? = some h0 := by rw [hs1.openElems]; exact hl
      have hm1 : MInv s1 := hm.sameTB hs1 he1.ext
      -- the continuation
      have hjp : ∀ (stop : Bool) (s2 : State) (c2 : List Call), stop = ipStopV s.dom h0 → SameTB s s2 → Ext2 s c2 s2 →
          edits c2 = [] →
          PC (if stop = true then pure () else do let _ ← pop; popToIntegrationPointLoop fuel) s2 (fun _ s' c3 =>
            StackOnly s s' ∧ edits (c2 ++ c3) = [] ∧
              s'.openElems = (s.openElems.reverse.dropWhile (fun h => !ipStopV s.dom h)).reverse) := by
        intro stop s2 c2 hstop hs2 he2 hc2
        by_cases hv : stop = true
        · rw [if_pos hv]
          refine pc_pure ⟨StackOnly.of_sameTB hs2, by simpa using hc2, ?_⟩
          rw [hs2.openElems, hrev, List.dropWhile_cons]
          rw [← hstop, hv]
          simp [hl']
        · rw [if_neg hv]
          have hl2 : s2.openElems.getLast? = some h0 := by rw [hs2.openElems]; exact hl
          have hm2 : MInv s2 := hm.sameTB hs2 he2.ext
          refine pc_seq (PC.of_tot (pop_tot_pop hl2)) ?_
          rintro _ s3 c3 he3 ⟨-, hso3, ho3, hc3⟩
          have ho3' : s3.openElems = l := by rw [ho3, hs2.openElems, hl']; simp
          have hex3 := he2.ext.trans he3.ext
          have hm3 : MInv s3 := by
            refine hm2.of_shrink (SameButSL.of_stackOnly hso3) he3.ext ?_ ?_ ?_
            · intro h hh; rw [ho3] at hh; exact (List.dropLast_prefix _).subset hh
            · intro a ha; exact head?_of_prefix (ho3 ▸ List.dropLast_prefix _) a ha
            · intro e he; rw [hso3.activeFormatting] at he; exact he
          refine pc_conseq (ih s3 hm3) ?_
          rintro _ s4 c4 he4 ⟨hso4, hc4, ho4⟩
          refine ⟨((StackOnly.of_sameTB hs2).trans hso3).trans hso4, by simp [edits_append, hc2, hc3, hc4], ?_⟩
          rw [ho4, ho3', hrev, List.dropWhile_cons]
          have : (!ipStopV s.dom h0) = true := by rw [← hstop]; simpa using hv
          rw [if_pos this]
          congr 1
          apply dropWhile_congrF
          intro a ha
          have hal : a ∈ s.openElems := by rw [hl']; simp at ha; simp [ha]
          rw [ipStopV_ext hex3 (hm.elems a hal)]
      by_cases hv : ((nameOf s.dom h0).ns == nsHtml || mathmlTextIntegrationPoint (nameOf s.dom h0) ||
          svgHtmlIntegrationPoint (nameOf s.dom h0)) = true
      · simp only [hv, if_true]
        refine pc_bind (pc_pure ?_)
        refine pc_conseq (hjp true s1 c1 (by unfold ipStopV; rw [hv]; rfl) hs1 he1 hc1) ?_
        rintro _ s' c3 _ h; simpa using h
      · simp only [hv, Bool.false_eq_true, if_false]
        refine pc_query_bind (PC.of_tot (pop_tot_currentNode hl1)) ?_
        intro s2 c2 he2 hs2 hc2
        have hel2 : s2.dom.isElement h0 = true := isElement_ext (he1.ext.trans he2.ext) hel0
        refine pc_query_bind (pc_isMathmlIP hel2) ?_
        intro s3 c3 he3 hs3 hc3
        have hval : ipOfDom s2.dom h0 = ipStopV s.dom h0 := by
          unfold ipStopV
          rw [ipOfDom_ext (he1.ext.trans he2.ext) hel0]
          have : ((nameOf s.dom h0).ns == nsHtml || mathmlTextIntegrationPoint (nameOf s.dom h0) ||
            svgHtmlIntegrationPoint (nameOf s.dom h0)) = false := by simpa using hv
          rw [this, Bool.false_or]
        refine pc_conseq (hjp _ s3 (c1 ++ (c2 ++ c3)) hval ((hs1.trans hs2).trans hs3) (he1.trans (he2.trans he3))
          (by simp [edits_append, hc1, hc2, hc3])) ?_
        rintro _ s' c4 _ ⟨h1, h2, h3⟩
        exact ⟨h1, by simpa [List.append_assoc] using h2, h3⟩

/-! ### "pop elements until the current node is an integration point or an HTML element" -/

/-- the state after the pops of `foreignBreakOut` -/
def brkF (σ : SState) : SState :=
  σ.setStack (σ.p.stack.reverse.dropWhile fun e => !Spec.TreeModes.stopsBreakOut σ e).reverse

theorem foreignBreakOut_eqF (σ : SState) :
    Spec.TreeModes.foreignBreakOut σ = .reprocessHtml (brkF (σ.err "foreign content: HTML tag breaks out")) := rfl

theorem brkF_err (σ : SState) (w : String) : brkF (σ.err w) = (brkF σ).err w := rfl

/-- the model's test is the specification's -/
theorem stops_eqF {s : State} {x : Aux} (hx : AuxOk s x) (hip : IpNamed s) {h : Id} (hh : h ∈ s.openElems) :
    Spec.TreeModes.stopsBreakOut (absF s x) (elemOf s.dom h) = ipStopV s.dom h := by
  have e1 : Spec.TreeModes.stopsBreakOut (absF s x) (elemOf s.dom h)
      = (mathmlTextIntegrationPoint (nameOf s.dom h) ||
          (((nameOf s.dom h).ns == nsMathml && (nameOf s.dom h).loc == "annotation-xml".toList && x.annot.contains h) ||
            svgHtmlIntegrationPoint (nameOf s.dom h)) || (nameOf s.dom h).ns == nsHtml) := rfl
  rw [e1]
  unfold ipStopV
  by_cases hn : nameOf s.dom h = annotName
  · rw [hx.annot h hh hn, hn]
    generalize ipOfDom s.dom h = b
    revert b
    decide +kernel
  · have hname : ((nameOf s.dom h).ns == nsMathml && (nameOf s.dom h).loc == "annotation-xml".toList) = false := by
      cases h1 : (nameOf s.dom h).ns == nsMathml
      · rfl
      · cases h2 : (nameOf s.dom h).loc == "annotation-xml".toList
        · rfl
        · exfalso; apply hn
          rw [beq_iff_eq] at h1 h2
          cases hnm : nameOf s.dom h with
          | mk ns loc => rw [hnm] at h1 h2; simp only at h1 h2; subst h1 h2; rfl
    rw [hname, Bool.false_and, Bool.false_or]
    cases hhtml : (nameOf s.dom h).ns == nsHtml
    · have hns : (nameOf s.dom h).ns ≠ nsHtml := by
        intro e; rw [e] at hhtml; simp at hhtml
      have hipf : ipOfDom s.dom h = false := by
        cases hb : ipOfDom s.dom h
        · rfl
        · exact absurd (hip h hh hns hb) hn
      rw [hipf]
      cases mathmlTextIntegrationPoint (nameOf s.dom h) <;> cases svgHtmlIntegrationPoint (nameOf s.dom h) <;> rfl
    · cases mathmlTextIntegrationPoint (nameOf s.dom h) <;> cases svgHtmlIntegrationPoint (nameOf s.dom h) <;> rfl

theorem brkF_stack {s : State} {x : Aux} (hx : AuxOk s x) (hip : IpNamed s) :
    (brkF (absF s x)).p.stack
      = absStack s.dom (s.openElems.reverse.dropWhile (fun h => !ipStopV s.dom h)).reverse := by
  show ((absF s x).p.stack.reverse.dropWhile fun e => !Spec.TreeModes.stopsBreakOut (absF s x) e).reverse = _
  rw [absF_stack hx]
  unfold absStack
  rw [← List.map_reverse, List.dropWhile_map, List.map_reverse]
  congr 2
  apply dropWhile_congrF
  intro a ha
  simp only [Function.comp]
  rw [stops_eqF hx hip (by simpa using ha)]

/-- the stretch of the `while` loop -/
theorem tr_popToIP {s s' : State} {calls : List Call} (hm : MInv s) (hip : IpNamed s) (he : Ext2 s calls s')
    (hso : StackOnly s s') (hc : edits calls = [])
    (ho : s'.openElems = (s.openElems.reverse.dropWhile (fun h => !ipStopV s.dom h)).reverse) :
    Tr s s' calls (fun x x' => x' = x ∧ absF s' x = brkF (absF s x)) := by
  refine (Tr.of_prefix hm hso (ho ▸ pop_prefix_dropWhile _ _) he hc).conseq ?_
  rintro x x' hx _ ⟨rfl, e⟩
  refine ⟨rfl, ?_⟩
  rw [e, ho, ← brkF_stack hx hip]
  rfl

theorem IpNamed.of_same {s s' : State} (h : IpNamed s) (hm : MInv s) (hs : SameTB s s') (he : TBSafe.Ext s.dom s'.dom) :
    IpNamed s' := by
  intro a ha
  rw [hs.openElems] at ha
  rw [nameOf_ext he (hm.elems a ha), ipOfDom_ext he (hm.elems a ha)]
  exact h a ha

theorem pc_unexpectedQ (s : State) :
    PC unexpected s (fun r s' calls => r = .done ∧ SameTB s s' ∧ edits calls = []) := by
  unfold unexpected
  refine pc_seq (PC.of_tot (tot_parseError s _)) ?_
  rintro _ s1 c1 he ⟨-, hs, hc⟩
  exact pc_pure ⟨rfl, hs, by simpa using hc⟩

theorem bodyLike_preRoot {m : Mode} (hbl : TBSafe.bodyLike m = true) : TBSafe.preRoot m = false := by
  cases m <;> simp [TBSafe.bodyLike, TBSafe.preRoot] at hbl ⊢

/-- the invariant of C04 after the stack was cut down to a prefix that keeps every HTML element -/
theorem ti_of_cut {s s' : State} (ht : TI s) (hbl : TBSafe.bodyLike s.mode = true) (hso : StackOnly s s')
    (he : TBSafe.Ext s.dom s'.dom) {post : List Id} (heq : s.openElems = s'.openElems ++ post)
    (hne : s'.openElems ≠ []) (hpost : ∀ y ∈ post, (nameOf s.dom y).ns ≠ nsHtml) : TI s' := by
  have hfr : TBSafe.Fr s s' := by
    unfold StackOnly at hso
    refine ⟨?_, ?_, ?_, ?_, ?_, ?_, ?_, ?_, ?_, he⟩ <;> rw [hso]
  have st : TBSafe.St s s' s'.openElems := ⟨hfr, rfl, hso.activeFormatting⟩
  have hr := ht.rooted (bodyLike_preRoot hbl)
  have hb : TBSafe.BStep s s' := TBSafe.BStep.of_st ht.h hr heq hne st
  have hk : TBSafe.Keeps (fun n => n.ns == nsHtml) s s' :=
    TBSafe.Keeps.of_pops heq rfl (fun y hy => by
      have := hpost y hy
      rw [nm_eq_nameOf]
      simpa using this)
  exact ⟨hb.hinv, by rw [hb.mode]; exact ht.s.of_bstep ht.h hb hbl (TBSafe.Keeps.of_html hk)⟩

theorem ipStopV_html {d : Dom} {h : Id} (hn : (nameOf d h).ns = nsHtml) : ipStopV d h = true := by
  unfold ipStopV; rw [hn]; rfl

theorem ipStopV_false {d : Dom} {h : Id} (hv : ipStopV d h = false) : (nameOf d h).ns ≠ nsHtml := by
  intro hn; rw [ipStopV_html hn] at hv; cases hv

/-- **the break-out start tags, `</br>`, `</p>`**: parse error, pop down to an integration point or an
HTML element, process the token by the rules of the insertion mode -/
theorem pc_breakOut (hall : ∀ m, ModeSim m) {t : Tag} (hwf : TagWf t) {s : State} (ht : TI s) (hm : MInv s)
    (hbl : TBSafe.bodyLike s.mode = true) (hip : IpNamed s) :
    PC (unexpectedStartTagInForeignContent t) s (TokPost (fun σ =>
      byModeDev (cfgOf s) (brkF (σ.err "foreign content: HTML tag breaks out")) (stokOf (.tag t))) s (.tag t)) := by
  unfold unexpectedStartTagInForeignContent
  refine pc_seq (pc_unexpectedQ s) ?_
  rintro _ s1 c1 he1 ⟨-, hs1, hc1⟩
  have ht1 : TI s1 := ht.of_qf (qf_of_same hs1 he1)
  have hm1 : MInv s1 := hm.sameTB hs1 he1.ext
  have hbl1 : TBSafe.bodyLike s1.mode = true := by rw [hs1.fields.mode]; exact hbl
  have hip1 : IpNamed s1 := hip.of_same hm hs1 he1.ext
  refine pc_getS_bind ?_
  refine pc_seq (pc_popToIP _ s1 hm1) ?_
  rintro _ s2 c2 he2 ⟨hso2, hc2, ho2⟩
  -- the invariant after the pops
  have hsplit : s1.openElems = s2.openElems ++ (s1.openElems.reverse.takeWhile (fun h => !ipStopV s1.dom h)).reverse := by
    rw [ho2, ← List.reverse_append, List.takeWhile_append_dropWhile, List.reverse_reverse]
  have hpost : ∀ y ∈ (s1.openElems.reverse.takeWhile (fun h => !ipStopV s1.dom h)).reverse, (nameOf s1.dom y).ns ≠ nsHtml := by
    intro y hy
    have := mem_takeWhileF (List.mem_reverse.mp hy)
    exact ipStopV_false (by simpa using this)
  have hne2 : s2.openElems ≠ [] := by
    intro hnil
    obtain ⟨r, rest, hl, hn⟩ := ht1.rooted (bodyLike_preRoot hbl1)
    have hr : r ∈ (s1.openElems.reverse.takeWhile (fun h => !ipStopV s1.dom h)).reverse := by
      have : r ∈ s1.openElems := by rw [hl]; simp
      rw [hsplit, hnil] at this
      simpa using this
    refine hpost r hr ?_
    rw [← nm_eq_nameOf, hn]; rfl
  have ht2 : TI s2 := ti_of_cut ht1 hbl1 hso2 he2.ext hsplit hne2 hpost
  have hmode2 : s2.mode = s1.mode := (SameButSL.of_stackOnly hso2).mode
  refine pc_getS_bind ?_
  have hm2 : MInv s2 := (tr_popToIP hm1 hip1 he2 hso2 hc2 ho2).1
  have hstep := hall s2.mode (.tag t) rfl hwf s2 ht2 hm2 rfl
    (fun h => absurd h (TBSafe.bodyLike_ne_text (by rw [hmode2]; exact hbl1)))
  refine pc_conseq hstep ?_
  intro res s' c3 he3 hpost3
  have htr : Tr s s2 (c1 ++ c2) (fun x x2 => x2 = { x with errors := x.errors ++ ["foreign content: HTML tag breaks out"] } ∧
      absF s2 x2 = brkF ((absF s x).err "foreign content: HTML tag breaks out")) := by
    have h1 := Tr.of_same hm hs1 he1 (by rw [← edits2_edits, hc1]; rfl)
    have h2 := tr_popToIP hm1 hip1 he2 hso2 hc2 ho2
    refine (h1.trans h2).reaux (fun x x2 => { x2 with errors := x.errors ++ ["foreign content: HTML tag breaks out"] })
      (fun _ _ => ⟨⟨rfl, rfl, rfl, rfl, rfl⟩, rfl, rfl, rfl⟩) ?_
    rintro x x2 hx hx2 ⟨x1, ⟨e1, r1⟩, e2, r2⟩
    subst e1; subst e2
    refine ⟨rfl, ?_⟩
    rw [absF_errors, r2, ← r1]
    rfl
  rw [← List.append_assoc]
  refine TokPost.after_trF htr he3.ext hpost3 ?_
  rintro x x2 hx hx2 ⟨-, r⟩
  rw [r, htr.2.1]

/-! ### "any other end tag" -/

/-- html5ever's walk down the stack; `l`: the entries still to visit, the entry under inspection first;
`first`: it is the current node -/
def endWalkF (name : Str) : List (Elem Id) → Nat → Bool → ForeignEnd
  | [], _, _ => .ret
  | [node], _, first => if !first && node.name.ns == nsHtml then .html else .ret
  | node :: prev :: rest, k, first =>
    if !first && node.name.ns == nsHtml then .html
    else if node.name.loc.map Spec.TreeAlgo.lower == name then .popThrough k
    else endWalkF name (prev :: rest) (k + 1) false

/-- what the model's loop does for an outcome of the walk -/
def EndPost (t : Tag) (s : State) : ForeignEnd → ProcessResult → State → List Call → Prop
  | .ret, res, s', calls => res = .done ∧ SameTB s s' ∧ edits calls = []
  | .popThrough k, res, s', calls => res = .done ∧ StackOnly s s' ∧ edits calls = [] ∧
      s'.openElems = s.openElems.take (s.openElems.length - (k + 1))
  | .html, res, s', calls => TokPost (fun σ => Spec.TreeModes.byMode (cfgOf s) σ (.endTag (specTag t))) s (.tag t) res s' calls

theorem EndPost.after_query {t : Tag} {s s1 s' : State} {r : ForeignEnd} {res : ProcessResult} {c1 c2 : List Call}
    (hm : MInv s) (hs : SameTB s s1) (he : Ext2 s c1 s1) (hc : edits c1 = []) (he2 : TBSafe.Ext s1.dom s'.dom)
    (h : EndPost t s1 r res s' c2) : EndPost t s r res s' (c1 ++ c2) := by
  cases r with
  | ret =>
    obtain ⟨h1, h2, h3⟩ := h
    exact ⟨h1, hs.trans h2, by simp [edits_append, hc, h3]⟩
  | popThrough k =>
    obtain ⟨h1, h2, h3, h4⟩ := h
    refine ⟨h1, (StackOnly.of_sameTB hs).trans h2, by simp [edits_append, hc, h3], ?_⟩
    rw [h4, hs.openElems]
  | html =>
    have htr := Tr.of_same hm hs he (by rw [← edits2_edits, hc]; rfl)
    have h' : TokPost (fun σ => Spec.TreeModes.byMode (cfgOf s1) σ (.endTag (specTag t))) s1 (.tag t) res s' c2 := h
    show TokPost (fun σ => Spec.TreeModes.byMode (cfgOf s) σ (.endTag (specTag t))) s (.tag t) res s' (c1 ++ c2)
    refine TokPost.after_trF htr he2 h' ?_
    rintro x x1 hx hx1 ⟨e1, r1⟩
    subst e1
    rw [r1, htr.2.1]

theorem eqIgnore_lowerF {a b : Str} (hb : ∀ c ∈ b, ¬ ('A' ≤ c ∧ c ≤ 'Z')) :
    eqIgnoreAsciiCase a b = (a.map Spec.TreeAlgo.lower == b) := by
  unfold eqIgnoreAsciiCase
  have : b.map asciiLower = b := by
    rw [List.map_congr_left (g := id)]
    · simp
    · intro c hc; unfold asciiLower; rw [if_neg (hb c hc)]; rfl
  rw [this]
  rfl

theorem take_succ_reverseF {α : Type} (l : List α) (n : Nat) (h : n < l.length) :
    (l.take (n + 1)).reverse = l[n] :: (l.take n).reverse := by
  rw [List.take_add_one, List.getElem?_eq_getElem h]
  simp

theorem byModeDev_endF (cfg : Config Id) (σ : SState) (t : STag) :
    byModeDev cfg σ (.endTag t) = Spec.TreeModes.byMode cfg σ (.endTag t) :=
  byModeDev_eq cfg σ _ (by simp [isStartTag])

/-- **the loop of "any other end tag"** -/
theorem pc_foreignEndTagLoop (hall : ∀ m, ModeSim m) {t : Tag} (hwf : TagWf t) (hk : t.kind = .endTag) :
    ∀ (n : Nat) (first : Bool) (s : State), TI s → MInv s → TBSafe.bodyLike s.mode = true → n < s.openElems.length →
      PC (foreignEndTagLoop t n first) s (EndPost t s
        (endWalkF t.name ((absStack s.dom s.openElems).take (n + 1)).reverse (s.openElems.length - 1 - n) first)) := by
  intro n
  induction n with
  | zero =>
    intro first s ht hm hbl hlt
    have hlen : (absStack s.dom s.openElems).length = s.openElems.length := by simp [absStack]
    have hget : s.openElems[0]? = some s.openElems[0] := List.getElem?_eq_getElem hlt
    have hshape : ((absStack s.dom s.openElems).take (0 + 1)).reverse = [elemOf s.dom s.openElems[0]] := by
      rw [take_succ_reverseF _ _ (by rw [hlen]; exact hlt)]
      simp [absStack]
    rw [hshape]
    unfold foreignEndTagLoop
    refine pc_getS_bind ?_
    rw [hget]
    dsimp only
    refine pc_bind (pc_pure ?_)
    refine pc_query_bind (PC.of_tot (tot_elemName' s _)) ?_
    intro s1 c1 he1 hs1 hc1
    have ht1 : TI s1 := ht.of_qf (qf_of_same hs1 he1)
    have hm1 : MInv s1 := hm.sameTB hs1 he1.ext
    have hbl1 : TBSafe.bodyLike s1.mode = true := by rw [hs1.fields.mode]; exact hbl
    simp only [List.nil_append]
    have hnode : (elemOf s.dom s.openElems[0]).name = toName (nameOf s.dom s.openElems[0]) := rfl
    have hns : (toName (nameOf s.dom s.openElems[0])).ns = (nameOf s.dom s.openElems[0]).ns := rfl
    by_cases h1 : (!first && (nameOf s.dom s.openElems[0]).ns == nsHtml) = true
    · rw [if_pos h1]
      have hw : endWalkF t.name [elemOf s.dom s.openElems[0]] (s.openElems.length - 1 - 0) first = .html := by
        unfold endWalkF
        rw [hnode, hns]
        exact if_pos h1
      rw [hw]
      refine pc_getS_bind ?_
      have hstep := hall s1.mode (.tag t) rfl hwf s1 ht1 hm1 rfl (fun h => absurd h (TBSafe.bodyLike_ne_text hbl1))
      refine pc_conseq hstep ?_
      intro res s' c2 he2 hpost
      refine EndPost.after_query (r := .html) hm hs1 he1 hc1 he2.ext ?_
      show TokPost (fun σ => Spec.TreeModes.byMode (cfgOf s1) σ (.endTag (specTag t))) s1 (.tag t) res s' c2
      refine tokPost_congr hpost ?_
      intro x hx
      simp only [stokOf, stokOfTag_end hk, byModeDev_endF]
    · rw [if_neg h1]
      have hw : endWalkF t.name [elemOf s.dom s.openElems[0]] (s.openElems.length - 1 - 0) first = .ret := by
        unfold endWalkF
        rw [hnode, hns]
        exact if_neg h1
      rw [hw]
      exact pc_pure ⟨rfl, hs1, by simpa using hc1⟩
  | succ n ih =>
    intro first s ht hm hbl hlt
    have hlen : (absStack s.dom s.openElems).length = s.openElems.length := by simp [absStack]
    have hget : s.openElems[n + 1]? = some s.openElems[n + 1] := List.getElem?_eq_getElem hlt
    have hmem : s.openElems[n + 1] ∈ s.openElems := List.getElem_mem hlt
    have hel := hm.elems _ hmem
    -- the shape of the list the walk looks at
    obtain ⟨prev, rest, hrest⟩ : ∃ prev rest, ((absStack s.dom s.openElems).take (n + 1)).reverse = prev :: rest := by
      cases hr : ((absStack s.dom s.openElems).take (n + 1)).reverse with
      | nil =>
        have := congrArg List.length hr
        rw [List.length_reverse, List.length_take, hlen] at this
        simp only [List.length_nil] at this
        omega
      | cons a r => exact ⟨a, r, rfl⟩
    have hshape : ((absStack s.dom s.openElems).take (n + 1 + 1)).reverse
        = elemOf s.dom s.openElems[n + 1] :: prev :: rest := by
      rw [take_succ_reverseF _ _ (by rw [hlen]; exact hlt), hrest]
      simp [absStack]
    rw [hshape]
    unfold foreignEndTagLoop
    refine pc_getS_bind ?_
    rw [hget]
    dsimp only
    refine pc_bind (pc_pure ?_)
    refine pc_query_bind (PC.of_tot (tot_elemName' s _)) ?_
    intro s1 c1 he1 hs1 hc1
    have ht1 : TI s1 := ht.of_qf (qf_of_same hs1 he1)
    have hm1 : MInv s1 := hm.sameTB hs1 he1.ext
    have hbl1 : TBSafe.bodyLike s1.mode = true := by rw [hs1.fields.mode]; exact hbl
    simp only [List.nil_append]
    have hnode : (elemOf s.dom s.openElems[n + 1]).name = toName (nameOf s.dom s.openElems[n + 1]) := rfl
    have hns : (toName (nameOf s.dom s.openElems[n + 1])).ns = (nameOf s.dom s.openElems[n + 1]).ns := rfl
    have hloc : (toName (nameOf s.dom s.openElems[n + 1])).loc = (nameOf s.dom s.openElems[n + 1]).loc := rfl
    by_cases h1 : (!first && (nameOf s.dom s.openElems[n + 1]).ns == nsHtml) = true
    · rw [if_pos h1]
      have hw : endWalkF t.name (elemOf s.dom s.openElems[n + 1] :: prev :: rest) (s.openElems.length - 1 - (n + 1)) first
          = .html := by
        unfold endWalkF
        rw [hnode, hns]
        exact if_pos h1
      rw [hw]
      refine pc_getS_bind ?_
      have hstep := hall s1.mode (.tag t) rfl hwf s1 ht1 hm1 rfl (fun h => absurd h (TBSafe.bodyLike_ne_text hbl1))
      refine pc_conseq hstep ?_
      intro res s' c2 he2 hpost
      refine EndPost.after_query (r := .html) hm hs1 he1 hc1 he2.ext ?_
      show TokPost (fun σ => Spec.TreeModes.byMode (cfgOf s1) σ (.endTag (specTag t))) s1 (.tag t) res s' c2
      refine tokPost_congr hpost ?_
      intro x hx
      simp only [stokOf, stokOfTag_end hk, byModeDev_endF]
    rw [if_neg h1]
    by_cases h2 : eqIgnoreAsciiCase (nameOf s.dom s.openElems[n + 1]).loc t.name = true
    · rw [if_pos h2]
      have hw : endWalkF t.name (elemOf s.dom s.openElems[n + 1] :: prev :: rest) (s.openElems.length - 1 - (n + 1)) first
          = .popThrough (s.openElems.length - 1 - (n + 1)) := by
        unfold endWalkF
        rw [hnode, hns, hloc, if_neg h1]
        rw [eqIgnore_lowerF hwf.lower] at h2
        exact if_pos h2
      rw [hw]
      refine pc_seq (pc_modS (Q := fun _ s2 c2 => s2 = { s1 with openElems := s1.openElems.take (n + 1) } ∧ c2 = []) rfl rfl ⟨rfl, rfl⟩) ?_
      rintro _ s2 c2 he2 ⟨rfl, rfl⟩
      refine pc_pure ⟨rfl, ?_, by simpa using hc1, ?_⟩
      · exact (StackOnly.of_sameTB hs1).trans rfl
      · show s1.openElems.take (n + 1) = _
        rw [hs1.openElems]
        congr 1
        omega
    rw [if_neg h2]
    have hw : endWalkF t.name (elemOf s.dom s.openElems[n + 1] :: prev :: rest) (s.openElems.length - 1 - (n + 1)) first
        = endWalkF t.name (prev :: rest) (s.openElems.length - 1 - n) false := by
      conv => lhs; unfold endWalkF
      rw [hnode, hns, hloc, if_neg h1]
      rw [eqIgnore_lowerF hwf.lower] at h2
      rw [if_neg h2]
      congr 1
      omega
    rw [hw, ← hrest]
    have hcont : ∀ s2 c2, SameTB s s2 → Ext2 s c2 s2 → edits c2 = [] →
        PC (foreignEndTagLoop t n false) s2 (fun res s' c3 => EndPost t s
          (endWalkF t.name ((absStack s.dom s.openElems).take (n + 1)).reverse (s.openElems.length - 1 - n) false)
          res s' (c2 ++ c3)) := by
      intro s2 c2 hs2 he2 hc2
      have ht2 : TI s2 := ht.of_qf (qf_of_same hs2 he2)
      have := ih false s2 ht2 (hm.sameTB hs2 he2.ext) (by rw [hs2.fields.mode]; exact hbl) (by rw [hs2.openElems]; omega)
      rw [hs2.openElems, absStack_ext hm.elems he2.ext] at this
      refine pc_conseq this ?_
      intro res s' c3 he3 hp
      exact EndPost.after_query hm hs2 he2 hc2 he3.ext hp
    cases first with
    | true =>
      simp only [if_true]
      refine pc_seq (pc_unexpectedQ s1) ?_
      rintro _ s2 c2 he2 ⟨-, hs2, hc2⟩
      refine pc_conseq (hcont s2 (c1 ++ c2) (hs1.trans hs2) (he1.trans he2) (by simp [edits_append, hc1, hc2])) ?_
      intro res s' c3 _ hp
      rw [← List.append_assoc]; exact hp
    | false =>
      simp only [Bool.false_eq_true, if_false]
      exact hcont s1 c1 hs1 he1 hc1

/-! ### the walk and the standard's loop -/

theorem endWalkF_spec (name : Str) : ∀ (tl : List (Elem Id)) (node : Elem Id) (k : Nat) (first : Bool),
    endWalkF name (node :: tl) k first
      = if (!first && node.name.ns == nsHtml) = true then .html
        else Spec.TreeModes.foreignEndLoop name (node :: tl) k := by
  intro tl
  induction tl with
  | nil => intro node k first; simp only [endWalkF, Spec.TreeModes.foreignEndLoop]
  | cons prev rest ih =>
    intro node k first
    rw [endWalkF, Spec.TreeModes.foreignEndLoop]
    by_cases h1 : (!first && node.name.ns == nsHtml) = true
    · rw [if_pos h1, if_pos h1]
    rw [if_neg h1, if_neg h1, ih prev (k + 1) false]
    by_cases h2 : (node.name.loc.map Spec.TreeAlgo.lower == name) = true
    · rw [if_pos h2, if_pos h2]
    · rw [if_neg h2, if_neg h2]
      simp only [Bool.not_false, Bool.true_and]
      cases hh : prev.name.ns == nsHtml
      · have : (prev.name.ns != Spec.TreeAlgo.nsHtml) = true := by
          show (!(prev.name.ns == nsHtml)) = true
          rw [hh]; rfl
        rw [if_pos this]
        simp
      · have : ¬ (prev.name.ns != Spec.TreeAlgo.nsHtml) = true := by
          show ¬ (!(prev.name.ns == nsHtml)) = true
          rw [hh]; simp
        rw [if_neg this]
        simp

/-- the walk that starts at the current node is the standard's loop (steps 3–7) -/
theorem endWalkF_top (name : Str) (l : List (Elem Id)) :
    endWalkF name l 0 true = Spec.TreeModes.foreignEndLoop name l 0 := by
  cases l with
  | nil => simp [endWalkF, Spec.TreeModes.foreignEndLoop]
  | cons node tl => rw [endWalkF_spec]; simp

/-! ### the specification's rule for an end tag, in terms of html5ever's walk -/

/-- "2. If node's tag name, converted to ASCII lowercase, is not the same as the tag name of the token,
then this is a parse error." -/
def endErrF (σ : SState) (st : STag) : SState :=
  if σ.cur.any (fun e => e.name.loc.map Spec.TreeAlgo.lower == st.name) then σ
  else σ.err "foreign content: end tag does not match the current node"

theorem endErrF_eq (σ : SState) (st : STag) : endErrF σ st = { σ with errors := (endErrF σ st).errors } := by
  unfold endErrF; split <;> rfl

theorem endErrF_p (σ : SState) (st : STag) : (endErrF σ st).p = σ.p := by
  unfold endErrF; split <;> rfl

/-- the "reprocess in HTML content" of `foreignFull` -/
def wrapF (cfg : Config Id) (tok : STok) : Step Id → Spec.TreeModes.M (Step Id)
  | .reprocessHtml σ' => byModeDev cfg σ' tok
  | r => pure r

theorem foreignFull_eqF (cfg : Config Id) (σ : SState) (tok : STok) :
    foreignFull cfg σ tok = Spec.TreeModes.foreign cfg σ tok >>= wrapF cfg tok := by
  unfold foreignFull
  congr 1

theorem wrapF_stepOf (cfg : Config Id) (tok : STok) (res : ProcessResult) (s' : State) (x' : Aux) :
    wrapF cfg tok (stepOf res s' x') = pure (stepOf res s' x') := by
  cases res <;> rfl

/-- the outcome of "any other end tag" for an outcome of the walk -/
def endSpecF (cfg : Config Id) (σ : SState) (st : STag) : ForeignEnd → Spec.TreeModes.M (Step Id)
  | .ret => pure (.done (endErrF σ st))
  | .popThrough k => pure (.done ((endErrF σ st).setStack (σ.p.stack.take (σ.p.stack.length - (k + 1)))))
  | .html => Spec.TreeModes.byMode cfg (endErrF σ st) (.endTag st) >>= wrapF cfg (.endTag st)

/-- **the rule for an end tag that is neither `</br>`, `</p>` nor the `</script>` of an SVG `script`
current node, in terms of the outcome of the standard's loop** -/
theorem foreignFull_endF (cfg : Config Id) (σ : SState) (st : STag)
    (hb : st.isOneOf Spec.TreeTables.foreignBreakoutEnd = false)
    (hS : (st.is "script" && σ.cur.any (fun e => e.name.ns == Spec.TreeAlgo.nsSvg && e.name.loc == "script".toList)) = false) :
    foreignFull cfg σ (.endTag st) = endSpecF cfg σ st (Spec.TreeModes.foreignEndLoop st.name σ.p.stack.reverse 0) := by
  rw [foreignFull_eqF]
  have e1 : Spec.TreeModes.foreign cfg σ (.endTag st) = Spec.TreeModes.foreignAnyOtherEndTag cfg σ st := by
    simp only [Spec.TreeModes.foreign, hb, hS, Bool.false_eq_true, if_false]
  rw [e1]
  unfold Spec.TreeModes.foreignAnyOtherEndTag
  simp only []
  have e2 : (if σ.cur.any (fun e => e.name.loc.map Spec.TreeAlgo.lower == st.name) = true then σ
      else σ.err "foreign content: end tag does not match the current node") = endErrF σ st := rfl
  rw [e2, endErrF_p]
  cases Spec.TreeModes.foreignEndLoop st.name σ.p.stack.reverse 0 <;> rfl

theorem endLoop_matchF (name : Str) (node prev : Elem Id) (rest : List (Elem Id)) (k : Nat)
    (h : (node.name.loc.map Spec.TreeAlgo.lower == name) = true) :
    Spec.TreeModes.foreignEndLoop name (node :: prev :: rest) k = .popThrough k := by
  rw [Spec.TreeModes.foreignEndLoop, if_pos h]

/-- the `</script>` end tag of an SVG `script` current node -/
theorem foreignFull_scriptF (cfg : Config Id) (σ : SState) (st : STag)
    (hb : st.isOneOf Spec.TreeTables.foreignBreakoutEnd = false)
    (hS : (st.is "script" && σ.cur.any (fun e => e.name.ns == Spec.TreeAlgo.nsSvg && e.name.loc == "script".toList)) = true)
    (e : Elem Id) (hcur : σ.cur = some e) :
    foreignFull cfg σ (.endTag st)
      = .ok (.done { σ.pop with out := { σ.pop.out with svgScript := some e.id } }) := by
  rw [foreignFull_eqF]
  have hS' := hS
  rw [hcur] at hS'
  simp only [Spec.TreeModes.foreign, hb, Bool.false_eq_true, if_false, Spec.TreeModes.foreignEndSvgScript, hcur,
    Spec.TreeModes.req, hS', if_true]
  rfl

/-- **an end tag other than `</br>`, `</p>`** -/
theorem pc_endTagArm (hall : ∀ m, ModeSim m) {t : Tag} (hwf : TagWf t) (hk : t.kind = .endTag)
    (hb : (specTag t).isOneOf Spec.TreeTables.foreignBreakoutEnd = false) {s : State} (ht : TI s) (hm : MInv s)
    (hbl : TBSafe.bodyLike s.mode = true) (hne : s.openElems ≠ []) :
    PC (foreignEndTagLoop t (s.openElems.length - 1) true) s
      (TokPost (fun σ => foreignFull (cfgOf s) σ (.endTag (specTag t))) s (.tag t)) := by
  have hpos : 0 < s.openElems.length := List.length_pos_iff.mpr hne
  have hP := pc_foreignEndTagLoop hall hwf hk (s.openElems.length - 1) true s ht hm hbl (by omega)
  have hlen : (absStack s.dom s.openElems).length = s.openElems.length := by simp [absStack]
  have e1 : (absStack s.dom s.openElems).take (s.openElems.length - 1 + 1) = absStack s.dom s.openElems :=
    List.take_of_length_le (by rw [hlen]; omega)
  have e2 : s.openElems.length - 1 - (s.openElems.length - 1) = 0 := by omega
  rw [e1, e2, endWalkF_top] at hP
  refine pc_conseq hP ?_
  intro res s' calls he hp
  -- the current node
  obtain ⟨l, h0, hl'⟩ : ∃ l h0, s.openElems = l ++ [h0] := by
    rcases List.eq_nil_or_concat s.openElems with h | ⟨l, h0, h⟩
    · exact absurd h hne
    · exact ⟨l, h0, by simpa using h⟩
  have hlast : s.openElems.getLast? = some h0 := by rw [hl']; simp
  have hcurx : ∀ x, AuxOk s x → (absF s x).cur = some (elemOf s.dom h0) := by
    intro x hx; rw [absF_cur hx, hlast]; rfl
  by_cases hS : ((specTag t).is "script" && ((elemOf s.dom h0).name.ns == Spec.TreeAlgo.nsSvg &&
      (elemOf s.dom h0).name.loc == "script".toList)) = true
  · -- `</script>` closing an SVG `script`
    have hSx : ∀ x, AuxOk s x → ((specTag t).is "script" && (absF s x).cur.any (fun e => e.name.ns == Spec.TreeAlgo.nsSvg &&
        e.name.loc == "script".toList)) = true := by
      intro x hx; rw [hcurx x hx]; exact hS
    simp only [Bool.and_eq_true, Spec.TreeModes.Tag.is, strIs_eq, specTag_name, decide_eq_true_eq, beq_iff_eq] at hS
    obtain ⟨hname, hsvg, hscr⟩ := hS
    -- at least two entries: the root is an HTML element
    obtain ⟨l2, p0, hl2⟩ : ∃ l2 p0, l = l2 ++ [p0] := by
      rcases List.eq_nil_or_concat l with h | ⟨l2, p0, h⟩
      · exfalso
        have hroot := hm.root h0 (by rw [hl', h]; rfl)
        have : (elemOf s.dom h0).name.ns = nsHtml := by unfold elemOf; rw [hroot]; rfl
        rw [this] at hsvg
        exact nsHtml_ne_nsSvg hsvg
      · exact ⟨l2, p0, by simpa using h⟩
    have hD : Spec.TreeModes.foreignEndLoop t.name (absStack s.dom s.openElems).reverse 0 = .popThrough 0 := by
      have : (absStack s.dom s.openElems).reverse = elemOf s.dom h0 :: elemOf s.dom p0 :: (absStack s.dom l2).reverse := by
        rw [hl', hl2]; simp [absStack]
      rw [this]
      apply endLoop_matchF
      rw [hscr, hname]
      decide
    rw [hD] at hp
    obtain ⟨hres, hso, hc, ho⟩ := hp
    subst hres
    have ho' : s'.openElems = s.openElems.dropLast := by
      rw [ho, List.dropLast_eq_take]
    have htr := Tr.of_prefix hm hso (ho' ▸ List.dropLast_prefix _) he hc
    refine tokPost_of_tr htr trivial ?_
    rintro x x' hx hx' ⟨rfl, e⟩
    refine ⟨{ x' with out := { x'.out with svgScript := some h0 } }, ?_, ⟨rfl, rfl, rfl, rfl, rfl⟩, Or.inl rfl, rfl, rfl⟩
    rw [foreignFull_scriptF _ _ _ hb (hSx x' hx) _ (hcurx x' hx)]
    simp only [stepOf]
    have : absF s' x' = (absF s x').pop := by
      rw [e, ho', absStack_dropLast, ← absF_stack hx]; rfl
    show Except.ok (Step.done _) = Except.ok (Step.done ({ absF s' x' with out := { x'.out with svgScript := some h0 } }))
    rw [this]
    rfl
  · have hSx : ∀ x, AuxOk s x → ((specTag t).is "script" && (absF s x).cur.any (fun e => e.name.ns == Spec.TreeAlgo.nsSvg &&
        e.name.loc == "script".toList)) = false := by
      intro x hx; rw [hcurx x hx]; simpa using hS
    have hfull : ∀ x, AuxOk s x → foreignFull (cfgOf s) (absF s x) (.endTag (specTag t))
        = endSpecF (cfgOf s) (absF s x) (specTag t) (Spec.TreeModes.foreignEndLoop t.name (absStack s.dom s.openElems).reverse 0) := by
      intro x hx
      rw [foreignFull_endF _ _ _ hb (hSx x hx), absF_stack hx]
      rfl
    cases hD : Spec.TreeModes.foreignEndLoop t.name (absStack s.dom s.openElems).reverse 0 with
    | ret =>
      rw [hD] at hp
      obtain ⟨hres, hs, hc⟩ := hp
      subst hres
      refine tokPost_of_tr (Tr.of_same hm hs he (by rw [← edits2_edits, hc]; rfl)) trivial ?_
      rintro x x' hx hx' ⟨rfl, e⟩
      refine ⟨{ x' with errors := (endErrF (absF s x') (specTag t)).errors }, ?_, ⟨rfl, rfl, rfl, rfl, rfl⟩, Or.inl rfl, rfl, rfl⟩
      rw [hfull x' hx, hD]
      simp only [endSpecF, stepOf, absF_errors, ← e]
      rw [← endErrF_eq]
      rfl
    | popThrough k =>
      rw [hD] at hp
      obtain ⟨hres, hso, hc, ho⟩ := hp
      subst hres
      have htr := Tr.of_prefix hm hso (ho ▸ List.take_prefix _ _) he hc
      refine tokPost_of_tr htr trivial ?_
      rintro x x' hx hx' ⟨rfl, e⟩
      refine ⟨{ x' with errors := (endErrF (absF s x') (specTag t)).errors }, ?_, ⟨rfl, rfl, rfl, rfl, rfl⟩, Or.inl rfl, rfl, rfl⟩
      rw [hfull x' hx, hD]
      simp only [endSpecF, stepOf, absF_errors]
      rw [e, ho]
      have : absStack s.dom (s.openElems.take (s.openElems.length - (k + 1)))
          = (absF s x').p.stack.take ((absF s x').p.stack.length - (k + 1)) := by
        rw [absF_stack hx, hlen]; simp [absStack]
      rw [this]
      conv => lhs; rw [endErrF_eq]
      rfl
    | html =>
      rw [hD] at hp
      have hp' : TokPost (fun σ => Spec.TreeModes.byMode (cfgOf s) σ (.endTag (specTag t))) s (.tag t) res s' calls := hp
      refine TokPost.pre_errF hp' (fun x => (endErrF (absF s x) (specTag t)).errors) ?_
      intro x hx x' e
      rw [hfull x hx, hD]
      simp only [endSpecF]
      rw [absF_errors, ← endErrF_eq] at e
      rw [e]
      exact wrapF_stepOf _ _ _ _ _

/-! ### the rules for foreign content, non-character tokens -/

theorem TokPost.wrapF {spec spec' : SState → Spec.TreeModes.M (Step Id)} {s s' : State} {tok : Token}
    {res : ProcessResult} {calls : List Call} (cfg : Config Id) (stok : STok) (h : TokPost spec s tok res s' calls)
    (he : ∀ x, AuxOk s x → spec' (absF s x) = spec (absF s x) >>= _root_.H5V.Lemmas.HtmlTBModes.wrapF cfg stok) :
    TokPost spec' s tok res s' calls := by
  refine TokPost.pre_errF h (fun x => x.errors) ?_
  intro x hx x' e
  have e' : spec (absF s x) = .ok (stepOf res s' x') := e
  rw [he x hx, e']
  exact wrapF_stepOf _ _ _ _ _

theorem foreignTop_ne {s : State} (hf : ForeignTop s) : s.openElems ≠ [] := by
  obtain ⟨c, hc, _⟩ := hf
  intro h
  unfold TBSafe.adjNode at hc
  rw [h] at hc
  cases hc

/-- the rules for foreign content, non-character tokens -/
theorem foreignSim (hall : ∀ m, ModeSim m) :
    ForeignSim := by
  intro tok hch hne hwf s ht hm hf
  have hip : IpNamed s := hm.ip
  have hbl := TBSafe.bodyLike_of_foreign ht hf
  cases tok with
  | chars st text => cases hch
  | eof => exact absurd rfl hne
  | comment text =>
    refine pc_tokPost_congr (pc_comment_tokPost hm text _) fun x _ => ?_
    rw [foreignFull_eqF, stokOf]
    simp only [Spec.TreeModes.foreign]
    cases Spec.TreeModes.insertComment (absF s x) text <;> rfl
  | nullChar =>
    simp only [stepForeign]
    refine pc_seq (pc_unexpected hm) ?_
    rintro _ s1 c1 he1 ⟨-, htr1⟩
    refine pc_conseq (pc_appendText htr1.1 ['�']) ?_
    rintro r s' c2 _ ⟨rfl, hs2, htr2⟩
    refine tokPost_of_tr (htr1.trans htr2) trivial ?_
    rintro x x'' hx hx'' ⟨x1, ⟨e1, r1⟩, r2⟩
    subst e1
    refine ⟨{ x'' with errors := x''.errors ++ ["foreign content: U+0000"] }, ?_, ⟨rfl, rfl, rfl, rfl, rfl⟩, Or.inl rfl, rfl, rfl⟩
    rw [foreignFull_eqF, stokOf]
    simp only [Spec.TreeModes.foreign, beq_self_eq_true, if_true, insertChar_errF]
    rw [← r1] at r2
    simp only [List.foldlM_cons, List.foldlM_nil, bind_pure] at r2
    rw [r2]
    rfl
  | tag t =>
    have hwf' : TagWf t := hwf
    simp only [stepForeign]
    cases hk : t.kind with
    | startTag =>
      have hbrk := H5V.Lemmas.HtmlTBSpec.breakout_eq_spec t hk hwf'.plain
      have hattrs : (specTag t).attrs.map (·.name) = t.attrs.map (·.name.loc) := by
        simp only [specTag, List.map_map]; rfl
      have hend : t.isEnd ["br", "p"] = false := isEnd_of_start hk _
      have hkb : (H5V.Model.HtmlTok.TagKind.startTag == H5V.Model.HtmlTok.TagKind.startTag) = true := rfl
      -- the two outcomes
      have hUB : Spec.TreeAlgo.breaksOutOfForeign t.name (t.attrs.map (·.name.loc)) = true →
          PC (unexpectedStartTagInForeignContent t) s (TokPost (fun σ => foreignFull (cfgOf s) σ (stokOf (.tag t))) s (.tag t)) := by
        intro hB
        refine pc_tokPost_congr (pc_breakOut hall hwf' ht hm hbl hip) ?_
        intro x hx
        rw [foreignFull_eqF]
        simp only [stokOf, stokOfTag_start hk]
        simp only [Spec.TreeModes.foreign, specTag_name, hattrs, hB, if_true]
        rfl
      have hFS : Spec.TreeAlgo.breaksOutOfForeign t.name (t.attrs.map (·.name.loc)) = false →
          PC (foreignStartTag t) s (TokPost (fun σ => foreignFull (cfgOf s) σ (stokOf (.tag t))) s (.tag t)) := by
        intro hB
        refine pc_conseq (pc_foreignStartTag hm hwf'.plain hwf'.nodup (.tag t)) ?_
        intro res s' calls _ hp
        refine TokPost.wrapF (cfgOf s) (stokOf (.tag t)) hp ?_
        intro x hx
        rw [foreignFull_eqF]
        simp only [stokOf, stokOfTag_start hk]
        simp only [Spec.TreeModes.foreign, specTag_name, hattrs, hB, Bool.false_eq_true, if_false]
      rw [hend, Bool.or_false]
      by_cases h1 : t.isStart foreignBreakoutStart = true
      · rw [if_pos h1]
        exact hUB (by rw [← hbrk, h1]; rfl)
      · have h1' : t.isStart foreignBreakoutStart = false := Bool.eq_false_iff.mpr h1
        rw [if_neg h1]
        rw [h1', Bool.false_or] at hbrk
        by_cases h2 : t.isStart ["font"] = true
        · rw [if_pos h2]
          rw [h2, Bool.true_and] at hbrk
          by_cases h3 : (t.attrs.any fun a => a.name.ns == [] && isOneOf a.name.loc ["color", "face", "size"]) = true
          · rw [if_pos h3]; exact hUB (by rw [← hbrk]; exact h3)
          · rw [if_neg h3]; exact hFS (by rw [← hbrk]; exact Bool.eq_false_iff.mpr h3)
        · have h2' : t.isStart ["font"] = false := Bool.eq_false_iff.mpr h2
          rw [if_neg h2, if_pos hkb]
          rw [h2', Bool.false_and] at hbrk
          exact hFS hbrk.symm
    | endTag =>
      have hst1 : t.isStart foreignBreakoutStart = false := isStart_of_end hk _
      have hst2 : t.isStart ["font"] = false := isStart_of_end hk _
      have hkb : (H5V.Model.HtmlTok.TagKind.endTag == H5V.Model.HtmlTok.TagKind.startTag) = false := rfl
      have hendeq : t.isEnd ["br", "p"] = (specTag t).isOneOf Spec.TreeTables.foreignBreakoutEnd := by
        simp only [Tag.isEnd, hk, BEq.rfl, Bool.true_and, isOneOf_cons, isOneOf_nil, Spec.TreeModes.Tag.isOneOf,
          Spec.TreeTables.foreignBreakoutEnd, strIsOneOf_cons, strIsOneOf_nil, specTag_name]
      rw [hst1, Bool.false_or]
      by_cases h1 : t.isEnd ["br", "p"] = true
      · rw [if_pos h1]
        refine pc_tokPost_congr (pc_breakOut hall hwf' ht hm hbl hip) ?_
        intro x hx
        rw [foreignFull_eqF]
        simp only [stokOf, stokOfTag_end hk]
        simp only [Spec.TreeModes.foreign, ← hendeq, h1, if_true]
        rfl
      · rw [if_neg h1, hst2, hkb]
        simp only [Bool.false_eq_true, if_false]
        refine pc_getS_bind ?_
        have hne' := foreignTop_ne hf
        have hz : (s.openElems.length == 0) = false := by
          cases h : s.openElems.length == 0 with
          | false => rfl
          | true =>
            have := beq_iff_eq.mp h
            exact absurd (List.length_eq_zero_iff.mp this) hne'
        simp only [hz, Bool.false_eq_true, if_false]
        have hb : (specTag t).isOneOf Spec.TreeTables.foreignBreakoutEnd = false := by
          rw [← hendeq]; exact Bool.eq_false_iff.mpr h1
        refine pc_tokPost_congr (pc_endTagArm hall hwf' hk hb ht hm hbl hne') ?_
        intro x hx
        simp only [stokOf, stokOfTag_end hk]

/-! ### runs of characters in foreign content -/

/-- the state after the characters `text` were inserted at `place` by the rules for foreign content -/
def charsFinalF (σ : SState) (place : Place Id) (text : Str) : SState :=
  { σ with p := { σ.p with log := σ.p.log ++ text.map fun c => Edit.insertText place [c] },
           framesetOk := σ.framesetOk && text.all Spec.TreeModes.isWs }

theorem charsFinalF_nil (σ : SState) (place : Place Id) : charsFinalF σ place [] = σ := by
  simp [charsFinalF]

theorem charsFinalF_cons (σ : SState) (place : Place Id) (c : Char) (cs : Str) :
    charsFinalF (charsFinalF σ place [c]) place cs = charsFinalF σ place (c :: cs) := by
  simp [charsFinalF, List.append_assoc, Bool.and_assoc]

theorem insertChar_placeF (σ : SState) (place : Place Id)
    (h : Spec.TreeAlgo2.appropriatePlace σ.p.stack σ.p.fosterParenting none = some place) (c : Char) :
    Spec.TreeModes.insertChar σ c
      = .ok { σ with p := { σ.p with log := σ.p.log ++ [Edit.insertText place [c]] } } := by
  simp only [Spec.TreeModes.insertChar, Spec.TreeAlgo2.insertCharacters, h, Option.map_some, Spec.TreeModes.req]
  rfl

theorem Spec.TreeModes.foreign_charF (cfg : Config Id) (σ : SState) (place : Place Id)
    (h : Spec.TreeAlgo2.appropriatePlace σ.p.stack σ.p.fosterParenting none = some place) (c : Char) (hc : c ≠ '\x00') :
    Spec.TreeModes.foreign cfg σ (.character c) = .ok (.done (charsFinalF σ place [c])) := by
  have hc' : (c == '\x00') = false := by simpa using hc
  simp only [Spec.TreeModes.foreign, hc', Bool.false_eq_true, if_false, insertChar_placeF σ place h]
  cases hw : Spec.TreeModes.isWs c
  · simp only [Bool.false_eq_true, if_false]
    show Except.ok (Step.done _) = _
    simp [charsFinalF, hw, Spec.TreeModes.State.notOk]
  · simp only [if_true]
    show Except.ok (Step.done _) = _
    simp [charsFinalF, hw]

theorem specCharsRest_foreignF (cfg : Config Id) (place : Place Id) : ∀ (text : Str) (σ : SState),
    (∀ c ∈ text, c ≠ '\x00') →
    Spec.TreeAlgo2.appropriatePlace σ.p.stack σ.p.fosterParenting none = some place → σ.stopped = false →
    σ.ignoreLf = false →
    Spec.TreeAlgo.useHtmlRules (Spec.TreeModes.adjustedCurrentNode cfg σ) .character = false →
    specCharsRest cfg σ text = .ok (charsFinalF σ place text) := by
  intro text
  induction text with
  | nil => intro σ _ _ _ _ _; rw [charsFinalF_nil]; rfl
  | cons c cs ih =>
    intro σ hnul hpl hst hlf hu
    have hd : dispatchDev cfg σ (.character c) = .ok (.done (charsFinalF σ place [c])) := by
      unfold dispatchDev
      have : Spec.TreeModes.tokenKind (.character c) = .character := rfl
      rw [this, hu]
      simp only [Bool.false_eq_true, if_false]
      exact Spec.TreeModes.foreign_charF cfg σ place hpl c (hnul c (by simp))
    simp only [specCharsRest, hst, hlf, Bool.or_self, Bool.false_eq_true, if_false, hd]
    have := ih (charsFinalF σ place [c]) (fun c' hc' => hnul c' (by simp [hc'])) hpl hst hlf hu
    rw [charsFinalF_cons] at this
    exact this

theorem specChars_foreignF (cfg : Config Id) (place : Place Id) (text : Str) (σ : SState)
    (hnul : ∀ c ∈ text, c ≠ '\x00')
    (hpl : Spec.TreeAlgo2.appropriatePlace σ.p.stack σ.p.fosterParenting none = some place) (hst : σ.stopped = false)
    (hlf : σ.ignoreLf = false)
    (hu : Spec.TreeAlgo.useHtmlRules (Spec.TreeModes.adjustedCurrentNode cfg σ) .character = false) :
    specChars cfg (Spec.TreeModes.foreign cfg) σ text = .ok (charsFinalF σ place text) := by
  cases text with
  | nil => rw [charsFinalF_nil]; rfl
  | cons c cs =>
    simp only [specChars, Spec.TreeModes.foreign_charF cfg σ place hpl c (hnul c (by simp))]
    have := specCharsRest_foreignF cfg place cs (charsFinalF σ place [c]) (fun c' hc' => hnul c' (by simp [hc'])) hpl hst hlf hu
    rw [charsFinalF_cons] at this
    exact this

theorem all_isWs_of_not_any {text : Str} (h : anyNotWhitespace text = false) : text.all Spec.TreeModes.isWs = true := by
  unfold anyNotWhitespace at h
  rw [List.all_eq_true]
  intro c hc
  have := (List.any_eq_false.mp h) c hc
  rw [isWs_eq_ascii]
  simpa using this

theorem all_isWs_of_any {text : Str} (h : anyNotWhitespace text = true) : text.all Spec.TreeModes.isWs = false := by
  unfold anyNotWhitespace at h
  obtain ⟨c, hc, hn⟩ := List.any_eq_true.mp h
  cases ha : text.all Spec.TreeModes.isWs
  · rfl
  · have := (List.all_eq_true.mp ha) c hc
    rw [isWs_eq_ascii] at this
    rw [this] at hn
    cases hn

/-- from a successful "insert a character" to the appropriate place -/
theorem place_of_foldlM {σ σ' : SState} {c : Char} {cs : Str}
    (h : (c :: cs).foldlM (fun σ c => Spec.TreeModes.insertChar σ c) σ = .ok σ') :
    ∃ place, Spec.TreeAlgo2.appropriatePlace σ.p.stack σ.p.fosterParenting none = some place := by
  cases hp : Spec.TreeAlgo2.appropriatePlace σ.p.stack σ.p.fosterParenting none with
  | some place => exact ⟨place, rfl⟩
  | none =>
    exfalso
    rw [List.foldlM_cons] at h
    have : Spec.TreeModes.insertChar σ c = .error "insert a character: no place" := by
      simp only [Spec.TreeModes.insertChar, Spec.TreeAlgo2.insertCharacters, hp, Option.map_none, Spec.TreeModes.req]
      rfl
    rw [this] at h
    cases h

/-- the rules for foreign content, runs of characters -/
theorem foreignCharSim : ForeignCharSim := by
  intro st text hwf s ht hm hf hlf hu
  obtain ⟨hne, hnul, -⟩ := hwf
  have hnul' : ∀ c ∈ text, c ≠ '\x00' := fun c hc e => hnul (e ▸ hc)
  obtain ⟨c0, cs0, htext⟩ : ∃ c cs, text = c :: cs := by
    cases text with
    | nil => exact absurd rfl hne
    | cons c cs => exact ⟨c, cs, rfl⟩
  simp only [stepForeign]
  -- the common tail
  have htail : ∀ (s1 : State) (c1 : List Call) (b : Bool), MInv s1 → s1.ignoreLf = s.ignoreLf →
      Tr s s1 c1 (fun x x1 => x1 = x ∧ absF s1 x1 = { absF s x with framesetOk := b }) →
      (b = (s.framesetOk && text.all Spec.TreeModes.isWs)) →
      PC (appendText text) s1 (fun res s' c2 => CharsPost (Spec.TreeModes.foreign (cfgOf s)) s st text res s' (c1 ++ c2)) := by
    intro s1 c1 b hm1 hlf1 htr1 hb
    refine pc_conseq (pc_appendText hm1 text) ?_
    rintro r s' c2 _ ⟨rfl, hs2, htr2⟩
    refine ⟨by rw [hs2.fields.ignoreLf]; exact hlf1, (htr1.trans htr2).conseq ?_⟩
    rintro x x' hx hx' ⟨x1, ⟨e1, r1⟩, r2⟩
    subst e1
    rw [r1, htext] at r2
    obtain ⟨place, hpl⟩ := place_of_foldlM r2
    rw [← htext, foldlM_insertChar _ place hpl] at r2
    have hfin : absF s' x' = charsFinalF (absF s x1) place text := by
      injection r2 with r2
      rw [← r2, hb]
      rfl
    rw [hfin]
    exact specChars_foreignF (cfgOf s) place text (absF s x1) hnul' hpl hx.live hlf (hu x1 hx)
  by_cases ha : anyNotWhitespace text = true
  · simp only [ha, if_true]
    refine pc_seq (pc_setFramesetOk hm false) ?_
    rintro _ s1 c1 _ ⟨hs1, htr1⟩
    refine htail s1 c1 false htr1.1 (by rw [hs1]) htr1 ?_
    rw [all_isWs_of_any ha, Bool.and_false]
  · have ha' : anyNotWhitespace text = false := by simpa using ha
    simp only [ha', Bool.false_eq_true, if_false]
    have := htail s [] s.framesetOk hm rfl ((Tr.refl hm).conseq (by rintro x x' _ _ rfl; exact ⟨rfl, rfl⟩))
      (by rw [all_isWs_of_not_any ha', Bool.and_true])
    simpa using this

end H5V.Lemmas.HtmlTBModes
