import H5V.Lemmas.HtmlTBSafeRules0
/-!
# Tree-builder safety: the "simple" insertion modes

`Initial`, `BeforeHtml`, `BeforeHead`, `InHeadNoscript`, `AfterHead`, `Text`, `InTemplate`, `AfterBody`,
`InFrameset`, `AfterFrameset`, `AfterAfterBody`, `AfterAfterFrameset`: each rule, run in its own mode from a
state satisfying the invariant `TI`, either fails benignly or ends in a state/result satisfying `StepPost`.
The rules of the delegates (`InHead`, `InBody`, the EOF arm of `InTemplate`, the push-head block of
`AfterHead`) are hypotheses (`HeadSpec`, `BodySpec`, `TemplateEofSpec`, `AfterHeadBlockSpec`).
-/
namespace H5V.Lemmas.TBSafe
open H5V.Model.HtmlTB
open H5V.Model.Dom (Id QualName Attr NodeOrText SinkOp Output ElementFlags QuirksMode Dom NodeData Node)

variable {al : Allow}

/-! ### helpers -/

/-- the modes without any requirement of their own (besides the root) -/
def plainMode (m : Mode) : Bool :=
  m == .beforeHead || m == .inBody || m == .inTable || m == .inCaption || m == .inColumnGroup ||
  m == .inTableBody || m == .inRow || m == .inTemplate || m == .afterBody || m == .inFrameset ||
  m == .afterFrameset || m == .afterAfterBody || m == .afterAfterFrameset

theorem plainMode_ne_text {m : Mode} (h : plainMode m = true) : m ≠ .text := by
  rintro rfl; revert h; decide

theorem SInv.plain {m m' : Mode} {s : State} (h : SInv m s) (hm : m ≠ .inTableText)
    (hr : Rooted s.dom s.openElems) (hp : plainMode m' = true) : SInv m' s := by
  cases m' <;> first
    | (exfalso; revert hp; decide)
    | exact h.chmode hm (fun _ => hr) trivial (fun e => absurd e (by decide)) (by decide) (by decide)

theorem StepPost.of_ti {tok : Token} {res : ProcessResult} {s' : State} (ht : TI s')
    (hn : nextMode res s'.mode = s'.mode) (hr : ResOk tok res) : StepPost tok res s' :=
  ⟨ht.h, by rw [hn]; exact ht.s, hr⟩

theorem StepPost.reprocess {tok : Token} {m : Mode} {s' : State} (h : HInv s') (hs : SInv m s')
    (hm : m ≠ .text := by decide) : StepPost tok (.reprocess m tok) s' := ⟨h, hs, rfl, hm⟩

/-- switch to a plain mode -/
theorem TI.setPlain {s : State} (ht : TI s) (hr : preRoot s.mode = false) (hm : s.mode ≠ .inTableText)
    {m : Mode} (hp : plainMode m = true) : TI { s with mode := m } :=
  ⟨ht.h.withMode m, (ht.s.plain hm (ht.rooted hr) hp).withMode m⟩

theorem sat_unexpected_post {tok : Token} {s : State} (ht : TI s) : Sat unexpected s (StepPost tok) :=
  sat_unexpected.mono (by rintro r s' ⟨rfl, hq⟩; exact StepPost.of_qf ht hq rfl trivial)

/-- `unexpected; Reprocess(plain mode)` -/
theorem sat_unexpected_reprocess {tok : Token} {m : Mode} {s : State} (ht : TI s)
    (hr : preRoot s.mode = false) (hm : s.mode ≠ .inTableText) (hp : plainMode m = true) :
    Sat (do let _ ← unexpected; pure (ProcessResult.reprocess m tok)) s (StepPost tok) := by
  refine sat_unexpected.bind ?_
  rintro _ s1 ⟨-, hq⟩
  have ht1 := ht.of_qf hq
  refine sat_pure (StepPost.reprocess ht1.h ?_ (plainMode_ne_text hp))
  have hr1 : preRoot s1.mode = false := by rw [hq.mode]; exact hr
  exact ht1.s.plain (by rw [hq.mode]; exact hm) (ht1.rooted hr1) hp

theorem rooted_dropLast {d : Dom} {l : List Id} (hr : Rooted d l) (h2 : 2 ≤ l.length) : Rooted d l.dropLast := by
  obtain ⟨r, rest, rfl, hn⟩ := hr
  cases rest with
  | nil => simp at h2
  | cons a t => exact ⟨r, (a :: t).dropLast, by simp [List.dropLast], hn⟩

/-- the stack shrinks to a sublist for which the requirements of the new mode hold -/
theorem SInv.shrink {m m' : Mode} {s s' : State} {l : List Id} (hi : HInv s) (h : SInv m s) (st : St s s' l)
    (hsub : l.Sublist s.openElems) (hm : m ≠ .inTableText) (hr : preRoot m' = false → Rooted s.dom l)
    (hs : ModeStack s.dom m' l) (hh : needsHead m' = true → s.headElem.isSome = true)
    (ht : m' ≠ .text) (htt : m' ≠ .inTableText) : SInv m' s' := by
  have hel : AllEl s.dom l := hi.open_el.sub (fun x hx => hsub.subset hx)
  exact {
    root := fun hp => by rw [st.openElems]; exact (hr hp).ext st.fr.ext hel
    stack := by rw [st.openElems]; exact hs.ext st.fr.ext hel
    head := fun hn => by rw [st.fr.headElem]; exact hh hn
    headIn := by
      rw [st.openElems, st.fr.headElem]
      rintro ⟨x, hx, hn⟩
      exact h.headIn ⟨x, hsub.subset hx, by rw [← hel.nm_eq st.fr.ext hx]; exact hn⟩
    text := fun e => absurd e ht
    tableText := fun e => absurd e htt
    pending := fun _ => by rw [st.fr.pendingTableText]; exact h.pending hm
    tmpl := by
      rw [st.openElems, st.fr.templateModes, tcount_ext st.fr.ext hel, ctxTmpl_fr hi st.fr]
      exact Nat.le_trans (Nat.add_le_add_right (tcount_le_of_sublist hsub) _) h.tmpl
    tmodes := by rw [st.fr.templateModes]; exact h.tmodes }

theorem isOneOf_sub {n : Str} {l1 l2 : List String} (hsub : ∀ x ∈ l1, x ∈ l2) (h : isOneOf n l1 = true) :
    isOneOf n l2 = true := by
  unfold isOneOf at *
  rw [List.any_eq_true] at *
  obtain ⟨x, hx, hxn⟩ := h
  exact ⟨x, hsub x hx, hxn⟩

theorem isStart_sub {t : Tag} {l1 l2 : List String} (hsub : ∀ x ∈ l1, x ∈ l2) (h : t.isStart l1 = true) :
    t.isStart l2 = true := by
  simp only [Tag.isStart, Bool.and_eq_true] at h ⊢
  exact ⟨h.1, isOneOf_sub hsub h.2⟩

theorem start_name {tag : Tag} {n : String} (h : tag.isStart [n] = true) : tag.name = n.toList := by
  simp [Tag.isStart, isOneOf] at h
  exact h.2.symm

/-! ### Initial -/

theorem initial_else {tok : Token} {s : State} (ht : TI s) (hm : s.mode = .initial) :
    Sat (do
      let s0 ← getS
      if (!s0.opts.iframeSrcdoc) = true then do
          let _ ← unexpected
          setQuirksMode QuirksMode.quirks
          pure (ProcessResult.reprocess Mode.beforeHtml tok)
        else pure (ProcessResult.reprocess Mode.beforeHtml tok)) s (StepPost tok) := by
  have hfin : ∀ s1, Same s s1 → StepPost tok (.reprocess .beforeHtml tok) s1 := by
    intro s1 st
    have ht1 := ht.of_same st
    have hs : SInv .initial s1 := by have := ht1.s; rw [st.fr.mode, hm] at this; exact this
    exact StepPost.reprocess ht1.h
      (hs.chmode (by decide) (fun e => absurd e (by decide)) hs.stack (fun e => absurd e (by decide))
        (by decide) (by decide))
  refine sat_getS_bind ?_
  split
  · refine sat_unexpected.bind ?_
    rintro _ s1 ⟨-, hq1⟩
    refine sat_setQuirksMode.bind ?_
    intro _ s2 st2
    exact sat_pure (hfin s2 (hq1.same.trans st2))
  · exact sat_pure (hfin s (Same.refl s))

theorem stepInitial_spec : ∀ (tok : Token) (s : State), TI s → s.mode = .initial →
    Sat (stepInitial tok) s (StepPost tok) := by
  intro tok s ht hm
  unfold stepInitial
  cases tok with
  | chars st text =>
    cases st with
    | notSplit => exact sat_pure (StepPost.of_same ht (Same.refl s) rfl trivial)
    | whitespace => exact sat_pure (StepPost.of_same ht (Same.refl s) rfl trivial)
    | notWhitespace => exact initial_else ht hm
  | comment text =>
    exact sat_appendCommentToDoc.mono (by rintro r s' ⟨rfl, hq⟩; exact StepPost.of_qf ht hq rfl trivial)
  | tag t => exact initial_else ht hm
  | nullChar => exact initial_else ht hm
  | eof => exact initial_else ht hm

/-! ### BeforeHtml -/

/-- the state after `create_root` in `BeforeHtml` -/
theorem createRoot_post {s s' : State} {r : Id} (ht : TI s) (hm : s.mode = .beforeHtml) (fr : Fr s s')
    (ho : s'.openElems = s.openElems ++ [r]) (haf : s'.activeFormatting = s.activeFormatting)
    (hel : IsEl s'.dom r) (hn : nm s'.dom r = htmlName) : HInv s' ∧ SInv .beforeHead s' := by
  have hs : SInv .beforeHtml s := by have := ht.s; rw [hm] at this; exact this
  have hnil : s.openElems = [] := hs.stack
  have ho' : s'.openElems = [r] := by rw [ho, hnil]; rfl
  have h0 : HInv { s' with openElems := [] } :=
    ht.h.of_fr (fr.withOpen []) (fun x hx => by cases hx)
      (by show ∀ e ∈ s'.activeFormatting, e ∈ s.activeFormatting; rw [haf]; exact fun _ h => h)
  have hmem : ∀ x ∈ s'.openElems, x = r := fun x hx => by rw [ho'] at hx; exact List.mem_singleton.mp hx
  refine ⟨⟨?_, ?_, h0.af, h0.head, h0.form, h0.ctx⟩, ?_⟩
  · intro x hx; rw [hmem x hx]; exact hel
  · intro x hx; rw [hmem x hx]
    intro htm; rw [hn] at htm; exact absurd htm htmlName_ne_tmplName
  · exact {
      root := fun _ => ⟨r, [], ho', hn⟩
      stack := trivial
      head := fun e => absurd e (by decide)
      headIn := by
        rintro ⟨x, hx, hh⟩
        rw [hmem x hx, hn] at hh; exact absurd hh htmlName_ne_headName
      text := fun e => absurd e (by decide)
      tableText := fun e => absurd e (by decide)
      pending := fun _ => by rw [fr.pendingTableText]; exact hs.pending (by decide)
      tmpl := by
        have h1 := hs.tmpl
        rw [hnil] at h1
        have h2 : tcount s'.dom s'.openElems = 0 :=
          tcount_zero_of_not (fun x hx => by rw [hmem x hx, hn]; exact htmlName_ne_tmplName)
        rw [h2, fr.templateModes, ctxTmpl_fr ht.h fr]
        simpa [tcount] using h1
      tmodes := by rw [fr.templateModes]; exact hs.tmodes }

theorem beforeHtml_else {tok : Token} {s : State} (ht : TI s) (hm : s.mode = .beforeHtml) :
    Sat (do
      createRoot []
      pure (ProcessResult.reprocess Mode.beforeHead tok)) s (StepPost tok) := by
  refine sat_createRoot.bind ?_
  rintro _ s1 ⟨r, fr, ho, haf, hel, hn, -⟩
  obtain ⟨h1, h2⟩ := createRoot_post ht hm fr ho haf hel hn
  exact sat_pure (StepPost.reprocess h1 h2)

theorem stepBeforeHtml_spec : ∀ (tok : Token) (s : State), TI s → s.mode = .beforeHtml →
    Sat (stepBeforeHtml tok) s (StepPost tok) := by
  intro tok s ht hm
  unfold stepBeforeHtml
  cases tok with
  | chars st text =>
    cases st with
    | notSplit => exact sat_pure (StepPost.of_same ht (Same.refl s) rfl trivial)
    | whitespace => exact sat_pure (StepPost.of_same ht (Same.refl s) rfl trivial)
    | notWhitespace => exact beforeHtml_else ht hm
  | comment text =>
    exact sat_appendCommentToDoc.mono (by rintro r s' ⟨rfl, hq⟩; exact StepPost.of_qf ht hq rfl trivial)
  | tag t =>
    dsimp only
    refine sat_ite (fun _ => ?_) fun _ => sat_ite (fun _ => beforeHtml_else ht hm) fun _ =>
      sat_ite (fun _ => sat_unexpected_post ht) fun _ => beforeHtml_else ht hm
    refine sat_createRoot.bind ?_
    rintro _ s1 ⟨r, fr, ho, haf, hel, hn, -⟩
    obtain ⟨h1, h2⟩ := createRoot_post ht hm fr ho haf hel hn
    refine sat_setMode.bind ?_
    rintro _ s2 rfl
    exact sat_pure ⟨h1.withMode _, h2.withMode _, trivial⟩
  | nullChar => exact beforeHtml_else ht hm
  | eof => exact beforeHtml_else ht hm

/-! ### BeforeHead -/

/-- the state after inserting the `head` element and setting the head pointer -/
theorem headInserted_post {s s1 : State} {h : Id} (ht : TI s) (hm : s.mode = .beforeHead)
    (hins : Inserted s s1 h nsHtml "head".toList true) :
    HInv { s1 with headElem := some h } ∧ SInv .inHead { s1 with headElem := some h } := by
  have hs : SInv .beforeHead s := by have := ht.s; rw [hm] at this; exact this
  have hr : Rooted s.dom s.openElems := hs.root rfl
  have h1 : HInv s1 := hins.hinv ht.h
  have ho : s1.openElems = s.openElems ++ [h] := by rw [hins.openElems]; rfl
  have hnm : nm s1.dom h = headName := hins.nm
  refine ⟨⟨h1.open_el, h1.open_tc, h1.af, ?_, h1.form, h1.ctx⟩, ?_⟩
  · intro x hx
    have : h = x := by simpa using hx
    subst this
    exact ⟨hins.el, hnm⟩
  · exact {
      root := fun _ => by
        show Rooted s1.dom s1.openElems
        rw [ho]; exact hr.append_ext hins.fr.ext ht.h.open_el
      stack := ⟨h, by show h ∈ s1.openElems; rw [ho]; simp, hnm⟩
      head := fun _ => rfl
      headIn := fun _ => rfl
      text := fun e => absurd e (by decide)
      tableText := fun e => absurd e (by decide)
      pending := fun _ => by
        show s1.pendingTableText = []
        rw [hins.fr.pendingTableText]; exact hs.pending (by decide)
      tmpl := by
        show tcount s1.dom s1.openElems + ctxTmpl s1 ≤ s1.templateModes.length
        rw [ho, tcount_append, tcount_ext hins.fr.ext ht.h.open_el, hins.fr.templateModes, ctxTmpl_fr ht.h hins.fr]
        have : tcount s1.dom [h] = 0 :=
          tcount_zero_of_not (fun x hx => by rw [List.mem_singleton.mp hx, hnm]; exact headName_ne_tmplName)
        have := hs.tmpl
        omega
      tmodes := by
        show ∀ x ∈ s1.templateModes, tmplModeOk x = true
        rw [hins.fr.templateModes]; exact hs.tmodes }

theorem beforeHead_else {tok : Token} {s : State} (ht : TI s) (hm : s.mode = .beforeHead) :
    Sat (do
      let h ← insertPhantom "head"
      modS fun s => { s with headElem := some h }
      pure (ProcessResult.reprocess Mode.inHead tok)) s (StepPost tok) := by
  refine (sat_insertPhantom (ht.place (by rw [hm]; rfl))).bind ?_
  intro h s1 hins
  refine sat_modS_bind ?_
  obtain ⟨h1, h2⟩ := headInserted_post ht hm hins
  exact sat_pure (StepPost.reprocess h1 h2)

theorem stepBeforeHead_spec : ∀ (tok : Token) (s : State), TI s → s.mode = .beforeHead →
    Sat (stepBeforeHead tok) s (StepPost tok) := by
  intro tok s ht hm
  have hpre : preRoot s.mode = false := by rw [hm]; rfl
  unfold stepBeforeHead
  cases tok with
  | chars st text =>
    cases st with
    | notSplit => exact sat_pure (StepPost.of_same ht (Same.refl s) rfl trivial)
    | whitespace => exact sat_pure (StepPost.of_same ht (Same.refl s) rfl trivial)
    | notWhitespace => exact beforeHead_else ht hm
  | comment text =>
    exact (sat_appendComment (ht.place hpre)).mono
      (by rintro r s' ⟨rfl, hq⟩; exact StepPost.of_qf ht hq rfl trivial)
  | tag t =>
    dsimp only
    refine sat_ite (fun h1 => sat_stepInBody_html ht hpre h1) fun h1 => ?_
    refine sat_ite (fun h2 => ?_) fun h2 => ?_
    · refine (sat_insertElementFor (ht.place hpre)).bind ?_
      intro h s1 hins
      rw [start_name h2] at hins
      refine sat_modS_bind ?_
      obtain ⟨h1, h2⟩ := headInserted_post ht hm hins
      refine sat_setMode.bind ?_
      rintro _ s2 rfl
      exact sat_pure ⟨h1.withMode _, h2.withMode _, trivial⟩
    refine sat_ite (fun h3 => beforeHead_else ht hm) fun h3 => ?_
    refine sat_ite (fun h4 => sat_unexpected_post ht) fun h4 => ?_
    exact beforeHead_else ht hm
  | nullChar => exact beforeHead_else ht hm
  | eof => exact beforeHead_else ht hm

/-! ### InHeadNoscript -/

theorem noscript_pop {s : State} (ht : TI s) (hm : s.mode = .inHeadNoscript) :
    Sat pop s (fun _ s' => HInv s' ∧ SInv .inHead s') := by
  have hs : SInv .inHeadNoscript s := by have := ht.s; rw [hm] at this; exact this
  obtain ⟨⟨x, hx, hxn⟩, t, hlast, -⟩ := hs.stack
  refine (sat_pop hlast).mono ?_
  rintro _ s' ⟨-, st⟩
  have hlen : 2 ≤ s.openElems.length := by
    have h1 : 0 < s.openElems.dropLast.length := List.length_pos_of_mem hx
    rw [List.length_dropLast] at h1
    omega
  refine ⟨ht.h.of_st st (fun y hy => List.dropLast_subset _ hy), ?_⟩
  exact SInv.shrink ht.h hs st (List.dropLast_sublist _) (by decide)
    (fun _ => rooted_dropLast (hs.root rfl) hlen) ⟨x, hx, hxn⟩ (fun _ => hs.head rfl) (by decide) (by decide)

theorem noscript_else {tok : Token} {s : State} (ht : TI s) (hm : s.mode = .inHeadNoscript) :
    Sat (do
      let _ ← unexpected
      let _ ← pop
      pure (ProcessResult.reprocess Mode.inHead tok)) s (StepPost tok) := by
  refine sat_unexpected.bind ?_
  rintro _ s1 ⟨-, hq⟩
  refine (noscript_pop (ht.of_qf hq) (by rw [hq.mode]; exact hm)).bind ?_
  rintro _ s2 ⟨h1, h2⟩
  exact sat_pure (StepPost.reprocess h1 h2)

theorem stepInHeadNoscript_spec (hh : HeadSpec) : ∀ (tok : Token) (s : State), TI s → s.mode = .inHeadNoscript →
    Sat (stepInHeadNoscript tok) s (StepPost tok) := by
  intro tok s ht hm
  have hpre : preRoot s.mode = false := by rw [hm]; rfl
  have hok : origOk s.mode = true := by rw [hm]; rfl
  unfold stepInHeadNoscript
  cases tok with
  | chars st text =>
    cases st with
    | notSplit => exact sat_pure (StepPost.of_same ht (Same.refl s) rfl trivial)
    | whitespace => exact hh _ s ht hok (Or.inr rfl)
    | notWhitespace => exact noscript_else ht hm
  | comment text => exact hh _ s ht hok (Or.inr rfl)
  | tag t =>
    dsimp only
    refine sat_ite (fun h1 => sat_stepInBody_html ht hpre h1) fun h1 => ?_
    refine sat_ite (fun h2 => ?_) fun h2 => ?_
    · refine (noscript_pop ht hm).bind ?_
      rintro _ s1 ⟨h1, h2⟩
      refine sat_setMode.bind ?_
      rintro _ s2 rfl
      exact sat_pure ⟨h1.withMode _, h2.withMode _, trivial⟩
    refine sat_ite (fun h3 => ?_) fun h3 => ?_
    · refine hh _ s ht hok (Or.inr ?_)
      simp only [headDeleg, Bool.or_eq_true]
      exact Or.inl (isStart_sub (by simp) h3)
    refine sat_ite (fun h4 => noscript_else ht hm) fun h4 => ?_
    refine sat_ite (fun h5 => sat_unexpected_post ht) fun h5 => ?_
    exact noscript_else ht hm
  | nullChar => exact noscript_else ht hm
  | eof => exact noscript_else ht hm

/-! ### AfterHead -/

/-- a fresh element (neither `template` nor `head`) was inserted in a body-like mode -/
theorem TI.of_inserted {s s1 : State} {r : Id} {name : Str} {pushIt : Bool} (ht : TI s)
    (hpre : preRoot s.mode = false) (hbl : bodyLike s.mode = true)
    (hins : Inserted s s1 r nsHtml name pushIt) (hn : NewOk ⟨nsHtml, name⟩) : TI s1 := by
  have b := BStep.of_inserted ht.h (ht.rooted hpre) hins hn
  exact ⟨b.hinv, by rw [b.mode]; exact ht.s.of_bstep ht.h b hbl (Keeps.of_inserted hins)⟩

theorem afterHead_else {tok : Token} {s : State} (ht : TI s) (hm : s.mode = .afterHead) :
    Sat (do
      let _ ← insertPhantom "body"
      pure (ProcessResult.reprocess Mode.inBody tok)) s (StepPost tok) := by
  have hpre : preRoot s.mode = false := by rw [hm]; rfl
  refine (sat_insertPhantom (ht.place hpre)).bind ?_
  intro h s1 hins
  have ht1 := ht.of_inserted hpre (by rw [hm]; rfl) hins (NewOk.lit (by decide) (by decide))
  have hm1 : s1.mode = .afterHead := by rw [hins.fr.mode]; exact hm
  have hpre1 : preRoot s1.mode = false := by rw [hm1]; rfl
  exact sat_pure (StepPost.reprocess ht1.h (ht1.s.plain (by rw [hm1]; decide) (ht1.rooted hpre1) rfl))

theorem stepAfterHead_spec (hh : HeadSpec) (hah : AfterHeadBlockSpec) : ∀ (tok : Token) (s : State), TI s →
    s.mode = .afterHead → Sat (stepAfterHead tok) s (StepPost tok) := by
  intro tok s ht hm
  have hpre : preRoot s.mode = false := by rw [hm]; rfl
  have hok : origOk s.mode = true := by rw [hm]; rfl
  have hbl : bodyLike s.mode = true := by rw [hm]; rfl
  unfold stepAfterHead
  cases tok with
  | chars st text =>
    cases st with
    | notSplit => exact sat_pure (StepPost.of_same ht (Same.refl s) rfl trivial)
    | whitespace =>
      exact (sat_appendText (ht.place hpre)).mono
        (by rintro r s' ⟨rfl, hq⟩; exact StepPost.of_qf ht hq rfl trivial)
    | notWhitespace => exact afterHead_else ht hm
  | comment text =>
    exact (sat_appendComment (ht.place hpre)).mono
      (by rintro r s' ⟨rfl, hq⟩; exact StepPost.of_qf ht hq rfl trivial)
  | tag t =>
    dsimp only
    refine sat_ite (fun h1 => sat_stepInBody_html ht hpre h1) fun h1 => ?_
    refine sat_ite (fun h2 => ?_) fun h2 => ?_
    · refine (sat_insertElementFor (ht.place hpre)).bind ?_
      intro h s1 hins
      have ht1 := ht.of_inserted hpre hbl hins (by rw [start_name h2]; exact NewOk.lit (by decide) (by decide))
      refine sat_setFramesetOk.bind ?_
      intro _ s2 st2
      have ht2 := ht1.of_same st2
      have hm2 : s2.mode = .afterHead := by rw [st2.fr.mode, hins.fr.mode]; exact hm
      refine sat_setMode.bind ?_
      rintro _ s3 rfl
      exact sat_pure (StepPost.of_ti (ht2.setPlain (by rw [hm2]; rfl) (by rw [hm2]; decide) (m := .inBody) rfl)
        rfl trivial)
    refine sat_ite (fun h3 => ?_) fun h3 => ?_
    · refine (sat_insertElementFor (ht.place hpre)).bind ?_
      intro h s1 hins
      have ht1 := ht.of_inserted hpre hbl hins (by rw [start_name h3]; exact NewOk.lit (by decide) (by decide))
      have hm1 : s1.mode = .afterHead := by rw [hins.fr.mode]; exact hm
      refine sat_setMode.bind ?_
      rintro _ s3 rfl
      exact sat_pure (StepPost.of_ti (ht1.setPlain (by rw [hm1]; rfl) (by rw [hm1]; decide) (m := .inFrameset) rfl)
        rfl trivial)
    by_cases h4 : t.isStart
        ["base", "basefont", "bgsound", "link", "meta", "noframes", "script", "style", "template", "title"] = true
    · rw [if_pos h4]
      refine sat_unexpected.bind ?_
      rintro _ s1 ⟨-, hq⟩
      refine sat_getS_bind ?_
      have ht1 := ht.of_qf hq
      have hm1 : s1.mode = .afterHead := by rw [hq.mode]; exact hm
      have hsome : s1.headElem.isSome = true := by
        have := ht1.s; rw [hm1] at this; exact this.head rfl
      cases hhd : s1.headElem with
      | none => rw [hhd] at hsome; cases hsome
      | some head => exact hah _ head s1 ht1 hm1 hhd h4
    rw [if_neg h4]
    refine sat_ite (fun h5 => ?_) fun h5 => ?_
    · refine hh _ s ht hok (Or.inr ?_)
      simp only [headDeleg, Bool.or_eq_true]
      exact Or.inr h5
    refine sat_ite (fun h6 => afterHead_else ht hm) fun h6 => ?_
    refine sat_ite (fun h7 => sat_unexpected_post ht) fun h7 => ?_
    exact afterHead_else ht hm
  | nullChar => exact afterHead_else ht hm
  | eof => exact afterHead_else ht hm

/-! ### Text -/

theorem sat_textProto {α : Type} {s : State} {Q : α → State → Prop} (ha : al.text) :
    Sat (panicAt "unreachable" "rules.rs:1037" "impossible case in Text mode" : M α) s Q := by
  unfold panicAt
  refine sat_throw ?_
  have : ("unreachable" ++ "@" ++ "rules.rs:1037" ++ ": " ++ "impossible case in Text mode" : String)
      = textProtoMsg := rfl
  rw [this]; exact Benign.textProto ha

/-- the raw-text element has been popped: the original mode can be restored -/
theorem text_popped {s s' : State} (ht : TI s) (hm : s.mode = .text) (st : St s s' s.openElems.dropLast) :
    ∃ om, s'.origMode = some om ∧ om ≠ .text ∧ ∀ m', HInv { s' with origMode := none, mode := m' } ∧
      SInv om { s' with origMode := none, mode := m' } := by
  have hs : SInv .text s := by have := ht.s; rw [hm] at this; exact this
  obtain ⟨om, ho, hok, hlen, hst, hhd⟩ := hs.text rfl
  have hnt : om ≠ .text := by rintro rfl; revert hok; decide
  have hntt : om ≠ .inTableText := by rintro rfl; revert hok; decide
  have hpre : preRoot om = false → Rooted s.dom s.openElems.dropLast :=
    fun _ => rooted_dropLast (hs.root rfl) hlen
  have h1 : HInv s' := ht.h.of_st st (fun y hy => List.dropLast_subset _ hy)
  have h2 : SInv om s' :=
    SInv.shrink ht.h hs st (List.dropLast_sublist _) (by decide) hpre hst hhd hnt hntt
  refine ⟨om, by rw [st.fr.origMode]; exact ho, hnt, fun m' => ⟨?_, ?_⟩⟩
  · exact ⟨h1.open_el, h1.open_tc, h1.af, h1.head, h1.form, h1.ctx⟩
  · exact ⟨h2.root, h2.stack, h2.head, h2.headIn, fun e => absurd e hnt, fun e => absurd e hntt, h2.pending,
      h2.tmpl, h2.tmodes⟩

theorem text_top {s : State} (ht : TI s) (hm : s.mode = .text) : ∃ t, s.openElems.getLast? = some t := by
  have hs : SInv .text s := by have := ht.s; rw [hm] at this; exact this
  obtain ⟨t, h, -⟩ := hs.stack
  exact ⟨t, h⟩

theorem stepText_spec : ∀ (tok : Token) (s : State), TI s → s.mode = .text →
    (al.text ∨ textTok tok = true) → Sat (stepText tok) s (StepPost tok) := by
  intro tok s ht hm hprot
  have hpre : preRoot s.mode = false := by rw [hm]; rfl
  unfold stepText
  cases tok with
  | chars st text =>
    exact (sat_appendText (ht.place hpre)).mono
      (by rintro r s' ⟨rfl, hq⟩; exact StepPost.of_qf ht hq rfl trivial)
  | comment text => exact sat_textProto (hprot.resolve_right (by simp [textTok]))
  | nullChar => exact sat_textProto (hprot.resolve_right (by decide))
  | tag t =>
    dsimp only
    refine sat_ite (fun h1 => ?_) fun h1 => ?_
    · obtain ⟨top, htop⟩ := text_top ht hm
      refine (sat_pop htop).bind ?_
      rintro node s1 ⟨-, st⟩
      refine sat_getS_bind ?_
      obtain ⟨om, ho, hnt, hfin⟩ := text_popped ht hm st
      rw [ho]
      dsimp only
      refine sat_set_bind ?_
      obtain ⟨h1, h2⟩ := hfin om
      split
      · exact sat_pure ⟨h1, h2, rfl⟩
      · exact sat_pure ⟨h1, h2, trivial⟩
    refine sat_textProto (hprot.resolve_right ?_)
    simpa [textTok] using h1
  | eof =>
    dsimp only
    have htail : ∀ s1, QF s s1 → Sat (do
        let _ ← pop
        let s ← getS
        match s.origMode with
          | none => panicAt "unwrap-none" "rules.rs:1023" "orig_mode.take().unwrap()"
          | some m => do
            set { s with origMode := none }
            pure (ProcessResult.reprocess m Token.eof)) s1 (StepPost .eof) := by
      intro s1 hq
      have ht1 := ht.of_qf hq
      have hm1 : s1.mode = .text := by rw [hq.mode]; exact hm
      obtain ⟨top, htop⟩ := text_top ht1 hm1
      refine (sat_pop htop).bind ?_
      rintro node s2 ⟨-, st⟩
      refine sat_getS_bind ?_
      obtain ⟨om, ho, hnt, hfin⟩ := text_popped ht1 hm1 st
      rw [ho]
      dsimp only
      refine sat_set_bind ?_
      obtain ⟨h1, h2⟩ := hfin s2.mode
      exact sat_pure (StepPost.reprocess h1 h2 hnt)
    refine sat_unexpected.bind ?_
    rintro _ s1 ⟨-, hq1⟩
    have ht1 := ht.of_qf hq1
    have hm1 : s1.mode = .text := by rw [hq1.mode]; exact hm
    obtain ⟨top, htop⟩ := text_top ht1 hm1
    refine (sat_currentNodeNamed htop (ht1.h.open_el top (getLast?_mem htop))).bind ?_
    rintro b s2 ⟨-, hq2⟩
    have hq := hq1.trans hq2
    split
    · refine sat_getS_bind ?_
      have htop2 : s2.openElems.getLast? = some top := by rw [hq2.openElems]; exact htop
      rw [htop2]
      dsimp only
      refine Sat.bind (Q := fun c s3 => s3 = s2) (sat_pure rfl) ?_
      rintro c s3 rfl
      refine (sat_sinkUnit_total ⟨_, _, apply_mark _ _⟩).bind ?_
      intro _ s4 hq4
      exact htail s4 (hq.trans hq4)
    · exact htail s2 hq

/-! ### InTemplate -/

theorem body_deleg (hb : BodySpec) {tok : Token} {s : State} (ht : TI s) (hbl : bodyLike s.mode = true)
    (h1 : s.mode ≠ .inHead) (h2 : s.mode ≠ .inTableText) (h3 : s.mode ≠ .inCell) :
    Sat (stepInBody tok) s (StepPost tok) :=
  (hb tok s ht hbl h1 (fun e => absurd e h2) (fun e => absurd e h3)).mono (fun _ _ h => h.1)

theorem sat_setTemplateMode_reprocess {tok : Token} {m : Mode} {s : State} (ht : TI s) (hm : s.mode = .inTemplate)
    (hok : tmplModeOk m = true) (hp : plainMode m = true) :
    Sat (do setTemplateMode m; pure (ProcessResult.reprocess m tok)) s (StepPost tok) := by
  unfold setTemplateMode
  refine sat_modS_bind ?_
  have hs : SInv .inTemplate s := by have := ht.s; rw [hm] at this; exact this
  refine sat_pure (StepPost.reprocess ⟨ht.h.open_el, ht.h.open_tc, ht.h.af, ht.h.head, ht.h.form, ht.h.ctx⟩ ?_
    (plainMode_ne_text hp))
  have hs' : SInv .inTemplate { s with templateModes := s.templateModes.dropLast ++ [m] } := by
    refine ⟨hs.root, hs.stack, hs.head, hs.headIn, hs.text, hs.tableText, hs.pending, ?_, ?_⟩
    · show tcount s.dom s.openElems + ctxTmpl s ≤ (s.templateModes.dropLast ++ [m]).length
      have := hs.tmpl
      simp only [List.length_append, List.length_dropLast, List.length_singleton]
      omega
    · show ∀ x ∈ s.templateModes.dropLast ++ [m], tmplModeOk x = true
      intro x hx
      rcases List.mem_append.mp hx with hx | hx
      · exact hs.tmodes x (List.dropLast_subset _ hx)
      · rw [List.mem_singleton.mp hx]; exact hok
  exact hs'.plain (by decide) (hs.root rfl) hp

theorem stepInTemplate_spec (hh : HeadSpec) (hb : BodySpec) (hte : TemplateEofSpec) : ∀ (tok : Token) (s : State),
    TI s → s.mode = .inTemplate → Sat (stepInTemplate tok) s (StepPost tok) := by
  intro tok s ht hm
  have hok : origOk s.mode = true := by rw [hm]; rfl
  have hbody : ∀ tok, Sat (stepInBody tok) s (StepPost tok) := fun tok =>
    body_deleg hb ht (by rw [hm]; rfl) (by rw [hm]; decide) (by rw [hm]; decide) (by rw [hm]; decide)
  unfold stepInTemplate
  cases tok with
  | chars st text => exact hbody _
  | comment text => exact hbody _
  | nullChar => exact sat_unexpected_post ht
  | eof => exact hte s ht hok
  | tag t =>
    dsimp only
    by_cases h1 : (t.isStart
        ["base", "basefont", "bgsound", "link", "meta", "noframes", "script", "style", "template", "title"] ||
        t.isEnd ["template"]) = true
    · rw [if_pos h1]; exact hh _ s ht hok (Or.inr h1)
    rw [if_neg h1]
    refine sat_ite (fun h2 => sat_setTemplateMode_reprocess ht hm rfl rfl) fun h2 => ?_
    refine sat_ite (fun h3 => sat_setTemplateMode_reprocess ht hm rfl rfl) fun h3 => ?_
    refine sat_ite (fun h4 => sat_setTemplateMode_reprocess ht hm rfl rfl) fun h4 => ?_
    refine sat_ite (fun h5 => sat_setTemplateMode_reprocess ht hm rfl rfl) fun h5 => ?_
    refine sat_ite (fun h6 => sat_setTemplateMode_reprocess ht hm rfl rfl) fun h6 => ?_
    exact sat_unexpected_post ht

/-! ### AfterBody -/

theorem sat_commentToHtml_post {tok : Token} {text : Str} {s : State} (ht : TI s) (hpre : preRoot s.mode = false) :
    Sat (appendCommentToHtml text) s (StepPost tok) := by
  obtain ⟨r, rest, hl, -⟩ := ht.rooted hpre
  exact (sat_appendCommentToHtml hl).mono (by rintro r s' ⟨rfl, hq⟩; exact StepPost.of_qf ht hq rfl trivial)

theorem sat_commentToDoc_post {tok : Token} {text : Str} {s : State} (ht : TI s) :
    Sat (appendCommentToDoc text) s (StepPost tok) :=
  sat_appendCommentToDoc.mono (by rintro r s' ⟨rfl, hq⟩; exact StepPost.of_qf ht hq rfl trivial)

theorem stepAfterBody_spec (hb : BodySpec) : ∀ (tok : Token) (s : State), TI s → s.mode = .afterBody →
    Sat (stepAfterBody tok) s (StepPost tok) := by
  intro tok s ht hm
  have hpre : preRoot s.mode = false := by rw [hm]; rfl
  have hntt : s.mode ≠ .inTableText := by rw [hm]; decide
  have helse : ∀ tok, Sat (do let _ ← unexpected; pure (ProcessResult.reprocess Mode.inBody tok)) s (StepPost tok) :=
    fun tok => sat_unexpected_reprocess ht hpre hntt rfl
  unfold stepAfterBody
  cases tok with
  | chars st text =>
    cases st with
    | notSplit => exact sat_pure (StepPost.of_same ht (Same.refl s) rfl trivial)
    | whitespace => exact body_deleg hb ht (by rw [hm]; rfl) (by rw [hm]; decide) hntt (by rw [hm]; decide)
    | notWhitespace => exact helse _
  | comment text => exact sat_commentToHtml_post ht hpre
  | nullChar => exact helse _
  | eof => exact sat_pure (StepPost.of_same ht (Same.refl s) rfl trivial)
  | tag t =>
    dsimp only
    refine sat_ite (fun h1 => sat_stepInBody_html ht hpre h1) fun h1 => ?_
    refine sat_ite (fun h2 => ?_) fun h2 => ?_
    · refine sat_isFragment.bind ?_
      rintro b s1 ⟨-, rfl⟩
      split
      · refine sat_unexpected.bind ?_
        rintro _ s2 ⟨-, hq⟩
        exact sat_pure (StepPost.of_qf ht hq rfl trivial)
      · refine sat_setMode.bind ?_
        rintro _ s2 rfl
        exact sat_pure (StepPost.of_ti (ht.setPlain hpre hntt (m := .afterAfterBody) rfl) rfl trivial)
    exact helse _

/-! ### InFrameset -/

theorem stepInFrameset_spec (hh : HeadSpec) : ∀ (tok : Token) (s : State), TI s → s.mode = .inFrameset →
    Sat (stepInFrameset tok) s (StepPost tok) := by
  intro tok s ht hm
  have hpre : preRoot s.mode = false := by rw [hm]; rfl
  have hntt : s.mode ≠ .inTableText := by rw [hm]; decide
  have hbl : bodyLike s.mode = true := by rw [hm]; rfl
  have hok : origOk s.mode = true := by rw [hm]; rfl
  unfold stepInFrameset
  cases tok with
  | chars st text =>
    cases st with
    | notSplit => exact sat_pure (StepPost.of_same ht (Same.refl s) rfl trivial)
    | whitespace =>
      exact (sat_appendText (ht.place hpre)).mono
        (by rintro r s' ⟨rfl, hq⟩; exact StepPost.of_qf ht hq rfl trivial)
    | notWhitespace => exact sat_unexpected_post ht
  | comment text =>
    exact (sat_appendComment (ht.place hpre)).mono
      (by rintro r s' ⟨rfl, hq⟩; exact StepPost.of_qf ht hq rfl trivial)
  | nullChar => exact sat_unexpected_post ht
  | eof =>
    dsimp only
    refine sat_getS_bind ?_
    split
    · refine sat_unexpected.bind ?_
      rintro _ s2 ⟨-, hq⟩
      exact sat_pure (StepPost.of_qf ht hq rfl trivial)
    · exact sat_pure (StepPost.of_same ht (Same.refl s) rfl trivial)
  | tag t =>
    dsimp only
    refine sat_ite (fun h1 => sat_stepInBody_html ht hpre h1) fun h1 => ?_
    refine sat_ite (fun h2 => ?_) fun h2 => ?_
    · refine (sat_insertElementFor (ht.place hpre)).bind ?_
      intro h s1 hins
      have ht1 := ht.of_inserted hpre hbl hins (by rw [start_name h2]; exact NewOk.lit (by decide) (by decide))
      exact sat_pure (StepPost.of_ti ht1 rfl trivial)
    refine sat_ite (fun h3 => ?_) fun h3 => ?_
    · refine sat_getS_bind ?_
      split
      · refine sat_unexpected.bind ?_
        rintro _ s2 ⟨-, hq⟩
        exact sat_pure (StepPost.of_qf ht hq rfl trivial)
      · rename_i hlen
        have hr := ht.rooted hpre
        have hne : s.openElems ≠ [] := by obtain ⟨r, rest, hl, -⟩ := hr; rw [hl]; simp
        obtain ⟨top, htop⟩ := getLast?_of_ne_nil hne
        have hlen2 : 2 ≤ s.openElems.length := by
          have h0 : 0 < s.openElems.length := List.length_pos_iff.mpr hne
          have h1 : s.openElems.length ≠ 1 := by simpa using hlen
          omega
        have hne' : s.openElems.dropLast ≠ [] := by
          intro e
          have := congrArg List.length e
          rw [List.length_dropLast] at this
          simp at this; omega
        refine (sat_pop htop).bind ?_
        rintro _ s1 ⟨-, st⟩
        have b : BStep s s1 := BStep.of_st ht.h hr (dropLast_append_getLast htop) hne' st
        have hk : Keeps (modeNeed s.mode) s s1 := by rw [hm]; intro x hx hp; cases hp
        have ht1 : TI s1 := ⟨b.hinv, by rw [b.mode]; exact ht.s.of_bstep ht.h b hbl hk⟩
        have hm1 : s1.mode = .inFrameset := by rw [b.mode]; exact hm
        have htail : ∀ (toAfter : Bool) (s2 : State), TI s2 → s2.mode = .inFrameset →
            Sat (if toAfter = true then do
                  setMode Mode.afterFrameset
                  pure ProcessResult.done
                else pure ProcessResult.done) s2 (StepPost (Token.tag t)) := by
          intro toAfter s2 ht2 hm2
          split
          · refine sat_setMode.bind ?_
            rintro _ s3 rfl
            exact sat_pure (StepPost.of_ti
              (ht2.setPlain (by rw [hm2]; rfl) (by rw [hm2]; decide) (m := .afterFrameset) rfl) rfl trivial)
          · exact sat_pure (StepPost.of_ti ht2 rfl trivial)
        refine sat_isFragment.bind ?_
        rintro fb s1' ⟨-, rfl⟩
        split
        · exact sat_pure_bind (htail _ _ ht1 hm1)
        · have hne1 : s1'.openElems ≠ [] := by rw [st.openElems]; exact hne'
          obtain ⟨top1, htop1⟩ := getLast?_of_ne_nil hne1
          refine (sat_currentNodeNamed htop1 (ht1.h.open_el top1 (getLast?_mem htop1))).bind ?_
          rintro nb s2 ⟨-, hq2⟩
          exact sat_pure_bind (htail _ _ (ht1.of_qf hq2) (by rw [hq2.mode]; exact hm1))
    refine sat_ite (fun h4 => ?_) fun h4 => ?_
    · refine (sat_insertAndPopElementFor (ht.place hpre)).bind ?_
      intro h s1 hins
      have ht1 := ht.of_inserted hpre hbl hins (by rw [start_name h4]; exact NewOk.lit (by decide) (by decide))
      exact sat_pure (StepPost.of_ti ht1 rfl trivial)
    refine sat_ite (fun h5 => ?_) fun h5 => ?_
    · refine hh _ s ht hok (Or.inr ?_)
      simp only [headDeleg, Bool.or_eq_true]
      exact Or.inl (isStart_sub (by simp) h5)
    exact sat_unexpected_post ht

/-! ### AfterFrameset -/

theorem stepAfterFrameset_spec (hh : HeadSpec) : ∀ (tok : Token) (s : State), TI s → s.mode = .afterFrameset →
    Sat (stepAfterFrameset tok) s (StepPost tok) := by
  intro tok s ht hm
  have hpre : preRoot s.mode = false := by rw [hm]; rfl
  have hntt : s.mode ≠ .inTableText := by rw [hm]; decide
  have hok : origOk s.mode = true := by rw [hm]; rfl
  unfold stepAfterFrameset
  cases tok with
  | chars st text =>
    cases st with
    | notSplit => exact sat_pure (StepPost.of_same ht (Same.refl s) rfl trivial)
    | whitespace =>
      exact (sat_appendText (ht.place hpre)).mono
        (by rintro r s' ⟨rfl, hq⟩; exact StepPost.of_qf ht hq rfl trivial)
    | notWhitespace => exact sat_unexpected_post ht
  | comment text =>
    exact (sat_appendComment (ht.place hpre)).mono
      (by rintro r s' ⟨rfl, hq⟩; exact StepPost.of_qf ht hq rfl trivial)
  | nullChar => exact sat_unexpected_post ht
  | eof => exact sat_pure (StepPost.of_same ht (Same.refl s) rfl trivial)
  | tag t =>
    dsimp only
    refine sat_ite (fun h1 => sat_stepInBody_html ht hpre h1) fun h1 => ?_
    refine sat_ite (fun h2 => ?_) fun h2 => ?_
    · refine sat_setMode.bind ?_
      rintro _ s2 rfl
      exact sat_pure (StepPost.of_ti (ht.setPlain hpre hntt (m := .afterAfterFrameset) rfl) rfl trivial)
    refine sat_ite (fun h3 => ?_) fun h3 => ?_
    · refine hh _ s ht hok (Or.inr ?_)
      simp only [headDeleg, Bool.or_eq_true]
      exact Or.inl (isStart_sub (by simp) h3)
    exact sat_unexpected_post ht

/-! ### AfterAfterBody -/

theorem stepAfterAfterBody_spec (hb : BodySpec) : ∀ (tok : Token) (s : State), TI s → s.mode = .afterAfterBody →
    Sat (stepAfterAfterBody tok) s (StepPost tok) := by
  intro tok s ht hm
  have hpre : preRoot s.mode = false := by rw [hm]; rfl
  have hntt : s.mode ≠ .inTableText := by rw [hm]; decide
  have helse : ∀ tok, Sat (do let _ ← unexpected; pure (ProcessResult.reprocess Mode.inBody tok)) s (StepPost tok) :=
    fun tok => sat_unexpected_reprocess ht hpre hntt rfl
  unfold stepAfterAfterBody
  cases tok with
  | chars st text =>
    cases st with
    | notSplit => exact sat_pure (StepPost.of_same ht (Same.refl s) rfl trivial)
    | whitespace => exact body_deleg hb ht (by rw [hm]; rfl) (by rw [hm]; decide) hntt (by rw [hm]; decide)
    | notWhitespace => exact helse _
  | comment text => exact sat_commentToDoc_post ht
  | nullChar => exact helse _
  | eof => exact sat_pure (StepPost.of_same ht (Same.refl s) rfl trivial)
  | tag t =>
    dsimp only
    refine sat_ite (fun h1 => sat_stepInBody_html ht hpre h1) fun h1 => ?_
    exact helse _

/-! ### AfterAfterFrameset -/

theorem stepAfterAfterFrameset_spec (hh : HeadSpec) (hb : BodySpec) : ∀ (tok : Token) (s : State), TI s →
    s.mode = .afterAfterFrameset → Sat (stepAfterAfterFrameset tok) s (StepPost tok) := by
  intro tok s ht hm
  have hpre : preRoot s.mode = false := by rw [hm]; rfl
  have hntt : s.mode ≠ .inTableText := by rw [hm]; decide
  have hok : origOk s.mode = true := by rw [hm]; rfl
  unfold stepAfterAfterFrameset
  cases tok with
  | chars st text =>
    cases st with
    | notSplit => exact sat_pure (StepPost.of_same ht (Same.refl s) rfl trivial)
    | whitespace => exact body_deleg hb ht (by rw [hm]; rfl) (by rw [hm]; decide) hntt (by rw [hm]; decide)
    | notWhitespace => exact sat_unexpected_post ht
  | comment text => exact sat_commentToDoc_post ht
  | nullChar => exact sat_unexpected_post ht
  | eof => exact sat_pure (StepPost.of_same ht (Same.refl s) rfl trivial)
  | tag t =>
    dsimp only
    refine sat_ite (fun h1 => sat_stepInBody_html ht hpre h1) fun h1 => ?_
    refine sat_ite (fun h2 => ?_) fun h2 => ?_
    · refine hh _ s ht hok (Or.inr ?_)
      simp only [headDeleg, Bool.or_eq_true]
      exact Or.inl (isStart_sub (by simp) h2)
    exact sat_unexpected_post ht

end H5V.Lemmas.TBSafe
