import H5V.Model.HtmlTB
import H5V.Lemmas.HtmlTBMetaBase
import H5V.Lemmas.HtmlTBSafeRun
import H5V.Lemmas.HtmlParseSpecFrame
/-!
How `process_token` changes the insertion mode, the options and the quirks mode.

* `processToken_enters_text` — the "text" insertion mode is only entered by a tag token that is answered
  with `RawData k`;
* `processToken_text_endTag` — in the "text" insertion mode an end tag leaves the mode;
* `processToken_opts` — the options never change;
* `processToken_initial` — the "initial" insertion mode is never re-entered, and while the builder
  stays in it the quirks mode is untouched.

Machinery (all in the sub-namespace `TextMode`):
* `Fr m` — the frame judgement: `m` leaves `mode`, `orig_mode`, `template_modes`, `opts` and the quirks
  mode alone (all helper algorithms of mod.rs but `set_mode`, `set_quirks_mode`, `to_raw_text_mode`);
* `PI m` — `m` keeps `opts` and the walk invariant `I` (no template mode and — in "in table text" —
  no original mode is "text"/"initial", the mode is neither "text" nor "initial");
* `HR tok m` — for a rule `m` handed the token `tok`: `opts` is kept, and from a state satisfying `I`
  the rule ends in "text" only with the answer `ToRawData` (then `tok` is a tag), it re-processes only
  `tok` and only in a mode that is neither "text" nor "initial", …;
* `VS tok m` — `step_foreign`: frame only, or a run of `step mode tok` for the current mode;
* `Ok m s Q` (HtmlParseSpecFrame.lean) — partial correctness of one run, for the three rules that read `orig_mode`
  (`Text`, `InTableText`) or write the quirks mode (`Initial`), the loop of `process_to_completion`
  and `process_token`.
-/
namespace H5V.Lemmas.ParseSpec.TextMode
open H5V.Model.Dom (Id QualName Attr NodeOrText SinkOp Output ElementFlags QuirksMode Dom)
open H5V.Model.HtmlTB
open H5V.Model.HtmlTok (RawKind)
open H5V.Lemmas.TBM

/-! ## the frame -/

/-- the components the helper algorithms never touch -/
def frT (s : State) : Mode × Option Mode × List Mode × Opts × QuirksMode :=
  (s.mode, s.origMode, s.templateModes, s.opts, s.quirksMode)

structure FrAt {α : Type} (s : State) (m : M α) : Prop where
  h : ∀ a s', m s = .ok (a, s') → frT s' = frT s

/-- `m` leaves `mode`, `orig_mode`, `template_modes`, `opts`, `quirks_mode` alone -/
class Fr {α : Type} (m : M α) : Prop where
  h : ∀ s, FrAt s m

theorem fr_run {α : Type} {m : M α} (h : Fr m) {s s' : State} {a : α} (e : m s = .ok (a, s')) :
    frT s' = frT s := (h.h s).h a s' e

instance fr_pure {α : Type} (a : α) : Fr (pure a : M α) :=
  ⟨fun _ => ⟨fun _ _ e => by obtain ⟨_, rfl⟩ := pure_ok.mp e; rfl⟩⟩
instance fr_throw {α : Type} (e : String) : Fr (throw e : M α) := ⟨fun _ => ⟨fun _ _ h => absurd h throw_ok⟩⟩
instance fr_panicAt {α : Type} (c f t : String) : Fr (panicAt c f t : M α) :=
  ⟨fun _ => ⟨fun _ _ h => absurd h throw_ok⟩⟩
instance fr_fuelOut {α : Type} (w : String) : Fr (fuelOut w : M α) := ⟨fun _ => ⟨fun _ _ h => absurd h throw_ok⟩⟩
instance fr_getS : Fr getS := ⟨fun _ => ⟨fun _ _ e => by obtain ⟨_, rfl⟩ := getS_ok.mp e; rfl⟩⟩
instance fr_sink (op : SinkOp) : Fr (sink op) :=
  ⟨fun _ => ⟨fun _ _ e => by obtain ⟨d, _, rfl⟩ := sink_ok.mp e; rfl⟩⟩

theorem fr_modS {g : State → State} (h : ∀ s, frT (g s) = frT s) : Fr (modS g) :=
  ⟨fun s => ⟨fun _ _ e => by rw [modS_ok.mp e]; exact h s⟩⟩

theorem fr_bind {α β : Type} {m : M α} {f : α → M β} (h1 : Fr m) (h2 : ∀ a, Fr (f a)) : Fr (m >>= f) :=
  ⟨fun s => ⟨fun b s'' e => by
    obtain ⟨a, s', e1, e2⟩ := bind_ok.mp e
    exact (fr_run (h2 a) e2).trans (fr_run h1 e1)⟩⟩

theorem fr_getS_bind {β : Type} {f : State → M β} (h : ∀ s, FrAt s (f s)) : Fr (getS >>= f) :=
  ⟨fun s => ⟨fun b s'' e => by
    obtain ⟨a, s', e1, e2⟩ := bind_ok.mp e
    obtain ⟨rfl, rfl⟩ := getS_ok.mp e1
    exact (h _).h b s'' e2⟩⟩

theorem frAt_of {α : Type} {m : M α} (h : Fr m) (s : State) : FrAt s m := h.h s

theorem frAt_set_bind {β : Type} {x s : State} {k : Unit → M β} (hx : frT x = frT s) (h : ∀ u, Fr (k u)) :
    FrAt s (set x >>= k) :=
  ⟨fun b s'' e => by
    obtain ⟨u, s', e1, e2⟩ := bind_ok.mp e
    rw [set_ok.mp e1] at e2
    exact (fr_run (h u) e2).trans hx⟩

theorem frAt_set {x s : State} (hx : frT x = frT s) : FrAt s (set x : M Unit) :=
  ⟨fun _ _ e => by rw [set_ok.mp e]; exact hx⟩

theorem fr_ite {α : Type} {c : Prop} [Decidable c] {a b : M α} (ha : Fr a) (hb : Fr b) :
    Fr (if c then a else b) := by
  split
  · exact ha
  · exact hb

theorem frAt_ite {α : Type} {s : State} {c : Prop} [Decidable c] {a b : M α} (ha : FrAt s a) (hb : FrAt s b) :
    FrAt s (if c then a else b) := by
  split
  · exact ha
  · exact hb

/-- one step of the walk over a helper algorithm (rule order as in `fb_step`, HtmlParseSpecFrame.lean) -/
syntax "tmx_fr_step" : tactic
macro_rules
  | `(tactic| tmx_fr_step) => `(tactic|
    first
      | (with_reducible refine fr_getS_bind (fun _ => ?_))
      | ((with_reducible refine fr_bind ?_ (fun _ => ?_)); first | exact inferInstance | skip)
      | (with_reducible refine frAt_set_bind rfl (fun _ => ?_))
      | (with_reducible exact frAt_set rfl)
      | (with_reducible refine fr_ite ?_ ?_)
      | (with_reducible refine frAt_ite ?_ ?_)
      | intro _
      | with_reducible assumption
      | exact inferInstance
      | exact fr_modS (fun _ => rfl)
      | split
      | (with_reducible refine frAt_of ?_ _)
      | dsimp only)

syntax "tmx_fr" : tactic
macro_rules
  | `(tactic| tmx_fr) => `(tactic| repeat' tmx_fr_step)

/-- the helper algorithms (`Fb`, HtmlParseSpecFrame.lean) keep this frame -/
instance (priority := low) fr_of_fb {α : Type} {m : M α} [h : Fb m] : Fr m :=
  ⟨fun _ => ⟨fun _ _ e => by
    have := fb_run h e
    simp only [frB, Prod.mk.injEq] at this
    simp only [frT, Prod.mk.injEq]
    exact ⟨this.1, this.2.1, this.2.2.1, this.2.2.2.1, this.2.2.2.2.1⟩⟩⟩

instance : Fr pendingTableTextEmpty := by unfold pendingTableTextEmpty; tmx_fr


/-! ## the walk invariant -/

/-- a mode the builder may switch to without `orig_mode` bookkeeping -/
def okM (m : Mode) : Bool := !(m == .text || m == .initial || m == .inTableText)

/-- the original insertion mode is neither "text" nor "initial" -/
def origNT (s : State) : Prop := s.origMode ≠ some .text ∧ s.origMode ≠ some .initial

/-- the invariant of a walk over a rule: no template mode is "text"/"initial"/"in table text"; in
"in table text" the original mode is neither "text" nor "initial"; the mode is neither -/
structure I (s : State) : Prop where
  tm : ∀ x ∈ s.templateModes, okM x = true
  tt : s.mode = .inTableText → origNT s
  nt : s.mode ≠ .text
  ni : s.mode ≠ .initial

theorem frT_eq {s s' : State} (h : frT s' = frT s) :
    s'.mode = s.mode ∧ s'.origMode = s.origMode ∧ s'.templateModes = s.templateModes ∧ s'.opts = s.opts ∧
      s'.quirksMode = s.quirksMode := by
  simpa only [frT, Prod.mk.injEq] using h

theorem I.of_fr {s s' : State} (hi : I s) (h : frT s' = frT s) : I s' := by
  obtain ⟨h1, h2, h3, _, _⟩ := frT_eq h
  exact ⟨by rw [h3]; exact hi.tm, by rw [h1]; unfold origNT; rw [h2]; exact hi.tt, by rw [h1]; exact hi.nt,
    by rw [h1]; exact hi.ni⟩

theorem okM_ne {m : Mode} (h : okM m = true) : m ≠ .text ∧ m ≠ .initial ∧ m ≠ .inTableText := by
  cases m <;> first | (exact ⟨by decide, by decide, by decide⟩) | (revert h; decide)

theorem I.withMode {s : State} (hi : I s) {m : Mode} (h : okM m = true) : I { s with mode := m } :=
  ⟨hi.tm, fun e => absurd e (okM_ne h).2.2, (okM_ne h).1, (okM_ne h).2.1⟩

/-! ## `PI`: `opts` and the walk invariant are kept -/

structure PIAt {α : Type} (s : State) (m : M α) : Prop where
  h : ∀ a s', m s = .ok (a, s') → I s → I s'

class PI {α : Type} (m : M α) : Prop where
  h : ∀ s, PIAt s m

theorem pi_run {α : Type} {m : M α} (h : PI m) {s s' : State} {a : α} (e : m s = .ok (a, s')) :
    I s → I s' := (h.h s).h a s' e

theorem pi_of_fr {α : Type} {m : M α} (h : Fr m) : PI m :=
  ⟨fun _ => ⟨fun _ _ e hi => hi.of_fr (fr_run h e)⟩⟩

instance (priority := low) pi_inst_fr {α : Type} {m : M α} [h : Fr m] : PI m := pi_of_fr h

theorem pi_bind {α β : Type} {m : M α} {f : α → M β} (h1 : PI m) (h2 : ∀ a, PI (f a)) : PI (m >>= f) :=
  ⟨fun s => ⟨fun b s'' e => by
    obtain ⟨a, s', e1, e2⟩ := bind_ok.mp e
    exact fun hi => pi_run (h2 a) e2 (pi_run h1 e1 hi)⟩⟩

theorem pi_getS_bind {β : Type} {f : State → M β} (h : ∀ s, PIAt s (f s)) : PI (getS >>= f) :=
  ⟨fun s => ⟨fun b s'' e => by
    obtain ⟨a, s', e1, e2⟩ := bind_ok.mp e
    obtain ⟨rfl, rfl⟩ := getS_ok.mp e1
    exact (h _).h b s'' e2⟩⟩

theorem piAt_of {α : Type} {m : M α} (h : PI m) (s : State) : PIAt s m := h.h s

theorem piAt_set_bind {β : Type} {x s : State} {k : Unit → M β} (hx : frT x = frT s) (h : ∀ u, PI (k u)) :
    PIAt s (set x >>= k) :=
  ⟨fun b s'' e => by
    obtain ⟨u, s', e1, e2⟩ := bind_ok.mp e
    rw [set_ok.mp e1] at e2
    exact fun hi => pi_run (h u) e2 (hi.of_fr hx)⟩

theorem pi_ite {α : Type} {c : Prop} [Decidable c] {a b : M α} (ha : PI a) (hb : PI b) :
    PI (if c then a else b) := by
  split
  · exact ha
  · exact hb

theorem piAt_ite {α : Type} {s : State} {c : Prop} [Decidable c] {a b : M α} (ha : PIAt s a) (hb : PIAt s b) :
    PIAt s (if c then a else b) := by
  split
  · exact ha
  · exact hb

theorem pi_modS {g : State → State} (h : ∀ s, I s → I (g s)) : PI (modS g) :=
  ⟨fun s => ⟨fun _ _ e => by rw [modS_ok.mp e]; exact h s⟩⟩

theorem pi_setMode {m : Mode} (h : okM m = true) : PI (setMode m) := by
  unfold setMode
  exact pi_modS (fun s hi => hi.withMode h)

instance (q : QuirksMode) : PI (setQuirksMode q) := by
  unfold setQuirksMode
  refine pi_bind (pi_modS (fun s hi => ⟨hi.tm, hi.tt, hi.nt, hi.ni⟩)) (fun _ => inferInstance)

theorem pi_pushTemplateMode :
    PI (modS fun s => { s with templateModes := s.templateModes ++ [.inTemplate] }) := by
  refine pi_modS (fun s hi => ⟨?_, hi.tt, hi.nt, hi.ni⟩)
  intro x hx
  rcases List.mem_append.mp hx with h | h
  · exact hi.tm x h
  · rw [List.mem_singleton.mp h]; rfl

theorem pi_popTemplateMode :
    PI (modS fun s => { s with templateModes := s.templateModes.dropLast }) := by
  refine pi_modS (fun s hi => ⟨?_, hi.tt, hi.nt, hi.ni⟩)
  intro x hx
  exact hi.tm x (List.dropLast_subset _ hx)

theorem pi_setTemplateMode {m : Mode} (h : okM m = true) : PI (setTemplateMode m) := by
  unfold setTemplateMode
  refine pi_modS (fun s hi => ⟨?_, hi.tt, hi.nt, hi.ni⟩)
  intro x hx
  rcases List.mem_append.mp hx with h' | h'
  · exact hi.tm x (List.dropLast_subset _ h')
  · rw [List.mem_singleton.mp h']; exact h

/-! ## `HR`: the rules -/

def isTagTok : Token → Bool
  | .tag _ => true
  | _ => false

/-- an answer that neither re-processes nor switches the tokenizer to a raw-text state -/
def Plain : ProcessResult → Bool
  | .reprocess _ _ => false
  | .reprocessForeign _ => false
  | .toRawData _ => false
  | _ => true

/-- what a rule that was handed `tok` guarantees (from a state satisfying `I`) -/
structure RQ (tok : Token) (s' : State) (a : ProcessResult) : Prop where
  tm : ∀ x ∈ s'.templateModes, okM x = true
  tt : s'.mode = .inTableText → origNT s'
  ni : s'.mode ≠ .initial
  text : s'.mode = .text → (∃ k, a = .toRawData k) ∧ origNT s'
  raw : ∀ k, a = .toRawData k → isTagTok tok = true
  rep : ∀ m t, a = .reprocess m t → t = tok ∧ m ≠ .text ∧ m ≠ .initial ∧ (m = .inTableText → origNT s')
  nrf : ∀ t, a ≠ .reprocessForeign t

theorem RQ.of_fr {tok : Token} {s s' : State} {a : ProcessResult} (hq : RQ tok s a) (h : frT s' = frT s) :
    RQ tok s' a := by
  obtain ⟨h1, h2, h3, _, _⟩ := frT_eq h
  have ho : origNT s' ↔ origNT s := by unfold origNT; rw [h2]
  exact ⟨by rw [h3]; exact hq.tm, by rw [h1, ho]; exact hq.tt, by rw [h1]; exact hq.ni, by rw [h1, ho]; exact hq.text,
    hq.raw, fun m t e => by rw [ho]; exact hq.rep m t e, hq.nrf⟩

theorem RQ.plain {tok : Token} {s : State} {a : ProcessResult} (hi : I s) (h : Plain a = true) : RQ tok s a :=
  ⟨hi.tm, hi.tt, hi.ni, fun e => absurd e hi.nt, fun k e => (by rw [e] at h; cases h),
    fun m t e => (by rw [e] at h; cases h), fun t e => (by rw [e] at h; cases h)⟩

theorem RQ.reprocess {tok : Token} {s : State} {m : Mode} (hi : I s) (h : okM m = true) :
    RQ tok s (.reprocess m tok) :=
  ⟨hi.tm, hi.tt, hi.ni, fun e => absurd e hi.nt, fun k e => (by cases e),
    fun m' t e => (by cases e; exact ⟨rfl, (okM_ne h).1, (okM_ne h).2.1, fun e => absurd e (okM_ne h).2.2⟩),
    fun t e => (by cases e)⟩

structure HRAt (s : State) (tok : Token) (m : M ProcessResult) : Prop where
  h : ∀ a s', m s = .ok (a, s') → I s → RQ tok s' a

class HR (tok : Token) (m : M ProcessResult) : Prop where
  h : ∀ s, HRAt s tok m

theorem hr_run {tok : Token} {m : M ProcessResult} (h : HR tok m) {s s' : State} {a : ProcessResult}
    (e : m s = .ok (a, s')) : I s → RQ tok s' a := (h.h s).h a s' e

theorem hr_pure_plain {tok : Token} {a : ProcessResult} (h : Plain a = true) : HR tok (pure a) :=
  ⟨fun _ => ⟨fun _ _ e => by obtain ⟨rfl, rfl⟩ := pure_ok.mp e; exact fun hi => RQ.plain hi h⟩⟩

theorem hr_pure_rep {tok : Token} {m : Mode} (h : okM m = true) : HR tok (pure (.reprocess m tok)) :=
  ⟨fun _ => ⟨fun _ _ e => by obtain ⟨rfl, rfl⟩ := pure_ok.mp e; exact fun hi => RQ.reprocess hi h⟩⟩

instance hr_throw {tok : Token} (e : String) : HR tok (throw e) := ⟨fun _ => ⟨fun _ _ h => absurd h throw_ok⟩⟩
instance hr_panicAt {tok : Token} (c f t : String) : HR tok (panicAt c f t) :=
  ⟨fun _ => ⟨fun _ _ h => absurd h throw_ok⟩⟩
instance hr_fuelOut {tok : Token} (w : String) : HR tok (fuelOut w) := ⟨fun _ => ⟨fun _ _ h => absurd h throw_ok⟩⟩

theorem hr_bind {α : Type} {tok : Token} {m : M α} {f : α → M ProcessResult} (h1 : PI m) (h2 : ∀ a, HR tok (f a)) :
    HR tok (m >>= f) :=
  ⟨fun s => ⟨fun b s'' e => by
    obtain ⟨a, s', e1, e2⟩ := bind_ok.mp e
    exact fun hi => hr_run (h2 a) e2 (pi_run h1 e1 hi)⟩⟩

theorem hr_getS_bind {tok : Token} {f : State → M ProcessResult} (h : ∀ s, HRAt s tok (f s)) : HR tok (getS >>= f) :=
  ⟨fun s => ⟨fun b s'' e => by
    obtain ⟨a, s', e1, e2⟩ := bind_ok.mp e
    obtain ⟨rfl, rfl⟩ := getS_ok.mp e1
    exact (h _).h b s'' e2⟩⟩

theorem hrAt_of {tok : Token} {m : M ProcessResult} (h : HR tok m) (s : State) : HRAt s tok m := h.h s

theorem hrAt_set_bind {tok : Token} {x s : State} {k : Unit → M ProcessResult} (hx : frT x = frT s)
    (h : ∀ u, HR tok (k u)) : HRAt s tok (set x >>= k) :=
  ⟨fun b s'' e => by
    obtain ⟨u, s', e1, e2⟩ := bind_ok.mp e
    rw [set_ok.mp e1] at e2
    exact fun hi => hr_run (h u) e2 (hi.of_fr hx)⟩

theorem hr_ite {tok : Token} {c : Prop} [Decidable c] {a b : M ProcessResult} (ha : HR tok a) (hb : HR tok b) :
    HR tok (if c then a else b) := by
  split
  · exact ha
  · exact hb

theorem hrAt_ite {tok : Token} {s : State} {c : Prop} [Decidable c] {a b : M ProcessResult} (ha : HRAt s tok a)
    (hb : HRAt s tok b) : HRAt s tok (if c then a else b) := by
  split
  · exact ha
  · exact hb

/-- `m` answers `a` and keeps the frame -/
structure FrRet {α : Type} (a : α) (m : M α) : Prop where
  h : ∀ s b s', m s = .ok (b, s') → b = a ∧ frT s' = frT s

theorem frRet_pure {α : Type} (a : α) : FrRet a (pure a : M α) :=
  ⟨fun _ _ _ e => by obtain ⟨rfl, rfl⟩ := pure_ok.mp e; exact ⟨rfl, rfl⟩⟩

theorem frRet_bind {α β : Type} {b : β} {m : M α} {f : α → M β} (h1 : Fr m) (h2 : ∀ a, FrRet b (f a)) :
    FrRet b (m >>= f) :=
  ⟨fun s c s'' e => by
    obtain ⟨a, s', e1, e2⟩ := bind_ok.mp e
    obtain ⟨r, f2⟩ := (h2 a).h s' c s'' e2
    exact ⟨r, f2.trans (fr_run h1 e1)⟩⟩

/-- a rule whose answer is handed on after some frame-keeping clean-up -/
theorem hr_ret {tok : Token} {m : M ProcessResult} {f : ProcessResult → M ProcessResult} (h1 : HR tok m)
    (h2 : ∀ a, FrRet a (f a)) : HR tok (m >>= f) :=
  ⟨fun s => ⟨fun b s'' e => by
    obtain ⟨a, s', e1, e2⟩ := bind_ok.mp e
    obtain ⟨rfl, f2⟩ := (h2 a).h s' b s'' e2
    exact fun hi => (hr_run h1 e1 hi).of_fr f2⟩⟩

/-! ### `reset_insertion_mode` answers an acceptable mode -/

theorem ok_fr {α : Type} (m : M α) [h : Fr m] (s : State) : Ok m s (fun _ s' => frT s' = frT s) :=
  fun _ _ e => fr_run h e

theorem ok_fr_bind {α β : Type} {m : M α} [h : Fr m] {f : α → M β} {s : State} {Q : β → State → Prop}
    (h2 : ∀ a s1, frT s1 = frT s → Ok (f a) s1 Q) : Ok (m >>= f) s Q :=
  ok_bind (ok_fr m s) h2

theorem ok_resetLoop : ∀ (l : List Id) (n : Nat) (s : State), (∀ x ∈ s.templateModes, okM x = true) →
    Ok (resetLoop l n) s (fun m _ => okM m = true)
  | [], _, s, _ => by unfold resetLoop; exact ok_pure rfl
  | _ :: rest, n, s, htm => by
    unfold resetLoop
    refine ok_getS_bind ?_
    dsimp only
    refine ok_fr_bind ?_
    intro nm s1 hf
    have htm1 : ∀ x ∈ s1.templateModes, okM x = true := by rw [(frT_eq hf).2.2.1]; exact htm
    have ih := ok_resetLoop rest (n - 1) s1 htm1
    repeat' (first | exact ih | exact ok_pure rfl | exact ok_panicAt | refine ok_ite (fun _ => ?_) (fun _ => ?_) | split)
    rename_i hm
    exact ok_pure (htm _ (List.mem_of_getLast? hm))

theorem ok_resetInsertionMode {s : State} (htm : ∀ x ∈ s.templateModes, okM x = true) :
    Ok resetInsertionMode s (fun m _ => okM m = true) := by
  unfold resetInsertionMode
  exact ok_getS_bind (ok_resetLoop _ _ s htm)

theorem hr_bind_reset {tok : Token} {f : Mode → M ProcessResult} (h : ∀ m, okM m = true → HR tok (f m)) :
    HR tok (resetInsertionMode >>= f) :=
  ⟨fun s => ⟨fun b s'' e => by
    obtain ⟨a, s', e1, e2⟩ := bind_ok.mp e
    have hf := fr_run (inferInstance : Fr resetInsertionMode) e1
    exact fun hi => hr_run (h a (ok_resetInsertionMode hi.tm a s' e1)) e2 (hi.of_fr hf)⟩⟩


/-- one step of the walk over a rule (as `tmx_fr_step`: rules that fire by head symbol first, those for the
judgement of a rule before those for the helpers inside it) -/
syntax "tmx_step" : tactic
macro_rules
  | `(tactic| tmx_step) => `(tactic|
    first
      | (with_reducible refine hr_bind_reset (fun _ _ => ?_))
      | (with_reducible refine hr_getS_bind (fun _ => ?_))
      | ((with_reducible refine hr_bind ?_ (fun _ => ?_)); first | exact inferInstance | skip)
      | (with_reducible refine hr_ite ?_ ?_)
      | (with_reducible refine hrAt_set_bind rfl (fun _ => ?_))
      | (with_reducible refine hrAt_ite ?_ ?_)
      | (with_reducible refine pi_getS_bind (fun _ => ?_))
      | ((with_reducible refine pi_bind ?_ (fun _ => ?_)); first | exact inferInstance | skip)
      | (with_reducible refine pi_ite ?_ ?_)
      | (with_reducible refine piAt_set_bind rfl (fun _ => ?_))
      | (with_reducible refine piAt_ite ?_ ?_)
      | (with_reducible refine fr_getS_bind (fun _ => ?_))
      | ((with_reducible refine fr_bind ?_ (fun _ => ?_)); first | exact inferInstance | skip)
      | (with_reducible refine fr_ite ?_ ?_)
      | (with_reducible refine frAt_set_bind rfl (fun _ => ?_))
      | (with_reducible exact frAt_set rfl)
      | (with_reducible refine frAt_ite ?_ ?_)
      | intro _
      | with_reducible assumption
      | exact inferInstance
      | exact hr_pure_plain rfl
      | exact hr_pure_rep rfl
      | exact hr_pure_rep (by assumption)
      | exact fr_modS (fun _ => rfl)
      | exact pi_of_fr (fr_modS (fun _ => rfl))
      | exact pi_setMode rfl
      | exact pi_setMode (by assumption)
      | exact pi_setTemplateMode rfl
      | exact pi_pushTemplateMode
      | exact pi_popTemplateMode
      | split
      | (with_reducible refine hrAt_of ?_ _)
      | (with_reducible refine piAt_of ?_ _)
      | (with_reducible refine frAt_of ?_ _)
      | dsimp only)

syntax "tmx_walk" : tactic
macro_rules
  | `(tactic| tmx_walk) => `(tactic| repeat' tmx_step)

/-! ### the two places that write `orig_mode` -/

instance hr_toRawTextMode (tag : Tag) (k : RawKind) : HR (.tag tag) (toRawTextMode k) :=
  ⟨fun s => ⟨fun a s' e hi => by
    unfold toRawTextMode at e
    obtain ⟨u, s1, e1, e2⟩ := bind_ok.mp e
    rw [modS_ok.mp e1] at e2
    obtain ⟨rfl, rfl⟩ := pure_ok.mp e2
    exact ⟨hi.tm, fun h => (by cases h), fun h => (by cases h),
      fun _ => ⟨⟨k, rfl⟩, fun h => hi.nt (Option.some.inj h), fun h => hi.ni (Option.some.inj h)⟩, fun _ _ => rfl,
      fun m t h => (by cases h), fun t h => (by cases h)⟩⟩⟩

theorem hr_charsToTableText (tok : Token) :
    HR tok (do modS fun s => { s with origMode := some s.mode }; pure (.reprocess .inTableText tok)) :=
  ⟨fun s => ⟨fun a s' e hi => by
    obtain ⟨u, s1, e1, e2⟩ := bind_ok.mp e
    rw [modS_ok.mp e1] at e2
    obtain ⟨rfl, rfl⟩ := pure_ok.mp e2
    have ho : origNT { s with origMode := some s.mode } :=
      ⟨fun h => hi.nt (Option.some.inj h), fun h => hi.ni (Option.some.inj h)⟩
    exact ⟨hi.tm, fun _ => ho, hi.ni, fun h => absurd h hi.nt, fun _ h => (by cases h),
      fun m t h => (by cases h; exact ⟨rfl, by decide, by decide, fun _ => ho⟩), fun t h => (by cases h)⟩⟩⟩

instance (tag tag' : Tag) (k : RawKind) : HR (.tag tag) (parseRawData tag' k) := by unfold parseRawData; tmx_walk

/-! ### helpers -/

instance {tok : Token} : HR tok unexpected := by unfold unexpected; tmx_walk
instance {tok : Token} (t : Str) : HR tok (appendText t) := by unfold appendText; tmx_walk
instance {tok : Token} (t : Str) : HR tok (appendComment t) := by unfold appendComment; tmx_walk
instance {tok : Token} (t : Str) : HR tok (appendCommentToDoc t) := by unfold appendCommentToDoc; tmx_walk
instance {tok : Token} (t : Str) : HR tok (appendCommentToHtml t) := by unfold appendCommentToHtml; tmx_walk
instance {tok : Token} (tag : Tag) : HR tok (inBodyHtml tag) := by unfold inBodyHtml; tmx_walk
instance {tok : Token} (tag : Tag) : HR tok (inBodyVoid tag) := by unfold inBodyVoid; tmx_walk
instance {tok : Token} (tag : Tag) (ns : Str) : HR tok (enterForeign tag ns) := by unfold enterForeign; tmx_walk
instance {tok : Token} (tag : Tag) : HR tok (foreignStartTag tag) := by unfold foreignStartTag; tmx_walk
instance : HR .eof inTemplateEof := by unfold inTemplateEof; tmx_walk

/-! ### the insertion modes -/

instance (tok : Token) : HR tok (stepInHead tok) := by unfold stepInHead; tmx_walk


macro_rules
  | `(tactic| tmx_step) => `(tactic|
    first
      | (with_reducible exact hr_charsToTableText _)
      | (with_reducible refine hr_ret (inferInstance : HR _ (stepInHead _)) ?_)
      | (with_reducible refine frRet_bind ?_ ?_)
      | (with_reducible exact frRet_pure _))

instance (tok : Token) : HR tok (stepBeforeHtml tok) := by unfold stepBeforeHtml; tmx_walk
instance (tok : Token) : HR tok (stepInBody tok) := by unfold stepInBody; tmx_walk

macro_rules
  | `(tactic| tmx_step) => `(tactic|
      (with_reducible refine hr_ret (inferInstance : HR _ (stepInBody _)) ?_))

instance (tok : Token) : HR tok (stepBeforeHead tok) := by unfold stepBeforeHead; tmx_walk
instance (tok : Token) : HR tok (stepInHeadNoscript tok) := by unfold stepInHeadNoscript; tmx_walk
instance (tok : Token) : HR tok (stepAfterHead tok) := by unfold stepAfterHead; tmx_walk
instance (tok : Token) : HR tok (fosterParentInBody tok) := by unfold fosterParentInBody; tmx_walk
instance (tok : Token) : HR tok (processCharsInTable tok) := by unfold processCharsInTable; tmx_walk
instance (tok : Token) : HR tok (stepInTable tok) := by unfold stepInTable; tmx_walk
instance (tok : Token) : HR tok (stepInCaption tok) := by unfold stepInCaption; tmx_walk
instance (tok : Token) : HR tok (stepInColumnGroup tok) := by unfold stepInColumnGroup; tmx_walk
instance (tok : Token) : HR tok (stepInTableBody tok) := by unfold stepInTableBody; tmx_walk
instance (tok : Token) : HR tok (stepInRow tok) := by unfold stepInRow; tmx_walk
instance (tok : Token) : HR tok (stepInCell tok) := by unfold stepInCell; tmx_walk
instance (tok : Token) : HR tok (stepInTemplate tok) := by unfold stepInTemplate; tmx_walk
instance (tok : Token) : HR tok (stepAfterBody tok) := by unfold stepAfterBody; tmx_walk
instance (tok : Token) : HR tok (stepInFrameset tok) := by unfold stepInFrameset; tmx_walk
instance (tok : Token) : HR tok (stepAfterFrameset tok) := by unfold stepAfterFrameset; tmx_walk
instance (tok : Token) : HR tok (stepAfterAfterBody tok) := by unfold stepAfterAfterBody; tmx_walk
instance (tok : Token) : HR tok (stepAfterAfterFrameset tok) := by unfold stepAfterAfterFrameset; tmx_walk


/-! ## `KO`: the options are never written -/

structure KOAt {α : Type} (s : State) (m : M α) : Prop where
  h : ∀ a s', m s = .ok (a, s') → s'.opts = s.opts

class KO {α : Type} (m : M α) : Prop where
  h : ∀ s, KOAt s m

theorem ko_run {α : Type} {m : M α} (h : KO m) {s s' : State} {a : α} (e : m s = .ok (a, s')) :
    s'.opts = s.opts := (h.h s).h a s' e

instance (priority := low) ko_inst_fr {α : Type} {m : M α} [h : Fr m] : KO m :=
  ⟨fun _ => ⟨fun _ _ e => (frT_eq (fr_run h e)).2.2.2.1⟩⟩

theorem ko_modS {g : State → State} (h : ∀ s, (g s).opts = s.opts) : KO (modS g) :=
  ⟨fun s => ⟨fun _ _ e => by rw [modS_ok.mp e]; exact h s⟩⟩

theorem ko_bind {α β : Type} {m : M α} {f : α → M β} (h1 : KO m) (h2 : ∀ a, KO (f a)) : KO (m >>= f) :=
  ⟨fun s => ⟨fun b s'' e => by
    obtain ⟨a, s', e1, e2⟩ := bind_ok.mp e
    exact (ko_run (h2 a) e2).trans (ko_run h1 e1)⟩⟩

theorem ko_getS_bind {β : Type} {f : State → M β} (h : ∀ s, KOAt s (f s)) : KO (getS >>= f) :=
  ⟨fun s => ⟨fun b s'' e => by
    obtain ⟨a, s', e1, e2⟩ := bind_ok.mp e
    obtain ⟨rfl, rfl⟩ := getS_ok.mp e1
    exact (h _).h b s'' e2⟩⟩

theorem koAt_of {α : Type} {m : M α} (h : KO m) (s : State) : KOAt s m := h.h s

theorem koAt_set_bind {β : Type} {x s : State} {k : Unit → M β} (hx : x.opts = s.opts) (h : ∀ u, KO (k u)) :
    KOAt s (set x >>= k) :=
  ⟨fun b s'' e => by
    obtain ⟨u, s', e1, e2⟩ := bind_ok.mp e
    rw [set_ok.mp e1] at e2
    exact (ko_run (h u) e2).trans hx⟩

theorem koAt_set {x s : State} (hx : x.opts = s.opts) : KOAt s (set x : M Unit) :=
  ⟨fun _ _ e => by rw [set_ok.mp e]; exact hx⟩

theorem ko_ite {α : Type} {c : Prop} [Decidable c] {a b : M α} (ha : KO a) (hb : KO b) :
    KO (if c then a else b) := by
  split
  · exact ha
  · exact hb

theorem koAt_ite {α : Type} {s : State} {c : Prop} [Decidable c] {a b : M α} (ha : KOAt s a) (hb : KOAt s b) :
    KOAt s (if c then a else b) := by
  split
  · exact ha
  · exact hb

syntax "tmx_ko_step" : tactic
macro_rules
  | `(tactic| tmx_ko_step) => `(tactic|
    first
      | (with_reducible refine ko_getS_bind (fun _ => ?_))
      | ((with_reducible refine ko_bind ?_ (fun _ => ?_)); first | exact inferInstance | skip)
      | (with_reducible refine ko_ite ?_ ?_)
      | (with_reducible refine koAt_set_bind rfl (fun _ => ?_))
      | (with_reducible exact koAt_set rfl)
      | (with_reducible refine koAt_ite ?_ ?_)
      | intro _
      | with_reducible assumption
      | exact inferInstance
      | exact ko_modS (fun _ => rfl)
      | split
      | (with_reducible refine koAt_of ?_ _)
      | dsimp only)

syntax "tmx_ko" : tactic
macro_rules
  | `(tactic| tmx_ko) => `(tactic| repeat' tmx_ko_step)

instance (m : Mode) : KO (setMode m) := by unfold setMode; tmx_ko
instance (q : QuirksMode) : KO (setQuirksMode q) := by unfold setQuirksMode; tmx_ko
instance (k : RawKind) : KO (toRawTextMode k) := by unfold toRawTextMode; tmx_ko
instance (tag : Tag) (k : RawKind) : KO (parseRawData tag k) := by unfold parseRawData; tmx_ko
instance (m : Mode) : KO (setTemplateMode m) := by unfold setTemplateMode; tmx_ko
instance : KO inTemplateEof := by unfold inTemplateEof; tmx_ko
instance (tok : Token) : KO (stepInitial tok) := by unfold stepInitial; tmx_ko
instance (tok : Token) : KO (stepBeforeHtml tok) := by unfold stepBeforeHtml; tmx_ko
instance (tok : Token) : KO (stepInHead tok) := by unfold stepInHead; tmx_ko
instance (tok : Token) : KO (stepInBody tok) := by unfold stepInBody; tmx_ko
instance (tok : Token) : KO (stepBeforeHead tok) := by unfold stepBeforeHead; tmx_ko
instance (tok : Token) : KO (stepInHeadNoscript tok) := by unfold stepInHeadNoscript; tmx_ko
instance (tok : Token) : KO (stepAfterHead tok) := by unfold stepAfterHead; tmx_ko
instance (tok : Token) : KO (stepText tok) := by unfold stepText; tmx_ko
instance (tok : Token) : KO (fosterParentInBody tok) := by unfold fosterParentInBody; tmx_ko
instance (tok : Token) : KO (processCharsInTable tok) := by unfold processCharsInTable; tmx_ko
instance (tok : Token) : KO (stepInTable tok) := by unfold stepInTable; tmx_ko
theorem ko_flushPendingFoster : ∀ l, KO (flushPendingFoster l)
  | [] => by unfold flushPendingFoster; tmx_ko
  | (_, _) :: rest => by
    have ih := ko_flushPendingFoster rest
    unfold flushPendingFoster; tmx_ko
instance (l : List (SplitStatus × Str)) : KO (flushPendingFoster l) := ko_flushPendingFoster l
instance (tok : Token) : KO (stepInTableText tok) := by unfold stepInTableText; tmx_ko
instance : KO flushPendingTableText := by unfold flushPendingTableText; tmx_ko
instance (tok : Token) : KO (stepInCaption tok) := by unfold stepInCaption; tmx_ko
instance (tok : Token) : KO (stepInColumnGroup tok) := by unfold stepInColumnGroup; tmx_ko
instance (tok : Token) : KO (stepInTableBody tok) := by unfold stepInTableBody; tmx_ko
instance (tok : Token) : KO (stepInRow tok) := by unfold stepInRow; tmx_ko
instance (tok : Token) : KO (stepInCell tok) := by unfold stepInCell; tmx_ko
instance (tok : Token) : KO (stepInTemplate tok) := by unfold stepInTemplate; tmx_ko
instance (tok : Token) : KO (stepAfterBody tok) := by unfold stepAfterBody; tmx_ko
instance (tok : Token) : KO (stepInFrameset tok) := by unfold stepInFrameset; tmx_ko
instance (tok : Token) : KO (stepAfterFrameset tok) := by unfold stepAfterFrameset; tmx_ko
instance (tok : Token) : KO (stepAfterAfterBody tok) := by unfold stepAfterAfterBody; tmx_ko
instance (tok : Token) : KO (stepAfterAfterFrameset tok) := by unfold stepAfterAfterFrameset; tmx_ko
instance (mode : Mode) (tok : Token) : KO (step mode tok) := by
  cases mode <;> (unfold step; exact inferInstance)
instance (tag : Tag) : KO (unexpectedStartTagInForeignContent tag) := by
  unfold unexpectedStartTagInForeignContent; tmx_ko
theorem ko_foreignEndTagLoop (tag : Tag) : ∀ i first, KO (foreignEndTagLoop tag i first)
  | 0, _ => by unfold foreignEndTagLoop; tmx_ko
  | i + 1, _ => by
    have ih := ko_foreignEndTagLoop tag i
    unfold foreignEndTagLoop; tmx_ko
instance (tag : Tag) (i : Nat) (first : Bool) : KO (foreignEndTagLoop tag i first) := ko_foreignEndTagLoop tag i first
instance (tok : Token) : KO (stepForeign tok) := by unfold stepForeign; tmx_ko

theorem ko_ptc : ∀ (fuel : Nat) (tok : Token) (more : List Token), KO (processToCompletion fuel tok more) := by
  intro fuel
  induction fuel with
  | zero => intro tok more; unfold processToCompletion; exact inferInstance
  | succ fuel ih =>
    intro tok more
    have hk : ∀ r, KO (TBSafe.ptcCont fuel tok more r) := by
      intro r; unfold TBSafe.ptcCont; tmx_ko
      all_goals exact ih _ _
    rw [TBSafe.processToCompletion_succ]
    tmx_ko
    all_goals exact hk _
instance (fuel : Nat) (tok : Token) (more : List Token) : KO (processToCompletion fuel tok more) := ko_ptc fuel tok more

instance (t : TokToken) (line : Nat) : KO (processToken t line) := by unfold processToken; tmx_ko


/-! ## `step_foreign`: frame only, or the rule of the current insertion mode -/

/-- the run kept the frame and answered plainly, or it was — from a state with the same frame — a run
of the rule of the current insertion mode for the same token -/
def ViaStep (tok : Token) (s : State) (a : ProcessResult) (s' : State) : Prop :=
  (frT s' = frT s ∧ Plain a = true) ∨ ∃ s1, frT s1 = frT s ∧ step s1.mode tok s1 = .ok (a, s')

class VS (tok : Token) (m : M ProcessResult) : Prop where
  h : ∀ s a s', m s = .ok (a, s') → ViaStep tok s a s'

theorem vs_pure_plain {tok : Token} {a : ProcessResult} (h : Plain a = true) : VS tok (pure a) :=
  ⟨fun _ _ _ e => by obtain ⟨rfl, rfl⟩ := pure_ok.mp e; exact Or.inl ⟨rfl, h⟩⟩

instance vs_throw {tok : Token} (e : String) : VS tok (throw e) := ⟨fun _ _ _ h => absurd h throw_ok⟩
instance vs_panicAt {tok : Token} (c f t : String) : VS tok (panicAt c f t) := ⟨fun _ _ _ h => absurd h throw_ok⟩
instance vs_fuelOut {tok : Token} (w : String) : VS tok (fuelOut w) := ⟨fun _ _ _ h => absurd h throw_ok⟩

theorem vs_bind {α : Type} {tok : Token} {m : M α} {f : α → M ProcessResult} (h1 : Fr m) (h2 : ∀ a, VS tok (f a)) :
    VS tok (m >>= f) :=
  ⟨fun s b s'' e => by
    obtain ⟨a, s', e1, e2⟩ := bind_ok.mp e
    have hf := fr_run h1 e1
    rcases (h2 a).h s' b s'' e2 with ⟨h3, h4⟩ | ⟨s1, h3, h4⟩
    · exact Or.inl ⟨h3.trans hf, h4⟩
    · exact Or.inr ⟨s1, h3.trans hf, h4⟩⟩

theorem vs_step (tok : Token) : VS tok (getS >>= fun s => step s.mode tok) :=
  ⟨fun s b s'' e => by
    obtain ⟨a, s', e1, e2⟩ := bind_ok.mp e
    obtain ⟨rfl, rfl⟩ := getS_ok.mp e1
    exact Or.inr ⟨_, rfl, e2⟩⟩

theorem vs_ite {tok : Token} {c : Prop} [Decidable c] {a b : M ProcessResult} (ha : VS tok a) (hb : VS tok b) :
    VS tok (if c then a else b) := by
  split
  · exact ha
  · exact hb

syntax "tmx_vs_step" : tactic
macro_rules
  | `(tactic| tmx_vs_step) => `(tactic|
    first
      | (with_reducible exact vs_step _)
      | (with_reducible refine vs_bind (by tmx_fr) (fun _ => ?_))
      | (with_reducible refine vs_ite ?_ ?_)
      | intro _
      | with_reducible assumption
      | exact inferInstance
      | exact vs_pure_plain rfl
      | split
      | dsimp only)

syntax "tmx_vs" : tactic
macro_rules
  | `(tactic| tmx_vs) => `(tactic| repeat' tmx_vs_step)

instance {tok : Token} (t : Str) : VS tok (appendText t) := by unfold appendText; tmx_vs
instance {tok : Token} (t : Str) : VS tok (appendComment t) := by unfold appendComment; tmx_vs
instance (tag : Tag) : VS (.tag tag) (foreignStartTag tag) := by unfold foreignStartTag; tmx_vs
instance (tag : Tag) : VS (.tag tag) (unexpectedStartTagInForeignContent tag) := by
  unfold unexpectedStartTagInForeignContent; tmx_vs
theorem vs_foreignEndTagLoop (tag : Tag) : ∀ i first, VS (.tag tag) (foreignEndTagLoop tag i first)
  | 0, _ => by unfold foreignEndTagLoop; tmx_vs
  | i + 1, _ => by
    have ih := vs_foreignEndTagLoop tag i
    unfold foreignEndTagLoop; tmx_vs
instance (tag : Tag) (i : Nat) (first : Bool) : VS (.tag tag) (foreignEndTagLoop tag i first) :=
  vs_foreignEndTagLoop tag i first
instance (tok : Token) : VS tok (stepForeign tok) := by unfold stepForeign; tmx_vs


/-! ## one iteration of `process_to_completion` -/

/-- the invariant of the loop of `process_to_completion`: no template mode is "text"/"initial"/"in
table text"; where `orig_mode` is read it is neither "text" nor "initial" -/
structure J (s : State) : Prop where
  tm : ∀ x ∈ s.templateModes, okM x = true
  om : s.mode = .inTableText ∨ s.mode = .text → origNT s

theorem J.of_eq {s s' : State} (hj : J s) (h1 : s'.mode = s.mode) (h2 : s'.origMode = s.origMode)
    (h3 : s'.templateModes = s.templateModes) : J s' :=
  ⟨by rw [h3]; exact hj.tm, by rw [h1]; unfold origNT; rw [h2]; exact hj.om⟩

theorem J.of_fr {s s' : State} (hj : J s) (h : frT s' = frT s) : J s' :=
  hj.of_eq (frT_eq h).1 (frT_eq h).2.1 (frT_eq h).2.2.1

theorem I.of_J {s : State} (hj : J s) (h1 : s.mode ≠ .text) (h2 : s.mode ≠ .initial) : I s :=
  ⟨hj.tm, fun h => hj.om (Or.inl h), h1, h2⟩

/-- the mode after `process_to_completion` has handled the answer -/
def nxt : ProcessResult → Mode → Mode
  | .reprocess m _, _ => m
  | _, c => c

theorem nxt_plain {a : ProcessResult} (h : ∀ m t, a ≠ .reprocess m t) (c : Mode) : nxt a c = c := by
  cases a <;> first | rfl | exact absurd rfl (h _ _)

/-- what one rule, run in its own mode from a state satisfying `J`, guarantees -/
structure DPost (tok : Token) (s : State) (a : ProcessResult) (s1 : State) : Prop where
  j : J { s1 with mode := nxt a s1.mode }
  rep : ∀ m t, a = .reprocess m t → t = tok
  nrf : ∀ t, a ≠ .reprocessForeign t
  raw : ∀ k, a = .toRawData k → isTagTok tok = true
  text : s.mode ≠ .text → nxt a s1.mode = .text → ∃ k, a = .toRawData k
  init : nxt a s1.mode = .initial → s.mode = .initial ∧ s1.quirksMode = s.quirksMode

theorem DPost.of_fr_left {tok : Token} {s s0 s1 : State} {a : ProcessResult} (h : DPost tok s0 a s1)
    (hf : frT s0 = frT s) : DPost tok s a s1 :=
  ⟨h.j, h.rep, h.nrf, h.raw, fun h1 => h.text (by rw [(frT_eq hf).1]; exact h1),
    fun h1 => by
      obtain ⟨h2, h3⟩ := h.init h1
      exact ⟨by rw [← (frT_eq hf).1]; exact h2, by rw [h3]; exact (frT_eq hf).2.2.2.2⟩⟩

/-- a plain answer after frame-keeping work -/
theorem DPost.of_plain {tok : Token} {s s1 : State} {a : ProcessResult} (hj : J s) (hf : frT s1 = frT s)
    (hp : Plain a = true) : DPost tok s a s1 := by
  have hn : nxt a s1.mode = s1.mode := nxt_plain (fun m t e => by rw [e] at hp; cases hp) _
  refine ⟨?_, fun m t e => (by rw [e] at hp; cases hp), fun t e => (by rw [e] at hp; cases hp),
    fun k e => (by rw [e] at hp; cases hp), ?_, ?_⟩
  · rw [hn]; exact hj.of_fr hf
  · intro h1 h2
    rw [hn, (frT_eq hf).1] at h2
    exact absurd h2 h1
  · intro h1
    rw [hn, (frT_eq hf).1] at h1
    exact ⟨h1, (frT_eq hf).2.2.2.2⟩

/-- the rules covered by the walk -/
theorem DPost.of_rq {tok : Token} {s s1 : State} {a : ProcessResult} (hq : RQ tok s1 a) :
    DPost tok s a s1 := by
  refine ⟨?_, fun m t e => (hq.rep m t e).1, hq.nrf, hq.raw, ?_, ?_⟩
  · cases a with
    | reprocess m t =>
      obtain ⟨_, h1, _, h3⟩ := hq.rep m t rfl
      exact ⟨hq.tm, fun h => h.elim h3 (fun e => absurd e h1)⟩
    | _ => exact ⟨hq.tm, fun h => h.elim hq.tt (fun e => (hq.text e).2)⟩
  · intro _ h2
    cases a with
    | reprocess m t => exact absurd h2 (hq.rep m t rfl).2.1
    | _ => exact (hq.text h2).1
  · intro h1
    cases a with
    | reprocess m t => exact absurd h1 (hq.rep m t rfl).2.2.1
    | _ => exact absurd h1 hq.ni

theorem ok_of_hr {tok : Token} {m : M ProcessResult} (h : HR tok m) {s : State} (hi : I s) :
    Ok m s (DPost tok s) := fun _ _ e => DPost.of_rq (hr_run h e hi)

/-! ### the three rules outside the walk -/

theorem frRet_appendCommentToDoc (t : Str) : FrRet .done (appendCommentToDoc t) := by
  unfold appendCommentToDoc
  repeat' (first | exact frRet_pure _ | (refine frRet_bind (by tmx_fr) ?_) | intro _)

theorem frRet_appendText (t : Str) : FrRet .done (appendText t) := by
  unfold appendText
  exact frRet_bind inferInstance (fun _ => frRet_pure _)

theorem frRet_unexpected : FrRet .done unexpected := by
  unfold unexpected
  exact frRet_bind inferInstance (fun _ => frRet_pure _)

theorem ok_frRet {tok : Token} {a : ProcessResult} {m : M ProcessResult} (h : FrRet a m) (hp : Plain a = true)
    {s : State} (hj : J s) : Ok m s (DPost tok s) := by
  intro b s' e
  obtain ⟨rfl, hf⟩ := h.h s b s' e
  exact DPost.of_plain hj hf hp

/-- `set_quirks_mode` writes the quirks mode only -/
theorem ok_setQuirksMode (q : QuirksMode) (s : State) : Ok (setQuirksMode q) s (fun _ s' =>
    s'.mode = s.mode ∧ s'.origMode = s.origMode ∧ s'.templateModes = s.templateModes) := by
  unfold setQuirksMode
  refine ok_modS_bind ?_
  refine ok_mono (ok_fr _ _) ?_
  intro _ s' hf
  exact ⟨(frT_eq hf).1, (frT_eq hf).2.1, (frT_eq hf).2.2.1⟩

theorem ok_stepInitial (tok : Token) {s : State} (hj : J s) :
    Ok (stepInitial tok) s (DPost tok s) := by
  have hrep : ∀ s1 : State, s1.mode = s.mode → s1.origMode = s.origMode → s1.templateModes = s.templateModes →
      DPost tok s (.reprocess .beforeHtml tok) s1 := by
    intro s1 h1 h2 h3
    exact ⟨⟨by rw [h3]; exact hj.tm, fun h => (by rcases h with h | h <;> cases h)⟩, fun m t e => (by cases e; rfl),
      fun t e => (by cases e), fun k e => (by cases e), fun _ h => (by cases h), fun h => (by cases h)⟩
  have helse : Ok (do
      if !(← getS).opts.iframeSrcdoc then
        let _ ← unexpected
        setQuirksMode .quirks
      pure (ProcessResult.reprocess .beforeHtml tok)) s (DPost tok s) := by
    refine ok_getS_bind ?_
    dsimp only
    split
    · refine ok_fr_bind ?_
      intro _ s1 hf
      refine ok_bind (ok_setQuirksMode _ s1) ?_
      rintro _ s2 ⟨h1, h2, h3⟩
      exact ok_pure (hrep s2 (h1.trans (frT_eq hf).1) (h2.trans (frT_eq hf).2.1) (h3.trans (frT_eq hf).2.2.1))
    · exact ok_pure (hrep s rfl rfl rfl)
  unfold stepInitial
  split
  · exact ok_pure (DPost.of_plain hj rfl rfl)
  · exact ok_pure (DPost.of_plain hj rfl rfl)
  · exact ok_frRet (frRet_appendCommentToDoc _) rfl hj
  · exact helse


/-- the state after `orig_mode.take()`, for the answer `Reprocess(orig_mode, tok)` -/
theorem DPost.take_reprocess {tok : Token} {s0 s : State} {m : Mode} (hj : J s0) (ho : origNT s0)
    (hf : frT s = frT s0) (hm : s.origMode = some m) :
    DPost tok s0 (.reprocess m tok) { s with origMode := none } := by
  have ho' : s0.origMode = some m := by rw [← (frT_eq hf).2.1]; exact hm
  have h1 : m ≠ .text := fun e => ho.1 (by rw [ho', e])
  have h2 : m ≠ .initial := fun e => ho.2 (by rw [ho', e])
  refine ⟨⟨?_, fun _ => ⟨fun h => (by cases h), fun h => (by cases h)⟩⟩, fun m' t e => (by cases e; rfl),
    fun t e => (by cases e), fun k e => (by cases e), fun _ h => absurd h h1, fun h => absurd h h2⟩
  show ∀ x ∈ s.templateModes, okM x = true
  rw [(frT_eq hf).2.2.1]; exact hj.tm

/-- the state after `orig_mode.take()` and the switch back to that mode, for a plain answer -/
theorem DPost.take_plain {tok : Token} {s0 s : State} {m : Mode} {a : ProcessResult} (hj : J s0) (ho : origNT s0)
    (hf : frT s = frT s0) (hm : s.origMode = some m) (hp : Plain a = true) :
    DPost tok s0 a { s with origMode := none, mode := m } := by
  have ho' : s0.origMode = some m := by rw [← (frT_eq hf).2.1]; exact hm
  have h1 : m ≠ .text := fun e => ho.1 (by rw [ho', e])
  have h2 : m ≠ .initial := fun e => ho.2 (by rw [ho', e])
  have hn : nxt a m = m := nxt_plain (fun m t e => by rw [e] at hp; cases hp) _
  refine ⟨⟨?_, fun _ => ⟨fun h => (by cases h), fun h => (by cases h)⟩⟩, fun m' t e => (by rw [e] at hp; cases hp),
    fun t e => (by rw [e] at hp; cases hp), fun k e => (by rw [e] at hp; cases hp), fun _ h => ?_, fun h => ?_⟩
  · show ∀ x ∈ s.templateModes, okM x = true
    rw [(frT_eq hf).2.2.1]; exact hj.tm
  · exact absurd (hn ▸ h) h1
  · exact absurd (hn ▸ h) h2

theorem ok_stepText (tok : Token) {s : State} (hj : J s) (hm : s.mode = .text) :
    Ok (stepText tok) s (DPost tok s) := by
  have ho : origNT s := hj.om (Or.inr hm)
  unfold stepText
  split
  · exact ok_frRet (frRet_appendText _) rfl hj
  · refine ok_fr_bind ?_
    intro _ s1 hf1
    refine ok_fr_bind ?_
    intro b s2 hf2
    have hf2' := hf2.trans hf1
    dsimp only
    have htail : ∀ s3 : State, frT s3 = frT s → Ok (do
        let _ ← pop
        let s ← getS
        match s.origMode with
          | none => panicAt "unwrap-none" "rules.rs:1023" "orig_mode.take().unwrap()"
          | some m => do
            set { s with origMode := none }
            pure (ProcessResult.reprocess m Token.eof)) s3 (DPost .eof s) := by
      intro s3 hf3
      refine ok_fr_bind ?_
      intro _ s4 hf4
      refine ok_getS_bind ?_
      split
      · exact ok_panicAt
      · rename_i m hom
        refine ok_set_bind ?_
        exact ok_pure (DPost.take_reprocess hj ho (hf4.trans hf3) hom)
    split
    · refine ok_getS_bind ?_
      split
      · refine ok_fr_bind ?_
        intro _ s3 hf3
        refine ok_fr_bind ?_
        intro _ s4 hf4
        exact htail s4 (hf4.trans (hf3.trans hf2'))
      · exact ok_panicAt_bind
    · exact htail s2 hf2'
  · split
    · refine ok_fr_bind ?_
      intro node s1 hf1
      refine ok_getS_bind ?_
      split
      · exact ok_panicAt
      · rename_i m hom
        refine ok_set_bind ?_
        split
        · exact ok_pure (DPost.take_plain hj ho hf1 hom rfl)
        · exact ok_pure (DPost.take_plain hj ho hf1 hom rfl)
    · exact ok_panicAt
  · exact ok_panicAt

/-! ### "in table text" -/

instance fr_stepInBody_chars (st : SplitStatus) (z : Str) : Fr (stepInBody (.chars st z)) := by
  unfold stepInBody; dsimp only; tmx_fr
instance (st : SplitStatus) (z : Str) : Fr (fosterParentInBody (.chars st z)) := by
  unfold fosterParentInBody; tmx_fr
theorem fr_flushPendingFoster : ∀ l, Fr (flushPendingFoster l)
  | [] => by unfold flushPendingFoster; tmx_fr
  | (_, _) :: rest => by
    have ih := fr_flushPendingFoster rest
    unfold flushPendingFoster; tmx_fr
instance (l : List (SplitStatus × Str)) : Fr (flushPendingFoster l) := fr_flushPendingFoster l

theorem ok_stepInTableText (tok : Token) {s : State} (hj : J s) (hm : s.mode = .inTableText) :
    Ok (stepInTableText tok) s (DPost tok s) := by
  have ho : origNT s := hj.om (Or.inl hm)
  unfold stepInTableText
  split
  · exact ok_frRet frRet_unexpected rfl hj
  · refine ok_modS_bind ?_
    exact ok_pure (DPost.of_plain hj rfl rfl)
  · refine ok_getS_bind ?_
    refine ok_modS_bind ?_
    dsimp only
    have hf0 : frT ({ s with pendingTableText := [] } : State) = frT s := rfl
    have htail : ∀ s3 : State, frT s3 = frT s → Ok (do
        let s ← getS
        match s.origMode with
          | none => panicAt "unwrap-none" "rules.rs:1172" "orig_mode.take().unwrap()"
          | some m => do
            set { s with origMode := none }
            pure (ProcessResult.reprocess m tok)) s3 (DPost tok s) := by
      intro s3 hf3
      refine ok_getS_bind ?_
      split
      · exact ok_panicAt
      · rename_i m hom
        refine ok_set_bind ?_
        exact ok_pure (DPost.take_reprocess hj ho hf3 hom)
    split
    · refine ok_fr_bind ?_
      intro _ s1 hf1
      refine ok_fr_bind ?_
      intro _ s2 hf2
      exact htail s2 (hf2.trans (hf1.trans hf0))
    · refine ok_fr_bind ?_
      intro _ s1 hf1
      exact htail s1 (hf1.trans hf0)

/-- `flush_pending_table_text` (the DOCTYPE arm of `process_token`) answers a mode that is neither
"text" nor "initial" -/
theorem ok_flushPendingTableText {s : State} (hj : J s) (hm : s.mode = .inTableText) :
    Ok flushPendingTableText s (fun m s' => m ≠ .text ∧ m ≠ .initial ∧ s'.quirksMode = s.quirksMode) := by
  have ho : origNT s := hj.om (Or.inl hm)
  unfold flushPendingTableText
  refine ok_getS_bind ?_
  refine ok_modS_bind ?_
  dsimp only
  have hf0 : frT ({ s with pendingTableText := [] } : State) = frT s := rfl
  have htail : ∀ s3 : State, frT s3 = frT s → Ok (do
      let s ← getS
      match s.origMode with
        | none => panicAt "unwrap-none" "rules.rs:1172" "orig_mode.take().unwrap()"
        | some m => do
          set { s with origMode := none }
          pure m) s3 (fun m s' => m ≠ .text ∧ m ≠ .initial ∧ s'.quirksMode = s.quirksMode) := by
    intro s3 hf3
    refine ok_getS_bind ?_
    split
    · exact ok_panicAt
    · rename_i m hom
      refine ok_set_bind ?_
      have ho' : s.origMode = some m := by rw [← (frT_eq hf3).2.1]; exact hom
      exact ok_pure ⟨fun e => ho.1 (by rw [ho', e]), fun e => ho.2 (by rw [ho', e]), (frT_eq hf3).2.2.2.2⟩
  split
  · refine ok_fr_bind ?_
    intro _ s1 hf1
    refine ok_fr_bind ?_
    intro _ s2 hf2
    exact htail s2 (hf2.trans (hf1.trans hf0))
  · refine ok_fr_bind ?_
    intro _ s1 hf1
    exact htail s1 (hf1.trans hf0)

/-! ### every rule, run in its own mode -/

theorem ok_step_mode (tok : Token) {s : State} (hj : J s) (m : Mode) (hm : s.mode = m) :
    Ok (step m tok) s (DPost tok s) := by
  have hi : m ≠ .text → m ≠ .initial → I s := fun h1 h2 => I.of_J hj (hm ▸ h1) (hm ▸ h2)
  cases m <;> unfold step <;> dsimp only
  case initial => exact ok_stepInitial tok hj
  case text => exact ok_stepText tok hj hm
  case inTableText => exact ok_stepInTableText tok hj hm
  all_goals exact ok_of_hr inferInstance (hi (by decide) (by decide))

theorem ok_step (tok : Token) {s : State} (hj : J s) : Ok (step s.mode tok) s (DPost tok s) :=
  ok_step_mode tok hj s.mode rfl

/-- foreign content, from a state with the frame of `s` -/
theorem ok_stepForeign (tok : Token) {s s1 : State} (hj : J s) (hf1 : frT s1 = frT s) :
    Ok (stepForeign tok) s1 (DPost tok s) := by
  intro a s2 e
  rcases (inferInstance : VS tok (stepForeign tok)).h s1 a s2 e with ⟨h3, h4⟩ | ⟨s1', h3, h4⟩
  · exact DPost.of_plain hj (h3.trans hf1) h4
  · exact (ok_step tok (hj.of_fr (h3.trans hf1)) a s2 h4).of_fr_left (h3.trans hf1)

theorem ok_step_fr (tok : Token) {s s1 : State} (hj : J s) (hf1 : frT s1 = frT s) :
    Ok (step s1.mode tok) s1 (DPost tok s) :=
  ok_mono (ok_step tok (hj.of_fr hf1)) (fun _ _ h => h.of_fr_left hf1)

/-! ## the loop of `process_to_completion` -/

open H5V.Lemmas.TBSafe (ptcCont ptcNext processToCompletion_succ)

/-- what a run of `process_to_completion` guarantees -/
structure LoopPost (tok : Token) (s : State) (r : SinkResult) (s' : State) : Prop where
  text : s.mode ≠ .text → s'.mode = .text → isTagTok tok = true ∧ ∃ k, r = .rawData k
  init : s'.mode = .initial → s.mode = .initial ∧ s'.quirksMode = s.quirksMode

/-- the loop goes on after an answer that is not `ToRawData` -/
theorem LoopPost.step {tok tok' : Token} {s s1 s1' s' : State} {a : ProcessResult} {r : SinkResult}
    (hd : DPost tok s a s1) (hno : ∀ k, a ≠ .toRawData k) (hm : s1'.mode = nxt a s1.mode)
    (hq : s1'.quirksMode = s1.quirksMode) (htok : tok' = tok ∨ isTagTok tok' = false)
    (hl : LoopPost tok' s1' r s') : LoopPost tok s r s' := by
  constructor
  · intro h1 h2
    have h3 : s1'.mode ≠ .text := by
      intro e
      obtain ⟨k, hk⟩ := hd.text h1 (hm ▸ e)
      exact hno k hk
    obtain ⟨h4, h5⟩ := hl.text h3 h2
    rcases htok with rfl | h6
    · exact ⟨h4, h5⟩
    · rw [h6] at h4; cases h4
  · intro h1
    obtain ⟨h2, h3⟩ := hl.init h1
    obtain ⟨h4, h5⟩ := hd.init (hm ▸ h2)
    exact ⟨h4, by rw [h3, hq, h5]⟩

/-- the loop ends -/
theorem LoopPost.final {tok : Token} {s s1 s' : State} {a : ProcessResult} {r : SinkResult}
    (hd : DPost tok s a s1) (hnr : ∀ m t, a ≠ .reprocess m t) (hr : ∀ k, a = .toRawData k → r = .rawData k)
    (hf : frT s' = frT s1) : LoopPost tok s r s' := by
  have hn : nxt a s1.mode = s1.mode := nxt_plain hnr _
  constructor
  · intro h1 h2
    rw [(frT_eq hf).1] at h2
    obtain ⟨k, hk⟩ := hd.text h1 (hn.trans h2)
    exact ⟨hd.raw k hk, k, hr k hk⟩
  · intro h1
    rw [(frT_eq hf).1] at h1
    obtain ⟨h2, h3⟩ := hd.init (hn.trans h1)
    exact ⟨h2, by rw [(frT_eq hf).2.2.2.2, h3]⟩

theorem ok_ptcCont {fuel : Nat} {tok : Token} {more : List Token}
    (ih : ∀ tok more s, J s → (∀ t ∈ more, isTagTok t = false) →
      Ok (processToCompletion fuel tok more) s (LoopPost tok s))
    {s s1 : State} {a : ProcessResult} (hd : DPost tok s a s1) (hmo : ∀ t ∈ more, isTagTok t = false) :
    Ok (ptcCont fuel tok more a) s1 (LoopPost tok s) := by
  -- the next token of the queue, from a state with the frame of `s1`
  have hnext : (∀ m t, a ≠ .reprocess m t) → (∀ k, a ≠ .toRawData k) → ∀ s2, frT s2 = frT s1 →
      Ok (ptcNext fuel more) s2 (LoopPost tok s) := by
    intro hnr hno s2 hf2
    have hn : nxt a s1.mode = s1.mode := nxt_plain hnr _
    unfold ptcNext
    cases hmore : more with
    | nil =>
      dsimp only
      exact ok_pure (LoopPost.final hd hnr (fun k e => absurd e (hno k)) hf2)
    | cons t rest =>
      dsimp only
      have hall : ∀ x ∈ t :: rest, isTagTok x = false := by rw [← hmore]; exact hmo
      have hj2 : J s2 := hd.j.of_eq ((frT_eq hf2).1.trans hn.symm) (frT_eq hf2).2.1 (frT_eq hf2).2.2.1
      refine ok_mono (ih t rest s2 hj2 (fun x hx => hall x (List.mem_cons_of_mem _ hx))) ?_
      intro r s' hl
      exact LoopPost.step hd hno ((frT_eq hf2).1.trans hn.symm) (frT_eq hf2).2.2.2.2
        (Or.inr (hall t List.mem_cons_self)) hl
  unfold ptcCont
  dsimp only
  cases a with
  | done =>
    dsimp only
    have hack : ∀ (c : Bool), Ok (if c = true then do
          parseError "Unacknowledged self-closing tag"
          ptcNext fuel more
        else ptcNext fuel more) s1 (LoopPost tok s) := by
      intro c
      split
      · refine ok_fr_bind ?_
        intro _ s2 hf2
        exact hnext (fun _ _ e => by cases e) (fun _ e => by cases e) s2 hf2
      · exact hnext (fun _ _ e => by cases e) (fun _ e => by cases e) s1 rfl
    exact hack _
  | doneAckSelfClosing => exact hnext (fun _ _ e => by cases e) (fun _ e => by cases e) s1 rfl
  | reprocess m t =>
    dsimp only
    have : t = tok := hd.rep m t rfl
    subst this
    unfold setMode
    refine ok_modS_bind ?_
    refine ok_mono (ih t more _ hd.j hmo) ?_
    intro r s' hl
    exact LoopPost.step (s1' := { s1 with mode := m }) hd (fun _ e => by cases e) rfl rfl (Or.inl rfl) hl
  | reprocessForeign t => exact absurd rfl (hd.nrf t)
  | splitWhitespace buf =>
    dsimp only
    cases hpf : popFrontCharRun buf with
    | none =>
      dsimp only
      exact ok_pure (LoopPost.final hd (fun _ _ e => by cases e) (fun _ e => by cases e) rfl)
    | some x =>
      obtain ⟨first, isWs, rest⟩ := x
      dsimp only
      have hj1 : J s1 := hd.j.of_eq rfl rfl rfl
      refine ok_mono (ih _ _ s1 hj1 ?_) ?_
      · intro t ht
        split at ht
        · rcases List.mem_append.mp ht with h | h
          · exact hmo t h
          · rw [List.mem_singleton.mp h]; rfl
        · exact hmo t ht
      · intro r s' hl
        exact LoopPost.step hd (fun _ e => by cases e) rfl rfl (Or.inr rfl) hl
  | script node =>
    dsimp only
    split
    · exact ok_panicAt_bind
    · exact ok_pure (LoopPost.final hd (fun _ _ e => by cases e) (fun _ e => by cases e) rfl)
  | toPlaintext =>
    dsimp only
    split
    · exact ok_panicAt_bind
    · exact ok_pure (LoopPost.final hd (fun _ _ e => by cases e) (fun _ e => by cases e) rfl)
  | toRawData k =>
    dsimp only
    split
    · exact ok_panicAt_bind
    · exact ok_pure (LoopPost.final hd (fun _ _ e => by cases e) (fun k' e => by cases e; rfl) rfl)
  | encodingIndicator e =>
    exact ok_pure (LoopPost.final hd (fun _ _ e => by cases e) (fun _ e => by cases e) rfl)

theorem ok_ptc : ∀ (fuel : Nat) (tok : Token) (more : List Token) (s : State), J s →
    (∀ t ∈ more, isTagTok t = false) → Ok (processToCompletion fuel tok more) s (LoopPost tok s) := by
  intro fuel
  induction fuel with
  | zero =>
    intro tok more s _ _
    unfold processToCompletion
    exact ok_fuelOut
  | succ fuel ih =>
    intro tok more s hj hmo
    rw [processToCompletion_succ]
    refine ok_fr_bind ?_
    intro b s1 hf1
    dsimp only
    split
    · exact ok_bind (ok_stepForeign tok hj hf1) (fun a s2 hd => ok_ptcCont ih hd hmo)
    · refine ok_getS_bind ?_
      exact ok_bind (ok_step_fr tok hj hf1) (fun a s2 hd => ok_ptcCont ih hd hmo)

/-! ## `process_token` -/

/-- what `process_token` guarantees, from a state satisfying `J` -/
structure TokPost (t : TokToken) (s : State) (r : SinkResult) (s' : State) : Prop where
  text : s.mode ≠ .text → s'.mode = .text → (∃ tag, t = .tag tag) ∧ ∃ k, r = .rawData k
  init : s'.mode = .initial → s.mode = .initial ∧ s'.quirksMode = s.quirksMode

/-- the state in which the token (if any) is run to completion, relative to the start state -/
structure Pre (s s3 : State) : Prop where
  text : s.mode ≠ .text → s3.mode ≠ .text
  init : s3.mode = .initial → s.mode = .initial ∧ s3.quirksMode = s.quirksMode

theorem Pre.of_fr {s s3 : State} (h : frT s3 = frT s) : Pre s s3 :=
  ⟨fun h1 => by rw [(frT_eq h).1]; exact h1, fun h1 => ⟨by rw [← (frT_eq h).1]; exact h1, (frT_eq h).2.2.2.2⟩⟩

theorem Pre.of_mode {s s3 : State} (h1 : s3.mode ≠ .text) (h2 : s3.mode ≠ .initial) : Pre s s3 :=
  ⟨fun _ => h1, fun h => absurd h h2⟩

open H5V.Lemmas.TBSafe (ptFinish) in
theorem ok_ptFinish (t : TokToken) {s : State} (tb : Option Token) (s3 : State) (hp : Pre s s3)
    (htb : ∀ tk, tb = some tk → J s3 ∧ (isTagTok tk = true → ∃ tag, t = .tag tag)) :
    Ok (ptFinish tb) s3 (TokPost t s) := by
  unfold ptFinish
  cases tb with
  | none =>
    dsimp only
    exact ok_pure ⟨fun h1 h2 => absurd h2 (hp.text h1), hp.init⟩
  | some tk =>
    dsimp only
    obtain ⟨hj3, htag⟩ := htb tk rfl
    refine ok_getS_bind ?_
    refine ok_mono (ok_ptc _ tk [] s3 hj3 (fun _ h => by cases h)) ?_
    intro r s' hl
    refine ⟨fun h1 h2 => ?_, fun h1 => ?_⟩
    · obtain ⟨h3, h4⟩ := hl.text (hp.text h1) h2
      exact ⟨htag h3, h4⟩
    · obtain ⟨h2, h3⟩ := hl.init h1
      obtain ⟨h4, h5⟩ := hp.init h2
      exact ⟨h4, h3.trans h5⟩

open H5V.Lemmas.TBSafe (ptFinish) in
theorem ok_processToken (t : TokToken) (line : Nat) {s : State} (hj : J s) :
    Ok (processToken t line) s (TokPost t s) := by
  unfold processToken
  refine ok_getS_bind ?_
  dsimp only
  refine ok_ite_jp (P := fun s1 => frT s1 = frT s) (fun _ => ok_fr _ _) (fun _ => rfl) ?_
  intro s1 hf1
  refine ok_getS_bind ?_
  refine ok_modS_bind ?_
  have hf2 : frT ({ s1 with ignoreLf := false } : State) = frT s := hf1
  have hj2 : J ({ s1 with ignoreLf := false } : State) := hj.of_fr hf2
  have hfin : ∀ (tb : Option Token) (s3 : State), Pre s s3 →
      (∀ tk, tb = some tk → J s3 ∧ (isTagTok tk = true → ∃ tag, t = .tag tag)) →
      Ok (ptFinish tb) s3 (TokPost t s) := fun tb s3 h3 h4 => ok_ptFinish t tb s3 h3 h4
  cases t with
  | parseError e =>
    dsimp only
    refine ok_fr_bind ?_
    intro _ s3 hf3
    refine ok_modS_bind ?_
    refine ok_pure_bind ?_
    exact hfin none _ (Pre.of_fr (s3 := { s3 with ignoreLf := s1.ignoreLf }) (hf3.trans hf2)) (fun _ h => by cases h)
  | doctype dt =>
    dsimp only
    refine ok_getS_bind ?_
    have hrest : ∀ s3 : State, Pre s s3 → Ok (parseError "DOCTYPE in body" >>= fun _ =>
        (pure none : M (Option Token)) >>= fun tb => ptFinish tb) s3 (TokPost (.doctype dt) s) := by
      intro s3 hp3
      refine ok_fr_bind ?_
      intro _ s4 hf4
      refine ok_pure_bind ?_
      refine hfin none s4 ⟨fun h => ?_, fun h => ?_⟩ (fun _ h => by cases h)
      · rw [(frT_eq hf4).1]; exact hp3.text h
      · rw [(frT_eq hf4).1] at h
        rw [(frT_eq hf4).2.2.2.2]; exact hp3.init h
    by_cases hmi : ({ s1 with ignoreLf := false } : State).mode = .initial
    · have hmi' : (({ s1 with ignoreLf := false } : State).mode == Mode.initial) = true := by
        rw [hmi]; rfl
      rw [if_pos hmi']
      refine ok_getS_bind ?_
      dsimp only
      refine ok_ite_jp (P := fun s3 => frT s3 = frT s) (fun _ => ok_mono (ok_fr _ _) (fun _ _ h => h.trans hf2))
        (fun _ => hf2) ?_
      intro s3 hf3
      refine ok_getS_bind ?_
      refine ok_ite_jp (P := fun s4 => frT s4 = frT s) (fun _ => ok_mono (ok_fr _ _) (fun _ _ h => h.trans hf3))
        (fun _ => hf3) ?_
      intro s4 hf4
      refine ok_bind (ok_setQuirksMode _ s4) ?_
      rintro _ s5 ⟨h1, h2, h3⟩
      unfold setMode
      refine ok_modS_bind ?_
      refine ok_pure_bind ?_
      exact hfin none _ (Pre.of_mode (s3 := { s5 with mode := .beforeHtml }) (fun h => by cases h) (fun h => by cases h))
        (fun _ h => by cases h)
    · have hmi' : (({ s1 with ignoreLf := false } : State).mode == Mode.initial) = false := by
        cases hm : ({ s1 with ignoreLf := false } : State).mode <;> first | rfl | exact absurd hm hmi
      rw [hmi']
      simp only [Bool.false_eq_true, if_false]
      refine ok_getS_bind ?_
      by_cases hmt : ({ s1 with ignoreLf := false } : State).mode = .inTableText
      · have hmt' : (({ s1 with ignoreLf := false } : State).mode == Mode.inTableText) = true := by
          rw [hmt]; rfl
        rw [if_pos hmt']
        refine ok_bind (ok_flushPendingTableText hj2 hmt) ?_
        rintro m s3 ⟨hm1, hm2, _⟩
        unfold setMode
        refine ok_modS_bind ?_
        exact hrest _ (Pre.of_mode (s3 := { s3 with mode := m }) hm1 hm2)
      · have hmt' : (({ s1 with ignoreLf := false } : State).mode == Mode.inTableText) = false := by
          cases hm : ({ s1 with ignoreLf := false } : State).mode <;> first | rfl | exact absurd hm hmt
        rw [hmt']
        simp only [Bool.false_eq_true, if_false]
        exact hrest _ (Pre.of_fr hf2)
  | tag tg =>
    refine ok_pure_bind ?_
    exact hfin (some (.tag tg)) _ (Pre.of_fr hf2) (fun tk h => by cases h; exact ⟨hj2, fun _ => ⟨tg, rfl⟩⟩)
  | comment c =>
    refine ok_pure_bind ?_
    exact hfin (some (.comment c)) _ (Pre.of_fr hf2) (fun tk h => by cases h; exact ⟨hj2, fun h => by cases h⟩)
  | nullChar =>
    refine ok_pure_bind ?_
    exact hfin (some .nullChar) _ (Pre.of_fr hf2) (fun tk h => by cases h; exact ⟨hj2, fun h => by cases h⟩)
  | eof =>
    refine ok_pure_bind ?_
    exact hfin (some .eof) _ (Pre.of_fr hf2) (fun tk h => by cases h; exact ⟨hj2, fun h => by cases h⟩)
  | chars x =>
    refine ok_pure_bind ?_
    refine hfin (charsToken s1.ignoreLf x) _ (Pre.of_fr hf2) (fun tk h => ⟨hj2, fun h' => ?_⟩)
    unfold charsToken at h
    split at h
    · cases h
    · cases h; cases h'

/-! ## the invariant of the C04 package gives `J` -/

open H5V.Lemmas.TBSafe in
theorem J.of_TI {s : State} (h : TI s) : J s := by
  refine ⟨fun x hx => ?_, fun hm => ?_⟩
  · have h1 := h.s.tmodes x hx
    revert h1
    cases x <;> decide
  · rcases hm with hm | hm
    · obtain ⟨om, ho, hom⟩ := h.s.tableText hm
      refine ⟨fun e => ?_, fun e => ?_⟩ <;>
      · rw [ho] at e
        cases e
        revert hom
        decide
    · obtain ⟨om, ho, hom, _⟩ := h.s.text hm
      refine ⟨fun e => ?_, fun e => ?_⟩ <;>
      · rw [ho] at e
        cases e
        revert hom
        decide

/-! ## an end tag in "text" -/

/-- the allowance used to read the C04 lemmas as partial-correctness statements -/
@[reducible] def allowAny : H5V.Lemmas.TBSafe.Allow := ⟨True, True⟩

attribute [local instance] allowAny

open H5V.Lemmas.TBSafe in
theorem ok_of_sat {α : Type} {m : M α} {s : State} {Q : α → State → Prop} (h : Sat m s Q) : Ok m s Q := by
  intro a s' e
  unfold Sat at h
  rw [e] at h
  exact h

theorem ok_stepText_endTag {tg : Tag} (hk : tg.kind = .endTag) (s : State) :
    Ok (stepText (.tag tg)) s (fun a s' => (a = .done ∨ ∃ n, a = .script n) ∧
      ∃ m, s.origMode = some m ∧ s'.mode = m) := by
  unfold stepText
  dsimp only
  have hk' : (tg.kind == .endTag) = true := by rw [hk]; rfl
  rw [if_pos hk']
  refine ok_fr_bind ?_
  intro node s1 hf1
  refine ok_getS_bind ?_
  split
  · exact ok_panicAt
  · rename_i m hom
    refine ok_set_bind ?_
    have hom' : s.origMode = some m := by rw [← (frT_eq hf1).2.1]; exact hom
    split
    · exact ok_pure ⟨Or.inr ⟨_, rfl⟩, m, hom', rfl⟩
    · exact ok_pure ⟨Or.inl rfl, m, hom', rfl⟩

open H5V.Lemmas.TBSafe in
theorem ok_processToken_text_endTag (tg : Tag) (line : Nat) {s : State} (hti : TI s) (hm : s.mode = .text)
    (hk : tg.kind = .endTag) : Ok (processToken (.tag tg) line) s (fun _ s' => s'.mode ≠ .text) := by
  obtain ⟨om, hom, hok, -⟩ := hti.s.text hm
  have hne : om ≠ .text := by rintro rfl; revert hok; decide
  unfold processToken
  refine ok_getS_bind ?_
  dsimp only
  refine ok_ite_jp (P := fun s1 => TI s1 ∧ s1.mode = .text ∧ s1.origMode = some om)
    (fun _ => ok_mono (ok_of_sat (sat_sinkUnit_total ⟨_, _, apply_setLine _ _⟩))
      (fun _ s1 hq => ⟨hti.of_qf hq, hq.mode.trans hm, hq.origMode.trans hom⟩)) (fun _ => ⟨hti, hm, hom⟩) ?_
  rintro s1 ⟨ht1, hm1, ho1⟩
  refine ok_getS_bind ?_
  refine ok_modS_bind ?_
  refine ok_pure_bind ?_
  dsimp only
  refine ok_getS_bind ?_
  have ht2 : TI { s1 with ignoreLf := false } := ht1.withIgnoreLf false
  generalize ptcFuel _ _ = fuel
  cases fuel with
  | zero => unfold processToCompletion; exact ok_fuelOut
  | succ fuel =>
    rw [processToCompletion_succ]
    refine ok_bind (ok_of_sat (sat_isForeign ht2.h)) ?_
    rintro b s3 ⟨hq, hb⟩
    have hbf : b = false := by
      cases b with
      | false => rfl
      | true =>
        have h1 := bodyLike_of_foreign ht2 (hb rfl)
        rw [show ({ s1 with ignoreLf := false } : State).mode = .text from hm1] at h1
        revert h1; decide
    subst hbf
    dsimp only
    simp only [Bool.false_eq_true, if_false]
    refine ok_getS_bind ?_
    have hm3 : s3.mode = .text := hq.mode.trans hm1
    have ho3 : s3.origMode = some om := hq.origMode.trans ho1
    rw [hm3]
    unfold step
    dsimp only
    refine ok_bind (ok_stepText_endTag hk s3) ?_
    rintro a s4 ⟨ha, m, hom4, hm4⟩
    have hmo : m = om := by rw [ho3] at hom4; exact (Option.some.inj hom4).symm
    have hne4 : s4.mode ≠ .text := by rw [hm4, hmo]; exact hne
    unfold ptcCont
    dsimp only
    rcases ha with rfl | ⟨n, rfl⟩
    · dsimp only
      split
      · refine ok_fr_bind ?_
        intro _ s5 hf5
        exact ok_pure (by rw [(frT_eq hf5).1]; exact hne4)
      · exact ok_pure hne4
    · dsimp only
      split
      · exact ok_panicAt_bind
      · exact ok_pure hne4

end H5V.Lemmas.ParseSpec.TextMode

namespace H5V.Lemmas.ParseSpec
open H5V.Model.HtmlTB
open H5V.Lemmas.ParseSpec.TextMode

/-- `processToken_enters_text`, from the loop invariant `TextMode.J` alone -/
theorem processToken_enters_text_of_J (t : TokToken) (line : Nat) (s s' : State) (r : SinkResult)
    (hj : TextMode.J s) (h : (processToken t line).run s = .ok (r, s')) (h1 : s.mode ≠ .text)
    (h2 : s'.mode = .text) : ∃ tag k, t = .tag tag ∧ r = .rawData k := by
  obtain ⟨⟨tag, ht⟩, k, hr⟩ := (ok_processToken t line hj r s' h).text h1 h2
  exact ⟨tag, k, ht, hr⟩

/-- **the "text" insertion mode is only entered by a tag token that is answered with `RawData k`**
(`to_raw_text_mode` is the only place that sets `mode := .text`, and its answer `ToRawData k` makes
`process_to_completion` return `RawData k` at once) -/
theorem processToken_enters_text (t : TokToken) (line : Nat) (s s' : State) (r : SinkResult)
    (hti : H5V.Lemmas.TBSafe.TI s) (h : (processToken t line).run s = .ok (r, s')) (h1 : s.mode ≠ .text)
    (h2 : s'.mode = .text) : ∃ tag k, t = .tag tag ∧ r = .rawData k :=
  processToken_enters_text_of_J t line s s' r (J.of_TI hti) h h1 h2

/-- **in the "text" insertion mode an end tag leaves the mode** (the invariant of the C04 package
switches the foreign-content dispatcher off and says that `orig_mode` is not "text") -/
theorem processToken_text_endTag (tg : Tag) (line : Nat) (s s' : State) (r : SinkResult)
    (hti : H5V.Lemmas.TBSafe.TI s) (h : (processToken (.tag tg) line).run s = .ok (r, s')) (hm : s.mode = .text)
    (hk : tg.kind = .endTag) : s'.mode ≠ .text :=
  ok_processToken_text_endTag tg line hti hm hk r s' h

/-- **the options never change** -/
theorem processToken_opts (t : TokToken) (line : Nat) (s s' : State) (r : SinkResult)
    (h : (processToken t line).run s = .ok (r, s')) : s'.opts = s.opts :=
  ko_run (inferInstance : KO (processToken t line)) h

/-- `processToken_initial`, from the loop invariant `TextMode.J` alone -/
theorem processToken_initial_of_J (t : TokToken) (line : Nat) (s s' : State) (r : SinkResult)
    (hj : TextMode.J s) (h : (processToken t line).run s = .ok (r, s')) (h2 : s'.mode = .initial) :
    s.mode = .initial ∧ s'.quirksMode = s.quirksMode :=
  (ok_processToken t line hj r s' h).init h2

/-- **the "initial" insertion mode is never re-entered, and while the builder stays in it the
quirks mode is untouched** -/
theorem processToken_initial (t : TokToken) (line : Nat) (s s' : State) (r : SinkResult)
    (hti : H5V.Lemmas.TBSafe.TI s) (h : (processToken t line).run s = .ok (r, s')) (h2 : s'.mode = .initial) :
    s.mode = .initial ∧ s'.quirksMode = s.quirksMode :=
  processToken_initial_of_J t line s s' r (J.of_TI hti) h h2

/-- the same for one round of `process_to_completion` -/
theorem processToCompletion_opts (fuel : Nat) (tok : Token) (more : List Token) (s s' : State) (r : SinkResult)
    (h : (processToCompletion fuel tok more).run s = .ok (r, s')) : s'.opts = s.opts :=
  ko_run (inferInstance : KO (processToCompletion fuel tok more)) h

end H5V.Lemmas.ParseSpec
