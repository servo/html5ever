import H5V.Gen.TreeTables
import H5V.Spec.TreeTables
import H5V.Model.HtmlTB
/-!
Helper definitions and lemmas for the table theorems of C02: set comparison of tables, membership
of an expanded name in a `(namespace keyword, local name)` table, and the rewriting of the model's
tag-set predicates (`htmlIn`, `if … then true else …`, `if … then false else …`) into table membership.
-/
namespace H5V.Lemmas.HtmlTBTables
open H5V.Model.HtmlTB

/-- equality of two tables as sets -/
def sameSet {α : Type} [BEq α] (a b : List α) : Bool := a.all (b.contains ·) && b.all (a.contains ·)

/-- no key occurs twice (the table is a function) -/
def keysNodup {α β : Type} [DecidableEq α] (l : List (α × β)) : Bool := decide (l.map (·.1)).Nodup

theorem sameSet_mem {α : Type} [BEq α] [LawfulBEq α] {a b : List α} (h : sameSet a b = true) (x : α) :
    x ∈ a ↔ x ∈ b := by
  simp only [sameSet, Bool.and_eq_true, List.all_eq_true, List.contains_iff_mem] at h
  exact ⟨h.1 x, h.2 x⟩

/-- namespace keyword of `expanded_name!` / `ns!` ↦ namespace URL -/
def nsOf (kw : String) : Str :=
  if kw = "html" then nsHtml else if kw = "mathml" then nsMathml else if kw = "svg" then nsSvg
  else if kw = "xlink" then nsXlink else if kw = "xml" then nsXml else if kw = "xmlns" then nsXmlns else kw.toList

/-- does the table row denote the expanded name -/
def rowIs (n : EName) (p : String × String) : Bool := nsOf p.1 == n.ns && p.2.toList == n.loc

/-- membership of an expanded name in a `(namespace keyword, local name)` table -/
def memName (l : List (String × String)) (n : EName) : Bool := l.any (rowIs n)

theorem memName_of_sameSet {a b : List (String × String)} (h : sameSet a b = true) (n : EName) :
    memName a n = memName b n := by
  apply Bool.eq_iff_iff.mpr
  simp only [memName, List.any_eq_true]
  constructor
  · rintro ⟨p, hp, hq⟩; exact ⟨p, (sameSet_mem h p).mp hp, hq⟩
  · rintro ⟨p, hp, hq⟩; exact ⟨p, (sameSet_mem h p).mpr hp, hq⟩

theorem memName_append (a b : List (String × String)) (n : EName) :
    memName (a ++ b) n = (memName a n || memName b n) := by simp [memName]

/-- the rows `(kw, s)` for the names `s` of `l` -/
def rows (kw : String) (l : List String) : List (String × String) := l.map (fun s => (kw, s))

theorem memName_rows (kw : String) (l : List String) (n : EName) :
    memName (rows kw l) n = (nsOf kw == n.ns && isOneOf n.loc l) := by
  induction l with
  | nil => simp [memName, rows, isOneOf]
  | cons s l ih =>
    have ih' : (List.map (fun s => (kw, s)) l).any (rowIs n) = (nsOf kw == n.ns && isOneOf n.loc l) := ih
    simp only [memName, rows, List.map_cons, List.any_cons, isOneOf, rowIs] at ih' ⊢
    rw [ih']
    cases (nsOf kw == n.ns) <;> simp

theorem nsOf_html : nsOf "html" = nsHtml := by decide +kernel
theorem nsOf_mathml : nsOf "mathml" = nsMathml := by decide +kernel
theorem nsOf_svg : nsOf "svg" = nsSvg := by decide +kernel

theorem htmlIn_eq (n : EName) (l : List String) : htmlIn n l = memName (rows "html" l) n := by
  rw [memName_rows, nsOf_html, show (nsHtml == n.ns) = (n.ns == nsHtml) from BEq.comm]; rfl

theorem mathmlIn_eq (n : EName) (l : List String) :
    (n.ns == nsMathml && isOneOf n.loc l) = memName (rows "mathml" l) n := by
  rw [memName_rows, nsOf_mathml, show (nsMathml == n.ns) = (n.ns == nsMathml) from BEq.comm]

theorem svgIn_eq (n : EName) (l : List String) :
    (n.ns == nsSvg && isOneOf n.loc l) = memName (rows "svg" l) n := by
  rw [memName_rows, nsOf_svg, show (nsSvg == n.ns) = (n.ns == nsSvg) from BEq.comm]

theorem isName_eq_isOneOf (x : Str) (s : String) : isName x s = isOneOf x [s] := by simp [isName, isOneOf]

/-- `[base] + names` -/
theorem plus_eq (n : EName) (l : List String) (b : Bool) :
    (if htmlIn n l then true else b) = (b || memName (rows "html" l) n) := by
  rw [htmlIn_eq]; cases memName (rows "html" l) n <;> cases b <;> rfl

/-- the model's predicates as table memberships -/
theorem mathmlTextIntegrationPoint_rows (n : EName) :
    mathmlTextIntegrationPoint n = memName (rows "mathml" ["mi", "mo", "mn", "ms", "mtext"]) n := mathmlIn_eq n _

theorem svgHtmlIntegrationPoint_rows (n : EName) :
    svgHtmlIntegrationPoint n = memName (rows "svg" ["foreignObject", "desc", "title"]) n := svgIn_eq n _

theorem mathmlAnnotationXml_rows (n : EName) :
    mathmlAnnotationXml n = memName (rows "mathml" ["annotation-xml"]) n := by
  unfold mathmlAnnotationXml; rw [isName_eq_isOneOf]; exact mathmlIn_eq n _

/-- the foreign (non-HTML) members shared by the scope sets and the special category -/
def foreignRows : List (String × String) :=
  rows "mathml" ["mi", "mo", "mn", "ms", "mtext"] ++ rows "mathml" ["annotation-xml"] ++
  rows "svg" ["foreignObject", "desc", "title"]

theorem defaultScope_rows (n : EName) :
    defaultScope n = memName (rows "html" htmlDefaultScopeNames ++ foreignRows) n := by
  simp only [defaultScope, htmlDefaultScope, foreignRows, memName_append, htmlIn_eq,
    mathmlTextIntegrationPoint_rows, svgHtmlIntegrationPoint_rows, mathmlAnnotationXml_rows, Bool.or_assoc]

theorem specialTag_rows (n : EName) :
    specialTag n = memName (rows "html" htmlSpecialTagNames ++ foreignRows) n := by
  simp only [specialTag, htmlSpecialTag, foreignRows, memName_append, htmlIn_eq,
    mathmlTextIntegrationPoint_rows, svgHtmlIntegrationPoint_rows, mathmlAnnotationXml_rows, Bool.or_assoc]

/-- the special category: the source's table is the standard's, and the model's is the source's -/
theorem special_gen_spec : sameSet Gen.TreeTables.specialTag Spec.TreeTables.special = true := by decide +kernel

theorem special_model_gen :
    sameSet (rows "html" htmlSpecialTagNames ++ foreignRows) Gen.TreeTables.specialTag = true := by decide +kernel

/-! ### `[base] - names` -/

theorem toList_inj {a b : String} (h : a.toList = b.toList) : a = b := String.ext h

theorem isOneOf_true_of_mem {x : Str} {r : List String} {s : String} (hs : s ∈ r) (hx : s.toList = x) :
    isOneOf x r = true := by
  simp only [isOneOf, List.any_eq_true, beq_iff_eq]; exact ⟨s, hs, hx⟩

theorem isOneOf_false_of_not_mem {x : Str} {r : List String} {s : String} (hs : s ∉ r) (hx : s.toList = x) :
    isOneOf x r = false := by
  rw [Bool.eq_false_iff]; intro h
  simp only [isOneOf, List.any_eq_true, beq_iff_eq] at h
  obtain ⟨t, ht, htx⟩ := h
  have : t = s := toList_inj (htx.trans hx.symm)
  subst this; exact hs ht

theorem isOneOf_cons (x : Str) (s : String) (l : List String) :
    isOneOf x (s :: l) = (s.toList == x || isOneOf x l) := by simp [isOneOf]

theorem isOneOf_filter (x : Str) (l r : List String) :
    isOneOf x (l.filter (fun s => !r.contains s)) = (!isOneOf x r && isOneOf x l) := by
  induction l with
  | nil => simp [isOneOf]
  | cons s l ih =>
    by_cases hs : s ∈ r
    · rw [List.filter_cons_of_neg (by simpa using hs), ih, isOneOf_cons]
      by_cases hx : s.toList = x
      · rw [isOneOf_true_of_mem hs hx]; simp
      · have : (s.toList == x) = false := by simpa using hx
        rw [this]; simp
    · rw [List.filter_cons_of_pos (by simpa using hs), isOneOf_cons, ih, isOneOf_cons]
      by_cases hx : s.toList = x
      · rw [isOneOf_false_of_not_mem hs hx]; simp [hx]
      · have : (s.toList == x) = false := by simpa using hx
        rw [this]; simp

/-- `[set] - names` where the base set is an HTML name list -/
theorem minus_html_eq (n : EName) (l r : List String) :
    (if htmlIn n r then false else htmlIn n l) = memName (rows "html" (l.filter (fun s => !r.contains s))) n := by
  rw [← htmlIn_eq]; simp only [htmlIn, isOneOf_filter]
  by_cases h1 : (n.ns == nsHtml) = true <;> by_cases h2 : isOneOf n.loc r = true <;> simp [h1, h2]

end H5V.Lemmas.HtmlTBTables
