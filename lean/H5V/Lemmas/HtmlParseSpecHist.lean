import H5V.Lemmas.HtmlParseSpecFinish
import H5V.Lemmas.HtmlParseSpecAgree2
/-!
**The history of a successful joint parse** (`parse_hist`): `parseChunks … [s] = .ok jf` unfolded
into `Parser::process` (a `JRunsD`) and `Parser::finish` (`FinishData`), packaged as `ParseHist`: the log `Hf` of
everything the tokenizer delivered, the joint state `j3` after it, and the fact that the tokenizer model ALONE,
run under any pause-free history policy that agrees with the tree builder on the histories followed by at least
one more token, ends with exactly `Hf` in its `out` register.
-/
namespace H5V.Lemmas.ParseSpec
open H5V.Model.HtmlTok (Mach Pol Out Str feedBom NoPause)
open H5V.Model.HtmlTB (finishTB)
open H5V.Model.HtmlTB.Joint (JState absorb polOf)
open H5V.Lemmas.JointChunk
open H5V.Props.C03 (parseChunks Start)

/-- `parseChunks … [s]` = `Parser::process(s)` (a `JRunsD`, or nothing for the empty text), then `Parser::finish` -/
theorem parse_unfold {o : TOpts} {N : Nat} {m0 : Mach} {j0 : JState} {s : Str} {jf : JState} (hs : Start m0)
    (h : parseChunks o N m0 j0 [s] = .ok jf) :
    ∃ m1 j1 D1, ((s = [] ∧ m1 = m0 ∧ j1 = j0 ∧ D1 = []) ∨
        (s ≠ [] ∧ JRunsD o (feedBom m0 s).1 (feedBom m0 s).2 j0 m1 j1 D1)) ∧
      H5V.Model.HtmlTB.Joint.finish o m1 j1 = .ok jf := by
  unfold parseChunks at h
  simp only [H5V.Props.C03.feedChunks] at h
  cases hp : jprocessChunk o N m0 [] s j0 with
  | error e => rw [hp] at h; cases h
  | ok v =>
    obtain ⟨m1, i1, j1⟩ := v
    rw [hp] at h
    simp only at h
    cases N with
    | zero => rw [processChunk_zero] at hp; cases hp
    | succ N' =>
      rw [processChunk_succ, List.nil_append] at hp
      rw [processChunk_succ] at h
      by_cases hc : s = []
      · subst hc
        simp only [List.isEmpty_nil, if_true, Except.ok.injEq, Prod.mk.injEq] at hp
        obtain ⟨rfl, rfl, rfl⟩ := hp
        simp only [List.append_nil, List.isEmpty_nil, if_true, Bool.not_true, Bool.false_eq_true, if_false] at h
        exact ⟨_, _, [], Or.inl ⟨rfl, rfl, rfl, rfl⟩, h⟩
      · simp only [H5V.Props.C03.isEmpty_false hc, Bool.false_eq_true, if_false] at hp
        obtain ⟨hnil, hr⟩ := afterRun_sound o N' _ _ _ j0 m1 i1 j1 (H5V.Props.C03.jinv_feedBom hs hc) hp
        subst hnil
        simp only [List.append_nil, List.isEmpty_nil, if_true, Bool.not_true, Bool.false_eq_true, if_false] at h
        obtain ⟨D1, hD1⟩ := jrunsD_of_jrunsTo hr
        exact ⟨_, _, D1, Or.inr ⟨hc, hD1⟩, h⟩

/-- `Parser::process` of the whole text against `HtmlTok.feed` under any agreeing policy (empty text included) -/
theorem parse_feed {o : TOpts} {j0 : JState} {m0 : Mach} (hm0 : m0.out = []) {s : Str} {m1 : Mach} {j1 : JState}
    {D1 : Out}
    (h : (s = [] ∧ m1 = m0 ∧ j1 = j0 ∧ D1 = []) ∨ (s ≠ [] ∧ JRunsD o (feedBom m0 s).1 (feedBom m0 s).2 j0 m1 j1 D1)) :
    absorb D1.reverse j0 = .ok j1 ∧ m1.out = [] ∧
      ∀ pol', NoPause pol' → ∀ P, Agrees pol' j0 P → P D1 → ∀ M1 i1,
        H5V.Model.HtmlTok.feed o pol' m0 [] s = .done M1 i1 → M1 = sh D1 m1 ∧ i1 = [] := by
  rcases h with ⟨rfl, rfl, rfl, rfl⟩ | ⟨hne, hr⟩
  · refine ⟨rfl, hm0, fun pol' _ P _ _ M1 i1 hf => ?_⟩
    simp only [H5V.Model.HtmlTok.feed, List.append_nil, List.isEmpty_nil, if_true] at hf
    cases hf
    exact ⟨(sh_nil_of hm0).symm, rfl⟩
  · exact feed_star hm0 hne hr

/-- the history `Hf` of a finished joint parse of `s` (from the fresh tokenizer `m0`, joint state `j0`) -/
structure ParseHist (o : TOpts) (m0 : Mach) (j0 : JState) (s : Str) (jf : JState) (Hf : Out) (j3 : JState) : Prop where
  hist : absorb Hf.reverse j0 = .ok j3
  fin : finishTB.run j3.tb = .ok ((), jf.tb)
  res : jf.results = j3.results
  eofHead : ∃ l rest, Hf = (H5V.Model.HtmlTok.Token.eof, l) :: rest
  /-- the tokenizer model alone, under an agreeing pause-free policy, delivers `Hf` -/
  star : ∀ pol', NoPause pol' → ∀ P, Agrees pol' j0 P → (∀ X, Before Hf X → P X) → ∀ M1 i1 mf',
    H5V.Model.HtmlTok.feed o pol' m0 [] s = .done M1 i1 → H5V.Model.HtmlTok.finish o pol' M1 = .ok mf' → mf'.out = Hf

theorem before_of_eof {l : Nat} {rest X : Out} : Before ((H5V.Model.HtmlTok.Token.eof, l) :: rest ++ X) X := by
  refine ⟨(H5V.Model.HtmlTok.Token.eof, l) :: rest, rfl, ?_⟩
  rw [List.reverse_cons, convAll_append]
  simp [convAll, H5V.Model.HtmlTB.Joint.conv]

theorem before_suffix {Hf Y X : Out} (h : Before Hf (Y ++ X)) : Before Hf X := by
  obtain ⟨Z, hZ, hne⟩ := h
  refine ⟨Z ++ Y, by rw [hZ, List.append_assoc], ?_⟩
  rw [List.reverse_append, convAll_append]
  intro h0
  exact hne (List.append_eq_nil_iff.mp h0).2

/-- the parts of a successful joint parse, with its history -/
theorem parse_hist' {o : TOpts} {N : Nat} {m0 : Mach} {j0 : JState} {s : Str} {jf : JState} (hs : Start m0)
    (h : parseChunks o N m0 j0 [s] = .ok jf) :
    ∃ m1 j1 D1 Dp mx inp jx D2 m2 j2 m3 j3,
      ((s = [] ∧ m1 = m0 ∧ j1 = j0 ∧ D1 = []) ∨ (s ≠ [] ∧ JRunsD o (feedBom m0 s).1 (feedBom m0 s).2 j0 m1 j1 D1)) ∧
      FinishData o m1 j1 jf Dp mx inp jx D2 m2 j2 m3 j3 ∧
      ParseHist o m0 j0 s jf (m3.out ++ (D2 ++ (Dp ++ D1))) j3 := by
  have hm0 : m0.out = [] := hs.out
  obtain ⟨m1, j1, D1, hfeedJ, hfinJ⟩ := parse_unfold hs h
  obtain ⟨hH1, hm1, hfeed⟩ := parse_feed (o := o) hm0 hfeedJ
  obtain ⟨Dp, mx, inp, jx, D2, m2, j2, m3, j3, d⟩ := finish_data hfinJ
  obtain ⟨_, _, _, _, hHf, ⟨l, rest, he⟩⟩ := d.hist hm1 D1 hH1
  refine ⟨m1, j1, D1, Dp, mx, inp, jx, D2, m2, j2, m3, j3, hfeedJ, d,
    hHf, d.fin, d.res, ⟨l, rest ++ (D2 ++ (Dp ++ D1)), by rw [he]; rfl⟩, ?_⟩
  intro pol' hnp P hP hPB M1 i1 mf' hf1 hf2
  have hBr : Before (m3.out ++ (D2 ++ (Dp ++ D1))) (D2 ++ (Dp ++ D1)) := by rw [he]; exact before_of_eof
  have hB1 : Before (m3.out ++ (D2 ++ (Dp ++ D1))) D1 := by
    have := before_suffix (Y := D2 ++ Dp) (by rw [List.append_assoc]; exact hBr)
    exact this
  obtain ⟨rfl, _⟩ := hfeed pol' hnp P hP (hPB _ hB1) M1 i1 hf1
  exact d.star hm1 D1 hH1 pol' hnp P hP (hPB _ hBr) mf' hf2

theorem parse_hist {o : TOpts} {N : Nat} {m0 : Mach} {j0 : JState} {s : Str} {jf : JState} (hs : Start m0)
    (h : parseChunks o N m0 j0 [s] = .ok jf) : ∃ Hf j3, ParseHist o m0 j0 s jf Hf j3 := by
  obtain ⟨m1, j1, D1, Dp, mx, inp, jx, D2, m2, j2, m3, j3, _, _, ph⟩ := parse_hist' hs h
  exact ⟨_, _, ph⟩

end H5V.Lemmas.ParseSpec
