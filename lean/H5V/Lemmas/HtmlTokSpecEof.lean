import H5V.Lemmas.HtmlTokSpecTac
set_option linter.unusedSimpArgs false
set_option linter.unusedVariables false
/-!
# C01 simulation — layer L4a "end of file": the model's `eof_step` loop (`eofLoop`) and the
specification's EOF arms deliver the same tokens (`eof_sim`)
-/
namespace H5V.Lemmas.HtmlTokSpec
open H5V.Model.HtmlTok
open H5V.Spec.HtmlTokenizer (St Tok Emit Tree Switch Ctl ReturnSt)
open H5V.Spec.HtmlTokenizer

/-- the specification, at end of input, stops after `k ≥ 0` further steps with output `out` -/
def StopsWith (tree : Tree) (t : Tok) (out : List Emit) : Prop :=
  ∃ t1 t2, Steps tree t [] t1 [] ∧ sstep tree t1 [] = (t2, .stop) ∧ t2.out = out

theorem StopsWith.now {tree : Tree} {t t2 : Tok} {out : List Emit}
    (h1 : sstep tree t [] = (t2, .stop)) (h2 : t2.out = out) : StopsWith tree t out :=
  ⟨t, t2, Steps.refl _ _, h1, h2⟩

theorem StopsWith.step {tree : Tree} {t t1 : Tok} {n : Nat} {out : List Emit}
    (h1 : sstep tree t [] = (t1, .advance n)) (h2 : StopsWith tree t1 out) : StopsWith tree t out := by
  obtain ⟨t', t2, hs, h3, h4⟩ := h2
  exact ⟨t', t2, Steps.step h1 (by simpa using hs), h3, h4⟩

/-- one step of the specification at end of input, in a form that mentions `sstep tree t []` once, to
be computed by `simp`: it goes on, or it stops with the output wanted -/
theorem StopsWith.step1 {tree : Tree} {t : Tok} {out : List Emit}
    (h : match sstep tree t [] with
      | (t1, .advance _) => StopsWith tree t1 out
      | (t2, .stop) => t2.out = out) : StopsWith tree t out := by
  split at h
  · next h1 => exact StopsWith.step h1 h
  · next h1 => exact StopsWith.now h1 h

attribute [spec_step] Tok.emitEOF markupDeclarationOpenState nextAre nextAreCaseInsensitive

/-- the specification runs at end of input until it stops; its output is then compared -/
macro "eof_leaf" : tactic => `(tactic| (
  repeat (refine StopsWith.step1 ?_; simp [spec_step, *])))

/-- the parts of `h : RegCore m t` in normal form at the state `hs`; the model's loop computed in `he` -/
macro "eof_state" h:ident hs:ident he:ident : tactic => `(tactic| (
  obtain ⟨hstd, hst, hcr, hreg, hout⟩ := $h
  simp [$hs:ident, stOf, altSt, isRet] at hst
  simp [RegRel, AttrRel, $hs:ident, isTagSt, needsCur, usesTemp, usesComment, usesDoctype] at hreg
  simp [OutRel, cdataBuf, isCdata, $hs:ident] at hout
  simp [eofLoop, transEof, $hs:ident, to, reconsumeTo] at $he:ident
  subst $he:ident
  repeat' (rcases hst with hst | hst)))

set_option hygiene false in
/-- start of a per-state lemma `EofOk o tree m t`: destructure `h : RegCore m t` at the state `hs`
(`tab_intro`), compute the model's loop in `he` -/
macro "eof_flat" h:ident hs:ident he:ident : tactic => `(tactic| (
  tab_intro $h $hs
  intro k mf $he
  simp [eofLoop, transEof, model_ops] at $he:ident
  subst $he:ident
  repeat' (rcases hst with hst | hst)
  all_goals (try (obtain ⟨hst, hrs⟩ := hst))
  all_goals subst_vars))

/-- goal of the per-state lemmas: whatever fuel `≥ 4` the loop is given, its result carries the
output with which the specification stops -/
def EofOk (o : Opts) (tree : Tree) (m : Mach) (t : Tok) : Prop :=
  ∀ (k : Nat) (mf : Mach), eofLoop o (k + 4) m = .ok mf → StopsWith tree t (flat mf.out)

/-- all states: any fuel `≥ 4`. In the markup declaration open state html5ever's `eof_step` does not
clear `current_comment`: it is empty there (every exit of a comment state takes it), which is the last
clause of `RegRel`. -/
theorem eof_ok (o : Opts) (ho : o.exactErrors = false) (tree : Tree) (m : Mach) (t : Tok)
    (h : RegCore m t) : EofOk o tree m t := by
  cases hs : m.state
  case rawEndTagOpen kd | rawEndTagName kd =>
    rcases kd with _ | _ | _ | (_ | _)
    case scriptDataEscaped.doubleEscaped => exact absurd h.std (by simp [Std, hs])
    all_goals
      eof_flat h hs he
      all_goals eof_leaf
  case rawData kd | rawLessThanSign kd =>
    rcases kd with _ | _ | _ | (_ | _)
    all_goals
      eof_flat h hs he
      all_goals eof_leaf
  case scriptDataEscapeStart kd | scriptDataEscapedDash kd | scriptDataEscapedDashDash kd | attributeValue kd |
      afterDoctypeKeyword kd | beforeDoctypeIdentifier kd | doctypeIdentifierDoubleQuoted kd |
      doctypeIdentifierSingleQuoted kd | afterDoctypeIdentifier kd =>
    cases kd
    all_goals
      eof_flat h hs he
      all_goals eof_leaf
  all_goals
    eof_flat h hs he
    all_goals eof_leaf

/-- **end of file**: the model's `eof_step` loop, started in a configuration related to the
specification's, ends with the output with which the specification, reading the empty input, stops -/
theorem eof_sim (o : Opts) (ho : o.exactErrors = false) (tree : Tree) (m : Mach) (t : Tok)
    (h : RegCore m t) (mf : Mach) (he : eofLoop o 8 m = .ok mf) : StopsWith tree t (flat mf.out) :=
  eof_ok o ho tree m t h 4 mf he

/-- the loop never fails and never runs out of its fuel -/
theorem eofLoop_ok (o : Opts) (m : Mach) : ∃ mf, eofLoop o 8 m = .ok mf := by
  cases hs : m.state
  case rawData kd | rawLessThanSign kd | rawEndTagOpen kd | rawEndTagName kd =>
    rcases kd with _ | _ | _ | (_ | _)
    all_goals simp [eofLoop, transEof, hs, to, reconsumeTo]
  case scriptDataEscapeStart kd =>
    cases kd
    all_goals simp [eofLoop, transEof, hs, to, reconsumeTo]
  all_goals simp [eofLoop, transEof, hs, to, reconsumeTo]

end H5V.Lemmas.HtmlTokSpec
