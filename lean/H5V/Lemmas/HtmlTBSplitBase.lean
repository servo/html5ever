import H5V.Model.HtmlTB
import H5V.Lemmas.HtmlTBSplitDom
import H5V.Lemmas.HtmlTBSplitAttr
/-!
C03 lifted to the tree: the simulation relation `Sim` on tree-builder states, the relational
judgement `RespQ` ("a computation respects `Sim`") and its closure rules, and the walk `resp_auto` that
pushes `RespQ` through all definitions of the tree-builder model.

`Sim s t`: `t` is `s` up to
* the trace of sink calls (`traceRev`), the line counter (`currentLine`), the parse-error log of the
  DOM (`dom.errorsRev`) — none of which is ever read back by the tree builder;
* a re-splitting of the pending table text (`PendRel`: same concatenation, same "contains
  non-whitespace" verdict, no empty piece);
and `s` satisfies the invariant `AFInv` (every tag in the list of active formatting elements has one
of the 14 formatting names) — `Sim` is a partial equivalence relation whose domain is `Good`: `AFInv` and
no empty piece of pending table text.
-/
namespace H5V.Lemmas.TBSplit
open H5V.Model.Dom (Id QualName Attr NodeOrText SinkOp Output ElementFlags QuirksMode Dom)
open H5V.Model.HtmlTB
open H5V.Lemmas.TBSplitDom

abbrev Str := List Char

/-! ### the invariant and the relation -/

def fmtNames : List String :=
  ["a", "b", "big", "code", "em", "font", "i", "nobr", "s", "small", "strike", "strong", "tt", "u"]

def FmtEntry : FormatEntry → Prop
  | .marker => True
  | .element _ t => isOneOf t.name fmtNames = true

/-- every entry of the list of active formatting elements carries a formatting tag -/
def AFInv (s : State) : Prop := ∀ e ∈ s.activeFormatting, FmtEntry e

/-- `contains_nonspace` of rules.rs:1150 -/
def cns (l : List (SplitStatus × Str)) : Bool :=
  l.any (fun (split, text) =>
    match split with
    | .whitespace => false
    | .notWhitespace => true
    | .notSplit => anyNotWhitespace text)

structure PendRel (l1 l2 : List (SplitStatus × Str)) : Prop where
  cat : l1.flatMap (·.2) = l2.flatMap (·.2)
  cns : cns l1 = cns l2
  ne1 : ∀ p ∈ l1, p.2 ≠ []
  ne2 : ∀ p ∈ l2, p.2 ≠ []

/-- `s` with the four unobservable components replaced -/
@[reducible] def upd (s : State) (tr : List (SinkOp × Output)) (cl : Nat) (er : List Str)
    (pt : List (SplitStatus × Str)) : State :=
  { s with traceRev := tr, currentLine := cl, pendingTableText := pt, dom := { s.dom with errorsRev := er } }

def Sim (s t : State) : Prop :=
  AFInv s ∧ ∃ tr cl er pt, t = upd s tr cl er pt ∧ PendRel s.pendingTableText pt

theorem upd_self (s : State) : upd s s.traceRev s.currentLine s.dom.errorsRev s.pendingTableText = s := by
  cases s with | mk _ _ _ _ _ _ _ _ _ _ _ _ _ _ _ _ dom _ => cases dom; rfl

theorem upd_upd (s : State) (tr cl er pt tr' cl' er' pt') :
    upd (upd s tr cl er pt) tr' cl' er' pt' = upd s tr' cl' er' pt' := rfl

theorem PendRel.symm {l1 l2} (h : PendRel l1 l2) : PendRel l2 l1 := ⟨h.cat.symm, h.cns.symm, h.ne2, h.ne1⟩
theorem PendRel.trans {l1 l2 l3} (h : PendRel l1 l2) (h' : PendRel l2 l3) : PendRel l1 l3 :=
  ⟨h.cat.trans h'.cat, h.cns.trans h'.cns, h.ne1, h'.ne2⟩
theorem PendRel.rfl' {l} (h : ∀ p ∈ l, p.2 ≠ []) : PendRel l l := ⟨rfl, rfl, h, h⟩

theorem PendRel.isEmpty_eq {l1 l2 : List (SplitStatus × Str)} (h : PendRel l1 l2) : l1.isEmpty = l2.isEmpty := by
  cases l1 with
  | nil =>
    cases l2 with
    | nil => rfl
    | cons p l2 =>
      exfalso
      have hc := h.cat
      simp only [List.flatMap_nil, List.flatMap_cons] at hc
      have : p.2 = [] := (List.append_eq_nil_iff.mp hc.symm).1
      exact h.ne2 p (List.mem_cons_self ..) this
  | cons p l1 =>
    cases l2 with
    | nil =>
      exfalso
      have hc := h.cat
      simp only [List.flatMap_nil, List.flatMap_cons] at hc
      have : p.2 = [] := (List.append_eq_nil_iff.mp hc).1
      exact h.ne1 p (List.mem_cons_self ..) this
    | cons q l2 => rfl

theorem Sim.symm {s t : State} (h : Sim s t) : Sim t s := by
  obtain ⟨hi, tr, cl, er, pt, rfl, hp⟩ := h
  refine ⟨hi, s.traceRev, s.currentLine, s.dom.errorsRev, s.pendingTableText, ?_, hp.symm⟩
  rw [upd_upd, upd_self]

theorem Sim.trans {s t u : State} (h : Sim s t) (h' : Sim t u) : Sim s u := by
  obtain ⟨hi, tr, cl, er, pt, rfl, hp⟩ := h
  obtain ⟨_, tr', cl', er', pt', rfl, hp'⟩ := h'
  exact ⟨hi, tr', cl', er', pt', rfl, hp.trans hp'⟩

theorem Sim.left {s t : State} (h : Sim s t) : Sim s s := h.trans h.symm
theorem Sim.right {s t : State} (h : Sim s t) : Sim t t := h.symm.trans h
theorem Sim.inv {s t : State} (h : Sim s t) : AFInv s := h.1
theorem Sim.inv' {s t : State} (h : Sim s t) : AFInv t := h.symm.1

/-- the domain of `Sim` -/
structure Good (s : State) : Prop where
  af : AFInv s
  pend : ∀ p ∈ s.pendingTableText, p.2 ≠ []

theorem Good.sim {s : State} (h : Good s) : Sim s s :=
  ⟨h.af, _, _, _, _, (upd_self s).symm, PendRel.rfl' h.pend⟩

theorem Sim.good {s t : State} (h : Sim s t) : Good s := ⟨h.1, by obtain ⟨_, _, _, _, _, _, hp⟩ := h; exact hp.ne1⟩

/-! field access through `Sim` -/
section fields
variable {s t : State} (h : Sim s t)
include h
theorem Sim.opts : s.opts = t.opts := by obtain ⟨_, _, _, _, _, rfl, _⟩ := h; rfl
theorem Sim.mode : s.mode = t.mode := by obtain ⟨_, _, _, _, _, rfl, _⟩ := h; rfl
theorem Sim.origMode : s.origMode = t.origMode := by obtain ⟨_, _, _, _, _, rfl, _⟩ := h; rfl
theorem Sim.templateModes : s.templateModes = t.templateModes := by obtain ⟨_, _, _, _, _, rfl, _⟩ := h; rfl
theorem Sim.openElems : s.openElems = t.openElems := by obtain ⟨_, _, _, _, _, rfl, _⟩ := h; rfl
theorem Sim.activeFormatting : s.activeFormatting = t.activeFormatting := by obtain ⟨_, _, _, _, _, rfl, _⟩ := h; rfl
theorem Sim.ignoreLf : s.ignoreLf = t.ignoreLf := by obtain ⟨_, _, _, _, _, rfl, _⟩ := h; rfl
theorem Sim.framesetOk : s.framesetOk = t.framesetOk := by obtain ⟨_, _, _, _, _, rfl, _⟩ := h; rfl
theorem Sim.fosterParenting : s.fosterParenting = t.fosterParenting := by obtain ⟨_, _, _, _, _, rfl, _⟩ := h; rfl
theorem Sim.contextElem : s.contextElem = t.contextElem := by obtain ⟨_, _, _, _, _, rfl, _⟩ := h; rfl
theorem Sim.nodes : s.dom.nodes = t.dom.nodes := by obtain ⟨_, _, _, _, _, rfl, _⟩ := h; rfl
theorem Sim.quirks : s.dom.quirks = t.dom.quirks := by obtain ⟨_, _, _, _, _, rfl, _⟩ := h; rfl
theorem Sim.pend : PendRel s.pendingTableText t.pendingTableText := by obtain ⟨_, _, _, _, _, rfl, hp⟩ := h; exact hp
end fields

/-! ### running `M` -/

theorem bind_apply {α β : Type} (m : M α) (f : α → M β) (s : State) :
    (m >>= f) s = match m s with | .ok (a, s') => f a s' | .error e => .error e := by
  show (StateT.bind m f) s = _
  unfold StateT.bind
  cases m s with
  | error e => rfl
  | ok p => rfl

theorem pure_apply {α : Type} (a : α) (s : State) : (pure a : M α) s = .ok (a, s) := rfl
theorem getS_apply (s : State) : getS s = .ok (s, s) := rfl
theorem modS_apply (f : State → State) (s : State) : modS f s = .ok ((), f s) := rfl
theorem set_apply (s' s : State) : (set s' : M PUnit) s = .ok (⟨⟩, s') := rfl
theorem throw_apply {α : Type} (e : String) (s : State) : (throw e : M α) s = .error e := rfl

/-! ### the judgement -/

def RelR {α : Type} (Q : α → Prop) : Except String (α × State) → Except String (α × State) → Prop
  | .ok (a, s), .ok (b, t) => a = b ∧ Q a ∧ Sim s t
  | .error _, .error _ => True
  | _, _ => False

/-- `m` respects `Sim`; its answers satisfy `Q` -/
def RespQ {α : Type} (Q : α → Prop) (m : M α) : Prop := ∀ s t, Sim s t → RelR Q (m s) (m t)

abbrev Resp {α : Type} (m : M α) : Prop := RespQ (fun _ => True) m

theorem RelR.ok_iff {α : Type} {Q : α → Prop} {a b : α} {s t : State} :
    RelR Q (.ok (a, s)) (.ok (b, t)) ↔ a = b ∧ Q a ∧ Sim s t := Iff.rfl

/-- related results are two failures, or two answers as in `RelR.ok_iff` -/
theorem RelR.inv {α : Type} {Q : α → Prop} {x y : Except String (α × State)} (h : RelR Q x y) :
    (∃ e e', x = .error e ∧ y = .error e') ∨ ∃ a s t, x = .ok (a, s) ∧ y = .ok (a, t) ∧ Q a ∧ Sim s t := by
  cases x with
  | error e => cases y with
    | error e' => exact .inl ⟨e, e', rfl, rfl⟩
    | ok q => exact h.elim
  | ok p => cases y with
    | error e' => exact h.elim
    | ok q =>
      obtain ⟨a, s⟩ := p; obtain ⟨b, t⟩ := q
      obtain ⟨rfl, hq, hs⟩ := h
      exact .inr ⟨a, s, t, rfl, rfl, hq, hs⟩

theorem RelR.mono {α : Type} {P Q : α → Prop} (hpq : ∀ a, P a → Q a) {x y : Except String (α × State)}
    (h : RelR P x y) : RelR Q x y := by
  rcases h.inv with ⟨_, _, rfl, rfl⟩ | ⟨a, s, t, rfl, rfl, hq, hs⟩
  · trivial
  · exact ⟨rfl, hpq a hq, hs⟩

theorem RelR.symm {α : Type} {Q : α → Prop} {x y : Except String (α × State)} (h : RelR Q x y) : RelR Q y x := by
  rcases h.inv with ⟨_, _, rfl, rfl⟩ | ⟨a, s, t, rfl, rfl, hq, hs⟩
  · trivial
  · exact ⟨rfl, hq, hs.symm⟩

theorem RelR.trans {α : Type} {Q : α → Prop} {x y z : Except String (α × State)} (h : RelR Q x y) (h' : RelR Q y z) :
    RelR Q x z := by
  rcases h.inv with ⟨_, _, rfl, rfl⟩ | ⟨a, s, t, rfl, rfl, hq, hs⟩
  · rcases h'.inv with ⟨_, _, _, rfl⟩ | ⟨_, _, _, h1, _⟩
    · trivial
    · cases h1
  · rcases h'.inv with ⟨_, _, h1, _⟩ | ⟨_, _, u, h1, rfl, _, hs'⟩
    · cases h1
    · cases h1; exact ⟨rfl, hq, hs.trans hs'⟩

theorem respQ_weaken {α : Type} {P Q : α → Prop} {m : M α} (h : RespQ P m) (hpq : ∀ a, P a → Q a) : RespQ Q m :=
  fun s t hst => (h s t hst).mono hpq

theorem respQ_resp {α : Type} {P : α → Prop} {m : M α} (h : RespQ P m) : Resp m := respQ_weaken h (fun _ _ => trivial)

theorem respQ_pure {α : Type} {Q : α → Prop} {a : α} (h : Q a) : RespQ Q (pure a : M α) :=
  fun _ _ hst => ⟨rfl, h, hst⟩

theorem resp_pure {α : Type} (a : α) : Resp (pure a : M α) := respQ_pure trivial

@[resp]
theorem respQ_throw {α : Type} {Q : α → Prop} (e : String) : RespQ Q (throw e : M α) := fun _ _ _ => trivial

/-- relational bind: two (possibly different) computations with related results, then related continuations -/
theorem relR_bind {α β : Type} {P : α → Prop} {Q : β → Prop} {m m' : M α} {f f' : α → M β} {s t : State}
    (h : RelR P (m s) (m' t)) (hf : ∀ a s' t', P a → Sim s' t' → RelR Q (f a s') (f' a t')) :
    RelR Q ((m >>= f) s) ((m' >>= f') t) := by
  rw [bind_apply, bind_apply]
  rcases h.inv with ⟨_, _, h1, h2⟩ | ⟨a, s', t', h1, h2, hp, hs'⟩
  · rw [h1, h2]; trivial
  · rw [h1, h2]; exact hf a s' t' hp hs'

theorem respQ_bind {α β : Type} {P : α → Prop} {Q : β → Prop} {m : M α} {f : α → M β}
    (hm : RespQ P m) (hf : ∀ a, P a → RespQ Q (f a)) : RespQ Q (m >>= f) :=
  fun s t hst => relR_bind (hm s t hst) (fun a s' t' hp hs' => hf a hp s' t' hs')

/-- reading the state: the continuation may look at every component that `Sim` fixes -/
theorem respQ_getS_bind {β : Type} {Q : β → Prop} {f : State → M β}
    (h : ∀ s, Good s → RespQ Q (f s)) (hst : ∀ s t, Sim s t → f s = f t) : RespQ Q (getS >>= f) := by
  intro s t hs
  rw [bind_apply, bind_apply, getS_apply, getS_apply]
  show RelR Q (f s s) (f t t)
  rw [← hst s t hs]
  exact h s hs.good s t hs

/-- `getS` whose continuation uses the state in a way that is not literally stable (e.g. `set { s with … }`) -/
theorem respQ_getS_bind_diag {β : Type} {Q : β → Prop} {f : State → M β}
    (h : ∀ s t, Sim s t → RelR Q (f s s) (f t t)) : RespQ Q (getS >>= f) := by
  intro s t hs
  rw [bind_apply, bind_apply, getS_apply, getS_apply]
  exact h s t hs

theorem resp_modS {g : State → State} (h : ∀ s t, Sim s t → Sim (g s) (g t)) : Resp (modS g) :=
  fun s t hst => ⟨rfl, trivial, h s t hst⟩

theorem resp_set {s' t' : State} (h : Sim s' t') : ∀ s t, Sim s t → RelR (fun _ => True) ((set s' : M PUnit) s) ((set t' : M PUnit) t) :=
  fun _ _ _ => ⟨rfl, trivial, h⟩

/-- the `Decidable` instance is an implicit argument, found by unification with the goal -/
theorem respQ_ite {α : Type} {Q : α → Prop} {c : Prop} {_ : Decidable c} {a b : M α}
    (ha : c → RespQ Q a) (hb : ¬ c → RespQ Q b) : RespQ Q (if c then a else b) := by
  split
  · exact ha ‹_›
  · exact hb ‹_›

/-! ### the sink -/

theorem dom_eq_wE {s t : State} (h : Sim s t) : t.dom = wE s.dom t.dom.errorsRev := by
  obtain ⟨_, _, _, _, _, rfl, _⟩ := h; rfl

theorem sink_apply (op : SinkOp) (s : State) :
    sink op s = match s.dom.apply op with
      | .error e => .error (errClass e ++ "@sink: " ++ e)
      | .ok (d, out) => .ok (out, { s with dom := d, traceRev := (op, out) :: s.traceRev }) := rfl

@[resp]
theorem sink_resp (op : SinkOp) : Resp (sink op) := by
  intro s t hst
  obtain ⟨hi, tr, cl, er, pt, rfl, hp⟩ := hst
  rw [sink_apply, sink_apply]
  have hw := apply_wE s.dom er op
  have hd : (upd s tr cl er pt).dom = wE s.dom er := rfl
  rw [hd, hw]
  cases hA : s.dom.apply op with
  | error e => trivial
  | ok v =>
    obtain ⟨d', o⟩ := v
    refine ⟨rfl, trivial, hi, (op, o) :: tr, cl, errUpd op er, pt, ?_, hp⟩
    cases d'; rfl

@[resp]
theorem panicAt_resp {α : Type} {Q : α → Prop} (a b c : String) : RespQ Q (panicAt a b c : M α) := respQ_throw _
@[resp]
theorem fuelOut_resp {α : Type} {Q : α → Prop} (a : String) : RespQ Q (fuelOut a : M α) := respQ_throw _

theorem respQ_pure_bind {α β : Type} {Q : β → Prop} {a : α} {f : α → M β} (h : RespQ Q (f a)) :
    RespQ Q ((pure a : M α) >>= f) := h

theorem respQ_throw_bind {α β : Type} {Q : β → Prop} (e : String) (f : α → M β) : RespQ Q ((throw e : M α) >>= f) :=
  fun _ _ _ => trivial
theorem respQ_panicAt_bind {α β : Type} {Q : β → Prop} (a b c : String) (f : α → M β) :
    RespQ Q ((panicAt a b c : M α) >>= f) := respQ_throw_bind _ _
theorem respQ_fuelOut_bind {α β : Type} {Q : β → Prop} (a : String) (f : α → M β) :
    RespQ Q ((fuelOut a : M α) >>= f) := respQ_throw_bind _ _

/-- bind where the first computation already yields the final kind of answer (`α = β`): its
postcondition is handed to the continuation -/
theorem respQ_bind_same {α : Type} {Q : α → Prop} {m : M α} {f : α → M α}
    (hm : RespQ Q m) (hf : ∀ a, Q a → RespQ Q (f a)) : RespQ Q (m >>= f) := respQ_bind hm hf

/-! ### tokens and answers of the rules -/

/-- a character token is never empty (`C06_chars_token_nonempty`, `C06_split_run_nonempty`) -/
def TokOK : Token → Prop
  | .chars _ x => x ≠ []
  | _ => True

/-- a `Reprocess` answer of the rules for `t` carries `t` itself (or EOF, after a template was closed) -/
def ResOK (t : Token) : ProcessResult → Prop
  | .reprocess _ t' => t' = t ∨ t' = .eof
  | .reprocessForeign t' => t' = t
  | _ => True

theorem ResOK.tokOK {t : Token} (ht : TokOK t) {m : Mode} {t' : Token} (h : ResOK t (.reprocess m t')) : TokOK t' := by
  rcases h with rfl | rfl
  · exact ht
  · trivial

/-- an answer that is not a `Reprocess` -/
def NotRe : ProcessResult → Prop
  | .reprocess _ _ => False
  | .reprocessForeign _ => False
  | _ => True

theorem respQ_notRe_ok {t : Token} {m : M ProcessResult} (h : RespQ NotRe m) : RespQ (ResOK t) m :=
  respQ_weaken h (fun a ha => by cases a <;> first | trivial | exact ha.elim)

theorem respQ_done_notRe {m : M ProcessResult} (h : RespQ (· = .done) m) : RespQ NotRe m :=
  respQ_weaken h (fun a ha => by subst ha; trivial)

theorem respQ_done_ok {t : Token} {m : M ProcessResult} (h : RespQ (· = .done) m) : RespQ (ResOK t) m :=
  respQ_weaken h (fun a ha => by subst ha; trivial)

/-! ### state updates that `Sim` tolerates -/

/-- an update of components other than the unobservable ones and the list of active formatting
elements, given as a function that commutes with `upd` -/
theorem sim_of_comm {g : State → State}
    (hc : ∀ s tr cl er pt, g (upd s tr cl er pt) = upd (g s) tr cl er pt)
    (haf : ∀ s, AFInv s → AFInv (g s)) (hpt : ∀ s, (g s).pendingTableText = s.pendingTableText)
    {s t : State} (h : Sim s t) : Sim (g s) (g t) := by
  obtain ⟨hi, tr, cl, er, pt, rfl, hp⟩ := h
  exact ⟨haf s hi, tr, cl, er, pt, hc s tr cl er pt, by rw [hpt]; exact hp⟩

theorem resp_modS' {g : State → State}
    (hc : ∀ s tr cl er pt, g (upd s tr cl er pt) = upd (g s) tr cl er pt)
    (haf : ∀ s, AFInv s → AFInv (g s)) (hpt : ∀ s, (g s).pendingTableText = s.pendingTableText) : Resp (modS g) :=
  resp_modS (fun _ _ h => sim_of_comm hc haf hpt h)

/-! ### automation

The lemma about a model function `foo` is stated as `foo_resp : RespQ Q (foo …)` and tagged `@[resp]`: the
walk finds it by simp's index on the head function of the goal. A goal whose postcondition is weaker than
the one the lemma states is first weakened along `(· = .done)` ⇒ `NotRe` ⇒ `ResOK t`, `True`. -/

attribute [resp] implies_true
theorem resp_of_notRe {m : M ProcessResult} (h : RespQ NotRe m) : Resp m := respQ_resp h
attribute [resp low] respQ_done_notRe respQ_notRe_ok resp_of_notRe

/-- extensible: closes the side goals (`Q a`) of `pure` -/
syntax "resp_side" : tactic

/-- the continuation of a `getS` reads only components fixed by `Sim` -/
macro "resp_stable" : tactic =>
  `(tactic| (intro s t hst; obtain ⟨_, tr, cl, er, pt, heq, _⟩ := hst; subst heq; rfl))

-- the latest alternative is tried first: `True` (not `trivial`, whose `contradiction` compares the many
-- hypotheses of an `if` chain with each other), then the two cases of `ResOK`
macro_rules | `(tactic| resp_side) => `(tactic| assumption)
macro_rules | `(tactic| resp_side) => `(tactic| rfl)
macro_rules | `(tactic| resp_side) => `(tactic| exact Or.inr rfl)
macro_rules | `(tactic| resp_side) => `(tactic| exact Or.inl rfl)
macro_rules | `(tactic| resp_side) => `(tactic| exact True.intro)

/-- the identity on goals of the form `RespQ Q (m >>= f)`: `refine`d to test for that form -/
theorem respQ_isBind {α β : Type} {Q : β → Prop} {m : M α} {f : α → M β} (h : RespQ Q (m >>= f)) :
    RespQ Q (m >>= f) := h

/-- the rules for `m >>= f`, tried on goals of that form only. A failing `m` ends the descent; a call `m` of
a model function is closed at once with its `@[resp]` lemma. -/
macro "resp_bind_step" : tactic =>
  `(tactic| first
    | (with_reducible exact respQ_panicAt_bind _ _ _ _)
    | (with_reducible refine respQ_pure_bind ?_)
    | ((with_reducible refine respQ_getS_bind ?_ ?_); rotate_left; resp_stable)
    | (with_reducible refine respQ_bind_same ?_ ?_)
    | ((with_reducible refine respQ_bind (P := fun _ => True) ?_ ?_); try simp only [resp]))

/-- one step of the structural descent: the rule for the outermost construct of the computation, a case
split, and at a call of a model function its `@[resp]` lemma or a hypothesis about it -/
macro "resp_step" : tactic =>
  `(tactic| first
    | (with_reducible intro _)
    | ((with_reducible refine respQ_pure ?_); resp_side)
    | (with_reducible refine respQ_ite ?_ ?_)
    | ((with_reducible refine respQ_isBind ?_); resp_bind_step)
    | ((with_reducible refine resp_modS' ?_ ?_ ?_) <;>
        first | exact fun _ _ _ _ _ => rfl | exact fun _ h => h | exact fun _ => rfl)
    | split
    | simp only [resp]
    | assumption
    | (with_reducible exact ‹∀ _, RespQ _ _› _)
    | (with_reducible exact ‹∀ _ _, RespQ _ _› _ _)
    | (with_reducible exact ‹∀ _ _ _, RespQ _ _› _ _ _)
    | (with_reducible exact ‹∀ _ _ _ _, RespQ _ _› _ _ _ _)
    | (simp (config := { zeta := true }) only [pure_bind]))

macro "resp_auto" : tactic => `(tactic| repeat' resp_step)

/-! ### the sink calls with a typed answer -/

@[resp]
theorem sinkUnit_resp (op : SinkOp) : Resp (sinkUnit op) := by unfold sinkUnit; resp_auto
@[resp]
theorem sinkNode_resp (op : SinkOp) : Resp (sinkNode op) := by unfold sinkNode; resp_auto
@[resp]
theorem sinkBool_resp (op : SinkOp) : Resp (sinkBool op) := by unfold sinkBool; resp_auto
@[resp]
theorem elemName_resp (h : Id) : Resp (elemName h) := by unfold elemName; resp_auto
@[resp]
theorem parseError_resp (msg : String) : Resp (parseError msg) := sinkUnit_resp _
@[resp]
theorem sameNode_resp (x y : Id) : Resp (sameNode x y) := sinkBool_resp _

end H5V.Lemmas.TBSplit
