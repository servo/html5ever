import H5V.Lemmas.HtmlTBSplitKeeps
import H5V.Lemmas.HtmlTBSplitFoster
/-!
C03 lifted to the tree: additivity of the text-consuming terminal actions
(`charsFin k st (x ++ y)` against `charsFin k st x` followed, in a `Sim`-related state, by
`charsFin k st' y`), for `k` = append / foreign append / in-body rule (plain and foster parented) /
pending table text.
-/
namespace H5V.Lemmas.TBSplit
open H5V.Model.Dom (Id QualName Attr NodeOrText SinkOp Output ElementFlags QuirksMode Dom)
open H5V.Model.HtmlTok (TagKind RawKind)
open H5V.Model.HtmlTB
open H5V.Lemmas.TBSplitDom

/-- a token with a run status holds characters of that class only -/
def Valid (st : SplitStatus) (z : Str) : Prop :=
  match st with
  | .notSplit => True
  | .whitespace => ∀ c ∈ z, isAsciiWhitespace c = true
  | .notWhitespace => ∀ c ∈ z, isAsciiWhitespace c = false

theorem Valid.left {st : SplitStatus} {x y : Str} (h : Valid st (x ++ y)) : Valid st x := by
  cases st
  · trivial
  · exact fun c hc => h c (List.mem_append_left _ hc)
  · exact fun c hc => h c (List.mem_append_left _ hc)

theorem Valid.right {st : SplitStatus} {x y : Str} (h : Valid st (x ++ y)) : Valid st y := by
  cases st
  · trivial
  · exact fun c hc => h c (List.mem_append_right _ hc)
  · exact fun c hc => h c (List.mem_append_right _ hc)

theorem anyNotWhitespace_false_of {z : Str} (h : ∀ c ∈ z, isAsciiWhitespace c = true) : anyNotWhitespace z = false := by
  unfold anyNotWhitespace
  rw [List.any_eq_false]
  intro c hc
  simp [h c hc]

theorem anyNotWhitespace_true_of {z : Str} (hz : z ≠ []) (h : ∀ c ∈ z, isAsciiWhitespace c = false) :
    anyNotWhitespace z = true := by
  unfold anyNotWhitespace
  cases z with
  | nil => exact (hz rfl).elim
  | cons c t => simp [h c (List.mem_cons_self ..)]

/-! ### `[frameset-ok;] append_text` -/

theorem FA_resp (b : Bool) (z : Str) : RespQ (· = .done) (FA b z) := by
  unfold FA
  refine respQ_bind (P := fun _ => True) ?_ (fun _ _ => appendText_resp z)
  cases b
  · exact resp_pure _
  · exact fOk_resp z

theorem FA_qsim {b : Bool} {z : Str} {s s1 : State} {r : ProcessResult} (h : FA b z s = .ok (r, s1)) : QSim s s1 := by
  rw [FA_apply] at h
  exact (setF_qsim _ s).1.trans (appendText_textStep h).qsim

/-- `fa_add` against any `Sim`-related second state -/
theorem fa_add_sim (b : Bool) {x y : Str} {s : State} (hg : Good s) :
    (∀ e, FA b x s = .error e → ∃ e', FA b (x ++ y) s = .error e') ∧
    (∀ r s1, FA b x s = .ok (r, s1) → r = .done ∧ Good s1 ∧ ∀ u, Sim s1 u →
      RelR (· = .done) (FA b (x ++ y) s) (FA b y u)) := by
  obtain ⟨h1, h2⟩ := fa_add b (x := x) (y := y) hg
  refine ⟨h1, ?_⟩
  intro r s1 hs1
  obtain ⟨hr, hg1, hu⟩ := h2 r s1 hs1
  refine ⟨hr, hg1, ?_⟩
  intro u hsu
  exact (hu s1 (TrEq.refl s1)).trans (FA_resp b y s1 u hsu)

theorem sim_foster {s t : State} (h : Sim s t) (b : Bool) :
    Sim { s with fosterParenting := b } { t with fosterParenting := b } :=
  sim_of_comm (g := fun s => { s with fosterParenting := b }) (fun _ _ _ _ _ => rfl) (fun _ h => h) (fun _ => rfl) h

theorem good_foster {s : State} (h : Good s) (b : Bool) : Good { s with fosterParenting := b } := ⟨h.af, h.pend⟩

theorem qsim_foster {s t : State} (h : QSim s t) (b : Bool) :
    QSim { s with fosterParenting := b } { t with fosterParenting := b } := by
  obtain ⟨m, o, p, f, i, c, tr, d, rfl, hd⟩ := h
  exact ⟨m, o, p, f, i, c, tr, d, rfl, hd⟩

theorem HtmlTop.foster {s : State} (h : HtmlTop s) (b : Bool) : HtmlTop { s with fosterParenting := b } := h

/-! ### the in-body rule -/

theorem stepInBody_chars_FA (st : SplitStatus) (z : Str) :
    stepInBody (.chars st z) = reconstructActiveFormattingElements >>= fun _ => FA true z := by
  rw [stepInBody_chars_eq]
  rfl

/-- after the in-body rule ran on `x` from `s0`, what we know about the new state `s1` for the "is
foreign" / "current node" queries: either no query can tell it from `s0`, or the current node is a
new HTML formatting element -/
def AfterBody (s0 s1 : State) : Prop := QSim (sf false s0) (sf false s1) ∨ HtmlTop s1

theorem body_add_sim {x y : Str} {s0 : State} (hg : Good s0) (st : SplitStatus) :
    (∀ e, stepInBody (.chars st x) s0 = .error e → ∃ e', stepInBody (.chars st (x ++ y)) s0 = .error e') ∧
    (∀ r s1, stepInBody (.chars st x) s0 = .ok (r, s1) → r = .done ∧ Good s1 ∧ AfterBody s0 s1 ∧
      ∀ u st', Sim s1 u → RelR (· = .done) (stepInBody (.chars st (x ++ y)) s0) (stepInBody (.chars st' y) u)) := by
  simp only [stepInBody_chars_FA, bind_apply]
  cases hR : reconstructActiveFormattingElements s0 with
  | error e => exact ⟨fun _ _ => ⟨e, rfl⟩, fun _ _ h => by cases h⟩
  | ok v =>
    obtain ⟨⟨⟩, sR⟩ := v
    simp only
    have hgR : Good sR := (reconstructActiveFormattingElements_resp.post hg hR).2
    obtain ⟨hdone, htop⟩ := reconstruct_post hg hR
    obtain ⟨h1, h2⟩ := fa_add_sim true (x := x) (y := y) hgR
    refine ⟨h1, ?_⟩
    intro r s1 hs1
    obtain ⟨hr, hg1, hu⟩ := h2 r s1 hs1
    have hq1 : QSim sR s1 := FA_qsim hs1
    refine ⟨hr, hg1, ?_, ?_⟩
    · rcases htop with ht | ht
      · exact Or.inl (qsim_foster (ht.qsim.trans hq1) false)
      · exact Or.inr (ht.of_qsim hq1)
    · intro u st' hsu
      -- the second reconstruction does nothing
      have hd1 : RDone s1 := hdone.of_qsim hq1
      obtain ⟨tr1, hr1⟩ := hd1.run
      have hresp := reconstructActiveFormattingElements_resp s1 u hsu
      rw [hr1] at hresp
      cases hRu : reconstructActiveFormattingElements u with
      | error e => rw [hRu] at hresp; exact hresp.elim
      | ok w =>
        obtain ⟨⟨⟩, u'⟩ := w
        rw [hRu] at hresp
        simp only
        have hs1u' : Sim s1 u' := ((TrEq.sim ⟨tr1, rfl⟩ hg1)).trans hresp.2.2
        exact hu u' hs1u'

/-! ### the foster-parented in-body rule -/

theorem fbody_add_sim {x y : Str} {s0 : State} (hg : Good s0) (st : SplitStatus) :
    (∀ e, fosterParentInBody (.chars st x) s0 = .error e →
      ∃ e', fosterParentInBody (.chars st (x ++ y)) s0 = .error e') ∧
    (∀ r s1, fosterParentInBody (.chars st x) s0 = .ok (r, s1) → r = .done ∧ Good s1 ∧ AfterBody s0 s1 ∧
      ∀ u st', Sim s1 u →
        RelR (· = .done) (fosterParentInBody (.chars st (x ++ y)) s0) (fosterParentInBody (.chars st' y) u)) := by
  simp only [fosterParentInBody_apply]
  obtain ⟨h1, h2⟩ := body_add_sim (x := x) (y := y) (good_foster hg true) st
  constructor
  · intro e he
    cases hb : stepInBody (.chars st x) { s0 with fosterParenting := true } with
    | error e1 =>
      obtain ⟨e', he'⟩ := h1 e1 hb
      rw [he']; exact ⟨e', rfl⟩
    | ok v => rw [hb] at he; cases he
  · intro r s1 hs1
    cases hb : stepInBody (.chars st x) { s0 with fosterParenting := true } with
    | error e1 => rw [hb] at hs1; cases hs1
    | ok v =>
      obtain ⟨r', s1'⟩ := v
      rw [hb] at hs1
      simp only [Except.ok.injEq, Prod.mk.injEq] at hs1
      obtain ⟨rfl, rfl⟩ := hs1
      obtain ⟨hr, hg1, hab, hu⟩ := h2 r' s1' hb
      refine ⟨hr, good_foster hg1 false, ?_, ?_⟩
      · rcases hab with hq | ht
        · exact Or.inl hq
        · exact Or.inr (ht.foster false)
      · intro u st' hsu
        have hf1 : s1'.fosterParenting = true := by
          have := stepInBody_chars_keeps st x _ _ _ hb
          simp only [fr, Prod.mk.injEq] at this
          exact this.2.2.2.2.2.1
        have hsu' : Sim s1' { u with fosterParenting := true } := by
          have := sim_foster hsu true
          have h0 : ({ ({ s1' with fosterParenting := false } : State) with fosterParenting := true } : State) = s1' := by
            cases s1'; simp only at hf1; subst hf1; rfl
          rw [h0] at this
          exact this
        have hrel := hu { u with fosterParenting := true } st' hsu'
        cases hL : stepInBody (.chars st (x ++ y)) { s0 with fosterParenting := true } with
        | error e =>
          rw [hL] at hrel
          cases hRt : stepInBody (.chars st' y) { u with fosterParenting := true } with
          | error e' => trivial
          | ok w => rw [hRt] at hrel; exact hrel.elim
        | ok w =>
          obtain ⟨rl, sl⟩ := w
          rw [hL] at hrel
          cases hRt : stepInBody (.chars st' y) { u with fosterParenting := true } with
          | error e' => rw [hRt] at hrel; exact hrel.elim
          | ok w' =>
            obtain ⟨rr, sr⟩ := w'
            rw [hRt] at hrel
            obtain ⟨h1', h2', h3'⟩ := hrel
            exact ⟨h1', h2', sim_foster h3' false⟩

end H5V.Lemmas.TBSplit
