import H5V.Lemmas.HtmlTokLines
/-! The token log only ever grows by entries stamped with the current line: `Ext`, and how each helper
of the transition tables and each setter of the reader relates to it. -/
namespace H5V.Model.HtmlTok

/-- `new` = some entries, all with line `l`, pushed on `old` -/
inductive OutExt (l : Nat) (old : Out) : Out → Prop
  | refl : OutExt l old old
  | cons {new : Out} (t : Token) : OutExt l old new → OutExt l old ((t, l) :: new)

/-- machine `x` was reached from `m` without changing the line, logging only tokens stamped with it -/
def Ext (m x : Mach) : Prop := x.line = m.line ∧ OutExt m.line m.out x.out

theorem Ext.refl (m : Mach) : Ext m m := ⟨rfl, .refl⟩

theorem Ext.of_eq {m x y : Mach} (h : Ext m x) (h1 : y.line = x.line) (h2 : y.out = x.out) : Ext m y :=
  ⟨by rw [h1, h.1], by rw [h2]; exact h.2⟩

theorem emit_ext {m x : Mach} (h : Ext m x) (t : Token) : Ext m (emit x t) := by
  refine ⟨by simp [h.1], ?_⟩
  show OutExt m.line m.out ((t, x.line) :: x.out)
  rw [h.1]; exact .cons t h.2

theorem emitErr_ext {m x : Mach} (h : Ext m x) (s : String) : Ext m (emitErr x s) := emit_ext h _
theorem emitChars_ext {m x : Mach} (h : Ext m x) (s : Str) : Ext m (emitChars x s) := emit_ext h _
theorem emitChar_ext {m x : Mach} (h : Ext m x) (c : Char) : Ext m (emitChar x c) := by
  unfold emitChar; split <;> exact emit_ext h _
theorem badChar_ext {m x : Mach} (h : Ext m x) (o : Opts) : Ext m (badChar o x) := by
  unfold badChar; split
  · exact emitErr_ext h _
  · exact emit_ext h _
theorem badEof_ext {m x : Mach} (h : Ext m x) (o : Opts) : Ext m (badEof o x) := by
  unfold badEof; split <;> exact emitErr_ext h _
theorem emitTempBuf_ext {m x : Mach} (h : Ext m x) : Ext m (emitTempBuf x) := by
  unfold emitTempBuf; exact emitChars_ext (h.of_eq rfl rfl) _
theorem emitComment_ext {m x : Mach} (h : Ext m x) : Ext m (emitComment x) := by
  unfold emitComment; exact emit_ext (h.of_eq rfl rfl) _
theorem emitDoctype_ext {m x : Mach} (h : Ext m x) : Ext m (emitDoctype x) := by
  unfold emitDoctype; exact emit_ext (h.of_eq rfl rfl) _
theorem finishAttribute_ext {m x : Mach} (h : Ext m x) : Ext m (finishAttribute x) := by
  unfold finishAttribute
  split
  · exact h
  · dsimp only
    split
    · exact (emitErr_ext (h.of_eq rfl rfl) _).of_eq rfl rfl
    · exact h.of_eq rfl rfl
theorem createAttr_ext {m x : Mach} (h : Ext m x) (c : Char) : Ext m (createAttr c x) := by
  unfold createAttr; exact (finishAttribute_ext h).of_eq rfl rfl
theorem tagPrologue_ext {m x : Mach} (h : Ext m x) : Ext m (tagPrologue x) := by
  unfold tagPrologue
  dsimp only
  have h1 := finishAttribute_ext h
  split
  · exact h1.of_eq rfl rfl
  · split <;> split <;> first | exact h1 | exact emitErr_ext h1 _ | exact emitErr_ext (emitErr_ext h1 _) _

/-! The remaining helpers touch neither `line` nor `out`, so `Ext m (f x)` unfolds to `Ext m x` itself
(after a case split where `f` matches on its argument). -/
theorem to_ext {m x : Mach} (h : Ext m x) (s : State) : Ext m (to s x) := h
@[simp] theorem to_ext_iff {m x : Mach} (s : State) : Ext m (to s x) ↔ Ext m x := Iff.rfl
theorem reconsumeTo_ext {m x : Mach} (h : Ext m x) (s : State) : Ext m (reconsumeTo s x) := h
@[simp] theorem reconsumeTo_ext_iff {m x : Mach} (s : State) : Ext m (reconsumeTo s x) ↔ Ext m x := Iff.rfl
theorem discardTag_ext {m x : Mach} (h : Ext m x)  : Ext m (discardTag x) := h
@[simp] theorem discardTag_ext_iff {m x : Mach}  : Ext m (discardTag x) ↔ Ext m x := Iff.rfl
theorem createTag_ext {m x : Mach} (h : Ext m x) (k : TagKind) (c : Char) : Ext m (createTag k c x) := h
@[simp] theorem createTag_ext_iff {m x : Mach} (k : TagKind) (c : Char) : Ext m (createTag k c x) ↔ Ext m x := Iff.rfl
theorem pushTag_ext {m x : Mach} (h : Ext m x) (c : Char) : Ext m (pushTag c x) := h
@[simp] theorem pushTag_ext_iff {m x : Mach} (c : Char) : Ext m (pushTag c x) ↔ Ext m x := Iff.rfl
theorem pushTemp_ext {m x : Mach} (h : Ext m x) (c : Char) : Ext m (pushTemp c x) := h
@[simp] theorem pushTemp_ext_iff {m x : Mach} (c : Char) : Ext m (pushTemp c x) ↔ Ext m x := Iff.rfl
theorem clearTemp_ext {m x : Mach} (h : Ext m x)  : Ext m (clearTemp x) := h
@[simp] theorem clearTemp_ext_iff {m x : Mach}  : Ext m (clearTemp x) ↔ Ext m x := Iff.rfl
theorem pushName_ext {m x : Mach} (h : Ext m x) (c : Char) : Ext m (pushName c x) := h
@[simp] theorem pushName_ext_iff {m x : Mach} (c : Char) : Ext m (pushName c x) ↔ Ext m x := Iff.rfl
theorem pushValue_ext {m x : Mach} (h : Ext m x) (c : Char) : Ext m (pushValue c x) := h
@[simp] theorem pushValue_ext_iff {m x : Mach} (c : Char) : Ext m (pushValue c x) ↔ Ext m x := Iff.rfl
theorem appendValue_ext {m x : Mach} (h : Ext m x) (s : Str) : Ext m (appendValue s x) := h
@[simp] theorem appendValue_ext_iff {m x : Mach} (s : Str) : Ext m (appendValue s x) ↔ Ext m x := Iff.rfl
theorem pushComment_ext {m x : Mach} (h : Ext m x) (c : Char) : Ext m (pushComment c x) := h
@[simp] theorem pushComment_ext_iff {m x : Mach} (c : Char) : Ext m (pushComment c x) ↔ Ext m x := Iff.rfl
theorem appendComment_ext {m x : Mach} (h : Ext m x) (s : String) : Ext m (appendComment s x) := h
@[simp] theorem appendComment_ext_iff {m x : Mach} (s : String) : Ext m (appendComment s x) ↔ Ext m x := Iff.rfl
theorem clearComment_ext {m x : Mach} (h : Ext m x)  : Ext m (clearComment x) := h
@[simp] theorem clearComment_ext_iff {m x : Mach}  : Ext m (clearComment x) ↔ Ext m x := Iff.rfl
theorem createDoctype_ext {m x : Mach} (h : Ext m x)  : Ext m (createDoctype x) := h
@[simp] theorem createDoctype_ext_iff {m x : Mach}  : Ext m (createDoctype x) ↔ Ext m x := Iff.rfl
theorem pushDoctypeName_ext {m x : Mach} (h : Ext m x) (c : Char) : Ext m (pushDoctypeName c x) := h
@[simp] theorem pushDoctypeName_ext_iff {m x : Mach} (c : Char) : Ext m (pushDoctypeName c x) ↔ Ext m x := Iff.rfl
theorem pushDoctypeId_ext {m x : Mach} (h : Ext m x) (k : DoctypeIdKind) (c : Char) : Ext m (pushDoctypeId k c x) := by cases k <;> exact h
@[simp] theorem pushDoctypeId_ext_iff {m x : Mach} (k : DoctypeIdKind) (c : Char) : Ext m (pushDoctypeId k c x) ↔ Ext m x := by cases k <;> exact Iff.rfl
theorem clearDoctypeId_ext {m x : Mach} (h : Ext m x) (k : DoctypeIdKind) : Ext m (clearDoctypeId k x) := by cases k <;> exact h
@[simp] theorem clearDoctypeId_ext_iff {m x : Mach} (k : DoctypeIdKind) : Ext m (clearDoctypeId k x) ↔ Ext m x := by cases k <;> exact Iff.rfl
theorem forceQuirks_ext {m x : Mach} (h : Ext m x)  : Ext m (forceQuirks x) := h
@[simp] theorem forceQuirks_ext_iff {m x : Mach}  : Ext m (forceQuirks x) ↔ Ext m x := Iff.rfl
theorem takeTag_ext {m x : Mach} (h : Ext m x)  : Ext m (takeTag x) := h
@[simp] theorem takeTag_ext_iff {m x : Mach}  : Ext m (takeTag x) ↔ Ext m x := Iff.rfl
theorem setIgnoreLf_ext {m x : Mach} (h : Ext m x) (b : Bool) : Ext m (x.setIgnoreLf b) := h
@[simp] theorem setIgnoreLf_ext_iff {m x : Mach} (b : Bool) : Ext m (x.setIgnoreLf b) ↔ Ext m x := Iff.rfl
theorem setReconsume_ext {m x : Mach} (h : Ext m x) (b : Bool) : Ext m (x.setReconsume b) := h
@[simp] theorem setReconsume_ext_iff {m x : Mach} (b : Bool) : Ext m (x.setReconsume b) ↔ Ext m x := Iff.rfl
theorem setTempBuf_ext {m x : Mach} (h : Ext m x) (s : Str) : Ext m (x.setTempBuf s) := h
@[simp] theorem setTempBuf_ext_iff {m x : Mach} (s : Str) : Ext m (x.setTempBuf s) ↔ Ext m x := Iff.rfl
theorem setCharRef_ext {m x : Mach} (h : Ext m x) (cr : Option CharRefSt) : Ext m (x.setCharRef cr) := h
@[simp] theorem setCharRef_ext_iff {m x : Mach} (cr : Option CharRefSt) : Ext m (x.setCharRef cr) ↔ Ext m x := Iff.rfl
theorem setAtEof_ext {m x : Mach} (h : Ext m x) (b : Bool) : Ext m (x.setAtEof b) := h
@[simp] theorem setAtEof_ext_iff {m x : Mach} (b : Bool) : Ext m (x.setAtEof b) ↔ Ext m x := Iff.rfl
theorem setDiscardBom_ext {m x : Mach} (h : Ext m x) (b : Bool) : Ext m (x.setDiscardBom b) := h
@[simp] theorem setDiscardBom_ext_iff {m x : Mach} (b : Bool) : Ext m (x.setDiscardBom b) ↔ Ext m x := Iff.rfl
theorem setCurrentChar_ext {m x : Mach} (h : Ext m x) (c : Char) : Ext m (x.setCurrentChar c) := h
@[simp] theorem setCurrentChar_ext_iff {m x : Mach} (c : Char) : Ext m (x.setCurrentChar c) ↔ Ext m x := Iff.rfl

end H5V.Model.HtmlTok
