import H5V.Lemmas.HtmlRTPure
/-!
C07 round trip: the tokenizer with the tree builder as its sink (`Joint.run` /
`Joint.feed` / `Joint.finish` of `H5V.Model.HtmlTB`), fragment case with an HTML `div` as context.
-/
namespace H5V.Lemmas.HtmlRT
open H5V.Model.HtmlTok
open H5V.Model.HtmlTB.Joint
open H5V.Lemmas.HtmlTBSpec (withTr)

abbrev TBState := H5V.Model.HtmlTB.State

/-- the driver of `Joint.run` as a `Sink`: the tokens a step emitted are delivered to the tree
builder and `Mach.out` is emptied -/
def jSink : Sink JState where
  pol := polOf
  hook := fun m j =>
    match absorb m.out.reverse j with
    | .ok j' => some ({ m with out := [] }, j')
    | .error _ => none

theorem TBInv.withTr {s : TBState} {L T tp tid} (h : TBInv s L T tp tid) (tr) : TBInv (withTr s tr) L T tp tid :=
  ⟨h.low, h.topNode, h.topRep, h.size, h.stack, h.ctxNode, h.ctx, h.mode, h.tm, ⟨h.afi.ent, h.afi.sorted⟩, h.foster, h.form, h.ilf,
    h.notTemplate, h.errs, h.notP⟩

theorem withTr_self (s : TBState) : withTr s s.traceRev = s := by cases s; rfl

/-- delivering one token that the tree builder answers with `Continue` -/
theorem absorb_one (j : JState) (t : TokTok) (ln : Nat) (tt : H5V.Model.HtmlTB.TokToken) (s' : TBState)
    (hconv : conv t = some tt) (hr : Runs (H5V.Model.HtmlTB.processToken tt ln) j.tb .continue_ s') :
    ∃ j' tr, absorb [(t, ln)] j = .ok j' ∧ j'.tb = withTr s' tr := by
  obtain ⟨tr', e⟩ := hr j.tb.traceRev
  rw [withTr_self] at e
  refine ⟨{ j with tb := withTr s' tr', results := j.results, nTokens := j.nTokens + 1,
                   nEof := j.nEof + (if tt == .eof then 1 else 0), lastWasEof := tt == .eof }, tr', ?_, rfl⟩
  simp only [absorb, hconv, e]
  simp

def jInv (L : List Frame) (T : Frame) (j : JState) (out : Out) : Prop :=
  out = [] ∧ ∃ tp tid, TBInv j.tb L T tp tid

theorem convTag_start (n : Str) (as : List (Str × Str)) : convTag (tokStart n as) = tbStart n as := by
  simp [convTag, tokStart, tbStart, tbAttrs, List.map_map, Function.comp_def]

theorem convTag_end (n : Str) : convTag (tokEnd n) = tbEnd n := rfl

theorem hook_of_absorb (m1 : Mach) (j j' : JState) (h : absorb m1.out.reverse j = .ok j') :
    jSink.hook m1 j = some ({ m1 with out := [] }, j') := by
  simp [jSink, h]

theorem polOf_continue (j : JState) (tag : Tag) (s' : TBState)
    (hr : Runs (H5V.Model.HtmlTB.processToken (.tag (convTag tag)) 1) j.tb .continue_ s') :
    (polOf j).onTag [] tag = .continue_ := by
  obtain ⟨tr', e⟩ := hr j.tb.traceRev
  rw [withTr_self] at e
  simp [polOf, absorb, e, toSinkRes]

def jSpec (o : Opts) : SinkSpec o jSink where
  Inv := jInv
  core := by
    intro m1 s m1' s1 h
    simp only [jSink] at h
    split at h
    · simp only [Option.some.injEq, Prod.mk.injEq] at h; rw [← h.1]; rfl
    · cases h
  silent := by
    intro L T s out m1 ⟨ho, hi⟩ hm
    subst ho
    refine ⟨_, s, hook_of_absorb m1 s s (by rw [hm]; rfl), rfl, hi⟩
  char := by
    intro L T s out m1 c ln ⟨ho, tp, tid, hi⟩ hm
    subst ho
    obtain ⟨s', hr, hi'⟩ := hi.chars [c] (by simp)
    obtain ⟨j', tr, ha, htb⟩ := absorb_one s (.chars [c]) ln (.chars [c]) s' rfl (hr ln)
    refine ⟨_, j', hook_of_absorb m1 s j' (by rw [hm]; exact ha), rfl, tp, tid, ?_⟩
    rw [htb]; exact hi'.withTr tr
  startPol := by
    intro L T s out n as ⟨ho, tp, tid, hi⟩ hn
    subst ho
    obtain ⟨s', hr, _⟩ := hi.startTagAny n as hn
    exact polOf_continue s _ s' (by rw [convTag_start]; exact hr 1)
  start := by
    intro L T s out m1 n as ln ⟨ho, tp, tid, hi⟩ hn hm
    subst ho
    obtain ⟨s', hr, hi'⟩ := hi.startTagAny n as hn
    obtain ⟨j', tr, ha, htb⟩ := absorb_one s (.tag (tokStart n as)) ln (.tag (tbStart n as)) s'
      (by simp [conv, convTag_start]) (hr ln)
    refine ⟨_, j', hook_of_absorb m1 s j' (by rw [hm]; exact ha), rfl, tid, s.tb.dom.nodes.size, ?_⟩
    rw [htb]; exact hi'.withTr tr
  endPol := by
    intro L P n as cs s out ⟨ho, tp, tid, hi⟩ hn
    subst ho
    obtain ⟨s', _, _, hr, _⟩ := hi.endTagAny hn
    exact polOf_continue s _ s' (by rw [convTag_end]; exact hr 1)
  end_ := by
    intro L P n as cs s out m1 ln ⟨ho, tp, tid, hi⟩ hn hm
    subst ho
    obtain ⟨s', tp0, tid0, hr, hi'⟩ := hi.endTagAny hn
    obtain ⟨j', tr, ha, htb⟩ := absorb_one s (.tag (tokEnd n)) ln (.tag (tbEnd n)) s'
      (by simp [conv, convTag_end]) (hr ln)
    refine ⟨_, j', hook_of_absorb m1 s j' (by rw [hm]; exact ha), rfl, tp0, tid0, ?_⟩
    rw [htb]; exact hi'.withTr tr

theorem hook_inv {m1 : Mach} {j : JState} {m1' : Mach} {j1 : JState} (h : jSink.hook m1 j = some (m1', j1)) :
    absorb m1.out.reverse j = .ok j1 ∧ m1' = { m1 with out := [] } := by
  simp only [jSink] at h
  split at h
  · rename_i j' hj
    simp only [Option.some.injEq, Prod.mk.injEq] at h
    exact ⟨by rw [hj, h.2], h.1.symm⟩
  · cases h

theorem jrun_cont (o : Opts) (fuel : Nat) (m : Mach) (inp : Str) (j : JState) (m1 : Mach) (i1 : Str) (j1 : JState)
    (hs : step o (polOf j) m inp = .cont m1 i1) (ha : absorb m1.out.reverse j = .ok j1) :
    H5V.Model.HtmlTB.Joint.run o (fuel + 1) m inp j = H5V.Model.HtmlTB.Joint.run o fuel { m1 with out := [] } i1 j1 := by
  rw [H5V.Model.HtmlTB.Joint.run]
  simp only [hs, ha]

theorem jrun_suspend (o : Opts) (fuel : Nat) (m : Mach) (inp : Str) (j : JState) (m1 : Mach) (i1 : Str) (j1 : JState)
    (hs : step o (polOf j) m inp = .suspend m1 i1) (ha : absorb m1.out.reverse j = .ok j1) :
    H5V.Model.HtmlTB.Joint.run o (fuel + 1) m inp j = H5V.Model.HtmlTB.Joint.RunRes.done { m1 with out := [] } i1 j1 := by
  rw [H5V.Model.HtmlTB.Joint.run]
  simp only [hs, ha]

/-- the steps of a `GSteps` chain against `jSink` are iterations of `H5V.Model.HtmlTB.Joint.run` -/
theorem gsteps_joint_run (o : Opts) {m inp j toks m' inp' j'}
    (h : GSteps o jSink m inp j toks m' inp' j') :
    ∃ k, (∀ fuel, H5V.Model.HtmlTB.Joint.run o (fuel + k) m inp j = H5V.Model.HtmlTB.Joint.run o fuel m' inp' j') ∧
      (TInv m → TInv m' ∧ mu m' inp' + k ≤ mu m inp) := by
  induction h with
  | refl m inp s => exact ⟨0, fun _ => rfl, fun hi => ⟨hi, by omega⟩⟩
  | @silent m inp s m1 i1 m1' s1 toks m' i' s' hs hh _ ih =>
    obtain ⟨k, h1, h3⟩ := ih
    obtain ⟨ha, hm⟩ := hook_inv hh
    subst hm
    have hstep : step o (polOf s) m inp = .cont m1 i1 := hs.1
    refine ⟨k + 1, ?_, ?_⟩
    · intro fuel
      show H5V.Model.HtmlTB.Joint.run o ((fuel + k) + 1) m inp s = _
      rw [jrun_cont o _ m inp s m1 i1 s1 hstep ha]; exact h1 fuel
    · intro hi
      have hi1 := step_tinv o (polOf s) m inp hi m1 i1 (by rw [hstep]; rfl)
      have hd := step_dec o (polOf s) m inp hi m1 i1 hstep
      have hc : SameCore m1 { m1 with out := [] } := rfl
      obtain ⟨a, b⟩ := h3 (TInv.core hi1 hc)
      rw [mu_core hc] at b
      exact ⟨a, by omega⟩
  | @emit m inp s t m1 i1 m1' s1 toks m' i' s' hs hh _ ih =>
    obtain ⟨k, h1, h3⟩ := ih
    obtain ⟨ha, hm⟩ := hook_inv hh
    subst hm
    have hstep : step o (polOf s) m inp = .cont m1 i1 := hs.1
    refine ⟨k + 1, ?_, ?_⟩
    · intro fuel
      show H5V.Model.HtmlTB.Joint.run o ((fuel + k) + 1) m inp s = _
      rw [jrun_cont o _ m inp s m1 i1 s1 hstep ha]; exact h1 fuel
    · intro hi
      have hi1 := step_tinv o (polOf s) m inp hi m1 i1 (by rw [hstep]; rfl)
      have hd := step_dec o (polOf s) m inp hi m1 i1 hstep
      have hc : SameCore m1 { m1 with out := [] } := rfl
      obtain ⟨a, b⟩ := h3 (TInv.core hi1 hc)
      rw [mu_core hc] at b
      exact ⟨a, by omega⟩

/-- a chain ending with the tokenizer asking for more input: `H5V.Model.HtmlTB.Joint.run` returns `Done` there -/
theorem jrun_of_gsteps (o : Opts) {m inp j toks m' j'}
    (h : GSteps o jSink m inp j toks m' [] j') (hout : m'.out = [])
    (hsus : ∀ pol, step o pol m' [] = .suspend m' [])
    (hi : TInv m) (F : Nat) (hF : mu m inp < F) :
    H5V.Model.HtmlTB.Joint.run o F m inp j = H5V.Model.HtmlTB.Joint.RunRes.done m' [] j' := by
  obtain ⟨k, h1, h3⟩ := gsteps_joint_run o h
  obtain ⟨_, hmu⟩ := h3 hi
  obtain ⟨n, hn⟩ : ∃ n, F = (n + 1) + k := ⟨F - k - 1, by omega⟩
  rw [hn, h1 (n + 1), jrun_suspend o n m' [] j' m' [] j' (hsus _) (by rw [hout]; rfl)]
  congr 1
  cases m'; simp_all

/-! ### `Tokenizer::end` + `TreeBuilder::end` -/

theorem absorb_nil (j : JState) : absorb [] j = .ok j := rfl

/-- the part of `Joint.finish` after the character-reference hand-back -/
def finishTail (o : Opts) (m : Mach) (inp : Str) (j : JState) : Except String JState := do
  let m := m.setAtEof true
  match H5V.Model.HtmlTB.Joint.run o (H5V.Model.HtmlTok.fuelFor m inp) m inp j with
  | .done m inp j =>
    if !inp.isEmpty then throw "assert@tokenizer/mod.rs: assertion failed: input.is_empty()"
    match H5V.Model.HtmlTok.eofLoop o 8 m with
    | .error e => throw ("tokenizer@tokenizer: " ++ e)
    | .ok m =>
      let j ← absorb m.out.reverse j
      match H5V.Model.HtmlTB.finishTB.run j.tb with
      | .error e => throw e
      | .ok (_, tb) => pure { j with tb := tb }
  | .script _ _ _ | .indicator _ _ _ =>
    throw "assert@tokenizer/mod.rs: matches!(self.run(&input), TokenizerResult::Done)"
  | .panic e => throw e

theorem finish_none (o : Opts) (m : Mach) (j : JState) (h : m.charRef = none) :
    H5V.Model.HtmlTB.Joint.finish o m j = finishTail o m [] j := by
  unfold H5V.Model.HtmlTB.Joint.finish finishTail
  simp only [h, pure_bind]
  rfl

/-- from the data state with nothing pending and only the root open: EOF is delivered, the stack is
popped, the forest is in the arena -/
theorem joint_finish_idle (o : Opts) (ho : o.exactErrors = false) (m : Mach) (j : JState) (cs : Forest)
    (tp tid : Nat) (h : Ctl m .data) (hout : m.out = []) (hi : TBInv j.tb [] (rootFrame cs) tp tid) :
    ∃ j2, finishTail o m [] j = .ok j2 ∧ rootChildren j2.tb.dom = some (toDTreeF cs) ∧
      j2.tb.dom.errorsRev = [] := by
  have h' := h.setAtEof true
  obtain ⟨n, hn⟩ := fuelFor_pos (m.setAtEof true) []
  have hout' : (m.setAtEof true).out = [] := hout
  -- the EOF token
  obtain ⟨j1, tr1, ha1, htb1⟩ := absorb_one j .eof m.line .eof j.tb rfl (hi.eof m.line)
  have hi1 : TBInv j1.tb [] (rootFrame cs) tp tid := by rw [htb1]; exact hi.withTr tr1
  -- `TreeBuilder::end`
  obtain ⟨tr2, e2⟩ := finishTB_runs j1.tb j1.tb.traceRev
  rw [withTr_self] at e2
  refine ⟨{ j1 with tb := withTr { j1.tb with openElems := [] } tr2 }, ?_, ?_⟩
  · unfold finishTail
    simp only []
    rw [hn, jrun_suspend o n _ [] j _ [] j (data_suspend o ho _ _ h') (by rw [hout']; rfl)]
    simp only [bind, Except.bind, pure, Except.pure, List.isEmpty_nil, Bool.not_true, Bool.false_eq_true, if_false]
    rw [eofLoop_data o _ (by exact h'.st)]
    simp only [emit, Mach.setAtEof, List.reverse_cons, List.reverse_nil, List.nil_append]
    rw [ha1]
    simp only [e2]
  · have : (withTr { j1.tb with openElems := [] } tr2).dom = j1.tb.dom := rfl
    rw [this]
    exact ⟨hi1.rootChildren_eq, hi1.errs⟩

/-- inside a fully read reference for the last character of the last text node -/
theorem joint_finish_pending (o : Opts) (ho : o.exactErrors = false) (m : Mach) (j : JState) (cr : CharRefSt)
    (nm : Str) (v : Nat) (cs' cs : Forest) (tp tid : Nat)
    (h : CRCtl m .data cr) (hd : CRDone cr nm v) (hr : RefOk nm v) (hout : m.out = [])
    (hi : TBInv j.tb [] (rootFrame cs') tp tid) (hcs : appendTextF cs' [Char.ofNat v] = cs) :
    ∃ j2, H5V.Model.HtmlTB.Joint.finish o m j = .ok j2 ∧ rootChildren j2.tb.dom = some (toDTreeF cs) ∧
      j2.tb.dom.errorsRev = [] := by
  obtain ⟨s1, s2, s3, s4, s5⟩ := h
  let m1 := (emitChar ((m.setIgnoreLf false).setCharRef none) (Char.ofNat v))
  have hc1 : Ctl { m1 with out := [] } .data := by
    constructor <;> simp [m1, Mach.setIgnoreLf, Mach.setCharRef, emitChar, emit, hr.nz, *]
  have hm1out : m1.out = [(.chars [Char.ofNat v], m.line)] := by
    simp [m1, emitChar, emit, hr.nz, Mach.setIgnoreLf, Mach.setCharRef, hout]
  -- the character token
  obtain ⟨s', hrun, hi'⟩ := hi.chars [Char.ofNat v] (by simp)
  obtain ⟨j1, tr1, ha1, htb1⟩ := absorb_one j (.chars [Char.ofNat v]) m.line (.chars [Char.ofNat v]) s' rfl
    (hrun m.line)
  have hi1 : TBInv j1.tb [] (rootFrame cs) tp tid := by
    rw [htb1]
    have := hi'.withTr tr1
    simp only [rootFrame] at this ⊢
    rw [hcs] at this
    exact this
  obtain ⟨j2, hfin, hroot⟩ := joint_finish_idle o ho { m1 with out := [] } j1 cs tp tid hc1 rfl hi1
  refine ⟨j2, ?_, hroot⟩
  rw [← hfin]
  unfold H5V.Model.HtmlTB.Joint.finish
  simp only [s2, crEof_done o m cr nm v hd hr.ne hr.semi hr.valid]
  have : processCharRef ((m.setIgnoreLf false).setCharRef none) [Char.ofNat v] = (m1, .cont) := by
    simp [processCharRef, Mach.setIgnoreLf, Mach.setCharRef, s1, m1]
  simp only [this, hm1out, List.reverse_cons, List.reverse_nil, List.nil_append, ha1, bind, Except.bind, pure,
    Except.pure]
  rfl

/-! ### the fragment parser -/

open H5V.Model.HtmlTB in
/-- `parse_fragment`'s set-up, then `tokenizer_state_for_context_elem` -/
def fragStart (allowsScripting : Bool) : M H5V.Model.HtmlTok.State := do
  fragSetup
  tokenizerStateForContextElem allowsScripting

theorem divTests2 :
    H5V.Model.HtmlTB.isOneOf nDiv ["title", "textarea"] = false ∧
    H5V.Model.HtmlTB.isOneOf nDiv ["style", "xmp", "iframe", "noembed", "noframes"] = false ∧
    H5V.Model.HtmlTB.isName nDiv "script" = false ∧ H5V.Model.HtmlTB.isName nDiv "noscript" = false ∧
    H5V.Model.HtmlTB.isName nDiv "plaintext" = false := by decide

open H5V.Model.HtmlTB in
theorem fragStart_runs (opts : H5V.Model.HtmlTB.Opts) (cs : Bool) :
    ∃ s0, Runs (fragStart cs) (State.init opts) .data s0 ∧ TBInv s0 [] (rootFrame []) 0 2 := by
  obtain ⟨s0, hr, hi, _⟩ := fragSetup_runs opts
  obtain ⟨t1, t2, t3, t4, t5⟩ := divTests2
  refine ⟨s0, ?_, hi⟩
  unfold fragStart
  refine runs_bind hr (Runs.of_query ?_)
  unfold tokenizerStateForContextElem
  refine H5V.Lemmas.HtmlTBSpec.query_getS_bind (fun tr => ?_)
  simp only [withTr_contextElem, hi.ctx]
  refine H5V.Lemmas.HtmlTBSpec.query_bind
    (H5V.Lemmas.HtmlTBSpec.query_elemName (elData_elemName hi.ctxNode)) ?_
  simp only [bne_self_eq_false, Bool.false_eq_true, if_false, t1, t2, t3, t4, t5]
  exact H5V.Lemmas.HtmlTBSpec.query_pure _ _

/-- what `Parser::finish` does with the result of the last `feed`: the queue must be empty, then
`Tokenizer::end`; the result is the DOM arena -/
def afterFeed (o : Opts) : H5V.Model.HtmlTB.Joint.RunRes → Except String H5V.Model.Dom.Dom
  | .done m [] j => (H5V.Model.HtmlTB.Joint.finish o m j).map (·.tb.dom)
  | .done _ _ _ => .error "input left over"
  | .script _ _ _ => .error "script pause"
  | .indicator _ _ _ => .error "encoding indicator pause"
  | .panic e => .error e

/-- the fragment parser on one chunk of input: set-up with an HTML `div` context element, the
tokenizer state that context asks for, `Tokenizer::feed` of the whole input with the tree builder as
sink, `Tokenizer::end` (which ends the tree builder); the result is the DOM arena -/
def parseFragmentDiv (opts : H5V.Model.HtmlTB.Opts) (allowsScripting : Bool) (o : Opts) (input : Str) :
    Except String H5V.Model.Dom.Dom :=
  match (fragStart allowsScripting).run (H5V.Model.HtmlTB.State.init opts) with
  | .error e => .error e
  | .ok (st, tb) => afterFeed o (H5V.Model.HtmlTB.Joint.feed o { state := st } [] input { tb := tb })

/-- **Layer 4.**  Parsing the serialisation of an ordinary forest as a fragment (context `div`)
yields an arena in which the children of the root element are the forest, and no parse error is
reported to the sink (neither by the tokenizer nor by the tree builder) — for every tree-builder
option set (scripting on or off, …), `exact_errors` off. -/
theorem joint_roundtrip (opts : H5V.Model.HtmlTB.Opts) (cs : Bool) (o : Opts) (ho : o.exactErrors = false)
    (f : Forest) (hord : Ordinary f) (hbom : noLeadingBom (renderF f)) :
    ∃ d, parseFragmentDiv opts cs o (renderF f) = .ok d ∧ rootChildren d = some (toDTreeF f) ∧
      d.errorsRev = [] := by
  obtain ⟨hok, hadj⟩ := hord
  obtain ⟨s0, hrun0, hi0⟩ := fragStart_runs opts cs
  obtain ⟨tr0, e0⟩ := hrun0 (H5V.Model.HtmlTB.State.init opts).traceRev
  rw [withTr_self] at e0
  have hi0' := hi0.withTr tr0
  unfold parseFragmentDiv
  simp only [e0]
  have hm0 : ({ state := State.data } : Mach) = mach0 := rfl
  rw [hm0]
  generalize hj0 : ({ tb := withTr s0 tr0 } : JState) = j0
  have hi0' : TBInv j0.tb [] (rootFrame []) 0 2 := by rw [← hj0]; exact hi0'
  by_cases hnil : renderF f = []
  · have hf := renderF_eq_nil hok hnil
    subst hf
    obtain ⟨j2, hfin, hroot⟩ := joint_finish_idle o ho mach0 j0 [] 0 2 (by constructor <;> rfl) rfl hi0'
    rw [← finish_none o mach0 j0 rfl] at hfin
    refine ⟨j2.tb.dom, ?_, hroot⟩
    simp [H5V.Model.HtmlTB.Joint.feed, renderF, hfin, Except.map, afterFeed]
  · have hfeed : H5V.Model.HtmlTB.Joint.feed o mach0 [] (renderF f) j0 =
        H5V.Model.HtmlTB.Joint.run o (fuelFor (mach0.setDiscardBom false) (renderF f))
          (mach0.setDiscardBom false) (renderF f) j0 := by
      unfold H5V.Model.HtmlTB.Joint.feed
      simp only [List.nil_append, List.isEmpty_iff, hnil, if_false]
      rw [feedBom_noBom mach0 _ hbom rfl hnil]
    rw [hfeed]
    have hmu := mu_lt_fuelFor (mach0.setDiscardBom false) (renderF f)
    have hinv0 : (jSpec o).Inv [] (rootFrame []) j0 (mach0.setDiscardBom false).out := ⟨rfl, 0, 2, hi0'⟩
    have top := seg_top (jSpec o) ho [] (rootFrame []) f hok (by simpa [rootFrame] using hadj)
    cases top with
    | idle hseg =>
      obtain ⟨m', j', hg, ⟨hctl, _⟩, hout, tp, tid, hi'⟩ := hseg (mach0.setDiscardBom false) j0
        ⟨ctl_start, noattr_start⟩ hinv0
      have hrun := jrun_of_gsteps o hg hout (fun pol => data_suspend o ho pol m' hctl) tinv_start _ hmu
      rw [hrun]
      obtain ⟨j2, hfin, hroot⟩ := joint_finish_idle o ho m' j' ([] ++ f) tp tid hctl hout
        (by simpa [rootFrame] using hi')
      rw [← finish_none o m' j' hctl.cr] at hfin
      refine ⟨j2.tb.dom, ?_, by simpa using hroot.1, hroot.2⟩
      simp [hfin, Except.map, afterFeed]
    | pending nm v c cs' toks' hr hv htoks hcs hseg =>
      obtain ⟨m', j', hg, ⟨cr, hcr, hd, _⟩, hout, tp, tid, hi'⟩ := hseg (mach0.setDiscardBom false) j0
        ⟨ctl_start, noattr_start⟩ hinv0
      have hrun := jrun_of_gsteps o hg hout (fun pol => cr_suspend o pol m' _ cr hcr) tinv_start _ hmu
      rw [hrun]
      obtain ⟨j2, hfin, hroot⟩ := joint_finish_pending o ho m' j' cr nm v cs' ([] ++ f) tp tid hcr hd hr hout
        (by simpa [rootFrame] using hi') (by rw [hv]; simpa [rootFrame] using hcs)
      refine ⟨j2.tb.dom, ?_, by simpa using hroot.1, hroot.2⟩
      simp [hfin, Except.map, afterFeed]

end H5V.Lemmas.HtmlRT
