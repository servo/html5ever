import H5V.Lemmas.HtmlTokSpecStep
import H5V.Lemmas.HtmlTokSpecEof
import H5V.Lemmas.HtmlTokSpecEndRun
import H5V.Lemmas.HtmlTokOptE
import H5V.Props.C01
/-!
# C01 simulation — whole runs: `Tokenizer::run`, `feed`, `end` against the run of the specification
-/
namespace H5V.Lemmas.HtmlTokSpec
open H5V.Model.HtmlTok
open H5V.Spec.HtmlTokenizer (St Tok Emit Tree Switch Ctl ReturnSt normalizeNewlinesFrom normalizeNewlines)

/-- the specification's run -/
abbrev srun := @H5V.Spec.HtmlTokenizer.run

/-! ## the loop of `Tokenizer::run` -/

/-- goal of the run lemma -/
def RunOk (tree : Tree) (t : Tok) (rest : Str) : RunRes → Prop
  | .done m' inp' => Reach tree t rest (fun t' rest' => Rel m' inp' t' rest')
  | .outOfFuel => True
  | .script _ _ => False
  | .indicator _ _ => False
  | .panic _ => False

/-- **the run theorem**: wherever the model's loop stops for more input, the specification has
reached a related configuration; the loop neither pauses nor panics -/
theorem run_sim (o : Opts) (ho : o.exactErrors = false) (pol : Pol) (tree : Tree) (hpt : PolTree pol tree)
    (fuel : Nat) : ∀ (m : Mach) (inp : Str) (t : Tok) (rest : Str), Rel m inp t rest →
      RunOk tree t rest (run o pol fuel m inp) := by
  induction fuel with
  | zero => intro m inp t rest _; simp [run, RunOk]
  | succ n ih =>
    intro m inp t rest h
    have hs := step_sim o ho pol tree hpt m inp t rest h
    unfold run
    cases hstep : step o pol m inp with
    | cont m1 i1 =>
      rw [hstep, stepOk_cont] at hs
      simp only
      obtain ⟨t1, r1, hsteps, hrel⟩ := hs
      have := ih m1 i1 t1 r1 hrel
      cases hr : run o pol n m1 i1 with
      | done m' i' =>
        rw [hr] at this
        obtain ⟨t2, r2, hs2, hrel2⟩ := this
        exact ⟨t2, r2, hsteps.trans hs2, hrel2⟩
      | outOfFuel => trivial
      | script a b => rw [hr] at this; exact this
      | indicator a b => rw [hr] at this; exact this
      | panic e => rw [hr] at this; exact this
    | suspend m1 i1 =>
      rw [hstep, stepOk_suspend] at hs
      exact Reach.done hs
    | script a b => rw [hstep] at hs; exact hs
    | indicator a b => rw [hstep] at hs; exact hs
    | panic e => rw [hstep] at hs; exact hs

/-! ## the specification's run from a chain of steps -/

theorem srun_of_steps (tree : Tree) {t : Tok} {rest : Str} {t1 : Tok} {r1 : Str} {t2 : Tok}
    (hs : Steps tree t rest t1 r1) (hstop : sstep tree t1 r1 = (t2, .stop)) :
    ∀ fuel, (srun tree fuel t rest).isSome = true → srun tree fuel t rest = some t2.out.reverse := by
  induction hs with
  | refl t rest =>
    intro fuel hsome
    cases fuel with
    | zero => simp [srun, H5V.Spec.HtmlTokenizer.run] at hsome
    | succ n =>
      simp only [srun, H5V.Spec.HtmlTokenizer.run]
      have : H5V.Spec.HtmlTokenizer.step tree t rest = (t2, .stop) := hstop
      rw [this]
  | @step t0 rest0 t1' n' t'' rest'' h1 _ ih =>
    intro fuel hsome
    cases fuel with
    | zero => simp [srun, H5V.Spec.HtmlTokenizer.run] at hsome
    | succ n =>
      have h1' : H5V.Spec.HtmlTokenizer.step tree t0 rest0 = (t1', Ctl.advance n') := h1
      simp only [srun, H5V.Spec.HtmlTokenizer.run, h1'] at hsome ⊢
      exact ih hstop n hsome

/-! ## the relation is blind to `at_eof` -/

theorem absorb_setAtEof (m : Mach) (lag : Str) (b : Bool) :
    absorb (m.setAtEof b) lag = (absorb m lag).setAtEof b := by
  unfold absorb
  have e1 : (m.setAtEof b).state = m.state := rfl
  simp only [e1]
  split
  · rfl
  · split
    · rfl
    · split <;> rfl

theorem RelCore.setAtEof {m : Mach} {inp : Str} {t : Tok} {rest : Str} (h : RelCore m inp t rest)
    (b : Bool) : RelCore (m.setAtEof b) inp t rest := by
  obtain ⟨⟨h1, h2, h3, h4, h5⟩, ht, hg⟩ := h
  refine ⟨⟨h1, h2, h3, h4, ?_⟩, ht.setAtEof b, hg⟩
  unfold InpRel at h5 ⊢
  rw [stash_congr (m := m) (m' := m.setAtEof b) rfl rfl rfl]
  exact h5

theorem Rel.setAtEof {m : Mach} {inp : Str} {t : Tok} {rest : Str} (h : Rel m inp t rest) (b : Bool) :
    Rel (m.setAtEof b) inp t rest := by
  obtain ⟨lag, inp0, hinp, hok, hc⟩ := h
  refine ⟨lag, inp0, hinp, ?_, ?_⟩
  · rcases hok with hnil | hok
    · exact Or.inl hnil
    · exact Or.inr hok
  · rw [absorb_setAtEof]; exact hc.setAtEof b

/-- with nothing unread the relation has no lag -/
theorem Rel.core_of_nil {m : Mach} {t : Tok} {rest : Str} (h : Rel m [] t rest) : RelCore m [] t rest := by
  obtain ⟨lag, inp0, hinp, hok, hc⟩ := h
  have hl : lag = [] := by
    cases lag with
    | nil => rfl
    | cons c l => simp at hinp
  subst hl
  have hi : inp0 = [] := by simpa using hinp.symm
  subst hi
  simpa [absorb] using hc

/-! ## `Tokenizer::end` -/

/-- the specification stops after `k ≥ 0` further steps with output `out` -/
def StopsFrom (tree : Tree) (t : Tok) (rest : Str) (out : List Emit) : Prop :=
  ∃ t1 r1 t2, Steps tree t rest t1 r1 ∧ sstep tree t1 r1 = (t2, .stop) ∧ t2.out = out

theorem StopsFrom.of_reach {tree : Tree} {t : Tok} {rest : Str} {out : List Emit} {P : Tok → Str → Prop}
    (h : Reach tree t rest P) (hp : ∀ t' r', P t' r' → StopsFrom tree t' r' out) : StopsFrom tree t rest out := by
  obtain ⟨t', r', hs, hP⟩ := h
  obtain ⟨t1, r1, t2, hs2, hstop, hout⟩ := hp t' r' hP
  exact ⟨t1, r1, t2, hs.trans hs2, hstop, hout⟩

/-- the first part of `end()`: finish a pending character reference -/
theorem finishPre_sim (o : Opts) (ho : o.exactErrors = false) (tree : Tree) (m : Mach) (t : Tok) (rest : Str)
    (h : RelCore m [] t rest) (m2 : Mach) (i2 : Str) (hp : finishPreE o m = .ok (m2, i2)) :
    Reach tree t rest (fun t' r' => Rel m2 i2 t' r') := by
  unfold finishPreE at hp
  cases hcr : m.charRef with
  | none =>
    rw [hcr] at hp
    simp only [Except.ok.injEq, Prod.mk.injEq] at hp
    obtain ⟨h1, h2⟩ := hp
    subst h1 h2
    exact Reach.done h.toRel
  | some cr =>
    rw [hcr] at hp
    simp only at hp
    cases hce : crEof o m [] cr with
    | error e => rw [hce] at hp; simp at hp
    | ok v =>
      obtain ⟨m1, i1, chars⟩ := v
      rw [hce] at hp
      simp only at hp
      cases hpc : processCharRef (m1.setCharRef none) chars with
      | mk mp sig =>
        rw [hpc] at hp
        cases sig with
        | cont =>
          simp only [Except.ok.injEq, Prod.mk.injEq] at hp
          obtain ⟨h1, h2⟩ := hp
          subst h1 h2
          cases hcs : cr.state with
          | named => exact crEof_sim_named o ho tree m t rest h cr hcr (Or.inl hcs) m1 i1 chars hce mp hpc
          | bogusName => exact crEof_sim_named o ho tree m t rest h cr hcr (Or.inr hcs) m1 i1 chars hce mp hpc
          | begin => exact crEof_sim_num o ho tree m t rest h cr hcr (Or.inl hcs) m1 i1 chars hce mp hpc
          | octothorpe =>
            exact crEof_sim_num o ho tree m t rest h cr hcr (Or.inr (Or.inl hcs)) m1 i1 chars hce mp hpc
          | numeric b =>
            exact crEof_sim_num o ho tree m t rest h cr hcr (Or.inr (Or.inr (Or.inl ⟨b, hcs⟩))) m1 i1 chars hce
              mp hpc
          | numericSemicolon =>
            exact crEof_sim_num o ho tree m t rest h cr hcr (Or.inr (Or.inr (Or.inr hcs))) m1 i1 chars hce mp hpc
        | script => simp at hp
        | indicator => simp at hp
        | panic e => simp at hp

/-- after the hand-back of a pending character reference nothing that is left to read contains
`&` or `>` (the invariant of the final `run` of `end()`, `HtmlTokTerm.lean`) -/
theorem finishPre_endInv (o : Opts) (m : Mach) (hq : Quiet m) (m2 : Mach) (i2 : Str)
    (hp : finishPreE o m = .ok (m2, i2)) : EndInv m2 i2 := by
  have hi := hq.tinv
  unfold finishPreE at hp
  cases hcr : m.charRef with
  | none =>
    rw [hcr] at hp
    simp only [Except.ok.injEq, Prod.mk.injEq] at hp
    obtain ⟨h1, h2⟩ := hp
    subst h1 h2
    refine ⟨hi, hcr, pend_plain (fun hx => ?_) (hq.sp hcr) (fun x hx => absurd hx List.not_mem_nil)⟩
    rw [hq.nrec] at hx; simp at hx
  | some cr =>
    rw [hcr] at hp
    simp only at hp
    obtain ⟨c1, c2, c3⟩ := hi.linv.cr cr hcr
    have hstate := crStateOk_facts (hi.linv.safe.crState cr hcr)
    cases hce : crEof o m [] cr with
    | error e => rw [hce] at hp; simp at hp
    | ok v =>
      obtain ⟨m1, i1, chars⟩ := v
      rw [hce] at hp
      simp only at hp
      obtain ⟨ht, hnp⟩ := finish_charRef_inv o m cr hi.linv hcr m1 i1 chars hce
      obtain ⟨_, _, l3, _, l5, _⟩ := crEof_lines o m cr c1 c2 c3 m1 i1 chars hce
      have hback := crEof_back o m cr c1 c2 c3 (hi.crt cr hcr) m1 i1 chars hce
      have hpf := processCharRef_fields (m1.setCharRef none) chars
      have hpc0 := processCharRef_charRef (m1.setCharRef none) chars
      cases hpc : processCharRef (m1.setCharRef none) chars with
      | mk mp sig =>
        rw [hpc] at hp ht hpf hpc0
        simp only at hpf hpc0
        cases sig with
        | cont =>
          simp only [Except.ok.injEq, Prod.mk.injEq] at hp
          obtain ⟨h1, h2⟩ := hp
          subst h1 h2
          have hcr2 : mp.charRef = none := by simpa using hpc0
          have hst2 : mp.state = m.state := by rw [hpf.1]; simp only [setCharRef_state]; exact l5
          have hrec2 : mp.reconsume = false := by rw [hpf.2.2.2.1]; simpa using l3
          refine ⟨ht, hcr2, pend_plain (fun hx => ?_) ?_ hback⟩
          · rw [hrec2] at hx; simp at hx
          · rw [stash_plain hcr2 (by rw [hst2]; exact hstate.1) (by rw [hst2]; exact hstate.2.1)]
            intro x hx; exact absurd hx List.not_mem_nil
        | script => simp at hp
        | indicator => simp at hp
        | panic e => simp at hp

/-- where the final `run` of `end()` stops: no character reference in progress, nothing stashed,
no pending reconsume -/
theorem run_end_last (o : Opts) (pol : Pol) (fuel : Nat) : ∀ (m : Mach) (inp : Str), EndInv m inp →
    m.atEof = true → ∀ m' i', run o pol fuel m inp = .done m' i' →
      m'.charRef = none ∧ stash m' = [] ∧ m'.reconsume = false := by
  induction fuel with
  | zero => intro m inp _ _ m' i' h; simp [run] at h
  | succ n ih =>
    intro m inp he hat m' i' h
    unfold run at h
    cases hs : step o pol m inp with
    | cont m1 i1 =>
      rw [hs] at h
      simp only at h
      have he1 := (step_end o pol m inp he).2 m1 i1 hs
      have hat1 : m1.atEof = true := by
        rw [step_atEof o pol m inp m1 i1 (by rw [hs]; rfl)]; exact hat
      exact ih m1 i1 he1 hat1 m' i' h
    | suspend m1 i1 =>
      rw [hs] at h
      simp only [RunRes.done.injEq] at h
      obtain ⟨h1, h2⟩ := h
      subst h1 h2
      have hc := suspend_clean o pol m inp he.tinv he.cr hat m1 i1 hs
      have hq := step_stop_quiet o pol m inp he.tinv m1 i1 (by rw [hs]; rfl) (by intro a b; rw [hs]; simp)
      exact ⟨hc.1, hc.2, hq.nrec⟩
    | script a b => rw [hs] at h; simp at h
    | indicator a b => rw [hs] at h; simp at h
    | panic e => rw [hs] at h; simp at h

/-- **`Tokenizer::end` against the specification's handling of the end of input** -/
theorem finish_sim (o : Opts) (ho : o.exactErrors = false) (pol : Pol) (tree : Tree) (hpt : PolTree pol tree)
    (m : Mach) (t : Tok) (rest : Str) (h : Rel m [] t rest) (hq : Quiet m) (mf : Mach)
    (hf : finish o pol m = .ok mf) : StopsFrom tree t rest (flat mf.out) := by
  have hc := h.core_of_nil
  rw [finish_eqE] at hf
  cases hpre : finishPreE o m with
  | error e => rw [hpre] at hf; simp at hf
  | ok mi =>
    obtain ⟨m2, i2⟩ := mi
    rw [hpre] at hf
    simp only at hf
    have hreach := finishPre_sim o ho tree m t rest hc m2 i2 hpre
    have hend := (finishPre_endInv o m hq m2 i2 hpre).setAtEof true
    refine StopsFrom.of_reach hreach fun t2 r2 hrel2 => ?_
    have hrel2' := hrel2.setAtEof true
    unfold finishPost at hf
    simp only at hf
    have hrun := run_sim o ho pol tree hpt (fuelFor (m2.setAtEof true) i2) (m2.setAtEof true) i2 t2 r2 hrel2'
    cases hr : run o pol (fuelFor (m2.setAtEof true) i2) (m2.setAtEof true) i2 with
    | done m3 i3 =>
      rw [hr] at hf hrun
      have hi3 : i3 = [] := run_done_nil o pol _ _ _ hend.tinv m3 i3 hr
      subst hi3
      simp only [List.isEmpty_nil, Bool.not_true, Bool.false_eq_true, if_false] at hf
      obtain ⟨hcr3, hst3, hrec3⟩ := run_end_last o pol _ _ _ hend rfl m3 [] hr
      refine StopsFrom.of_reach hrun fun t3 r3 hrel3 => ?_
      have hc3 := hrel3.core_of_nil
      have hr3 : r3 = [] := by
        have := hc3.inp
        unfold InpRel at this
        rw [this, hst3]
        simp [rc, hrec3, norm_nil]
      subst hr3
      obtain ⟨t4, t5, hs4, hstop, hout⟩ := eof_sim o ho tree m3 t3 (hc3.regCore hcr3) mf hf
      exact ⟨t4, [], t5, hs4, hstop, hout⟩
    | outOfFuel => rw [hr] at hf; simp at hf
    | script a b => rw [hr] at hf; simp at hf
    | indicator a b => rw [hr] at hf; simp at hf
    | panic e => rw [hr] at hf; simp at hf

end H5V.Lemmas.HtmlTokSpec
