import H5V.Lemmas.HtmlTBModesBodyNav
/-!
"in body": the arms for the block-level end tags (`</address>` … `</ul>`, `</form>`, `</option>`, `</p>`,
`</li>`/`</dd>`/`</dt>`, `</h1>` … `</h6>`).
-/
namespace H5V.Lemmas.HtmlTBModes
open H5V.Model.HtmlTB
open H5V.Model.Dom (Id SinkOp Output Dom QualName Attr NodeOrText ElementFlags NodeData QuirksMode)
open H5V.Lemmas.HtmlTBAlgo
open H5V.Lemmas.TBSafe (TI HInv SInv Rooted)
open H5V.Spec.TreeAlgo2 (Elem Entry PState Ctx Edit Place)
open H5V.Spec.TreeModes (STok ETok IMode Config Out TokSwitch XOp Op Step Edition)

/-! ### abstract states up to the parse errors -/

/-- `σ` is `τ` up to the list of parse errors -/
def b3_EqE (σ τ : SState) : Prop := ∃ e, σ = { τ with errors := e }

theorem b3_EqE.rfl' (σ : SState) : b3_EqE σ σ := ⟨σ.errors, rfl⟩

theorem b3_EqE.err {σ τ : SState} (h : b3_EqE σ τ) (w : String) : b3_EqE (σ.err w) τ := by
  obtain ⟨e, rfl⟩ := h; exact ⟨_, rfl⟩

theorem b3_EqE.ite {σ1 σ2 τ : SState} (c : Prop) [Decidable c] (h1 : b3_EqE σ1 τ) (h2 : b3_EqE σ2 τ) :
    b3_EqE (if c then σ1 else σ2) τ := by
  split
  · exact h1
  · exact h2

theorem b3_EqE.map {σ τ : SState} (f : SState → SState)
    (hf : ∀ (τ : SState) (e : List String), f { τ with errors := e } = { f τ with errors := e }) (h : b3_EqE σ τ) :
    b3_EqE (f σ) (f τ) := by
  obtain ⟨e, rfl⟩ := h; exact ⟨e, hf τ e⟩

theorem b3_EqE.of_eq {σ τ τ' : SState} (h : b3_EqE σ τ) (e : τ = τ') : b3_EqE σ τ' := e ▸ h

/-- **the end of an arm that answers `Done`**: the specification's result is the final abstract state up
to the parse errors -/
theorem b3_tokPost_done {spec : SState → Spec.TreeModes.M (Step Id)} {s s' : State} {tok : Token} {calls : List Call}
    {R : Aux → Aux → Prop} (htr : Tr s s' calls R)
    (h : ∀ x x', AuxOk s x → AuxOk s' x' → R x x' → ∃ σ, spec (absF s x) = .ok (.done σ) ∧ b3_EqE σ (absF s' x')) :
    TokPost spec s tok .done s' calls := by
  refine tokPost_of_tr htr trivial ?_
  intro x x' hx hx' hr
  obtain ⟨σ, hsp, e, he⟩ := h x x' hx hx' hr
  refine ⟨{ x' with errors := e }, ?_, ⟨rfl, rfl, rfl, rfl, rfl⟩, Or.inl rfl, rfl, rfl⟩
  rw [hsp, he]
  rfl

/-! ### `</address>` … `</ul>` -/

theorem b3_blockEnd {s : State} (hm : MInv s) (t : Tag) (tok : Token) :
    PC (do
        let b ← inScopeNamedS defaultScope t.name
        if (!b) = true then do
            let _ ← unexpected
            pure ProcessResult.done
          else do
            generateImpliedEndTags cursoryImpliedEnd
            expectToCloseS t.name
            pure ProcessResult.done) s
      (TokPost (fun σ => pure (Spec.TreeModes.inBodyBlockEnd (cfgOf s) σ (specTag t))) s tok) := by
  refine pc_seq (pc_inScopeNamedS_default hm t.name) ?_
  rintro b s1 c1 he1 htr1
  cases b with
  | false =>
    simp only [Bool.not_false, if_true]
    refine pc_seq (pc_unexpected htr1.1) ?_
    rintro _ s2 c2 he2 ⟨-, htr2⟩
    refine pc_pure (b3_tokPost_done (by rw [List.append_nil]; exact htr1.trans htr2) ?_)
    rintro x x' hx hx' ⟨x1, ⟨h1, e1, hb⟩, h2, e2⟩
    subst x'; subst x1
    refine ⟨(absF s x).err "in body: end tag without element in scope", ?_,
      ((b3_EqE.rfl' _).err _).of_eq (e1.trans e2)⟩
    simp only [Spec.TreeModes.inBodyBlockEnd, specTag_name, ← hb, Bool.not_false, if_true]
    rfl
  | true =>
    simp only [Bool.not_true, Bool.false_eq_true, if_false]
    refine pc_seq (pc_generateImpliedEndTags_cursory htr1.1) ?_
    rintro _ s2 c2 he2 htr2
    refine pc_seq (pc_expectToCloseS htr2.1 t.name) ?_
    rintro _ s3 c3 he3 htr3
    refine pc_pure (b3_tokPost_done (by rw [List.append_nil, ← List.append_assoc]; exact (htr1.trans htr2).trans htr3) ?_)
    rintro x x' hx hx' ⟨x2, ⟨x1, ⟨h1, e1, hb⟩, h2, e2⟩, h3, e3⟩
    subst x'; subst x2; subst x1
    refine ⟨_, by simp only [Spec.TreeModes.inBodyBlockEnd, specTag_name, ← hb, Bool.not_true, Bool.false_eq_true, if_false]; rfl, ?_⟩
    rw [e3, e2, ← e1]
    refine b3_EqE.map (fun σ => Spec.TreeModes.popUntilPoppedStr σ t.name) (fun _ _ => rfl) ?_
    exact b3_EqE.ite _ (b3_EqE.rfl' _) ((b3_EqE.rfl' _).err _)

/-! ### `</h1>` … `</h6>` -/

/-- the clause for the end tags `h1` … `h6` -/
def b3_specHeading (cfg : Config Id) (σ : SState) (name : Str) : Step Id :=
  if !Spec.TreeModes.hasAnyInScope cfg σ Spec.TreeTables.heading then
    .done (σ.err "in body: heading end tag without heading in scope")
  else
    let σ := Spec.TreeModes.genImplied σ
    let σ := if σ.cur.any (fun e => Spec.TreeModes.isNamed name e.name) then σ
      else σ.err "in body: heading end tag, current node differs"
    .done (Spec.TreeModes.popUntilPoppedAny σ Spec.TreeTables.heading)

theorem b3_headingEnd {s : State} (hm : MInv s) (name : Str) (tok : Token) :
    PC (do
        let b ← inScope defaultScope fun n => elemIn n headingTag
        if b = true then do
            generateImpliedEndTags cursoryImpliedEnd
            let b2 ← currentNodeNamedS name
            if (!b2) = true then do
                parseError "Closing wrong heading tag"
                let _ ← popUntil headingTag
                pure ProcessResult.done
              else do
                let _ ← popUntil headingTag
                pure ProcessResult.done
          else do
            parseError "No heading tag to close"
            pure ProcessResult.done) s
      (TokPost (fun σ => pure (b3_specHeading (cfgOf s) σ name)) s tok) := by
  refine pc_seq (pc_inScope_default_heading hm) ?_
  rintro b s1 c1 he1 htr1
  cases b with
  | false =>
    simp only [Bool.false_eq_true, if_false]
    refine pc_seq (pc_parseError htr1.1 _) ?_
    rintro _ s2 c2 he2 htr2
    refine pc_pure (b3_tokPost_done (by rw [List.append_nil]; exact htr1.trans htr2) ?_)
    rintro x x' hx hx' ⟨x1, ⟨h1, e1, hb⟩, h2, e2⟩
    subst x'; subst x1
    refine ⟨(absF s x).err "in body: heading end tag without heading in scope", ?_,
      ((b3_EqE.rfl' _).err _).of_eq (e1.trans e2)⟩
    simp only [b3_specHeading, ← hb, Bool.not_false, if_true]
    rfl
  | true =>
    simp only [if_true]
    refine pc_seq (pc_generateImpliedEndTags_cursory htr1.1) ?_
    rintro _ s2 c2 he2 htr2
    refine pc_seq (pc_currentNodeNamedS htr2.1 name) ?_
    rintro b2 s3 c3 he3 htr3
    have hfin : ∀ (s4 s5 : State) (c4 c5 : List Call),
        Tr s3 s4 c4 (fun x x' => x' = x ∧ absF s3 x = absF s4 x) →
        Tr s4 s5 c5 (fun x x' => x' = x ∧
          absF s5 x = Spec.TreeModes.popUntilPoppedAny (absF s4 x) Spec.TreeTables.heading) →
        TokPost (fun σ => pure (b3_specHeading (cfgOf s) σ name)) s tok .done s5 (c1 ++ (c2 ++ (c3 ++ (c4 ++ c5)))) := by
      intro s4 s5 c4 c5 htr4 htr5
      refine b3_tokPost_done (htr1.trans (htr2.trans (htr3.trans (htr4.trans htr5)))) ?_
      rintro x x' hx hx' ⟨x1, ⟨h1, e1, hb⟩, x2, ⟨h2, e2⟩, x3, ⟨h3, e3, -⟩, x4, ⟨h4, e4⟩, h5, e5⟩
      subst x'; subst x4; subst x3; subst x2; subst x1
      refine ⟨_, by simp only [b3_specHeading, ← hb, Bool.not_true, Bool.false_eq_true, if_false]; rfl, ?_⟩
      rw [e5, ← e4, ← e3, e2, ← e1]
      refine b3_EqE.map (fun σ => Spec.TreeModes.popUntilPoppedAny σ Spec.TreeTables.heading) (fun _ _ => rfl) ?_
      exact b3_EqE.ite _ (b3_EqE.rfl' _) ((b3_EqE.rfl' _).err _)
    cases b2 with
    | false =>
      simp only [Bool.not_false, if_true]
      refine pc_seq (pc_parseError htr3.1 _) ?_
      rintro _ s4 c4 he4 htr4
      refine pc_seq (pc_popUntil_heading htr4.1) ?_
      rintro _ s5 c5 he5 htr5
      refine pc_pure ?_
      rw [List.append_nil]
      exact hfin s4 s5 c4 c5 htr4 htr5
    | true =>
      simp only [Bool.not_true, Bool.false_eq_true, if_false]
      refine pc_seq (pc_popUntil_heading htr3.1) ?_
      rintro _ s5 c5 he5 htr5
      refine pc_pure ?_
      have := hfin s3 s5 [] c5 ((Tr.refl htr3.1).conseq fun _ _ _ _ h => ⟨h, rfl⟩) htr5
      simpa using this

/-! ### `</li>`, `</dd>`, `</dt>` -/

/-- the clauses for the end tags `li` (list item scope) and `dd`, `dt` (scope) -/
def b3_specItemEnd (g : SState → Bool) (σ : SState) (name : Str) (w1 w2 : String) : Step Id :=
  if !g σ then .done (σ.err w1)
  else
    let σ := Spec.TreeModes.genImpliedExceptStr σ name
    let σ := if σ.cur.any (fun e => Spec.TreeModes.isNamed name e.name) then σ else σ.err w2
    .done (Spec.TreeModes.popUntilPoppedStr σ name)

theorem b3_itemEnd {s : State} (name : Str) (q : M Bool) (g : SState → Bool)
    (hq : PC q s (fun b s' calls => Tr s s' calls (fun x x' => x' = x ∧ absF s x = absF s' x ∧ b = g (absF s x))))
    (w1 w2 : String) (tok : Token) :
    PC (do
        let inSc ← q
        if inSc = true then do
            generateImpliedEndExcept name
            expectToCloseS name
            pure ProcessResult.done
          else do
            parseError "No matching tag to close"
            pure ProcessResult.done) s
      (TokPost (fun σ => pure (b3_specItemEnd g σ name w1 w2)) s tok) := by
  refine pc_seq hq ?_
  rintro b s1 c1 he1 htr1
  cases b with
  | false =>
    simp only [Bool.false_eq_true, if_false]
    refine pc_seq (pc_parseError htr1.1 _) ?_
    rintro _ s2 c2 he2 htr2
    refine pc_pure (b3_tokPost_done (by rw [List.append_nil]; exact htr1.trans htr2) ?_)
    rintro x x' hx hx' ⟨x1, ⟨h1, e1, hb⟩, h2, e2⟩
    subst x'; subst x1
    refine ⟨(absF s x).err w1, ?_, ((b3_EqE.rfl' _).err _).of_eq (e1.trans e2)⟩
    simp only [b3_specItemEnd, ← hb, Bool.not_false, if_true]
    rfl
  | true =>
    simp only [if_true]
    refine pc_seq (pc_generateImpliedEndExcept htr1.1 name) ?_
    rintro _ s2 c2 he2 htr2
    refine pc_seq (pc_expectToCloseS htr2.1 name) ?_
    rintro _ s3 c3 he3 htr3
    refine pc_pure (b3_tokPost_done (by rw [List.append_nil, ← List.append_assoc]; exact (htr1.trans htr2).trans htr3) ?_)
    rintro x x' hx hx' ⟨x2, ⟨x1, ⟨h1, e1, hb⟩, h2, e2⟩, h3, e3⟩
    subst x'; subst x2; subst x1
    refine ⟨_, by simp only [b3_specItemEnd, ← hb, Bool.not_true, Bool.false_eq_true, if_false]; rfl, ?_⟩
    rw [e3, e2, ← e1]
    refine b3_EqE.map (fun σ => Spec.TreeModes.popUntilPoppedStr σ name) (fun _ _ => rfl) ?_
    exact b3_EqE.ite _ (b3_EqE.rfl' _) ((b3_EqE.rfl' _).err _)

/-! ### `</p>` -/

theorem b3_EqE.symm {σ τ : SState} (h : b3_EqE σ τ) : b3_EqE τ σ := by
  obtain ⟨e, rfl⟩ := h; exact ⟨τ.errors, rfl⟩

theorem b3_EqE.trans {σ τ υ : SState} (h1 : b3_EqE σ τ) (h2 : b3_EqE τ υ) : b3_EqE σ υ := by
  obtain ⟨e, rfl⟩ := h1
  obtain ⟨e', rfl⟩ := h2
  exact ⟨e, rfl⟩

theorem b3_EqE.closeP {σ τ : SState} (h : b3_EqE σ τ) : b3_EqE (Spec.TreeModes.closeP σ) (Spec.TreeModes.closeP τ) := by
  obtain ⟨e, rfl⟩ := h
  have h1 : b3_EqE (Spec.TreeModes.closeP { τ with errors := e })
      (({ τ with errors := e } : SState).setStack (Spec.TreeAlgo2.closePElement τ.p.stack)) := ⟨_, closeP_eq _⟩
  have h2 : b3_EqE (Spec.TreeModes.closeP τ) (τ.setStack (Spec.TreeAlgo2.closePElement τ.p.stack)) := ⟨_, closeP_eq _⟩
  have h3 : b3_EqE (({ τ with errors := e } : SState).setStack (Spec.TreeAlgo2.closePElement τ.p.stack))
      (τ.setStack (Spec.TreeAlgo2.closePElement τ.p.stack)) := ⟨e, rfl⟩
  exact (h1.trans h3).trans h2.symm

theorem b3_insertHtml'_err {σ σ' : SState} {t : STag} (w : String) (h : Spec.TreeModes.insertHtml' σ t = .ok σ') :
    Spec.TreeModes.insertHtml' (σ.err w) t = .ok (σ'.err w) := by
  unfold Spec.TreeModes.insertHtml' Spec.TreeModes.insertHtml at h ⊢
  have hp : (σ.err w).p = σ.p := rfl
  rw [hp]
  cases hr : Spec.TreeModes.req (Spec.TreeAlgo2.insertHtmlElement Spec.TreeModes.cx σ.p t.etok)
      "insert an HTML element: no place / no node" with
  | error e => rw [hr] at h; simp [bind, Except.bind] at h
  | ok r =>
    rw [hr] at h
    simp only [bind, Except.bind, pure, Except.pure, Except.ok.injEq] at h
    subst h
    rfl

/-- the clause for the end tag `p` -/
def b3_specEndP (cfg : Config Id) (σ : SState) : Spec.TreeModes.M (Step Id) := do
  let s ← if Spec.TreeModes.hasInButtonScope cfg σ "p" then pure σ
    else Spec.TreeModes.insertHtml' (σ.err "in body: p end tag without p in button scope") (Spec.TreeModes.bareTag "p")
  pure (.done (Spec.TreeModes.closeP s))

theorem b3_endP {s : State} (hm : MInv s) (tok : Token) :
    PC (do
        let b ← inScopeNamed buttonScope "p"
        if (!b) = true then do
            parseError "No <p> tag to close"
            let _ ← insertPhantom "p"
            closePElement
            pure ProcessResult.done
          else do
            closePElement
            pure ProcessResult.done) s
      (TokPost (fun σ => b3_specEndP (cfgOf s) σ) s tok) := by
  refine pc_seq (pc_inScopeNamed_button hm "p") ?_
  rintro b s1 c1 he1 htr1
  cases b with
  | true =>
    simp only [Bool.not_true, Bool.false_eq_true, if_false]
    refine pc_seq (pc_closePElement htr1.1) ?_
    rintro _ s2 c2 he2 htr2
    refine pc_pure (b3_tokPost_done (by rw [List.append_nil]; exact htr1.trans htr2) ?_)
    rintro x x' hx hx' ⟨x1, ⟨h1, e1, hb⟩, h2, e2⟩
    subst x1
    refine ⟨Spec.TreeModes.closeP (absF s x), ?_, (b3_EqE.rfl' _).of_eq (by rw [e2, ← e1])⟩
    simp only [b3_specEndP, ← hb, if_true]
    rfl
  | false =>
    simp only [Bool.not_false, if_true]
    refine pc_seq (pc_parseError htr1.1 _) ?_
    rintro _ s2 c2 he2 htr2
    refine pc_seq (pc_insertPhantom' htr2.1 "p") ?_
    rintro a s3 c3 he3 ⟨-, -, -, -, -, htr3⟩
    refine pc_seq (pc_closePElement htr3.1) ?_
    rintro _ s4 c4 he4 htr4
    refine pc_pure (b3_tokPost_done (by rw [List.append_nil]; exact htr1.trans (htr2.trans (htr3.trans htr4))) ?_)
    rintro x x' hx hx' ⟨x1, ⟨h1, e1, hb⟩, x2, ⟨h2, e2⟩, x3, e3, h4, e4⟩
    subst x2; subst x1
    have e3' : Spec.TreeModes.insertHtml' (absF s x) (Spec.TreeModes.bareTag "p") = .ok (absF s3 x3) := by
      rw [e1, e2]; exact e3
    refine ⟨Spec.TreeModes.closeP ((absF s3 x3).err "in body: p end tag without p in button scope"), ?_, ?_⟩
    · simp only [b3_specEndP, ← hb, Bool.false_eq_true, if_false,
        b3_insertHtml'_err "in body: p end tag without p in button scope" e3']
      rfl
    · rw [e4]
      exact ((b3_EqE.rfl' _).err _).closeP

/-! ### `</option>` -/

theorem b3_tot_findOption (l : List Id) : ∀ s : State,
    Tot (findOption l) s (fun _ s' calls => SameTB s s' ∧ edits calls = []) := by
  induction l with
  | nil => intro s; exact tot_pure ⟨SameTB.refl s, rfl⟩
  | cons e rest ih =>
    intro s
    simp only [findOption]
    refine tot_query_bind (tot_htmlElemNamed s e "option") fun s1 c1 _ hs1 hc1 => ?_
    by_cases hb : (elemOf s.dom e).name.isHtml "option" = true
    · simp only [hb, if_true]
      exact tot_pure ⟨hs1, by simp [hc1]⟩
    · simp only [hb, Bool.false_eq_true, if_false]
      exact tot_conseq (ih s1) fun _ s2 c2 _ ⟨h1, h2⟩ => ⟨hs1.trans h1, by simp [edits_append, hc1, h2]⟩

theorem b3_tot_anySameNode (y : Id) (l : List Id) : ∀ s : State,
    Tot (anySameNode y l) s (fun _ s' calls => SameTB s s' ∧ edits calls = []) := by
  induction l with
  | nil => intro s; exact tot_pure ⟨SameTB.refl s, rfl⟩
  | cons e rest ih =>
    intro s
    simp only [anySameNode]
    refine tot_query_bind (tot_sameNode s e y) fun s1 c1 _ hs1 hc1 => ?_
    by_cases hb : (e == y) = true
    · simp only [hb, if_true]
      exact tot_pure ⟨hs1, by simp [hc1]⟩
    · simp only [hb, Bool.false_eq_true, if_false]
      exact tot_conseq (ih s1) fun _ s2 c2 _ ⟨h1, h2⟩ => ⟨hs1.trans h1, by simp [edits_append, hc1, h2]⟩

/-- a computation that only consults the sink -/
theorem b3_pc_quiet {α : Type} {q : M α} {s : State} (hm : MInv s)
    (h : Tot q s (fun _ s' calls => SameTB s s' ∧ edits calls = [])) :
    PC q s (fun _ s' calls => SameTB s s' ∧ Tr s s' calls (fun x x' => x' = x ∧ absF s x = absF s' x)) :=
  pc_conseq (PC.of_tot h) fun _ _ _ he ⟨hs, hc⟩ => ⟨hs, Tr.of_same hm hs he (by rw [← edits2_edits, hc]; rfl)⟩

/-- `maybe_clone_an_option_into_selectedcontent`: not a call the specification models -/
theorem b3_pc_maybeClone {s : State} (hm : MInv s) (node : Id) :
    PC (sinkUnit (.maybeCloneAnOptionIntoSelectedcontent node)) s (fun _ s' calls => SameTB s s' ∧
      Tr s s' calls (fun x x' => x' = x ∧ absF s x = absF s' x)) := by
  refine pc_conseq (pc_sinkUnit s) ?_
  rintro _ s' calls he ⟨d', out, ha, hs', hc⟩
  have hs : SameTB s s' := hs' ▸ SameTB.afterCall ..
  exact ⟨hs, Tr.of_same hm hs he (by rw [hc]; rfl)⟩

/-- the tail of the `</option>` arm -/
def b3_optionTail : Option Id → M ProcessResult
  | some option => do
    if !(← anySameNode option (← getS).openElems) then
      sinkUnit (.maybeCloneAnOptionIntoSelectedcontent option)
    pure .done
  | none => pure .done

/-- the `</option>` arm -/
def b3_optionM (tag : Tag) : M ProcessResult := do
  let optionInStack ← findOption (← getS).openElems
  processEndTagInBody tag
  b3_optionTail optionInStack

theorem b3_optionEnd {s : State} (hm : MInv s) (t : Tag) (tok : Token) :
    PC (b3_optionM t) s
      (TokPost (fun σ => pure (Step.done (σ.setStack (Spec.TreeAlgo2.anyOtherEndTag t.name σ.p.stack)))) s tok) := by
  simp only [b3_optionM]
  refine pc_getS_bind ?_
  refine pc_seq (b3_pc_quiet hm (b3_tot_findOption s.openElems s)) ?_
  rintro o s1 c1 he1 ⟨-, htr1⟩
  refine pc_seq (pc_processEndTagInBody htr1.1 t) ?_
  rintro _ s2 c2 he2 htr2
  have hfin : ∀ (s3 : State) (c3 : List Call), Tr s2 s3 c3 (fun x x' => x' = x ∧ absF s2 x = absF s3 x) →
      TokPost (fun σ => pure (Step.done (σ.setStack (Spec.TreeAlgo2.anyOtherEndTag t.name σ.p.stack)))) s tok
        .done s3 (c1 ++ (c2 ++ c3)) := by
    intro s3 c3 htr3
    refine b3_tokPost_done (htr1.trans (htr2.trans htr3)) ?_
    rintro x x' hx hx' ⟨x1, ⟨h1, e1⟩, x2, ⟨h2, e2⟩, h3, e3⟩
    subst x'; subst x2; subst x1
    exact ⟨_, rfl, (b3_EqE.rfl' _).of_eq (by rw [← e3, e2, ← e1])⟩
  cases o with
  | none =>
    simp only [b3_optionTail]
    refine pc_pure ?_
    have := hfin s2 [] ((Tr.refl htr2.1).conseq fun _ _ _ _ h => ⟨h, rfl⟩)
    simpa using this
  | some opt =>
    simp only [b3_optionTail]
    refine pc_getS_bind ?_
    refine pc_seq (b3_pc_quiet htr2.1 (b3_tot_anySameNode opt s2.openElems s2)) ?_
    rintro b s3 c3 he3 ⟨-, htr3⟩
    cases b with
    | true =>
      simp only [Bool.not_true, Bool.false_eq_true, if_false]
      refine pc_pure ?_
      rw [List.append_nil]
      exact hfin s3 c3 htr3
    | false =>
      simp only [Bool.not_false, if_true]
      refine pc_seq (b3_pc_maybeClone htr3.1 opt) ?_
      rintro _ s4 c4 he4 ⟨-, htr4⟩
      refine pc_pure ?_
      rw [List.append_nil]
      have := hfin s4 (c3 ++ c4) ((htr3.trans htr4).conseq (by
        rintro x x' _ _ ⟨x1, ⟨h1, e1⟩, h2, e2⟩
        subst x'; subst x1
        exact ⟨rfl, e1.trans e2⟩))
      exact this

/-! ### `</form>` -/

/-- the element the form element pointer is set to is an element other than the root `html` element
(by `TI`, it is a `form` element: `b3_FormOk.of_ti`) -/
def b3_FormOk (s : State) : Prop :=
  ∀ f, s.formElem = some f → s.dom.isElement f = true ∧ nameOf s.dom f ≠ ⟨nsHtml, "html".toList⟩

theorem b3_FormOk.of_ti {s : State} (h : TI s) : b3_FormOk s := by
  intro f hf
  obtain ⟨h1, h2⟩ := h.h.form f hf
  refine ⟨isEl_iff.mp h1, ?_⟩
  rw [← nm_eq_nameOf, h2]
  decide

/-- a query of phase 1, with the fact that the fields of the tree builder are unchanged -/
theorem b3_pc_query {α : Type} {q : M α} {s : State} {v : α} (hm : MInv s) (h : Tot q s (QueryQ s v)) :
    PC q s (fun b s' calls => b = v ∧ SameTB s s' ∧ Tr s s' calls (fun x x' => x' = x ∧ absF s x = absF s' x)) :=
  pc_conseq (PC.of_tot h) fun _ _ _ he ⟨ha, hs, hc⟩ =>
    ⟨ha, hs, Tr.of_same hm hs he (by rw [← edits2_edits, hc]; rfl)⟩

theorem b3_removeFromStack_err (τ : SState) (e : List String) (node : Id) :
    Spec.TreeModes.removeFromStack { τ with errors := e } node
      = { Spec.TreeModes.removeFromStack τ node with errors := e } := by
  unfold Spec.TreeModes.removeFromStack
  show (match Spec.TreeAlgo2.stackPos node τ.p.stack with
    | some i => ({ τ with errors := e } : SState).setStack (τ.p.stack.eraseIdx i)
    | none => { τ with errors := e }) = _
  cases Spec.TreeAlgo2.stackPos node τ.p.stack <;> rfl

/-- `</form>`, no `template` on the stack: after the form element pointer was read -/
def b3_formNoTmpl (s : State) : Option Id → M ProcessResult
  | none => do
    parseError "Null form element pointer on </form>"
    pure .done
  | some node => do
    set { s with formElem := none }
    if !(← inScope defaultScope (fun n => sameNode node n)) then
      parseError "Form element not in scope on </form>"
      pure .done
    else
      generateImpliedEndTags cursoryImpliedEnd
      let current ← currentNode
      removeFromStack node
      if !(← sameNode current node) then parseError "Bad open element on </form>"
      pure .done

/-- the `</form>` arm -/
def b3_formM : M ProcessResult := do
  if !(← inHtmlElemNamed "template") then
    let s ← getS
    b3_formNoTmpl s s.formElem
  else
    if !(← inScopeNamed defaultScope "form") then
      parseError "Form element not in scope on </form>"
      pure .done
    else
      generateImpliedEndTags cursoryImpliedEnd
      if !(← currentNodeNamed "form") then parseError "Bad open element on </form>"
      let _ ← popUntilNamed "form"
      pure .done

theorem b3_pc_setFormNone {s : State} (hm : MInv s) :
    PC (set { s with formElem := none } : M Unit) s (fun _ s' calls => s' = { s with formElem := none } ∧
      Tr s s' calls (fun x x' => x' = x)) :=
  pc_set rfl rfl ⟨rfl, Tr.of_upd hm rfl (fun _ h => h)
    ⟨hm.elems, hm.root, hm.af, hm.afEl, hm.head, hm.ctx, hm.afwf, hm.ip, hm.tmodes, (fun f hf => by cases hf), hm.pend⟩ rfl⟩

theorem b3_formEnd {s : State} (hm : MInv s) (hform : b3_FormOk s) (tok : Token) :
    PC b3_formM s (TokPost (fun σ => pure (Spec.TreeModes.inBodyEndForm (cfgOf s) σ)) s tok) := by
  simp only [b3_formM]
  refine pc_seq (b3_pc_query hm (pop_tot_inHtmlElemNamed s hm.elems "template")) ?_
  rintro b s1 c1 he1 ⟨hb, hs1, htr1⟩
  have hbx : ∀ x, AuxOk s x → (absF s x).templateOnStack = b := by
    intro x hx
    rw [hb]
    unfold Spec.TreeModes.State.templateOnStack
    rw [absF_stack hx]
  have hm1 := htr1.1
  cases b with
  | false =>
    simp only [Bool.not_false, if_true]
    refine pc_getS_bind ?_
    cases hf : s1.formElem with
    | none =>
      simp only [b3_formNoTmpl]
      refine pc_seq (pc_parseError hm1 _) ?_
      rintro _ s2 c2 he2 htr2
      refine pc_pure (b3_tokPost_done (by rw [List.append_nil]; exact htr1.trans htr2) ?_)
      rintro x x' hx hx' ⟨x1, ⟨h1, e1⟩, h2, e2⟩
      subst x'; subst x1
      have hfp : (absF s x).p.formPointer = none := by
        show s.formElem = none
        rw [← hs1.fields.formElem]; exact hf
      refine ⟨((absF s x).setForm none).err "in body: form end tag, no form element pointer", ?_, ?_⟩
      · simp only [Spec.TreeModes.inBodyEndForm, hbx x hx, hfp, Bool.not_false, if_true]
        rfl
      · refine ((b3_EqE.rfl' _).err _).of_eq ?_
        rw [← e2, ← e1]
        show _ = absF s x
        unfold Spec.TreeModes.State.setForm
        rw [← hfp]
    | some node =>
      simp only [b3_formNoTmpl]
      have hfs : s.formElem = some node := by rw [← hs1.fields.formElem]; exact hf
      obtain ⟨hel, hnn⟩ := hform node hfs
      refine pc_seq (b3_pc_setFormNone hm1) ?_
      rintro _ s2 c2 he2 ⟨hs2, htr2⟩
      subst hs2
      have e2' : ∀ x, absF { s1 with formElem := none } x = (absF s1 x).setForm none := fun _ => rfl
      refine pc_seq (pc_inScope_default_sameNode htr2.1 node) ?_
      rintro b2 s3 c3 he3 htr3
      have hspec0 : ∀ x, AuxOk s x → (absF s x).p.formPointer = some node := fun x _ => hfs
      cases b2 with
      | false =>
        simp only [Bool.not_false, if_true]
        refine pc_seq (pc_parseError htr3.1 _) ?_
        rintro _ s4 c4 he4 htr4
        refine pc_pure (b3_tokPost_done (by rw [List.append_nil]; exact htr1.trans (htr2.trans (htr3.trans htr4))) ?_)
        rintro x x' hx hx' ⟨x1, ⟨h1, e1⟩, x2, h2, x3, ⟨h3, e3, hb3⟩, h4, e4⟩
        subst x'; subst x3; subst x2; subst x1
        rw [e2', ← e1] at e3 hb3
        refine ⟨((absF s x).setForm none).err "in body: form end tag, form not in scope", ?_, ?_⟩
        · simp only [Spec.TreeModes.inBodyEndForm, hbx x hx, hspec0 x hx, Bool.not_false, if_true]
          rw [show cfgOf s = cfgOf { s1 with formElem := none } from (htr1.trans htr2).2.1.symm, ← hb3]
          rfl
        · exact ((b3_EqE.rfl' _).err _).of_eq (e3.trans e4)
      | true =>
        simp only [Bool.not_true, Bool.false_eq_true, if_false]
        refine pc_seq (pc_generateImpliedEndTags_cursory htr3.1) ?_
        rintro _ s4 c4 he4 htr4
        refine pc_seq (pc_currentNode htr4.1) ?_
        rintro cur s5 c5 he5 ⟨-, hs5, -, htr5⟩
        subst s5
        have hext : TBSafe.Ext s.dom s4.dom := (htr1.trans (htr2.trans (htr3.trans htr4))).2.2.1
        have hnr : s4.openElems.head? ≠ some node := by
          intro hh
          have := htr4.1.root node hh
          rw [nameOf_ext hext hel] at this
          exact hnn this
        refine pc_seq (pc_removeFromStack htr4.1 node hnr) ?_
        rintro _ s6 c6 he6 htr6
        refine pc_seq (b3_pc_query htr6.1 (tot_sameNode s6 cur node)) ?_
        rintro b7 s7 c7 he7 ⟨-, -, htr7⟩
        have hfin : ∀ (s8 : State) (c8 : List Call), Tr s7 s8 c8 (fun x x' => x' = x ∧ absF s7 x = absF s8 x) →
            TokPost (fun σ => pure (Spec.TreeModes.inBodyEndForm (cfgOf s) σ)) s tok .done s8
              (c1 ++ (c2 ++ (c3 ++ (c4 ++ (c5 ++ (c6 ++ (c7 ++ c8))))))) := by
          intro s8 c8 htr8
          refine b3_tokPost_done (htr1.trans (htr2.trans (htr3.trans (htr4.trans (htr5.trans (htr6.trans (htr7.trans htr8))))))) ?_
          rintro x x' hx hx' ⟨x1, ⟨h1, e1⟩, x2, h2, x3, ⟨h3, e3, hb3⟩, x4, ⟨h4, e4⟩, x5, ⟨h5, e5, -⟩, x6, ⟨h6, e6⟩,
            x7, ⟨h7, e7⟩, h8, e8⟩
          subst x'; subst x7; subst x6; subst x5; subst x4; subst x3; subst x2; subst x1
          rw [e2', ← e1] at e3 hb3
          refine ⟨_, by
            simp only [Spec.TreeModes.inBodyEndForm, hbx x hx, hspec0 x hx, Bool.not_false, if_true]
            rw [show cfgOf s = cfgOf { s1 with formElem := none } from (htr1.trans htr2).2.1.symm, ← hb3]
            simp only [Bool.not_true, Bool.false_eq_true, if_false]
            rfl, ?_⟩
          · rw [← e8, ← e7, e6, e4, ← e3]
            refine b3_EqE.map (fun σ => Spec.TreeModes.removeFromStack σ node)
              (fun τ e => b3_removeFromStack_err τ e node) ?_
            exact b3_EqE.ite _ (b3_EqE.rfl' _) ((b3_EqE.rfl' _).err _)
        cases b7 with
        | false =>
          simp only [Bool.not_false, if_true]
          refine pc_seq (pc_parseError htr7.1 _) ?_
          rintro _ s8 c8 he8 htr8
          refine pc_pure ?_
          rw [List.append_nil]
          exact hfin s8 c8 htr8
        | true =>
          simp only [Bool.not_true, Bool.false_eq_true, if_false]
          refine pc_pure ?_
          have := hfin s7 [] ((Tr.refl htr7.1).conseq fun _ _ _ _ h => ⟨h, rfl⟩)
          simpa using this
  | true =>
    simp only [Bool.not_true, Bool.false_eq_true, if_false]
    refine pc_seq (pc_inScopeNamed_default hm1 "form") ?_
    rintro b2 s2 c2 he2 htr2
    cases b2 with
    | false =>
      simp only [Bool.not_false, if_true]
      refine pc_seq (pc_parseError htr2.1 _) ?_
      rintro _ s3 c3 he3 htr3
      refine pc_pure (b3_tokPost_done (by rw [List.append_nil]; exact htr1.trans (htr2.trans htr3)) ?_)
      rintro x x' hx hx' ⟨x1, ⟨h1, e1⟩, x2, ⟨h2, e2, hb2⟩, h3, e3⟩
      subst x'; subst x2; subst x1
      rw [← e1] at e2 hb2
      refine ⟨(absF s x).err "in body: form end tag, no form in scope", ?_, ((b3_EqE.rfl' _).err _).of_eq (e2.trans e3)⟩
      simp only [Spec.TreeModes.inBodyEndForm, hbx x hx, Bool.not_true, Bool.false_eq_true, if_false]
      rw [show cfgOf s = cfgOf s1 from htr1.2.1.symm, ← hb2]
      rfl
    | true =>
      simp only [Bool.not_true, Bool.false_eq_true, if_false]
      refine pc_seq (pc_generateImpliedEndTags_cursory htr2.1) ?_
      rintro _ s3 c3 he3 htr3
      refine pc_seq (pc_currentNodeNamed htr3.1 "form") ?_
      rintro b4 s4 c4 he4 htr4
      have hfin : ∀ (s5 s6 : State) (c5 c6 : List Call),
          Tr s4 s5 c5 (fun x x' => x' = x ∧ absF s4 x = absF s5 x) →
          Tr s5 s6 c6 (fun x x' => x' = x ∧ absF s6 x = Spec.TreeModes.popUntilPopped (absF s5 x) "form") →
          TokPost (fun σ => pure (Spec.TreeModes.inBodyEndForm (cfgOf s) σ)) s tok .done s6
            (c1 ++ (c2 ++ (c3 ++ (c4 ++ (c5 ++ c6))))) := by
        intro s5 s6 c5 c6 htr5 htr6
        refine b3_tokPost_done (htr1.trans (htr2.trans (htr3.trans (htr4.trans (htr5.trans htr6))))) ?_
        rintro x x' hx hx' ⟨x1, ⟨h1, e1⟩, x2, ⟨h2, e2, hb2⟩, x3, ⟨h3, e3⟩, x4, ⟨h4, e4, -⟩, x5, ⟨h5, e5⟩, h6, e6⟩
        subst x'; subst x5; subst x4; subst x3; subst x2; subst x1
        rw [← e1] at e2 hb2
        refine ⟨_, by
          simp only [Spec.TreeModes.inBodyEndForm, hbx x hx, Bool.not_true, Bool.false_eq_true, if_false]
          rw [show cfgOf s = cfgOf s1 from htr1.2.1.symm, ← hb2]
          simp only [Bool.not_true, Bool.false_eq_true, if_false]
          rfl, ?_⟩
        · rw [e6, ← e5, ← e4, e3, ← e2]
          refine b3_EqE.map (fun σ => Spec.TreeModes.popUntilPopped σ "form") (fun _ _ => rfl) ?_
          exact b3_EqE.ite _ (b3_EqE.rfl' _) ((b3_EqE.rfl' _).err _)
      cases b4 with
      | false =>
        simp only [Bool.not_false, if_true]
        refine pc_seq (pc_parseError htr4.1 _) ?_
        rintro _ s5 c5 he5 htr5
        refine pc_seq (pc_popUntilNamed htr5.1 "form") ?_
        rintro _ s6 c6 he6 htr6
        refine pc_pure ?_
        rw [List.append_nil]
        exact hfin s5 s6 c5 c6 htr5 (htr6.conseq fun _ _ _ _ ⟨a, b, _⟩ => ⟨a, b⟩)
      | true =>
        simp only [Bool.not_true, Bool.false_eq_true, if_false]
        refine pc_seq (pc_popUntilNamed htr4.1 "form") ?_
        rintro _ s6 c6 he6 htr6
        refine pc_pure ?_
        have := hfin s4 s6 [] c6 ((Tr.refl htr4.1).conseq fun _ _ _ _ h => ⟨h, rfl⟩)
          (htr6.conseq fun _ _ _ _ ⟨a, b, _⟩ => ⟨a, b⟩)
        simpa using this

/-! ### for the walk down the chain -/

theorem b3_edition (s : State) : ((cfgOf s).edition == Edition.customizableSelect) = true := rfl

theorem b3_pure_ite {α : Type} (c : Prop) [Decidable c] (a b : α) :
    (if c then (pure a : Spec.TreeModes.M α) else pure b) = pure (if c then a else b) := by
  split <;> rfl

/-- the specification has no clause for `</option>`: none of those after `</form>` is for it -/
theorem b3_option_after {n : Str} (h : isOneOf n ["option"] = true) :
    ∀ l ∈ [["p"], ["li"], ["dd", "dt"], Spec.TreeTables.heading, Spec.TreeModes.formattingEnd,
      ["applet", "marquee", "object"], ["br"]], isOneOf n l = false := by
  rw [name_of_isOneOf h]
  decide +kernel

end H5V.Lemmas.HtmlTBModes
