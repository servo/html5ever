import H5V.Spec.TreeAlgo2
/-!
Step 18 of the adoption agency algorithm (C02, `H5V.Props.C02Algo`): the bookmark.

The standard removes the formatting element's entry from the list of active formatting elements and
then inserts the new entry at the bookmark (`TreeAlgo2.adoptionFinish`: `eraseIdx`, then
`insertAfter`).  html5ever inserts first and removes then.  `bookmark_insert_then_remove`: the
results agree.

The rest of the file: `listPos` (position of the first entry for a node) characterised by
`getElem?`, and how it moves under `insertIdx` / `eraseIdx`.
-/
namespace H5V.Lemmas.HtmlTBAlgo
open H5V.Spec.TreeAlgo2

section Bookmark
variable {N T : Type} [DecidableEq N]

/-! ### `listPos` by `getElem?` -/

theorem listPos_eq_findIdx? (x : N) : ∀ l : List (Entry N T), listPos x l = l.findIdx? (fun e => e.node? == some x)
  | [] => rfl
  | .marker :: rest => by simp [listPos, List.findIdx?_cons, Entry.node?, listPos_eq_findIdx? x rest]
  | .element n t :: rest => by
    simp only [listPos, List.findIdx?_cons, Entry.node?, listPos_eq_findIdx? x rest]
    by_cases h : n = x <;> simp [h]

/-- `listPos x l = some i`: the entry at `i` is for `x`, no earlier entry is -/
theorem listPos_iff_node (x : N) (l : List (Entry N T)) (i : Nat) :
    listPos x l = some i ↔
      (∃ e, l[i]? = some e ∧ e.node? = some x) ∧ ∀ j, j < i → ∀ e, l[j]? = some e → e.node? ≠ some x := by
  rw [listPos_eq_findIdx?, List.findIdx?_eq_some_iff_getElem]
  constructor
  · rintro ⟨h, hp, hfirst⟩
    refine ⟨⟨l[i], List.getElem?_eq_getElem h, by simpa using hp⟩, fun j hj e he hx => ?_⟩
    obtain ⟨hjl, rfl⟩ := List.getElem?_eq_some_iff.mp he
    exact hfirst j hj (by simpa using hx)
  · rintro ⟨⟨e, he, hx⟩, hfirst⟩
    obtain ⟨h, rfl⟩ := List.getElem?_eq_some_iff.mp he
    exact ⟨h, by simpa using hx, fun j hj hp => hfirst j hj _ (List.getElem?_eq_getElem _) (by simpa using hp)⟩
omit [DecidableEq N] in
theorem node?_eq_some_iff (e : Entry N T) (x : N) : e.node? = some x ↔ ∃ t, e = .element x t := by
  cases e with
  | marker => simp [Entry.node?]
  | element n t =>
    constructor
    · intro h
      have : n = x := by simpa [Entry.node?] using h
      exact ⟨t, by rw [this]⟩
    · rintro ⟨t', h⟩
      cases h
      rfl

/-- `listPos x l = some i`: the entry at `i` is `.element x _`, no earlier entry is -/
theorem listPos_iff (x : N) (l : List (Entry N T)) (i : Nat) :
    listPos x l = some i ↔
      (∃ t, l[i]? = some (.element x t)) ∧ ∀ j, j < i → ∀ t, l[j]? ≠ some (.element x t) := by
  rw [listPos_iff_node]
  constructor
  · rintro ⟨⟨e, he, hex⟩, hfirst⟩
    obtain ⟨t, rfl⟩ := (node?_eq_some_iff e x).mp hex
    exact ⟨⟨t, he⟩, fun j hj t' h => hfirst j hj _ h rfl⟩
  · rintro ⟨⟨t, ht⟩, hfirst⟩
    refine ⟨⟨_, ht, rfl⟩, fun j hj e he hex => ?_⟩
    obtain ⟨t', rfl⟩ := (node?_eq_some_iff e x).mp hex
    exact hfirst j hj t' he

theorem listPos_getElem {x : N} {l : List (Entry N T)} {i : Nat} (h : listPos x l = some i) :
    ∃ t, l[i]? = some (.element x t) :=
  ((listPos_iff x l i).mp h).1

theorem listPos_lt {x : N} {l : List (Entry N T)} {i : Nat} (h : listPos x l = some i) : i < l.length := by
  obtain ⟨t, ht⟩ := listPos_getElem h
  exact (List.getElem?_eq_some_iff.mp ht).1

theorem listPos_first {x : N} {l : List (Entry N T)} {i : Nat} (h : listPos x l = some i) :
    ∀ j, j < i → ∀ t, l[j]? ≠ some (.element x t) :=
  ((listPos_iff x l i).mp h).2

/-- no earlier entry is for `x`, in terms of `Entry.node?` -/
theorem listPos_first_node {x : N} {l : List (Entry N T)} {i : Nat} (h : listPos x l = some i) :
    ∀ j, j < i → ∀ e, l[j]? = some e → e.node? ≠ some x :=
  ((listPos_iff_node x l i).mp h).2

theorem listPos_isSome_iff (x : N) (l : List (Entry N T)) :
    (listPos x l).isSome ↔ ∃ (i : Nat) (t : T), l[i]? = some (.element x t) := by
  rw [listPos_eq_findIdx?, List.findIdx?_isSome, List.any_eq_true]
  constructor
  · rintro ⟨e, he, hx⟩
    obtain ⟨i, hi⟩ := List.getElem?_of_mem he
    obtain ⟨t, rfl⟩ := (node?_eq_some_iff e x).mp (by simpa using hx)
    exact ⟨i, t, hi⟩
  · rintro ⟨i, t, hi⟩
    exact ⟨_, List.mem_of_getElem? hi, by simp [Entry.node?]⟩

/-- the first entries for different nodes are at different positions -/
theorem listPos_ne_of_ne {x y : N} {l : List (Entry N T)} {i j : Nat} (hxy : x ≠ y)
    (hx : listPos x l = some i) (hy : listPos y l = some j) : i ≠ j := by
  rintro rfl
  obtain ⟨t, ht⟩ := listPos_getElem hx
  obtain ⟨t', ht'⟩ := listPos_getElem hy
  rw [ht] at ht'
  exact hxy (by injection ht' with h; injection h)

/-! ### `listPos` under `insertIdx` -/

/-- inserting behind the first entry for `x` does not move it (whatever is inserted) -/
theorem listPos_insertIdx_of_lt {x : N} {l : List (Entry N T)} {i m : Nat} (e : Entry N T)
    (h : listPos x l = some i) (hm : i < m) : listPos x (l.insertIdx m e) = some i := by
  rw [listPos_iff_node] at h ⊢
  obtain ⟨⟨a, ha, hax⟩, hfirst⟩ := h
  refine ⟨⟨a, ?_, hax⟩, fun j hj a' ha' => hfirst j hj a' ?_⟩
  · rw [List.getElem?_insertIdx, if_pos hm]
    exact ha
  · rw [List.getElem?_insertIdx, if_pos (by omega)] at ha'
    exact ha'

/-- inserting an entry for another node at or before the first entry for `x` moves it by one -/
theorem listPos_insertIdx_of_le {x : N} {l : List (Entry N T)} {i m : Nat} {e : Entry N T}
    (h : listPos x l = some i) (hm : m ≤ i) (he : e.node? ≠ some x) :
    listPos x (l.insertIdx m e) = some (i + 1) := by
  rw [listPos_iff_node] at h ⊢
  obtain ⟨⟨a, ha, hax⟩, hfirst⟩ := h
  refine ⟨⟨a, ?_, hax⟩, fun j hj a' ha' => ?_⟩
  · rw [List.getElem?_insertIdx, if_neg (by omega), if_neg (by omega)]
    exact ha
  · rw [List.getElem?_insertIdx] at ha'
    by_cases h1 : j < m
    · rw [if_pos h1] at ha'
      exact hfirst j (by omega) a' ha'
    · rw [if_neg h1] at ha'
      by_cases h2 : j = m
      · rw [if_pos h2] at ha'
        by_cases h3 : j ≤ l.length
        · rw [if_pos h3] at ha'
          exact (Option.some.inj ha') ▸ he
        · rw [if_neg h3] at ha'
          exact absurd ha' (by simp)
      · rw [if_neg h2] at ha'
        exact hfirst (j - 1) (by omega) a' ha'

/-! ### `listPos` under `eraseIdx` -/

/-- erasing behind the first entry for `x` does not move it -/
theorem listPos_eraseIdx_of_lt {x : N} {l : List (Entry N T)} {i m : Nat}
    (h : listPos x l = some i) (hm : i < m) : listPos x (l.eraseIdx m) = some i := by
  rw [listPos_iff_node] at h ⊢
  obtain ⟨⟨a, ha, hax⟩, hfirst⟩ := h
  refine ⟨⟨a, ?_, hax⟩, fun j hj a' ha' => hfirst j hj a' ?_⟩
  · rw [List.getElem?_eraseIdx, if_pos hm]
    exact ha
  · rw [List.getElem?_eraseIdx, if_pos (by omega)] at ha'
    exact ha'

/-- erasing before the first entry for `x` (necessarily an entry for another node, or a marker)
moves it by one -/
theorem listPos_eraseIdx_of_gt {x : N} {l : List (Entry N T)} {i m : Nat}
    (h : listPos x l = some i) (hm : m < i) : listPos x (l.eraseIdx m) = some (i - 1) := by
  rw [listPos_iff_node] at h ⊢
  obtain ⟨⟨a, ha, hax⟩, hfirst⟩ := h
  refine ⟨⟨a, ?_, hax⟩, fun j hj a' ha' => ?_⟩
  · rw [List.getElem?_eraseIdx, if_neg (by omega)]
    have : i - 1 + 1 = i := by omega
    rw [this]
    exact ha
  · rw [List.getElem?_eraseIdx] at ha'
    by_cases h1 : j < m
    · rw [if_pos h1] at ha'
      exact hfirst j (by omega) a' ha'
    · rw [if_neg h1] at ha'
      exact hfirst (j + 1) (by omega) a' ha'

/-- erasing an entry for another node: the first entry for `x` stays or moves by one -/
theorem listPos_eraseIdx_of_ne {x : N} {l : List (Entry N T)} {i m : Nat}
    (h : listPos x l = some i) (hm : m ≠ i) :
    listPos x (l.eraseIdx m) = some (if m < i then i - 1 else i) := by
  by_cases h1 : m < i
  · rw [if_pos h1]
    exact listPos_eraseIdx_of_gt h h1
  · rw [if_neg h1]
    exact listPos_eraseIdx_of_lt h (by omega)

/-! ### the bookmark -/

/-- step 18 of the adoption agency algorithm: html5ever first inserts the new entry after the
bookmarked entry and then removes the formatting element's entry; the standard removes first and
inserts then.  The results agree. -/
theorem bookmark_insert_then_remove {N T : Type} [DecidableEq N] (l : List (Entry N T)) (x fe : N) (ne : Entry N T)
    (i : Nat) (hx : x ≠ fe) (hne : ne.node? ≠ some fe) (hi : listPos x l = some i) (hfe : (listPos fe l).isSome) :
    ∃ k, listPos fe (l.insertIdx (i + 1) ne) = some k ∧ k < (l.insertIdx (i + 1) ne).length ∧
      (listPos fe l).bind (fun i0 => insertAfter x ne (l.eraseIdx i0)) = some ((l.insertIdx (i + 1) ne).eraseIdx k) := by
  obtain ⟨i0, hi0⟩ := Option.isSome_iff_exists.mp hfe
  have hne0 : i ≠ i0 := listPos_ne_of_ne hx hi hi0
  have hil : i < l.length := listPos_lt hi
  have hi0l : i0 < l.length := listPos_lt hi0
  have hlen : (l.insertIdx (i + 1) ne).length = l.length + 1 := by
    rw [List.length_insertIdx, if_pos (by omega)]
  rw [hi0, Option.bind_some, insertAfter]
  by_cases hlt : i0 < i
  · refine ⟨i0, listPos_insertIdx_of_lt ne hi0 (by omega), by omega, ?_⟩
    rw [listPos_eraseIdx_of_gt hi hlt, Option.map_some, ← List.insertIdx_eraseIdx_of_ge hi0l (Nat.le_of_lt hlt)]
    have : i - 1 + 1 = i := by omega
    rw [this]
  · have hgt : i < i0 := by omega
    refine ⟨i0 + 1, listPos_insertIdx_of_le hi0 (by omega) hne, by omega, ?_⟩
    rw [listPos_eraseIdx_of_lt hi hgt, Option.map_some, ← List.insertIdx_eraseIdx_of_le hi0l hgt]

end Bookmark

/-- a concrete instance: `fe = 1` before the bookmark `x = 3`, a marker in between -/
example :
    let l : List (Entry Nat Unit) := [.element 0 (), .element 1 (), .marker, .element 3 (), .element 1 (), .element 4 ()]
    listPos 3 l = some 3 ∧ listPos 1 (l.insertIdx 4 (.element 9 ())) = some 1 ∧
      (listPos 1 l).bind (fun i0 => insertAfter 3 (.element 9 ()) (l.eraseIdx i0))
        = some ((l.insertIdx 4 (.element 9 ())).eraseIdx 1) ∧
      (l.insertIdx 4 (.element 9 ())).eraseIdx 1
        = [.element 0 (), .marker, .element 3 (), .element 9 (), .element 1 (), .element 4 ()] := by
  decide

/-- a concrete instance: `fe = 4` behind the bookmark `x = 3` -/
example :
    let l : List (Entry Nat Unit) := [.element 0 (), .element 1 (), .marker, .element 3 (), .element 1 (), .element 4 ()]
    listPos 4 (l.insertIdx 4 (.element 9 ())) = some 6 ∧
      (listPos 4 l).bind (fun i0 => insertAfter 3 (.element 9 ()) (l.eraseIdx i0))
        = some ((l.insertIdx 4 (.element 9 ())).eraseIdx 6) := by
  decide

#print axioms bookmark_insert_then_remove

end H5V.Lemmas.HtmlTBAlgo
