import H5V.Props.C11
/-!
C11 for formats with a concatenation fix-up, continued: the buffer invariant.

`stepM_spec_fx` / `C11_step_refines_seam` (`H5V/Props/C11.lean`) ask of the heap that between adjacent
valid parts of the data of one buffer the format's concatenation `cat` is plain append (`SeamOK`).
For a format with a real fix-up this holds because the data of every buffer is valid for the format
(`DV F st.heap`, `H5V/Lemmas/TendrilWtf8RefineHeap.lean`, with `LawsFx.seam`): the zero-copy merge of
adjacent views in `push_tendril` never consults `F.fixup`, and agrees with `cat` only because both
views are parts of one valid buffer.  Here: every operation keeps `DV` (`stepM_dv`), and with it
`C11_step_refines_fx`, `C11_step_bufvalid_fx`, `C11_run_refines_fx`, `C11_reachable_wf_fx`,
`C11_independent_fx`, `C11_no_ub_fx`, `C11_push_checked_fx`, `C11_no_spurious_panic_fx`.
-/
namespace H5V.Props.C11
open H5V.Model.Tendril H5V.Lemmas.Tendril


theorem LawsFx.seamOK {F : Format} {cat : List UInt8 → List UInt8 → List UInt8} (L : LawsFx F cat) {h : Heap}
    (hd : DV F h) : SeamOK F cat h :=
  fun id bf hbf x a b y e ha hb => L.seam x a b y (by rw [← e]; exact hd id bf hbf) ha hb

/-! ## every operation keeps the data of every buffer valid -/

theorem stepM_dv (F : Format) (cat : List UInt8 → List UInt8 → List UInt8) (L : LawsFx F cat)
    (st : St) (op : Op) (hwf : StWF st) (hv : AValid F (absPool st)) (hd : DV F st.heap)
    (hset : ∀ i k v, op = .setByte i k v → ∀ l, F.validate l = true) :
    ∀ m, stepM F st op = some m → PDV F (fun r => r.1.heap) m := by
  suffices h : OnSome (PDV F fun r => r.1.heap) (stepM F st op) by
    intro m hm; rw [hm] at h; exact h
  have pushv : ∀ {t : T} {i : Nat} (bs : List UInt8), st.pool[i]? = some (some t) → F.validate bs = true →
      F.validate (pushSpec F (abs st.heap t) bs) = true := by
    intro t i bs hp hb
    rw [L.push_eq _ _ (hv.get hp) hb]; exact L.valid_cat _ _ (hv.get hp) hb
  cases op with
  | new i =>
    refine OnSome.guard (fun _ => ?_)
    apply PDV.bind; intro st' e; exact PDV.ok (store_dv i _ hd _ e)
  | fromBytes i bs =>
    refine OnSome.guard (fun _ => ?_)
    apply PDV.ite
    · intro hb
      apply PDV.bind; rintro ⟨h1, t1⟩ e1
      have d1 := fromBytesUnchecked_dv hd hb L.valid_nil _ e1
      apply PDV.bind; intro st' e2
      exact PDV.ok (store_dv (st := ⟨h1, st.pool⟩) i t1 d1 _ e2)
    · intro _; exact PDV.ok hd
  | pushBytes i bs =>
    refine OnSome.slot (fun t hp => ?_)
    have wt := focusWF hwf hp
    apply PDV.ite
    · intro hb
      apply PDV.bind; rintro ⟨h1, t1⟩ e1
      exact PDV.ok (pushBytesUnchecked_dv L.fixupOK bs wt hd (hv.get hp) L.valid_nil (pushv bs hp hb) _ e1)
    · intro _; exact PDV.ok hd
  | pushChar i c =>
    refine OnSome.slot (fun t hp => ?_)
    have wt := focusWF hwf hp
    cases he : F.encodeChar c with
    | none => exact PDV.ok hd
    | some bs =>
      simp only []
      apply PDV.bind; rintro ⟨h1, t1⟩ e1
      exact PDV.ok (pushBytesUnchecked_dv L.fixupOK bs wt hd (hv.get hp) L.valid_nil
        (pushv bs hp (L.encode_valid c bs he)) _ e1)
  | pushTendril i j =>
    cases hp : st.pool[i]? with
    | none => simp only [stepM, hp, OnSome]
    | some o => cases o with
      | none => simp only [stepM, hp, OnSome]
      | some t =>
        cases hq : st.pool[j]? with
        | none => simp only [stepM, hp, hq, OnSome]
        | some o2 => cases o2 with
          | none => simp only [stepM, hp, hq, OnSome]
          | some o =>
            simp only [stepM, hp, hq]
            by_cases hij : i = j
            · simp only [hij, ↓reduceIte, OnSome]
            · simp only [hij, ↓reduceIte]
              have wt := focusWF hwf hp
              apply PDV.bind; rintro ⟨h1, t1⟩ e1
              exact PDV.ok (pushTendril_dv L.fixupOK wt (others_mem (Ne.symm hij) hq) hd (hv.get hp)
                L.valid_nil (pushv _ hp (hv.get hq)) _ e1)
  | tryPopFront i n =>
    refine OnSome.slot (fun t hp => ?_)
    apply PDV.bind; rintro ⟨h1, t1, e⟩ e1
    exact PDV.ok (tryPopFront_dv t n hd _ e1)
  | tryPopBack i n =>
    refine OnSome.slot (fun t hp => ?_)
    apply PDV.bind; rintro ⟨h1, t1, e⟩ e1
    exact PDV.ok (tryPopBack_dv t n hd _ e1)
  | popFront i n =>
    refine OnSome.slot (fun t hp => ?_)
    apply PDV.bind; rintro ⟨h1, t1, e⟩ e1
    have d1 := tryPopFront_dv t n hd _ e1
    simp only []
    split
    · exact PDV.ok d1
    · exact PDV.err
  | popBack i n =>
    refine OnSome.slot (fun t hp => ?_)
    apply PDV.bind; rintro ⟨h1, t1, e⟩ e1
    have d1 := tryPopBack_dv t n hd _ e1
    simp only []
    split
    · exact PDV.ok d1
    · exact PDV.err
  | trySubtendril i j off len =>
    refine OnSome.slot (fun t hp => OnSome.guard (fun _ => ?_))
    apply PDV.bind; rintro ⟨h1, t1, r⟩ e1
    have d1 := trySubtendril_dv t off len hd _ e1
    simp only []
    split
    · exact PDV.ok d1
    · apply PDV.bind; intro st2 e2
      exact PDV.ok (store_dv (st := ⟨h1, st.pool.set i (some t1)⟩) j _ d1 _ e2)
  | subtendril i j off len =>
    refine OnSome.slot (fun t hp => OnSome.guard (fun _ => ?_))
    apply PDV.bind; rintro ⟨h1, t1, r⟩ e1
    have d1 := trySubtendril_dv t off len hd _ e1
    simp only []
    split
    · exact PDV.err
    · apply PDV.bind; intro st2 e2
      exact PDV.ok (store_dv (st := ⟨h1, st.pool.set i (some t1)⟩) j _ d1 _ e2)
  | clone i j =>
    refine OnSome.slot (fun t hp => OnSome.guard (fun _ => ?_))
    apply PDV.bind; rintro ⟨h1, t1, c⟩ e1
    have d1 := cloneT_dv t hd _ e1
    apply PDV.bind; intro st2 e2
    exact PDV.ok (store_dv (st := ⟨h1, st.pool.set i (some t1)⟩) j _ d1 _ e2)
  | clear i =>
    refine OnSome.slot (fun t hp => ?_)
    apply PDV.bind; rintro ⟨h1, t1⟩ e1
    exact PDV.ok (clearT_dv t hd _ e1)
  | drop i =>
    refine OnSome.slot (fun t hp => ?_)
    apply PDV.bind; intro h1 e1
    exact PDV.ok (dropT_dv t hd _ e1)
  | popFrontChar i =>
    refine OnSome.slot (fun t hp => OnSome.guard (fun _ => ?_))
    apply PDV.bind; rintro ⟨h1, t1, c⟩ e1
    exact PDV.ok (popFrontChar_dv t hd _ e1)
  | popFrontCharRun i j k =>
    refine OnSome.slot (fun t hp => OnSome.guard (fun _ => ?_))
    apply PDV.bind; rintro ⟨h1, t1, r⟩ e1
    have d1 := popFrontCharRun_dv (classifier k) t hd _ e1
    simp only []
    split
    · exact PDV.ok d1
    · apply PDV.bind; intro st2 e2
      exact PDV.ok (store_dv (st := ⟨h1, st.pool.set i (some t1)⟩) j _ d1 _ e2)
  | sendRoundTrip i =>
    refine OnSome.slot (fun t hp => ?_)
    apply PDV.bind; rintro ⟨h1, t1⟩ e1
    exact PDV.ok (makeOwned_dv (focusWF hwf hp) hd (hv.get hp) L.valid_nil _ e1)
  | reserve i n =>
    refine OnSome.slot (fun t hp => ?_)
    apply PDV.bind; rintro ⟨h1, t1⟩ e1
    exact PDV.ok (reserveT_dv n (focusWF hwf hp) hd (hv.get hp) L.valid_nil _ e1)
  | withCapacity i n =>
    refine OnSome.guard (fun _ => ?_)
    apply PDV.bind; rintro ⟨h1, t1⟩ e1
    have d1 := withCapacity_dv n hwf hd L.valid_nil _ e1
    apply PDV.bind; intro st' e2
    exact PDV.ok (store_dv (st := ⟨h1, st.pool⟩) i t1 d1 _ e2)
  | setByte i k v =>
    refine OnSome.slot (fun t hp => ?_)
    apply PDV.bind; rintro ⟨h1, t1⟩ e1
    have d1 := derefMut_dv (focusWF hwf hp) hd (hv.get hp) L.valid_nil _ e1
    simp only []
    apply PDV.ite
    · intro _
      apply PDV.bind; rintro ⟨h2, t2⟩ e2
      exact PDV.ok (storeByte_dv t1 k v d1 (hset i k v rfl) _ e2)
    · intro _; exact PDV.ok d1

/-! ## the main theorems -/

/-- **Refinement, one step**, for a format with a concatenation fix-up, from a state whose buffers
hold valid data (`DV`) -/
theorem C11_step_refines_fx (F : Format) (cat : List UInt8 → List UInt8 → List UInt8) (L : LawsFx F cat)
    (st : St) (op : Op) (hwf : StWF st) (hv : AValid F (absPool st)) (hd : DV F st.heap) :
    StWF (step F st op).1 ∧ (∀ s, (step F st op).2 ≠ .ub s) ∧
    ((absPool (step F st op).1, (step F st op).2) = Spec.stepFx F cat (absPool st) op ∨
      ((step F st op).2 = .panic ∧ (step F st op).1 = st ∧ mayPanic F (absPool st) op)) :=
  C11_step_refines_seam F cat L st op hwf hv (L.seamOK hd)

/-- **The buffer invariant is kept**: after any operation the data of every buffer is valid for the
format (byte stores through `DerefMut` only for formats in which every byte string is valid). -/
theorem C11_step_bufvalid_fx (F : Format) (cat : List UInt8 → List UInt8 → List UInt8) (L : LawsFx F cat)
    (st : St) (op : Op) (hwf : StWF st) (hv : AValid F (absPool st)) (hd : DV F st.heap)
    (hset : ∀ i k v, op = .setByte i k v → ∀ l, F.validate l = true) :
    DV F (step F st op).1.heap := by
  have h := stepM_dv F cat L st op hwf hv hd hset
  unfold step
  cases hm : stepM F st op with
  | none => exact hd
  | some m =>
    cases m with
    | ok r => exact h _ hm r rfl
    | error e =>
      cases e with
      | panic s => exact hd
      | ub s => exact hd

/-! ### all histories -/

/-- **Refinement, all histories**, for a format with a concatenation fix-up (induction over the
history): the state stays well-formed, every buffer and every slot holds data valid for the format,
and the abstract pool is what the specification `Spec.runFx` computes for the same history with the
operations deleted on which the model panicked without the specification panicking (`OFLOW`). -/
theorem C11_run_refines_fx (F : Format) (cat : List UInt8 → List UInt8 → List UInt8) (L : LawsFx F cat)
    (ops : List Op) (st : St) (hwf : StWF st) (hv : AValid F (absPool st)) (hd : DV F st.heap)
    (hs : StoresOK F ops) :
    StWF (run F st ops) ∧ AValid F (absPool (run F st ops)) ∧ DV F (run F st ops).heap ∧
    ∃ ops', ops'.Sublist ops ∧ absPool (run F st ops) = Spec.runFx F cat (absPool st) ops' := by
  induction ops generalizing st with
  | nil => exact ⟨hwf, hv, hd, [], List.Sublist.slnil, rfl⟩
  | cons op ops ih =>
    have hs' : StoresOK F ops := fun o ho => hs o (List.mem_cons_of_mem _ ho)
    obtain ⟨w1, _, h1⟩ := C11_step_refines_fx F cat L st op hwf hv hd
    have d1 := C11_step_bufvalid_fx F cat L st op hwf hv hd (hs op (List.mem_cons_self ..))
    simp only [run, List.foldl_cons]
    rcases h1 with h1 | ⟨_, h1, _⟩
    · have hv1 : AValid F (absPool (step F st op).1) := by
        have := C11_format_valid_fx F cat L (absPool st) op hv (hs op (List.mem_cons_self ..))
        rw [← h1] at this; exact this
      obtain ⟨w2, hv2, d2, ops', hsub, he⟩ := ih (step F st op).1 w1 hv1 d1 hs'
      refine ⟨w2, hv2, d2, op :: ops', hsub.cons_cons op, ?_⟩
      simp only [run] at he
      rw [he]
      simp only [Spec.runFx, List.foldl_cons, ← h1]
    · rw [h1]
      obtain ⟨w2, hv2, d2, ops', hsub, he⟩ := ih st hwf hv hd hs'
      exact ⟨w2, hv2, d2, ops', hsub.cons op, he⟩

/-- **Reachable states**: well-formed, valid contents, valid buffers. -/
theorem C11_reachable_wf_fx (F : Format) (cat : List UInt8 → List UInt8 → List UInt8) (L : LawsFx F cat)
    (slots : Nat) (ops : List Op) (hs : StoresOK F ops) :
    StWF (run F (St.init slots) ops) ∧ AValid F (absPool (run F (St.init slots) ops)) ∧
      DV F (run F (St.init slots) ops).heap := by
  have hv : AValid F (absPool (St.init slots)) := by
    intro i a hi
    simp [absPool, St.init, List.getElem?_replicate] at hi
  obtain ⟨a, b, c, _⟩ := C11_run_refines_fx F cat L ops (St.init slots) (init_wf slots) hv (DV.empty F) hs
  exact ⟨a, b, c⟩

/-! ### independence -/

theorem Spec.stepFx_frame (F : Format) (cat : List UInt8 → List UInt8 → List UInt8) (p : APool) (op : Op)
    (m : Nat) (hm : m ∉ targets op) : (Spec.stepFx F cat p op).1[m]? = p[m]? := by
  have key := Spec.step_frame F p op m hm
  cases op <;> simp only [Spec.stepFx] <;>
    first
    | exact key
    | (simp only [targets, List.mem_cons, List.mem_nil_iff, or_false] at hm
       (repeat' split) <;>
        first
        | rfl
        | (rw [List.getElem?_set_ne (Ne.symm hm)]))

/-- **Independence**, for a format with a concatenation fix-up: an operation changes at most its
target slot(s). -/
theorem C11_independent_fx (F : Format) (cat : List UInt8 → List UInt8 → List UInt8) (L : LawsFx F cat)
    (st : St) (op : Op) (hwf : StWF st) (hv : AValid F (absPool st)) (hd : DV F st.heap) (m : Nat)
    (hm : m ∉ targets op) : (absPool (step F st op).1)[m]? = (absPool st)[m]? := by
  obtain ⟨_, _, h⟩ := C11_step_refines_fx F cat L st op hwf hv hd
  rcases h with h | ⟨_, h, _⟩
  · have := Spec.stepFx_frame F cat (absPool st) op m hm
    rw [← h] at this; exact this
  · rw [h]

/-- **No undefined behaviour** on reachable states. -/
theorem C11_no_ub_fx (F : Format) (cat : List UInt8 → List UInt8 → List UInt8) (L : LawsFx F cat)
    (slots : Nat) (ops : List Op) (hs : StoresOK F ops) (op : Op) (s : String) :
    (step F (run F (St.init slots) ops) op).2 ≠ .ub s := by
  obtain ⟨hwf, hv, hd⟩ := C11_reachable_wf_fx F cat L slots ops hs
  exact (C11_step_refines_fx F cat L _ op hwf hv hd).2.1 s

/-- **checked push**: `try_push_bytes` answers `Err` iff the bytes are not valid for the format; then
nothing changes; otherwise (short of the `OFLOW` panic) the tendril is the format's concatenation. -/
theorem C11_push_checked_fx (F : Format) (cat : List UInt8 → List UInt8 → List UInt8) (L : LawsFx F cat)
    (st : St) (i : Nat) (bs : List UInt8) (t : T)
    (hwf : StWF st) (hv : AValid F (absPool st)) (hd : DV F st.heap) (hp : st.pool[i]? = some (some t)) :
    (F.validate bs = false →
      (step F st (.pushBytes i bs)).2 = .err ∧ absPool (step F st (.pushBytes i bs)).1 = absPool st) ∧
    (F.validate bs = true →
      ((step F st (.pushBytes i bs)).2 = .ok ∧
        absPool (step F st (.pushBytes i bs)).1 = (absPool st).set i (some (cat (abs st.heap t) bs))) ∨
      ((step F st (.pushBytes i bs)).2 = .panic ∧ (step F st (.pushBytes i bs)).1 = st)) := by
  obtain ⟨_, _, h⟩ := C11_step_refines_fx F cat L st (.pushBytes i bs) hwf hv hd
  constructor
  · intro hb
    rcases h with h | ⟨h1, h2, _⟩
    · simp only [Spec.stepFx, abs_lookup hp, hb, Bool.false_eq_true, ↓reduceIte] at h
      exact ⟨congrArg Prod.snd h, congrArg Prod.fst h⟩
    · exfalso
      unfold step at h1
      simp only [stepM, hp, hb, Bool.false_eq_true, ↓reduceIte] at h1
      cases h1
  · intro hb
    rcases h with h | ⟨h1, h2, _⟩
    · simp only [Spec.stepFx, abs_lookup hp, hb, ↓reduceIte] at h
      exact Or.inl ⟨congrArg Prod.snd h, congrArg Prod.fst h⟩
    · exact Or.inr ⟨h1, h2⟩

/-- **No spurious panic**, for a format with a (small) concatenation fix-up: while the tendrils and the
operands involved are below 2^30 bytes, the model panics only where the specification panics — so
below that size every operation refines the specification exactly. -/
theorem C11_no_spurious_panic_fx (F : Format) (cat : List UInt8 → List UInt8 → List UInt8)
    (L : LawsFx F cat) (hI : FixupSmall F) (st : St) (op : Op) (hwf : StWF st)
    (hv : AValid F (absPool st)) (hd : DV F st.heap) (hs : Small F st op) :
    (absPool (step F st op).1, (step F st op).2) = Spec.stepFx F cat (absPool st) op :=
  C11_no_spurious_panic_seam F cat L hI st op hwf hv (L.seamOK hd) hs

end H5V.Props.C11
