import H5V.Lemmas.HtmlTokResume
/-!
`step_resume` (all reading kinds assembled), what the readers do to the machine registers
(`Weaker`; `finish_named` in closed form, `namedDecision_some`), and preservation of the `Good`
invariant by every step (`step_good`).
-/
namespace H5V.Model.HtmlTok

theorem Good.setIgnoreLf_false {m : Mach} (hg : Good m) : Good (m.setIgnoreLf false) where
  eatOk := fun _ hil => by simp at hil
  tagOpen := fun hs => by simpa using hg.tagOpen (by simpa using hs)
  unq := fun _ => by simp

/-- `Good` says nothing about states other than the four it mentions -/
theorem Good.of_state {m : Mach}
    (h : m.state ≠ .markupDeclarationOpen ∧ m.state ≠ .afterDoctypeName ∧ m.state ≠ .tagOpen ∧
      m.state ≠ .attributeValue .unquoted) : Good m where
  eatOk := fun hs => by rcases hs with hs | hs <;> simp_all
  tagOpen := fun hs => absurd hs h.2.2.1
  unq := fun hs => absurd hs h.2.2.2

theorem Good.of_eat_state {m : Mach}
    (hs : m.state = .markupDeclarationOpen ∨ m.state = .afterDoctypeName) (hok : EatOk m) : Good m where
  eatOk := fun _ => hok
  tagOpen := fun hx => by rcases hs with hs | hs <;> rw [hs] at hx <;> simp at hx
  unq := fun hx => by rcases hs with hs | hs <;> rw [hs] at hx <;> simp at hx

/-- a suspended read (`get_char`, `pop_except_from`: at most the LF of a CRLF was swallowed) leaves
the invariant and `at_eof` alone -/
theorem Good.of_readNone {m m1 : Mach} {inp : Str} (hg : Good m)
    (h : (inp = [] ∧ m1 = m) ∨ (inp = ['\n'] ∧ m.ignoreLf = true ∧ m1 = m.setIgnoreLf false)) :
    Good m1 ∧ m1.atEof = m.atEof := by
  rcases h with ⟨_, rfl⟩ | ⟨_, _, rfl⟩
  · exact ⟨hg, rfl⟩
  · exact ⟨hg.setIgnoreLf_false, rfl⟩

/-- **`step` is resumable.** If a step asks for more input it has consumed everything available;
re-executing it from the suspended machine once `e` has arrived gives the same result as the step
on the concatenated input, up to a dead `current_char`; the invariant survives. -/
theorem step_resume (o : Opts) (pol : Pol) (m m' : Mach) (inp inp' e : Str)
    (hg : Good m) (hat : m.atEof = false)
    (h : step o pol m inp = .suspend m' inp') :
    inp' = [] ∧ RSim (step o pol m (inp ++ e)) (step o pol m' e) ∧ Good m' ∧ m'.atEof = false := by
  cases hcr : m.charRef with
  | some cr =>
    rw [step_kind_charRef o pol m inp cr hcr] at h
    obtain ⟨h1, h2, h3⟩ := stepCharRef_suspend o m m' inp inp' cr hcr h
    subst h1 h2 h3
    exact ⟨rfl, RSim.refl _, hg, hat⟩
  | none =>
    have hset (hk : readKind m.state = .popExcept ∨ readKind m.state = .dataSimd) :
        inp' = [] ∧ RSim (step o pol m (inp ++ e)) (step o pol m' e) ∧ Good m' ∧ m'.atEof = false := by
      rw [step_setRead o pol m inp hcr hk] at h
      cases hgc : popExceptFrom o (setOf m.state) m inp with
      | mk c r =>
        obtain ⟨m1, i1⟩ := r
        rw [hgc] at h
        cases c with
        | some c => simp only [contSet, ofSig] at h; split at h <;> simp at h
        | none =>
          simp only [contSet, R.suspend.injEq] at h
          obtain ⟨rfl, rfl⟩ := h
          obtain ⟨hi, hre⟩ := resume_setRead o pol m m1 inp i1 e hg.unq hcr hk hgc
          obtain ⟨hg1, ha1⟩ := hg.of_readNone (popExceptFrom_none o _ m m1 inp i1 hgc).2.2
          exact ⟨hi, hre, hg1, ha1.trans hat⟩
    cases hrk : readKind m.state with
    | getChar =>
      rw [step_getChar o pol m inp hcr hrk] at h
      cases hgc : getChar o m inp with
      | mk c r =>
        obtain ⟨m1, i1⟩ := r
        rw [hgc] at h
        cases c with
        | some c => simp only [contChar, ofSig] at h; split at h <;> simp at h
        | none =>
          simp only [contChar, R.suspend.injEq] at h
          obtain ⟨rfl, rfl⟩ := h
          obtain ⟨hi, hre⟩ := resume_getChar o pol m m1 inp i1 e hcr hrk hgc
          obtain ⟨hg1, ha1⟩ := hg.of_readNone (getChar_none o m m1 inp i1 hgc).2.2
          exact ⟨hi, RSim.of_eq hre.symm, hg1, ha1.trans hat⟩
    | popExcept => exact hset (.inl hrk)
    | dataSimd => exact hset (.inr hrk)
    | peekBav =>
      rw [step_kind_bav o pol m inp hcr hrk] at h
      obtain ⟨h1, h2, h3⟩ := stepBav_suspend o pol m m' inp inp' h
      subst h1 h2 h3
      exact ⟨rfl, RSim.refl _, hg, hat⟩
    | eatMdo =>
      have hst := readKind_mdo hrk
      rw [step_kind_mdo o pol m inp hcr hrk] at h
      obtain ⟨hi, hok, ⟨hs', hc', ha'⟩, hre⟩ := stepMdo_susp o pol m inp (hg.eatOk (.inl hst)) hat m' inp' h
      refine ⟨hi, ?_, Good.of_eat_state (.inl (hs'.trans hst)) hok, ha'.trans hat⟩
      rw [step_kind_mdo o pol m _ hcr hrk, step_kind_mdo o pol m' e (hc'.trans hcr) (by rw [hs', hrk])]
      unfold stepMdo
      rw [hre]
      exact RSim.refl _
    | eatAdn =>
      have hst := readKind_adn hrk
      rw [step_kind_adn o pol m inp hcr hrk] at h
      obtain ⟨hi, hok, ⟨hs', hc', ha'⟩, hre⟩ := stepAdn_susp o pol m inp (hg.eatOk (.inr hst)) hat m' inp' h
      refine ⟨hi, ?_, Good.of_eat_state (.inr (hs'.trans hst)) hok, ha'.trans hat⟩
      rw [step_kind_adn o pol m _ hcr hrk, step_kind_adn o pol m' e (hc'.trans hcr) (by rw [hs', hrk])]
      unfold stepAdn
      rw [hre]
      exact RSim.refl _

/-! ### what the reader does to the machine registers -/

theorem foldChar_fields (o : Opts) (m : Mach) (c : Char) :
    (foldChar o m c).2.state = m.state ∧ (foldChar o m c).2.tempBuf = m.tempBuf ∧
    (foldChar o m c).2.reconsume = m.reconsume ∧ (foldChar o m c).2.charRef = m.charRef ∧
    (foldChar o m c).2.atEof = m.atEof ∧
    (foldChar o m c).2.ignoreLf = (if c = '\r' then true else m.ignoreLf) ∧
    (foldChar o m c).1 = (if c = '\r' then '\n' else c) := by
  unfold foldChar
  dsimp only
  by_cases h1 : c = '\r'
  · subst h1
    simp only [↓reduceIte]
    split <;> simp
  · simp only [h1, ↓reduceIte]
    split <;> split <;> simp

theorem foldChar_reconsume (o : Opts) (m : Mach) (c : Char) : (foldChar o m c).2.reconsume = m.reconsume :=
  (foldChar_fields o m c).2.2.1
theorem foldChar_state (o : Opts) (m : Mach) (c : Char) : (foldChar o m c).2.state = m.state :=
  (foldChar_fields o m c).1

theorem preprocess_via_fold (o : Opts) (m m1 : Mach) (x c : Char) (xs i1 : Str)
    (h : preprocess o m x xs = (some c, m1, i1)) :
    ∃ m0 c0, m0.ignoreLf = false ∧ (m0 = m ∨ m0 = m.setIgnoreLf false) ∧
      c = (foldChar o m0 c0).1 ∧ m1 = (foldChar o m0 c0).2 := by
  unfold preprocess at h
  split at h
  · split at h
    · cases xs with
      | nil => simp at h
      | cons y ys =>
        simp only [Prod.mk.injEq, Option.some.injEq] at h
        exact ⟨m.setIgnoreLf false, y, by simp, Or.inr rfl, h.1.symm, h.2.1.symm⟩
    · simp only [Prod.mk.injEq, Option.some.injEq] at h
      exact ⟨m.setIgnoreLf false, x, by simp, Or.inr rfl, h.1.symm, h.2.1.symm⟩
  · rename_i hil
    simp only [Prod.mk.injEq, Option.some.injEq] at h
    exact ⟨m, x, by simpa using hil, Or.inl rfl, h.1.symm, h.2.1.symm⟩

/-- registers after a successful `get_char` -/
theorem getChar_fields (o : Opts) (m m1 : Mach) (inp i1 : Str) (c : Char)
    (h : getChar o m inp = (some c, m1, i1)) :
    m1.state = m.state ∧ m1.tempBuf = m.tempBuf ∧ m1.reconsume = false ∧ m1.charRef = m.charRef ∧
    m1.atEof = m.atEof ∧
    (m.reconsume = false → (m1.ignoreLf = true → c = '\n')) ∧
    (m.reconsume = true → m1.ignoreLf = m.ignoreLf) := by
  unfold getChar at h
  split at h
  · rename_i hr
    simp only [Prod.mk.injEq, Option.some.injEq] at h
    obtain ⟨_, h2, _⟩ := h
    subst h2
    simp [hr]
  · rename_i hr
    have hr' : m.reconsume = false := by simpa using hr
    cases inp with
    | nil => simp at h
    | cons x xs =>
      simp only at h
      obtain ⟨m0, c0, hil0, hm0, hc, hm1⟩ := preprocess_via_fold o m m1 x c xs i1 h
      have hf := foldChar_fields o m0 c0
      subst hc hm1
      have hm0f : m0.state = m.state ∧ m0.tempBuf = m.tempBuf ∧ m0.reconsume = m.reconsume ∧
          m0.charRef = m.charRef ∧ m0.atEof = m.atEof := by
        rcases hm0 with rfl | rfl <;> simp
      refine ⟨hf.1.trans hm0f.1, hf.2.1.trans hm0f.2.1, by rw [hf.2.2.1, hm0f.2.2.1, hr'],
        hf.2.2.2.1.trans hm0f.2.2.2.1, hf.2.2.2.2.1.trans hm0f.2.2.2.2, ?_, by simp [hr']⟩
      intro _ hil
      rw [hf.2.2.2.2.2.1] at hil
      rw [hf.2.2.2.2.2.2]
      split at hil
      · simp_all
      · rw [hil0] at hil; simp at hil

/-! ### the invariant `Good` is preserved by every step -/

/-- `m'` differs from `m` at most by cleared `ignore_lf` / `reconsume` flags (as far as `Good` can see) -/
def Weaker (m' m : Mach) : Prop :=
  m'.state = m.state ∧ m'.tempBuf = m.tempBuf ∧ (m'.ignoreLf = true → m.ignoreLf = true) ∧
  (m'.reconsume = true → m.reconsume = true) ∧ m'.atEof = m.atEof ∧ m'.charRef = m.charRef

theorem Weaker.refl (m : Mach) : Weaker m m := ⟨rfl, rfl, id, id, rfl, rfl⟩

theorem Weaker.trans {a b c : Mach} (h1 : Weaker a b) (h2 : Weaker b c) : Weaker a c :=
  ⟨h1.1.trans h2.1, h1.2.1.trans h2.2.1, fun h => h2.2.2.1 (h1.2.2.1 h), fun h => h2.2.2.2.1 (h1.2.2.2.1 h),
   h1.2.2.2.2.1.trans h2.2.2.2.2.1, h1.2.2.2.2.2.trans h2.2.2.2.2.2⟩

theorem Good.of_fields {m' m : Mach} (hg : Good m) (h1 : m'.state = m.state) (h2 : m'.tempBuf = m.tempBuf)
    (h3 : m'.ignoreLf = true → m.ignoreLf = true) (h4 : m'.reconsume = true → m.reconsume = true) :
    Good m' where
  eatOk := fun hs hil => by
    rw [h2]; exact hg.eatOk (by rw [← h1]; exact hs) (h3 hil)
  tagOpen := fun hs => by
    cases hr : m'.reconsume with
    | false => rfl
    | true => have := hg.tagOpen (by rw [← h1]; exact hs); rw [h4 hr] at this; exact absurd this (by simp)
  unq := fun hs => by
    cases hi : m'.ignoreLf with
    | false => rfl
    | true => have := hg.unq (by rw [← h1]; exact hs); rw [h3 hi] at this; exact absurd this (by simp)

theorem Good.of_weaker {m' m : Mach} (hg : Good m) (hw : Weaker m' m) : Good m' :=
  hg.of_fields hw.1 hw.2.1 hw.2.2.1 hw.2.2.2.1

theorem discardChar_weaker (m : Mach) (inp : Str) : Weaker (discardChar m inp).1 m := by
  unfold discardChar
  split
  · simp [Weaker]
  · exact Weaker.refl m

theorem emitErr_weaker (m : Mach) (s : String) : Weaker (emitErr m s) m := by
  simp [Weaker]

theorem emit_weaker (m : Mach) (t : Token) : Weaker (emit m t) m := by
  simp [Weaker]

theorem nameErr_weaker (o : Opts) (m : Mach) (nb : Str) : Weaker (nameErr o m nb) m := by
  unfold nameErr; split
  · exact emit_weaker _ _
  · exact emitErr_weaker _ _

theorem finishNumeric_weaker (o : Opts) (m : Mach) (cr : CharRefSt) : Weaker (finishNumeric o m cr).1 m := by
  unfold finishNumeric
  dsimp only
  split
  · unfold numericErr
    split
    · exact emit_weaker _ _
    · exact emitErr_weaker _ _
  · exact Weaker.refl m

/-- the machine component of a char-ref step result -/
def CRRes.machWeaker (r : CRRes) (m : Mach) : Prop :=
  match r with
  | .error _ => True
  | .ok (m1, _, _, _) => Weaker m1 m

theorem unconsumeNumeric_weaker (m : Mach) (inp : Str) (cr : CharRefSt) :
    (unconsumeNumeric m inp cr).machWeaker m := by
  simp only [unconsumeNumeric, CRRes.machWeaker]; exact emitErr_weaker _ _

theorem finishNumericStatus_weaker (o : Opts) (m : Mach) (inp : Str) (cr : CharRefSt) :
    (finishNumericStatus o m inp cr).machWeaker m := by
  have := finishNumeric_weaker o m cr
  unfold finishNumericStatus
  split
  · rename_i heq; simp only [CRRes.machWeaker]; rw [heq] at this; exact this
  · simp [CRRes.machWeaker]

/-- `finish_named` with a match, in closed form: the two failing lookups aside, the decision is a
test on the characters around the end of the match -/
theorem namedDecision_some (m : Mach) (cr : CharRefSt) (nb : Str) (c1 c2 : Nat) (last : Char)
    (h0 : cr.nameLen ≠ 0) (hl : nb[cr.nameLen - 1]? = some last) :
    namedDecision m cr nb c1 c2 =
      if last ≠ ';' ∧ cr.inAttr = true ∧
          ((if cr.nameLen = nb.length then none else nb[cr.nameLen]?) = some '=' ∨
           (if cr.nameLen = nb.length then none else nb[cr.nameLen]?).any isAsciiAlnum = true) then .ok none
      else if (!(isValidScalar c1 && isValidScalar c2)) = true then .error "from_u32(c).unwrap()"
      else .ok (some ((if last = ';' then m
                       else emitErr m "Character reference does not end with semicolon").setIgnoreLf false,
                      if c2 = 0 then [Char.ofNat c1] else [Char.ofNat c1, Char.ofNat c2])) := by
  unfold namedDecision
  simp only [h0, hl, ↓reduceIte]
  generalize (if cr.nameLen = nb.length then none else nb[cr.nameLen]?) = nx
  by_cases hs : last = ';'
  · simp [hs]
  · by_cases ha : cr.inAttr = true
    · cases nx with
      | none => simp [hs, ha]
      | some x =>
        by_cases h1 : x = '='
        · simp [hs, ha, h1]
        · by_cases h2 : isAsciiAlnum x = true
          · simp [hs, ha, h1, h2]
          · simp [hs, ha, h1, h2]
    · simp [hs, ha]

theorem namedDecision_zero (m : Mach) (cr : CharRefSt) (nb : Str) (c1 c2 : Nat) (h0 : cr.nameLen = 0) :
    namedDecision m cr nb c1 c2 = .error "assertion failed: name_len > 0" := by
  unfold namedDecision; simp only [h0, ↓reduceIte]

theorem namedDecision_none (m : Mach) (cr : CharRefSt) (nb : Str) (c1 c2 : Nat) (h0 : cr.nameLen ≠ 0)
    (hl : nb[cr.nameLen - 1]? = none) :
    namedDecision m cr nb c1 c2 = .error "finish_named: slice index out of bounds" := by
  unfold namedDecision; simp only [h0, hl, ↓reduceIte]

/-- the machine `finish_named` returns with the characters: `ignore_lf` cleared, after logging the
missing-semicolon error or not -/
theorem namedDecision_mach {m : Mach} {cr : CharRefSt} {nb : Str} {c1 c2 : Nat} {m1 : Mach} {chars : Str}
    (h : namedDecision m cr nb c1 c2 = .ok (some (m1, chars))) :
    m1 = m.setIgnoreLf false ∨
    m1 = (emitErr m "Character reference does not end with semicolon").setIgnoreLf false := by
  by_cases h0 : cr.nameLen = 0
  · rw [namedDecision_zero m cr nb c1 c2 h0] at h; cases h
  · cases hl : nb[cr.nameLen - 1]? with
    | none => rw [namedDecision_none m cr nb c1 c2 h0 hl] at h; cases h
    | some last =>
      rw [namedDecision_some m cr nb c1 c2 last h0 hl] at h
      repeat' split at h
      all_goals simp only [Except.ok.injEq, Option.some.injEq, Prod.mk.injEq, reduceCtorEq] at h
      all_goals first | exact .inl h.1.symm | exact .inr h.1.symm

theorem namedDecision_weaker (m : Mach) (cr : CharRefSt) (nb : Str) (c1 c2 : Nat) (m1 : Mach) (chars : Str)
    (h : namedDecision m cr nb c1 c2 = .ok (some (m1, chars))) : Weaker m1 m := by
  rcases namedDecision_mach h with rfl | rfl <;> simp [Weaker]

theorem weaker_ite (c : Prop) [Decidable c] (a b m : Mach) (ha : Weaker a m) (hb : Weaker b m) :
    Weaker (if c then a else b) m := by
  split <;> assumption

theorem finishNumeric_weaker' (o : Opts) (x m' : Mach) (cr : CharRefSt) (r : Except String Char)
    (h : finishNumeric o x cr = (m', r)) : Weaker m' x := by
  have := finishNumeric_weaker o x cr
  rw [h] at this; exact this

/-- every machine a char-ref step can return is `Weaker` than the one it started from -/
theorem crStep_weaker (o : Opts) (m m1 : Mach) (inp i1 : Str) (cr cr1 : CharRefSt) (st : CRStatus)
    (h : crStep o m inp cr = .ok (m1, i1, cr1, st)) : Weaker m1 m := by
  unfold crStep unconsumeNumeric finishNumericStatus finishNamed at h
  dsimp only at h
  repeat' split at h
  all_goals
    first
      | (simp at h; done)
      | (simp only [Except.ok.injEq, Prod.mk.injEq] at h
         obtain ⟨h1, _⟩ := h
         subst h1
         first
           | exact Weaker.refl _
           | exact discardChar_weaker _ _
           | exact emitErr_weaker _ _
           | exact Weaker.trans (emitErr_weaker _ _) (discardChar_weaker _ _)
           | exact Weaker.trans (nameErr_weaker _ _ _) (discardChar_weaker _ _)
           | exact nameErr_weaker _ _ _
           | exact Weaker.trans (finishNumeric_weaker' _ _ _ _ _ (by assumption)) (discardChar_weaker _ _)
           | exact Weaker.trans (finishNumeric_weaker' _ _ _ _ _ (by assumption)) (emitErr_weaker _ _)
           | exact finishNumeric_weaker' _ _ _ _ _ (by assumption)
           | exact Weaker.trans (namedDecision_weaker _ _ _ _ _ _ _ (by assumption)) (discardChar_weaker _ _)
           | exact namedDecision_weaker _ _ _ _ _ _ _ (by assumption)
           | (apply weaker_ite <;> first | exact Weaker.refl _ | exact discardChar_weaker _ _ | exact nameErr_weaker _ _ _ | exact Weaker.trans (nameErr_weaker _ _ _) (discardChar_weaker _ _)))

/-- the machine in a step result -/
def R.mach? : R → Option Mach
  | .cont m _ | .suspend m _ | .script m _ | .indicator m _ => some m
  | .panic _ => none

/-- registers that a per-character action leaves alone are left alone by its fold -/
theorem foldl_fields {α : Type} (g : Mach → α) (f : Mach → Char → Mach) (hf : ∀ m c, g (f m c) = g m)
    (chars : Str) (m : Mach) : g (chars.foldl f m) = g m := by
  induction chars generalizing m with
  | nil => rfl
  | cons c cs ih => exact (ih (f m c)).trans (hf m c)

theorem processCharRef_fields (m : Mach) (chars : Str) :
    (processCharRef m chars).1.state = m.state ∧ (processCharRef m chars).1.tempBuf = m.tempBuf ∧
    (processCharRef m chars).1.ignoreLf = m.ignoreLf ∧ (processCharRef m chars).1.reconsume = m.reconsume ∧
    (processCharRef m chars).1.atEof = m.atEof := by
  have h := fun f hf cs => foldl_fields (fun x => (x.state, x.tempBuf, x.ignoreLf, x.reconsume, x.atEof)) f hf cs m
  simp only [Prod.mk.injEq] at h
  unfold processCharRef
  dsimp only
  split
  · exact h emitChar (by simp) _
  · exact h emitChar (by simp) _
  · exact h (fun m c => pushValue c m) (by simp) _
  · simp
theorem ofSig_mach (ms : Mach × Sig) (inp : Str) (m' : Mach) (h : (ofSig ms inp).mach? = some m') :
    m' = ms.1 := by
  unfold ofSig at h
  split at h <;> simp [R.mach?] at h <;> exact h.symm

theorem stepCharRef_good (o : Opts) (m : Mach) (inp : Str) (cr : CharRefSt) (hg : Good m)
    (m' : Mach) (h : (stepCharRef o m inp cr).mach? = some m') : Good m' ∧ m'.atEof = m.atEof := by
  unfold stepCharRef at h
  cases hc : crStep o m inp cr with
  | error x => rw [hc] at h; simp [R.mach?] at h
  | ok v =>
    obtain ⟨m1, i1, cr1, st⟩ := v
    have hw := crStep_weaker o m m1 inp i1 cr cr1 st hc
    rw [hc] at h
    cases st with
    | done chars =>
      have := ofSig_mach _ _ _ h
      subst this
      have hp := processCharRef_fields m1 chars
      exact ⟨hg.of_fields (by simp [hp.1, hw.1]) (by simp [hp.2.1, hw.2.1])
        (by simp only [setCharRef_ignoreLf, hp.2.2.1]; exact hw.2.2.1)
        (by simp only [setCharRef_reconsume, hp.2.2.2.1]; exact hw.2.2.2.1),
        by simp [hp.2.2.2.2, hw.2.2.2.2.1]⟩
    | _ =>
      -- stuck / progress: the machine of the step with the sub-tokenizer state stored back
      simp only [R.mach?, Option.some.injEq] at h
      subst h
      exact ⟨hg.of_fields (by simp [hw.1]) (by simp [hw.2.1]) (by simpa using hw.2.2.1) (by simpa using hw.2.2.2.1),
        by simp [hw.2.2.2.2.1]⟩

/-- registers after a successful `pop_except_from` / data-state read -/
def ReadOk (m m1 : Mach) (r : SetRes) : Prop :=
  m1.state = m.state ∧ m1.tempBuf = m.tempBuf ∧ m1.reconsume = false ∧ m1.charRef = m.charRef ∧
  m1.atEof = m.atEof ∧
  ((∃ b, r = .notFromSet b ∧ m1.ignoreLf = m.ignoreLf) ∨
   (∃ c, r = .fromSet c ∧ (m1.ignoreLf = true → c = '\n' ∨ m.ignoreLf = true)))

theorem readOk_of_getChar (o : Opts) (m m1 : Mach) (inp i1 : Str) (c : Char)
    (h : getChar o m inp = (some c, m1, i1)) : ReadOk m m1 (.fromSet c) := by
  obtain ⟨h1, h2, h3, h4, h5, h6, h7⟩ := getChar_fields o m m1 inp i1 c h
  refine ⟨h1, h2, h3, h4, h5, Or.inr ⟨c, rfl, ?_⟩⟩
  intro hil
  cases hr : m.reconsume with
  | false => exact Or.inl (h6 hr hil)
  | true => right; rw [← h7 hr]; exact hil

theorem popExceptFrom_fields (o : Opts) (S : List Char) (m m1 : Mach) (inp i1 : Str) (r : SetRes)
    (h : popExceptFrom o S m inp = (some r, m1, i1)) : ReadOk m m1 r := by
  rw [popExceptFrom_eq] at h
  split at h
  · cases hg : getChar o m inp with
    | mk c rest =>
      obtain ⟨m2, i2⟩ := rest
      rw [hg] at h
      cases c with
      | none => simp at h
      | some c =>
        simp only [Option.map_some, Prod.mk.injEq, Option.some.injEq] at h
        obtain ⟨h1, h2, _⟩ := h
        subst h1 h2
        exact readOk_of_getChar o m m2 inp i2 c hg
  · rename_i hs
    cases inp with
    | nil => simp at h
    | cons x xs =>
      simp only [List.head?_cons, Option.map_some, List.tail_cons, Prod.mk.injEq, Option.some.injEq] at h
      obtain ⟨h1, h2, _⟩ := h
      subst h1 h2
      exact ⟨rfl, rfl, by simp at hs; exact hs.1.1.2, rfl, rfl, Or.inl ⟨_, rfl, rfl⟩⟩

theorem readData_fields (o : Opts) (m m1 : Mach) (inp i1 : Str) (r : SetRes)
    (h : readData o m inp = (some r, m1, i1)) : ReadOk m m1 r :=
  popExceptFrom_fields o _ m m1 inp i1 r (readData_eq o m inp ▸ h)

theorem readKind_state_facts {s : State} (h : readKind s = .popExcept ∨ readKind s = .dataSimd) :
    s ≠ .markupDeclarationOpen ∧ s ≠ .afterDoctypeName ∧ s ≠ .tagOpen := by
  cases s <;> simp [readKind] at h ⊢

/-- `Good` after a `pop_except_from`-kind step -/
theorem contSet_good (o : Opts) (pol : Pol) (m : Mach) (inp : Str)
    (hg : Good m) (hk : readKind m.state = .popExcept ∨ readKind m.state = .dataSimd)
    (m' : Mach) (h : (contSet o pol (popExceptFrom o (setOf m.state) m inp)).mach? = some m') :
    Good m' ∧ m'.atEof = m.atEof := by
  cases hgc : popExceptFrom o (setOf m.state) m inp with
  | mk c rest =>
  obtain ⟨m1, i1⟩ := rest
  rw [hgc] at h
  cases c with
  | none =>
    simp only [contSet, R.mach?, Option.some.injEq] at h
    subst h
    exact hg.of_readNone (popExceptFrom_none o _ m m1 inp i1 hgc).2.2
  | some r =>
  have hro := popExceptFrom_fields o _ m m1 inp i1 r hgc
  have hm' := ofSig_mach _ _ _ h
  subst hm'
  obtain ⟨h1, h2, h3, h4, h5, h6⟩ := hro
  have hsf := readKind_state_facts hk
  have hne := transSet_not_eat o pol m1 r (by rw [h1]; exact ⟨hsf.1, hsf.2.1⟩)
  refine ⟨⟨?_, ?_, ?_⟩, by rw [transSet_atEof, h5]⟩
  · intro hs; rcases hs with hs | hs
    · exact absurd hs hne.1
    · exact absurd hs hne.2
  · intro _; rw [transSet_reconsume, h3]
  · intro hs
    obtain ⟨hs1, hws⟩ := transSet_unq o pol m1 r hs
    rw [transSet_ignoreLf]
    have hmu : m.state = .attributeValue .unquoted := by rw [← h1]; exact hs1
    have hmil := hg.unq hmu
    rcases h6 with ⟨b, hb, hil⟩ | ⟨c, hc, hil⟩
    · rw [hil, hmil]
    · cases hx : m1.ignoreLf with
      | false => rfl
      | true =>
        rcases hil hx with hcn | hmt
        · have := hws c hc
          rw [hcn] at this
          exact absurd this (by decide)
        · rw [hmil] at hmt; exact absurd hmt (by simp)

/-- `Good` after a `get_char!`-kind step (also used for the tail of `after-doctype-name`) -/
theorem contChar_good (o : Opts) (pol : Pol) (m : Mach) (inp : Str)
    (hg : Good m) (hne : m.state ≠ .markupDeclarationOpen ∧ m.state ≠ .attributeValue .unquoted)
    (hadn : m.state = .afterDoctypeName → m.tempBuf = [])
    (m' : Mach) (h : (contChar o pol (getChar o m inp)).mach? = some m') :
    Good m' ∧ m'.atEof = m.atEof := by
  cases hgc : getChar o m inp with
  | mk c rest =>
  obtain ⟨m1, i1⟩ := rest
  rw [hgc] at h
  cases c with
  | none =>
    simp only [contChar, R.mach?, Option.some.injEq] at h
    subst h
    exact hg.of_readNone (getChar_none o m m1 inp i1 hgc).2.2
  | some c =>
  have hm' := ofSig_mach _ _ _ h
  subst hm'
  obtain ⟨h1, h2, h3, h4, h5, h6, h7⟩ := getChar_fields o m m1 inp i1 c hgc
  obtain ⟨e1, e2, e3, e4⟩ := transChar_enter o pol m1 c
  refine ⟨⟨?_, ?_, ?_⟩, by rw [transChar_atEof, h5]⟩
  · intro hs hil
    rcases hs with hs | hs
    · rcases e1 hs with ⟨hto, hc, htb, _⟩ | heq
      · -- entered from tagOpen on '!': the flag cannot be set after reading '!'
        exfalso
        rw [transChar_ignoreLf] at hil
        have hmr := hg.tagOpen (by rw [← h1]; exact hto)
        have := h6 hmr hil
        rw [hc] at this
        exact absurd this (by decide)
      · rw [heq] at hs; rw [h1] at hs; exact absurd hs hne.1
    · rcases e2 hs with ⟨_, htb⟩ | heq
      · rcases htb with htb | ⟨hst, htb⟩
        · exact htb
        · rw [htb, h2]; exact hadn (by rw [← h1]; exact hst)
      · rw [heq, h2]; rw [heq, h1] at hs; exact hadn hs
  · intro hs
    rw [e3 hs, h3]
  · intro hs
    have heq := e4 hs
    rw [heq, h1] at hs
    exact absurd hs hne.2

theorem readKind_getChar_facts {s : State} (h : readKind s = .getChar) :
    s ≠ .markupDeclarationOpen ∧ s ≠ .attributeValue .unquoted ∧ s ≠ .afterDoctypeName := by
  cases s <;> simp [readKind] at h ⊢
  all_goals (rename_i k; cases k <;> simp [readKind] at h)

theorem discardChar_fields (m : Mach) (inp : Str) :
    (discardChar m inp).1.state = m.state ∧ (discardChar m inp).1.atEof = m.atEof ∧
    (discardChar m inp).1.ignoreLf = m.ignoreLf := by
  unfold discardChar; split <;> simp

theorem readKind_bav {s : State} (h : readKind s = .peekBav) : s = .beforeAttributeValue := by
  cases s <;> simp [readKind] at h ⊢

theorem stepBav_good (o : Opts) (pol : Pol) (m : Mach) (inp : Str) (hg : Good m)
    (hs : m.state = .beforeAttributeValue)
    (m' : Mach) (h : (stepBav o pol m inp).mach? = some m') : Good m' ∧ m'.atEof = m.atEof := by
  have free : ∀ x : Mach, x.state = .beforeAttributeValue → Good x := fun x hx =>
    Good.of_state (by rw [hx]; simp)
  revert m'
  apply stepBav_cases (P := fun r => ∀ m', r.mach? = some m' → Good m' ∧ m'.atEof = m.atEof) o pol m inp
  · intro _ m' h
    cases h
    exact ⟨hg, rfl⟩
  · intro c m2 hb m' h
    cases h
    have hd := discardChar_fields m2 inp
    exact ⟨free _ (by rw [hd.1, hb.fields.1, hs]), by rw [hd.2.1, hb.fields.2]⟩
  · intro c m2 c1 m3 i3 hb hgc m' h
    cases h
    obtain ⟨g1, _, _, _, g5, _, _⟩ := getChar_fields o m2 m3 inp i3 c1 hgc
    exact ⟨free _ (by rw [g1, hb.fields.1, hs]), by rw [g5, hb.fields.2]⟩
  · intro c m2 k hb hk m' h
    cases h
    exact ⟨Good.of_state (by simpa using hk), by simp [(discardChar_fields m2 inp).2.1, hb.fields.2]⟩
  · intro c m2 hb m' h
    have hm' := ofSig_mach _ _ _ h
    subst hm'
    have hss := emitTag_state pol .data (badChar o (discardChar m2 inp).1)
    have h1 := sinkState_data_not_eat hss
    exact ⟨Good.of_state ⟨h1.1, h1.2.1, h1.2.2, sinkState_data_not_unq hss⟩,
      by simp [(discardChar_fields m2 inp).2.1, hb.fields.2]⟩
  · intro c m2 hb m' h
    cases h
    refine ⟨⟨?_, ?_, ?_⟩, by simp [hb.fields.2]⟩
    · intro hx; simp at hx
    · intro hx; simp at hx
    · intro _; simp [hb.il]
/-- a step result that goes on in a state `Good` says nothing about -/
theorem cont_good {x m' : Mach} {i : Str}
    (hst : x.state ≠ .markupDeclarationOpen ∧ x.state ≠ .afterDoctypeName ∧ x.state ≠ .tagOpen ∧
      x.state ≠ .attributeValue .unquoted) (ha : x.atEof = false)
    (h : (R.cont x i).mach? = some m') : Good m' ∧ m'.atEof = false := by
  cases h; exact ⟨Good.of_state hst, ha⟩

/-- `Good` after a look-ahead, from its continuations; a suspended look-ahead keeps the state with
a sound stash -/
theorem eatThen_good {m : Mach} {inp pat : Str} {eq : Char → Char → Bool} {kt kf : Mach → Str → R}
    (hs : m.state = .markupDeclarationOpen ∨ m.state = .afterDoctypeName)
    (hg : EatOk m) (hpat : pat ≠ []) (hat : m.atEof = false)
    (ht : ∀ m1 i1 m', m1.atEof = false → (kt m1 i1).mach? = some m' → Good m' ∧ m'.atEof = false)
    (hf : ∀ m1 i1 m', Settled m1 → m1.state = m.state → m1.atEof = false → (kf m1 i1).mach? = some m' →
      Good m' ∧ m'.atEof = false)
    (m' : Mach) (h : (eatThen m inp pat eq kt kf).mach? = some m') : Good m' ∧ m'.atEof = false := by
  unfold eatThen at h
  cases h1 : eat m inp pat eq with
  | mk b r =>
    obtain ⟨m1, i1⟩ := r
    have f1 := eat_fields m m1 inp i1 pat eq b h1
    rw [h1] at h
    cases b with
    | none =>
      simp only [R.mach?, Option.some.injEq] at h
      subst h
      exact ⟨Good.of_eat_state (by rw [f1.1]; exact hs) (eat_none m m1 inp i1 pat eq hg h1).2.1, f1.2.2.trans hat⟩
    | some b =>
      cases b with
      | true => exact ht m1 i1 m' (f1.2.2.trans hat) h
      | false =>
        obtain ⟨hst1, _, hat1⟩ := eat_false_settled m m1 inp i1 pat eq hg hpat hat h1
        exact hf m1 i1 m' hst1 f1.1 hat1 h

theorem stepMdo_good (o : Opts) (pol : Pol) (m : Mach) (inp : Str) (hg : Good m)
    (hs : m.state = .markupDeclarationOpen) (hat : m.atEof = false)
    (m' : Mach) (h : (stepMdo o pol m inp).mach? = some m') : Good m' ∧ m'.atEof = m.atEof := by
  rw [hat]
  rw [stepMdo_eq] at h
  refine eatThen_good (.inl hs) (hg.eatOk (.inl hs)) kw_ne.1 hat
    (fun _ _ _ ha h => cont_good (by simp) (by simpa using ha) h) (fun m1 i1 m' hs1 hst1 hat1 h => ?_) m' h
  refine eatThen_good (.inl (hst1.trans hs)) hs1.eatOk kw_ne.2.1 hat1
    (fun _ _ _ ha h => cont_good (by simp) (by simpa using ha) h) (fun m2 i2 m' hs2 hst2 hat2 h => ?_) m' h
  split at h
  · exact eatThen_good (.inl (hst2.trans (hst1.trans hs))) hs2.eatOk kw_ne.2.2.1 hat2
      (fun _ _ _ ha h => cont_good (by simp) (by simpa using ha) h)
      (fun _ _ _ _ _ ha h => cont_good (by simp) (by simpa using ha) h) m' h
  · exact cont_good (by simp) (by simpa using hat2) h

theorem stepAdn_good (o : Opts) (pol : Pol) (m : Mach) (inp : Str) (hg : Good m)
    (hs : m.state = .afterDoctypeName) (hat : m.atEof = false)
    (m' : Mach) (h : (stepAdn o pol m inp).mach? = some m') : Good m' ∧ m'.atEof = m.atEof := by
  rw [hat]
  rw [stepAdn_eq] at h
  refine eatThen_good (.inr hs) (hg.eatOk (.inr hs)) kw_ne.2.2.2.1 hat
    (fun _ _ _ ha h => cont_good (by simp) (by simpa using ha) h) (fun m1 i1 m' hs1 hst1 hat1 h => ?_) m' h
  refine eatThen_good (.inr (hst1.trans hs)) hs1.eatOk kw_ne.2.2.2.2 hat1
    (fun _ _ _ ha h => cont_good (by simp) (by simpa using ha) h) (fun m2 i2 m' hs2 hst2 hat2 h => ?_) m' h
  have hadn := hst2.trans (hst1.trans hs)
  rw [← hat2]
  exact contChar_good o pol m2 i2 (Good.of_eat_state (.inr hadn) hs2.eatOk) (by rw [hadn]; simp) (fun _ => hs2.2) m' h

/-- **every step preserves the invariant** (and never touches `at_eof`) -/
theorem step_good (o : Opts) (pol : Pol) (m : Mach) (inp : Str) (hg : Good m) (hat : m.atEof = false)
    (m' : Mach) (h : (step o pol m inp).mach? = some m') : Good m' ∧ m'.atEof = m.atEof := by
  cases hcr : m.charRef with
  | some cr =>
    rw [step_kind_charRef o pol m inp cr hcr] at h
    exact stepCharRef_good o m inp cr hg m' h
  | none =>
    cases hrk : readKind m.state with
    | getChar =>
      rw [step_getChar o pol m inp hcr hrk] at h
      have hf := readKind_getChar_facts hrk
      exact contChar_good o pol m inp hg ⟨hf.1, hf.2.1⟩ (fun hx => absurd hx hf.2.2) m' h
    | popExcept =>
      rw [step_setRead o pol m inp hcr (.inl hrk)] at h
      exact contSet_good o pol m inp hg (.inl hrk) m' h
    | dataSimd =>
      rw [step_setRead o pol m inp hcr (.inr hrk)] at h
      exact contSet_good o pol m inp hg (.inr hrk) m' h
    | peekBav =>
      rw [step_kind_bav o pol m inp hcr hrk] at h
      exact stepBav_good o pol m inp hg (readKind_bav hrk) m' h
    | eatMdo =>
      rw [step_kind_mdo o pol m inp hcr hrk] at h
      exact stepMdo_good o pol m inp hg (readKind_mdo hrk) hat m' h
    | eatAdn =>
      rw [step_kind_adn o pol m inp hcr hrk] at h
      exact stepAdn_good o pol m inp hg (readKind_adn hrk) hat m' h

end H5V.Model.HtmlTok
