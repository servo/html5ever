import H5V.Lemmas.HtmlTBReachActions2
/-!
C18, tree-builder side: the adoption agency algorithm, reset-the-insertion-mode, close-the-cell and the
foreign-content helpers pass only known handles to the sink.
-/
namespace H5V.Props.C18
open H5V.Model.Dom (Id QualName Attr NodeOrText SinkOp Output ElementFlags QuirksMode Dom)
open H5V.Model.HtmlTB
open H5V.Lemmas.TBM

instance pv_aaInner (fmt fb : Id) : ∀ (idx cnt : Nat) (last : Id) (bm : Bookmark),
    Call (aaInner fmt fb idx cnt last bm) (fmt :: fb :: last :: bmH bm) aaH
  | 0, _, _, _ => ⟨by unfold aaInner; pv_walk⟩
  | idx + 1, cnt, last, bm => ⟨by have ih := pv_aaInner fmt fb idx; unfold aaInner; pv_walk⟩

instance pv_aaOuterStep (subject : Str) : Call (aaOuterStep subject) [] nil := ⟨by unfold aaOuterStep; pv_walk⟩

instance pv_aaOuter (subject : Str) : ∀ n : Nat, Call (aaOuter subject n) [] nil
  | 0 => ⟨by unfold aaOuter; pv_walk⟩
  | n + 1 => ⟨by have ih := pv_aaOuter subject n; unfold aaOuter; pv_walk⟩

instance pv_adoptionAgency (subject : Str) : Call (adoptionAgency subject) [] nil := ⟨by unfold adoptionAgency; pv_walk⟩

instance pv_findAInAF : ∀ l : List (Nat × Id × Tag), Call (findAInAF l) (l.map (·.2.1)) Option.toList
  | [] => ⟨by unfold findAInAF; pv_walk⟩
  | (i, n, t) :: rest => ⟨by
    have ih := pv_findAInAF rest
    show PV (n :: rest.map (·.2.1)) _ _
    unfold findAInAF; pv_walk⟩

instance pv_handleMisnestedATags : Call handleMisnestedATags [] nil := ⟨by
  unfold handleMisnestedATags
  refine PV.getS_bind fun s => PV.at ?_ s
  refine PV.bindCall ?_ fun o => ?_
  · intro x hx
    obtain ⟨⟨i, h, t⟩, hp, rfl⟩ := List.mem_map.mp hx
    exact List.mem_append_left _ (afEndToMarker_held hp)
  · pv_walk⟩

/-! ### reset the insertion mode, close the cell, foreign content -/

instance pv_resetLoop : ∀ (l : List Id) (n : Nat), Call (resetLoop l n) l nil
  | [], _ => ⟨by unfold resetLoop; pv_walk⟩
  | e :: rest, n => ⟨by have ih := pv_resetLoop rest; unfold resetLoop; pv_walk⟩

instance pv_resetInsertionMode : Call resetInsertionMode [] nil := ⟨by unfold resetInsertionMode; pv_walk⟩

instance pv_closeTheCell : Call closeTheCell [] nil := ⟨by unfold closeTheCell; pv_walk⟩

instance pv_enterForeign (t : Tag) (ns : Str) : Call (enterForeign t ns) [] prH := ⟨by unfold enterForeign; pv_walk⟩

instance pv_foreignStartTag (t : Tag) : Call (foreignStartTag t) [] prH := ⟨by unfold foreignStartTag; pv_walk⟩

instance pv_isForeign (t : Token) : Call (isForeign t) [] nil := ⟨by unfold isForeign; pv_walk⟩

instance pv_popToIntegrationPointLoop : ∀ fuel : Nat, Call (popToIntegrationPointLoop fuel) [] nil
  | 0 => ⟨by unfold popToIntegrationPointLoop; pv_walk⟩
  | fuel + 1 => ⟨by have ih := pv_popToIntegrationPointLoop fuel; unfold popToIntegrationPointLoop; pv_walk⟩

end H5V.Props.C18
