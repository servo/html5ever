import H5V.Lemmas.HtmlTBFuelRules0
/-!
# The fuel of `process_to_completion`: what an insertion does to the stack

The query helpers and `appropriate_place_for_insertion` are `SQ` (sink calls only, every builder field kept);
`ef_insertElement` — `insert_element` pushes (if asked to) one element with the requested name.
-/
namespace H5V.Lemmas.TBFuel
open H5V.Model.HtmlTB
open H5V.Model.HtmlTok (TagKind)
open H5V.Model.Dom (Id QualName Attr NodeOrText SinkOp Output ElementFlags QuirksMode Dom NodeData Node)
open H5V.Lemmas.TBSafe
open H5V.Lemmas.TBC (ok_bind ok_pure ok_getS_bind ok_modS_bind ok_ite ok_bind_pure)

theorem sq_htmlElemNamed (h : Id) (name : String) : SQ (htmlElemNamed h name) := by
  unfold htmlElemNamed htmlElemNamedS
  exact sq_bind (sq_elemName _) (fun _ => sq_pure _)

theorem sq_elemIn (h : Id) (set : EName → Bool) : SQ (elemIn h set) := by
  unfold elemIn
  exact sq_bind (sq_elemName _) (fun _ => sq_pure _)

theorem sq_currentNode : SQ currentNode := by
  unfold currentNode
  refine sq_getS_bind (fun s0 => ?_)
  cases s0.openElems.getLast? with
  | none => exact sq_panicAt
  | some h => exact sq_pure _

theorem sq_htmlElem : SQ htmlElem := by
  unfold htmlElem
  refine sq_getS_bind (fun s0 => ?_)
  cases s0.openElems.head? with
  | none => exact sq_panicAt
  | some h => exact sq_pure _

theorem sq_fosterLoop : ∀ l, SQ (fosterLoop l) := by
  intro l
  induction l with
  | nil => unfold fosterLoop; exact sq_bind sq_htmlElem (fun _ => sq_pure _)
  | cons e rest ih =>
    unfold fosterLoop
    refine sq_bind (sq_htmlElemNamed _ _) (fun _ => ?_)
    refine sq_ite (fun _ => sq_bind (sq_sinkNode _) (fun _ => sq_pure _)) (fun _ => ?_)
    refine sq_bind (sq_htmlElemNamed _ _) (fun _ => ?_)
    refine sq_ite (fun _ => ?_) (fun _ => ih)
    cases rest with
    | nil => exact sq_panicAt
    | cons p _ => exact sq_pure _

theorem sq_appropriatePlaceForInsertion (ov : Option Id) : SQ (appropriatePlaceForInsertion ov) := by
  unfold appropriatePlaceForInsertion
  dsimp only
  have htail : ∀ (target : Id), SQ (do
      let __do_lift ← getS
      if __do_lift.fosterParenting = true then do
          let foster ← elemIn target fosterTarget
          if (!foster) = true then do
            let __do_lift ← htmlElemNamed target "template"
            if __do_lift = true then do
                let contents ← sinkNode (SinkOp.getTemplateContents target)
                pure (InsertionPoint.lastChild contents)
              else pure (InsertionPoint.lastChild target)
          else do
            let __do_lift ← getS
            fosterLoop __do_lift.openElems.reverse
        else do
          let foster ← pure false
          if (!foster) = true then do
            let __do_lift ← htmlElemNamed target "template"
            if __do_lift = true then do
                let contents ← sinkNode (SinkOp.getTemplateContents target)
                pure (InsertionPoint.lastChild contents)
              else pure (InsertionPoint.lastChild target)
          else do
            let __do_lift ← getS
            fosterLoop __do_lift.openElems.reverse) := by
    intro target
    have hk : ∀ (foster : Bool), SQ (if (!foster) = true then do
            let __do_lift ← htmlElemNamed target "template"
            if __do_lift = true then do
                let contents ← sinkNode (SinkOp.getTemplateContents target)
                pure (InsertionPoint.lastChild contents)
              else pure (InsertionPoint.lastChild target)
          else do
            let __do_lift ← getS
            fosterLoop __do_lift.openElems.reverse) := by
      intro foster
      refine sq_ite (fun _ => ?_) (fun _ => sq_getS_bind (fun _ => sq_fosterLoop _))
      refine sq_bind (sq_htmlElemNamed _ _) (fun _ => ?_)
      exact sq_ite (fun _ => sq_bind (sq_sinkNode _) (fun _ => sq_pure _)) (fun _ => sq_pure _)
    refine sq_getS_bind (fun s0 => ?_)
    refine sq_ite (fun _ => sq_bind (sq_elemIn _ _) (fun f => hk f)) (fun _ => ?_)
    exact sq_bind (sq_pure _) (fun f => hk f)
  cases ov with
  | none => exact sq_bind sq_currentNode (fun t => htail t)
  | some t => exact sq_bind (sq_pure _) (fun t => htail t)

theorem sq_anyHtmlElemNamed (name : String) : ∀ l, SQ (anyHtmlElemNamed name l) := by
  intro l
  induction l with
  | nil => unfold anyHtmlElemNamed; exact sq_pure _
  | cons e rest ih =>
    unfold anyHtmlElemNamed
    exact sq_bind (sq_htmlElemNamed _ _) (fun _ => sq_ite (fun _ => sq_pure _) (fun _ => ih))

theorem sq_inHtmlElemNamed (name : String) : SQ (inHtmlElemNamed name) := by
  unfold inHtmlElemNamed
  exact sq_getS_bind (fun _ => sq_anyHtmlElemNamed _ _)

theorem sq_insertAt (ip : InsertionPoint) (c : NodeOrText) : SQ (insertAt ip c) := by
  unfold insertAt
  cases ip <;> exact sq_sinkUnit _

/-- what `insert_element` does to the builder -/
structure Pushed (s s' : State) (r : Id) (ns name : Str) (pushIt : Bool) : Prop where
  ext : Ext s.dom s'.dom
  stack : s'.openElems = if pushIt = true then s.openElems ++ [r] else s.openElems
  tm : s'.templateModes = s.templateModes
  nm : nm s'.dom r = ⟨ns, name⟩
  el : IsEl s'.dom r

theorem ef_insertElement {pushIt : Bool} {ns name : Str} {attrs : List Attr} {hadDup : Bool} {s s' : State} {r : Id}
    (h : insertElement pushIt ns name attrs hadDup s = .ok (r, s')) : Pushed s s' r ns name pushIt := by
  unfold insertElement at h
  obtain ⟨ip, s1, h1, h2⟩ := ok_bind h
  have q1 : QF s s1 := sq_appropriatePlaceForInsertion none s ip s1 h1
  dsimp only at h2
  have h3 := ok_getS_bind h2
  -- the end: `insert_at`, maybe `push`
  have hend : ∀ (elem : Id) (s4 : State), QF s s4 → IsEl s4.dom elem → nm s4.dom elem = ⟨ns, name⟩ → (do
        insertAt ip (NodeOrText.node elem)
        if pushIt = true then do
            push elem
            pure elem
          else pure elem : M Id) s4 = .ok (r, s') → Pushed s s' r ns name pushIt := by
    intro elem s4 q4 hel4 hnm4 h8
    obtain ⟨_, s5, h9, h10⟩ := ok_bind h8
    have q5 : QF s4 s5 := sq_insertAt _ _ s4 _ s5 h9
    have q : QF s s5 := q4.trans q5
    have hel5 : IsEl s5.dom elem := hel4.ext q5.ext
    have hnm5 : nm s5.dom elem = ⟨ns, name⟩ := by rw [nm_ext q5.ext hel4]; exact hnm4
    cases pushIt with
    | true =>
      simp only [if_true] at h10
      obtain ⟨_, s6, h11, h12⟩ := ok_bind h10
      have e6 : s6 = { s5 with openElems := s5.openElems ++ [elem] } := by
        have : Except.ok ((), { s5 with openElems := s5.openElems ++ [elem] }) = Except.ok (_, s6) := h11
        cases this; rfl
      obtain ⟨e1, e2⟩ := ok_pure h12
      subst e1 e2 e6
      exact ⟨q.ext, by simp [q.openElems], q.templateModes, hnm5, hel5⟩
    | false =>
      simp only [Bool.false_eq_true, if_false] at h10
      obtain ⟨e1, e2⟩ := ok_pure h10
      subst e1 e2
      exact ⟨q.ext, by simp [q.openElems], q.templateModes, hnm5, hel5⟩
  -- the middle: `create_element`, maybe `associate_with_form`
  have hmid : ∀ (fa : Bool) (s2 : State), QF s s2 → (do
        let elem ← createElementWithFlags { pfx := none, ns := ns, loc := name } attrs hadDup
        if fa = true then do
            let __do_lift ← getS
            match __do_lift.formElem with
              | some form => do
                sinkUnit (SinkOp.associateWithForm elem form ip.nodes.fst ip.nodes.snd)
                insertAt ip (NodeOrText.node elem)
                if pushIt = true then do
                    push elem
                    pure elem
                  else pure elem
              | none => do
                panicAt "unwrap-none" "mod.rs:1401" "form_elem unwrap"
                insertAt ip (NodeOrText.node elem)
                if pushIt = true then do
                    push elem
                    pure elem
                  else pure elem
          else do
            insertAt ip (NodeOrText.node elem)
            if pushIt = true then do
                push elem
                pure elem
              else pure elem : M Id) s2 = .ok (r, s') → Pushed s s' r ns name pushIt := by
    intro fa s2 q2 h5
    obtain ⟨elem, s3, h6, h7⟩ := ok_bind h5
    have hc := sat_ok (al := anyAl) sat_createElementWithFlags h6
    by_cases cf : fa = true
    · rw [if_pos cf] at h7
      have h8 := ok_getS_bind h7
      cases hf : s3.formElem with
      | none =>
        rw [hf] at h8
        obtain ⟨_, _, h9, _⟩ := ok_bind h8
        cases h9
      | some form =>
        rw [hf] at h8
        dsimp only at h8
        obtain ⟨_, s4, h9, h10⟩ := ok_bind h8
        have q4 : QF s3 s4 := sq_sinkUnit _ s3 _ s4 h9
        exact hend elem s4 ((q2.trans hc.qf).trans q4) (hc.el.ext q4.ext)
          (by rw [nm_ext q4.ext hc.el]; exact hc.nm) h10
    · rw [if_neg cf] at h7
      exact hend elem s3 (q2.trans hc.qf) hc.el hc.nm h7
  by_cases c1 : (formAssociatable ⟨ns, name⟩ && s1.formElem.isSome) = true
  · rw [if_pos c1] at h3
    obtain ⟨b, s2, h4, h5⟩ := ok_bind h3
    have q2 : QF s1 s2 := sq_inHtmlElemNamed _ s1 b s2 h4
    by_cases c2 : b = true
    · rw [if_pos c2] at h5
      simp only [pure_bind] at h5
      exact hmid false s2 (q1.trans q2) h5
    · rw [if_neg c2] at h5
      simp only [pure_bind] at h5
      exact hmid _ s2 (q1.trans q2) h5
  · rw [if_neg c1] at h3
    simp only [pure_bind] at h3
    exact hmid false s1 q1 h3

/-- the stack part after `insert_element` of an element that is not an HTML `table` -/
theorem Pushed.wle {s s' : State} {r : Id} {ns name : Str} {pushIt : Bool} (h : Pushed s s' r ns name pushIt)
    (hel : AllEl s.dom s.openElems) (hn : (⟨ns, name⟩ : EName) ≠ tableName) : WLe s s' := by
  refine ⟨?_, by rw [h.tm]; exact Nat.le_refl _⟩
  rw [h.stack]
  cases pushIt with
  | false =>
    simp only [Bool.false_eq_true, if_false]
    rw [tabCount_ext h.ext hel]; exact Nat.le_refl _
  | true =>
    simp only [if_true]
    rw [tabCount_append, tabCount_ext h.ext hel]
    have : tabCount s'.dom [r] = 0 := by
      unfold tabCount
      simp only [List.countP_cons, List.countP_nil, h.nm]
      have : ((⟨ns, name⟩ : EName) == tableName) = false := by
        cases hb : ((⟨ns, name⟩ : EName) == tableName) with
        | false => rfl
        | true => exact absurd (eq_of_beq hb) hn
      rw [this]; rfl
    omega

theorem ef_insertPhantom {name : String} {s s' : State} {r : Id} (h : insertPhantom name s = .ok (r, s')) :
    Pushed s s' r nsHtml name.toList true := ef_insertElement h

theorem ef_insertElementFor {tag : Tag} {s s' : State} {r : Id} (h : insertElementFor tag s = .ok (r, s')) :
    Pushed s s' r nsHtml tag.name true := ef_insertElement h

/-- `create_root` pushes an `html` element -/
theorem wle_createRoot {attrs : List Attr} {s s' : State} (hel : AllEl s.dom s.openElems)
    (h : createRoot attrs s = .ok ((), s')) : WLe s s' := by
  obtain ⟨r, fr, ho, _, _, hn, _⟩ := sat_ok (al := anyAl) sat_createRoot h
  refine ⟨?_, by rw [fr.templateModes]; exact Nat.le_refl _⟩
  rw [ho, tabCount_append, tabCount_ext fr.ext hel]
  have : tabCount s'.dom [r] = 0 := by
    unfold tabCount
    simp only [List.countP_cons, List.countP_nil, hn]
    rfl
  omega

end H5V.Lemmas.TBFuel
