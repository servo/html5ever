import H5V.Lemmas.HtmlTBSplitChars
import H5V.Props.C06
/-!
C03 lifted to the tree: `process_to_completion` on character tokens terminates within its
fuel, and its result does not depend on the fuel: every dispatch either consumes a token of the queue
(`Done`), or turns a `NotSplit` token into a run (`SplitWhitespace`), or reprocesses the same token in a
mode of lower `rank`.
-/
namespace H5V.Lemmas.TBSplit
open H5V.Model.Dom (Id QualName Attr NodeOrText SinkOp Output ElementFlags QuirksMode Dom)
open H5V.Model.HtmlTok (TagKind RawKind)
open H5V.Model.HtmlTB
open H5V.Props.C06 (C06_split_run_nonempty C06_split_run_concat)

/-- unary use of a `RespQ` lemma: on a `Good` state the answer satisfies the postcondition and the
new state is `Good` -/
theorem RespQ.post {α : Type} {Q : α → Prop} {m : M α} (h : RespQ Q m) {s : State} (hg : Good s) {a : α} {s' : State}
    (hs : m s = .ok (a, s')) : Q a ∧ Good s' := by
  have := h s s hg.sim
  rw [hs] at this
  exact ⟨this.2.1, this.2.2.good⟩

/-- a non-empty character token -/
def CT (t : Token) : Prop := ∃ st x, t = .chars st x ∧ x ≠ []

theorem CT.tokOK {t : Token} (h : CT t) : TokOK t := by
  obtain ⟨st, x, rfl, hx⟩ := h; exact hx

/-- the answer `charsFin k st x` gives -/
def finRes (k : CKind) (st : SplitStatus) (x : Str) : ProcessResult :=
  match k with
  | .split => .splitWhitespace x
  | .re m => .reprocess m (.chars st x)
  | _ => .done

theorem FinRes.eq {k : CKind} {st : SplitStatus} {x : Str} {r : ProcessResult} (h : FinRes k st x r) :
    r = finRes k st x := by
  cases k <;> exact h

theorem isForeignChars_run (s : State) :
    (∃ e, isForeignChars s = .error e) ∨ ∃ b tr, isForeignChars s = .ok (b, withTr s tr) :=
  (isForeign_q _).run s

theorem good_withTr {s : State} (h : Good s) (tr : List (SinkOp × Output)) : Good (withTr s tr) := ⟨h.af, h.pend⟩

theorem dPre_post {s : State} (hg : Good s) {st : SplitStatus} {k : CKind} {s' : State}
    (h : dPre st s = .ok (k, s')) : DOK s.mode st k ∧ Good s' := by
  unfold dPre at h
  rw [bind_apply] at h
  rcases isForeignChars_run s with ⟨e, he⟩ | ⟨b, tr, hb⟩
  · rw [he] at h; cases h
  · rw [hb] at h
    cases b with
    | true =>
      simp only [if_true, pure_apply] at h
      cases h
      exact ⟨trivial, good_withTr hg tr⟩
    | false =>
      simp only [Bool.false_eq_true, if_false] at h
      rw [bind_apply, getS_apply] at h
      have := (charsPre_ok (withTr s tr).mode st).post (good_withTr hg tr) h
      exact ⟨this.1.dok, this.2⟩

/-- **one dispatch of a character token** -/
theorem D_chars_step {s : State} (hg : Good s) (st : SplitStatus) {x : Str} (hx : x ≠ []) :
    (∃ e, D (.chars st x) s = .error e) ∨
    ∃ k s1, Good s1 ∧ DOK s.mode st k ∧ D (.chars st x) s = .ok (finRes k st x, s1) := by
  rw [D_chars_eq, bind_apply]
  cases hp : dPre st s with
  | error e => exact Or.inl ⟨e, rfl⟩
  | ok p =>
    obtain ⟨k, s0⟩ := p
    obtain ⟨hk, hg0⟩ := dPre_post hg hp
    show (∃ e, charsFin k st x s0 = .error e) ∨ _
    cases hf : charsFin k st x s0 with
    | error e => exact Or.inl ⟨e, rfl⟩
    | ok q =>
      obtain ⟨r, s1⟩ := q
      obtain ⟨hr, hg1⟩ := (charsFin_resp k st x hx).post hg0 hf
      refine Or.inr ⟨k, s1, hg1, hk, ?_⟩
      show charsFin k st x s0 = _
      rw [hf, hr.eq]

/-! ### the measure -/

def tokLen : Token → Nat
  | .chars _ x => x.length
  | _ => 0

def totLen : List Token → Nat
  | [] => 0
  | t :: rest => tokLen t + totLen rest

def splitBonus : Token → Nat
  | .chars .notSplit _ => 8
  | _ => 0

def mu (s : State) (t : Token) (more : List Token) : Nat :=
  16 * (tokLen t + totLen more) + splitBonus t + rank s.mode

theorem rank_le (m : Mode) : rank m ≤ 6 := by cases m <;> decide
theorem splitBonus_le (t : Token) : splitBonus t ≤ 8 := by
  unfold splitBonus; split <;> omega

theorem totLen_append (l1 l2 : List Token) : totLen (l1 ++ l2) = totLen l1 + totLen l2 := by
  induction l1 with
  | nil => simp [totLen]
  | cons a t ih => simp only [List.cons_append, totLen, ih]; omega

theorem CT.len_pos {t : Token} (h : CT t) : 0 < tokLen t := by
  obtain ⟨st, x, rfl, hx⟩ := h
  exact List.length_pos_iff.mpr hx

/-- **fuel independence and the shape of the answer** for queues of character tokens -/
theorem ptc_chars_fuel : ∀ (n : Nat) (s : State) (t : Token) (more : List Token) (f f' : Nat),
    Good s → CT t → (∀ t' ∈ more, CT t') → mu s t more < n → n ≤ f → n ≤ f' →
    processToCompletion f t more s = processToCompletion f' t more s ∧
    ∀ r s', processToCompletion f t more s = .ok (r, s') → r = .continue_ ∧ Good s'
  | 0, _, _, _, _, _, _, _, _, h, _, _ => by omega
  | n + 1, s, t, more, f, f', hg, ht, hmore, hmu, hf, hf' => by
    obtain ⟨f0, rfl⟩ : ∃ f0, f = f0 + 1 := ⟨f - 1, by omega⟩
    obtain ⟨f0', rfl⟩ : ∃ f0', f' = f0' + 1 := ⟨f' - 1, by omega⟩
    obtain ⟨st, x, rfl, hx⟩ := ht
    rw [ptc_succ, ptc_succ, bind_apply, bind_apply]
    rcases D_chars_step hg st hx with ⟨e, he⟩ | ⟨k, s1, hg1, hk, hd⟩
    · rw [he]
      exact ⟨rfl, fun r s' h => by cases h⟩
    · rw [hd]
      -- the three kinds of answers
      have hlen : 0 < x.length := List.length_pos_iff.mpr hx
      cases k with
      | split =>
        have hst : st = .notSplit := hk
        subst hst
        simp only [finRes, K]
        cases hpop : popFrontCharRun x with
        | none => exact ⟨rfl, fun r s' h => by cases h; exact ⟨rfl, hg1⟩⟩
        | some v =>
          obtain ⟨first, isWs, rest⟩ := v
          have hne := C06_split_run_nonempty hpop
          have hcat := (C06_split_run_concat hpop).1
          have hl : first.length + rest.length = x.length := by rw [← hcat, List.length_append]
          simp only []
          refine ptc_chars_fuel n s1 _ _ f0 f0' hg1 ⟨_, first, rfl, hne⟩ ?_ ?_ (by omega) (by omega)
          · intro t' ht'
            split at ht'
            · rename_i hr
              rcases List.mem_append.mp ht' with h | h
              · exact hmore t' h
              · simp at h; subst h
                exact ⟨_, rest, rfl, by intro h0; subst h0; simp at hr⟩
            · exact hmore t' ht'
          · have hb : splitBonus (Token.chars (if isWs = true then SplitStatus.whitespace else .notWhitespace) first) = 0 := by
              cases isWs <;> rfl
            have hr := rank_le s1.mode
            have htot : totLen (if rest.length > 0 then more ++ [Token.chars .notSplit rest] else more) =
                totLen more + rest.length := by
              split
              · rw [totLen_append]; simp [totLen, tokLen]
              · have : rest.length = 0 := by omega
                omega
            have hb0 : splitBonus (Token.chars .notSplit x) = 8 := rfl
            simp only [mu, tokLen] at hmu ⊢
            rw [hb, htot]
            rw [hb0] at hmu
            omega
      | re m' =>
        have hk' : rank m' < rank s.mode := hk
        simp only [finRes, K, bind_apply, setMode, modS_apply]
        refine ptc_chars_fuel n { s1 with mode := m' } _ _ f0 f0' ⟨hg1.af, hg1.pend⟩ ⟨st, x, rfl, hx⟩ hmore ?_
          (by omega) (by omega)
        simp only [mu] at hmu ⊢
        omega
      | drop | fa | ffa | body _ | pend =>
        all_goals
          simp only [finRes, K, Bool.false_eq_true, if_false]
          cases more with
          | nil => exact ⟨rfl, fun r s' h => by cases h; exact ⟨rfl, hg1⟩⟩
          | cons t2 rest =>
            have ht2 := hmore t2 (List.mem_cons_self ..)
            refine ptc_chars_fuel n s1 t2 rest f0 f0' hg1 ht2 (fun t' h => hmore t' (List.mem_cons_of_mem _ h)) ?_
              (by omega) (by omega)
            have h1 := rank_le s1.mode
            have h2 := splitBonus_le t2
            simp only [mu, totLen, tokLen] at hmu ⊢
            omega

/-- the fuel `process_token` hands over is more than the measure -/
theorem mu_lt_ptcFuel (s : State) (st : SplitStatus) (x : Str) :
    mu s (.chars st x) [] < ptcFuel s (.chars st x) := by
  have h1 := rank_le s.mode
  have h2 := splitBonus_le (.chars st x)
  simp only [mu, ptcFuel, tokLen, totLen, tokenCharLen]
  omega

end H5V.Lemmas.TBSplit
