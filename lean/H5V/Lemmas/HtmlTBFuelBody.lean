import H5V.Lemmas.HtmlTBFuelHead
/-!
# The fuel of `process_to_completion`: `stepInBody` (`BodyE`)

Two arms answer `Reprocess`: `</html>` (→ AfterBody) and EOF inside a template (→ the reset mode, a template
mode popped).
-/
namespace H5V.Lemmas.TBFuel
open H5V.Model.HtmlTB
open H5V.Model.HtmlTok (TagKind)
open H5V.Model.Dom (Id QualName Attr NodeOrText SinkOp Output ElementFlags QuirksMode Dom NodeData Node)
open H5V.Lemmas.TBSafe
open H5V.Lemmas.TBC (ok_bind ok_pure ok_getS_bind ok_modS_bind ok_ite ok_bind_pure)

/-- the judgement of an arm of `stepInBody` -/
def BJ (f : M ProcessResult) (tok : Token) : Prop := ∀ s r s', TI s → f s = .ok (r, s') → EB s tok r s'

theorem eb_of_quiet {s s' : State} {tok : Token} {r : ProcessResult} (h : Quiet r) : EB s tok r s' := by
  cases r <;> first | trivial | exact h.elim

theorem bj_of_ro {f : M ProcessResult} {tok : Token} (h : RO f Quiet) : BJ f tok :=
  fun s r s' _ hr => eb_of_quiet (h s r s' hr)

theorem bj_ite {c : Prop} [Decidable c] {a b : M ProcessResult} {tok : Token}
    (h1 : c → BJ a tok) (h2 : ¬c → BJ b tok) : BJ (if c then a else b) tok :=
  ite_rule (P := (BJ · tok)) h1 h2

/-- a quiet arm of the chain -/
syntax "bj_q" : tactic
macro_rules
  | `(tactic| bj_q) => `(tactic| refine bj_ite (fun _ => bj_of_ro (by ro_walkS)) (fun _ => ?_))

theorem bodyE (hH : HeadE) : BodyE := by
  intro tok
  show BJ (stepInBody tok) tok
  unfold stepInBody
  cases tok with
  | nullChar => exact bj_of_ro (by ro_walk)
  | chars st text => exact bj_of_ro (by ro_walk)
  | comment t => exact bj_of_ro (by ro_walk)
  | eof =>
    dsimp only
    intro s r s' ht hrun
    have h1 := ok_getS_bind hrun
    by_cases c : (!s.templateModes.isEmpty) = true
    · rw [if_pos c] at h1
      rcases ef_inTemplateEof ht h1 with e | ⟨m', e, hp⟩
      · rw [e]; trivial
      · rw [e]; exact Or.inr ⟨rfl, hp⟩
    · rw [if_neg c] at h1
      have hq : RO (do checkBodyEnd; pure ProcessResult.done) Quiet := by ro_walk
      exact eb_of_quiet (hq s r s' h1)
  | tag tag =>
    dsimp only
    bj_q
    -- the tags delegated to `stepInHead`
    refine bj_ite (fun h => bj_of_ro (ro_stepInHead hH (headElse_startOrEnd h) tag_ne_notSplit)) (fun _ => ?_)
    bj_q
    bj_q
    bj_q
    -- `</html>`
    refine bj_ite (fun h => ?_) (fun _ => ?_)
    · intro s r s' ht hrun
      obtain ⟨b, s1, h1, h2⟩ := ok_bind hrun
      have sh1 := sh_inScopeNamed _ _ s b s1 h1
      by_cases cb : b = true
      · rw [if_pos cb] at h2
        obtain ⟨_, s2, h3, h4⟩ := ok_bind h2
        obtain ⟨e1, e2⟩ := ok_pure h4
        rw [← e1, ← e2]
        refine Or.inl ⟨cls_of_isEnd (P := fun c => c = .eHtml) h (by decide), rfl, ?_⟩
        exact (sh1.trans (sh_checkBodyEnd s1 _ s2 h3)).wle ht.h.open_el
      · rw [if_neg cb] at h2
        have hq : RO (do parseError "</html> with no <body> in scope"; pure ProcessResult.done) Quiet := by ro_walk
        exact eb_of_quiet (hq s1 r s' h2)
    iterate 40 bj_q
    exact bj_of_ro (by ro_walkS)

end H5V.Lemmas.TBFuel
