import H5V.Lemmas.HtmlTBSkelRules2
/-!
C06 (skeleton invariant): `step` in the late modes, foreign content, the two early modes
(Initial, BeforeHtml: the only places where a doctype / the `html` element are appended to the
document), `process_to_completion`, `process_token`, token runs, `end()`.
-/
namespace H5V.Props.C06
open H5V.Model.Dom hiding Str
open H5V.Model.HtmlTB hiding Str
open H5V.Lemmas.Dom

/-! ### `step` in a late mode, foreign content -/

theorem presR_step (m : Mode) (hm : isLate m = true) (tok : Token) [TokOk tok] : PresR (step m tok) := by
  cases m <;> first
    | (simp [isLate] at hm; done)
    | (unfold step; exact inferInstance)
instance (m : Mode) [h : LateMode m] (tok : Token) [TokOk tok] : PresR (step m tok) := presR_step m h.h tok

theorem presRA_step_self (s : State) (tok : Token) [TokOk tok] : PresRA s (step s.mode tok) :=
  ⟨fun hl a s' e => (presR_step s.mode hl.ml.mode tok).p s a s' hl e⟩

macro_rules
  | `(tactic| tb_step) => `(tactic| with_reducible exact presRA_step_self _ _)

instance (tag : Tag) : PresR (unexpectedStartTagInForeignContent tag) := by
  unfold unexpectedStartTagInForeignContent; tb_walk

theorem presR_foreignEndTagLoop (tag : Tag) : ∀ (i : Nat) (first : Bool), PresR (foreignEndTagLoop tag i first)
  | 0, _ => by unfold foreignEndTagLoop; tb_walk
  | n + 1, first => by
    haveI := fun b => presR_foreignEndTagLoop tag n b
    unfold foreignEndTagLoop
    tb_walk
instance (tag : Tag) (i : Nat) (first : Bool) : PresR (foreignEndTagLoop tag i first) :=
  presR_foreignEndTagLoop tag i first

instance : NE ['�'] := ⟨by simp⟩

theorem presR_stepForeign (token : Token) [TokOk token] : PresR (stepForeign token) := by
  unfold stepForeign; tb_walk
instance (token : Token) [TokOk token] : PresR (stepForeign token) := presR_stepForeign token

/-! ### the early modes -/

/-- nothing has been pushed yet: the state of Initial / BeforeHtml -/
structure Early (s : State) : Prop where
  base : DomBase s.dom
  oe : s.openElems = []
  head : s.headElem = none
  doc : s.docHandle = 0
  ctx : s.contextElem = none
  ptt : s.pendingTableText = []
  orig : s.origMode = none
  tm : s.templateModes = []

/-- Initial: the document has only comments as children -/
def EarlyA (s : State) : Prop := Early s ∧ s.mode = .initial ∧ ∀ k ∈ kinds s.dom, k = .comment
/-- BeforeHtml: `comment* doctype? comment*` -/
def EarlyB (s : State) : Prop := Early s ∧ s.mode = .beforeHtml ∧ docPre 0 (kinds s.dom) = true

/-- the invariant of every reachable state -/
inductive Inv3 (s : State) : Prop
  | a : EarlyA s → Inv3 s
  | b : EarlyB s → Inv3 s
  | late : Late s → Inv3 s

/-- the fields the invariants look at are equal, the arenas have the same nodes -/
structure Same3 (s s' : State) : Prop where
  nodes : s'.dom.nodes = s.dom.nodes
  mode : s'.mode = s.mode
  orig : s'.origMode = s.origMode
  tm : s'.templateModes = s.templateModes
  oe : s'.openElems = s.openElems
  head : s'.headElem = s.headElem
  doc : s'.docHandle = s.docHandle
  ctx : s'.contextElem = s.contextElem
  ptt : s'.pendingTableText = s.pendingTableText

theorem Same3.refl (s : State) : Same3 s s := ⟨rfl, rfl, rfl, rfl, rfl, rfl, rfl, rfl, rfl⟩
theorem Same3.trans {a b c : State} (h1 : Same3 a b) (h2 : Same3 b c) : Same3 a c :=
  ⟨h2.nodes.trans h1.nodes, h2.mode.trans h1.mode, h2.orig.trans h1.orig, h2.tm.trans h1.tm, h2.oe.trans h1.oe,
   h2.head.trans h1.head, h2.doc.trans h1.doc, h2.ctx.trans h1.ctx, h2.ptt.trans h1.ptt⟩

theorem kinds_of_nodes {d d' : Dom} (h : d'.nodes = d.nodes) : kinds d' = kinds d := by
  unfold kinds docKid Dom.childrenOf Dom.dataOf
  rw [h]

theorem Early.same {s s' : State} (h : Early s) (q : Same3 s s') : Early s' :=
  ⟨h.base.sameSk (SameSk.of_nodes q.nodes), q.oe.trans h.oe, q.head.trans h.head, q.doc.trans h.doc,
   q.ctx.trans h.ctx, q.ptt.trans h.ptt, q.orig.trans h.orig, q.tm.trans h.tm⟩

theorem childrenOf_of_nodes {d d' : Dom} (h : d'.nodes = d.nodes) (x : Id) : d'.childrenOf x = d.childrenOf x := by
  unfold Dom.childrenOf; rw [h]
theorem isElement_of_nodes {d d' : Dom} (h : d'.nodes = d.nodes) (x : Id) : d'.isElement x = d.isElement x := by
  unfold Dom.isElement Dom.dataOf; rw [h]

theorem Late.same {s s' : State} (h : Late s) (q : Same3 s s') : Late s' := by
  refine ⟨h.base.sameSk (SameSk.of_nodes q.nodes), by rw [kinds_of_nodes q.nodes]; exact h.pat, ?_,
    ⟨by rw [q.mode]; exact h.ml.mode, by rw [q.orig]; exact h.ml.orig, by rw [q.tm]; exact h.ml.tm⟩⟩
  refine ⟨q.doc.trans h.st.doc, q.ctx.trans h.st.ctx, ?_, ?_, ?_, by rw [q.ptt]; exact h.st.ptt⟩
  · intro e he; rw [isElement_of_nodes q.nodes]; rw [q.oe] at he; exact h.st.oe e he
  · intro e he; rw [childrenOf_of_nodes q.nodes]; rw [q.oe] at he; exact h.st.tail e he
  · intro x hx
    rw [q.head] at hx
    rw [isElement_of_nodes q.nodes, childrenOf_of_nodes q.nodes]
    exact h.st.head x hx

theorem EarlyA.same {s s' : State} (h : EarlyA s) (q : Same3 s s') : EarlyA s' :=
  ⟨h.1.same q, q.mode.trans h.2.1, by rw [kinds_of_nodes q.nodes]; exact h.2.2⟩
theorem EarlyB.same {s s' : State} (h : EarlyB s) (q : Same3 s s') : EarlyB s' :=
  ⟨h.1.same q, q.mode.trans h.2.1, by rw [kinds_of_nodes q.nodes]; exact h.2.2⟩
theorem Inv3.same {s s' : State} (h : Inv3 s) (q : Same3 s s') : Inv3 s' := by
  cases h with
  | a h => exact .a (h.same q)
  | b h => exact .b (h.same q)
  | late h => exact .late (h.same q)

theorem same3_sink {op : SinkOp} [hq : QuietOp op] {s s' : State} {out : Output} (e : sink op s = .ok (out, s')) :
    Same3 s s' := by
  obtain ⟨d, hd, rfl⟩ := sink_ok.mp e
  exact ⟨hq.h _ _ _ hd, rfl, rfl, rfl, rfl, rfl, rfl, rfl, rfl⟩

theorem same3_sinkUnit {op : SinkOp} [QuietOp op] {s s' : State} {u : Unit} (e : sinkUnit op s = .ok (u, s')) :
    Same3 s s' := by
  obtain ⟨out, e⟩ := sinkUnit_ok.mp e
  exact same3_sink e

theorem same3_parseError {m : String} {s s' : State} {u : Unit} (e : parseError m s = .ok (u, s')) : Same3 s s' :=
  same3_sinkUnit e

theorem unexpected_run {s s' : State} {r : ProcessResult} (e : unexpected s = .ok (r, s')) :
    Same3 s s' ∧ r = .done := by
  unfold unexpected at e
  obtain ⟨u, s1, e1, e2⟩ := bind_ok.mp e
  obtain ⟨rfl, rfl⟩ := pure_ok.mp e2
  exact ⟨same3_parseError e1, rfl⟩

theorem setQuirksMode_run {s s' : State} {m : QuirksMode} {u : Unit} (e : setQuirksMode m s = .ok (u, s')) :
    Same3 s s' := by
  unfold setQuirksMode at e
  obtain ⟨u, s1, e1, e2⟩ := bind_ok.mp e
  rw [modS_ok.mp e1] at e2
  exact (⟨rfl, rfl, rfl, rfl, rfl, rfl, rfl, rfl, rfl⟩ : Same3 s { s with quirksMode := m }).trans (same3_sinkUnit e2)

/-- the fields the invariants look at, except the arena -/
structure FieldsEq (s s' : State) : Prop where
  mode : s'.mode = s.mode
  orig : s'.origMode = s.origMode
  tm : s'.templateModes = s.templateModes
  oe : s'.openElems = s.openElems
  head : s'.headElem = s.headElem
  doc : s'.docHandle = s.docHandle
  ctx : s'.contextElem = s.contextElem
  ptt : s'.pendingTableText = s.pendingTableText

theorem FieldsEq.refl (s : State) : FieldsEq s s := ⟨rfl, rfl, rfl, rfl, rfl, rfl, rfl, rfl⟩
theorem FieldsEq.trans {a b c : State} (h1 : FieldsEq a b) (h2 : FieldsEq b c) : FieldsEq a c :=
  ⟨h2.mode.trans h1.mode, h2.orig.trans h1.orig, h2.tm.trans h1.tm, h2.oe.trans h1.oe,
   h2.head.trans h1.head, h2.doc.trans h1.doc, h2.ctx.trans h1.ctx, h2.ptt.trans h1.ptt⟩

theorem Same3.fields {s s' : State} (h : Same3 s s') : FieldsEq s s' :=
  ⟨h.mode, h.orig, h.tm, h.oe, h.head, h.doc, h.ctx, h.ptt⟩

theorem sink_dom {op : SinkOp} {s s' : State} {out : Output} (e : sink op s = .ok (out, s')) :
    s.dom.apply op = .ok (s'.dom, out) ∧ FieldsEq s s' := by
  obtain ⟨d, hd, rfl⟩ := sink_ok.mp e
  exact ⟨hd, ⟨rfl, rfl, rfl, rfl, rfl, rfl, rfl, rfl⟩⟩

theorem sinkUnit_dom {op : SinkOp} {s s' : State} {u : Unit} (e : sinkUnit op s = .ok (u, s')) :
    ∃ out, s.dom.apply op = .ok (s'.dom, out) ∧ FieldsEq s s' := by
  obtain ⟨out, e⟩ := sinkUnit_ok.mp e
  exact ⟨out, sink_dom e⟩

theorem Early.fields {s s' : State} (h : Early s) (q : FieldsEq s s') (hb : DomBase s'.dom) : Early s' :=
  ⟨hb, q.oe.trans h.oe, q.head.trans h.head, q.doc.trans h.doc, q.ctx.trans h.ctx, q.ptt.trans h.ptt,
   q.orig.trans h.orig, q.tm.trans h.tm⟩

/-- `append_comment_to_doc`: a comment node is created and appended to the document; the other fields stay -/
theorem appendCommentToDoc_eff {s s' : State} {text : Str} {r : ProcessResult} (hdoc : s.docHandle = 0)
    (e : appendCommentToDoc text s = .ok (r, s')) :
    r = .done ∧ FieldsEq s s' ∧
      (s.dom.createComment text).1.append 0 (.node (s.dom.createComment text).2) = .ok s'.dom := by
  unfold appendCommentToDoc at e
  obtain ⟨c, s1, e1, e2⟩ := bind_ok.mp e
  obtain ⟨hd1, f1⟩ := sink_dom (sinkNode_ok.mp e1)
  obtain ⟨hdom1, hout⟩ := apply_createComment hd1
  cases hout
  rw [getS_bind] at e2
  obtain ⟨u, s2, e3, e4⟩ := bind_ok.mp e2
  obtain ⟨rfl, rfl⟩ := pure_ok.mp e4
  rw [f1.doc, hdoc] at e3
  obtain ⟨out, hd2, f2⟩ := sinkUnit_dom e3
  rw [hdom1] at hd2
  exact ⟨rfl, f1.trans f2, apply_append hd2⟩

/-- `append_comment_to_doc` in an early state -/
theorem appendCommentToDoc_early {s s' : State} {text : Str} {r : ProcessResult} (h : Early s)
    (e : appendCommentToDoc text s = .ok (r, s')) :
    r = .done ∧ Early s' ∧ s'.mode = s.mode ∧ kinds s'.dom = kinds s.dom ++ [.comment] := by
  obtain ⟨rfl, f, ha⟩ := appendCommentToDoc_eff h.doc e
  obtain ⟨hb1, hc1, hk1, _, _, hdata⟩ := createComment_spec h.base text
  obtain ⟨hb2, hc2, hlt, hk2⟩ := append_doc_spec hb1 (by rw [hdata]; simp) ha
  refine ⟨rfl, h.fields f hb2, f.mode, ?_⟩
  rw [kinds_snoc hb1 hc2 hk2, hc2.docKid_eq hlt, docKid_comment hdata, kinds_eq h.base hc1 (hk1 0)]

theorem createElementWithFlags_any {s s1 : State} {name : QualName} {attrs : List Attr} {dup : Bool} {el : Id}
    (hb : DomBase s.dom) (e : createElementWithFlags name attrs dup s = .ok (el, s1)) :
    FieldsEq s s1 ∧ DomBase s1.dom ∧ Chg s.dom s1.dom ∧ (∀ x, s1.dom.childrenOf x = s.dom.childrenOf x) ∧
      s.dom.size ≤ el ∧ el < s1.dom.size ∧ ∃ tc ip, s1.dom.dataOf el = some (.element name attrs tc ip) := by
  unfold createElementWithFlags at e
  generalize hfl : ({ template := _, mathmlIP := _, hadDuplicateAttributes := dup } : ElementFlags) = flags at e
  obtain ⟨hd1, f1⟩ := sink_dom (sinkNode_ok.mp e)
  obtain ⟨hdom1, hout⟩ := apply_createElement hd1
  cases hout
  obtain ⟨hb1, hc1, hk1, hfresh, hvalid, tc, hdata⟩ := createElement_spec hb name attrs flags
  rw [← hdom1] at hb1 hc1 hk1 hvalid hdata
  exact ⟨f1, hb1, hc1, hk1, hfresh, hvalid, tc, _, hdata⟩

/-- `create_root` in an early state: the `html` element completes the pattern; only the mode is still early -/
theorem createRoot_early {s s' : State} {attrs : List Attr} {u : Unit} (h : Early s)
    (hp : docPre 0 (kinds s.dom) = true) (e : createRoot attrs s = .ok (u, s')) (m : Mode) (hm : isLate m = true) :
    Late { s' with mode := m } := by
  unfold createRoot at e
  obtain ⟨el, s1, e1, e2⟩ := bind_ok.mp e
  obtain ⟨f1, hb1, hc1, hk1, hfresh, hvalid, tc, ip, hdata⟩ := createElementWithFlags_any h.base e1
  obtain ⟨u1, s2, e3, e4⟩ := bind_ok.mp e2
  unfold push at e3
  have hs2 := modS_ok.mp e3
  rw [getS_bind] at e4
  have hdoc2 : s2.docHandle = 0 := by rw [hs2]; show s1.docHandle = 0; rw [f1.doc, h.doc]
  rw [hdoc2] at e4
  obtain ⟨out, hd3, f3⟩ := sinkUnit_dom e4
  have hdom2 : s2.dom = s1.dom := by rw [hs2]
  rw [hdom2] at hd3
  obtain ⟨hb3, hc3, hlt, hk3⟩ := append_doc_spec hb1 (by rw [hdata]; simp) (apply_append hd3)
  have hel1 : s1.dom.isElement el = true := by unfold Dom.isElement; rw [hdata]
  have hel3 := hc3.isElement hel1
  have hkind : docKid s'.dom el = .html := by
    rw [hc3.docKid_eq hlt]
    unfold docKid
    rw [hdata]
    rfl
  have hoe : s'.openElems = [el] := by
    rw [f3.oe, hs2]
    show s1.openElems ++ [_] = _
    rw [f1.oe, h.oe]; rfl
  -- `push` and the sink call leave the other fields as they were in `s`, where they are empty
  have g3 := f3
  rw [hs2] at g3
  refine ⟨hb3, ?_, ⟨?_, ?_, ?_, ?_, ?_, ?_⟩, ⟨hm, ?_, ?_⟩⟩
  · show docPattern 0 (kinds s'.dom) = true
    rw [kinds_snoc hb1 hc3 hk3, hkind, kinds_eq h.base hc1 (hk1 0)]
    exact docPre_append_html (Nat.zero_le _) hp
  · exact (g3.doc.trans f1.doc).trans h.doc
  · exact (g3.ctx.trans f1.ctx).trans h.ctx
  · intro e he
    have he' : e ∈ s'.openElems := he
    rw [hoe] at he'
    simp at he'; subst he'
    exact hel3
  · intro e he
    have he' : e ∈ s'.openElems.tail := he
    rw [hoe] at he'
    simp at he'
  · intro x hx
    cases hx.symm.trans ((g3.head.trans f1.head).trans h.head)
  · intro p hp'
    have hp'' : p ∈ s'.pendingTableText := hp'
    rw [(g3.ptt.trans f1.ptt).trans h.ptt] at hp''
    cases hp''
  · intro m' hm'
    cases hm'.symm.trans ((g3.orig.trans f1.orig).trans h.orig)
  · intro m' hm'
    have hm'' : m' ∈ s'.templateModes := hm'
    rw [(g3.tm.trans f1.tm).trans h.tm] at hm''
    cases hm''

theorem EarlyA.toB {s : State} (h : EarlyA s) : EarlyB { s with mode := .beforeHtml } :=
  ⟨⟨h.1.base, h.1.oe, h.1.head, h.1.doc, h.1.ctx, h.1.ptt, h.1.orig, h.1.tm⟩, rfl, docPre_of_comments h.2.2⟩

/-- the answers of the two early rules -/
inductive EarlyRes (tok : Token) : ProcessResult → Prop
  | done : tok ≠ .eof → EarlyRes tok .done
  | split (b : Str) : b ≠ [] → tok ≠ .eof → EarlyRes tok (.splitWhitespace b)

/-- rules.rs:101, Initial -/
theorem stepInitial_spec {s s' : State} {tok : Token} {r : ProcessResult} (h : EarlyA s) [ht : TokOk tok]
    (e : stepInitial tok s = .ok (r, s')) :
    (EarlyA s' ∧ EarlyRes tok r) ∨ (EarlyA s' ∧ r = .reprocess .beforeHtml tok) := by
  unfold stepInitial at e
  split at e
  · obtain ⟨rfl, rfl⟩ := pure_ok.mp e
    exact Or.inl ⟨h, .split _ (ht.h _ _ rfl) (by intro h; cases h)⟩
  · obtain ⟨rfl, rfl⟩ := pure_ok.mp e
    exact Or.inl ⟨h, .done (by intro h; cases h)⟩
  · obtain ⟨rfl, he, hm, hk⟩ := appendCommentToDoc_early h.1 e
    refine Or.inl ⟨⟨he, hm.trans h.2.1, ?_⟩, .done (by intro h; cases h)⟩
    intro k hk'
    rw [hk] at hk'
    simp only [List.mem_append, List.mem_singleton] at hk'
    rcases hk' with hk' | rfl
    · exact h.2.2 k hk'
    · rfl
  · rw [getS_bind] at e
    refine Or.inr ?_
    by_cases hc : (!s.opts.iframeSrcdoc) = true
    · simp only [hc, if_true] at e
      obtain ⟨r1, s1, e1, e2⟩ := bind_ok.mp e
      obtain ⟨q1, _⟩ := unexpected_run e1
      obtain ⟨u, s2, e3, e4⟩ := bind_ok.mp e2
      have q2 := setQuirksMode_run e3
      obtain ⟨rfl, rfl⟩ := pure_ok.mp e4
      exact ⟨h.same (q1.trans q2), rfl⟩
    · simp only [hc] at e
      obtain ⟨rfl, rfl⟩ := pure_ok.mp e
      exact ⟨h, rfl⟩

/-- rules.rs:118, BeforeHtml: the only place where `html` is created -/
theorem stepBeforeHtml_spec {s s' : State} {tok : Token} {r : ProcessResult} (h : EarlyB s) [ht : TokOk tok]
    (e : stepBeforeHtml tok s = .ok (r, s')) :
    (EarlyB s' ∧ EarlyRes tok r) ∨ (Late s' ∧ r = .done) ∨
      (Late { s' with mode := .beforeHead } ∧ r = .reprocess .beforeHead tok) := by
  have anyElse : ∀ (t : Token) (s0 : State), EarlyB s0 →
      (do createRoot []; pure (ProcessResult.reprocess Mode.beforeHead t) : M ProcessResult) s0 = .ok (r, s') →
      Late { s' with mode := .beforeHead } ∧ r = .reprocess .beforeHead t := by
    intro t s0 h0 e0
    obtain ⟨u, s1, e1, e2⟩ := bind_ok.mp e0
    obtain ⟨rfl, rfl⟩ := pure_ok.mp e2
    exact ⟨createRoot_early h0.1 h0.2.2 e1 _ rfl, rfl⟩
  unfold stepBeforeHtml at e
  split at e
  · obtain ⟨rfl, he, hm, hk⟩ := appendCommentToDoc_early h.1 e
    refine Or.inl ⟨⟨he, hm.trans h.2.1, ?_⟩, .done (by intro h; cases h)⟩
    rw [hk]; exact docPre_append_comment h.2.2
  · obtain ⟨rfl, rfl⟩ := pure_ok.mp e
    exact Or.inl ⟨h, .split _ (ht.h _ _ rfl) (by intro h; cases h)⟩
  · obtain ⟨rfl, rfl⟩ := pure_ok.mp e
    exact Or.inl ⟨h, .done (by intro h; cases h)⟩
  · rename_i tag
    by_cases h1 : tag.isStart ["html"] = true
    · simp only [h1, if_true] at e
      obtain ⟨u, s1, e1, e2⟩ := bind_ok.mp e
      obtain ⟨u2, s2, e3, e4⟩ := bind_ok.mp e2
      obtain ⟨rfl, rfl⟩ := pure_ok.mp e4
      unfold setMode at e3
      rw [modS_ok.mp e3]
      exact Or.inr (Or.inl ⟨createRoot_early h.1 h.2.2 e1 _ rfl, rfl⟩)
    · simp only [h1] at e
      by_cases h2 : tag.isEnd ["head", "body", "html", "br"] = true
      · simp only [h2, if_true] at e
        exact Or.inr (Or.inr (anyElse _ _ h e))
      · simp only [h2] at e
        by_cases h3 : (tag.kind == H5V.Model.HtmlTok.TagKind.endTag) = true
        · simp only [h3, if_true] at e
          obtain ⟨q, rfl⟩ := unexpected_run e
          exact Or.inl ⟨h.same q, .done (by intro h; cases h)⟩
        · simp only [h3] at e
          exact Or.inr (Or.inr (anyElse _ _ h e))
  · exact Or.inr (Or.inr (anyElse _ _ h e))

/-- `is_foreign` with an empty stack: no sink call, `false` -/
theorem isForeign_early {s s' : State} {tok : Token} {b : Bool} (h : s.openElems = [])
    (e : isForeign tok s = .ok (b, s')) : b = false ∧ s' = s := by
  unfold isForeign at e
  by_cases h1 : (tok == Token.eof) = true
  · simp only [h1, if_true] at e
    obtain ⟨rfl, rfl⟩ := pure_ok.mp e
    exact ⟨rfl, rfl⟩
  · simp only [h1, Bool.false_eq_true, if_false] at e
    rw [getS_bind] at e
    simp only [h, List.isEmpty_nil, if_true] at e
    obtain ⟨rfl, rfl⟩ := pure_ok.mp e
    exact ⟨rfl, rfl⟩

/-! ### `process_to_completion` -/

theorem EarlyA.notLate {s : State} (h : EarlyA s) : ¬ Late s := by
  intro hl; have := hl.ml.mode; rw [h.2.1] at this; cases this
theorem EarlyB.notLate {s : State} (h : EarlyB s) : ¬ Late s := by
  intro hl; have := hl.ml.mode; rw [h.2.1] at this; cases this

/-- the state and answer after the rule has run -/
inductive StepPost (s : State) (tok : Token) (result : ProcessResult) (s1 : State) : Prop
  | late : Late s1 → ResOk result → StepPost s tok result s1
  | earlyA : ¬ Late s → EarlyA s1 → EarlyRes tok result → StepPost s tok result s1
  | earlyB : ¬ Late s → EarlyB s1 → EarlyRes tok result → StepPost s tok result s1
  | aToB : ¬ Late s → EarlyA s1 → result = .reprocess .beforeHtml tok → StepPost s tok result s1
  | bToLate : ¬ Late s → Late { s1 with mode := .beforeHead } → result = .reprocess .beforeHead tok →
      StepPost s tok result s1

/-- the dispatch of one iteration of `process_to_completion` -/
def stepPart (tok : Token) : M ProcessResult := do
  if ← isForeign tok then stepForeign tok else step (← getS).mode tok

theorem presR_stepPart (tok : Token) [TokOk tok] : PresR (stepPart tok) := by
  unfold stepPart; tb_walk

theorem stepPart_spec {s s1 : State} {tok : Token} {result : ProcessResult} (h : Inv3 s) [TokOk tok]
    (e : stepPart tok s = .ok (result, s1)) : StepPost s tok result s1 := by
  cases h with
  | late hl =>
    obtain ⟨⟨l, _⟩, r⟩ := (presR_stepPart tok).p _ _ _ hl e
    exact .late l r
  | a ha =>
    unfold stepPart at e
    obtain ⟨b, s0, e1, e2⟩ := bind_ok.mp e
    obtain ⟨rfl, rfl⟩ := isForeign_early ha.1.oe e1
    simp only [Bool.false_eq_true, if_false] at e2
    rw [getS_bind, ha.2.1] at e2
    rcases stepInitial_spec ha e2 with ⟨h1, h2⟩ | ⟨h1, h2⟩
    · exact .earlyA ha.notLate h1 h2
    · exact .aToB ha.notLate h1 h2
  | b hb =>
    unfold stepPart at e
    obtain ⟨b, s0, e1, e2⟩ := bind_ok.mp e
    obtain ⟨rfl, rfl⟩ := isForeign_early hb.1.oe e1
    simp only [Bool.false_eq_true, if_false] at e2
    rw [getS_bind, hb.2.1] at e2
    rcases stepBeforeHtml_spec hb e2 with ⟨h1, h2⟩ | ⟨h1, h2⟩ | ⟨h1, h2⟩
    · exact .earlyB hb.notLate h1 h2
    · exact .late h1 (by rw [h2]; trivial)
    · exact .bToLate hb.notLate h1 h2

/-- the conclusion about one run of `process_to_completion` -/
def PtcPost (s : State) (tok : Token) (s' : State) : Prop :=
  Inv3 s' ∧ (Late s → Late s') ∧ (tok = .eof → Late s')

theorem PtcPost.ofLate {s s' : State} {tok : Token} (h : Late s') : PtcPost s tok s' :=
  ⟨.late h, fun _ => h, fun _ => h⟩

theorem tokOk_split {buf first rest : Str} {isWs : Bool} (h : popFrontCharRun buf = some (first, isWs, rest))
    (st : SplitStatus) : TokOk (.chars st first) :=
  haveI : NE first := ⟨C06_split_run_nonempty h⟩; inferInstance

theorem tokOk_rest {rest : Str} (h : rest.length > 0) : TokOk (.chars .notSplit rest) :=
  haveI : NE rest := ⟨by intro h0; subst h0; simp at h⟩; inferInstance

theorem ite_run {α : Type} {c : Prop} [Decidable c] {a b : M α} {s : State} {r : α} {s' : State}
    (e : (if c then a else b) s = .ok (r, s')) : (c ∧ a s = .ok (r, s')) ∨ (¬c ∧ b s = .ok (r, s')) := by
  by_cases hc : c
  · simp only [hc, if_true] at e; exact Or.inl ⟨hc, e⟩
  · simp only [hc, if_false] at e; exact Or.inr ⟨hc, e⟩

/-- the two ways the dispatch is sequenced with the handling of its answer -/
theorem split_jp {α : Type} {J : ProcessResult → M α} {b : Bool} {tok : Token} {s s0 : State} {r : α} {s' : State}
    (e1 : isForeign tok s = .ok (b, s0))
    (e2 : (if b = true then stepForeign tok >>= J else getS >>= fun st => step st.mode tok >>= J) s0 = .ok (r, s')) :
    ∃ result s1, stepPart tok s = .ok (result, s1) ∧ J result s1 = .ok (r, s') := by
  cases b with
  | true =>
    simp only [if_true] at e2
    obtain ⟨result, s1, e3, e4⟩ := bind_ok.mp e2
    refine ⟨result, s1, ?_, e4⟩
    unfold stepPart
    exact bind_ok.mpr ⟨true, s0, e1, by simp only [if_true]; exact e3⟩
  | false =>
    simp only [Bool.false_eq_true, if_false] at e2
    rw [getS_bind] at e2
    obtain ⟨result, s1, e3, e4⟩ := bind_ok.mp e2
    refine ⟨result, s1, ?_, e4⟩
    unfold stepPart
    exact bind_ok.mpr ⟨false, s0, e1, by simp only [Bool.false_eq_true, if_false]; rw [getS_bind]; exact e3⟩

theorem EarlyRes.cases {tok : Token} {r : ProcessResult} (h : EarlyRes tok r) :
    tok ≠ .eof ∧ (r = .done ∨ ∃ buf, r = .splitWhitespace buf) := by
  cases h with
  | done h => exact ⟨h, Or.inl rfl⟩
  | split b _ h => exact ⟨h, Or.inr ⟨b, rfl⟩⟩

theorem ptc_inv : ∀ (fuel : Nat) (tok : Token) (more : List Token) (s : State) (r : SinkResult) (s' : State),
    Inv3 s → TokOk tok → (∀ t ∈ more, TokOk t) → processToCompletion fuel tok more s = .ok (r, s') →
    PtcPost s tok s'
  | 0, _, _, _, _, _, _, _, _, e => by unfold processToCompletion at e; exact absurd e fuelOut_ok
  | fuel + 1, tok, more, s, r, s', hinv, htok, hmore, e => by
    have ih := ptc_inv fuel
    -- `s2` is a state in which the run may stop or go on: the three facts `PtcPost` needs of it
    have hstop : ∀ {s2 : State}, Inv3 s2 → (Late s → Late s2) → (tok ≠ .eof ∨ Late s2) → PtcPost s tok s2 :=
      fun h2 hl2 heof => ⟨h2, hl2, fun he => heof.resolve_left (fun h => h he)⟩
    have hgo : ∀ {s2 : State} {t : Token} {more' : List Token}, Inv3 s2 → (Late s → Late s2) →
        (tok ≠ .eof ∨ Late s2) → TokOk t → (∀ x ∈ more', TokOk x) →
        processToCompletion fuel t more' s2 = .ok (r, s') → PtcPost s tok s' := by
      intro s2 t more' h2 hl2 heof ht hm e2
      obtain ⟨a1, a2, _⟩ := ih t more' s2 r s' h2 ht hm e2
      exact ⟨a1, fun hl => a2 (hl2 hl), fun he => a2 (heof.resolve_left (fun h => h he))⟩
    -- continuing with the queue of pending tokens
    have hcont : ∀ s2 : State, Inv3 s2 → (Late s → Late s2) → (tok ≠ .eof ∨ Late s2) →
        (match (generalizing := false) more with
          | [] => pure SinkResult.continue_
          | t :: rest => processToCompletion fuel t rest : M SinkResult) s2 = .ok (r, s') → PtcPost s tok s' := by
      intro s2 h2 hl2 heof e2
      cases more with
      | nil => obtain ⟨_, rfl⟩ := pure_ok.mp e2; exact hstop h2 hl2 heof
      | cons t rest => exact hgo h2 hl2 heof (hmore t (by simp)) (fun x hx => hmore x (by simp [hx])) e2
    -- the queue after a split
    have hmore2 : ∀ (rest : Str), ∀ x ∈ (if List.length rest > 0 then more ++ [Token.chars SplitStatus.notSplit rest] else more),
        TokOk x := by
      intro rest x hx
      by_cases hr : rest.length > 0
      · simp only [hr, if_true, List.mem_append, List.mem_singleton] at hx
        rcases hx with hx | rfl
        · exact hmore x hx
        · exact tokOk_rest hr
      · simp only [hr, if_false] at hx
        exact hmore x hx
    unfold processToCompletion at e
    obtain ⟨b, s0, e1, e2⟩ := bind_ok.mp e
    obtain ⟨result, s1, hstep, e⟩ := split_jp e1 e2
    clear e1 e2
    -- the answers `Done` and `SplitWhitespace` in any phase of the parse; `I` is the invariant of the phase
    have hds : ∀ (I : State → Prop), (∀ a b, I a → Same3 a b → I b) →
        (∀ a, I a → Inv3 a ∧ (Late s → Late a) ∧ (tok ≠ .eof ∨ Late a)) → I s1 →
        (result = .done ∨ ∃ buf, result = .splitWhitespace buf) → PtcPost s tok s' := by
      intro I hsame hgood h1 hres
      rcases hres with rfl | ⟨buf, rfl⟩
      · simp only at e
        rcases ite_run e with ⟨_, e⟩ | ⟨_, e⟩
        · obtain ⟨u, s2, e3, e4⟩ := bind_ok.mp e
          obtain ⟨a, b, c⟩ := hgood _ (hsame _ _ h1 (same3_parseError e3))
          exact hcont s2 a b c e4
        · obtain ⟨a, b, c⟩ := hgood _ h1
          exact hcont s1 a b c e
      · simp only at e
        obtain ⟨a, b, c⟩ := hgood _ h1
        cases hp : popFrontCharRun buf with
        | none =>
          simp only [hp] at e
          obtain ⟨_, rfl⟩ := pure_ok.mp e
          exact hstop a b c
        | some p =>
          obtain ⟨first, isWs, rest⟩ := p
          simp only [hp] at e
          exact hgo a b c (tokOk_split hp _) (hmore2 rest) e
    cases stepPart_spec hinv hstep with
    | late hl1 hres =>
      have hgl : ∀ a, Late a → Inv3 a ∧ (Late s → Late a) ∧ (tok ≠ .eof ∨ Late a) :=
        fun a h => ⟨.late h, fun _ => h, Or.inr h⟩
      cases result with
      | done => exact hds Late (fun _ _ h q => h.same q) hgl hl1 (Or.inl rfl)
      | splitWhitespace buf => exact hds Late (fun _ _ h q => h.same q) hgl hl1 (Or.inr ⟨buf, rfl⟩)
      | doneAckSelfClosing =>
        simp only at e
        exact hcont s1 (.late hl1) (fun _ => hl1) (Or.inr hl1) e
      | reprocess m t =>
        simp only at e
        obtain ⟨u, s2, e3, e4⟩ := bind_ok.mp e
        obtain ⟨q, ml⟩ := (quiet_setMode m hres.1).q _ _ _ hl1.ml e3
        have hl2 := hl1.qrel q ml
        exact hgo (.late hl2) (fun _ => hl2) (Or.inr hl2) hres.2 hmore e4
      | reprocessForeign t =>
        simp only at e
        exact hgo (.late hl1) (fun _ => hl1) (Or.inr hl1) hres hmore e
      | script node | toPlaintext | toRawData k =>
        simp only at e
        rcases ite_run e with ⟨_, e⟩ | ⟨_, e⟩
        · obtain ⟨_, _, e3, _⟩ := bind_ok.mp e
          exact absurd e3 panicAt_ok
        · obtain ⟨_, rfl⟩ := pure_ok.mp e
          exact PtcPost.ofLate hl1
      | encodingIndicator enc =>
        simp only at e
        obtain ⟨_, rfl⟩ := pure_ok.mp e
        exact PtcPost.ofLate hl1
    | earlyA hnl ha hres =>
      obtain ⟨hne, hr⟩ := hres.cases
      exact hds EarlyA (fun _ _ h q => h.same q) (fun a h => ⟨.a h, fun hl => absurd hl hnl, Or.inl hne⟩) ha hr
    | earlyB hnl hb hres =>
      obtain ⟨hne, hr⟩ := hres.cases
      exact hds EarlyB (fun _ _ h q => h.same q) (fun a h => ⟨.b h, fun hl => absurd hl hnl, Or.inl hne⟩) hb hr
    | aToB hnl ha hres =>
      subst hres
      simp only at e
      obtain ⟨u, s2, e3, e4⟩ := bind_ok.mp e
      unfold setMode at e3
      rw [modS_ok.mp e3] at e4
      have := ih tok more _ r s' (.b ha.toB) htok hmore e4
      exact ⟨this.1, fun hl => absurd hl hnl, this.2.2⟩
    | bToLate hnl hl1 hres =>
      subst hres
      simp only at e
      obtain ⟨u, s2, e3, e4⟩ := bind_ok.mp e
      unfold setMode at e3
      rw [modS_ok.mp e3] at e4
      exact hgo (.late hl1) (fun _ => hl1) (Or.inr hl1) htok hmore e4

/-! ### `process_token` -/

theorem same3_modS {f : State → State} {s s' : State} {u : Unit} (hf : Same3 s (f s)) (e : modS f s = .ok (u, s')) :
    Same3 s s' := by rw [modS_ok.mp e]; exact hf

/-- after the token has been converted: run it to completion -/
theorem some_run {s s' : State} {r : SinkResult} {t : Token} (h : Inv3 s) (ht : TokOk t)
    (e : (do let __do_lift ← getS; processToCompletion (ptcFuel __do_lift t) t [] : M SinkResult) s = .ok (r, s')) :
    Inv3 s' ∧ (Late s → Late s') ∧ (t = .eof → Late s') := by
  rw [getS_bind] at e
  exact ptc_inv _ t [] s r s' h ht (by intro x hx; cases hx) e

theorem charsToken_ok {b : Bool} {x : Str} {t : Token} (h : charsToken b x = some t) : TokOk t := by
  obtain ⟨y, rfl, hy⟩ := C06_chars_token_nonempty h
  exact ⟨by intro st s e; cases e; exact hy⟩

/-- an optional action before a shared continuation -/
theorem ite_prefix_run {α : Type} {c : Prop} [Decidable c] {p : M Unit} {k : Unit → M α} {s : State} {r : α}
    {s' : State} (e : (if c then p >>= k else k ()) s = .ok (r, s')) :
    ∃ s1, (s1 = s ∨ ∃ u, p s = .ok (u, s1)) ∧ k () s1 = .ok (r, s') := by
  rcases ite_run e with ⟨_, e⟩ | ⟨_, e⟩
  · obtain ⟨u, s1, e1, e2⟩ := bind_ok.mp e
    exact ⟨s1, Or.inr ⟨u, e1⟩, e2⟩
  · exact ⟨s, Or.inl rfl, e⟩

/-- `flush_pending_table_text` (the DOCTYPE-in-table-text case of `process_token`) -/
theorem flushPendingTableText_late {s s' : State} {m : Mode} (hl : Late s)
    (e : flushPendingTableText s = .ok (m, s')) : Late s' ∧ isLate m = true ∧ Ext s.dom s'.dom := by
  unfold flushPendingTableText at e
  rw [getS_bind] at e
  have hp := hl.st.ptt
  generalize s.pendingTableText = l at e hp
  haveI := pres_flushPendingFoster l hp
  haveI := pres_flushPendingPlain l hp
  obtain ⟨u1, s1, e1, e2⟩ := bind_ok.mp e
  obtain ⟨hl1, x1⟩ := (inferInstance : Pres (modS fun s => { s with pendingTableText := [] })).p s u1 s1 hl e1
  have tail : ∀ s2 : State, Late s2 → Ext s.dom s2.dom →
      (getS >>= fun s => match s.origMode with
        | none => (panicAt "unwrap-none" "rules.rs:1172" "orig_mode.take().unwrap()" : M Mode)
        | some m => (set { s with origMode := none } : M Unit) >>= fun _ => pure m) s2 = .ok (m, s') →
      Late s' ∧ isLate m = true ∧ Ext s.dom s'.dom := by
    intro s2 hl2 x2 e4
    rw [getS_bind] at e4
    cases horig : s2.origMode with
    | none => simp only [horig] at e4; exact absurd e4 panicAt_ok
    | some m0 =>
      simp only [horig] at e4
      obtain ⟨u3, s3, e5, e6⟩ := bind_ok.mp e4
      obtain ⟨rfl, rfl⟩ := pure_ok.mp e6
      have hs3 := set_ok.mp e5
      subst hs3
      exact ⟨⟨hl2.base, hl2.pat, ⟨hl2.st.doc, hl2.st.ctx, hl2.st.oe, hl2.st.tail, hl2.st.head, hl2.st.ptt⟩,
        ⟨hl2.ml.mode, (fun m h => by cases h), hl2.ml.tm⟩⟩, hl2.ml.orig _ horig, x2⟩
  rcases ite_run e2 with ⟨_, e2⟩ | ⟨_, e2⟩
  · obtain ⟨u2, s2, e3, e4⟩ := bind_ok.mp e2
    obtain ⟨hl2, x2⟩ := (inferInstance : Pres (parseError "Non-space table text")).p s1 u2 s2 hl1 e3
    obtain ⟨u3, s3, e5, e6⟩ := bind_ok.mp e4
    obtain ⟨hl3, x3⟩ := (inferInstance : Pres (flushPendingFoster l)).p s2 u3 s3 hl2 e5
    exact tail s3 hl3 ((x1.trans x2).trans x3) e6
  · obtain ⟨u3, s3, e5, e6⟩ := bind_ok.mp e2
    obtain ⟨hl3, x3⟩ := (inferInstance : Pres (flushPendingPlain l)).p s1 u3 s3 hl1 e5
    exact tail s3 hl3 (x1.trans x3) e6

theorem processToken_inv {s s' : State} {t : TokToken} {line : Nat} {r : SinkResult} (h : Inv3 s)
    (e : processToken t line s = .ok (r, s')) :
    Inv3 s' ∧ (Late s → Late s') ∧ (t = .eof → Late s') := by
  unfold processToken at e
  rw [getS_bind] at e
  obtain ⟨s1, hs1, e1⟩ := ite_prefix_run e
  have q1 : Same3 s s1 := by
    rcases hs1 with rfl | ⟨u, hu⟩
    · exact Same3.refl _
    · exact same3_sinkUnit hu
  simp only at e1
  rw [getS_bind] at e1
  obtain ⟨u, s2, e2, e3⟩ := bind_ok.mp e1
  have q2 : Same3 s s2 := q1.trans (same3_modS ⟨rfl, rfl, rfl, rfl, rfl, rfl, rfl, rfl, rfl⟩ e2)
  have h2 : Inv3 s2 := h.same q2
  have l2 : Late s → Late s2 := fun hl => hl.same q2
  cases t with
  | parseError msg =>
    simp only at e3
    obtain ⟨u3, s3, e4, e5⟩ := bind_ok.mp e3
    obtain ⟨u4, s4, e6, e7⟩ := bind_ok.mp e5
    obtain ⟨tb, s5, e8, e9⟩ := bind_ok.mp e7
    obtain ⟨rfl, rfl⟩ := pure_ok.mp e8
    have q4 : Same3 s2 s4 := (same3_sinkUnit e4).trans (same3_modS ⟨rfl, rfl, rfl, rfl, rfl, rfl, rfl, rfl, rfl⟩ e6)
    simp only at e9
    obtain ⟨_, rfl⟩ := pure_ok.mp e9
    exact ⟨h2.same q4, fun hl => (l2 hl).same q4, fun h => by cases h⟩
  | doctype dt =>
    simp only at e3
    rw [getS_bind] at e3
    rcases ite_run e3 with ⟨hmode, e3⟩ | ⟨hmode, e3⟩
    · -- Initial: the doctype is appended
      have hmode' : s2.mode = .initial := by simpa using hmode
      have ha : EarlyA s2 := by
        cases h2 with
        | a ha => exact ha
        | b hb => have := hb.2.1; rw [hmode'] at this; cases this
        | late hl => have := hl.ml.mode; rw [hmode'] at this; cases this
      have hnl : ¬ Late s := fun hl => ha.notLate (l2 hl)
      refine ⟨?_, fun hl => absurd hl hnl, fun h => by cases h⟩
      rw [getS_bind] at e3
      cases hdq : doctypeErrorAndQuirks dt s2.opts.iframeSrcdoc with
      | mk err quirk =>
        simp only [hdq] at e3
        obtain ⟨s3, hs3, e4⟩ := ite_prefix_run e3
        have ha3 : EarlyA s3 := by
          rcases hs3 with rfl | ⟨u, hu⟩
          · exact ha
          · exact ha.same (same3_parseError hu)
        rw [getS_bind] at e4
        obtain ⟨s4, hs4, e5⟩ := ite_prefix_run e4
        have hb4 : EarlyB { s4 with mode := .beforeHtml } := by
          rcases hs4 with rfl | ⟨u, hu⟩
          · exact ha3.toB
          · obtain ⟨out, hd, f4⟩ := sinkUnit_dom hu
            obtain ⟨hb', hc', hk, hdata, hs⟩ := appendDoctype_spec ha3.1.base (apply_doctype hd)
            refine ⟨⟨hb', f4.oe.trans ha3.1.oe, f4.head.trans ha3.1.head, f4.doc.trans ha3.1.doc,
              f4.ctx.trans ha3.1.ctx, f4.ptt.trans ha3.1.ptt, f4.orig.trans ha3.1.orig, f4.tm.trans ha3.1.tm⟩, rfl, ?_⟩
            show docPre 0 (kinds s4.dom) = true
            have hkd : docKid s4.dom s3.dom.size = .doctype := by unfold docKid; rw [hdata]
            rw [kinds_snoc ha3.1.base hc' hk, hkd]
            exact docPre_append_doctype ha3.2.2
        obtain ⟨u5, s5, e6, e7⟩ := bind_ok.mp e5
        obtain ⟨u6, s6, e8, e9⟩ := bind_ok.mp e7
        obtain ⟨tb, s7, e10, e11⟩ := bind_ok.mp e9
        obtain ⟨rfl, rfl⟩ := pure_ok.mp e10
        simp only at e11
        obtain ⟨_, rfl⟩ := pure_ok.mp e11
        have q5 := setQuirksMode_run e6
        unfold setMode at e8
        rw [modS_ok.mp e8]
        refine .b ?_
        have : Same3 { s4 with mode := .beforeHtml } { s5 with mode := .beforeHtml } :=
          ⟨q5.nodes, rfl, q5.orig, q5.tm, q5.oe, q5.head, q5.doc, q5.ctx, q5.ptt⟩
        exact hb4.same this
    · have tail : ∀ s3 : State, Inv3 s3 → (Late s → Late s3) →
          (parseError "DOCTYPE in body" >>= fun _ => (pure none : M (Option Token)) >>= fun tbToken =>
            match tbToken with
            | none => pure SinkResult.continue_
            | some t => do
              let __do_lift ← getS
              processToCompletion (ptcFuel __do_lift t) t []) s3 = .ok (r, s') →
          Inv3 s' ∧ (Late s → Late s') ∧ (TokToken.doctype dt = .eof → Late s') := by
        intro s3 h3 l3 e3
        obtain ⟨u3, s4, e4, e5⟩ := bind_ok.mp e3
        obtain ⟨tb, s5, e8, e9⟩ := bind_ok.mp e5
        obtain ⟨rfl, rfl⟩ := pure_ok.mp e8
        have q3 := same3_parseError e4
        simp only at e9
        obtain ⟨_, rfl⟩ := pure_ok.mp e9
        exact ⟨h3.same q3, fun hl => (l3 hl).same q3, fun h => by cases h⟩
      rw [getS_bind] at e3
      rcases ite_run e3 with ⟨hmt, e3⟩ | ⟨_, e3⟩
      · -- in table text: the pending text is flushed, the original mode restored
        have hmt' : s2.mode = .inTableText := by simpa using hmt
        have hl2 : Late s2 := by
          cases h2 with
          | a ha => have := ha.2.1; rw [hmt'] at this; cases this
          | b hb => have := hb.2.1; rw [hmt'] at this; cases this
          | late hl => exact hl
        obtain ⟨m0, s3, e4, e5⟩ := bind_ok.mp e3
        obtain ⟨hl3, hm0, _⟩ := flushPendingTableText_late hl2 e4
        obtain ⟨u4, s4, e6, e7⟩ := bind_ok.mp e5
        unfold setMode at e6
        have hs4 := modS_ok.mp e6
        have hl4 : Late s4 := by
          rw [hs4]
          exact ⟨hl3.base, hl3.pat, ⟨hl3.st.doc, hl3.st.ctx, hl3.st.oe, hl3.st.tail, hl3.st.head, hl3.st.ptt⟩,
            ⟨hm0, hl3.ml.orig, hl3.ml.tm⟩⟩
        exact tail s4 (.late hl4) (fun _ => hl4) e7
      · exact tail s2 h2 l2 e3
  | tag tg | comment c | nullChar =>
    simp only at e3
    obtain ⟨tb, s5, e8, e9⟩ := bind_ok.mp e3
    obtain ⟨rfl, rfl⟩ := pure_ok.mp e8
    simp only at e9
    obtain ⟨a, b, _⟩ := some_run h2 inferInstance e9
    exact ⟨a, fun hl => b (l2 hl), fun h => by cases h⟩
  | eof =>
    simp only at e3
    obtain ⟨tb, s5, e8, e9⟩ := bind_ok.mp e3
    obtain ⟨rfl, rfl⟩ := pure_ok.mp e8
    simp only at e9
    obtain ⟨a, b, c⟩ := some_run h2 inferInstance e9
    exact ⟨a, fun hl => b (l2 hl), fun _ => c rfl⟩
  | chars x =>
    simp only at e3
    obtain ⟨tb, s5, e8, e9⟩ := bind_ok.mp e3
    obtain ⟨rfl, rfl⟩ := pure_ok.mp e8
    cases hct : charsToken s1.ignoreLf x with
    | none =>
      simp only [hct] at e9
      obtain ⟨_, rfl⟩ := pure_ok.mp e9
      exact ⟨h2, l2, fun h => by cases h⟩
    | some tk =>
      simp only [hct] at e9
      obtain ⟨a, b, _⟩ := some_run h2 (charsToken_ok hct) e9
      exact ⟨a, fun hl => b (l2 hl), fun h => by cases h⟩

/-! ### token runs, `TreeBuilder::new`, `end()` -/

theorem processTokens_inv : ∀ (toks : List (TokToken × Nat)) (acc : List SinkResult) (s : State)
    (r : List SinkResult) (s' : State), Inv3 s → processTokens toks acc s = .ok (r, s') →
    Inv3 s' ∧ (Late s → Late s') ∧ ((∃ line, (TokToken.eof, line) ∈ toks) → Late s')
  | [], acc, s, r, s', h, e => by
    unfold processTokens at e
    obtain ⟨_, rfl⟩ := pure_ok.mp e
    exact ⟨h, id, fun ⟨_, hm⟩ => by cases hm⟩
  | (t, line) :: rest, acc, s, r, s', h, e => by
    unfold processTokens at e
    obtain ⟨r1, s1, e1, e2⟩ := bind_ok.mp e
    obtain ⟨a1, b1, c1⟩ := processToken_inv h e1
    obtain ⟨a2, b2, c2⟩ := processTokens_inv rest _ s1 r s' a1 e2
    refine ⟨a2, fun hl => b2 (b1 hl), ?_⟩
    rintro ⟨l, hm⟩
    simp only [List.mem_cons, Prod.mk.injEq] at hm
    rcases hm with ⟨rfl, _⟩ | hm
    · exact b2 (c1 rfl)
    · exact c2 ⟨l, hm⟩

theorem earlyA_init (opts : Opts) : EarlyA (State.init opts) := by
  refine ⟨⟨DomBase.new, rfl, rfl, rfl, rfl, rfl, rfl, rfl⟩, rfl, ?_⟩
  intro k hk
  simp [kinds, State.init, Dom.new, Dom.childrenOf] at hk

theorem apply_getDocument {d d' : Dom} {out : Output} (h : d.apply .getDocument = .ok (d', out)) :
    d' = d ∧ out = .node 0 := by
  have h' : d.applyV Dom.cloneVariant Dom.beforeSiblingVariant .getDocument = .ok (d', out) := h
  simp only [Dom.applyV, Except.ok.injEq, Prod.mk.injEq] at h'
  exact ⟨h'.1.symm, h'.2.symm⟩

theorem newTB_inv {s s' : State} {u : Unit} (h : EarlyA s) (e : newTB s = .ok (u, s')) : EarlyA s' := by
  unfold newTB at e
  obtain ⟨doc, s1, e1, e2⟩ := bind_ok.mp e
  obtain ⟨hd, f1⟩ := sink_dom (sinkNode_ok.mp e1)
  obtain ⟨hdom, hout⟩ := apply_getDocument hd
  cases hout
  rw [modS_ok.mp e2]
  refine ⟨⟨by show DomBase s1.dom; rw [hdom]; exact h.1.base, f1.oe.trans h.1.oe, f1.head.trans h.1.head, rfl,
    f1.ctx.trans h.1.ctx, f1.ptt.trans h.1.ptt, f1.orig.trans h.1.orig, f1.tm.trans h.1.tm⟩,
    f1.mode.trans h.2.1, ?_⟩
  show ∀ k ∈ kinds s1.dom, k = .comment
  rw [hdom]; exact h.2.2

theorem endLoop_nodes : ∀ (l : List Id) (s s' : State) (u : Unit), endLoop l s = .ok (u, s') →
    s'.dom.nodes = s.dom.nodes
  | [], s, s', u, e => by
    unfold endLoop at e
    obtain ⟨_, rfl⟩ := pure_ok.mp e
    rfl
  | x :: rest, s, s', u, e => by
    unfold endLoop at e
    obtain ⟨u1, s1, e1, e2⟩ := bind_ok.mp e
    rw [endLoop_nodes rest s1 s' u e2]
    exact (same3_sinkUnit e1).nodes

theorem finishTB_nodes {s s' : State} {u : Unit} (e : finishTB s = .ok (u, s')) : s'.dom.nodes = s.dom.nodes := by
  unfold finishTB at e
  rw [getS_bind] at e
  obtain ⟨u1, s1, e1, e2⟩ := bind_ok.mp e
  rw [endLoop_nodes _ _ _ _ e2, modS_ok.mp e1]

/-- the dom of a completed run of `parseTokens`, and the state before `end()` -/
theorem parseTokens_ok {opts : Opts} {toks : List (TokToken × Nat)} {s : State}
    (h : parseTokens opts toks = .ok s) :
    ∃ s0, Inv3 s0 ∧ ((∃ line, (TokToken.eof, line) ∈ toks) → Late s0) ∧ s.dom.nodes = s0.dom.nodes := by
  unfold parseTokens at h
  cases hr : ((do newTB; let _ ← processTokens toks []; finishTB : M Unit).run (State.init opts)) with
  | error e => rw [hr] at h; cases h
  | ok p =>
    obtain ⟨u, sf⟩ := p
    rw [hr] at h
    have hs : sf = s := by simpa [Except.map] using h
    subst hs
    have hr' : (newTB >>= fun _ => processTokens toks [] >>= fun _ => finishTB) (State.init opts) = .ok (u, sf) := hr
    obtain ⟨u1, s1, e1, e2⟩ := bind_ok.mp hr'
    obtain ⟨r2, s2, e3, e4⟩ := bind_ok.mp e2
    have h1 := newTB_inv (earlyA_init opts) e1
    obtain ⟨a, _, c⟩ := processTokens_inv toks [] s1 r2 s2 (.a h1) e3
    exact ⟨s2, a, c, finishTB_nodes e4⟩

end H5V.Props.C06
