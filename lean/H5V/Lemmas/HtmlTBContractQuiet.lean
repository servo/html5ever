import H5V.Lemmas.HtmlTBContractPrim
import H5V.Model.HtmlTB.Run
/-!
# TreeSink contract for the HTML tree builder: the helpers without tree-mutating sink calls

`CP` leaves for every helper of `mod.rs` / `rules.rs` that only queries the sink (`elem_name`,
`same_node`, `pop`, `parse_error`, `set_quirks_mode`, `add_attrs_if_missing`, …) and updates builder
fields: scope tests, the `pop_until*` family, the list of active formatting elements, "any other end
tag", `reset_insertion_mode`, `is_foreign`, ….

Every lemma about a call carries the attribute `cp`, through which `cp_walk` finds it.
`reset_insertion_mode` is special: its result is needed to be a late mode, so it is proved at `SatC`
level (`satc_resetInsertionMode`) and used through the bind rule `cp_reset_bind` (a step of the walk that
leaves the continuation goal, with `m ≠ .initial` in the context).
-/
namespace H5V.Lemmas.TBC
open H5V.Model.HtmlTB
open H5V.Model.Dom (Id QualName Attr NodeOrText SinkOp Output ElementFlags QuirksMode Dom NodeData Node Contract)
open H5V.Lemmas.TBSafe (IsEl nm sigOf Ext apply_ext tmplName fmtNames nm_ext sigOf_ext IsEl.ext sigOf_lt)

variable {d0 : Dom}

/-! ### membership in the context after a `getS` -/

theorem mem_open {s0 : State} {c : List Id} {x : Id} (h : x ∈ s0.openElems) : x ∈ stH s0 ++ c := by
  simp only [stH, List.mem_append]
  exact Or.inl (Or.inl (Or.inl (Or.inl (Or.inl h))))

theorem mem_afH {s0 : State} {c : List Id} {x : Id} {t : Tag} (h : FormatEntry.element x t ∈ s0.activeFormatting) :
    x ∈ stH s0 ++ c := by
  simp only [stH, List.mem_append]
  exact Or.inl (Or.inl (Or.inl (Or.inl (Or.inr (mem_afIds.mpr ⟨t, h⟩)))))

theorem mem_ctxElem {s0 : State} {c : List Id} {x : Id} (h : s0.contextElem = some x) : x ∈ stH s0 ++ c := by
  simp only [stH, List.mem_append, Option.mem_toList]
  exact Or.inl (Or.inr h)

theorem mem_tail {a c : List Id} {x : Id} (h : x ∈ c) : x ∈ a ++ c := List.mem_append_right _ h

/-- `∀ y ∈ l, y ∈ ctx` for a list `l` that is (the reverse of) the stack of a state that was read -/
syntax "cp_list_mem" : tactic
macro_rules
  | `(tactic| cp_list_mem) => `(tactic|
    (intro y hy
     first
       | exact mem_open hy
       | exact mem_open (List.mem_reverse.mp hy)
       | exact mem_open (List.mem_of_mem_drop hy)
       | ctx_mem
       | (simp only [List.mem_reverse] at hy; ctx_mem)))

macro_rules | `(tactic| cp_side) => `(tactic| cp_list_mem)

/-! ### small accessors -/

@[cp]
theorem cp_adjustedCurrentNode {c : List Id} : CP d0 c adjustedCurrentNode (fun h => [h]) := by
  unfold H5V.Model.HtmlTB.adjustedCurrentNode
  refine cp_getS_bind ?_
  intro s0
  refine cp_ite (fun _ => ?_) (fun _ => cp_currentNode)
  cases hc : s0.contextElem with
  | none => exact cp_currentNode
  | some ctx =>
    refine cp_pure ctx ?_
    intro x hx
    rw [List.mem_singleton.mp hx]
    exact mem_ctxElem hc


@[cp]
theorem cp_isFragment {c : List Id} : CP d0 c isFragment (fun _ => []) := by
  unfold H5V.Model.HtmlTB.isFragment
  exact cp_getS_bind (fun _ => cp_pure_nil _)


@[cp]
theorem cp_pendingTableTextEmpty {c : List Id} : CP d0 c pendingTableTextEmpty (fun _ => []) := by
  unfold H5V.Model.HtmlTB.pendingTableTextEmpty
  exact cp_getS_bind (fun _ => cp_pure_nil _)


/-- a builder-field update that keeps the sink, shrinks the stack, keeps the *elements* of the list
of active formatting entries (markers may come and go), keeps or clears the pointers -/
theorem CB.of_shrinkAF {s s' : State} (h : CB d0 s) (hd : s'.dom = s.dom) (ht : s'.traceRev = s.traceRev)
    (hdoc : s'.docHandle = s.docHandle)
    (ho : ∀ x ∈ s'.openElems, x ∈ s.openElems)
    (ha : ∀ x t, FormatEntry.element x t ∈ s'.activeFormatting → FormatEntry.element x t ∈ s.activeFormatting)
    (hh : ∀ x, s'.headElem = some x → s.headElem = some x)
    (hf : ∀ x, s'.formElem = some x → s.formElem = some x)
    (hc : ∀ x, s'.contextElem = some x → s.contextElem = some x)
    (hl : LateS s') : CB d0 s' where
  d := ⟨by rw [hd]; exact h.d.inv, by rw [hd, ht]; exact h.d.run⟩
  h := ⟨hdoc.trans h.h.docH, by rw [hd]; exact h.h.doc0, fun x hx => by rw [hd]; exact h.h.open_el x (ho x hx),
    fun x hx => by rw [hd]; exact h.h.open_tc x (ho x hx),
    fun x t hx => by rw [hd]; exact h.h.af x t (ha _ _ hx),
    fun x hx => by rw [hd]; exact h.h.head x (hh x hx), fun x hx => by rw [hd]; exact h.h.form x (hf x hx),
    fun x hx => by rw [hd]; exact h.h.ctx x (hc x hx), fun x hx => by rw [hd]; exact h.h.headTc x (hh x hx)⟩
  l := hl

@[cp]
theorem cp_pushMarker {c : List Id} : CP d0 c pushMarker (fun _ => []) := by
  unfold H5V.Model.HtmlTB.pushMarker
  refine cp_modS (fun s hcb _ => ⟨?_, GrowRel.of_sublist rfl (List.Sublist.refl _)⟩)
  refine hcb.of_shrinkAF rfl rfl rfl (fun _ h => h) ?_ (fun _ h => h) (fun _ h => h) (fun _ h => h)
    (lateS_of_eq hcb.l rfl rfl rfl)
  intro x t hx
  rcases List.mem_append.mp hx with h | h
  · exact h
  · simp at h


theorem contract_setQuirksMode {d : Dom} {m : QuirksMode} : Contract d (.setQuirksMode m) := rfl

@[cp]
theorem cp_setQuirksMode {c : List Id} {m : QuirksMode} : CP d0 c (setQuirksMode m) (fun _ => []) := by
  unfold H5V.Model.HtmlTB.setQuirksMode
  refine cp_bind (R := fun _ => []) ?_ ?_
  · exact cp_modS_shrink (fun _ => rfl) (fun _ => rfl) (fun _ => rfl) (fun _ => List.Sublist.refl _)
      (fun _ _ h => h) (fun _ _ h => h) (fun _ _ h => h) (fun _ _ h => h) (fun _ hl => ⟨hl.mode, hl.orig, hl.tm⟩)
  · intro _
    exact cp_sinkUnit_nt rfl (fun _ _ _ => contract_setQuirksMode)


@[cp]
theorem cp_toRawTextMode {c : List Id} {k : H5V.Model.HtmlTok.RawKind} : CP d0 c (toRawTextMode k) (fun _ => []) := by
  unfold H5V.Model.HtmlTB.toRawTextMode
  refine cp_bind (R := fun _ => []) ?_ (fun _ => cp_pure_nil _)
  exact cp_modS_shrink (fun _ => rfl) (fun _ => rfl) (fun _ => rfl) (fun _ => List.Sublist.refl _)
    (fun _ _ h => h) (fun _ _ h => h) (fun _ _ h => h) (fun _ _ h => h)
    (fun _ hl => ⟨(fun h => by cases h), (fun h => hl.mode (Option.some.inj h)), hl.tm⟩)


/-! ### scope tests -/

theorem cp_inScopeLoop {c : List Id} {scope : EName → Bool} {pred : Id → M Bool}
    (hp : ∀ x, x ∈ c → CP d0 c (pred x) (fun _ => [])) :
    ∀ (l : List Id), (∀ x ∈ l, x ∈ c) → CP d0 c (inScopeLoop scope pred l) (fun _ => []) := by
  intro l
  induction l with
  | nil => intro _; unfold H5V.Model.HtmlTB.inScopeLoop; exact cp_pure_nil _
  | cons node rest ih =>
    intro hl
    unfold H5V.Model.HtmlTB.inScopeLoop
    have hn : node ∈ c := hl node List.mem_cons_self
    have ih' := ih (fun x hx => hl x (List.mem_cons_of_mem _ hx))
    refine cp_bind (hp node hn) ?_
    intro b
    refine cp_ite (fun _ => cp_pure_nil _) (fun _ => ?_)
    refine cp_bind (cp_elemName (mem_tail hn)) ?_
    intro n
    exact cp_ite (fun _ => cp_pure_nil _) (fun _ => cp_ctx_mono ih' (fun x hx => mem_tail (mem_tail hx)))

/-- `in_scope(scope, pred)`: the predicate must be a `CP` in every context that extends `c` and
contains its argument -/
theorem cp_inScope {c : List Id} {scope : EName → Bool} {pred : Id → M Bool}
    (hp : ∀ (c' : List Id) (x : Id), x ∈ c' → (∀ y ∈ c, y ∈ c') → CP d0 c' (pred x) (fun _ => [])) :
    CP d0 c (inScope scope pred) (fun _ => []) := by
  unfold H5V.Model.HtmlTB.inScope
  refine cp_getS_bind ?_
  intro s0
  exact cp_inScopeLoop (fun x hx => hp _ x hx (fun y hy => mem_tail hy)) _
    (fun x hx => mem_open (List.mem_reverse.mp hx))

/-- the predicates that the callers of `in_scope` pass -/
macro_rules | `(tactic| cp_leaf) => `(tactic|
  (with_reducible refine cp_inScope ?_) <;> first
    | exact fun _ _ hx _ => cp_elemIn hx
    | exact fun _ _ hx _ => cp_htmlElemNamedS hx
    | exact fun _ _ hx hc => cp_sameNode hx (hc _ (by ctx_mem))
    | exact fun _ _ hx hc => cp_sameNode (hc _ (by ctx_mem)) hx)

@[cp]
theorem cp_inScopeNamedS {c : List Id} {scope : EName → Bool} {name : Str} :
    CP d0 c (inScopeNamedS scope name) (fun _ => []) := by
  unfold H5V.Model.HtmlTB.inScopeNamedS
  exact cp_inScope (fun _ _ hx _ => cp_htmlElemNamedS hx)


@[cp]
theorem cp_inScopeNamed {c : List Id} {scope : EName → Bool} {name : String} :
    CP d0 c (inScopeNamed scope name) (fun _ => []) := cp_inScopeNamedS


/-- the instances of `in_scope` used by the rules and the adoption agency -/
theorem cp_inScope_elemIn {c : List Id} {scope set : EName → Bool} :
    CP d0 c (inScope scope (fun n => elemIn n set)) (fun _ => []) :=
  cp_inScope (fun _ _ hx _ => cp_elemIn hx)

theorem cp_inScope_sameNodeL {c : List Id} {scope : EName → Bool} {node : Id} (hn : node ∈ c) :
    CP d0 c (inScope scope (fun n => sameNode node n)) (fun _ => []) :=
  cp_inScope (fun _ _ hx hc => cp_sameNode (hc _ hn) hx)

theorem cp_inScope_sameNodeR {c : List Id} {scope : EName → Bool} {node : Id} (hn : node ∈ c) :
    CP d0 c (inScope scope (fun n => sameNode n node)) (fun _ => []) :=
  cp_inScope (fun _ _ hx hc => cp_sameNode hx (hc _ hn))

/-! ### popping -/

theorem cp_popUntilCurrentLoop {c : List Id} {set : EName → Bool} : ∀ (fuel : Nat),
    CP d0 c (popUntilCurrentLoop set fuel) (fun _ => []) := by
  intro fuel
  induction fuel generalizing c with
  | zero => unfold H5V.Model.HtmlTB.popUntilCurrentLoop; exact cp_fuelOut
  | succ fuel ih =>
    unfold H5V.Model.HtmlTB.popUntilCurrentLoop
    refine cp_bind cp_currentNodeIn ?_
    intro b
    refine cp_ite (fun _ => cp_pure_nil _) (fun _ => ?_)
    refine cp_bind cp_popSilently ?_
    intro _
    exact ih

@[cp]
theorem cp_popUntilCurrent {c : List Id} {set : EName → Bool} : CP d0 c (popUntilCurrent set) (fun _ => []) := by
  unfold H5V.Model.HtmlTB.popUntilCurrent
  refine cp_getS_bind ?_
  intro s0
  exact cp_popUntilCurrentLoop _


theorem cp_popUntilLoop {c : List Id} {pred : EName → Bool} : ∀ (fuel n : Nat),
    CP d0 c (popUntilLoop pred fuel n) (fun _ => []) := by
  intro fuel
  induction fuel generalizing c with
  | zero => intro n; unfold H5V.Model.HtmlTB.popUntilLoop; exact cp_fuelOut
  | succ fuel ih =>
    intro n
    unfold H5V.Model.HtmlTB.popUntilLoop
    dsimp only
    refine cp_bind cp_popSilently ?_
    intro r
    cases r with
    | none => exact cp_pure_nil _
    | some elem =>
      dsimp only
      refine cp_bind (cp_elemName (by simp)) ?_
      intro nm'
      exact cp_ite (fun _ => cp_pure_nil _) (fun _ => ih _)

@[cp]
theorem cp_popUntil {c : List Id} {pred : EName → Bool} : CP d0 c (popUntil pred) (fun _ => []) := by
  unfold H5V.Model.HtmlTB.popUntil
  refine cp_getS_bind ?_
  intro s0
  exact cp_popUntilLoop _ _


@[cp]
theorem cp_popUntilNamedS {c : List Id} {name : Str} : CP d0 c (popUntilNamedS name) (fun _ => []) := cp_popUntil


@[cp]
theorem cp_popUntilNamed {c : List Id} {name : String} : CP d0 c (popUntilNamed name) (fun _ => []) := cp_popUntil


@[cp]
theorem cp_expectToCloseS {c : List Id} {name : Str} : CP d0 c (expectToCloseS name) (fun _ => []) := by
  unfold H5V.Model.HtmlTB.expectToCloseS
  refine cp_bind cp_popUntilNamedS ?_
  intro n
  exact cp_ite (fun _ => cp_parseError) (fun _ => cp_pure_nil _)


@[cp]
theorem cp_expectToClose {c : List Id} {name : String} : CP d0 c (expectToClose name) (fun _ => []) :=
  cp_expectToCloseS


@[cp]
theorem cp_closePElement {c : List Id} : CP d0 c closePElement (fun _ => []) := by
  unfold H5V.Model.HtmlTB.closePElement
  exact cp_bind cp_generateImpliedEndTags (fun _ => cp_expectToClose)


@[cp]
theorem cp_closePElementInButtonScope {c : List Id} : CP d0 c closePElementInButtonScope (fun _ => []) := by
  unfold H5V.Model.HtmlTB.closePElementInButtonScope
  refine cp_bind cp_inScopeNamed ?_
  intro b
  exact cp_ite (fun _ => cp_closePElement) (fun _ => cp_pure_nil _)


@[cp]
theorem cp_generateImpliedEndExcept {c : List Id} {except : Str} :
    CP d0 c (generateImpliedEndExcept except) (fun _ => []) := cp_generateImpliedEndTags


theorem cp_checkBodyEndLoop {c : List Id} : ∀ (l : List Id), (∀ x ∈ l, x ∈ c) →
    CP d0 c (checkBodyEndLoop l) (fun _ => []) := by
  intro l
  induction l with
  | nil => intro _; unfold H5V.Model.HtmlTB.checkBodyEndLoop; exact cp_pure_nil _
  | cons e rest ih =>
    intro hl
    unfold H5V.Model.HtmlTB.checkBodyEndLoop
    have he : e ∈ c := hl e List.mem_cons_self
    have ih' := ih (fun x hx => hl x (List.mem_cons_of_mem _ hx))
    refine cp_bind (cp_elemName he) ?_
    intro n
    exact cp_ite (fun _ => cp_ctx_mono ih' (fun x hx => mem_tail hx)) (fun _ => cp_parseError)

@[cp]
theorem cp_checkBodyEnd {c : List Id} : CP d0 c checkBodyEnd (fun _ => []) := by
  unfold H5V.Model.HtmlTB.checkBodyEnd
  refine cp_getS_bind ?_
  intro s0
  exact cp_checkBodyEndLoop _ (fun x hx => mem_open hx)


@[cp]
theorem cp_bodyElem {c : List Id} : CP d0 c bodyElem (fun r => r.toList) := by
  unfold H5V.Model.HtmlTB.bodyElem
  refine cp_getS_bind ?_
  intro s0
  have hnone : CP d0 (stH s0 ++ c) (pure none : M (Option Id)) (fun r => r.toList) :=
    cp_pure none (by intro x hx; cases hx)
  refine cp_ite (fun _ => hnone) (fun _ => ?_)
  cases hn : s0.openElems[1]? with
  | none => exact hnone
  | some node =>
    dsimp only
    have hmem : node ∈ stH s0 ++ c := mem_open (List.mem_of_getElem? hn)
    refine cp_bind (cp_htmlElemNamed hmem) ?_
    intro b
    refine cp_ite (fun _ => ?_) (fun _ => cp_pure none (by intro x hx; cases hx))
    exact cp_pure (some node) (by intro x hx; simp at hx; subst hx; exact mem_tail hmem)


/-! ### `rposition`, `remove_from_stack` -/

theorem cp_rpositionLoop {c : List Id} {p : Id → M Bool}
    (hp : ∀ x, x ∈ c → CP d0 c (p x) (fun _ => [])) :
    ∀ (l : List Id) (len : Nat), (∀ x ∈ l, x ∈ c) → CP d0 c (rpositionLoop p l len) (fun _ => []) := by
  intro l
  induction l with
  | nil => intro _ _; unfold H5V.Model.HtmlTB.rpositionLoop; exact cp_pure_nil _
  | cons e rest ih =>
    intro len hl
    unfold H5V.Model.HtmlTB.rpositionLoop
    have he : e ∈ c := hl e List.mem_cons_self
    have ih' := ih (len - 1) (fun x hx => hl x (List.mem_cons_of_mem _ hx))
    refine cp_bind (hp e he) ?_
    intro b
    exact cp_ite (fun _ => cp_pure_nil _) (fun _ => cp_ctx_mono ih' (fun x hx => mem_tail hx))

theorem cp_rposition {c : List Id} {p : Id → M Bool}
    (hp : ∀ (c' : List Id) (x : Id), x ∈ c' → (∀ y ∈ c, y ∈ c') → CP d0 c' (p x) (fun _ => [])) :
    CP d0 c (rposition p) (fun _ => []) := by
  unfold H5V.Model.HtmlTB.rposition
  refine cp_getS_bind ?_
  intro s0
  dsimp only
  exact cp_rpositionLoop (fun x hx => hp _ x hx (fun y hy => mem_tail hy)) _ _
    (fun x hx => mem_open (List.mem_reverse.mp hx))

macro_rules | `(tactic| cp_leaf) => `(tactic|
  (with_reducible refine cp_rposition ?_) <;> first
    | exact fun _ _ hx hc => cp_sameNode hx (hc _ (by ctx_mem))
    | exact fun _ _ hx hc => cp_sameNode (hc _ (by ctx_mem)) hx)

theorem cp_rposition_sameNodeL {c : List Id} {node : Id} (hn : node ∈ c) :
    CP d0 c (rposition (fun x => sameNode node x)) (fun _ => []) :=
  cp_rposition (fun _ _ hx hc => cp_sameNode (hc _ hn) hx)

theorem cp_rposition_sameNodeR {c : List Id} {node : Id} (hn : node ∈ c) :
    CP d0 c (rposition (fun x => sameNode x node)) (fun _ => []) :=
  cp_rposition (fun _ _ hx hc => cp_sameNode hx (hc _ hn))

/-- `modS` on the stack only, with a sublist of the old stack -/
theorem cp_modS_stack {c : List Id} {g : List Id → List Id} (hg : ∀ l, (g l).Sublist l) :
    CP d0 c (H5V.Model.HtmlTB.modS fun s => { s with openElems := g s.openElems }) (fun _ => []) :=
  cp_modS_shrink (fun _ => rfl) (fun _ => rfl) (fun _ => rfl) (fun s => hg s.openElems)
    (fun _ _ h => h) (fun _ _ h => h) (fun _ _ h => h) (fun _ _ h => h) (fun _ hl => ⟨hl.mode, hl.orig, hl.tm⟩)

@[cp]
theorem cp_removeFromStack {c : List Id} {elem : Id} (he : elem ∈ c) :
    CP d0 c (removeFromStack elem) (fun _ => []) := by
  unfold H5V.Model.HtmlTB.removeFromStack
  refine cp_bind (cp_rposition_sameNodeL he) ?_
  intro r
  cases r with
  | none => exact cp_pure_nil _
  | some pos =>
    dsimp only
    refine cp_bind (R := fun _ => []) (cp_modS_stack (g := fun l => l.eraseIdx pos) (fun l => List.eraseIdx_sublist l pos)) ?_
    intro _
    exact cp_sinkUnit_nt rfl (fun s _ hc => contract_pop (hc elem (mem_tail (mem_tail he))))


/-! ### the list of active formatting elements -/

theorem cp_positionInAFLoop {c : List Id} {element : Id} (he : element ∈ c) :
    ∀ (l : List FormatEntry) (i : Nat), (∀ h t, FormatEntry.element h t ∈ l → h ∈ c) →
    CP d0 c (positionInAFLoop element l i) (fun _ => []) := by
  intro l
  induction l with
  | nil => intro _ _; unfold H5V.Model.HtmlTB.positionInAFLoop; exact cp_pure_nil _
  | cons e rest ih =>
    intro i hl
    have ih' := ih (i + 1) (fun h t hm => hl h t (List.mem_cons_of_mem _ hm))
    cases e with
    | marker => unfold H5V.Model.HtmlTB.positionInAFLoop; exact ih'
    | element h t =>
      unfold H5V.Model.HtmlTB.positionInAFLoop
      refine cp_bind (cp_sameNode (hl h t List.mem_cons_self) he) ?_
      intro b
      exact cp_ite (fun _ => cp_pure_nil _) (fun _ => cp_ctx_mono ih' (fun x hx => mem_tail hx))

@[cp]
theorem cp_positionInActiveFormatting {c : List Id} {element : Id} (he : element ∈ c) :
    CP d0 c (positionInActiveFormatting element) (fun _ => []) := by
  unfold H5V.Model.HtmlTB.positionInActiveFormatting
  refine cp_getS_bind ?_
  intro s0
  exact cp_positionInAFLoop (mem_tail he) _ _ (fun h t hm => mem_afH hm)


/-- the judgement at one state: a field update -/
theorem cpat_modS {s : State} {c : List Id} {f : State → State}
    (h : CB d0 s → CB d0 (f s) ∧ GrowRel s (f s)) : CPat d0 s c (H5V.Model.HtmlTB.modS f) (fun _ => []) :=
  fun hcb _ => satc_modS ⟨(h hcb).1, (h hcb).2, CtxOk.nil _⟩

theorem cpat_ite {s : State} {c : List Id} {α : Type} {p : Prop} [Decidable p] {a b : M α} {R : α → List Id}
    (h1 : p → CPat d0 s c a R) (h2 : ¬p → CPat d0 s c b R) : CPat d0 s c (if p then a else b) R := by
  by_cases hp : p
  · rw [if_pos hp]; exact h1 hp
  · rw [if_neg hp]; exact h2 hp

/-- `setAF af` at a state whose list of active formatting elements contains every element entry of `af` -/
theorem cpat_setAF {s : State} {c : List Id} {af : List FormatEntry}
    (h : ∀ x t, FormatEntry.element x t ∈ af → FormatEntry.element x t ∈ s.activeFormatting) :
    CPat d0 s c (setAF af) (fun _ => []) := by
  unfold H5V.Model.HtmlTB.setAF
  refine cpat_modS (fun hcb => ⟨?_, GrowRel.of_sublist rfl (List.Sublist.refl _)⟩)
  exact hcb.of_shrinkAF rfl rfl rfl (fun _ h => h) h (fun _ h => h) (fun _ h => h) (fun _ h => h)
    (lateS_of_eq hcb.l rfl rfl rfl)

@[cp]
theorem cp_afRemove {c : List Id} {i : Nat} {site : String}
    (hs : TBSafe.infixL "@sink: ".toList ("remove-oob" ++ "@" ++ site ++ ": " ++ "Vec::remove").toList = false := by no_sink) :
    CP d0 c (afRemove i site) (fun _ => []) := by
  unfold H5V.Model.HtmlTB.afRemove
  refine cp_getS_bind_at ?_
  intro s0
  dsimp only
  refine cpat_ite (fun _ => ?_) (fun _ => cp_at (cp_panicAt hs) s0)
  exact cpat_setAF (fun x t hm => List.mem_of_mem_eraseIdx hm)


theorem cp_anySameNodeRev {c : List Id} {node : Id} (hn : node ∈ c) : ∀ (l : List Id), (∀ x ∈ l, x ∈ c) →
    CP d0 c (anySameNodeRev node l) (fun _ => []) := by
  intro l
  induction l with
  | nil => intro _; unfold H5V.Model.HtmlTB.anySameNodeRev; exact cp_pure_nil _
  | cons e rest ih =>
    intro hl
    unfold H5V.Model.HtmlTB.anySameNodeRev
    have ih' := ih (fun x hx => hl x (List.mem_cons_of_mem _ hx))
    refine cp_bind (cp_sameNode (hl e List.mem_cons_self) hn) ?_
    intro b
    exact cp_ite (fun _ => cp_pure_nil _) (fun _ => cp_ctx_mono ih' (fun x hx => mem_tail hx))

theorem cp_isMarkerOrOpen {c : List Id} {e : FormatEntry} (he : ∀ h t, e = FormatEntry.element h t → h ∈ c) :
    CP d0 c (isMarkerOrOpen e) (fun _ => []) := by
  cases e with
  | marker => unfold H5V.Model.HtmlTB.isMarkerOrOpen; exact cp_pure_nil _
  | element node t =>
    unfold H5V.Model.HtmlTB.isMarkerOrOpen
    refine cp_getS_bind ?_
    intro s0
    exact cp_anySameNodeRev (mem_tail (he node t rfl)) _ (fun x hx => mem_open (List.mem_reverse.mp hx))

@[cp]
theorem cp_reconstructRewind {c : List Id} : ∀ (i : Nat), CP d0 c (reconstructRewind i) (fun _ => []) := by
  intro i
  induction i generalizing c with
  | zero => unfold H5V.Model.HtmlTB.reconstructRewind; exact cp_pure_nil _
  | succ i ih =>
    unfold H5V.Model.HtmlTB.reconstructRewind
    refine cp_getS_bind ?_
    intro s0
    cases he : s0.activeFormatting[i]? with
    | none => exact cp_panicAt
    | some e =>
      dsimp only
      refine cp_bind (cp_isMarkerOrOpen ?_) ?_
      · intro h t het
        subst het
        exact mem_afH (List.mem_of_getElem? he)
      · intro b
        exact cp_ite (fun _ => cp_pure_nil _) (fun _ => ih)


theorem mem_clearToMarkerRev {e : FormatEntry} : ∀ {l : List FormatEntry}, e ∈ clearToMarkerRev l → e ∈ l := by
  intro l
  induction l with
  | nil => intro h; simp [clearToMarkerRev] at h
  | cons x rest ih =>
    intro h
    cases x with
    | marker => simp only [clearToMarkerRev] at h; exact List.mem_cons_of_mem _ h
    | element a b => simp only [clearToMarkerRev] at h; exact List.mem_cons_of_mem _ (ih h)

@[cp]
theorem cp_clearActiveFormattingToMarker {c : List Id} : CP d0 c clearActiveFormattingToMarker (fun _ => []) := by
  unfold H5V.Model.HtmlTB.clearActiveFormattingToMarker
  exact cp_modS_shrink (fun _ => rfl) (fun _ => rfl) (fun _ => rfl) (fun _ => List.Sublist.refl _)
    (fun _ e h => List.mem_reverse.mp (mem_clearToMarkerRev (List.mem_reverse.mp h)))
    (fun _ _ h => h) (fun _ _ h => h) (fun _ _ h => h) (fun _ hl => ⟨hl.mode, hl.orig, hl.tm⟩)


/-! ### "any other end tag", searches of the adoption agency -/

@[cp]
theorem cp_endTagSearch {c : List Id} {name : Str} : ∀ (l : List Id) (len : Nat), (∀ x ∈ l, x ∈ c) →
    CP d0 c (endTagSearch name l len) (fun _ => []) := by
  intro l
  induction l with
  | nil => intro _ _; unfold H5V.Model.HtmlTB.endTagSearch; exact cp_pure_nil _
  | cons e rest ih =>
    intro len hl
    unfold H5V.Model.HtmlTB.endTagSearch
    have he : e ∈ c := hl e List.mem_cons_self
    have ih' := ih (len - 1) (fun x hx => hl x (List.mem_cons_of_mem _ hx))
    refine cp_bind (cp_htmlElemNamedS he) ?_
    intro b
    refine cp_ite (fun _ => cp_pure_nil _) (fun _ => ?_)
    refine cp_bind (cp_elemIn (mem_tail he)) ?_
    intro b2
    refine cp_ite (fun _ => ?_) (fun _ => cp_ctx_mono ih' (fun x hx => mem_tail (mem_tail hx)))
    exact cp_bind cp_parseError (fun _ => cp_pure_nil _)


@[cp]
theorem cp_findFurthestBlock {c : List Id} : ∀ (l : List Id) (i : Nat), (∀ x ∈ l, x ∈ c) →
    CP d0 c (findFurthestBlock l i) (fun r => (r.map Prod.snd).toList) := by
  intro l
  induction l with
  | nil =>
    intro _ _; unfold H5V.Model.HtmlTB.findFurthestBlock
    exact cp_pure none (by intro x hx; cases hx)
  | cons e rest ih =>
    intro i hl
    unfold H5V.Model.HtmlTB.findFurthestBlock
    have he : e ∈ c := hl e List.mem_cons_self
    have ih' := ih (i + 1) (fun x hx => hl x (List.mem_cons_of_mem _ hx))
    refine cp_bind (cp_elemIn he) ?_
    intro b
    refine cp_ite (fun _ => ?_) (fun _ => cp_ctx_mono ih' (fun x hx => mem_tail hx))
    exact cp_pure (some (i, e)) (by intro x hx; simp at hx; subst hx; exact mem_tail he)


@[cp]
theorem cp_positionSameNode {c : List Id} {x : Id} (hx : x ∈ c) : ∀ (l : List Id) (i : Nat), (∀ y ∈ l, y ∈ c) →
    CP d0 c (positionSameNode x l i) (fun _ => []) := by
  intro l
  induction l with
  | nil => intro _ _; unfold H5V.Model.HtmlTB.positionSameNode; exact cp_pure_nil _
  | cons e rest ih =>
    intro i hl
    unfold H5V.Model.HtmlTB.positionSameNode
    have ih' := ih (i + 1) (fun y hy => hl y (List.mem_cons_of_mem _ hy))
    refine cp_bind (cp_sameNode (hl e List.mem_cons_self) hx) ?_
    intro b
    exact cp_ite (fun _ => cp_pure_nil _) (fun _ => cp_ctx_mono ih' (fun y hy => mem_tail hy))


theorem cp_findAInAF {c : List Id} : ∀ (l : List (Nat × Id × Tag)), (∀ e ∈ l, e.2.1 ∈ c) →
    CP d0 c (findAInAF l) (fun r => r.toList) := by
  intro l
  induction l with
  | nil =>
    intro _; unfold H5V.Model.HtmlTB.findAInAF
    exact cp_pure none (by intro x hx; cases hx)
  | cons e rest ih =>
    intro hl
    obtain ⟨i, n, t⟩ := e
    unfold H5V.Model.HtmlTB.findAInAF
    have hn : n ∈ c := hl (i, n, t) List.mem_cons_self
    have ih' := ih (fun y hy => hl y (List.mem_cons_of_mem _ hy))
    refine cp_bind (cp_htmlElemNamed hn) ?_
    intro b
    refine cp_ite (fun _ => ?_) (fun _ => cp_ctx_mono ih' (fun y hy => mem_tail hy))
    exact cp_pure (some n) (by intro x hx; simp at hx; subst hx; exact mem_tail hn)

theorem mem_afEndToMarkerAux {i : Nat} {h : Id} {t : Tag} : ∀ {l : List (FormatEntry × Nat)},
    (i, h, t) ∈ afEndToMarkerAux l → (FormatEntry.element h t, i) ∈ l := by
  intro l
  induction l with
  | nil => intro hm; simp [afEndToMarkerAux] at hm
  | cons x rest ih =>
    intro hm
    obtain ⟨e, k⟩ := x
    cases e with
    | marker => simp [afEndToMarkerAux] at hm
    | element h' t' =>
      simp only [afEndToMarkerAux] at hm
      rcases List.mem_cons.mp hm with hm | hm
      · cases hm; exact List.mem_cons_self
      · exact List.mem_cons_of_mem _ (ih hm)

/-- the entries `active_formatting_end_to_marker` visits are entries of the list -/
theorem mem_afEndToMarker {i : Nat} {h : Id} {t : Tag} {af : List FormatEntry}
    (hm : (i, h, t) ∈ afEndToMarker af) : af[i]? = some (.element h t) ∧ FormatEntry.element h t ∈ af := by
  unfold afEndToMarker at hm
  have := mem_afEndToMarkerAux hm
  rw [List.mem_reverse] at this
  obtain ⟨_, h2, h3⟩ := List.mem_zipIdx this
  simp only [Nat.zero_add, Nat.sub_zero] at h2 h3
  have hg : af[i]? = some (.element h t) := by rw [List.getElem?_eq_getElem h2, ← h3]
  exact ⟨hg, List.mem_of_getElem? hg⟩

/-- `find_a_in_af` on the list it is called with -/
@[cp]
theorem cp_findAInAF_state {c : List Id} {s0 : State} :
    CP d0 (stH s0 ++ c) (findAInAF (afEndToMarker s0.activeFormatting)) (fun r => r.toList) := by
  refine cp_findAInAF _ ?_
  rintro ⟨i, n, t⟩ he
  exact mem_afH (mem_afEndToMarker he).2


/-! ### cells, foreign content -/

@[cp]
theorem cp_closeTheCell {c : List Id} : CP d0 c closeTheCell (fun _ => []) := by
  unfold H5V.Model.HtmlTB.closeTheCell
  refine cp_bind cp_generateImpliedEndTags ?_
  intro _
  refine cp_bind cp_popUntil ?_
  intro n
  dsimp only
  exact cp_ite (fun _ => cp_bind cp_parseError (fun _ => cp_clearActiveFormattingToMarker))
    (fun _ => cp_clearActiveFormattingToMarker)


@[cp]
theorem cp_isForeign {c : List Id} {token : Token} : CP d0 c (isForeign token) (fun _ => []) := by
  unfold H5V.Model.HtmlTB.isForeign
  refine cp_ite (fun _ => cp_pure_nil _) (fun _ => ?_)
  refine cp_getS_bind ?_
  intro s0
  refine cp_ite (fun _ => cp_pure_nil _) (fun _ => ?_)
  refine cp_bind cp_adjustedCurrentNode ?_
  intro current
  refine cp_bind (cp_elemName (by simp)) ?_
  intro name
  refine cp_ite (fun _ => cp_pure_nil _) (fun _ => ?_)
  dsimp only
  have hq : ∀ (c' : List Id), CP d0 c' (do
      let cur ← adjustedCurrentNode
      pure (!(← sinkBool (.isMathmlAnnotationXmlIntegrationPoint cur))) : M Bool) (fun _ => []) := by
    intro c'
    refine cp_bind cp_adjustedCurrentNode ?_
    intro cur
    refine cp_bind (cp_isMathmlIP (by simp)) ?_
    intro b
    exact cp_pure_nil _
  refine cp_ite (fun _ => cp_pure_nil _) (fun _ => ?_)
  refine cp_ite (fun _ => cp_pure_nil _) (fun _ => ?_)
  refine cp_ite (fun _ => ?_) (fun _ => cp_pure_nil _)
  cases token with
  | tag tg =>
    dsimp only
    by_cases hk : (tg.kind == H5V.Model.HtmlTok.TagKind.startTag) = true
    · simp only [hk, if_true]
      exact cp_ite (fun _ => cp_pure_nil _) (fun _ => hq _)
    · simp only [hk]
      exact cp_pure_nil _
  | comment s => exact cp_pure_nil _
  | chars st s => exact hq _
  | nullChar => exact hq _
  | eof => exact cp_pure_nil _


@[cp]
theorem cp_popToIntegrationPointLoop {c : List Id} : ∀ (fuel : Nat),
    CP d0 c (popToIntegrationPointLoop fuel) (fun _ => []) := by
  intro fuel
  induction fuel generalizing c with
  | zero => unfold H5V.Model.HtmlTB.popToIntegrationPointLoop; exact cp_fuelOut
  | succ fuel ih =>
    unfold H5V.Model.HtmlTB.popToIntegrationPointLoop
    have hjp : ∀ (c' : List Id) (stop : Bool), CP d0 c' (if stop = true then pure ()
        else do
          let _ ← pop
          popToIntegrationPointLoop fuel : M Unit) (fun _ => []) := by
      intro c' stop
      refine cp_ite (fun _ => cp_pure_nil _) (fun _ => ?_)
      refine cp_bind cp_pop ?_
      intro _
      exact ih
    refine cp_bind cp_currentNodeIn ?_
    intro b
    dsimp only
    refine cp_ite (fun _ => ?_) (fun _ => ?_)
    · refine cp_bind (cp_pure_nil _) ?_
      intro stop
      exact hjp _ stop
    · refine cp_bind cp_currentNode ?_
      intro cur
      refine cp_bind (cp_isMathmlIP (by simp)) ?_
      intro stop
      exact hjp _ stop


/-! ### `reset_insertion_mode`: the result is never Initial -/

theorem satc_resetLoop : ∀ (l : List Id) (len : Nat) (s : State), CB d0 s → CtxOk l s →
    SatC (resetLoop l len) s (fun m s' => CB d0 s' ∧ GrowRel s s' ∧ m ≠ .initial) := by
  intro l
  induction l with
  | nil =>
    intro len s hcb _
    unfold H5V.Model.HtmlTB.resetLoop
    exact satc_pure ⟨hcb, GrowRel.refl s, by decide⟩
  | cons node rest ih =>
    intro len s hcb hc
    unfold H5V.Model.HtmlTB.resetLoop
    refine satc_getS_bind ?_
    dsimp only
    have hrest : ∀ (last : Bool) (nd : Id), IsEl s.dom nd →
        SatC (do
          let n ← elemName nd
          if (n.ns != nsHtml) = true then resetLoop rest (len - 1)
            else
              if (isOneOf n.loc ["td", "th"] && !last) = true then pure Mode.inCell
              else
                if isName n.loc "tr" = true then pure Mode.inRow
                else
                  if isOneOf n.loc ["tbody", "thead", "tfoot"] = true then pure Mode.inTableBody
                  else
                    if isName n.loc "caption" = true then pure Mode.inCaption
                    else
                      if isName n.loc "colgroup" = true then pure Mode.inColumnGroup
                      else
                        if isName n.loc "table" = true then pure Mode.inTable
                        else
                          if isName n.loc "template" = true then
                            match s.templateModes.getLast? with
                            | some m => pure m
                            | none => panicAt "unwrap-none" "mod.rs:1294" "template_modes.last().unwrap()"
                          else
                            if isName n.loc "head" = true then
                              if (!last) = true then pure Mode.inHead else resetLoop rest (len - 1)
                            else
                              if isName n.loc "body" = true then pure Mode.inBody
                              else
                                if isName n.loc "frameset" = true then pure Mode.inFrameset
                                else
                                  if isName n.loc "html" = true then
                                    match s.headElem with
                                    | none => pure Mode.beforeHead
                                    | some val => pure Mode.afterHead
                                  else resetLoop rest (len - 1)) s
          (fun m s' => CB d0 s' ∧ GrowRel s s' ∧ m ≠ .initial) := by
      intro last nd hel
      have hnd : CtxOk [nd] s := by
        intro x hx; rw [List.mem_singleton.mp hx]; exact hel
      refine SatC.bind (cp_elemName (d0 := d0) (c := [nd]) (List.mem_singleton.mpr rfl) s hcb hnd) ?_
      rintro n s1 ⟨hcb1, hg1, _⟩
      have hcont : SatC (resetLoop rest (len - 1)) s1 (fun m s' => CB d0 s' ∧ GrowRel s s' ∧ m ≠ .initial) := by
        refine (ih (len - 1) s1 hcb1 ?_).mono (fun m s2 h => ⟨h.1, hg1.trans h.2.1, h.2.2⟩)
        intro x hx
        exact (hc x (List.mem_cons_of_mem _ hx)).ext hg1.ext
      have hret : ∀ (m : Mode), m ≠ .initial →
          SatC (pure m : M Mode) s1 (fun m s' => CB d0 s' ∧ GrowRel s s' ∧ m ≠ .initial) :=
        fun m hm => satc_pure ⟨hcb1, hg1, hm⟩
      refine satc_ite (fun _ => hcont) (fun _ => ?_)
      refine satc_ite (fun _ => hret _ (by decide)) (fun _ => ?_)
      refine satc_ite (fun _ => hret _ (by decide)) (fun _ => ?_)
      refine satc_ite (fun _ => hret _ (by decide)) (fun _ => ?_)
      refine satc_ite (fun _ => hret _ (by decide)) (fun _ => ?_)
      refine satc_ite (fun _ => hret _ (by decide)) (fun _ => ?_)
      refine satc_ite (fun _ => hret _ (by decide)) (fun _ => ?_)
      refine satc_ite (fun _ => ?_) (fun _ => ?_)
      · cases ht : s.templateModes.getLast? with
        | none => exact satc_panicAt
        | some m =>
          refine hret m ?_
          intro hm
          subst hm
          exact hcb.l.tm (List.mem_of_getLast? ht)
      refine satc_ite (fun _ => ?_) (fun _ => ?_)
      · exact satc_ite (fun _ => hret _ (by decide)) (fun _ => hcont)
      refine satc_ite (fun _ => hret _ (by decide)) (fun _ => ?_)
      refine satc_ite (fun _ => hret _ (by decide)) (fun _ => ?_)
      refine satc_ite (fun _ => ?_) (fun _ => hcont)
      cases s.headElem with
      | none => exact hret _ (by decide)
      | some _ => exact hret _ (by decide)
    have hnode : IsEl s.dom node := hc node List.mem_cons_self
    cases hlast : (len - 1 == 0) with
    | false => exact hrest false node hnode
    | true =>
      cases hctx : s.contextElem with
      | none => exact hrest true node hnode
      | some ctx => exact hrest true ctx (hcb.h.ctx ctx hctx)

theorem satc_resetInsertionMode (s : State) (hcb : CB d0 s) :
    SatC resetInsertionMode s (fun m s' => CB d0 s' ∧ GrowRel s s' ∧ m ≠ .initial) := by
  unfold H5V.Model.HtmlTB.resetInsertionMode
  refine satc_getS_bind ?_
  dsimp only
  exact satc_resetLoop _ _ s hcb (fun x hx => hcb.h.open_el x (List.mem_reverse.mp hx))

/-- `let m ← reset_insertion_mode(); k m`: the continuation may assume a late mode -/
theorem cp_reset_bind {c : List Id} {β : Type} {f : Mode → M β} {R : β → List Id}
    (h : ∀ m, m ≠ .initial → CP d0 c (f m) R) : CP d0 c (resetInsertionMode >>= f) R := by
  intro s hcb hc
  refine (satc_resetInsertionMode s hcb).bind ?_
  rintro m s1 ⟨hcb1, hg1, hm⟩
  refine (h m hm s1 hcb1 (hc.ext hg1.ext)).mono ?_
  rintro b s2 ⟨hcb2, hg2, hr2⟩
  exact ⟨hcb2, hg1.trans hg2, hr2⟩

/-- `self.mode.set(self.reset_insertion_mode())` -/
theorem cp_resetThenSetMode {c : List Id} : CP d0 c (resetInsertionMode >>= fun m => setMode m) (fun _ => []) :=
  cp_reset_bind (fun _ hm => cp_setMode hm)

theorem cp_resetInsertionMode {c : List Id} : CP d0 c resetInsertionMode (fun _ => []) :=
  fun s hcb _ => (satc_resetInsertionMode s hcb).mono (fun _ _ h => ⟨h.1, h.2.1, CtxOk.nil _⟩)

macro_rules | `(tactic| cp_bind_step) => `(tactic| with_reducible refine cp_reset_bind (fun _ _ => ?_))

/-! ### helpers of `rules.rs` -/

@[cp]
theorem cp_listCloseSearch {c : List Id} {list : Bool} : ∀ (l : List Id), (∀ x ∈ l, x ∈ c) →
    CP d0 c (listCloseSearch list l) (fun _ => []) := by
  intro l
  induction l with
  | nil => intro _; unfold H5V.Model.HtmlTB.listCloseSearch; exact cp_pure_nil _
  | cons e rest ih =>
    intro hl
    unfold H5V.Model.HtmlTB.listCloseSearch
    have ih' := ih (fun x hx => hl x (List.mem_cons_of_mem _ hx))
    refine cp_bind (cp_elemName (hl e List.mem_cons_self)) ?_
    intro n
    dsimp only
    refine cp_ite (fun _ => cp_pure_nil _) (fun _ => ?_)
    exact cp_ite (fun _ => cp_pure_nil _) (fun _ => cp_ctx_mono ih' (fun x hx => mem_tail hx))

/-- `list_close_search` on (a part of) the stack that was read -/
theorem cp_listCloseSearch_state {c : List Id} {list : Bool} {s0 : State} :
    CP d0 (stH s0 ++ c) (listCloseSearch list s0.openElems.reverse) (fun _ => []) :=
  cp_listCloseSearch _ (fun _ hx => mem_open (List.mem_reverse.mp hx))


@[cp]
theorem cp_findOption {c : List Id} : ∀ (l : List Id), (∀ x ∈ l, x ∈ c) →
    CP d0 c (findOption l) (fun r => r.toList) := by
  intro l
  induction l with
  | nil =>
    intro _; unfold H5V.Model.HtmlTB.findOption
    exact cp_pure none (by intro x hx; cases hx)
  | cons e rest ih =>
    intro hl
    unfold H5V.Model.HtmlTB.findOption
    have he : e ∈ c := hl e List.mem_cons_self
    have ih' := ih (fun x hx => hl x (List.mem_cons_of_mem _ hx))
    refine cp_bind (cp_htmlElemNamed he) ?_
    intro b
    refine cp_ite (fun _ => ?_) (fun _ => cp_ctx_mono ih' (fun x hx => mem_tail hx))
    exact cp_pure (some e) (by intro x hx; simp at hx; subst hx; exact mem_tail he)

theorem cp_findOption_state {c : List Id} {s0 : State} :
    CP d0 (stH s0 ++ c) (findOption s0.openElems) (fun r => r.toList) :=
  cp_findOption _ (fun _ hx => mem_open hx)


@[cp]
theorem cp_anySameNode {c : List Id} {x : Id} (hx : x ∈ c) : ∀ (l : List Id), (∀ y ∈ l, y ∈ c) →
    CP d0 c (anySameNode x l) (fun _ => []) := by
  intro l
  induction l with
  | nil => intro _; unfold H5V.Model.HtmlTB.anySameNode; exact cp_pure_nil _
  | cons e rest ih =>
    intro hl
    unfold H5V.Model.HtmlTB.anySameNode
    have ih' := ih (fun y hy => hl y (List.mem_cons_of_mem _ hy))
    refine cp_bind (cp_sameNode (hl e List.mem_cons_self) hx) ?_
    intro b
    exact cp_ite (fun _ => cp_pure_nil _) (fun _ => cp_ctx_mono ih' (fun y hy => mem_tail hy))

theorem cp_anySameNode_state {c : List Id} {x : Id} {s0 : State} (hx : x ∈ stH s0 ++ c) :
    CP d0 (stH s0 ++ c) (anySameNode x s0.openElems) (fun _ => []) :=
  cp_anySameNode hx _ (fun _ hy => mem_open hy)


@[cp]
theorem cp_contextIsSelect {c : List Id} {site : String}
    (hs : TBSafe.infixL "@sink: ".toList ("unwrap-none" ++ "@" ++ site ++ ": " ++ "context_elem unwrap").toList = false := by no_sink) :
    CP d0 c (contextIsSelect site) (fun _ => []) := by
  unfold H5V.Model.HtmlTB.contextIsSelect
  refine cp_bind cp_isFragment ?_
  intro b
  refine cp_ite (fun _ => ?_) (fun _ => cp_pure_nil _)
  refine cp_getS_bind ?_
  intro s0
  cases hc : s0.contextElem with
  | none => exact cp_panicAt hs
  | some ctx => exact cp_htmlElemNamed (mem_ctxElem hc)


theorem contract_addAttrs {d : Dom} {t : Id} {attrs : List Attr} (hi : IsEl d t)
    (ha : H5V.Model.Dom.Dom.attrKeysNodup attrs = true) : Contract d (.addAttrsIfMissing t attrs) := by
  show (d.isElement t && H5V.Model.Dom.Dom.attrKeysNodup attrs) = true
  rw [isElement_of_isEl hi, ha]; rfl

@[cp]
theorem cp_inBodyHtml {c : List Id} {tag : Tag} (ha : H5V.Model.Dom.Dom.attrKeysNodup tag.attrs = true) :
    CP d0 c (inBodyHtml tag) (fun _ => []) := by
  unfold H5V.Model.HtmlTB.inBodyHtml
  refine cp_bind cp_unexpected ?_
  intro _
  refine cp_bind cp_inHtmlElemNamed ?_
  intro b
  dsimp only
  refine cp_ite (fun _ => ?_) (fun _ => cp_pure_nil _)
  refine cp_bind cp_htmlElemFn ?_
  intro top
  refine cp_bind (R := fun _ => []) ?_ (fun _ => cp_pure_nil _)
  exact cp_sinkUnit_nt rfl (fun s _ hc => contract_addAttrs (hc top (by simp)) ha)


/-- `TokenSink::end`: pop every element of the (former) stack -/
@[cp]
theorem cp_endLoop {c : List Id} : ∀ (l : List Id), (∀ x ∈ l, x ∈ c) → CP d0 c (endLoop l) (fun _ => []) := by
  intro l
  induction l with
  | nil => intro _; unfold H5V.Model.HtmlTB.endLoop; exact cp_pure_nil _
  | cons e rest ih =>
    intro hl
    unfold H5V.Model.HtmlTB.endLoop
    have ih' := ih (fun y hy => hl y (List.mem_cons_of_mem _ hy))
    refine cp_bind (R := fun _ => [])
      (cp_sinkUnit_nt rfl (fun s _ hc => contract_pop (hc e (hl e List.mem_cons_self)))) ?_
    intro _
    exact cp_ctx_mono ih' (fun y hy => mem_tail hy)


@[cp]
theorem cp_processEndTagInBody {c : List Id} {tag : Tag} : CP d0 c (processEndTagInBody tag) (fun _ => []) := by
  unfold H5V.Model.HtmlTB.processEndTagInBody
  refine cp_getS_bind ?_
  intro s0
  dsimp only
  refine cp_bind (cp_endTagSearch _ _ (fun x hx => mem_open (List.mem_reverse.mp hx))) ?_
  intro r
  cases r with
  | none => exact cp_pure_nil _
  | some r1 =>
    cases r1 with
    | none =>
      dsimp only
      exact cp_bind cp_unexpected (fun _ => cp_pure_nil _)
    | some matchIdx =>
      dsimp only
      refine cp_bind cp_generateImpliedEndExcept ?_
      intro _
      refine cp_getS_bind ?_
      intro s1
      refine cp_ite (fun _ => cp_panicAt) (fun _ => ?_)
      have htk : ∀ (c' : List Id), CP d0 c'
          (H5V.Model.HtmlTB.modS fun s => { s with openElems := s.openElems.take matchIdx }) (fun _ => []) :=
        fun _ => cp_modS_stack (g := fun l => l.take matchIdx) (fun l => List.take_sublist _ l)
      exact cp_ite (fun _ => cp_bind cp_unexpected (fun _ => htk _)) (fun _ => htk _)


@[cp]
theorem cp_setTemplateMode {c : List Id} {m : Mode} (hm : m ≠ .initial) :
    CP d0 c (setTemplateMode m) (fun _ => []) := by
  unfold H5V.Model.HtmlTB.setTemplateMode
  refine cp_modS_shrink (fun _ => rfl) (fun _ => rfl) (fun _ => rfl) (fun _ => List.Sublist.refl _)
    (fun _ _ h => h) (fun _ _ h => h) (fun _ _ h => h) (fun _ _ h => h) (fun s hl => ⟨hl.mode, hl.orig, ?_⟩)
  intro hmem
  rcases List.mem_append.mp hmem with h | h
  · exact hl.tm (List.dropLast_subset _ h)
  · exact hm (List.mem_singleton.mp h).symm


end H5V.Lemmas.TBC
