import H5V.Lemmas.HtmlTBContractPrim
/-!
# TreeSink contract for the HTML tree builder: inserting a fresh node or text (DOM side)

`insert_at(point, child)` issues `append`, `append_before_sibling` or `append_based_on_parent_node`.
For a child that is text or a *fresh* node (insertable, parentless, childless) the call is inside the
contract as soon as the insertion point is valid (`IpValid`), and its effect on the parent pointers is
`InsEff`: nothing changes but the parent of the inserted node (or of one new text node).
-/
namespace H5V.Lemmas.TBC
open H5V.Model.HtmlTB
open H5V.Model.Dom (Id QualName Attr NodeOrText SinkOp Output ElementFlags QuirksMode Dom NodeData Node Contract)
open H5V.Lemmas.Dom
open H5V.Props.C20 (Inv Run)

/-- a node the builder has created and not inserted yet -/
structure FreshNode (d : Dom) (r : Id) : Prop where
  ins : d.isInsertable r = true
  par : d.parentOf r = none
  kids : d.childrenOf r = []

/-- the sink call `insert_at` makes -/
def ipOp : InsertionPoint → NodeOrText → SinkOp
  | .lastChild parent, child => .append parent child
  | .beforeSibling sibling, child => .appendBeforeSibling sibling child
  | .tableFosterParenting element prev, child => .appendBasedOnParentNode element prev child

theorem insertAt_eq (p : InsertionPoint) (child : NodeOrText) :
    H5V.Model.HtmlTB.insertAt p child = sinkUnit (ipOp p child) := by
  cases p <;> rfl

/-- a usable insertion point: the parent is a container; foster parenting names two elements -/
def IpValid (d : Dom) : InsertionPoint → Prop
  | .lastChild p => d.isContainer p = true
  | .beforeSibling _ => False
  | .tableFosterParenting e pe => d.isElement e = true ∧ d.isElement pe = true

/-- the handles an insertion point mentions -/
def ipIds : InsertionPoint → List Id
  | .lastChild p => [p]
  | .beforeSibling sb => [sb]
  | .tableFosterParenting e pe => [e, pe]

theorem isContainer_of_isElement {d : Dom} {x : Id} (h : d.isElement x = true) : d.isContainer x = true := by
  unfold Dom.isElement at h
  unfold Dom.isContainer
  cases hd : d.dataOf x with
  | none => rw [hd] at h; cases h
  | some v => rw [hd] at h; cases v <;> simp at h ⊢

theorem isInsertable_of_isElement {d : Dom} {x : Id} (h : d.isElement x = true) : d.isInsertable x = true := by
  unfold Dom.isElement at h
  unfold Dom.isInsertable
  cases hd : d.dataOf x with
  | none => rw [hd] at h; cases h
  | some v => rw [hd] at h; cases v <;> simp at h ⊢

/-- a fresh node is an ancestor-or-self of nothing but itself -/
theorem not_anc_of_fresh {d : Dom} (hw : WF d) {r p : Id} (hr : FreshNode d r) (hne : r ≠ p) (hp : p < d.size) :
    d.isAncOrSelf r p = false := by
  cases h : d.isAncOrSelf r p with
  | false => rfl
  | true =>
    have := anc_eq_of_no_children hw hr.kids ((isAncOrSelf_iff hw hp).mp h)
    exact absurd this hne

theorem childOk_fresh {d : Dom} (hw : WF d) {r p : Id} {mp : Bool} (hr : FreshNode d r) (hne : r ≠ p)
    (hp : p < d.size) : d.childOk p mp (.node r) = true := by
  simp only [Dom.childOk, Bool.and_eq_true, Bool.not_eq_true', Bool.or_eq_true]
  exact ⟨⟨hr.ins, Or.inr (by rw [hr.par]; rfl)⟩, not_anc_of_fresh hw hr hne hp⟩

/-- the child of an insertion by the helpers of this file: text, or a fresh node different from the
handles of the insertion point -/
inductive ChildFresh (d : Dom) (ip : InsertionPoint) : NodeOrText → Prop
  | text (t : Str) : ChildFresh d ip (.text t)
  | node (r : Id) : FreshNode d r → (∀ x ∈ ipIds ip, x ≠ r) → ChildFresh d ip (.node r)

/-- **inserting text or a fresh node at a valid insertion point is inside the contract** -/
theorem contract_ipOp {d : Dom} (hi : Inv d) {ip : InsertionPoint} {child : NodeOrText} (hv : IpValid d ip)
    (hc : ChildFresh d ip child) : Contract d (ipOp ip child) := by
  cases ip with
  | beforeSibling sb => exact absurd hv id
  | lastChild p =>
    show d.contractAppend p child = true
    simp only [Dom.contractAppend, Bool.and_eq_true]
    refine ⟨hv, ?_⟩
    cases hc with
    | text t => rfl
    | node r hr hne =>
      exact childOk_fresh hi.wf hr (fun e => hne p (by simp [ipIds]) e.symm) (lt_of_isContainer hv)
  | tableFosterParenting e pe =>
    obtain ⟨he, hpe⟩ := hv
    show (d.isElement e && d.isElement pe &&
      (if (d.parentOf e).isSome then d.contractAppendBeforeSibling e child else d.contractAppend pe child)) = true
    rw [he, hpe]
    simp only [Bool.true_and]
    cases hpar : d.parentOf e with
    | none =>
      simp only [Option.isSome_none, Bool.false_eq_true, if_false, Dom.contractAppend, Bool.and_eq_true]
      refine ⟨isContainer_of_isElement hpe, ?_⟩
      cases hc with
      | text t => rfl
      | node r hr hne =>
        exact childOk_fresh hi.wf hr (fun e' => hne pe (by simp [ipIds]) e'.symm) (lt_of_isElement hpe)
    | some P =>
      simp only [Option.isSome_some, if_true, Dom.contractAppendBeforeSibling, hpar, Bool.and_eq_true]
      have hPc : d.isContainer P = true := hi.kinds.parentContainer e P hpar
      refine ⟨isInsertable_of_isElement he, ⟨hPc, ?_⟩, ?_⟩
      · cases hc with
        | text t => rfl
        | node r hr hne =>
          refine childOk_fresh hi.wf hr ?_ (lt_of_isContainer hPc)
          rintro rfl
          -- `r` would have the child `e`
          have := (hi.wf.links e r).mp hpar
          rw [hr.kids] at this; cases this
      · cases hc with
        | text t => simp
        | node r hr hne =>
          have : r ≠ e := fun e' => hne e (by simp [ipIds]) e'.symm
          simp [this]

/-- the parent the inserted node gets -/
def ipParent (d : Dom) : InsertionPoint → Option Id
  | .lastChild p => some p
  | .beforeSibling sb => d.parentOf sb
  | .tableFosterParenting e pe => match d.parentOf e with | some P => some P | none => some pe

/-- what an insertion of a parentless node `r` does to the parent pointers -/
structure NodeEff (d d' : Dom) (r P : Id) : Prop where
  size : d'.size = d.size
  par : ∀ x, d'.parentOf x = if x = r then some P else d.parentOf x
  plt : P < d.size

/-- what an insertion of text does to the parent pointers: nothing, or one new node under `P` -/
def TextEff (d d' : Dom) (P : Id) : Prop :=
  (d'.size = d.size ∧ ∀ x, d'.parentOf x = d.parentOf x) ∨
  (d'.size = d.size + 1 ∧ P < d.size ∧ ∀ x, d'.parentOf x = if x = d.size then some P else d.parentOf x)

theorem apply_append_inv {d d' : Dom} {p : Id} {c : NodeOrText} {out : Output}
    (h : d.apply (.append p c) = .ok (d', out)) : d.append p c = .ok d' := by
  have h' : d.applyV Dom.cloneVariant Dom.beforeSiblingVariant (.append p c) = .ok (d', out) := h
  simp only [Dom.applyV, bind, Except.bind] at h'
  cases ha : d.append p c with
  | error e => simp [ha] at h'
  | ok d1 => simp [ha] at h'; rw [h'.1]

theorem apply_abopn_inv {d d' : Dom} {e p : Id} {c : NodeOrText} {out : Output}
    (h : d.apply (.appendBasedOnParentNode e p c) = .ok (d', out)) :
    d.appendBasedOnParentNodeV .detachFirst e p c = .ok d' := by
  have h' : d.applyV Dom.cloneVariant Dom.beforeSiblingVariant (.appendBasedOnParentNode e p c) = .ok (d', out) := h
  simp only [Dom.applyV, bind, Except.bind] at h'
  cases ha : d.appendBasedOnParentNodeV Dom.beforeSiblingVariant e p c with
  | error e => simp [ha] at h'
  | ok d1 => simp [ha] at h'; rw [← h'.1]; exact ha

theorem nodeEff_append {d d' : Dom} {p r : Id} (hne : p ≠ r) (h : d.append p (.node r) = .ok d') :
    NodeEff d d' r p := by
  rw [append_node_eq] at h
  obtain ⟨cn, pn, _, _, hpn, hp, _, _, hs, _⟩ := appendRaw_ok h hne
  exact ⟨hs, hp, node?_lt hpn⟩

theorem textEff_append {d d' : Dom} {p : Id} {t : Str} (h : d.append p (.text t) = .ok d') :
    TextEff d d' p := by
  obtain ⟨hp, h1 | h2⟩ := append_text_ok h
  · obtain ⟨_, _, _, _, hsh, _, hs⟩ := h1
    exact Or.inl ⟨hs, hsh.parent⟩
  · obtain ⟨hp', _, _, hs, _⟩ := allocAppend_ok hp h2.2
    exact Or.inr ⟨hs, hp, hp'⟩

theorem nodeEff_beforeSibling {d d' : Dom} {e r P : Id} (hpar : d.parentOf e = some P) (hrp : d.parentOf r = none)
    (h : d.appendBeforeSiblingV .detachFirst e (.node r) = .ok d') : NodeEff d d' r P := by
  rcases appendBeforeSiblingV_ok h with h1 | ⟨c, d1, he, hr, h2⟩
  · obtain ⟨P', i, hp', _, hPlt, hm⟩ := appendBeforeSibling_ok h1
    rw [hpar] at hp'; cases hp'
    obtain ⟨d1, hr, _, _, _, hp, _, _, hs, _⟩ := insertAtIndex_ok hm
    rcases removeFromParent_ok hr with ⟨_, hd1⟩ | ⟨_, _, hpr, _⟩
    · subst hd1; exact ⟨hs, hp, hPlt⟩
    · rw [hrp] at hpr; cases hpr
  · cases he
    rcases removeFromParent_ok hr with ⟨_, hd1⟩ | ⟨_, _, hpr, _⟩
    · subst hd1
      obtain ⟨P', i, hp', _, hPlt, hm⟩ := appendBeforeSibling_ok h2
      rw [hpar] at hp'; cases hp'
      obtain ⟨d2, hr2, _, _, _, hp, _, _, hs, _⟩ := insertAtIndex_ok hm
      rcases removeFromParent_ok hr2 with ⟨_, hd2⟩ | ⟨_, _, hpr, _⟩
      · subst hd2; exact ⟨hs, hp, hPlt⟩
      · rw [hrp] at hpr; cases hpr
    · rw [hrp] at hpr; cases hpr

theorem textEff_beforeSibling {d d' : Dom} {e P : Id} {t : Str} (hpar : d.parentOf e = some P)
    (h : d.appendBeforeSiblingV .detachFirst e (.text t) = .ok d') : TextEff d d' P := by
  rw [appendBeforeSiblingV_text] at h
  obtain ⟨P', i, hp', _, hPlt, hm⟩ := appendBeforeSibling_ok h
  rw [hpar] at hp'; cases hp'
  rcases hm with ⟨prev, old, _, _, _, hsh, _, hs⟩ | ⟨_, h2⟩
  · exact Or.inl ⟨hs, hsh.parent⟩
  · obtain ⟨_, hp, _, _, hs, _⟩ := insertAtIndex_fresh_ok h2
    exact Or.inr ⟨hs, hPlt, hp⟩

/-- what `insert_at` at a valid insertion point amounts to: `append` under a node of the insertion point, or
`append_before_sibling` in front of the `table` element, which has a parent -/
theorem ipOp_inv {d d' : Dom} {ip : InsertionPoint} {child : NodeOrText} {out : Output} (hv : IpValid d ip)
    (h : d.apply (ipOp ip child) = .ok (d', out)) :
    ∃ P, ipParent d ip = some P ∧ ((P ∈ ipIds ip ∧ d.append P child = .ok d') ∨
      ∃ e, d.parentOf e = some P ∧ d.appendBeforeSiblingV .detachFirst e child = .ok d') := by
  cases ip with
  | beforeSibling sb => exact absurd hv id
  | lastChild p => exact ⟨p, rfl, Or.inl ⟨by simp [ipIds], apply_append_inv h⟩⟩
  | tableFosterParenting e pe =>
    have := appendBasedOnParentNodeV_eq (apply_abopn_inv h) (lt_of_isElement hv.1)
    cases hpar : d.parentOf e with
    | none =>
      rw [hpar] at this
      simp only [Option.isSome_none, Bool.false_eq_true, if_false] at this
      exact ⟨pe, by simp [ipParent, hpar], Or.inl ⟨by simp [ipIds], this.symm⟩⟩
    | some P =>
      rw [hpar] at this
      simp only [Option.isSome_some, if_true] at this
      exact ⟨P, by simp [ipParent, hpar], Or.inr ⟨e, hpar, this.symm⟩⟩

/-- **effect of inserting a parentless node** -/
theorem nodeEff_ipOp {d d' : Dom} {ip : InsertionPoint} {r : Id} {out : Output} (hv : IpValid d ip)
    (hrp : d.parentOf r = none) (hne : ∀ x ∈ ipIds ip, x ≠ r)
    (h : d.apply (ipOp ip (.node r)) = .ok (d', out)) : ∃ P, ipParent d ip = some P ∧ NodeEff d d' r P := by
  obtain ⟨P, hP, ⟨hm, ha⟩ | ⟨e, hpar, hb⟩⟩ := ipOp_inv hv h
  · exact ⟨P, hP, nodeEff_append (hne P hm) ha⟩
  · exact ⟨P, hP, nodeEff_beforeSibling hpar hrp hb⟩

/-- **effect of inserting text** -/
theorem textEff_ipOp {d d' : Dom} {ip : InsertionPoint} {t : Str} {out : Output} (hv : IpValid d ip)
    (h : d.apply (ipOp ip (.text t)) = .ok (d', out)) : ∃ P, ipParent d ip = some P ∧ TextEff d d' P := by
  obtain ⟨P, hP, ⟨-, ha⟩ | ⟨e, hpar, hb⟩⟩ := ipOp_inv hv h
  · exact ⟨P, hP, textEff_append ha⟩
  · exact ⟨P, hP, textEff_beforeSibling hpar hb⟩

end H5V.Lemmas.TBC
