import H5V.Lemmas.HtmlParseSpecShift
import H5V.Lemmas.HtmlJointChunkReplay
/-!
**The joint driver (tokenizer model with the tree-builder model as its sink, `out` emptied after
every step, the policy `polOf j` of the current tree-builder state, Script / EncodingIndicator pauses resumed
at once) is a run of the tokenizer model ALONE under a pause-free history policy `pol'`** whose `out` register
accumulates everything delivered — provided `pol'` answers like the tree builder at the (few) points where the
run really consults it (`Agrees`: after the histories that are suffixes of the final one).

This is what connects `C03`'s joint loop (`JRunsTo`) to `C01_model_eq_spec` (a theorem about `HtmlTok.feed` /
`HtmlTok.finish` under a history policy).  The work is done by `step_shift` (naturality of `Tokenizer::step` in
the `out` register, `H5V.Lemmas.HtmlParseSpecShift`).
-/
namespace H5V.Lemmas.ParseSpec
open H5V.Model.HtmlTok (Mach Pol SinkRes R Out Sig Str Tag Token step ofSig applySinkRes emit clr NoPause fuelFor feedBom)
open H5V.Model.HtmlTB (processToken adjustedCurrentNodeForeign finishTB)
open H5V.Model.HtmlTB.Joint (JState absorb polOf conv convTag toSinkRes)
open H5V.Lemmas.JointChunk

/-! ### the tree builder's two answers -/

/-- a pause is "Continue" for a tokenizer whose pauses are resumed at once -/
def np : SinkRes → SinkRes
  | .script => .continue_
  | .indicator => .continue_
  | r => r

/-- the answer of the tree builder in joint state `j` to a tag token (as `polOf` computes it) -/
def tbTag (j : JState) (tag : Tag) : SinkRes :=
  match (processToken (.tag (convTag tag)) 1).run j.tb with
  | .error _ => .continue_
  | .ok (r, _) => toSinkRes r

/-- its answer to the CDATA question -/
def tbCdata (j : JState) : Bool :=
  match adjustedCurrentNodeForeign.run j.tb with
  | .error _ => false
  | .ok (b, _) => b

theorem polOf_onTag (j : JState) (out : Out) (tag : Tag) :
    (polOf j).onTag out tag = match absorb out.reverse j with | .error _ => .continue_ | .ok j' => tbTag j' tag := by
  unfold polOf tbTag
  dsimp only
  cases absorb out.reverse j <;> rfl

theorem polOf_cdataOk (j : JState) (out : Out) :
    (polOf j).cdataOk out = match absorb out.reverse j with | .error _ => false | .ok j' => tbCdata j' := by
  unfold polOf tbCdata
  dsimp only
  cases absorb out.reverse j <;> rfl

/-! ### `absorb` -/

theorem absorb_append : ∀ (a b : List (Token × Nat)) (j : JState),
    absorb (a ++ b) j = match absorb a j with | .error e => .error e | .ok j1 => absorb b j1
  | [], b, j => rfl
  | (t, line) :: a, b, j => by
    rw [List.cons_append, absorb_cons, absorb_cons]
    cases conv t with
    | none => exact absorb_append a b j
    | some tt =>
      simp only
      cases (processToken tt line).run j.tb with
      | error e => rfl
      | ok v =>
        obtain ⟨r, tb⟩ := v
        simp only
        split
        · rfl
        · exact absorb_append a b _

theorem absorb_append_ok {a b : List (Token × Nat)} {j j2 : JState} (h : absorb (a ++ b) j = .ok j2) :
    ∃ j1, absorb a j = .ok j1 ∧ absorb b j1 = .ok j2 := by
  rw [absorb_append] at h
  cases ha : absorb a j with
  | error e => rw [ha] at h; cases h
  | ok j1 => rw [ha] at h; exact ⟨j1, rfl, h⟩

theorem absorb_pause (b : Bool) (l : Nat) (j : JState) : absorb [(Token.pause b, l)] j = .ok j := by
  rw [absorb_cons]; rfl

/-! ### what `pol'` has to satisfy -/

/-- after the history `X` (the `out` of the tokenizer-only run) `pol'` answers a tag like the tree builder that
has absorbed `X`, pauses read as "Continue" -/
def AgT (pol' : Pol) (j0 : JState) (X : Out) (tag : Tag) : Prop :=
  ∀ jx, absorb X.reverse j0 = .ok jx → pol'.onTag X tag = np (tbTag jx tag)

def AgC (pol' : Pol) (j0 : JState) (X : Out) : Prop :=
  ∀ jx, absorb X.reverse j0 = .ok jx → pol'.cdataOk X = tbCdata jx

/-- `pol'` agrees with the tree builder on the histories in `P` (a suffix-closed set: the histories the run
passes through): on a tag whenever the tag is the next token, on the CDATA question always -/
structure Agrees (pol' : Pol) (j0 : JState) (P : Out → Prop) : Prop where
  suf : ∀ Y X, P (Y ++ X) → P X
  tag : ∀ X tag l, P ((Token.tag tag, l) :: X) → AgT pol' j0 X tag
  cdata : ∀ X, P X → AgC pol' j0 X

/-! ### one step -/

/-- the result of the tokenizer-only step that corresponds to a result of the joint step: pauses continue -/
def starR (r : R) (M : Mach) : R :=
  match r with
  | .cont _ i => .cont M i
  | .suspend _ i => .suspend M i
  | .script _ i => .cont M i
  | .indicator _ i => .cont M i
  | .panic e => .panic e

/-- what a joint step adds to the history: its `out` without the pause marker -/
def stepOut (r : R) (m1 : Mach) : Out := if r.isPause then m1.out.tail else m1.out

theorem sh_clr (pre : Out) (m : Mach) : sh (m.out ++ pre) (clr m) = sh pre m := rfl

theorem sh_nil_of {m : Mach} (h : m.out = []) : sh [] m = m := by
  cases m
  simp only at h
  subst h
  rfl

theorem applySinkRes_np_sh (pre : Out) (m : Mach) (r : SinkRes) (h : r ≠ .script ∧ r ≠ .indicator) :
    applySinkRes (sh pre m) r = shMS pre (applySinkRes m r) := by
  cases r with
  | continue_ => rfl
  | plaintext => rfl
  | rawData k => rfl
  | script => exact absurd rfl h.1
  | indicator => exact absurd rfl h.2

theorem joint_step_star {o : TOpts} {pol' : Pol} (hnp : NoPause pol') {j0 : JState} {m : Mach} {inp : Str}
    {j j1 : JState} {H : Out} (hm : m.out = []) (hH : absorb H.reverse j0 = .ok j) {m1 : Mach} {i1 : Str}
    (hs : (step o (polOf j) m inp).pair? = some (m1, i1)) (ha : absorb m1.out.reverse j = .ok j1) :
    absorb (stepOut (step o (polOf j) m inp) m1 ++ H).reverse j0 = .ok j1 ∧
    ((step o (polOf j) m inp).isPause = true → m1.state = .data ∧ m1.charRef = none ∧ m1.reconsume = false) ∧
    ∀ P, Agrees pol' j0 P → P (stepOut (step o (polOf j) m inp) m1 ++ H) →
      step o pol' (sh H m) inp =
        starR (step o (polOf j) m inp) (sh (stepOut (step o (polOf j) m inp) m1 ++ H) (clr m1)) := by
  -- a pausing step goes through the tag branch
  have hpause : (step o (polOf j) m inp).isPause = true →
      ∃ (q : Mach) (tag : Tag) (i : Str), q.state = .data ∧ q.charRef = none ∧ q.reconsume = false ∧
        step o (polOf j) m inp = ofSig (applySinkRes (emit q (.tag tag)) ((polOf j).onTag q.out tag)) i := by
    intro hp
    let pol0 : Pol := ⟨fun _ _ => .continue_, fun _ => (polOf j).cdataOk m.out⟩
    have hp0 : NoPause pol0 := fun _ _ => ⟨by simp [pol0], by simp [pol0]⟩
    rcases step_shift' o (polOf j) pol0 [] m inp rfl with h1 | ⟨q, tag, i, h1, h2, h3, h4, _⟩
    · have := H5V.Model.HtmlTok.step_noPause o pol0 hp0 (sh [] m) inp
      rw [h1] at this
      cases hr : step o (polOf j) m inp <;> rw [hr] at hp this <;> simp [shR, R.isPause] at hp this
    · exact ⟨q, tag, i, h1, h2, h3, h4⟩
  -- the history after the step
  have hhist : absorb (stepOut (step o (polOf j) m inp) m1 ++ H).reverse j0 = .ok j1 := by
    rw [List.reverse_append, absorb_append, hH]
    simp only
    unfold stepOut
    by_cases hp : (step o (polOf j) m inp).isPause = true
    · rw [if_pos hp]
      obtain ⟨q, tag, i, _, _, _, he⟩ := hpause hp
      rw [he] at hs hp
      -- the last token of `m1.out` is the pause marker
      generalize (polOf j).onTag q.out tag = r at hs hp
      cases r with
      | continue_ => simp [applySinkRes, ofSig, R.isPause] at hp
      | plaintext => simp [applySinkRes, ofSig, R.isPause] at hp
      | rawData k => simp [applySinkRes, ofSig, R.isPause] at hp
      | script =>
        simp only [applySinkRes, ofSig, R.pair?, Option.some.injEq, Prod.mk.injEq] at hs
        obtain ⟨rfl, _⟩ := hs
        have e : (emit (H5V.Model.HtmlTok.to .data (emit q (.tag tag))) (.pause true)).out =
            (Token.pause true, (H5V.Model.HtmlTok.to .data (emit q (.tag tag))).line) ::
              (emit q (.tag tag)).out := rfl
        rw [e, List.reverse_cons] at ha
        obtain ⟨jx, h1, h2⟩ := absorb_append_ok ha
        rw [absorb_pause] at h2
        cases h2
        rw [e, List.tail_cons]
        exact h1
      | indicator =>
        simp only [applySinkRes, ofSig, R.pair?, Option.some.injEq, Prod.mk.injEq] at hs
        obtain ⟨rfl, _⟩ := hs
        have e : (emit (emit q (.tag tag)) (.pause false)).out =
            (Token.pause false, (emit q (.tag tag)).line) :: (emit q (.tag tag)).out := rfl
        rw [e, List.reverse_cons] at ha
        obtain ⟨jx, h1, h2⟩ := absorb_append_ok ha
        rw [absorb_pause] at h2
        cases h2
        rw [e, List.tail_cons]
        exact h1
    · rw [if_neg hp]; exact ha
  refine ⟨hhist, ?_, ?_⟩
  · intro hp
    obtain ⟨q, tag, i, h1, h2, h3, he⟩ := hpause hp
    rw [he] at hs hp
    generalize (polOf j).onTag q.out tag = r at hs hp
    cases r with
    | continue_ => simp [applySinkRes, ofSig, R.isPause] at hp
    | plaintext => simp [applySinkRes, ofSig, R.isPause] at hp
    | rawData k => simp [applySinkRes, ofSig, R.isPause] at hp
    | script =>
      simp only [applySinkRes, ofSig, R.pair?, Option.some.injEq, Prod.mk.injEq] at hs
      obtain ⟨rfl, _⟩ := hs
      exact ⟨rfl, h2, h3⟩
    | indicator =>
      simp only [applySinkRes, ofSig, R.pair?, Option.some.injEq, Prod.mk.injEq] at hs
      obtain ⟨rfl, _⟩ := hs
      exact ⟨h1, h2, h3⟩
  · intro P hP hPH
    have hPH0 : P H := hP.suf _ _ hPH
    have hc : pol'.cdataOk (m.out ++ H) = (polOf j).cdataOk m.out := by
      rw [hm, List.nil_append, polOf_cdataOk]
      show _ = match absorb ([] : Out) j with | .error _ => false | .ok j' => tbCdata j'
      exact hP.cdata H hPH0 j hH
    rcases step_shift' o (polOf j) pol' H m inp hc with h1 | ⟨q, tag, i, hq1, hq2, hq3, he, he'⟩
    · -- no tag: the shifted step is the shift of the step, which does not pause
      have hnpz := H5V.Model.HtmlTok.step_noPause o pol' hnp (sh H m) inp
      rw [h1] at hnpz ⊢
      cases hr : step o (polOf j) m inp with
      | cont a b =>
        rw [hr] at hs
        simp only [R.pair?, Option.some.injEq, Prod.mk.injEq] at hs
        obtain ⟨rfl, rfl⟩ := hs
        simp only [shR, starR, stepOut, R.isPause, Bool.false_eq_true, if_false]
        rw [sh_clr]
      | suspend a b =>
        rw [hr] at hs
        simp only [R.pair?, Option.some.injEq, Prod.mk.injEq] at hs
        obtain ⟨rfl, rfl⟩ := hs
        simp only [shR, starR, stepOut, R.isPause, Bool.false_eq_true, if_false]
        rw [sh_clr]
      | script a b => rw [hr] at hnpz; simp [shR, R.isPause] at hnpz
      | indicator a b => rw [hr] at hnpz; simp [shR, R.isPause] at hnpz
      | panic e => rw [hr] at hs; simp [R.pair?] at hs
    · -- the step emits the tag `tag` from `q`
      rw [he']
      rw [he] at hs hPH ⊢
      -- the tree builder has absorbed what the step emitted before the tag
      have hq : ∃ jq, absorb q.out.reverse j = .ok jq := by
        generalize (polOf j).onTag q.out tag = r at hs
        have key : ∀ mm : Mach, (∃ pre, mm.out = pre ++ q.out) → absorb mm.out.reverse j = .ok j1 →
            ∃ jq, absorb q.out.reverse j = .ok jq := by
          intro mm ⟨pre, hpre⟩ hab
          rw [hpre, List.reverse_append] at hab
          obtain ⟨jq, h1, _⟩ := absorb_append_ok hab
          exact ⟨jq, h1⟩
        cases r with
        | continue_ =>
          simp only [applySinkRes, ofSig, R.pair?, Option.some.injEq, Prod.mk.injEq] at hs
          obtain ⟨rfl, _⟩ := hs
          exact key _ ⟨[_], rfl⟩ ha
        | plaintext =>
          simp only [applySinkRes, ofSig, R.pair?, Option.some.injEq, Prod.mk.injEq] at hs
          obtain ⟨rfl, _⟩ := hs
          exact key _ ⟨[_], rfl⟩ ha
        | rawData k =>
          simp only [applySinkRes, ofSig, R.pair?, Option.some.injEq, Prod.mk.injEq] at hs
          obtain ⟨rfl, _⟩ := hs
          exact key _ ⟨[_], rfl⟩ ha
        | script =>
          simp only [applySinkRes, ofSig, R.pair?, Option.some.injEq, Prod.mk.injEq] at hs
          obtain ⟨rfl, _⟩ := hs
          exact key _ ⟨[_, _], rfl⟩ ha
        | indicator =>
          simp only [applySinkRes, ofSig, R.pair?, Option.some.injEq, Prod.mk.injEq] at hs
          obtain ⟨rfl, _⟩ := hs
          exact key _ ⟨[_, _], rfl⟩ ha
      obtain ⟨jq, hjq⟩ := hq
      have hjq0 : absorb (q.out ++ H).reverse j0 = .ok jq := by
        rw [List.reverse_append, absorb_append, hH]; exact hjq
      have hr : (polOf j).onTag q.out tag = tbTag jq tag := by rw [polOf_onTag, hjq]
      rw [hr] at hs hPH ⊢
      -- the shape of the history after the step
      have hPtag : P ((Token.tag tag, q.line) :: (q.out ++ H)) := by
        generalize tbTag jq tag = r at hs hPH
        cases r with
        | continue_ =>
          simp only [applySinkRes, ofSig, R.pair?, Option.some.injEq, Prod.mk.injEq] at hs
          obtain ⟨rfl, _⟩ := hs
          simpa [stepOut, applySinkRes, ofSig, R.isPause, emit] using hPH
        | plaintext =>
          simp only [applySinkRes, ofSig, R.pair?, Option.some.injEq, Prod.mk.injEq] at hs
          obtain ⟨rfl, _⟩ := hs
          simpa [stepOut, applySinkRes, ofSig, R.isPause, emit, H5V.Model.HtmlTok.to] using hPH
        | rawData k =>
          simp only [applySinkRes, ofSig, R.pair?, Option.some.injEq, Prod.mk.injEq] at hs
          obtain ⟨rfl, _⟩ := hs
          simpa [stepOut, applySinkRes, ofSig, R.isPause, emit, H5V.Model.HtmlTok.to] using hPH
        | script =>
          simp only [applySinkRes, ofSig, R.pair?, Option.some.injEq, Prod.mk.injEq] at hs
          obtain ⟨rfl, _⟩ := hs
          simpa [stepOut, applySinkRes, ofSig, R.isPause, emit, H5V.Model.HtmlTok.to] using hPH
        | indicator =>
          simp only [applySinkRes, ofSig, R.pair?, Option.some.injEq, Prod.mk.injEq] at hs
          obtain ⟨rfl, _⟩ := hs
          simpa [stepOut, applySinkRes, ofSig, R.isPause, emit] using hPH
      have hag := hP.tag (q.out ++ H) tag q.line hPtag jq hjq0
      rw [hag]
      generalize tbTag jq tag = r at hs hPH
      cases r with
      | continue_ =>
        simp only [applySinkRes, ofSig, R.pair?, Option.some.injEq, Prod.mk.injEq] at hs
        obtain ⟨rfl, rfl⟩ := hs
        rfl
      | plaintext =>
        simp only [applySinkRes, ofSig, R.pair?, Option.some.injEq, Prod.mk.injEq] at hs
        obtain ⟨rfl, rfl⟩ := hs
        rfl
      | rawData k =>
        simp only [applySinkRes, ofSig, R.pair?, Option.some.injEq, Prod.mk.injEq] at hs
        obtain ⟨rfl, rfl⟩ := hs
        rfl
      | script =>
        simp only [applySinkRes, ofSig, R.pair?, Option.some.injEq, Prod.mk.injEq] at hs
        obtain ⟨rfl, rfl⟩ := hs
        simp only [np, applySinkRes, ofSig, starR, stepOut, R.isPause, if_true]
        congr 1
        cases q
        simp only at hq1
        subst hq1
        rfl
      | indicator =>
        simp only [applySinkRes, ofSig, R.pair?, Option.some.injEq, Prod.mk.injEq] at hs
        obtain ⟨rfl, rfl⟩ := hs
        rfl

/-! ### runs -/

/-- the loop of `Tokenizer::run` under one policy, without fuel: `Continue` steps, then a suspension that leaves
no input -/
inductive TRunsTo (o : TOpts) (pol : Pol) : Mach → Str → Mach → Prop
  | susp {m inp m1} : step o pol m inp = .suspend m1 [] → TRunsTo o pol m inp m1
  | cont {m inp m1 i1 m'} : step o pol m inp = .cont m1 i1 → TRunsTo o pol m1 i1 m' → TRunsTo o pol m inp m'

theorem TRunsTo.run {o : TOpts} {pol : Pol} {m : Mach} {inp : Str} {m' : Mach} (h : TRunsTo o pol m inp m') :
    ∀ fuel, H5V.Model.HtmlTok.run o pol fuel m inp = .outOfFuel ∨ H5V.Model.HtmlTok.run o pol fuel m inp = .done m' [] := by
  induction h with
  | susp hs =>
    intro fuel
    cases fuel with
    | zero => exact Or.inl rfl
    | succ n => right; unfold H5V.Model.HtmlTok.run; rw [hs]
  | cont hs _ ih =>
    intro fuel
    cases fuel with
    | zero => exact Or.inl rfl
    | succ n => unfold H5V.Model.HtmlTok.run; rw [hs]; exact ih n

/-- in the data state, with nothing pending and no input, the tokenizer just suspends -/
theorem step_idle (o : TOpts) (pol : Pol) (M : Mach) (h1 : M.state = .data) (h2 : M.charRef = none)
    (h3 : M.reconsume = false) : step o pol M [] = .suspend M [] := by
  have hrd : H5V.Model.HtmlTok.readData o M [] = (none, M, []) := by
    unfold H5V.Model.HtmlTok.readData H5V.Model.HtmlTok.popExceptFrom H5V.Model.HtmlTok.getChar
    simp only [h3]
    by_cases hc : (o.exactErrors || false || M.ignoreLf) = true
    · simp only [hc, if_true, Bool.false_eq_true, if_false, Option.map_none]
    · simp only [hc, Bool.false_eq_true, if_false]
  unfold step
  rw [h2]
  simp only [h1, H5V.Model.HtmlTok.readKind, hrd]

/-- `JRunsTo` with what the run delivers: `D` is the log of the delivered tokens (newest first, pause markers
left out) -/
inductive JRunsD (o : TOpts) : Mach → Str → JState → Mach → JState → Out → Prop
  | susp {m inp j m1 j1} : step o (polOf j) m inp = .suspend m1 [] → absorb m1.out.reverse j = .ok j1 →
      JRunsD o m inp j (clr m1) j1 (stepOut (step o (polOf j) m inp) m1)
  | cont {m inp j m1 i1 j1 m' j' D} : step o (polOf j) m inp = .cont m1 i1 → absorb m1.out.reverse j = .ok j1 →
      JRunsD o (clr m1) i1 j1 m' j' D → JRunsD o m inp j m' j' (D ++ stepOut (step o (polOf j) m inp) m1)
  | script {m inp j m1 i1 j1 m' j' D} : step o (polOf j) m inp = .script m1 i1 → absorb m1.out.reverse j = .ok j1 →
      i1 ≠ [] → JRunsD o (clr m1) i1 j1 m' j' D → JRunsD o m inp j m' j' (D ++ stepOut (step o (polOf j) m inp) m1)
  | scriptEnd {m inp j m1 j1} : step o (polOf j) m inp = .script m1 [] → absorb m1.out.reverse j = .ok j1 →
      JRunsD o m inp j (clr m1) j1 (stepOut (step o (polOf j) m inp) m1)
  | indicator {m inp j m1 i1 j1 m' j' D} : step o (polOf j) m inp = .indicator m1 i1 →
      absorb m1.out.reverse j = .ok j1 → i1 ≠ [] → JRunsD o (clr m1) i1 j1 m' j' D →
      JRunsD o m inp j m' j' (D ++ stepOut (step o (polOf j) m inp) m1)
  | indicatorEnd {m inp j m1 j1} : step o (polOf j) m inp = .indicator m1 [] → absorb m1.out.reverse j = .ok j1 →
      JRunsD o m inp j (clr m1) j1 (stepOut (step o (polOf j) m inp) m1)

theorem jrunsD_of_jrunsTo {o : TOpts} {m : Mach} {inp : Str} {j : JState} {m' : Mach} {j' : JState}
    (h : JRunsTo o m inp j m' j') : ∃ D, JRunsD o m inp j m' j' D := by
  induction h with
  | susp hs ha => exact ⟨_, JRunsD.susp hs ha⟩
  | cont hs ha _ ih => obtain ⟨D, hD⟩ := ih; exact ⟨_, JRunsD.cont hs ha hD⟩
  | script hs ha hne _ ih => obtain ⟨D, hD⟩ := ih; exact ⟨_, JRunsD.script hs ha hne hD⟩
  | scriptEnd hs ha => exact ⟨_, JRunsD.scriptEnd hs ha⟩
  | indicator hs ha hne _ ih => obtain ⟨D, hD⟩ := ih; exact ⟨_, JRunsD.indicator hs ha hne hD⟩
  | indicatorEnd hs ha => exact ⟨_, JRunsD.indicatorEnd hs ha⟩

/-- a policy that never pauses (used where only the policy-independent part of `joint_step_star` is needed) -/
def polTriv : Pol := ⟨fun _ _ => .continue_, fun _ => false⟩
theorem noPause_polTriv : NoPause polTriv := fun _ _ => ⟨by simp [polTriv], by simp [polTriv]⟩

/-- **the joint loop as a tokenizer-only run**: the history after the run is `D ++ H` -/
theorem jruns_star {o : TOpts} {j0 : JState} {m : Mach} {inp : Str} {j : JState}
    {m' : Mach} {j' : JState} {D : Out} (h : JRunsD o m inp j m' j' D) :
    m.out = [] → ∀ H, absorb H.reverse j0 = .ok j →
    absorb (D ++ H).reverse j0 = .ok j' ∧ m'.out = [] ∧
      ∀ pol', NoPause pol' → ∀ P, Agrees pol' j0 P → P (D ++ H) → TRunsTo o pol' (sh H m) inp (sh (D ++ H) m') := by
  induction h with
  | @susp m inp j m1 j1 hs ha =>
    intro hm H hH
    obtain ⟨h1, _, _⟩ := joint_step_star (pol' := polTriv) noPause_polTriv hm hH (m1 := m1) (i1 := []) (by rw [hs]; rfl) ha
    refine ⟨h1, rfl, fun pol' hnp P hP hPH => ?_⟩
    have := (joint_step_star (pol' := pol') hnp hm hH (m1 := m1) (i1 := []) (by rw [hs]; rfl) ha).2.2 P hP hPH
    rw [hs] at this ⊢
    exact TRunsTo.susp this
  | @cont m inp j m1 i1 j1 m' j' D hs ha _ ih =>
    intro hm H hH
    obtain ⟨h1, _, _⟩ := joint_step_star (pol' := polTriv) noPause_polTriv hm hH (m1 := m1) (i1 := i1) (by rw [hs]; rfl) ha
    obtain ⟨g1, g3, g4⟩ := ih rfl _ h1
    rw [← List.append_assoc] at g1 g4
    refine ⟨g1, g3, fun pol' hnp P hP hPH => ?_⟩
    have hP1 : P (stepOut (step o (polOf j) m inp) m1 ++ H) := hP.suf D _ (by rw [← List.append_assoc]; exact hPH)
    have := (joint_step_star (pol' := pol') hnp hm hH (m1 := m1) (i1 := i1) (by rw [hs]; rfl) ha).2.2 P hP hP1
    rw [hs] at this hPH g4 ⊢
    exact TRunsTo.cont this (g4 pol' hnp P hP hPH)
  | @script m inp j m1 i1 j1 m' j' D hs ha _ _ ih =>
    intro hm H hH
    obtain ⟨h1, _, _⟩ := joint_step_star (pol' := polTriv) noPause_polTriv hm hH (m1 := m1) (i1 := i1) (by rw [hs]; rfl) ha
    obtain ⟨g1, g3, g4⟩ := ih rfl _ h1
    rw [← List.append_assoc] at g1 g4
    refine ⟨g1, g3, fun pol' hnp P hP hPH => ?_⟩
    have hP1 : P (stepOut (step o (polOf j) m inp) m1 ++ H) := hP.suf D _ (by rw [← List.append_assoc]; exact hPH)
    have := (joint_step_star (pol' := pol') hnp hm hH (m1 := m1) (i1 := i1) (by rw [hs]; rfl) ha).2.2 P hP hP1
    rw [hs] at this hPH g4 ⊢
    exact TRunsTo.cont this (g4 pol' hnp P hP hPH)
  | @scriptEnd m inp j m1 j1 hs ha =>
    intro hm H hH
    obtain ⟨h1, h2, _⟩ := joint_step_star (pol' := polTriv) noPause_polTriv hm hH (m1 := m1) (i1 := []) (by rw [hs]; rfl) ha
    refine ⟨h1, rfl, fun pol' hnp P hP hPH => ?_⟩
    have := (joint_step_star (pol' := pol') hnp hm hH (m1 := m1) (i1 := []) (by rw [hs]; rfl) ha).2.2 P hP hPH
    obtain ⟨e1, e2, e3⟩ := h2 (by rw [hs]; rfl)
    rw [hs] at this ⊢
    exact TRunsTo.cont this (TRunsTo.susp (step_idle o pol' _ e1 e2 e3))
  | @indicator m inp j m1 i1 j1 m' j' D hs ha _ _ ih =>
    intro hm H hH
    obtain ⟨h1, _, _⟩ := joint_step_star (pol' := polTriv) noPause_polTriv hm hH (m1 := m1) (i1 := i1) (by rw [hs]; rfl) ha
    obtain ⟨g1, g3, g4⟩ := ih rfl _ h1
    rw [← List.append_assoc] at g1 g4
    refine ⟨g1, g3, fun pol' hnp P hP hPH => ?_⟩
    have hP1 : P (stepOut (step o (polOf j) m inp) m1 ++ H) := hP.suf D _ (by rw [← List.append_assoc]; exact hPH)
    have := (joint_step_star (pol' := pol') hnp hm hH (m1 := m1) (i1 := i1) (by rw [hs]; rfl) ha).2.2 P hP hP1
    rw [hs] at this hPH g4 ⊢
    exact TRunsTo.cont this (g4 pol' hnp P hP hPH)
  | @indicatorEnd m inp j m1 j1 hs ha =>
    intro hm H hH
    obtain ⟨h1, h2, _⟩ := joint_step_star (pol' := polTriv) noPause_polTriv hm hH (m1 := m1) (i1 := []) (by rw [hs]; rfl) ha
    refine ⟨h1, rfl, fun pol' hnp P hP hPH => ?_⟩
    have := (joint_step_star (pol' := pol') hnp hm hH (m1 := m1) (i1 := []) (by rw [hs]; rfl) ha).2.2 P hP hPH
    obtain ⟨e1, e2, e3⟩ := h2 (by rw [hs]; rfl)
    rw [hs] at this ⊢
    exact TRunsTo.cont this (TRunsTo.susp (step_idle o pol' _ e1 e2 e3))

end H5V.Lemmas.ParseSpec
