import H5V.Lemmas.HtmlParseSpecRawFam
import H5V.Lemmas.HtmlParseSpecTextMode
import H5V.Lemmas.HtmlParseSpecHist
/-!
**The "text" insertion mode protocol is a FACT about the joint run** (`textAlong_of_parse`).

`Respects2` asks that while the tree builder is in the "text" insertion mode only character tokens, end tags, EOF
and parse errors arrive.  Here this is proved for the token stream of every successful joint parse, from
* the tokenizer side (`H5V.Lemmas.HtmlParseSpecRawFam`): from a raw-text family state, or inside an end tag
  (`TextSt`), a step only delivers character tokens, parse errors and at most one END tag, and stays in such a state
  unless it delivered the tag; a step delivers at most one tag, as its last token;
* the tree-builder side (`H5V.Lemmas.HtmlParseSpecTextMode`): the "text" mode is only entered by a tag token that is
  answered `RawData k` (which sends the tokenizer to the raw state `k`), and an end tag leaves it;
* the joint invariant `tb.mode = .text → TextSt m` at the step boundaries of the joint loop.
-/
namespace H5V.Lemmas.ParseSpec
open H5V.Model.HtmlTB
open H5V.Lemmas.TBSafe (TI)
open H5V.Model.HtmlTB.Joint (JState absorb polOf conv convTag toSinkRes)
open H5V.Lemmas.JointChunk
open H5V.Props.C03 (GoodS)
open H5V.Model.HtmlTok (Mach Out step clr ofSig applySinkRes emit)

abbrev TTk := H5V.Model.HtmlTok.Token

/-- the "text" clause of `TokTokOk` -/
def TextOkTok (s : State) (t : TokToken) : Prop :=
  s.mode = .text → (∃ x, t = .chars x) ∨ t = .eof ∨ (∃ tg, t = .tag tg ∧ tg.kind = .endTag) ∨ (∃ e, t = .parseError e)

/-- the clause along the model's run -/
def TextAlong : State → List (TokToken × Nat) → Prop
  | _, [] => True
  | s, (t, line) :: rest => TextOkTok s t ∧ ∀ r s', (processToken t line).run s = .ok (r, s') → TextAlong s' rest

/-- the tree builder goes from `s` to `s'` over the tokens -/
inductive TbRuns : State → List (TokToken × Nat) → State → Prop
  | nil (s : State) : TbRuns s [] s
  | cons {s s1 s' : State} {t : TokToken} {l : Nat} {r : SinkResult} {rest : List (TokToken × Nat)} :
      (processToken t l).run s = .ok (r, s1) → TbRuns s1 rest s' → TbRuns s ((t, l) :: rest) s'

theorem TbRuns.append {s s1 s2 : State} {p q : List (TokToken × Nat)} (h1 : TbRuns s p s1) (h2 : TbRuns s1 q s2) :
    TbRuns s (p ++ q) s2 := by
  induction h1 with
  | nil => exact h2
  | cons hr _ ih => exact TbRuns.cons hr (ih h2)

theorem textAlong_append : ∀ (p q : List (TokToken × Nat)) (s : State), TextAlong s p →
    (∀ s', TbRuns s p s' → TextAlong s' q) → TextAlong s (p ++ q)
  | [], _, s, _, h => h s (TbRuns.nil s)
  | (_, _) :: p, q, _, hp, h =>
    ⟨hp.1, fun r s1 hr => textAlong_append p q s1 (hp.2 r s1 hr) (fun s' hrun => h s' (TbRuns.cons hr hrun))⟩

/-- `absorb` as a `TbRuns` -/
theorem absorb_tbRuns : ∀ (toks : List (TTk × Nat)) (j j' : JState), absorb toks j = .ok j' →
    TbRuns j.tb (convAll toks) j'.tb
  | [], j, j', h => by cases h; exact TbRuns.nil _
  | (t, line) :: rest, j, j', h => by
    rw [absorb_cons] at h
    rw [convAll_cons]
    cases hc : conv t with
    | none => rw [hc] at h; exact absorb_tbRuns rest j j' h
    | some tt =>
      rw [hc] at h
      simp only at h
      cases hp : (processToken tt line).run j.tb with
      | error e => rw [hp] at h; cases h
      | ok v =>
        obtain ⟨r, tb⟩ := v
        rw [hp] at h
        simp only at h
        by_cases hcnd : (!isTagT tt && r != .continue_) = true
        · rw [if_pos hcnd] at h; cases h
        · rw [if_neg hcnd] at h
          exact TbRuns.cons hp (absorb_tbRuns rest _ j' h)

theorem TbRuns.det {s s1 s2 : State} {p : List (TokToken × Nat)} (h1 : TbRuns s p s1) (h2 : TbRuns s p s2) : s1 = s2 := by
  induction h1 with
  | nil => cases h2; rfl
  | cons hr _ ih =>
    cases h2 with
    | cons hr' h2' =>
      rw [hr] at hr'
      cases hr'
      exact ih h2'

/-- the invariants `TI` and `GoodS` along a run -/
theorem TbRuns.inv {s s' : State} {p : List (TokToken × Nat)} (h : TbRuns s p s') (ht : TI s) (hg : GoodS s) :
    TI s' ∧ GoodS s' := by
  induction h with
  | nil => exact ⟨ht, hg⟩
  | @cons s s1 s' t l r rest hr _ ih =>
    exact ih
      ((@H5V.Props.C04TB.C04_tb_no_panic_token H5V.Props.C04TB.allowAll trivial s t l ht (fun _ => Or.inl trivial)).1 r s1 hr)
      (H5V.Props.C03.C03_tb_good_preserved t l s hg hr)

/-! ### tokens -/

theorem textOk_allowed {tok : TTk} {t : TokToken} (h : AllowedInText tok ∨ tok = .eof) (hc : conv tok = some t)
    (s : State) : TextOkTok s t := by
  intro _
  cases tok with
  | chars x => cases hc; exact Or.inl ⟨x, rfl⟩
  | error m => cases hc; exact Or.inr (Or.inr (Or.inr ⟨m, rfl⟩))
  | pause b => cases hc
  | tag tg =>
    cases hc
    rcases h with h | h
    · exact Or.inr (Or.inr (Or.inl ⟨convTag tg, rfl, h⟩))
    · cases h
  | eof => cases hc; exact Or.inr (Or.inl rfl)
  | doctype d => rcases h with h | h <;> cases h
  | comment c => rcases h with h | h <;> cases h
  | nullChar => rcases h with h | h <;> cases h

theorem conv_not_tag {tok : TTk} {t : TokToken} (h : isTagTok tok = false) (hc : conv tok = some t) :
    ∀ tg, t ≠ .tag tg := by
  intro tg e
  cases tok <;> simp [conv, isTagTok] at hc h <;> rw [← hc] at e <;> cases e

/-- tokens that are not tags: if the builder is not in "text" it does not get there; if it is, the tokens have to be
allowed ones -/
theorem absorb_plain : ∀ (toks : List (TTk × Nat)) (j j' : JState), absorb toks j = .ok j' → TI j.tb → GoodS j.tb →
    (∀ p ∈ toks, isTagTok p.1 = false) →
    (j.tb.mode ≠ .text ∨ ∀ p ∈ toks, AllowedInText p.1 ∨ p.1 = .eof) →
    TextAlong j.tb (convAll toks) ∧ (j.tb.mode ≠ .text → j'.tb.mode ≠ .text)
  | [], j, j', h, _, _, _, _ => by cases h; exact ⟨trivial, id⟩
  | (t, line) :: rest, j, j', h, hti, hg, hnt, hH => by
    rw [absorb_cons] at h
    rw [convAll_cons]
    cases hc : conv t with
    | none =>
      rw [hc] at h
      exact absorb_plain rest j j' h hti hg (fun p hp => hnt p (by simp [hp]))
        (hH.imp id (fun h2 p hp => h2 p (by simp [hp])))
    | some tt =>
      rw [hc] at h
      simp only at h
      cases hp : (processToken tt line).run j.tb with
      | error e => rw [hp] at h; cases h
      | ok v =>
        obtain ⟨r, tb⟩ := v
        rw [hp] at h
        simp only at h
        by_cases hcnd : (!isTagT tt && r != .continue_) = true
        · rw [if_pos hcnd] at h; cases h
        · rw [if_neg hcnd] at h
          have hti1 := (@H5V.Props.C04TB.C04_tb_no_panic_token H5V.Props.C04TB.allowAll trivial j.tb tt line hti
            (fun _ => Or.inl trivial)).1 r tb hp
          have hg1 := H5V.Props.C03.C03_tb_good_preserved tt line j.tb hg hp
          have hstay : j.tb.mode ≠ .text → tb.mode ≠ .text := by
            intro h1 h2
            obtain ⟨tg, k, e, _⟩ := processToken_enters_text tt line j.tb tb r hti hp h1 h2
            exact conv_not_tag (hnt (t, line) (by simp)) hc tg e
          have ih := absorb_plain rest _ j' h hti1 hg1 (fun p hp => hnt p (by simp [hp]))
            (by
              rcases hH with h1 | h2
              · exact Or.inl (hstay h1)
              · exact Or.inr (fun p hp => h2 p (by simp [hp])))
          refine ⟨?_, fun h1 => ih.2 (hstay h1)⟩
          show TextAlong j.tb ((tt, line) :: convAll rest)
          refine ⟨?_, fun r' s' hr' => ?_⟩
          · rcases hH with h1 | h2
            · exact fun hm => absurd hm h1
            · exact textOk_allowed (h2 (t, line) (by simp)) hc j.tb
          · rw [hp] at hr'
            cases hr'
            exact ih.1

theorem absorb_pauses : ∀ (ps : List (TTk × Nat)) (j : JState), (∀ p ∈ ps, isPauseTok p.1 = true) →
    absorb ps j = .ok j ∧ convAll ps = []
  | [], j, _ => ⟨rfl, rfl⟩
  | (t, l) :: rest, j, h => by
    have ht := h (t, l) (by simp)
    cases t <;> simp [isPauseTok] at ht
    have ih := absorb_pauses rest j (fun p hp => h p (by simp [hp]))
    rw [absorb_cons, convAll_cons]
    exact ⟨ih.1, by simpa [conv] using ih.2⟩

/-! ### one step of the joint loop -/

theorem joint_step_text {o : TOpts} {m : Mach} {inp : H5V.Model.HtmlTok.Str} {j j1 : JState} (hm : m.out = [])
    {m1 : Mach} {i1 : H5V.Model.HtmlTok.Str} (hs : (step o (polOf j) m inp).pair? = some (m1, i1))
    (ha : absorb m1.out.reverse j = .ok j1) (hcr : CrInv m) (hJ : j.tb.mode = .text → TextSt m) (hti : TI j.tb)
    (hg : GoodS j.tb) :
    TextAlong j.tb (convAll m1.out.reverse) ∧ (j1.tb.mode = .text → TextSt (clr m1)) ∧ CrInv (clr m1) := by
  have hcr1 : CrInv m1 := step_crInv o (polOf j) m inp hcr m1 i1 hs
  refine (fun h : TextAlong j.tb (convAll m1.out.reverse) ∧ (j1.tb.mode = .text → TextSt (clr m1)) =>
    ⟨h.1, h.2, (crInv_clr m1).mpr hcr1⟩) ?_
  obtain ⟨new, hnew, hone⟩ := step_one_tag o (polOf j) m inp m1 i1 hs
  rw [hm, List.append_nil] at hnew
  -- what a step from a text state delivers
  have hallowed : j.tb.mode = .text → (∀ p ∈ new, AllowedInText p.1) ∧ ((∀ p ∈ new, isTagTok p.1 = false) → TextSt m1) := by
    intro hmode
    obtain ⟨new', hnew', h1, h2⟩ := step_textSt o (polOf j) m inp (hJ hmode) m1 i1 hs
    rw [hm, List.append_nil] at hnew'
    have : new' = new := by rw [← hnew', hnew]
    subst this
    exact ⟨h1, h2⟩
  by_cases htag : ∀ p ∈ new, isTagTok p.1 = false
  · -- no tag was delivered
    have hH : j.tb.mode ≠ .text ∨ ∀ p ∈ m1.out.reverse, AllowedInText p.1 ∨ p.1 = .eof := by
      by_cases hmode : j.tb.mode = .text
      · exact Or.inr (fun p hp => Or.inl ((hallowed hmode).1 p (by rw [← hnew]; exact List.mem_reverse.mp hp)))
      · exact Or.inl hmode
    obtain ⟨h1, h2⟩ := absorb_plain _ j j1 ha hti hg
      (fun p hp => htag p (by rw [← hnew]; exact List.mem_reverse.mp hp)) hH
    refine ⟨h1, fun hm1 => ?_⟩
    by_cases hmode : j.tb.mode = .text
    · exact (textSt_clr m1).mpr ((hallowed hmode).2 htag)
    · exact absurd hm1 (h2 hmode)
  · -- a tag was delivered: it is the newest token apart from pause markers
    have hex : ∃ a t l b, new = a ++ (H5V.Model.HtmlTok.Token.tag t, l) :: b := by
      obtain ⟨p, hp'⟩ := Classical.not_forall.mp htag
      obtain ⟨hp, hpt⟩ := Classical.not_imp.mp hp'
      obtain ⟨a, b, hab⟩ := List.append_of_mem hp
      obtain ⟨tok, l⟩ := p
      cases tok <;> simp [isTagTok] at hpt
      exact ⟨a, _, l, b, hab⟩
    obtain ⟨a, t, l, b, hab⟩ := hex
    obtain ⟨hpa, hnb⟩ := hone a b t l hab
    -- the three parts of the delivery
    have hrev : m1.out.reverse = b.reverse ++ ([(H5V.Model.HtmlTok.Token.tag t, l)] ++ a.reverse) := by
      rw [hnew, hab]; simp
    rw [hrev] at ha ⊢
    obtain ⟨jb, hjb, hrest⟩ := absorb_append_ok ha
    obtain ⟨jt, hjt, hpz⟩ := absorb_append_ok hrest
    obtain ⟨hpz1, hpz2⟩ := absorb_pauses a.reverse jt (fun p hp => hpa p (List.mem_reverse.mp hp))
    rw [hpz1] at hpz
    have hj : jt = j1 := Except.ok.inj hpz
    subst hj
    have hH : j.tb.mode ≠ .text ∨ ∀ p ∈ b.reverse, AllowedInText p.1 ∨ p.1 = .eof := by
      by_cases hmode : j.tb.mode = .text
      · exact Or.inr (fun p hp => Or.inl ((hallowed hmode).1 p (by rw [hab]; simp [List.mem_reverse.mp hp])))
      · exact Or.inl hmode
    obtain ⟨hb1, hb2⟩ := absorb_plain _ j jb hjb hti hg (fun p hp => hnb p (List.mem_reverse.mp hp)) hH
    obtain ⟨htib, hgb⟩ := (absorb_tbRuns _ _ _ hjb).inv hti hg
    obtain ⟨r, hrun, _⟩ := absorb_tag hjt
    -- the tag token in the state `jb.tb`
    have htagOk : TextOkTok jb.tb (.tag (convTag t)) := by
      intro hmb
      have hmode : j.tb.mode = .text := by
        by_cases h : j.tb.mode = .text
        · exact h
        · exact absurd hmb (hb2 h)
      have := (hallowed hmode).1 (H5V.Model.HtmlTok.Token.tag t, l) (by rw [hab]; simp)
      exact Or.inr (Or.inr (Or.inl ⟨convTag t, rfl, this⟩))
    refine ⟨?_, fun hm1 => ?_⟩
    · rw [convAll_append, convAll_append, hpz2, List.append_nil]
      refine textAlong_append _ _ _ hb1 (fun s' hs' => ?_)
      have : s' = jb.tb := hs'.det (absorb_tbRuns _ _ _ hjb)
      subst this
      exact ⟨htagOk, fun _ _ _ => trivial⟩
    · -- the state of the tokenizer after the tag
      by_cases hmb : jb.tb.mode = .text
      · -- an end tag leaves the "text" mode
        have hend : (convTag t).kind = .endTag := by
          rcases htagOk hmb with ⟨x, e⟩ | e | ⟨tg, e, hk⟩ | ⟨x, e⟩
          · cases e
          · cases e
          · cases e; exact hk
          · cases e
        exact absurd hm1 (processToken_text_endTag (convTag t) l jb.tb jt.tb r htib hrun hmb hend)
      · obtain ⟨tg, k, _, hr⟩ := processToken_enters_text _ l jb.tb jt.tb r htib hrun hmb hm1
        subst hr
        obtain ⟨q, hq1, hq2, hform⟩ := step_tag_form o (polOf j) m inp m1 i1 hs new a b t l
          (by rw [hm, List.append_nil]; exact hnew) hab
        rw [hm, List.append_nil] at hq2
        have hans : (polOf j).onTag q.out t = .rawData k := by
          rw [polOf_onTag, hq2]
          have : absorb b.reverse j = .ok jb := hjb
          rw [this]
          exact tbTag_of_run hgb hrun
        rw [hans] at hform
        rw [hform] at hs
        simp only [applySinkRes, ofSig, H5V.Model.HtmlTok.R.pair?, Option.some.injEq, Prod.mk.injEq] at hs
        obtain ⟨rfl, _⟩ := hs
        exact (textSt_clr _).mpr (textSt_of_rawData (k := k) rfl hcr1)

/-! ### runs -/

/-- what `stepOut` leaves out is a pause marker, which is not a token -/
theorem convAll_stepOut {o : TOpts} {m : Mach} {inp : H5V.Model.HtmlTok.Str} {j : JState} {m1 : Mach}
    {i1 : H5V.Model.HtmlTok.Str} (hs : (step o (polOf j) m inp).pair? = some (m1, i1)) :
    convAll (stepOut (step o (polOf j) m inp) m1).reverse = convAll m1.out.reverse := by
  unfold stepOut
  by_cases hp : (step o (polOf j) m inp).isPause = true
  · rw [if_pos hp]
    -- a pausing step ends with `applySinkRes … .script / .indicator`
    let pol0 : H5V.Model.HtmlTok.Pol := ⟨fun _ _ => .continue_, fun _ => (polOf j).cdataOk m.out⟩
    have hp0 : H5V.Model.HtmlTok.NoPause pol0 := fun _ _ => ⟨by simp [pol0], by simp [pol0]⟩
    rcases step_shift' o (polOf j) pol0 [] m inp rfl with h1 | ⟨q, tag, i, _, _, _, he, _⟩
    · have := H5V.Model.HtmlTok.step_noPause o pol0 hp0 (sh [] m) inp
      rw [h1] at this
      cases hr : step o (polOf j) m inp <;> rw [hr] at hp this <;> simp [shR, H5V.Model.HtmlTok.R.isPause] at hp this
    · rw [he] at hs hp
      generalize (polOf j).onTag q.out tag = r at hs hp
      cases r with
      | continue_ => simp [applySinkRes, ofSig, H5V.Model.HtmlTok.R.isPause] at hp
      | plaintext => simp [applySinkRes, ofSig, H5V.Model.HtmlTok.R.isPause] at hp
      | rawData k => simp [applySinkRes, ofSig, H5V.Model.HtmlTok.R.isPause] at hp
      | script =>
        simp only [applySinkRes, ofSig, H5V.Model.HtmlTok.R.pair?, Option.some.injEq, Prod.mk.injEq] at hs
        obtain ⟨rfl, _⟩ := hs
        show convAll ((H5V.Model.HtmlTok.Token.pause true, _) :: (emit q (.tag tag)).out).tail.reverse =
          convAll ((H5V.Model.HtmlTok.Token.pause true, _) :: (emit q (.tag tag)).out).reverse
        rw [List.tail_cons, List.reverse_cons, convAll_append]
        simp [convAll, conv]
      | indicator =>
        simp only [applySinkRes, ofSig, H5V.Model.HtmlTok.R.pair?, Option.some.injEq, Prod.mk.injEq] at hs
        obtain ⟨rfl, _⟩ := hs
        show convAll ((H5V.Model.HtmlTok.Token.pause false, _) :: (emit q (.tag tag)).out).tail.reverse =
          convAll ((H5V.Model.HtmlTok.Token.pause false, _) :: (emit q (.tag tag)).out).reverse
        rw [List.tail_cons, List.reverse_cons, convAll_append]
        simp [convAll, conv]
  · rw [if_neg hp]

/-- the invariants and the protocol along one step -/
theorem joint_step_text' {o : TOpts} {m : Mach} {inp : H5V.Model.HtmlTok.Str} {j j1 : JState} (hm : m.out = [])
    {m1 : Mach} {i1 : H5V.Model.HtmlTok.Str} (hs : (step o (polOf j) m inp).pair? = some (m1, i1))
    (ha : absorb m1.out.reverse j = .ok j1) (hcr : CrInv m) (hJ : j.tb.mode = .text → TextSt m) (hti : TI j.tb)
    (hg : GoodS j.tb) :
    TextAlong j.tb (convAll (stepOut (step o (polOf j) m inp) m1).reverse) ∧ (j1.tb.mode = .text → TextSt (clr m1)) ∧
      TI j1.tb ∧ GoodS j1.tb ∧ TbRuns j.tb (convAll (stepOut (step o (polOf j) m inp) m1).reverse) j1.tb ∧
      CrInv (clr m1) := by
  obtain ⟨h1, h2, h5⟩ := joint_step_text hm hs ha hcr hJ hti hg
  have hr := absorb_tbRuns _ _ _ ha
  obtain ⟨h3, h4⟩ := hr.inv hti hg
  rw [convAll_stepOut hs]
  exact ⟨h1, h2, h3, h4, hr, h5⟩

theorem jruns_text {o : TOpts} {m : Mach} {inp : H5V.Model.HtmlTok.Str} {j : JState} {m' : Mach} {j' : JState} {D : Out}
    (h : JRunsD o m inp j m' j' D) :
    m.out = [] → CrInv m → (j.tb.mode = .text → TextSt m) → TI j.tb → GoodS j.tb →
    TextAlong j.tb (convAll D.reverse) ∧ (j'.tb.mode = .text → TextSt m') ∧ TI j'.tb ∧ GoodS j'.tb ∧
      TbRuns j.tb (convAll D.reverse) j'.tb ∧ CrInv m' := by
  induction h with
  | @susp m inp j m1 j1 hs ha =>
    intro hm hcr hJ hti hg
    exact joint_step_text' hm (by rw [hs]; rfl) ha hcr hJ hti hg
  | @scriptEnd m inp j m1 j1 hs ha =>
    intro hm hcr hJ hti hg
    exact joint_step_text' hm (by rw [hs]; rfl) ha hcr hJ hti hg
  | @indicatorEnd m inp j m1 j1 hs ha =>
    intro hm hcr hJ hti hg
    exact joint_step_text' hm (by rw [hs]; rfl) ha hcr hJ hti hg
  | @cont m inp j m1 i1 j1 m' j' D hs ha _ ih =>
    intro hm hcr hJ hti hg
    obtain ⟨a1, a2, a3, a4, a5, a6⟩ := joint_step_text' hm (m1 := m1) (i1 := i1) (by rw [hs]; rfl) ha hcr hJ hti hg
    obtain ⟨b1, b2, b3, b4, b5, b6⟩ := ih rfl a6 a2 a3 a4
    rw [List.reverse_append, convAll_append]
    refine ⟨textAlong_append _ _ _ a1 (fun s' hs' => ?_), b2, b3, b4, a5.append b5, b6⟩
    rw [hs'.det a5]
    exact b1
  | @script m inp j m1 i1 j1 m' j' D hs ha _ _ ih =>
    intro hm hcr hJ hti hg
    obtain ⟨a1, a2, a3, a4, a5, a6⟩ := joint_step_text' hm (m1 := m1) (i1 := i1) (by rw [hs]; rfl) ha hcr hJ hti hg
    obtain ⟨b1, b2, b3, b4, b5, b6⟩ := ih rfl a6 a2 a3 a4
    rw [List.reverse_append, convAll_append]
    refine ⟨textAlong_append _ _ _ a1 (fun s' hs' => ?_), b2, b3, b4, a5.append b5, b6⟩
    rw [hs'.det a5]
    exact b1
  | @indicator m inp j m1 i1 j1 m' j' D hs ha _ _ ih =>
    intro hm hcr hJ hti hg
    obtain ⟨a1, a2, a3, a4, a5, a6⟩ := joint_step_text' hm (m1 := m1) (i1 := i1) (by rw [hs]; rfl) ha hcr hJ hti hg
    obtain ⟨b1, b2, b3, b4, b5, b6⟩ := ih rfl a6 a2 a3 a4
    rw [List.reverse_append, convAll_append]
    refine ⟨textAlong_append _ _ _ a1 (fun s' hs' => ?_), b2, b3, b4, a5.append b5, b6⟩
    rw [hs'.det a5]
    exact b1

/-- the tree builder's run over what a `JRunsD` delivers -/
theorem jruns_text_runs {o : TOpts} {m : Mach} {inp : H5V.Model.HtmlTok.Str} {j : JState} {m' : Mach} {j' : JState}
    {D : Out} (h : JRunsD o m inp j m' j' D) : m.out = [] → TbRuns j.tb (convAll D.reverse) j'.tb := by
  induction h with
  | @susp m inp j m1 j1 hs ha =>
    intro _
    rw [convAll_stepOut (i1 := []) (by rw [hs]; rfl)]
    exact absorb_tbRuns _ _ _ ha
  | @scriptEnd m inp j m1 j1 hs ha =>
    intro _
    rw [convAll_stepOut (i1 := []) (by rw [hs]; rfl)]
    exact absorb_tbRuns _ _ _ ha
  | @indicatorEnd m inp j m1 j1 hs ha =>
    intro _
    rw [convAll_stepOut (i1 := []) (by rw [hs]; rfl)]
    exact absorb_tbRuns _ _ _ ha
  | @cont m inp j m1 i1 j1 m' j' D hs ha _ ih =>
    intro _
    rw [List.reverse_append, convAll_append, convAll_stepOut (i1 := i1) (by rw [hs]; rfl)]
    exact (absorb_tbRuns _ _ _ ha).append (ih rfl)
  | @script m inp j m1 i1 j1 m' j' D hs ha _ _ ih =>
    intro _
    rw [List.reverse_append, convAll_append, convAll_stepOut (i1 := i1) (by rw [hs]; rfl)]
    exact (absorb_tbRuns _ _ _ ha).append (ih rfl)
  | @indicator m inp j m1 i1 j1 m' j' D hs ha _ _ ih =>
    intro _
    rw [List.reverse_append, convAll_append, convAll_stepOut (i1 := i1) (by rw [hs]; rfl)]
    exact (absorb_tbRuns _ _ _ ha).append (ih rfl)

/-! ### `Parser::finish` -/

theorem finish_text {o : TOpts} {m : Mach} {j jf : JState} {Dp : Out} {m1 : Mach} {inp : H5V.Model.HtmlTok.Str}
    {j1 : JState} {D2 : Out} {m2 : Mach} {j2 : JState} {m3 : Mach} {j3 : JState}
    (d : FinishData o m j jf Dp m1 inp j1 D2 m2 j2 m3 j3) (hm : m.out = []) (hcr0 : CrInv m)
    (hJ : j.tb.mode = .text → TextSt m) (hti : TI j.tb) (hg : GoodS j.tb) :
    TextAlong j.tb (convAll (m3.out ++ (D2 ++ Dp)).reverse) := by
  -- the flush of a pending character reference
  have hpro : TextAlong j.tb (convAll Dp.reverse) ∧ m1.out = [] ∧ (j1.tb.mode = .text → TextSt (m1.setAtEof true)) ∧
      TI j1.tb ∧ GoodS j1.tb ∧ TbRuns j.tb (convAll Dp.reverse) j1.tb ∧ CrInv (m1.setAtEof true) := by
    rcases d.pro with ⟨_, rfl, rfl, _, rfl⟩ | ⟨cr, ma, chars, mb, hcr, hce, hpc, rfl, rfl, hab⟩
    · exact ⟨trivial, hm, fun h => (textSt_setAtEof m1 true).mpr (hJ h), hti, hg, TbRuns.nil _,
        (crInv_setAtEof m1 true).mpr hcr0⟩
    · have hr := absorb_tbRuns _ _ _ hab
      obtain ⟨h3, h4⟩ := hr.inv hti hg
      obtain ⟨new, hnew, hk, hst, htk⟩ := crEof_processCharRef_out o m cr ma inp chars mb .cont hce hpc
      rw [hm, List.append_nil] at hnew
      have hcrb : CrInv ((clr mb).setAtEof true) := by
        apply crInv_of_none
        show mb.charRef = none
        have := H5V.Model.HtmlTok.processCharRef_charRef (ma.setCharRef none) chars
        rw [hpc] at this
        exact this
      have hnt : ∀ p ∈ mb.out.reverse, isTagTok p.1 = false := by
        intro p hp
        have := hk p (by rw [← hnew]; exact List.mem_reverse.mp hp)
        rcases this with ⟨x, e⟩ | ⟨e', e⟩ | e <;> rw [e] <;> rfl
      by_cases hmode : j.tb.mode = .text
      · obtain ⟨new', hnew', hal, _, hts1, hts2⟩ :=
          crEof_processCharRef_textSt o m (hJ hmode) cr ma inp chars mb .cont hcr hce hpc
        rw [hm, List.append_nil] at hnew'
        obtain ⟨g1, _⟩ := absorb_plain _ j j1 hab hti hg hnt
          (Or.inr (fun p hp => Or.inl (hal p (by rw [← hnew']; exact List.mem_reverse.mp hp))))
        exact ⟨g1, rfl, fun _ => hts2, h3, h4, hr, hcrb⟩
      · obtain ⟨g1, g2⟩ := absorb_plain _ j j1 hab hti hg hnt (Or.inl hmode)
        exact ⟨g1, rfl, fun h => absurd h (g2 hmode), h3, h4, hr, hcrb⟩
  obtain ⟨p1, p2, p3, p4, p5, p6, p7⟩ := hpro
  -- the final run
  obtain ⟨r1, r2, r3, r4, r5, _⟩ := jruns_text d.run (by show m1.out = []; exact p2) p7 p3 p4 p5
  -- `eof_step`
  have hm2 : m2.out = [] := (d.hist (j0 := j) hm [] rfl).2.2.2.1
  have heof : TextAlong j2.tb (convAll m3.out.reverse) := by
    obtain ⟨new, hnew, hnt⟩ := eofLoop_no_tag o 8 m2 m3 d.eof
    rw [hm2, List.append_nil] at hnew
    have hH : j2.tb.mode ≠ .text ∨ ∀ p ∈ m3.out.reverse, AllowedInText p.1 ∨ p.1 = .eof := by
      by_cases hmode : j2.tb.mode = .text
      · obtain ⟨new', hnew', hal⟩ := eofLoop_textSt o 8 m2 m3 (r2 hmode) d.eof
        rw [hm2, List.append_nil] at hnew'
        exact Or.inr (fun p hp => hal p (by rw [← hnew']; exact List.mem_reverse.mp hp))
      · exact Or.inl hmode
    exact (absorb_plain _ j2 j3 d.abs r3 r4 (fun p hp => hnt p (by rw [← hnew]; exact List.mem_reverse.mp hp)) hH).1
  rw [List.reverse_append, List.reverse_append, convAll_append, convAll_append]
  refine textAlong_append _ _ _ (textAlong_append _ _ _ p1 (fun s' hs' => ?_)) (fun s' hs' => ?_)
  · rw [hs'.det p6]; exact r1
  · rw [hs'.det (p6.append r5)]; exact heof

/-! ### the whole parse -/

/-- **the "text" insertion mode protocol holds along every successful joint parse** -/
theorem parse_hist_text {o : TOpts} {N : Nat} {m0 : Mach} {j0 : JState} {s : H5V.Model.HtmlTok.Str} {jf : JState}
    (hs : H5V.Props.C03.Start m0) (hcr0 : CrInv m0) (h : H5V.Props.C03.parseChunks o N m0 j0 [s] = .ok jf)
    (hti : TI j0.tb) (hg : GoodS j0.tb) (hmode : j0.tb.mode ≠ .text) :
    ∃ Hf j3, ParseHist o m0 j0 s jf Hf j3 ∧ TextAlong j0.tb (convAll Hf.reverse) := by
  obtain ⟨m1, j1, D1, Dp, mx, inp, jx, D2, m2, j2, m3, j3, hfeedJ, d, ph⟩ := parse_hist' hs h
  refine ⟨_, _, ph, ?_⟩
  have hm0 : m0.out = [] := hs.out
  -- `Parser::process`
  have hcrm0 : CrInv m0 := by
    -- a fresh tokenizer has no pending character reference (`Start` = `TInv` + …; we only need `charRef`)
    exact hcr0
  have hfeed : TextAlong j0.tb (convAll D1.reverse) ∧ m1.out = [] ∧ (j1.tb.mode = .text → TextSt m1) ∧ TI j1.tb ∧
      GoodS j1.tb ∧ TbRuns j0.tb (convAll D1.reverse) j1.tb ∧ CrInv m1 := by
    rcases hfeedJ with ⟨_, rfl, rfl, rfl⟩ | ⟨hne, hr⟩
    · exact ⟨trivial, hm0, fun h => absurd h hmode, hti, hg, TbRuns.nil _, hcrm0⟩
    · have hb : (H5V.Model.HtmlTok.feedBom m0 s).1.out = [] := by
        rcases H5V.Props.C03.feedBom_fst m0 s with e | e <;> rw [e] <;> exact hm0
      have hcb : CrInv (H5V.Model.HtmlTok.feedBom m0 s).1 := by
        rcases H5V.Props.C03.feedBom_fst m0 s with e | e <;> rw [e] <;> exact hcrm0
      obtain ⟨a1, a2, a3, a4, a5, a6⟩ := jruns_text hr hb hcb (fun h => absurd h hmode) hti hg
      exact ⟨a1, (jruns_star (j0 := j0) hr hb [] rfl).2.1, a2, a3, a4, a5, a6⟩
  obtain ⟨f1, f2, f3, f4, f5, f6, f7⟩ := hfeed
  have hfin := finish_text d f2 f7 f3 f4 f5
  have e : (m3.out ++ (D2 ++ (Dp ++ D1))).reverse = D1.reverse ++ (m3.out ++ (D2 ++ Dp)).reverse := by
    simp [List.reverse_append, List.append_assoc]
  rw [e, convAll_append]
  refine textAlong_append _ _ _ f1 (fun s' hs' => ?_)
  rw [hs'.det f6]
  exact hfin

end H5V.Lemmas.ParseSpec
