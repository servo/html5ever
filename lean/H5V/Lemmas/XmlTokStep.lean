import H5V.Lemmas.XmlTokReader
/-!
Step-level lemmas for the XML tokenizer model: the two look-ahead states as `eatChain` with its
case principles, and `XmlTokenizer::step` is monotone in the unread input whenever it does not suspend
(the counterpart of `H5V.Lemmas.HtmlTokStep`).
-/
namespace H5V.Model.XmlTok

/-- a step result with more input appended -/
def R.ext : R → Str → R
  | .cont m i, e => .cont m (i ++ e)
  | .suspend m i, e => .suspend m (i ++ e)
  | .panic x, _ => .panic x

def R.isSuspend : R → Bool
  | .suspend _ _ => true
  | _ => false

theorem ofSig_ext (ms : Mach × Sig) (inp e : Str) : ofSig ms (inp ++ e) = (ofSig ms inp).ext e := by
  unfold ofSig
  split <;> rfl

@[simp] theorem ofSig_not_suspend (ms : Mach × Sig) (inp : Str) : (ofSig ms inp).isSuspend = false := by
  unfold ofSig
  split <;> rfl

theorem stepCharRef_mono (o : Opts) (m : Mach) (inp e : Str) (cr : CharRefSt)
    (h : (stepCharRef o m inp cr).isSuspend = false) :
    stepCharRef o m (inp ++ e) cr = (stepCharRef o m inp cr).ext e := by
  have hns : (crStep o m inp cr).notStuck := by
    unfold stepCharRef at h
    cases hc : crStep o m inp cr with
    | error x => simp [CRRes.notStuck]
    | ok v =>
      obtain ⟨m1, i1, cr1, st⟩ := v
      cases st <;> simp_all [CRRes.notStuck, R.isSuspend]
  unfold stepCharRef
  rw [crStep_mono o m inp e cr hns]
  cases hc : crStep o m inp cr with
  | error x => simp [CRRes.ext, R.ext]
  | ok v =>
    obtain ⟨m1, i1, cr1, st⟩ := v
    cases st with
    | stuck => simp [CRRes.ext, R.ext]
    | progress => simp [CRRes.ext, R.ext]
    | done chars => simp [CRRes.ext, ofSig_ext]

theorem eat_some_EatOk (o : Opts) (m m' : Mach) (inp inp' pat : Str) (b : Bool)
    (h : eat o m inp pat = (some b, m', inp')) : EatOk m' ∧ m'.atEof = m.atEof := by
  rw [eat_eq_core] at h
  unfold eatCore at h
  repeat' split at h
  all_goals
    first
      | (simp at h; done)
      | (simp only [Prod.mk.injEq] at h
         obtain ⟨_, h2, _⟩ := h
         subst h2
         exact ⟨by intro _; simp, by simp⟩)

/-- the continuation of a `get_char!` state after its read -/
def contChar (o : Opts) (r : Option Char × Mach × Str) : R :=
  match r with
  | (none, m, inp) => .suspend m inp
  | (some c, m, inp) => ofSig (transChar o m c) inp

/-- the shape of the two look-ahead states: try the keywords in turn; the first that matches decides,
one that needs more input suspends, and when none matches `dflt` runs -/
def eatChain (o : Opts) (dflt : Mach → Str → R) : List (Str × (Mach → Mach)) → Mach → Str → R
  | [], m, inp => dflt m inp
  | (pat, k) :: alts, m, inp =>
    match eat o m inp pat with
    | (none, m, inp) => .suspend m inp
    | (some true, m, inp) => .cont (k m) inp
    | (some false, m, inp) => eatChain o dflt alts m inp

def mdAlts : List (Str × (Mach → Mach)) :=
  [(kwDashDash, fun m => to .commentStart (clearComment m)), (kwCdata, to .cdata), (kwDoctype, to .doctype)]
def adnAlts : List (Str × (Mach → Mach)) :=
  [(kwPublic, to (.afterDoctypeKeyword .pub)), (kwSystem, to (.afterDoctypeKeyword .sys))]

/-- every keyword continuation moves to a state; the first also clears the comment buffer -/
theorem alts_cases {Q : (Mach → Mach) → Prop} (h1 : Q fun m => to .commentStart (clearComment m))
    (h2 : ∀ s, Q (to s)) : ∀ p ∈ mdAlts ++ adnAlts, Q p.2 := by
  intro p hp
  simp only [mdAlts, adnAlts, List.cons_append, List.nil_append, List.mem_cons, List.not_mem_nil,
    or_false] at hp
  rcases hp with rfl | rfl | rfl | rfl | rfl
  · exact h1
  all_goals exact h2 _

theorem stepMd_eq (o : Opts) (m : Mach) (inp : Str) :
    stepMd o m inp = eatChain o (fun m inp => .cont (to .bogusComment (badChar o m)) inp) mdAlts m inp := rfl

theorem stepAdn_eq (o : Opts) (m : Mach) (inp : Str) :
    stepAdn o m inp = eatChain o (fun m inp => contChar o (getChar o m inp)) adnAlts m inp := rfl

theorem contChar_mono (o : Opts) (m : Mach) (inp e : Str)
    (h : (contChar o (getChar o m inp)).isSuspend = false) :
    contChar o (getChar o m (inp ++ e)) = (contChar o (getChar o m inp)).ext e := by
  cases hgc : getChar o m inp with
  | mk c r =>
    obtain ⟨m1, i1⟩ := r
    cases c with
    | none => simp [hgc, contChar, R.isSuspend] at h
    | some c => rw [getChar_mono o m m1 c inp i1 e hgc]; exact ofSig_ext _ _ _

theorem eatChain_mono (o : Opts) (dflt : Mach → Str → R) (e : Str) (alts : List (Str × (Mach → Mach)))
    (hne : ∀ p ∈ alts, p.1 ≠ [])
    (hd : ∀ m inp, (dflt m inp).isSuspend = false → dflt m (inp ++ e) = (dflt m inp).ext e)
    (m : Mach) (inp : Str) (hg : EatOk m) (hat : m.atEof = false)
    (h : (eatChain o dflt alts m inp).isSuspend = false) :
    eatChain o dflt alts m (inp ++ e) = (eatChain o dflt alts m inp).ext e := by
  induction alts generalizing m inp with
  | nil => exact hd m inp h
  | cons p alts ih =>
    obtain ⟨pat, k⟩ := p
    unfold eatChain at h ⊢
    cases h1 : eat o m inp pat with
    | mk b r =>
      obtain ⟨m1, i1⟩ := r
      rw [h1] at h
      cases b with
      | none => simp [R.isSuspend] at h
      | some b =>
        rw [eat_mono o m m1 inp i1 e _ b hg (hne _ (.head _)) hat h1]
        obtain ⟨hg1, hat1⟩ := eat_some_EatOk o m m1 inp i1 _ b h1
        cases b with
        | true => rfl
        | false => exact ih (fun p hp => hne p (.tail _ hp)) m1 i1 hg1 (by rw [hat1, hat]) h

/-- reasoning about a look-ahead state.  `I` holds whenever a keyword is tried; a definite mismatch
re-establishes it and gives `J` (what the default branch may assume: something was tried before it);
each way out gets `Post` from `I` before the deciding `eat` and that `eat`'s answer -/
theorem eatChain_cases {I J : Mach → Str → Prop} {Post : R → Prop} (o : Opts) (dflt : Mach → Str → R)
    (alts : List (Str × (Mach → Mach)))
    (hf : ∀ p ∈ alts, ∀ m inp m1 i1, I m inp → eat o m inp p.1 = (some false, m1, i1) → I m1 i1 ∧ J m1 i1)
    (hs : ∀ p ∈ alts, ∀ m inp m1 i1, I m inp → eat o m inp p.1 = (none, m1, i1) → Post (.suspend m1 i1))
    (hk : ∀ p ∈ alts, ∀ m inp m1 i1, I m inp → eat o m inp p.1 = (some true, m1, i1) →
      Post (.cont (p.2 m1) i1))
    (hd : ∀ m i, I m i → J m i → Post (dflt m i))
    (m : Mach) (inp : Str) (h : I m inp) (hj : alts = [] → J m inp) :
    Post (eatChain o dflt alts m inp) := by
  induction alts generalizing m inp with
  | nil => exact hd m inp h (hj rfl)
  | cons p alts ih =>
    obtain ⟨pat, k⟩ := p
    unfold eatChain
    cases h1 : eat o m inp pat with
    | mk b r =>
      obtain ⟨m1, i1⟩ := r
      rcases b with _ | _ | _
      · exact hs _ (.head _) m inp m1 i1 h h1
      · obtain ⟨hi, hj'⟩ := hf _ (.head _) m inp m1 i1 h h1
        exact ih (fun p hp => hf p (.tail _ hp)) (fun p hp => hs p (.tail _ hp))
          (fun p hp => hk p (.tail _ hp)) m1 i1 hi fun _ => hj'
      · exact hk _ (.head _) m inp m1 i1 h h1

/-- the common case: `I` is an invariant of `eat` whatever it answers -/
theorem eatChain_ind {I : Mach → Str → Prop} {Post : R → Prop} (o : Opts) (dflt : Mach → Str → R)
    (alts : List (Str × (Mach → Mach)))
    (heat : ∀ m inp pat b m1 i1, I m inp → eat o m inp pat = (b, m1, i1) → I m1 i1)
    (hs : ∀ m i, I m i → Post (.suspend m i))
    (hk : ∀ p ∈ alts, ∀ m i, I m i → Post (.cont (p.2 m) i))
    (hd : ∀ m i, I m i → Post (dflt m i))
    (m : Mach) (inp : Str) (h : I m inp) : Post (eatChain o dflt alts m inp) :=
  eatChain_cases (J := fun _ _ => True) o dflt alts (fun _ _ _ _ _ _ hi he => ⟨heat _ _ _ _ _ _ hi he, trivial⟩)
    (fun _ _ _ _ _ _ hi he => hs _ _ (heat _ _ _ _ _ _ hi he))
    (fun p hp _ _ _ _ hi he => hk p hp _ _ (heat _ _ _ _ _ _ hi he)) (fun _ _ hi _ => hd _ _ hi) m inp h
    fun _ => trivial

theorem stepMd_mono (o : Opts) (m : Mach) (inp e : Str)
    (hg : EatOk m) (hat : m.atEof = false)
    (h : (stepMd o m inp).isSuspend = false) :
    stepMd o m (inp ++ e) = (stepMd o m inp).ext e :=
  eatChain_mono o _ e mdAlts (by decide) (fun _ _ _ => rfl) m inp hg hat h

theorem stepAdn_mono (o : Opts) (m : Mach) (inp e : Str)
    (hg : EatOk m) (hat : m.atEof = false)
    (h : (stepAdn o m inp).isSuspend = false) :
    stepAdn o m (inp ++ e) = (stepAdn o m inp).ext e :=
  eatChain_mono o _ e adnAlts (by decide) (fun m inp => contChar_mono o m inp e) m inp hg hat h

/-- **`step` is monotone in the unread input**: a step that completes (does not ask for more
input) gives the same result, with the extra input left over, when more input is appended -/
theorem step_mono (o : Opts) (m : Mach) (inp e : Str)
    (hg : (m.state = .markupDecl ∨ m.state = .afterDoctypeName) → EatOk m) (hat : m.atEof = false)
    (h : (step o m inp).isSuspend = false) :
    step o m (inp ++ e) = (step o m inp).ext e := by
  unfold step at h ⊢
  cases hcr : m.charRef with
  | some cr =>
    simp only [hcr] at h ⊢
    exact stepCharRef_mono o m inp e _ h
  | none =>
    simp only [hcr] at h ⊢
    cases hrk : readKind m.state with
    | getChar =>
      simp only [hrk] at h ⊢
      exact contChar_mono o m inp e h
    | popExcept =>
      simp only [hrk] at h ⊢
      cases hgc : popExceptFrom o (setOf m.state) m inp with
      | mk c r =>
        obtain ⟨m1, i1⟩ := r
        cases c with
        | none => simp [hgc, R.isSuspend] at h
        | some c => rw [popExceptFrom_mono o _ m m1 c inp i1 e hgc]; simp [ofSig_ext]
    | eatMd =>
      simp only [hrk] at h ⊢
      have hs : m.state = .markupDecl := by
        cases hst : m.state <;> simp [hst, readKind] at hrk ⊢
      exact stepMd_mono o m inp e (hg (Or.inl hs)) hat h
    | eatAdn =>
      simp only [hrk] at h ⊢
      have hs : m.state = .afterDoctypeName := by
        cases hst : m.state <;> simp [hst, readKind] at hrk ⊢
      exact stepAdn_mono o m inp e (hg (Or.inr hs)) hat h

end H5V.Model.XmlTok
