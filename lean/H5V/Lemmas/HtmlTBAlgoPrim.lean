import H5V.Lemmas.HtmlTBAlgoBase
/-!
The abstraction of a model state to the abstract parser state of `H5V.Spec.TreeAlgo2`, the
translation of the spec's log of DOM operations to `TreeSink` calls, and the triples of the
primitive model operations.
-/
namespace H5V.Lemmas.HtmlTBAlgo
open H5V.Model.HtmlTB
open H5V.Model.Dom (Id SinkOp Output Dom QualName Attr NodeOrText ElementFlags NodeData)
open H5V.Lemmas.Dom
open H5V.Lemmas.HtmlTBSpec (NamesOk toName)
open H5V.Spec.TreeAlgo2

/-! ### edits and queries -/

/-- the sink calls that change the sink's state in a way the standard prescribes (everything except
the pure queries, parse errors and the bookkeeping notifications `pop`, `set_current_line`) -/
def isEdit : SinkOp → Bool
  | .parseError _ => false
  | .getDocument => false
  | .elemName _ => false
  | .pop _ => false
  | .getTemplateContents _ => false
  | .sameNode _ _ => false
  | .isMathmlAnnotationXmlIntegrationPoint _ => false
  | .setCurrentLine _ => false
  | .allowDeclarativeShadowRoots _ => false
  | _ => true

def edits (calls : List Call) : List Call := calls.filter fun c => isEdit c.1

theorem edits_append (a b : List Call) : edits (a ++ b) = edits a ++ edits b := by simp [edits]

theorem edits_cons_of_isEdit {c : Call} (h : isEdit c.1 = true) (l : List Call) : edits (c :: l) = c :: edits l := by
  simp [edits, h]

@[simp] theorem edits_nil : edits [] = [] := rfl

/-- the tree builder's own fields are unchanged -/
def SameTB (s s' : State) : Prop := s' = { s with dom := s'.dom, traceRev := s'.traceRev }

theorem SameTB.refl (s : State) : SameTB s s := rfl
theorem SameTB.trans {a b c : State} (h1 : SameTB a b) (h2 : SameTB b c) : SameTB a c := by
  unfold SameTB at *; rw [h2, h1]
theorem SameTB.afterCall (s : State) (d : Dom) (op : SinkOp) (out : Output) : SameTB s (afterCall s d op out) := rfl
theorem SameTB.openElems {s s' : State} (h : SameTB s s') : s'.openElems = s.openElems := by
  unfold SameTB at h; rw [h]
theorem SameTB.activeFormatting {s s' : State} (h : SameTB s s') : s'.activeFormatting = s.activeFormatting := by
  unfold SameTB at h; rw [h]
theorem SameTB.fosterParenting {s s' : State} (h : SameTB s s') : s'.fosterParenting = s.fosterParenting := by
  unfold SameTB at h; rw [h]
theorem SameTB.formElem {s s' : State} (h : SameTB s s') : s'.formElem = s.formElem := by
  unfold SameTB at h; rw [h]

/-- postcondition of a query: the answer is `v`, only the sink was consulted, no edit was made -/
def QueryQ {α : Type} (s : State) (v : α) : α → State → List Call → Prop :=
  fun a s' calls => a = v ∧ SameTB s s' ∧ edits calls = []

theorem tot_query_bind {α β : Type} {m : M α} {f : α → M β} {s : State} {v : α}
    {Q : β → State → List Call → Prop} (hm : Tot m s (QueryQ s v))
    (hf : ∀ s1 c1, Ext s c1 s1 → SameTB s s1 → edits c1 = [] → Tot (f v) s1 (fun b s2 c2 => Q b s2 (c1 ++ c2))) :
    Tot (m >>= f) s Q :=
  tot_bind (tot_conseq hm fun _ s1 c1 he ⟨ha, hs, hc⟩ => ha ▸ hf s1 c1 he hs hc)

theorem QueryQ.extend {α : Type} {s s1 : State} {c1 : List Call} (hs : SameTB s s1) (hc : edits c1 = [])
    {w a : α} {s2 : State} {c2 : List Call} (h : QueryQ s1 w a s2 c2) : QueryQ s w a s2 (c1 ++ c2) :=
  ⟨h.1, hs.trans h.2.1, by rw [edits_append, hc, h.2.2]; rfl⟩

/-- a query followed by a query -/
theorem tot_query_query {α β : Type} {m : M α} {f : α → M β} {s : State} {v : α} {w : β}
    (hm : Tot m s (QueryQ s v))
    (hf : ∀ s1 c1, Ext s c1 s1 → SameTB s s1 → Tot (f v) s1 (QueryQ s1 w)) : Tot (m >>= f) s (QueryQ s w) :=
  tot_query_bind hm fun s1 c1 he hs hc => tot_conseq (hf s1 c1 he hs) fun _ _ _ _ h => QueryQ.extend hs hc h

/-! ### names -/

/-- the element type the sink reports for `h` (a dummy for non-elements) -/
def nameOf (d : Dom) (h : Id) : EName :=
  match d.elemName h with
  | .ok (ns, loc) => ⟨ns, loc⟩
  | .error _ => ⟨[], []⟩

def elemOf (d : Dom) (h : Id) : Elem Id := ⟨h, toName (nameOf d h)⟩

def absStack (d : Dom) (l : List Id) : List (Elem Id) := l.map (elemOf d)

def absEntry : FormatEntry → Entry Id Tag
  | .marker => .marker
  | .element h t => .element h t

def absList (af : List FormatEntry) : List (Entry Id Tag) := af.map absEntry

/-- the tokens are the model's `Tag`s -/
def tagCtx : Ctx Tag :=
  { tokName := fun t => t.name
    tokHasFormAttr := fun t => t.attrs.any fun a => a.name.ns == [] && isName a.name.loc "form" }

def absState (s : State) (supply : List Id) (log : List (Edit Id Tag)) : PState Id Tag :=
  { stack := absStack s.dom s.openElems, list := absList s.activeFormatting,
    fosterParenting := s.fosterParenting, formPointer := s.formElem, supply := supply, log := log }

theorem elemName_of_isElement {d : Dom} {h : Id} (he : d.isElement h = true) : ∃ n, d.elemName h = .ok n := by
  obtain ⟨nd, hn⟩ := node?_of_lt (isElement_lt he)
  unfold Dom.isElement at he; rw [dataOf_of_node hn] at he
  unfold Dom.elemName
  simp only [bind, Except.bind, get_ok_of hn]
  cases hd : nd.data <;> simp [hd] at he ⊢

theorem nameOf_stable {d d' : Dom} (hs : Stable d d') {h : Id} (he : d.isElement h = true) :
    nameOf d' h = nameOf d h := by
  obtain ⟨n, hn⟩ := elemName_of_isElement he
  unfold nameOf; rw [hn, hs.elemName hn]

theorem isElement_stable {d d' : Dom} (hs : Stable d d') {h : Id} (he : d.isElement h = true) :
    d'.isElement h = true := by rw [isElement_of_data (hs.data h he)]; exact he

/-- all handles of the list are elements of the sink -/
def ElemsOk (d : Dom) (l : List Id) : Prop := ∀ h ∈ l, d.isElement h = true

theorem ElemsOk.stable {d d' : Dom} {l : List Id} (h : ElemsOk d l) (hs : Stable d d') : ElemsOk d' l :=
  fun x hx => isElement_stable hs (h x hx)

theorem absStack_stable {d d' : Dom} {l : List Id} (h : ElemsOk d l) (hs : Stable d d') :
    absStack d' l = absStack d l := by
  unfold absStack
  apply List.map_congr_left
  intro x hx
  unfold elemOf; rw [nameOf_stable hs (h x hx)]

theorem ElemsOk.of_namesOk {s : State} {l : List Id} {nm : Id → EName} (h : NamesOk s l nm) : ElemsOk s.dom l :=
  fun x hx => isElement_of_elemName (h x hx)

theorem absStack_of_namesOk {s : State} {l : List Id} {nm : Id → EName} (h : NamesOk s l nm) :
    absStack s.dom l = l.map fun x => ⟨x, toName (nm x)⟩ := by
  unfold absStack
  apply List.map_congr_left
  intro x hx
  unfold elemOf nameOf; rw [h x hx]

/-! ### primitive triples -/

theorem apply_elemName {d d' : Dom} {h : Id} {out : Output} (ha : d.apply (.elemName h) = .ok (d', out)) :
    d' = d ∧ out = .name (nameOf d h).ns (nameOf d h).loc ∧ d.isElement h = true := by
  unfold Dom.apply Dom.applyV at ha
  simp only [bind, Except.bind] at ha
  cases he : d.elemName h with
  | error e => simp [he] at ha
  | ok v =>
    obtain ⟨ns, loc⟩ := v
    simp [he] at ha
    refine ⟨ha.1.symm, ?_, isElement_of_elemName he⟩
    unfold nameOf; rw [he]; exact ha.2.symm

theorem tot_elemName (s : State) (h : Id) :
    Tot (elemName h) s (fun n s' calls => (n = nameOf s.dom h ∧ s.dom.isElement h = true) ∧ SameTB s s' ∧ edits calls = []) := by
  unfold elemName
  refine tot_bind (tot_sink trivial ?_)
  intro d' out ha
  obtain ⟨hd, ho, he⟩ := apply_elemName ha
  subst ho
  exact tot_pure ⟨⟨rfl, he⟩, SameTB.afterCall .., rfl⟩

theorem tot_elemName' (s : State) (h : Id) : Tot (elemName h) s (QueryQ s (nameOf s.dom h)) :=
  tot_conseq (tot_elemName s h) fun _ _ _ _ ⟨⟨h1, _⟩, h2, h3⟩ => ⟨h1, h2, h3⟩

theorem tot_sameNode (s : State) (x y : Id) : Tot (sameNode x y) s (QueryQ s (x == y)) := by
  unfold sameNode sinkBool
  refine tot_bind (tot_sink trivial ?_)
  intro d' out ha
  have : d' = s.dom ∧ out = .bool (x == y) := by
    unfold Dom.apply Dom.applyV at ha; simp [Dom.sameNode] at ha; exact ⟨ha.1.symm, ha.2.symm⟩
  obtain ⟨_, ho⟩ := this
  subst ho
  exact tot_pure ⟨rfl, SameTB.afterCall .., rfl⟩

theorem tot_parseError (s : State) (msg : String) : Tot (parseError msg) s (QueryQ s ()) := by
  unfold parseError sinkUnit
  refine tot_bind (tot_sink trivial ?_)
  intro d' out _
  exact tot_pure ⟨rfl, SameTB.afterCall .., rfl⟩

theorem tot_htmlElemNamedS (s : State) (h : Id) (name : Str) :
    Tot (htmlElemNamedS h name) s (QueryQ s ((nameOf s.dom h).ns == nsHtml && (nameOf s.dom h).loc == name)) := by
  unfold htmlElemNamedS
  refine tot_query_bind (tot_elemName' s h) fun s1 c1 _ hs hc => ?_
  exact tot_pure ⟨rfl, hs, by simp [hc]⟩

theorem tot_htmlElemNamed (s : State) (h : Id) (name : String) :
    Tot (htmlElemNamed h name) s (QueryQ s ((elemOf s.dom h).name.isHtml name)) :=
  tot_htmlElemNamedS s h name.toList

theorem tot_elemIn (s : State) (h : Id) (set : EName → Bool) :
    Tot (elemIn h set) s (QueryQ s (set (nameOf s.dom h))) := by
  unfold elemIn
  refine tot_query_bind (tot_elemName' s h) fun s1 c1 _ hs hc => ?_
  exact tot_pure ⟨rfl, hs, by simp [hc]⟩

/-- the template contents the sink reports (a dummy when there are none) -/
def tcOf (d : Dom) (x : Id) : Id := (d.templateContentsOf x).getD 0

theorem apply_getTemplateContents {d d' : Dom} {x : Id} {out : Output}
    (ha : d.apply (.getTemplateContents x) = .ok (d', out)) : d' = d ∧ out = .node (tcOf d x) := by
  unfold Dom.apply Dom.applyV at ha
  simp only [bind, Except.bind] at ha
  cases he : d.getTemplateContents x with
  | error e => simp [he] at ha
  | ok tc =>
    simp [he] at ha
    refine ⟨ha.1.symm, ?_⟩
    rw [← ha.2]
    unfold Dom.getTemplateContents at he
    simp only [bind, Except.bind] at he
    cases hg : d.get x with
    | error e => simp [hg] at he
    | ok nd =>
      simp only [hg] at he
      unfold tcOf Dom.templateContentsOf
      rw [dataOf_of_node (get_ok.mp hg)]
      cases hd : nd.data with
      | element n a t ip =>
        cases t with
        | none => simp [hd, throw, throwThe, MonadExceptOf.throw] at he
        | some tc' => simp [hd] at he; simp [he]
      | _ => simp [hd, throw, throwThe, MonadExceptOf.throw] at he

theorem tot_getTemplateContents (s : State) (x : Id) :
    Tot (sinkNode (.getTemplateContents x)) s (QueryQ s (tcOf s.dom x)) := by
  unfold sinkNode
  refine tot_bind (tot_sink trivial ?_)
  intro d' out ha
  obtain ⟨_, ho⟩ := apply_getTemplateContents ha
  subst ho
  exact tot_pure ⟨rfl, SameTB.afterCall .., rfl⟩

/-- an edit call without answer -/
theorem tot_sinkUnit {op : SinkOp} (s : State) (ht : Tame op) :
    Tot (sinkUnit op) s (fun _ s' calls => ∃ d' out, s.dom.apply op = .ok (d', out) ∧
      s' = afterCall s d' op out ∧ calls = [(op, out)]) := by
  unfold sinkUnit
  refine tot_bind (tot_sink ht ?_)
  intro d' out ha
  exact tot_pure ⟨d', out, ha, rfl, rfl⟩

/-- a sink call that answers `unit` -/
theorem tot_sinkUnit_unit' {op : SinkOp} (s : State) (ht : Tame op)
    (hu : ∀ d d' out, Dom.apply d op = .ok (d', out) → out = .unit) :
    Tot (sinkUnit op) s (fun _ s' calls => SameTB s s' ∧ calls = [(op, .unit)]) := by
  refine tot_conseq (tot_sinkUnit s ht) fun _ s' calls _ ⟨d', out, ha, hs, hc⟩ => ?_
  have := hu _ _ _ ha
  subst this
  exact ⟨hs ▸ SameTB.afterCall .., hc⟩

theorem tot_afRemove (s : State) (i : Nat) (site : String) (hi : i < s.activeFormatting.length) :
    Tot (afRemove i site) s (fun _ s' calls =>
      s' = { s with activeFormatting := s.activeFormatting.eraseIdx i } ∧ calls = []) := by
  unfold afRemove
  refine tot_getS_bind ?_
  simp only [hi, if_true]
  unfold setAF
  exact tot_modS rfl rfl ⟨rfl, rfl⟩

/-- the flags `create_element_with_flags` computes -/
def flagsFor (name : QualName) (attrs : List Attr) (hadDup : Bool) : ElementFlags :=
  { template := name.ns == nsHtml && isName name.loc "template"
    mathmlIP :=
      if name.ns == nsMathml && isName name.loc "annotation-xml" then
        attrs.any (fun a => a.name.ns == [] && isName a.name.loc "encoding" &&
          (eqIgnoreAsciiCase a.value "text/html".toList ||
           eqIgnoreAsciiCase a.value "application/xhtml+xml".toList))
      else false
    hadDuplicateAttributes := hadDup }

/-- the `create_element` call for a tag in a namespace, answered with the node `new` -/
def createCall (ns : Str) (tag : Tag) (new : Id) : Call :=
  (.createElement { pfx := none, ns := ns, loc := tag.name } tag.attrs
      (flagsFor { pfx := none, ns := ns, loc := tag.name } tag.attrs tag.hadDup), .node new)

theorem createElement_facts (d : Dom) (name : QualName) (attrs : List Attr) (flags : ElementFlags) :
    let r := d.createElement name attrs flags
    d.size ≤ r.2 ∧ r.1.elemName r.2 = .ok (name.ns, name.loc) := by
  unfold Dom.createElement
  by_cases ht : flags.template = true
  · simp only [ht, if_true]
    refine ⟨by simp [Dom.alloc, Dom.size], ?_⟩
    unfold Dom.elemName
    have hn : (((d.alloc .document).1).alloc (.element name attrs (some (d.alloc .document).2) flags.mathmlIP)).1.node?
        (((d.alloc .document).1).alloc (.element name attrs (some (d.alloc .document).2) flags.mathmlIP)).2
        = some { data := .element name attrs (some (d.alloc .document).2) flags.mathmlIP } := by
      rw [node?_alloc]; simp [alloc_id]
    simp only [bind, Except.bind, get_ok_of hn]
  · have ht' : flags.template = false := by simpa using ht
    simp only [ht', Bool.false_eq_true, if_false]
    refine ⟨by simp [Dom.alloc, Dom.size], ?_⟩
    unfold Dom.elemName
    have hn : (d.alloc (.element name attrs none flags.mathmlIP)).1.node? (d.alloc (.element name attrs none flags.mathmlIP)).2
        = some { data := .element name attrs none flags.mathmlIP } := by
      rw [node?_alloc]; simp [alloc_id]
    simp only [bind, Except.bind, get_ok_of hn]

/-- `create_element_with_flags`: one `create_element` call; the node is fresh and is an element of
the given type -/
theorem tot_createElementWithFlags (s : State) (ns : Str) (tag : Tag) :
    Tot (createElementWithFlags { pfx := none, ns := ns, loc := tag.name } tag.attrs tag.hadDup) s
      (fun new s' calls => SameTB s s' ∧ calls = [createCall ns tag new] ∧ s.dom.size ≤ new ∧
        s'.dom.isElement new = true ∧ nameOf s'.dom new = ⟨ns, tag.name⟩) := by
  unfold createElementWithFlags sinkNode
  refine tot_bind (tot_sink trivial ?_)
  intro d' out ha
  have hfacts := createElement_facts s.dom { pfx := none, ns := ns, loc := tag.name } tag.attrs
    (flagsFor { pfx := none, ns := ns, loc := tag.name } tag.attrs tag.hadDup)
  have : d' = (s.dom.createElement { pfx := none, ns := ns, loc := tag.name } tag.attrs
      (flagsFor { pfx := none, ns := ns, loc := tag.name } tag.attrs tag.hadDup)).1 ∧
      out = .node (s.dom.createElement { pfx := none, ns := ns, loc := tag.name } tag.attrs
      (flagsFor { pfx := none, ns := ns, loc := tag.name } tag.attrs tag.hadDup)).2 := by
    unfold Dom.apply Dom.applyV at ha
    simp only [flagsFor] at ha ⊢
    cases ha; exact ⟨rfl, rfl⟩
  obtain ⟨hd, ho⟩ := this
  subst ho
  refine tot_pure ⟨SameTB.afterCall .., rfl, hfacts.1, ?_, ?_⟩
  · show d'.isElement _ = true
    rw [hd]; exact isElement_of_elemName hfacts.2
  · show nameOf d' _ = _
    rw [hd]; unfold nameOf; rw [hfacts.2]

end H5V.Lemmas.HtmlTBAlgo
