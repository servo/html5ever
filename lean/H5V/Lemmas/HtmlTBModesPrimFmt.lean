import H5V.Lemmas.HtmlTBModesDefs
/-!
Simulation lemmas for the primitives of `Model/HtmlTB/Actions.lean` that deal with the list of active
formatting elements and with resetting the insertion mode, against `Spec/TreeModes{1,2,3}.lean`.
-/
namespace H5V.Lemmas.HtmlTBModes
open H5V.Model.HtmlTB
open H5V.Model.Dom (Id SinkOp Output Dom QualName Attr NodeOrText ElementFlags NodeData QuirksMode)
open H5V.Lemmas.HtmlTBAlgo
open H5V.Lemmas.TBSafe (TI HInv SInv Rooted)
open H5V.Spec.TreeAlgo2 (Elem Entry PState Ctx Edit Place)
open H5V.Spec.TreeModes (STok ETok IMode Config Out TokSwitch XOp Op Step Edition)


/-! ### the abstraction of the list of active formatting elements -/

theorem entryE_eq (e : FormatEntry) : entryE e = Entry.mapTok etokOf (absEntry e) := by cases e <;> rfl

theorem absListE_mapTok (af : List FormatEntry) : absListE af = (absList af).map (Entry.mapTok etokOf) := by
  simp only [absListE, absList, List.map_map]
  apply List.map_congr_left
  intro e _
  exact entryE_eq e

theorem MInv.withAF {s : State} (h : MInv s) (af : List FormatEntry)
    (hsub : ∀ x t, FormatEntry.element x t ∈ af → FormatEntry.element x t ∈ s.activeFormatting) :
    MInv { s with activeFormatting := af } :=
  ⟨h.elems, h.root, fun x t hx => h.af x t (hsub _ _ hx), fun x t hx => h.afEl x t (hsub _ _ hx), h.head, h.ctx,
    fun x t hx => h.afwf x t (hsub _ _ hx), h.ip, h.tmodes, h.form, h.pend⟩

/-! ### glue for steps that change the stack and the list only -/

theorem sbsl_fields {s s' : State} (h : SameButStackList s s') : SameButSL s s' := by
  unfold SameButStackList at h
  constructor <;> rw [h]

theorem sbsl_refl (s : State) : SameButStackList s s := rfl
theorem sbsl_trans {a b c : State} (h1 : SameButStackList a b) (h2 : SameButStackList b c) : SameButStackList a c := by
  unfold SameButStackList at *; rw [h2, h1]
theorem sbsl_of_sameTB {s s' : State} (h : SameTB s s') : SameButStackList s s' := by
  unfold SameTB at h; unfold SameButStackList; rw [h]

theorem cfgOf_sbsl {s s' : State} (hm : MInv s) (hS : SameButStackList s s') (he : TBSafe.Ext s.dom s'.dom) :
    cfgOf s' = cfgOf s := cfgOf_of_sameButSL hm (sbsl_fields hS) he

/-- `absF` after a step that changed the stack, the list and the DOM only -/
theorem absF_sbsl {s s' : State} (x : Aux) (hm : MInv s) (hS : SameButStackList s s') (he : TBSafe.Ext s.dom s'.dom) :
    absF s' x = { absF s x with p := absP s' x } := by
  have f := sbsl_fields hS
  have e2 : s'.headElem.map (elemOf s'.dom) = s.headElem.map (elemOf s.dom) := by
    rw [f.headElem]; exact headPointer_ext hm he
  simp only [absF, e2, f.mode, f.origMode, f.templateModes, f.pendingTableText, f.quirksMode, f.framesetOk, f.ignoreLf]

theorem absF_sbsl_step {s s' : State} (x : Aux) (hm : MInv s) (hS : SameButStackList s s') (he : TBSafe.Ext s.dom s'.dom)
    (n : Nat) (L : List (Edit Id Tag)) :
    absF s' (x.step n L []) = { absF s x with p := absP s' (x.step n L []) } := by
  rw [absF_sbsl _ hm hS he]
  simp [absF, Aux.step]

/-- the `PState` after a phase-1 step that consumed `ids` and logged `L` -/
theorem absP_step (s' : State) {x : Aux} (hx : x.stopped = false) {ids rest : List Id} (hs : x.supply = ids ++ rest)
    (L : List (Edit Id Tag)) (na : List Id) :
    mapP etokOf (absState s' rest (x.logT ++ L)) = absP s' (x.step ids.length L na) := by
  rw [mapP_absState, List.map_append, Aux.logT_map]
  simp [absP, Aux.step, hx, hs]

/-- the invariant after a step that shrinks the stack and the list -/
theorem MInv.of_sub {s s' : State} (hm : MInv s) (hS : SameButStackList s s') (he : TBSafe.Ext s.dom s'.dom)
    (ho : ∀ h ∈ s'.openElems, h ∈ s.openElems)
    (hhead : ∀ h0, s'.openElems.head? = some h0 → s.openElems.head? = some h0)
    (ha : ∀ y t, FormatEntry.element y t ∈ s'.activeFormatting → FormatEntry.element y t ∈ s.activeFormatting) :
    MInv s' := hm.of_shrinkE (sbsl_fields hS) he ho hhead ha

/-- a stretch without DOM edits in which the stack does not get new entries -/
theorem Tr.of_quiet {s s' : State} {calls : List Call} (hm : MInv s) (he : Ext2 s calls s') (hc : edits2 calls = [])
    (ho : ∀ h ∈ s'.openElems, h ∈ s.openElems) (hm' : MInv s') (hcfg : cfgOf s' = cfgOf s) :
    Tr s s' calls (fun x x' => x' = x) := by
  refine ⟨hm', hcfg, he.ext, [], FreshIds.nil _, fun x rest hx hs => ⟨x, ⟨⟨hx.live, ?_, ?_, hx.xlog⟩, by simpa using hs, rfl, rfl, rfl, [],
    by simp, fun _ _ => by rw [hc]; rfl⟩, rfl⟩⟩
  · have := annot_of_sub he.ext hm ho x hx
    simpa using this
  · intro a ha; exact isElement_ext he.ext (hx.annotEl a ha)

/-! ### 1. markers -/

/-- `pushMarker` (Actions.lean) ↔ `State.insertMarker` (TreeModes1) -/
theorem pc_pushMarker {s : State} (hm : MInv s) :
    PC pushMarker s (fun _ s' calls => s' = { s with activeFormatting := s.activeFormatting ++ [.marker] } ∧
      Tr s s' calls (fun x x' => x' = x ∧ Spec.TreeModes.State.insertMarker (absF s x) = absF s' x')) := by
  unfold pushMarker
  refine pc_modS rfl rfl ⟨rfl, ?_⟩
  refine (Tr.of_upd (s' := { s with activeFormatting := s.activeFormatting ++ [.marker] }) hm rfl (fun _ h => h)
    (hm.withAF _ ?_) rfl).conseq ?_
  · intro y t he
    rcases List.mem_append.mp he with h | h
    · exact h
    · simp at h
  · rintro x x' _ _ rfl
    refine ⟨rfl, ?_⟩
    simp [absF, absP, Spec.TreeModes.State.insertMarker, Spec.TreeModes.State.setList, absListE, entryE]

/-- `clearActiveFormattingToMarker` (Actions.lean) ↔ `State.clearToLastMarker` (TreeModes1) -/
theorem pc_clearActiveFormattingToMarker {s : State} (hm : MInv s) :
    PC clearActiveFormattingToMarker s (fun _ s' calls =>
      s' = { s with activeFormatting := (clearToMarkerRev s.activeFormatting.reverse).reverse } ∧
      Tr s s' calls (fun x x' => x' = x ∧ Spec.TreeModes.State.clearToLastMarker (absF s x) = absF s' x')) := by
  unfold clearActiveFormattingToMarker
  refine pc_modS rfl rfl ⟨rfl, ?_⟩
  refine (Tr.of_upd (s' := { s with activeFormatting := (clearToMarkerRev s.activeFormatting.reverse).reverse }) hm rfl
    (fun _ h => h) (hm.withAF _ ?_) rfl).conseq ?_
  · intro y t he
    exact TBSafe.mem_clearedAF he
  · rintro x x' _ _ rfl
    refine ⟨rfl, ?_⟩
    have e : absListE ((clearToMarkerRev s.activeFormatting.reverse).reverse)
        = Spec.TreeAlgo2.clearToLastMarker (absListE s.activeFormatting) := by
      rw [absListE_mapTok, clearToMarker_eq, absListE_mapTok, clearToLastMarker_map]
    simp only [absF, absP, Spec.TreeModes.State.clearToLastMarker, Spec.TreeModes.State.setList, e]

/-! ### 5. reset the insertion mode appropriately -/

open H5V.Lemmas.HtmlTBSpec (toName toSpecMode modelResetStep resetStep_eq)

/-- one iteration of `resetLoop`, by the pure step function `modelResetStep` of `HtmlTBSpecStack` -/
theorem pc_resetLoop_step (s1 : State) (node : Id) (rest : List Id) (len : Nat) (nd : Id)
    (Q : Mode → State → List Call → Prop)
    (hnd : nd = if (len - 1 == 0) = true then s1.contextElem.getD node else node)
    (h1 : ∀ m s2 c2, Ext2 s1 c2 s2 → SameTB s1 s2 → edits c2 = [] →
      modelResetStep (nameOf s1.dom nd) (len - 1 == 0) s1.templateModes.getLast? s1.headElem.isNone = some (some m) →
      Q m s2 c2)
    (h2 : ∀ s2 c2, Ext2 s1 c2 s2 → SameTB s1 s2 → edits c2 = [] →
      modelResetStep (nameOf s1.dom nd) (len - 1 == 0) s1.templateModes.getLast? s1.headElem.isNone = none →
      PC (resetLoop rest (len - 1)) s2 (fun b s3 c3 => Q b s3 (c2 ++ c3))) :
    PC (resetLoop (node :: rest) len) s1 Q := by
  simp only [resetLoop]
  refine pc_getS_bind ?_
  have hnode : ∀ (f : Id → M Mode), PC (f nd) s1 Q → PC (f (match len - 1 == 0, s1.contextElem with
      | true, some ctx => ctx
      | _, _ => node)) s1 Q := by
    intro f hf
    split
    · rename_i hl hc
      rw [hl, hc] at hnd; simp at hnd; subst hnd; exact hf
    · rename_i hne
      cases hl : (len - 1 == 0) with
      | false => rw [hl] at hnd; simp at hnd; subst hnd; exact hf
      | true =>
        cases hc : s1.contextElem with
        | none => rw [hl, hc] at hnd; simp at hnd; subst hnd; exact hf
        | some c => exact absurd hc (hne c hl)
  refine hnode (fun x => elemName x >>= _) ?_
  refine pc_query_bind (PC.of_tot (tot_elemName' s1 nd)) ?_
  intro s2 c2 he2 hs2 hc2
  have H1 := fun m => h1 m s2 c2 he2 hs2 hc2
  have H2 := h2 s2 c2 he2 hs2 hc2
  generalize nameOf s1.dom nd = n at H1 H2 ⊢
  simp only [modelResetStep] at H1 H2
  have leaf : ∀ m, Q m s2 c2 → PC (pure m : M Mode) s2 (fun b s3 c3 => Q b s3 (c2 ++ c3)) :=
    fun m hq => pc_pure (by rw [List.append_nil]; exact hq)
  by_cases c0 : (n.ns != nsHtml) = true
  · simp only [if_pos c0] at H2 ⊢; exact H2 trivial
  simp only [if_neg c0] at H1 H2 ⊢
  by_cases c1 : (isOneOf n.loc ["td", "th"] && !(len - 1 == 0)) = true
  · simp only [if_pos c1] at H1 ⊢; exact leaf _ (H1 _ rfl)
  simp only [if_neg c1] at H1 H2 ⊢
  by_cases c2 : (isName n.loc "tr") = true
  · simp only [if_pos c2] at H1 ⊢; exact leaf _ (H1 _ rfl)
  simp only [if_neg c2] at H1 H2 ⊢
  by_cases c3 : (isOneOf n.loc ["tbody", "thead", "tfoot"]) = true
  · simp only [if_pos c3] at H1 ⊢; exact leaf _ (H1 _ rfl)
  simp only [if_neg c3] at H1 H2 ⊢
  by_cases c4 : (isName n.loc "caption") = true
  · simp only [if_pos c4] at H1 ⊢; exact leaf _ (H1 _ rfl)
  simp only [if_neg c4] at H1 H2 ⊢
  by_cases c5 : (isName n.loc "colgroup") = true
  · simp only [if_pos c5] at H1 ⊢; exact leaf _ (H1 _ rfl)
  simp only [if_neg c5] at H1 H2 ⊢
  by_cases c6 : (isName n.loc "table") = true
  · simp only [if_pos c6] at H1 ⊢; exact leaf _ (H1 _ rfl)
  simp only [if_neg c6] at H1 H2 ⊢
  by_cases c7 : (isName n.loc "template") = true
  · simp only [if_pos c7] at H1 ⊢
    cases hg : s1.templateModes.getLast? with
    | none => exact pc_panicAt
    | some m => simp only [hg] at H1 ⊢; exact leaf _ (H1 _ rfl)
  simp only [if_neg c7] at H1 H2 ⊢
  by_cases c8 : (isName n.loc "head") = true
  · simp only [if_pos c8] at H1 H2 ⊢
    by_cases cl : (!(len - 1 == 0)) = true
    · simp only [if_pos cl] at H1 ⊢; exact leaf _ (H1 _ rfl)
    · simp only [if_neg cl] at H2 ⊢; exact H2 trivial
  simp only [if_neg c8] at H1 H2 ⊢
  by_cases c9 : (isName n.loc "body") = true
  · simp only [if_pos c9] at H1 ⊢; exact leaf _ (H1 _ rfl)
  simp only [if_neg c9] at H1 H2 ⊢
  by_cases c10 : (isName n.loc "frameset") = true
  · simp only [if_pos c10] at H1 ⊢; exact leaf _ (H1 _ rfl)
  simp only [if_neg c10] at H1 H2 ⊢
  by_cases c11 : (isName n.loc "html") = true
  · simp only [if_pos c11] at H1 ⊢
    cases hh : s1.headElem with
    | none => simp only [hh, Option.isNone_none, if_true] at H1 ⊢; exact leaf _ (H1 _ rfl)
    | some v => simp only [hh, Option.isNone_some, Bool.false_eq_true, if_false] at H1 ⊢; exact leaf _ (H1 _ rfl)
  simp only [if_neg c11] at H2 ⊢
  exact H2 trivial

/-- the specification's "reset the insertion mode appropriately" on the names of the handles `l`
(current node first) of the state `s` -/
def resetSpec (s : State) (l : List Id) : Option Spec.TreeAlgo.Mode :=
  Spec.TreeAlgo.resetInsertionMode (s.contextElem.map (fun c => toName (nameOf s.dom c))) s.headElem.isNone
    (s.templateModes.getLast?.map toSpecMode) (l.map (fun h => toName (nameOf s.dom h)))

/-- `resetLoop` (Actions.lean) answers `Spec.TreeAlgo.resetInsertionMode` and only queries the sink -/
theorem pc_resetLoop (s : State) (hm : MInv s) : ∀ (l : List Id) (s1 : State), (∀ h ∈ l, h ∈ s.openElems) →
    SameTB s s1 → TBSafe.Ext s.dom s1.dom →
    PC (resetLoop l l.length) s1 (fun m s2 calls => SameTB s1 s2 ∧ edits calls = [] ∧
      resetSpec s l = some (toSpecMode m)) := by
  intro l
  induction l with
  | nil =>
    intro s1 _ _ _
    simp only [resetLoop]
    exact pc_pure ⟨SameTB.refl _, rfl, rfl⟩
  | cons node rest ih =>
    intro s1 hsub hs1 hx1
    have f1 := hs1.fields
    have hnodeEl : s.dom.isElement node = true := hm.elems node (hsub node (List.mem_cons_self ..))
    -- the node under inspection
    have hndEl : s.dom.isElement (if ((rest.length + 1) - 1 == 0) = true then s1.contextElem.getD node else node) = true := by
      split
      · rw [f1.contextElem]
        cases hc : s.contextElem with
        | none => exact hnodeEl
        | some c => exact hm.ctx c hc
      · exact hnodeEl
    have hname : toName (nameOf s1.dom (if ((rest.length + 1) - 1 == 0) = true then s1.contextElem.getD node else node))
        = (if rest.isEmpty then (s.contextElem.map (fun c => toName (nameOf s.dom c))).getD (toName (nameOf s.dom node))
            else toName (nameOf s.dom node)) := by
      rw [nameOf_ext hx1 hndEl, HtmlTBSpec.len_last, f1.contextElem]
      cases rest.isEmpty with
      | false => rfl
      | true => cases s.contextElem <;> rfl
    have hlist : ∀ x : Spec.TreeAlgo.Mode, resetSpec s (node :: rest)
        = (Spec.TreeAlgo.resetStep (toName (nameOf s1.dom (if ((rest.length + 1) - 1 == 0) = true then s1.contextElem.getD node else node)))
            rest.isEmpty (s.templateModes.getLast?.map toSpecMode) s.headElem.isNone).getD (resetSpec s rest) := by
      intro _
      rw [hname]
      simp only [resetSpec, List.map_cons, Spec.TreeAlgo.resetInsertionMode, List.isEmpty_map]
    simp only [List.length_cons]
    refine pc_resetLoop_step s1 node rest (rest.length + 1) _ _ rfl ?_ ?_
    · intro m s2 c2 _ hs2 hc2 hstep
      refine ⟨hs2, hc2, ?_⟩
      rw [hlist .inBody, resetStep_eq, ← f1.templateModes, ← f1.headElem, ← HtmlTBSpec.len_last, hstep]
      rfl
    · intro s2 c2 he2 hs2 hc2 hstep
      have hsp : resetSpec s (node :: rest) = if rest.isEmpty then some .inBody else resetSpec s rest := by
        rw [hlist .inBody, resetStep_eq, ← f1.templateModes, ← f1.headElem, ← HtmlTBSpec.len_last, hstep]
        simp only []
        cases ((rest.length + 1) - 1 == 0) <;> rfl
      cases rest with
      | nil =>
        simp only [resetLoop]
        refine pc_pure ⟨hs2, by rw [List.append_nil]; exact hc2, ?_⟩
        rw [hsp]; rfl
      | cons a r =>
        have hlen : (a :: r).length + 1 - 1 = (a :: r).length := rfl
        rw [hlen]
        refine pc_conseq (ih s2 (fun h hh => hsub h (List.mem_cons_of_mem _ hh)) (hs1.trans hs2) (hx1.trans he2.ext)) ?_
        rintro m s3 c3 _ ⟨hs3, hc3, hspec⟩
        refine ⟨hs2.trans hs3, by rw [edits_append, hc2, hc3]; rfl, ?_⟩
        rw [hsp]; exact hspec

theorem resetStep_inTableText (node : Spec.TreeAlgo.Name) (last : Bool) (tm : Option Spec.TreeAlgo.Mode) (hn : Bool)
    (h : Spec.TreeAlgo.resetStep node last tm hn = some (some .inTableText)) : tm = some .inTableText := by
  unfold Spec.TreeAlgo.resetStep at h
  by_cases c0 : ((node.isHtml "td" || node.isHtml "th") && !last) = true
  · rw [if_pos c0] at h; cases h
  rw [if_neg c0] at h
  by_cases c1 : node.isHtml "tr" = true
  · rw [if_pos c1] at h; cases h
  rw [if_neg c1] at h
  by_cases c2 : (node.isHtml "tbody" || node.isHtml "thead" || node.isHtml "tfoot") = true
  · rw [if_pos c2] at h; cases h
  rw [if_neg c2] at h
  by_cases c3 : node.isHtml "caption" = true
  · rw [if_pos c3] at h; cases h
  rw [if_neg c3] at h
  by_cases c4 : node.isHtml "colgroup" = true
  · rw [if_pos c4] at h; cases h
  rw [if_neg c4] at h
  by_cases c5 : node.isHtml "table" = true
  · rw [if_pos c5] at h; cases h
  rw [if_neg c5] at h
  by_cases ct : node.isHtml "template" = true
  · rw [if_pos ct] at h; injection h
  rw [if_neg ct] at h
  by_cases c6 : (node.isHtml "head" && !last) = true
  · rw [if_pos c6] at h; cases h
  rw [if_neg c6] at h
  by_cases c7 : node.isHtml "body" = true
  · rw [if_pos c7] at h; cases h
  rw [if_neg c7] at h
  by_cases c8 : node.isHtml "frameset" = true
  · rw [if_pos c8] at h; cases h
  rw [if_neg c8] at h
  by_cases ch : node.isHtml "html" = true
  · rw [if_pos ch] at h; cases hn <;> cases h
  rw [if_neg ch] at h
  cases last <;> cases h

theorem reset_inTableText (ctx : Option Spec.TreeAlgo.Name) (hn : Bool) (tm : Option Spec.TreeAlgo.Mode) :
    ∀ l, Spec.TreeAlgo.resetInsertionMode ctx hn tm l = some .inTableText → tm = some .inTableText := by
  intro l
  induction l with
  | nil => intro h; cases h
  | cons a r ih =>
    intro h
    simp only [Spec.TreeAlgo.resetInsertionMode] at h
    cases hs : Spec.TreeAlgo.resetStep (if r.isEmpty then ctx.getD a else a) r.isEmpty tm hn with
    | none => rw [hs] at h; exact ih h
    | some v => 
      rw [hs] at h
      simp only [Option.getD_some] at h
      subst h
      exact resetStep_inTableText _ _ _ _ hs

theorem toAlgo_imode (m : Mode) : IMode.toAlgo (imode m) = some (toSpecMode m) := by cases m <;> rfl
theorem ofAlgo_toSpecMode (m : Mode) : IMode.ofAlgo (toSpecMode m) = imode m := by cases m <;> rfl

/-- the specification's `resetInsertionMode` on an abstract state, by `resetSpec` -/
theorem spec_reset_eq {s : State} {x : Aux} (hx : AuxOk s x) {m : Mode}
    (h : resetSpec s s.openElems.reverse = some (toSpecMode m)) :
    Spec.TreeModes.resetInsertionMode (cfgOf s) (absF s x) = .ok ((absF s x).setMode (imode m)) := by
  have e1 : (absF s x).templateModes.getLast?.bind IMode.toAlgo = s.templateModes.getLast?.map toSpecMode := by
    simp only [absF, List.getLast?_map]
    cases s.templateModes.getLast? with
    | none => rfl
    | some m' => simp [toAlgo_imode]
  have e2 : (cfgOf s).context.map (·.name) = s.contextElem.map (fun c => toName (nameOf s.dom c)) := by
    simp only [cfgOf, Option.map_map]; rfl
  have e3 : (absF s x).headPointer.isNone = s.headElem.isNone := by
    simp only [absF]; cases s.headElem <;> rfl
  have e4 : (absF s x).names = s.openElems.reverse.map (fun h => toName (nameOf s.dom h)) := by
    simp only [Spec.TreeModes.State.names, absF, absP, hx.live, Bool.false_eq_true, if_false, absStack, List.map_reverse,
      List.map_map]
    rfl
  have e5 : (cfgOf s).edition = .customizableSelect := rfl
  unfold resetSpec at h
  simp only [Spec.TreeModes.resetInsertionMode, e1, e2, e3, e4, e5, h, Option.map_some, ofAlgo_toSpecMode,
    Spec.TreeModes.req]
  rfl

/-- `resetInsertionMode` (Actions.lean: `resetLoop`) ↔ `Spec.TreeModes.resetInsertionMode` (TreeModes1,
2025 edition): a query; the mode returned is the one the specification switches to.  (The specification
switches the mode itself; the model's callers do `setMode m` next: `pc_setMode_junk`, `pc_resetAndSetMode`.) -/
theorem pc_resetInsertionMode {s : State} (hm : MInv s) :
    PC resetInsertionMode s (fun m s' calls => SameTB s s' ∧
      (m = .inTableText → s.templateModes.getLast? = some .inTableText) ∧
      Tr s s' calls (fun x x' => x' = x ∧ absF s x = absF s' x ∧
        Spec.TreeModes.resetInsertionMode (cfgOf s) (absF s x) = .ok ((absF s x).setMode (imode m)))) := by
  unfold resetInsertionMode
  refine pc_getS_bind ?_
  have := pc_resetLoop s hm s.openElems.reverse s (fun h hh => List.mem_reverse.mp hh) (SameTB.refl _) (TBSafe.Ext.refl _)
  rw [List.length_reverse] at this
  intro m s' hr
  obtain ⟨calls, he, hs, hc, hspec⟩ := this m s' hr
  refine ⟨calls, he, hs, ?_, ?_⟩
  · intro hm'
    subst hm'
    have := reset_inTableText _ _ _ _ hspec
    cases hg : s.templateModes.getLast? with
    | none => rw [hg] at this; cases this
    | some m' =>
      rw [hg] at this
      simp only [Option.map_some, Option.some.injEq] at this
      rw [HtmlTBSpec.toSpecMode_inj (a := m') (b := .inTableText) this]
  · refine (Tr.of_same hm hs he (by rw [← edits2_edits, hc]; rfl)).conseq ?_
    rintro x x' hx _ ⟨rfl, e⟩
    exact ⟨rfl, e, spec_reset_eq hx hspec⟩

/-- `setMode m` (m ≠ "in table text") with the `pendingJunk` adjustment:
`absF s' x' = (absF s x).setMode (imode m)` -/
theorem pc_setMode_junk {s : State} (hm : MInv s) (m : Mode) (hne : m ≠ .inTableText) :
    PC (setMode m) s (fun _ s' calls => s' = { s with mode := m } ∧
      Tr s s' calls (fun x x' => x' = { x with pendingJunk := (absF s x).pendingTableChars } ∧
        absF s' x' = (absF s x).setMode (imode m))) := by
  unfold setMode
  refine pc_modS rfl rfl ⟨rfl, ?_⟩
  refine ⟨hm.withMode m, rfl, TBSafe.Ext.refl _, [], FreshIds.nil _, fun x rest hx hs => ?_⟩
  refine ⟨{ x with pendingJunk := (absF s x).pendingTableChars }, ⟨⟨hx.live, hx.annot, hx.annotEl, hx.xlog⟩, by simpa using hs,
    rfl, rfl, rfl, [], by simp [Aux.fullLog], fun _ _ => rfl⟩, rfl, ?_⟩
  have : (m == Mode.inTableText) = false := by
    cases m <;> first | rfl | exact absurd rfl hne
  simp only [absF, absP, this, Bool.false_eq_true, if_false, Spec.TreeModes.State.setMode]

/-- `let m ← resetInsertionMode; setMode m` ↔ `Spec.TreeModes.resetInsertionMode` -/
theorem pc_resetAndSetMode {s : State} (hm : MInv s) :
    PC (resetInsertionMode >>= fun m => setMode m) s (fun _ s' calls =>
      (∃ m, s' = { s with mode := m, dom := s'.dom, traceRev := s'.traceRev }) ∧
      Tr s s' calls (fun x x' => Spec.TreeModes.resetInsertionMode (cfgOf s) (absF s x) = .ok (absF s' x'))) := by
  have htm : s.templateModes.getLast? ≠ some .inTableText :=
    fun h => hm.tmodes _ (List.mem_of_getLast? h) rfl
  refine pc_seq (pc_resetInsertionMode hm) ?_
  rintro m s1 c1 he1 ⟨hs1, hne, htr1⟩
  refine pc_conseq (pc_setMode_junk htr1.1 m (fun h => htm (hne h))) ?_
  rintro _ s2 c2 _ ⟨hs2, htr2⟩
  refine ⟨⟨m, ?_⟩, (htr1.trans htr2).conseq ?_⟩
  · rw [hs2]; unfold SameTB at hs1; rw [hs1]
  · rintro x x2 _ _ ⟨x1, ⟨hx1, e1, r1⟩, _, r2⟩
    subst hx1
    rw [r1, r2, e1]

/-! ### 6. close the cell -/

theorem mem_clearRev {N T : Type} {e : Entry N T} : ∀ {l : List (Entry N T)}, e ∈ Spec.TreeAlgo2.clearRev l → e ∈ l := by
  intro l
  induction l with
  | nil => intro h; exact h
  | cons a r ih =>
    intro h
    simp only [Spec.TreeAlgo2.clearRev] at h
    split at h
    · exact List.mem_cons_of_mem _ h
    · exact List.mem_cons_of_mem _ (ih h)

theorem mem_clearToLastMarker {N T : Type} {e : Entry N T} {l : List (Entry N T)}
    (h : e ∈ Spec.TreeAlgo2.clearToLastMarker l) : e ∈ l := by
  unfold Spec.TreeAlgo2.clearToLastMarker at h
  exact List.mem_reverse.mp (mem_clearRev (List.mem_reverse.mp h))

theorem absEntry_inj' {a b : FormatEntry} (h : absEntry a = absEntry b) : a = b := by
  cases a <;> cases b <;> simp [absEntry] at h ⊢
  exact h

/-- the specification's "close the cell" is `TreeAlgo2.closeTheCell` on `p`, the switch to "in row"
and possibly a parse error -/
theorem closeCell_eq_errs {N : Type} [DecidableEq N] (σ : Spec.TreeModes.State N) :
    ∃ errs, Spec.TreeModes.closeCell σ = { σ with p := Spec.TreeAlgo2.closeTheCell σ.p, mode := .inRow, errors := errs } := by
  unfold Spec.TreeModes.closeCell
  by_cases h : (Spec.TreeModes.genImplied σ).curIn ["td", "th"] = true
  · exact ⟨σ.errors, by simp only [h, if_true]⟩
  · exact ⟨σ.errors ++ ["close the cell: current node is not td/th"], by simp only [h]; rfl⟩

/-- `closeTheCell` (Actions.lean) ↔ steps 1–4 of the specification's `closeCell` (TreeModes3;
`TreeAlgo2.closeTheCell` on the `PState`); step 5, the switch to "in row", is the caller's
`.reprocess .inRow` -/
theorem pc_closeTheCellP {s : State} (hm : MInv s) :
    PC closeTheCell s (fun _ s' calls => SameButStackList s s' ∧ s'.openElems <+: s.openElems ∧
      (∀ y t, FormatEntry.element y t ∈ s'.activeFormatting → FormatEntry.element y t ∈ s.activeFormatting) ∧
      Tr s s' calls (fun x x' => x' = x ∧
        absF s' x = { absF s x with p := Spec.TreeAlgo2.closeTheCell (absF s x).p })) := by
  refine pc_conseq (PC.of_tot (tot_closeTheCell s hm.elems [] [])) ?_
  rintro _ s' calls he ⟨hS, hpre, hc, heq⟩
  have hS' : SameButStackList s s' := hS
  have hsub : ∀ h ∈ s'.openElems, h ∈ s.openElems := fun h hh => hpre.subset hh
  have hstack := congrArg PState.stack heq
  have hlist := congrArg PState.list heq
  simp only [Spec.TreeAlgo2.closeTheCell, absState] at hstack hlist
  have haf : ∀ y t, FormatEntry.element y t ∈ s'.activeFormatting → FormatEntry.element y t ∈ s.activeFormatting := by
    intro y t hy
    have : absEntry (.element y t) ∈ absList s'.activeFormatting := List.mem_map_of_mem hy
    rw [hlist] at this
    obtain ⟨e, he', hee⟩ := List.mem_map.mp (mem_clearToLastMarker this)
    rw [absEntry_inj' hee] at he'; exact he'
  have hm' : MInv s' := hm.of_sub hS' he.ext hsub (head?_of_prefix hpre) haf
  refine ⟨hS', hpre, haf, (Tr.of_quiet hm he (by rw [← edits2_edits, hc]; rfl) hsub hm' (cfgOf_sbsl hm hS' he.ext)).conseq ?_⟩
  rintro x x' hx _ hxx
  subst x'
  refine ⟨rfl, ?_⟩
  rw [absF_sbsl x hm hS' he.ext]
  have f := sbsl_fields hS'
  have e1 : absStack s'.dom s'.openElems = absStack s.dom s'.openElems :=
    absStack_ext (fun y hy => hm.elems y (hsub y hy)) he.ext
  have : absP s' x = Spec.TreeAlgo2.closeTheCell (absF s x).p := by
    rw [absF_p, absP_eq s x hx.live, closeTheCell_mapP, absP_eq s' x hx.live]
    congr 1
    simp only [Spec.TreeAlgo2.closeTheCell, absState, e1, hstack, hlist, f.fosterParenting, f.formElem]
  rw [this]

/-- the specification's `closeCell` on the abstract state, for the end of the callers' arms
(`closeTheCell; pure (.reprocess .inRow token)`) -/
theorem closeCell_absF {s s' : State} {x : Aux}
    (h : absF s' x = { absF s x with p := Spec.TreeAlgo2.closeTheCell (absF s x).p }) :
    ∃ errs, Spec.TreeModes.closeCell (absF s x)
      = absF { s' with mode := .inRow } { x with errors := errs, pendingJunk := (absF s x).pendingTableChars } := by
  obtain ⟨errs, he⟩ := closeCell_eq_errs (absF s x)
  refine ⟨errs, ?_⟩
  have e : absF { s' with mode := .inRow } { x with errors := errs, pendingJunk := (absF s x).pendingTableChars }
      = { absF s' x with mode := .inRow, errors := errs, pendingTableChars := (absF s x).pendingTableChars } := rfl
  rw [he, e, h]

/-! ### what the algorithms of `TreeAlgo2` do to the stack, the list, the supply and the log

`Delta P st st'`: `st'` arises from `st` by consuming the nodes `ids` of the supply and logging `L`;
every stack entry of `st'` is an entry of `st` or a new HTML element; every list entry of `st'` is an
entry of `st` or an entry for a new node with a token satisfying `P`, and the log has the `create`
for that node and token.  From this (and the replay of the model's calls) the invariant `MInv` of the
model's final state is derived (`minv_of_delta`). -/
section Delta
variable {N T : Type}

def Delta (P : T → Prop) (st st' : PState N T) : Prop :=
  ∃ (ids : List N) (L : List (Edit N T)), st.supply = ids ++ st'.supply ∧ st'.log = st.log ++ L ∧
    (∀ e ∈ st'.stack, e ∈ st.stack ∨ (e.name.ns = Spec.TreeAlgo.nsHtml ∧ e.id ∈ ids)) ∧
    (∀ n t, Entry.element n t ∈ st'.list → Entry.element n t ∈ st.list ∨
      (n ∈ ids ∧ P t ∧ Edit.create n Spec.TreeAlgo.nsHtml t ∈ L))

/-- the tokens of the list satisfy `P` -/
def TokOk (P : T → Prop) (st : PState N T) : Prop := ∀ n t, Entry.element n t ∈ st.list → P t

/-- the first entry of the stack is not touched -/
def HeadPres (st st' : PState N T) : Prop := ∀ e, st'.stack.head? = some e → st.stack.head? = some e

theorem HeadPres.refl (st : PState N T) : HeadPres st st := fun _ h => h
theorem HeadPres.trans {a b c : PState N T} (h1 : HeadPres a b) (h2 : HeadPres b c) : HeadPres a c :=
  fun e h => h1 e (h2 e h)

theorem Delta.refl (P : T → Prop) (st : PState N T) : Delta P st st :=
  ⟨[], [], by simp, by simp, fun _ h => Or.inl h, fun _ _ h => Or.inl h⟩

theorem Delta.trans {P : T → Prop} {a b c : PState N T} (h1 : Delta P a b) (h2 : Delta P b c) : Delta P a c := by
  obtain ⟨i1, L1, s1, l1, st1, li1⟩ := h1
  obtain ⟨i2, L2, s2, l2, st2, li2⟩ := h2
  refine ⟨i1 ++ i2, L1 ++ L2, by rw [s1, s2, List.append_assoc], by rw [l2, l1, List.append_assoc], ?_, ?_⟩
  · intro e he
    rcases st2 e he with h | ⟨h, h'⟩
    · rcases st1 e h with h | ⟨h, h'⟩
      · exact Or.inl h
      · exact Or.inr ⟨h, List.mem_append_left _ h'⟩
    · exact Or.inr ⟨h, List.mem_append_right _ h'⟩
  · intro n t he
    rcases li2 n t he with h | ⟨h, h', h''⟩
    · rcases li1 n t h with h | ⟨h, h', h''⟩
      · exact Or.inl h
      · exact Or.inr ⟨List.mem_append_left _ h, h', List.mem_append_left _ h''⟩
    · exact Or.inr ⟨List.mem_append_right _ h, h', List.mem_append_right _ h''⟩

theorem Delta.tokOk {P : T → Prop} {a b : PState N T} (h : Delta P a b) (ht : TokOk P a) : TokOk P b := by
  obtain ⟨_, _, _, _, _, li⟩ := h
  intro n t hm
  rcases li n t hm with h | ⟨_, h, _⟩
  · exact ht n t h
  · exact h

/-- nothing new: the stack and the list shrink -/
theorem Delta.sub {P : T → Prop} {st st' : PState N T} (hsup : st'.supply = st.supply) (hlog : st'.log = st.log)
    (hst : ∀ e ∈ st'.stack, e ∈ st.stack) (hl : ∀ e ∈ st'.list, e ∈ st.list) : Delta P st st' :=
  ⟨[], [], by simp [hsup], by simp [hlog], fun e h => Or.inl (hst e h), fun _ _ h => Or.inl (hl _ h)⟩

/-- one new HTML element for the token `tok` -/
theorem Delta.new {P : T → Prop} {st st' : PState N T} (n : N) (tok : T) (name : Spec.TreeAlgo.Str) (hP : P tok)
    (hsup : st.supply = n :: st'.supply)
    (L : List (Edit N T)) (hlog : st'.log = st.log ++ L) (hc : Edit.create n Spec.TreeAlgo.nsHtml tok ∈ L)
    (hst : ∀ e ∈ st'.stack, e ∈ st.stack ∨ e = ⟨n, ⟨Spec.TreeAlgo.nsHtml, name⟩⟩)
    (hl : ∀ e ∈ st'.list, e ∈ st.list ∨ e = Entry.element n tok) : Delta P st st' := by
  refine ⟨[n], L, by simp [hsup], hlog, ?_, ?_⟩
  · intro e he
    rcases hst e he with h | h
    · exact Or.inl h
    · subst h; exact Or.inr ⟨rfl, by simp⟩
  · intro m t hm
    rcases hl _ hm with h | h
    · exact Or.inl h
    · cases h; exact Or.inr ⟨by simp, hP, hc⟩

end Delta

/-! #### insert an HTML element, reconstruct -/
section DeltaReconstruct
variable {N T : Type} [DecidableEq N]

omit [DecidableEq N] in
theorem insertForeignElement_some {cx : Ctx T} {st st1 : PState N T} {tok : T} {ns : Spec.TreeAlgo.Str} {only : Bool}
    {el : Elem N} (h : Spec.TreeAlgo2.insertForeignElement cx st tok ns only = some (st1, el)) :
    ∃ n L, st.supply = n :: st1.supply ∧ el = ⟨n, ⟨ns, cx.tokName tok⟩⟩ ∧ st1.stack = st.stack ++ [el] ∧
      st1.list = st.list ∧ st1.log = st.log ++ L ∧ Edit.create n ns tok ∈ L ∧ st.stack ≠ [] ∧
      st1.fosterParenting = st.fosterParenting ∧ st1.formPointer = st.formPointer := by
  unfold Spec.TreeAlgo2.insertForeignElement at h
  cases hloc : Spec.TreeAlgo2.appropriatePlace st.stack st.fosterParenting none with
  | none => rw [hloc] at h; cases h
  | some loc =>
    have hne : st.stack ≠ [] := by
      intro he
      rw [he] at hloc
      simp [Spec.TreeAlgo2.appropriatePlace] at hloc
    rw [hloc] at h
    simp only [Option.bind_some, PState.newNode] at h
    cases hs : st.supply with
    | nil => rw [hs] at h; cases h
    | cons n rest =>
      rw [hs] at h
      simp only [Option.map_some, Option.some.injEq, Prod.mk.injEq] at h
      obtain ⟨h1, h2⟩ := h
      subst h2
      subst h1
      exact ⟨n, _, rfl, rfl, rfl, rfl, by simp only [List.append_assoc]; rfl, by simp, hne, rfl, rfl⟩

omit [DecidableEq N] in
theorem reconstructCreate_delta (cx : Ctx T) (P : T → Prop) : ∀ (n i : Nat) (st st' : PState N T), TokOk P st →
    Spec.TreeAlgo2.reconstructCreate cx n i st = some st' → Delta P st st' ∧ HeadPres st st' := by
  intro n
  induction n with
  | zero =>
    intro i st st' _ h
    simp only [Spec.TreeAlgo2.reconstructCreate, Option.some.injEq] at h
    subst h; exact ⟨Delta.refl _ _, HeadPres.refl _⟩
  | succ n ih =>
    intro i st st' ht h
    unfold Spec.TreeAlgo2.reconstructCreate at h
    cases hi : st.list[i]? with
    | none => rw [hi] at h; cases h
    | some e =>
      cases e with
      | marker => rw [hi] at h; cases h
      | element x tok =>
        rw [hi] at h
        simp only [Spec.TreeAlgo2.insertHtmlElement] at h
        cases hins : Spec.TreeAlgo2.insertForeignElement cx st tok Spec.TreeAlgo.nsHtml false with
        | none => rw [hins] at h; cases h
        | some r =>
          obtain ⟨st1, el⟩ := r
          rw [hins] at h
          simp only [Option.bind_some] at h
          obtain ⟨m, L, hsup, hel, hstack, hlist, hlog, hc, hne, _, _⟩ := insertForeignElement_some hins
          have hP : P tok := ht x tok (List.mem_of_getElem? hi)
          have hd : Delta P st { st1 with list := st1.list.set i (.element el.id tok) } := by
            refine Delta.new m tok (cx.tokName tok) hP hsup L hlog hc ?_ ?_
            · intro e he
              simp only [hstack, List.mem_append, List.mem_singleton] at he
              rcases he with he | he
              · exact Or.inl he
              · exact Or.inr (he.trans hel)
            · intro e he
              rcases List.mem_or_eq_of_mem_set he with he | he
              · rw [hlist] at he; exact Or.inl he
              · rw [hel] at he; exact Or.inr he
          have hh : HeadPres st { st1 with list := st1.list.set i (.element el.id tok) } := by
            intro e he
            simp only [hstack] at he
            cases hst : st.stack with
            | nil => exact absurd hst hne
            | cons a r => rw [hst] at he; exact he
          split at h
          · obtain ⟨d2, h2⟩ := ih _ _ _ (hd.tokOk ht) h
            exact ⟨hd.trans d2, hh.trans h2⟩
          · simp only [Option.some.injEq] at h
            subst h; exact ⟨hd, hh⟩

theorem reconstruct_delta (cx : Ctx T) (P : T → Prop) (st st' : PState N T) (ht : TokOk P st)
    (h : Spec.TreeAlgo2.reconstructActiveFormattingElements cx st = some st') : Delta P st st' ∧ HeadPres st st' := by
  unfold Spec.TreeAlgo2.reconstructActiveFormattingElements at h
  cases hl : st.list.getLast? with
  | none => rw [hl] at h; simp only [Option.some.injEq] at h; subst h; exact ⟨Delta.refl _ _, HeadPres.refl _⟩
  | some last =>
    rw [hl] at h
    simp only [] at h
    split at h
    · simp only [Option.some.injEq] at h; subst h; exact ⟨Delta.refl _ _, HeadPres.refl _⟩
    · exact reconstructCreate_delta cx P _ _ _ _ ht h

end DeltaReconstruct

/-! #### from `Delta` to the invariant of the model's final state -/

/-- a node answered by a `create_element` call of a replayed call list is an element with the
name of the call in the final DOM -/
theorem created_of_replay : ∀ {calls : List Call} {d d' : Dom}, Replay d calls d' →
    ∀ (q : QualName) (a : List Attr) (f : ElementFlags) (n : Id), (SinkOp.createElement q a f, Output.node n) ∈ calls →
    d'.isElement n = true ∧ nameOf d' n = ⟨q.ns, q.loc⟩ := by
  intro calls
  induction calls with
  | nil => intro d d' _ q a f n hm; cases hm
  | cons c r ih =>
    intro d d' h q a f n hm
    obtain ⟨d1, h1, h2⟩ := h
    rcases List.mem_cons.mp hm with hc | hc
    · subst hc
      rw [TBSafe.apply_createElement] at h1
      simp only [Except.ok.injEq, Prod.mk.injEq, Output.node.injEq] at h1
      obtain ⟨e1, e2⟩ := h1
      have hf := (createElement_facts d q a f).2
      rw [e1, e2] at hf
      have hel : d1.isElement n = true := isElement_of_elemName hf
      have hx := replay_ext h2
      refine ⟨isElement_ext hx hel, ?_⟩
      rw [nameOf_ext hx hel]
      unfold nameOf; rw [hf]
    · exact ih h2 q a f n hc

theorem created_of_edits {s s' : State} {calls : List Call} (he : Ext2 s calls s') {L : List (Edit Id Tag)} {tc : Id → Id}
    (hL : edits calls = L.map (editCall tc)) {n : Id} {ns : Str} {t : Tag} (hc : Edit.create n ns t ∈ L) :
    s'.dom.isElement n = true ∧ nameOf s'.dom n = ⟨ns, t.name⟩ := by
  have h1 : editCall tc (Edit.create n ns t) ∈ edits calls := by rw [hL]; exact List.mem_map_of_mem hc
  have h2 : editCall tc (Edit.create n ns t) ∈ calls := (List.mem_filter.mp h1).1
  exact created_of_replay he.replay _ _ _ n h2

theorem mem_absStack {d : Dom} {l : List Id} {e : Elem Id} (h : e ∈ absStack d l) : e.id ∈ l ∧ e = elemOf d e.id := by
  obtain ⟨y, hy, rfl⟩ := List.mem_map.mp h
  exact ⟨hy, rfl⟩

theorem mem_absList {af : List FormatEntry} {n : Id} {t : Tag} :
    Entry.element n t ∈ absList af ↔ FormatEntry.element n t ∈ af := by
  constructor
  · intro h
    obtain ⟨e, he, hee⟩ := List.mem_map.mp h
    cases e with
    | marker => cases hee
    | element a b => simp only [absEntry, Entry.element.injEq] at hee; rw [← hee.1, ← hee.2]; exact he
  · intro h; exact List.mem_map_of_mem (f := absEntry) h

/-- the tokens of the list are start tags (`Tag.equivModuloAttrOrder` also compares the kind), and the
listed elements are HTML elements with the tag name of their token (`MInv.af` says this only for
the entries that are open; `handle_misnested_a_tags` asks the sink for the name of a listed element) -/
def AFWf (s : State) : Prop := ∀ h t, FormatEntry.element h t ∈ s.activeFormatting →
  t.kind = .startTag ∧ nameOf s.dom h = ⟨nsHtml, t.name⟩

/-- `AFWf` is a field of the invariant -/
theorem MInv.toAFWf {s : State} (hm : MInv s) : AFWf s := hm.afwf

/-- `AFWf` survives every step that extends the DOM and adds no entries to the list -/
theorem AFWf.of_sub {s s' : State} (hw : AFWf s) (hm : MInv s) (hx : TBSafe.Ext s.dom s'.dom)
    (ha : ∀ y t, FormatEntry.element y t ∈ s'.activeFormatting → FormatEntry.element y t ∈ s.activeFormatting) :
    AFWf s' := by
  intro y t hy
  obtain ⟨h1, h2⟩ := hw y t (ha y t hy)
  exact ⟨h1, by rw [nameOf_ext hx (hm.afEl y t (ha y t hy))]; exact h2⟩

/-- `AFWf` after a step whose new entries reuse listed tokens for new HTML elements of that name -/
theorem AFWf.of_new {s s' : State} (hw : AFWf s) (hm : MInv s) (hx : TBSafe.Ext s.dom s'.dom)
    (ha : ∀ y t, FormatEntry.element y t ∈ s'.activeFormatting → FormatEntry.element y t ∈ s.activeFormatting ∨
      ((∃ y0, FormatEntry.element y0 t ∈ s.activeFormatting) ∧ nameOf s'.dom y = ⟨nsHtml, t.name⟩)) :
    AFWf s' := by
  intro y t hy
  rcases ha y t hy with h | ⟨⟨y0, h0⟩, h1⟩
  · obtain ⟨h1, h2⟩ := hw y t h
    exact ⟨h1, by rw [nameOf_ext hx (hm.afEl y t h)]; exact h2⟩
  · exact ⟨(hw y0 t h0).1, h1⟩

theorem AFWf.withAF {s : State} (hw : AFWf s) (af : List FormatEntry)
    (hsub : ∀ x t, FormatEntry.element x t ∈ af → FormatEntry.element x t ∈ s.activeFormatting) :
    AFWf { s with activeFormatting := af } := fun y t hy => hw y t (hsub y t hy)

/-- `AFWf` after `pushMarker` -/
theorem AFWf.pushMarker {s : State} (hw : AFWf s) :
    AFWf { s with activeFormatting := s.activeFormatting ++ [.marker] } :=
  hw.withAF _ (fun y t he => by
    rcases List.mem_append.mp he with h | h
    · exact h
    · simp at h)

/-- `AFWf` after `clearActiveFormattingToMarker` -/
theorem AFWf.clearToMarker {s : State} (hw : AFWf s) :
    AFWf { s with activeFormatting := (clearToMarkerRev s.activeFormatting.reverse).reverse } :=
  hw.withAF _ (fun _ _ he => TBSafe.mem_clearedAF he)

/-- **the invariant after a phase-1 step**: from `Delta` / `HeadPres` of the specification's run on the
abstract states and the replay of the model's calls -/
theorem minv_of_delta {s s' : State} {calls : List Call} (hm : MInv s) (he : Ext2 s calls s')
    (hS : SameButStackList s s') (hok' : ElemsOk s'.dom s'.openElems) (ids : List Id) (L : List (Edit Id Tag))
    (hfresh : ∀ x ∈ ids, s.dom.size ≤ x) (hL : edits calls = L.map (editCall (tcOf s'.dom)))
    (hD : Delta (fun t => ∃ y0, FormatEntry.element y0 t ∈ s.activeFormatting) (absState s ids []) (absState s' [] L))
    (hH : HeadPres (absState s ids []) (absState s' [] L)) :
    MInv s' ∧ (∀ h ∈ s'.openElems, h ∈ s.openElems ∨ (nameOf s'.dom h).ns = nsHtml) ∧
    (∀ y t, FormatEntry.element y t ∈ s'.activeFormatting → FormatEntry.element y t ∈ s.activeFormatting ∨
      ((∃ y0, FormatEntry.element y0 t ∈ s.activeFormatting) ∧ nameOf s'.dom y = ⟨nsHtml, t.name⟩)) := by
  obtain ⟨ids', L', hsup, hlog, hst, hli⟩ := hD
  have hids : ids' = ids := by simpa [absState] using hsup.symm
  have hL' : L' = L := by simpa [absState] using hlog.symm
  subst hids; subst hL'
  have hx := he.ext
  have f := sbsl_fields hS
  -- stack entries
  have hstack : ∀ h ∈ s'.openElems, (h ∈ s.openElems ∧ nameOf s'.dom h = nameOf s.dom h) ∨
      ((nameOf s'.dom h).ns = nsHtml ∧ h ∈ ids') := by
    intro h hh
    have : elemOf s'.dom h ∈ (absState s' [] L').stack := List.mem_map_of_mem hh
    rcases hst _ this with h1 | ⟨h1, h2⟩
    · obtain ⟨h3, h4⟩ := mem_absStack h1
      exact Or.inl ⟨h3, (nameOf_ext hx (hm.elems h h3))⟩
    · exact Or.inr ⟨h1, h2⟩
  -- list entries
  have hlist : ∀ y t, FormatEntry.element y t ∈ s'.activeFormatting → FormatEntry.element y t ∈ s.activeFormatting ∨
      (y ∈ ids' ∧ (∃ y0, FormatEntry.element y0 t ∈ s.activeFormatting) ∧
        s'.dom.isElement y = true ∧ nameOf s'.dom y = ⟨nsHtml, t.name⟩) := by
    intro y t hy
    rcases hli y t (mem_absList.mpr hy) with h1 | ⟨h1, h2, h3⟩
    · exact Or.inl (mem_absList.mp h1)
    · exact Or.inr ⟨h1, h2, created_of_edits he hL h3⟩
  refine ⟨⟨hok', ?_, ?_, ?_, ?_, ?_, ?_, ?_, by rw [f.templateModes]; exact hm.tmodes, hm.form_ext he.ext f.formElem,
    by rw [f.pendingTableText]; exact hm.pend⟩, ?_, ?_⟩
  · intro h0 hh
    have h1 : (absState s' [] L').stack.head? = some (elemOf s'.dom h0) := by
      simp only [absState, absStack_head?, hh, Option.map_some]
    have h2 := hH _ h1
    simp only [absState, absStack_head?] at h2
    cases hh0 : s.openElems.head? with
    | none => rw [hh0] at h2; cases h2
    | some a =>
      rw [hh0] at h2
      simp only [Option.map_some, Option.some.injEq] at h2
      have hid : a = h0 := congrArg Elem.id h2
      subst hid
      rw [nameOf_ext hx (hm.elems a (List.mem_of_head? hh0))]
      exact hm.root a hh0
  · intro y t hy
    rcases hlist y t hy with h1 | ⟨h1, ⟨y0, h2⟩, h3, h4⟩
    · obtain ⟨a, b, c⟩ := hm.af y t h1
      refine ⟨isElement_lt (isElement_ext hx (hm.afEl y t h1)), b, fun hin => ?_⟩
      rcases hstack y hin with ⟨h5, h6⟩ | ⟨_, h6⟩
      · rw [h6]; exact c h5
      · exact absurd a (Nat.not_lt.mpr (hfresh y h6))
    · exact ⟨isElement_lt h3, (hm.af y0 t h2).2.1, fun _ => h4⟩
  · intro y t hy
    rcases hlist y t hy with h1 | ⟨_, _, h3, _⟩
    · exact isElement_ext hx (hm.afEl y t h1)
    · exact h3
  · intro y hy; rw [f.headElem] at hy; exact isElement_ext hx (hm.head y hy)
  · exact hm.ctx_ext hx f.contextElem
  · intro y t hy
    rcases hlist y t hy with h1 | ⟨_, ⟨y0, h2⟩, _, h4⟩
    · rw [nameOf_ext hx (hm.afEl y t h1)]; exact hm.afwf y t h1
    · exact ⟨(hm.afwf y0 t h2).1, h4⟩
  · intro h hh
    rcases hstack h hh with ⟨h1, h2⟩ | ⟨h1, _⟩
    · rw [h2, ipOfDom_ext hx (hm.elems h h1)]; exact hm.ip h h1
    · intro hn; exact absurd h1 hn
  · intro h hh
    rcases hstack h hh with ⟨h1, _⟩ | ⟨h1, _⟩
    · exact Or.inl h1
    · exact Or.inr h1
  · intro y t hy
    rcases hlist y t hy with h1 | ⟨_, h2, _, h4⟩
    · exact Or.inl h1
    · exact Or.inr ⟨h2, h4⟩

/-- **glue**: a stretch that changed the stack, the list and the DOM only, whose DOM calls are the
edits `L` and whose new stack entries are HTML elements -/
theorem tr_of_phase1 {s s' : State} {calls : List Call} (hm : MInv s) (he : Ext2 s calls s')
    (hS : SameButStackList s s') (hm' : MInv s')
    (hnew : ∀ h ∈ s'.openElems, h ∈ s.openElems ∨ (nameOf s'.dom h).ns = nsHtml)
    (ids : List Id) (hfi : FreshIds s ids) (L : List (Edit Id Tag)) (hL : ∀ tc, TcOk s'.dom tc → edits calls = L.map (editCall tc)) :
    Tr s s' calls (fun x x' => x' = x.step ids.length L [] ∧ (∃ rest, x.supply = ids ++ rest) ∧
      absF s' x' = { absF s x with p := absP s' x' }) := by
  refine (Tr.of_edits hm' (cfgOf_sbsl hm hS he.ext) he ids L [] hfi hL ?_ (by simp)).conseq ?_
  · intro x hx h hh hn
    rcases hnew h hh with h1 | h1
    · rw [nameOf_ext he.ext (hm.elems h h1)] at hn
      rw [List.append_nil, hx.annot h h1 hn, ipOfDom_ext he.ext (hm.elems h h1)]
    · rw [hn] at h1
      exact absurd h1 (by decide)
  · rintro x x' _ _ ⟨hx', hr⟩
    subst hx'
    exact ⟨rfl, hr, absF_sbsl_step x hm hS he.ext _ _⟩

/-! ### 2. reconstruct the active formatting elements -/

/-- on the empty stack `insert_element` panics (`current_node`) -/
theorem pc_insertElement_empty {s : State} (he : s.openElems = []) (pushIt : Bool) (ns name : Str) (attrs : List Attr)
    (hadDup : Bool) (Q : Id → State → List Call → Prop) : PC (insertElement pushIt ns name attrs hadDup) s Q := by
  unfold insertElement
  refine pc_bind ?_
  unfold appropriatePlaceForInsertion
  refine pc_bind ?_
  exact pc_currentNode_nil he

theorem tokOk_absState (s : State) (sup : List Id) (log : List (Edit Id Tag)) :
    TokOk (fun t => ∃ y0, FormatEntry.element y0 t ∈ s.activeFormatting) (absState s sup log) :=
  fun n _ h => ⟨n, mem_absList.mp h⟩

/-- the specification's reconstruct does nothing when the last entry is a marker or open, or the list is empty -/
theorem spec_reconstruct_noop {σ : SState}
    (h : ∀ last, σ.p.list.getLast? = some last → Spec.TreeAlgo2.markerOrOpen σ.p.stack last = true) :
    Spec.TreeModes.reconstruct σ = .ok σ := by
  unfold Spec.TreeModes.reconstruct Spec.TreeAlgo2.reconstructActiveFormattingElements
  cases hl : σ.p.list.getLast? with
  | none => rfl
  | some last => simp only [h last hl, if_true]; rfl

/-- `reconstructActiveFormattingElements` (Actions.lean) ↔ `Spec.TreeModes.reconstruct` (TreeModes1) -/
theorem pc_reconstruct {s : State} (hm : MInv s) :
    PC reconstructActiveFormattingElements s (fun _ s' calls => SameButStackList s s' ∧ (AFWf s → AFWf s') ∧
      Tr s s' calls (fun x x' => Spec.TreeModes.reconstruct (absF s x) = .ok (absF s' x'))) := by
  by_cases hne : s.openElems = []
  · -- the empty stack: nothing to do, or `current_node` panics
    have hquiet : ∀ (s1 : State) (c1 : List Call), Ext2 s c1 s1 → SameTB s s1 → edits c1 = [] →
        (∀ last, s.activeFormatting.getLast? = some last → last = .marker) →
        SameButStackList s s1 ∧ (AFWf s → AFWf s1) ∧
          Tr s s1 c1 (fun x x' => Spec.TreeModes.reconstruct (absF s x) = .ok (absF s1 x')) := by
      intro s1 c1 he1 hs1 hc1 hl
      refine ⟨sbsl_of_sameTB hs1, fun h => h.of_sub hm he1.ext (fun y t hy => by rw [hs1.activeFormatting] at hy; exact hy), ?_⟩
      refine (Tr.of_same hm hs1 he1 (by rw [← edits2_edits, hc1]; rfl)).conseq ?_
      rintro x x' hx _ ⟨hxx, e⟩
      subst x'
      rw [← e]
      apply spec_reconstruct_noop
      intro last hlast
      simp only [absF, absP, absListE, List.getLast?_map] at hlast
      cases hg : s.activeFormatting.getLast? with
      | none => rw [hg] at hlast; cases hlast
      | some l0 =>
        rw [hg] at hlast
        simp only [Option.map_some, Option.some.injEq] at hlast
        rw [hl l0 hg] at hlast
        subst hlast; rfl
    unfold reconstructActiveFormattingElements
    refine pc_getS_bind ?_
    dsimp only
    cases hlast : s.activeFormatting.getLast? with
    | none =>
      simp only []
      exact pc_pure (hquiet s [] (Ext2.refl s) (SameTB.refl s) rfl (fun l h => by rw [hlast] at h; cases h))
    | some last =>
      simp only []
      refine pc_query_bind (PC.of_tot (tot_isMarkerOrOpen s last)) ?_
      intro s1 c1 he1 hs1 hc1
      cases last with
      | marker =>
        have : Spec.TreeAlgo2.markerOrOpen (absStack s.dom s.openElems) (absEntry FormatEntry.marker) = true := rfl
        simp only [this, if_true]
        refine pc_pure ?_
        rw [List.append_nil]
        exact hquiet s1 c1 he1 hs1 hc1 (fun l h => by rw [hlast] at h; cases h; rfl)
      | element y t0 =>
        have : Spec.TreeAlgo2.markerOrOpen (absStack s.dom s.openElems) (absEntry (FormatEntry.element y t0)) = false := by
          rw [hne]; rfl
        simp only [this, Bool.false_eq_true, if_false]
        refine pc_bind ?_
        refine pc_conseq (PC.of_tot (tot_reconstructRewind s.dom s.openElems s.activeFormatting (s.activeFormatting.length - 1) s1
          (by omega) hs1.openElems hs1.activeFormatting)) ?_
        rintro start s2 c2 he2 ⟨_, hs2, _⟩
        have hlen : s.activeFormatting.length + 1 = s.activeFormatting.length.succ := rfl
        rw [hlen, reconstructCreate_succ]
        refine pc_getS_bind ?_
        have hopen2 : s2.openElems = [] := by rw [hs2.openElems, hs1.openElems]; exact hne
        have key : ∀ (tag : Tag) (s3 : State), s3.openElems = [] →
            PC (rcAfterTag s.activeFormatting.length start tag) s3
              (fun b s4 c4 => (fun _ s' calls => SameButStackList s s' ∧ (AFWf s → AFWf s') ∧
                Tr s s' calls (fun x x' => Spec.TreeModes.reconstruct (absF s x) = .ok (absF s' x')))
                  b s4 (c1 ++ (c2 ++ ([] ++ c4)))) := by
          intro tag s3 h3
          unfold rcAfterTag
          refine pc_bind ?_
          exact pc_insertElement_empty h3 _ _ _ _ _ _
        dsimp only
        cases hget : s2.activeFormatting[start]? with
        | none => exact pc_bind pc_panicAt
        | some e =>
          cases e with
          | marker => exact pc_bind pc_panicAt
          | element y' t' =>
            dsimp only
            exact pc_bind (pc_pure (key t' s2 hopen2))
  · refine pc_conseq (PC.of_tot (tot_reconstruct s hm.elems (hm.headOk hne))) ?_
    rintro _ s' calls he ⟨ids, L, hL, hspec, hS, hok', _, hfresh⟩
    have hsp0 := hspec [] []
    rw [List.append_nil, List.nil_append] at hsp0
    obtain ⟨hD, hH⟩ := reconstruct_delta tagCtx _ _ _ (tokOk_absState s ids []) hsp0
    obtain ⟨hm', hnew, htok⟩ := minv_of_delta hm he hS hok' ids L hfresh (hL _ (TcOk.self _)) hD hH
    refine ⟨hS, fun hw => hw.of_new hm he.ext htok, ?_⟩
    refine (tr_of_phase1 hm he hS hm' hnew ids (FreshIds.of_size hfresh) L hL).conseq ?_
    rintro x x' hx _ ⟨hx', ⟨rest, hsup⟩, hF⟩
    subst hx'
    unfold Spec.TreeModes.reconstruct
    rw [absF_p, absP_eq s x hx.live, reconstructActiveFormattingElements_mapP etokOf ctxMap_etok, hsup, hspec rest x.logT]
    simp only [Option.map_some, Spec.TreeModes.req]
    rw [absP_step s' hx.live hsup L [], hF]
    rfl

/-! #### reconstruct is idempotent, and stays a no-op along a run of inserted characters -/

/-- after the create loop the last entry of the list is open -/
theorem reconstructCreate_last {N T : Type} [DecidableEq N] (cx : Ctx T) : ∀ (n i : Nat) (st st' : PState N T),
    i + (n + 1) = st.list.length → Spec.TreeAlgo2.reconstructCreate cx (n + 1) i st = some st' →
    ∃ last, st'.list.getLast? = some last ∧ Spec.TreeAlgo2.markerOrOpen st'.stack last = true := by
  intro n
  induction n with
  | zero =>
    intro i st st' hlen h
    unfold Spec.TreeAlgo2.reconstructCreate at h
    cases hi : st.list[i]? with
    | none => rw [hi] at h; cases h
    | some e =>
      cases e with
      | marker => rw [hi] at h; cases h
      | element x tok =>
        rw [hi] at h
        simp only [Spec.TreeAlgo2.insertHtmlElement] at h
        cases hins : Spec.TreeAlgo2.insertForeignElement cx st tok Spec.TreeAlgo.nsHtml false with
        | none => rw [hins] at h; cases h
        | some r =>
          obtain ⟨st1, el⟩ := r
          rw [hins] at h
          obtain ⟨m, L, _, _, hstack, hlist, _⟩ := insertForeignElement_some hins
          have hl1 : st1.list.length = st.list.length := by rw [hlist]
          have hnot : ¬ (i + 1 < (st1.list.set i (Entry.element el.id tok)).length) := by
            rw [List.length_set, hl1]; omega
          simp only [Option.bind_some, hnot, if_false, Spec.TreeAlgo2.reconstructCreate, Option.some.injEq] at h
          subst h
          refine ⟨.element el.id tok, ?_, ?_⟩
          · simp only []
            rw [List.getLast?_eq_getElem?, List.length_set, hl1]
            have : st.list.length - 1 = i := by omega
            rw [this, List.getElem?_set_self (by rw [hl1]; omega)]
          · simp only [Spec.TreeAlgo2.markerOrOpen, hstack, List.any_append, List.any_cons, beq_self_eq_true, List.any_nil,
              Bool.or_false, Bool.or_true]
  | succ n ih =>
    intro i st st' hlen h
    unfold Spec.TreeAlgo2.reconstructCreate at h
    cases hi : st.list[i]? with
    | none => rw [hi] at h; cases h
    | some e =>
      cases e with
      | marker => rw [hi] at h; cases h
      | element x tok =>
        rw [hi] at h
        simp only [Spec.TreeAlgo2.insertHtmlElement] at h
        cases hins : Spec.TreeAlgo2.insertForeignElement cx st tok Spec.TreeAlgo.nsHtml false with
        | none => rw [hins] at h; cases h
        | some r =>
          obtain ⟨st1, el⟩ := r
          rw [hins] at h
          obtain ⟨m, L, _, _, hstack, hlist, _⟩ := insertForeignElement_some hins
          have hl1 : st1.list.length = st.list.length := by rw [hlist]
          have hlt : i + 1 < (st1.list.set i (Entry.element el.id tok)).length := by
            rw [List.length_set, hl1]; omega
          simp only [Option.bind_some, hlt, if_true] at h
          exact ih (i + 1) _ st' (by simp only [List.length_set, hl1]; omega) h

/-- after "reconstruct the active formatting elements" the list is empty or its last entry is a marker or open -/
theorem reconstruct_last {N T : Type} [DecidableEq N] (cx : Ctx T) (st st' : PState N T)
    (h : Spec.TreeAlgo2.reconstructActiveFormattingElements cx st = some st') :
    ∀ last, st'.list.getLast? = some last → Spec.TreeAlgo2.markerOrOpen st'.stack last = true := by
  unfold Spec.TreeAlgo2.reconstructActiveFormattingElements at h
  cases hl : st.list.getLast? with
  | none =>
    rw [hl] at h; simp only [Option.some.injEq] at h; subst h
    intro last hlast; rw [hl] at hlast; cases hlast
  | some l0 =>
    rw [hl] at h
    simp only [] at h
    by_cases hmo : Spec.TreeAlgo2.markerOrOpen st.stack l0 = true
    · simp only [hmo, if_true, Option.some.injEq] at h
      subst h
      intro last hlast; rw [hl] at hlast; cases hlast; exact hmo
    · simp only [hmo] at h
      have hlen : 0 < st.list.length := by
        cases hst : st.list with
        | nil => rw [hst] at hl; cases hl
        | cons a r => simp
      have hle := (rewind_spec st.stack st.list (st.list.length - 1)).1
      generalize Spec.TreeAlgo2.reconstructRewind st.stack st.list (st.list.length - 1) = start at h hle
      obtain ⟨n, hn⟩ : ∃ n, st.list.length - start = n + 1 := ⟨st.list.length - start - 1, by omega⟩
      rw [hn] at h
      obtain ⟨last, h1, h2⟩ := reconstructCreate_last cx n start st st' (by omega) h
      intro l1 hl1
      rw [h1] at hl1; cases hl1; exact h2

/-- nothing to reconstruct -/
def ReconDone (σ : SState) : Prop :=
  ∀ last, σ.p.list.getLast? = some last → Spec.TreeAlgo2.markerOrOpen σ.p.stack last = true

theorem reconstruct_of_reconDone {σ : SState} (h : ReconDone σ) : Spec.TreeModes.reconstruct σ = .ok σ :=
  spec_reconstruct_noop h

theorem reconDone_of_reconstruct {σ σ' : SState} (h : Spec.TreeModes.reconstruct σ = .ok σ') : ReconDone σ' := by
  unfold Spec.TreeModes.reconstruct at h
  cases hr : Spec.TreeAlgo2.reconstructActiveFormattingElements Spec.TreeModes.cx σ.p with
  | none => rw [hr] at h; cases h
  | some p =>
    rw [hr] at h
    have : σ' = { σ with p := p } := by cases h; rfl
    subst this
    exact reconstruct_last _ _ _ hr

/-- **idempotence**: after "reconstruct the active formatting elements" another run changes nothing -/
theorem reconstruct_idem {σ σ' : SState} (h : Spec.TreeModes.reconstruct σ = .ok σ') :
    Spec.TreeModes.reconstruct σ' = .ok σ' := reconstruct_of_reconDone (reconDone_of_reconstruct h)

/-- "insert a character" leaves the stack and the list alone -/
theorem insertChar_stack_list {σ σ' : SState} {c : Char} (h : Spec.TreeModes.insertChar σ c = .ok σ') :
    σ'.p.stack = σ.p.stack ∧ σ'.p.list = σ.p.list := by
  unfold Spec.TreeModes.insertChar Spec.TreeAlgo2.insertCharacters at h
  cases hp : Spec.TreeAlgo2.appropriatePlace σ.p.stack σ.p.fosterParenting none with
  | none => rw [hp] at h; cases h
  | some loc =>
    rw [hp] at h
    have : σ' = { σ with p := { σ.p with log := σ.p.log ++ [.insertText loc [c]] } } := by cases h; rfl
    subst this; exact ⟨rfl, rfl⟩

theorem insertChars_stack_list {σ σ' : SState} {cs : Str} (h : Spec.TreeModes.insertChars σ cs = .ok σ') :
    σ'.p.stack = σ.p.stack ∧ σ'.p.list = σ.p.list := by
  unfold Spec.TreeModes.insertChars at h
  cases cs with
  | nil => cases h; exact ⟨rfl, rfl⟩
  | cons c r =>
    simp only [Spec.TreeAlgo2.insertCharacters] at h
    cases hp : Spec.TreeAlgo2.appropriatePlace σ.p.stack σ.p.fosterParenting none with
    | none => rw [hp] at h; cases h
    | some loc =>
      rw [hp] at h
      have : σ' = { σ with p := { σ.p with log := σ.p.log ++ [.insertText loc (c :: r)] } } := by cases h; rfl
      subst this; exact ⟨rfl, rfl⟩

/-- along a run of inserted characters "reconstruct" stays a no-op -/
theorem reconDone_insertChar {σ σ' : SState} {c : Char} (hd : ReconDone σ) (h : Spec.TreeModes.insertChar σ c = .ok σ') :
    ReconDone σ' := by
  obtain ⟨h1, h2⟩ := insertChar_stack_list h
  intro last hl; rw [h1]; rw [h2] at hl; exact hd last hl

theorem reconDone_insertChars {σ σ' : SState} {cs : Str} (hd : ReconDone σ) (h : Spec.TreeModes.insertChars σ cs = .ok σ') :
    ReconDone σ' := by
  obtain ⟨h1, h2⟩ := insertChars_stack_list h
  intro last hl; rw [h1]; rw [h2] at hl; exact hd last hl

/-- `reconstruct` then `insertChar` (the character clause of "in body"), run after a character that was
handled the same way, reconstructs nothing -/
theorem reconstruct_after_insertChar {σ σ1 σ2 : SState} {c : Char} (h1 : Spec.TreeModes.reconstruct σ = .ok σ1)
    (h2 : Spec.TreeModes.insertChar σ1 c = .ok σ2) : Spec.TreeModes.reconstruct σ2 = .ok σ2 :=
  reconstruct_of_reconDone (reconDone_insertChar (reconDone_of_reconstruct h1) h2)

/-! ### 3. create a formatting element: insert an HTML element, push onto the list (Noah's Ark) -/

open H5V.Spec.TreeAlgo (afterLastMarker removeEarliestAfterMarker noahPush)
open H5V.Lemmas.HtmlTBSpec (toAdj Plain)

section NoahMap
variable {E E' : Type}

theorem any_isNone_map (f : E → E') (l : List (Option E)) :
    (l.map (Option.map f)).any Option.isNone = l.any Option.isNone := by
  induction l with
  | nil => rfl
  | cons a r ih => cases a <;> simp [ih]

theorem afterLastMarker_map (f : E → E') (l : List (Option E)) :
    afterLastMarker (l.map (Option.map f)) = (afterLastMarker l).map f := by
  induction l with
  | nil => rfl
  | cons a r ih =>
    cases a with
    | none => simpa [afterLastMarker] using ih
    | some a =>
      simp only [List.map_cons, Option.map_some, afterLastMarker, any_isNone_map, ih]
      split <;> rfl

theorem mem_afterLastMarker {a : E} : ∀ {l : List (Option E)}, a ∈ afterLastMarker l → some a ∈ l := by
  intro l
  induction l with
  | nil => intro h; cases h
  | cons b r ih =>
    intro h
    cases b with
    | none => exact List.mem_cons_of_mem _ (ih h)
    | some b =>
      simp only [afterLastMarker] at h
      split at h
      · exact List.mem_cons_of_mem _ (ih h)
      · rcases List.mem_cons.mp h with h | h
        · subst h; exact List.mem_cons_self ..
        · exact List.mem_cons_of_mem _ (ih h)

theorem removeEarliest_map (f : E → E') (p : E → Bool) (p' : E' → Bool) :
    ∀ (l : List (Option E)), (∀ a, some a ∈ l → p' (f a) = p a) →
    removeEarliestAfterMarker p' (l.map (Option.map f)) = (removeEarliestAfterMarker p l).map (Option.map f) := by
  intro l
  induction l with
  | nil => intro _; rfl
  | cons a r ih =>
    intro h
    have ih' := ih (fun b hb => h b (List.mem_cons_of_mem _ hb))
    cases a with
    | none => simp only [List.map_cons, Option.map_none, removeEarliestAfterMarker, ih']
    | some a =>
      simp only [List.map_cons, Option.map_some, removeEarliestAfterMarker, any_isNone_map, ih',
        h a (List.mem_cons_self ..)]
      split
      · rfl
      · split <;> rfl

theorem mem_removeEarliest {p : E → Bool} {x : Option E} : ∀ {l : List (Option E)},
    x ∈ removeEarliestAfterMarker p l → x ∈ l := by
  intro l
  induction l with
  | nil => intro h; exact h
  | cons a r ih =>
    intro h
    cases a with
    | none =>
      simp only [removeEarliestAfterMarker] at h
      rcases List.mem_cons.mp h with h | h
      · subst h; exact List.mem_cons_self ..
      · exact List.mem_cons_of_mem _ (ih h)
    | some a =>
      simp only [removeEarliestAfterMarker] at h
      split at h
      · rcases List.mem_cons.mp h with h | h
        · subst h; exact List.mem_cons_self ..
        · exact List.mem_cons_of_mem _ (ih h)
      · split at h
        · exact List.mem_cons_of_mem _ h
        · rcases List.mem_cons.mp h with h | h
          · subst h; exact List.mem_cons_self ..
          · exact List.mem_cons_of_mem _ (ih h)

theorem noahPush_map (f : E → E') (same : E → E → Bool) (same' : E' → E' → Bool) (l : List (Option E)) (e : E)
    (h : ∀ a, some a ∈ l → same' (f e) (f a) = same e a) :
    noahPush same' (l.map (Option.map f)) (f e) = (noahPush same l e).map (Option.map f) := by
  unfold noahPush
  have hlen : ((afterLastMarker (l.map (Option.map f))).filter (same' (f e))).length
      = ((afterLastMarker l).filter (same e)).length := by
    rw [afterLastMarker_map, List.filter_map, List.length_map]
    congr 1
    apply List.filter_congr
    intro a ha
    exact h a (mem_afterLastMarker ha)
  simp only [hlen]
  split
  · rw [removeEarliest_map f (same e) (same' (f e)) l h]; simp
  · simp

/-- the list before the new entry is a part of the old list -/
theorem noahPush_init (same : E → E → Bool) (l : List (Option E)) (e : E) :
    ∃ l', noahPush same l e = l' ++ [some e] ∧ ∀ x ∈ l', x ∈ l := by
  unfold noahPush
  split
  · exact ⟨_, rfl, fun x hx => mem_removeEarliest hx⟩
  · exact ⟨_, rfl, fun x hx => hx⟩
end NoahMap

theorem isPerm_map_toAdj (l l' : List Attr) : (l.map toAdj).isPerm (l'.map toAdj) = l.isPerm l' := by
  have key : (l.map toAdj).Perm (l'.map toAdj) ↔ l.Perm l' := by
    constructor
    · intro h
      have := h.map attrOfAdj
      simp only [List.map_map] at this
      have e : ∀ l : List Attr, l.map (attrOfAdj ∘ toAdj) = l := by
        intro l
        rw [List.map_congr_left (g := id)]
        · simp
        · intro a _; exact attrOfAdj_toAdj a
      rwa [e, e] at this
    · exact List.Perm.map _
  cases h1 : l.isPerm l' with
  | true => rw [List.isPerm_iff] at h1 ⊢; exact key.mpr h1
  | false =>
    cases h2 : (l.map toAdj).isPerm (l'.map toAdj) with
    | false => rfl
    | true => rw [List.isPerm_iff] at h2; rw [List.isPerm_iff.mpr (key.mp h2)] at h1; cases h1

theorem insertForeignElement_setList {N T : Type} (cx : Ctx T) (st : PState N T) (l : List (Entry N T)) (tok : T)
    (ns : Spec.TreeAlgo.Str) (only : Bool) :
    Spec.TreeAlgo2.insertForeignElement cx { st with list := l } tok ns only
      = (Spec.TreeAlgo2.insertForeignElement cx st tok ns only).map (fun r => ({ r.1 with list := l }, r.2)) := by
  unfold Spec.TreeAlgo2.insertForeignElement
  simp only []
  cases Spec.TreeAlgo2.appropriatePlace st.stack st.fosterParenting none with
  | none => rfl
  | some loc =>
    simp only [Option.bind_some, PState.newNode]
    cases st.supply with
    | nil => rfl
    | cons n rest => rfl

theorem entryToOpt_entryE (e : FormatEntry) :
    Spec.TreeModes.entryToOpt (entryE e) = (entryOpt e).map (fun p => (p.1, etokOf p.2)) := by cases e <;> rfl

theorem optToEntry_entryOpt (e : FormatEntry) :
    Spec.TreeModes.optToEntry ((entryOpt e).map (fun p => (p.1, etokOf p.2))) = entryE e := by cases e <;> rfl

theorem entryOpt_inj {a b : FormatEntry} (h : entryOpt a = entryOpt b) : a = b := by
  cases a <;> cases b <;> simp [entryOpt] at h ⊢
  exact h

/-- the model's comparison of a new start tag with a listed start tag is the specification's -/
theorem sameFormatting_etok {tag t : Tag} (hk : tag.kind = .startTag) (ht : t.kind = .startTag) (a b : Id) :
    Spec.TreeModes.sameFormatting (a, etokOf tag) (b, etokOf t) = sameEntry (a, tag) (b, t) := by
  simp only [Spec.TreeModes.sameFormatting, sameEntry, Tag.equivModuloAttrOrder, etokOf, isPerm_map_toAdj, hk, ht]
  simp

/-- the Noah's Ark push on the abstract list -/
theorem noah_absListE {s : State} (hw : AFWf s) {tag : Tag} (hk : tag.kind = .startTag) {af1 : List FormatEntry} {elem : Id}
    (hnoah : (af1 ++ [FormatEntry.element elem tag]).map entryOpt
      = noahPush sameEntry (s.activeFormatting.map entryOpt) (elem, tag)) :
    (noahPush Spec.TreeModes.sameFormatting ((absListE s.activeFormatting).map Spec.TreeModes.entryToOpt) (elem, etokOf tag)).map
        Spec.TreeModes.optToEntry = absListE (af1 ++ [FormatEntry.element elem tag]) := by
  have e1 : (absListE s.activeFormatting).map Spec.TreeModes.entryToOpt
      = (s.activeFormatting.map entryOpt).map (Option.map (fun p => (p.1, etokOf p.2))) := by
    simp only [absListE, List.map_map]
    apply List.map_congr_left
    intro e _
    exact entryToOpt_entryE e
  rw [e1]
  have := noahPush_map (fun p : Id × Tag => (p.1, etokOf p.2)) sameEntry Spec.TreeModes.sameFormatting
    (s.activeFormatting.map entryOpt) (elem, tag) ?_
  · rw [this, ← hnoah]
    simp only [absListE, List.map_map]
    apply List.map_congr_left
    intro e _
    exact optToEntry_entryOpt e
  · rintro ⟨b, t⟩ hb
    obtain ⟨e, he, hee⟩ := List.mem_map.mp hb
    cases e with
    | marker => cases hee
    | element b' t' =>
      simp only [entryOpt, Option.some.injEq, Prod.mk.injEq] at hee
      obtain ⟨rfl, rfl⟩ := hee
      exact sameFormatting_etok hk (hw _ _ he).1 elem _

/-- `createFormattingElementFor tag` (Actions.lean) ↔ `insertHtml` followed by `pushFormatting` (TreeModes1).
Needs: the token is a start tag with plain attributes whose name is not special; the listed tokens are
start tags (`AFWf`, preserved). -/
theorem pc_createFormattingElementFor {s : State} (hm : MInv s) (tag : Tag) (hk : tag.kind = .startTag)
    (hp : PlainTag tag)
    (hns : Spec.TreeAlgo.inTable Spec.TreeTables.special ⟨Spec.TreeAlgo.nsHtml, tag.name⟩ = false) :
    PC (createFormattingElementFor tag) s (fun elem s' calls =>
      (∃ af1, s' = { s with openElems := s.openElems ++ [elem], activeFormatting := af1 ++ [.element elem tag],
                            dom := s'.dom, traceRev := s'.traceRev }) ∧
      AFWf s' ∧
      Tr s s' calls (fun x x' => ∃ σ1 e, Spec.TreeModes.insertHtml (absF s x) (specTag tag) = .ok (σ1, e) ∧ e.id = elem ∧
        Spec.TreeModes.pushFormatting σ1 e (specTag tag) = absF s' x')) := by
  have hw : AFWf s := hm.toAFWf
  by_cases hne : s.openElems = []
  · -- the empty stack: `insert_element` panics
    have htail : ∀ s1 : State, s1.openElems = [] → ∀ Q, PC (cfTail tag) s1 Q := by
      intro s1 h1 Q
      unfold cfTail
      exact pc_bind (pc_insertElement_empty h1 _ _ _ _ _ _)
    rw [createFormattingElementFor_eq]
    refine pc_getS_bind ?_
    dsimp only
    by_cases h3 : ((afEndToMarker s.activeFormatting).filter (fun (x : Nat × Id × Tag) => tag.equivModuloAttrOrder x.2.2)).length ≥ 3
    · simp only [h3, if_true]
      obtain ⟨i, h, t, hl, hi, _, _⟩ := noah_list_ge s.activeFormatting tag 0 h3
      rw [hl]
      dsimp only
      refine pc_bind (pc_conseq (PC.of_tot (tot_afRemove' s i "mod.rs:1530" hi)) ?_)
      rintro _ s1 c1 _ ⟨hs1, _⟩
      exact htail s1 (by rw [hs1]; exact hne) _
    · simp only [h3, if_false]
      exact htail s hne _
  · refine pc_conseq (PC.of_tot (tot_createFormattingElementFor s tag hm.elems (hm.headOk hne))) ?_
    rintro elem s' calls he ⟨af1, L, hs', hnoah, hfresh, hel, hnm, hL, hspec⟩
    have hx := he.ext
    have hS : SameButStackList s s' := by unfold SameButStackList; rw [hs']
    have hopen : s'.openElems = s.openElems ++ [elem] := by rw [hs']
    have haf : s'.activeFormatting = af1 ++ [.element elem tag] := by rw [hs']
    -- the list before the new entry is a part of the old list
    have haf1 : ∀ e ∈ af1, e ∈ s.activeFormatting := by
      obtain ⟨l', hl', hsub⟩ := noahPush_init sameEntry (s.activeFormatting.map entryOpt) (elem, tag)
      rw [hl', List.map_append] at hnoah
      have h1 : af1.map entryOpt = l' := (List.append_inj' hnoah rfl).1
      intro e hee
      have : entryOpt e ∈ l' := by rw [← h1]; exact List.mem_map_of_mem hee
      obtain ⟨e', he', hee'⟩ := List.mem_map.mp (hsub _ this)
      rw [← entryOpt_inj hee']; exact he'
    have holdnew : ∀ y t, FormatEntry.element y t ∈ s'.activeFormatting →
        FormatEntry.element y t ∈ s.activeFormatting ∨ (y = elem ∧ t = tag) := by
      intro y t hy
      rw [haf] at hy
      rcases List.mem_append.mp hy with h | h
      · exact Or.inl (haf1 _ h)
      · simp only [List.mem_singleton, FormatEntry.element.injEq] at h; exact Or.inr h
    have hw' : AFWf s' := by
      intro y t hy
      rcases holdnew y t hy with h | ⟨rfl, rfl⟩
      · exact ⟨(hw y t h).1, by rw [nameOf_ext hx (hm.afEl y t h)]; exact (hw y t h).2⟩
      · exact ⟨hk, hnm⟩
    have hm' : MInv s' := by
      refine ⟨?_, ?_, ?_, ?_, ?_, ?_, hw', ?_, by rw [(sbsl_fields hS).templateModes]; exact hm.tmodes,
        hm.form_ext hx (sbsl_fields hS).formElem, by rw [(sbsl_fields hS).pendingTableText]; exact hm.pend⟩
      · rw [hopen]; intro y hy
        rcases List.mem_append.mp hy with h | h
        · exact isElement_ext hx (hm.elems y h)
        · simp only [List.mem_singleton] at h; subst h; exact hel
      · intro h0 hh
        rw [hopen] at hh
        cases hso : s.openElems with
        | nil => exact absurd hso hne
        | cons a r =>
          rw [hso] at hh
          simp only [List.cons_append, List.head?_cons, Option.some.injEq] at hh
          subst hh
          rw [nameOf_ext hx (hm.elems a (by rw [hso]; exact List.mem_cons_self ..))]
          exact hm.root a (by rw [hso]; rfl)
      · intro y t hy
        rcases holdnew y t hy with h | ⟨rfl, rfl⟩
        · obtain ⟨a, b, c⟩ := hm.af y t h
          refine ⟨isElement_lt (isElement_ext hx (hm.afEl y t h)), b, fun hin => ?_⟩
          rw [hopen] at hin
          rcases List.mem_append.mp hin with h1 | h1
          · rw [nameOf_ext hx (hm.elems y h1)]; exact c h1
          · simp only [List.mem_singleton] at h1; subst h1
            exact absurd a (Nat.not_lt.mpr hfresh)
        · exact ⟨isElement_lt hel, hns, fun _ => hnm⟩
      · intro y t hy
        rcases holdnew y t hy with h | ⟨rfl, rfl⟩
        · exact isElement_ext hx (hm.afEl y t h)
        · exact hel
      · intro y hy; rw [(sbsl_fields hS).headElem] at hy; exact isElement_ext hx (hm.head y hy)
      · exact hm.ctx_ext hx (sbsl_fields hS).contextElem
      · rw [hopen]; intro y hy
        rcases List.mem_append.mp hy with h | h
        · rw [nameOf_ext hx (hm.elems y h), ipOfDom_ext hx (hm.elems y h)]; exact hm.ip y h
        · simp only [List.mem_singleton] at h; subst h
          intro hn; rw [hnm] at hn; exact absurd rfl hn
    have hnew : ∀ h ∈ s'.openElems, h ∈ s.openElems ∨ (nameOf s'.dom h).ns = nsHtml := by
      intro h hh
      rw [hopen] at hh
      rcases List.mem_append.mp hh with h1 | h1
      · exact Or.inl h1
      · simp only [List.mem_singleton] at h1; subst h1; rw [hnm]; exact Or.inr rfl
    refine ⟨⟨af1, hs'⟩, hw', (tr_of_phase1 hm he hS hm' hnew [elem]
      (FreshIds.of_size (by intro n hn; simp only [List.mem_singleton] at hn; subst hn; exact hfresh)) L
      (fun tc htc => hL tc (tcOk_of_ext htc hx))).conseq ?_⟩
    rintro x x' hx0 _ ⟨hx', ⟨rest, hsup⟩, hF⟩
    subst hx'
    -- "insert an HTML element" on the state with the old list
    have hins : Spec.TreeAlgo2.insertHtmlElement tagCtx (absState s (elem :: rest) x.logT) tag
        = some ({ absState s rest (x.logT ++ L) with
                    stack := absStack s.dom s.openElems ++ [⟨elem, ⟨nsHtml, tag.name⟩⟩] }, ⟨elem, ⟨nsHtml, tag.name⟩⟩) := by
      have h1 := hspec rest x.logT
      have h2 := insertForeignElement_setList tagCtx (absState { s with activeFormatting := af1 } (elem :: rest) x.logT)
        (absList s.activeFormatting) tag Spec.TreeAlgo.nsHtml false
      unfold Spec.TreeAlgo2.insertHtmlElement at h1 ⊢
      rw [h1] at h2
      exact h2
    refine ⟨{ absF s x with p := mapP etokOf { absState s rest (x.logT ++ L) with
        stack := absStack s.dom s.openElems ++ [⟨elem, ⟨nsHtml, tag.name⟩⟩] } }, ⟨elem, ⟨nsHtml, tag.name⟩⟩, ?_, rfl, ?_⟩
    · unfold Spec.TreeModes.insertHtml
      rw [specTag_etok hp, absF_p, absP_eq s x hx0.live, insertHtmlElement_mapP etokOf ctxMap_etok, hsup,
        List.singleton_append, hins]
      rfl
    · rw [hF, ← absP_step s' hx0.live hsup L []]
      have hstack : absStack s'.dom s'.openElems = absStack s.dom s.openElems ++ [⟨elem, ⟨nsHtml, tag.name⟩⟩] := by
        rw [hopen]
        simp only [absStack, List.map_append, List.map_cons, List.map_nil]
        congr 1
        · exact absStack_ext hm.elems hx
        · simp only [elemOf, hnm]; rfl
      have hlist := noah_absListE hw hk hnoah
      have f := sbsl_fields hS
      simp only [Spec.TreeModes.pushFormatting, Spec.TreeModes.State.setList, specTag_etok hp, mapP, absState, hstack, haf,
        f.fosterParenting, f.formElem]
      rw [← absListE_mapTok, ← absListE_mapTok, hlist]

#print axioms pc_pushMarker
#print axioms pc_clearActiveFormattingToMarker
#print axioms pc_resetLoop
#print axioms pc_resetInsertionMode
#print axioms pc_setMode_junk
#print axioms pc_resetAndSetMode
#print axioms pc_closeTheCellP
#print axioms closeCell_absF
#print axioms minv_of_delta
#print axioms tr_of_phase1
#print axioms pc_reconstruct
#print axioms reconstruct_idem
#print axioms reconstruct_after_insertChar
#print axioms reconDone_insertChars
#print axioms pc_createFormattingElementFor

end H5V.Lemmas.HtmlTBModes
