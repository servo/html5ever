import H5V.Lemmas.HtmlTBSkelShapeIns
/-!
C06, second invariant layer: the judgement `RB` for the rules of the body-like modes
(InBody, InTable, InCaption, InColumnGroup, InTableBody, InRow, InCell, InTemplate):
started in `Big m r ph s` with `s.mode = m`, the rule ends in a state with the stack-shape invariant
(for the mode named by a `Reprocess` answer, if that is the answer).
-/
namespace H5V.Props.C06
open H5V.Model.Dom hiding Str
open H5V.Model.HtmlTB hiding Str
open H5V.Lemmas.Dom

/-- tokens handed to the rules: character runs are non-empty, runs tagged `whitespace` are whitespace
(`isAsciiWhitespace`, the class the model uses) -/
class TokW (t : Token) : Prop where
  ne : ∀ st s, t = .chars st s → s ≠ []
  ws : ∀ s, t = .chars .whitespace s → s.all isAsciiWhitespace = true

instance (t : Token) [h : TokW t] : TokOk t := ⟨h.ne⟩
instance (t : Tag) : TokW (.tag t) := ⟨(by intro _ _ h; cases h), (by intro _ h; cases h)⟩
instance (s : Str) : TokW (.comment s) := ⟨(by intro _ _ h; cases h), (by intro _ h; cases h)⟩
instance : TokW .eof := ⟨(by intro _ _ h; cases h), (by intro _ h; cases h)⟩
instance : TokW .nullChar := ⟨(by intro _ _ h; cases h), (by intro _ h; cases h)⟩

/-- the invariant with the root fixed -/
def Good (r : Id) (s : State) : Prop := ∃ up ph, ShapeAt s r up ph ∧ (¬ ph.isPf → FPok s up)

/-- what a rule establishes, given its answer -/
def Out (r : Id) (s : State) : ProcessResult → Prop
  | .reprocess m t => Good r { s with mode := m } ∧ TokW t
  | .reprocessForeign t => Good r s ∧ TokW t
  | _ => Good r s

def NoRe (res : ProcessResult) : Prop := (∀ m t, res ≠ .reprocess m t) ∧ ∀ t, res ≠ .reprocessForeign t

theorem Out.of_good {r : Id} {s : State} {res : ProcessResult} (h : Good r s) (hn : NoRe res) : Out r s res := by
  cases res <;> first | exact h | exact absurd rfl (hn.1 _ _) | exact absurd rfl (hn.2 _)

theorem isBL_cases {m : Mode} (h : isBL m = true) :
    m = .inBody ∨ m = .inTable ∨ m = .inCaption ∨ m = .inColumnGroup ∨ m = .inTableBody ∨ m = .inRow ∨
      m = .inCell ∨ m = .inTemplate := by
  cases m <;> simp [isBL] at h ⊢

theorem fits_of_bl {d : Dom} {head : Option Id} {m : Mode} {up : List Id} {ph : Phase} (hbl : isBL m = true)
    (hbb : BodyBase d head up ph) (hn : Need d m up) : Fits d head m up ph := by
  rcases isBL_cases hbl with rfl | rfl | rfl | rfl | rfl | rfl | rfl | rfl <;> exact ⟨hbb, hn⟩

theorem bl_of_fits {d : Dom} {head : Option Id} {m : Mode} {up : List Id} {ph : Phase} (hbl : isBL m = true)
    (h : Fits d head m up ph) : BodyBase d head up ph ∧ Need d m up := by
  rcases isBL_cases hbl with rfl | rfl | rfl | rfl | rfl | rfl | rfl | rfl <;> exact h

theorem fitsM_of_bl {s : State} {m : Mode} {up : List Id} {ph : Phase} (hbl : isBL m = true) (hm : s.mode = m)
    (h : Fits s.dom s.headElem m up ph) : FitsM s up ph := by
  unfold FitsM
  rw [hm]
  rcases isBL_cases hbl with rfl | rfl | rfl | rfl | rfl | rfl | rfl | rfl <;> exact h

theorem Big.good {m : Mode} {r : Id} {ph : Phase} {s : State} (h : Big m r ph s) (hm : s.mode = m)
    (hbl : isBL m = true) : Good r s := by
  obtain ⟨up, hc, hbb, hn, hfp⟩ := h
  exact ⟨up, ph, ⟨hc, fitsM_of_bl hbl hm (fits_of_bl hbl hbb hn)⟩, fun _ => hfp⟩

/-- the judgement of the rules of the body-like modes -/
class RB (prog : M ProcessResult) : Prop where
  p : ∀ m r ph s res s', Big m r ph s → s.mode = m → isBL m = true → prog s = .ok (res, s') → Out r s' res

theorem RB.bindPB {α : Type} {m : M α} {f : α → M ProcessResult} (h1 : PB m) (h2 : ∀ a, RB (f a)) : RB (m >>= f) :=
  ⟨fun md r ph s res s'' hb hm hbl e => by
    obtain ⟨a, s', e1, e2⟩ := bind_ok.mp e
    obtain ⟨b1, m1, _⟩ := h1.p md r ph s a s' hb e1
    exact (h2 a).p md r ph s' res s'' b1 (m1.trans hm) hbl e2⟩

theorem RB.pure {res : ProcessResult} (hn : NoRe res) : RB (pure res : M ProcessResult) :=
  ⟨fun md r ph s res' s' hb hm hbl e => by
    obtain ⟨rfl, rfl⟩ := pure_ok.mp e
    exact Out.of_good (hb.good hm hbl) hn⟩

theorem RB.ite {c : Prop} [Decidable c] {a b : M ProcessResult} (h1 : RB a) (h2 : RB b) : RB (if c then a else b) := by
  by_cases hc : c
  · simp only [hc, if_true]; exact h1
  · simp only [hc, if_false]; exact h2

theorem RB.dite {c : Prop} [Decidable c] {a b : M ProcessResult} (h1 : c → RB a) (h2 : ¬c → RB b) :
    RB (if c then a else b) := by
  by_cases hc : c
  · simp only [hc, if_true]; exact h1 hc
  · simp only [hc, if_false]; exact h2 hc

theorem RB.throw (e : String) : RB (throw e : M ProcessResult) := ⟨fun _ _ _ _ _ _ _ _ _ h => absurd h throw_ok⟩

instance : RB (pure .done : M ProcessResult) := RB.pure ⟨(by intro m t h; cases h), (by intro t h; cases h)⟩
instance : RB (pure .doneAckSelfClosing : M ProcessResult) := RB.pure ⟨(by intro m t h; cases h), (by intro t h; cases h)⟩
instance : RB (pure .toPlaintext : M ProcessResult) := RB.pure ⟨(by intro m t h; cases h), (by intro t h; cases h)⟩
instance {α : Type} (m : M α) (f : α → M ProcessResult) [h1 : PB m] [h2 : ∀ a, RB (f a)] : RB (m >>= f) :=
  RB.bindPB h1 h2
instance (c : Prop) [Decidable c] (a b : M ProcessResult) [h1 : RB a] [h2 : RB b] : RB (if c then a else b) :=
  RB.ite h1 h2
instance (e : String) : RB (throw e : M ProcessResult) := RB.throw e
instance (c f t : String) : RB (panicAt c f t : M ProcessResult) := RB.throw _

/-- walking a rule -/
syntax "rb_step" : tactic
macro_rules
  | `(tactic| rb_step) => `(tactic|
    first
      | exact inferInstance
      | with_reducible apply RB.bindPB
      | with_reducible apply RB.dite
      | intro _
      | (dsimp only))
syntax "rb_walk" : tactic
macro_rules
  | `(tactic| rb_walk) => `(tactic| repeat' rb_step)

/-! ### answers of the leaf rules -/

instance : RB unexpected :=
  ⟨fun md r ph s res s' hb hm hbl e => by
    obtain ⟨q, rfl⟩ := qs_unexpected e
    exact ((hb.qs q).good (q.mode.trans hm) hbl)⟩

theorem RB.of_pb {prog : M ProcessResult} (h : PB prog) (hr : ∀ s res s', prog s = .ok (res, s') → NoRe res) :
    RB prog :=
  ⟨fun md r ph s res s' hb hm hbl e => by
    obtain ⟨h1, h2, _⟩ := h.p md r ph s res s' hb e
    exact Out.of_good (h1.good (h2.trans hm) hbl) (hr s res s' e)⟩

theorem noRe_done : NoRe .done := ⟨(by intro m t h; cases h), (by intro t h; cases h)⟩

instance (text : Str) [NE text] : RB (appendText text) :=
  RB.of_pb inferInstance (fun s res s' e => by
    unfold appendText at e
    obtain ⟨u, s1, e1, e2⟩ := bind_ok.mp e
    rw [← (pure_ok.mp e2).1]; exact noRe_done)
instance (text : Str) : RB (appendComment text) :=
  RB.of_pb inferInstance (fun s res s' e => by
    unfold appendComment at e
    obtain ⟨c, s1, e1, e2⟩ := bind_ok.mp e
    obtain ⟨u, s2, e3, e4⟩ := bind_ok.mp e2
    rw [← (pure_ok.mp e4).1]; exact noRe_done)

end H5V.Props.C06
