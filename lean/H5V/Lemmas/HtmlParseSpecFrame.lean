import H5V.Model.HtmlTB
import H5V.Lemmas.HtmlTBMetaBase
/-!
The frame of the helper algorithms of the HTML tree builder: everything in mod.rs below the rules (stack,
scope, list of active formatting elements, insertion, adoption agency, …) leaves the insertion mode, the
original mode, the template modes, the options, the quirks mode, the `ignore_lf` flag and the context
element alone.  `Fb m` is that judgement; it is proved once per algorithm here, by a walk over its
definition; the frame judgements `TextMode.Fr` (HtmlParseSpecTextMode.lean) and `IgnLf.Fl`
(HtmlParseSpecIgnoreLf.lean) are its projections (`fr_of_fb`, `fl_of_fb` there).  At the end of this file:
`TextMode.Ok`, partial correctness of one run, with its rules; HtmlParseSpecTextMode.lean and
HtmlParseSpecIgnoreLf.lean both reason with them.
-/
namespace H5V.Lemmas.ParseSpec
open H5V.Model.Dom (Id QualName Attr NodeOrText SinkOp Output ElementFlags QuirksMode Dom)
open H5V.Model.HtmlTB
open H5V.Lemmas.TBM

/-- the components the helper algorithms never touch -/
def frB (s : State) : Mode × Option Mode × List Mode × Opts × QuirksMode × Bool × Option Id :=
  (s.mode, s.origMode, s.templateModes, s.opts, s.quirksMode, s.ignoreLf, s.contextElem)

structure FbAt {α : Type} (s : State) (m : M α) : Prop where
  h : ∀ a s', m s = .ok (a, s') → frB s' = frB s

/-- `m` leaves the components of `frB` alone -/
class Fb {α : Type} (m : M α) : Prop where
  h : ∀ s, FbAt s m

theorem fb_run {α : Type} {m : M α} (h : Fb m) {s s' : State} {a : α} (e : m s = .ok (a, s')) :
    frB s' = frB s := (h.h s).h a s' e

instance fb_pure {α : Type} (a : α) : Fb (pure a : M α) :=
  ⟨fun _ => ⟨fun _ _ e => by obtain ⟨_, rfl⟩ := pure_ok.mp e; rfl⟩⟩
instance fb_throw {α : Type} (e : String) : Fb (throw e : M α) := ⟨fun _ => ⟨fun _ _ h => absurd h throw_ok⟩⟩
instance fb_panicAt {α : Type} (c f t : String) : Fb (panicAt c f t : M α) :=
  ⟨fun _ => ⟨fun _ _ h => absurd h throw_ok⟩⟩
instance fb_fuelOut {α : Type} (w : String) : Fb (fuelOut w : M α) := ⟨fun _ => ⟨fun _ _ h => absurd h throw_ok⟩⟩
instance fb_getS : Fb getS := ⟨fun _ => ⟨fun _ _ e => by obtain ⟨_, rfl⟩ := getS_ok.mp e; rfl⟩⟩
instance fb_sink (op : SinkOp) : Fb (sink op) :=
  ⟨fun _ => ⟨fun _ _ e => by obtain ⟨d, _, rfl⟩ := sink_ok.mp e; rfl⟩⟩

theorem fb_modS {g : State → State} (h : ∀ s, frB (g s) = frB s) : Fb (modS g) :=
  ⟨fun s => ⟨fun _ _ e => by rw [modS_ok.mp e]; exact h s⟩⟩

theorem fb_bind {α β : Type} {m : M α} {f : α → M β} (h1 : Fb m) (h2 : ∀ a, Fb (f a)) : Fb (m >>= f) :=
  ⟨fun s => ⟨fun b s'' e => by
    obtain ⟨a, s', e1, e2⟩ := bind_ok.mp e
    exact (fb_run (h2 a) e2).trans (fb_run h1 e1)⟩⟩

theorem fb_getS_bind {β : Type} {f : State → M β} (h : ∀ s, FbAt s (f s)) : Fb (getS >>= f) :=
  ⟨fun s => ⟨fun b s'' e => by
    obtain ⟨a, s', e1, e2⟩ := bind_ok.mp e
    obtain ⟨rfl, rfl⟩ := getS_ok.mp e1
    exact (h _).h b s'' e2⟩⟩

theorem fbAt_of {α : Type} {m : M α} (h : Fb m) (s : State) : FbAt s m := h.h s

theorem fbAt_set_bind {β : Type} {x s : State} {k : Unit → M β} (hx : frB x = frB s) (h : ∀ u, Fb (k u)) :
    FbAt s (set x >>= k) :=
  ⟨fun b s'' e => by
    obtain ⟨u, s', e1, e2⟩ := bind_ok.mp e
    rw [set_ok.mp e1] at e2
    exact (fb_run (h u) e2).trans hx⟩

theorem fbAt_set {x s : State} (hx : frB x = frB s) : FbAt s (set x : M Unit) :=
  ⟨fun _ _ e => by rw [set_ok.mp e]; exact hx⟩

theorem fb_ite {α : Type} {c : Prop} [Decidable c] {a b : M α} (ha : Fb a) (hb : Fb b) :
    Fb (if c then a else b) := by
  split
  · exact ha
  · exact hb

theorem fbAt_ite {α : Type} {s : State} {c : Prop} [Decidable c] {a b : M α} (ha : FbAt s a) (hb : FbAt s b) :
    FbAt s (if c then a else b) := by
  split
  · exact ha
  · exact hb

/-- One step of the walk over a helper algorithm.  The rules for `getS >>=`, `>>=`, `set` and `if`, in that
order, come first: they fire by the head symbol of the computation and fail at once on anything else; the
first computation of a `>>=` is mostly a call, which instance search settles on the spot.  Then binders,
hypotheses, calls (instance search), `modS`; last `split` for a `match` and `dsimp only` for a `have`. -/
syntax "fb_step" : tactic
macro_rules
  | `(tactic| fb_step) => `(tactic|
    first
      | (with_reducible refine fb_getS_bind (fun _ => ?_))
      | ((with_reducible refine fb_bind ?_ (fun _ => ?_)); first | exact inferInstance | skip)
      | (with_reducible refine fbAt_set_bind rfl (fun _ => ?_))
      | (with_reducible exact fbAt_set rfl)
      | (with_reducible refine fb_ite ?_ ?_)
      | (with_reducible refine fbAt_ite ?_ ?_)
      | intro _
      | with_reducible assumption
      | exact inferInstance
      | exact fb_modS (fun _ => rfl)
      | split
      | (with_reducible refine fbAt_of ?_ _)
      | dsimp only)

syntax "fb_walk" : tactic
macro_rules
  | `(tactic| fb_walk) => `(tactic| repeat' fb_step)

instance (op : SinkOp) : Fb (sinkUnit op) := by unfold sinkUnit; fb_walk
instance (op : SinkOp) : Fb (sinkNode op) := by unfold sinkNode; fb_walk
instance (op : SinkOp) : Fb (sinkBool op) := by unfold sinkBool; fb_walk
instance (msg : String) : Fb (parseError msg) := by unfold parseError; fb_walk
instance (h : Id) : Fb (elemName h) := by unfold elemName; fb_walk
instance (x y : Id) : Fb (sameNode x y) := by unfold sameNode; fb_walk
instance (h : Id) (n : Str) : Fb (htmlElemNamedS h n) := by unfold htmlElemNamedS; fb_walk
instance (h : Id) (n : String) : Fb (htmlElemNamed h n) := by unfold htmlElemNamed; fb_walk
instance (h : Id) (set : EName → Bool) : Fb (elemIn h set) := by unfold elemIn; fb_walk
instance : Fb currentNode := by unfold currentNode; fb_walk
instance : Fb adjustedCurrentNode := by unfold adjustedCurrentNode; fb_walk
instance (set : EName → Bool) : Fb (currentNodeIn set) := by unfold currentNodeIn; fb_walk
instance (n : Str) : Fb (currentNodeNamedS n) := by unfold currentNodeNamedS; fb_walk
instance (n : String) : Fb (currentNodeNamed n) := by unfold currentNodeNamed; fb_walk
instance : Fb htmlElem := by unfold htmlElem; fb_walk
instance : Fb htmlElemFn := by unfold htmlElemFn; fb_walk
instance : Fb isFragment := by unfold isFragment; fb_walk
instance (h : Id) : Fb (push h) := by unfold push; fb_walk
instance : Fb pop := by unfold pop; fb_walk
instance : Fb popSilently := by unfold popSilently; fb_walk
instance (b : Bool) : Fb (setFramesetOk b) := by unfold setFramesetOk; fb_walk
instance : Fb pushMarker := by unfold pushMarker; fb_walk
instance : Fb unexpected := by unfold unexpected; fb_walk
instance (n : QualName) (a : List Attr) (d : Bool) : Fb (createElementWithFlags n a d) := by
  unfold createElementWithFlags; fb_walk

theorem fb_fosterLoop : ∀ l, Fb (fosterLoop l)
  | [] => by unfold fosterLoop; fb_walk
  | _ :: rest => by
    have ih := fb_fosterLoop rest
    unfold fosterLoop; fb_walk
instance (l : List Id) : Fb (fosterLoop l) := fb_fosterLoop l
instance (o : Option Id) : Fb (appropriatePlaceForInsertion o) := by unfold appropriatePlaceForInsertion; fb_walk
instance (p : InsertionPoint) (c : NodeOrText) : Fb (insertAt p c) := by unfold insertAt; fb_walk
instance (c : NodeOrText) (o : Option Id) : Fb (insertAppropriately c o) := by unfold insertAppropriately; fb_walk
theorem fb_anyHtmlElemNamed (n : String) : ∀ l, Fb (anyHtmlElemNamed n l)
  | [] => by unfold anyHtmlElemNamed; fb_walk
  | _ :: rest => by
    have ih := fb_anyHtmlElemNamed n rest
    unfold anyHtmlElemNamed; fb_walk
instance (n : String) (l : List Id) : Fb (anyHtmlElemNamed n l) := fb_anyHtmlElemNamed n l
instance (n : String) : Fb (inHtmlElemNamed n) := by unfold inHtmlElemNamed; fb_walk
instance (p : Bool) (ns n : Str) (a : List Attr) (d : Bool) : Fb (insertElement p ns n a d) := by
  unfold insertElement; fb_walk
instance (tag : Tag) : Fb (insertElementFor tag) := by unfold insertElementFor; fb_walk
instance (tag : Tag) : Fb (insertAndPopElementFor tag) := by unfold insertAndPopElementFor; fb_walk
instance (n : String) : Fb (insertPhantom n) := by unfold insertPhantom; fb_walk
instance (tag : Tag) (ns : Str) (b : Bool) : Fb (insertForeignElement tag ns b) := by
  unfold insertForeignElement; fb_walk
instance (a : List Attr) : Fb (createRoot a) := by unfold createRoot; fb_walk
instance (t : Str) : Fb (appendText t) := by unfold appendText; fb_walk
instance (t : Str) : Fb (appendComment t) := by unfold appendComment; fb_walk
instance (t : Str) : Fb (appendCommentToDoc t) := by unfold appendCommentToDoc; fb_walk
instance (t : Str) : Fb (appendCommentToHtml t) := by unfold appendCommentToHtml; fb_walk

theorem fb_inScopeLoop (scope : EName → Bool) (pred : Id → M Bool) (hp : ∀ h, Fb (pred h)) :
    ∀ l, Fb (inScopeLoop scope pred l)
  | [] => by unfold inScopeLoop; fb_walk
  | _ :: rest => by
    have ih := fb_inScopeLoop scope pred hp rest
    unfold inScopeLoop; fb_walk
theorem fb_inScope (scope : EName → Bool) (pred : Id → M Bool) (hp : ∀ h, Fb (pred h)) : Fb (inScope scope pred) := by
  have := fb_inScopeLoop scope pred hp
  unfold inScope; fb_walk
instance (scope : EName → Bool) (n : Str) : Fb (inScopeNamedS scope n) := by
  unfold inScopeNamedS; exact fb_inScope _ _ (fun _ => inferInstance)
instance (scope : EName → Bool) (n : String) : Fb (inScopeNamed scope n) := by unfold inScopeNamed; fb_walk
instance (scope : EName → Bool) (x : Id) : Fb (inScope scope (fun n => sameNode n x)) :=
  fb_inScope _ _ (fun _ => inferInstance)
instance (scope : EName → Bool) (x : Id) : Fb (inScope scope (fun n => sameNode x n)) :=
  fb_inScope _ _ (fun _ => inferInstance)
instance (scope : EName → Bool) (set : EName → Bool) : Fb (inScope scope (fun n => elemIn n set)) :=
  fb_inScope _ _ (fun _ => inferInstance)

theorem fb_generateImpliedEndTagsLoop (set : EName → Bool) : ∀ n, Fb (generateImpliedEndTagsLoop set n)
  | 0 => by unfold generateImpliedEndTagsLoop; fb_walk
  | n + 1 => by
    have ih := fb_generateImpliedEndTagsLoop set n
    unfold generateImpliedEndTagsLoop; fb_walk
instance (set : EName → Bool) (n : Nat) : Fb (generateImpliedEndTagsLoop set n) := fb_generateImpliedEndTagsLoop set n
instance (set : EName → Bool) : Fb (generateImpliedEndTags set) := by unfold generateImpliedEndTags; fb_walk
instance (e : Str) : Fb (generateImpliedEndExcept e) := by unfold generateImpliedEndExcept; fb_walk
theorem fb_popUntilCurrentLoop (set : EName → Bool) : ∀ n, Fb (popUntilCurrentLoop set n)
  | 0 => by unfold popUntilCurrentLoop; fb_walk
  | n + 1 => by
    have ih := fb_popUntilCurrentLoop set n
    unfold popUntilCurrentLoop; fb_walk
instance (set : EName → Bool) (n : Nat) : Fb (popUntilCurrentLoop set n) := fb_popUntilCurrentLoop set n
instance (set : EName → Bool) : Fb (popUntilCurrent set) := by unfold popUntilCurrent; fb_walk
theorem fb_popUntilLoop (pred : EName → Bool) : ∀ f n, Fb (popUntilLoop pred f n)
  | 0, _ => by unfold popUntilLoop; fb_walk
  | f + 1, n => by
    have ih := fb_popUntilLoop pred f (n + 1)
    unfold popUntilLoop; fb_walk
instance (pred : EName → Bool) (f n : Nat) : Fb (popUntilLoop pred f n) := fb_popUntilLoop pred f n
instance (pred : EName → Bool) : Fb (popUntil pred) := by unfold popUntil; fb_walk
instance (n : Str) : Fb (popUntilNamedS n) := by unfold popUntilNamedS; fb_walk
instance (n : String) : Fb (popUntilNamed n) := by unfold popUntilNamed; fb_walk
instance (n : Str) : Fb (expectToCloseS n) := by unfold expectToCloseS; fb_walk
instance (n : String) : Fb (expectToClose n) := by unfold expectToClose; fb_walk
instance : Fb closePElement := by unfold closePElement; fb_walk
instance : Fb closePElementInButtonScope := by unfold closePElementInButtonScope; fb_walk
theorem fb_checkBodyEndLoop : ∀ l, Fb (checkBodyEndLoop l)
  | [] => by unfold checkBodyEndLoop; fb_walk
  | _ :: rest => by
    have ih := fb_checkBodyEndLoop rest
    unfold checkBodyEndLoop; fb_walk
instance (l : List Id) : Fb (checkBodyEndLoop l) := fb_checkBodyEndLoop l
instance : Fb checkBodyEnd := by unfold checkBodyEnd; fb_walk
instance : Fb bodyElem := by unfold bodyElem; fb_walk
theorem fb_rpositionLoop (p : Id → M Bool) (hp : ∀ h, Fb (p h)) : ∀ l n, Fb (rpositionLoop p l n)
  | [], _ => by unfold rpositionLoop; fb_walk
  | _ :: rest, n => by
    have ih := fb_rpositionLoop p hp rest (n - 1)
    unfold rpositionLoop; fb_walk
theorem fb_rposition (p : Id → M Bool) (hp : ∀ h, Fb (p h)) : Fb (rposition p) := by
  have := fb_rpositionLoop p hp
  unfold rposition; fb_walk
instance (x : Id) : Fb (rposition (fun n => sameNode x n)) := fb_rposition _ (fun _ => inferInstance)
instance (x : Id) : Fb (rposition (fun n => sameNode n x)) := fb_rposition _ (fun _ => inferInstance)
instance (e : Id) : Fb (removeFromStack e) := by unfold removeFromStack; fb_walk

theorem fb_positionInAFLoop (e : Id) : ∀ l i, Fb (positionInAFLoop e l i)
  | [], _ => by unfold positionInAFLoop; fb_walk
  | .marker :: rest, i => by
    have ih := fb_positionInAFLoop e rest (i + 1)
    unfold positionInAFLoop; fb_walk
  | .element _ _ :: rest, i => by
    have ih := fb_positionInAFLoop e rest (i + 1)
    unfold positionInAFLoop; fb_walk
instance (e : Id) (l : List FormatEntry) (i : Nat) : Fb (positionInAFLoop e l i) := fb_positionInAFLoop e l i
instance (e : Id) : Fb (positionInActiveFormatting e) := by unfold positionInActiveFormatting; fb_walk
instance (af : List FormatEntry) : Fb (setAF af) := by unfold setAF; fb_walk
instance (i : Nat) (site : String) : Fb (afRemove i site) := by unfold afRemove; fb_walk
theorem fb_anySameNodeRev (x : Id) : ∀ l, Fb (anySameNodeRev x l)
  | [] => by unfold anySameNodeRev; fb_walk
  | _ :: rest => by
    have ih := fb_anySameNodeRev x rest
    unfold anySameNodeRev; fb_walk
instance (x : Id) (l : List Id) : Fb (anySameNodeRev x l) := fb_anySameNodeRev x l
instance (e : FormatEntry) : Fb (isMarkerOrOpen e) := by cases e <;> (unfold isMarkerOrOpen; fb_walk)
theorem fb_reconstructRewind : ∀ n, Fb (reconstructRewind n)
  | 0 => by unfold reconstructRewind; fb_walk
  | n + 1 => by
    have ih := fb_reconstructRewind n
    unfold reconstructRewind; fb_walk
instance (n : Nat) : Fb (reconstructRewind n) := fb_reconstructRewind n
theorem fb_reconstructCreate : ∀ f i, Fb (reconstructCreate f i)
  | 0, _ => by unfold reconstructCreate; fb_walk
  | f + 1, i => by
    have ih := fb_reconstructCreate f (i + 1)
    unfold reconstructCreate; fb_walk
instance (f i : Nat) : Fb (reconstructCreate f i) := fb_reconstructCreate f i
instance : Fb reconstructActiveFormattingElements := by unfold reconstructActiveFormattingElements; fb_walk
instance (tag : Tag) : Fb (createFormattingElementFor tag) := by unfold createFormattingElementFor; fb_walk
instance : Fb clearActiveFormattingToMarker := by unfold clearActiveFormattingToMarker; fb_walk

theorem fb_endTagSearch (n : Str) : ∀ l k, Fb (endTagSearch n l k)
  | [], _ => by unfold endTagSearch; fb_walk
  | _ :: rest, k => by
    have ih := fb_endTagSearch n rest (k - 1)
    unfold endTagSearch; fb_walk
instance (n : Str) (l : List Id) (k : Nat) : Fb (endTagSearch n l k) := fb_endTagSearch n l k
instance (tag : Tag) : Fb (processEndTagInBody tag) := by unfold processEndTagInBody; fb_walk
theorem fb_findFurthestBlock : ∀ l i, Fb (findFurthestBlock l i)
  | [], _ => by unfold findFurthestBlock; fb_walk
  | _ :: rest, i => by
    have ih := fb_findFurthestBlock rest (i + 1)
    unfold findFurthestBlock; fb_walk
instance (l : List Id) (i : Nat) : Fb (findFurthestBlock l i) := fb_findFurthestBlock l i
theorem fb_positionSameNode (x : Id) : ∀ l i, Fb (positionSameNode x l i)
  | [], _ => by unfold positionSameNode; fb_walk
  | _ :: rest, i => by
    have ih := fb_positionSameNode x rest (i + 1)
    unfold positionSameNode; fb_walk
instance (x : Id) (l : List Id) (i : Nat) : Fb (positionSameNode x l i) := fb_positionSameNode x l i
theorem fb_aaInner (fe fb : Id) : ∀ n c l b, Fb (aaInner fe fb n c l b)
  | 0, _, _, _ => by unfold aaInner; fb_walk
  | n + 1, c, l, b => by
    have ih := fb_aaInner fe fb n
    unfold aaInner; fb_walk
instance (fe fb : Id) (n c : Nat) (l : Id) (b : Bookmark) : Fb (aaInner fe fb n c l b) := fb_aaInner fe fb n c l b
instance (subject : Str) : Fb (aaOuterStep subject) := by unfold aaOuterStep; fb_walk
theorem fb_aaOuter (subject : Str) : ∀ n, Fb (aaOuter subject n)
  | 0 => by unfold aaOuter; fb_walk
  | n + 1 => by
    have ih := fb_aaOuter subject n
    unfold aaOuter; fb_walk
instance (subject : Str) (n : Nat) : Fb (aaOuter subject n) := fb_aaOuter subject n
instance (subject : Str) : Fb (adoptionAgency subject) := by unfold adoptionAgency; fb_walk
theorem fb_findAInAF : ∀ l, Fb (findAInAF l)
  | [] => by unfold findAInAF; fb_walk
  | (_, _, _) :: rest => by
    have ih := fb_findAInAF rest
    unfold findAInAF; fb_walk
instance (l : List (Nat × Id × Tag)) : Fb (findAInAF l) := fb_findAInAF l
instance : Fb handleMisnestedATags := by unfold handleMisnestedATags; fb_walk
theorem fb_resetLoop : ∀ l n, Fb (resetLoop l n)
  | [], _ => by unfold resetLoop; fb_walk
  | _ :: rest, n => by
    have ih := fb_resetLoop rest (n - 1)
    unfold resetLoop; fb_walk
instance (l : List Id) (n : Nat) : Fb (resetLoop l n) := fb_resetLoop l n
instance : Fb resetInsertionMode := by unfold resetInsertionMode; fb_walk
instance : Fb closeTheCell := by unfold closeTheCell; fb_walk
instance (tag : Tag) (ns : Str) : Fb (enterForeign tag ns) := by unfold enterForeign; fb_walk
instance (tag : Tag) : Fb (foreignStartTag tag) := by unfold foreignStartTag; fb_walk
instance (tok : Token) : Fb (isForeign tok) := by unfold isForeign; fb_walk
theorem fb_popToIntegrationPointLoop : ∀ n, Fb (popToIntegrationPointLoop n)
  | 0 => by unfold popToIntegrationPointLoop; fb_walk
  | n + 1 => by
    have ih := fb_popToIntegrationPointLoop n
    unfold popToIntegrationPointLoop; fb_walk
instance (n : Nat) : Fb (popToIntegrationPointLoop n) := fb_popToIntegrationPointLoop n
instance : Fb pendingTableTextEmpty := by unfold pendingTableTextEmpty; fb_walk
instance (c : Str) : Fb (extractEncoding c) := by unfold extractEncoding; fb_walk
instance (tag : Tag) : Fb (shouldAttachDeclarativeShadow tag) := by unfold shouldAttachDeclarativeShadow; fb_walk
theorem fb_listCloseSearch (b : Bool) : ∀ l, Fb (listCloseSearch b l)
  | [] => by unfold listCloseSearch; fb_walk
  | _ :: rest => by
    have ih := fb_listCloseSearch b rest
    unfold listCloseSearch; fb_walk
instance (b : Bool) (l : List Id) : Fb (listCloseSearch b l) := fb_listCloseSearch b l
theorem fb_findOption : ∀ l, Fb (findOption l)
  | [] => by unfold findOption; fb_walk
  | _ :: rest => by
    have ih := fb_findOption rest
    unfold findOption; fb_walk
instance (l : List Id) : Fb (findOption l) := fb_findOption l
theorem fb_anySameNode (x : Id) : ∀ l, Fb (anySameNode x l)
  | [] => by unfold anySameNode; fb_walk
  | _ :: rest => by
    have ih := fb_anySameNode x rest
    unfold anySameNode; fb_walk
instance (x : Id) (l : List Id) : Fb (anySameNode x l) := fb_anySameNode x l
instance (site : String) : Fb (contextIsSelect site) := by unfold contextIsSelect; fb_walk
instance (site : String) : Fb (popTr site) := by unfold popTr; fb_walk
instance (tag : Tag) : Fb (inBodyHtml tag) := by unfold inBodyHtml; fb_walk
instance (tag : Tag) : Fb (inBodyVoid tag) := by unfold inBodyVoid; fb_walk
theorem fb_flushPendingPlain : ∀ l, Fb (flushPendingPlain l)
  | [] => by unfold flushPendingPlain; fb_walk
  | (_, _) :: rest => by
    have ih := fb_flushPendingPlain rest
    unfold flushPendingPlain; fb_walk
instance (l : List (SplitStatus × Str)) : Fb (flushPendingPlain l) := fb_flushPendingPlain l

/-! ## partial correctness of one run -/

namespace TextMode

/-- partial correctness of the run of `m` from `s` -/
def Ok {α : Type} (m : M α) (s : State) (Q : α → State → Prop) : Prop := ∀ a s', m s = .ok (a, s') → Q a s'

theorem ok_pure {α : Type} {a : α} {s : State} {Q : α → State → Prop} (h : Q a s) : Ok (pure a : M α) s Q :=
  fun _ _ e => by obtain ⟨rfl, rfl⟩ := pure_ok.mp e; exact h

theorem ok_throw {α : Type} {e : String} {s : State} {Q : α → State → Prop} : Ok (throw e : M α) s Q :=
  fun _ _ h => absurd h throw_ok

theorem ok_panicAt {α : Type} {c f t : String} {s : State} {Q : α → State → Prop} : Ok (panicAt c f t : M α) s Q :=
  fun _ _ h => absurd h throw_ok

theorem ok_fuelOut {α : Type} {w : String} {s : State} {Q : α → State → Prop} : Ok (fuelOut w : M α) s Q :=
  fun _ _ h => absurd h throw_ok

theorem ok_bind {α β : Type} {m : M α} {f : α → M β} {s : State} {P : α → State → Prop} {Q : β → State → Prop}
    (h1 : Ok m s P) (h2 : ∀ a s1, P a s1 → Ok (f a) s1 Q) : Ok (m >>= f) s Q :=
  fun b s'' e => by
    obtain ⟨a, s', e1, e2⟩ := bind_ok.mp e
    exact h2 a s' (h1 a s' e1) b s'' e2

theorem ok_mono {α : Type} {m : M α} {s : State} {P Q : α → State → Prop} (h : Ok m s P)
    (hpq : ∀ a s', P a s' → Q a s') : Ok m s Q := fun a s' e => hpq a s' (h a s' e)

theorem ok_getS_bind {β : Type} {f : State → M β} {s : State} {Q : β → State → Prop} (h : Ok (f s) s Q) :
    Ok (getS >>= f) s Q :=
  fun b s'' e => by
    obtain ⟨a, s', e1, e2⟩ := bind_ok.mp e
    obtain ⟨rfl, rfl⟩ := getS_ok.mp e1
    exact h b s'' e2

theorem ok_modS_bind {β : Type} {g : State → State} {k : Unit → M β} {s : State} {Q : β → State → Prop}
    (h : Ok (k ()) (g s) Q) : Ok (modS g >>= k) s Q :=
  fun b s'' e => by
    obtain ⟨u, s', e1, e2⟩ := bind_ok.mp e
    rw [modS_ok.mp e1] at e2
    exact h b s'' e2

theorem ok_set_bind {β : Type} {x : State} {k : Unit → M β} {s : State} {Q : β → State → Prop}
    (h : Ok (k ()) x Q) : Ok (set x >>= k) s Q :=
  fun b s'' e => by
    obtain ⟨u, s', e1, e2⟩ := bind_ok.mp e
    rw [set_ok.mp e1] at e2
    exact h b s'' e2

theorem ok_ite {α : Type} {c : Prop} [Decidable c] {a b : M α} {s : State} {Q : α → State → Prop}
    (ha : c → Ok a s Q) (hb : ¬ c → Ok b s Q) : Ok (if c then a else b) s Q := by
  split
  · exact ha ‹_›
  · exact hb ‹_›

theorem ok_panicAt_bind {α β : Type} {c f t : String} {k : α → M β} {s : State} {Q : β → State → Prop} :
    Ok (panicAt c f t >>= k) s Q :=
  ok_bind (P := fun _ _ => False) ok_panicAt (fun _ _ h => False.elim h)

theorem ok_pure_bind {α β : Type} {a : α} {f : α → M β} {s : State} {Q : β → State → Prop} (h : Ok (f a) s Q) :
    Ok ((pure a : M α) >>= f) s Q :=
  ok_bind (P := fun b s1 => b = a ∧ s1 = s) (ok_pure ⟨rfl, rfl⟩) (fun _ _ ⟨h1, h2⟩ => h1 ▸ h2 ▸ h)

theorem ok_ite_jp {β : Type} {c : Prop} [Decidable c] {a : M PUnit} {k : PUnit → M β} {s : State}
    {P : State → Prop} {R : β → State → Prop} (ha : c → Ok a s (fun _ s1 => P s1)) (hn : ¬ c → P s)
    (hk : ∀ s1, P s1 → Ok (k PUnit.unit) s1 R) : Ok (if c then a >>= k else k PUnit.unit) s R := by
  split
  · rename_i hc; exact ok_bind (ha hc) (fun _ s1 h => hk s1 h)
  · rename_i hc; exact hk s (hn hc)

end TextMode

end H5V.Lemmas.ParseSpec
