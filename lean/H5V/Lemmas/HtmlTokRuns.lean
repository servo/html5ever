import H5V.Lemmas.HtmlTokChunk
/-!
`step` respects the dead-`current_char` simulation; big-step runs; the chunk-merging theorem.
-/
namespace H5V.Model.HtmlTok

/-! ### `step` respects `Sim` -/

theorem preprocess_setCC (o : Opts) (m : Mach) (a x : Char) (xs : Str) :
    preprocess o (m.setCurrentChar a) x xs =
      match preprocess o m x xs with
      | (some c, m', i') => (some c, m', i')
      | (none, m', i') => (none, m'.setCurrentChar a, i') := by
  unfold preprocess
  simp only [setCurrentChar_ignoreLf, setIgnoreLf_setCurrentChar, foldChar_setCurrentChar]
  repeat' split
  all_goals simp_all

theorem getChar_setCC (o : Opts) (m : Mach) (a : Char) (inp : Str) (hr : m.reconsume = false) :
    getChar o (m.setCurrentChar a) inp =
      match getChar o m inp with
      | (some c, m', i') => (some c, m', i')
      | (none, m', i') => (none, m'.setCurrentChar a, i') := by
  unfold getChar
  simp only [setCurrentChar_reconsume, hr, Bool.false_eq_true, ↓reduceIte]
  cases inp with
  | nil => rfl
  | cons x xs => exact preprocess_setCC o m a x xs

/-- how a read result relates when only the (dead) `current_char` differs -/
def liftSetCC (a : Char) (r : Option SetRes × Mach × Str) : Option SetRes × Mach × Str :=
  match r with
  | (some (.fromSet c), m', i') => (some (.fromSet c), m', i')
  | (some (.notFromSet b), m', i') => (some (.notFromSet b), m'.setCurrentChar a, i')
  | (none, m', i') => (none, m'.setCurrentChar a, i')

theorem popExceptFrom_setCC (o : Opts) (S : List Char) (m : Mach) (a : Char) (inp : Str)
    (hr : m.reconsume = false) :
    popExceptFrom o S (m.setCurrentChar a) inp = liftSetCC a (popExceptFrom o S m inp) := by
  rw [popExceptFrom_eq, popExceptFrom_eq, getChar_setCC o m a inp hr]
  simp only [setCurrentChar_reconsume, setCurrentChar_ignoreLf]
  split
  · cases hg : getChar o m inp with
    | mk c r => obtain ⟨m1, i1⟩ := r; cases c <;> simp [liftSetCC]
  · cases inp <;> simp_all [liftSetCC]

theorem deadCC_of_fields {m m1 : Mach} (hd : deadCC m) (h1 : m1.state = m.state)
    (h2 : m1.reconsume = false) (h3 : m1.charRef = m.charRef) : deadCC m1 :=
  ⟨h2, by rw [h3]; exact hd.2.1, by rw [h1]; exact hd.2.2⟩

/-- **`step` respects the simulation** -/
theorem step_sim (o : Opts) (pol : Pol) (m1 m2 : Mach) (inp : Str) (h : Sim m1 m2) :
    RSim (step o pol m1 inp) (step o pol m2 inp) := by
  rcases h with h | ⟨hd, a, ha⟩
  · subst h; exact RSim.refl _
  · subst ha
    obtain ⟨hr, hcr, hk⟩ := hd
    rw [step_setRead o pol m1 inp hcr hk,
      step_setRead o pol (m1.setCurrentChar a) inp (by simp [hcr]) (by simpa using hk)]
    simp only [setCurrentChar_state]
    rw [popExceptFrom_setCC o _ m1 a inp hr]
    cases hgc : popExceptFrom o (setOf m1.state) m1 inp with
    | mk c r =>
    obtain ⟨m', i'⟩ := r
    cases c with
    | none =>
      obtain ⟨_, _, g3⟩ := popExceptFrom_none o _ m1 m' inp i' hgc
      have hf : m'.state = m1.state ∧ m'.reconsume = false ∧ m'.charRef = m1.charRef := by
        rcases g3 with ⟨_, g4⟩ | ⟨_, _, g4⟩ <;> subst g4 <;> simp [hr]
      exact ⟨Or.inr ⟨deadCC_of_fields ⟨hr, hcr, hk⟩ hf.1 hf.2.1 hf.2.2, a, rfl⟩, rfl⟩
    | some s =>
      have hro := popExceptFrom_fields o _ m1 m' inp i' s hgc
      cases s with
      | fromSet c => exact RSim.refl _
      | notFromSet b =>
        simp only [liftSetCC, contSet]
        obtain ⟨hst, hcr', hcc⟩ := transSet_notFromSet o pol m' b
        rw [hcc a]
        have hrec := transSet_reconsume o pol m' (.notFromSet b)
        generalize transSet o pol m' (.notFromSet b) = T at hst hcr' hrec ⊢
        obtain ⟨T1, T2⟩ := T
        simp only at hst hcr' hrec ⊢
        have hdead : deadCC T1 := deadCC_of_fields ⟨hr, hcr, hk⟩ (hst.trans hro.1)
          (by rw [hrec, hro.2.2.1]) (hcr'.trans hro.2.2.2.1)
        have hsim : Sim T1 (T1.setCurrentChar a) := Or.inr ⟨hdead, a, rfl⟩
        unfold ofSig
        cases T2 <;> simp [RSim, hsim]

/-! ### big-step runs (pauses are resumed at once, as `Parser::process` / the harness do) -/

/-- `RunsTo m inp m'`: starting the tokenizer loop on machine `m` with unread input `inp`, resuming
immediately after every Script / EncodingIndicator pause, it consumes all of `inp` and suspends
("needs more input") in machine `m'` -/
inductive RunsTo (o : Opts) (pol : Pol) : Mach → Str → Mach → Prop
  | susp {m inp m'} : step o pol m inp = .suspend m' [] → RunsTo o pol m inp m'
  | cont {m inp m1 i1 m'} : step o pol m inp = .cont m1 i1 → RunsTo o pol m1 i1 m' → RunsTo o pol m inp m'
  | script {m inp m1 i1 m'} : step o pol m inp = .script m1 i1 → RunsTo o pol m1 i1 m' → RunsTo o pol m inp m'
  | indicator {m inp m1 i1 m'} : step o pol m inp = .indicator m1 i1 → RunsTo o pol m1 i1 m' →
      RunsTo o pol m inp m'

/-- where a step that neither suspends nor panics goes on -/
def R.next? : R → Option (Mach × Str)
  | .cont m i | .script m i | .indicator m i => some (m, i)
  | _ => none

theorem R.next?_facts {r : R} {m : Mach} {i : Str} (h : r.next? = some (m, i)) (e : Str) :
    r.isSuspend = false ∧ r.mach? = some m ∧ (r.ext e).next? = some (m, i ++ e) := by
  cases r <;> simp_all [R.next?, R.isSuspend, R.mach?, R.ext]

theorem RSim.next? {ra rb : R} {y : Mach} {i : Str} (h : RSim ra rb) (hb : rb.next? = some (y, i)) :
    ∃ x, ra.next? = some (x, i) ∧ Sim x y := by
  cases ra <;> cases rb <;> simp_all [RSim, R.next?]

theorem RSim.suspend_right {ra : R} {y : Mach} {i : Str} (h : RSim ra (.suspend y i)) :
    ∃ x, ra = .suspend x i ∧ Sim x y := by
  cases ra <;> simp_all [RSim]

/-- the three ways a run goes on are one -/
theorem RunsTo.next {o : Opts} {pol : Pol} {m : Mach} {inp : Str} {m1 : Mach} {i1 : Str} {m' : Mach}
    (hs : (step o pol m inp).next? = some (m1, i1)) (hr : RunsTo o pol m1 i1 m') : RunsTo o pol m inp m' := by
  cases h : step o pol m inp <;> rw [h] at hs <;> simp only [R.next?, Option.some.injEq, Prod.mk.injEq, reduceCtorEq] at hs
  · obtain ⟨rfl, rfl⟩ := hs; exact RunsTo.cont h hr
  · obtain ⟨rfl, rfl⟩ := hs; exact RunsTo.script h hr
  · obtain ⟨rfl, rfl⟩ := hs; exact RunsTo.indicator h hr

/-- induction on a run with the three ways to go on treated as one -/
theorem RunsTo.induct {o : Opts} {pol : Pol} {motive : ∀ m inp m', RunsTo o pol m inp m' → Prop}
    (susp : ∀ {m inp m'} (hs : step o pol m inp = .suspend m' []), motive m inp m' (.susp hs))
    (next : ∀ {m inp m1 i1 m'} (hs : (step o pol m inp).next? = some (m1, i1)) (hr : RunsTo o pol m1 i1 m'),
      motive m1 i1 m' hr → motive m inp m' (.next hs hr))
    {m : Mach} {inp : Str} {m' : Mach} (h : RunsTo o pol m inp m') : motive m inp m' h := by
  induction h with
  | susp hs => exact susp hs
  | cont hs hr ih => exact next (by rw [hs]; rfl) hr ih
  | script hs hr ih => exact next (by rw [hs]; rfl) hr ih
  | indicator hs hr ih => exact next (by rw [hs]; rfl) hr ih

/-- a run from an `RSim`-related step result: it ends in a `Sim`-related machine -/
theorem runsTo_of_rsim (o : Opts) (pol : Pol) {mb : Mach} {ib : Str} {m' : Mach}
    (hrun : RunsTo o pol mb ib m') : ∀ ma ia, RSim (step o pol ma ia) (step o pol mb ib) →
      ∃ m'', RunsTo o pol ma ia m'' ∧ Sim m'' m' := by
  induction hrun using RunsTo.induct with
  | susp hs =>
    intro ma ia hrs
    rw [hs] at hrs
    obtain ⟨x, hsa, h1⟩ := hrs.suspend_right
    exact ⟨x, RunsTo.susp hsa, h1⟩
  | next hs _ ih =>
    intro ma ia hrs
    obtain ⟨x, hsa, h1⟩ := hrs.next? hs
    obtain ⟨m'', hr', hs'⟩ := ih x _ (step_sim o pol x _ _ h1)
    exact ⟨m'', RunsTo.next hsa hr', hs'⟩

theorem R.isSuspend_cont (m : Mach) (i : Str) : (R.cont m i).isSuspend = false := rfl
theorem R.isSuspend_script (m : Mach) (i : Str) : (R.script m i).isSuspend = false := rfl
theorem R.isSuspend_indicator (m : Mach) (i : Str) : (R.indicator m i).isSuspend = false := rfl

/-- **chunk merging.** If the tokenizer, fed `a`, runs to suspension in `m1`, and then, fed `b`,
runs to suspension in `m2`, then fed `a ++ b` in one piece it runs to suspension in a machine
equal to `m2` up to a dead `current_char` — in particular with the same tokens, parse errors,
line numbers and pauses delivered to the sink. -/
theorem runsTo_chunk (o : Opts) (pol : Pol) {m : Mach} {a : Str} {m1 : Mach}
    (hrun : RunsTo o pol m a m1) :
    Good m → m.atEof = false → ∀ (b : Str) (m2 : Mach), RunsTo o pol m1 b m2 →
      ∃ m2', RunsTo o pol m (a ++ b) m2' ∧ Sim m2' m2 := by
  induction hrun using RunsTo.induct with
  | susp hs =>
    intro hg hat b m2 hr2
    obtain ⟨_, hrs, _, _⟩ := step_resume o pol _ _ _ [] b hg hat hs
    exact runsTo_of_rsim o pol hr2 _ _ hrs
  | next hs hr ih =>
    intro hg hat b m2 hr2
    obtain ⟨hns, hm, hext⟩ := R.next?_facts hs b
    rw [← step_mono o pol _ _ b hg.eatOk hat hns] at hext
    obtain ⟨hgx, hax⟩ := step_good o pol _ _ hg hat _ hm
    obtain ⟨m2', hr', hsim⟩ := ih hgx (by rw [hax, hat]) b m2 hr2
    exact ⟨m2', RunsTo.next hext hr', hsim⟩

/-- the invariant and `at_eof` at the end of a run -/
theorem runsTo_good (o : Opts) (pol : Pol) {m : Mach} {a : Str} {m1 : Mach}
    (hrun : RunsTo o pol m a m1) : Good m → m.atEof = false → Good m1 ∧ m1.atEof = false := by
  induction hrun using RunsTo.induct with
  | susp hs =>
    intro hg hat
    obtain ⟨h1, h2⟩ := step_good o pol _ _ hg hat _ (by rw [hs]; rfl)
    exact ⟨h1, by rw [h2, hat]⟩
  | next hs _ ih =>
    intro hg hat
    obtain ⟨hgx, hax⟩ := step_good o pol _ _ hg hat _ (R.next?_facts hs []).2.1
    exact ih hgx (by rw [hax, hat])

/-- a session: the chunks are fed one after the other, each run to suspension -/
inductive Session (o : Opts) (pol : Pol) : Mach → List Str → Mach → Prop
  | nil {m} : Session o pol m [] m
  | cons {m c m1 cs mf} : RunsTo o pol m c m1 → Session o pol m1 cs mf → Session o pol m (c :: cs) mf

/-- **chunk independence of the tokenizer loop**: whatever the partition of the input into
chunks (empty and one-character chunks included), the one-piece run reaches a machine equal, up
to a dead `current_char`, to the one the chunked session reaches -/
theorem session_flatten (o : Opts) (pol : Pol) {m : Mach} {cs : List Str} {mf : Mach}
    (hs : Session o pol m cs mf) : Good m → m.atEof = false →
    (cs = [] ∧ mf = m) ∨ ∃ mf', RunsTo o pol m cs.flatten mf' ∧ Sim mf' mf := by
  induction hs with
  | nil => intro _ _; exact Or.inl ⟨rfl, rfl⟩
  | @cons m0 c m1 cs0 mf0 hr hsess ih =>
    intro hg hat
    right
    obtain ⟨hg1, hat1⟩ := runsTo_good o pol hr hg hat
    rcases ih hg1 hat1 with ⟨hnil, hmf⟩ | ⟨mf', hr', hsim⟩
    · subst hnil
      rw [hmf]
      exact ⟨m1, by simpa using hr, Sim.refl _⟩
    · obtain ⟨m2', hr2, hsim2⟩ := runsTo_chunk o pol hr hg hat cs0.flatten mf' hr'
      exact ⟨m2', by simpa using hr2, Sim.trans hsim2 hsim⟩

end H5V.Model.HtmlTok
