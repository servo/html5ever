import H5V.Lemmas.XmlRTEv
import H5V.Props.C04XmlTerm
/-!
C17, tokenizer half: from chains of steps to the functions the driver runs — `feed` of the whole text in
one piece on a fresh machine (either `discard_bom`), then `finish` (`XmlTokenizer::end`); and from trees to
event lists.
* `nodesLex`: the lexical side conditions on a tree (names, values, comment / PI texts, doctype name)
  under which every event the fixed serializer writes for it satisfies `EvLex` (`serNodes_facts`) — the
  declarations it adds are `xmlns` / `xmlns:p` for prefixes `p` of the tag's own names, with the names'
  namespace URIs as values;
* `adjT`: no empty text node, no two adjacent text nodes; then the one-character-per-token delivery of the
  tokenizer model, merged (`mergeChars`), is exactly `XmlSer.lexAll` (`merge_evToks`).
-/
namespace H5V.Lemmas.XmlRT

section
open H5V.Model.XmlTok

theorem fresh_ctl (b : Bool) : Ctl ({ discardBom := b } : Mach) .data := ⟨rfl, rfl, rfl, rfl, rfl⟩
theorem fresh_clean (b : Bool) : Clean ({ discardBom := b } : Mach) := ⟨rfl, rfl, rfl⟩

/-- `feed` of a text that starts with `<` on a fresh machine, given the chain of steps over the text
from the data state to the data state -/
theorem feed_of_reach (o : Opts) (ho : o.exactErrors = false) (b : Bool) (t : Str) (T : List Model.XmlTB.Token)
    (hrun : ∀ m : Mach, Ctl m .data → Clean m →
      ∃ m', Reach o m ('<' :: t) m' [] ∧ Ctl m' .data ∧ Clean m' ∧ cvOut m'.out = cvOut m.out ++ T) :
    ∃ m1, feed o { discardBom := b } [] ('<' :: t) = .done m1 [] ∧ Ctl m1 .data ∧ cvOut m1.out = T := by
  obtain ⟨mf, hf, _⟩ := Props.C04X.C04_xml_feed_total o { discardBom := b } [] ('<' :: t)
    (Props.C04X.C04_xml_initial_inv .data b)
  have hbom : (feedBom ({ discardBom := b } : Mach) ('<' :: t)).2 = '<' :: t := by
    cases b <;> simp [feedBom]
  have hm0 : Ctl (feedBom ({ discardBom := b } : Mach) ('<' :: t)).1 .data ∧
      Clean (feedBom ({ discardBom := b } : Mach) ('<' :: t)).1 ∧
      (feedBom ({ discardBom := b } : Mach) ('<' :: t)).1.out = [] := by
    cases b
    · simp only [feedBom]; exact ⟨fresh_ctl false, fresh_clean false, rfl⟩
    · simp only [feedBom, if_true]
      exact ⟨⟨rfl, rfl, rfl, rfl, rfl⟩, ⟨rfl, rfl, rfl⟩, rfl⟩
  obtain ⟨m', hr, hc, _, hout⟩ := hrun _ hm0.1 hm0.2.1
  have hrt : RunsTo o (feedBom ({ discardBom := b } : Mach) ('<' :: t)).1 ('<' :: t) m' :=
    Reach.runsTo hr (RunsTo.susp (data_suspend o ho m' hc))
  rcases Props.C15.feed_done o _ _ _ hf with ⟨hnil, _⟩ | ⟨_, hrt'⟩
  · cases hnil
  · rw [hbom] at hrt'
    have := runsTo_det hrt hrt'
    subst this
    refine ⟨m', hf, hc, ?_⟩
    rw [hout, hm0.2.2]; rfl

/-- `XmlTokenizer::end` in the data state: the EOF token -/
theorem finish_data (o : Opts) (ho : o.exactErrors = false) (m : Mach) (h : Ctl m .data) :
    ∃ m2, finish o m = .ok m2 ∧ cvOut m2.out = cvOut m.out ++ [.eof] := by
  obtain ⟨s1, s2, s3, s4, s5⟩ := h
  have hc : Ctl (m.setAtEof true) .data := by constructor <;> simp [Mach.setAtEof, *]
  have hs := data_suspend o ho (m.setAtEof true) hc
  refine ⟨emit (m.setAtEof true) .eof, ?_, ?_⟩
  · unfold finish
    simp only [s2]
    have hf : fuelFor (m.setAtEof true) [] = 15 + 1 := by simp [fuelFor, Mach.setAtEof, s5, s2]
    rw [hf]
    simp only [run, hs]
    simp [eofLoop, transEof, Mach.setAtEof, s1]
  · simp only [emit, Mach.setAtEof]
    rw [cvOut_cons]; rfl

end

open H5V.Model.XmlTB H5V.Model.XmlSer H5V.Lemmas.XmlSer H5V.Lemmas.XmlSerFixed

/-! ### lexical conditions on trees -/

/-- a prefix that can be written as `xmlns:p` -/
def PfxLex (p : Option Str) : Prop := ∀ q, p = some q → ∀ d ∈ q, NmCh d ∧ d ≠ '='

def NoNul (s : Str) : Prop := ∀ c ∈ s, c ≠ '\x00'

def ElemLex (n : QName) (as : List Attr) : Prop :=
  TagNameLex (rawName n) ∧ PfxLex n.pfx ∧ NoNul n.ns ∧
    ∀ a ∈ as, AttrNameLex (rawName a.name) ∧ PfxLex a.name.pfx ∧ NoNul a.name.ns ∧ NoNul a.value

mutual
def nodeLex : Node → Prop
  | .elem n as ks => ElemLex n as ∧ nodesLex ks
  | .text s => NoNul s
  | .comment s => CommentLex s
  | .pi t d => PiLex t d
  | .doctype n _ _ => ∀ x ∈ n, DtCh x
def nodesLex : List Node → Prop
  | [] => True
  | n :: rest => nodeLex n ∧ nodesLex rest
end

/-- an entry of the serializer's top map that can be written as a declaration -/
def DeclOK (e : Option Str × Str) : Prop := PfxLex e.1 ∧ NoNul e.2

theorem declOK_reg1 (sst : List SMap) (F : SMap) (x : QName) (hF : ∀ e ∈ F, DeclOK e) (hx : DeclOK (x.pfx, x.ns)) :
    ∀ e ∈ reg1 sst F x, DeclOK e := by
  unfold reg1
  split
  · intro e he
    rcases mem_insert F _ _ e he with rfl | h
    · exact hx
    · exact hF e h
  · exact hF

theorem declOK_regAll (sst : List SMap) (xs : List QName) (F : SMap) (hF : ∀ e ∈ F, DeclOK e)
    (hx : ∀ x ∈ xs, DeclOK (x.pfx, x.ns)) : ∀ e ∈ regAll sst F xs, DeclOK e := by
  induction xs generalizing F with
  | nil => exact hF
  | cons x rest ih =>
    exact ih _ (declOK_reg1 sst F x hF (hx x (by simp))) (fun y hy => hx y (by simp [hy]))

theorem declOK_topFixed (sst : List SMap) (n : QName) (as : List Attr) (h : ElemLex n as) :
    ∀ e ∈ sortDecls (topFixed sst n as), DeclOK e := by
  obtain ⟨_, h2, h3, h4⟩ := h
  intro e he
  have he' : e ∈ topFixed sst n as := (sortDecls_perm _).mem_iff.mp he
  unfold topFixed at he'
  refine declOK_regAll sst (as.map (·.name)) _ ?_ ?_ e he'
  · have h0 : ∀ e ∈ reg1 sst [] n, DeclOK e := declOK_reg1 sst [] n (by simp) ⟨h2, h3⟩
    split
    · intro e he
      rcases mem_insert _ _ _ e he with rfl | h
      · exact ⟨fun q hq => (by cases hq), fun c hc => (by cases hc)⟩
      · exact h0 e h
    · exact h0
  · intro x hx
    obtain ⟨a, ha, rfl⟩ := List.mem_map.mp hx
    exact ⟨(h4 a ha).2.1, (h4 a ha).2.2.1⟩

theorem attrNameLex_decl (k : Option Str) (h : PfxLex k) : AttrNameLex (declName k) := by
  cases k with
  | none =>
    refine ⟨'x', ['m', 'l', 'n', 's'], by decide, by unfold NmCh; decide, by decide, ?_⟩
    intro d hd
    simp at hd
    rcases hd with rfl | rfl | rfl | rfl <;> (unfold NmCh; decide)
  | some p =>
    refine ⟨'x', ['m', 'l', 'n', 's', ':'] ++ p, by simp [declName, sXmlns], by unfold NmCh; decide,
      by decide, ?_⟩
    intro d hd
    rcases List.mem_append.mp hd with hd | hd
    · simp at hd
      rcases hd with rfl | rfl | rfl | rfl | rfl <;> (unfold NmCh; decide)
    · exact h p rfl d hd

theorem startTag_lex (sst : List SMap) (n : QName) (as : List Attr) (h : ElemLex n as) :
    EvLex (.startTag n (sortDecls (topFixed sst n as)) as) := by
  refine ⟨h.1, ?_⟩
  intro a ha
  unfold rawAttrs at ha
  rcases List.mem_append.mp ha with ha | ha
  · obtain ⟨d, hd, rfl⟩ := List.mem_map.mp ha
    have := declOK_topFixed sst n as h d hd
    exact ⟨attrNameLex_decl d.1 this.1, this.2⟩
  · obtain ⟨b, hb, rfl⟩ := List.mem_map.mp ha
    exact ⟨(h.2.2.2 b hb).1, (h.2.2.2 b hb).2.2.2⟩

/-! ### no empty text, no adjacent text nodes -/

def isTextN : Node → Bool
  | .text _ => true
  | _ => false

mutual
def adjT : Bool → List Node → Prop
  | _, [] => True
  | prev, n :: rest => adjN prev n ∧ adjT (isTextN n) rest
def adjN : Bool → Node → Prop
  | prev, .text s => prev = false ∧ s ≠ []
  | _, .elem _ _ ks => adjT false ks
  | _, _ => True
end

def AdjOK : Bool → List Ev → Prop
  | _, [] => True
  | prev, .text s :: rest => prev = false ∧ s ≠ [] ∧ AdjOK true rest
  | _, .startTag _ _ _ :: rest => AdjOK false rest
  | _, .endTag _ :: rest => AdjOK false rest
  | _, .comment _ :: rest => AdjOK false rest
  | _, .pi _ _ :: rest => AdjOK false rest
  | _, .doctype _ :: rest => AdjOK false rest

def lastT : Bool → List Node → Bool
  | prev, [] => prev
  | _, n :: rest => lastT (isTextN n) rest

mutual
theorem serNode_facts : ∀ (nd : Node) (sst : List SMap) (prev : Bool) (tail : List Ev),
    nodeLex nd → adjN prev nd → AdjOK (isTextN nd) tail →
    (∀ e ∈ (serNode SerCfg.fixed sst nd).1, EvLex e) ∧ AdjOK prev ((serNode SerCfg.fixed sst nd).1 ++ tail)
  | .elem n as ks, sst, prev, tail, hl, ha, ht => by
    simp only [nodeLex] at hl
    simp only [adjN] at ha
    have ih := serNodes_facts ks (topFixed sst n as :: sst) false (.endTag n :: tail) hl.2 ha (by
      simpa [AdjOK, isTextN] using ht)
    simp only [serNode, startElem_fixed, endElem_fixed]
    constructor
    · intro e he
      simp only [List.cons_append, List.mem_cons, List.mem_append, List.mem_nil_iff, or_false] at he
      rcases he with rfl | he | rfl
      · exact startTag_lex sst n as hl.1
      · exact ih.1 e he
      · exact hl.1.1
    · simp only [List.cons_append, List.append_assoc, AdjOK]
      exact ih.2
  | .text s, sst, prev, tail, hl, ha, ht => by
    simp only [nodeLex] at hl
    simp only [adjN] at ha
    simp only [serNode]
    exact ⟨fun e he => by simp at he; subst he; exact ⟨ha.2, hl⟩, by simpa [AdjOK, isTextN] using ⟨ha.1, ha.2, ht⟩⟩
  | .comment s, sst, prev, tail, hl, _, ht | .pi t d, sst, prev, tail, hl, _, ht
  | .doctype n p sy, sst, prev, tail, hl, _, ht =>
    by
    simp only [nodeLex] at hl
    simp only [serNode]
    exact ⟨fun e he => by simp at he; subst he; exact hl, by simpa [AdjOK, isTextN] using ht⟩
theorem serNodes_facts : ∀ (ns : List Node) (sst : List SMap) (prev : Bool) (tail : List Ev),
    nodesLex ns → adjT prev ns → AdjOK (lastT prev ns) tail →
    (∀ e ∈ (serNodes SerCfg.fixed sst ns).1, EvLex e) ∧ AdjOK prev ((serNodes SerCfg.fixed sst ns).1 ++ tail)
  | [], sst, prev, tail, _, _, ht => by
    simp only [serNodes]
    exact ⟨fun e he => (by cases he), by simpa [lastT] using ht⟩
  | nd :: rest, sst, prev, tail, hl, ha, ht => by
    simp only [nodesLex] at hl
    simp only [adjT] at ha
    simp only [lastT] at ht
    have ih2 := serNodes_facts rest (serNode SerCfg.fixed sst nd).2
      (isTextN nd) tail hl.2 ha.2 ht
    have ih1 := serNode_facts nd sst prev ((serNodes SerCfg.fixed (serNode SerCfg.fixed sst nd).2 rest).1 ++ tail)
      hl.1 ha.1 ih2.2
    simp only [serNodes]
    constructor
    · intro e he
      rcases List.mem_append.mp he with he | he
      · exact ih1.1 e he
      · exact ih2.1 e he
    · rw [List.append_assoc]; exact ih1.2
end

/-! ### merging the one-character text tokens -/

def isChars : Token → Bool
  | .chars _ => true
  | _ => false

theorem mergeChars_nonchars (t : Token) (rest : List Token) (h : isChars t = false) :
    mergeChars (t :: rest) = t :: mergeChars rest := by
  cases t with
  | chars s => simp [isChars] at h
  | _ => rw [mergeChars]; intro _ _ _ h1 h2; first | (cases h1; done) | (injection h2 with h3 _; cases h3)

theorem mergeChars_chars_stop (a : Str) (t : Token) (rest : List Token) (h : isChars t = false) :
    mergeChars (.chars a :: t :: rest) = .chars a :: mergeChars (t :: rest) := by
  cases t with
  | chars s => simp [isChars] at h
  | _ => rw [mergeChars]; intro _ _ _ h1 h2; first | (cases h1; done) | (injection h2 with h3 _; cases h3)

theorem mergeChars_run (s : Str) : ∀ (a : Str) (t : Token) (rest : List Token), isChars t = false →
    mergeChars (.chars a :: (s.map (fun c => Token.chars [c]) ++ t :: rest)) =
      .chars (a ++ s) :: mergeChars (t :: rest) := by
  induction s with
  | nil => intro a t rest h; simpa using mergeChars_chars_stop a t rest h
  | cons c s ih =>
    intro a t rest h
    simp only [List.map_cons, List.cons_append]
    rw [mergeChars]
    rw [ih (a ++ [c]) t rest h]
    simp

/-- the first token delivered for a list of events that does not start with text is not text -/
def headOK : List Token → Prop
  | [] => False
  | t :: _ => isChars t = false

theorem evToks_nontext (e : Ev) (h : isTextEv e = false) :
    ∃ t, evToks e = [t] ∧ isChars t = false ∧ lexEv SerCfg.fixed LexCfg.fixed e = some t := by
  cases e with
  | text s => simp [isTextEv] at h
  | startTag n d a | endTag n | comment s | pi t d | doctype n => exact ⟨_, rfl, rfl, rfl⟩

theorem merge_evToks : ∀ (evs : List Ev) (prev : Bool), AdjOK prev evs →
    (prev = true → headOK ((evs.map evToks).flatten ++ [.eof])) ∧
    mergeChars ((evs.map evToks).flatten ++ [.eof]) = lexAll SerCfg.fixed LexCfg.fixed evs := by
  intro evs
  induction evs with
  | nil => intro prev _; exact ⟨fun _ => rfl, by rw [lexAll]; simp [mergeChars]⟩
  | cons e es ih =>
    intro prev h
    by_cases ht : isTextEv e = true
    · cases e with
      | text s =>
        simp only [AdjOK] at h
        obtain ⟨h1, h2, h3⟩ := h
        obtain ⟨ih1, ih2⟩ := ih true h3
        have hk := ih1 rfl
        refine ⟨fun hp => (by rw [h1] at hp; cases hp), ?_⟩
        generalize hT : (es.map evToks).flatten ++ [Token.eof] = T at hk ih2
        cases T with
        | nil => exact hk.elim
        | cons t rest =>
          cases s with
          | nil => exact absurd rfl h2
          | cons c s' =>
            have e1 : ((Ev.text (c :: s') :: es).map evToks).flatten ++ [Token.eof] =
                .chars [c] :: (s'.map (fun c => Token.chars [c]) ++ t :: rest) := by
              simp only [List.map_cons, List.flatten_cons, evToks, List.append_assoc, hT]; rfl
            rw [e1, mergeChars_run s' [c] t rest hk, ih2]
            unfold lexAll
            have e2 : lexEv SerCfg.fixed LexCfg.fixed (.text (c :: s')) = some (.chars (c :: s')) := by
              simp only [lexEv]
              rw [lexText_escape SerCfg.fixed (c :: s') (Or.inr rfl)]
              simp
            simp [List.filterMap_cons, e2]
      | _ => simp [isTextEv] at ht
    · have ht' : isTextEv e = false := by simpa using ht
      obtain ⟨t, e1, e2, e3⟩ := evToks_nontext e ht'
      have hadj : AdjOK false es := by
        cases e with
        | text s => simp [isTextEv] at ht'
        | _ => simpa [AdjOK] using h
      obtain ⟨_, ih2⟩ := ih false hadj
      have e4 : ((e :: es).map evToks).flatten ++ [Token.eof] = t :: ((es.map evToks).flatten ++ [Token.eof]) := by
        simp [e1]
      rw [e4]
      refine ⟨fun _ => e2, ?_⟩
      rw [mergeChars_nonchars t _ e2, ih2]
      unfold lexAll
      simp [List.filterMap_cons, e3]

end H5V.Lemmas.XmlRT
