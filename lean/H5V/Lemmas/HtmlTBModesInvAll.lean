import H5V.Lemmas.HtmlTBModesDev
import H5V.Lemmas.HtmlTBModesInvBodyE
import H5V.Lemmas.HtmlTBModesInvHead
import H5V.Lemmas.HtmlTBModesInvCell
import H5V.Lemmas.HtmlTBModesInvTable
import H5V.Lemmas.HtmlTBModesInvSmall
import H5V.Lemmas.HtmlTBModesInvForeign
/-!
C02 (insertion modes), the invariant `Good` of the specification's run, assembled:

* every rule function of `Spec.TreeModes` keeps `Good` (`keeps_byMode`, `post_dispatch`), given — for tag tokens
  only — the facts `Link`, `FreshFor` and "in "text" the dispatcher chooses the HTML rules", which the MODEL provides;
* hence under `Good` the Assert of "in cell" holds: `byModeDev = byMode`, `dispatchDev = dispatch`;
* for character tokens nothing from the model is needed: `loopDev`/`processCharsDev` agree with `loop`/`processChars`
  and keep the invariant (`loop_char`, `processChars_of_dev`).
-/
set_option linter.unusedSectionVars false
namespace H5V.Lemmas.ModesInv
open H5V.Spec H5V.Spec.TreeModes
open H5V.Spec.TreeAlgo (Str Name nsHtml nsMathml nsSvg inHtml)
open H5V.Spec.TreeAlgo2 (Elem Entry PState)
open H5V.Lemmas.HtmlTBModes (byModeDev dispatchDev loopDev processSTokDev processCharsDev processSToksDev processTokenDev
  runDev cellAssertFails isStartTag byModeDev_eq)

section
variable {N : Type} [DecidableEq N]

/-! ### all the modes -/

theorem keeps_inBody' : Keeps (inBody (N := N)) PreBody := keeps_inBody keeps_inHead
theorem keeps_inTable' : Keeps (inTable (N := N)) PreTable := keeps_inTable keeps_inBody' keeps_inHead

/-- **the rules of the current insertion mode** keep the invariant -/
theorem keeps_byMode : Keeps (byMode (N := N)) (fun _ _ => True) := by
  intro cfg hed σ tok r hg hst hl hfr _ h
  unfold byMode at h
  have hB := keeps_inBody' (N := N)
  have hH := keeps_inHead (N := N)
  have hT := keeps_inTable' (N := N)
  cases hm : σ.mode <;> simp only [hm] at h
  · exact keeps_initial cfg hed σ tok r hg hst hm h
  · exact keeps_beforeHtml cfg hed σ tok r hg hst hm h
  · exact keeps_beforeHead hB cfg hed σ tok r hg hst hl hfr hm h
  · exact hH cfg hed σ tok r hg hst ⟨by rw [hm]; decide, by rw [hm]; decide⟩ h
  · exact keeps_inHeadNoscript hB hH cfg hed σ tok r hg hst hl hfr hm h
  · exact keeps_afterHead hB hH cfg hed σ tok r hg hst hl hfr hm h
  · exact hB cfg hed σ tok r hg hst hl hfr ⟨by rw [hm]; decide, by rw [hm]; decide, fun hc => by rw [hm] at hc; cases hc⟩ h
  · exact keeps_text cfg hed σ tok r hg hst hm h
  · exact hT cfg hed σ tok r hg hst hl hfr (Or.inl hm) h
  · exact keeps_inTableText cfg hed σ tok r hg hst hl hfr hm h
  · exact keeps_inCaption hB cfg hed σ tok r hg hst hl hfr hm h
  · exact keeps_inColumnGroup hB hH cfg hed σ tok r hg hst hl hfr hm h
  · exact keeps_inTableBody hT cfg hed σ tok r hg hst hl hfr hm h
  · exact keeps_inRow hT cfg hed σ tok r hg hst hl hfr hm h
  · exact keeps_inCell hB cfg hed σ tok r hg hst hl hfr hm h
  · exact absurd hm hg.nosel.1
  · exact absurd hm hg.nosel.2
  · exact keeps_inTemplate hB hH cfg hed σ tok r hg hst hl hfr hm h
  · exact keeps_afterBody hB cfg hed σ tok r hg hst hl hfr hm h
  · exact keeps_inFrameset hB hH cfg hed σ tok r hg hst hl hfr hm h
  · exact keeps_afterFrameset hB hH cfg hed σ tok r hg hst hl hfr hm h
  · exact keeps_afterAfterBody hB cfg hed σ tok r hg hst hl hfr hm h
  · exact keeps_afterAfterFrameset hB hH cfg hed σ tok r hg hst hl hfr hm h

/-- for a tag token in "text" the dispatcher chooses the rules of the insertion mode (the current node is the HTML
element that made the parser switch to "text": a fact the model provides) -/
def TextHtml (cfg : Config N) (σ : State N) (tok : STok) : Prop :=
  isChar tok = false → σ.mode = .text →
    TreeAlgo.useHtmlRules (adjustedCurrentNode cfg σ) (tokenKind tok) = true

/-- **the tree construction dispatcher** keeps the invariant -/
theorem post_dispatch {cfg : Config N} (hed : cfg.edition = .customizableSelect) {σ : State N} {tok : STok} {r : Step N}
    (hg : Good σ) (hst : σ.stopped = false) (hl : LinkFor σ tok) (hfr : FreshFor σ tok r) (ht : TextHtml cfg σ tok)
    (h : dispatch cfg σ tok = .ok r) : PostF r := by
  unfold dispatch at h
  split at h
  · exact (keeps_byMode cfg hed σ tok r hg hst hl hfr trivial h).toF
  · rename_i hu
    refine post_foreign keeps_byMode hed hg hst hl hfr ?_ (by simpa using hu) h
    intro hm
    cases hc : isChar tok
    · exact absurd (ht hc hm) hu
    · rfl

/-! ### the Assert of "in cell" holds in good states -/

theorem cellAssertFails_of_good {σ : State N} (hg : Good σ) (tok : STok) : cellAssertFails σ tok = false := by
  by_cases hm : σ.mode = .inCell
  · have hc : hasAnyInTableScope σ ["td", "th"] = true := hg.cell hm
    simp only [cellAssertFails, hc, Bool.not_true, Bool.and_false]
  · exact H5V.Lemmas.HtmlTBModes.cellAssertFails_of_mode σ tok hm

theorem byModeDev_of_good {cfg : Config N} {σ : State N} (hg : Good σ) (tok : STok) :
    byModeDev cfg σ tok = byMode cfg σ tok := byModeDev_eq cfg σ tok (cellAssertFails_of_good hg tok)

theorem dispatchDev_of_good {cfg : Config N} {σ : State N} (hg : Good σ) (tok : STok) :
    dispatchDev cfg σ tok = dispatch cfg σ tok := by
  unfold dispatchDev dispatch
  rw [byModeDev_of_good hg]

/-! ### the unmodified loop without fuel -/

/-- with enough fuel, one token takes `σ` to `σ'` in the UNMODIFIED specification -/
def StdLoops (cfg : Config N) (html : Bool) (σ : State N) (tok : STok) (σ' : State N) : Prop :=
  ∃ k, ∀ k', k ≤ k' → loop cfg k' html σ tok = .ok σ'

def stdRule (cfg : Config N) (html : Bool) (σ : State N) (tok : STok) : M (Step N) :=
  if html then byMode cfg σ tok else dispatch cfg σ tok

def stdCont (cfg : Config N) (k : Nat) (tok : STok) : Step N → M (State N)
  | .done s => pure s
  | .reprocess s => loop cfg k false s tok
  | .reprocessHtml s => loop cfg k true s tok

theorem loop_succ (cfg : Config N) (k : Nat) (html : Bool) (σ : State N) (tok : STok) :
    loop cfg (k + 1) html σ tok = stdRule cfg html σ tok >>= stdCont cfg k tok := by
  rw [loop]
  unfold stdRule
  cases html
  · simp only [Bool.false_eq_true, if_false]
    cases dispatch cfg σ tok with
    | error e => rfl
    | ok r => cases r <;> rfl
  · simp only [if_true]
    cases byMode cfg σ tok with
    | error e => rfl
    | ok r => cases r <;> rfl

theorem StdLoops.done {cfg : Config N} {html : Bool} {σ σ' : State N} {tok : STok}
    (h : stdRule cfg html σ tok = .ok (.done σ')) : StdLoops cfg html σ tok σ' := by
  refine ⟨1, fun k' hk => ?_⟩
  obtain ⟨k, rfl⟩ : ∃ k, k' = k + 1 := ⟨k' - 1, by omega⟩
  rw [loop_succ, h]; rfl

theorem StdLoops.reprocess {cfg : Config N} {html : Bool} {σ σ1 σ' : State N} {tok : STok}
    (h : stdRule cfg html σ tok = .ok (.reprocess σ1)) (h2 : StdLoops cfg false σ1 tok σ') : StdLoops cfg html σ tok σ' := by
  obtain ⟨k0, hk0⟩ := h2
  refine ⟨k0 + 1, fun k' hk => ?_⟩
  obtain ⟨k, rfl⟩ : ∃ k, k' = k + 1 := ⟨k' - 1, by omega⟩
  rw [loop_succ, h]
  exact hk0 k (by omega)

theorem StdLoops.reprocessHtml {cfg : Config N} {html : Bool} {σ σ1 σ' : State N} {tok : STok}
    (h : stdRule cfg html σ tok = .ok (.reprocessHtml σ1)) (h2 : StdLoops cfg true σ1 tok σ') : StdLoops cfg html σ tok σ' := by
  obtain ⟨k0, hk0⟩ := h2
  refine ⟨k0 + 1, fun k' hk => ?_⟩
  obtain ⟨k, rfl⟩ : ∃ k, k' = k + 1 := ⟨k' - 1, by omega⟩
  rw [loop_succ, h]
  exact hk0 k (by omega)

def devRule (cfg : Config N) (html : Bool) (σ : State N) (tok : STok) : M (Step N) :=
  if html then byModeDev cfg σ tok else dispatchDev cfg σ tok

def devCont (cfg : Config N) (k : Nat) (tok : STok) : Step N → M (State N)
  | .done s => pure s
  | .reprocess s => loopDev cfg k false s tok
  | .reprocessHtml s => loopDev cfg k true s tok

theorem loopDev_succ' (cfg : Config N) (k : Nat) (html : Bool) (σ : State N) (tok : STok) :
    loopDev cfg (k + 1) html σ tok = devRule cfg html σ tok >>= devCont cfg k tok := by
  rw [loopDev]
  unfold devRule
  cases html
  · simp only [Bool.false_eq_true, if_false]
    cases dispatchDev cfg σ tok with
    | error e => rfl
    | ok r => cases r <;> rfl
  · simp only [if_true]
    cases byModeDev cfg σ tok with
    | error e => rfl
    | ok r => cases r <;> rfl

theorem devRule_of_good {cfg : Config N} {σ : State N} (hg : Good σ) (html : Bool) (tok : STok) :
    devRule cfg html σ tok = stdRule cfg html σ tok := by
  unfold devRule stdRule
  rw [byModeDev_of_good hg, dispatchDev_of_good hg]

/-! ### character tokens: nothing from the model is needed -/

theorem linkFor_char (σ : State N) (c : Char) : LinkFor σ (.character c) := fun h => by cases h
theorem freshFor_char (σ : State N) (c : Char) (r : Step N) : FreshFor σ (.character c) r := fun h => by cases h
theorem textHtml_char (cfg : Config N) (σ : State N) (c : Char) : TextHtml cfg σ (.character c) := fun h => by cases h

/-- one character token through the loop: the completed and the unmodified specification agree and keep the
invariant -/
theorem loop_char {cfg : Config N} (hed : cfg.edition = .customizableSelect) (c : Char) :
    ∀ (fuel : Nat) (html : Bool) (σ σ' : State N), Good σ → σ.stopped = false →
      loopDev cfg fuel html σ (.character c) = .ok σ' → loop cfg fuel html σ (.character c) = .ok σ' ∧ Inv σ' := by
  intro fuel
  induction fuel with
  | zero => intro html σ σ' _ _ h; simp [loopDev] at h
  | succ fuel ih =>
    intro html σ σ' hg hst h
    rw [loopDev_succ', devRule_of_good hg] at h
    rw [loop_succ]
    obtain ⟨r, hr, h2⟩ := bind_ok h
    have hpost : PostF r := by
      unfold stdRule at hr
      cases html
      · simp only [Bool.false_eq_true, if_false] at hr
        exact post_dispatch hed hg hst (linkFor_char _ _) (freshFor_char _ _ _) (textHtml_char _ _ _) hr
      · simp only [if_true] at hr
        exact (keeps_byMode cfg hed σ _ r hg hst (linkFor_char _ _) (freshFor_char _ _ _) trivial hr).toF
    rw [hr]
    cases r with
    | done s1 => exact ⟨h2, by cases pure_ok h2; exact hpost⟩
    | reprocess s1 => exact ih false s1 σ' hpost.2 hpost.1 h2
    | reprocessHtml s1 => exact ih true s1 σ' hpost.2 hpost.1 h2

theorem inv_clearLf {σ : State N} (h : Inv σ) : Inv ({ σ with ignoreLf := false } : State N) :=
  fun hs => (h hs).same

theorem processSTok_char {cfg : Config N} (hed : cfg.edition = .customizableSelect) (c : Char) {fuel : Nat} {σ σ' : State N}
    (hi : Inv σ) (h : processSTokDev cfg fuel σ (.character c) = .ok σ') :
    processSTok cfg fuel σ (.character c) = .ok σ' ∧ Inv σ' := by
  unfold processSTokDev at h
  unfold processSTok
  split
  · rename_i hs; rw [if_pos hs] at h; exact ⟨h, by cases pure_ok h; exact hi⟩
  · rename_i hs
    rw [if_neg hs] at h
    have hst : σ.stopped = false := by simpa using hs
    split
    · rename_i hl
      rw [if_pos hl] at h
      dsimp only at h ⊢
      split
      · rename_i hc; rw [if_pos hc] at h; exact ⟨h, by cases pure_ok h; exact inv_clearLf hi⟩
      · rename_i hc; rw [if_neg hc] at h
        exact loop_char hed c fuel false _ σ' (inv_clearLf hi hst) hst h
    · rename_i hl; rw [if_neg hl] at h
      exact loop_char hed c fuel false σ σ' (hi hst) hst h

/-- a run of character tokens -/
theorem processChars_of_dev {cfg : Config N} (hed : cfg.edition = .customizableSelect) {fuel : Nat} :
    ∀ (cs : Str) (σ σ' : State N), Inv σ → processCharsDev cfg fuel σ cs = .ok σ' →
      processChars cfg fuel σ cs = .ok σ' ∧ Inv σ' := by
  intro cs
  induction cs with
  | nil => intro σ σ' hi h; exact ⟨h, by cases pure_ok h; exact hi⟩
  | cons c cs ih =>
    intro σ σ' hi h
    simp only [processCharsDev] at h
    simp only [processChars]
    obtain ⟨s1, h1, h2⟩ := bind_ok h
    obtain ⟨e1, i1⟩ := processSTok_char hed c hi h1
    rw [e1]
    exact ih s1 σ' i1 h2

theorem inv_clearOut {σ : State N} (h : Inv σ) : Inv ({ σ with out := {} } : State N) :=
  fun hs => (h hs).same

/-- the end of `processToken`: only `errors`, `outs` change -/
theorem inv_finish {σ : State N} (h : Inv σ) (w : Option String) :
    Inv ({ (match w with | some m => σ.err m | none => σ) with outs := σ.outs ++ [σ.out] } : State N) := by
  cases w with
  | none => exact fun hs => (h hs).same
  | some m => exact fun hs => (h hs).same

/-- a character token of the input (`Token.chars`) -/
theorem processToken_chars_of_dev {cfg : Config N} (hed : cfg.edition = .customizableSelect) {fuel : Nat} {σ σ' : State N}
    {cs : Str} (hi : Inv σ) (h : processTokenDev cfg fuel σ (.chars cs) = .ok σ') :
    processToken cfg fuel σ (.chars cs) = .ok σ' ∧ Inv σ' := by
  unfold processTokenDev at h
  unfold processToken
  dsimp only at h ⊢
  obtain ⟨s1, h1, h2⟩ := bind_ok h
  obtain ⟨e1, i1⟩ := processChars_of_dev hed cs _ s1 (inv_clearOut hi) h1
  rw [e1]
  refine ⟨h2, ?_⟩
  cases pure_ok h2
  exact fun hs => (i1 hs).same

/-- what is threaded through a stretch of tag-token steps: from a good state, the unmodified loop arrives at the
same state, which satisfies the invariant -/
def GStep (cfg : Config N) (html : Bool) (σ : State N) (tok : STok) (σ' : State N) : Prop :=
  σ.stopped = false → Good σ → Inv σ' ∧ StdLoops cfg html σ tok σ'

theorem GStep.then {cfg : Config N} {html : Bool} {σ σ1 σ' : State N} {tok : STok}
    (h1 : σ.stopped = false → Good σ → (σ1.stopped = false ∧ Good σ1) ∧ stdRule cfg html σ tok = .ok (.reprocess σ1))
    (h2 : GStep cfg false σ1 tok σ') : GStep cfg html σ tok σ' := by
  intro hs hg
  obtain ⟨⟨a, b⟩, e⟩ := h1 hs hg
  obtain ⟨i, l⟩ := h2 a b
  exact ⟨i, StdLoops.reprocess e l⟩

/-! ### the start states -/

theorem good_initialState (supply : List N) : Good (initialState supply) :=
  Good.plain' (m := .initial) rfl (by decide) AFOk.nil (fun _ h => by cases h)

theorem createRootHtml_html {cfg : Config N} {s s' : State N} {t : Tag} (h : createRootHtml cfg s t = .ok s') :
    ∃ e : Elem N, e.name = ⟨nsHtml, "html".toList⟩ ∧ Upd s s' (s.p.stack ++ [e]) s.p.list := by
  unfold createRootHtml at h
  obtain ⟨r1, h1, h2⟩ := bind_ok h
  have h1' := req_ok h1
  obtain ⟨n1, st1⟩ := r1
  obtain ⟨hl, hs⟩ := sm_newNode_list h1'
  cases pure_ok h2
  exact ⟨_, rfl, rfl, rfl, rfl, rfl, by show st1.stack ++ _ = _; rw [hs], hl⟩

/-- the state steps 2, 6–12 of the fragment parsing algorithm set up -/
theorem good_fragmentState {cfg : Config N} (hed : cfg.edition = .customizableSelect) {docMode : TreeAlgo.DocMode}
    {form : Option N} {supply : List N} {σ : State N} (h : fragmentState cfg docMode form supply = .ok σ) :
    Good σ ∧ σ.stopped = false := by
  unfold fragmentState at h
  obtain ⟨context, _, h⟩ := bind_ok h
  obtain ⟨s1, h1, h⟩ := bind_ok h
  obtain ⟨s2, h2, h⟩ := bind_ok h
  cases pure_ok h
  obtain ⟨e, he, hu⟩ := createRootHtml_html h1
  -- the template insertion modes
  have htm : ∀ s0 : State N, (s0 = s1 ∨ s0 = { s1 with templateModes := [.inTemplate] }) →
      (∀ m ∈ s0.templateModes, tmOk m) ∧ s0.p.list = [] ∧ s0.stopped = false ∧ s0.names = [e.name] := by
    intro s0 hs0
    have hl : s1.p.list = [] := hu.list
    have hst : s1.stopped = false := hu.stopped
    have hn : s1.names = [e.name] := by rw [names_eq, hu.stack]; rfl
    have ht1 : s1.templateModes = [] := hu.tms
    rcases hs0 with rfl | rfl
    · exact ⟨(by rw [ht1]; intro m hm; cases hm), hl, hst, hn⟩
    · refine ⟨?_, hl, hst, hn⟩
      intro m hm
      simp only [List.mem_singleton] at hm
      subst hm; exact Or.inl rfl
  have key : ∀ s0 : State N, (s0 = s1 ∨ s0 = { s1 with templateModes := [.inTemplate] }) →
      resetInsertionMode cfg s0 = .ok s2 → Good (s2.setForm form) ∧ (s2.setForm form).stopped = false := by
    intro s0 hs0 hr
    obtain ⟨h1', h2', h3', h4'⟩ := htm s0 hs0
    obtain ⟨m, rfl, hm1, hm2, hm3, hm4, hm5⟩ := resetInsertionMode_eff cfg hed h1' hr
    refine ⟨?_, h3'⟩
    have hne : m ≠ .inCell := by
      intro hc
      have := hm5 hc
      rw [h4', cellR_cons, he] at this
      revert this; decide
    refine Good.plain ⟨hne, hm1, hm2, hm3, hm4⟩ ?_ h1'
    show AFOk s0.p.list
    rw [h2']; exact AFOk.nil
  split at h2
  · exact key _ (Or.inr rfl) h2
  · exact key _ (Or.inl rfl) h2

end
end H5V.Lemmas.ModesInv
