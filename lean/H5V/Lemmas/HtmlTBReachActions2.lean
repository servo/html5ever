import H5V.Lemmas.HtmlTBReachActions
/-!
C18, tree-builder side: the list of active formatting elements, "any other end tag" and the searches
of the adoption agency pass only known handles to the sink.
-/
namespace H5V.Props.C18
open H5V.Model.Dom (Id QualName Attr NodeOrText SinkOp Output ElementFlags QuirksMode Dom)
open H5V.Model.HtmlTB
open H5V.Lemmas.TBM

theorem pv_rpositionLoop (p : Id → M Bool) (c0 : List Id) (hp : ∀ h, Call (p h) (h :: c0) nil) :
    ∀ (l : List Id) (n : Nat), Call (rpositionLoop p l n) (l ++ c0) nil
  | [], _ => ⟨by unfold rpositionLoop; pv_walk⟩
  | e :: rest, n => ⟨by have ih := pv_rpositionLoop p c0 hp rest; unfold rpositionLoop; pv_walk⟩

theorem pv_rposition (p : Id → M Bool) (c0 : List Id) (hp : ∀ h, Call (p h) (h :: c0) nil) :
    Call (rposition p) c0 nil := ⟨by
  have hl := pv_rpositionLoop p c0 hp
  unfold rposition; pv_walk⟩

instance pv_rposition_sameNode_l (x : Id) : Call (rposition (fun n => sameNode x n)) [x] nil :=
  pv_rposition _ [x] fun h => ⟨(pv_sameNode x h).pv.weaken (by mem_tac)⟩
instance pv_rposition_sameNode_r (x : Id) : Call (rposition (fun n => sameNode n x)) [x] nil :=
  pv_rposition _ [x] fun h => pv_sameNode h x

instance pv_removeFromStack (e : Id) : Call (removeFromStack e) [e] nil := ⟨by unfold removeFromStack; pv_walk⟩

/-! ### the list of active formatting elements -/

instance pv_positionInAFLoop (e : Id) : ∀ (l : List FormatEntry) (i : Nat), Call (positionInAFLoop e l i) (e :: afIds l) nil
  | [], _ => ⟨by unfold positionInAFLoop; pv_walk⟩
  | .marker :: rest, i => ⟨by unfold positionInAFLoop; exact (pv_positionInAFLoop e rest _).pv⟩
  | .element h t :: rest, i => ⟨by
    have ih := pv_positionInAFLoop e rest
    show PV (e :: h :: afIds rest) _ _
    unfold positionInAFLoop; pv_walk⟩

instance pv_positionInActiveFormatting (e : Id) : Call (positionInActiveFormatting e) [e] nil := ⟨by
  unfold positionInActiveFormatting; pv_walk⟩

instance pv_setAF (af : List FormatEntry) : Call (setAF af) (afIds af) nil := ⟨by unfold setAF; pv_walk⟩

instance pv_afRemove (i : Nat) (site : String) : Call (afRemove i site) [] nil := ⟨by unfold afRemove; pv_walk⟩

instance pv_anySameNodeRev (node : Id) : ∀ l : List Id, Call (anySameNodeRev node l) (node :: l) nil
  | [] => ⟨by unfold anySameNodeRev; pv_walk⟩
  | e :: rest => ⟨by have ih := pv_anySameNodeRev node rest; unfold anySameNodeRev; pv_walk⟩

instance pv_isMarkerOrOpen (e : FormatEntry) : Call (isMarkerOrOpen e) (feH e) nil := ⟨by
  cases e <;> (unfold isMarkerOrOpen; pv_walk)⟩

instance pv_reconstructRewind : ∀ n : Nat, Call (reconstructRewind n) [] nil
  | 0 => ⟨by unfold reconstructRewind; pv_walk⟩
  | i + 1 => ⟨by have ih := pv_reconstructRewind i; unfold reconstructRewind; pv_walk⟩

instance pv_reconstructCreate : ∀ fuel i : Nat, Call (reconstructCreate fuel i) [] nil
  | 0, _ => ⟨by unfold reconstructCreate; pv_walk⟩
  | fuel + 1, i => ⟨by have ih := pv_reconstructCreate fuel; unfold reconstructCreate; pv_walk⟩

instance pv_reconstructActiveFormattingElements : Call reconstructActiveFormattingElements [] nil := ⟨by
  unfold reconstructActiveFormattingElements; pv_walk⟩

instance pv_createFormattingElementFor (t : Tag) : Call (createFormattingElementFor t) [] one := ⟨by
  unfold createFormattingElementFor; pv_walk⟩

theorem mem_clearToMarkerRev {e : FormatEntry} : ∀ {l : List FormatEntry}, e ∈ clearToMarkerRev l → e ∈ l
  | [], h => nomatch h
  | .marker :: _, h => List.mem_cons_of_mem _ h
  | .element _ _ :: rest, h => List.mem_cons_of_mem _ (mem_clearToMarkerRev (l := rest) h)

instance pv_clearActiveFormattingToMarker : Call clearActiveFormattingToMarker [] nil := ⟨by
  unfold clearActiveFormattingToMarker
  refine pv_modS (fun _ => rfl) ?_
  intro s x hx
  simp only [mem_held, mem_afIds, List.mem_reverse] at hx ⊢
  rcases hx with hx | hx | ⟨t, hx⟩ | hx
  · exact Or.inl (Or.inl hx)
  · exact Or.inl (Or.inr (Or.inl hx))
  · exact Or.inl (Or.inr (Or.inr (Or.inl ⟨t, by simpa using mem_clearToMarkerRev hx⟩)))
  · exact Or.inl (Or.inr (Or.inr (Or.inr hx)))⟩

/-! ### "any other end tag" -/

instance pv_endTagSearch (name : Str) : ∀ (l : List Id) (n : Nat), Call (endTagSearch name l n) l nil
  | [], _ => ⟨by unfold endTagSearch; pv_walk⟩
  | e :: rest, n => ⟨by have ih := pv_endTagSearch name rest; unfold endTagSearch; pv_walk⟩

instance pv_processEndTagInBody (t : Tag) : Call (processEndTagInBody t) [] nil := ⟨by
  unfold processEndTagInBody; pv_walk⟩

/-! ### the adoption agency -/

/-- the handle in the answer of `find_furthest_block` -/
abbrev fbH : Option (Nat × Id) → List Id := fun o => (o.map Prod.snd).toList

instance pv_findFurthestBlock : ∀ (l : List Id) (i : Nat), Call (findFurthestBlock l i) l fbH
  | [], _ => ⟨by unfold findFurthestBlock; pv_walk⟩
  | e :: rest, i => ⟨by have ih := pv_findFurthestBlock rest; unfold findFurthestBlock; pv_walk⟩

instance pv_positionSameNode (x : Id) : ∀ (l : List Id) (i : Nat), Call (positionSameNode x l i) (x :: l) nil
  | [], _ => ⟨by unfold positionSameNode; pv_walk⟩
  | e :: rest, i => ⟨by have ih := pv_positionSameNode x rest; unfold positionSameNode; pv_walk⟩

/-- the handle of a bookmark -/
def bmH : Bookmark → List Id
  | .replace h => [h]
  | .insertAfter h => [h]
@[pv_mem] theorem bmH_replace (h : Id) : bmH (.replace h) = [h] := rfl
@[pv_mem] theorem bmH_insertAfter (h : Id) : bmH (.insertAfter h) = [h] := rfl

/-- the handles in the answer of the inner loop: `(last_node, bookmark)` -/
abbrev aaH : Id × Bookmark → List Id := fun p => p.1 :: bmH p.2

end H5V.Props.C18
