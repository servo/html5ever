import H5V.Lemmas.HtmlTokSpecStepDefs
import H5V.Lemmas.HtmlTokSpecTabDoctype
set_option linter.unusedSimpArgs false
/-!
# C01 simulation — layer L2, the look-ahead states

* `eatCmp` against the specification's `nextAre` / `nextAreCaseInsensitive`;
* `look_eat`: one `Tokenizer::eat` under the input relation `InpRel`;
* `look_getChar_some` / `look_getChar_none`: one `get_char` under `InpRel`;
* `stepMdo_sim` (markup declaration open), `stepBav_sim` (before attribute value), `stepAdn_sim`
  (after DOCTYPE name): one `Tokenizer::step` of the model in these states against the specification.
-/
namespace H5V.Lemmas.HtmlTokSpec
open H5V.Model.HtmlTok
open H5V.Spec.HtmlTokenizer (St Tok Emit Tree Switch Ctl ReturnSt normalizeNewlinesFrom)

/-! ## `eatCmp` on the raw and on the normalised text -/

/-- a keyword without line breaks matches the raw text iff it matches the normalised text -/
theorem look_eatCmp_norm (eq : Char → Char → Bool) (all pat : Str) (hp : PatOk eq pat) :
    eatCmp eq (normalizeNewlinesFrom false all) pat = eatCmp eq all pat := by
  induction all generalizing pat with
  | nil => simp
  | cons c s ih =>
    cases pat with
    | nil => simp [eatCmp]
    | cons p ps =>
      have hp' : PatOk eq ps := fun q hq => hp q (List.mem_cons_of_mem _ hq)
      obtain ⟨p1, p2⟩ := hp p (List.mem_cons_self ..)
      by_cases h1 : c = '\r'
      · subst h1
        rw [norm_cr]
        simp [eatCmp, p1, p2]
      · by_cases h2 : c = '\n'
        · subst h2
          rw [norm_lf_false]
          simp [eatCmp, p1]
        · rw [norm_other _ _ _ h1 h2]
          simp only [eatCmp]
          rw [ih ps hp']

/-- the matched keyword is the same text on both sides: dropping it commutes with normalisation -/
theorem look_eatCmp_drop (eq : Char → Char → Bool) (all pat : Str) (hp : PatOk eq pat)
    (h : eatCmp eq all pat = some true) :
    (normalizeNewlinesFrom false all).drop pat.length = normalizeNewlinesFrom false (all.drop pat.length) := by
  induction all generalizing pat with
  | nil =>
    cases pat with
    | nil => simp
    | cons p ps => simp [eatCmp] at h
  | cons c s ih =>
    cases pat with
    | nil => simp
    | cons p ps =>
      have hp' : PatOk eq ps := fun q hq => hp q (List.mem_cons_of_mem _ hq)
      simp only [eatCmp] at h
      split at h
      · rename_i he
        obtain ⟨h1, h2⟩ := brk_ne (patOk_not_brk hp c p (List.mem_cons_self ..) he)
        rw [norm_other _ _ _ h1 h2]
        simpa using ih ps hp' h
      · simp at h

/-- exact comparison: `eatCmp` = the specification's "the next few characters are" -/
theorem look_eatCmp_exact (s pat : Str) :
    (eatCmp eqExact s pat = some true) ↔ s.take pat.length = pat := by
  induction s generalizing pat with
  | nil =>
    cases pat with
    | nil => simp [eatCmp]
    | cons p ps => simp [eatCmp]
  | cons c s ih =>
    cases pat with
    | nil => simp [eatCmp]
    | cons p ps =>
      simp only [eatCmp, eqExact, beq_iff_eq, List.length_cons, List.take_succ_cons, List.cons.injEq]
      by_cases hc : c = p
      · simp [hc, ih ps]
      · simp [hc]

/-- ASCII case-insensitive comparison with a lower-case keyword -/
theorem look_eatCmp_ci (s pat : Str) (hl : ∀ p ∈ pat, toAsciiLower p = p) :
    (eatCmp eqCi s pat = some true) ↔ (s.take pat.length).map H5V.Spec.HtmlTokenizer.lowercase = pat := by
  induction s generalizing pat with
  | nil =>
    cases pat with
    | nil => simp [eatCmp]
    | cons p ps => simp [eatCmp]
  | cons c s ih =>
    cases pat with
    | nil => simp [eatCmp]
    | cons p ps =>
      have hl' : ∀ q ∈ ps, toAsciiLower q = q := fun q hq => hl q (List.mem_cons_of_mem _ hq)
      have hpl := hl p (List.mem_cons_self ..)
      simp only [eatCmp, eqCi, beq_iff_eq, List.length_cons, List.take_succ_cons, List.map_cons, List.cons.injEq,
        hpl, ← toAsciiLower_eq]
      by_cases hc : toAsciiLower c = p
      · simp [hc, ih ps hl']
      · simp [hc]

/-! ## `Tokenizer::eat` under the input relation -/

theorem look_eatSkipLf (m : Mach) (inp : Str) (hr : m.reconsume = false) (hok : EatOk m) :
    (eatSkipLf m inp).1 = { m with ignoreLf := (eatSkipLf m inp).1.ignoreLf } ∧
    normalizeNewlinesFrom (eatSkipLf m inp).1.ignoreLf ((eatSkipLf m inp).1.tempBuf ++ (eatSkipLf m inp).2)
      = normalizeNewlinesFrom m.ignoreLf (m.tempBuf ++ inp) ∧
    ((eatSkipLf m inp).1.ignoreLf = true → (eatSkipLf m inp).1.tempBuf ++ (eatSkipLf m inp).2 = []) := by
  obtain ⟨st, cr, cc, rcn, il, tk, tn, tsc, thd, ta, an0, av0, com, dt, lst, tb, ln, ae, db, out⟩ := m
  simp only [EatOk] at hr hok
  subst hr
  unfold eatSkipLf
  cases il with
  | false => simp
  | true =>
    have ht := hok rfl
    subst ht
    have hr : ∀ b, (Mach.mk st cr cc false b tk tn tsc thd ta an0 av0 com dt lst [] ln ae db out).reconsume = false :=
      fun _ => rfl
    have hil : (Mach.mk st cr cc false true tk tn tsc thd ta an0 av0 com dt lst [] ln ae db out).ignoreLf = true := rfl
    cases inp with
    | nil => simp [peek]
    | cons c rest =>
      simp only [peek, hr, Bool.false_eq_true, ↓reduceIte, List.head?_cons]
      by_cases hc : c = '\n'
      · subst hc
        simp [discardChar, norm_lf_true, Mach.setIgnoreLf]
      · simp [hc, norm_flag c rest hc, Mach.setIgnoreLf]

/-- **one `eat` under `InpRel`**: `N` is what the specification still has to read. The model's
answer is the specification's test on `N`; a matched keyword is dropped on both sides; otherwise
nothing is consumed (a suspended `eat` has moved everything into the stash). -/
theorem look_eat (m : Mach) (inp pat : Str) (eq : Char → Char → Bool)
    (hr : m.reconsume = false) (hok : EatOk m) (hp : PatOk eq pat) (hne : pat ≠ [])
    (b : Option Bool) (m1 : Mach) (i1 : Str) (h : eat m inp pat eq = (b, m1, i1)) :
    m1 = { m with ignoreLf := m1.ignoreLf, tempBuf := m1.tempBuf } ∧
    (m1.ignoreLf = true → m1.tempBuf = [] ∧ i1 = []) ∧
    (b = some true →
      eatCmp eq (normalizeNewlinesFrom m.ignoreLf (m.tempBuf ++ inp)) pat = some true ∧
      normalizeNewlinesFrom m1.ignoreLf i1 = (normalizeNewlinesFrom m.ignoreLf (m.tempBuf ++ inp)).drop pat.length ∧
      m1.tempBuf = [] ∧ m1.ignoreLf = false) ∧
    (b = some false →
      eatCmp eq (normalizeNewlinesFrom m.ignoreLf (m.tempBuf ++ inp)) pat ≠ some true ∧
      normalizeNewlinesFrom m1.ignoreLf i1 = normalizeNewlinesFrom m.ignoreLf (m.tempBuf ++ inp) ∧
      m1.tempBuf = []) ∧
    (b = none →
      normalizeNewlinesFrom m1.ignoreLf (m1.tempBuf ++ i1) = normalizeNewlinesFrom m.ignoreLf (m.tempBuf ++ inp)) := by
  rw [eat_eq_core] at h
  obtain ⟨f1, f2, f3⟩ := look_eatSkipLf m inp hr hok
  generalize (eatSkipLf m inp).1 = mi at *
  generalize (eatSkipLf m inp).2 = ii at *
  rw [← f2]
  generalize hall : mi.tempBuf ++ ii = all at *
  -- the comparison sees the same on the raw and on the normalised text
  have hN : eatCmp eq (normalizeNewlinesFrom mi.ignoreLf all) pat = eatCmp eq all pat := by
    cases hx : mi.ignoreLf with
    | false => exact look_eatCmp_norm eq all pat hp
    | true => rw [f3 hx]; simp
  have hmach : ∀ tb, mi.setTempBuf tb = { m with ignoreLf := mi.ignoreLf, tempBuf := tb } := by
    intro tb; rw [f1]; rfl
  unfold eatCore at h
  cases hc : eatCmp eq all pat with
  | none =>
    cases hae : mi.atEof with
    | true =>
      simp only [hc, hae, ↓reduceIte, Prod.mk.injEq] at h
      obtain ⟨hb, hm1, hi1⟩ := h
      subst hb hm1 hi1
      refine ⟨by rw [hmach], fun hx => ⟨rfl, f3 (by simpa using hx)⟩, by simp, fun _ => ⟨?_, rfl, rfl⟩, by simp⟩
      show eatCmp eq (normalizeNewlinesFrom mi.ignoreLf all) pat ≠ some true
      rw [hN, hc]; simp
    | false =>
      simp only [hc, hae, Bool.false_eq_true, ↓reduceIte, Prod.mk.injEq] at h
      obtain ⟨hb, hm1, hi1⟩ := h
      subst hb hm1 hi1
      refine ⟨by rw [hmach], fun hx => ⟨f3 (by simpa using hx), rfl⟩, by simp, by simp, fun _ => by simp [Mach.setTempBuf]⟩
  | some bb =>
    have hne' : all ≠ [] := by
      intro hnil
      rw [hnil] at hc
      cases pat with
      | nil => exact hne rfl
      | cons p ps => simp [eatCmp] at hc
    have hig : mi.ignoreLf = false := by
      cases hx : mi.ignoreLf with
      | false => rfl
      | true => exact absurd (f3 hx) hne'
    cases bb with
    | false =>
      simp only [hc, Prod.mk.injEq] at h
      obtain ⟨hb, hm1, hi1⟩ := h
      subst hb hm1 hi1
      refine ⟨by rw [hmach], fun hx => by simp [hig] at hx, by simp, fun _ => ⟨?_, rfl, rfl⟩, by simp⟩
      show eatCmp eq (normalizeNewlinesFrom mi.ignoreLf all) pat ≠ some true
      rw [hN, hc]; simp
    | true =>
      simp only [hc, Prod.mk.injEq] at h
      obtain ⟨hb, hm1, hi1⟩ := h
      subst hb hm1 hi1
      refine ⟨by rw [hmach], fun hx => by simp [hig] at hx, fun _ => ⟨?_, ?_, rfl, by simpa using hig⟩, by simp, by simp⟩
      · rw [hN, hc]
      · simp only [Mach.setTempBuf]
        rw [hig]
        exact (look_eatCmp_drop eq all pat hp hc).symm

/-! ## `get_char` under the input relation -/

theorem look_foldChar (o : Opts) (ho : o.exactErrors = false) (m : Mach) (hr : m.reconsume = false)
    (hil : m.ignoreLf = false) (x : Char) (xs : Str) :
    normalizeNewlinesFrom false (x :: xs)
      = (foldChar o m x).1 :: normalizeNewlinesFrom (foldChar o m x).2.ignoreLf xs ∧
    (foldChar o m x).2
      = readerUpd m (foldChar o m x).2.ignoreLf false (foldChar o m x).2.line (foldChar o m x).1 := by
  obtain ⟨st, cr, cc, rcn, il, tk, tn, tsc, thd, ta, an0, av0, com, dt, lst, tb, ln, ae, db, out⟩ := m
  simp only at hr hil
  subst hr hil
  unfold foldChar
  by_cases h1 : x = '\r'
  · subst h1
    simp [ho, norm_cr, readerUpd, Mach.setIgnoreLf, Mach.bumpLine, Mach.setCurrentChar]
  · by_cases h2 : x = '\n'
    · subst h2
      simp [ho, norm_lf_false, readerUpd, Mach.setIgnoreLf, Mach.bumpLine, Mach.setCurrentChar]
    · simp [ho, h1, h2, norm_other, readerUpd, Mach.setIgnoreLf, Mach.bumpLine, Mach.setCurrentChar]

/-- a successful `get_char` (nothing to reconsume): the character delivered is the next character of
the normalised text, and only the reader's registers change -/
theorem look_getChar_some (o : Opts) (ho : o.exactErrors = false) (m : Mach) (inp : Str)
    (hr : m.reconsume = false) (c : Char) (m1 : Mach) (i1 : Str) (h : getChar o m inp = (some c, m1, i1)) :
    normalizeNewlinesFrom m.ignoreLf inp = c :: normalizeNewlinesFrom m1.ignoreLf i1 ∧
    m1 = readerUpd m m1.ignoreLf false m1.line c := by
  unfold getChar at h
  simp only [hr, Bool.false_eq_true, ↓reduceIte] at h
  cases inp with
  | nil => simp at h
  | cons x xs =>
    simp only at h
    unfold preprocess at h
    have hr' : (m.setIgnoreLf false).reconsume = false := by simpa using hr
    have hil' : (m.setIgnoreLf false).ignoreLf = false := rfl
    have hru : ∀ a b d, readerUpd (m.setIgnoreLf false) a false b d = readerUpd m a false b d := fun _ _ _ => rfl
    cases hil : m.ignoreLf with
    | true =>
      simp only [hil, ↓reduceIte] at h
      by_cases hx : x = '\n'
      · subst hx
        simp only [↓reduceIte] at h
        cases xs with
        | nil => simp at h
        | cons y ys =>
          simp only [Prod.mk.injEq, Option.some.injEq] at h
          obtain ⟨e1, e2, e3⟩ := h
          obtain ⟨g1, g2⟩ := look_foldChar o ho (m.setIgnoreLf false) hr' hil' y ys
          rw [norm_lf_true, g1, e1, e2, e3]
          refine ⟨rfl, ?_⟩
          rw [e1, e2, hru] at g2
          exact g2
      · simp only [hx, ↓reduceIte, Prod.mk.injEq, Option.some.injEq] at h
        obtain ⟨e1, e2, e3⟩ := h
        obtain ⟨g1, g2⟩ := look_foldChar o ho (m.setIgnoreLf false) hr' hil' x xs
        rw [norm_flag x xs hx, g1, e1, e2, e3]
        refine ⟨rfl, ?_⟩
        rw [e1, e2, hru] at g2
        exact g2
    | false =>
      simp only [hil, Bool.false_eq_true, ↓reduceIte, Prod.mk.injEq, Option.some.injEq] at h
      obtain ⟨e1, e2, e3⟩ := h
      obtain ⟨g1, g2⟩ := look_foldChar o ho m hr hil x xs
      rw [g1, e1, e2, e3]
      refine ⟨rfl, ?_⟩
      rw [e1, e2] at g2
      exact g2

/-- a suspended `get_char`: the normalised text is exhausted on both sides -/
theorem look_getChar_none (o : Opts) (m : Mach) (inp : Str) (hr : m.reconsume = false)
    (m1 : Mach) (i1 : Str) (h : getChar o m inp = (none, m1, i1)) :
    normalizeNewlinesFrom m.ignoreLf inp = [] ∧ i1 = [] ∧
    m1 = readerUpd m m1.ignoreLf false m.line m.currentChar := by
  obtain ⟨h1, _, h3⟩ := getChar_none o m m1 inp i1 h
  obtain ⟨st, cr, cc, rcn, il, tk, tn, tsc, thd, ta, an0, av0, com, dt, lst, tb, ln, ae, db, out⟩ := m
  simp only at hr
  subst hr
  rcases h3 with ⟨h3, h4⟩ | ⟨h3, h4, h5⟩
  · subst h3 h4; exact ⟨by simp, h1, rfl⟩
  · simp only at h4
    subst h3 h4 h5
    exact ⟨by simp [norm_lf_true], h1, rfl⟩

/-- the two lemmas in the form of the input relation -/
theorem look_getChar_inp (o : Opts) (ho : o.exactErrors = false) (m : Mach) (inp rest : Str)
    (hr : m.reconsume = false) (hst : stash m = []) (hi : InpRel m inp rest)
    (c : Char) (m1 : Mach) (inp1 : Str) (h : getChar o m inp = (some c, m1, inp1)) :
    ∃ rest1, rest = c :: rest1 ∧ rest1 = normalizeNewlinesFrom m1.ignoreLf inp1 ∧
      m1 = readerUpd m m1.ignoreLf false m1.line c := by
  obtain ⟨g1, g2⟩ := look_getChar_some o ho m inp hr c m1 inp1 h
  unfold InpRel at hi
  rw [rc_false hr, hst] at hi
  exact ⟨_, by rw [hi]; simpa using g1, rfl, g2⟩

theorem look_getChar_inp_none (o : Opts) (m : Mach) (inp rest : Str)
    (hr : m.reconsume = false) (hst : stash m = []) (hi : InpRel m inp rest)
    (m1 : Mach) (inp1 : Str) (h : getChar o m inp = (none, m1, inp1)) :
    rest = [] ∧ inp1 = [] ∧ m1 = readerUpd m m1.ignoreLf false m.line m.currentChar := by
  obtain ⟨g1, g2, g3⟩ := look_getChar_none o m inp hr m1 inp1 h
  unfold InpRel at hi
  rw [rc_false hr, hst] at hi
  exact ⟨by rw [hi]; simpa using g1, g2, g3⟩

/-! ## `step` in the three states -/

theorem look_step_mdo (o : Opts) (pol : Pol) (m : Mach) (inp : Str) (hcr : m.charRef = none)
    (hs : m.state = .markupDeclarationOpen) : step o pol m inp = stepMdo o pol m inp := by
  unfold step; simp [hcr, hs, readKind]

theorem look_step_bav (o : Opts) (pol : Pol) (m : Mach) (inp : Str) (hcr : m.charRef = none)
    (hs : m.state = .beforeAttributeValue) : step o pol m inp = stepBav o pol m inp := by
  unfold step; simp [hcr, hs, readKind]

theorem look_step_adn (o : Opts) (pol : Pol) (m : Mach) (inp : Str) (hcr : m.charRef = none)
    (hs : m.state = .afterDoctypeName) : step o pol m inp = stepAdn o pol m inp := by
  unfold step; simp [hcr, hs, readKind]

/-! ## the specification's keyword tests -/

theorem look_nextAre_dashdash (s : Str) :
    H5V.Spec.HtmlTokenizer.nextAre "--" s = true ↔ eatCmp eqExact s kwDashDash = some true := by
  rw [look_eatCmp_exact]
  simp only [H5V.Spec.HtmlTokenizer.nextAre, beq_iff_eq]
  exact Iff.rfl

theorem look_nextAre_cdata (s : Str) :
    H5V.Spec.HtmlTokenizer.nextAre "[CDATA[" s = true ↔ eatCmp eqExact s kwCdata = some true := by
  rw [look_eatCmp_exact]
  simp only [H5V.Spec.HtmlTokenizer.nextAre, beq_iff_eq]
  exact Iff.rfl

theorem look_nextAre_doctype (s : Str) :
    H5V.Spec.HtmlTokenizer.nextAreCaseInsensitive "doctype" s = true ↔ eatCmp eqCi s kwDoctype = some true := by
  rw [look_eatCmp_ci _ _ (by decide)]
  simp only [H5V.Spec.HtmlTokenizer.nextAreCaseInsensitive, beq_iff_eq]
  exact Iff.rfl

theorem look_nextAre_public (s : Str) :
    H5V.Spec.HtmlTokenizer.nextAreCaseInsensitive "public" s = true ↔ eatCmp eqCi s kwPublic = some true := by
  rw [look_eatCmp_ci _ _ (by decide)]
  simp only [H5V.Spec.HtmlTokenizer.nextAreCaseInsensitive, beq_iff_eq]
  exact Iff.rfl

theorem look_nextAre_system (s : Str) :
    H5V.Spec.HtmlTokenizer.nextAreCaseInsensitive "system" s = true ↔ eatCmp eqCi s kwSystem = some true := by
  rw [look_eatCmp_ci _ _ (by decide)]
  simp only [H5V.Spec.HtmlTokenizer.nextAreCaseInsensitive, beq_iff_eq]
  exact Iff.rfl

theorem look_false_of_not {b : Bool} {p : Prop} (h : b = true ↔ p) (hn : ¬ p) : b = false := by
  cases b
  · rfl
  · exact absurd (h.mp rfl) hn

/-! ## the facts carried through the `eat`s of a look-ahead state -/

structure LookSt (s : State) (m : Mach) (inp : Str) (t : Tok) (rest : Str) : Prop where
  st : m.state = s
  core : RegCore m t
  nrec : m.reconsume = false
  ok : EatOk m
  inp : rest = normalizeNewlinesFrom m.ignoreLf (m.tempBuf ++ inp)

theorem look_init {s : State} {m : Mach} {inp : Str} {t : Tok} {rest : Str} (h : RelCore m inp t rest)
    (hcr : m.charRef = none) (hs : m.state = s)
    (hse : s = .markupDeclarationOpen ∨ s = .afterDoctypeName) : LookSt s m inp t rest := by
  have hse' : m.state = .markupDeclarationOpen ∨ m.state = .afterDoctypeName := by rw [hs]; exact hse
  have hrec : m.reconsume = false := h.tinv.linv.peekNoRecon (Or.inr hse')
  refine ⟨hs, h.regCore hcr, hrec, h.tinv.linv.eatOk hse', ?_⟩
  have := h.inp
  unfold InpRel at this
  rw [rc_false hrec, stash_eat hcr hse'] at this
  simpa using this

theorem LookSt.rel {s : State} {m : Mach} {inp : Str} {t : Tok} {rest : Str} (h : LookSt s m inp t rest)
    (hse : s = .markupDeclarationOpen ∨ s = .afterDoctypeName) (ht : TInv m) : RelCore m inp t rest := by
  refine RelCore.ofRegCore h.core ?_ ht
  unfold InpRel
  rw [rc_false h.nrec, stash_eat h.core.cr (by rw [h.st]; exact hse)]
  simpa using h.inp

/-- `temp_buf` and `ignore_lf` are not part of the register relation in the look-ahead states -/
theorem look_regCore_eat {m : Mach} {t : Tok} (h : RegCore m t)
    (hs : m.state = .markupDeclarationOpen ∨ m.state = .afterDoctypeName) (il : Bool) (tb : Str) :
    RegCore { m with ignoreLf := il, tempBuf := tb } t := by
  obtain ⟨hstd, hst, hcr, hreg, hout⟩ := h
  refine ⟨hstd, hst, hcr, ?_, ?_⟩
  · rcases hs with hs | hs <;>
      (simp only [RegRel, AttrRel, hs, isTagSt, needsCur, usesTemp, usesComment, usesDoctype, Bool.false_eq_true,
         false_imp_iff, false_and] at hreg ⊢
       exact hreg)
  · rcases hs with hs | hs <;>
      (simp only [OutRel, cdataBuf, isCdata, hs] at hout ⊢
       exact hout)

/-- one `eat` of a look-ahead state -/
theorem look_stage {s : State} {m : Mach} {inp : Str} {t : Tok} {rest : Str} (h0 : LookSt s m inp t rest)
    (hse : s = .markupDeclarationOpen ∨ s = .afterDoctypeName)
    (pat : Str) (eq : Char → Char → Bool) (hp : PatOk eq pat) (hne : pat ≠ [])
    (b : Option Bool) (m1 : Mach) (i1 : Str) (h : eat m inp pat eq = (b, m1, i1)) :
    (b = some true → LookSt s m1 i1 t (rest.drop pat.length) ∧ eatCmp eq rest pat = some true ∧
        m1.tempBuf = [] ∧ m1.ignoreLf = false) ∧
    (b ≠ some true → LookSt s m1 i1 t rest) ∧
    (b = some false → eatCmp eq rest pat ≠ some true ∧ m1.tempBuf = []) ∧
    (m1.ignoreLf = true → rest = []) := by
  obtain ⟨e0, e1, e2, e3, e4⟩ := look_eat m inp pat eq h0.nrec h0.ok hp hne b m1 i1 h
  obtain ⟨p1, p2, p3, _, _, _⟩ := eat_phi m inp pat eq h0.nrec h0.ok hp hne b m1 i1 h
  have hst : m1.state = s := by rw [e0]; exact h0.st
  have hcore : RegCore m1 t := by
    rw [e0]; exact look_regCore_eat h0.core (by rw [h0.st]; exact hse) _ _
  rw [← h0.inp] at e2 e3 e4
  refine ⟨fun hb => ?_, fun hb => ?_, fun hb => ?_, fun hil => ?_⟩
  · obtain ⟨a1, a2, a3, a4⟩ := e2 hb
    exact ⟨⟨hst, hcore, p2, p3, by rw [a3]; simpa using a2.symm⟩, a1, a3, a4⟩
  · refine ⟨hst, hcore, p2, p3, ?_⟩
    cases b with
    | none => exact (e4 rfl).symm
    | some bb =>
      cases bb with
      | true => exact absurd rfl hb
      | false =>
        obtain ⟨_, a2, a3⟩ := e3 rfl
        rw [a3]; simpa using a2.symm
  · exact ⟨(e3 hb).1, (e3 hb).2.2⟩
  · obtain ⟨a1, a2⟩ := e1 hil
    cases b with
    | none => have := e4 rfl; rw [a1, a2] at this; simpa using this.symm
    | some bb =>
      cases bb with
      | true => have := (e2 rfl).2.2.2; rw [hil] at this; simp at this
      | false => have := (e3 rfl).2.1; rw [a2] at this; simpa using this.symm

/-- leaving a look-ahead state: the stash is empty, the new machine differs from the last `eat`'s
machine in registers that the reader does not look at -/
theorem look_exit {s : State} {m1 : Mach} {i1 : Str} {t : Tok} {rest1 : Str} (h1 : LookSt s m1 i1 t rest1)
    (ht : m1.tempBuf = []) (mm : Mach) (t' : Tok)
    (e2 : mm.ignoreLf = m1.ignoreLf) (e4 : mm.reconsume = false)
    (e6 : mm.state ≠ .markupDeclarationOpen) (e7 : mm.state ≠ .afterDoctypeName)
    (hc : RegCore mm t') (hti : TInv mm) : RelCore mm i1 t' rest1 := by
  refine RelCore.ofRegCore hc ?_ hti
  unfold InpRel
  rw [rc_false e4, stash_plain hc.cr e6 e7, e2]
  have := h1.inp
  rw [ht] at this
  simpa using this

/-- `RegCore` for the machine / registers after a look-ahead state -/
macro "look_core" : tactic => `(tactic| (
  rw [regCore_iff]
  simp (config := {decide := true}) [Std, stOf, altSt, isRet, RegRel, AttrRel, attrR_nil_iff, isTagSt, needsCur, usesTemp, usesComment,
    usesDoctype, OutRel, cdataBuf, isCdata, to, clearComment, clearTemp, badChar, emit, emitErr,
    Tok.createComment, Tok.setState, *]))

/-! ## markup declaration open -/

/-- the registers in the markup declaration open state -/
theorem look_mdo_regs {m : Mach} {t : Tok} (h : RegCore m t) (hs : m.state = .markupDeclarationOpen) :
    t.state = .markupDeclarationOpen ∧ m.charRef = none ∧ m.lastStartTag = t.lastStartTag ∧
    m.tagAttrs = [] ∧ m.attrName = [] ∧ m.attrValue = [] ∧ m.comment = [] ∧ t.out = flat m.out := by
  obtain ⟨hstd, hst, hcr, hreg, hout⟩ := h
  simp [hs, stOf, altSt, isRet] at hst
  simp [RegRel, AttrRel, hs, isTagSt, needsCur, usesTemp, usesComment, usesDoctype] at hreg
  simp [OutRel, cdataBuf, isCdata, hs] at hout
  obtain ⟨r1, ⟨r2, r3, r4⟩, r5⟩ := hreg
  exact ⟨hst, hcr, r1, r2, r3, r4, r5, hout⟩

theorem stepMdo_sim (o : Opts) (ho : o.exactErrors = false) (pol : Pol) (tree : Tree) (hpt : PolTree pol tree)
    (m : Mach) (inp : Str) (t : Tok) (rest : Str) (h : RelCore m inp t rest) (hcr : m.charRef = none)
    (hs : m.state = .markupDeclarationOpen) : StepOk tree t rest (stepMdo o pol m inp) := by
  have hk := look_step_mdo o pol m inp hcr hs
  have htinv : ∀ m' i', (stepMdo o pol m inp).pair? = some (m', i') → TInv m' :=
    fun m' i' hh => step_tinv o pol m inp h.tinv m' i' (by rw [hk]; exact hh)
  have hse : State.markupDeclarationOpen = .markupDeclarationOpen ∨ State.markupDeclarationOpen = .afterDoctypeName :=
    Or.inl rfl
  have h0 : LookSt .markupDeclarationOpen m inp t rest := look_init h hcr hs hse
  obtain ⟨pk1, pk2, pk3, _, _⟩ := patOk_kw
  obtain ⟨n1, n2, n3, _, _⟩ := kw_ne
  generalize hres : stepMdo o pol m inp = r at htinv ⊢
  unfold stepMdo at hres
  cases h1 : eat m inp kwDashDash eqExact with
  | mk b1 r1 =>
    obtain ⟨m1, i1⟩ := r1
    obtain ⟨s1t, s1f, s1x, _⟩ := look_stage h0 hse _ _ pk1 n1 b1 m1 i1 h1
    rw [h1] at hres
    cases b1 with
    | none =>
      simp only at hres; subst hres
      exact ((s1f (by simp)).rel hse (htinv _ _ rfl)).toRel
    | some b1 =>
      cases b1 with
      | true =>
        simp only at hres; subst hres
        obtain ⟨s1, c1, t1, _⟩ := s1t rfl
        obtain ⟨hst, hcr1, r1, r2, r3, r4, r5, hout⟩ := look_mdo_regs s1.core s1.st
        have hA := (look_nextAre_dashdash rest).mpr c1
        have hstep : sstep tree t rest = ((t.createComment []).setState .commentStart, .advance 2) := by
          simp [sstep, H5V.Spec.HtmlTokenizer.step, hst, H5V.Spec.HtmlTokenizer.markupDeclarationOpenState, hA]
        refine Reach.stepEq hstep (Reach.done (RelCore.toRel ?_))
        refine look_exit s1 t1 _ _ rfl (by simpa [to, clearComment] using s1.nrec) (by simp [to]) (by simp [to]) ?_
          (htinv _ _ rfl)
        look_core
      | false =>
        simp only at hres
        have s1 := s1f (by simp)
        obtain ⟨c1, t1⟩ := s1x rfl
        have hA := look_false_of_not (look_nextAre_dashdash rest) c1
        cases h2 : eat m1 i1 kwDoctype eqCi with
        | mk b2 r2 =>
          obtain ⟨m2, i2⟩ := r2
          obtain ⟨s2t, s2f, s2x, s2l⟩ := look_stage s1 hse _ _ pk2 n2 b2 m2 i2 h2
          rw [h2] at hres
          cases b2 with
          | none =>
            simp only at hres; subst hres
            exact ((s2f (by simp)).rel hse (htinv _ _ rfl)).toRel
          | some b2 =>
            cases b2 with
            | true =>
              simp only at hres; subst hres
              obtain ⟨s2, c2, t2, _⟩ := s2t rfl
              obtain ⟨hst, hcr2, g1, g2, g3, g4, g5, hout⟩ := look_mdo_regs s2.core s2.st
              have hB := (look_nextAre_doctype rest).mpr c2
              have hstep : sstep tree t rest = (t.setState .doctype, .advance 7) := by
                simp [sstep, H5V.Spec.HtmlTokenizer.step, hst, H5V.Spec.HtmlTokenizer.markupDeclarationOpenState, hA, hB]
              refine Reach.stepEq hstep (Reach.done (RelCore.toRel ?_))
              refine look_exit s2 t2 _ _ rfl (by simpa [to] using s2.nrec) (by simp [to]) (by simp [to]) ?_
                (htinv _ _ rfl)
              look_core
            | false =>
              simp only at hres
              have s2 := s2f (by simp)
              obtain ⟨c2, t2⟩ := s2x rfl
              have hB := look_false_of_not (look_nextAre_doctype rest) c2
              have hfor : tree.foreign t.out = pol.cdataOk m2.out := by
                rw [← hpt.cdata m2.out, (look_mdo_regs s2.core s2.st).2.2.2.2.2.2.2]
              cases hcd : pol.cdataOk m2.out with
              | true =>
                simp only [hcd, if_true] at hres
                cases h3 : eat m2 i2 kwCdata eqExact with
                | mk b3 r3 =>
                  obtain ⟨m3, i3⟩ := r3
                  obtain ⟨s3t, s3f, s3x, _⟩ := look_stage s2 hse _ _ pk3 n3 b3 m3 i3 h3
                  rw [h3] at hres
                  cases b3 with
                  | none =>
                    simp only at hres; subst hres
                    exact ((s3f (by simp)).rel hse (htinv _ _ rfl)).toRel
                  | some b3 =>
                    cases b3 with
                    | true =>
                      simp only at hres; subst hres
                      obtain ⟨s3, c3, t3, _⟩ := s3t rfl
                      obtain ⟨hst, hcr3, g1, g2, g3, g4, g5, hout⟩ := look_mdo_regs s3.core s3.st
                      have hC := (look_nextAre_cdata rest).mpr c3
                      have hstep : sstep tree t rest = (t.setState .cdataSection, .advance 7) := by
                        simp [sstep, H5V.Spec.HtmlTokenizer.step, hst,
                          H5V.Spec.HtmlTokenizer.markupDeclarationOpenState, hA, hB, hC, hfor, hcd]
                      refine Reach.stepEq hstep (Reach.done (RelCore.toRel ?_))
                      refine look_exit s3 t3 _ _ rfl (by simpa [to, clearTemp] using s3.nrec) (by simp [to]) (by simp [to])
                        ?_ (htinv _ _ rfl)
                      look_core
                    | false =>
                      simp only at hres; subst hres
                      have s3 := s3f (by simp)
                      obtain ⟨c3, t3⟩ := s3x rfl
                      obtain ⟨hst, hcr3, g1, g2, g3, g4, g5, hout⟩ := look_mdo_regs s3.core s3.st
                      have hC := look_false_of_not (look_nextAre_cdata rest) c3
                      have hstep : sstep tree t rest = ((t.createComment []).setState .bogusComment, .advance 0) := by
                        simp [sstep, H5V.Spec.HtmlTokenizer.step, hst,
                          H5V.Spec.HtmlTokenizer.markupDeclarationOpenState, hA, hB, hC]
                      refine Reach.stepEq hstep (Reach.done (RelCore.toRel ?_))
                      refine look_exit s3 t3 _ _ (by simp [to, clearComment, badChar, ho, emit])
                        (by simpa [to, clearComment, badChar, ho, emit] using s3.nrec) (by simp [to]) (by simp [to])
                        ?_ (htinv _ _ rfl)
                      look_core
              | false =>
                simp only [hcd, Bool.false_eq_true, if_false] at hres
                subst hres
                obtain ⟨hst, hcr2, g1, g2, g3, g4, g5, hout⟩ := look_mdo_regs s2.core s2.st
                by_cases hC : H5V.Spec.HtmlTokenizer.nextAre "[CDATA[" rest = true
                · -- `<![CDATA[` outside foreign content: the lag
                  have hil : m2.ignoreLf = false := by
                    cases hx : m2.ignoreLf with
                    | false => rfl
                    | true => rw [s2l hx] at hC; exact absurd hC (by decide)
                  have hrest : rest = normalizeNewlinesFrom false i2 := by
                    have := s2.inp; rw [t2, hil] at this; simpa using this
                  have c3 := (look_nextAre_cdata rest).mp hC
                  have hdrop : rest.drop 7 = normalizeNewlinesFrom false (i2.drop 7) := by
                    rw [hrest] at c3 ⊢
                    rw [look_eatCmp_norm _ _ _ pk3] at c3
                    exact look_eatCmp_drop eqExact i2 kwCdata pk3 c3
                  have htake : i2.take 7 = kwCdata := by
                    rw [hrest, look_eatCmp_norm _ _ _ pk3] at c3
                    exact (look_eatCmp_exact i2 kwCdata).mp c3
                  have hstep : sstep tree t rest =
                      ((t.createComment "[CDATA[".toList).setState .bogusComment, .advance 7) := by
                    simp [sstep, H5V.Spec.HtmlTokenizer.step, hst,
                      H5V.Spec.HtmlTokenizer.markupDeclarationOpenState, hA, hB, hC, hfor, hcd]
                  have hti := htinv _ _ rfl
                  refine Reach.stepEq hstep (Reach.done ⟨kwCdata, i2.drop 7, ?_, Or.inr ⟨?_, ?_, ?_, ?_, ?_⟩, ?_⟩)
                  · rw [← htake]; exact (List.take_append_drop 7 i2).symm
                  · simp [to, isLagSt]
                  · simpa [to, clearComment, badChar, ho, emit] using hcr2
                  · simpa [to, clearComment, badChar, ho, emit] using s2.nrec
                  · simpa [to, clearComment, badChar, ho, emit] using hil
                  · decide
                  · have hab : absorb (to .bogusComment (clearComment (badChar o m2))) kwCdata =
                        { to .bogusComment (clearComment (badChar o m2)) with comment := kwCdata } := by
                      simp [absorb, to, clearComment, isAttrValueState, kwCdata]
                    rw [hab]
                    refine RelCore.ofRegCore ?_ ?_ (hti.congr rfl rfl rfl rfl rfl rfl)
                    · look_core
                    · unfold InpRel
                      rw [rc_false (by simpa [to, clearComment, badChar, ho, emit] using s2.nrec),
                        stash_plain (by simpa [to, clearComment, badChar, ho, emit] using hcr2) (by simp [to]) (by simp [to])]
                      simpa [to, clearComment, badChar, ho, emit, hil] using hdrop
                · have hC' : H5V.Spec.HtmlTokenizer.nextAre "[CDATA[" rest = false := by simpa using hC
                  have hstep : sstep tree t rest = ((t.createComment []).setState .bogusComment, .advance 0) := by
                    simp [sstep, H5V.Spec.HtmlTokenizer.step, hst,
                      H5V.Spec.HtmlTokenizer.markupDeclarationOpenState, hA, hB, hC']
                  refine Reach.stepEq hstep (Reach.done (RelCore.toRel ?_))
                  refine look_exit s2 t2 _ _ (by simp [to, clearComment, badChar, ho, emit])
                    (by simpa [to, clearComment, badChar, ho, emit] using s2.nrec) (by simp [to]) (by simp [to])
                    ?_ (htinv _ _ rfl)
                  look_core

/-! ## before attribute value -/

theorem look_inpRel {mm : Mach} {i r : Str} (hcr : mm.charRef = none)
    (h1 : mm.state ≠ .markupDeclarationOpen) (h2 : mm.state ≠ .afterDoctypeName) (hrec : mm.reconsume = false)
    (hi : r = normalizeNewlinesFrom mm.ignoreLf i) : InpRel mm i r := by
  unfold InpRel
  rw [rc_false hrec, stash_plain hcr h1 h2]
  simpa using hi

/-- the registers in the before attribute value state -/
theorem look_bav_regs {m : Mach} {t : Tok} (h : RegCore m t) (hs : m.state = .beforeAttributeValue) :
    t.state = .beforeAttributeValue ∧ m.charRef = none ∧ m.lastStartTag = t.lastStartTag ∧
    m.tagKind = t.tagKind ∧ m.tagName = t.tagName ∧ m.tagSelfClosing = t.selfClosing ∧
    AttrR m.tagAttrs m.tagHadDup m.attrName m.attrValue t.attrs ∧ t.attrs ≠ [] ∧ m.comment = [] ∧
    t.out = flat m.out := by
  obtain ⟨hstd, hst, hcr, hreg, hout⟩ := h
  simp [hs, stOf, altSt, isRet] at hst
  simp [RegRel, AttrRel, hs, isTagSt, needsCur, usesTemp, usesComment, usesDoctype] at hreg
  simp [OutRel, cdataBuf, isCdata, hs] at hout
  obtain ⟨r1, ⟨r2, r3, r4, r5⟩, r6, r7⟩ := hreg
  exact ⟨hst, hcr, r1, r2, r3, r4, r5, r6, r7, hout⟩

theorem stepBav_sim (o : Opts) (ho : o.exactErrors = false) (pol : Pol) (tree : Tree) (hpt : PolTree pol tree)
    (m : Mach) (inp : Str) (t : Tok) (rest : Str) (h : RelCore m inp t rest) (hcr : m.charRef = none)
    (hs : m.state = .beforeAttributeValue) : StepOk tree t rest (stepBav o pol m inp) := by
  have hk := look_step_bav o pol m inp hcr hs
  have htinv : ∀ m' i', (stepBav o pol m inp).pair? = some (m', i') → TInv m' :=
    fun m' i' hh => step_tinv o pol m inp h.tinv m' i' (by rw [hk]; exact hh)
  have hrec : m.reconsume = false := h.tinv.linv.peekNoRecon (Or.inl hs)
  have hstash : stash m = [] := stash_plain hcr (by simp [hs]) (by simp [hs])
  have hc := h.regCore hcr
  have hi : rest = normalizeNewlinesFrom m.ignoreLf inp := by
    have := h.inp
    unfold InpRel at this
    rw [rc_false hrec, hstash] at this
    simpa using this
  generalize hres : stepBav o pol m inp = r at htinv ⊢
  unfold stepBav at hres
  cases inp with
  | nil =>
    simp only [peek, hrec, Bool.false_eq_true, ↓reduceIte, List.head?_nil] at hres
    subst hres
    exact h.toRel
  | cons c xs =>
    simp only [peek, hrec, Bool.false_eq_true, ↓reduceIte, List.head?_cons] at hres
    -- the machine after the pending-LF flag was dealt with
    have hma : ∀ ma : Mach, ma = (if m.ignoreLf = true then m.setIgnoreLf false else m) →
        ma = readerUpd m false false m.line m.currentChar := by
      intro ma hx; subst hx
      obtain ⟨st, cr, cc, rcn, il, tk, tn, tsc, thd, ta, an0, av0, com, dt, lst, tb, ln, ae, db, out⟩ := m
      simp only at hrec
      subst hrec
      cases il <;> simp [readerUpd, Mach.setIgnoreLf]
    generalize hmad : (if m.ignoreLf = true then m.setIgnoreLf false else m) = ma at hres
    have hma' := hma ma hmad.symm
    have hcma : RegCore ma t := by rw [hma']; exact hc.readerUpd _ _ _ _
    have ma_il : ma.ignoreLf = false := by rw [hma']; rfl
    have ma_rec : ma.reconsume = false := by rw [hma']; rfl
    have ma_st : ma.state = .beforeAttributeValue := by rw [hma']; exact hs
    clear hma hma' hmad
    obtain ⟨hst, hcr1, g1, g2, g3, g4, g5, g6, g7, hout⟩ := look_bav_regs hcma ma_st
    have hd : discardChar ma (c :: xs) = (ma, xs) := by simp [discardChar, ma_rec]
    have hne1 : ma.state ≠ .markupDeclarationOpen := by simp [ma_st]
    have hne2 : ma.state ≠ .afterDoctypeName := by simp [ma_st]
    by_cases hskip : (m.ignoreLf && decide (c = '\n')) = true
    · -- the LF of a CR LF pair: no step of the specification
      simp only [hskip, ↓reduceIte, hd] at hres
      subst hres
      simp only [Bool.and_eq_true, decide_eq_true_eq] at hskip
      refine Reach.done (RelCore.toRel (RelCore.ofRegCore hcma (look_inpRel hcr1 hne1 hne2 ma_rec ?_) (htinv _ _ rfl)))
      rw [hi, hskip.1, hskip.2, norm_lf_true, ma_il]
    · simp only [hskip, Bool.false_eq_true, ↓reduceIte] at hres
      have hrest : rest = normalizeNewlinesFrom false (c :: xs) := by
        rw [hi]
        cases hil : m.ignoreLf with
        | false => rfl
        | true =>
          have : c ≠ '\n' := by intro hc'; simp [hil, hc'] at hskip
          exact norm_flag c xs this
      by_cases hbrk : c = '\n' ∨ c = '\r'
      · rw [if_pos (by simpa using hbrk)] at hres
        cases hg : getChar o ma (c :: xs) with
        | mk oc r2 =>
          obtain ⟨m2, i2⟩ := r2
          rw [hg] at hres
          cases oc with
          | none =>
            obtain ⟨_, _, g3'⟩ := getChar_none o ma m2 (c :: xs) i2 hg
            rcases g3' with ⟨g3', _⟩ | ⟨_, g3', _⟩
            · simp at g3'
            · rw [ma_il] at g3'; simp at g3'
          | some c' =>
            simp only at hres
            subst hres
            obtain ⟨q1, q2⟩ := look_getChar_some o ho ma (c :: xs) ma_rec c' m2 i2 hg
            rw [ma_il, ← hrest] at q1
            have hc' : c' = '\n' := by
              have : rest.head? = some '\n' := by
                rw [hrest]
                rcases hbrk with hb | hb <;> subst hb
                · rw [norm_lf_false]; rfl
                · rw [norm_cr]; rfl
              rw [q1] at this
              simpa using this
            subst hc'
            have hstep : sstep tree t rest = (t, .advance 1) := by
              rw [q1]
              simp [sstep, H5V.Spec.HtmlTokenizer.step, hst, H5V.Spec.HtmlTokenizer.beforeAttributeValueState, Tok.done]
            have hcm2 : RegCore m2 t := by rw [q2]; exact hcma.readerUpd _ _ _ _
            have m2_st : m2.state = .beforeAttributeValue := by rw [q2]; exact ma_st
            refine Reach.stepEq hstep (Reach.done (RelCore.toRel (RelCore.ofRegCore hcm2
              (look_inpRel hcm2.cr (by simp [m2_st]) (by simp [m2_st]) (by rw [q2]; rfl) ?_) (htinv _ _ rfl))))
            rw [q1]; rfl
      · rw [if_neg (by simpa using hbrk)] at hres
        simp only [not_or] at hbrk
        have hrest' : rest = c :: normalizeNewlinesFrom false xs := by
          rw [hrest, norm_other _ _ _ hbrk.2 hbrk.1]
        by_cases hws : c = '\t' ∨ c = '\x0c' ∨ c = ' '
        · rw [if_pos (by rcases hws with hw | hw | hw <;> simp [hw])] at hres
          simp only [hd] at hres
          subst hres
          have hstep : sstep tree t rest = (t, .advance 1) := by
            rw [hrest']
            rcases hws with hw | hw | hw <;> subst hw <;>
              simp [sstep, H5V.Spec.HtmlTokenizer.step, hst, H5V.Spec.HtmlTokenizer.beforeAttributeValueState, Tok.done]
          refine Reach.stepEq hstep (Reach.done (RelCore.toRel (RelCore.ofRegCore hcma
            (look_inpRel hcr1 hne1 hne2 ma_rec ?_) (htinv _ _ rfl))))
          rw [hrest', ma_il]; rfl
        · simp only [not_or] at hws
          rw [if_neg (by simp [hws.1, hws.2.1, hws.2.2])] at hres
          obtain ⟨w1, w2, w3⟩ := hws
          obtain ⟨b1, b2⟩ := hbrk
          by_cases hdq : c = '"'
          · subst hdq
            simp only [↓reduceIte, hd] at hres
            subst hres
            have hstep : sstep tree t rest = ({ t with state := .attributeValueDoubleQuoted }, .advance 1) := by
              rw [hrest']
              simp [sstep, H5V.Spec.HtmlTokenizer.step, hst, H5V.Spec.HtmlTokenizer.beforeAttributeValueState,
                Tok.switchTo]
            refine Reach.stepEq hstep (Reach.done (RelCore.toRel (RelCore.ofRegCore ?_
              (look_inpRel (by simpa [to] using hcr1) (by simp [to]) (by simp [to]) (by simpa [to] using ma_rec) ?_)
              (htinv _ _ rfl))))
            · look_core
            · rw [hrest']; simp [to, ma_il]
          · rw [if_neg hdq] at hres
            by_cases hsq : c = '\''
            · subst hsq
              simp only [↓reduceIte, hd] at hres
              subst hres
              have hstep : sstep tree t rest = ({ t with state := .attributeValueSingleQuoted }, .advance 1) := by
                rw [hrest']
                simp [sstep, H5V.Spec.HtmlTokenizer.step, hst, H5V.Spec.HtmlTokenizer.beforeAttributeValueState,
                  Tok.switchTo]
              refine Reach.stepEq hstep (Reach.done (RelCore.toRel (RelCore.ofRegCore ?_
                (look_inpRel (by simpa [to] using hcr1) (by simp [to]) (by simp [to]) (by simpa [to] using ma_rec) ?_)
                (htinv _ _ rfl))))
              · look_core
              · rw [hrest']; simp [to, ma_il]
            · rw [if_neg hsq] at hres
              by_cases hgt : c = '>'
              · subst hgt
                simp only [↓reduceIte, hd] at hres
                have hbc : ∀ x : Mach, badChar o x = emit x (.error ("Saw ".toList ++ [x.currentChar] ++
                    " in state ".toList ++ x.state.dbg.toList)) := by
                  intro x; simp [badChar, ho]
                obtain ⟨e1, e2, e3⟩ := emitTag_sim pol tree hpt (badChar o ma) t
                  (by simpa [hbc, emit] using hcr1) (by simpa [hbc, emit] using g1) (by simpa [hbc, emit] using g2)
                  (by simpa [hbc, emit] using g3) (by simpa [hbc, emit] using g4) (by simpa [hbc, emit] using g5)
                  (by simpa [hbc, emit] using hout) (by simpa [hbc, emit] using g7)
                have hof : ofSig (emitTag pol .data (badChar o ma)) xs = .cont (emitTag pol .data (badChar o ma)).1 xs := by
                  unfold ofSig; rw [e1]
                rw [hof] at hres
                subst hres
                have hstep : sstep tree t rest = ((t.setState .data).emitCurrentTag tree, .advance 1) := by
                  rw [hrest']
                  simp [sstep, H5V.Spec.HtmlTokenizer.step, hst, H5V.Spec.HtmlTokenizer.beforeAttributeValueState,
                    Tok.done]
                obtain ⟨k1, k2, _⟩ := sinkState_data_not_eat (emitTag_state pol .data (badChar o ma))
                refine Reach.stepEq hstep (Reach.done (RelCore.toRel (RelCore.ofRegCore e3
                  (look_inpRel e3.cr k1 k2 (by rw [e2]; simpa [hbc, emit] using ma_rec) ?_) (htinv _ _ rfl))))
                rw [hrest']
                simp [hbc, emit, ma_il]
              · rw [if_neg hgt] at hres
                subst hres
                have hstep : sstep tree t rest = ({ t with state := .attributeValueUnquoted }, .advance 0) := by
                  rw [hrest']
                  simp [sstep, H5V.Spec.HtmlTokenizer.step, hst, H5V.Spec.HtmlTokenizer.beforeAttributeValueState,
                    Tok.reconsumeIn, b1, b2, w1, w2, w3, hdq, hsq, hgt]
                refine Reach.stepEq hstep (Reach.done (RelCore.toRel (RelCore.ofRegCore ?_
                  (look_inpRel (by simpa [to] using hcr1) (by simp [to]) (by simp [to]) (by simpa [to] using ma_rec) ?_)
                  (htinv _ _ rfl))))
                · look_core
                · show rest = normalizeNewlinesFrom (to (.attributeValue .unquoted) ma).ignoreLf (c :: xs)
                  rw [hrest]; simp [to, ma_il]

/-! ## after DOCTYPE name -/

/-- the table step after a successful `get_char`: from `TabOk` to `StepOk` -/
theorem look_afterChar (o : Opts) (pol : Pol) (tree : Tree) (m1 : Mach) (c : Char) (i1 : Str) (t : Tok) (rest1 : Str)
    (hcr : m1.charRef = none) (hN : isRaw m1.state = false → m1.tempBuf = [])
    (hrec : m1.reconsume = false) (hcc : m1.currentChar = c) (hil : m1.ignoreLf = true → c = '\n')
    (hi : rest1 = normalizeNewlinesFrom m1.ignoreLf i1)
    (htab : TabOk tree t c rest1 (transChar o pol m1 c))
    (htinv : ∀ m' i', (ofSig (transChar o pol m1 c) i1).pair? = some (m', i') → TInv m') :
    StepOk tree t (c :: rest1) (ofSig (transChar o pol m1 c) i1) := by
  obtain ⟨h2, hreach⟩ := htab
  obtain ⟨a1, a2, a3, a4, a5, a6, a7⟩ := afterChar_lines o pol m1 c hcr hN hrec hcc hil
  have hof : ofSig (transChar o pol m1 c) i1 = .cont (transChar o pol m1 c).1 i1 := by
    unfold ofSig; rw [h2]
  rw [hof] at htinv ⊢
  refine Reach.mono hreach (fun t' r' hh => (RelCore.ofRegCore hh.2 ?_ (htinv _ _ rfl)).toRel)
  unfold InpRel
  rw [a5, a7, hh.1]
  unfold rc
  rw [transChar_currentChar, hcc]
  cases (transChar o pol m1 c).1.reconsume <;> simp [hi]

/-- a text that matches a keyword case-insensitively starts with its first letter -/
theorem look_kw_head (s : Str) (p : Char) (ps : Str) (h : eatCmp eqCi s (p :: ps) = some true) :
    ∃ c s1, s = c :: s1 ∧ toAsciiLower c = toAsciiLower p := by
  cases s with
  | nil => simp [eatCmp] at h
  | cons c s1 =>
    refine ⟨c, s1, rfl, ?_⟩
    simp only [eatCmp] at h
    split at h
    · rename_i he; simpa [eqCi] using he
    · simp at h

theorem look_lower_not_special {c p : Char} (h : toAsciiLower c = p) (hp : H5V.Spec.HtmlTokenizer.isAsciiLowerAlpha p = true) :
    c ≠ '\t' ∧ c ≠ '\n' ∧ c ≠ '\x0c' ∧ c ≠ ' ' ∧ c ≠ '>' := by
  refine ⟨?_, ?_, ?_, ?_, ?_⟩ <;>
    (intro hc; subst hc; subst h; exact absurd hp (by decide))

/-- the registers in the after DOCTYPE name state -/
theorem look_adn_regs {m : Mach} {t : Tok} (h : RegCore m t) (hs : m.state = .afterDoctypeName) :
    t.state = .afterDoctypeName ∧ m.charRef = none ∧ m.lastStartTag = t.lastStartTag ∧
    m.tagAttrs = [] ∧ m.attrName = [] ∧ m.attrValue = [] ∧ m.doctype = t.doctype ∧ m.comment = [] ∧
    t.out = flat m.out := by
  obtain ⟨hstd, hst, hcr, hreg, hout⟩ := h
  simp [hs, stOf, altSt, isRet] at hst
  simp [RegRel, AttrRel, hs, isTagSt, needsCur, usesTemp, usesComment, usesDoctype] at hreg
  simp [OutRel, cdataBuf, isCdata, hs] at hout
  obtain ⟨r1, ⟨r2, r3, r4⟩, r5, r6⟩ := hreg
  exact ⟨hst, hcr, r1, r2, r3, r4, r5, r6, hout⟩

set_option linter.unusedVariables false in
theorem stepAdn_sim (o : Opts) (ho : o.exactErrors = false) (pol : Pol) (tree : Tree) (hpt : PolTree pol tree)
    (m : Mach) (inp : Str) (t : Tok) (rest : Str) (h : RelCore m inp t rest) (hcr : m.charRef = none)
    (hs : m.state = .afterDoctypeName) : StepOk tree t rest (stepAdn o pol m inp) := by
  have hk := look_step_adn o pol m inp hcr hs
  have htinv : ∀ m' i', (stepAdn o pol m inp).pair? = some (m', i') → TInv m' :=
    fun m' i' hh => step_tinv o pol m inp h.tinv m' i' (by rw [hk]; exact hh)
  have hse : State.afterDoctypeName = .markupDeclarationOpen ∨ State.afterDoctypeName = .afterDoctypeName :=
    Or.inr rfl
  have h0 : LookSt .afterDoctypeName m inp t rest := look_init h hcr hs hse
  obtain ⟨_, _, _, pk4, pk5⟩ := patOk_kw
  obtain ⟨_, _, _, n4, n5⟩ := kw_ne
  generalize hres : stepAdn o pol m inp = r at htinv ⊢
  unfold stepAdn at hres
  cases h1 : eat m inp kwPublic eqCi with
  | mk b1 r1 =>
    obtain ⟨m1, i1⟩ := r1
    obtain ⟨s1t, s1f, s1x, _⟩ := look_stage h0 hse _ _ pk4 n4 b1 m1 i1 h1
    rw [h1] at hres
    cases b1 with
    | none =>
      simp only at hres; subst hres
      exact ((s1f (by simp)).rel hse (htinv _ _ rfl)).toRel
    | some b1 =>
      cases b1 with
      | true =>
        simp only at hres; subst hres
        obtain ⟨s1, c1, t1, _⟩ := s1t rfl
        obtain ⟨hst, hcr1, g1, g2, g3, g4, g5, g6, hout⟩ := look_adn_regs s1.core s1.st
        have hP := (look_nextAre_public rest).mpr c1
        obtain ⟨c, rest1, hrc, hlow⟩ := look_kw_head rest _ _ c1
        obtain ⟨w1, w2, w3, w4, w5⟩ := look_lower_not_special hlow (by decide)
        have hstep : sstep tree t rest = (t.setState .afterDoctypePublicKeyword, .advance 6) := by
          rw [hrc] at hP ⊢
          simp [sstep, H5V.Spec.HtmlTokenizer.step, hst, H5V.Spec.HtmlTokenizer.afterDoctypeNameState, hP,
            w1, w2, w3, w4, w5]
        refine Reach.stepEq hstep (Reach.done (RelCore.toRel ?_))
        refine look_exit s1 t1 _ _ rfl (by simpa [to] using s1.nrec) (by simp [to]) (by simp [to]) ?_
          (htinv _ _ rfl)
        look_core
      | false =>
        simp only at hres
        have s1 := s1f (by simp)
        obtain ⟨c1, t1⟩ := s1x rfl
        have hP := look_false_of_not (look_nextAre_public rest) c1
        cases h2 : eat m1 i1 kwSystem eqCi with
        | mk b2 r2 =>
          obtain ⟨m2, i2⟩ := r2
          obtain ⟨s2t, s2f, s2x, _⟩ := look_stage s1 hse _ _ pk5 n5 b2 m2 i2 h2
          rw [h2] at hres
          cases b2 with
          | none =>
            simp only at hres; subst hres
            exact ((s2f (by simp)).rel hse (htinv _ _ rfl)).toRel
          | some b2 =>
            cases b2 with
            | true =>
              simp only at hres; subst hres
              obtain ⟨s2, c2, t2, _⟩ := s2t rfl
              obtain ⟨hst, hcr2, g1, g2, g3, g4, g5, g6, hout⟩ := look_adn_regs s2.core s2.st
              have hQ := (look_nextAre_system rest).mpr c2
              obtain ⟨c, rest1, hrc, hlow⟩ := look_kw_head rest _ _ c2
              obtain ⟨w1, w2, w3, w4, w5⟩ := look_lower_not_special hlow (by decide)
              have hstep : sstep tree t rest = (t.setState .afterDoctypeSystemKeyword, .advance 6) := by
                rw [hrc] at hP hQ ⊢
                simp [sstep, H5V.Spec.HtmlTokenizer.step, hst, H5V.Spec.HtmlTokenizer.afterDoctypeNameState, hP, hQ,
                  w1, w2, w3, w4, w5]
              refine Reach.stepEq hstep (Reach.done (RelCore.toRel ?_))
              refine look_exit s2 t2 _ _ rfl (by simpa [to] using s2.nrec) (by simp [to]) (by simp [to]) ?_
                (htinv _ _ rfl)
              look_core
            | false =>
              simp only at hres
              have s2 := s2f (by simp)
              obtain ⟨c2, t2⟩ := s2x rfl
              have hQ := look_false_of_not (look_nextAre_system rest) c2
              have hrest : rest = normalizeNewlinesFrom m2.ignoreLf i2 := by
                have := s2.inp; rw [t2] at this; simpa using this
              cases hg : getChar o m2 i2 with
              | mk oc r3 =>
                obtain ⟨m3, i3⟩ := r3
                rw [hg] at hres
                cases oc with
                | none =>
                  simp only at hres; subst hres
                  obtain ⟨q1, q2, q3⟩ := look_getChar_none o m2 i2 s2.nrec m3 i3 hg
                  have m3_tb : m3.tempBuf = [] := by rw [q3]; exact t2
                  have s3 : LookSt .afterDoctypeName m3 i3 t rest :=
                    ⟨by rw [q3]; exact s2.st, by rw [q3]; exact s2.core.readerUpd _ _ _ _, by rw [q3]; rfl,
                     fun _ => m3_tb, by rw [m3_tb, q2, hrest, q1]; simp⟩
                  exact (s3.rel hse (htinv _ _ rfl)).toRel
                | some c =>
                  simp only at hres; subst hres
                  obtain ⟨q1, q2⟩ := look_getChar_some o ho m2 i2 s2.nrec c m3 i3 hg
                  obtain ⟨_, _, _, _, _, f6, _⟩ := getChar_fields o m2 m3 i2 i3 c hg
                  rw [← hrest] at q1
                  have hcm3 : RegCore m3 t := by rw [q2]; exact s2.core.readerUpd _ _ _ _
                  have m3_st : m3.state = .afterDoctypeName := by rw [q2]; exact s2.st
                  have m3_rec : m3.reconsume = false := by rw [q2]; rfl
                  have m3_tb : m3.tempBuf = [] := by rw [q2]; exact t2
                  have m3_cc : m3.currentChar = c := by rw [q2]; rfl
                  rw [q1] at hP hQ ⊢
                  exact look_afterChar o pol tree m3 c i3 t _ hcm3.cr (fun _ => m3_tb) m3_rec m3_cc (f6 s2.nrec) rfl
                    (tab_afterDoctypeName o ho pol tree m3 t c _ hcm3 m3_rec m3_st hP hQ) htinv

end H5V.Lemmas.HtmlTokSpec
