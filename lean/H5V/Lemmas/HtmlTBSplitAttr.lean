import Lean.Meta.Tactic.Simp.RegisterCommand
/-!
C03 lifted to the tree: the simp sets through which the walks over the tree-builder model find, by the head
function of the goal, the lemma about a model function (`resp`: `RespQ`, `qresp`: `QResp`, `keeps`: `Keeps`,
`fnat`: `FNat`).
-/
register_simp_attr resp
register_simp_attr qresp
register_simp_attr keeps
register_simp_attr fnat
