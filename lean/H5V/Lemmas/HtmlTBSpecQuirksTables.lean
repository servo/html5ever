import H5V.Spec.TreeAlgo
import H5V.Lemmas.HtmlTBTables
/-!
(a) the DOCTYPE → quirks-mode decision, part 1: the model's quirks tables are the standard's,
lower-cased (kernel-evaluated facts, kept in their own file because they are slow).
-/
namespace H5V.Lemmas.HtmlTBSpec
open H5V.Model.HtmlTB
open H5V.Model.Dom (QuirksMode)
open H5V.Lemmas.HtmlTBTables

def toQuirks : Spec.TreeAlgo.DocMode → QuirksMode
  | .noQuirks => .noQuirks
  | .limitedQuirks => .limitedQuirks
  | .quirks => .quirks

theorem lower_eq : Spec.TreeAlgo.lower = asciiLower := rfl

/-- ASCII lower-casing of a table string -/
def lowerS (s : String) : String := String.ofList (s.toList.map asciiLower)

theorem lowerS_toList (s : String) : (lowerS s).toList = s.toList.map asciiLower := by
  simp [lowerS]

theorem any_of_sameSet {α : Type} [BEq α] [LawfulBEq α] {a b : List α} (h : sameSet a b = true) (f : α → Bool) :
    a.any f = b.any f := by
  apply Bool.eq_iff_iff.mpr
  simp only [List.any_eq_true]
  constructor
  · rintro ⟨x, hx, hf⟩; exact ⟨x, (sameSet_mem h x).mp hx, hf⟩
  · rintro ⟨x, hx, hf⟩; exact ⟨x, (sameSet_mem h x).mpr hx, hf⟩

theorem listContains_lower (l : List String) (p : Str) :
    listContains (l.map lowerS) (p.map asciiLower) = l.any (Spec.TreeAlgo.eqCI p) := by
  simp only [listContains, List.any_map]
  refine congrArg l.any (funext fun x => ?_)
  simp only [Function.comp, lowerS_toList]
  exact BEq.comm

theorem containsPfx_lower (l : List String) (p : Str) :
    containsPfx (l.map lowerS) (p.map asciiLower) = l.any (Spec.TreeAlgo.startsWithCI p) := by
  simp only [containsPfx, List.any_map]
  refine congrArg l.any (funext fun x => ?_)
  simp only [Function.comp, lowerS_toList]
  rfl

/-- the model's tables are the standard's, lower-cased -/
theorem quirks_tables_eq :
    quirkyPublicMatches = Spec.TreeTables.quirksPublicIds.map lowerS ∧
    quirkySystemMatches = Spec.TreeTables.quirksSystemIds.map lowerS ∧
    limitedQuirkyPublicPrefixes = Spec.TreeTables.limitedQuirksPublicPrefixes.map lowerS ∧
    html4PublicPrefixes = Spec.TreeTables.html401PublicPrefixes.map lowerS := by decide +kernel

/-- the 55 prefixes of the standard, lower-cased (`quirks_prefixes_lower` proves that this is
`Spec.quirksPublicPrefixes.map lowerS`; it only exists to keep the kernel evaluation linear) -/
def quirksPublicPrefixesLower : List String := [
  "+//silmaril//dtd html pro v0r11 19970101//",
  "-//as//dtd html 3.0 aswedit + extensions//",
  "-//advasoft ltd//dtd html 3.0 aswedit + extensions//",
  "-//ietf//dtd html 2.0 level 1//",
  "-//ietf//dtd html 2.0 level 2//",
  "-//ietf//dtd html 2.0 strict level 1//",
  "-//ietf//dtd html 2.0 strict level 2//",
  "-//ietf//dtd html 2.0 strict//",
  "-//ietf//dtd html 2.0//",
  "-//ietf//dtd html 2.1e//",
  "-//ietf//dtd html 3.0//",
  "-//ietf//dtd html 3.2 final//",
  "-//ietf//dtd html 3.2//",
  "-//ietf//dtd html 3//",
  "-//ietf//dtd html level 0//",
  "-//ietf//dtd html level 1//",
  "-//ietf//dtd html level 2//",
  "-//ietf//dtd html level 3//",
  "-//ietf//dtd html strict level 0//",
  "-//ietf//dtd html strict level 1//",
  "-//ietf//dtd html strict level 2//",
  "-//ietf//dtd html strict level 3//",
  "-//ietf//dtd html strict//",
  "-//ietf//dtd html//",
  "-//metrius//dtd metrius presentational//",
  "-//microsoft//dtd internet explorer 2.0 html strict//",
  "-//microsoft//dtd internet explorer 2.0 html//",
  "-//microsoft//dtd internet explorer 2.0 tables//",
  "-//microsoft//dtd internet explorer 3.0 html strict//",
  "-//microsoft//dtd internet explorer 3.0 html//",
  "-//microsoft//dtd internet explorer 3.0 tables//",
  "-//netscape comm. corp.//dtd html//",
  "-//netscape comm. corp.//dtd strict html//",
  "-//o'reilly and associates//dtd html 2.0//",
  "-//o'reilly and associates//dtd html extended 1.0//",
  "-//o'reilly and associates//dtd html extended relaxed 1.0//",
  "-//sq//dtd html 2.0 hotmetal + extensions//",
  "-//softquad software//dtd hotmetal pro 6.0::19990601::extensions to html 4.0//",
  "-//softquad//dtd hotmetal pro 4.0::19971010::extensions to html 4.0//",
  "-//spyglass//dtd html 2.0 extended//",
  "-//sun microsystems corp.//dtd hotjava html//",
  "-//sun microsystems corp.//dtd hotjava strict html//",
  "-//w3c//dtd html 3 1995-03-24//",
  "-//w3c//dtd html 3.2 draft//",
  "-//w3c//dtd html 3.2 final//",
  "-//w3c//dtd html 3.2//",
  "-//w3c//dtd html 3.2s draft//",
  "-//w3c//dtd html 4.0 frameset//",
  "-//w3c//dtd html 4.0 transitional//",
  "-//w3c//dtd html experimental 19960712//",
  "-//w3c//dtd html experimental 970421//",
  "-//w3c//dtd w3 html//",
  "-//w3o//dtd w3 html 3.0//",
  "-//webtechs//dtd mozilla html 2.0//",
  "-//webtechs//dtd mozilla html//"]


theorem quirks_prefixes_lower : Spec.TreeTables.quirksPublicPrefixes.map lowerS = quirksPublicPrefixesLower := by
  decide +kernel

/-- the source lists the 55 prefixes in another order -/
theorem quirks_prefixes_gen : sameSet Gen.TreeTables.quirkyPublicPrefixes quirksPublicPrefixesLower = true := by
  decide +kernel

theorem quirks_prefixes_sameSet : sameSet quirkyPublicPrefixes quirksPublicPrefixesLower = true :=
  quirks_prefixes_gen

end H5V.Lemmas.HtmlTBSpec
