import H5V.Lemmas.HtmlTBSkelShapeHeadBL
import H5V.Lemmas.HtmlTBSkelShapeTable
/-!
C06, second invariant layer: the InTable rules (also used by InTableBody and InRow), InTableText.
-/
namespace H5V.Props.C06
open H5V.Model.Dom hiding Str
open H5V.Model.HtmlTB hiding Str
open H5V.Lemmas.Dom
theorem Good.setFp {r : Id} {s : State} (h : Good r s) (b : Bool) : Good r { s with fosterParenting := b } := by
  obtain ⟨up, ph, hs, _⟩ := h
  exact ⟨up, ph, ⟨hs.core.free rfl rfl rfl rfl rfl rfl rfl rfl rfl rfl rfl, hs.fits⟩, fun _ => FPok.triv _ _⟩

theorem Out.setFp {r : Id} {s : State} {res : ProcessResult} (h : Out r s res) (b : Bool) :
    Out r { s with fosterParenting := b } res := by
  cases res with
  | reprocess m t => exact ⟨Good.setFp h.1 b, h.2⟩
  | reprocessForeign t => exact ⟨Good.setFp h.1 b, h.2⟩
  | _ => exact Good.setFp h b

/-- `foster_parent_in_body`: the InBody rules with the foster-parenting flag set -/
theorem fosterParentInBody_good {tok : Token} [ht : TokW tok] {r : Id} {s s' : State} {m : Mode}
    {res : ProcessResult} (hg : Good r s) (hm : s.mode = m) (hbl : isBL m = true)
    (hside : ∀ tag, tok = .tag tag → GenEnd tag m) (e : fosterParentInBody tok s = .ok (res, s')) : Out r s' res := by
  unfold fosterParentInBody at e
  obtain ⟨_, s1, e1, e2⟩ := bind_ok.mp e
  obtain ⟨_, rfl⟩ := modS_ok.mp e1
  obtain ⟨res1, s2, e3, e4⟩ := bind_ok.mp e2
  obtain ⟨_, s3, e5, e6⟩ := bind_ok.mp e4
  obtain ⟨_, rfl⟩ := modS_ok.mp e5
  obtain ⟨rfl, rfl⟩ := pure_ok.mp e6
  have h2 : Out r s2 res1 := stepInBody_good bodyDeleg (hg.setFp true) hm hbl hside e3
  exact h2.setFp false


/-- a table-structure element is inserted on a current node that admits it -/
theorem insertStruct_big {m : Mode} {r : Id} {ph : Phase} {s s' : State} {name : Str} {attrs : List Attr}
    {dup : Bool} {el t : Id} (hb : Big m r ph s) (ht : s.openElems.getLast? = some t)
    (hpred : predOk ⟨nsHtml, name⟩ (nm s.dom t) = true)
    (hname : htmlIn ⟨nsHtml, name⟩ ["html", "body", "head", "frameset"] = false)
    (hnt : (⟨nsHtml, name⟩ : EName) ≠ hN "template")
    (e : insertElement true nsHtml name attrs dup s = .ok (el, s')) :
    Big m r ph s' ∧ s'.mode = s.mode ∧ s'.origMode = s.origMode ∧ nm s'.dom el = ⟨nsHtml, name⟩ ∧
      s'.openElems = s.openElems ++ [el] := by
  obtain ⟨h1, h2, h3, h4, _, _, h7, _⟩ := insertElement_gen hb
    (fun _ => ⟨fun t' ht' => by rw [ht] at ht'; cases ht'; exact hpred, hname, fun h => absurd h hnt⟩) e
  simp only [if_true] at h7
  exact ⟨h1, h2, h3, h4, h7⟩

/-- no element above the root is called `html` -/
theorem Big.not_html {m : Mode} {r : Id} {ph : Phase} {s : State} (h : Big m r ph s) {t : Id}
    (ht : t ∈ s.openElems) (hr : t ≠ r) : nm s.dom t ≠ hN "html" := by
  obtain ⟨up, b0, u0, hc, hup, hb0⟩ := h.bottom
  obtain ⟨_, _, hbb, _, _⟩ := id h
  intro hn
  rw [hc.stack] at ht
  rcases List.mem_cons.mp ht with h1 | h1
  · exact hr h1
  · rw [hup] at h1
    rcases List.mem_cons.mp h1 with h2 | h2
    · subst h2
      obtain ⟨a, ha, heq⟩ := htmlIn_eq hb0
      rw [hn] at heq
      simp only [List.mem_cons, List.not_mem_nil, or_false] at ha
      rcases ha with rfl | rfl | rfl <;> (simp [lit_name] at heq)
    · have hbb' : BodyBase s.dom s.headElem up ph := by
        obtain ⟨up2, hc2, hbb2, _, _⟩ := id h
        have : up2 = up := by
          have h3 := hc2.stack; rw [hc.stack] at h3; exact (List.cons.inj h3).2.symm
        rw [← this]; exact hbb2
      have := hc.bh4 hbb'.notPf t (by rw [hup]; exact h2)
      rw [hn] at this; simp [lit_name] at this

theorem mem_up_of_last {r t : Id} {l up : List Id} (hst : l = r :: up) (ht : l.getLast? = some t) (hr : t ≠ r) :
    t ∈ up := by
  have := List.mem_of_getLast? ht
  rw [hst] at this
  rcases List.mem_cons.mp this with h1 | h1
  · exact absurd h1 hr
  · exact h1

/-- the end tags that reach the generic end-tag arm of the InBody rules from a table mode -/
theorem isEnd_single_false {tag : Tag} {l : List String} {a : String} (h : tag.isEnd l = false) (ha : a ∈ l) :
    tag.isEnd [a] = false := by
  cases hq : tag.isEnd [a] with
  | false => rfl
  | true =>
    obtain ⟨b, hb, hn, hk⟩ := name_of_isEnd hq
    simp only [List.mem_cons, List.not_mem_nil, or_false] at hb
    subst hb
    have : tag.isEnd l = true := by
      unfold Tag.isEnd isOneOf
      simp only [Bool.and_eq_true, beq_iff_eq, List.any_eq_true]
      exact ⟨hk, b, ha, hn.symm⟩
    rw [h] at this; cases this

/-- the side condition of the InBody rules holds once the end tags of the structure elements have been caught
by earlier tests `ls` -/
theorem genEnd_of {tag : Tag} {m : Mode} {ls : List (List String)} (hls : ∀ l ∈ ls, ¬ tag.isEnd l = true)
    (hcov : ∀ a ∈ ["html", "table", "caption", "colgroup", "tbody", "td", "tfoot", "th", "thead", "tr", "body"],
      ∃ l ∈ ls, a ∈ l) : GenEnd tag m := by
  have hex : ∀ a ∈ ["html", "table", "caption", "colgroup", "tbody", "td", "tfoot", "th", "thead", "tr", "body"],
      tag.isEnd [a] = false := fun a ha =>
    let ⟨l, hl, hal⟩ := hcov a ha
    isEnd_single_false (Bool.eq_false_iff.mpr (hls l hl)) hal
  intro hk h2 hkeep
  left
  have hke : tag.kind = .endTag := by
    cases hq : tag.kind with
    | endTag => rfl
    | startTag => rw [hq] at hk; exact absurd rfl hk
  have hexn : ∀ a ∈ ["html", "table", "template", "caption", "colgroup", "tbody", "td", "tfoot", "th", "thead", "tr",
      "body"], tag.name ≠ a.toList := by
    intro a ha hname
    have hsingle : tag.isEnd [a] = true := by
      unfold Tag.isEnd isOneOf
      rw [hke, hname]
      simp
    by_cases hat : a = "template"
    · subst hat
      exact h2 (by rw [hsingle]; simp)
    · have := hex a (by
        simp only [List.mem_cons, List.not_mem_nil, or_false] at ha ⊢
        rcases ha with rfl | rfl | rfl | rfl | rfl | rfl | rfl | rfl | rfl | rfl | rfl | rfl <;> simp at hat ⊢)
      rw [hsingle] at this; cases this
  rcases keepName_cases hkeep with hst | hb
  · exfalso
    unfold constrained at hst
    obtain ⟨a, ha, heq⟩ := htmlIn_eq hst
    have hname : tag.name = a.toList := congrArg EName.loc heq
    simp only [List.mem_cons, List.not_mem_nil, or_false] at ha
    rcases ha with rfl | rfl | rfl | rfl | rfl | rfl | rfl | rfl <;> exact hexn _ (by simp) hname
  · obtain ⟨a, ha, heq⟩ := htmlIn_eq hb
    have hname : tag.name = a.toList := congrArg EName.loc heq
    simp only [List.mem_cons, List.not_mem_nil, or_false] at ha
    rcases ha with rfl | rfl | rfl | rfl | rfl | rfl
    · exact absurd hname (hexn _ (by simp))
    · exact absurd hname (hexn _ (by simp))
    · exact absurd hname (hexn _ (by simp))
    · exact absurd hname (hexn _ (by simp))
    · rw [hname]; decide
    · rw [hname]; decide


def isT3 (m : Mode) : Prop := m = .inTable ∨ m = .inTableBody ∨ m = .inRow

theorem isT3.bl {m : Mode} (h : isT3 m) : isBL m = true := by
  rcases h with rfl | rfl | rfl <;> rfl

/-- `process_chars_in_table` -/
theorem processCharsInTable_good {tok : Token} [ht : TokW tok] (hnt : ∀ tag, tok ≠ .tag tag) {r : Id} {s s' : State}
    {m : Mode} {res : ProcessResult} (hg : Good r s) (hm : s.mode = m) (h3 : isT3 m)
    (e : processCharsInTable tok s = .ok (res, s')) : Out r s' res := by
  have hbl := h3.bl
  unfold processCharsInTable at e
  obtain ⟨b, s1, e1, e2⟩ := bind_ok.mp e
  have q1 : QS s s1 := IsQ.q _ _ _ e1
  have hg1 := hg.qs q1
  have hm1 : s1.mode = m := q1.mode.trans hm
  rcases ite_run e2 with ⟨_, e2⟩ | ⟨_, e2⟩
  · rw [getS_bind] at e2
    rcases ite_run e2 with ⟨_, e2⟩ | ⟨_, e2⟩
    · obtain ⟨_, _, h1, _⟩ := bind_ok.mp e2
      exact absurd h1 panicAt_ok
    · obtain ⟨_, s2, e3, e4⟩ := bind_ok.mp e2
      obtain ⟨_, rfl⟩ := modS_ok.mp e3
      obtain ⟨rfl, rfl⟩ := pure_ok.mp e4
      refine ⟨?_, ht⟩
      obtain ⟨up, ph, hs, _⟩ := hg1
      have hfit := fits_of_fitsM hbl hm1 hs.fits
      refine Good.mk' (up := up) (ph := ph) ⟨hs.core.modes (m' := .inTableText) (om' := some s1.mode) rfl
        (by intro o ho; cases ho; exact hs.core.late.ml.mode), ?_⟩
      show FitsM _ up ph
      unfold FitsM
      exact ⟨s1.mode, rfl, by rw [hm1]; exact h3, by rw [hm1]; exact hfit⟩
  · obtain ⟨_, s2, e3, e4⟩ := bind_ok.mp e2
    have q2 := qs_parseError e3
    refine fosterParentInBody_good (hg1.qs q2) (q2.mode.trans hm1) hbl (fun tag h => absurd h (hnt tag)) e4


/-- "clear the stack back to a table (table body, table row) context" in the mode whose witness is
one of the names `wl` -/
theorem popCtxM {m : Mode} {r : Id} {ph : Phase} {s s' : State} {cl wl : List String} {u : Unit}
    (hcl : ∀ a ∈ cl, a = "html" ∨ a ∈ wl) (hwl' : ∀ a ∈ wl, a ∈ cl) (htm' : "template" ∈ cl)
    (hneed : ∀ d up, Need d m up ↔ ∃ x ∈ up, htmlIn (nm d x) wl = true)
    (hb : Big m r ph s) (e : popUntilCurrent (fun n => htmlIn n cl) s = .ok (u, s')) :
    Big m r ph s' ∧ s'.mode = s.mode ∧ s'.origMode = s.origMode ∧
      ∃ t, s'.openElems.getLast? = some t ∧ htmlIn (nm s'.dom t) wl = true ∧ t ≠ r := by
  have hctx : ∀ n, htmlIn n cl = true → n = hN "html" ∨ htmlIn n wl = true := by
    intro n hn
    obtain ⟨a, ha, rfl⟩ := htmlIn_eq hn
    rcases hcl a ha with rfl | h
    · exact Or.inl rfl
    · right; rw [htmlIn_hN]; exact List.contains_iff_mem.mpr h
  have hwl : ∀ n, htmlIn n wl = true → htmlIn n cl = true := by
    intro n hn
    obtain ⟨a, ha, rfl⟩ := htmlIn_eq hn
    rw [htmlIn_hN]; exact List.contains_iff_mem.mpr (hwl' a ha)
  have htm : htmlIn (hN "template") cl = true := by rw [htmlIn_hN]; exact List.contains_iff_mem.mpr htm'
  obtain ⟨up, hc, _, hn, _⟩ := id hb
  obtain ⟨x, hx, hxw⟩ := (hneed _ _).mp hn
  obtain ⟨h1, h2, h3, t, ht, htc, htr⟩ := popCtx_big (m' := .inBody) hb
    ⟨x, by rw [hc.stack]; exact List.mem_cons_of_mem _ hx, hc.up_ne_root hx, hwl _ hxw⟩ htm e
    (fun _ _ _ => trivial)
  have htw : htmlIn (nm s'.dom t) wl = true := by
    rcases hctx _ htc with hh | hh
    · exact absurd hh (h1.not_html (List.mem_of_getLast? ht) htr)
    · exact hh
  exact ⟨h1.reNeed (fun up' hup => (hneed _ _).mpr ⟨t, mem_up_of_last hup ht htr, htw⟩), h2, h3, t, ht, htw, htr⟩


theorem popTable {r : Id} {ph : Phase} {s s' : State} {u : Unit} (hb : Big .inTable r ph s)
    (e : popUntilCurrent tableScope s = .ok (u, s')) :
    Big .inTable r ph s' ∧ s'.mode = s.mode ∧ s'.origMode = s.origMode ∧
      ∃ t, s'.openElems.getLast? = some t ∧ htmlIn (nm s'.dom t) ["table", "template"] = true ∧ t ≠ r :=
  popCtxM (by simp) (by simp) (by simp) (fun _ _ => Iff.rfl) hb e

theorem popTBody {r : Id} {ph : Phase} {s s' : State} {u : Unit} (hb : Big .inTableBody r ph s)
    (e : popUntilCurrent tableBodyContext s = .ok (u, s')) :
    Big .inTableBody r ph s' ∧ s'.mode = s.mode ∧ s'.origMode = s.origMode ∧
      ∃ t, s'.openElems.getLast? = some t ∧ htmlIn (nm s'.dom t) ["tbody", "tfoot", "thead", "template"] = true ∧
        t ≠ r :=
  popCtxM (by simp) (by simp) (by simp) (fun _ _ => Iff.rfl) hb e

theorem popRow {r : Id} {ph : Phase} {s s' : State} {u : Unit} (hb : Big .inRow r ph s)
    (e : popUntilCurrent tableRowContext s = .ok (u, s')) :
    Big .inRow r ph s' ∧ s'.mode = s.mode ∧ s'.origMode = s.origMode ∧
      ∃ t, s'.openElems.getLast? = some t ∧ htmlIn (nm s'.dom t) ["tr", "template"] = true ∧ t ≠ r :=
  popCtxM (by simp) (by simp) (by simp) (fun _ _ => Iff.rfl) hb e

/-- a table-structure element is inserted on the context node, and the mode is switched -/
theorem sectionIns {m m' : Mode} {wl names : List String} {name : Str} {attrs : List Attr} {dup : Bool}
    {r el t : Id} {ph : Phase} {s1 s2 : State}
    (hname : ∃ a ∈ names, name = a.toList) (hb : Big m r ph s1)
    (ht : s1.openElems.getLast? = some t) (htw : htmlIn (nm s1.dom t) wl = true)
    (hpred : ∀ a ∈ names, ∀ p ∈ wl, predOk (hN a) (hN p) = true)
    (hnm : ∀ a ∈ names, htmlIn (hN a) ["html", "body", "head", "frameset", "template"] = false)
    (hbl' : isBL m' = true)
    (hneed' : ∀ d up e0, e0 ∈ up → (∃ a ∈ names, nm d e0 = hN a) → Need d m' up)
    (e1 : insertElement true nsHtml name attrs dup s1 = .ok (el, s2)) :
    Big m' r ph { s2 with mode := m' } ∧ s2.origMode = s1.origMode := by
  obtain ⟨a, ha, rfl⟩ := hname
  obtain ⟨p, hp, hpn⟩ := htmlIn_eq htw
  have hk := hnm a ha
  obtain ⟨h1, h2, h3, h4, h5⟩ := insertStruct_big (name := a.toList) hb ht (by rw [hpn]; exact hpred a ha p hp)
    (by
      cases hq : htmlIn (⟨nsHtml, a.toList⟩ : EName) ["html", "body", "head", "frameset"] with
      | false => rfl
      | true =>
        obtain ⟨b, hb', heq⟩ := htmlIn_eq hq
        have : hN a = hN b := heq
        rw [this] at hk
        simp only [List.mem_cons, List.not_mem_nil, or_false] at hb'
        rcases hb' with rfl | rfl | rfl | rfl <;> exact absurd hk (by simp [lit_name]))
    (by
      intro heq
      have : hN a = hN "template" := heq
      rw [this] at hk; exact absurd hk (by simp [lit_name])) e1
  refine ⟨(h1.reNeed (fun up hup => hneed' _ up el ?_ ⟨a, ha, h4⟩)).setMode (isLate_of_bl hbl'), h3⟩
  obtain ⟨up1, hc1, _⟩ := hb
  rw [h5, hc1.stack] at hup
  have : r :: (up1 ++ [el]) = r :: up := hup
  rw [← (List.cons.inj this).2]; simp


/-- the witness a table mode needs is the element just inserted, whatever its name in `names` -/
theorem need_of_names {d : Dom} {up : List Id} {e0 : Id} {names l : List String}
    (h : ∀ a ∈ names, htmlIn (hN a) l = true) (he0 : e0 ∈ up) (hn : ∃ a ∈ names, nm d e0 = hN a) :
    ∃ x ∈ up, htmlIn (nm d x) l = true :=
  let ⟨a, ha, hna⟩ := hn
  ⟨e0, he0, by rw [hna]; exact h a ha⟩

/-- an arm "clear the stack back to the context, insert a table-structure element, go on in mode `m'`";
`hclear` is `popTable` / `popTBody` / `popRow` -/
theorem sectionArm {m m' : Mode} {ctx : EName → Bool} {wl names : List String} {name : Str} {attrs : List Attr}
    {dup : Bool} {ins : M Id} {k : Id → M ProcessResult} {r : Id} {ph : Phase} {s s' : State} {res : ProcessResult}
    (hclear : ∀ u s1, popUntilCurrent ctx s = .ok (u, s1) → Big m r ph s1 ∧ s1.mode = s.mode ∧
      s1.origMode = s.origMode ∧ ∃ t, s1.openElems.getLast? = some t ∧ htmlIn (nm s1.dom t) wl = true ∧ t ≠ r)
    (hins : ins = insertElement true nsHtml name attrs dup) (hname : ∃ a ∈ names, name = a.toList)
    (hpred : ∀ a ∈ names, ∀ p ∈ wl, predOk (hN a) (hN p) = true)
    (hnm : ∀ a ∈ names, htmlIn (hN a) ["html", "body", "head", "frameset", "template"] = false)
    (hbl' : isBL m' = true)
    (hneed' : ∀ d up e0, e0 ∈ up → (∃ a ∈ names, nm d e0 = hN a) → Need d m' up)
    (e : (popUntilCurrent ctx >>= fun _ => ins >>= k) s = .ok (res, s')) :
    ∃ el s2, k el s2 = .ok (res, s') ∧ Big m' r ph { s2 with mode := m' } := by
  subst hins
  obtain ⟨u, s1, e1, e2⟩ := bind_ok.mp e
  obtain ⟨hb1, _, _, t, ht1, htw, _⟩ := hclear u s1 e1
  obtain ⟨el, s2, e5, e6⟩ := bind_ok.mp e2
  exact ⟨el, s2, e6, (sectionIns hname hb1 ht1 htw hpred hnm hbl' hneed' e5).1⟩

/-- `pop_until(P)` when an element satisfying `P` is in table scope -/
theorem popUntilScope {m m' : Mode} {r : Id} {ph : Phase} {s s' : State} {P : EName → Bool} {k : Nat}
    (hb : Big m r ph s) (hi : InScP tableScope P s)
    (hP : ∀ n, P n = true → htmlIn n ["html", "body", "head", "template"] = false)
    (e : popUntil P s = .ok (k, s'))
    (hneed : ∀ up', s'.openElems = r :: up' → Need s'.dom m' up') :
    Big m' r ph s' ∧ s'.mode = s.mode ∧ s'.origMode = s.origMode := by
  obtain ⟨popped, p, hcase⟩ := popUntil_sem e
  refine ⟨hb.popScope hi hP p ?_ hneed, by rw [p.rest], by rw [p.rest]⟩
  intro below x above hst hx hab y hy
  rcases hcase with ⟨m0, above', rfl, hm0, hab'⟩ | ⟨hemp, hall⟩
  · have hps := p.stack
    rw [hst] at hps
    obtain ⟨_, h2, h3⟩ := last_split_unique (p := fun z => P (nm s.dom z)) hps hx hm0
      (fun z hz => (hab z hz).1) hab'
    rcases List.mem_cons.mp hy with h1 | h1
    · left; rw [h1, h2]
    · right; rw [h3]; exact h1
  · exfalso
    have hps := p.stack
    rw [hemp, hst] at hps
    simp only [List.nil_append] at hps
    have := hall x (by rw [← hps]; simp)
    rw [hx] at this; cases this

theorem namedP_table_ok : ∀ n, namedP "table".toList n = true → htmlIn n ["html", "body", "head", "template"] = false := by
  intro n hn; rw [namedP_eq hn]; decide


theorem reset_good_set {m : Mode} {r : Id} {ph : Phase} {s s1 s' : State} {m' : Mode} {u : Unit} (hb : Big m r ph s)
    (e1 : resetInsertionMode s = .ok (m', s1)) (e2 : setMode m' s1 = .ok (u, s')) : Good r s' := by
  obtain ⟨up, hc, hbs⟩ := hb.base
  exact Good.mk' (reset_shape hc hbs e1 e2).1

theorem reset_good_re {m : Mode} {r : Id} {ph : Phase} {s s1 : State} {m' : Mode} (hb : Big m r ph s)
    (e1 : resetInsertionMode s = .ok (m', s1)) : Good r { s1 with mode := m' } := by
  obtain ⟨up, hc, hbs⟩ := hb.base
  obtain ⟨q, hfit, hn1, hn2⟩ := reset_fits hc hbs e1
  have hc1 := hc.qs q
  refine Good.mk' (up := up) (ph := ph) ⟨hc1.modes (isLate_of_fits hfit) hc1.late.ml.orig, ?_⟩
  refine fitsM_of_fits hn1 hn2 rfl ?_
  show Fits s1.dom s1.headElem m' up ph
  have : s1.headElem = s.headElem := by rw [q.rest]
  rw [this]; exact hfit.congr (fun x _ => q.nm x)

theorem Good.bigOf {r : Id} {s : State} {m : Mode} (h : Good r s) (hm : s.mode = m) (hbl : isBL m = true) :
    ∃ ph, Big m r ph s := h.big hm hbl

/-- **the InTable rules**, used in the modes InTable, InTableBody, InRow (the latter two do not pass
on the start tags of table-structure elements) -/
theorem stepInTable_good {tok : Token} [ht : TokW tok] {r : Id} {s s' : State} {m : Mode} {res : ProcessResult}
    (hg : Good r s) (hm : s.mode = m) (h3 : isT3 m)
    (hside : m ≠ .inTable → ∀ tag, tok = .tag tag →
      tag.isStart ["caption", "colgroup", "col", "tbody", "tfoot", "thead", "td", "th", "tr"] = false)
    (e : stepInTable tok s = .ok (res, s')) : Out r s' res := by
  have hbl := h3.bl
  unfold stepInTable at e
  cases tok with
  | nullChar => dsimp only at e; exact processCharsInTable_good (by intro t h; cases h) hg hm h3 e
  | chars st text => dsimp only at e; exact processCharsInTable_good (by intro t h; cases h) hg hm h3 e
  | comment text =>
    dsimp only at e
    exact (inferInstance : RB (appendComment text)).good hg hm hbl e
  | eof => dsimp only at e; exact stepInBody_good bodyDeleg hg hm hbl (by intro t h; cases h) e
  | tag tag =>
    dsimp only at e
    obtain ⟨ph, hb⟩ := hg.big hm hbl
    have unexp : unexpected s = .ok (res, s') → Out r s' res := by
      intro e0
      obtain ⟨q, rfl⟩ := qs_unexpected e0
      exact hg.qs q
    -- the arms for the table-structure start tags: the mode is InTable
    have hT : ∀ l, tag.isStart l = true → (∀ a ∈ l, a ∈ ["caption", "colgroup", "col", "tbody", "tfoot", "thead", "td",
        "th", "tr"]) → m = .inTable := by
      intro l hl hsub
      cases hq : decide (m = .inTable) with
      | true => exact of_decide_eq_true hq
      | false =>
        have := hside (of_decide_eq_false hq) tag rfl
        rw [isStart_sub hl hsub] at this; cases this
    rcases ite_run e with ⟨h1, e⟩ | ⟨h1, e⟩
    · -- <caption>
      have hmT := hT _ h1 (by simp [lit_name]); subst hmT
      obtain ⟨_, s1, e1, e2⟩ := bind_ok.mp e
      obtain ⟨hb1, hm1, _, t, ht1, htw, _⟩ := popTable hb e1
      obtain ⟨_, s2, e3, e4⟩ := bind_ok.mp e2
      obtain ⟨hb2, hm2, _⟩ := (inferInstance : PB pushMarker).p _ _ _ _ _ _ hb1 e3
      obtain ⟨_, rfl⟩ := modS_ok.mp e3
      obtain ⟨el, s3, e5, e6⟩ := bind_ok.mp e4
      obtain ⟨a, ha, hn, _⟩ := name_of_isStart h1
      obtain ⟨hb3, _⟩ := sectionIns (m' := .inCaption) (wl := ["table", "template"]) (names := ["caption"])
        ⟨a, ha, hn⟩ hb2 ht1 htw (by decide) (by decide) rfl (fun _ _ _ _ _ => trivial) e5
      obtain ⟨rfl, rfl⟩ := setModeDone_ok e6
      exact hb3.good rfl rfl
    rcases ite_run e with ⟨h2, e⟩ | ⟨h2, e⟩
    · -- <colgroup>
      have hmT := hT _ h2 (by simp [lit_name]); subst hmT
      obtain ⟨a, ha, hn, _⟩ := name_of_isStart h2
      obtain ⟨el, s3, e6, hb3⟩ := sectionArm (m' := .inColumnGroup) (names := ["colgroup"]) (fun _ _ => popTable hb) rfl
        ⟨a, ha, hn⟩ (by decide) (by decide) rfl (fun _ _ _ _ _ => trivial) e
      obtain ⟨rfl, rfl⟩ := setModeDone_ok e6
      exact hb3.good rfl rfl
    rcases ite_run e with ⟨h3', e⟩ | ⟨h3', e⟩
    · -- <col>
      have hmT := hT _ h3' (by simp [lit_name]); subst hmT
      obtain ⟨el, s3, e6, hb3⟩ := sectionArm (m' := .inColumnGroup) (names := ["colgroup"]) (fun _ _ => popTable hb) rfl
        ⟨"colgroup", by simp, rfl⟩ (by decide) (by decide) rfl (fun _ _ _ _ _ => trivial) e
      obtain ⟨rfl, rfl⟩ := pure_ok.mp e6
      exact ⟨hb3.good rfl rfl, inferInstance⟩
    rcases ite_run e with ⟨h4, e⟩ | ⟨h4, e⟩
    · -- <tbody>, <tfoot>, <thead>
      have hmT := hT _ h4 (by simp [lit_name]); subst hmT
      obtain ⟨a, ha, hn, _⟩ := name_of_isStart h4
      obtain ⟨el, s3, e6, hb3⟩ := sectionArm (m' := .inTableBody) (names := ["tbody", "tfoot", "thead"])
        (fun _ _ => popTable hb) rfl ⟨a, ha, hn⟩ (by decide) (by decide) rfl
        (fun _ _ _ he0 hn0 => need_of_names (by decide) he0 hn0) e
      obtain ⟨rfl, rfl⟩ := setModeDone_ok e6
      exact hb3.good rfl rfl
    rcases ite_run e with ⟨h5, e⟩ | ⟨h5, e⟩
    · -- <td>, <th>, <tr>
      have hmT := hT _ h5 (by simp [lit_name]); subst hmT
      obtain ⟨el, s3, e6, hb3⟩ := sectionArm (m' := .inTableBody) (names := ["tbody"]) (fun _ _ => popTable hb) rfl
        ⟨"tbody", by simp, rfl⟩ (by decide) (by decide) rfl (fun _ _ _ he0 hn0 => need_of_names (by decide) he0 hn0) e
      obtain ⟨rfl, rfl⟩ := pure_ok.mp e6
      exact ⟨hb3.good rfl rfl, inferInstance⟩
    rcases ite_run e with ⟨h6, e⟩ | ⟨h6, e⟩
    · -- <table>
      obtain ⟨_, s1, e1, e2⟩ := bind_ok.mp e
      have q1 := (qs_unexpected e1).1
      have hb1 := hb.qs q1
      obtain ⟨b, s2, e3, e4⟩ := bind_ok.mp e2
      obtain ⟨q2, hi⟩ := inScope_inScP e3
      rcases ite_run e4 with ⟨hbt, e4⟩ | ⟨_, e4⟩
      · obtain ⟨k, s3, e5, e6⟩ := bind_ok.mp e4
        obtain ⟨hb3, _, _⟩ := popUntilScope (m' := .inBody) (hb1.qs q2) ((hi hbt).qs q2) namedP_table_ok e5
          (fun _ _ => trivial)
        obtain ⟨m', s4, e7, e8⟩ := bind_ok.mp e6
        obtain ⟨rfl, rfl⟩ := pure_ok.mp e8
        exact ⟨reset_good_re hb3 e7, inferInstance⟩
      · obtain ⟨rfl, rfl⟩ := pure_ok.mp e4
        exact (hg.qs q1).qs q2
    rcases ite_run e with ⟨h7, e⟩ | ⟨h7, e⟩
    · -- </table>
      obtain ⟨b, s2, e3, e4⟩ := bind_ok.mp e
      obtain ⟨q2, hi⟩ := inScope_inScP e3
      rcases ite_run e4 with ⟨hbt, e4⟩ | ⟨_, e4⟩
      · obtain ⟨k, s3, e5, e6⟩ := bind_ok.mp e4
        obtain ⟨hb3, _, _⟩ := popUntilScope (m' := .inBody) (hb.qs q2) ((hi hbt).qs q2) namedP_table_ok e5
          (fun _ _ => trivial)
        obtain ⟨m', s4, e7, e8⟩ := bind_ok.mp e6
        obtain ⟨_, s5, e9, e10⟩ := bind_ok.mp e8
        obtain ⟨rfl, rfl⟩ := pure_ok.mp e10
        exact reset_good_set hb3 e7 e9
      · obtain ⟨_, s5, e4', e9⟩ := bind_ok.mp e4
        obtain ⟨rfl, rfl⟩ := pure_ok.mp e9
        exact (hg.qs q2).qs (qs_unexpected e4').1
    rcases ite_run e with ⟨h8, e⟩ | ⟨h8, e⟩
    · exact unexp e
    rcases ite_run e with ⟨h9, e⟩ | ⟨h9, e⟩
    · -- style, script, template
      refine (rb_headTags tag ?_).good hg hm hbl e
      rcases Bool.or_eq_true_iff.mp h9 with h | h
      · rw [isStart_sub h (by simp [lit_name])]; rfl
      · rw [h]; simp
    have hgen : GenEnd tag m := genEnd_of (ls := [["table"], ["body", "caption", "col", "colgroup", "html", "tbody", "td",
        "tfoot", "th", "thead", "tr"]])
      (by
        intro l hl
        simp only [List.mem_cons, List.not_mem_nil, or_false] at hl
        rcases hl with rfl | rfl
        · exact h7
        · exact h8)
      (by simp)
    rcases ite_run e with ⟨h10, e⟩ | ⟨h10, e⟩
    · -- <input>
      obtain ⟨_, s1, e1, e2⟩ := bind_ok.mp e
      have q1 := (qs_unexpected e1).1
      rcases ite_run e2 with ⟨_, e2⟩ | ⟨_, e2⟩
      · obtain ⟨el, s2, e3, e4⟩ := bind_ok.mp e2
        obtain ⟨rfl, rfl⟩ := pure_ok.mp e4
        unfold insertAndPopElementFor at e3
        obtain ⟨a, ha, hn, _⟩ := name_of_isStart h10
        simp only [List.mem_cons, List.not_mem_nil, or_false] at ha
        subst ha
        rw [hn] at e3
        obtain ⟨hb2, hm2, _⟩ := insertElement_big (hb.qs q1) (by decide) e3
        exact hb2.good (hm2.trans (q1.mode.trans hm)) hbl
      · exact fosterParentInBody_good (hg.qs q1) (q1.mode.trans hm) hbl (fun t ht' => by cases ht'; exact hgen) e2
    rcases ite_run e with ⟨h11, e⟩ | ⟨h11, e⟩
    · -- <form>
      obtain ⟨_, s1, e1, e2⟩ := bind_ok.mp e
      have q1 := (qs_unexpected e1).1
      obtain ⟨a, ha, hn, _⟩ := name_of_isStart h11
      simp only [List.mem_cons, List.not_mem_nil, or_false] at ha
      subst ha
      have tail : ∀ (doIt : Bool) (s2 : State), QS s s2 →
          (if doIt = true then
            insertAndPopElementFor tag >>= fun e => (modS fun s => { s with formElem := some e }) >>= fun _ =>
              pure ProcessResult.done
           else pure ProcessResult.done) s2 = .ok (res, s') → Out r s' res := by
        intro doIt s2 q12 e4
        rcases ite_run e4 with ⟨_, e4⟩ | ⟨_, e4⟩
        · obtain ⟨el, s3, e5, e6⟩ := bind_ok.mp e4
          obtain ⟨_, s4, e7, e8⟩ := bind_ok.mp e6
          obtain ⟨rfl, rfl⟩ := pure_ok.mp e8
          obtain ⟨_, rfl⟩ := modS_ok.mp e7
          unfold insertAndPopElementFor at e5
          rw [hn] at e5
          obtain ⟨hb3, hm3, _, hnm3, hel3, _⟩ := insertElement_big (hb.qs q12) (by decide) e5
          have hb4 : Big m r ph { s3 with formElem := some el } :=
            hb3.upd rfl rfl rfl rfl rfl rfl rfl rfl rfl hb3.afok
              (fun f hf => by cases hf; exact ⟨hnm3, hel3⟩) (fun h => h)
          exact hb4.good (hm3.trans (q12.mode.trans hm)) hbl
        · obtain ⟨rfl, rfl⟩ := pure_ok.mp e4
          exact hg.qs q12
      obtain ⟨b, s2, e3, e4⟩ := bind_ok.mp e2
      have q2 := (inHtmlElemNamed_sem e3).1
      rcases ite_run e4 with ⟨_, e4⟩ | ⟨_, e4⟩
      · obtain ⟨doIt, s3, e5, e6⟩ := bind_ok.mp e4
        obtain ⟨rfl, rfl⟩ := pure_ok.mp e5
        exact tail _ _ (q1.trans q2) e6
      · rw [getS_bind] at e4
        obtain ⟨doIt, s3, e5, e6⟩ := bind_ok.mp e4
        obtain ⟨rfl, rfl⟩ := pure_ok.mp e5
        exact tail _ _ (q1.trans q2) e6
    · -- anything else
      obtain ⟨_, s1, e1, e2⟩ := bind_ok.mp e
      have q1 := (qs_unexpected e1).1
      exact fosterParentInBody_good (hg.qs q1) (q1.mode.trans hm) hbl (fun t ht' => by cases ht'; exact hgen) e2


theorem modeOk_inTable : ModeOk .inTable := by
  intro tok ht r s res s' hg hm e
  exact stepInTable_good hg hm (Or.inl rfl) (fun h => absurd rfl h) e

/-! ### InTableText -/

theorem Core.setPtt {s : State} {r : Id} {up : List Id} {ph : Phase} (hc : Core s r up ph)
    {l : List (SplitStatus × Str)} (hl : ∀ p ∈ l, p.2 ≠ []) : Core { s with pendingTableText := l } r up ph :=
  ⟨hc.late.setPtt hl, hc.stack, hc.rdoc, hc.nodup, hc.tg, hc.afn, hc.tc, hc.tmm, hc.form, hc.rtu, hc.rnd, hc.kids,
    hc.elems, hc.bh, hc.afx, hc.adj⟩

theorem Big.setPtt {m : Mode} {r : Id} {ph : Phase} {s : State} (h : Big m r ph s)
    {l : List (SplitStatus × Str)} (hl : ∀ p ∈ l, p.2 ≠ []) : Big m r ph { s with pendingTableText := l } := by
  obtain ⟨up, hc, hbb, hn, _⟩ := h
  exact ⟨up, hc.setPtt hl, hbb, hn, FPok.triv _ _⟩

theorem Big.setFp {m : Mode} {r : Id} {ph : Phase} {s : State} (h : Big m r ph s) (b : Bool) :
    Big m r ph { s with fosterParenting := b } := by
  obtain ⟨up, hc, hbb, hn, _⟩ := h
  exact ⟨up, hc.free rfl rfl rfl rfl rfl rfl rfl rfl rfl rfl rfl, hbb, hn, FPok.triv _ _⟩

theorem flushPendingFoster_big {m : Mode} {r : Id} {ph : Phase} : ∀ (l : List (SplitStatus × Str)) (s s' : State)
    (u : Unit), (∀ p ∈ l, p.2 ≠ []) → Big m r ph s → flushPendingFoster l s = .ok (u, s') →
      Big m r ph s' ∧ s'.mode = s.mode ∧ s'.origMode = s.origMode
  | [], s, s', u, _, hb, e => by
    unfold flushPendingFoster at e
    obtain ⟨_, rfl⟩ := pure_ok.mp e
    exact ⟨hb, rfl, rfl⟩
  | (split, text) :: rest, s, s', u, hl, hb, e => by
    unfold flushPendingFoster at e
    obtain ⟨res1, s1, e1, e2⟩ := bind_ok.mp e
    have hne : text ≠ [] := hl (split, text) (by simp)
    haveI : NE text := ⟨hne⟩
    unfold fosterParentInBody at e1
    obtain ⟨_, sa, ea, e3⟩ := bind_ok.mp e1
    obtain ⟨_, rfl⟩ := modS_ok.mp ea
    obtain ⟨res2, sb, eb, e4⟩ := bind_ok.mp e3
    obtain ⟨_, sc, ec, e5⟩ := bind_ok.mp e4
    obtain ⟨_, rfl⟩ := modS_ok.mp ec
    obtain ⟨rfl, rfl⟩ := pure_ok.mp e5
    obtain ⟨hbb, hmb, hob⟩ := (inferInstance : PB (stepInBody (.chars split text))).p _ _ _ _ _ _ (hb.setFp true) eb
    have hb1 : Big m r ph { sb with fosterParenting := false } := hbb.setFp false
    cases res2 with
    | done =>
      dsimp only at e2
      obtain ⟨h1, h2, h3⟩ := flushPendingFoster_big rest _ s' u (fun p hp => hl p (List.mem_cons_of_mem _ hp)) hb1 e2
      exact ⟨h1, h2.trans hmb, h3.trans hob⟩
    | _ => exact absurd e2 panicAt_ok

theorem flushPendingPlain_big {m : Mode} {r : Id} {ph : Phase} : ∀ (l : List (SplitStatus × Str)) (s s' : State)
    (u : Unit), (∀ p ∈ l, p.2 ≠ []) → Big m r ph s → flushPendingPlain l s = .ok (u, s') →
      Big m r ph s' ∧ s'.mode = s.mode ∧ s'.origMode = s.origMode
  | [], s, s', u, _, hb, e => by
    unfold flushPendingPlain at e
    obtain ⟨_, rfl⟩ := pure_ok.mp e
    exact ⟨hb, rfl, rfl⟩
  | (split, text) :: rest, s, s', u, hl, hb, e => by
    unfold flushPendingPlain at e
    obtain ⟨res1, s1, e1, e2⟩ := bind_ok.mp e
    haveI : NE text := ⟨hl (split, text) (by simp)⟩
    obtain ⟨hbb, hmb, hob⟩ := (inferInstance : PB (appendText text)).p _ _ _ _ _ _ hb e1
    obtain ⟨h1, h2, h3⟩ := flushPendingPlain_big rest _ s' u (fun p hp => hl p (List.mem_cons_of_mem _ hp)) hbb e2
    exact ⟨h1, h2.trans hmb, h3.trans hob⟩

theorem modeOk_inTableText : ModeOk .inTableText := by
  intro tok ht r s res s' hg hm e
  obtain ⟨up, ph, hs, _⟩ := id hg
  have hf := hs.fits
  unfold FitsM at hf
  rw [hm] at hf
  obtain ⟨om, ho, h3, hfit⟩ : ∃ om, s.origMode = some om ∧ (om = .inTable ∨ om = .inTableBody ∨ om = .inRow) ∧
    Fits s.dom s.headElem om up ph := hf
  have hbl : isBL om = true := isT3.bl h3
  obtain ⟨hbb, hneed⟩ := bl_of_fits hbl hfit
  have hb : Big om r ph s := ⟨up, hs.core, hbb, hneed, FPok.triv _ _⟩
  have e' : stepInTableText tok s = .ok (res, s') := e
  have e0' := e'
  unfold stepInTableText at e'
  -- the tokens other than characters
  have other : ∀ t : Token, TokW t → (∀ sp tx, t ≠ .chars sp tx) → t ≠ .nullChar →
      stepInTableText t s = .ok (res, s') → Out r s' res := by
    intro t htw hn1 hn2 e0
    have hl := hs.core.late.st.ptt
    have hb1 : Big om r ph { s with pendingTableText := [] } := hb.setPtt (by intro p hp; cases hp)
    -- the end: back to the original mode
    have fin : ∀ s2 : State, Big om r ph s2 → s2.origMode = s.origMode →
        (getS >>= fun s => match s.origMode with
          | none => panicAt "unwrap-none" "rules.rs:1172" "orig_mode.take().unwrap()"
          | some m => set { s with origMode := none } >>= fun _ => pure (ProcessResult.reprocess m t)) s2
          = .ok (res, s') → Out r s' res := by
      intro s2 hb2 ho2 e4
      rw [getS_bind] at e4
      rw [ho2, ho] at e4
      dsimp only at e4
      obtain ⟨_, s3, e5, e6⟩ := bind_ok.mp e4
      obtain ⟨rfl, rfl⟩ := pure_ok.mp e6
      rw [set_ok.mp e5]
      refine ⟨?_, htw⟩
      obtain ⟨up2, hc2, hbb2, hn2', _⟩ := hb2
      refine Good.mk' (up := up2) (ph := ph) ⟨hc2.modes (isLate_of_bl hbl) (by intro o h0; cases h0), ?_⟩
      exact fitsM_of_bl hbl rfl (fits_of_bl hbl hbb2 hn2')
    unfold stepInTableText at e0
    cases t <;> first
      | exact absurd rfl (hn1 _ _)
      | exact absurd rfl hn2
      | (dsimp only at e0
         rw [getS_bind] at e0
         obtain ⟨_, s1, e1, e2⟩ := bind_ok.mp e0
         obtain ⟨_, rfl⟩ := modS_ok.mp e1
         rcases ite_run e2 with ⟨_, e2⟩ | ⟨_, e2⟩
         · obtain ⟨_, s1', e5, e6⟩ := bind_ok.mp e2
           have q5 := qs_parseError e5
           obtain ⟨_, s2, e7, e8⟩ := bind_ok.mp e6
           obtain ⟨g1, g2, g3⟩ := flushPendingFoster_big _ _ _ _ hl (hb1.qs q5) e7
           exact fin s2 g1 (g3.trans (by rw [q5.rest])) e8
         · obtain ⟨_, s2, e7, e8⟩ := bind_ok.mp e2
           obtain ⟨g1, g2, g3⟩ := flushPendingPlain_big s.pendingTableText { s with pendingTableText := [] } s2 _ hl
             hb1 e7
           exact fin s2 g1 g3 e8)
  cases tok with
  | nullChar =>
    dsimp only at e'
    obtain ⟨q, rfl⟩ := qs_unexpected e'
    exact hg.qs q
  | chars split text =>
    dsimp only at e'
    obtain ⟨_, s1, e1, e2⟩ := bind_ok.mp e'
    obtain ⟨rfl, rfl⟩ := pure_ok.mp e2
    obtain ⟨_, rfl⟩ := modS_ok.mp e1
    refine Good.mk' (up := up) (ph := ph) ⟨hs.core.setPtt ?_, hs.fits⟩
    intro p hp
    simp only [List.mem_append, List.mem_singleton] at hp
    rcases hp with hp | rfl
    · exact hs.core.late.st.ptt p hp
    · exact ht.ne _ _ rfl
  | comment c => exact other (.comment c) inferInstance (by intro _ _ h; cases h) (by intro h; cases h) e0'
  | eof => exact other .eof inferInstance (by intro _ _ h; cases h) (by intro h; cases h) e0'
  | tag tg => exact other (.tag tg) inferInstance (by intro _ _ h; cases h) (by intro h; cases h) e0'

end H5V.Props.C06
