import H5V.Props.C02Algo
import H5V.Props.C04TB
import H5V.Spec.TreeModes
/-!
Foundations for `H5V.Props.C02Modes` (the model of html5ever's tree builder against the insertion
modes of `H5V.Spec.TreeModes`).

`PC m s Q` — partial correctness with the call list: if the model computation `m`, run in `s`, returns
`(a, s')`, then the `TreeSink` calls it made are `calls` (`Ext2`: trace extension and replay on the DOM)
and `Q a s' calls` holds.  Panics and exhausted fuel make `PC` hold vacuously: that they do not occur
is C04 (`H5V.Props.C04TB`: the invariant `TI`, no panic, fuel).  Every `Tot` triple of
`H5V.Props.C02Algo` is a `PC` triple (`PC.of_tot`).

Element signatures (name, template contents, integration-point flag) survive every sink call
(`TBSafe.apply_ext`), so `Ext2` implies `TBSafe.Ext`.
-/
namespace H5V.Lemmas.HtmlTBModes
open H5V.Model.HtmlTB
open H5V.Model.Dom (Id SinkOp Output Dom QualName Attr NodeOrText ElementFlags NodeData)
open H5V.Lemmas.HtmlTBAlgo
open H5V.Lemmas.TBSafe (IsEl nm AllEl sigOf HInv SInv TI Rooted)

/-! ### the triple -/

structure Ext2 (s : State) (calls : List Call) (s' : State) : Prop where
  trace : s'.traceRev = calls.reverse ++ s.traceRev
  replay : Replay s.dom calls s'.dom

theorem replay_ext : ∀ {d d' : Dom} {calls : List Call}, Replay d calls d' → TBSafe.Ext d d' := by
  intro d d' calls
  induction calls generalizing d with
  | nil => intro h; simp only [Replay] at h; subst h; exact TBSafe.Ext.refl _
  | cons c r ih =>
    intro h
    obtain ⟨d1, h1, h2⟩ := h
    exact (TBSafe.apply_ext h1).trans (ih h2)

theorem Ext2.ext {s s' : State} {calls : List Call} (h : Ext2 s calls s') : TBSafe.Ext s.dom s'.dom := replay_ext h.replay

theorem Ext2.refl (s : State) : Ext2 s [] s := ⟨rfl, rfl⟩
theorem Ext2.of_eq {s s' : State} (hd : s'.dom = s.dom) (ht : s'.traceRev = s.traceRev) : Ext2 s [] s' :=
  ⟨by simpa using ht, hd⟩
theorem Ext2.trans {s s1 s2 : State} {a b : List Call} (h1 : Ext2 s a s1) (h2 : Ext2 s1 b s2) : Ext2 s (a ++ b) s2 :=
  ⟨by rw [h2.trace, h1.trace]; simp, h1.replay.append h2.replay⟩
theorem Ext2.of_ext {s s' : State} {calls : List Call} (h : Ext s calls s') : Ext2 s calls s' := ⟨h.trace, h.replay⟩

def PC {α : Type} (m : M α) (s : State) (Q : α → State → List Call → Prop) : Prop :=
  ∀ a s', m.run s = .ok (a, s') → ∃ calls, Ext2 s calls s' ∧ Q a s' calls

theorem PC.of_tot {α : Type} {m : M α} {s : State} {Q : α → State → List Call → Prop} (h : Tot m s Q) : PC m s Q := by
  intro a s' hr
  unfold Tot at h
  rw [hr] at h
  obtain ⟨calls, he, hq⟩ := h
  exact ⟨calls, Ext2.of_ext he, hq⟩

theorem pc_pure {α : Type} {s : State} {a : α} {Q : α → State → List Call → Prop} (h : Q a s []) :
    PC (pure a : M α) s Q := by
  intro a' s' hr
  cases hr
  exact ⟨[], Ext2.refl s, h⟩

theorem pc_throw {α : Type} {s : State} {e : String} {Q : α → State → List Call → Prop} : PC (throw e : M α) s Q := by
  intro a s' hr; cases hr

theorem pc_panicAt {α : Type} {s : State} {c site text : String} {Q : α → State → List Call → Prop} :
    PC (panicAt c site text : M α) s Q := pc_throw

theorem pc_fuelOut {α : Type} {s : State} {w : String} {Q : α → State → List Call → Prop} :
    PC (fuelOut w : M α) s Q := pc_throw

theorem pc_conseq {α : Type} {m : M α} {s : State} {Q Q' : α → State → List Call → Prop}
    (h : PC m s Q) (hq : ∀ a s' calls, Ext2 s calls s' → Q a s' calls → Q' a s' calls) : PC m s Q' := by
  intro a s' hr
  obtain ⟨calls, he, hq'⟩ := h a s' hr
  exact ⟨calls, he, hq a s' calls he hq'⟩

theorem pc_bind {α β : Type} {m : M α} {f : α → M β} {s : State} {Q : β → State → List Call → Prop}
    (h : PC m s (fun a s1 c1 => PC (f a) s1 (fun b s2 c2 => Q b s2 (c1 ++ c2)))) : PC (m >>= f) s Q := by
  intro b s2 hr
  rw [StateT.run_bind] at hr
  cases hm : m.run s with
  | error e => rw [hm] at hr; cases hr
  | ok p =>
    obtain ⟨a, s1⟩ := p
    rw [hm] at hr
    obtain ⟨c1, he1, h2⟩ := h a s1 hm
    obtain ⟨c2, he2, hq⟩ := h2 b s2 hr
    exact ⟨c1 ++ c2, he1.trans he2, hq⟩

theorem pc_getS_bind {β : Type} {f : State → M β} {s : State} {Q : β → State → List Call → Prop}
    (h : PC (f s) s Q) : PC (getS >>= f) s Q := h

theorem pc_getS {s : State} {Q : State → State → List Call → Prop} (h : Q s s []) : PC getS s Q := by
  intro a s' hr; cases hr; exact ⟨[], Ext2.refl s, h⟩

theorem pc_modS {f : State → State} {s : State} {Q : Unit → State → List Call → Prop}
    (hd : (f s).dom = s.dom) (ht : (f s).traceRev = s.traceRev) (h : Q () (f s) []) : PC (modS f) s Q := by
  intro a s' hr; cases hr; exact ⟨[], Ext2.of_eq hd ht, h⟩

theorem pc_set {s2 s : State} {Q : Unit → State → List Call → Prop}
    (hd : s2.dom = s.dom) (ht : s2.traceRev = s.traceRev) (h : Q () s2 []) : PC (set s2 : M Unit) s Q := by
  intro a s' hr; cases hr; exact ⟨[], Ext2.of_eq hd ht, h⟩

/-- any sink call -/
theorem pc_sink {op : SinkOp} {s : State} {Q : Output → State → List Call → Prop}
    (h : ∀ d' out, s.dom.apply op = .ok (d', out) → Q out (afterCall s d' op out) [(op, out)]) :
    PC (sink op) s Q := by
  intro o s' hr
  have hrun : (sink op).run s = (match s.dom.apply op with
      | .error e => .error (errClass e ++ "@sink: " ++ e)
      | .ok (d, out) => .ok (out, afterCall s d op out)) := rfl
  rw [hrun] at hr
  cases ha : s.dom.apply op with
  | error e => rw [ha] at hr; cases hr
  | ok p =>
    obtain ⟨d', out⟩ := p
    rw [ha] at hr
    have e1 : o = out := by cases hr; rfl
    have e2 : s' = afterCall s d' op out := by cases hr; rfl
    subst e1 e2
    exact ⟨[(op, o)], ⟨rfl, ⟨d', ha, rfl⟩⟩, h d' o ha⟩

theorem pc_sinkUnit {op : SinkOp} (s : State) :
    PC (sinkUnit op) s (fun _ s' calls => ∃ d' out, s.dom.apply op = .ok (d', out) ∧
      s' = afterCall s d' op out ∧ calls = [(op, out)]) := by
  unfold sinkUnit
  refine pc_bind (pc_sink ?_)
  intro d' out ha
  exact pc_pure ⟨d', out, ha, rfl, rfl⟩

/-- a query followed by anything -/
theorem pc_query_bind {α β : Type} {m : M α} {f : α → M β} {s : State} {v : α}
    {Q : β → State → List Call → Prop} (hm : PC m s (QueryQ s v))
    (hf : ∀ s1 c1, Ext2 s c1 s1 → SameTB s s1 → edits c1 = [] → PC (f v) s1 (fun b s2 c2 => Q b s2 (c1 ++ c2))) :
    PC (m >>= f) s Q :=
  pc_bind (pc_conseq hm fun _ s1 c1 he ⟨ha, hs, hc⟩ => ha ▸ hf s1 c1 he hs hc)

theorem pc_with_run {α : Type} {m : M α} {s : State} {Q : α → State → List Call → Prop} (h : PC m s Q) :
    PC m s (fun a s' c => Q a s' c ∧ m.run s = .ok (a, s')) := by
  intro a s' hr
  obtain ⟨c, he, hq⟩ := h a s' hr
  exact ⟨c, he, hq, hr⟩

/-! ### the two vocabularies -/

theorem isEl_iff {d : Dom} {h : Id} : IsEl d h ↔ d.isElement h = true := by
  unfold IsEl sigOf Dom.isElement
  cases hd : d.dataOf h with
  | none => simp
  | some v => cases v <;> simp [TBSafe.sigData]

theorem nm_eq_nameOf (d : Dom) (h : Id) : nm d h = nameOf d h := by
  unfold nm nameOf sigOf Dom.elemName Dom.dataOf Dom.get
  cases hn : d.nodes[h]? with
  | none => simp [bind, Except.bind]
  | some n =>
    simp only [Option.map_some, Option.bind_some, bind, Except.bind]
    cases hdat : n.data <;> simp [TBSafe.sigData, TBSafe.enameOfSig, throw, throwThe, MonadExceptOf.throw]

theorem elemsOk_of_allEl {d : Dom} {l : List Id} (h : AllEl d l) : ElemsOk d l := fun x hx => isEl_iff.mp (h x hx)
theorem allEl_of_elemsOk {d : Dom} {l : List Id} (h : ElemsOk d l) : AllEl d l := fun x hx => isEl_iff.mpr (h x hx)

theorem nameOf_ext {d d' : Dom} (he : TBSafe.Ext d d') {h : Id} (hi : d.isElement h = true) : nameOf d' h = nameOf d h := by
  rw [← nm_eq_nameOf, ← nm_eq_nameOf]; exact TBSafe.nm_ext he (isEl_iff.mpr hi)

theorem isElement_ext {d d' : Dom} (he : TBSafe.Ext d d') {h : Id} (hi : d.isElement h = true) : d'.isElement h = true :=
  isEl_iff.mp ((isEl_iff.mpr hi).ext he)

theorem elemOf_ext {d d' : Dom} (he : TBSafe.Ext d d') {h : Id} (hi : d.isElement h = true) : elemOf d' h = elemOf d h := by
  unfold elemOf; rw [nameOf_ext he hi]

theorem ElemsOk.ext {d d' : Dom} {l : List Id} (h : ElemsOk d l) (he : TBSafe.Ext d d') : ElemsOk d' l :=
  fun x hx => isElement_ext he (h x hx)

theorem absStack_ext {d d' : Dom} {l : List Id} (h : ElemsOk d l) (he : TBSafe.Ext d d') : absStack d' l = absStack d l := by
  unfold absStack
  apply List.map_congr_left
  intro x hx
  exact elemOf_ext he (h x hx)

/-- the sink's "MathML annotation-xml integration point" flag of an element (`false` for non-elements) -/
def ipOfDom (d : Dom) (h : Id) : Bool :=
  match d.dataOf h with
  | some (.element _ _ _ ip) => ip
  | _ => false

theorem tcOf_sig (d : Dom) (h : Id) : tcOf d h = ((sigOf d h).bind (·.2.1)).getD 0 := by
  unfold tcOf Dom.templateContentsOf sigOf
  cases d.dataOf h with
  | none => rfl
  | some v => cases v <;> rfl

theorem ipOfDom_sig (d : Dom) (h : Id) : ipOfDom d h = ((sigOf d h).map (·.2.2)).getD false := by
  unfold ipOfDom sigOf
  cases d.dataOf h with
  | none => rfl
  | some v => cases v <;> rfl

theorem tcOf_ext {d d' : Dom} (he : TBSafe.Ext d d') {h : Id} (hi : d.isElement h = true) : tcOf d' h = tcOf d h := by
  rw [tcOf_sig, tcOf_sig, TBSafe.sigOf_ext he (isEl_iff.mpr hi)]

theorem ipOfDom_ext {d d' : Dom} (he : TBSafe.Ext d d') {h : Id} (hi : d.isElement h = true) : ipOfDom d' h = ipOfDom d h := by
  rw [ipOfDom_sig, ipOfDom_sig, TBSafe.sigOf_ext he (isEl_iff.mpr hi)]

theorem ip_of_isElement {d : Dom} {h : Id} (he : d.isElement h = true) :
    d.isMathmlAnnotationXmlIntegrationPoint h = .ok (ipOfDom d h) := by
  obtain ⟨nd, hn⟩ := H5V.Lemmas.Dom.node?_of_lt (isElement_lt he)
  unfold Dom.isElement at he; rw [H5V.Lemmas.Dom.dataOf_of_node hn] at he
  unfold Dom.isMathmlAnnotationXmlIntegrationPoint ipOfDom
  rw [H5V.Lemmas.Dom.dataOf_of_node hn]
  simp only [bind, Except.bind, H5V.Lemmas.Dom.get_ok_of hn]
  cases hd : nd.data <;> simp [hd] at he ⊢

theorem qf_of_same {s s' : State} {c : List Call} (hs : SameTB s s') (he : Ext2 s c s') : TBSafe.QF s s' :=
  ⟨s'.dom, s'.traceRev, hs, he.ext⟩

/-! ### the invariant of C04 gives the hypotheses of C02Algo -/

theorem elemsOk_of_ti {s : State} (h : TI s) : ElemsOk s.dom s.openElems := elemsOk_of_allEl h.h.open_el

theorem headOk_of_rooted {d : Dom} {l : List Id} (h : Rooted d l) : HeadOk d l := by
  obtain ⟨r, rest, hl, hn⟩ := h
  refine ⟨r, by rw [hl]; rfl, ?_, ?_⟩
  · unfold elemOf; rw [← nm_eq_nameOf, hn]; show (HtmlTBSpec.toName TBSafe.htmlName).isHtml "table" = false; decide
  · unfold Spec.TreeAlgo2.isSpecial elemOf; rw [← nm_eq_nameOf, hn]
    show Spec.TreeAlgo.inTable Spec.TreeTables.special (HtmlTBSpec.toName TBSafe.htmlName) = true
    decide +kernel

theorem inTable_loc {t : List (String × String)} {n : Spec.TreeAlgo.Name} (h : Spec.TreeAlgo.inTable t n = true) :
    ∃ r ∈ t, r.2.toList = n.loc := by
  obtain ⟨r, hr, hb⟩ := List.any_eq_true.mp h
  exact ⟨r, hr, beq_iff_eq.mp (Bool.and_eq_true_iff.mp hb).2⟩

/-- formatting tag names are not in the special category -/
theorem notSpecial_of_fmt {n : Str} (h : isOneOf n TBSafe.fmtNames = true) :
    Spec.TreeAlgo.inTable Spec.TreeTables.special ⟨Spec.TreeAlgo.nsHtml, n⟩ = false := by
  -- no local name of the special table is one of the fourteen formatting names
  have tbl : (Spec.TreeTables.special.all fun r => TBSafe.fmtNames.all fun s => s != r.2) = true := by decide +kernel
  obtain ⟨s, hs, e⟩ := List.any_eq_true.mp h
  refine Bool.eq_false_iff.mpr fun hin => ?_
  obtain ⟨r, hr, e'⟩ := inTable_loc hin
  have hne := List.all_eq_true.mp (List.all_eq_true.mp tbl r hr) s hs
  exact (bne_iff_ne.mp hne) (String.toList_inj.mp ((beq_iff_eq.mp e).trans e'.symm))

theorem afOk_of_hinv {s : State} (h : HInv s) : AFOk s.dom s.openElems s.activeFormatting := by
  intro x t hm
  obtain ⟨h1, h2, h3⟩ := h.af x t hm
  exact ⟨isElement_lt (isEl_iff.mp h1), notSpecial_of_fmt h3, fun _ => by rw [← nm_eq_nameOf]; exact h2⟩

end H5V.Lemmas.HtmlTBModes
