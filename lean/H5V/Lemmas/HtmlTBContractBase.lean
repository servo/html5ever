import H5V.Props.C05
import H5V.Lemmas.HtmlTBSafeMsgs
import H5V.Lemmas.HtmlTBSafeInsert
import H5V.Lemmas.HtmlTBContractKinds
/-!
# TreeSink contract for the HTML tree builder: the logic and the invariants

Second pass over the model of the HTML tree builder, for property C05: **every** sink call is made
inside the documented `TreeSink` contract (`H5V.Model.Dom.Contract`), hence (C05/C20) never fails in
the DOM model and keeps the arena invariant `Inv`.

* `Esc e` — the failures this pass does not exclude: anything that is not the failure of a sink call
  (panic sites, fuel: the business of `H5V.Props.C04TB`), the `<meta>` extraction failures, and a
  failure inside `maybe_clone_an_option_into_selectedcontent` (excluded from `C05_no_panic_partial`
  too: its contract is proved, its internal loops are not shown to terminate).
* `SatC m s Q` — run from `s`: an `Esc` failure, or a result/state satisfying `Q`.
* `DomI d0 s` — the sink-side invariant: `Inv s.dom`, and the recorded calls are a contract-abiding
  `C20.Run` from the initial arena `d0` to `s.dom` (so "every call so far was inside the contract");
* `HL s` — the handles the builder holds are elements, templates on the stack have `Document` template
  contents, active formatting entries are HTML elements named like their tag (a formatting name) with
  duplicate-free attributes; `LateS s` — no insertion mode (current, original, template) is Initial;
* `GrowRel s s'` — what all code except the adoption agency / frameset / selectedcontent does to the
  tree and the stack: old nodes keep their parent, new nodes have a parent with a smaller id, the
  stack is a sublist of the old one followed by new nodes in creation order;
* `SAnc d l` — the stack-order vs. ancestry invariant the adoption agency needs: a later stack entry
  is never an ancestor-or-self of an earlier one; `SAnc.grow`: preserved by `GrowRel`.
-/
namespace H5V.Lemmas.TBC
open H5V.Model.HtmlTB
open H5V.Model.Dom (Id QualName Attr NodeOrText SinkOp Output ElementFlags QuirksMode Dom NodeData Node Contract)
open H5V.Lemmas.Dom (Anc WF Kinds)
open H5V.Props.C20 (Inv Run)
open H5V.Props.C05 (isMirror NotMirror C05_no_panic_partial C05_inv_preserved)
open H5V.Lemmas.TBSafe (IsEl nm sigOf Ext apply_ext infixL infixL_append isPrefixOf_append tmplName fmtNames
  nm_ext sigOf_ext IsEl.ext)

/-! ### failures -/

/-- the message of a failing sink call -/
def sinkMsg (x : String) : String := errClass x ++ "@sink: " ++ x

def Esc (e : String) : Prop :=
  infixL "@sink: ".toList e.toList = false ∨
  "meta-extract@encoding.rs: ".toList.isPrefixOf e.toList = true ∨
  ∃ (d : Dom) (o : Id) (x : String), d.apply (.maybeCloneAnOptionIntoSelectedcontent o) = .error x ∧ e = sinkMsg x

/-- run from `s`: an `Esc` failure, or a result/state satisfying `Q` -/
def SatC {α : Type} (m : M α) (s : State) (Q : α → State → Prop) : Prop :=
  match m s with
  | .ok (a, s') => Q a s'
  | .error e => Esc e

theorem satc_pure {α : Type} {a : α} {s : State} {Q : α → State → Prop} (h : Q a s) :
    SatC (pure a : M α) s Q := h

theorem SatC.bind {α β : Type} {m : M α} {f : α → M β} {s : State} {Q : α → State → Prop}
    {R : β → State → Prop} (h : SatC m s Q) (hf : ∀ a s', Q a s' → SatC (f a) s' R) :
    SatC (m >>= f) s R := by
  unfold SatC at h ⊢
  show match (StateT.bind m f) s with | .ok (a, s') => R a s' | .error e => Esc e
  unfold StateT.bind
  cases hm : m s with
  | error e => simp only [hm] at h ⊢; exact h
  | ok r =>
    obtain ⟨a, s'⟩ := r
    simp only [hm] at h ⊢
    exact hf a s' h

theorem SatC.mono {α : Type} {m : M α} {s : State} {Q Q' : α → State → Prop} (h : SatC m s Q)
    (hq : ∀ a s', Q a s' → Q' a s') : SatC m s Q' := by
  unfold SatC at h ⊢
  cases hm : m s with
  | error e => simp only [hm] at h ⊢; exact h
  | ok r => obtain ⟨a, s'⟩ := r; simp only [hm] at h ⊢; exact hq a s' h

theorem satc_getS {s : State} {Q : State → State → Prop} (h : Q s s) : SatC getS s Q := h
theorem satc_set {s s1 : State} {Q : Unit → State → Prop} (h : Q () s1) : SatC (set s1 : M Unit) s Q := h
theorem satc_modS {s : State} {f : State → State} {Q : Unit → State → Prop} (h : Q () (f s)) :
    SatC (modS f) s Q := h
theorem satc_throw {α : Type} {e : String} {s : State} {Q : α → State → Prop} (h : Esc e) :
    SatC (throw e : M α) s Q := h

theorem satc_getS_bind {β : Type} {f : State → M β} {s : State} {R : β → State → Prop}
    (h : SatC (f s) s R) : SatC (getS >>= f) s R :=
  SatC.bind (satc_getS (Q := fun a s' => a = s ∧ s' = s) ⟨rfl, rfl⟩) (by rintro a s' ⟨rfl, rfl⟩; exact h)

theorem satc_modS_bind {β : Type} {g : State → State} {f : Unit → M β} {s : State} {R : β → State → Prop}
    (h : SatC (f ()) (g s) R) : SatC (modS g >>= f) s R :=
  SatC.bind (satc_modS (Q := fun _ s' => s' = g s) rfl) (by rintro a s' rfl; exact h)

theorem satc_set_bind {β : Type} {s1 : State} {f : Unit → M β} {s : State} {R : β → State → Prop}
    (h : SatC (f ()) s1 R) : SatC ((set s1 : M Unit) >>= f) s R :=
  SatC.bind (satc_set (Q := fun _ s' => s' = s1) rfl) (by rintro a s' rfl; exact h)

theorem satc_ite {α : Type} {c : Prop} [Decidable c] {a b : M α} {s : State} {Q : α → State → Prop}
    (h1 : c → SatC a s Q) (h2 : ¬c → SatC b s Q) : SatC (if c then a else b) s Q := by
  by_cases hc : c
  · rw [if_pos hc]; exact h1 hc
  · rw [if_neg hc]; exact h2 hc

/-- `if c { m }; k` as the `do` elaborator writes it, with the rest of the block copied into both branches:
`k` is run from a state that satisfies `I`, whether or not `m` has run -/
theorem satc_when_then {β : Type} {c : Prop} [Decidable c] {m : M Unit} {k : M β} {s : State} {I : State → Prop}
    {Q : β → State → Prop} (hI : I s) (hm : SatC m s (fun _ s' => I s')) (hk : ∀ s1, I s1 → SatC k s1 Q) :
    SatC (if c then m >>= fun _ => k else k) s Q :=
  satc_ite (fun _ => hm.bind (fun _ s1 h1 => hk s1 h1)) (fun _ => hk s hI)

/-- the message of `panicAt cls site text` does not mention the sink, checked on the characters of the three
literals: `rfl` spells a literal without running `String.toList` -/
theorem noSink_panicMsg {cls site text : String} {c s t : List Char} (hc : cls = String.ofList c)
    (hs : site = String.ofList s) (ht : text = String.ofList t)
    (hb : infixL TBSafe.sinkC.1 (c ++ '@' :: (s ++ ':' :: ' ' :: t)) = false) :
    infixL "@sink: ".toList (cls ++ "@" ++ site ++ ": " ++ text).toList = false := by
  subst hc hs ht
  rw [TBSafe.sinkC.toList_eq]
  simp only [String.toList_append, String.toList_ofList]
  rw [show "@".toList = ['@'] from rfl, show ": ".toList = [':', ' '] from rfl]
  simpa using hb

macro "no_sink" : tactic => `(tactic| exact noSink_panicMsg rfl rfl rfl (by decide))

/-- a panic site is not the failure of a sink call -/
theorem satc_panicAt {α : Type} {cls site text : String} {s : State} {Q : α → State → Prop}
    (h : infixL "@sink: ".toList (cls ++ "@" ++ site ++ ": " ++ text).toList = false := by no_sink) :
    SatC (panicAt cls site text : M α) s Q := Or.inl h

/-- a panic followed by more code (`assert!(…); …`, `expect(…)` in the middle of a block) is the panic -/
theorem satc_panicAt_bind {α β : Type} {cls site text : String} {f : α → M β} {s : State} {Q : β → State → Prop}
    (h : infixL "@sink: ".toList (cls ++ "@" ++ site ++ ": " ++ text).toList = false := by no_sink) :
    SatC ((panicAt cls site text : M α) >>= f) s Q := Or.inl h

theorem satc_fuelOut {α : Type} {what : String} {s : State} {Q : α → State → Prop}
    (h : infixL "@sink: ".toList ("model-fuel@model: " ++ what).toList = false := by decide +kernel) :
    SatC (fuelOut what : M α) s Q := Or.inl h

theorem satc_throw_lit {α : Type} {e : String} {s : State} {Q : α → State → Prop}
    (h : infixL "@sink: ".toList e.toList = false := by decide +kernel) : SatC (throw e : M α) s Q := Or.inl h

/-! ### one sink call -/

theorem run_snoc {d0 d d' : Dom} {ops : List SinkOp} {op : SinkOp} {out : Output} (hr : Run d0 ops d)
    (hc : Contract d op) (ha : d.apply op = .ok (d', out)) : Run d0 (ops ++ [op]) d' := by
  induction hr with
  | nil => exact Run.cons hc ha Run.nil
  | cons hc1 ha1 _ ih => exact Run.cons hc1 ha1 (ih hc ha)

/-- the sink-side invariant: arena invariant, and the recorded calls are a contract-abiding run from
the initial arena -/
structure DomI (d0 : Dom) (s : State) : Prop where
  inv : Inv s.dom
  run : Run d0 (s.traceRev.reverse.map Prod.fst) s.dom

theorem DomI.step {d0 : Dom} {s : State} (h : DomI d0 s) {op : SinkOp} {d' : Dom} {out : Output}
    (hc : Contract s.dom op) (ha : s.dom.apply op = .ok (d', out)) :
    DomI d0 { s with dom := d', traceRev := (op, out) :: s.traceRev } where
  inv := C05_inv_preserved h.inv hc ha
  run := by
    show Run d0 (((op, out) :: s.traceRev).reverse.map Prod.fst) d'
    simp only [List.reverse_cons, List.map_append, List.map_cons, List.map_nil]
    exact run_snoc h.run hc ha

/-- **a sink call inside the contract**: it succeeds (or is the mirror op failing), and afterwards
the sink-side invariant holds again -/
theorem satc_sink {d0 : Dom} {op : SinkOp} {s : State} {Q : Output → State → Prop} (hd : DomI d0 s)
    (hc : Contract s.dom op)
    (hQ : ∀ d' out, s.dom.apply op = .ok (d', out) →
      DomI d0 { s with dom := d', traceRev := (op, out) :: s.traceRev } →
      Q out { s with dom := d', traceRev := (op, out) :: s.traceRev }) : SatC (sink op) s Q := by
  unfold SatC H5V.Model.HtmlTB.sink
  cases ha : s.dom.apply op with
  | ok r => obtain ⟨d', out⟩ := r; simp only; exact hQ d' out ha (hd.step hc ha)
  | error x =>
    simp only
    by_cases hm : isMirror op = true
    · cases op <;> simp [isMirror] at hm
      rename_i o
      exact Or.inr (Or.inr ⟨s.dom, o, x, ha, rfl⟩)
    · obtain ⟨d', out, h⟩ := C05_no_panic_partial hd.inv hc (by simpa [NotMirror] using hm)
      rw [ha] at h; cases h

/-! ### handles -/

/-- an HTML `template` element carries template contents, which is a `Document` node -/
def TcDoc (d : Dom) (h : Id) : Prop :=
  nm d h = tmplName → ∃ q tc ip, sigOf d h = some (q, some tc, ip) ∧ d.dataOf tc = some .document

theorem isDoc_kext {d d' : Dom} (hk : KExt d d') {x : Id} (h : d.dataOf x = some .document) :
    d'.dataOf x = some .document := by
  have h1 := hk x (lt_of_data h)
  rw [h] at h1
  cases hd : d'.dataOf x with
  | none => rw [hd] at h1; cases h1
  | some v =>
    rw [hd] at h1
    cases v <;> simp [kindOf] at h1
    rfl

theorem TcDoc.ext {d d' : Dom} {h : Id} (he : Ext d d') (hk : KExt d d') (hi : IsEl d h) (ht : TcDoc d h) :
    TcDoc d' h := by
  intro hn
  rw [nm_ext he hi] at hn
  obtain ⟨q, tc, ip, hs, hd⟩ := ht hn
  exact ⟨q, tc, ip, he h _ hs, isDoc_kext hk hd⟩

/-- what identifies an attribute list as the tokenizer delivers it: plain lower-case names, no
duplicates (`Joint.convTag`: `plainName`; the tokenizer lower-cases and de-duplicates) -/
def AttrsOk (attrs : List Attr) : Prop :=
  (∀ a ∈ attrs, a.name.ns = [] ∧ a.name.pfx = none ∧ ∀ c ∈ a.name.loc, ¬('A' ≤ c ∧ c ≤ 'Z')) ∧
  (attrs.map (·.name.loc)).Nodup

/-- the handles the builder holds -/
structure HL (s : State) : Prop where
  docH : s.docHandle = 0
  doc0 : s.dom.dataOf 0 = some .document
  open_el : ∀ h ∈ s.openElems, IsEl s.dom h
  open_tc : ∀ h ∈ s.openElems, TcDoc s.dom h
  af : ∀ h t, FormatEntry.element h t ∈ s.activeFormatting →
    IsEl s.dom h ∧ nm s.dom h = ⟨nsHtml, t.name⟩ ∧ isOneOf t.name fmtNames = true ∧ AttrsOk t.attrs
  head : ∀ h, s.headElem = some h → IsEl s.dom h
  form : ∀ h, s.formElem = some h → IsEl s.dom h
  ctx : ∀ h, s.contextElem = some h → IsEl s.dom h
  headTc : ∀ h, s.headElem = some h → TcDoc s.dom h

/-- no insertion mode is Initial -/
structure LateS (s : State) : Prop where
  mode : s.mode ≠ .initial
  orig : s.origMode ≠ some .initial
  tm : Mode.initial ∉ s.templateModes

/-- the base invariant of the contract pass -/
structure CB (d0 : Dom) (s : State) : Prop where
  d : DomI d0 s
  h : HL s
  l : LateS s

/-! ### growth -/

/-- what all code except the adoption agency, `<frameset>` and the selectedcontent mirror does -/
structure GrowRel (s s' : State) : Prop where
  ext : Ext s.dom s'.dom
  kext : KExt s.dom s'.dom
  size : s.dom.size ≤ s'.dom.size
  oldPar : ∀ x, x < s.dom.size → s'.dom.parentOf x = s.dom.parentOf x
  newPar : ∀ x p, s.dom.size ≤ x → s'.dom.parentOf x = some p → p < x
  stack : ∃ sub news, s'.openElems = sub ++ news ∧ sub.Sublist s.openElems ∧
    (∀ r ∈ news, s.dom.size ≤ r ∧ r < s'.dom.size) ∧ news.Pairwise (· < ·)

theorem GrowRel.refl (s : State) : GrowRel s s :=
  ⟨Ext.refl _, KExt.refl _, Nat.le_refl _, fun _ _ => rfl, (fun x p hx hp => by
    rw [H5V.Lemmas.Dom.parentOf_none_of_ge hx] at hp; cases hp),
   ⟨s.openElems, [], by simp, List.Sublist.refl _, by simp, List.Pairwise.nil⟩⟩

theorem GrowRel.trans {a b c : State} (h1 : GrowRel a b) (h2 : GrowRel b c) : GrowRel a c where
  ext := h1.ext.trans h2.ext
  kext := h1.kext.trans h2.kext
  size := Nat.le_trans h1.size h2.size
  oldPar := fun x hx => (h2.oldPar x (Nat.lt_of_lt_of_le hx h1.size)).trans (h1.oldPar x hx)
  newPar := fun x p hx hp => by
    by_cases hb : x < b.dom.size
    · rw [h2.oldPar x hb] at hp; exact h1.newPar x p hx hp
    · exact h2.newPar x p (Nat.le_of_not_lt hb) hp
  stack := by
    obtain ⟨sub1, news1, e1, hs1, hn1, hp1⟩ := h1.stack
    obtain ⟨sub2, news2, e2, hs2, hn2, hp2⟩ := h2.stack
    rw [e1] at hs2
    obtain ⟨l1, l2, rfl, hl1, hl2⟩ := List.sublist_append_iff.mp hs2
    refine ⟨l1, l2 ++ news2, by rw [e2, List.append_assoc], hl1.trans hs1, ?_, ?_⟩
    · intro r hr
      rcases List.mem_append.mp hr with hr | hr
      · have := hn1 r (hl2.subset hr)
        exact ⟨this.1, Nat.lt_of_lt_of_le this.2 h2.size⟩
      · have := hn2 r hr
        exact ⟨Nat.le_trans h1.size this.1, this.2⟩
    · rw [List.pairwise_append]
      refine ⟨hp1.sublist hl2, hp2, ?_⟩
      intro x hx y hy
      exact Nat.lt_of_lt_of_le (hn1 x (hl2.subset hx)).2 (hn2 y hy).1

/-- a later stack entry is never an ancestor-or-self of an earlier one -/
def SAnc (d : Dom) (l : List Id) : Prop := l.Pairwise (fun a b => ¬ Anc d b a)

theorem anc_old {d d' : Dom} (hw : WF d) (hop : ∀ x, x < d.size → d'.parentOf x = d.parentOf x) {b a : Id}
    (h : Anc d' b a) : a < d.size → Anc d b a ∧ b < d.size := by
  induction h with
  | refl => intro ha; exact ⟨Anc.refl, ha⟩
  | @step x p hpar _ ih =>
    intro hx
    rw [hop x hx] at hpar
    have hp : p < d.size := H5V.Lemmas.Dom.parent_lt_size hw hpar
    obtain ⟨h1, h2⟩ := ih hp
    exact ⟨Anc.step hpar h1, h2⟩

theorem anc_new {d d' : Dom} (hw : WF d) (hop : ∀ x, x < d.size → d'.parentOf x = d.parentOf x)
    (hnp : ∀ x p, d.size ≤ x → d'.parentOf x = some p → p < x) {b a : Id} (h : Anc d' b a) :
    b ≤ a ∨ b < d.size := by
  induction h with
  | refl => exact Or.inl (Nat.le_refl _)
  | @step x p hpar hanc ih =>
    by_cases hx : x < d.size
    · exact Or.inr (anc_old hw hop (Anc.step hpar hanc) hx).2
    · have hpx := hnp x p (Nat.le_of_not_lt hx) hpar
      rcases ih with h1 | h1
      · exact Or.inl (Nat.le_of_lt (Nat.lt_of_le_of_lt h1 hpx))
      · exact Or.inr h1

/-- **the stack-order invariant survives growth** -/
theorem SAnc.grow {s s' : State} (hw : WF s.dom) (hel : ∀ h ∈ s.openElems, h < s.dom.size)
    (h : SAnc s.dom s.openElems) (g : GrowRel s s') : SAnc s'.dom s'.openElems := by
  obtain ⟨sub, news, e, hs, hn, hp⟩ := g.stack
  unfold SAnc
  rw [e, List.pairwise_append]
  refine ⟨?_, ?_, ?_⟩
  · have hsub : sub.Pairwise (fun a b => ¬ Anc s.dom b a) := List.Pairwise.sublist hs h
    refine hsub.imp_of_mem ?_
    intro a b ha _ hnab hab
    exact hnab (anc_old hw g.oldPar hab (hel a (hs.subset ha))).1
  · refine hp.imp_of_mem ?_
    intro a b ha hb hlt hab
    rcases anc_new hw g.oldPar g.newPar hab with h1 | h1
    · exact Nat.lt_irrefl _ (Nat.lt_of_lt_of_le hlt h1)
    · exact Nat.lt_irrefl _ (Nat.lt_of_lt_of_le h1 (hn b hb).1)
  · intro a ha b hb hab
    have haold := hel a (hs.subset ha)
    exact Nat.lt_irrefl _ (Nat.lt_of_lt_of_le (anc_old hw g.oldPar hab haold).2 (hn b hb).1)

end H5V.Lemmas.TBC
