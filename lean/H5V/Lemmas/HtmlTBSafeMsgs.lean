import H5V.Lemmas.HtmlTBSafeBase
/-!
# Tree-builder safety: the benign failures are none of the panic messages

`tbPanicMessages` lists the message of every `panicAt` site of the tree-builder model
(`grep panicAt H5V/Model/HtmlTB/*.lean`; the sites that take their location as a parameter —
`afRemove`, `contextIsSelect`, `popTr` — once per call site), `tbFuelMessages` the `fuelOut` messages of
the helper loops, `tbModelMessages` the three "sink answered with the wrong shape" messages.
The `file:line` in a message is the label the model gives the site; it need not be the current line in
html5ever.  `benign_not_listed`: a `Benign` failure is none of them — except the `unreachable!` of the Text
insertion mode (`textProtoMsg`), which is the one panic site of the tree builder that an arbitrary
token sequence CAN reach (it takes a token source that violates the tokenizer protocol), and the fuel
of `process_to_completion` (`ptcFuelMsg`, not in the lists).
-/
namespace H5V.Lemmas.TBSafe
open H5V.Model.HtmlTB

variable {al : Allow}

/-- the message `panicAt cls site text` throws -/
def panicMsg (cls site text : String) : String := cls ++ "@" ++ site ++ ": " ++ text

theorem panicAt_eq {α : Type} (cls site text : String) :
    (panicAt cls site text : M α) = throw (panicMsg cls site text) := rfl

def tbPanicMessages : List String := [
  panicMsg "no-current-element" "mod.rs:687" "expect(\"no current element\")",
  panicMsg "index-oob" "mod.rs:1041" "elems[0]",
  panicMsg "index-oob" "mod.rs:561" "open_elems[0]",
  panicMsg "no-current-element" "mod.rs:934" "expect(\"no current element\")",
  panicMsg "unwrap-none" "mod.rs:446" "iter.peek().unwrap()",
  panicMsg "unwrap-none" "mod.rs:1401" "form_elem unwrap",
  panicMsg "remove-oob" "mod.rs:1530" "Vec::remove",
  panicMsg "remove-oob" "mod.rs:817" "Vec::remove",
  panicMsg "remove-oob" "mod.rs:754" "Vec::remove",
  panicMsg "remove-oob" "mod.rs:784" "Vec::remove",
  panicMsg "remove-oob" "mod.rs:905" "Vec::remove",
  panicMsg "remove-oob" "mod.rs:1602" "Vec::remove",
  panicMsg "index-oob" "mod.rs:1000" "active_formatting[entry_index]",
  panicMsg "marker-in-reconstruct" "mod.rs:1012" "Found marker during formatting element reconstruction",
  panicMsg "index-oob" "mod.rs:1009" "active_formatting[entry_index]",
  panicMsg "index-oob" "mod.rs:1027" "active_formatting[entry_index] =",
  panicMsg "sub-overflow" "mod.rs:1032" "len() - 1",
  panicMsg "matches-no-index" "mod.rs:1532" "expect(\"matches with no index\")",
  panicMsg "sub-overflow" "mod.rs:1582" "open_elems.len() - 1",
  panicMsg "sub-overflow" "mod.rs:806" "node_index -= 1",
  panicMsg "index-oob" "mod.rs:807" "open_elems[node_index]",
  panicMsg "assert" "mod.rs:831" "assert!(self.sink.same_node(h, &node))",
  panicMsg "marker-in-aa" "mod.rs:834" "Found marker during adoption agency",
  panicMsg "index-oob" "mod.rs:829" "active_formatting[node_formatting_index]",
  panicMsg "sub-overflow" "mod.rs:789" "fmt_elem_stack_index - 1",
  panicMsg "index-oob" "mod.rs:789" "open_elems[fmt_elem_stack_index - 1]",
  panicMsg "bookmark-missing" "mod.rs:893" "bookmark not found in active formatting elements",
  panicMsg "bookmark-missing" "mod.rs:899" "bookmark not found in active formatting elements",
  panicMsg "fmt-missing" "mod.rs:904" "formatting element not found in active formatting elements",
  panicMsg "fb-missing" "mod.rs:916" "furthest block missing from open element stack",
  panicMsg "unwrap-none" "mod.rs:1294" "template_modes.last().unwrap()",
  panicMsg "unwrap-none" "rules.rs:276" "open_elems.last().unwrap()",
  panicMsg "unwrap-none" "rules.rs:278" "context_elem unwrap",
  panicMsg "unwrap-none" "rules.rs:823" "context_elem unwrap",
  panicMsg "unwrap-none" "rules.rs:903" "context_elem unwrap",
  panicMsg "no-head-element" "rules.rs:399" "expect(\"no head element\")",
  panicMsg "no-current-element" "rules.rs:34" "expect(\"no current element\")",
  panicMsg "unwrap-none" "rules.rs:1023" "orig_mode.take().unwrap()",
  panicMsg "unwrap-none" "rules.rs:1028" "orig_mode.take().unwrap()",
  panicMsg "assert" "mod.rs:1250" "assert!(self.pending_table_text.borrow().is_empty())",
  panicMsg "not-prepared" "rules.rs:1163" "not prepared to handle this!",
  panicMsg "unwrap-none" "rules.rs:1172" "orig_mode.take().unwrap()",
  panicMsg "assert" "mod.rs:637" "assert!(self.html_elem_named(node, name))",
  panicMsg "index-oob" "rules.rs:1669" "open_elems[stack_idx]",
  panicMsg "eof-foreign" "rules.rs:1692" "impossible case in foreign content",
  panicMsg "sub-overflow" "rules.rs:1659" "open_elems.len() - 1",
  panicMsg "assert" "mod.rs:393" "assert!(more_tokens.is_empty())",
  panicMsg "assert" "mod.rs:397" "assert!(more_tokens.is_empty())",
  panicMsg "assert" "mod.rs:401" "assert!(more_tokens.is_empty())"]

/-- `fuelOut` messages of the helper loops (`process_to_completion`'s is `ptcFuelMsg`) -/
def tbFuelMessages : List String := [
  "model-fuel@model: generate_implied_end_tags",
  "model-fuel@model: pop_until_current",
  "model-fuel@model: pop_until",
  "model-fuel@model: reconstruct_active_formatting_elements",
  "model-fuel@model: unexpected_start_tag_in_foreign_content"]

/-- a sink answer of the wrong shape -/
def tbModelMessages : List String := [
  "model-sink-output@model: node expected",
  "model-sink-output@model: bool expected",
  "model-sink-output@model: name expected"]

/-! ### a boolean over-approximation of `Benign` -/

def infixL (p : List Char) : List Char → Bool
  | [] => p.isEmpty
  | c :: t => p.isPrefixOf (c :: t) || infixL p t

theorem isPrefixOf_append (p b : List Char) : p.isPrefixOf (p ++ b) = true := by
  induction p with
  | nil => simp
  | cons c t ih => simp [ih]

theorem infixL_append (p : List Char) : ∀ (a b : List Char), infixL p (a ++ (p ++ b)) = true := by
  intro a
  induction a with
  | nil =>
    intro b
    cases hp : p ++ b with
    | nil =>
      have : p = [] := (List.append_eq_nil_iff.mp hp).1
      simp [infixL, this]
    | cons c t =>
      simp only [List.nil_append, infixL, Bool.or_eq_true]
      left; rw [← hp]; exact isPrefixOf_append p b
  | cons c t ih =>
    intro b
    simp only [List.cons_append, infixL, Bool.or_eq_true]
    right; exact ih b

/-- The characters of `s`.  For a literal `s`, `⟨_, rfl⟩` finds them by unification: the kernel unfolds
a literal to `String.ofList [..]` at once, whereas running `String.toList` on it is slow. -/
def Chars (s : String) : Type := {l : List Char // s = String.ofList l}

theorem Chars.toList_eq {s : String} (c : Chars s) : s.toList = c.1 :=
  (congrArg String.toList c.2).trans String.toList_ofList

def sinkC : Chars "@sink: " := ⟨_, rfl⟩
def ptcFuelC : Chars ptcFuelMsg := ⟨_, rfl⟩
def textProtoC : Chars textProtoMsg := ⟨_, rfl⟩
def metaC : Chars "meta-extract@encoding.rs: " := ⟨_, rfl⟩
def utf8C : Chars "subtendril-utf8@encoding.rs: subtendril is not valid UTF-8" := ⟨_, rfl⟩

/-- the shapes of the `Benign` messages, on characters; `fuel`, `text`: the two allowances -/
def benignL (fuel text : Bool) (l : List Char) : Bool :=
  infixL sinkC.1 l || metaC.1.isPrefixOf l || l == utf8C.1 ||
  (fuel && l == ptcFuelC.1) || (text && l == textProtoC.1)

theorem Benign.benignL {e : String} (h : Benign e) {fuel text : Bool} (hf : al.fuel → fuel = true)
    (ht : al.text → text = true) : benignL fuel text e.toList = true := by
  unfold TBSafe.benignL
  cases h with
  | sinkMut d op x _ _ =>
    rw [String.toList_append, String.toList_append, List.append_assoc, sinkC.toList_eq, infixL_append]
    rfl
  | ptcFuel ha => simp [hf ha, ptcFuelC.toList_eq]
  | textProto ha => simp [ht ha, textProtoC.toList_eq]
  | metaExtract m => simp [String.toList_append, metaC.toList_eq, isPrefixOf_append]
  | metaUtf8 => simp [utf8C.toList_eq]

/-- a message spelt `l` that has none of the benign shapes is not benign -/
theorem not_benign_of_chars {e : String} {l : List Char} (he : e = String.ofList l)
    (hb : benignL true true l = false) : ¬ Benign e := by
  intro h
  have := h.benignL (fuel := true) (text := true) (fun _ => rfl) (fun _ => rfl)
  rw [he, String.toList_ofList, hb] at this
  cases this

theorem not_benign_panicMsg {cls site text : String} {c s t : List Char} (hc : cls = String.ofList c)
    (hs : site = String.ofList s) (ht : text = String.ofList t)
    (hb : benignL true true (c ++ '@' :: (s ++ ':' :: ' ' :: t)) = false) :
    ¬ Benign (panicMsg cls site text) := by
  refine not_benign_of_chars ?_ hb
  subst hc hs ht
  rw [show c ++ '@' :: (s ++ ':' :: ' ' :: t) = c ++ ['@'] ++ s ++ [':', ' '] ++ t by simp]
  simp only [String.ofList_append]
  rfl

/-- the tables are checked entry by entry, on the characters -/
theorem listed_not_benign : ∀ m ∈ tbPanicMessages ++ tbFuelMessages ++ tbModelMessages, ¬ Benign m := by
  have hp : ∀ m ∈ tbPanicMessages, ¬ Benign m := by
    simp only [tbPanicMessages, List.forall_mem_cons, List.mem_singleton, forall_eq]
    and_intros
    all_goals exact not_benign_panicMsg rfl rfl rfl (by decide)
  have hf : ∀ m ∈ tbFuelMessages ++ tbModelMessages, ¬ Benign m := by
    simp only [tbFuelMessages, tbModelMessages, List.cons_append, List.nil_append, List.forall_mem_cons,
      List.mem_singleton, forall_eq]
    and_intros
    all_goals exact not_benign_of_chars rfl (by decide)
  intro m hm
  rw [List.append_assoc] at hm
  exact (List.mem_append.mp hm).elim (hp m) (hf m)

/-- **a benign failure is none of the listed panic / helper-fuel / model messages** -/
theorem benign_not_listed {e : String} (h : Benign e) :
    e ∉ tbPanicMessages ∧ e ∉ tbFuelMessages ∧ e ∉ tbModelMessages :=
  have hl := fun hm => listed_not_benign e hm h
  ⟨fun hm => hl (List.mem_append_left _ (List.mem_append_left _ hm)),
    fun hm => hl (List.mem_append_left _ (List.mem_append_right _ hm)),
    fun hm => hl (List.mem_append_right _ hm)⟩

/-- when the Text-mode `unreachable!` is not tolerated, no benign failure is it -/
theorem benign_ne_textProto (hna : ¬ al.text) {e : String} (h : Benign e) : e ≠ textProtoMsg := by
  rintro rfl
  have := h.benignL (fuel := true) (text := false) (fun _ => rfl) (fun ha => absurd ha hna)
  rw [textProtoC.toList_eq] at this
  exact absurd this (by decide)

/-- when running out of the fuel of `process_to_completion` is not tolerated, no benign failure is it -/
theorem benign_ne_ptcFuel (hna : ¬ al.fuel) {e : String} (h : Benign e) : e ≠ ptcFuelMsg := by
  rintro rfl
  have := h.benignL (fuel := false) (text := true) (fun ha => absurd ha hna) (fun _ => rfl)
  rw [ptcFuelC.toList_eq] at this
  exact absurd this (by decide)

/-- the one message of a tree-builder panic site that IS benign -/
theorem textProtoMsg_eq : textProtoMsg = panicMsg "unreachable" "rules.rs:1037" "impossible case in Text mode" := by
  decide

end H5V.Lemmas.TBSafe
