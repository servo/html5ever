import H5V.Lemmas.HtmlTokSpecTac
set_option linter.unusedSimpArgs false
set_option linter.unusedVariables false
/-!
# C01 simulation — table lemmas (`TabOk`) for the RCDATA / RAWTEXT / script data sub-states:
`RawLessThanSign`, `RawEndTagOpen`, `RawEndTagName`, the script data escape start / dash / dash dash
states and the double escape end state.

In `RawEndTagName` the clause `t.attrs = []` of `RegRel` is needed: the fall-through leaf returns to a
text state, where `RegRel` demands empty attribute registers.
-/
namespace H5V.Lemmas.HtmlTokSpec
open H5V.Model.HtmlTok
open H5V.Spec.HtmlTokenizer (St Tok Emit Tree Switch Ctl ReturnSt)

/-! ## less-than sign states -/

theorem tab_rawLessThanSign (k : RawKind) (o : Opts) (ho : o.exactErrors = false) (pol : Pol) (tree : Tree)
    (m : Mach) (t : Tok) (c : Char) (rest : Str) (h : RegCore m t) (hr : m.reconsume = false)
    (hs : m.state = .rawLessThanSign k) : TabOk tree t c rest (transChar o pol m c) := by
  cases k with
  | scriptDataEscaped e => cases e <;> tab_flat h hs c ['/']
  | _ => tab_flat h hs c ['/', '!']

/-! ## end tag open states -/

theorem tab_rawEndTagOpen (k : RawKind) (o : Opts) (ho : o.exactErrors = false) (pol : Pol) (tree : Tree)
    (m : Mach) (t : Tok) (c : Char) (rest : Str) (h : RegCore m t) (hr : m.reconsume = false)
    (hs : m.state = .rawEndTagOpen k) (hk : k ≠ .scriptDataEscaped .doubleEscaped) :
    TabOk tree t c rest (transChar o pol m c) := by
  cases k with
  | scriptDataEscaped e =>
    cases e with
    | escaped => tab_flat h hs c []
    | doubleEscaped => exact absurd rfl hk
  | _ => tab_flat h hs c []

/-! ## end tag name states -/

/-- an end tag name state (`fn` = the state's function in the specification), "appropriate end tag token" decided first -/
macro "tab_rawEndTagName_tac" h:ident hs:ident o:ident pol:ident hpt:ident hr:ident m:ident t:ident c:ident fn:ident : tactic =>
  `(tactic| (
  obtain ⟨hstd, hst, hcr, hreg, hout⟩ := $h
  simp [$hs:ident, stOf, altSt, isRet] at hst
  simp [RegRel, AttrRel, $hs:ident, isTagSt, needsCur, usesTemp, usesComment, usesDoctype] at hreg
  simp [OutRel, cdataBuf, isCdata, $hs:ident] at hout
  obtain ⟨r1, ⟨r2, r3, r4, r5⟩, r6, hat, r7⟩ := hreg
  have happ := appropriate_eq $m $t r2 r3 r1
  by_cases ha : Tok.isAppropriateEndTag $t = true
  · by_cases hgt : $c = '>'
    · subst hgt
      have hm : transChar $o $pol $m '>' = emitTag $pol .data (clearTemp $m) := by
        unfold transChar; simp (config := {decide := true}) [$hs:ident, happ, ha, isWs]
      rw [hm]
      refine tabOk_gt $pol _ $hpt (clearTemp $m) $t $t $t _ (Or.inl rfl) ?_ hcr $hr r1 r2 r3 r4 r5 hout r7
      simp [sstep, H5V.Spec.HtmlTokenizer.step, hst, $fn:ident,
        H5V.Spec.HtmlTokenizer.genericEndTagNameState, ha, Tok.done]
    · unfold transChar
      simp only [$hs:ident, happ]
      rw [hat, attrR_nil_iff] at r5
      obtain ⟨r5a, r5b, r5c, r5d⟩ := r5
      tab_cases $c ['\t', '\n', '\x0c', ' ', '/', '>']
  · unfold transChar
    simp only [$hs:ident, happ]
    rw [hat, attrR_nil_iff] at r5
    obtain ⟨r5a, r5b, r5c, r5d⟩ := r5
    tab_cases $c ['\t', '\n', '\x0c', ' ', '/', '>']))

set_option hygiene false in
/-- an end tag name state (`fn` = the state's function in the specification): "appropriate end tag
token" is decided first (`appropriate_eq`); the `>` leaf of the appropriate case goes through
`tabOk_gt`, the other leaves through `tab_cases`, where the attribute registers are empty because the
specification has no attributes yet -/
macro "rawEndTagName_flat" h:ident hs:ident o:ident pol:ident hpt:ident hr:ident m:ident t:ident c:ident fn:ident : tactic =>
  `(tactic| (
  have happ : haveAppropriateEndTag $m = Tok.isAppropriateEndTag $t := by
    have hreg := RegCore.reg $h
    simp [RegRel, $hs:ident, isTagSt] at hreg
    exact appropriate_eq $m $t hreg.2.1.1 hreg.2.1.2.1 hreg.1
  by_cases ha : Tok.isAppropriateEndTag $t = true
  · by_cases hgt : $c = '>'
    · subst hgt
      have hm : transChar $o $pol $m '>' = emitTag $pol .data (clearTemp $m) := by
        simp [transChar, $hs:ident, happ, ha, isWs]
      rw [hm]
      obtain ⟨hstd, hst, hcr, hreg, hout⟩ := $h
      simp [$hs:ident, stOf, altSt, isRet] at hst
      simp [RegRel, AttrRel, $hs:ident, isTagSt, needsCur, usesTemp, usesComment, usesDoctype] at hreg
      simp [OutRel, cdataBuf, isCdata, $hs:ident] at hout
      obtain ⟨r1, ⟨r2, r3, r4, r5⟩, r6, hat, r7⟩ := hreg
      refine tabOk_gt $pol _ $hpt (clearTemp $m) $t $t $t _ (Or.inl rfl) ?_ hcr $hr r1 r2 r3 r4 r5 hout r7
      simp [spec_step, $fn:ident, hst, ha]
    · tab_intro $h $hs
      obtain ⟨r1, ⟨r2, r3, r4, r5⟩, r6, hat, r7⟩ := hreg
      subst hat
      rw [attrR_nil_iff] at r5
      obtain ⟨r5a, r5b, r5c, r5d⟩ := r5
      subst_vars
      simp only [transChar]
      tab_cases $c ['\t', '\n', '\x0c', ' ', '/']
  · tab_intro $h $hs
    obtain ⟨r1, ⟨r2, r3, r4, r5⟩, r6, hat, r7⟩ := hreg
    subst hat
    rw [attrR_nil_iff] at r5
    obtain ⟨r5a, r5b, r5c, r5d⟩ := r5
    subst_vars
    simp only [transChar]
    tab_cases $c ['\t', '\n', '\x0c', ' ', '/', '>']))

theorem tab_rawEndTagName (k : RawKind) (o : Opts) (ho : o.exactErrors = false) (pol : Pol) (tree : Tree)
    (hpt : PolTree pol tree) (m : Mach) (t : Tok) (c : Char) (rest : Str) (h : RegCore m t) (hr : m.reconsume = false)
    (hs : m.state = .rawEndTagName k) (hk : k ≠ .scriptDataEscaped .doubleEscaped) :
    TabOk tree t c rest (transChar o pol m c) := by
  cases k with
  | scriptDataEscaped e =>
    cases e with
    | escaped => rawEndTagName_flat h hs o pol hpt hr m t c H5V.Spec.HtmlTokenizer.scriptDataEscapedEndTagNameState
    | doubleEscaped => exact absurd rfl hk
  | rcdata => rawEndTagName_flat h hs o pol hpt hr m t c H5V.Spec.HtmlTokenizer.rcdataEndTagNameState
  | rawtext => rawEndTagName_flat h hs o pol hpt hr m t c H5V.Spec.HtmlTokenizer.rawtextEndTagNameState
  | scriptData => rawEndTagName_flat h hs o pol hpt hr m t c H5V.Spec.HtmlTokenizer.scriptDataEndTagNameState

/-! ## script data escape states -/

theorem tabRaw_script_eq : "script".toList = ['s', 'c', 'r', 'i', 'p', 't'] := by rfl

/-- like `tab_state`, for a state that compares the temporary buffer with "script" -/
macro "tab_state_script" h:ident hs:ident t:ident c:ident "[" ls:term,* "]" : tactic => `(tactic| (
  obtain ⟨hstd, hst, hcr, hreg, hout⟩ := $h
  simp [$hs:ident, stOf, altSt, isRet] at hst
  simp [RegRel, AttrRel, $hs:ident, isTagSt, needsCur, usesTemp, usesComment, usesDoctype] at hreg
  simp [OutRel, cdataBuf, isCdata, $hs:ident] at hout
  obtain ⟨r1, r2, r3, r7⟩ := hreg
  have hsc := tabRaw_script_eq
  unfold transChar
  simp only [$hs:ident, r3, hsc]
  by_cases hb : Tok.temporaryBuffer $t = ['s', 'c', 'r', 'i', 'p', 't']
  all_goals (tab_cases $c [$ls,*])))

set_option hygiene false in
/-- like `tab_flat`, for a state that compares the temporary buffer with "script": the comparison is
decided before the split on `c` -/
macro "script_flat" h:ident hs:ident t:ident c:ident "[" ls:term,* "]" : tactic => `(tactic| (
  by_cases hb : Tok.temporaryBuffer $t = ['s', 'c', 'r', 'i', 'p', 't']
  all_goals (
    have hsc := tabRaw_script_eq
    tab_intro $h $hs
    simp only [transChar]
    tab_cases $c [$ls,*])))

theorem tab_scriptDataEscapeStart (k : ScriptEscapeKind) (o : Opts) (ho : o.exactErrors = false) (pol : Pol) (tree : Tree)
    (m : Mach) (t : Tok) (c : Char) (rest : Str) (h : RegCore m t) (hr : m.reconsume = false)
    (hs : m.state = .scriptDataEscapeStart k) : TabOk tree t c rest (transChar o pol m c) := by
  cases k with
  | escaped => tab_flat h hs c ['-']
  | doubleEscaped => script_flat h hs t c ['\t', '\n', '\x0c', ' ', '/', '>']

theorem tab_scriptDataEscapeStartDash (o : Opts) (ho : o.exactErrors = false) (pol : Pol) (tree : Tree)
    (m : Mach) (t : Tok) (c : Char) (rest : Str) (h : RegCore m t) (hr : m.reconsume = false)
    (hs : m.state = .scriptDataEscapeStartDash) : TabOk tree t c rest (transChar o pol m c) := by
  tab_flat h hs c ['-']

theorem tab_scriptDataEscapedDash (k : ScriptEscapeKind) (o : Opts) (ho : o.exactErrors = false) (pol : Pol) (tree : Tree)
    (m : Mach) (t : Tok) (c : Char) (rest : Str) (h : RegCore m t) (hr : m.reconsume = false)
    (hs : m.state = .scriptDataEscapedDash k) : TabOk tree t c rest (transChar o pol m c) := by
  cases k <;> tab_flat h hs c ['-', '<', '\x00']

theorem tab_scriptDataEscapedDashDash (k : ScriptEscapeKind) (o : Opts) (ho : o.exactErrors = false) (pol : Pol) (tree : Tree)
    (m : Mach) (t : Tok) (c : Char) (rest : Str) (h : RegCore m t) (hr : m.reconsume = false)
    (hs : m.state = .scriptDataEscapedDashDash k) : TabOk tree t c rest (transChar o pol m c) := by
  cases k <;> tab_flat h hs c ['-', '<', '>', '\x00']

theorem tab_scriptDataDoubleEscapeEnd (o : Opts) (ho : o.exactErrors = false) (pol : Pol) (tree : Tree)
    (m : Mach) (t : Tok) (c : Char) (rest : Str) (h : RegCore m t) (hr : m.reconsume = false)
    (hs : m.state = .scriptDataDoubleEscapeEnd) : TabOk tree t c rest (transChar o pol m c) := by
  script_flat h hs t c ['\t', '\n', '\x0c', ' ', '/', '>']

end H5V.Lemmas.HtmlTokSpec
