import H5V.Lemmas.HtmlJointChunkMerge
import H5V.Props.C03Tree
/-!
C03 for the joint model: the joint state after a joint run is the tree builder fed a token list
(`Replays`): every delivery is an `absorb`, and `absorb` is `processTokens` plus counters and the
tokenizer's `process_token_and_continue` assertion.  This is what connects the joint model to the
token-level theorems of `H5V.Props.C03Tree`.
-/
namespace H5V.Lemmas.JointChunk
open H5V.Model.HtmlTok (Mach clr step fuelFor feedBom)
open H5V.Model.HtmlTB (processToken processTokens TokToken SinkResult finishTB)
open H5V.Model.HtmlTB.Joint (JState absorb polOf RunRes conv)

abbrev TokList := List (TokToken × Nat)

/-- `j'` is `j` after the tree builder was fed some token list -/
def Replays (j j' : JState) : Prop :=
  ∃ ts : TokList, processTokens ts j.results j.tb = .ok (j'.results, j'.tb)

theorem Replays.refl (j : JState) : Replays j j := ⟨[], rfl⟩

theorem Replays.trans {a b c : JState} (h1 : Replays a b) (h2 : Replays b c) : Replays a c := by
  obtain ⟨t1, e1⟩ := h1
  obtain ⟨t2, e2⟩ := h2
  refine ⟨t1 ++ t2, ?_⟩
  rw [H5V.Props.C03.processTokens_append, H5V.Lemmas.TBSplit.bind_apply, e1]
  exact e2

/-- is the token a tag? (the tokenizer asserts `Continue` for everything else) -/
def isTagT (tt : TokToken) : Bool := match tt with | .tag _ => true | _ => false

theorem absorb_cons (t : H5V.Model.HtmlTok.Token) (line : Nat) (rest : List (H5V.Model.HtmlTok.Token × Nat)) (j : JState) :
    absorb ((t, line) :: rest) j =
      match conv t with
      | none => absorb rest j
      | some tt =>
        match (processToken tt line).run j.tb with
        | .error e => .error e
        | .ok (r, tb) =>
          if !isTagT tt && r != .continue_ then .error "assert@tokenizer/mod.rs:257: process_token_and_continue"
          else absorb rest { j with tb := tb, results := if r == .continue_ then j.results else r :: j.results,
                                    nTokens := j.nTokens + 1, nEof := j.nEof + (if tt == .eof then 1 else 0),
                                    lastWasEof := tt == .eof } := by
  rw [absorb]
  rfl

theorem absorb_replays : ∀ (toks : List (H5V.Model.HtmlTok.Token × Nat)) (j j' : JState),
    absorb toks j = .ok j' → Replays j j'
  | [], j, j', h => by cases h; exact Replays.refl j
  | (t, line) :: rest, j, j', h => by
    rw [absorb_cons] at h
    cases hc : conv t with
    | none => rw [hc] at h; exact absorb_replays rest j j' h
    | some tt =>
      rw [hc] at h
      simp only at h
      cases hp : (processToken tt line).run j.tb with
      | error e => rw [hp] at h; cases h
      | ok v =>
        obtain ⟨r, tb⟩ := v
        rw [hp] at h
        simp only at h
        by_cases hcnd : (!isTagT tt && r != .continue_) = true
        · rw [if_pos hcnd] at h; cases h
        · rw [if_neg hcnd] at h
          have ih := absorb_replays rest _ j' h
          refine Replays.trans ⟨[(tt, line)], ?_⟩ ih
          simp only [processTokens]
          rw [H5V.Lemmas.TBSplit.bind_apply]
          have : processToken tt line j.tb = .ok (r, tb) := hp
          rw [this]
          rfl

theorem deliver_replays {j : JState} {m : Mach} {k : Mach → JState → RunRes} {P : RunRes → Prop}
    (hk : ∀ j1, Replays j j1 → P (k (clr m) j1)) (hp : ∀ e, P (.panic e)) : P (deliver j m k) := by
  unfold deliver
  cases ha : absorb m.out.reverse j with
  | error e => exact hp e
  | ok j1 => exact hk j1 (absorb_replays _ _ _ ha)

/-- the joint state a run hands back -/
def stateOf : RunRes → Option JState
  | .done _ _ j => some j
  | .script _ _ j => some j
  | .indicator _ _ j => some j
  | .panic _ => none

theorem run_replays (o : TOpts) : ∀ (fuel : Nat) (m : Mach) (inp : Chars) (j j' : JState),
    stateOf (jrun o fuel m inp j) = some j' → Replays j j'
  | 0, _, _, _, _, h => by rw [run_zero] at h; cases h
  | fuel + 1, m, inp, j, j', h => by
    rw [run_succ] at h
    cases hs : step o (polOf j) m inp with
    | panic e => rw [hs] at h; cases h
    | cont m1 i1 =>
      rw [hs] at h
      simp only [deliver] at h
      cases ha : absorb m1.out.reverse j with
      | error e => rw [ha] at h; cases h
      | ok j1 =>
        rw [ha] at h
        exact (absorb_replays _ _ _ ha).trans (run_replays o fuel _ _ _ _ h)
    | suspend m1 i1 =>
      rw [hs] at h
      simp only [deliver] at h
      cases ha : absorb m1.out.reverse j with
      | error e => rw [ha] at h; cases h
      | ok j1 => rw [ha] at h; cases h; exact absorb_replays _ _ _ ha
    | script m1 i1 =>
      rw [hs] at h
      simp only [deliver] at h
      cases ha : absorb m1.out.reverse j with
      | error e => rw [ha] at h; cases h
      | ok j1 => rw [ha] at h; cases h; exact absorb_replays _ _ _ ha
    | indicator m1 i1 =>
      rw [hs] at h
      simp only [deliver] at h
      cases ha : absorb m1.out.reverse j with
      | error e => rw [ha] at h; cases h
      | ok j1 => rw [ha] at h; cases h; exact absorb_replays _ _ _ ha

theorem processChunk_replays (o : TOpts) : ∀ (N : Nat) (m : Mach) (inp chunk : Chars) (j : JState) (m' : Mach)
    (i' : Chars) (j' : JState), jprocessChunk o N m inp chunk j = .ok (m', i', j') → Replays j j'
  | 0, _, _, _, _, _, _, _, h => by rw [processChunk_zero] at h; cases h
  | N + 1, m, inp, chunk, j, m', i', j', h => by
    rw [processChunk_succ] at h
    split at h
    · cases h; exact Replays.refl j
    · have key := run_replays o (fuelFor (feedBom m (inp ++ chunk)).1 (feedBom m (inp ++ chunk)).2)
        (feedBom m (inp ++ chunk)).1 (feedBom m (inp ++ chunk)).2 j
      generalize jrun o (fuelFor (feedBom m (inp ++ chunk)).1 (feedBom m (inp ++ chunk)).2)
        (feedBom m (inp ++ chunk)).1 (feedBom m (inp ++ chunk)).2 j = r at h key
      cases r with
      | done m1 i1 j1 =>
        simp only [afterRun] at h
        cases h
        exact key _ rfl
      | script m1 i1 j1 =>
        simp only [afterRun] at h
        exact (key j1 rfl).trans (processChunk_replays o N _ _ _ _ _ _ _ h)
      | indicator m1 i1 j1 =>
        simp only [afterRun] at h
        exact (key j1 rfl).trans (processChunk_replays o N _ _ _ _ _ _ _ h)
      | panic e => simp only [afterRun] at h; cases h

/-! ### `Joint.finish` -/

/-- the flush of a pending character reference at the start of `Tokenizer::end` -/
def finishPrologue (o : TOpts) (m : Mach) (j : JState) : Except String (Mach × Chars × JState) :=
  match m.charRef with
  | none => .ok (m, [], j)
  | some cr =>
    match H5V.Model.HtmlTok.crEof o m [] cr with
    | .error e => .error ("tokenizer@tokenizer: " ++ e)
    | .ok (m, inp, chars) =>
      match H5V.Model.HtmlTok.processCharRef (m.setCharRef none) chars with
      | (m, .cont) =>
        match absorb m.out.reverse j with
        | .error e => .error e
        | .ok j => .ok (clr m, inp, j)
      | (_, .panic e) => .error ("tokenizer@tokenizer: " ++ e)
      | (_, _) => .error "tokenizer@tokenizer: process_char_ref: unexpected signal"

/-- the rest of `Tokenizer::end` and `TreeBuilder::end` -/
def finishMain (o : TOpts) (m : Mach) (inp : Chars) (j : JState) : Except String JState :=
  match jrun o (fuelFor m inp) m inp j with
  | .done m inp j => finishTail o m inp j
  | .script _ _ _ => .error "assert@tokenizer/mod.rs: matches!(self.run(&input), TokenizerResult::Done)"
  | .indicator _ _ _ => .error "assert@tokenizer/mod.rs: matches!(self.run(&input), TokenizerResult::Done)"
  | .panic e => .error e

theorem finish_eq (o : TOpts) (m : Mach) (j : JState) :
    H5V.Model.HtmlTB.Joint.finish o m j =
      match finishPrologue o m j with
      | .error e => .error e
      | .ok (m1, inp, j1) => finishMain o (m1.setAtEof true) inp j1 := by
  have main : ∀ (m1 : Mach) (inp : Chars) (j1 : JState),
      (match jrun o (fuelFor (m1.setAtEof true) inp) (m1.setAtEof true) inp j1 with
        | .done m inp j =>
          (if !inp.isEmpty then throw "assert@tokenizer/mod.rs: assertion failed: input.is_empty()"
          else
            match H5V.Model.HtmlTok.eofLoop o 8 m with
            | .error e => throw ("tokenizer@tokenizer: " ++ e)
            | .ok m => do
              let j ← absorb m.out.reverse j
              match finishTB.run j.tb with
              | .error e => throw e
              | .ok (_, tb) => pure { j with tb := tb } : Except String JState)
        | .script _ _ _ => throw "assert@tokenizer/mod.rs: matches!(self.run(&input), TokenizerResult::Done)"
        | .indicator _ _ _ => throw "assert@tokenizer/mod.rs: matches!(self.run(&input), TokenizerResult::Done)"
        | .panic e => throw e) = finishMain o (m1.setAtEof true) inp j1 := by
    intro m1 inp j1
    unfold finishMain
    cases jrun o (fuelFor (m1.setAtEof true) inp) (m1.setAtEof true) inp j1 with
    | done m2 i2 j2 =>
      simp only [finishTail]
      split
      · rfl
      · cases H5V.Model.HtmlTok.eofLoop o 8 m2 with
        | error e => rfl
        | ok m3 =>
          simp only
          cases absorb m3.out.reverse j2 with
          | error e => rfl
          | ok j3 => rfl
    | script _ _ _ => rfl
    | indicator _ _ _ => rfl
    | panic e => rfl
  unfold H5V.Model.HtmlTB.Joint.finish finishPrologue
  cases hcr : m.charRef with
  | none => exact main m [] j
  | some cr =>
    simp only
    cases H5V.Model.HtmlTok.crEof o m [] cr with
    | error e => rfl
    | ok v =>
      obtain ⟨m1, inp, chars⟩ := v
      simp only
      cases hp : H5V.Model.HtmlTok.processCharRef (m1.setCharRef none) chars with
      | mk m2 sg =>
        cases sg with
        | cont =>
          simp only
          cases absorb m2.out.reverse j with
          | error e => rfl
          | ok j1 => exact main (clr m2) inp j1
        | script => rfl
        | indicator => rfl
        | panic e => rfl

theorem finishTail_replays {o : TOpts} {m : Mach} {inp : Chars} {j jf : JState} (h : finishTail o m inp j = .ok jf) :
    ∃ j2, Replays j j2 ∧ jf.results = j2.results ∧ finishTB.run j2.tb = .ok ((), jf.tb) := by
  unfold finishTail at h
  split at h
  · cases h
  · cases he : H5V.Model.HtmlTok.eofLoop o 8 m with
    | error e => rw [he] at h; cases h
    | ok m2 =>
      rw [he] at h
      simp only at h
      cases ha : absorb m2.out.reverse j with
      | error e => rw [ha] at h; cases h
      | ok j2 =>
        rw [ha] at h
        simp only at h
        cases hf : finishTB.run j2.tb with
        | error e => rw [hf] at h; cases h
        | ok v =>
          obtain ⟨⟨⟩, tb⟩ := v
          rw [hf] at h
          cases h
          exact ⟨j2, absorb_replays _ _ _ ha, rfl, hf⟩

theorem finish_replays {o : TOpts} {m : Mach} {j jf : JState} (h : H5V.Model.HtmlTB.Joint.finish o m j = .ok jf) :
    ∃ j2, Replays j j2 ∧ jf.results = j2.results ∧ finishTB.run j2.tb = .ok ((), jf.tb) := by
  rw [finish_eq] at h
  cases hp : finishPrologue o m j with
  | error e => rw [hp] at h; cases h
  | ok v =>
    obtain ⟨m1, inp, j1⟩ := v
    rw [hp] at h
    simp only at h
    have h1 : Replays j j1 := by
      unfold finishPrologue at hp
      split at hp
      · cases hp; exact Replays.refl j
      · split at hp
        · cases hp
        · split at hp
          · cases ha : absorb _ j with
            | error e => rw [ha] at hp; cases hp
            | ok j' => rw [ha] at hp; cases hp; exact absorb_replays _ _ _ ha
          · cases hp
          · cases hp
    unfold finishMain at h
    have key := run_replays o (fuelFor (m1.setAtEof true) inp) (m1.setAtEof true) inp j1
    generalize jrun o (fuelFor (m1.setAtEof true) inp) (m1.setAtEof true) inp j1 = r at h key
    cases r with
    | done m2 i2 j2 =>
      simp only at h
      obtain ⟨j3, h3, h4, h5⟩ := finishTail_replays h
      exact ⟨j3, (h1.trans (key j2 rfl)).trans h3, h4, h5⟩
    | script _ _ _ => cases h
    | indicator _ _ _ => cases h
    | panic e => cases h

end H5V.Lemmas.JointChunk
