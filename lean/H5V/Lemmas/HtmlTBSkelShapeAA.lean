import H5V.Lemmas.HtmlTBSkelAdjAA
/-!
C06, second invariant layer: the adoption agency algorithm under `Big`.

The formatting element sits at index `k ≥ 2` of the stack, and everything above it is disposable
(table grammar + the default-scope test); the algorithm edits the stack only above `k`, and the
arena only at nodes that are not children of the root.
-/
namespace H5V.Props.C06
open H5V.Model.Dom hiding Str
open H5V.Model.HtmlTB hiding Str
open H5V.Lemmas.Dom

theorem countP_zero_of_forall {α : Type} {p : α → Bool} : ∀ {l : List α}, (∀ x ∈ l, p x = false) → l.countP p = 0
  | [], _ => rfl
  | a :: t, h => by
    rw [List.countP_cons_of_neg (by rw [h a (by simp)]; simp)]
    exact countP_zero_of_forall (fun x hx => h x (List.mem_cons_of_mem _ hx))

theorem tail_append_of_ne_nil {α : Type} {l l' : List α} (h : l ≠ []) : (l ++ l').tail = l.tail ++ l' := by
  cases l with
  | nil => exact absurd rfl h
  | cons a t => rfl

theorem TG.append_dis {name : Id → EName} {low high : List Id} (h : TG name low)
    (hd : ∀ x ∈ high, constrained (name x) = false) : TG name (low ++ high) := by
  induction high generalizing low with
  | nil => simpa using h
  | cons z hi ih =>
    have : low ++ z :: hi = (low ++ [z]) ++ hi := by simp
    rw [this]
    exact ih (h.snoc (fun t _ => predOk_of_not_constrained (hd z (by simp))))
      (fun x hx => hd x (List.mem_cons_of_mem _ hx))

/-- the part of the stack above a fixed lower part is replaced by other disposable elements -/
theorem Big.rehigh {m : Mode} {r : Id} {ph : Phase} {s : State} {low high high' : List Id} {af' : List FormatEntry}
    (h : Big m r ph s) (hst : s.openElems = low ++ high)
    (hd : ∀ x ∈ high, keepName (nm s.dom x) = false)
    (hd' : ∀ x ∈ high', keepName (nm s.dom x) = false ∧ Loose s.dom x)
    (hnd : (low ++ high').Nodup) (haf : AFok s.dom af') (hadj : AdjD s.dom (low ++ high')) :
    Big m r ph { s with openElems := low ++ high', activeFormatting := af' } := by
  obtain ⟨up, hc, hbb, hneed, hfp⟩ := h
  -- the root is in the lower part
  have hlow : ∃ low1, low = r :: low1 := by
    cases low with
    | nil =>
      rw [hc.stack] at hst
      have : r ∈ high := by rw [← List.nil_append high, ← hst]; simp
      have := hd r this
      rw [hc.root_name, keepName_html] at this; cases this
    | cons a t =>
      rw [hc.stack] at hst
      simp only [List.cons_append, List.cons.injEq] at hst
      exact ⟨t, by rw [hst.1]⟩
  obtain ⟨low1, rfl⟩ := hlow
  have hup : up = low1 ++ high := by
    rw [hc.stack] at hst
    simp only [List.cons_append, List.cons.injEq, true_and] at hst
    exact hst
  have hkeep : ∀ y ∈ up, keepName (nm s.dom y) = true → y ∈ low1 := by
    intro y hy hk
    rw [hup] at hy
    rcases List.mem_append.mp hy with h1 | h1
    · exact h1
    · rw [hd y h1] at hk; cases hk
  have hl : Late { s with openElems := (r :: low1) ++ high', activeFormatting := af' } := by
    refine ⟨hc.late.base, hc.late.pat, ⟨hc.late.st.doc, hc.late.st.ctx, ?_, ?_, hc.late.st.head, hc.late.st.ptt⟩,
      ⟨hc.late.ml.mode, hc.late.ml.orig, hc.late.ml.tm⟩⟩
    · intro e he
      rcases List.mem_append.mp he with h1 | h1
      · exact hc.late.st.oe e (by rw [hst]; exact List.mem_append_left _ h1)
      · exact (hd' e h1).2.1
    · intro e he
      have he' : e ∈ ((r :: low1) ++ high').tail := he
      rw [tail_append_of_ne_nil (by simp)] at he'
      rcases List.mem_append.mp he' with h1 | h1
      · refine hc.late.st.tail e ?_
        rw [hst, tail_append_of_ne_nil (by simp)]
        exact List.mem_append_left _ h1
      · exact (hd' e h1).2.2
  have htg : TG (nm s.dom) ((r :: low1) ++ high') := by
    have h1 : TG (nm s.dom) (r :: low1) := hc.tg.prefix hst
    exact h1.append_dis (fun x hx => constrained_of_keepName_false (hd' x hx).1)
  have hnt : ∀ (l : List Id), (∀ x ∈ l, keepName (nm s.dom x) = false) →
      List.countP (fun x => nm s.dom x == hN "template") l = 0 := by
    intro l hl'
    refine countP_zero_of_forall (fun x hx => ?_)
    cases hq : (nm s.dom x == hN "template") with
    | false => rfl
    | true =>
      have := hl' x hx
      rw [beq_iff_eq.mp hq, keepName_template] at this; cases this
  have hcore : Core { s with openElems := (r :: low1) ++ high', activeFormatting := af' } r (low1 ++ high') ph := by
    refine ⟨hl, rfl, hc.rdoc, hnd, htg, haf, ?_, hc.tmm, hc.form, hc.rtu, hc.rnd, hc.kids, hc.elems, ?_,
      Afx.of_elems hc.elems hbb.notPf, hadj⟩
    · show tcount s.dom ((r :: low1) ++ high') ≤ _
      refine Nat.le_trans (Nat.le_of_eq ?_) hc.tc
      rw [hst]
      unfold tcount
      rw [List.countP_append, List.countP_append, hnt high hd, hnt high' (fun x hx => (hd' x hx).1)]
    · intro y hy
      cases low1 with
      | nil =>
        have : y ∈ high' := List.mem_of_mem_tail hy
        have hk := (hd' y this).1
        refine bh_of4 ?_
        cases hq : htmlIn (nm s.dom y) ["html", "body", "head", "frameset"] with
        | false => rfl
        | true => rw [keepName_of_htmlIn hq (by simp [lit_name])] at hk; cases hk
      | cons a t =>
        have hy' : y ∈ t ++ high' := hy
        rcases List.mem_append.mp hy' with h1 | h1
        · exact hc.bh y (by rw [hup]; exact List.mem_append_left _ h1)
        · have hk := (hd' y h1).1
          refine bh_of4 ?_
          cases hq : htmlIn (nm s.dom y) ["html", "body", "head", "frameset"] with
          | false => rfl
          | true => rw [keepName_of_htmlIn hq (by simp [lit_name])] at hk; cases hk
  refine ⟨low1 ++ high', hcore, ?_, ?_, ?_⟩
  · show BodyBase s.dom s.headElem (low1 ++ high') ph
    rcases hbb with ⟨b, u, h1, h2, h3⟩ | ⟨hh, t, u, h0, h1, h2, h3⟩ | ⟨t, u, h1, h2, h3, h4⟩
    · have hbn : nm s.dom b = hN "body" := by
        subst h2; obtain ⟨_, _, _, _, hb⟩ := hc.elems; exact hb
      have hbl : b ∈ low1 := hkeep b (by rw [h1]; simp) (by rw [hbn]; exact keepName_body)
      cases low1 with
      | nil => cases hbl
      | cons a t =>
        rw [h1] at hup
        simp only [List.cons_append, List.cons.injEq] at hup
        refine Or.inl ⟨a, t ++ high', rfl, by rw [← hup.1]; exact h2, fun y hy hm => ?_⟩
        have hyl : y ∈ (a :: t) := by
          have hm' : y ∈ (a :: t) ++ high' := hm
          rcases List.mem_append.mp hm' with h5 | h5
          · exact h5
          · have hk := (hd' y h5).1
            have hhn : nm s.dom y = hN "head" := by
              obtain ⟨h', e1, _, e3, _⟩ := (show ElemsOk s.dom s.headElem r (.pb b) from h2 ▸ hc.elems)
              rw [hy] at e1; cases e1; exact e3
            rw [hhn, keepName_head] at hk; cases hk
        exact h3 y hy (by rw [h1, hup.1, hup.2]; exact List.mem_append_left _ hyl)
    · have hhn : nm s.dom hh = hN "head" := by
        subst h3; obtain ⟨h', e1, _, e3⟩ := hc.elems; rw [h0] at e1; cases e1; exact e3
      have h1l : hh ∈ low1 := hkeep hh (by rw [h1]; simp) (by rw [hhn]; exact keepName_head)
      have h2l : t ∈ low1 := hkeep t (by rw [h1]; simp) (by rw [h2]; exact keepName_template)
      cases low1 with
      | nil => cases h1l
      | cons a t' =>
        rw [h1] at hup
        simp only [List.cons_append, List.cons.injEq] at hup
        cases t' with
        | nil =>
          -- then t ∈ high, impossible
          simp only [List.nil_append] at hup
          have : t ∈ high := by rw [← hup.2]; simp
          have := hd t this
          rw [h2, keepName_template] at this; cases this
        | cons a2 t2 =>
          simp only [List.cons_append, List.cons.injEq] at hup
          exact Or.inr (Or.inl ⟨hh, t, t2 ++ high', h0, by rw [hup.1, hup.2.1]; rfl, h2, h3⟩)
    · have h1l : t ∈ low1 := hkeep t (by rw [h1]; simp) (by rw [h2]; exact keepName_template)
      cases low1 with
      | nil => cases h1l
      | cons a t' =>
        rw [h1] at hup
        simp only [List.cons_append, List.cons.injEq] at hup
        refine Or.inr (Or.inr ⟨t, t' ++ high', by rw [hup.1]; rfl, h2, h3, fun y hy hm => ?_⟩)
        have hyl : y ∈ (a :: t') := by
          have hm' : y ∈ (a :: t') ++ high' := hm
          rcases List.mem_append.mp hm' with h5 | h5
          · exact h5
          · have hk := (hd' y h5).1
            have hhn : nm s.dom y = hN "head" := by
              obtain ⟨h', e1, _, e3⟩ := (show ElemsOk s.dom s.headElem r .p1 from h3 ▸ hc.elems)
              rw [hy] at e1; cases e1; exact e3
            rw [hhn, keepName_head] at hk; cases hk
        exact h4 y hy (by rw [h1, hup.1, hup.2]; exact List.mem_append_left _ hyl)
  · show Need s.dom m (low1 ++ high')
    cases m <;> try trivial
    all_goals
      obtain ⟨y, hy, hh⟩ := hneed
      exact ⟨y, List.mem_append_left _ (hkeep y hy (keepName_of_htmlIn hh (by simp [lit_name]))), hh⟩
  · intro hf
    obtain ⟨y, hy, hh⟩ := hfp hf
    exact ⟨y, List.mem_append_left _ (hkeep y hy (keepName_of_htmlIn hh (by simp [lit_name]))), hh⟩


/-! ### arena steps that leave the root alone -/

structure Stp (r : Id) (s s' : State) : Prop where
  late : Late s'
  dom : DomOnly s s'
  chg : Chg s.dom s'.dom
  rs : RS r s.dom s'.dom
  k0 : s'.dom.childrenOf 0 = s.dom.childrenOf 0
  adj : AdjD s'.dom s'.openElems

theorem Big.stp {m : Mode} {r : Id} {ph : Phase} {s s' : State} (h : Big m r ph s) (t : Stp r s s') : Big m r ph s' :=
  h.dom t.late t.dom t.chg t.rs t.k0 t.adj

theorem Big.adj {m : Mode} {r : Id} {ph : Phase} {s : State} (h : Big m r ph s) : AdjD s.dom s.openElems := by
  obtain ⟨_, hc, _⟩ := h; exact hc.adj

theorem Stp.oe {r : Id} {s s' : State} (t : Stp r s s') : s'.openElems = s.openElems := by rw [t.dom]
theorem Stp.af {r : Id} {s s' : State} (t : Stp r s s') : s'.activeFormatting = s.activeFormatting := by rw [t.dom]
theorem Stp.mode {r : Id} {s s' : State} (t : Stp r s s') : s'.mode = s.mode := by rw [t.dom]
theorem Stp.orig {r : Id} {s s' : State} (t : Stp r s s') : s'.origMode = s.origMode := by rw [t.dom]

/-- an element that is neither a child of the document nor of the root -/
def Fl (r : Id) (d : Dom) (x : Id) : Prop := d.isElement x = true ∧ x ∉ d.childrenOf 0 ∧ x ∉ d.childrenOf r

theorem Fl.stp {r : Id} {s s' : State} {x : Id} (h : Fl r s.dom x) (t : Stp r s s') : Fl r s'.dom x :=
  ⟨t.chg.isElement h.1, by rw [t.k0]; exact h.2.1, by rw [t.rs.kids]; exact h.2.2⟩

theorem Fl.loose {r : Id} {d : Dom} {x : Id} (h : Fl r d x) : Loose d x := ⟨h.1, h.2.1⟩

theorem Fl.of_nodes {r : Id} {d d' : Dom} {x : Id} (h : Fl r d x) (hn : d'.nodes = d.nodes) : Fl r d' x :=
  ⟨by rw [isElement_of_nodes hn]; exact h.1, by rw [childrenOf_of_nodes hn]; exact h.2.1,
   by rw [childrenOf_of_nodes hn]; exact h.2.2⟩

/-- a disposable element of the stack floats -/
theorem Big.fl {m : Mode} {r : Id} {ph : Phase} {s : State} {x : Id} (h : Big m r ph s) (hx : x ∈ s.openElems)
    (hk : keepName (nm s.dom x) = false) : Fl r s.dom x := by
  obtain ⟨up, hc, hbb, _, _⟩ := h
  have hel := hc.late.st.oe x hx
  have hxr : x ≠ r := by rintro rfl; rw [hc.root_name, keepName_html] at hk; cases hk
  have hxu : x ∈ s.openElems.tail := by
    rw [hc.stack] at hx ⊢
    simp only [List.mem_cons] at hx
    rcases hx with h1 | h1
    · exact absurd h1 hxr
    · exact h1
  refine ⟨hel, hc.late.st.tail x hxu, fun hm => ?_⟩
  have hme : x ∈ rootElems s.dom r := List.mem_filter.mpr ⟨hm, hel⟩
  have he := hc.elems
  rcases hbb with ⟨b, u, h1, h2, h3⟩ | ⟨hh, t, u, h0, h1, h2, h3⟩ | ⟨t, u, h1, h2, h3, h4⟩
  · subst h2
    obtain ⟨h', _, e2, e3, e4⟩ := he
    rw [e2] at hme; simp at hme
    rcases hme with rfl | rfl
    · rw [e3, keepName_head] at hk; cases hk
    · rw [e4, keepName_body] at hk; cases hk
  · subst h3
    obtain ⟨h', _, e2, e3⟩ := he
    rw [e2] at hme; simp at hme; subst hme
    rw [e3, keepName_head] at hk; cases hk
  · subst h3
    obtain ⟨h', _, e2, e3⟩ := he
    rw [e2] at hme; simp at hme; subst hme
    rw [e3, keepName_head] at hk; cases hk

theorem removeFromParent_stp {m : Mode} {r : Id} {ph : Phase} {s s' : State} {x : Id} {u : Unit}
    (h : Big m r ph s) (hx : Fl r s.dom x) (e : sinkUnit (.removeFromParent x) s = .ok (u, s'))
    (hadj : AdjD s'.dom s.openElems) : Stp r s s' := by
  obtain ⟨out, e⟩ := sinkUnit_ok.mp e
  obtain ⟨d, hd, rfl⟩ := sink_ok.mp e
  have hl := h.late
  obtain ⟨hb', hc', _, _, _, hsame⟩ := removeFromParent_spec hl.base (apply_remove hd)
  have hk0 := hsame 0 hx.2.1
  exact ⟨(hl.dom hb' hc' hk0).1, rfl, hc', rs_removeFromParent hl.base hx.2.2 (apply_remove hd), hk0, hadj⟩

theorem appendNode_stp {m : Mode} {r : Id} {ph : Phase} {s s' : State} {p x : Id} {u : Unit}
    (h : Big m r ph s) (hp : s.dom.isElement p = true) (hpr : p ≠ r) (hpx : p ≠ x) (hx : Fl r s.dom x)
    (e : sinkUnit (.append p (.node x)) s = .ok (u, s')) (hadj : AdjD s'.dom s.openElems) : Stp r s s' := by
  have hl := h.late
  have hip : IpOk s.dom (.lastChild p) := ⟨ne_zero_of_isElement hl.base hp, isContainer_of_isElement hp⟩
  have e' : H5V.Model.HtmlTB.insertAt (.lastChild p) (.node x) s = .ok (u, s') := e
  obtain ⟨hl', hext, hk0, hdo⟩ := insertAt_spec (child := .node x) hl hip hx.loose.childOk e'
  have hrs : RS r s.dom s'.dom := by
    refine insertAt_rs (child := .node x) (ip := .lastChild p) hl.base h.rtu hpr ⟨hx.2.2, fun q hq => ?_⟩ e'
    simp only [InsertionPoint.nodes] at hq
    rcases hq with rfl | hq
    · exact hpx
    · cases hq
  exact ⟨hl', hdo, hext.chg, hrs, hk0, by rw [show s'.openElems = s.openElems by rw [hdo]]; exact hadj⟩

theorem reparent_stp {m : Mode} {r : Id} {ph : Phase} {s s' : State} {n np : Id} {u : Unit}
    (h : Big m r ph s) (hn : s.dom.isElement n = true) (hnp : s.dom.isElement np = true) (hnr : n ≠ r) (hnpr : np ≠ r)
    (e : sinkUnit (.reparentChildren n np) s = .ok (u, s')) (hadj : AdjD s'.dom s.openElems) : Stp r s s' := by
  obtain ⟨out, e⟩ := sinkUnit_ok.mp e
  obtain ⟨d, hd, rfl⟩ := sink_ok.mp e
  have hl := h.late
  obtain ⟨hb', hc', hk⟩ := reparentChildren_spec hl.base (ne_zero_of_isElement hl.base hn)
    (ne_zero_of_isElement hl.base hnp) (isContainer_of_isElement hnp) (apply_reparent hd)
  exact ⟨(hl.dom hb' hc' hk).1, rfl, hc', rs_reparent hl.base hnr hnpr (apply_reparent hd), hk, hadj⟩

theorem createElement_stp {m : Mode} {r : Id} {ph : Phase} {s s' : State} {name : QualName} {attrs : List Attr}
    {dup : Bool} {el : Id} (h : Big m r ph s) (e : createElementWithFlags name attrs dup s = .ok (el, s')) :
    Stp r s s' ∧ s.dom.size ≤ el ∧ nm s'.dom el = ⟨name.ns, name.loc⟩ ∧ Fl r s'.dom el ∧
      (∀ q, el ∉ s'.dom.childrenOf q) ∧ s'.dom.parentOf el = none ∧ s'.dom.childrenOf el = [] ∧
      (∀ tc, s'.dom.templateContentsOf el = some tc → s'.dom.childrenOf tc = []) := by
  obtain ⟨up, hc, _⟩ := h
  obtain ⟨hadj', hpar', hkids', _, htc', _⟩ := createElement_adj hc.late hc.adj e
  obtain ⟨hc3, hdo3, hchg3, hfresh3, hel3, hnm3, hnol3⟩ := createElement_core hc e
  obtain ⟨_, _, _, hk1, _⟩ := createElementWithFlags_any hc.late.base e
  have hrs : RS r s.dom s'.dom := by
    unfold createElementWithFlags at e
    obtain ⟨hd1, _⟩ := sink_dom (sinkNode_ok.mp e)
    obtain ⟨hdom1, _⟩ := apply_createElement hd1
    rw [hdom1]
    exact rs_createElement r hc.late.base _ _ _
  exact ⟨⟨hc3.late, hdo3, hchg3, hrs, hk1 0, hadj'⟩, ⟨hfresh3, hnm3, ⟨hel3, hnol3 0, hnol3 r⟩, hnol3, hpar', hkids',
    fun tc h => (htc' tc h).1⟩⟩

theorem Big.nodup {m : Mode} {r : Id} {ph : Phase} {s : State} (h : Big m r ph s) : s.openElems.Nodup := by
  obtain ⟨_, hc, _⟩ := h; exact hc.nodup

theorem Big.root_mem {m : Mode} {r : Id} {ph : Phase} {s : State} (h : Big m r ph s) : r ∈ s.openElems := by
  obtain ⟨_, hc, _⟩ := h; exact hc.root_mem

theorem Big.root_name {m : Mode} {r : Id} {ph : Phase} {s : State} (h : Big m r ph s) : nm s.dom r = hN "html" := by
  obtain ⟨_, hc, _⟩ := h; exact hc.root_name

/-- `insert_appropriately` of a floating element below an override target -/
theorem insertAppropriately_stp {m : Mode} {r : Id} {ph : Phase} {s s' : State} {x t : Id} {u : Unit}
    (h : Big m r ph s) (ht : t ∈ s.openElems ∧ t ≠ r) (hx : Fl r s.dom x)
    (hcand : ∀ ip, ARes s t ip → ∀ p, ip.nodes.1 = p ∨ ip.nodes.2 = some p → p ≠ x)
    (hxp : s.dom.parentOf x = none) (hxk : keepName (nm s.dom x) = false)
    (hK : ∀ y ∈ s.openElems, keepName (nm s.dom y) = true → Before s.openElems y x)
    (htx : Before s.openElems t x)
    (e : insertAppropriately (.node x) (some t) s = .ok (u, s')) : Stp r s s' := by
  unfold insertAppropriately at e
  obtain ⟨ip, s1, e1, e2⟩ := bind_ok.mp e
  obtain ⟨q1, t', ht', hares⟩ := apfi_sem e1
  obtain ⟨_, _, hipok1⟩ := apfi_spec h.late e1
  simp only at ht'
  subst ht'
  have hipr : IpR r s.dom ip := h.ipR ht hares
  have hb1 : Big m r ph s1 := h.qs q1
  have hipr1 : IpR r s1.dom ip := hipr.rs (RS.of_nodes q1.nodes)
  have hx1 : Fl r s1.dom x := hx.of_nodes q1.nodes
  obtain ⟨hl2, hext2, hk02, hdo2⟩ := insertAt_spec (child := .node x) hb1.late hipok1 hx1.loose.childOk e2
  have hrs : RS r s1.dom s'.dom :=
    insertAt_rs (child := .node x) hb1.late.base hb1.rtu hipr1 ⟨hx1.2.2, hcand ip hares⟩ e2
  have hsk := SameSk.of_nodes q1.nodes
  have hadj : AdjD s'.dom s'.openElems := by
    have hoe : s'.openElems = s1.openElems := by rw [hdo2]
    rw [hoe]
    have hnd : s.openElems.Nodup := h.nodup
    refine insertAt_open_adj hipok1 hb1.adj (by rw [parentOf_of_nodes q1.nodes]; exact hxp)
      (isText_false_of_isElement hx1.1) (by rw [q1.nm]; exact not_table_of_keepName_false hxk) (hcand ip hares) ?_ e2
    intro P a b hP hpos
    rw [q1.openElems]
    have hpos' : NodePos s.dom ip P b :=
      hpos.congr (fun y => (childrenOf_of_nodes q1.nodes y).symm) (fun p _ => (parentOf_of_nodes q1.nodes p).symm)
    refine ⟨?_, fun T _ hn hTO => hK T hTO (by rw [← q1.nm, hn]; exact keepName_template),
      fun y _ hyO hyn => hK y hyO (by rw [← q1.nm, hyn]; simp [lit_name])⟩
    intro hPO
    have hPel : s.dom.isElement P = true := h.late.st.oe P hPO
    cases hares with
    | plain =>
      cases hpos' with
      | last hb hip =>
        rcases hip with hip | ⟨e', hip, _⟩
        · have : t' = P := by injection hip
          rw [← this]; exact htx
        · cases hip
      | before e' p' b' hip _ _ _ => cases hip
    | tmpl tc htc _ =>
      cases hpos' with
      | last hb hip =>
        rcases hip with hip | ⟨e', hip, _⟩
        · have : tc = P := by injection hip
          rw [this] at htc
          exact absurd htc (tc_not_element h.late.base hPel)
        · cases hip
      | before e' p' b' hip _ _ _ => cases hip
    | foster ip' _ _ hres =>
      cases hres with
      | tmpl t' tc _ htc _ =>
        cases hpos' with
        | last hb hip =>
          rcases hip with hip | ⟨e', hip, _⟩
          · have : tc = P := by injection hip
            rw [this] at htc
            exact absurd htc (tc_not_element h.late.base hPel)
          · cases hip
        | before e' p' b' hip _ _ _ => cases hip
      | table pre post e p hl hn hpre =>
        have hst : s.openElems = post.reverse ++ p :: e :: pre.reverse := by
          have := congrArg List.reverse hl
          rw [List.reverse_reverse] at this
          rw [this]; simp
        have heO : e ∈ s.openElems := by rw [hst]; simp
        have hex : Before s.openElems e x := hK e heO (by rw [hn]; simp [lit_name])
        cases hpos' with
        | last hb hip =>
          rcases hip with hip | ⟨e', hip, _⟩
          · cases hip
          · have hpP : p = P := by injection hip
            rw [← hpP]
            refine before_trans hnd ?_ hex
            rw [hst]
            exact before_mid_post (by simp)
        | before e' p' b' hip hpe hem hb =>
          have hee : e = e' := by injection hip
          rw [← hee] at hem
          exact before_trans hnd (h.adj.pb P e hem heO hPO) hex
      | bottom hh hhd _ =>
        cases hpos' with
        | last hb hip =>
          rcases hip with hip | ⟨e', hip, _⟩
          · have : hh = P := by injection hip
            rw [← this]
            obtain ⟨up, hc, _⟩ := id h
            have hr : hh = r := by
              rw [hc.stack] at hhd
              simpa using hhd.symm
            rw [hr]
            exact hK r h.root_mem (by rw [hc.root_name]; exact keepName_html)
          · cases hip
        | before e' p' b' hip _ _ _ => cases hip
  refine ⟨hl2, ?_, hsk.chg.trans hext2.chg, (RS.of_nodes q1.nodes).trans hrs, ?_, hadj⟩
  · have h1 := q1.rest
    show s' = { s with dom := s'.dom, traceRev := s'.traceRev }
    rw [hdo2, h1]
  · rw [hk02, childrenOf_of_nodes q1.nodes]

/-- above a disposable element in scope, everything is disposable, and it sits at index ≥ 2 -/
theorem Big.high {m : Mode} {r : Id} {ph : Phase} {s : State} {below above : List Id} {x : Id} (h : Big m r ph s)
    (hst : s.openElems = below ++ x :: above) (hx : keepName (nm s.dom x) = false)
    (hab : ∀ y ∈ above, htmlIn (nm s.dom y) ["html", "table", "template"] = false) :
    (∀ y ∈ above, keepName (nm s.dom y) = false) ∧ 2 ≤ below.length ∧
      ∃ ca, below.getLast? = some ca ∧ ca ∈ s.openElems ∧ ca ≠ r := by
  obtain ⟨up, hc, hbb, _, _⟩ := h
  obtain ⟨a, up', hup, han⟩ := Big.anchor_name (m := m) hc hbb
  have hka : keepName (nm s.dom a) = true := keepName_of_htmlIn han (by simp [lit_name])
  -- below = r :: a :: …
  have hb2 : ∃ b2, below = r :: a :: b2 := by
    rw [hc.stack, hup] at hst
    cases below with
    | nil =>
      simp only [List.nil_append, List.cons.injEq] at hst
      rw [← hst.1, hc.root_name, keepName_html] at hx; cases hx
    | cons b0 t =>
      simp only [List.cons_append, List.cons.injEq] at hst
      cases t with
      | nil =>
        simp only [List.nil_append, List.cons.injEq] at hst
        rw [← hst.2.1, hka] at hx; cases hx
      | cons b1 t1 =>
        simp only [List.cons_append, List.cons.injEq] at hst
        exact ⟨t1, by rw [hst.1, hst.2.1]⟩
  obtain ⟨b2, rfl⟩ := hb2
  refine ⟨?_, by simp, ?_⟩
  · have htg := hc.tg
    rw [hst] at htg
    refine tg_above above _ x htg hx (fun y hy => ?_)
    refine htmlIn_split5 (hab y hy) (hc.bh4 hbb.notPf y ?_)
    have : up = (a :: b2) ++ x :: above := by
      rw [hc.stack] at hst
      simp only [List.cons_append, List.cons.injEq, true_and] at hst
      exact hst
    rw [this]
    show y ∈ b2 ++ x :: above
    exact List.mem_append_right _ (List.mem_cons_of_mem _ hy)
  · have hne : (a :: b2) ≠ [] := by simp
    have hl : (r :: a :: b2).getLast? = some ((a :: b2).getLast hne) := by
      rw [List.getLast?_cons_cons, List.getLast?_eq_some_getLast hne]
    refine ⟨_, hl, ?_, ?_⟩
    · rw [hst]
      exact List.mem_append_left _ (List.mem_cons_of_mem _ (List.getLast_mem hne))
    · have hnd := hc.nodup
      rw [hst] at hnd
      have h1 : (r :: a :: b2).Nodup := (List.nodup_append.mp hnd).1
      intro heq
      exact (List.nodup_cons.mp h1).1 (heq ▸ List.getLast_mem hne)


theorem Stp.of_qs {m : Mode} {r : Id} {ph : Phase} {s s' : State} (h : Big m r ph s) (q : QS s s') : Stp r s s' :=
  ⟨(h.qs q).late, q.rest, (SameSk.of_nodes q.nodes).chg, RS.of_nodes q.nodes, childrenOf_of_nodes q.nodes 0,
    (h.qs q).adj⟩

/-! ### the frame of the adoption agency: a fixed lower part, a disposable upper part -/

structure AAF (m : Mode) (r : Id) (ph : Phase) (s : State) (low high : List Id) : Prop where
  big : Big m r ph s
  st : s.openElems = low ++ high
  dis : ∀ x ∈ high, keepName (nm s.dom x) = false

theorem AAF.stp {m : Mode} {r : Id} {ph : Phase} {s s' : State} {low high : List Id} (h : AAF m r ph s low high)
    (t : Stp r s s') : AAF m r ph s' low high :=
  ⟨h.big.stp t, by rw [t.oe]; exact h.st, fun x hx => by
    rw [nm_chg t.chg (h.big.late.st.oe x (by rw [h.st]; exact List.mem_append_right _ hx))]; exact h.dis x hx⟩

theorem AAF.qs {m : Mode} {r : Id} {ph : Phase} {s s' : State} {low high : List Id} (h : AAF m r ph s low high)
    (q : QS s s') : AAF m r ph s' low high := h.stp (Stp.of_qs h.big q)

theorem AAF.loose {m : Mode} {r : Id} {ph : Phase} {s : State} {low high : List Id} (h : AAF m r ph s low high)
    (hl : low ≠ []) {x : Id} (hx : x ∈ high) : Loose s.dom x := by
  have hl' := h.big.late
  refine ⟨hl'.st.oe x (by rw [h.st]; exact List.mem_append_right _ hx), hl'.st.tail x ?_⟩
  rw [h.st, tail_append_of_ne_nil hl]
  exact List.mem_append_right _ hx

theorem AAF.edit {m : Mode} {r : Id} {ph : Phase} {s : State} {low high high' : List Id} {af' : List FormatEntry}
    (h : AAF m r ph s low high) (hd' : ∀ x ∈ high', keepName (nm s.dom x) = false ∧ Loose s.dom x)
    (hnd : (low ++ high').Nodup) (haf : AFok s.dom af') (hadj : AdjD s.dom (low ++ high')) :
    AAF m r ph { s with openElems := low ++ high', activeFormatting := af' } low high' :=
  ⟨h.big.rehigh h.st h.dis hd' hnd haf hadj, rfl, fun x hx => (hd' x hx).1⟩

theorem nodup_set {α : Type} : ∀ {l : List α} {y : α} (i : Nat), l.Nodup → y ∉ l → (l.set i y).Nodup
  | [], _, _, h, _ => by simpa using h
  | a :: t, y, 0, h, hy => by
    simp only [List.set_cons_zero]
    rw [List.nodup_cons] at h ⊢
    exact ⟨fun hm => hy (List.mem_cons_of_mem _ hm), h.2⟩
  | a :: t, y, i + 1, h, hy => by
    simp only [List.set_cons_succ]
    rw [List.nodup_cons] at h ⊢
    refine ⟨fun hm => ?_, nodup_set i h.2 (fun hm => hy (List.mem_cons_of_mem _ hm))⟩
    rcases List.mem_or_eq_of_mem_set hm with h1 | h1
    · exact h.1 h1
    · exact hy (by rw [h1]; simp)

theorem nodup_insert_mid {α : Type} {pre post : List α} {y : α} (h : (pre ++ post).Nodup) (hy : y ∉ pre ++ post) :
    (pre ++ y :: post).Nodup := by
  rw [List.nodup_append] at h ⊢
  obtain ⟨h1, h2, h3⟩ := h
  refine ⟨h1, ?_, ?_⟩
  · rw [List.nodup_cons]
    exact ⟨fun hm => hy (List.mem_append_right _ hm), h2⟩
  · intro a ha b hb
    simp only [List.mem_cons] at hb
    rcases hb with rfl | hb
    · rintro rfl; exact hy (List.mem_append_left _ ha)
    · exact h3 a ha b hb

theorem insertIdx_after {α : Type} : ∀ (pre : List α) (x y : α) (post : List α),
    (pre ++ x :: post).insertIdx (pre.length + 1) y = pre ++ x :: y :: post
  | [], x, y, post => by simp [List.insertIdx]
  | a :: t, x, y, post => by
    simp only [List.cons_append, List.length_cons, List.insertIdx_succ_cons]
    rw [insertIdx_after t x y post]

/-- what the inner loop establishes, relative to its start state -/
structure AAPost (m : Mode) (r : Id) (ph : Phase) (low : List Id) (s s' : State) (ln : Id) : Prop where
  fr : ∃ high', AAF m r ph s' low high'
  mode : s'.mode = s.mode
  orig : s'.origMode = s.origMode
  fl : Fl r s'.dom ln
  nl : ln ∉ low
  dis : keepName (nm s'.dom ln) = false
  chg : Chg s.dom s'.dom
  lnO : ln ∈ s'.openElems

theorem AAPost.pre {m : Mode} {r : Id} {ph : Phase} {low : List Id} {s s1 s' : State} {ln : Id}
    (h : AAPost m r ph low s1 s' ln) (hm : s1.mode = s.mode) (ho : s1.origMode = s.origMode) (hc : Chg s.dom s1.dom) :
    AAPost m r ph low s s' ln :=
  ⟨h.fr, h.mode.trans hm, h.orig.trans ho, h.fl, h.nl, h.dis, hc.trans h.chg, h.lnO⟩

theorem afRemove_sem {i : Nat} {site : String} {s s' : State} {u : Unit} (e : afRemove i site s = .ok (u, s')) :
    s' = { s with activeFormatting := s.activeFormatting.eraseIdx i } := by
  unfold afRemove at e
  rw [getS_bind] at e
  rcases ite_run e with ⟨_, e⟩ | ⟨_, e⟩
  · unfold setAF at e
    exact modS_ok.mp e
  · exact absurd e throw_ok

theorem AAF.afRm {m : Mode} {r : Id} {ph : Phase} {s s' : State} {low high : List Id} {i : Nat} {site : String}
    {u : Unit} (h : AAF m r ph s low high) (e : afRemove i site s = .ok (u, s')) :
    AAF m r ph s' low high ∧ s'.mode = s.mode ∧ s'.origMode = s.origMode ∧ s'.dom = s.dom := by
  obtain ⟨hb, hm, ho⟩ := (inferInstance : PB (afRemove i site)).p m r ph s u s' h.big e
  have hs := afRemove_sem e
  have hd : s'.dom = s.dom := by rw [hs]
  have hoe : s'.openElems = s.openElems := by rw [hs]
  exact ⟨⟨hb, by rw [hoe]; exact h.st, by rw [hd]; exact h.dis⟩, hm, ho, hd⟩



theorem fresh_ne {d : Dom} {y new : Id} (hy : d.isElement y = true) (hn : d.size ≤ new) : new ≠ y := by
  rintro rfl
  exact Nat.lt_irrefl _ (Nat.lt_of_lt_of_le (lt_of_isElement hy) hn)

theorem aa_index {l low0 high : List Id} {f node : Id} {n : Nat} (hst : l = (low0 ++ [f]) ++ high)
    (hg : l[n]? = some node) (hne : node ≠ f) (hk : low0.length < n + 1) :
    (low0 ++ [f]).length ≤ n ∧ low0.length < n ∧ high[n - (low0 ++ [f]).length]? = some node := by
  have hlen : (low0 ++ [f]).length = low0.length + 1 := by simp
  have hn : low0.length < n := by
    rcases Nat.lt_or_ge low0.length n with h | h
    · exact h
    · have : n = low0.length := by omega
      subst this
      rw [hst, List.getElem?_append_left (by rw [hlen]; omega), List.getElem?_concat_length] at hg
      cases hg; exact absurd rfl hne
  have hle : (low0 ++ [f]).length ≤ n := by rw [hlen]; omega
  refine ⟨hle, hn, ?_⟩
  rw [hst, List.getElem?_append_right hle] at hg
  exact hg

/-- the inner loop of the adoption agency -/
theorem aaInner_big {m : Mode} {r : Id} {ph : Phase} {f fb : Id} {low0 : List Id} :
    ∀ (ni ic : Nat) (ln : Id) (bm : Bookmark) (s s' : State) (res : Id × Bookmark) (high : List Id),
      AAF m r ph s (low0 ++ [f]) high → low0.length < ni → Fl r s.dom ln → ln ∉ low0 ++ [f] →
      keepName (nm s.dom ln) = false → s.openElems[ni]? = some ln →
      aaInner f fb ni ic ln bm s = .ok (res, s') → AAPost m r ph (low0 ++ [f]) s s' res.1
  | 0, _, _, _, _, _, _, _, _, _, _, _, _, _, e => by
    unfold aaInner at e; exact absurd e panicAt_ok
  | n + 1, ic, ln, bm, s, s', res, high, hf, hk, hln, hlnl, hlnk, hlnO, e => by
    unfold aaInner at e
    rw [getS_bind] at e
    cases hg : s.openElems[n]? with
    | none =>
      rw [hg] at e; dsimp only at e
      obtain ⟨_, _, h1, _⟩ := bind_ok.mp e
      exact absurd h1 panicAt_ok
    | some node =>
      rw [hg] at e; dsimp only at e
      obtain ⟨node', s0, e0, e⟩ := bind_ok.mp e
      obtain ⟨rfl, rfl⟩ := pure_ok.mp e0
      obtain ⟨b, s1, e1, e2⟩ := bind_ok.mp e
      obtain ⟨q1, hb⟩ := sameNode_sem e1
      have hf1 := hf.qs q1
      have t1 := Stp.of_qs hf.big q1
      have hln1 := hln.stp t1
      rcases ite_run e2 with ⟨hbt, e2⟩ | ⟨hbf, e2⟩
      · obtain ⟨rfl, rfl⟩ := pure_ok.mp e2
        exact ⟨⟨high, hf1⟩, t1.mode, t1.orig, hln1, hlnl, by rw [nm_chg t1.chg hln.1]; exact hlnk, t1.chg,
          by rw [q1.openElems]; exact List.mem_of_getElem? hlnO⟩
      · -- the node is above the formatting element
        have hne : node ≠ f := by
          rw [hb] at hbf
          intro h; exact hbf (by rw [h]; simp)
        obtain ⟨hnlow, hk', hgh⟩ := aa_index hf.st hg hne hk
        have hlne : low0 ++ [f] ≠ [] := by simp
        -- removal of the node from the stack, then the next iteration
        have erase_tail : ∀ s2 : State, AAF m r ph s2 (low0 ++ [f]) high → s2.mode = s.mode → s2.origMode = s.origMode →
            Chg s.dom s2.dom → Fl r s2.dom ln →
            ((modS fun s => { s with openElems := s.openElems.eraseIdx n }) >>= fun _ =>
              aaInner f fb n (ic + 1) ln bm) s2 = .ok (res, s') →
            AAPost m r ph (low0 ++ [f]) s s' res.1 := by
          intro s2 hf2 hm2 ho2 hc2 hln2 e5
          obtain ⟨u, s3, e6, e7⟩ := bind_ok.mp e5
          have hs3 := modS_ok.mp e6
          have hst3 : s2.openElems.eraseIdx n = (low0 ++ [f]) ++ high.eraseIdx (n - (low0 ++ [f]).length) := by
            rw [hf2.st, List.eraseIdx_append_of_length_le hnlow]
          have hsub : (high.eraseIdx (n - (low0 ++ [f]).length)).Sublist high := List.eraseIdx_sublist _ _
          have hf3 : AAF m r ph s3 (low0 ++ [f]) (high.eraseIdx (n - (low0 ++ [f]).length)) := by
            have := hf2.edit (high' := high.eraseIdx (n - (low0 ++ [f]).length)) (af' := s2.activeFormatting)
              (fun x hx => ⟨hf2.dis x (hsub.subset hx), hf2.loose hlne (hsub.subset hx)⟩)
              ((hsub.append_left _).nodup (by rw [← hf2.st]; exact hf2.big.nodup)) hf2.big.afok
              (hf2.big.adj.sub hf2.big.nodup (by rw [hf2.st]; exact hsub.append_left _))
            rw [hs3, hst3]; exact this
          have hlnO3 : s3.openElems[n]? = some ln := by
            rw [hs3]
            show (s2.openElems.eraseIdx n)[n]? = some ln
            rw [List.getElem?_eraseIdx_of_ge (Nat.le_refl n), hf2.st, ← hf.st]; exact hlnO
          have hd3 : s3.dom = s2.dom := by rw [hs3]
          have hm3 : s3.mode = s2.mode := by rw [hs3]
          have ho3 : s3.origMode = s2.origMode := by rw [hs3]
          have := aaInner_big n (ic + 1) ln bm s3 s' res _ hf3 hk' (by rw [hd3]; exact hln2) hlnl
            (by rw [hd3, nm_chg hc2 hln.1]; exact hlnk) hlnO3 e7
          exact this.pre (hm3.trans hm2) (ho3.trans ho2) (by rw [hd3]; exact hc2)
        rcases ite_run e2 with ⟨hic, e2⟩ | ⟨hic, e2⟩
        · -- more than three iterations: drop the node
          obtain ⟨pos, s2, e3, e4⟩ := bind_ok.mp e2
          have q2 : QS s1 s2 := IsQ.q _ _ _ e3
          have hf2 := hf1.qs q2
          have t2 := Stp.of_qs hf1.big q2
          try dsimp only at e4
          cases pos with
          | none =>
            try dsimp only at e4
            exact erase_tail s2 hf2 (t2.mode.trans t1.mode) (t2.orig.trans t1.orig) (t1.chg.trans t2.chg) (hln1.stp t2) e4
          | some p =>
            try dsimp only at e4
            obtain ⟨u, s3, e5, e6⟩ := bind_ok.mp e4
            obtain ⟨hf3, hm3, ho3, hd3⟩ := hf2.afRm e5
            exact erase_tail s3 hf3 (hm3.trans (t2.mode.trans t1.mode)) (ho3.trans (t2.orig.trans t1.orig))
              (by rw [hd3]; exact t1.chg.trans t2.chg) (by rw [hd3]; exact hln1.stp t2) e6
        · obtain ⟨pos, s2, e3, e4⟩ := bind_ok.mp e2
          have q2 : QS s1 s2 := IsQ.q _ _ _ e3
          have hf2 := hf1.qs q2
          have t2 := Stp.of_qs hf1.big q2
          have hln2 := hln1.stp t2
          cases pos with
          | none =>
            try dsimp only at e4
            exact erase_tail s2 hf2 (t2.mode.trans t1.mode) (t2.orig.trans t1.orig) (t1.chg.trans t2.chg) hln2 e4
          | some nfi =>
            try dsimp only at e4
            rw [getS_bind] at e4
            try dsimp only at e4
            cases haf : s2.activeFormatting[nfi]? with
            | none =>
              rw [haf] at e4; dsimp only at e4
              obtain ⟨_, _, h1, _⟩ := bind_ok.mp e4
              exact absurd h1 panicAt_ok
            | some ent =>
              rw [haf] at e4
              cases ent with
              | marker =>
                try dsimp only at e4
                obtain ⟨_, _, h1, _⟩ := bind_ok.mp e4
                exact absurd h1 panicAt_ok
              | element h0 t =>
                try dsimp only at e4
                obtain ⟨b2, s3, e5, e6⟩ := bind_ok.mp e4
                obtain ⟨q3, _⟩ := sameNode_sem e5
                have hf3 := hf2.qs q3
                have t3 := Stp.of_qs hf2.big q3
                have hln3 := hln2.stp t3
                rcases ite_run e6 with ⟨_, e6⟩ | ⟨_, e6⟩
                · obtain ⟨_, _, h1, _⟩ := bind_ok.mp e6
                  exact absurd h1 panicAt_ok
                · obtain ⟨tag, s3', e7, e8⟩ := bind_ok.mp e6
                  obtain ⟨rfl, rfl⟩ := pure_ok.mp e7
                  -- the tag is a formatting tag
                  have hmem : FormatEntry.element h0 t ∈ s2.activeFormatting := List.mem_of_getElem? haf
                  obtain ⟨hfn, _, _⟩ := hf2.big.afok h0 t hmem
                  -- the replacement element
                  obtain ⟨new, s4, e9, e10⟩ := bind_ok.mp e8
                  obtain ⟨t4, hfresh, hnm4, hfl4, hnol4, hpar4, hkids4, htc4⟩ := createElement_stp hf3.big e9
                  have hf4 := hf3.stp t4
                  -- the stack around the node
                  obtain ⟨h1, h2, hhigh, hh1⟩ := split_at_index hgh
                  have hst0 : s.openElems = (low0 ++ [f] ++ h1) ++ node :: h2 := by
                    rw [hf.st, hhigh]; simp
                  have hlen1 : (low0 ++ [f] ++ h1).length = n := by
                    rw [List.length_append, hh1]; omega
                  obtain ⟨h2', hh2⟩ : ∃ h2', h2 = ln :: h2' := by
                    have := hlnO
                    rw [hst0, ← hlen1, getElem?_split_succ] at this
                    cases h2 with
                    | nil => cases this
                    | cons a t => simp only [List.head?_cons, Option.some.injEq] at this; exact ⟨t, by rw [this]⟩
                  have hset : high.set (n - (low0 ++ [f]).length) new = h1 ++ new :: h2 := by
                    rw [hhigh, ← hh1, set_split]
                  have hln4 := hln3.stp t4
                  obtain ⟨u5, s5, e11, e12⟩ := bind_ok.mp e10
                  have hs5 := modS_ok.mp e11
                  have hold : ∀ y ∈ s3.openElems, new ≠ y := fun y hy =>
                    fresh_ne (hf3.big.late.st.oe y hy) hfresh
                  have hnew4 : new ∉ s4.openElems := by
                    rw [t4.oe]; intro hm; exact hold new hm rfl
                  have hst5 : s4.openElems.set n new = (low0 ++ [f]) ++ high.set (n - (low0 ++ [f]).length) new := by
                    rw [hf4.st, List.set_append_right _ _ hnlow]
                  have hk4 : keepName (nm s4.dom new) = false := by
                    rw [hnm4]; exact keepName_fmt hfn
                  have hf5 : AAF m r ph s5 (low0 ++ [f]) (high.set (n - (low0 ++ [f]).length) new) := by
                    have := hf4.edit (high' := high.set (n - (low0 ++ [f]).length) new)
                      (af' := s4.activeFormatting.set nfi (.element new t))
                      (fun x hx => by
                        rcases List.mem_or_eq_of_mem_set hx with h1 | h1
                        · exact ⟨hf4.dis x h1, hf4.loose hlne h1⟩
                        · subst h1; exact ⟨hk4, hfl4.loose⟩)
                      (by rw [← hst5]; exact nodup_set n hf4.big.nodup hnew4)
                      (hf4.big.afok.set nfi hfn hnm4 hfl4.1)
                      (by
                        rw [hset]
                        have h0 : AdjD s4.dom ((low0 ++ [f] ++ h1) ++ h2) := by
                          refine hf4.big.adj.sub hf4.big.nodup ?_
                          rw [hf4.st, hhigh]
                          have : low0 ++ [f] ++ (h1 ++ node :: h2) = (low0 ++ [f] ++ h1) ++ node :: h2 := by simp
                          rw [this]
                          exact List.Sublist.append (List.Sublist.refl _) (List.sublist_cons_self _ _)
                        have := h0.stackInsert_isolated (c := new) hnol4 hkids4 htc4
                        have h3 : low0 ++ [f] ++ (h1 ++ new :: h2) = (low0 ++ [f] ++ h1) ++ new :: h2 := by simp
                        rw [h3]; exact this)
                    rw [hs5, hst5]; exact this
                  have hoe5 : s5.openElems = (low0 ++ [f] ++ h1) ++ new :: ln :: h2' := by
                    rw [hf5.st, hset, hh2]; simp
                  have hd5 : s5.dom = s4.dom := by rw [hs5]
                  have hm5 : s5.mode = s4.mode := by rw [hs5]
                  have ho5 : s5.origMode = s4.origMode := by rw [hs5]
                  have hln5 : Fl r s5.dom ln := by rw [hd5]; exact hln4
                  have hfl5 : Fl r s5.dom new := by rw [hd5]; exact hfl4
                  try dsimp only at e12
                  obtain ⟨b6, s6, e13, e14⟩ := bind_ok.mp e12
                  obtain ⟨q6, _⟩ := sameNode_sem e13
                  have hf6 := hf5.qs q6
                  have t6 := Stp.of_qs hf5.big q6
                  have hln6 := hln5.stp t6
                  have hfl6 := hfl5.stp t6
                  have hnr : new ≠ r := hold r hf3.big.root_mem
                  have hnln : new ≠ ln := fresh_ne hln3.1 hfresh
                  have hnlow : new ∉ low0 ++ [f] := fun hm =>
                    hold new (by rw [hf3.st]; exact List.mem_append_left _ hm) rfl
                  have hchg6 : Chg s.dom s6.dom := by
                    have h45 : Chg s4.dom s5.dom := by rw [hd5]; exact Chg.refl _
                    exact ((((t1.chg.trans t2.chg).trans t3.chg).trans t4.chg).trans h45).trans t6.chg
                  have hm6 : s6.mode = s.mode := by
                    rw [t6.mode, hm5, t4.mode, t3.mode, t2.mode, t1.mode]
                  have ho6 : s6.origMode = s.origMode := by
                    rw [t6.orig, ho5, t4.orig, t3.orig, t2.orig, t1.orig]
                  have tail : ∀ bk : Bookmark,
                      (sinkUnit (.removeFromParent ln) >>= fun _ => sinkUnit (.append new (.node ln)) >>= fun _ =>
                        aaInner f fb n (ic + 1) new bk) s6 = .ok (res, s') →
                      AAPost m r ph (low0 ++ [f]) s s' res.1 := by
                    intro bk e15
                    obtain ⟨u7, s7, e16, e17⟩ := bind_ok.mp e15
                    have hoe6 : s6.openElems = (low0 ++ [f] ++ h1) ++ new :: ln :: h2' := by
                      rw [q6.openElems]; exact hoe5
                    have hlnk6 : keepName (nm s6.dom ln) = false := by rw [nm_chg hchg6 hln.1]; exact hlnk
                    obtain ⟨a7, hpar7, _, _, hdat7, _⟩ := removeFromParent_adj hf6.big.adj
                      (Or.inr ⟨by rw [hoe6]; simp, exm_of_keepName_false hlnk6⟩) e16
                    have t7 := removeFromParent_stp hf6.big hln6 e16 a7
                    have hf7 := hf6.stp t7
                    obtain ⟨u8, s8, e18, e19⟩ := bind_ok.mp e17
                    have hoe7 : s7.openElems = (low0 ++ [f] ++ h1) ++ new :: ln :: h2' := by rw [t7.oe]; exact hoe6
                    obtain ⟨a8, _, _, _⟩ := appendNode_adj hf7.big.adj hf7.big.late.base hnln (hfl6.stp t7).1 hpar7
                      (isText_false_of_isElement (hln6.stp t7).1)
                      (by rw [nm_of_data (hdat7 ln)]; exact not_table_of_keepName_false hlnk6)
                      (fun _ _ => by rw [hoe7]; exact before_mid_post (by simp)) e18
                    have t8 := appendNode_stp hf7.big (hfl6.stp t7).1 hnr hnln (hln6.stp t7) e18 a8
                    have hf8 := hf7.stp t8
                    have hlnO8 : s8.openElems[n]? = some new := by
                      rw [t8.oe, hoe7, ← hlen1]; exact getElem?_split_self _ _ _
                    have := aaInner_big n (ic + 1) new bk s8 s' res _ hf8 hk' ((hfl6.stp t7).stp t8) hnlow
                      (by rw [nm_chg t8.chg (hfl6.stp t7).1, nm_chg t7.chg hfl6.1, nm_chg t6.chg hfl5.1, hd5]; exact hk4)
                      hlnO8 e19
                    exact this.pre (by rw [t8.mode, t7.mode]; exact hm6) (by rw [t8.orig, t7.orig]; exact ho6)
                      ((hchg6.trans t7.chg).trans t8.chg)
                  rcases ite_run e14 with ⟨_, e14⟩ | ⟨_, e14⟩
                  · obtain ⟨bk, s6', e20, e21⟩ := bind_ok.mp e14
                    obtain ⟨rfl, rfl⟩ := pure_ok.mp e20
                    exact tail _ e21
                  · obtain ⟨bk, s6', e20, e21⟩ := bind_ok.mp e14
                    obtain ⟨rfl, rfl⟩ := pure_ok.mp e20
                    exact tail _ e21


/-! ### the outer loop -/

theorem mem_afEndToMarkerAux : ∀ (l : List (FormatEntry × Nat)) (i : Nat) (h : Id) (t : Tag),
    (i, h, t) ∈ afEndToMarkerAux l → (FormatEntry.element h t, i) ∈ l
  | [], _, _, _, hm => by simp [afEndToMarkerAux] at hm
  | (.marker, _) :: _, _, _, _, hm => by simp [afEndToMarkerAux] at hm
  | (.element h' t', i') :: rest, i, h, t, hm => by
    simp only [afEndToMarkerAux, List.mem_cons, Prod.mk.injEq] at hm
    rcases hm with ⟨rfl, rfl, rfl⟩ | hm
    · simp
    · exact List.mem_cons_of_mem _ (mem_afEndToMarkerAux rest i h t hm)

theorem mem_afEndToMarker {af : List FormatEntry} {i : Nat} {h : Id} {t : Tag} (hm : (i, h, t) ∈ afEndToMarker af) :
    FormatEntry.element h t ∈ af := by
  unfold afEndToMarker at hm
  have := mem_afEndToMarkerAux _ _ _ _ hm
  rw [List.mem_reverse, List.mem_zipIdx_iff_getElem?] at this
  exact List.mem_of_getElem? this

/-- the candidates for the parent (or sibling) of the re-inserted node are not that node -/
theorem aa_cand {m : Mode} {r : Id} {ph : Phase} {s : State} {low high : List Id} {x t : Id}
    (hf : AAF m r ph s low high) (ht : t ∈ low) (hxl : x ∉ low) (hxe : s.dom.isElement x = true)
    (hxk : keepName (nm s.dom x) = false) :
    ∀ ip, ARes s t ip → ∀ p, ip.nodes.1 = p ∨ ip.nodes.2 = some p → p ≠ x := by
  have hbase := hf.big.late.base
  have htc : ∀ t' tc, s.dom.templateContentsOf t' = some tc → tc ≠ x := by
    intro t' tc h1
    rintro rfl
    have hdoc := (hbase.tcOk t' _ h1).2
    unfold Dom.isElement at hxe
    rw [hdoc] at hxe; cases hxe
  intro ip ha p hp
  cases ha with
  | plain =>
    simp only [InsertionPoint.nodes] at hp
    rcases hp with rfl | hp
    · rintro rfl; exact hxl ht
    · cases hp
  | tmpl tc h1 _ =>
    simp only [InsertionPoint.nodes] at hp
    rcases hp with rfl | hp
    · exact htc _ _ h1
    · cases hp
  | foster ip' _ _ hres =>
    cases hres with
    | tmpl t' tc _ h1 =>
      simp only [InsertionPoint.nodes] at hp
      rcases hp with rfl | hp
      · exact htc _ _ h1
      · cases hp
    | table pre post e p' hl hn =>
      simp only [InsertionPoint.nodes, Option.some.injEq] at hp
      rcases hp with rfl | rfl
      · rintro rfl
        rw [hn] at hxk; simp [lit_name] at hxk
      · rintro rfl
        -- the stack is … p e …; p ∉ low, so e is in the disposable part
        have hst : s.openElems = (post.reverse ++ [p']) ++ e :: pre.reverse := by
          have := congrArg List.reverse hl
          rw [List.reverse_reverse] at this
          rw [this]; simp
        rw [hf.st] at hst
        rcases List.append_eq_append_iff.mp hst with ⟨c, hc1, hc2⟩ | ⟨c, hc1, hc2⟩
        · -- post.reverse ++ [p] = low ++ c, high = c ++ e :: …
          have : e ∈ high := by rw [hc2]; simp
          have := hf.dis e this
          rw [hn] at this; simp [lit_name] at this
        · exact hxl (by rw [hc1]; simp)
    | bottom h hh _ =>
      simp only [InsertionPoint.nodes] at hp
      rcases hp with rfl | hp
      · rintro rfl
        rw [hf.st] at hh
        cases low with
        | nil => cases ht
        | cons a l' =>
          simp only [List.cons_append, List.head?_cons, Option.some.injEq] at hh
          exact hxl (by rw [hh]; simp)
      · cases hp

theorem AAF.removeFromStack {m : Mode} {r : Id} {ph : Phase} {s s' : State} {low high : List Id} {x : Id} {u : Unit}
    (hf : AAF m r ph s low high) (hxl : x ∉ low) (hxk : keepName (nm s.dom x) = false)
    (e : H5V.Model.HtmlTB.removeFromStack x s = .ok (u, s')) :
    (∃ high', AAF m r ph s' low high') ∧ s'.mode = s.mode ∧ s'.origMode = s.origMode ∧ SE s s' ∧
      s'.openElems.Sublist s.openElems := by
  obtain ⟨hb', hm, ho⟩ := removeFromStack_big hf.big hxk e
  obtain ⟨hse, hcase⟩ := removeFromStack_sem e
  refine ⟨?_, hm, ho, hse, ?_⟩
  · rcases hcase with ⟨h1, _⟩ | ⟨pos, hget, _, hst⟩
    · exact ⟨high, hb', by rw [h1]; exact hf.st, fun y hy => by rw [hse.nm]; exact hf.dis y hy⟩
    · have hle : low.length ≤ pos := by
        rcases Nat.lt_or_ge pos low.length with h | h
        · rw [hf.st, List.getElem?_append_left h] at hget
          exact absurd (List.mem_of_getElem? hget) hxl
        · exact h
      refine ⟨high.eraseIdx (pos - low.length), hb', ?_, fun y hy => ?_⟩
      · rw [hst, hf.st, List.eraseIdx_append_of_length_le hle]
      · rw [hse.nm]; exact hf.dis y ((List.eraseIdx_sublist _ _).subset hy)
  · rcases hcase with ⟨h1, _⟩ | ⟨pos, _, _, hst⟩
    · rw [h1]; exact List.Sublist.refl _
    · rw [hst]; exact List.eraseIdx_sublist _ _


theorem aaOuterStep_big {m : Mode} {r : Id} {ph : Phase} {s s' : State} {subject : Str} {b : Bool}
    (hk : keepName ⟨nsHtml, subject⟩ = false) (hb : Big m r ph s)
    (e : aaOuterStep subject s = .ok (b, s')) : Big m r ph s' ∧ s'.mode = s.mode ∧ s'.origMode = s.origMode := by
  unfold aaOuterStep at e
  rw [getS_bind] at e
  generalize hfd : List.find? _ (afEndToMarker s.activeFormatting) = fd at e
  cases fd with
  | none =>
    dsimp only at e
    haveI : PlainStr ({ kind := .endTag, name := subject, selfClosing := false, attrs := [], hadDup := false } : Tag).name := ⟨hk⟩
    obtain ⟨u, s1, e1, e2⟩ := bind_ok.mp e
    obtain ⟨_, rfl⟩ := pure_ok.mp e2
    exact (inferInstance : PB (processEndTagInBody _)).p m r ph s u _ hb e1
  | some x =>
    obtain ⟨fi, f, ftag⟩ := x
    dsimp -zeta only at e
    have hmem := mem_afEndToMarker (List.mem_of_find?_eq_some hfd)
    obtain ⟨hfn, hfnm, hfel⟩ := hb.afok f ftag hmem
    have hfk : keepName (nm s.dom f) = false := by rw [hfnm]; exact keepName_fmt hfn
    obtain ⟨pos, s1, e1, e2⟩ := bind_ok.mp e
    have e1' : rposition (fun n => if false then sameNode f n else sameNode n f) s = .ok (pos, s1) := e1
    obtain ⟨q1, hpos, _⟩ := rposition_same_sem e1'
    have hb1 := hb.qs q1
    cases pos with
    | none =>
      dsimp only at e2
      have : PB (parseError "Formatting element not open" >>= fun _ => afRemove fi "mod.rs:754" >>= fun _ => pure true) := by
        pb_walk
      obtain ⟨h1, h2, h3⟩ := this.p m r ph s1 b s' hb1 e2
      exact ⟨h1, h2.trans q1.mode, h3.trans (by rw [q1.rest])⟩
    | some k =>
      dsimp -zeta only at e2
      obtain ⟨hkget, _⟩ := hpos k rfl
      obtain ⟨insc, s2, e3, e4⟩ := bind_ok.mp e2
      obtain ⟨q2, hsc⟩ : QS s1 s2 ∧ (insc = true → ∃ pre x post, s1.openElems.reverse = pre ++ x :: post ∧
          (x == f) = true ∧ ∀ y ∈ pre, (y == f) = false ∧ defaultScope (nm s1.dom y) = false) := by
        unfold inScope at e3; rw [getS_bind] at e3
        exact inScopeLoop_sem defaultScope _ (fun n => n == f) s1 (fun n s b s' _ e => sameNode_sem e) _ _ _ _
          (QS.refl _) e3
      have q02 := q1.trans q2
      rcases ite_run e4 with ⟨hc, e4⟩ | ⟨hc, e4⟩
      · have : PB (parseError "Formatting element not in scope" >>= fun _ => (pure true : M Bool)) := by pb_walk
        obtain ⟨h1, h2, h3⟩ := this.p m r ph s2 b s' (hb.qs q02) e4
        exact ⟨h1, h2.trans q02.mode, h3.trans (by rw [q02.rest])⟩
      · have hin : insc = true := by cases insc <;> simp at hc ⊢
        obtain ⟨pre, x, post, hrev, hxf, hpre⟩ := hsc hin
        have hxf' : x = f := by simpa using hxf
        subst hxf'
        -- the split of the stack
        have hst1 : s1.openElems = post.reverse ++ x :: pre.reverse := by
          have := congrArg List.reverse hrev
          rw [List.reverse_reverse] at this
          rw [this]; simp
        have hfk1 : keepName (nm s1.dom x) = false := by rw [q1.nm]; exact hfk
        obtain ⟨hdis, hlen2, ca, hca, hcam, hcar⟩ := hb1.high hst1 hfk1 (fun y hy => by
          have := (hpre y (List.mem_reverse.mp hy)).2
          cases hh : htmlIn (nm s1.dom y) ["html", "table", "template"] with
          | false => rfl
          | true => rw [ScBase.h (sc := defaultScope) _ hh] at this; cases this)
        have hkeq : k = post.reverse.length := by
          have h1 : s1.openElems[k]? = some x := by rw [q1.openElems]; exact hkget
          have h2 : s1.openElems[post.reverse.length]? = some x := by
            rw [hst1, List.getElem?_append_right (Nat.le_refl _)]; simp
          have hlt : k < s1.openElems.length := by
            rcases Nat.lt_or_ge k s1.openElems.length with h | h
            · exact h
            · rw [List.getElem?_eq_none h] at h1; cases h1
          exact (List.getElem?_inj hlt hb1.nodup).mp (h1.trans h2.symm)
        generalize hbelow : post.reverse = below at hst1 hlen2 hca hkeq
        generalize habove : pre.reverse = above at hst1 hdis
        subst hkeq
        have hf1 : AAF m r ph s1 (below ++ [x]) above := ⟨hb1, by rw [hst1]; simp, hdis⟩
        have hf2 := hf1.qs q2
        obtain ⟨cur, s3, e5, e6⟩ := bind_ok.mp e4
        obtain ⟨rfl, _⟩ := currentNode_sem e5
        extract_lets jp at e6
        obtain ⟨bc, s4, e7, e8⟩ := bind_ok.mp e6
        obtain ⟨q4, _⟩ := sameNode_sem e7
        have hf4 := hf2.qs q4
        obtain ⟨s5, hs5, e9⟩ := ite_prefix_run e8
        have q45 : QS s4 s5 := by
          rcases hs5 with rfl | ⟨u, hu⟩
          · exact QS.refl _
          · exact IsQ.q _ _ _ hu
        have hf5 := hf4.qs q45
        have q05 : QS s s5 := ((q02.trans q4).trans q45)
        dsimp -zeta only [jp] at e9
        rw [getS_bind] at e9
        obtain ⟨fbr, s6, e10, e11⟩ := bind_ok.mp e9
        obtain ⟨q6, hfb, _⟩ := findFurthestBlock_sem _ _ _ _ _ e10
        have hf6 := hf5.qs q6
        have q06 : QS s s6 := q05.trans q6
        have hst6 : s6.openElems = below ++ x :: above := by
          rw [hf6.st]; simp
        have hdrop : List.drop below.length s5.openElems = x :: above := by
          rw [hf5.st, List.append_assoc]; exact List.drop_left
        rw [hdrop] at hfb
        cases fbr with
        | none =>
          dsimp only at e11
          obtain ⟨u7, s7, e12, e13⟩ := bind_ok.mp e11
          have hs7 := modS_ok.mp e12
          have htake : List.take below.length s6.openElems = below := by rw [hst6]; exact List.take_left
          have hb7 : Big m r ph s7 := by
            have := hf6.big.rehigh (low := below) (high := x :: above) (high' := []) (af' := s6.activeFormatting) hst6
              (fun y hy => by
                simp only [List.mem_cons] at hy
                rcases hy with rfl | hy
                · rw [q06.nm]; exact hfk
                · exact hf6.dis y hy)
              (fun y hy => by cases hy)
              (by
                rw [List.append_nil]
                have := hf6.big.nodup
                rw [hst6] at this
                exact (List.nodup_append.mp this).1)
              hf6.big.afok
              (by rw [List.append_nil]; exact hf6.big.adj.sub hf6.big.nodup (by rw [hst6]; exact List.sublist_append_left _ _))
            rw [List.append_nil] at this
            rw [hs7, htake]; exact this
          have : PB (afRemove fi "mod.rs:784" >>= fun _ => (pure true : M Bool)) := by pb_walk
          obtain ⟨h1, h2, h3⟩ := this.p m r ph s7 b s' hb7 e13
          have hm7 : s7.mode = s6.mode := by rw [hs7]
          have ho7 : s7.origMode = s6.origMode := by rw [hs7]
          exact ⟨h1, (h2.trans hm7).trans q06.mode, (h3.trans ho7).trans (by rw [q06.rest])⟩
        | some fbp =>
          obtain ⟨fbi, fb⟩ := fbp
          dsimp -zeta only at e11
          obtain ⟨pre2, post2, hl2, hfbi, hfbsp, hpre2⟩ := hfb fbi fb rfl
          have hxns : specialTag (nm s5.dom x) = false := by rw [q05.nm, hfnm]; exact special_fmt hfn
          cases pre2 with
          | nil =>
            simp only [List.nil_append, List.cons.injEq] at hl2
            rw [← hl2.1, hxns] at hfbsp; cases hfbsp
          | cons p0 pre3 =>
            simp only [List.cons_append, List.cons.injEq] at hl2
            obtain ⟨_, habv⟩ := hl2
            have hfbab : fb ∈ above := by rw [habv]; simp
            have hlt : below.length < fbi := by rw [hfbi]; simp
            extract_lets jp3 jp2 at e11
            obtain ⟨s6', hs6', e12⟩ := ite_prefix_run e11
            have hs6'' : s6 = s6' := by
              rcases hs6' with h | ⟨u, hu⟩
              · exact h.symm
              · exact absurd hu panicAt_ok
            subst hs6''
            dsimp -zeta only [jp2] at e12
            rw [getS_bind] at e12
            cases hcaget : s6.openElems[below.length - 1]? with
            | none =>
              rw [hcaget] at e12; dsimp -zeta only at e12
              obtain ⟨_, _, h1, _⟩ := bind_ok.mp e12
              exact absurd h1 panicAt_ok
            | some c =>
              rw [hcaget] at e12; dsimp -zeta only at e12
              obtain ⟨c', s6'', e13, e14⟩ := bind_ok.mp e12
              obtain ⟨rfl, rfl⟩ := pure_ok.mp e13
              dsimp -zeta only [jp3] at e14
              have hcc : c = ca := by
                have h1 : s6.openElems[below.length - 1]? = below[below.length - 1]? := by
                  rw [hst6, List.getElem?_append_left (by omega)]
                rw [h1, ← List.getLast?_eq_getElem?, hca] at hcaget
                cases hcaget; rfl
              subst hcc
              have hcbl : c ∈ below := List.mem_of_mem_getLast? hca
              obtain ⟨res, s7, e15, e16⟩ := bind_ok.mp e14
              obtain ⟨ln, bk⟩ := res
              have hnd6 := hf6.big.nodup
              rw [hf6.st] at hnd6
              have hfbl : fb ∉ below ++ [x] := fun hm => (List.nodup_append.mp hnd6).2.2 fb hm fb hfbab rfl
              have hfbO : s6.openElems[fbi]? = some fb := by
                have h1 : s6.openElems = (below ++ x :: pre3) ++ fb :: post2 := by rw [hst6, habv]; simp
                have h2 : (below ++ x :: pre3).length = fbi := by rw [hfbi]; simp
                rw [h1, ← h2]; exact getElem?_split_self _ _ _
              have hpost := aaInner_big (low0 := below) fbi 0 fb (.replace x) s6 s7 (ln, bk) above hf6 hlt
                (hf6.big.fl (by rw [hf6.st]; exact List.mem_append_right _ hfbab) (hf6.dis fb hfbab)) hfbl
                (hf6.dis fb hfbab) hfbO e15
              obtain ⟨high', hf7⟩ := hpost.fr
              dsimp -zeta only at e16
              obtain ⟨u8, s8, e17, e18⟩ := bind_ok.mp e16
              obtain ⟨a8, hpar8, _, _, _, _⟩ := removeFromParent_adj hf7.big.adj
                (Or.inr ⟨hpost.lnO, exm_of_keepName_false hpost.dis⟩) e17
              have t8 := removeFromParent_stp hf7.big hpost.fl e17 a8
              have hf8 := hf7.stp t8
              obtain ⟨u9, s9, e19, e20⟩ := bind_ok.mp e18
              have hc8 : c ∈ below ++ [x] := List.mem_append_left _ hcbl
              have hlnk8 : keepName (nm s8.dom ln) = false := by rw [nm_chg t8.chg hpost.fl.1]; exact hpost.dis
              have hlnh : ln ∈ high' := by
                have := hpost.lnO
                rw [hf7.st] at this
                rcases List.mem_append.mp this with h | h
                · exact absurd h hpost.nl
                · exact h
              have t9 := insertAppropriately_stp hf8.big
                ⟨by rw [hf8.st]; exact List.mem_append_left _ hc8, hcar⟩ (hpost.fl.stp t8)
                (aa_cand hf8 hc8 hpost.nl (hpost.fl.stp t8).1 hlnk8) hpar8 hlnk8
                (fun y hy hky => by
                  rw [hf8.st] at hy ⊢
                  rcases List.mem_append.mp hy with h | h
                  · exact before_append h hlnh
                  · rw [hf8.dis y h] at hky; cases hky)
                (by rw [hf8.st]; exact before_append hc8 hlnh) e19
              have hf9 := hf8.stp t9
              obtain ⟨new, s10, e21, e22⟩ := bind_ok.mp e20
              obtain ⟨t10, hfresh, hnm10, hfl10, hnol10, hpar10, hkids10, htc10⟩ := createElement_stp hf9.big e21
              have hf10 := hf9.stp t10
              extract_lets jp4 at e22
              -- facts about the furthest block and the new element
              have hfbe6 : s6.dom.isElement fb = true := (hf6.loose (by simp) hfbab).1
              have hfbr : fb ≠ r := by
                rintro rfl
                have := hf6.dis fb hfbab
                rw [hf6.big.root_name, keepName_html] at this; cases this
              have hchg69 : Chg s6.dom s9.dom := (hpost.chg.trans t8.chg).trans t9.chg
              have hfbe9 : s9.dom.isElement fb = true := hchg69.isElement hfbe6
              have hnewr : new ≠ r := fresh_ne (hf9.big.late.st.oe r hf9.big.root_mem) hfresh
              have hnewfb : new ≠ fb := fresh_ne hfbe9 hfresh
              have hold9 : ∀ y ∈ s9.openElems, new ≠ y := fun y hy => fresh_ne (hf9.big.late.st.oe y hy) hfresh
              obtain ⟨u11, s11, e23, e24⟩ := bind_ok.mp e22
              have hnew10 : new ∉ s10.openElems := by rw [t10.oe]; exact fun hm => hold9 new hm rfl
              obtain ⟨a11, hch11new, hch11fb, _, hpo11, _⟩ := reparent_adj hf10.big.adj hf10.big.late.base hkids10
                hnew10 hfl10.1 e23
              have t11 := reparent_stp hf10.big (t10.chg.isElement hfbe9) hfl10.1 hfbr hnewr e23 a11
              have hf11 := hf10.stp t11
              obtain ⟨u12, s12, e25, e26⟩ := bind_ok.mp e24
              have hnk11 : keepName (nm s11.dom new) = false := by
                rw [nm_chg t11.chg hfl10.1, hnm10]; exact keepName_fmt hfn
              obtain ⟨a12, hch12, hpo12, _⟩ := appendNode_adj hf11.big.adj hf11.big.late.base (Ne.symm hnewfb)
                (t11.chg.isElement (t10.chg.isElement hfbe9))
                (by rw [hpo11 new (hnol10 fb)]; exact hpar10)
                (isText_false_of_isElement (hfl10.stp t11).1) (not_table_of_keepName_false hnk11)
                (fun hO _ => absurd (by rw [← t11.oe]; exact hO) hnew10) e25
              have t12 := appendNode_stp hf11.big (t11.chg.isElement (t10.chg.isElement hfbe9)) hfbr (Ne.symm hnewfb)
                (hfl10.stp t11) e25 a12
              have hf12 := hf11.stp t12
              -- the new element is the only child of the furthest block and has taken over its children
              have hfbk12 : s12.dom.childrenOf fb = [new] := by rw [hch12, hch11fb]; simp
              have hnp12 : s12.dom.parentOf new = some fb := by rw [hpo12]; simp
              have hnk12' : s12.dom.childrenOf new = s10.dom.childrenOf fb := by
                rw [hch12, if_neg hnewfb, hch11new]
              have hfl12 : Fl r s12.dom new := (hfl10.stp t11).stp t12
              have hnm12 : nm s12.dom new = ⟨nsHtml, ftag.name⟩ := by
                rw [nm_chg t12.chg (hfl10.stp t11).1, nm_chg t11.chg hfl10.1]; exact hnm10
              have hoe12 : s12.openElems = s9.openElems := by rw [t12.oe, t11.oe, t10.oe]
              have hmode12 : s12.mode = s.mode := by
                rw [t12.mode, t11.mode, t10.mode, t9.mode, t8.mode, hpost.mode]; exact q06.mode
              have horig12 : s12.origMode = s.origMode := by
                rw [t12.orig, t11.orig, t10.orig, t9.orig, t8.orig, hpost.orig, q06.rest]
              have hchg012 : Chg s.dom s12.dom :=
                (((SameSk.of_nodes q06.nodes).chg.trans hchg69).trans t10.chg).trans (t11.chg.trans t12.chg)
              have hxk12 : keepName (nm s12.dom x) = false := by rw [nm_chg hchg012 hfel]; exact hfk
              have hxl : x ∉ below := by
                intro hm
                have h1 := (List.nodup_append.mp hnd6).1
                exact (List.nodup_append.mp h1).2.2 x hm x (by simp) rfl
              -- the end of the iteration, from any state that differs from s12 in the formatting list only
              have fin : ∀ sa : State, AAF m r ph sa (below ++ [x]) high' → sa.dom.nodes = s12.dom.nodes →
                  sa.openElems = s12.openElems → sa.mode = s12.mode → sa.origMode = s12.origMode →
                  jp4 () sa = .ok (b, s') → Big m r ph s' ∧ s'.mode = s.mode ∧ s'.origMode = s.origMode := by
                intro sa hfa hna hoea hma hoa ea
                dsimp -zeta only [jp4] at ea
                obtain ⟨u13, s13, e27, e28⟩ := bind_ok.mp ea
                have hfa' : AAF m r ph sa below (x :: high') :=
                  ⟨hfa.big, by rw [hfa.st]; simp, fun y hy => by
                    simp only [List.mem_cons] at hy
                    rcases hy with rfl | hy
                    · rw [nm_of_nodes hna]; exact hxk12
                    · exact hfa.dis y hy⟩
                obtain ⟨⟨high2, hf13⟩, hm13, ho13, hse13, hsub13⟩ :=
                  hfa'.removeFromStack hxl (by rw [nm_of_nodes hna]; exact hxk12) e27
                rw [getS_bind] at e28
                obtain ⟨pr, s14, e29, e30⟩ := bind_ok.mp e28
                obtain ⟨q14, hpr⟩ := positionSameNode_sem fb _ _ _ _ _ e29
                have hf14 := hf13.qs q14
                cases pr with
                | none => exact absurd e30 panicAt_ok
                | some nfbi =>
                  dsimp only at e30
                  obtain ⟨pre4, post4, hl4, hnf, _⟩ := hpr nfbi rfl
                  obtain ⟨u15, s15, e31, e32⟩ := bind_ok.mp e30
                  obtain ⟨rfl, rfl⟩ := pure_ok.mp e32
                  have hs15 := modS_ok.mp e31
                  -- the furthest block is in the upper part
                  have hfbl' : fb ∉ below := fun hm => hfbl (List.mem_append_left _ hm)
                  have hst14 : s14.openElems = pre4 ++ fb :: post4 := by rw [q14.openElems]; exact hl4
                  obtain ⟨c4, hpre4, hhigh2⟩ : ∃ c4, pre4 = below ++ c4 ∧ high2 = c4 ++ fb :: post4 := by
                    have h1 := hf14.st
                    rw [hst14] at h1
                    rcases List.append_eq_append_iff.mp h1 with ⟨c, hc1, hc2⟩ | ⟨c, hc1, hc2⟩
                    · cases c with
                      | nil => exact ⟨[], by simpa using hc1.symm, by simpa using hc2.symm⟩
                      | cons a t =>
                        simp only [List.cons_append, List.cons.injEq] at hc2
                        exact absurd (by rw [hc1, hc2.1]; simp) hfbl'
                    · exact ⟨c, hc1, hc2⟩
                  have hnf' : nfbi = pre4.length := by rw [hnf]; simp
                  have hins : s14.openElems.insertIdx (nfbi + 1) new = below ++ (c4 ++ fb :: new :: post4) := by
                    rw [hst14, hnf', insertIdx_after, hpre4]; simp
                  have hn14 : s14.dom.nodes = s12.dom.nodes := by rw [q14.nodes, hse13.nodes, hna]
                  have hnew14 : new ∉ s14.openElems := by
                    rw [q14.openElems]
                    intro hm
                    have := hsub13.subset hm
                    rw [hoea, hoe12] at this
                    exact hold9 new this rfl
                  have hb15 : Big m r ph s15 := by
                    have := (hf14.edit (high' := c4 ++ fb :: new :: post4) (af' := s14.activeFormatting)
                      (fun y hy => by
                        have hy' : y ∈ high2 ∨ y = new := by
                          rw [hhigh2]
                          simp only [List.mem_append, List.mem_cons] at hy ⊢
                          rcases hy with h | h | h | h
                          · exact Or.inl (Or.inl h)
                          · exact Or.inl (Or.inr (Or.inl h))
                          · exact Or.inr h
                          · exact Or.inl (Or.inr (Or.inr h))
                        rcases hy' with h | rfl
                        · exact ⟨hf14.dis y h, hf14.loose (by intro h0; rw [h0] at hlen2; simp at hlen2) h⟩
                        · exact ⟨by rw [nm_of_nodes hn14, hnm12]; exact keepName_fmt hfn,
                            (hfl12.of_nodes hn14).loose⟩)
                      (by
                        have hnd := hf14.big.nodup
                        rw [hf14.st, hhigh2] at hnd
                        have h1 : below ++ (c4 ++ fb :: new :: post4) = (below ++ c4 ++ [fb]) ++ new :: post4 := by simp
                        rw [h1]
                        refine nodup_insert_mid (by simpa using hnd) ?_
                        intro hm
                        apply hnew14
                        rw [hf14.st, hhigh2]
                        simpa using hm)
                      hf14.big.afok
                      (by
                        have hO14 : s14.openElems = ((below ++ c4) ++ [fb]) ++ post4 := by
                          rw [hf14.st, hhigh2]; simp
                        have hsub14 : s14.openElems.Sublist s10.openElems := by
                          rw [q14.openElems]
                          refine hsub13.trans ?_
                          rw [hoea, hoe12, ← t10.oe]; exact List.Sublist.refl _
                        have hfb10 : fb ∈ s10.openElems := hsub14.subset (by rw [hO14]; simp)
                        have h3 : below ++ (c4 ++ fb :: new :: post4) = ((below ++ c4) ++ [fb]) ++ new :: post4 := by simp
                        rw [h3]
                        refine AdjD.insertChildAbove (by rw [← hO14]; exact hf14.big.adj)
                          (by rw [← hO14]; exact hf14.big.nodup) hf14.big.late.base
                          (by rw [isElement_of_nodes hn14]; exact (t12.chg.isElement (t11.chg.isElement (t10.chg.isElement hfbe9))))
                          hnewfb (by rw [parentOf_of_nodes hn14]; exact hnp12)
                          (by rw [childrenOf_of_nodes hn14]; exact hfbk12)
                          (by rw [nm_of_nodes hn14, hnm12]; exact keepName_fmt hfn) ?_
                        intro e he heO
                        rw [childrenOf_of_nodes hn14, hnk12'] at he
                        rw [← hO14] at heO ⊢
                        exact (hf10.big.adj.pb fb e he (hsub14.subset heO) hfb10).sub hf10.big.nodup hsub14
                          (by rw [hO14]; simp) heO)).big
                    rw [hs15, hins]; exact this
                  have hm15 : s15.mode = s14.mode := by rw [hs15]
                  have ho15 : s15.origMode = s14.origMode := by rw [hs15]
                  exact ⟨hb15, by rw [hm15, q14.mode, hm13, hma]; exact hmode12,
                    by rw [ho15, q14.rest]; show s13.origMode = _; rw [ho13, hoa]; exact horig12⟩
              have hform : ∀ {st : State}, Big m r ph st →
                  ∀ f, st.formElem = some f → nm st.dom f = hN "form" ∧ st.dom.isElement f = true := by
                intro st hst; obtain ⟨_, hc, _⟩ := hst; exact hc.form
              cases bk with
              | replace toRep =>
                dsimp -zeta only at e26
                obtain ⟨pi, s13, e27, e28⟩ := bind_ok.mp e26
                have q13 : QS s12 s13 := IsQ.q _ _ _ e27
                have hf13 := hf12.qs q13
                cases pi with
                | none =>
                  dsimp -zeta only at e28
                  obtain ⟨_, _, h1, _⟩ := bind_ok.mp e28
                  exact absurd h1 panicAt_ok
                | some index =>
                  dsimp -zeta only at e28
                  obtain ⟨u14, s14, e29, e30⟩ := bind_ok.mp e28
                  have hs14 := modS_ok.mp e29
                  have hb14 : Big m r ph s14 := by
                    rw [hs14]
                    exact hf13.big.upd rfl rfl rfl rfl rfl rfl rfl rfl rfl
                      (hf13.big.afok.set index hfn (by rw [q13.nm]; exact hnm12) (hfl12.of_nodes q13.nodes).1)
                      (hform (st := s13) hf13.big) (fun h => h)
                  exact fin s14 ⟨hb14, by rw [hs14]; exact hf13.st, by rw [hs14]; exact hf13.dis⟩
                    (by rw [hs14]; exact q13.nodes) (by rw [hs14]; exact q13.openElems) (by rw [hs14]; exact q13.mode)
                    (by rw [hs14]; show s13.origMode = _; rw [q13.rest]) e30
              | insertAfter prev =>
                dsimp -zeta only at e26
                obtain ⟨pi, s13, e27, e28⟩ := bind_ok.mp e26
                have q13 : QS s12 s13 := IsQ.q _ _ _ e27
                have hf13 := hf12.qs q13
                cases pi with
                | none =>
                  dsimp -zeta only at e28
                  obtain ⟨_, _, h1, _⟩ := bind_ok.mp e28
                  exact absurd h1 panicAt_ok
                | some index =>
                  dsimp -zeta only at e28
                  obtain ⟨u14, s14, e29, e30⟩ := bind_ok.mp e28
                  have hs14 := modS_ok.mp e29
                  have hb14 : Big m r ph s14 := by
                    rw [hs14]
                    exact hf13.big.upd rfl rfl rfl rfl rfl rfl rfl rfl rfl
                      (hf13.big.afok.insertIdx (index + 1) hfn (by rw [q13.nm]; exact hnm12) (hfl12.of_nodes q13.nodes).1)
                      (hform (st := s13) hf13.big) (fun h => h)
                  have hf14 : AAF m r ph s14 (below ++ [x]) high' :=
                    ⟨hb14, by rw [hs14]; exact hf13.st, by rw [hs14]; exact hf13.dis⟩
                  obtain ⟨po, s15, e31, e32⟩ := bind_ok.mp e30
                  have q15 : QS s14 s15 := IsQ.q _ _ _ e31
                  have hf15 := hf14.qs q15
                  have hn15 : s15.dom.nodes = s12.dom.nodes := by
                    rw [q15.nodes, hs14]; exact q13.nodes
                  have hoe15 : s15.openElems = s12.openElems := by
                    rw [q15.openElems, hs14]; exact q13.openElems
                  have hm15 : s15.mode = s12.mode := by rw [q15.mode, hs14]; exact q13.mode
                  have ho15 : s15.origMode = s12.origMode := by
                    rw [q15.rest, hs14]; show s13.origMode = _; rw [q13.rest]
                  cases po with
                  | none =>
                    dsimp -zeta only at e32
                    obtain ⟨_, _, h1, _⟩ := bind_ok.mp e32
                    exact absurd h1 panicAt_ok
                  | some oldIndex =>
                    dsimp -zeta only at e32
                    obtain ⟨u16, s16, e33, e34⟩ := bind_ok.mp e32
                    obtain ⟨hf16, hm16, ho16, hd16⟩ := hf15.afRm e33
                    have hs16 := afRemove_sem e33
                    exact fin s16 hf16 (by rw [hd16]; exact hn15) (by rw [hs16]; exact hoe15) (hm16.trans hm15)
                      (ho16.trans ho15) e34

theorem aaOuter_big {m : Mode} {r : Id} {ph : Phase} {subject : Str} (hk : keepName ⟨nsHtml, subject⟩ = false) :
    ∀ (n : Nat) (s s' : State) (u : Unit), Big m r ph s → aaOuter subject n s = .ok (u, s') →
      Big m r ph s' ∧ s'.mode = s.mode ∧ s'.origMode = s.origMode
  | 0, s, s', u, hb, e => by
    unfold aaOuter at e
    obtain ⟨_, rfl⟩ := pure_ok.mp e
    exact ⟨hb, rfl, rfl⟩
  | n + 1, s, s', u, hb, e => by
    unfold aaOuter at e
    obtain ⟨b, s1, e1, e2⟩ := bind_ok.mp e
    obtain ⟨hb1, hm1, ho1⟩ := aaOuterStep_big hk hb e1
    rcases ite_run e2 with ⟨_, e2⟩ | ⟨_, e2⟩
    · obtain ⟨_, rfl⟩ := pure_ok.mp e2
      exact ⟨hb1, hm1, ho1⟩
    · obtain ⟨hb2, hm2, ho2⟩ := aaOuter_big hk n s1 s' u hb1 e2
      exact ⟨hb2, hm2.trans hm1, ho2.trans ho1⟩

/-- the adoption agency for a formatting tag name -/
instance (subject : Str) [hk : PlainStr subject] : PB (adoptionAgency subject) :=
  ⟨fun m r ph s a s' hb e => by
    unfold adoptionAgency at e
    obtain ⟨b0, s1, e1, e2⟩ := bind_ok.mp e
    obtain ⟨q1, h, hl, hb0⟩ := currentNodeNamedS_sem e1
    have tail : ∀ (sc : Bool) (s2 : State), QS s s2 → (sc = true → b0 = true) →
        (if sc = true then pop >>= fun _ => pure () else aaOuter subject 8) s2 = .ok (a, s') →
        Big m r ph s' ∧ s'.mode = s.mode ∧ s'.origMode = s.origMode := by
      intro sc s2 q2 hsc e3
      have hb2 := hb.qs q2
      rcases ite_run e3 with ⟨hst, e3⟩ | ⟨_, e3⟩
      · have hbt := hsc hst
        have hn : nm s.dom h = ⟨nsHtml, subject⟩ := by
          rw [hb0] at hbt
          simp only [Bool.and_eq_true, beq_iff_eq] at hbt
          have : nm s.dom h = ⟨(nm s.dom h).ns, (nm s.dom h).loc⟩ := rfl
          rw [this, hbt.1, hbt.2]
        obtain ⟨x, s3, e4, e5⟩ := bind_ok.mp e3
        obtain ⟨_, rfl⟩ := pure_ok.mp e5
        have hp := pop_sem e4
        have hl2 : s2.openElems.getLast? = some h := by rw [q2.openElems]; exact hl
        have hxh : x = h := by
          rw [hp.stack, List.getLast?_append] at hl2
          simpa using hl2
        have hb3 : Big m r ph s3 := hb2.pop hp (fun y hy => by
          simp only [List.mem_singleton] at hy
          subst hy
          rw [hxh, q2.nm, hn]; exact hk.h)
        exact ⟨hb3, by rw [hp.rest]; exact q2.mode, by rw [hp.rest, q2.rest]⟩
      · obtain ⟨h1, h2, h3⟩ := aaOuter_big hk.h 8 s2 s' a hb2 e3
        exact ⟨h1, h2.trans q2.mode, h3.trans (by rw [q2.rest])⟩
    rcases ite_run e2 with ⟨hbt, e2⟩ | ⟨hbf, e2⟩
    · obtain ⟨cur, s2, e5, e6⟩ := bind_ok.mp e2
      obtain ⟨rfl, _⟩ := currentNode_sem e5
      obtain ⟨po, s3, e7, e8⟩ := bind_ok.mp e6
      have q3 : QS s2 s3 := IsQ.q _ _ _ e7
      obtain ⟨sc, s4, e9, e10⟩ := bind_ok.mp e8
      obtain ⟨rfl, rfl⟩ := pure_ok.mp e9
      exact tail _ _ (q1.trans q3) (fun _ => hbt) e10
    · obtain ⟨sc, s2, e9, e10⟩ := bind_ok.mp e2
      obtain ⟨rfl, rfl⟩ := pure_ok.mp e9
      exact tail false _ q1 (by intro h; cases h) e10⟩


instance : PlainStr "a".toList := ⟨keepName_lits _ (by simp)⟩
instance : PlainStr "nobr".toList := ⟨keepName_lits _ (by simp)⟩

theorem findAInAF_sem : ∀ (l : List (Nat × Id × Tag)) (s s' : State) (res : Option Id),
    findAInAF l s = .ok (res, s') → QS s s' ∧ ∀ n, res = some n → nm s.dom n = hN "a" ∧ s.dom.isElement n = true
  | [], s, s', res, e => by
    unfold findAInAF at e
    obtain ⟨rfl, rfl⟩ := pure_ok.mp e
    exact ⟨QS.refl _, fun n h => by cases h⟩
  | (_, n, _) :: rest, s, s', res, e => by
    unfold findAInAF at e
    obtain ⟨b, s1, e1, e2⟩ := bind_ok.mp e
    obtain ⟨q1, hb, hel⟩ := htmlElemNamed_sem e1
    rcases ite_run e2 with ⟨hbt, e2⟩ | ⟨_, e2⟩
    · obtain ⟨rfl, rfl⟩ := pure_ok.mp e2
      refine ⟨q1, fun n' h => ?_⟩
      cases h
      rw [hb] at hbt
      simp only [Bool.and_eq_true, beq_iff_eq] at hbt
      have : nm s.dom n = ⟨(nm s.dom n).ns, (nm s.dom n).loc⟩ := rfl
      exact ⟨by rw [this, hbt.1, hbt.2]; rfl, hel⟩
    · obtain ⟨q2, h2⟩ := findAInAF_sem rest s1 s' res e2
      exact ⟨q1.trans q2, fun n' h => by
        obtain ⟨h3, h4⟩ := h2 n' h
        exact ⟨by rw [← q1.nm]; exact h3, by rw [← isElement_of_nodes q1.nodes]; exact h4⟩⟩

instance : PB handleMisnestedATags :=
  ⟨fun m r ph s a s' hb e => by
    unfold handleMisnestedATags at e
    rw [getS_bind] at e
    obtain ⟨res, s1, e1, e2⟩ := bind_ok.mp e
    obtain ⟨q1, hres⟩ := findAInAF_sem _ _ _ _ e1
    have hb1 := hb.qs q1
    cases res with
    | none =>
      obtain ⟨_, rfl⟩ := pure_ok.mp e2
      exact ⟨hb1, q1.mode, by rw [q1.rest]⟩
    | some node =>
      dsimp only at e2
      obtain ⟨hn, hel⟩ := hres node rfl
      obtain ⟨u2, s2, e3, e4⟩ := bind_ok.mp e2
      have q2 : QS s1 s2 := IsQ.q _ _ _ e3
      have hb2 := hb1.qs q2
      obtain ⟨u3, s3, e5, e6⟩ := bind_ok.mp e4
      obtain ⟨hb3, hm3, ho3⟩ := (inferInstance : PB (adoptionAgency "a".toList)).p m r ph s2 u3 s3 hb2 e5
      obtain ⟨_, hext3⟩ := (inferInstance : Pres (adoptionAgency "a".toList)).p s2 u3 s3 hb2.late e5
      have q02 := q1.trans q2
      have hel2 : s2.dom.isElement node = true := by rw [isElement_of_nodes q02.nodes]; exact hel
      have hn3 : nm s3.dom node = hN "a" := by rw [nm_chg hext3.chg hel2, q02.nm]; exact hn
      obtain ⟨po, s4, e7, e8⟩ := bind_ok.mp e6
      have q4 : QS s3 s4 := IsQ.q _ _ _ e7
      have hb4 := hb3.qs q4
      have hn4 : nm s4.dom node = hN "a" := by rw [q4.nm]; exact hn3
      cases po with
      | none =>
        dsimp only at e8
        obtain ⟨hb5, hm5, ho5⟩ := removeFromStack_big hb4 (by rw [hn4]; simp [lit_name]) e8
        exact ⟨hb5, by rw [hm5, q4.mode, hm3, q02.mode], by rw [ho5, q4.rest]; show s3.origMode = _; rw [ho3, q02.rest]⟩
      | some idx =>
        dsimp only at e8
        obtain ⟨u5, s5, e9, e10⟩ := bind_ok.mp e8
        obtain ⟨hb5, hm5, ho5⟩ := (inferInstance : PB (afRemove idx "mod.rs:1602")).p m r ph s4 u5 s5 hb4 e9
        have hs := afRemove_sem e9
        have hn5 : nm s5.dom node = hN "a" := by rw [hs]; exact hn4
        obtain ⟨hb6, hm6, ho6⟩ := removeFromStack_big hb5 (by rw [hn5]; simp [lit_name]) e10
        exact ⟨hb6, by rw [hm6, hm5, q4.mode, hm3, q02.mode],
          by rw [ho6, ho5, q4.rest]; show s3.origMode = _; rw [ho3, q02.rest]⟩⟩

end H5V.Props.C06
