import H5V.Lemmas.DomStep
/-!
Connectivity in the arena DOM (property C18): `Reach d roots x` — `x` is connected to one of the
`roots` through parent, children and template-contents links, i.e. it survives a collection whose
roots are `roots`.  Sink calls that cannot detach a node keep every link, hence keep everything
reachable; the detaching calls keep it reachable once the detached ends are roots themselves.
-/
namespace H5V.Lemmas.Dom
open H5V.Model.Dom

/-- `x` is connected to a root through parent / child / template-contents links -/
inductive Reach (d : Dom) (roots : List Id) : Id → Prop
  | root {x : Id} : x ∈ roots → Reach d roots x
  | parent {x p : Id} : Reach d roots x → d.parentOf x = some p → Reach d roots p
  | child {x c : Id} : Reach d roots x → c ∈ d.childrenOf x → Reach d roots c
  | template {x t : Id} : Reach d roots x → d.templateContentsOf x = some t → Reach d roots t

theorem Reach.mono_roots {d : Dom} {r1 r2 : List Id} (h : ∀ x ∈ r1, x ∈ r2) {x : Id} (hx : Reach d r1 x) :
    Reach d r2 x := by
  induction hx with
  | root hm => exact Reach.root (h _ hm)
  | parent _ hp ih => exact Reach.parent ih hp
  | child _ hc ih => exact Reach.child ih hc
  | template _ ht ih => exact Reach.template ih ht

/-- more roots reachable ⇒ more reachable: roots that are themselves reachable add nothing -/
theorem Reach.trans_roots {d : Dom} {r1 r2 : List Id} (h : ∀ x ∈ r1, Reach d r2 x) {x : Id} (hx : Reach d r1 x) :
    Reach d r2 x := by
  induction hx with
  | root hm => exact h _ hm
  | parent _ hp ih => exact Reach.parent ih hp
  | child _ hc ih => exact Reach.child ih hc
  | template _ ht ih => exact Reach.template ih ht

/-- every link of `d` is a link of `d'` -/
structure LinksKept (d d' : Dom) : Prop where
  parent : ∀ x p, d.parentOf x = some p → d'.parentOf x = some p
  child : ∀ p c, c ∈ d.childrenOf p → c ∈ d'.childrenOf p
  template : ∀ x t, d.templateContentsOf x = some t → d'.templateContentsOf x = some t

theorem LinksKept.refl (d : Dom) : LinksKept d d := ⟨fun _ _ h => h, fun _ _ h => h, fun _ _ h => h⟩

theorem LinksKept.trans {d1 d2 d3 : Dom} (h1 : LinksKept d1 d2) (h2 : LinksKept d2 d3) : LinksKept d1 d3 :=
  ⟨fun x p h => h2.parent x p (h1.parent x p h), fun p c h => h2.child p c (h1.child p c h),
   fun x t h => h2.template x t (h1.template x t h)⟩

theorem Reach.of_links {d d' : Dom} (hl : LinksKept d d') {roots : List Id} {x : Id} (hx : Reach d roots x) :
    Reach d' roots x := by
  induction hx with
  | root hm => exact Reach.root hm
  | parent _ hp ih => exact Reach.parent ih (hl.parent _ _ hp)
  | child _ hc ih => exact Reach.child ih (hl.child _ _ hc)
  | template _ ht ih => exact Reach.template ih (hl.template _ _ ht)

theorem linksKept_alloc (d : Dom) (data : NodeData) : LinksKept d (d.alloc data).1 where
  parent := fun x p h => by rw [parentOf_alloc]; exact h
  child := fun p c h => by rw [childrenOf_alloc]; exact h
  template := fun x t h => by
    rw [templateContentsOf_congr (d := d)]; exact h
    rw [dataOf_alloc]; simp [Nat.ne_of_lt (templateContentsOf_lt h)]

/-- attaching a parentless node keeps all links -/
theorem linksKept_attach {d d' : Dom} {c p : Id} {l' : List Id} (hc : d.parentOf c = none)
    (hp : ∀ x, d'.parentOf x = if x = c then some p else d.parentOf x)
    (hch : ∀ x, d'.childrenOf x = if x = p then l' else d.childrenOf x)
    (hl : ∀ y, y ∈ d.childrenOf p → y ∈ l') (hd : ∀ x, d'.dataOf x = d.dataOf x) : LinksKept d d' where
  parent := fun x q h => by
    rw [hp]
    have : x ≠ c := fun e => by rw [e, hc] at h; cases h
    simp [this, h]
  child := fun q y h => by
    rw [hch]
    by_cases hq : q = p
    · subst hq; simp; exact hl y h
    · simp [hq]; exact h
  template := fun x t h => by rw [templateContentsOf_congr (hd x)]; exact h

/-- a change of a node's data that keeps its template-contents link (text, attributes) -/
theorem linksKept_sameShape {d d' : Dom} (hs : SameShape d d')
    (ht : ∀ x, d'.templateContentsOf x = d.templateContentsOf x) : LinksKept d d' :=
  ⟨fun x p h => by rw [hs.parent]; exact h, fun p c h => by rw [hs.children]; exact h,
   fun x t h => by rw [ht]; exact h⟩

theorem linksKept_textChange {d d' : Dom} (hs : SameShape d d') {t : Id} {old new : Str}
    (hdt : d.dataOf t = some (.text old))
    (hd : ∀ x, d'.dataOf x = if x = t then some (.text new) else d.dataOf x) : LinksKept d d' := by
  refine linksKept_sameShape hs ?_
  intro x
  by_cases hx : x = t
  · subst hx; simp [Dom.templateContentsOf, hd, hdt]
  · exact templateContentsOf_congr (by rw [hd]; simp [hx])

theorem linksKept_append {d d' : Dom} {p : Id} {ch : NodeOrText} (hc : d.contractAppend p ch = true)
    (h : d.append p ch = .ok d') : LinksKept d d' := by
  simp only [Dom.contractAppend, Bool.and_eq_true] at hc
  have hp := lt_of_isContainer hc.1
  cases ch with
  | text s =>
    obtain ⟨_, h1 | h2⟩ := append_text_ok h
    · obtain ⟨hl, old, _, hdl, hs, hd, _⟩ := h1
      exact linksKept_textChange hs hdl hd
    · have h3 := h2.2
      obtain ⟨_, _, _, _, _, hp', hch', hd', _, _⟩ := appendRaw_ok h3 (Nat.ne_of_lt (by simpa using hp))
      exact (linksKept_alloc d _).trans (linksKept_attach (l' := (d.alloc (NodeData.text s)).1.childrenOf p ++ [d.size])
        (by rw [parentOf_alloc]; exact parentOf_none_of_ge (Nat.le_refl _)) hp' hch' (fun y hy => by simp [hy]) hd')
  | node c =>
    rw [append_node_eq] at h
    simp only [Dom.childOk, Bool.and_eq_true, Bool.not_eq_true', Bool.or_eq_true] at hc
    have hne : p ≠ c := (ne_of_not_isAncOrSelf hp hc.2.2).symm
    have hpar : d.parentOf c = none := by
      have := hc.2.1.2
      cases hpc : d.parentOf c with
      | none => rfl
      | some q => simp [hpc] at this
    obtain ⟨_, _, _, _, _, hp', hch', hd', _, _⟩ := appendRaw_ok h hne
    exact linksKept_attach (l' := d.childrenOf p ++ [c]) hpar hp' hch' (fun y hy => by simp [hy]) hd'

theorem linksKept_insertFresh {d d' : Dom} {data : NodeData} {P : Id} {i : Nat}
    (h : (d.alloc data).1.insertAtIndex P i d.size = .ok d') : LinksKept d d' := by
  obtain ⟨_, hp, hch, hd, _, _⟩ := insertAtIndex_fresh_ok h
  refine ⟨?_, ?_, ?_⟩
  · intro x q hx; rw [hp]
    have : x ≠ d.size := Nat.ne_of_lt (child_lt_size hx)
    simp [this, hx]
  · intro q y hy; rw [hch]
    by_cases hq : q = P
    · subst hq; simp; exact mem_insertAt.mpr (Or.inr hy)
    · simp [hq]; exact hy
  · intro x t hx
    rw [templateContentsOf_congr (d := d)]; exact hx
    rw [hd]; simp [Nat.ne_of_lt (templateContentsOf_lt hx)]

theorem linksKept_appendBeforeSibling {d d' : Dom} {s : Id} {ch : NodeOrText}
    (hpc : match ch with | .node c => d.parentOf c = none | .text _ => True)
    (h : d.appendBeforeSibling s ch = .ok d') : LinksKept d d' := by
  obtain ⟨P, i, _, _, _, hm⟩ := appendBeforeSibling_ok h
  cases ch with
  | text t =>
    rcases hm with ⟨prev, old, _, _, hdl, hs, hd, _⟩ | ⟨_, h2⟩
    · exact linksKept_textChange hs hdl hd
    · exact linksKept_insertFresh h2
  | node c =>
    simp only at hm hpc
    obtain ⟨d1, hr, _, _, _, hp, hch, hd, _, _⟩ := insertAtIndex_ok hm
    rcases removeFromParent_ok hr with ⟨_, he⟩ | ⟨_, _, hpar, _⟩
    · subst he
      exact linksKept_attach (l' := insertAt (d1.childrenOf P) i c) hpc hp hch
        (fun y hy => mem_insertAt.mpr (Or.inr hy)) hd
    · rw [hpc] at hpar; cases hpar

theorem linksKept_appendBeforeSiblingV {b : Dom.BeforeSiblingVariant} {d d' : Dom} {s : Id} {ch : NodeOrText}
    (hpc : match ch with | .node c => d.parentOf c = none | .text _ => True)
    (h : d.appendBeforeSiblingV b s ch = .ok d') : LinksKept d d' := by
  rcases appendBeforeSiblingV_ok h with h1 | ⟨c, d1, he, hr, h2⟩
  · exact linksKept_appendBeforeSibling hpc h1
  · subst he
    simp only at hpc
    rcases removeFromParent_ok hr with ⟨_, hd1⟩ | ⟨_, _, hpar, _⟩
    · subst hd1; exact linksKept_appendBeforeSibling (ch := .node c) hpc h2
    · rw [hpc] at hpar; cases hpar

/-- **sink calls that cannot detach a node keep every link** (`NeverDetaches`: all calls except
`remove_from_parent`, `reparent_children`, re-insertion of an attached node, and the option
mirroring), hence everything that was connected to a root stays connected to it -/
theorem LinksKept.applyV {v : Dom.CloneVariant} {b : Dom.BeforeSiblingVariant} {d d' : Dom} {op : SinkOp}
    {out : Output} (hc : d.contractOk op = true) (h : d.applyV v b op = .ok (d', out))
    (hop : NeverDetaches d op) : LinksKept d d' := by
  have hb : ∀ {s c d1}, (NeverDetaches d op → ∀ n, c = .node n → d.parentOf n = none) →
      d.appendBeforeSiblingV b s c = .ok d1 → LinksKept d d1 := by
    intro s c d1 hpar ha
    refine linksKept_appendBeforeSiblingV ?_ ha
    cases c with
    | text t => trivial
    | node c => exact hpar hop c rfl
  refine applyV_ind h (same := LinksKept.refl _)
    (other := fun _ _ => ⟨fun _ _ h => h, fun _ _ h => h, fun _ _ h => h⟩)
    (alloc := fun _ _ => linksKept_alloc d _) (append := fun _ _ _ hca ha => linksKept_append (hca hc) ha)
    (before := fun _ _ _ _ hpar ha => hb hpar ha)
    (remove := fun _ _ hnd => (hnd hop).elim) (reparent := fun _ _ _ hnd => (hnd hop).elim)
    (clone := fun _ _ hnd => (hnd hop).elim) ?_ ?_ ?_
  · intro name attrs flags
    unfold Dom.createElement
    split
    · exact (linksKept_alloc d _).trans (linksKept_alloc _ _)
    · exact linksKept_alloc d _
  · intro n p s d1 hdoc ha
    have hdoc := lt_of_isContainer (hdoc hc)
    obtain ⟨_, _, _, _, _, hp', hch', hd', _, _⟩ := appendRaw_ok ha (Nat.ne_of_lt hdoc)
    exact (linksKept_alloc d _).trans (linksKept_attach
      (l' := (d.alloc (NodeData.doctype n p s)).1.childrenOf Dom.document ++ [d.size])
      (by rw [parentOf_alloc]; exact parentOf_none_of_ge (Nat.le_refl _)) hp' hch' (fun y hy => by simp [hy]) hd')
  · intro t a d1 ha
    obtain ⟨_, _, _, _, hdt, hs, hd, _⟩ := addAttrsIfMissing_ok ha
    refine linksKept_sameShape hs ?_
    intro x
    by_cases hx : x = t
    · subst hx; simp [Dom.templateContentsOf, hd, hdt]
    · exact templateContentsOf_congr (by rw [hd]; simp [hx])

/-- `remove_from_parent(t)` splits one connected component in two: everything that was reachable
stays reachable once `t` and its old parent count as roots -/
theorem Reach.removeFromParent {d d' : Dom} (hw : WF d) {t : Id} (h : d.removeFromParent t = .ok d')
    {roots : List Id} {x : Id} (hx : Reach d roots x) :
    Reach d' (t :: ((d.parentOf t).toList ++ roots)) x := by
  rcases removeFromParent_ok h with ⟨_, he⟩ | ⟨p, i, hpar, hi, hp, hch, hd, _, _⟩
  · subst he; exact hx.mono_roots (fun y hy => by simp [hy])
  · obtain ⟨hsplit, _, _⟩ := indexOf?_some hi
    rw [hpar]
    induction hx with
    | root hm => exact Reach.root (by simp [hm])
    | @parent y q _ hq ih =>
      by_cases hy : y = t
      · subst hy; rw [hpar] at hq; cases hq; exact Reach.root (by simp)
      · exact Reach.parent ih (by rw [hp]; simp [hy, hq])
    | @child y c _ hc ih =>
      by_cases hct : c = t
      · subst hct; exact Reach.root (by simp)
      · refine Reach.child ih ?_
        rw [hch]
        by_cases hy : y = p
        · subst hy
          simp only [if_true]
          rcases (mem_removeAt_of_split hsplit).mp hc with e | hm
          · exact absurd e hct
          · exact hm
        · simp [hy]; exact hc
    | @template y tc _ htc ih => exact Reach.template ih (by rw [templateContentsOf_congr (hd y)]; exact htc)

/-- `reparent_children(n, np)`: everything that was reachable stays reachable once `n` and `np`
count as roots -/
theorem Reach.reparentChildren {d d' : Dom} (hw : WF d) {n np : Id} (h : d.reparentChildren n np = .ok d')
    {roots : List Id} {x : Id} (hx : Reach d roots x) : Reach d' (n :: np :: roots) x := by
  obtain ⟨hne, _, _, hp, hch, hd, _, _⟩ := reparentChildren_ok h
  induction hx with
  | root hm => exact Reach.root (by simp [hm])
  | @parent y q _ hq ih =>
    by_cases hy : y ∈ d.childrenOf n
    · -- y was a child of n: its parent q = n
      have := (hw.links y n).mpr hy
      rw [this] at hq; cases hq
      exact Reach.root (by simp)
    · exact Reach.parent ih (by rw [hp]; simp [hy, hq])
  | @child y c _ hc ih =>
    by_cases hyn : y = n
    · subst hyn
      -- c moved under np
      have hnp : np ≠ y := fun e => hne e.symm
      exact Reach.child (x := np) (Reach.root (by simp)) (by rw [hch]; simp [hnp, hc])
    · refine Reach.child ih ?_
      rw [hch]
      by_cases hyp : y = np
      · subst hyp; simp [hyn]; exact Or.inl hc
      · simp [hyn, hyp]; exact hc
  | @template y tc _ htc ih => exact Reach.template ih (by rw [templateContentsOf_congr (hd y)]; exact htc)

end H5V.Lemmas.Dom
