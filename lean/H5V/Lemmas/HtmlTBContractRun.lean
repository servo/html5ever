import H5V.Lemmas.HtmlTBContractRules1
import H5V.Lemmas.HtmlTBContractTable
import H5V.Lemmas.HtmlTBContractInit
/-!
# TreeSink contract for the HTML tree builder: foreign content, `process_to_completion`,
`process_token`, `end`

Everything here is relative to `StepH d0`: the judgement `RS` for `step m tok` in every mode but Initial
(assembled from the rule files in `HtmlTBContractAll`).
-/
namespace H5V.Lemmas.TBC
open H5V.Model.HtmlTB
open H5V.Model.Dom (Id QualName Attr NodeOrText SinkOp Output ElementFlags QuirksMode Dom NodeData Node Contract)
open H5V.Lemmas.Dom
open H5V.Props.C20 (Inv Run)
open H5V.Lemmas.TBSafe (IsEl nm sigOf Ext apply_ext)

variable {d0 : Dom}

/- `apply` finds the arity of its goal by `whnf` at default transparency; with `SatC` unfoldable that runs the code
of the rule on a symbolic state at every step of the walk. -/
attribute [local irreducible] SatC

/-- the rules of all modes but Initial -/
def StepH (d0 : Dom) : Prop := ∀ m tok, m ≠ .initial → TokOk tok → RS d0 tok (step m tok)

/-! ### foreign content -/

theorem res_foreignStartTag {tag : Tag} {s s' : State} {r : ProcessResult}
    (h : foreignStartTag tag s = .ok (r, s')) : NoRep r := by
  unfold foreignStartTag at h
  obtain ⟨_, s1, _, h2⟩ := ok_bind h
  obtain ⟨_, s2, _, h3⟩ := ok_bind h2
  dsimp only at h3
  refine ok_ite h3 ?_ ?_
  · intro s3 s4 r1 h4; rw [ok_bind_pure h4]; trivial
  · intro s3 s4 r1 h4; rw [ok_bind_pure h4]; trivial

theorem cpp_foreignStartTag {c : List Id} {tag : Tag} {tok : Token} (ha : AttrsOk tag.attrs) :
    CPP d0 c (foreignStartTag tag) (fun _ => []) (ResLate tok) :=
  cpp_of_cp_ok (cp_foreignStartTag ha) (fun _ _ _ h => ResLate.of_noRep (res_foreignStartTag h))

/-- `step(self.mode, token)` at the current state -/
theorem cpsp_stepCurrent (hS : StepH d0) {c : List Id} {tok : Token} (ht : TokOk tok) :
    CPSP d0 c (do step (← getS).mode tok) (fun _ => []) (ResLate tok) := by
  refine cpsp_getS_bind_at (fun s0 => ?_)
  intro hcb hsa hc
  exact cpsp_of_rs (hS s0.mode tok hcb.l.mode ht) s0 hcb hsa hc

theorem rs_unexpectedStartTagInForeignContent (hS : StepH d0) {tag : Tag} (ha : AttrsOk tag.attrs) :
    RS d0 (.tag tag) (unexpectedStartTagInForeignContent tag) := by
  unfold unexpectedStartTagInForeignContent RS
  refine cpsp_bind_cp cp_unexpected (fun _ => ?_)
  refine cpsp_getS_bind (fun s0 => ?_)
  refine cpsp_bind_cp (cp_popToIntegrationPointLoop _) (fun _ => ?_)
  exact cpsp_stepCurrent hS ha

theorem rs_foreignEndTagLoop (hS : StepH d0) {tag : Tag} (ha : AttrsOk tag.attrs) :
    ∀ (i : Nat) (first : Bool) (c : List Id),
      CPSP d0 c (foreignEndTagLoop tag i first) (fun _ => []) (ResLate (.tag tag)) := by
  intro i
  induction i with
  | zero =>
    intro first c
    unfold foreignEndTagLoop
    refine cpsp_getS_bind (fun s0 => ?_)
    cases hn : s0.openElems[0]? with
    | none =>
      dsimp only
      exact cpsp_panicAt_bind
    | some node =>
      dsimp only
      simp only [pure_bind]
      have hmem : node ∈ s0.openElems := List.mem_of_getElem? hn
      refine cpsp_bind_cp (cp_elemName (by simp [stH, hmem])) (fun nodeName => ?_)
      exact cpsp_ite (fun _ => cpsp_stepCurrent hS ha) (fun _ => cpsp_pure_nil _ trivial)
  | succ i ih =>
    intro first c
    unfold foreignEndTagLoop
    refine cpsp_getS_bind (fun s0 => ?_)
    cases hn : s0.openElems[i + 1]? with
    | none =>
      dsimp only
      exact cpsp_panicAt_bind
    | some node =>
      dsimp only
      simp only [pure_bind]
      have hmem : node ∈ s0.openElems := List.mem_of_getElem? hn
      refine cpsp_bind_cp (cp_elemName (by simp [stH, hmem])) (fun nodeName => ?_)
      refine cpsp_ite (fun _ => cpsp_stepCurrent hS ha) (fun _ => ?_)
      refine cpsp_ite (fun _ => ?_) (fun _ => ?_)
      · exact cpsp_bind_cp cp_modS_take (fun _ => cpsp_pure_nil _ trivial)
      · refine cpsp_ite (fun _ => ?_) (fun _ => ih false _)
        exact cpsp_bind_cp cp_unexpected (fun _ => ih false _)

theorem rs_stepForeign (hS : StepH d0) : ∀ tok, TokOk tok → RS d0 tok (stepForeign tok) := by
  intro tok ht
  unfold stepForeign RS
  cases tok with
  | nullChar => dsimp only; rs_walk
  | chars st text => dsimp only; rs_walk
  | comment t => dsimp only; rs_walk
  | eof => dsimp only; exact cpsp_panicAt
  | tag tag =>
    have ha : AttrsOk tag.attrs := ht
    dsimp only
    refine cpsp_ite (fun _ => cpsp_of_rs (rs_unexpectedStartTagInForeignContent hS ha)) (fun _ => ?_)
    refine cpsp_ite (fun _ => ?_) (fun _ => ?_)
    · refine cpsp_ite (fun _ => cpsp_of_rs (rs_unexpectedStartTagInForeignContent hS ha)) (fun _ => ?_)
      exact cpsp_of_cpp (cpp_foreignStartTag ha)
    refine cpsp_ite (fun _ => cpsp_of_cpp (cpp_foreignStartTag ha)) (fun _ => ?_)
    refine cpsp_getS_bind (fun s0 => ?_)
    refine cpsp_ite (fun _ => cpsp_panicAt) (fun _ => ?_)
    exact rs_foreignEndTagLoop hS ha _ _ _

/-! ### the invariant of the run -/

/-- Initial mode (nothing but comments appended) or a late mode with the stack-order invariant -/
def PI (d0 : Dom) (s : State) : Prop := CI0 d0 s ∨ (CB d0 s ∧ SAnc s.dom s.openElems)

theorem PI.domI {s : State} (h : PI d0 s) : DomI d0 s := by
  rcases h with h | h
  · exact h.d
  · exact h.1.d

/-- a `CP` computation from a late state -/
theorem satc_of_cp {α : Type} {m : M α} {R : α → List Id} (h : CP d0 [] m R) {s : State} (hcb : CB d0 s)
    (hsa : SAnc s.dom s.openElems) : SatC m s (fun _ s' => CB d0 s' ∧ SAnc s'.dom s'.openElems) :=
  (cp_toCPS h s hcb hsa (CtxOk.nil _)).mono (fun _ _ h => ⟨h.1, h.2.1⟩)

theorem PI.parseError {s : State} (h : PI d0 s) {msg : String} :
    SatC (H5V.Model.HtmlTB.parseError msg) s (fun _ s' => PI d0 s') := by
  rcases h with h | h
  · exact (h.parseError).mono (fun _ _ h' => Or.inl h')
  · exact (satc_of_cp cp_parseError h.1 h.2).mono (fun _ _ h' => Or.inr h')

theorem PI.setMode {s : State} (h : PI d0 s) {m : Mode} (hm : m ≠ .initial) :
    SatC (H5V.Model.HtmlTB.setMode m) s (fun _ s' => PI d0 s') := by
  rcases h with h | h
  · unfold H5V.Model.HtmlTB.setMode
    exact satc_modS (Or.inr (h.toCB hm))
  · exact (satc_of_cp (cp_setMode hm) h.1 h.2).mono (fun _ _ h' => Or.inr h')

theorem CI0.isForeign {s : State} (h : CI0 d0 s) (tok : Token) :
    SatC (H5V.Model.HtmlTB.isForeign tok) s (fun b s' => b = false ∧ s' = s) := by
  unfold H5V.Model.HtmlTB.isForeign
  refine satc_ite (fun _ => satc_pure ⟨rfl, rfl⟩) (fun _ => ?_)
  refine satc_getS_bind ?_
  refine satc_ite (fun _ => satc_pure ⟨rfl, rfl⟩) (fun hne => ?_)
  exact (hne (by rw [h.st]; rfl)).elim

/-- one rule application -/
theorem satc_ptcStep (hS : StepH d0) {s : State} (hpi : PI d0 s) {tok : Token} (ht : TokOk tok) :
    SatC (do
      if ← isForeign tok then stepForeign tok
      else step (← getS).mode tok) s (fun res s' => PI d0 s' ∧ ResLate tok res) := by
  rcases hpi with h | h
  · refine (h.isForeign tok).bind ?_
    rintro b s1 ⟨rfl, rfl⟩
    rw [if_neg (by decide)]
    refine satc_getS_bind ?_
    rw [h.mode]
    refine (h.stepInitial tok).mono ?_
    rintro res s' ⟨h', hr⟩
    refine ⟨Or.inl h', ?_⟩
    rcases hr with hr | hr
    · rw [hr]; exact ⟨by decide, rfl⟩
    · exact ResLate.of_noRep hr
  · have hcps : CPSP d0 [] (do
        if ← isForeign tok then stepForeign tok
        else step (← getS).mode tok) (fun _ => []) (ResLate tok) := by
      refine cpsp_bind_cp cp_isForeign (fun b => ?_)
      refine cpsp_ite (fun _ => cpsp_of_rs (rs_stepForeign hS tok ht)) (fun _ => ?_)
      exact cpsp_stepCurrent hS ht
    exact (hcps s h.1 h.2 (CtxOk.nil _)).mono (fun _ _ h' => ⟨Or.inr ⟨h'.1, h'.2.1⟩, h'.2.2.2.2⟩)

theorem tokOk_chars (st : SplitStatus) (t : Str) : TokOk (.chars st t) := trivial

/-- `satc_ptcStep` with the code that follows the rule: the `do` elaborator copies the continuation into both
branches of the `if` -/
theorem satc_ptcStep_bind (hS : StepH d0) {s : State} (hpi : PI d0 s) {tok : Token} (ht : TokOk tok) {β : Type}
    {k : ProcessResult → M β} {Q : β → State → Prop}
    (hk : ∀ res s1, PI d0 s1 → ResLate tok res → SatC (k res) s1 Q) :
    SatC (do
      let b ← isForeign tok
      if b then stepForeign tok >>= k
      else do
        let s ← getS
        step s.mode tok >>= k) s Q := by
  have h := (satc_ptcStep hS hpi ht).bind (fun res s1 h1 => hk res s1 h1.1 h1.2)
  have e : ∀ b : Bool, ((if b = true then stepForeign tok else do let s ← getS; step s.mode tok) >>= k) =
      (if b = true then stepForeign tok >>= k else do let s ← getS; step s.mode tok >>= k) := by
    intro b
    cases b
    · simp only [Bool.false_eq_true, if_false, bind_assoc]
    · simp only [if_true]
  simp only [bind_assoc, e] at h
  exact h

/-- **`process_to_completion`** keeps the invariant -/
theorem satc_ptc (hS : StepH d0) : ∀ (fuel : Nat) (tok : Token) (more : List Token) (s : State),
    PI d0 s → TokOk tok → (∀ t ∈ more, TokOk t) →
    SatC (processToCompletion fuel tok more) s (fun _ s' => PI d0 s') := by
  intro fuel
  induction fuel with
  | zero => intro tok more s _ _ _; unfold processToCompletion; exact satc_fuelOut
  | succ fuel ih =>
    intro tok more s hpi ht hmore
    unfold processToCompletion
    dsimp only
    refine satc_ptcStep_bind hS hpi ht ?_
    intro res s1 hpi1 hres
    have hnext : ∀ s2, PI d0 s2 → SatC (match more with
        | [] => pure SinkResult.continue_
        | t :: rest => processToCompletion fuel t rest) s2 (fun _ s' => PI d0 s') := by
      intro s2 h2
      cases more with
      | nil => exact satc_pure h2
      | cons t rest =>
        exact ih t rest s2 h2 (hmore t (List.mem_cons_self ..)) (fun x hx => hmore x (List.mem_cons_of_mem _ hx))
    cases res with
    | done =>
      dsimp only
      refine satc_ite (fun _ => ?_) (fun _ => hnext s1 hpi1)
      exact (hpi1.parseError).bind (fun _ s2 h2 => hnext s2 h2)
    | doneAckSelfClosing => exact hnext s1 hpi1
    | reprocess m t =>
      obtain ⟨hm, rfl⟩ := hres
      dsimp only
      exact (hpi1.setMode hm).bind (fun _ s2 h2 => ih _ _ s2 h2 ht hmore)
    | reprocessForeign t =>
      have : t = tok := hres
      subst this
      exact ih _ _ s1 hpi1 ht hmore
    | splitWhitespace buf =>
      dsimp only
      cases hp : popFrontCharRun buf with
      | none => exact satc_pure hpi1
      | some r =>
        obtain ⟨first, isWs, rest⟩ := r
        dsimp only
        refine ih _ _ s1 hpi1 (tokOk_chars _ _) ?_
        intro x hx
        by_cases hl : rest.length > 0
        · rw [if_pos hl] at hx
          rcases List.mem_append.mp hx with hx | hx
          · exact hmore x hx
          · rw [List.mem_singleton.mp hx]; trivial
        · rw [if_neg hl] at hx; exact hmore x hx
    | script node =>
      dsimp only
      exact satc_ite (fun _ => satc_panicAt_bind) (fun _ => satc_pure hpi1)
    | toPlaintext =>
      dsimp only
      exact satc_ite (fun _ => satc_panicAt_bind) (fun _ => satc_pure hpi1)
    | toRawData k =>
      dsimp only
      exact satc_ite (fun _ => satc_panicAt_bind) (fun _ => satc_pure hpi1)
    | encodingIndicator e => exact satc_pure hpi1

/-! ### `process_token` -/

/-- the Initial mode after the doctype has been appended: `CI0` without `pristine` -/
structure CI1 (d0 : Dom) (s : State) : Prop where
  d : DomI d0 s
  mode : s.mode = .initial
  st : s.openElems = []
  af : s.activeFormatting = []
  head : s.headElem = none
  form : s.formElem = none
  ctx : s.contextElem = none
  docH : s.docHandle = 0
  doc0 : s.dom.dataOf 0 = some .document
  orig : s.origMode = none
  tm : s.templateModes = []

theorem CI0.toCI1 {s : State} (h : CI0 d0 s) : CI1 d0 s :=
  ⟨h.d, h.mode, h.st, h.af, h.head, h.form, h.ctx, h.docH, h.doc0, h.orig, h.tm⟩

theorem CI1.toCB {s : State} (h : CI1 d0 s) {m : Mode} (hm : m ≠ .initial) :
    CB d0 { s with mode := m } ∧ SAnc ({ s with mode := m } : State).dom ({ s with mode := m } : State).openElems := by
  refine ⟨⟨⟨h.d.inv, h.d.run⟩, ⟨h.docH, h.doc0, ?_, ?_, ?_, ?_, ?_, ?_, ?_⟩, ⟨hm, ?_, ?_⟩⟩, ?_⟩
  · show ∀ x ∈ s.openElems, _; rw [h.st]; intro x hx; cases hx
  · show ∀ x ∈ s.openElems, _; rw [h.st]; intro x hx; cases hx
  · show ∀ x t, _ ∈ s.activeFormatting → _; rw [h.af]; intro x t hx; cases hx
  · show ∀ x, s.headElem = some x → _; rw [h.head]; intro x hx; cases hx
  · show ∀ x, s.formElem = some x → _; rw [h.form]; intro x hx; cases hx
  · show ∀ x, s.contextElem = some x → _; rw [h.ctx]; intro x hx; cases hx
  · show ∀ x, s.headElem = some x → _; rw [h.head]; intro x hx; cases hx
  · show s.origMode ≠ _; rw [h.orig]; intro e; cases e
  · show _ ∉ s.templateModes; rw [h.tm]; intro e; cases e
  · show SAnc s.dom s.openElems; rw [h.st]; exact List.Pairwise.nil

theorem CI1.sink {s : State} (h : CI1 d0 s) {op : SinkOp} (hc : Contract s.dom op) :
    SatC (sink op) s (fun _ s' => CI1 d0 s') := by
  refine satc_sink h.d hc ?_
  intro d' out ha hd
  exact ⟨hd, h.mode, h.st, h.af, h.head, h.form, h.ctx, h.docH, isDoc_kext (apply_kext ha) h.doc0, h.orig, h.tm⟩

theorem CI1.sinkUnit {s : State} (h : CI1 d0 s) {op : SinkOp} (hc : Contract s.dom op) :
    SatC (sinkUnit op) s (fun _ s' => CI1 d0 s') := by
  unfold H5V.Model.HtmlTB.sinkUnit
  exact (h.sink hc).bind (fun _ _ h' => satc_pure h')

theorem CI1.setQuirks {s : State} (h : CI1 d0 s) {m : QuirksMode} :
    SatC (H5V.Model.HtmlTB.setQuirksMode m) s (fun _ s' => CI1 d0 s') := by
  unfold H5V.Model.HtmlTB.setQuirksMode
  refine satc_modS_bind ?_
  have h1 : CI1 d0 { s with quirksMode := m } :=
    ⟨⟨h.d.inv, h.d.run⟩, h.mode, h.st, h.af, h.head, h.form, h.ctx, h.docH, h.doc0, h.orig, h.tm⟩
  exact h1.sinkUnit (op := .setQuirksMode m) rfl

/-- the "in body" rules, from the rules of all modes -/
theorem StepH.bodyH (hS : StepH d0) : BodyH d0 := fun tok ht => hS .inBody tok (by decide) ht

/-- `flush_pending_table_text`: the sink calls of the "anything else" arm of "in table text"; the answer is
the original mode (not Initial) -/
theorem cpsp_flushPendingTableText (hB : BodyH d0) {c : List Id} :
    CPSP d0 c flushPendingTableText (fun _ => []) (fun m => m ≠ .initial) := by
  unfold flushPendingTableText
  dsimp only
  have htail : ∀ c', CPSP d0 c' (do
      let s ← getS
      match s.origMode with
      | none => panicAt "unwrap-none" "rules.rs:1172" "orig_mode.take().unwrap()"
      | some m =>
        set { s with origMode := none }
        pure m) (fun _ => []) (fun m => m ≠ .initial) := by
    intro c'
    refine cpsp_getS_bind_at (fun s0 => ?_)
    intro hcb hsa hc
    cases hm : s0.origMode with
    | none => exact satc_panicAt
    | some m =>
      dsimp only
      refine cpspat_set_bind (fun h1 h2 => cb_clearOrig h1 h2) ?_ hcb hsa hc
      exact cpsp_pure_nil _ (orig_late hcb hm)
  refine cpsp_getS_bind (fun s0 => ?_)
  refine cpsp_bind_cp cp_modS_pendingClear (fun _ => ?_)
  refine cpsp_ite (fun _ => ?_) (fun _ => ?_)
  · refine cpsp_bind_cp cp_parseError (fun _ => ?_)
    refine cpsp_bind (cps_flushPendingFoster hB _ _) (fun _ => ?_)
    exact htail _
  · refine cpsp_bind_cp (cp_flushPendingPlain _ _) (fun _ => ?_)
    exact htail _

/-- the DOCTYPE token in "in table text": flush, continue in the original mode -/
theorem satc_flushThenSetMode (hS : StepH d0) {s : State} (hcb : CB d0 s) (hsa : SAnc s.dom s.openElems) :
    SatC (do let m ← flushPendingTableText; setMode m) s (fun _ s' => CB d0 s' ∧ SAnc s'.dom s'.openElems) := by
  refine (cpsp_flushPendingTableText hS.bodyH s hcb hsa (CtxOk.nil _)).bind ?_
  rintro m s1 ⟨hcb1, hsa1, _, _, hm⟩
  exact satc_of_cp (cp_setMode hm) hcb1 hsa1

/-- the tokens of the tokenizer: tags carry `AttrsOk` attribute lists -/
def TokTokOk : TokToken → Prop
  | .tag t => AttrsOk t.attrs
  | _ => True

theorem PI.ignoreLf {s : State} (h : PI d0 s) (b : Bool) : PI d0 { s with ignoreLf := b } := by
  rcases h with h | h
  · exact Or.inl ⟨⟨h.d.inv, h.d.run⟩, h.mode, h.st, h.af, h.head, h.form, h.ctx, h.docH, h.doc0, h.orig, h.tm,
      h.pristine⟩
  · exact Or.inr ⟨h.1.of_shrink rfl rfl rfl (fun _ hx => hx) (fun _ hx => hx) (fun _ hx => hx) (fun _ hx => hx)
      (fun _ hx => hx) ⟨h.1.l.mode, h.1.l.orig, h.1.l.tm⟩, h.2⟩

theorem PI.setLine {s : State} (h : PI d0 s) {n : Nat} :
    SatC (H5V.Model.HtmlTB.sinkUnit (.setCurrentLine n)) s (fun _ s' => PI d0 s') := by
  rcases h with h | h
  · exact (h.setLine).mono (fun _ _ h' => Or.inl h')
  · exact (satc_of_cp (cp_sinkUnit_nt rfl (fun _ _ _ => (rfl : Dom.contractOk _ _ = true))) h.1 h.2).mono (fun _ _ h' => Or.inr h')

theorem PI.parseErrorL {s : State} (h : PI d0 s) {e : Str} :
    SatC (H5V.Model.HtmlTB.sinkUnit (.parseError e)) s (fun _ s' => PI d0 s') := by
  rcases h with h | h
  · unfold H5V.Model.HtmlTB.sinkUnit
    refine SatC.bind (Q := fun _ s' => CI0 d0 s') ?_ (fun _ _ h' => satc_pure (Or.inl h'))
    refine h.sink (op := .parseError e) rfl ?_
    intro d' out ha
    rw [TBSafe.apply_parseError] at ha; cases ha
    exact pristine_of_nodes rfl h.pristine
  · exact (satc_of_cp (cp_sinkUnit_nt rfl (fun _ _ _ => (rfl : Dom.contractOk _ _ = true))) h.1 h.2).mono (fun _ _ h' => Or.inr h')

theorem CI0.contract_doctype {s : State} (h : CI0 d0 s) (n p sy : Str) :
    Contract s.dom (.appendDoctypeToDocument n p sy) := by
  have hc : s.dom.isContainer 0 = true := isContainer_of_doc h.doc0
  show (s.dom.isContainer Dom.document && (s.dom.childrenOf Dom.document).all
    (fun c => !s.dom.isDoctype c && !s.dom.isElement c)) = true
  rw [Bool.and_eq_true]
  refine ⟨hc, ?_⟩
  rw [List.all_eq_true]
  intro c _
  rw [(h.pristine c).1, (h.pristine c).2]; rfl

theorem tokOk_charsToken {b : Bool} {x : Str} {t : Token} (h : charsToken b x = some t) : TokOk t := by
  unfold charsToken at h
  by_cases hc : (dropIgnoredLf b x).isEmpty = true
  · rw [if_pos hc] at h; cases h
  · rw [if_neg hc] at h; cases h; trivial

/-- the end of `process_token` -/
theorem satc_ptcStart (hS : StepH d0) {s : State} (h : PI d0 s) {t : Token} (ht : TokOk t) :
    SatC (do processToCompletion (ptcFuel (← getS) t) t []) s (fun _ s' => PI d0 s') := by
  refine satc_getS_bind ?_
  exact satc_ptc hS _ t [] s h ht (fun _ hx => by cases hx)

/-- **`process_token`** keeps the invariant -/
theorem satc_processToken (hS : StepH d0) {s : State} (hpi : PI d0 s) {token : TokToken} (ht : TokTokOk token)
    (line : Nat) : SatC (processToken token line) s (fun _ s' => PI d0 s') := by
  unfold processToken
  dsimp only
  refine satc_getS_bind ?_
  refine satc_when_then (I := PI d0) hpi hpi.setLine (fun s1 h1 => ?_)
  refine satc_getS_bind ?_
  refine satc_modS_bind ?_
  have h2 := h1.ignoreLf false
  cases token with
  | parseError e =>
    dsimp only
    refine (h2.parseErrorL).bind ?_
    intro _ s3 h3
    refine satc_modS_bind ?_
    simp only [pure_bind]
    exact satc_pure (h3.ignoreLf _)
  | doctype dt =>
    dsimp only
    refine satc_getS_bind ?_
    rcases h2 with h2 | h2
    · -- Initial: a parse error unless the doctype is the expected one, the doctype appended unless dropped,
      -- `set_quirks_mode(quirk); self.mode.set(BeforeHtml)`
      rw [if_pos (by rw [h2.mode]; rfl)]
      refine satc_getS_bind ?_
      refine satc_when_then (I := CI0 d0) h2 h2.parseError (fun s2 h3 => ?_)
      refine satc_getS_bind ?_
      refine satc_when_then (I := CI1 d0) h3.toCI1 (h3.toCI1.sinkUnit (h3.contract_doctype _ _ _)) (fun s3 h4 => ?_)
      refine (CI1.setQuirks h4).bind ?_
      intro _ s4 h5
      unfold H5V.Model.HtmlTB.setMode
      refine satc_modS_bind ?_
      simp only [pure_bind]
      exact satc_pure (Or.inr (h5.toCB (by decide)))
    · rw [if_neg (by
        intro e
        exact h2.1.l.mode (by simpa using e))]
      refine satc_getS_bind ?_
      refine satc_ite (fun _ => ?_) (fun _ => ?_)
      · refine (cpsp_flushPendingTableText hS.bodyH _ h2.1 h2.2 (CtxOk.nil _)).bind ?_
        rintro m s2' ⟨hcb2, hsa2, _, _, hm⟩
        refine (satc_of_cp (cp_setMode hm) hcb2 hsa2).bind ?_
        intro _ s3 h3
        refine (PI.parseError (Or.inr h3)).bind ?_
        intro _ s4 h4
        simp only [pure_bind]
        exact satc_pure h4
      · refine (PI.parseError (Or.inr h2)).bind ?_
        intro _ s3 h3
        simp only [pure_bind]
        exact satc_pure h3
  | tag t => dsimp only; simp only [pure_bind]; exact satc_ptcStart hS h2 ht
  | comment c => dsimp only; simp only [pure_bind]; exact satc_ptcStart hS h2 trivial
  | nullChar => dsimp only; simp only [pure_bind]; exact satc_ptcStart hS h2 trivial
  | eof => dsimp only; simp only [pure_bind]; exact satc_ptcStart hS h2 trivial
  | chars x =>
    dsimp only
    simp only [pure_bind]
    cases hct : charsToken _ x with
    | none => exact satc_pure h2
    | some t => exact satc_ptcStart hS h2 (tokOk_charsToken hct)

/-- the tokens of a run -/
def TagsOk (toks : List (TokToken × Nat)) : Prop := ∀ p ∈ toks, TokTokOk p.1

theorem satc_processTokens (hS : StepH d0) : ∀ (toks : List (TokToken × Nat)) (acc : List SinkResult) (s : State),
    PI d0 s → TagsOk toks → SatC (processTokens toks acc) s (fun _ s' => PI d0 s') := by
  intro toks
  induction toks with
  | nil => intro acc s h _; unfold processTokens; exact satc_pure h
  | cons p rest ih =>
    intro acc s h hok
    obtain ⟨t, line⟩ := p
    unfold processTokens
    refine (satc_processToken hS h (hok (t, line) (List.mem_cons_self ..)) line).bind ?_
    intro r s1 h1
    exact ih _ s1 h1 (fun q hq => hok q (List.mem_cons_of_mem _ hq))

/-- **`end`**: the final arena -/
theorem satc_finishTB {s : State} (h : PI d0 s) : SatC finishTB s (fun _ s' => DomI d0 s') := by
  unfold finishTB
  refine satc_getS_bind ?_
  refine satc_modS_bind ?_
  rcases h with h | h
  · rw [h.st]
    show SatC (endLoop []) _ _
    unfold endLoop
    exact satc_pure ⟨h.d.inv, h.d.run⟩
  · have hcb : CB d0 { s with openElems := [] } := (cb_dropStack h.1 (List.nil_sublist _)).1
    have hctx : CtxOk s.openElems.reverse ({ s with openElems := [] } : State) :=
      fun x hx => h.1.h.open_el x (List.mem_reverse.mp hx)
    exact (cp_endLoop (c := s.openElems.reverse) _ (fun _ hx => hx) _ hcb hctx).mono (fun _ _ h' => h'.1.d)

end H5V.Lemmas.TBC
