import H5V.Lemmas.HtmlTBSkelShapeIns
/-!
C06, second invariant layer: insertions below the root and below the document
(comments, whitespace text), for the modes in which the root is the current node.
-/
namespace H5V.Props.C06
open H5V.Model.Dom hiding Str
open H5V.Model.HtmlTB hiding Str
open H5V.Lemmas.Dom

/-- the arena changed only in child lists and parent pointers: all node data are the same -/
theorem Core.sameData {s s' : State} {r : Id} {up : List Id} {ph : Phase} (h : Core s r up ph)
    (hl : Late s') (hdo : DomOnly s s') (hdata : ∀ x, s'.dom.dataOf x = s.dom.dataOf x)
    (hk0 : r ∈ s'.dom.childrenOf 0) (hrtu : RTU r s'.dom) (hrnd : (s'.dom.childrenOf r).Nodup)
    (hkids : ∀ c ∈ s'.dom.childrenOf r, c ∈ s.dom.childrenOf r ∨ KidOkR s'.dom c)
    (helems : rootElems s'.dom r = rootElems s.dom r) (hadj : AdjD s'.dom s'.openElems) : Core s' r up ph := by
  have hnm : ∀ x, nm s'.dom x = nm s.dom x := fun x => by unfold nm; rw [hdata]
  have hel : ∀ x, s'.dom.isElement x = s.dom.isElement x := fun x => by unfold Dom.isElement; rw [hdata]
  have hr := hdo
  have e1 : s'.openElems = s.openElems := by rw [hr]
  have e2 : s'.activeFormatting = s.activeFormatting := by rw [hr]
  have e3 : s'.templateModes = s.templateModes := by rw [hr]
  have e4 : s'.formElem = s.formElem := by rw [hr]
  have e5 : s'.headElem = s.headElem := by rw [hr]
  refine ⟨hl, by rw [e1]; exact h.stack, hk0, by rw [e1]; exact h.nodup, ?_, ?_, ?_, by rw [e3]; exact h.tmm, ?_,
    hrtu, hrnd, ?_, ?_, ?_, ?_, hadj⟩
  · rw [e1]; exact h.tg.congr (fun x _ => hnm x)
  · intro x t hx
    rw [e2] at hx
    obtain ⟨a, b, c⟩ := h.afn x t hx
    exact ⟨a, by rw [hnm]; exact b, by rw [hel]; exact c⟩
  · rw [e1, e3]
    unfold tcount
    have : (fun x => nm s'.dom x == hN "template") = (fun x => nm s.dom x == hN "template") := by
      funext x; rw [hnm]
    rw [this]; exact h.tc
  · intro f hf
    rw [e4] at hf
    obtain ⟨a, b⟩ := h.form f hf
    exact ⟨by rw [hnm]; exact a, by rw [hel]; exact b⟩
  · intro c hc
    rcases hkids c hc with h1 | h1
    · rcases h.kids c h1 with k | ⟨t, k⟩ | ⟨t, k, k2⟩
      · exact Or.inl (by rw [hel]; exact k)
      · exact Or.inr (Or.inl ⟨t, by rw [hdata]; exact k⟩)
      · exact Or.inr (Or.inr ⟨t, by rw [hdata]; exact k, k2⟩)
    · exact h1
  · rw [e5]
    have he := h.elems
    cases ph with
    | p0 => exact ⟨he.1, by rw [helems]; exact he.2⟩
    | p1 =>
      obtain ⟨hh, a, b, c⟩ := he
      exact ⟨hh, a, by rw [helems]; exact b, by rw [hnm]; exact c⟩
    | pb b =>
      obtain ⟨hh, a, b', c, d⟩ := he
      exact ⟨hh, a, by rw [helems]; exact b', by rw [hnm]; exact c, by rw [hnm]; exact d⟩
    | pf fs =>
      obtain ⟨hh, ex, a, b', c, d, e⟩ := he
      exact ⟨hh, ex, a, by rw [helems]; exact b', by rw [hnm]; exact c, by rw [hnm]; exact d,
        fun x hx => by rw [hnm]; exact e x hx⟩
  · intro y hy; rw [hnm]; exact h.bh y hy
  · rw [e2]; exact h.afx.congr helems (fun x _ => hnm x) (fun y t hy => ⟨y, hy⟩)

theorem FitsM.sameData {s s' : State} {up : List Id} {ph : Phase} (hf : FitsM s up ph) (hdo : DomOnly s s')
    (hdata : ∀ x, s'.dom.dataOf x = s.dom.dataOf x) : FitsM s' up ph := by
  have hr := hdo
  exact hf.transfer (fun x _ => by unfold nm; rw [hdata]) (by rw [hr]) (by rw [hr]) (by rw [hr])

/-- a fresh comment node becomes the last child of the root -/
theorem rootComment_shape {s s1 s2 : State} {r : Id} {up : List Id} {ph : Phase} {text : Str} {c : Id} {u : Unit}
    (h : ShapeAt s r up ph) (e1 : sinkNode (.createComment text) s = .ok (c, s1))
    (e2 : sinkUnit (.append r (.node c)) s1 = .ok (u, s2)) : ShapeAt s2 r up ph := by
  have hc := h.core
  obtain ⟨hl1, hext1, hc1, hcd1, hfresh1, hdo1⟩ := createComment_run hc.late e1
  have hd1 : s.dom.apply (.createComment text) = .ok (s1.dom, .node c) := (sink_dom (sinkNode_ok.mp e1)).1
  obtain ⟨hdom1, _⟩ := apply_createComment hd1
  obtain ⟨_, _, hk1, hid, hs1, _⟩ := createComment_spec hc.late.base text
  rw [← hdom1] at hk1 hs1
  have hrs1 : RS r s.dom s1.dom := by rw [hdom1]; exact rs_alloc r hc.late.base _
  obtain ⟨hadj1, _, htx1, hcO1⟩ := createComment_adj hc.late hc.adj e1
  have hcore1 : Core s1 r up ph := hc.transfer hl1 hext1.chg hrs1 (by rw [hk1]; exact hc.rdoc)
    (by rw [hdo1]) (by rw [hdo1]) (by rw [hdo1]) (by rw [hdo1]) (by rw [hdo1]) hadj1
  have hfit1 : FitsM s1 up ph := h.fits.transfer (hc.sameNames hext1.chg) (by rw [hdo1]) (by rw [hdo1]) (by rw [hdo1])
  have hnol : ∀ q, c ∉ s1.dom.childrenOf q := fun q hq => by
    rw [hk1] at hq
    exact Nat.lt_irrefl _ (Nat.lt_of_lt_of_le (hc.late.base.kidsValid q _ hq) hfresh1)
  -- the append
  have hrel : s1.dom.isElement r = true := hcore1.late.st.oe r hcore1.root_mem
  have hip : IpOk s1.dom (.lastChild r) := ⟨ne_zero_of_isElement hl1.base hrel, isContainer_of_isElement hrel⟩
  have e2' : H5V.Model.HtmlTB.insertAt (.lastChild r) (.node c) s1 = .ok (u, s2) := e2
  have hch : ChildOk s1.dom (.node c) := ⟨hnol 0, by rw [hcd1]; simp⟩
  obtain ⟨hl2, hext2, hk02, hdo2⟩ := insertAt_spec (child := .node c) hl1 hip hch e2'
  obtain ⟨out, hd2, _⟩ := sinkUnit_dom e2
  have hrc : r ≠ c := by
    rintro rfl
    unfold Dom.isElement at hrel; rw [hcd1] at hrel; cases hrel
  obtain ⟨hkr, hdata, _, _, hrtu⟩ := root_append_node hrc hnol (apply_append hd2)
  have hcn : s1.dom.isElement c = false := by unfold Dom.isElement; rw [hcd1]
  have hadj2 : AdjD s2.dom s2.openElems := by
    have : s2.openElems = s1.openElems := by rw [hdo2]
    rw [this]
    exact hadj1.appendClosed hrc htx1 hcO1 (apply_append hd2)
  refine ⟨hcore1.sameData hl2 hdo2 hdata (by rw [hk02]; exact hcore1.rdoc) (hrtu hcore1.rtu) ?_ ?_ ?_ hadj2,
    hfit1.sameData hdo2 hdata⟩
  · rw [hkr, List.nodup_append]
    exact ⟨hcore1.rnd, by simp, by intro a ha b hb; simp at hb; subst hb; rintro rfl; exact hnol r ha⟩
  · intro x hx
    rw [hkr] at hx
    rcases List.mem_append.mp hx with h1 | h1
    · exact Or.inl h1
    · simp only [List.mem_singleton] at h1
      subst h1
      exact Or.inr (Or.inr (Or.inl ⟨text, by rw [hdata]; exact hcd1⟩))
  · unfold rootElems
    rw [hkr, List.filter_append]
    have hel : ∀ x, s2.dom.isElement x = s1.dom.isElement x := fun x => by unfold Dom.isElement; rw [hdata]
    have : (fun x => s2.dom.isElement x) = (fun x => s1.dom.isElement x) := funext hel
    show List.filter (fun x => s2.dom.isElement x) _ ++ List.filter (fun x => s2.dom.isElement x) [c] = _
    rw [this]
    simp [hcn]

theorem appendCommentToHtml_shape {s s' : State} {r : Id} {up : List Id} {ph : Phase} {text : Str}
    {res : ProcessResult} (h : ShapeAt s r up ph) (e : appendCommentToHtml text s = .ok (res, s')) :
    ShapeAt s' r up ph ∧ res = .done ∧ s'.mode = s.mode := by
  unfold appendCommentToHtml at e
  obtain ⟨t, s0, e0, e1⟩ := bind_ok.mp e
  have ht : s0 = s ∧ t = r := by
    unfold htmlElemFn at e0
    rw [getS_bind, h.core.stack] at e0
    obtain ⟨rfl, rfl⟩ := pure_ok.mp e0
    exact ⟨rfl, rfl⟩
  obtain ⟨rfl, rfl⟩ := ht
  obtain ⟨c, s1, e2, e3⟩ := bind_ok.mp e1
  obtain ⟨u, s2, e4, e5⟩ := bind_ok.mp e3
  obtain ⟨rfl, rfl⟩ := pure_ok.mp e5
  refine ⟨rootComment_shape h e2 e4, rfl, ?_⟩
  obtain ⟨_, f4⟩ := sinkUnit_dom e4
  obtain ⟨_, f2⟩ := sink_dom (sinkNode_ok.mp e2)
  rw [f4.2.mode, f2.mode]


theorem appendCommentToDoc_shape {s s' : State} {r : Id} {up : List Id} {ph : Phase} {text : Str}
    {res : ProcessResult} (h : ShapeAt s r up ph) (e : appendCommentToDoc text s = .ok (res, s')) :
    ShapeAt s' r up ph ∧ res = .done ∧ s'.mode = s.mode := by
  have hc := h.core
  obtain ⟨⟨hl', _⟩, _⟩ := (inferInstance : PresR (appendCommentToDoc text)).p s res s' hc.late e
  unfold appendCommentToDoc at e
  obtain ⟨c, s1, e1, e2⟩ := bind_ok.mp e
  rw [getS_bind] at e2
  obtain ⟨u, s2, e3, e4⟩ := bind_ok.mp e2
  obtain ⟨rfl, rfl⟩ := pure_ok.mp e4
  obtain ⟨hl1, hext1, hc1, hcd1, hfresh1, hdo1⟩ := createComment_run hc.late e1
  have hd1 : s.dom.apply (.createComment text) = .ok (s1.dom, .node c) := (sink_dom (sinkNode_ok.mp e1)).1
  obtain ⟨hdom1, _⟩ := apply_createComment hd1
  obtain ⟨_, _, hk1, hid, hs1, _⟩ := createComment_spec hc.late.base text
  rw [← hdom1] at hk1 hs1
  have hrs1 : RS r s.dom s1.dom := by rw [hdom1]; exact rs_alloc r hc.late.base _
  have hnol : ∀ q, c ∉ s1.dom.childrenOf q := fun q hq => by
    rw [hk1] at hq
    exact Nat.lt_irrefl _ (Nat.lt_of_lt_of_le (hc.late.base.kidsValid q _ hq) hfresh1)
  have hdoc : s1.docHandle = 0 := by rw [hdo1]; exact hc.late.st.doc
  rw [hdoc] at e3
  obtain ⟨out, hd2, f2⟩ := sinkUnit_dom e3
  have happ := apply_append hd2
  have hrel : s.dom.isElement r = true := hc.late.st.oe r hc.root_mem
  have hr0 : (0 : Id) ≠ r := fun h0 => (ne_zero_of_isElement hc.late.base hrel) h0.symm
  have h0c : (0 : Id) ≠ c := by
    intro h0
    have := hfresh1; rw [← h0] at this
    exact Nat.lt_irrefl _ (Nat.lt_of_lt_of_le hc.late.base.size_pos this)
  have hrs2 : RS r s1.dom s2.dom := rs_append_node hl1.base hr0 h0c (hnol r) happ
  obtain ⟨hb2, hchg2, _, hk2⟩ := append_doc_spec hl1.base (by rw [hcd1]; simp) happ
  have hdo2 : DomOnly s1 s2 := by
    obtain ⟨o, e3'⟩ := sinkUnit_ok.mp e3
    obtain ⟨d, _, rfl⟩ := sink_ok.mp e3'
    rfl
  have hdo : DomOnly s s2 := by
    show s2 = { s with dom := s2.dom, traceRev := s2.traceRev }
    rw [hdo2, hdo1]
  have hchg : Chg s.dom s2.dom := hext1.chg.trans hchg2
  obtain ⟨hadj1, _, htx1, hcO1⟩ := createComment_adj hc.late hc.adj e1
  have hadj2 : AdjD s2.dom s2.openElems := by
    have : s2.openElems = s1.openElems := by rw [hdo2]
    rw [this]
    exact hadj1.appendClosed h0c htx1 hcO1 happ
  refine ⟨⟨hc.transfer hl' hchg (hrs1.trans hrs2) (by rw [hk2, hk1]; exact List.mem_append_left _ hc.rdoc)
    (by rw [hdo]) (by rw [hdo]) (by rw [hdo]) (by rw [hdo]) (by rw [hdo]) hadj2,
    h.fits.transfer (hc.sameNames hchg) (by rw [hdo]) (by rw [hdo]) (by rw [hdo])⟩, rfl, by rw [hdo]⟩

end H5V.Props.C06
