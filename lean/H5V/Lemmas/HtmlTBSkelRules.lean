import H5V.Lemmas.HtmlTBSkelAA
/-!
C06 (skeleton invariant): every rule of `tree_builder/rules.rs` from "before head" on
preserves `Late` and answers acceptably (`PresR`), one instance per insertion mode.
-/
namespace H5V.Props.C06
open H5V.Model.Dom hiding Str
open H5V.Model.HtmlTB hiding Str
open H5V.Lemmas.Dom


/-! ### continuing after reset-the-insertion-mode -/

theorem Pres.resetBind {β : Type} {f : Mode → M β} (h : ∀ m, LateMode m → Pres (f m)) :
    Pres (resetInsertionMode >>= f) := by
  constructor
  intro s b s'' hl e
  obtain ⟨a, s', e1, e2⟩ := bind_ok.mp e
  obtain ⟨q1, m1⟩ := (inferInstance : Quiet resetInsertionMode).q s a s' hl.ml e1
  have hlate := lateRet_resetInsertionMode.h s a s' hl.ml e1
  obtain ⟨l2, x2⟩ := (h a ⟨hlate⟩).p s' b s'' (hl.qrel q1 m1) e2
  exact ⟨l2, q1.sk.ext.trans x2⟩

theorem PresR.resetBind {f : Mode → M ProcessResult} (h : ∀ m, LateMode m → PresR (f m)) :
    PresR (resetInsertionMode >>= f) := by
  constructor
  intro s b s'' hl e
  obtain ⟨a, s', e1, e2⟩ := bind_ok.mp e
  obtain ⟨q1, m1⟩ := (inferInstance : Quiet resetInsertionMode).q s a s' hl.ml e1
  have hlate := lateRet_resetInsertionMode.h s a s' hl.ml e1
  obtain ⟨⟨l2, x2⟩, r⟩ := (h a ⟨hlate⟩).p s' b s'' (hl.qrel q1 m1) e2
  exact ⟨⟨l2, q1.sk.ext.trans x2⟩, r⟩

instance (priority := high) {β : Type} (f : Mode → M β) [h : ∀ m, [LateMode m] → Pres (f m)] :
    Pres (resetInsertionMode >>= f) := Pres.resetBind (fun m hm => @h m hm)
instance (priority := high) (f : Mode → M ProcessResult) [h : ∀ m, [LateMode m] → PresR (f m)] :
    PresR (resetInsertionMode >>= f) := PresR.resetBind (fun m hm => @h m hm)

macro_rules
  | `(tactic| tb_step) => `(tactic| first | with_reducible apply Pres.resetBind | with_reducible apply PresR.resetBind)

/-! ### small pieces of rules.rs -/

instance (content : Str) : Quiet (extractEncoding content) := by unfold extractEncoding; tb_walk
instance (tag : Tag) : Quiet (inBodyHtml tag) := by unfold inBodyHtml; tb_walk
instance (tag : Tag) : PresR (inBodyHtml tag) := by unfold inBodyHtml; tb_walk
instance (tag : Tag) : Quiet (shouldAttachDeclarativeShadow tag) := by unfold shouldAttachDeclarativeShadow; tb_walk
instance (tag : Tag) : PresR (inBodyVoid tag) := by unfold inBodyVoid; tb_walk

theorem quiet_listCloseSearch (list : Bool) : ∀ (l : List Id), Quiet (listCloseSearch list l)
  | [] => by unfold listCloseSearch; tb_walk
  | e :: rest => by
    haveI := quiet_listCloseSearch list rest
    unfold listCloseSearch; tb_walk
instance (list : Bool) (l : List Id) : Quiet (listCloseSearch list l) := quiet_listCloseSearch list l

theorem quiet_findOption : ∀ (l : List Id), Quiet (findOption l)
  | [] => by unfold findOption; tb_walk
  | e :: rest => by
    haveI := quiet_findOption rest
    unfold findOption; tb_walk
instance (l : List Id) : Quiet (findOption l) := quiet_findOption l

theorem quiet_anySameNode (x : Id) : ∀ (l : List Id), Quiet (anySameNode x l)
  | [] => by unfold anySameNode; tb_walk
  | e :: rest => by
    haveI := quiet_anySameNode x rest
    unfold anySameNode; tb_walk
instance (x : Id) (l : List Id) : Quiet (anySameNode x l) := quiet_anySameNode x l

instance (site : String) : Quiet (contextIsSelect site) := by unfold contextIsSelect; tb_walk
instance (site : String) : Quiet (popTr site) := by unfold popTr; tb_walk

instance : Quiet (modS fun s => { s with templateModes := s.templateModes.dropLast }) :=
  quiet_modS fun s hml =>
    ⟨⟨SameSk.refl _, List.Sublist.refl _, rfl, rfl, rfl, rfl, rfl, fun _ _ h => h, Or.inl rfl, fun h => h⟩,
     ⟨hml.mode, hml.orig, fun m hm => hml.tm m ((List.dropLast_sublist _).subset hm)⟩⟩

instance (m : Mode) [h : LateMode m] : Quiet (modS fun s => { s with templateModes := s.templateModes ++ [m] }) :=
  quiet_modS fun s hml =>
    ⟨⟨SameSk.refl _, List.Sublist.refl _, rfl, rfl, rfl, rfl, rfl, fun _ _ h => h, Or.inl rfl, fun h => h⟩,
     ⟨hml.mode, hml.orig, fun m' hm' => by
        simp only [List.mem_append, List.mem_singleton] at hm'
        rcases hm' with hm' | rfl
        · exact hml.tm m' hm'
        · exact h.h⟩⟩

instance : Quiet (modS fun s => { s with origMode := some s.mode }) :=
  quiet_modS fun s hml =>
    ⟨⟨SameSk.refl _, List.Sublist.refl _, rfl, rfl, rfl, rfl, rfl, fun _ _ h => h, Or.inl rfl, fun h => h⟩,
     ⟨hml.mode, by intro m hm; cases hm; exact hml.mode, hml.tm⟩⟩

/-- the option → selectedcontent mirror -/
instance (o : Id) : Pres (sinkUnit (.maybeCloneAnOptionIntoSelectedcontent o)) :=
  ⟨fun s a s' hl e => by
    obtain ⟨out, e⟩ := sinkUnit_ok.mp e
    obtain ⟨d, hd, rfl⟩ := sink_ok.mp e
    obtain ⟨hb', hc', hk⟩ := maybeCloneOption_spec hl.base (apply_clone hd)
    exact hl.dom hb' hc' hk⟩

instance : PresR inTemplateEof := by unfold inTemplateEof; tb_walk

/-! ### the handle logic with an answer -/

structure PLR (c : Ctx) (m : M ProcessResult) : Prop where
  p : ∀ s a s', Late s → c.ok s.dom → m s = .ok (a, s') → (Late s' ∧ Ext s.dom s'.dom) ∧ ResOk a

theorem PLR.bind {α : Type} {c : Ctx} {m : M α} {f : α → M ProcessResult} {R : α → Ctx}
    (h1 : PL c m R) (h2 : ∀ a, PLR ((R a).app c) (f a)) : PLR c (m >>= f) := by
  constructor
  intro s b s'' hl hc e
  obtain ⟨a, s', e1, e2⟩ := bind_ok.mp e
  obtain ⟨l1, x1, r1⟩ := h1.p s a s' hl hc e1
  obtain ⟨⟨l2, x2⟩, r2⟩ := (h2 a).p s' b s'' l1 (Ctx.ok_app r1 (hc.ext x1)) e2
  exact ⟨⟨l2, x1.trans x2⟩, r2⟩

theorem PLR.of_presR {c : Ctx} {m : M ProcessResult} (h : PresR m) : PLR c m :=
  ⟨fun s a s' hl _ e => h.p s a s' hl e⟩

theorem PLR.dite {c : Ctx} {p : Prop} [Decidable p] {a b : M ProcessResult}
    (h1 : p → PLR c a) (h2 : ¬p → PLR c b) : PLR c (if p then a else b) := by
  by_cases hp : p
  · simp only [hp, if_true]; exact h1 hp
  · simp only [hp, if_false]; exact h2 hp

theorem PLR.toPresR {m : M ProcessResult} (h : PLR Ctx.nil m) : PresR m :=
  ⟨fun s a s' hl e => h.p s a s' hl (Ctx.ok_nil _) e⟩

syntax "plr_walk" : tactic
macro_rules
  | `(tactic| plr_walk) => `(tactic|
    repeat' (first
      | with_reducible apply PLR.bind
      | with_reducible apply PLR.dite
      | with_reducible exact PLR.of_presR inferInstance
      | (haveI : NE _ := NE.of_tok (by assumption); exact PLR.of_presR inferInstance)
      | pl_step))

/-- entry into the handle logic: a rule arm that starts by creating an element -/
theorem PresR.ofCreate {n : QualName} {a : List Attr} {d : Bool} {f : Id → M ProcessResult}
    (h : PLR Ctx.nil (createElementWithFlags n a d >>= f)) : PresR (createElementWithFlags n a d >>= f) := h.toPresR

macro_rules
  | `(tactic| tb_step) => `(tactic| (with_reducible apply PresR.ofCreate; plr_walk))

/-! ### InHead -/

instance (token : Token) [TokOk token] : PresR (stepInHead token) := by
  unfold stepInHead
  tb_walk

/-! ### InBody -/

/-- what is known about the answer of `body_elem`: the second open element, hence not a child of the document -/
def bodyCtx : Option Id → Ctx
  | some b => ([], [b])
  | none => Ctx.nil

theorem mem_tail_of_getElem_one {l : List Id} {x : Id} (h : l[1]? = some x) : x ∈ l.tail := by
  cases l with
  | nil => simp at h
  | cons a r =>
    cases r with
    | nil => simp at h
    | cons b r' => simp at h; subst h; simp

theorem PL.bodyElem {c : Ctx} : PL c bodyElem bodyCtx := by
  unfold H5V.Model.HtmlTB.bodyElem
  apply PL.ofGetS
  intro s hl hc a s' e
  by_cases hlen : s.openElems.length ≤ 1
  · simp only [hlen, if_true] at e
    obtain ⟨rfl, rfl⟩ := pure_ok.mp e
    exact ⟨hl, Ext.refl _, Ctx.ok_nil _⟩
  · simp only [hlen, if_false] at e
    cases h1 : s.openElems[1]? with
    | none =>
      simp only [h1] at e
      obtain ⟨rfl, rfl⟩ := pure_ok.mp e
      exact ⟨hl, Ext.refl _, Ctx.ok_nil _⟩
    | some node =>
      simp only [h1] at e
      obtain ⟨b, s1, e1, e2⟩ := bind_ok.mp e
      obtain ⟨q1, m1⟩ := (inferInstance : Quiet (htmlElemNamed node "body")).q _ _ _ hl.ml e1
      have hl1 := hl.qrel q1 m1
      have htail := mem_tail_of_getElem_one h1
      have hloose0 : Loose s.dom node := ⟨hl.st.oe node (List.mem_of_mem_tail htail), hl.st.tail node htail⟩
      have hloose : Loose s1.dom node := hloose0.ext q1.sk.ext
      by_cases hb : b = true
      · simp only [hb, if_true] at e2
        obtain ⟨rfl, rfl⟩ := pure_ok.mp e2
        exact ⟨hl1, q1.sk.ext, ⟨fun _ h => (by cases h), fun y hy => (by simp [bodyCtx] at hy; subst hy; exact hloose)⟩⟩
      · simp only [hb] at e2
        obtain ⟨rfl, rfl⟩ := pure_ok.mp e2
        exact ⟨hl1, q1.sk.ext, Ctx.ok_nil _⟩

macro_rules
  | `(tactic| pl_leaf) => `(tactic| with_reducible exact PL.bodyElem)

macro_rules
  | `(tactic| ctx_mem) => `(tactic| (simp only [Ctx.app, Ctx.nil, Ctx.elem, bodyCtx, List.mem_append, List.mem_cons,
      List.mem_singleton, List.not_mem_nil, or_false, false_or, true_or, or_true]; done))

theorem PresR.ofBodyElem {f : Option Id → M ProcessResult}
    (h : PLR Ctx.nil (H5V.Model.HtmlTB.bodyElem >>= f)) : PresR (H5V.Model.HtmlTB.bodyElem >>= f) := h.toPresR

macro_rules
  | `(tactic| tb_step) => `(tactic| (with_reducible apply PresR.ofBodyElem; plr_walk))

/-! state-aware judgement: needed where the model writes back a state it has read (`set`) -/

structure PresRA (s : State) (m : M ProcessResult) : Prop where
  p : Late s → ∀ a s', m s = .ok (a, s') → (Late s' ∧ Ext s.dom s'.dom) ∧ ResOk a

theorem PresR.ofGetS {F : State → M ProcessResult} (h : ∀ s, PresRA s (F s)) : PresR (getS >>= F) :=
  ⟨fun s a s' hl e => by rw [getS_bind] at e; exact (h s).p hl a s' e⟩

theorem PresRA.of {s : State} {m : M ProcessResult} (h : PresR m) : PresRA s m :=
  ⟨fun hl a s' e => h.p s a s' hl e⟩

theorem PresRA.getS {s : State} {F : State → M ProcessResult} (h : PresRA s (F s)) : PresRA s (getS >>= F) :=
  ⟨fun hl a s' e => by rw [getS_bind] at e; exact h.p hl a s' e⟩

theorem PresRA.bind {α : Type} {s : State} {m : M α} {f : α → M ProcessResult} (h1 : Pres m) (h2 : ∀ a, PresR (f a)) :
    PresRA s (m >>= f) := PresRA.of (PresR.bind h1 h2)

theorem PresRA.ite {s : State} {c : Prop} [Decidable c] {a b : M ProcessResult} (h1 : PresRA s a) (h2 : PresRA s b) :
    PresRA s (if c then a else b) := by
  by_cases hc : c
  · simp only [hc, if_true]; exact h1
  · simp only [hc, if_false]; exact h2

/-- writing back the state just read, with some fields the invariant does not mention changed -/
theorem PresRA.set {s x : State} {f : Unit → M ProcessResult} (hx : Late s → Late x ∧ x.dom = s.dom)
    (h : ∀ u, PresR (f u)) : PresRA s ((set x : M Unit) >>= f) := by
  constructor
  intro hl a s' e
  obtain ⟨u, s1, e1, e2⟩ := bind_ok.mp e
  rw [set_ok.mp e1] at e2
  obtain ⟨hlx, hd⟩ := hx hl
  have := (h u).p x a s' hlx e2
  rw [hd] at this
  exact this

theorem PresRA.split_guard {s : State} {m : M ProcessResult} (h : PresRA s m) : PresRA s m := h

macro_rules
  | `(tactic| tb_step) => `(tactic|
    first
      | with_reducible apply PresR.ofGetS
      | (with_reducible apply PresRA.split_guard
         first
          | with_reducible exact PresRA.of inferInstance
          | with_reducible apply PresRA.getS
          | refine PresRA.set (fun hl => ⟨hl.free rfl rfl rfl rfl rfl rfl rfl rfl rfl, rfl⟩) ?_
          | with_reducible apply PresRA.ite
          | split
          | with_reducible apply PresRA.of))

instance (token : Token) [TokOk token] : PresR (stepInBody token) := by
  unfold stepInBody
  tb_walk

/-! ### BeforeHead, InHeadNoscript, AfterHead -/

theorem PL.setHead {c : Ctx} {h : Id} (hh : h ∈ c.2) :
    PL c (modS fun s => { s with headElem := some h }) (fun _ => Ctx.nil) :=
  ⟨fun s a s' hl hc e => by
    rw [modS_ok.mp e]
    refine ⟨⟨hl.base, hl.pat, ⟨hl.st.doc, hl.st.ctx, hl.st.oe, hl.st.tail, ?_, hl.st.ptt⟩,
      ⟨hl.ml.mode, hl.ml.orig, hl.ml.tm⟩⟩, Ext.refl _, Ctx.ok_nil _⟩
    intro x hx
    cases hx
    exact hc.lo _ hh⟩

theorem PL.insertPhantom {c : Ctx} (n : String) : PL c (insertPhantom n) (fun el => ([], [el])) := by
  unfold H5V.Model.HtmlTB.insertPhantom; exact PL.insertElement _ _ _ _ _
theorem PL.insertElementFor {c : Ctx} (t : Tag) : PL c (insertElementFor t) (fun el => ([], [el])) := by
  unfold H5V.Model.HtmlTB.insertElementFor; exact PL.insertElement _ _ _ _ _

macro_rules
  | `(tactic| pl_leaf) => `(tactic|
    with_reducible first
      | (apply PL.setHead <;> ctx_mem)
      | exact PL.insertPhantom _
      | exact PL.insertElementFor _)

instance (token : Token) [TokOk token] : PresR (stepBeforeHead token) := by
  unfold stepBeforeHead
  apply PLR.toPresR
  plr_walk

instance (token : Token) [TokOk token] : PresR (stepInHeadNoscript token) := by
  unfold stepInHeadNoscript
  tb_walk

theorem PresR.bindR {m : M ProcessResult} {f : ProcessResult → M ProcessResult} (h1 : PresR m)
    (h2 : ∀ a, ResOk a → PresR (f a)) : PresR (m >>= f) := by
  constructor
  intro s b s'' hl e
  obtain ⟨a, s', e1, e2⟩ := bind_ok.mp e
  obtain ⟨⟨l1, x1⟩, r1⟩ := h1.p s a s' hl e1
  obtain ⟨⟨l2, x2⟩, r2⟩ := (h2 a r1).p s' b s'' l1 e2
  exact ⟨⟨l2, x1.trans x2⟩, r2⟩

/-- pushing the head element pointer (rules.rs:399) -/
theorem PresRA.pushHead {s : State} {head : Id} {f : Unit → M ProcessResult} (hh : s.headElem = some head)
    (h : ∀ u, PresR (f u)) : PresRA s (push head >>= f) := by
  constructor
  intro hl a s' e
  obtain ⟨u, s1, e1, e2⟩ := bind_ok.mp e
  obtain ⟨h1, h2⟩ := hl.st.head head hh
  obtain ⟨hl1, hd1⟩ := push_spec hl ⟨h1, h2⟩ e1
  have := (h u).p s1 a s' hl1 e2
  rw [hd1] at this
  exact this

macro_rules
  | `(tactic| tb_step) => `(tactic|
    first
      | (with_reducible apply PresRA.pushHead; assumption)
      | with_reducible apply PresR.bindR
      | (with_reducible refine PresR.pure _ ⟨?_⟩; assumption))

instance (token : Token) [TokOk token] : PresR (stepAfterHead token) := by
  unfold stepAfterHead
  tb_walk

end H5V.Props.C06
