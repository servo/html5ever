import H5V.Spec.HtmlEscape
/-!
C07: the reader `unescape` inverts `escape` and stops exactly at the
delimiter that follows the escaped text.
-/
namespace H5V.Lemmas.HtmlSerUnescape
open H5V.Spec.HtmlEscape

theorem skip_append (attr : Bool) (pre rest : List Char) :
    unescapeAux attr pre.length (pre ++ rest) = unescapeAux attr 0 rest := by
  induction pre with
  | nil => rfl
  | cons c t ih => simpa [unescapeAux] using ih

theorem aux_cons (attr : Bool) (c : Char) (rest : List Char) :
    unescapeAux attr 0 (c :: rest) =
      if c = '&' then
        match matchRef rest with
        | some (v, n) => v :: unescapeAux attr n rest
        | none => '&' :: unescapeAux attr 0 rest
      else if c = stopChar attr then []
      else if c = '\r' then
        match rest with
        | '\n' :: _ => unescapeAux attr 0 rest
        | _ => '\n' :: unescapeAux attr 0 rest
      else if c = '\u0000' then
        if attr then '\uFFFD' :: unescapeAux attr 0 rest else unescapeAux attr 0 rest
      else c :: unescapeAux attr 0 rest := by
  rfl

/-- what may follow the escaped text: nothing, or the closing delimiter and anything at all -/
def Closed (attr : Bool) (after : List Char) : Prop :=
  after = [] ∨ ∃ t, after = stopChar attr :: t

theorem unescape_after (attr : Bool) (after : List Char) (h : Closed attr after) :
    unescapeAux attr 0 after = [] := by
  rcases h with rfl | ⟨t, rfl⟩
  · rfl
  · cases attr <;> simp [unescapeAux, stopChar]

theorem unescape_escape_aux (attr : Bool) (after : List Char) (ha : Closed attr after) :
    ∀ s : List Char, noCRNUL s → unescapeAux attr 0 (escape attr s ++ after) = s := by
  intro s
  induction s with
  | nil => intro _; simpa [escape] using unescape_after attr after ha
  | cons c s ih =>
    intro hs
    have hc := hs c (by simp)
    have ih' := ih (fun x hx => hs x (by simp [hx]))
    have hesc : escape attr (c :: s) = escChar attr c ++ escape attr s := by simp [escape]
    rw [hesc, List.append_assoc]
    generalize escape attr s ++ after = X at ih'
    unfold escChar
    by_cases h1 : c = '&'
    · subst h1
      simp only [if_true, eAmp, List.cons_append, List.nil_append]
      rw [aux_cons]
      simp only [if_true]
      have : matchRef ('a' :: 'm' :: 'p' :: ';' :: X) = some ('&', 4) := by
        simp [matchRef, refs]
      rw [this]
      simp only []
      rw [show ('a' :: 'm' :: 'p' :: ';' :: X) = ['a', 'm', 'p', ';'] ++ X from rfl,
          show (4 : Nat) = ['a', 'm', 'p', ';'].length from rfl, skip_append, ih']
    rw [if_neg h1]
    by_cases h2 : c = '\u00A0'
    · subst h2
      simp only [if_true, eNbsp, List.cons_append, List.nil_append]
      rw [aux_cons]
      simp only [if_true]
      have : matchRef ('n' :: 'b' :: 's' :: 'p' :: ';' :: X) = some ('\u00A0', 5) := by
        simp [matchRef, refs, List.findSome?]
      rw [this]
      simp only []
      rw [show ('n' :: 'b' :: 's' :: 'p' :: ';' :: X) = ['n', 'b', 's', 'p', ';'] ++ X from rfl,
          show (5 : Nat) = ['n', 'b', 's', 'p', ';'].length from rfl, skip_append, ih']
    rw [if_neg h2]
    by_cases h3 : c = '<'
    · subst h3
      simp only [if_true, eLt, List.cons_append, List.nil_append]
      rw [aux_cons]
      simp only [if_true]
      have : matchRef ('l' :: 't' :: ';' :: X) = some ('<', 3) := by
        simp [matchRef, refs, List.findSome?]
      rw [this]
      simp only []
      rw [show ('l' :: 't' :: ';' :: X) = ['l', 't', ';'] ++ X from rfl,
          show (3 : Nat) = ['l', 't', ';'].length from rfl, skip_append, ih']
    rw [if_neg h3]
    by_cases h4 : c = '>'
    · subst h4
      simp only [if_true, eGt, List.cons_append, List.nil_append]
      rw [aux_cons]
      simp only [if_true]
      have : matchRef ('g' :: 't' :: ';' :: X) = some ('>', 3) := by
        simp [matchRef, refs, List.findSome?]
      rw [this]
      simp only []
      rw [show ('g' :: 't' :: ';' :: X) = ['g', 't', ';'] ++ X from rfl,
          show (3 : Nat) = ['g', 't', ';'].length from rfl, skip_append, ih']
    rw [if_neg h4]
    by_cases h5 : c = '"' ∧ attr = true
    · obtain ⟨rfl, rfl⟩ := h5
      simp only [and_self, if_true, eQuot, List.cons_append, List.nil_append]
      rw [aux_cons]
      simp only [if_true]
      have : matchRef ('q' :: 'u' :: 'o' :: 't' :: ';' :: X) = some ('"', 5) := by
        simp [matchRef, refs, List.findSome?]
      rw [this]
      simp only []
      rw [show ('q' :: 'u' :: 'o' :: 't' :: ';' :: X) = ['q', 'u', 'o', 't', ';'] ++ X from rfl,
          show (5 : Nat) = ['q', 'u', 'o', 't', ';'].length from rfl, skip_append, ih']
    rw [if_neg h5]
    -- an ordinary character
    have hstop : c ≠ stopChar attr := by
      cases attr
      · simpa [stopChar] using h3
      · simp only [stopChar, if_true]; intro h; exact h5 ⟨h, rfl⟩
    simp only [List.cons_append, List.nil_append]
    rw [aux_cons]
    simp only [if_neg h1, if_neg hstop, if_neg hc.1, if_neg hc.2, ih']

/-- no character of escaped text can open a tag, close one, or (attribute mode) close the value -/
theorem escape_chars (attr : Bool) (s : List Char) :
    ∀ x ∈ escape attr s, x ≠ '<' ∧ x ≠ '>' ∧ (attr = true → x ≠ '"') := by
  intro x hx
  simp only [escape, List.mem_flatMap] at hx
  obtain ⟨c, _, hxc⟩ := hx
  unfold escChar at hxc
  by_cases h1 : c = '&'
  · rw [if_pos h1] at hxc
    simp only [eAmp, List.mem_cons, List.mem_nil_iff, or_false] at hxc
    rcases hxc with rfl | rfl | rfl | rfl | rfl <;> exact ⟨by decide, by decide, fun _ => by decide⟩
  rw [if_neg h1] at hxc
  by_cases h2 : c = '\u00A0'
  · rw [if_pos h2] at hxc
    simp only [eNbsp, List.mem_cons, List.mem_nil_iff, or_false] at hxc
    rcases hxc with rfl | rfl | rfl | rfl | rfl | rfl <;> exact ⟨by decide, by decide, fun _ => by decide⟩
  rw [if_neg h2] at hxc
  by_cases h3 : c = '<'
  · rw [if_pos h3] at hxc
    simp only [eLt, List.mem_cons, List.mem_nil_iff, or_false] at hxc
    rcases hxc with rfl | rfl | rfl | rfl <;> exact ⟨by decide, by decide, fun _ => by decide⟩
  rw [if_neg h3] at hxc
  by_cases h4 : c = '>'
  · rw [if_pos h4] at hxc
    simp only [eGt, List.mem_cons, List.mem_nil_iff, or_false] at hxc
    rcases hxc with rfl | rfl | rfl | rfl <;> exact ⟨by decide, by decide, fun _ => by decide⟩
  rw [if_neg h4] at hxc
  by_cases h5 : c = '"' ∧ attr = true
  · rw [if_pos h5] at hxc
    simp only [eQuot, List.mem_cons, List.mem_nil_iff, or_false] at hxc
    rcases hxc with rfl | rfl | rfl | rfl | rfl | rfl <;> exact ⟨by decide, by decide, fun _ => by decide⟩
  rw [if_neg h5] at hxc
  simp only [List.mem_cons, List.mem_nil_iff, or_false] at hxc
  subst hxc
  exact ⟨h3, h4, fun ha hq => h5 ⟨hq, ha⟩⟩

end H5V.Lemmas.HtmlSerUnescape
