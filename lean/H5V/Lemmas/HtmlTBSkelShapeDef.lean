import H5V.Lemmas.HtmlTBSkelShapeP
import H5V.Lemmas.HtmlTBSkelShapeAttr
/-!
C06, second invariant layer: the stack-shape invariant `ShapeAt s r up ph`.

`r` is the `html` root (bottom of the stack, the `html` child of the document), `up` the rest of the
stack, `ph` the phase of the parse as far as the children of `r` are concerned:
`p0` no `head` yet, `p1` `head` only, `pb b` `head` + `body`, `pf fs` `head` + `frameset` (+ extras).
-/
namespace H5V.Props.C06
open H5V.Model.Dom hiding Str
open H5V.Model.HtmlTB hiding Str
open H5V.Lemmas.Dom

def hN (s : String) : EName := ⟨nsHtml, s.toList⟩

/-! The name tests of the model compare character lists. On a name given by a literal they are comparisons of
strings, which `simp` decides at once, whereas `decide` has to evaluate `String.toList` on every literal. -/

theorem toList_beq (s a : String) : (s.toList == a.toList) = (a == s) := by
  by_cases h : a = s
  · rw [h, beq_self_eq_true, beq_self_eq_true]
  · rw [beq_eq_false_iff_ne.mpr h, beq_eq_false_iff_ne.mpr fun e => h (String.toList_inj.mp e).symm]

theorem isOneOf_hN (a : String) (l : List String) : isOneOf (hN a).loc l = l.contains a := by
  show isOneOf a.toList l = _
  unfold isOneOf
  simp only [toList_beq, List.contains_eq_any_beq]

theorem isName_hN (a b : String) : isName (hN a).loc b = (a == b) := toList_beq b a

theorem htmlIn_hN (a : String) (l : List String) : htmlIn (hN a) l = l.contains a := by
  unfold htmlIn
  rw [isOneOf_hN]
  show (nsHtml == nsHtml && _) = _
  rw [beq_self_eq_true, Bool.true_and]

theorem hN_inj {a b : String} : hN a = hN b ↔ a = b :=
  ⟨fun h => String.toList_inj.mp (congrArg EName.loc h), fun h => h ▸ rfl⟩

attribute [lit_name] htmlIn_hN isOneOf_hN isName_hN hN_inj tableScope tableBodyContext tableRowContext tdTh
  tableOuterBody headingTag cursoryImpliedEnd cursoryImpliedEndNames

def fmtNames : List String :=
  ["a", "b", "big", "code", "em", "font", "i", "nobr", "s", "small", "strike", "strong", "tt", "u"]
/-- an HTML formatting element (the ones the list of active formatting elements holds) -/
def isFmtE (n : EName) : Bool := htmlIn n fmtNames

/-- the elements whose position on the stack is governed by the table rules -/
def structNames : List String :=
  ["html", "table", "template", "caption", "colgroup", "tbody", "td", "tfoot", "th", "thead", "tr"]
def isStruct (n : EName) : Bool := htmlIn n structNames
/-- names that other table elements must sit directly on -/
def isPredName (n : EName) : Bool := htmlIn n ["table", "template", "tbody", "thead", "tfoot", "tr"]

/-- may `c` sit directly on `p` -/
def predOk (c p : EName) : Bool :=
  if htmlIn c ["tr"] then htmlIn p ["tbody", "thead", "tfoot", "template"]
  else if htmlIn c ["tbody", "thead", "tfoot", "caption", "colgroup"] then htmlIn p ["table", "template"]
  else if htmlIn c ["td", "th"] then htmlIn p ["tr", "template"]
  else true

/-- is `c` one of the elements with a prescribed predecessor -/
def constrained (c : EName) : Bool := htmlIn c ["tr", "tbody", "thead", "tfoot", "caption", "colgroup", "td", "th"]

attribute [lit_name] fmtNames isFmtE structNames isStruct isPredName constrained

theorem predOk_of_not_constrained {c p : EName} (h : constrained c = false) : predOk c p = true := by
  unfold predOk
  unfold constrained at h
  have h1 : htmlIn c ["tr"] = false := by
    unfold htmlIn isOneOf at h ⊢; simp only [List.any_cons, List.any_nil, Bool.or_false, Bool.and_eq_false_iff] at h ⊢
    rcases h with h | h
    · exact Or.inl h
    · right; simp only [Bool.or_eq_false_iff] at h; exact h.1
  have h2 : htmlIn c ["tbody", "thead", "tfoot", "caption", "colgroup"] = false := by
    unfold htmlIn isOneOf at h ⊢; simp only [List.any_cons, List.any_nil, Bool.or_false, Bool.and_eq_false_iff] at h ⊢
    rcases h with h | h
    · exact Or.inl h
    · right; simp only [Bool.or_eq_false_iff] at h ⊢; exact ⟨h.2.1, h.2.2.1, h.2.2.2.1, h.2.2.2.2.1, h.2.2.2.2.2.1⟩
  have h3 : htmlIn c ["td", "th"] = false := by
    unfold htmlIn isOneOf at h ⊢; simp only [List.any_cons, List.any_nil, Bool.or_false, Bool.and_eq_false_iff] at h ⊢
    rcases h with h | h
    · exact Or.inl h
    · right; simp only [Bool.or_eq_false_iff] at h ⊢; exact ⟨h.2.2.2.2.2.2.1, h.2.2.2.2.2.2.2⟩
  simp [h1, h2, h3]

/-- the table grammar of the stack: adjacent pairs -/
def TG (name : Id → EName) (l : List Id) : Prop :=
  ∀ pre x y post, l = pre ++ x :: y :: post → predOk (name y) (name x) = true

theorem TG.prefix {name : Id → EName} {l l' : List Id} {p : List Id} (h : TG name l) (hl : l = l' ++ p) : TG name l' := by
  intro pre x y post hs
  exact h pre x y (post ++ p) (by rw [hl, hs]; simp)

theorem TG.nil (name : Id → EName) : TG name [] := by
  intro pre x y post h; cases pre <;> simp at h

theorem TG.single (name : Id → EName) (a : Id) : TG name [a] := by
  intro pre x y post h
  cases pre with
  | nil => simp at h
  | cons b r => cases r <;> simp at h

theorem nil_or_concat (l : List Id) : l = [] ∨ ∃ l0 z, l = l0 ++ [z] := by
  induction l with
  | nil => exact Or.inl rfl
  | cons a r ih =>
    rcases ih with rfl | ⟨l0, z, rfl⟩
    · exact Or.inr ⟨[], a, rfl⟩
    · exact Or.inr ⟨a :: l0, z, rfl⟩

/-- pushing an element that may sit on the current node -/
theorem TG.snoc {name : Id → EName} {l : List Id} {x : Id} (h : TG name l)
    (hx : ∀ t, l.getLast? = some t → predOk (name x) (name t) = true) : TG name (l ++ [x]) := by
  intro pre a b post hs
  rcases nil_or_concat post with hpost | ⟨post0, z, hpost⟩
  · subst hpost
    have : l ++ [x] = (pre ++ [a]) ++ [b] := by rw [hs]; simp
    obtain ⟨h1, h2⟩ := List.append_inj' this rfl
    simp at h2; subst h2
    exact hx a (by rw [h1]; simp)
  · subst hpost
    have : l ++ [x] = (pre ++ a :: b :: post0) ++ [z] := by rw [hs]; simp
    obtain ⟨h1, _⟩ := List.append_inj' this rfl
    exact h pre a b _ h1

theorem TG.congr {name name' : Id → EName} {l : List Id} (h : TG name l) (hn : ∀ x ∈ l, name' x = name x) : TG name' l := by
  intro pre x y post hs
  rw [hn x (by rw [hs]; simp), hn y (by rw [hs]; simp)]
  exact h pre x y post hs

/-! ### the children of the root -/

inductive Phase
  | p0
  | p1
  | pb (b : Id)
  | pf (fs : Id)
deriving DecidableEq

def Phase.isPf : Phase → Prop
  | .pf _ => True
  | _ => False

/-- names that do not occur on the stack above its second entry; `frameset`s nest in the frameset phase only -/
def bhNames : Phase → List String
  | .pf _ => ["html", "body", "head"]
  | _ => ["html", "body", "head", "frameset"]

/-- the element children of `r` -/
def rootElems (d : Dom) (r : Id) : List Id := (d.childrenOf r).filter d.isElement

/-- what may be a child of the root: an element, a comment, whitespace text
(`isAsciiWhitespace`, the class the model uses) -/
def KidOkR (d : Dom) (c : Id) : Prop :=
  d.isElement c = true ∨ (∃ t, d.dataOf c = some (.comment t)) ∨
    ∃ t, d.dataOf c = some (.text t) ∧ t.all isAsciiWhitespace = true

/-- the element children of the root, by phase -/
def ElemsOk (d : Dom) (head : Option Id) (r : Id) : Phase → Prop
  | .p0 => head = none ∧ rootElems d r = []
  | .p1 => ∃ h, head = some h ∧ rootElems d r = [h] ∧ nm d h = hN "head"
  | .pb b => ∃ h, head = some h ∧ rootElems d r = [h, b] ∧ nm d h = hN "head" ∧ nm d b = hN "body"
  | .pf fs => ∃ h ex, head = some h ∧ rootElems d r = h :: fs :: ex ∧ nm d h = hN "head" ∧
      nm d fs = hN "frameset" ∧ ∀ x ∈ ex, nm d x = hN "noframes" ∨ isFmtE (nm d x) = true

/-! ### mode and stack -/

/-- what a table mode needs on the stack above the root -/
def Need (d : Dom) (m : Mode) (up : List Id) : Prop :=
  match m with
  | .inTable => ∃ x ∈ up, htmlIn (nm d x) ["table", "template"] = true
  | .inTableBody => ∃ x ∈ up, htmlIn (nm d x) ["tbody", "tfoot", "thead", "template"] = true
  | .inRow => ∃ x ∈ up, htmlIn (nm d x) ["tr", "template"] = true
  | .inCell => ∃ x ∈ up, htmlIn (nm d x) ["td", "th"] = true
  | .inTemplate => ∃ x ∈ up, htmlIn (nm d x) ["template"] = true
  | _ => True

/-- the three stack bases of the body-like modes: `body` second (body phase); `head`, `template`
(a template opened in the head); `template` (a template opened after the head) -/
def BodyBase (d : Dom) (head : Option Id) (up : List Id) (ph : Phase) : Prop :=
  (∃ b up', up = b :: up' ∧ ph = .pb b ∧ ∀ h, head = some h → h ∉ up) ∨
  (∃ h t up', head = some h ∧ up = h :: t :: up' ∧ nm d t = hN "template" ∧ ph = .p1) ∨
  (∃ t up', up = t :: up' ∧ nm d t = hN "template" ∧ ph = .p1 ∧ ∀ h, head = some h → h ∉ up)

def isBL (m : Mode) : Bool :=
  m == .inBody || m == .inTable || m == .inCaption || m == .inColumnGroup || m == .inTableBody || m == .inRow ||
    m == .inCell || m == .inTemplate

/-- the stack `r :: up` and the phase fit the insertion mode `m` (modes other than Text / InTableText) -/
def Fits (d : Dom) (head : Option Id) (m : Mode) (up : List Id) (ph : Phase) : Prop :=
  match m with
  | .beforeHead => up = [] ∧ ph = .p0
  | .inHead => ∃ h, head = some h ∧ up = [h] ∧ ph = .p1
  | .inHeadNoscript => ∃ h x, head = some h ∧ up = [h, x] ∧ ph = .p1 ∧ nm d x = hN "noscript"
  | .afterHead => up = [] ∧ ph = .p1
  | .afterBody => ∃ b up', up = b :: up' ∧ ph = .pb b ∧ ∀ h, head = some h → h ∉ up
  | .afterAfterBody => ∃ b up', up = b :: up' ∧ ph = .pb b ∧ ∀ h, head = some h → h ∉ up
  | .inFrameset => ∃ fs up', up = fs :: up' ∧ ph = .pf fs ∧ ∀ x ∈ up, nm d x = hN "frameset"
  | .afterFrameset => up = [] ∧ ph.isPf
  | .afterAfterFrameset => ph.isPf ∧ ∀ x ∈ up, isFmtE (nm d x) = true
  | .inBody => BodyBase d head up ph ∧ Need d .inBody up
  | .inTable => BodyBase d head up ph ∧ Need d .inTable up
  | .inCaption => BodyBase d head up ph ∧ Need d .inCaption up
  | .inColumnGroup => BodyBase d head up ph ∧ Need d .inColumnGroup up
  | .inTableBody => BodyBase d head up ph ∧ Need d .inTableBody up
  | .inRow => BodyBase d head up ph ∧ Need d .inRow up
  | .inCell => BodyBase d head up ph ∧ Need d .inCell up
  | .inTemplate => BodyBase d head up ph ∧ Need d .inTemplate up
  | _ => False

/-- … including Text (the original mode fits the stack below the raw-text element) and InTableText -/
def FitsM (s : State) (up : List Id) (ph : Phase) : Prop :=
  match s.mode with
  | .text => ∃ om up0 x, s.origMode = some om ∧ up = up0 ++ [x] ∧ om ≠ .text ∧ om ≠ .inTableText ∧
      Fits s.dom s.headElem om up0 ph ∧ htmlIn (nm s.dom x) ["table", "tbody", "tfoot", "thead", "tr", "template"] = false ∧
      (nm s.dom x).ns = nsHtml
  | .inTableText => ∃ om, s.origMode = some om ∧ (om = .inTable ∨ om = .inTableBody ∨ om = .inRow) ∧
      Fits s.dom s.headElem om up ph
  | m => Fits s.dom s.headElem m up ph

/-- number of `template` elements on the stack -/
def tcount (d : Dom) (l : List Id) : Nat := l.countP (fun x => nm d x == hN "template")

def tmplModeOk (m : Mode) : Bool :=
  m == .inTemplate || m == .inTable || m == .inColumnGroup || m == .inTableBody || m == .inRow || m == .inBody


end H5V.Props.C06
