import H5V.Lemmas.HtmlTBContractRules1
/-!
# TreeSink contract for the HTML tree builder: InHead and AfterHead

* `cpp_stepInHead` / `headH` — the "in head" rules at the `CPP` level (no `SAnc`);
* `rs_stepAfterHead` — the "after head" rules; the arm that runs `stepInHead` with the head element
  pushed on top of the stack is proved at the `SatC` level with a valued spec of `removeFromStack`.
-/
namespace H5V.Lemmas.TBC
open H5V.Model.HtmlTB
open H5V.Model.Dom (Id QualName Attr NodeOrText SinkOp Output ElementFlags QuirksMode Dom NodeData Node Contract)
open H5V.Lemmas.TBSafe (IsEl nm sigOf Ext)
variable {d0 : Dom}

/- `apply` finds the arity of its goal by `whnf` at default transparency; with `SatC` unfoldable that runs the code
of the rule on a symbolic state at every step of the walk. -/
attribute [local irreducible] SatC

/-! ### leaves for InHead -/

@[cp]
theorem cp_extractEncoding {c : List Id} {content : Str} :
    CP d0 c (extractEncoding content) (fun _ => []) := by
  unfold H5V.Model.HtmlTB.extractEncoding
  cases h : H5V.Model.Meta.extract (utf8Bytes content) with
  | error e =>
    dsimp only
    refine cp_throw (Or.inr (Or.inl ?_))
    rw [String.toList_append]; exact TBSafe.isPrefixOf_append _ _
  | ok o =>
    cases o with
    | none => exact cp_pure_nil _
    | some bytes =>
      dsimp only
      cases h2 : String.fromUTF8? (ByteArray.mk bytes.toArray) with
      | some s => exact cp_pure_nil _
      | none => exact cp_throw (Or.inl (by decide +kernel))


theorem cpp_metaArm {c : List Id} {tag : Tag} {tok : Token} (ha : AttrsOk tag.attrs) :
    CPP d0 c (do
      let _ ← insertAndPopElementFor tag
      if !isName tag.name "meta" then pure .doneAckSelfClosing
      else
        match tag.getAttribute "charset" with
        | some charset => pure (.encodingIndicator charset)
        | none =>
          let isContentType := match tag.getAttribute "http-equiv" with
            | some v => eqIgnoreAsciiCase v "content-type".toList
            | none => false
          if isContentType then
            match tag.getAttribute "content" with
            | none => pure .doneAckSelfClosing
            | some content =>
              match ← extractEncoding content with
              | some enc => pure (.encodingIndicator enc)
              | none => pure .doneAckSelfClosing
          else pure .doneAckSelfClosing) (fun _ => []) (ResLate tok) := by
  refine cpp_bind (cp_insertAndPopElementFor (attrKeysNodup_of_attrsOk ha)) (fun _ => ?_)
  refine cpp_ite (fun _ => cpp_pure_nil _ trivial) (fun _ => ?_)
  cases h1 : tag.getAttribute "charset" with
  | some charset => exact cpp_pure_nil _ trivial
  | none =>
    dsimp only
    refine cpp_ite (fun _ => ?_) (fun _ => cpp_pure_nil _ trivial)
    cases h2 : tag.getAttribute "content" with
    | none => exact cpp_pure_nil _ trivial
    | some content =>
      dsimp only
      refine cpp_bind cp_extractEncoding (fun r => ?_)
      cases r with
      | none => exact cpp_pure_nil _ trivial
      | some enc => exact cpp_pure_nil _ trivial

/-- the `<script>` arm: the answer is `toRawTextMode`'s -/
theorem cpp_scriptArm {c : List Id} {tag : Tag} {P : ProcessResult → Prop} (ha : AttrsOk tag.attrs)
    (hp : P (.toRawData .scriptData)) :
    CPP d0 c (do
      let elem ← createElementWithFlags (htmlQual "script".toList) tag.attrs tag.hadDup
      if ← isFragment then sinkUnit (.markScriptAlreadyStarted elem)
      insertAppropriately (.node elem) none
      push elem
      toRawTextMode .scriptData) (fun _ => []) P := by
  refine cpp_of_cp_ok (cp_scriptArm (attrKeysNodup_of_attrsOk ha)) ?_
  intro s a s' h
  obtain ⟨elem, s1, _, h2⟩ := ok_bind h
  obtain ⟨b, s2, _, h3⟩ := ok_bind h2
  dsimp only at h3
  refine ok_ite (P := P) h3 ?_ ?_
  · intro s3 s4 r h4
    obtain ⟨_, s5, _, h5⟩ := ok_bind h4
    obtain ⟨_, s6, _, h6⟩ := ok_bind h5
    obtain ⟨_, s7, _, h7⟩ := ok_bind h6
    rw [res_toRawTextMode h7]; exact hp
  · intro s3 s4 r h4
    obtain ⟨_, s5, _, h5⟩ := ok_bind h4
    obtain ⟨_, s6, _, h6⟩ := ok_bind h5
    rw [res_toRawTextMode h6]; exact hp

/-- a tree-neutral sink query answering a Boolean -/
theorem cp_sinkBool_nt {c : List Id} {op : SinkOp} (hnt : nonTree op = true)
    (hc : ∀ s, CB d0 s → CtxOk c s → Contract s.dom op) : CP d0 c (sinkBool op) (fun _ => []) := by
  unfold sinkBool
  refine cp_bind (cp_sink_nt hnt hc) ?_
  intro out
  cases out <;> first | exact cp_pure_nil _ | exact cp_throw (Or.inl (by decide +kernel))

theorem contract_attach {d : Dom} {l t : Id} {attrs : List Attr} (hl : IsEl d l) (ht : IsEl d t)
    (ha : Dom.attrKeysNodup attrs = true) : Contract d (.attachDeclarativeShadow l t attrs) := by
  show (d.isElement l && d.isElement t && Dom.attrKeysNodup attrs) = true
  rw [isElement_of_isEl hl, isElement_of_isEl ht, ha]; rfl

/-- the tail of the declarative-shadow branch of `<template>` -/
theorem cpp_attachTail {c : List Id} {tag : Tag} {tok : Token} {shadowHost : Id} (ha : AttrsOk tag.attrs)
    (hs : shadowHost ∈ c) :
    CPP d0 c (do
      let template ← insertForeignElement tag nsHtml true
      let succeeded ← sinkBool (.attachDeclarativeShadow shadowHost template tag.attrs)
      if (!succeeded) = true then do
          let _ ← pop
          let _ ← insertElementFor tag
          pure ProcessResult.done
        else pure ProcessResult.done) (fun _ => []) (ResLate tok) := by
  have hk := attrKeysNodup_of_attrsOk ha
  refine cpp_bind (cp_insertForeignElement hk) (fun template => ?_)
  refine cpp_bind (R := fun _ => []) (cp_sinkBool_nt rfl (fun s hcb hc => ?_)) (fun b => ?_)
  · exact contract_attach (hc shadowHost (by simp [hs])) (hc template (by simp)) hk
  · rs_walk

theorem cpp_templateStartArm {c : List Id} {tag : Tag} {tok : Token} (ha : AttrsOk tag.attrs) :
    CPP d0 c (do
      pushMarker
      setFramesetOk false
      setMode .inTemplate
      modS fun s => { s with templateModes := s.templateModes ++ [.inTemplate] }
      if ← shouldAttachDeclarativeShadow tag then
        let s ← getS
        let shadowHost ← match s.openElems.getLast? with
          | some h => pure h
          | none => panicAt "unwrap-none" "rules.rs:276" "open_elems.last().unwrap()"
        let shadowHost ←
          if s.contextElem.isSome && s.openElems.length == 1 then
            match s.contextElem with
            | some c => pure c
            | none => panicAt "unwrap-none" "rules.rs:278" "context_elem unwrap"
          else pure shadowHost
        let template ← insertForeignElement tag nsHtml true
        let succeeded ← sinkBool (.attachDeclarativeShadow shadowHost template tag.attrs)
        if !succeeded then
          let _ ← pop
          let _ ← insertElementFor tag
      else
        let _ ← insertElementFor tag
      pure .done) (fun _ => []) (ResLate tok) := by
  refine cpp_bind cp_pushMarker (fun _ => ?_)
  refine cpp_bind cp_setFramesetOk (fun _ => ?_)
  refine cpp_bind (cp_setMode (by decide)) (fun _ => ?_)
  refine cpp_bind (cp_modS_tmPush (by decide)) (fun _ => ?_)
  refine cpp_bind cp_shouldAttachDeclarativeShadow (fun b => ?_)
  refine cpp_ite (fun _ => ?_) (fun _ => by rs_walk)
  refine cpp_getS_bind (fun s0 => ?_)
  cases hl : s0.openElems.getLast? with
  | none =>
    dsimp only
    exact cpp_panicAt_bind
  | some h =>
    dsimp only
    simp only [pure_bind]
    refine cpp_ite (fun _ => ?_) (fun _ => ?_)
    · cases hx : s0.contextElem with
      | none =>
        dsimp only
        exact cpp_panicAt_bind
      | some cx =>
        dsimp only
        exact cpp_attachTail ha (mem_ctxElem hx)
    · exact cpp_attachTail ha (mem_open (List.mem_of_getLast? hl))

theorem cpp_stepInHead : ∀ tok, TokOk tok → CPP d0 [] (stepInHead tok) (fun _ => []) (ResLate tok) := by
  unfold H5V.Model.HtmlTB.stepInHead
  intro tok ht
  cases tok with
  | chars st text => cases st <;> (dsimp only; rs_walk)
  | tag tag =>
    have ha : AttrsOk tag.attrs := ht
    dsimp only
    refine cpp_ite (fun _ => ?_) (fun _ => ?_)
    · rs_walk
    refine cpp_ite (fun _ => ?_) (fun _ => ?_)
    · exact cpp_metaArm ha
    refine cpp_ite (fun _ => ?_) (fun _ => ?_)
    · rs_walk
    refine cpp_ite (fun _ => ?_) (fun _ => ?_)
    · rs_walk
    refine cpp_ite (fun _ => ?_) (fun _ => ?_)
    · exact cpp_scriptArm ha trivial
    refine cpp_ite (fun _ => ?_) (fun _ => ?_)
    · rs_walk
    refine cpp_ite (fun _ => ?_) (fun _ => ?_)
    · rs_walk
    refine cpp_ite (fun _ => ?_) (fun _ => ?_)
    · exact cpp_templateStartArm ha
    refine cpp_ite (fun _ => ?_) (fun _ => ?_)
    · rs_walk
    rs_walk
  | _ => dsimp only; rs_walk

theorem headH : HeadH d0 := cpp_stepInHead

/-! ### AfterHead -/

theorem sublist_snoc_cases {sub L : List Id} {h : Id} (hs : sub.Sublist (L ++ [h])) :
    sub.Sublist L ∨ ∃ l1, sub = l1 ++ [h] ∧ l1.Sublist L := by
  obtain ⟨l1, l2, e, h1, h2⟩ := List.sublist_append_iff.mp hs
  cases h2 with
  | cons _ h3 =>
    cases h3
    left; rw [e, List.append_nil]; exact h1
  | cons_cons _ h3 =>
    cases h3
    right; exact ⟨l1, e, h1⟩

/-- erasing the last occurrence of `h` from a sublist of `L ++ [h]` leaves a sublist of `L` -/
theorem sublist_snoc_erase {pre post L : List Id} {h : Id} (hs : (pre ++ h :: post).Sublist (L ++ [h]))
    (hn : h ∉ post) : (pre ++ post).Sublist L := by
  rcases sublist_snoc_cases hs with h1 | ⟨l1, e, h1⟩
  · exact (((List.sublist_cons_self h post).append_left pre)).trans h1
  · rcases List.eq_nil_or_concat post with rfl | ⟨p3, z, rfl⟩
    · have := (List.append_inj' e rfl).1
      rw [List.append_nil, this]; exact h1
    · exfalso
      have e' : (pre ++ h :: p3) ++ [z] = l1 ++ [h] := by simpa using e
      have hz : [z] = [h] := (List.append_inj' e' rfl).2
      have : z = h := by simpa using hz
      subst this
      exact hn (by simp)

/-- **`remove_from_stack`, valued**: the last occurrence of `elem` is erased -/
theorem satcv_removeFromStack {elem : Id} {s : State} (hcb : CB d0 s) (hel : IsEl s.dom elem) :
    SatC (removeFromStack elem) s (fun _ s' => CB d0 s' ∧ GrowRel s s' ∧
      ((elem ∉ s.openElems ∧ s'.openElems = s.openElems) ∨
       (∃ pre post, s.openElems = pre ++ elem :: post ∧ elem ∉ post ∧ s'.openElems = pre ++ post))) := by
  unfold removeFromStack
  refine (satcv_rposition (P := fun x => elem == x) hcb
    (fun x hx => answersC_sameNode_left hel (hcb.h.open_el x hx))).bind ?_
  rintro r s1 ⟨rfl, hq1⟩
  rcases TBSafe.rposL_spec (P := fun x => elem == x) s.openElems with ⟨h1, h2⟩ | ⟨pre, x, post, heq, h1, h2, h3⟩
  · rw [h1]
    refine satc_pure ⟨hq1.cb, hq1.g, Or.inl ⟨?_, hq1.openElems⟩⟩
    intro hmem
    have := h2 elem hmem
    simp at this
  · rw [h1]
    dsimp only
    have hx : elem = x := beq_iff_eq.mp h2
    subst hx
    refine satc_modS_bind ?_
    obtain ⟨hcb2, hg2⟩ := cb_dropStack hq1.cb (List.eraseIdx_sublist s1.openElems pre.length)
    refine satc_sinkUnit hcb2.d (contract_pop (hel.ext hq1.ext)) ?_
    intro d' out ha hd
    have hq3 := q2_of_nt hcb2 rfl ha hd
    refine ⟨hq3.cb, (hq1.g.trans hg2).trans hq3.g, Or.inr ⟨pre, post, heq, ?_, ?_⟩⟩
    · intro hm
      have := h3 elem hm
      simp at this
    · show s1.openElems.eraseIdx pre.length = pre ++ post
      rw [hq1.openElems, heq, TBSafe.eraseIdx_append_cons]

/-- (hypothesis of `rs_stepAfterHead`) the head pointer, if it is an HTML `template`, has `Document`
template contents — `HL.head` records `IsEl` only -/
def HeadTc (d0 : Dom) : Prop := ∀ s, CB d0 s → ∀ h, s.headElem = some h → TcDoc s.dom h

/-- the stack after `push head; stepInHead; remove_from_stack(head)` -/
theorem stack_after_headDeleg {L S2 S3 sub news : List Id} {head : Id} (e2 : S2 = sub ++ news)
    (hsub : sub.Sublist (L ++ [head])) (hnn : head ∉ news)
    (hst : (head ∉ S2 ∧ S3 = S2) ∨ (∃ pre post, S2 = pre ++ head :: post ∧ head ∉ post ∧ S3 = pre ++ post)) :
    ∃ sub', S3 = sub' ++ news ∧ sub'.Sublist L := by
  rcases hst with ⟨hnot, e3⟩ | ⟨pre, post, e2', hnpost, e3⟩
  · refine ⟨sub, by rw [e3, e2], ?_⟩
    rcases sublist_snoc_cases hsub with h1 | ⟨l1, e, _⟩
    · exact h1
    · exact (hnot (by rw [e2, e]; simp)).elim
  · rw [e2] at e2'
    rcases List.append_eq_append_iff.mp e2' with ⟨a', _, hn⟩ | ⟨c', hs, hp⟩
    · exact (hnn (by rw [hn]; simp)).elim
    · cases c' with
      | nil =>
        rw [List.nil_append] at hp
        exact (hnn (by rw [← hp]; simp)).elim
      | cons x c'' =>
        rw [List.cons_append] at hp
        obtain ⟨hx, hp'⟩ := List.cons.inj hp
        subst hx
        refine ⟨pre ++ c'', by rw [e3, hp', List.append_assoc], ?_⟩
        rw [hs] at hsub
        exact sublist_snoc_erase hsub (fun hm => hnpost (by rw [hp']; exact List.mem_append_left _ hm))

/-- the arm of AfterHead that runs the "in head" rules with the head element pushed -/
theorem satc_headDeleg (hH : HeadH d0) {tok : Token} (ht : TokOk tok) {s : State} {head : Id}
    (hcb : CB d0 s) (hsa : SAnc s.dom s.openElems) (hel : IsEl s.dom head) (htc : TcDoc s.dom head) :
    SatC (do
      push head
      let result ← stepInHead tok
      removeFromStack head
      pure result) s
      (fun a s' => CB d0 s' ∧ SAnc s'.dom s'.openElems ∧ Ext s.dom s'.dom ∧ CtxOk [] s' ∧ ResLate tok a) := by
  unfold H5V.Model.HtmlTB.push
  refine satc_modS_bind ?_
  have hcb1 := hcb.push hel htc
  refine (hH.cpp (c := []) ht _ hcb1 (CtxOk.nil _)).bind ?_
  rintro res s2 ⟨hcb2, g12, -, hres⟩
  refine (satcv_removeFromStack hcb2 (hel.ext g12.ext)).bind ?_
  rintro _ s3 ⟨hcb3, g23, hst⟩
  have g13 := g12.trans g23
  obtain ⟨sub, news, e2, hsub, hnews, hpw⟩ := g12.stack
  have hlt : head < s.dom.size := lt_of_isEl hel
  have hnn : head ∉ news := fun hm => Nat.lt_irrefl _ (Nat.lt_of_lt_of_le hlt (hnews head hm).1)
  obtain ⟨sub', e3, hsub'⟩ := stack_after_headDeleg e2 hsub hnn hst
  have g : GrowRel s s3 :=
    ⟨g13.ext, g13.kext, g13.size, g13.oldPar, g13.newPar,
      ⟨sub', news, e3, hsub', fun r hr => ⟨(hnews r hr).1, Nat.lt_of_lt_of_le (hnews r hr).2 g23.size⟩, hpw⟩⟩
  exact satc_pure ⟨hcb3, SAnc.grow hcb.d.inv.wf hcb.h.lt hsa g, g.ext, CtxOk.nil _, hres⟩

/-- relative to `HeadTc d0`, which is a field of `HL` (`headTc` below discharges it) -/
theorem rs_stepAfterHead (hH : HeadH d0) (hB : BodyH d0) (hT : HeadTc d0) :
    ∀ tok, TokOk tok → RS d0 tok (stepAfterHead tok) := by
  unfold H5V.Model.HtmlTB.stepAfterHead
  intro tok ht
  unfold RS
  cases tok with
  | chars st text => cases st <;> (dsimp only; rs_walk)
  | tag tag =>
    have ha : AttrsOk tag.attrs := ht
    dsimp only
    refine cpsp_ite (fun _ => ?_) (fun _ => ?_)
    · rs_walk
    refine cpsp_ite (fun _ => ?_) (fun _ => ?_)
    · rs_walk
    refine cpsp_ite (fun _ => ?_) (fun _ => ?_)
    · rs_walk
    refine cpsp_ite (fun _ => ?_) (fun _ => ?_)
    · refine cpsp_bind_cp cp_unexpected (fun _ => ?_)
      refine cpsp_getS_bind_at (fun s0 => ?_)
      intro hcb hsa hc
      cases hh : s0.headElem with
      | none => exact satc_panicAt
      | some head =>
        dsimp only
        exact satc_headDeleg hH ht hcb hsa (hcb.h.head head hh) (hT s0 hcb head hh)
    rs_walk
  | _ => dsimp only; rs_walk

/-- the head element pointer names an element with Document template contents (or not a template) -/
theorem headTc : HeadTc d0 := fun _ hcb h hh => hcb.h.headTc h hh

theorem rs_stepAfterHead' (hH : HeadH d0) (hB : BodyH d0) : ∀ tok, TokOk tok → RS d0 tok (stepAfterHead tok) :=
  rs_stepAfterHead hH hB headTc

end H5V.Lemmas.TBC
