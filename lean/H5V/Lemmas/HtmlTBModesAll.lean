import H5V.Lemmas.HtmlTBModesSmall1
import H5V.Lemmas.HtmlTBModesSmall2
import H5V.Lemmas.HtmlTBModesHead
import H5V.Lemmas.HtmlTBModesForeign
import H5V.Lemmas.HtmlTBModesDoctype
import H5V.Lemmas.HtmlTBModesBody1
import H5V.Lemmas.HtmlTBModesBody2
import H5V.Lemmas.HtmlTBModesBody3
import H5V.Lemmas.HtmlTBModesBody4
import H5V.Lemmas.HtmlTBModesBody5
import H5V.Lemmas.HtmlTBModesTableText
/-!
Assembly: the "in body" rule function, and the simulation of every insertion mode.
-/
namespace H5V.Lemmas.HtmlTBModes
open H5V.Model.HtmlTB
open H5V.Model.Dom (Id SinkOp Output Dom QualName Attr NodeOrText ElementFlags NodeData QuirksMode)
open H5V.Lemmas.HtmlTBAlgo
open H5V.Lemmas.TBSafe (TI HInv SInv Rooted ForeignTop textTok)
open H5V.Spec.TreeAlgo2 (Elem Entry PState Ctx Edit Place)
open H5V.Spec.TreeModes (STok ETok IMode Config Out TokSwitch XOp Op Step Edition)

/-- **the "in body" rule function**, non-character tokens, in any state satisfying `MInv` -/
theorem sim_inBody : StepSimTok stepInBody Spec.TreeModes.inBody := by
  intro tok hch hwf s hm
  cases tok with
  | chars st text => cases hch
  | comment d => exact body_comment d s hm
  | nullChar => exact body_nullChar s hm
  | eof => exact body_eof s hm hm.tmodes
  | tag t => exact body_tag sim_inHead0 hwf hm

theorem byModeDev_inBody {cfg : Config Id} {σ : SState} (h : σ.mode = .inBody) (tok : STok) :
    byModeDev cfg σ tok = Spec.TreeModes.inBody cfg σ tok := by
  simp [byModeDev, h, Spec.TreeModes.byMode]

theorem modeSim_inBody : ModeSim .inBody := by
  intro tok hch hwf s _ hm hmode _
  refine pc_tokPost_congr (sim_inBody tok hch hwf s hm) ?_
  intro x hx
  exact byModeDev_inBody (by show imode s.mode = .inBody; rw [hmode]; rfl) _

theorem modeCharSim_inBody : ModeCharSim .inBody := by
  intro st text hwf s _ hm hmode hlf hdisp
  have hmσ : imode s.mode = .inBody := by rw [hmode]; rfl
  show PC (stepInBody (.chars st text)) s _
  exact pc_chars_delegate simChars_inBody hwf hm hmσ hlf hdisp (fun σ1 h1 c _ => byModeDev_inBody h1 _)

/-- **every insertion mode**, non-character tokens -/
theorem allModeSim : ∀ m, ModeSim m := by
  have hbody := sim_inBody
  have hhead := sim_inHead0
  intro m
  cases m with
  | initial => exact modeSim_initial
  | beforeHtml => exact modeSim_beforeHtml
  | beforeHead => exact modeSim_beforeHead hbody
  | inHead => exact modeSim_inHead
  | inHeadNoscript => exact modeSim_inHeadNoscript hhead hbody
  | afterHead => exact modeSim_afterHead hhead hbody
  | inBody => exact modeSim_inBody
  | text => exact modeSim_text
  | inTable => exact modeSim_inTable hhead hbody
  | inTableText => exact modeSim_inTableText'
  | inCaption => exact modeSim_inCaption hbody
  | inColumnGroup => exact modeSim_inColumnGroup hhead hbody
  | inTableBody => exact modeSim_inTableBody hhead hbody
  | inRow => exact modeSim_inRow hhead hbody
  | inCell => exact modeSim_inCell hbody
  | inTemplate => exact modeSim_inTemplate' hbody
  | afterBody => exact modeSim_afterBody hbody
  | inFrameset => exact modeSim_inFrameset hhead hbody
  | afterFrameset => exact modeSim_afterFrameset hhead hbody
  | afterAfterBody => exact modeSim_afterAfterBody hbody
  | afterAfterFrameset => exact modeSim_afterAfterFrameset hhead hbody

/-- **every insertion mode**, runs of characters -/
theorem allModeCharSim : ∀ m, ModeCharSim m := by
  have hbodyc := simChars_inBody
  have hheadc := simChars_inHead
  intro m
  cases m with
  | initial => exact modeCharSim_initial
  | beforeHtml => exact modeCharSim_beforeHtml
  | beforeHead => exact modeCharSim_beforeHead
  | inHead => exact modeCharSim_inHead
  | inHeadNoscript => exact modeCharSim_inHeadNoscript hheadc
  | afterHead => exact modeCharSim_afterHead
  | inBody => exact modeCharSim_inBody
  | text => exact modeCharSim_text
  | inTable => exact modeCharSim_inTable hbodyc
  | inTableText => exact modeCharSim_inTableText
  | inCaption => exact modeCharSim_inCaption hbodyc
  | inColumnGroup => exact modeCharSim_inColumnGroup
  | inTableBody => exact modeCharSim_inTableBody hbodyc
  | inRow => exact modeCharSim_inRow hbodyc
  | inCell => exact modeCharSim_inCell hbodyc
  | inTemplate => exact modeCharSim_inTemplate hbodyc
  | afterBody => exact modeCharSim_afterBody hbodyc
  | inFrameset => exact modeCharSim_inFrameset
  | afterFrameset => exact modeCharSim_afterFrameset
  | afterAfterBody => exact modeCharSim_afterAfterBody hbodyc
  | afterAfterFrameset => exact modeCharSim_afterAfterFrameset hbodyc

end H5V.Lemmas.HtmlTBModes
