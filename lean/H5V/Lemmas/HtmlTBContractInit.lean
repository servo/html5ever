import H5V.Lemmas.HtmlTBContractIns
import H5V.Lemmas.HtmlTBContractRules0
/-!
# TreeSink contract for the HTML tree builder: the Initial insertion mode

In the Initial mode nothing but comments has been appended to the document and no element or doctype
node exists in the arena (`CI0.pristine`) — which is what the contract of
`append_doctype_to_document` asks for ("at most once and before any element").
-/
namespace H5V.Lemmas.TBC
open H5V.Model.HtmlTB
open H5V.Model.Dom (Id QualName Attr NodeOrText SinkOp Output ElementFlags QuirksMode Dom NodeData Node Contract)
open H5V.Lemmas.Dom
open H5V.Props.C20 (Inv Run)
open H5V.Lemmas.TBSafe (IsEl nm sigOf Ext apply_ext)

variable {d0 : Dom}

/-- the invariant of the Initial mode (document parsing only) -/
structure CI0 (d0 : Dom) (s : State) : Prop where
  d : DomI d0 s
  mode : s.mode = .initial
  st : s.openElems = []
  af : s.activeFormatting = []
  head : s.headElem = none
  form : s.formElem = none
  ctx : s.contextElem = none
  docH : s.docHandle = 0
  doc0 : s.dom.dataOf 0 = some .document
  orig : s.origMode = none
  tm : s.templateModes = []
  pristine : ∀ x, s.dom.isElement x = false ∧ s.dom.isDoctype x = false

/-- leaving the Initial mode -/
theorem CI0.toCB {s : State} (h : CI0 d0 s) {m : Mode} (hm : m ≠ .initial) :
    CB d0 { s with mode := m } ∧ SAnc ({ s with mode := m } : State).dom ({ s with mode := m } : State).openElems := by
  refine ⟨⟨⟨h.d.inv, h.d.run⟩, ⟨h.docH, h.doc0, ?_, ?_, ?_, ?_, ?_, ?_, ?_⟩, ⟨hm, ?_, ?_⟩⟩, ?_⟩
  · show ∀ x ∈ s.openElems, _; rw [h.st]; intro x hx; cases hx
  · show ∀ x ∈ s.openElems, _; rw [h.st]; intro x hx; cases hx
  · show ∀ x t, _ ∈ s.activeFormatting → _; rw [h.af]; intro x t hx; cases hx
  · show ∀ x, s.headElem = some x → _; rw [h.head]; intro x hx; cases hx
  · show ∀ x, s.formElem = some x → _; rw [h.form]; intro x hx; cases hx
  · show ∀ x, s.contextElem = some x → _; rw [h.ctx]; intro x hx; cases hx
  · show ∀ x, s.headElem = some x → _; rw [h.head]; intro x hx; cases hx
  · show s.origMode ≠ _; rw [h.orig]; intro e; cases e
  · show _ ∉ s.templateModes; rw [h.tm]; intro e; cases e
  · show SAnc s.dom s.openElems; rw [h.st]; exact List.Pairwise.nil

/-- a sink call in the Initial mode that keeps the arena free of elements and doctypes -/
theorem CI0.sink {s : State} (h : CI0 d0 s) {op : SinkOp} (hc : Contract s.dom op)
    (hp : ∀ d' out, s.dom.apply op = .ok (d', out) →
      (∀ x, d'.isElement x = false ∧ d'.isDoctype x = false)) :
    SatC (sink op) s (fun _ s' => CI0 d0 s') := by
  refine satc_sink h.d hc ?_
  intro d' out ha hd
  exact ⟨hd, h.mode, h.st, h.af, h.head, h.form, h.ctx, h.docH, isDoc_kext (apply_kext ha) h.doc0, h.orig, h.tm,
    hp d' out ha⟩

theorem pristine_of_nodes {d d' : Dom} (hn : d'.nodes = d.nodes)
    (h : ∀ x, d.isElement x = false ∧ d.isDoctype x = false) :
    ∀ x, d'.isElement x = false ∧ d'.isDoctype x = false := by
  intro x
  have hd : d'.dataOf x = d.dataOf x := by simp [Dom.dataOf, hn]
  unfold Dom.isElement Dom.isDoctype at *
  rw [hd]; exact h x

theorem CI0.parseError {s : State} (h : CI0 d0 s) {msg : String} :
    SatC (H5V.Model.HtmlTB.parseError msg) s (fun _ s' => CI0 d0 s') := by
  unfold H5V.Model.HtmlTB.parseError sinkUnit
  refine (h.sink (op := .parseError msg.toList) rfl ?_).bind (fun _ _ h' => satc_pure h')
  intro d' out ha
  rw [TBSafe.apply_parseError] at ha; cases ha
  exact pristine_of_nodes rfl h.pristine

theorem CI0.setQuirks {s : State} (h : CI0 d0 s) {m : QuirksMode} :
    SatC (H5V.Model.HtmlTB.setQuirksMode m) s (fun _ s' => CI0 d0 s') := by
  unfold H5V.Model.HtmlTB.setQuirksMode
  refine satc_modS_bind ?_
  have h1 : CI0 d0 { s with quirksMode := m } :=
    ⟨⟨h.d.inv, h.d.run⟩, h.mode, h.st, h.af, h.head, h.form, h.ctx, h.docH, h.doc0, h.orig, h.tm, h.pristine⟩
  unfold sinkUnit
  refine (h1.sink (op := .setQuirksMode m) rfl ?_).bind (fun _ _ h' => satc_pure h')
  intro d' out ha
  rw [TBSafe.apply_setQuirks] at ha; cases ha
  exact pristine_of_nodes rfl h.pristine

theorem CI0.setLine {s : State} (h : CI0 d0 s) {n : Nat} :
    SatC (sinkUnit (.setCurrentLine n)) s (fun _ s' => CI0 d0 s') := by
  unfold sinkUnit
  refine (h.sink (op := .setCurrentLine n) rfl ?_).bind (fun _ _ h' => satc_pure h')
  intro d' out ha
  rw [TBSafe.apply_setLine] at ha; cases ha
  exact h.pristine

theorem pristine_alloc_comment {d : Dom} {t : Str} (h : ∀ x, d.isElement x = false ∧ d.isDoctype x = false) :
    ∀ x, (d.alloc (.comment t)).1.isElement x = false ∧ (d.alloc (.comment t)).1.isDoctype x = false := by
  intro x
  unfold Dom.isElement Dom.isDoctype at *
  rw [dataOf_alloc]
  by_cases hx : x = d.size
  · simp [hx]
  · simp only [hx, if_false]; exact h x

theorem pristine_of_data {d d' : Dom} (hd : ∀ x, d'.dataOf x = d.dataOf x)
    (h : ∀ x, d.isElement x = false ∧ d.isDoctype x = false) :
    ∀ x, d'.isElement x = false ∧ d'.isDoctype x = false := by
  intro x
  unfold Dom.isElement Dom.isDoctype at *
  rw [hd]; exact h x

/-- a comment in the Initial mode: `append_comment_to_doc` -/
theorem CI0.appendCommentToDoc {s : State} (h : CI0 d0 s) {text : Str} :
    SatC (H5V.Model.HtmlTB.appendCommentToDoc text) s (fun res s' => res = .done ∧ CI0 d0 s') := by
  unfold H5V.Model.HtmlTB.appendCommentToDoc sinkNode
  -- create the comment
  refine SatC.bind (Q := fun c s1 => CI0 d0 s1 ∧ FreshNode s1.dom c ∧ c ≠ 0) ?_ ?_
  · refine SatC.bind (Q := fun o s1 => ∃ c, o = .node c ∧ CI0 d0 s1 ∧ FreshNode s1.dom c ∧ c ≠ 0) ?_ ?_
    · refine satc_sink h.d (op := .createComment text) rfl ?_
      intro d' out ha hd
      have ha' := ha
      rw [TBSafe.apply_createComment] at ha; cases ha
      have hpos : 0 < s.dom.size := lt_of_data h.doc0
      refine ⟨s.dom.size, rfl, ⟨hd, h.mode, h.st, h.af, h.head, h.form, h.ctx, h.docH,
        isDoc_kext (apply_kext ha') h.doc0, h.orig, h.tm, pristine_alloc_comment h.pristine⟩, ⟨?_, ?_, ?_⟩,
        Nat.ne_of_gt hpos⟩
      · show (s.dom.alloc (.comment text)).1.isInsertable s.dom.size = true
        unfold Dom.isInsertable; rw [dataOf_alloc]; simp
      · show (s.dom.alloc (.comment text)).1.parentOf s.dom.size = none
        rw [parentOf_alloc]; exact parentOf_none_of_ge (Nat.le_refl _)
      · show (s.dom.alloc (.comment text)).1.childrenOf s.dom.size = []
        rw [childrenOf_alloc]; exact childrenOf_nil_of_ge (Nat.le_refl _)
    · rintro o s1 ⟨c, rfl, h1, h2, h3⟩
      exact satc_pure ⟨h1, h2, h3⟩
  · rintro c s1 ⟨h1, hf, hc0⟩
    refine satc_getS_bind ?_
    rw [h1.docH]
    have hv : IpValid s1.dom (.lastChild 0) := isContainer_of_doc h1.doc0
    have hcontract : Contract s1.dom (.append 0 (.node c)) :=
      contract_ipOp (ip := .lastChild 0) h1.d.inv hv (.node c hf (by
        intro x hx; simp [ipIds] at hx; subst hx; exact fun e => hc0 e.symm))
    unfold sinkUnit
    refine SatC.bind (Q := fun _ s2 => CI0 d0 s2) ?_ (fun _ s2 h2 => satc_pure ⟨rfl, h2⟩)
    refine (h1.sink hcontract ?_).bind (fun _ _ h' => satc_pure h')
    intro d' out ha
    have := TBSafe.appendRaw_data (by rw [← append_node_eq]; exact apply_append_inv ha)
    exact pristine_of_data this h1.pristine

/-- `Initial` rules (rules.rs:101) -/
theorem CI0.stepInitial {s : State} (h : CI0 d0 s) (tok : Token) :
    SatC (H5V.Model.HtmlTB.stepInitial tok) s (fun res s' => CI0 d0 s' ∧
      (res = .reprocess .beforeHtml tok ∨ NoRep res)) := by
  unfold H5V.Model.HtmlTB.stepInitial
  have helse : SatC (do
      if (!(← getS).opts.iframeSrcdoc) = true then do
        let _ ← unexpected
        H5V.Model.HtmlTB.setQuirksMode QuirksMode.quirks
      pure (ProcessResult.reprocess Mode.beforeHtml tok)) s (fun res s' => CI0 d0 s' ∧
        (res = .reprocess .beforeHtml tok ∨ NoRep res)) := by
    refine satc_getS_bind ?_
    refine satc_ite (fun _ => ?_) (fun _ => satc_pure ⟨h, Or.inl rfl⟩)
    unfold H5V.Model.HtmlTB.unexpected
    refine SatC.bind (Q := fun _ s1 => CI0 d0 s1) ?_ ?_
    · exact (h.parseError).bind (fun _ s1 h1 => satc_pure h1)
    · intro _ s1 h1
      exact (h1.setQuirks).bind (fun _ s2 h2 => satc_pure ⟨h2, Or.inl rfl⟩)
  cases tok with
  | chars st text =>
    cases st with
    | notSplit => exact satc_pure ⟨h, Or.inr trivial⟩
    | whitespace => exact satc_pure ⟨h, Or.inr trivial⟩
    | notWhitespace => exact helse
  | comment text => exact (h.appendCommentToDoc).mono (fun res s' ⟨hr, h'⟩ => ⟨h', Or.inr (by rw [hr]; trivial)⟩)
  | tag t => exact helse
  | nullChar => exact helse
  | eof => exact helse

end H5V.Lemmas.TBC
