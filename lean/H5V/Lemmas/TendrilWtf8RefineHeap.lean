import H5V.Lemmas.TendrilPool
/-!
The buffer-level validity invariant needed for formats with a concatenation fix-up (WTF-8).

`push_tendril` merges two adjacent views of one shared buffer without copying and *without* asking
the format for a fix-up.  That is only correct because the two views are parts of a string that was
valid as a whole: the data of every buffer (`Buf.data`, the initialised prefix of the payload) is
valid for the format at all times.  `DV F h` is that invariant; this file shows that every
operation of the model keeps it (`PDV`: if the operation returns, the heap of the result satisfies
`DV`), given that the bytes written are valid (`owned_copy` of valid bytes, `push` of valid bytes
onto valid contents for a format whose fix-up keeps validity).
-/
namespace H5V.Lemmas.Tendril
open H5V.Model.Tendril

/-- the data of every buffer (live or released) is valid for the format -/
def DV (F : Format) (h : Heap) : Prop :=
  ∀ (id : Nat) (b : Buf), h.bufs[id]? = some b → F.validate b.data = true

theorem DV.empty (F : Format) : DV F Heap.empty := by
  intro id b hb; simp [Heap.empty] at hb

theorem DV.set {F : Format} {h : Heap} {id : Nat} {b' : Buf} {tr : List Event} (d : DV F h)
    (hv : F.validate b'.data = true) : DV F ⟨h.bufs.set id b', tr⟩ := by
  intro j c hc
  simp only [List.getElem?_set] at hc
  split at hc
  · split at hc
    · cases hc; exact hv
    · cases hc
  · exact d j c hc

theorem DV.append {F : Format} {h : Heap} {nb : Buf} {tr : List Event} (d : DV F h)
    (hv : F.validate nb.data = true) : DV F ⟨h.bufs ++ [nb], tr⟩ := by
  intro j c hc
  rcases lookup_append hc with ⟨_, rfl⟩ | ⟨_, h2⟩
  · exact hv
  · exact d j c h2

theorem DV.trace {F : Format} {bufs : List Buf} {tr tr' : List Event} (d : DV F ⟨bufs, tr⟩) :
    DV F ⟨bufs, tr'⟩ := d

/-- if the computation returns, the heap of its result satisfies `DV` -/
def PDV (F : Format) {α : Type} (hp : α → Heap) (x : M α) : Prop := ∀ a, x = .ok a → DV F (hp a)

theorem PDV.ok {F : Format} {α} {hp : α → Heap} {a : α} (h : DV F (hp a)) : PDV F hp (.ok a : M α) := by
  intro a' e; cases e; exact h

theorem PDV.pure {F : Format} {α} {hp : α → Heap} {a : α} (h : DV F (hp a)) : PDV F hp (pure a : M α) :=
  PDV.ok h

theorem PDV.err {F : Format} {α} {hp : α → Heap} {e : Fault} : PDV F hp (.error e : M α) := by
  intro a' e; cases e

theorem PDV.bind {F : Format} {α β} {hq : β → Heap} {x : M α} {f : α → M β}
    (hf : ∀ a, x = .ok a → PDV F hq (f a)) : PDV F hq (x >>= f) := by
  cases x with
  | ok a => exact hf a rfl
  | error e => exact PDV.err

theorem PDV.ite {F : Format} {α} {hp : α → Heap} {c : Prop} [Decidable c] {x y : M α}
    (hx : c → PDV F hp x) (hy : ¬ c → PDV F hp y) : PDV F hp (if c then x else y) := by
  split
  · exact hx (by assumption)
  · exact hy (by assumption)

theorem PDV.ite_err {F : Format} {α} {hp : α → Heap} {c : Prop} [Decidable c] {e : Fault} {y : M α}
    (hy : PDV F hp y) : PDV F hp (if c then .error e else y) :=
  PDV.ite (fun _ => PDV.err) (fun _ => hy)

/-! ## the heap primitives -/

theorem get_inv {h : Heap} {id : Nat} {s : String} {b : Buf} (e : h.get id s = .ok b) :
    h.bufs[id]? = some b := by
  unfold Heap.get at e
  split at e
  · cases e
  · split at e
    · cases e; assumption
    · cases e

theorem free_dv {F : Format} {h h' : Heap} {id cap : Nat} {s : String} (e : h.free id cap s = .ok h')
    (d : DV F h) : DV F h' := by
  unfold Heap.free at e
  cases hg : h.get id (s ++ " (free)") with
  | error x => rw [hg] at e; cases e
  | ok b =>
    rw [hg] at e
    simp only [bind, Except.bind] at e
    split at e
    · cases e; exact d.set (d id b (get_inv hg))
    · cases e

theorem incref_dv {F : Format} {h h' : Heap} {id : Nat} {s : String} (e : h.incref id s = .ok h')
    (d : DV F h) : DV F h' := by
  unfold Heap.incref at e
  cases hg : h.get id s with
  | error x => rw [hg] at e; cases e
  | ok b =>
    rw [hg] at e
    simp only [bind, Except.bind] at e
    cases e; exact d.set (d id b (get_inv hg))

theorem decref_dv {F : Format} {h h' : Heap} {id n : Nat} {s : String} (e : h.decref id s = .ok (h', n))
    (d : DV F h) : DV F h' := by
  unfold Heap.decref at e
  cases hg : h.get id s with
  | error x => rw [hg] at e; cases e
  | ok b =>
    rw [hg] at e
    simp only [bind, Except.bind] at e
    split at e
    · cases e
    · cases e; exact d.set (d id b (get_inv hg))

theorem setHdrCap_dv {F : Format} {h h' : Heap} {id cap : Nat} {s : String}
    (e : h.setHdrCap id cap s = .ok h') (d : DV F h) : DV F h' := by
  unfold Heap.setHdrCap at e
  cases hg : h.get id s with
  | error x => rw [hg] at e; cases e
  | ok b =>
    rw [hg] at e
    simp only [bind, Except.bind] at e
    cases e; exact d.set (d id b (get_inv hg))

theorem realloc_dv {F : Format} {h h' : Heap} {id oc nc nid : Nat} {s : String}
    (e : h.realloc id oc nc s = .ok (h', nid)) (d : DV F h) : DV F h' := by
  unfold Heap.realloc at e
  cases hg : h.get id s with
  | error x => rw [hg] at e; cases e
  | ok b =>
    rw [hg] at e
    simp only [bind, Except.bind] at e
    split at e
    · cases e
      have hb := d id b (get_inv hg)
      exact DV.append (h := ⟨h.bufs.set id { b with live := false }, h.trace⟩) (d.set hb) hb
    · cases e

theorem write_dv {F : Format} {h h' : Heap} {id pos : Nat} {bytes : List UInt8} {s : String}
    (e : h.write id pos bytes s = .ok h') (d : DV F h)
    (hv : ∀ b, h.bufs[id]? = some b → F.validate (b.data.take pos ++ bytes) = true) : DV F h' := by
  unfold Heap.write at e
  cases hg : h.get id s with
  | error x => rw [hg] at e; cases e
  | ok b =>
    rw [hg] at e
    simp only [bind, Except.bind] at e
    split at e
    · cases e; exact d.set (hv b (get_inv hg))
    · cases e

theorem poke_dv {F : Format} {h h' : Heap} {id pos : Nat} {v : UInt8} {s : String}
    (e : h.poke id pos v s = .ok h') (d : DV F h) (hall : ∀ l, F.validate l = true) : DV F h' := by
  unfold Heap.poke at e
  cases hg : h.get id s with
  | error x => rw [hg] at e; cases e
  | ok b =>
    rw [hg] at e
    simp only [bind, Except.bind] at e
    split at e
    · cases e; exact d.set (hall _)
    · cases e

/-! ## `buf32.rs` -/

theorem buf32WithCapacity_inv {h h' : Heap} {cap id c : Nat} (e : buf32WithCapacity h cap = .ok (h', id, c)) :
    h'.bufs = h.bufs ++ [⟨[], c, 0, 1, true⟩] ∧ id = h.bufs.length := by
  unfold buf32WithCapacity at e
  simp only [Heap.alloc] at e
  generalize roundCap (if cap < 16 then 16 else cap) = c' at e
  split at e
  · cases e
  · cases e; exact ⟨rfl, rfl⟩

theorem buf32Grow_dv {F : Format} {h : Heap} {id cap nc : Nat} (d : DV F h) :
    PDV F (·.1) (buf32Grow h id cap nc) := by
  unfold buf32Grow
  apply PDV.ite
  · intro _; exact PDV.ok d
  · intro _
    simp only []
    apply PDV.ite_err
    apply PDV.ite_err
    apply PDV.bind
    rintro ⟨h1, nid⟩ e1
    exact PDV.ok (realloc_dv e1 d)

/-! ## the private building blocks of `tendril.rs` -/

theorem dropT_dv {F : Format} {h : Heap} (t : T) (d : DV F h) : PDV F id (dropT h t) := by
  cases t with
  | inline bs => exact PDV.ok d
  | owned i len cap =>
    simp only [dropT, assumeBuf, bind, Except.bind, Bool.false_eq_true, if_false]
    intro h' e; exact free_dv e d
  | shared i off len =>
    simp only [dropT, assumeBuf]
    apply PDV.bind
    rintro ⟨i', bl, c', sh, o'⟩ e2
    simp only []
    apply PDV.ite
    · intro _
      apply PDV.bind
      rintro ⟨h1, old⟩ e3
      simp only []
      apply PDV.ite
      · intro _ h' e; exact free_dv e (decref_dv e3 d)
      · intro _; exact PDV.ok (decref_dv e3 d)
    · intro _ h' e; exact free_dv e d

theorem ownedCopy_dv {F : Format} {h : Heap} {x : List UInt8} (d : DV F h) (hx : F.validate x = true)
    (hnil : F.validate [] = true) : PDV F (·.1) (ownedCopy h x) := by
  unfold ownedCopy
  apply PDV.bind
  rintro ⟨h1, id, cap⟩ e1
  obtain ⟨hb, hid⟩ := buf32WithCapacity_inv e1
  simp only []
  apply PDV.bind
  intro h2 e2
  apply PDV.ok
  have d1 : DV F h1 := by
    have := DV.append (nb := ⟨[], cap, 0, 1, true⟩) (tr := h1.trace) d hnil
    rw [← hb] at this; exact this
  apply write_dv e2 d1
  intro b hb'
  rw [hb, hid] at hb'
  simp at hb'
  rw [← hb']; exact hx

theorem makeBufShared_dv {F : Format} {h : Heap} (t : T) (s : String) (d : DV F h) :
    PDV F (·.1) (makeBufShared h t s) := by
  cases t with
  | inline bs => exact PDV.err
  | owned i len cap =>
    simp only [makeBufShared]
    apply PDV.bind
    intro h1 e1
    exact PDV.ok (setHdrCap_dv e1 d)
  | shared i off len => exact PDV.ok d

theorem increfT_dv {F : Format} {h : Heap} (t : T) (s : String) (d : DV F h) :
    PDV F id (increfT h t s) := by
  unfold increfT
  split
  · exact PDV.err
  · intro h' e; exact incref_dv e d

theorem cloneT_dv {F : Format} {h : Heap} (t : T) (d : DV F h) : PDV F (·.1) (cloneT h t) := by
  have key : PDV F (·.1) (makeBufShared h t "clone" >>= fun r =>
      increfT r.1 r.2 "clone" >>= fun h' => (.ok (h', r.2, r.2) : M (Heap × T × T))) := by
    apply PDV.bind
    rintro ⟨h1, t1⟩ e1
    apply PDV.bind
    intro h2 e2
    exact PDV.ok (increfT_dv t1 _ (makeBufShared_dv t _ d _ e1) _ e2)
  cases t with
  | inline bs => exact PDV.ok d
  | owned i len cap => exact key
  | shared i off len => exact key

theorem makeOwned_dv {F : Format} {h : Heap} {t : T} {rest : List T} (w : WF h (t :: rest)) (d : DV F h)
    (hv : F.validate (abs h t) = true) (hnil : F.validate [] = true) : PDV F (·.1) (makeOwned h t) := by
  have key : PDV F (·.1) (asByteSlice h t >>= fun bs => ownedCopy h bs >>= fun r =>
      dropT r.1 t >>= fun h' => (.ok (h', r.2) : M (Heap × T))) := by
    rw [asByteSlice_head w]
    apply PDV.bind
    intro bs e0
    cases e0
    apply PDV.bind
    rintro ⟨h1, t1⟩ e1
    apply PDV.bind
    intro h2 e2
    exact PDV.ok (dropT_dv t (ownedCopy_dv d hv hnil _ e1) _ e2)
  cases t with
  | owned i len cap => exact PDV.ok d
  | inline bs => exact key
  | shared i off len => exact key

theorem makeOwnedWithCapacity_dv {F : Format} {h : Heap} {t : T} {rest : List T} (cap : Nat)
    (w : WF h (t :: rest)) (d : DV F h) (hv : F.validate (abs h t) = true) (hnil : F.validate [] = true) :
    PDV F (·.1) (makeOwnedWithCapacity h t cap) := by
  unfold makeOwnedWithCapacity
  apply PDV.bind
  rintro ⟨h1, t1⟩ e1
  have d1 := makeOwned_dv w d hv hnil _ e1
  simp only []
  split
  · apply PDV.bind
    rintro ⟨h2, id2, c2⟩ e2
    exact PDV.ok (buf32Grow_dv d1 _ e2)
  · exact PDV.err

/-! ## the public operations -/

theorem fromBytesUnchecked_dv {F : Format} {h : Heap} {x : List UInt8} (d : DV F h)
    (hx : F.validate x = true) (hnil : F.validate [] = true) : PDV F (·.1) (fromBytesUnchecked h x) := by
  unfold fromBytesUnchecked
  apply PDV.ite_err
  apply PDV.ite
  · intro _
    apply PDV.bind
    intro t _
    exact PDV.ok d
  · intro _; exact ownedCopy_dv d hx hnil

theorem clearT_dv {F : Format} {h : Heap} (t : T) (d : DV F h) : PDV F (·.1) (clearT h t) := by
  cases t with
  | inline bs => exact PDV.ok d
  | owned i len cap => exact PDV.ok d
  | shared i off len =>
    simp only [clearT]
    apply PDV.bind
    intro h1 e1
    exact PDV.ok (dropT_dv _ d _ e1)

theorem pushBytesUnchecked_dv {F : Format} (hF : FixupOK F) {h : Heap} {t : T} {rest : List T}
    (buf : List UInt8) (w : WF h (t :: rest)) (d : DV F h) (hv : F.validate (abs h t) = true)
    (hnil : F.validate [] = true) (hpv : F.validate (pushSpec F (abs h t) buf) = true) :
    PDV F (·.1) (pushBytesUnchecked F h t buf) := by
  have hlen := abs_length (w.twf t (List.mem_cons_self ..))
  obtain ⟨hdl, hdr⟩ := hF (abs h t) buf
  unfold pushBytesUnchecked
  simp only [bind, Except.bind]
  apply PDV.ite_err
  rw [asByteSlice_head w]
  simp only []
  apply PDV.ite_err
  apply PDV.ite_err
  apply PDV.ite_err
  apply PDV.ite_err
  apply PDV.ite_err
  generalize hfx : F.fixup (abs h t) buf = fx at hdl hdr ⊢
  have hps : pushSpec F (abs h t) buf
      = (abs h t).take ((abs h t).length - fx.dropLeft) ++ fx.insert ++ buf.drop fx.dropRight := by
    simp [pushSpec, hfx]
  split
  · apply PDV.ite_err
    cases hm : mkInline (List.take (t.len32 + fx.insert.length - fx.dropLeft + buf.length - fx.dropRight)
        (List.take ((abs h t).length - fx.dropLeft) (abs h t) ++ fx.insert ++ List.drop fx.dropRight buf))
        "push_bytes" with
    | error e => exact PDV.err
    | ok t' =>
      simp only []
      cases hdp : dropT h t with
      | error e => exact PDV.err
      | ok h1 => exact PDV.ok (dropT_dv t d _ hdp)
  · cases hm : makeOwnedWithCapacity h t
        (t.len32 + fx.insert.length - fx.dropLeft + buf.length - fx.dropRight) with
    | error e => exact PDV.err
    | ok r =>
      obtain ⟨h1, t1⟩ := r
      have d1 := makeOwnedWithCapacity_dv _ w d hv hnil _ hm
      obtain ⟨w1, hab, hat, id, c, ht1, hge⟩ := (makeOwnedWithCapacity_spec _ w).of_ok hm
      simp only at w1 hab hat ht1 hge d1
      subst ht1
      simp only []
      apply PDV.ite_err
      cases hwr : h1.write id (t.len32 - fx.dropLeft) (fx.insert ++ List.drop fx.dropRight buf) "push_bytes" with
      | error e => exact PDV.err
      | ok h2 =>
        apply PDV.ok
        apply write_dv hwr d1
        intro b hb
        have : abs h1 (.owned id t.len32 c) = b.data.take t.len32 := by simp [abs, hb]
        rw [hat] at this
        have e : List.take (t.len32 - fx.dropLeft) b.data ++ (fx.insert ++ List.drop fx.dropRight buf)
            = pushSpec F (abs h t) buf := by
          rw [hps, hlen, this, List.take_take, List.append_assoc, Nat.min_eq_left (by omega)]
        rw [e]; exact hpv

theorem unsafeSubtendril_dv {F : Format} {h : Heap} (t : T) (off len : Nat) (d : DV F h) :
    PDV F (·.1) (unsafeSubtendril h t off len) := by
  unfold unsafeSubtendril
  apply PDV.ite
  · intro _
    apply PDV.bind
    intro bs _
    apply PDV.ite
    · intro _
      apply PDV.bind
      intro s _
      exact PDV.ok d
    · intro _; exact PDV.err
  · intro _
    apply PDV.bind
    rintro ⟨h1, t1⟩ e1
    apply PDV.bind
    intro h2 e2
    have d2 := increfT_dv t1 _ (makeBufShared_dv t _ d _ e1) _ e2
    split
    · apply PDV.ite
      · intro _; exact PDV.ok d2
      · intro _; exact PDV.err
    · exact PDV.err

theorem unsafePopFront_dv {F : Format} {h : Heap} (t : T) (n : Nat) (d : DV F h) :
    PDV F (·.1) (unsafePopFront h t n) := by
  unfold unsafePopFront
  apply PDV.ite_err
  simp only []
  apply PDV.ite
  · intro _
    apply PDV.bind
    intro bs _
    apply PDV.bind
    intro t' _
    apply PDV.bind
    intro h1 e1
    exact PDV.ok (dropT_dv t d _ e1)
  · intro _
    apply PDV.bind
    rintro ⟨h1, t1⟩ e1
    have d1 := makeBufShared_dv t _ d _ e1
    simp only []
    split
    · exact PDV.ok d1
    · exact PDV.err

theorem unsafePopBack_dv {F : Format} {h : Heap} (t : T) (n : Nat) (d : DV F h) :
    PDV F (·.1) (unsafePopBack h t n) := by
  unfold unsafePopBack
  apply PDV.ite_err
  simp only []
  apply PDV.ite
  · intro _
    apply PDV.bind
    intro bs _
    apply PDV.bind
    intro t' _
    apply PDV.bind
    intro h1 e1
    exact PDV.ok (dropT_dv t d _ e1)
  · intro _
    apply PDV.bind
    rintro ⟨h1, t1⟩ e1
    have d1 := makeBufShared_dv t _ d _ e1
    simp only []
    split
    · exact PDV.ok d1
    · exact PDV.err

theorem tryPopFront_dv {F : Format} {h : Heap} (t : T) (n : Nat) (d : DV F h) :
    PDV F (·.1) (tryPopFront F h t n) := by
  unfold tryPopFront
  apply PDV.ite
  · intro _; exact PDV.ok d
  · intro _
    apply PDV.ite
    · intro _; exact PDV.ok d
    · intro _
      apply PDV.bind
      intro bs _
      apply PDV.ite
      · intro _; exact PDV.ok d
      · intro _
        apply PDV.bind
        rintro ⟨h1, t1⟩ e1
        exact PDV.ok (unsafePopFront_dv t n d _ e1)

theorem tryPopBack_dv {F : Format} {h : Heap} (t : T) (n : Nat) (d : DV F h) :
    PDV F (·.1) (tryPopBack F h t n) := by
  unfold tryPopBack
  apply PDV.ite
  · intro _; exact PDV.ok d
  · intro _
    apply PDV.ite
    · intro _; exact PDV.ok d
    · intro _
      apply PDV.bind
      intro bs _
      apply PDV.ite
      · intro _; exact PDV.ok d
      · intro _
        apply PDV.bind
        rintro ⟨h1, t1⟩ e1
        exact PDV.ok (unsafePopBack_dv t n d _ e1)

theorem trySubtendril_dv {F : Format} {h : Heap} (t : T) (off len : Nat) (d : DV F h) :
    PDV F (·.1) (trySubtendril F h t off len) := by
  unfold trySubtendril
  apply PDV.ite
  · intro _; exact PDV.ok d
  · intro _
    apply PDV.bind
    intro bs _
    apply PDV.ite
    · intro _; exact PDV.ok d
    · intro _
      apply PDV.bind
      rintro ⟨h1, t1, s⟩ e1
      exact PDV.ok (unsafeSubtendril_dv t off len d _ e1)

theorem pushTendril_dv {F : Format} (hF : FixupOK F) {h : Heap} {t o : T} {rest : List T}
    (w : WF h (t :: rest)) (ho : o ∈ rest) (d : DV F h) (hv : F.validate (abs h t) = true)
    (hnil : F.validate [] = true) (hpv : F.validate (pushSpec F (abs h t) (abs h o)) = true) :
    PDV F (·.1) (pushTendril F h t o) := by
  have wo : TWF h o := w.twf o (List.mem_cons_of_mem _ ho)
  have slow : PDV F (·.1) (asByteSlice h o >>= fun bs => pushBytesUnchecked F h t bs) := by
    rw [asByteSlice_eq wo w.bufs]
    exact pushBytesUnchecked_dv hF _ w d hv hnil hpv
  unfold pushTendril
  apply PDV.ite_err
  split
  · split
    · exact PDV.ok d
    · exact slow
  · exact slow

theorem popFrontChar_dv {F : Format} {h : Heap} (t : T) (d : DV F h) :
    PDV F (·.1) (popFrontChar F h t) := by
  unfold popFrontChar
  apply PDV.bind
  intro bs _
  split
  · exact PDV.err
  · apply PDV.bind
    rintro ⟨h1, t1⟩ e1
    exact PDV.ok (clearT_dv t d _ e1)
  · apply PDV.bind
    rintro ⟨h1, t1⟩ e1
    exact PDV.ok (clearT_dv t d _ e1)
  · apply PDV.ite
    · intro _
      apply PDV.bind
      rintro ⟨h1, t1⟩ e1
      exact PDV.ok (clearT_dv t d _ e1)
    · intro _
      apply PDV.bind
      rintro ⟨h1, t1⟩ e1
      exact PDV.ok (unsafePopFront_dv t _ d _ e1)

theorem popFrontCharRun_dv {F : Format} (cl : Nat → Nat) {h : Heap} (t : T) (d : DV F h) :
    PDV F (·.1) (popFrontCharRun F cl h t) := by
  unfold popFrontCharRun
  apply PDV.bind
  intro bs _
  split
  · exact PDV.err
  · exact PDV.ok d
  · simp only []
    split
    · apply PDV.bind
      rintro ⟨h1, t1, s⟩ e1
      have d1 := unsafeSubtendril_dv t _ _ d _ e1
      apply PDV.bind
      rintro ⟨h2, t2⟩ e2
      exact PDV.ok (unsafePopFront_dv t1 _ d1 _ e2)
    · apply PDV.bind
      rintro ⟨h1, t1, s⟩ e1
      have d1 := cloneT_dv t d _ e1
      apply PDV.bind
      rintro ⟨h2, t2⟩ e2
      exact PDV.ok (clearT_dv t1 d1 _ e2)

theorem reserveT_dv {F : Format} {h : Heap} {t : T} {rest : List T} (n : Nat) (w : WF h (t :: rest))
    (d : DV F h) (hv : F.validate (abs h t) = true) (hnil : F.validate [] = true) :
    PDV F (·.1) (reserveT h t n) := by
  unfold reserveT
  apply PDV.ite
  · intro _; exact PDV.ok d
  · intro _
    apply PDV.ite_err
    apply PDV.ite
    · intro _; exact makeOwnedWithCapacity_dv _ w d hv hnil
    · intro _; exact PDV.ok d

theorem withCapacity_dv {F : Format} {h : Heap} {ts : List T} (n : Nat) (w : WF h ts) (d : DV F h)
    (hnil : F.validate [] = true) : PDV F (·.1) (withCapacity h n) := by
  unfold withCapacity
  have w0 : WF h (.inline [] :: ts) := w.cons_inline (by simp)
  apply PDV.ite
  · intro _; exact makeOwnedWithCapacity_dv _ w0 d hnil hnil
  · intro _; exact PDV.ok d

theorem derefMut_dv {F : Format} {h : Heap} {t : T} {rest : List T} (w : WF h (t :: rest)) (d : DV F h)
    (hv : F.validate (abs h t) = true) (hnil : F.validate [] = true) : PDV F (·.1) (derefMut h t) := by
  cases t with
  | inline bs => exact PDV.ok d
  | owned i len cap => exact makeOwned_dv w d hv hnil
  | shared i off len => exact makeOwned_dv w d hv hnil

theorem storeByte_dv {F : Format} {h : Heap} (t : T) (k : Nat) (v : UInt8) (d : DV F h)
    (hall : ∀ l, F.validate l = true) : PDV F (·.1) (storeByte h t k v) := by
  cases t with
  | inline bs =>
    simp only [storeByte]
    apply PDV.ite
    · intro _; exact PDV.ok d
    · intro _; exact PDV.err
  | owned i len cap =>
    simp only [storeByte]
    apply PDV.ite
    · intro _
      apply PDV.bind
      intro h1 e1
      exact PDV.ok (poke_dv e1 d hall)
    · intro _; exact PDV.err
  | shared i off len => exact PDV.err

theorem store_dv {F : Format} {st : St} (j : Nat) (s : T) (d : DV F st.heap) :
    PDV F (·.heap) (store st j s) := by
  unfold store
  split
  · exact PDV.err
  · exact PDV.ok d
  · apply PDV.bind
    intro h1 e1
    exact PDV.ok (dropT_dv _ d _ e1)

end H5V.Lemmas.Tendril
