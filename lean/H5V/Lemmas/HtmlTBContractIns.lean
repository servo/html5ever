import H5V.Lemmas.HtmlTBContractInsDom
/-!
# TreeSink contract for the HTML tree builder: creating and inserting nodes (builder side)

Value-level (`SatC`) specifications of the sink queries, `create_element`, the appropriate place for
insertion and `insert_at`.
-/
namespace H5V.Lemmas.TBC
open H5V.Model.HtmlTB
open H5V.Model.Dom (Id QualName Attr NodeOrText SinkOp Output ElementFlags QuirksMode Dom NodeData Node Contract)
open H5V.Lemmas.Dom
open H5V.Props.C20 (Inv Run)
open H5V.Lemmas.TBSafe (IsEl nm sigOf Ext apply_ext tmplName fmtNames nm_ext sigOf_ext IsEl.ext sigOf_lt
  apply_elemName apply_getTemplateContents namedP hasNamed)

variable {d0 : Dom}

/-- the frame of query steps: only the sink changed, the invariant holds again, growth -/
structure Q2 (d0 : Dom) (s s' : State) : Prop where
  cb : CB d0 s'
  g : GrowRel s s'
  same : ∃ d t, s' = { s with dom := d, traceRev := t }

theorem Q2.refl {s : State} (h : CB d0 s) : Q2 d0 s s := ⟨h, GrowRel.refl s, s.dom, s.traceRev, rfl⟩

theorem Q2.trans {a b c : State} (h1 : Q2 d0 a b) (h2 : Q2 d0 b c) : Q2 d0 a c := by
  obtain ⟨d1, t1, e1⟩ := h1.same
  obtain ⟨d2, t2, e2⟩ := h2.same
  exact ⟨h2.cb, h1.g.trans h2.g, d2, t2, by rw [e2, e1]⟩

section fields
variable {s s' : State} (h : Q2 d0 s s')
include h
theorem Q2.openElems : s'.openElems = s.openElems := by obtain ⟨d, t, e⟩ := h.same; rw [e]
theorem Q2.activeFormatting : s'.activeFormatting = s.activeFormatting := by obtain ⟨d, t, e⟩ := h.same; rw [e]
theorem Q2.formElem : s'.formElem = s.formElem := by obtain ⟨d, t, e⟩ := h.same; rw [e]
theorem Q2.fosterParenting : s'.fosterParenting = s.fosterParenting := by obtain ⟨d, t, e⟩ := h.same; rw [e]
theorem Q2.contextElem : s'.contextElem = s.contextElem := by obtain ⟨d, t, e⟩ := h.same; rw [e]
theorem Q2.ext : Ext s.dom s'.dom := h.g.ext
end fields

theorem q2_of_nt {s : State} (hcb : CB d0 s) {op : SinkOp} (hnt : nonTree op = true) {d' : Dom} {out : Output}
    (ha : s.dom.apply op = .ok (d', out)) (hd : DomI d0 { s with dom := d', traceRev := (op, out) :: s.traceRev }) :
    Q2 d0 s { s with dom := d', traceRev := (op, out) :: s.traceRev } :=
  ⟨hcb.of_dom hd (apply_ext ha) (apply_kext ha), GrowRel.of_nonTree hnt ha, d', _, rfl⟩

/-! ### valued sink queries -/

theorem satcv_elemName {h : Id} {s : State} (hcb : CB d0 s) (hi : IsEl s.dom h) :
    SatC (elemName h) s (fun n s' => n = nm s.dom h ∧ Q2 d0 s s') := by
  obtain ⟨x, hx⟩ := hi
  unfold H5V.Model.HtmlTB.elemName
  refine SatC.bind (satc_sink (Q := fun o s' => o = .name x.1.ns x.1.loc ∧ Q2 d0 s s') hcb.d
    (contract_elemName ⟨x, hx⟩) ?_) ?_
  · intro d' out ha hd
    have ha' := ha
    rw [apply_elemName hx] at ha; cases ha
    exact ⟨rfl, q2_of_nt hcb rfl ha' hd⟩
  · rintro o s' ⟨rfl, hq⟩
    exact satc_pure ⟨by simp [nm, hx, TBSafe.enameOfSig], hq⟩

theorem satcv_htmlElemNamed {h : Id} {name : String} {s : State} (hcb : CB d0 s) (hi : IsEl s.dom h) :
    SatC (htmlElemNamed h name) s (fun b s' => b = namedP s.dom name.toList h ∧ Q2 d0 s s') := by
  unfold H5V.Model.HtmlTB.htmlElemNamed H5V.Model.HtmlTB.htmlElemNamedS
  refine (satcv_elemName hcb hi).bind ?_
  rintro n s' ⟨rfl, hq⟩
  exact satc_pure ⟨rfl, hq⟩

theorem satcv_elemIn {h : Id} {set : EName → Bool} {s : State} (hcb : CB d0 s) (hi : IsEl s.dom h) :
    SatC (elemIn h set) s (fun b s' => b = set (nm s.dom h) ∧ Q2 d0 s s') := by
  unfold H5V.Model.HtmlTB.elemIn
  refine (satcv_elemName hcb hi).bind ?_
  rintro n s' ⟨rfl, hq⟩
  exact satc_pure ⟨rfl, hq⟩

theorem templateContentsOf_of_sig {d : Dom} {h : Id} {q : QualName} {tc : Id} {ip : Bool}
    (hx : sigOf d h = some (q, some tc, ip)) : d.templateContentsOf h = some tc := by
  unfold sigOf at hx
  unfold Dom.templateContentsOf
  cases hd : d.dataOf h with
  | none => rw [hd] at hx; cases hx
  | some v =>
    rw [hd] at hx
    cases v <;> simp [TBSafe.sigData] at hx ⊢
    exact hx.2.1

theorem satcv_getTemplateContents {h : Id} {s : State} {q : QualName} {tc : Id} {ip : Bool} (hcb : CB d0 s)
    (hx : sigOf s.dom h = some (q, some tc, ip)) :
    SatC (sinkNode (.getTemplateContents h)) s (fun r s' => r = tc ∧ Q2 d0 s s') := by
  unfold sinkNode
  refine SatC.bind (satc_sink (Q := fun o s' => o = .node tc ∧ Q2 d0 s s') hcb.d ?_ ?_) ?_
  · show (s.dom.templateContentsOf h).isSome = true
    rw [templateContentsOf_of_sig hx]; rfl
  · intro d' out ha hd
    have ha' := ha
    rw [apply_getTemplateContents hx] at ha; cases ha
    exact ⟨rfl, q2_of_nt hcb rfl ha' hd⟩
  · rintro o s' ⟨rfl, hq⟩
    exact satc_pure ⟨rfl, hq⟩

theorem satcv_anyHtmlElemNamed {name : String} : ∀ (l : List Id) (s : State), CB d0 s →
    (∀ x ∈ l, IsEl s.dom x) →
    SatC (anyHtmlElemNamed name l) s (fun b s' => b = hasNamed s.dom l name.toList ∧ Q2 d0 s s') := by
  intro l
  induction l with
  | nil => intro s hcb _; exact satc_pure ⟨rfl, Q2.refl hcb⟩
  | cons e rest ih =>
    intro s hcb hall
    unfold H5V.Model.HtmlTB.anyHtmlElemNamed
    refine (satcv_htmlElemNamed hcb (hall e List.mem_cons_self)).bind ?_
    rintro b s1 ⟨rfl, hq⟩
    by_cases hb : namedP s.dom name.toList e = true
    · rw [if_pos hb]
      refine satc_pure ⟨?_, hq⟩
      unfold hasNamed; simp only [List.any_cons]
      unfold namedP at hb; rw [hb]; rfl
    · rw [if_neg hb]
      have hall1 : ∀ x ∈ rest, IsEl s1.dom x := fun x hx => (hall x (List.mem_cons_of_mem _ hx)).ext hq.ext
      refine (ih s1 hq.cb hall1).mono ?_
      rintro b s2 ⟨rfl, hq2⟩
      refine ⟨?_, hq.trans hq2⟩
      unfold hasNamed
      simp only [List.any_cons]
      have hb' : ((nm s.dom e).ns == nsHtml && (nm s.dom e).loc == name.toList) = false := by
        unfold namedP at hb; simpa using hb
      rw [hb', Bool.false_or]
      clear ih hall1
      induction rest with
      | nil => rfl
      | cons a t iht =>
        simp only [List.any_cons]
        rw [nm_ext hq.ext (hall a (by simp)), iht (fun x hx => hall x (by
          rcases List.mem_cons.mp hx with h | h
          · exact h ▸ List.mem_cons_self
          · exact List.mem_cons_of_mem _ (List.mem_cons_of_mem _ h)))]

theorem satcv_inHtmlElemNamed {name : String} {s : State} (hcb : CB d0 s) :
    SatC (inHtmlElemNamed name) s (fun b s' => b = hasNamed s.dom s.openElems name.toList ∧ Q2 d0 s s') := by
  unfold H5V.Model.HtmlTB.inHtmlElemNamed
  exact satc_getS_bind (satcv_anyHtmlElemNamed _ s hcb hcb.h.open_el)

/-! ### `create_element` -/

/-- the result of `create_element` -/
structure CreatedC (d0 : Dom) (s s' : State) (r : Id) (name : QualName) : Prop where
  q : Q2 d0 s s'
  ge : s.dom.size ≤ r
  lt : r < s'.dom.size
  fresh : FreshNode s'.dom r
  el : IsEl s'.dom r
  nm : nm s'.dom r = ⟨name.ns, name.loc⟩
  tc : TcDoc s'.dom r

/-- what `Dom.createElement` returns -/
theorem createElement_facts (d : Dom) (name : QualName) (attrs : List Attr) (flags : ElementFlags) :
    d.size ≤ (d.createElement name attrs flags).2 ∧
    (d.createElement name attrs flags).2 < (d.createElement name attrs flags).1.size ∧
    FreshNode (d.createElement name attrs flags).1 (d.createElement name attrs flags).2 ∧
    ∃ tc, sigOf (d.createElement name attrs flags).1 (d.createElement name attrs flags).2
        = some (name, tc, flags.mathmlIP) ∧
      (flags.template = true → ∃ t, tc = some t ∧
        (d.createElement name attrs flags).1.dataOf t = some .document) := by
  unfold Dom.createElement
  by_cases ht : flags.template = true
  · simp only [ht, if_true]
    have hs1 : (d.alloc NodeData.document).1.size = d.size + 1 := by simp
    have hr : ((d.alloc NodeData.document).1.alloc (.element name attrs (some (d.alloc NodeData.document).2)
        flags.mathmlIP)).2 = d.size + 1 := hs1
    have htc : (d.alloc NodeData.document).2 = d.size := rfl
    have hdata : ∀ x, ((d.alloc NodeData.document).1.alloc
        (.element name attrs (some (d.alloc NodeData.document).2) flags.mathmlIP)).1.dataOf x =
        if x = d.size + 1 then some (.element name attrs (some d.size) flags.mathmlIP)
        else if x = d.size then some .document else d.dataOf x := by
      intro x
      rw [dataOf_alloc, dataOf_alloc, hs1, htc]
    rw [hr]
    refine ⟨by omega, by simp, ⟨?_, ?_, ?_⟩, some d.size, ?_, fun _ => ⟨d.size, rfl, ?_⟩⟩
    · unfold Dom.isInsertable; rw [hdata]; simp
    · rw [parentOf_alloc, parentOf_alloc]; exact parentOf_none_of_ge (by omega)
    · rw [childrenOf_alloc, childrenOf_alloc]; exact childrenOf_nil_of_ge (by omega)
    · unfold sigOf; rw [hdata]; simp [TBSafe.sigData]
    · rw [hdata]; simp
  · simp only [ht, Bool.false_eq_true, if_false]
    have hr : (d.alloc (.element name attrs none flags.mathmlIP)).2 = d.size := rfl
    rw [hr]
    refine ⟨Nat.le_refl _, by simp, ⟨?_, ?_, ?_⟩, none, ?_, fun h => (h.elim)⟩
    · unfold Dom.isInsertable; rw [dataOf_alloc]; simp
    · rw [parentOf_alloc]; exact parentOf_none_of_ge (Nat.le_refl _)
    · rw [childrenOf_alloc]; exact childrenOf_nil_of_ge (Nat.le_refl _)
    · unfold sigOf; rw [dataOf_alloc]; simp [TBSafe.sigData]

theorem satc_createElement {name : QualName} {attrs : List Attr} {hadDup : Bool} {s : State} (hcb : CB d0 s)
    (ha : Dom.attrKeysNodup attrs = true) :
    SatC (createElementWithFlags name attrs hadDup) s (fun r s' => CreatedC d0 s s' r name) := by
  unfold createElementWithFlags sinkNode
  simp only
  refine SatC.bind (satc_sink (Q := fun o s' => ∃ r, o = .node r ∧ CreatedC d0 s s' r name) hcb.d ha ?_) ?_
  · intro d' out hap hd
    have hap' := hap
    rw [TBSafe.apply_createElement] at hap
    cases hap
    refine ⟨_, rfl, ?_⟩
    have hq := q2_of_nt hcb (op := .createElement name attrs _) rfl hap' hd
    obtain ⟨h1, h2, h3, tc, h4, h5⟩ := createElement_facts s.dom name attrs
      { template := name.ns == nsHtml && isName name.loc "template",
        mathmlIP := (if name.ns == nsMathml && isName name.loc "annotation-xml" then
          attrs.any (fun a => a.name.ns == [] && isName a.name.loc "encoding" &&
            (eqIgnoreAsciiCase a.value "text/html".toList ||
             eqIgnoreAsciiCase a.value "application/xhtml+xml".toList)) else false),
        hadDuplicateAttributes := hadDup }
    refine ⟨hq, h1, h2, h3, ⟨_, h4⟩, ?_, ?_⟩
    · show TBSafe.nm _ _ = _
      unfold TBSafe.nm; rw [h4]; rfl
    · intro hn
      have hn' : TBSafe.nm _ _ = tmplName := hn
      unfold TBSafe.nm at hn'; rw [h4] at hn'
      simp only [TBSafe.enameOfSig, tmplName, EName.mk.injEq] at hn'
      obtain ⟨t, rfl, ht⟩ := h5 (by
        show (name.ns == nsHtml && isName name.loc "template") = true
        rw [hn'.1, hn'.2]; rfl)
      exact ⟨_, _, _, h4, ht⟩
  · rintro o s' ⟨r, rfl, hc⟩
    exact satc_pure hc

/-! ### the appropriate place for insertion -/

/-- `is_element`, `is_container` look at the kind of the node only -/
theorem isElement_kind (d : Dom) (x : Id) : d.isElement x = ((d.dataOf x).map kindOf == some 4) := by
  unfold Dom.isElement
  cases d.dataOf x with
  | none => rfl
  | some v => cases v <;> rfl

theorem isContainer_kind (d : Dom) (x : Id) :
    d.isContainer x = ((d.dataOf x).map kindOf == some 0 || (d.dataOf x).map kindOf == some 4) := by
  unfold Dom.isContainer
  cases d.dataOf x with
  | none => rfl
  | some v => cases v <;> rfl

theorem isContainer_kext {d d' : Dom} (hk : KExt d d') {x : Id} (h : d.isContainer x = true) :
    d'.isContainer x = true := by
  rw [isContainer_kind, hk x (lt_of_isContainer h), ← isContainer_kind]; exact h

theorem isElement_kext {d d' : Dom} (hk : KExt d d') {x : Id} (h : d.isElement x = true) :
    d'.isElement x = true := by
  rw [isElement_kind, hk x (lt_of_isElement h), ← isElement_kind]; exact h

theorem IpValid.kext {d d' : Dom} {ip : InsertionPoint} (h : IpValid d ip) (hk : KExt d d') : IpValid d' ip := by
  cases ip with
  | lastChild p => exact isContainer_kext hk h
  | beforeSibling sb => exact h
  | tableFosterParenting e pe => exact ⟨isElement_kext hk h.1, isElement_kext hk h.2⟩

theorem isContainer_of_doc {d : Dom} {x : Id} (h : d.dataOf x = some .document) : d.isContainer x = true := by
  unfold Dom.isContainer; rw [h]

/-- the parent-to-be exists before the insertion -/
theorem ipParent_lt {d : Dom} (hi : Inv d) {ip : InsertionPoint} (hv : IpValid d ip) {P : Id}
    (h : ipParent d ip = some P) : P < d.size := by
  cases ip with
  | lastChild p => simp [ipParent] at h; subst h; exact lt_of_isContainer hv
  | beforeSibling sb => exact absurd hv id
  | tableFosterParenting e pe =>
    simp only [ipParent] at h
    cases hpar : d.parentOf e with
    | none => rw [hpar] at h; simp at h; subst h; exact lt_of_isElement hv.2
    | some Q => rw [hpar] at h; simp at h; subst h; exact parent_lt_size hi.wf hpar

/-- … and stays the same while old nodes keep their parents -/
theorem ipParent_stable {d d' : Dom} {ip : InsertionPoint} (hv : IpValid d ip)
    (hop : ∀ x, x < d.size → d'.parentOf x = d.parentOf x) : ipParent d' ip = ipParent d ip := by
  cases ip with
  | lastChild p => rfl
  | beforeSibling sb => exact absurd hv id
  | tableFosterParenting e pe =>
    simp only [ipParent]; rw [hop e (lt_of_isElement hv.1)]

/-- the handles of a computed insertion point are on the stack (or the override target), or are
`Document` nodes (template contents) -/
def IpFrom (l : List Id) (ov : Option Id) (d : Dom) (ip : InsertionPoint) : Prop :=
  ∀ x ∈ ipIds ip, x ∈ l ∨ ov = some x ∨ d.dataOf x = some .document

/-- neither an HTML `template` nor an HTML `table` -/
def NotTT (d : Dom) (x : Id) : Prop :=
  namedP d "template".toList x = false ∧ namedP d "table".toList x = false

theorem NotTT.ext {d d' : Dom} {x : Id} (h : NotTT d x) (he : Ext d d') (hi : IsEl d x) : NotTT d' x := by
  unfold NotTT namedP at h ⊢
  rw [nm_ext he hi]; exact h

/-- the parent-to-be is a member of `pre` or the parent of one, or a `Document` node -/
def IpFromA (d : Dom) (pre : List Id) : InsertionPoint → Prop
  | .lastChild p => p ∈ pre ∨ d.dataOf p = some .document
  | .beforeSibling _ => False
  | .tableFosterParenting e pe => e ∈ pre ∧ pe ∈ pre

/-- the insertion points the builder computes are valid; without a `template` on the stack (and
without override target) they mention elements only; with an override target in the lower part `pre` of the
stack, above which there is neither `table` nor `template`, they are found in `pre` -/
structure IpGood (s : State) (ov : Option Id) (s' : State) (ip : InsertionPoint) : Prop where
  valid : IpValid s'.dom ip
  els : (∀ h ∈ s.openElems, namedP s.dom "template".toList h = false) → ov = none →
    ∀ x ∈ ipIds ip, s'.dom.isElement x = true
  src : IpFrom s.openElems ov s'.dom ip
  low : ∀ pre post t, ov = some t → s.openElems = pre ++ post → t ∈ pre → (∀ x ∈ post, NotTT s.dom x) →
    IpFromA s'.dom pre ip

theorem namedP_tmpl' {d : Dom} {h : Id} (hn : namedP d "template".toList h = true) : nm d h = tmplName :=
  TBSafe.namedP_tmpl hn

theorem satc_templateContents {h : Id} {s : State} (hcb : CB d0 s) (ht : TcDoc s.dom h)
    (hn : namedP s.dom "template".toList h = true) :
    SatC (sinkNode (.getTemplateContents h)) s (fun tc s' => Q2 d0 s s' ∧ s'.dom.dataOf tc = some .document) := by
  obtain ⟨q, tc, ip, hs, hd⟩ := ht (namedP_tmpl' hn)
  refine (satcv_getTemplateContents hcb hs).mono ?_
  rintro r s' ⟨rfl, hq⟩
  exact ⟨hq, isDoc_kext hq.g.kext hd⟩

/-- The last clause: when the list starts with elements that are neither `table` nor `template` and continues
(as does the stack below it) inside `pre`, the insertion point is found in `pre`. -/
theorem satc_fosterLoop : ∀ (l : List Id) (s : State), CB d0 s → (∀ x ∈ l, IsEl s.dom x) →
    (∀ x ∈ l, TcDoc s.dom x) →
    SatC (fosterLoop l) s (fun ip s' => Q2 d0 s s' ∧ IpValid s'.dom ip ∧
      ((∀ h ∈ l, namedP s.dom "template".toList h = false) → ∀ x ∈ ipIds ip, s'.dom.isElement x = true) ∧
      IpFrom (l ++ s.openElems) none s'.dom ip ∧
      ∀ pre a b, l = a ++ b → (∀ x ∈ a, NotTT s.dom x) → (∀ x ∈ b, x ∈ pre) →
        (∀ h, s.openElems.head? = some h → h ∈ pre) → IpFromA s'.dom pre ip) := by
  intro l
  induction l with
  | nil =>
    intro s hcb _ _
    unfold fosterLoop
    refine satcv_htmlElem.bind ?_
    rintro r s' ⟨rfl, hl⟩
    have hmem : r ∈ s'.openElems := List.mem_of_head? hl
    have hel := isElement_of_isEl (hcb.h.open_el r hmem)
    refine satc_pure ⟨Q2.refl hcb, isContainer_of_isElement hel, ?_, ?_, fun _ _ _ _ _ _ hhd => Or.inl (hhd r hl)⟩
    · intro _ x hx
      simp only [ipIds, List.mem_singleton] at hx; subst hx; exact hel
    · intro x hx
      simp only [ipIds, List.mem_singleton] at hx; subst hx; exact Or.inl (by simpa using hmem)
  | cons elem rest ih =>
    intro s hcb hall htc
    unfold fosterLoop
    have hel := hall elem List.mem_cons_self
    refine (satcv_htmlElemNamed hcb hel).bind ?_
    rintro b s1 ⟨rfl, hq1⟩
    by_cases hb : namedP s.dom "template".toList elem = true
    · rw [if_pos hb]
      have hn1 : namedP s1.dom "template".toList elem = true := by
        unfold namedP; rw [nm_ext hq1.ext hel]; exact hb
      refine (satc_templateContents hq1.cb ((htc elem List.mem_cons_self).ext hq1.ext hq1.g.kext hel) hn1).bind ?_
      rintro tc s2 ⟨hq2, hdoc⟩
      refine satc_pure ⟨hq1.trans hq2, isContainer_of_doc hdoc, ?_, ?_, fun _ _ _ _ _ _ _ => Or.inr hdoc⟩
      · intro hno
        have := hno elem List.mem_cons_self
        rw [hb] at this; cases this
      · intro x hx
        simp only [ipIds, List.mem_singleton] at hx; subst hx; exact Or.inr (Or.inr hdoc)
    · rw [if_neg hb]
      refine (satcv_htmlElemNamed hq1.cb (hel.ext hq1.ext)).bind ?_
      rintro b2 s2 ⟨rfl, hq2⟩
      have hq := hq1.trans hq2
      by_cases hb2 : namedP s1.dom "table".toList elem = true
      · rw [if_pos hb2]
        cases rest with
        | nil => exact satc_panicAt
        | cons prev rest' =>
          dsimp only
          have hp := hall prev (by simp)
          refine satc_pure ⟨hq, ⟨isElement_of_isEl (hel.ext hq.ext), isElement_of_isEl (hp.ext hq.ext)⟩, ?_, ?_, ?_⟩
          · intro _ x hx
            simp only [ipIds, List.mem_cons, List.mem_singleton, List.not_mem_nil, or_false] at hx
            rcases hx with rfl | rfl
            · exact isElement_of_isEl (hel.ext hq.ext)
            · exact isElement_of_isEl (hp.ext hq.ext)
          · intro x hx
            simp only [ipIds, List.mem_cons, List.not_mem_nil, or_false] at hx
            rcases hx with rfl | rfl
            · exact Or.inl (by simp)
            · exact Or.inl (by simp)
          · intro pre a b hab hntt hin _
            cases a with
            | nil =>
              have hb' : elem :: prev :: rest' = b := hab
              rw [← hb'] at hin; exact ⟨hin elem (by simp), hin prev (by simp)⟩
            | cons a0 a' =>
              -- the `table` itself is not among the leading elements
              have ha0 : elem = a0 := (List.cons.inj hab).1
              have hn := (hntt a0 List.mem_cons_self).2
              rw [← ha0] at hn
              unfold namedP at hn hb2
              rw [nm_ext hq1.ext hel, hn] at hb2
              cases hb2
      · rw [if_neg hb2]
        have hall' : ∀ x ∈ rest, IsEl s.dom x := fun x hx => hall x (List.mem_cons_of_mem _ hx)
        refine (ih s2 hq.cb (fun x hx => (hall' x hx).ext hq.ext)
          (fun x hx => (htc x (List.mem_cons_of_mem _ hx)).ext hq.ext hq.g.kext (hall' x hx))).mono ?_
        rintro ip s3 ⟨hq3, hv, hels, hfrom, hA⟩
        refine ⟨hq.trans hq3, hv, ?_, ?_, ?_⟩
        · intro hno
          refine hels ?_
          intro h hh
          unfold namedP
          rw [nm_ext hq.ext (hall' h hh)]
          exact hno h (List.mem_cons_of_mem _ hh)
        · intro x hx
          rcases hfrom x hx with h | h | h
          · rw [hq.openElems] at h
            refine Or.inl ?_
            rcases List.mem_append.mp h with h | h
            · exact List.mem_append_left _ (List.mem_cons_of_mem _ h)
            · exact List.mem_append_right _ h
          · cases h
          · exact Or.inr (Or.inr h)
        · intro pre a b hab hntt hin hhd
          have hhd2 : ∀ h, s2.openElems.head? = some h → h ∈ pre := by rw [hq.openElems]; exact hhd
          cases a with
          | nil =>
            have hb' : elem :: rest = b := hab
            rw [← hb'] at hin
            exact hA pre [] rest rfl (fun _ h => by cases h) (fun x hx => hin x (List.mem_cons_of_mem _ hx)) hhd2
          | cons a0 a' =>
            have hr : rest = a' ++ b := (List.cons.inj hab).2
            refine hA pre a' b hr (fun x hx => ?_) hin hhd2
            exact (hntt x (List.mem_cons_of_mem _ hx)).ext hq.ext (hall' x (by rw [hr]; exact List.mem_append_left _ hx))

theorem satc_appropriatePlace {ov : Option Id} {s : State} (hcb : CB d0 s)
    (hov : ∀ t, ov = some t → IsEl s.dom t ∧ TcDoc s.dom t) :
    SatC (appropriatePlaceForInsertion ov) s (fun ip s' => Q2 d0 s s' ∧ IpGood s ov s' ip) := by
  unfold appropriatePlaceForInsertion
  have htail : ∀ (target : Id), IsEl s.dom target → TcDoc s.dom target →
      ((ov = none ∧ target ∈ s.openElems) ∨ ov = some target) →
      SatC (do
        let __do_lift ← getS
        if __do_lift.fosterParenting = true then do
            let foster ← elemIn target fosterTarget
            if (!foster) = true then do
                let __do_lift ← htmlElemNamed target "template"
                if __do_lift = true then do
                    let contents ← sinkNode (SinkOp.getTemplateContents target)
                    pure (InsertionPoint.lastChild contents)
                  else pure (InsertionPoint.lastChild target)
              else do
                let __do_lift ← getS
                fosterLoop __do_lift.openElems.reverse
          else do
            let foster ← pure false
            if (!foster) = true then do
                let __do_lift ← htmlElemNamed target "template"
                if __do_lift = true then do
                    let contents ← sinkNode (SinkOp.getTemplateContents target)
                    pure (InsertionPoint.lastChild contents)
                  else pure (InsertionPoint.lastChild target)
              else do
                let __do_lift ← getS
                fosterLoop __do_lift.openElems.reverse) s
        (fun ip s' => Q2 d0 s s' ∧ IpGood s ov s' ip) := by
    intro target htel httc hts
    have hrest : ∀ (foster : Bool) (s1 : State), Q2 d0 s s1 →
        SatC (if (!foster) = true then do
            let __do_lift ← htmlElemNamed target "template"
            if __do_lift = true then do
                let contents ← sinkNode (SinkOp.getTemplateContents target)
                pure (InsertionPoint.lastChild contents)
              else pure (InsertionPoint.lastChild target)
          else do
            let __do_lift ← getS
            fosterLoop __do_lift.openElems.reverse) s1 (fun ip s' => Q2 d0 s s' ∧ IpGood s ov s' ip) := by
      intro foster s1 hq1
      have hel1 := htel.ext hq1.ext
      refine satc_ite (fun _ => ?_) (fun _ => ?_)
      · refine (satcv_htmlElemNamed hq1.cb hel1).bind ?_
        rintro b s2 ⟨rfl, hq2⟩
        have hq := hq1.trans hq2
        by_cases hb : namedP s1.dom "template".toList target = true
        · rw [if_pos hb]
          have hn2 : namedP s2.dom "template".toList target = true := by
            unfold namedP; rw [nm_ext hq2.ext hel1]; exact hb
          refine (satc_templateContents hq2.cb (httc.ext hq.ext hq.g.kext htel) hn2).bind ?_
          rintro tc s3 ⟨hq3, hdoc⟩
          refine satc_pure ⟨hq.trans hq3, isContainer_of_doc hdoc, ?_, ?_, fun _ _ _ _ _ _ _ => Or.inr hdoc⟩
          · intro hno hovn
            have := hno target (hts.resolve_right (by rw [hovn]; exact fun h => by cases h)).2
            unfold namedP at this hb
            rw [nm_ext hq1.ext htel] at hb
            rw [hb] at this; cases this
          · intro x hx
            simp only [ipIds, List.mem_singleton] at hx; subst hx; exact Or.inr (Or.inr hdoc)
        · rw [if_neg hb]
          have he2 := isElement_of_isEl (hel1.ext hq2.ext)
          refine satc_pure ⟨hq, isContainer_of_isElement he2, ?_, ?_, ?_⟩
          · intro _ _ x hx
            simp only [ipIds, List.mem_singleton] at hx; subst hx; exact he2
          · intro x hx
            simp only [ipIds, List.mem_singleton] at hx; subst hx
            exact hts.elim (fun h => Or.inl h.2) (fun h => Or.inr (Or.inl h))
          · intro pre post t hov _ ht _
            rcases hts with h | h
            · rw [h.1] at hov; cases hov
            · rw [h] at hov; cases hov; exact Or.inl ht
      · refine satc_getS_bind ?_
        have hrev : ∀ x ∈ s1.openElems.reverse, x ∈ s.openElems := by
          intro x hx; rw [hq1.openElems] at hx; exact List.mem_reverse.mp hx
        refine (satc_fosterLoop _ s1 hq1.cb (fun x hx => (hcb.h.open_el x (hrev x hx)).ext hq1.ext)
          (fun x hx => (hcb.h.open_tc x (hrev x hx)).ext hq1.ext hq1.g.kext (hcb.h.open_el x (hrev x hx)))).mono ?_
        rintro ip s2 ⟨hq2, hv, hels, hfrom, hA⟩
        refine ⟨hq1.trans hq2, hv, ?_, ?_, ?_⟩
        · intro hno _
          refine hels ?_
          intro h hh
          unfold namedP
          rw [nm_ext hq1.ext (hcb.h.open_el h (hrev h hh))]
          exact hno h (hrev h hh)
        · intro x hx
          rcases hfrom x hx with h | h | h
          · refine Or.inl ?_
            rcases List.mem_append.mp h with h | h
            · exact hrev x h
            · rw [hq1.openElems] at h; exact h
          · cases h
          · exact Or.inr (Or.inr h)
        · intro pre post t _ hl ht hpost
          refine hA pre post.reverse pre.reverse (by rw [hq1.openElems, hl, List.reverse_append]) ?_
            (fun x hx => List.mem_reverse.mp hx) ?_
          · intro x hx
            have hx' := List.mem_reverse.mp hx
            exact (hpost x hx').ext hq1.ext (hcb.h.open_el x (by rw [hl]; exact List.mem_append_right _ hx'))
          · intro h hh
            rw [hq1.openElems, hl] at hh
            cases pre with
            | nil => cases ht
            | cons p0 pt => simp at hh; subst hh; exact List.mem_cons_self
    refine satc_getS_bind ?_
    refine satc_ite (fun _ => ?_) (fun _ => ?_)
    · refine (satcv_elemIn hcb htel).bind ?_
      rintro foster s1 ⟨-, hq1⟩
      exact hrest foster s1 hq1
    · refine SatC.bind (Q := fun foster s1 => s = s1) (satc_pure rfl) ?_
      rintro foster s1 rfl
      exact hrest foster s (Q2.refl hcb)
  cases ov with
  | some t =>
    dsimp only
    refine SatC.bind (Q := fun r s' => t = r ∧ s = s') (satc_pure ⟨rfl, rfl⟩) ?_
    rintro target s0 ⟨rfl, rfl⟩
    exact htail t (hov t rfl).1 (hov t rfl).2 (Or.inr rfl)
  | none =>
    dsimp only
    refine satcv_currentNode.bind ?_
    rintro cur s0 ⟨hs0, hl⟩
    subst hs0
    have hmem : cur ∈ s0.openElems := List.mem_of_getLast? hl
    exact htail cur (hcb.h.open_el cur hmem) (hcb.h.open_tc cur hmem) (Or.inl ⟨rfl, hmem⟩)

theorem satc_sinkUnit {op : SinkOp} {s : State} {Q : Unit → State → Prop} (hd : DomI d0 s)
    (hc : Contract s.dom op)
    (hQ : ∀ d' out, s.dom.apply op = .ok (d', out) →
      DomI d0 { s with dom := d', traceRev := (op, out) :: s.traceRev } →
      Q () { s with dom := d', traceRev := (op, out) :: s.traceRev }) : SatC (sinkUnit op) s Q := by
  unfold sinkUnit
  exact (satc_sink (Q := fun _ s' => Q () s') hd hc hQ).bind (fun _ _ h => satc_pure h)

/-! ### `insert_at` -/

/-- the frame of one tree-mutating sink call: only the sink changed, the base invariant holds again -/
structure T2 (d0 : Dom) (s s' : State) : Prop where
  cb : CB d0 s'
  ext : Ext s.dom s'.dom
  kext : KExt s.dom s'.dom
  same : ∃ d t, s' = { s with dom := d, traceRev := t }

theorem satc_insertAt_node {ip : InsertionPoint} {r : Id} {s : State} (hcb : CB d0 s) (hv : IpValid s.dom ip)
    (hf : FreshNode s.dom r) (hne : ∀ x ∈ ipIds ip, x ≠ r) :
    SatC (H5V.Model.HtmlTB.insertAt ip (.node r)) s (fun _ s' => T2 d0 s s' ∧
      ∃ P, ipParent s.dom ip = some P ∧ NodeEff s.dom s'.dom r P) := by
  rw [insertAt_eq]
  unfold sinkUnit
  refine SatC.bind (satc_sink (Q := fun _ s' => T2 d0 s s' ∧
      ∃ P, ipParent s.dom ip = some P ∧ NodeEff s.dom s'.dom r P) hcb.d
    (contract_ipOp hcb.d.inv hv (.node r hf hne)) ?_) (fun _ s' h => satc_pure h)
  intro d' out ha hd
  exact ⟨⟨hcb.of_dom hd (apply_ext ha) (apply_kext ha), apply_ext ha, apply_kext ha, d', _, rfl⟩,
    nodeEff_ipOp hv hf.par hne ha⟩

theorem satc_insertAt_text {ip : InsertionPoint} {t : Str} {s : State} (hcb : CB d0 s) (hv : IpValid s.dom ip) :
    SatC (H5V.Model.HtmlTB.insertAt ip (.text t)) s (fun _ s' => T2 d0 s s' ∧
      ∃ P, ipParent s.dom ip = some P ∧ TextEff s.dom s'.dom P) := by
  rw [insertAt_eq]
  unfold sinkUnit
  refine SatC.bind (satc_sink (Q := fun _ s' => T2 d0 s s' ∧
      ∃ P, ipParent s.dom ip = some P ∧ TextEff s.dom s'.dom P) hcb.d
    (contract_ipOp hcb.d.inv hv (.text t)) ?_) (fun _ s' h => satc_pure h)
  intro d' out ha hd
  exact ⟨⟨hcb.of_dom hd (apply_ext ha) (apply_kext ha), apply_ext ha, apply_kext ha, d', _, rfl⟩,
    textEff_ipOp hv ha⟩

/-- growth across "query steps, then attach the node `r` created on the way under an old parent" -/
theorem GrowRel.attach {s s3 s4 : State} {r P : Id} (g : GrowRel s s3) (t : T2 d0 s3 s4)
    (hr : s.dom.size ≤ r) (hrlt : r < s3.dom.size) (hP : P < r) (he : NodeEff s3.dom s4.dom r P) :
    GrowRel s s4 := by
  obtain ⟨d, tr, e⟩ := t.same
  refine ⟨g.ext.trans t.ext, g.kext.trans t.kext, by rw [he.size]; exact g.size, ?_, ?_, ?_⟩
  · intro x hx
    rw [he.par x]
    have : x ≠ r := by intro e'; subst e'; exact Nat.lt_irrefl _ (Nat.lt_of_lt_of_le hx hr)
    rw [if_neg this]; exact g.oldPar x hx
  · intro x p hx hp
    rw [he.par x] at hp
    by_cases hxr : x = r
    · rw [if_pos hxr] at hp; cases hp; rw [hxr]; exact hP
    · rw [if_neg hxr] at hp; exact g.newPar x p hx hp
  · obtain ⟨sub, news, e1, hs, hn, hp⟩ := g.stack
    refine ⟨sub, news, by rw [e]; exact e1, hs, fun x hx => ⟨(hn x hx).1, by rw [he.size]; exact (hn x hx).2⟩, hp⟩

/-- … and pushing it -/
theorem GrowRel.push {s s4 : State} {r : Id} (g : GrowRel s s4) (hst : s4.openElems = s.openElems)
    (hr : s.dom.size ≤ r) (hrlt : r < s4.dom.size) :
    GrowRel s { s4 with openElems := s4.openElems ++ [r] } := by
  refine ⟨g.ext, g.kext, g.size, g.oldPar, g.newPar, ⟨s.openElems, [r], by rw [hst], List.Sublist.refl _, ?_, ?_⟩⟩
  · intro x hx; rw [List.mem_singleton.mp hx]; exact ⟨hr, hrlt⟩
  · exact List.pairwise_singleton _ _

theorem CB.push {s : State} (h : CB d0 s) {r : Id} (hel : IsEl s.dom r) (htc : TcDoc s.dom r) :
    CB d0 { s with openElems := s.openElems ++ [r] } where
  d := ⟨h.d.inv, h.d.run⟩
  h := ⟨h.h.docH, h.h.doc0, fun x hx => by
      rcases List.mem_append.mp hx with hx | hx
      · exact h.h.open_el x hx
      · rw [List.mem_singleton.mp hx]; exact hel,
    fun x hx => by
      rcases List.mem_append.mp hx with hx | hx
      · exact h.h.open_tc x hx
      · rw [List.mem_singleton.mp hx]; exact htc,
    h.h.af, h.h.head, h.h.form, h.h.ctx, h.h.headTc⟩
  l := ⟨h.l.mode, h.l.orig, h.l.tm⟩

theorem FreshNode.of_same_dom {d d' : Dom} {r : Id} (h : FreshNode d r) (e : d' = d) : FreshNode d' r := e ▸ h

theorem attrKeysNodup_of_attrsOk {attrs : List Attr} (h : AttrsOk attrs) : Dom.attrKeysNodup attrs = true := by
  obtain ⟨h1, h2⟩ := h
  induction attrs with
  | nil => rfl
  | cons a t ih =>
    simp only [List.map_cons, List.nodup_cons] at h2
    simp only [Dom.attrKeysNodup, Bool.and_eq_true, Bool.not_eq_true']
    refine ⟨?_, ih (fun x hx => h1 x (List.mem_cons_of_mem _ hx)) h2.2⟩
    cases hc : (t.map Dom.attrKey).contains (Dom.attrKey a) with
    | false => rfl
    | true =>
      exfalso
      rw [List.contains_iff_mem] at hc
      obtain ⟨b, hb, hk⟩ := List.mem_map.mp hc
      have ha := (h1 a List.mem_cons_self).1
      have hbn := (h1 b (List.mem_cons_of_mem _ hb)).1
      unfold Dom.attrKey at hk
      rw [if_pos ha, if_pos hbn] at hk
      simp only [Prod.mk.injEq, true_and] at hk
      exact h2.1 (List.mem_map.mpr ⟨b, hb, hk.2⟩)

macro_rules | `(tactic| cp_side) => `(tactic| (refine attrKeysNodup_of_attrsOk ?_) <;> assumption)

end H5V.Lemmas.TBC
