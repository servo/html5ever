import H5V.Lemmas.XmlRTCheck
import H5V.Lemmas.XmlTokCleanRun
/-!
C17, shape of parsed trees (tokenizer side): the lexical invariant of the XML tokenizer model —
definitions and the `go!` helpers.

`TokA t` — the lexical clauses that hold for EVERY token the tokenizer model emits, whatever the input:
* a start / empty tag has a name `process_qname raw` with `TagNameLex raw` (non-empty; first character none
  of TAB LF SPACE `/` `>` CR NUL `!` `?` `:` `<`, the others none of TAB LF SPACE `/` `>` CR NUL);
* every attribute has a name `process_qname raw` with `ANameA raw` (non-empty; first character a name
  character — possibly `:` or `=` —, the others name characters different from `=`); the attribute names of
  a tag are pairwise distinct;
* a PI has a non-empty target whose characters are no blanks and (after the first) no `?`, and data without `?`;
* the characters of a doctype name are `DtCh` (no blank, `>`, CR, NUL, ASCII capital);
* a comment text is `GtScanP`: every `>` in it stands where the tokenizer does not end a comment (not at the
  start, not after a single leading `-`, not after `--` or `--!`);
* a character token is not empty.
(No CR / NUL in names, comments, PIs, doctype names and no NUL in attribute values / character tokens is
C15's `CleanP NN`, proved separately.)

`LexE m` — the part of the invariant that does not depend on the comment states: the clauses above for the
token log and for the registers a later token is built from (`LexG`, state-independent), plus (`ModeOK`):
inside a start tag the kind is start / empty and the name register satisfies `TagNameLex`; inside an end
tag the kind is end; inside a PI the target register is not empty.  The comment states are
`XmlShapeCmt.lean`; the tables `XmlShapeLexTab.lean`; `step` / `run` / `feed` / `end` `XmlShapeLexRun.lean`.
-/
namespace H5V.Lemmas.XmlShapeLex
open H5V.Model.XmlTok H5V.Lemmas.XmlRT

/-! ### predicates -/

/-- a raw attribute name as `create_attr` / `push_name` build it -/
def ANameA (s : Str) : Prop := ∃ c t, s = c :: t ∧ NmCh c ∧ ∀ d ∈ t, NmCh d ∧ d ≠ '='

def ANameBuf (s : Str) : Prop := s = [] ∨ ANameA s

def AttrA (a : Attr) : Prop := ∃ raw, a.name = processQName raw ∧ ANameA raw

def TagA (t : Tag) : Prop :=
  ((t.kind = .startTag ∨ t.kind = .emptyTag) → ∃ raw, t.name = processQName raw ∧ TagNameLex raw) ∧
  (∀ a ∈ t.attrs, AttrA a) ∧ (t.attrs.map (·.name)).Nodup

/-- a PI target as `create_pi` / `push_pi_target` build it -/
def PiTA (t : Str) : Prop := ∃ c t', t = c :: t' ∧ NoWs3 c ∧ ∀ x ∈ t', NoWs3 x ∧ x ≠ '?'

def DtI (d : Doctype) : Prop := ∀ s, d.name = some s → ∀ x ∈ s, DtCh x

/-- every `>` inside the comment text stands where the tokenizer does not end the comment -/
def GtScanP (s : Str) : Prop := ∀ p t, s = p ++ '>' :: t → GtOk p

/-- what holds for every emitted token -/
def TokA : Token → Prop
  | .tag t => TagA t
  | .pi t d => PiTA t ∧ ∀ x ∈ d, x ≠ '?'
  | .doctype d => DtI d
  | .chars s => s ≠ []
  | .comment s => GtScanP s
  | .eof => True
  | .error _ => True

inductive Mode | other | stag | etag | pi
deriving DecidableEq, Repr

def modeOf : State → Mode
  | .tagName | .tagEmpty | .tagAttrNameBefore | .tagAttrName | .tagAttrNameAfter | .tagAttrValueBefore
  | .tagAttrValue _ => .stag
  | .endTagName | .endTagNameAfter => .etag
  | .piTarget | .piTargetAfter | .piData | .piAfter => .pi
  | _ => .other

def ModeOK : Mode → Mach → Prop
  | .other, _ => True
  | .stag, m => (m.tagKind = .startTag ∨ m.tagKind = .emptyTag) ∧ TagNameLex m.tagName
  | .etag, m => m.tagKind = .endTag
  | .pi, m => m.piTarget ≠ []

/-- the state-independent part -/
structure LexG (m : Mach) : Prop where
  out : ∀ t ∈ m.out, TokA t
  aname : ANameBuf m.attrName
  attrs : ∀ a ∈ m.tagAttrs, AttrA a
  nodup : (m.tagAttrs.map (·.name)).Nodup
  piT : m.piTarget = [] ∨ PiTA m.piTarget
  piD : ∀ x ∈ m.piData, x ≠ '?'
  dt : DtI m.doctype
  scan : GtScanP m.comment

def LexE (m : Mach) : Prop := LexG m ∧ ModeOK (modeOf m.state) m

/-! ### character facts -/

theorem tagNameLex_snoc {s : Str} {c : Char} (h : TagNameLex s) (hc : NmCh c) : TagNameLex (s ++ [c]) := by
  obtain ⟨a, t, rfl, h1, h2, h3⟩ := h
  refine ⟨a, t ++ [c], rfl, h1, h2, ?_⟩
  intro d hd
  rcases List.mem_append.mp hd with hd | hd
  · exact h3 d hd
  · simp only [List.mem_singleton] at hd; subst hd; exact hc

theorem aNameBuf_snoc {s : Str} {c : Char} (h : ANameBuf s) (hc : NmCh c) (he : c ≠ '=') : ANameBuf (s ++ [c]) := by
  rcases h with rfl | ⟨a, t, rfl, h1, h2⟩
  · exact Or.inr ⟨c, [], rfl, hc, by simp⟩
  · refine Or.inr ⟨a, t ++ [c], rfl, h1, ?_⟩
    intro d hd
    rcases List.mem_append.mp hd with hd | hd
    · exact h2 d hd
    · simp only [List.mem_singleton] at hd; subst hd; exact ⟨hc, he⟩

theorem piTA_snoc {s : Str} {c : Char} (h : s = [] ∨ PiTA s) (hc : NoWs3 c) (hq : s ≠ [] → c ≠ '?') :
    PiTA (s ++ [c]) := by
  rcases h with rfl | ⟨a, t, rfl, h1, h2⟩
  · exact ⟨c, [], rfl, hc, by simp⟩
  · refine ⟨a, t ++ [c], rfl, h1, ?_⟩
    intro d hd
    rcases List.mem_append.mp hd with hd | hd
    · exact h2 d hd
    · simp only [List.mem_singleton] at hd; subst hd; exact ⟨hc, hq (by simp)⟩

theorem lower_ne {c x : Char} (hx : toAsciiLower x = x) (h : c ≠ x) (hxl : ¬ ('a' ≤ x ∧ x ≤ 'z')) :
    toAsciiLower c ≠ x := by
  unfold toAsciiLower
  split
  · rename_i h1
    intro e
    apply hxl
    simp only [char_le_iff, Char.reduceToNat] at h1 ⊢
    have hv : (c.toNat + 32).isValidChar := by left; omega
    have e2 := toNat_ofNat_valid _ hv
    rw [e] at e2
    omega
  · exact h

theorem lower_idem (c : Char) : toAsciiLower (toAsciiLower c) = toAsciiLower c := by
  unfold toAsciiLower
  split
  · rename_i h1
    simp only [char_le_iff, Char.reduceToNat] at h1
    have hv : (c.toNat + 32).isValidChar := by left; omega
    have e2 := toNat_ofNat_valid _ hv
    have : ¬ ('A' ≤ Char.ofNat (c.toNat + 32) ∧ Char.ofNat (c.toNat + 32) ≤ 'Z') := by
      simp only [char_le_iff, Char.reduceToNat, e2]; omega
    simp [this]
  · rename_i h1; simp [h1]

theorem dtCh_lower {c : Char} (hq : QC c) (h1 : c ≠ '\t') (h2 : c ≠ '\n') (h3 : c ≠ '\x0c') (h4 : c ≠ ' ')
    (h5 : c ≠ '>') : DtCh (toAsciiLower c) :=
  ⟨lower_ne (by decide) h1 (by decide), lower_ne (by decide) h2 (by decide), lower_ne (by decide) h3 (by decide),
   lower_ne (by decide) h4 (by decide), lower_ne (by decide) h5 (by decide), lower_ne (by decide) hq.1 (by decide),
   lower_ne (by decide) hq.2 (by decide), lower_idem c⟩

/-! ### comment texts -/

theorem gtScan_nil : GtScanP [] := by
  intro p t e; cases p <;> cases e

theorem split_snoc {p' t' : Str} {c : Char} {s : Str} (e : s ++ [c] = p' ++ '>' :: t') :
    (t' = [] ∧ c = '>' ∧ s = p') ∨ ∃ t'', t' = t'' ++ [c] ∧ s = p' ++ '>' :: t'' := by
  rcases List.eq_nil_or_concat t' with rfl | ⟨t'', x, e0⟩
  · left
    have : s ++ [c] = p' ++ ['>'] := e
    have h := List.append_inj' this rfl
    exact ⟨rfl, by simpa using h.2, h.1⟩
  · right
    rw [List.concat_eq_append] at e0; subst e0
    have : s ++ [c] = (p' ++ '>' :: t'') ++ [x] := by simpa using e
    have h := List.append_inj' this rfl
    have hx : c = x := by simpa using h.2
    subst hx
    exact ⟨t'', rfl, h.1⟩

theorem gtScan_snoc_ne {s : Str} {c : Char} (h : GtScanP s) (hc : c ≠ '>') : GtScanP (s ++ [c]) := by
  intro p t e
  rcases split_snoc e with ⟨_, h2, _⟩ | ⟨t'', _, h2⟩
  · exact absurd h2 hc
  · exact h p t'' h2

theorem gtScan_snoc_gt {s : Str} (h : GtScanP s) (hg : GtOk s) : GtScanP (s ++ ['>']) := by
  intro p t e
  rcases split_snoc e with ⟨_, _, h3⟩ | ⟨t'', _, h2⟩
  · rw [← h3]; exact hg
  · exact h p t'' h2

theorem gtScan_append {s u : Str} (h : GtScanP s) (hu : ∀ c ∈ u, c ≠ '>') : GtScanP (s ++ u) := by
  induction u generalizing s with
  | nil => simpa using h
  | cons c r ih =>
    have := ih (gtScan_snoc_ne h (hu c (by simp))) (fun x hx => hu x (by simp [hx]))
    simpa using this

/-- the text ends with `u` -/
theorem ends_snoc {u p : Str} {a c : Char} : (u ++ [a]) <:+ (p ++ [c]) ↔ a = c ∧ u <:+ p := by
  rw [← List.reverse_prefix, ← List.reverse_prefix]
  simp [List.cons_prefix_cons]

theorem ends_nil_snoc {a : Char} {u : Str} : ¬ (u ++ [a]) <:+ ([] : Str) := by
  intro h
  have := List.IsSuffix.length_le h
  simp at this

theorem getLast_snoc (p : Str) (c : Char) : (p ++ [c]).getLast? = some c := by simp

/-- in the comment state, nothing pending: the text is not empty, does not end with `-`, nor with `--!` -/
def CW (p : Str) : Prop := p ≠ [] ∧ p.getLast? ≠ some '-' ∧ ¬ ['-', '-', '!'] <:+ p

/-- what the comment state needs to know about the text when it is about to see `c` -/
def CR (p : Str) (c : Char) : Prop :=
  (c = '>' → GtOk p) ∧ (c = '-' → p ≠ [] ∧ p.getLast? ≠ some '-') ∧ (c = '!' → ¬ ['-', '-'] <:+ p)

theorem last_of_ends {p : Str} {u : Str} {a : Char} (h : (u ++ [a]) <:+ p) : p.getLast? = some a := by
  obtain ⟨t, rfl⟩ := h
  rw [← List.append_assoc]; simp

theorem gtOk_of_CW {p : Str} (h : CW p) : GtOk p := by
  obtain ⟨h1, h2, h3⟩ := h
  refine ⟨h1, ?_, ?_, h3⟩
  · intro e; rw [e] at h2; exact h2 rfl
  · intro e
    exact h2 (last_of_ends (u := ['-']) e)

theorem CR_of_CW {p : Str} (h : CW p) (c : Char) : CR p c :=
  ⟨fun _ => gtOk_of_CW h, fun _ => ⟨h.1, h.2.1⟩, fun _ e => h.2.1 (last_of_ends (u := ['-']) e)⟩

/-- the comment state pushes `c` (not `<`, not `-`) -/
theorem CW_push {p : Str} {c : Char} (h : CR p c) (h2 : c ≠ '-') : CW (p ++ [c]) := by
  refine ⟨by simp, by rw [getLast_snoc]; intro e; injection e with e; exact h2 e, ?_⟩
  intro e
  have e' : (['-', '-'] ++ ['!']) <:+ (p ++ [c]) := e
  rw [ends_snoc] at e'
  exact h.2.2 e'.1.symm e'.2

theorem gtOk_snoc {p : Str} {c : Char} (hc : c ≠ '-') (hb : c ≠ '!') : GtOk (p ++ [c]) := by
  refine ⟨by simp, ?_, ?_, ?_⟩
  · intro e
    have := congrArg List.getLast? e
    rw [getLast_snoc] at this
    injection this with this; exact hc this
  · intro e
    have e' : (['-'] ++ ['-']) <:+ (p ++ [c]) := e
    rw [ends_snoc] at e'; exact hc e'.1.symm
  · intro e
    have e' : (['-', '-'] ++ ['!']) <:+ (p ++ [c]) := e
    rw [ends_snoc] at e'; exact hb e'.1.symm

/-! ### the helpers: state-independent part -/

section helpers
variable {m : Mach}

macro "lg_same" h:ident : tactic =>
  `(tactic| exact ⟨($h).out, ($h).aname, ($h).attrs, ($h).nodup, ($h).piT, ($h).piD, ($h).dt, ($h).scan⟩)

theorem LexG_to (h : LexG m) (s : State) : LexG (to s m) := by lg_same h
theorem LexG_reconsumeTo (h : LexG m) (s : State) : LexG (reconsumeTo s m) := by lg_same h
theorem LexG_setEmptyTag (h : LexG m) : LexG (setEmptyTag m) := by lg_same h
theorem LexG_consumeCharRef (h : LexG m) (x : Option Char) : LexG (consumeCharRef x m) := by lg_same h
theorem LexG_setTagKind (h : LexG m) (k : TagKind) : LexG { m with tagKind := k } := by lg_same h
theorem LexG_pushTag (h : LexG m) (c : Char) : LexG (pushTag c m) := by lg_same h
theorem LexG_pushValue (h : LexG m) (c : Char) : LexG (pushValue c m) := by lg_same h
theorem LexG_appendValue (h : LexG m) (s : Str) : LexG (appendValue s m) := by lg_same h
theorem LexG_pushComment (h : LexG m) {c : Char} (hc : c ≠ '>' ∨ GtOk m.comment) : LexG (pushComment c m) :=
  ⟨h.out, h.aname, h.attrs, h.nodup, h.piT, h.piD, h.dt, by
    show GtScanP (m.comment ++ [c])
    by_cases e : c = '>'
    · subst e
      rcases hc with hc | hc
      · exact absurd rfl hc
      · exact gtScan_snoc_gt h.scan hc
    · exact gtScan_snoc_ne h.scan e⟩
theorem LexG_appendComment (h : LexG m) (s : String) (hs : ∀ c ∈ s.toList, c ≠ '>') : LexG (appendComment s m) :=
  ⟨h.out, h.aname, h.attrs, h.nodup, h.piT, h.piD, h.dt, gtScan_append h.scan hs⟩
theorem LexG_clearComment (h : LexG m) : LexG (clearComment m) :=
  ⟨h.out, h.aname, h.attrs, h.nodup, h.piT, h.piD, h.dt, gtScan_nil⟩

theorem LexG_emit (h : LexG m) {t : Token} (ht : TokA t) : LexG (emit m t) :=
  ⟨(by intro x hx; rcases List.mem_cons.mp hx with rfl | hx; exact ht; exact h.out x hx),
   h.aname, h.attrs, h.nodup, h.piT, h.piD, h.dt, h.scan⟩
theorem LexG_emitErr (h : LexG m) (s : String) : LexG (emitErr m s) := LexG_emit h trivial
theorem LexG_badChar (h : LexG m) (o : Opts) : LexG (badChar o m) := by
  unfold badChar; split
  · exact LexG_emit h trivial
  · exact LexG_emitErr h _
theorem LexG_badEof (h : LexG m) (o : Opts) : LexG (badEof o m) := by
  unfold badEof; split <;> exact LexG_emitErr h _
theorem LexG_emitChar (h : LexG m) (c : Char) : LexG (emitChar m c) := LexG_emit h (by simp [TokA])
theorem LexG_emitChars (h : LexG m) {s : Str} (hs : s ≠ []) : LexG (emitChars m s) := LexG_emit h hs
theorem LexG_emitComment (h : LexG m) : LexG (emitComment m) :=
  ⟨(by intro x hx; rcases List.mem_cons.mp hx with rfl | hx; exact h.scan; exact h.out x hx),
   h.aname, h.attrs, h.nodup, h.piT, h.piD, h.dt, gtScan_nil⟩

theorem LexG_discardTag (h : LexG m) : LexG (discardTag m) :=
  ⟨h.out, h.aname, (fun _ hh => nomatch hh), List.nodup_nil, h.piT, h.piD, h.dt, h.scan⟩
theorem LexG_createTag (h : LexG m) (k : TagKind) (c : Char) : LexG (createTag k c m) :=
  ⟨h.out, h.aname, (fun _ hh => nomatch hh), List.nodup_nil, h.piT, h.piD, h.dt, h.scan⟩

theorem LexG_createPi (h : LexG m) {c : Char} (hc : NoWs3 c) : LexG (createPi c m) :=
  ⟨h.out, h.aname, h.attrs, h.nodup, Or.inr ⟨c, [], rfl, hc, (by simp)⟩, (fun _ hh => nomatch hh), h.dt, h.scan⟩
theorem LexG_pushPiTarget (h : LexG m) {c : Char} (hc : NoWs3 c) (hq : c ≠ '?') : LexG (pushPiTarget c m) :=
  ⟨h.out, h.aname, h.attrs, h.nodup, Or.inr (piTA_snoc h.piT hc (fun _ => hq)), h.piD, h.dt, h.scan⟩
theorem LexG_pushPiData (h : LexG m) {c : Char} (hq : c ≠ '?') : LexG (pushPiData c m) :=
  ⟨h.out, h.aname, h.attrs, h.nodup, h.piT, (by
    intro x hx
    rcases List.mem_append.mp hx with hx | hx
    · exact h.piD x hx
    · simp only [List.mem_singleton] at hx; subst hx; exact hq), h.dt, h.scan⟩
theorem LexG_emitPi (h : LexG m) (hp : m.piTarget ≠ []) : LexG (emitPi m) :=
  ⟨(by
    intro x hx
    rcases List.mem_cons.mp hx with rfl | hx
    · rcases h.piT with e | e
      · exact absurd e hp
      · exact ⟨e, h.piD⟩
    · exact h.out x hx),
   h.aname, h.attrs, h.nodup, Or.inl rfl, (fun _ hh => nomatch hh), h.dt, h.scan⟩

theorem LexG_pushName (h : LexG m) {c : Char} (hc : NmCh c) (he : c ≠ '=') : LexG (pushName c m) :=
  ⟨h.out, aNameBuf_snoc h.aname hc he, h.attrs, h.nodup, h.piT, h.piD, h.dt, h.scan⟩

theorem dtI_empty : DtI {} := by intro s hs; cases hs
theorem LexG_createDoctype (h : LexG m) : LexG (createDoctype m) :=
  ⟨h.out, h.aname, h.attrs, h.nodup, h.piT, h.piD, dtI_empty, h.scan⟩
theorem LexG_pushDoctypeName (h : LexG m) {c : Char} (hc : DtCh c) : LexG (pushDoctypeName c m) :=
  ⟨h.out, h.aname, h.attrs, h.nodup, h.piT, h.piD, (by
    intro s hs
    simp only [pushDoctypeName] at hs
    unfold optPush at hs
    cases hn : m.doctype.name with
    | none =>
      rw [hn] at hs; simp only [Option.some.injEq] at hs; subst hs
      intro x hx; simp only [List.mem_singleton] at hx; subst hx; exact hc
    | some t =>
      rw [hn] at hs; simp only [Option.some.injEq] at hs; subst hs
      intro x hx
      rcases List.mem_append.mp hx with hx | hx
      · exact h.dt t hn x hx
      · simp only [List.mem_singleton] at hx; subst hx; exact hc), h.scan⟩
theorem LexG_pushDoctypeId (h : LexG m) (k : DoctypeKind) (c : Char) : LexG (pushDoctypeId k c m) := by
  cases k <;> exact ⟨h.out, h.aname, h.attrs, h.nodup, h.piT, h.piD, h.dt, h.scan⟩
theorem LexG_clearDoctypeId (h : LexG m) (k : DoctypeKind) : LexG (clearDoctypeId k m) := by
  cases k <;> exact ⟨h.out, h.aname, h.attrs, h.nodup, h.piT, h.piD, h.dt, h.scan⟩
theorem LexG_emitDoctype (h : LexG m) : LexG (emitDoctype m) :=
  ⟨(by intro x hx; rcases List.mem_cons.mp hx with rfl | hx; exact h.dt; exact h.out x hx),
   h.aname, h.attrs, h.nodup, h.piT, h.piD, dtI_empty, h.scan⟩

/-- `finish_attribute`: the new attribute has a good name, distinct from the earlier ones; the name
register is empty afterwards -/
theorem LexG_finishAttribute (h : LexG m) : LexG (finishAttribute m) ∧ (finishAttribute m).attrName = [] := by
  unfold finishAttribute
  dsimp only
  split
  · rename_i he
    exact ⟨h, by simpa using he⟩
  · rename_i he
    have hne : m.attrName ≠ [] := by simpa using he
    have ha : AttrA ⟨processQName m.attrName, m.attrValue⟩ := by
      rcases h.aname with e | e
      · exact absurd e hne
      · exact ⟨m.attrName, rfl, e⟩
    split
    · exact ⟨⟨(by
        intro x hx
        rcases List.mem_cons.mp hx with rfl | hx
        · trivial
        · exact h.out x hx), Or.inl rfl, h.attrs, h.nodup, h.piT, h.piD, h.dt, h.scan⟩, rfl⟩
    · rename_i hdup
      have hnot : processQName m.attrName ∉ m.tagAttrs.map (·.name) := by
        intro hm
        obtain ⟨x, hx, hxe⟩ := List.mem_map.mp hm
        exact hdup (List.any_eq_true.mpr ⟨x, hx, by simpa using hxe⟩)
      split
      · refine ⟨⟨h.out, Or.inl rfl, ?_, ?_, h.piT, h.piD, h.dt, h.scan⟩, rfl⟩
        · intro a hm
          rcases List.mem_cons.mp hm with rfl | hm
          · exact ha
          · exact h.attrs a hm
        · simp only [List.map_cons, List.nodup_cons]; exact ⟨hnot, h.nodup⟩
      · refine ⟨⟨h.out, Or.inl rfl, ?_, ?_, h.piT, h.piD, h.dt, h.scan⟩, rfl⟩
        · intro a hm
          rcases List.mem_append.mp hm with hm | hm
          · exact h.attrs a hm
          · simp only [List.mem_singleton] at hm; subst hm; exact ha
        · rw [List.map_append, List.nodup_append]
          refine ⟨h.nodup, by simp, ?_⟩
          intro x hx y hy
          simp only [List.map_cons, List.map_nil, List.mem_singleton] at hy; subst hy
          intro e; subst e; exact hnot hx

theorem LexG_createAttr (h : LexG m) {c : Char} (hc : NmCh c) : LexG (createAttr c m) := by
  obtain ⟨h1, h2⟩ := LexG_finishAttribute h
  unfold createAttr
  dsimp only
  generalize finishAttribute m = x at h1 h2
  refine ⟨h1.out, ?_, h1.attrs, h1.nodup, h1.piT, h1.piD, h1.dt, h1.scan⟩
  show ANameBuf (x.attrName ++ [c])
  rw [h2]
  exact Or.inr ⟨c, [], rfl, hc, by simp⟩

theorem finishAttribute_tag (m : Mach) :
    (finishAttribute m).tagName = m.tagName ∧ (finishAttribute m).tagKind = m.tagKind ∧
    (finishAttribute m).piTarget = m.piTarget := by
  unfold finishAttribute
  dsimp only
  repeat' split
  all_goals exact ⟨rfl, rfl, rfl⟩

/-- `emit_current_tag`: the emitted tag satisfies `TagA`, given the name condition for start / empty tags -/
theorem LexG_emitCurrentTag (h : LexG m)
    (hn : (m.tagKind = .startTag ∨ m.tagKind = .emptyTag) → TagNameLex m.tagName) : LexG (emitCurrentTag m) := by
  obtain ⟨h1, h2⟩ := LexG_finishAttribute h
  obtain ⟨e1, e2, _⟩ := finishAttribute_tag m
  unfold emitCurrentTag
  dsimp only
  generalize finishAttribute m = x at h1 h2 e1 e2
  have ht : TokA (.tag { kind := x.tagKind, name := processQName x.tagName, attrs := x.tagAttrs }) := by
    refine ⟨?_, h1.attrs, h1.nodup⟩
    intro hk
    exact ⟨x.tagName, rfl, by rw [e1]; exact hn (by rw [← e2]; exact hk)⟩
  have hA : ANameBuf x.attrName := h1.aname
  repeat' split
  all_goals
    refine ⟨?_, hA, (fun _ hh => nomatch hh), List.nodup_nil, h1.piT, h1.piD, h1.dt, h1.scan⟩
    intro t hm
    rcases List.mem_cons.mp hm with rfl | hm
    · exact ht
    · first
      | exact h1.out t hm
      | (rcases List.mem_cons.mp hm with rfl | hm
         · trivial
         · exact h1.out t hm)

end helpers

end H5V.Lemmas.XmlShapeLex
