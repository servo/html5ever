import H5V.Lemmas.HtmlTBSplitActions
import H5V.Lemmas.HtmlTBSplitQuery
/-!
C03 lifted to the tree: what the rules do with a character token, as a *skeleton*:
`step mode (.chars st x) = charsPre mode st >>= fun k => charsFin k st x` where `charsPre` does not see
the text and answers a `CKind` (split / drop / reprocess in another mode / one of three text-consuming
terminal actions), and `charsFin` is the only place the text enters. `preShape` is the table of the 21 modes
from which `charsPre` and the list `kinds` of its possible answers are read off.
-/
namespace H5V.Lemmas.TBSplit
open H5V.Model.Dom (Id QualName Attr NodeOrText SinkOp Output ElementFlags QuirksMode Dom)
open H5V.Model.HtmlTok (TagKind RawKind)
open H5V.Model.HtmlTB

/-- what a mode does with a character token -/
inductive CKind
  | split                 -- `SplitWhitespace`
  | drop                  -- ignored (`Done`; at most a parse error)
  | re (m : Mode)         -- `Reprocess(m, token)`
  | fa                    -- `append_text`
  | ffa                   -- foreign content: frameset-ok, `append_text`
  | body (foster : Bool)  -- the in-body rule: reconstruct, frameset-ok, `append_text` (foster parented or not)
  | pend                  -- in table text: pushed on `pending_table_text`
deriving DecidableEq, Repr

/-- `if any_not_whitespace(text) { frameset_ok = false }` -/
def fOk (x : Str) : M Unit := do
  if anyNotWhitespace x then setFramesetOk false

/-- the text-consuming part -/
def charsFin (k : CKind) (st : SplitStatus) (x : Str) : M ProcessResult :=
  match k with
  | .split => pure (.splitWhitespace x)
  | .drop => pure .done
  | .re m => pure (.reprocess m (.chars st x))
  | .fa => appendText x
  | .ffa => do fOk x; appendText x
  | .body false => stepInBody (.chars st x)
  | .body true => fosterParentInBody (.chars st x)
  | .pend => do
    modS fun s => { s with pendingTableText := s.pendingTableText ++ [(st, x)] }
    pure .done

/-- `process_chars_in_table` without the token -/
def tablePre : M CKind := do
  if ← currentNodeIn tableOuterChars then
    if !(← getS).pendingTableText.isEmpty then
      panicAt "assert" "mod.rs:1250" "assert!(self.pending_table_text.borrow().is_empty())"
    modS fun s => { s with origMode := some s.mode }
    pure (.re .inTableText)
  else
    parseError "Unexpected characters in table"
    pure (.body true)

/-- what a mode does with a character token before the text is looked at: the same for every status; the table
prelude; or, in the modes that split, `ws` for whitespace and the program `rest` (answering one of `restKinds`)
for the rest -/
inductive PreShape
  | const (k : CKind)
  | table
  | splits (ws : CKind) (rest : M CKind) (restKinds : List CKind)

/-- a parse error, then the answer `k` -/
def unexpectedThen (k : CKind) : M CKind := do
  let _ ← unexpected
  pure k

/-- the `CharacterTokens` arms of rules.rs, mode by mode -/
def preShape : Mode → PreShape
  | .initial => .splits .drop (do
      if !(← getS).opts.iframeSrcdoc then
        let _ ← unexpected
        setQuirksMode .quirks
      pure (.re .beforeHtml)) [.re .beforeHtml]
  | .beforeHtml => .splits .drop (do
      createRoot []
      pure (.re .beforeHead)) [.re .beforeHead]
  | .beforeHead => .splits .drop (do
      let h ← insertPhantom "head"
      modS fun s => { s with headElem := some h }
      pure (.re .inHead)) [.re .inHead]
  | .inHead => .splits .fa (do
      let _ ← pop
      pure (.re .afterHead)) [.re .afterHead]
  | .inHeadNoscript => .splits .fa (do
      let _ ← unexpected
      let _ ← pop
      pure (.re .inHead)) [.re .inHead]
  | .afterHead => .splits .fa (do
      let _ ← insertPhantom "body"
      pure (.re .inBody)) [.re .inBody]
  | .inBody | .inCaption | .inCell | .inTemplate => .const (.body false)
  | .text => .const .fa
  | .inTable | .inTableBody | .inRow => .table
  | .inTableText => .const .pend
  | .inColumnGroup => .splits .fa (do
      if ← currentNodeNamed "colgroup" then
        let _ ← pop
        pure (.re .inTable)
      else
        let _ ← unexpected
        pure .drop) [.re .inTable, .drop]
  | .afterBody | .afterAfterBody => .splits (.body false) (unexpectedThen (.re .inBody)) [.re .inBody]
  | .inFrameset | .afterFrameset => .splits .fa (unexpectedThen .drop) [.drop]
  | .afterAfterFrameset => .splits (.body false) (unexpectedThen .drop) [.drop]

/-- the text-independent part -/
def charsPre (mode : Mode) (st : SplitStatus) : M CKind :=
  match preShape mode, st with
  | .const k, _ => pure k
  | .table, _ => tablePre
  | .splits _ _ _, .notSplit => pure .split
  | .splits ws _ _, .whitespace => pure ws
  | .splits _ rest _, .notWhitespace => rest

theorem unexpected_eq : unexpected = (do parseError "Unexpected token"; pure .done) := rfl

theorem processCharsInTable_eq (st : SplitStatus) (x : Str) :
    processCharsInTable (.chars st x) = tablePre >>= fun k => charsFin k st x := by
  unfold processCharsInTable tablePre
  simp only [bind_assoc]
  congr 1
  funext b
  cases b
  · simp only [Bool.false_eq_true, if_false, bind_assoc, pure_bind]; rfl
  · simp only [if_true, bind_assoc]
    congr 1
    funext s
    split <;> simp only [bind_assoc, pure_bind, charsFin] <;> rfl

set_option linter.unusedSimpArgs false in
/-- **the skeleton** (one simp set serves all modes) -/
theorem step_chars_eq (mode : Mode) (st : SplitStatus) (x : Str) :
    step mode (.chars st x) = charsPre mode st >>= fun k => charsFin k st x := by
  cases mode <;> cases st <;>
    first
    | rfl
    | (simp only [step, stepInTable, stepInTableBody, stepInRow, charsPre, preShape]; exact processCharsInTable_eq _ _)
    | (simp only [step, charsPre, preShape, unexpectedThen, stepInitial, stepBeforeHtml, stepBeforeHead, stepInHead, stepInHeadNoscript,
        stepAfterHead, stepText, stepInTableText, stepInCaption, stepInCell, stepInTemplate, stepInColumnGroup,
        stepAfterBody, stepInFrameset, stepAfterFrameset, stepAfterAfterBody, stepAfterAfterFrameset,
        charsFin, bind_assoc, pure_bind, unexpected_eq] <;>
       first
       | rfl
       | (congr 1; funext _; split <;> simp only [bind_assoc, pure_bind]))

theorem stepForeign_chars_eq (st : SplitStatus) (x : Str) :
    stepForeign (.chars st x) = charsFin .ffa st x := by
  simp only [stepForeign, charsFin, fOk]
  cases anyNotWhitespace x <;> simp

/-- the in-body rule for a character token -/
theorem stepInBody_chars_eq (st : SplitStatus) (x : Str) :
    stepInBody (.chars st x) = (do reconstructActiveFormattingElements; fOk x; appendText x) := by
  simp only [stepInBody, fOk]
  cases anyNotWhitespace x <;> simp

/-! ### the dispatch of `process_to_completion` -/

/-- `if self.is_foreign(&token) { self.step_foreign(token) } else { self.step(mode, token) }` -/
def D (t : Token) : M ProcessResult := do
  if ← isForeign t then stepForeign t else step (← getS).mode t

/-- the `match result` of `process_to_completion` -/
def K (fuel : Nat) (token : Token) (more : List Token) (result : ProcessResult) : M SinkResult :=
  let shouldAck : Bool := match token with
    | .tag t => t.selfClosing && t.kind == .startTag
    | _ => false
  match result with
  | .done => do
    if shouldAck then parseError "Unacknowledged self-closing tag"
    match more with
    | [] => pure .continue_
    | t :: rest => processToCompletion fuel t rest
  | .doneAckSelfClosing =>
    match more with
    | [] => pure .continue_
    | t :: rest => processToCompletion fuel t rest
  | .reprocess m t => do
    setMode m
    processToCompletion fuel t more
  | .reprocessForeign t => processToCompletion fuel t more
  | .splitWhitespace buf =>
    match popFrontCharRun buf with
    | none => pure .continue_
    | some (first, isWs, rest) =>
      let status := if isWs then SplitStatus.whitespace else .notWhitespace
      let more := if rest.length > 0 then more ++ [.chars .notSplit rest] else more
      processToCompletion fuel (.chars status first) more
  | .script node => do
    if !more.isEmpty then panicAt "assert" "mod.rs:393" "assert!(more_tokens.is_empty())"
    pure (.script node)
  | .toPlaintext => do
    if !more.isEmpty then panicAt "assert" "mod.rs:397" "assert!(more_tokens.is_empty())"
    pure .plaintext
  | .toRawData k => do
    if !more.isEmpty then panicAt "assert" "mod.rs:401" "assert!(more_tokens.is_empty())"
    pure (.rawData k)
  | .encodingIndicator e => pure (.encodingIndicator e)

theorem ptc_succ (fuel : Nat) (token : Token) (more : List Token) :
    processToCompletion (fuel + 1) token more = D token >>= K fuel token more := by
  simp only [processToCompletion, D, bind_assoc]
  congr 1
  funext b
  cases b
  · simp only [Bool.false_eq_true, if_false, bind_assoc]
    rfl
  · simp only [if_true]
    rfl

theorem ptc_zero (token : Token) (more : List Token) :
    processToCompletion 0 token more = fuelOut "process_to_completion" := rfl

/-- "is foreign" for a character token (the text is not looked at) -/
def isForeignChars : M Bool := isForeign (.chars .notSplit [])

theorem isForeign_chars (st : SplitStatus) (x : Str) : isForeign (.chars st x) = isForeignChars := rfl

/-- the text-independent part of the dispatch for a character token -/
def dPre (st : SplitStatus) : M CKind := do
  if ← isForeignChars then pure .ffa else charsPre (← getS).mode st

/-- **the dispatch of a character token**: a text-independent prelude, then `charsFin` -/
theorem D_chars_eq (st : SplitStatus) (x : Str) :
    D (.chars st x) = dPre st >>= fun k => charsFin k st x := by
  simp only [D, dPre, isForeign_chars, bind_assoc]
  congr 1
  funext b
  cases b
  · simp only [Bool.false_eq_true, if_false, bind_assoc, step_chars_eq]
  · simp only [if_true, pure_bind, stepForeign_chars_eq]

/-! ### the skeleton respects `Sim` -/

macro_rules | `(tactic| resp_side) => `(tactic| (show _ ∈ _; decide))

/-- `tablePre` asserts that no table text is pending; `Sim` states agree on that -/
theorem tablePre_kinds : RespQ (fun k => k ∈ [CKind.re .inTableText, .body true]) tablePre := by
  unfold tablePre
  refine respQ_bind (P := fun _ => True) (currentNodeIn_resp _) ?_
  intro b _
  refine respQ_ite (fun _ => ?_) (fun _ => ?_)
  · refine respQ_getS_bind_diag ?_
    intro s t hst
    have he := hst.pend.isEmpty_eq
    have hr : RespQ (fun k => k ∈ [CKind.re .inTableText, .body true]) (do
        if !s.pendingTableText.isEmpty then
          panicAt "assert" "mod.rs:1250" "assert!(self.pending_table_text.borrow().is_empty())"
        modS fun s => { s with origMode := some s.mode }
        pure (CKind.re .inTableText) : M CKind) := by resp_auto
    have := hr s t hst
    rw [he] at this ⊢
    exact this
  · resp_auto

@[resp]
theorem tablePre_resp : Resp tablePre := respQ_resp tablePre_kinds

/-! ### the table of kinds -/

/-- every kind `charsPre mode st` can answer -/
def kinds (m : Mode) (st : SplitStatus) : List CKind :=
  match preShape m, st with
  | .const k, _ => [k]
  | .table, _ => [.re .inTableText, .body true]
  | .splits _ _ _, .notSplit => [.split]
  | .splits ws _ _, .whitespace => [ws]
  | .splits _ _ ks, .notWhitespace => ks

theorem charsPre_kinds (m : Mode) (st : SplitStatus) : RespQ (fun k => k ∈ kinds m st) (charsPre m st) := by
  cases m <;> cases st <;>
    first
    | (dsimp only [charsPre, preShape, unexpectedThen]; resp_auto; done)
    | exact tablePre_kinds

def rank : Mode → Nat
  | .initial => 6 | .beforeHtml => 5 | .beforeHead => 4 | .inHeadNoscript => 4 | .inHead => 3
  | .afterHead => 2 | .inColumnGroup => 2 | .inTable => 1 | .inTableBody => 1 | .inRow => 1
  | .afterBody => 1 | .afterAfterBody => 1 | _ => 0

/-- what `charsPre mode st` can answer -/
def KOK (m : Mode) (st : SplitStatus) : CKind → Prop
  | .re m' => rank m' < rank m
  | .split => st = .notSplit
  | .ffa => False
  | _ => True

theorem kinds_ok {m : Mode} {st : SplitStatus} {k : CKind} (h : k ∈ kinds m st) : KOK m st k := by
  cases m <;> cases st <;> simp only [kinds, preShape, List.mem_cons, List.not_mem_nil, or_false] at h <;>
    rcases h with rfl | rfl <;> first | rfl | trivial | (show rank _ < rank _; decide)

theorem charsPre_ok (m : Mode) (st : SplitStatus) : RespQ (KOK m st) (charsPre m st) :=
  respQ_weaken (charsPre_kinds m st) (fun _ => kinds_ok)

@[resp]
theorem fOk_resp (x : Str) : Resp (fOk x) := by
  unfold fOk; resp_auto

theorem stepInBody_chars_done (st : SplitStatus) (x : Str) : RespQ (· = .done) (stepInBody (.chars st x)) := by
  rw [stepInBody_chars_eq]; resp_auto

theorem fosterParentInBody_chars_done (st : SplitStatus) (x : Str) :
    RespQ (· = .done) (fosterParentInBody (.chars st x)) := by
  unfold fosterParentInBody
  refine respQ_bind (P := fun _ => True) (by resp_auto) ?_
  intro _ _
  refine respQ_bind (P := (· = .done)) (stepInBody_chars_done st x) ?_
  intro r hr
  subst hr
  resp_auto

theorem cns_append (l1 l2 : List (SplitStatus × Str)) : cns (l1 ++ l2) = (cns l1 || cns l2) := by
  simp [cns, List.any_append]

theorem PendRel.append {l1 l2 m1 m2 : List (SplitStatus × Str)} (h : PendRel l1 l2) (h' : PendRel m1 m2) :
    PendRel (l1 ++ m1) (l2 ++ m2) := by
  refine ⟨?_, ?_, ?_, ?_⟩
  · simp only [List.flatMap_append, h.cat, h'.cat]
  · rw [cns_append, cns_append, h.cns, h'.cns]
  · intro p hp
    rcases List.mem_append.mp hp with hp | hp
    · exact h.ne1 p hp
    · exact h'.ne1 p hp
  · intro p hp
    rcases List.mem_append.mp hp with hp | hp
    · exact h.ne2 p hp
    · exact h'.ne2 p hp

/-- pushing a piece of table text -/
theorem pend_push_resp (st : SplitStatus) (x : Str) (hx : x ≠ []) :
    Resp (modS fun s => { s with pendingTableText := s.pendingTableText ++ [(st, x)] }) := by
  refine resp_modS ?_
  intro s t hst
  obtain ⟨hi, tr, cl, er, pt, rfl, hp⟩ := hst
  refine ⟨hi, tr, cl, er, pt ++ [(st, x)], rfl, ?_⟩
  exact hp.append (PendRel.rfl' (by intro p hp; simp at hp; subst hp; exact hx))

/-- the answer of `charsFin` -/
def FinRes (k : CKind) (st : SplitStatus) (x : Str) (r : ProcessResult) : Prop :=
  match k with
  | .split => r = .splitWhitespace x
  | .re m => r = .reprocess m (.chars st x)
  | _ => r = .done

theorem charsFin_resp (k : CKind) (st : SplitStatus) (x : Str) (hx : x ≠ []) :
    RespQ (FinRes k st x) (charsFin k st x) := by
  cases k with
  | split => exact respQ_pure rfl
  | drop => exact respQ_pure rfl
  | re m => exact respQ_pure rfl
  | fa => exact appendText_resp x
  | ffa =>
    simp only [charsFin]
    exact respQ_bind (P := fun _ => True) (fOk_resp x) (fun _ _ => appendText_resp x)
  | body f =>
    cases f
    · exact stepInBody_chars_done st x
    · exact fosterParentInBody_chars_done st x
  | pend =>
    simp only [charsFin]
    exact respQ_bind (P := fun _ => True) (pend_push_resp st x hx) (fun _ _ => respQ_pure rfl)

@[resp]
theorem isForeignChars_resp : Resp isForeignChars := isForeign_resp _

/-- what `dPre st` can answer in mode `m` -/
def DOK (m : Mode) (st : SplitStatus) : CKind → Prop
  | .re m' => rank m' < rank m
  | .split => st = .notSplit
  | _ => True

theorem KOK.dok {m : Mode} {st : SplitStatus} {k : CKind} (h : KOK m st k) : DOK m st k := by
  cases k <;> first | exact h | trivial

end H5V.Lemmas.TBSplit
