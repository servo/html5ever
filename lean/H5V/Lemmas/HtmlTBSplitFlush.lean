import H5V.Lemmas.HtmlTBSplitTerm
import H5V.Lemmas.HtmlTBSplitRun
/-!
C03 lifted to the tree: the in-table-text rule respects `Sim` (`inTableText_ok`): flushing
pending table text that was collected in different pieces gives `Sim` states, because flushing a list
of pieces is the same as flushing their concatenation (`flushFoster_cat`, `flushPlain_cat`).
With it the hypothesis `InTableTextOK` of the congruence lemmas is discharged.
-/
namespace H5V.Lemmas.TBSplit
open H5V.Model.Dom (Id QualName Attr NodeOrText SinkOp Output ElementFlags QuirksMode Dom)
open H5V.Model.HtmlTok (TagKind RawKind)
open H5V.Model.HtmlTB

/-- two computations are related: `Sim` states in, `Sim` states (and equal answers) out -/
def RelM {α : Type} (m1 m2 : M α) : Prop := ∀ s t, Sim s t → RelR (fun _ => True) (m1 s) (m2 t)

theorem RelM.of_resp {α : Type} {Q : α → Prop} {m : M α} (h : RespQ Q m) : RelM m m := respQ_resp h

theorem RelM.symm {α : Type} {m1 m2 : M α} (h : RelM m1 m2) : RelM m2 m1 :=
  fun s t hst => (h t s hst.symm).symm

theorem RelM.trans {α : Type} {m1 m2 m3 : M α} (h : RelM m1 m2) (h' : RelM m2 m3) : RelM m1 m3 :=
  fun s t hst => (h s s hst.left).trans (h' s t hst)

theorem RelM.bind {α β : Type} {m1 m2 : M α} {f1 f2 : α → M β} (h : RelM m1 m2) (hf : ∀ a, RelM (f1 a) (f2 a)) :
    RelM (m1 >>= f1) (m2 >>= f2) :=
  fun s t hst => relR_bind (h s t hst) (fun a s' t' _ hs' => hf a s' t' hs')

/-- `Done => k`, anything else => "not prepared to handle this!" -/
def expectDone (k : M Unit) (r : ProcessResult) : M Unit :=
  match r with
  | .done => k
  | _ => panicAt "not-prepared" "rules.rs:1163" "not prepared to handle this!"

/-- `flushPendingFoster` on one piece -/
def fosterUnit (st : SplitStatus) (z : Str) : M Unit :=
  fosterParentInBody (.chars st z) >>= expectDone (pure ())

theorem flushFoster_cons (st : SplitStatus) (z : Str) (rest : List (SplitStatus × Str)) :
    flushPendingFoster ((st, z) :: rest) =
      fosterParentInBody (.chars st z) >>= expectDone (flushPendingFoster rest) := by
  rw [flushPendingFoster]
  rfl

/-- the foster-parented in-body rule ignores the split status -/
theorem fosterParentInBody_status (st st' : SplitStatus) (z : Str) :
    fosterParentInBody (.chars st z) = fosterParentInBody (.chars st' z) := by
  funext s
  rw [fosterParentInBody_apply, fosterParentInBody_apply, stepInBody_chars_eq, stepInBody_chars_eq]

/-- two pieces, foster parented, against their concatenation -/
theorem fosterTwo (st st' st'' : SplitStatus) {x y : Str} :
    RelM (fosterParentInBody (.chars st x) >>= expectDone (fosterUnit st' y))
      (fosterUnit st'' (x ++ y)) := by
  intro s t hst
  rw [bind_apply]
  obtain ⟨h1, h2⟩ := fbody_add_sim (x := x) (y := y) hst.good st
  have hresp : RelR (fun _ => True) (fosterUnit st (x ++ y) s) (fosterUnit st'' (x ++ y) t) := by
    have : Resp (fosterUnit st (x ++ y)) := by
      unfold fosterUnit
      refine respQ_bind (fosterParentInBody_chars_done st (x ++ y)) ?_
      intro r hr; subst hr; exact resp_pure ()
    have h3 := this s t hst
    have h4 : fosterUnit st (x ++ y) = fosterUnit st'' (x ++ y) := by
      unfold fosterUnit; rw [fosterParentInBody_status st st'']
    rw [h4] at h3 ⊢
    exact h3
  refine RelR.trans ?_ hresp
  unfold fosterUnit
  rw [bind_apply]
  cases hx : fosterParentInBody (.chars st x) s with
  | error e =>
    obtain ⟨e', he'⟩ := h1 e hx
    rw [he']; trivial
  | ok v =>
    obtain ⟨r, s1⟩ := v
    obtain ⟨hr, hg1, _, hu⟩ := h2 r s1 hx
    subst hr
    show RelR _ (fosterUnit st' y s1) _
    unfold fosterUnit
    rw [bind_apply]
    rcases (hu s1 st' hg1.sim).inv with ⟨_, _, hL, hR⟩ | ⟨rl, sl, sr, hL, hR, rfl, h3'⟩
    · rw [hL, hR]; trivial
    · rw [hL, hR]; exact ⟨rfl, trivial, h3'.symm⟩

theorem fosterUnit_resp (st : SplitStatus) (z : Str) : Resp (fosterUnit st z) := by
  unfold fosterUnit
  refine respQ_bind (fosterParentInBody_chars_done st z) ?_
  intro r hr; subst hr; exact resp_pure ()

/-- **flushing pieces = flushing the concatenation** (foster parented) -/
theorem flushFoster_cat : ∀ (l : List (SplitStatus × Str)), l ≠ [] → (∀ p ∈ l, p.2 ≠ []) →
    RelM (flushPendingFoster l) (fosterUnit .notSplit (l.flatMap (·.2)))
  | [], h, _ => (h rfl).elim
  | [(st, z)], _, _ => by
    rw [flushFoster_cons]
    simp only [List.flatMap_cons, List.flatMap_nil, List.append_nil]
    have h0 : flushPendingFoster [] = pure () := by rw [flushPendingFoster]
    rw [h0, fosterParentInBody_status st .notSplit]
    exact RelM.of_resp (fosterUnit_resp .notSplit z)
  | (st, z) :: p2 :: rest, _, hne => by
    rw [flushFoster_cons]
    simp only [List.flatMap_cons]
    have ih := flushFoster_cat (p2 :: rest) (by simp) (fun p hp => hne p (List.mem_cons_of_mem _ hp))
    simp only [List.flatMap_cons] at ih
    refine RelM.trans ?_ (fosterTwo st .notSplit .notSplit (x := z) (y := p2.2 ++ rest.flatMap (·.2)))
    refine RelM.bind (RelM.of_resp (fosterParentInBody_chars_done st z)) ?_
    intro r
    cases r <;> first | exact ih | exact RelM.of_resp (panicAt_resp (Q := fun _ => True) _ _ _)

/-- a flush that only depends on the concatenation of the (non-empty) pieces respects `PendRel` -/
theorem flush_rel_of_cat {F : List (SplitStatus × Str) → M Unit} {U : Str → M Unit} (hnil : F [] = pure ())
    (hcat : ∀ l, l ≠ [] → (∀ p ∈ l, p.2 ≠ []) → RelM (F l) (U (l.flatMap (·.2))))
    {l1 l2 : List (SplitStatus × Str)} (h : PendRel l1 l2) : RelM (F l1) (F l2) := by
  have he := h.isEmpty_eq
  cases l1 with
  | nil =>
    cases l2 with
    | nil => rw [hnil]; exact RelM.of_resp (resp_pure ())
    | cons b bs => simp at he
  | cons a as =>
    cases l2 with
    | nil => simp at he
    | cons b bs =>
      have h1 := hcat (a :: as) (by simp) h.ne1
      rw [h.cat] at h1
      exact h1.trans (hcat (b :: bs) (by simp) h.ne2).symm

theorem flushFoster_rel {l1 l2 : List (SplitStatus × Str)} (h : PendRel l1 l2) :
    RelM (flushPendingFoster l1) (flushPendingFoster l2) :=
  flush_rel_of_cat (by rw [flushPendingFoster]) flushFoster_cat h

/-! ### the plain flush -/

theorem FA_false_eq (z : Str) : FA false z = appendText z := by
  funext s
  rw [FA_apply]
  rfl

theorem plainTwo {x y : Str} :
    RelM (appendText x >>= fun _ => appendText y) (appendText (x ++ y)) := by
  intro s t hst
  rw [bind_apply]
  obtain ⟨h1, h2⟩ := fa_add_sim false (x := x) (y := y) hst.good
  simp only [FA_false_eq] at h1 h2
  have hresp := respQ_resp (appendText_resp (x ++ y)) s t hst
  refine RelR.trans ?_ hresp
  cases hx : appendText x s with
  | error e =>
    obtain ⟨e', he'⟩ := h1 e hx
    rw [he']; trivial
  | ok v =>
    obtain ⟨r, s1⟩ := v
    obtain ⟨hr, hg1, hu⟩ := h2 r s1 hx
    simp only
    exact ((hu s1 hg1.sim).symm).mono (fun _ _ => trivial)

theorem flushPlain_cons (st : SplitStatus) (z : Str) (rest : List (SplitStatus × Str)) :
    flushPendingPlain ((st, z) :: rest) = (do let _ ← appendText z; flushPendingPlain rest) := by
  rw [flushPendingPlain]

/-- `append_text` with the answer dropped -/
def plainUnit (z : Str) : M Unit := do let _ ← appendText z; pure ()

theorem plainUnit_resp (z : Str) : Resp (plainUnit z) := by
  unfold plainUnit; resp_auto

theorem flushPlain_cat : ∀ (l : List (SplitStatus × Str)), l ≠ [] → (∀ p ∈ l, p.2 ≠ []) →
    RelM (flushPendingPlain l) (plainUnit (l.flatMap (·.2)))
  | [], h, _ => (h rfl).elim
  | [(st, z)], _, _ => by
    rw [flushPlain_cons]
    simp only [List.flatMap_cons, List.flatMap_nil, List.append_nil]
    have h0 : flushPendingPlain [] = pure () := by rw [flushPendingPlain]
    rw [h0]
    exact RelM.of_resp (plainUnit_resp z)
  | (st, z) :: p2 :: rest, _, hne => by
    rw [flushPlain_cons]
    simp only [List.flatMap_cons]
    have ih := flushPlain_cat (p2 :: rest) (by simp) (fun p hp => hne p (List.mem_cons_of_mem _ hp))
    simp only [List.flatMap_cons] at ih
    -- `append_text z; append_text (rest…)` against `append_text (z ++ rest…)`
    have h2 : RelM (appendText z >>= fun _ => plainUnit (p2.2 ++ rest.flatMap (·.2)))
        (plainUnit (z ++ (p2.2 ++ rest.flatMap (·.2)))) := by
      have := RelM.bind (plainTwo (x := z) (y := p2.2 ++ rest.flatMap (·.2)))
        (f1 := fun _ => (pure () : M Unit)) (f2 := fun _ => pure ()) (fun _ => RelM.of_resp (resp_pure ()))
      unfold plainUnit
      simpa only [bind_assoc] using this
    refine RelM.trans ?_ h2
    exact RelM.bind (RelM.of_resp (appendText_resp z)) (fun _ => ih)

theorem flushPlain_rel {l1 l2 : List (SplitStatus × Str)} (h : PendRel l1 l2) :
    RelM (flushPendingPlain l1) (flushPendingPlain l2) :=
  flush_rel_of_cat (by rw [flushPendingPlain]) flushPlain_cat h

/-! ### the in-table-text rule -/

theorem sim_clearPend {s t : State} (h : Sim s t) :
    Sim { s with pendingTableText := [] } { t with pendingTableText := [] } := by
  obtain ⟨hi, tr, cl, er, pt, rfl, _⟩ := h
  exact ⟨hi, tr, cl, er, [], rfl, PendRel.rfl' (by intro p hp; cases hp)⟩

/-- `orig_mode.take().unwrap()`, then `Reprocess(mode, token)` -/
theorem takeOrig_resp (tok : Token) :
    RespQ (ResOK tok) (getS >>= fun s => match s.origMode with
      | none => panicAt "unwrap-none" "rules.rs:1172" "orig_mode.take().unwrap()"
      | some m => (set { s with origMode := none } : M PUnit) >>= fun _ => pure (.reprocess m tok)) :=
  respQ_takeOrig (Q := ResOK tok) _ _ _ (fun s _ => { s with origMode := none }) (fun m => pure (.reprocess m tok))
    (fun _ _ _ _ _ _ => rfl) (fun _ _ h => h) (fun _ _ => rfl) (fun _ => respQ_pure (Or.inl rfl))

/-- the pending table text is flushed (foster-parented if it contains a non-space character) and `K` runs:
`Sim` states flush re-split but equal texts -/
theorem flushThen_resp {β : Type} {Q : β → Prop} {K : M β} (hK : RespQ Q K) :
    RespQ Q (getS >>= fun s0 =>
      (modS fun s => { s with pendingTableText := [] }) >>= fun _ =>
      if cns s0.pendingTableText = true then
        parseError "Non-space table text" >>= fun _ => flushPendingFoster s0.pendingTableText >>= fun _ => K
      else
        flushPendingPlain s0.pendingTableText >>= fun _ => K) := by
  refine respQ_getS_bind_diag ?_
  intro s t hst
  have hp := hst.pend
  refine relR_bind (P := fun _ => True) ?_ ?_
  · exact ⟨rfl, trivial, sim_clearPend hst⟩
  · intro _ s' t' _ hs't'
    rw [hp.cns]
    cases cns t.pendingTableText with
    | true =>
      simp only [if_true]
      refine relR_bind (parseError_resp _ s' t' hs't') ?_
      intro _ s2 t2 _ h2
      exact relR_bind (flushFoster_rel hp s2 t2 h2) (fun _ s3 t3 _ h3 => hK s3 t3 h3)
    | false =>
      simp only [Bool.false_eq_true, if_false]
      exact relR_bind (flushPlain_rel hp s' t' hs't') (fun _ s3 t3 _ h3 => hK s3 t3 h3)

/-- **the hypothesis of the congruence lemmas holds** -/
theorem inTableText_ok : InTableTextOK := by
  intro token ht
  cases token with
  | nullChar => exact respQ_done_ok unexpected_done
  | chars st x =>
    simp only [stepInTableText]
    exact respQ_bind (P := fun _ => True) (pend_push_resp st x ht) (fun _ _ => respQ_pure trivial)
  | tag t => exact flushThen_resp (takeOrig_resp (.tag t))
  | comment c => exact flushThen_resp (takeOrig_resp (.comment c))
  | eof => exact flushThen_resp (takeOrig_resp .eof)

/-- `orig_mode.take().unwrap()`, answering the mode -/
theorem takeOrigMode_resp :
    Resp (getS >>= fun s => match s.origMode with
      | none => (panicAt "unwrap-none" "rules.rs:1172" "orig_mode.take().unwrap()" : M Mode)
      | some m => (set { s with origMode := none } : M PUnit) >>= fun _ => pure m) :=
  respQ_takeOrig (Q := fun _ => True) _ _ _ (fun s _ => { s with origMode := none }) pure
    (fun _ _ _ _ _ _ => rfl) (fun _ _ h => h) (fun _ _ => rfl) resp_pure

/-- `flush_pending_table_text`: the same flush, answering the original insertion mode -/
theorem flushText_ok : FlushTextOK :=
  flushThen_resp takeOrigMode_resp

end H5V.Lemmas.TBSplit
