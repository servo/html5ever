import H5V.Lemmas.HtmlTBContractRules1
/-!
# TreeSink contract for the HTML tree builder: the table insertion modes

`RS d0 tok (stepX tok)` for InTable, InTableText, InCaption, InColumnGroup, InTableBody, InRow, InCell, with the
helpers `fosterParentInBody`, `processCharsInTable`, `flushPendingFoster`, against the delegation hypotheses
`HeadH`, `BodyH`, `TableH`; `tableH` discharges `TableH` from `HeadH`, `BodyH`.  Two helpers need none of them:
`flushPendingPlain`, and `popTr` at its one call site in the rules, `mod.rs:637` (the panic message, which has to be
checked, contains the site).
-/
namespace H5V.Lemmas.TBC
open H5V.Model.HtmlTB
open H5V.Model.Dom (Id Dom)
open H5V.Lemmas.TBSafe (Ext)
variable {d0 : Dom}

/- `apply` finds the arity of its goal by `whnf` at default transparency; with `SatC` unfoldable that runs the code
of the rule on a symbolic state at every step of the walk. -/
attribute [local irreducible] SatC

/-! ### `foster_parent_in_body` -/

@[cp]
theorem cpsp_fosterParentInBody (hB : BodyH d0) {c : List Id} {tok : Token} (ht : TokOk tok) :
    CPSP d0 c (fosterParentInBody tok) (fun _ => []) (ResLate tok) := by
  unfold H5V.Model.HtmlTB.fosterParentInBody
  refine cpsp_bind_cp cp_modS_foster (fun _ => ?_)
  refine cpsp_bind' (BodyH.cpsp hB ht) (fun res hres => ?_)
  refine cpsp_bind_cp cp_modS_foster (fun _ => ?_)
  exact cpsp_pure_nil _ hres

theorem rs_fosterParentInBody (hB : BodyH d0) : ∀ tok, TokOk tok → RS d0 tok (fosterParentInBody tok) :=
  fun _ ht => cpsp_fosterParentInBody hB ht


/-! ### `process_chars_in_table` -/

@[cp]
theorem cpsp_processCharsInTable (hB : BodyH d0) {c : List Id} {tok : Token} (ht : TokOk tok) :
    CPSP d0 c (processCharsInTable tok) (fun _ => []) (ResLate tok) := by
  unfold H5V.Model.HtmlTB.processCharsInTable
  rs_walk

theorem rs_processCharsInTable (hB : BodyH d0) : ∀ tok, TokOk tok → RS d0 tok (processCharsInTable tok) :=
  fun _ ht => cpsp_processCharsInTable hB ht


/-! ### InTable -/

theorem rs_stepInTable (hH : HeadH d0) (hB : BodyH d0) : ∀ tok, TokOk tok → RS d0 tok (stepInTable tok) := by
  unfold H5V.Model.HtmlTB.stepInTable
  rs_open

theorem tableH (hH : HeadH d0) (hB : BodyH d0) : TableH d0 := rs_stepInTable hH hB

/-! ### the pending table text -/

theorem cps_flushPendingFoster (hB : BodyH d0) :
    ∀ (l : List (SplitStatus × Str)) (c : List Id), CPS d0 c (flushPendingFoster l) (fun _ => [])
  | [], c => by
    unfold H5V.Model.HtmlTB.flushPendingFoster
    exact cp_toCPS (cp_pure_nil _)
  | (split, text) :: rest, c => by
    unfold H5V.Model.HtmlTB.flushPendingFoster
    refine cps_of_cpsp (P := fun _ => True) ?_
    refine cpsp_bind' (cpsp_fosterParentInBody hB (tok := .chars split text) trivial) (fun res _ => ?_)
    cases res <;> dsimp only <;>
      first
        | exact cpsp_panicAt
        | exact cpsp_of_cps (cps_flushPendingFoster hB rest _)

@[cp]
theorem cp_flushPendingPlain : ∀ (l : List (SplitStatus × Str)) (c : List Id), CP d0 c (flushPendingPlain l) (fun _ => [])
  | [], c => by
    unfold H5V.Model.HtmlTB.flushPendingPlain
    exact cp_pure_nil _
  | (_, text) :: rest, c => by
    unfold H5V.Model.HtmlTB.flushPendingPlain
    exact cp_bind cp_appendText (fun _ => cp_flushPendingPlain rest _)


/-! ### InTableText -/

theorem rs_stepInTableText (hB : BodyH d0) : ∀ tok, TokOk tok → RS d0 tok (stepInTableText tok) := by
  unfold H5V.Model.HtmlTB.stepInTableText
  intro tok ht
  unfold RS
  cases tok with
  | chars st text => dsimp only; rs_walk
  | nullChar => dsimp only; rs_walk
  | _ =>
    -- `pending` is a pure value read from the state; the continuation (`orig_mode.take()`) is duplicated
    -- into both branches of the `if`
    dsimp only
    refine cpsp_getS_bind (fun s0 => ?_)
    refine cpsp_bind_cp cp_modS_pendingClear (fun _ => ?_)
    refine cpsp_ite (fun _ => ?_) (fun _ => ?_)
    · refine cpsp_bind_cp cp_parseError (fun _ => ?_)
      refine cpsp_bind (cps_flushPendingFoster hB _ _) (fun _ => ?_)
      exact cpsp_origReprocess
    · refine cpsp_bind_cp (cp_flushPendingPlain _ _) (fun _ => ?_)
      exact cpsp_origReprocess

/-! ### InCaption, InColumnGroup, InTableBody -/

theorem rs_stepInCaption (hB : BodyH d0) : ∀ tok, TokOk tok → RS d0 tok (stepInCaption tok) := by
  unfold H5V.Model.HtmlTB.stepInCaption
  rs_open

theorem rs_stepInColumnGroup (hH : HeadH d0) (hB : BodyH d0) :
    ∀ tok, TokOk tok → RS d0 tok (stepInColumnGroup tok) := by
  unfold H5V.Model.HtmlTB.stepInColumnGroup
  rs_open

theorem rs_stepInTableBody (hT : TableH d0) : ∀ tok, TokOk tok → RS d0 tok (stepInTableBody tok) := by
  unfold H5V.Model.HtmlTB.stepInTableBody
  rs_open

/-! ### InRow, InCell -/

/-- `let node = self.pop(); self.assert_named(&node, "tr")` at the only site used by the rules -/
@[cp]
theorem cp_popTr637 {c : List Id} : CP d0 c (popTr "mod.rs:637") (fun _ => []) := by
  unfold H5V.Model.HtmlTB.popTr
  cp_walk


theorem rs_stepInRow (hT : TableH d0) : ∀ tok, TokOk tok → RS d0 tok (stepInRow tok) := by
  unfold H5V.Model.HtmlTB.stepInRow
  rs_open

theorem rs_stepInCell (hB : BodyH d0) : ∀ tok, TokOk tok → RS d0 tok (stepInCell tok) := by
  unfold H5V.Model.HtmlTB.stepInCell
  rs_open

end H5V.Lemmas.TBC
