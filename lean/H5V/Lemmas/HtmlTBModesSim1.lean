import H5V.Lemmas.HtmlTBModesAbs
/-!
The mid-step invariant `MInv`, how `absF` moves along `SameTB` / `Ext`
steps and simple field updates, and the queries of the model as predicates of the abstract state.
-/
namespace H5V.Lemmas.HtmlTBModes
open H5V.Model.HtmlTB
open H5V.Model.Dom (Id SinkOp Output Dom QualName Attr NodeOrText ElementFlags NodeData QuirksMode)
open H5V.Lemmas.HtmlTBAlgo
open H5V.Lemmas.TBSafe (TI HInv SInv Rooted)
open H5V.Spec.TreeAlgo2 (Elem Entry PState Ctx Edit Place)
open H5V.Spec.TreeModes (STok ETok IMode Config Out TokSwitch XOp Op Step Edition)

/-! ### tokens as the tokenizer delivers them -/

/-- a tag of the tokenizer: attribute names without prefix and namespace, no ASCII upper-case letter in
the tag name, no two attributes with the same name; no `shadowrootmode` attribute -/
structure TagWf (t : Tag) : Prop where
  plain : PlainTag t
  lower : ∀ c ∈ t.name, ¬ ('A' ≤ c ∧ c ≤ 'Z')
  nodup : (t.attrs.map (·.name.loc)).Nodup
  /-- declarative shadow roots are outside the scope of the specification `Spec.TreeModes` -/
  noShadow : ∀ a ∈ t.attrs, a.name.loc ≠ "shadowrootmode".toList

/-- the characters of a run have the class the run is labelled with -/
def ClassOk : SplitStatus → Str → Prop
  | .notSplit, _ => True
  | .whitespace, t => ∀ c ∈ t, isAsciiWhitespace c = true
  | .notWhitespace, t => ∀ c ∈ t, isAsciiWhitespace c = false

def TokWf : Token → Prop
  | .tag t => TagWf t
  | .chars st text => text ≠ [] ∧ '\x00' ∉ text ∧ ClassOk st text
  | _ => True

/-- what the simulation lemmas need in the middle of a rule (weaker than `TI`, kept by pops) -/
structure MInv (s : State) : Prop where
  elems : ElemsOk s.dom s.openElems
  root : ∀ h0, s.openElems.head? = some h0 → nameOf s.dom h0 = ⟨nsHtml, "html".toList⟩
  af : AFOk s.dom s.openElems s.activeFormatting
  afEl : ∀ h t, FormatEntry.element h t ∈ s.activeFormatting → s.dom.isElement h = true
  head : ∀ h, s.headElem = some h → s.dom.isElement h = true
  /-- the context element (fragment case) is an element -/
  ctx : ∀ c, s.contextElem = some c → s.dom.isElement c = true
  /-- the listed tokens are start tags and the listed elements are HTML elements of their token's name -/
  afwf : ∀ h t, FormatEntry.element h t ∈ s.activeFormatting → t.kind = .startTag ∧ nameOf s.dom h = ⟨nsHtml, t.name⟩
  /-- the sink's "annotation-xml integration point" flag is set on a non-HTML element of the stack only if it
  is a MathML `annotation-xml` -/
  ip : ∀ h ∈ s.openElems, (nameOf s.dom h).ns ≠ nsHtml → ipOfDom s.dom h = true → nameOf s.dom h = annotName
  /-- "in table text" is never on the stack of template insertion modes -/
  tmodes : ∀ m ∈ s.templateModes, m ≠ .inTableText
  /-- the form element pointer is an element, and not the root `html` element -/
  form : ∀ f, s.formElem = some f → s.dom.isElement f = true ∧ nameOf s.dom f ≠ ⟨nsHtml, "html".toList⟩
  /-- the pending table character tokens are chunks as the tokenizer delivers them -/
  pend : ∀ p ∈ s.pendingTableText, TokWf (.chars p.1 p.2)

theorem MInv.of_ti {s : State} (h : TI s)
    (hk : ∀ h t, FormatEntry.element h t ∈ s.activeFormatting → t.kind = .startTag)
    (hip : ∀ h ∈ s.openElems, (nameOf s.dom h).ns ≠ nsHtml → ipOfDom s.dom h = true → nameOf s.dom h = annotName)
    (hpend : ∀ p ∈ s.pendingTableText, TokWf (.chars p.1 p.2)) :
    MInv s where
  elems := elemsOk_of_ti h
  root := by
    intro h0 hh
    by_cases hp : TBSafe.preRoot s.mode = true
    · have hst := h.s.stack
      unfold TBSafe.preRoot at hp
      simp only [Bool.or_eq_true, beq_iff_eq] at hp
      rcases hp with hp | hp <;> rw [hp] at hst <;> simp only [TBSafe.ModeStack] at hst <;> rw [hst] at hh <;> cases hh
    · obtain ⟨r, rest, hl, hn⟩ := h.s.root (by simpa using hp)
      rw [hl] at hh; cases hh
      rw [← nm_eq_nameOf]; exact hn
  af := afOk_of_hinv h.h
  afEl := fun x t hm => isEl_iff.mp (h.h.af x t hm).1
  head := fun x hx => isEl_iff.mp (h.h.head x hx).1
  ctx := fun x hx => isEl_iff.mp (h.h.ctx x hx)
  afwf := fun x t hm => ⟨hk x t hm, by rw [← nm_eq_nameOf]; exact (h.h.af x t hm).2.1⟩
  ip := hip
  tmodes := by
    intro m hmem hm
    have := h.s.tmodes m hmem
    rw [hm] at this
    exact absurd this (by decide)
  form := by
    intro f hf
    obtain ⟨h1, h2⟩ := h.h.form f hf
    refine ⟨isEl_iff.mp h1, ?_⟩
    rw [← nm_eq_nameOf, h2]
    show TBSafe.formName ≠ _
    decide
  pend := hpend

theorem MInv.headOk {s : State} (h : MInv s) (hne : s.openElems ≠ []) : HeadOk s.dom s.openElems := by
  cases hl : s.openElems with
  | nil => exact absurd hl hne
  | cons a r =>
    have hn := h.root a (by rw [hl]; rfl)
    refine ⟨a, rfl, ?_, ?_⟩
    · unfold elemOf; rw [hn]
      show (HtmlTBSpec.toName ⟨nsHtml, "html".toList⟩).isHtml "table" = false
      decide
    · unfold Spec.TreeAlgo2.isSpecial elemOf; rw [hn]
      show Spec.TreeAlgo.inTable Spec.TreeTables.special (HtmlTBSpec.toName ⟨nsHtml, "html".toList⟩) = true
      decide +kernel

/-- nothing but the sink and the trace changed, and element signatures survived -/
theorem MInv.sameTB {s s' : State} (h : MInv s) (hs : SameTB s s') (he : TBSafe.Ext s.dom s'.dom) : MInv s' := by
  have ho := hs.openElems
  have ha := hs.activeFormatting
  have hhd : s'.headElem = s.headElem := by unfold SameTB at hs; rw [hs]
  have hcx : s'.contextElem = s.contextElem := by unfold SameTB at hs; rw [hs]
  have htm : s'.templateModes = s.templateModes := by unfold SameTB at hs; rw [hs]
  have hfe : s'.formElem = s.formElem := by unfold SameTB at hs; rw [hs]
  have hpe : s'.pendingTableText = s.pendingTableText := by unfold SameTB at hs; rw [hs]
  refine ⟨by rw [ho]; exact ElemsOk.ext h.elems he, ?_, ?_, ?_, ?_, ?_, ?_, ?_, by rw [htm]; exact h.tmodes, ?_,
    by rw [hpe]; exact h.pend⟩
  rotate_right
  · intro f hf; rw [hfe] at hf
    obtain ⟨h1, h2⟩ := h.form f hf
    exact ⟨isElement_ext he h1, by rw [nameOf_ext he h1]; exact h2⟩
  · intro h0 hh; rw [ho] at hh
    rw [nameOf_ext he (h.elems h0 (List.mem_of_head? hh))]; exact h.root h0 hh
  · rw [ho, ha]
    intro x t hm
    obtain ⟨a, b, c⟩ := h.af x t hm
    exact ⟨isElement_lt (isElement_ext he (h.afEl x t hm)), b, fun hx => by rw [nameOf_ext he (h.elems x hx)]; exact c hx⟩
  · intro x t hm; rw [ha] at hm; exact isElement_ext he (h.afEl x t hm)
  · intro x hx; rw [hhd] at hx; exact isElement_ext he (h.head x hx)
  · intro x hx; rw [hcx] at hx
    exact isElement_ext he (h.ctx x hx)
  · intro x t hm; rw [ha] at hm
    rw [nameOf_ext he (h.afEl x t hm)]; exact h.afwf x t hm
  · intro x hx; rw [ho] at hx
    rw [nameOf_ext he (h.elems x hx), ipOfDom_ext he (h.elems x hx)]; exact h.ip x hx

/-! ### `absF` along steps that leave the tree builder's fields alone -/

structure SameFields (s s' : State) : Prop where
  opts : s'.opts = s.opts
  mode : s'.mode = s.mode
  origMode : s'.origMode = s.origMode
  templateModes : s'.templateModes = s.templateModes
  pendingTableText : s'.pendingTableText = s.pendingTableText
  quirksMode : s'.quirksMode = s.quirksMode
  docHandle : s'.docHandle = s.docHandle
  openElems : s'.openElems = s.openElems
  activeFormatting : s'.activeFormatting = s.activeFormatting
  headElem : s'.headElem = s.headElem
  formElem : s'.formElem = s.formElem
  framesetOk : s'.framesetOk = s.framesetOk
  ignoreLf : s'.ignoreLf = s.ignoreLf
  fosterParenting : s'.fosterParenting = s.fosterParenting
  contextElem : s'.contextElem = s.contextElem

theorem _root_.H5V.Lemmas.HtmlTBAlgo.SameTB.fields {s s' : State} (h : SameTB s s') : SameFields s s' := by
  unfold SameTB at h
  constructor <;> rw [h]

theorem headPointer_ext {s : State} {d' : Dom} (hm : MInv s) (he : TBSafe.Ext s.dom d') :
    s.headElem.map (elemOf d') = s.headElem.map (elemOf s.dom) := by
  cases hh : s.headElem with
  | none => rfl
  | some h => simp only [Option.map_some]; rw [elemOf_ext he (hm.head h hh)]

theorem context_ext {s : State} {d' : Dom} (hm : MInv s) (he : TBSafe.Ext s.dom d') :
    s.contextElem.map (elemOf d') = s.contextElem.map (elemOf s.dom) ∧
    s.contextElem.map (ipOfDom d') = s.contextElem.map (ipOfDom s.dom) := by
  cases hh : s.contextElem with
  | none => exact ⟨rfl, rfl⟩
  | some h =>
    simp only [Option.map_some]
    rw [elemOf_ext he (hm.ctx h hh), ipOfDom_ext he (hm.ctx h hh)]
    exact ⟨rfl, rfl⟩

/-- a query step does not change the abstract state -/
theorem absF_of_same {s s' : State} (x : Aux) (hm : MInv s) (hs : SameTB s s') (he : TBSafe.Ext s.dom s'.dom) :
    absF s' x = absF s x := by
  have f := hs.fields
  have e1 : absStack s'.dom s'.openElems = absStack s.dom s.openElems := by
    rw [f.openElems]; exact absStack_ext hm.elems he
  have e2 : s'.headElem.map (elemOf s'.dom) = s.headElem.map (elemOf s.dom) := by
    rw [f.headElem]; exact headPointer_ext hm he
  simp only [absF, absP, e1, e2, f.mode, f.origMode, f.templateModes, f.pendingTableText, f.quirksMode,
    f.activeFormatting, f.formElem, f.framesetOk, f.ignoreLf, f.fosterParenting]

theorem cfgOf_of_same {s s' : State} (hm : MInv s) (hs : SameTB s s') (he : TBSafe.Ext s.dom s'.dom) :
    cfgOf s' = cfgOf s := by
  have f := hs.fields
  obtain ⟨c1, c2⟩ := context_ext hm he
  simp only [cfgOf, f.docHandle, f.opts, f.contextElem, c1, c2]

theorem AuxOk.of_same {s s' : State} {x : Aux} (h : AuxOk s x) (hm : MInv s) (hs : SameTB s s')
    (he : TBSafe.Ext s.dom s'.dom) : AuxOk s' x := by
  refine ⟨h.live, ?_, fun a ha => isElement_ext he (h.annotEl a ha), h.xlog⟩
  intro y hy hn
  rw [hs.openElems] at hy
  rw [nameOf_ext he (hm.elems y hy)] at hn
  rw [h.annot y hy hn, ipOfDom_ext he (hm.elems y hy)]

/-! ### what a rule of the model must do to match a rule of the specification -/

/-- the standard's single token for a non-character token of the tree builder -/
def stokOf : Token → STok
  | .tag t => stokOfTag t
  | .comment d => .comment d
  | .chars _ _ => .character ' '      -- not used: character tokens are treated separately
  | .nullChar => .character '\x00'
  | .eof => .eof

def isCharsTok : Token → Bool
  | .chars _ _ => true
  | _ => false

/-- the state `process_to_completion` continues with -/
def applyRes (res : ProcessResult) (s' : State) : State :=
  match res with
  | .reprocess m _ => { s' with mode := m }
  | _ => s'

/-- the specification's result for a result of the model -/
def stepOf (res : ProcessResult) (s' : State) (x' : Aux) : Step Id :=
  match res with
  | .reprocess _ _ => .reprocess (absF (applyRes res s') x')
  | _ => .done (absF s' x')

def rawSwitch : H5V.Model.HtmlTok.RawKind → TokSwitch
  | .rcdata => .rcdata | .rawtext => .rawtext | .scriptData => .scriptData | .scriptDataEscaped _ => .scriptData

/-- the answer to the tokenizer (the self-closing acknowledgement is not compared: html5ever reports
it as a parse error only; nor is `svgScript`: html5ever does not process SVG scripts) -/
def OutRel (res : ProcessResult) (o o' : Out Id) : Prop :=
  match res with
  | .script node => o'.script = some node ∧ o'.switch = o.switch
  | .toPlaintext => o'.switch = some .plaintext ∧ o'.script = o.script
  | .toRawData k => o'.switch = some (rawSwitch k) ∧ o'.script = o.script
  | _ => o'.switch = o.switch ∧ o'.script = o.script

/-- the result is one a rule may return for a non-character token -/
def ResTok (tok : Token) : ProcessResult → Prop
  | .reprocess _ t => t = tok
  | .reprocessForeign _ => False
  | .splitWhitespace _ => False
  | _ => True

/-- the node ids `ids` (those the sink hands out during a stretch that starts in `s`) are not elements of `s.dom` -/
def FreshIds (s : State) (ids : List Id) : Prop := ∀ n ∈ ids, s.dom.isElement n = false

theorem FreshIds.nil (s : State) : FreshIds s [] := fun _ h => by cases h

theorem FreshIds.of_dom {s s1 : State} {ids : List Id} (h : FreshIds s1 ids) (he : TBSafe.Ext s.dom s1.dom) : FreshIds s ids := by
  intro n hn
  cases hc : s.dom.isElement n
  · rfl
  · have := isElement_ext he hc
    rw [h n hn] at this; cases this

theorem FreshIds.of_eq {s s1 : State} {ids : List Id} (h : FreshIds s1 ids) (he : s.dom = s1.dom) : FreshIds s ids := by
  unfold FreshIds; rw [he]; exact h

theorem FreshIds.append {s : State} {a b : List Id} (ha : FreshIds s a) (hb : FreshIds s b) : FreshIds s (a ++ b) := by
  intro n hn
  rcases List.mem_append.mp hn with h | h
  · exact ha n h
  · exact hb n h

theorem FreshIds.of_size {s : State} {ids : List Id} (h : ∀ n ∈ ids, s.dom.size ≤ n) : FreshIds s ids := by
  intro n hn
  cases hc : s.dom.isElement n
  · rfl
  · exact absurd (isElement_lt hc) (Nat.not_lt.mpr (h n hn))

/-- the node ids taken from the supply between `x` and `x'` are not elements of `s.dom` -/
def FreshSup (s : State) (x x' : Aux) : Prop := ∀ used, x.supply = used ++ x'.supply → FreshIds s used

/-- **the post-condition of a rule** run on a non-character token: with the nodes `ids` the sink handed
out, the specification's rule `spec` maps the abstract state of `s` to that of the final state, makes
the same DOM calls (up to the splitting of text insertions), gives the same answer to the tokenizer;
`x'.stopped` = "stop parsing" was reached -/
def TokPost (spec : SState → Spec.TreeModes.M (Step Id)) (s : State) (tok : Token) :
    ProcessResult → State → List Call → Prop :=
  fun res s' calls => ResTok tok res ∧ MInv (applyRes res s') ∧ cfgOf s' = cfgOf s ∧ ∃ ids, FreshIds s ids ∧ ∀ x rest, AuxOk s x → x.supply = ids ++ rest →
    ∃ x' ops, spec (absF s x) = .ok (stepOf res s' x') ∧ (x'.stopped = false → AuxOk (applyRes res s') x') ∧
      (x'.stopped = true → res = .done ∧ tok = .eof) ∧ x'.supply = rest ∧ OutRel res x.out x'.out ∧ x'.outs = x.outs ∧
      x'.fullLog = x.fullLog ++ ops ∧
      ∀ tc, TcOk s'.dom tc → flatCalls (edits2 calls) = flatCalls (ops.map (opCall tc))

/-- a rule function of the model simulates a rule function of the specification on every
non-character token -/
def StepSimTok (f : Token → M ProcessResult) (g : Config Id → SState → STok → Spec.TreeModes.M (Step Id)) : Prop :=
  ∀ (tok : Token), isCharsTok tok = false → TokWf tok → ∀ s, MInv s →
    PC (f tok) s (TokPost (fun σ => g (cfgOf s) σ (stokOf tok)) s tok)

/-! ### the merged log grows at the end -/

theorem mergeLog_append {N : Type} : ∀ (xs : List (Nat × XOp N)) (i : Nat) (es new : List (Edit N ETok)),
    (∀ j ∈ xs.map (·.1), j ≤ i + es.length) →
    Spec.TreeModes.mergeLog xs i (es ++ new) = Spec.TreeModes.mergeLog xs i es ++ new.map .edit := by
  intro xs
  induction xs with
  | nil => intro i es new _; simp [Spec.TreeModes.mergeLog]
  | cons a xs ih =>
    intro i es new h
    obtain ⟨j, o⟩ := a
    have hj : j ≤ i + es.length := h j (by simp)
    have hle : j - i ≤ es.length := by omega
    simp only [Spec.TreeModes.mergeLog]
    rw [List.take_append_of_le_length hle, List.drop_append_of_le_length hle, ih]
    · simp
    · intro j' hj'
      have := h j' (by simp only [List.map_cons, List.mem_cons]; exact Or.inr hj')
      simp only [List.length_drop]
      omega

theorem mergeLog_snoc {N : Type} : ∀ (xs : List (Nat × XOp N)) (i : Nat) (es : List (Edit N ETok)) (o : XOp N),
    (∀ j ∈ xs.map (·.1), j ≤ i + es.length) →
    Spec.TreeModes.mergeLog (xs ++ [(i + es.length, o)]) i es = Spec.TreeModes.mergeLog xs i es ++ [.x o] := by
  intro xs
  induction xs with
  | nil =>
    intro i es o _
    simp [Spec.TreeModes.mergeLog]
  | cons a xs ih =>
    intro i es o h
    obtain ⟨j, p⟩ := a
    have hj : j ≤ i + es.length := h j (by simp)
    simp only [List.cons_append, Spec.TreeModes.mergeLog]
    have e : i + es.length = max i j + (es.drop (j - i)).length := by
      simp only [List.length_drop]; omega
    rw [e, ih]
    · simp
    · intro j' hj'
      have := h j' (by simp only [List.map_cons, List.mem_cons]; exact Or.inr hj')
      omega

/-! ### links: one stretch of a rule -/

theorem tcOk_of_ext {d d' : Dom} {tc : Id → Id} (h : TcOk d' tc) (he : TBSafe.Ext d d') : TcOk d tc := by
  intro x hx
  rw [h x (isElement_ext he hx), tcOf_ext he hx]

/-- `(s, x)` and `(s', x')` are the two ends of a stretch in which the model made `calls`, the
specification appended the matching entries to its log, `rest` is what is left of the node supply -/
structure Link (s : State) (x : Aux) (s' : State) (x' : Aux) (calls : List Call) (rest : List Id) : Prop where
  aux : AuxOk s' x'
  supply : x'.supply = rest
  switch : x'.out.switch = x.out.switch
  script : x'.out.script = x.out.script
  outs : x'.outs = x.outs
  log : ∃ ops, x'.fullLog = x.fullLog ++ ops ∧
    ∀ tc, TcOk s'.dom tc → flatCalls (edits2 calls) = flatCalls (ops.map (opCall tc))

/-- a stretch of a rule: from `s` to `s'` with `calls`; `R x x'` is what is known about the abstract
states (typically `helper (absF s x) = .ok (absF s' x')` for a helper of the specification) -/
def Tr (s s' : State) (calls : List Call) (R : Aux → Aux → Prop) : Prop :=
  MInv s' ∧ cfgOf s' = cfgOf s ∧ TBSafe.Ext s.dom s'.dom ∧
    ∃ ids, FreshIds s ids ∧ ∀ x rest, AuxOk s x → x.supply = ids ++ rest → ∃ x', Link s x s' x' calls rest ∧ R x x'

theorem Tr.refl {s : State} (hm : MInv s) : Tr s s [] (fun x x' => x' = x) :=
  ⟨hm, rfl, TBSafe.Ext.refl _, [], FreshIds.nil s, fun x rest hx hs => ⟨x, ⟨hx, by simpa using hs, rfl, rfl, rfl, [], by simp, fun _ _ => rfl⟩, rfl⟩⟩

theorem Tr.trans {s s1 s2 : State} {c1 c2 : List Call} {R1 R2 : Aux → Aux → Prop}
    (h1 : Tr s s1 c1 R1) (h2 : Tr s1 s2 c2 R2) : Tr s s2 (c1 ++ c2) (fun x x2 => ∃ x1, R1 x x1 ∧ R2 x1 x2) := by
  obtain ⟨_, hc1, he1, ids1, hf1, f1⟩ := h1
  obtain ⟨hm2, hc2, he2, ids2, hf2, f2⟩ := h2
  refine ⟨hm2, hc2.trans hc1, he1.trans he2, ids1 ++ ids2, hf1.append (hf2.of_dom he1), ?_⟩
  intro x rest hx hs
  obtain ⟨x1, l1, r1⟩ := f1 x (ids2 ++ rest) hx (by rw [hs, List.append_assoc])
  obtain ⟨x2, l2, r2⟩ := f2 x1 rest l1.aux l1.supply
  refine ⟨x2, ⟨l2.aux, l2.supply, l2.switch.trans l1.switch, l2.script.trans l1.script, l2.outs.trans l1.outs, ?_⟩, x1, r1, r2⟩
  obtain ⟨o1, e1, k1⟩ := l1.log
  obtain ⟨o2, e2, k2⟩ := l2.log
  refine ⟨o1 ++ o2, by rw [e2, e1, List.append_assoc], ?_⟩
  intro tc htc
  rw [edits2_append, flatCalls_append, List.map_append, flatCalls_append, k1 tc (tcOk_of_ext htc he2), k2 tc htc]

theorem Tr.conseq {s s' : State} {c : List Call} {R R' : Aux → Aux → Prop} (h : Tr s s' c R)
    (hr : ∀ x x', AuxOk s x → AuxOk s' x' → R x x' → R' x x') : Tr s s' c R' := by
  obtain ⟨hm, hc, he, ids, hf, f⟩ := h
  refine ⟨hm, hc, he, ids, hf, fun x rest hx hs => ?_⟩
  obtain ⟨x', l, r⟩ := f x rest hx hs
  exact ⟨x', l, hr x x' hx l.aux r⟩

/-- a stretch without calls that the specification does not see (queries, parse errors) -/
theorem Tr.of_same {s s' : State} {calls : List Call} (hm : MInv s) (hs : SameTB s s') (he : Ext2 s calls s')
    (hcalls : edits2 calls = []) : Tr s s' calls (fun x x' => x' = x ∧ absF s x = absF s' x) :=
  ⟨hm.sameTB hs he.ext, cfgOf_of_same hm hs he.ext, he.ext, [], FreshIds.nil s, fun x rest hx hsup =>
    ⟨x, ⟨hx.of_same hm hs he.ext, by simpa using hsup, rfl, rfl, rfl, [], by simp, fun _ _ => by rw [hcalls]; rfl⟩,
      rfl, (absF_of_same x hm hs he.ext).symm⟩⟩

end H5V.Lemmas.HtmlTBModes
