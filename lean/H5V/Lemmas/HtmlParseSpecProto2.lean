import H5V.Lemmas.HtmlParseSpecProto
import H5V.Lemmas.HtmlParseSpecTextProto
/-!
**The residual protocol `RespectsP` from facts**.

* `respectsP_explode`: `RespectsP` transfers from the delivered stream to the exploded stream (the states of the
  two runs of the tree builder are `Sim`-related, and `ProtoOk` only looks at `Sim`-invariant parts of the state);
* `respectsP_of_facts`: along a run of the tree builder that starts with the options `opts`
  (`drop_doctype` off, default document mode), `RespectsP` follows from the "text" mode protocol (`TextAlong`, a
  fact about every joint parse: `parse_hist_text`) and "no `shadowrootmode` attribute".
-/
namespace H5V.Lemmas.ParseSpec
open H5V.Model.HtmlTB
open H5V.Model.Dom (Id QualName Attr)
open H5V.Lemmas.HtmlTBAlgo
open H5V.Lemmas.HtmlTBModes
open H5V.Props.C03 (Resplit C03_tree_resplit_run)

/-! ### `TbRuns` and `processTokens` -/

theorem tbRuns_processTokens {s s' : State} {p : List (TokToken × Nat)} (h : TbRuns s p s') :
    ∀ acc, ∃ res, processTokens p acc s = .ok (res, s') := by
  induction h with
  | nil => exact fun acc => ⟨acc, rfl⟩
  | @cons s s1 s' t l r rest hr _ ih =>
    intro acc
    obtain ⟨res, hres⟩ := ih (if r == .continue_ then acc else r :: acc)
    refine ⟨res, ?_⟩
    show (processToken t l >>= fun r => processTokens rest (if r == .continue_ then acc else r :: acc)) s = _
    rw [H5V.Lemmas.TBSplit.bind_apply]
    have : processToken t l s = .ok (r, s1) := hr
    rw [this]
    exact hres

theorem processTokens_tbRuns : ∀ (p : List (TokToken × Nat)) (acc res : List SinkResult) (s s' : State),
    processTokens p acc s = .ok (res, s') → TbRuns s p s'
  | [], acc, res, s, s', h => by
    have h' : (pure acc : M (List SinkResult)) s = .ok (res, s') := h
    cases h'
    exact TbRuns.nil _
  | (t, l) :: rest, acc, res, s, s', h => by
    obtain ⟨r, s1, h1, h2⟩ := processTokens_cons_ok h
    exact TbRuns.cons h1 (processTokens_tbRuns rest _ res s1 s' h2)

/-! ### `ProtoOk` only looks at `Sim`-invariant parts of the state -/

theorem protoOk_sim {s t : State} (h : H5V.Lemmas.TBSplit.Sim s t) {tok : TokToken} (hp : ProtoOk s tok) : ProtoOk t tok := by
  obtain ⟨_, tr, cl, er, pt, rfl, _⟩ := h
  exact ⟨hp.noShadow, hp.text, fun d e => by
    exact hp.doctype d e⟩

/-- every character token satisfies the residual protocol in every state -/
theorem protoOk_chars (s : State) (x : List Char) : ProtoOk s (.chars x) := by
  constructor
  · intro t e; cases e
  · intro _; exact Or.inl ⟨x, rfl⟩
  · intro d e; cases e

theorem respectsP_append : ∀ (p q : List (TokToken × Nat)) (t : State), RespectsP t p →
    (∀ t', TbRuns t p t' → RespectsP t' q) → RespectsP t (p ++ q)
  | [], _, t, _, h => h t (TbRuns.nil t)
  | (_, _) :: p, q, _, hp, h =>
    ⟨hp.1, fun r t1 hr => respectsP_append p q t1 (hp.2 r t1 hr) (fun t' hrun => h t' (TbRuns.cons hr hrun))⟩

theorem respectsP_charsOnly (l : Nat) : ∀ (cs : List Char) (t : State),
    RespectsP t (cs.map fun c => (TokToken.chars [c], l))
  | [], _ => trivial
  | c :: cs, t => ⟨protoOk_chars t [c], fun _ t1 _ => respectsP_charsOnly l cs t1⟩

/-- **the residual protocol transfers to the exploded stream** -/
theorem respectsP_explode : ∀ (ts : List (TokToken × Nat)) (s t : State), H5V.Lemmas.TBSplit.Sim s t →
    EmptyOk s ts → RespectsP s ts → RespectsP t (explode ts)
  | [], _, _, _, _, _ => trivial
  | (tk, l) :: rest, s, t, hst, he, hp => by
    obtain ⟨he1, he2⟩ := he
    obtain ⟨hp1, hp2⟩ := hp
    have hex : explode ((tk, l) :: rest) = explodeTok (tk, l) ++ explode rest := by simp [explode]
    rw [hex]
    by_cases hemp : tk = .chars []
    · subst hemp
      obtain ⟨s1, hr1, hs1⟩ := empty_chars_run l hst.left (he1 rfl)
      have hx : explodeTok (TokToken.chars [], l) = [] := rfl
      rw [hx, List.nil_append]
      exact respectsP_explode rest s1 t (hs1.trans hst) (he2 _ _ hr1) (hp2 _ _ hr1)
    · cases tk with
      | chars x =>
        refine respectsP_append _ _ t (respectsP_charsOnly l x t) (fun t' hrun => ?_)
        obtain ⟨res, hres⟩ := tbRuns_processTokens hrun []
        have hra := C03_tree_resplit_run (resplit_explodeTok (.chars x) l hemp) [] s t hst
        rw [hres] at hra
        cases h1 : processTokens [(TokToken.chars x, l)] [] s with
        | error e => rw [h1] at hra; exact hra.elim
        | ok v =>
          obtain ⟨acc', s'⟩ := v
          rw [h1] at hra
          obtain ⟨_, _, hs'⟩ := hra
          obtain ⟨r, hr⟩ := processTokens_one_ok h1
          exact respectsP_explode rest s' t' hs' (he2 r s' hr) (hp2 r s' hr)
      | tag tg =>
        refine ⟨protoOk_sim hst hp1, fun r t' hr => ?_⟩
        have h1 := H5V.Props.C03.C03_tb_sim_step (.tag tg) l l s t hst
        have hr' : processToken (.tag tg) l t = .ok (r, t') := hr
        rw [hr'] at h1
        cases hs : processToken (.tag tg) l s with
        | error e => rw [hs] at h1; exact h1.elim
        | ok v =>
          obtain ⟨r0, s'⟩ := v
          rw [hs] at h1
          exact respectsP_explode rest s' t' h1.2.2 (he2 r0 s' hs) (hp2 r0 s' hs)
      | doctype d =>
        refine ⟨protoOk_sim hst hp1, fun r t' hr => ?_⟩
        have h1 := H5V.Props.C03.C03_tb_sim_step (.doctype d) l l s t hst
        have hr' : processToken (.doctype d) l t = .ok (r, t') := hr
        rw [hr'] at h1
        cases hs : processToken (.doctype d) l s with
        | error e => rw [hs] at h1; exact h1.elim
        | ok v =>
          obtain ⟨r0, s'⟩ := v
          rw [hs] at h1
          exact respectsP_explode rest s' t' h1.2.2 (he2 r0 s' hs) (hp2 r0 s' hs)
      | comment c =>
        refine ⟨protoOk_sim hst hp1, fun r t' hr => ?_⟩
        have h1 := H5V.Props.C03.C03_tb_sim_step (.comment c) l l s t hst
        have hr' : processToken (.comment c) l t = .ok (r, t') := hr
        rw [hr'] at h1
        cases hs : processToken (.comment c) l s with
        | error e => rw [hs] at h1; exact h1.elim
        | ok v =>
          obtain ⟨r0, s'⟩ := v
          rw [hs] at h1
          exact respectsP_explode rest s' t' h1.2.2 (he2 r0 s' hs) (hp2 r0 s' hs)
      | nullChar =>
        refine ⟨protoOk_sim hst hp1, fun r t' hr => ?_⟩
        have h1 := H5V.Props.C03.C03_tb_sim_step .nullChar l l s t hst
        have hr' : processToken .nullChar l t = .ok (r, t') := hr
        rw [hr'] at h1
        cases hs : processToken .nullChar l s with
        | error e => rw [hs] at h1; exact h1.elim
        | ok v =>
          obtain ⟨r0, s'⟩ := v
          rw [hs] at h1
          exact respectsP_explode rest s' t' h1.2.2 (he2 r0 s' hs) (hp2 r0 s' hs)
      | eof =>
        refine ⟨protoOk_sim hst hp1, fun r t' hr => ?_⟩
        have h1 := H5V.Props.C03.C03_tb_sim_step .eof l l s t hst
        have hr' : processToken .eof l t = .ok (r, t') := hr
        rw [hr'] at h1
        cases hs : processToken .eof l s with
        | error e => rw [hs] at h1; exact h1.elim
        | ok v =>
          obtain ⟨r0, s'⟩ := v
          rw [hs] at h1
          exact respectsP_explode rest s' t' h1.2.2 (he2 r0 s' hs) (hp2 r0 s' hs)
      | parseError m =>
        refine ⟨protoOk_sim hst hp1, fun r t' hr => ?_⟩
        have h1 := H5V.Props.C03.C03_tb_sim_step (.parseError m) l l s t hst
        have hr' : processToken (.parseError m) l t = .ok (r, t') := hr
        rw [hr'] at h1
        cases hs : processToken (.parseError m) l s with
        | error e => rw [hs] at h1; exact h1.elim
        | ok v =>
          obtain ⟨r0, s'⟩ := v
          rw [hs] at h1
          exact respectsP_explode rest s' t' h1.2.2 (he2 r0 s' hs) (hp2 r0 s' hs)

/-! ### `RespectsP` from facts -/

/-- what stays true of the options and of the "initial" insertion mode along a run -/
def OptInv (opts : Opts) (s : State) : Prop := s.opts = opts ∧ (s.mode = .initial → s.quirksMode = opts.quirksMode)

theorem optInv_step {opts : Opts} {s s' : State} {t : TokToken} {l : Nat} {r : SinkResult}
    (hti : H5V.Lemmas.TBSafe.TI s) (h : OptInv opts s) (hr : (processToken t l).run s = .ok (r, s')) :
    OptInv opts s' := by
  refine ⟨(processToken_opts t l s s' r hr).trans h.1, fun hm => ?_⟩
  obtain ⟨h1, h2⟩ := processToken_initial t l s s' r hti hr hm
  rw [h2]; exact h.2 h1

theorem respectsP_of_facts {opts : Opts} (hq : opts.quirksMode = .noQuirks) (hdd : opts.dropDoctype = false) :
    ∀ (ts : List (TokToken × Nat)) (s : State), H5V.Lemmas.TBSafe.TI s → OptInv opts s → TextAlong s ts →
    (∀ p ∈ ts, ∀ t, p.1 = .tag t → ∀ a ∈ t.attrs, a.name.loc ≠ "shadowrootmode".toList) → RespectsP s ts
  | [], _, _, _, _, _ => trivial
  | (t, l) :: rest, s, hti, hi, ht, hs => by
    refine ⟨⟨fun tg e => hs (t, l) (by simp) tg e, ht.1, fun d e => ⟨?_, fun hm => ?_⟩⟩,
      fun r s' hr => respectsP_of_facts hq hdd rest s'
        ((@H5V.Props.C04TB.C04_tb_no_panic_token H5V.Props.C04TB.allowAll trivial s t l hti
          (fun _ => Or.inl trivial)).1 r s' hr)
        (optInv_step hti hi hr) (ht.2 r s' hr) (fun p hp => hs p (by simp [hp]))⟩
    · rw [hi.1]; exact hdd
    · rw [hi.2 hm]; exact hq

end H5V.Lemmas.ParseSpec
