import H5V.Model.HtmlTok
import H5V.Lemmas.HtmlTokFields
import H5V.Lemmas.HtmlTokTable
import H5V.Lemmas.HtmlTokReader
/-!
Step-level lemmas: the shape of `Tokenizer::step` by reading kind (`step_kind_*`, `step_getChar`,
`step_setRead`; the look-ahead states as chains of `eatThen`; `stepBav_cases`); `step` is monotone
in the unread input whenever it does not suspend; and the relation `Sim` / `RSim` "equal up to a
`current_char` that nobody will read", under which chunked and one-piece runs are compared.
-/
namespace H5V.Model.HtmlTok

/-- a step result with more input appended -/
def R.ext : R → Str → R
  | .cont m i, e => .cont m (i ++ e)
  | .suspend m i, e => .suspend m (i ++ e)
  | .script m i, e => .script m (i ++ e)
  | .indicator m i, e => .indicator m (i ++ e)
  | .panic x, _ => .panic x

def R.isSuspend : R → Bool
  | .suspend _ _ => true
  | _ => false

theorem ofSig_ext (ms : Mach × Sig) (inp e : Str) : ofSig ms (inp ++ e) = (ofSig ms inp).ext e := by
  unfold ofSig
  split <;> rfl

@[simp] theorem ofSig_not_suspend (ms : Mach × Sig) (inp : Str) : (ofSig ms inp).isSuspend = false := by
  unfold ofSig
  split <;> rfl

/-! ### the shape of `step`, by reading kind -/

theorem step_kind_bav (o : Opts) (pol : Pol) (m : Mach) (inp : Str)
    (hcr : m.charRef = none) (hrk : readKind m.state = .peekBav) :
    step o pol m inp = stepBav o pol m inp := by
  unfold step; simp only [hcr, hrk]

theorem step_kind_mdo (o : Opts) (pol : Pol) (m : Mach) (inp : Str)
    (hcr : m.charRef = none) (hrk : readKind m.state = .eatMdo) :
    step o pol m inp = stepMdo o pol m inp := by
  unfold step; simp only [hcr, hrk]

theorem step_kind_adn (o : Opts) (pol : Pol) (m : Mach) (inp : Str)
    (hcr : m.charRef = none) (hrk : readKind m.state = .eatAdn) :
    step o pol m inp = stepAdn o pol m inp := by
  unfold step; simp only [hcr, hrk]

theorem step_kind_charRef (o : Opts) (pol : Pol) (m : Mach) (inp : Str) (cr : CharRefSt)
    (hcr : m.charRef = some cr) : step o pol m inp = stepCharRef o m inp cr := by
  unfold step; simp only [hcr]

/-- the continuation of a `get_char!` state after its read -/
def contChar (o : Opts) (pol : Pol) (r : Option Char × Mach × Str) : R :=
  match r with
  | (none, m, inp) => .suspend m inp
  | (some c, m, inp) => ofSig (transChar o pol m c) inp

theorem step_getChar (o : Opts) (pol : Pol) (m : Mach) (inp : Str)
    (hcr : m.charRef = none) (hrk : readKind m.state = .getChar) :
    step o pol m inp = contChar o pol (getChar o m inp) := by
  cases hp : getChar o m inp with
  | mk a b =>
    obtain ⟨m1, i1⟩ := b
    cases a <;> simp [step, contChar, hcr, hrk, hp]

/-- the continuation of a `pop_except_from` state after its read -/
def contSet (o : Opts) (pol : Pol) (r : Option SetRes × Mach × Str) : R :=
  match r with
  | (none, m, inp) => .suspend m inp
  | (some r, m, inp) => ofSig (transSet o pol m r) inp

theorem step_popExcept (o : Opts) (pol : Pol) (m : Mach) (inp : Str)
    (hcr : m.charRef = none) (hrk : readKind m.state = .popExcept) :
    step o pol m inp = contSet o pol (popExceptFrom o (setOf m.state) m inp) := by
  cases hp : popExceptFrom o (setOf m.state) m inp with
  | mk a b =>
    obtain ⟨m1, i1⟩ := b
    cases a <;> simp [step, contSet, hcr, hrk, hp]

theorem step_dataSimd (o : Opts) (pol : Pol) (m : Mach) (inp : Str)
    (hcr : m.charRef = none) (hrk : readKind m.state = .dataSimd) :
    step o pol m inp = contSet o pol (readData o m inp) := by
  cases hp : readData o m inp with
  | mk a b =>
    obtain ⟨m1, i1⟩ := b
    cases a <;> simp [step, contSet, hcr, hrk, hp]

/-- the data state reads like a `pop_except_from` state: one shape for both kinds -/
theorem step_setRead (o : Opts) (pol : Pol) (m : Mach) (inp : Str) (hcr : m.charRef = none)
    (hk : readKind m.state = .popExcept ∨ readKind m.state = .dataSimd) :
    step o pol m inp = contSet o pol (popExceptFrom o (setOf m.state) m inp) := by
  rcases hk with hk | hk
  · exact step_popExcept o pol m inp hcr hk
  · have hs : m.state = .data := by
      cases hst : m.state <;> simp [hst, readKind] at hk ⊢
    rw [step_dataSimd o pol m inp hcr hk, readData_eq, hs]

theorem readKind_mdo {s : State} (h : readKind s = .eatMdo) : s = .markupDeclarationOpen := by
  cases s <;> simp [readKind] at h ⊢
theorem readKind_adn {s : State} (h : readKind s = .eatAdn) : s = .afterDoctypeName := by
  cases s <;> simp [readKind] at h ⊢

/-- one look-ahead of a state that tries keywords in turn: suspend, or go on with the answer -/
def eatThen (m : Mach) (inp pat : Str) (eq : Char → Char → Bool) (kt kf : Mach → Str → R) : R :=
  match eat m inp pat eq with
  | (none, m, inp) => .suspend m inp
  | (some true, m, inp) => kt m inp
  | (some false, m, inp) => kf m inp

theorem stepMdo_eq (o : Opts) (pol : Pol) (m : Mach) (inp : Str) : stepMdo o pol m inp =
    eatThen m inp kwDashDash eqExact (fun m i => .cont (to .commentStart (clearComment m)) i) fun m i =>
    eatThen m i kwDoctype eqCi (fun m i => .cont (to .doctype m) i) fun m i =>
    if pol.cdataOk m.out then
      eatThen m i kwCdata eqExact (fun m i => .cont (to .cdataSection (clearTemp m)) i)
        fun m i => .cont (to .bogusComment (clearComment (badChar o m))) i
    else .cont (to .bogusComment (clearComment (badChar o m))) i := rfl

theorem stepAdn_eq (o : Opts) (pol : Pol) (m : Mach) (inp : Str) : stepAdn o pol m inp =
    eatThen m inp kwPublic eqCi (fun m i => .cont (to (.afterDoctypeKeyword .pub) m) i) fun m i =>
    eatThen m i kwSystem eqCi (fun m i => .cont (to (.afterDoctypeKeyword .sys) m) i) fun m i =>
    contChar o pol (getChar o m i) := rfl

theorem kw_ne : kwDashDash ≠ [] ∧ kwDoctype ≠ [] ∧ kwCdata ≠ [] ∧ kwPublic ≠ [] ∧ kwSystem ≠ [] := by
  decide

/-! ### monotonicity -/

theorem stepCharRef_mono (o : Opts) (m : Mach) (inp e : Str) (cr : CharRefSt)
    (h : (stepCharRef o m inp cr).isSuspend = false) :
    stepCharRef o m (inp ++ e) cr = (stepCharRef o m inp cr).ext e := by
  cases hpk : peek m inp with
  | none =>
    unfold stepCharRef at h
    simp [crStep_stuck o m inp cr hpk, R.isSuspend] at h
  | some c =>
    unfold stepCharRef
    rw [crStep_mono o m inp e cr c hpk]
    cases hc : crStep o m inp cr with
    | error x => simp [CRRes.ext, R.ext]
    | ok v =>
      obtain ⟨m1, i1, cr1, st⟩ := v
      cases st with
      | stuck => simp [CRRes.ext, R.ext]
      | progress => simp [CRRes.ext, R.ext]
      | done chars => simp [CRRes.ext, ofSig_ext]

theorem stepBav_mono (o : Opts) (pol : Pol) (m : Mach) (inp e : Str)
    (h : (stepBav o pol m inp).isSuspend = false) :
    stepBav o pol m (inp ++ e) = (stepBav o pol m inp).ext e := by
  cases hpk : peek m inp with
  | none => unfold stepBav at h; simp [hpk, R.isSuspend] at h
  | some c =>
    have hp := peek_mono m inp e c hpk
    unfold stepBav at h ⊢
    simp only [hpk, hp] at h ⊢
    -- the machine after clearing ignore_lf peeks the same character
    have hm2 : peek (if m.ignoreLf = true then m.setIgnoreLf false else m) inp = some c := by
      split
      · simpa [peek] using hpk
      · exact hpk
    generalize (if m.ignoreLf = true then m.setIgnoreLf false else m) = m2 at h hm2 ⊢
    have hd := discardChar_mono m2 inp e c hm2
    cases hs : (m.ignoreLf && decide (c = '\n')) with
    | true => simp [hd, R.ext]
    | false =>
      simp only [hs, Bool.false_eq_true, ↓reduceIte] at h ⊢
      cases hnl : (decide (c = '\n') || decide (c = '\r')) with
      | true =>
        simp only [hnl, ↓reduceIte] at h ⊢
        cases hg : getChar o m2 inp with
        | mk c1 rest =>
          obtain ⟨m3, i3⟩ := rest
          cases c1 with
          | none => simp [hg, R.isSuspend] at h
          | some c1 =>
            rw [getChar_mono o m2 m3 c1 inp i3 e hg]
            simp [R.ext]
      | false =>
        simp only [hnl, Bool.false_eq_true, ↓reduceIte]
        repeat' split
        all_goals simp [hd, R.ext, ofSig_ext]

/-- without `exact_errors`, folding an ordinary character only records it as `current_char` -/
theorem foldChar_plain (o : Opts) (m : Mach) (c : Char) (ho : o.exactErrors = false)
    (h1 : c ≠ '\r') (h2 : c ≠ '\n') : foldChar o m c = (c, m.setCurrentChar c) := by
  unfold foldChar
  simp [ho, h1, h2]

theorem preprocess_plain (o : Opts) (m : Mach) (x : Char) (xs : Str) (h : m.ignoreLf = false) :
    preprocess o m x xs = (some (foldChar o m x).1, (foldChar o m x).2, xs) := by
  unfold preprocess; simp [h]

/-- with a character available and no pending LF, `get_char` delivers -/
theorem getChar_some (o : Opts) (m : Mach) (inp : Str) (c : Char) (hil : m.ignoreLf = false)
    (hpk : peek m inp = some c) : ∃ c1 m1 i1, getChar o m inp = (some c1, m1, i1) := by
  unfold getChar
  split
  · exact ⟨_, _, _, rfl⟩
  · rename_i hr
    cases inp with
    | nil => simp [peek, hr] at hpk
    | cons x xs => exact ⟨_, _, _, preprocess_plain o m x xs hil⟩

/-- what `before-attribute-value` knows after peeking `c`: it goes on with `m2`, which is `m` with
a pending "ignore LF" cleared -/
structure BavPeek (m : Mach) (inp : Str) (c : Char) (m2 : Mach) : Prop where
  pk : peek m2 inp = some c
  il : m2.ignoreLf = false
  eq : m2 = m ∨ m2 = m.setIgnoreLf false

/-- the arms of `before-attribute-value`: nothing to peek; a discarded character (white space, the
LF of a CRLF); a line break through `get_char`; a quote; `>`; anything else. For invariants that
need of the peeked character only what `BavPeek` records (`stepBav_suspend`, `stepBav_good`);
`stepBav_mono` needs the character itself and splits the definition directly. -/
theorem stepBav_cases {P : R → Prop} (o : Opts) (pol : Pol) (m : Mach) (inp : Str)
    (hnone : peek m inp = none → P (.suspend m inp))
    (hdisc : ∀ c m2, BavPeek m inp c m2 → P (.cont (discardChar m2 inp).1 (discardChar m2 inp).2))
    (hget : ∀ c m2 c1 m3 i3, BavPeek m inp c m2 → getChar o m2 inp = (some c1, m3, i3) → P (.cont m3 i3))
    (hquote : ∀ c m2 k, BavPeek m inp c m2 → k ≠ .unquoted →
      P (.cont (to (.attributeValue k) (discardChar m2 inp).1) (discardChar m2 inp).2))
    (hgt : ∀ c m2, BavPeek m inp c m2 →
      P (ofSig (emitTag pol .data (badChar o (discardChar m2 inp).1)) (discardChar m2 inp).2))
    (hunq : ∀ c m2, BavPeek m inp c m2 → P (.cont (to (.attributeValue .unquoted) m2) inp)) :
    P (stepBav o pol m inp) := by
  unfold stepBav
  cases hpk : peek m inp with
  | none => exact hnone hpk
  | some c =>
    have hb : BavPeek m inp c (if m.ignoreLf = true then m.setIgnoreLf false else m) := by
      split
      · exact ⟨by simpa [peek] using hpk, rfl, .inr rfl⟩
      · rename_i hx; exact ⟨hpk, by simpa using hx, .inl rfl⟩
    simp only
    generalize (if m.ignoreLf = true then m.setIgnoreLf false else m) = m2 at hb ⊢
    split
    · exact hdisc c m2 hb
    split
    · obtain ⟨c1, m3, i3, hgc⟩ := getChar_some o m2 inp c hb.il hb.pk
      rw [hgc]
      exact hget c m2 c1 m3 i3 hb hgc
    split
    · exact hdisc c m2 hb
    split
    · exact hquote c m2 _ hb (by simp)
    split
    · exact hquote c m2 _ hb (by simp)
    split
    · exact hgt c m2 hb
    · exact hunq c m2 hb

theorem BavPeek.fields {m : Mach} {inp : Str} {c : Char} {m2 : Mach} (hb : BavPeek m inp c m2) :
    m2.state = m.state ∧ m2.atEof = m.atEof := by
  rcases hb.eq with rfl | rfl <;> simp

theorem eat_some_EatOk (m m' : Mach) (inp inp' pat : Str) (eq : Char → Char → Bool) (b : Bool)
    (h : eat m inp pat eq = (some b, m', inp')) : EatOk m' ∧ m'.atEof = m.atEof := by
  rw [eat_eq_core] at h
  unfold eatCore at h
  repeat' split at h
  all_goals
    first
      | (simp at h; done)
      | (simp only [Prod.mk.injEq] at h
         obtain ⟨_, h2, _⟩ := h
         subst h2
         exact ⟨by intro _; simp, by simp⟩)

/-- a look-ahead that completes is unaffected by more input, if its continuations are -/
theorem eatThen_mono {m : Mach} {inp pat : Str} {eq : Char → Char → Bool} {kt kf : Mach → Str → R} (e : Str)
    (hg : EatOk m) (hpat : pat ≠ []) (hat : m.atEof = false)
    (ht : ∀ m1 i1, kt m1 (i1 ++ e) = (kt m1 i1).ext e)
    (hf : ∀ m1 i1, EatOk m1 → m1.atEof = false → (kf m1 i1).isSuspend = false →
      kf m1 (i1 ++ e) = (kf m1 i1).ext e)
    (h : (eatThen m inp pat eq kt kf).isSuspend = false) :
    eatThen m (inp ++ e) pat eq kt kf = (eatThen m inp pat eq kt kf).ext e := by
  unfold eatThen at h ⊢
  cases h1 : eat m inp pat eq with
  | mk b r =>
    obtain ⟨m1, i1⟩ := r
    rw [h1] at h
    cases b with
    | none => simp [R.isSuspend] at h
    | some b =>
      rw [eat_mono m m1 inp i1 e pat eq b hg hpat hat h1]
      obtain ⟨hg1, hat1⟩ := eat_some_EatOk m m1 inp i1 pat eq b h1
      cases b with
      | true => exact ht m1 i1
      | false => exact hf m1 i1 hg1 (hat1.trans hat) h

theorem contChar_mono (o : Opts) (pol : Pol) (m : Mach) (inp e : Str)
    (h : (contChar o pol (getChar o m inp)).isSuspend = false) :
    contChar o pol (getChar o m (inp ++ e)) = (contChar o pol (getChar o m inp)).ext e := by
  cases hgc : getChar o m inp with
  | mk c r =>
    obtain ⟨m1, i1⟩ := r
    cases c with
    | none => simp [hgc, contChar, R.isSuspend] at h
    | some c => rw [getChar_mono o m m1 c inp i1 e hgc]; simp [contChar, ofSig_ext]

theorem contSet_mono (o : Opts) (pol : Pol) (S : List Char) (m : Mach) (inp e : Str)
    (h : (contSet o pol (popExceptFrom o S m inp)).isSuspend = false) :
    contSet o pol (popExceptFrom o S m (inp ++ e)) = (contSet o pol (popExceptFrom o S m inp)).ext e := by
  cases hgc : popExceptFrom o S m inp with
  | mk c r =>
    obtain ⟨m1, i1⟩ := r
    cases c with
    | none => simp [hgc, contSet, R.isSuspend] at h
    | some c => rw [popExceptFrom_mono o S m m1 c inp i1 e hgc]; simp [contSet, ofSig_ext]

theorem stepMdo_mono (o : Opts) (pol : Pol) (m : Mach) (inp e : Str)
    (hg : EatOk m) (hat : m.atEof = false)
    (h : (stepMdo o pol m inp).isSuspend = false) :
    stepMdo o pol m (inp ++ e) = (stepMdo o pol m inp).ext e := by
  rw [stepMdo_eq] at h ⊢
  refine eatThen_mono e hg kw_ne.1 hat (fun _ _ => rfl) (fun m1 i1 hg1 hat1 h => ?_) h
  refine eatThen_mono e hg1 kw_ne.2.1 hat1 (fun _ _ => rfl) (fun m2 i2 hg2 hat2 h => ?_) h
  split
  · rename_i hcd
    rw [if_pos hcd] at h
    exact eatThen_mono e hg2 kw_ne.2.2.1 hat2 (fun _ _ => rfl) (fun _ _ _ _ _ => rfl) h
  · rfl

theorem stepAdn_mono (o : Opts) (pol : Pol) (m : Mach) (inp e : Str)
    (hg : EatOk m) (hat : m.atEof = false)
    (h : (stepAdn o pol m inp).isSuspend = false) :
    stepAdn o pol m (inp ++ e) = (stepAdn o pol m inp).ext e := by
  rw [stepAdn_eq] at h ⊢
  refine eatThen_mono e hg kw_ne.2.2.2.1 hat (fun _ _ => rfl) (fun m1 i1 hg1 hat1 h => ?_) h
  exact eatThen_mono e hg1 kw_ne.2.2.2.2 hat1 (fun _ _ => rfl)
    (fun m2 i2 _ _ h => contChar_mono o pol m2 i2 e h) h

/-- **`step` is monotone in the unread input**: a step that completes (does not ask for more
input) gives the same result, with the extra input left over, when more input is appended -/
theorem step_mono (o : Opts) (pol : Pol) (m : Mach) (inp e : Str)
    (hg : (m.state = .markupDeclarationOpen ∨ m.state = .afterDoctypeName) → EatOk m) (hat : m.atEof = false)
    (h : (step o pol m inp).isSuspend = false) :
    step o pol m (inp ++ e) = (step o pol m inp).ext e := by
  cases hcr : m.charRef with
  | some cr =>
    simp only [step_kind_charRef o pol m _ cr hcr] at h ⊢
    exact stepCharRef_mono o m inp e cr h
  | none =>
    cases hrk : readKind m.state with
    | getChar =>
      simp only [step_getChar o pol m _ hcr hrk] at h ⊢
      exact contChar_mono o pol m inp e h
    | popExcept =>
      simp only [step_setRead o pol m _ hcr (.inl hrk)] at h ⊢
      exact contSet_mono o pol _ m inp e h
    | dataSimd =>
      simp only [step_setRead o pol m _ hcr (.inr hrk)] at h ⊢
      exact contSet_mono o pol _ m inp e h
    | peekBav =>
      simp only [step_kind_bav o pol m _ hcr hrk] at h ⊢
      exact stepBav_mono o pol m inp e h
    | eatMdo =>
      simp only [step_kind_mdo o pol m _ hcr hrk] at h ⊢
      exact stepMdo_mono o pol m inp e (hg (Or.inl (readKind_mdo hrk))) hat h
    | eatAdn =>
      simp only [step_kind_adn o pol m _ hcr hrk] at h ⊢
      exact stepAdn_mono o pol m inp e (hg (Or.inr (readKind_adn hrk))) hat h

/-! ### simulation up to a dead `current_char`

`pop_except_from` does not set `current_char` for a run of non-set characters ("It shouldn't
matter for the codepaths that use this", says the source). It indeed does not: in a state read
with `pop_except_from`, with no pending reconsume and no character reference in progress, the
register is dead — the next read overwrites it before anything looks at it. -/

def deadCC (m : Mach) : Prop :=
  m.reconsume = false ∧ m.charRef = none ∧
  (readKind m.state = .popExcept ∨ readKind m.state = .dataSimd)

/-- equal, or equal up to a dead `current_char` -/
def Sim (m1 m2 : Mach) : Prop := m1 = m2 ∨ (deadCC m1 ∧ ∃ a, m2 = m1.setCurrentChar a)

theorem Sim.refl (m : Mach) : Sim m m := Or.inl rfl

def RSim : R → R → Prop
  | .cont a i, .cont b j => Sim a b ∧ i = j
  | .suspend a i, .suspend b j => Sim a b ∧ i = j
  | .script a i, .script b j => Sim a b ∧ i = j
  | .indicator a i, .indicator b j => Sim a b ∧ i = j
  | .panic x, .panic y => x = y
  | _, _ => False

theorem RSim.refl (r : R) : RSim r r := by
  cases r <;> simp [RSim, Sim.refl]

theorem RSim.of_eq {r1 r2 : R} (h : r1 = r2) : RSim r1 r2 := h ▸ RSim.refl r1

/-! setters commute with `setCurrentChar` -/
@[simp] theorem setCurrentChar_setCurrentChar (m : Mach) (a b : Char) :
    (m.setCurrentChar a).setCurrentChar b = m.setCurrentChar b := rfl
theorem setIgnoreLf_setCurrentChar (m : Mach) (a : Char) (b : Bool) :
    (m.setCurrentChar a).setIgnoreLf b = (m.setIgnoreLf b).setCurrentChar a := rfl
theorem bumpLine_setCurrentChar (m : Mach) (a : Char) :
    (m.setCurrentChar a).bumpLine = m.bumpLine.setCurrentChar a := rfl
theorem emit_setCurrentChar (m : Mach) (a : Char) (t : Token) :
    emit (m.setCurrentChar a) t = (emit m t).setCurrentChar a := rfl

/-- `foldChar` overwrites `current_char`: its previous value is irrelevant -/
theorem foldChar_setCurrentChar (o : Opts) (m : Mach) (a c : Char) :
    foldChar o (m.setCurrentChar a) c = foldChar o m c := by
  unfold foldChar
  simp only [setIgnoreLf_setCurrentChar]
  split <;> split <;> split <;>
    simp [bumpLine_setCurrentChar, emit_setCurrentChar, setCurrentChar_setCurrentChar]

end H5V.Model.HtmlTok
