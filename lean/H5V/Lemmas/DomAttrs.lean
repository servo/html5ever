import H5V.Lemmas.DomOps
namespace H5V.Lemmas.Dom
open H5V.Model.Dom

/-! Attribute merging (`add_attrs_if_missing`): which attributes are added, and that names stay distinct. -/

theorem attrNamesNodup_iff (as : List Attr) : Dom.attrNamesNodup as = true ↔ (as.map (·.name)).Nodup := by
  induction as with
  | nil => simp [Dom.attrNamesNodup]
  | cons a t ih =>
    simp only [Dom.attrNamesNodup, Bool.and_eq_true, Bool.not_eq_true', List.map_cons, List.nodup_cons]
    rw [ih]
    constructor
    · rintro ⟨h1, h2⟩
      refine ⟨?_, h2⟩
      intro hm
      have : (t.map (·.name)).contains a.name = true := List.contains_iff_mem.mpr hm
      rw [h1] at this; cases this
    · rintro ⟨h1, h2⟩
      refine ⟨?_, h2⟩
      cases hc : (t.map (·.name)).contains a.name with
      | false => rfl
      | true => exact absurd (List.contains_iff_mem.mp hc) h1

theorem mem_missingAttrs {existing attrs : List Attr} {a : Attr} :
    a ∈ Dom.missingAttrs existing attrs ↔ a ∈ attrs ∧ ∀ e ∈ existing, e.name ≠ a.name := by
  unfold Dom.missingAttrs
  simp only [List.mem_filter, Bool.not_eq_true', and_congr_right_iff]
  intro _
  constructor
  · intro h e he hne
    have : (existing.map (·.name)).contains a.name = true :=
      List.contains_iff_mem.mpr (List.mem_map.mpr ⟨e, he, hne⟩)
    rw [h] at this; cases this
  · intro h
    cases hc : (existing.map (·.name)).contains a.name with
    | false => rfl
    | true =>
      obtain ⟨e, he, hne⟩ := List.mem_map.mp (List.contains_iff_mem.mp hc)
      exact absurd hne (h e he)

theorem missingAttrs_sublist (existing attrs : List Attr) : (Dom.missingAttrs existing attrs).Sublist attrs :=
  List.filter_sublist

theorem nodup_names_merge {existing attrs : List Attr} (he : (existing.map (·.name)).Nodup)
    (ha : (attrs.map (·.name)).Nodup) :
    ((existing ++ Dom.missingAttrs existing attrs).map (·.name)).Nodup := by
  rw [List.map_append]
  refine List.nodup_append.mpr ⟨he, ?_, ?_⟩
  · exact List.Nodup.sublist (List.Sublist.map _ (missingAttrs_sublist existing attrs)) ha
  · intro x hx y hy e
    subst e
    obtain ⟨e1, he1, hn1⟩ := List.mem_map.mp hx
    obtain ⟨a, ha1, hn2⟩ := List.mem_map.mp hy
    exact (mem_missingAttrs.mp ha1).2 e1 he1 (hn1.trans hn2.symm)

/-- the contract's clause (distinct expanded names) implies distinct `QualName`s -/
theorem attrNamesNodup_of_keys : ∀ (as : List Attr), Dom.attrKeysNodup as = true → Dom.attrNamesNodup as = true := by
  intro as
  induction as with
  | nil => intro _; rfl
  | cons a t ih =>
    intro h
    simp only [Dom.attrKeysNodup, Bool.and_eq_true, Bool.not_eq_true'] at h
    simp only [Dom.attrNamesNodup, Bool.and_eq_true, Bool.not_eq_true']
    refine ⟨?_, ih h.2⟩
    cases hc : (t.map (·.name)).contains a.name with
    | false => rfl
    | true =>
      obtain ⟨b, hb, hn⟩ := List.mem_map.mp (List.contains_iff_mem.mp hc)
      have : (t.map Dom.attrKey).contains (Dom.attrKey a) = true :=
        List.contains_iff_mem.mpr (List.mem_map.mpr ⟨b, hb, by simp [Dom.attrKey, hn]⟩)
      rw [h.1] at this; cases this

end H5V.Lemmas.Dom
