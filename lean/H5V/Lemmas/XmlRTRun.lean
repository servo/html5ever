import H5V.Lemmas.XmlRTCmt
import H5V.Lemmas.XmlSer
/-!
C17, tokenizer half: runs of the tokenizer model over the pieces of serializer output — escaped text, escaped
attribute values, names, one attribute, a start tag with its attribute list, an end tag, a comment, a
processing instruction, a doctype — each from the data state back to the data state, with the token
delivered.  At the end: the tokenizer model's own name splitting (`process_qname`) and attribute step
(`finish_attribute`) coincide with the tree-builder package's transcription of the same code
(`XmlTB.splitQName`, `XmlTB.finishAttribute` with `TokCfg.fixed` = the code as it is now in /repo), so
the tag the tokenizer model emits is `XmlTB.finishTag TokCfg.fixed` of the raw tag.
-/
namespace H5V.Lemmas.XmlRT
open H5V.Model.XmlTok

section
open H5V.Model.XmlSer (SerCfg escape escapeChar)

/-- the next character exists and is not rewritten by the input preprocessing (needed behind a named
character reference, which is recognised with one character of look-ahead) -/
def OkHead (s : Str) : Prop := ∃ d t, s = d :: t ∧ d ≠ '\r' ∧ d ≠ '\x00'

theorem okHead_cons (d : Char) (t : Str) (h1 : d ≠ '\r') (h2 : d ≠ '\x00') : OkHead (d :: t) := ⟨d, t, rfl, h1, h2⟩

/-! ### references in text and in attribute values -/

theorem named_ref_data (o : Opts) (ho : o.exactErrors = false) (nm : Str) (v : Nat) (hr : RefOk nm v)
    (m : Mach) (rest : Str) (hrest : OkHead rest) (h : Ctl m .data) (hn : Clean m) :
    ∃ m', Reach o m ('&' :: nm ++ rest) m' rest ∧ Ctl m' .data ∧ Clean m' ∧
      cvOut m'.out = cvOut m.out ++ [.chars [Char.ofNat v]] := by
  obtain ⟨d, t, rfl, d1, d2⟩ := hrest
  obtain ⟨m1, e1, c1, n1, o1⟩ := data_amp o ho m (nm ++ d :: t) h hn
  obtain ⟨m2, cr, r2, c2, dn, n2, o2⟩ := ref_read o ho .data carried_clean (d :: t) nm v hr none (Or.inl rfl) m1 c1 n1
  obtain ⟨m3, e3, c3, n3, o3⟩ := cr_finish_data o ho m2 d t cr nm v c2 n2 dn hr d1 d2
  refine ⟨m3, Reach.cons e1 (Reach.trans r2 (Reach.one e3)), c3, n3, ?_⟩
  rw [o3, cvOut_cons, o2, o1]; rfl

theorem named_ref_attr (o : Opts) (ho : o.exactErrors = false) (nm : Str) (v : Nat) (hr : RefOk nm v)
    (m : Mach) (rest : Str) (hrest : OkHead rest) (k : TagKind) (tn : Str) (as : List Attr) (an av : Str)
    (h : Ctl m (.tagAttrValue .doubleQuoted)) (hg : Regs m k tn as an av) :
    ∃ m', Reach o m ('&' :: nm ++ rest) m' rest ∧ Ctl m' (.tagAttrValue .doubleQuoted) ∧
      Regs m' k tn as an (av ++ [Char.ofNat v]) ∧ cvOut m'.out = cvOut m.out := by
  obtain ⟨d, t, rfl, d1, d2⟩ := hrest
  obtain ⟨m1, e1, c1, n1, o1⟩ := val_amp o ho m (nm ++ d :: t) k tn as an av h hg
  obtain ⟨m2, cr, r2, c2, dn, n2, o2⟩ := ref_read o ho _ (carried_regs k tn as an av) (d :: t) nm v hr (some '"')
    (Or.inr rfl) m1 c1 n1
  obtain ⟨m3, e3, c3, n3, o3⟩ := cr_finish_attr o ho m2 d t cr nm v k tn as an av c2 n2 dn hr d1 d2
  refine ⟨m3, Reach.cons e1 (Reach.trans r2 (Reach.one e3)), c3, n3, ?_⟩
  rw [o3, o2, o1]

theorem num13_data (o : Opts) (ho : o.exactErrors = false) (m : Mach) (rest : Str)
    (h : Ctl m .data) (hn : Clean m) :
    ∃ m', Reach o m ('&' :: '#' :: '1' :: '3' :: ';' :: rest) m' rest ∧ Ctl m' .data ∧ Clean m' ∧
      cvOut m'.out = cvOut m.out ++ [.chars ['\r']] := by
  obtain ⟨m1, e1, c1, n1, o1⟩ := data_amp o ho m ('#' :: '1' :: '3' :: ';' :: rest) h hn
  obtain ⟨m2, r2, c2, n2, o2⟩ := ref_num13 o ho .data carried_clean rest none (Or.inl rfl) m1 c1 n1
  obtain ⟨m3, e3, c3, n3, o3⟩ := cr_num13_data o ho m2 rest none c2 n2
  refine ⟨m3, Reach.cons e1 (Reach.trans r2 (Reach.one e3)), c3, n3, ?_⟩
  rw [o3, o2, o1]

theorem num13_attr (o : Opts) (ho : o.exactErrors = false) (m : Mach) (rest : Str)
    (k : TagKind) (tn : Str) (as : List Attr) (an av : Str)
    (h : Ctl m (.tagAttrValue .doubleQuoted)) (hg : Regs m k tn as an av) :
    ∃ m', Reach o m ('&' :: '#' :: '1' :: '3' :: ';' :: rest) m' rest ∧ Ctl m' (.tagAttrValue .doubleQuoted) ∧
      Regs m' k tn as an (av ++ ['\r']) ∧ cvOut m'.out = cvOut m.out := by
  obtain ⟨m1, e1, c1, n1, o1⟩ := val_amp o ho m ('#' :: '1' :: '3' :: ';' :: rest) k tn as an av h hg
  obtain ⟨m2, r2, c2, n2, o2⟩ := ref_num13 o ho _ (carried_regs k tn as an av) rest (some '"') (Or.inr rfl) m1 c1 n1
  obtain ⟨m3, e3, c3, n3, o3⟩ := cr_num13_attr o ho m2 rest (some '"') k tn as an av c2 n2
  refine ⟨m3, Reach.cons e1 (Reach.trans r2 (Reach.one e3)), c3, n3, ?_⟩
  rw [o3, o2, o1]

/-! ### escaped text -/

theorem okHead_escapeChar (am : Bool) (c : Char) (hc : c ≠ '\x00') (x : Str) :
    OkHead (escapeChar SerCfg.fixed am c ++ x) :=
  H5V.Lemmas.XmlSer.escapeChar_cases SerCfg.fixed am (P := fun c e => c ≠ '\x00' → OkHead (e ++ x))
    (fun _ => okHead_cons _ _ (by decide) (by decide)) (fun _ _ => okHead_cons _ _ (by decide) (by decide))
    (fun _ _ => okHead_cons _ _ (by decide) (by decide)) (fun _ _ => okHead_cons _ _ (by decide) (by decide))
    (fun _ _ => okHead_cons _ _ (by decide) (by decide)) (fun _ _ => okHead_cons _ _ (by decide) (by decide))
    (fun c _ _ _ _ _ hcr hc => okHead_cons _ _ (fun e => nomatch hcr e) hc) c hc

theorem okHead_escape (am : Bool) (s : Str) (hs : ∀ c ∈ s, c ≠ '\x00') (x : Str) (hx : OkHead x) :
    OkHead (escape SerCfg.fixed am s ++ x) := by
  cases s with
  | nil => simpa [escape] using hx
  | cons c t =>
    simp only [escape, List.map_cons, List.flatten_cons, List.append_assoc]
    exact okHead_escapeChar am c (hs c (by simp)) _

/-- one character of text, as the serializer writes it -/
theorem text_char (o : Opts) (ho : o.exactErrors = false) (m : Mach) (c : Char) (rest : Str)
    (hc : c ≠ '\x00') (hrest : OkHead rest) (h : Ctl m .data) (hn : Clean m) :
    ∃ m', Reach o m (escapeChar SerCfg.fixed false c ++ rest) m' rest ∧ Ctl m' .data ∧ Clean m' ∧
      cvOut m'.out = cvOut m.out ++ [.chars [c]] := by
  refine H5V.Lemmas.XmlSer.escapeChar_cases SerCfg.fixed false
    (P := fun c e => c ≠ '\x00' → ∃ m', Reach o m (e ++ rest) m' rest ∧ Ctl m' .data ∧ Clean m' ∧
      cvOut m'.out = cvOut m.out ++ [Model.XmlTB.Token.chars [c]])
    (fun _ => named_ref_data o ho nAmp 38 refOk_amp m rest hrest h hn) nofun nofun
    (fun _ _ => named_ref_data o ho nLt 60 refOk_lt m rest hrest h hn)
    (fun _ _ => named_ref_data o ho nGt 62 refOk_gt m rest hrest h hn)
    (fun _ _ => num13_data o ho m rest h hn) (fun c h1 _ _ h2 h3 h4 hc => ?_) c hc
  obtain ⟨m', e, c', n', o'⟩ := data_plain o ho m c rest h hn
    ⟨hc, (fun e => nomatch h4 e), h1, (fun e => nomatch h2 e)⟩
  exact ⟨m', Reach.one e, c', n', by rw [o', cvOut_cons]; rfl⟩

theorem text_run (o : Opts) (ho : o.exactErrors = false) (rest : Str) (hrest : OkHead rest) :
    ∀ (s : Str) (m : Mach), (∀ c ∈ s, c ≠ '\x00') → Ctl m .data → Clean m →
      ∃ m', Reach o m (escape SerCfg.fixed false s ++ rest) m' rest ∧ Ctl m' .data ∧ Clean m' ∧
        cvOut m'.out = cvOut m.out ++ s.map (fun c => .chars [c]) := by
  intro s
  induction s with
  | nil => intro m _ h hn; exact ⟨m, by simpa [escape] using Reach.refl _ _, h, hn, by simp⟩
  | cons c t ih =>
    intro m hs h hn
    have hs' : ∀ d ∈ t, d ≠ '\x00' := fun d hd => hs d (by simp [hd])
    obtain ⟨m1, r1, c1, n1, o1⟩ := text_char o ho m c (escape SerCfg.fixed false t ++ rest) (hs c (by simp))
      (okHead_escape false t hs' rest hrest) h hn
    obtain ⟨m2, r2, c2, n2, o2⟩ := ih m1 hs' c1 n1
    refine ⟨m2, ?_, c2, n2, ?_⟩
    · simp only [escape, List.map_cons, List.flatten_cons, List.append_assoc]
      exact Reach.trans r1 r2
    · rw [o2, o1]; simp

/-! ### escaped attribute values -/

theorem val_char (o : Opts) (ho : o.exactErrors = false) (m : Mach) (c : Char) (rest : Str)
    (hc : c ≠ '\x00') (hrest : OkHead rest) (k : TagKind) (tn : Str) (as : List Attr) (an av : Str)
    (h : Ctl m (.tagAttrValue .doubleQuoted)) (hg : Regs m k tn as an av) :
    ∃ m', Reach o m (escapeChar SerCfg.fixed true c ++ rest) m' rest ∧ Ctl m' (.tagAttrValue .doubleQuoted) ∧
      Regs m' k tn as an (av ++ [c]) ∧ cvOut m'.out = cvOut m.out := by
  refine H5V.Lemmas.XmlSer.escapeChar_cases SerCfg.fixed true
    (P := fun c e => c ≠ '\x00' → ∃ m', Reach o m (e ++ rest) m' rest ∧ Ctl m' (.tagAttrValue .doubleQuoted) ∧
      Regs m' k tn as an (av ++ [c]) ∧ cvOut m'.out = cvOut m.out)
    (fun _ => named_ref_attr o ho nAmp 38 refOk_amp m rest hrest k tn as an av h hg)
    (fun _ _ => named_ref_attr o ho nApos 39 refOk_apos m rest hrest k tn as an av h hg)
    (fun _ _ => named_ref_attr o ho nQuot 34 refOk_quot m rest hrest k tn as an av h hg) nofun nofun
    (fun _ _ => num13_attr o ho m rest k tn as an av h hg) (fun c h1 _ h3 _ _ h4 hc => ?_) c hc
  obtain ⟨m', e, c', n', o'⟩ := val_plain o ho m c rest k tn as an av h hg
    ⟨hc, (fun e => nomatch h4 e), (fun e => nomatch h3 e), h1⟩
  exact ⟨m', Reach.one e, c', n', by rw [o']⟩

theorem val_run (o : Opts) (ho : o.exactErrors = false) (rest : Str) (hrest : OkHead rest)
    (k : TagKind) (tn : Str) (as : List Attr) (an : Str) :
    ∀ (v : Str) (av : Str) (m : Mach), (∀ c ∈ v, c ≠ '\x00') → Ctl m (.tagAttrValue .doubleQuoted) →
      Regs m k tn as an av →
      ∃ m', Reach o m (escape SerCfg.fixed true v ++ rest) m' rest ∧ Ctl m' (.tagAttrValue .doubleQuoted) ∧
        Regs m' k tn as an (av ++ v) ∧ cvOut m'.out = cvOut m.out := by
  intro v
  induction v with
  | nil => intro av m _ h hg; exact ⟨m, by simpa [escape] using Reach.refl _ _, h, by simpa using hg, rfl⟩
  | cons c t ih =>
    intro av m hs h hg
    have hs' : ∀ d ∈ t, d ≠ '\x00' := fun d hd => hs d (by simp [hd])
    obtain ⟨m1, r1, c1, n1, o1⟩ := val_char o ho m c (escape SerCfg.fixed true t ++ rest) (hs c (by simp))
      (okHead_escape true t hs' rest hrest) k tn as an av h hg
    obtain ⟨m2, r2, c2, n2, o2⟩ := ih (av ++ [c]) m1 hs' c1 n1
    refine ⟨m2, ?_, c2, by simpa using n2, by rw [o2, o1]⟩
    simp only [escape, List.map_cons, List.flatten_cons, List.append_assoc]
    exact Reach.trans r1 r2

/-! ### lexical classes of names -/

/-- a raw element name the tokenizer reads back as written -/
def TagNameLex (s : Str) : Prop :=
  ∃ c t, s = c :: t ∧ NmCh c ∧ (c ≠ '!' ∧ c ≠ '?' ∧ c ≠ ':' ∧ c ≠ '<') ∧ ∀ d ∈ t, NmCh d

/-- a raw attribute name the tokenizer reads back as written -/
def AttrNameLex (s : Str) : Prop :=
  ∃ c t, s = c :: t ∧ NmCh c ∧ c ≠ ':' ∧ ∀ d ∈ t, NmCh d ∧ d ≠ '='

/-! ### names -/

theorem name_run (o : Opts) (ho : o.exactErrors = false) (st : State) (hst : st = .tagName ∨ st = .endTagName)
    (k : TagKind) (as : List Attr) (an av : Str) (rest : Str) :
    ∀ (t nm : Str) (m : Mach), (∀ d ∈ t, NmCh d) → Ctl m st → Regs m k nm as an av →
      ∃ m', Reach o m (t ++ rest) m' rest ∧ Ctl m' st ∧ Regs m' k (nm ++ t) as an av ∧ m'.out = m.out := by
  intro t
  induction t with
  | nil => intro nm m _ h hr; exact ⟨m, Reach.refl _ _, h, by simpa using hr, rfl⟩
  | cons c t ih =>
    intro nm m hs h hr
    obtain ⟨m1, e1, c1, r1, o1⟩ := name_push o ho m c (t ++ rest) st hst k nm as an av h hr (hs c (by simp))
    obtain ⟨m2, e2, c2, r2, o2⟩ := ih (nm ++ [c]) m1 (fun d hd => hs d (by simp [hd])) c1 r1
    exact ⟨m2, Reach.cons e1 e2, c2, by simpa using r2, by rw [o2, o1]⟩

theorem attrName_run (o : Opts) (ho : o.exactErrors = false)
    (k : TagKind) (nm : Str) (as : List Attr) (av : Str) (rest : Str) :
    ∀ (t an : Str) (m : Mach), (∀ d ∈ t, NmCh d ∧ d ≠ '=') → Ctl m .tagAttrName → Regs m k nm as an av →
      ∃ m', Reach o m (t ++ rest) m' rest ∧ Ctl m' .tagAttrName ∧ Regs m' k nm as (an ++ t) av ∧ m'.out = m.out := by
  intro t
  induction t with
  | nil => intro an m _ h hr; exact ⟨m, Reach.refl _ _, h, by simpa using hr, rfl⟩
  | cons c t ih =>
    intro an m hs h hr
    obtain ⟨m1, e1, c1, r1, o1⟩ := an_push o ho m c (t ++ rest) k nm as an av h hr (hs c (by simp)).1 (hs c (by simp)).2
    obtain ⟨m2, e2, c2, r2, o2⟩ := ih (an ++ [c]) m1 (fun d hd => hs d (by simp [hd])) c1 r1
    exact ⟨m2, Reach.cons e1 e2, c2, by simpa using r2, by rw [o2, o1]⟩

/-! ### one attribute: ` name="value"` -/

/-- text of one attribute as the serializer writes it -/
def attrText (a : Str × Str) : Str := ' ' :: a.1 ++ '=' :: '"' :: escape SerCfg.fixed true a.2 ++ ['"']

theorem attr_run (o : Opts) (ho : o.exactErrors = false) (m : Mach) (st : State)
    (hst : st = .tagName ∨ st = .tagAttrNameBefore)
    (k : TagKind) (nm : Str) (as : List Attr) (an av : Str) (a : Str × Str) (rest : Str)
    (h : Ctl m st) (hr : Regs m k nm as an av) (hav : an = [] → av = [])
    (hn : AttrNameLex a.1) (hv : ∀ c ∈ a.2, c ≠ '\x00') :
    ∃ m', Reach o m (attrText a ++ rest) m' rest ∧ Ctl m' .tagAttrNameBefore ∧
      Regs m' k nm (finAttr as an av) a.1 a.2 ∧ cvOut m'.out = cvOut m.out := by
  obtain ⟨c0, t, hn0, hc0, hc0', ht⟩ := hn
  have e0 : attrText a ++ rest = ' ' :: c0 :: (t ++ '=' :: '"' :: (escape SerCfg.fixed true a.2 ++ '"' :: rest)) := by
    simp [attrText, hn0]
  rw [e0]
  -- the blank
  obtain ⟨m1, e1, c1, r1, o1⟩ : ∃ m1, step o m (' ' :: c0 :: (t ++ '=' :: '"' :: (escape SerCfg.fixed true a.2 ++ '"' :: rest))) =
      .cont m1 (c0 :: (t ++ '=' :: '"' :: (escape SerCfg.fixed true a.2 ++ '"' :: rest))) ∧
      Ctl m1 .tagAttrNameBefore ∧ Regs m1 k nm as an av ∧ m1.out = m.out := by
    rcases hst with rfl | rfl
    · exact tagName_sp o ho m _ k nm as an av h hr
    · exact anb_sp o ho m _ k nm as an av h hr
  obtain ⟨m2, e2, c2, r2, o2⟩ := anb_first o ho m1 c0 _ k nm as an av c1 r1 hav hc0 hc0'
  obtain ⟨m3, e3, c3, r3, o3⟩ := attrName_run o ho k nm (finAttr as an av) [] _ t [c0] m2 ht c2 r2
  obtain ⟨m4, e4, c4, r4, o4⟩ := an_eq o ho m3 _ k nm (finAttr as an av) _ [] c3 r3
  obtain ⟨m5, e5, c5, r5, o5⟩ := avb_quote o ho m4 _ k nm (finAttr as an av) _ [] c4 r4
  obtain ⟨m6, e6, c6, r6, o6⟩ := val_run o ho ('"' :: rest) (okHead_cons _ _ (by decide) (by decide)) k nm
    (finAttr as an av) _ a.2 [] m5 hv c5 r5
  obtain ⟨m7, e7, c7, r7, o7⟩ := val_quote o ho m6 rest k nm (finAttr as an av) _ _ c6 r6
  refine ⟨m7, Reach.cons e1 (Reach.cons e2 (Reach.trans e3 (Reach.cons e4 (Reach.cons e5 (Reach.trans e6 (Reach.one e7)))))),
    c7, ?_, ?_⟩
  · rw [hn0]; simpa using r7
  · rw [o7, o6, o5, o4, o3, o2, o1]

/-! ### the attribute list -/

/-- the tag registers (attributes finished, pending name, pending value) after one more attribute -/
def attrsState (s : List Attr × Str × Str) (a : Str × Str) : List Attr × Str × Str :=
  (finAttr s.1 s.2.1 s.2.2, a.1, a.2)

/-- the text of an attribute list -/
def attrsText (ras : List (Str × Str)) : Str := (ras.map attrText).flatten

theorem attrs_run (o : Opts) (ho : o.exactErrors = false) (k : TagKind) (nm : Str) (rest : Str) :
    ∀ (ras : List (Str × Str)) (m : Mach) (st : State) (as : List Attr) (an av : Str),
      (st = .tagName ∨ st = .tagAttrNameBefore) → Ctl m st → Regs m k nm as an av → (an = [] → av = []) →
      (∀ a ∈ ras, AttrNameLex a.1 ∧ ∀ c ∈ a.2, c ≠ '\x00') →
      ∃ m' st', Reach o m (attrsText ras ++ rest) m' rest ∧ (st' = .tagName ∨ st' = .tagAttrNameBefore) ∧
        Ctl m' st' ∧
        Regs m' k nm (ras.foldl attrsState (as, an, av)).1 (ras.foldl attrsState (as, an, av)).2.1
          (ras.foldl attrsState (as, an, av)).2.2 ∧
        ((ras.foldl attrsState (as, an, av)).2.1 = [] → (ras.foldl attrsState (as, an, av)).2.2 = []) ∧
        cvOut m'.out = cvOut m.out := by
  intro ras
  induction ras with
  | nil =>
    intro m st as an av hst h hr hav _
    exact ⟨m, st, by simpa [attrsText] using Reach.refl _ _, hst, h, hr, hav, rfl⟩
  | cons a ras ih =>
    intro m st as an av hst h hr hav hl
    obtain ⟨hl1, hl2⟩ := hl a (by simp)
    obtain ⟨m1, r1, c1, g1, o1⟩ := attr_run o ho m st hst k nm as an av a (attrsText ras ++ rest) h hr hav hl1 hl2
    have hne : a.1 ≠ [] := by obtain ⟨c0, t, e, _⟩ := hl1; rw [e]; simp
    obtain ⟨m2, st2, r2, hs2, c2, g2, a2, o2⟩ := ih m1 .tagAttrNameBefore (finAttr as an av) a.1 a.2 (Or.inr rfl) c1 g1
      (fun e => absurd e hne) (fun b hb => hl b (by simp [hb]))
    refine ⟨m2, st2, ?_, hs2, c2, g2, a2, by rw [o2, o1]⟩
    simp only [attrsText, List.map_cons, List.flatten_cons, List.append_assoc]
    exact Reach.trans r1 r2

/-- finishing the pending attribute of the final registers = folding `finish_attribute` over all -/
theorem finAttr_fold (ras : List (Str × Str)) (as : List Attr) (an av : Str) :
    finAttr (ras.foldl attrsState (as, an, av)).1 (ras.foldl attrsState (as, an, av)).2.1
        (ras.foldl attrsState (as, an, av)).2.2 =
      ras.foldl (fun acc a => finAttr acc a.1 a.2) (finAttr as an av) := by
  induction ras generalizing as an av with
  | nil => rfl
  | cons a ras ih => simp only [List.foldl_cons]; exact ih _ _ _

/-- the attribute list of the emitted tag, from the raw attributes in source order -/
def finAll (ras : List (Str × Str)) : List Attr := ras.foldl (fun acc a => finAttr acc a.1 a.2) []

/-! ### tags -/

theorem start_tag_run (o : Opts) (ho : o.exactErrors = false) (m : Mach) (nm : Str) (ras : List (Str × Str))
    (rest : Str) (h : Ctl m .data) (hn : Clean m) (hnm : TagNameLex nm)
    (hl : ∀ a ∈ ras, AttrNameLex a.1 ∧ ∀ c ∈ a.2, c ≠ '\x00') :
    ∃ m', Reach o m ('<' :: nm ++ attrsText ras ++ '>' :: rest) m' rest ∧ Ctl m' .data ∧ Clean m' ∧
      cvOut m'.out = cvOut m.out ++
        [.tag ⟨.start, cvName (processQName nm), (finAll ras).map cvAttr⟩] := by
  obtain ⟨c0, t, rfl, hc0, hc0', ht⟩ := hnm
  obtain ⟨m1, e1, c1, n1, o1⟩ := data_lt o ho m (c0 :: t ++ attrsText ras ++ '>' :: rest) h hn
  obtain ⟨m2, e2, c2, r2, o2⟩ := tag_first o ho m1 c0 (t ++ attrsText ras ++ '>' :: rest) c1 n1 hc0 hc0'
  obtain ⟨m3, e3, c3, r3, o3⟩ := name_run o ho .tagName (Or.inl rfl) .startTag [] [] [] (attrsText ras ++ '>' :: rest)
    t [c0] m2 ht c2 r2
  obtain ⟨m4, st4, e4, hs4, c4, r4, a4, o4⟩ := attrs_run o ho .startTag ([c0] ++ t) ('>' :: rest) ras m3 .tagName [] [] []
    (Or.inl rfl) c3 r3 (fun _ => rfl) hl
  obtain ⟨m5, e5, c5, n5, o5⟩ := tag_emit o ho m4 rest st4 (by rcases hs4 with e | e <;> simp [e])
    .startTag _ _ _ _ c4 r4 a4 (Or.inl rfl)
  refine ⟨m5, ?_, c5, n5, ?_⟩
  · have e : '<' :: (c0 :: t) ++ attrsText ras ++ '>' :: rest =
        '<' :: c0 :: (t ++ (attrsText ras ++ '>' :: rest)) := by simp
    rw [e]
    refine Reach.cons (by simpa using e1) (Reach.cons (by simpa using e2) (Reach.trans e3 (Reach.trans e4 (Reach.one e5))))
  · rw [o5, o4, o3, o2, o1, finAttr_fold]
    simp [finAll, finAttr, cvKind]

theorem end_tag_run (o : Opts) (ho : o.exactErrors = false) (m : Mach) (nm : Str) (rest : Str)
    (h : Ctl m .data) (hn : Clean m) (hnm : TagNameLex nm) :
    ∃ m', Reach o m ('<' :: '/' :: nm ++ '>' :: rest) m' rest ∧ Ctl m' .data ∧ Clean m' ∧
      cvOut m'.out = cvOut m.out ++ [.tag ⟨.end_, cvName (processQName nm), []⟩] := by
  obtain ⟨c0, t, rfl, hc0, hc0', ht⟩ := hnm
  obtain ⟨m1, e1, c1, n1, o1⟩ := data_lt o ho m ('/' :: c0 :: t ++ '>' :: rest) h hn
  obtain ⟨m2, e2, c2, n2, o2⟩ := tag_slash o ho m1 (c0 :: t ++ '>' :: rest) c1 n1
  obtain ⟨m3, e3, c3, r3, o3⟩ := etag_first o ho m2 c0 (t ++ '>' :: rest) c2 n2 hc0 ⟨hc0'.2.2.1, hc0'.2.2.2⟩
  obtain ⟨m4, e4, c4, r4, o4⟩ := name_run o ho .endTagName (Or.inr rfl) .endTag [] [] [] ('>' :: rest)
    t [c0] m3 ht c3 r3
  obtain ⟨m5, e5, c5, n5, o5⟩ := tag_emit o ho m4 rest .endTagName (Or.inr (Or.inl rfl))
    .endTag _ _ _ _ c4 r4 (fun _ => rfl) (Or.inr ⟨rfl, by simp [finAttr]⟩)
  refine ⟨m5, ?_, c5, n5, ?_⟩
  · refine Reach.cons (by simpa using e1) (Reach.cons (by simpa using e2) (Reach.cons (by simpa using e3)
      (Reach.trans e4 (Reach.one e5))))
  · rw [o5, o4, o3, o2, o1]
    simp [finAttr, cvKind]

end

/-! ### comment -/

theorem comment_run (o : Opts) (ho : o.exactErrors = false) (m : Mach) (s : Str) (rest : Str)
    (h : Ctl m .data) (hn : Clean m) (hs : CommentLex s) :
    ∃ m', Reach o m ('<' :: '!' :: '-' :: '-' :: (s ++ '-' :: '-' :: '>' :: rest)) m' rest ∧ Ctl m' .data ∧ Clean m' ∧
      cvOut m'.out = cvOut m.out ++ [.comment s] := by
  obtain ⟨m1, e1, c1, n1, o1⟩ := data_lt o ho m _ h hn
  obtain ⟨m2, e2, c2, n2, o2⟩ := tag_bang o ho m1 _ c1 n1
  obtain ⟨m3, e3, c3, n3, k3, o3⟩ := md_comment o m2 (s ++ '-' :: '-' :: '>' :: rest) c2 n2
  obtain ⟨m4, e4, c4, n4, o4⟩ := comment_body o ho m3 s rest c3 n3 k3 hs
  exact ⟨m4, Reach.cons e1 (Reach.cons e2 (Reach.cons e3 e4)), c4, n4, by rw [o4, o3, o2, o1]⟩

/-! ### processing instruction -/

/-- a PI the tokenizer reads back unchanged from `<?target data?>`: non-empty target without blanks
and (after its first character) without `?`; data without `?` that does not start with a blank -/
def PiLex (t d : Str) : Prop :=
  (∃ c t', t = c :: t' ∧ PlainCh c ∧ NoWs3 c ∧ ∀ x ∈ t', PlainCh x ∧ NoWs3 x ∧ x ≠ '?') ∧
  (∀ x ∈ d, PlainCh x ∧ x ≠ '?') ∧ (∀ x, d.head? = some x → NoWs3 x)

theorem piTarget_run (o : Opts) (ho : o.exactErrors = false) (d : Str) (rest : Str) :
    ∀ (u t : Str) (m : Mach), (∀ x ∈ u, PlainCh x ∧ NoWs3 x ∧ x ≠ '?') → Ctl m .piTarget → Clean m → PiRegs m t d →
      ∃ m', Reach o m (u ++ rest) m' rest ∧ Ctl m' .piTarget ∧ Clean m' ∧ PiRegs m' (t ++ u) d ∧ m'.out = m.out := by
  intro u
  induction u with
  | nil => intro t m _ h hn hr; exact ⟨m, Reach.refl _ _, h, hn, by simpa using hr, rfl⟩
  | cons c u ih =>
    intro t m hs h hn hr
    obtain ⟨p1, p2, p3⟩ := hs c (by simp)
    obtain ⟨m1, e1, c1, n1, r1, o1⟩ := piTarget_push o ho m c (u ++ rest) t d h hn hr p1 p2 p3
    obtain ⟨m2, e2, c2, n2, r2, o2⟩ := ih (t ++ [c]) m1 (fun x hx => hs x (by simp [hx])) c1 n1 r1
    exact ⟨m2, Reach.cons e1 e2, c2, n2, by simpa using r2, by rw [o2, o1]⟩

theorem piData_run (o : Opts) (ho : o.exactErrors = false) (t : Str) (rest : Str) :
    ∀ (u d : Str) (m : Mach), (∀ x ∈ u, PlainCh x ∧ x ≠ '?') → Ctl m .piData → Clean m → PiRegs m t d →
      ∃ m', Reach o m (u ++ rest) m' rest ∧ Ctl m' .piData ∧ Clean m' ∧ PiRegs m' t (d ++ u) ∧ m'.out = m.out := by
  intro u
  induction u with
  | nil => intro d m _ h hn hr; exact ⟨m, Reach.refl _ _, h, hn, by simpa using hr, rfl⟩
  | cons c u ih =>
    intro d m hs h hn hr
    obtain ⟨p1, p3⟩ := hs c (by simp)
    obtain ⟨m1, e1, c1, n1, r1, o1⟩ := piData_push o ho m c (u ++ rest) t d h hn hr p1 p3
    obtain ⟨m2, e2, c2, n2, r2, o2⟩ := ih (d ++ [c]) m1 (fun x hx => hs x (by simp [hx])) c1 n1 r1
    exact ⟨m2, Reach.cons e1 e2, c2, n2, by simpa using r2, by rw [o2, o1]⟩

theorem pi_run (o : Opts) (ho : o.exactErrors = false) (m : Mach) (t d : Str) (rest : Str)
    (h : Ctl m .data) (hn : Clean m) (hl : PiLex t d) :
    ∃ m', Reach o m ('<' :: '?' :: (t ++ ' ' :: (d ++ '?' :: '>' :: rest))) m' rest ∧ Ctl m' .data ∧ Clean m' ∧
      cvOut m'.out = cvOut m.out ++ [.pi t d] := by
  obtain ⟨⟨c0, t', rfl, p1, p2, p3⟩, hd, hd0⟩ := hl
  obtain ⟨m1, e1, c1, n1, o1⟩ := data_lt o ho m _ h hn
  obtain ⟨m2, e2, c2, n2, o2⟩ := tag_q o ho m1 _ c1 n1
  obtain ⟨m3, e3, c3, n3, r3, o3⟩ := pi_first o ho m2 c0 (t' ++ ' ' :: (d ++ '?' :: '>' :: rest)) c2 n2 p1 p2
  obtain ⟨m4, e4, c4, n4, r4, o4⟩ := piTarget_run o ho [] (' ' :: (d ++ '?' :: '>' :: rest)) t' [c0] m3 p3 c3 n3 r3
  obtain ⟨m5, e5, c5, n5, r5, o5⟩ := piTarget_sp o ho m4 (d ++ '?' :: '>' :: rest) _ _ c4 n4 r4
  have pre : Reach o m ('<' :: '?' :: (c0 :: t' ++ ' ' :: (d ++ '?' :: '>' :: rest))) m5 (d ++ '?' :: '>' :: rest) :=
    Reach.cons e1 (Reach.cons e2 (Reach.cons (by simpa using e3) (Reach.trans e4 (Reach.one e5))))
  have oo : m5.out = m.out := by rw [o5, o4, o3, o2, o1]
  cases d with
  | nil =>
    obtain ⟨m6, e6, n6, o6, h6⟩ := piTargetAfter_char o ho m5 '?' ('>' :: rest) _ _ c5 n5 r5
      ⟨by decide, by decide⟩ ⟨by decide, by decide, by decide⟩
    rcases h6 with ⟨_, c6, r6⟩ | ⟨hne, _⟩
    · obtain ⟨m7, e7, c7, n7, o7⟩ := piAfter_gt o ho m6 rest _ _ c6 n6 r6
      refine ⟨m7, Reach.trans pre (Reach.trans e6 (Reach.one e7)), c7, n7, ?_⟩
      rw [o7, cvOut_cons, o6, oo]; rfl
    · exact absurd rfl hne
  | cons x d' =>
    obtain ⟨q1, q3⟩ := hd x (by simp)
    have q2 := hd0 x rfl
    obtain ⟨m6, e6, n6, o6, h6⟩ := piTargetAfter_char o ho m5 x (d' ++ '?' :: '>' :: rest) _ _ c5 n5 r5 q1 q2
    rcases h6 with ⟨he, _⟩ | ⟨_, c6, r6⟩
    · exact absurd he q3
    · obtain ⟨m7, e7, c7, n7, r7, o7⟩ := piData_run o ho _ ('?' :: '>' :: rest) d' _ m6
        (fun y hy => hd y (by simp [hy])) c6 n6 r6
      obtain ⟨m8, e8, c8, n8, r8, o8⟩ := piData_q o ho m7 ('>' :: rest) _ _ c7 n7 r7
      obtain ⟨m9, e9, c9, n9, o9⟩ := piAfter_gt o ho m8 rest _ _ c8 n8 r8
      refine ⟨m9, Reach.trans pre (Reach.trans (by simpa using e6) (Reach.trans e7 (Reach.cons e8 (Reach.one e9)))),
        c9, n9, ?_⟩
      rw [o9, cvOut_cons, o8, o7, o6, oo]; rfl

/-! ### doctype -/

theorem dn_run (o : Opts) (ho : o.exactErrors = false) (rest : Str) :
    ∀ (u n : Str) (m : Mach), (∀ x ∈ u, DtCh x) → Ctl m .doctypeName → m.attrName = [] → m.attrValue = [] →
      m.doctype = { name := some n } →
      ∃ m', Reach o m (u ++ rest) m' rest ∧ Ctl m' .doctypeName ∧ m'.attrName = [] ∧ m'.attrValue = [] ∧
        m'.doctype = { name := some (n ++ u) } ∧ m'.out = m.out := by
  intro u
  induction u with
  | nil => intro n m _ h a1 a2 a3; exact ⟨m, Reach.refl _ _, h, a1, a2, by simpa using a3, rfl⟩
  | cons c u ih =>
    intro n m hs h a1 a2 a3
    obtain ⟨m1, e1, c1, b1, b2, b3, o1⟩ := dn_push o ho m c (u ++ rest) n h a1 a2 a3 (hs c (by simp))
    obtain ⟨m2, e2, c2, d1, d2, d3, o2⟩ := ih (n ++ [c]) m1 (fun x hx => hs x (by simp [hx])) c1 b1 b2 b3
    exact ⟨m2, Reach.cons e1 e2, c2, d1, d2, by simpa using d3, by rw [o2, o1]⟩

theorem doctype_run (o : Opts) (ho : o.exactErrors = false) (m : Mach) (n : Str) (rest : Str)
    (h : Ctl m .data) (hn : Clean m) (hl : ∀ x ∈ n, DtCh x) :
    ∃ m', Reach o m ('<' :: '!' :: 'D' :: 'O' :: 'C' :: 'T' :: 'Y' :: 'P' :: 'E' :: ' ' :: (n ++ '>' :: rest)) m' rest ∧
      Ctl m' .data ∧ Clean m' ∧
      cvOut m'.out = cvOut m.out ++ [.doctype (if n = [] then none else some n) none none] := by
  obtain ⟨m1, e1, c1, n1, o1⟩ := data_lt o ho m _ h hn
  obtain ⟨m2, e2, c2, n2, o2⟩ := tag_bang o ho m1 _ c1 n1
  obtain ⟨m3, e3, c3, n3, o3⟩ := md_doctype o m2 (' ' :: (n ++ '>' :: rest)) c2 n2
  obtain ⟨m4, e4, c4, n4, o4⟩ := doctype_sp o ho m3 (n ++ '>' :: rest) c3 n3
  have pre := Reach.cons e1 (Reach.cons e2 (Reach.cons e3 (Reach.one e4)))
  have oo : m4.out = m.out := by rw [o4, o3, o2, o1]
  cases n with
  | nil =>
    obtain ⟨m5, e5, c5, n5, o5⟩ := bdn_gt o ho m4 rest c4 n4
    exact ⟨m5, Reach.trans pre (Reach.one e5), c5, n5, by rw [o5, oo]; rfl⟩
  | cons x n' =>
    obtain ⟨m5, e5, c5, a1, a2, a3, o5⟩ := bdn_first o ho m4 x (n' ++ '>' :: rest) c4 n4 (hl x (by simp))
    obtain ⟨m6, e6, c6, b1, b2, b3, o6⟩ := dn_run o ho ('>' :: rest) n' [x] m5 (fun y hy => hl y (by simp [hy])) c5 a1 a2 a3
    obtain ⟨m7, e7, c7, n7, o7⟩ := dn_gt o ho m6 rest _ c6 b1 b2 b3
    refine ⟨m7, Reach.trans pre (Reach.cons (by simpa using e5) (Reach.trans e6 (Reach.one e7))), c7, n7, ?_⟩
    rw [o7, cvOut_cons, o6, o5, oo]; simp [cvTok]

/-! ## name splitting and the attribute step -/

theorem utf8Len_eq (s : Str) : utf8Len s = Model.XmlTB.utf8Len s := by
  have : ∀ (s : Str) (a : Nat), s.foldl (fun a c => a + c.utf8Size) a = a + (s.map Char.utf8Size).sum := by
    intro s
    induction s with
    | nil => intro a; simp
    | cons c t ih => intro a; simp only [List.foldl_cons, List.map_cons, List.sum_cons, ih]; omega
  unfold utf8Len Model.XmlTB.utf8Len
  rw [this]; simp

theorem qnameRun_afterColon (l : Str) : ∀ (i n v : Nat), n = i + l.length →
    qnameRun n .afterColon i (some v) l = Model.XmlTB.afterColon v l := by
  induction l with
  | nil => intro i n v _; rfl
  | cons c rest ih =>
    intro i n v hn
    simp only [qnameRun, Model.XmlTB.afterColon]
    by_cases hc : c = ':'
    · simp [hc]
    · simp only [hc, if_false]
      cases rest with
      | nil =>
        have : ¬ (i + 1 < n) := by simp at hn; omega
        simp [this, Model.XmlTB.afterColon]
      | cons d r =>
        have : i + 1 < n := by simp at hn; omega
        simp only [this, if_true]
        exact ih (i + 1) n v (by simp at hn ⊢; omega)

theorem qnameRun_inName (l : Str) : ∀ (i n : Nat), n = i + l.length →
    qnameRun n .inName i none l = Model.XmlTB.inName i l := by
  induction l with
  | nil => intro i n _; rfl
  | cons c rest ih =>
    intro i n hn
    simp only [qnameRun, Model.XmlTB.inName]
    cases rest with
    | nil =>
      have : ¬ (i + 1 < n) := by simp at hn; omega
      simp [this, Model.XmlTB.inName]
    | cons d r =>
      have hlt : i + 1 < n := by simp at hn; omega
      by_cases hc : c = ':'
      · simp only [hc, hlt, and_self, if_true, ne_eq, reduceCtorEq, not_false_eq_true]
        exact qnameRun_afterColon (d :: r) (i + 1) n i (by simp at hn ⊢; omega)
      · simp only [hc, false_and, if_false, hlt, if_true]
        exact ih (i + 1) n (by simp at hn ⊢; omega)

theorem qnameRun_eq (s : Str) : qnameRun s.length .beforeName 0 none s = Model.XmlTB.qnameRun s := by
  cases s with
  | nil => rfl
  | cons c rest =>
    simp only [qnameRun, Model.XmlTB.qnameRun]
    by_cases hc : c = ':'
    · simp [hc]
    · simp only [hc, if_false]
      cases rest with
      | nil => simp [Model.XmlTB.inName]
      | cons d r =>
        have : 0 + 1 < (c :: d :: r).length := by simp
        simp only [this, if_true]
        exact qnameRun_inName (d :: r) 1 _ (by simp; omega)

/-- `process_qname` of the tokenizer model = `process_qname` of the tree-builder package -/
theorem cvName_processQName (s : Str) : cvName (processQName s) = Model.XmlTB.splitQName s := by
  unfold processQName Model.XmlTB.splitQName
  rw [utf8Len_eq, qnameRun_eq]
  generalize (if Model.XmlTB.utf8Len s < 3 then none else Model.XmlTB.qnameRun s) = r
  cases r <;> rfl

theorem cvName_inj (a b : QName) : cvName a = cvName b ↔ a = b := by
  cases a; cases b; simp [cvName]

theorem any_name (as : List Attr) (q : QName) :
    as.any (fun a => a.name == q) = (as.map cvAttr).any (fun b => b.name == cvName q) := by
  induction as with
  | nil => rfl
  | cons a t ih =>
    simp only [List.any_cons, List.map_cons, ih]
    congr 1
    have : (cvAttr a).name = cvName a.name := rfl
    rw [this]
    by_cases h : a.name = q
    · rw [h]; simp
    · have h' : cvName a.name ≠ cvName q := fun e => h ((cvName_inj _ _).mp e)
      rw [beq_eq_false_iff_ne.mpr h, beq_eq_false_iff_ne.mpr h']

/-- `finish_attribute` of the tokenizer model = the tree-builder package's (fixed configuration) -/
theorem finAttr_eq (as : List Attr) (n v : Str) :
    (finAttr as n v).map cvAttr =
      Model.XmlTB.finishAttribute Model.XmlTB.TokCfg.fixed (as.map cvAttr) ⟨n, v⟩ := by
  unfold finAttr Model.XmlTB.finishAttribute
  by_cases h1 : n = []
  · simp [h1]
  · have h1' : n.isEmpty = false := by cases n <;> simp_all
    simp only [h1', Bool.false_eq_true, if_false, h1]
    unfold Model.XmlTB.isDup
    simp only [Model.XmlTB.TokCfg.fixed, if_true]
    rw [any_name, cvName_processQName]
    split
    · rfl
    · unfold Model.XmlTB.pushAttr Model.XmlTB.isDeclName
      have e : (processQName n).pfx = (Model.XmlTB.splitQName n).pfx := by rw [← cvName_processQName]; rfl
      have e' : (processQName n).loc = (Model.XmlTB.splitQName n).loc := by rw [← cvName_processQName]; rfl
      have e'' : cvAttr ⟨processQName n, v⟩ = ⟨Model.XmlTB.splitQName n, v⟩ := by
        simp [cvAttr, cvName_processQName]
      simp only [e, e', Bool.not_true, Bool.false_or]
      have hx : xmlnsName = Model.XmlTB.sXmlns := rfl
      rw [hx]
      have hb : ((Model.XmlTB.splitQName n).pfx.isNone && (Model.XmlTB.splitQName n).loc == Model.XmlTB.sXmlns ||
          (Model.XmlTB.splitQName n).pfx == some Model.XmlTB.sXmlns) =
          ((Model.XmlTB.splitQName n).loc == Model.XmlTB.sXmlns && (Model.XmlTB.splitQName n).pfx == none ||
          (Model.XmlTB.splitQName n).pfx == some Model.XmlTB.sXmlns) := by
        cases (Model.XmlTB.splitQName n).pfx <;> simp [Bool.and_comm]
      rw [hb]
      split
      · simp [e'']
      · simp [e'']

/-- the attribute list of the tag the tokenizer model emits = `XmlTB.tagAttrs` of the raw attributes -/
theorem finAll_eq (ras : List (Str × Str)) :
    (finAll ras).map cvAttr =
      Model.XmlTB.tagAttrs Model.XmlTB.TokCfg.fixed (ras.map (fun a => ⟨a.1, a.2⟩)) := by
  have : ∀ (ras : List (Str × Str)) (acc : List Attr),
      (ras.foldl (fun acc a => finAttr acc a.1 a.2) acc).map cvAttr =
        (ras.map (fun a => (⟨a.1, a.2⟩ : Model.XmlTB.RawAttr))).foldl
          (Model.XmlTB.finishAttribute Model.XmlTB.TokCfg.fixed) (acc.map cvAttr) := by
    intro ras
    induction ras with
    | nil => intro acc; rfl
    | cons a t ih => intro acc; simp only [List.foldl_cons, List.map_cons, ih, finAttr_eq]
  exact this ras []

end H5V.Lemmas.XmlRT
