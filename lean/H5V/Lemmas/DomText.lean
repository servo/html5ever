import H5V.Lemmas.DomOps
/-! "No two adjacent text siblings" as a check on a child list (`noAdj`), with `lastT` / `headT` for the seams of `++`, `take` and `drop`. -/
namespace H5V.Lemmas.Dom
open H5V.Model.Dom

/-! ### "no two adjacent text siblings" on lists -/

/-- no two consecutive entries both satisfy `isT` -/
def noAdj (isT : Id → Bool) : List Id → Bool
  | a :: b :: t => !(isT a && isT b) && noAdj isT (b :: t)
  | _ => true

def lastT (isT : Id → Bool) (l : List Id) : Bool := match l.getLast? with | some x => isT x | none => false
def headT (isT : Id → Bool) (l : List Id) : Bool := match l.head? with | some x => isT x | none => false

theorem noAdj_cons (isT : Id → Bool) (a : Id) (l : List Id) :
    noAdj isT (a :: l) = (!(isT a && headT isT l) && noAdj isT l) := by
  cases l with
  | nil => simp [noAdj, headT]
  | cons b t => simp [noAdj, headT]

theorem lastT_cons_cons (isT : Id → Bool) (a b : Id) (t : List Id) :
    lastT isT (a :: b :: t) = lastT isT (b :: t) := by
  simp [lastT, List.getLast?_cons_cons]

theorem noAdj_append (isT : Id → Bool) : ∀ (l1 l2 : List Id),
    noAdj isT (l1 ++ l2) = (noAdj isT l1 && noAdj isT l2 && !(lastT isT l1 && headT isT l2)) := by
  intro l1
  induction l1 with
  | nil => intro l2; simp [noAdj, lastT]
  | cons a t ih =>
    intro l2
    cases t with
    | nil =>
      simp only [List.cons_append, List.nil_append]
      rw [noAdj_cons]
      simp [noAdj, lastT, Bool.and_comm]
    | cons b t' =>
      have := ih l2
      simp only [List.cons_append] at this ⊢
      rw [noAdj_cons isT a (b :: (t' ++ l2)), this, noAdj_cons isT a (b :: t'), lastT_cons_cons]
      simp only [headT, List.head?_cons]
      cases isT a <;> cases isT b <;> simp

theorem noAdj_congr {isT isT' : Id → Bool} {l : List Id} (h : ∀ x ∈ l, isT' x = isT x) :
    noAdj isT' l = noAdj isT l := by
  induction l with
  | nil => rfl
  | cons a t ih =>
    cases t with
    | nil => rfl
    | cons b t' =>
      simp only [noAdj]
      rw [h a (by simp), h b (by simp), ih (fun x hx => h x (by simp [hx]))]

theorem lastT_congr {isT isT' : Id → Bool} {l : List Id} (h : ∀ x ∈ l, isT' x = isT x) :
    lastT isT' l = lastT isT l := by
  unfold lastT
  cases hl : l.getLast? with
  | none => rfl
  | some x => exact h x (List.mem_of_getLast? hl)

theorem lastT_append_singleton (isT : Id → Bool) (l : List Id) (x : Id) : lastT isT (l ++ [x]) = isT x := by
  simp [lastT]

theorem lastT_take {isT : Id → Bool} {l : List Id} {i : Nat} {x : Id} (hi : 0 < i) (hx : l[i - 1]? = some x) :
    lastT isT (l.take i) = isT x := by
  unfold lastT
  have hlen : i - 1 < l.length := by
    by_cases h : i - 1 < l.length
    · exact h
    · rw [List.getElem?_eq_none (Nat.le_of_not_lt h)] at hx; cases hx
  have : (l.take i).getLast? = some x := by
    rw [List.getLast?_eq_getElem?, List.length_take]
    have : min i l.length - 1 = i - 1 := by omega
    rw [this, List.getElem?_take]
    simp [hx]; omega
  rw [this]

theorem noAdj_take_drop {isT : Id → Bool} {l : List Id} (h : noAdj isT l = true) (i : Nat) :
    noAdj isT (l.take i) = true ∧ noAdj isT (l.drop i) = true := by
  have := noAdj_append isT (l.take i) (l.drop i)
  rw [List.take_append_drop, h] at this
  simp only [Bool.true_eq, Bool.and_eq_true] at this
  exact ⟨this.1.1, this.1.2⟩

end H5V.Lemmas.Dom
