import H5V.Lemmas.HtmlTBSkelAdjDef
/-!
C06, "no two adjacent text siblings": the invariant `AdjD` under the effects of the sink
operations on child lists (a node inserted into a child list, a fresh node inserted, a node taken out,
a child list moved to an empty element) and under pushes onto the stack.
-/
namespace H5V.Props.C06
open H5V.Model.Dom hiding Str
open H5V.Model.HtmlTB hiding Str
open H5V.Lemmas.Dom

/-! ### lists -/

theorem mid_split {a b l1 l2 : List Id} {c e : Id} (h : a ++ c :: b = l1 ++ e :: l2) :
    (l1 = a ∧ e = c ∧ l2 = b) ∨ (∃ a2, a = l1 ++ e :: a2 ∧ l2 = a2 ++ c :: b) ∨
      (∃ b1, b = b1 ++ e :: l2 ∧ l1 = a ++ c :: b1) := by
  rcases List.append_eq_append_iff.mp h with ⟨x, h1, h2⟩ | ⟨x, h1, h2⟩
  · -- l1 = a ++ x, c :: b = x ++ e :: l2
    cases x with
    | nil => simp at h1 h2; exact Or.inl ⟨h1, h2.1.symm, h2.2.symm⟩
    | cons z x' =>
      simp only [List.cons_append, List.cons.injEq] at h2
      exact Or.inr (Or.inr ⟨x', h2.2, by rw [h1, h2.1]⟩)
  · -- a = l1 ++ x, e :: l2 = x ++ c :: b
    cases x with
    | nil => simp at h1 h2; exact Or.inl ⟨h1.symm, h2.1, h2.2⟩
    | cons z x' =>
      simp only [List.cons_append, List.cons.injEq] at h2
      exact Or.inr (Or.inl ⟨x', by rw [h1, h2.1], h2.2⟩)

theorem split2 {a b l1 l2 : List Id} {e : Id} (h : a ++ b = l1 ++ e :: l2) :
    (∃ a2, a = l1 ++ e :: a2 ∧ l2 = a2 ++ b) ∨ (∃ b1, b = b1 ++ e :: l2 ∧ l1 = a ++ b1) := by
  rcases List.append_eq_append_iff.mp h with ⟨x, h1, h2⟩ | ⟨x, h1, h2⟩
  · exact Or.inr ⟨x, h2, h1⟩
  · cases x with
    | nil => simp at h1 h2; exact Or.inr ⟨[], by simp [h2], by simp [h1]⟩
    | cons z x' =>
      simp only [List.cons_append, List.cons.injEq] at h2
      exact Or.inl ⟨x', by rw [h1, h2.1], h2.2⟩

theorem headT_append_ne {isT : Id → Bool} {a b : List Id} (h : a ≠ []) : headT isT (a ++ b) = headT isT a := by
  cases a with
  | nil => exact absurd rfl h
  | cons x t => rfl

/-- a pair not involving `c` survives the removal of `c` -/
theorem before_drop_mid {a b : List Id} {c x y : Id} (h : Before (a ++ c :: b) x y) (hx : x ≠ c) (hy : y ≠ c) :
    Before (a ++ b) x y := by
  unfold Before at h ⊢
  have h1 := h.filter (fun z => z != c)
  have hx' : (x != c) = true := by simpa using hx
  have hy' : (y != c) = true := by simpa using hy
  have e1 : List.filter (fun z => z != c) [x, y] = [x, y] := by
    simp [List.filter, hx', hy']
  rw [e1] at h1
  refine h1.trans ?_
  rw [List.filter_append, List.filter_cons]
  simp only [bne_self_eq_false, Bool.false_eq_true, if_false]
  exact List.Sublist.append (List.filter_sublist) (List.filter_sublist)

theorem before_mid_left : ∀ {a b : List Id} {c x : Id}, Before (a ++ c :: b) x c → x ≠ c → c ∉ b → x ∈ a
  | [], b, c, x, h, hx, hb => by
    unfold Before at h
    simp only [List.nil_append] at h
    cases h with
    | cons _ h' => exact absurd (h'.subset (by simp)) hb
    | cons_cons _ h' => exact absurd rfl hx
  | z :: a', b, c, x, h, hx, hb => by
    unfold Before at h
    simp only [List.cons_append] at h
    cases h with
    | cons _ h' => exact List.mem_cons_of_mem _ (before_mid_left h' hx hb)
    | cons_cons _ h' => exact List.mem_cons_self

theorem before_mid_right : ∀ {a b : List Id} {c y : Id}, Before (a ++ c :: b) c y → y ≠ c → c ∉ a → y ∈ b
  | [], b, c, y, h, hy, _ => by
    unfold Before at h
    simp only [List.nil_append] at h
    cases h with
    | cons _ h' => exact h'.subset (by simp)
    | cons_cons _ h' => exact h'.subset (by simp)
  | z :: a', b, c, y, h, hy, ha => by
    unfold Before at h
    simp only [List.cons_append] at h
    cases h with
    | cons _ h' => exact before_mid_right h' hy (fun hm => ha (List.mem_cons_of_mem _ hm))
    | cons_cons _ h' => exact absurd List.mem_cons_self ha

/-! ### names and flags depend on the data only -/

theorem nm_of_data {d d' : Dom} {x : Id} (h : d'.dataOf x = d.dataOf x) : nm d' x = nm d x := by
  unfold nm; rw [h]

theorem tc_of_data {d d' : Dom} {x : Id} (h : d'.dataOf x = d.dataOf x) :
    d'.templateContentsOf x = d.templateContentsOf x := by
  unfold Dom.templateContentsOf; rw [h]


theorem noAdj_remove_mid {isT : Id → Bool} {a b : List Id} {t : Id} (h : noAdj isT (a ++ t :: b) = true)
    (hb : headT isT b = false) : noAdj isT (a ++ b) = true := by
  rw [noAdj_append] at h ⊢
  rw [noAdj_cons] at h
  simp only [Bool.and_eq_true, Bool.not_eq_true', Bool.and_eq_false_iff] at h ⊢
  exact ⟨⟨h.1.1, h.1.2.2⟩, Or.inr hb⟩

/-! ### a node that is in no child list is put into one -/

/-- `c` may be old or new, text or not.  If it is text, its new neighbours are not (`hok`) and the one
before it is not an open element that must not be followed by text (`cPrev`); if it is an open
element, `cOL` … `cTB2` are what the clauses about open elements ask of its new place. -/
theorem AdjD.insert {d d' : Dom} {O : List Id} {P c : Id} {a b : List Id} (h : AdjD d O)
    (hP : d.childrenOf P = a ++ b)
    (hch : ∀ x, d'.childrenOf x = if x = P then a ++ c :: b else d.childrenOf x)
    (hpar : ∀ x, d'.parentOf x = if x = c then some P else d.parentOf x)
    (hd : ∀ x, x ≠ c ∨ x ∈ O → d'.dataOf x = d.dataOf x)
    (hcn : ∀ Q, c ∉ d.childrenOf Q)
    (hok : d'.isText c = true → lastT d.isText a = false ∧ headT d.isText b = false)
    (cPrev : d'.isText c = true → ∀ a' p, a = a' ++ [p] → p ∈ O → exm (nm d p) = false → False)
    (cOL : c ∈ O → exm (nm d c) = false → headT d.isText b = false)
    (cPB : c ∈ O → P ∈ O → Before O P c)
    (cPBt : ∀ T, d.templateContentsOf T = some P → nm d T = hN "template" → c ∈ O → T ∈ O → Before O T c)
    (cTB1 : nm d c = hN "table" → c ∈ O → ∀ x ∈ a, x ∈ O → exm (nm d x) = false → Before O c x)
    (cTB2 : c ∈ O → exm (nm d c) = false → ∀ y ∈ b, y ∈ O → nm d y = hN "table" → Before O y c) :
    AdjD d' O := by
  have hnm : ∀ x, x ∈ O → nm d' x = nm d x := fun x hx => nm_of_data (hd x (Or.inr hx))
  have htx : ∀ x, x ≠ c → d'.isText x = d.isText x := fun x hx => isText_of_data (hd x (Or.inl hx))
  have htc : ∀ x, x ∈ O → d'.templateContentsOf x = d.templateContentsOf x := fun x hx =>
    tc_of_data (hd x (Or.inr hx))
  have hkc : ∀ Q x, x ∈ d.childrenOf Q → x ≠ c := fun Q x hx h0 => hcn Q (h0 ▸ hx)
  have hca : c ∉ a := fun hm => hcn P (by rw [hP]; exact List.mem_append_left _ hm)
  have hcb : c ∉ b := fun hm => hcn P (by rw [hP]; exact List.mem_append_right _ hm)
  have hmem : ∀ Q e, e ∈ d'.childrenOf Q → (Q = P ∧ e = c) ∨ e ∈ d.childrenOf Q := by
    intro Q e he
    rw [hch] at he
    by_cases hQ : Q = P
    · subst hQ
      simp only [if_true] at he
      rcases List.mem_append.mp he with h1 | h1
      · exact Or.inr (by rw [hP]; exact List.mem_append_left _ h1)
      · rcases List.mem_cons.mp h1 with rfl | h1
        · exact Or.inl ⟨rfl, rfl⟩
        · exact Or.inr (by rw [hP]; exact List.mem_append_right _ h1)
    · simp only [hQ, if_false] at he; exact Or.inr he
  have hcongL : ∀ l : List Id, (∀ x ∈ l, x ≠ c) → headT d'.isText l = headT d.isText l := by
    intro l hl
    unfold headT
    cases hh : l.head? with
    | none => rfl
    | some y => exact htx y (hl y (List.mem_of_head? hh))
  have hnd : (a ++ c :: b).Nodup := by
    have := h.nd P
    rw [hP, List.nodup_append] at this
    rw [List.nodup_append]
    refine ⟨this.1, List.nodup_cons.mpr ⟨hcb, this.2.1⟩, ?_⟩
    intro u hu v hv
    rcases List.mem_cons.mp hv with rfl | hv
    · rintro rfl; exact hca hu
    · exact this.2.2 u hu v hv
  refine ⟨fun Q => ?_, ?_, fun Q => ?_, ?_, ?_, ?_, ?_⟩
  · rw [hch]
    by_cases hQ : Q = P
    · subst hQ
      simp only [if_true]
      have hold := h.nat Q
      rw [hP] at hold
      have hxa : ∀ x ∈ a, d'.isText x = d.isText x := fun x hx => htx x (fun h0 => hca (h0 ▸ hx))
      have hxb : ∀ x ∈ b, d'.isText x = d.isText x := fun x hx => htx x (fun h0 => hcb (h0 ▸ hx))
      rw [noAdj_append] at hold ⊢
      rw [noAdj_cons, noAdj_congr hxa, noAdj_congr hxb, lastT_congr hxa,
        hcongL b (fun x hx h0 => hcb (h0 ▸ hx))]
      simp only [Bool.and_eq_true, Bool.not_eq_true', Bool.and_eq_false_iff] at hold ⊢
      have hh : headT d'.isText (c :: b) = d'.isText c := rfl
      rw [hh]
      cases hq : d'.isText c with
      | false => exact ⟨⟨hold.1.1, Or.inl rfl, hold.1.2⟩, Or.inr rfl⟩
      | true =>
        obtain ⟨h1, h2⟩ := hok hq
        exact ⟨⟨hold.1.1, Or.inr h2, hold.1.2⟩, Or.inl h1⟩
    · simp only [hQ, if_false]
      rw [noAdj_congr (fun x hx => htx x (hkc Q x hx))]; exact h.nat Q
  · intro Q e he
    rcases hmem Q e he with ⟨rfl, rfl⟩ | h1
    · rw [hpar]; simp
    · rw [hpar]; simp only [hkc Q e h1, if_false]; exact h.lk Q e h1
  · rw [hch]
    by_cases hQ : Q = P
    · subst hQ; simp only [if_true]; exact hnd
    · simp only [hQ, if_false]; exact h.nd Q
  · intro e he hx Q l1 l2 hc
    rw [hnm e he] at hx
    rw [hch] at hc
    by_cases hQ : Q = P
    · subst hQ
      simp only [if_true] at hc
      rcases mid_split hc with ⟨_, rfl, rfl⟩ | ⟨a2, ha, rfl⟩ | ⟨b1, hb, _⟩
      · rw [hcongL _ (fun x hx' h0 => hcb (h0 ▸ hx'))]; exact cOL he hx
      · cases a2 with
        | nil =>
          show headT d'.isText (c :: b) = false
          show d'.isText c = false
          cases hq : d'.isText c with
          | false => rfl
          | true => exact (cPrev hq l1 e (by rw [ha]) he hx).elim
        | cons z a2' =>
          have := h.ol e he hx Q l1 ((z :: a2') ++ b) (by rw [hP, ha]; simp)
          have hz : z ≠ c := fun h0 => hca (by rw [ha, ← h0]; simp)
          show d'.isText z = false
          rw [htx z hz]
          simpa [headT] using this
      · have := h.ol e he hx Q (a ++ b1) l2 (by rw [hP, hb]; simp)
        rw [hcongL l2 (fun x hx' h0 => hcb (by rw [hb, ← h0]; simp [hx']))]
        exact this
    · simp only [hQ, if_false] at hc
      rw [hcongL l2 (fun x hx' => hkc Q x (by rw [hc]; simp [hx']))]
      exact h.ol e he hx Q l1 l2 hc
  · intro Q e he heO hQ
    rcases hmem Q e he with ⟨rfl, rfl⟩ | h1
    · exact cPB heO hQ
    · exact h.pb Q e h1 heO hQ
  · intro T tc e htc' hT0 he heO hT
    rw [hnm T hT] at hT0
    rw [htc T hT] at htc'
    rcases hmem tc e he with ⟨rfl, rfl⟩ | h1
    · exact cPBt T htc' hT0 heO hT
    · exact h.pbt T tc e htc' hT0 h1 heO hT
  · intro Q x y hb hxO hyO hxx hyt
    rw [hnm x hxO] at hxx
    rw [hnm y hyO] at hyt
    rw [hch] at hb
    by_cases hQ : Q = P
    · subst hQ
      simp only [if_true] at hb
      by_cases hxc : x = c
      · subst hxc
        by_cases hyc : y = x
        · subst hyc; exact absurd hb (not_before_self hnd y)
        · exact cTB2 hxO hxx y (before_mid_right hb hyc hca) hyO hyt
      · by_cases hyc : y = c
        · subst hyc
          exact cTB1 hyt hyO x (before_mid_left hb hxc hcb) hxO hxx
        · exact h.tb Q x y (by rw [hP]; exact before_drop_mid hb hxc hyc) hxO hyO hxx hyt
    · simp only [hQ, if_false] at hb
      exact h.tb Q x y hb hxO hyO hxx hyt

/-- an existing, parentless, non-text node is put into a child list -/
theorem AdjD.insertNode {d d' : Dom} {O : List Id} {P c : Id} {a b : List Id} (h : AdjD d O)
    (hP : d.childrenOf P = a ++ b)
    (hch : ∀ x, d'.childrenOf x = if x = P then a ++ c :: b else d.childrenOf x)
    (hpar : ∀ x, d'.parentOf x = if x = c then some P else d.parentOf x)
    (hd : ∀ x, d'.dataOf x = d.dataOf x)
    (hcp : d.parentOf c = none) (hct : d.isText c = false)
    (cOL : c ∈ O → exm (nm d c) = false → headT d.isText b = false)
    (cPB : c ∈ O → P ∈ O → Before O P c)
    (cPBt : ∀ T, d.templateContentsOf T = some P → nm d T = hN "template" → c ∈ O → T ∈ O → Before O T c)
    (cTB1 : nm d c = hN "table" → c ∈ O → ∀ x ∈ a, x ∈ O → exm (nm d x) = false → Before O c x)
    (cTB2 : c ∈ O → exm (nm d c) = false → ∀ y ∈ b, y ∈ O → nm d y = hN "table" → Before O y c) :
    AdjD d' O := by
  have hnt : ¬ d'.isText c = true := by rw [isText_of_data (hd c), hct]; exact Bool.false_ne_true
  exact h.insert hP hch hpar (fun x _ => hd x)
    (fun Q hm => by have := h.lk Q c hm; rw [hcp] at this; cases this)
    (fun ht => absurd ht hnt) (fun ht => absurd ht hnt) cOL cPB cPBt cTB1 cTB2

/-- `c` is not open: no side conditions -/
theorem AdjD.insertNode_closed {d d' : Dom} {O : List Id} {P c : Id} {a b : List Id} (h : AdjD d O)
    (hP : d.childrenOf P = a ++ b)
    (hch : ∀ x, d'.childrenOf x = if x = P then a ++ c :: b else d.childrenOf x)
    (hpar : ∀ x, d'.parentOf x = if x = c then some P else d.parentOf x)
    (hd : ∀ x, d'.dataOf x = d.dataOf x)
    (hcp : d.parentOf c = none) (hct : d.isText c = false) (hc : c ∉ O) : AdjD d' O :=
  h.insertNode hP hch hpar hd hcp hct (fun h0 => absurd h0 hc) (fun h0 => absurd h0 hc)
    (fun _ _ _ h0 => absurd h0 hc) (fun _ h0 => absurd h0 hc) (fun h0 => absurd h0 hc)

/-- a fresh node (text, comment, …) is put into a child list -/
theorem AdjD.insertFresh {d d' : Dom} {O : List Id} {P : Id} {a b : List Id} {v : NodeData} (h : AdjD d O)
    (hkv : ∀ Q x, x ∈ d.childrenOf Q → x < d.size) (hO : ∀ e ∈ O, e < d.size)
    (hP : d.childrenOf P = a ++ b)
    (hch : ∀ x, d'.childrenOf x = if x = P then a ++ d.size :: b else d.childrenOf x)
    (hpar : ∀ x, d'.parentOf x = if x = d.size then some P else d.parentOf x)
    (hd : ∀ x, d'.dataOf x = if x = d.size then some v else d.dataOf x)
    (hok : d'.isText d.size = true → lastT d.isText a = false ∧ headT d.isText b = false)
    (cPrev : d'.isText d.size = true → ∀ a' p, a = a' ++ [p] → p ∈ O → exm (nm d p) = false → False) :
    AdjD d' O := by
  have hnO : d.size ∉ O := fun hm => Nat.lt_irrefl _ (hO _ hm)
  refine h.insert hP hch hpar (fun x hx => ?_) (fun Q hm => Nat.lt_irrefl _ (hkv Q _ hm)) hok cPrev
    (fun h0 => absurd h0 hnO) (fun h0 => absurd h0 hnO) (fun _ _ _ h0 => absurd h0 hnO)
    (fun _ h0 => absurd h0 hnO) (fun h0 => absurd h0 hnO)
  rw [hd]
  rcases hx with hx | hx
  · simp only [hx, if_false]
  · simp only [Nat.ne_of_lt (hO x hx), if_false]

/-! ### a node is taken out of its child list -/

theorem AdjD.remove {d d' : Dom} {O : List Id} {P t : Id} {a b : List Id} (h : AdjD d O)
    (hP : d.childrenOf P = a ++ t :: b)
    (hch : ∀ x, d'.childrenOf x = if x = P then a ++ b else d.childrenOf x)
    (hpar : ∀ x, d'.parentOf x = if x = t then none else d.parentOf x)
    (hd : ∀ x, d'.dataOf x = d.dataOf x)
    (cNext : headT d.isText b = false) : AdjD d' O := by
  have hnm : ∀ x, nm d' x = nm d x := fun x => nm_of_data (hd x)
  have htx : ∀ x, d'.isText x = d.isText x := fun x => isText_of_data (hd x)
  have htc : ∀ x, d'.templateContentsOf x = d.templateContentsOf x := fun x => tc_of_data (hd x)
  have hcong : ∀ l, headT d'.isText l = headT d.isText l := fun l => by
    unfold headT; cases l.head? <;> simp [htx]
  have hndP := h.nd P
  rw [hP] at hndP
  have hta : t ∉ a := fun hm => (List.nodup_append.mp hndP).2.2 t hm t (by simp) rfl
  have htb : t ∉ b := (List.nodup_cons.mp (List.nodup_append.mp hndP).2.1).1
  have hmem : ∀ Q e, e ∈ d'.childrenOf Q → e ∈ d.childrenOf Q ∧ e ≠ t := by
    intro Q e he
    rw [hch] at he
    by_cases hQ : Q = P
    · subst hQ
      simp only [if_true] at he
      rcases List.mem_append.mp he with h1 | h1
      · exact ⟨by rw [hP]; exact List.mem_append_left _ h1, fun h0 => hta (h0 ▸ h1)⟩
      · exact ⟨by rw [hP]; simp [h1], fun h0 => htb (h0 ▸ h1)⟩
    · simp only [hQ, if_false] at he
      refine ⟨he, ?_⟩
      rintro rfl
      have h1 := h.lk Q e he
      have h2 := h.lk P e (by rw [hP]; simp)
      rw [h1] at h2; cases h2; exact hQ rfl
  have hsub : ∀ Q, (d'.childrenOf Q).Sublist (d.childrenOf Q) := by
    intro Q
    rw [hch]
    by_cases hQ : Q = P
    · subst hQ
      simp only [if_true]
      rw [hP]
      exact List.Sublist.append (List.Sublist.refl _) (List.sublist_cons_self _ _)
    · simp only [hQ, if_false]; exact List.Sublist.refl _
  refine ⟨fun Q => ?_, ?_, fun Q => (hsub Q).nodup (h.nd Q), ?_, ?_, ?_, ?_⟩
  · rw [hch, noAdj_congr (fun x _ => htx x)]
    by_cases hQ : Q = P
    · subst hQ
      simp only [if_true]
      exact noAdj_remove_mid (by rw [← hP]; exact h.nat Q) cNext
    · simp only [hQ, if_false]; exact h.nat Q
  · intro Q e he
    obtain ⟨h1, h2⟩ := hmem Q e he
    rw [hpar]; simp only [h2, if_false]; exact h.lk Q e h1
  · intro e he hx Q l1 l2 hc
    rw [hnm] at hx
    rw [hcong]
    rw [hch] at hc
    by_cases hQ : Q = P
    · subst hQ
      simp only [if_true] at hc
      rcases split2 hc with ⟨a2, ha, rfl⟩ | ⟨b1, hb, hl1⟩
      · cases a2 with
        | nil => simpa using cNext
        | cons z a2' =>
          have := h.ol e he hx Q l1 ((z :: a2') ++ t :: b) (by rw [hP, ha]; simp)
          simpa [headT] using this
      · exact h.ol e he hx Q (a ++ t :: b1) l2 (by rw [hP, hb]; simp)
    · simp only [hQ, if_false] at hc
      exact h.ol e he hx Q l1 l2 hc
  · intro Q e he heO hQ
    exact h.pb Q e (hmem Q e he).1 heO hQ
  · intro T tc e htc' hT0 he heO hT
    rw [hnm] at hT0
    rw [htc] at htc'
    exact h.pbt T tc e htc' hT0 (hmem tc e he).1 heO hT
  · intro Q x y hb hxO hyO hxx hyt
    rw [hnm] at hxx hyt
    exact h.tb Q x y (hb.mono (hsub Q)) hxO hyO hxx hyt

/-! ### the children of `n` are moved to the childless, closed node `np` -/

theorem AdjD.reparent {d d' : Dom} {O : List Id} {n np : Id} (h : AdjD d O) (hne : n ≠ np)
    (hnp : d.childrenOf np = [])
    (hch : ∀ x, d'.childrenOf x = if x = n then [] else if x = np then d.childrenOf np ++ d.childrenOf n
      else d.childrenOf x)
    (hpar : ∀ x, d'.parentOf x = if x ∈ d.childrenOf n then some np else d.parentOf x)
    (hd : ∀ x, d'.dataOf x = d.dataOf x)
    (hO : np ∉ O) (hTc : ∀ T ∈ O, d.templateContentsOf T ≠ some np) : AdjD d' O := by
  have hnm : ∀ x, nm d' x = nm d x := fun x => nm_of_data (hd x)
  have htx : ∀ x, d'.isText x = d.isText x := fun x => isText_of_data (hd x)
  have htc : ∀ x, d'.templateContentsOf x = d.templateContentsOf x := fun x => tc_of_data (hd x)
  have hcong : ∀ l, headT d'.isText l = headT d.isText l := fun l => by
    unfold headT; cases l.head? <;> simp [htx]
  have hch' : ∀ x, d'.childrenOf x = if x = n then [] else if x = np then d.childrenOf n else d.childrenOf x := by
    intro x; rw [hch, hnp]; simp
  -- every new child list is an old one
  have hold : ∀ Q, d'.childrenOf Q = [] ∨ (Q = np ∧ d'.childrenOf Q = d.childrenOf n) ∨
      (Q ≠ n ∧ Q ≠ np ∧ d'.childrenOf Q = d.childrenOf Q) := by
    intro Q
    rw [hch']
    by_cases h1 : Q = n
    · left; simp [h1]
    · by_cases h2 : Q = np
      · right; left; simp [h2, Ne.symm hne]
      · right; right; simp [h1, h2]
  refine ⟨fun Q => ?_, ?_, fun Q => ?_, ?_, ?_, ?_, ?_⟩
  · rw [noAdj_congr (fun x _ => htx x)]
    rcases hold Q with h1 | ⟨_, h1⟩ | ⟨_, _, h1⟩
    · rw [h1]; rfl
    · rw [h1]; exact h.nat n
    · rw [h1]; exact h.nat Q
  · intro Q e he
    rcases hold Q with h1 | ⟨rfl, h1⟩ | ⟨hq1, hq2, h1⟩
    · rw [h1] at he; cases he
    · rw [h1] at he
      rw [hpar]; simp [he]
    · rw [h1] at he
      have hp := h.lk Q e he
      rw [hpar]
      by_cases hen : e ∈ d.childrenOf n
      · have := h.lk n e hen
        rw [hp] at this; cases this; exact absurd rfl hq1
      · simp only [hen, if_false]; exact hp
  · rcases hold Q with h1 | ⟨_, h1⟩ | ⟨_, _, h1⟩
    · rw [h1]; exact List.nodup_nil
    · rw [h1]; exact h.nd n
    · rw [h1]; exact h.nd Q
  · intro e he hx Q l1 l2 hc
    rw [hnm] at hx
    rw [hcong]
    rcases hold Q with h1 | ⟨_, h1⟩ | ⟨_, _, h1⟩
    · rw [h1] at hc; cases l1 <;> simp at hc
    · rw [h1] at hc; exact h.ol e he hx n l1 l2 hc
    · rw [h1] at hc; exact h.ol e he hx Q l1 l2 hc
  · intro Q e he heO hQ
    rcases hold Q with h1 | ⟨rfl, h1⟩ | ⟨_, _, h1⟩
    · rw [h1] at he; cases he
    · exact absurd hQ hO
    · rw [h1] at he; exact h.pb Q e he heO hQ
  · intro T tc e htc' hT0 he heO hT
    rw [hnm] at hT0
    rw [htc] at htc'
    rcases hold tc with h1 | ⟨rfl, h1⟩ | ⟨_, _, h1⟩
    · rw [h1] at he; cases he
    · exact absurd htc' (hTc T hT)
    · rw [h1] at he; exact h.pbt T tc e htc' hT0 he heO hT
  · intro Q x y hb hxO hyO hxx hyt
    rw [hnm] at hxx hyt
    rcases hold Q with h1 | ⟨_, h1⟩ | ⟨_, _, h1⟩
    · rw [h1] at hb; cases hb
    · rw [h1] at hb; exact h.tb n x y hb hxO hyO hxx hyt
    · rw [h1] at hb; exact h.tb Q x y hb hxO hyO hxx hyt

/-! ### an element is put on the stack (anywhere) -/

theorem mem_mid {pre post : List Id} {c x : Id} (h : x ∈ pre ++ c :: post) : x = c ∨ x ∈ pre ++ post := by
  simp only [List.mem_append, List.mem_cons] at h ⊢
  rcases h with h | h | h
  · exact Or.inr (Or.inl h)
  · exact Or.inl h
  · exact Or.inr (Or.inr h)

theorem AdjD.stackInsert {d : Dom} {pre post : List Id} {c : Id} (h : AdjD d (pre ++ post))
    (cOL : exm (nm d c) = false → ∀ P l1 l2, d.childrenOf P = l1 ++ c :: l2 → headT d.isText l2 = false)
    (cSelf : c ∉ d.childrenOf c)
    (cPar : ∀ P, c ∈ d.childrenOf P → P ∈ pre ++ post → P ∈ pre)
    (cKids : ∀ e ∈ d.childrenOf c, e ∈ pre ++ post → e ∈ post)
    (cParT : ∀ T tc, d.templateContentsOf T = some tc → nm d T = hN "template" → c ∈ d.childrenOf tc →
      T ∈ pre ++ post → T ∈ pre)
    (cTc : ∀ tc e, d.templateContentsOf c = some tc → nm d c = hN "template" → e ∈ d.childrenOf tc →
      (e ∈ pre ++ post → e ∈ post) ∧ e ≠ c)
    (cTBx : exm (nm d c) = false → ∀ P y, Before (d.childrenOf P) c y → y ∈ pre ++ post →
      nm d y = hN "table" → y ∈ pre)
    (cTBy : nm d c = hN "table" → ∀ P x, Before (d.childrenOf P) x c → x ∈ pre ++ post →
      exm (nm d x) = false → x ∈ post) :
    AdjD d (pre ++ c :: post) := by
  have hsub : (pre ++ post).Sublist (pre ++ c :: post) :=
    List.Sublist.append (List.Sublist.refl pre) (List.sublist_cons_self c post)
  refine ⟨h.nat, h.lk, h.nd, ?_, ?_, ?_, ?_⟩
  · intro e he hx P l1 l2 hc
    rcases mem_mid he with rfl | h1
    · exact cOL hx P l1 l2 hc
    · exact h.ol e h1 hx P l1 l2 hc
  · intro P e hc he hP
    rcases mem_mid he with rfl | h1
    · rcases mem_mid hP with rfl | h2
      · exact absurd hc cSelf
      · exact before_mid_pre (cPar P hc h2)
    · rcases mem_mid hP with rfl | h2
      · exact before_mid_post (cKids e hc h1)
      · exact (h.pb P e hc h1 h2).mono hsub
  · intro T tc e htc hT0 hc he hT
    rcases mem_mid hT with rfl | h2
    · obtain ⟨k1, k2⟩ := cTc tc e htc hT0 hc
      rcases mem_mid he with rfl | h1
      · exact absurd rfl k2
      · exact before_mid_post (k1 h1)
    · rcases mem_mid he with rfl | h1
      · exact before_mid_pre (cParT T tc htc hT0 hc h2)
      · exact (h.pbt T tc e htc hT0 hc h1 h2).mono hsub
  · intro P x y hb hxO hyO hxx hyt
    rcases mem_mid hyO with rfl | h2
    · rcases mem_mid hxO with rfl | h1
      · exact absurd hb (not_before_self (h.nd P) _)
      · exact before_mid_post (cTBy hyt P x hb h1 hxx)
    · rcases mem_mid hxO with rfl | h1
      · exact before_mid_pre (cTBx hxx P y hb h2 hyt)
      · exact (h.tb P x y hb h1 h2 hxx hyt).mono hsub

/-- a node in no child list, without children, is put on the stack -/
theorem AdjD.stackInsert_isolated {d : Dom} {pre post : List Id} {c : Id} (h : AdjD d (pre ++ post))
    (hno : ∀ Q, c ∉ d.childrenOf Q) (hkids : d.childrenOf c = [])
    (htc : ∀ tc, d.templateContentsOf c = some tc → d.childrenOf tc = []) : AdjD d (pre ++ c :: post) := by
  refine h.stackInsert ?_ (hno c) (fun P hc => absurd hc (hno P)) (by rw [hkids]; intro e he; cases he)
    (fun T tc _ _ hc => absurd hc (hno tc)) ?_ ?_ ?_
  · intro _ P l1 l2 hc
    exact absurd (by rw [hc]; simp) (hno P)
  · intro tc e h1 _ he
    rw [htc tc h1] at he; cases he
  · intro _ P y hb
    exact absurd hb.mem.1 (hno P)
  · intro _ P x hb
    exact absurd hb.mem.2 (hno P)

/-! ### an element is pushed onto the stack -/

theorem AdjD.push {d : Dom} {O : List Id} {c : Id} (h : AdjD d O)
    (cOL : exm (nm d c) = false → ∀ P l1 l2, d.childrenOf P = l1 ++ c :: l2 → headT d.isText l2 = false)
    (cSelf : c ∉ d.childrenOf c)
    (cKids : ∀ e ∈ d.childrenOf c, e ∈ O → False)
    (cTc : ∀ tc e, d.templateContentsOf c = some tc → e ∈ d.childrenOf tc → e ∈ O ++ [c] → False)
    (cTB : nm d c = hN "table" → ∀ P x, Before (d.childrenOf P) x c → x ∈ O → exm (nm d x) = false → False) :
    AdjD d (O ++ [c]) := by
  have h' : AdjD d (O ++ []) := by rw [List.append_nil]; exact h
  refine h'.stackInsert cOL cSelf (fun P _ hP => by simpa using hP)
    (fun e he heO => (cKids e he (by simpa using heO)).elim)
    (fun T tc _ _ _ hT => by simpa using hT) ?_ (fun _ P y _ hy _ => by simpa using hy)
    (fun hn P x hb hx hxx => (cTB hn P x hb (by simpa using hx) hxx).elim)
  intro tc e h1 _ he
  refine ⟨fun heO => (cTc tc e h1 he (List.mem_append_left _ (by simpa using heO))).elim, ?_⟩
  rintro rfl
  exact cTc tc e h1 he (by simp)

end H5V.Props.C06
