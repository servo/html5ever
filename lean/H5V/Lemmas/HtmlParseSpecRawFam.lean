import H5V.Lemmas.HtmlTokOptE
import H5V.Lemmas.HtmlTokOut
import H5V.Lemmas.HtmlTokTerm
import H5V.Lemmas.HtmlJointChunkTok
/-!
What the HTML tokenizer model delivers while the tree builder is in the "text" insertion mode.

* `step_form` / `step_one_tag` / `step_tag_form`: EVERY step delivers at most one tag token; it is the newest entry
  of the step apart from a pause marker, and the step result then has the `emit_current_tag` form.
* `step_textSt`: from a raw-text family state (or inside the end tag that leaves it) a step only delivers
  character tokens, parse errors, pause markers and at most one END tag; without a tag the machine is in a text
  state again.
* `eofLoop_textSt`, `eofLoop_no_tag`, `crEof_processCharRef_out`: the same for `Tokenizer::end`.

The traversals use one generic "the log grew by tokens satisfying `P`" relation `RF.Gr P m x`.
-/
namespace H5V.Lemmas.ParseSpec
open H5V.Model.HtmlTok

/-- raw text / RCDATA / script data and all their sub-states -/
def RawFam : State → Bool
  | .rawData _ | .rawLessThanSign _ | .rawEndTagOpen _ | .rawEndTagName _ | .scriptDataEscapeStart _
  | .scriptDataEscapeStartDash | .scriptDataEscapedDash _ | .scriptDataEscapedDashDash _
  | .scriptDataDoubleEscapeEnd => true
  | _ => false

/-- the states in which the current tag token is being completed (after its name) -/
def TagFam : State → Bool
  | .beforeAttributeName | .attributeName | .afterAttributeName | .beforeAttributeValue | .attributeValue _
  | .afterAttributeValueQuoted | .selfClosingStartTag => true
  | _ => false

def isRawEndTagName : State → Bool
  | .rawEndTagName _ => true
  | _ => false

/-- a pending character reference whose best match so far is a real entity (first code point non-zero; the
tokenizer only records matches `mt` with `mt.1 ≠ 0`) -/
def CrOk (cr : CharRefSt) : Prop := ∀ c1 c2, cr.nameMatch = some (c1, c2) → c1 ≠ 0

/-- invariant of every reachable machine: the pending character reference, if any, is `CrOk` -/
def CrInv (m : Mach) : Prop := ∀ cr, m.charRef = some cr → CrOk cr

/-- where the tokenizer can be while the tree builder is in the "text" insertion mode -/
def TextSt (m : Mach) : Prop :=
  ((RawFam m.state = true ∧ (isRawEndTagName m.state = true → m.tagKind = .endTag)) ∨
    (TagFam m.state = true ∧ m.tagKind = .endTag)) ∧ CrInv m

def isTagTok : Token → Bool
  | .tag _ => true
  | _ => false

def isPauseTok : Token → Bool
  | .pause _ => true
  | _ => false

/-- what may be delivered in the "text" insertion mode (EOF apart) -/
def AllowedInText : Token → Prop
  | .chars _ => True
  | .error _ => True
  | .pause _ => True
  | .tag t => t.kind = .endTag
  | _ => False

namespace RF

/-! ### lists with exactly one tag token -/

theorem tag_decomp_unique : ∀ {pre post a b : Out} {t0 t : Tag} {l0 l : Nat},
    (∀ p ∈ pre, isTagTok p.1 = false) → (∀ p ∈ post, isTagTok p.1 = false) →
    pre ++ (Token.tag t0, l0) :: post = a ++ (Token.tag t, l) :: b → a = pre ∧ t = t0 ∧ l = l0 ∧ b = post := by
  intro pre
  induction pre with
  | nil =>
    intro post a b t0 t l0 l _ hpost e
    cases a with
    | nil =>
      simp only [List.nil_append, List.cons.injEq, Prod.mk.injEq, Token.tag.injEq] at e
      exact ⟨rfl, e.1.1.symm, e.1.2.symm, e.2.symm⟩
    | cons x a' =>
      simp only [List.nil_append, List.cons_append, List.cons.injEq] at e
      have hm : (Token.tag t, l) ∈ post := by rw [e.2]; exact List.mem_append_right _ List.mem_cons_self
      have := hpost _ hm
      cases this
  | cons p pre' ih =>
    intro post a b t0 t l0 l hpre hpost e
    cases a with
    | nil =>
      simp only [List.nil_append, List.cons_append, List.cons.injEq] at e
      have := hpre p List.mem_cons_self
      rw [e.1] at this
      cases this
    | cons x a' =>
      simp only [List.cons_append, List.cons.injEq] at e
      obtain ⟨e1, e2⟩ := e
      obtain ⟨r1, r2, r3, r4⟩ := ih (fun q hq => hpre q (List.mem_cons_of_mem _ hq)) hpost e2
      exact ⟨by rw [r1, e1], r2, r3, r4⟩

/-! ### the log grows by tokens satisfying `P` -/

/-- the log of `x` is the log of `m` plus new entries whose tokens satisfy `P` -/
def Gr (P : Token → Prop) (m x : Mach) : Prop := ∃ new, x.out = new ++ m.out ∧ ∀ p ∈ new, P p.1

/-- `P` holds of parse errors and character tokens -/
class PC (P : Token → Prop) : Prop where
  err : ∀ s, P (.error s)
  chars : ∀ s, P (.chars s)

/-- `P` holds of the U+0000 token -/
class PN (P : Token → Prop) : Prop where
  nul : P .nullChar

/-- `P` holds of comments and DOCTYPEs -/
class PD (P : Token → Prop) : Prop where
  comment : ∀ s, P (.comment s)
  doctype : ∀ d, P (.doctype d)

/-- `P` holds of the end-of-file token -/
class PE (P : Token → Prop) : Prop where
  eof : P .eof

theorem Gr.refl (P : Token → Prop) (m : Mach) : Gr P m m := ⟨[], rfl, fun _ h => by cases h⟩

theorem Gr.trans {P : Token → Prop} {m x y : Mach} (h1 : Gr P m x) (h2 : Gr P x y) : Gr P m y := by
  obtain ⟨n1, e1, p1⟩ := h1
  obtain ⟨n2, e2, p2⟩ := h2
  refine ⟨n2 ++ n1, by rw [e2, e1, List.append_assoc], ?_⟩
  intro p hp
  rcases List.mem_append.mp hp with hp | hp
  · exact p2 p hp
  · exact p1 p hp

theorem Gr.mono {P Q : Token → Prop} (hpq : ∀ t, P t → Q t) {m x : Mach} (h : Gr P m x) : Gr Q m x := by
  obtain ⟨n, e, p⟩ := h
  exact ⟨n, e, fun q hq => hpq _ (p q hq)⟩

theorem Gr.of_out {P : Token → Prop} {m x y : Mach} (h : Gr P m x) (e : y.out = x.out) : Gr P m y := by
  obtain ⟨n, e1, p⟩ := h
  exact ⟨n, by rw [e, e1], p⟩

section
variable {P : Token → Prop} {m x : Mach}

theorem Gr_emit (h : Gr P m x) (t : Token) (ht : P t) : Gr P m (emit x t) := by
  obtain ⟨n, e, p⟩ := h
  refine ⟨(t, x.line) :: n, ?_, ?_⟩
  · show (t, x.line) :: x.out = _
    rw [e]; rfl
  · intro q hq
    rcases List.mem_cons.mp hq with rfl | hq
    · exact ht
    · exact p q hq

theorem Gr_emitErr [PC P] (h : Gr P m x) (s : String) : Gr P m (emitErr x s) := Gr_emit h _ (PC.err _)
theorem Gr_emitErrL [PC P] (h : Gr P m x) (s : Str) : Gr P m (emit x (.error s)) := Gr_emit h _ (PC.err _)
theorem Gr_emitChars [PC P] (h : Gr P m x) (s : Str) : Gr P m (emitChars x s) := Gr_emit h _ (PC.chars _)

theorem Gr_emitChar [PC P] [PN P] (h : Gr P m x) (c : Char) : Gr P m (emitChar x c) := by
  unfold emitChar; split
  · exact Gr_emit h _ PN.nul
  · exact Gr_emit h _ (PC.chars _)

theorem Gr_emitCharNe [PC P] (h : Gr P m x) (c : Char) (hc : c ≠ '\x00') : Gr P m (emitChar x c) := by
  unfold emitChar; split
  · rename_i e; exact absurd e hc
  · exact Gr_emit h _ (PC.chars _)

theorem Gr_badChar [PC P] (h : Gr P m x) (o : Opts) : Gr P m (badChar o x) := by
  unfold badChar; split
  · exact Gr_emitErr h _
  · exact Gr_emitErrL h _

theorem Gr_badEof [PC P] (h : Gr P m x) (o : Opts) : Gr P m (badEof o x) := by
  unfold badEof; split <;> exact Gr_emitErr h _

theorem Gr_to (h : Gr P m x) (s : State) : Gr P m (to s x) := h
theorem Gr_reconsumeTo (h : Gr P m x) (s : State) : Gr P m (reconsumeTo s x) := h
theorem Gr_discardTag (h : Gr P m x) : Gr P m (discardTag x) := h
theorem Gr_createTag (h : Gr P m x) (k : TagKind) (c : Char) : Gr P m (createTag k c x) := h
theorem Gr_pushTag (h : Gr P m x) (c : Char) : Gr P m (pushTag c x) := h
theorem Gr_pushTemp (h : Gr P m x) (c : Char) : Gr P m (pushTemp c x) := h
theorem Gr_clearTemp (h : Gr P m x) : Gr P m (clearTemp x) := h
theorem Gr_pushName (h : Gr P m x) (c : Char) : Gr P m (pushName c x) := h
theorem Gr_pushValue (h : Gr P m x) (c : Char) : Gr P m (pushValue c x) := h
theorem Gr_appendValue (h : Gr P m x) (s : Str) : Gr P m (appendValue s x) := h
theorem Gr_pushComment (h : Gr P m x) (c : Char) : Gr P m (pushComment c x) := h
theorem Gr_appendComment (h : Gr P m x) (s : String) : Gr P m (appendComment s x) := h
theorem Gr_clearComment (h : Gr P m x) : Gr P m (clearComment x) := h
theorem Gr_createDoctype (h : Gr P m x) : Gr P m (createDoctype x) := h
theorem Gr_pushDoctypeName (h : Gr P m x) (c : Char) : Gr P m (pushDoctypeName c x) := h
theorem Gr_pushDoctypeId (h : Gr P m x) (k : DoctypeIdKind) (c : Char) : Gr P m (pushDoctypeId k c x) := by
  cases k <;> exact h
theorem Gr_clearDoctypeId (h : Gr P m x) (k : DoctypeIdKind) : Gr P m (clearDoctypeId k x) := by
  cases k <;> exact h
theorem Gr_forceQuirks (h : Gr P m x) : Gr P m (forceQuirks x) := h
theorem Gr_takeTag (h : Gr P m x) : Gr P m (takeTag x) := h
theorem Gr_selfClosing (h : Gr P m x) : Gr P m { x with tagSelfClosing := true } := h
theorem Gr_setIgnoreLf (h : Gr P m x) (b : Bool) : Gr P m (x.setIgnoreLf b) := h
theorem Gr_setReconsume (h : Gr P m x) (b : Bool) : Gr P m (x.setReconsume b) := h
theorem Gr_setTempBuf (h : Gr P m x) (s : Str) : Gr P m (x.setTempBuf s) := h
theorem Gr_setCharRef (h : Gr P m x) (c : Option CharRefSt) : Gr P m (x.setCharRef c) := h
theorem Gr_setAtEof (h : Gr P m x) (b : Bool) : Gr P m (x.setAtEof b) := h
theorem Gr_setDiscardBom (h : Gr P m x) (b : Bool) : Gr P m (x.setDiscardBom b) := h
theorem Gr_bumpLine (h : Gr P m x) : Gr P m x.bumpLine := h
theorem Gr_setCurrentChar (h : Gr P m x) (c : Char) : Gr P m (x.setCurrentChar c) := h

theorem Gr_emitTempBuf [PC P] (h : Gr P m x) : Gr P m (emitTempBuf x) := by
  unfold emitTempBuf
  exact Gr_emitChars (x := { x with tempBuf := [] }) h _

theorem Gr_emitComment [PD P] (h : Gr P m x) : Gr P m (emitComment x) := by
  unfold emitComment
  exact Gr_emit (x := { x with comment := [] }) h _ (PD.comment _)

theorem Gr_emitDoctype [PD P] (h : Gr P m x) : Gr P m (emitDoctype x) := by
  unfold emitDoctype
  exact Gr_emit (x := { x with doctype := {} }) h _ (PD.doctype _)

theorem Gr_ite (c : Prop) [Decidable c] {a b : Mach} (ha : Gr P m a) (hb : Gr P m b) :
    Gr P m (if c then a else b) := by
  split <;> assumption

theorem Gr_finishAttribute [PC P] (h : Gr P m x) : Gr P m (finishAttribute x) := by
  unfold finishAttribute
  split
  · exact h
  · dsimp only
    split
    · exact Gr_emitErr (x := { x with attrName := [] }) h _
    · exact h

theorem Gr_createAttr [PC P] (h : Gr P m x) (c : Char) : Gr P m (createAttr c x) := by
  unfold createAttr
  exact Gr_finishAttribute h

theorem Gr_tagPrologue [PC P] (h : Gr P m x) : Gr P m (tagPrologue x) := by
  have h1 := Gr_finishAttribute h
  unfold tagPrologue
  dsimp only
  generalize finishAttribute x = y at h1
  split
  · exact h1
  · split
    · split
      · exact Gr_emitErr (Gr_emitErr h1 _) _
      · exact Gr_emitErr h1 _
    · split
      · exact Gr_emitErr h1 _
      · exact h1

theorem Gr_consumeCharRef (h : Gr P m x) : Gr P m (consumeCharRef x).1 := by
  unfold consumeCharRef
  split <;> exact h

theorem Gr_discardChar (h : Gr P m x) (inp : Str) : Gr P m (discardChar x inp).1 := by
  unfold discardChar; split <;> exact h

theorem Gr_numericErr [PC P] (h : Gr P m x) (o : Opts) (n : Nat) : Gr P m (numericErr o x n) := by
  unfold numericErr; split
  · exact Gr_emitErrL h _
  · exact Gr_emitErr h _

theorem Gr_nameErr [PC P] (h : Gr P m x) (o : Opts) (nb : Str) : Gr P m (nameErr o x nb) := by
  unfold nameErr; split
  · exact Gr_emitErrL h _
  · exact Gr_emitErr h _

end

/-! ### characters -/

theorem lal_src_ne {c cl : Char} (h : lowerAsciiLetter c = some cl) : c ≠ '\x00' := by
  intro e; subst e
  have : lowerAsciiLetter '\x00' = none := by decide
  rw [this] at h; cases h

theorem ws3_ne {c : Char} (h : (isWs c || decide (c = '/') || decide (c = '>')) = true) : c ≠ '\x00' := by
  intro e; subst e; revert h; decide

end RF

/-- close a goal `RF.Gr P m (helper (… m))` by chaining the helper lemmas; side goals `c ≠ '\x00'` (only when `P`
excludes the U+0000 token) are closed from the context -/
macro "rfg_chain" h:ident : tactic =>
  `(tactic| (repeat' (first
      | with_reducible exact $h
      | with_reducible apply RF.Gr_to | with_reducible apply RF.Gr_reconsumeTo | with_reducible apply RF.Gr_discardTag
      | with_reducible apply RF.Gr_createTag | with_reducible apply RF.Gr_pushTag
      | with_reducible apply RF.Gr_pushTemp | with_reducible apply RF.Gr_clearTemp | with_reducible apply RF.Gr_pushName
      | with_reducible apply RF.Gr_pushValue | with_reducible apply RF.Gr_appendValue
      | with_reducible apply RF.Gr_pushComment | with_reducible apply RF.Gr_appendComment
      | with_reducible apply RF.Gr_clearComment | with_reducible apply RF.Gr_createDoctype
      | with_reducible apply RF.Gr_pushDoctypeName | with_reducible apply RF.Gr_pushDoctypeId
      | with_reducible apply RF.Gr_clearDoctypeId | with_reducible apply RF.Gr_forceQuirks
      | with_reducible apply RF.Gr_emitChar | with_reducible apply RF.Gr_emitCharNe
      | with_reducible apply RF.Gr_emitChars | with_reducible apply RF.Gr_badChar
      | with_reducible apply RF.Gr_badEof | with_reducible apply RF.Gr_emitTempBuf
      | with_reducible apply RF.Gr_emitComment | with_reducible apply RF.Gr_emitDoctype
      | with_reducible apply RF.Gr_createAttr | with_reducible apply RF.Gr_finishAttribute
      | with_reducible apply RF.Gr_tagPrologue | with_reducible apply RF.Gr_takeTag
      | with_reducible apply RF.Gr_selfClosing | with_reducible apply RF.Gr_ite
      | with_reducible apply RF.Gr_setCurrentChar | with_reducible apply RF.Gr_setIgnoreLf
      | with_reducible apply RF.Gr_setReconsume | with_reducible apply RF.Gr_setCharRef
      | with_reducible apply RF.Gr_setAtEof | with_reducible apply RF.Gr_setDiscardBom
      | with_reducible apply RF.Gr_setTempBuf
      | with_reducible apply RF.Gr_bumpLine | with_reducible apply RF.Gr_emitErrL | with_reducible apply RF.Gr_emitErr
      | with_reducible apply RF.Gr_discardChar
      | assumption
      | (apply RF.lal_src_ne; assumption)
      | (apply RF.ws3_ne; assumption)
      | decide)))

namespace RF

/-! ### every step delivers at most one tag token -/

/-- not a tag token -/
def NTag (t : Token) : Prop := isTagTok t = false

instance : PC NTag := ⟨fun _ => rfl, fun _ => rfl⟩
instance : PN NTag := ⟨rfl⟩
instance : PD NTag := ⟨fun _ => rfl, fun _ => rfl⟩
instance : PE NTag := ⟨rfl⟩

/-- result of a table arm: no tag token, or the `emit_current_tag` form on top of a tag-free extension -/
def OTS (pol : Pol) (m : Mach) (y : Mach × Sig) : Prop :=
  Gr NTag m y.1 ∨
    ∃ q t, q.state = .data ∧ Gr NTag m q ∧ y = applySinkRes (emit q (.tag t)) (pol.onTag q.out t)

theorem OTS_ok {pol : Pol} {m x : Mach} (h : Gr NTag m x) : OTS pol m (x, .cont) := Or.inl h
theorem OTS_panic {pol : Pol} {m x : Mach} (h : Gr NTag m x) (s : String) : OTS pol m (x, .panic s) := Or.inl h

theorem OTS_emitTag {pol : Pol} {m x : Mach} (h : Gr NTag m x) : OTS pol m (emitTag pol .data x) := by
  refine Or.inr ⟨takeTag (tagPrologue (to .data x)), currentTag (tagPrologue (to .data x)), ?_, ?_, rfl⟩
  · simp
  · rfg_chain h

theorem OTS_consumeCharRef {pol : Pol} {m x : Mach} (h : Gr NTag m x) : OTS pol m (consumeCharRef x) :=
  Or.inl (Gr_consumeCharRef h)

end RF

namespace RF

/-! ### the tables as programs (HtmlTokTable.lean): no arm of the two reading tables pushes a token of its own
choice, so the log grows by whatever `P` allows of errors, characters, comments and DOCTYPEs -/

def noEmit : List TokOp → Bool
  | [] => true
  | .emit _ :: _ => false
  | _ :: ops => noEmit ops

theorem progChar_noEmit (st : State) (hae : Bool) (script : Prop) [Decidable script] (c : Char) :
    noEmit (progChar st hae script c).1 = true := by
  unfold progChar
  generalize lowerAsciiLetter c = l
  cases st
  case scriptDataEscapeStart k | afterDoctypeIdentifier k => cases k <;> table_walk
  case rawLessThanSign k =>
    cases k
    case scriptDataEscaped e => cases e <;> table_walk
    all_goals table_walk
  all_goals table_walk

theorem progSet_noEmit (st : State) (r : SetRes) : noEmit (progSet st r).1 = true := by
  unfold progSet
  cases r <;> cases st
  case fromSet.rawData k | notFromSet.rawData k =>
    cases k
    case scriptDataEscaped e => cases e <;> table_walk
    all_goals table_walk
  case fromSet.attributeValue k | notFromSet.attributeValue k => cases k <;> table_walk
  all_goals table_walk

theorem runOps_gr {P : Token → Prop} [PC P] [PN P] [PD P] (o : Opts) {m x : Mach} (h : Gr P m x) :
    ∀ ops : List TokOp, noEmit ops = true → Gr P m (runOps o ops x)
  | [], _ => h
  | op :: ops, hn => by
    have ih : Gr P m (runOps o ops x) := runOps_gr o h ops (by cases op <;> first | exact hn | cases hn)
    cases op with
    | emit t => cases hn
    | emitChar c => exact Gr_emitChar ih c
    | emitChars s => exact Gr_emitChars ih s
    | emitTempBuf => exact Gr_emitTempBuf ih
    | emitComment => exact Gr_emitComment ih
    | emitDoctype => exact Gr_emitDoctype ih
    | badChar => exact Gr_badChar ih o
    | badEof => exact Gr_badEof ih o
    | createAttr c => exact Gr_createAttr ih c
    | pushDoctypeId k c => exact Gr_pushDoctypeId ih k c
    | clearDoctypeId k => exact Gr_clearDoctypeId ih k
    -- the other actions leave the log alone
    | _ => exact ih

theorem ArmEnd.run_ots {pol : Pol} {m x : Mach} (h : Gr NTag m x) : ∀ fin : ArmEnd, OTS pol m (fin.run pol x)
  | .cont => OTS_ok h
  | .tag => OTS_emitTag h
  | .charRef => OTS_consumeCharRef h
  | .panic e => OTS_panic h e

theorem transChar_ots (o : Opts) (pol : Pol) {m0 m : Mach} (h : Gr NTag m0 m) (c : Char) :
    OTS pol m0 (transChar o pol m c) := by
  rw [transChar_eq]
  exact ArmEnd.run_ots (runOps_gr o h _ (progChar_noEmit _ _ _ c)) _

theorem transSet_ots (o : Opts) (pol : Pol) {m0 m : Mach} (h : Gr NTag m0 m) (r : SetRes) :
    OTS pol m0 (transSet o pol m r) := by
  rw [transSet_eq]
  exact ArmEnd.run_ots (runOps_gr o h _ (progSet_noEmit _ r)) _

end RF

namespace RF

/-! ### the reader and the character-reference sub-tokenizer: the log grows by parse errors (and characters), the
state, tag-kind and `char_ref_tokenizer` registers are kept -/

/-- `Gr` plus: the `state`, `tagKind` and `charRef` registers are unchanged -/
def Keep (P : Token → Prop) (m x : Mach) : Prop :=
  Gr P m x ∧ x.state = m.state ∧ x.tagKind = m.tagKind ∧ x.charRef = m.charRef

theorem Keep.refl (P : Token → Prop) (m : Mach) : Keep P m m := ⟨Gr.refl P m, rfl, rfl, rfl⟩

theorem Keep.trans {P : Token → Prop} {m x y : Mach} (h1 : Keep P m x) (h2 : Keep P x y) : Keep P m y :=
  ⟨h1.1.trans h2.1, h2.2.1.trans h1.2.1, h2.2.2.1.trans h1.2.2.1, h2.2.2.2.trans h1.2.2.2⟩

theorem Keep.mono {P Q : Token → Prop} (hpq : ∀ t, P t → Q t) {m x : Mach} (h : Keep P m x) : Keep Q m x :=
  ⟨h.1.mono hpq, h.2⟩

section
variable {P : Token → Prop} {m x : Mach}

theorem Keep_emit (h : Keep P m x) (t : Token) (ht : P t) : Keep P m (emit x t) :=
  ⟨Gr_emit h.1 t ht, h.2.1, h.2.2.1, h.2.2.2⟩
theorem Keep_emitErr [PC P] (h : Keep P m x) (s : String) : Keep P m (emitErr x s) := Keep_emit h _ (PC.err _)
theorem Keep_emitErrL [PC P] (h : Keep P m x) (s : Str) : Keep P m (emit x (.error s)) := Keep_emit h _ (PC.err _)
theorem Keep_setIgnoreLf (h : Keep P m x) (b : Bool) : Keep P m (x.setIgnoreLf b) := h
theorem Keep_setReconsume (h : Keep P m x) (b : Bool) : Keep P m (x.setReconsume b) := h
theorem Keep_setTempBuf (h : Keep P m x) (s : Str) : Keep P m (x.setTempBuf s) := h
theorem Keep_setAtEof (h : Keep P m x) (b : Bool) : Keep P m (x.setAtEof b) := h
theorem Keep_setDiscardBom (h : Keep P m x) (b : Bool) : Keep P m (x.setDiscardBom b) := h
theorem Keep_bumpLine (h : Keep P m x) : Keep P m x.bumpLine := h
theorem Keep_setCurrentChar (h : Keep P m x) (c : Char) : Keep P m (x.setCurrentChar c) := h
theorem Keep_pushValue (h : Keep P m x) (c : Char) : Keep P m (pushValue c x) := h

theorem Keep_discardChar (h : Keep P m x) (inp : Str) : Keep P m (discardChar x inp).1 := by
  unfold discardChar; split <;> exact h

theorem Keep_numericErr [PC P] (h : Keep P m x) (o : Opts) (n : Nat) : Keep P m (numericErr o x n) := by
  unfold numericErr; split
  · exact Keep_emitErrL h _
  · exact Keep_emitErr h _

theorem Keep_nameErr [PC P] (h : Keep P m x) (o : Opts) (nb : Str) : Keep P m (nameErr o x nb) := by
  unfold nameErr; split
  · exact Keep_emitErrL h _
  · exact Keep_emitErr h _

theorem Keep_emitChar [PC P] [PN P] (h : Keep P m x) (c : Char) : Keep P m (emitChar x c) := by
  unfold emitChar; split
  · exact Keep_emit h _ PN.nul
  · exact Keep_emit h _ (PC.chars _)

theorem Keep_emitCharNe [PC P] (h : Keep P m x) (c : Char) (hc : c ≠ '\x00') : Keep P m (emitChar x c) := by
  unfold emitChar; split
  · rename_i e; exact absurd e hc
  · exact Keep_emit h _ (PC.chars _)

end

end RF

/-- the chain with the setters of the reader, for `RF.Keep` -/
macro "rfk_rd" h:ident : tactic =>
  `(tactic| (repeat' (first
      | with_reducible exact $h
      | with_reducible apply RF.Keep_setCurrentChar | with_reducible apply RF.Keep_setIgnoreLf
      | with_reducible apply RF.Keep_setReconsume
      | with_reducible apply RF.Keep_setAtEof | with_reducible apply RF.Keep_setDiscardBom
      | with_reducible apply RF.Keep_setTempBuf
      | with_reducible apply RF.Keep_bumpLine | with_reducible apply RF.Keep_emitErrL
      | with_reducible apply RF.Keep_emitErr
      | with_reducible apply RF.Keep_discardChar
      | with_reducible apply RF.Keep_nameErr | with_reducible apply RF.Keep_numericErr)))

namespace RF

section
variable {P : Token → Prop} [PC P] {m x : Mach}

theorem foldChar_keep (o : Opts) (h : Keep P m x) (c : Char) : Keep P m (foldChar o x c).2 := by
  unfold foldChar
  dsimp only
  split <;> split <;> split <;> rfk_rd h

theorem preprocess_keep (o : Opts) (h : Keep P m x) (c : Char) (inp : Str) :
    Keep P m (preprocess o x c inp).2.1 := by
  unfold preprocess
  split
  · split
    · cases inp with
      | nil => exact h
      | cons y ys => exact foldChar_keep o (Keep_setIgnoreLf h false) y
    · exact foldChar_keep o (Keep_setIgnoreLf h false) c
  · exact foldChar_keep o h c

theorem getChar_keep (o : Opts) (h : Keep P m x) (inp : Str) : Keep P m (getChar o x inp).2.1 := by
  unfold getChar
  split
  · exact h
  · cases inp with
    | nil => exact h
    | cons c rest => exact preprocess_keep o h c rest

theorem popExceptFrom_keep (o : Opts) (S : List Char) (h : Keep P m x) (inp : Str) :
    Keep P m (popExceptFrom o S x inp).2.1 := by
  unfold popExceptFrom
  split
  · exact getChar_keep o h inp
  · cases inp with
    | nil => exact h
    | cons c rest =>
      dsimp only
      split
      · exact preprocess_keep o h c rest
      · exact h

theorem readData_keep (o : Opts) (h : Keep P m x) (inp : Str) : Keep P m (readData o x inp).2.1 := by
  unfold readData
  split
  · exact popExceptFrom_keep o _ h inp
  · cases inp with
    | nil => exact h
    | cons c rest =>
      dsimp only
      split
      · exact popExceptFrom_keep o _ h (c :: rest)
      · split <;> exact h

omit [PC P] in
theorem eatSkipLf_keep (h : Keep P m x) (inp : Str) : Keep P m (eatSkipLf x inp).1 := by
  unfold eatSkipLf discardChar
  repeat' split
  all_goals exact h

omit [PC P] in
theorem eat_keep (h : Keep P m x) (inp pat : Str) (eq : Char → Char → Bool) : Keep P m (eat x inp pat eq).2.1 := by
  rw [eat_eq_core]
  have hs := eatSkipLf_keep h inp
  generalize (eatSkipLf x inp).2 = i1
  generalize (eatSkipLf x inp).1 = m1 at hs
  unfold eatCore
  split
  · exact hs
  · exact hs
  · split <;> exact hs

/-! #### character references -/

theorem toNat_ofNat_valid (k : Nat) (h : isValidScalar k = true) : (Char.ofNat k).toNat = k := by
  have hv : k.isValidChar := by
    unfold isValidScalar at h
    simp only [Bool.or_eq_true, decide_eq_true_eq, Bool.and_eq_true] at h
    unfold Nat.isValidChar
    omega
  simp [Char.ofNat, hv, Char.toNat, Char.ofNatAux]

theorem ofNat_ne_nul (k : Nat) (h : isValidScalar k = true) (h0 : k ≠ 0) : Char.ofNat k ≠ '\x00' := by
  intro e
  have := toNat_ofNat_valid k h
  rw [e] at this
  simp at this
  exact h0 this.symm

theorem conv_ne {n : Nat} {c : Char} (h0 : n ≠ 0)
    (h : (if isValidScalar n = true then Except.ok (Char.ofNat n) else
        (Except.error "invalid char missed by error handling cases" : Except String Char)) = .ok c) : c ≠ '\x00' := by
  split at h
  · rename_i hv
    simp only [Except.ok.injEq] at h
    subst h
    exact ofNat_ne_nul n hv h0
  · cases h

theorem c1_table_ne : ∀ x ∈ Gen.C1.table, x ≠ some 0 := by decide

/-- a numeric character reference never resolves to U+0000 -/
theorem numericValue_ne (cr : CharRefSt) (c : Char) (b : Bool) (h : numericValue cr = (.ok c, b)) : c ≠ '\x00' := by
  unfold numericValue at h
  dsimp only at h
  split at h
  · simp only [Prod.mk.injEq, Except.ok.injEq] at h
    rw [← h.1]; decide
  · split at h
    · simp only [Prod.mk.injEq, Except.ok.injEq] at h
      rw [← h.1]; decide
    · rename_i hz
      have h0 : cr.num ≠ 0 := by
        intro e; apply hz; rw [e]; rfl
      split at h
      · split at h
        · rename_i r hr
          simp only [Prod.mk.injEq] at h
          have hr0 : r ≠ 0 := by
            intro e; subst e
            exact c1_table_ne _ (List.mem_of_getElem? hr) rfl
          exact conv_ne hr0 h.1
        · simp only [Prod.mk.injEq] at h
          exact conv_ne h0 h.1
        · simp at h
      · split at h
        · simp only [Prod.mk.injEq] at h
          exact conv_ne h0 h.1
        · split at h <;> (simp only [Prod.mk.injEq] at h; exact conv_ne h0 h.1)

/-- the characters of a finished reference contain no U+0000 -/
def DoneOk : CRStatus → Prop
  | .done chars => ∀ c ∈ chars, c ≠ '\x00'
  | _ => True

/-- a char-ref step result: registers kept, log grown by `P`-tokens; if the reference was `CrOk` it still is, and
the characters delivered are not U+0000 -/
def CRK (P : Token → Prop) (m : Mach) (cr : CharRefSt) : CRRes → Prop
  | .ok v => Keep P m v.1 ∧ (CrOk cr → CrOk v.2.2.1 ∧ DoneOk v.2.2.2)
  | .error _ => True

omit [PC P] in
theorem CRK_ok {cr cr1 : CharRefSt} (hk : Keep P m x) (hc : CrOk cr → CrOk cr1) (i : Str) (st : CRStatus)
    (hd : DoneOk st) : CRK P m cr (.ok (x, i, cr1, st)) := ⟨hk, fun h => ⟨hc h, hd⟩⟩

theorem DoneOk_nil : DoneOk (.done []) := fun _ h => by cases h

theorem finishNumericStatus_crk (o : Opts) {cr0 cr : CharRefSt} (hk : Keep P m x) (hc : CrOk cr0 → CrOk cr)
    (inp : Str) : CRK P m cr0 (finishNumericStatus o x inp cr) := by
  unfold finishNumericStatus finishNumeric
  dsimp only
  have hv := numericValue_ne cr
  generalize numericValue cr = v at hv
  obtain ⟨v1, v2⟩ := v
  cases v1 with
  | error e => trivial
  | ok c =>
    have hc0 := hv c v2 rfl
    refine CRK_ok ?_ hc _ _ ?_
    · cases v2
      · exact hk
      · exact Keep_numericErr hk _ _
    · intro d hd
      rcases List.mem_cons.mp hd with rfl | hd
      · exact hc0
      · cases hd

theorem namedDecision_keep (hk : Keep P m x) (cr : CharRefSt) (nb : Str) (c1 c2 : Nat) (m1 : Mach) (chars : Str)
    (h : namedDecision x cr nb c1 c2 = .ok (some (m1, chars))) :
    Keep P m m1 ∧ (c1 ≠ 0 → ∀ c ∈ chars, c ≠ '\x00') := by
  obtain ⟨hm, hv1, hv2, hch⟩ := namedDecision_inv h
  refine ⟨?_, fun hc1 c hcm => ?_⟩
  · rcases hm with rfl | rfl <;> rfk_rd hk
  · rw [hch] at hcm
    split at hcm
    · rcases List.mem_cons.mp hcm with rfl | hcm
      · exact ofNat_ne_nul _ hv1 hc1
      · cases hcm
    · rename_i hc2
      rcases List.mem_cons.mp hcm with rfl | hcm
      · exact ofNat_ne_nul _ hv1 hc1
      · rcases List.mem_cons.mp hcm with rfl | hcm
        · exact ofNat_ne_nul _ hv2 hc2
        · cases hcm

theorem CrOk_same {cr cr1 : CharRefSt} (e : cr1.nameMatch = cr.nameMatch) (h : CrOk cr) : CrOk cr1 := by
  intro c1 c2 hm
  rw [e] at hm
  exact h c1 c2 hm

/-- a leaf `.ok (m', i', cr', st)` of the char-ref tables -/
macro "rfk_leaf" hk:ident hc:term : tactic =>
  `(tactic| (refine CRK_ok ?_ ?_ _ _ ?_
             · rfk_rd $hk
             · first
               | exact fun h => CrOk_same rfl ($hc h)
               | (intro _ c1 c2 hm
                  simp only [Option.some.injEq] at hm
                  subst hm
                  assumption)
             · first | trivial | exact DoneOk_nil))

theorem finishNamed_crk (o : Opts) {cr0 cr : CharRefSt} (hk : Keep P m x) (hc : CrOk cr0 → CrOk cr)
    (inp : Str) (e : Option Char) : CRK P m cr0 (finishNamed o x inp cr e) := by
  unfold finishNamed
  split
  · trivial
  · split
    · dsimp only
      (repeat' split) <;> rfk_leaf hk hc
    · rename_i c1 c2 hnm
      split
      · trivial
      · rfk_leaf hk hc
      · rename_i m1 chars hnd
        obtain ⟨k1, k2⟩ := namedDecision_keep hk _ _ _ _ _ _ hnd
        exact ⟨k1, fun h => ⟨hc h, k2 (hc h c1 c2 hnm)⟩⟩

theorem crStep_crk (o : Opts) (m : Mach) (inp : Str) (cr : CharRefSt) : CRK P m cr (crStep o m inp cr) := by
  have hk := Keep.refl P m
  unfold crStep unconsumeNumeric
  dsimp only
  split
  · rfk_leaf hk id
  · split <;> (repeat' split) <;>
      first
      | trivial
      | exact finishNumericStatus_crk o (Keep_discardChar hk _) id _
      | exact finishNumericStatus_crk o (Keep_emitErr hk _) id _
      | exact finishNamed_crk o (Keep_discardChar hk _) (CrOk_same rfl) _ _
      | rfk_leaf hk id

theorem foldl_emitChar_keep [PN P] (cs : Str) : ∀ {x : Mach}, Keep P m x → Keep P m (cs.foldl emitChar x) := by
  induction cs with
  | nil => intro x h; exact h
  | cons c cs ih => intro x h; exact ih (Keep_emitChar h c)

theorem foldl_emitChar_keep_ne (cs : Str) (hcs : ∀ c ∈ cs, c ≠ '\x00') :
    ∀ {x : Mach}, Keep P m x → Keep P m (cs.foldl emitChar x) := by
  induction cs with
  | nil => intro x h; exact h
  | cons c cs ih =>
    intro x h
    exact ih (fun d hd => hcs d (List.mem_cons_of_mem _ hd)) (Keep_emitCharNe h c (hcs c List.mem_cons_self))

omit [PC P] in
theorem foldl_pushValue_keep (cs : Str) :
    ∀ {x : Mach}, Keep P m x → Keep P m (cs.foldl (fun m c => pushValue c m) x) := by
  induction cs with
  | nil => intro x h; exact h
  | cons c cs ih => intro x h; exact ih (Keep_pushValue h c)

theorem processCharRef_keep [PN P] (h : Keep P m x) (chars : Str) : Keep P m (processCharRef x chars).1 := by
  unfold processCharRef
  dsimp only
  split
  · exact foldl_emitChar_keep _ h
  · exact foldl_emitChar_keep _ h
  · exact foldl_pushValue_keep _ h
  · exact h

theorem processCharRef_keep_ne (h : Keep P m x) (chars : Str) (hc : ∀ c ∈ chars, c ≠ '\x00') :
    Keep P m (processCharRef x chars).1 := by
  have hc' : ∀ c ∈ (if chars.isEmpty = true then ['&'] else chars), c ≠ '\x00' := by
    split
    · intro c hcm
      rcases List.mem_cons.mp hcm with rfl | hcm
      · decide
      · cases hcm
    · exact hc
  unfold processCharRef
  dsimp only
  split
  · exact foldl_emitChar_keep_ne _ hc' h
  · exact foldl_emitChar_keep_ne _ hc' h
  · exact foldl_pushValue_keep _ h
  · exact h

end

/-! ### at most one tag token: step level -/

/-- a step result: no tag token, or the `emit_current_tag` form on top of a tag-free extension -/
def ROT (pol : Pol) (m : Mach) (r : R) : Prop :=
  ∀ m1 i1, r.pair? = some (m1, i1) →
    Gr NTag m m1 ∨
      ∃ q t, q.state = .data ∧ Gr NTag m q ∧ r = ofSig (applySinkRes (emit q (.tag t)) (pol.onTag q.out t)) i1

theorem ROT_cont {pol : Pol} {m x : Mach} (h : Gr NTag m x) (i : Str) : ROT pol m (.cont x i) := by
  intro m1 i1 e
  simp only [R.pair?, Option.some.injEq, Prod.mk.injEq] at e
  obtain ⟨rfl, rfl⟩ := e
  exact Or.inl h

theorem ROT_suspend {pol : Pol} {m x : Mach} (h : Gr NTag m x) (i : Str) : ROT pol m (.suspend x i) := by
  intro m1 i1 e
  simp only [R.pair?, Option.some.injEq, Prod.mk.injEq] at e
  obtain ⟨rfl, rfl⟩ := e
  exact Or.inl h

theorem ROT_panic {pol : Pol} {m : Mach} (s : String) : ROT pol m (.panic s) := by
  intro m1 i1 e
  simp [R.pair?] at e

theorem ROT_ofSig {pol : Pol} {m : Mach} {y : Mach × Sig} (hy : OTS pol m y) (i : Str) : ROT pol m (ofSig y i) := by
  intro m1 i1 e
  obtain ⟨e1, e2⟩ := ofSig_pair _ _ _ _ e
  subst e1; subst e2
  rcases hy with h | ⟨q, t, hq, hg, hy⟩
  · exact Or.inl h
  · exact Or.inr ⟨q, t, hq, hg, by rw [hy]⟩

theorem contChar_rot (o : Opts) (pol : Pol) {m0 : Mach} (r : Option Char × Mach × Str) (h : Gr NTag m0 r.2.1) :
    ROT pol m0 (contChar o pol r) := by
  obtain ⟨c, m1, i1⟩ := r
  cases c with
  | none => exact ROT_suspend h _
  | some c => exact ROT_ofSig (transChar_ots o pol h c) i1

theorem contSet_rot (o : Opts) (pol : Pol) {m0 : Mach} (r : Option SetRes × Mach × Str) (h : Gr NTag m0 r.2.1) :
    ROT pol m0 (contSet o pol r) := by
  obtain ⟨c, m1, i1⟩ := r
  cases c with
  | none => exact ROT_suspend h _
  | some c => exact ROT_ofSig (transSet_ots o pol h c) i1

theorem stepCharRef_rot (o : Opts) (pol : Pol) (m : Mach) (inp : Str) (cr : CharRefSt) :
    ROT pol m (stepCharRef o m inp cr) := by
  unfold stepCharRef
  have h1 := crStep_crk (P := NTag) o m inp cr
  generalize crStep o m inp cr = r at h1
  cases r with
  | error e => exact ROT_panic _
  | ok v =>
    obtain ⟨m1, i1, c1, s1⟩ := v
    cases s1 with
    | stuck => exact ROT_suspend (Gr_setCharRef h1.1.1 _) _
    | progress => exact ROT_cont (Gr_setCharRef h1.1.1 _) _
    | done chars =>
      dsimp only
      exact ROT_ofSig (y := ((processCharRef m1 chars).1.setCharRef none, _))
        (Or.inl (Gr_setCharRef (processCharRef_keep h1.1 chars).1 none)) i1

theorem stepBav_rot (o : Opts) (pol : Pol) (m : Mach) (inp : Str) : ROT pol m (stepBav o pol m inp) := by
  have h := Gr.refl NTag m
  unfold stepBav
  cases peek m inp with
  | none => exact ROT_suspend h _
  | some c =>
    dsimp only
    have hm : Gr NTag m (if m.ignoreLf = true then m.setIgnoreLf false else m) := by
      split <;> exact h
    generalize (if m.ignoreLf = true then m.setIgnoreLf false else m) = m' at hm
    split
    · exact ROT_cont (Gr_discardChar hm inp) _
    · split
      · have hg := (getChar_keep (P := NTag) o (Keep.refl NTag m') inp).1
        generalize getChar o m' inp = r at hg
        obtain ⟨c1, m1, i1⟩ := r
        cases c1
        · exact ROT_suspend (hm.trans hg) _
        · exact ROT_cont (hm.trans hg) _
      · repeat' split
        all_goals
          first
          | exact ROT_cont (Gr_discardChar hm inp) _
          | exact ROT_cont (Gr_to (Gr_discardChar hm inp) _) _
          | exact ROT_cont (Gr_to hm _) _
          | exact ROT_ofSig (OTS_emitTag (Gr_badChar (Gr_discardChar hm inp) o)) _

theorem stepMdo_rot (o : Opts) (pol : Pol) (m : Mach) (inp : Str) : ROT pol m (stepMdo o pol m inp) := by
  have h := Keep.refl NTag m
  unfold stepMdo
  have e1 := eat_keep h inp kwDashDash eqExact
  generalize eat m inp kwDashDash eqExact = r1 at e1
  obtain ⟨x1, m1, i1⟩ := r1
  cases x1 with
  | none => exact ROT_suspend e1.1 _
  | some t1 =>
    cases t1 with
    | true => exact ROT_cont (Gr_to (Gr_clearComment e1.1) _) _
    | false =>
      dsimp only
      have e2 := eat_keep e1 i1 kwDoctype eqCi
      generalize eat m1 i1 kwDoctype eqCi = r2 at e2
      obtain ⟨x2, m2, i2⟩ := r2
      cases x2 with
      | none => exact ROT_suspend e2.1 _
      | some t2 =>
        cases t2 with
        | true => exact ROT_cont (Gr_to e2.1 _) _
        | false =>
          dsimp only
          split
          · have e3 := eat_keep e2 i2 kwCdata eqExact
            generalize eat m2 i2 kwCdata eqExact = r3 at e3
            obtain ⟨x3, m3, i3⟩ := r3
            cases x3 with
            | none => exact ROT_suspend e3.1 _
            | some t3 =>
              cases t3 with
              | true => exact ROT_cont (Gr_to (Gr_clearTemp e3.1) _) _
              | false => exact ROT_cont (Gr_to (Gr_clearComment (Gr_badChar e3.1 o)) _) _
          · exact ROT_cont (Gr_to (Gr_clearComment (Gr_badChar e2.1 o)) _) _

theorem stepAdn_rot (o : Opts) (pol : Pol) (m : Mach) (inp : Str) : ROT pol m (stepAdn o pol m inp) := by
  have h := Keep.refl NTag m
  unfold stepAdn
  have e1 := eat_keep h inp kwPublic eqCi
  generalize eat m inp kwPublic eqCi = r1 at e1
  obtain ⟨x1, m1, i1⟩ := r1
  cases x1 with
  | none => exact ROT_suspend e1.1 _
  | some t1 =>
    cases t1 with
    | true => exact ROT_cont (Gr_to e1.1 _) _
    | false =>
      dsimp only
      have e2 := eat_keep e1 i1 kwSystem eqCi
      generalize eat m1 i1 kwSystem eqCi = r2 at e2
      obtain ⟨x2, m2, i2⟩ := r2
      cases x2 with
      | none => exact ROT_suspend e2.1 _
      | some t2 =>
        cases t2 with
        | true => exact ROT_cont (Gr_to e2.1 _) _
        | false =>
          dsimp only
          exact contChar_rot o pol (getChar o m2 i2) (getChar_keep o e2 i2).1

/-- **every step**: the log grows by non-tag tokens only, or the step is the delivery of the current tag
(`emit_current_tag`, next state `data`) on top of a machine `q` whose log grew by non-tag tokens only -/
theorem step_rot (o : Opts) (pol : Pol) (m : Mach) (inp : Str) : ROT pol m (step o pol m inp) := by
  cases hcr : m.charRef with
  | some cr =>
    rw [step_kind_charRef o pol m inp cr hcr]
    exact stepCharRef_rot o pol m inp cr
  | none =>
    cases hrk : readKind m.state with
    | getChar =>
      rw [step_getChar o pol m inp hcr hrk]
      exact contChar_rot o pol _ (getChar_keep o (Keep.refl NTag m) inp).1
    | popExcept =>
      rw [step_popExcept o pol m inp hcr hrk]
      exact contSet_rot o pol _ (popExceptFrom_keep o _ (Keep.refl NTag m) inp).1
    | dataSimd =>
      rw [step_dataSimd o pol m inp hcr hrk]
      exact contSet_rot o pol _ (readData_keep o (Keep.refl NTag m) inp).1
    | peekBav =>
      rw [step_kind_bav o pol m inp hcr hrk]
      exact stepBav_rot o pol m inp
    | eatMdo =>
      rw [step_kind_mdo o pol m inp hcr hrk]
      exact stepMdo_rot o pol m inp
    | eatAdn =>
      rw [step_kind_adn o pol m inp hcr hrk]
      exact stepAdn_rot o pol m inp

theorem applySinkRes_out (x : Mach) (r : SinkRes) :
    ∃ pre, (applySinkRes x r).1.out = pre ++ x.out ∧ ∀ p ∈ pre, isPauseTok p.1 = true := by
  cases r with
  | continue_ => exact ⟨[], rfl, fun _ h => by cases h⟩
  | plaintext => exact ⟨[], rfl, fun _ h => by cases h⟩
  | rawData k => exact ⟨[], rfl, fun _ h => by cases h⟩
  | script =>
    refine ⟨[(.pause true, x.line)], rfl, ?_⟩
    intro p hp
    rcases List.mem_cons.mp hp with rfl | hp
    · rfl
    · cases hp
  | indicator =>
    refine ⟨[(.pause false, x.line)], rfl, ?_⟩
    intro p hp
    rcases List.mem_cons.mp hp with rfl | hp
    · rfl
    · cases hp

theorem pause_not_tag {t : Token} (h : isPauseTok t = true) : isTagTok t = false := by
  cases t <;> first | rfl | cases h

/-- the shape of what a step adds to the log -/
theorem step_shape (o : Opts) (pol : Pol) (m : Mach) (inp : Str) (m1 : Mach) (i1 : Str)
    (hs : (step o pol m inp).pair? = some (m1, i1)) :
    (∃ new, m1.out = new ++ m.out ∧ ∀ p ∈ new, isTagTok p.1 = false) ∨
    (∃ pre q t nq, m1.out = (pre ++ (Token.tag t, q.line) :: nq) ++ m.out ∧ (∀ p ∈ pre, isPauseTok p.1 = true) ∧
      (∀ p ∈ nq, isTagTok p.1 = false) ∧ q.state = .data ∧ q.out = nq ++ m.out ∧
      step o pol m inp = ofSig (applySinkRes (emit q (.tag t)) (pol.onTag q.out t)) i1) := by
  rcases step_rot o pol m inp m1 i1 hs with h | ⟨q, t, hq, ⟨nq, eq, pq⟩, hstep⟩
  · exact Or.inl h
  · right
    rw [hstep] at hs
    obtain ⟨e1, _⟩ := ofSig_pair _ _ _ _ hs
    obtain ⟨pre, epre, ppre⟩ := applySinkRes_out (emit q (.tag t)) (pol.onTag q.out t)
    refine ⟨pre, q, t, nq, ?_, ppre, pq, hq, eq, hstep⟩
    rw [e1, epre]
    show pre ++ (Token.tag t, q.line) :: q.out = _
    rw [eq, List.append_assoc]
    rfl

end RF

open RF in
/-- combined form: a step adds non-tag tokens only (`RF.Gr RF.NTag m m1`), or it is the delivery of the current
tag: `emit_current_tag` with next state `data` on top of a machine `q` whose log grew by non-tag tokens only -/
theorem step_form (o : Opts) (pol : Pol) (m : Mach) (inp : Str) (m1 : Mach) (i1 : Str)
    (hs : (step o pol m inp).pair? = some (m1, i1)) :
    (∃ new, m1.out = new ++ m.out ∧ ∀ p ∈ new, isTagTok p.1 = false) ∨
      ∃ q t, q.state = .data ∧ (∃ nq, q.out = nq ++ m.out ∧ ∀ p ∈ nq, isTagTok p.1 = false) ∧
        step o pol m inp = ofSig (applySinkRes (emit q (.tag t)) (pol.onTag q.out t)) i1 :=
  RF.step_rot o pol m inp m1 i1 hs

open RF in
/-- EVERY step, from every machine: what it adds to the log contains at most one tag token, which is the newest
entry apart from pause markers -/
theorem step_one_tag (o : Opts) (pol : Pol) (m : Mach) (inp : Str) (m1 : Mach) (i1 : Str)
    (hs : (step o pol m inp).pair? = some (m1, i1)) :
    ∃ new, m1.out = new ++ m.out ∧
      ∀ a b t l, new = a ++ (Token.tag t, l) :: b →
        (∀ p ∈ a, isPauseTok p.1 = true) ∧ (∀ p ∈ b, isTagTok p.1 = false) := by
  rcases step_shape o pol m inp m1 i1 hs with ⟨new, e, p⟩ | ⟨pre, q, t0, nq, e, ppre, pq, _, _, _⟩
  · refine ⟨new, e, ?_⟩
    intro a b t l hsplit
    have := p (Token.tag t, l) (by rw [hsplit]; exact List.mem_append_right _ List.mem_cons_self)
    cases this
  · refine ⟨_, e, ?_⟩
    intro a b t l hsplit
    obtain ⟨r1, _, _, r4⟩ := tag_decomp_unique (fun p hp => pause_not_tag (ppre p hp)) pq hsplit
    rw [r1, r4]
    exact ⟨ppre, pq⟩

open RF in
/-- when the step delivered a tag, the whole step result has the `emit_current_tag` form -/
theorem step_tag_form (o : Opts) (pol : Pol) (m : Mach) (inp : Str) (m1 : Mach) (i1 : Str)
    (hs : (step o pol m inp).pair? = some (m1, i1)) (new a b : Out) (t : Tag) (l : Nat)
    (hnew : m1.out = new ++ m.out) (hsplit : new = a ++ (Token.tag t, l) :: b) :
    ∃ q : Mach, q.state = .data ∧ q.out = b ++ m.out ∧
      step o pol m inp = ofSig (applySinkRes (emit q (.tag t)) (pol.onTag q.out t)) i1 := by
  rcases step_shape o pol m inp m1 i1 hs with ⟨n, e, p⟩ | ⟨pre, q, t0, nq, e, ppre, pq, hq, eq, hstep⟩
  · exfalso
    rw [hnew] at e
    have e2 := List.append_cancel_right e
    have := p (Token.tag t, l) (by rw [← e2, hsplit]; exact List.mem_append_right _ List.mem_cons_self)
    cases this
  · rw [hnew] at e
    have e2 := List.append_cancel_right e
    rw [hsplit] at e2
    obtain ⟨_, r2, r3, r4⟩ := tag_decomp_unique (fun p hp => pause_not_tag (ppre p hp)) pq e2.symm
    subst r2; subst r4
    exact ⟨q, hq, eq, hstep⟩

/-! ### a step from a text state -/

namespace RF

/-- character tokens and parse errors -/
def CE : Token → Prop
  | .chars _ => True
  | .error _ => True
  | _ => False

instance : PC CE := ⟨fun _ => trivial, fun _ => trivial⟩

theorem CE.allowed {t : Token} (h : CE t) : AllowedInText t := by
  cases t <;> first | trivial | cases h

theorem CE.noTag {t : Token} (h : CE t) : isTagTok t = false := by
  cases t <;> first | rfl | cases h

theorem pause_allowed {t : Token} (h : isPauseTok t = true) : AllowedInText t := by
  cases t <;> first | trivial | cases h

/-- the current tag must be an end tag in these states -/
def needEnd (s : State) : Bool := isRawEndTagName s || TagFam s

/-- the register part of `TextSt`, computable -/
def stOk (s : State) (k : TagKind) : Bool := (RawFam s || TagFam s) && (!needEnd s || decide (k = .endTag))

theorem stOk_iff (s : State) (k : TagKind) :
    stOk s k = true ↔
      ((RawFam s = true ∧ (isRawEndTagName s = true → k = .endTag)) ∨ (TagFam s = true ∧ k = .endTag)) := by
  cases s <;> cases k <;> simp [stOk, needEnd, RawFam, TagFam, isRawEndTagName]

theorem textSt_iff (m : Mach) : TextSt m ↔ stOk m.state m.tagKind = true ∧ CrInv m := by
  unfold TextSt
  rw [stOk_iff]

theorem stOk_fam {s : State} {k : TagKind} (h : stOk s k = true) : (RawFam s || TagFam s) = true := by
  unfold stOk at h
  simp only [Bool.and_eq_true] at h
  exact h.1

theorem stOk_tk {s : State} {k : TagKind} (h : stOk s k = true) (hn : needEnd s = true) : k = .endTag := by
  unfold stOk at h
  simp only [Bool.and_eq_true, Bool.or_eq_true, Bool.not_eq_true', decide_eq_true_eq] at h
  rcases h.2 with h2 | h2
  · rw [hn] at h2; cases h2
  · exact h2

/-! tag-kind register of the helpers -/

theorem tk_emit (m : Mach) (t : Token) : (emit m t).tagKind = m.tagKind := rfl
theorem tk_emitErr (m : Mach) (s : String) : (emitErr m s).tagKind = m.tagKind := rfl
theorem tk_emitChars (m : Mach) (s : Str) : (emitChars m s).tagKind = m.tagKind := rfl
theorem tk_emitChar (m : Mach) (c : Char) : (emitChar m c).tagKind = m.tagKind := by
  unfold emitChar; split <;> rfl
theorem tk_badChar (m : Mach) (o : Opts) : (badChar o m).tagKind = m.tagKind := by
  unfold badChar; split <;> rfl
theorem tk_to (m : Mach) (s : State) : (to s m).tagKind = m.tagKind := rfl
theorem tk_reconsumeTo (m : Mach) (s : State) : (reconsumeTo s m).tagKind = m.tagKind := rfl
theorem tk_discardTag (m : Mach) : (discardTag m).tagKind = m.tagKind := rfl
theorem tk_createTag (m : Mach) (k : TagKind) (c : Char) : (createTag k c m).tagKind = k := rfl
theorem tk_pushTag (m : Mach) (c : Char) : (pushTag c m).tagKind = m.tagKind := rfl
theorem tk_pushTemp (m : Mach) (c : Char) : (pushTemp c m).tagKind = m.tagKind := rfl
theorem tk_clearTemp (m : Mach) : (clearTemp m).tagKind = m.tagKind := rfl
theorem tk_emitTempBuf (m : Mach) : (emitTempBuf m).tagKind = m.tagKind := rfl
theorem tk_pushName (m : Mach) (c : Char) : (pushName c m).tagKind = m.tagKind := rfl
theorem tk_pushValue (m : Mach) (c : Char) : (pushValue c m).tagKind = m.tagKind := rfl
theorem tk_appendValue (m : Mach) (s : Str) : (appendValue s m).tagKind = m.tagKind := rfl
theorem tk_setIgnoreLf (m : Mach) (b : Bool) : (m.setIgnoreLf b).tagKind = m.tagKind := rfl
theorem tk_finishAttribute (m : Mach) : (finishAttribute m).tagKind = m.tagKind := by
  unfold finishAttribute
  split
  · rfl
  · dsimp only
    split <;> rfl
theorem tk_createAttr (m : Mach) (c : Char) : (createAttr c m).tagKind = m.tagKind := by
  unfold createAttr
  exact tk_finishAttribute m
theorem tk_discardChar (m : Mach) (inp : Str) : (discardChar m inp).1.tagKind = m.tagKind := by
  unfold discardChar; split <;> rfl
theorem st_discardChar (m : Mach) (inp : Str) : (discardChar m inp).1.state = m.state := by
  unfold discardChar; split <;> rfl
theorem cr_discardChar (m : Mach) (inp : Str) : (discardChar m inp).1.charRef = m.charRef := by
  unfold discardChar; split <;> rfl
theorem tk_tagPrologue (m : Mach) : (tagPrologue m).tagKind = m.tagKind := by
  have h := tk_finishAttribute m
  unfold tagPrologue
  dsimp only
  generalize finishAttribute m = y at h
  split
  · exact h
  · (repeat' split) <;> exact h

/-- result of a table arm from a text state -/
def TRes (m y : Mach) : Prop :=
  ∃ new, y.out = new ++ m.out ∧ (∀ p ∈ new, AllowedInText p.1) ∧ ((∀ p ∈ new, isTagTok p.1 = false) → TextSt y)

theorem TRes_ok {m x : Mach} (hci : CrInv m) (hg : Gr CE m x) (hs : stOk x.state x.tagKind = true)
    (hc : x.charRef = m.charRef) : TRes m x := by
  obtain ⟨n, e, p⟩ := hg
  refine ⟨n, e, fun q hq => (p q hq).allowed, fun _ => (textSt_iff x).mpr ⟨hs, ?_⟩⟩
  intro cr hcr
  rw [hc] at hcr
  exact hci cr hcr

theorem TRes_emitTag {m x : Mach} (hg : Gr CE m x) (hk : x.tagKind = .endTag) (pol : Pol) (s : State) :
    TRes m (emitTag pol s x).1 := by
  obtain ⟨n, e, p⟩ := Gr_tagPrologue (Gr_to hg s)
  obtain ⟨pre, epre, ppre⟩ :=
    applySinkRes_out (emit (takeTag (tagPrologue (to s x))) (.tag (currentTag (tagPrologue (to s x)))))
      (pol.onTag (takeTag (tagPrologue (to s x))).out (currentTag (tagPrologue (to s x))))
  refine ⟨pre ++ (Token.tag (currentTag (tagPrologue (to s x))), (tagPrologue (to s x)).line) :: n, ?_, ?_, ?_⟩
  · show (applySinkRes _ _).1.out = _
    rw [epre]
    show pre ++ (_ :: (tagPrologue (to s x)).out) = _
    rw [e, List.append_assoc]
    rfl
  · intro q hq
    rcases List.mem_append.mp hq with hq | hq
    · exact pause_allowed (ppre q hq)
    · rcases List.mem_cons.mp hq with rfl | hq
      · show (tagPrologue (to s x)).tagKind = .endTag
        rw [tk_tagPrologue]
        exact hk
      · exact (p q hq).allowed
  · intro hnt
    have := hnt (Token.tag (currentTag (tagPrologue (to s x))), (tagPrologue (to s x)).line)
      (List.mem_append_right _ List.mem_cons_self)
    cases this

theorem CrOk_fresh (b : Bool) : CrOk { inAttr := b } := by
  intro c1 c2 h
  cases h

theorem TRes_consumeCharRef {m : Mach} (h : TextSt m) : TRes m (consumeCharRef m).1 := by
  obtain ⟨hst, hci⟩ := (textSt_iff m).mp h
  refine ⟨[], ?_, fun _ hq => (by cases hq), fun _ => (textSt_iff _).mpr ⟨?_, ?_⟩⟩
  · unfold consumeCharRef; split <;> rfl
  · have e1 : (consumeCharRef m).1.state = m.state := by unfold consumeCharRef; split <;> rfl
    have e2 : (consumeCharRef m).1.tagKind = m.tagKind := by unfold consumeCharRef; split <;> rfl
    rw [e1, e2]; exact hst
  · unfold consumeCharRef
    split
    · exact hci
    · intro cr hcr
      simp only [Option.some.injEq] at hcr
      subst hcr
      exact CrOk_fresh _

theorem TRes_trans {m0 m y : Mach} (hk : Keep CE m0 m) (h : TRes m y) : TRes m0 y := by
  obtain ⟨n1, e1, p1⟩ := hk.1
  obtain ⟨n2, e2, a2, t2⟩ := h
  refine ⟨n2 ++ n1, by rw [e2, e1, List.append_assoc], ?_, ?_⟩
  · intro q hq
    rcases List.mem_append.mp hq with hq | hq
    · exact a2 q hq
    · exact (p1 q hq).allowed
  · intro hnt
    exact t2 (fun q hq => hnt q (List.mem_append_left _ hq))

theorem TextSt_keep {P : Token → Prop} {m x : Mach} (hk : Keep P m x) (h : TextSt m) : TextSt x := by
  obtain ⟨hst, hci⟩ := (textSt_iff m).mp h
  refine (textSt_iff x).mpr ⟨by rw [hk.2.1, hk.2.2.1]; exact hst, ?_⟩
  intro cr hcr
  rw [hk.2.2.2] at hcr
  exact hci cr hcr

end RF

/-- close a table arm of the text-state traversal -/
macro "rfb_arm" hci:ident hG:ident hT:ident : tactic =>
  `(tactic| first
      | ((with_reducible apply RF.TRes_emitTag)
         · rfg_chain $hG
         · first | assumption | simp only [RF.tk_clearTemp, RF.tk_badChar, RF.tk_discardChar, *])
      | with_reducible exact RF.TRes_consumeCharRef $hT
      | (apply RF.TRes_ok $hci
         · rfg_chain $hG
         · (simp only [emitChar_state, emitChars_state, badChar_state, to_state, reconsumeTo_state,
              discardTag_state, createTag_state, pushTag_state, pushTemp_state, clearTemp_state,
              emitTempBuf_state, createAttr_state, pushName_state, pushValue_state, appendValue_state,
              RF.tk_emitChar, RF.tk_emitChars, RF.tk_badChar, RF.tk_to, RF.tk_reconsumeTo, RF.tk_discardTag,
              RF.tk_createTag, RF.tk_pushTag, RF.tk_pushTemp, RF.tk_clearTemp, RF.tk_emitTempBuf,
              RF.tk_createAttr, RF.tk_pushName, RF.tk_pushValue, RF.tk_appendValue, *]
            try rfl)
         · first
           | rfl
           | simp only [emitChar_charRef, emitChars_charRef, badChar_charRef, to_charRef, reconsumeTo_charRef,
              discardTag_charRef, createTag_charRef, pushTag_charRef, pushTemp_charRef, clearTemp_charRef,
              emitTempBuf_charRef, createAttr_charRef, pushName_charRef, pushValue_charRef,
              appendValue_charRef]))

namespace RF

/-- the `get_char!` table from a text state -/
theorem transChar_text (o : Opts) (pol : Pol) {m : Mach} (hT : TextSt m) (c : Char) :
    TRes m (transChar o pol m c).1 := by
  obtain ⟨hst, hci⟩ := (textSt_iff m).mp hT
  have hfam := stOk_fam hst
  have htk := stOk_tk hst
  have hG := Gr.refl CE m
  clear hst
  unfold transChar
  generalize hs : m.state = s at hfam htk ⊢
  cases s <;> first | (exfalso; simp [RawFam, TagFam] at hfam; done) | skip
  all_goals (try (have htk2 := htk rfl))
  all_goals (clear htk hfam)
  all_goals (try (rename_i k; cases k))
  all_goals (try (rename_i k; cases k))
  all_goals (dsimp only)
  all_goals ((repeat' split) <;> (try dsimp only) <;> rfb_arm hci hG hT)

/-- the `pop_except_from` table from a text state -/
theorem transSet_text (o : Opts) (pol : Pol) {m : Mach} (hT : TextSt m) (r : SetRes) :
    TRes m (transSet o pol m r).1 := by
  obtain ⟨hst, hci⟩ := (textSt_iff m).mp hT
  have hfam := stOk_fam hst
  have htk := stOk_tk hst
  have hG := Gr.refl CE m
  clear hst
  unfold transSet
  generalize hs : m.state = s at hfam htk ⊢
  cases s <;> first | (exfalso; simp [RawFam, TagFam] at hfam; done) | skip
  all_goals (try (have htk2 := htk rfl))
  all_goals (clear htk hfam)
  all_goals (try (rename_i k; cases k))
  all_goals (try (rename_i k; cases k))
  all_goals (cases r)
  all_goals (dsimp only)
  all_goals ((repeat' split) <;> (try dsimp only) <;> rfb_arm hci hG hT)

/-! #### step level -/

/-- a step result from a text state -/
def RText (m : Mach) (r : R) : Prop := ∀ m1 i1, r.pair? = some (m1, i1) → TRes m m1

theorem RText_cont {m x : Mach} (h : TRes m x) (i : Str) : RText m (.cont x i) := by
  intro m1 i1 e
  simp only [R.pair?, Option.some.injEq, Prod.mk.injEq] at e
  obtain ⟨rfl, rfl⟩ := e
  exact h

theorem RText_suspend {m x : Mach} (h : TRes m x) (i : Str) : RText m (.suspend x i) := by
  intro m1 i1 e
  simp only [R.pair?, Option.some.injEq, Prod.mk.injEq] at e
  obtain ⟨rfl, rfl⟩ := e
  exact h

theorem RText_panic {m : Mach} (s : String) : RText m (.panic s) := by
  intro m1 i1 e
  simp [R.pair?] at e

theorem RText_ofSig {m : Mach} {y : Mach × Sig} (h : TRes m y.1) (i : Str) : RText m (ofSig y i) := by
  intro m1 i1 e
  obtain ⟨e1, _⟩ := ofSig_pair _ _ _ _ e
  subst e1
  exact h

/-- registers kept, log grown by characters/errors, `char_ref_tokenizer` replaced by an admissible one -/
theorem TRes_keepCr {m x : Mach} (hT : TextSt m) (hk : Keep CE m x) (c : Option CharRefSt)
    (hc : ∀ cr, c = some cr → CrOk cr) : TRes m (x.setCharRef c) := by
  obtain ⟨hst, _⟩ := (textSt_iff m).mp hT
  obtain ⟨n, e, p⟩ := hk.1
  refine ⟨n, e, fun q hq => (p q hq).allowed, fun _ => (textSt_iff _).mpr ⟨?_, hc⟩⟩
  show stOk x.state x.tagKind = true
  rw [hk.2.1, hk.2.2.1]
  exact hst

theorem TRes_keep {m x : Mach} (hT : TextSt m) (hk : Keep CE m x) : TRes m x := by
  obtain ⟨n, e, p⟩ := hk.1
  exact ⟨n, e, fun q hq => (p q hq).allowed, fun _ => TextSt_keep hk hT⟩

theorem contChar_text (o : Opts) (pol : Pol) {m0 : Mach} (hT : TextSt m0) (r : Option Char × Mach × Str)
    (hk : Keep CE m0 r.2.1) : RText m0 (contChar o pol r) := by
  obtain ⟨c, m1, i1⟩ := r
  cases c with
  | none => exact RText_suspend (TRes_keep hT hk) _
  | some c => exact RText_ofSig (TRes_trans hk (transChar_text o pol (TextSt_keep hk hT) c)) i1

theorem contSet_text (o : Opts) (pol : Pol) {m0 : Mach} (hT : TextSt m0) (r : Option SetRes × Mach × Str)
    (hk : Keep CE m0 r.2.1) : RText m0 (contSet o pol r) := by
  obtain ⟨c, m1, i1⟩ := r
  cases c with
  | none => exact RText_suspend (TRes_keep hT hk) _
  | some c => exact RText_ofSig (TRes_trans hk (transSet_text o pol (TextSt_keep hk hT) c)) i1

theorem stepCharRef_text (o : Opts) {m : Mach} (hT : TextSt m) (inp : Str) (cr : CharRefSt)
    (hcr : m.charRef = some cr) : RText m (stepCharRef o m inp cr) := by
  unfold stepCharRef
  have h1 := crStep_crk (P := CE) o m inp cr
  have hok : CrOk cr := hT.2 cr hcr
  generalize crStep o m inp cr = r at h1
  cases r with
  | error e => exact RText_panic _
  | ok v =>
    obtain ⟨m1, i1, c1, s1⟩ := v
    obtain ⟨hk, h2⟩ := h1
    obtain ⟨hc1, hd⟩ := h2 hok
    cases s1 with
    | stuck =>
      refine RText_suspend (TRes_keepCr hT hk _ ?_) _
      intro c e; cases e; exact hc1
    | progress =>
      refine RText_cont (TRes_keepCr hT hk _ ?_) _
      intro c e; cases e; exact hc1
    | done chars =>
      dsimp only
      refine RText_ofSig (y := ((processCharRef m1 chars).1.setCharRef none, _))
        (TRes_keepCr hT (processCharRef_keep_ne hk chars hd) none ?_) i1
      intro c e; cases e

theorem TRes_toTag {m x : Mach} (hT : TextSt m) (hk : Keep CE m x) (htk : m.tagKind = .endTag) (s : State)
    (hs : stOk s .endTag = true) : TRes m (to s x) := by
  refine TRes_ok hT.2 (Gr_to hk.1 s) ?_ hk.2.2.2
  show stOk s x.tagKind = true
  rw [hk.2.2.1, htk]
  exact hs

theorem stepBav_text (o : Opts) (pol : Pol) {m : Mach} (hT : TextSt m) (hs : m.state = .beforeAttributeValue)
    (inp : Str) : RText m (stepBav o pol m inp) := by
  have htk : m.tagKind = .endTag := by
    obtain ⟨hst, _⟩ := (textSt_iff m).mp hT
    rw [hs] at hst
    exact stOk_tk hst rfl
  have h := Keep.refl CE m
  unfold stepBav
  cases peek m inp with
  | none => exact RText_suspend (TRes_keep hT h) _
  | some c =>
    dsimp only
    have hm : Keep CE m (if m.ignoreLf = true then m.setIgnoreLf false else m) := by
      split <;> exact h
    generalize (if m.ignoreLf = true then m.setIgnoreLf false else m) = m' at hm
    have hd := Keep_discardChar hm inp
    split
    · exact RText_cont (TRes_keep hT hd) _
    · split
      · have hg := getChar_keep o hm inp
        generalize getChar o m' inp = r at hg
        obtain ⟨c1, m1, i1⟩ := r
        cases c1
        · exact RText_suspend (TRes_keep hT hg) _
        · exact RText_cont (TRes_keep hT hg) _
      · repeat' split
        all_goals
          first
          | exact RText_cont (TRes_keep hT hd) _
          | exact RText_cont (TRes_toTag hT hd htk _ rfl) _
          | exact RText_cont (TRes_toTag hT hm htk _ rfl) _
          | exact RText_ofSig (TRes_emitTag (Gr_badChar hd.1 o)
              (by rw [tk_badChar, hd.2.2.1]; exact htk) pol _) _

theorem readKind_simd {s : State} (h : readKind s = .dataSimd) : s = .data := by
  cases s <;> simp [readKind] at h ⊢

theorem readKind_bav {s : State} (h : readKind s = .peekBav) : s = .beforeAttributeValue := by
  cases s <;> simp [readKind] at h ⊢

theorem TextSt_not {m : Mach} (hT : TextSt m) {s : State} (hs : m.state = s) (hf : (RawFam s || TagFam s) = false) :
    False := by
  obtain ⟨hst, _⟩ := (textSt_iff m).mp hT
  have := stOk_fam hst
  rw [hs, hf] at this
  cases this

theorem step_text (o : Opts) (pol : Pol) {m : Mach} (hT : TextSt m) (inp : Str) : RText m (step o pol m inp) := by
  cases hcr : m.charRef with
  | some cr =>
    rw [step_kind_charRef o pol m inp cr hcr]
    exact stepCharRef_text o hT inp cr hcr
  | none =>
    cases hrk : readKind m.state with
    | getChar =>
      rw [step_getChar o pol m inp hcr hrk]
      exact contChar_text o pol hT _ (getChar_keep o (Keep.refl CE m) inp)
    | popExcept =>
      rw [step_popExcept o pol m inp hcr hrk]
      exact contSet_text o pol hT _ (popExceptFrom_keep o _ (Keep.refl CE m) inp)
    | dataSimd => exact (TextSt_not hT (readKind_simd hrk) rfl).elim
    | peekBav =>
      rw [step_kind_bav o pol m inp hcr hrk]
      exact stepBav_text o pol hT (readKind_bav hrk) inp
    | eatMdo => exact (TextSt_not hT (readKind_mdo hrk) rfl).elim
    | eatAdn => exact (TextSt_not hT (readKind_adn hrk) rfl).elim

end RF

/-- a step from a text state: only allowed tokens; and if no tag was delivered the machine is in a text state
again -/
theorem step_textSt (o : Opts) (pol : Pol) (m : Mach) (inp : Str) (h : TextSt m) (m1 : Mach) (i1 : Str)
    (hs : (step o pol m inp).pair? = some (m1, i1)) :
    ∃ new, m1.out = new ++ m.out ∧ (∀ p ∈ new, AllowedInText p.1) ∧
      ((∀ p ∈ new, isTagTok p.1 = false) → TextSt m1) :=
  RF.step_text o pol h inp m1 i1 hs

/-! ### `eof_step` -/

namespace RF

/-- the `eof_step` table, any state: the log grows by `P`-tokens -/
theorem transEof_gr {P : Token → Prop} [PC P] [PN P] [PD P] [PE P] (o : Opts) {m0 m : Mach} (h : Gr P m0 m) :
    Gr P m0 (transEof o m).1 := by
  unfold transEof
  split <;> (try dsimp only) <;>
    first
    | exact Gr_emit h _ PE.eof
    | rfg_chain h

theorem eofLoop_gr {P : Token → Prop} [PC P] [PN P] [PD P] [PE P] (o : Opts) :
    ∀ (n : Nat) {m0 m : Mach}, Gr P m0 m → ∀ mf, eofLoop o n m = .ok mf → Gr P m0 mf := by
  intro n
  induction n with
  | zero => intro m0 m _ mf e; cases e
  | succ n ih =>
    intro m0 m h mf e
    unfold eofLoop at e
    have ht := transEof_gr (P := P) o h
    generalize transEof o m = r at ht e
    obtain ⟨m1, s1⟩ := r
    cases s1 with
    | cont => exact ih ht mf e
    | done =>
      simp only [Except.ok.injEq] at e
      subst e
      exact ht
    | panic x => cases e

/-- allowed in the "text" insertion mode, or the end-of-file token -/
def CEE (t : Token) : Prop := AllowedInText t ∨ t = .eof

instance : PC CEE := ⟨fun _ => Or.inl trivial, fun _ => Or.inl trivial⟩
instance : PE CEE := ⟨Or.inr rfl⟩

/-- the states `eof_step` runs through when started in a text state -/
def eofFam (s : State) : Bool := RawFam s || TagFam s || s == .data

theorem transEof_text (o : Opts) {m0 m : Mach} (hf : eofFam m.state = true) (hg : Gr CEE m0 m) :
    Gr CEE m0 (transEof o m).1 ∧ ((transEof o m).2 = .cont → eofFam (transEof o m).1.state = true) := by
  unfold transEof
  generalize hs : m.state = s at hf ⊢
  cases s <;> first | (exfalso; simp [eofFam, RawFam, TagFam] at hf; done) | skip
  all_goals (try (rename_i k; cases k))
  all_goals (try (rename_i k; cases k))
  all_goals (dsimp only)
  all_goals
    first
    | exact ⟨Gr_emit hg _ PE.eof, fun e => nomatch e⟩
    | exact ⟨by rfg_chain hg, fun _ => rfl⟩

theorem eofLoop_text (o : Opts) :
    ∀ (n : Nat) {m0 m : Mach}, eofFam m.state = true → Gr CEE m0 m → ∀ mf, eofLoop o n m = .ok mf → Gr CEE m0 mf := by
  intro n
  induction n with
  | zero => intro m0 m _ _ mf e; cases e
  | succ n ih =>
    intro m0 m hf h mf e
    unfold eofLoop at e
    have ht := transEof_text o hf h
    generalize transEof o m = r at ht e
    obtain ⟨m1, s1⟩ := r
    cases s1 with
    | cont => exact ih (ht.2 rfl) ht.1 mf e
    | done =>
      simp only [Except.ok.injEq] at e
      subst e
      exact ht.1
    | panic x => cases e

theorem textSt_eofFam {m : Mach} (h : TextSt m) : eofFam m.state = true := by
  obtain ⟨hst, _⟩ := (textSt_iff m).mp h
  have := stOk_fam hst
  unfold RF.eofFam
  rw [this]; rfl

end RF

/-- end of input from a text state: `eof_step` delivers character tokens, parse errors and the EOF token only -/
theorem eofLoop_textSt (o : Opts) (n : Nat) (m m' : Mach) (h : TextSt m) (he : eofLoop o n m = .ok m') :
    ∃ new, m'.out = new ++ m.out ∧ ∀ p ∈ new, AllowedInText p.1 ∨ p.1 = .eof :=
  RF.eofLoop_text o n (RF.textSt_eofFam h) (RF.Gr.refl _ m) m' he

/-- from ANY machine, `eof_step` delivers no tag token -/
theorem eofLoop_no_tag (o : Opts) (n : Nat) (m m' : Mach) (he : eofLoop o n m = .ok m') :
    ∃ new, m'.out = new ++ m.out ∧ ∀ p ∈ new, isTagTok p.1 = false :=
  RF.eofLoop_gr (P := RF.NTag) o n (RF.Gr.refl _ m) m' he

/-! ### the flush of a pending character reference at the start of `Tokenizer::end` -/

namespace RF

section
variable {P : Token → Prop} [PC P] {m x : Mach}

theorem crEofOnceE_crk (o : Opts) {cr0 cr : CharRefSt} (hk : Keep P m x) (hc : CrOk cr0 → CrOk cr) (inp : Str) :
    CRK P m cr0 (crEofOnceE o x inp cr) := by
  unfold crEofOnceE unconsumeNumeric
  split <;> (repeat' split) <;>
    first
    | trivial
    | exact finishNumericStatus_crk o (Keep_emitErr hk _) hc _
    | exact finishNamed_crk o hk hc _ _
    | rfk_leaf hk hc

/-- result of the char-ref tokenizer's `end_of_file` -/
def CEK (P : Token → Prop) (m : Mach) (cr : CharRefSt) : Except String (Mach × Str × Str) → Prop
  | .ok v => Keep P m v.1 ∧ (CrOk cr → ∀ c ∈ v.2.2, c ≠ '\x00')
  | .error _ => True

omit [PC P] in
theorem crEofLast_cek {cr : CharRefSt} {r : CRRes} (h : CRK P m cr r) : CEK P m cr (crEofLast r) := by
  cases r with
  | error e => trivial
  | ok v =>
    obtain ⟨m1, i1, c1, s1⟩ := v
    cases s1 with
    | done chars => exact ⟨h.1, fun hc => (h.2 hc).2⟩
    | stuck => exact ⟨h.1, fun _ _ hm => by cases hm⟩
    | progress => exact ⟨h.1, fun _ _ hm => by cases hm⟩

theorem crEofDrive_cek (o : Opts) {cr : CharRefSt} {r : CRRes} (h : CRK P m cr r) : CEK P m cr (crEofDrive o r) := by
  cases r with
  | error e => trivial
  | ok v =>
    obtain ⟨m1, i1, c1, s1⟩ := v
    cases s1 with
    | done chars => exact ⟨h.1, fun hc => (h.2 hc).2⟩
    | stuck => exact ⟨h.1, fun _ _ hm => by cases hm⟩
    | progress => exact crEofLast_cek (crEofOnceE_crk o h.1 (fun hc => (h.2 hc).1) _)

theorem crEof_cek (o : Opts) (m : Mach) (inp : Str) (cr : CharRefSt) : CEK P m cr (crEof o m inp cr) := by
  rw [crEof_eqE]
  exact crEofDrive_cek o (crEofOnceE_crk o (Keep.refl P m) id inp)

end

/-- character tokens, parse errors and the U+0000 token -/
def CEN (t : Token) : Prop := (∃ x, t = .chars x) ∨ (∃ e, t = .error e) ∨ t = .nullChar

instance : PC CEN := ⟨fun s => Or.inr (Or.inl ⟨s, rfl⟩), fun s => Or.inl ⟨s, rfl⟩⟩
instance : PN CEN := ⟨Or.inr (Or.inr rfl)⟩

theorem CEN.noTag {t : Token} (h : CEN t) : isTagTok t = false := by
  rcases h with ⟨x, rfl⟩ | ⟨e, rfl⟩ | rfl <;> rfl

end RF

/-- the flush of a pending character reference at the start of `Tokenizer::end`, with the no-tag fact packaged: it
delivers character tokens and parse errors only (and, from an unreachable `cr`, possibly the
U+0000 token), no tag token, and the state register is unchanged (from ANY machine) -/
theorem crEof_processCharRef_noTag (o : Opts) (m : Mach) (cr : CharRefSt) (ma : Mach) (inp chars : Str) (mb : Mach)
    (sg : Sig) (h1 : crEof o m [] cr = .ok (ma, inp, chars))
    (h2 : processCharRef (ma.setCharRef none) chars = (mb, sg)) :
    ∃ new, mb.out = new ++ m.out ∧
      (∀ p ∈ new, (∃ x, p.1 = .chars x) ∨ (∃ e, p.1 = .error e) ∨ p.1 = .nullChar) ∧
      (∀ p ∈ new, isTagTok p.1 = false) ∧
      mb.state = m.state ∧ mb.tagKind = m.tagKind := by
  have hc := RF.crEof_cek (P := RF.CEN) o m [] cr
  rw [h1] at hc
  have hp := RF.processCharRef_keep (RF.Keep.refl RF.CEN (ma.setCharRef none)) chars
  rw [h2] at hp
  obtain ⟨hg2, e1, e2, _⟩ := hp
  obtain ⟨n, e, p⟩ := (RF.Gr_setCharRef hc.1.1 none).trans hg2
  exact ⟨n, e, p, fun q hq => (p q hq).noTag, e1.trans hc.1.2.1, e2.trans hc.1.2.2.1⟩

/-- the flush of a pending character reference at the start of `Tokenizer::end`: character tokens and parse
errors only (and, from an unreachable `cr`, possibly the U+0000 token), and the state register is unchanged (from
ANY machine) -/
theorem crEof_processCharRef_out (o : Opts) (m : Mach) (cr : CharRefSt) (ma : Mach) (inp chars : Str) (mb : Mach)
    (sg : Sig) (h1 : crEof o m [] cr = .ok (ma, inp, chars))
    (h2 : processCharRef (ma.setCharRef none) chars = (mb, sg)) :
    ∃ new, mb.out = new ++ m.out ∧
      (∀ p ∈ new, (∃ x, p.1 = .chars x) ∨ (∃ e, p.1 = .error e) ∨ p.1 = .nullChar) ∧
      mb.state = m.state ∧ mb.tagKind = m.tagKind := by
  obtain ⟨n, e, p, _, e1, e2⟩ := crEof_processCharRef_noTag o m cr ma inp chars mb sg h1 h2
  exact ⟨n, e, p, e1, e2⟩

/-! ### the invariant `CrInv`, entering and keeping `TextSt` -/

theorem crInv_of_none {m : Mach} (h : m.charRef = none) : CrInv m := by
  intro cr hcr
  rw [h] at hcr
  cases hcr

theorem crInv_clr (m : Mach) : CrInv (clr m) ↔ CrInv m := Iff.rfl
theorem crInv_setAtEof (m : Mach) (b : Bool) : CrInv (m.setAtEof b) ↔ CrInv m := Iff.rfl
theorem textSt_clr (m : Mach) : TextSt (clr m) ↔ TextSt m := Iff.rfl
theorem textSt_setAtEof (m : Mach) (b : Bool) : TextSt (m.setAtEof b) ↔ TextSt m := Iff.rfl

/-- entering the "text" insertion mode: the sink answered a start tag with `RawData k` -/
theorem textSt_of_rawData {m : Mach} {k : RawKind} (hs : m.state = .rawData k) (hc : CrInv m) : TextSt m := by
  refine ⟨Or.inl ⟨by rw [hs]; rfl, fun hn => ?_⟩, hc⟩
  rw [hs] at hn
  cases hn

/-- EVERY step, from every machine, preserves `CrInv` -/
theorem step_crInv (o : Opts) (pol : Pol) (m : Mach) (inp : Str) (h : CrInv m) (m1 : Mach) (i1 : Str)
    (hs : (step o pol m inp).pair? = some (m1, i1)) : CrInv m1 := by
  cases hcr : m.charRef with
  | none =>
    rcases step_charRef_after o pol m inp hcr m1 i1 hs with e | ⟨b, e⟩
    · exact crInv_of_none e
    · intro cr hc
      rw [e] at hc
      simp only [Option.some.injEq] at hc
      subst hc
      exact RF.CrOk_fresh b
  | some cr =>
    rw [step_kind_charRef o pol m inp cr hcr] at hs
    unfold stepCharRef at hs
    have h1 := RF.crStep_crk (P := RF.NTag) o m inp cr
    have hok : CrOk cr := h cr hcr
    generalize crStep o m inp cr = r at h1 hs
    cases r with
    | error e => simp [R.pair?] at hs
    | ok v =>
      obtain ⟨m2, i2, c2, s2⟩ := v
      obtain ⟨_, h2⟩ := h1
      obtain ⟨hc2, _⟩ := h2 hok
      cases s2 with
      | stuck =>
        simp only [R.pair?, Option.some.injEq, Prod.mk.injEq] at hs
        obtain ⟨rfl, _⟩ := hs
        intro c e; cases e; exact hc2
      | progress =>
        simp only [R.pair?, Option.some.injEq, Prod.mk.injEq] at hs
        obtain ⟨rfl, _⟩ := hs
        intro c e; cases e; exact hc2
      | done chars =>
        dsimp only at hs
        obtain ⟨e1, _⟩ := ofSig_pair _ _ _ _ hs
        subst e1
        exact crInv_of_none rfl

/-- the end-of-input flush of a pending character reference from a text state: character tokens and parse
errors only (no U+0000 token), and the machine stays in a text state -/
theorem crEof_processCharRef_textSt_full (o : Opts) (m : Mach) (h : TextSt m) (cr : CharRefSt) (ma : Mach)
    (inp chars : Str) (mb : Mach) (sg : Sig) (hcr : m.charRef = some cr)
    (h1 : crEof o m [] cr = .ok (ma, inp, chars)) (h2 : processCharRef (ma.setCharRef none) chars = (mb, sg)) :
    ∃ new, mb.out = new ++ m.out ∧ (∀ p ∈ new, AllowedInText p.1) ∧ (∀ p ∈ new, isTagTok p.1 = false) ∧
      (∀ p ∈ new, (∃ x, p.1 = .chars x) ∨ (∃ e, p.1 = .error e)) ∧
      mb.state = m.state ∧ mb.tagKind = m.tagKind ∧ mb.charRef = none ∧
      TextSt mb ∧ TextSt (clr mb) ∧ TextSt ((clr mb).setAtEof true) := by
  have hc := RF.crEof_cek (P := RF.CE) o m [] cr
  rw [h1] at hc
  have hok : CrOk cr := h.2 cr hcr
  have hk : RF.Keep RF.CE m ma := hc.1
  have hp := RF.processCharRef_keep_ne (RF.Keep.refl RF.CE (ma.setCharRef none)) chars (hc.2 hok)
  rw [h2] at hp
  obtain ⟨⟨n1, e1, p1⟩, s1, t1, c1⟩ := hk
  obtain ⟨⟨n2, e2, p2⟩, s2, t2, c2⟩ := hp
  have hst : mb.state = m.state := s2.trans s1
  have htk : mb.tagKind = m.tagKind := t2.trans t1
  have hcn : mb.charRef = none := c2
  have hT : TextSt mb := by
    obtain ⟨hso, _⟩ := (RF.textSt_iff m).mp h
    exact (RF.textSt_iff mb).mpr ⟨by rw [hst, htk]; exact hso, crInv_of_none hcn⟩
  have hall : ∀ p ∈ n2 ++ n1, RF.CE p.1 := by
    intro q hq
    rcases List.mem_append.mp hq with hq | hq
    · exact p2 q hq
    · exact p1 q hq
  refine ⟨n2 ++ n1, ?_, fun q hq => (hall q hq).allowed, fun q hq => (hall q hq).noTag, ?_, hst, htk, hcn, hT, hT, hT⟩
  · rw [e2]
    show n2 ++ ma.out = _
    rw [e1, List.append_assoc]
  · intro q hq
    have := hall q hq
    revert this
    cases q.1 <;> intro hce <;> first | exact Or.inl ⟨_, rfl⟩ | exact Or.inr ⟨_, rfl⟩ | cases hce

/-- short form -/
theorem crEof_processCharRef_textSt (o : Opts) (m : Mach) (h : TextSt m) (cr : CharRefSt) (ma : Mach)
    (inp chars : Str) (mb : Mach) (sg : Sig) (hcr : m.charRef = some cr)
    (h1 : crEof o m [] cr = .ok (ma, inp, chars)) (h2 : processCharRef (ma.setCharRef none) chars = (mb, sg)) :
    ∃ new, mb.out = new ++ m.out ∧ (∀ p ∈ new, AllowedInText p.1) ∧ (∀ p ∈ new, isTagTok p.1 = false) ∧
      TextSt (clr mb) ∧ TextSt ((clr mb).setAtEof true) := by
  obtain ⟨new, e, a, b, _, _, _, _, _, t1, t2⟩ :=
    crEof_processCharRef_textSt_full o m h cr ma inp chars mb sg hcr h1 h2
  exact ⟨new, e, a, b, t1, t2⟩

end H5V.Lemmas.ParseSpec
