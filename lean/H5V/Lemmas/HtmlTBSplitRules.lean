import H5V.Lemmas.HtmlTBSplitActions
/-!
C03 lifted to the tree: every rule of `H5V.Model.HtmlTB.Rules` respects `Sim`.

The per-mode step functions get `stepX_resp (token) : RespQ (ResOK token) (stepX token)`.
`stepInTableText` (and its two flush loops) read `pendingTableText`, which `Sim` does not fix; they are
not treated here: the final theorems `step_resp` / `stepForeign_resp` take `InTableTextOK` as a hypothesis.
-/
namespace H5V.Lemmas.TBSplit
open H5V.Model.Dom (Id QualName Attr NodeOrText SinkOp Output ElementFlags QuirksMode Dom)
open H5V.Model.HtmlTok (TagKind RawKind)
open H5V.Model.HtmlTB

/-! ### Initial, BeforeHtml -/

@[resp]
theorem extractEncoding_resp (c : Str) : Resp (extractEncoding c) := by
  unfold extractEncoding; resp_auto

@[resp]
theorem stepInitial_resp (token : Token) : RespQ (ResOK token) (stepInitial token) := by
  unfold stepInitial; resp_auto

@[resp]
theorem stepBeforeHtml_resp (token : Token) : RespQ (ResOK token) (stepBeforeHtml token) := by
  unfold stepBeforeHtml; resp_auto

/-! ### the `<html>` start tag, handled alike in every mode -/

@[resp]
theorem inBodyHtml_done (tag : Tag) : RespQ (· = .done) (inBodyHtml tag) := by
  unfold inBodyHtml; resp_auto
@[resp]
theorem inBodyHtml_resp (tag : Tag) : Resp (inBodyHtml tag) := respQ_resp (inBodyHtml_done tag)

/-! ### InHead -/

@[resp]
theorem shouldAttachDeclarativeShadow_resp (tag : Tag) : Resp (shouldAttachDeclarativeShadow tag) := by
  unfold shouldAttachDeclarativeShadow; resp_auto

@[resp]
theorem stepInHead_resp (token : Token) : RespQ (ResOK token) (stepInHead token) := by
  unfold stepInHead; resp_auto

/-! ### `inTemplateEof`, to which the EOF arms of InBody and InTemplate delegate -/

/-- the answer of `inTemplateEof` is `Done` or `Reprocess(_, EOF)` -/
def EofRes : ProcessResult → Prop
  | .done => True
  | .reprocess _ t => t = .eof
  | _ => False

theorem EofRes.ok {t : Token} {r : ProcessResult} (h : EofRes r) : ResOK t r := by
  cases r <;> first | trivial | exact h.elim | exact Or.inr h

@[resp]
theorem unexpected_eofRes : RespQ EofRes unexpected :=
  respQ_weaken unexpected_done (fun _ h => by subst h; trivial)

theorem inTemplateEof_eofRes : RespQ EofRes inTemplateEof := by
  unfold inTemplateEof; resp_auto
@[resp]
theorem inTemplateEof_ok (t : Token) : RespQ (ResOK t) inTemplateEof :=
  respQ_weaken inTemplateEof_eofRes (fun _ h => h.ok)
@[resp]
theorem inTemplateEof_resp : Resp inTemplateEof := respQ_resp inTemplateEof_eofRes

/-! ### InBody -/

@[resp]
theorem inBodyVoid_notRe (tag : Tag) : RespQ NotRe (inBodyVoid tag) := by
  unfold inBodyVoid; resp_auto
@[resp]
theorem inBodyVoid_resp (tag : Tag) : Resp (inBodyVoid tag) := respQ_resp (inBodyVoid_notRe tag)

@[resp]
theorem listCloseSearch_resp (list : Bool) : ∀ l, Resp (listCloseSearch list l)
  | [] => by unfold listCloseSearch; resp_auto
  | node :: rest => by
    have ih := listCloseSearch_resp list rest
    unfold listCloseSearch; resp_auto

@[resp]
theorem findOption_resp : ∀ l, Resp (findOption l)
  | [] => by unfold findOption; resp_auto
  | e :: rest => by
    have ih := findOption_resp rest
    unfold findOption; resp_auto

@[resp]
theorem anySameNode_resp (x : Id) : ∀ l, Resp (anySameNode x l)
  | [] => by unfold anySameNode; resp_auto
  | e :: rest => by
    have ih := anySameNode_resp x rest
    unfold anySameNode; resp_auto

@[resp]
theorem contextIsSelect_resp (site : String) : Resp (contextIsSelect site) := by
  unfold contextIsSelect; resp_auto

theorem isOneOf_sub {n : Str} {l l' : List String} (h : isOneOf n l = true) (hs : ∀ x ∈ l, x ∈ l') :
    isOneOf n l' = true := by
  unfold isOneOf at *
  rw [List.any_eq_true] at *
  obtain ⟨x, hx, hn⟩ := h
  exact ⟨x, hs x hx, hn⟩

theorem isStart_sub {tag : Tag} {l : List String} (h : tag.isStart l = true) (hs : ∀ x ∈ l, x ∈ fmtNames) :
    isOneOf tag.name fmtNames = true := by
  unfold Tag.isStart at h
  rw [Bool.and_eq_true] at h
  exact isOneOf_sub h.2 hs

/-- the `</form>` arm outside templates (rules.rs:640): `form_elem.take()` -/
theorem formEndTag_resp {Q : ProcessResult → Prop} (hQ : Q .done) : RespQ Q (do
    let s ← getS
    match s.formElem with
    | none =>
      parseError "Null form element pointer on </form>"
      pure .done
    | some node =>
      set { s with formElem := none }
      if !(← inScope defaultScope (fun n => sameNode node n)) then
        parseError "Form element not in scope on </form>"
        pure .done
      else
        generateImpliedEndTags cursoryImpliedEnd
        let current ← currentNode
        removeFromStack node
        if !(← sameNode current node) then parseError "Bad open element on </form>"
        pure .done : M ProcessResult) := by
  refine respQ_getS_bind_diag ?_
  intro s t hst
  obtain ⟨hi, tr, cl, er, pt, rfl, hp⟩ := hst
  dsimp only
  cases s.formElem with
  | none =>
    have : RespQ Q (do parseError "Null form element pointer on </form>"; pure .done : M ProcessResult) := by resp_auto
    exact this _ _ (sim_upd_of hi hp)
  | some node =>
    refine relR_set_bind (sim_upd_of (s := { s with formElem := none }) hi hp) ?_
    resp_auto

@[resp]
theorem stepInBody_resp (token : Token) : RespQ (ResOK token) (stepInBody token) := by
  unfold stepInBody
  split
  all_goals repeat' (with_reducible refine respQ_ite (fun _ => ?_) (fun _ => ?_))
  all_goals first
    | -- `</form>` outside a template takes the form element pointer: not a stable read of the state
      (refine respQ_bind (P := fun _ => True) (inHtmlElemNamed_resp _) fun _ _ =>
          respQ_ite (fun _ => formEndTag_resp trivial) fun _ => ?_
       resp_auto)
    | resp_auto
  -- left over: the start tags of formatting elements, whose names are in `fmtNames`
  all_goals exact createFormattingElementFor_resp _ (isStart_sub (by assumption) (by simp [fmtNames]))

/-! ### BeforeHead, InHeadNoscript, AfterHead -/

@[resp]
theorem stepBeforeHead_resp (token : Token) : RespQ (ResOK token) (stepBeforeHead token) := by
  unfold stepBeforeHead; resp_auto

@[resp]
theorem stepInHeadNoscript_resp (token : Token) : RespQ (ResOK token) (stepInHeadNoscript token) := by
  unfold stepInHeadNoscript; resp_auto

@[resp]
theorem stepAfterHead_resp (token : Token) : RespQ (ResOK token) (stepAfterHead token) := by
  unfold stepAfterHead; resp_auto

/-! ### Text -/

/-- `orig_mode.take().unwrap()` followed by a state update that `Sim` tolerates -/
theorem respQ_takeOrig {β : Type} {Q : β → Prop} (a b c : String) (g : State → Mode → State)
    (k : Mode → M β)
    (hc : ∀ m s tr cl er pt, g (upd s tr cl er pt) m = upd (g s m) tr cl er pt)
    (haf : ∀ m s, AFInv s → AFInv (g s m)) (hpt : ∀ m s, (g s m).pendingTableText = s.pendingTableText)
    (hk : ∀ m, RespQ Q (k m)) :
    RespQ Q (getS >>= fun s => match s.origMode with
      | none => panicAt a b c
      | some m => (set (g s m) : M PUnit) >>= fun _ => k m) := by
  refine respQ_getS_bind_diag ?_
  intro s t hst
  have ho := hst.origMode
  rw [← ho]
  cases s.origMode with
  | none => trivial
  | some m =>
    exact relR_set_bind (sim_of_comm (g := fun s => g s m) (hc m) (haf m) (hpt m) hst) (hk m)

@[resp]
theorem stepText_resp (token : Token) : RespQ (ResOK token) (stepText token) := by
  unfold stepText
  repeat' first
    | (refine respQ_takeOrig _ _ _ _ _ ?_ ?_ ?_ ?_ <;>
        first | exact fun _ _ _ _ _ _ => rfl | exact fun _ _ h => h | exact fun _ _ => rfl | skip)
    | resp_step

/-! ### tables -/

@[resp]
theorem fosterParentInBody_resp (token : Token) : RespQ (ResOK token) (fosterParentInBody token) := by
  unfold fosterParentInBody; resp_auto

@[resp]
theorem processCharsInTable_resp (token : Token) :
    RespQ (ResOK token) (processCharsInTable token) := by
  unfold processCharsInTable
  refine respQ_bind (P := fun _ => True) (currentNodeIn_resp _) (fun b _ => ?_)
  refine respQ_ite (fun _ => ?_) (fun _ => ?_)
  · refine respQ_getS_bind_diag ?_
    intro s t hst
    have he := hst.pend.isEmpty_eq
    dsimp only
    rw [← he]
    generalize s.pendingTableText.isEmpty = e
    refine (show RespQ _ _ from ?_) s t hst
    resp_auto
  · resp_auto

@[resp]
theorem stepInTable_resp (token : Token) : RespQ (ResOK token) (stepInTable token) := by
  unfold stepInTable; resp_auto

@[resp]
theorem stepInCaption_resp (token : Token) : RespQ (ResOK token) (stepInCaption token) := by
  unfold stepInCaption; resp_auto

@[resp]
theorem stepInColumnGroup_resp (token : Token) : RespQ (ResOK token) (stepInColumnGroup token) := by
  unfold stepInColumnGroup; resp_auto

@[resp]
theorem stepInTableBody_resp (token : Token) : RespQ (ResOK token) (stepInTableBody token) := by
  unfold stepInTableBody; resp_auto

@[resp]
theorem popTr_resp (site : String) : Resp (popTr site) := by
  unfold popTr; resp_auto

@[resp]
theorem stepInRow_resp (token : Token) : RespQ (ResOK token) (stepInRow token) := by
  unfold stepInRow; resp_auto

@[resp]
theorem stepInCell_resp (token : Token) : RespQ (ResOK token) (stepInCell token) := by
  unfold stepInCell; resp_auto

/-! ### InTemplate, AfterBody, framesets, after-after -/

@[resp]
theorem setTemplateMode_resp (m : Mode) : Resp (setTemplateMode m) := by
  unfold setTemplateMode; resp_auto

@[resp]
theorem stepInTemplate_resp (token : Token) : RespQ (ResOK token) (stepInTemplate token) := by
  unfold stepInTemplate; resp_auto

@[resp]
theorem stepAfterBody_resp (token : Token) : RespQ (ResOK token) (stepAfterBody token) := by
  unfold stepAfterBody; resp_auto

@[resp]
theorem stepInFrameset_resp (token : Token) : RespQ (ResOK token) (stepInFrameset token) := by
  unfold stepInFrameset; resp_auto

@[resp]
theorem stepAfterFrameset_resp (token : Token) : RespQ (ResOK token) (stepAfterFrameset token) := by
  unfold stepAfterFrameset; resp_auto

@[resp]
theorem stepAfterAfterBody_resp (token : Token) : RespQ (ResOK token) (stepAfterAfterBody token) := by
  unfold stepAfterAfterBody; resp_auto

@[resp]
theorem stepAfterAfterFrameset_resp (token : Token) :
    RespQ (ResOK token) (stepAfterAfterFrameset token) := by
  unfold stepAfterAfterFrameset; resp_auto

/-! ### the dispatch -/

/-- the part not treated here: `stepInTableText` reads the pending table text, which `Sim` does not fix -/
def InTableTextOK : Prop := ∀ token, TokOK token → RespQ (ResOK token) (stepInTableText token)

theorem step_resp (hT : InTableTextOK) (mode : Mode) (token : Token) (ht : TokOK token) :
    RespQ (ResOK token) (step mode token) := by
  have h := hT token ht
  unfold step; resp_auto

/-! ### foreign content -/

theorem unexpectedStartTagInForeignContent_resp (hT : InTableTextOK) (tag : Tag) :
    RespQ (ResOK (.tag tag)) (unexpectedStartTagInForeignContent tag) := by
  have h := fun m => step_resp hT m (.tag tag) trivial
  unfold unexpectedStartTagInForeignContent; resp_auto
  all_goals exact h _

theorem foreignEndTagLoop_resp (hT : InTableTextOK) (tag : Tag) :
    ∀ n b, RespQ (ResOK (.tag tag)) (foreignEndTagLoop tag n b)
  | 0, _ => by
    have h := fun m => step_resp hT m (.tag tag) trivial
    unfold foreignEndTagLoop; resp_auto
    all_goals exact h _
  | n + 1, b => by
    have ih := foreignEndTagLoop_resp hT tag n false
    have h := fun m => step_resp hT m (.tag tag) trivial
    unfold foreignEndTagLoop; resp_auto
    all_goals exact h _

theorem stepForeign_resp (hT : InTableTextOK) (token : Token) (ht : TokOK token) :
    RespQ (ResOK token) (stepForeign token) := by
  unfold stepForeign
  split
  rotate_left 4
  · rename_i tag
    have h1 := unexpectedStartTagInForeignContent_resp hT tag
    have h2 := foreignEndTagLoop_resp hT tag
    resp_auto
  all_goals resp_auto

end H5V.Lemmas.TBSplit
