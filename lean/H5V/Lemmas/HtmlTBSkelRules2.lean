import H5V.Lemmas.HtmlTBSkelRules
/-!
C06 (skeleton invariant): the remaining insertion modes (Text, the table modes, InTemplate,
AfterBody, the frameset modes, the after-after modes).
-/
namespace H5V.Props.C06
open H5V.Model.Dom hiding Str
open H5V.Model.HtmlTB hiding Str
open H5V.Lemmas.Dom

/-! ### Text -/

/-- leaving Text / InTableText: the original mode is a late one -/
theorem presRA_restoreOrig {s : State} {m : Mode} {tok : Token} (hm : s.origMode = some m) [ht : TokOk tok] :
    PresRA s ((set { s with origMode := none } : M Unit) >>= fun _ => pure (ProcessResult.reprocess m tok)) := by
  constructor
  intro hl a s' e
  obtain ⟨u, s1, e1, e2⟩ := bind_ok.mp e
  rw [set_ok.mp e1] at e2
  obtain ⟨rfl, rfl⟩ := pure_ok.mp e2
  refine ⟨⟨⟨hl.base, hl.pat, ⟨hl.st.doc, hl.st.ctx, hl.st.oe, hl.st.tail, hl.st.head, hl.st.ptt⟩,
    ⟨hl.ml.mode, (by intro m' hm'; cases hm'), hl.ml.tm⟩⟩, Ext.refl _⟩, hl.ml.orig m hm, ht⟩

theorem presRA_restoreOrigMode {s : State} {m : Mode} {f : Unit → M ProcessResult} (hm : s.origMode = some m)
    (h : ∀ u, PresR (f u)) : PresRA s ((set { s with origMode := none, mode := m } : M Unit) >>= f) := by
  constructor
  intro hl a s' e
  obtain ⟨u, s1, e1, e2⟩ := bind_ok.mp e
  rw [set_ok.mp e1] at e2
  have hl1 : Late { s with origMode := none, mode := m } :=
    ⟨hl.base, hl.pat, ⟨hl.st.doc, hl.st.ctx, hl.st.oe, hl.st.tail, hl.st.head, hl.st.ptt⟩,
     ⟨hl.ml.orig m hm, (by intro m' hm'; cases hm'), hl.ml.tm⟩⟩
  exact (h u).p { s with origMode := none, mode := m } a s' hl1 e2

macro_rules
  | `(tactic| tb_step) => `(tactic|
    first
      | (with_reducible apply presRA_restoreOrig; assumption)
      | (with_reducible apply presRA_restoreOrigMode; assumption))

instance (token : Token) [TokOk token] : PresR (stepText token) := by
  unfold stepText
  tb_walk

/-! ### tables -/

instance (token : Token) [TokOk token] : PresR (fosterParentInBody token) := by
  unfold fosterParentInBody; tb_walk
instance (token : Token) [TokOk token] : PresR (processCharsInTable token) := by
  unfold processCharsInTable; tb_walk

instance (token : Token) [TokOk token] : PresR (stepInTable token) := by
  unfold stepInTable
  tb_walk

/-! ### InTableText -/

theorem pres_flushPendingFoster : ∀ (l : List (SplitStatus × Str)), (∀ p ∈ l, p.2 ≠ []) → Pres (flushPendingFoster l)
  | [], _ => by unfold flushPendingFoster; infer_instance
  | (split, text) :: rest, h => by
    haveI := pres_flushPendingFoster rest (fun p hp => h p (List.mem_cons_of_mem _ hp))
    haveI : NE text := ⟨h (split, text) (by simp)⟩
    unfold flushPendingFoster
    tb_walk

theorem pres_flushPendingPlain : ∀ (l : List (SplitStatus × Str)), (∀ p ∈ l, p.2 ≠ []) → Pres (flushPendingPlain l)
  | [], _ => by unfold flushPendingPlain; infer_instance
  | (split, text) :: rest, h => by
    haveI := pres_flushPendingPlain rest (fun p hp => h p (List.mem_cons_of_mem _ hp))
    haveI : NE text := ⟨h (split, text) (by simp)⟩
    unfold flushPendingPlain
    tb_walk

theorem Late.setPtt {s : State} (h : Late s) {l : List (SplitStatus × Str)} (hl : ∀ p ∈ l, p.2 ≠ []) :
    Late { s with pendingTableText := l } :=
  ⟨h.base, h.pat, ⟨h.st.doc, h.st.ctx, h.st.oe, h.st.tail, h.st.head, hl⟩, ⟨h.ml.mode, h.ml.orig, h.ml.tm⟩⟩

instance : Pres (modS fun s => { s with pendingTableText := [] }) :=
  pres_modS fun s hl => ⟨hl.setPtt (by intro p hp; cases hp), rfl⟩

instance (split : SplitStatus) (text : Str) [h : NE text] :
    Pres (modS fun s => { s with pendingTableText := s.pendingTableText ++ [(split, text)] }) :=
  pres_modS fun s hl => ⟨hl.setPtt (by
    intro p hp
    simp only [List.mem_append, List.mem_singleton] at hp
    rcases hp with hp | rfl
    · exact hl.st.ptt p hp
    · exact h.h), rfl⟩

/-- the pending table text read from the state is non-empty text -/
theorem PresRA.ofPending {s : State} {F : List (SplitStatus × Str) → M ProcessResult}
    (h : ∀ l, (∀ p ∈ l, p.2 ≠ []) → PresR (F l)) : PresRA s (F s.pendingTableText) :=
  ⟨fun hl a s' e => (h _ hl.st.ptt).p s a s' hl e⟩

instance (token : Token) [TokOk token] : PresR (stepInTableText token) := by
  unfold stepInTableText
  split
  · tb_walk
  · tb_walk
  · apply PresR.ofGetS
    intro s
    constructor
    intro hl a s' e
    have hp := hl.st.ptt
    generalize s.pendingTableText = l at e hp
    haveI := pres_flushPendingFoster l hp
    haveI := pres_flushPendingPlain l hp
    exact (by tb_walk : PresR _).p s a s' hl e

/-! ### the other table modes, templates, after body, framesets -/

instance (token : Token) [TokOk token] : PresR (stepInCaption token) := by
  unfold stepInCaption; tb_walk

instance (token : Token) [TokOk token] : PresR (stepInColumnGroup token) := by
  unfold stepInColumnGroup; tb_walk

instance (token : Token) [TokOk token] : PresR (stepInTableBody token) := by
  unfold stepInTableBody; tb_walk

instance (token : Token) [TokOk token] : PresR (stepInRow token) := by
  unfold stepInRow; tb_walk

instance (token : Token) [TokOk token] : PresR (stepInCell token) := by
  unfold stepInCell; tb_walk

instance (token : Token) [TokOk token] : PresR (stepInTemplate token) := by
  unfold stepInTemplate; tb_walk

instance (token : Token) [TokOk token] : PresR (stepAfterBody token) := by
  unfold stepAfterBody; tb_walk

instance (token : Token) [TokOk token] : PresR (stepInFrameset token) := by
  unfold stepInFrameset; tb_walk

instance (token : Token) [TokOk token] : PresR (stepAfterFrameset token) := by
  unfold stepAfterFrameset; tb_walk

instance (token : Token) [TokOk token] : PresR (stepAfterAfterBody token) := by
  unfold stepAfterAfterBody; tb_walk

instance (token : Token) [TokOk token] : PresR (stepAfterAfterFrameset token) := by
  unfold stepAfterAfterFrameset; tb_walk

end H5V.Props.C06
