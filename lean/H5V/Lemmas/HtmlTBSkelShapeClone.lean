import H5V.Lemmas.HtmlTBSkelShapeAA
/-!
C06, second invariant layer: `maybe_clone_an_option_into_selectedcontent` leaves the root
alone (`RS`): the copies are new nodes whose child lists contain new nodes only, and the parent
pointers of old nodes other than the former children of the `selectedcontent` element are unchanged.
-/
namespace H5V.Props.C06
open H5V.Model.Dom hiding Str
open H5V.Model.HtmlTB hiding Str
open H5V.Lemmas.Dom

/-- nodes from `b` on are "new": old parent pointers are kept, new child lists hold new nodes only -/
structure NF (b : Nat) (d d' : Dom) : Prop where
  par : ∀ y, y < b → d'.parentOf y = d.parentOf y
  nc : (∀ q, b ≤ q → ∀ c ∈ d.childrenOf q, b ≤ c) → (∀ q, b ≤ q → ∀ c ∈ d'.childrenOf q, b ≤ c)

theorem NF.refl (b : Nat) (d : Dom) : NF b d d := ⟨fun _ _ => rfl, fun h => h⟩

theorem NF.trans {b : Nat} {d1 d2 d3 : Dom} (h1 : NF b d1 d2) (h2 : NF b d2 d3) : NF b d1 d3 :=
  ⟨fun y hy => (h2.par y hy).trans (h1.par y hy), fun h => h2.nc (h1.nc h)⟩

theorem nf_alloc (b : Nat) (d : Dom) (v : NodeData) : NF b d (d.alloc v).1 :=
  ⟨fun y _ => parentOf_alloc d v y, fun h q hq c hc => by
    rw [childrenOf_alloc] at hc; exact h q hq c hc⟩

theorem nf_appendRaw {b : Nat} {d d' : Dom} {p c : Id} (h : d.appendRaw p c = .ok d') (hne : p ≠ c)
    (hp : b ≤ p) (hc : b ≤ c) : NF b d d' := by
  obtain ⟨_, _, _, _, _, hpar, hk, _, _, _⟩ := appendRaw_ok h hne
  refine ⟨fun y hy => ?_, fun hh q hq x hx => ?_⟩
  · rw [hpar]
    have : y ≠ c := by intro e; omega
    simp [this]
  · rw [hk] at hx
    by_cases hqp : q = p
    · simp only [hqp, if_true] at hx
      rcases List.mem_append.mp hx with h1 | h1
      · exact hh p hp x h1
      · simp only [List.mem_singleton] at h1; rw [h1]; exact hc
    · simp only [hqp, if_false] at hx
      exact hh q hq x hx

theorem cloneKids_nf {b : Nat} {cl : Dom → Id → Except String (Dom × Id)}
    (hcl : ∀ d c d' k, DomBase d → b ≤ d.size → cl d c = .ok (d', k) → CS d d' c k ∧ NF b d d') {id : Id}
    (hid : b ≤ id) :
    ∀ (cs : List Id) (d d' : Dom), DomBase d → id < d.size → (cs ≠ [] → d.isContainer id = true) →
      (∀ c ∈ cs, c < d.size ∧ d.dataOf c ≠ some .document) →
      Dom.cloneKidsWith cl id d cs = .ok d' → NF b d d' := by
  intro cs
  induction cs with
  | nil =>
    intro d d' hb _ _ _ h
    simp [Dom.cloneKidsWith] at h
    subst h
    exact NF.refl _ _
  | cons c cs ih =>
    intro d d' hb hidlt hcont hcs h
    simp only [Dom.cloneKidsWith, bind, Except.bind] at h
    cases h1 : cl d c with
    | error e => simp [h1] at h
    | ok r =>
      obtain ⟨d1, k⟩ := r
      simp only [h1] at h
      have hbs : b ≤ d.size := Nat.le_of_lt (Nat.lt_of_le_of_lt hid hidlt)
      obtain ⟨cs1, nf1⟩ := hcl d c d1 k hb hbs h1
      cases h2 : d1.appendRaw id k with
      | error e => simp [h2] at h
      | ok d2 =>
        simp only [h2] at h
        have hidc : d1.isContainer id = true := cs1.fr.chg.isContainer (hcont (by simp))
        have hknd : d1.dataOf k ≠ some .document := not_doc_of_eraseTc cs1.data (hcs c (by simp)).2
        obtain ⟨hb2, hchg2, _, _⟩ := append_node_spec cs1.base hidc hknd (by rw [append_node_eq]; exact h2)
        have hf12 : FrK d d2 (some id) := cs1.fr.weaken.trans (frK_appendRaw h2)
        have hne : id ≠ k := by
          intro e; rw [e] at hidlt; exact Nat.lt_irrefl _ (Nat.lt_of_lt_of_le hidlt cs1.fresh)
        have nf2 : NF b d1 d2 := nf_appendRaw h2 hne hid (Nat.le_trans hbs cs1.fresh)
        have nf' := ih d2 d' hb2 (Nat.lt_of_lt_of_le hidlt hf12.size) (fun _ => hchg2.isContainer hidc) (by
          intro c' hc'
          obtain ⟨h1', h2'⟩ := hcs c' (List.mem_cons_of_mem _ hc')
          exact ⟨Nat.lt_of_lt_of_le h1' hf12.size, by rw [hf12.data c' h1']; exact h2'⟩) h
        exact (nf1.trans nf2).trans nf'

theorem clone_stage_nf {b : Nat} {cl : Dom → Id → Except String (Dom × Id)}
    (hcl : ∀ d c d' k, DomBase d → b ≤ d.size → cl d c = .ok (d', k) → CS d d' c k ∧ NF b d d')
    {d d1 d3 : Dom} {x : Id} {n : Node} {data : NodeData} (hb : DomBase d) (hn : d.node? x = some n)
    (hb1 : DomBase d1) (hf1 : FrK d d1 none) (hbs : b ≤ d.size) (hdat : eraseTc data = eraseTc n.data)
    (htc : ∀ nm a tc ip, data = .element nm a (some tc) ip → tc ≠ 0 ∧ d1.dataOf tc = some .document)
    (hk : Dom.cloneKidsWith cl d1.size (d1.alloc data).1 n.children = .ok d3) : NF b d1 d3 := by
  have hb2 : DomBase (d1.alloc data).1 := by
    refine hb1.alloc data ⟨?_, htc⟩
    intro t ht
    subst ht
    have : n.data = .text t := by
      cases hnd : n.data <;> simp [hnd, eraseTc] at hdat
      rw [hdat]
    exact hb.textNe x t (by rw [dataOf_of_node hn, this])
  have hidc : n.children ≠ [] → (d1.alloc data).1.isContainer d1.size = true := by
    intro hne
    have hc := hb.cont x (by rw [childrenOf_of_node hn]; exact hne)
    unfold Dom.isContainer at hc ⊢
    rw [dataOf_alloc]
    simp only [if_true]
    rw [dataOf_of_node hn] at hc
    cases hnd : n.data <;> simp [hnd] at hc <;> cases data <;> simp [hnd, eraseTc] at hdat <;> rfl
  have hcs : ∀ c ∈ n.children, c < (d1.alloc data).1.size ∧ (d1.alloc data).1.dataOf c ≠ some .document := by
    intro c hc
    have hcx : c ∈ d.childrenOf x := by rw [childrenOf_of_node hn]; exact hc
    have hlt := hb.kidsValid x c hcx
    have hlt1 : c < d1.size := Nat.lt_of_lt_of_le hlt hf1.size
    refine ⟨by rw [size_alloc]; exact Nat.lt_succ_of_lt hlt1, ?_⟩
    rw [dataOf_alloc]
    simp only [Nat.ne_of_lt hlt1, if_false]
    rw [hf1.data c hlt]
    exact hb.kidNotDoc x c hcx
  have hs2 : (d1.alloc data).1.size = d1.size + 1 := size_alloc _ _
  have := cloneKids_nf hcl (id := d1.size) (Nat.le_trans hbs hf1.size) n.children _ _ hb2
    (by rw [hs2]; exact Nat.lt_succ_self _) hidc hcs hk
  exact (nf_alloc b d1 data).trans this

theorem cloneFixed_nf (b : Nat) : ∀ (fuel : Nat) (d : Dom) (x : Id) (d' : Dom) (k : Id), DomBase d → b ≤ d.size →
    Dom.cloneFixed d fuel x = .ok (d', k) → NF b d d' := by
  intro fuel
  induction fuel with
  | zero => intro d x d' k _ _ h; simp [Dom.cloneFixed] at h
  | succ fuel ih =>
    intro d x d' k hb hbs h
    simp only [Dom.cloneFixed, bind, Except.bind] at h
    cases hg : d.get x with
    | error e => simp [hg] at h
    | ok n =>
      have hn := get_ok.mp hg
      simp only [hg] at h
      have hcl : ∀ d c d' k, DomBase d → b ≤ d.size → (fun d c => Dom.cloneFixed d fuel c) d c = .ok (d', k) →
          CS d d' c k ∧ NF b d d' :=
        fun d c d' k hb hbs h => ⟨cloneFixed_frame fuel d c d' k hb h, ih d c d' k hb hbs h⟩
      cases hnd : n.data with
      | element nm a tco ip =>
        cases tco with
        | some tc =>
          simp only [hnd] at h
          cases h1 : Dom.cloneFixed d fuel tc with
          | error e => simp [h1] at h
          | ok r =>
            obtain ⟨d1, tc'⟩ := r
            simp only [h1, pure, Except.pure] at h
            have cs1 := cloneFixed_frame fuel d tc d1 tc' hb h1
            have nf1 := ih d tc d1 tc' hb hbs h1
            cases hk : Dom.cloneKidsWith (fun d c => Dom.cloneFixed d fuel c) d1.size
                (d1.alloc (.element nm a (some tc') ip)).1 n.children with
            | error e =>
              have : (d1.alloc (.element nm a (some tc') ip)).2 = d1.size := rfl
              simp [this, hk] at h
            | ok d3 =>
              have : (d1.alloc (.element nm a (some tc') ip)).2 = d1.size := rfl
              simp only [this, hk, Except.ok.injEq, Prod.mk.injEq] at h
              obtain ⟨rfl, rfl⟩ := h
              refine nf1.trans (clone_stage_nf hcl hb hn cs1.base cs1.fr hbs (by rw [hnd]; rfl) ?_ hk)
              intro nm2 a2 tc2 ip2 he
              cases he
              have htcd : d.dataOf tc = some .document :=
                (hb.tcOk x tc (by unfold Dom.templateContentsOf; rw [dataOf_of_node hn, hnd])).2
              refine ⟨Nat.ne_of_gt (Nat.lt_of_lt_of_le hb.size_pos cs1.fresh), ?_⟩
              have := cs1.data
              rw [htcd] at this
              cases hd' : d1.dataOf tc' with
              | none => simp [hd'] at this
              | some v =>
                simp only [hd', Option.map_some, Option.some.injEq] at this
                rw [eraseTc_document this]
        | none =>
          simp only [hnd, pure, Except.pure] at h
          cases hk : Dom.cloneKidsWith (fun d c => Dom.cloneFixed d fuel c) d.size
              (d.alloc (.element nm a none ip)).1 n.children with
          | error e =>
            have : (d.alloc (.element nm a none ip)).2 = d.size := rfl
            simp [this, hk] at h
          | ok d3 =>
            have : (d.alloc (.element nm a none ip)).2 = d.size := rfl
            simp only [this, hk, Except.ok.injEq, Prod.mk.injEq] at h
            obtain ⟨rfl, rfl⟩ := h
            exact clone_stage_nf hcl hb hn hb (FrK.refl _ _) hbs (by rw [hnd]) (by intro _ _ _ _ he; cases he) hk
      | document | doctype _ _ _ | comment _ | text _ | pi _ _ =>
        simp only [hnd, pure, Except.pure] at h
        cases hk : Dom.cloneKidsWith (fun d c => Dom.cloneFixed d fuel c) d.size
            (d.alloc n.data).1 n.children with
        | error e =>
          have : (d.alloc n.data).2 = d.size := rfl
          rw [hnd] at hk this
          simp [this, hk] at h
        | ok d3 =>
          have : (d.alloc n.data).2 = d.size := rfl
          rw [hnd] at hk this
          simp only [this, hk, Except.ok.injEq, Prod.mk.injEq] at h
          obtain ⟨rfl, rfl⟩ := h
          exact clone_stage_nf hcl hb hn hb (FrK.refl _ _) hbs (by rw [hnd]) (by intro _ _ _ _ he; cases he) hk

theorem cloneList_nf {b : Nat} {cl : Dom → Id → Except String (Dom × Id)}
    (hcl : ∀ d c d' k, DomBase d → b ≤ d.size → cl d c = .ok (d', k) → CS d d' c k ∧ NF b d d') :
    ∀ (cs : List Id) (d d' : Dom) (ks : List Id), DomBase d → b ≤ d.size →
      (∀ c ∈ cs, c < d.size ∧ d.dataOf c ≠ some .document) → Dom.cloneListWith cl d cs = .ok (d', ks) →
      NF b d d' := by
  intro cs
  induction cs with
  | nil =>
    intro d d' ks hb _ _ h
    simp [Dom.cloneListWith] at h
    obtain ⟨rfl, rfl⟩ := h
    exact NF.refl _ _
  | cons c cs ih =>
    intro d d' ks hb hbs hcs h
    simp only [Dom.cloneListWith, bind, Except.bind] at h
    cases h1 : cl d c with
    | error e => simp [h1] at h
    | ok r =>
      obtain ⟨d1, k⟩ := r
      simp only [h1] at h
      obtain ⟨cs1, nf1⟩ := hcl d c d1 k hb hbs h1
      cases h2 : Dom.cloneListWith cl d1 cs with
      | error e => simp [h2] at h
      | ok r2 =>
        obtain ⟨d2, ks2⟩ := r2
        simp only [h2, Except.ok.injEq, Prod.mk.injEq] at h
        obtain ⟨rfl, rfl⟩ := h
        have nf2 := ih d1 d2 ks2 cs1.base (Nat.le_trans hbs cs1.fr.size) (by
          intro c' hc'
          obtain ⟨h1', h2'⟩ := hcs c' (List.mem_cons_of_mem _ hc')
          exact ⟨Nat.lt_of_lt_of_le h1' cs1.fr.size, by rw [cs1.fr.data c' h1']; exact h2'⟩) h2
        exact nf1.trans nf2


theorem attachAll_eff {p : Id} : ∀ (ks : List Id) (d d' : Dom), (∀ k ∈ ks, p ≠ k) → d.attachAll p ks = .ok d' →
    (∀ x, x ∉ ks → d'.parentOf x = d.parentOf x) ∧
    (∀ x, d'.childrenOf x = if x = p then d.childrenOf p ++ ks else d.childrenOf x) := by
  intro ks
  induction ks with
  | nil =>
    intro d d' _ h
    simp [Dom.attachAll] at h; subst h
    exact ⟨fun _ _ => rfl, fun x => by by_cases hx : x = p <;> simp [hx]⟩
  | cons k ks ih =>
    intro d d' hne h
    simp only [Dom.attachAll, bind, Except.bind] at h
    cases h1 : d.appendRaw p k with
    | error e => simp [h1] at h
    | ok d1 =>
      simp only [h1] at h
      obtain ⟨_, _, _, _, _, hpar, hk, _, _, _⟩ := appendRaw_ok h1 (hne k (by simp))
      obtain ⟨i1, i2⟩ := ih d1 d' (fun k' hk' => hne k' (List.mem_cons_of_mem _ hk')) h
      refine ⟨fun x hx => ?_, fun x => ?_⟩
      · simp only [List.mem_cons, not_or] at hx
        rw [i1 x hx.2, hpar]; simp [hx.1]
      · rw [i2]
        by_cases hx : x = p
        · simp only [hx, if_true]; rw [hk]; simp
        · simp only [hx, if_false]; rw [hk]; simp [hx]

theorem childrenOf_of_size_le {d : Dom} {q : Id} (h : d.size ≤ q) : d.childrenOf q = [] := by
  have : d.node? q = none := by
    unfold Dom.node? Dom.size at *
    exact Array.getElem?_eq_none h
  rw [childrenOf_eq, this]

/-- the copy into a `selectedcontent` element other than `r` leaves `r` alone -/
theorem rs_cloneOptionInto {r : Id} {d d' : Dom} {o sc : Id} (hb : DomBase d) (hsc : d.isContainer sc = true)
    (hr : r < d.size) (hrs : r ≠ sc) (h : d.cloneOptionInto .fixed o sc = .ok d') : RS r d d' := by
  obtain ⟨_, hfr⟩ := cloneOptionInto_frame hb hsc h
  have hkr : d'.childrenOf r = d.childrenOf r := hfr.kids r hr (by intro e; cases e; exact hrs rfl)
  refine ⟨hkr, fun c hc _ => hfr.data c (hb.kidsValid r c hc), ?_⟩
  intro hu c hc
  rw [hkr] at hc
  have hclt : c < d.size := hb.kidsValid r c hc
  -- open the definition
  unfold Dom.cloneOptionInto at h
  simp only [bind, Except.bind] at h
  cases ho : d.get o with
  | error e => simp [ho] at h
  | ok on =>
    simp only [ho] at h
    cases h1 : Dom.cloneListWith (fun d c => Dom.cloneFixed d (d.size + 1) c) d on.children with
    | error e => simp [h1] at h
    | ok res =>
      obtain ⟨d1, frag⟩ := res
      simp only [h1] at h
      have hon := get_ok.mp ho
      have hcs : ∀ c ∈ on.children, c < d.size ∧ d.dataOf c ≠ some .document := by
        intro c hc
        have hcx : c ∈ d.childrenOf o := by rw [childrenOf_of_node hon]; exact hc
        exact ⟨hb.kidsValid o c hcx, hb.kidNotDoc o c hcx⟩
      obtain ⟨hb1, hf1, hks⟩ := cloneList_frame (fun d c d' k hb h => cloneFixed_frame _ d c d' k hb h) _ _ _ _ hb
        hcs h1
      have nf1 : NF d.size d d1 := cloneList_nf (b := d.size)
        (fun d0 c d0' k hb0 hbs0 h0 => ⟨cloneFixed_frame _ d0 c d0' k hb0 h0, cloneFixed_nf d.size _ d0 c d0' k hb0 hbs0 h0⟩)
        _ _ _ _ hb (Nat.le_refl _) hcs h1
      cases h2 : d1.detachChildren sc with
      | error e => simp [h2] at h
      | ok d2 =>
        simp only [h2] at h
        obtain ⟨_, hp2, hk2, _, hs2⟩ := detachChildren_ok h2
        have hsclt : sc < d.size := lt_of_isContainer hsc
        have hne : ∀ k ∈ frag, sc ≠ k := by
          intro k hk e
          have := (hks k hk).1
          rw [← e] at this
          exact Nat.lt_irrefl _ (Nat.lt_of_lt_of_le hsclt this)
        obtain ⟨hp3, hk3⟩ := attachAll_eff frag d2 d' hne h
        have hcfrag : c ∉ frag := fun hm => Nat.lt_irrefl _ (Nat.lt_of_lt_of_le hclt (hks c hm).1)
        have hk1sc : d1.childrenOf sc = d.childrenOf sc := hf1.kids sc hsclt (by simp)
        have hcsc : c ∉ d.childrenOf sc := fun hm => hrs ((hu c hc).2 sc hm).symm
        refine ⟨?_, fun q hq => ?_⟩
        · rw [hp3 c hcfrag, hp2, hk1sc]
          simp only [hcsc, if_false]
          rw [nf1.par c hclt]
          exact (hu c hc).1
        · rw [hk3] at hq
          by_cases hqs : q = sc
          · simp only [hqs, if_true] at hq
            rw [hk2] at hq
            simp only [if_true, List.nil_append] at hq
            exact absurd hq hcfrag
          · simp only [hqs, if_false] at hq
            rw [hk2] at hq
            simp only [hqs, if_false] at hq
            rcases Nat.lt_or_ge q d.size with hql | hql
            · rw [hf1.kids q hql (by simp)] at hq
              exact (hu c hc).2 q hq
            · have := nf1.nc (fun q' hq' c' hc' => by rw [childrenOf_of_size_le hq'] at hc'; cases hc') q hql c hq
              exact absurd this (Nat.not_le.mpr hclt)

theorem enabledSelectedcontent_fixed_name {d : Dom} {select sc : Id}
    (h : d.enabledSelectedcontent .fixed select = .ok (some sc)) : d.localNameOf sc = some sSelectedcontent := by
  unfold Dom.enabledSelectedcontent at h
  simp only [bind, Except.bind] at h
  cases hs : d.get select with
  | error e => simp [hs] at h
  | ok sn =>
    simp only [hs] at h
    cases hdata : sn.data with
    | element name attrs tc ip =>
      simp only [hdata] at h
      by_cases hn : name.loc ≠ sSelect
      · simp [hn, throw, throwThe, MonadExceptOf.throw] at h
      · simp only [hn, if_false] at h
        by_cases hm : Dom.hasAttrLocal attrs sMultiple = true
        · simp [hm] at h
        · simp [hm] at h
          have := List.find?_some h
          simpa using this
    | document | doctype _ _ _ | comment _ | text _ | pi _ _ =>
      simp [hdata, throw, throwThe, MonadExceptOf.throw] at h

theorem cloneTarget_fixed_name {d : Dom} {o sc : Id} (h : d.cloneTarget .fixed o = .ok (some sc)) :
    d.localNameOf sc = some sSelectedcontent := by
  unfold Dom.cloneTarget at h
  simp only [bind, Except.bind] at h
  cases ho : d.get o with
  | error e => simp [ho] at h
  | ok on =>
    simp only [ho] at h
    cases hdata : on.data with
    | element name attrs tc ip =>
      simp only [hdata] at h
      by_cases hn : name.loc ≠ sOption
      · simp [hn, throw, throwThe, MonadExceptOf.throw] at h
      · simp only [hn, if_false] at h
        cases hsel : d.nearestAncestorSelect o with
        | error e => simp [hsel] at h
        | ok sel =>
          simp only [hsel] at h
          cases sel with
          | none => simp at h
          | some select =>
            simp only at h
            cases hsc : d.enabledSelectedcontent .fixed select with
            | error e => simp [hsc] at h
            | ok r =>
              simp only [hsc] at h
              cases r with
              | none => simp at h
              | some sc' =>
                simp only at h
                split at h
                · simp at h; subst h; exact enabledSelectedcontent_fixed_name hsc
                · simp at h
    | document | doctype _ _ _ | comment _ | text _ | pi _ _ =>
      simp [hdata, throw, throwThe, MonadExceptOf.throw] at h

/-- `maybe_clone_an_option_into_selectedcontent` leaves an `html` root alone -/
theorem rs_maybeClone {r : Id} {d d' : Dom} {o : Id} (hb : DomBase d) (hr : r < d.size)
    (hrn : d.localNameOf r ≠ some sSelectedcontent) (h : d.maybeCloneOption .fixed o = .ok d') : RS r d d' := by
  unfold Dom.maybeCloneOption at h
  simp only [bind, Except.bind] at h
  cases ht : d.cloneTarget .fixed o with
  | error e => simp [ht] at h
  | ok res =>
    simp only [ht] at h
    cases res with
    | none => simp at h; subst h; exact RS.refl _ _
    | some sc =>
      simp only at h
      have hel := cloneTarget_fixed_isElement ht
      have hne : r ≠ sc := by
        rintro rfl
        exact hrn (cloneTarget_fixed_name ht)
      exact rs_cloneOptionInto hb (isContainer_of_isElement hel) hr hne h

end H5V.Props.C06
