import H5V.Lemmas.HtmlTBAlgoPrim
/-!
(i), (j), (k): the appropriate place for inserting a node, insert an HTML / foreign element,
insert a character / a comment — the model's helpers against `H5V.Spec.TreeAlgo2`.
-/
namespace H5V.Lemmas.HtmlTBAlgo
open H5V.Model.HtmlTB
open H5V.Model.Dom (Id SinkOp Output Dom QualName Attr NodeOrText ElementFlags NodeData)
open H5V.Lemmas.Dom
open H5V.Lemmas.HtmlTBSpec (NamesOk toName)
open H5V.Spec.TreeAlgo2
open H5V.Spec.TreeAlgo (Name)

/-! ### the spec side: the foster-parenting substeps as a scan from the current node upwards -/
section Scan
variable {N : Type}

theorem lastPos_eq_none (p : Elem N → Bool) : ∀ l : List (Elem N), lastPos p l = none ↔ ∀ e ∈ l, p e = false
  | [] => by simp [lastPos]
  | a :: rest => by
    have ih := lastPos_eq_none p rest
    cases hr : lastPos p rest with
    | some k =>
      rw [hr] at ih
      simp only [lastPos, hr, List.mem_cons, forall_eq_or_imp]
      exact ⟨nofun, fun h => nomatch ih.mpr h.2⟩
    | none =>
      rw [hr] at ih
      simp only [lastPos, hr, List.mem_cons, forall_eq_or_imp]
      have := ih.mp rfl
      cases p a
      · simpa using this
      · simp

/-- `lastPos p l = some i`: the entry at `i` satisfies `p` and no later one does -/
theorem lastPos_eq_some (p : Elem N → Bool) : ∀ (l : List (Elem N)) (i : Nat), lastPos p l = some i ↔
    ∃ e, l[i]? = some e ∧ p e = true ∧ ∀ j e', i < j → l[j]? = some e' → p e' = false
  | [], i => by simp [lastPos]
  | a :: rest, i => by
    cases hr : lastPos p rest with
    | some k =>
      obtain ⟨ek, hek, hpk, hmax⟩ := (lastPos_eq_some p rest k).mp hr
      simp only [lastPos, hr, Option.some.injEq]
      constructor
      · rintro rfl
        exact ⟨ek, by simpa using hek, hpk, fun j e' hj he' => by
          obtain ⟨j', rfl⟩ : ∃ j', j = j' + 1 := ⟨j - 1, by omega⟩
          exact hmax j' e' (by omega) (by simpa using he')⟩
      · rintro ⟨e, he, hpe, hm⟩
        cases i with
        | zero => have := hm (k + 1) ek (by omega) (by simpa using hek); rw [hpk] at this; cases this
        | succ i' =>
          have := (lastPos_eq_some p rest i').mpr ⟨e, by simpa using he, hpe, fun j e' hj he' =>
            hm (j + 1) e' (by omega) (by simpa using he')⟩
          rw [hr] at this; cases this; rfl
    | none =>
      have hno := (lastPos_eq_none p rest).mp hr
      simp only [lastPos, hr]
      constructor
      · intro h
        by_cases hp : p a = true
        · simp only [hp, if_true, Option.some.injEq] at h; subst h
          exact ⟨a, rfl, hp, fun j e' hj he' => by
            obtain ⟨j', rfl⟩ : ∃ j', j = j' + 1 := ⟨j - 1, by omega⟩
            exact hno e' (List.mem_of_getElem? (by simpa using he'))⟩
        · simp [hp] at h
      · rintro ⟨e, he, hpe, _⟩
        cases i with
        | zero => cases he; simp [hpe]
        | succ i' => have := hno e (List.mem_of_getElem? (by simpa using he)); rw [hpe] at this; cases this
theorem lastPos_lt (p : Elem N → Bool) (l : List (Elem N)) (i : Nat) (h : lastPos p l = some i) : i < l.length := by
  obtain ⟨e, he, _⟩ := (lastPos_eq_some p l i).mp h
  exact (List.getElem?_eq_some_iff.mp he).1

theorem lastPos_none (p : Elem N → Bool) (l : List (Elem N)) (h : ∀ e ∈ l, p e = false) : lastPos p l = none :=
  (lastPos_eq_none p l).mpr h

theorem lastPos_spec (p : Elem N → Bool) (l : List (Elem N)) (i : Nat) (h : lastPos p l = some i) :
    ∃ e, l[i]? = some e ∧ p e = true :=
  let ⟨e, he, hp, _⟩ := (lastPos_eq_some p l i).mp h; ⟨e, he, hp⟩

theorem lastPos_max (p : Elem N → Bool) (l : List (Elem N)) (i : Nat) (h : lastPos p l = some i) :
    ∀ j e, i < j → l[j]? = some e → p e = false :=
  let ⟨_, _, _, hm⟩ := (lastPos_eq_some p l i).mp h; hm

theorem lastPos_append_none (p : Elem N → Bool) (r : List (Elem N)) (hr : ∀ e ∈ r, p e = false) :
    ∀ (l : List (Elem N)), lastPos p (l ++ r) = lastPos p l := by
  intro l
  induction l with
  | nil => simpa [lastPos] using lastPos_none p r hr
  | cons e rest ih => simp only [List.cons_append, lastPos, ih]

theorem lastPos_snoc (p : Elem N → Bool) (x : Elem N) :
    ∀ (l : List (Elem N)), lastPos p (l ++ [x]) = if p x then some l.length else lastPos p l := by
  intro l
  induction l with
  | nil => simp [lastPos]
  | cons e rest ih =>
    simp only [List.cons_append, lastPos, ih]
    by_cases hp : p x = true
    · simp [hp]
    · simp [hp]

/-- on `(x :: lr).reverse ++ r` with no hit in `r`: `x` if it is a hit, else the last hit of `lr.reverse` -/
theorem lastPos_reverse_cons (p : Elem N → Bool) (x : Elem N) (lr r : List (Elem N)) (hr : ∀ e ∈ r, p e = false) :
    lastPos p ((x :: lr).reverse ++ r) = if p x then some lr.length else lastPos p lr.reverse := by
  rw [lastPos_append_none _ r hr, List.reverse_cons, lastPos_snoc, List.length_reverse]

def fosterScan (full : List (Elem N)) : List (Elem N) → Option (Place N)
  | [] => full.head?.map inside
  | x :: rest =>
    if x.name.isHtml "template" then some (.inTemplateContentsOf x.id)
    else if x.name.isHtml "table" then rest.head?.map (fun prev => Place.foster x prev)
    else fosterScan full rest

theorem isHtml_excl (n : Name) (h : n.isHtml "template" = true) : n.isHtml "table" = false := by
  unfold Name.isHtml at *
  simp only [Bool.and_eq_true, beq_iff_eq] at h
  have : (n.loc == "table".toList) = false := by rw [h.2]; decide
  rw [this]; simp

theorem fosterPlace_eq_scan : ∀ (lr r : List (Elem N)),
    (∀ e ∈ r, e.name.isHtml "template" = false ∧ e.name.isHtml "table" = false) →
    fosterPlace (lr.reverse ++ r) = fosterScan (lr.reverse ++ r) lr := by
  intro lr
  induction lr with
  | nil =>
    intro r hr
    simp only [List.reverse_nil, List.nil_append, fosterPlace, fosterScan]
    rw [lastPos_none _ r (fun e he => (hr e he).1), lastPos_none _ r (fun e he => (hr e he).2)]
  | cons x lr ih =>
    intro r hr
    have hfull : (x :: lr).reverse ++ r = lr.reverse ++ (x :: r) := by simp
    by_cases htp : x.name.isHtml "template" = true
    · have htb := isHtml_excl _ htp
      simp only [fosterScan, htp, if_true]
      unfold fosterPlace
      have e1 := lastPos_reverse_cons (fun e => e.name.isHtml "template") x lr r (fun e he => (hr e he).1)
      have e2 := lastPos_reverse_cons (fun e => e.name.isHtml "table") x lr r (fun e he => (hr e he).2)
      simp only [htp, htb, if_true, Bool.false_eq_true, if_false] at e1 e2
      simp only [e1, e2]
      cases h2 : lastPos (fun e => e.name.isHtml "table") lr.reverse with
      | none => simp
      | some tb =>
        have := lastPos_lt _ _ _ h2
        simp at this
        simp [this]
    · by_cases htb : x.name.isHtml "table" = true
      · simp only [fosterScan, htp, htb, if_true, Bool.false_eq_true, if_false]
        unfold fosterPlace
        have e1 := lastPos_reverse_cons (fun e => e.name.isHtml "table") x lr r (fun e he => (hr e he).2)
        have e2 := lastPos_reverse_cons (fun e => e.name.isHtml "template") x lr r (fun e he => (hr e he).1)
        simp only [htp, htb, if_true, Bool.false_eq_true, if_false] at e1 e2
        simp only [e1, e2]
        have tc : (if lr.length = 0 then none
            else (((x :: lr).reverse ++ r)[lr.length]?).bind fun t =>
              (((x :: lr).reverse ++ r)[lr.length - 1]?).map fun prev => Place.foster t prev)
            = lr.head?.map (fun prev => Place.foster x prev) := by
          cases lr with
          | nil => simp
          | cons y lr' => simp
        cases h2 : lastPos (fun e => e.name.isHtml "template") lr.reverse with
        | none => simp only []; exact tc
        | some tp =>
          have := lastPos_lt _ _ _ h2
          simp at this
          have hnot : ¬ (lr.length < tp) := by omega
          simp only [hnot, if_false]; exact tc
      · have hx : x.name.isHtml "template" = false ∧ x.name.isHtml "table" = false := by
          simp [htp, htb]
        simp only [fosterScan, htp, htb, Bool.false_eq_true, if_false]
        rw [hfull]
        exact ih (x :: r) (fun e he => by
          cases he with
          | head => exact hx
          | tail _ h => exact hr e h)
end Scan

/-! ### the model side -/

/-- the model's `InsertionPoint` for a place of the standard (`tc`: template contents) -/
def ipOf (tc : Id → Id) : Place Id → InsertionPoint
  | .lastChildOf x => .lastChild x
  | .inTemplateContentsOf x => .lastChild (tc x)
  | .foster t prev => .tableFosterParenting t.id prev.id

theorem tcOf_stable {d d' : Dom} (hs : Stable d d') {h : Id} (he : d.isElement h = true) : tcOf d' h = tcOf d h := by
  unfold tcOf Dom.templateContentsOf; rw [hs.data h he]

theorem tot_htmlElem {s : State} {h : Id} (hh : s.openElems.head? = some h) : Tot htmlElem s (QueryQ s h) := by
  unfold htmlElem
  refine tot_getS_bind ?_
  simp only [hh]
  exact tot_pure ⟨rfl, SameTB.refl s, rfl⟩

theorem tot_currentNode {s : State} {h : Id} (hh : s.openElems.getLast? = some h) : Tot currentNode s (QueryQ s h) := by
  unfold currentNode
  refine tot_getS_bind ?_
  simp only [hh]
  exact tot_pure ⟨rfl, SameTB.refl s, rfl⟩

theorem elemOf_isHtml (d : Dom) (h : Id) (name : String) :
    (elemOf d h).name.isHtml name = ((nameOf d h).ns == nsHtml && (nameOf d h).loc == name.toList) := rfl

/-- the loop of `appropriate_place_for_insertion` is the scan -/
theorem tot_fosterLoop (d0 : Dom) (full : List Id) (hok : ElemsOk d0 full) :
    ∀ (l pre : List Id) (s : State), full.reverse = pre ++ l →
      (∀ h ∈ pre, (elemOf d0 h).name.isHtml "template" = false) →
      s.openElems = full → Stable d0 s.dom →
      ∀ place, fosterScan (absStack d0 full) (absStack d0 l) = some place →
      Tot (fosterLoop l) s (QueryQ s (ipOf (tcOf d0) place)) := by
  intro l
  induction l with
  | nil =>
    intro pre s hfull hpre hopen hst place hscan
    simp only [absStack, List.map_nil, fosterScan, List.head?_map] at hscan
    cases hf : full with
    | nil => simp [hf] at hscan
    | cons h0 rest =>
      simp only [hf, List.head?_cons, Option.map_some, Option.some.injEq] at hscan
      have hmem : h0 ∈ pre := by
        have : h0 ∈ full.reverse := by rw [hf]; simp
        rw [hfull] at this; simpa using this
      have hnt := hpre h0 hmem
      unfold inside at hscan
      rw [hnt] at hscan
      simp only [Bool.false_eq_true, if_false] at hscan
      subst hscan
      unfold fosterLoop
      refine tot_query_query (tot_htmlElem (by rw [hopen, hf]; rfl)) fun s1 c1 _ hs => ?_
      exact tot_pure ⟨rfl, SameTB.refl _, rfl⟩
  | cons x rest ih =>
    intro pre s hfull hpre hopen hst place hscan
    have hx : x ∈ full := by
      have : x ∈ full.reverse := by rw [hfull]; simp
      simpa using this
    have hxe := hok x hx
    have hnx : nameOf s.dom x = nameOf d0 x := nameOf_stable hst hxe
    simp only [absStack, List.map_cons, fosterScan] at hscan
    unfold fosterLoop
    refine tot_query_query (tot_htmlElemNamed s x "template") fun s1 c1 he1 hs1 => ?_
    have e1 : (elemOf s.dom x).name.isHtml "template" = (elemOf d0 x).name.isHtml "template" := by
      rw [elemOf_isHtml, elemOf_isHtml, hnx]
    rw [e1]
    by_cases htp : (elemOf d0 x).name.isHtml "template" = true
    · simp only [htp, if_true] at hscan ⊢
      simp only [Option.some.injEq] at hscan
      subst hscan
      refine tot_query_query (tot_getTemplateContents s1 x) fun s2 c2 _ hs2 => ?_
      have : tcOf s1.dom x = tcOf d0 x := tcOf_stable (hst.trans he1.stable) hxe
      rw [this]
      exact tot_pure ⟨rfl, SameTB.refl _, rfl⟩
    · simp only [htp, Bool.false_eq_true, if_false] at hscan ⊢
      refine tot_query_query (tot_htmlElemNamed s1 x "table") fun s2 c2 he2 hs2 => ?_
      have hst1 : Stable d0 s1.dom := hst.trans he1.stable
      have e2 : (elemOf s1.dom x).name.isHtml "table" = (elemOf d0 x).name.isHtml "table" := by
        rw [elemOf_isHtml, elemOf_isHtml, nameOf_stable hst1 hxe]
      rw [e2]
      by_cases htb : (elemOf d0 x).name.isHtml "table" = true
      · simp only [htb, if_true] at hscan ⊢
        cases rest with
        | nil => simp at hscan
        | cons prev rest' =>
          simp only [List.map_cons, List.head?_cons, Option.map_some, Option.some.injEq] at hscan
          subst hscan
          exact tot_pure ⟨rfl, SameTB.refl _, rfl⟩
      · simp only [htb, Bool.false_eq_true, if_false] at hscan ⊢
        have hst2 : Stable d0 s2.dom := hst1.trans he2.stable
        refine ih (pre ++ [x]) s2 (by rw [hfull]; simp) ?_ ?_ hst2 place hscan
        · intro h hh
          rcases List.mem_append.mp hh with h1 | h1
          · exact hpre h h1
          · simp at h1; subst h1; simpa using htp
        · rw [hs2.openElems, hs1.openElems]; exact hopen

theorem tot_elemIn' (s : State) (h : Id) (set : EName → Bool) :
    Tot (elemIn h set) s (fun b s' calls => (b = set (nameOf s.dom h) ∧ s.dom.isElement h = true) ∧ SameTB s s' ∧ edits calls = []) := by
  unfold elemIn
  refine tot_bind (tot_conseq (tot_elemName s h) fun n s1 c1 _ ⟨⟨hn, he⟩, hs, hc⟩ => ?_)
  subst hn
  exact tot_pure ⟨⟨rfl, he⟩, hs, by simp [hc]⟩

theorem fosterTarget_eq (n : EName) :
    fosterTarget n = Spec.TreeAlgo.inHtml Spec.TreeTables.fosterTarget (toName n) := rfl

theorem absStack_reverse (d : Dom) (l : List Id) : (absStack d l).reverse = absStack d l.reverse := by
  simp [absStack]

theorem absStack_getLast? (d : Dom) (l : List Id) : (absStack d l).getLast? = l.getLast?.map (elemOf d) := by
  simp [absStack]

/-- the second half of `appropriate_place_for_insertion`, once `foster` is known -/
def apfiFinish (target : Id) (foster : Bool) : M InsertionPoint := do
  if !foster then
    if ← htmlElemNamed target "template" then
      let contents ← sinkNode (.getTemplateContents target)
      pure (.lastChild contents)
    else pure (.lastChild target)
  else fosterLoop (← getS).openElems.reverse

/-- `appropriate_place_for_insertion` after the target is known -/
def apfiRest (target : Id) : M InsertionPoint := do
  let foster ← if (← getS).fosterParenting then elemIn target fosterTarget else pure false
  apfiFinish target foster

theorem apfi_eq (ov : Option Id) :
    appropriatePlaceForInsertion ov = (match ov with | some t => pure t | none => currentNode) >>= apfiRest := by
  cases ov <;> rfl

theorem tot_apfiFinish (s : State) (t : Id) (hok : ElemsOk s.dom s.openElems) (hte : s.dom.isElement t = true)
    (place : Place Id)
    (hspec : (if (s.fosterParenting && Spec.TreeAlgo.inHtml Spec.TreeTables.fosterTarget (elemOf s.dom t).name) = true
        then fosterPlace (absStack s.dom s.openElems) else some (inside (elemOf s.dom t))) = some place)
    (s2 : State) (c : List Call) (he2 : Ext s c s2) (hs2 : SameTB s s2) :
    Tot (apfiFinish t (s.fosterParenting && Spec.TreeAlgo.inHtml Spec.TreeTables.fosterTarget (elemOf s.dom t).name)) s2
      (QueryQ s2 (ipOf (tcOf s.dom) place)) := by
  have hst2 := he2.stable
  unfold apfiFinish
  by_cases hf : (s.fosterParenting && Spec.TreeAlgo.inHtml Spec.TreeTables.fosterTarget (elemOf s.dom t).name) = true
  · simp only [hf, if_true, Bool.not_true, Bool.false_eq_true, if_false] at hspec ⊢
    refine tot_getS_bind ?_
    rw [hs2.openElems]
    have hscan := fosterPlace_eq_scan (absStack s.dom s.openElems).reverse [] (by simp)
    simp only [List.reverse_reverse, List.append_nil] at hscan
    rw [hscan, absStack_reverse] at hspec
    exact tot_fosterLoop s.dom s.openElems hok s.openElems.reverse [] s2 (by simp) (by simp) hs2.openElems hst2 place hspec
  · simp only [hf, Bool.false_eq_true, if_false, Bool.not_false, if_true] at hspec ⊢
    simp only [Option.some.injEq] at hspec
    subst hspec
    refine tot_query_query (tot_htmlElemNamed s2 t "template") fun s3 c3 he3 hs3 => ?_
    have e1 : (elemOf s2.dom t).name.isHtml "template" = (elemOf s.dom t).name.isHtml "template" := by
      rw [elemOf_isHtml, elemOf_isHtml, nameOf_stable hst2 hte]
    rw [e1]
    unfold inside
    by_cases htp : (elemOf s.dom t).name.isHtml "template" = true
    · simp only [htp, if_true]
      refine tot_query_query (tot_getTemplateContents s3 t) fun s4 c4 _ hs4 => ?_
      have : tcOf s3.dom t = tcOf s.dom t := tcOf_stable (hst2.trans he3.stable) hte
      rw [this]
      exact tot_pure ⟨rfl, SameTB.refl _, rfl⟩
    · simp only [htp, Bool.false_eq_true, if_false]
      exact tot_pure ⟨rfl, SameTB.refl _, rfl⟩

/-- **(i)** `appropriate_place_for_insertion(override_target)` answers the standard's appropriate
place for inserting a node -/
theorem tot_appropriatePlace (s : State) (ov : Option Id) (hok : ElemsOk s.dom s.openElems)
    (hov : ∀ t, ov = some t → s.dom.isElement t = true) (place : Place Id)
    (hspec : appropriatePlace (absStack s.dom s.openElems) s.fosterParenting (ov.map (elemOf s.dom)) = some place) :
    Tot (appropriatePlaceForInsertion ov) s (QueryQ s (ipOf (tcOf s.dom) place)) := by
  -- the target
  obtain ⟨t, htq, hte, hspec⟩ : ∃ t, Tot (match ov with | some t => pure t | none => currentNode) s (QueryQ s t) ∧
      s.dom.isElement t = true ∧
      (if (s.fosterParenting && Spec.TreeAlgo.inHtml Spec.TreeTables.fosterTarget (elemOf s.dom t).name) = true
        then fosterPlace (absStack s.dom s.openElems) else some (inside (elemOf s.dom t))) = some place := by
    unfold appropriatePlace at hspec
    cases ov with
    | some t =>
      refine ⟨t, tot_pure ⟨rfl, SameTB.refl s, rfl⟩, hov t rfl, ?_⟩
      simpa using hspec
    | none =>
      rw [absStack_getLast?] at hspec
      cases hl : s.openElems.getLast? with
      | none => simp [hl] at hspec
      | some t =>
        refine ⟨t, tot_currentNode hl, hok t (List.mem_of_getLast? hl), ?_⟩
        simpa [hl] using hspec
  rw [apfi_eq]
  refine tot_query_query htq fun s1 c1 he1 hs1 => ?_
  unfold apfiRest
  refine tot_getS_bind ?_
  rw [hs1.fosterParenting]
  have hst1 := he1.stable
  have hn1 : nameOf s1.dom t = nameOf s.dom t := nameOf_stable hst1 hte
  by_cases hfp : s.fosterParenting = true
  · simp only [hfp, if_true]
    refine tot_bind (tot_conseq (tot_elemIn' s1 t fosterTarget) fun b s2 c2 he2 ⟨⟨hb, _⟩, hs2, hc2⟩ => ?_)
    subst hb
    rw [hn1, fosterTarget_eq]
    have := tot_apfiFinish s t hok hte place hspec s2 (c1 ++ c2) (he1.trans he2) (hs1.trans hs2)
    simp only [hfp, Bool.true_and] at this
    exact tot_conseq this fun _ _ _ _ h => QueryQ.extend hs2 hc2 h
  · have hfp' : s.fosterParenting = false := by simpa using hfp
    simp only [hfp', Bool.false_eq_true, if_false]
    refine tot_bind (tot_pure ?_)
    have := tot_apfiFinish s t hok hte place hspec s1 c1 he1 hs1
    simp only [hfp', Bool.false_and] at this
    exact tot_conseq this fun _ _ _ _ h => QueryQ.extend (SameTB.refl _) rfl h

/-! ### inserting -/

/-- the sink call that inserts `child` at the model's insertion point -/
def insertOp (ip : InsertionPoint) (child : NodeOrText) : SinkOp :=
  match ip with
  | .lastChild p => .append p child
  | .beforeSibling sib => .appendBeforeSibling sib child
  | .tableFosterParenting e p => .appendBasedOnParentNode e p child

/-- the `TreeSink` call(s) for an entry of the standard's log of DOM operations (`tc`: the template
contents of template elements) -/
def editCall (tc : Id → Id) : Edit Id Tag → Call
  | .create new ns tok => createCall ns tok new
  | .associateForm elem form place =>
    (.associateWithForm elem form (ipOf tc place).nodes.1 (ipOf tc place).nodes.2, .unit)
  | .insert place child => (insertOp (ipOf tc place) (.node child), .unit)
  | .insertText place text => (insertOp (ipOf tc place) (.text text), .unit)
  | .createComment new text => (.createComment text, .node new)
  | .remove node => (.removeFromParent node, .unit)
  | .moveChildren src dst => (.reparentChildren src dst, .unit)

/-- `tc` gives the template contents of the elements of `d` -/
def TcOk (d : Dom) (tc : Id → Id) : Prop := ∀ x, d.isElement x = true → tc x = tcOf d x

theorem TcOk.self (d : Dom) : TcOk d (tcOf d) := fun _ _ => rfl

theorem TcOk.of_stable {d d' : Dom} {tc : Id → Id} (h : TcOk d' tc) (hs : Stable d d') : TcOk d tc :=
  fun x hx => by rw [h x (isElement_stable hs hx), tcOf_stable hs hx]

/-- a sink call that runs an operation on the DOM and answers `unit` -/
theorem out_unit {r : Except String Dom} {d' : Dom} {out : Output}
    (h : (r >>= fun d1 => pure (d1, Output.unit)) = .ok (d', out)) : out = .unit := by
  cases r with
  | error e => cases h
  | ok d1 => cases h; rfl

theorem apply_insertOp_out {d d' : Dom} {ip : InsertionPoint} {child : NodeOrText} {out : Output}
    (h : d.apply (insertOp ip child) = .ok (d', out)) : out = .unit := by
  cases ip <;> exact out_unit h

theorem tame_insertOp (ip : InsertionPoint) (child : NodeOrText) : Tame (insertOp ip child) := by
  cases ip <;> exact trivial

theorem isEdit_insertOp (ip : InsertionPoint) (ch : NodeOrText) : isEdit (insertOp ip ch) = true := by
  cases ip <;> rfl

theorem tot_insertAt (s : State) (ip : InsertionPoint) (child : NodeOrText) :
    Tot (insertAt ip child) s (fun _ s' calls => SameTB s s' ∧ calls = [(insertOp ip child, .unit)]) := by
  have h := tot_sinkUnit (op := insertOp ip child) s (tame_insertOp ip child)
  have e : insertAt ip child = sinkUnit (insertOp ip child) := by cases ip <;> rfl
  rw [e]
  refine tot_conseq h fun _ s' calls _ ⟨d', out, ha, hs, hc⟩ => ?_
  have := apply_insertOp_out ha
  subst this
  exact ⟨hs ▸ SameTB.afterCall .., hc⟩

theorem unit_append' (p : Id) (c : NodeOrText) : ∀ d d' out, Dom.apply d (.append p c) = .ok (d', out) → out = .unit :=
  fun _ _ _ h => apply_insertOp_out (ip := .lastChild p) h

theorem tot_anyHtmlElemNamed (d0 : Dom) (name : String) : ∀ (l : List Id) (s : State), ElemsOk d0 l → Stable d0 s.dom →
    Tot (anyHtmlElemNamed name l) s (QueryQ s ((absStack d0 l).any fun e => e.name.isHtml name)) := by
  intro l
  induction l with
  | nil => intro s _ _; exact tot_pure ⟨rfl, SameTB.refl _, rfl⟩
  | cons x rest ih =>
    intro s hok hst
    unfold anyHtmlElemNamed
    refine tot_query_query (tot_htmlElemNamed s x name) fun s1 c1 he1 hs1 => ?_
    have e1 : (elemOf s.dom x).name.isHtml name = (elemOf d0 x).name.isHtml name := by
      rw [elemOf_isHtml, elemOf_isHtml, nameOf_stable hst (hok x (List.mem_cons_self ..))]
    rw [e1]
    simp only [absStack, List.map_cons, List.any_cons]
    by_cases hx : (elemOf d0 x).name.isHtml name = true
    · simp only [hx, if_true, Bool.true_or]; exact tot_pure ⟨rfl, SameTB.refl _, rfl⟩
    · simp only [hx, Bool.false_eq_true, if_false, Bool.false_or]
      exact ih s1 (fun y hy => hok y (List.mem_cons_of_mem _ hy)) (hst.trans he1.stable)

theorem tot_inHtmlElemNamed_place (s : State) (name : String) (hok : ElemsOk s.dom s.openElems) :
    Tot (inHtmlElemNamed name) s (QueryQ s ((absStack s.dom s.openElems).any fun e => e.name.isHtml name)) := by
  unfold inHtmlElemNamed
  refine tot_getS_bind ?_
  exact tot_anyHtmlElemNamed s.dom name s.openElems s hok (Stable.refl _)

theorem formAssociatable_eq (n : EName) :
    formAssociatable n = Spec.TreeAlgo.inHtml formAssociatedElements (toName n) := rfl

theorem listed_eq (n : EName) : listed n = Spec.TreeAlgo.inHtml listedElements (toName n) := by
  unfold listed formAssociatable htmlIn Spec.TreeAlgo.inHtml listedElements isOneOf toName
  by_cases hns : (n.ns == nsHtml) = true
  · have hns' : (n.ns == Spec.TreeAlgo.nsHtml) = true := hns
    simp only [hns, hns', Bool.true_and, List.any_cons, List.any_nil, Bool.or_false]
    by_cases himg : "img".toList = n.loc
    · rw [← himg]; decide
    · have : ("img".toList == n.loc) = false := by
        rw [beq_eq_false_iff_ne]; exact himg
      simp only [this, Bool.or_false, Bool.false_eq_true, if_false]
  · have hns2 : (n.ns == nsHtml) = false := by simpa using hns
    have hns' : (n.ns == Spec.TreeAlgo.nsHtml) = false := hns2
    simp only [hns', hns2, Bool.false_and, Bool.false_eq_true, if_false]

/-! `insert_element`, cut into chunks at the statements that are followed by a continuation (the
`do` notation pushes the continuation into the branches of an `if`/`match`; the chunks keep these
continuations small) -/

def ieTail3 (pushIt : Bool) (elem : Id) : M Id := do
  if pushIt then push elem
  pure elem

def ieTail2 (pushIt : Bool) (ip : InsertionPoint) (elem : Id) : M Id := do
  insertAt ip (.node elem)
  ieTail3 pushIt elem

/-- `insert_element` from the creation of the element on (`n1`, `n2` = `ip.nodes`) -/
def ieTail (pushIt : Bool) (ns name : Str) (attrs : List Attr) (hadDup : Bool) (ip : InsertionPoint) (n1 : Id)
    (n2 : Option Id) (formIsAssociatable : Bool) : M Id := do
  let elem ← createElementWithFlags { pfx := none, ns := ns, loc := name } attrs hadDup
  if formIsAssociatable then
    match (← getS).formElem with
    | some form => sinkUnit (.associateWithForm elem form n1 n2)
    | none => panicAt "unwrap-none" "mod.rs:1401" "form_elem unwrap"
  ieTail2 pushIt ip elem

def ieMain (pushIt : Bool) (ns name : Str) (attrs : List Attr) (hadDup : Bool) : M Id := do
  let ip ← appropriatePlaceForInsertion none
  let (node1, node2) := ip.nodes
  let formIsAssociatable ←
    if formAssociatable ⟨ns, name⟩ && (← getS).formElem.isSome then do
      if ← inHtmlElemNamed "template" then pure false
      else pure (!(listed ⟨ns, name⟩ && attrs.any (fun a => a.name.ns == [] && isName a.name.loc "form")))
    else pure false
  ieTail pushIt ns name attrs hadDup ip node1 node2 formIsAssociatable

theorem insertElement_eq (pushIt : Bool) (ns name : Str) (attrs : List Attr) (hadDup : Bool) :
    insertElement pushIt ns name attrs hadDup = ieMain pushIt ns name attrs hadDup := rfl

/-- the `associate_with_form` call, if any -/
def assocCalls (fia : Bool) (form? : Option Id) (elem n1 : Id) (n2 : Option Id) : List Call :=
  if fia then (form?.map fun form => (SinkOp.associateWithForm elem form n1 n2, Output.unit)).toList else []

theorem tot_push (s : State) (h : Id) :
    Tot (push h) s (fun _ s' calls => s' = { s with openElems := s.openElems ++ [h] } ∧ calls = []) :=
  tot_modS rfl rfl ⟨rfl, rfl⟩

theorem tot_ieTail3 (s : State) (pushIt : Bool) (elem : Id) :
    Tot (ieTail3 pushIt elem) s (fun a s' calls => a = elem ∧
      s' = { s with openElems := if pushIt then s.openElems ++ [elem] else s.openElems } ∧ calls = []) := by
  unfold ieTail3
  by_cases hp : pushIt = true
  · simp only [hp, if_true]
    refine tot_bind (tot_conseq (tot_push s elem) fun _ s4 c4 _ ⟨hs4, hc4⟩ => ?_)
    subst hc4
    exact tot_pure ⟨rfl, hs4, rfl⟩
  · have hp' : pushIt = false := by simpa using hp
    simp only [hp', Bool.false_eq_true, if_false]
    exact tot_pure ⟨rfl, rfl, rfl⟩

theorem tot_ieTail (s : State) (pushIt : Bool) (ns : Str) (tag : Tag) (ip : InsertionPoint) (n1 : Id) (n2 : Option Id)
    (fia : Bool) (hfia : fia = true → s.formElem.isSome = true) :
    Tot (ieTail pushIt ns tag.name tag.attrs tag.hadDup ip n1 n2 fia) s (fun elem s' calls =>
      s' = { s with openElems := if pushIt then s.openElems ++ [elem] else s.openElems,
                    dom := s'.dom, traceRev := s'.traceRev } ∧
      s.dom.size ≤ elem ∧ s'.dom.isElement elem = true ∧ nameOf s'.dom elem = ⟨ns, tag.name⟩ ∧
      edits calls = [createCall ns tag elem] ++ assocCalls fia s.formElem elem n1 n2 ++
        [(insertOp ip (.node elem), .unit)]) := by
  unfold ieTail
  refine tot_bind (tot_conseq (tot_createElementWithFlags s ns tag) fun elem s1 c1 he1 ⟨hs1, hc1, hfresh, hel, hnm⟩ => ?_)
  subst hc1
  -- the rest after the association step
  have hrest : ∀ (s2 : State) (c2 : List Call), Ext s1 c2 s2 → SameTB s1 s2 → c2 = assocCalls fia s.formElem elem n1 n2 →
      Tot (ieTail2 pushIt ip elem) s2 (fun b s3 c3 =>
        s3 = { s with openElems := if pushIt then s.openElems ++ [b] else s.openElems, dom := s3.dom, traceRev := s3.traceRev } ∧
        s.dom.size ≤ b ∧ s3.dom.isElement b = true ∧ nameOf s3.dom b = ⟨ns, tag.name⟩ ∧
        edits ([createCall ns tag elem] ++ (c2 ++ c3)) = [createCall ns tag b] ++ assocCalls fia s.formElem b n1 n2 ++
          [(insertOp ip (.node b), .unit)]) := by
    intro s2 c2 he2 hs2 hc2
    subst hc2
    unfold ieTail2
    refine tot_bind (tot_conseq (tot_insertAt s2 ip (.node elem)) fun _ s3 c3 he3 ⟨hs3, hc3⟩ => ?_)
    subst hc3
    have hst23 : Stable s1.dom s3.dom := he2.stable.trans he3.stable
    have hS3 : SameTB s s3 := (hs1.trans hs2).trans hs3
    refine tot_conseq (tot_ieTail3 s3 pushIt elem) fun b s4 c4 _ ⟨hb, hs4, hc4⟩ => ?_
    subst hb hc4
    refine ⟨?_, hfresh, ?_, ?_, ?_⟩
    · rw [hs4]; unfold SameTB at hS3; rw [hS3]
    · rw [hs4]; exact isElement_stable hst23 hel
    · rw [hs4]; show nameOf s3.dom b = _; rw [nameOf_stable hst23 hel]; exact hnm
    · simp only [edits, assocCalls, createCall, List.append_nil]
      cases fia <;> cases s.formElem <;> cases ip <;> simp [insertOp, isEdit]
  by_cases hf : fia = true
  · simp only [hf, if_true]
    refine tot_getS_bind ?_
    rw [hs1.formElem]
    cases hform : s.formElem with
    | none => have h0 := hfia hf; rw [hform] at h0; cases h0
    | some form =>
      refine tot_bind (tot_conseq (tot_sinkUnit s1 trivial) fun _ s2 c2 he2 ⟨d', out, ha, hs2, hc2⟩ => ?_)
      have : out = .unit := by
        unfold Dom.apply Dom.applyV at ha; simp at ha; exact ha.2.symm
      subst this
      have := hrest s2 c2 he2 (hs2 ▸ SameTB.afterCall ..) (by simp [assocCalls, hc2, hf, hform])
      simpa [hf, hform] using this
  · have hf' : fia = false := by simpa using hf
    simp only [hf', Bool.false_eq_true, if_false]
    have := hrest s1 [] (Ext.refl _) (SameTB.refl _) (by simp [assocCalls, hf'])
    simpa [hf'] using this

/-- the log entries of "insert a foreign element" (not *onlyAddToElementStack*) for the new node `elem` -/
def insertEdits (s : State) (ns : Str) (tag : Tag) (place : Place Id) (elem : Id) : List (Edit Id Tag) :=
  [Edit.create elem ns tag] ++
    (if associatesWithForm ⟨ns, tag.name⟩ (tagCtx.tokHasFormAttr tag) s.formElem.isSome
        ((absStack s.dom s.openElems).any fun e => e.name.isHtml "template")
      then (s.formElem.map fun form => Edit.associateForm elem form place).toList else []) ++
    [Edit.insert place elem]

/-- **(j)** `insert_element`: the appropriate place, one `create_element`, the form association the
standard prescribes, the insertion, the push -/
theorem tot_insertElement (s : State) (pushIt : Bool) (ns : Str) (tag : Tag) (hok : ElemsOk s.dom s.openElems)
    (place : Place Id) (hplace : appropriatePlace (absStack s.dom s.openElems) s.fosterParenting none = some place) :
    Tot (insertElement pushIt ns tag.name tag.attrs tag.hadDup) s (fun elem s' calls =>
      s' = { s with openElems := if pushIt then s.openElems ++ [elem] else s.openElems,
                    dom := s'.dom, traceRev := s'.traceRev } ∧
      s.dom.size ≤ elem ∧ s'.dom.isElement elem = true ∧ nameOf s'.dom elem = ⟨ns, tag.name⟩ ∧
      edits calls = (insertEdits s ns tag place elem).map (editCall (tcOf s.dom))) := by
  rw [insertElement_eq]
  unfold ieMain
  refine tot_query_bind (tot_appropriatePlace s none hok (by simp) place hplace) fun s1 c1 he1 hs1 hc1 => ?_
  generalize hnodes : (ipOf (tcOf s.dom) place).nodes = nodes
  obtain ⟨n1, n2⟩ := nodes
  simp only []
  refine tot_getS_bind ?_
  rw [hs1.formElem]
  -- the continuation, for the flag the standard computes
  have hk : ∀ (s2 : State) (c2 : List Call) (fia : Bool), Ext s1 c2 s2 → SameTB s1 s2 → edits c2 = [] →
      fia = associatesWithForm ⟨ns, tag.name⟩ (tagCtx.tokHasFormAttr tag) s.formElem.isSome
        ((absStack s.dom s.openElems).any fun e => e.name.isHtml "template") →
      Tot (ieTail pushIt ns tag.name tag.attrs tag.hadDup (ipOf (tcOf s.dom) place) n1 n2 fia) s2 (fun elem s' c3 =>
        s' = { s with openElems := if pushIt then s.openElems ++ [elem] else s.openElems,
                      dom := s'.dom, traceRev := s'.traceRev } ∧
        s.dom.size ≤ elem ∧ s'.dom.isElement elem = true ∧ nameOf s'.dom elem = ⟨ns, tag.name⟩ ∧
        edits (c1 ++ (c2 ++ c3)) = (insertEdits s ns tag place elem).map (editCall (tcOf s.dom))) := by
    intro s2 c2 fia he2 hs2 hc2 hfia
    have hS2 : SameTB s s2 := hs1.trans hs2
    have hform2 : s2.formElem = s.formElem := hS2.formElem
    refine tot_conseq (tot_ieTail s2 pushIt ns tag (ipOf (tcOf s.dom) place) n1 n2 fia ?_) fun elem s3 c3 he3 ⟨h1, h2, h3, h4, h5⟩ => ?_
    · intro hf
      rw [hform2]
      rw [hfia] at hf
      unfold associatesWithForm at hf
      simp only [Bool.and_eq_true] at hf
      exact hf.1.1.2
    · refine ⟨?_, Nat.le_trans (he1.trans he2).stable.size h2, h3, h4, ?_⟩
      · rw [h1, hS2.openElems]; unfold SameTB at hS2; rw [hS2]
      · rw [edits_append, edits_append, hc1, hc2, h5, hform2]
        have e1 : n1 = (ipOf (tcOf s.dom) place).nodes.1 := by rw [hnodes]
        have e2 : n2 = (ipOf (tcOf s.dom) place).nodes.2 := by rw [hnodes]
        subst hfia
        simp only [insertEdits, assocCalls, List.nil_append, List.map_append, List.map_cons, List.map_nil, editCall, e1, e2]
        cases s.formElem <;> simp [associatesWithForm]
        split <;> simp [editCall]
  have hfa : formAssociatable ⟨ns, tag.name⟩ = Spec.TreeAlgo.inHtml formAssociatedElements ⟨ns, tag.name⟩ := rfl
  have hli : listed ⟨ns, tag.name⟩ = Spec.TreeAlgo.inHtml listedElements ⟨ns, tag.name⟩ := listed_eq _
  by_cases hc : (formAssociatable ⟨ns, tag.name⟩ && s.formElem.isSome) = true
  · simp only [hc, if_true]
    refine tot_query_bind (tot_inHtmlElemNamed_place s1 "template" (by rw [hs1.openElems]; exact hok.stable he1.stable)) fun s2 c2 he2 hs2 hc2 => ?_
    rw [hs1.openElems, absStack_stable hok he1.stable]
    rw [hfa] at hc
    simp only [Bool.and_eq_true] at hc
    by_cases ht : ((absStack s.dom s.openElems).any fun e => e.name.isHtml "template") = true
    · simp only [ht, if_true]
      refine tot_bind (tot_pure ?_)
      exact hk s2 c2 false he2 hs2 hc2 (by simp [associatesWithForm, ht])
    · have ht' : ((absStack s.dom s.openElems).any fun e => e.name.isHtml "template") = false := by simpa using ht
      simp only [ht', Bool.false_eq_true, if_false]
      refine tot_bind (tot_pure ?_)
      refine hk s2 c2 _ he2 hs2 hc2 ?_
      unfold associatesWithForm; rw [ht', hc.1, hc.2, ← hli]
      simp [tagCtx]
  · have hc' : (formAssociatable ⟨ns, tag.name⟩ && s.formElem.isSome) = false := by simpa using hc
    simp only [hc', Bool.false_eq_true, if_false]
    refine tot_bind (tot_pure ?_)
    exact hk s1 [] false (Ext.refl _) (SameTB.refl _) rfl (by
      unfold associatesWithForm; rw [← hfa, hc']; simp)

/-! ### when the appropriate place is defined, and which nodes it mentions -/
section PlaceFacts
variable {N : Type}

/-- the nodes a place mentions -/
def placeNodes : Place N → List N
  | .lastChildOf x => [x]
  | .inTemplateContentsOf x => [x]
  | .foster t prev => [t.id, prev.id]

theorem getElem?_mem_ids {l : List (Elem N)} {i : Nat} {e : Elem N} (h : l[i]? = some e) : e.id ∈ l.map (·.id) :=
  List.mem_map.mpr ⟨e, List.mem_of_getElem? h, rfl⟩

/-- on a stack that does not start with a `table` element the foster-parenting substeps are defined,
and they only mention nodes of the stack -/
theorem fosterPlace_some (stack : List (Elem N)) (e0 : Elem N) (hh : stack.head? = some e0)
    (hnt : e0.name.isHtml "table" = false) :
    ∃ place, fosterPlace stack = some place ∧ ∀ x ∈ placeNodes place, x ∈ stack.map (·.id) := by
  have hhead : stack[0]? = some e0 := by
    cases stack with
    | nil => simp at hh
    | cons a r => simpa using hh
  have tableCase : ∀ tb, lastPos (fun e => e.name.isHtml "table") stack = some tb →
      ∃ place, (if tb = 0 then none
        else (stack[tb]?).bind fun t => (stack[tb - 1]?).map fun prev => Place.foster t prev) = some place ∧
        ∀ x ∈ placeNodes place, x ∈ stack.map (·.id) := by
    intro tb htb
    obtain ⟨t, ht, hpt⟩ := lastPos_spec _ _ _ htb
    have hlt := lastPos_lt _ _ _ htb
    by_cases h0 : tb = 0
    · subst h0
      rw [hhead] at ht; cases ht
      rw [hnt] at hpt; cases hpt
    · have hlt' : tb - 1 < stack.length := by omega
      have hp : stack[tb - 1]? = some stack[tb - 1] := List.getElem?_eq_getElem hlt'
      refine ⟨.foster t stack[tb - 1], by simp [h0, ht, hp], ?_⟩
      intro x hx
      simp only [placeNodes, List.mem_cons, List.mem_nil_iff, or_false] at hx
      rcases hx with rfl | rfl
      · exact getElem?_mem_ids ht
      · exact getElem?_mem_ids hp
  unfold fosterPlace
  cases htp : lastPos (fun e => e.name.isHtml "template") stack with
  | none =>
    cases htb : lastPos (fun e => e.name.isHtml "table") stack with
    | none =>
      refine ⟨inside e0, by simp [hh], ?_⟩
      intro x hx
      have : x = e0.id := by
        unfold inside at hx; split at hx <;> simpa [placeNodes] using hx
      subst this; exact getElem?_mem_ids hhead
    | some tb => simpa using tableCase tb htb
  | some tp =>
    obtain ⟨t, ht, _⟩ := lastPos_spec _ _ _ htp
    have tpl : ∃ place, ((stack[tp]?).map fun t => Place.inTemplateContentsOf t.id) = some place ∧
        ∀ x ∈ placeNodes place, x ∈ stack.map (·.id) := by
      refine ⟨.inTemplateContentsOf t.id, by simp [ht], ?_⟩
      intro x hx
      simp only [placeNodes, List.mem_cons, List.mem_nil_iff, or_false] at hx
      subst hx; exact getElem?_mem_ids ht
    cases htb : lastPos (fun e => e.name.isHtml "table") stack with
    | none => simpa using tpl
    | some tb =>
      by_cases hlt : tb < tp
      · simpa [hlt] using tpl
      · simpa [hlt] using tableCase tb htb

theorem appropriatePlace_some (stack : List (Elem N)) (fp : Bool) (ov : Option (Elem N)) (e0 : Elem N)
    (hh : stack.head? = some e0) (hnt : e0.name.isHtml "table" = false) :
    ∃ place, appropriatePlace stack fp ov = some place ∧
      ∀ x ∈ placeNodes place, x ∈ stack.map (·.id) ∨ ∃ t, ov = some t ∧ x = t.id := by
  unfold appropriatePlace
  have hl : ∃ e, stack.getLast? = some e := by
    cases stack with
    | nil => simp at hh
    | cons a r =>
      cases h : (a :: r).getLast? with
      | none => simp at h
      | some e => exact ⟨e, rfl⟩
  obtain ⟨el, hel⟩ := hl
  obtain ⟨target, htgt, hmem⟩ : ∃ target, (ov <|> stack.getLast?) = some target ∧
      (target.id ∈ stack.map (·.id) ∨ ∃ t, ov = some t ∧ target.id = t.id) := by
    cases ov with
    | some t => exact ⟨t, rfl, Or.inr ⟨t, rfl, rfl⟩⟩
    | none => exact ⟨el, by simpa using hel, Or.inl (List.mem_map.mpr ⟨el, List.mem_of_getLast? hel, rfl⟩)⟩
  rw [htgt]
  simp only [Option.bind_some]
  by_cases hf : (fp && Spec.TreeAlgo.inHtml Spec.TreeTables.fosterTarget target.name) = true
  · simp only [hf, if_true]
    obtain ⟨place, hp, hn⟩ := fosterPlace_some stack e0 hh hnt
    exact ⟨place, hp, fun x hx => Or.inl (hn x hx)⟩
  · simp only [hf, Bool.false_eq_true, if_false]
    refine ⟨inside target, rfl, ?_⟩
    intro x hx
    have : x = target.id := by
      unfold inside at hx; split at hx <;> simpa [placeNodes] using hx
    subst this; exact hmem

end PlaceFacts

theorem ipOf_congr {d : Dom} {tc : Id → Id} (htc : TcOk d tc) {place : Place Id}
    (hp : ∀ x ∈ placeNodes place, d.isElement x = true) : ipOf tc place = ipOf (tcOf d) place := by
  cases place with
  | lastChildOf x => rfl
  | inTemplateContentsOf x => simp only [ipOf]; rw [htc x (hp x (by simp [placeNodes]))]
  | foster t prev => rfl

end H5V.Lemmas.HtmlTBAlgo
