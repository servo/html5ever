import H5V.Lemmas.HtmlTBFuelIns
/-!
# The fuel of `process_to_completion`: `Reprocess` edges

`WJ m` — every successful run of `m` keeps "all stack entries are elements" and does not increase the
stack part of the measure (helpers that shrink the stack, insertions of elements that are not tables);
`ED f m' t` — every successful run of the arm `f` answers `Reprocess(m', t)` after such steps.
-/
namespace H5V.Lemmas.TBFuel
open H5V.Model.HtmlTB
open H5V.Model.HtmlTok (TagKind)
open H5V.Model.Dom (Id QualName Attr NodeOrText SinkOp Output ElementFlags QuirksMode Dom NodeData Node)
open H5V.Lemmas.TBSafe
open H5V.Lemmas.TBC (ok_bind ok_pure ok_getS_bind ok_modS_bind ok_ite ok_bind_pure)

/-- from a stack of elements: the stack part does not grow, the stack still consists of elements -/
def WA (s s' : State) : Prop := AllEl s.dom s.openElems → WLe s s' ∧ AllEl s'.dom s'.openElems

theorem WA.refl (s : State) : WA s s := fun h => ⟨WLe.refl s, h⟩

theorem WA.trans {a b c : State} (h1 : WA a b) (h2 : WA b c) : WA a c := fun h =>
  have := h1 h
  have h3 := h2 this.2
  ⟨this.1.trans h3.1, h3.2⟩

theorem Shr.wa {s s' : State} (h : Shr s s') : WA s s' := fun hel =>
  ⟨h.wle hel, fun x hx => (hel x (h.stack.subset hx)).ext h.ext⟩

theorem Pushed.wa {s s' : State} {r : Id} {ns name : Str} {pushIt : Bool} (h : Pushed s s' r ns name pushIt)
    (hn : (⟨ns, name⟩ : EName) ≠ tableName) : WA s s' := fun hel => by
  refine ⟨h.wle hel hn, ?_⟩
  rw [h.stack]
  cases pushIt with
  | false => exact fun x hx => (hel x hx).ext h.ext
  | true =>
    intro x hx
    simp only [if_true] at hx
    rcases List.mem_append.mp hx with hx | hx
    · exact (hel x hx).ext h.ext
    · rw [List.mem_singleton.mp hx]; exact h.el

def WJ {α : Type} (m : M α) : Prop := ∀ s a s', m s = .ok (a, s') → WA s s'

theorem wj_of_sh {α : Type} {m : M α} (h : SH m) : WJ m := fun s a s' hr => (h s a s' hr).wa

theorem wj_pure {α : Type} (a : α) : WJ (pure a : M α) := wj_of_sh (sh_pure a)

theorem wj_bind {α β : Type} {m : M α} {f : α → M β} (h1 : WJ m) (h2 : ∀ a, WJ (f a)) : WJ (m >>= f) := by
  intro s b s'' hr
  obtain ⟨a, s', hm, hf⟩ := ok_bind hr
  exact (h1 s a s' hm).trans (h2 a s' b s'' hf)

theorem wj_ite {α : Type} {c : Prop} [Decidable c] {a b : M α} (h1 : c → WJ a) (h2 : ¬c → WJ b) :
    WJ (if c then a else b) :=
  ite_rule (P := WJ) h1 h2

theorem wj_getS_bind {β : Type} {f : State → M β} (h : ∀ s0, WJ (f s0)) : WJ (getS >>= f) := by
  intro s b s' hr
  exact h s s b s' (ok_getS_bind hr)

theorem wj_insertPhantom {name : String} (hn : name ≠ "table") :
    WJ (insertPhantom name) := fun _ _ _ hr => (ef_insertPhantom hr).wa (ename_ne hn)

theorem wj_createRoot {attrs : List Attr} : WJ (createRoot attrs) := by
  intro s a s' hr
  intro hel
  refine ⟨wle_createRoot hel hr, ?_⟩
  obtain ⟨r, fr, ho, _, hr', _, _⟩ := sat_ok (al := anyAl) sat_createRoot hr
  rw [ho]
  intro x hx
  rcases List.mem_append.mp hx with hx | hx
  · exact (hel x hx).ext fr.ext
  · rw [List.mem_singleton.mp hx]; exact hr'

/-- an update of builder fields other than the stack, the arena and the template modes -/
theorem wj_modS_fields {f : State → State} (hd : ∀ s, (f s).dom = s.dom) (ho : ∀ s, (f s).openElems = s.openElems)
    (ht : ∀ s, (f s).templateModes = s.templateModes) : WJ (modS f) := by
  intro s a s' hr
  have : Except.ok ((), f s) = Except.ok (a, s') := hr
  cases this
  intro hel
  refine ⟨⟨by rw [hd, ho]; exact Nat.le_refl _, by rw [ht]; exact Nat.le_refl _⟩, ?_⟩
  rw [hd, ho]; exact hel

/-- leaves of the `WJ` walk (extensible) -/
syntax "wj_leaf" : tactic
macro_rules
  | `(tactic| wj_leaf) => `(tactic|
    first
      | exact wj_of_sh (by sh_leaf)
      | with_reducible exact wj_createRoot
      | (with_reducible refine wj_insertPhantom ?_; decide)
      | ((with_reducible refine wj_modS_fields ?_ ?_ ?_) <;> exact fun _ => rfl))

syntax "wj_step" : tactic
macro_rules
  | `(tactic| wj_step) => `(tactic|
    first
      | wj_leaf
      | with_reducible refine wj_getS_bind (fun _ => ?_)
      | with_reducible refine wj_bind ?_ (fun _ => ?_)
      | with_reducible refine wj_ite (fun _ => ?_) (fun _ => ?_)
      | dsimp only)

syntax "wj_walk" : tactic
macro_rules
  | `(tactic| wj_walk) => `(tactic| repeat' wj_step)

/-- the arm answers `Reprocess(m', t)` -/
def ED (f : M ProcessResult) (m' : Mode) (t : Token) : Prop :=
  ∀ s r s', f s = .ok (r, s') → r = .reprocess m' t ∧ WA s s'

theorem ed_pure (m' : Mode) (t : Token) : ED (pure (ProcessResult.reprocess m' t)) m' t := by
  intro s r s' hr
  obtain ⟨e1, e2⟩ := ok_pure hr
  rw [← e1, ← e2]; exact ⟨rfl, WA.refl _⟩

theorem ed_bind {α : Type} {pre : M α} {f : α → M ProcessResult} {m' : Mode} {t : Token} (h1 : WJ pre)
    (h2 : ∀ a, ED (f a) m' t) : ED (pre >>= f) m' t := by
  intro s r s'' hr
  obtain ⟨a, s', hm, hf⟩ := ok_bind hr
  obtain ⟨e, w⟩ := h2 a s' r s'' hf
  exact ⟨e, (h1 s a s' hm).trans w⟩

theorem ed_ite {c : Prop} [Decidable c] {a b : M ProcessResult} {m' : Mode} {t : Token}
    (h1 : c → ED a m' t) (h2 : ¬c → ED b m' t) : ED (if c then a else b) m' t :=
  ite_rule (P := (ED · m' t)) h1 h2

theorem ed_getS_bind {f : State → M ProcessResult} {m' : Mode} {t : Token} (h : ∀ s0, ED (f s0) m' t) :
    ED (getS >>= f) m' t := by
  intro s r s' hr
  exact h s s r s' (ok_getS_bind hr)

syntax "ed_step" : tactic
macro_rules
  | `(tactic| ed_step) => `(tactic|
    first
      | with_reducible exact ed_pure _ _
      | with_reducible apply ed_getS_bind
      | with_reducible apply ed_ite
      | ((with_reducible apply ed_bind); focus (wj_walk; done))
      | with_reducible intro _
      | dsimp only)

/-- closes `ED f m' t` for arms `helpers…; Reprocess(m', t)` -/
syntax "ed_walk" : tactic
macro_rules
  | `(tactic| ed_walk) => `(tactic| repeat' ed_step)

/-- **a `Reprocess` edge** whose helpers do not increase the stack part and whose rank decreases -/
theorem dj_of_ed {f : M ProcessResult} {m m' : Mode} {tok t : Token} (h : ED f m' t) (hm : m' ≠ .inTemplate)
    (hr : rank m' (cls tok) < rank m (cls tok)) : DJ f m tok := by
  intro s r s' ht _ hrun
  obtain ⟨e, w⟩ := h s r s' hrun
  rw [e]
  exact dec_of_rank (w ht.h.open_el).1 (Or.inl hm) hr

/-- an edge: `ED` by the walker, then the rank -/
syntax "dj_edge_tac" : tactic
macro_rules
  | `(tactic| dj_edge_tac) => `(tactic|
    (apply dj_of_ed
     case h => ed_walk
     case hm => decide
     case hr => rank_tac))

/-- a quiet arm -/
syntax "dj_quiet" : tactic
macro_rules
  | `(tactic| dj_quiet) => `(tactic| exact dj_of_ro (by ro_walk))

end H5V.Lemmas.TBFuel
