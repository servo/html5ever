import H5V.Lemmas.XmlTokCleanRun
/-!
C15 — what a character reference can deliver: never a NUL (a CR is possible: `&#13;`).
`CRI cr`: a recorded named match has a non-zero first code point (the sub-tokenizer records a match
only when the table's first code point is non-zero).
-/
namespace H5V.Model.XmlTok

def CRI (cr : CharRefSt) : Prop := ∀ c1 c2, cr.nameMatch = some (c1, c2) → c1 ≠ 0

theorem ofNat_NN (n : Nat) (hv : isValidScalar n = true) (h0 : n ≠ 0) : NN (Char.ofNat n) := by
  have hv' : n.isValidChar := by
    simp [isValidScalar] at hv
    rcases hv with h | h
    · left; omega
    · right; omega
  have e := toNat_ofNat_valid n hv'
  intro e2
  rw [e2] at e
  simp only [Char.reduceToNat] at e
  omega

theorem finishNumeric_nn (o : Opts) (m : Mach) (cr : CharRefSt) :
    ∀ ch, (finishNumeric o m cr).2 = .ok ch → NN ch := by
  intro ch h
  rcases finishNumeric_char o m cr with h' | ⟨n, hv, h0, h'⟩ <;> rw [h'] at h <;> cases h
  · decide
  · exact ofNat_NN n hv h0

/-- result of a sub-tokenizer step: the registers keep `CRI`, delivered characters are not NUL -/
def CRRes.NNok (r : CRRes) : Prop :=
  match r with
  | .error _ => True
  | .ok (_, _, cr1, st) => CRI cr1 ∧ ∀ chars, st = .done chars → AllS NN chars

theorem unconsumeNumeric_nn (m : Mach) (inp : Str) {cr : CharRefSt} (hc : CRI cr) :
    (unconsumeNumeric m inp cr).NNok := by
  simp only [unconsumeNumeric, CRRes.NNok]
  exact ⟨hc, fun chars h => by cases h; exact AllS_nil _⟩

theorem finishNumericStatus_nn (o : Opts) (m : Mach) (inp : Str) {cr : CharRefSt} (hc : CRI cr) :
    (finishNumericStatus o m inp cr).NNok := by
  unfold finishNumericStatus
  have := finishNumeric_nn o m cr
  split
  · rename_i heq
    rw [heq] at this
    exact ⟨hc, fun chars h => by cases h; exact AllS_single (this _ rfl)⟩
  · trivial

theorem unconsumeName_nn (m : Mach) (inp : Str) {cr : CharRefSt} (hc : CRI cr) :
    (unconsumeName m inp cr).NNok := by
  unfold unconsumeName
  split
  · trivial
  · exact ⟨hc, fun chars h => by cases h; exact AllS_nil _⟩

theorem namedDecision_nn (m : Mach) (cr : CharRefSt) (nb : Str) (c1 c2 : Nat) (h1 : c1 ≠ 0) (m1 : Mach)
    (chars : Str) (hd : namedDecision m cr nb c1 c2 = .ok (m1, some chars)) : AllS NN chars := by
  let Q (x : Except String (Mach × Option Str)) : Prop := ∀ m1 chars, x = .ok (m1, some chars) → AllS NN chars
  refine (?_ : Q (namedDecision m cr nb c1 c2)) _ _ hd
  unfold namedDecision
  dsimp only
  refine ite_ind (P := Q) (fun _ _ h => nomatch h) ?_
  split
  · exact fun _ _ h => nomatch h
  · refine ite_ind (P := Q) (fun _ _ h => by cases h) ?_
    by_cases hv : (!(isValidScalar c1 && isValidScalar c2)) = true
    · rw [if_pos hv]; exact fun _ _ h => nomatch h
    · rw [if_neg hv]
      have hv' : isValidScalar c1 = true ∧ isValidScalar c2 = true := by simpa using hv
      rintro _ _ ⟨⟩
      by_cases hc2 : c2 = 0
      · rw [if_pos hc2]; exact AllS_single (ofNat_NN _ hv'.1 h1)
      · rw [if_neg hc2]; exact AllS_cons (ofNat_NN _ hv'.1 h1) (AllS_single (ofNat_NN _ hv'.2 hc2))

theorem finishNamed_nn (o : Opts) (m : Mach) (inp : Str) {cr : CharRefSt} (hc : CRI cr) (ec : Option Char) :
    (finishNamed o m inp cr ec).NNok := by
  unfold finishNamed
  split
  · trivial
  · split
    · dsimp only
      repeat' split
      all_goals
        first
          | exact ⟨hc, fun chars h => by cases h⟩
          | exact unconsumeName_nn _ _ hc
    · rename_i c1 c2 hm
      split
      · trivial
      · exact unconsumeName_nn _ _ hc
      · rename_i hd
        exact ⟨hc, fun chars h => by cases h; exact namedDecision_nn _ _ _ _ _ (hc c1 c2 hm) _ _ hd⟩

/-- close a leaf of the case analysis of `crStep` / `crEofOnce` -/
macro "nn_leaf" o:ident hc:ident : tactic =>
  `(tactic| first
      | trivial
      | (refine finishNamed_nn $o _ _ ?_ _; exact $hc)
      | (refine unconsumeName_nn _ _ ?_; exact $hc)
      | (refine unconsumeNumeric_nn _ _ ?_; exact $hc)
      | (refine finishNumericStatus_nn $o _ _ ?_; exact $hc)
      | (refine ⟨?_, ?_⟩
         · first
             | exact $hc
             | (intro c1 c2 h
                simp only [Option.some.injEq] at h
                subst h
                assumption)
         · intro chars h
           first
             | (cases h; done)
             | (cases h; exact AllS_nil _)))

/-- **what one step of the sub-tokenizer delivers contains no NUL** -/
theorem crStep_nn (o : Opts) (m : Mach) (inp : Str) {cr : CharRefSt} (hc : CRI cr) :
    (crStep o m inp cr).NNok := by
  unfold crStep
  cases hst : cr.state with
  | named =>
    simp only
    generalize getChar o m inp = r
    obtain ⟨c, m2, i2⟩ := r
    cases c with
    | none => nn_leaf o hc
    | some c =>
      simp only
      repeat' split
      all_goals nn_leaf o hc
  | bogusName =>
    simp only
    generalize getChar o m inp = r
    obtain ⟨c, m2, i2⟩ := r
    cases c with
    | none => nn_leaf o hc
    | some c =>
      simp only
      repeat' split
      all_goals nn_leaf o hc
  | begin =>
    simp only
    repeat' split
    all_goals nn_leaf o hc
  | octothorpe =>
    simp only
    repeat' split
    all_goals nn_leaf o hc
  | numeric base =>
    simp only
    repeat' split
    all_goals nn_leaf o hc
  | numericSemicolon =>
    simp only
    repeat' split
    all_goals nn_leaf o hc

/-- the local `once` of `end_of_file` -/
theorem crEofOnce_nn (o : Opts) (m : Mach) (inp : Str) {cr : CharRefSt} (hc : CRI cr) :
    (crEofOnce o m inp cr).NNok := by
  unfold crEofOnce
  cases cr.state with
  | begin => exact ⟨hc, fun chars h => by cases h; exact AllS_nil _⟩
  | octothorpe => exact ⟨hc, fun chars h => by cases h; exact AllS_nil _⟩
  | numeric _ =>
    exact ite_ind (P := CRRes.NNok) (unconsumeNumeric_nn _ _ hc) (finishNumericStatus_nn o _ _ hc)
  | numericSemicolon => exact finishNumericStatus_nn o _ _ hc
  | named => exact finishNamed_nn o _ _ hc _
  | bogusName => exact unconsumeName_nn _ _ hc

/-! ### the invariant that holds for **all** inputs: `CInv NN` plus `CRI` of a pending reference -/

/-- a pending character reference has consistent match registers -/
def CRIm (m : Mach) : Prop := ∀ cr, m.charRef = some cr → CRI cr

theorem CRIm.of_none {m : Mach} (h : m.charRef = none) : CRIm m := by
  intro cr hcr; rw [h] at hcr; cases hcr

theorem CRI.fresh (a : Option Char) : CRI { addnlAllowed := a } := by
  intro c1 c2 h; simp at h

theorem stepCharRef_crim (o : Opts) (m : Mach) (inp : Str) (cr : CharRefSt) (hc : CRI cr) :
    ∀ m', (stepCharRef o m inp cr).mach? = some m' → CRIm m' := by
  intro m' h
  unfold stepCharRef at h
  have hn := crStep_nn o m inp hc
  cases hcs : crStep o m inp cr with
  | error x => rw [hcs] at h; simp [R.mach?] at h
  | ok v =>
    obtain ⟨m1, i1, cr1, st⟩ := v
    rw [hcs] at h hn
    cases st with
    | stuck =>
      simp only [R.mach?, Option.some.injEq] at h; subst h
      intro cr' h'
      simp only [setCharRef_charRef, Option.some.injEq] at h'; subst h'
      exact hn.1
    | progress =>
      simp only [R.mach?, Option.some.injEq] at h; subst h
      intro cr' h'
      simp only [setCharRef_charRef, Option.some.injEq] at h'; subst h'
      exact hn.1
    | done chars =>
      have := ofSig_mach _ _ _ h
      subst this
      exact CRIm.of_none (by simp)

/-- `CRIm` is preserved by every step (outside the sub-tokenizer a reference is at most started,
with empty registers) -/
theorem step_crim (o : Opts) (m : Mach) (inp : Str) (hs : CRIm m) :
    ∀ m', (step o m inp).mach? = some m' → CRIm m' := by
  cases hcr : m.charRef with
  | some cr =>
    rw [step_kind_charRef o m inp cr hcr]
    exact stepCharRef_crim o m inp cr (hs cr hcr)
  | none =>
    intro m' h
    rcases (step_charRef o m inp hcr).2 m' h with hn | ⟨⟨a, hsome⟩, _⟩
    · exact CRIm.of_none hn
    · intro cr' h'
      rw [hsome] at h'
      cases h'
      exact CRI.fresh _

/-- **the invariant of every run**: no NUL in any buffer or token (parse-error tokens are not
constrained) and no CR outside the two places a character
reference delivers into (attribute values, character tokens); a pending reconsume re-delivers a
preprocessed character; a pending reference has consistent match registers -/
def NInv (m : Mach) : Prop := CInv NN m ∧ CRIm m

/-- the machine of a step result satisfies `NInv` -/
def RN : R → Prop
  | .cont m _ => NInv m
  | .suspend m _ => NInv m
  | .panic _ => True

theorem step_ninv (o : Opts) {m : Mach} (h : NInv m) (inp : Str) : RN (step o m inp) := by
  have h1 := step_RInv (P := NN) o h.1 inp (fun cr hcr m1 i1 cr1 chars hc => by
    have := crStep_nn o m inp (h.2 cr hcr)
    rw [hc] at this
    exact this.2 chars rfl)
  have h2 := step_crim o m inp h.2
  cases hs : step o m inp with
  | cont m' i' => rw [hs] at h1 h2; exact ⟨h1, h2 m' rfl⟩
  | suspend m' i' => rw [hs] at h1 h2; exact ⟨h1, h2 m' rfl⟩
  | panic e => trivial

theorem run_ninv (o : Opts) (fuel : Nat) {m : Mach} (h : NInv m) (inp : Str) (m' : Mach) (i' : Str)
    (hr : run o fuel m inp = .done m' i') : NInv m' := by
  induction fuel generalizing m inp with
  | zero => simp [run] at hr
  | succ f ih =>
    have hs := step_ninv o h inp
    simp only [run] at hr
    cases hst : step o m inp with
    | cont m1 i1 => rw [hst] at hr hs; exact ih hs i1 hr
    | suspend m1 i1 =>
      rw [hst] at hr hs
      simp only [RunRes.done.injEq] at hr
      obtain ⟨e1, _⟩ := hr; subst e1
      exact hs
    | panic e => rw [hst] at hr; simp at hr

theorem NInv_setDiscardBom {m : Mach} (h : NInv m) (b : Bool) : NInv (m.setDiscardBom b) :=
  ⟨CInv_setDiscardBom h.1 b, fun cr hcr => h.2 cr (by simpa using hcr)⟩
theorem NInv_setAtEof {m : Mach} (h : NInv m) (b : Bool) : NInv (m.setAtEof b) :=
  ⟨CInv_setAtEof h.1 b, fun cr hcr => h.2 cr (by simpa using hcr)⟩

theorem feedBom_ninv {m : Mach} (h : NInv m) (inp : Str) : NInv (feedBom m inp).1 := by
  unfold feedBom
  split
  · exact h
  · split
    · exact NInv_setDiscardBom h false
    · exact h

/-- `XmlTokenizer::feed` preserves the invariant -/
theorem feed_ninv (o : Opts) {m : Mach} (h : NInv m) (inp chunk : Str) (m' : Mach) (i' : Str)
    (hf : feed o m inp chunk = .done m' i') : NInv m' := by
  unfold feed at hf
  dsimp only at hf
  split at hf
  · simp only [RunRes.done.injEq] at hf
    obtain ⟨e1, _⟩ := hf; subst e1; exact h
  · exact run_ninv o _ (feedBom_ninv h _) _ m' i' hf

/-- the char-ref tokenizer's `end_of_file` -/
theorem crEof_ninv (o : Opts) {m : Mach} (h : CInv NN m) (inp : Str) {cr : CharRefSt} (hc : CRI cr)
    (m1 : Mach) (i1 chars : Str) (he : crEof o m inp cr = .ok (m1, i1, chars)) :
    CInv NN m1 ∧ AllS NN chars := by
  rw [crEof_eq] at he
  have g1 := crEofOnce_inv cinv_closed h o inp cr
  have n1 := crEofOnce_nn o m inp hc
  cases h1 : crEofOnce o m inp cr with
  | error e => rw [h1] at he; simp at he
  | ok v =>
    obtain ⟨m2, i2, cr2, st⟩ := v
    rw [h1] at he g1 n1
    cases st with
    | stuck => simp at he
    | done cs =>
      simp only [Except.ok.injEq, Prod.mk.injEq] at he
      obtain ⟨e1, _, e3⟩ := he; subst e1 e3
      exact ⟨g1, n1.2 _ rfl⟩
    | progress =>
      simp only at he
      have g2 := crEofOnce_inv (cinv_closed (P := NN)) g1 o i2 cr2
      have n2 := crEofOnce_nn o m2 i2 n1.1
      cases h2 : crEofOnce o m2 i2 cr2 with
      | error e => rw [h2] at he; simp at he
      | ok v2 =>
        obtain ⟨m3, i3, cr3, st3⟩ := v2
        rw [h2] at he g2 n2
        cases st3 with
        | stuck => simp at he
        | progress => simp at he
        | done cs =>
          simp only [Except.ok.injEq, Prod.mk.injEq] at he
          obtain ⟨e1, _, e3⟩ := he; subst e1 e3
          exact ⟨g2, n2.2 _ rfl⟩

theorem finishPre_ninv (o : Opts) {m : Mach} (h : NInv m) (m1 : Mach) (i1 : Str)
    (hf : finishPre o m = .ok (m1, i1)) : NInv m1 := by
  unfold finishPre at hf
  cases hcr : m.charRef with
  | none =>
    rw [hcr] at hf
    simp only [Except.ok.injEq, Prod.mk.injEq] at hf
    obtain ⟨e1, _⟩ := hf; subst e1; exact h
  | some cr =>
    rw [hcr] at hf
    simp only at hf
    cases he : crEof o m [] cr with
    | error e => rw [he] at hf; simp at hf
    | ok v =>
      obtain ⟨m2, i2, chars⟩ := v
      rw [he] at hf
      simp only at hf
      obtain ⟨g1, g2⟩ := crEof_ninv o h.1 [] (h.2 cr hcr) m2 i2 chars he
      have hp := processCharRef_cinv (CInv_setCharRef g1 none) g2
      have hc := processCharRef_charRef (m2.setCharRef none) chars
      cases hpc : processCharRef (m2.setCharRef none) chars with
      | mk m3 sig =>
        rw [hpc] at hf hp hc
        cases sig with
        | cont =>
          simp only [Except.ok.injEq, Prod.mk.injEq] at hf
          obtain ⟨e1, _⟩ := hf; subst e1
          exact ⟨hp, CRIm.of_none (by simpa using hc)⟩
        | panic e => simp at hf

/-- **`XmlTokenizer::end`** delivers clean tokens as well -/
theorem finish_clean (o : Opts) {m : Mach} (h : NInv m) (mf : Mach) (hf : finish o m = .ok mf) :
    CleanP NN mf := by
  rw [finish_eq] at hf
  cases hp : finishPre o m with
  | error e => rw [hp] at hf; simp at hf
  | ok v =>
    obtain ⟨m1, i1⟩ := v
    rw [hp] at hf
    simp only at hf
    have h1 := NInv_setAtEof (finishPre_ninv o h m1 i1 hp) true
    cases hr : run o (fuelFor (m1.setAtEof true) i1) (m1.setAtEof true) i1 with
    | done m2 i2 =>
      rw [hr] at hf
      simp only at hf
      exact eofLoop_clean o 8 (run_ninv o _ h1 i1 m2 i2 hr).1.1 mf hf
    | panic e => rw [hr] at hf; simp at hf
    | outOfFuel => rw [hr] at hf; simp at hf

/-- every machine the driver starts from satisfies the invariant -/
theorem ninv_initial (st : State) (b : Bool) : NInv { state := st, discardBom := b } :=
  ⟨⟨⟨AllS_nil _, (fun _ h => nomatch h), AllS_nil _, AllS_nil _, AllS_nil _, Doctype_clean_empty, AllS_nil _,
      AllS_nil _, (fun _ h => nomatch h)⟩, fun h => by cases h⟩, CRIm.of_none rfl⟩


end H5V.Model.XmlTok
