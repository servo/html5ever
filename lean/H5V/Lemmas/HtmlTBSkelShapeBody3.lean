import H5V.Lemmas.HtmlTBSkelShapeBody2
import H5V.Lemmas.HtmlTBSkelShapeRun
import H5V.Lemmas.HtmlTBSkelAdjClone
/-!
C06, second invariant layer: the InBody rules as a whole keep the stack-shape invariant (`modeOk_inBody`).
A rule is judged by `RB` (HtmlTBSkelShapeRB: started in `Big`, it ends in a state that is `Good`, as its answer
requires) or, with a precondition on the state, by `RBw` (HtmlTBSkelShapeBody2, where `GenEnd`, the side condition
of the generic end-tag arm, and `FramesetArm` are defined too); `PlainStr` (HtmlTBSkelShapeScope) says that a name
may be popped; `ModeOk` (HtmlTBSkelShapeRun) is what each insertion mode has to deliver.
-/
namespace H5V.Props.C06
open H5V.Model.Dom hiding Str
open H5V.Model.HtmlTB hiding Str
open H5V.Lemmas.Dom

/-- one arm of an if-chain: the test gives a rule without precondition, the rest keeps the precondition -/
theorem rbw_ite_rb {W : State → Prop} {c : Prop} [Decidable c] {a b : M ProcessResult}
    (h1 : c → RB a) (h2 : ¬c → RBw W b) : RBw W (if c then a else b) :=
  rbw_dite (fun h => .of_rb (h1 h)) h2

/-- The InBody rules for a tag, arm by arm in the order of `stepInBody`: `h` is the test of the arm, `n1 …` are the
failed tests of the arms before it. An arm that inserts or closes an element named by the tag needs that name to be
disposable (`PlainStr`), which its test gives. The generic start-tag arm gets it from the failed tests for the
protected names (`plain_generic_start`: `n1 n2 n3 n4 n27 n45`); the generic end-tag arm needs `n5 n6 n2` and the side
condition `GenEnd` (`rbw_generic_end`). -/
theorem stepInBody_tag_rbw (tag : Tag)
    (hhead : (tag.isStart ["base", "basefont", "bgsound", "link", "meta", "noframes", "script", "style",
      "template", "title"] || tag.isEnd ["template"]) = true → RB (stepInHead (.tag tag)))
    (hfs : tag.isStart ["frameset"] = true → FramesetArm tag) :
    RBw (fun s => GenEnd tag s.mode) (stepInBody (.tag tag)) := by
  unfold stepInBody
  dsimp only
  refine rbw_ite_rb (fun _ => inferInstance) fun n1 => ?_
  refine rbw_ite_rb hhead fun n2 => ?_
  refine rbw_ite_rb (fun h => ?_) fun n3 => ?_
  · with_reducible apply RB.bindPB inferInstance
    intro _
    with_reducible apply rb_bodyElem
    · dsimp only; exact inferInstance
    · intro b; dsimp only; apply RBw.of_rb; rb_walk
  refine rbw_ite_rb (fun h => ?_) fun n4 => ?_
  · with_reducible apply RB.bindPB inferInstance
    intro _
    with_reducible apply RB.bindPB inferInstance
    intro s0
    with_reducible apply RB.dite
    · intro _; exact inferInstance
    · intro _
      with_reducible apply rb_bodyElem
      · dsimp only; exact inferInstance
      · intro b; dsimp only; exact hfs h b
  refine rbw_ite_rb (fun h => ?_) fun n5 => ?_
  · exact rb_body_end
  refine rbw_ite_rb (fun h => ?_) fun n6 => ?_
  · exact rb_html_end
  refine rbw_ite_rb (fun h => ?_) fun n7 => ?_
  · haveI := plain_of_isStart h (by decide); rb_walk
  refine rbw_ite_rb (fun h => ?_) fun n8 => ?_
  · haveI := plain_of_isStart h (by decide); rb_walk
  refine rbw_ite_rb (fun h => ?_) fun n9 => ?_
  · haveI := plain_of_isStart h (by decide); rb_walk
  refine rbw_ite_rb (fun h => ?_) fun n10 => ?_
  · haveI := plain_of_isStart h (by decide); rb_walk
  refine rbw_ite_rb (fun h => ?_) fun n11 => ?_
  · haveI := plain_of_isStart h (by decide); rb_walk
  refine rbw_ite_rb (fun h => ?_) fun n12 => ?_
  · haveI := plain_of_isStart h (by decide); rb_walk
  refine rbw_ite_rb (fun h => ?_) fun n13 => ?_
  · haveI := plain_of_isStart h (by decide); rb_walk
  refine rbw_ite_rb (fun h => ?_) fun n14 => ?_
  · haveI := plain_of_isStart h (by decide)
    refine rb_inScopeNamed (RBw.of_pbsc (PBsc.bindQ inferInstance fun _ => inferInstance)) ?_
    rb_walk
  refine rbw_ite_rb (fun h => ?_) fun n15 => ?_
  · haveI := plain_of_isEnd h (by decide); haveI := notCursory_of_isEnd h (by decide); rb_walk
  refine rbw_ite_rb (fun h => ?_) fun n16 => ?_
  · with_reducible apply RB.bindPB inferInstance
    intro _
    with_reducible apply RB.dite
    · intro _
      with_reducible apply rb_ofGetS
      intro s0
      cases hfe : s0.formElem with
      | none => dsimp only; apply RBw.of_rb; rb_walk
      | some node => dsimp only; exact rbw_form_end s0 node hfe _ _
    · intro _; rb_walk
  refine rbw_ite_rb (fun h => ?_) fun n17 => ?_
  · haveI := plain_of_isEnd h (by decide); rb_walk
  refine rbw_ite_rb (fun h => ?_) fun n18 => ?_
  · rb_walk
  refine rbw_ite_rb (fun h => ?_) fun n19 => ?_
  · haveI := plain_of_isEnd h (by decide); rb_walk
  refine rbw_ite_rb (fun h => ?_) fun n20 => ?_
  · haveI := plain_of_isEnd h (by decide); rb_walk
  refine rbw_ite_rb (fun h => ?_) fun n21 => ?_
  · haveI := plain_of_isStart h (by decide); haveI := fmt_of_isStart h (by decide); rb_walk
  refine rbw_ite_rb (fun h => ?_) fun n22 => ?_
  · haveI := plain_of_isStart h (by decide); haveI := fmt_of_isStart h (by decide); rb_walk
  refine rbw_ite_rb (fun h => ?_) fun n23 => ?_
  · haveI := plain_of_isStart h (by decide); haveI := fmt_of_isStart h (by decide); rb_walk
  refine rbw_ite_rb (fun h => ?_) fun n24 => ?_
  · haveI := plain_of_isEnd h (by decide); rb_walk
  refine rbw_ite_rb (fun h => ?_) fun n25 => ?_
  · haveI := plain_of_isStart h (by decide); rb_walk
  refine rbw_ite_rb (fun h => ?_) fun n26 => ?_
  · haveI := plain_of_isEnd h (by decide); haveI := notCursory_of_isEnd h (by decide); rb_walk
  refine rbw_ite_rb (fun h => ?_) fun n27 => ?_
  · rb_walk
  refine rbw_ite_rb (fun h => ?_) fun n28 => ?_
  · haveI := plain_of_isEnd h (by decide); rb_walk
  refine rbw_ite_rb (fun h => ?_) fun n29 => ?_
  · haveI := plain_of_isStart h (by decide); rb_walk
  refine rbw_ite_rb (fun h => ?_) fun n30 => ?_
  · haveI := plain_of_isStart h (by decide)
    with_reducible apply RB.bindPB inferInstance
    intro _
    with_reducible apply RB.dite
    · intro _; rb_walk
    · intro _
      refine rb_inScopeNamed (RBw.of_pbsc (PBsc.bindQ inferInstance fun _ => inferInstance)) ?_
      rb_walk
  refine rbw_ite_rb (fun h => ?_) fun n31 => ?_
  · haveI := plain_of_isStart h (by decide); rb_walk
  refine rbw_ite_rb (fun h => ?_) fun n32 => ?_
  · haveI := plain_of_isStart h (by decide); rb_walk
  refine rbw_ite_rb (fun h => ?_) fun n33 => ?_
  · rb_walk
  refine rbw_ite_rb (fun h => ?_) fun n34 => ?_
  · haveI := plain_of_isStart h (by decide); rb_walk
  refine rbw_ite_rb (fun h => ?_) fun n35 => ?_
  · haveI := plain_of_isStart h (by decide); rb_walk
  refine rbw_ite_rb (fun h => ?_) fun n36 => ?_
  · haveI := plain_of_isStart h (by decide); rb_walk
  refine rbw_ite_rb (fun h => ?_) fun n37 => ?_
  · haveI := plain_of_isStart h (by decide); rb_walk
  refine rbw_ite_rb (fun h => ?_) fun n38 => ?_
  · haveI := plain_of_isStart h (by decide); rb_walk
  refine rbw_ite_rb (fun h => ?_) fun n39 => ?_
  · haveI := plain_of_isStart h (by decide); rb_walk
  refine rbw_ite_rb (fun h => ?_) fun n40 => ?_
  · haveI := plain_of_isStart h (by decide); rb_walk
  refine rbw_ite_rb (fun h => ?_) fun n41 => ?_
  · haveI := plain_of_isStart h (by decide); rb_walk
  refine rbw_ite_rb (fun h => ?_) fun n42 => ?_
  · haveI := plain_of_isStart h (by decide); rb_walk
  refine rbw_ite_rb (fun h => ?_) fun n43 => ?_
  · rb_walk
  refine rbw_ite_rb (fun h => ?_) fun n44 => ?_
  · rb_walk
  refine rbw_ite_rb (fun h => ?_) fun n45 => ?_
  · rb_walk
  refine rbw_ite_rb (fun h => ?_) (rbw_generic_end n5 n6 n2)
  haveI := plain_generic_start h n1 n2 n3 n4 n27 n45
  rb_walk


/-! ### InBody as a whole -/

theorem fits_of_fitsM {s : State} {m : Mode} {up : List Id} {ph : Phase} (hbl : isBL m = true) (hm : s.mode = m)
    (h : FitsM s up ph) : Fits s.dom s.headElem m up ph := by
  unfold FitsM at h
  rw [hm] at h
  rcases isBL_cases hbl with rfl | rfl | rfl | rfl | rfl | rfl | rfl | rfl <;> exact h

theorem Good.big {r : Id} {s : State} {m : Mode} (h : Good r s) (hm : s.mode = m) (hbl : isBL m = true) :
    ∃ ph, Big m r ph s := by
  obtain ⟨up, ph, ⟨hc, hf⟩, _⟩ := h
  obtain ⟨hbb, hn⟩ := bl_of_fits hbl (fits_of_fitsM hbl hm hf)
  exact ⟨ph, up, hc, hbb, hn, FPok.triv _ _⟩

theorem RB.good {prog : M ProcessResult} (h : RB prog) {r : Id} {s s' : State} {m : Mode} {res : ProcessResult}
    (hg : Good r s) (hm : s.mode = m) (hbl : isBL m = true) (e : prog s = .ok (res, s')) : Out r s' res := by
  obtain ⟨ph, hb⟩ := hg.big hm hbl
  exact h.p m r ph s res s' hb hm hbl e

theorem RBw.good {W : State → Prop} {prog : M ProcessResult} (h : RBw W prog) {r : Id} {s s' : State} {m : Mode}
    {res : ProcessResult} (hg : Good r s) (hm : s.mode = m) (hbl : isBL m = true) (hw : W s)
    (e : prog s = .ok (res, s')) : Out r s' res := by
  obtain ⟨ph, hb⟩ := hg.big hm hbl
  exact h m r ph s res s' hb hm hbl hw e

/-- the parts of the InBody rules that are delegated: the head-only tags (handled by the InHead rules),
`<frameset>` replacing `body`, EOF inside a template -/
structure BodyDeleg : Prop where
  head : ∀ tag : Tag, (tag.isStart ["base", "basefont", "bgsound", "link", "meta", "noframes", "script", "style",
      "template", "title"] || tag.isEnd ["template"]) = true → RB (stepInHead (.tag tag))
  frameset : ∀ tag : Tag, tag.isStart ["frameset"] = true → FramesetArm tag
  eof : RB inTemplateEof

/-- the InBody rules for tokens other than tags -/
theorem stepInBody_other_rb (D : BodyDeleg) (tok : Token) [ht : TokW tok] (hnt : ∀ tag, tok ≠ .tag tag) :
    RB (stepInBody tok) := by
  unfold stepInBody
  cases tok with
  | tag t => exact absurd rfl (hnt t)
  | nullChar => dsimp only; exact inferInstance
  | comment c => dsimp only; exact inferInstance
  | chars st text =>
    haveI : NE text := ⟨ht.ne st text rfl⟩
    dsimp only
    rb_walk
  | eof =>
    haveI := D.eof
    dsimp only
    rb_walk

/-- **the InBody rules**, used in mode `m` -/
theorem stepInBody_good (D : BodyDeleg) {tok : Token} [ht : TokW tok] {r : Id} {s s' : State} {m : Mode}
    {res : ProcessResult} (hg : Good r s) (hm : s.mode = m) (hbl : isBL m = true)
    (hside : ∀ tag, tok = .tag tag → GenEnd tag m) (e : stepInBody tok s = .ok (res, s')) : Out r s' res := by
  cases tok with
  | tag t =>
    exact (stepInBody_tag_rbw t (D.head t) (D.frameset t)).good hg hm hbl (by rw [hm]; exact hside t rfl) e
  | _ => exact (stepInBody_other_rb D _ (by intro t h; cases h)).good hg hm hbl e

theorem modeOk_inBody (D : BodyDeleg) : ModeOk .inBody := by
  intro tok ht r s res s' hg hm e
  exact stepInBody_good D hg hm rfl (fun tag _ _ _ _ => Or.inr rfl) e

end H5V.Props.C06
