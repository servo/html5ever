import H5V.Lemmas.HtmlTBSkelShapeFrameset
import H5V.Lemmas.HtmlTBSkelShapeBody3
/-!
C06, second invariant layer: the end of the input in the modes outside the body phase.
-/
namespace H5V.Props.C06
open H5V.Model.Dom hiding Str
open H5V.Model.HtmlTB hiding Str
open H5V.Lemmas.Dom

theorem eofOk_beforeHead : EofOk .beforeHead := by
  intro r s res s' hg hm e
  have e' : stepBeforeHead .eof s = .ok (res, s') := e
  unfold stepBeforeHead at e'
  dsimp only at e'
  obtain ⟨_, _, _, e2⟩ := bind_ok.mp e'
  obtain ⟨_, _, _, e3⟩ := bind_ok.mp e2
  obtain ⟨rfl, _⟩ := pure_ok.mp e3
  exact Or.inr ⟨_, rfl⟩

theorem eofOk_inHead : EofOk .inHead := by
  intro r s res s' hg hm e
  have e' : stepInHead .eof s = .ok (res, s') := e
  unfold stepInHead at e'
  dsimp only at e'
  obtain ⟨_, _, _, e2⟩ := bind_ok.mp e'
  obtain ⟨rfl, _⟩ := pure_ok.mp e2
  exact Or.inr ⟨_, rfl⟩

theorem eofOk_inHeadNoscript : EofOk .inHeadNoscript := by
  intro r s res s' hg hm e
  have e' : stepInHeadNoscript .eof s = .ok (res, s') := e
  unfold stepInHeadNoscript at e'
  dsimp only at e'
  obtain ⟨_, _, _, e2⟩ := bind_ok.mp e'
  obtain ⟨_, _, _, e3⟩ := bind_ok.mp e2
  obtain ⟨rfl, _⟩ := pure_ok.mp e3
  exact Or.inr ⟨_, rfl⟩

theorem eofOk_afterHead : EofOk .afterHead := by
  intro r s res s' hg hm e
  have e' : stepAfterHead .eof s = .ok (res, s') := e
  unfold stepAfterHead at e'
  dsimp only at e'
  obtain ⟨_, _, _, e2⟩ := bind_ok.mp e'
  obtain ⟨rfl, _⟩ := pure_ok.mp e2
  exact Or.inr ⟨_, rfl⟩

theorem eofOk_text : EofOk .text := by
  intro r s res s' hg hm e
  have e' : stepText .eof s = .ok (res, s') := e
  unfold stepText at e'
  dsimp only at e'
  obtain ⟨_, s1, _, e2⟩ := bind_ok.mp e'
  obtain ⟨b, s2, _, e4⟩ := bind_ok.mp e2
  have key : ∀ s3 : State,
      (pop >>= fun _ => getS >>= fun s => match s.origMode with
        | none => panicAt "unwrap-none" "rules.rs:1023" "orig_mode.take().unwrap()"
        | some m => set { s with origMode := none } >>= fun _ => pure (ProcessResult.reprocess m Token.eof)) s3
        = .ok (res, s') → ∃ m', res = .reprocess m' .eof := by
    intro s3 e5
    obtain ⟨y, s4, _, e7⟩ := bind_ok.mp e5
    rw [getS_bind] at e7
    cases ho : s4.origMode with
    | none => rw [ho] at e7; exact absurd e7 panicAt_ok
    | some m =>
      rw [ho] at e7
      dsimp only at e7
      obtain ⟨_, _, _, e9⟩ := bind_ok.mp e7
      obtain ⟨rfl, _⟩ := pure_ok.mp e9
      exact ⟨_, rfl⟩
  rcases ite_run e4 with ⟨_, e4⟩ | ⟨_, e4⟩
  · rw [getS_bind] at e4
    cases hgl : s2.openElems.getLast? with
    | none =>
      rw [hgl] at e4; dsimp only at e4
      obtain ⟨_, _, h1, _⟩ := bind_ok.mp e4
      exact absurd h1 panicAt_ok
    | some c =>
      rw [hgl] at e4; dsimp only at e4
      obtain ⟨cur, s3, e5, e6⟩ := bind_ok.mp e4
      obtain ⟨_, s4, e7, e8⟩ := bind_ok.mp e6
      exact Or.inr (key s4 e8)
  · exact Or.inr (key _ e4)

/-- a state in one of the frameset modes has `head` and `frameset` in place -/
theorem fin_of_pf {r : Id} {s : State} (hg : Good r s)
    (hm : s.mode = .inFrameset ∨ s.mode = .afterFrameset ∨ s.mode = .afterAfterFrameset) : Fin s := by
  obtain ⟨up, ph, hs, _⟩ := hg
  refine ⟨r, up, ph, hs, ?_⟩
  have hf := hs.fits
  unfold FitsM at hf
  rcases hm with hm | hm | hm <;> rw [hm] at hf
  · obtain ⟨fs, _, _, rfl, _⟩ : ∃ fs up', up = fs :: up' ∧ ph = .pf fs ∧ ∀ x ∈ up, nm s.dom x = hN "frameset" := hf
    trivial
  · obtain ⟨_, hp⟩ : up = [] ∧ ph.isPf := hf
    cases ph <;> first | trivial | exact absurd hp id
  · obtain ⟨hp, _⟩ : ph.isPf ∧ ∀ x ∈ up, isFmtE (nm s.dom x) = true := hf
    cases ph <;> first | trivial | exact absurd hp id

theorem eofOk_inFrameset : EofOk .inFrameset := by
  intro r s res s' hg hm e
  have hout := modeOk_inFrameset .eof inferInstance r s res s' hg hm e
  have e' : stepInFrameset .eof s = .ok (res, s') := e
  unfold stepInFrameset at e'
  dsimp only at e'
  rw [getS_bind] at e'
  have hres : res = .done ∧ s'.mode = s.mode := by
    rcases ite_run e' with ⟨_, e'⟩ | ⟨_, e'⟩
    · obtain ⟨_, s1, e1, e2⟩ := bind_ok.mp e'
      obtain ⟨rfl, rfl⟩ := pure_ok.mp e2
      exact ⟨rfl, (qs_unexpected e1).1.mode⟩
    · obtain ⟨rfl, rfl⟩ := pure_ok.mp e'
      exact ⟨rfl, rfl⟩
  obtain ⟨rfl, hm'⟩ := hres
  exact Or.inl ⟨rfl, fin_of_pf hout (Or.inl (hm'.trans hm))⟩

theorem eofOk_afterFrameset : EofOk .afterFrameset := by
  intro r s res s' hg hm e
  have e' : stepAfterFrameset .eof s = .ok (res, s') := e
  unfold stepAfterFrameset at e'
  dsimp only at e'
  obtain ⟨rfl, rfl⟩ := pure_ok.mp e'
  exact Or.inl ⟨rfl, fin_of_pf hg (Or.inr (Or.inl hm))⟩

theorem eofOk_afterAfterFrameset : EofOk .afterAfterFrameset := by
  intro r s res s' hg hm e
  have e' : stepAfterAfterFrameset .eof s = .ok (res, s') := e
  unfold stepAfterAfterFrameset at e'
  dsimp only at e'
  obtain ⟨rfl, rfl⟩ := pure_ok.mp e'
  exact Or.inl ⟨rfl, fin_of_pf hg (Or.inr (Or.inr hm))⟩


/-! ### the body-like modes -/

/-- in a body-like mode without a `template` on the stack, `head` and `body` are in place -/
theorem fin_of_bl {r : Id} {s : State} (hg : Good r s) (hbl : isBL s.mode = true)
    (hnt : ∀ x ∈ s.openElems, nm s.dom x ≠ hN "template") : Fin s := by
  obtain ⟨up, ph, hs, _⟩ := id hg
  obtain ⟨hbb, _⟩ := bl_of_fits hbl (fits_of_fitsM hbl rfl hs.fits)
  refine ⟨r, up, ph, hs, ?_⟩
  have hst := hs.core.stack
  rcases hbb with ⟨b, u, _, rfl, _⟩ | ⟨hh, t, u, _, hu, htn, _⟩ | ⟨t, u, hu, htn, _, _⟩
  · trivial
  · exact absurd htn (hnt t (by rw [hst, hu]; simp))
  · exact absurd htn (hnt t (by rw [hst, hu]; simp))

theorem checkBodyEndLoop_qs : ∀ (l : List Id) (s s' : State) (u : Unit), checkBodyEndLoop l s = .ok (u, s') → QS s s'
  | [], s, s', u, e => by
    unfold checkBodyEndLoop at e
    obtain ⟨_, rfl⟩ := pure_ok.mp e
    exact QS.refl _
  | x :: rest, s, s', u, e => by
    unfold checkBodyEndLoop at e
    obtain ⟨n, s1, e1, e2⟩ := bind_ok.mp e
    obtain ⟨q1, _, _⟩ := elemName_sem e1
    rcases ite_run e2 with ⟨_, e2⟩ | ⟨_, e2⟩
    · exact q1.trans (checkBodyEndLoop_qs rest s1 s' u e2)
    · exact q1.trans (qs_parseError e2)

/-- the end of the input as the InBody rules treat it -/
theorem eof_bl {r : Id} {s s' : State} {res : ProcessResult} (hg : Good r s) (hbl : isBL s.mode = true)
    (e : stepInBody .eof s = .ok (res, s')) :
    (res = .done ∧ Fin s') ∨ (∃ m', res = .reprocess m' .eof) := by
  obtain ⟨up, ph, hs, _⟩ := id hg
  unfold stepInBody at e
  dsimp only at e
  rw [getS_bind] at e
  rcases ite_run e with ⟨hne, e⟩ | ⟨hemp, e⟩
  · unfold inTemplateEof at e
    obtain ⟨b, s1, e1, e2⟩ := bind_ok.mp e
    obtain ⟨q1, hb⟩ := inHtmlElemNamed_sem e1
    rcases ite_run e2 with ⟨hb0, e2⟩ | ⟨_, e2⟩
    · obtain ⟨rfl, rfl⟩ := pure_ok.mp e2
      refine Or.inl ⟨rfl, fin_of_bl (hg.qs q1) (by rw [q1.mode]; exact hbl) ?_⟩
      intro x hx hn
      have hbf : b = false := by simpa using hb0
      rw [q1.openElems] at hx
      rw [q1.nm] at hn
      have : b = true := hb.mpr ⟨x, hx, by rw [hn]; decide⟩
      rw [hbf] at this; cases this
    · obtain ⟨_, _, _, e3⟩ := bind_ok.mp e2
      obtain ⟨_, _, _, e4⟩ := bind_ok.mp e3
      obtain ⟨_, _, _, e5⟩ := bind_ok.mp e4
      obtain ⟨_, _, _, e6⟩ := bind_ok.mp e5
      obtain ⟨_, _, _, e7⟩ := bind_ok.mp e6
      obtain ⟨_, _, _, e8⟩ := bind_ok.mp e7
      obtain ⟨_, _, _, e9⟩ := bind_ok.mp e8
      obtain ⟨rfl, _⟩ := pure_ok.mp e9
      exact Or.inr ⟨_, rfl⟩
  · obtain ⟨_, s1, e1, e2⟩ := bind_ok.mp e
    obtain ⟨rfl, rfl⟩ := pure_ok.mp e2
    unfold checkBodyEnd at e1
    rw [getS_bind] at e1
    have q1 := checkBodyEndLoop_qs _ _ _ _ e1
    refine Or.inl ⟨rfl, fin_of_bl (hg.qs q1) (by rw [q1.mode]; exact hbl) ?_⟩
    intro x hx hn
    rw [q1.openElems] at hx
    rw [q1.nm] at hn
    have htc := hs.core.tc
    have hem : s.templateModes = [] := by
      cases hl : s.templateModes with
      | nil => rfl
      | cons a t => rw [hl] at hemp; simp at hemp
    rw [hem] at htc
    have h0 : tcount s.dom s.openElems = 0 := Nat.le_zero.mp htc
    unfold tcount at h0
    rw [List.countP_eq_zero] at h0
    exact h0 x hx (by rw [hn]; simp [lit_name])

/-- the body-like modes whose rules hand the end of the input to the InBody rules -/
theorem eofOk_of_body {m : Mode} (hbl : isBL m = true) (hstep : step m .eof = stepInBody .eof) : EofOk m :=
  fun _ _ _ _ hg hm e => eof_bl hg (by rw [hm]; exact hbl) (hstep ▸ e)

end H5V.Props.C06
