import H5V.Lemmas.HtmlTBContractLogic
/-!
# TreeSink contract for the HTML tree builder: judgements for the rules

* `TokOk tok` — the attribute list of a tag token is as the tokenizer delivers it (`AttrsOk`);
* `ResLate tok res` — what `process_to_completion` needs to know about a rule's answer: a `Reprocess`
  goes to a mode other than Initial, with the same token;
* `CPSP d0 c m R P` — `CPS` with a predicate `P` on the result; `RS d0 tok m` — the judgement of a rule;
* result lemmas by inversion (`ok_bind`, …) and `satc_and_ok`.
-/
namespace H5V.Lemmas.TBC
open H5V.Model.HtmlTB
open H5V.Model.Dom (Id QualName Attr NodeOrText SinkOp Output ElementFlags QuirksMode Dom NodeData Node Contract)
open H5V.Lemmas.TBSafe (IsEl nm sigOf Ext)

variable {d0 : Dom}

def TokOk : Token → Prop
  | .tag t => AttrsOk t.attrs
  | _ => True

def ResLate (tok : Token) : ProcessResult → Prop
  | .reprocess m t => m ≠ .initial ∧ t = tok
  | .reprocessForeign t => t = tok
  | _ => True

def CPSP (d0 : Dom) (c : List Id) {α : Type} (m : M α) (R : α → List Id) (P : α → Prop) : Prop :=
  ∀ s, CB d0 s → SAnc s.dom s.openElems → CtxOk c s →
    SatC m s (fun a s' => CB d0 s' ∧ SAnc s'.dom s'.openElems ∧ Ext s.dom s'.dom ∧ CtxOk (R a) s' ∧ P a)

def RS (d0 : Dom) (tok : Token) (m : M ProcessResult) : Prop := CPSP d0 [] m (fun _ => []) (ResLate tok)

theorem cpsp_of_cps {c : List Id} {α : Type} {m : M α} {R : α → List Id} (h : CPS d0 c m R) :
    CPSP d0 c m R (fun _ => True) := by
  intro s hcb hsa hc
  exact (h s hcb hsa hc).mono (fun a s' ⟨h1, h2, h3, h4⟩ => ⟨h1, h2, h3, h4, trivial⟩)

theorem cps_of_cpsp {c : List Id} {α : Type} {m : M α} {R : α → List Id} {P : α → Prop} (h : CPSP d0 c m R P) :
    CPS d0 c m R := by
  intro s hcb hsa hc
  exact (h s hcb hsa hc).mono (fun a s' ⟨h1, h2, h3, h4, _⟩ => ⟨h1, h2, h3, h4⟩)

theorem cpsp_bind {c : List Id} {α β : Type} {m : M α} {f : α → M β} {R : α → List Id} {R' : β → List Id}
    {P : β → Prop} (h1 : CPS d0 c m R) (h2 : ∀ a, CPSP d0 (R a ++ c) (f a) R' P) : CPSP d0 c (m >>= f) R' P := by
  intro s hcb hsa hc
  refine (h1 s hcb hsa hc).bind ?_
  rintro a s1 ⟨hcb1, hsa1, he1, hr1⟩
  refine (h2 a s1 hcb1 hsa1 (hr1.app (hc.ext he1))).mono ?_
  rintro b s2 ⟨hcb2, hsa2, he2, hr2, hp⟩
  exact ⟨hcb2, hsa2, he1.trans he2, hr2, hp⟩

/-- bind where the first part carries a result predicate that the continuation may use -/
theorem cpsp_bind' {c : List Id} {α β : Type} {m : M α} {f : α → M β} {R : α → List Id} {R' : β → List Id}
    {P1 : α → Prop} {P : β → Prop} (h1 : CPSP d0 c m R P1) (h2 : ∀ a, P1 a → CPSP d0 (R a ++ c) (f a) R' P) :
    CPSP d0 c (m >>= f) R' P := by
  intro s hcb hsa hc
  refine (h1 s hcb hsa hc).bind ?_
  rintro a s1 ⟨hcb1, hsa1, he1, hr1, hp1⟩
  refine (h2 a hp1 s1 hcb1 hsa1 (hr1.app (hc.ext he1))).mono ?_
  rintro b s2 ⟨hcb2, hsa2, he2, hr2, hp⟩
  exact ⟨hcb2, hsa2, he1.trans he2, hr2, hp⟩

theorem cpsp_pure {c : List Id} {α : Type} (a : α) {R : α → List Id} {P : α → Prop} (h : ∀ x ∈ R a, x ∈ c)
    (hp : P a) : CPSP d0 c (Pure.pure a : M α) R P :=
  fun s hcb hsa hc => satc_pure ⟨hcb, hsa, Ext.refl _, hc.sub h, hp⟩

theorem cpsp_pure_nil {c : List Id} {α : Type} (a : α) {P : α → Prop} (hp : P a) :
    CPSP d0 c (Pure.pure a : M α) (fun _ => []) P := cpsp_pure a (fun _ h => by cases h) hp

theorem cpsp_ite {c : List Id} {α : Type} {p : Prop} [Decidable p] {a b : M α} {R : α → List Id} {P : α → Prop}
    (h1 : p → CPSP d0 c a R P) (h2 : ¬p → CPSP d0 c b R P) : CPSP d0 c (if p then a else b) R P := by
  by_cases hp : p
  · rw [if_pos hp]; exact h1 hp
  · rw [if_neg hp]; exact h2 hp

theorem cpsp_getS_bind {c : List Id} {β : Type} {f : State → M β} {R : β → List Id} {P : β → Prop}
    (h : ∀ s0, CPSP d0 (stH s0 ++ c) (f s0) R P) : CPSP d0 c (getS >>= f) R P := by
  intro s hcb hsa hc
  refine satc_getS_bind ?_
  exact h s s hcb hsa ((ctxOk_stH hcb.h).app hc)

theorem cpsp_ctx_mono {c c' : List Id} {α : Type} {m : M α} {R : α → List Id} {P : α → Prop}
    (h : CPSP d0 c m R P) (hs : ∀ x ∈ c, x ∈ c') : CPSP d0 c' m R P :=
  fun s hcb hsa hc => h s hcb hsa (hc.sub hs)

theorem cpsp_drop {c : List Id} {α : Type} {m : M α} {R : α → List Id} {P : α → Prop} (h : CPSP d0 c m R P) :
    CPSP d0 c m (fun _ => []) P := by
  intro s hcb hsa hc
  exact (h s hcb hsa hc).mono (fun a s' ⟨h1, h2, h3, _, h5⟩ => ⟨h1, h2, h3, CtxOk.nil _, h5⟩)

theorem cpsp_weakenP {c : List Id} {α : Type} {m : M α} {R : α → List Id} {P P' : α → Prop}
    (h : CPSP d0 c m R P) (hp : ∀ a, P a → P' a) : CPSP d0 c m R P' := by
  intro s hcb hsa hc
  exact (h s hcb hsa hc).mono (fun a s' ⟨h1, h2, h3, h4, h5⟩ => ⟨h1, h2, h3, h4, hp a h5⟩)

theorem cpsp_panicAt {c : List Id} {α : Type} {cls site text : String} {R : α → List Id} {P : α → Prop}
    (h : TBSafe.infixL "@sink: ".toList (cls ++ "@" ++ site ++ ": " ++ text).toList = false := by no_sink) :
    CPSP d0 c (panicAt cls site text : M α) R P := fun _ _ _ _ => satc_panicAt h

theorem cpsp_panicAt_bind {c : List Id} {α β : Type} {cls site text : String} {f : α → M β} {R : β → List Id}
    {P : β → Prop}
    (h : TBSafe.infixL "@sink: ".toList (cls ++ "@" ++ site ++ ": " ++ text).toList = false := by no_sink) :
    CPSP d0 c ((panicAt cls site text : M α) >>= f) R P := fun _ _ _ _ => satc_panicAt_bind h

theorem cpsp_isBind {c : List Id} {α β : Type} {m : M α} {f : α → M β} {R : β → List Id} {P : β → Prop}
    (h : CPSP d0 c (m >>= f) R P) : CPSP d0 c (m >>= f) R P := h

/-- a rule called from another rule -/
theorem cpsp_of_rs {c : List Id} {tok : Token} {m : M ProcessResult} (h : RS d0 tok m) :
    CPSP d0 c m (fun _ => []) (ResLate tok) := cpsp_ctx_mono h (fun _ hx => by cases hx)

/-! ### results by inversion -/

theorem ok_bind {α β : Type} {m : M α} {f : α → M β} {s s'' : State} {b : β}
    (h : (m >>= f) s = .ok (b, s'')) : ∃ a s', m s = .ok (a, s') ∧ f a s' = .ok (b, s'') := by
  have h' : (StateT.bind m f) s = .ok (b, s'') := h
  unfold StateT.bind at h'
  cases hm : m s with
  | error e => rw [hm] at h'; cases h'
  | ok p => obtain ⟨a, s'⟩ := p; rw [hm] at h'; exact ⟨a, s', rfl, h'⟩

theorem ok_pure {α : Type} {a b : α} {s s' : State} (h : (pure a : M α) s = .ok (b, s')) : a = b ∧ s = s' := by
  have h' : (Except.ok (a, s) : Except String (α × State)) = .ok (b, s') := h
  cases h'; exact ⟨rfl, rfl⟩

/-- a `SatC` fact and a fact about every successful run hold together -/
theorem satc_and_ok {α : Type} {m : M α} {s : State} {Q : α → State → Prop} {P : α → Prop}
    (h : SatC m s Q) (hp : ∀ a s', m s = .ok (a, s') → P a) : SatC m s (fun a s' => Q a s' ∧ P a) := by
  unfold SatC at h ⊢
  cases hm : m s with
  | error e => rw [hm] at h; exact h
  | ok r => obtain ⟨a, s'⟩ := r; rw [hm] at h; exact ⟨h, hp a s' hm⟩

/-- a computation that ends in `pure r` answers `r` -/
theorem ok_bind_pure {α β : Type} {m : M α} {r : β} {s s'' : State} {b : β}
    (h : (m >>= fun _ => (pure r : M β)) s = .ok (b, s'')) : b = r := by
  obtain ⟨a, s', _, h2⟩ := ok_bind h
  exact (ok_pure h2).1.symm

/-- from a `CPS` fact and a result fact to `CPSP` -/
theorem cpsp_of_cps_ok {c : List Id} {α : Type} {m : M α} {R : α → List Id} {P : α → Prop} (h : CPS d0 c m R)
    (hp : ∀ s a s', m s = .ok (a, s') → P a) : CPSP d0 c m R P := by
  intro s hcb hsa hc
  exact (satc_and_ok (h s hcb hsa hc) (hp s)).mono (fun a s' ⟨⟨h1, h2, h3, h4⟩, h5⟩ => ⟨h1, h2, h3, h4, h5⟩)

/-- answers that are not `Reprocess…` are acceptable -/
def NoRep : ProcessResult → Prop
  | .reprocess _ _ => False
  | .reprocessForeign _ => False
  | _ => True

theorem ResLate.of_noRep {tok : Token} {res : ProcessResult} (h : NoRep res) : ResLate tok res := by
  cases res <;> first | trivial | exact h.elim

end H5V.Lemmas.TBC
