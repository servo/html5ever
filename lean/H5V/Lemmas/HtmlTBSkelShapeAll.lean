import H5V.Lemmas.HtmlTBSkelShapeTable3
import H5V.Lemmas.HtmlTBSkelShapeForeign
/-!
C06, second invariant layer: all rules preserve the stack-shape invariant.
-/
namespace H5V.Props.C06
open H5V.Model.Dom hiding Str
open H5V.Model.HtmlTB hiding Str
open H5V.Lemmas.Dom

/-- every insertion mode (from BeforeHead on) preserves the stack-shape invariant -/
theorem allModes : ∀ m, isLate m = true → ModeOk m
  | .initial, h => by cases h
  | .beforeHtml, h => by cases h
  | .beforeHead, _ => modeOk_beforeHead
  | .inHead, _ => modeOk_inHead'
  | .inHeadNoscript, _ => modeOk_inHeadNoscript
  | .afterHead, _ => modeOk_afterHead'
  | .inBody, _ => modeOk_inBody'
  | .text, _ => modeOk_text
  | .inTable, _ => modeOk_inTable
  | .inTableText, _ => modeOk_inTableText
  | .inCaption, _ => modeOk_inCaption
  | .inColumnGroup, _ => modeOk_inColumnGroup
  | .inTableBody, _ => modeOk_inTableBody
  | .inRow, _ => modeOk_inRow
  | .inCell, _ => modeOk_inCell
  | .inTemplate, _ => modeOk_inTemplate
  | .afterBody, _ => modeOk_afterBody
  | .inFrameset, _ => modeOk_inFrameset
  | .afterFrameset, _ => modeOk_afterFrameset
  | .afterAfterBody, _ => modeOk_afterAfterBody
  | .afterAfterFrameset, _ => modeOk_afterAfterFrameset

/-- the end of the input: the parse stops only with `head` and `body`/`frameset` in place -/
theorem allEof : ∀ m, isLate m = true → EofOk m
  | .initial, h => by cases h
  | .beforeHtml, h => by cases h
  | .beforeHead, _ => eofOk_beforeHead
  | .inHead, _ => eofOk_inHead
  | .inHeadNoscript, _ => eofOk_inHeadNoscript
  | .afterHead, _ => eofOk_afterHead
  | .inBody, _ => eofOk_of_body rfl rfl
  | .text, _ => eofOk_text
  | .inTable, _ => eofOk_of_body rfl rfl
  | .inTableText, _ => eofOk_inTableText
  | .inCaption, _ => eofOk_of_body rfl rfl
  | .inColumnGroup, _ => eofOk_of_body rfl rfl
  | .inTableBody, _ => eofOk_of_body rfl rfl
  | .inRow, _ => eofOk_of_body rfl rfl
  | .inCell, _ => eofOk_of_body rfl rfl
  | .inTemplate, _ => eofOk_inTemplate
  | .afterBody, _ => eofOk_afterBody
  | .inFrameset, _ => eofOk_inFrameset
  | .afterFrameset, _ => eofOk_afterFrameset
  | .afterAfterBody, _ => eofOk_afterAfterBody
  | .afterAfterFrameset, _ => eofOk_afterAfterFrameset

/-- **all rules of the HTML tree-builder model preserve the stack-shape invariant** -/
theorem rules : Rules := ⟨allModes, foreignOk allModes, allEof⟩

end H5V.Props.C06
