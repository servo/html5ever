import H5V.Lemmas.HtmlTBSkelIns
/-!
C06 (skeleton invariant): the adoption agency algorithm preserves `Late` — none of its
`remove_from_parent` / `append` / `reparent_children` calls touches the document's child list: the
nodes it moves are open elements above the bottom of the stack or elements it has just created.
-/
namespace H5V.Props.C06
open H5V.Model.Dom hiding Str
open H5V.Model.HtmlTB hiding Str
open H5V.Lemmas.Dom

/-- membership goals about contexts -/
syntax "ctx_mem" : tactic
macro_rules
  | `(tactic| ctx_mem) => `(tactic|
    first
      | assumption
      | (simp only [Ctx.app, Ctx.nil, Ctx.elem, fbCtx, List.mem_append, List.mem_cons, List.mem_singleton,
          List.not_mem_nil, List.nil_append, List.append_nil, or_false, false_or, true_or, or_true, if_false, *]; done))

/-- leaves of the walk in the handle logic.  A rule is chosen by the head symbol of the computation alone
(`apply`), its membership premises are discharged afterwards; the rules that put a handle into the
context come before `PL.of_pres`, which forgets it. -/
syntax "pl_leaf" : tactic
macro_rules
  | `(tactic| pl_leaf) => `(tactic|
    with_reducible first
      | exact PL.create _ _ _
      | exact PL.insertElement _ _ _ _ _
      | (apply PL.setOpen <;> ctx_mem)
      | (apply PL.insertOpen <;> ctx_mem)
      | (apply PL.removeFromParent <;> ctx_mem)
      | (apply PL.appendNode <;> ctx_mem)
      | (apply PL.reparent <;> ctx_mem)
      | (apply PL.push <;> ctx_mem)
      | (apply PL.insertAppropriatelyNode <;> ctx_mem)
      | exact PL.of_pres inferInstance
      | exact PL.throw _
      | exact PL.of_pres (pres_modS fun s hl => ⟨hl.free rfl rfl rfl rfl rfl rfl rfl rfl rfl, rfl⟩)
      | (apply PL.pure; exact ⟨(by intro x hx; simp at hx), (by intro x hx; simp at hx; subst hx; ctx_mem)⟩))

/-- one step of the walk: the structural rules first (they fail on the head symbol, whereas the instance
search behind `PL.of_pres` would descend into a whole `do` block before giving up); `split` and
`dsimp only` (which inlines a join point) only when nothing else applies -/
syntax "pl_step" : tactic
macro_rules
  | `(tactic| pl_step) => `(tactic|
    first
      | with_reducible exact PL.panic_bind _ _ _ _
      | with_reducible apply PL.bind
      | with_reducible apply PL.dite
      | intro _
      | pl_leaf
      | split
      | dsimp only)

theorem pl_aaInner (fmt fb : Id) : ∀ (nodeIndex ic : Nat) (ln : Id) (bm : Bookmark) (c : Ctx), ln ∈ c.2 →
    PL c (aaInner fmt fb nodeIndex ic ln bm) (fun r => ([], [r.1]))
  | 0, _, _, _, _, _ => by unfold aaInner; exact PL.throw _
  | n + 1, ic, ln, bm, c, hln => by
    have ih := fun ic' ln' bm' c' h' => pl_aaInner fmt fb n ic' ln' bm' c' h'
    unfold aaInner
    repeat' (first | (with_reducible apply ih <;> ctx_mem) | pl_step)

theorem pl_aaOuterStep (subject : Str) : PL Ctx.nil (aaOuterStep subject) (fun _ => Ctx.nil) := by
  unfold aaOuterStep
  repeat' (first
    | with_reducible apply PL.furthest
    | (with_reducible apply pl_aaInner <;> ctx_mem)
    | pl_step)

instance (subject : Str) : Pres (aaOuterStep subject) := (pl_aaOuterStep subject).toPres

theorem pres_aaOuter (subject : Str) : ∀ (n : Nat), Pres (aaOuter subject n)
  | 0 => by unfold aaOuter; infer_instance
  | n + 1 => by
    haveI := pres_aaOuter subject n
    unfold aaOuter; tb_walk
instance (subject : Str) (n : Nat) : Pres (aaOuter subject n) := pres_aaOuter subject n

instance (subject : Str) : Pres (adoptionAgency subject) := by unfold adoptionAgency; tb_walk
instance : Pres handleMisnestedATags := by unfold handleMisnestedATags; tb_walk

end H5V.Props.C06
