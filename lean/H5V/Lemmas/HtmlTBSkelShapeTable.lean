import H5V.Lemmas.HtmlTBSkelShapeBody2
/-!
C06, second invariant layer: tools for the table modes — popping table-structure elements
that lie above the bottom of the stack.
-/
namespace H5V.Props.C06
open H5V.Model.Dom hiding Str
open H5V.Model.HtmlTB hiding Str
open H5V.Lemmas.Dom

/-- the bottom element of a body-phase stack is `body`, `head` or `template` -/
theorem Big.bottom {m : Mode} {r : Id} {ph : Phase} {s : State} (h : Big m r ph s) :
    ∃ up b0 u0, Core s r up ph ∧ up = b0 :: u0 ∧ htmlIn (nm s.dom b0) ["body", "head", "template"] = true := by
  obtain ⟨up, hc, hbb, _, _⟩ := h
  rcases hbb with ⟨b, u, hu, rfl, _⟩ | ⟨hh, t, u, h0, hu, htn, rfl⟩ | ⟨t, u, hu, htn, rfl, _⟩
  · obtain ⟨_, _, _, _, hbn⟩ := hc.elems
    exact ⟨up, b, u, hc, hu, by rw [hbn]; simp [lit_name]⟩
  · obtain ⟨h', e1, _, e3⟩ := hc.elems
    rw [h0] at e1; cases e1
    exact ⟨up, hh, t :: u, hc, hu, by rw [e3]; simp [lit_name]⟩
  · exact ⟨up, t, u, hc, hu, by rw [htn]; simp [lit_name]⟩

/-- popping elements, none a `template`, while something above the root stays -/
theorem Big.popAbove {m m' : Mode} {r : Id} {ph : Phase} {s s' : State} {popped : List Id} (h : Big m r ph s)
    (p : PR s s' popped) (hx : ∃ x ∈ s'.openElems, x ≠ r)
    (hnt : ∀ y ∈ popped, nm s.dom y ≠ hN "template")
    (hneed : ∀ up', s'.openElems = r :: up' → Need s'.dom m' up') : Big m' r ph s' := by
  have h0 : Big .inBody r ph s := h.reNeed (fun _ _ => trivial)
  obtain ⟨up, hc, hbb, _, _⟩ := id h
  have hst := p.stack
  rw [hc.stack] at hst
  -- the rest of the stack is r :: up' with up' ≠ []
  obtain ⟨x, hxm, hxr⟩ := hx
  have hform : ∃ a up', s'.openElems = r :: a :: up' := by
    cases hq : s'.openElems with
    | nil => rw [hq] at hxm; cases hxm
    | cons a0 t0 =>
      rw [hq] at hst hxm
      simp only [List.cons_append, List.cons.injEq] at hst
      obtain ⟨rfl, _⟩ := hst
      cases t0 with
      | nil => simp at hxm; exact absurd hxm hxr
      | cons a1 t1 => exact ⟨a1, t1, rfl⟩
  obtain ⟨a, up', hs'⟩ := hform
  rw [hs'] at hst
  simp only [List.cons_append, List.cons.injEq, true_and] at hst
  have hsub : ∀ y ∈ popped, y ∈ up.tail := by
    intro y hy
    rw [hst]; simp [hy]
  have hb4 := hc.bh4 hbb.notPf
  have h1 : Big .inBody r ph s' := h0.popK p (fun y hy => by
    have h2 := hb4 y (hsub y hy)
    have h3 := hnt y hy
    cases hq : htmlIn (nm s.dom y) ["html", "body", "head", "template"] with
    | false => rfl
    | true =>
      exfalso
      obtain ⟨nme, hmem, heq⟩ := htmlIn_eq hq
      simp only [List.mem_cons, List.not_mem_nil, or_false] at hmem
      rcases hmem with rfl | rfl | rfl | rfl
      · rw [heq] at h2; simp [lit_name] at h2
      · rw [heq] at h2; simp [lit_name] at h2
      · rw [heq] at h2; simp [lit_name] at h2
      · exact h3 heq) (fun _ => trivial)
  exact h1.reNeed hneed

/-- an element in table scope, and the elements above it, lie above the bottom of the stack, if the
element is none of `html`, `body`, `head`, `template` -/
theorem Big.popScope {m m' : Mode} {r : Id} {ph : Phase} {s s' : State} {P : EName → Bool} {popped : List Id}
    (h : Big m r ph s) (hi : InScP tableScope P s)
    (hP : ∀ n, P n = true → htmlIn n ["html", "body", "head", "template"] = false)
    (p : PR s s' popped)
    (hsub : ∀ below x above, s.openElems = below ++ x :: above → P (nm s.dom x) = true →
      (∀ y ∈ above, P (nm s.dom y) = false ∧ tableScope (nm s.dom y) = false) → ∀ y ∈ popped, y = x ∨ y ∈ above)
    (hneed : ∀ up', s'.openElems = r :: up' → Need s'.dom m' up') : Big m' r ph s' := by
  obtain ⟨below, x, above, hst, hx, hab⟩ := hi
  have hsub' := hsub below x above hst hx hab
  obtain ⟨up, b0, u0, hc, hup, hb0⟩ := h.bottom
  have hxk := hP _ hx
  -- x is neither the root nor the bottom element
  have hst0 := hc.stack
  rw [hup, hst] at hst0
  have hbelow : ∃ bl, below = r :: b0 :: bl := by
    cases below with
    | nil =>
      simp at hst0
      rw [hst0.1, hc.root_name] at hxk; exact absurd hxk (by simp [lit_name])
    | cons a0 t0 =>
      simp only [List.cons_append, List.cons.injEq] at hst0
      obtain ⟨rfl, h2⟩ := hst0
      cases t0 with
      | nil =>
        simp at h2
        obtain ⟨a, ha, heq⟩ := htmlIn_eq hb0
        rw [← h2.1] at heq
        rw [heq] at hxk
        simp only [List.mem_cons, List.not_mem_nil, or_false] at ha
        rcases ha with rfl | rfl | rfl <;> exact absurd hxk (by simp [lit_name])
      | cons a1 t1 =>
        simp only [List.cons_append, List.cons.injEq] at h2
        obtain ⟨rfl, _⟩ := h2
        exact ⟨t1, rfl⟩
  obtain ⟨bl, rfl⟩ := hbelow
  refine h.popAbove p ⟨b0, ?_, hc.up_ne_root (by rw [hup]; simp)⟩ ?_ hneed
  · -- b0 is not popped
    have hps := p.stack
    rw [hst] at hps
    have hnd := hc.nodup
    rw [hst] at hnd
    have hb0n : b0 ∉ x :: above := by
      intro hm
      have := (List.nodup_append.mp hnd).2.2 b0 (by simp) b0 hm
      exact this rfl
    have hb0p : b0 ∉ popped := fun hm => hb0n (by
      rcases hsub' b0 hm with h1 | h1
      · rw [h1]; simp
      · exact List.mem_cons_of_mem _ h1)
    have : b0 ∈ s'.openElems ++ popped := by rw [← hps]; simp
    rcases List.mem_append.mp this with h1 | h1
    · exact h1
    · exact absurd h1 hb0p
  · intro y hy hn
    rcases hsub' y hy with rfl | h1
    · rw [hn] at hxk; simp [lit_name] at hxk
    · have := (hab y h1).2
      rw [hn] at this; simp [lit_name] at this


/-- `pop_until_current(ctx)` when an element of `ctx` other than the root is on the stack -/
theorem popCtx_big {m m' : Mode} {r : Id} {ph : Phase} {s s' : State} {ctx : EName → Bool} {u : Unit}
    (h : Big m r ph s) (hwit : ∃ x ∈ s.openElems, x ≠ r ∧ ctx (nm s.dom x) = true)
    (htm : ctx (hN "template") = true) (e : popUntilCurrent ctx s = .ok (u, s'))
    (hneed : ∀ up', s'.openElems = r :: up' → (∃ x ∈ up', ctx (nm s'.dom x) = true) → Need s'.dom m' up') :
    Big m' r ph s' ∧ s'.mode = s.mode ∧ s'.origMode = s.origMode ∧
      ∃ t, s'.openElems.getLast? = some t ∧ ctx (nm s'.dom t) = true ∧ t ≠ r := by
  obtain ⟨popped, p, hp, t, ht, htc⟩ := popUntilCurrent_sem e
  obtain ⟨x, hxm, hxr, hxc⟩ := hwit
  have hxs : x ∈ s'.openElems := by
    have : x ∈ s'.openElems ++ popped := by rw [← p.stack]; exact hxm
    rcases List.mem_append.mp this with h1 | h1
    · exact h1
    · rw [hp x h1] at hxc; cases hxc
  have hnm : ∀ y, nm s'.dom y = nm s.dom y := nm_of_nodes p.nodes
  obtain ⟨up, hc, _⟩ := id h
  have hb' : Big m' r ph s' := h.popAbove p ⟨x, hxs, hxr⟩ (fun y hy hn => by
    have := hp y hy; rw [hn, htm] at this; cases this) (fun up' hup => hneed up' hup (by
      rw [hup] at hxs
      rcases List.mem_cons.mp hxs with h1 | h1
      · exact absurd h1 hxr
      · exact ⟨x, h1, by rw [hnm]; exact hxc⟩))
  refine ⟨hb', by rw [p.rest], by rw [p.rest], t, ht, by rw [hnm]; exact htc, ?_⟩
  rintro rfl
  obtain ⟨up', hc', _⟩ := hb'
  have hst := hc'.stack
  rw [hst] at ht hxs
  have hnd := hc'.nodup
  rw [hst] at hnd
  cases up' with
  | nil => simp at hxs; exact hxr hxs
  | cons a l =>
    have hmem : t ∈ a :: l := by
      have := List.mem_of_getLast? ht
      have h2 : (t :: a :: l).getLast? = (a :: l).getLast? := by simp [List.getLast?_cons_cons]
      rw [h2] at ht
      exact List.mem_of_getLast? ht
    exact (List.nodup_cons.mp hnd).1 hmem

end H5V.Props.C06
