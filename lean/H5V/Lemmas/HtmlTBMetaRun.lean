import H5V.Lemmas.HtmlTBMetaRules
/-!
C19: `process_to_completion` and `process_token` answer `EncodingIndicator(l)` only when the
token handed in is a `meta` start tag announcing `l`.
-/
namespace H5V.Props.C19
open H5V.Model.Dom (Id QualName Attr NodeOrText SinkOp Output ElementFlags QuirksMode Dom)
open H5V.Model.HtmlTB
open H5V.Lemmas.TBM

/-- the tokens `process_to_completion` works on while it processes `tok0`: `tok0` itself
(re-processed in other modes) and the pieces of a split character token -/
def Carried (tok0 t : Token) : Prop := t = tok0 ∨ ∃ st s, t = .chars st s

theorem Fires.carried {tok0 t : Token} {l : Str} (h : Fires t l) (hc : Carried tok0 t) : Fires tok0 l := by
  rcases hc with rfl | ⟨st, s, rfl⟩
  · exact h
  · obtain ⟨tag, e, _⟩ := h; cases e

/-- an acceptable answer of `process_token` for `tok0` -/
def SOk (tok0 : Token) (r : SinkResult) : Prop := ∀ l, r = .encodingIndicator l → Fires tok0 l

theorem ans_step_bind {β : Type} {Q : β → Prop} {mode : Mode} {tok : Token} {f : ProcessResult → M β}
    (h : ∀ r, ROk tok r → Ans Q (f r)) : Ans Q (step mode tok >>= f) := Ans.bindK inferInstance h

theorem ans_stepForeign_bind {β : Type} {Q : β → Prop} {tok : Token} {f : ProcessResult → M β}
    (h : ∀ r, ROk tok r → Ans Q (f r)) : Ans Q (stepForeign tok >>= f) := Ans.bindK inferInstance h

macro_rules
  | `(tactic| ans_step) => `(tactic|
      first | with_reducible apply ans_step_bind | with_reducible apply ans_stepForeign_bind)

theorem SOk.of_ne {tok0 : Token} {r : SinkResult} (h : ∀ l, r ≠ .encodingIndicator l) : SOk tok0 r :=
  fun l e => absurd e (h l)

theorem carried_snoc {tok0 : Token} {more : List Token} {rest : Str} (hm : ∀ t ∈ more, Carried tok0 t) :
    ∀ t ∈ more ++ [Token.chars .notSplit rest], Carried tok0 t := by
  intro x hx
  simp only [List.mem_append, List.mem_singleton] at hx
  rcases hx with hx | rfl
  · exact hm x hx
  · exact Or.inr ⟨_, _, rfl⟩

theorem carried_eq {tok0 token t : Token} (hc : Carried tok0 token) (h : t = token) : Carried tok0 t := h ▸ hc

theorem ans_ptc (tok0 : Token) (fuel : Nat) : ∀ (token : Token) (more : List Token), Carried tok0 token →
    (∀ t ∈ more, Carried tok0 t) → Ans (SOk tok0) (processToCompletion fuel token more) := by
  induction fuel with
  | zero => intro token more _ _; unfold processToCompletion; exact Ans.fuelOut _
  | succ fuel ih =>
    intro token more hc hm
    unfold processToCompletion
    dsimp only
    ans_walk
    all_goals first
      | exact Ans.pure (SOk.of_ne (fun l h => SinkResult.noConfusion h))
      | exact Ans.pure (fun l h => SinkResult.noConfusion h (fun e => e ▸ Fires.carried (by assumption) hc))
      | exact ih _ _ (hm _ List.mem_cons_self) (fun x hx => hm x (List.mem_cons_of_mem _ hx))
      | exact ih _ _ (carried_eq hc (by assumption)) hm
      | exact ih _ _ (Or.inr ⟨_, _, rfl⟩) hm
      | exact ih _ _ (Or.inr ⟨_, _, rfl⟩) (carried_snoc hm)

theorem ans_ptc_top (t : Token) (fuel : Nat) :
    Ans (fun r => ∀ l, r = .encodingIndicator l → Fires t l) (processToCompletion fuel t []) :=
  ans_ptc t fuel t [] (Or.inl rfl) (fun _ h => nomatch h)

theorem charsToken_not_tag {b : Bool} {x : Str} {t : Token} (h : charsToken b x = some t) (tag : Tag) :
    t ≠ .tag tag := by
  unfold charsToken at h
  split at h
  · cases h
  · cases h; intro e; cases e

/-- **`process_token`**: an encoding indicator is answered only for a `meta` start tag that announces
that label -/
theorem ans_processToken (tok : TokToken) (line : Nat) :
    Ans (fun r => ∀ l, r = .encodingIndicator l → ∃ tag, tok = .tag tag ∧ isMetaStart tag ∧ qualifies tag = some l)
      (processToken tok line) := by
  unfold processToken
  ans_walk
  all_goals first
    | exact Ans.pure (fun l h => SinkResult.noConfusion h)
    | (refine (ans_ptc_top _ _).mono (fun r h l e => ?_)
       obtain ⟨tag, e', hm, hq⟩ := h l e
       first
         | (cases e'; exact ⟨_, rfl, hm, hq⟩)
         | (have hn := charsToken_not_tag ‹charsToken _ _ = some _› tag; exact absurd e' hn)
         | (cases e'; done))

end H5V.Props.C19
