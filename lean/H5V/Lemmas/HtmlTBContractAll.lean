import H5V.Lemmas.HtmlTBContractSimple
import H5V.Lemmas.HtmlTBContractHead
import H5V.Lemmas.HtmlTBContractTable
import H5V.Lemmas.HtmlTBContractBody
import H5V.Lemmas.HtmlTBContractNew
/-!
# TreeSink contract for the HTML tree builder: all rules together, whole parses
-/
namespace H5V.Lemmas.TBC
open H5V.Model.HtmlTB
open H5V.Model.Dom (Id QualName Attr NodeOrText SinkOp Output ElementFlags QuirksMode Dom NodeData Node Contract)
open H5V.Props.C20 (Inv Run)
open H5V.Lemmas.TBSafe (IsEl nm sigOf Ext apply_ext)

variable {d0 : Dom}

theorem bodyH' : BodyH d0 := bodyH headH
theorem tableH' : TableH d0 := tableH headH bodyH'

/-- **every rule but Initial's** keeps `CB` and the stack-order invariant, issues only contract-abiding
sink calls, and answers `Reprocess` with a late mode and the same token -/
theorem stepH : StepH d0 := by
  intro m tok hm ht
  unfold step
  cases m with
  | initial => exact (hm rfl).elim
  | beforeHtml => exact rs_stepBeforeHtml tok ht
  | beforeHead => exact rs_stepBeforeHead bodyH' tok ht
  | inHead => exact rs_of_cpp (headH tok ht)
  | inHeadNoscript => exact rs_stepInHeadNoscript headH bodyH' tok ht
  | afterHead => exact rs_stepAfterHead' headH bodyH' tok ht
  | inBody => exact bodyH' tok ht
  | text => exact rs_stepText tok ht
  | inTable => exact tableH' tok ht
  | inTableText => exact rs_stepInTableText bodyH' tok ht
  | inCaption => exact rs_stepInCaption bodyH' tok ht
  | inColumnGroup => exact rs_stepInColumnGroup headH bodyH' tok ht
  | inTableBody => exact rs_stepInTableBody tableH' tok ht
  | inRow => exact rs_stepInRow tableH' tok ht
  | inCell => exact rs_stepInCell bodyH' tok ht
  | inTemplate => exact rs_stepInTemplate headH bodyH' tok ht
  | afterBody => exact rs_stepAfterBody bodyH' tok ht
  | inFrameset => exact rs_stepInFrameset headH bodyH' tok ht
  | afterFrameset => exact rs_stepAfterFrameset headH bodyH' tok ht
  | afterAfterBody => exact rs_stepAfterAfterBody bodyH' tok ht
  | afterAfterFrameset => exact rs_stepAfterAfterFrameset headH bodyH' tok ht

/-- tokens, then `end` -/
theorem satc_rest {s : State} (h : PI d0 s) {toks : List (TokToken × Nat)} (hok : TagsOk toks) :
    SatC (do
      let r ← processTokens toks []
      finishTB
      pure r) s (fun _ s' => DomI d0 s') := by
  refine (satc_processTokens stepH toks [] s h hok).bind ?_
  intro r s1 h1
  refine (satc_finishTB h1).bind ?_
  intro _ s2 h2
  exact satc_pure h2

end H5V.Lemmas.TBC
