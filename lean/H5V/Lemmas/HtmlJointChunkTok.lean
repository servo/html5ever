import H5V.Lemmas.HtmlTokTerm
import H5V.Lemmas.HtmlTokOut
/-!
Tokenizer-side facts for the joint (tokenizer + tree builder) chunking argument.

* `step_suspend_out`: a step that asks for more input has delivered nothing to the sink.
* `clr m` (forget the log of delivered tokens): none of the step-boundary invariants, the
  termination measure, the fuel, `Sim`, `feedBom` or the setters look at `out`.
* `step_discardBom`: a step never touches the BOM flag (only `feedBom` does).
-/
namespace H5V.Model.HtmlTok

/-! ### a suspended step has not logged anything -/

theorem eatSkipLf_out (m : Mach) (inp : Str) : (eatSkipLf m inp).1.out = m.out := by
  unfold eatSkipLf discardChar
  repeat' split
  all_goals rfl

/-- `eat` never logs -/
theorem eat_out (m m1 : Mach) (inp i1 pat : Str) (eq : Char → Char → Bool) (b : Option Bool)
    (h : eat m inp pat eq = (b, m1, i1)) : m1.out = m.out := by
  rw [eat_eq_core] at h
  have hs := eatSkipLf_out m inp
  unfold eatCore at h
  repeat' split at h
  all_goals
    (simp only [Prod.mk.injEq] at h
     obtain ⟨_, h2, _⟩ := h
     subst h2
     exact hs)

/-- shape of a suspended read: the machine is `m` or `m` with the `ignore_lf` flag cleared -/
theorem none_shape_out {m m1 : Mach} {inp : Str}
    (h : (inp = [] ∧ m1 = m) ∨ (inp = ['\n'] ∧ m.ignoreLf = true ∧ m1 = m.setIgnoreLf false)) :
    m1.out = m.out := by
  rcases h with ⟨_, h⟩ | ⟨_, _, h⟩ <;> subst h <;> rfl

theorem stepBav_suspend_out (o : Opts) (pol : Pol) (m : Mach) (inp : Str) (m' : Mach) (i' : Str)
    (h : stepBav o pol m inp = .suspend m' i') : m'.out = m.out := by
  rw [(stepBav_suspend o pol m m' inp i' h).1]

theorem stepMdo_suspend_out (o : Opts) (pol : Pol) (m : Mach) (inp : Str) (m' : Mach) (i' : Str)
    (h : stepMdo o pol m inp = .suspend m' i') : m'.out = m.out := by
  unfold stepMdo at h
  cases h1 : eat m inp kwDashDash eqExact with
  | mk b1 r1 =>
    obtain ⟨m1, i1⟩ := r1
    have e1 := eat_out m m1 inp i1 _ _ b1 h1
    rw [h1] at h
    cases b1 with
    | none => simp only [R.suspend.injEq] at h; rw [← h.1]; exact e1
    | some b1 =>
      cases b1 with
      | true => simp at h
      | false =>
        simp only at h
        cases h2 : eat m1 i1 kwDoctype eqCi with
        | mk b2 r2 =>
          obtain ⟨m2, i2⟩ := r2
          have e2 := eat_out m1 m2 i1 i2 _ _ b2 h2
          rw [h2] at h
          cases b2 with
          | none => simp only [R.suspend.injEq] at h; rw [← h.1, e2]; exact e1
          | some b2 =>
            cases b2 with
            | true => simp at h
            | false =>
              simp only at h
              split at h
              · cases h3 : eat m2 i2 kwCdata eqExact with
                | mk b3 r3 =>
                  obtain ⟨m3, i3⟩ := r3
                  have e3 := eat_out m2 m3 i2 i3 _ _ b3 h3
                  rw [h3] at h
                  cases b3 with
                  | none => simp only [R.suspend.injEq] at h; rw [← h.1, e3, e2]; exact e1
                  | some b3 => cases b3 <;> simp at h
              · simp at h

theorem stepAdn_suspend_out (o : Opts) (pol : Pol) (m : Mach) (inp : Str) (m' : Mach) (i' : Str)
    (h : stepAdn o pol m inp = .suspend m' i') : m'.out = m.out := by
  unfold stepAdn at h
  cases h1 : eat m inp kwPublic eqCi with
  | mk b1 r1 =>
    obtain ⟨m1, i1⟩ := r1
    have e1 := eat_out m m1 inp i1 _ _ b1 h1
    rw [h1] at h
    cases b1 with
    | none => simp only [R.suspend.injEq] at h; rw [← h.1]; exact e1
    | some b1 =>
      cases b1 with
      | true => simp at h
      | false =>
        simp only at h
        cases h2 : eat m1 i1 kwSystem eqCi with
        | mk b2 r2 =>
          obtain ⟨m2, i2⟩ := r2
          have e2 := eat_out m1 m2 i1 i2 _ _ b2 h2
          rw [h2] at h
          cases b2 with
          | none => simp only [R.suspend.injEq] at h; rw [← h.1, e2]; exact e1
          | some b2 =>
            cases b2 with
            | true => simp at h
            | false =>
              simp only at h
              cases hg : getChar o m2 i2 with
              | mk oc r =>
                obtain ⟨m3, i3⟩ := r
                rw [hg] at h
                cases oc with
                | none =>
                  simp only [R.suspend.injEq] at h
                  rw [← h.1, none_shape_out (getChar_none o m2 m3 i2 i3 hg).2.2, e2]; exact e1
                | some c => exact absurd h (ofSig_ne_suspend _ _ _ _)

/-- **a step that asks for more input has delivered nothing to the sink** (no invariant needed:
the only `Stuck` answer of the character-reference sub-tokenizer is the one on an empty queue,
which leaves the machine alone) -/
theorem step_suspend_out (o : Opts) (pol : Pol) (m : Mach) (inp : Str) (m' : Mach) (i' : Str)
    (h : step o pol m inp = .suspend m' i') : m'.out = m.out := by
  cases hcr : m.charRef with
  | some cr =>
    rw [step_kind_charRef o pol m inp cr hcr] at h
    rw [(stepCharRef_suspend o m m' inp i' cr hcr h).1]
  | none =>
    cases hrk : readKind m.state with
    | getChar =>
      rw [step_getChar o pol m inp hcr hrk] at h
      cases hgc : getChar o m inp with
      | mk oc r =>
        obtain ⟨m1, i1⟩ := r
        rw [hgc] at h
        cases oc with
        | none =>
          simp only [contChar, R.suspend.injEq] at h
          rw [← h.1]; exact none_shape_out (getChar_none o m m1 inp i1 hgc).2.2
        | some c => exact absurd h (ofSig_ne_suspend _ _ _ _)
    | popExcept =>
      rw [step_popExcept o pol m inp hcr hrk] at h
      cases hgc : popExceptFrom o (setOf m.state) m inp with
      | mk oc r =>
        obtain ⟨m1, i1⟩ := r
        rw [hgc] at h
        cases oc with
        | none =>
          simp only [contSet, R.suspend.injEq] at h
          rw [← h.1]; exact none_shape_out (popExceptFrom_none o _ m m1 inp i1 hgc).2.2
        | some c => exact absurd h (ofSig_ne_suspend _ _ _ _)
    | dataSimd =>
      rw [step_dataSimd o pol m inp hcr hrk] at h
      cases hgc : readData o m inp with
      | mk oc r =>
        obtain ⟨m1, i1⟩ := r
        rw [hgc] at h
        cases oc with
        | none =>
          simp only [contSet, R.suspend.injEq] at h
          rw [← h.1]; exact none_shape_out (readData_none o m m1 inp i1 hgc).2.2
        | some c => exact absurd h (ofSig_ne_suspend _ _ _ _)
    | peekBav =>
      rw [step_kind_bav o pol m inp hcr hrk] at h
      exact stepBav_suspend_out o pol m inp m' i' h
    | eatMdo =>
      rw [step_kind_mdo o pol m inp hcr hrk] at h
      exact stepMdo_suspend_out o pol m inp m' i' h
    | eatAdn =>
      rw [step_kind_adn o pol m inp hcr hrk] at h
      exact stepAdn_suspend_out o pol m inp m' i' h

/-! ### the invariants do not look at `out` -/

/-- forget the log of delivered tokens -/
def clr (m : Mach) : Mach := { m with out := [] }

@[simp] theorem clr_out (m : Mach) : (clr m).out = [] := rfl
@[simp] theorem clr_clr (m : Mach) : clr (clr m) = clr m := rfl

theorem safe_clr {m : Mach} : Safe (clr m) ↔ Safe m :=
  ⟨fun h => ⟨h.crState, h.crRegs⟩, fun h => ⟨h.crState, h.crRegs⟩⟩

theorem linv_clr {m : Mach} : LInv (clr m) ↔ LInv m :=
  ⟨fun h => ⟨safe_clr.mp h.safe, h.eatOk, h.nr, h.peekNoRecon, h.ri, h.stashOk, h.cr⟩,
   fun h => ⟨safe_clr.mpr h.safe, h.eatOk, h.nr, h.peekNoRecon, h.ri, h.stashOk, h.cr⟩⟩

theorem tinv_clr {m : Mach} : TInv (clr m) ↔ TInv m :=
  ⟨fun h => ⟨linv_clr.mp h.linv, h.crt⟩, fun h => ⟨linv_clr.mpr h.linv, h.crt⟩⟩

theorem good_clr {m : Mach} : Good (clr m) ↔ Good m :=
  ⟨fun h => ⟨h.eatOk, h.tagOpen, h.unq⟩, fun h => ⟨h.eatOk, h.tagOpen, h.unq⟩⟩

theorem quiet_clr {m : Mach} : Quiet (clr m) ↔ Quiet m :=
  ⟨fun h => ⟨tinv_clr.mp h.tinv, h.nrec, h.sp⟩, fun h => ⟨tinv_clr.mpr h.tinv, h.nrec, h.sp⟩⟩

theorem mu_clr (m : Mach) (inp : Str) : mu (clr m) inp = mu m inp := rfl

theorem fuelFor_clr (m : Mach) (inp : Str) : fuelFor (clr m) inp = fuelFor m inp := rfl

theorem deadCC_clr {m : Mach} : deadCC (clr m) ↔ deadCC m := Iff.rfl

theorem setCurrentChar_clr (m : Mach) (a : Char) : (clr m).setCurrentChar a = clr (m.setCurrentChar a) := rfl

theorem sim_clr {a b : Mach} (h : Sim a b) : Sim (clr a) (clr b) := by
  rcases h with h | ⟨hd, c, hc⟩
  · subst h; exact Sim.refl _
  · subst hc; exact Or.inr ⟨hd, c, rfl⟩

theorem setDiscardBom_clr (m : Mach) (b : Bool) : (clr m).setDiscardBom b = clr (m.setDiscardBom b) := rfl

theorem feedBom_clr (m : Mach) (inp : Str) : feedBom (clr m) inp = (clr (feedBom m inp).1, (feedBom m inp).2) := by
  unfold feedBom
  cases inp with
  | nil => rfl
  | cons c rest =>
    dsimp only
    have : (clr m).discardBom = m.discardBom := rfl
    rw [this]
    split <;> rfl

theorem setAtEof_clr (m : Mach) (b : Bool) : (clr m).setAtEof b = clr (m.setAtEof b) := rfl

theorem setCharRef_clr (m : Mach) (c : Option CharRefSt) : (clr m).setCharRef c = clr (m.setCharRef c) := rfl

/-! ### a step never touches the BOM flag -/

theorem feedBom_discardBom (m : Mach) (inp : Str) (h : inp ≠ []) : (feedBom m inp).1.discardBom = false := by
  unfold feedBom
  cases inp with
  | nil => exact absurd rfl h
  | cons c rest =>
    dsimp only
    split
    · rfl
    · rename_i hx; simpa using hx

theorem feedBom_id' (m : Mach) (inp : Str) (h : m.discardBom = false) : feedBom m inp = (m, inp) := by
  unfold feedBom
  cases inp with
  | nil => rfl
  | cons c rest => simp [h]

/-- `x` has the BOM flag of `m` -/
def DB (m x : Mach) : Prop := x.discardBom = m.discardBom

theorem DB.refl (m : Mach) : DB m m := rfl
theorem DB.trans {a b c : Mach} (h1 : DB a b) (h2 : DB b c) : DB a c := by
  unfold DB at *; rw [h2, h1]

theorem foldChar_db (o : Opts) (m : Mach) (c : Char) : DB m (foldChar o m c).2 := by
  unfold foldChar DB
  dsimp only
  split <;> split <;> split <;> simp

theorem preprocess_db (o : Opts) (m : Mach) (c : Char) (rest : Str) : DB m (preprocess o m c rest).2.1 := by
  unfold preprocess
  split
  · split
    · cases rest with
      | nil => exact (rfl : DB m (m.setIgnoreLf false))
      | cons y ys => exact foldChar_db o (m.setIgnoreLf false) y
    · exact foldChar_db o (m.setIgnoreLf false) c
  · exact foldChar_db o m c

theorem getChar_db (o : Opts) (m : Mach) (inp : Str) : DB m (getChar o m inp).2.1 := by
  unfold getChar
  split
  · exact (rfl : DB m (m.setReconsume false))
  · cases inp with
    | nil => exact DB.refl m
    | cons c rest => exact preprocess_db o m c rest

theorem popExceptFrom_db (o : Opts) (S : List Char) (m : Mach) (inp : Str) :
    DB m (popExceptFrom o S m inp).2.1 := by
  unfold popExceptFrom
  split
  · exact getChar_db o m inp
  · cases inp with
    | nil => exact DB.refl m
    | cons c rest =>
      dsimp only
      split
      · exact preprocess_db o m c rest
      · exact DB.refl m

theorem readData_db (o : Opts) (m : Mach) (inp : Str) : DB m (readData o m inp).2.1 := by
  unfold readData
  split
  · exact popExceptFrom_db o _ m inp
  · cases inp with
    | nil => exact DB.refl m
    | cons c rest =>
      dsimp only
      split
      · exact popExceptFrom_db o _ m (c :: rest)
      · split
        · exact (rfl : DB m m.bumpLine)
        · exact DB.refl m

theorem discardChar_db (m : Mach) (inp : Str) : DB m (discardChar m inp).1 := by
  unfold discardChar; split
  · exact (rfl : DB m (m.setReconsume false))
  · exact DB.refl m

theorem emitErr_db (m : Mach) (s : String) : DB m (emitErr m s) := emitErr_discardBom m s

theorem nameErr_db (o : Opts) (m : Mach) (nb : Str) : DB m (nameErr o m nb) := by
  unfold nameErr DB; split <;> simp

theorem finishNumeric_db (o : Opts) (x m' : Mach) (cr : CharRefSt) (r : Except String Char)
    (h : finishNumeric o x cr = (m', r)) : DB x m' := by
  unfold finishNumeric numericErr at h
  dsimp only at h
  simp only [Prod.mk.injEq] at h
  obtain ⟨h1, _⟩ := h
  subst h1
  unfold DB
  split
  · split <;> simp
  · rfl

/-- What `namedDecision` answers when it emits: the machine with `ignore_lf` cleared, after at most the
"does not end with semicolon" error, and the one or two characters of the matched reference. -/
theorem namedDecision_inv {m : Mach} {cr : CharRefSt} {nb : Str} {c1 c2 : Nat} {m1 : Mach} {chars : Str}
    (h : namedDecision m cr nb c1 c2 = .ok (some (m1, chars))) :
    (m1 = m.setIgnoreLf false ∨
        m1 = (emitErr m "Character reference does not end with semicolon").setIgnoreLf false) ∧
      isValidScalar c1 = true ∧ isValidScalar c2 = true ∧
      chars = if c2 = 0 then [Char.ofNat c1] else [Char.ofNat c1, Char.ofNat c2] := by
  unfold namedDecision at h
  dsimp only at h
  by_cases h0 : cr.nameLen = 0
  · rw [if_pos h0] at h; cases h
  rw [if_neg h0] at h
  split at h
  · cases h
  rename_i lastMatched _
  -- `ua`: whether to un-consume, and the machine after the possible error
  generalize hua : (ite (lastMatched = ';') _ _ : Bool × Mach) = ua at h
  by_cases hu : ua.1 = true
  · rw [if_pos hu] at h; cases h
  rw [if_neg hu] at h
  by_cases hv : (!(isValidScalar c1 && isValidScalar c2)) = true
  · rw [if_pos hv] at h; cases h
  rw [if_neg hv] at h
  simp only [Except.ok.injEq, Option.some.injEq, Prod.mk.injEq] at h
  have hv' : isValidScalar c1 = true ∧ isValidScalar c2 = true := by
    cases h1 : isValidScalar c1 <;> cases h2 : isValidScalar c2 <;> simp [h1, h2] at hv ⊢
  refine ⟨?_, hv'.1, hv'.2, h.2.symm⟩
  rw [← h.1, ← hua]
  repeat' split
  all_goals first | exact Or.inl rfl | exact Or.inr rfl
theorem namedDecision_db (m : Mach) (cr : CharRefSt) (nb : Str) (c1 c2 : Nat) (m1 : Mach) (chars : Str)
    (h : namedDecision m cr nb c1 c2 = .ok (some (m1, chars))) : DB m m1 := by
  rcases (namedDecision_inv h).1 with rfl | rfl <;> (unfold DB; simp)

theorem db_ite (c : Prop) [Decidable c] (a b m : Mach) (ha : DB m a) (hb : DB m b) :
    DB m (if c then a else b) := by
  split <;> assumption

theorem crStep_db (o : Opts) (m m1 : Mach) (inp i1 : Str) (cr cr1 : CharRefSt) (st : CRStatus)
    (h : crStep o m inp cr = .ok (m1, i1, cr1, st)) : DB m m1 := by
  unfold crStep unconsumeNumeric finishNumericStatus finishNamed at h
  dsimp only at h
  repeat' split at h
  all_goals
    first
      | (simp at h; done)
      | (simp only [Except.ok.injEq, Prod.mk.injEq] at h
         obtain ⟨h1, _⟩ := h
         subst h1
         first
           | exact DB.refl _
           | exact discardChar_db _ _
           | exact emitErr_db _ _
           | exact DB.trans (discardChar_db _ _) (emitErr_db _ _)
           | exact DB.trans (discardChar_db _ _) (nameErr_db _ _ _)
           | exact nameErr_db _ _ _
           | exact DB.trans (discardChar_db _ _) (finishNumeric_db _ _ _ _ _ (by assumption))
           | exact DB.trans (emitErr_db _ _) (finishNumeric_db _ _ _ _ _ (by assumption))
           | exact finishNumeric_db _ _ _ _ _ (by assumption)
           | exact DB.trans (discardChar_db _ _) (namedDecision_db _ _ _ _ _ _ _ (by assumption))
           | exact namedDecision_db _ _ _ _ _ _ _ (by assumption)
           | (apply db_ite <;> first | exact DB.refl _ | exact discardChar_db _ _ | exact nameErr_db _ _ _ | exact DB.trans (discardChar_db _ _) (nameErr_db _ _ _)))

theorem processCharRef_db (m : Mach) (chars : Str) : DB m (processCharRef m chars).1 := by
  have h1 : ∀ (cs : Str) (x : Mach), DB m x → DB m (cs.foldl emitChar x) := by
    intro cs; induction cs with
    | nil => intro x hx; exact hx
    | cons c cs ih =>
      intro x hx; simp only [List.foldl_cons]
      exact ih _ (DB.trans hx (emitChar_discardBom x c))
  have h2 : ∀ (cs : Str) (x : Mach), DB m x → DB m (cs.foldl (fun m c => pushValue c m) x) := by
    intro cs; induction cs with
    | nil => intro x hx; exact hx
    | cons c cs ih =>
      intro x hx; simp only [List.foldl_cons]
      exact ih _ (DB.trans hx (pushValue_discardBom x c))
  unfold processCharRef
  dsimp only
  split
  · exact h1 _ m (DB.refl m)
  · exact h1 _ m (DB.refl m)
  · exact h2 _ m (DB.refl m)
  · exact DB.refl m

theorem transChar_db (o : Opts) (pol : Pol) (m : Mach) (c : Char) : DB m (transChar o pol m c).1 :=
  transChar_discardBom o pol m c

theorem transSet_db (o : Opts) (pol : Pol) (m : Mach) (r : SetRes) : DB m (transSet o pol m r).1 :=
  transSet_discardBom o pol m r

theorem stepCharRef_db (o : Opts) (m : Mach) (inp : Str) (cr : CharRefSt) (m' : Mach)
    (h : (stepCharRef o m inp cr).mach? = some m') : DB m m' := by
  unfold stepCharRef at h
  cases hc : crStep o m inp cr with
  | error x => rw [hc] at h; simp [R.mach?] at h
  | ok v =>
    obtain ⟨m1, i1, cr1, st⟩ := v
    have he := crStep_db o m m1 inp i1 cr cr1 st hc
    rw [hc] at h
    cases st with
    | stuck =>
      simp only [R.mach?, Option.some.injEq] at h
      subst h
      exact DB.trans he (setCharRef_discardBom m1 _)
    | progress =>
      simp only [R.mach?, Option.some.injEq] at h
      subst h
      exact DB.trans he (setCharRef_discardBom m1 _)
    | done chars =>
      have := ofSig_mach _ _ _ h
      subst this
      exact DB.trans (DB.trans he (processCharRef_db m1 chars)) (setCharRef_discardBom _ _)

theorem stepBav_db (o : Opts) (pol : Pol) (m : Mach) (inp : Str) (m' : Mach)
    (h : (stepBav o pol m inp).mach? = some m') : DB m m' := by
  unfold stepBav at h
  cases hpk : peek m inp with
  | none =>
    rw [hpk] at h
    simp only [R.mach?, Option.some.injEq] at h
    subst h; exact DB.refl m
  | some c =>
    rw [hpk] at h
    dsimp only at h
    have hma : DB m (if m.ignoreLf = true then m.setIgnoreLf false else m) := by
      split
      · exact (rfl : DB m (m.setIgnoreLf false))
      · exact DB.refl m
    generalize (if m.ignoreLf = true then m.setIgnoreLf false else m) = ma at h hma
    have hd : DB m (discardChar ma inp).1 := hma.trans (discardChar_db ma inp)
    split at h
    · simp only [R.mach?, Option.some.injEq] at h
      subst h; exact hd
    · split at h
      · have hg := getChar_db o ma inp
        cases hgc : getChar o ma inp with
        | mk oc r =>
          obtain ⟨m2, i2⟩ := r
          rw [hgc] at h hg
          cases oc <;>
            (simp only [R.mach?, Option.some.injEq] at h
             subst h; exact hma.trans hg)
      · repeat' split at h
        all_goals
          first
          | (simp only [R.mach?, Option.some.injEq] at h
             subst h
             first | exact hd | exact hd.trans (to_discardBom _ _) | exact hma.trans (to_discardBom _ _))
          | (have hx := ofSig_mach _ _ _ h
             subst hx
             exact hd.trans (show DB _ _ from (emitTag_discardBom pol _ _).trans (badChar_discardBom _ o)))

theorem eatSkipLf_db (m : Mach) (inp : Str) : DB m (eatSkipLf m inp).1 := by
  unfold eatSkipLf discardChar
  repeat' split
  all_goals rfl

theorem eat_db (m m1 : Mach) (inp i1 pat : Str) (eq : Char → Char → Bool) (b : Option Bool)
    (h : eat m inp pat eq = (b, m1, i1)) : DB m m1 := by
  rw [eat_eq_core] at h
  have hs := eatSkipLf_db m inp
  unfold eatCore at h
  repeat' split at h
  all_goals
    (simp only [Prod.mk.injEq] at h
     obtain ⟨_, h2, _⟩ := h
     subst h2
     exact hs)

theorem DB.to {m x : Mach} (h : DB m x) (s : State) : DB m (to s x) := h
theorem DB.clearComment {m x : Mach} (h : DB m x) : DB m (clearComment x) := h
theorem DB.clearTemp {m x : Mach} (h : DB m x) : DB m (clearTemp x) := h
theorem DB.badChar {m x : Mach} (h : DB m x) (o : Opts) : DB m (badChar o x) :=
  h.trans (badChar_discardBom x o)

theorem stepMdo_db (o : Opts) (pol : Pol) (m : Mach) (inp : Str) (m' : Mach)
    (h : (stepMdo o pol m inp).mach? = some m') : DB m m' := by
  unfold stepMdo at h
  cases h1 : eat m inp kwDashDash eqExact with
  | mk b1 r1 =>
    obtain ⟨m1, i1⟩ := r1
    have e1 := eat_db m m1 inp i1 _ _ b1 h1
    rw [h1] at h
    cases b1 with
    | none =>
      simp only [R.mach?, Option.some.injEq] at h
      subst h; exact e1
    | some b1 =>
      cases b1 with
      | true =>
        simp only [R.mach?, Option.some.injEq] at h
        subst h; exact (e1.clearComment).to _
      | false =>
        simp only at h
        cases h2 : eat m1 i1 kwDoctype eqCi with
        | mk b2 r2 =>
          obtain ⟨m2, i2⟩ := r2
          have e2 := e1.trans (eat_db m1 m2 i1 i2 _ _ b2 h2)
          rw [h2] at h
          cases b2 with
          | none =>
            simp only [R.mach?, Option.some.injEq] at h
            subst h; exact e2
          | some b2 =>
            cases b2 with
            | true =>
              simp only [R.mach?, Option.some.injEq] at h
              subst h; exact e2.to _
            | false =>
              simp only at h
              split at h
              · cases h3 : eat m2 i2 kwCdata eqExact with
                | mk b3 r3 =>
                  obtain ⟨m3, i3⟩ := r3
                  have e3 := e2.trans (eat_db m2 m3 i2 i3 _ _ b3 h3)
                  rw [h3] at h
                  cases b3 with
                  | none =>
                    simp only [R.mach?, Option.some.injEq] at h
                    subst h; exact e3
                  | some b3 =>
                    cases b3 <;>
                      (simp only [R.mach?, Option.some.injEq] at h
                       subst h
                       first
                       | exact (e3.clearTemp).to _
                       | exact ((e3.badChar o).clearComment).to _)
              · simp only [R.mach?, Option.some.injEq] at h
                subst h
                exact ((e2.badChar o).clearComment).to _

theorem stepAdn_db (o : Opts) (pol : Pol) (m : Mach) (inp : Str) (m' : Mach)
    (h : (stepAdn o pol m inp).mach? = some m') : DB m m' := by
  unfold stepAdn at h
  cases h1 : eat m inp kwPublic eqCi with
  | mk b1 r1 =>
    obtain ⟨m1, i1⟩ := r1
    have e1 := eat_db m m1 inp i1 _ _ b1 h1
    rw [h1] at h
    cases b1 with
    | none =>
      simp only [R.mach?, Option.some.injEq] at h
      subst h; exact e1
    | some b1 =>
      cases b1 with
      | true =>
        simp only [R.mach?, Option.some.injEq] at h
        subst h; exact e1.to _
      | false =>
        simp only at h
        cases h2 : eat m1 i1 kwSystem eqCi with
        | mk b2 r2 =>
          obtain ⟨m2, i2⟩ := r2
          have e2 := e1.trans (eat_db m1 m2 i1 i2 _ _ b2 h2)
          rw [h2] at h
          cases b2 with
          | none =>
            simp only [R.mach?, Option.some.injEq] at h
            subst h; exact e2
          | some b2 =>
            cases b2 with
            | true =>
              simp only [R.mach?, Option.some.injEq] at h
              subst h; exact e2.to _
            | false =>
              simp only at h
              have hg := getChar_db o m2 i2
              cases hgc : getChar o m2 i2 with
              | mk oc r =>
                obtain ⟨m3, i3⟩ := r
                rw [hgc] at h hg
                cases oc with
                | none =>
                  simp only [R.mach?, Option.some.injEq] at h
                  subst h; exact e2.trans hg
                | some c =>
                  have hx := ofSig_mach _ _ _ h
                  subst hx
                  exact (e2.trans hg).trans (transChar_db o pol m3 c)

/-- **a step never touches the BOM flag** (only `feedBom` does) -/
theorem step_discardBom (o : Opts) (pol : Pol) (m : Mach) (inp : Str) (m' : Mach)
    (h : (step o pol m inp).mach? = some m') : m'.discardBom = m.discardBom := by
  show DB m m'
  cases hcr : m.charRef with
  | some cr =>
    rw [step_kind_charRef o pol m inp cr hcr] at h
    exact stepCharRef_db o m inp cr m' h
  | none =>
    cases hrk : readKind m.state with
    | getChar =>
      rw [step_getChar o pol m inp hcr hrk] at h
      have hg := getChar_db o m inp
      cases hgc : getChar o m inp with
      | mk oc r =>
        obtain ⟨m1, i1⟩ := r
        rw [hgc] at h hg
        cases oc with
        | none =>
          simp only [contChar, R.mach?, Option.some.injEq] at h
          subst h; exact hg
        | some c =>
          simp only [contChar] at h
          have hx := ofSig_mach _ _ _ h
          subst hx
          exact hg.trans (transChar_db o pol m1 c)
    | popExcept =>
      rw [step_popExcept o pol m inp hcr hrk] at h
      have hg := popExceptFrom_db o (setOf m.state) m inp
      cases hgc : popExceptFrom o (setOf m.state) m inp with
      | mk oc r =>
        obtain ⟨m1, i1⟩ := r
        rw [hgc] at h hg
        cases oc with
        | none =>
          simp only [contSet, R.mach?, Option.some.injEq] at h
          subst h; exact hg
        | some sr =>
          simp only [contSet] at h
          have hx := ofSig_mach _ _ _ h
          subst hx
          exact hg.trans (transSet_db o pol m1 sr)
    | dataSimd =>
      rw [step_dataSimd o pol m inp hcr hrk] at h
      have hg := readData_db o m inp
      cases hgc : readData o m inp with
      | mk oc r =>
        obtain ⟨m1, i1⟩ := r
        rw [hgc] at h hg
        cases oc with
        | none =>
          simp only [contSet, R.mach?, Option.some.injEq] at h
          subst h; exact hg
        | some sr =>
          simp only [contSet] at h
          have hx := ofSig_mach _ _ _ h
          subst hx
          exact hg.trans (transSet_db o pol m1 sr)
    | peekBav =>
      rw [step_kind_bav o pol m inp hcr hrk] at h
      exact stepBav_db o pol m inp m' h
    | eatMdo =>
      rw [step_kind_mdo o pol m inp hcr hrk] at h
      exact stepMdo_db o pol m inp m' h
    | eatAdn =>
      rw [step_kind_adn o pol m inp hcr hrk] at h
      exact stepAdn_db o pol m inp m' h

end H5V.Model.HtmlTok
