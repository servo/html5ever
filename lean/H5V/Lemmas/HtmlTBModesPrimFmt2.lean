import H5V.Lemmas.HtmlTBModesPrimFmt
/-!
Simulation lemmas for the adoption agency algorithm (`adoptionAgency`, `handleMisnestedATags`,
`positionInActiveFormatting`, `afRemove`, `removeFromStack` of `Model/HtmlTB/Actions.lean`) against
`Spec/TreeModes2.lean`.
-/
namespace H5V.Lemmas.HtmlTBModes
open H5V.Model.HtmlTB
open H5V.Model.Dom (Id SinkOp Output Dom QualName Attr NodeOrText ElementFlags NodeData QuirksMode)
open H5V.Lemmas.HtmlTBAlgo
open H5V.Lemmas.TBSafe (TI HInv SInv Rooted)
open H5V.Spec.TreeAlgo2 (Elem Entry PState Ctx Edit Place)
open H5V.Spec.TreeModes (STok ETok IMode Config Out TokSwitch XOp Op Step Edition)

/-! ### what the adoption agency algorithm does to the stack, the list, the supply and the log -/
section DeltaAA
variable {N T : Type} [DecidableEq N]

omit [DecidableEq N] in
theorem findFormattingRev_mem (cx : Ctx T) (subject : Spec.TreeAlgo.Str) : ∀ (l : List (Entry N T)) (len i : Nat) (n : N) (t : T),
    Spec.TreeAlgo2.findFormattingRev cx subject l len = some (i, n, t) → Entry.element n t ∈ l := by
  intro l
  induction l with
  | nil => intro len i n t h; cases h
  | cons e rest ih =>
    intro len i n t h
    cases e with
    | marker => cases h
    | element m tok =>
      simp only [Spec.TreeAlgo2.findFormattingRev] at h
      split at h
      · cases h; exact List.mem_cons_self ..
      · exact List.mem_cons_of_mem _ (ih _ _ _ _ h)

omit [DecidableEq N] in
theorem findFormattingElement_mem {cx : Ctx T} {subject : Spec.TreeAlgo.Str} {l : List (Entry N T)} {i : Nat} {n : N} {t : T}
    (h : Spec.TreeAlgo2.findFormattingElement cx subject l = some (i, n, t)) : Entry.element n t ∈ l :=
  List.mem_reverse.mp (findFormattingRev_mem cx subject _ _ _ _ _ h)

theorem take_eraseIdx_of_le {α : Type} (l : List α) {n i : Nat} (h : n ≤ i) : (l.eraseIdx i).take n = l.take n := by
  apply List.ext_getElem?
  intro j
  simp only [List.getElem?_take, List.getElem?_eraseIdx]
  by_cases hj : j < n
  · simp only [hj, if_true]
    have : j < i := by omega
    simp [this]
  · simp [hj]

/-- the inner loop: `Delta` -/
theorem innerLoop_delta (cx : Ctx T) (P : T → Prop) (fe fb : N) : ∀ (idx counter : Nat) (lastNode : N)
    (bm : Spec.TreeAlgo2.Bookmark N) (st : PState N T) (r : PState N T × N × Spec.TreeAlgo2.Bookmark N), TokOk P st →
    Spec.TreeAlgo2.innerLoop cx fe fb idx counter lastNode bm st = some r → Delta P st r.1 := by
  intro idx
  induction idx with
  | zero => intro _ _ _ _ _ _ h; cases h
  | succ idx ih =>
    intro counter lastNode bm st r ht h
    unfold Spec.TreeAlgo2.innerLoop at h
    cases hnode : st.stack[idx]? with
    | none => rw [hnode] at h; cases h
    | some node =>
      rw [hnode] at h
      simp only [] at h
      by_cases hfe : node.id = fe
      · simp only [hfe, if_true, Option.some.injEq] at h
        subst h; exact Delta.refl _ _
      · simp only [hfe, if_false] at h
        cases hpos : Spec.TreeAlgo2.listPos node.id st.list with
        | none =>
          rw [hpos] at h
          simp only [Spec.TreeAlgo.innerLoopAction, Option.isSome_none, Bool.and_false, Bool.false_eq_true,
            if_false, Bool.not_false, if_true] at h
          have hd : Delta P st { st with stack := st.stack.eraseIdx idx } :=
            Delta.sub rfl rfl (fun e he => List.mem_of_mem_eraseIdx he) (fun e he => he)
          exact hd.trans (ih _ _ _ _ _ (hd.tokOk ht) h)
        | some i =>
          rw [hpos] at h
          simp only [Spec.TreeAlgo.innerLoopAction, Option.isSome_some, Bool.and_true, Bool.not_true,
            Bool.false_eq_true, if_false, decide_eq_true_eq] at h
          by_cases hlim : counter + 1 > Spec.TreeTables.adoptionInnerLimit
          · simp only [hlim, if_true] at h
            have hd : Delta P st { st with list := st.list.eraseIdx i, stack := st.stack.eraseIdx idx } :=
              Delta.sub rfl rfl (fun e he => List.mem_of_mem_eraseIdx he) (fun e he => List.mem_of_mem_eraseIdx he)
            exact hd.trans (ih _ _ _ _ _ (hd.tokOk ht) h)
          · simp only [hlim, if_false] at h
            cases hent : st.list[i]? with
            | none => rw [hent] at h; cases h
            | some e =>
              cases e with
              | marker => rw [hent] at h; cases h
              | element x tok =>
                rw [hent] at h
                simp only [PState.newNode] at h
                cases hs : st.supply with
                | nil => rw [hs] at h; cases h
                | cons n rest =>
                  rw [hs] at h
                  simp only [Option.bind_some] at h
                  have hP : P tok := ht x tok (List.mem_of_getElem? hent)
                  have hd : Delta P st
                      { stack := st.stack.set idx ⟨n, ⟨Spec.TreeAlgo.nsHtml, cx.tokName tok⟩⟩,
                        list := st.list.set i (.element n tok), fosterParenting := st.fosterParenting,
                        formPointer := st.formPointer, supply := rest,
                        log := st.log ++ [.create n Spec.TreeAlgo.nsHtml tok, .remove lastNode,
                          .insert (.lastChildOf n) lastNode] } := by
                    refine Delta.new n tok (cx.tokName tok) hP hs _ rfl (by simp) ?_ ?_
                    · intro e he; exact List.mem_or_eq_of_mem_set he
                    · intro e he; exact List.mem_or_eq_of_mem_set he
                  exact hd.trans (ih _ _ _ _ _ (hd.tokOk ht) h)

/-- the inner loop does not touch the stack from the formatting element upwards -/
theorem innerLoop_prefix (cx : Ctx T) (fe fb : N) : ∀ (idx counter : Nat) (lastNode : N)
    (bm : Spec.TreeAlgo2.Bookmark N) (st : PState N T) (r : PState N T × N × Spec.TreeAlgo2.Bookmark N),
    Spec.TreeAlgo2.innerLoop cx fe fb idx counter lastNode bm st = some r →
    ∀ (pos : Nat) (e : Elem N), st.stack[pos]? = some e → e.id = fe → pos < idx →
      r.1.stack.take (pos + 1) = st.stack.take (pos + 1) := by
  intro idx
  induction idx with
  | zero => intro _ _ _ _ _ h; cases h
  | succ idx ih =>
    intro counter lastNode bm st r h pos e hpe hid hlt
    unfold Spec.TreeAlgo2.innerLoop at h
    cases hnode : st.stack[idx]? with
    | none => rw [hnode] at h; cases h
    | some node =>
      rw [hnode] at h
      simp only [] at h
      by_cases hfe : node.id = fe
      · simp only [hfe, if_true, Option.some.injEq] at h
        subst h; rfl
      · simp only [hfe, if_false] at h
        have hpi : pos < idx := by
          have : pos ≠ idx := by
            intro hh; subst hh; rw [hnode] at hpe; cases hpe; exact hfe hid
          omega
        have herase : ((st.stack.eraseIdx idx)[pos]? = some e) ∧
            (st.stack.eraseIdx idx).take (pos + 1) = st.stack.take (pos + 1) := by
          refine ⟨?_, take_eraseIdx_of_le _ (by omega)⟩
          rw [List.getElem?_eraseIdx]; simp [hpi, hpe]
        cases hpos : Spec.TreeAlgo2.listPos node.id st.list with
        | none =>
          rw [hpos] at h
          simp only [Spec.TreeAlgo.innerLoopAction, Option.isSome_none, Bool.and_false, Bool.false_eq_true,
            if_false, Bool.not_false, if_true] at h
          rw [ih _ _ _ _ _ h pos e herase.1 hid hpi]; exact herase.2
        | some i =>
          rw [hpos] at h
          simp only [Spec.TreeAlgo.innerLoopAction, Option.isSome_some, Bool.and_true, Bool.not_true,
            Bool.false_eq_true, if_false, decide_eq_true_eq] at h
          by_cases hlim : counter + 1 > Spec.TreeTables.adoptionInnerLimit
          · simp only [hlim, if_true] at h
            rw [ih _ _ _ _ _ h pos e herase.1 hid hpi]; exact herase.2
          · simp only [hlim, if_false] at h
            cases hent : st.list[i]? with
            | none => rw [hent] at h; cases h
            | some en =>
              cases en with
              | marker => rw [hent] at h; cases h
              | element x tok =>
                rw [hent] at h
                simp only [PState.newNode] at h
                cases hs : st.supply with
                | nil => rw [hs] at h; cases h
                | cons n rest =>
                  rw [hs] at h
                  simp only [Option.bind_some] at h
                  have h1 := ih _ _ _ _ _ h pos e (by
                    simp only []
                    rw [List.getElem?_set_ne (by omega)]; exact hpe) hid hpi
                  rw [h1]
                  exact List.take_set_of_le (by omega)

omit [DecidableEq N] in
theorem head?_insertIdx_eraseIdx {α : Type} (l : List α) {p j : Nat} (x : α) (hp : 0 < p) (e : α)
    (h : ((l.eraseIdx p).insertIdx (j + 1) x).head? = some e) : l.head? = some e := by
  rw [TBSafe.head?_insertIdx_succ, TBSafe.head?_eraseIdx_pos hp] at h
  exact h

omit [DecidableEq N] in
theorem mem_insertIdx' {α : Type} {a b : α} {i : Nat} {l : List α} (h : a ∈ l.insertIdx i b) : a = b ∨ a ∈ l := by
  by_cases hi : i ≤ l.length
  · exact (List.mem_insertIdx hi).mp h
  · rw [List.insertIdx_of_length_lt (by omega)] at h; exact Or.inr h

/-- steps 14–19: `Delta`, and the first stack entry stays when the formatting element is not the first -/
theorem finishRound_delta (cx : Ctx T) (P : T → Prop) (fe : N) (feTok : T) (fb ca : Elem N) (st st' : PState N T)
    (lastNode : N) (bm : Spec.TreeAlgo2.Bookmark N) (hP : P feTok)
    (h : Spec.TreeAlgo2.finishRound cx fe feTok fb ca st lastNode bm = some st') :
    Delta P st st' ∧ ∃ p, Spec.TreeAlgo2.stackPos fe st.stack = some p ∧ (0 < p → HeadPres st st') := by
  unfold Spec.TreeAlgo2.finishRound at h
  cases hloc : Spec.TreeAlgo2.appropriatePlace st.stack st.fosterParenting (some ca) with
  | none => rw [hloc] at h; cases h
  | some loc =>
    rw [hloc] at h
    simp only [Option.bind_some, PState.newNode] at h
    cases hs : st.supply with
    | nil => rw [hs] at h; cases h
    | cons n rest =>
      rw [hs] at h
      simp only [Option.bind_some] at h
      -- the list of step 18
      have key : ∀ (list : List (Entry N T)), (∀ e ∈ list, e ∈ st.list ∨ e = Entry.element n feTok) →
          ((Spec.TreeAlgo2.stackPos fe st.stack).bind fun p =>
            ((st.stack.eraseIdx p).findIdx? (fun e => e.id == fb.id)).map fun j =>
              ({ stack := (st.stack.eraseIdx p).insertIdx (j + 1) ⟨n, ⟨Spec.TreeAlgo.nsHtml, cx.tokName feTok⟩⟩,
                 list := list, fosterParenting := st.fosterParenting, formPointer := st.formPointer, supply := rest,
                 log := st.log ++ [Edit.remove lastNode, Edit.insert loc lastNode,
                   Edit.create n Spec.TreeAlgo.nsHtml feTok, Edit.moveChildren fb.id n,
                   Edit.insert (.lastChildOf fb.id) n] } : PState N T)) = some st' →
          Delta P st st' ∧ ∃ p, Spec.TreeAlgo2.stackPos fe st.stack = some p ∧ (0 < p → HeadPres st st') := by
        intro list hlist h
        cases hp : Spec.TreeAlgo2.stackPos fe st.stack with
        | none => rw [hp] at h; cases h
        | some p =>
          rw [hp] at h
          simp only [Option.bind_some] at h
          cases hj : (st.stack.eraseIdx p).findIdx? (fun e => e.id == fb.id) with
          | none => rw [hj] at h; cases h
          | some j =>
            rw [hj] at h
            simp only [Option.map_some, Option.some.injEq] at h
            subst h
            refine ⟨Delta.new n feTok (cx.tokName feTok) hP hs _ rfl (by simp) ?_ hlist, p, rfl, ?_⟩
            · intro e he
              rcases mem_insertIdx' he with h1 | h1
              · exact Or.inr h1
              · exact Or.inl (List.mem_of_mem_eraseIdx h1)
            · intro hp0 e he
              exact head?_insertIdx_eraseIdx st.stack _ hp0 e he
      cases bm with
      | atFormattingElement =>
        simp only [] at h
        cases hlp : Spec.TreeAlgo2.listPos fe st.list with
        | none => rw [hlp] at h; cases h
        | some i =>
          rw [hlp] at h
          simp only [Option.map_some, Option.bind_some] at h
          exact key _ (fun e he => List.mem_or_eq_of_mem_set he) h
      | after x =>
        simp only [] at h
        cases hlp : Spec.TreeAlgo2.listPos fe st.list with
        | none => rw [hlp] at h; cases h
        | some i =>
          rw [hlp] at h
          simp only [Option.bind_some, Spec.TreeAlgo2.insertAfter] at h
          cases hlx : Spec.TreeAlgo2.listPos x (st.list.eraseIdx i) with
          | none => rw [hlx] at h; cases h
          | some k =>
            rw [hlx] at h
            simp only [Option.map_some, Option.bind_some] at h
            refine key _ (fun e he => ?_) h
            rcases mem_insertIdx' he with h1 | h1
            · exact Or.inr h1
            · exact Or.inl (List.mem_of_mem_eraseIdx h1)

/-- the state of the result of a round -/
def roundSt : Spec.TreeAlgo2.Round N T → PState N T
  | .done st => st
  | .anyOtherEndTag st => st
  | .again st => st

omit [DecidableEq N] in
theorem furthestBlock_pos {stack : List (Elem N)} {pos fbPos : Nat} {fb : Elem N}
    (h : Spec.TreeAlgo2.furthestBlock stack pos = some (fbPos, fb)) : pos < fbPos := by
  unfold Spec.TreeAlgo2.furthestBlock at h
  simp only [] at h
  cases hj : List.findIdx? Spec.TreeAlgo2.isSpecial (List.drop (pos + 1) stack) with
  | none => rw [hj] at h; cases h
  | some j =>
    rw [hj] at h
    simp only [Option.bind_some] at h
    cases he : (List.drop (pos + 1) stack)[j]? with
    | none => rw [he] at h; cases h
    | some e =>
      rw [he] at h
      simp only [Option.map_some, Option.some.injEq, Prod.mk.injEq] at h
      omega

omit [DecidableEq N] in
theorem head?_of_take_eq {α : Type} {l l' : List α} {k : Nat} (h : l'.take (k + 1) = l.take (k + 1)) : l'.head? = l.head? := by
  have h1 := congrArg List.head? h
  simpa [List.head?_take] using h1

/-- one round of the outer loop: `Delta`, and the first stack entry stays -/
theorem outerRound_delta (cx : Ctx T) (P : T → Prop) (subject : Spec.TreeAlgo.Str) (st : PState N T)
    (r : Spec.TreeAlgo2.Round N T) (ht : TokOk P st) (h : Spec.TreeAlgo2.outerRound cx subject st = some r) :
    Delta P st (roundSt r) ∧ HeadPres st (roundSt r) := by
  unfold Spec.TreeAlgo2.outerRound at h
  cases hf : Spec.TreeAlgo2.findFormattingElement cx subject st.list with
  | none =>
    rw [hf] at h; simp only [Option.some.injEq] at h; subst h
    exact ⟨Delta.refl _ _, HeadPres.refl _⟩
  | some fr =>
    obtain ⟨fePos, fe, feTok⟩ := fr
    rw [hf] at h
    simp only [] at h
    have hPfe : P feTok := ht fe feTok (findFormattingElement_mem hf)
    cases hsp : Spec.TreeAlgo2.stackPos fe st.stack with
    | none =>
      rw [hsp] at h; simp only [Option.some.injEq] at h; subst h
      exact ⟨Delta.sub rfl rfl (fun _ he => he) (fun _ he => List.mem_of_mem_eraseIdx he), fun _ he => he⟩
    | some pos =>
      rw [hsp] at h
      simp only [] at h
      by_cases hsc : Spec.TreeAlgo2.hasNodeInScope fe Spec.TreeAlgo.defaultScopeList st.stack.reverse = true
      · simp only [hsc, Bool.not_true, Bool.false_eq_true, if_false] at h
        cases hfb : Spec.TreeAlgo2.furthestBlock st.stack pos with
        | none =>
          rw [hfb] at h; simp only [Option.some.injEq] at h; subst h
          refine ⟨Delta.sub rfl rfl (fun _ he => List.mem_of_mem_take he) (fun _ he => List.mem_of_mem_eraseIdx he), ?_⟩
          intro e he
          simp only [roundSt, List.head?_take] at he
          split at he
          · cases he
          · exact he
        | some fbr =>
          obtain ⟨fbPos, fb⟩ := fbr
          rw [hfb] at h
          simp only [] at h
          by_cases hp0 : pos = 0
          · simp only [hp0, if_true] at h; cases h
          · simp only [hp0, if_false] at h
            cases hca : st.stack[pos - 1]? with
            | none => rw [hca] at h; cases h
            | some ca =>
              rw [hca] at h
              simp only [Option.bind_some] at h
              cases hin : Spec.TreeAlgo2.innerLoop cx fe fb.id fbPos 0 fb.id Spec.TreeAlgo2.Bookmark.atFormattingElement st with
              | none => rw [hin] at h; cases h
              | some r1 =>
                rw [hin] at h
                simp only [Option.bind_some] at h
                cases hfin : Spec.TreeAlgo2.finishRound cx fe feTok fb ca r1.1 r1.2.1 r1.2.2 with
                | none => rw [hfin] at h; cases h
                | some st2 =>
                  rw [hfin] at h
                  simp only [Option.map_some, Option.some.injEq] at h
                  subst h
                  have d1 := innerLoop_delta cx P fe fb.id _ _ _ _ _ _ ht hin
                  obtain ⟨d2, p, hp, hhead⟩ := finishRound_delta cx P fe feTok fb ca r1.1 st2 r1.2.1 r1.2.2 hPfe hfin
                  refine ⟨d1.trans d2, ?_⟩
                  -- the formatting element stays where it is
                  obtain ⟨e, hpe, hide⟩ := lastPos_spec (fun e : Elem N => e.id == fe) st.stack pos hsp
                  have hid : e.id = fe := by simpa using hide
                  have hpre := innerLoop_prefix cx fe fb.id _ _ _ _ _ _ hin pos e hpe hid (furthestBlock_pos hfb)
                  have hpe1 : r1.1.stack[pos]? = some e := by
                    have := congrArg (fun l => l[pos]?) hpre
                    simpa [List.getElem?_take, hpe] using this
                  have hpp : pos ≤ p := by
                    by_cases hlt : p < pos
                    · have := lastPos_max (fun e : Elem N => e.id == fe) r1.1.stack p hp pos e hlt hpe1
                      rw [hide] at this; cases this
                    · omega
                  have h1 : HeadPres st r1.1 := by
                    intro e' he'; rw [← head?_of_take_eq hpre]; exact he'
                  exact h1.trans (hhead (by omega))
      · simp only [hsc, Bool.not_false, if_true, Option.some.injEq] at h
        subst h
        exact ⟨Delta.refl _ _, HeadPres.refl _⟩

theorem outerLoop_delta (cx : Ctx T) (P : T → Prop) (subject : Spec.TreeAlgo.Str) : ∀ (n : Nat) (st : PState N T)
    (r : PState N T × Bool), TokOk P st → Spec.TreeAlgo2.outerLoop cx subject n st = some r →
    Delta P st r.1 ∧ HeadPres st r.1 := by
  intro n
  induction n with
  | zero =>
    intro st r _ h
    simp only [Spec.TreeAlgo2.outerLoop, Option.some.injEq] at h
    subst h; exact ⟨Delta.refl _ _, HeadPres.refl _⟩
  | succ n ih =>
    intro st r ht h
    unfold Spec.TreeAlgo2.outerLoop at h
    cases hr : Spec.TreeAlgo2.outerRound cx subject st with
    | none => rw [hr] at h; cases h
    | some rr =>
      rw [hr] at h
      obtain ⟨d1, h1⟩ := outerRound_delta cx P subject st rr ht hr
      cases rr with
      | done st1 => simp only [Option.some.injEq] at h; subst h; exact ⟨d1, h1⟩
      | anyOtherEndTag st1 => simp only [Option.some.injEq] at h; subst h; exact ⟨d1, h1⟩
      | again st1 =>
        simp only [] at h
        obtain ⟨d2, h2⟩ := ih st1 r (d1.tokOk ht) h
        exact ⟨d1.trans d2, h1.trans h2⟩

omit [DecidableEq N] in
/-- implied end tags: a prefix of the stack -/
theorem generateImpliedEndTags_prefix (except : Option Spec.TreeAlgo.Str) (stack : List (Elem N)) :
    Spec.TreeAlgo2.generateImpliedEndTags except stack <+: stack := by
  unfold Spec.TreeAlgo2.generateImpliedEndTags
  refine ⟨(stack.reverse.takeWhile fun e => Spec.TreeAlgo.impliedEndTag except e.name).reverse, ?_⟩
  rw [← List.reverse_append, List.takeWhile_append_dropWhile, List.reverse_reverse]

omit [DecidableEq N] in
/-- "any other end tag": a prefix of the stack -/
theorem anyOtherEndTag_prefix (name : Spec.TreeAlgo.Str) (stack : List (Elem N)) :
    Spec.TreeAlgo2.anyOtherEndTag name stack <+: stack := by
  unfold Spec.TreeAlgo2.anyOtherEndTag
  split
  · exact List.prefix_refl _
  · exact (List.take_prefix _ _).trans (generateImpliedEndTags_prefix _ _)

/-- the adoption agency algorithm with its fallback: `Delta`, and the first stack entry stays -/
theorem adoptionAgencyWithFallback_delta (cx : Ctx T) (P : T → Prop) (subject : Spec.TreeAlgo.Str) (st st' : PState N T)
    (ht : TokOk P st) (h : Spec.TreeAlgo2.adoptionAgencyWithFallback cx subject st = some st') :
    Delta P st st' ∧ HeadPres st st' := by
  unfold Spec.TreeAlgo2.adoptionAgencyWithFallback at h
  cases ha : Spec.TreeAlgo2.adoptionAgency cx subject st with
  | none => rw [ha] at h; cases h
  | some r =>
    obtain ⟨st1, b⟩ := r
    rw [ha] at h
    simp only [Option.map_some, Option.some.injEq] at h
    have h1 : Delta P st st1 ∧ HeadPres st st1 := by
      unfold Spec.TreeAlgo2.adoptionAgency at ha
      cases hl : st.stack.getLast? with
      | none => rw [hl] at ha; cases ha
      | some cur =>
        rw [hl] at ha
        simp only [] at ha
        split at ha
        · simp only [Option.some.injEq, Prod.mk.injEq] at ha
          obtain ⟨ha1, _⟩ := ha
          subst ha1
          refine ⟨Delta.sub rfl rfl (fun e he => List.dropLast_subset _ he) (fun _ he => he), ?_⟩
          intro e he
          simp only [List.head?_dropLast] at he
          split at he
          · exact he
          · cases he
        · exact outerLoop_delta cx P subject _ st (st1, b) ht ha
    cases b with
    | false => simp only [Bool.false_eq_true, if_false] at h; subst h; exact h1
    | true =>
      simp only [if_true] at h
      subst h
      have hpre := anyOtherEndTag_prefix subject st1.stack
      have d2 : Delta P st1 { st1 with stack := Spec.TreeAlgo2.anyOtherEndTag subject st1.stack } :=
        Delta.sub rfl rfl (fun e he => hpre.subset he) (fun _ he => he)
      exact ⟨h1.1.trans d2, h1.2.trans (fun e he => head?_of_prefix hpre e he)⟩

end DeltaAA
/-! ### 4. the adoption agency algorithm -/

/-- `adoptionAgency subject` (Actions.lean) ↔ `Spec.TreeModes.adoptionAgency` (TreeModes2:
`TreeAlgo2.adoptionAgencyWithFallback` on the `PState`) -/
theorem pc_adoptionAgency {s : State} (hm : MInv s) (subject : Str) :
    PC (H5V.Model.HtmlTB.adoptionAgency subject) s (fun _ s' calls => SameButStackList s s' ∧ (AFWf s → AFWf s') ∧
      Tr s s' calls (fun x x' => Spec.TreeModes.adoptionAgency (absF s x) subject = .ok (absF s' x'))) := by
  by_cases hne : s.openElems = []
  · rw [adoptionAgency_eq]
    refine pc_bind ?_
    unfold currentNodeNamedS
    refine pc_bind ?_
    exact pc_currentNode_nil hne
  · refine pc_conseq (PC.of_tot (tot_adoptionAgency subject s hm.elems (hm.headOk hne) hm.af)) ?_
    rintro _ s' calls he ⟨ids, L, hL, hspec, hS, hok', hfresh⟩
    have hsp0 := hspec [] []
    rw [List.append_nil, List.nil_append] at hsp0
    obtain ⟨hD, hH⟩ := adoptionAgencyWithFallback_delta tagCtx _ subject _ _ (tokOk_absState s ids []) hsp0
    obtain ⟨hm', hnew, htok⟩ := minv_of_delta hm he hS hok' ids L hfresh (hL _ (TcOk.self _)) hD hH
    refine ⟨hS, fun hw => hw.of_new hm he.ext htok, ?_⟩
    refine (tr_of_phase1 hm he hS hm' hnew ids (FreshIds.of_size hfresh) L hL).conseq ?_
    rintro x x' hx _ ⟨hx', ⟨rest, hsup⟩, hF⟩
    subst hx'
    unfold Spec.TreeModes.adoptionAgency
    rw [absF_p, absP_eq s x hx.live, adoptionAgencyWithFallback_mapP etokOf ctxMap_etok, hsup, hspec rest x.logT]
    simp only [Option.map_some, Spec.TreeModes.req]
    rw [absP_step s' hx.live hsup L [], hF]
    rfl

/-! ### positions in the list, removals from the list and the stack -/

/-- a stretch in which only a parse error is noted on the side of the specification -/
theorem Tr.err {s : State} (hm : MInv s) (w : String) :
    Tr s s [] (fun x x' => x' = { x with errors := x.errors ++ [w] }) :=
  ⟨hm, rfl, TBSafe.Ext.refl _, [], FreshIds.nil _, fun x rest hx hs => ⟨{ x with errors := x.errors ++ [w] },
    ⟨⟨hx.live, hx.annot, hx.annotEl, hx.xlog⟩, by simpa using hs, rfl, rfl, rfl, [], by simp [Aux.fullLog],
      fun _ _ => rfl⟩, rfl⟩⟩

theorem absF_err (s : State) (x : Aux) (w : String) :
    absF s { x with errors := x.errors ++ [w] } = (absF s x).err w := rfl

theorem listPos_absListE (e : Id) (af : List FormatEntry) :
    Spec.TreeAlgo2.listPos e (absListE af) = Spec.TreeAlgo2.listPos e (absList af) := by
  rw [absListE_mapTok, listPos_map]

/-- `positionInActiveFormatting e` (Actions.lean) ↔ `TreeAlgo2.listPos e` on the list -/
theorem pc_positionInActiveFormatting {s : State} (hm : MInv s) (e : Id) :
    PC (positionInActiveFormatting e) s (fun r s' calls => SameTB s s' ∧
      r = Spec.TreeAlgo2.listPos e (absList s.activeFormatting) ∧
      Tr s s' calls (fun x x' => x' = x ∧ absF s x = absF s' x ∧ r = Spec.TreeAlgo2.listPos e (absF s x).p.list)) := by
  refine pc_conseq (PC.of_tot (tot_positionInAF s e)) ?_
  rintro r s' calls he ⟨hr, hs, hc⟩
  refine ⟨hs, hr, (Tr.of_same hm hs he (by rw [← edits2_edits, hc]; rfl)).conseq ?_⟩
  rintro x x' _ _ ⟨hxx, e1⟩
  refine ⟨hxx, e1, ?_⟩
  rw [hr]
  simp only [absF, absP, listPos_absListE]

/-- `afRemove i` (Actions.lean: `Vec::remove`) ↔ erasing entry `i` of the list (`State.setList`); it panics
when `i` is out of bounds -/
theorem pc_afRemove {s : State} (hm : MInv s) (i : Nat) (site : String) :
    PC (afRemove i site) s (fun _ s' calls => i < s.activeFormatting.length ∧
      s' = { s with activeFormatting := s.activeFormatting.eraseIdx i } ∧
      Tr s s' calls (fun x x' => x' = x ∧
        Spec.TreeModes.State.setList (absF s x) ((absF s x).p.list.eraseIdx i) = absF s' x')) := by
  by_cases hi : i < s.activeFormatting.length
  · refine pc_conseq (PC.of_tot (tot_afRemove s i site hi)) ?_
    rintro _ s' calls _ ⟨hs', hc⟩
    subst hc
    refine ⟨hi, hs', ?_⟩
    rw [hs']
    refine (Tr.of_upd (s' := { s with activeFormatting := s.activeFormatting.eraseIdx i }) hm rfl (fun _ h => h)
      (hm.withAF _ (fun y t h => List.mem_of_mem_eraseIdx h)) rfl).conseq ?_
    rintro x x' _ _ hxx
    subst x'
    refine ⟨rfl, ?_⟩
    simp only [absF, absP, Spec.TreeModes.State.setList, absListE, map_eraseIdx]
  · unfold afRemove
    refine pc_getS_bind ?_
    simp only [hi, if_false]
    exact pc_panicAt

theorem stackPos_absStack_lt {x : Id} {d : Dom} {l : List Id} {i : Nat}
    (h : Spec.TreeAlgo2.stackPos x (absStack d l) = some i) : i < l.length ∧ l[i]? = some x := stackPos_lt h

/-- `removeFromStack node` (Actions.lean) ↔ `Spec.TreeModes.removeFromStack` (TreeModes2), for a node that is
not the first entry of the stack -/
theorem pc_removeFromStackF {s : State} (hm : MInv s) (node : Id) (hroot : s.openElems.head? ≠ some node) :
    PC (H5V.Model.HtmlTB.removeFromStack node) s (fun _ s' calls => SameButStackList s s' ∧
      s'.activeFormatting = s.activeFormatting ∧ (∀ h ∈ s'.openElems, h ∈ s.openElems) ∧
      Tr s s' calls (fun x x' => x' = x ∧ Spec.TreeModes.removeFromStack (absF s x) node = absF s' x')) := by
  refine pc_conseq (PC.of_tot (tot_removeFromStack s node)) ?_
  rintro _ s' calls he ⟨hs', hc⟩
  have hS : SameButStackList s s' := by unfold SameButStackList; rw [hs']
  have haf : s'.activeFormatting = s.activeFormatting := by rw [hs']
  have hx := he.ext
  cases hp : Spec.TreeAlgo2.stackPos node (absStack s.dom s.openElems) with
  | none =>
    simp only [hp] at hs'
    have hopen : s'.openElems = s.openElems := by rw [hs']
    have hsame : SameTB s s' := by unfold SameTB; exact hs'
    refine ⟨hS, haf, fun h hh => by rw [hopen] at hh; exact hh, ?_⟩
    refine (Tr.of_same hm hsame he (by rw [← edits2_edits, hc]; rfl)).conseq ?_
    rintro x x' hx0 _ ⟨hxx, e1⟩
    subst x'
    refine ⟨rfl, ?_⟩
    rw [← e1]
    simp only [Spec.TreeModes.removeFromStack, absF, absP, hx0.live, Bool.false_eq_true, if_false, hp]
  | some p =>
    simp only [hp] at hs'
    have hopen : s'.openElems = s.openElems.eraseIdx p := by rw [hs']
    obtain ⟨hplt, hpx⟩ := stackPos_absStack_lt hp
    have hp0 : 0 < p := by
      cases p with
      | zero =>
        exfalso; apply hroot
        rw [List.head?_eq_getElem?]; exact hpx
      | succ p => omega
    have hsub : ∀ h ∈ s'.openElems, h ∈ s.openElems := fun h hh => by
      rw [hopen] at hh; exact List.mem_of_mem_eraseIdx hh
    have hm' : MInv s' := hm.of_sub hS hx hsub
      (fun h0 hh => by rw [hopen, TBSafe.head?_eraseIdx_pos hp0] at hh; exact hh)
      (fun y t hy => by rw [haf] at hy; exact hy)
    refine ⟨hS, haf, hsub, (Tr.of_quiet hm he (by rw [← edits2_edits, hc]; rfl) hsub hm' (cfgOf_sbsl hm hS hx)).conseq ?_⟩
    rintro x x' hx0 _ hxx
    subst x'
    refine ⟨rfl, ?_⟩
    rw [absF_sbsl x hm hS hx]
    have f := sbsl_fields hS
    have e1 : absStack s'.dom s'.openElems = (absStack s.dom s.openElems).eraseIdx p := by
      rw [absStack_ext (fun y hy => hm.elems y (hsub y hy)) hx, hopen]
      simp only [absStack, map_eraseIdx]
    simp only [Spec.TreeModes.removeFromStack, Spec.TreeModes.State.setStack, absF, absP, hx0.live, Bool.false_eq_true,
      if_false, hp, e1, haf, f.fosterParenting, f.formElem]

/-! ### `handle_misnested_a_tags` -/

/-- the end of `handleMisnestedATags`: remove the node from the list and from the stack -/
def hmTail (node : Id) : M Unit := do
  match ← positionInActiveFormatting node with
  | some index => afRemove index "mod.rs:1602"
  | none => pure ()
  H5V.Model.HtmlTB.removeFromStack node

def hmSome (node : Id) : M Unit := do
  let _ ← unexpected
  H5V.Model.HtmlTB.adoptionAgency "a".toList
  hmTail node

theorem handleMisnestedATags_eq :
    handleMisnestedATags = (do
      match ← findAInAF (afEndToMarker (← getS).activeFormatting) with
      | none => pure ()
      | some node => hmSome node) := rfl

/-- "remove that element from the list of active formatting elements and the stack of open elements if the
adoption agency algorithm didn't already remove it": `hmTail` ↔ `removeFromStack (removeFromList σ a) a` -/
theorem pc_hmTail {s : State} (hm : MInv s) (node : Id) (hroot : s.openElems.head? ≠ some node) :
    PC (hmTail node) s (fun _ s' calls => SameButStackList s s' ∧
      (∀ y t, FormatEntry.element y t ∈ s'.activeFormatting → FormatEntry.element y t ∈ s.activeFormatting) ∧
      Tr s s' calls (fun x x' => x' = x ∧
        Spec.TreeModes.removeFromStack (Spec.TreeModes.removeFromList (absF s x) node) node = absF s' x')) := by
  unfold hmTail
  refine pc_seq (pc_positionInActiveFormatting hm node) ?_
  rintro r s1 c1 he1 ⟨hs1, hr, htr1⟩
  have hm1 := htr1.1
  have hroot1 : s1.openElems.head? ≠ some node := by rw [hs1.openElems]; exact hroot
  cases r with
  | none =>
    dsimp only
    refine pc_conseq (pc_removeFromStackF hm1 node hroot1) ?_
    rintro _ s2 c2 _ ⟨hS2, haf2, _, htr2⟩
    refine ⟨sbsl_trans (sbsl_of_sameTB hs1) hS2, fun y t hy => by rw [haf2, hs1.activeFormatting] at hy; exact hy, ?_⟩
    refine (htr1.trans htr2).conseq ?_
    rintro x x2 _ _ ⟨x1, ⟨hx1, e1, hr1⟩, hx2, r2⟩
    subst x1; subst x2
    refine ⟨rfl, ?_⟩
    rw [← r2, ← e1]
    simp only [Spec.TreeModes.removeFromList, ← hr1]
  | some i =>
    dsimp only
    refine pc_seq (pc_afRemove hm1 i _) ?_
    rintro _ s2 c2 _ ⟨_, hs2, htr2⟩
    have hm2 := htr2.1
    have hroot2 : s2.openElems.head? ≠ some node := by rw [hs2]; exact hroot1
    refine pc_conseq (pc_removeFromStackF hm2 node hroot2) ?_
    rintro _ s3 c3 _ ⟨hS3, haf3, _, htr3⟩
    have hS2 : SameButStackList s1 s2 := by unfold SameButStackList; rw [hs2]
    refine ⟨sbsl_trans (sbsl_trans (sbsl_of_sameTB hs1) hS2) hS3, ?_, ?_⟩
    · intro y t hy
      rw [haf3, hs2] at hy
      rw [← hs1.activeFormatting]
      exact List.mem_of_mem_eraseIdx hy
    · rw [← List.append_assoc]
      refine ((htr1.trans htr2).trans htr3).conseq ?_
      rintro x x3 _ _ ⟨x2, ⟨x1, ⟨hx1, e1, hr1⟩, hx2, r2⟩, hx3, r3⟩
      subst x1; subst x2; subst x3
      refine ⟨rfl, ?_⟩
      rw [← r3, ← r2, ← e1]
      simp only [Spec.TreeModes.removeFromList, ← hr1]

/-- the first part of the specification's clause for a start tag "a" (`inBodyStartA`, TreeModes2): "If the
list of active formatting elements contains an `a` element between the end of the list and the last marker
…, then this is a parse error; run the adoption agency algorithm for the token, then remove that element
from the list of active formatting elements and the stack of open elements if the adoption agency
algorithm didn't already remove it" (`name`: the token's tag name) -/
def specMisnestedA (σ : SState) (name : Str) : Spec.TreeModes.M SState :=
  match Spec.TreeAlgo2.findFormattingElement Spec.TreeModes.cx "a".toList σ.p.list with
  | some r => do
    let σ := σ.err "in body: a start tag with an a element in the list"
    let σ ← Spec.TreeModes.adoptionAgency σ name
    pure (Spec.TreeModes.removeFromStack (Spec.TreeModes.removeFromList σ r.2.1) r.2.1)
  | none => pure σ

/-- `inBodyStartA` is `specMisnestedA`, then reconstruct, insert, push -/
theorem inBodyStartA_eq (σ : SState) (t : STag) :
    Spec.TreeModes.inBodyStartA σ t = (do
      let σ ← specMisnestedA σ t.name
      let σ ← Spec.TreeModes.reconstruct σ
      let r ← Spec.TreeModes.insertHtml σ t
      pure (.done (Spec.TreeModes.pushFormatting r.1 r.2 t))) := by
  unfold Spec.TreeModes.inBodyStartA specMisnestedA
  cases Spec.TreeAlgo2.findFormattingElement Spec.TreeModes.cx "a".toList σ.p.list with
  | none => rfl
  | some r =>
    obtain ⟨i, a, tok⟩ := r
    dsimp only
    cases Spec.TreeModes.adoptionAgency (Spec.TreeModes.State.err σ "in body: a start tag with an a element in the list") t.name <;> rfl

/-- `findAInAF` (Actions.lean) asks the sink for the names of the listed elements; with `AFWf` this is the
search by token name (`AFWf` is `MInv.afwf`) -/
theorem pc_findAInAF (s : State) (hm : MInv s) : ∀ (l : List (Nat × Id × Tag)) (s1 : State),
    (∀ x ∈ l, FormatEntry.element x.2.1 x.2.2 ∈ s.activeFormatting) → SameTB s s1 → TBSafe.Ext s.dom s1.dom →
    PC (findAInAF l) s1 (fun r s2 calls => SameTB s1 s2 ∧ edits calls = [] ∧
      r = (l.find? (fun x => x.2.2.name == "a".toList)).map (·.2.1)) := by
  have hw : AFWf s := hm.toAFWf
  intro l
  induction l with
  | nil =>
    intro s1 _ _ _
    simp only [findAInAF]
    exact pc_pure ⟨SameTB.refl _, rfl, rfl⟩
  | cons x rest ih =>
    intro s1 hmem hs1 hx1
    obtain ⟨i, n, t⟩ := x
    simp only [findAInAF]
    have hin : FormatEntry.element n t ∈ s.activeFormatting := hmem (i, n, t) (List.mem_cons_self ..)
    have hval : (elemOf s1.dom n).name.isHtml "a" = (t.name == "a".toList) := by
      have : nameOf s1.dom n = ⟨nsHtml, t.name⟩ := by
        rw [nameOf_ext hx1 (hm.afEl n t hin)]; exact (hw n t hin).2
      simp only [elemOf, this, Spec.TreeAlgo.Name.isHtml, HtmlTBSpec.toName]
      have : (nsHtml == Spec.TreeAlgo.nsHtml) = true := by rw [beq_iff_eq]; rfl
      simp only [this, Bool.true_and]
    refine pc_query_bind (PC.of_tot (tot_htmlElemNamed s1 n "a")) ?_
    intro s2 c2 he2 hs2 hc2
    rw [hval]
    by_cases hn : (t.name == "a".toList) = true
    · simp only [hn, if_true]
      refine pc_pure ⟨hs2, by rw [List.append_nil]; exact hc2, ?_⟩
      simp only [List.find?_cons, hn, Option.map_some]
    · simp only [hn, Bool.false_eq_true, if_false]
      refine pc_conseq (ih s2 (fun y hy => hmem y (List.mem_cons_of_mem _ hy)) (hs1.trans hs2) (hx1.trans he2.ext)) ?_
      rintro r s3 c3 _ ⟨hs3, hc3, hr⟩
      refine ⟨hs2.trans hs3, by rw [edits_append, hc2, hc3]; rfl, ?_⟩
      have hn' : (t.name == "a".toList) = false := by simpa using hn
      simp only [List.find?_cons, hn']
      exact hr

/-- `handleMisnestedATags` (Actions.lean) ↔ the first part of `inBodyStartA` (TreeModes2: `specMisnestedA`,
`inBodyStartA_eq`).  Uses `AFWf` = `MInv.afwf` (the sink's name of a listed element is its token's tag name). -/
theorem pc_handleMisnestedATags {s : State} (hm : MInv s) :
    PC handleMisnestedATags s (fun _ s' calls => SameButStackList s s' ∧ AFWf s' ∧
      Tr s s' calls (fun x x' => specMisnestedA (absF s x) "a".toList = .ok (absF s' x'))) := by
  have hw : AFWf s := hm.toAFWf
  rw [handleMisnestedATags_eq]
  refine pc_getS_bind ?_
  refine pc_seq (pc_findAInAF s hm (afEndToMarker s.activeFormatting) s ?_ (SameTB.refl s) (TBSafe.Ext.refl _)) ?_
  · rintro ⟨i, n, t⟩ hx
    exact List.mem_of_getElem? (afEndToMarker_mem s.activeFormatting i n t hx)
  rintro r s1 c1 he1 ⟨hs1, hc1, hr⟩
  rw [findFormatting_eq] at hr
  have htr0 := Tr.of_same hm hs1 he1 (by rw [← edits2_edits, hc1]; rfl)
  have hm1 := htr0.1
  have hfind : ∀ x, AuxOk s x → Spec.TreeAlgo2.findFormattingElement Spec.TreeModes.cx "a".toList (absF s x).p.list
      = (Spec.TreeAlgo2.findFormattingElement tagCtx "a".toList (absList s.activeFormatting)).map (mapTok3 etokOf) := by
    intro x _
    simp only [absF, absP]
    rw [absListE_mapTok, findFormattingElement_map etokOf ctxMap_etok]
  cases hf : Spec.TreeAlgo2.findFormattingElement tagCtx "a".toList (absList s.activeFormatting) with
  | none =>
    rw [hf] at hr
    subst hr
    simp only [Option.map_none]
    refine pc_pure ⟨sbsl_of_sameTB hs1, hw.of_sub hm he1.ext (fun y t hy => by rw [hs1.activeFormatting] at hy; exact hy), ?_⟩
    rw [List.append_nil]
    refine htr0.conseq ?_
    rintro x x' hx _ ⟨hxx, e0⟩
    subst x'
    unfold specMisnestedA
    rw [hfind x hx, hf]
    simp only [Option.map_none]
    rw [e0]
    rfl
  | some fr =>
    obtain ⟨i, node, t⟩ := fr
    rw [hf] at hr
    subst hr
    simp only [Option.map_some]
    obtain ⟨_, hnode, hname⟩ := findFormattingElement_some hf
    have hin : FormatEntry.element node t ∈ s.activeFormatting := List.mem_of_getElem? hnode
    have hnm : nameOf s.dom node = ⟨nsHtml, "a".toList⟩ := by
      rw [(hw node t hin).2, beq_iff_eq.mp hname]
    have hw1 : AFWf s1 := hw.of_sub hm he1.ext (fun y t hy => by rw [hs1.activeFormatting] at hy; exact hy)
    unfold hmSome
    refine pc_seq (pc_unexpected_same hm1) ?_
    rintro _ s2 c2 he2 ⟨_, hs2, htr1⟩
    have hm2 := htr1.1
    have hw2 : AFWf s2 := hw1.of_sub hm1 he2.ext (fun y t hy => by rw [hs2.activeFormatting] at hy; exact hy)
    refine pc_seq (pc_adoptionAgency hm2 "a".toList) ?_
    rintro _ s3 c3 he3 ⟨hS3, hw3, htr3⟩
    have hm3 := htr3.1
    have hx03 : TBSafe.Ext s.dom s3.dom := (he1.ext.trans he2.ext).trans he3.ext
    have hroot3 : s3.openElems.head? ≠ some node := by
      intro hh
      have h1 := hm3.root node hh
      rw [nameOf_ext hx03 (hm.afEl node t hin), hnm] at h1
      exact absurd h1 (by decide)
    refine pc_conseq (pc_hmTail hm3 node hroot3) ?_
    rintro _ s4 c4 he4 ⟨hS4, hsub4, htr4⟩
    refine ⟨sbsl_trans (sbsl_trans (sbsl_trans (sbsl_of_sameTB hs1) (sbsl_of_sameTB hs2)) hS3) hS4,
      (hw3 hw2).of_sub hm3 he4.ext hsub4, ?_⟩
    have htr := (((htr0.trans htr1).trans (Tr.err hm2 "in body: a start tag with an a element in the list")).trans htr3).trans htr4
    have hcalls : c1 ++ (c2 ++ (c3 ++ c4)) = c1 ++ c2 ++ [] ++ c3 ++ c4 := by simp
    rw [hcalls]
    refine htr.conseq ?_
    rintro x x4 hx _ ⟨x3, ⟨xe, ⟨x1, ⟨x0, ⟨hx0, e0⟩, hx1, e1⟩, hxe⟩, r3⟩, hx4, r4⟩
    subst x0; subst x1; subst xe; subst x4
    have hfx : Spec.TreeAlgo2.findFormattingElement Spec.TreeModes.cx "a".toList (absF s x).p.list
        = some (i, node, etokOf t) := by rw [hfind x hx, hf]; rfl
    rw [absF_err, ← e1, ← e0] at r3
    simp only [specMisnestedA, hfx, r3]
    rw [← r4]
    rfl

#print axioms adoptionAgencyWithFallback_delta
#print axioms pc_adoptionAgency
#print axioms pc_positionInActiveFormatting
#print axioms pc_afRemove
#print axioms pc_removeFromStackF
#print axioms pc_hmTail
#print axioms inBodyStartA_eq
#print axioms pc_findAInAF
#print axioms pc_handleMisnestedATags

end H5V.Lemmas.HtmlTBModes
