import H5V.Lemmas.HtmlTBModesBodyAttr
import H5V.Lemmas.HtmlTBModesBodyDefs
import H5V.Lemmas.HtmlTBModesPrimPop
import H5V.Lemmas.HtmlTBModesPrimIns2
import H5V.Lemmas.HtmlTBModesPrimFmt2
import H5V.Lemmas.HtmlTBModesSmall2
/-!
Walking the `if` chains of a rule function on a tag token.  The model's rule function (`stepInBody`, `stepInTable`, …)
and the specification's (`inBody`, `inTable`, …) test the tag name against (almost) the same lists in the same order.
In the order of the file: with the kind of the tag known, every tag test of both chains takes the one form
`isOneOf t.name l` (`isStart_of_start` …, `specTag_is`, `specTag_isOneOf`); where "in body" groups the names
differently in model and specification; the simp sets `tag_chain`, `body_chain`; `pc_tok_ite` and its variants, which
descend both chains one arm at a time, so that no name is ever compared with a literal; an induction principle for
"reconstruct the active formatting elements"; the composition of a stretch with a rule (`pc_tok_after`); steps
shared by several arms.
-/
namespace H5V.Lemmas.HtmlTBModes
open H5V.Model.HtmlTB
open H5V.Model.Dom (Id)
open H5V.Lemmas.HtmlTBAlgo
open H5V.Spec.TreeModes (Step)

/-! ### the tag tests, the kind known -/

theorem kind_beq_start_of_end {t : Tag} (hk : t.kind = .endTag) : (t.kind == .startTag) = false := by rw [hk]; rfl

theorem strIs_eq_isOneOf (n : Str) (a : String) : Spec.TreeModes.strIs n a = isOneOf n [a] := by
  rw [isOneOf_cons, isOneOf_nil, Bool.or_false]; exact strIs_eq n a

theorem specTag_isOneOf (t : Tag) (l : List String) : (specTag t).isOneOf l = isOneOf t.name l :=
  strIsOneOf_eq t.name l

theorem specTag_is (t : Tag) (a : String) : (specTag t).is a = isOneOf t.name [a] :=
  strIs_eq_isOneOf t.name a

theorem isName_eq_isOneOf (n : Str) (a : String) : isName n a = isOneOf n [a] := by
  rw [isOneOf_cons, isOneOf_nil, Bool.or_false]; exact isName_eq n a

theorem name_of_isOneOf {n : Str} {a : String} (h : isOneOf n [a] = true) : n = a.toList := by
  simpa only [isOneOf_cons, isOneOf_nil, Bool.or_false, decide_eq_true_eq] using h

theorem mem_of_isOneOf {n : Str} {l : List String} (h : isOneOf n l = true) : n ∈ l.map String.toList := by
  simp only [isOneOf, List.any_eq_true, beq_iff_eq] at h
  obtain ⟨a, ha, e⟩ := h
  exact List.mem_map.mpr ⟨a, ha, e⟩

/-! ### where the two chains group the names differently -/

theorem isOneOf_append (n : Str) (l l' : List String) : isOneOf n (l ++ l') = (isOneOf n l || isOneOf n l') := by
  simp only [isOneOf, List.any_append]

private theorem bor_mid (a m b : Bool) : (a || (m || b)) = ((a || b) || m) := by
  cases a <;> cases m <;> cases b <;> rfl

/-- the specification lists `menu` among the block-level start tags, the model has an arm of its own for it -/
theorem isOneOf_blockStart (n : Str) : isOneOf n Spec.TreeModes.blockStart =
    (isOneOf n ["address", "article", "aside", "blockquote", "center", "details", "dialog", "dir", "div", "dl",
      "fieldset", "figcaption", "figure", "footer", "header", "hgroup", "main", "nav", "ol", "p", "search", "section",
      "summary", "ul"] || isOneOf n ["menu"]) := by
  -- `menu` is the 18th name of `blockStart`
  have e : ∀ l : List String, isOneOf n (l.take 17 ++ (["menu"] ++ l.drop 18)) =
      (isOneOf n (l.take 17 ++ l.drop 18) || isOneOf n ["menu"]) := fun l => by
    rw [isOneOf_append, isOneOf_append, isOneOf_append, bor_mid]
  exact e Spec.TreeModes.blockStart

/-- the model lists `select` among the block-level end tags, the specification tests it beside the list -/
theorem isOneOf_blockEnd_select (n : Str) :
    isOneOf n ["address", "article", "aside", "blockquote", "button", "center", "details", "dialog", "dir", "div", "dl",
      "fieldset", "figcaption", "figure", "footer", "header", "hgroup", "listing", "main", "menu", "nav", "ol", "pre",
      "search", "section", "select", "summary", "ul"] =
    (isOneOf n Spec.TreeModes.blockEnd || isOneOf n ["select"]) := by
  -- `select` would be the 26th name of `blockEnd`
  have e : ∀ l : List String, isOneOf n (l.take 25 ++ (["select"] ++ l.drop 25)) =
      (isOneOf n (l.take 25 ++ l.drop 25) || isOneOf n ["select"]) := fun l => by
    rw [isOneOf_append, isOneOf_append, isOneOf_append, bor_mid]
  exact e Spec.TreeModes.blockEnd

theorem isOneOf_li_dd_dt (n : Str) : isOneOf n ["li", "dd", "dt"] = (isOneOf n ["li"] || isOneOf n ["dd", "dt"]) :=
  isOneOf_append n ["li"] ["dd", "dt"]

/-- the specification tests `image` before all other start tags, `stepInBody` after these -/
theorem image_before {n : Str} (h : isOneOf n ["image"] = true) :
    ∀ l ∈ [["html"], ["base", "basefont", "bgsound", "link", "meta", "noframes", "script", "style", "template", "title"],
      ["body"], ["frameset"],
      ["address", "article", "aside", "blockquote", "center", "details", "dialog", "dir", "div", "dl", "fieldset",
        "figcaption", "figure", "footer", "header", "hgroup", "main", "nav", "ol", "p", "search", "section", "summary",
        "ul"], ["menu"], ["h1", "h2", "h3", "h4", "h5", "h6"], ["pre", "listing"], ["form"], ["li"], ["dd", "dt"],
      ["plaintext"], ["button"], ["a"],
      ["b", "big", "code", "em", "font", "i", "s", "small", "strike", "strong", "tt", "u"], ["nobr"],
      ["applet", "marquee", "object"], ["table"], ["area", "br", "embed", "img", "keygen", "wbr"], ["input"],
      ["param", "source", "track"], ["hr"]], isOneOf n l = false := by
  rw [name_of_isOneOf h]
  decide +kernel

/- The two `attribute` lines below collect the lemmas that bring every tag test to the form `isOneOf t.name l`.
`body_chain` also unfolds the rule functions of "in body" (`inBodyStartTagCore` is left folded: `image` is tested
before it). -/
attribute [tag_chain] stokOf specTag_is specTag_isOneOf Bool.or_self Bool.or_false Bool.false_or Bool.and_false
  Bool.false_eq_true

attribute [body_chain] stepInBody stokOf Spec.TreeModes.inBody Spec.TreeModes.inBodyStartTag
  Spec.TreeModes.inBodyEndTag specTag_is specTag_isOneOf isOneOf_blockStart isOneOf_blockEnd_select isOneOf_li_dd_dt
  Bool.or_self Bool.or_false Bool.false_or Bool.and_false Bool.false_eq_true

/-! ### descending the chains -/

section Walk
variable {c d : Bool} {s : State} {tok : Token} {a b r : M ProcessResult}
  {a' a'' b' : SState → Spec.TreeModes.M (Step Id)}

/-- one step down both chains: the model's and the specification's next arm have the same condition -/
theorem pc_tok_ite (ht : c = true → PC a s (TokPost a' s tok)) (hf : c = false → PC b s (TokPost b' s tok)) :
    PC (if c = true then a else b) s (TokPost (fun σ => if c = true then a' σ else b' σ) s tok) := by
  cases c
  · exact hf rfl
  · exact ht rfl

/-- two arms of the model for one clause of the specification -/
theorem pc_tok_ite_bor (hc : c = true → PC a s (TokPost a' s tok)) (hd : c = false → d = true → PC b s (TokPost a' s tok))
    (hf : c = false → d = false → PC r s (TokPost b' s tok)) :
    PC (if c = true then a else if d = true then b else r) s
      (TokPost (fun σ => if (c || d) = true then a' σ else b' σ) s tok) := by
  cases c
  · cases d
    · exact hf rfl rfl
    · exact hd rfl rfl
  · exact hc rfl

/-- one arm of the model for two clauses of the specification -/
theorem pc_tok_bor_ite (hc : c = true → PC a s (TokPost a' s tok)) (hd : c = false → d = true → PC a s (TokPost a'' s tok))
    (hf : c = false → d = false → PC r s (TokPost b' s tok)) :
    PC (if (c || d) = true then a else r) s
      (TokPost (fun σ => if c = true then a' σ else if d = true then a'' σ else b' σ) s tok) := by
  cases c
  · cases d
    · exact hf rfl rfl
    · exact hd rfl rfl
  · exact hc rfl

/-- an arm of the model alone is skipped -/
theorem pc_ite_false {Q : ProcessResult → State → List Call → Prop} (h : c = false) (hb : PC b s Q) :
    PC (if c = true then a else b) s Q := by
  subst h; exact hb

/-- a clause of the specification alone is skipped -/
theorem pc_tok_ite_false (h : c = false) (hb : PC a s (TokPost b' s tok)) :
    PC a s (TokPost (fun σ => if c = true then a' σ else b' σ) s tok) := by
  subst h; exact hb

theorem pc_tok_ite_true (h : c = true) (ha : PC a s (TokPost a' s tok)) :
    PC a s (TokPost (fun σ => if c = true then a' σ else b' σ) s tok) := by
  subst h; exact ha

end Walk

/-! ### an invariant of "reconstruct the active formatting elements" -/

section Recon
open H5V.Spec.TreeAlgo2 (PState Ctx Entry Elem)
variable {N T : Type} [DecidableEq N] (cx : Ctx T) (P : PState N T → Prop)

/-- `P` holds after "reconstruct the active formatting elements" if it holds before and re-creating an entry of the
list keeps it -/
theorem reconstruct_ind
    (step : ∀ (st st1 : PState N T) (i : Nat) (m : N) (tok : T) (el : Elem N), P st →
      st.list[i]? = some (.element m tok) → Spec.TreeAlgo2.insertHtmlElement cx st tok = some (st1, el) →
      P { st1 with list := st1.list.set i (.element el.id tok) })
    {st st' : PState N T} (h0 : P st) (h : Spec.TreeAlgo2.reconstructActiveFormattingElements cx st = some st') :
    P st' := by
  have create : ∀ (n i : Nat) (st st' : PState N T), P st → Spec.TreeAlgo2.reconstructCreate cx n i st = some st' →
      P st' := by
    intro n
    induction n with
    | zero =>
      intro i st st' hp h
      simp only [Spec.TreeAlgo2.reconstructCreate] at h
      cases h; exact hp
    | succ n ih =>
      intro i st st' hp h
      simp only [Spec.TreeAlgo2.reconstructCreate] at h
      cases hl : st.list[i]? with
      | none => rw [hl] at h; cases h
      | some ent =>
        rw [hl] at h
        cases ent with
        | marker => cases h
        | element m tok =>
          simp only at h
          cases hins : Spec.TreeAlgo2.insertHtmlElement cx st tok with
          | none => rw [hins] at h; cases h
          | some r =>
            obtain ⟨st1, el⟩ := r
            rw [hins] at h
            simp only [Option.bind_some] at h
            have hp2 := step st st1 i m tok el hp hl hins
            split at h
            · exact ih _ _ _ hp2 h
            · cases h; exact hp2
  unfold Spec.TreeAlgo2.reconstructActiveFormattingElements at h
  cases hl : st.list.getLast? with
  | none => rw [hl] at h; cases h; exact h0
  | some last =>
    rw [hl] at h
    simp only at h
    split at h
    · cases h; exact h0
    · exact create _ _ _ _ h0 h

end Recon

/-! ### an arm in pieces -/

theorem tag_ne_eof (t : Tag) : Token.tag t ≠ .eof := fun h => Token.noConfusion h

/-- a stretch, then a rule proved on its own from the state reached: the specification's clause `spec`, on the
abstract state before the stretch, is the rule's `specIn` on the one after it -/
theorem pc_tok_after {spec specIn : SState → Spec.TreeModes.M (Step Id)} {s s1 : State} {c1 : List Call}
    {R1 : Aux → Aux → Prop} {tok : Token} {m : M ProcessResult} (htok : tok ≠ .eof) (h1 : Tr s s1 c1 R1)
    (hp : PC m s1 (TokPost specIn s1 tok))
    (hfin : ∀ x x1, AuxOk s x → R1 x x1 → spec (absF s x) = specIn (absF s1 x1)) :
    PC m s1 (fun r s' c => TokPost spec s tok r s' (c1 ++ c)) := by
  intro a s' hr
  obtain ⟨c, he, hq⟩ := hp a s' hr
  refine ⟨c, he, ?_⟩
  have := tokPost_inner (spec := spec) (F := id) htok h1 he hq
    (fun hm2 => (Tr.refl hm2).conseq fun _ _ _ _ h => ⟨h, rfl⟩)
    (fun x x1 x2 hx _ r1 _ e2 _ => (hfin x x1 hx r1).trans e2)
  rwa [List.append_nil] at this

/-! ### steps that several arms share -/

/-- **A comment token** — Insert a comment. -/
theorem pc_comment_tok {s : State} (hm : MInv s) (text : Str) :
    PC (appendComment text) s
      (TokPost (fun σ => Step.done <$> Spec.TreeModes.insertComment σ text) s (.comment text)) := by
  refine pc_conseq (pc_appendComment' hm text) ?_
  rintro r s' calls _ ⟨rfl, htr⟩
  refine tokPost_of_tr htr trivial ?_
  intro x x' hx hx' hr
  refine ⟨x', ?_, AuxSame.rfl', Or.inl rfl, rfl, rfl⟩
  simp only [hr]
  rfl

/-- `self.ignore_lf.set(true)` -/
theorem pc_setIgnoreLf {s : State} (hm : MInv s) :
    PC (modS fun s => { s with ignoreLf := true }) s (fun _ s' calls => s' = { s with ignoreLf := true } ∧
      Tr s s' calls (fun x x' => x' = x ∧ absF s' x' = { absF s x with ignoreLf := true })) := by
  refine pc_modS rfl rfl ⟨rfl, (Tr.of_upd (s' := { s with ignoreLf := true }) hm rfl (fun _ h => h)
    (hm.withIgnoreLf true) rfl).conseq ?_⟩
  intro x x' _ _ h
  subst h
  exact ⟨rfl, rfl⟩

/-- `is_fragment() && html_elem_named(context_elem, "select")` — `Spec.TreeModes.contextIsSelect` -/
theorem pc_contextIsSelect {s : State} (hm : MInv s) (site : String) :
    PC (contextIsSelect site) s (fun b s' calls => b = Spec.TreeModes.contextIsSelect (cfgOf s) ∧
      Tr s s' calls (fun x x' => x' = x ∧ absF s x = absF s' x)) := by
  unfold contextIsSelect
  refine pc_seq (pc_isFragment hm) ?_
  rintro b s1 c1 _ ⟨rfl, rfl, hb, -⟩
  cases hctx : s1.contextElem with
  | none =>
    simp only [hb, hctx, Option.isSome_none, Bool.false_eq_true, if_false]
    refine pc_pure ⟨?_, Tr.refl hm |>.conseq fun x x' _ _ h => ⟨h, rfl⟩⟩
    simp [Spec.TreeModes.contextIsSelect, cfgOf, hctx]
  | some c =>
    simp only [hb, hctx, Option.isSome_some, if_true]
    refine pc_getS_bind ?_
    simp only [hctx]
    refine pc_conseq (pc_of_query hm (tot_htmlElemNamed s1 c "select")) ?_
    rintro b s2 c2 _ ⟨hb2, htr⟩
    refine ⟨?_, by simpa using htr⟩
    rw [hb2]
    simp [Spec.TreeModes.contextIsSelect, cfgOf, hctx]

end H5V.Lemmas.HtmlTBModes
