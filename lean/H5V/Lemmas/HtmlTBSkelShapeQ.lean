import H5V.Lemmas.HtmlTBSkelRun
/-!
C06, second invariant layer: element names, and what the stack-inspecting queries of the
tree-builder model answer (`elem_name`, `html_elem_named`, `current_node…`, `in_scope`, …) as pure
functions of the names of the open elements.  `QS s s'`: a query changed nothing but the trace (and
the parse-error / quirks fields of the arena).
-/
namespace H5V.Props.C06
open H5V.Model.Dom hiding Str
open H5V.Model.HtmlTB hiding Str
open H5V.Lemmas.Dom

/-- the expanded name the sink reports for an element (a dummy for other nodes) -/
def nm (d : Dom) (x : Id) : EName :=
  match d.dataOf x with
  | some (.element n _ _ _) => ⟨n.ns, n.loc⟩
  | _ => ⟨[], []⟩

/-- is `x` the HTML element `name` -/
def isH (d : Dom) (x : Id) (name : String) : Prop := nm d x = ⟨nsHtml, name.toList⟩

theorem nm_of_nodes {d d' : Dom} (h : d'.nodes = d.nodes) (x : Id) : nm d' x = nm d x := by
  unfold nm Dom.dataOf; rw [h]

theorem nm_chg {d d' : Dom} (h : Chg d d') {x : Id} (hx : d.isElement x = true) : nm d' x = nm d x := by
  have hlt := lt_of_isElement hx
  have hs := (h.data x hlt).skel
  unfold nm
  unfold Dom.isElement at hx
  cases h1 : d.dataOf x with
  | none => simp [h1] at hx
  | some v =>
    cases h2 : d'.dataOf x with
    | none => simp [h1, h2] at hs
    | some v' =>
      simp only [h1, h2, Option.map_some, Option.some.injEq] at hs
      cases v <;> simp [h1] at hx
      cases v' <;> simp [skelT] at hs
      simp [hs.1]

theorem elemName_eq_nm {d : Dom} {x : Id} {r : Str × Str} (h : d.elemName x = .ok r) : nm d x = ⟨r.1, r.2⟩ := by
  unfold Dom.elemName at h
  simp only [bind, Except.bind] at h
  cases hg : d.get x with
  | error e => simp [hg] at h
  | ok n =>
    simp only [hg] at h
    unfold nm
    rw [dataOf_of_node (get_ok.mp hg)]
    cases hd : n.data <;> simp [hd, throw, throwThe, MonadExceptOf.throw] at h ⊢
    subst h
    exact ⟨rfl, rfl⟩

/-- a query: only the trace and the error / quirks fields changed -/
structure QS (s s' : State) : Prop where
  nodes : s'.dom.nodes = s.dom.nodes
  rest : s' = { s with dom := s'.dom, traceRev := s'.traceRev }

theorem QS.refl (s : State) : QS s s := ⟨rfl, rfl⟩
theorem QS.trans {a b c : State} (h1 : QS a b) (h2 : QS b c) : QS a c :=
  ⟨h2.nodes.trans h1.nodes, by rw [h2.rest, h1.rest]⟩

theorem QS.openElems {s s' : State} (h : QS s s') : s'.openElems = s.openElems := by rw [h.rest]
theorem QS.mode {s s' : State} (h : QS s s') : s'.mode = s.mode := by rw [h.rest]
theorem QS.af {s s' : State} (h : QS s s') : s'.activeFormatting = s.activeFormatting := by rw [h.rest]
theorem QS.nm {s s' : State} (h : QS s s') (x : Id) : nm s'.dom x = nm s.dom x := nm_of_nodes h.nodes x
theorem QS.same3 {s s' : State} (h : QS s s') : Same3 s s' :=
  ⟨h.nodes, by rw [h.rest], by rw [h.rest], by rw [h.rest], by rw [h.rest], by rw [h.rest], by rw [h.rest],
   by rw [h.rest], by rw [h.rest]⟩

theorem qs_sink {op : SinkOp} [hq : QuietOp op] {s s' : State} {out : Output} (e : sink op s = .ok (out, s')) :
    QS s s' := by
  obtain ⟨d, hd, rfl⟩ := sink_ok.mp e
  exact ⟨hq.h _ _ _ hd, rfl⟩

theorem qs_sinkUnit {op : SinkOp} [QuietOp op] {s s' : State} {u : Unit} (e : sinkUnit op s = .ok (u, s')) : QS s s' := by
  obtain ⟨out, e⟩ := sinkUnit_ok.mp e
  exact qs_sink e

theorem qs_parseError {m : String} {s s' : State} {u : Unit} (e : parseError m s = .ok (u, s')) : QS s s' :=
  qs_sinkUnit e

theorem qs_unexpected {s s' : State} {r : ProcessResult} (e : unexpected s = .ok (r, s')) : QS s s' ∧ r = .done := by
  unfold unexpected at e
  obtain ⟨u, s1, e1, e2⟩ := bind_ok.mp e
  obtain ⟨rfl, rfl⟩ := pure_ok.mp e2
  exact ⟨qs_parseError e1, rfl⟩

/-! ### single-element queries -/

theorem elemName_sem {s s' : State} {h : Id} {n : EName} (e : elemName h s = .ok (n, s')) :
    QS s s' ∧ n = nm s.dom h ∧ s.dom.isElement h = true := by
  have e' := elemName_ok.mp e
  refine ⟨qs_sink e', ?_, elemName_run_isElement e⟩
  obtain ⟨d, hd, _⟩ := sink_ok.mp e'
  have hd' : s.dom.applyV Dom.cloneVariant Dom.beforeSiblingVariant (.elemName h) = .ok (d, .name n.ns n.loc) := hd
  simp only [Dom.applyV, bind, Except.bind] at hd'
  cases he : s.dom.elemName h with
  | error er => simp [he] at hd'
  | ok r =>
    simp [he] at hd'
    rw [elemName_eq_nm he]
    cases n; simp_all

theorem htmlElemNamedS_sem {s s' : State} {h : Id} {name : Str} {b : Bool} (e : htmlElemNamedS h name s = .ok (b, s')) :
    QS s s' ∧ b = ((nm s.dom h).ns == nsHtml && (nm s.dom h).loc == name) ∧ s.dom.isElement h = true := by
  unfold htmlElemNamedS at e
  obtain ⟨n, s1, e1, e2⟩ := bind_ok.mp e
  obtain ⟨q, rfl, hel⟩ := elemName_sem e1
  obtain ⟨rfl, rfl⟩ := pure_ok.mp e2
  exact ⟨q, rfl, hel⟩

theorem htmlElemNamed_sem {s s' : State} {h : Id} {name : String} {b : Bool} (e : htmlElemNamed h name s = .ok (b, s')) :
    QS s s' ∧ b = ((nm s.dom h).ns == nsHtml && (nm s.dom h).loc == name.toList) ∧ s.dom.isElement h = true :=
  htmlElemNamedS_sem e

theorem elemIn_sem {s s' : State} {h : Id} {set : EName → Bool} {b : Bool} (e : elemIn h set s = .ok (b, s')) :
    QS s s' ∧ b = set (nm s.dom h) := by
  unfold elemIn at e
  obtain ⟨n, s1, e1, e2⟩ := bind_ok.mp e
  obtain ⟨q, rfl, _⟩ := elemName_sem e1
  obtain ⟨rfl, rfl⟩ := pure_ok.mp e2
  exact ⟨q, rfl⟩

theorem currentNode_sem {s s' : State} {h : Id} (e : currentNode s = .ok (h, s')) :
    s' = s ∧ s.openElems.getLast? = some h := by
  unfold currentNode at e
  rw [getS_bind] at e
  cases hl : s.openElems.getLast? with
  | none => simp only [hl] at e; exact absurd e panicAt_ok
  | some x =>
    simp only [hl] at e
    obtain ⟨rfl, rfl⟩ := pure_ok.mp e
    exact ⟨rfl, rfl⟩

theorem currentNodeIn_sem {s s' : State} {set : EName → Bool} {b : Bool} (e : currentNodeIn set s = .ok (b, s')) :
    QS s s' ∧ ∃ h, s.openElems.getLast? = some h ∧ b = set (nm s.dom h) := by
  unfold currentNodeIn at e
  obtain ⟨h, s1, e1, e2⟩ := bind_ok.mp e
  obtain ⟨rfl, hl⟩ := currentNode_sem e1
  obtain ⟨n, s2, e3, e4⟩ := bind_ok.mp e2
  obtain ⟨q, rfl, _⟩ := elemName_sem e3
  obtain ⟨rfl, rfl⟩ := pure_ok.mp e4
  exact ⟨q, h, hl, rfl⟩

theorem currentNodeNamedS_sem {s s' : State} {name : Str} {b : Bool} (e : currentNodeNamedS name s = .ok (b, s')) :
    QS s s' ∧ ∃ h, s.openElems.getLast? = some h ∧
      b = ((nm s.dom h).ns == nsHtml && (nm s.dom h).loc == name) := by
  unfold currentNodeNamedS at e
  obtain ⟨h, s1, e1, e2⟩ := bind_ok.mp e
  obtain ⟨rfl, hl⟩ := currentNode_sem e1
  obtain ⟨q, hb, _⟩ := htmlElemNamedS_sem e2
  exact ⟨q, h, hl, hb⟩

theorem currentNodeNamed_sem {s s' : State} {name : String} {b : Bool} (e : currentNodeNamed name s = .ok (b, s')) :
    QS s s' ∧ ∃ h, s.openElems.getLast? = some h ∧
      b = ((nm s.dom h).ns == nsHtml && (nm s.dom h).loc == name.toList) :=
  currentNodeNamedS_sem e

theorem sameNode_sem {s s' : State} {x y : Id} {b : Bool} (e : sameNode x y s = .ok (b, s')) :
    QS s s' ∧ b = (x == y) := by
  unfold sameNode at e
  have e' := sinkBool_ok.mp e
  refine ⟨qs_sink e', ?_⟩
  obtain ⟨d, hd, _⟩ := sink_ok.mp e'
  have hd' : s.dom.applyV Dom.cloneVariant Dom.beforeSiblingVariant (.sameNode x y) = .ok (d, .bool b) := hd
  simp [Dom.applyV, Dom.sameNode] at hd'
  exact hd'.2.symm

/-! ### list queries -/

def isHS (n : EName) (name : Str) : Bool := n.ns == nsHtml && n.loc == name

/-- `in_scope`: the answer `true` means a match with no scope boundary (and no match) above it -/
theorem inScopeLoop_sem (scope : EName → Bool) (pred : Id → M Bool) (p : Id → Bool) (s0 : State)
    (hp : ∀ n s b s', QS s0 s → pred n s = .ok (b, s') → QS s s' ∧ b = p n) :
    ∀ (l : List Id) (s s' : State) (b : Bool), QS s0 s → inScopeLoop scope pred l s = .ok (b, s') →
      QS s s' ∧ (b = true → ∃ pre x post, l = pre ++ x :: post ∧ p x = true ∧
        ∀ y ∈ pre, p y = false ∧ scope (nm s0.dom y) = false)
  | [], s, s', b, _, e => by
    unfold inScopeLoop at e
    obtain ⟨rfl, rfl⟩ := pure_ok.mp e
    exact ⟨QS.refl _, fun h => by cases h⟩
  | x :: rest, s, s', b, q0, e => by
    unfold inScopeLoop at e
    obtain ⟨b1, s1, e1, e2⟩ := bind_ok.mp e
    obtain ⟨q1, hb1⟩ := hp x s b1 s1 q0 e1
    by_cases h1 : b1 = true
    · simp only [h1, if_true] at e2
      obtain ⟨rfl, rfl⟩ := pure_ok.mp e2
      exact ⟨q1, fun _ => ⟨[], x, rest, rfl, by rw [← hb1]; exact h1, by intro y hy; cases hy⟩⟩
    · simp only [h1] at e2
      obtain ⟨n, s2, e3, e4⟩ := bind_ok.mp e2
      obtain ⟨q2, hn, _⟩ := elemName_sem e3
      have hn0 : n = nm s0.dom x := by rw [hn, (q0.trans q1).nm]
      by_cases h2 : scope n = true
      · simp only [h2, if_true] at e4
        obtain ⟨rfl, rfl⟩ := pure_ok.mp e4
        exact ⟨q1.trans q2, fun h => by cases h⟩
      · simp only [h2] at e4
        obtain ⟨q3, hr⟩ := inScopeLoop_sem scope pred p s0 hp rest s2 s' b ((q0.trans q1).trans q2) e4
        refine ⟨(q1.trans q2).trans q3, fun hb => ?_⟩
        obtain ⟨pre, y, post, hl, hy, hpre⟩ := hr hb
        refine ⟨x :: pre, y, post, by rw [hl]; rfl, hy, ?_⟩
        intro z hz
        simp only [List.mem_cons] at hz
        rcases hz with rfl | hz
        · exact ⟨by rw [← hb1]; simpa using h1, by rw [← hn0]; simpa using h2⟩
        · exact hpre z hz

theorem anyHtmlElemNamed_sem (name : String) : ∀ (l : List Id) (s s' : State) (b : Bool),
    anyHtmlElemNamed name l s = .ok (b, s') →
      QS s s' ∧ (b = true ↔ ∃ x ∈ l, isHS (nm s.dom x) name.toList = true)
  | [], s, s', b, e => by
    unfold anyHtmlElemNamed at e
    obtain ⟨rfl, rfl⟩ := pure_ok.mp e
    exact ⟨QS.refl _, by simp⟩
  | x :: rest, s, s', b, e => by
    unfold anyHtmlElemNamed at e
    obtain ⟨b1, s1, e1, e2⟩ := bind_ok.mp e
    obtain ⟨q1, hb1, _⟩ := htmlElemNamed_sem e1
    by_cases h1 : b1 = true
    · simp only [h1, if_true] at e2
      obtain ⟨rfl, rfl⟩ := pure_ok.mp e2
      refine ⟨q1, ?_⟩
      simp only [true_iff]
      exact ⟨x, by simp, by unfold isHS; rw [← hb1]; exact h1⟩
    · simp only [h1] at e2
      obtain ⟨q2, hr⟩ := anyHtmlElemNamed_sem name rest s1 s' b e2
      refine ⟨q1.trans q2, ?_⟩
      rw [hr]
      constructor
      · rintro ⟨y, hy, hn⟩; exact ⟨y, List.mem_cons_of_mem _ hy, by rw [← q1.nm]; exact hn⟩
      · rintro ⟨y, hy, hn⟩
        simp only [List.mem_cons] at hy
        rcases hy with rfl | hy
        · exfalso; apply h1; rw [hb1]; exact hn
        · exact ⟨y, hy, by rw [q1.nm]; exact hn⟩

theorem inHtmlElemNamed_sem {name : String} {s s' : State} {b : Bool} (e : inHtmlElemNamed name s = .ok (b, s')) :
    QS s s' ∧ (b = true ↔ ∃ x ∈ s.openElems, isHS (nm s.dom x) name.toList = true) := by
  unfold inHtmlElemNamed at e
  rw [getS_bind] at e
  exact anyHtmlElemNamed_sem name _ _ _ _ e

/-- `rposition(|n| same_node(n, x))` on a reversed list `l` whose length is `len` -/
theorem rpositionLoop_same_sem (x : Id) (flip : Bool) : ∀ (l : List Id) (len : Nat) (s s' : State) (r : Option Nat),
    rpositionLoop (fun n => if flip then sameNode x n else sameNode n x) l len s = .ok (r, s') →
      QS s s' ∧ (∀ i, r = some i → ∃ pre post, l = pre ++ x :: post ∧ x ∉ pre ∧ i = len - 1 - pre.length) ∧
        (r = none → x ∉ l)
  | [], len, s, s', r, e => by
    unfold rpositionLoop at e
    obtain ⟨rfl, rfl⟩ := pure_ok.mp e
    exact ⟨QS.refl _, ⟨(by intro i h; cases h), (by intro _ h; cases h)⟩⟩
  | y :: rest, len, s, s', r, e => by
    unfold rpositionLoop at e
    obtain ⟨b1, s1, e1, e2⟩ := bind_ok.mp e
    have hq : QS s s1 ∧ b1 = (y == x) := by
      cases flip with
      | true => simp only [if_true] at e1; obtain ⟨q, hb⟩ := sameNode_sem e1; exact ⟨q, by rw [hb]; exact Bool.beq_comm⟩
      | false => simp only [Bool.false_eq_true, if_false] at e1; exact sameNode_sem e1
    obtain ⟨q1, hb1⟩ := hq
    by_cases h1 : b1 = true
    · simp only [h1, if_true] at e2
      obtain ⟨rfl, rfl⟩ := pure_ok.mp e2
      have hyx : y = x := by rw [hb1] at h1; simpa using h1
      subst hyx
      exact ⟨q1, ⟨(by intro i hi; cases hi; exact ⟨[], rest, rfl, by simp, by simp⟩), (by intro h; cases h)⟩⟩
    · simp only [h1] at e2
      have hyx : y ≠ x := by rw [hb1] at h1; simpa using h1
      obtain ⟨q2, hr1, hr2⟩ := rpositionLoop_same_sem x flip rest (len - 1) s1 s' r e2
      refine ⟨q1.trans q2, ?_, ?_⟩
      · intro i hi
        obtain ⟨pre, post, hl, hpre, hidx⟩ := hr1 i hi
        refine ⟨y :: pre, post, by rw [hl]; rfl, ?_, ?_⟩
        · simp only [List.mem_cons, not_or]; exact ⟨Ne.symm hyx, hpre⟩
        · simp only [List.length_cons]; omega
      · intro hn
        simp only [List.mem_cons, not_or]
        exact ⟨Ne.symm hyx, hr2 hn⟩

theorem getElem?_of_reverse_split {l : List Id} {pre post : List Id} {x : Id} (h : l.reverse = pre ++ x :: post) :
    l[l.length - 1 - pre.length]? = some x ∧ l = post.reverse ++ x :: pre.reverse := by
  have hl : l = post.reverse ++ x :: pre.reverse := by
    have := congrArg List.reverse h
    simp only [List.reverse_reverse, List.reverse_append, List.reverse_cons, List.append_assoc] at this
    rw [this]; simp
  refine ⟨?_, hl⟩
  have hlen : l.length = post.length + 1 + pre.length := by rw [hl]; simp; omega
  have hidx : l.length - 1 - pre.length = post.reverse.length := by rw [hlen]; simp
  rw [hidx, hl, List.getElem?_append_right (Nat.le_refl _)]
  simp

/-- `open_elems.iter().rposition(|n| same_node(n, x))`: the index of the topmost occurrence of `x` -/
theorem rposition_same_sem {x : Id} {flip : Bool} {s s' : State} {r : Option Nat}
    (e : rposition (fun n => if flip then sameNode x n else sameNode n x) s = .ok (r, s')) :
    QS s s' ∧ (∀ i, r = some i → s.openElems[i]? = some x ∧ x ∉ s.openElems.drop (i + 1)) ∧
      (r = none → x ∉ s.openElems) := by
  unfold rposition at e
  rw [getS_bind] at e
  obtain ⟨q, h1, h2⟩ := rpositionLoop_same_sem x flip _ _ _ _ _ e
  refine ⟨q, ?_, fun hn => by have := h2 hn; simpa using this⟩
  intro i hi
  obtain ⟨pre, post, hl, hpre, hidx⟩ := h1 i hi
  obtain ⟨hget, hsplit⟩ := getElem?_of_reverse_split hl
  refine ⟨by rw [hidx]; exact hget, ?_⟩
  have hlen : s.openElems.length = post.length + 1 + pre.length := by rw [hsplit]; simp; omega
  have hi' : i + 1 = post.reverse.length + 1 := by simp; omega
  rw [hsplit, hi']
  have : post.reverse ++ x :: pre.reverse = (post.reverse ++ [x]) ++ pre.reverse := by simp
  rw [this, List.drop_left' (by simp)]
  simpa using hpre

/-! ### the class of pure queries -/

/-- `m` changes nothing but the trace / error fields -/
class IsQ {α : Type} (m : M α) : Prop where
  q : ∀ s a s', m s = .ok (a, s') → QS s s'

theorem IsQ.bind {α β : Type} {m : M α} {f : α → M β} (h1 : IsQ m) (h2 : ∀ a, IsQ (f a)) : IsQ (m >>= f) :=
  ⟨fun s b s'' e => by
    obtain ⟨a, s', e1, e2⟩ := bind_ok.mp e
    exact (h1.q _ _ _ e1).trans ((h2 a).q _ _ _ e2)⟩
theorem IsQ.pure {α : Type} (a : α) : IsQ (pure a : M α) :=
  ⟨fun s b s' e => by obtain ⟨_, rfl⟩ := pure_ok.mp e; exact QS.refl _⟩
theorem IsQ.ite {α : Type} {c : Prop} [Decidable c] {a b : M α} (h1 : IsQ a) (h2 : IsQ b) : IsQ (if c then a else b) := by
  by_cases hc : c
  · simp only [hc, if_true]; exact h1
  · simp only [hc, if_false]; exact h2
theorem IsQ.throw {α : Type} (e : String) : IsQ (throw e : M α) := ⟨fun _ _ _ h => absurd h throw_ok⟩

instance {α β : Type} (m : M α) (f : α → M β) [h1 : IsQ m] [h2 : ∀ a, IsQ (f a)] : IsQ (m >>= f) := IsQ.bind h1 h2
instance {α : Type} (a : α) : IsQ (pure a : M α) := IsQ.pure a
instance {α : Type} (c : Prop) [Decidable c] (a b : M α) [h1 : IsQ a] [h2 : IsQ b] : IsQ (if c then a else b) := IsQ.ite h1 h2
instance {α : Type} (e : String) : IsQ (throw e : M α) := IsQ.throw e
instance {α : Type} (c f t : String) : IsQ (panicAt c f t : M α) := IsQ.throw _
instance {α : Type} (w : String) : IsQ (fuelOut w : M α) := IsQ.throw _
instance : IsQ getS := ⟨fun s a s' e => by obtain ⟨_, rfl⟩ := getS_ok.mp e; exact QS.refl _⟩
instance (op : SinkOp) [QuietOp op] : IsQ (sink op) := ⟨fun _ _ _ e => qs_sink e⟩
instance (op : SinkOp) [QuietOp op] : IsQ (sinkUnit op) := ⟨fun _ _ _ e => qs_sinkUnit e⟩
instance (op : SinkOp) [QuietOp op] : IsQ (sinkNode op) :=
  ⟨fun _ _ _ e => qs_sink (sinkNode_ok.mp e)⟩
instance (op : SinkOp) [QuietOp op] : IsQ (sinkBool op) :=
  ⟨fun _ _ _ e => qs_sink (sinkBool_ok.mp e)⟩
instance (m : String) : IsQ (parseError m) := ⟨fun _ _ _ e => qs_parseError e⟩
instance : IsQ unexpected := ⟨fun _ _ _ e => (qs_unexpected e).1⟩
instance (h : Id) : IsQ (elemName h) := ⟨fun _ _ _ e => (elemName_sem e).1⟩
instance (a b : Id) : IsQ (sameNode a b) := ⟨fun _ _ _ e => (sameNode_sem e).1⟩

syntax "q_walk" : tactic
macro_rules
  | `(tactic| q_walk) => `(tactic|
    repeat' (first
      | exact inferInstance
      | with_reducible apply IsQ.bind
      | with_reducible apply IsQ.ite
      | intro _
      | split
      | dsimp only))

instance (h : Id) (n : Str) : IsQ (htmlElemNamedS h n) := by unfold htmlElemNamedS; q_walk
instance (h : Id) (n : String) : IsQ (htmlElemNamed h n) := by unfold htmlElemNamed; infer_instance
instance (h : Id) (set : EName → Bool) : IsQ (elemIn h set) := by unfold elemIn; q_walk
instance : IsQ currentNode := by unfold currentNode; q_walk
instance : IsQ adjustedCurrentNode := by unfold adjustedCurrentNode; q_walk
instance (set : EName → Bool) : IsQ (currentNodeIn set) := by unfold currentNodeIn; q_walk
instance (n : Str) : IsQ (currentNodeNamedS n) := by unfold currentNodeNamedS; q_walk
instance (n : String) : IsQ (currentNodeNamed n) := by unfold currentNodeNamed; infer_instance
instance : IsQ htmlElem := by unfold htmlElem; q_walk
instance : IsQ htmlElemFn := by unfold htmlElemFn; q_walk
instance : IsQ isFragment := by unfold isFragment; q_walk
instance : IsQ pendingTableTextEmpty := by unfold pendingTableTextEmpty; q_walk

theorem isQ_fosterLoop : ∀ (l : List Id), IsQ (fosterLoop l)
  | [] => by unfold fosterLoop; q_walk
  | e :: rest => by haveI := isQ_fosterLoop rest; unfold fosterLoop; q_walk
instance (l : List Id) : IsQ (fosterLoop l) := isQ_fosterLoop l
instance (o : Option Id) : IsQ (appropriatePlaceForInsertion o) := by unfold appropriatePlaceForInsertion; q_walk

theorem isQ_anyHtmlElemNamed (n : String) : ∀ (l : List Id), IsQ (anyHtmlElemNamed n l)
  | [] => by unfold anyHtmlElemNamed; q_walk
  | e :: rest => by haveI := isQ_anyHtmlElemNamed n rest; unfold anyHtmlElemNamed; q_walk
instance (n : String) (l : List Id) : IsQ (anyHtmlElemNamed n l) := isQ_anyHtmlElemNamed n l
instance (n : String) : IsQ (inHtmlElemNamed n) := by unfold inHtmlElemNamed; q_walk

theorem isQ_inScopeLoop (scope : EName → Bool) (pred : Id → M Bool) (hp : ∀ n, IsQ (pred n)) :
    ∀ (l : List Id), IsQ (inScopeLoop scope pred l)
  | [] => by unfold inScopeLoop; q_walk
  | e :: rest => by haveI := isQ_inScopeLoop scope pred hp rest; unfold inScopeLoop; q_walk
instance (scope : EName → Bool) (pred : Id → M Bool) [hp : ∀ n, IsQ (pred n)] (l : List Id) :
    IsQ (inScopeLoop scope pred l) := isQ_inScopeLoop scope pred hp l
instance (scope : EName → Bool) (pred : Id → M Bool) [∀ n, IsQ (pred n)] : IsQ (inScope scope pred) := by
  unfold inScope; q_walk
instance (scope : EName → Bool) (n : Str) : IsQ (inScopeNamedS scope n) := by unfold inScopeNamedS; infer_instance
instance (scope : EName → Bool) (n : String) : IsQ (inScopeNamed scope n) := by unfold inScopeNamed; infer_instance

theorem isQ_checkBodyEndLoop : ∀ (l : List Id), IsQ (checkBodyEndLoop l)
  | [] => by unfold checkBodyEndLoop; q_walk
  | e :: rest => by haveI := isQ_checkBodyEndLoop rest; unfold checkBodyEndLoop; q_walk
instance (l : List Id) : IsQ (checkBodyEndLoop l) := isQ_checkBodyEndLoop l
instance : IsQ checkBodyEnd := by unfold checkBodyEnd; q_walk
instance : IsQ bodyElem := by unfold bodyElem; q_walk

theorem isQ_rpositionLoop (p : Id → M Bool) (hp : ∀ n, IsQ (p n)) : ∀ (l : List Id) (len : Nat), IsQ (rpositionLoop p l len)
  | [], _ => by unfold rpositionLoop; q_walk
  | e :: rest, len => by haveI := fun k => isQ_rpositionLoop p hp rest k; unfold rpositionLoop; q_walk
instance (p : Id → M Bool) [hp : ∀ n, IsQ (p n)] (l : List Id) (len : Nat) : IsQ (rpositionLoop p l len) :=
  isQ_rpositionLoop p hp l len
instance (p : Id → M Bool) [∀ n, IsQ (p n)] : IsQ (rposition p) := by unfold rposition; q_walk

theorem isQ_positionInAFLoop (e : Id) : ∀ (l : List FormatEntry) (i : Nat), IsQ (positionInAFLoop e l i)
  | [], _ => by unfold positionInAFLoop; q_walk
  | .marker :: rest, i => by unfold positionInAFLoop; exact isQ_positionInAFLoop e rest (i + 1)
  | .element h t :: rest, i => by haveI := fun k => isQ_positionInAFLoop e rest k; unfold positionInAFLoop; q_walk
instance (e : Id) (l : List FormatEntry) (i : Nat) : IsQ (positionInAFLoop e l i) := isQ_positionInAFLoop e l i
instance (e : Id) : IsQ (positionInActiveFormatting e) := by unfold positionInActiveFormatting; q_walk

theorem isQ_anySameNodeRev (n : Id) : ∀ (l : List Id), IsQ (anySameNodeRev n l)
  | [] => by unfold anySameNodeRev; q_walk
  | e :: rest => by haveI := isQ_anySameNodeRev n rest; unfold anySameNodeRev; q_walk
instance (n : Id) (l : List Id) : IsQ (anySameNodeRev n l) := isQ_anySameNodeRev n l
instance (e : FormatEntry) : IsQ (isMarkerOrOpen e) := by cases e <;> (unfold isMarkerOrOpen; q_walk)

theorem isQ_reconstructRewind : ∀ (i : Nat), IsQ (reconstructRewind i)
  | 0 => by unfold reconstructRewind; q_walk
  | n + 1 => by haveI := isQ_reconstructRewind n; unfold reconstructRewind; q_walk
instance (i : Nat) : IsQ (reconstructRewind i) := isQ_reconstructRewind i

theorem isQ_endTagSearch (name : Str) : ∀ (l : List Id) (len : Nat), IsQ (endTagSearch name l len)
  | [], _ => by unfold endTagSearch; q_walk
  | e :: rest, len => by haveI := fun k => isQ_endTagSearch name rest k; unfold endTagSearch; q_walk
instance (name : Str) (l : List Id) (len : Nat) : IsQ (endTagSearch name l len) := isQ_endTagSearch name l len

theorem isQ_findFurthestBlock : ∀ (l : List Id) (i : Nat), IsQ (findFurthestBlock l i)
  | [], _ => by unfold findFurthestBlock; q_walk
  | e :: rest, i => by haveI := fun k => isQ_findFurthestBlock rest k; unfold findFurthestBlock; q_walk
instance (l : List Id) (i : Nat) : IsQ (findFurthestBlock l i) := isQ_findFurthestBlock l i

theorem isQ_positionSameNode (x : Id) : ∀ (l : List Id) (i : Nat), IsQ (positionSameNode x l i)
  | [], _ => by unfold positionSameNode; q_walk
  | e :: rest, i => by haveI := fun k => isQ_positionSameNode x rest k; unfold positionSameNode; q_walk
instance (x : Id) (l : List Id) (i : Nat) : IsQ (positionSameNode x l i) := isQ_positionSameNode x l i

theorem isQ_findAInAF : ∀ (l : List (Nat × Id × Tag)), IsQ (findAInAF l)
  | [] => by unfold findAInAF; q_walk
  | (_, n, _) :: rest => by haveI := isQ_findAInAF rest; unfold findAInAF; q_walk
instance (l : List (Nat × Id × Tag)) : IsQ (findAInAF l) := isQ_findAInAF l

theorem isQ_resetLoop : ∀ (l : List Id) (len : Nat), IsQ (resetLoop l len)
  | [], _ => by unfold resetLoop; q_walk
  | e :: rest, len => by haveI := fun k => isQ_resetLoop rest k; unfold resetLoop; q_walk
instance (l : List Id) (len : Nat) : IsQ (resetLoop l len) := isQ_resetLoop l len
instance : IsQ resetInsertionMode := by unfold resetInsertionMode; q_walk
instance (t : Token) : IsQ (isForeign t) := by unfold isForeign; q_walk
instance (tag : Tag) : IsQ (shouldAttachDeclarativeShadow tag) := by unfold shouldAttachDeclarativeShadow; q_walk
instance (content : Str) : IsQ (extractEncoding content) := by unfold extractEncoding; q_walk

theorem isQ_listCloseSearch (list : Bool) : ∀ (l : List Id), IsQ (listCloseSearch list l)
  | [] => by unfold listCloseSearch; q_walk
  | e :: rest => by haveI := isQ_listCloseSearch list rest; unfold listCloseSearch; q_walk
instance (list : Bool) (l : List Id) : IsQ (listCloseSearch list l) := isQ_listCloseSearch list l
theorem isQ_findOption : ∀ (l : List Id), IsQ (findOption l)
  | [] => by unfold findOption; q_walk
  | e :: rest => by haveI := isQ_findOption rest; unfold findOption; q_walk
instance (l : List Id) : IsQ (findOption l) := isQ_findOption l
theorem isQ_anySameNode (x : Id) : ∀ (l : List Id), IsQ (anySameNode x l)
  | [] => by unfold anySameNode; q_walk
  | e :: rest => by haveI := isQ_anySameNode x rest; unfold anySameNode; q_walk
instance (x : Id) (l : List Id) : IsQ (anySameNode x l) := isQ_anySameNode x l
instance (site : String) : IsQ (contextIsSelect site) := by unfold contextIsSelect; q_walk

theorem setModeDone_ok {m : Mode} {res0 res : ProcessResult} {s s' : State}
    (e : (setMode m >>= fun _ => pure res0) s = .ok (res, s')) : res = res0 ∧ s' = { s with mode := m } := by
  obtain ⟨_, s1, e1, e2⟩ := bind_ok.mp e
  obtain ⟨rfl, rfl⟩ := pure_ok.mp e2
  exact ⟨rfl, modS_ok.mp e1⟩

end H5V.Props.C06
