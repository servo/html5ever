import H5V.Lemmas.HtmlTBSplitFlush
/-!
C03 lifted to the tree: **processing a character token in two pieces** (`ptc_add`):
`process_to_completion` on `chars st (x ++ y)` ends, up to `Sim`, like `process_to_completion` on
`chars st x` followed by `process_to_completion` on `chars NotSplit y`.
-/
namespace H5V.Lemmas.TBSplit
open H5V.Model.Dom (Id QualName Attr NodeOrText SinkOp Output ElementFlags QuirksMode Dom)
open H5V.Model.HtmlTok (TagKind RawKind)
open H5V.Model.HtmlTB
open H5V.Lemmas.TBSplitDom

/-! ### `pop_front_char_run` -/

/-- "has whitespace class `w`" -/
def cw (w : Bool) (d : Char) : Bool := isAsciiWhitespace d == w

theorem pop_cons (c : Char) (z : Str) :
    popFrontCharRun (c :: z) = some ((c :: z).takeWhile (cw (isAsciiWhitespace c)), isAsciiWhitespace c,
      (c :: z).dropWhile (cw (isAsciiWhitespace c))) := rfl

theorem valid_cls_iff (w : Bool) (y : Str) : Valid (cls w) y ↔ ∀ c ∈ y, isAsciiWhitespace c = w := by
  cases w <;> exact Iff.rfl

theorem takeWhile_all {p : Char → Bool} {l : Str} (h : ∀ a ∈ l, p a = true) : l.takeWhile p = l := by
  have := List.takeWhile_append_of_pos (l₂ := []) h
  simpa using this

theorem dropWhile_all {p : Char → Bool} {l : Str} (h : ∀ a ∈ l, p a = true) : l.dropWhile p = [] := by
  have := List.dropWhile_append_of_pos (l₂ := []) h
  simpa using this

theorem pop_class {w : Bool} {y : Str} (hy : y ≠ []) (h : ∀ c ∈ y, isAsciiWhitespace c = w) :
    popFrontCharRun y = some (y, w, []) := by
  obtain ⟨c, z, rfl⟩ := List.exists_cons_of_ne_nil hy
  have hc : isAsciiWhitespace c = w := h c (List.mem_cons_self ..)
  have hall : ∀ a ∈ c :: z, cw w a = true := fun a ha => by simp [cw, h a ha]
  rw [pop_cons, hc, takeWhile_all hall, dropWhile_all hall]

/-- the run of `x ++ y` when the run of `x` ends inside `x` -/
theorem pop_append_inner {c : Char} {x' y : Str}
    (hR : (c :: x').dropWhile (cw (isAsciiWhitespace c)) ≠ []) :
    popFrontCharRun (c :: x' ++ y) = some ((c :: x').takeWhile (cw (isAsciiWhitespace c)), isAsciiWhitespace c,
      (c :: x').dropWhile (cw (isAsciiWhitespace c)) ++ y) := by
  show popFrontCharRun (c :: (x' ++ y)) = _
  rw [pop_cons]
  have e : c :: (x' ++ y) = (c :: x') ++ y := rfl
  rw [e, List.takeWhile_append, List.dropWhile_append]
  have hlen : ¬ ((c :: x').takeWhile (cw (isAsciiWhitespace c))).length = (c :: x').length := by
    intro hl
    have := List.takeWhile_append_dropWhile (p := cw (isAsciiWhitespace c)) (l := c :: x')
    have h2 := congrArg List.length this
    rw [List.length_append, hl] at h2
    have : ((c :: x').dropWhile (cw (isAsciiWhitespace c))).length = 0 := by omega
    exact hR (List.length_eq_zero_iff.mp this)
  have hemp : ((c :: x').dropWhile (cw (isAsciiWhitespace c))).isEmpty = false := by
    cases h : (c :: x').dropWhile (cw (isAsciiWhitespace c)) with
    | nil => exact (hR h).elim
    | cons a t => rfl
  rw [if_neg hlen, hemp]
  rfl

/-- the run of `x ++ y` when `x` is a single run -/
theorem pop_append_outer {c : Char} {x' y : Str}
    (hR : (c :: x').dropWhile (cw (isAsciiWhitespace c)) = []) :
    (∀ a ∈ c :: x', isAsciiWhitespace a = isAsciiWhitespace c) ∧
    popFrontCharRun (c :: x' ++ y) = some ((c :: x') ++ y.takeWhile (cw (isAsciiWhitespace c)), isAsciiWhitespace c,
      y.dropWhile (cw (isAsciiWhitespace c))) := by
  have hall : ∀ a ∈ c :: x', cw (isAsciiWhitespace c) a = true := by
    have := List.takeWhile_append_dropWhile (p := cw (isAsciiWhitespace c)) (l := c :: x')
    rw [hR, List.append_nil] at this
    intro a ha
    rw [← this] at ha
    exact H5V.Props.C06.mem_takeWhile_sat _ _ _ ha
  refine ⟨fun a ha => by simpa [cw] using hall a ha, ?_⟩
  show popFrontCharRun (c :: (x' ++ y)) = _
  rw [pop_cons]
  have e : c :: (x' ++ y) = (c :: x') ++ y := rfl
  rw [e, List.takeWhile_append_of_pos hall, List.dropWhile_append_of_pos hall]

/-! ### small relational helpers -/

/-- a `Resp` computation related to itself on a `Good` state -/
theorem relR_self {α : Type} {Q : α → Prop} {m : M α} (h : RespQ Q m) {s : State} (hg : Good s) :
    RelR (fun _ => True) (m s) (m s) := (respQ_resp h) s s hg.sim

/-- from a same-state relation to a relation across `Sim` states -/
theorem relR_lift {α : Type} {m1 m2 : M α} {s t : State} (h : RelR (fun _ => True) (m1 s) (m2 s))
    (h2 : Resp m2) (hst : Sim s t) : RelR (fun _ => True) (m1 s) (m2 t) :=
  h.trans (h2 s t hst)

theorem PTC_resp' (st : SplitStatus) {x : Str} (hx : x ≠ []) : Resp (PTC (.chars st x) []) :=
  PTC_resp ⟨st, x, rfl, hx⟩ (by simp)

theorem PTC2_resp (st st' : SplitStatus) {x y : Str} (hx : x ≠ []) (hy : y ≠ []) :
    Resp (PTC (.chars st x) [] >>= fun _ => PTC (.chars st' y) []) :=
  respQ_bind (P := fun _ => True) (PTC_resp' st hx) (fun _ _ => PTC_resp' st' hy)

/-! ### the second piece -/

/-- not in foreign content (for a character token) -/
def NFor (u : State) : Prop := ∃ tr, isForeignChars u = .ok (false, withTr u tr)

theorem NFor.transfer {s u : State} (h : NFor s) (hq : QSim (sf false s) (sf false u)) : NFor u := by
  obtain ⟨tr, htr⟩ := h
  exact answer_transfer (isForeign_f _) (isForeign_q _) htr hq

theorem Sim.qsimF {s u : State} (h : Sim s u) : QSim (sf false s) (sf false u) := qsim_foster h.qsim false

theorem NFor.of_htmlTop {u : State} (h : HtmlTop u) : NFor u := isForeign_htmlTop h

theorem HtmlTop.of_sim {s u : State} (h : HtmlTop s) (hs : Sim s u) : HtmlTop u := h.of_qsim hs.qsim

/-- a parse error changes nothing that `Sim` sees -/
theorem parseError_sim {w : State} (hg : Good w) (msg : String) :
    ∃ w', parseError msg w = .ok ((), w') ∧ Sim w w' := by
  have hres := parseError_resp msg w w hg.sim
  unfold parseError at hres ⊢
  rw [sinkUnit_apply] at hres ⊢
  have : w.dom.apply (.parseError msg.toList) = .ok (w.dom.parseError msg.toList, .unit) := rfl
  rw [this] at hres ⊢
  exact ⟨_, rfl, hres.2.2⟩

/-- `process_chars_in_table` when the current node is not a table part: parse error, foster parent -/
theorem tablePre_else {u w : State} (hg : Good w) (h : currentNodeIn tableOuterChars u = .ok (false, w)) :
    ∃ u', tablePre u = .ok (.body true, u') ∧ Sim w u' := by
  obtain ⟨w', hw, hs⟩ := parseError_sim hg "Unexpected characters in table"
  refine ⟨w', ?_, hs⟩
  unfold tablePre
  rw [bind_apply, h]
  simp only [Bool.false_eq_true, if_false]
  rw [bind_apply, hw]
  rfl

/-- the second piece in a mode that takes the token whole -/
theorem second_ns {u : State} (hg : Good u) {y : Str} (hy : y ≠ []) (hn : NFor u) {k : CKind}
    (hk : ∀ u', TrEq u u' → ∃ u'', charsPre u.mode .notSplit u' = .ok (k, u'') ∧ Sim u' u'')
    (hfin : finRes k .notSplit y = .done) :
    ∃ u1, Sim u u1 ∧ PTC (.chars .notSplit y) [] u = toCont (charsFin k .notSplit y u1) := by
  obtain ⟨tr, htr⟩ := hn
  obtain ⟨u'', hc, hs⟩ := hk (withTr u tr) ⟨tr, rfl⟩
  have hd : dPre .notSplit u = .ok (k, u'') := by rw [dPre_eval_false _ htr]; exact hc
  exact ⟨u'', (TrEq.sim ⟨tr, rfl⟩ hg).trans hs, PTC_term hg hy hd hfin⟩

/-- the second piece in a mode that splits: `y` is a single run of class `w` -/
theorem second_sp {u : State} (hg : Good u) {y : Str} (hy : y ≠ []) (hn : ∀ u', Sim u u' → NFor u') {k : CKind}
    {w : Bool} (hw : ∀ c ∈ y, isAsciiWhitespace c = w)
    (hsp : ∀ u', charsPre u.mode .notSplit u' = .ok (.split, u'))
    (hk : ∀ u', Sim u u' → ∃ u'', charsPre u.mode (cls w) u' = .ok (k, u'') ∧ Sim u' u'')
    (hfin : finRes k (cls w) y = .done) :
    ∃ u1, Sim u u1 ∧ PTC (.chars .notSplit y) [] u = toCont (charsFin k (cls w) y u1) := by
  obtain ⟨tr, htr⟩ := hn u hg.sim
  have hd : dPre .notSplit u = .ok (.split, withTr u tr) := by rw [dPre_eval_false _ htr]; exact hsp _
  have hsa : Sim u (withTr u tr) := TrEq.sim ⟨tr, rfl⟩ hg
  have hga : Good (withTr u tr) := good_withTr hg tr
  rw [PTC_split hg hy (by simp) hd]
  simp only [KInf, pop_class hy hw, List.length_nil, Nat.lt_irrefl, if_false]
  obtain ⟨tr2, htr2⟩ := hn _ hsa
  have hsb : Sim (withTr u tr) (withTr (withTr u tr) tr2) := TrEq.sim ⟨tr2, rfl⟩ hga
  obtain ⟨u'', hc, hs⟩ := hk (withTr (withTr u tr) tr2) (hsa.trans hsb)
  have hd2 : dPre (cls w) (withTr u tr) = .ok (k, u'') := by rw [dPre_eval_false _ htr2]; exact hc
  exact ⟨u'', (hsa.trans hsb).trans hs, PTC_term hga hy hd2 hfin⟩

/-! ### what the prelude did, for the kinds that are not `Reprocess` -/

theorem unexpected_sim {w : State} (hg : Good w) : ∃ w', unexpected w = .ok (.done, w') ∧ Sim w w' := by
  obtain ⟨w', h1, h2⟩ := parseError_sim hg "Unexpected token"
  refine ⟨w', ?_, h2⟩
  unfold unexpected
  rw [bind_apply, h1]
  rfl

/-- the table prelude answered "foster parent": the current node is not a table part -/
theorem tablePre_inv {sq s0 : State} (hg : Good sq) (h : tablePre sq = .ok (.body true, s0)) :
    (∃ tr, currentNodeIn tableOuterChars sq = .ok (false, withTr sq tr)) ∧ Sim sq s0 := by
  unfold tablePre at h
  obtain ⟨b, w, hb, h⟩ := bind_ok h
  obtain ⟨tr, rfl⟩ := (currentNodeIn_q tableOuterChars).trEq hb
  cases b with
  | true =>
    simp only [if_true] at h
    obtain ⟨st, w1, hgs, h⟩ := bind_ok h
    cases hgs
    split at h
    · obtain ⟨_, w2, h2, h⟩ := bind_ok h
      cases h2
    · obtain ⟨_, w2, _, h⟩ := bind_ok h
      cases h
  | false =>
    simp only [Bool.false_eq_true, if_false] at h
    obtain ⟨_, w1, h1, h⟩ := bind_ok h
    cases h
    obtain ⟨w', hw', hs⟩ := parseError_sim (good_withTr hg tr) "Unexpected characters in table"
    rw [hw'] at h1
    cases h1
    exact ⟨⟨tr, hb⟩, (TrEq.sim ⟨tr, rfl⟩ hg).trans hs⟩

theorem charsPre_sim {m : Mode} {st : SplitStatus} {k : CKind} {sq s0 : State} (hg : Good sq)
    (h : charsPre m st sq = .ok (k, s0)) (hk : ∀ m', k ≠ .re m') : Sim sq s0 := by
  have hk' := ((charsPre_kinds m st).post hg h).1
  cases m <;> cases st <;> simp only [kinds, preShape, List.mem_cons, List.not_mem_nil, or_false] at hk' <;>
    first
    | exact (hk _ hk').elim
    | (simp only [charsPre, preShape, pure_apply, Except.ok.injEq, Prod.mk.injEq] at h; rw [← h.2]; exact hg.sim)
    | (rcases hk' with hk' | hk'
       · exact (hk _ hk').elim
       · subst hk'
         simp only [charsPre, preShape] at h
         exact (tablePre_inv hg h).2)
    | (subst hk'
       simp only [charsPre, preShape, unexpectedThen] at h
       obtain ⟨_, w1, h1, h⟩ := bind_ok h
       cases h
       obtain ⟨w', hw', hs⟩ := unexpected_sim hg
       rw [hw'] at h1
       cases h1
       exact hs)
    | (rcases hk' with hk' | hk'
       · exact (hk _ hk').elim
       · subst hk'
         simp only [charsPre, preShape] at h
         obtain ⟨b, w, hb, h⟩ := bind_ok h
         obtain ⟨tr, rfl⟩ := (currentNodeNamed_q "colgroup").trEq hb
         cases b with
         | true =>
           simp only [if_true] at h
           obtain ⟨_, w1, _, h⟩ := bind_ok h
           cases h
         | false =>
           simp only [Bool.false_eq_true, if_false] at h
           obtain ⟨_, w1, h1, h⟩ := bind_ok h
           cases h
           obtain ⟨w', hw', hs⟩ := unexpected_sim (good_withTr hg tr)
           rw [hw'] at h1
           cases h1
           exact (TrEq.sim ⟨tr, rfl⟩ hg).trans hs)

/-! ### the modes, grouped by what they do with the *next* character token -/

/-- the text-consuming kinds reached from a non-foreign dispatch -/
def Terminal (k : CKind) : Prop := k = .fa ∨ k = .body false ∨ k = .body true ∨ k = .pend

theorem mode_group {m : Mode} {st : SplitStatus} {k : CKind} (hk : k ∈ kinds m st) (ht : Terminal k) :
    (∀ st', charsPre m st' = pure k) ∨
    (∃ w, st = cls w ∧ charsPre m .notSplit = pure .split ∧ charsPre m (cls w) = pure k) ∨
    (k = .body true ∧ ∀ st', charsPre m st' = tablePre) := by
  unfold Terminal at ht
  cases m <;> cases st <;> simp only [kinds, preShape, List.mem_cons, List.not_mem_nil, or_false] at hk <;>
    first
    | (subst hk; simp at ht; done)
    | (subst hk; refine Or.inl ?_; intro st'; cases st' <;> rfl)
    | (subst hk; exact Or.inr (Or.inl ⟨true, rfl, rfl, rfl⟩))
    | (rcases hk with hk | hk <;> subst hk <;>
        first
        | (simp at ht; done)
        | (refine Or.inr (Or.inr ⟨rfl, ?_⟩); intro st'; cases st' <;> rfl))

theorem mode_group_drop {m : Mode} {st : SplitStatus} {k : CKind} (hk : k ∈ kinds m st) (hd : k = .drop) :
    ∃ w, st = cls w ∧ charsPre m .notSplit = pure .split := by
  cases m <;> cases st <;> simp only [kinds, preShape, List.mem_cons, List.not_mem_nil, or_false] at hk <;>
    first
    | (subst hk; simp at hd; done)
    | exact ⟨true, rfl, rfl⟩
    | exact ⟨false, rfl, rfl⟩
    | (rcases hk with hk | hk <;> subst hk <;>
        first
        | (simp at hd; done)
        | exact ⟨false, rfl, rfl⟩)

/-! ### pending table text -/

theorem cns_single (st : SplitStatus) (z : Str) :
    cns [(st, z)] = (match st with | .whitespace => false | .notWhitespace => true | .notSplit => anyNotWhitespace z) := by
  cases st <;> simp [cns]

theorem pend_two {st st' : SplitStatus} {x y : Str} (hx : x ≠ []) (hy : y ≠ []) (hv : Valid st (x ++ y))
    (hst' : st' = .notSplit ∨ st' = st) : PendRel [(st, x ++ y)] [(st, x), (st', y)] := by
  refine ⟨by simp, ?_, ?_, ?_⟩
  · have h2 : cns [(st, x), (st', y)] = (cns [(st, x)] || cns [(st', y)]) := cns_append [(st, x)] [(st', y)]
    rw [h2, cns_single, cns_single, cns_single]
    cases st with
    | notSplit =>
      rcases hst' with rfl | rfl <;> simp [anyNotWhitespace_append]
    | whitespace =>
      have hy' : anyNotWhitespace y = false := anyNotWhitespace_false_of hv.right
      rcases hst' with rfl | rfl <;> simp [hy']
    | notWhitespace => simp
  · intro p hp; simp at hp; subst hp; simp [hx]
  · intro p hp
    simp at hp
    rcases hp with rfl | rfl
    · exact hx
    · exact hy

theorem pend_apply (st : SplitStatus) (z : Str) (s : State) :
    charsFin .pend st z s = .ok (.done, { s with pendingTableText := s.pendingTableText ++ [(st, z)] }) := rfl

/-! ### putting a terminal dispatch together -/

theorem toCont_rel {Q : ProcessResult → Prop} {a b : Except String (ProcessResult × State)} (h : RelR Q a b) :
    RelR (fun _ => True) (toCont a) (toCont b) := by
  rcases h.inv with ⟨_, _, rfl, rfl⟩ | ⟨r, s, t, rfl, rfl, _, hs⟩
  · trivial
  · exact ⟨rfl, trivial, hs⟩

/-- the statement of the main lemma at one state -/
def AddAt (s : State) (st : SplitStatus) (x y : Str) : Prop :=
  RelR (fun _ => True) (PTC (.chars st (x ++ y)) [] s)
    ((PTC (.chars st x) [] >>= fun _ => PTC (.chars .notSplit y) []) s)

theorem term_finish {k : CKind} {st : SplitStatus} {x y : Str} {s s0 : State} (hg : Good s) (hx : x ≠ [])
    (hxy : x ++ y ≠ []) (hd : dPre st s = .ok (k, s0)) (hfin : ∀ st' z, finRes k st' z = .done)
    (hadd : (∀ e, charsFin k st x s0 = .error e → ∃ e', charsFin k st (x ++ y) s0 = .error e') ∧
      (∀ r s1, charsFin k st x s0 = .ok (r, s1) → r = .done ∧ Good s1 ∧ ∀ u st', Sim s1 u →
        (st' = .notSplit ∨ st' = st) → RelR (· = .done) (charsFin k st (x ++ y) s0) (charsFin k st' y u)))
    (hsec : ∀ s1, charsFin k st x s0 = .ok (.done, s1) → ∃ u1 st', Sim s1 u1 ∧ (st' = .notSplit ∨ st' = st) ∧
      PTC (.chars .notSplit y) [] s1 = toCont (charsFin k st' y u1)) :
    AddAt s st x y := by
  unfold AddAt
  rw [PTC_term hg hxy hd (hfin _ _), bind_apply, PTC_term hg hx hd (hfin _ _)]
  cases h1 : charsFin k st x s0 with
  | error e =>
    obtain ⟨e', he'⟩ := hadd.1 e h1
    rw [he']; trivial
  | ok v =>
    obtain ⟨r, s1⟩ := v
    obtain ⟨hr, hg1, hu⟩ := hadd.2 r s1 h1
    subst hr
    simp only [toCont]
    obtain ⟨u1, st', hs, hst', hp⟩ := hsec s1 h1
    rw [hp]
    exact toCont_rel (hu u1 st' hs hst')

/-! ### the terminal cases -/

theorem charsFin_mode {k : CKind} {st : SplitStatus} {z : Str} {s0 s1 : State} {r : ProcessResult}
    (h : charsFin k st z s0 = .ok (r, s1)) : s1.mode = s0.mode := by
  have key : fr s1 = fr s0 ∨ fr s1 = fr { s0 with fosterParenting := false } := by
    cases k with
    | split => cases h; exact Or.inl rfl
    | drop => cases h; exact Or.inl rfl
    | re m => cases h; exact Or.inl rfl
    | fa => exact Or.inl (appendText_keeps z _ _ _ h)
    | ffa =>
      exact Or.inl (keeps_bind (fOk_keeps z) (fun _ => appendText_keeps z) _ _ _ h)
    | body f =>
      cases f
      · exact Or.inl (stepInBody_chars_keeps st z _ _ _ h)
      · exact Or.inr (fosterParentInBody_chars_fr st z h)
    | pend => cases h; exact Or.inl rfl
  rcases key with key | key <;> (simp only [fr, Prod.mk.injEq] at key; exact key.2.2.2.2.2.2.2.2)

theorem finRes_terminal {k : CKind} (h : Terminal k ∨ k = .ffa ∨ k = .drop) (st : SplitStatus) (z : Str) :
    finRes k st z = .done := by
  rcases h with (h | h | h | h) | h | h <;> (subst h; rfl)

/-- the additivity of the four non-foreign terminal kinds, in the shape `term_finish` wants -/
theorem terminal_add {k : CKind} (hk : Terminal k) {st : SplitStatus} {x y : Str} (hx : x ≠ []) (hy : y ≠ [])
    (hv : Valid st (x ++ y)) {s0 : State} (hg0 : Good s0) :
    (∀ e, charsFin k st x s0 = .error e → ∃ e', charsFin k st (x ++ y) s0 = .error e') ∧
    (∀ r s1, charsFin k st x s0 = .ok (r, s1) → r = .done ∧ Good s1 ∧
      ((k = .fa ∨ k = .pend) → QSim s0 s1) ∧ ((k = .body false ∨ k = .body true) → AfterBody s0 s1) ∧
      ∀ u st', Sim s1 u → (st' = .notSplit ∨ st' = st) →
        RelR (· = .done) (charsFin k st (x ++ y) s0) (charsFin k st' y u)) := by
  rcases hk with rfl | rfl | rfl | rfl
  · -- append
    obtain ⟨h1, h2⟩ := fa_add_sim false (x := x) (y := y) hg0
    simp only [FA_false_eq] at h1 h2
    refine ⟨h1, ?_⟩
    intro r s1 hs1
    obtain ⟨hr, hg1, hu⟩ := h2 r s1 hs1
    exact ⟨hr, hg1, (fun _ => (appendText_textStep hs1).qsim), (fun h => by rcases h with h | h <;> cases h),
      (fun u st' hsu _ => hu u hsu)⟩
  · -- in body
    obtain ⟨h1, h2⟩ := body_add_sim (x := x) (y := y) hg0 st
    refine ⟨h1, ?_⟩
    intro r s1 hs1
    obtain ⟨hr, hg1, hab, hu⟩ := h2 r s1 hs1
    exact ⟨hr, hg1, (fun h => by rcases h with h | h <;> cases h), (fun _ => hab), (fun u st' hsu _ => hu u st' hsu)⟩
  · -- in body, foster parented
    obtain ⟨h1, h2⟩ := fbody_add_sim (x := x) (y := y) hg0 st
    refine ⟨h1, ?_⟩
    intro r s1 hs1
    obtain ⟨hr, hg1, hab, hu⟩ := h2 r s1 hs1
    exact ⟨hr, hg1, (fun h => by rcases h with h | h <;> cases h), (fun _ => hab), (fun u st' hsu _ => hu u st' hsu)⟩
  · -- pending table text
    refine ⟨(fun e he => by rw [pend_apply] at he; cases he), ?_⟩
    intro r s1 hs1
    rw [pend_apply] at hs1
    simp only [Except.ok.injEq, Prod.mk.injEq] at hs1
    obtain ⟨rfl, rfl⟩ := hs1
    have hg1 : Good { s0 with pendingTableText := s0.pendingTableText ++ [(st, x)] } :=
      ⟨hg0.af, by
        intro p hp
        rcases List.mem_append.mp hp with hp | hp
        · exact hg0.pend p hp
        · simp at hp; subst hp; exact hx⟩
    refine ⟨rfl, hg1, (fun _ => ⟨s0.mode, s0.origMode, _, s0.framesetOk, s0.ignoreLf, s0.currentLine, s0.traceRev,
      s0.dom, rfl, DQ.refl _⟩), (fun h => by rcases h with h | h <;> cases h), ?_⟩
    intro u st' hsu hst'
    rw [pend_apply, pend_apply]
    refine ⟨rfl, rfl, ?_⟩
    obtain ⟨hi, tr, cl, er, pt, rfl, hp⟩ := hsu
    refine ⟨hi, tr, cl, er, pt ++ [(st', y)], rfl, ?_⟩
    -- `p0 ++ [(st, x ++ y)]` against `pt ++ [(st', y)]` where `p0 ++ [(st, x)]` is related to `pt`
    have h1 : PendRel (s0.pendingTableText ++ [(st, x ++ y)]) (s0.pendingTableText ++ [(st, x), (st', y)]) :=
      (PendRel.rfl' hg0.pend).append (pend_two hx hy hv hst')
    have h2 : PendRel ((s0.pendingTableText ++ [(st, x)]) ++ [(st', y)]) (pt ++ [(st', y)]) :=
      hp.append (PendRel.rfl' (by intro p hp; simp at hp; subst hp; exact hy))
    have e : s0.pendingTableText ++ [(st, x), (st', y)] = (s0.pendingTableText ++ [(st, x)]) ++ [(st', y)] := by simp
    rw [e] at h1
    exact h1.trans h2

theorem good_trEq {s : State} (hg : Good s) (tr : List (SinkOp × Output)) : Sim s (withTr s tr) :=
  TrEq.sim ⟨tr, rfl⟩ hg

/-- **a non-foreign terminal dispatch** -/
theorem term_case {s s0 : State} {st : SplitStatus} {k : CKind} {x y : Str} {tr : List (SinkOp × Output)}
    (hg : Good s) (hx : x ≠ []) (hy : y ≠ []) (hv : Valid st (x ++ y))
    (hf : isForeignChars s = .ok (false, withTr s tr)) (hc : charsPre s.mode st (withTr s tr) = .ok (k, s0))
    (hterm : Terminal k) : AddAt s st x y := by
  have hxy : x ++ y ≠ [] := by simp [hx]
  have hd : dPre st s = .ok (k, s0) := by rw [dPre_eval_false _ hf]; exact hc
  have hgq : Good (withTr s tr) := good_withTr hg tr
  have hkin : k ∈ kinds s.mode st := ((charsPre_kinds s.mode st).post hgq hc).1
  have hnre : ∀ m', k ≠ .re m' := by
    intro m' h; subst h; rcases hterm with h | h | h | h <;> cases h
  have hs0 : Sim (withTr s tr) s0 := charsPre_sim hgq hc hnre
  have hg0 : Good s0 := hs0.symm.good
  have hss0 : Sim s s0 := (good_trEq hg tr).trans hs0
  have hm0 : s0.mode = s.mode := by
    have := charsPre_keeps s.mode st _ _ _ hc
    simp only [fr, Prod.mk.injEq] at this
    exact this.2.2.2.2.2.2.2.2
  obtain ⟨hadd1, hadd2⟩ := terminal_add hterm hx hy hv hg0
  refine term_finish hg hx hxy hd (finRes_terminal (Or.inl hterm)) ⟨hadd1, ?_⟩ ?_
  · intro r s1 h1
    obtain ⟨hr, hg1, _, _, hu⟩ := hadd2 r s1 h1
    exact ⟨hr, hg1, hu⟩
  · intro s1 h1
    obtain ⟨_, hg1, hqa, hqb, _⟩ := hadd2 _ s1 h1
    have hm1 : s1.mode = s.mode := (charsFin_mode h1).trans hm0
    -- what the queries see in `s1`
    have hq : QSim (sf false s) (sf false s1) ∨ HtmlTop s1 := by
      rcases hterm with rfl | rfl | rfl | rfl
      · exact Or.inl (hss0.qsimF.trans (qsim_foster (hqa (Or.inl rfl)) false))
      · rcases hqb (Or.inl rfl) with h | h
        · exact Or.inl (hss0.qsimF.trans h)
        · exact Or.inr h
      · rcases hqb (Or.inr rfl) with h | h
        · exact Or.inl (hss0.qsimF.trans h)
        · exact Or.inr h
      · exact Or.inl (hss0.qsimF.trans (qsim_foster (hqa (Or.inr rfl)) false))
    have hn : ∀ u', Sim s1 u' → NFor u' := by
      intro u' hu'
      rcases hq with h | h
      · exact NFor.transfer ⟨tr, hf⟩ (h.trans hu'.qsimF)
      · exact NFor.of_htmlTop (h.of_sim hu')
    rcases mode_group hkin hterm with hpure | ⟨w, rfl, hsp, hkw⟩ | ⟨rfl, htab⟩
    · -- the mode takes the token whole
      obtain ⟨u1, hs, hp⟩ := second_ns hg1 hy (hn s1 hg1.sim) (k := k)
        (fun u' hu' => ⟨u', by rw [hm1, hpure]; rfl, (hu'.good hg1).sim⟩) (finRes_terminal (Or.inl hterm) _ _)
      exact ⟨u1, .notSplit, hs, Or.inl rfl, hp⟩
    · -- the mode splits; `y` continues the run
      have hyw : ∀ c ∈ y, isAsciiWhitespace c = w := (valid_cls_iff w y).mp hv.right
      obtain ⟨u1, hs, hp⟩ := second_sp hg1 hy hn (k := k) hyw
        (fun u' => by rw [hm1, hsp]; rfl)
        (fun u' hu' => ⟨u', by rw [hm1, hkw]; rfl, hu'.symm.good.sim⟩) (finRes_terminal (Or.inl hterm) _ _)
      exact ⟨u1, cls w, hs, Or.inr rfl, hp⟩
    · -- a table mode: the current node is still not a table part
      have hc' : tablePre (withTr s tr) = .ok (.body true, s0) := by rw [← htab st]; exact hc
      obtain ⟨⟨tr0, hcn0⟩, _⟩ := tablePre_inv hgq hc'
      have hcn : ∀ u', Sim s1 u' → ∃ tr', currentNodeIn tableOuterChars u' = .ok (false, withTr u' tr') := by
        intro u' hu'
        rcases hq with h | h
        · have h2 : QSim (sf false (withTr s tr)) (sf false u') :=
            (qsim_foster (QSim.withTr s tr).symm false).trans (h.trans hu'.qsimF)
          exact answer_transfer (currentNodeIn_f _) (currentNodeIn_q _) hcn0 h2
        · exact currentNodeIn_htmlTop (h.of_sim hu') _ fmt_not_outer
      obtain ⟨u1, hs, hp⟩ := second_ns hg1 hy (hn s1 hg1.sim) (k := .body true)
        (fun u' hu' => by
          obtain ⟨tr', htr'⟩ := hcn u' (hu'.sim hg1)
          obtain ⟨u'', h1', h2'⟩ := tablePre_else (good_withTr (hu'.good hg1) tr') htr'
          exact ⟨u'', by rw [hm1, htab]; exact h1', (good_trEq (hu'.good hg1) tr').trans h2'⟩) rfl
      exact ⟨u1, .notSplit, hs, Or.inl rfl, hp⟩

/-- **a foreign dispatch** -/
theorem foreign_case {s : State} {st : SplitStatus} {x y : Str} {tr : List (SinkOp × Output)}
    (hg : Good s) (hx : x ≠ []) (hy : y ≠ []) (hf : isForeignChars s = .ok (true, withTr s tr)) :
    AddAt s st x y := by
  have hxy : x ++ y ≠ [] := by simp [hx]
  have hd : dPre st s = .ok (.ffa, withTr s tr) := dPre_eval_true _ hf
  have hgq : Good (withTr s tr) := good_withTr hg tr
  obtain ⟨h1, h2⟩ := fa_add_sim true (x := x) (y := y) hgq
  have e : ∀ st' z, charsFin .ffa st' z = FA true z := fun _ _ => rfl
  refine term_finish hg hx hxy hd (fun _ _ => rfl) ⟨?_, ?_⟩ ?_
  · intro e' he'; rw [e] at he' ⊢; exact h1 e' he'
  · intro r s1 hs1
    rw [e] at hs1
    obtain ⟨hr, hg1, hu⟩ := h2 r s1 hs1
    exact ⟨hr, hg1, fun u st' hsu _ => by rw [e, e]; exact hu u hsu⟩
  · intro s1 hs1
    rw [e] at hs1
    obtain ⟨_, hg1, _⟩ := h2 _ s1 hs1
    have hq : QSim s s1 := (QSim.withTr s tr).trans (FA_qsim hs1)
    obtain ⟨tr1, htr1⟩ := (isForeign_q _).transfer hq hf
    have hd1 : dPre .notSplit s1 = .ok (.ffa, withTr s1 tr1) := dPre_eval_true _ htr1
    exact ⟨withTr s1 tr1, .notSplit, good_trEq hg1 tr1, Or.inl rfl, PTC_term hg1 hy hd1 rfl⟩

/-- **a dispatch that ignores the token** -/
theorem drop_case {s s0 : State} {st : SplitStatus} {x y : Str} {tr : List (SinkOp × Output)}
    (hg : Good s) (hx : x ≠ []) (hy : y ≠ []) (hv : Valid st (x ++ y))
    (hf : isForeignChars s = .ok (false, withTr s tr)) (hc : charsPre s.mode st (withTr s tr) = .ok (.drop, s0)) :
    AddAt s st x y := by
  have hxy : x ++ y ≠ [] := by simp [hx]
  have hd : dPre st s = .ok (.drop, s0) := by rw [dPre_eval_false _ hf]; exact hc
  have hgq : Good (withTr s tr) := good_withTr hg tr
  have hkin : CKind.drop ∈ kinds s.mode st := ((charsPre_kinds s.mode st).post hgq hc).1
  have hs0 : Sim (withTr s tr) s0 := charsPre_sim hgq hc (fun m' h => by cases h)
  have hg0 : Good s0 := hs0.symm.good
  have hss0 : Sim s s0 := (good_trEq hg tr).trans hs0
  have hm0 : s0.mode = s.mode := by
    have := charsPre_keeps s.mode st _ _ _ hc
    simp only [fr, Prod.mk.injEq] at this
    exact this.2.2.2.2.2.2.2.2
  obtain ⟨w, rfl, hsp⟩ := mode_group_drop hkin rfl
  have hyw : ∀ c ∈ y, isAsciiWhitespace c = w := (valid_cls_iff w y).mp hv.right
  have hn : ∀ u', Sim s0 u' → NFor u' := fun u' hu' => NFor.transfer ⟨tr, hf⟩ (hss0.trans hu').qsimF
  -- in any state `Sim` to `s0` the prelude drops the run again
  have hkd : ∀ u', Sim s0 u' → ∃ u'', charsPre s0.mode (cls w) u' = .ok (.drop, u'') ∧ Sim u' u'' := by
    intro u' hu'
    have hr := (respQ_resp (charsPre_ok s.mode (cls w))) (withTr s tr) u' (hs0.trans hu')
    rw [hc] at hr
    rw [hm0]
    cases hcu : charsPre s.mode (cls w) u' with
    | error e => rw [hcu] at hr; exact hr.elim
    | ok v =>
      obtain ⟨k', u''⟩ := v
      rw [hcu] at hr
      obtain ⟨hk', _, hsu⟩ := hr
      subst hk'
      exact ⟨u'', rfl, hu'.symm.trans hsu⟩
  obtain ⟨u1, hs, hp⟩ := second_sp hg0 hy hn (k := .drop) hyw (fun u' => by rw [hm0, hsp]; rfl) hkd rfl
  unfold AddAt
  rw [PTC_term hg hxy hd rfl, bind_apply, PTC_term hg hx hd rfl]
  show RelR _ (.ok (.continue_, s0)) (PTC (.chars .notSplit y) [] s0)
  rw [hp]
  exact ⟨rfl, trivial, hs⟩

/-! ### the main induction -/

theorem bind_apply_eq {α β : Type} {m m' : M α} {f : α → M β} {s s' : State} (h : m s = m' s') :
    (m >>= f) s = (m' >>= f) s' := by
  rw [bind_apply, bind_apply, h]

theorem PTC_queue' {s : State} (hg : Good s) {st : SplitStatus} {x z : Str} (hx : x ≠ []) (hst : st ≠ .notSplit)
    (hz : z ≠ []) :
    PTC (.chars st x) [.chars .notSplit z] s = (PTC (.chars st x) [] >>= fun _ => PTC (.chars .notSplit z) []) s :=
  PTC_queue (rank s.mode + 1) s st x _ hg hx hst ⟨.notSplit, z, rfl, hz⟩ (by omega)

theorem cls_ne_notSplit (w : Bool) : cls w ≠ .notSplit := by cases w <;> (intro h; cases h)

theorem mu_chars (s : State) (st : SplitStatus) (z : Str) :
    mu s (.chars st z) [] = 16 * z.length + splitBonus (.chars st z) + rank s.mode := by
  simp [mu, tokLen, totLen]

theorem splitBonus_cls (w : Bool) (z : Str) : splitBonus (.chars (cls w) z) = 0 := by cases w <;> rfl

/-- **processing a character token in two pieces** -/
theorem ptc_add : ∀ (n : Nat) (s : State) (st : SplitStatus) (x y : Str), Good s → x ≠ [] → y ≠ [] →
    Valid st (x ++ y) → mu s (.chars st (x ++ y)) [] < n → AddAt s st x y
  | 0, _, _, _, _, _, _, _, _, h => by omega
  | n + 1, s, st, x, y, hg, hx, hy, hv, hmu => by
    have hxy : x ++ y ≠ [] := by simp [hx]
    cases hd : dPre st s with
    | error e =>
      unfold AddAt
      rw [dPre_error hg hxy (by simp) hd, bind_apply, dPre_error hg hx (by simp) hd]
      trivial
    | ok v =>
      obtain ⟨k, s0⟩ := v
      obtain ⟨hdok, hg0⟩ := dPre_post hg hd
      obtain ⟨tr, hcase⟩ := dPre_inv hd
      rcases hcase with ⟨hf, rfl, rfl⟩ | ⟨hf, hc⟩
      · exact foreign_case hg hx hy hf
      · cases k with
        | fa => exact term_case hg hx hy hv hf hc (Or.inl rfl)
        | pend => exact term_case hg hx hy hv hf hc (Or.inr (Or.inr (Or.inr rfl)))
        | body f =>
          cases f
          · exact term_case hg hx hy hv hf hc (Or.inr (Or.inl rfl))
          · exact term_case hg hx hy hv hf hc (Or.inr (Or.inr (Or.inl rfl)))
        | ffa => exact (((charsPre_ok s.mode st).post (good_withTr hg tr) hc).1).elim
        | drop => exact drop_case hg hx hy hv hf hc
        | re m' =>
          have hk' : rank m' < rank s.mode := hdok
          unfold AddAt
          rw [PTC_re hg hxy (by simp) hd, bind_apply_eq (PTC_re hg hx (by simp) hd)]
          refine ptc_add n { s0 with mode := m' } st x y ⟨hg0.af, hg0.pend⟩ hx hy hv ?_
          rw [mu_chars] at hmu ⊢
          show 16 * (x ++ y).length + splitBonus _ + rank m' < n
          omega
        | split =>
          have hst : st = .notSplit := hdok
          subst hst
          unfold AddAt
          rw [PTC_split hg hxy (by simp) hd, bind_apply_eq (PTC_split hg hx (by simp) hd)]
          obtain ⟨c, x', rfl⟩ := List.exists_cons_of_ne_nil hx
          have hb8 : splitBonus (.chars .notSplit (c :: x' ++ y)) = 8 := rfl
          rw [mu_chars, hb8] at hmu
          have hlen : (c :: x' ++ y).length = (c :: x').length + y.length := List.length_append
          have hyl : 0 < y.length := List.length_pos_iff.mpr hy
          have hr0 := rank_le s0.mode
          by_cases hR : (c :: x').dropWhile (cw (isAsciiWhitespace c)) = []
          · -- `x` is a single run
            obtain ⟨hall, hpop⟩ := pop_append_outer (y := y) hR
            have hallcw : ∀ a ∈ c :: x', cw (isAsciiWhitespace c) a = true := fun a ha => by simp [cw, hall a ha]
            have hpx : popFrontCharRun (c :: x') = some (c :: x', isAsciiWhitespace c, []) := pop_class hx hall
            simp only [KInf, hpop, hpx, List.length_nil, Nat.lt_irrefl, if_false, List.nil_append]
            by_cases hF : y.takeWhile (cw (isAsciiWhitespace c)) = []
            · -- `y` starts a new run
              have hRy : y.dropWhile (cw (isAsciiWhitespace c)) = y := by
                have := List.takeWhile_append_dropWhile (p := cw (isAsciiWhitespace c)) (l := y)
                rw [hF, List.nil_append] at this
                exact this
              rw [hF, hRy, List.append_nil, if_pos hyl, PTC_queue' hg0 hx (cls_ne_notSplit _) hy]
              exact relR_self (PTC2_resp _ _ hx hy) hg0
            · -- `y` continues the run of `x`
              have hFc : ∀ a ∈ y.takeWhile (cw (isAsciiWhitespace c)), isAsciiWhitespace a = isAsciiWhitespace c :=
                fun a ha => by simpa [cw] using H5V.Props.C06.mem_takeWhile_sat _ _ _ ha
              have hvXF : Valid (cls (isAsciiWhitespace c)) (c :: x' ++ y.takeWhile (cw (isAsciiWhitespace c))) := by
                rw [valid_cls_iff]
                intro a ha
                rcases List.mem_append.mp ha with ha | ha
                · exact hall a ha
                · exact hFc a ha
              have hFl : (y.takeWhile (cw (isAsciiWhitespace c))).length + (y.dropWhile (cw (isAsciiWhitespace c))).length
                  = y.length := by
                rw [← List.length_append, List.takeWhile_append_dropWhile]
              have ih1 := ptc_add n s0 (cls (isAsciiWhitespace c)) (c :: x') (y.takeWhile (cw (isAsciiWhitespace c)))
                hg0 hx hF hvXF (by
                  rw [mu_chars, splitBonus_cls, List.length_append]
                  omega)
              unfold AddAt at ih1
              by_cases hRy : y.dropWhile (cw (isAsciiWhitespace c)) = []
              · have hyF : y.takeWhile (cw (isAsciiWhitespace c)) = y := by
                  have := List.takeWhile_append_dropWhile (p := cw (isAsciiWhitespace c)) (l := y)
                  rw [hRy, List.append_nil] at this
                  exact this
                rw [hRy]
                simp only [List.length_nil, Nat.lt_irrefl, if_false]
                rw [hyF] at ih1 ⊢
                exact ih1
              · have hRl : 0 < (y.dropWhile (cw (isAsciiWhitespace c))).length := List.length_pos_iff.mpr hRy
                rw [if_pos hRl]
                have hXF : c :: x' ++ y.takeWhile (cw (isAsciiWhitespace c)) ≠ [] := by simp
                rw [PTC_queue' hg0 hXF (cls_ne_notSplit _) hRy]
                -- A: the run in two pieces, then the rest
                have hA := relR_bind (f := fun _ => PTC (.chars .notSplit (y.dropWhile (cw (isAsciiWhitespace c)))) [])
                  (f' := fun _ => PTC (.chars .notSplit (y.dropWhile (cw (isAsciiWhitespace c)))) []) ih1
                  (fun _ sa ta _ hs => PTC_resp' .notSplit hRy sa ta hs)
                refine hA.trans ?_
                -- B: the second piece in two pieces
                rw [bind_assoc]
                refine relR_bind (relR_self (PTC_resp' _ hx) hg0) ?_
                intro _ sa ta _ hs
                have hgta : Good ta := hs.symm.good
                have ih2 := ptc_add n ta .notSplit (y.takeWhile (cw (isAsciiWhitespace c)))
                  (y.dropWhile (cw (isAsciiWhitespace c))) hgta hF hRy trivial (by
                    rw [mu_chars, List.takeWhile_append_dropWhile]
                    have h8 : splitBonus (.chars .notSplit y) = 8 := rfl
                    have := rank_le ta.mode
                    have hxl : 0 < (c :: x').length := List.length_pos_iff.mpr hx
                    rw [h8]
                    omega)
                unfold AddAt at ih2
                rw [List.takeWhile_append_dropWhile] at ih2
                exact (PTC2_resp _ _ hF hRy sa ta hs).trans ih2.symm
          · -- the first run of `x` ends inside `x`
            have hpop := pop_append_inner (y := y) hR
            have hpx := pop_cons c x'
            have hF1 : (c :: x').takeWhile (cw (isAsciiWhitespace c)) ≠ [] := by
              simp [List.takeWhile, cw]
            have hRl : 0 < ((c :: x').dropWhile (cw (isAsciiWhitespace c))).length := List.length_pos_iff.mpr hR
            have hRyl : 0 < ((c :: x').dropWhile (cw (isAsciiWhitespace c)) ++ y).length := by
              rw [List.length_append]; omega
            have hRy : (c :: x').dropWhile (cw (isAsciiWhitespace c)) ++ y ≠ [] := by
              intro h; rw [h] at hRyl; simp at hRyl
            simp only [KInf, hpop, hpx, if_pos hRl, if_pos hRyl, List.nil_append]
            rw [PTC_queue' hg0 hF1 (cls_ne_notSplit _) hRy,
              bind_apply_eq (PTC_queue' hg0 hF1 (cls_ne_notSplit _) hR), bind_assoc]
            refine relR_bind (relR_self (PTC_resp' _ hF1) hg0) ?_
            intro _ sa ta _ hs
            have hgsa : Good sa := hs.good
            have hFl : ((c :: x').takeWhile (cw (isAsciiWhitespace c))).length +
                ((c :: x').dropWhile (cw (isAsciiWhitespace c))).length = (c :: x').length := by
              rw [← List.length_append, List.takeWhile_append_dropWhile]
            have hF1l : 0 < ((c :: x').takeWhile (cw (isAsciiWhitespace c))).length := List.length_pos_iff.mpr hF1
            have ih := ptc_add n sa .notSplit ((c :: x').dropWhile (cw (isAsciiWhitespace c))) y hgsa hR hy trivial (by
              rw [mu_chars]
              have h8 : splitBonus (.chars .notSplit ((c :: x').dropWhile (cw (isAsciiWhitespace c)) ++ y)) = 8 := rfl
              have := rank_le sa.mode
              rw [h8, List.length_append]
              omega)
            unfold AddAt at ih
            exact relR_lift ih (PTC2_resp _ _ hR hy) hs

end H5V.Lemmas.TBSplit
