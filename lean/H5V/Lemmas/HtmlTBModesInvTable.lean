import H5V.Lemmas.HtmlTBModesInvCell
import H5V.Lemmas.HtmlTBModesInvBodyH
/-!
C02 (insertion modes), the invariant `Good` of the specification's run: the rules of the table modes "in table",
"in table text", "in caption", "in column group", "in table body", and of "in template".
-/
set_option linter.unusedSectionVars false
namespace H5V.Lemmas.ModesInv
open H5V.Spec H5V.Spec.TreeModes
open H5V.Spec.TreeAlgo (Str Name nsHtml nsMathml nsSvg inHtml)
open H5V.Spec.TreeAlgo2 (Elem Entry PState)

section
variable {N : Type} [DecidableEq N]

/-! ### helpers -/

@[simp] theorem clearBackToTable_mode (s : State N) : (clearBackToTable s).mode = s.mode := rfl
@[simp] theorem clearBackToTable_orig (s : State N) : (clearBackToTable s).originalMode = s.originalMode := rfl
@[simp] theorem clearBackToTable_tms (s : State N) : (clearBackToTable s).templateModes = s.templateModes := rfl
@[simp] theorem clearBackToTable_stopped (s : State N) : (clearBackToTable s).stopped = s.stopped := rfl
@[simp] theorem clearBackToTable_list (s : State N) : (clearBackToTable s).p.list = s.p.list := rfl

@[simp] theorem clearBackToTableBody_mode (s : State N) : (clearBackToTableBody s).mode = s.mode := rfl
@[simp] theorem clearBackToTableBody_orig (s : State N) : (clearBackToTableBody s).originalMode = s.originalMode := rfl
@[simp] theorem clearBackToTableBody_tms (s : State N) : (clearBackToTableBody s).templateModes = s.templateModes := rfl
@[simp] theorem clearBackToTableBody_stopped (s : State N) : (clearBackToTableBody s).stopped = s.stopped := rfl
@[simp] theorem clearBackToTableBody_list (s : State N) : (clearBackToTableBody s).p.list = s.p.list := rfl

theorem tb_plain_of_tblOrig {m : IMode} (h : tblOrig m) : plainMode m := by
  rcases h with h | h | h <;> subst h <;> decide

/-- `Step.map` with "disable foster parenting" changes neither the node supply nor the stack -/
theorem tb_map_supply (r : Step N) (b : Bool) :
    (r.map fun s => s.setFoster b).state.p.supply = r.state.p.supply := by
  cases r <;> rfl

theorem tb_map_stack (r : Step N) (b : Bool) :
    (r.map fun s => s.setFoster b).state.p.stack = r.state.p.stack := by
  cases r <;> rfl

theorem tb_post_map {r : Step N} (b : Bool) (h : Post r) : Post (r.map fun s => s.setFoster b) := by
  cases r with
  | done s => exact fun hs => (h hs).same
  | reprocess s => exact ⟨h.1, h.2.same⟩
  | reprocessHtml s => exact h.elim

/-- "anything else" of "in table": "in body" with foster parenting enabled -/
theorem tb_anythingElse (hbody : Keeps (inBody (N := N)) PreBody) {cfg : Config N}
    (hed : cfg.edition = .customizableSelect) {σ : State N} {tok : STok} {r : Step N} (hg : Good σ)
    (hst : σ.stopped = false) (hl : LinkFor σ tok) (hfr : FreshFor σ tok r) (hpre : PreBody σ tok)
    (h : inTableAnythingElse cfg σ tok = .ok r) : Post r := by
  unfold inTableAnythingElse at h
  obtain ⟨r0, h1, h2⟩ := bind_ok h
  cases pure_ok h2
  apply tb_post_map
  refine hbody cfg hed ((σ.err "in table: foster parenting").setFoster true) tok r0 hg.same hst (fun hc => (hl hc).same) (fun hc => ?_) hpre h1
  have := hfr hc
  rw [tb_map_supply] at this
  exact this

/-- "anything else" of "in table" for a character token -/
theorem tb_anythingElse_char {cfg : Config N} {σ : State N} {c : Char} {r : Step N} (haf : AFOk σ.p.list)
    (h : inTableAnythingElse cfg σ (.character c) = .ok r) :
    r.state.mode = σ.mode ∧ r.state.originalMode = σ.originalMode ∧ r.state.templateModes = σ.templateModes ∧
      r.state.stopped = σ.stopped ∧ AFOk r.state.p.list := by
  unfold inTableAnythingElse at h
  obtain ⟨r0, h1, h2⟩ := bind_ok h
  cases pure_ok h2
  obtain ⟨s', rfl, es, l', hu, _, haf'⟩ := inBody_char_eff (σ := (σ.err "in table: foster parenting").setFoster true) haf h1
  refine ⟨hu.mode, hu.orig, hu.tms, hu.stopped, ?_⟩
  show AFOk s'.p.list
  rw [hu.list]; exact haf'

/-- the non-whitespace case of "in table text": the pending characters go through "anything else" of "in table" -/
theorem tb_flush_eff {cfg : Config N} : ∀ (cs : Str) {s s' : State N}, AFOk s.p.list →
    flushPendingFostered cfg cs s = .ok s' →
    s'.mode = s.mode ∧ s'.originalMode = s.originalMode ∧ s'.templateModes = s.templateModes ∧
      s'.stopped = s.stopped ∧ AFOk s'.p.list
  | [], s, s', haf, h => by
    unfold flushPendingFostered at h
    cases pure_ok h
    exact ⟨rfl, rfl, rfl, rfl, haf⟩
  | c :: cs, s, s', haf, h => by
    unfold flushPendingFostered at h
    obtain ⟨r, h1, h2⟩ := bind_ok h
    obtain ⟨a1, a2, a3, a4, a5⟩ := tb_anythingElse_char haf h1
    obtain ⟨b1, b2, b3, b4, b5⟩ := tb_flush_eff cs a5 h2
    exact ⟨b1.trans a1, b2.trans a2, b3.trans a3, b4.trans a4, b5⟩

/-- "reset the insertion mode appropriately" from a state with a good list and good template modes -/
theorem tb_good_reset {cfg : Config N} (hed : cfg.edition = .customizableSelect) {s s' : State N}
    (haf : AFOk s.p.list) (htm : ∀ m ∈ s.templateModes, tmOk m) (h : resetInsertionMode cfg s = .ok s') :
    Good s' ∧ s'.stopped = s.stopped := by
  obtain ⟨m, rfl, hm1, hm2, hm3, hm4, hmc⟩ := resetInsertionMode_eff cfg hed htm h
  refine ⟨?_, rfl⟩
  by_cases hc : m = .inCell
  · exact Good.ofCell hc (hmc hc) haf htm
  · exact Good.plain ⟨hc, hm1, hm2, hm3, hm4⟩ haf htm

theorem tb_tm_switch {l : List IMode} {m : IMode} (h : ∀ x ∈ l, tmOk x) (hm : tmOk m) :
    ∀ x ∈ l.dropLast ++ [m], tmOk x := by
  intro x hx
  rcases List.mem_append.mp hx with hx | hx
  · exact h x (List.dropLast_subset l hx)
  · simp only [List.mem_singleton] at hx
    subst hx; exact hm

/-! ### "in table" -/

/-- clear the stack back to a table context, (insert a marker,) insert an element, switch to the plain mode `m`,
answer `k` -/
theorem tb_ins {σ : State N} (hg : Good σ) (hst : σ.stopped = false) {m : IMode} {t' : Tag} {s0 : State N}
    {k : State N → Step N} {r : Step N} (hp : plainMode m) (h1 : s0.templateModes = σ.templateModes)
    (h2 : s0.stopped = σ.stopped) (h3 : AFOk s0.p.list)
    (h : (insertHtml' s0 t' >>= fun s => pure (k (s.setMode m))) = .ok r) :
    ∃ s, r = k s ∧ s.stopped = false ∧ Good s := by
  obtain ⟨s1, hi, hr⟩ := bind_ok h
  obtain ⟨e, _, _, hu, _⟩ := insertHtml'_eff hi
  refine ⟨_, (pure_ok hr).symm, ?_, Good.plain hp ?_ ?_⟩
  · rw [setMode_stopped, hu.stopped, h2]; exact hst
  · rw [setMode_p, hu.list]; exact h3
  · rw [setMode_tms, hu.tms, h1]; exact hg.tm

/-- pop until a `table` has been popped, reset the insertion mode -/
theorem tb_reset {cfg : Config N} (hed : cfg.edition = .customizableSelect) {σ : State N} (hg : Good σ)
    (hst : σ.stopped = false) {w : String} {s1 : State N}
    (h1 : resetInsertionMode cfg (popUntilPopped (σ.err w) "table") = .ok s1) : s1.stopped = false ∧ Good s1 := by
  obtain ⟨a, b⟩ := tb_good_reset hed (s := popUntilPopped (σ.err w) "table") hg.af hg.tm h1
  exact ⟨b.trans hst, a⟩

/-- the hypotheses of the parts of `keeps_inTable` -/
structure TbCtx (cfg : Config N) (σ : State N) (tok : STok) (r : Step N) : Prop where
  ed : cfg.edition = .customizableSelect
  good : Good σ
  live : σ.stopped = false
  pre : tblOrig σ.mode
  ae : inTableAnythingElse cfg σ tok = .ok r → Post r
  head : inHead cfg σ tok = .ok r → Post r

theorem tb_inTable_start {cfg : Config N} {σ : State N} {t : Tag} {r : Step N} (hc : TbCtx cfg σ (.startTag t) r)
    (h : inTable cfg σ (.startTag t) = .ok r) : Post r := by
  have hg := hc.good
  have hst := hc.live
  unfold inTable at h
  dsimp only at h
  rcases ite_cases h with ⟨_, h⟩ | ⟨_, h⟩
  · -- caption
    obtain ⟨s, rfl, _, b⟩ := tb_ins hg hst (s0 := (clearBackToTable σ).insertMarker) (by decide) rfl rfl hg.af.marker h
    exact fun _ => b
  rcases ite_cases h with ⟨_, h⟩ | ⟨_, h⟩
  · -- colgroup
    obtain ⟨s, rfl, _, b⟩ := tb_ins hg hst (s0 := clearBackToTable σ) (by decide) rfl rfl hg.af h
    exact fun _ => b
  rcases ite_cases h with ⟨_, h⟩ | ⟨_, h⟩
  · -- col
    obtain ⟨s, rfl, ab⟩ := tb_ins hg hst (s0 := clearBackToTable σ) (by decide) rfl rfl hg.af h
    exact ab
  rcases ite_cases h with ⟨_, h⟩ | ⟨_, h⟩
  · -- tbody, tfoot, thead
    obtain ⟨s, rfl, _, b⟩ := tb_ins hg hst (s0 := clearBackToTable σ) (by decide) rfl rfl hg.af h
    exact fun _ => b
  rcases ite_cases h with ⟨_, h⟩ | ⟨_, h⟩
  · -- td, th, tr
    obtain ⟨s, rfl, ab⟩ := tb_ins hg hst (s0 := clearBackToTable σ) (by decide) rfl rfl hg.af h
    exact ab
  rcases ite_cases h with ⟨_, h⟩ | ⟨_, h⟩
  · -- table
    rcases ite_cases h with ⟨_, h⟩ | ⟨_, h⟩
    · exact post_ignore hg h
    · obtain ⟨s1, h1, rfl⟩ := map_ok h
      exact tb_reset hc.ed hg hst h1
  rcases ite_cases h with ⟨_, h⟩ | ⟨_, h⟩
  · -- style, script, template
    exact hc.head h
  rcases ite_cases h with ⟨_, h⟩ | ⟨_, h⟩
  · -- input
    rcases ite_cases h with ⟨_, h⟩ | ⟨_, h⟩
    · exact hc.ae h
    · exact post_insert hg.same h fun h => (insertVoid_eff h).2
  rcases ite_cases h with ⟨_, h⟩ | ⟨_, h⟩
  · -- form
    rcases ite_cases h with ⟨_, h⟩ | ⟨_, h⟩
    · exact post_ignore hg h
    · obtain ⟨⟨s1, e⟩, h1, h2⟩ := bind_ok h
      cases pure_ok h2
      obtain ⟨_, _, hu, _⟩ := insertHtml_eff h1
      exact fun _ => hg.toPlain (hu.mode ▸ tb_plain_of_tblOrig hc.pre :) hu.tms hu.list
  exact hc.ae h

theorem tb_inTable_end {cfg : Config N} {σ : State N} {t : Tag} {r : Step N} (hc : TbCtx cfg σ (.endTag t) r)
    (h : inTable cfg σ (.endTag t) = .ok r) : Post r := by
  have hg := hc.good
  unfold inTable at h
  dsimp only at h
  rcases ite_cases h with ⟨_, h⟩ | ⟨_, h⟩
  · rcases ite_cases h with ⟨_, h⟩ | ⟨_, h⟩
    · exact post_ignore hg h
    · obtain ⟨s1, h1, rfl⟩ := map_ok h
      exact fun _ => (tb_good_reset hc.ed (s := popUntilPopped σ "table") hg.af hg.tm h1).1
  rcases ite_cases h with ⟨_, h⟩ | ⟨_, h⟩
  · exact post_ignore hg h
  rcases ite_cases h with ⟨_, h⟩ | ⟨_, h⟩
  · exact hc.head h
  · exact hc.ae h

theorem keeps_inTable (hbody : Keeps (inBody (N := N)) PreBody) (hhead : Keeps0 (inHead (N := N)) PreHead) :
    Keeps (inTable (N := N)) PreTable := by
  intro cfg hed σ tok r hg hst hl hfr hpre h
  have hpre : tblOrig σ.mode := hpre
  have hplain : plainMode σ.mode := tb_plain_of_tblOrig hpre
  have hpb : PreBody σ tok := ⟨hplain.2.1, hplain.2.2.1, fun hc => absurd hc hplain.1⟩
  have hae : inTableAnythingElse cfg σ tok = .ok r → Post r := fun h =>
    tb_anythingElse hbody hed hg hst hl hfr hpb h
  have hhead' : inHead cfg σ tok = .ok r → Post r := fun h =>
    hhead cfg hed σ tok r hg hst ⟨hplain.2.1, hplain.2.2.1⟩ h
  have hc : TbCtx cfg σ tok r := ⟨hed, hg, hst, hpre, hae, hhead'⟩
  cases tok with
  | character c =>
    unfold inTable at h
    dsimp only at h
    rcases ite_cases h with ⟨hcur, h⟩ | ⟨_, h⟩
    · cases pure_ok h
      exact ⟨hst, Good.mk (fun hc => (by cases hc)) (fun hc => (by cases hc)) (fun _ => ⟨hpre, Or.inl hcur⟩)
        ⟨(by intro hc; cases hc), (by intro hc; cases hc)⟩ hg.af hg.tm⟩
    · exact hae h
  | comment d =>
    unfold inTable at h
    exact post_insert hg h insertComment_eff
  | doctype _ _ _ _ =>
    unfold inTable at h
    exact post_ignore hg h
  | startTag t => exact tb_inTable_start hc h
  | endTag t => exact tb_inTable_end hc h
  | eof =>
    unfold inTable at h
    exact hbody cfg hed σ _ r hg hst hl hfr hpb h

/-! ### "in table text" -/

theorem keeps_inTableText : Keeps (inTableText (N := N)) (PreMode .inTableText) := by
  intro cfg hed σ tok r hg hst hl hfr hm h
  have hm : σ.mode = .inTableText := hm
  have htbl : tblOrig σ.originalMode := (hg.ttext hm).1
  -- "anything else"
  have hae : ∀ {s1 : State N}, s1.originalMode = σ.originalMode ∧ s1.templateModes = σ.templateModes ∧
      s1.stopped = σ.stopped ∧ AFOk s1.p.list → Post (.reprocess (s1.setMode s1.originalMode)) := by
    intro s1 ⟨h1, h2, h3, h4⟩
    exact ⟨h3.trans hst, Good.plain (h1 ▸ tb_plain_of_tblOrig htbl :) h4 (h2 ▸ hg.tm :)⟩
  unfold inTableText at h
  cases tok with
  | character c =>
    dsimp only at h
    rcases ite_cases h with ⟨_, h⟩ | ⟨_, h⟩
    · exact post_ignore hg h
    · exact post_ignore hg h
  | _ =>
    dsimp only at h
    rcases ite_cases h with ⟨_, h⟩ | ⟨_, h⟩
    · exact post_bind h fun s1 h1 => hae (tb_flush_eff (s := σ.err "in table text: non-whitespace") _ hg.af h1).2
    · obtain ⟨s1, h1, h2⟩ := bind_ok h
      cases pure_ok h2
      have hu := insertChars_eff h1
      exact hae ⟨hu.orig, hu.tms, hu.stopped, hu.list ▸ hg.af⟩

/-! ### "in caption" -/

theorem tb_closeCaption {σ s' : State N} (hg : Good σ) (h : closeCaption σ = some s') :
    Good s' ∧ s'.stopped = σ.stopped := by
  unfold closeCaption at h
  rcases ite_cases h with ⟨_, h⟩ | ⟨_, h⟩
  · cases h
  · cases Option.some.inj h
    refine ⟨Good.plain' (m := .inTable) rfl (by decide) ?_ ?_, ?_⟩
    · simp only [setMode_p, clearToLastMarker_list, popUntilPopped_list, iteErr_p, genImplied_list]
      exact hg.af.clear
    · simp only [setMode_tms, clearToLastMarker_tms, popUntilPopped_tms, iteErr_tms, genImplied_tms]
      exact hg.tm
    · simp only [setMode_stopped, clearToLastMarker_stopped, popUntilPopped_stopped, iteErr_stopped, genImplied_stopped]

theorem keeps_inCaption (hbody : Keeps (inBody (N := N)) PreBody) : Keeps (inCaption (N := N)) (PreMode .inCaption) := by
  intro cfg hed σ tok r hg hst hl hfr hm h
  have hm : σ.mode = .inCaption := hm
  have hbody' := hbody.body hed hg hst hl hfr hm (by decide)
  -- the steps of `closeCaption`, the token then ignored (`k = .done`) or reprocessed
  have hcc : ∀ {w : String} {k : State N → Step N}, (∀ s, Post (.reprocess s) → Post (k s)) →
      (match closeCaption σ with
        | none => pure (.done (σ.err w))
        | some s => pure (k s) : M (Step N)) = .ok r → Post r := by
    intro w k hk h
    cases hcc : closeCaption σ with
    | none => rw [hcc] at h; exact post_ignore hg h
    | some s' =>
      rw [hcc] at h
      cases pure_ok h
      obtain ⟨a, b⟩ := tb_closeCaption hg hcc
      exact hk _ ⟨b.trans hst, a⟩
  unfold inCaption at h
  cases tok with
  | endTag t =>
    dsimp only at h
    rcases ite_cases h with ⟨_, h⟩ | ⟨_, h⟩
    · exact hcc (k := .done) (fun _ h _ => h.2) h
    rcases ite_cases h with ⟨_, h⟩ | ⟨_, h⟩
    · exact hcc (k := .reprocess) (fun _ h => h) h
    rcases ite_cases h with ⟨_, h⟩ | ⟨_, h⟩
    · exact post_ignore hg h
    · exact hbody' h
  | startTag t =>
    dsimp only at h
    rcases ite_cases h with ⟨_, h⟩ | ⟨_, h⟩
    · exact hcc (k := .reprocess) (fun _ h => h) h
    · exact hbody' h
  | character c => exact hbody' h
  | comment d => exact hbody' h
  | doctype _ _ _ _ => exact hbody' h
  | eof => exact hbody' h

/-! ### "in column group" -/

theorem keeps_inColumnGroup (hbody : Keeps (inBody (N := N)) PreBody) (hhead : Keeps0 (inHead (N := N)) PreHead) :
    Keeps (inColumnGroup (N := N)) (PreMode .inColumnGroup) := by
  intro cfg hed σ tok r hg hst hl hfr hm h
  have hm : σ.mode = .inColumnGroup := hm
  have hbody' := hbody.body hed hg hst hl hfr hm (by decide)
  have hhead' := hhead.head (tok := tok) (r := r) hed hg hst hm (by decide)
  have hpop : Good (σ.pop.setMode .inTable) := hg.toPlain' (m := .inTable) rfl (by decide)
  -- "anything else"
  have hae : (if (!σ.curIs "colgroup") = true then
        pure (Step.done (σ.err "in column group: current node is not colgroup"))
      else pure (Step.reprocess (σ.pop.setMode .inTable)) : M (Step N)) = .ok r → Post r := by
    intro h
    rcases ite_cases h with ⟨_, h⟩ | ⟨_, h⟩
    · exact post_ignore hg h
    · cases pure_ok h; exact ⟨hst, hpop⟩
  unfold inColumnGroup at h
  cases tok with
  | character c =>
    dsimp only at h
    rcases ite_cases h with ⟨_, h⟩ | ⟨_, h⟩
    · exact post_insert hg h insertChar_eff
    · exact hae h
  | comment d => exact post_insert hg h insertComment_eff
  | doctype _ _ _ _ => exact post_ignore hg h
  | startTag t =>
    dsimp only at h
    rcases ite_cases h with ⟨_, h⟩ | ⟨_, h⟩
    · exact hbody' h
    rcases ite_cases h with ⟨_, h⟩ | ⟨_, h⟩
    · exact post_insert hg h fun h => (insertVoid_eff h).2
    rcases ite_cases h with ⟨_, h⟩ | ⟨_, h⟩
    · exact hhead' h
    · exact hae h
  | endTag t =>
    dsimp only at h
    rcases ite_cases h with ⟨_, h⟩ | ⟨_, h⟩
    · rcases ite_cases h with ⟨_, h⟩ | ⟨_, h⟩
      · exact post_ignore hg h
      · cases pure_ok h; exact fun _ => hpop
    rcases ite_cases h with ⟨_, h⟩ | ⟨_, h⟩
    · exact post_ignore hg h
    rcases ite_cases h with ⟨_, h⟩ | ⟨_, h⟩
    · exact hhead' h
    · exact hae h
  | eof => exact hbody' h

/-! ### "in table body" -/

theorem keeps_inTableBody (htable : Keeps (inTable (N := N)) PreTable) :
    Keeps (inTableBody (N := N)) (PreMode .inTableBody) := by
  intro cfg hed σ tok r hg hst hl hfr hm h
  have hm : σ.mode = .inTableBody := hm
  have htable' : inTable cfg σ tok = .ok r → Post r := fun h =>
    htable cfg hed σ tok r hg hst hl hfr (Or.inr (Or.inl hm)) h
  have hclose : Good ((clearBackToTableBody σ).pop.setMode .inTable) :=
    hg.toPlain' (m := .inTable) rfl (by decide)
  -- `closeBody`
  have hcb : (if (!hasAnyInTableScope σ ["tbody", "thead", "tfoot"]) = true then
        pure (Step.done (σ.err "in table body: no tbody/thead/tfoot in table scope"))
      else pure (Step.reprocess ((clearBackToTableBody σ).pop.setMode .inTable)) : M (Step N)) = .ok r → Post r := by
    intro h
    rcases ite_cases h with ⟨_, h⟩ | ⟨_, h⟩
    · exact post_ignore hg h
    · cases pure_ok h; exact ⟨hst, hclose⟩
  unfold inTableBody at h
  cases tok with
  | startTag t =>
    dsimp only at h
    rcases ite_cases h with ⟨_, h⟩ | ⟨_, h⟩
    · obtain ⟨s, rfl, _, b⟩ := tb_ins hg hst (s0 := clearBackToTableBody σ) (by decide) rfl rfl hg.af h
      exact fun _ => b
    rcases ite_cases h with ⟨_, h⟩ | ⟨_, h⟩
    · obtain ⟨s, rfl, ab⟩ := tb_ins hg hst (s0 := clearBackToTableBody (σ.err _)) (by decide) rfl rfl hg.af h
      exact ab
    rcases ite_cases h with ⟨_, h⟩ | ⟨_, h⟩
    · exact hcb h
    · exact htable' h
  | endTag t =>
    dsimp only at h
    rcases ite_cases h with ⟨_, h⟩ | ⟨_, h⟩
    · rcases ite_cases h with ⟨_, h⟩ | ⟨_, h⟩
      · exact post_ignore hg h
      · cases pure_ok h; exact fun _ => hclose
    rcases ite_cases h with ⟨_, h⟩ | ⟨_, h⟩
    · exact hcb h
    rcases ite_cases h with ⟨_, h⟩ | ⟨_, h⟩
    · exact post_ignore hg h
    · exact htable' h
  | character c => exact htable' h
  | comment d => exact htable' h
  | doctype _ _ _ _ => exact htable' h
  | eof => exact htable' h

/-! ### "in template" -/

instance (m : IMode) : Decidable (tmOk m) := by unfold tmOk; infer_instance

theorem keeps_inTemplate (hbody : Keeps (inBody (N := N)) PreBody) (hhead : Keeps0 (inHead (N := N)) PreHead) :
    Keeps (inTemplate (N := N)) (PreMode .inTemplate) := by
  intro cfg hed σ tok r hg hst hl hfr hm h
  have hm : σ.mode = .inTemplate := hm
  have hbody' := hbody.body hed hg hst hl hfr hm (by decide)
  have hhead' := hhead.head (tok := tok) (r := r) hed hg hst hm (by decide)
  -- `switchTo m`
  have hsw : ∀ (m : IMode), plainMode m → tmOk m →
      (pure (Step.reprocess { σ with templateModes := σ.templateModes.dropLast ++ [m], mode := m }) : M (Step N)) = .ok r →
      Post r := by
    intro m hp hm h
    cases pure_ok h
    exact ⟨hst, Good.plain hp hg.af (tb_tm_switch hg.tm hm)⟩
  unfold inTemplate at h
  cases tok with
  | character c => exact hbody' h
  | comment d => exact hbody' h
  | doctype _ _ _ _ => exact hbody' h
  | startTag t =>
    dsimp only at h
    rcases ite_cases h with ⟨_, h⟩ | ⟨_, h⟩
    · exact hhead' h
    rcases ite_cases h with ⟨_, h⟩ | ⟨_, h⟩
    · exact hsw .inTable (by decide) (by decide) h
    rcases ite_cases h with ⟨_, h⟩ | ⟨_, h⟩
    · exact hsw .inColumnGroup (by decide) (by decide) h
    rcases ite_cases h with ⟨_, h⟩ | ⟨_, h⟩
    · exact hsw .inTableBody (by decide) (by decide) h
    rcases ite_cases h with ⟨_, h⟩ | ⟨_, h⟩
    · exact hsw .inRow (by decide) (by decide) h
    · exact hsw .inBody (by decide) (by decide) h
  | endTag t =>
    dsimp only at h
    rcases ite_cases h with ⟨_, h⟩ | ⟨_, h⟩
    · exact hhead' h
    · exact post_ignore hg h
  | eof =>
    exact post_inTemplateEof ⟨hed, hg, hst, by rw [hm]; decide, by rw [hm]; decide⟩ h

end
end H5V.Lemmas.ModesInv
