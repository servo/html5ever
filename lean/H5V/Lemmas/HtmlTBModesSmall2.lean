import H5V.Lemmas.HtmlTBModesPrimIns
import H5V.Lemmas.HtmlTBModesPrimPop
import H5V.Lemmas.HtmlTBModesSmall
/-!
The small insertion modes: "after frameset", "after after frameset", "after after body", "after body",
"in frameset" — `ModeSim` and `ModeCharSim`.
-/
namespace H5V.Lemmas.HtmlTBModes
open H5V.Model.HtmlTB
open H5V.Model.Dom (Id SinkOp Output Dom QualName Attr NodeOrText ElementFlags NodeData QuirksMode)
open H5V.Lemmas.HtmlTBAlgo
open H5V.Lemmas.TBSafe (TI HInv SInv Rooted)
open H5V.Spec.TreeAlgo2 (Elem Entry PState Ctx Edit Place)
open H5V.Spec.TreeModes (STok ETok IMode Config Out TokSwitch XOp Op Step Edition)

/-! ### the bridge: `byModeDev` in the five modes -/

section Bridge
variable {cfg : Config Id} {σ : SState}

theorem byModeDev_afterFrameset (h : σ.mode = .afterFrameset) (tok : STok) :
    byModeDev cfg σ tok = Spec.TreeModes.afterFrameset cfg σ tok := by
  simp [byModeDev, h, Spec.TreeModes.byMode]

theorem byModeDev_afterAfterFrameset (h : σ.mode = .afterAfterFrameset) (tok : STok) :
    byModeDev cfg σ tok = Spec.TreeModes.afterAfterFrameset cfg σ tok := by
  simp [byModeDev, h, Spec.TreeModes.byMode]

theorem byModeDev_afterAfterBody (h : σ.mode = .afterAfterBody) (tok : STok) :
    byModeDev cfg σ tok = Spec.TreeModes.afterAfterBody cfg σ tok := by
  simp [byModeDev, h, Spec.TreeModes.byMode]

theorem byModeDev_afterBody (h : σ.mode = .afterBody) (tok : STok) :
    byModeDev cfg σ tok = Spec.TreeModes.afterBody cfg σ tok := by
  simp [byModeDev, h, Spec.TreeModes.byMode]

theorem byModeDev_inFrameset (h : σ.mode = .inFrameset) (tok : STok) :
    byModeDev cfg σ tok = Spec.TreeModes.inFrameset cfg σ tok := by
  simp [byModeDev, h, Spec.TreeModes.byMode]

/-- the dispatcher on a character, when the adjusted current node asks for the HTML rules -/
theorem dispatchDev_char_html (hu : Spec.TreeAlgo.useHtmlRules (Spec.TreeModes.adjustedCurrentNode cfg σ) .character = true)
    (c : Char) : dispatchDev cfg σ (.character c) = byModeDev cfg σ (.character c) := by
  simp [dispatchDev, Spec.TreeModes.tokenKind, hu]

/-- the adjusted current node depends on the stack and the list of integration points only -/
theorem adjustedCurrentNode_congr {σ1 : SState} (h1 : σ1.p.stack = σ.p.stack) (h2 : σ1.annotationHtml = σ.annotationHtml) :
    Spec.TreeModes.adjustedCurrentNode cfg σ1 = Spec.TreeModes.adjustedCurrentNode cfg σ := by
  unfold Spec.TreeModes.adjustedCurrentNode Spec.TreeModes.openElem
  rw [h1, h2]

end Bridge

/-- what the dispatcher looks at is the same in two abstract states -/
structure SameDisp (σ σ1 : SState) : Prop where
  stack : σ1.p.stack = σ.p.stack
  annot : σ1.annotationHtml = σ.annotationHtml
  mode : σ1.mode = σ.mode
  stopped : σ1.stopped = σ.stopped
  ignoreLf : σ1.ignoreLf = σ.ignoreLf

theorem SameDisp.err (σ : SState) (w : String) : SameDisp σ (σ.err w) := ⟨rfl, rfl, rfl, rfl, rfl⟩

theorem SameDisp.insertChar {σ σ1 : SState} {c : Char} (h : Spec.TreeModes.insertChar σ c = .ok σ1) : SameDisp σ σ1 := by
  unfold Spec.TreeModes.insertChar Spec.TreeAlgo2.insertCharacters at h
  cases hp : Spec.TreeAlgo2.appropriatePlace σ.p.stack σ.p.fosterParenting none with
  | none => rw [hp] at h; cases h
  | some pl =>
    rw [hp] at h
    have : σ1 = { σ with p := { σ.p with log := σ.p.log ++ [.insertText pl [c]] } } := by
      cases h; rfl
    subst this
    exact ⟨rfl, rfl, rfl, rfl, rfl⟩

/-- a run of characters each of which is handled by `f` (a step that keeps what the dispatcher looks at);
the rule may depend on the stack, which the run does not change -/
theorem charsRunK_foldlM_stack {cfg : Config Id} {rule : SState → STok → Spec.TreeModes.M (Step Id)}
    (f : SState → Char → Spec.TreeModes.M SState) {text : Str} {m : IMode} (stk : List (Elem Id))
    (hrule : ∀ σ : SState, σ.mode = m → σ.p.stack = stk → ∀ c ∈ text, rule σ (.character c) = (Step.done <$> f σ c))
    (hf : ∀ σ σ1 c, f σ c = .ok σ1 → SameDisp σ σ1) :
    ∀ {t : Str} {σ σ' : SState}, (∀ c ∈ t, c ∈ text) → σ.mode = m → σ.p.stack = stk → σ.stopped = false →
      σ.ignoreLf = false →
      Spec.TreeAlgo.useHtmlRules (Spec.TreeModes.adjustedCurrentNode cfg σ) .character = true →
      t.foldlM f σ = .ok σ' → CharsRunK cfg rule σ t σ' := by
  intro t
  induction t with
  | nil =>
    intro σ σ' _ _ _ _ _ _ h
    cases h
    exact CharsRunK.nil σ
  | cons c cs ih =>
    intro σ σ' hsub hm hstk hs hl hu h
    rw [List.foldlM_cons] at h
    cases h1 : f σ c with
    | error e => rw [h1] at h; cases h
    | ok σ1 =>
      rw [h1] at h
      have sd := hf σ σ1 c h1
      have hu1 : Spec.TreeAlgo.useHtmlRules (Spec.TreeModes.adjustedCurrentNode cfg σ1) .character = true := by
        rw [adjustedCurrentNode_congr sd.stack sd.annot]; exact hu
      refine CharsRunK.cons ?_ sd.mode (sd.stopped.trans hs) (sd.ignoreLf.trans hl) hu1
        (ih (fun c hc => hsub c (List.mem_cons_of_mem _ hc)) (sd.mode.trans hm) (sd.stack.trans hstk) (sd.stopped.trans hs)
          (sd.ignoreLf.trans hl) hu1 h)
      rw [hrule σ hm hstk c (hsub c List.mem_cons_self), h1]
      rfl

theorem charsRunK_foldlM {cfg : Config Id} {rule : SState → STok → Spec.TreeModes.M (Step Id)}
    (f : SState → Char → Spec.TreeModes.M SState) {text : Str} {m : IMode}
    (hrule : ∀ σ : SState, σ.mode = m → ∀ c ∈ text, rule σ (.character c) = (Step.done <$> f σ c))
    (hf : ∀ σ σ1 c, f σ c = .ok σ1 → SameDisp σ σ1) {t : Str} {σ σ' : SState} (hsub : ∀ c ∈ t, c ∈ text)
    (hm : σ.mode = m) : σ.stopped = false → σ.ignoreLf = false →
      Spec.TreeAlgo.useHtmlRules (Spec.TreeModes.adjustedCurrentNode cfg σ) .character = true →
      t.foldlM f σ = .ok σ' → CharsRunK cfg rule σ t σ' :=
  charsRunK_foldlM_stack f σ.p.stack (fun σ1 h1 _ => hrule σ1 h1) hf hsub hm rfl

/-- a run in which every character is handled by the rules of the current insertion mode -/
theorem specChars_of_byModeRun {cfg : Config Id} {σ σ' : SState} {text : Str}
    (h : CharsRunK cfg (byModeDev cfg) σ text σ') : specChars cfg (byModeDev cfg) σ text = .ok σ' :=
  specChars_of_run h (fun _ _ => rfl) (fun _ c _ _ hu => dispatchDev_char_html hu c)

/-- every parse error of a run of ignored characters -/
theorem foldlM_err (w : String) (text : Str) (σ : SState) :
    text.foldlM (fun σ (_ : Char) => (pure (σ.err w) : Spec.TreeModes.M SState)) σ
      = .ok { σ with errors := σ.errors ++ List.replicate text.length w } := by
  induction text generalizing σ with
  | nil => simp only [List.foldlM_nil, List.length_nil, List.replicate_zero, List.append_nil]; rfl
  | cons c r ih =>
    rw [List.foldlM_cons]
    show List.foldlM _ (σ.err w) r = _
    rw [ih]
    simp [Spec.TreeModes.State.err, List.replicate_succ]

/-! ### the three shapes of an answer to a run of characters -/

/-- `.chars .notSplit text => pure (.splitWhitespace text)` -/
theorem charsPost_split {rule : SState → STok → Spec.TreeModes.M (Step Id)} {s : State} (hm : MInv s) (text : Str) :
    CharsPost rule s .notSplit text (.splitWhitespace text) s [] :=
  ⟨rfl, rfl, rfl, (Tr.refl hm).conseq fun _ _ _ _ h => ⟨h, rfl⟩⟩

/-- one more parse error, the junk table text set -/
def Aux.errJunk (x : Aux) (w : String) (junk : Str) : Aux := { x with errors := x.errors ++ [w], pendingJunk := junk }

/-- "stop parsing" reached -/
def Aux.stop (x : Aux) : Aux := { x with stopped := true }

section Chars
variable {s : State} {st : SplitStatus} {text : Str} {m : IMode}

/-- a run of whitespace that the mode inserts: `append_text(text)` -/
theorem pc_chars_insert (hm : MInv s) (hmode : imode s.mode = m) (hlf : s.ignoreLf = false)
    (hdisp : ∀ x, AuxOk s x → Spec.TreeAlgo.useHtmlRules (Spec.TreeModes.adjustedCurrentNode (cfgOf s) (absF s x)) .character = true)
    (hb : ∀ σ1 : SState, σ1.mode = m → ∀ c ∈ text,
      byModeDev (cfgOf s) σ1 (.character c) = (Step.done <$> Spec.TreeModes.insertChar σ1 c)) :
    PC (appendText text) s (CharsPost (byModeDev (cfgOf s)) s st text) := by
  refine pc_conseq (pc_appendText hm text) ?_
  rintro r s' calls he ⟨rfl, hs, htr⟩
  refine ⟨hs.fields.ignoreLf, htr.conseq ?_⟩
  intro x x' hx hx' hr
  exact specChars_of_byModeRun (charsRunK_foldlM (m := m) (fun σ c => Spec.TreeModes.insertChar σ c) hb
    (fun _ _ _ h => SameDisp.insertChar h) (fun _ h => h) hmode hx.live hlf (hdisp x hx) hr)

/-- a run of characters that the mode ignores with a parse error each: `unexpected` -/
theorem pc_chars_ignoredErr (hm : MInv s) (hmode : imode s.mode = m) (hlf : s.ignoreLf = false)
    (hdisp : ∀ x, AuxOk s x → Spec.TreeAlgo.useHtmlRules (Spec.TreeModes.adjustedCurrentNode (cfgOf s) (absF s x)) .character = true)
    (w : String)
    (hb : ∀ σ1 : SState, σ1.mode = m → ∀ c ∈ text,
      byModeDev (cfgOf s) σ1 (.character c) = pure (Step.done (σ1.err w))) :
    PC unexpected s (CharsPost (byModeDev (cfgOf s)) s st text) := by
  refine pc_conseq (pc_unexpected_same hm) ?_
  rintro r s' calls he ⟨rfl, hs, htr⟩
  refine ⟨hs.fields.ignoreLf, htr.reaux (fun _ x' => { x' with errors := x'.errors ++ List.replicate text.length w })
    (fun _ _ => ⟨⟨rfl, rfl, rfl, rfl, rfl⟩, rfl, rfl, rfl⟩) ?_⟩
  rintro x x' hx hx' ⟨hxx, e⟩
  subst x'
  refine specChars_of_byModeRun (charsRunK_foldlM (m := m) (fun σ _ => pure (σ.err w)) hb
    (fun σ _ _ h => ?_) (fun _ h => h) hmode hx.live hlf (hdisp x hx) ?_)
  · cases h; exact SameDisp.err σ w
  · rw [foldlM_err, e]; rfl

/-- a run of characters delegated to the rules of another insertion mode -/
theorem pc_chars_delegate {f : Token → M ProcessResult} {g : Config Id → SState → STok → Spec.TreeModes.M (Step Id)}
    (h : StepSimChars f g) (hwf : TokWf (.chars st text)) (hm : MInv s) (hmode : imode s.mode = m) (hlf : s.ignoreLf = false)
    (hdisp : ∀ x, AuxOk s x → Spec.TreeAlgo.useHtmlRules (Spec.TreeModes.adjustedCurrentNode (cfgOf s) (absF s x)) .character = true)
    (hb : ∀ σ1 : SState, σ1.mode = m → ∀ c ∈ text,
      byModeDev (cfgOf s) σ1 (.character c) = g (cfgOf s) σ1 (.character c)) :
    PC (f (.chars st text)) s (CharsPost (byModeDev (cfgOf s)) s st text) := by
  refine pc_conseq (h st text hwf s hm hlf hdisp) ?_
  intro res s' calls he hp
  cases res with
  | done =>
    refine ⟨hp.1, hp.2.conseq ?_⟩
    intro x x' hx hx' hr
    refine specChars_of_run hr (fun c hc => hb _ hmode c hc) ?_
    intro σ1 c hc hm1 hu
    rw [dispatchDev_char_html hu, hb σ1 (hm1.trans hmode) c hc]
  | splitWhitespace t => exact hp
  | reprocess m' tok' =>
    obtain ⟨h1, h2, c, cs, h3, htr⟩ := hp
    refine ⟨h1, h2, c, cs, h3, htr.conseq ?_⟩
    intro x x' hx hx' hr
    rw [hb _ hmode c (h3 ▸ List.mem_cons_self)]
    exact hr
  | _ => exact hp.elim

/-- "Parse error.  Switch the insertion mode to "in body" and reprocess the token." on a run of
characters: after `unexpected`, the answer `Reprocess(InBody, token)` -/
theorem charsPost_reprocessInBody {s' : State} {calls : List Call} (hs : SameTB s s')
    (htr : Tr s s' calls (fun x x' => x' = x ∧ absF s x = absF s' x)) (hne : text ≠ []) (w : String)
    (hb : ∀ x, AuxOk s x → ∀ c ∈ text, byModeDev (cfgOf s) (absF s x) (.character c)
      = pure (Step.reprocess (((absF s x).err w).setMode .inBody))) :
    CharsPost (byModeDev (cfgOf s)) s st text (.reprocess .inBody (.chars st text)) s' (calls ++ []) := by
  cases text with
  | nil => exact absurd rfl hne
  | cons c cs =>
    refine ⟨rfl, hs.fields.ignoreLf, c, cs, rfl, ?_⟩
    have hm' : MInv s' := htr.1
    have h2 : Tr s' { s' with mode := .inBody } [] (fun x x' => x' = x) :=
      Tr.of_upd hm' rfl (fun _ h => h) (hm'.withMode _) rfl
    refine (htr.trans h2).reaux (fun _ x' => x'.errJunk w (absF s' x').pendingTableChars)
      (fun _ _ => ⟨⟨rfl, rfl, rfl, rfl, rfl⟩, rfl, rfl, rfl⟩) ?_
    rintro x x' hx hx' ⟨x1, ⟨hx1, e⟩, hx2⟩
    subst hx2
    subst hx1
    rw [hb x' hx c List.mem_cons_self, e]
    rfl

/-- a run of characters that is not whitespace in a mode that switches to "in body" with a parse error -/
theorem pc_chars_reprocessInBody (hm : MInv s) (hne : text ≠ []) (w : String)
    (hb : ∀ x, AuxOk s x → ∀ c ∈ text, byModeDev (cfgOf s) (absF s x) (.character c)
      = pure (Step.reprocess (((absF s x).err w).setMode .inBody))) :
    PC (unexpected >>= fun _ => pure (ProcessResult.reprocess .inBody (.chars st text))) s
      (CharsPost (byModeDev (cfgOf s)) s st text) := by
  refine pc_seq (pc_unexpected_same hm) ?_
  rintro r s' calls _ ⟨-, hs, htr⟩
  exact pc_pure (charsPost_reprocessInBody hs htr hne w hb)

end Chars

/-- **runs of characters in a mode that only tells whitespace from other characters**: an unsplit run is split; a
run of whitespace is handled as the rule `wsR` handles each character, a run of other characters as `nwsR` does -/
theorem modeCharSim_split {m : Mode} {wsR nwsR : Config Id → SState → Char → Spec.TreeModes.M (Step Id)}
    (hws : ∀ {s : State} {text : Str}, TokWf (.chars .whitespace text) → MInv s → imode s.mode = imode m → s.ignoreLf = false →
      (∀ x, AuxOk s x → Spec.TreeAlgo.useHtmlRules (Spec.TreeModes.adjustedCurrentNode (cfgOf s) (absF s x)) .character = true) →
      (∀ σ1 : SState, σ1.mode = imode m → ∀ c ∈ text, byModeDev (cfgOf s) σ1 (.character c) = wsR (cfgOf s) σ1 c) →
      PC (step m (.chars .whitespace text)) s (CharsPost (byModeDev (cfgOf s)) s .whitespace text))
    (hnws : ∀ {s : State} {text : Str}, TokWf (.chars .notWhitespace text) → MInv s → imode s.mode = imode m →
      s.ignoreLf = false →
      (∀ x, AuxOk s x → Spec.TreeAlgo.useHtmlRules (Spec.TreeModes.adjustedCurrentNode (cfgOf s) (absF s x)) .character = true) →
      (∀ σ1 : SState, σ1.mode = imode m → ∀ c ∈ text, byModeDev (cfgOf s) σ1 (.character c) = nwsR (cfgOf s) σ1 c) →
      PC (step m (.chars .notWhitespace text)) s (CharsPost (byModeDev (cfgOf s)) s .notWhitespace text))
    (hby : ∀ cfg (σ : SState), σ.mode = imode m → ∀ c,
      byModeDev cfg σ (.character c) = if Spec.TreeModes.isWs c then wsR cfg σ c else nwsR cfg σ c)
    (hS : ∀ t, step m (.chars .notSplit t) = pure (.splitWhitespace t)) : ModeCharSim m := by
  intro st text hwf s _ hm hmode hlf hdisp
  have hmσ : imode s.mode = imode m := by rw [hmode]
  cases st with
  | notSplit => rw [hS]; exact pc_pure (charsPost_split hm text)
  | whitespace =>
    refine hws hwf hm hmσ hlf hdisp fun σ1 h1 c hc => ?_
    rw [hby _ _ h1, isWs_eq_ascii, hwf.2.2 c hc, if_pos rfl]
  | notWhitespace =>
    refine hnws hwf hm hmσ hlf hdisp fun σ1 h1 c hc => ?_
    rw [hby _ _ h1, isWs_eq_ascii, hwf.2.2 c hc, if_neg Bool.false_ne_true]


/-- the rules of an insertion mode from the simulation of its rule function -/
theorem modeSim_of_sim {m : Mode} {f : Token → M ProcessResult}
    {g : Config Id → SState → STok → Spec.TreeModes.M (Step Id)} (hsim : StepSimTok f g) (hstep : ∀ tok, step m tok = f tok)
    (hby : ∀ {cfg : Config Id} {σ : SState}, σ.mode = imode m → ∀ tok, byModeDev cfg σ tok = g cfg σ tok) : ModeSim m := by
  intro tok hch hwf s _ hm hmode _
  rw [hstep]
  exact pc_tokPost_congr (hsim tok hch hwf s hm) fun x _ => hby (by show imode s.mode = _; rw [hmode]) _

/-! ### "after frameset" -/

theorem modeSim_afterFrameset (hhead : StepSimTok stepInHead Spec.TreeModes.inHead)
    (hbody : StepSimTok stepInBody Spec.TreeModes.inBody) : ModeSim .afterFrameset := 
  modeSim_of_sim (sim_afterFrameset hhead hbody) (fun _ => rfl) byModeDev_afterFrameset

theorem modeCharSim_afterFrameset : ModeCharSim .afterFrameset :=
  modeCharSim_split (fun _ hm => pc_chars_insert hm)
    (fun _ hm hmσ hlf hd => pc_chars_ignoredErr hm hmσ hlf hd "after frameset: unexpected token")
    (fun _ _ h _ => (byModeDev_afterFrameset h _).trans rfl) fun _ => rfl

/-! ### answers to non-character tokens shared by the modes -/

/-- "Parse error.  Ignore the token.", as a statement of a `do` block -/
theorem pc_unexpected_done {s : State} (hm : MInv s) (tok : Token) (w : String) :
    PC (unexpected >>= fun _ => pure ProcessResult.done) s
      (TokPost (fun σ => pure (Step.done (Spec.TreeModes.State.err σ w))) s tok) := by
  refine pc_seq (pc_unexpected hm) ?_
  rintro r s' calls _ ⟨-, htr⟩
  refine pc_pure (tokPost_of_tr (by rw [List.append_nil]; exact htr) trivial ?_)
  rintro x x' hx hx' ⟨hr, he⟩
  subst x'
  refine ⟨{ x with errors := x.errors ++ [w] }, ?_, ⟨rfl, rfl, rfl, rfl, rfl⟩, Or.inl rfl, rfl, rfl⟩
  simp only [stepOf, he]
  rfl

/-- "Switch the insertion mode to `m`." (not "in table text") -/
theorem pc_setMode_done {s : State} (hm : MInv s) (m : Mode) (hne : m ≠ .inTableText) (tok : Token) :
    PC (setMode m >>= fun _ => pure ProcessResult.done) s
      (TokPost (fun σ => pure (Step.done (Spec.TreeModes.State.setMode σ (imode m)))) s tok) := by
  refine pc_seq (pc_setMode hm _) ?_
  rintro _ s1 c1 _ ⟨rfl, htr⟩
  refine pc_pure (tokPost_of_tr (by rw [List.append_nil]; exact htr) trivial ?_)
  intro x x' hx hx' hr
  subst x'
  refine ⟨{ x with pendingJunk := (absF s x).pendingTableChars }, ?_, ⟨rfl, rfl, rfl, rfl, rfl⟩, Or.inl rfl, rfl, rfl⟩
  cases m <;> first | exact absurd rfl hne | rfl

/-- "Parse error.  Switch the insertion mode to "in body" and reprocess the token." -/
theorem pc_anythingElse_inBody {s : State} (hm : MInv s) (tok : Token) (w : String) :
    PC (unexpected >>= fun _ => pure (ProcessResult.reprocess .inBody tok)) s
      (TokPost (fun σ => pure (Step.reprocess ((Spec.TreeModes.State.err σ w).setMode .inBody))) s tok) := by
  refine pc_seq (pc_unexpected hm) ?_
  rintro r s' calls _ ⟨-, htr⟩
  refine pc_pure (tokPost_of_tr (by rw [List.append_nil]; exact htr) rfl ?_)
  rintro x x' hx hx' ⟨hr, he⟩
  subst x'
  refine ⟨x.errJunk w (absF s' x).pendingTableChars, ?_, ⟨rfl, rfl, rfl, rfl, rfl⟩, Or.inl rfl, rfl, rfl⟩
  simp only [stepOf, he]
  rfl

/-- "Stop parsing." (the model: `Done`; the driver ends the parse) -/
theorem pc_eof_stop {s : State} (hm : MInv s) :
    PC (pure ProcessResult.done) s (TokPost (fun σ => pure (Step.done (Spec.TreeModes.stopParsing σ))) s .eof) := by
  refine pc_pure (tokPost_of_tr (Tr.refl hm) trivial ?_)
  intro x x' hx hx' hr
  subst x'
  exact ⟨{ x with stopped := true }, rfl, ⟨rfl, rfl, rfl, rfl, rfl⟩, Or.inr ⟨rfl, rfl⟩, rfl, rfl⟩

/-! ### "after after frameset" -/

theorem sim_afterAfterFrameset (hhead : StepSimTok stepInHead Spec.TreeModes.inHead)
    (hbody : StepSimTok stepInBody Spec.TreeModes.inBody) :
    StepSimTok stepAfterAfterFrameset Spec.TreeModes.afterAfterFrameset := by
  intro tok hch hwf s hm
  cases tok with
  | chars st text => cases hch
  | comment text =>
    simp only [stepAfterAfterFrameset, stokOf, Spec.TreeModes.afterAfterFrameset]
    exact pc_commentDoc_tokPost hm text _
  | eof =>
    simp only [stepAfterAfterFrameset, stokOf, Spec.TreeModes.afterAfterFrameset]
    exact pc_eof_stop hm
  | nullChar =>
    simp only [stepAfterAfterFrameset, stokOf, Spec.TreeModes.afterAfterFrameset, isWs_nul, Bool.false_eq_true, if_false]
    exact pc_unexpected_err hm _ _
  | tag t =>
    simp only [stepAfterAfterFrameset, Tag.isStart, isOneOf_cons, isOneOf_nil, Bool.or_false]
    cases hk : t.kind with
    | startTag =>
      simp only [stokOf, stokOfTag_start hk, Spec.TreeModes.afterAfterFrameset, Spec.TreeModes.Tag.is, strIs_eq, specTag_name]
      by_cases h1 : t.name = "html".toList
      · simp +decide only [eq_true h1, if_true]
        refine pc_tokPost_congr (hbody (.tag t) rfl hwf s hm) ?_
        intro x hx
        simp only [stokOf, stokOfTag_start hk]
      · by_cases h2 : t.name = "noframes".toList
        · simp +decide only [h2, if_true, if_false]
          refine pc_tokPost_congr (hhead (.tag t) rfl hwf s hm) ?_
          intro x hx
          simp only [stokOf, stokOfTag_start hk]
        · simp +decide only [h1, h2, if_false]
          exact pc_unexpected_err hm _ _
    | endTag =>
      simp +decide only [stokOf, stokOfTag_end hk, Spec.TreeModes.afterAfterFrameset]
      exact pc_unexpected_err hm _ _

theorem modeSim_afterAfterFrameset (hhead : StepSimTok stepInHead Spec.TreeModes.inHead)
    (hbody : StepSimTok stepInBody Spec.TreeModes.inBody) : ModeSim .afterAfterFrameset := 
  modeSim_of_sim (sim_afterAfterFrameset hhead hbody) (fun _ => rfl) byModeDev_afterAfterFrameset

theorem modeCharSim_afterAfterFrameset (hbodyc : StepSimChars stepInBody Spec.TreeModes.inBody) :
    ModeCharSim .afterAfterFrameset :=
  modeCharSim_split (pc_chars_delegate hbodyc)
    (fun _ hm hmσ hlf hd => pc_chars_ignoredErr hm hmσ hlf hd "after after frameset: unexpected token")
    (fun _ _ h _ => (byModeDev_afterAfterFrameset h _).trans rfl) fun _ => rfl

/-! ### "after after body" -/

theorem sim_afterAfterBody (hbody : StepSimTok stepInBody Spec.TreeModes.inBody) :
    StepSimTok stepAfterAfterBody Spec.TreeModes.afterAfterBody := by
  intro tok hch hwf s hm
  cases tok with
  | chars st text => cases hch
  | comment text =>
    simp only [stepAfterAfterBody, stokOf, Spec.TreeModes.afterAfterBody]
    exact pc_commentDoc_tokPost hm text _
  | eof =>
    simp only [stepAfterAfterBody, stokOf, Spec.TreeModes.afterAfterBody]
    exact pc_eof_stop hm
  | nullChar =>
    simp only [stepAfterAfterBody, stokOf, Spec.TreeModes.afterAfterBody, isWs_nul, Bool.false_eq_true, if_false]
    exact pc_anythingElse_inBody hm _ _
  | tag t =>
    simp only [stepAfterAfterBody, Tag.isStart, isOneOf_cons, isOneOf_nil, Bool.or_false]
    cases hk : t.kind with
    | startTag =>
      simp only [stokOf, stokOfTag_start hk, Spec.TreeModes.afterAfterBody, Spec.TreeModes.Tag.is, strIs_eq, specTag_name]
      by_cases h1 : t.name = "html".toList
      · simp +decide only [eq_true h1, if_true]
        refine pc_tokPost_congr (hbody (.tag t) rfl hwf s hm) ?_
        intro x hx
        simp only [stokOf, stokOfTag_start hk]
      · simp +decide only [h1, if_false]
        exact pc_anythingElse_inBody hm _ _
    | endTag =>
      simp +decide only [stokOf, stokOfTag_end hk, Spec.TreeModes.afterAfterBody]
      exact pc_anythingElse_inBody hm _ _

theorem modeSim_afterAfterBody (hbody : StepSimTok stepInBody Spec.TreeModes.inBody) : ModeSim .afterAfterBody := 
  modeSim_of_sim (sim_afterAfterBody hbody) (fun _ => rfl) byModeDev_afterAfterBody

theorem modeCharSim_afterAfterBody (hbodyc : StepSimChars stepInBody Spec.TreeModes.inBody) :
    ModeCharSim .afterAfterBody :=
  modeCharSim_split (pc_chars_delegate hbodyc)
    (fun hwf hm hmσ _ _ hb => pc_chars_reprocessInBody hm hwf.1 "after after body: unexpected token" fun x _ => hb _ hmσ)
    (fun _ _ h _ => (byModeDev_afterAfterBody h _).trans rfl) fun _ => rfl

/-! ### "after body" -/

theorem sim_afterBody (hbody : StepSimTok stepInBody Spec.TreeModes.inBody) :
    StepSimTok stepAfterBody Spec.TreeModes.afterBody := by
  intro tok hch hwf s hm
  cases tok with
  | chars st text => cases hch
  | comment text =>
    simp only [stepAfterBody, stokOf, Spec.TreeModes.afterBody]
    refine pc_conseq (pc_appendCommentToHtml hm text) ?_
    rintro r s' calls _ ⟨rfl, -, htr⟩
    refine tokPost_of_tr htr trivial ?_
    rintro x x' hx hx' ⟨html, hh, hr⟩
    refine ⟨x', ?_, AuxSame.rfl', Or.inl rfl, rfl, rfl⟩
    simp only [hh, Spec.TreeModes.req]
    show (Step.done <$> Spec.TreeModes.insertCommentIn (absF s x) html.id text) = _
    rw [hr]
    rfl
  | eof =>
    simp only [stepAfterBody, stokOf, Spec.TreeModes.afterBody]
    exact pc_eof_stop hm
  | nullChar =>
    simp only [stepAfterBody, stokOf, Spec.TreeModes.afterBody, isWs_nul, Bool.false_eq_true, if_false]
    exact pc_anythingElse_inBody hm _ _
  | tag t =>
    simp only [stepAfterBody, Tag.isStart, Tag.isEnd, isOneOf_cons, isOneOf_nil, Bool.or_false]
    cases hk : t.kind with
    | startTag =>
      simp only [stokOf, stokOfTag_start hk, Spec.TreeModes.afterBody, Spec.TreeModes.Tag.is, strIs_eq, specTag_name]
      by_cases h1 : t.name = "html".toList
      · simp +decide only [eq_true h1, if_true]
        refine pc_tokPost_congr (hbody (.tag t) rfl hwf s hm) ?_
        intro x hx
        simp only [stokOf, stokOfTag_start hk]
      · simp +decide only [h1, if_false]
        exact pc_anythingElse_inBody hm _ _
    | endTag =>
      simp only [stokOf, stokOfTag_end hk, Spec.TreeModes.afterBody, Spec.TreeModes.Tag.is, strIs_eq, specTag_name]
      by_cases h1 : t.name = "html".toList
      · simp +decide only [eq_true h1, if_true, if_false]
        refine pc_seq (pc_isFragment hm) ?_
        rintro b s1 c1 _ ⟨rfl, rfl, hb, -⟩
        cases hctx : s1.contextElem with
        | some ce =>
          have hc : (cfgOf s1).context.isSome = true := by simp [cfgOf, hctx]
          simp only [hb, hctx, Option.isSome_some, if_true, hc, List.nil_append]
          exact pc_unexpected_done hm _ _
        | none =>
          have hc : (cfgOf s1).context.isSome = false := by simp [cfgOf, hctx]
          simp only [hb, hctx, Option.isSome_none, Bool.false_eq_true, if_false, hc, List.nil_append]
          exact pc_setMode_done hm _ (by decide) _
      · simp +decide only [h1, if_false]
        exact pc_anythingElse_inBody hm _ _

theorem modeSim_afterBody (hbody : StepSimTok stepInBody Spec.TreeModes.inBody) : ModeSim .afterBody := 
  modeSim_of_sim (sim_afterBody hbody) (fun _ => rfl) byModeDev_afterBody

theorem modeCharSim_afterBody (hbodyc : StepSimChars stepInBody Spec.TreeModes.inBody) :
    ModeCharSim .afterBody :=
  modeCharSim_split (pc_chars_delegate hbodyc)
    (fun hwf hm hmσ _ _ hb => pc_chars_reprocessInBody hm hwf.1 "after body: unexpected token" fun x _ => hb _ hmσ)
    (fun _ _ h _ => (byModeDev_afterBody h _).trans rfl) fun _ => rfl

/-! ### "in frameset" -/

theorem absF_stack_length {s : State} {x : Aux} (hx : AuxOk s x) : (absF s x).p.stack.length = s.openElems.length := by
  rw [absF_stack hx]; simp [absStack]

theorem sim_inFrameset (hhead : StepSimTok stepInHead Spec.TreeModes.inHead)
    (hbody : StepSimTok stepInBody Spec.TreeModes.inBody) :
    StepSimTok stepInFrameset Spec.TreeModes.inFrameset := by
  intro tok hch hwf s hm
  cases tok with
  | chars st text => cases hch
  | comment text => exact pc_comment_tokPost hm text _
  | eof =>
    simp only [stepInFrameset, stokOf, Spec.TreeModes.inFrameset]
    refine pc_getS_bind ?_
    by_cases hl : s.openElems.length = 1
    · have hne : (s.openElems.length != 1) = false := by simp [hl]
      simp only [hne, Bool.false_eq_true, if_false]
      refine pc_pure (tokPost_of_tr (Tr.refl hm) trivial ?_)
      intro x x' hx hx' hr
      subst x'
      refine ⟨{ x with stopped := true }, ?_, ⟨rfl, rfl, rfl, rfl, rfl⟩, Or.inr ⟨rfl, rfl⟩, rfl, rfl⟩
      have : Spec.TreeModes.curIsRoot (absF s x) = true := by
        simp [Spec.TreeModes.curIsRoot, absF_stack_length hx, hl]
      simp only [this, if_true]
      rfl
    · have hne : (s.openElems.length != 1) = true := by simp [hl]
      simp only [hne, if_true]
      refine pc_seq (pc_unexpected hm) ?_
      rintro r s' calls _ ⟨-, htr⟩
      refine pc_pure (tokPost_of_tr (by rw [List.append_nil]; exact htr) trivial ?_)
      rintro x x' hx hx' ⟨hr, he⟩
      subst x'
      refine ⟨(x.errJunk "in frameset: end of file" x.pendingJunk).stop, ?_, ⟨rfl, rfl, rfl, rfl, rfl⟩, Or.inr ⟨rfl, rfl⟩, rfl, rfl⟩
      have : Spec.TreeModes.curIsRoot (absF s x) = false := by
        simp [Spec.TreeModes.curIsRoot, absF_stack_length hx, hl]
      simp only [this, Bool.false_eq_true, if_false, stepOf]
      rw [he]
      rfl
  | nullChar =>
    simp only [stepInFrameset, stokOf, Spec.TreeModes.inFrameset, isWs_nul, Bool.false_eq_true, if_false]
    exact pc_unexpected_err hm _ _
  | tag t =>
    simp only [stepInFrameset, Tag.isStart, Tag.isEnd, isOneOf_cons, isOneOf_nil, Bool.or_false]
    cases hk : t.kind with
    | startTag =>
      simp only [stokOf, stokOfTag_start hk, Spec.TreeModes.inFrameset, Spec.TreeModes.Tag.is, strIs_eq, specTag_name]
      by_cases h1 : t.name = "html".toList
      · simp +decide only [eq_true h1, if_true]
        refine pc_tokPost_congr (hbody (.tag t) rfl hwf s hm) ?_
        intro x hx
        simp only [stokOf, stokOfTag_start hk]
      · by_cases h2 : t.name = "frameset".toList
        · simp +decide only [h2, if_true, if_false]
          refine pc_seq (pc_insertElementFor' hm (hwf : TagWf t).plain) ?_
          rintro a s' calls _ ⟨-, -, -, -, -, htr⟩
          refine pc_pure (tokPost_of_tr (by rw [List.append_nil]; exact htr) trivial ?_)
          intro x x' hx hx' hr
          refine ⟨x', ?_, AuxSame.rfl', Or.inl rfl, rfl, rfl⟩
          simp only [hr]
          rfl
        · by_cases h3 : t.name = "frame".toList
          · simp +decide only [h3, if_true, if_false]
            refine pc_seq (pc_insertVoid hm (hwf : TagWf t).plain) ?_
            rintro a s' calls _ ⟨-, -, -, -, -, htr⟩
            refine pc_pure (tokPost_of_tr (by rw [List.append_nil]; exact htr) trivial ?_)
            intro x x' hx hx' hr
            refine ⟨x', ?_, AuxSame.rfl', Or.inl rfl, rfl, rfl⟩
            simp only [hr]
            rfl
          · by_cases h4 : t.name = "noframes".toList
            · simp +decide only [h4, if_true, if_false]
              refine pc_tokPost_congr (hhead (.tag t) rfl hwf s hm) ?_
              intro x hx
              simp only [stokOf, stokOfTag_start hk]
            · simp +decide only [h1, h2, h3, h4, if_false]
              exact pc_unexpected_err hm _ _
    | endTag =>
      simp only [stokOf, stokOfTag_end hk, Spec.TreeModes.inFrameset, Spec.TreeModes.Tag.is, strIs_eq, specTag_name]
      by_cases h1 : t.name = "frameset".toList
      · simp +decide only [eq_true h1, if_true, if_false]
        refine pc_getS_bind ?_
        by_cases hl : s.openElems.length = 1
        · have hb1 : (s.openElems.length == 1) = true := by simp [hl]
          simp only [hb1, if_true]
          refine pc_tokPost_congr (pc_unexpected_done hm _ "in frameset: frameset end tag at the root") ?_
          intro x hx
          have : Spec.TreeModes.curIsRoot (absF s x) = true := by
            simp [Spec.TreeModes.curIsRoot, absF_stack_length hx, hl]
          simp only [this, if_true]
        · have hb1 : (s.openElems.length == 1) = false := by simp [hl]
          have hroot : ∀ x, AuxOk s x → Spec.TreeModes.curIsRoot (absF s x) = false := fun x hx => by
            simp [Spec.TreeModes.curIsRoot, absF_stack_length hx, hl]
          simp only [hb1, Bool.false_eq_true, if_false]
          refine pc_seq (pc_pop hm) ?_
          rintro h s1 c1 _ ⟨-, -, -, htr1⟩
          have hm1 : MInv s1 := htr1.1
          have hc1 : cfgOf s1 = cfgOf s := htr1.2.1
          refine pc_seq (pc_isFragment hm1) ?_
          rintro b s2 c2 _ ⟨rfl, rfl, hb, -⟩
          have hctx : (cfgOf s).context.isNone = !s2.contextElem.isSome := by
            rw [← hc1]; cases hh : s2.contextElem <;> simp [cfgOf, hh]
          cases hfr : s2.contextElem.isSome with
          | true =>
            simp only [hb, hfr, if_true, pure_bind, Bool.false_eq_true, if_false]
            refine pc_pure ?_
            simp only [List.append_nil]
            refine tokPost_of_tr htr1 trivial ?_
            rintro x x' hx hx' ⟨hxx, e, -⟩
            subst x'
            refine ⟨x, ?_, AuxSame.rfl', Or.inl rfl, rfl, rfl⟩
            simp only [hroot x hx, hctx, hfr, Bool.not_true, Bool.false_and, Bool.false_eq_true, if_false, stepOf, e]
            rfl
          | false =>
            simp only [hb, hfr, Bool.false_eq_true, if_false]
            refine pc_seq (pc_currentNodeNamed hm1 "frameset") ?_
            rintro b3 s3 c3 _ htr3
            have hm3 : MInv s3 := htr3.1
            simp only [pure_bind]
            cases b3 with
            | true =>
              simp only [Bool.not_true, Bool.false_eq_true, if_false]
              refine pc_pure ?_
              simp only [List.nil_append, List.append_nil]
              refine tokPost_of_tr (htr1.trans htr3) trivial ?_
              rintro x x'' hx hx'' ⟨x1, ⟨hx1, e1, -⟩, hx3, e3, hb3⟩
              subst hx3
              subst hx1
              refine ⟨x'', ?_, AuxSame.rfl', Or.inl rfl, rfl, rfl⟩
              rw [e1] at hb3
              simp only [hroot x'' hx, hctx, hfr, ← hb3, Bool.not_true, Bool.and_false, Bool.false_eq_true, if_false, stepOf]
              rw [← e3, e1]
              rfl
            | false =>
              simp only [Bool.not_false, if_true]
              refine pc_seq (pc_setMode hm3 _) ?_
              rintro _ s4 c4 _ ⟨rfl, htr4⟩
              refine pc_pure ?_
              simp only [List.nil_append, List.append_nil, ← List.append_assoc]
              refine tokPost_of_tr ((htr1.trans htr3).trans htr4) trivial ?_
              rintro x x'' hx hx'' ⟨x3, ⟨x1, ⟨hx1, e1, -⟩, hx3, e3, hb3⟩, hx4⟩
              subst hx4
              subst hx3
              subst hx1
              refine ⟨{ x'' with pendingJunk := (absF s3 x'').pendingTableChars }, ?_, ⟨rfl, rfl, rfl, rfl, rfl⟩, Or.inl rfl, rfl, rfl⟩
              rw [e1] at hb3
              simp only [hroot x'' hx, hctx, hfr, ← hb3, Bool.not_false, Bool.and_true, Bool.false_eq_true, if_false, if_true, stepOf]
              rw [← e1, e3]
              rfl
      · simp +decide only [h1, if_false]
        exact pc_unexpected_err hm _ _

theorem modeSim_inFrameset (hhead : StepSimTok stepInHead Spec.TreeModes.inHead)
    (hbody : StepSimTok stepInBody Spec.TreeModes.inBody) : ModeSim .inFrameset := 
  modeSim_of_sim (sim_inFrameset hhead hbody) (fun _ => rfl) byModeDev_inFrameset

theorem modeCharSim_inFrameset : ModeCharSim .inFrameset :=
  modeCharSim_split (fun _ hm => pc_chars_insert hm)
    (fun _ hm hmσ hlf hd => pc_chars_ignoredErr hm hmσ hlf hd "in frameset: unexpected token")
    (fun _ _ h _ => (byModeDev_inFrameset h _).trans rfl) fun _ => rfl

end H5V.Lemmas.HtmlTBModes
