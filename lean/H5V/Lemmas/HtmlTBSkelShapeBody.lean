import H5V.Lemmas.HtmlTBSkelShapeRB
import H5V.Lemmas.HtmlTBSkelShapeAA
/-!
C06, second invariant layer: the rules of InBody.
-/
namespace H5V.Props.C06
open H5V.Model.Dom hiding Str
open H5V.Model.HtmlTB hiding Str
open H5V.Lemmas.Dom

/-! ### small steps -/

theorem Big.formOk {m : Mode} {r : Id} {ph : Phase} {s : State} (h : Big m r ph s) :
    ∀ f, s.formElem = some f → nm s.dom f = hN "form" ∧ s.dom.isElement f = true := by
  obtain ⟨_, hc, _⟩ := h; exact hc.form

instance (t : Id) (attrs : List Attr) : PB (sinkUnit (.addAttrsIfMissing t attrs)) :=
  ⟨fun m r ph s a s' hb e => by
    obtain ⟨out, e⟩ := sinkUnit_ok.mp e
    obtain ⟨d, hd, rfl⟩ := sink_ok.mp e
    have hl := hb.late
    have hd' : s.dom.addAttrsIfMissing t attrs = .ok d := apply_unit hd
    obtain ⟨hb', hc', hk⟩ := addAttrsIfMissing_spec hl.base hd'
    exact ⟨hb.dom (hl.dom hb' hc' (hk 0)).1 rfl hc' (rs_addAttrs hl.base hd') (hk 0) (addAttrs_adj hb.adj hd'), rfl, rfl⟩⟩

instance : PB (modS fun s => { s with ignoreLf := true }) :=
  ⟨fun m r ph s a s' hb e => by
    rw [modS_ok.mp e]
    exact ⟨hb.upd rfl rfl rfl rfl rfl rfl rfl rfl rfl hb.afok hb.formOk (fun h => h), rfl, rfl⟩⟩

/-- names from the tag tests -/
theorem name_of_isStart {tag : Tag} {l : List String} (h : tag.isStart l = true) :
    ∃ a ∈ l, tag.name = a.toList ∧ tag.kind = .startTag := by
  unfold Tag.isStart isOneOf at h
  simp only [Bool.and_eq_true, beq_iff_eq, List.any_eq_true] at h
  obtain ⟨hk, a, ha, hn⟩ := h
  exact ⟨a, ha, hn.symm, hk⟩

theorem name_of_isEnd {tag : Tag} {l : List String} (h : tag.isEnd l = true) :
    ∃ a ∈ l, tag.name = a.toList ∧ tag.kind = .endTag := by
  unfold Tag.isEnd isOneOf at h
  simp only [Bool.and_eq_true, beq_iff_eq, List.any_eq_true] at h
  obtain ⟨hk, a, ha, hn⟩ := h
  exact ⟨a, ha, hn.symm, hk⟩

theorem plain_of_isStart {tag : Tag} {l : List String} (h : tag.isStart l = true)
    (hl : ∀ a ∈ l, keepName (hN a) = false) : PlainStr tag.name := by
  obtain ⟨a, ha, hn, _⟩ := name_of_isStart h
  exact ⟨by rw [hn]; exact hl a ha⟩

theorem plain_of_isEnd {tag : Tag} {l : List String} (h : tag.isEnd l = true)
    (hl : ∀ a ∈ l, keepName (hN a) = false) : PlainStr tag.name := by
  obtain ⟨a, ha, hn, _⟩ := name_of_isEnd h
  exact ⟨by rw [hn]; exact hl a ha⟩

theorem fmt_of_isStart {tag : Tag} {l : List String} (h : tag.isStart l = true)
    (hl : ∀ a ∈ l, isOneOf a.toList fmtNames = true) : FmtTag tag := by
  obtain ⟨a, ha, hn, _⟩ := name_of_isStart h
  exact ⟨by rw [hn]; exact hl a ha⟩

theorem notCursory_of_isEnd {tag : Tag} {l : List String} (h : tag.isEnd l = true)
    (hl : ∀ a ∈ l, cursoryImpliedEnd (hN a) = false) : NotCursory tag.name := by
  obtain ⟨a, ha, hn, _⟩ := name_of_isEnd h
  exact ⟨by rw [hn]; exact hl a ha⟩


/-! ### the answer is not a `Reprocess` -/

class NR (prog : M ProcessResult) : Prop where
  h : ∀ s res s', prog s = .ok (res, s') → NoRe res

instance {α : Type} (m : M α) (f : α → M ProcessResult) [h : ∀ a, NR (f a)] : NR (m >>= f) :=
  ⟨fun s res s'' e => by obtain ⟨a, s', _, e2⟩ := bind_ok.mp e; exact (h a).h _ _ _ e2⟩
instance (c : Prop) [Decidable c] (a b : M ProcessResult) [h1 : NR a] [h2 : NR b] : NR (if c then a else b) := by
  by_cases hc : c
  · simp only [hc, if_true]; exact h1
  · simp only [hc, if_false]; exact h2
instance : NR (pure .done : M ProcessResult) := ⟨fun s res s' e => by rw [← (pure_ok.mp e).1]; exact noRe_done⟩
instance : NR (pure .doneAckSelfClosing : M ProcessResult) :=
  ⟨fun s res s' e => by rw [← (pure_ok.mp e).1]; exact ⟨(by intro m t h; cases h), (by intro t h; cases h)⟩⟩
instance : NR (pure .toPlaintext : M ProcessResult) :=
  ⟨fun s res s' e => by rw [← (pure_ok.mp e).1]; exact ⟨(by intro m t h; cases h), (by intro t h; cases h)⟩⟩
instance (e : String) : NR (throw e : M ProcessResult) := ⟨fun _ _ _ h => absurd h throw_ok⟩
instance (c f t : String) : NR (panicAt c f t : M ProcessResult) := ⟨fun _ _ _ h => absurd h panicAt_ok⟩
instance : NR unexpected := ⟨fun s res s' e => by rw [(qs_unexpected e).2]; exact noRe_done⟩

theorem RB.of_pb_nr {prog : M ProcessResult} (h : PB prog) [hn : NR prog] : RB prog := RB.of_pb h hn.h

/-- popping the current node when it is known to be disposable -/
instance {β : Type} (sc P : EName → Bool) [ScBase sc] [PlainP P] (f : Id → M β) [h2 : ∀ a, PB (f a)] :
    PBsc sc P (pop >>= f) :=
  ⟨fun md r ph s b s'' hb hi e => by
    obtain ⟨a, s', e1, e2⟩ := bind_ok.mp e
    have p := pop_sem e1
    obtain ⟨below, x, above, h1, h2', h3⟩ := hi
    have hab : ∀ y ∈ above, htmlIn (nm s.dom y) ["html", "table", "template"] = false := by
      intro y hy
      cases hh : htmlIn (nm s.dom y) ["html", "table", "template"] with
      | false => rfl
      | true => have := ScBase.h (sc := sc) _ hh; rw [(h3 y hy).2] at this; cases this
    have hb' : Big md r ph s' := by
      refine hb.pop_above h1 (PlainP.h _ h2') hab p ?_
      intro y hy
      simp only [List.mem_singleton] at hy
      subst hy
      -- the popped element is the top of the stack
      have hst := p.stack
      rw [h1] at hst
      rcases nil_or_concat above with rfl | ⟨a0, z, rfl⟩
      · have : below ++ [x] = s'.openElems ++ [y] := by rw [← hst]
        obtain ⟨_, hz⟩ := List.append_inj' this rfl
        simp at hz; exact Or.inl hz.symm
      · have : (below ++ x :: a0) ++ [z] = s'.openElems ++ [y] := by rw [← hst]; simp
        obtain ⟨_, hz⟩ := List.append_inj' this rfl
        simp at hz; subst hz
        exact Or.inr (by simp)
    obtain ⟨b2, m2, o2⟩ := (h2 a).p md r ph s' b s'' hb' e2
    exact ⟨b2, m2.trans (by rw [p.rest]), o2.trans (by rw [p.rest])⟩⟩

/-- entry: a test of the current node -/
theorem PB.guardCur {β : Type} {sc P : EName → Bool} {test : M Bool} {A B : M β}
    (hsem : ∀ s b s', test s = .ok (b, s') → QS s s' ∧ ∃ h, s.openElems.getLast? = some h ∧ b = P (nm s.dom h))
    (ht : PBsc sc P A) (hf : PB B) : PB (test >>= fun b => if b = true then A else B) :=
  ⟨fun md r ph s b s'' hb e => by
    obtain ⟨a, s', e1, e2⟩ := bind_ok.mp e
    obtain ⟨q, t, hl, ha⟩ := hsem s a s' e1
    have hmo : s'.mode = s.mode ∧ s'.origMode = s.origMode := ⟨q.mode, by rw [q.rest]⟩
    cases a with
    | false =>
      simp only [Bool.false_eq_true, if_false] at e2
      obtain ⟨b2, m2, o2⟩ := hf.p md r ph s' b s'' (hb.qs q) e2
      exact ⟨b2, m2.trans hmo.1, o2.trans hmo.2⟩
    | true =>
      simp only [if_true] at e2
      have hi : InScP sc P s := by
        rcases nil_or_concat s.openElems with h0 | ⟨l0, z, h0⟩
        · rw [h0] at hl; cases hl
        · rw [h0, List.getLast?_append] at hl
          simp at hl; subst hl
          exact ⟨l0, z, [], by rw [h0], ha.symm, fun y hy => by cases hy⟩
      obtain ⟨b2, m2, o2⟩ := ht.p md r ph s' b s'' (hb.qs q) (hi.qs q) e2
      exact ⟨b2, m2.trans hmo.1, o2.trans hmo.2⟩⟩

theorem PB.guardTop {β : Type} {sc P : EName → Bool} {A B : M β} (ht : PBsc sc P A) (hf : PB B) :
    PB (currentNodeIn P >>= fun b => if b = true then A else B) :=
  PB.guardCur (fun _ _ _ e => currentNodeIn_sem e) ht hf

theorem PB.guardTopN {β : Type} {sc : EName → Bool} {X : String} {A B : M β} (ht : PBsc sc (namedP X.toList) A)
    (hf : PB B) : PB (currentNodeNamed X >>= fun b => if b = true then A else B) :=
  PB.guardCur (fun _ _ _ e => currentNodeNamed_sem e) ht hf


/-! ### leaf rules -/


instance (tag : Tag) : RB (inBodyHtml tag) := by unfold inBodyHtml; rb_walk
instance (tag : Tag) [PlainStr tag.name] : RB (inBodyVoid tag) := by unfold inBodyVoid; rb_walk

class ForeignNs (ns : Str) : Prop where
  h : (ns == nsHtml) = false
instance : ForeignNs nsMathml := ⟨by decide +kernel⟩
instance : ForeignNs nsSvg := ⟨by decide +kernel⟩

instance (pushIt : Bool) (ns name : Str) (attrs : List Attr) (dup : Bool) [hf : ForeignNs ns] :
    PB (insertElement pushIt ns name attrs dup) :=
  ⟨fun m r ph s a s' hb e => by
    obtain ⟨h1, h2, h3, _⟩ := insertElement_big hb (keepName_foreign hf.h) e
    exact ⟨h1, h2, h3⟩⟩

instance (tag : Tag) (ns : Str) [ForeignNs ns] : RB (enterForeign tag ns) := by
  unfold enterForeign
  dsimp only
  rb_walk

/-- changing the mode fields -/
theorem Core.modes {s : State} {r : Id} {up : List Id} {ph : Phase} (h : Core s r up ph) {m' : Mode} {om' : Option Mode}
    (hm : isLate m' = true) (ho : ∀ o, om' = some o → isLate o = true) :
    Core { s with mode := m', origMode := om' } r up ph :=
  ⟨⟨h.late.base, h.late.pat, ⟨h.late.st.doc, h.late.st.ctx, h.late.st.oe, h.late.st.tail, h.late.st.head,
      h.late.st.ptt⟩, ⟨hm, ho, h.late.ml.tm⟩⟩,
    h.stack, h.rdoc, h.nodup, h.tg, h.afn, h.tc, h.tmm, h.form, h.rtu, h.rnd, h.kids, h.elems, h.bh, h.afx, h.adj⟩

theorem isLate_of_bl {m : Mode} (h : isBL m = true) : isLate m = true := by
  rcases isBL_cases h with rfl | rfl | rfl | rfl | rfl | rfl | rfl | rfl <;> rfl

/-- the stack below a disposable top element fits the mode too -/
theorem Big.fits_below {m : Mode} {r : Id} {ph : Phase} {s : State} {l : List Id} {x : Id} (h : Big m r ph s)
    (hbl : isBL m = true) (hst : s.openElems = l ++ [x]) (hx : keepName (nm s.dom x) = false) :
    ∃ up0, l = r :: up0 ∧ Fits s.dom s.headElem m up0 ph := by
  have hp : PR s { s with openElems := l } [x] := ⟨rfl, hst, rfl⟩
  have hb' := h.pop hp (fun y hy => by simp only [List.mem_singleton] at hy; rw [hy]; exact hx)
  obtain ⟨up0, hc0, hbb0, hn0, _⟩ := hb'
  exact ⟨up0, hc0.stack, fits_of_bl hbl hbb0 hn0⟩

/-- `parse_raw_data` for a disposable tag: into the Text mode -/
instance (tag : Tag) (k : H5V.Model.HtmlTok.RawKind) [hk : PlainStr tag.name] : RB (parseRawData tag k) :=
  ⟨fun m r ph s res s' hb hm hbl e => by
    unfold parseRawData at e
    obtain ⟨el, s1, e1, e2⟩ := bind_ok.mp e
    obtain ⟨hb1, hm1, ho1, hnm1, hel1, _, hst1, _, _⟩ := insertElement_big hb hk.h e1
    simp only [if_true] at hst1
    obtain ⟨u, s2, e3, e4⟩ := bind_ok.mp e2
    obtain ⟨rfl, rfl⟩ := pure_ok.mp e4
    have hs2 := modS_ok.mp e3
    obtain ⟨up0, hl0, hfit⟩ := hb1.fits_below hbl hst1 (by rw [hnm1]; exact hk.h)
    obtain ⟨up1, hc1, _, _, hfp1⟩ := hb1
    have hup1 : up1 = up0 ++ [el] := by
      have := hc1.stack
      rw [hst1, hl0] at this
      simp only [List.cons_append, List.cons.injEq, true_and] at this
      exact this.symm
    have hmode1 : s1.mode = m := hm1.trans hm
    show Good r s2
    rw [hs2]
    refine ⟨up1, ph, ⟨hc1.modes rfl (by intro o ho; cases ho; rw [hmode1]; exact isLate_of_bl hbl), ?_⟩, ?_⟩
    · show FitsM _ up1 ph
      unfold FitsM
      refine ⟨m, up0, el, by rw [hmode1], hup1, ?_, ?_, hfit, ?_, ?_⟩
      · rintro rfl; cases hbl
      · rintro rfl; cases hbl
      · show htmlIn (nm s1.dom el) _ = false
        rw [hnm1]
        exact not_in_of_keepName_false hk.h (by simp [lit_name])
      · show (nm s1.dom el).ns = nsHtml
        rw [hnm1]
    · exact fun _ => hfp1⟩


/-! ### scope guards as rules -/

theorem RB.guardPosN {sc : EName → Bool} {X : String} {A B : M ProcessResult}
    (ht : PBsc sc (namedP X.toList) A) (hf : PB B) (hn : NR (inScopeNamed sc X >>= fun b => if b = true then A else B)) :
    RB (inScopeNamed sc X >>= fun b => if b = true then A else B) := RB.of_pb (PB.guardPosN ht hf) hn.h
theorem RB.guardNegN {sc : EName → Bool} {X : String} {A B : M ProcessResult}
    (ht : PB A) (hf : PBsc sc (namedP X.toList) B) (hn : NR (inScopeNamed sc X >>= fun b => if (!b) = true then A else B)) :
    RB (inScopeNamed sc X >>= fun b => if (!b) = true then A else B) := RB.of_pb (PB.guardNegN ht hf) hn.h
theorem RB.guardPosS {sc : EName → Bool} {X : Str} {A B : M ProcessResult}
    (ht : PBsc sc (namedP X) A) (hf : PB B) (hn : NR (inScopeNamedS sc X >>= fun b => if b = true then A else B)) :
    RB (inScopeNamedS sc X >>= fun b => if b = true then A else B) := RB.of_pb (PB.guardPosS ht hf) hn.h
theorem RB.guardNegS {sc : EName → Bool} {X : Str} {A B : M ProcessResult}
    (ht : PB A) (hf : PBsc sc (namedP X) B) (hn : NR (inScopeNamedS sc X >>= fun b => if (!b) = true then A else B)) :
    RB (inScopeNamedS sc X >>= fun b => if (!b) = true then A else B) := RB.of_pb (PB.guardNegS ht hf) hn.h
theorem RB.guardPos {sc P : EName → Bool} {pred : Id → M Bool} [PredSem pred P] {A B : M ProcessResult}
    (ht : PBsc sc P A) (hf : PB B) (hn : NR (inScope sc pred >>= fun b => if b = true then A else B)) :
    RB (inScope sc pred >>= fun b => if b = true then A else B) := RB.of_pb (PB.guardPos ht hf) hn.h
theorem RB.guardTop {P : EName → Bool} {A B : M ProcessResult}
    (ht : PBsc tableScope P A) (hf : PB B) (hn : NR (currentNodeIn P >>= fun b => if b = true then A else B)) :
    RB (currentNodeIn P >>= fun b => if b = true then A else B) := RB.of_pb (PB.guardTop ht hf) hn.h
theorem RB.guardTopN {X : String} {A B : M ProcessResult}
    (ht : PBsc tableScope (namedP X.toList) A) (hf : PB B)
    (hn : NR (currentNodeNamed X >>= fun b => if b = true then A else B)) :
    RB (currentNodeNamed X >>= fun b => if b = true then A else B) := RB.of_pb (PB.guardTopN ht hf) hn.h

macro_rules
  | `(tactic| rb_step) => `(tactic| first
  | (with_reducible apply RB.guardPosN) <;> exact inferInstance
  | (with_reducible apply RB.guardNegN) <;> exact inferInstance
  | (with_reducible apply RB.guardPosS) <;> exact inferInstance
  | (with_reducible apply RB.guardNegS) <;> exact inferInstance
  | (with_reducible apply RB.guardPos) <;> exact inferInstance
  | (with_reducible apply RB.guardTop) <;> exact inferInstance
  | (with_reducible apply RB.guardTopN) <;> exact inferInstance)

/-! ### more instances for the walk -/

instance {α : Type} (sc P : EName → Bool) (c : Prop) [Decidable c] (a b : M α) [h1 : PBsc sc P a] [h2 : PBsc sc P b] :
    PBsc sc P (if c then a else b) := PBsc.dite (fun _ => h1) (fun _ => h2)

instance (priority := high) {β : Type} (sc : EName → Bool) (X : String) (A B : M β)
    [ht : PBsc sc (namedP X.toList) A] [hf : PB B] : PB (inScopeNamed sc X >>= fun b => if b = true then A else B) :=
  PB.guardPosN ht hf
instance (priority := high) {β : Type} (sc : EName → Bool) (X : String) (A B : M β)
    [ht : PB A] [hf : PBsc sc (namedP X.toList) B] : PB (inScopeNamed sc X >>= fun b => if (!b) = true then A else B) :=
  PB.guardNegN ht hf
instance (priority := high) {β : Type} (sc : EName → Bool) (X : Str) (A B : M β)
    [ht : PBsc sc (namedP X) A] [hf : PB B] : PB (inScopeNamedS sc X >>= fun b => if b = true then A else B) :=
  PB.guardPosS ht hf
instance (priority := high) {β : Type} (sc : EName → Bool) (X : Str) (A B : M β)
    [ht : PB A] [hf : PBsc sc (namedP X) B] : PB (inScopeNamedS sc X >>= fun b => if (!b) = true then A else B) :=
  PB.guardNegS ht hf
instance (priority := high) {β : Type} (X : String) (A B : M β)
    [ht : PBsc tableScope (namedP X.toList) A] [hf : PB B] :
    PB (currentNodeNamed X >>= fun b => if b = true then A else B) := PB.guardTopN ht hf
instance (priority := high) {β : Type} (P : EName → Bool) (A B : M β)
    [ht : PBsc tableScope P A] [hf : PB B] : PB (currentNodeIn P >>= fun b => if b = true then A else B) :=
  PB.guardTop ht hf

instance : PlainStr "img".toList := ⟨keepName_lits _ (by simp)⟩
instance : PlainStr "option".toList := ⟨keepName_lits _ (by simp)⟩

macro_rules
  | `(tactic| rb_step) => `(tactic| first
      | exact inferInstance
      | with_reducible apply RB.bindPB
      | with_reducible apply RB.dite
      | intro _
      | (dsimp only)
      | split)

end H5V.Props.C06
