import H5V.Lemmas.XmlRTDefs
import H5V.Lemmas.HtmlRTTok2
/-!
C17, tokenizer half: the character references the XML serializer writes — `&amp;` `&lt;`
`&gt;` `&quot;` `&apos;` (named, resolved through the entity table: every prefix of the name is known,
the full name matches its value, nothing in the table continues it) and `&#13;` (numeric; value 13 is
delivered as U+000D together with the parse error "Invalid numeric character reference").

The XML character-reference tokenizer reads the name with `get_char` and pushes the first character
that no longer fits back (`unconsume`), so a named reference needs one character of look-ahead.
-/
namespace H5V.Lemmas.XmlRT
open H5V.Model.XmlTok

/-- control registers while a character reference is being read -/
structure CRCtl (m : Mach) (st : State) (cr : CharRefSt) : Prop where
  st : m.state = st
  cr : m.charRef = some cr
  rc : m.reconsume = false
  ilf : m.ignoreLf = false
  tb : m.tempBuf = []

/-- a register predicate that does not look at `char_ref_tokenizer` / `current_char` -/
structure Carried (X : Mach → Prop) : Prop where
  setCR : ∀ m y, X m → X (m.setCharRef y)
  setCC : ∀ m c, X m → X (m.setCurrentChar c)

def crNamed (a : Option Char) : CharRefSt := { state := .named, addnlAllowed := a, nameBuf := some [] }

/-- the `named` state after one more character whose extended name is still in the table -/
def crFeed (cr : CharRefSt) (c : Char) : CharRefSt :=
  match entityLookup ((cr.nameBuf.getD []) ++ [c]) with
  | some mt =>
    if mt.1 ≠ 0 then { cr with nameBuf := some ((cr.nameBuf.getD []) ++ [c]), nameMatch := some mt,
                               nameLen := ((cr.nameBuf.getD []) ++ [c]).length }
    else { cr with nameBuf := some ((cr.nameBuf.getD []) ++ [c]) }
  | none => cr

theorem cr_begin (o : Opts) (m : Mach) (c : Char) (rest : Str) (st : State) (a : Option Char)
    (h : CRCtl m st { addnlAllowed := a })
    (hc : c ≠ '\t' ∧ c ≠ '\n' ∧ c ≠ '\x0c' ∧ c ≠ ' ' ∧ c ≠ '<' ∧ c ≠ '&' ∧ c ≠ '#') (ha : some c ≠ a) :
    step o m (c :: rest) = .cont (m.setCharRef (some (crNamed a))) (c :: rest) := by
  obtain ⟨s1, s2, s3, s4, s5⟩ := h
  obtain ⟨c1, c2, c3, c4, c5, c6, c7⟩ := hc
  simp [step, s2, stepCharRef, crStep, peek, s3, c1, c2, c3, c4, c5, c6, c7, ha, crNamed]

theorem cr_feed (o : Opts) (ho : o.exactErrors = false) (m : Mach) (c : Char) (rest : Str) (st : State)
    (cr : CharRefSt) (nb : Str) (mt : Nat × Nat)
    (h : CRCtl m st cr) (hs : cr.state = .named) (hnb : cr.nameBuf = some nb)
    (hl : entityLookup (nb ++ [c]) = some mt) (h1 : c ≠ '\r') (h2 : c ≠ '\x00') :
    step o m (c :: rest) = .cont ((m.setCurrentChar c).setCharRef (some (crFeed cr c))) rest := by
  obtain ⟨s1, s2, s3, s4, s5⟩ := h
  by_cases h0 : mt.1 = 0
  · simp [step, s2, stepCharRef, crStep, getChar, s3, preprocess, s4, foldChar, h1, h2, ho, hs, hnb, hl, h0, crFeed]
  · simp [step, s2, stepCharRef, crStep, getChar, s3, preprocess, s4, foldChar, h1, h2, ho, hs, hnb, hl, h0, crFeed]

/-- the state of the sub-tokenizer when the whole name `nm` (ending in `;`) has been read and matched
with value `v` -/
structure CRDone (cr : CharRefSt) (nm : Str) (v : Nat) : Prop where
  st : cr.state = .named
  nb : cr.nameBuf = some nm
  mt : cr.nameMatch = some (v, 0)
  len : cr.nameLen = nm.length

theorem getElem?_snoc_last (nm : Str) (x : Char) (hne : nm ≠ []) :
    (nm ++ [x])[nm.length - 1]? = nm.getLast? := by
  have hl : 0 < nm.length := List.length_pos_iff.mpr hne
  rw [List.getElem?_append_left (by omega), List.getLast?_eq_getElem?]

theorem namedDecision_semi (m : Mach) (nm : Str) (v : Nat) (x : Char)
    (hne : nm ≠ []) (hsemi : nm.getLast? = some ';') (hv : isValidScalar v = true) (cr' : CharRefSt)
    (hlen : cr'.nameLen = nm.length) :
    namedDecision m cr' (nm ++ [x]) v 0 = .ok (m, some [Char.ofNat v]) := by
  have hl : 0 < nm.length := List.length_pos_iff.mpr hne
  have h0 : nm.length ≠ 0 := by omega
  unfold namedDecision
  simp only [hlen, h0, if_false, getElem?_snoc_last nm x hne, hsemi, if_true, Bool.false_eq_true, hv]
  simp [isValidScalar]

/-- the step that reads the look-ahead character `x`, finds that the table does not continue the
name, hands `x` back and delivers the character -/
theorem cr_finish_step (o : Opts) (ho : o.exactErrors = false) (m : Mach) (x : Char) (rest : Str) (st : State)
    (cr : CharRefSt) (nm : Str) (v : Nat)
    (h : CRCtl m st cr) (hd : CRDone cr nm v) (hne : nm ≠ []) (hsemi : nm.getLast? = some ';')
    (hv : isValidScalar v = true) (hnone : entityLookup (nm ++ [x]) = none) (h1 : x ≠ '\r') (h2 : x ≠ '\x00') :
    step o m (x :: rest) =
      ofSig ((processCharRef (m.setCurrentChar x) [Char.ofNat v]).1.setCharRef none,
             (processCharRef (m.setCurrentChar x) [Char.ofNat v]).2) (x :: rest) := by
  obtain ⟨s1, s2, s3, s4, s5⟩ := h
  obtain ⟨d1, d2, d3, d4⟩ := hd
  simp only [step, s2, stepCharRef, crStep, getChar, s3, Bool.false_eq_true, if_false, preprocess, s4, foldChar,
    h1, h2, ho, Bool.false_and, d1, d2, hnone, finishNamed, d3]
  rw [namedDecision_semi (m.setCurrentChar x) nm v x hne hsemi hv _ (by exact d4)]
  simp [unconsume, s4, Mach.setCurrentChar, d4]

/-! ### the table facts -/

/-- what the round trip needs to know about one reference `&nm` with value `v` -/
structure RefOk (nm : Str) (v : Nat) : Prop where
  ne : nm ≠ []
  first : ∀ c, nm.head? = some c →
    c ≠ '\t' ∧ c ≠ '\n' ∧ c ≠ '\x0c' ∧ c ≠ ' ' ∧ c ≠ '<' ∧ c ≠ '&' ∧ c ≠ '#' ∧ c ≠ '"'
  plain : ∀ c ∈ nm, c ≠ '\r' ∧ c ≠ '\x00'
  semi : nm.getLast? = some ';'
  pre : ∀ k, k < nm.length → (entityLookup (nm.take (k + 1))).isSome = true
  foldN : nm.foldl crFeed (crNamed none) =
    { state := .named, addnlAllowed := none, nameBuf := some nm, nameMatch := some (v, 0), nameLen := nm.length }
  foldQ : nm.foldl crFeed (crNamed (some '"')) =
    { state := .named, addnlAllowed := some '"', nameBuf := some nm, nameMatch := some (v, 0), nameLen := nm.length }
  none : ∀ x, entityLookup (nm ++ [x]) = none
  valid : isValidScalar v = true
  nz : Char.ofNat v ≠ '\x00'

def preOk (nm : Str) : Bool := (List.range nm.length).all (fun k => (entityLookup (nm.take (k + 1))).isSome)

def foldOk (nm : Str) (v : Nat) (a : Option Char) : Bool :=
  decide (nm.foldl crFeed (crNamed a) =
    { state := .named, addnlAllowed := a, nameBuf := some nm, nameMatch := some (v, 0), nameLen := nm.length })

def firstOk (c : Char) : Bool :=
  c != '\t' && c != '\n' && c != '\x0c' && c != ' ' && c != '<' && c != '&' && c != '#' && c != '"'

theorem refOk_of (nm : Str) (v : Nat) (c0 : Char) (t : Str) (hk : nm = c0 :: t)
    (h1 : firstOk c0 = true) (h1' : nm.all (fun c => c != '\r' && c != '\x00') = true)
    (h2 : nm.getLast? = some ';') (h3 : preOk nm = true)
    (h4 : foldOk nm v none = true ∧ foldOk nm v (some '"') = true)
    (h5 : HtmlRT.noExt (nm.map Char.toNat) c0.toNat = true) (h6 : isValidScalar v = true)
    (h7 : Char.ofNat v ≠ '\x00') :
    RefOk nm v where
  ne := by rw [hk]; simp
  first := by
    intro c hc; rw [hk] at hc; simp at hc; subst hc
    simp [firstOk] at h1
    simp [h1]
  plain := by
    intro c hc
    have := List.all_eq_true.mp h1' c hc
    simpa using this
  semi := h2
  pre := by
    intro k hkl
    exact List.all_eq_true.mp h3 k (List.mem_range.mpr hkl)
  foldN := of_decide_eq_true h4.1
  foldQ := of_decide_eq_true h4.2
  none := by
    intro x
    rw [entityLookup_eq]
    unfold Model.HtmlTok.entityLookup
    rw [List.map_append]
    exact HtmlRT.lookup_ext_none (nm.map Char.toNat) c0.toNat (t.map Char.toNat) (by rw [hk]; rfl) h5 x.toNat
  valid := h6
  nz := h7

def nAmp : Str := ['a','m','p',';']
def nLt : Str := ['l','t',';']
def nGt : Str := ['g','t',';']
def nQuot : Str := ['q','u','o','t',';']
def nApos : Str := ['a','p','o','s',';']

theorem refOk_amp : RefOk nAmp 38 :=
  refOk_of nAmp 38 'a' ['m','p',';'] rfl (by decide +kernel) (by decide +kernel) (by decide +kernel) (by decide +kernel)
    ⟨by decide +kernel, by decide +kernel⟩ (by decide +kernel) (by decide +kernel) (by decide +kernel)
theorem refOk_lt : RefOk nLt 60 :=
  refOk_of nLt 60 'l' ['t',';'] rfl (by decide +kernel) (by decide +kernel) (by decide +kernel) (by decide +kernel)
    ⟨by decide +kernel, by decide +kernel⟩ (by decide +kernel) (by decide +kernel) (by decide +kernel)
theorem refOk_gt : RefOk nGt 62 :=
  refOk_of nGt 62 'g' ['t',';'] rfl (by decide +kernel) (by decide +kernel) (by decide +kernel) (by decide +kernel)
    ⟨by decide +kernel, by decide +kernel⟩ (by decide +kernel) (by decide +kernel) (by decide +kernel)
theorem refOk_quot : RefOk nQuot 34 :=
  refOk_of nQuot 34 'q' ['u','o','t',';'] rfl (by decide +kernel) (by decide +kernel) (by decide +kernel) (by decide +kernel)
    ⟨by decide +kernel, by decide +kernel⟩ (by decide +kernel) (by decide +kernel) (by decide +kernel)
theorem refOk_apos : RefOk nApos 39 :=
  refOk_of nApos 39 'a' ['p','o','s',';'] rfl (by decide +kernel) (by decide +kernel) (by decide +kernel) (by decide +kernel)
    ⟨by decide +kernel, by decide +kernel⟩ (by decide +kernel) (by decide +kernel) (by decide +kernel)

/-! ### reading a named reference -/

theorem CRCtl.upd {m : Mach} {st : State} {cr : CharRefSt} (h : CRCtl m st cr) (c : Char) (cr' : CharRefSt) :
    CRCtl ((m.setCurrentChar c).setCharRef (some cr')) st cr' := by
  obtain ⟨s1, s2, s3, s4, s5⟩ := h
  constructor <;> simp [Mach.setCharRef, Mach.setCurrentChar, *]

theorem CRCtl.upd' {m : Mach} {st : State} {cr : CharRefSt} (h : CRCtl m st cr) (cr' : CharRefSt) :
    CRCtl (m.setCharRef (some cr')) st cr' := by
  obtain ⟨s1, s2, s3, s4, s5⟩ := h
  constructor <;> simp [Mach.setCharRef, *]

theorem crFeed_inv : ∀ (q p0 : Str) (cr : CharRefSt), cr.state = .named → cr.nameBuf = some p0 →
    (∀ k, k < q.length → (entityLookup (p0 ++ q.take (k + 1))).isSome = true) →
    (q.foldl crFeed cr).state = .named ∧ (q.foldl crFeed cr).nameBuf = some (p0 ++ q) := by
  intro q
  induction q with
  | nil => intro p0 cr h1 h2 _; simp [h1, h2]
  | cons c q ih =>
    intro p0 cr h1 h2 hl
    have h0 := hl 0 (by simp)
    simp only [List.take_succ_cons, List.take_zero] at h0
    obtain ⟨mt, hmt⟩ := Option.isSome_iff_exists.mp h0
    have hf1 : (crFeed cr c).state = .named := by
      unfold crFeed; rw [h2]; simp only [Option.getD_some, hmt]; split <;> exact h1
    have hf2 : (crFeed cr c).nameBuf = some (p0 ++ [c]) := by
      unfold crFeed; rw [h2]; simp only [Option.getD_some, hmt]; split <;> rfl
    have := ih (p0 ++ [c]) (crFeed cr c) hf1 hf2 (by
      intro k hk
      have := hl (k + 1) (by simp; omega)
      simpa [List.take_succ_cons] using this)
    simpa using this

/-- the name characters of a reference, one `named` step each -/
theorem ref_feed (o : Opts) (ho : o.exactErrors = false) (st : State) {X : Mach → Prop} (hx : Carried X)
    (rest : Str) : ∀ (q p0 : Str) (cr : CharRefSt) (m : Mach), CRCtl m st cr → X m →
      cr.state = .named → cr.nameBuf = some p0 → (∀ c ∈ q, c ≠ '\r' ∧ c ≠ '\x00') →
      (∀ k, k < q.length → (entityLookup (p0 ++ q.take (k + 1))).isSome = true) →
      ∃ m', Reach o m (q ++ rest) m' rest ∧ CRCtl m' st (q.foldl crFeed cr) ∧ X m' ∧ m'.out = m.out := by
  intro q
  induction q with
  | nil => intro p0 cr m hc hxm _ _ _ _; exact ⟨m, Reach.refl _ _, hc, hxm, rfl⟩
  | cons c q ih =>
    intro p0 cr m hc hxm h1 h2 hp hl
    have h0 := hl 0 (by simp)
    simp only [List.take_succ_cons, List.take_zero] at h0
    obtain ⟨mt, hmt⟩ := Option.isSome_iff_exists.mp h0
    have hinv := crFeed_inv [c] p0 cr h1 h2 (by
      intro k hk; simp at hk; subst hk; simpa using h0)
    simp only [List.foldl_cons, List.foldl_nil] at hinv
    have hpc := hp c (by simp)
    have hs := cr_feed o ho m c (q ++ rest) st cr p0 mt hc h1 h2 hmt hpc.1 hpc.2
    obtain ⟨m', hr, hc', hx', ho'⟩ := ih (p0 ++ [c]) (crFeed cr c) _ (hc.upd c _)
      (hx.setCR _ _ (hx.setCC _ c hxm)) hinv.1 hinv.2 (fun d hd => hp d (by simp [hd])) (by
        intro k hk
        have := hl (k + 1) (by simp; omega)
        simpa [List.take_succ_cons] using this)
    exact ⟨m', Reach.cons hs hr, hc', hx', by rw [ho']; rfl⟩

/-- after the `&`: the whole name of a reference is read silently and is matched -/
theorem ref_read (o : Opts) (ho : o.exactErrors = false) (st : State) {X : Mach → Prop} (hx : Carried X)
    (rest : Str) (nm : Str) (v : Nat) (hr : RefOk nm v) (a : Option Char) (ha : a = none ∨ a = some '"')
    (m : Mach) (hc : CRCtl m st { addnlAllowed := a }) (hxm : X m) :
    ∃ m' cr, Reach o m (nm ++ rest) m' rest ∧ CRCtl m' st cr ∧ CRDone cr nm v ∧ X m' ∧ m'.out = m.out := by
  obtain ⟨c0, t, hnm⟩ : ∃ c0 t, nm = c0 :: t := by
    cases hq : nm with
    | nil => exact absurd hq hr.ne
    | cons a b => exact ⟨a, b, rfl⟩
  obtain ⟨f1, f2, f3, f4, f5, f6, f7, f8⟩ := hr.first c0 (by rw [hnm]; rfl)
  have hne : some c0 ≠ a := by
    rcases ha with rfl | rfl
    · simp
    · simpa using f8
  have hs := cr_begin o m c0 (t ++ rest) st a hc ⟨f1, f2, f3, f4, f5, f6, f7⟩ hne
  obtain ⟨m', hre, hc', hx', ho'⟩ := ref_feed o ho st hx rest nm [] (crNamed a) _ (hc.upd' _)
    (hx.setCR _ _ hxm) rfl rfl hr.plain (by intro k hk; simpa using hr.pre k hk)
  have hfold : nm.foldl crFeed (crNamed a) =
      { state := .named, addnlAllowed := a, nameBuf := some nm, nameMatch := some (v, 0), nameLen := nm.length } := by
    rcases ha with rfl | rfl
    · exact hr.foldN
    · exact hr.foldQ
  rw [hfold] at hc'
  refine ⟨m', _, ?_, hc', ⟨rfl, rfl, rfl, rfl⟩, hx', by rw [ho']; rfl⟩
  rw [hnm] at hre ⊢
  exact Reach.cons hs hre

/-! ### `&#13;` -/

def crN1 (a : Option Char) : CharRefSt := { state := .octothorpe, addnlAllowed := a }
def crN2 (a : Option Char) : CharRefSt := { state := .numeric 10, addnlAllowed := a }
def crN3 (a : Option Char) : CharRefSt := { state := .numeric 10, addnlAllowed := a, num := 1, seenDigit := true }
def crN4 (a : Option Char) : CharRefSt := { state := .numeric 10, addnlAllowed := a, num := 13, seenDigit := true }
/-- the sub-tokenizer after `#13`, before the semicolon -/
def crNum13 (a : Option Char) : CharRefSt :=
  { state := .numericSemicolon, addnlAllowed := a, num := 13, seenDigit := true }

theorem cr_n1 (o : Opts) (ho : o.exactErrors = false) (m : Mach) (rest : Str) (st : State) (a : Option Char)
    (h : CRCtl m st { addnlAllowed := a }) (ha : some '#' ≠ a) :
    step o m ('#' :: rest) = .cont ((m.setCurrentChar '#').setCharRef (some (crN1 a))) rest := by
  obtain ⟨s1, s2, s3, s4, s5⟩ := h
  simp [step, s2, stepCharRef, crStep, peek, s3, ha, discardChar, getChar, preprocess, s4, foldChar, ho, crN1]

theorem cr_n2 (o : Opts) (m : Mach) (rest : Str) (st : State) (a : Option Char) (h : CRCtl m st (crN1 a)) :
    step o m ('1' :: rest) = .cont (m.setCharRef (some (crN2 a))) ('1' :: rest) := by
  obtain ⟨s1, s2, s3, s4, s5⟩ := h
  simp [step, s2, stepCharRef, crStep, peek, s3, crN1, crN2]

theorem cr_n3 (o : Opts) (ho : o.exactErrors = false) (m : Mach) (rest : Str) (st : State) (a : Option Char)
    (h : CRCtl m st (crN2 a)) :
    step o m ('1' :: rest) = .cont ((m.setCurrentChar '1').setCharRef (some (crN3 a))) rest := by
  obtain ⟨s1, s2, s3, s4, s5⟩ := h
  have hd : toDigit '1' 10 = some 1 := by decide
  simp [step, s2, stepCharRef, crStep, peek, s3, discardChar, getChar, preprocess, s4, foldChar, ho, crN2, crN3, hd]

theorem cr_n4 (o : Opts) (ho : o.exactErrors = false) (m : Mach) (rest : Str) (st : State) (a : Option Char)
    (h : CRCtl m st (crN3 a)) :
    step o m ('3' :: rest) = .cont ((m.setCurrentChar '3').setCharRef (some (crN4 a))) rest := by
  obtain ⟨s1, s2, s3, s4, s5⟩ := h
  have hd : toDigit '3' 10 = some 3 := by decide
  simp [step, s2, stepCharRef, crStep, peek, s3, discardChar, getChar, preprocess, s4, foldChar, ho, crN3, crN4, hd]

theorem cr_n5 (o : Opts) (m : Mach) (rest : Str) (st : State) (a : Option Char) (h : CRCtl m st (crN4 a)) :
    step o m (';' :: rest) = .cont (m.setCharRef (some (crNum13 a))) (';' :: rest) := by
  obtain ⟨s1, s2, s3, s4, s5⟩ := h
  have hd : toDigit ';' 10 = none := by decide
  simp [step, s2, stepCharRef, crStep, peek, s3, crN4, crNum13, hd]

theorem ref_num13 (o : Opts) (ho : o.exactErrors = false) (st : State) {X : Mach → Prop} (hx : Carried X)
    (rest : Str) (a : Option Char) (ha : a = none ∨ a = some '"')
    (m : Mach) (hc : CRCtl m st { addnlAllowed := a }) (hxm : X m) :
    ∃ m', Reach o m ('#' :: '1' :: '3' :: ';' :: rest) m' (';' :: rest) ∧ CRCtl m' st (crNum13 a) ∧ X m' ∧
      m'.out = m.out := by
  have hne : some '#' ≠ a := by rcases ha with rfl | rfl <;> simp
  have e1 := cr_n1 o ho m ('1' :: '3' :: ';' :: rest) st a hc hne
  have c1 := hc.upd '#' (crN1 a)
  have e2 := cr_n2 o _ ('3' :: ';' :: rest) st a c1
  have c2 := c1.upd' (crN2 a)
  have e3 := cr_n3 o ho _ ('3' :: ';' :: rest) st a c2
  have c3 := c2.upd '1' (crN3 a)
  have e4 := cr_n4 o ho _ (';' :: rest) st a c3
  have c4 := c3.upd '3' (crN4 a)
  have e5 := cr_n5 o _ rest st a c4
  have c5 := c4.upd' (crNum13 a)
  refine ⟨_, Reach.cons e1 (Reach.cons e2 (Reach.cons e3 (Reach.cons e4 (Reach.one e5)))), c5, ?_, rfl⟩
  exact hx.setCR _ _ (hx.setCR _ _ (hx.setCC _ _ (hx.setCR _ _ (hx.setCC _ _ (hx.setCR _ _ (hx.setCR _ _ (hx.setCC _ _ hxm)))))))

/-- the semicolon of `&#13;`: U+000D is delivered, with the parse error for a control character -/
theorem cr_num13_finish (o : Opts) (ho : o.exactErrors = false) (m : Mach) (rest : Str) (st : State)
    (a : Option Char) (h : CRCtl m st (crNum13 a)) :
    step o m (';' :: rest) =
      ofSig ((processCharRef (emitErr (m.setCurrentChar ';') "Invalid numeric character reference") ['\r']).1.setCharRef none,
             (processCharRef (emitErr (m.setCurrentChar ';') "Invalid numeric character reference") ['\r']).2) rest := by
  obtain ⟨s1, s2, s3, s4, s5⟩ := h
  simp [step, s2, stepCharRef, crStep, crNum13, peek, s3, discardChar, getChar, preprocess, s4, foldChar, ho,
    finishNumericStatus, finishNumeric, isValidScalar]


end H5V.Lemmas.XmlRT
