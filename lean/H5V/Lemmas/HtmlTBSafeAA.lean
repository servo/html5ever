import H5V.Lemmas.HtmlTBSafeInv
/-!
# Tree-builder safety: "any other end tag" and the adoption agency

None of the panic sites of `process_end_tag_in_body`, `adoption_agency` (outer loop, inner loop,
bookmark handling) and `handle_misnested_a_tags` is reachable from a state satisfying the handle
invariant `HInv` whose stack of open elements is `Rooted`; `AAPost` describes what these algorithms do
to the builder state.
-/
namespace H5V.Lemmas.TBSafe
open H5V.Model.HtmlTB
open H5V.Model.Dom (Id QualName Attr NodeOrText SinkOp Output ElementFlags QuirksMode Dom NodeData Node)

variable {al : Allow}

/-! ### names -/

theorem fmt_not_special {n : Str} (h : isOneOf n fmtNames = true) : specialTag ⟨nsHtml, n⟩ = false := by
  obtain ⟨x, hx, rfl⟩ := isOneOf_cases h
  rw [specialTag_html, isOneOf_toList]
  revert x
  decide

theorem fmt_ne_html {n : Str} (h : isOneOf n fmtNames = true) : n ≠ "html".toList :=
  isOneOf_ne h (by decide)

theorem isFmtE_mk {n : Str} (h : isOneOf n fmtNames = true) : isFmtE ⟨nsHtml, n⟩ = true := by
  simp only [isFmtE, beq_self_eq_true, Bool.true_and]; exact h

theorem isFmtE_eq {n : EName} (h : isFmtE n = true) : ∃ loc, n = ⟨nsHtml, loc⟩ ∧ isOneOf loc fmtNames = true := by
  cases n with
  | mk ns loc =>
    simp only [isFmtE, Bool.and_eq_true, beq_iff_eq] at h
    exact ⟨loc, by rw [h.1], h.2⟩

theorem isFmtE_not_special {n : EName} (h : isFmtE n = true) : specialTag n = false := by
  obtain ⟨loc, rfl, hl⟩ := isFmtE_eq h
  exact fmt_not_special hl

theorem isFmtE_ne_html {n : EName} (h : isFmtE n = true) : n ≠ htmlName := by
  obtain ⟨loc, rfl, hl⟩ := isFmtE_eq h
  intro he
  simp only [htmlName, EName.mk.injEq] at he
  exact fmt_ne_html hl he.2

theorem special_htmlName : specialTag htmlName = true := by
  rw [htmlName, specialTag_html, isOneOf_toList]; decide

theorem isTmpl_of_fmt {d : Dom} {x : Id} (h : isFmtE (nm d x) = true) : isTmpl d x = false := by
  unfold isTmpl
  have := (NewOk.of_fmt h).1
  simpa using this

theorem tcOk_of_fmt {d : Dom} {x : Id} (h : isFmtE (nm d x) = true) : TcOk d x :=
  fun hn => absurd hn (NewOk.of_fmt h).1

theorem namedP_of_nm {d : Dom} {name : Str} {x : Id} (h : nm d x = ⟨nsHtml, name⟩) : namedP d name x = true := by
  unfold namedP; rw [h]; simp

/-! ### the postcondition -/

/-- what the adoption agency / "any other end tag" do to the builder state -/
structure AAPost (s s' : State) : Prop where
  fr : Fr s s'
  hinv : HInv s'
  rooted : Rooted s'.dom s'.openElems
  news : ∀ x ∈ s'.openElems, x ∈ s.openElems ∨ isFmtE (nm s'.dom x) = true
  keeps : ∀ x ∈ s.openElems, specialTag (nm s.dom x) = true → x ∈ s'.openElems
  tcnt : tcount s'.dom s'.openElems ≤ tcount s.dom s.openElems

theorem AAPost.refl {s : State} (hi : HInv s) (hr : Rooted s.dom s.openElems) : AAPost s s :=
  ⟨Fr.refl s, hi, hr, fun _ hx => Or.inl hx, fun _ hx _ => hx, Nat.le_refl _⟩

theorem AAPost.trans {a b c : State} (hi : HInv a) (h1 : AAPost a b) (h2 : AAPost b c) : AAPost a c where
  fr := h1.fr.trans h2.fr
  hinv := h2.hinv
  rooted := h2.rooted
  news := fun x hx => by
    rcases h2.news x hx with hb | hf
    · rcases h1.news x hb with ha | hf
      · exact Or.inl ha
      · exact Or.inr (by rw [nm_ext h2.fr.ext (h1.hinv.open_el x hb)]; exact hf)
    · exact Or.inr hf
  keeps := fun x hx hs => by
    have hb := h1.keeps x hx hs
    exact h2.keeps x hb (by rw [nm_ext h1.fr.ext (hi.open_el x hx)]; exact hs)
  tcnt := Nat.le_trans h2.tcnt h1.tcnt

theorem AAPost.of_same {s s' : State} (hi : HInv s) (hr : Rooted s.dom s.openElems) (h : Same s s') :
    AAPost s s' where
  fr := h.fr
  hinv := hi.of_same h
  rooted := by rw [h.openElems]; exact hr.ext h.fr.ext hi.open_el
  news := fun x hx => Or.inl (by rw [h.openElems] at hx; exact hx)
  keeps := fun x hx _ => by rw [h.openElems]; exact hx
  tcnt := by rw [h.openElems, tcount_ext h.fr.ext hi.open_el]; exact Nat.le_refl _

theorem AAPost.of_qf {s s' : State} (hi : HInv s) (hr : Rooted s.dom s.openElems) (h : QF s s') :
    AAPost s s' := AAPost.of_same hi hr h.same

/-- `AAPost a b` followed by a sink call -/
theorem AAPost.qf_right {a b c : State} (hi : HInv a) (h1 : AAPost a b) (h2 : QF b c) : AAPost a c :=
  h1.trans hi (AAPost.of_qf h1.hinv h1.rooted h2)

theorem rooted_of_head {d : Dom} {l l' : List Id} (hr : Rooted d l) (hh : l'.head? = l.head?) : Rooted d l' := by
  obtain ⟨r, rest, rfl, hn⟩ := hr
  cases l' with
  | nil => simp at hh
  | cons a t =>
    simp only [List.head?_cons, Option.some.injEq] at hh
    subst hh
    exact ⟨a, t, rfl, hn⟩

/-- an update of the two lists of the builder (same DOM): the bottom of the stack stays, new stack
entries are formatting elements, new entries of the list of active formatting elements are
well-formed, no special element leaves the stack -/
theorem aapost_upd {s : State} (hi : HInv s) (hr : Rooted s.dom s.openElems) (l' : List Id)
    (af' : List FormatEntry) (hhead : l'.head? = s.openElems.head?)
    (hnew : ∀ x ∈ l', x ∈ s.openElems ∨ (IsEl s.dom x ∧ isFmtE (nm s.dom x) = true))
    (haf : ∀ x t, FormatEntry.element x t ∈ af' → FormatEntry.element x t ∈ s.activeFormatting ∨
      (IsEl s.dom x ∧ nm s.dom x = ⟨nsHtml, t.name⟩ ∧ isOneOf t.name fmtNames = true))
    (hkeep : ∀ x ∈ s.openElems, specialTag (nm s.dom x) = true → x ∈ l')
    (htc : tcount s.dom l' ≤ tcount s.dom s.openElems) :
    AAPost s { s with openElems := l', activeFormatting := af' } where
  fr := (Fr.refl s).withOpenAF l' af'
  hinv := {
    open_el := fun x hx => by
      rcases hnew x hx with h | h
      · exact hi.open_el x h
      · exact h.1
    open_tc := fun x hx => by
      rcases hnew x hx with h | h
      · exact hi.open_tc x h
      · exact tcOk_of_fmt h.2
    af := fun x t hx => by
      rcases haf x t hx with h | h
      · exact hi.af x t h
      · exact h
    head := hi.head
    form := hi.form
    ctx := hi.ctx }
  rooted := rooted_of_head hr hhead
  news := fun x hx => by
    rcases hnew x hx with h | h
    · exact Or.inl h
    · exact Or.inr h.2
  keeps := hkeep
  tcnt := htc

theorem tcount_sublist {d : Dom} {l' l : List Id} (h : l'.Sublist l) : tcount d l' ≤ tcount d l :=
  List.Sublist.countP_le h

/-- cutting the stack down to a non-empty prefix, the dropped elements being non-special -/
theorem aapost_prefix {s : State} (hi : HInv s) (hr : Rooted s.dom s.openElems) {pre post : List Id}
    (af' : List FormatEntry) (heq : s.openElems = pre ++ post) (hne : pre ≠ [])
    (hpost : ∀ y ∈ post, specialTag (nm s.dom y) = false)
    (haf : ∀ e ∈ af', e ∈ s.activeFormatting) :
    AAPost s { s with openElems := pre, activeFormatting := af' } := by
  refine aapost_upd hi hr pre af' ?_ ?_ ?_ ?_ ?_
  · rw [heq]
    cases pre with
    | nil => exact absurd rfl hne
    | cons a t => rfl
  · intro x hx; exact Or.inl (by rw [heq]; exact List.mem_append_left _ hx)
  · intro x t hx; exact Or.inl (haf _ hx)
  · intro x hx hs
    rw [heq] at hx
    rcases List.mem_append.mp hx with h | h
    · exact h
    · rw [hpost x h] at hs; cases hs
  · rw [heq]; exact tcount_sublist (List.sublist_append_left _ _)

theorem AAPost.of_st_prefix {s s' : State} (hi : HInv s) (hr : Rooted s.dom s.openElems) {pre post : List Id}
    (heq : s.openElems = pre ++ post) (hne : pre ≠ [])
    (hpost : ∀ y ∈ post, specialTag (nm s.dom y) = false) (st : St s s' pre) : AAPost s s' := by
  have h1 := aapost_prefix hi hr s.activeFormatting heq hne hpost (fun _ h => h)
  have h2 : Same { s with openElems := pre, activeFormatting := s.activeFormatting } s' :=
    ⟨⟨st.fr.mode, st.fr.origMode, st.fr.templateModes, st.fr.pendingTableText, st.fr.headElem, st.fr.formElem,
      st.fr.contextElem, st.fr.docHandle, st.fr.opts, st.fr.ext⟩, st.openElems, st.af⟩
  exact h1.trans hi (AAPost.of_same h1.hinv h1.rooted h2)

/-! ### `process_end_tag_in_body` -/

def etsP (d : Dom) (name : Str) : List Id → Nat → Option (Option Nat)
  | [], _ => some none
  | e :: rest, len =>
    if namedP d name e then some (some (len - 1))
    else if specialTag (nm d e) then none else etsP d name rest (len - 1)

theorem etsP_congr {d d' : Dom} {name : Str} : ∀ {l : List Id} {n : Nat}, (∀ x ∈ l, nm d' x = nm d x) →
    etsP d' name l n = etsP d name l n := by
  intro l
  induction l with
  | nil => intro _ _; rfl
  | cons a t ih =>
    intro n h
    have h1 : namedP d' name a = namedP d name a := by unfold namedP; rw [h a List.mem_cons_self]
    simp only [etsP]
    rw [h1, h a List.mem_cons_self, ih (fun x hx => h x (List.mem_cons_of_mem _ hx))]

theorem sat_endTagSearch {name : Str} : ∀ (l : List Id) (n : Nat) (s : State), AllEl s.dom l →
    Sat (endTagSearch name l n) s (fun r s' => r = etsP s.dom name l n ∧ QF s s') := by
  intro l
  induction l with
  | nil => intro n s _; exact sat_pure ⟨rfl, QF.refl s⟩
  | cons e rest ih =>
    intro n s hall
    unfold endTagSearch
    have hel := hall e List.mem_cons_self
    refine (sat_htmlElemNamedS hel).bind ?_
    rintro b s1 ⟨rfl, hq1⟩
    by_cases hb : namedP s.dom name e = true
    · have hb' := hb
      unfold namedP at hb'
      simp only [hb', if_true]
      exact sat_pure ⟨by simp [etsP, hb], hq1⟩
    · have hb' := hb
      unfold namedP at hb'
      simp only [hb', if_false, Bool.false_eq_true]
      refine (sat_elemIn (hel.ext hq1.ext)).bind ?_
      rintro b2 s2 ⟨rfl, hq2⟩
      rw [nm_ext hq1.ext hel]
      have hq := hq1.trans hq2
      by_cases hsp : specialTag (nm s.dom e) = true
      · simp only [hsp, if_true]
        refine sat_parseError.bind ?_
        intro _ s3 hq3
        exact sat_pure ⟨by simp [etsP, hb, hsp], hq.trans hq3⟩
      · simp only [hsp, if_false, Bool.false_eq_true]
        have hall' : AllEl s.dom rest := hall.sub (fun x hx => List.mem_cons_of_mem _ hx)
        refine (ih (n - 1) s2 (hall'.ext hq.ext)).mono ?_
        rintro r s3 ⟨rfl, hq3⟩
        refine ⟨?_, hq.trans hq3⟩
        simp only [etsP, hb, hsp, if_false, Bool.false_eq_true]
        exact etsP_congr (fun x hx => hall'.nm_eq hq.ext hx)

theorem etsP_rev {d : Dom} {name : Str} : ∀ (r : List Id) (n i : Nat), n = r.length →
    etsP d name r n = some (some i) →
    ∃ a x b, r = a ++ x :: b ∧ i = b.length ∧ namedP d name x = true ∧
      ∀ y ∈ a, specialTag (nm d y) = false := by
  intro r
  induction r with
  | nil => intro n i _ h; simp [etsP] at h
  | cons z t ih =>
    intro n i hn h
    simp only [etsP] at h
    by_cases hP : namedP d name z = true
    · simp only [hP, if_true, Option.some.injEq] at h
      exact ⟨[], z, t, rfl, by rw [← h, hn]; simp, hP, by simp⟩
    · simp only [hP, if_false, Bool.false_eq_true] at h
      by_cases hsp : specialTag (nm d z) = true
      · simp [hsp] at h
      · simp only [hsp, if_false, Bool.false_eq_true] at h
        obtain ⟨a, x, b, rfl, hi, hx, ha⟩ := ih (n - 1) i (by simp [hn]) h
        refine ⟨z :: a, x, b, rfl, hi, hx, ?_⟩
        intro y hy
        rcases List.mem_cons.mp hy with rfl | hy
        · simpa using hsp
        · exact ha y hy

theorem etsP_spec {d : Dom} {name : Str} {l : List Id} {i : Nat}
    (h : etsP d name l.reverse l.length = some (some i)) :
    ∃ pre x post, l = pre ++ x :: post ∧ i = pre.length ∧ namedP d name x = true ∧
      ∀ y ∈ post, specialTag (nm d y) = false := by
  obtain ⟨a, x, b, hr, hi, hx, ha⟩ := etsP_rev l.reverse l.length i (by simp) h
  refine ⟨b.reverse, x, a.reverse, ?_, by simpa using hi, hx, fun y hy => ha y (List.mem_reverse.mp hy)⟩
  have := congrArg List.reverse hr
  simpa using this

theorem impliedExcept_named {d : Dom} {name : Str} {x : Id} (h : namedP d name x = true) :
    impliedExcept name (nm d x) = false := by
  rw [namedP_nm h]; simp [impliedExcept]

/-- `process_end_tag_in_body` ("any other end tag"): pops the matched element (an HTML element
named `tag.name`) and the non-special elements above it -/
theorem sat_processEndTagInBody {tag : Tag} {s : State} (hi : HInv s) (hr : Rooted s.dom s.openElems)
    (hname : tag.name ≠ "html".toList) :
    Sat (processEndTagInBody tag) s (fun _ s' => ∃ pre post, s.openElems = pre ++ post ∧ St s s' pre ∧ pre ≠ [] ∧
      ∀ y ∈ post, specialTag (nm s.dom y) = false ∨ namedP s.dom tag.name y = true) := by
  have hne : s.openElems ≠ [] := by obtain ⟨r, rest, hl, _⟩ := hr; rw [hl]; simp
  unfold processEndTagInBody
  refine sat_getS_bind ?_
  dsimp only
  refine (sat_endTagSearch _ _ s (hi.open_el.sub (fun x hx => List.mem_reverse.mp hx))).bind ?_
  rintro r s1 ⟨rfl, hq1⟩
  cases hres : etsP s.dom tag.name s.openElems.reverse s.openElems.length with
  | none =>
    exact sat_pure ⟨s.openElems, [], by simp, hq1.same, hne, by simp⟩
  | some r =>
    cases r with
    | none =>
      dsimp only
      refine sat_unexpected.bind ?_
      rintro _ s2 ⟨-, hq2⟩
      exact sat_pure ⟨s.openElems, [], by simp, (hq1.trans hq2).same, hne, by simp⟩
    | some matchIdx =>
      dsimp only
      obtain ⟨pre, x, post, heq, hidx, hx, hpost⟩ := etsP_spec hres
      subst hidx
      -- the match is not the root
      have hpre : pre ≠ [] := by
        intro e
        subst e
        obtain ⟨r, rest, hl, hn⟩ := hr
        rw [hl] at heq
        simp only [List.nil_append, List.cons.injEq] at heq
        rw [heq.1, namedP_nm hx] at hn
        simp only [htmlName, EName.mk.injEq] at hn
        exact hname hn.2
      have hall1 : AllEl s1.dom s1.openElems := by rw [hq1.openElems]; exact hi.open_el.ext hq1.ext
      unfold generateImpliedEndExcept
      refine (sat_generateImpliedEndTags hall1).bind ?_
      rintro _ s2 ⟨pre', post', heq', hst, hpost', -⟩
      rw [hq1.openElems, heq] at heq'
      -- the matched element is not popped
      have hlen : pre.length < pre'.length := by
        by_cases hlt : pre.length < pre'.length
        · exact hlt
        · exfalso
          have h1 : (pre ++ x :: post)[pre.length]? = some x := by simp
          rw [heq', List.getElem?_append_right (Nat.le_of_not_lt hlt)] at h1
          have hxm : x ∈ post' := List.mem_of_getElem? h1
          have := hpost' x hxm
          rw [nm_ext hq1.ext (hi.open_el x (by rw [heq]; simp)), impliedExcept_named hx] at this
          cases this
      have htake : pre'.take pre.length = pre := by
        have h1 : (pre' ++ post').take pre.length = pre'.take pre.length :=
          List.take_append_of_le_length (Nat.le_of_lt hlen)
        rw [← h1, ← heq']; simp
      refine sat_getS_bind ?_
      have hlen2 : s2.openElems.length = pre'.length := by rw [hst.openElems]
      have hz : (s2.openElems.length == 0) = false := by
        rw [hlen2]; cases hp : pre'.length with
        | zero => omega
        | succ k => rfl
      simp only [hz, Bool.false_eq_true, if_false]
      have hfin : ∀ s3, QF s2 s3 → Sat (modS fun s => { s with openElems := s.openElems.take pre.length }) s3
          (fun _ s' => ∃ pre post, s.openElems = pre ++ post ∧ St s s' pre ∧ pre ≠ [] ∧
            ∀ y ∈ post, specialTag (nm s.dom y) = false ∨ namedP s.dom tag.name y = true) := by
        intro s3 hq3
        refine sat_modS ⟨pre, x :: post, heq, ⟨?_, ?_, ?_⟩, hpre, ?_⟩
        · exact ((hq1.fr.trans hst.fr).trans hq3.fr).withOpen _
        · show s3.openElems.take pre.length = pre
          rw [hq3.openElems, hst.openElems]; exact htake
        · show s3.activeFormatting = s.activeFormatting
          rw [hq3.activeFormatting, hst.af, hq1.activeFormatting]
        · intro y hy
          rcases List.mem_cons.mp hy with rfl | hy
          · exact Or.inr hx
          · exact Or.inl (hpost y hy)
      split
      · refine sat_unexpected.bind ?_
        rintro _ s3 ⟨-, hq3⟩
        exact hfin s3 hq3
      · exact hfin s2 (QF.refl _)

/-! ### list facts -/

theorem mem_eraseIdx_of_ne {α : Type} {l : List α} {i : Nat} {x y : α} (hx : x ∈ l) (hy : l[i]? = some y)
    (hne : x ≠ y) : x ∈ l.eraseIdx i := by
  obtain ⟨k, hk⟩ := List.mem_iff_getElem?.mp hx
  refine List.mem_eraseIdx_iff_getElem?.mpr ⟨k, ?_, hk⟩
  rintro rfl
  rw [hy] at hk; cases hk; exact hne rfl

theorem mem_set_of_ne {α : Type} {l : List α} {i : Nat} {x y : α} (z : α) (hx : x ∈ l) (hy : l[i]? = some y)
    (hne : x ≠ y) : x ∈ l.set i z := by
  obtain ⟨k, hk⟩ := List.mem_iff_getElem?.mp hx
  have hki : i ≠ k := by
    rintro rfl
    rw [hy] at hk; cases hk; exact hne rfl
  refine List.mem_of_getElem? (i := k) ?_
  rw [List.getElem?_set]; simp only [hki, if_false]; exact hk

theorem head?_eraseIdx_pos {α : Type} {l : List α} {m : Nat} (hm : 0 < m) : (l.eraseIdx m).head? = l.head? := by
  rw [List.head?_eq_getElem?, List.head?_eq_getElem?, List.getElem?_eraseIdx_of_lt hm]

theorem head?_set_pos {α : Type} {l : List α} {m : Nat} {a : α} (hm : 0 < m) : (l.set m a).head? = l.head? := by
  rw [List.head?_eq_getElem?, List.head?_eq_getElem?, List.getElem?_set]
  have : m ≠ 0 := by omega
  simp only [this, if_false]

theorem head?_insertIdx_succ {α : Type} {l : List α} {k : Nat} {a : α} :
    (l.insertIdx (k + 1) a).head? = l.head? := by
  rw [List.head?_eq_getElem?, List.head?_eq_getElem?, List.getElem?_insertIdx_of_lt (Nat.succ_pos k)]

theorem getElem?_lt_of_some {α : Type} {l : List α} {i : Nat} {x : α} (h : l[i]? = some x) : i < l.length := by
  by_cases hj : i < l.length
  · exact hj
  · rw [List.getElem?_eq_none (Nat.le_of_not_lt hj)] at h; cases h

/-! ### single updates of the two lists -/

theorem aapost_af {s : State} (hi : HInv s) (hr : Rooted s.dom s.openElems) (af' : List FormatEntry)
    (haf : ∀ x t, FormatEntry.element x t ∈ af' → FormatEntry.element x t ∈ s.activeFormatting ∨
      (IsEl s.dom x ∧ nm s.dom x = ⟨nsHtml, t.name⟩ ∧ isOneOf t.name fmtNames = true)) :
    AAPost s { s with activeFormatting := af' } :=
  aapost_upd hi hr s.openElems af' rfl (fun _ hx => Or.inl hx) haf (fun _ hx _ => hx) (Nat.le_refl _)

theorem aapost_af_sub {s : State} (hi : HInv s) (hr : Rooted s.dom s.openElems) (af' : List FormatEntry)
    (haf : ∀ e ∈ af', e ∈ s.activeFormatting) : AAPost s { s with activeFormatting := af' } :=
  aapost_af hi hr af' (fun _ _ hx => Or.inl (haf _ hx))

theorem aapost_erase {s : State} (hi : HInv s) (hr : Rooted s.dom s.openElems) {m : Nat} {node : Id}
    (hm : 0 < m) (hget : s.openElems[m]? = some node) (hns : specialTag (nm s.dom node) = false) :
    AAPost s { s with openElems := s.openElems.eraseIdx m } := by
  refine aapost_upd hi hr (s.openElems.eraseIdx m) s.activeFormatting (head?_eraseIdx_pos hm) ?_
    (fun _ _ hx => Or.inl hx) ?_ (tcount_sublist (List.eraseIdx_sublist _ _))
  · intro x hx; exact Or.inl (List.mem_of_mem_eraseIdx hx)
  · intro x hx hs
    refine mem_eraseIdx_of_ne hx hget ?_
    rintro rfl; rw [hns] at hs; cases hs

theorem aapost_set {s : State} (hi : HInv s) (hr : Rooted s.dom s.openElems) {m : Nat} {node new : Id}
    (af' : List FormatEntry) (hm : 0 < m) (hget : s.openElems[m]? = some node)
    (hns : specialTag (nm s.dom node) = false) (hel : IsEl s.dom new) (hf : isFmtE (nm s.dom new) = true)
    (haf : ∀ x t, FormatEntry.element x t ∈ af' → FormatEntry.element x t ∈ s.activeFormatting ∨
      (IsEl s.dom x ∧ nm s.dom x = ⟨nsHtml, t.name⟩ ∧ isOneOf t.name fmtNames = true)) :
    AAPost s { s with openElems := s.openElems.set m new, activeFormatting := af' } := by
  refine aapost_upd hi hr (s.openElems.set m new) af' (head?_set_pos hm) ?_ haf ?_ ?_
  · intro x hx
    rcases List.mem_or_eq_of_mem_set hx with h | h
    · exact Or.inl h
    · subst h; exact Or.inr ⟨hel, hf⟩
  · intro x hx hs
    refine mem_set_of_ne _ hx hget ?_
    rintro rfl; rw [hns] at hs; cases hs
  · exact countP_set_le (isTmpl_of_fmt hf) _ _

theorem aapost_insert {s : State} (hi : HInv s) (hr : Rooted s.dom s.openElems) {k : Nat} {new : Id}
    (hk : k + 1 ≤ s.openElems.length) (hel : IsEl s.dom new) (hf : isFmtE (nm s.dom new) = true) :
    AAPost s { s with openElems := s.openElems.insertIdx (k + 1) new } := by
  refine aapost_upd hi hr (s.openElems.insertIdx (k + 1) new) s.activeFormatting head?_insertIdx_succ ?_
    (fun _ _ hx => Or.inl hx) ?_ (countP_insertIdx_le (isTmpl_of_fmt hf) _ _)
  · intro x hx
    rcases (List.mem_insertIdx hk).mp hx with h | h
    · subst h; exact Or.inr ⟨hel, hf⟩
    · exact Or.inl h
  · intro x hx _
    exact (List.mem_insertIdx hk).mpr (Or.inr hx)

/-! ### pure versions of the search loops -/

def ffbP (d : Dom) : List Id → Nat → Option (Nat × Id)
  | [], _ => none
  | e :: rest, i => if specialTag (nm d e) then some (i, e) else ffbP d rest (i + 1)

theorem ffbP_congr {d d' : Dom} : ∀ {l : List Id} {n : Nat}, (∀ x ∈ l, nm d' x = nm d x) →
    ffbP d' l n = ffbP d l n := by
  intro l
  induction l with
  | nil => intro _ _; rfl
  | cons a t ih =>
    intro n h
    simp only [ffbP]
    rw [h a List.mem_cons_self, ih (fun x hx => h x (List.mem_cons_of_mem _ hx))]

theorem sat_findFurthestBlock : ∀ (l : List Id) (i : Nat) (s : State), AllEl s.dom l →
    Sat (findFurthestBlock l i) s (fun r s' => r = ffbP s.dom l i ∧ QF s s') := by
  intro l
  induction l with
  | nil => intro i s _; exact sat_pure ⟨rfl, QF.refl s⟩
  | cons e rest ih =>
    intro i s hall
    unfold findFurthestBlock
    have hel := hall e List.mem_cons_self
    refine (sat_elemIn hel).bind ?_
    rintro b s1 ⟨rfl, hq1⟩
    by_cases hsp : specialTag (nm s.dom e) = true
    · simp only [hsp, if_true]
      exact sat_pure ⟨by simp [ffbP, hsp], hq1⟩
    · simp only [hsp, if_false, Bool.false_eq_true]
      have hall' : AllEl s.dom rest := hall.sub (fun x hx => List.mem_cons_of_mem _ hx)
      refine (ih (i + 1) s1 (hall'.ext hq1.ext)).mono ?_
      rintro r s2 ⟨rfl, hq2⟩
      refine ⟨?_, hq1.trans hq2⟩
      simp only [ffbP, hsp, if_false, Bool.false_eq_true]
      exact ffbP_congr (fun x hx => hall'.nm_eq hq1.ext hx)

theorem ffbP_none {d : Dom} : ∀ {l : List Id} {i : Nat}, ffbP d l i = none →
    ∀ y ∈ l, specialTag (nm d y) = false := by
  intro l
  induction l with
  | nil => intro i _ y hy; simp at hy
  | cons e rest ih =>
    intro i h y hy
    simp only [ffbP] at h
    by_cases hsp : specialTag (nm d e) = true
    · simp [hsp] at h
    · simp only [hsp, if_false, Bool.false_eq_true] at h
      rcases List.mem_cons.mp hy with rfl | hy
      · simpa using hsp
      · exact ih h y hy

theorem ffbP_some {d : Dom} : ∀ {l : List Id} {i j : Nat} {e : Id}, ffbP d l i = some (j, e) →
    i ≤ j ∧ l[j - i]? = some e ∧ specialTag (nm d e) = true ∧
      ∀ k y, k < j - i → l[k]? = some y → specialTag (nm d y) = false := by
  intro l
  induction l with
  | nil => intro i j e h; simp [ffbP] at h
  | cons z rest ih =>
    intro i j e h
    simp only [ffbP] at h
    by_cases hsp : specialTag (nm d z) = true
    · simp only [hsp, if_true, Option.some.injEq, Prod.mk.injEq] at h
      obtain ⟨rfl, rfl⟩ := h
      exact ⟨Nat.le_refl _, by simp, hsp, fun k y hk => by omega⟩
    · simp only [hsp, if_false, Bool.false_eq_true] at h
      obtain ⟨h1, h2, h3, h4⟩ := ih h
      have hji : j - i = (j - (i + 1)) + 1 := by omega
      refine ⟨by omega, by rw [hji, List.getElem?_cons_succ]; exact h2, h3, ?_⟩
      intro k y hk hy
      cases k with
      | zero =>
        simp only [List.getElem?_cons_zero, Option.some.injEq] at hy
        subst hy; simpa using hsp
      | succ k =>
        rw [List.getElem?_cons_succ] at hy
        exact h4 k y (by omega) hy

def posP (x : Id) : List Id → Nat → Option Nat
  | [], _ => none
  | n :: rest, i => if n == x then some i else posP x rest (i + 1)

theorem sat_positionSameNode {x : Id} : ∀ (l : List Id) (i : Nat) (s : State),
    Sat (positionSameNode x l i) s (fun r s' => r = posP x l i ∧ QF s s') := by
  intro l
  induction l with
  | nil => intro i s; exact sat_pure ⟨rfl, QF.refl s⟩
  | cons n rest ih =>
    intro i s
    unfold positionSameNode
    refine sat_sameNode.bind ?_
    rintro b s1 ⟨rfl, hq1⟩
    by_cases hb : (n == x) = true
    · simp only [hb, if_true]; exact sat_pure ⟨by simp [posP, hb], hq1⟩
    · simp only [hb, if_false, Bool.false_eq_true]
      exact (ih (i + 1) s1).mono (fun r s2 h => ⟨by rw [h.1]; simp [posP, hb], hq1.trans h.2⟩)

theorem posP_of_mem {x : Id} : ∀ {l : List Id} {i : Nat}, x ∈ l →
    ∃ j, posP x l i = some j ∧ i ≤ j ∧ j - i < l.length := by
  intro l
  induction l with
  | nil => intro i h; simp at h
  | cons n rest ih =>
    intro i h
    by_cases hb : (n == x) = true
    · exact ⟨i, by simp [posP, hb], Nat.le_refl _, by simp⟩
    · have hx : x ∈ rest := by
        rcases List.mem_cons.mp h with rfl | h
        · simp at hb
        · exact h
      obtain ⟨j, h1, h2, h3⟩ := ih (i := i + 1) hx
      exact ⟨j, by simp [posP, hb, h1], by omega, by simp; omega⟩

theorem sat_findAInAF : ∀ (l : List (Nat × Id × Tag)) (s : State), (∀ e ∈ l, IsEl s.dom e.2.1) →
    Sat (findAInAF l) s (fun r s' => QF s s' ∧
      ∀ n, r = some n → (∃ e ∈ l, e.2.1 = n) ∧ nm s.dom n = ⟨nsHtml, "a".toList⟩) := by
  intro l
  induction l with
  | nil => intro s _; exact sat_pure ⟨QF.refl s, by simp⟩
  | cons e rest ih =>
    intro s hall
    obtain ⟨i, n, t⟩ := e
    unfold findAInAF
    have hel : IsEl s.dom n := hall (i, n, t) List.mem_cons_self
    refine (sat_htmlElemNamed hel).bind ?_
    rintro b s1 ⟨rfl, hq1⟩
    split
    · rename_i hb
      refine sat_pure ⟨hq1, ?_⟩
      intro n' hn'
      cases hn'
      exact ⟨⟨_, List.mem_cons_self, rfl⟩, namedP_nm hb⟩
    · refine (ih s1 (fun e he => (hall e (List.mem_cons_of_mem _ he)).ext hq1.ext)).mono ?_
      rintro r s2 ⟨hq2, h⟩
      refine ⟨hq1.trans hq2, ?_⟩
      intro n' hn'
      obtain ⟨⟨e, he, hen⟩, h2⟩ := h n' hn'
      refine ⟨⟨e, List.mem_cons_of_mem _ he, hen⟩, ?_⟩
      have hel' : IsEl s.dom n' := by rw [← hen]; exact hall e (List.mem_cons_of_mem _ he)
      rw [← nm_ext hq1.ext hel']; exact h2

/-! ### the inner loop of the adoption agency -/

/-- the bookmark is the formatting element itself, or a (new) element that has an entry in the list
of active formatting elements and does not occur on the stack below `n` -/
def BmOk (s : State) (fmtElem : Id) (n : Nat) : Bookmark → Prop
  | .replace h => h = fmtElem
  | .insertAfter p => (∃ t, FormatEntry.element p t ∈ s.activeFormatting) ∧
      ∀ k : Nat, k < n → s.openElems[k]? ≠ some p

/-- the loop invariant: `n` is `node_index` (before `node_index -= 1`) -/
structure InnerInv (s : State) (fmtElem fb : Id) (fmtIdx n : Nat) (bm : Bookmark) : Prop where
  lt : fmtIdx < n
  le : n ≤ s.openElems.length
  atFmt : s.openElems[fmtIdx]? = some fmtElem
  mid : ∀ k y, fmtIdx < k → k < n → s.openElems[k]? = some y → specialTag (nm s.dom y) = false
  fbMem : fb ∈ s.openElems
  fbSp : specialTag (nm s.dom fb) = true
  fmtAF : ∃ t, FormatEntry.element fmtElem t ∈ s.activeFormatting
  bm : BmOk s fmtElem n bm

theorem BmOk.of_qf {s s' : State} {fmtElem : Id} {n : Nat} {bm : Bookmark} (h : BmOk s fmtElem n bm)
    (hq : QF s s') : BmOk s' fmtElem n bm := by
  cases bm with
  | replace x => exact h
  | insertAfter p =>
    unfold BmOk at h ⊢
    rw [hq.activeFormatting, hq.openElems]; exact h

theorem InnerInv.of_qf {s s' : State} {fmtElem fb : Id} {fmtIdx n : Nat} {bm : Bookmark} (hi : HInv s)
    (h : InnerInv s fmtElem fb fmtIdx n bm) (hq : QF s s') : InnerInv s' fmtElem fb fmtIdx n bm where
  lt := h.lt
  le := by rw [hq.openElems]; exact h.le
  atFmt := by rw [hq.openElems]; exact h.atFmt
  mid := fun k y h1 h2 h3 => by
    rw [hq.openElems] at h3
    rw [nm_ext hq.ext (hi.open_el y (List.mem_of_getElem? h3))]
    exact h.mid k y h1 h2 h3
  fbMem := by rw [hq.openElems]; exact h.fbMem
  fbSp := by rw [nm_ext hq.ext (hi.open_el fb h.fbMem)]; exact h.fbSp
  fmtAF := by rw [hq.activeFormatting]; exact h.fmtAF
  bm := h.bm.of_qf hq

theorem InnerInv.idx_lt {s : State} {fmtElem fb node : Id} {fmtIdx m : Nat} {bm : Bookmark}
    (h : InnerInv s fmtElem fb fmtIdx (m + 1) bm) (hget : s.openElems[m]? = some node) (hne : node ≠ fmtElem) :
    fmtIdx < m := by
  have := h.lt
  by_cases he : fmtIdx = m
  · subst he; rw [h.atFmt] at hget; cases hget; exact absurd rfl hne
  · omega

theorem InnerInv.node_ns {s : State} {fmtElem fb node : Id} {fmtIdx m : Nat} {bm : Bookmark}
    (h : InnerInv s fmtElem fb fmtIdx (m + 1) bm) (hget : s.openElems[m]? = some node) (hne : node ≠ fmtElem) :
    specialTag (nm s.dom node) = false :=
  h.mid m node (h.idx_lt hget hne) (Nat.lt_succ_self _) hget

theorem InnerInv.fb_ne {s : State} {fmtElem fb node : Id} {fmtIdx m : Nat} {bm : Bookmark}
    (h : InnerInv s fmtElem fb fmtIdx (m + 1) bm) (hget : s.openElems[m]? = some node) (hne : node ≠ fmtElem) :
    fb ≠ node := by
  rintro rfl
  have := h.node_ns hget hne
  rw [h.fbSp] at this; cases this

/-- `open_elems.remove(node_index)` -/
theorem InnerInv.erase {s : State} {fmtElem fb node : Id} {fmtIdx m : Nat} {bm : Bookmark}
    (h : InnerInv s fmtElem fb fmtIdx (m + 1) bm) (hget : s.openElems[m]? = some node) (hne : node ≠ fmtElem) :
    InnerInv { s with openElems := s.openElems.eraseIdx m } fmtElem fb fmtIdx m bm where
  lt := h.idx_lt hget hne
  le := by
    show m ≤ (s.openElems.eraseIdx m).length
    have := getElem?_lt_of_some hget
    rw [List.length_eraseIdx]; simp only [this, if_true]; omega
  atFmt := by
    show (s.openElems.eraseIdx m)[fmtIdx]? = _
    rw [List.getElem?_eraseIdx_of_lt (h.idx_lt hget hne)]; exact h.atFmt
  mid := fun k y h1 h2 h3 => by
    have h3' : (s.openElems.eraseIdx m)[k]? = some y := h3
    rw [List.getElem?_eraseIdx_of_lt h2] at h3'
    exact h.mid k y h1 (by omega) h3'
  fbMem := mem_eraseIdx_of_ne h.fbMem hget (h.fb_ne hget hne)
  fbSp := h.fbSp
  fmtAF := h.fmtAF
  bm := by
    have hb := h.bm
    cases bm with
    | replace x => exact hb
    | insertAfter p =>
      refine ⟨hb.1, ?_⟩
      intro k hk
      show (s.openElems.eraseIdx m)[k]? ≠ _
      rw [List.getElem?_eraseIdx_of_lt hk]
      exact hb.2 k (by omega)

/-- `active_formatting.remove(position)` for the entry of `node` -/
theorem InnerInv.afErase {s : State} {fmtElem fb node : Id} {fmtIdx m pos : Nat} {bm : Bookmark} {t : Tag}
    (h : InnerInv s fmtElem fb fmtIdx (m + 1) bm) (hget : s.openElems[m]? = some node) (hne : node ≠ fmtElem)
    (hpos : s.activeFormatting[pos]? = some (.element node t)) :
    InnerInv { s with activeFormatting := s.activeFormatting.eraseIdx pos } fmtElem fb fmtIdx (m + 1) bm where
  lt := h.lt
  le := h.le
  atFmt := h.atFmt
  mid := h.mid
  fbMem := h.fbMem
  fbSp := h.fbSp
  fmtAF := by
    obtain ⟨t', ht'⟩ := h.fmtAF
    refine ⟨t', mem_eraseIdx_of_ne ht' hpos ?_⟩
    intro he; cases he; exact hne rfl
  bm := by
    have hb := h.bm
    cases bm with
    | replace x => exact hb
    | insertAfter p =>
      obtain ⟨⟨t', ht'⟩, h2⟩ := hb
      refine ⟨⟨t', mem_eraseIdx_of_ne ht' hpos ?_⟩, h2⟩
      intro he; cases he
      exact h2 m (Nat.lt_succ_self _) hget

/-- `open_elems[node_index] = new_element; active_formatting[node_formatting_index] = new entry` -/
theorem InnerInv.replace {s : State} {fmtElem fb node new : Id} {fmtIdx m nfi : Nat} {bm bm' : Bookmark} {t : Tag}
    (h : InnerInv s fmtElem fb fmtIdx (m + 1) bm) (hget : s.openElems[m]? = some node) (hne : node ≠ fmtElem)
    (hpos : s.activeFormatting[nfi]? = some (.element node t))
    (hfresh : ∀ k : Nat, s.openElems[k]? ≠ some new) (hbm : bm' = bm ∨ bm' = .insertAfter new) :
    InnerInv { s with openElems := s.openElems.set m new,
                      activeFormatting := s.activeFormatting.set nfi (.element new t) } fmtElem fb fmtIdx m bm' where
  lt := h.idx_lt hget hne
  le := by
    show m ≤ (s.openElems.set m new).length
    have := getElem?_lt_of_some hget
    rw [List.length_set]; omega
  atFmt := by
    show (s.openElems.set m new)[fmtIdx]? = _
    have := h.idx_lt hget hne
    rw [List.getElem?_set]
    have hmf : m ≠ fmtIdx := by omega
    simp only [hmf, if_false]; exact h.atFmt
  mid := fun k y h1 h2 h3 => by
    have h3' : (s.openElems.set m new)[k]? = some y := h3
    rw [List.getElem?_set] at h3'
    have hmk : m ≠ k := by omega
    simp only [hmk, if_false] at h3'
    exact h.mid k y h1 (by omega) h3'
  fbMem := mem_set_of_ne _ h.fbMem hget (h.fb_ne hget hne)
  fbSp := h.fbSp
  fmtAF := by
    obtain ⟨t', ht'⟩ := h.fmtAF
    refine ⟨t', mem_set_of_ne _ ht' hpos ?_⟩
    intro he; cases he; exact hne rfl
  bm := by
    have hset : ∀ k, k < m → (s.openElems.set m new)[k]? = s.openElems[k]? := by
      intro k hk
      rw [List.getElem?_set]
      have hmk : m ≠ k := by omega
      simp only [hmk, if_false]
    rcases hbm with rfl | rfl
    · have hb := h.bm
      cases bm' with
      | replace x => exact hb
      | insertAfter p =>
        obtain ⟨⟨t', ht'⟩, h2⟩ := hb
        refine ⟨⟨t', mem_set_of_ne _ ht' hpos ?_⟩, ?_⟩
        · intro he; cases he
          exact h2 m (Nat.lt_succ_self _) hget
        · intro k hk
          show (s.openElems.set m new)[k]? ≠ _
          rw [hset k hk]; exact h2 k (by omega)
    · refine ⟨⟨t, List.mem_set (getElem?_lt_of_some hpos) _⟩, ?_⟩
      intro k hk
      show (s.openElems.set m new)[k]? ≠ _
      rw [hset k hk]; exact hfresh k

theorem BmOk.mono {s : State} {fmtElem : Id} {n n' : Nat} {bm : Bookmark} (h : BmOk s fmtElem n bm)
    (hn : n' ≤ n) : BmOk s fmtElem n' bm := by
  cases bm with
  | replace x => exact h
  | insertAfter p => exact ⟨h.1, fun k hk => h.2 k (by omega)⟩

abbrev InnerPost (s : State) (fmtElem fb : Id) (r : Id × Bookmark) (s' : State) : Prop :=
  AAPost s s' ∧ fb ∈ s'.openElems ∧ (∃ t, FormatEntry.element fmtElem t ∈ s'.activeFormatting) ∧
    BmOk s' fmtElem 0 r.2

theorem sat_aaInner {fmtElem fb : Id} {fmtIdx : Nat} : ∀ (n c : Nat) (s : State) (lastNode : Id) (bm : Bookmark),
    HInv s → Rooted s.dom s.openElems → InnerInv s fmtElem fb fmtIdx n bm →
    Sat (aaInner fmtElem fb n c lastNode bm) s (InnerPost s fmtElem fb) := by
  intro n
  induction n with
  | zero => intro c s lastNode bm _ _ hv; exact absurd hv.lt (Nat.not_lt_zero _)
  | succ m ih =>
    intro c s lastNode bm hi hr hv
    unfold aaInner
    dsimp only
    refine sat_getS_bind ?_
    have hmlt : m < s.openElems.length := hv.le
    obtain ⟨node, hget⟩ : ∃ node, s.openElems[m]? = some node := ⟨_, List.getElem?_eq_getElem hmlt⟩
    rw [hget]
    dsimp only
    refine Sat.bind (Q := fun r s1 => node = r ∧ s = s1) (sat_pure ⟨rfl, rfl⟩) ?_
    rintro node' s0 ⟨rfl, rfl⟩
    refine sat_sameNode.bind ?_
    rintro b s1 ⟨rfl, hq1⟩
    by_cases hb : (node == fmtElem) = true
    · simp only [hb, if_true]
      exact sat_pure ⟨AAPost.of_qf hi hr hq1, by rw [hq1.openElems]; exact hv.fbMem,
        by rw [hq1.activeFormatting]; exact hv.fmtAF, (hv.bm.mono (Nat.zero_le _)).of_qf hq1⟩
    · simp only [hb, if_false, Bool.false_eq_true]
      have hne : node ≠ fmtElem := by simpa using hb
      have hErase : ∀ s2, AAPost s s2 → InnerInv s2 fmtElem fb fmtIdx (m + 1) bm → s2.openElems[m]? = some node →
          Sat (do
            modS fun s => { s with openElems := s.openElems.eraseIdx m }
            aaInner fmtElem fb m (c + 1) lastNode bm) s2 (InnerPost s fmtElem fb) := by
        intro s2 hp2 hv2 hget2
        refine sat_modS_bind ?_
        have hm0 : 0 < m := by have := hv2.idx_lt hget2 hne; omega
        have hp3 := aapost_erase hp2.hinv hp2.rooted hm0 hget2 (hv2.node_ns hget2 hne)
        refine (ih (c + 1) _ lastNode bm hp3.hinv hp3.rooted (hv2.erase hget2 hne)).mono ?_
        rintro r s4 ⟨hp4, h1, h2, h3⟩
        exact ⟨(hp2.trans hi hp3).trans hi hp4, h1, h2, h3⟩
      have hRec : ∀ (bm' : Bookmark) (s6 : State) (new : Id), AAPost s s6 → InnerInv s6 fmtElem fb fmtIdx m bm' →
          Sat (do
            let bookmark ← pure bm'
            sinkUnit (SinkOp.removeFromParent lastNode)
            sinkUnit (SinkOp.append new (NodeOrText.node lastNode))
            aaInner fmtElem fb m (c + 1) new bookmark) s6 (InnerPost s fmtElem fb) := by
        intro bm' s6 new hp6 hv6
        refine Sat.bind (Q := fun r s' => bm' = r ∧ s6 = s') (sat_pure ⟨rfl, rfl⟩) ?_
        rintro bm'' s6' ⟨rfl, rfl⟩
        refine (sat_sinkUnit_mut (op := .removeFromParent lastNode) trivial).bind ?_
        intro _ s7 hq7
        refine (sat_sinkUnit_mut (op := .append new (.node lastNode)) trivial).bind ?_
        intro _ s8 hq8
        have hq68 := hq7.trans hq8
        have hp8 : AAPost s s8 := hp6.qf_right hi hq68
        refine (ih (c + 1) s8 new bm' hp8.hinv hp8.rooted (hv6.of_qf hp6.hinv hq68)).mono ?_
        rintro r s9 ⟨hp9, h1, h2, h3⟩
        exact ⟨hp8.trans hi hp9, h1, h2, h3⟩
      have hp1 : AAPost s s1 := AAPost.of_qf hi hr hq1
      have hv1 := hv.of_qf hi hq1
      have hget1 : s1.openElems[m]? = some node := by rw [hq1.openElems]; exact hget
      by_cases hc : c + 1 > 3
      · simp only [hc, if_true]
        refine sat_positionInActiveFormatting.bind ?_
        rintro r s2 ⟨rfl, hq2⟩
        have hp2 : AAPost s s2 := hp1.qf_right hi hq2
        have hv2 := hv1.of_qf hp1.hinv hq2
        have hget2 : s2.openElems[m]? = some node := by rw [hq2.openElems]; exact hget1
        cases hpos : afPos node s1.activeFormatting 0 with
        | none => dsimp only; exact hErase s2 hp2 hv2 hget2
        | some pos =>
          dsimp only
          obtain ⟨hlt, t, hent⟩ := afPos_zero_lt hpos
          rw [← hq2.activeFormatting] at hlt hent
          refine (sat_afRemove hlt).bind ?_
          rintro _ s3 rfl
          exact hErase _ (hp2.trans hi (aapost_af_sub hp2.hinv hp2.rooted _
            (fun e he => List.mem_of_mem_eraseIdx he))) (hv2.afErase hget2 hne hent) hget2
      · simp only [hc, if_false]
        refine sat_positionInActiveFormatting.bind ?_
        rintro r s2 ⟨rfl, hq2⟩
        have hp2 : AAPost s s2 := hp1.qf_right hi hq2
        have hv2 := hv1.of_qf hp1.hinv hq2
        have hget2 : s2.openElems[m]? = some node := by rw [hq2.openElems]; exact hget1
        cases hpos : afPos node s1.activeFormatting 0 with
        | none => dsimp only; exact hErase s2 hp2 hv2 hget2
        | some nfi =>
          dsimp only
          obtain ⟨hlt, t, hent⟩ := afPos_zero_lt hpos
          rw [← hq2.activeFormatting] at hlt hent
          refine sat_getS_bind ?_
          rw [hent]
          dsimp only
          refine sat_sameNode.bind ?_
          rintro b3 s3 ⟨rfl, hq3⟩
          simp only [beq_self_eq_true, Bool.not_true, Bool.false_eq_true, if_false]
          refine Sat.bind (Q := fun r s' => t = r ∧ s3 = s') (sat_pure ⟨rfl, rfl⟩) ?_
          rintro t' s3' ⟨rfl, rfl⟩
          have hp3 : AAPost s s3 := hp2.qf_right hi hq3
          have hv3 := hv2.of_qf hp2.hinv hq3
          have hget3 : s3.openElems[m]? = some node := by rw [hq3.openElems]; exact hget2
          have hent3 : s3.activeFormatting[nfi]? = some (.element node t) := by
            rw [hq3.activeFormatting]; exact hent
          refine sat_createElementWithFlags.bind ?_
          intro new s4 hcr
          have hp4 : AAPost s s4 := hp3.qf_right hi hcr.qf
          have hv4 := hv3.of_qf hp3.hinv hcr.qf
          have hget4 : s4.openElems[m]? = some node := by rw [hcr.qf.openElems]; exact hget3
          have hent4 : s4.activeFormatting[nfi]? = some (.element node t) := by
            rw [hcr.qf.activeFormatting]; exact hent3
          refine sat_modS_bind ?_
          -- the new element
          have htfmt : isOneOf t.name fmtNames = true :=
            (hp3.hinv.af node t (List.mem_of_getElem? hent3)).2.2
          have hnmnew : nm s4.dom new = ⟨nsHtml, t.name⟩ := hcr.nm
          have hfnew : isFmtE (nm s4.dom new) = true := by rw [hnmnew]; exact isFmtE_mk htfmt
          have hfresh : ∀ k : Nat, s4.openElems[k]? ≠ some new := by
            intro k hk
            rw [hcr.qf.openElems] at hk
            exact hcr.ne (hp3.hinv.open_el new (List.mem_of_getElem? hk)) rfl
          have hm0 : 0 < m := by have := hv4.idx_lt hget4 hne; omega
          have hp5 := aapost_set hp4.hinv hp4.rooted (s4.activeFormatting.set nfi (.element new t)) hm0 hget4
            (hv4.node_ns hget4 hne) hcr.el hfnew (by
              intro x t' hx
              rcases List.mem_or_eq_of_mem_set hx with h | h
              · exact Or.inl h
              · cases h; exact Or.inr ⟨hcr.el, hnmnew, htfmt⟩)
          refine sat_sameNode.bind ?_
          rintro b6 s6 ⟨rfl, hq6⟩
          have hp6 : AAPost s s6 := (hp4.trans hi hp5).qf_right hi hq6
          split
          · exact hRec _ s6 new hp6 ((hv4.replace hget4 hne hent4 hfresh (Or.inr rfl)).of_qf hp5.hinv hq6)
          · exact hRec _ s6 new hp6 ((hv4.replace hget4 hne hent4 hfresh (Or.inl rfl)).of_qf hp5.hinv hq6)

/-! ### one iteration of the outer loop -/

/-- `if c { pre } rest` -/
theorem sat_if_pre {β : Type} {c : Prop} [Decidable c] {pre : M Unit} {rest : M β} {s : State}
    {R : β → State → Prop} (hpre : Sat pre s (fun _ s' => QF s s')) (hrest : ∀ s', QF s s' → Sat rest s' R) :
    Sat (if c then (do pre; rest) else rest) s R := by
  split
  · exact hpre.bind (fun _ s' h => hrest s' h)
  · exact hrest s (QF.refl s)

theorem not_root_of_not_special {d : Dom} {l pre post : List Id} {x : Id} (hr : Rooted d l)
    (heq : l = pre ++ x :: post) (hns : specialTag (nm d x) = false) : pre ≠ [] := by
  rintro rfl
  obtain ⟨r, rest, hl, hn⟩ := hr
  rw [hl] at heq
  simp only [List.nil_append, List.cons.injEq] at heq
  rw [← heq.1, hn, special_htmlName] at hns
  cases hns

/-- a non-special element is removed from the stack -/
theorem AAPost.of_st_remove {s s' : State} (hi : HInv s) (hr : Rooted s.dom s.openElems) {pre post : List Id}
    {x : Id} (heq : s.openElems = pre ++ x :: post) (hns : specialTag (nm s.dom x) = false)
    (st : St s s' (pre ++ post)) : AAPost s s' := by
  have hpre := not_root_of_not_special hr heq hns
  have hm : 0 < pre.length := List.length_pos_iff.mpr hpre
  have hget : s.openElems[pre.length]? = some x := by rw [heq]; simp
  have h1 := aapost_erase hi hr hm hget hns
  have he : s.openElems.eraseIdx pre.length = pre ++ post := by rw [heq, eraseIdx_append_cons]
  have h2 : Same { s with openElems := s.openElems.eraseIdx pre.length } s' :=
    ⟨⟨st.fr.mode, st.fr.origMode, st.fr.templateModes, st.fr.pendingTableText, st.fr.headElem, st.fr.formElem,
      st.fr.contextElem, st.fr.docHandle, st.fr.opts, st.fr.ext⟩, by rw [st.openElems]; exact he.symm, st.af⟩
  exact h1.trans hi (AAPost.of_same h1.hinv h1.rooted h2)

/-- step 19: move the new element below the furthest block on the stack -/
theorem sat_aaStep19 {fmtElem fb new : Id} {s : State} (hi : HInv s) (hr : Rooted s.dom s.openElems)
    (hfb : fb ∈ s.openElems) (hbs : specialTag (nm s.dom fb) = true)
    (hfs : specialTag (nm s.dom fmtElem) = false) (hel : IsEl s.dom new) (hf : isFmtE (nm s.dom new) = true) :
    Sat (do
      removeFromStack fmtElem
      let __do_lift ← getS
      let __do_lift ← positionSameNode fb __do_lift.openElems 0
      match __do_lift with
        | none => panicAt "fb-missing" "mod.rs:916" "furthest block missing from open element stack"
        | some nfbi => do
          modS fun s => { s with openElems := s.openElems.insertIdx (nfbi + 1) new }
          pure false) s (fun _ s' => AAPost s s') := by
  have hne : fb ≠ fmtElem := by rintro rfl; rw [hbs] at hfs; cases hfs
  refine sat_removeFromStack.bind ?_
  intro _ s1 h1
  have hp1 : AAPost s s1 ∧ fb ∈ s1.openElems := by
    rcases h1 with ⟨_, hsame⟩ | ⟨pre, post, heq, _, hst⟩
    · exact ⟨AAPost.of_same hi hr hsame, by rw [hsame.openElems]; exact hfb⟩
    · refine ⟨AAPost.of_st_remove hi hr heq hfs hst, ?_⟩
      rw [hst.openElems]
      rw [heq] at hfb
      rcases List.mem_append.mp hfb with h | h
      · exact List.mem_append_left _ h
      · rcases List.mem_cons.mp h with h | h
        · exact absurd h hne
        · exact List.mem_append_right _ h
  obtain ⟨hp1, hfb1⟩ := hp1
  refine sat_getS_bind ?_
  refine (sat_positionSameNode _ 0 s1).bind ?_
  rintro r s2 ⟨rfl, hq2⟩
  obtain ⟨j, hj, _, hjl⟩ := posP_of_mem (i := 0) hfb1
  rw [hj]
  dsimp only
  refine sat_modS_bind ?_
  have hp2 : AAPost s s2 := hp1.qf_right hi hq2
  have he2 : Ext s.dom s2.dom := hp2.fr.ext
  refine sat_pure (hp2.trans hi (aapost_insert hp2.hinv hp2.rooted ?_ (hel.ext he2) ?_))
  · rw [hq2.openElems]; omega
  · rw [nm_ext he2 hel]; exact hf

theorem placeOk_some {s : State} (hi : HInv s) (hr : Rooted s.dom s.openElems) {ca : Id} (hel : IsEl s.dom ca)
    (htc : TcOk s.dom ca) : PlaceOk s (some ca) :=
  let h := PlaceOk.of_hinv hi hr
  ⟨h.ne, h.el, h.tc, h.bottom, fun t ht => by cases ht; exact ⟨hel, htc⟩⟩

theorem sat_aaOuterStep {subject : Str} {s : State} (hi : HInv s) (hr : Rooted s.dom s.openElems)
    (hsub : isOneOf subject fmtNames = true) :
    Sat (aaOuterStep subject) s (fun _ s' => AAPost s s') := by
  unfold aaOuterStep
  dsimp only
  refine sat_getS_bind ?_
  split
  · -- no formatting element: "any other end tag"
    refine (sat_processEndTagInBody (tag := Tag.mk .endTag subject false [] false) hi hr (fmt_ne_html hsub)).bind ?_
    rintro _ s1 ⟨pre, post, heq, hst, hne, hpost⟩
    refine sat_pure (AAPost.of_st_prefix hi hr heq hne ?_ hst)
    intro y hy
    rcases hpost y hy with h | h
    · exact h
    · rw [namedP_nm h]; exact fmt_not_special hsub
  · rename_i fmtElemIndex fmtElem fmtElemTag hfind
    have hname : fmtElemTag.name = subject := by have := List.find?_some hfind; simpa using this
    have hent := mem_afEndToMarker (List.mem_of_find?_eq_some hfind)
    have hilt : fmtElemIndex < s.activeFormatting.length := getElem?_lt_of_some hent
    obtain ⟨hfel, hfnm, htfmt⟩ := hi.af fmtElem fmtElemTag (List.mem_of_getElem? hent)
    rw [hname] at hfnm
    have hfns : specialTag (nm s.dom fmtElem) = false := by rw [hfnm]; exact fmt_not_special hsub
    refine (sat_rposition (P := fun n => n == fmtElem) (fun x _ => answers_sameNode_right)).bind ?_
    rintro r s1 ⟨rfl, hq1⟩
    rcases rposL_spec (P := fun n => n == fmtElem) s.openElems with ⟨h1, _⟩ | ⟨pre, x, post, heq, h1, h2, _⟩
    · -- the formatting element is not open
      rw [h1]
      dsimp only
      refine sat_parseError.bind ?_
      intro _ s2 hq2
      have hq := hq1.trans hq2
      refine (sat_afRemove (by rw [hq.activeFormatting]; exact hilt)).bind ?_
      rintro _ s3 rfl
      have hp2 := AAPost.of_qf hi hr hq
      exact sat_pure (hp2.trans hi (aapost_af_sub hp2.hinv hp2.rooted _ (fun e he => List.mem_of_mem_eraseIdx he)))
    · rw [h1]
      dsimp only
      have hx : x = fmtElem := by simpa using h2
      subst hx
      have hpre : pre ≠ [] := not_root_of_not_special hr heq hfns
      have hprelen : 0 < pre.length := List.length_pos_iff.mpr hpre
      have hall1 : AllEl s1.dom s1.openElems := by rw [hq1.openElems]; exact hi.open_el.ext hq1.ext
      refine (sat_inScope (P := fun n => n == x) hall1 (fun y _ => answers_sameNode_right)).bind ?_
      rintro b s2 ⟨rfl, hq2⟩
      refine sat_ite (fun _ => ?_) (fun _ => ?_)
      · refine sat_parseError.bind ?_
        intro _ s3 hq3
        exact sat_pure (AAPost.of_qf hi hr ((hq1.trans hq2).trans hq3))
      · have hq12 := hq1.trans hq2
        obtain ⟨cur, hcur⟩ := getLast?_of_ne_nil (l := s2.openElems) (by
          rw [hq12.openElems, heq]; simp)
        refine (sat_currentNode hcur).bind ?_
        rintro cur' s2' ⟨rfl, rfl⟩
        refine sat_sameNode.bind ?_
        rintro b3 s3 ⟨rfl, hq3⟩
        refine sat_if_pre sat_parseError ?_
        intro s4 hq4
        have hq : QF s s4 := (hq12.trans hq3).trans hq4
        refine sat_getS_bind ?_
        have hdrop : List.drop pre.length s4.openElems = x :: post := by rw [hq.openElems, heq]; simp
        rw [hdrop]
        have hp4 : AAPost s s4 := AAPost.of_qf hi hr hq
        have hall4 : AllEl s4.dom (x :: post) :=
          hp4.hinv.open_el.sub (fun y hy => by rw [hq.openElems, heq]; exact List.mem_append_right _ hy)
        refine (sat_findFurthestBlock _ _ s4 hall4).bind ?_
        rintro r s5 ⟨rfl, hq5⟩
        have hp5 : AAPost s s5 := hp4.qf_right hi hq5
        have hopen5 : s5.openElems = pre ++ x :: post := by rw [hq5.openElems, hq.openElems, heq]
        have haf5 : s5.activeFormatting = s.activeFormatting := by rw [hq5.activeFormatting, hq.activeFormatting]
        have hnm5 : ∀ y ∈ s5.openElems, nm s5.dom y = nm s4.dom y := by
          intro y hy
          rw [hq5.openElems] at hy
          exact nm_ext hq5.ext (hp4.hinv.open_el y hy)
        cases hffb : ffbP s4.dom (x :: post) pre.length with
        | none =>
          -- no furthest block: pop up to and including the formatting element
          dsimp only
          refine sat_modS_bind ?_
          refine (sat_afRemove (by show fmtElemIndex < s5.activeFormatting.length; rw [haf5]; exact hilt)).bind ?_
          rintro _ s6 rfl
          have htake : s5.openElems.take pre.length = pre := by rw [hopen5]; simp
          rw [htake]
          refine sat_pure (hp5.trans hi (aapost_prefix hp5.hinv hp5.rooted _ hopen5 hpre ?_
            (fun e he => List.mem_of_mem_eraseIdx he)))
          intro y hy
          rw [hnm5 y (by rw [hopen5]; exact List.mem_append_right _ hy)]
          exact ffbP_none hffb y hy
        | some p =>
          obtain ⟨fbi, fb⟩ := p
          dsimp only
          obtain ⟨hle, hfbget, hfbsp4, hmid4⟩ := ffbP_some hffb
          have hfbmem : fb ∈ x :: post := List.mem_of_getElem? hfbget
          have hfbmem5 : fb ∈ s5.openElems := by rw [hopen5]; exact List.mem_append_right _ hfbmem
          have hfbsp5 : specialTag (nm s5.dom fb) = true := by rw [hnm5 fb hfbmem5]; exact hfbsp4
          have hxmem5 : x ∈ s5.openElems := by rw [hopen5]; simp
          have hfns5 : specialTag (nm s5.dom x) = false := by
            rw [nm_ext hp5.fr.ext hfel]; exact hfns
          have hlt : pre.length < fbi := by
            by_cases h0 : fbi - pre.length = 0
            · exfalso
              rw [h0] at hfbget
              simp only [List.getElem?_cons_zero, Option.some.injEq] at hfbget
              subst hfbget
              rw [hfbsp5] at hfns5; cases hfns5
            · omega
          have hnz : ¬ ((pre.length == 0) = true) := by simp; omega
          rw [if_neg hnz]
          refine sat_getS_bind ?_
          obtain ⟨ca, hca⟩ : ∃ ca, s5.openElems[pre.length - 1]? = some ca :=
            ⟨_, List.getElem?_eq_getElem (by rw [hopen5]; simp; omega)⟩
          rw [hca]
          dsimp only
          refine Sat.bind (Q := fun r s' => ca = r ∧ s5 = s') (sat_pure ⟨rfl, rfl⟩) ?_
          rintro ca' s5' ⟨rfl, rfl⟩
          have hcamem : ca ∈ s5.openElems := List.mem_of_getElem? hca
          have hcael : IsEl s5.dom ca := hp5.hinv.open_el ca hcamem
          have hcatc : TcOk s5.dom ca := hp5.hinv.open_tc ca hcamem
          -- the invariant of the inner loop
          have hv5 : InnerInv s5 x fb pre.length fbi (.replace x) := by
            refine ⟨hlt, ?_, by rw [hopen5]; simp, ?_, hfbmem5, hfbsp5, ⟨fmtElemTag, ?_⟩, rfl⟩
            · have := getElem?_lt_of_some hfbget
              rw [hopen5]; simp at this ⊢; omega
            · intro k y hk1 hk2 hy
              rw [hnm5 y (List.mem_of_getElem? hy)]
              rw [hopen5, List.getElem?_append_right (Nat.le_of_lt hk1)] at hy
              exact hmid4 (k - pre.length) y (by omega) hy
            · rw [haf5]; exact List.mem_of_getElem? hent
          refine (sat_aaInner fbi 0 s5 fb (.replace x) hp5.hinv hp5.rooted hv5).bind ?_
          rintro ⟨lastNode, bm⟩ s6 ⟨hp56, hfb6, hfmt6, hbm6⟩
          dsimp only
          have hp6 : AAPost s s6 := hp5.trans hi hp56
          refine (sat_sinkUnit_mut (op := .removeFromParent lastNode) trivial).bind ?_
          intro _ s7 hq7
          have hp7 : AAPost s s7 := hp6.qf_right hi hq7
          have he57 : Ext s5.dom s7.dom := hp56.fr.ext.trans hq7.ext
          refine (sat_insertAppropriately (placeOk_some hp7.hinv hp7.rooted (hcael.ext he57)
            (hcatc.ext he57 hcael))).bind ?_
          intro _ s8 hq8
          refine sat_createElementWithFlags.bind ?_
          intro new s9 hcr
          refine (sat_sinkUnit_mut (op := .reparentChildren fb new) trivial).bind ?_
          intro _ s10 hq10
          refine (sat_sinkUnit_mut (op := .append fb (.node new)) trivial).bind ?_
          intro _ s11 hq11
          have hq9_11 : QF s9 s11 := hq10.trans hq11
          have hq6_11 : QF s6 s11 := ((hq7.trans hq8).trans hcr.qf).trans hq9_11
          have hp11 : AAPost s s11 := hp6.qf_right hi hq6_11
          have hfb11 : fb ∈ s11.openElems := by rw [hq6_11.openElems]; exact hfb6
          have hfmt11 : ∃ t, FormatEntry.element x t ∈ s11.activeFormatting := by
            rw [hq6_11.activeFormatting]; exact hfmt6
          have he5_11 : Ext s5.dom s11.dom := hp56.fr.ext.trans hq6_11.ext
          have hfbsp11 : specialTag (nm s11.dom fb) = true := by
            rw [nm_ext he5_11 (hp5.hinv.open_el fb hfbmem5)]; exact hfbsp5
          have hfns11 : specialTag (nm s11.dom x) = false := by
            rw [nm_ext he5_11 (hp5.hinv.open_el x hxmem5)]; exact hfns5
          have hnewel : IsEl s11.dom new := hcr.el.ext hq9_11.ext
          have hnewnm : nm s11.dom new = ⟨nsHtml, fmtElemTag.name⟩ := by
            rw [nm_ext hq9_11.ext hcr.el]; exact hcr.nm
          have hnewf : isFmtE (nm s11.dom new) = true := by rw [hnewnm]; exact isFmtE_mk htfmt
          cases bm with
          | replace toReplace =>
            dsimp only
            have hx : toReplace = x := hbm6
            subst hx
            refine sat_positionInActiveFormatting.bind ?_
            rintro r s12 ⟨rfl, hq12⟩
            obtain ⟨t, ht⟩ := hfmt11
            obtain ⟨index, hidx⟩ := afPos_of_mem ht
            rw [hidx]
            dsimp only
            refine sat_modS_bind ?_
            have hp12 : AAPost s s12 := hp11.qf_right hi hq12
            have he12 : Ext s11.dom s12.dom := hq12.ext
            have hp13 := aapost_af hp12.hinv hp12.rooted
              (s12.activeFormatting.set index (FormatEntry.element new fmtElemTag)) (by
                intro y t' hy
                rcases List.mem_or_eq_of_mem_set hy with h | h
                · exact Or.inl h
                · cases h
                  exact Or.inr ⟨hnewel.ext he12, by rw [nm_ext he12 hnewel]; exact hnewnm, htfmt⟩)
            refine (sat_aaStep19 (fmtElem := toReplace) (fb := fb) (new := new) hp13.hinv hp13.rooted ?_ ?_ ?_ ?_ ?_).mono ?_
            · show fb ∈ s12.openElems
              rw [hq12.openElems]; exact hfb11
            · show specialTag (nm s12.dom fb) = true
              rw [nm_ext he12 (hp11.hinv.open_el fb hfb11)]; exact hfbsp11
            · show specialTag (nm s12.dom toReplace) = false
              rw [nm_ext he12 ((hp5.hinv.open_el toReplace hxmem5).ext he5_11)]; exact hfns11
            · exact hnewel.ext he12
            · show isFmtE (nm s12.dom new) = true
              rw [nm_ext he12 hnewel]; exact hnewf
            · intro _ s14 hp14
              exact (hp12.trans hi hp13).trans hi hp14
          | insertAfter previous =>
            dsimp only
            obtain ⟨tp, htp⟩ := (show (∃ t, FormatEntry.element previous t ∈ s6.activeFormatting) from hbm6.1)
            rw [← hq6_11.activeFormatting] at htp
            refine sat_positionInActiveFormatting.bind ?_
            rintro r s12 ⟨rfl, hq12⟩
            obtain ⟨index, hidx⟩ := afPos_of_mem htp
            obtain ⟨hidxlt, _⟩ := afPos_zero_lt hidx
            rw [hidx]
            dsimp only
            refine sat_modS_bind ?_
            have hp12 : AAPost s s12 := hp11.qf_right hi hq12
            have he12 : Ext s11.dom s12.dom := hq12.ext
            have hins : index + 1 ≤ s12.activeFormatting.length := by rw [hq12.activeFormatting]; omega
            have hp13 := aapost_af hp12.hinv hp12.rooted
              (s12.activeFormatting.insertIdx (index + 1) (FormatEntry.element new fmtElemTag)) (by
                intro y t' hy
                rcases (List.mem_insertIdx hins).mp hy with h | h
                · cases h
                  exact Or.inr ⟨hnewel.ext he12, by rw [nm_ext he12 hnewel]; exact hnewnm, htfmt⟩
                · exact Or.inl h)
            refine sat_positionInActiveFormatting.bind ?_
            rintro r s14 ⟨rfl, hq14⟩
            obtain ⟨t, ht⟩ := hfmt11
            have ht13 : FormatEntry.element x t ∈
                s12.activeFormatting.insertIdx (index + 1) (FormatEntry.element new fmtElemTag) :=
              (List.mem_insertIdx hins).mpr (Or.inr (by rw [hq12.activeFormatting]; exact ht))
            obtain ⟨oldIndex, hold⟩ := afPos_of_mem ht13
            obtain ⟨holdlt, _⟩ := afPos_zero_lt hold
            have hold' : afPos x
                ({ s12 with
                    activeFormatting := s12.activeFormatting.insertIdx (index + 1)
                      (FormatEntry.element new fmtElemTag) } : State).activeFormatting 0 = some oldIndex := hold
            rw [hold']
            dsimp only
            have hp14 : AAPost s s14 := (hp12.trans hi hp13).qf_right hi hq14
            refine (sat_afRemove (by rw [hq14.activeFormatting]; exact holdlt)).bind ?_
            rintro _ s15 rfl
            have hp15 := aapost_af_sub hp14.hinv hp14.rooted (s14.activeFormatting.eraseIdx oldIndex)
              (fun e he => List.mem_of_mem_eraseIdx he)
            have he14 : Ext s11.dom s14.dom := he12.trans (hp13.fr.ext.trans hq14.ext)
            have hopen14 : s14.openElems = s11.openElems := by
              rw [hq14.openElems]; show s12.openElems = _; rw [hq12.openElems]
            refine (sat_aaStep19 (fmtElem := x) (fb := fb) (new := new) hp15.hinv hp15.rooted ?_ ?_ ?_ ?_ ?_).mono ?_
            · show fb ∈ s14.openElems
              rw [hopen14]; exact hfb11
            · show specialTag (nm s14.dom fb) = true
              rw [nm_ext he14 (hp11.hinv.open_el fb hfb11)]; exact hfbsp11
            · show specialTag (nm s14.dom x) = false
              rw [nm_ext he14 ((hp5.hinv.open_el x hxmem5).ext he5_11)]; exact hfns11
            · exact hnewel.ext he14
            · show isFmtE (nm s14.dom new) = true
              rw [nm_ext he14 hnewel]; exact hnewf
            · intro _ s16 hp16
              exact (hp14.trans hi hp15).trans hi hp16

/-! ### the outer loop, `adoption_agency`, `handle_misnested_a_tags` -/

theorem sat_aaOuter {subject : Str} (hsub : isOneOf subject fmtNames = true) : ∀ (n : Nat) (s : State),
    HInv s → Rooted s.dom s.openElems → Sat (aaOuter subject n) s (fun _ s' => AAPost s s') := by
  intro n
  induction n with
  | zero => intro s hi hr; exact sat_pure (AAPost.refl hi hr)
  | succ n ih =>
    intro s hi hr
    unfold aaOuter
    refine (sat_aaOuterStep hi hr hsub).bind ?_
    intro b s1 hp1
    split
    · exact sat_pure hp1
    · exact (ih s1 hp1.hinv hp1.rooted).mono (fun _ s2 hp2 => hp1.trans hi hp2)

theorem sat_adoptionAgency {subject : Str} {s : State} (hi : HInv s) (hr : Rooted s.dom s.openElems)
    (hsub : isOneOf subject fmtNames = true) :
    Sat (adoptionAgency subject) s (fun _ s' => AAPost s s') := by
  unfold adoptionAgency
  obtain ⟨cur, hcur⟩ := getLast?_of_ne_nil (l := s.openElems) (by
    obtain ⟨r, rest, hl, _⟩ := hr; rw [hl]; simp)
  have hcel : IsEl s.dom cur := hi.open_el cur (getLast?_mem hcur)
  have htail : ∀ (b : Bool) (s1 : State), QF s s1 → (b = true → namedP s.dom subject cur = true) →
      Sat (if b = true then do
            let _ ← pop
            pure ()
          else aaOuter subject 8) s1 (fun _ s' => AAPost s s') := by
    intro b s1 hq1 hb
    split
    · rename_i hbt
      have hnamed := hb hbt
      have hp1 : AAPost s s1 := AAPost.of_qf hi hr hq1
      have hcur1 : s1.openElems.getLast? = some cur := by rw [hq1.openElems]; exact hcur
      refine (sat_pop hcur1).bind ?_
      rintro _ s2 ⟨-, hst⟩
      have hdl : s1.openElems = s1.openElems.dropLast ++ [cur] := dropLast_append_getLast hcur1
      have hns : specialTag (nm s1.dom cur) = false := by
        rw [nm_ext hq1.ext hcel, namedP_nm hnamed]; exact fmt_not_special hsub
      have hne : s1.openElems.dropLast ≠ [] := not_root_of_not_special hp1.rooted hdl hns
      refine sat_pure (hp1.trans hi (AAPost.of_st_prefix hp1.hinv hp1.rooted hdl hne ?_ hst))
      intro y hy
      rw [List.mem_singleton.mp hy]; exact hns
    · exact (sat_aaOuter hsub 8 s1 (hi.of_qf hq1)
        (by rw [hq1.openElems]; exact hr.ext hq1.ext hi.open_el)).mono
        (fun _ s2 hp2 => (AAPost.of_qf hi hr hq1).trans hi hp2)
  dsimp only
  refine (sat_currentNodeNamedS hcur hcel).bind ?_
  rintro b s1 ⟨rfl, hq1⟩
  split
  · rename_i hb
    refine (sat_currentNode (by rw [hq1.openElems]; exact hcur)).bind ?_
    rintro c s1' ⟨rfl, rfl⟩
    refine sat_positionInActiveFormatting.bind ?_
    rintro r s2 ⟨rfl, hq2⟩
    exact sat_pure_bind (htail _ s2 (hq1.trans hq2) (fun _ => hb))
  · exact sat_pure_bind (htail false s1 hq1 (fun h => by cases h))

theorem sat_handleMisnestedATags {s : State} (hi : HInv s) (hr : Rooted s.dom s.openElems) :
    Sat handleMisnestedATags s (fun _ s' => AAPost s s') := by
  unfold handleMisnestedATags
  refine sat_getS_bind ?_
  have ha : isOneOf "a".toList fmtNames = true := by rw [isOneOf_toList]; decide
  have hall : ∀ e ∈ afEndToMarker s.activeFormatting, IsEl s.dom e.2.1 := by
    rintro ⟨i, n, t⟩ he
    exact (hi.af n t (List.mem_of_getElem? (mem_afEndToMarker he))).1
  refine (sat_findAInAF _ s hall).bind ?_
  rintro r s1 ⟨hq1, hres⟩
  cases r with
  | none => exact sat_pure (AAPost.of_qf hi hr hq1)
  | some node =>
    dsimp only
    obtain ⟨⟨e, he, hen⟩, hnm⟩ := hres node rfl
    have hnel : IsEl s.dom node := by rw [← hen]; exact hall e he
    refine sat_unexpected.bind ?_
    rintro _ s2 ⟨-, hq2⟩
    have hq := hq1.trans hq2
    have hp2 : AAPost s s2 := AAPost.of_qf hi hr hq
    refine (sat_adoptionAgency hp2.hinv hp2.rooted (subject := "a".toList) ha).bind ?_
    intro _ s3 hp23
    have hp3 : AAPost s s3 := hp2.trans hi hp23
    have hns3 : specialTag (nm s3.dom node) = false := by
      rw [nm_ext hp3.fr.ext hnel, hnm]; exact fmt_not_special ha
    have htail : ∀ s4, AAPost s s4 → specialTag (nm s4.dom node) = false →
        Sat (removeFromStack node) s4 (fun _ s' => AAPost s s') := by
      intro s4 hp4 hns4
      refine sat_removeFromStack.mono ?_
      rintro _ s5 (⟨_, hsame⟩ | ⟨pre, post, heq, _, hst⟩)
      · exact hp4.trans hi (AAPost.of_same hp4.hinv hp4.rooted hsame)
      · exact hp4.trans hi (AAPost.of_st_remove hp4.hinv hp4.rooted heq hns4 hst)
    refine sat_positionInActiveFormatting.bind ?_
    rintro r s4 ⟨rfl, hq4⟩
    have hp4 : AAPost s s4 := hp3.qf_right hi hq4
    have hns4 : specialTag (nm s4.dom node) = false := by
      rw [nm_ext hp4.fr.ext hnel, hnm]; exact fmt_not_special ha
    cases hpos : afPos node s3.activeFormatting 0 with
    | none =>
      dsimp only
      exact htail s4 hp4 hns4
    | some index =>
      dsimp only
      obtain ⟨hlt, _⟩ := afPos_zero_lt hpos
      refine (sat_afRemove (by rw [hq4.activeFormatting]; exact hlt)).bind ?_
      rintro _ s5 rfl
      exact htail _ (hp4.trans hi (aapost_af_sub hp4.hinv hp4.rooted _
        (fun e he => List.mem_of_mem_eraseIdx he))) hns4

end H5V.Lemmas.TBSafe
