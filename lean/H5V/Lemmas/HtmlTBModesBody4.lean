import H5V.Lemmas.HtmlTBModesBodyNav
/-!
"in body": the arms for the formatting elements, `applet`/`marquee`/`object`, `table`, the void
elements, `input`, `hr`, `image`, `textarea`, `xmp`, `iframe`, `noembed`.
-/
namespace H5V.Lemmas.HtmlTBModes
open H5V.Model.HtmlTB
open H5V.Model.Dom (Id SinkOp Output Dom QualName Attr NodeOrText ElementFlags NodeData QuirksMode)
open H5V.Lemmas.HtmlTBAlgo
open H5V.Lemmas.TBSafe (TI HInv SInv Rooted)
open H5V.Spec.TreeAlgo2 (Elem Entry PState Ctx Edit Place)
open H5V.Spec.TreeModes (STok ETok IMode Config Out TokSwitch XOp Op Step Edition)

/-! ### the formatting elements -/

/-- they are not in the "special" category -/
theorem b4_notSpecial {n : Str}
    (h : isOneOf n ["b", "big", "code", "em", "font", "i", "s", "small", "strike", "strong", "tt", "u"] = true ∨
      n = "a".toList ∨ n = "nobr".toList) :
    Spec.TreeAlgo.inTable Spec.TreeTables.special ⟨Spec.TreeAlgo.nsHtml, n⟩ = false := by
  have tbl : ∀ m ∈ (["b", "big", "code", "em", "font", "i", "s", "small", "strike", "strong", "tt", "u"] ++
      ["a", "nobr"]).map String.toList,
      Spec.TreeAlgo.inTable Spec.TreeTables.special ⟨Spec.TreeAlgo.nsHtml, m⟩ = false := by decide +kernel
  rcases h with h | h | h
  · exact tbl n (mem_of_isOneOf (by rw [isOneOf_append, h]; rfl))
  · exact tbl n (h ▸ List.mem_map_of_mem (List.mem_append_right _ (.head _)))
  · exact tbl n (h ▸ List.mem_map_of_mem (List.mem_append_right _ (.tail _ (.head _))))

theorem body_fmt {t : Tag} (hwf : TagWf t) (hk : t.kind = .startTag)
    (hn : isOneOf t.name ["b", "big", "code", "em", "font", "i", "s", "small", "strike", "strong", "tt", "u"] = true)
    {s : State} (hm : MInv s) :
    PC (do
        reconstructActiveFormattingElements
        let _ ← createFormattingElementFor t
        pure .done) s
      (TokPost (fun σ => do
        let s ← Spec.TreeModes.reconstruct σ
        let r ← Spec.TreeModes.insertHtml s (specTag t)
        pure (.done (Spec.TreeModes.pushFormatting r.1 r.2 (specTag t)))) s (.tag t)) := by
  refine pc_seq (pc_reconstruct hm) ?_
  rintro _ s1 c1 he1 ⟨hS1, hw1, htr1⟩
  have hm1 := htr1.1
  refine pc_seq (pc_createFormattingElementFor hm1 t hk hwf.plain (b4_notSpecial (.inl hn))) ?_
  rintro elem s2 c2 he2 ⟨_, hw2, htr2⟩
  refine pc_pure (tokPost_of_tr (by rw [List.append_nil]; exact htr1.trans htr2) trivial ?_)
  rintro x x'' hx hx'' ⟨x1, r1, σ1, e, r2, re, r3⟩
  refine ⟨x'', ?_, AuxSame.rfl', Or.inl rfl, rfl, rfl⟩
  simp only [r1, r2, bind, Except.bind, pure, Except.pure, r3, stepOf]

theorem body_a {t : Tag} (hwf : TagWf t) (hk : t.kind = .startTag) (hn : t.name = "a".toList)
    {s : State} (hm : MInv s) :
    PC (do
        handleMisnestedATags
        reconstructActiveFormattingElements
        let _ ← createFormattingElementFor t
        pure .done) s
      (TokPost (fun σ => Spec.TreeModes.inBodyStartA σ (specTag t)) s (.tag t)) := by
  have hns := b4_notSpecial (n := t.name) (.inr (.inl hn))
  refine pc_seq (pc_handleMisnestedATags hm) ?_
  rintro _ s0 c0 he0 ⟨hS0, hw0, htr0⟩
  have hm0 := htr0.1
  refine pc_seq (pc_reconstruct hm0) ?_
  rintro _ s1 c1 he1 ⟨hS1, hw1, htr1⟩
  have hm1 := htr1.1
  refine pc_seq (pc_createFormattingElementFor hm1 t hk hwf.plain hns) ?_
  rintro elem s2 c2 he2 ⟨_, hw2, htr2⟩
  refine pc_pure (tokPost_of_tr (by rw [List.append_nil, ← List.append_assoc]; exact (htr0.trans htr1).trans htr2) trivial ?_)
  rintro x x'' hx hx'' ⟨x1, ⟨x0, r0, r1⟩, σ1, e, r2, re, r3⟩
  refine ⟨x'', ?_, AuxSame.rfl', Or.inl rfl, rfl, rfl⟩
  rw [inBodyStartA_eq]
  rw [show (specTag t).name = "a".toList from hn]
  simp only [r0, r1, r2, bind, Except.bind, pure, Except.pure, r3, stepOf]

theorem body_fmtEnd {t : Tag} {s : State} (hm : MInv s) :
    PC (do
        adoptionAgency t.name
        pure .done) s
      (TokPost (fun σ => Step.done <$> Spec.TreeModes.adoptionAgency σ (specTag t).name) s (.tag t)) := by
  refine pc_seq (pc_adoptionAgency hm t.name) ?_
  rintro _ s1 c1 he1 ⟨hS1, hw1, htr1⟩
  refine pc_pure (tokPost_of_tr (by rw [List.append_nil]; exact htr1) trivial ?_)
  rintro x x'' hx hx'' r1
  refine ⟨x'', ?_, AuxSame.rfl', Or.inl rfl, rfl, rfl⟩
  simp only [specTag_name, r1, Functor.map, Except.map, stepOf]

theorem body_nobr {t : Tag} (hwf : TagWf t) (hk : t.kind = .startTag) (hn : t.name = "nobr".toList)
    {s : State} (hm : MInv s) :
    PC (do
        reconstructActiveFormattingElements
        if ← inScopeNamed defaultScope "nobr" then
          parseError "Nested <nobr>"
          adoptionAgency "nobr".toList
          reconstructActiveFormattingElements
        let _ ← createFormattingElementFor t
        pure .done) s
      (TokPost (fun σ => Spec.TreeModes.inBodyStartNobr (cfgOf s) σ (specTag t)) s (.tag t)) := by
  have hns := b4_notSpecial (n := t.name) (.inr (.inr hn))
  refine pc_seq (pc_reconstruct hm) ?_
  rintro _ s1 c1 he1 ⟨hS1, hw1, htr1⟩
  have hm1 := htr1.1
  have hc1 : cfgOf s1 = cfgOf s := htr1.2.1
  refine pc_seq (pc_inScopeNamed_default hm1 "nobr") ?_
  rintro b s2 c2 he2 htr2
  have hm2 := htr2.1
  cases b with
  | false =>
    simp only [Bool.false_eq_true, if_false]
    refine pc_seq (pc_createFormattingElementFor hm2 t hk hwf.plain hns) ?_
    rintro elem s3 c3 he3 ⟨_, hw3, htr3⟩
    refine pc_pure (tokPost_of_tr (by rw [List.append_nil, ← List.append_assoc]; exact (htr1.trans htr2).trans htr3) trivial ?_)
    rintro x x'' hx hx'' ⟨x2, ⟨x1, r1, hx2, e2, hb⟩, σ1, e, r3, re, r4⟩
    subst hx2
    refine ⟨x'', ?_, AuxSame.rfl', Or.inl rfl, rfl, rfl⟩
    rw [hc1, e2] at hb
    simp only [Spec.TreeModes.inBodyStartNobr, r1, bind, Except.bind, ← hb, Bool.false_eq_true, if_false, pure, Except.pure, e2, r3, r4,
      stepOf]
  | true =>
    simp only [if_true]
    refine pc_seq (pc_parseError hm2 _) ?_
    rintro _ s3 c3 he3 htr3
    have hm3 := htr3.1
    have htre := Tr.err hm3 "in body: nobr start tag with nobr in scope"
    refine pc_seq (pc_adoptionAgency hm3 "nobr".toList) ?_
    rintro _ s4 c4 he4 ⟨hS4, hw4, htr4⟩
    have hm4 := htr4.1
    refine pc_seq (pc_reconstruct hm4) ?_
    rintro _ s5 c5 he5 ⟨hS5, hw5, htr5⟩
    have hm5 := htr5.1
    refine pc_seq (pc_createFormattingElementFor hm5 t hk hwf.plain hns) ?_
    rintro elem s6 c6 he6 ⟨_, hw6, htr6⟩
    have htr := (((((htr1.trans htr2).trans htr3).trans htre).trans htr4).trans htr5).trans htr6
    refine pc_pure (tokPost_of_tr (calls := c1 ++ (c2 ++ (c3 ++ (c4 ++ (c5 ++ (c6 ++ [])))))) (by simpa [List.append_assoc] using htr) trivial ?_)
    rintro x x'' hx hx'' ⟨x5, ⟨x4, ⟨xe, ⟨x3, ⟨x2, ⟨x1, r1, hx2, e2, hb⟩, hx3, e3⟩, hxe⟩, r4⟩, r5⟩, σ1, e, r6, re, r7⟩
    subst hx2; subst hx3; subst hxe
    refine ⟨x'', ?_, AuxSame.rfl', Or.inl rfl, rfl, rfl⟩
    rw [hc1, e2] at hb
    have r4' : Spec.TreeModes.adoptionAgency ((absF s3 x3).err "in body: nobr start tag with nobr in scope") "nobr".toList
        = .ok (absF s4 x4) := r4
    have hn' : (specTag t).name = "nobr".toList := hn
    simp only [Spec.TreeModes.inBodyStartNobr, hn', r1, bind, Except.bind, ← hb, if_true, pure, Except.pure, e2, e3, stepOf]
    rw [r4']; dsimp only
    rw [r5]; dsimp only
    rw [r6]; dsimp only
    rw [r7]

theorem body_amoStart {t : Tag} (hwf : TagWf t) {s : State} (hm : MInv s) :
    PC (do
        reconstructActiveFormattingElements
        let _ ← insertElementFor t
        pushMarker
        setFramesetOk false
        pure .done) s
      (TokPost (fun σ => do
        let s ← Spec.TreeModes.reconstruct σ
        let s ← Spec.TreeModes.insertHtml' s (specTag t)
        pure (.done s.insertMarker.notOk)) s (.tag t)) := by
  refine pc_seq (pc_reconstruct hm) ?_
  rintro _ s1 c1 he1 ⟨hS1, hw1, htr1⟩
  have hm1 := htr1.1
  refine pc_seq (pc_insertElementFor' hm1 hwf.plain) ?_
  rintro a s2 c2 he2 ⟨-, -, -, -, -, htr2⟩
  have hm2 := htr2.1
  refine pc_seq (pc_pushMarker hm2) ?_
  rintro _ s3 c3 he3 ⟨-, htr3⟩
  have hm3 := htr3.1
  refine pc_seq (pc_setFramesetNotOk hm3) ?_
  rintro _ s4 c4 he4 ⟨-, htr4⟩
  have htr := ((htr1.trans htr2).trans htr3).trans htr4
  refine pc_pure (tokPost_of_tr (calls := c1 ++ (c2 ++ (c3 ++ (c4 ++ [])))) (by simpa [List.append_assoc] using htr) trivial ?_)
  rintro x x'' hx hx'' ⟨x3, ⟨x2, ⟨x1, r1, r2⟩, hx3, r3⟩, hx4, r4⟩
  subst hx3; subst hx4
  refine ⟨x'', ?_, AuxSame.rfl', Or.inl rfl, rfl, rfl⟩
  simp only [r1, r2, bind, Except.bind, pure, Except.pure, r3, r4, stepOf]

theorem body_amoEnd {t : Tag} {s : State} (hm : MInv s) :
    PC (do
        if !(← inScopeNamedS defaultScope t.name) then
          let _ ← unexpected
        else
          generateImpliedEndTags cursoryImpliedEnd
          expectToCloseS t.name
          clearActiveFormattingToMarker
        pure .done) s
      (TokPost (fun σ => if !Spec.TreeModes.hasStrInScope (cfgOf s) σ (specTag t).name then
          pure (.done (σ.err "in body: applet/marquee/object end tag without element in scope"))
        else
          let s := Spec.TreeModes.genImplied σ
          let s := if s.cur.any (fun e => Spec.TreeModes.isNamed (specTag t).name e.name) then s
            else s.err "in body: applet/marquee/object end tag, current node differs"
          let s := Spec.TreeModes.popUntilPoppedStr s (specTag t).name
          pure (.done s.clearToLastMarker)) s (.tag t)) := by
  refine pc_seq (pc_inScopeNamedS_default hm t.name) ?_
  rintro b s1 c1 he1 htr1
  have hm1 := htr1.1
  cases b with
  | false =>
    simp only [Bool.not_false, if_true]
    refine pc_seq (pc_unexpected hm1) ?_
    rintro _ s2 c2 he2 ⟨-, htr2⟩
    refine pc_pure (tokPost_of_tr (calls := c1 ++ (c2 ++ [])) (by simpa [List.append_assoc] using htr1.trans htr2) trivial ?_)
    rintro x x'' hx hx'' ⟨x1, ⟨hx1, e1, hb⟩, hx2, e2⟩
    subst hx1; subst hx2
    refine ⟨{ x'' with errors := x''.errors ++ ["in body: applet/marquee/object end tag without element in scope"] }, ?_,
      ⟨rfl, rfl, rfl, rfl, rfl⟩, Or.inl rfl, rfl, rfl⟩
    have hb' : Spec.TreeModes.hasStrInScope (cfgOf s) (absF s x'') t.name = false := by first | exact hb | exact hb.symm
    simp only [specTag_name, hb', Bool.not_false, if_true, stepOf, absF_err, ← e2, ← e1]
    rfl
  | true =>
    simp only [Bool.not_true, Bool.false_eq_true, if_false]
    refine pc_seq (pc_generateImpliedEndTags_cursory hm1) ?_
    rintro _ s2 c2 he2 htr2
    have hm2 := htr2.1
    refine pc_seq (pc_expectToCloseS hm2 t.name) ?_
    rintro _ s3 c3 he3 htr3
    have hm3 := htr3.1
    refine pc_seq (pc_clearActiveFormattingToMarker hm3) ?_
    rintro _ s4 c4 he4 ⟨-, htr4⟩
    have htr := ((htr1.trans htr2).trans htr3).trans htr4
    refine pc_pure (tokPost_of_tr (calls := c1 ++ (c2 ++ (c3 ++ (c4 ++ [])))) (by simpa [List.append_assoc] using htr) trivial ?_)
    rintro x x'' hx hx'' ⟨x3, ⟨x2, ⟨x1, ⟨hx1, e1, hb⟩, hx2, e2⟩, hx3, e3⟩, hx4, e4⟩
    subst hx1; subst hx2; subst hx3; subst hx4
    have hb' : Spec.TreeModes.hasStrInScope (cfgOf s) (absF s x'') t.name = true := by first | exact hb | exact hb.symm
    simp only [specTag_name, hb', Bool.not_true, Bool.false_eq_true, if_false, stepOf]
    by_cases hcur : (Spec.TreeModes.genImplied (absF s x'')).cur.any (fun e => Spec.TreeModes.isNamed t.name e.name) = true
    · refine ⟨x'', ?_, AuxSame.rfl', Or.inl rfl, rfl, rfl⟩
      simp only [hcur, if_true, ← e4, e3, e2, ← e1]
      rfl
    · refine ⟨{ x'' with errors := x''.errors ++ ["in body: applet/marquee/object end tag, current node differs"] }, ?_,
        ⟨rfl, rfl, rfl, rfl, rfl⟩, Or.inl rfl, rfl, rfl⟩
      simp only [hcur, Bool.false_eq_true, if_false, absF_err, ← e4, e3, e2, ← e1]
      rfl

theorem b4_dmode_ne_quirks (q : QuirksMode) : (dmode q != Spec.TreeAlgo.DocMode.quirks) = (q != .quirks) := by
  cases q <;> rfl

theorem body_table {t : Tag} (hwf : TagWf t) {s : State} (hm : MInv s) :
    PC (do
        if (← getS).quirksMode != .quirks then closePElementInButtonScope
        let _ ← insertElementFor t
        setFramesetOk false
        setMode .inTable
        pure .done) s
      (TokPost (fun σ => do
        let s := if σ.quirks != .quirks then Spec.TreeModes.closePIfInButtonScope (cfgOf s) σ else σ
        let s ← Spec.TreeModes.insertHtml' s (specTag t)
        pure (.done (s.notOk.setMode .inTable))) s (.tag t)) := by
  -- the tail after the optional "close a p element"
  have tail : ∀ (s1 : State) (c1 : List Call) (R : Aux → Aux → Prop), Tr s s1 c1 R →
      (∀ x x1, AuxOk s x → R x x1 →
        absF s1 x1 = (if (absF s x).quirks != .quirks then Spec.TreeModes.closePIfInButtonScope (cfgOf s) (absF s x) else absF s x)) →
      PC (do
          let _ ← insertElementFor t
          setFramesetOk false
          setMode .inTable
          pure ProcessResult.done) s1
        (fun b s2 c2 => TokPost (fun σ => do
      let s := if σ.quirks != .quirks then Spec.TreeModes.closePIfInButtonScope (cfgOf s) σ else σ
      let s ← Spec.TreeModes.insertHtml' s (specTag t)
      pure (.done (s.notOk.setMode .inTable))) s (.tag t) b s2 (c1 ++ c2)) := by
    intro s1 c1 R htr1 hR
    have hm1 := htr1.1
    refine pc_seq (pc_insertElementFor' hm1 hwf.plain) ?_
    rintro a s2 c2 he2 ⟨-, -, -, -, -, htr2⟩
    have hm2 := htr2.1
    refine pc_seq (pc_setFramesetNotOk hm2) ?_
    rintro _ s3 c3 he3 ⟨-, htr3⟩
    have hm3 := htr3.1
    refine pc_seq (pc_setMode_junk hm3 .inTable (by decide)) ?_
    rintro _ s4 c4 he4 ⟨-, htr4⟩
    have htr := ((htr1.trans htr2).trans htr3).trans htr4
    refine pc_pure (tokPost_of_tr (calls := c1 ++ (c2 ++ (c3 ++ (c4 ++ [])))) (by simpa [List.append_assoc] using htr) trivial ?_)
    rintro x x'' hx hx'' ⟨x3, ⟨x2, ⟨x1, r1, r2⟩, hx3, r3⟩, hx4, r4⟩
    subst hx3
    refine ⟨x'', ?_, AuxSame.rfl', Or.inl rfl, rfl, rfl⟩
    simp only [← hR x x1 hx r1, r2, bind, Except.bind, pure, Except.pure, r3, r4, stepOf, imode]
  refine pc_getS_bind ?_
  cases hq : (s.quirksMode != .quirks) with
  | false =>
    simp only [Bool.false_eq_true, if_false]
    have := tail s [] _ (Tr.refl hm) (fun x x1 hx (h : x1 = x) => by
      subst h
      have : ((absF s x1).quirks != .quirks) = false := by
        show (dmode s.quirksMode != _) = false; rw [b4_dmode_ne_quirks, hq]
      simp only [this, Bool.false_eq_true, if_false])
    simpa using this
  | true =>
    simp only [if_true]
    refine pc_seq (pc_closePElementInButtonScope hm) ?_
    rintro _ s1 c1 he1 htr1
    refine tail s1 c1 _ htr1 ?_
    rintro x x1 hx ⟨-, e⟩
    have : ((absF s x).quirks != .quirks) = true := by
      show (dmode s.quirksMode != _) = true; rw [b4_dmode_ne_quirks, hq]
    simp only [this, if_true, e]

/-! ### the void elements -/

/-- no clause of `inBodyStartTagCore` before the one for the void elements applies to their names -/
theorem b4_void_before : ∀ m ∈ ["area", "br", "embed", "img", "keygen", "wbr"].map String.toList,
    ∀ l ∈ [["html"], ["base", "basefont", "bgsound", "link", "meta", "noframes", "script", "style", "template", "title"],
      ["body"], ["frameset"], Spec.TreeModes.blockStart, Spec.TreeTables.heading, ["pre", "listing"], ["form"], ["li"],
      ["dd", "dt"], ["plaintext"], ["button"], ["a"], Spec.TreeModes.formattingStart, ["nobr"],
      ["applet", "marquee", "object"], ["table"]], isOneOf m l = false := by
  decide +kernel

/-- the clause for the void elements, for a tag that is not the model's (`</br>` and `image` re-dispatch to it) -/
theorem b4_core_void (cfg : Config Id) (σ : SState) (st : STag)
    (hn : isOneOf st.name ["area", "br", "embed", "img", "keygen", "wbr"] = true) :
    Spec.TreeModes.inBodyStartTagCore cfg σ st = (do
      let s ← Spec.TreeModes.reconstruct σ
      let s ← Spec.TreeModes.insertVoid s st
      pure (.done s.notOk)) := by
  have h := b4_void_before st.name (mem_of_isOneOf hn)
  simp only [List.forall_mem_cons, List.not_mem_nil, false_imp_iff, implies_true, and_true] at h
  simp only [Spec.TreeModes.inBodyStartTagCore, Spec.TreeModes.Tag.is, Spec.TreeModes.Tag.isOneOf, strIsOneOf_eq,
    strIs_eq_isOneOf, h, hn, Bool.false_eq_true, ↓reduceIte]

theorem b4_ack_notOk (σ : SState) (t : STag) : (σ.ack t).notOk = (σ.notOk).ack t := by
  unfold Spec.TreeModes.State.ack
  split <;> rfl

theorem b4_insertHtml'_etok (σ : SState) (a b : STag) (h : a.etok = b.etok) :
    Spec.TreeModes.insertHtml' σ a = Spec.TreeModes.insertHtml' σ b := by
  simp only [Spec.TreeModes.insertHtml', Spec.TreeModes.insertHtml, h]

/-- `inBodyVoid tag` (Rules.lean): reconstruct, insert and pop, frameset-ok -/
theorem b4_inBodyVoid {s : State} (hm : MInv s) {t : Tag} (hp : PlainTag t) :
    PC (inBodyVoid t) s (fun r s' calls => r = .doneAckSelfClosing ∧
        Tr s s' calls (fun x x' => ∃ σ1 σ2, Spec.TreeModes.reconstruct (absF s x) = .ok σ1 ∧
          Spec.TreeModes.insertHtml' σ1 (specTag t) = .ok σ2 ∧ absF s' x' = σ2.pop.notOk)) := by
  unfold inBodyVoid
  refine pc_seq (pc_reconstruct hm) ?_
  rintro _ s1 c1 he1 ⟨-, -, htr1⟩
  have hm1 := htr1.1
  refine pc_seq (pc_insertAndPopElementFor hm1 hp) ?_
  rintro a s2 c2 he2 ⟨-, -, -, -, -, htr2⟩
  have hm2 := htr2.1
  refine pc_seq (pc_setFramesetNotOk hm2) ?_
  rintro _ s3 c3 he3 ⟨-, htr3⟩
  refine pc_pure ⟨rfl, ?_⟩
  have htr := (htr1.trans htr2).trans htr3
  have hc : c1 ++ (c2 ++ (c3 ++ [])) = c1 ++ c2 ++ c3 := by simp [List.append_assoc]
  rw [hc]
  refine htr.conseq ?_
  rintro x x'' hx hx'' ⟨x2, ⟨x1, r1, σ2, r2, e2⟩, hx3, r3⟩
  subst hx3
  exact ⟨_, σ2, r1, r2, by rw [r3, e2]⟩

/-- the specification's clause for the void elements, given the pieces -/
theorem b4_voidSpec {σ σ1 σ2 : SState} {st : STag} (r1 : Spec.TreeModes.reconstruct σ = .ok σ1)
    (r2 : Spec.TreeModes.insertHtml' σ1 st = .ok σ2) :
    (do
      let s ← Spec.TreeModes.reconstruct σ
      let s ← Spec.TreeModes.insertVoid s st
      pure (Step.done s.notOk) : Spec.TreeModes.M (Step Id)) = .ok (.done ((σ2.pop.notOk).ack st)) := by
  simp only [r1, Spec.TreeModes.insertVoid, r2, bind, Except.bind, pure, Except.pure, b4_ack_notOk]

theorem body_void {t : Tag} (hwf : TagWf t) {s : State} (hm : MInv s) :
    PC (inBodyVoid t) s
      (TokPost (fun σ => do
        let s ← Spec.TreeModes.reconstruct σ
        let s ← Spec.TreeModes.insertVoid s (specTag t)
        pure (.done s.notOk)) s (.tag t)) := by
  refine pc_conseq (b4_inBodyVoid hm hwf.plain) ?_
  rintro r s' calls _ ⟨rfl, htr⟩
  refine tokPost_ack (specTag t) htr ?_
  rintro x x' hx hx' ⟨σ1, σ2, r1, r2, e⟩
  rw [b4_voidSpec r1 r2, e]

theorem body_brEnd {t : Tag} (hn : t.name = "br".toList) {s : State} (hm : MInv s) :
    PC (do
        let _ ← unexpected
        inBodyVoid { t with kind := .startTag, attrs := [] }) s
      (TokPost (fun σ => Spec.TreeModes.inBodyStartTagCore (cfgOf s) (σ.err "in body: br end tag") (Spec.TreeModes.bareTag "br")) s (.tag t)) := by
  refine pc_seq (pc_unexpected hm) ?_
  rintro _ s1 c1 he1 ⟨-, htr1⟩
  have hm1 := htr1.1
  have htre := Tr.err hm1 "in body: br end tag"
  have hp : PlainTag { t with kind := .startTag, attrs := [] } := fun a ha => by cases ha
  refine pc_conseq (b4_inBodyVoid hm1 hp) ?_
  rintro r s2 c2 _ ⟨rfl, htr2⟩
  have htr := (htr1.trans htre).trans htr2
  rw [List.append_nil] at htr
  refine tokPost_ack (Spec.TreeModes.bareTag "br") htr ?_
  rintro x x' hx hx' ⟨xe, ⟨x1, ⟨hx1, e1⟩, hxe⟩, σ1, σ2, r1, r2, e⟩
  subst hx1; subst hxe
  rw [b4_core_void _ _ _ (by decide)]
  rw [absF_err, ← e1] at r1
  have r2' : Spec.TreeModes.insertHtml' σ1 (Spec.TreeModes.bareTag "br") = .ok σ2 := by
    rw [← r2]
    apply b4_insertHtml'_etok
    simp only [Spec.TreeModes.Tag.etok, Spec.TreeModes.bareTag, specTag, hn, List.map_nil]
  rw [b4_voidSpec r1 r2', e]

theorem body_image {t : Tag} (hwf : TagWf t) {s : State} (hm : MInv s) :
    PC (do
        let _ ← unexpected
        inBodyVoid { t with name := "img".toList }) s
      (TokPost (fun σ => Spec.TreeModes.inBodyStartTagCore (cfgOf s) (σ.err "in body: image start tag")
        { specTag t with name := "img".toList }) s (.tag t)) := by
  refine pc_seq (pc_unexpected hm) ?_
  rintro _ s1 c1 he1 ⟨-, htr1⟩
  have hm1 := htr1.1
  have htre := Tr.err hm1 "in body: image start tag"
  have hp : PlainTag { t with name := "img".toList } := hwf.plain
  refine pc_conseq (b4_inBodyVoid hm1 hp) ?_
  rintro r s2 c2 _ ⟨rfl, htr2⟩
  have htr := (htr1.trans htre).trans htr2
  rw [List.append_nil] at htr
  refine tokPost_ack (specTag t) htr ?_
  rintro x x' hx hx' ⟨xe, ⟨x1, ⟨hx1, e1⟩, hxe⟩, σ1, σ2, r1, r2, e⟩
  subst hx1; subst hxe
  rw [b4_core_void _ _ _ (show isOneOf "img".toList _ = true by decide)]
  rw [absF_err, ← e1] at r1
  have r2' : Spec.TreeModes.insertHtml' σ1 { specTag t with name := "img".toList } = .ok σ2 := r2
  rw [b4_voidSpec r1 r2', e]
  rfl

theorem body_param {t : Tag} (hwf : TagWf t) {s : State} (hm : MInv s) :
    PC (do
        let _ ← insertAndPopElementFor t
        pure .doneAckSelfClosing) s
      (TokPost (fun σ => Step.done <$> Spec.TreeModes.insertVoid σ (specTag t)) s (.tag t)) := by
  refine pc_seq (pc_insertVoid hm hwf.plain) ?_
  rintro a s1 c1 he1 ⟨-, -, -, -, -, htr1⟩
  refine pc_pure (tokPost_of_tr (by rw [List.append_nil]; exact htr1) trivial ?_)
  rintro x x' hx hx' r1
  refine ⟨x', ?_, AuxSame.rfl', Or.inl rfl, rfl, rfl⟩
  simp only [r1, Functor.map, Except.map, stepOf]

theorem body_noembed {t : Tag} (hwf : TagWf t) {s : State} (hm : MInv s) :
    PC (parseRawData t .rawtext) s
      (TokPost (fun σ => Step.done <$> Spec.TreeModes.genericRawText σ (specTag t)) s (.tag t)) :=
  pc_parseRawData_rawtext hm hwf.plain (.tag t)

/-- the pieces of the generic raw text / RCDATA element parsing algorithm -/
theorem b4_genericSpec {σ σ1 : SState} {st : STag} {sw : TokSwitch} (r : Spec.TreeModes.insertHtml' σ st = .ok σ1) :
    Spec.TreeModes.genericTextElement σ st sw
      = .ok (({ σ1 with originalMode := σ1.mode, mode := .text } : SState).switchTokenizer sw) := by
  simp only [Spec.TreeModes.genericTextElement, r, bind, Except.bind, pure, Except.pure]
  rfl

theorem body_iframe {t : Tag} (hwf : TagWf t) {s : State} (hm : MInv s) :
    PC (do
        setFramesetOk false
        parseRawData t .rawtext) s
      (TokPost (fun σ => Step.done <$> Spec.TreeModes.genericRawText σ.notOk (specTag t)) s (.tag t)) := by
  refine pc_seq (pc_setFramesetNotOk hm) ?_
  rintro _ s1 c1 he1 ⟨-, htr1⟩
  have hm1 := htr1.1
  refine pc_conseq (pc_parseRawData hm1 hwf.plain .rawtext) ?_
  rintro r s2 c2 _ ⟨rfl, -, -, -, -, -, -, -, htr2⟩
  refine tokPost_toRawData (htr1.trans htr2) ?_
  rintro x x' hx hx' ⟨x1, ⟨hx1, e1⟩, σ1, r2, e2⟩
  subst hx1
  rw [e1] at r2
  simp only [Spec.TreeModes.genericRawText, b4_genericSpec r2, Functor.map, Except.map, e2]
  rfl

theorem body_xmp {t : Tag} (hwf : TagWf t) {s : State} (hm : MInv s) :
    PC (do
        closePElementInButtonScope
        reconstructActiveFormattingElements
        setFramesetOk false
        parseRawData t .rawtext) s
      (TokPost (fun σ => do
        let s ← Spec.TreeModes.reconstruct (Spec.TreeModes.closePIfInButtonScope (cfgOf s) σ)
        Step.done <$> Spec.TreeModes.genericRawText s.notOk (specTag t)) s (.tag t)) := by
  refine pc_seq (pc_closePElementInButtonScope hm) ?_
  rintro _ s0 c0 he0 htr0
  have hm0 := htr0.1
  refine pc_seq (pc_reconstruct hm0) ?_
  rintro _ s1 c1 he1 ⟨-, -, htr1⟩
  have hm1 := htr1.1
  refine pc_seq (pc_setFramesetNotOk hm1) ?_
  rintro _ s2 c2 he2 ⟨-, htr2⟩
  have hm2 := htr2.1
  refine pc_conseq (pc_parseRawData hm2 hwf.plain .rawtext) ?_
  rintro r s3 c3 _ ⟨rfl, -, -, -, -, -, -, -, htr3⟩
  have htr := ((htr0.trans htr1).trans htr2).trans htr3
  refine tokPost_toRawData (calls := c0 ++ (c1 ++ (c2 ++ c3))) (by simpa [List.append_assoc] using htr) ?_
  rintro x x' hx hx' ⟨x2, ⟨x1, ⟨x0, ⟨-, e0⟩, r1⟩, hx2, e2⟩, σ1, r3, e3⟩
  subst hx2
  rw [e0] at r1
  rw [e2] at r3
  simp only [r1, bind, Except.bind, Spec.TreeModes.genericRawText, b4_genericSpec r3, Functor.map, Except.map, e3]
  rfl

/-- "insert an HTML element" only looks at the `PState` -/
theorem b4_insertHtml'_p (σ σ' : SState) (st : STag) (h : σ'.p = σ.p) {τ' : SState}
    (r : Spec.TreeModes.insertHtml' σ' st = .ok τ') :
    ∃ τ, Spec.TreeModes.insertHtml' σ st = .ok τ ∧ τ' = { σ' with p := τ.p } ∧ τ = { σ with p := τ.p } := by
  simp only [Spec.TreeModes.insertHtml', Spec.TreeModes.insertHtml, h] at r ⊢
  cases hh : Spec.TreeAlgo2.insertHtmlElement Spec.TreeModes.cx σ.p st.etok with
  | none => rw [hh] at r; cases r
  | some v =>
    rw [hh] at r
    simp only [Spec.TreeModes.req, bind, Except.bind, pure, Except.pure] at r ⊢
    cases r
    exact ⟨_, rfl, rfl, rfl⟩

theorem body_textarea {t : Tag} (hwf : TagWf t) {s : State} (hm : MInv s) :
    PC (do
        modS fun s => { s with ignoreLf := true }
        setFramesetOk false
        parseRawData t .rcdata) s
      (TokPost (fun σ => do
        let s ← Spec.TreeModes.insertHtml' σ (specTag t)
        let s := { s with ignoreLf := true }
        let s := s.switchTokenizer .rcdata
        let s := { s with originalMode := s.mode }
        let s := s.notOk
        pure (.done (s.setMode .text))) s (.tag t)) := by
  refine pc_seq (pc_setIgnoreLf hm) ?_
  rintro _ s0 c0 he0 ⟨-, htr0⟩
  have hm0 := htr0.1
  refine pc_seq (pc_setFramesetNotOk hm0) ?_
  rintro _ s1 c1 he1 ⟨-, htr1⟩
  have hm1 := htr1.1
  refine pc_conseq (pc_parseRawData hm1 hwf.plain .rcdata) ?_
  rintro r s2 c2 _ ⟨rfl, -, -, -, -, -, -, -, htr2⟩
  have htr := (htr0.trans htr1).trans htr2
  refine tokPost_toRawData (calls := c0 ++ (c1 ++ c2)) (by simpa [List.append_assoc] using htr) ?_
  rintro x x' hx hx' ⟨x1, ⟨x0, ⟨hx0, e0⟩, hx1, e1⟩, σ1, r2, e2⟩
  subst hx0; subst hx1
  rw [e1, e0] at r2
  obtain ⟨τ, rτ, hσ1, hτ⟩ := b4_insertHtml'_p (absF s x1) _ (specTag t) (by rfl) r2
  simp only [rτ, bind, Except.bind, pure, Except.pure, e2]
  rw [hσ1]
  rw [hτ]
  rfl

theorem b4_edition (s : State) : ((cfgOf s).edition == Edition.customizableSelect) = true := rfl

/-- the first part of the specification's clause for `hr` (before the insertion) -/
def b4_hrMid (cfg : Config Id) (σ : SState) : SState :=
  let s := Spec.TreeModes.closePIfInButtonScope cfg σ
  if cfg.edition == .customizableSelect && Spec.TreeModes.hasInScope cfg s "select" then
    let s := Spec.TreeModes.genImplied s
    if Spec.TreeModes.hasInScope cfg s "option" || Spec.TreeModes.hasInScope cfg s "optgroup" then
      s.err "in body: hr start tag with option/optgroup in scope" else s
  else s

theorem b4_hr_eq (cfg : Config Id) (σ : SState) (st : STag) :
    Spec.TreeModes.inBodyStartHr cfg σ st = (do
      let s ← Spec.TreeModes.insertVoid (b4_hrMid cfg σ) st
      pure (.done s.notOk)) := rfl

theorem body_hr {t : Tag} (hwf : TagWf t) {s : State} (hm : MInv s) :
    PC (do
        closePElementInButtonScope
        if ← inScopeNamed defaultScope "select" then
          generateImpliedEndTags cursoryImpliedEnd
          let nested ← do
            if ← inScopeNamed defaultScope "option" then pure true
            else inScopeNamed defaultScope "optgroup"
          if nested then parseError "hr in option"
        let _ ← insertAndPopElementFor t
        setFramesetOk false
        pure .doneAckSelfClosing) s
      (TokPost (fun σ => Spec.TreeModes.inBodyStartHr (cfgOf s) σ (specTag t)) s (.tag t)) := by
  have tail : ∀ (s1 : State) (c1 : List Call) (R : Aux → Aux → Prop), Tr s s1 c1 R →
      (∀ x x1, AuxOk s x → R x x1 → absF s1 x1 = b4_hrMid (cfgOf s) (absF s x)) →
      PC (do
          let _ ← insertAndPopElementFor t
          setFramesetOk false
          pure ProcessResult.doneAckSelfClosing) s1
        (fun b s2 c2 => TokPost (fun σ => Spec.TreeModes.inBodyStartHr (cfgOf s) σ (specTag t)) s (.tag t) b s2 (c1 ++ c2)) := by
    intro s1 c1 R htr1 hR
    have hm1 := htr1.1
    refine pc_seq (pc_insertAndPopElementFor hm1 hwf.plain) ?_
    rintro a s2 c2 he2 ⟨-, -, -, -, -, htr2⟩
    have hm2 := htr2.1
    refine pc_seq (pc_setFramesetNotOk hm2) ?_
    rintro _ s3 c3 he3 ⟨-, htr3⟩
    have htr := (htr1.trans htr2).trans htr3
    refine pc_pure (tokPost_ack (calls := c1 ++ (c2 ++ (c3 ++ []))) (specTag t) (by simpa [List.append_assoc] using htr) ?_)
    rintro x x'' hx hx'' ⟨x2, ⟨x1, r1, σ2, r2, e2⟩, hx3, r3⟩
    subst hx3
    rw [b4_hr_eq, ← hR x x1 hx r1]
    simp only [Spec.TreeModes.insertVoid, r2, bind, Except.bind, pure, Except.pure, b4_ack_notOk, r3, e2]
  refine pc_seq (pc_closePElementInButtonScope hm) ?_
  rintro _ s0 c0 he0 htr0
  have hm0 := htr0.1
  have hc0 : cfgOf s0 = cfgOf s := htr0.2.1
  refine pc_seq (pc_inScopeNamed_default hm0 "select") ?_
  rintro b s1 c1 he1 htr1
  have hm1 := htr1.1
  have hc1 : cfgOf s1 = cfgOf s0 := htr1.2.1
  cases b with
  | false =>
    simp only [Bool.false_eq_true, if_false]
    have := tail s1 (c0 ++ c1) _ (htr0.trans htr1) (by
      rintro x x1 hx ⟨x0, ⟨-, e0⟩, hx1, e1, hb⟩
      subst hx1
      have hb' : Spec.TreeModes.hasInScope (cfgOf s) (Spec.TreeModes.closePIfInButtonScope (cfgOf s) (absF s x)) "select" = false := by
        rw [← e0, ← hc0]; first | exact hb | exact hb.symm
      simp only [b4_hrMid, hb', Bool.and_false, Bool.false_eq_true, if_false, ← e1, e0])
    simpa [List.append_assoc] using this
  | true =>
    simp only [if_true]
    -- the tail after a parse error
    have errTail : ∀ (s3 : State) (c3 : List Call) (R : Aux → Aux → Prop), Tr s s3 c3 R →
        (∀ x x3, AuxOk s x → R x x3 →
          b4_hrMid (cfgOf s) (absF s x) = (absF s3 x3).err "in body: hr start tag with option/optgroup in scope") →
        PC (do
            parseError "hr in option"
            let _ ← insertAndPopElementFor t
            setFramesetOk false
            pure ProcessResult.doneAckSelfClosing) s3
          (fun b s2 c2 => TokPost (fun σ => Spec.TreeModes.inBodyStartHr (cfgOf s) σ (specTag t)) s (.tag t) b s2 (c3 ++ c2)) := by
      intro s3 c3 R htr3 hR
      have hm3 := htr3.1
      refine pc_seq (pc_parseError hm3 _) ?_
      rintro _ s4 c4 he4 htr4
      have hm4 := htr4.1
      have htre := Tr.err hm4 "in body: hr start tag with option/optgroup in scope"
      have := tail s4 (c3 ++ c4 ++ []) _ ((htr3.trans htr4).trans htre) (by
        rintro x xe hx ⟨x4, ⟨x3, r3, hx4, e4⟩, hxe⟩
        subst hx4; subst hxe
        rw [hR x x4 hx r3, absF_err, ← e4])
      simpa [List.append_assoc] using this
    refine pc_seq (pc_generateImpliedEndTags_cursory hm1) ?_
    rintro _ s2 c2 he2 htr2
    have hm2 := htr2.1
    have hc2 : cfgOf s2 = cfgOf s1 := htr2.2.1
    -- the specification's state after "generate implied end tags"
    have hmid : ∀ x x0, absF s0 x0 = Spec.TreeModes.closePIfInButtonScope (cfgOf s) (absF s x) →
        absF s0 x0 = absF s1 x0 → true = Spec.TreeModes.hasInScope (cfgOf s0) (absF s0 x0) "select" →
        absF s2 x0 = Spec.TreeModes.genImplied (absF s1 x0) →
        b4_hrMid (cfgOf s) (absF s x) =
          if Spec.TreeModes.hasInScope (cfgOf s) (absF s2 x0) "option" || Spec.TreeModes.hasInScope (cfgOf s) (absF s2 x0) "optgroup"
          then (absF s2 x0).err "in body: hr start tag with option/optgroup in scope" else absF s2 x0 := by
      intro x x0 e0 e1 hb e2
      have hb' : Spec.TreeModes.hasInScope (cfgOf s) (Spec.TreeModes.closePIfInButtonScope (cfgOf s) (absF s x)) "select" = true := by
        rw [← e0, ← hc0]; exact hb.symm
      simp only [b4_hrMid, hb', b4_edition, Bool.and_true, if_true, e2, ← e1, e0]
    have hc20 : cfgOf s2 = cfgOf s := by rw [hc2, hc1, hc0]
    refine pc_seq (pc_inScopeNamed_default hm2 "option") ?_
    rintro b1 s3 c3 he3 htr3
    have hm3 := htr3.1
    have hc3 : cfgOf s3 = cfgOf s2 := htr3.2.1
    cases b1 with
    | true =>
      simp only [if_true, pure_bind]
      have := errTail s3 (c0 ++ c1 ++ c2 ++ c3) _ (((htr0.trans htr1).trans htr2).trans htr3) (by
        rintro x x3 hx ⟨x2, ⟨x1, ⟨x0, ⟨-, e0⟩, hx1, e1, hb⟩, hx2, e2⟩, hx3, e3, hb1⟩
        subst hx1; subst hx2; subst hx3
        have hb1' : Spec.TreeModes.hasInScope (cfgOf s) (absF s2 x3) "option" = true := by
          rw [← hc20]; first | exact hb1 | exact hb1.symm
        rw [hmid x x3 e0 e1 hb e2, hb1', Bool.true_or, if_pos rfl, e3])
      simpa [List.append_assoc] using this
    | false =>
      simp only [Bool.false_eq_true, if_false]
      refine pc_seq (pc_inScopeNamed_default hm3 "optgroup") ?_
      rintro b2 s4 c4 he4 htr4
      cases b2 with
      | true =>
        simp only [if_true]
        have := errTail s4 (c0 ++ c1 ++ c2 ++ c3 ++ c4) _ ((((htr0.trans htr1).trans htr2).trans htr3).trans htr4) (by
          rintro x x4 hx ⟨x3, ⟨x2, ⟨x1, ⟨x0, ⟨-, e0⟩, hx1, e1, hb⟩, hx2, e2⟩, hx3, e3, hb1⟩, hx4, e4, hb2⟩
          subst hx1; subst hx2; subst hx3; subst hx4
          have hb2' : Spec.TreeModes.hasInScope (cfgOf s) (absF s2 x4) "optgroup" = true := by
            rw [← hc20, ← hc3, e3]; first | exact hb2 | exact hb2.symm
          rw [hmid x x4 e0 e1 hb e2, hb2', Bool.or_true, if_pos rfl, e3, e4])
        simpa [List.append_assoc] using this
      | false =>
        simp only [Bool.false_eq_true, if_false]
        have := tail s4 (c0 ++ c1 ++ c2 ++ c3 ++ c4) _ ((((htr0.trans htr1).trans htr2).trans htr3).trans htr4) (by
          rintro x x4 hx ⟨x3, ⟨x2, ⟨x1, ⟨x0, ⟨-, e0⟩, hx1, e1, hb⟩, hx2, e2⟩, hx3, e3, hb1⟩, hx4, e4, hb2⟩
          subst hx1; subst hx2; subst hx3; subst hx4
          have hb1' : Spec.TreeModes.hasInScope (cfgOf s) (absF s2 x4) "option" = false := by
            rw [← hc20]; first | exact hb1 | exact hb1.symm
          have hb2' : Spec.TreeModes.hasInScope (cfgOf s) (absF s2 x4) "optgroup" = false := by
            rw [← hc20, ← hc3, e3]; first | exact hb2 | exact hb2.symm
          rw [hmid x x4 e0 e1 hb e2, hb1', hb2', Bool.or_self, if_neg (by decide), e3, e4])
        simpa [List.append_assoc] using this

theorem b4_typeHidden_aux : ∀ (l : List Attr), (∀ a ∈ l, H5V.Lemmas.HtmlTBSpec.Plain a) →
    (match l.find? (fun a => a.name.ns == [] && isName a.name.loc "type") with
      | none => false
      | some a => eqIgnoreAsciiCase a.value "hidden".toList)
    = (match ((l.map (fun a => (⟨a.name.loc, a.value⟩ : Spec.TreeModes.Attr))).find? (fun a => a.name == "type".toList)).map (·.value) with
      | some v => Spec.TreeAlgo.eqCI v "hidden"
      | none => false)
  | [], _ => rfl
  | a :: l, h => by
    have ha : a.name.ns = [] := by
      have := h a (by simp)
      unfold H5V.Lemmas.HtmlTBSpec.Plain at this
      rw [this]; rfl
    have ih := b4_typeHidden_aux l (fun b hb => h b (by simp [hb]))
    simp only [List.find?_cons, List.map_cons, ha, isName_eq, beq_str]
    by_cases hn : a.name.loc = "type".toList
    · simp only [hn, decide_true, Bool.and_self, Option.map_some]
      rfl
    · simp only [hn, decide_false, decide_true, Bool.and_false]
      simpa only [isName_eq, beq_str] using ih

theorem b4_typeHidden {t : Tag} (hp : PlainTag t) : isTypeHidden t = (specTag t).typeIsHidden := by
  unfold isTypeHidden Spec.TreeModes.Tag.typeIsHidden Spec.TreeModes.Tag.attr?
  exact b4_typeHidden_aux t.attrs hp

/-- the first part of the specification's clause for `input` (the context element is not `select`) -/
def b4_inputMid (cfg : Config Id) (σ : SState) : SState :=
  if cfg.edition == .customizableSelect && Spec.TreeModes.hasInScope cfg σ "select" then
    Spec.TreeModes.popUntilPopped (σ.err "in body: input start tag inside select") "select"
  else σ

theorem b4_input_eq (cfg : Config Id) (σ : SState) (st : STag) (hctx : Spec.TreeModes.contextIsSelect cfg = false) :
    Spec.TreeModes.inBodyStartInput cfg σ st = (do
      let s ← Spec.TreeModes.reconstruct (b4_inputMid cfg σ)
      let s ← Spec.TreeModes.insertVoid s st
      pure (.done (if st.typeIsHidden then s else s.notOk))) := by
  simp only [Spec.TreeModes.inBodyStartInput, hctx, Bool.and_false, Bool.false_eq_true, if_false]
  rfl

/-- the specification's clause for `input` in the fragment case with a `select` context element -/
theorem b4_input_eq_ctx (cfg : Config Id) (σ : SState) (st : STag) (hed : (cfg.edition == Edition.customizableSelect) = true)
    (hctx : Spec.TreeModes.contextIsSelect cfg = true) :
    Spec.TreeModes.inBodyStartInput cfg σ st = .ok (.done (σ.err "in body: input start tag in a select fragment")) := by
  simp only [Spec.TreeModes.inBodyStartInput, hed, hctx, Bool.and_self, if_true]
  rfl

/-- `<input>`, fragment case with a `select` context element: parse error, ignore the token -/
theorem body_input_ctx {t : Tag} {s : State} (hm : MInv s) (hctx : Spec.TreeModes.contextIsSelect (cfgOf s) = true) :
    PC (do
        if ← contextIsSelect "rules.rs:823" then
          let _ ← unexpected
          pure .done
        else
          if ← inScopeNamed defaultScope "select" then
            let _ ← unexpected
            let _ ← popUntilNamed "select"
          let hidden := isTypeHidden t
          reconstructActiveFormattingElements
          let _ ← insertAndPopElementFor t
          if !hidden then setFramesetOk false
          pure .doneAckSelfClosing) s
      (TokPost (fun σ => Spec.TreeModes.inBodyStartInput (cfgOf s) σ (specTag t)) s (.tag t)) := by
  refine pc_seq (pc_contextIsSelect hm _) ?_
  rintro b s0 c0 he0 ⟨hb, htr0⟩
  rw [hctx] at hb
  subst hb
  have hm0 := htr0.1
  simp only [if_true]
  refine pc_seq (pc_unexpected hm0) ?_
  rintro _ s1 c1 he1 ⟨-, htr1⟩
  refine pc_pure (tokPost_of_tr (calls := c0 ++ (c1 ++ [])) (by simpa [List.append_assoc] using htr0.trans htr1) trivial ?_)
  rintro x x'' hx hx'' ⟨x0, ⟨hx0, e0⟩, hx1, e1⟩
  subst hx0; subst hx1
  refine ⟨{ x'' with errors := x''.errors ++ ["in body: input start tag in a select fragment"] }, ?_,
    ⟨rfl, rfl, rfl, rfl, rfl⟩, Or.inl rfl, rfl, rfl⟩
  rw [b4_input_eq_ctx _ _ _ (b4_edition s) hctx]
  simp only [stepOf, absF_err, ← e1, ← e0]

theorem body_input {t : Tag} (hwf : TagWf t)
    {s : State} (hm : MInv s) (hctx : Spec.TreeModes.contextIsSelect (cfgOf s) = false) :
    PC (do
        if ← contextIsSelect "rules.rs:823" then
          let _ ← unexpected
          pure .done
        else
          if ← inScopeNamed defaultScope "select" then
            let _ ← unexpected
            let _ ← popUntilNamed "select"
          let hidden := isTypeHidden t
          reconstructActiveFormattingElements
          let _ ← insertAndPopElementFor t
          if !hidden then setFramesetOk false
          pure .doneAckSelfClosing) s
      (TokPost (fun σ => Spec.TreeModes.inBodyStartInput (cfgOf s) σ (specTag t)) s (.tag t)) := by
  have tail : ∀ (s1 : State) (c1 : List Call) (R : Aux → Aux → Prop), Tr s s1 c1 R →
      (∀ x x1, AuxOk s x → R x x1 → absF s1 x1 = b4_inputMid (cfgOf s) (absF s x)) →
      PC (do
          reconstructActiveFormattingElements
          let _ ← insertAndPopElementFor t
          if (!isTypeHidden t) = true then do
              setFramesetOk false
              pure ProcessResult.doneAckSelfClosing
            else pure ProcessResult.doneAckSelfClosing) s1
        (fun b s2 c2 => TokPost (fun σ => Spec.TreeModes.inBodyStartInput (cfgOf s) σ (specTag t)) s (.tag t) b s2 (c1 ++ c2)) := by
    intro s1 c1 R htr1 hR
    have hm1 := htr1.1
    refine pc_seq (pc_reconstruct hm1) ?_
    rintro _ s2 c2 he2 ⟨-, -, htr2⟩
    have hm2 := htr2.1
    refine pc_seq (pc_insertAndPopElementFor hm2 hwf.plain) ?_
    rintro a s3 c3 he3 ⟨-, -, -, -, -, htr3⟩
    have hm3 := htr3.1
    have hspec : ∀ x x1 x2 σ3, AuxOk s x → R x x1 → Spec.TreeModes.reconstruct (absF s1 x1) = .ok (absF s2 x2) →
        Spec.TreeModes.insertHtml' (absF s2 x2) (specTag t) = .ok σ3 →
        Spec.TreeModes.inBodyStartInput (cfgOf s) (absF s x) (specTag t)
          = .ok (.done (if (specTag t).typeIsHidden then σ3.pop.ack (specTag t) else (σ3.pop.ack (specTag t)).notOk)) := by
      intro x x1 x2 σ3 hx r1 r2 r3
      rw [b4_input_eq _ _ _ hctx, ← hR x x1 hx r1]
      simp only [r2, Spec.TreeModes.insertVoid, r3, bind, Except.bind, pure, Except.pure]
    cases hh : isTypeHidden t with
    | true =>
      simp only [Bool.not_true, Bool.false_eq_true, if_false]
      have htr := (htr1.trans htr2).trans htr3
      refine pc_pure (tokPost_ack (calls := c1 ++ (c2 ++ (c3 ++ []))) (specTag t) (by simpa [List.append_assoc] using htr) ?_)
      rintro x x'' hx hx'' ⟨x2, ⟨x1, r1, r2⟩, σ3, r3, e3⟩
      rw [hspec x x1 x2 σ3 hx r1 r2 r3, ← b4_typeHidden hwf.plain, hh, if_pos rfl, e3]
    | false =>
      simp only [Bool.not_false, if_true]
      refine pc_seq (pc_setFramesetNotOk hm3) ?_
      rintro _ s4 c4 he4 ⟨-, htr4⟩
      have htr := ((htr1.trans htr2).trans htr3).trans htr4
      refine pc_pure (tokPost_ack (calls := c1 ++ (c2 ++ (c3 ++ (c4 ++ [])))) (specTag t) (by simpa [List.append_assoc] using htr) ?_)
      rintro x x'' hx hx'' ⟨x3, ⟨x2, ⟨x1, r1, r2⟩, σ3, r3, e3⟩, hx4, e4⟩
      subst hx4
      rw [hspec x x1 x2 σ3 hx r1 r2 r3, ← b4_typeHidden hwf.plain, hh, if_neg (by decide), e4, e3, b4_ack_notOk]
  refine pc_seq (pc_contextIsSelect hm _) ?_
  rintro b s0 c0 he0 ⟨hb, htr0⟩
  rw [hctx] at hb
  subst hb
  have hm0 := htr0.1
  have hc0 : cfgOf s0 = cfgOf s := htr0.2.1
  simp only [Bool.false_eq_true, if_false]
  refine pc_seq (pc_inScopeNamed_default hm0 "select") ?_
  rintro b s1 c1 he1 htr1
  have hm1 := htr1.1
  cases b with
  | false =>
    simp only [Bool.false_eq_true, if_false]
    have := tail s1 (c0 ++ c1) _ (htr0.trans htr1) (by
      rintro x x1 hx ⟨x0, ⟨hx0, e0⟩, hx1, e1, hb⟩
      subst hx0; subst hx1
      have hb' : Spec.TreeModes.hasInScope (cfgOf s) (absF s x1) "select" = false := by
        rw [e0, ← hc0]; first | exact hb | exact hb.symm
      rw [← e1, ← e0]
      simp only [b4_inputMid, hb', Bool.and_false, Bool.false_eq_true, if_false])
    simpa [List.append_assoc] using this
  | true =>
    simp only [if_true]
    refine pc_seq (pc_unexpected hm1) ?_
    rintro _ s2 c2 he2 ⟨-, htr2⟩
    have hm2 := htr2.1
    have htre := Tr.err hm2 "in body: input start tag inside select"
    refine pc_seq (pc_popUntilNamed hm2 "select") ?_
    rintro _ s3 c3 he3 htr3
    have := tail s3 (c0 ++ c1 ++ c2 ++ [] ++ c3) _ ((((htr0.trans htr1).trans htr2).trans htre).trans htr3) (by
      rintro x x3 hx ⟨xe, ⟨x2, ⟨x1, ⟨x0, ⟨hx0, e0⟩, hx1, e1, hb⟩, hx2, e2⟩, hxe⟩, hx3, e3, -⟩
      subst hx0; subst hx1; subst hx2; subst hxe; subst hx3
      have hb' : Spec.TreeModes.hasInScope (cfgOf s) (absF s x2) "select" = true := by
        rw [e0, ← hc0]; first | exact hb | exact hb.symm
      rw [e3, absF_err, ← e2, ← e1, ← e0]
      simp only [b4_inputMid, hb', b4_edition, Bool.and_true, if_true])
    simpa [List.append_assoc] using this

end H5V.Lemmas.HtmlTBModes
