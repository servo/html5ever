import H5V.Lemmas.XmlRTRun
import H5V.Lemmas.XmlSerFixed
/-!
C17, tokenizer half: the tokenizer model on the rendering of a list of serializer events
(`XmlSer.renderEv` with `SerCfg.fixed`).  `EvLex` is what the text of one event must satisfy lexically
to be read back (names without blanks / `>` / `/` / `=`, no U+0000, comment and PI texts that do not
contain their own terminator, lower-case doctype names); `evToks` what the tokenizer model then
delivers (text one character per token; everything else exactly `XmlSer.lexEv`).
-/
namespace H5V.Lemmas.XmlRT
open H5V.Model.XmlTB H5V.Model.XmlSer H5V.Lemmas.XmlSerFixed

/-- raw attributes of a start-tag event: names as written, values before escaping -/
def rawAttrs (decls : SMap) (attrs : List Attr) : List (Str × Str) :=
  decls.map (fun d => (declName d.1, d.2)) ++ attrs.map (fun a => (rawName a.name, a.value))

/-- the lexical side conditions under which the text of an event is read back as that event -/
def EvLex : Ev → Prop
  | .startTag n decls attrs =>
    TagNameLex (rawName n) ∧ ∀ a ∈ rawAttrs decls attrs, AttrNameLex a.1 ∧ ∀ c ∈ a.2, c ≠ '\x00'
  | .endTag n => TagNameLex (rawName n)
  | .text s => s ≠ [] ∧ ∀ c ∈ s, c ≠ '\x00'
  | .comment s => CommentLex s
  | .pi t d => PiLex t d
  | .doctype n => ∀ x ∈ n, DtCh x

/-- what the tokenizer model delivers for one event (parse errors dropped) -/
def evToks : Ev → List Token
  | .text s => s.map (fun c => .chars [c])
  | e => (lexEv SerCfg.fixed LexCfg.fixed e).toList

def isTextEv : Ev → Bool
  | .text _ => true
  | _ => false

theorem render_start (n : QName) (decls : SMap) (attrs : List Attr) :
    renderEv SerCfg.fixed (.startTag n decls attrs) =
      '<' :: rawName n ++ attrsText (rawAttrs decls attrs) ++ ['>'] := by
  show '<' :: rawName n ++
      (decls.map (fun d => ' ' :: declName d.1 ++ '=' :: '"' :: declValue SerCfg.fixed d.2 ++ ['"'])).flatten ++
      (attrs.map (fun a => ' ' :: rawName a.name ++ '=' :: '"' :: escape SerCfg.fixed true a.value ++ ['"'])).flatten ++
      ['>'] = _
  have e1 : decls.map (fun d => ' ' :: declName d.1 ++ '=' :: '"' :: declValue SerCfg.fixed d.2 ++ ['"']) =
      (decls.map (fun d => (declName d.1, d.2))).map attrText := by
    rw [List.map_map]; apply List.map_congr_left; intro d _; rfl
  have e2 : attrs.map (fun a => ' ' :: rawName a.name ++ '=' :: '"' :: escape SerCfg.fixed true a.value ++ ['"']) =
      (attrs.map (fun a => (rawName a.name, a.value))).map attrText := by
    rw [List.map_map]; apply List.map_congr_left; intro a _; rfl
  rw [e1, e2]
  simp only [attrsText, rawAttrs, List.map_append, List.flatten_append, List.cons_append, List.append_assoc]

theorem render_end (n : QName) : renderEv SerCfg.fixed (.endTag n) = '<' :: '/' :: rawName n ++ ['>'] := rfl
theorem render_text (s : Str) : renderEv SerCfg.fixed (.text s) = escape SerCfg.fixed false s := rfl
theorem render_comment (s : Str) :
    renderEv SerCfg.fixed (.comment s) = '<' :: '!' :: '-' :: '-' :: (s ++ ['-', '-', '>']) := by
  show "<!--".toList ++ s ++ "-->".toList = _
  have e1 : "<!--".toList = ['<', '!', '-', '-'] := by decide
  have e2 : "-->".toList = ['-', '-', '>'] := by decide
  rw [e1, e2]; simp
theorem render_pi (t d : Str) : renderEv SerCfg.fixed (.pi t d) = '<' :: '?' :: t ++ ' ' :: d ++ ['?', '>'] := rfl
theorem render_doctype (n : Str) :
    renderEv SerCfg.fixed (.doctype n) =
      '<' :: '!' :: 'D' :: 'O' :: 'C' :: 'T' :: 'Y' :: 'P' :: 'E' :: ' ' :: (n ++ ['>']) := by
  show "<!DOCTYPE ".toList ++ n ++ ['>'] = _
  have e1 : "<!DOCTYPE ".toList = ['<', '!', 'D', 'O', 'C', 'T', 'Y', 'P', 'E', ' '] := by decide
  rw [e1]; simp

theorem start_tok (n : QName) (decls : SMap) (attrs : List Attr) :
    Token.tag ⟨.start, cvName (Model.XmlTok.processQName (rawName n)), (finAll (rawAttrs decls attrs)).map cvAttr⟩ =
      .tag (finishTag LexCfg.fixed.tok ⟨.start, rawName n,
        decls.map (fun d => ⟨declName d.1, lexAttrValue LexCfg.fixed (declValue SerCfg.fixed d.2)⟩) ++
        attrs.map (fun a => ⟨rawName a.name, lexAttrValue LexCfg.fixed (escape SerCfg.fixed true a.value)⟩)⟩) := by
  rw [cvName_processQName, finAll_eq]
  unfold finishTag
  congr 3
  simp only [rawAttrs, List.map_append, List.map_map]
  congr 1
  · apply List.map_congr_left
    intro d _
    show _ = RawAttr.mk _ _
    have : declValue SerCfg.fixed d.2 = escape SerCfg.fixed true d.2 := rfl
    rw [this, lexAttrValue_fixed]; rfl
  · apply List.map_congr_left
    intro a _
    show _ = RawAttr.mk _ _
    rw [lexAttrValue_fixed]; rfl

theorem okHead_render (e : Ev) (he : EvLex e) (x : Str) : OkHead (renderEv SerCfg.fixed e ++ x) := by
  cases e with
  | startTag n decls attrs => rw [render_start]; exact okHead_cons _ _ (by decide) (by decide)
  | endTag n => rw [render_end]; exact okHead_cons _ _ (by decide) (by decide)
  | text s =>
    obtain ⟨hne, hs⟩ := he
    rw [render_text]
    cases s with
    | nil => exact absurd rfl hne
    | cons c t =>
      simp only [escape, List.map_cons, List.flatten_cons, List.append_assoc]
      exact okHead_escapeChar false c (hs c (by simp)) _
  | comment s => rw [render_comment]; exact okHead_cons _ _ (by decide) (by decide)
  | pi t d => rw [render_pi]; exact okHead_cons _ _ (by decide) (by decide)
  | doctype n => rw [render_doctype]; exact okHead_cons _ _ (by decide) (by decide)

theorem ev_run (o : Model.XmlTok.Opts) (ho : o.exactErrors = false) (m : Model.XmlTok.Mach) (e : Ev) (rest : Str)
    (he : EvLex e) (hrest : isTextEv e = true → OkHead rest) (h : Ctl m .data) (hn : Clean m) :
    ∃ m', Reach o m (renderEv SerCfg.fixed e ++ rest) m' rest ∧ Ctl m' .data ∧ Clean m' ∧
      cvOut m'.out = cvOut m.out ++ evToks e := by
  cases e with
  | startTag n decls attrs =>
    obtain ⟨h1, h2⟩ := he
    obtain ⟨m', r, c, cl, ot⟩ := start_tag_run o ho m (rawName n) (rawAttrs decls attrs) rest h hn h1 h2
    refine ⟨m', ?_, c, cl, ?_⟩
    · rw [render_start]; simpa using r
    · rw [ot, start_tok]; rfl
  | endTag n =>
    obtain ⟨m', r, c, cl, ot⟩ := end_tag_run o ho m (rawName n) rest h hn he
    refine ⟨m', ?_, c, cl, ?_⟩
    · rw [render_end]; simpa using r
    · rw [ot, cvName_processQName]; rfl
  | text s =>
    obtain ⟨m', r, c, cl, ot⟩ := text_run o ho rest (hrest rfl) s m he.2 h hn
    exact ⟨m', by rw [render_text]; exact r, c, cl, ot⟩
  | comment s =>
    obtain ⟨m', r, c, cl, ot⟩ := comment_run o ho m s rest h hn he
    refine ⟨m', ?_, c, cl, ot⟩
    rw [render_comment]; simpa using r
  | pi t d =>
    obtain ⟨m', r, c, cl, ot⟩ := pi_run o ho m t d rest h hn he
    refine ⟨m', ?_, c, cl, ot⟩
    rw [render_pi]; simpa using r
  | doctype n =>
    obtain ⟨m', r, c, cl, ot⟩ := doctype_run o ho m n rest h hn he
    refine ⟨m', ?_, c, cl, ot⟩
    rw [render_doctype]; simpa using r

/-- does the list end in a text event? -/
def endsInText : List Ev → Bool
  | [] => false
  | [e] => isTextEv e
  | _ :: rest => endsInText rest

theorem evs_run (o : Model.XmlTok.Opts) (ho : o.exactErrors = false) (rest : Str) :
    ∀ (evs : List Ev) (m : Model.XmlTok.Mach), (∀ e ∈ evs, EvLex e) → (endsInText evs = true → OkHead rest) →
      Ctl m .data → Clean m →
      ∃ m', Reach o m (render SerCfg.fixed evs ++ rest) m' rest ∧ Ctl m' .data ∧ Clean m' ∧
        cvOut m'.out = cvOut m.out ++ (evs.map evToks).flatten := by
  intro evs
  induction evs with
  | nil => intro m _ _ h hn; exact ⟨m, by simpa [render] using Reach.refl _ _, h, hn, by simp⟩
  | cons e es ih =>
    intro m hl hr h hn
    have he := hl e (by simp)
    have hl' : ∀ x ∈ es, EvLex x := fun x hx => hl x (by simp [hx])
    have hhead : isTextEv e = true → OkHead (render SerCfg.fixed es ++ rest) := by
      intro _
      cases es with
      | nil => simpa [render] using hr (by simpa [endsInText])
      | cons e2 es2 =>
        simp only [render, List.map_cons, List.flatten_cons, List.append_assoc]
        exact okHead_render e2 (hl e2 (by simp)) _
    obtain ⟨m1, r1, c1, n1, o1⟩ := ev_run o ho m e (render SerCfg.fixed es ++ rest) he hhead h hn
    obtain ⟨m2, r2, c2, n2, o2⟩ := ih m1 hl' (by
      intro hh; apply hr
      cases es with
      | nil => simp [endsInText] at hh
      | cons e2 es2 => simpa [endsInText] using hh) c1 n1
    refine ⟨m2, ?_, c2, n2, ?_⟩
    · simp only [render, List.map_cons, List.flatten_cons, List.append_assoc]
      exact Reach.trans r1 r2
    · rw [o2, o1]; simp

end H5V.Lemmas.XmlRT
