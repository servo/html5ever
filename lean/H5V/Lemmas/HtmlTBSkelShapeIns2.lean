import H5V.Lemmas.HtmlTBSkelShapeRoot
/-!
C06, second invariant layer: `insert_element` when the current node is not a foster-parenting
target and not a template — below the root (BeforeHead, AfterHead, `<frameset>` replacing `body`, the
frameset modes) or below another element (InHead, InHeadNoscript, InFrameset).
-/
namespace H5V.Props.C06
open H5V.Model.Dom hiding Str
open H5V.Model.HtmlTB hiding Str
open H5V.Lemmas.Dom

/-- the appropriate place for insertion is the current node itself -/
theorem apfi_plain {s s' : State} {ip : InsertionPoint} {t : Id}
    (e : appropriatePlaceForInsertion none s = .ok (ip, s')) (ht : s.openElems.getLast? = some t)
    (hnf : fosterTarget (nm s.dom t) = false) (hnt : nm s.dom t ≠ hN "template") :
    QS s s' ∧ ip = .lastChild t := by
  obtain ⟨q, t', ht', ha⟩ := apfi_sem e
  simp only at ht'
  rw [ht] at ht'
  cases ht'
  refine ⟨q, ?_⟩
  cases ha with
  | plain => rfl
  | tmpl tc _ h2 => exact absurd h2 hnt
  | foster ip' _ h2 _ => rw [hnf] at h2; cases h2

theorem rs_createElement_data (d : Dom) (name : QualName) (attrs : List Attr) (flags : ElementFlags) (x : Id)
    (hx : x < d.size) : (d.createElement name attrs flags).1.dataOf x = d.dataOf x := by
  unfold Dom.createElement
  cases hf : flags.template with
  | true =>
    simp only [if_true]
    rw [dataOf_alloc, dataOf_alloc]
    have h1 : x ≠ (d.alloc .document).1.size := by rw [size_alloc]; exact Nat.ne_of_lt (Nat.lt_succ_of_lt hx)
    have h2 : x ≠ d.size := Nat.ne_of_lt hx
    rw [if_neg h1, if_neg h2]
  | false =>
    simp only [Bool.false_eq_true, if_false]
    rw [dataOf_alloc, if_neg (Nat.ne_of_lt hx)]

/-- nothing open precedes the end of the current node's child list -/
theorem Core.no_open_before_plain {s : State} {r t : Id} {up : List Id} {ph : Phase} (hc : Core s r up ph)
    (ht : s.openElems.getLast? = some t) :
    ∀ P a b x, s.dom.childrenOf P = a ++ b → NodePos s.dom (.lastChild t) P b → x ∈ a → x ∈ s.openElems →
      exm (nm s.dom x) = false → False := by
  intro P a b x hP hpos hxa hxO _
  have hxP : x ∈ s.dom.childrenOf P := by rw [hP]; exact List.mem_append_left _ hxa
  cases hpos with
  | last hb hip =>
    rcases hip with hip | ⟨e, hip, _⟩
    · have hPt : t = P := by injection hip
      rw [← hPt] at hxP
      exact not_before_last hc.nodup ht (hc.adj.pb t x hxP hxO (mem_of_getLast?' ht))
    · cases hip
  | before e p b' hip _ _ _ => cases hip

/-- what `insert_element` does when the place is the current node `t` -/
structure InsRes (s s5 : State) (r t el : Id) (ns name : Str) : Prop where
  late : Late s5
  dom : DomOnly s s5
  chg : Chg s.dom s5.dom
  k0 : s5.dom.childrenOf 0 = s.dom.childrenOf 0
  fresh : s.dom.size ≤ el
  nmel : nm s5.dom el = ⟨ns, name⟩
  elel : s5.dom.isElement el = true
  loose : el ∉ s5.dom.childrenOf 0
  inner : t ≠ r → RS r s.dom s5.dom
  root : t = r → s5.dom.childrenOf r = s.dom.childrenOf r ++ [el] ∧
    (∀ x, x < s.dom.size → s5.dom.dataOf x = s.dom.dataOf x) ∧ (RTU r s.dom → RTU r s5.dom)
  adj : AdjD s5.dom s5.openElems
  adjp : AdjD s5.dom (s5.openElems ++ [el])

theorem insertElement_res {s s' : State} {r : Id} {up : List Id} {ph : Phase} {pushIt : Bool} {ns name : Str}
    {attrs : List Attr} {dup : Bool} {el t : Id} (hc : Core s r up ph) (ht : s.openElems.getLast? = some t)
    (hnf : fosterTarget (nm s.dom t) = false) (hnt : nm s.dom t ≠ hN "template")
    (e : insertElement pushIt ns name attrs dup s = .ok (el, s')) :
    ∃ s5, s' = (if pushIt then { s5 with openElems := s5.openElems ++ [el] } else s5) ∧
      InsRes s s5 r t el ns name := by
  obtain ⟨ip, s1, s2, s3, s4, s5, e1, q12, e3, q34, e5, hs'⟩ := insertElement_run e
  obtain ⟨q1, hip⟩ := apfi_plain e1 ht hnf hnt
  subst hip
  obtain ⟨_, _, hipok1⟩ := apfi_spec hc.late e1
  have q02 : QS s s2 := q1.trans q12
  have hc2 : Core s2 r up ph := hc.qs q02
  have hipok2 : IpOk s2.dom (.lastChild t) := hipok1.ext (SameSk.of_nodes q12.nodes).ext
  obtain ⟨hc3, hdo3, hchg3, hfresh3, hel3, hnm3, hnol3⟩ := createElement_core hc2 e3
  obtain ⟨f3, hb3, _, hk3, _, _, tc, ipf, hdata3⟩ := createElementWithFlags_any hc2.late.base e3
  have hc4 : Core s4 r up ph := hc3.qs q34
  have hext24 : Ext s2.dom s4.dom := by
    obtain ⟨_, x, _⟩ := createElementWithFlags_spec hc2.late e3
    exact x.trans (SameSk.of_nodes q34.nodes).ext
  have hipok4 : IpOk s4.dom (.lastChild t) := hipok2.ext hext24
  have hnol4 : ∀ q, el ∉ s4.dom.childrenOf q := fun q => by rw [childrenOf_of_nodes q34.nodes]; exact hnol3 q
  have hel4 : s4.dom.isElement el = true := by rw [isElement_of_nodes q34.nodes]; exact hel3
  have hloose4 : Loose s4.dom el := ⟨hel4, hnol4 0⟩
  obtain ⟨hl5, hext5, hk05, hdo5⟩ := insertAt_spec (child := .node el) hc4.late hipok4 hloose4.childOk e5
  have hsz2 : s2.dom.size = s.dom.size := by simp [Dom.size, q02.nodes]
  have hsz : s.dom.size ≤ el := by rw [← hsz2]; exact hfresh3
  have hchg05 : Chg s.dom s5.dom :=
    ((SameSk.of_nodes q02.nodes).chg.trans hchg3).trans ((SameSk.of_nodes q34.nodes).chg.trans hext5.chg)
  have hdo : DomOnly s s5 := by
    show s5 = { s with dom := s5.dom, traceRev := s5.traceRev }
    have h5 := hdo5; have h3 := hdo3; have h34 := q34.rest; have h02 := q02.rest
    rw [h5, h34, h3, h02]
  have hk0 : s5.dom.childrenOf 0 = s.dom.childrenOf 0 := by
    rw [hk05, childrenOf_of_nodes q34.nodes, hk3, childrenOf_of_nodes q02.nodes]
  have htlt : t < s2.dom.size := by
    have := hc2.late.st.oe t (by rw [q02.openElems]; exact mem_of_getLast?' ht)
    exact lt_of_isElement this
  have hte : t ≠ el := fun h0 => by rw [h0] at htlt; exact Nat.lt_irrefl _ (Nat.lt_of_lt_of_le htlt hfresh3)
  -- adjacency
  obtain ⟨_, hpar3, hkids3, htxt3, htc3, _, hch3, hpo3, hda3⟩ := createElement_adj hc2.late hc2.adj e3
  have hst4 : s4.openElems = s.openElems := by
    rw [q34.openElems, hdo3]; show s2.openElems = _; exact q02.openElems
  have hel_nO : el ∉ s4.openElems := by
    rw [hst4]
    intro hm
    exact Nat.lt_irrefl _ (Nat.lt_of_lt_of_le (lt_of_isElement (hc.late.st.oe el hm)) hsz)
  have hch4 : ∀ x, s4.dom.childrenOf x = s.dom.childrenOf x := fun x => by
    rw [childrenOf_of_nodes q34.nodes, hch3, childrenOf_of_nodes q02.nodes]
  have hcand : ∀ p, (InsertionPoint.lastChild t).nodes.1 = p ∨ (InsertionPoint.lastChild t).nodes.2 = some p → p ≠ el := by
    intro p hp
    simp only [InsertionPoint.nodes] at hp
    rcases hp with rfl | hp
    · exact hte
    · cases hp
  obtain ⟨hadj5, hadj5p⟩ := insertAt_new_adj (el := el) hc4.late hipok4 hc4.adj hel_nO
    (by rw [parentOf_of_nodes q34.nodes]; exact hpar3)
    (by rw [isText_of_data (d := s3.dom) (by unfold Dom.dataOf; rw [q34.nodes])]; exact htxt3)
    (by rw [childrenOf_of_nodes q34.nodes]; exact hkids3)
    (fun tc htc => by
      rw [tc_of_nodes q34.nodes] at htc
      obtain ⟨h1, h2⟩ := htc3 tc htc
      refine ⟨by rw [childrenOf_of_nodes q34.nodes]; exact h1, fun p hp => ?_⟩
      simp only [InsertionPoint.nodes] at hp
      rcases hp with rfl | hp
      · exact Nat.ne_of_lt (Nat.lt_of_lt_of_le htlt h2)
      · cases hp)
    hcand
    (fun P a b x hP hpos hxa hxO hxx => by
      refine hc.no_open_before_plain ht P a b x (by rw [← hch4]; exact hP) ?_ hxa (by rw [← hst4]; exact hxO) ?_
      · refine hpos.congr (fun y => (hch4 y).symm) (fun p hp => ?_)
        simp only [InsertionPoint.nodes] at hp
        rcases hp with rfl | hp
        · rw [parentOf_of_nodes q34.nodes, hpo3 _ htlt, parentOf_of_nodes q02.nodes]
        · cases hp
      · have hxO' : x ∈ s.openElems := by rw [← hst4]; exact hxO
        have hlt : x < s2.dom.size := by rw [hsz2]; exact lt_of_isElement (hc.late.st.oe x hxO')
        have : nm s4.dom x = nm s.dom x := by
          rw [nm_of_nodes q34.nodes, nm_of_data (hda3 x hlt), nm_of_nodes q02.nodes]
        rw [← this]; exact hxx)
    e5
  have hoe54 : s5.openElems = s4.openElems := by rw [hdo5]
  refine ⟨s5, hs', hl5, hdo, hchg05, hk0, hsz, ?_, hext5.chg.isElement hel4, by rw [hk05]; exact hnol4 0, ?_, ?_,
    by rw [hoe54]; exact hadj5, by rw [hoe54]; exact hadj5p⟩
  · rw [nm_chg hext5.chg hel4, nm_of_nodes q34.nodes]; exact hnm3
  · intro htr
    have hrs23 : RS r s2.dom s3.dom := by
      unfold createElementWithFlags at e3
      obtain ⟨hd1, _⟩ := sink_dom (sinkNode_ok.mp e3)
      obtain ⟨hdom1, _⟩ := apply_createElement hd1
      rw [hdom1]
      exact rs_createElement r hc2.late.base _ _ _
    have hrs45 : RS r s4.dom s5.dom :=
      insertAt_rs (child := .node el) (ip := .lastChild t) hc4.late.base hc4.rtu htr ⟨hnol4 r, fun p hp => by
        simp only [InsertionPoint.nodes] at hp
        rcases hp with rfl | hp
        · exact hte
        · cases hp⟩ e5
    exact (((RS.of_nodes q02.nodes).trans hrs23).trans (RS.of_nodes q34.nodes)).trans hrs45
  · intro htr
    subst htr
    unfold H5V.Model.HtmlTB.insertAt at e5
    obtain ⟨out, hd5, _⟩ := sinkUnit_dom e5
    obtain ⟨hkr, hdata5, _, _, hrtu5⟩ := root_append_node hte hnol4 (apply_append hd5)
    have hk24 : ∀ x, s4.dom.childrenOf x = s.dom.childrenOf x := fun x => by
      rw [childrenOf_of_nodes q34.nodes, hk3, childrenOf_of_nodes q02.nodes]
    have hrs04 : RS t s.dom s4.dom := by
      have hrs23 : RS t s2.dom s3.dom := by
        unfold createElementWithFlags at e3
        obtain ⟨hd1, _⟩ := sink_dom (sinkNode_ok.mp e3)
        obtain ⟨hdom1, _⟩ := apply_createElement hd1
        rw [hdom1]
        exact rs_createElement t hc2.late.base _ _ _
      exact ((RS.of_nodes q02.nodes).trans hrs23).trans (RS.of_nodes q34.nodes)
    refine ⟨by rw [hkr, hk24], fun x hx => ?_, fun hu => hrtu5 (hrs04.uniq hu)⟩
    rw [hdata5]
    -- data of old nodes: creation allocates new nodes only
    have h34 : s4.dom.dataOf x = s3.dom.dataOf x := by unfold Dom.dataOf; rw [q34.nodes]
    have h02 : s2.dom.dataOf x = s.dom.dataOf x := by unfold Dom.dataOf; rw [q02.nodes]
    rw [h34, ← h02]
    unfold createElementWithFlags at e3
    obtain ⟨hd1, _⟩ := sink_dom (sinkNode_ok.mp e3)
    obtain ⟨hdom1, _⟩ := apply_createElement hd1
    rw [hdom1]
    exact rs_createElement_data s2.dom _ _ _ x (by rw [hsz2]; exact hx)


theorem InsRes.fields {s s5 : State} {r t el : Id} {ns name : Str} (h : InsRes s s5 r t el ns name) :
    s5.openElems = s.openElems ∧ s5.headElem = s.headElem ∧ s5.mode = s.mode ∧ s5.origMode = s.origMode ∧
      s5.activeFormatting = s.activeFormatting ∧ s5.formElem = s.formElem ∧ s5.templateModes = s.templateModes := by
  have hr := h.dom
  refine ⟨?_, ?_, ?_, ?_, ?_, ?_, ?_⟩ <;> rw [hr]

theorem InsRes.notOpen {s s5 : State} {r t el : Id} {ns name : Str} {up : List Id} {ph : Phase}
    (h : InsRes s s5 r t el ns name) (hc : Core s r up ph) : el ∉ s.openElems := fun hm =>
  Nat.lt_irrefl _ (Nat.lt_of_lt_of_le (lt_of_isElement (hc.late.st.oe el hm)) h.fresh)

/-- insertion below an element other than the root -/
theorem Core.insInner {s s5 : State} {r t el : Id} {ns name : Str} {up : List Id} {ph : Phase}
    (hc : Core s r up ph) (h : InsRes s s5 r t el ns name) (htr : t ≠ r) :
    Core s5 r up ph ∧ SameNames s.dom s5.dom up ∧
      (PushOk s ⟨ns, name⟩ → Core { s5 with openElems := s5.openElems ++ [el] } r (up ++ [el]) ph) := by
  obtain ⟨f1, f2, f3, f4, f5, f6, f7⟩ := h.fields
  have hc5 : Core s5 r up ph := hc.transfer h.late h.chg (h.inner htr) (by rw [h.k0]; exact hc.rdoc) f1 f5 f7 f6 f2 h.adj
  refine ⟨hc5, hc.sameNames h.chg, fun hpk => ?_⟩
  refine hc5.pushG ⟨h.elel, h.loose⟩ (by rw [f1]; exact h.notOpen hc) ?_ h.adjp
  rw [h.nmel]
  refine ⟨fun x hx => ?_, hpk.2.1, fun hn => ?_⟩
  · rw [f1] at hx
    rw [nm_chg h.chg (hc.late.st.oe x (mem_of_getLast?' hx))]
    exact hpk.1 x hx
  · rw [f1, f7, tcount_congr (SameNames.of_chg h.chg hc.late.st.oe)]
    exact hpk.2.2 hn

/-- insertion below the root, the root being the only open element -/
theorem Core.insRoot {s s5 : State} {r el : Id} {ns name : Str} {ph : Phase}
    (hc : Core s r [] ph) (h : InsRes s s5 r r el ns name) (hcon : constrained ⟨ns, name⟩ = false)
    (hnt : (⟨ns, name⟩ : EName) ≠ hN "template") :
    rootElems s5.dom r = rootElems s.dom r ++ [el] ∧ (∀ x, x < s.dom.size → nm s5.dom x = nm s.dom x) ∧
      ∀ ph' hd', (∀ x, hd' = some x → s5.dom.isElement x = true ∧ x ∉ s5.dom.childrenOf 0) →
        ElemsOk s5.dom hd' r ph' → Afx s5.dom s5.activeFormatting r →
        Core { s5 with openElems := s5.openElems ++ [el], headElem := hd' } r [el] ph' := by
  obtain ⟨f1, f2, f3, f4, f5, f6, f7⟩ := h.fields
  obtain ⟨hkr, hdata, hrtu⟩ := h.root rfl
  have hnm : ∀ x, x < s.dom.size → nm s5.dom x = nm s.dom x := fun x hx => by unfold nm; rw [hdata x hx]
  have hel : ∀ x, x < s.dom.size → s5.dom.isElement x = s.dom.isElement x := fun x hx => by
    unfold Dom.isElement; rw [hdata x hx]
  have hklt : ∀ c ∈ s.dom.childrenOf r, c < s.dom.size := fun c hcm => hc.late.base.kidsValid r c hcm
  have hre : rootElems s5.dom r = rootElems s.dom r ++ [el] := by
    unfold rootElems
    rw [hkr, List.filter_append]
    congr 1
    · apply List.filter_congr
      intro x hx
      exact hel x (hklt x hx)
    · simp [h.elel]
  refine ⟨hre, hnm, fun ph' hd' hhd he hafx => ?_⟩
  have hnotopen := h.notOpen hc
  have hst : s.openElems = [r] := hc.stack
  have hlp := h.late.push (x := el) ⟨h.elel, h.loose⟩
  have hl' : Late { s5 with openElems := s5.openElems ++ [el], headElem := hd' } :=
    ⟨hlp.base, hlp.pat, ⟨hlp.st.doc, hlp.st.ctx, hlp.st.oe, hlp.st.tail, hhd, hlp.st.ptt⟩,
      ⟨hlp.ml.mode, hlp.ml.orig, hlp.ml.tm⟩⟩
  refine ⟨hl', by show s5.openElems ++ [el] = _; rw [f1, hst]; rfl, by rw [h.k0]; exact hc.rdoc,
    ?_, ?_, ?_, ?_, by rw [f7]; exact hc.tmm, ?_, hrtu hc.rtu, ?_, ?_, he, (by intro y hy; cases hy), hafx, h.adjp⟩
  · show (s5.openElems ++ [el]).Nodup
    rw [f1, List.nodup_append]
    exact ⟨hc.nodup, by simp, by intro a ha b hb; simp at hb; subst hb; rintro rfl; exact hnotopen ha⟩
  · show TG (nm s5.dom) (s5.openElems ++ [el])
    rw [f1, hst]
    intro pre x y post hs
    have : pre = [] ∧ x = r ∧ y = el ∧ post = [] := by
      cases pre with
      | nil => simp at hs; exact ⟨rfl, hs.1.symm, hs.2.1.symm, hs.2.2⟩
      | cons a t => cases t <;> simp at hs
    obtain ⟨_, rfl, rfl, _⟩ := this
    rw [h.nmel]; exact predOk_of_not_constrained hcon
  · intro x t hx
    have hx' : FormatEntry.element x t ∈ s5.activeFormatting := hx
    rw [f5] at hx'
    obtain ⟨a, b, c⟩ := hc.afn x t hx'
    exact ⟨a, by rw [nm_chg h.chg c]; exact b, h.chg.isElement c⟩
  · show tcount s5.dom (s5.openElems ++ [el]) ≤ _
    rw [f1, hst]
    unfold tcount
    have h1 : (nm s5.dom r == hN "template") = false := by
      rw [nm_chg h.chg (hc.late.st.oe r hc.root_mem), hc.root_name]; simp [lit_name]
    have h2 : (nm s5.dom el == hN "template") = false := by
      rw [h.nmel]; simpa using hnt
    simp [h1, h2]
  · intro f hf
    have hf' : s5.formElem = some f := hf
    rw [f6] at hf'
    obtain ⟨a, b⟩ := hc.form f hf'
    exact ⟨by rw [nm_chg h.chg b]; exact a, h.chg.isElement b⟩
  · show (s5.dom.childrenOf r).Nodup
    rw [hkr, List.nodup_append]
    refine ⟨hc.rnd, by simp, ?_⟩
    intro a ha b hb
    simp at hb; subst hb
    rintro rfl
    exact Nat.lt_irrefl _ (Nat.lt_of_lt_of_le (hklt a ha) h.fresh)
  · intro c hcm
    have hcm' : c ∈ s5.dom.childrenOf r := hcm
    rw [hkr] at hcm'
    rcases List.mem_append.mp hcm' with h1 | h1
    · rcases hc.kids c h1 with k | ⟨t, k⟩ | ⟨t, k, k2⟩
      · exact Or.inl (by rw [hel c (hklt c h1)]; exact k)
      · exact Or.inr (Or.inl ⟨t, by rw [hdata c (hklt c h1)]; exact k⟩)
      · exact Or.inr (Or.inr ⟨t, by rw [hdata c (hklt c h1)]; exact k, k2⟩)
    · simp only [List.mem_singleton] at h1
      subst h1
      exact Or.inl h.elel


/-! ### text below the current node -/

theorem ElemsOk.of_rootElems {d d' : Dom} {head : Option Id} {r : Id} {ph : Phase}
    (hre : rootElems d' r = rootElems d r) (hnm : ∀ x ∈ rootElems d r, nm d' x = nm d x)
    (h : ElemsOk d head r ph) : ElemsOk d' head r ph := by
  cases ph with
  | p0 => exact ⟨h.1, by rw [hre]; exact h.2⟩
  | p1 =>
    obtain ⟨hh, h1, h2, h3⟩ := h
    exact ⟨hh, h1, by rw [hre]; exact h2, by rw [hnm hh (by rw [h2]; simp)]; exact h3⟩
  | pb b =>
    obtain ⟨hh, h1, h2, h3, h4⟩ := h
    exact ⟨hh, h1, by rw [hre]; exact h2, by rw [hnm hh (by rw [h2]; simp)]; exact h3,
      by rw [hnm b (by rw [h2]; simp)]; exact h4⟩
  | pf fs =>
    obtain ⟨hh, ex, h1, h2, h3, h4, h5⟩ := h
    exact ⟨hh, ex, h1, by rw [hre]; exact h2, by rw [hnm hh (by rw [h2]; simp)]; exact h3,
      by rw [hnm fs (by rw [h2]; simp)]; exact h4, fun x hx => by rw [hnm x (by rw [h2]; simp [hx])]; exact h5 x hx⟩

/-- the arena changed below the root in a controlled way -/
theorem Core.transferRoot {s s' : State} {r : Id} {up : List Id} {ph : Phase} (h : Core s r up ph)
    (hl : Late s') (hdo : DomOnly s s') (hc : Chg s.dom s'.dom) (hk0 : r ∈ s'.dom.childrenOf 0)
    (hrtu : RTU r s'.dom) (hrnd : (s'.dom.childrenOf r).Nodup) (hkids : ∀ c ∈ s'.dom.childrenOf r, KidOkR s'.dom c)
    (hre : rootElems s'.dom r = rootElems s.dom r) (hadj : AdjD s'.dom s'.openElems) : Core s' r up ph := by
  have hr := hdo
  have hoe : s'.openElems = s.openElems := by rw [hr]
  have haf : s'.activeFormatting = s.activeFormatting := by rw [hr]
  have htm : s'.templateModes = s.templateModes := by rw [hr]
  have hform : s'.formElem = s.formElem := by rw [hr]
  have hhead : s'.headElem = s.headElem := by rw [hr]
  have hel : ∀ x ∈ s.openElems, s.dom.isElement x = true := h.late.st.oe
  have hsn : SameNames s.dom s'.dom s.openElems := SameNames.of_chg hc hel
  refine ⟨hl, by rw [hoe]; exact h.stack, hk0, by rw [hoe]; exact h.nodup, ?_, ?_, ?_, by rw [htm]; exact h.tmm, ?_,
    hrtu, hrnd, hkids, ?_, ?_, ?_, hadj⟩
  · rw [hoe]; exact h.tg.congr hsn
  · intro x t hx
    rw [haf] at hx
    obtain ⟨h1, h2, h3⟩ := h.afn x t hx
    exact ⟨h1, by rw [nm_chg hc h3]; exact h2, hc.isElement h3⟩
  · rw [hoe, htm, tcount_congr hsn]; exact h.tc
  · intro f hf
    rw [hform] at hf
    obtain ⟨h1, h2⟩ := h.form f hf
    exact ⟨by rw [nm_chg hc h2]; exact h1, hc.isElement h2⟩
  · rw [hhead]
    exact h.elems.of_rootElems hre (fun x hx => nm_chg hc (mem_rootElems hx).2)
  · intro y hy
    rw [hsn y (by rw [h.stack]; exact List.mem_cons_of_mem _ (List.mem_of_mem_tail hy))]
    exact h.bh y hy
  · rw [haf]
    exact h.afx.congr hre (fun x hx => nm_chg hc (mem_rootElems hx).2) (fun y t hy => ⟨y, hy⟩)

/-- `append_text` when the current node is neither a foster-parenting target nor a template;
below the root the text has to be whitespace -/
theorem appendText_core {s s' : State} {r : Id} {up : List Id} {ph : Phase} {text : Str} {res : ProcessResult}
    {t : Id} (hc : Core s r up ph) (ht : s.openElems.getLast? = some t)
    (hnf : fosterTarget (nm s.dom t) = false) (hnt : nm s.dom t ≠ hN "template") (hne : text ≠ [])
    (hws : t = r → text.all isAsciiWhitespace = true) (e : appendText text s = .ok (res, s')) :
    Core s' r up ph ∧ res = .done ∧ DomOnly s s' ∧ SameNames s.dom s'.dom up := by
  unfold appendText at e
  obtain ⟨u, s2, e1, e2⟩ := bind_ok.mp e
  obtain ⟨rfl, rfl⟩ := pure_ok.mp e2
  unfold insertAppropriately at e1
  obtain ⟨ip, s1, e3, e4⟩ := bind_ok.mp e1
  obtain ⟨q1, hip⟩ := apfi_plain e3 ht hnf hnt
  subst hip
  obtain ⟨_, _, hipok1⟩ := apfi_spec hc.late e3
  have hc1 := hc.qs q1
  obtain ⟨hl2, hext2, hk02, hdo2⟩ := insertAt_spec (child := .text text) hc1.late hipok1 hne e4
  have hsn : SameNames s.dom s2.dom up := hc.sameNames ((SameSk.of_nodes q1.nodes).chg.trans hext2.chg)
  have hdo : DomOnly s s2 := by
    show s2 = { s with dom := s2.dom, traceRev := s2.traceRev }
    have := q1.rest
    rw [hdo2, this]
  have hadj2 : AdjD s2.dom s2.openElems := by
    have : s2.openElems = s1.openElems := by rw [hdo2]
    rw [this]
    refine insertAt_text_adj hc1.late hipok1 hc1.adj hc1.late.st.oe (fun x hpx hxO hxx => ?_) e4
    obtain ⟨P, a, b, hP, hpos, hxa⟩ := hpx.pos
    exact hc1.no_open_before_plain (by rw [q1.openElems]; exact ht) P a b x hP hpos hxa hxO hxx
  refine ⟨?_, rfl, hdo, hsn⟩
  unfold H5V.Model.HtmlTB.insertAt at e4
  obtain ⟨out, hd, _⟩ := sinkUnit_dom e4
  have happ := apply_append hd
  by_cases htr : t = r
  · -- below the root
    subst htr
    obtain ⟨hother, hrtu, hcase⟩ := root_append_text hc1.late.base happ
    have hklt : ∀ c ∈ s1.dom.childrenOf t, c < s1.dom.size := fun c hcm => hc1.late.base.kidsValid t c hcm
    have hwt := hws rfl
    have hcore2 : Core s2 t up ph := by
      refine hc1.transferRoot hl2 hdo2 hext2.chg (by rw [hk02]; exact hc1.rdoc) (hrtu hc1.rtu) ?_ ?_ ?_ hadj2
      · rcases hcase with ⟨hl', old, hk, _⟩ | ⟨hk, _, _⟩
        · rw [hk]; exact hc1.rnd
        · rw [hk, List.nodup_append]
          refine ⟨hc1.rnd, by simp, ?_⟩
          intro a ha b hb
          simp at hb; subst hb
          exact Nat.ne_of_lt (hklt a ha)
      · intro c hcm
        rcases hcase with ⟨hl', old, hk, hlm, hold, hdata, _⟩ | ⟨hk, hdata, _⟩
        · rw [hk] at hcm
          by_cases hcl : c = hl'
          · subst hcl
            refine Or.inr (Or.inr ⟨old ++ text, by rw [hdata]; simp, ?_⟩)
            rcases hc1.kids c hlm with k | ⟨t', k⟩ | ⟨t', k, k2⟩
            · unfold Dom.isElement at k; rw [hold] at k; cases k
            · rw [hold] at k; cases k
            · rw [hold] at k; cases k
              rw [List.all_append, k2, hwt]; rfl
          · rcases hc1.kids c hcm with k | ⟨t', k⟩ | ⟨t', k, k2⟩
            · exact Or.inl (hext2.chg.isElement k)
            · exact Or.inr (Or.inl ⟨t', by rw [hdata]; simp [hcl]; exact k⟩)
            · exact Or.inr (Or.inr ⟨t', by rw [hdata]; simp [hcl]; exact k, k2⟩)
        · rw [hk] at hcm
          rcases List.mem_append.mp hcm with hm | hm
          · have hcl : c ≠ s1.dom.size := Nat.ne_of_lt (hklt c hm)
            rcases hc1.kids c hm with k | ⟨t', k⟩ | ⟨t', k, k2⟩
            · exact Or.inl (hext2.chg.isElement k)
            · exact Or.inr (Or.inl ⟨t', by rw [hdata]; simp [hcl]; exact k⟩)
            · exact Or.inr (Or.inr ⟨t', by rw [hdata]; simp [hcl]; exact k, k2⟩)
          · simp only [List.mem_singleton] at hm
            subst hm
            exact Or.inr (Or.inr ⟨text, by rw [hdata]; simp, hwt⟩)
      · rcases hcase with ⟨hl', old, hk, hlm, hold, hdata, _⟩ | ⟨hk, hdata, _⟩
        · exact rootElems_eq hc1.late.base hext2.chg hk
        · unfold rootElems
          rw [hk, List.filter_append]
          have hnew : s2.dom.isElement s1.dom.size = false := by
            unfold Dom.isElement; rw [hdata]; simp
          have : List.filter (fun x => s2.dom.isElement x) (s1.dom.childrenOf t) =
              List.filter (fun x => s1.dom.isElement x) (s1.dom.childrenOf t) := by
            apply List.filter_congr
            intro x hx
            exact hext2.chg.isElement_eq (hklt x hx)
          show List.filter (fun x => s2.dom.isElement x) _ ++ List.filter (fun x => s2.dom.isElement x) [s1.dom.size] = _
          rw [this]; simp [hnew]
    exact hcore2
  · -- below another element
    have hrs : RS r s1.dom s2.dom := rs_append_text hc1.late.base hc1.rtu htr happ
    exact hc1.transfer hl2 hext2.chg hrs (by rw [hk02]; exact hc1.rdoc) (by rw [hdo2]) (by rw [hdo2]) (by rw [hdo2])
      (by rw [hdo2]) (by rw [hdo2]) hadj2

theorem appendText_shape {s s' : State} {r : Id} {up : List Id} {ph : Phase} {text : Str} {res : ProcessResult}
    {t : Id} (h : ShapeAt s r up ph) (ht : s.openElems.getLast? = some t)
    (hnf : fosterTarget (nm s.dom t) = false) (hnt : nm s.dom t ≠ hN "template") (hne : text ≠ [])
    (hws : t = r → text.all isAsciiWhitespace = true) (e : appendText text s = .ok (res, s')) :
    ShapeAt s' r up ph ∧ res = .done ∧ DomOnly s s' := by
  obtain ⟨h1, h2, h3, h4⟩ := appendText_core h.core ht hnf hnt hne hws e
  exact ⟨⟨h1, h.fits.transfer h4 (by rw [h3]) (by rw [h3]) (by rw [h3])⟩, h2, h3⟩


/-- `append_comment` when the current node is neither a foster-parenting target nor a template -/
theorem appendComment_core {s s' : State} {r : Id} {up : List Id} {ph : Phase} {text : Str} {res : ProcessResult}
    {t : Id} (hc : Core s r up ph) (ht : s.openElems.getLast? = some t)
    (hnf : fosterTarget (nm s.dom t) = false) (hnt : nm s.dom t ≠ hN "template")
    (e : appendComment text s = .ok (res, s')) :
    Core s' r up ph ∧ res = .done ∧ DomOnly s s' ∧ SameNames s.dom s'.dom up := by
  unfold appendComment at e
  obtain ⟨c, s1, e1, e2⟩ := bind_ok.mp e
  obtain ⟨u, s3, e3, e4⟩ := bind_ok.mp e2
  obtain ⟨rfl, rfl⟩ := pure_ok.mp e4
  obtain ⟨hl1, hext1, hc1', hcd1, hfresh1, hdo1⟩ := createComment_run hc.late e1
  have hd1 : s.dom.apply (.createComment text) = .ok (s1.dom, .node c) := (sink_dom (sinkNode_ok.mp e1)).1
  obtain ⟨hdom1, _⟩ := apply_createComment hd1
  obtain ⟨_, _, hk1, hid, hs1, _⟩ := createComment_spec hc.late.base text
  rw [← hdom1] at hk1 hs1
  have hrs1 : RS r s.dom s1.dom := by rw [hdom1]; exact rs_alloc r hc.late.base _
  obtain ⟨hadj1, hpar1, htx1, hcO1⟩ := createComment_adj hc.late hc.adj e1
  have hcore1 : Core s1 r up ph := hc.transfer hl1 hext1.chg hrs1 (by rw [hk1]; exact hc.rdoc)
    (by rw [hdo1]) (by rw [hdo1]) (by rw [hdo1]) (by rw [hdo1]) (by rw [hdo1]) hadj1
  have hnol : ∀ q, c ∉ s1.dom.childrenOf q := fun q hq => by
    rw [hk1] at hq
    exact Nat.lt_irrefl _ (Nat.lt_of_lt_of_le (hc.late.base.kidsValid q _ hq) hfresh1)
  have ht1 : s1.openElems.getLast? = some t := by rw [hdo1]; exact ht
  have hte : s.dom.isElement t = true := hc.late.st.oe t (mem_of_getLast?' ht)
  have hnm1 : nm s1.dom t = nm s.dom t := nm_chg hext1.chg hte
  unfold insertAppropriately at e3
  obtain ⟨ip, s2, e5, e6⟩ := bind_ok.mp e3
  obtain ⟨q2, hip⟩ := apfi_plain e5 ht1 (by rw [hnm1]; exact hnf) (by rw [hnm1]; exact hnt)
  subst hip
  have hdo03 : DomOnly s s3 := by
    obtain ⟨out, e6'⟩ := sinkUnit_ok.mp e6
    obtain ⟨d, _, rfl⟩ := sink_ok.mp e6'
    show _ = { s with dom := _, traceRev := _ }
    have := q2.rest
    rw [this, hdo1]
  have hcore2 : Core s2 r up ph := hcore1.qs q2
  have hsn12 : SameNames s.dom s2.dom up := hc.sameNames (hext1.chg.trans (SameSk.of_nodes q2.nodes).chg)
  have hsnT : ∀ (d : Dom), SameNames s2.dom d up → SameNames s.dom d up := fun d hd y hy => by
    rw [hd y hy, hsn12 y hy]
  suffices hmain : Core s3 r up ph ∧ SameNames s2.dom s3.dom up from ⟨hmain.1, rfl, hdo03, hsnT _ hmain.2⟩
  have hnol2 : ∀ q, c ∉ s2.dom.childrenOf q := fun q => by rw [childrenOf_of_nodes q2.nodes]; exact hnol q
  have hcd2 : s2.dom.dataOf c = some (.comment text) := by
    have : s2.dom.dataOf c = s1.dom.dataOf c := by unfold Dom.dataOf; rw [q2.nodes]
    rw [this]; exact hcd1
  by_cases htr : t = r
  · subst htr
    -- the same as appending the fresh comment to the root
    have hrel : s2.dom.isElement t = true := hcore2.late.st.oe t hcore2.root_mem
    have hip : IpOk s2.dom (.lastChild t) := ⟨ne_zero_of_isElement hcore2.late.base hrel, isContainer_of_isElement hrel⟩
    have hch : ChildOk s2.dom (.node c) := ⟨hnol2 0, by rw [hcd2]; simp⟩
    obtain ⟨hl3, hext3, hk03, hdo3⟩ := insertAt_spec (child := .node c) hcore2.late hip hch e6
    have hrc : t ≠ c := by
      rintro rfl
      unfold Dom.isElement at hrel; rw [hcd2] at hrel; cases hrel
    have hadj3 : AdjD s3.dom s3.openElems := by
      have : s3.openElems = s2.openElems := by rw [hdo3]
      rw [this]
      refine (insertAt_node_adj hcore2.late hip hcore2.adj (by rw [q2.openElems]; exact hcO1)
        (by rw [parentOf_of_nodes q2.nodes]; exact hpar1)
        (by unfold Dom.isText; rw [hcd2]) (fun p hp => ?_) e6).1
      simp only [InsertionPoint.nodes] at hp
      rcases hp with rfl | hp
      · exact hrc
      · cases hp
    unfold H5V.Model.HtmlTB.insertAt at e6
    obtain ⟨out, hd6, _⟩ := sinkUnit_dom e6
    obtain ⟨hkr, hdata, _, _, hrtu⟩ := root_append_node hrc hnol2 (apply_append hd6)
    have hcn : s2.dom.isElement c = false := by unfold Dom.isElement; rw [hcd2]
    refine ⟨hcore2.sameData hl3 hdo3 hdata (by rw [hk03]; exact hcore2.rdoc) (hrtu hcore2.rtu) ?_ ?_ ?_ hadj3,
      fun y _ => by unfold nm; rw [hdata]⟩
    · rw [hkr, List.nodup_append]
      exact ⟨hcore2.rnd, by simp, by intro a ha b hb; simp at hb; subst hb; rintro rfl; exact hnol2 t ha⟩
    · intro x hx
      rw [hkr] at hx
      rcases List.mem_append.mp hx with h1 | h1
      · exact Or.inl h1
      · simp only [List.mem_singleton] at h1
        subst h1
        exact Or.inr (Or.inr (Or.inl ⟨text, by rw [hdata]; exact hcd2⟩))
    · unfold rootElems
      rw [hkr, List.filter_append]
      have hel : ∀ x, s3.dom.isElement x = s2.dom.isElement x := fun x => by unfold Dom.isElement; rw [hdata]
      have : (fun x => s3.dom.isElement x) = (fun x => s2.dom.isElement x) := funext hel
      show List.filter (fun x => s3.dom.isElement x) _ ++ List.filter (fun x => s3.dom.isElement x) [c] = _
      rw [this]
      simp [hcn]
  · have hte2 : s2.dom.isElement t = true := by
      rw [isElement_of_nodes q2.nodes]; exact hext1.chg.isElement hte
    have hip : IpOk s2.dom (.lastChild t) :=
      ⟨ne_zero_of_isElement hcore2.late.base hte2, isContainer_of_isElement hte2⟩
    have hch : ChildOk s2.dom (.node c) := ⟨hnol2 0, by rw [hcd2]; simp⟩
    obtain ⟨hl3, hext3, hk03, hdo3⟩ := insertAt_spec (child := .node c) hcore2.late hip hch e6
    have htc : t ≠ c := by
      rintro rfl
      unfold Dom.isElement at hte2; rw [hcd2] at hte2; cases hte2
    have hrs : RS r s2.dom s3.dom :=
      insertAt_rs (child := .node c) (ip := .lastChild t) hcore2.late.base hcore2.rtu htr ⟨hnol2 r, fun p hp => by
        simp only [InsertionPoint.nodes] at hp
        rcases hp with rfl | hp
        · exact htc
        · cases hp⟩ e6
    have hadj3 : AdjD s3.dom s3.openElems := by
      have : s3.openElems = s2.openElems := by rw [hdo3]
      rw [this]
      refine (insertAt_node_adj hcore2.late hip hcore2.adj (by rw [q2.openElems]; exact hcO1)
        (by rw [parentOf_of_nodes q2.nodes]; exact hpar1)
        (by unfold Dom.isText; rw [hcd2]) (fun p hp => ?_) e6).1
      simp only [InsertionPoint.nodes] at hp
      rcases hp with rfl | hp
      · exact htc
      · cases hp
    exact ⟨hcore2.transfer hl3 hext3.chg hrs (by rw [hk03]; exact hcore2.rdoc) (by rw [hdo3]) (by rw [hdo3])
      (by rw [hdo3]) (by rw [hdo3]) (by rw [hdo3]) hadj3, hcore2.sameNames hext3.chg⟩

theorem appendComment_shape {s s' : State} {r : Id} {up : List Id} {ph : Phase} {text : Str} {res : ProcessResult}
    {t : Id} (h : ShapeAt s r up ph) (ht : s.openElems.getLast? = some t)
    (hnf : fosterTarget (nm s.dom t) = false) (hnt : nm s.dom t ≠ hN "template")
    (e : appendComment text s = .ok (res, s')) : ShapeAt s' r up ph ∧ res = .done ∧ DomOnly s s' := by
  obtain ⟨h1, h2, h3, h4⟩ := appendComment_core h.core ht hnf hnt e
  exact ⟨⟨h1, h.fits.transfer h4 (by rw [h3]) (by rw [h3]) (by rw [h3])⟩, h2, h3⟩

end H5V.Props.C06
