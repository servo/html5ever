import H5V.Lemmas.DomClone
/-!
The repaired `clone_with_subtree` (`Dom.cloneFixed`) makes **deep** copies: the subtree below the
copy is isomorphic to the subtree below the original — same node data, children in the same order,
template contents copied recursively — and consists of fresh nodes only.

* `Tree` / `treeAux d n x`: the tree below `x` in the arena `d` with all ids forgotten (data with the
  template link erased, the template-contents tree, the child trees), cut at depth `n`.  Two nodes
  carry isomorphic subtrees iff `treeAux` agrees at every depth.
* `TcValid d`: template-contents links name nodes of the arena (true of every arena the sink builds:
  `create_element` allocates the contents before the element; without it a dangling link could come
  to name a node allocated later, and "the subtree of `x`" would not be stable).
* `NewClosed n0 d`: the nodes with id ≥ `n0` link (children, template contents) only to nodes ≥ `n0`.
-/
namespace H5V.Lemmas.Dom
open H5V.Model.Dom

/-- a subtree with the arena ids forgotten, cut at some depth -/
inductive Tree where
  | cut
  | node (data : Option NodeData) (tc : Option Tree) (kids : List Tree)

/-- the tree below `x`: node data (template link erased; `none` outside the arena), the tree of the
template contents, the trees of the children in order — cut at depth `n` -/
def treeAux (d : Dom) : Nat → Id → Tree
  | 0, _ => .cut
  | n + 1, x => .node ((d.dataOf x).map eraseTc) ((d.templateContentsOf x).map (treeAux d n))
      ((d.childrenOf x).map (treeAux d n))

/-- template-contents links name nodes of the arena -/
def TcValid (d : Dom) : Prop := ∀ x t, d.templateContentsOf x = some t → t < d.size

/-- nodes `≥ n0` link only to nodes `≥ n0` -/
def NewClosed (n0 : Nat) (d : Dom) : Prop :=
  ∀ y, n0 ≤ y → (∀ c ∈ d.childrenOf y, n0 ≤ c) ∧ (∀ t, d.templateContentsOf y = some t → n0 ≤ t)

/-- nodes `< n0` link only to nodes `< n0` -/
def OldDown (n0 : Nat) (d : Dom) : Prop :=
  ∀ y, y < n0 → (∀ c ∈ d.childrenOf y, c < n0) ∧ (∀ t, d.templateContentsOf y = some t → t < n0)

/-- the template-contents link stored in node data -/
def tcOfData : NodeData → Option Id
  | .element _ _ tc _ => tc
  | _ => none

theorem tc_eq (d : Dom) (x : Id) : d.templateContentsOf x = (d.dataOf x).bind tcOfData := by
  unfold Dom.templateContentsOf
  cases d.dataOf x with
  | none => rfl
  | some v => cases v <;> rfl

theorem tc_none_of_ge {d : Dom} {x : Id} (h : d.size ≤ x) : d.templateContentsOf x = none := by
  cases ht : d.templateContentsOf x with
  | none => rfl
  | some t => exact absurd (templateContentsOf_lt ht) (Nat.not_lt.mpr h)

/-- **the tree below a node depends only on the nodes below it**: if `S` is closed under child and
template links in `d` and `d'` agrees with `d` on the data and child lists of the `S`-nodes, the
trees below `S`-nodes agree -/
theorem tree_agree {d d' : Dom} (S : Id → Prop)
    (hcl : ∀ y, S y → (∀ c ∈ d.childrenOf y, S c) ∧ (∀ t, d.templateContentsOf y = some t → S t))
    (hag : ∀ y, S y → d'.dataOf y = d.dataOf y ∧ d'.childrenOf y = d.childrenOf y) :
    ∀ n x, S x → treeAux d' n x = treeAux d n x := by
  intro n
  induction n with
  | zero => intro x _; rfl
  | succ n ih =>
    intro x hx
    obtain ⟨hd, hc⟩ := hag x hx
    obtain ⟨c1, c2⟩ := hcl x hx
    simp only [treeAux]
    rw [hd, templateContentsOf_congr hd, hc]
    congr 1
    · cases ht : d.templateContentsOf x with
      | none => rfl
      | some t => simp only [Option.map_some]; rw [ih t (c2 t ht)]
    · exact List.map_congr_left (fun c hc => ih c (c1 c hc))

theorem oldDown_self {d : Dom} (hw : WF d) (ht : TcValid d) : OldDown d.size d :=
  fun y _ => ⟨fun _ hc => child_valid hw hc, fun t h => ht y t h⟩

/-- nothing old changed ⇒ the trees below old nodes did not change -/
theorem tree_frame {d d' : Dom} (hf : Frame d d') (hw : WF d) (ht : TcValid d) :
    ∀ n x, x < d.size → treeAux d' n x = treeAux d n x :=
  tree_agree (fun y => y < d.size) (oldDown_self hw ht)
    (fun y hy => ⟨hf.data y hy, hf.children y hy (by simp)⟩)

theorem tree_oldDown {n0 : Nat} {d d' : Dom} (ho : OldDown n0 d)
    (hag : ∀ y, y < n0 → d'.dataOf y = d.dataOf y ∧ d'.childrenOf y = d.childrenOf y) :
    ∀ n x, x < n0 → treeAux d' n x = treeAux d n x :=
  tree_agree (fun y => y < n0) ho hag

theorem TcValid.alloc {d : Dom} (ht : TcValid d) {data : NodeData}
    (hd : ∀ t, tcOfData data = some t → t < d.size) :
    TcValid (d.alloc data).1 := by
  intro x t h
  rw [tc_eq, dataOf_alloc] at h
  rw [size_alloc]
  by_cases hx : x = d.size
  · simp only [hx, if_true, Option.bind_some] at h
    exact Nat.lt_succ_of_lt (hd t h)
  · simp only [hx, if_false] at h
    rw [← tc_eq] at h
    exact Nat.lt_succ_of_lt (ht x t h)

theorem TcValid.sameData {d d' : Dom} (ht : TcValid d) (hd : ∀ x, d'.dataOf x = d.dataOf x)
    (hs : d'.size = d.size) : TcValid d' := by
  intro x t h
  rw [templateContentsOf_congr (hd x)] at h
  rw [hs]; exact ht x t h

/-- what copying the subtree of `x` yields, beyond `CloneSpec`: links stay valid, the new part of
the arena is closed (the copy shares no node with anything old), and the subtree of the copy `k`
is isomorphic to that of `x` -/
structure DeepSpec (d d' : Dom) (x k : Id) : Prop where
  spec : CloneSpec d d' x k
  tcv : TcValid d'
  closed : NewClosed d.size d'
  iso : ∀ n, treeAux d' n k = treeAux d n x

theorem newClosed_of_empty (d : Dom) : NewClosed d.size d :=
  fun y hy => ⟨fun c hc => (by rw [childrenOf_nil_of_ge hy] at hc; cases hc),
    fun t h => (by rw [tc_none_of_ge hy] at h; cases h)⟩

/-- the children loop of the repaired `clone_with_subtree`, deep version -/
theorem cloneKidsWith_deep {cl : Dom → Id → Except String (Dom × Id)}
    (hcl : ∀ d c d' k, WF d → Kinds d → TcValid d → cl d c = .ok (d', k) → DeepSpec d d' c k)
    {n0 id : Id} (hid0 : n0 ≤ id) :
    ∀ (cs : List Id) (d d' : Dom), WF d → Kinds d → TcValid d → id < d.size → d.parentOf id = none →
      NewClosed n0 d → OldDown n0 d →
      (∀ c ∈ cs, c < n0 ∧ d.dataOf c ≠ some .document ∧ d.isContainer id = true) →
      Dom.cloneKidsWith cl id d cs = .ok d' →
      WF d' ∧ Kinds d' ∧ TcValid d' ∧ FrameX d d' (some id) ∧ d'.parentOf id = none ∧
      NewClosed n0 d' ∧
      ∃ ks, d'.childrenOf id = d.childrenOf id ++ ks ∧ (∀ k ∈ ks, d.size ≤ k) ∧
        ∀ n, ks.map (treeAux d' n) = cs.map (treeAux d n) := by
  intro cs
  induction cs with
  | nil =>
    intro d d' hw hk ht _ hp hnc _ _ h
    simp [Dom.cloneKidsWith] at h; subst h
    exact ⟨hw, hk, ht, FrameX.refl _ _, hp, hnc, [], by simp, by simp, fun _ => rfl⟩
  | cons c cs ih =>
    intro d d' hw hk ht hid hp hnc hod hcs h
    obtain ⟨d1, k, d2, h1, h2, h⟩ := cloneKidsWith_cons_inv h
    have dsp := hcl d c d1 k hw hk ht h1
    have sp := dsp.spec
    obtain ⟨hcn0, hcnd, hcont⟩ := hcs c (by simp)
    have hn0d : n0 ≤ d.size := Nat.le_trans hid0 (Nat.le_of_lt hid)
    have hclt : c < d.size := Nat.lt_of_lt_of_le hcn0 hn0d
    have hid1 : id < d1.size := Nat.lt_of_lt_of_le hid sp.frame.size
    have hp1 : d1.parentOf id = none := by rw [sp.frame.parent id hid]; exact hp
    have hne : id ≠ k := fun e => Nat.lt_irrefl _ (Nat.lt_of_lt_of_le (e ▸ hid) sp.fresh)
    have hanc : ¬ Anc d1 k id := fun ha => hne (anc_eq_of_parentless hp1 ha).symm
    obtain ⟨_, _, _, _, _, hpar2, hch2, hd2, hsz2, _⟩ := appendRaw_ok h2 hne
    have hw2 : WF d2 := sp.wf.appendRaw hanc h2
    have hcont1 : d1.isContainer id = true := by rw [isContainer_congr (sp.frame.data id hid)]; exact hcont
    have hk2 : Kinds d2 := sp.kinds.attach hpar2 hd2 hcont1 (not_doc_of_eraseTc sp.data hcnd)
    have ht2 : TcValid d2 := dsp.tcv.sameData hd2 hsz2
    have hf2 : FrameX d d2 (some id) := by
      refine ⟨by rw [hsz2]; exact sp.frame.size, ?_, ?_, ?_⟩
      · intro y hy
        rw [hpar2]
        have : y ≠ k := fun e => Nat.lt_irrefl _ (Nat.lt_of_lt_of_le (e ▸ hy) sp.fresh)
        simp [this]; exact sp.frame.parent y hy
      · intro y hy; rw [hd2]; exact sp.frame.data y hy
      · intro y hy hne'
        rw [hch2]
        have : y ≠ id := fun e => hne' (by rw [e])
        simp [this]; exact sp.frame.children y hy (by simp)
    have hid2 : id < d2.size := by rw [hsz2]; exact hid1
    have hp2 : d2.parentOf id = none := by rw [hpar2]; simp [hne, hp1]
    have hcs2 : ∀ c' ∈ cs, c' < n0 ∧ d2.dataOf c' ≠ some .document ∧ d2.isContainer id = true := by
      intro c' hc'
      obtain ⟨a1, a2, a3⟩ := hcs c' (by simp [hc'])
      have hc'lt : c' < d.size := Nat.lt_of_lt_of_le a1 hn0d
      exact ⟨a1, by rw [hf2.data c' hc'lt]; exact a2, by rw [isContainer_congr (hf2.data id hid)]; exact a3⟩
    -- the new part stays closed
    have hnc2 : NewClosed n0 d2 := by
      intro y hy
      by_cases hyd : y < d.size
      · have hdy : d2.dataOf y = d.dataOf y := hf2.data y hyd
        refine ⟨fun c' hc' => ?_, fun t h' => (hnc y hy).2 t (by rw [← templateContentsOf_congr hdy]; exact h')⟩
        rw [hch2] at hc'
        by_cases hyi : y = id
        · simp only [hyi, if_true] at hc'
          rcases List.mem_append.1 hc' with hm | hm
          · rw [sp.frame.children id hid (by simp)] at hm
            exact (hnc id hid0).1 c' hm
          · simp only [List.mem_singleton] at hm
            rw [hm]; exact Nat.le_trans hn0d sp.fresh
        · simp only [hyi, if_false] at hc'
          rw [sp.frame.children y hyd (by simp)] at hc'
          exact (hnc y hy).1 c' hc'
      · have hyd' : d.size ≤ y := Nat.le_of_not_lt hyd
        have hyi : y ≠ id := fun e => hyd (e ▸ hid)
        refine ⟨fun c' hc' => ?_, fun t h' => ?_⟩
        · rw [hch2] at hc'
          simp only [hyi, if_false] at hc'
          exact Nat.le_trans hn0d ((dsp.closed y hyd').1 c' hc')
        · rw [templateContentsOf_congr (hd2 y)] at h'
          exact Nat.le_trans hn0d ((dsp.closed y hyd').2 t h')
    have hag2 : ∀ y, y < n0 → d2.dataOf y = d.dataOf y ∧ d2.childrenOf y = d.childrenOf y := by
      intro y hy
      have hyd : y < d.size := Nat.lt_of_lt_of_le hy hn0d
      exact ⟨hf2.data y hyd, hf2.children y hyd (by
        intro e; cases e; exact Nat.lt_irrefl _ (Nat.lt_of_lt_of_le hy hid0))⟩
    have hod2 : OldDown n0 d2 := by
      intro y hy
      obtain ⟨e1, e2⟩ := hag2 y hy
      rw [e2, templateContentsOf_congr e1]; exact hod y hy
    obtain ⟨hw', hk', ht', hf', hp', hnc', ks', hch', hks', hiso'⟩ :=
      ih d2 d' hw2 hk2 ht2 hid2 hp2 hnc2 hod2 hcs2 h
    refine ⟨hw', hk', ht', hf2.trans hf', hp', hnc', k :: ks', ?_, ?_, ?_⟩
    · rw [hch', hch2]; simp [sp.frame.children id hid (by simp)]
    · intro k' hk'm
      simp only [List.mem_cons] at hk'm
      rcases hk'm with e | hm
      · rw [e]; exact sp.fresh
      · exact Nat.le_trans (by rw [hsz2]; exact sp.frame.size) (hks' k' hm)
    · intro n
      simp only [List.map_cons]
      -- the subtree of the copy `k` lives in `[d.size, d1.size)` and is not touched any more
      have hk_tree : treeAux d' n k = treeAux d1 n k := by
        refine tree_agree (fun y => d.size ≤ y ∧ y < d1.size) ?_ ?_ n k ⟨sp.fresh, sp.valid⟩
        · intro y hy
          exact ⟨fun c' hc' => ⟨(dsp.closed y hy.1).1 c' hc', child_valid sp.wf hc'⟩,
            fun t h' => ⟨(dsp.closed y hy.1).2 t h', dsp.tcv y t h'⟩⟩
        · intro y hy
          have hyi : y ≠ id := fun e => Nat.lt_irrefl _ (Nat.lt_of_lt_of_le (e ▸ hid) hy.1)
          have hy2 : y < d2.size := by rw [hsz2]; exact hy.2
          refine ⟨by rw [hf'.data y hy2, hd2], ?_⟩
          rw [hf'.children y hy2 (by intro e; cases e; exact hyi rfl), hch2]
          simp [hyi]
      have hrest : cs.map (treeAux d2 n) = cs.map (treeAux d n) :=
        List.map_congr_left (fun c' hc' => tree_oldDown hod hag2 n c' (hcs c' (by simp [hc'])).1)
      rw [hk_tree, dsp.iso n, hiso' n, hrest]

/-- **the repaired `clone_with_subtree` makes a deep copy** -/
theorem cloneFixed_deep : ∀ (fuel : Nat) (d : Dom) (x : Id) (d' : Dom) (k : Id), WF d → Kinds d → TcValid d →
    Dom.cloneFixed d fuel x = .ok (d', k) → DeepSpec d d' x k := by
  intro fuel
  induction fuel with
  | zero => intro d x d' k _ _ _ h; simp [Dom.cloneFixed] at h
  | succ fuel ih =>
    intro d x d' k hw hk ht h
    have hspec := cloneFixed_spec (fuel + 1) d x d' k hw hk h
    simp only [Dom.cloneFixed, bind, Except.bind] at h
    cases hx : d.get x with
    | error e => simp [hx] at h
    | ok n =>
      have hn := get_ok.mp hx
      have hxlt := node?_lt hn
      simp only [hx] at h
      -- what remains to be done once the template contents (if any) are copied into `d1`
      have finish : ∀ (d1 : Dom) (data : NodeData), WF d1 → Kinds d1 → TcValid d1 → Frame d d1 →
          NewClosed d.size d1 →
          eraseTc data = eraseTc n.data →
          (∀ t, tcOfData data = some t → d.size ≤ t ∧ t < d1.size) →
          (∀ m, ((tcOfData data).map (treeAux d1 m)) =
            (d.templateContentsOf x).map (treeAux d m)) →
          ∀ d3,
          Dom.cloneKidsWith (fun d c => Dom.cloneFixed d fuel c) d1.size (d1.alloc data).1 n.children = .ok d3 →
          TcValid d3 ∧ NewClosed d.size d3 ∧ ∀ m, treeAux d3 m d1.size = treeAux d m x := by
        intro d1 data hw1 hk1 ht1 hf1 hnc1 hdat htcd htct d3 hl
        have hw2 := hw1.alloc data
        have hk2 := hk1.alloc data
        have ht2 : TcValid (d1.alloc data).1 := ht1.alloc (fun t h' => (htcd t h').2)
        have hf2 : Frame d (d1.alloc data).1 := hf1.trans (frame_alloc d1 data)
        have hidlt : d1.size < (d1.alloc data).1.size := by simp
        have hpid : (d1.alloc data).1.parentOf d1.size = none := by
          rw [parentOf_alloc]; exact parentOf_none_of_ge (Nat.le_refl _)
        have hdid : (d1.alloc data).1.dataOf d1.size = some data := by rw [dataOf_alloc]; simp
        have htcid : (d1.alloc data).1.templateContentsOf d1.size =
            tcOfData data := by
          rw [tc_eq, hdid]; rfl
        have hchid : (d1.alloc data).1.childrenOf d1.size = [] := by
          rw [childrenOf_alloc]; exact childrenOf_nil_of_ge (Nat.le_refl _)
        have hcontid : d.isContainer x = true → (d1.alloc data).1.isContainer d1.size = true := by
          intro hc
          have : (((d1.alloc data).1.dataOf d1.size).map eraseTc) = ((d.dataOf x).map eraseTc) := by
            rw [hdid, dataOf_of_node hn]; simp [hdat]
          rw [isContainer_of_eraseTc this]; exact hc
        have hcs : ∀ c ∈ n.children, c < d.size ∧ (d1.alloc data).1.dataOf c ≠ some .document ∧
            (d1.alloc data).1.isContainer d1.size = true := by
          intro c hc
          have hcx : c ∈ d.childrenOf x := by rw [childrenOf_of_node hn]; exact hc
          have hclt := child_valid hw hcx
          have hpar := (hw.links c x).mpr hcx
          exact ⟨hclt, by rw [hf2.data c hclt]; exact hk.childNotDoc c x hpar,
            hcontid (hk.parentContainer c x hpar)⟩
        have hnc2 : NewClosed d.size (d1.alloc data).1 := by
          intro y hy
          by_cases hyi : y = d1.size
          · subst hyi
            rw [hchid, htcid]
            exact ⟨fun c hc => (by cases hc), fun t h' => (htcd t h').1⟩
          · have hdy : (d1.alloc data).1.dataOf y = d1.dataOf y := by rw [dataOf_alloc]; simp [hyi]
            rw [childrenOf_alloc, templateContentsOf_congr hdy]; exact hnc1 y hy
        have hod2 : OldDown d.size (d1.alloc data).1 := by
          intro y hy
          rw [hf2.children y hy (by simp), templateContentsOf_congr (hf2.data y hy)]
          exact oldDown_self hw ht y hy
        obtain ⟨_, _, ht3, hf3, _, hnc3, ks, hch3, _, hiso3⟩ :=
          cloneKidsWith_deep (cl := fun d c => Dom.cloneFixed d fuel c)
            (fun d c d' k hw hk ht h => ih d c d' k hw hk ht h) (n0 := d.size) (id := d1.size) hf1.size
            n.children _ _ hw2 hk2 ht2 hidlt hpid hnc2 hod2 hcs hl
        refine ⟨ht3, hnc3, fun m => ?_⟩
        cases m with
        | zero => rfl
        | succ m =>
          simp only [treeAux]
          have hd3 : d3.dataOf d1.size = some data := by rw [hf3.data d1.size hidlt]; exact hdid
          have htc3 : d3.templateContentsOf d1.size =
              tcOfData data := by
            rw [templateContentsOf_congr (hf3.data d1.size hidlt)]; exact htcid
          rw [hd3, htc3, hch3, hchid, dataOf_of_node hn, childrenOf_of_node hn]
          simp only [Option.map_some, hdat, List.nil_append]
          congr 1
          · rw [← htct m]
            cases htcv : tcOfData data with
            | none => rfl
            | some t =>
              simp only [Option.map_some]
              congr 1
              -- the copied template contents are older than the copy itself and stay untouched
              have hframe13 : Frame d1 d3 :=
                ((FrameX.weaken (frame_alloc d1 data) : FrameX d1 (d1.alloc data).1 (some d1.size)).trans
                  ⟨hf3.size, hf3.parent, hf3.data, hf3.children⟩).strengthen (Nat.le_refl _)
              exact tree_frame hframe13 hw1 ht1 m t (htcd t htcv).2
          · rw [hiso3 m]
            exact List.map_congr_left (fun c hc =>
              tree_frame hf2 hw ht m c (hcs c hc).1)
      have htcx : d.templateContentsOf x = tcOfData n.data := by
        rw [tc_eq, dataOf_of_node hn]; rfl
      cases hdata : n.data with
      | element name attrs tc ip =>
        cases tc with
        | none =>
          simp only [hdata, pure, Except.pure] at h
          split at h
          · cases h
          · rename_i d3 hl
            rw [alloc_id] at hl h
            obtain ⟨h1, h2⟩ := Prod.mk.inj (Except.ok.inj h)
            subst h1; subst h2
            obtain ⟨a, b, c⟩ := finish d _ hw hk ht (FrameX.refl _ _) (newClosed_of_empty d) (by rw [hdata])
              (fun t h' => by simp [tcOfData] at h') (fun m => by rw [htcx, hdata]) _ hl
            exact ⟨hspec, a, b, c⟩
        | some tc =>
          simp only [hdata, pure, Except.pure] at h
          cases htc : Dom.cloneFixed d fuel tc with
          | error e => simp [htc] at h
          | ok r =>
            obtain ⟨d1, tc'⟩ := r
            simp only [htc] at h
            have dsp := ih d tc d1 tc' hw hk ht htc
            have sp := dsp.spec
            split at h
            · cases h
            · rename_i d3 hl
              rw [alloc_id] at hl h
              obtain ⟨h1, h2⟩ := Prod.mk.inj (Except.ok.inj h)
              subst h1; subst h2
              obtain ⟨a, b, c⟩ := finish d1 _ sp.wf sp.kinds dsp.tcv sp.frame dsp.closed
                (by rw [hdata]; simp [eraseTc])
                (fun t h' => by
                  simp only [tcOfData, Option.some.injEq] at h'; subst h'; exact ⟨sp.fresh, sp.valid⟩)
                (fun m => by rw [htcx, hdata]; simp only [tcOfData, Option.map_some]; rw [dsp.iso m]) _ hl
              exact ⟨hspec, a, b, c⟩
      | document | doctype _ _ _ | text _ | comment _ | pi _ _ =>
        simp only [hdata, pure, Except.pure] at h
        split at h
        · cases h
        · rename_i d3 hl
          rw [alloc_id] at hl h
          obtain ⟨h1, h2⟩ := Prod.mk.inj (Except.ok.inj h)
          subst h1; subst h2
          obtain ⟨a, b, c⟩ := finish d _ hw hk ht (FrameX.refl _ _) (newClosed_of_empty d) (by rw [hdata])
            (fun t h' => by simp [tcOfData] at h') (fun m => by rw [htcx, hdata]) _ hl
          exact ⟨hspec, a, b, c⟩

/-! ### "clone an option into a selectedcontent", deep version -/

/-- step 2: the list of copies -/
theorem cloneListWith_deep {cl : Dom → Id → Except String (Dom × Id)}
    (hcl : ∀ d c d' k, WF d → Kinds d → TcValid d → cl d c = .ok (d', k) → DeepSpec d d' c k) :
    ∀ (cs : List Id) (d d' : Dom) (ks : List Id), WF d → Kinds d → TcValid d →
      (∀ c ∈ cs, c < d.size) → Dom.cloneListWith cl d cs = .ok (d', ks) →
      WF d' ∧ Kinds d' ∧ TcValid d' ∧ Frame d d' ∧ NewClosed d.size d' ∧
      (∀ k ∈ ks, d.size ≤ k ∧ k < d'.size) ∧
      ∀ n, ks.map (treeAux d' n) = cs.map (treeAux d n) := by
  intro cs
  induction cs with
  | nil =>
    intro d d' ks hw hk ht _ h
    simp [Dom.cloneListWith] at h
    obtain ⟨h1, h2⟩ := h; subst h1; subst h2
    exact ⟨hw, hk, ht, FrameX.refl _ _, newClosed_of_empty d, by simp, fun _ => rfl⟩
  | cons c cs ih =>
    intro d d' ks hw hk ht hcs h
    obtain ⟨d1, k, d2, ks', h1, h2, rfl, rfl⟩ := cloneListWith_cons_inv h
    have dsp := hcl d c d1 k hw hk ht h1
    have sp := dsp.spec
    have hcs1 : ∀ c' ∈ cs, c' < d1.size := fun c' hc' =>
      Nat.lt_of_lt_of_le (hcs c' (by simp [hc'])) sp.frame.size
    obtain ⟨hw2, hk2, ht2, hf2, hnc2, hks, hiso⟩ := ih d1 d2 ks' sp.wf sp.kinds dsp.tcv hcs1 h2
    refine ⟨hw2, hk2, ht2, sp.frame.trans hf2, ?_, ?_, ?_⟩
    · intro y hy
      by_cases hy1 : y < d1.size
      · rw [hf2.children y hy1 (by simp), templateContentsOf_congr (hf2.data y hy1)]
        exact dsp.closed y hy
      · have hy1' : d1.size ≤ y := Nat.le_of_not_lt hy1
        exact ⟨fun c' hc' => Nat.le_trans sp.frame.size ((hnc2 y hy1').1 c' hc'),
          fun t h' => Nat.le_trans sp.frame.size ((hnc2 y hy1').2 t h')⟩
    · intro k' hk'
      simp only [List.mem_cons] at hk'
      rcases hk' with e | hk'
      · subst e; exact ⟨sp.fresh, Nat.lt_of_lt_of_le sp.valid hf2.size⟩
      · exact ⟨Nat.le_trans sp.frame.size (hks k' hk').1, (hks k' hk').2⟩
    · intro n
      simp only [List.map_cons]
      rw [tree_frame hf2 sp.wf dsp.tcv n k sp.valid, dsp.iso n, hiso n]
      congr 1
      exact List.map_congr_left (fun c' hc' => tree_frame sp.frame hw ht n c' (hcs c' (by simp [hc'])))

/-- "replace all", second half: what it does to child lists and data (no well-formedness needed) -/
theorem attachAll_effects {p : Id} : ∀ (ks : List Id) (d d' : Dom), (∀ k ∈ ks, p ≠ k) →
    d.attachAll p ks = .ok d' →
    d'.childrenOf p = d.childrenOf p ++ ks ∧ (∀ x, x ≠ p → d'.childrenOf x = d.childrenOf x) ∧
    (∀ x, d'.dataOf x = d.dataOf x) ∧ d'.size = d.size := by
  intro ks
  induction ks with
  | nil =>
    intro d d' _ h
    simp [Dom.attachAll] at h; subst h
    exact ⟨by simp, fun _ _ => rfl, fun _ => rfl, rfl⟩
  | cons k ks ih =>
    intro d d' hne h
    obtain ⟨d1, h1, h⟩ := bind_ok_inv h
    obtain ⟨_, _, _, _, _, _, hc1, hd1, hs1, _⟩ := appendRaw_ok h1 (hne k (by simp))
    obtain ⟨r1, r2, r3, r4⟩ := ih d1 d' (fun k' hk' => hne k' (by simp [hk'])) h
    refine ⟨?_, ?_, ?_, by rw [r4, hs1]⟩
    · rw [r1, hc1]; simp
    · intro x hx; rw [r2 x hx, hc1]; simp [hx]
    · intro x; rw [r3, hd1]

/-- **"clone an option into a selectedcontent" (repaired) makes deep copies**: the children of the
selectedcontent are, in order, roots of subtrees isomorphic to the subtrees of the option's children
as they were before the call; all nodes of the copies are fresh and link only to fresh nodes
(nothing is shared with the originals, template contents included); template links stay valid -/
theorem cloneOptionInto_fixed_deep {d d' : Dom} {o sc : Id} (hw : WF d) (hk : Kinds d) (ht : TcValid d)
    (hsc : d.isContainer sc = true) (h : d.cloneOptionInto .fixed o sc = .ok d') :
    TcValid d' ∧ NewClosed d.size d' ∧
    ∀ n, (d'.childrenOf sc).map (treeAux d' n) = (d.childrenOf o).map (treeAux d n) := by
  obtain ⟨on, d1, ks, d2, hon, h1, h2, h⟩ := cloneOptionInto_fixed_ok h
  have hsclt := lt_of_isContainer hsc
  have hoch : d.childrenOf o = on.children := childrenOf_of_node hon
  obtain ⟨hw1, hk1, ht1, hf1, hnc1, hks, hiso⟩ := cloneListWith_deep
    (cl := fun d c => Dom.cloneFixed d (d.size + 1) c)
    (fun d c d' k hw hk ht h => cloneFixed_deep _ d c d' k hw hk ht h) on.children d d1 ks hw hk ht
    (fun c hc => child_valid hw (by rw [hoch]; exact hc)) h1
  obtain ⟨_, _, hc2, hd2, hs2⟩ := detachChildren_ok h2
  have hne : ∀ k ∈ ks, sc ≠ k := fun k hkm e =>
    Nat.lt_irrefl _ (Nat.lt_of_lt_of_le (e ▸ hsclt) (hks k hkm).1)
  obtain ⟨r1, r2, r3, r4⟩ := attachAll_effects ks d2 d' hne h
  have hch' : d'.childrenOf sc = ks := by rw [r1, hc2]; simp
  have hdata : ∀ x, d'.dataOf x = d1.dataOf x := fun x => by rw [r3, hd2]
  have hchild : ∀ x, x ≠ sc → d'.childrenOf x = d1.childrenOf x := fun x hx => by
    rw [r2 x hx, hc2]; simp [hx]
  refine ⟨ht1.sameData hdata (by rw [r4, hs2]), ?_, ?_⟩
  · intro y hy
    have hysc : y ≠ sc := fun e => Nat.lt_irrefl _ (Nat.lt_of_lt_of_le (e ▸ hsclt) hy)
    rw [hchild y hysc, templateContentsOf_congr (hdata y)]
    exact hnc1 y hy
  · intro n
    rw [hch', hoch, ← hiso n]
    refine List.map_congr_left (fun k hkm => ?_)
    refine tree_agree (fun y => d.size ≤ y ∧ y < d1.size) ?_ ?_ n k (hks k hkm)
    · intro y hy
      exact ⟨fun c' hc' => ⟨(hnc1 y hy.1).1 c' hc', child_valid hw1 hc'⟩,
        fun t h' => ⟨(hnc1 y hy.1).2 t h', ht1 y t h'⟩⟩
    · intro y hy
      have hysc : y ≠ sc := fun e => Nat.lt_irrefl _ (Nat.lt_of_lt_of_le (e ▸ hsclt) hy.1)
      exact ⟨hdata y, hchild y hysc⟩

theorem tcValid_new : TcValid Dom.new := by
  intro x t h
  have hx := templateContentsOf_lt h
  have : x = 0 := by simp [Dom.new, Dom.size] at hx; omega
  subst this
  simp [Dom.templateContentsOf, Dom.dataOf, Dom.new] at h

/-! ### `TcValid` is an invariant of the sink -/

theorem TcValid.of_data {d d' : Dom} (ht : TcValid d) (hs : d.size ≤ d'.size)
    (hd : ∀ x, d'.dataOf x = d.dataOf x ∨
      ∃ v, d'.dataOf x = some v ∧ ∀ t, tcOfData v = some t → t < d'.size) : TcValid d' := by
  intro x t h
  rcases hd x with e | ⟨v, e, hv⟩
  · rw [templateContentsOf_congr e] at h; exact Nat.lt_of_lt_of_le (ht x t h) hs
  · rw [tc_eq, e] at h; exact hv t h

/-- `fn append` touches no node data (whatever its arguments) -/
theorem appendRaw_data {d d' : Dom} {p c : Id} (h : d.appendRaw p c = .ok d') :
    (∀ x, d'.dataOf x = d.dataOf x) ∧ d'.size = d.size := by
  unfold Dom.appendRaw at h
  simp only [bind, Except.bind] at h
  cases hc : d.get c with
  | error e => simp [hc] at h
  | ok cn =>
    have hcn := get_ok.mp hc
    simp only [hc] at h
    by_cases hpar : cn.parent.isSome = true
    · simp [hpar, throw, throwThe, MonadExceptOf.throw] at h
    · simp only [hpar] at h
      cases hp : (d.setNode c { data := cn.data, parent := some p, children := cn.children }).get p with
      | error e => simp [hp] at h
      | ok pn =>
        have hpn := get_ok.mp hp
        simp [hp] at h
        subst h
        refine ⟨fun x => ?_, by simp⟩
        rw [dataOf_setNode hpn, dataOf_setNode hcn]
        by_cases hxp : x = p
        · subst hxp
          simp only [if_true]
          rw [← dataOf_of_node hpn, dataOf_setNode hcn]
          by_cases hxc : x = c
          · subst hxc; simp [dataOf_of_node hcn]
          · simp [hxc]
        · simp only [hxp, if_false]
          by_cases hxc : x = c
          · subst hxc; simp [dataOf_of_node hcn]
          · simp [hxc]

theorem TcValid.text_change {d d' : Dom} (ht : TcValid d) {hl : Id} {v : Str}
    (hd : ∀ x, d'.dataOf x = if x = hl then some (.text v) else d.dataOf x) (hs : d'.size = d.size) :
    TcValid d' := by
  refine ht.of_data (Nat.le_of_eq hs.symm) (fun x => ?_)
  rw [hd]
  by_cases hx : x = hl
  · exact Or.inr ⟨.text v, by simp [hx], fun t h => by simp [tcOfData] at h⟩
  · exact Or.inl (by simp [hx])

theorem TcValid.fresh_node {d d' : Dom} (ht : TcValid d) {data : NodeData} (hnt : tcOfData data = none)
    (hd : ∀ x, d'.dataOf x = if x = d.size then some data else d.dataOf x) (hs : d'.size = d.size + 1) :
    TcValid d' := by
  refine ht.of_data (by omega) (fun x => ?_)
  rw [hd]
  by_cases hx : x = d.size
  · exact Or.inr ⟨data, by simp [hx], fun t h => by rw [hnt] at h; cases h⟩
  · exact Or.inl (by simp [hx])

theorem TcValid.removeFromParent {d d' : Dom} (ht : TcValid d) {t : Id} (h : d.removeFromParent t = .ok d') :
    TcValid d' := by
  rcases removeFromParent_ok h with ⟨_, he⟩ | ⟨p, i, _, _, _, _, hd, hs, _⟩
  · subst he; exact ht
  · exact ht.sameData hd hs

theorem TcValid.insertAtIndex {d d' : Dom} (ht : TcValid d) {P c : Id} {i : Nat}
    (h : d.insertAtIndex P i c = .ok d') : TcValid d' := by
  obtain ⟨d1, hr, _, _, _, _, _, hd, hs, _⟩ := insertAtIndex_ok h
  exact (ht.removeFromParent hr).sameData hd hs

theorem TcValid.append {d d' : Dom} (ht : TcValid d) {p : Id} {ch : NodeOrText} (h : d.append p ch = .ok d') :
    TcValid d' := by
  cases ch with
  | node c =>
    rw [append_node_eq] at h
    obtain ⟨hd, hs⟩ := appendRaw_data h
    exact ht.sameData hd hs
  | text s =>
    obtain ⟨hp, hcase⟩ := append_text_ok h
    rcases hcase with ⟨hl, old, _, _, _, hd, hs⟩ | ⟨_, ha⟩
    · exact ht.text_change hd hs
    · obtain ⟨_, _, hd, hs, _⟩ := allocAppend_ok hp ha
      exact ht.fresh_node rfl hd hs

theorem TcValid.appendBeforeSibling {d d' : Dom} (ht : TcValid d) {s : Id} {ch : NodeOrText}
    (h : d.appendBeforeSibling s ch = .ok d') : TcValid d' := by
  obtain ⟨P, i, _, _, _, hm⟩ := appendBeforeSibling_ok h
  cases ch with
  | node c => exact ht.insertAtIndex hm
  | text t =>
    rcases hm with ⟨prev, old, _, _, _, _, hd, hs⟩ | ⟨_, hi⟩
    · exact ht.text_change hd hs
    · obtain ⟨_, _, _, hd, hs, _⟩ := insertAtIndex_fresh_ok hi
      exact ht.fresh_node rfl hd hs

theorem TcValid.appendBeforeSiblingV {b : Dom.BeforeSiblingVariant} {d d' : Dom} (ht : TcValid d) {s : Id}
    {ch : NodeOrText} (h : Dom.appendBeforeSiblingV b d s ch = .ok d') : TcValid d' := by
  unfold Dom.appendBeforeSiblingV at h
  simp only [bind, Except.bind] at h
  cases hp : Dom.preDetach b d ch with
  | error e => simp [hp] at h
  | ok d1 =>
    simp only [hp] at h
    have ht1 : TcValid d1 := by
      unfold Dom.preDetach at hp
      cases ch with
      | text t => simp at hp; subst hp; exact ht
      | node c =>
        cases b with
        | asCode => simp at hp; subst hp; exact ht
        | detachFirst => exact ht.removeFromParent hp
    exact ht1.appendBeforeSibling h

theorem TcValid.createElement {d : Dom} (ht : TcValid d) (name : QualName) (attrs : List Attr)
    (flags : ElementFlags) : TcValid (d.createElement name attrs flags).1 := by
  unfold Dom.createElement
  split
  · dsimp only
    refine (ht.alloc (data := .document) (fun t h => by simp [tcOfData] at h)).alloc (fun t h => ?_)
    simp only [tcOfData, Option.some.injEq] at h
    subst h
    simp [alloc_id]
  · exact ht.alloc (fun t h => by simp [tcOfData] at h)

/-- the mirror call keeps template links valid -/
theorem TcValid.maybeCloneOption_fixed {d d' : Dom} {o : Id} (hw : WF d) (hk : Kinds d) (ht : TcValid d)
    (h : d.maybeCloneOption .fixed o = .ok d') : TcValid d' := by
  rcases maybeCloneOption_ok h with ⟨_, rfl⟩ | ⟨sc, htg, h⟩
  · exact ht
  · exact (cloneOptionInto_fixed_deep hw hk ht (cloneTarget_fixed_element htg) h).1

/-- **every sink call keeps template links valid** (no contract needed; `WF`/`Kinds` are used by the
mirror call only) -/
theorem TcValid.applyV {v : Dom.CloneVariant} {b : Dom.BeforeSiblingVariant} {d d' : Dom} {op : SinkOp}
    {out : Output} (hw : WF d) (hk : Kinds d) (ht : TcValid d) (h : d.applyV v b op = .ok (d', out)) :
    TcValid d' := by
  refine applyV_ind h (same := ht) (other := fun _ _ => ht) (create := ht.createElement)
    (append := fun _ _ _ _ ha => ht.append ha) (before := fun _ _ _ _ _ ha => ht.appendBeforeSiblingV ha)
    (remove := fun _ _ _ ha => ht.removeFromParent ha) ?_ ?_ ?_ ?_ ?_
  · intro data hne
    refine ht.alloc (fun t h' => ?_)
    cases data with
    | element n a tc ip => exact absurd rfl (hne n a tc ip)
    | _ => simp [tcOfData] at h'
  · intro n p s d1 _ ha
    obtain ⟨hd, hs⟩ := appendRaw_data ha
    exact (ht.alloc (data := .doctype n p s) (fun t h => by simp [tcOfData] at h)).sameData hd hs
  · intro t a d1 ha
    obtain ⟨name, existing, tc, ip, hdt, _, hd, hs⟩ := addAttrsIfMissing_ok ha
    refine ht.of_data (Nat.le_of_eq hs.symm) (fun x => ?_)
    rw [hd]
    by_cases hx : x = t
    · refine Or.inr ⟨.element name (existing ++ Dom.missingAttrs existing a) tc ip, by simp [hx], fun t' h' => ?_⟩
      rw [hs]
      exact ht t t' (by rw [tc_eq, hdt]; exact h')
    · exact Or.inl (by simp [hx])
  · intro n np d1 _ _ ha
    obtain ⟨_, _, _, _, _, hd, hs, _⟩ := reparentChildren_ok ha
    exact ht.sameData hd hs
  · intro o d1 _ ha
    cases v with
    | asCode => rw [maybeCloneOption_asCode_eq ha]; exact ht
    | fixed => exact ht.maybeCloneOption_fixed hw hk ha

end H5V.Lemmas.Dom
