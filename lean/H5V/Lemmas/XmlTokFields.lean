import H5V.Model.XmlTok
/-! Which control registers each helper of the XML tokenizer model touches: almost all of them work on
the token under construction and on the log only. -/
namespace H5V.Model.XmlTok

/-- what holds of both branches holds of the conditional; splits a table arm without rewriting it -/
theorem ite_ind {α : Sort _} {P : α → Prop} {c : Prop} [Decidable c] {a b : α} (ha : P a) (hb : P b) :
    P (if c then a else b) := by
  split <;> assumption

/-- the same for two conditionals on one condition -/
theorem ite_ind₂ {α β : Sort _} {P : α → β → Prop} {c : Prop} [Decidable c] {a a' : α} {b b' : β}
    (h : P a b) (h' : P a' b') : P (if c then a else a') (if c then b else b') := by
  split <;> assumption

/-- `m'` has the control registers of `m` -/
def SameCtl (m' m : Mach) : Prop :=
  m'.state = m.state ∧ m'.tempBuf = m.tempBuf ∧ m'.reconsume = m.reconsume ∧ m'.ignoreLf = m.ignoreLf ∧
  m'.atEof = m.atEof ∧ m'.charRef = m.charRef ∧ m'.currentChar = m.currentChar ∧ m'.discardBom = m.discardBom

theorem SameCtl.refl (m : Mach) : SameCtl m m := ⟨rfl, rfl, rfl, rfl, rfl, rfl, rfl, rfl⟩

@[simp] theorem emit_fields (m : Mach) (t : Token) :
    (emit m t).state = m.state ∧ (emit m t).tempBuf = m.tempBuf ∧ (emit m t).reconsume = m.reconsume ∧
    (emit m t).ignoreLf = m.ignoreLf ∧ (emit m t).atEof = m.atEof ∧ (emit m t).charRef = m.charRef ∧
    (emit m t).currentChar = m.currentChar ∧ (emit m t).discardBom = m.discardBom :=
  ⟨rfl, rfl, rfl, rfl, rfl, rfl, rfl, rfl⟩
@[simp] theorem emitErr_fields (m : Mach) (s : String) :
    (emitErr m s).state = m.state ∧ (emitErr m s).tempBuf = m.tempBuf ∧
    (emitErr m s).ignoreLf = m.ignoreLf ∧ (emitErr m s).atEof = m.atEof ∧
    (emitErr m s).charRef = m.charRef ∧ (emitErr m s).currentChar = m.currentChar ∧
    (emitErr m s).discardBom = m.discardBom :=
  ⟨rfl, rfl, rfl, rfl, rfl, rfl, rfl⟩
@[simp] theorem emitErr_reconsume (m : Mach) (s : String) : (emitErr m s).reconsume = m.reconsume := rfl
@[simp] theorem emitChar_fields (m : Mach) (c : Char) :
    (emitChar m c).state = m.state ∧ (emitChar m c).tempBuf = m.tempBuf ∧
    (emitChar m c).reconsume = m.reconsume ∧ (emitChar m c).ignoreLf = m.ignoreLf ∧
    (emitChar m c).atEof = m.atEof ∧ (emitChar m c).charRef = m.charRef ∧
    (emitChar m c).currentChar = m.currentChar ∧ (emitChar m c).discardBom = m.discardBom :=
  ⟨rfl, rfl, rfl, rfl, rfl, rfl, rfl, rfl⟩
@[simp] theorem emitChars_fields (m : Mach) (s : Str) :
    (emitChars m s).state = m.state ∧ (emitChars m s).tempBuf = m.tempBuf ∧
    (emitChars m s).reconsume = m.reconsume ∧ (emitChars m s).ignoreLf = m.ignoreLf ∧
    (emitChars m s).atEof = m.atEof ∧ (emitChars m s).charRef = m.charRef ∧
    (emitChars m s).discardBom = m.discardBom :=
  ⟨rfl, rfl, rfl, rfl, rfl, rfl, rfl⟩
@[simp] theorem emitChars_currentChar (m : Mach) (s : Str) : (emitChars m s).currentChar = m.currentChar := rfl
@[simp] theorem badChar_fields (m : Mach) (o : Opts) :
    (badChar o m).state = m.state ∧ (badChar o m).tempBuf = m.tempBuf ∧
    (badChar o m).reconsume = m.reconsume ∧ (badChar o m).ignoreLf = m.ignoreLf ∧
    (badChar o m).atEof = m.atEof ∧ (badChar o m).currentChar = m.currentChar := by
  unfold badChar; split <;> exact ⟨rfl, rfl, rfl, rfl, rfl, rfl⟩
@[simp] theorem badChar_charRef (m : Mach) (o : Opts) : (badChar o m).charRef = m.charRef := by
  unfold badChar; split <;> rfl
@[simp] theorem badChar_discardBom (m : Mach) (o : Opts) : (badChar o m).discardBom = m.discardBom := by
  unfold badChar; split <;> rfl
@[simp] theorem badEof_state (m : Mach) (o : Opts) : (badEof o m).state = m.state := by
  unfold badEof; split <;> rfl
@[simp] theorem badEof_tempBuf (m : Mach) (o : Opts) : (badEof o m).tempBuf = m.tempBuf := by
  unfold badEof; split <;> rfl
@[simp] theorem badEof_reconsume (m : Mach) (o : Opts) : (badEof o m).reconsume = m.reconsume := by
  unfold badEof; split <;> rfl
@[simp] theorem badEof_ignoreLf (m : Mach) (o : Opts) : (badEof o m).ignoreLf = m.ignoreLf := by
  unfold badEof; split <;> rfl
@[simp] theorem badEof_atEof (m : Mach) (o : Opts) : (badEof o m).atEof = m.atEof := by
  unfold badEof; split <;> rfl
@[simp] theorem badEof_charRef (m : Mach) (o : Opts) : (badEof o m).charRef = m.charRef := by
  unfold badEof; split <;> rfl
@[simp] theorem badEof_currentChar (m : Mach) (o : Opts) : (badEof o m).currentChar = m.currentChar := by
  unfold badEof; split <;> rfl
@[simp] theorem badEof_discardBom (m : Mach) (o : Opts) : (badEof o m).discardBom = m.discardBom := by
  unfold badEof; split <;> rfl
@[simp] theorem to_fields (m : Mach) (s : State) :
    (to s m).state = s ∧ (to s m).tempBuf = m.tempBuf ∧ (to s m).reconsume = m.reconsume ∧
    (to s m).ignoreLf = m.ignoreLf ∧ (to s m).atEof = m.atEof ∧ (to s m).charRef = m.charRef ∧
    (to s m).currentChar = m.currentChar ∧ (to s m).discardBom = m.discardBom :=
  ⟨rfl, rfl, rfl, rfl, rfl, rfl, rfl, rfl⟩
@[simp] theorem reconsumeTo_fields (m : Mach) (s : State) :
    (reconsumeTo s m).state = s ∧ (reconsumeTo s m).tempBuf = m.tempBuf ∧
    (reconsumeTo s m).reconsume = true ∧ (reconsumeTo s m).ignoreLf = m.ignoreLf ∧
    (reconsumeTo s m).atEof = m.atEof ∧ (reconsumeTo s m).charRef = m.charRef ∧
    (reconsumeTo s m).currentChar = m.currentChar ∧ (reconsumeTo s m).discardBom = m.discardBom :=
  ⟨rfl, rfl, rfl, rfl, rfl, rfl, rfl, rfl⟩
@[simp] theorem discardTag_state (m : Mach)  : (discardTag m).state = m.state := rfl
@[simp] theorem discardTag_tempBuf (m : Mach)  : (discardTag m).tempBuf = m.tempBuf := rfl
@[simp] theorem discardTag_reconsume (m : Mach)  : (discardTag m).reconsume = m.reconsume := rfl
@[simp] theorem discardTag_ignoreLf (m : Mach)  : (discardTag m).ignoreLf = m.ignoreLf := rfl
@[simp] theorem discardTag_atEof (m : Mach)  : (discardTag m).atEof = m.atEof := rfl
@[simp] theorem discardTag_charRef (m : Mach)  : (discardTag m).charRef = m.charRef := rfl
@[simp] theorem discardTag_currentChar (m : Mach)  : (discardTag m).currentChar = m.currentChar := rfl
@[simp] theorem discardTag_discardBom (m : Mach)  : (discardTag m).discardBom = m.discardBom := rfl
@[simp] theorem createTag_state (m : Mach) (k : TagKind) (c : Char) : (createTag k c m).state = m.state := rfl
@[simp] theorem createTag_fields (m : Mach) (k : TagKind) (c : Char) :
    (createTag k c m).tempBuf = m.tempBuf ∧ (createTag k c m).reconsume = m.reconsume ∧
    (createTag k c m).ignoreLf = m.ignoreLf ∧ (createTag k c m).atEof = m.atEof ∧
    (createTag k c m).charRef = m.charRef ∧ (createTag k c m).currentChar = m.currentChar ∧
    (createTag k c m).discardBom = m.discardBom :=
  ⟨rfl, rfl, rfl, rfl, rfl, rfl, rfl⟩
@[simp] theorem createPi_state (m : Mach) (c : Char) : (createPi c m).state = m.state := rfl
@[simp] theorem createPi_fields (m : Mach) (c : Char) :
    (createPi c m).tempBuf = m.tempBuf ∧ (createPi c m).reconsume = m.reconsume ∧
    (createPi c m).ignoreLf = m.ignoreLf ∧ (createPi c m).atEof = m.atEof ∧
    (createPi c m).charRef = m.charRef ∧ (createPi c m).currentChar = m.currentChar ∧
    (createPi c m).discardBom = m.discardBom :=
  ⟨rfl, rfl, rfl, rfl, rfl, rfl, rfl⟩
@[simp] theorem pushTag_fields (m : Mach) (c : Char) :
    (pushTag c m).state = m.state ∧ (pushTag c m).tempBuf = m.tempBuf ∧
    (pushTag c m).reconsume = m.reconsume ∧ (pushTag c m).ignoreLf = m.ignoreLf ∧
    (pushTag c m).atEof = m.atEof ∧ (pushTag c m).charRef = m.charRef ∧
    (pushTag c m).currentChar = m.currentChar ∧ (pushTag c m).discardBom = m.discardBom :=
  ⟨rfl, rfl, rfl, rfl, rfl, rfl, rfl, rfl⟩
@[simp] theorem pushPiTarget_fields (m : Mach) (c : Char) :
    (pushPiTarget c m).state = m.state ∧ (pushPiTarget c m).tempBuf = m.tempBuf ∧
    (pushPiTarget c m).reconsume = m.reconsume ∧ (pushPiTarget c m).ignoreLf = m.ignoreLf ∧
    (pushPiTarget c m).atEof = m.atEof ∧ (pushPiTarget c m).charRef = m.charRef ∧
    (pushPiTarget c m).currentChar = m.currentChar ∧ (pushPiTarget c m).discardBom = m.discardBom :=
  ⟨rfl, rfl, rfl, rfl, rfl, rfl, rfl, rfl⟩
@[simp] theorem pushPiData_fields (m : Mach) (c : Char) :
    (pushPiData c m).state = m.state ∧ (pushPiData c m).tempBuf = m.tempBuf ∧
    (pushPiData c m).reconsume = m.reconsume ∧ (pushPiData c m).ignoreLf = m.ignoreLf ∧
    (pushPiData c m).atEof = m.atEof ∧ (pushPiData c m).charRef = m.charRef ∧
    (pushPiData c m).currentChar = m.currentChar ∧ (pushPiData c m).discardBom = m.discardBom :=
  ⟨rfl, rfl, rfl, rfl, rfl, rfl, rfl, rfl⟩
@[simp] theorem setEmptyTag_fields (m : Mach) :
    (setEmptyTag m).state = m.state ∧ (setEmptyTag m).tempBuf = m.tempBuf ∧
    (setEmptyTag m).reconsume = m.reconsume ∧ (setEmptyTag m).ignoreLf = m.ignoreLf ∧
    (setEmptyTag m).atEof = m.atEof ∧ (setEmptyTag m).charRef = m.charRef ∧
    (setEmptyTag m).currentChar = m.currentChar ∧ (setEmptyTag m).discardBom = m.discardBom :=
  ⟨rfl, rfl, rfl, rfl, rfl, rfl, rfl, rfl⟩
theorem finishAttribute_ctl (m : Mach) : SameCtl (finishAttribute m) m := by
  unfold finishAttribute
  split
  · exact SameCtl.refl m
  · dsimp only
    split
    · exact SameCtl.refl m
    · split <;> exact SameCtl.refl m
@[simp] theorem finishAttribute_fields (m : Mach) :
    (finishAttribute m).state = m.state ∧ (finishAttribute m).tempBuf = m.tempBuf ∧
    (finishAttribute m).reconsume = m.reconsume ∧ (finishAttribute m).ignoreLf = m.ignoreLf ∧
    (finishAttribute m).atEof = m.atEof ∧ (finishAttribute m).charRef = m.charRef ∧
    (finishAttribute m).currentChar = m.currentChar ∧ (finishAttribute m).discardBom = m.discardBom :=
  finishAttribute_ctl m
@[simp] theorem createAttr_fields (m : Mach) (c : Char) :
    (createAttr c m).state = m.state ∧ (createAttr c m).tempBuf = m.tempBuf ∧
    (createAttr c m).reconsume = m.reconsume ∧ (createAttr c m).ignoreLf = m.ignoreLf ∧
    (createAttr c m).atEof = m.atEof ∧ (createAttr c m).charRef = m.charRef ∧
    (createAttr c m).currentChar = m.currentChar ∧ (createAttr c m).discardBom = m.discardBom :=
  finishAttribute_ctl m
@[simp] theorem pushName_fields (m : Mach) (c : Char) :
    (pushName c m).state = m.state ∧ (pushName c m).tempBuf = m.tempBuf ∧
    (pushName c m).reconsume = m.reconsume ∧ (pushName c m).ignoreLf = m.ignoreLf ∧
    (pushName c m).atEof = m.atEof ∧ (pushName c m).charRef = m.charRef ∧
    (pushName c m).currentChar = m.currentChar ∧ (pushName c m).discardBom = m.discardBom :=
  ⟨rfl, rfl, rfl, rfl, rfl, rfl, rfl, rfl⟩
@[simp] theorem pushValue_fields (m : Mach) (c : Char) :
    (pushValue c m).state = m.state ∧ (pushValue c m).tempBuf = m.tempBuf ∧
    (pushValue c m).reconsume = m.reconsume ∧ (pushValue c m).ignoreLf = m.ignoreLf ∧
    (pushValue c m).atEof = m.atEof ∧ (pushValue c m).charRef = m.charRef ∧
    (pushValue c m).currentChar = m.currentChar ∧ (pushValue c m).discardBom = m.discardBom :=
  ⟨rfl, rfl, rfl, rfl, rfl, rfl, rfl, rfl⟩
@[simp] theorem appendValue_fields (m : Mach) (s : Str) :
    (appendValue s m).state = m.state ∧ (appendValue s m).tempBuf = m.tempBuf ∧
    (appendValue s m).reconsume = m.reconsume ∧ (appendValue s m).ignoreLf = m.ignoreLf ∧
    (appendValue s m).atEof = m.atEof ∧ (appendValue s m).charRef = m.charRef ∧
    (appendValue s m).discardBom = m.discardBom :=
  ⟨rfl, rfl, rfl, rfl, rfl, rfl, rfl⟩
@[simp] theorem appendValue_currentChar (m : Mach) (s : Str) : (appendValue s m).currentChar = m.currentChar := rfl
@[simp] theorem pushComment_fields (m : Mach) (c : Char) :
    (pushComment c m).state = m.state ∧ (pushComment c m).tempBuf = m.tempBuf ∧
    (pushComment c m).reconsume = m.reconsume ∧ (pushComment c m).ignoreLf = m.ignoreLf ∧
    (pushComment c m).atEof = m.atEof ∧ (pushComment c m).charRef = m.charRef ∧
    (pushComment c m).currentChar = m.currentChar ∧ (pushComment c m).discardBom = m.discardBom :=
  ⟨rfl, rfl, rfl, rfl, rfl, rfl, rfl, rfl⟩
@[simp] theorem appendComment_state (m : Mach) (s : String) : (appendComment s m).state = m.state := rfl
@[simp] theorem appendComment_fields (m : Mach) (s : String) :
    (appendComment s m).tempBuf = m.tempBuf ∧ (appendComment s m).reconsume = m.reconsume ∧
    (appendComment s m).ignoreLf = m.ignoreLf ∧ (appendComment s m).atEof = m.atEof ∧
    (appendComment s m).charRef = m.charRef ∧ (appendComment s m).currentChar = m.currentChar ∧
    (appendComment s m).discardBom = m.discardBom :=
  ⟨rfl, rfl, rfl, rfl, rfl, rfl, rfl⟩
@[simp] theorem clearComment_state (m : Mach)  : (clearComment m).state = m.state := rfl
@[simp] theorem clearComment_fields (m : Mach) :
    (clearComment m).tempBuf = m.tempBuf ∧ (clearComment m).reconsume = m.reconsume ∧
    (clearComment m).atEof = m.atEof ∧ (clearComment m).charRef = m.charRef ∧
    (clearComment m).currentChar = m.currentChar ∧ (clearComment m).discardBom = m.discardBom :=
  ⟨rfl, rfl, rfl, rfl, rfl, rfl⟩
@[simp] theorem clearComment_ignoreLf (m : Mach)  : (clearComment m).ignoreLf = m.ignoreLf := rfl
@[simp] theorem emitComment_state (m : Mach)  : (emitComment m).state = m.state := rfl
@[simp] theorem emitComment_fields (m : Mach) :
    (emitComment m).tempBuf = m.tempBuf ∧ (emitComment m).reconsume = m.reconsume ∧
    (emitComment m).ignoreLf = m.ignoreLf ∧ (emitComment m).atEof = m.atEof ∧
    (emitComment m).charRef = m.charRef ∧ (emitComment m).currentChar = m.currentChar ∧
    (emitComment m).discardBom = m.discardBom :=
  ⟨rfl, rfl, rfl, rfl, rfl, rfl, rfl⟩
@[simp] theorem createDoctype_state (m : Mach)  : (createDoctype m).state = m.state := rfl
@[simp] theorem createDoctype_fields (m : Mach) :
    (createDoctype m).tempBuf = m.tempBuf ∧ (createDoctype m).reconsume = m.reconsume ∧
    (createDoctype m).ignoreLf = m.ignoreLf ∧ (createDoctype m).atEof = m.atEof ∧
    (createDoctype m).charRef = m.charRef ∧ (createDoctype m).currentChar = m.currentChar ∧
    (createDoctype m).discardBom = m.discardBom :=
  ⟨rfl, rfl, rfl, rfl, rfl, rfl, rfl⟩
@[simp] theorem pushDoctypeName_state (m : Mach) (c : Char) : (pushDoctypeName c m).state = m.state := rfl
@[simp] theorem pushDoctypeName_fields (m : Mach) (c : Char) :
    (pushDoctypeName c m).tempBuf = m.tempBuf ∧ (pushDoctypeName c m).reconsume = m.reconsume ∧
    (pushDoctypeName c m).ignoreLf = m.ignoreLf ∧ (pushDoctypeName c m).atEof = m.atEof ∧
    (pushDoctypeName c m).charRef = m.charRef ∧ (pushDoctypeName c m).currentChar = m.currentChar ∧
    (pushDoctypeName c m).discardBom = m.discardBom :=
  ⟨rfl, rfl, rfl, rfl, rfl, rfl, rfl⟩
@[simp] theorem pushDoctypeId_fields (m : Mach) (k : DoctypeKind) (c : Char) :
    (pushDoctypeId k c m).state = m.state ∧ (pushDoctypeId k c m).tempBuf = m.tempBuf ∧
    (pushDoctypeId k c m).reconsume = m.reconsume ∧ (pushDoctypeId k c m).ignoreLf = m.ignoreLf ∧
    (pushDoctypeId k c m).atEof = m.atEof ∧ (pushDoctypeId k c m).charRef = m.charRef ∧
    (pushDoctypeId k c m).currentChar = m.currentChar ∧ (pushDoctypeId k c m).discardBom = m.discardBom := by
  cases k <;> exact ⟨rfl, rfl, rfl, rfl, rfl, rfl, rfl, rfl⟩
@[simp] theorem clearDoctypeId_fields (m : Mach) (k : DoctypeKind) :
    (clearDoctypeId k m).state = m.state ∧ (clearDoctypeId k m).tempBuf = m.tempBuf ∧
    (clearDoctypeId k m).reconsume = m.reconsume ∧ (clearDoctypeId k m).ignoreLf = m.ignoreLf ∧
    (clearDoctypeId k m).atEof = m.atEof ∧ (clearDoctypeId k m).charRef = m.charRef ∧
    (clearDoctypeId k m).currentChar = m.currentChar ∧ (clearDoctypeId k m).discardBom = m.discardBom := by
  cases k <;> exact ⟨rfl, rfl, rfl, rfl, rfl, rfl, rfl, rfl⟩
@[simp] theorem emitDoctype_state (m : Mach)  : (emitDoctype m).state = m.state := rfl
@[simp] theorem emitDoctype_fields (m : Mach) :
    (emitDoctype m).tempBuf = m.tempBuf ∧ (emitDoctype m).reconsume = m.reconsume ∧
    (emitDoctype m).ignoreLf = m.ignoreLf ∧ (emitDoctype m).atEof = m.atEof ∧
    (emitDoctype m).charRef = m.charRef ∧ (emitDoctype m).currentChar = m.currentChar ∧
    (emitDoctype m).discardBom = m.discardBom :=
  ⟨rfl, rfl, rfl, rfl, rfl, rfl, rfl⟩
@[simp] theorem emitPi_fields (m : Mach) :
    (emitPi m).state = m.state ∧ (emitPi m).tempBuf = m.tempBuf ∧ (emitPi m).reconsume = m.reconsume ∧
    (emitPi m).ignoreLf = m.ignoreLf ∧ (emitPi m).atEof = m.atEof ∧ (emitPi m).charRef = m.charRef ∧
    (emitPi m).currentChar = m.currentChar ∧ (emitPi m).discardBom = m.discardBom :=
  ⟨rfl, rfl, rfl, rfl, rfl, rfl, rfl, rfl⟩
@[simp] theorem consumeCharRef_fields (m : Mach) (a : Option Char) :
    (consumeCharRef a m).state = m.state ∧ (consumeCharRef a m).tempBuf = m.tempBuf ∧
    (consumeCharRef a m).reconsume = m.reconsume ∧ (consumeCharRef a m).ignoreLf = m.ignoreLf ∧
    (consumeCharRef a m).atEof = m.atEof ∧ (consumeCharRef a m).charRef = some { addnlAllowed := a } ∧
    (consumeCharRef a m).discardBom = m.discardBom :=
  ⟨rfl, rfl, rfl, rfl, rfl, rfl, rfl⟩
@[simp] theorem consumeCharRef_currentChar (m : Mach) (a : Option Char) : (consumeCharRef a m).currentChar = m.currentChar := rfl
theorem emitCurrentTag_ctl (m : Mach) : SameCtl (emitCurrentTag m) m := by
  have h := finishAttribute_ctl m
  unfold emitCurrentTag
  dsimp only
  (repeat' split) <;> exact h
@[simp] theorem emitCurrentTag_state (m : Mach)  : (emitCurrentTag m).state = m.state :=
  (emitCurrentTag_ctl m).1
@[simp] theorem emitCurrentTag_fields (m : Mach) :
    (emitCurrentTag m).tempBuf = m.tempBuf ∧ (emitCurrentTag m).reconsume = m.reconsume ∧
    (emitCurrentTag m).ignoreLf = m.ignoreLf ∧ (emitCurrentTag m).atEof = m.atEof ∧
    (emitCurrentTag m).charRef = m.charRef ∧ (emitCurrentTag m).currentChar = m.currentChar ∧
    (emitCurrentTag m).discardBom = m.discardBom :=
  (emitCurrentTag_ctl m).2
@[simp] theorem emitTag_fields (m : Mach) (s : State) :
    (emitTag s m).state = s ∧ (emitTag s m).tempBuf = m.tempBuf ∧
    (emitTag s m).reconsume = m.reconsume ∧ (emitTag s m).ignoreLf = m.ignoreLf ∧
    (emitTag s m).atEof = m.atEof ∧ (emitTag s m).charRef = m.charRef ∧
    (emitTag s m).currentChar = m.currentChar ∧ (emitTag s m).discardBom = m.discardBom :=
  emitCurrentTag_ctl (to s m)
@[simp] theorem emitShortTag_fields (m : Mach) (s : State) :
    (emitShortTag s m).state = s ∧ (emitShortTag s m).tempBuf = m.tempBuf ∧
    (emitShortTag s m).reconsume = m.reconsume ∧ (emitShortTag s m).ignoreLf = m.ignoreLf ∧
    (emitShortTag s m).atEof = m.atEof ∧ (emitShortTag s m).charRef = m.charRef ∧
    (emitShortTag s m).currentChar = m.currentChar ∧ (emitShortTag s m).discardBom = m.discardBom :=
  emitCurrentTag_ctl _
@[simp] theorem emitEmptyTag_fields (m : Mach) (s : State) :
    (emitEmptyTag s m).state = s ∧ (emitEmptyTag s m).tempBuf = m.tempBuf ∧
    (emitEmptyTag s m).reconsume = m.reconsume ∧ (emitEmptyTag s m).ignoreLf = m.ignoreLf ∧
    (emitEmptyTag s m).atEof = m.atEof ∧ (emitEmptyTag s m).charRef = m.charRef ∧
    (emitEmptyTag s m).currentChar = m.currentChar ∧ (emitEmptyTag s m).discardBom = m.discardBom :=
  emitCurrentTag_ctl _
@[simp] theorem emitStartTag_state (m : Mach) (s : State) : (emitStartTag s m).state = s :=
  (emitCurrentTag_ctl _).1
@[simp] theorem emitStartTag_tempBuf (m : Mach) (s : State) : (emitStartTag s m).tempBuf = m.tempBuf :=
  (emitCurrentTag_ctl _).2.1
@[simp] theorem emitStartTag_reconsume (m : Mach) (s : State) : (emitStartTag s m).reconsume = m.reconsume :=
  (emitCurrentTag_ctl _).2.2.1
@[simp] theorem emitStartTag_ignoreLf (m : Mach) (s : State) : (emitStartTag s m).ignoreLf = m.ignoreLf :=
  (emitCurrentTag_ctl _).2.2.2.1
@[simp] theorem emitStartTag_atEof (m : Mach) (s : State) : (emitStartTag s m).atEof = m.atEof :=
  (emitCurrentTag_ctl _).2.2.2.2.1
@[simp] theorem emitStartTag_charRef (m : Mach) (s : State) : (emitStartTag s m).charRef = m.charRef :=
  (emitCurrentTag_ctl _).2.2.2.2.2.1
@[simp] theorem emitStartTag_currentChar (m : Mach) (s : State) : (emitStartTag s m).currentChar = m.currentChar :=
  (emitCurrentTag_ctl _).2.2.2.2.2.2.1
@[simp] theorem emitStartTag_discardBom (m : Mach) (s : State) : (emitStartTag s m).discardBom = m.discardBom :=
  (emitCurrentTag_ctl _).2.2.2.2.2.2.2
@[simp] theorem setIgnoreLf_fields (m : Mach) (b : Bool) :
    (m.setIgnoreLf b).state = m.state ∧ (m.setIgnoreLf b).tempBuf = m.tempBuf ∧
    (m.setIgnoreLf b).ignoreLf = b ∧ (m.setIgnoreLf b).atEof = m.atEof ∧
    (m.setIgnoreLf b).charRef = m.charRef ∧ (m.setIgnoreLf b).currentChar = m.currentChar ∧
    (m.setIgnoreLf b).discardBom = m.discardBom :=
  ⟨rfl, rfl, rfl, rfl, rfl, rfl, rfl⟩
@[simp] theorem setIgnoreLf_reconsume (m : Mach) (b : Bool) : (m.setIgnoreLf b).reconsume = m.reconsume := rfl
@[simp] theorem setReconsume_fields (m : Mach) (b : Bool) :
    (m.setReconsume b).state = m.state ∧ (m.setReconsume b).tempBuf = m.tempBuf ∧
    (m.setReconsume b).reconsume = b ∧ (m.setReconsume b).ignoreLf = m.ignoreLf ∧
    (m.setReconsume b).atEof = m.atEof ∧ (m.setReconsume b).charRef = m.charRef ∧
    (m.setReconsume b).currentChar = m.currentChar ∧ (m.setReconsume b).discardBom = m.discardBom :=
  ⟨rfl, rfl, rfl, rfl, rfl, rfl, rfl, rfl⟩
@[simp] theorem setTempBuf_fields (m : Mach) (s : Str) :
    (m.setTempBuf s).state = m.state ∧ (m.setTempBuf s).reconsume = m.reconsume ∧
    (m.setTempBuf s).atEof = m.atEof ∧ (m.setTempBuf s).charRef = m.charRef ∧
    (m.setTempBuf s).currentChar = m.currentChar ∧ (m.setTempBuf s).discardBom = m.discardBom :=
  ⟨rfl, rfl, rfl, rfl, rfl, rfl⟩
@[simp] theorem setTempBuf_tempBuf (m : Mach) (s : Str) : (m.setTempBuf s).tempBuf = s := rfl
@[simp] theorem setTempBuf_ignoreLf (m : Mach) (s : Str) : (m.setTempBuf s).ignoreLf = m.ignoreLf := rfl
@[simp] theorem setCharRef_state (m : Mach) (cr : Option CharRefSt) : (m.setCharRef cr).state = m.state := rfl
@[simp] theorem setCharRef_tempBuf (m : Mach) (cr : Option CharRefSt) : (m.setCharRef cr).tempBuf = m.tempBuf := rfl
@[simp] theorem setCharRef_reconsume (m : Mach) (cr : Option CharRefSt) : (m.setCharRef cr).reconsume = m.reconsume := rfl
@[simp] theorem setCharRef_fields (m : Mach) (cr : Option CharRefSt) :
    (m.setCharRef cr).ignoreLf = m.ignoreLf ∧ (m.setCharRef cr).atEof = m.atEof ∧
    (m.setCharRef cr).currentChar = m.currentChar ∧ (m.setCharRef cr).discardBom = m.discardBom :=
  ⟨rfl, rfl, rfl, rfl⟩
@[simp] theorem setCharRef_charRef (m : Mach) (cr : Option CharRefSt) : (m.setCharRef cr).charRef = cr := rfl
@[simp] theorem setAtEof_fields (m : Mach) (b : Bool) :
    (m.setAtEof b).state = m.state ∧ (m.setAtEof b).tempBuf = m.tempBuf ∧
    (m.setAtEof b).reconsume = m.reconsume ∧ (m.setAtEof b).ignoreLf = m.ignoreLf ∧
    (m.setAtEof b).charRef = m.charRef ∧ (m.setAtEof b).currentChar = m.currentChar :=
  ⟨rfl, rfl, rfl, rfl, rfl, rfl⟩
@[simp] theorem setAtEof_atEof (m : Mach) (b : Bool) : (m.setAtEof b).atEof = b := rfl
@[simp] theorem setAtEof_discardBom (m : Mach) (b : Bool) : (m.setAtEof b).discardBom = m.discardBom := rfl
@[simp] theorem setDiscardBom_fields (m : Mach) (b : Bool) :
    (m.setDiscardBom b).state = m.state ∧ (m.setDiscardBom b).reconsume = m.reconsume ∧
    (m.setDiscardBom b).ignoreLf = m.ignoreLf ∧ (m.setDiscardBom b).atEof = m.atEof ∧
    (m.setDiscardBom b).charRef = m.charRef ∧ (m.setDiscardBom b).currentChar = m.currentChar ∧
    (m.setDiscardBom b).discardBom = b :=
  ⟨rfl, rfl, rfl, rfl, rfl, rfl, rfl⟩
@[simp] theorem setDiscardBom_tempBuf (m : Mach) (b : Bool) : (m.setDiscardBom b).tempBuf = m.tempBuf := rfl
@[simp] theorem setCurrentChar_state (m : Mach) (c : Char) : (m.setCurrentChar c).state = m.state := rfl
@[simp] theorem setCurrentChar_fields (m : Mach) (c : Char) :
    (m.setCurrentChar c).tempBuf = m.tempBuf ∧ (m.setCurrentChar c).atEof = m.atEof ∧
    (m.setCurrentChar c).charRef = m.charRef ∧ (m.setCurrentChar c).currentChar = c ∧
    (m.setCurrentChar c).discardBom = m.discardBom :=
  ⟨rfl, rfl, rfl, rfl, rfl⟩
@[simp] theorem setCurrentChar_reconsume (m : Mach) (c : Char) : (m.setCurrentChar c).reconsume = m.reconsume := rfl
@[simp] theorem setCurrentChar_ignoreLf (m : Mach) (c : Char) : (m.setCurrentChar c).ignoreLf = m.ignoreLf := rfl

end H5V.Model.XmlTok
