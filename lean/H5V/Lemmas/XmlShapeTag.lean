import H5V.Lemmas.XmlShapeSer
import H5V.Lemmas.XmlShapeTree
/-!
C17, shape of parsed trees: every element the lexical-scope resolver `S.resolve` creates from
tokenizer-shaped tags (`TagShape`: the name of a start / empty tag is `process_qname` of a non-empty raw name; attribute names are `process_qname` of non-empty raw names and pairwise distinct) is a `TagOKW` tag.
With `C16_resolve_fixed` (created elements = `S.resolve`) this gives `TagOKW` for every element of every
document the (fixed) tree-builder model builds.
-/
namespace H5V.Lemmas.XmlShape
open H5V.Model.XmlTB H5V.Model.XmlSer H5V.Spec.XmlNs H5V.Lemmas.XmlNs H5V.Lemmas.XmlSer H5V.Props.C16
open H5V.Lemmas.XmlSerFixed

/-- a tag token as the tokenizer's `emit_current_tag` delivers it -/
structure TagShape (t : Tag) : Prop where
  name : (t.kind = .start ∨ t.kind = .empty) → ∃ raw, t.name = splitQName raw ∧ raw ≠ []
  attrs : ∀ a ∈ t.attrs, ∃ raw, raw ≠ [] ∧ a.name = splitQName raw
  nodup : (t.attrs.map (·.name)).Nodup

/-- a token as the tokenizer delivers it: tags of `TagShape`, non-empty character data -/
def TokShape : Token → Prop
  | .tag t => TagShape t
  | .chars cs => cs ≠ []
  | _ => True

/-- the leaf node a token may become satisfies `Q` -/
def TokLeafQ (Q : Node → Prop) : Token → Prop
  | .chars cs => Q (.text cs)
  | .comment c => Q (.comment c)
  | .pi t d => Q (.pi t d)
  | .doctype n p sy => Q (.doctype (optStr n) (optStr p) (optStr sy))
  | _ => True

theorem TokShape.good {Q : Node → Prop} {t : Token} (h : TokShape t) (hq : TokLeafQ Q t) : TokGood Q t := by
  cases t with
  | chars cs => exact ⟨h, hq⟩
  | comment c | pi a b | doctype a b c => exact hq
  | tag t | nullChar | eof => trivial

theorem tokLeafQ_true (t : Token) : TokLeafQ (fun _ => True) t := by cases t <;> trivial

theorem textClosed_true : TextClosed (fun _ => True) := fun _ _ _ _ => trivial

/-! ### names -/

theorem nameOK_split (raw : Str) (hne : raw ≠ []) (ns : Str) :
    NameOK ⟨(splitQName raw).pfx, ns, (splitQName raw).loc⟩ := by
  cases hp : (splitQName raw).pfx with
  | none =>
    have h := C16_splitQName_none raw hp
    rw [h]
    exact ⟨by simp only [rawName]; exact h, by simpa [rawName] using hne⟩
  | some p =>
    have h : splitQName raw = ⟨some p, (splitQName raw).loc⟩ := by
      cases hs : splitQName raw with
      | mk a b => rw [hs] at hp; simp only at hp; subst hp; rfl
    obtain ⟨hraw, _, _, _, _⟩ := C16_splitQName_some raw p _ h
    refine ⟨?_, ?_⟩
    · simp only [rawName]; rw [← hraw]; exact h
    · simp [rawName]

/-- no frame binds anything to the xmlns URI -/
def FrameOK (f : NsFrame) : Prop := ∀ p u, (p, some u) ∈ f → u ≠ XMLNS_URI

/-- a URI bound in the frame of a tag is the value of one of its attributes, and not the xmlns URI -/
theorem frameOf_bound {attrs : List RAttr} {p : Option Str} {u : Str} (hm : (p, some u) ∈ frameOf attrs) :
    (∃ a ∈ attrs, a.value = u) ∧ u ≠ XMLNS_URI := by
  obtain ⟨a, hmem, ha⟩ := List.mem_filterMap.mp hm
  unfold declOf at ha
  split at ha
  · cases ha
  · split at ha
    · cases ha
    · rename_i hv
      have hu : optUri a.value = some u → (∃ a ∈ attrs, a.value = u) ∧ u ≠ XMLNS_URI := by
        intro e
        unfold optUri at e
        split at e
        · cases e
        · injection e with e; subst e; exact ⟨⟨a, hmem, rfl⟩, hv⟩
      split at ha
      · split at ha
        · cases ha
        · simp only [Option.some.injEq, Prod.mk.injEq] at ha; exact hu ha.2
      · simp only [Option.some.injEq, Prod.mk.injEq] at ha; exact hu ha.2

theorem frameOf_ok (attrs : List RAttr) : FrameOK (frameOf attrs) := fun _ _ hm => (frameOf_bound hm).2

theorem xmlUri_ne_xmlnsUri : XML_URI ≠ XMLNS_URI := by decide +kernel

/-- where the value of `lookupNs` comes from: one of the two reserved URIs, a binding in some frame, or
nothing -/
theorem lookupNs_cases (env : List NsFrame) (p : Option Str) :
    (p = some sXml ∧ lookupNs env p = XML_URI) ∨ (p = some sXmlns ∧ lookupNs env p = XMLNS_URI) ∨
    (∃ f ∈ env, (p, some (lookupNs env p)) ∈ f) ∨ lookupNs env p = [] := by
  unfold lookupNs
  split
  · exact .inl ⟨‹_›, rfl⟩
  · split
    · exact .inr (.inl ⟨‹_›, rfl⟩)
    · split
      · rename_i uri hf
        obtain ⟨f, hfm, hfl⟩ := List.exists_of_findSome?_eq_some hf
        exact .inr (.inr (.inl ⟨f, hfm, mem_of_lookup_some f p (some uri) hfl⟩))
      · exact .inr (.inr (.inr rfl))

theorem lookupNs_xmlnsUri (env : List NsFrame) (henv : ∀ f ∈ env, FrameOK f) (p : Option Str)
    (h : lookupNs env p = XMLNS_URI) : p = some sXmlns := by
  rcases lookupNs_cases env p with ⟨_, e⟩ | ⟨hp, _⟩ | ⟨f, hf, hm⟩ | e
  · rw [e] at h; exact absurd h xmlUri_ne_xmlnsUri
  · exact hp
  · exact absurd h (henv f hf p _ hm)
  · rw [e] at h; exact absurd h (by decide +kernel)

theorem lookupNs_xml (env : List NsFrame) : lookupNs env (some sXml) = XML_URI := by
  unfold lookupNs; simp

theorem lookupNs_xmlns (env : List NsFrame) : lookupNs env (some sXmlns) = XMLNS_URI := by
  unfold lookupNs
  have : (some sXmlns : Option Str) ≠ some sXml := by decide +kernel
  simp [this]

theorem elemNameOK_resolve (env : List NsFrame) (henv : ∀ f ∈ env, FrameOK f) (raw : Str) (hne : raw ≠ []) :
    ElemNameOK (resolveElemName env (splitQName raw)) := by
  unfold resolveElemName
  refine ⟨nameOK_split raw hne _, ?_, ?_, ?_⟩
  · intro hp; simp only at hp ⊢; rw [hp]; exact lookupNs_xml env
  · intro hp; simp only at hp ⊢; rw [hp]; exact lookupNs_xmlns env
  · intro hn; exact lookupNs_xmlnsUri env henv _ hn

theorem resolveAttrName_pfx (env : List NsFrame) (n : RName) :
    (resolveAttrName env n).pfx = n.pfx ∧ (resolveAttrName env n).loc = n.loc := by
  unfold resolveAttrName
  cases h : n.pfx <;> simp [h]

theorem attrNameOK_resolve (env : List NsFrame) (henv : ∀ f ∈ env, FrameOK f) (raw : Str) (hne : raw ≠ [])
    (hnd : isDecl (splitQName raw) = false) : AttrNameOK (resolveAttrName env (splitQName raw)) := by
  have hname : NameOK (resolveAttrName env (splitQName raw)) := by
    have := nameOK_split raw hne (resolveAttrName env (splitQName raw)).ns
    obtain ⟨e1, e2⟩ := resolveAttrName_pfx env (splitQName raw)
    have e : resolveAttrName env (splitQName raw) =
        ⟨(splitQName raw).pfx, (resolveAttrName env (splitQName raw)).ns, (splitQName raw).loc⟩ := by
      cases hr : resolveAttrName env (splitQName raw) with
      | mk a b c => rw [hr] at e1 e2; simp only at e1 e2; subst e1 e2; rfl
    rw [e]; exact this
  obtain ⟨e1, e2⟩ := resolveAttrName_pfx env (splitQName raw)
  unfold isDecl at hnd
  simp only [Bool.or_eq_false_iff, Bool.and_eq_false_iff, beq_eq_false_iff_ne, ne_eq] at hnd
  have hnx : (resolveAttrName env (splitQName raw)).pfx ≠ some sXmlns := by rw [e1]; exact hnd.1
  refine ⟨hname, ?_, hnx, ?_, ?_⟩
  · intro hp
    rw [e1] at hp
    unfold resolveAttrName
    rw [hp]; simp only []
    rw [← hp]; rw [hp]; exact lookupNs_xml env
  · intro hn
    unfold resolveAttrName at hn
    cases hp : (splitQName raw).pfx with
    | none => rw [hp] at hn; simp only at hn; exact absurd hn (by decide +kernel)
    | some q =>
      rw [hp] at hn; simp only at hn
      have := lookupNs_xmlnsUri env henv _ hn
      exact hnd.1 (by rw [hp]; exact this)
  · intro hp
    rw [e1] at hp
    refine ⟨?_, ?_⟩
    · unfold resolveAttrName; rw [hp]
    · rw [e2]
      rcases hnd.2 with h | h
      · exact absurd hp h
      · exact h

/-! ### the attribute list -/

theorem dedup_expanded (seen : List (Str × Str)) (l : List Attr) :
    (((dedupPrefixed seen l).filter (fun a => a.name.pfx.isSome)).map (fun a => (a.name.ns, a.name.loc))).Nodup ∧
    ∀ a ∈ dedupPrefixed seen l, a.name.pfx.isSome = true → (a.name.ns, a.name.loc) ∉ seen := by
  induction l generalizing seen with
  | nil => simp [dedupPrefixed]
  | cons a rest ih =>
    unfold dedupPrefixed
    by_cases hp : a.name.pfx.isSome = true
    · simp only [hp, ↓reduceIte]
      by_cases hc : seen.contains (a.name.ns, a.name.loc) = true
      · simp only [hc, ↓reduceIte]; exact ih seen
      · simp only [hc, Bool.false_eq_true, ↓reduceIte]
        obtain ⟨h1, h2⟩ := ih ((a.name.ns, a.name.loc) :: seen)
        refine ⟨?_, ?_⟩
        · simp only [List.filter_cons, hp, ↓reduceIte, List.map_cons, List.nodup_cons]
          refine ⟨?_, h1⟩
          intro hm
          obtain ⟨b, hb, hbe⟩ := List.mem_map.mp hm
          have hb' := List.mem_filter.mp hb
          exact h2 b hb'.1 hb'.2 (by rw [hbe]; simp)
        · intro b hb hbp
          simp only [List.mem_cons] at hb
          rcases hb with rfl | hb
          · simpa using hc
          · intro hm; exact h2 b hb hbp (List.mem_cons_of_mem _ hm)
    · simp only [hp, Bool.false_eq_true, ↓reduceIte]
      obtain ⟨h1, h2⟩ := ih seen
      refine ⟨?_, ?_⟩
      · simpa [List.filter_cons, hp] using h1
      · intro b hb hbp
        simp only [List.mem_cons] at hb
        rcases hb with rfl | hb
        · exact absurd hbp hp
        · exact h2 b hb hbp

/-- **a resolved tokenizer-shaped tag is a `TagOKW` tag** -/
theorem resolveTag_ok (scopes : List Scope) (hs : ∀ f ∈ envOf scopes, FrameOK f) (t : Tag) (ht : TagShape t)
    (hk : t.kind = .start ∨ t.kind = .empty) :
    TagOKW (resolveTag scopes t).name (resolveTag scopes t).attrs := by
  unfold resolveTag
  simp only []
  generalize henv : frameOf t.attrs :: envOf scopes = env
  have hE : ∀ f ∈ env, FrameOK f := by
    intro f hf; subst henv
    simp only [List.mem_cons] at hf
    rcases hf with rfl | hf
    · exact frameOf_ok _
    · exact hs f hf
  obtain ⟨raw, hraw, hne⟩ := ht.name hk
  have hsub : (resolveAttrs env t.attrs).Sublist
      ((t.attrs.filter (fun a => !isDecl a.name)).map (fun a => (⟨resolveAttrName env a.name, a.value⟩ : Attr))) := by
    unfold resolveAttrs; exact dedup_sublist _ _
  have hattr : ∀ a ∈ resolveAttrs env t.attrs, ∃ r ∈ t.attrs, isDecl r.name = false ∧
      a.name = resolveAttrName env r.name := by
    intro a ha
    obtain ⟨r, hr, rfl⟩ := List.mem_map.mp (hsub.subset ha)
    have := List.mem_filter.mp hr
    exact ⟨r, this.1, by simpa using this.2, rfl⟩
  -- every name is resolved in `env`
  have hres : ∀ x ∈ resolveElemName env t.name :: (resolveAttrs env t.attrs).map (·.name),
      needs x = true → x.ns = lookupNs env x.pfx := by
    intro x hx hn
    simp only [List.mem_cons, List.mem_map] at hx
    rcases hx with rfl | ⟨a, ha, rfl⟩
    · rfl
    · obtain ⟨r, _, _, e⟩ := hattr a ha
      rw [e] at hn ⊢
      unfold resolveAttrName at hn ⊢
      cases hp : r.name.pfx with
      | none => rw [hp] at hn; simp [needs] at hn
      | some q => rfl
  refine ⟨?_, ?_, ?_, ?_, ?_⟩
  · rw [hraw]; exact elemNameOK_resolve env hE raw hne
  · intro a ha
    obtain ⟨r, hr, hnd, e⟩ := hattr a ha
    obtain ⟨raw', hne', hr'⟩ := ht.attrs r hr
    rw [e, hr']
    rw [hr'] at hnd
    exact attrNameOK_resolve env hE raw' hne' hnd
  · have h1 := hsub.map (fun a => (⟨a.name.pfx, a.name.loc⟩ : RName))
    apply List.Nodup.sublist h1
    rw [List.map_map]
    have : (t.attrs.filter (fun a => !isDecl a.name)).map
        ((fun a => (⟨a.name.pfx, a.name.loc⟩ : RName)) ∘ (fun a => (⟨resolveAttrName env a.name, a.value⟩ : Attr))) =
        (t.attrs.filter (fun a => !isDecl a.name)).map (·.name) := by
      apply List.map_congr_left
      intro a _
      simp only [Function.comp]
      obtain ⟨e1, e2⟩ := resolveAttrName_pfx env a.name
      rw [e1, e2]
    rw [this]
    exact List.Nodup.sublist (List.Sublist.map _ List.filter_sublist) ht.nodup
  · unfold resolveAttrs; exact (dedup_expanded [] _).1
  · intro x hx y hy hp hny hnx
    rw [hres x hx hnx, hres y hy hny, hp]

/-! ### the whole resolver -/

theorem closeScopes_sub (ns loc : Str) (scopes scopes' : List Scope) (h : closeScopes ns loc scopes = some scopes') :
    ∀ f ∈ envOf scopes', f ∈ envOf scopes := by
  induction scopes with
  | nil => simp [closeScopes] at h
  | cons sc rest ih =>
    simp only [closeScopes] at h
    split at h
    · injection h with h; subst h
      intro f hf; simp only [envOf, List.map_cons, List.mem_cons]; right; exact hf
    · intro f hf; simp only [envOf, List.map_cons, List.mem_cons]; right; exact ih h f hf

def WhereAll (F : NsFrame → Prop) : Where → Prop
  | .content scopes => ∀ f ∈ envOf scopes, F f
  | _ => True

theorem whereAll_afterClose {F : NsFrame → Prop} (scopes : List Scope) (h : ∀ f ∈ envOf scopes, F f) :
    WhereAll F (afterClose scopes) := by
  cases scopes with
  | nil => trivial
  | cons sc rest => exact h

/-- induction over `S.resolve`: if resolving a start / empty tag with property `T` in scopes whose frames
satisfy `F` gives an element with property `P` and a frame with property `F`, every created element has `P` -/
theorem resolve_all {F : NsFrame → Prop} {T : Tag → Prop} {P : Created → Prop}
    (htag : ∀ scopes t, (∀ f ∈ envOf scopes, F f) → T t → (t.kind = .start ∨ t.kind = .empty) →
      P (resolveTag scopes t) ∧ F (frameOf t.attrs))
    (toks : List Token) : ∀ (w : Where), WhereAll F w →
    (∀ t ∈ toks, ∀ tg, t = .tag tg → T tg) → ∀ c ∈ resolve w toks, P c := by
  induction toks with
  | nil => intro w _ _ c hc; simp [resolve] at hc
  | cons tok rest ih =>
    intro w hw hts c hc
    have hrest : ∀ t ∈ rest, ∀ tg, t = .tag tg → T tg := fun t ht => hts t (by simp [ht])
    have hnil : ∀ f ∈ envOf [], F f := by intro f hf; simp [envOf] at hf
    match w, hw with
    | .epilog, _ => simp only [resolve] at hc; exact ih .epilog trivial hrest c hc
    | .prolog, _ =>
      match tok, hts tok (by simp) with
      | .tag ⟨.start, n, as⟩, htok =>
        obtain ⟨g1, g2⟩ := htag [] _ hnil (htok _ rfl) (Or.inl rfl)
        simp only [resolve, List.mem_cons] at hc
        rcases hc with rfl | hc
        · exact g1
        · refine ih _ ?_ hrest c hc
          intro f hf
          simp only [envOf, scopeOf, List.map_cons, List.map_nil, List.mem_singleton] at hf
          subst hf; exact g2
      | .tag ⟨.empty, n, as⟩, htok =>
        obtain ⟨g1, _⟩ := htag [] _ hnil (htok _ rfl) (Or.inr rfl)
        simp only [resolve, List.mem_cons] at hc
        rcases hc with rfl | hc
        · exact g1
        · exact ih .epilog trivial hrest c hc
      | .tag ⟨.end_, n, as⟩, _ | .tag ⟨.short, n, as⟩, _ =>
        simp only [resolve] at hc; exact ih .prolog trivial hrest c hc
      | .eof, _ => simp only [resolve] at hc; exact ih .epilog trivial hrest c hc
      | .doctype _ _ _, _ | .comment _, _ | .chars _, _ | .pi _ _, _ | .nullChar, _ =>
        simp only [resolve] at hc; exact ih .prolog trivial hrest c hc
    | .content scopes, hw =>
      have hw' : ∀ f ∈ envOf scopes, F f := hw
      match tok, hts tok (by simp) with
      | .tag ⟨.start, n, as⟩, htok =>
        obtain ⟨g1, g2⟩ := htag scopes _ hw' (htok _ rfl) (Or.inl rfl)
        simp only [resolve, List.mem_cons] at hc
        rcases hc with rfl | hc
        · exact g1
        · refine ih _ ?_ hrest c hc
          intro f hf
          simp only [envOf, scopeOf, List.map_cons, List.mem_cons] at hf
          rcases hf with rfl | hf
          · exact g2
          · exact hw' f hf
      | .tag ⟨.empty, n, as⟩, htok =>
        obtain ⟨g1, _⟩ := htag scopes _ hw' (htok _ rfl) (Or.inr rfl)
        simp only [resolve, List.mem_cons] at hc
        rcases hc with rfl | hc
        · exact g1
        · exact ih _ hw hrest c hc
      | .tag ⟨.end_, n, as⟩, _ =>
        simp only [resolve] at hc
        split at hc
        · rename_i scopes' hcl
          exact ih _ (whereAll_afterClose scopes' (fun f hf => hw' f (closeScopes_sub _ _ _ _ hcl f hf))) hrest c hc
        · exact ih _ hw hrest c hc
      | .tag ⟨.short, n, as⟩, _ =>
        simp only [resolve] at hc
        refine ih _ (whereAll_afterClose _ ?_) hrest c hc
        intro f hf
        cases scopes with
        | nil => simp [envOf] at hf
        | cons sc r => exact hw' f (by simp only [envOf, List.map_cons, List.mem_cons]; right; exact hf)
      | .eof, _ | .nullChar, _ => simp only [resolve] at hc; exact ih .epilog trivial hrest c hc
      | .doctype _ _ _, _ | .comment _, _ | .chars _, _ | .pi _ _, _ =>
        simp only [resolve] at hc; exact ih _ hw hrest c hc

/-- **every element `S.resolve` creates from tokenizer-shaped tokens is a `TagOKW` tag** -/
theorem resolve_ok (toks : List Token) (hts : ∀ t ∈ toks, TokShape t) :
    ∀ c ∈ resolve .prolog toks, TagOKW c.name c.attrs :=
  resolve_all (F := FrameOK) (T := TagShape) (P := fun c => TagOKW c.name c.attrs)
    (fun scopes t hs ht hk => ⟨resolveTag_ok scopes hs t ht hk, frameOf_ok _⟩) toks .prolog trivial
    (fun t ht tg e => by subst e; exact hts _ ht)

/-! ### from the element list to `treesOKW` -/

mutual
theorem treeOKW_of_elems : ∀ (nd : Node), (∀ c ∈ elemsOf nd, TagOKW c.name c.attrs) → treeOKW nd
  | .elem n as ks, h => by
    simp only [treeOKW]
    exact ⟨h ⟨n, as⟩ (by simp [elemsOf]), treesOKW_of_elems ks (fun c hc => h c (by simp [elemsOf, hc]))⟩
  | .text _, _ | .comment _, _ | .pi _ _, _ | .doctype _ _ _, _ => trivial
theorem treesOKW_of_elems : ∀ (ns : List Node), (∀ c ∈ elemsOfL ns, TagOKW c.name c.attrs) → treesOKW ns
  | [], _ => trivial
  | n :: rest, h => by
    simp only [treesOKW]
    exact ⟨treeOKW_of_elems n (fun c hc => h c (by simp [elemsOfL, hc])),
      treesOKW_of_elems rest (fun c hc => h c (by simp [elemsOfL, hc]))⟩
end

/-! ### the tag the tokenizer step builds has `TagShape` -/

theorem foldl_shape (l : List RawAttr) (acc : List RAttr)
    (hacc : ∀ y ∈ acc, ∃ raw, raw ≠ [] ∧ y.name = splitQName raw) :
    ∀ y ∈ l.foldl (finishAttribute TokCfg.fixed) acc, ∃ raw, raw ≠ [] ∧ y.name = splitQName raw := by
  induction l generalizing acc with
  | nil => exact hacc
  | cons a rest ih =>
    apply ih
    intro y hy
    unfold finishAttribute at hy
    split at hy
    · exact hacc y hy
    · rename_i hne
      split at hy
      · exact hacc y hy
      · rcases (mem_pushAttr _ _ _ _).mp hy with rfl | hy
        · exact ⟨a.name, hne, rfl⟩
        · exact hacc y hy

theorem finishTag_shape (t : RawTag) (h : (t.kind = .start ∨ t.kind = .empty) → t.name ≠ []) :
    TagShape (finishTag TokCfg.fixed t) :=
  ⟨fun hk => ⟨t.name, rfl, h hk⟩, foldl_shape t.attrs [] (by simp), C16_tok_no_dup_qname_fixed t.attrs⟩

end H5V.Lemmas.XmlShape
