import H5V.Lemmas.HtmlTBSkelInv
/-!
C06 (skeleton invariant): the helper algorithms of `tree_builder/mod.rs` that make no
mutating sink call are `Quiet` (stack inspection, scope tests, popping, the list of active
formatting elements, reset-the-insertion-mode, `is_foreign`, …).
-/
namespace H5V.Props.C06
open H5V.Model.Dom hiding Str
open H5V.Model.HtmlTB hiding Str
open H5V.Lemmas.Dom

theorem getS_bind {β : Type} (f : State → M β) (s : State) : (getS >>= f) s = f s s := rfl

/-! ### state updates -/


theorem qrel_oe {s : State} {l : List Id} (h : l.Sublist s.openElems) : QRel s { s with openElems := l } :=
  ⟨SameSk.refl _, h, rfl, rfl, rfl, rfl, rfl, fun _ _ h => h, Or.inl rfl, fun h => h⟩

theorem qrel_af {s : State} {af : List FormatEntry}
    (h : ∀ x t, FormatEntry.element x t ∈ af → FormatEntry.element x t ∈ s.activeFormatting) :
    QRel s { s with activeFormatting := af } :=
  ⟨SameSk.refl _, List.Sublist.refl _, rfl, rfl, rfl, rfl, rfl, h, Or.inl rfl, fun h => h⟩

instance (m : Mode) [h : LateMode m] : Quiet (setMode m) :=
  quiet_modS fun s hml =>
    ⟨⟨SameSk.refl _, List.Sublist.refl _, rfl, rfl, rfl, rfl, rfl, fun _ _ h => h, Or.inl rfl, fun h => h⟩,
     ⟨h.h, hml.orig, hml.tm⟩⟩

theorem quiet_setMode (m : Mode) (h : isLate m = true) : Quiet (setMode m) :=
  haveI : LateMode m := ⟨h⟩; inferInstance

instance : Quiet (setFramesetOk false) :=
  quiet_modS fun s hml =>
    ⟨⟨SameSk.refl _, List.Sublist.refl _, rfl, rfl, rfl, rfl, rfl, fun _ _ h => h, Or.inl rfl,
      fun h => by cases h⟩, ml_same hml rfl rfl rfl⟩

instance : Quiet pushMarker :=
  quiet_modS fun s hml =>
    ⟨qrel_af (by intro x t h; simpa using h), ml_same hml rfl rfl rfl⟩

instance : Quiet clearActiveFormattingToMarker :=
  quiet_modS fun s hml => by
    refine ⟨qrel_af ?_, ml_same hml rfl rfl rfl⟩
    have key : ∀ (l : List FormatEntry) x t, FormatEntry.element x t ∈ clearToMarkerRev l → FormatEntry.element x t ∈ l := by
      intro l
      induction l with
      | nil => intro x t h; simp [clearToMarkerRev] at h
      | cons e rest ih =>
        intro x t h
        cases e with
        | marker => simp only [clearToMarkerRev] at h; exact List.mem_cons_of_mem _ h
        | element y u => simp only [clearToMarkerRev] at h; exact List.mem_cons_of_mem _ (ih x t h)
    intro x t h
    have := key _ x t (List.mem_reverse.mp h)
    exact List.mem_reverse.mp this

instance (m : Mode) [h : LateMode m] : Quiet (setTemplateMode m) :=
  quiet_modS fun s hml =>
    ⟨⟨SameSk.refl _, List.Sublist.refl _, rfl, rfl, rfl, rfl, rfl, fun _ _ h => h, Or.inl rfl, fun h => h⟩,
     ⟨hml.mode, hml.orig, by
        intro m' hm'
        simp only [List.mem_append, List.mem_singleton] at hm'
        rcases hm' with hm' | rfl
        · exact hml.tm m' ((List.dropLast_sublist _).subset hm')
        · exact h.h⟩⟩

/-! ### accessors -/

instance (h : Id) (n : Str) : Quiet (htmlElemNamedS h n) := by unfold htmlElemNamedS; tb_walk
instance (h : Id) (n : String) : Quiet (htmlElemNamed h n) := by unfold htmlElemNamed; infer_instance
instance (h : Id) (set : EName → Bool) : Quiet (elemIn h set) := by unfold elemIn; tb_walk
instance : Quiet currentNode := by unfold currentNode; tb_walk
instance : Quiet adjustedCurrentNode := by unfold adjustedCurrentNode; tb_walk
instance (set : EName → Bool) : Quiet (currentNodeIn set) := by unfold currentNodeIn; tb_walk
instance (n : Str) : Quiet (currentNodeNamedS n) := by unfold currentNodeNamedS; tb_walk
instance (n : String) : Quiet (currentNodeNamed n) := by unfold currentNodeNamed; infer_instance
instance : Quiet htmlElem := by unfold htmlElem; tb_walk
instance : Quiet htmlElemFn := by unfold htmlElemFn; tb_walk
instance : Quiet isFragment := by unfold isFragment; tb_walk
instance : Quiet pendingTableTextEmpty := by unfold pendingTableTextEmpty; tb_walk

instance : Quiet pop := by
  constructor
  intro s0 a s' hml e2
  unfold pop at e2
  rw [getS_bind] at e2
  cases hl : s0.openElems.getLast? with
  | none => simp only [hl] at e2; exact absurd e2 panicAt_ok
  | some x =>
    simp only [hl] at e2
    obtain ⟨u, s2, e3, e4⟩ := bind_ok.mp e2
    rw [set_ok.mp e3] at e4
    have hq : Quiet (sinkUnit (.pop x) >>= fun _ => (Pure.pure x : M Id)) := inferInstance
    have hml2 : ML { s0 with openElems := s0.openElems.dropLast } := ml_same hml rfl rfl rfl
    obtain ⟨q, m⟩ := hq.q _ _ _ hml2 e4
    exact ⟨(qrel_oe (List.dropLast_sublist _)).trans q, m⟩

instance : Quiet popSilently := by
  constructor
  intro s0 a s' hml e2
  unfold popSilently at e2
  rw [getS_bind] at e2
  cases hl : s0.openElems.getLast? with
  | none => simp only [hl] at e2; obtain ⟨_, rfl⟩ := pure_ok.mp e2; exact ⟨QRel.refl _, hml⟩
  | some x =>
    simp only [hl] at e2
    obtain ⟨u, s2, e3, e4⟩ := bind_ok.mp e2
    rw [set_ok.mp e3] at e4
    obtain ⟨_, rfl⟩ := pure_ok.mp e4
    exact ⟨qrel_oe (List.dropLast_sublist _), ml_same hml rfl rfl rfl⟩

instance : Quiet unexpected := by unfold unexpected; tb_walk

instance (m : QuirksMode) : Quiet (setQuirksMode m) := by
  unfold setQuirksMode
  refine Quiet.bind (quiet_modS fun s hml => ?_) (fun _ => inferInstance)
  exact ⟨⟨SameSk.refl _, List.Sublist.refl _, rfl, rfl, rfl, rfl, rfl, fun _ _ h => h, Or.inl rfl, fun h => h⟩,
    ml_same hml rfl rfl rfl⟩

instance : Quiet (modS fun s => { s with origMode := some s.mode, mode := .text }) :=
  quiet_modS fun s hml =>
    ⟨⟨SameSk.refl _, List.Sublist.refl _, rfl, rfl, rfl, rfl, rfl, fun _ _ h => h, Or.inl rfl, fun h => h⟩,
     ⟨rfl, by intro m hm; cases hm; exact hml.mode, hml.tm⟩⟩
instance (k : H5V.Model.HtmlTok.RawKind) : Quiet (toRawTextMode k) := by unfold toRawTextMode; infer_instance

/-! ### insertion point (queries only) -/

theorem quiet_fosterLoop : ∀ (l : List Id), Quiet (fosterLoop l)
  | [] => by unfold fosterLoop; tb_walk
  | e :: rest => by
    haveI := quiet_fosterLoop rest
    unfold fosterLoop; tb_walk
instance (l : List Id) : Quiet (fosterLoop l) := quiet_fosterLoop l

instance (o : Option Id) : Quiet (appropriatePlaceForInsertion o) := by
  unfold appropriatePlaceForInsertion; tb_walk

theorem quiet_anyHtmlElemNamed (n : String) : ∀ (l : List Id), Quiet (anyHtmlElemNamed n l)
  | [] => by unfold anyHtmlElemNamed; tb_walk
  | e :: rest => by
    haveI := quiet_anyHtmlElemNamed n rest
    unfold anyHtmlElemNamed; tb_walk
instance (n : String) (l : List Id) : Quiet (anyHtmlElemNamed n l) := quiet_anyHtmlElemNamed n l

instance (n : String) : Quiet (inHtmlElemNamed n) := by unfold inHtmlElemNamed; tb_walk

/-! ### scope, implied end tags, popping -/

theorem quiet_inScopeLoop (scope : EName → Bool) (pred : Id → M Bool) (hp : ∀ n, Quiet (pred n)) :
    ∀ (l : List Id), Quiet (inScopeLoop scope pred l)
  | [] => by unfold inScopeLoop; tb_walk
  | e :: rest => by
    haveI := quiet_inScopeLoop scope pred hp rest
    unfold inScopeLoop; tb_walk
instance (scope : EName → Bool) (pred : Id → M Bool) [hp : ∀ n, Quiet (pred n)] (l : List Id) :
    Quiet (inScopeLoop scope pred l) := quiet_inScopeLoop scope pred hp l

instance (scope : EName → Bool) (pred : Id → M Bool) [∀ n, Quiet (pred n)] : Quiet (inScope scope pred) := by
  unfold inScope; tb_walk
instance (scope : EName → Bool) (n : Str) : Quiet (inScopeNamedS scope n) := by unfold inScopeNamedS; infer_instance
instance (scope : EName → Bool) (n : String) : Quiet (inScopeNamed scope n) := by unfold inScopeNamed; infer_instance

theorem quiet_generateImpliedEndTagsLoop (set : EName → Bool) : ∀ (fuel : Nat), Quiet (generateImpliedEndTagsLoop set fuel)
  | 0 => by unfold generateImpliedEndTagsLoop; tb_walk
  | n + 1 => by
    haveI := quiet_generateImpliedEndTagsLoop set n
    unfold generateImpliedEndTagsLoop; tb_walk
instance (set : EName → Bool) (fuel : Nat) : Quiet (generateImpliedEndTagsLoop set fuel) :=
  quiet_generateImpliedEndTagsLoop set fuel
instance (set : EName → Bool) : Quiet (generateImpliedEndTags set) := by unfold generateImpliedEndTags; tb_walk
instance (e : Str) : Quiet (generateImpliedEndExcept e) := by unfold generateImpliedEndExcept; infer_instance

theorem quiet_popUntilCurrentLoop (set : EName → Bool) : ∀ (fuel : Nat), Quiet (popUntilCurrentLoop set fuel)
  | 0 => by unfold popUntilCurrentLoop; tb_walk
  | n + 1 => by
    haveI := quiet_popUntilCurrentLoop set n
    unfold popUntilCurrentLoop; tb_walk
instance (set : EName → Bool) (fuel : Nat) : Quiet (popUntilCurrentLoop set fuel) := quiet_popUntilCurrentLoop set fuel
instance (set : EName → Bool) : Quiet (popUntilCurrent set) := by unfold popUntilCurrent; tb_walk

theorem quiet_popUntilLoop (pred : EName → Bool) : ∀ (fuel n : Nat), Quiet (popUntilLoop pred fuel n)
  | 0, _ => by unfold popUntilLoop; tb_walk
  | f + 1, n => by
    haveI := fun k => quiet_popUntilLoop pred f k
    unfold popUntilLoop; tb_walk
instance (pred : EName → Bool) (fuel n : Nat) : Quiet (popUntilLoop pred fuel n) := quiet_popUntilLoop pred fuel n
instance (pred : EName → Bool) : Quiet (popUntil pred) := by unfold popUntil; tb_walk
instance (n : Str) : Quiet (popUntilNamedS n) := by unfold popUntilNamedS; infer_instance
instance (n : String) : Quiet (popUntilNamed n) := by unfold popUntilNamed; infer_instance
instance (n : Str) : Quiet (expectToCloseS n) := by unfold expectToCloseS; tb_walk
instance (n : String) : Quiet (expectToClose n) := by unfold expectToClose; infer_instance
instance : Quiet closePElement := by unfold closePElement; tb_walk
instance : Quiet closePElementInButtonScope := by unfold closePElementInButtonScope; tb_walk

theorem quiet_checkBodyEndLoop : ∀ (l : List Id), Quiet (checkBodyEndLoop l)
  | [] => by unfold checkBodyEndLoop; tb_walk
  | e :: rest => by
    haveI := quiet_checkBodyEndLoop rest
    unfold checkBodyEndLoop; tb_walk
instance (l : List Id) : Quiet (checkBodyEndLoop l) := quiet_checkBodyEndLoop l
instance : Quiet checkBodyEnd := by unfold checkBodyEnd; tb_walk
instance : Quiet bodyElem := by unfold bodyElem; tb_walk

theorem quiet_rpositionLoop (p : Id → M Bool) (hp : ∀ n, Quiet (p n)) :
    ∀ (l : List Id) (len : Nat), Quiet (rpositionLoop p l len)
  | [], _ => by unfold rpositionLoop; tb_walk
  | e :: rest, len => by
    haveI := fun k => quiet_rpositionLoop p hp rest k
    unfold rpositionLoop; tb_walk
instance (p : Id → M Bool) [hp : ∀ n, Quiet (p n)] (l : List Id) (len : Nat) : Quiet (rpositionLoop p l len) :=
  quiet_rpositionLoop p hp l len
instance (p : Id → M Bool) [∀ n, Quiet (p n)] : Quiet (rposition p) := by unfold rposition; tb_walk

theorem quiet_modS_oe (f : List Id → List Id) (hf : ∀ l, (f l).Sublist l) :
    Quiet (modS fun s => { s with openElems := f s.openElems }) :=
  quiet_modS fun s hml => ⟨qrel_oe (hf _), ml_same hml rfl rfl rfl⟩

theorem eraseIdx_sublist' (l : List Id) (i : Nat) : (l.eraseIdx i).Sublist l := List.eraseIdx_sublist l i

instance (k : Nat) : Quiet (modS fun s => { s with openElems := s.openElems.take k }) :=
  quiet_modS_oe (fun l => l.take k) (fun l => List.take_sublist _ l)
instance (k : Nat) : Quiet (modS fun s => { s with openElems := s.openElems.eraseIdx k }) :=
  quiet_modS_oe (fun l => l.eraseIdx k) (fun l => List.eraseIdx_sublist l _)

instance (e : Id) : Quiet (removeFromStack e) := by
  unfold removeFromStack
  tb_walk

/-! ### the list of active formatting elements -/

theorem quiet_positionInAFLoop (e : Id) : ∀ (l : List FormatEntry) (i : Nat), Quiet (positionInAFLoop e l i)
  | [], _ => by unfold positionInAFLoop; tb_walk
  | .marker :: rest, i => by
    unfold positionInAFLoop; exact quiet_positionInAFLoop e rest (i + 1)
  | .element h t :: rest, i => by
    haveI := fun k => quiet_positionInAFLoop e rest k
    unfold positionInAFLoop; tb_walk
instance (e : Id) (l : List FormatEntry) (i : Nat) : Quiet (positionInAFLoop e l i) := quiet_positionInAFLoop e l i
instance (e : Id) : Quiet (positionInActiveFormatting e) := by unfold positionInActiveFormatting; tb_walk

theorem mem_eraseIdx {α : Type} {l : List α} {i : Nat} {x : α} (h : x ∈ l.eraseIdx i) : x ∈ l :=
  (List.eraseIdx_sublist l i).subset h

instance (i : Nat) (site : String) : Quiet (afRemove i site) := by
  constructor
  intro s0 a s' hml e
  unfold afRemove at e
  rw [getS_bind] at e
  by_cases hi : i < s0.activeFormatting.length
  · simp only [hi, if_true] at e
    unfold setAF at e
    rw [modS_ok.mp e]
    exact ⟨qrel_af (fun x t h => mem_eraseIdx h), ml_same hml rfl rfl rfl⟩
  · simp only [hi, if_false] at e
    exact absurd e panicAt_ok

theorem quiet_anySameNodeRev (n : Id) : ∀ (l : List Id), Quiet (anySameNodeRev n l)
  | [] => by unfold anySameNodeRev; tb_walk
  | e :: rest => by
    haveI := quiet_anySameNodeRev n rest
    unfold anySameNodeRev; tb_walk
instance (n : Id) (l : List Id) : Quiet (anySameNodeRev n l) := quiet_anySameNodeRev n l
instance (e : FormatEntry) : Quiet (isMarkerOrOpen e) := by
  cases e <;> (unfold isMarkerOrOpen; tb_walk)

theorem quiet_reconstructRewind : ∀ (i : Nat), Quiet (reconstructRewind i)
  | 0 => by unfold reconstructRewind; tb_walk
  | n + 1 => by
    haveI := quiet_reconstructRewind n
    unfold reconstructRewind; tb_walk
instance (i : Nat) : Quiet (reconstructRewind i) := quiet_reconstructRewind i

/-! ### "any other end tag", searches -/

theorem quiet_endTagSearch (name : Str) : ∀ (l : List Id) (len : Nat), Quiet (endTagSearch name l len)
  | [], _ => by unfold endTagSearch; tb_walk
  | e :: rest, len => by
    haveI := fun k => quiet_endTagSearch name rest k
    unfold endTagSearch; tb_walk
instance (name : Str) (l : List Id) (len : Nat) : Quiet (endTagSearch name l len) := quiet_endTagSearch name l len

instance (tag : Tag) : Quiet (processEndTagInBody tag) := by
  unfold processEndTagInBody
  tb_walk

theorem quiet_findFurthestBlock : ∀ (l : List Id) (i : Nat), Quiet (findFurthestBlock l i)
  | [], _ => by unfold findFurthestBlock; tb_walk
  | e :: rest, i => by
    haveI := fun k => quiet_findFurthestBlock rest k
    unfold findFurthestBlock; tb_walk
instance (l : List Id) (i : Nat) : Quiet (findFurthestBlock l i) := quiet_findFurthestBlock l i

theorem quiet_positionSameNode (x : Id) : ∀ (l : List Id) (i : Nat), Quiet (positionSameNode x l i)
  | [], _ => by unfold positionSameNode; tb_walk
  | e :: rest, i => by
    haveI := fun k => quiet_positionSameNode x rest k
    unfold positionSameNode; tb_walk
instance (x : Id) (l : List Id) (i : Nat) : Quiet (positionSameNode x l i) := quiet_positionSameNode x l i

theorem quiet_findAInAF : ∀ (l : List (Nat × Id × Tag)), Quiet (findAInAF l)
  | [] => by unfold findAInAF; tb_walk
  | (_, n, _) :: rest => by
    haveI := quiet_findAInAF rest
    unfold findAInAF; tb_walk
instance (l : List (Nat × Id × Tag)) : Quiet (findAInAF l) := quiet_findAInAF l

/-! ### reset the insertion mode -/

theorem quiet_resetLoop : ∀ (l : List Id) (len : Nat), Quiet (resetLoop l len)
  | [], _ => by unfold resetLoop; tb_walk
  | e :: rest, len => by
    haveI := fun k => quiet_resetLoop rest k
    unfold resetLoop; tb_walk
instance (l : List Id) (len : Nat) : Quiet (resetLoop l len) := quiet_resetLoop l len
instance : Quiet resetInsertionMode := by unfold resetInsertionMode; tb_walk

instance : Quiet closeTheCell := by unfold closeTheCell; tb_walk

/-! ### foreign content -/

instance (t : Token) : Quiet (isForeign t) := by unfold isForeign; tb_walk

theorem quiet_popToIntegrationPointLoop : ∀ (fuel : Nat), Quiet (popToIntegrationPointLoop fuel)
  | 0 => by unfold popToIntegrationPointLoop; tb_walk
  | n + 1 => by
    haveI := quiet_popToIntegrationPointLoop n
    unfold popToIntegrationPointLoop; tb_walk
instance (fuel : Nat) : Quiet (popToIntegrationPointLoop fuel) := quiet_popToIntegrationPointLoop fuel

/-! ### the answer of reset-the-insertion-mode is a late mode -/

/-- the answer is a late mode -/
structure LateRet (m : M Mode) : Prop where
  h : ∀ s a s', ML s → m s = .ok (a, s') → isLate a = true

theorem LateRet.bind {α : Type} {m : M α} {f : α → M Mode} (h1 : Quiet m) (h2 : ∀ a, LateRet (f a)) :
    LateRet (m >>= f) := by
  constructor
  intro s b s'' hml h
  obtain ⟨a, s', e1, e2⟩ := bind_ok.mp h
  exact (h2 a).h s' b s'' (h1.q s a s' hml e1).2 e2

theorem LateRet.ofGetS {f : State → M Mode} (h : ∀ s, ML s → LateRet (f s)) : LateRet (getS >>= f) := by
  constructor
  intro s b s'' hml e
  rw [getS_bind] at e
  exact (h s hml).h s b s'' hml e

theorem LateRet.pure (m : Mode) (h : isLate m = true) : LateRet (pure m) := by
  constructor
  intro s b s' _ e
  obtain ⟨rfl, _⟩ := pure_ok.mp e
  exact h

theorem LateRet.ite {c : Prop} [Decidable c] {a b : M Mode} (h1 : LateRet a) (h2 : LateRet b) :
    LateRet (if c then a else b) := by
  by_cases hc : c
  · simp only [hc, if_true]; exact h1
  · simp only [hc, if_false]; exact h2

theorem LateRet.throw (e : String) : LateRet (throw e) := ⟨fun _ _ _ _ h => absurd h throw_ok⟩

theorem mem_of_getLast?' {α : Type} {l : List α} {x : α} (h : l.getLast? = some x) : x ∈ l := by
  rw [List.getLast?_eq_some_iff] at h
  obtain ⟨ys, rfl⟩ := h
  simp

theorem lateRet_resetLoop : ∀ (l : List Id) (len : Nat), LateRet (resetLoop l len)
  | [], _ => by unfold resetLoop; exact LateRet.pure _ rfl
  | e :: rest, len => by
    have ih := fun k => lateRet_resetLoop rest k
    unfold resetLoop
    apply LateRet.ofGetS
    intro s hml
    repeat' (first
      | with_reducible apply LateRet.bind inferInstance
      | with_reducible apply LateRet.ite
      | intro _
      | exact ih _
      | exact LateRet.pure _ rfl
      | exact LateRet.throw _
      | split)
    rename_i heq
    exact LateRet.pure _ (hml.tm _ (mem_of_getLast?' heq))

theorem lateRet_resetInsertionMode : LateRet resetInsertionMode := by
  unfold resetInsertionMode
  exact LateRet.bind inferInstance (fun _ => lateRet_resetLoop _ _)

/-- continuing after reset-the-insertion-mode: the continuation may assume a late mode -/
theorem Quiet.resetBind {β : Type} {f : Mode → M β} (h : ∀ m, LateMode m → Quiet (f m)) :
    Quiet (resetInsertionMode >>= f) := by
  constructor
  intro s b s'' hml e
  obtain ⟨a, s', e1, e2⟩ := bind_ok.mp e
  have hq : Quiet resetInsertionMode := inferInstance
  obtain ⟨q1, m1⟩ := hq.q s a s' hml e1
  have hl := lateRet_resetInsertionMode.h s a s' hml e1
  obtain ⟨q2, m2⟩ := (h a ⟨hl⟩).q s' b s'' m1 e2
  exact ⟨q1.trans q2, m2⟩

instance (priority := high) {β : Type} (f : Mode → M β) [h : ∀ m, [LateMode m] → Quiet (f m)] :
    Quiet (resetInsertionMode >>= f) := Quiet.resetBind (fun m hm => @h m hm)

macro_rules
  | `(tactic| tb_step) => `(tactic| with_reducible apply Quiet.resetBind)

end H5V.Props.C06
