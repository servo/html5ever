import H5V.Lemmas.XmlTokResume
/-!
`step_resume` (all reading kinds assembled), the `Good` invariant and its preservation, and what the
tables, the reader and the character-reference sub-tokenizer leave alone (XML tokenizer model).
-/
namespace H5V.Model.XmlTok

def isEatState (s : State) : Bool := s == .markupDecl || s == .afterDoctypeName

/-- invariant at step boundaries: text is stashed in `temp_buf` only while a look-ahead state is
waiting for more input, with no character reference in progress and no pending "ignore LF" -/
def Good (m : Mach) : Prop :=
  m.tempBuf = [] ∨ (isEatState m.state = true ∧ m.charRef = none ∧ m.ignoreLf = false)

theorem Good.eatOk {m : Mach} (hg : Good m) : EatOk m := by
  intro hil
  rcases hg with h | ⟨_, _, h⟩
  · exact h
  · rw [h] at hil; cases hil

theorem Good.of_tempBuf {m : Mach} (h : m.tempBuf = []) : Good m := Or.inl h

theorem Good.tempBuf_of_not_eat {m : Mach} (hg : Good m) (h : isEatState m.state = false) : m.tempBuf = [] := by
  rcases hg with h' | ⟨h', _, _⟩
  · exact h'
  · rw [h] at h'; cases h'

theorem Good.tempBuf_of_charRef {m : Mach} (hg : Good m) {cr : CharRefSt} (h : m.charRef = some cr) :
    m.tempBuf = [] := by
  rcases hg with h' | ⟨_, h', _⟩
  · exact h'
  · rw [h] at h'; cases h'

theorem readKind_md {s : State} (h : readKind s = .eatMd) : s = .markupDecl := by
  cases s <;> simp [readKind] at h ⊢
theorem readKind_adn {s : State} (h : readKind s = .eatAdn) : s = .afterDoctypeName := by
  cases s <;> simp [readKind] at h ⊢
theorem not_eat_of_getChar {s : State} (h : readKind s = .getChar) : isEatState s = false := by
  cases s <;> simp [readKind, isEatState] at h ⊢
theorem not_eat_of_popExcept {s : State} (h : readKind s = .popExcept) : isEatState s = false := by
  cases s <;> simp [readKind, isEatState] at h ⊢

/-! ### step by reading kind -/

theorem step_kind_md (o : Opts) (m : Mach) (inp : Str)
    (hcr : m.charRef = none) (hrk : readKind m.state = .eatMd) : step o m inp = stepMd o m inp := by
  unfold step; simp only [hcr, hrk]
theorem step_kind_adn (o : Opts) (m : Mach) (inp : Str)
    (hcr : m.charRef = none) (hrk : readKind m.state = .eatAdn) : step o m inp = stepAdn o m inp := by
  unfold step; simp only [hcr, hrk]
theorem step_kind_charRef (o : Opts) (m : Mach) (inp : Str) (cr : CharRefSt)
    (hcr : m.charRef = some cr) : step o m inp = stepCharRef o m inp cr := by
  unfold step; simp only [hcr]

theorem step_getChar (o : Opts) (m : Mach) (inp : Str)
    (hcr : m.charRef = none) (hrk : readKind m.state = .getChar) :
    step o m inp = contChar o (getChar o m inp) := by
  cases hp : getChar o m inp with
  | mk a b =>
    obtain ⟨m1, i1⟩ := b
    cases a <;> simp [step, contChar, hcr, hrk, hp]

/-- the five ways a step goes: a pending character reference, or else the reading kind of the state -/
theorem step_cases {Post : R → Prop} (o : Opts) (m : Mach) (inp : Str)
    (hc : ∀ cr, m.charRef = some cr → Post (stepCharRef o m inp cr))
    (hg : m.charRef = none → readKind m.state = .getChar → Post (contChar o (getChar o m inp)))
    (hp : m.charRef = none → readKind m.state = .popExcept →
      Post (contSet (popExceptFrom o (setOf m.state) m inp)))
    (hm : m.charRef = none → m.state = .markupDecl → Post (stepMd o m inp))
    (ha : m.charRef = none → m.state = .afterDoctypeName → Post (stepAdn o m inp)) :
    Post (step o m inp) := by
  cases hcr : m.charRef with
  | some cr => rw [step_kind_charRef o m inp cr hcr]; exact hc cr hcr
  | none =>
    cases hrk : readKind m.state with
    | getChar => rw [step_getChar o m inp hcr hrk]; exact hg hcr hrk
    | popExcept => rw [step_popExcept o m inp hcr hrk]; exact hp hcr hrk
    | eatMd => rw [step_kind_md o m inp hcr hrk]; exact hm hcr (readKind_md hrk)
    | eatAdn => rw [step_kind_adn o m inp hcr hrk]; exact ha hcr (readKind_adn hrk)

theorem good_setIgnoreLf_false {m : Mach} (hg : Good m) : Good (m.setIgnoreLf false) := by
  rcases hg with h | ⟨h1, h2, _⟩
  · exact Or.inl (by simpa using h)
  · exact Or.inr ⟨by simpa using h1, by simpa using h2, by simp⟩

theorem good_of_eatOk {m : Mach} (hok : EatOk m) (hs : isEatState m.state = true) (hc : m.charRef = none) :
    Good m := by
  by_cases ht : m.tempBuf = []
  · exact Or.inl ht
  · refine Or.inr ⟨hs, hc, ?_⟩
    cases hil : m.ignoreLf with
    | false => rfl
    | true => exact absurd (hok hil) ht

/-- a read that found nothing (or only the LF of a CRLF) keeps `Good` -/
theorem good_of_read_none {m m1 : Mach} {inp : Str} (hg : Good m) (hat : m.atEof = false)
    (h3 : (inp = [] ∧ m1 = m) ∨ (inp = ['\n'] ∧ m.ignoreLf = true ∧ m1 = m.setIgnoreLf false)) :
    Good m1 ∧ m1.atEof = false := by
  rcases h3 with ⟨_, h4⟩ | ⟨_, _, h4⟩ <;> subst h4
  · exact ⟨hg, hat⟩
  · exact ⟨good_setIgnoreLf_false hg, hat⟩

/-- **`step` is resumable.** If a step asks for more input it has consumed everything available;
re-executing it from the suspended machine once `e` has arrived gives the same result as the step
on the concatenated input, up to a dead `current_char`; the invariant survives. -/
theorem step_resume (o : Opts) (m m' : Mach) (inp inp' e : Str)
    (hg : Good m) (hat : m.atEof = false)
    (h : step o m inp = .suspend m' inp') :
    inp' = [] ∧ RSim (step o m (inp ++ e)) (step o m' e) ∧ Good m' ∧ m'.atEof = false := by
  cases hcr : m.charRef with
  | some cr =>
    rw [step_kind_charRef o m inp cr hcr] at h
    obtain ⟨h1, h2, h3, h4, h5, h6, _⟩ := resume_charRef o m m' inp inp' e cr hcr h
    refine ⟨h1, RSim.of_eq h2.symm, Or.inl ?_, by rw [h6, hat]⟩
    rw [h5]; exact hg.tempBuf_of_charRef hcr
  | none =>
    cases hrk : readKind m.state with
    | getChar =>
      rw [step_getChar o m inp hcr hrk] at h
      cases hgc : getChar o m inp with
      | mk c r =>
        obtain ⟨m1, i1⟩ := r
        rw [hgc] at h
        cases c with
        | some c => simp only [contChar, ofSig] at h; split at h <;> simp at h
        | none =>
          simp only [contChar, R.suspend.injEq] at h
          obtain ⟨h4, h5⟩ := h
          subst h4 h5
          obtain ⟨hi, hre⟩ := resume_getChar o m m1 inp i1 e hcr hrk hgc
          obtain ⟨_, _, h3⟩ := getChar_none o m m1 inp i1 hgc
          exact ⟨hi, RSim.of_eq hre.symm, good_of_read_none hg hat h3⟩
    | popExcept =>
      rw [step_popExcept o m inp hcr hrk] at h
      cases hgc : popExceptFrom o (setOf m.state) m inp with
      | mk c r =>
        obtain ⟨m1, i1⟩ := r
        rw [hgc] at h
        cases c with
        | some c => simp only [contSet, ofSig] at h; split at h <;> simp at h
        | none =>
          simp only [contSet, R.suspend.injEq] at h
          obtain ⟨h4, h5⟩ := h
          subst h4 h5
          obtain ⟨hi, hre⟩ := resume_popExcept o m m1 inp i1 e hcr hrk hgc
          obtain ⟨_, _, h3⟩ := popExceptFrom_none o _ m m1 inp i1 hgc
          exact ⟨hi, hre, good_of_read_none hg hat h3⟩
    | eatMd =>
      rw [step_kind_md o m inp hcr hrk] at h
      have hst := readKind_md hrk
      obtain ⟨hi, hok, hre, hs', hc', ha'⟩ := resume_md o m m' inp inp' e hg.eatOk hat h
      refine ⟨hi, ?_, good_of_eatOk hok (by rw [hs', hst]; rfl) (hc'.trans hcr), ha'.trans hat⟩
      rw [step_kind_md o m _ hcr hrk, step_kind_md o m' e (hc'.trans hcr) (by rw [hs', hrk])]
      exact RSim.of_eq hre.symm
    | eatAdn =>
      rw [step_kind_adn o m inp hcr hrk] at h
      have hst := readKind_adn hrk
      obtain ⟨hi, hok, hre, hs', hc', ha'⟩ := resume_adn o m m' inp inp' e hg.eatOk hat h
      refine ⟨hi, ?_, good_of_eatOk hok (by rw [hs', hst]; rfl) (hc'.trans hcr), ha'.trans hat⟩
      rw [step_kind_adn o m _ hcr hrk, step_kind_adn o m' e (hc'.trans hcr) (by rw [hs', hrk])]
      exact RSim.of_eq hre.symm


/-! ### what the tables and the reader leave alone -/

/-- the registers the `get_char!` table leaves alone -/
def CharFrame (m : Mach) (x : Mach × Sig) : Prop :=
  x.1.tempBuf = m.tempBuf ∧ x.1.atEof = m.atEof ∧ x.1.ignoreLf = m.ignoreLf ∧
  x.1.currentChar = m.currentChar ∧ x.1.discardBom = m.discardBom ∧ x.1.charRef = m.charRef

/-- the registers the `pop_except_from` table leaves alone -/
def SetFrame (m : Mach) (x : Mach × Sig) : Prop :=
  x.1.tempBuf = m.tempBuf ∧ x.1.atEof = m.atEof ∧ x.1.ignoreLf = m.ignoreLf ∧
  x.1.currentChar = m.currentChar ∧ x.1.discardBom = m.discardBom ∧ x.1.reconsume = m.reconsume

theorem transChar_frame (o : Opts) (m : Mach) (c : Char) : CharFrame m (transChar o m c) := by
  unfold transChar
  split <;> (repeat' with_reducible apply ite_ind) <;> simp [CharFrame]

theorem transSet_frame (m : Mach) (r : SetRes) : SetFrame m (transSet m r) := by
  unfold transSet
  split <;> (repeat' with_reducible apply ite_ind) <;> simp [SetFrame]

theorem transChar_tempBuf (o : Opts) (m : Mach) (c : Char) : (transChar o m c).1.tempBuf = m.tempBuf :=
  (transChar_frame o m c).1
theorem transChar_atEof (o : Opts) (m : Mach) (c : Char) : (transChar o m c).1.atEof = m.atEof :=
  (transChar_frame o m c).2.1
theorem transChar_ignoreLf (o : Opts) (m : Mach) (c : Char) : (transChar o m c).1.ignoreLf = m.ignoreLf :=
  (transChar_frame o m c).2.2.1
theorem transChar_currentChar (o : Opts) (m : Mach) (c : Char) :
    (transChar o m c).1.currentChar = m.currentChar :=
  (transChar_frame o m c).2.2.2.1
theorem transChar_discardBom (o : Opts) (m : Mach) (c : Char) :
    (transChar o m c).1.discardBom = m.discardBom :=
  (transChar_frame o m c).2.2.2.2.1
theorem transChar_charRef (o : Opts) (m : Mach) (c : Char) : (transChar o m c).1.charRef = m.charRef :=
  (transChar_frame o m c).2.2.2.2.2

theorem transSet_tempBuf (m : Mach) (r : SetRes) : (transSet m r).1.tempBuf = m.tempBuf :=
  (transSet_frame m r).1
theorem transSet_atEof (m : Mach) (r : SetRes) : (transSet m r).1.atEof = m.atEof :=
  (transSet_frame m r).2.1
theorem transSet_ignoreLf (m : Mach) (r : SetRes) : (transSet m r).1.ignoreLf = m.ignoreLf :=
  (transSet_frame m r).2.2.1
theorem transSet_discardBom (m : Mach) (r : SetRes) : (transSet m r).1.discardBom = m.discardBom :=
  (transSet_frame m r).2.2.2.2.1
theorem transSet_reconsume (m : Mach) (r : SetRes) : (transSet m r).1.reconsume = m.reconsume :=
  (transSet_frame m r).2.2.2.2.2

theorem foldChar_fields (o : Opts) (m : Mach) (c : Char) :
    (foldChar o m c).2.tempBuf = m.tempBuf ∧ (foldChar o m c).2.atEof = m.atEof ∧
    (foldChar o m c).2.state = m.state ∧ (foldChar o m c).2.charRef = m.charRef ∧
    (foldChar o m c).2.reconsume = m.reconsume := by
  unfold foldChar
  generalize hcm : (if c = '\r' then ('\n', m.setIgnoreLf true) else (c, m)) = cm
  have h2 : cm.2.tempBuf = m.tempBuf ∧ cm.2.atEof = m.atEof ∧ cm.2.state = m.state ∧
      cm.2.charRef = m.charRef ∧ cm.2.reconsume = m.reconsume := by
    rw [← hcm]; split <;> simp
  dsimp only
  generalize (if cm.1 = '\x00' then '�' else cm.1) = c'
  split <;> simp [h2]

theorem getChar_fields (o : Opts) (m m1 : Mach) (inp i1 : Str) (c : Option Char)
    (h : getChar o m inp = (c, m1, i1)) :
    m1.tempBuf = m.tempBuf ∧ m1.atEof = m.atEof ∧ m1.state = m.state ∧ m1.charRef = m.charRef := by
  unfold getChar at h
  split at h
  · simp only [Prod.mk.injEq] at h; obtain ⟨_, h2, _⟩ := h; subst h2; simp
  · cases inp with
    | nil => simp only [Prod.mk.injEq] at h; obtain ⟨_, h2, _⟩ := h; subst h2; simp
    | cons x xs =>
      simp only [preprocess] at h
      repeat' split at h
      all_goals
        (simp only [Prod.mk.injEq] at h
         obtain ⟨_, h2, _⟩ := h
         subst h2
         have := foldChar_fields o (m.setIgnoreLf false)
         have := foldChar_fields o m
         simp_all)

theorem popExceptFrom_fields (o : Opts) (S : List Char) (m m1 : Mach) (inp i1 : Str) (r : Option SetRes)
    (h : popExceptFrom o S m inp = (r, m1, i1)) :
    m1.tempBuf = m.tempBuf ∧ m1.atEof = m.atEof ∧ m1.state = m.state ∧ m1.charRef = m.charRef := by
  unfold popExceptFrom at h
  split at h
  · cases hg : getChar o m inp with
    | mk c rest =>
      obtain ⟨m2, i2⟩ := rest
      simp only [hg, Prod.mk.injEq] at h
      obtain ⟨_, h2, _⟩ := h; subst h2
      exact getChar_fields o m m2 inp i2 c hg
  · cases inp with
    | nil => simp only [Prod.mk.injEq] at h; obtain ⟨_, h2, _⟩ := h; subst h2; simp
    | cons x xs =>
      simp only at h
      rename_i hnot
      split at h
      · cases hp : preprocess o m x xs with
        | mk c rest =>
          obtain ⟨m2, i2⟩ := rest
          simp only [hp, Prod.mk.injEq] at h
          obtain ⟨_, h2, _⟩ := h; subst h2
          have hr : m.reconsume = false := by
            cases hrr : m.reconsume with
            | false => rfl
            | true => simp [hrr] at hnot
          have : getChar o m (x :: xs) = (c, m2, i2) := by simp [getChar, hr, hp]
          exact getChar_fields o m m2 _ i2 c this
      · simp only [Prod.mk.injEq] at h; obtain ⟨_, h2, _⟩ := h; subst h2; simp


/-- registers the character-reference sub-tokenizer never touches -/
def Pres (m' m : Mach) : Prop :=
  m'.tempBuf = m.tempBuf ∧ m'.atEof = m.atEof ∧ m'.state = m.state ∧ m'.discardBom = m.discardBom

theorem Pres.refl (m : Mach) : Pres m m := ⟨rfl, rfl, rfl, rfl⟩
theorem Pres.trans {a b c : Mach} (h1 : Pres a b) (h2 : Pres b c) : Pres a c :=
  ⟨h1.1.trans h2.1, h1.2.1.trans h2.2.1, h1.2.2.1.trans h2.2.2.1, h1.2.2.2.trans h2.2.2.2⟩

theorem emit_pres (m : Mach) (t : Token) : Pres (emit m t) m := ⟨rfl, rfl, rfl, rfl⟩
theorem unconsume_pres (m : Mach) (inp buf : Str) : Pres (unconsume m inp buf).1 m := by
  unfold unconsume; split
  · exact ⟨rfl, rfl, rfl, rfl⟩
  · exact Pres.refl _

theorem foldChar_db (o : Opts) (m : Mach) (c : Char) : (foldChar o m c).2.discardBom = m.discardBom := by
  unfold foldChar
  generalize hcm : (if c = '\r' then ('\n', m.setIgnoreLf true) else (c, m)) = cm
  have h2 : cm.2.discardBom = m.discardBom := by rw [← hcm]; split <;> rfl
  dsimp only
  generalize (if cm.1 = '\x00' then '�' else cm.1) = c'
  split <;> exact h2

theorem getChar_db (o : Opts) (m m1 : Mach) (inp i1 : Str) (c : Option Char)
    (h : getChar o m inp = (c, m1, i1)) : m1.discardBom = m.discardBom := by
  unfold getChar at h
  split at h
  · simp only [Prod.mk.injEq] at h; obtain ⟨_, h2, _⟩ := h; subst h2; rfl
  · cases inp with
    | nil => simp only [Prod.mk.injEq] at h; obtain ⟨_, h2, _⟩ := h; subst h2; rfl
    | cons x xs =>
      simp only [preprocess] at h
      repeat' split at h
      all_goals
        (simp only [Prod.mk.injEq] at h
         obtain ⟨_, h2, _⟩ := h
         subst h2
         first | rfl | exact foldChar_db o _ _)

theorem getChar_pres (o : Opts) (m m1 : Mach) (inp i1 : Str) (c : Option Char)
    (h : getChar o m inp = (c, m1, i1)) : Pres m1 m := by
  obtain ⟨a, b, c', _⟩ := getChar_fields o m m1 inp i1 c h
  exact ⟨a, b, c', getChar_db o m m1 inp i1 c h⟩

theorem pres_closed (m0 : Mach) : CRClosed (Pres · m0) :=
  ⟨fun o m inp h => (getChar_pres o m _ inp _ _ rfl).trans h, fun m inp buf h => (unconsume_pres m inp buf).trans h,
   fun m _ h => (emit_pres m _).trans h⟩

theorem crStep_pres (o : Opts) (m : Mach) (inp : Str) (cr : CharRefSt) : (crStep o m inp cr).All (Pres · m) :=
  crStep_inv (pres_closed m) (Pres.refl m) o inp cr

theorem foldl_emitChar_pres (chars : Str) (m : Mach) :
    Pres (chars.foldl emitChar m) m ∧ (chars.foldl emitChar m).charRef = m.charRef := by
  induction chars generalizing m with
  | nil => exact ⟨Pres.refl _, rfl⟩
  | cons c cs ih =>
    have := ih (emitChar m c)
    exact ⟨Pres.trans this.1 ⟨rfl, rfl, rfl, rfl⟩, by rw [List.foldl_cons, this.2]; rfl⟩

theorem foldl_pushValue_pres (chars : Str) (m : Mach) :
    Pres (chars.foldl (fun m c => pushValue c m) m) m ∧
      (chars.foldl (fun m c => pushValue c m) m).charRef = m.charRef := by
  induction chars generalizing m with
  | nil => exact ⟨Pres.refl _, rfl⟩
  | cons c cs ih =>
    have := ih (pushValue c m)
    exact ⟨Pres.trans this.1 ⟨rfl, rfl, rfl, rfl⟩, by rw [List.foldl_cons, this.2]; rfl⟩

theorem processCharRef_pres (m : Mach) (chars : Str) : Pres (processCharRef m chars).1 m := by
  unfold processCharRef
  dsimp only
  split
  · exact (foldl_emitChar_pres _ _).1
  · exact (foldl_emitChar_pres _ _).1
  · exact (foldl_pushValue_pres _ _).1
  · exact Pres.refl _

/-- the machine of a step result, if any -/
def R.mach? : R → Option Mach
  | .cont m _ => some m
  | .suspend m _ => some m
  | .panic _ => none

theorem ofSig_mach (ms : Mach × Sig) (inp : Str) (m' : Mach) (h : (ofSig ms inp).mach? = some m') :
    m' = ms.1 := by
  unfold ofSig at h
  split at h <;> simp [R.mach?] at h
  exact h.symm

theorem setCharRef_pres (m : Mach) (cr : Option CharRefSt) : Pres (m.setCharRef cr) m := ⟨rfl, rfl, rfl, rfl⟩

/-- every keyword continuation of the look-ahead states only moves to another state -/
theorem alts_ctl : ∀ p ∈ mdAlts ++ adnAlts, ∀ x, ∃ s, SameCtl (p.2 x) (to s x) :=
  alts_cases (Q := fun k => ∀ x, ∃ s, SameCtl (k x) (to s x)) (fun _ => ⟨_, SameCtl.refl _⟩)
    fun _ _ => ⟨_, SameCtl.refl _⟩

theorem stepCharRef_pres (o : Opts) (m : Mach) (inp : Str) (cr : CharRefSt) (m' : Mach)
    (h : (stepCharRef o m inp cr).mach? = some m') : Pres m' m := by
  unfold stepCharRef at h
  have hp := crStep_pres o m inp cr
  cases hc : crStep o m inp cr with
  | error x => rw [hc] at h; simp [R.mach?] at h
  | ok v =>
    obtain ⟨m1, i1, cr1, st⟩ := v
    rw [hc] at h hp
    cases st with
    | stuck =>
      simp only [R.mach?, Option.some.injEq] at h; subst h
      exact Pres.trans (setCharRef_pres _ _) hp
    | progress =>
      simp only [R.mach?, Option.some.injEq] at h; subst h
      exact Pres.trans (setCharRef_pres _ _) hp
    | done chars =>
      have := ofSig_mach _ _ _ h
      subst this
      exact Pres.trans (setCharRef_pres _ _) (Pres.trans (processCharRef_pres _ _) hp)


/-! ### the invariant is preserved -/

theorem eat_some_tempBuf (o : Opts) (m m1 : Mach) (inp i1 pat : Str) (b : Bool)
    (h : eat o m inp pat = (some b, m1, i1)) : m1.tempBuf = [] ∧ m1.atEof = m.atEof := by
  rw [eat_eq_core] at h
  unfold eatCore at h
  repeat' split at h
  all_goals
    first
      | (simp at h; done)
      | (simp only [Prod.mk.injEq] at h
         obtain ⟨_, h2, _⟩ := h
         subst h2
         exact ⟨by simp, by simp⟩)

theorem contChar_good (o : Opts) (m : Mach) (inp : Str) (m' : Mach) (ht : m.tempBuf = [])
    (hat : m.atEof = false) (h : (contChar o (getChar o m inp)).mach? = some m') :
    Good m' ∧ m'.atEof = false := by
  cases hgc : getChar o m inp with
  | mk c r =>
    obtain ⟨m1, i1⟩ := r
    rw [hgc] at h
    obtain ⟨f1, f2, _, _⟩ := getChar_fields o m m1 inp i1 c hgc
    cases c with
    | none => cases h; exact ⟨Or.inl (by rw [f1, ht]), by rw [f2, hat]⟩
    | some c =>
      have := ofSig_mach _ _ _ h
      subst this
      exact ⟨Or.inl (by rw [transChar_tempBuf, f1, ht]), by rw [transChar_atEof, f2, hat]⟩

/-- a look-ahead state keeps `Good`: a keyword that needs more input stashes it with the flags `Good`
asks for, every other way out leaves the stash empty -/
theorem eatChain_good (o : Opts) (dflt : Mach → Str → R) (alts : List (Str × (Mach → Mach)))
    (ha : ∀ p ∈ alts, p ∈ mdAlts ++ adnAlts) (hne : alts ≠ []) (m : Mach)
    (hes : isEatState m.state = true) (hcr : m.charRef = none)
    (hd : ∀ x i m', x.tempBuf = [] → x.atEof = false → (dflt x i).mach? = some m' → Good m' ∧ m'.atEof = false)
    (inp : Str) (hg : EatOk m) (hat : m.atEof = false) (m' : Mach)
    (h : (eatChain o dflt alts m inp).mach? = some m') : Good m' ∧ m'.atEof = false := by
  refine eatChain_cases (I := fun x _ => EatOk x ∧ x.atEof = false ∧ x.state = m.state ∧ x.charRef = none)
    (J := fun x _ => x.tempBuf = []) (Post := fun r => ∀ m', r.mach? = some m' → Good m' ∧ m'.atEof = false)
    o dflt alts (fun p _ x i x1 i1 hi he => ?_) (fun p _ x i x1 i1 hi he m' hm => ?_)
    (fun p hp x i x1 i1 hi he m' hm => ?_) (fun x i hi hj m' hm => hd x i m' hj hi.2.1 hm) m inp
    ⟨hg, hat, rfl, hcr⟩ (fun h => absurd h hne) m' h
  · have f := eat_fields o _ _ _ _ _ _ he
    obtain ⟨e1, e2⟩ := eat_some_EatOk o _ _ _ _ _ _ he
    exact ⟨⟨e1, e2.trans hi.2.1, f.1.trans hi.2.2.1, f.2.1.trans hi.2.2.2⟩, (eat_some_tempBuf o _ _ _ _ _ _ he).1⟩
  · cases hm
    have f := eat_fields o _ _ _ _ _ _ he
    obtain ⟨_, e1, e2, _⟩ := eat_none o _ _ _ _ _ hi.1 he
    exact ⟨good_of_eatOk e1 (by rw [f.1, hi.2.2.1]; exact hes) (f.2.1.trans hi.2.2.2), e2.trans hi.2.1⟩
  · cases hm
    obtain ⟨t, a⟩ := eat_some_tempBuf o _ _ _ _ _ _ he
    obtain ⟨s, hc⟩ := alts_ctl p (ha p hp) x1
    exact ⟨Or.inl (hc.2.1.trans t), hc.2.2.2.2.1.trans (a.trans hi.2.1)⟩

/-- **`Good` is an invariant of `step`** (and `at_eof` is not touched) -/
theorem step_good (o : Opts) (m : Mach) (inp : Str) (m' : Mach) (hg : Good m) (hat : m.atEof = false)
    (h : (step o m inp).mach? = some m') : Good m' ∧ m'.atEof = false := by
  revert m'
  refine step_cases (Post := fun r => ∀ m', r.mach? = some m' → Good m' ∧ m'.atEof = false) o m inp
    (fun cr hcr m' h => ?_) (fun _ hrk m' h => ?_) (fun _ hrk m' h => ?_) (fun hcr hst m' h => ?_)
    (fun hcr hst m' h => ?_)
  · obtain ⟨p1, p2, _⟩ := stepCharRef_pres o m inp cr m' h
    exact ⟨Or.inl (by rw [p1]; exact hg.tempBuf_of_charRef hcr), by rw [p2, hat]⟩
  · exact contChar_good o m inp m' (hg.tempBuf_of_not_eat (not_eat_of_getChar hrk)) hat h
  · have ht := hg.tempBuf_of_not_eat (not_eat_of_popExcept hrk)
    cases hgc : popExceptFrom o (setOf m.state) m inp with
    | mk c r =>
      obtain ⟨m1, i1⟩ := r
      rw [hgc] at h
      obtain ⟨f1, f2, _, _⟩ := popExceptFrom_fields o _ m m1 inp i1 c hgc
      cases c with
      | none => cases h; exact ⟨Or.inl (by rw [f1, ht]), by rw [f2, hat]⟩
      | some c =>
        have := ofSig_mach _ _ _ h
        subst this
        exact ⟨Or.inl (by rw [transSet_tempBuf, f1, ht]), by rw [transSet_atEof, f2, hat]⟩
  · exact eatChain_good o _ mdAlts (fun _ => List.mem_append_left _) (List.cons_ne_nil _ _) m
      (by rw [hst]; rfl) hcr
      (fun x i m' ht ha hm => by
        cases hm
        exact ⟨Or.inl ((badChar_fields x o).2.1.trans ht), (badChar_fields x o).2.2.2.2.1.trans ha⟩)
      inp hg.eatOk hat m' h
  · exact eatChain_good o _ adnAlts (fun _ => List.mem_append_right _) (List.cons_ne_nil _ _) m
      (by rw [hst]; rfl) hcr (contChar_good o) inp hg.eatOk hat m' h

end H5V.Model.XmlTok
