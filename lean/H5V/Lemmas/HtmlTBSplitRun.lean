import H5V.Lemmas.HtmlTBSplitRules
import H5V.Props.C06
/-!
C03 lifted to the tree: `process_to_completion`, `process_token` (with possibly different
line numbers on the two sides), token-list runs, `end` and the constructors respect `Sim`.
Everything that reaches the rules takes `hT : InTableTextOK` (see `HtmlTBSplitRules`).
-/
namespace H5V.Lemmas.TBSplit
open H5V.Model.Dom (Id QualName Attr NodeOrText SinkOp Output ElementFlags QuirksMode Dom)
open H5V.Model.HtmlTok (TagKind RawKind)
open H5V.Model.HtmlTB

/-! ### `process_to_completion` -/

theorem dispatch_resp (hT : InTableTextOK) (t : Token) (ht : TokOK t) :
    RespQ (ResOK t) (do
      if ← isForeign t then stepForeign t
      else step (← getS).mode t : M ProcessResult) := by
  have h1 := stepForeign_resp hT t ht
  have h2 := fun m => step_resp hT m t ht
  resp_auto
  all_goals exact h2 _

theorem tokOK_more {more : List Token} (hm : ∀ t' ∈ more, TokOK t') {rest : Str} (hl : rest.length > 0) :
    ∀ t' ∈ more ++ [.chars .notSplit rest], TokOK t' := by
  intro t' ht'
  rcases List.mem_append.mp ht' with h | h
  · exact hm _ h
  · simp only [List.mem_singleton] at h
    subst h
    show rest ≠ []
    intro h0; subst h0; simp at hl

theorem processToCompletion_resp (hT : InTableTextOK) :
    ∀ fuel t more, TokOK t → (∀ t' ∈ more, TokOK t') → Resp (processToCompletion fuel t more)
  | 0, _, _, _, _ => by unfold processToCompletion; resp_auto
  | fuel + 1, t, more, ht, hm => by
    have ih := processToCompletion_resp hT fuel
    unfold processToCompletion
    simp (config := { zeta := true }) only []
    refine respQ_bind (P := fun _ => True) (isForeign_resp t) (fun b _ => ?_)
    refine respQ_ite (fun _ => ?_) (fun _ => ?_)
    · refine respQ_bind (P := ResOK t) (stepForeign_resp hT t ht) ?_
      intro result hres
      cases result <;> dsimp only <;> resp_auto
      all_goals first
        | exact ih _ _ (hm _ (List.mem_cons_self ..)) (fun x hx => hm x (List.mem_cons_of_mem _ hx))
        | exact ih _ _ (H5V.Props.C06.C06_split_run_nonempty (by assumption)) (tokOK_more hm (by assumption))
        | exact ih _ _ (H5V.Props.C06.C06_split_run_nonempty (by assumption)) hm
        | exact ih _ _ (hres.tokOK ht) hm
        | (have h : _ = t := hres; subst h; exact ih _ _ ht hm)
    · refine respQ_getS_bind (fun s _ => respQ_bind (P := ResOK t) (step_resp hT _ t ht) ?_) (by resp_stable)
      intro result hres
      cases result <;> dsimp only <;> resp_auto
      all_goals first
        | exact ih _ _ (hm _ (List.mem_cons_self ..)) (fun x hx => hm x (List.mem_cons_of_mem _ hx))
        | exact ih _ _ (H5V.Props.C06.C06_split_run_nonempty (by assumption)) (tokOK_more hm (by assumption))
        | exact ih _ _ (H5V.Props.C06.C06_split_run_nonempty (by assumption)) hm
        | exact ih _ _ (hres.tokOK ht) hm
        | (have h : _ = t := hres; subst h; exact ih _ _ ht hm)

/-! ### `process_token` -/

/-- the hypothesis about `flush_pending_table_text` (`process_token`, DOCTYPE in "in table text"), discharged
in `HtmlTBSplitFlush` -/
def FlushTextOK : Prop := Resp flushPendingTableText

/-- the first statement of `process_token`: report a new line number to the sink -/
def lineIf (line cur : Nat) : M Unit :=
  if line != cur then sinkUnit (.setCurrentLine line) else pure ()

/-- `process_token` after the line number was handled -/
def processTokenRest (token : TokToken) : M SinkResult := do
  let ignoreLf := (← getS).ignoreLf
  modS fun s => { s with ignoreLf := false }
  let tbToken : Option Token ← match token with
    | .parseError e =>
      sinkUnit (.parseError e)
      modS fun s => { s with ignoreLf := ignoreLf }
      pure none
    | .doctype dt =>
      if (← getS).mode == .initial then
        let (err, quirk) := doctypeErrorAndQuirks dt (← getS).opts.iframeSrcdoc
        if err then parseError "Bad DOCTYPE"
        if !(← getS).opts.dropDoctype then
          sinkUnit (.appendDoctypeToDocument (dt.name.getD []) (dt.publicId.getD []) (dt.systemId.getD []))
        setQuirksMode quirk
        setMode .beforeHtml
        pure none
      else
        if (← getS).mode == .inTableText then
          let m ← flushPendingTableText
          setMode m
        parseError "DOCTYPE in body"
        pure none
    | .tag t => pure (some (.tag t))
    | .comment s => pure (some (.comment s))
    | .nullChar => pure (some .nullChar)
    | .eof => pure (some .eof)
    | .chars x => pure (charsToken ignoreLf x)
  match tbToken with
  | none => pure .continue_
  | some t => processToCompletion (ptcFuel (← getS) t) t []

theorem processToken_apply (token : TokToken) (line : Nat) (s : State) :
    processToken token line s = (lineIf line s.currentLine >>= fun _ => processTokenRest token) s := by
  unfold processToken lineIf
  rw [bind_apply, getS_apply]
  dsimp only
  split <;> rfl

theorem lineIf_apply (l c : Nat) (s : State) :
    ∃ tr, lineIf l c s = .ok ((), upd s tr s.currentLine s.dom.errorsRev s.pendingTableText) := by
  unfold lineIf
  split
  · exact ⟨(.setCurrentLine l, .unit) :: s.traceRev, rfl⟩
  · exact ⟨s.traceRev, by rw [upd_self]; rfl⟩

theorem sim_upd_self {s : State} (h : Sim s s) (tr : List (SinkOp × Output)) :
    Sim s (upd s tr s.currentLine s.dom.errorsRev s.pendingTableText) :=
  sim_upd_of h.inv (PendRel.rfl' h.good.pend)

theorem processTokenRest_resp (hT : InTableTextOK) (hF : FlushTextOK) (token : TokToken) :
    Resp (processTokenRest token) := by
  have hF' : Resp flushPendingTableText := hF
  unfold processTokenRest
  refine respQ_getS_bind (fun s _ => ?_) (by resp_stable)
  simp (config := { zeta := true }) only []
  refine respQ_bind (P := fun _ => True) (by resp_auto) (fun _ _ => ?_)
  cases token <;> dsimp only <;> resp_auto
  all_goals first
    | exact processToCompletion_resp hT _ _ [] trivial (by simp)
    | (rename_i heq _ _
       obtain ⟨y, rfl, hy⟩ := H5V.Props.C06.C06_chars_token_nonempty heq
       exact processToCompletion_resp hT _ _ [] hy (by simp))

theorem processToken_rel (hT : InTableTextOK) (hF : FlushTextOK) (tok : TokToken) (l l' : Nat) :
    ∀ s t, Sim s t → RelR (fun _ => True) (processToken tok l s) (processToken tok l' t) := by
  intro s t hst
  rw [processToken_apply, processToken_apply, bind_apply, bind_apply]
  obtain ⟨tr, h1⟩ := lineIf_apply l s.currentLine s
  obtain ⟨tr', h2⟩ := lineIf_apply l' t.currentLine t
  rw [h1, h2]
  exact processTokenRest_resp hT hF tok _ _
    (((sim_upd_self hst.left tr).symm.trans hst).trans (sim_upd_self hst.right tr'))

/-! ### token-level runs -/

theorem processTokens_rel (hT : InTableTextOK) (hF : FlushTextOK) :
    ∀ (ts ts' : List (TokToken × Nat)), ts.map (·.1) = ts'.map (·.1) →
      ∀ acc s t, Sim s t → RelR (fun _ => True) (processTokens ts acc s) (processTokens ts' acc t)
  | [], [], _, acc, s, t, hst => by
    unfold processTokens
    exact ⟨rfl, trivial, hst⟩
  | [], _ :: _, h, _, _, _, _ => by simp at h
  | _ :: _, [], h, _, _, _, _ => by simp at h
  | (tok, l) :: rest, (tok', l') :: rest', h, acc, s, t, hst => by
    simp only [List.map_cons, List.cons.injEq] at h
    obtain ⟨h1, h2⟩ := h
    subst h1
    unfold processTokens
    refine relR_bind (processToken_rel hT hF tok l l' s t hst) ?_
    intro r s' t' _ hst'
    exact processTokens_rel hT hF rest rest' h2 _ s' t' hst'

/-! ### `end`, the constructors, the CDATA query -/

@[resp]
theorem endLoop_resp : ∀ l, Resp (endLoop l)
  | [] => by unfold endLoop; resp_auto
  | e :: rest => by
    have ih := endLoop_resp rest
    unfold endLoop; resp_auto

theorem finishTB_resp : Resp finishTB := by
  unfold finishTB; resp_auto

theorem adjustedCurrentNodeForeign_resp : Resp adjustedCurrentNodeForeign := by
  unfold adjustedCurrentNodeForeign; resp_auto

theorem newTB_resp : Resp newTB := by
  unfold newTB; resp_auto

theorem newForFragment_resp (c : Id) (f : Option Id) : Resp (newForFragment c f) := by
  unfold newForFragment; resp_auto

theorem tokenizerStateForContextElem_resp (b : Bool) : Resp (tokenizerStateForContextElem b) := by
  unfold tokenizerStateForContextElem; resp_auto

end H5V.Lemmas.TBSplit
