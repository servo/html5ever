import H5V.Lemmas.HtmlTBSkelAdjIns
/-!
C06, third invariant layer (adjacent text): the early states (Initial, BeforeHtml).  Only
comments, a doctype and finally the `html` element are appended to the document; the stack is empty,
so the invariant is `AdjD d []` (no adjacent text siblings, children point to their parents, no
duplicates in child lists).
-/
namespace H5V.Props.C06
open H5V.Model.Dom hiding Str
open H5V.Model.HtmlTB hiding Str
open H5V.Lemmas.Dom

theorem AdjD.new : AdjD Dom.new [] := by
  have hc : ∀ x, Dom.new.childrenOf x = [] := by
    intro x
    cases x with
    | zero => rfl
    | succ n => exact childrenOf_nil_of_ge (by show 1 ≤ n + 1; omega)
  refine ⟨fun P => (by rw [hc]; rfl), fun P e he => (by rw [hc] at he; cases he), fun P => (by rw [hc]; simp),
    fun e he => (by cases he), fun P e _ he => (by cases he), fun T tc e _ _ _ he => (by cases he),
    fun P x y _ hx => (by cases hx)⟩

/-- a parentless node that is neither text nor on the stack is appended to a node -/
theorem AdjD.appendClosed {d d' : Dom} {O : List Id} {p c : Id} (h : AdjD d O) (hne : p ≠ c)
    (hct : d.isText c = false) (hc : c ∉ O) (e : d.append p (.node c) = .ok d') : AdjD d' O := by
  obtain ⟨hcp, h2, h1, h3⟩ := dom_appendNode_eff e hne
  exact h.insertNode_closed (P := p) (a := d.childrenOf p) (b := []) (by simp) (by simpa using h2) h1 h3 hcp hct hc

/-- programs of the early modes keep the early invariant -/
class KA {α : Type} (prog : M α) : Prop where
  p : ∀ s a s', DomBase s.dom → s.docHandle = 0 → AdjD s.dom [] → prog s = .ok (a, s') →
    DomBase s'.dom ∧ s'.docHandle = 0 ∧ AdjD s'.dom []

instance {α : Type} (a : α) : KA (pure a : M α) :=
  ⟨fun s b s' hb hd h e => by obtain ⟨_, rfl⟩ := pure_ok.mp e; exact ⟨hb, hd, h⟩⟩
instance {α β : Type} (m : M α) (f : α → M β) [h1 : KA m] [h2 : ∀ a, KA (f a)] : KA (m >>= f) :=
  ⟨fun s b s'' hb hd h e => by
    obtain ⟨a, s', e1, e2⟩ := bind_ok.mp e
    obtain ⟨a1, a2, a3⟩ := h1.p s a s' hb hd h e1
    exact (h2 a).p s' b s'' a1 a2 a3 e2⟩
instance {α : Type} (c : Prop) [Decidable c] (a b : M α) [h1 : KA a] [h2 : KA b] : KA (if c then a else b) := by
  by_cases hc : c
  · simp only [hc, if_true]; exact h1
  · simp only [hc, if_false]; exact h2
instance {α : Type} (e : String) : KA (throw e : M α) := ⟨fun _ _ _ _ _ _ h => absurd h throw_ok⟩
instance {α : Type} (c f t : String) : KA (panicAt c f t : M α) := ⟨fun _ _ _ _ _ _ h => absurd h panicAt_ok⟩
instance : KA getS := ⟨fun s a s' hb hd h e => by obtain ⟨_, rfl⟩ := getS_ok.mp e; exact ⟨hb, hd, h⟩⟩

theorem ka_of_nodes {α : Type} {prog : M α}
    (hp : ∀ s a s', prog s = .ok (a, s') → s'.dom.nodes = s.dom.nodes ∧ s'.docHandle = s.docHandle) : KA prog :=
  ⟨fun s a s' hb hd h e => by
    obtain ⟨h1, h2⟩ := hp s a s' e
    exact ⟨hb.sameSk (SameSk.of_nodes h1), h2.trans hd, h.of_nodes h1⟩⟩

instance (op : SinkOp) [q : QuietOp op] : KA (sink op) :=
  ka_of_nodes fun s a s' e => by
    obtain ⟨d, hd, rfl⟩ := sink_ok.mp e
    exact ⟨q.h _ _ _ hd, rfl⟩
instance (op : SinkOp) [QuietOp op] : KA (sinkUnit op) :=
  ⟨fun s a s' hb hd h e => by
    obtain ⟨out, e⟩ := sinkUnit_ok.mp e
    exact (inferInstance : KA (sink op)).p _ _ _ hb hd h e⟩
instance (op : SinkOp) [QuietOp op] : KA (sinkNode op) :=
  ⟨fun s a s' hb hd h e => (inferInstance : KA (sink op)).p _ _ _ hb hd h (sinkNode_ok.mp e)⟩
instance (msg : String) : KA (parseError msg) := by unfold parseError; infer_instance
instance : KA unexpected := by unfold unexpected; infer_instance
instance (m : Mode) : KA (setMode m) :=
  ka_of_nodes fun s a s' e => by unfold setMode at e; rw [modS_ok.mp e]; exact ⟨rfl, rfl⟩
instance (m : QuirksMode) : KA (setQuirksMode m) := by
  unfold setQuirksMode
  have : KA (modS fun s => { s with quirksMode := m }) :=
    ka_of_nodes fun s a s' e => by rw [modS_ok.mp e]; exact ⟨rfl, rfl⟩
  infer_instance
instance (x : Id) : KA (push x) :=
  ka_of_nodes fun s a s' e => by unfold push at e; rw [modS_ok.mp e]; exact ⟨rfl, rfl⟩

/-- `append_comment_to_doc` -/
instance (text : Str) : KA (appendCommentToDoc text) :=
  ⟨fun s a s' hb hd h e => by
    obtain ⟨_, f, happ⟩ := appendCommentToDoc_eff hd e
    obtain ⟨hb1, _, _, hid, _, hdat⟩ := createComment_spec hb text
    have h1 : AdjD (s.dom.createComment text).1 [] := h.alloc hb (by intro e he; cases he) _
    have hcz : (0 : Id) ≠ (s.dom.createComment text).2 := by
      rw [hid]; exact Nat.ne_of_lt hb.size_pos
    obtain ⟨hb2, _, _, _⟩ := append_doc_spec hb1 (by rw [hdat]; simp) happ
    refine ⟨hb2, f.doc.trans hd, h1.appendClosed hcz ?_ (by intro hm; cases hm) happ⟩
    unfold Dom.isText; rw [hdat]⟩

/-- the doctype -/
instance (n p sy : Str) : KA (sinkUnit (.appendDoctypeToDocument n p sy)) :=
  ⟨fun s a s' hb hd h e => by
    obtain ⟨out, e'⟩ := sinkUnit_ok.mp e
    obtain ⟨d2, hd2, rfl⟩ := sink_ok.mp e'
    have happ := apply_doctype hd2
    obtain ⟨hb2, _, _, _, _⟩ := appendDoctype_spec hb happ
    refine ⟨hb2, hd, ?_⟩
    have happ' : (s.dom.alloc (.doctype n p sy)).1.append 0 (.node s.dom.size) = .ok d2 := by
      rw [append_node_eq]; exact happ
    have h1 : AdjD (s.dom.alloc (.doctype n p sy)).1 [] := h.alloc hb (by intro e he; cases he) _
    refine h1.appendClosed (Nat.ne_of_lt hb.size_pos) ?_ (by intro hm; cases hm) happ'
    unfold Dom.isText; rw [dataOf_alloc]; simp⟩

/-- `create_root`: afterwards the `html` element is a child of the document and the only open element -/
theorem createRoot_adj {s s' : State} {attrs : List Attr} {u : Unit} (hb : DomBase s.dom) (hd : s.docHandle = 0)
    (h : AdjD s.dom []) (e : createRoot attrs s = .ok (u, s')) :
    DomBase s'.dom ∧ s'.docHandle = 0 ∧ AdjD s'.dom [] ∧ (s.openElems = [] → AdjD s'.dom s'.openElems) := by
  unfold createRoot at e
  obtain ⟨el, s1, e1, e2⟩ := bind_ok.mp e
  obtain ⟨u1, s2, e3, e4⟩ := bind_ok.mp e2
  unfold push at e3
  have hs2 := modS_ok.mp e3
  rw [getS_bind] at e4
  obtain ⟨_, hb1, _, _, _, _, _, _, hdata⟩ := createElementWithFlags_any hb e1
  unfold createElementWithFlags at e1
  obtain ⟨h1, hpar, hkids, htx, htc, hfresh, hch, _, _, hoe1, hdoc1⟩ :=
    sinkCreate_adj' (O := []) hb (by intro e he; cases he) h e1
  obtain ⟨out, e4'⟩ := sinkUnit_ok.mp e4
  obtain ⟨d2, hd2, rfl⟩ := sink_ok.mp e4'
  have hdoc2 : s2.docHandle = 0 := by rw [hs2]; show s1.docHandle = 0; rw [hdoc1, hd]
  have hdom2 : s2.dom = s1.dom := by rw [hs2]
  rw [hdoc2, hdom2] at hd2
  have happ := apply_append hd2
  have hne : (0 : Id) ≠ el := Nat.ne_of_lt (Nat.lt_of_lt_of_le hb.size_pos hfresh)
  obtain ⟨_, k2, p2, d2'⟩ := dom_appendNode_eff happ hne
  have ha : AdjD d2 [] := h1.appendClosed hne htx (by intro hm; cases hm) happ
  obtain ⟨hb2, _, _, _⟩ := append_doc_spec hb1 (by rw [hdata]; simp) happ
  refine ⟨hb2, hdoc2, ha, fun ho => ?_⟩
  have hoe : s2.openElems = [] ++ [el] := by
    rw [hs2]; show s1.openElems ++ [el] = _; rw [hoe1, ho]
  show AdjD d2 s2.openElems
  rw [hoe]
  have hel0 : ∀ Q, el ∉ s1.dom.childrenOf Q := fun Q hm => by
    rw [hch] at hm
    exact Nat.lt_irrefl _ (Nat.lt_of_lt_of_le (hb.kidsValid Q el hm) hfresh)
  refine ha.push_inserted (P := 0) (a := s1.dom.childrenOf 0) (b := []) (by rw [k2]; simp) (hel0 0) (by simp)
    (fun Q hQ => by rw [k2]; simp only [hQ, if_false]; exact hel0 Q) rfl ?_ ?_ (fun _ x _ hx => by cases hx)
  · rw [k2]; simp only [Ne.symm hne, if_false]; exact hkids
  · intro tc htc'
    rw [tc_of_data (d2' el)] at htc'
    obtain ⟨t1, t2⟩ := htc tc htc'
    rw [k2]
    have : tc ≠ 0 := Nat.ne_of_gt (Nat.lt_of_lt_of_le hb.size_pos t2)
    simp only [this, if_false]; exact t1

instance (attrs : List Attr) : KA (createRoot attrs) :=
  ⟨fun s a s' hb hd h e => by
    obtain ⟨h1, h2, h3, _⟩ := createRoot_adj hb hd h e
    exact ⟨h1, h2, h3⟩⟩

instance (tok : Token) : KA (stepInitial tok) := by
  unfold stepInitial
  split <;> infer_instance

instance (tok : Token) : KA (stepBeforeHtml tok) := by
  unfold stepBeforeHtml
  split <;> infer_instance

end H5V.Props.C06
