import H5V.Lemmas.HtmlTBFuelRules2
import H5V.Lemmas.HtmlTBSafeTable
/-!
# The fuel of `process_to_completion`: the table modes

`TableE` (`stepInTable`), and `DJ` for InTable, InTableText, InCaption, InColumnGroup, InTableBody, InRow,
InCell.
-/
namespace H5V.Lemmas.TBFuel
open H5V.Model.HtmlTB
open H5V.Model.HtmlTok (TagKind)
open H5V.Model.Dom (Id QualName Attr NodeOrText SinkOp Output ElementFlags QuirksMode Dom NodeData Node)
open H5V.Lemmas.TBSafe
open H5V.Lemmas.TBC (ok_bind ok_pure ok_getS_bind ok_modS_bind ok_ite ok_bind_pure)

/-! ### character tokens processed "in body" with foster parenting -/

theorem fmt_ne_table {n : EName} (h : isFmtE n = true) : n ≠ tableName := by
  rintro rfl
  revert h
  decide

/-- reconstructing the active formatting elements pushes formatting elements only -/
theorem wle_of_grown {s s' : State} (hi : HInv s) (g : Grown s s') : WLe s s' := by
  obtain ⟨news, ho, hn⟩ := g.open_
  refine ⟨?_, by rw [g.fr.templateModes]; exact Nat.le_refl _⟩
  rw [ho, tabCount_append, tabCount_ext g.fr.ext hi.open_el]
  have : tabCount s'.dom news = 0 := by
    unfold tabCount
    rw [List.countP_eq_zero]
    intro x hx
    have := fmt_ne_table (hn x hx)
    simpa using this
  omega

theorem WLe.of_qf' {s s' : State} (hel : AllEl s.dom s.openElems) (h : QF s s') : WLe s s' := WLe.of_qf hel h

/-- `stepInBody` on a character token: `Done`, the stack part does not grow -/
theorem ef_stepInBody_chars {sp : SplitStatus} {text : Str} {s s' : State} {r : ProcessResult} (hi : HInv s)
    (hr : Rooted s.dom s.openElems) (h : stepInBody (.chars sp text) s = .ok (r, s')) :
    r = .done ∧ WLe s s' ∧ BStep s s' := by
  obtain ⟨hres, hb⟩ := sat_ok (al := anyAl) (sat_stepInBody_chars hi hr) h
  refine ⟨hres, ?_, hb⟩
  unfold stepInBody at h
  dsimp only at h
  obtain ⟨_, s1, h1, h2⟩ := ok_bind h
  have g := sat_ok (al := anyAl) (sat_reconstructActiveFormattingElements hi hr) h1
  have hw1 := wle_of_grown hi g
  have hel1 : AllEl s1.dom s1.openElems := g.hinv.open_el
  have hq : ∀ s2, Shr s1 s2 → appendText text s2 = .ok (r, s') → WLe s s' := by
    intro s2 sh h3
    unfold appendText insertAppropriately at h3
    obtain ⟨_, s3, h4, _⟩ := ok_bind h3
    obtain ⟨ip, s4, h5, h6⟩ := ok_bind h4
    have q1 : QF s2 s4 := sq_appropriatePlaceForInsertion none s2 ip s4 h5
    have q2 : QF s4 s3 := sq_insertAt _ _ s4 _ s3 h6
    have hel2 : AllEl s2.dom s2.openElems := (sh.wa hel1).2
    have e3 : s' = s3 := by
      obtain ⟨_, s3', h4', h7⟩ := ok_bind h3
      have : s3' = s3 := by rw [h4] at h4'; cases h4'; rfl
      subst this
      exact (ok_pure h7).2.symm
    rw [e3]
    exact hw1.trans ((sh.wle hel1).trans (WLe.of_qf hel2 (q1.trans q2)))
  by_cases c : anyNotWhitespace text = true
  · rw [if_pos c] at h2
    obtain ⟨_, s2, h3, h4⟩ := ok_bind h2
    exact hq s2 (sh_setFramesetOk _ s1 _ s2 h3) h4
  · rw [if_neg c] at h2
    exact hq s1 (Shr.refl _) h2

theorem ef_fosterParentInBody_chars {sp : SplitStatus} {text : Str} {s s' : State} {r : ProcessResult} (hi : HInv s)
    (hr : Rooted s.dom s.openElems) (h : fosterParentInBody (.chars sp text) s = .ok (r, s')) :
    r = .done ∧ WLe s s' ∧ BStep s s' := by
  obtain ⟨hres, hb⟩ := sat_ok (al := anyAl) (sat_fosterParentInBody_chars hi hr) h
  refine ⟨hres, ?_, hb⟩
  unfold fosterParentInBody at h
  have h1 := ok_modS_bind h
  obtain ⟨r1, s1, h2, h3⟩ := ok_bind h1
  have h4 := ok_modS_bind h3
  obtain ⟨_, e2⟩ := ok_pure h4
  obtain ⟨_, hw, _⟩ := ef_stepInBody_chars (s := { s with fosterParenting := true }) (hi.withFoster true) hr h2
  rw [← e2]
  exact ⟨hw.tab, hw.tm⟩

theorem wle_flushPendingFoster : ∀ (l : List (SplitStatus × Str)) (s s' : State), HInv s →
    Rooted s.dom s.openElems → flushPendingFoster l s = .ok ((), s') → WLe s s' := by
  intro l
  induction l with
  | nil =>
    intro s s' _ _ h
    unfold flushPendingFoster at h
    rw [← (ok_pure h).2]; exact WLe.refl _
  | cons a rest ih =>
    intro s s' hi hr h
    obtain ⟨sp, text⟩ := a
    unfold flushPendingFoster at h
    obtain ⟨r1, s1, h1, h2⟩ := ok_bind h
    obtain ⟨hres, hw, hb⟩ := ef_fosterParentInBody_chars hi hr h1
    subst hres
    dsimp only at h2
    exact hw.trans (ih s1 s' hb.hinv hb.rooted h2)

theorem wle_flushPendingPlain : ∀ (l : List (SplitStatus × Str)) (s s' : State), AllEl s.dom s.openElems →
    flushPendingPlain l s = .ok ((), s') → WLe s s' := by
  intro l
  induction l with
  | nil =>
    intro s s' _ h
    unfold flushPendingPlain at h
    rw [← (ok_pure h).2]; exact WLe.refl _
  | cons a rest ih =>
    intro s s' hel h
    obtain ⟨sp, text⟩ := a
    unfold flushPendingPlain at h
    obtain ⟨r1, s1, h1, h2⟩ := ok_bind h
    unfold appendText insertAppropriately at h1
    obtain ⟨_, s3, h4, h7⟩ := ok_bind h1
    obtain ⟨ip, s4, h5, h6⟩ := ok_bind h4
    have q : QF s s3 := (sq_appropriatePlaceForInsertion none s ip s4 h5).trans (sq_insertAt _ _ s4 _ s3 h6)
    have e : s1 = s3 := (ok_pure h7).2.symm
    subst e
    have hel1 : AllEl s1.dom s1.openElems := by rw [q.openElems]; exact hel.ext q.ext
    exact (WLe.of_qf hel q).trans (ih s1 s' hel1 h2)

/-! ### `foster_parent_in_body` -/

theorem EB.frame {s0 s s1 s' : State} {tok : Token} {r : ProcessResult} (h : EB s0 tok r s1)
    (hd0 : s0.dom = s.dom) (ho0 : s0.openElems = s.openElems) (ht0 : s0.templateModes = s.templateModes)
    (hd1 : s'.dom = s1.dom) (ho1 : s'.openElems = s1.openElems) (ht1 : s'.templateModes = s1.templateModes) :
    EB s tok r s' := by
  cases r with
  | reprocess m' t =>
    rcases h with ⟨hc, hm, hw⟩ | ⟨he, hp⟩
    · exact Or.inl ⟨hc, hm, ⟨by rw [hd1, ho1, ← hd0, ← ho0]; exact hw.tab, by rw [ht1, ← ht0]; exact hw.tm⟩⟩
    · exact Or.inr ⟨he, ⟨by rw [hd1, ho1, ht1, ← hd0, ← ho0, ← ht0]; exact hp.w, hp.rk,
        fun hm => by rw [ht1]; exact hp.tmpl hm⟩⟩
  | splitWhitespace b => exact h
  | reprocessForeign t => exact h
  | _ => trivial

theorem eb_fosterParentInBody (hB : BodyE) {tok : Token} {s s' : State} {r : ProcessResult} (ht : TI s)
    (h : fosterParentInBody tok s = .ok (r, s')) : EB s tok r s' := by
  unfold fosterParentInBody at h
  have h1 := ok_modS_bind h
  obtain ⟨r1, s1, h2, h3⟩ := ok_bind h1
  have h4 := ok_modS_bind h3
  obtain ⟨e1, e2⟩ := ok_pure h4
  have he := hB tok _ r1 s1 (ht.withFoster true) h2
  rw [← e1, ← e2]
  exact he.frame rfl rfl rfl rfl rfl rfl

/-- `stepInBody`/`foster_parent_in_body` on a token that is neither `</html>` nor EOF is quiet -/
theorem quiet_of_eb {s s' : State} {tok : Token} {r : ProcessResult} (h : EB s tok r s')
    (h1 : cls tok ≠ .eHtml) (h2 : tok ≠ .eof) : Quiet r := by
  cases r with
  | reprocess m' t =>
    rcases h with ⟨hc, _⟩ | ⟨he, _⟩
    · exact absurd hc h1
    · exact absurd he h2
  | splitWhitespace b => exact h
  | reprocessForeign t => exact h
  | _ => trivial

/-! ### `stepInTable` -/

/-- the judgement of an arm of `stepInTable` -/
def TJ (f : M ProcessResult) (tok : Token) : Prop :=
  ∀ s r s', TI s → tableMode s.mode = true → f s = .ok (r, s') → ET s tok r s'

theorem et_of_quiet {s s' : State} {tok : Token} {r : ProcessResult} (h : Quiet r) : ET s tok r s' := by
  cases r <;> first | trivial | exact h.elim

theorem tj_of_ro {f : M ProcessResult} {tok : Token} (h : RO f Quiet) : TJ f tok :=
  fun s r s' _ _ hr => et_of_quiet (h s r s' hr)

theorem tj_ite {c : Prop} [Decidable c] {a b : M ProcessResult} {tok : Token}
    (h1 : c → TJ a tok) (h2 : ¬c → TJ b tok) : TJ (if c then a else b) tok :=
  ite_rule (P := (TJ · tok)) h1 h2

/-- `process_chars_in_table` -/
theorem tj_processCharsInTable (hB : BodyE) {tok : Token} (hc : isCharsOrNull tok = true) :
    TJ (processCharsInTable tok) tok := by
  intro s r s' ht _ hrun
  unfold processCharsInTable at hrun
  obtain ⟨b, s1, h1, h2⟩ := ok_bind hrun
  have sh1 := sh_currentNodeIn _ s b s1 h1
  by_cases cb : b = true
  · rw [if_pos cb] at h2
    have h3 := ok_getS_bind h2
    dsimp only at h3
    -- whatever the assertion did, the end is `modS …; Reprocess(InTableText, token)`
    have hend : ∀ s2, (do
        modS fun s => { s with origMode := some s.mode }
        pure (ProcessResult.reprocess Mode.inTableText tok) : M ProcessResult) s2 = .ok (r, s') →
        r = .reprocess .inTableText tok ∧ s'.dom = s2.dom ∧ s'.openElems = s2.openElems ∧
          s'.templateModes = s2.templateModes := by
      intro s2 h5
      have h6 := ok_modS_bind h5
      obtain ⟨e1, e2⟩ := ok_pure h6
      rw [← e1, ← e2]; exact ⟨rfl, rfl, rfl, rfl⟩
    by_cases cp : (!s1.pendingTableText.isEmpty) = true
    · rw [if_pos cp] at h3
      obtain ⟨_, _, h5, _⟩ := ok_bind h3
      cases h5
    · rw [if_neg cp] at h3
      obtain ⟨e, hd, ho, htm⟩ := hend s1 h3
      rw [e]
      have hw := sh1.wle ht.h.open_el
      exact Or.inl ⟨hc, rfl, ⟨by rw [hd, ho]; exact hw.tab, by rw [htm]; exact hw.tm⟩⟩
  · rw [if_neg cb] at h2
    obtain ⟨_, s2, h3, h4⟩ := ok_bind h2
    have sh2 := sh1.trans (sh_parseError _ s1 _ s2 h3)
    have ht2 : TI s2 := by
      have q1 : QF s s1 := by
        obtain ⟨top, hl⟩ : ∃ t, s.openElems.getLast? = some t := by
          cases hl : s.openElems.getLast? with
          | some t => exact ⟨t, rfl⟩
          | none =>
            exfalso
            unfold currentNodeIn currentNode at h1
            obtain ⟨_, _, h5, _⟩ := ok_bind h1
            have h6 := ok_getS_bind h5
            rw [hl] at h6; cases h6
        exact (sat_ok (al := anyAl) (sat_currentNodeIn hl (ht.h.open_el top (getLast?_mem hl))) h1).2
      have q2 : QF s1 s2 := sat_ok (al := anyAl) (Q := fun _ s' => QF s1 s') sat_parseError h3
      exact ht.of_qf (q1.trans q2)
    have he := eb_fosterParentInBody hB ht2 h4
    refine et_of_quiet (quiet_of_eb he ?_ ?_)
    · cases tok <;> first | (simp [isCharsOrNull] at hc; done) | (intro e; cases e)
    · cases tok <;> first | (simp [isCharsOrNull] at hc; done) | (intro e; cases e)

theorem nm_of_namedP_table {d : Dom} {x : Id} (h : namedP d "table".toList x = true) : nm d x = tableName := by
  unfold namedP at h
  cases hh : nm d x with
  | mk ns loc =>
    rw [hh] at h
    simp only [Bool.and_eq_true, beq_iff_eq] at h
    show (⟨ns, loc⟩ : EName) = ⟨nsHtml, "table".toList⟩
    rw [h.1, h.2]

/-- `<table>` inside a table: a table element is popped, then `Reprocess(reset_insertion_mode(), token)` -/
theorem tj_tableInTable {tok : Token} (hc : cls tok = .sTable) :
    TJ (do
      let _ ← unexpected
      if ← inScopeNamed tableScope "table" then
        let _ ← popUntilNamed "table"
        pure (ProcessResult.reprocess (← resetInsertionMode) tok)
      else pure ProcessResult.done) tok := by
  intro s r s' ht _ hrun
  obtain ⟨_, s1, h1, h2⟩ := ok_bind hrun
  have hq1 : QF s s1 := (sat_ok (al := anyAl) sat_unexpected h1).2
  have ht1 : TI s1 := ht.of_qf hq1
  obtain ⟨b, s2, h3, h4⟩ := ok_bind h2
  obtain ⟨hq2, hsp⟩ := sat_ok (al := anyAl) (sat_inScopeNamed' (scope := tableScope) (name := "table") ht1.h) h3
  have ht2 : TI s2 := ht1.of_qf hq2
  by_cases cb : b = true
  · rw [if_pos cb] at h4
    obtain ⟨pre, x, post, sp⟩ := hsp cb
    obtain ⟨n, s3, h5, h6⟩ := ok_bind h4
    unfold popUntilNamed at h5
    obtain ⟨st3, _⟩ := sat_ok (al := anyAl)
      (sat_popUntilNamedS (pre := pre) (x := x) (post := post) ht2.h.open_el sp.eq sp.px
        (fun y hy => (sp.above y hy).1)) h5
    obtain ⟨m', s4, h7, h8⟩ := ok_bind h6
    obtain ⟨e1, e2⟩ := ok_pure h8
    rw [← e1, ← e2]
    have sh4 := sh_resetInsertionMode s3 m' s4 h7
    have hq := hq1.trans hq2
    -- the stack part
    have hel3 : AllEl s3.dom s3.openElems := by
      rw [st3.openElems]
      exact fun y hy => (ht2.h.open_el y (by rw [sp.eq]; exact List.mem_append_left _ hy)).ext st3.fr.ext
    have t4 : tabCount s4.dom s4.openElems ≤ tabCount s3.dom s3.openElems := (sh4.wle hel3).tab
    have t3 : tabCount s3.dom s3.openElems = tabCount s2.dom pre := by
      rw [st3.openElems]
      exact tabCount_ext st3.fr.ext
        (fun y hy => ht2.h.open_el y (by rw [sp.eq]; exact List.mem_append_left _ hy))
    have t2 : tabCount s2.dom s2.openElems = tabCount s.dom s.openElems := by
      rw [hq.openElems]; exact tabCount_ext hq.ext ht.h.open_el
    have tx : tabCount s2.dom pre + 1 ≤ tabCount s2.dom s2.openElems := by
      rw [sp.eq, tabCount_append]
      have : 1 ≤ tabCount s2.dom (x :: post) := by
        unfold tabCount
        rw [List.countP_cons]
        have : (nm s2.dom x == tableName) = true := by rw [nm_of_namedP_table sp.px]; exact beq_self_eq_true _
        simp [this]
      omega
    have htm4 : s4.templateModes = s.templateModes := by
      rw [sh4.tm, st3.fr.templateModes, hq.templateModes]
    have hrange := range_resetInsertionMode h7
    refine Or.inr (Or.inr (Or.inr (Or.inl ⟨hc, ?_, ?_, ?_⟩)))
    · rw [htm4]; omega
    · rcases hrange with hr | hr
      · exact rank_resetRange hr .sTable (Or.inr rfl)
      · rw [htm4] at hr
        exact rank_tmplMode (ht.s.tmodes m' hr) .sTable (Or.inr rfl)
    · intro hm'
      rcases hrange with hr | hr
      · rw [hm'] at hr; exact absurd hr (by decide)
      · intro e; rw [e] at hr; cases hr
  · rw [if_neg cb] at h4
    rw [(ok_pure h4).1.symm]; trivial

/-- `foster_parent_in_body` of a tag token other than `</html>` -/
theorem ro_foster_tag (hB : BodyE) {tag : Tag} {s s' : State} {r : ProcessResult} (ht : TI s)
    (hne : cls (.tag tag) ≠ .eHtml) (h : fosterParentInBody (.tag tag) s = .ok (r, s')) : Quiet r :=
  quiet_of_eb (eb_fosterParentInBody hB ht h) hne (fun e => by cases e)

theorem cls_start_ne_eHtml {tag : Tag} {l : List String} (h : tag.isStart l = true) : cls (.tag tag) ≠ .eHtml :=
  fun hc => not_eHtml_start h hc

theorem tableE (hH : HeadE) (hB : BodyE) : TableE := by
  intro tok
  show TJ (stepInTable tok) tok
  unfold stepInTable
  cases tok with
  | nullChar => exact tj_processCharsInTable hB rfl
  | chars st text => exact tj_processCharsInTable hB rfl
  | comment t => exact tj_of_ro (by ro_walk)
  | eof =>
    intro s r s' ht _ hrun
    have he := hB .eof s r s' ht hrun
    cases r with
    | reprocess m' t =>
      rcases he with ⟨hc, _⟩ | ⟨_, hp⟩
      · cases hc
      · exact Or.inr (Or.inr (Or.inr (Or.inr ⟨rfl, hp⟩)))
    | splitWhitespace b => exact he.elim
    | reprocessForeign t => exact he.elim
    | _ => trivial
  | tag tag =>
    dsimp only
    refine tj_ite (fun _ => tj_of_ro (by ro_walk)) (fun _ => ?_)
    refine tj_ite (fun _ => tj_of_ro (by ro_walk)) (fun _ => ?_)
    refine tj_ite (fun h => ?_) (fun _ => ?_)
    · intro s r s' ht _ hrun
      obtain ⟨e, w⟩ := (by ed_walk : ED _ Mode.inColumnGroup (Token.tag tag)) s r s' hrun
      rw [e]
      exact Or.inr (Or.inl ⟨cls_of_isStart (P := fun c => c = .sCol) h (by decide), rfl, (w ht.h.open_el).1⟩)
    refine tj_ite (fun _ => tj_of_ro (by ro_walk)) (fun _ => ?_)
    refine tj_ite (fun h => ?_) (fun _ => ?_)
    · intro s r s' ht _ hrun
      obtain ⟨e, w⟩ := (by ed_walk : ED _ Mode.inTableBody (Token.tag tag)) s r s' hrun
      rw [e]
      exact Or.inr (Or.inr (Or.inl ⟨cls_of_isStart (P := fun c => c = .sTdTh ∨ c = .sTr) h (by decide), rfl,
        (w ht.h.open_el).1⟩))
    refine tj_ite (fun h => tj_tableInTable (cls_of_isStart (P := fun c => c = .sTable) h (by decide))) (fun _ => ?_)
    refine tj_ite (fun _ => tj_of_ro (by ro_walk)) (fun _ => ?_)
    refine tj_ite (fun _ => tj_of_ro (by ro_walk)) (fun n8 => ?_)
    refine tj_ite (fun h => tj_of_ro (ro_stepInHead hH (headElse_startOrEnd h) tag_ne_notSplit)) (fun _ => ?_)
    refine tj_ite (fun h => ?_) (fun _ => ?_)
    · -- `<input>`
      intro s r s' ht _ hrun
      obtain ⟨_, s1, h1, h2⟩ := ok_bind hrun
      have ht1 : TI s1 := ht.of_qf (sat_ok (al := anyAl) sat_unexpected h1).2
      by_cases ch : isTypeHidden tag = true
      · rw [if_pos ch] at h2
        exact et_of_quiet ((by ro_walk : RO (do
          let _ ← insertAndPopElementFor tag
          pure ProcessResult.doneAckSelfClosing) Quiet) s1 r s' h2)
      · rw [if_neg ch] at h2
        exact et_of_quiet (ro_foster_tag hB ht1 (cls_start_ne_eHtml h) h2)
    refine tj_ite (fun _ => tj_of_ro (by ro_walk)) (fun _ => ?_)
    -- anything else: foster parenting
    intro s r s' ht _ hrun
    obtain ⟨_, s1, h1, h2⟩ := ok_bind hrun
    have ht1 : TI s1 := ht.of_qf (sat_ok (al := anyAl) sat_unexpected h1).2
    refine et_of_quiet (ro_foster_tag hB ht1 ?_ h2)
    intro hc
    exact n8 (end_sub ((isStart_of_cls hc).2.2.2.2.2.1 rfl) (by decide))

/-! ### the table modes -/

theorem eHtml_isEnd {tag : Tag} (hc : cls (.tag tag) = .eHtml) : tag.isEnd ["html"] = true :=
  (isStart_of_cls hc).2.2.2.2.2.1 rfl

theorem dj_stepInTable (hT : TableE) (tok : Token) : DJ (stepInTable tok) .inTable tok :=
  dj_table hT rfl (fun h => by rcases h with h | h <;> (rw [h]; decide))

/-- a token that is not a tag is not in a tag class -/
theorem cls_nontag {tok : Token} (h : ∀ t, tok ≠ .tag t) :
    cls tok = .chars ∨ cls tok = .null ∨ cls tok = .comment ∨ cls tok = .eof := by
  cases tok with
  | chars _ _ => exact Or.inl rfl
  | nullChar => exact Or.inr (Or.inl rfl)
  | comment _ => exact Or.inr (Or.inr (Or.inl rfl))
  | eof => exact Or.inr (Or.inr (Or.inr rfl))
  | tag t => exact absurd rfl (h t)

theorem rank_tt {om : Mode} {c : Cls} (hom : tableMode om = true) (h1 : c ≠ .chars) (h2 : c ≠ .null) :
    rank om c < rank .inTableText c := by
  cases om <;> first
    | (simp [tableMode] at hom; done)
    | (cases c <;> first | decide | exact absurd rfl h1 | exact absurd rfl h2)

theorem dj_stepInTableText (tok : Token) : DJ (stepInTableText tok) .inTableText tok := by
  unfold stepInTableText
  -- the flush-and-return arm, for every token that is neither characters nor U+0000
  have hmain : ∀ (tok : Token), cls tok ≠ .chars → cls tok ≠ .null → DJ (do
      let pending := (← getS).pendingTableText
      modS fun s => { s with pendingTableText := [] }
      let containsNonspace := pending.any (fun (split, text) =>
        match split with
        | .whitespace => false
        | .notWhitespace => true
        | .notSplit => anyNotWhitespace text)
      if containsNonspace then
        parseError "Non-space table text"
        flushPendingFoster pending
      else flushPendingPlain pending
      let s ← getS
      match s.origMode with
      | none => panicAt "unwrap-none" "rules.rs:1172" "orig_mode.take().unwrap()"
      | some m =>
        set { s with origMode := none }
        pure (ProcessResult.reprocess m tok)) .inTableText tok := by
    intro tok hc1 hc2 s r s' ht hm hrun
    have hs : SInv .inTableText s := by have := ht.s; rw [hm] at this; exact this
    have hr : Rooted s.dom s.openElems := hs.root rfl
    obtain ⟨om, ho, hom⟩ := hs.tableText rfl
    have h1 := ok_getS_bind hrun
    have h2 := ok_modS_bind h1
    dsimp only at h2
    have hi0 : HInv ({ s with pendingTableText := [] } : State) :=
      ⟨ht.h.open_el, ht.h.open_tc, ht.h.af, ht.h.head, ht.h.form, ht.h.ctx⟩
    -- the end
    have hend : ∀ s2, WLe s s2 → s2.origMode = some om → (do
        let s ← getS
        match s.origMode with
        | none => panicAt "unwrap-none" "rules.rs:1172" "orig_mode.take().unwrap()"
        | some m =>
          set { s with origMode := none }
          pure (ProcessResult.reprocess m tok) : M ProcessResult) s2 = .ok (r, s') →
        Dec s .inTableText tok r s' := by
      intro s2 hw ho2 h3
      have h4 := ok_getS_bind h3
      rw [ho2] at h4
      dsimp only at h4
      have h5 : (pure (ProcessResult.reprocess om tok) : M ProcessResult) { s2 with origMode := none } =
          .ok (r, s') := h4
      obtain ⟨e1, e2⟩ := ok_pure h5
      rw [← e1, ← e2]
      refine dec_of_rank ⟨hw.tab, hw.tm⟩ (Or.inl ?_) (rank_tt hom hc1 hc2)
      intro e; rw [e] at hom; cases hom
    by_cases c : (s.pendingTableText.any fun x =>
        match x with
        | (split, text) =>
          match split with
          | .whitespace => false
          | .notWhitespace => true
          | .notSplit => anyNotWhitespace text) = true
    · rw [if_pos c] at h2
      obtain ⟨_, s1, h5, h3⟩ := ok_bind h2
      obtain ⟨_, s2, h6, h4⟩ := ok_bind h3
      have q1 : QF ({ s with pendingTableText := [] } : State) s1 :=
        sat_ok (al := anyAl) (Q := fun _ s' => QF ({ s with pendingTableText := [] } : State) s') sat_parseError h5
      have b1 : BStep ({ s with pendingTableText := [] } : State) s1 := BStep.of_qf hi0 hr q1
      have b2 := sat_ok (al := anyAl) (sat_flushPendingFoster _ s1 b1.hinv b1.rooted) h6
      have w2 := wle_flushPendingFoster _ s1 s2 b1.hinv b1.rooted h6
      have w1 : WLe s s1 := by
        have := WLe.of_qf (s := ({ s with pendingTableText := [] } : State)) ht.h.open_el q1
        exact ⟨this.tab, this.tm⟩
      exact hend s2 (w1.trans w2) (by rw [b2.origMode, b1.origMode]; exact ho) h4
    · rw [if_neg c] at h2
      obtain ⟨_, s2, h3, h4⟩ := ok_bind h2
      have b2 := sat_ok (al := anyAl) (sat_flushPendingPlain _ _ hi0 hr) h3
      have w2 := wle_flushPendingPlain _ ({ s with pendingTableText := [] } : State) s2 ht.h.open_el h3
      exact hend s2 ⟨w2.tab, w2.tm⟩ (by rw [b2.origMode]; exact ho) h4
  cases tok with
  | nullChar => dj_quiet
  | chars st text => exact dj_of_ro (by ro_walk)
  | comment t => exact hmain _ (fun e => by cases e) (fun e => by cases e)
  | eof => exact hmain _ (fun e => by cases e) (fun e => by cases e)
  | tag tag =>
    refine hmain _ ?_ ?_
    · show clsTag tag.kind tag.name ≠ .chars
      unfold clsTag; repeat' split
      all_goals decide
    · show clsTag tag.kind tag.name ≠ .null
      unfold clsTag; repeat' split
      all_goals decide

/-- a non-tag token is not `</html>` -/
theorem nontag_ne_eHtml {tok : Token} (h : ∀ t, tok ≠ .tag t) {P : Prop} (hc : cls tok = .eHtml) : P := by
  rcases cls_nontag h with e | e | e | e <;> (rw [e] at hc; cases hc)

/-- delegation to `stepInBody` of a tag that an earlier arm excludes from being `</html>` -/
theorem dj_body_tag (hB : BodyE) {m : Mode} {tag : Tag} {l : List String}
    (hn : ¬tag.isEnd l = true) (hl : "html" ∈ l := by decide) : DJ (stepInBody (.tag tag)) m (.tag tag) :=
  dj_body hB (fun hc => absurd (end_sub (eHtml_isEnd hc) (fun x hx => by
    rw [List.mem_singleton.mp hx]; exact hl)) hn)

theorem dj_stepInCaption (hB : BodyE) (tok : Token) : DJ (stepInCaption tok) .inCaption tok := by
  unfold stepInCaption
  cases tok with
  | tag tag =>
    dsimp only
    refine dj_ite (fun h => ?_) (fun _ => ?_)
    · -- close the caption, then (unless `</caption>`) reprocess in InTable
      apply dj_of_aj
      refine aj_bind (wj_of_sh (sh_inScopeNamed _ _)) (fun b => ?_)
      refine aj_ite (fun _ => ?_) (fun _ => by aj_walk)
      refine aj_bind (by wj_walk) (fun _ => ?_)
      refine aj_bind (by wj_walk) (fun _ => ?_)
      refine aj_bind (by wj_walk) (fun _ => ?_)
      refine aj_ite (fun _ => by aj_walk) (fun hnc => aj_reprocess (by decide) ?_)
      -- not `</caption>`: a start tag of the list, or `</table>`
      rw [Bool.or_eq_true] at h
      rcases h with h | h
      · exact rank_of_isStart h (by decide)
      · obtain ⟨hk, x, hx, he⟩ := end_spec h
        simp only [List.mem_cons, List.not_mem_nil, or_false] at hx
        rcases hx with rfl | rfl
        · exact rank_of_isEnd (l := ["table"]) (by
            unfold Tag.isEnd; rw [hk, isOneOf_of_mem (x := "table") (by decide) he]; rfl) (by decide)
        · exact absurd (by unfold Tag.isEnd; rw [hk, isOneOf_of_mem (x := "caption") (by decide) he]; rfl) hnc
    refine dj_ite (fun _ => by dj_quiet) (fun n => dj_body_tag hB n)
  | chars st text => exact dj_body hB (fun hc => by cases hc)
  | comment t => exact dj_body hB (fun hc => by cases hc)
  | nullChar => exact dj_body hB (fun hc => by cases hc)
  | eof => exact dj_body hB (fun hc => by cases hc)

/-- the class of a tag token is a tag class -/
theorem cls_tag_mem (tag : Tag) : cls (.tag tag) ∈ [Cls.sTdTh, .sTr, .sCol, .sCapGrp, .sTable, .sOther,
    .eHtml, .eTable, .eTbodyGrp, .eTr, .eOther] := by
  show clsTag tag.kind tag.name ∈ _
  unfold clsTag
  repeat' split
  all_goals decide

theorem dj_stepInColumnGroup (hH : HeadE) (hB : BodyE) (tok : Token) :
    DJ (stepInColumnGroup tok) .inColumnGroup tok := by
  unfold stepInColumnGroup
  cases tok with
  | chars st text =>
    cases st with
    | notSplit => exact dj_split
    | whitespace => dj_quiet
    | notWhitespace => dsimp only; dj_arm
  | comment t => dj_quiet
  | nullChar => dsimp only; dj_arm
  | eof => exact dj_body hB (fun hc => by cases hc)
  | tag tag =>
    dsimp only
    refine dj_ite (fun h => dj_body hB (not_eHtml_start h)) (fun _ => ?_)
    refine dj_ite (fun _ => by dj_quiet) (fun ncol => ?_)
    refine dj_ite (fun _ => by dj_arm) (fun _ => ?_)
    refine dj_ite (fun _ => by dj_quiet) (fun _ => ?_)
    refine dj_ite (fun h => dj_head hH (headElse_startOrEnd h) tag_ne_notSplit) (fun _ => ?_)
    -- anything else: pop the colgroup, reprocess in InTable — for every tag but `<col>`
    apply dj_of_aj
    refine aj_bind (by wj_walk) (fun b => ?_)
    refine aj_ite (fun _ => ?_) (fun _ => by aj_walk)
    refine aj_bind (by wj_walk) (fun _ => aj_reprocess (by decide) ?_)
    have hc : cls (.tag tag) ≠ .sCol := fun hc => ncol ((isStart_of_cls hc).2.2.1 rfl)
    have hmem := cls_tag_mem tag
    generalize cls (Token.tag tag) = c at hc hmem
    cases c <;> first | decide | exact absurd rfl hc | (exact absurd hmem (by decide))

theorem dj_stepInTableBody (hT : TableE) (tok : Token) : DJ (stepInTableBody tok) .inTableBody tok := by
  unfold stepInTableBody
  cases tok with
  | tag tag =>
    dsimp only
    refine dj_ite (fun _ => by dj_quiet) (fun n1 => ?_)
    refine dj_ite (fun _ => by dj_arm) (fun n2 => ?_)
    refine dj_ite (fun _ => by dj_arm) (fun _ => ?_)
    refine dj_ite (fun _ => by dj_arm) (fun _ => ?_)
    refine dj_ite (fun _ => by dj_quiet) (fun _ => ?_)
    refine dj_table hT rfl ?_
    rintro (hc | hc)
    · exact absurd (start_sub ((isStart_of_cls hc).1 rfl) (by decide)) n2
    · exact absurd ((isStart_of_cls hc).2.1 rfl) n1
  | chars st text => exact dj_table hT rfl (by rintro (h | h) <;> cases h)
  | comment t => exact dj_table hT rfl (by rintro (h | h) <;> cases h)
  | nullChar => exact dj_table hT rfl (by rintro (h | h) <;> cases h)
  | eof => exact dj_table hT rfl (by rintro (h | h) <;> cases h)

theorem dj_stepInRow (hT : TableE) (tok : Token) : DJ (stepInRow tok) .inRow tok := by
  unfold stepInRow
  cases tok with
  | tag tag =>
    dsimp only
    refine dj_ite (fun _ => by dj_quiet) (fun n1 => ?_)
    refine dj_ite (fun _ => by dj_arm) (fun _ => ?_)
    refine dj_ite (fun _ => by dj_arm) (fun n3 => ?_)
    refine dj_ite (fun _ => by dj_arm) (fun _ => ?_)
    refine dj_ite (fun _ => by dj_quiet) (fun _ => ?_)
    refine dj_table hT rfl ?_
    rintro (hc | hc)
    · exact absurd (start_sub ((isStart_of_cls hc).1 rfl) (by decide)) n1
    · refine absurd ?_ n3
      rw [Bool.or_eq_true]
      exact Or.inl (start_sub ((isStart_of_cls hc).2.1 rfl) (by decide))
  | chars st text => exact dj_table hT rfl (by rintro (h | h) <;> cases h)
  | comment t => exact dj_table hT rfl (by rintro (h | h) <;> cases h)
  | nullChar => exact dj_table hT rfl (by rintro (h | h) <;> cases h)
  | eof => exact dj_table hT rfl (by rintro (h | h) <;> cases h)

theorem dj_stepInCell (hB : BodyE) (tok : Token) : DJ (stepInCell tok) .inCell tok := by
  unfold stepInCell
  cases tok with
  | tag tag =>
    dsimp only
    refine dj_ite (fun _ => by dj_arm) (fun _ => ?_)
    refine dj_ite (fun _ => by dj_arm) (fun _ => ?_)
    refine dj_ite (fun _ => by dj_quiet) (fun n3 => ?_)
    refine dj_ite (fun _ => by dj_arm) (fun _ => dj_body_tag hB n3)
  | chars st text => exact dj_body hB (fun hc => by cases hc)
  | comment t => exact dj_body hB (fun hc => by cases hc)
  | nullChar => exact dj_body hB (fun hc => by cases hc)
  | eof => exact dj_body hB (fun hc => by cases hc)

end H5V.Lemmas.TBFuel
