import H5V.Lemmas.HtmlRTRun2
/-!
C07 round trip: the tokenizer alone (`Tokenizer::feed` on the whole serialisation, then
`Tokenizer::end`) against a sink that answers `Continue` to every tag.
-/
namespace H5V.Lemmas.HtmlRT
open H5V.Model.HtmlTok

/-- the sink of the tokenizer-only model: a fixed policy, tokens accumulate in `Mach.out` -/
def pureSink (pol : Pol) : Sink Unit := { pol := fun _ => pol, hook := fun m _ => some (m, ()) }

/-- a sink that never switches the tokenizer state nor pauses it -/
def AlwaysContinue (pol : Pol) : Prop := ∀ out t, pol.onTag out t = .continue_

def pureSpec (o : Opts) (pol : Pol) (hp : AlwaysContinue pol) : SinkSpec o (pureSink pol) where
  Inv := fun _ _ _ _ => True
  core := by intro m1 s m1' s1 h; simp only [pureSink, Option.some.injEq, Prod.mk.injEq] at h; rw [← h.1]; rfl
  silent := fun _ _ _ _ m1 _ _ => ⟨m1, (), rfl, trivial⟩
  char := fun _ _ _ _ m1 _ _ _ _ => ⟨m1, (), rfl, trivial⟩
  startPol := fun _ _ _ out n as _ _ => hp out _
  start := fun _ _ _ _ m1 _ _ _ _ _ _ => ⟨m1, (), rfl, trivial⟩
  endPol := fun _ _ _ _ _ _ out _ _ => hp out _
  end_ := fun _ _ _ _ _ _ _ m1 _ _ _ _ => ⟨m1, (), rfl, trivial⟩

/-- the steps of a `GSteps` chain are iterations of `Tokenizer::run` -/
theorem gsteps_pure_run (o : Opts) (pol : Pol) {m inp toks m' inp'} {u u' : Unit}
    (h : GSteps o (pureSink pol) m inp u toks m' inp' u') :
    ∃ k, (∀ fuel, run o pol (fuel + k) m inp = run o pol fuel m' inp') ∧
      m'.out.map (·.1) = toks.reverse ++ m.out.map (·.1) ∧
      (TInv m → TInv m' ∧ mu m' inp' + k ≤ mu m inp) := by
  induction h with
  | refl m inp s => exact ⟨0, fun _ => rfl, by simp, fun hi => ⟨hi, by omega⟩⟩
  | @silent m inp s m1 i1 m1' s1 toks m' i' s' hs hh _ ih =>
    obtain ⟨k, h1, h2, h3⟩ := ih
    simp only [pureSink, Option.some.injEq, Prod.mk.injEq, and_true] at hh
    subst hh
    refine ⟨k + 1, ?_, ?_, ?_⟩
    · intro fuel
      show run o pol ((fuel + k) + 1) m inp = _
      rw [run]; simp only [pureSink] at hs; rw [hs.1]; exact h1 fuel
    · rw [h2, hs.2]
    · intro hi
      have hi1 := step_tinv o pol m inp hi m1 i1 (by simp only [pureSink] at hs; rw [hs.1]; rfl)
      have hd := step_dec o pol m inp hi m1 i1 (by simp only [pureSink] at hs; exact hs.1)
      obtain ⟨a, b⟩ := h3 hi1
      exact ⟨a, by omega⟩
  | @emit m inp s t m1 i1 m1' s1 toks m' i' s' hs hh _ ih =>
    obtain ⟨k, h1, h2, h3⟩ := ih
    simp only [pureSink, Option.some.injEq, Prod.mk.injEq, and_true] at hh
    subst hh
    obtain ⟨ln, hout⟩ := hs.2
    refine ⟨k + 1, ?_, ?_, ?_⟩
    · intro fuel
      show run o pol ((fuel + k) + 1) m inp = _
      rw [run]; simp only [pureSink] at hs; rw [hs.1]; exact h1 fuel
    · rw [h2, hout]; simp
    · intro hi
      have hi1 := step_tinv o pol m inp hi m1 i1 (by simp only [pureSink] at hs; rw [hs.1]; rfl)
      have hd := step_dec o pol m inp hi m1 i1 (by simp only [pureSink] at hs; exact hs.1)
      obtain ⟨a, b⟩ := h3 hi1
      exact ⟨a, by omega⟩

/-- a `GSteps` chain that ends with the tokenizer asking for more input: `run` with the fuel `feed`
hands out returns `Done` there -/
theorem run_of_gsteps (o : Opts) (pol : Pol) {m inp toks m'} {u u' : Unit}
    (h : GSteps o (pureSink pol) m inp u toks m' [] u') (hsus : step o pol m' [] = .suspend m' [])
    (hi : TInv m) (F : Nat) (hF : mu m inp < F) :
    run o pol F m inp = .done m' [] ∧ m'.out.map (·.1) = toks.reverse ++ m.out.map (·.1) := by
  obtain ⟨k, h1, h2, h3⟩ := gsteps_pure_run o pol h
  obtain ⟨_, hmu⟩ := h3 hi
  obtain ⟨n, hn⟩ : ∃ n, F = (n + 1) + k := ⟨F - k - 1, by omega⟩
  refine ⟨?_, h2⟩
  rw [hn, h1 (n + 1), run, hsus]

theorem eofLoop_data (o : Opts) (m : Mach) (h : m.state = .data) : eofLoop o 8 m = .ok (emit m .eof) := by
  simp [eofLoop, transEof, h]

theorem Ctl.setAtEof {m st} (h : Ctl m st) (b : Bool) : Ctl (m.setAtEof b) st := by
  obtain ⟨s1, s2, s3, s4, s5⟩ := h
  constructor <;> simp [Mach.setAtEof, *]

theorem fuelFor_pos (m : Mach) (inp : Str) : ∃ n, fuelFor m inp = n + 1 :=
  ⟨fuelFor m inp - 1, by unfold fuelFor; omega⟩

/-- `Tokenizer::end` from the data state with nothing pending: EOF is delivered -/
theorem finish_idle (o : Opts) (ho : o.exactErrors = false) (pol : Pol) (m : Mach) (h : Ctl m .data) :
    finish o pol m = .ok (emit (m.setAtEof true) .eof) := by
  have h' := h.setAtEof true
  obtain ⟨n, hn⟩ := fuelFor_pos (m.setAtEof true) []
  unfold finish
  simp only [h.cr]
  rw [hn, run, data_suspend o ho pol _ h']
  simp only [List.isEmpty_nil, Bool.not_true, Bool.false_eq_true, if_false]
  exact eofLoop_data o _ h'.st

/-- `Tokenizer::end` inside a fully read reference: the character, then EOF -/
theorem finish_pending (o : Opts) (ho : o.exactErrors = false) (pol : Pol) (m : Mach) (cr : CharRefSt)
    (nm : Str) (v : Nat) (h : CRCtl m .data cr) (hd : CRDone cr nm v) (hr : RefOk nm v) :
    ∃ m2, finish o pol m = .ok m2 ∧
      ∃ l1 l2, m2.out = (.eof, l2) :: (.chars [Char.ofNat v], l1) :: m.out := by
  obtain ⟨s1, s2, s3, s4, s5⟩ := h
  let m1 := (emitChar ((m.setIgnoreLf false).setCharRef none) (Char.ofNat v))
  have hc1 : Ctl m1 .data := by constructor <;> simp [m1, Mach.setIgnoreLf, Mach.setCharRef, *]
  have h' := hc1.setAtEof true
  obtain ⟨n, hn⟩ := fuelFor_pos (m1.setAtEof true) []
  refine ⟨emit (m1.setAtEof true) .eof, ?_, m.line, m.line, ?_⟩
  · unfold finish
    simp only [s2, crEof_done o m cr nm v hd hr.ne hr.semi hr.valid]
    have : processCharRef ((m.setIgnoreLf false).setCharRef none) [Char.ofNat v] = (m1, .cont) := by
      simp [processCharRef, Mach.setIgnoreLf, Mach.setCharRef, s1, m1]
    simp only [this]
    rw [hn, run, data_suspend o ho pol _ h']
    simp only [List.isEmpty_nil, Bool.not_true, Bool.false_eq_true, if_false]
    exact eofLoop_data o _ h'.st
  · simp [m1, emit, emitChar, hr.nz, Mach.setAtEof, Mach.setIgnoreLf, Mach.setCharRef]

/-- the input does not begin with U+FEFF (which `Tokenizer::feed` discards) -/
def noLeadingBom (inp : Str) : Prop := inp.head? ≠ some '﻿'

instance (inp : Str) : Decidable (noLeadingBom inp) := by unfold noLeadingBom; infer_instance

theorem feedBom_noBom (m : Mach) (inp : Str) (h : noLeadingBom inp) (hd : m.discardBom = true) (hne : inp ≠ []) :
    feedBom m inp = (m.setDiscardBom false, inp) := by
  cases inp with
  | nil => exact absurd rfl hne
  | cons c rest =>
    have : c ≠ '﻿' := by intro e; apply h; simp [e]
    simp [feedBom, hd, this]

def mach0 : Mach := { state := .data }

theorem ctl_start : Ctl (mach0.setDiscardBom false) .data := by constructor <;> rfl
theorem noattr_start : NoAttr (mach0.setDiscardBom false) := by constructor <;> rfl
theorem tinv_start : TInv (mach0.setDiscardBom false) := tinv_fresh _ rfl rfl rfl

theorem renderF_eq_nil {f : Forest} (hok : okForest f = true) (h : renderF f = []) : f = [] := by
  cases f with
  | nil => rfl
  | cons t ts => exact absurd h (renderF_ne_nil hok (by simp))

/-- **Layer 3.**  Fed the serialisation of an ordinary forest in one piece and then ended, the
tokenizer (data state, `exact_errors` off, a sink answering `Continue`) delivers exactly the tokens of
the forest — character tokens one character at a time — followed by EOF: no parse error, nothing else. -/
theorem tok_roundtrip (o : Opts) (ho : o.exactErrors = false) (pol : Pol) (hp : AlwaysContinue pol)
    (f : Forest) (hord : Ordinary f) (hbom : noLeadingBom (renderF f)) :
    ∃ m1 m2, feed o pol mach0 [] (renderF f) = .done m1 [] ∧ finish o pol m1 = .ok m2 ∧
      m2.out.reverse.map (·.1) = tokTokens1F f ++ [.eof] := by
  obtain ⟨hok, hadj⟩ := hord
  by_cases hnil : renderF f = []
  · have hf := renderF_eq_nil hok hnil
    subst hf
    refine ⟨mach0, _, by simp [feed, renderF], finish_idle o ho pol mach0 (by constructor <;> rfl), ?_⟩
    simp [emit, Mach.setAtEof, mach0, tokTokens1F]
  · have hfeed : feed o pol mach0 [] (renderF f) =
        run o pol (fuelFor (mach0.setDiscardBom false) (renderF f)) (mach0.setDiscardBom false) (renderF f) := by
      unfold feed
      simp only [List.nil_append, List.isEmpty_iff, hnil, if_false]
      rw [feedBom_noBom mach0 _ hbom rfl hnil]
    rw [hfeed]
    have hmu := mu_lt_fuelFor (mach0.setDiscardBom false) (renderF f)
    have top := seg_top (pureSpec o pol hp) ho [] (rootFrame []) f hok (by simpa [rootFrame] using hadj)
    cases top with
    | idle hseg =>
      obtain ⟨m', _, hg, ⟨hctl, _⟩, _⟩ := hseg (mach0.setDiscardBom false) () ⟨ctl_start, noattr_start⟩ trivial
      obtain ⟨hrun, hout⟩ := run_of_gsteps o pol hg (data_suspend o ho pol m' hctl) tinv_start _ hmu
      refine ⟨m', _, hrun, finish_idle o ho pol m' hctl, ?_⟩
      simp only [emit, Mach.setAtEof, List.reverse_cons, List.map_append, List.map_cons, List.map_nil,
        List.map_reverse]
      rw [hout]; simp [mach0, Mach.setDiscardBom]
    | pending nm v c cs' toks' hr hv htoks _ hseg =>
      obtain ⟨m', _, hg, ⟨cr, hcr, hd, _⟩, _⟩ := hseg (mach0.setDiscardBom false) () ⟨ctl_start, noattr_start⟩ trivial
      obtain ⟨hrun, hout⟩ := run_of_gsteps o pol hg (cr_suspend o pol m' _ cr hcr) tinv_start _ hmu
      obtain ⟨m2, hfin, l1, l2, hout2⟩ := finish_pending o ho pol m' cr nm v hcr hd hr
      refine ⟨m', m2, hrun, hfin, ?_⟩
      rw [hout2, htoks, ← hv]
      simp only [List.reverse_cons, List.map_append, List.map_cons, List.map_nil, List.map_reverse]
      rw [hout]; simp [mach0, Mach.setDiscardBom]

/-! ### merging adjacent character tokens -/

def startsChars : List Token → Bool
  | .chars _ :: _ => true
  | _ => false

theorem mergeChars_startsChars (l : List Token) (h : startsChars l = false) : startsChars (mergeChars l) = false := by
  cases l with
  | nil => rfl
  | cons t r =>
    cases t with
    | chars s => simp [startsChars] at h
    | _ => simp [mergeChars, startsChars]

theorem mergeChars_cons_other (t : Token) (r : List Token) (h : startsChars [t] = false) :
    mergeChars (t :: r) = t :: mergeChars r := by
  cases t with
  | chars s => simp [startsChars] at h
  | _ => simp [mergeChars]

/-- one character token per character, followed by something that does not begin with characters,
merges into one token -/
theorem mergeChars_text (s : Str) (hs : s ≠ []) (rest : List Token) (hr : startsChars rest = false) :
    mergeChars (s.map (fun c => Token.chars [c]) ++ rest) = .chars s :: mergeChars rest := by
  induction s with
  | nil => exact absurd rfl hs
  | cons c s ih =>
    cases s with
    | nil =>
      have h2 := mergeChars_startsChars rest hr
      simp only [List.map_cons, List.map_nil, List.cons_append, List.nil_append, mergeChars]
      split
      · rename_i b r' heq; rw [heq] at h2; simp [startsChars] at h2
      · rfl
    | cons c' s' =>
      have := ih (by simp)
      simp only [List.map_cons, List.cons_append] at this ⊢
      rw [mergeChars, this]
      rfl

mutual
theorem merge_node : ∀ (t : HNode) (rest : List Token), okNode t = true →
    (t.isText = true → startsChars rest = false) →
    mergeChars (tokTokens1 t ++ rest) = tokTokens t ++ mergeChars rest
  | .text s, rest, hok, hr => by
    simp only [tokTokens1, tokTokens]
    rw [mergeChars_text s (okNode_text hok) rest (hr rfl)]; rfl
  | .elem n as ch, rest, hok, _ => by
    simp only [okNode, Bool.and_eq_true] at hok
    simp only [tokTokens1, tokTokens, List.cons_append, List.append_assoc, List.nil_append]
    rw [mergeChars_cons_other _ _ rfl, merge_forest ch (.tag (tokEnd n) :: rest) hok.1.2 hok.2 (fun _ => rfl),
      mergeChars_cons_other _ _ rfl]
theorem merge_forest : ∀ (f : Forest) (rest : List Token), okForest f = true → noAdjText f = true →
    (f ≠ [] → startsChars rest = false) →
    mergeChars (tokTokens1F f ++ rest) = tokTokensF f ++ mergeChars rest
  | [], rest, _, _, _ => by simp [tokTokens1F, tokTokensF]
  | [t], rest, hok, _, hr => by
    simp only [okForest, Bool.and_eq_true] at hok
    simp only [tokTokens1F, tokTokensF, List.append_nil]
    exact merge_node t rest hok.1 (fun _ => hr (by simp))
  | t :: u :: r, rest, hok, hadj, hr => by
    simp only [okForest, Bool.and_eq_true] at hok
    simp only [noAdjText, Bool.and_eq_true, Bool.not_eq_true'] at hadj
    have ih := merge_forest (u :: r) rest (by simp [okForest, hok.2]) hadj.2 (fun _ => hr (by simp))
    have hstart : t.isText = true → startsChars (tokTokens1F (u :: r) ++ rest) = false := by
      intro ht
      have hu : u.isText = false := by
        cases hu : u.isText with
        | false => rfl
        | true => simp [ht, hu] at hadj
      cases u with
      | text s => simp [HNode.isText] at hu
      | elem n as ch => simp [tokTokens1F, tokTokens1, startsChars]
    rw [show tokTokens1F (t :: u :: r) = tokTokens1 t ++ tokTokens1F (u :: r) from rfl,
      show tokTokensF (t :: u :: r) = tokTokens t ++ tokTokensF (u :: r) from rfl, List.append_assoc,
      merge_node t _ hok.1 hstart, ih, List.append_assoc]
end

/-- merging adjacent character tokens of the per-character stream gives one token per text node -/
theorem mergeChars_tokens (f : Forest) (hf : Ordinary f) :
    mergeChars (tokTokens1F f ++ [.eof]) = tokTokensF f ++ [.eof] := by
  rw [merge_forest f [.eof] hf.1 hf.2 (fun _ => rfl)]; rfl

end H5V.Lemmas.HtmlRT
