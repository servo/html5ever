import H5V.Lemmas.HtmlTokSpecReader
import H5V.Lemmas.HtmlTokSpecLag
import H5V.Lemmas.HtmlTokSpecTabSet
import H5V.Lemmas.HtmlTokSpecTabTag
import H5V.Lemmas.HtmlTokSpecTabRaw
import H5V.Lemmas.HtmlTokSpecTabComment
import H5V.Lemmas.HtmlTokSpecLook
import H5V.Lemmas.HtmlTokSpecCRNum
import H5V.Lemmas.HtmlTokSpecCRNamed
/-!
# C01 simulation — the step theorem: one `Tokenizer::step` of the model against `k ≥ 0` steps of the
WHATWG tokenization algorithm, for every configuration in the relation

First the states read with `pop_except_from` / the data state's read (no character reference in
progress, no lag), including the start of a character reference on `&`; then the states read with
`get_char!`; then all of them.
-/
set_option linter.unusedSimpArgs false
set_option linter.unusedVariables false
namespace H5V.Lemmas.HtmlTokSpec
open H5V.Model.HtmlTok
open H5V.Spec.HtmlTokenizer (St Tok Emit Tree Switch Ctl ReturnSt normalizeNewlinesFrom normalizeNewlines)

/-- the register part of the relation, with or without a character reference in progress -/
structure RegCoreG (m : Mach) (t : Tok) (rest : Str) : Prop where
  std : Std m.state
  st : StRelD m t rest
  reg : RegRel m t
  out : OutRel m t
  crg : ∀ cr, m.charRef = some cr → CRStG cr cr.state

theorem RegCore.toG {m : Mach} {t : Tok} (h : RegCore m t) (rest : Str) : RegCoreG m t rest := by
  refine ⟨h.std, ?_, h.reg, h.out, fun cr hc => ?_⟩
  · unfold StRelD; rw [h.cr]; exact h.st
  · rw [h.cr] at hc; simp at hc

theorem RelCore.ofG {m : Mach} {inp : Str} {t : Tok} {rest : Str} (h : RegCoreG m t rest)
    (hi : InpRel m inp rest) (ht : TInv m) : RelCore m inp t rest :=
  ⟨⟨h.std, h.st, h.reg, h.out, hi⟩, ht, h.crg⟩

/-- `TabOk` allowing the table to start a character reference -/
def TabOkG (tree : Tree) (t : Tok) (c : Char) (rest : Str) (r : Mach × Sig) : Prop :=
  r.2 = .cont ∧ Reach tree t (c :: rest) (fun t' rest' =>
     rest' = (if r.1.reconsume then c :: rest else rest) ∧ RegCoreG r.1 t' rest')

theorem TabOk.toG {tree : Tree} {t : Tok} {c : Char} {rest : Str} {r : Mach × Sig}
    (h : TabOk tree t c rest r) : TabOkG tree t c rest r :=
  ⟨h.1, h.2.mono fun t' r' hp => ⟨hp.1, hp.2.toG r'⟩⟩

/-! ## `&` starts a character reference -/

theorem amp_reach (tree : Tree) (m : Mach) (t : Tok) (rest : Str) (h : RegCore m t) (R : ReturnSt)
    (hR : R.toSt = stOf m.state) (hret : isRet m.state = true)
    (hmain : ∀ t0 : Tok, t0.state = stOf m.state → sstep tree t0 ('&' :: rest) =
      ((t0.setReturnState R).switchTo .characterReference)) :
    Reach tree t ('&' :: rest) (fun t' rest' => rest' = rest ∧
      RegCoreG (m.setCharRef (some { inAttr := isAttrValueState m.state })) t' rest') := by
  obtain ⟨hstd, hst, hcr, hreg, hout⟩ := h
  have fin : ∀ t0 : Tok, t0.state = stOf m.state → RegRel m t0 → OutRel m t0 →
      sstep tree t0 ('&' :: rest) = ((t0.setReturnState R).switchTo .characterReference) →
      Reach tree t0 ('&' :: rest) (fun t' rest' => rest' = rest ∧
        RegCoreG (m.setCharRef (some { inAttr := isAttrValueState m.state })) t' rest') := by
    intro t0 h0 hreg0 hout0 hs0
    refine Reach.stepEq hs0 (Reach.done ⟨rfl, ?_⟩)
    refine ⟨hstd, ?_, hreg0, hout0, ?_⟩
    · unfold StRelD
      simp only [Mach.setCharRef]
      exact ⟨hret, hR, rfl, rfl, by simp [crFresh]⟩
    · intro cr hc
      simp only [Mach.setCharRef, Option.some.injEq] at hc
      subst hc
      trivial
  rcases hst with hst | hst
  · exact fin t hst hreg hout (hmain t hst)
  · -- the specification is in the ambiguous ampersand state: `&` is reconsumed in the return state
    unfold altSt at hst
    rcases hst with ⟨ha, _, hrs⟩ | ⟨hs, _⟩ | ⟨hs, _⟩ | ⟨hs, _⟩
    · have hstep : sstep tree t ('&' :: rest) = ({ t with state := stOf m.state }, .advance 0) := by
        simp (config := {decide := true}) [sstep, H5V.Spec.HtmlTokenizer.step, ha,
          H5V.Spec.HtmlTokenizer.ambiguousAmpersandState, Tok.reconsumeIn, hrs,
          H5V.Spec.HtmlTokenizer.isAsciiAlphanumeric, H5V.Spec.HtmlTokenizer.isAsciiDigit,
          H5V.Spec.HtmlTokenizer.isAsciiAlpha, H5V.Spec.HtmlTokenizer.isAsciiUpperAlpha,
          H5V.Spec.HtmlTokenizer.isAsciiLowerAlpha]
      refine Reach.stepEq hstep ?_
      exact fin { t with state := stOf m.state } rfl hreg hout (hmain _ rfl)
    · rw [hs] at hret; simp [isRet] at hret
    · rw [hs] at hret; simp [isRet] at hret
    · rw [hs] at hret; simp [isRet] at hret

/-- the table lemma for `&` in the five states that start a character reference -/
theorem amp_tab (o : Opts) (pol : Pol) (tree : Tree) (m : Mach) (t : Tok) (rest : Str) (h : RegCore m t)
    (hr : m.reconsume = false)
    (hs : m.state = .data ∨ m.state = .rawData .rcdata ∨ ∃ k, m.state = .attributeValue k) :
    TabOkG tree t '&' rest (transSet o pol m (.fromSet '&')) := by
  have hcr := h.cr
  have hres : transSet o pol m (.fromSet '&') =
      (m.setCharRef (some { inAttr := isAttrValueState m.state }), .cont) := by
    rw [← consumeCharRef_ok m hcr]
    unfold transSet
    rcases hs with hs | hs | ⟨k, hs⟩
    · simp (config := {decide := true}) [hs]
    · simp (config := {decide := true}) [hs]
    · cases k <;> simp (config := {decide := true}) [hs, isWs]
  rw [hres]
  refine ⟨rfl, ?_⟩
  have hrec : (m.setCharRef (some { inAttr := isAttrValueState m.state })).reconsume = false := hr
  simp only [hrec, Bool.false_eq_true, if_false]
  rcases hs with hs | hs | ⟨k, hs⟩
  · refine amp_reach tree m t rest h .data (by rw [hs]; rfl) (by rw [hs]; rfl) ?_
    intro t0 h0
    rw [hs] at h0
    simp [sstep, H5V.Spec.HtmlTokenizer.step, h0, stOf, H5V.Spec.HtmlTokenizer.dataState]
  · refine amp_reach tree m t rest h .rcdata (by rw [hs]; rfl) (by rw [hs]; rfl) ?_
    intro t0 h0
    rw [hs] at h0
    simp [sstep, H5V.Spec.HtmlTokenizer.step, h0, stOf, H5V.Spec.HtmlTokenizer.rcdataState]
  · cases k
    · refine amp_reach tree m t rest h .attributeValueUnquoted (by rw [hs]; rfl) (by rw [hs]; rfl) ?_
      intro t0 h0
      rw [hs] at h0
      simp [sstep, H5V.Spec.HtmlTokenizer.step, h0, stOf, H5V.Spec.HtmlTokenizer.attributeValueUnquotedState]
    · refine amp_reach tree m t rest h .attributeValueSingleQuoted (by rw [hs]; rfl) (by rw [hs]; rfl) ?_
      intro t0 h0
      rw [hs] at h0
      simp [sstep, H5V.Spec.HtmlTokenizer.step, h0, stOf, H5V.Spec.HtmlTokenizer.attributeValueSingleQuotedState]
    · refine amp_reach tree m t rest h .attributeValueDoubleQuoted (by rw [hs]; rfl) (by rw [hs]; rfl) ?_
      intro t0 h0
      rw [hs] at h0
      simp [sstep, H5V.Spec.HtmlTokenizer.step, h0, stOf, H5V.Spec.HtmlTokenizer.attributeValueDoubleQuotedState]

/-! ## all set states -/

/-- `transSet` on a character delivered as `FromSet` -/
theorem set_from (o : Opts) (ho : o.exactErrors = false) (pol : Pol) (tree : Tree) (hpt : PolTree pol tree)
    (m : Mach) (t : Tok) (c : Char) (rest : Str) (h : RegCore m t) (hr : m.reconsume = false)
    (hrk : readKind m.state = .popExcept ∨ readKind m.state = .dataSimd) :
    TabOkG tree t c rest (transSet o pol m (.fromSet c)) := by
  by_cases hu : m.state = .attributeValue .unquoted ∧ c ≠ '&'
  · exact (set_attrUq o ho pol tree hpt m t c rest h hr hu.1 hu.2).toG
  by_cases hamp : c = '&' ∧ '&' ∈ setOf m.state
  · obtain ⟨rfl, hin⟩ := hamp
    refine amp_tab o pol tree m t rest h hr ?_
    cases hs : m.state with
    | data => exact Or.inl rfl
    | rawData k => rcases k with _ | _ | _ | (_ | _) <;> first | exact Or.inr (Or.inl rfl) | (rw [hs] at hin; simp [setOf] at hin)
    | attributeValue k => exact Or.inr (Or.inr ⟨k, rfl⟩)
    | _ => rw [hs] at hin; simp [setOf] at hin
  · refine (set_states o ho pol tree m t c rest h hr hrk (fun hs => hu ⟨hs, ?_⟩) fun hin hc => hamp ⟨hc, hin⟩).toG
    rintro rfl
    exact hamp ⟨rfl, by rw [hs]; decide⟩

/-- `transSet` on a one-character run -/
theorem set_notFrom (o : Opts) (ho : o.exactErrors = false) (pol : Pol) (tree : Tree)
    (m : Mach) (t : Tok) (c : Char) (rest : Str) (h : RegCore m t) (hr : m.reconsume = false)
    (hrk : readKind m.state = .popExcept ∨ readKind m.state = .dataSimd) (hnot : c ∉ setOf m.state) :
    TabOk tree t c rest (transSet o pol m (.notFromSet [c])) := by
  by_cases hu : m.state = .attributeValue .unquoted
  · exact nset_attrUq o ho pol tree m t c rest h hr hu hnot
  rw [transSet_notFromSet_single o pol m c hnot hu]
  exact set_states o ho pol tree m t c rest h hr hrk hu fun hin hc => hnot (hc ▸ hin)

/-! ## from the table to the step -/

/-- a table result after a read: the step is a Continue and the whole relation holds again -/
theorem finish_tab (o : Opts) (pol : Pol) (tree : Tree) (m : Mach) (inp : Str) (t : Tok) (rest : Str)
    (ht : TInv m) (m1 : Mach) (inp1 : Str) (c : Char) (hro : ReadOk m rest c m1 inp1)
    (res : Mach × Sig) (hil : res.1.ignoreLf = m1.ignoreLf) (hcc : res.1.currentChar = m1.currentChar)
    (hstash : stash res.1 = []) (htab : TabOkG tree t c (normalizeNewlinesFrom m1.ignoreLf inp1) res)
    (hstep : step o pol m inp = ofSig res inp1) : StepOk tree t rest (step o pol m inp) := by
  obtain ⟨hsig, hreach⟩ := htab
  have hres : ofSig res inp1 = .cont res.1 inp1 := by unfold ofSig; rw [hsig]
  have htinv : TInv res.1 := step_tinv o pol m inp ht res.1 inp1 (by rw [hstep, hres]; rfl)
  rw [hstep, hres, stepOk_cont, hro.rest_eq]
  refine hreach.mono fun t' rest' hp => ?_
  obtain ⟨hr', hg⟩ := hp
  refine (RelCore.ofG hg ?_ htinv).toRel
  unfold InpRel
  rw [hstash, List.nil_append, hil, hr']
  have hc1 : m1.currentChar = c := by rw [hro.upd]; rfl
  unfold rc
  split <;> simp [hcc, hc1]

theorem stash_nil_of_state {m : Mach} (hcr : m.charRef = none)
    (h : m.state ≠ .markupDeclarationOpen ∧ m.state ≠ .afterDoctypeName) : stash m = [] :=
  stash_nil_of hcr (fun hs => by rcases hs with hs | hs; exact absurd hs h.1; exact absurd hs h.2)

/-- **step lemma, bulk-read states** -/
theorem step_set_sim (o : Opts) (ho : o.exactErrors = false) (pol : Pol) (tree : Tree) (hpt : PolTree pol tree)
    (m : Mach) (inp : Str) (t : Tok) (rest : Str) (h : RelCore m inp t rest) (hcr : m.charRef = none)
    (hrk : readKind m.state = .popExcept ∨ readKind m.state = .dataSimd) :
    StepOk tree t rest (step o pol m inp) := by
  have hne : m.state ≠ .markupDeclarationOpen ∧ m.state ≠ .afterDoctypeName := by
    constructor <;> (intro hs; rw [hs] at hrk; simp [readKind] at hrk)
  have hst := stash_nil_of_state hcr hne
  have hreg := h.regCore hcr
  -- the two kinds of read, uniformly
  have key : ∀ (rd : Option SetRes × Mach × Str), step o pol m inp = contSet o pol rd →
      (∀ r m1 inp1, rd = (some r, m1, inp1) → SetReadOk (setOf m.state) m inp rest r m1 inp1) →
      (∀ m1 inp1, rd = (none, m1, inp1) → rest = [] ∧ inp1 = [] ∧ m1.reconsume = false ∧ stash m1 = [] ∧
        InpRel m1 inp1 rest ∧ ∃ il, m1 = readerUpd m il false m.line m.currentChar) →
      StepOk tree t rest (step o pol m inp) := by
    intro rd hstep hsome hnone
    obtain ⟨ores, m1, inp1⟩ := rd
    cases ores with
    | none =>
      obtain ⟨_, _, _, _, hin1, il, hm1⟩ := hnone m1 inp1 rfl
      have hs' : step o pol m inp = .suspend m1 inp1 := by rw [hstep]; rfl
      have htinv : TInv m1 := step_tinv o pol m inp h.tinv m1 inp1 (by rw [hs']; rfl)
      rw [hs', stepOk_suspend]
      refine (RelCore.ofRegCore ?_ hin1 htinv).toRel
      rw [hm1]; exact hreg.readerUpd _ _ _ _
    | some r =>
      have hs' : step o pol m inp = ofSig (transSet o pol m1 r) inp1 := by rw [hstep]; rfl
      rcases hsome r m1 inp1 rfl with ⟨c, hr, hro⟩ | ⟨c, hr, hnot, hrec, hil, hm1, hinp, hrest⟩
      · subst hr
        have hm1 := hro.upd
        have hreg1 : RegCore m1 t := by rw [hm1]; exact hreg.readerUpd _ _ _ _
        have hrec1 : m1.reconsume = false := by rw [hm1]; rfl
        have hst1 : m1.state = m.state := by rw [hm1]; rfl
        have hcr1 : m1.charRef = none := by rw [hm1]; exact hcr
        have htb1 : m1.tempBuf = m.tempBuf := by rw [hm1]; rfl
        have hrk1 : readKind m1.state = .popExcept ∨ readKind m1.state = .dataSimd := by rw [hst1]; exact hrk
        have htab := set_from o ho pol tree hpt m1 t c (normalizeNewlinesFrom m1.ignoreLf inp1) hreg1 hrec1 hrk1
        refine finish_tab o pol tree m inp t rest h.tinv m1 inp1 c hro _ (transSet_ignoreLf o pol m1 _)
          (transSet_currentChar o pol m1 _) ?_ htab hs'
        -- the stash of the new machine is empty
        have hne' := transSet_not_eat o pol m1 (.fromSet c) (by rw [hst1]; exact hne)
        rcases (transSet_charRef o pol m1 (.fromSet c) hcr1 hrk1).2 with hc | ⟨hc, _, _⟩
        · exact stash_nil_of_state hc hne'
        · unfold stash; rw [hc]; rfl
      · subst hr
        rw [hm1] at hs'
        have htab := (set_notFrom o ho pol tree m t c (normalizeNewlinesFrom false inp1) hreg hrec hrk hnot).toG
        obtain ⟨hsig, hreach⟩ := htab
        have hres : ofSig (transSet o pol m (.notFromSet [c])) inp1 =
            .cont (transSet o pol m (.notFromSet [c])).1 inp1 := by unfold ofSig; rw [hsig]
        have htinv : TInv (transSet o pol m (.notFromSet [c])).1 :=
          step_tinv o pol m inp h.tinv _ inp1 (by rw [hs', hres]; rfl)
        rw [hs', hres, stepOk_cont, hrest]
        refine hreach.mono fun t' rest' hp => ?_
        obtain ⟨hr', hg⟩ := hp
        refine (RelCore.ofG hg ?_ htinv).toRel
        have hne' := transSet_not_eat o pol m (.notFromSet [c]) hne
        have hstash' : stash (transSet o pol m (.notFromSet [c])).1 = [] := by
          rcases (transSet_charRef o pol m (.notFromSet [c]) hcr hrk).2 with hc | ⟨hc, _, _⟩
          · exact stash_nil_of_state hc hne'
          · unfold stash; rw [hc]; rfl
        unfold InpRel
        rw [hstash', List.nil_append, transSet_ignoreLf, hil, hr']
        have : (transSet o pol m (.notFromSet [c])).1.reconsume = false := by
          rw [transSet_reconsume]; exact hrec
        simp [rc, this]
  rcases hrk with hk | hk
  · refine key _ (step_popExcept o pol m inp hcr hk) ?_ ?_
    · intro r m1 inp1 hrd
      have hS : '\r' ∈ setOf m.state ∧ '\n' ∈ setOf m.state := by
        have := setOf_crlf m.state (Or.inl hk); simpa using this
      exact popExceptFrom_rel o ho _ hS m inp r m1 inp1 hrd hst rest h.inp
    · intro m1 inp1 hrd
      exact popExceptFrom_none_rel o _ m inp m1 inp1 hrd hst rest h.inp
  · have hsd : m.state = .data := by
      cases hs : m.state <;> rw [hs] at hk <;> simp [readKind] at hk
    refine key _ (step_dataSimd o pol m inp hcr hk) ?_ ?_
    · intro r m1 inp1 hrd
      rw [hsd]
      exact readData_rel o ho m inp r m1 inp1 hrd hst rest h.inp
    · intro m1 inp1 hrd
      exact readData_none_rel o m inp m1 inp1 hrd hst rest h.inp

/-- the table lemma for every state read with `get_char!` -/
theorem tab_getChar (o : Opts) (ho : o.exactErrors = false) (pol : Pol) (tree : Tree) (hpt : PolTree pol tree)
    (m : Mach) (t : Tok) (c : Char) (rest : Str) (h : RegCore m t) (hr : m.reconsume = false)
    (hrk : readKind m.state = .getChar) : TabOk tree t c rest (transChar o pol m c) := by
  cases hs : m.state with
  | tagOpen | endTagOpen | tagName | beforeAttributeName | attributeName | afterAttributeName
  | afterAttributeValueQuoted | selfClosingStartTag =>
    exact tab_tags o ho pol tree hpt m t c rest h hr (by simp [hs])
  | rawLessThanSign k => exact tab_rawLessThanSign k o ho pol tree m t c rest h hr hs
  | rawEndTagOpen k =>
    exact tab_rawEndTagOpen k o ho pol tree m t c rest h hr hs (by rintro rfl; exact h.std.1 hs)
  | rawEndTagName k =>
    exact tab_rawEndTagName k o ho pol tree hpt m t c rest h hr hs (by rintro rfl; exact h.std.2 hs)
  | scriptDataEscapeStart k => exact tab_scriptDataEscapeStart k o ho pol tree m t c rest h hr hs
  | scriptDataEscapeStartDash => exact tab_scriptDataEscapeStartDash o ho pol tree m t c rest h hr hs
  | scriptDataEscapedDash k => exact tab_scriptDataEscapedDash k o ho pol tree m t c rest h hr hs
  | scriptDataEscapedDashDash k => exact tab_scriptDataEscapedDashDash k o ho pol tree m t c rest h hr hs
  | scriptDataDoubleEscapeEnd => exact tab_scriptDataDoubleEscapeEnd o ho pol tree m t c rest h hr hs
  | commentStart | commentStartDash | comment | commentLessThanSign | commentLessThanSignBang
  | commentLessThanSignBangDash | commentLessThanSignBangDashDash | commentEndDash | commentEnd | commentEndBang
  | bogusComment => exact tab_comments o ho pol tree m t c rest h hr (by rw [hs]; rfl)
  | cdataSection | cdataSectionBracket | cdataSectionEnd =>
    exact tab_cdata o ho pol tree m t c rest h hr (by rw [hs]; rfl)
  | doctype | beforeDoctypeName | doctypeName | betweenDoctypePublicAndSystemIdentifiers | bogusDoctype =>
    exact tab_doctypes o ho pol tree m t c rest h hr (by simp [hs, usesDoctype]) (by simp [hs])
  | afterDoctypeKeyword k | beforeDoctypeIdentifier k | doctypeIdentifierDoubleQuoted k
  | doctypeIdentifierSingleQuoted k | afterDoctypeIdentifier k =>
    exact tab_doctypes o ho pol tree m t c rest h hr (by simp [hs, usesDoctype]) (by simp [hs])
  | _ => rw [hs] at hrk; simp [readKind] at hrk

/-- **step lemma, `get_char!` states** -/
theorem step_getChar_sim (o : Opts) (ho : o.exactErrors = false) (pol : Pol) (tree : Tree)
    (hpt : PolTree pol tree) (m : Mach) (inp : Str) (t : Tok) (rest : Str) (h : RelCore m inp t rest)
    (hcr : m.charRef = none) (hrk : readKind m.state = .getChar) :
    StepOk tree t rest (step o pol m inp) := by
  have hf := readKind_getChar_facts hrk
  have hne : m.state ≠ .markupDeclarationOpen ∧ m.state ≠ .afterDoctypeName := ⟨hf.1, hf.2.2⟩
  have hst := stash_nil_of_state hcr hne
  have hreg := h.regCore hcr
  have hstep := step_getChar o pol m inp hcr hrk
  cases hg : getChar o m inp with
  | mk oc r2 =>
    obtain ⟨m1, inp1⟩ := r2
    rw [hg] at hstep
    cases oc with
    | none =>
      obtain ⟨_, _, _, _, hin1, il, hm1⟩ := getChar_none_rel o m inp m1 inp1 hg hst rest h.inp
      have hs' : step o pol m inp = .suspend m1 inp1 := by rw [hstep]; rfl
      have htinv : TInv m1 := step_tinv o pol m inp h.tinv m1 inp1 (by rw [hs']; rfl)
      rw [hs', stepOk_suspend]
      refine (RelCore.ofRegCore ?_ hin1 htinv).toRel
      rw [hm1]; exact hreg.readerUpd _ _ _ _
    | some c =>
      have hs' : step o pol m inp = ofSig (transChar o pol m1 c) inp1 := by rw [hstep]; rfl
      have hro := getChar_rel o ho m inp c m1 inp1 hg hst rest h.inp
      have hm1 := hro.upd
      have hreg1 : RegCore m1 t := by rw [hm1]; exact hreg.readerUpd _ _ _ _
      have hrec1 : m1.reconsume = false := by rw [hm1]; rfl
      have hst1 : m1.state = m.state := by rw [hm1]; rfl
      have hcr1 : m1.charRef = none := by rw [hm1]; exact hcr
      have htb1 : m1.tempBuf = m.tempBuf := by rw [hm1]; rfl
      have htab := (tab_getChar o ho pol tree hpt m1 t c (normalizeNewlinesFrom m1.ignoreLf inp1) hreg1 hrec1
        (by rw [hst1]; exact hrk)).toG
      refine finish_tab o pol tree m inp t rest h.tinv m1 inp1 c hro _ (transChar_ignoreLf o pol m1 c)
        (transChar_currentChar o pol m1 c) ?_ htab hs'
      -- the stash of the new machine is empty: `temp_buf` is empty outside the raw text states
      have hN : isRaw m1.state = false → m1.tempBuf = [] := by
        intro hraw
        rw [htb1]
        exact h.tinv.linv.nr (by rw [← hst1]; exact hraw) hne.1 hne.2
      have hcr' : (transChar o pol m1 c).1.charRef = none := by rw [transChar_charRef]; exact hcr1
      apply stash_nil_of hcr'
      intro hs2
      by_cases ht : (transChar o pol m1 c).1.tempBuf = []
      · exact ht
      · have := transChar_nr o pol m1 c hN ht
        rcases hs2 with hs2 | hs2 <;> rw [hs2] at this <;> simp [isRaw] at this

/-- **the step theorem**: every step of the model from a configuration in the relation is matched by
`k ≥ 0` steps of the specification; the model neither pauses nor panics -/
theorem step_sim (o : Opts) (ho : o.exactErrors = false) (pol : Pol) (tree : Tree) (hpt : PolTree pol tree)
    (m : Mach) (inp : Str) (t : Tok) (rest : Str) (h : Rel m inp t rest) :
    StepOk tree t rest (step o pol m inp) := by
  obtain ⟨lag, inp0, hinp, hok, hc⟩ := h
  cases lag with
  | cons c lag' =>
    subst hinp
    exact step_lag_sim o ho pol tree m t rest c lag' inp0 hok hc
  | nil =>
    simp only [List.nil_append] at hinp
    subst hinp
    have hc : RelCore m inp t rest := by simpa [absorb] using hc
    cases hcr : m.charRef with
    | some cr =>
      rw [step_kind_charRef o pol m inp cr hcr]
      cases hcs : cr.state with
      | named => exact stepCharRef_sim_named o ho pol tree m inp t rest hc cr hcr (Or.inl hcs)
      | bogusName => exact stepCharRef_sim_named o ho pol tree m inp t rest hc cr hcr (Or.inr hcs)
      | begin => exact stepCharRef_sim_num o ho pol tree m inp t rest hc cr hcr (Or.inl hcs)
      | octothorpe => exact stepCharRef_sim_num o ho pol tree m inp t rest hc cr hcr (Or.inr (Or.inl hcs))
      | numeric b => exact stepCharRef_sim_num o ho pol tree m inp t rest hc cr hcr (Or.inr (Or.inr (Or.inl ⟨b, hcs⟩)))
      | numericSemicolon =>
        exact stepCharRef_sim_num o ho pol tree m inp t rest hc cr hcr (Or.inr (Or.inr (Or.inr hcs)))
    | none =>
      cases hrk : readKind m.state with
      | getChar => exact step_getChar_sim o ho pol tree hpt m inp t rest hc hcr hrk
      | popExcept => exact step_set_sim o ho pol tree hpt m inp t rest hc hcr (Or.inl hrk)
      | dataSimd => exact step_set_sim o ho pol tree hpt m inp t rest hc hcr (Or.inr hrk)
      | peekBav =>
        have hs := readKind_bav hrk
        rw [look_step_bav o pol m inp hcr hs]
        exact stepBav_sim o ho pol tree hpt m inp t rest hc hcr hs
      | eatMdo =>
        have hs := readKind_mdo hrk
        rw [look_step_mdo o pol m inp hcr hs]
        exact stepMdo_sim o ho pol tree hpt m inp t rest hc hcr hs
      | eatAdn =>
        have hs := readKind_adn hrk
        rw [look_step_adn o pol m inp hcr hs]
        exact stepAdn_sim o ho pol tree hpt m inp t rest hc hcr hs

end H5V.Lemmas.HtmlTokSpec
