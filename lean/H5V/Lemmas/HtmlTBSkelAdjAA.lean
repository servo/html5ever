import H5V.Lemmas.HtmlTBSkelShapeAF
/-!
C06, third invariant layer (adjacent text): the arena calls of the adoption agency
(`remove_from_parent`, `append` of an existing node, `reparent_children`) and the stack edits
(`set`, `insert`, `remove`) under `AdjD`.
-/
namespace H5V.Props.C06
open H5V.Model.Dom hiding Str
open H5V.Model.HtmlTB hiding Str
open H5V.Lemmas.Dom

/-! ### lists -/

theorem before_trans : ∀ {l : List Id} {a b c : Id}, l.Nodup → Before l a b → Before l b c → Before l a c
  | [], _, _, _, _, h1, _ => by cases h1
  | x :: t, a, b, c, hn, h1, h2 => by
    have hnt : t.Nodup := (List.nodup_cons.mp hn).2
    have hxt : x ∉ t := (List.nodup_cons.mp hn).1
    unfold Before at h1 h2 ⊢
    cases h1 with
    | cons _ h1' =>
      cases h2 with
      | cons _ h2' => exact List.Sublist.cons _ (before_trans hnt h1' h2')
      | cons_cons _ h2' =>
        -- x = b, but b ∈ t
        exact absurd (h1'.subset (by simp)) hxt
    | cons_cons _ h1' =>
      cases h2 with
      | cons _ h2' =>
        have hc : c ∈ t := h2'.subset (by simp)
        exact List.Sublist.cons_cons _ (List.singleton_sublist.mpr hc)
      | cons_cons _ h2' =>
        exact absurd (h1'.subset (by simp)) hxt

theorem before_append {low high : List Id} {y x : Id} (hy : y ∈ low) (hx : x ∈ high) : Before (low ++ high) y x :=
  List.Sublist.append (List.singleton_sublist.mpr hy) (List.singleton_sublist.mpr hx)

/-- what follows `c` on a duplicate-free stack is behind it -/
theorem mem_post_of_before {pre post : List Id} {c e : Id} (hn : (pre ++ c :: post).Nodup)
    (h : Before (pre ++ c :: post) c e) : e ∈ post := by
  have hne : c ≠ e := by rintro rfl; exact not_before_self hn _ h
  have hm := h.mem.2
  simp only [List.mem_append, List.mem_cons] at hm
  rcases hm with hm | hm | hm
  · exact absurd h (fun hb => before_antisymm hn hb (before_mid_pre hm))
  · exact absurd hm.symm hne
  · exact hm

theorem mem_pre_of_before' {pre post : List Id} {c e : Id} (hn : (pre ++ c :: post).Nodup)
    (h : Before (pre ++ c :: post) e c) : e ∈ pre := by
  have hne : c ≠ e := by rintro rfl; exact not_before_self hn _ h
  have hm := h.mem.1
  simp only [List.mem_append, List.mem_cons] at hm
  rcases hm with hm | hm | hm
  · exact hm
  · exact absurd hm.symm hne
  · exact absurd h (fun hb => before_antisymm hn (before_mid_post hm) hb)

/-- the decomposition of a list at an index -/
theorem split_at_index {α : Type} : ∀ {l : List α} {k : Nat} {x : α}, l[k]? = some x →
    ∃ h1 h2, l = h1 ++ x :: h2 ∧ h1.length = k
  | [], _, _, h => by simp at h
  | a :: t, 0, x, h => by
    simp only [List.getElem?_cons_zero, Option.some.injEq] at h
    exact ⟨[], t, by rw [h]; rfl, rfl⟩
  | a :: t, k + 1, x, h => by
    simp only [List.getElem?_cons_succ] at h
    obtain ⟨h1, h2, hl, hk⟩ := split_at_index h
    exact ⟨a :: h1, h2, by rw [hl]; rfl, by simp [hk]⟩

theorem set_split {α : Type} (h1 h2 : List α) (x y : α) : (h1 ++ x :: h2).set h1.length y = h1 ++ y :: h2 := by
  induction h1 with
  | nil => rfl
  | cons a t ih => simp only [List.cons_append, List.length_cons, List.set_cons_succ, ih]

theorem eraseIdx_split' {α : Type} (h1 h2 : List α) (x : α) : (h1 ++ x :: h2).eraseIdx h1.length = h1 ++ h2 := by
  induction h1 with
  | nil => rfl
  | cons a t ih => simp only [List.cons_append, List.length_cons, List.eraseIdx_cons_succ, ih]

theorem getElem?_split_succ {α : Type} (h1 h2 : List α) (x : α) :
    (h1 ++ x :: h2)[h1.length + 1]? = h2.head? := by
  induction h1 with
  | nil => cases h2 <;> rfl
  | cons a t ih => simpa using ih

theorem getElem?_split_self {α : Type} (h1 h2 : List α) (x : α) : (h1 ++ x :: h2)[h1.length]? = some x := by
  induction h1 with
  | nil => rfl
  | cons a t ih => simp [ih]

/-! ### names -/

theorem exm_of_keepName_false {n : EName} (h : keepName n = false) : exm n = false := by
  unfold exm
  rw [constrained_of_keepName_false h]
  cases hh : (n == hN "head") with
  | false => rfl
  | true => rw [beq_iff_eq.mp hh, keepName_head] at h; cases h

theorem not_table_of_keepName_false {n : EName} (h : keepName n = false) : n ≠ hN "table" := by
  rintro rfl; revert h; decide

theorem not_template_of_keepName_false {n : EName} (h : keepName n = false) : n ≠ hN "template" := by
  rintro rfl; rw [keepName_template] at h; cases h

theorem tc_not_element {d : Dom} (hb : DomBase d) {T p : Id} (hp : d.isElement p = true) :
    d.templateContentsOf T ≠ some p := by
  intro h
  have hdoc := (hb.tcOk T p h).2
  unfold Dom.isElement at hp
  rw [hdoc] at hp; cases hp

/-! ### `remove_from_parent` -/

theorem removeFromParent_adj {s s' : State} {x : Id} {u : Unit} {O : List Id} (h : AdjD s.dom O)
    (hx : s.dom.parentOf x = none ∨ (x ∈ O ∧ exm (nm s.dom x) = false))
    (e : sinkUnit (.removeFromParent x) s = .ok (u, s')) :
    AdjD s'.dom O ∧ s'.dom.parentOf x = none ∧ (∀ y, y ≠ x → s'.dom.parentOf y = s.dom.parentOf y) ∧
      (∀ Q, (s'.dom.childrenOf Q).Sublist (s.dom.childrenOf Q)) ∧ (∀ y, s'.dom.dataOf y = s.dom.dataOf y) ∧
      (∀ Q, x ∉ s'.dom.childrenOf Q) := by
  obtain ⟨out, e⟩ := sinkUnit_ok.mp e
  obtain ⟨d, hd, rfl⟩ := sink_ok.mp e
  show AdjD d O ∧ d.parentOf x = none ∧ (∀ y, y ≠ x → d.parentOf y = s.dom.parentOf y) ∧
      (∀ Q, (d.childrenOf Q).Sublist (s.dom.childrenOf Q)) ∧ (∀ y, d.dataOf y = s.dom.dataOf y) ∧
      (∀ Q, x ∉ d.childrenOf Q)
  rcases removeFromParent_ok (apply_remove hd) with ⟨hpn, rfl⟩ | ⟨p, i, hp, hi, hpar, hch, hdat, _, _⟩
  · refine ⟨h, hpn, fun _ _ => rfl, fun _ => List.Sublist.refl _, fun _ => rfl, fun Q hm => ?_⟩
    have := h.lk Q x hm; rw [hpn] at this; cases this
  · obtain ⟨hs1, hs2⟩ := split_of_indexOf hi
    have hrm : removeAt (s.dom.childrenOf p) i = (s.dom.childrenOf p).take i ++ (s.dom.childrenOf p).drop (i + 1) := rfl
    have hadj : AdjD d O := by
      refine h.remove (P := p) (t := x) (a := (s.dom.childrenOf p).take i) (b := (s.dom.childrenOf p).drop (i + 1))
        hs1 (by intro y; rw [hch, hrm]) hpar hdat ?_
      rcases hx with hx | ⟨hxO, hxx⟩
      · rw [hp] at hx; cases hx
      · exact h.ol x hxO hxx p _ _ hs1
    refine ⟨hadj, by rw [hpar]; simp, fun y hy => by rw [hpar]; simp [hy], fun Q => ?_, hdat, fun Q hm => ?_⟩
    · rw [hch]
      by_cases hQ : Q = p
      · subst hQ
        simp only [if_true, hrm]
        conv => rhs; rw [hs1]
        exact List.Sublist.append (List.Sublist.refl _) (List.sublist_cons_self _ _)
      · simp only [hQ, if_false]; exact List.Sublist.refl _
    · have := hadj.lk Q x hm
      rw [hpar] at this; simp at this

/-! ### `append(parent, node)` for an existing node -/

theorem appendNode_adj {s s' : State} {p x : Id} {u : Unit} {O : List Id} (h : AdjD s.dom O) (hb : DomBase s.dom)
    (hpx : p ≠ x) (hpe : s.dom.isElement p = true) (hcp : s.dom.parentOf x = none) (hct : s.dom.isText x = false)
    (hnt : nm s.dom x ≠ hN "table") (cPB : x ∈ O → p ∈ O → Before O p x)
    (e : sinkUnit (.append p (.node x)) s = .ok (u, s')) :
    AdjD s'.dom O ∧ (∀ Q, s'.dom.childrenOf Q = if Q = p then s.dom.childrenOf p ++ [x] else s.dom.childrenOf Q) ∧
      (∀ y, s'.dom.parentOf y = if y = x then some p else s.dom.parentOf y) ∧
      (∀ y, s'.dom.dataOf y = s.dom.dataOf y) := by
  obtain ⟨out, e⟩ := sinkUnit_ok.mp e
  obtain ⟨d, hd, rfl⟩ := sink_ok.mp e
  obtain ⟨_, h2, h1, h3⟩ := dom_appendNode_eff (apply_append hd) hpx
  refine ⟨?_, h2, h1, h3⟩
  refine h.insertNode (P := p) (a := s.dom.childrenOf p) (b := []) (by simp) (by simpa using h2) h1 h3 hcp hct
    (fun _ _ => rfl) cPB (fun T hT => absurd hT (tc_not_element hb hpe)) (fun hn => absurd hn hnt)
    (fun _ _ y hy => by cases hy)

/-! ### `reparent_children` into a fresh element -/

theorem reparent_adj {s s' : State} {n np : Id} {u : Unit} {O : List Id} (h : AdjD s.dom O) (hb : DomBase s.dom)
    (hnp : s.dom.childrenOf np = []) (hO : np ∉ O) (hnpe : s.dom.isElement np = true)
    (e : sinkUnit (.reparentChildren n np) s = .ok (u, s')) :
    AdjD s'.dom O ∧ s'.dom.childrenOf np = s.dom.childrenOf n ∧ s'.dom.childrenOf n = [] ∧
      (∀ Q, Q ≠ n → Q ≠ np → s'.dom.childrenOf Q = s.dom.childrenOf Q) ∧
      (∀ y, y ∉ s.dom.childrenOf n → s'.dom.parentOf y = s.dom.parentOf y) ∧
      (∀ y, s'.dom.dataOf y = s.dom.dataOf y) := by
  obtain ⟨out, e⟩ := sinkUnit_ok.mp e
  obtain ⟨d, hd, rfl⟩ := sink_ok.mp e
  obtain ⟨hne, _, _, hpar, hch, hdat, _, _⟩ := reparentChildren_ok (apply_reparent hd)
  refine ⟨h.reparent hne hnp hch hpar hdat hO (fun T _ => tc_not_element hb hnpe), ?_, ?_, ?_, ?_, hdat⟩
  · show d.childrenOf np = _
    rw [hch, hnp]; simp [Ne.symm hne]
  · show d.childrenOf n = _
    rw [hch]; simp
  · intro Q h1 h2
    show d.childrenOf Q = _
    rw [hch]; simp [h1, h2]
  · intro y hy
    show d.parentOf y = _
    rw [hpar]; simp [hy]


/-! ### the new element of the adoption agency is put on the stack right above the furthest block -/

theorem AdjD.insertChildAbove {d : Dom} {pre post : List Id} {fb new : Id} (h : AdjD d ((pre ++ [fb]) ++ post))
    (hnd : ((pre ++ [fb]) ++ post).Nodup) (hb : DomBase d) (hfbe : d.isElement fb = true) (hne : new ≠ fb)
    (hpar : d.parentOf new = some fb) (hch : d.childrenOf fb = [new]) (hk : keepName (nm d new) = false)
    (hkids : ∀ e ∈ d.childrenOf new, e ∈ (pre ++ [fb]) ++ post → Before ((pre ++ [fb]) ++ post) fb e) :
    AdjD d ((pre ++ [fb]) ++ new :: post) := by
  have hP : ∀ P, new ∈ d.childrenOf P → P = fb := fun P hm => by
    have := h.lk P new hm
    rw [hpar] at this; exact (Option.some.inj this).symm
  refine h.stackInsert ?_ ?_ ?_ ?_ ?_ ?_ ?_ ?_
  · intro _ P l1 l2 hc
    have := hP P (by rw [hc]; simp)
    subst this
    rw [hch] at hc
    cases l1 with
    | nil =>
      simp only [List.nil_append, List.cons.injEq] at hc
      rw [← hc.2]; rfl
    | cons a t =>
      simp only [List.cons_append, List.cons.injEq] at hc
      have := hc.2
      cases t <;> simp at this
  · intro hm
    exact hne (hP new hm)
  · intro P hm _
    rw [hP P hm]; simp
  · intro e he heO
    have hbf := hkids e he heO
    have : (pre ++ [fb]) ++ post = pre ++ fb :: post := by simp
    rw [this] at hbf hnd
    exact mem_post_of_before hnd hbf
  · intro T tc htc _ hm _
    have := hP tc hm
    subst this
    exact absurd htc (tc_not_element hb hfbe)
  · intro tc e _ hn
    exact absurd hn (not_template_of_keepName_false hk)
  · intro _ P y hbf
    have := hP P hbf.mem.1
    subst this
    rw [hch] at hbf
    have := List.Sublist.length_le hbf
    simp at this
  · intro hn
    exact absurd hn (not_table_of_keepName_false hk)

end H5V.Props.C06
