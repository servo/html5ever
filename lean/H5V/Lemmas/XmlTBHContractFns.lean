import H5V.Lemmas.XmlTBHContract
import H5V.Lemmas.XmlTBHNs
/-!
C05 for the handle-level XML tree builder: every function of the model, from
`process_namespaces` to `step`, returns normally, makes only calls within the `TreeSink` contract
(`Good`: the recorded calls are a `C20.Run`) and keeps the invariant.
-/
namespace H5V.Lemmas.XmlTBH
open H5V.Model.Dom (Id SinkOp Output Dom NodeOrText NodeData Contract QualName Attr ElementFlags)
open H5V.Model.XmlTB (Tag TbCfg Bound QName Token Phase)
open H5V.Model.XmlTBH
open H5V.Lemmas.Dom
open H5V.Lemmas.TBC (KExt kindOf apply_kext)
open H5V.Props.C20 (Inv Run)

theorem isContainer_kind (d : Dom) (x : Id) :
    d.isContainer x = ((d.dataOf x).map kindOf == some 0 || (d.dataOf x).map kindOf == some 4) := by
  unfold Dom.isContainer
  cases d.dataOf x with
  | none => rfl
  | some v => cases v <;> rfl

theorem isContainer_kext {d d' : Dom} (hk : KExt d d') {x : Id} (hx : x < d.size) :
    d'.isContainer x = d.isContainer x := by
  rw [isContainer_kind, isContainer_kind, hk x hx]

/-- the expanded name `name` names the element `h` -/
def Named (d : Dom) (name : QName) (h : Id) : Prop := nameOf d h = some (name.ns, name.loc)

theorem Named.of_data {d d' : Dom} {name : QName} {h : Id} (hn : Named d name h) (hd : d'.dataOf h = d.dataOf h) :
    Named d' name h := by
  unfold Named nameOf at hn ⊢; rw [hd]; exact hn

/-! ## `process_namespaces`, `create_element` -/

theorem sat_processNamespaces {s : State} (hg : Good s) (cfg : TbCfg) (t : Tag) :
    Sat (processNamespaces cfg t) s (fun b s' =>
      b = H5V.Model.XmlTB.processNamespaces cfg s.nsStack t ∧ Good s' ∧ Same s s') := by
  unfold processNamespaces
  refine Sat.read_bind ?_
  show Sat (parseErrs _ >>= _) s _
  refine (sat_parseErrs hg _).seq ?_
  intro _ s1 ⟨hg1, hs1⟩
  by_cases hp : H5V.Model.XmlTB.pushesMap t.kind (H5V.Model.XmlTB.processNamespaces cfg s.nsStack t).name = true
  · simp only [hp, if_true]
    refine Sat.modify_bind (Sat.pure ⟨rfl, hg1.ctl rfl rfl rfl (fun _ h => h), ?_⟩)
    exact ⟨⟨hs1.opened, hs1.phase, hs1.dts⟩, hs1.nodes⟩
  · simp only [hp]
    exact Sat.bind (Sat.pure (Sat.pure ⟨rfl, hg1, hs1⟩))

theorem sat_createElement {s : State} (hg : Good s) (b : Bound)
    (hn : Dom.attrKeysNodup (b.attrs.map toAttr) = true) :
    Sat (createElement b) s (fun c s' => Good s' ∧ Ctl s s' ∧ KExt s.dom s'.dom ∧
      Fresh s.dom s'.dom c ∧ s'.dom.isElement c = true ∧ Named s'.dom b.name c) :=
  sat_createElementOp hg _ _ _ hn

/-! ## appending a freshly created node -/

theorem sat_appendFresh {s0 s : State} (hg : Good s) {p c : Id} (hk : KExt s0.dom s.dom)
    (hf : Fresh s0.dom s.dom c) (hp : s0.dom.isContainer p = true) (hc : s.dom.isInsertable c = true) :
    Sat (sinkUnit (.append p (.node c))) s (fun _ s' => Good s' ∧ Ctl s s' ∧ KExt s0.dom s'.dom ∧
      (∀ x, s'.dom.dataOf x = s.dom.dataOf x) ∧
      (∀ x, s'.dom.childrenOf x = if x = p then s0.dom.childrenOf p ++ [c] else s0.dom.childrenOf x)) := by
  have hps : p < s0.dom.size := lt_of_isContainer hp
  have hne : c ≠ p := fun h => Nat.lt_irrefl _ (Nat.lt_of_lt_of_le (h ▸ hps) hf.ge)
  refine (sat_appendNode hg ((isContainer_kext hk hps).trans hp) hc hf.par hf.kids hne).mono ?_
  intro _ s' ⟨hg', hc', hk', hd, hch⟩
  refine ⟨hg', hc', fun x hx => (hk' x (Nat.lt_of_lt_of_le hx (H5V.Lemmas.TBC.KExt.size_le hk))).trans (hk x hx), hd, ?_⟩
  intro x
  rw [hch x, hf.shape.children p, hf.shape.children x]

/-- a comment or a processing instruction -/
def IsLeaf (v : NodeData) : Prop := (∃ t, v = .comment t) ∨ (∃ t d, v = .pi t d)

theorem IsLeaf.insertable {d : Dom} {c : Id} {v : NodeData} (hv : IsLeaf v) (h : d.dataOf c = some v) :
    d.isInsertable c = true ∧ d.isElement c = false ∧ d.isDoctype c = false := by
  unfold Dom.isInsertable Dom.isElement Dom.isDoctype
  rw [h]
  rcases hv with ⟨t, rfl⟩ | ⟨t, dd, rfl⟩ <;> exact ⟨rfl, rfl, rfl⟩

/-- the second half of `append_comment_to_doc` / `append_pi_to_doc` -/
theorem sat_appendLeafToDoc {s0 s : State} (hg0 : Good s0) (hg : Good s) {c : Id} {v : NodeData}
    (hc0 : Ctl s0 s) (hk : KExt s0.dom s.dom)
    (hf : Fresh s0.dom s.dom c) (hv : IsLeaf v) (hd : s.dom.dataOf c = some v) :
    Sat (getS >>= fun st => sinkUnit (.append st.docHandle (.node c))) s (fun _ s' => Good s' ∧ Ctl s0 s' ∧
      (NoElemKids s0.dom → NoElemKids s'.dom) ∧ (NoDtKids s0.dom → NoDtKids s'.dom)) := by
  refine Sat.read_bind ?_
  show Sat (sinkUnit (.append s.docHandle (.node c))) s _
  rw [hg.dh]
  obtain ⟨h1, h2, h3⟩ := hv.insertable hd
  refine (sat_appendFresh hg hk hf (isContainer_of_doc hg0.doc) h1).mono ?_
  intro _ s' ⟨hg', hc', hk', hdat, hch⟩
  have hkids : s'.dom.childrenOf 0 = s0.dom.childrenOf 0 ++ [c] := by rw [hch 0]; simp
  refine ⟨hg', hc0.trans hc', ?_, ?_⟩
  · intro hn
    refine hn.snoc hg0.inv hk' hkids ?_
    unfold Dom.isElement; rw [hdat c]; exact h2
  · intro hn
    refine hn.snoc hg0.inv hk' hkids ?_
    unfold Dom.isDoctype; rw [hdat c]; exact h3

theorem sat_appendCommentToDoc {s : State} (hg : Good s) (t : List Char) :
    Sat (appendCommentToDoc t) s (fun _ s' => Good s' ∧ Ctl s s' ∧
      (NoElemKids s.dom → NoElemKids s'.dom) ∧ (NoDtKids s.dom → NoDtKids s'.dom)) := by
  unfold appendCommentToDoc
  refine (sat_createLeaf hg (.createComment t) (.comment t) rfl rfl rfl).seq ?_
  intro c s1 ⟨hg1, hc1, hk1, hf1, hd1⟩
  exact sat_appendLeafToDoc hg hg1 hc1 hk1 hf1 (Or.inl ⟨t, rfl⟩) hd1

theorem sat_appendPiToDoc {s : State} (hg : Good s) (t dd : List Char) :
    Sat (appendPiToDoc t dd) s (fun _ s' => Good s' ∧ Ctl s s' ∧
      (NoElemKids s.dom → NoElemKids s'.dom) ∧ (NoDtKids s.dom → NoDtKids s'.dom)) := by
  unfold appendPiToDoc
  refine (sat_createLeaf hg (.createPi t dd) (.pi t dd) rfl rfl rfl).seq ?_
  intro c s1 ⟨hg1, hc1, hk1, hf1, hd1⟩
  exact sat_appendLeafToDoc hg hg1 hc1 hk1 hf1 (Or.inr ⟨t, dd, rfl⟩) hd1

/-! ## the current node -/

theorem sat_currentNode {s : State} (site : String) {h : Id} {rest : List Id} (ho : s.opened = h :: rest) :
    Sat (currentNode site) s (fun x s' => h = x ∧ s = s') := by
  unfold currentNode
  refine Sat.read_bind ?_
  show Sat (match s.opened with | h :: _ => pure h | [] => throw _) s _
  rw [ho]
  exact Sat.pure ⟨rfl, rfl⟩

theorem sat_appendLeafToTag {s : State} (hg : Good s) {h : Id} {rest : List Id} (ho : s.opened = h :: rest)
    (mk : SinkOp) {v : NodeData} (hv : IsLeaf v)
    (hmk : ∀ {s : State}, Good s → Sat (sinkNode mk) s (fun c s' => Good s' ∧ Ctl s s' ∧ KExt s.dom s'.dom ∧
      Fresh s.dom s'.dom c ∧ s'.dom.dataOf c = some v)) :
    Sat (currentNode "438" >>= fun target => sinkNode mk >>= fun c => sinkUnit (.append target (.node c))) s
      (fun _ s' => Good s' ∧ Ctl s s') := by
  refine (sat_currentNode _ ho).seq ?_
  rintro _ _ ⟨rfl, rfl⟩
  refine (hmk hg).seq ?_
  intro c s1 ⟨hg1, hc1, hk1, hf1, hd1⟩
  have hel : s.dom.isElement h = true := hg.elems h (by rw [ho]; exact List.mem_cons_self)
  refine (sat_appendFresh hg1 hk1 hf1 (isContainer_of_isElement hel) (hv.insertable hd1).1).mono ?_
  intro _ s' ⟨hg', hc', _, _, _⟩
  exact ⟨hg', hc1.trans hc'⟩

theorem sat_appendCommentToTag {s : State} (hg : Good s) {h : Id} {rest : List Id} (ho : s.opened = h :: rest)
    (t : List Char) : Sat (appendCommentToTag t) s (fun _ s' => Good s' ∧ Ctl s s') := by
  unfold appendCommentToTag
  exact sat_appendLeafToTag hg ho _ (Or.inl ⟨t, rfl⟩) (fun hg => sat_createLeaf hg _ _ rfl rfl rfl)

theorem sat_appendPiToTag {s : State} (hg : Good s) {h : Id} {rest : List Id} (ho : s.opened = h :: rest)
    (t dd : List Char) : Sat (appendPiToTag t dd) s (fun _ s' => Good s' ∧ Ctl s s') := by
  unfold appendPiToTag
  exact sat_appendLeafToTag hg ho _ (Or.inr ⟨t, dd, rfl⟩) (fun hg => sat_createLeaf hg _ _ rfl rfl rfl)

theorem sat_appendText {s : State} (hg : Good s) {h : Id} {rest : List Id} (ho : s.opened = h :: rest)
    (t : List Char) : Sat (appendText t) s (fun _ s' => Good s' ∧ Ctl s s') := by
  unfold appendText insertAppropriately
  refine (sat_currentNode _ ho).seq ?_
  rintro _ _ ⟨rfl, rfl⟩
  have hel : s.dom.isElement h = true := hg.elems h (by rw [ho]; exact List.mem_cons_self)
  exact (sat_appendTextOp hg (isContainer_of_isElement hel) t).mono fun _ s' ⟨h1, h2, _⟩ => ⟨h1, h2⟩

/-! ## elements -/

theorem sat_appendTagToDoc {s : State} (hg : Good s) (b : Bound)
    (hn : Dom.attrKeysNodup (b.attrs.map toAttr) = true) :
    Sat (appendTagToDoc b) s (fun c s' => Good s' ∧ Ctl s s' ∧ s'.dom.isElement c = true) := by
  unfold appendTagToDoc
  refine (sat_createElement hg b hn).seq ?_
  intro c s1 ⟨hg1, hc1, hk1, hf1, he1, _⟩
  refine Sat.read_bind ?_
  show Sat (sinkUnit (.append s1.docHandle (.node c)) >>= _) s1 _
  rw [hg1.dh]
  refine (sat_appendFresh hg1 hk1 hf1 (isContainer_of_doc hg.doc) (isInsertable_of_isElement he1)).seq ?_
  intro _ s' ⟨hg', hc', _, hdat, _⟩
  refine Sat.pure ⟨hg', hc1.trans hc', ?_⟩
  unfold Dom.isElement; rw [hdat c]; exact he1

/-- `create_element`, `append` to the current node: the common part of `insert_tag` / `append_tag` -/
theorem sat_createInsert {s : State} (hg : Good s) {h : Id} {rest : List Id} (ho : s.opened = h :: rest) (b : Bound)
    (hn : Dom.attrKeysNodup (b.attrs.map toAttr) = true) {β : Type} (k : Id → M β) (Q : β → State → Prop)
    (hk : ∀ c s', Good s' → Ctl s s' → s'.dom.isElement c = true → Named s'.dom b.name c → Sat (k c) s' Q) :
    Sat (createElement b >>= fun child => insertAppropriately (.node child) >>= fun _ => k child) s Q := by
  refine (sat_createElement hg b hn).seq ?_
  intro c s1 ⟨hg1, hc1, hk1, hf1, he1, hn1⟩
  unfold insertAppropriately
  refine Sat.bind ?_
  refine (sat_currentNode _ (hc1.opened.trans ho)).seq ?_
  rintro _ _ ⟨rfl, rfl⟩
  have hel : s.dom.isElement h = true := hg.elems h (by rw [ho]; exact List.mem_cons_self)
  refine (sat_appendFresh hg1 hk1 hf1 (isContainer_of_isElement hel) (isInsertable_of_isElement he1)).mono ?_
  intro _ s' ⟨hg', hc', _, hdat, _⟩
  refine hk c s' hg' (hc1.trans hc') ?_ (hn1.of_data (hdat c))
  unfold Dom.isElement; rw [hdat c]; exact he1

theorem sat_insertTag {s : State} (hg : Good s) {h : Id} {rest : List Id} (ho : s.opened = h :: rest) (b : Bound)
    (hn : Dom.attrKeysNodup (b.attrs.map toAttr) = true) :
    Sat (insertTag b) s (fun _ s' => Good s' ∧ (∃ c, s'.opened = c :: s.opened ∧ Named s'.dom b.name c) ∧
      s'.phase = s.phase ∧ s'.doctypeSeen = s.doctypeSeen) := by
  unfold insertTag
  refine sat_createInsert hg ho b hn _ _ ?_
  intro c s' hg' hc' he hnm
  unfold push
  refine Sat.modify ⟨?_, ⟨c, by rw [← hc'.opened], hnm⟩, hc'.phase, hc'.dts⟩
  refine ⟨hg'.inv, hg'.run, hg'.doc, hg'.dh, ?_⟩
  intro x hx
  rcases List.mem_cons.mp hx with rfl | hx
  · exact he
  · exact hg'.elems x hx

theorem sat_appendTag {s : State} (hg : Good s) {h : Id} {rest : List Id} (ho : s.opened = h :: rest) (b : Bound)
    (hn : Dom.attrKeysNodup (b.attrs.map toAttr) = true) :
    Sat (appendTag b) s (fun _ s' => Good s' ∧ Ctl s s') := by
  unfold appendTag
  refine sat_createInsert hg ho b hn _ _ ?_
  intro c s' hg' hc' he _
  exact (sat_popOp hg' he).mono fun _ s2 ⟨h1, h2⟩ => ⟨h1, hc'.trans h2.toCtl⟩

/-! ## closing: `tag_in_open_elems`, `pop`, `pop_until`, `close_tag` -/

/-- nodes, phase and `doctype_seen` unchanged; `open_elems` lost some of its top entries -/
structure Pops (s s' : State) : Prop where
  nodes : s'.dom.nodes = s.dom.nodes
  phase : s'.phase = s.phase
  dts : s'.doctypeSeen = s.doctypeSeen
  opened : ∃ k, s'.opened = s.opened.drop k

theorem Pops.refl (s : State) : Pops s s := ⟨rfl, rfl, rfl, 0, rfl⟩
theorem Pops.trans {a b c : State} (h1 : Pops a b) (h2 : Pops b c) : Pops a c := by
  obtain ⟨k1, e1⟩ := h1.opened
  obtain ⟨k2, e2⟩ := h2.opened
  exact ⟨h2.nodes.trans h1.nodes, h2.phase.trans h1.phase, h2.dts.trans h1.dts, k1 + k2, by
    rw [e2, e1, List.drop_drop]⟩
theorem Same.pops {s s' : State} (h : Same s s') : Pops s s' :=
  ⟨h.nodes, h.phase, h.dts, 0, h.opened⟩

theorem sat_anyNamed (name : QName) : ∀ (l : List Id) {s : State}, Good s → (∀ h ∈ l, s.dom.isElement h = true) →
    Sat (anyNamed name l) s (fun b s' => Good s' ∧ Same s s' ∧ (b = true ↔ ∃ h ∈ l, Named s.dom name h)) := by
  intro l
  induction l with
  | nil => intro s hg _; exact Sat.pure ⟨hg, Same.refl s, by simp⟩
  | cons a rest ih =>
    intro s hg hl
    unfold anyNamed
    refine (sat_elemName hg (hl a List.mem_cons_self)).seq ?_
    rintro ⟨ns, loc⟩ s1 ⟨hg1, hs1, hn1⟩
    show Sat (if (ns == name.ns && loc == name.loc) = true then pure true else anyNamed name rest) s1 _
    by_cases hb : (ns == name.ns && loc == name.loc) = true
    · simp only [hb, if_true]
      refine Sat.pure ⟨hg1, hs1, iff_of_true rfl ⟨a, List.mem_cons_self, ?_⟩⟩
      simp only [Bool.and_eq_true, beq_iff_eq] at hb
      unfold Named; rw [hn1, hb.1, hb.2]
    · simp only [hb]
      have hl1 : ∀ h ∈ rest, s1.dom.isElement h = true := fun h hh => by
        rw [isElement_nodes hs1.nodes]; exact hl h (List.mem_cons_of_mem _ hh)
      have hna : ¬ Named s.dom name a := by
        intro hn
        unfold Named at hn
        rw [hn1] at hn
        simp only [Option.some.injEq, Prod.mk.injEq] at hn
        simp [hn.1, hn.2] at hb
      refine (ih hg1 hl1).mono ?_
      intro b s2 ⟨hg2, hs2, hb2⟩
      refine ⟨hg2, hs1.trans hs2, hb2.trans ?_⟩
      constructor
      · rintro ⟨h, hh, hn⟩
        refine ⟨h, List.mem_cons_of_mem _ hh, ?_⟩
        unfold Named at hn ⊢
        rw [← nameOf_nodes hs1.nodes]; exact hn
      · rintro ⟨h, hh, hn⟩
        rcases List.mem_cons.mp hh with rfl | hh
        · exact absurd hn hna
        · refine ⟨h, hh, ?_⟩
          unfold Named at hn ⊢
          rw [nameOf_nodes hs1.nodes]; exact hn

theorem sat_tagInOpenElems {s : State} (hg : Good s) (name : QName) :
    Sat (tagInOpenElems name) s (fun b s' => Good s' ∧ Same s s' ∧ (b = true ↔ ∃ h ∈ s.opened, Named s.dom name h)) := by
  unfold tagInOpenElems
  refine Sat.read_bind ?_
  refine (sat_anyNamed name s.opened.reverse hg (fun h hh => hg.elems h (List.mem_reverse.mp hh))).mono ?_
  intro b s' ⟨h1, h2, h3⟩
  refine ⟨h1, h2, h3.trans ?_⟩
  constructor
  · rintro ⟨h, hh, hn⟩; exact ⟨h, List.mem_reverse.mp hh, hn⟩
  · rintro ⟨h, hh, hn⟩; exact ⟨h, List.mem_reverse.mpr hh, hn⟩

theorem sat_pop {s : State} (hg : Good s) {h : Id} {rest : List Id} (ho : s.opened = h :: rest) :
    Sat pop s (fun x s' => x = h ∧ Good s' ∧ s'.opened = rest ∧ Pops s s') := by
  unfold pop
  refine Sat.modify_bind (Sat.read_bind ?_)
  simp only [ho]
  refine Sat.modify_bind ?_
  have hel : s.dom.isElement h = true := hg.elems h (by rw [ho]; exact List.mem_cons_self)
  have hg1 : Good { s with nsStack := s.nsStack.tail, opened := rest } :=
    hg.ctl rfl rfl rfl (fun x hx => by rw [ho]; exact List.mem_cons_of_mem _ hx)
  refine (sat_popOp hg1 hel).seq ?_
  intro _ s' ⟨hg', hs'⟩
  exact Sat.pure ⟨rfl, hg', hs'.opened, hs'.nodes, hs'.phase, hs'.dts, 1, by rw [hs'.opened, ho]; rfl⟩

theorem sat_currentNodeIs {s : State} (hg : Good s) {h : Id} {rest : List Id} (ho : s.opened = h :: rest)
    (name : QName) :
    Sat (currentNodeIs name) s (fun b s' => Good s' ∧ Same s s' ∧ (b = true ↔ Named s.dom name h)) := by
  unfold currentNodeIs
  refine (sat_currentNode _ ho).seq ?_
  rintro _ _ ⟨rfl, rfl⟩
  have hel : s.dom.isElement h = true := hg.elems h (by rw [ho]; exact List.mem_cons_self)
  refine (sat_elemName hg hel).seq ?_
  rintro ⟨ns, loc⟩ s1 ⟨hg1, hs1, hn1⟩
  refine Sat.pure ⟨hg1, hs1, ?_⟩
  unfold Named
  rw [hn1]
  simp only [Bool.and_eq_true, beq_iff_eq, Option.some.injEq, Prod.mk.injEq]

theorem sat_popUntil (name : QName) : ∀ (fuel : Nat) {s : State}, Good s →
    (∃ h ∈ s.opened, Named s.dom name h) → s.opened.length < fuel →
    Sat (popUntil name fuel) s (fun _ s' => Good s' ∧ Pops s s' ∧ s'.opened ≠ [] ∧
      (∀ h rest, s.opened = h :: rest → Named s.dom name h → s'.opened = s.opened)) := by
  intro fuel
  induction fuel with
  | zero => intro s _ _ hl; exact absurd hl (Nat.not_lt_zero _)
  | succ fuel ih =>
    intro s hg hex hl
    obtain ⟨h, rest, ho⟩ : ∃ h rest, s.opened = h :: rest := by
      obtain ⟨x, hx, _⟩ := hex
      cases hs : s.opened with
      | nil => rw [hs] at hx; cases hx
      | cons a t => exact ⟨a, t, rfl⟩
    unfold popUntil
    refine (sat_currentNodeIs hg ho name).seq ?_
    intro b s1 ⟨hg1, hs1, hb1⟩
    cases b with
    | true =>
      simp only [if_true]
      exact Sat.pure ⟨hg1, hs1.pops, by rw [hs1.opened, ho]; simp, fun _ _ _ _ => hs1.opened⟩
    | false =>
      simp only [Bool.false_eq_true, if_false]
      have hnh : ¬ Named s.dom name h := fun hn => by simpa using hb1.mpr hn
      have ho1 : s1.opened = h :: rest := hs1.opened.trans ho
      refine (sat_pop hg1 ho1).seq ?_
      intro _ s2 ⟨_, hg2, ho2, hp2⟩
      have hex2 : ∃ x ∈ s2.opened, Named s2.dom name x := by
        obtain ⟨x, hx, hn⟩ := hex
        rw [ho] at hx
        rcases List.mem_cons.mp hx with rfl | hx
        · exact absurd hn hnh
        · refine ⟨x, by rw [ho2]; exact hx, ?_⟩
          unfold Named at hn ⊢
          rw [nameOf_nodes (hp2.nodes.trans hs1.nodes)]; exact hn
      have hl2 : s2.opened.length < fuel := by
        rw [ho2]; rw [ho] at hl; simp at hl; omega
      refine (ih hg2 hex2 hl2).mono ?_
      intro _ s3 ⟨hg3, hp3, hne3, _⟩
      refine ⟨hg3, (hs1.pops.trans hp2).trans hp3, hne3, ?_⟩
      intro h' rest' ho' hn'
      rw [ho] at ho'; cases ho'
      exact absurd hn' hnh

theorem sat_closeTag {s : State} (hg : Good s) {h : Id} {rest : List Id} (ho : s.opened = h :: rest)
    (name : QName) : Sat (closeTag name) s (fun _ s' => Good s' ∧ Pops s s' ∧
      (Named s.dom name h → s'.opened = rest)) := by
  unfold closeTag
  refine (sat_currentNode _ ho).seq ?_
  rintro _ _ ⟨rfl, rfl⟩
  have hel : s.dom.isElement h = true := hg.elems h (by rw [ho]; exact List.mem_cons_self)
  refine (sat_elemName hg hel).seq ?_
  rintro ⟨ns, loc⟩ s1 ⟨hg1, hs1, _⟩
  show Sat ((if (loc != name.loc) = true then parseErr .currentMismatch else pure ()) >>= _) s1 _
  have hmid : Sat (if (loc != name.loc) = true then parseErr .currentMismatch else pure ()) s1
      (fun _ s2 => Good s2 ∧ Same s1 s2) := by
    by_cases hc : (loc != name.loc) = true
    · simp only [hc, if_true]; exact sat_parseErr hg1 _
    · simp only [hc]; exact Sat.pure ⟨hg1, Same.refl _⟩
  refine hmid.seq ?_
  intro _ s2 ⟨hg2, hs2⟩
  refine (sat_tagInOpenElems hg2 name).seq ?_
  intro b s3 ⟨hg3, hs3, hb3⟩
  have h12 : Same s s2 := hs1.trans hs2
  have h13 : Same s s3 := h12.trans hs3
  have hnamed : ∀ x, Named s.dom name x ↔ Named s2.dom name x := fun x => by
    unfold Named; rw [nameOf_nodes h12.nodes]
  cases b with
  | false =>
    simp only [Bool.false_eq_true, if_false]
    refine Sat.pure ⟨hg3, h13.pops, fun hn => ?_⟩
    have : ∃ x ∈ s2.opened, Named s2.dom name x :=
      ⟨h, by rw [h12.opened, ho]; exact List.mem_cons_self, (hnamed h).mp hn⟩
    simpa using hb3.mpr this
  | true =>
    simp only [if_true]
    refine Sat.read_bind ?_
    have hex : ∃ x ∈ s3.opened, Named s3.dom name x := by
      obtain ⟨x, hx, hn⟩ := hb3.mp rfl
      refine ⟨x, by rw [hs3.opened]; exact hx, ?_⟩
      unfold Named at hn ⊢
      rw [nameOf_nodes hs3.nodes]; exact hn
    refine (sat_popUntil name _ hg3 hex (Nat.lt_succ_self _)).seq ?_
    intro _ s4 ⟨hg4, hp4, hne4, htop4⟩
    obtain ⟨h4, rest4, ho4⟩ : ∃ h rest, s4.opened = h :: rest := by
      cases hs : s4.opened with
      | nil => exact absurd hs hne4
      | cons a t => exact ⟨a, t, rfl⟩
    refine (sat_pop hg4 ho4).seq ?_
    intro _ s5 ⟨_, hg5, ho5, hp5⟩
    refine Sat.pure ⟨hg5, (h13.pops.trans hp4).trans hp5, fun hn => ?_⟩
    have ho3 : s3.opened = h :: rest := h13.opened.trans ho
    have hn3 : Named s3.dom name h := by
      unfold Named at hn ⊢; rw [nameOf_nodes h13.nodes]; exact hn
    have := htop4 h rest ho3 hn3
    rw [ho4, ho3] at this
    cases this
    exact ho5

/-! ## the invariant of the builder, `step` -/

/-- the phase-dependent part: in the Start phase nothing is open, the document has no element child
and — until a doctype has been seen — no doctype child; in the Main phase an element is open -/
structure PhaseOk (s : State) : Prop where
  start : s.phase = .start → s.opened = [] ∧ NoElemKids s.dom ∧ (s.doctypeSeen = false → NoDtKids s.dom)
  main : s.phase = .main → s.opened ≠ []

/-- **the invariant** of every state the builder can be in between two calls -/
structure XInv (s : State) : Prop where
  good : Good s
  ph : PhaseOk s

theorem PhaseOk.of_end {s : State} (h : s.phase = .end_) : PhaseOk s :=
  ⟨fun h' => (by rw [h] at h'; cases h'), fun h' => (by rw [h] at h'; cases h')⟩

theorem XInv.same {s s' : State} (hx : XInv s) (hg : Good s') (hs : Same s s') : XInv s' := by
  refine ⟨hg, ?_, ?_⟩
  · intro hp
    obtain ⟨h1, h2, h3⟩ := hx.ph.start (hs.phase ▸ hp)
    exact ⟨hs.opened.trans h1, h2.same hs, fun hd => (h3 (hs.dts ▸ hd)).same hs⟩
  · intro hp
    rw [hs.opened]; exact hx.ph.main (hs.phase ▸ hp)

/-- outside the Start phase the control fields decide -/
theorem XInv.ctl {s s' : State} (hx : XInv s) (hns : s.phase ≠ .start) (hg : Good s') (hc : Ctl s s') : XInv s' := by
  refine ⟨hg, ?_, ?_⟩
  · intro hp; exact absurd (hc.phase ▸ hp) hns
  · intro hp; rw [hc.opened]; exact hx.ph.main (hc.phase ▸ hp)

/-- the tag tokens carry attribute lists as the tokenizer delivers them (`TagOk`) -/
def TokOk (cfg : TbCfg) : Token → Prop
  | .tag t => TagOk cfg t
  | _ => True

def InputOk (cfg : TbCfg) : Input → Prop
  | .token t => TokOk cfg t
  | .parseError _ => True

/-- what `step` leaves: the invariant — or, for `Reprocess`, always `(End, Eof)` and `Good` -/
def StepPost (r : StepResult) (s' : State) : Prop :=
  match r with
  | .reprocess p t => p = .end_ ∧ t = .eof ∧ Good s'
  | _ => XInv s'

theorem sat_peDone {s : State} (hx : XInv s) (e : H5V.Model.XmlTB.Err) :
    Sat (parseErr e >>= fun _ => pure StepResult.done) s StepPost :=
  (sat_parseErr hx.good e).seq fun _ _ ⟨hg, hs⟩ => Sat.pure (hx.same hg hs)

theorem sat_endIfNoOpenElems {s : State} (hg : Good s) (hp : s.phase = .main) :
    Sat endIfNoOpenElems s (fun _ s' => XInv s') := by
  unfold endIfNoOpenElems
  refine Sat.modify ?_
  by_cases he : s.opened.isEmpty = true
  · rw [if_pos he]
    exact ⟨hg.ctl rfl rfl rfl (fun _ h => h), PhaseOk.of_end rfl⟩
  · rw [if_neg he]
    refine ⟨hg, fun h' => (by rw [hp] at h'; cases h'), fun _ hn => he (by rw [hn]; rfl)⟩

theorem sat_stepStart (cfg : TbCfg) {s : State} (hx : XInv s) (hp : s.phase = .start) (tok : Token)
    (hok : TokOk cfg tok) : Sat (step cfg .start tok) s StepPost := by
  obtain ⟨hop, hne, hnd⟩ := hx.ph.start hp
  have hg := hx.good
  cases tok with
  | tag t =>
    obtain ⟨k, n, as⟩ := t
    cases k with
    | start =>
      show Sat (processNamespaces cfg ⟨.start, n, as⟩ >>= _) s _
      refine (sat_processNamespaces hg cfg _).seq ?_
      rintro b s1 ⟨rfl, hg1, hs1⟩
      unfold setPhase
      refine Sat.modify_bind ?_
      have hg2 : Good { s1 with phase := .main } := hg1.ctl rfl rfl rfl (fun _ h => h)
      refine (sat_appendTagToDoc hg2 _ (processNamespaces_nodup cfg _ _ hok)).seq ?_
      intro c s3 ⟨hg3, hc3, he3⟩
      unfold push
      refine Sat.modify_bind (Sat.pure ?_)
      refine ⟨⟨hg3.inv, hg3.run, hg3.doc, hg3.dh, ?_⟩, ?_, ?_⟩
      · intro x hx'
        rcases List.mem_cons.mp hx' with rfl | hx'
        · exact he3
        · exact hg3.elems x hx'
      · intro h'
        have : s3.phase = .main := hc3.phase
        rw [show ({ s3 with opened := c :: s3.opened } : State).phase = s3.phase from rfl, this] at h'
        cases h'
      · intro _ hn; cases hn
    | empty =>
      show Sat (processNamespaces cfg ⟨.empty, n, as⟩ >>= _) s _
      refine (sat_processNamespaces hg cfg _).seq ?_
      rintro b s1 ⟨rfl, hg1, hs1⟩
      unfold setPhase
      refine Sat.modify_bind ?_
      have hg2 : Good { s1 with phase := .end_ } := hg1.ctl rfl rfl rfl (fun _ h => h)
      refine (sat_appendTagToDoc hg2 _ (processNamespaces_nodup cfg _ _ hok)).seq ?_
      intro c s3 ⟨hg3, hc3, he3⟩
      refine (sat_popOp hg3 he3).seq ?_
      intro _ s4 ⟨hg4, hs4⟩
      exact Sat.pure ⟨hg4, PhaseOk.of_end (hs4.phase.trans hc3.phase)⟩
    | end_ | short => exact sat_peDone hx _
  | doctype n p sy =>
    show Sat (getS >>= _) s _
    refine Sat.read_bind (Sat.modify_bind ?_)
    have hg1 : Good { s with doctypeSeen := true } := hg.ctl rfl rfl rfl (fun _ h => h)
    refine Sat.bind ?_
    by_cases hs : s.doctypeSeen = true
    · simp only [hs, if_true]
      refine (sat_parseErr hg1 _).mono ?_
      intro _ s2 ⟨hg2, hs2⟩
      refine Sat.pure ⟨hg2, ?_, ?_⟩
      · intro _
        exact ⟨hs2.opened.trans hop, NoElemKids.same (s := { s with doctypeSeen := true }) hne hs2,
          fun hd => by rw [hs2.dts] at hd; cases hd⟩
      · intro h'; rw [hs2.phase] at h'; rw [show ({ s with doctypeSeen := true } : State).phase = s.phase from rfl, hp] at h'; cases h'
    · simp only [hs]
      have hsf : s.doctypeSeen = false := by cases h : s.doctypeSeen <;> simp_all
      unfold appendDoctypeToDoc
      refine (sat_appendDoctypeOp hg1 hne (hnd hsf) _ _ _).mono ?_
      intro _ s2 ⟨hg2, hc2, hk2⟩
      refine Sat.pure ⟨hg2, ?_, ?_⟩
      · intro _
        exact ⟨hc2.opened.trans hop, hk2, fun hd => by rw [hc2.dts] at hd; cases hd⟩
      · intro h'; rw [hc2.phase] at h'; rw [show ({ s with doctypeSeen := true } : State).phase = s.phase from rfl, hp] at h'; cases h'
  | comment c =>
    show Sat (appendCommentToDoc c >>= _) s _
    refine (sat_appendCommentToDoc hg c).seq ?_
    intro _ s1 ⟨hg1, hc1, hk1, hk2⟩
    refine Sat.pure ⟨hg1, ?_, ?_⟩
    · intro _; exact ⟨hc1.opened.trans hop, hk1 hne, fun hd => hk2 (hnd (hc1.dts ▸ hd))⟩
    · intro h'; rw [hc1.phase, hp] at h'; cases h'
  | pi t d =>
    show Sat (appendPiToDoc t d >>= _) s _
    refine (sat_appendPiToDoc hg t d).seq ?_
    intro _ s1 ⟨hg1, hc1, hk1, hk2⟩
    refine Sat.pure ⟨hg1, ?_, ?_⟩
    · intro _; exact ⟨hc1.opened.trans hop, hk1 hne, fun hd => hk2 (hnd (hc1.dts ▸ hd))⟩
    · intro h'; rw [hc1.phase, hp] at h'; cases h'
  | chars cs =>
    show Sat (if (!H5V.Model.XmlTB.anyNotWhitespace cs) = true then pure StepResult.done else _) s _
    by_cases hw : (!H5V.Model.XmlTB.anyNotWhitespace cs) = true
    · simp only [hw, if_true]; exact Sat.pure hx
    · simp only [hw]; exact sat_peDone hx _
  | nullChar => exact sat_peDone hx _
  | eof =>
    show Sat (parseErr .eofInStart >>= _) s _
    refine (sat_parseErr hg _).seq ?_
    intro _ s1 ⟨hg1, _⟩
    exact Sat.pure ⟨rfl, rfl, hg1⟩

theorem sat_stepMain (cfg : TbCfg) {s : State} (hx : XInv s) (hp : s.phase = .main) (tok : Token)
    (hok : TokOk cfg tok) : Sat (step cfg .main tok) s StepPost := by
  have hg := hx.good
  have hns : s.phase ≠ .start := by rw [hp]; intro h; cases h
  obtain ⟨h, rest, ho⟩ : ∃ h rest, s.opened = h :: rest := by
    cases hs : s.opened with
    | nil => exact absurd hs (hx.ph.main hp)
    | cons a t => exact ⟨a, t, rfl⟩
  cases tok with
  | tag t =>
    obtain ⟨k, n, as⟩ := t
    cases k with
    | start =>
      show Sat (processNamespaces cfg ⟨.start, n, as⟩ >>= _) s _
      refine (sat_processNamespaces hg cfg _).seq ?_
      rintro b s1 ⟨rfl, hg1, hs1⟩
      refine (sat_insertTag hg1 (hs1.opened.trans ho) _ (processNamespaces_nodup cfg _ _ hok)).seq ?_
      intro _ s2 ⟨hg2, ⟨c, ho2, _⟩, hp2, _⟩
      refine Sat.pure ⟨hg2, ?_, ?_⟩
      · intro h'; rw [hp2, hs1.phase, hp] at h'; cases h'
      · intro _ hn; rw [ho2] at hn; cases hn
    | empty =>
      show Sat (processNamespaces cfg ⟨.empty, n, as⟩ >>= _) s _
      refine (sat_processNamespaces hg cfg _).seq ?_
      rintro b s1 ⟨rfl, hg1, hs1⟩
      have ho1 : s1.opened = h :: rest := hs1.opened.trans ho
      have hx1 : XInv s1 := hx.same hg1 hs1
      have hns1 : s1.phase ≠ .start := by rw [hs1.phase]; exact hns
      have hnd := processNamespaces_nodup cfg s.nsStack ⟨.empty, n, as⟩ hok
      by_cases hsc : (H5V.Model.XmlTB.processNamespaces cfg s.nsStack ⟨.empty, n, as⟩).name.loc = H5V.Model.XmlTB.sScript
      · simp only [hsc, if_true]
        refine (sat_insertTag hg1 ho1 _ hnd).seq ?_
        intro _ s2 ⟨hg2, ⟨c, ho2, hn2⟩, hp2, _⟩
        refine (sat_currentNode _ ho2).seq ?_
        rintro _ _ ⟨rfl, rfl⟩
        refine (sat_closeTag hg2 ho2 _).seq ?_
        intro _ s3 ⟨hg3, hp3, htop3⟩
        refine Sat.pure ⟨hg3, ?_, ?_⟩
        · intro h'; rw [hp3.phase, hp2, hs1.phase, hp] at h'; cases h'
        · intro _ hn; rw [htop3 hn2, ho1] at hn; cases hn
      · simp only [hsc, if_false]
        refine (sat_appendTag hg1 ho1 _ hnd).seq ?_
        intro _ s2 ⟨hg2, hc2⟩
        exact Sat.pure (hx1.ctl hns1 hg2 hc2)
    | end_ =>
      show Sat (processNamespaces cfg ⟨.end_, n, as⟩ >>= _) s _
      refine (sat_processNamespaces hg cfg _).seq ?_
      rintro b s1 ⟨rfl, hg1, hs1⟩
      have ho1 : s1.opened = h :: rest := hs1.opened.trans ho
      by_cases hsc : (H5V.Model.XmlTB.processNamespaces cfg s.nsStack ⟨.end_, n, as⟩).name.loc = H5V.Model.XmlTB.sScript
      · simp only [hsc, if_true]
        refine (sat_currentNode _ ho1).seq ?_
        rintro _ _ ⟨rfl, rfl⟩
        refine (sat_closeTag hg1 ho1 _).seq ?_
        intro _ s2 ⟨hg2, hp2, _⟩
        refine (sat_endIfNoOpenElems hg2 (by rw [hp2.phase, hs1.phase, hp])).seq ?_
        intro _ s3 hx3
        exact Sat.pure hx3
      · simp only [hsc, if_false]
        refine (sat_closeTag hg1 ho1 _).seq ?_
        intro _ s2 ⟨hg2, hp2, _⟩
        refine (sat_endIfNoOpenElems hg2 (by rw [hp2.phase, hs1.phase, hp])).seq ?_
        intro _ s3 hx3
        exact Sat.pure hx3
    | short =>
      show Sat (pop >>= _) s _
      refine (sat_pop hg ho).seq ?_
      intro _ s1 ⟨_, hg1, _, hp1⟩
      refine (sat_endIfNoOpenElems hg1 (by rw [hp1.phase, hp])).seq ?_
      intro _ s2 hx2
      exact Sat.pure hx2
  | doctype n p sy => exact sat_peDone hx _
  | comment c =>
    show Sat (appendCommentToTag c >>= _) s _
    exact (sat_appendCommentToTag hg ho c).seq fun _ s1 ⟨hg1, hc1⟩ => Sat.pure (hx.ctl hns hg1 hc1)
  | pi t d =>
    show Sat (appendPiToTag t d >>= _) s _
    exact (sat_appendPiToTag hg ho t d).seq fun _ s1 ⟨hg1, hc1⟩ => Sat.pure (hx.ctl hns hg1 hc1)
  | chars cs =>
    show Sat (appendText cs >>= _) s _
    exact (sat_appendText hg ho cs).seq fun _ s1 ⟨hg1, hc1⟩ => Sat.pure (hx.ctl hns hg1 hc1)
  | nullChar | eof => exact Sat.pure ⟨rfl, rfl, hg⟩

theorem sat_stepEnd (cfg : TbCfg) {s : State} (hx : XInv s) (hp : s.phase = .end_) (tok : Token) :
    Sat (step cfg .end_ tok) s StepPost := by
  have hg := hx.good
  have hns : s.phase ≠ .start := by rw [hp]; intro h; cases h
  cases tok with
  | tag t | doctype n p sy | nullChar => exact sat_peDone hx _
  | comment c =>
    show Sat (appendCommentToDoc c >>= _) s _
    exact (sat_appendCommentToDoc hg c).seq fun _ s1 ⟨hg1, hc1, _, _⟩ => Sat.pure (hx.ctl hns hg1 hc1)
  | pi t d =>
    show Sat (appendPiToDoc t d >>= _) s _
    exact (sat_appendPiToDoc hg t d).seq fun _ s1 ⟨hg1, hc1, _, _⟩ => Sat.pure (hx.ctl hns hg1 hc1)
  | chars cs =>
    show Sat (if (!H5V.Model.XmlTB.anyNotWhitespace cs) = true then pure StepResult.done else _) s _
    by_cases hw : (!H5V.Model.XmlTB.anyNotWhitespace cs) = true
    · simp only [hw, if_true]; exact Sat.pure hx
    · simp only [hw]; exact sat_peDone hx _
  | eof => exact Sat.pure hx

theorem sat_step (cfg : TbCfg) {s : State} (hx : XInv s) (tok : Token) (hok : TokOk cfg tok) :
    Sat (step cfg s.phase tok) s StepPost := by
  cases hp : s.phase with
  | start => exact sat_stepStart cfg hx hp tok hok
  | main => exact sat_stepMain cfg hx hp tok hok
  | end_ => exact sat_stepEnd cfg hx hp tok

/-! ## `process_to_completion`, `process_token`, `end` -/

theorem sat_processToken (cfg : TbCfg) {s : State} (hx : XInv s) (inp : Input) (hok : InputOk cfg inp) :
    Sat (processToken cfg inp) s (fun _ s' => XInv s') := by
  cases inp with
  | parseError msg =>
    show Sat (sinkUnit (.parseError msg) >>= _) s _
    exact (sat_parseError hx.good msg).seq fun _ s' ⟨hg, hs⟩ => Sat.pure (hx.same hg hs)
  | token tok =>
    show Sat (processToCompletion cfg 2 tok) s _
    unfold processToCompletion
    refine Sat.read_bind ?_
    refine (sat_step cfg hx tok hok).seq ?_
    intro r s1 hr
    cases r with
    | done | script n => exact Sat.pure hr
    | reprocess p t =>
      obtain ⟨rfl, rfl, hg1⟩ := hr
      show Sat (setPhase .end_ >>= _) s1 _
      unfold setPhase
      refine Sat.modify_bind ?_
      have hx2 : XInv { s1 with phase := .end_ } :=
        ⟨hg1.ctl rfl rfl rfl (fun _ h => h), PhaseOk.of_end rfl⟩
      unfold processToCompletion
      refine Sat.read_bind ?_
      show Sat (step cfg .end_ .eof >>= _) _ _
      rw [show step cfg .end_ .eof = (pure StepResult.done : M StepResult) from rfl]
      exact Sat.bind (Sat.pure (Sat.pure hx2))

theorem sat_popAll : ∀ (l : List Id) {s : State}, Good s → (∀ h ∈ l, s.dom.isElement h = true) →
    Sat (popAll l) s (fun _ s' => Good s' ∧ Same s s') := by
  intro l
  induction l with
  | nil => intro s hg _; exact Sat.pure ⟨hg, Same.refl s⟩
  | cons a rest ih =>
    intro s hg hl
    unfold popAll
    refine (sat_popOp hg (hl a List.mem_cons_self)).seq ?_
    intro _ s1 ⟨hg1, hs1⟩
    refine (ih hg1 (fun h hh => by rw [isElement_nodes hs1.nodes]; exact hl h (List.mem_cons_of_mem _ hh))).mono ?_
    intro _ s2 ⟨hg2, hs2⟩
    exact ⟨hg2, hs1.trans hs2⟩

/-- `end()`: every remaining open element is popped, top first -/
theorem sat_finish {s : State} (hg : Good s) : Sat finish s (fun _ s' => Good s' ∧ s'.opened = []) := by
  unfold finish
  refine Sat.read_bind (Sat.modify_bind ?_)
  have hg1 : Good { s with opened := [] } := hg.ctl rfl rfl rfl (fun _ h => nomatch h)
  refine (sat_popAll s.opened hg1 hg.elems).mono ?_
  intro _ s' ⟨hg', hs'⟩
  exact ⟨hg', hs'.opened⟩

theorem good_init : Good State.init :=
  ⟨H5V.Props.C20.inv_new, Run.nil, rfl, rfl, fun _ h => nomatch h⟩

/-- `XmlTreeBuilder::new` -/
theorem sat_newTB : Sat newTB State.init (fun _ s' => XInv s') := by
  unfold newTB
  refine (sat_getDocument good_init).seq ?_
  rintro _ s1 ⟨rfl, hg1, hs1⟩
  refine Sat.modify ?_
  have hg2 : Good { s1 with docHandle := 0 } :=
    ⟨hg1.inv, hg1.run, hg1.doc, rfl, hg1.elems⟩
  refine ⟨hg2, ?_, ?_⟩
  · intro _
    refine ⟨hs1.opened, ?_, fun _ => ?_⟩
    · intro c hc
      have : s1.dom.childrenOf 0 = [] := by rw [childrenOf_nodes hs1.nodes]; rfl
      rw [show ({ s1 with docHandle := 0 } : State).dom = s1.dom from rfl, this] at hc
      cases hc
    · intro c hc
      have : s1.dom.childrenOf 0 = [] := by rw [childrenOf_nodes hs1.nodes]; rfl
      rw [show ({ s1 with docHandle := 0 } : State).dom = s1.dom from rfl, this] at hc
      cases hc
  · intro h'
    have : s1.phase = .start := hs1.phase
    rw [show ({ s1 with docHandle := 0 } : State).phase = s1.phase from rfl, this] at h'
    cases h'

theorem sat_processTokens (cfg : TbCfg) : ∀ (toks : List Input) {s : State}, XInv s →
    (∀ t ∈ toks, InputOk cfg t) → Sat (processTokens cfg toks) s (fun _ s' => XInv s') := by
  intro toks
  induction toks with
  | nil => intro s hx _; exact Sat.pure hx
  | cons t rest ih =>
    intro s hx hok
    unfold processTokens
    refine (sat_processToken cfg hx t (hok t List.mem_cons_self)).seq ?_
    intro _ s1 hx1
    exact ih hx1 (fun t' ht' => hok t' (List.mem_cons_of_mem _ ht'))

theorem sat_parseAll (cfg : TbCfg) (toks : List Input) (hok : ∀ t ∈ toks, InputOk cfg t) :
    Sat (parseAll cfg toks) State.init (fun _ s' => Good s' ∧ s'.opened = []) := by
  unfold parseAll
  refine sat_newTB.seq ?_
  intro _ s1 hx1
  refine (sat_processTokens cfg toks hx1 hok).seq ?_
  intro _ s2 hx2
  exact sat_finish hx2.good

end H5V.Lemmas.XmlTBH
