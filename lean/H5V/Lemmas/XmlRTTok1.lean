import H5V.Lemmas.XmlRTRef
/-!
C17, tokenizer half: what one `XmlTokenizer::step` does on each character of a serialised element
(`exact_errors` off): text, start tags with double-quoted attributes, end tags; then processing instructions
and the doctype as the XML serializer writes them (`<?target data?>`, `<!DOCTYPE name>`).  Every lemma is
stated for an arbitrary machine whose control registers (`Ctl`) and tag registers (`Regs` / `Clean`)
have the stated values; the token log is described through `cvOut` (parse errors dropped).
-/
namespace H5V.Lemmas.XmlRT
open H5V.Model.XmlTok

/-- the registers that must be empty between two pieces of markup -/
structure Clean (m : Mach) : Prop where
  an : m.attrName = []
  av : m.attrValue = []
  dt : m.doctype = {}

structure Regs (m : Mach) (k : TagKind) (nm : Str) (as : List Attr) (an av : Str) : Prop where
  kind : m.tagKind = k
  name : m.tagName = nm
  attrs : m.tagAttrs = as
  an : m.attrName = an
  av : m.attrValue = av
  dt : m.doctype = {}

theorem carried_clean : Carried Clean :=
  ⟨fun _ _ h => ⟨h.an, h.av, h.dt⟩, fun _ _ h => ⟨h.an, h.av, h.dt⟩⟩
theorem carried_regs (k nm as an av) : Carried (fun m => Regs m k nm as an av) :=
  ⟨fun _ _ h => ⟨h.kind, h.name, h.attrs, h.an, h.av, h.dt⟩, fun _ _ h => ⟨h.kind, h.name, h.attrs, h.an, h.av, h.dt⟩⟩

/-- a character that may stand inside a tag name or attribute name: not a delimiter of the tag states
and not rewritten by the input preprocessing -/
def NmCh (c : Char) : Prop :=
  c ≠ '\t' ∧ c ≠ '\n' ∧ c ≠ ' ' ∧ c ≠ '/' ∧ c ≠ '>' ∧ c ≠ '\r' ∧ c ≠ '\x00'

/-- `finish_attribute` on the registers -/
def finAttr (as : List Attr) (an av : Str) : List Attr :=
  if an.isEmpty then as else
  if as.any (fun a => a.name == processQName an) then as
  else if ((processQName an).pfx.isNone && (processQName an).loc == xmlnsName) || (processQName an).pfx == some xmlnsName
    then ⟨processQName an, av⟩ :: as
  else as ++ [⟨processQName an, av⟩]

theorem finishAttribute_eq (m : Mach) :
    finishAttribute m = if m.attrName.isEmpty then m else
      { m with tagAttrs := finAttr m.tagAttrs m.attrName m.attrValue, attrName := [], attrValue := [],
               out := if m.tagAttrs.any (fun a => a.name == processQName m.attrName)
                 then .error "Duplicate attribute".toList :: m.out else m.out } := by
  unfold finishAttribute finAttr
  by_cases h1 : m.attrName.isEmpty = true
  · simp [h1]
  · simp only [h1, Bool.false_eq_true, if_false]
    by_cases h2 : (m.tagAttrs.any (fun a => a.name == processQName m.attrName)) = true
    · simp only [h2, if_true]; simp [emitErr, emit]
    · simp only [h2, Bool.false_eq_true, if_false]
      split <;> rfl

macro "mach_simp" : tactic =>
  `(tactic| simp [to, reconsumeTo, createTag, discardTag, pushTag, pushName, pushValue, appendValue, emit, emitErr,
      emitChar, emitChars, consumeCharRef, Mach.setCurrentChar, Mach.setCharRef, Mach.setIgnoreLf,
      Mach.setReconsume, *])

/-! ### data state -/

theorem data_plain (o : Opts) (ho : o.exactErrors = false) (m : Mach) (c : Char) (rest : Str)
    (h : Ctl m .data) (hn : Clean m) (hc : c ≠ '\x00' ∧ c ≠ '\r' ∧ c ≠ '&' ∧ c ≠ '<') :
    ∃ m', step o m (c :: rest) = .cont m' rest ∧ Ctl m' .data ∧ Clean m' ∧ m'.out = .chars [c] :: m.out := by
  obtain ⟨h1, h2, h3, h4⟩ := hc
  obtain ⟨s1, s2, s3, s4, s5⟩ := h
  obtain ⟨n1, n2, n3⟩ := hn
  refine ⟨emitChars m [c], ?_, ?_, ?_, ?_⟩
  · rw [step_set_plain o ho m c rest s2 (by rw [s1]; rfl) s3 s4 (by simp [s1, setOf, h1, h2, h3, h4])]
    simp [transSet, s1, ofSig]
  · exact ⟨s1, s2, s3, s4, s5⟩
  · exact ⟨n1, n2, n3⟩
  · rfl

theorem data_lt (o : Opts) (ho : o.exactErrors = false) (m : Mach) (rest : Str)
    (h : Ctl m .data) (hn : Clean m) :
    ∃ m', step o m ('<' :: rest) = .cont m' rest ∧ Ctl m' .tagState ∧ Clean m' ∧ m'.out = m.out := by
  obtain ⟨s1, s2, s3, s4, s5⟩ := h
  obtain ⟨n1, n2, n3⟩ := hn
  refine ⟨to .tagState (m.setCurrentChar '<'), ?_, ?_, ?_, ?_⟩
  · rw [step_set_from o ho m '<' rest s2 (by rw [s1]; rfl) s3 s4 (by simp [s1, setOf]) (by decide) (by decide)]
    simp [transSet, s1, ofSig]
  · exact ⟨rfl, s2, s3, s4, s5⟩
  · exact ⟨n1, n2, n3⟩
  · rfl

theorem data_amp (o : Opts) (ho : o.exactErrors = false) (m : Mach) (rest : Str)
    (h : Ctl m .data) (hn : Clean m) :
    ∃ m', step o m ('&' :: rest) = .cont m' rest ∧ CRCtl m' .data { addnlAllowed := none } ∧ Clean m' ∧
      m'.out = m.out := by
  obtain ⟨s1, s2, s3, s4, s5⟩ := h
  obtain ⟨n1, n2, n3⟩ := hn
  refine ⟨consumeCharRef none (m.setCurrentChar '&'), ?_, ?_, ?_, ?_⟩
  · rw [step_set_from o ho m '&' rest s2 (by rw [s1]; rfl) s3 s4 (by simp [s1, setOf]) (by decide) (by decide)]
    simp [transSet, s1, ofSig]
  · constructor <;> mach_simp
  · exact ⟨n1, n2, n3⟩
  · rfl

/-! ### tags -/

theorem tag_first (o : Opts) (ho : o.exactErrors = false) (m : Mach) (c : Char) (rest : Str)
    (h : Ctl m .tagState) (hn : Clean m) (hc : NmCh c) (hc' : c ≠ '!' ∧ c ≠ '?' ∧ c ≠ ':' ∧ c ≠ '<') :
    ∃ m', step o m (c :: rest) = .cont m' rest ∧ Ctl m' .tagName ∧ Regs m' .startTag [c] [] [] [] ∧
      m'.out = m.out := by
  obtain ⟨c1, c2, c3, c4, c5, c6, c7⟩ := hc
  obtain ⟨d1, d2, d3, d4⟩ := hc'
  obtain ⟨n1, n2, n3⟩ := hn
  obtain ⟨e, hc'⟩ := h.char_step o ho rfl c c6 c7 rest (m' := to .tagName (createTag .startTag c (m.setCurrentChar c)))
    (by simp [transChar, h.st, c1, c2, c3, c4, c5, d1, d2, d3, d4]) rfl rfl
  exact ⟨_, e, hc', ⟨rfl, rfl, rfl, n1, n2, n3⟩, rfl⟩

theorem tag_slash (o : Opts) (ho : o.exactErrors = false) (m : Mach) (rest : Str)
    (h : Ctl m .tagState) (hn : Clean m) :
    ∃ m', step o m ('/' :: rest) = .cont m' rest ∧ Ctl m' .endTagState ∧ Clean m' ∧ m'.out = m.out := by
  obtain ⟨n1, n2, n3⟩ := hn
  obtain ⟨e, hc'⟩ := h.char_step o ho rfl '/' (by decide) (by decide) rest (m' := to .endTagState (m.setCurrentChar '/'))
    (by simp [transChar, h.st]) rfl rfl
  exact ⟨_, e, hc', ⟨n1, n2, n3⟩, rfl⟩

theorem tag_bang (o : Opts) (ho : o.exactErrors = false) (m : Mach) (rest : Str)
    (h : Ctl m .tagState) (hn : Clean m) :
    ∃ m', step o m ('!' :: rest) = .cont m' rest ∧ Ctl m' .markupDecl ∧ Clean m' ∧ m'.out = m.out := by
  obtain ⟨n1, n2, n3⟩ := hn
  obtain ⟨e, hc'⟩ := h.char_step o ho rfl '!' (by decide) (by decide) rest (m' := to .markupDecl (m.setCurrentChar '!'))
    (by simp [transChar, h.st]) rfl rfl
  exact ⟨_, e, hc', ⟨n1, n2, n3⟩, rfl⟩

theorem tag_q (o : Opts) (ho : o.exactErrors = false) (m : Mach) (rest : Str)
    (h : Ctl m .tagState) (hn : Clean m) :
    ∃ m', step o m ('?' :: rest) = .cont m' rest ∧ Ctl m' .pi ∧ Clean m' ∧ m'.out = m.out := by
  obtain ⟨n1, n2, n3⟩ := hn
  obtain ⟨e, hc'⟩ := h.char_step o ho rfl '?' (by decide) (by decide) rest (m' := to .pi (m.setCurrentChar '?'))
    (by simp [transChar, h.st]) rfl rfl
  exact ⟨_, e, hc', ⟨n1, n2, n3⟩, rfl⟩

theorem etag_first (o : Opts) (ho : o.exactErrors = false) (m : Mach) (c : Char) (rest : Str)
    (h : Ctl m .endTagState) (hn : Clean m) (hc : NmCh c) (hc' : c ≠ ':' ∧ c ≠ '<') :
    ∃ m', step o m (c :: rest) = .cont m' rest ∧ Ctl m' .endTagName ∧ Regs m' .endTag [c] [] [] [] ∧
      m'.out = m.out := by
  obtain ⟨c1, c2, c3, c4, c5, c6, c7⟩ := hc
  obtain ⟨d3, d4⟩ := hc'
  obtain ⟨n1, n2, n3⟩ := hn
  obtain ⟨e, hc'⟩ := h.char_step o ho rfl c c6 c7 rest (m' := to .endTagName (createTag .endTag c (m.setCurrentChar c)))
    (by simp [transChar, h.st, c1, c2, c3, c5, d3, d4]) rfl rfl
  exact ⟨_, e, hc', ⟨rfl, rfl, rfl, n1, n2, n3⟩, rfl⟩

/-- a name character in the tag-name state of a start tag or of an end tag -/
theorem name_push (o : Opts) (ho : o.exactErrors = false) (m : Mach) (c : Char) (rest : Str) (st : State)
    (hst : st = .tagName ∨ st = .endTagName)
    (k : TagKind) (nm : Str) (as : List Attr) (an av : Str)
    (h : Ctl m st) (hr : Regs m k nm as an av) (hc : NmCh c) :
    ∃ m', step o m (c :: rest) = .cont m' rest ∧ Ctl m' st ∧ Regs m' k (nm ++ [c]) as an av ∧
      m'.out = m.out := by
  obtain ⟨c1, c2, c3, c4, c5, c6, c7⟩ := hc
  obtain ⟨s1, s2, s3, s4, s5⟩ := h
  obtain ⟨r1, r2, r3, r4, r5, r6⟩ := hr
  refine ⟨pushTag c (m.setCurrentChar c), ?_, ?_, ?_, ?_⟩
  · rcases hst with rfl | rfl
    · rw [step_char o ho m c rest s2 (by rw [s1]; rfl) s3 s4 c6 c7]
      simp [transChar, s1, ofSig, isWs3, c1, c2, c3, c4, c5]
    · rw [step_char o ho m c rest s2 (by rw [s1]; rfl) s3 s4 c6 c7]
      simp [transChar, s1, ofSig, isWs3, c1, c2, c3, c4, c5]
  · exact ⟨s1, s2, s3, s4, s5⟩
  · exact ⟨r1, congrArg (· ++ [c]) r2, r3, r4, r5, r6⟩
  · rfl

theorem tagName_sp (o : Opts) (ho : o.exactErrors = false) (m : Mach) (rest : Str)
    (k : TagKind) (nm : Str) (as : List Attr) (an av : Str)
    (h : Ctl m .tagName) (hr : Regs m k nm as an av) :
    ∃ m', step o m (' ' :: rest) = .cont m' rest ∧ Ctl m' .tagAttrNameBefore ∧ Regs m' k nm as an av ∧
      m'.out = m.out := by
  obtain ⟨r1, r2, r3, r4, r5, r6⟩ := hr
  obtain ⟨e, hc'⟩ := h.char_step o ho rfl ' ' (by decide) (by decide) rest (m' := to .tagAttrNameBefore (m.setCurrentChar ' '))
    (by simp [transChar, h.st, isWs3]) rfl rfl
  exact ⟨_, e, hc', ⟨r1, r2, r3, r4, r5, r6⟩, rfl⟩

/-- what `finish_attribute` does, register by register -/
structure FA (m m1 : Mach) : Prop where
  st : m1.state = m.state
  cr : m1.charRef = m.charRef
  rc : m1.reconsume = m.reconsume
  ilf : m1.ignoreLf = m.ignoreLf
  tb : m1.tempBuf = m.tempBuf
  kind : m1.tagKind = m.tagKind
  name : m1.tagName = m.tagName
  dt : m1.doctype = m.doctype
  attrs : m1.tagAttrs = finAttr m.tagAttrs m.attrName m.attrValue
  an : m1.attrName = []
  av : m1.attrValue = if m.attrName.isEmpty then m.attrValue else []
  out : cvOut m1.out = cvOut m.out

theorem finishAttribute_fa (m : Mach) : FA m (finishAttribute m) := by
  rw [finishAttribute_eq]
  by_cases h1 : m.attrName.isEmpty = true
  · simp only [h1, if_true]
    have : m.attrName = [] := by simpa using h1
    constructor <;> simp [finAttr, this]
  · simp only [h1, Bool.false_eq_true, if_false]
    refine ⟨rfl, rfl, rfl, rfl, rfl, rfl, rfl, rfl, rfl, rfl, ?_, ?_⟩
    · simp [h1]
    · show cvOut (if _ then _ else _) = _
      split
      · rw [cvOut_err]
      · rfl

theorem emitCurrentTag_eq (m : Mach)
    (hk : m.tagKind = .startTag ∨ (m.tagKind = .endTag ∧ finAttr m.tagAttrs m.attrName m.attrValue = [])) :
    emitCurrentTag m =
      emit { finishAttribute m with tagName := [], tagAttrs := [] }
        (.tag ⟨m.tagKind, processQName m.tagName, finAttr m.tagAttrs m.attrName m.attrValue⟩) := by
  have fa := finishAttribute_fa m
  unfold emitCurrentTag
  generalize finishAttribute m = m1 at fa ⊢
  obtain ⟨f1, f2, f3, f4, f5, f6, f7, f8, f9, f10, f11, f12⟩ := fa
  rcases hk with hk | ⟨hk, he⟩
  · simp only [f6, hk, f7, f9]
  · simp only [f6, hk, f7, f9, he, List.isEmpty_nil, Bool.not_true, Bool.false_eq_true, if_false]

/-- `>` in one of the states that emit the current tag -/
theorem tag_emit (o : Opts) (ho : o.exactErrors = false) (m : Mach) (rest : Str) (st : State)
    (hst : st = .tagName ∨ st = .endTagName ∨ st = .tagAttrNameBefore)
    (k : TagKind) (nm : Str) (as : List Attr) (an av : Str)
    (h : Ctl m st) (hr : Regs m k nm as an av) (hav : an = [] → av = [])
    (hk : k = .startTag ∨ (k = .endTag ∧ finAttr as an av = [])) :
    ∃ m', step o m ('>' :: rest) = .cont m' rest ∧ Ctl m' .data ∧ Clean m' ∧
      cvOut m'.out = cvOut m.out ++
        [.tag ⟨cvKind k, cvName (processQName nm), (finAttr as an av).map cvAttr⟩] := by
  obtain ⟨s1, s2, s3, s4, s5⟩ := h
  obtain ⟨r1, r2, r3, r4, r5, r6⟩ := hr
  have hstep : step o m ('>' :: rest) = .cont (emitTag .data (m.setCurrentChar '>')) rest := by
    rcases hst with rfl | rfl | rfl
    · rw [step_char o ho m '>' rest s2 (by rw [s1]; rfl) s3 s4 (by decide) (by decide)]
      simp [transChar, s1, ofSig, isWs3]
    · rw [step_char o ho m '>' rest s2 (by rw [s1]; rfl) s3 s4 (by decide) (by decide)]
      simp [transChar, s1, ofSig, isWs3]
    · rw [step_char o ho m '>' rest s2 (by rw [s1]; rfl) s3 s4 (by decide) (by decide)]
      simp [transChar, s1, ofSig, isWs3]
  refine ⟨emitTag .data (m.setCurrentChar '>'), hstep, ?_⟩
  have hk' : (to .data (m.setCurrentChar '>')).tagKind = .startTag ∨
      ((to .data (m.setCurrentChar '>')).tagKind = .endTag ∧
        finAttr (to .data (m.setCurrentChar '>')).tagAttrs (to .data (m.setCurrentChar '>')).attrName
          (to .data (m.setCurrentChar '>')).attrValue = []) := by
    simpa [to, Mach.setCurrentChar, r1, r3, r4, r5] using hk
  unfold emitTag
  rw [emitCurrentTag_eq _ hk']
  have fa := finishAttribute_fa (to .data (m.setCurrentChar '>'))
  generalize finishAttribute (to .data (m.setCurrentChar '>')) = m1 at fa ⊢
  obtain ⟨f1, f2, f3, f4, f5, f6, f7, f8, f9, f10, f11, f12⟩ := fa
  have e1 : (to .data (m.setCurrentChar '>')).attrName = an := by simp [to, Mach.setCurrentChar, r4]
  have e2 : (to .data (m.setCurrentChar '>')).attrValue = av := by simp [to, Mach.setCurrentChar, r5]
  refine ⟨?_, ?_, ?_⟩
  · constructor
    · simp [emit, f1, to]
    · simp [emit, f2, to, Mach.setCurrentChar, s2]
    · simp [emit, f3, to, Mach.setCurrentChar, s3]
    · simp [emit, f4, to, Mach.setCurrentChar, s4]
    · simp [emit, f5, to, Mach.setCurrentChar, s5]
  · constructor
    · simp [emit, f10]
    · simp only [emit, f11, e1, e2]
      by_cases ha : an = []
      · simp [ha, hav ha]
      · have : an.isEmpty = false := by cases an <;> simp_all
        simp [this]
    · simp [emit, f8, to, Mach.setCurrentChar, r6]
  · simp only [emit]
    rw [cvOut_cons, f12]
    simp [cvOut, cvTok, to, Mach.setCurrentChar, r1, r2, r3, r4, r5]

/-! ### attributes -/

theorem anb_sp (o : Opts) (ho : o.exactErrors = false) (m : Mach) (rest : Str)
    (k : TagKind) (nm : Str) (as : List Attr) (an av : Str)
    (h : Ctl m .tagAttrNameBefore) (hr : Regs m k nm as an av) :
    ∃ m', step o m (' ' :: rest) = .cont m' rest ∧ Ctl m' .tagAttrNameBefore ∧ Regs m' k nm as an av ∧
      m'.out = m.out := by
  obtain ⟨r1, r2, r3, r4, r5, r6⟩ := hr
  obtain ⟨e, hc'⟩ := h.char_step o ho rfl ' ' (by decide) (by decide) rest (m' := m.setCurrentChar ' ')
    (by simp [transChar, h.st, isWs3]) h.st rfl
  exact ⟨_, e, hc', ⟨r1, r2, r3, r4, r5, r6⟩, rfl⟩

/-- first character of an attribute name: the pending attribute (if any) is finished -/
theorem anb_first (o : Opts) (ho : o.exactErrors = false) (m : Mach) (c : Char) (rest : Str)
    (k : TagKind) (nm : Str) (as : List Attr) (an av : Str)
    (h : Ctl m .tagAttrNameBefore) (hr : Regs m k nm as an av) (hav : an = [] → av = [])
    (hc : NmCh c) (hc' : c ≠ ':') :
    ∃ m', step o m (c :: rest) = .cont m' rest ∧ Ctl m' .tagAttrName ∧
      Regs m' k nm (finAttr as an av) [c] [] ∧ cvOut m'.out = cvOut m.out := by
  obtain ⟨c1, c2, c3, c4, c5, c6, c7⟩ := hc
  obtain ⟨s1, s2, s3, s4, s5⟩ := h
  obtain ⟨r1, r2, r3, r4, r5, r6⟩ := hr
  refine ⟨to .tagAttrName (createAttr c (m.setCurrentChar c)), ?_, ?_⟩
  · rw [step_char o ho m c rest s2 (by rw [s1]; rfl) s3 s4 c6 c7]
    simp [transChar, s1, ofSig, isWs3, c1, c2, c3, c4, c5, hc']
  unfold createAttr
  have fa := finishAttribute_fa (m.setCurrentChar c)
  generalize finishAttribute (m.setCurrentChar c) = m1 at fa ⊢
  obtain ⟨f1, f2, f3, f4, f5, f6, f7, f8, f9, f10, f11, f12⟩ := fa
  refine ⟨?_, ?_, ?_⟩
  · constructor
    · simp [to]
    · simp [to, f2, Mach.setCurrentChar, s2]
    · simp [to, f3, Mach.setCurrentChar, s3]
    · simp [to, f4, Mach.setCurrentChar, s4]
    · simp [to, f5, Mach.setCurrentChar, s5]
  · constructor
    · simp [to, f6, Mach.setCurrentChar, r1]
    · simp [to, f7, Mach.setCurrentChar, r2]
    · simp [to, f9, Mach.setCurrentChar, r3, r4, r5]
    · simp [to, f10]
    · simp only [to, f11]
      by_cases ha : an = []
      · simp [Mach.setCurrentChar, r4, r5, ha, hav ha]
      · have : an.isEmpty = false := by cases an <;> simp_all
        simp [Mach.setCurrentChar, r4, this]
    · simp [to, f8, Mach.setCurrentChar, r6]
  · simp only [to]
    rw [f12]; rfl

theorem an_push (o : Opts) (ho : o.exactErrors = false) (m : Mach) (c : Char) (rest : Str)
    (k : TagKind) (nm : Str) (as : List Attr) (an av : Str)
    (h : Ctl m .tagAttrName) (hr : Regs m k nm as an av) (hc : NmCh c) (hc' : c ≠ '=') :
    ∃ m', step o m (c :: rest) = .cont m' rest ∧ Ctl m' .tagAttrName ∧ Regs m' k nm as (an ++ [c]) av ∧
      m'.out = m.out := by
  obtain ⟨c1, c2, c3, c4, c5, c6, c7⟩ := hc
  obtain ⟨r1, r2, r3, r4, r5, r6⟩ := hr
  obtain ⟨e, hc'⟩ := h.char_step o ho rfl c c6 c7 rest (m' := pushName c (m.setCurrentChar c))
    (by simp [transChar, h.st, isWs3, c1, c2, c3, c4, c5, hc']) h.st rfl
  exact ⟨_, e, hc', ⟨r1, r2, r3, congrArg (· ++ [c]) r4, r5, r6⟩, rfl⟩

theorem an_eq (o : Opts) (ho : o.exactErrors = false) (m : Mach) (rest : Str)
    (k : TagKind) (nm : Str) (as : List Attr) (an av : Str)
    (h : Ctl m .tagAttrName) (hr : Regs m k nm as an av) :
    ∃ m', step o m ('=' :: rest) = .cont m' rest ∧ Ctl m' .tagAttrValueBefore ∧ Regs m' k nm as an av ∧
      m'.out = m.out := by
  obtain ⟨r1, r2, r3, r4, r5, r6⟩ := hr
  obtain ⟨e, hc'⟩ := h.char_step o ho rfl '=' (by decide) (by decide) rest (m' := to .tagAttrValueBefore (m.setCurrentChar '='))
    (by simp [transChar, h.st]) rfl rfl
  exact ⟨_, e, hc', ⟨r1, r2, r3, r4, r5, r6⟩, rfl⟩

theorem avb_quote (o : Opts) (ho : o.exactErrors = false) (m : Mach) (rest : Str)
    (k : TagKind) (nm : Str) (as : List Attr) (an av : Str)
    (h : Ctl m .tagAttrValueBefore) (hr : Regs m k nm as an av) :
    ∃ m', step o m ('"' :: rest) = .cont m' rest ∧ Ctl m' (.tagAttrValue .doubleQuoted) ∧ Regs m' k nm as an av ∧
      m'.out = m.out := by
  obtain ⟨r1, r2, r3, r4, r5, r6⟩ := hr
  obtain ⟨e, hc'⟩ := h.char_step o ho rfl '"' (by decide) (by decide) rest (m' := to (.tagAttrValue .doubleQuoted) (m.setCurrentChar '"'))
    (by simp [transChar, h.st, isWs3]) rfl rfl
  exact ⟨_, e, hc', ⟨r1, r2, r3, r4, r5, r6⟩, rfl⟩

theorem val_plain (o : Opts) (ho : o.exactErrors = false) (m : Mach) (c : Char) (rest : Str)
    (k : TagKind) (nm : Str) (as : List Attr) (an av : Str)
    (h : Ctl m (.tagAttrValue .doubleQuoted)) (hr : Regs m k nm as an av)
    (hc : c ≠ '\x00' ∧ c ≠ '\r' ∧ c ≠ '"' ∧ c ≠ '&') :
    ∃ m', step o m (c :: rest) = .cont m' rest ∧ Ctl m' (.tagAttrValue .doubleQuoted) ∧
      Regs m' k nm as an (av ++ [c]) ∧ m'.out = m.out := by
  obtain ⟨h1, h2, h3, h4⟩ := hc
  obtain ⟨s1, s2, s3, s4, s5⟩ := h
  obtain ⟨r1, r2, r3, r4, r5, r6⟩ := hr
  by_cases h5 : c = '\n'
  · subst h5
    refine ⟨pushValue '\n' (m.setCurrentChar '\n'), ?_, ?_, ?_, ?_⟩
    · rw [step_set_from o ho m '\n' rest s2 (by rw [s1]; rfl) s3 s4 (by simp [s1, setOf]) (by decide) (by decide)]
      simp [transSet, s1, ofSig]
    · exact ⟨s1, s2, s3, s4, s5⟩
    · constructor <;> mach_simp
    · mach_simp
  · refine ⟨appendValue [c] m, ?_, ?_, ?_, ?_⟩
    · rw [step_set_plain o ho m c rest s2 (by rw [s1]; rfl) s3 s4 (by simp [s1, setOf, h1, h2, h3, h4, h5])]
      simp [transSet, s1, ofSig]
    · exact ⟨s1, s2, s3, s4, s5⟩
    · exact ⟨r1, r2, r3, r4, congrArg (· ++ [c]) r5, r6⟩
    · mach_simp

theorem val_amp (o : Opts) (ho : o.exactErrors = false) (m : Mach) (rest : Str)
    (k : TagKind) (nm : Str) (as : List Attr) (an av : Str)
    (h : Ctl m (.tagAttrValue .doubleQuoted)) (hr : Regs m k nm as an av) :
    ∃ m', step o m ('&' :: rest) = .cont m' rest ∧
      CRCtl m' (.tagAttrValue .doubleQuoted) { addnlAllowed := some '"' } ∧ Regs m' k nm as an av ∧
      m'.out = m.out := by
  obtain ⟨s1, s2, s3, s4, s5⟩ := h
  obtain ⟨r1, r2, r3, r4, r5, r6⟩ := hr
  refine ⟨consumeCharRef (some '"') (m.setCurrentChar '&'), ?_, ?_, ?_, ?_⟩
  · rw [step_set_from o ho m '&' rest s2 (by rw [s1]; rfl) s3 s4 (by simp [s1, setOf]) (by decide) (by decide)]
    simp [transSet, s1, ofSig]
  · constructor <;> mach_simp
  · exact ⟨r1, r2, r3, r4, r5, r6⟩
  · rfl

theorem val_quote (o : Opts) (ho : o.exactErrors = false) (m : Mach) (rest : Str)
    (k : TagKind) (nm : Str) (as : List Attr) (an av : Str)
    (h : Ctl m (.tagAttrValue .doubleQuoted)) (hr : Regs m k nm as an av) :
    ∃ m', step o m ('"' :: rest) = .cont m' rest ∧ Ctl m' .tagAttrNameBefore ∧ Regs m' k nm as an av ∧
      m'.out = m.out := by
  obtain ⟨s1, s2, s3, s4, s5⟩ := h
  obtain ⟨r1, r2, r3, r4, r5, r6⟩ := hr
  refine ⟨to .tagAttrNameBefore (m.setCurrentChar '"'), ?_, ?_, ?_, ?_⟩
  · rw [step_set_from o ho m '"' rest s2 (by rw [s1]; rfl) s3 s4 (by simp [s1, setOf]) (by decide) (by decide)]
    simp [transSet, s1, ofSig]
  · exact ⟨rfl, s2, s3, s4, s5⟩
  · exact ⟨r1, r2, r3, r4, r5, r6⟩
  · rfl

/-! ### delivery of a character reference -/

theorem cr_finish_data (o : Opts) (ho : o.exactErrors = false) (m : Mach) (x : Char) (rest : Str)
    (cr : CharRefSt) (nm : Str) (v : Nat)
    (h : CRCtl m .data cr) (hn : Clean m) (hd : CRDone cr nm v) (hr : RefOk nm v)
    (h1 : x ≠ '\r') (h2 : x ≠ '\x00') :
    ∃ m', step o m (x :: rest) = .cont m' (x :: rest) ∧ Ctl m' .data ∧ Clean m' ∧
      m'.out = .chars [Char.ofNat v] :: m.out := by
  have hs := cr_finish_step o ho m x rest _ cr nm v h hd hr.ne hr.semi hr.valid (hr.none x) h1 h2
  obtain ⟨s1, s2, s3, s4, s5⟩ := h
  obtain ⟨n1, n2, n3⟩ := hn
  have hz := hr.nz
  refine ⟨(emitChar (m.setCurrentChar x) (Char.ofNat v)).setCharRef none, ?_, ?_, ?_, ?_⟩
  · rw [hs]; simp [processCharRef, s1, ofSig]
  · constructor <;> mach_simp
  · exact ⟨n1, n2, n3⟩
  · mach_simp

theorem cr_finish_attr (o : Opts) (ho : o.exactErrors = false) (m : Mach) (x : Char) (rest : Str)
    (cr : CharRefSt) (nm : Str) (v : Nat) (k : TagKind) (tn : Str) (as : List Attr) (an av : Str)
    (h : CRCtl m (.tagAttrValue .doubleQuoted) cr) (hg : Regs m k tn as an av) (hd : CRDone cr nm v)
    (hr : RefOk nm v) (h1 : x ≠ '\r') (h2 : x ≠ '\x00') :
    ∃ m', step o m (x :: rest) = .cont m' (x :: rest) ∧ Ctl m' (.tagAttrValue .doubleQuoted) ∧
      Regs m' k tn as an (av ++ [Char.ofNat v]) ∧ m'.out = m.out := by
  have hs := cr_finish_step o ho m x rest _ cr nm v h hd hr.ne hr.semi hr.valid (hr.none x) h1 h2
  obtain ⟨s1, s2, s3, s4, s5⟩ := h
  obtain ⟨r1, r2, r3, r4, r5, r6⟩ := hg
  refine ⟨(pushValue (Char.ofNat v) (m.setCurrentChar x)).setCharRef none, ?_, ?_, ?_, ?_⟩
  · rw [hs]; simp [processCharRef, s1, ofSig]
  · constructor <;> mach_simp
  · constructor <;> mach_simp
  · rfl

theorem cr_num13_data (o : Opts) (ho : o.exactErrors = false) (m : Mach) (rest : Str) (a : Option Char)
    (h : CRCtl m .data (crNum13 a)) (hn : Clean m) :
    ∃ m', step o m (';' :: rest) = .cont m' rest ∧ Ctl m' .data ∧ Clean m' ∧
      cvOut m'.out = cvOut m.out ++ [.chars ['\r']] := by
  have hs := cr_num13_finish o ho m rest _ a h
  obtain ⟨s1, s2, s3, s4, s5⟩ := h
  obtain ⟨n1, n2, n3⟩ := hn
  refine ⟨(emitChar (emitErr (m.setCurrentChar ';') "Invalid numeric character reference") '\r').setCharRef none,
    ?_, ?_, ?_, ?_⟩
  · rw [hs]; simp [processCharRef, s1, ofSig]
  · constructor <;> mach_simp
  · exact ⟨n1, n2, n3⟩
  · simp only [emitChar, emit, emitErr, Mach.setCharRef, Mach.setCurrentChar]
    rw [cvOut_cons, cvOut_err]
    simp [cvTok]

theorem cr_num13_attr (o : Opts) (ho : o.exactErrors = false) (m : Mach) (rest : Str) (a : Option Char)
    (k : TagKind) (tn : Str) (as : List Attr) (an av : Str)
    (h : CRCtl m (.tagAttrValue .doubleQuoted) (crNum13 a)) (hg : Regs m k tn as an av) :
    ∃ m', step o m (';' :: rest) = .cont m' rest ∧ Ctl m' (.tagAttrValue .doubleQuoted) ∧
      Regs m' k tn as an (av ++ ['\r']) ∧ cvOut m'.out = cvOut m.out := by
  have hs := cr_num13_finish o ho m rest _ a h
  obtain ⟨s1, s2, s3, s4, s5⟩ := h
  obtain ⟨r1, r2, r3, r4, r5, r6⟩ := hg
  refine ⟨(pushValue '\r' (emitErr (m.setCurrentChar ';') "Invalid numeric character reference")).setCharRef none,
    ?_, ?_, ?_, ?_⟩
  · rw [hs]; simp [processCharRef, s1, ofSig]
  · constructor <;> mach_simp
  · constructor <;> mach_simp
  · simp only [pushValue, emit, emitErr, Mach.setCharRef, Mach.setCurrentChar]
    rw [cvOut_err]

/-! ### end of input -/

theorem data_suspend (o : Opts) (ho : o.exactErrors = false) (m : Mach) (h : Ctl m .data) :
    step o m [] = .suspend m [] := by
  obtain ⟨s1, s2, s3, s4, s5⟩ := h
  simp [step, s2, s1, readKind, popExceptFrom, ho, s3, s4]

/-! ## processing instructions and the doctype -/

macro "misc_simp" : tactic =>
  `(tactic| simp [to, reconsumeTo, createPi, pushPiTarget, pushPiData, emitPi, createDoctype, pushDoctypeName,
      emitDoctype, optPush, emit, emitErr, badChar, Mach.setCurrentChar, Mach.setCharRef, Mach.setIgnoreLf,
      Mach.setReconsume, Mach.setTempBuf, *])

/-! ### processing instructions -/

structure PiRegs (m : Mach) (t d : Str) : Prop where
  t : m.piTarget = t
  d : m.piData = d

/-- a character the input preprocessing leaves alone -/
def PlainCh (c : Char) : Prop := c ≠ '\r' ∧ c ≠ '\x00'
/-- not one of the three blanks of the tag / PI states -/
def NoWs3 (c : Char) : Prop := c ≠ '\t' ∧ c ≠ '\n' ∧ c ≠ ' '

theorem pi_first (o : Opts) (ho : o.exactErrors = false) (m : Mach) (c : Char) (rest : Str)
    (h : Ctl m .pi) (hn : Clean m) (hp : PlainCh c) (hw : NoWs3 c) :
    ∃ m', step o m (c :: rest) = .cont m' rest ∧ Ctl m' .piTarget ∧ Clean m' ∧ PiRegs m' [c] [] ∧
      m'.out = m.out := by
  obtain ⟨n1, n2, n3⟩ := hn
  obtain ⟨w1, w2, w3⟩ := hw
  obtain ⟨e, hc'⟩ := h.char_step o ho rfl c hp.1 hp.2 rest (m' := to .piTarget (createPi c (m.setCurrentChar c)))
    (by simp [transChar, h.st, isWs3, w1, w2, w3]) rfl rfl
  exact ⟨_, e, hc', ⟨n1, n2, n3⟩, ⟨rfl, rfl⟩, rfl⟩

theorem piTarget_push (o : Opts) (ho : o.exactErrors = false) (m : Mach) (c : Char) (rest : Str) (t d : Str)
    (h : Ctl m .piTarget) (hn : Clean m) (hr : PiRegs m t d) (hp : PlainCh c) (hw : NoWs3 c) (hq : c ≠ '?') :
    ∃ m', step o m (c :: rest) = .cont m' rest ∧ Ctl m' .piTarget ∧ Clean m' ∧ PiRegs m' (t ++ [c]) d ∧
      m'.out = m.out := by
  obtain ⟨n1, n2, n3⟩ := hn
  obtain ⟨r1, r2⟩ := hr
  obtain ⟨w1, w2, w3⟩ := hw
  obtain ⟨e, hc'⟩ := h.char_step o ho rfl c hp.1 hp.2 rest (m' := pushPiTarget c (m.setCurrentChar c))
    (by simp [transChar, h.st, isWs3, w1, w2, w3, hq]) h.st rfl
  exact ⟨_, e, hc', ⟨n1, n2, n3⟩, ⟨congrArg (· ++ [c]) r1, r2⟩, rfl⟩

theorem piTarget_sp (o : Opts) (ho : o.exactErrors = false) (m : Mach) (rest : Str) (t d : Str)
    (h : Ctl m .piTarget) (hn : Clean m) (hr : PiRegs m t d) :
    ∃ m', step o m (' ' :: rest) = .cont m' rest ∧ Ctl m' .piTargetAfter ∧ Clean m' ∧ PiRegs m' t d ∧
      m'.out = m.out := by
  obtain ⟨n1, n2, n3⟩ := hn
  obtain ⟨r1, r2⟩ := hr
  obtain ⟨e, hc'⟩ := h.char_step o ho rfl ' ' (by decide) (by decide) rest (m' := to .piTargetAfter (m.setCurrentChar ' '))
    (by simp [transChar, h.st, isWs3]) rfl rfl
  exact ⟨_, e, hc', ⟨n1, n2, n3⟩, ⟨r1, r2⟩, rfl⟩

/-- first character after the blank: re-read in the PI-data state (two steps) -/
theorem piTargetAfter_char (o : Opts) (ho : o.exactErrors = false) (m : Mach) (c : Char) (rest : Str) (t d : Str)
    (h : Ctl m .piTargetAfter) (hn : Clean m) (hr : PiRegs m t d) (hp : PlainCh c) (hw : NoWs3 c) :
    ∃ m', Reach o m (c :: rest) m' rest ∧ Clean m' ∧ m'.out = m.out ∧
      ((c = '?' ∧ Ctl m' .piAfter ∧ PiRegs m' t d) ∨ (c ≠ '?' ∧ Ctl m' .piData ∧ PiRegs m' t (d ++ [c]))) := by
  obtain ⟨s1, s2, s3, s4, s5⟩ := h
  obtain ⟨n1, n2, n3⟩ := hn
  obtain ⟨r1, r2⟩ := hr
  obtain ⟨w1, w2, w3⟩ := hw
  have e1 : step o m (c :: rest) = .cont (reconsumeTo .piData (m.setCurrentChar c)) rest := by
    rw [step_char o ho m c rest s2 (by rw [s1]; rfl) s3 s4 hp.1 hp.2]
    simp [transChar, s1, ofSig, isWs3, w1, w2, w3]
  by_cases hq : c = '?'
  · subst hq
    refine ⟨to .piAfter ((reconsumeTo .piData (m.setCurrentChar '?')).setReconsume false), ?_, ?_, ?_, ?_⟩
    · refine Reach.cons e1 (Reach.one ?_)
      rw [step_reconsume o _ rest (by misc_simp) (by simp [reconsumeTo]; rfl) (by simp [reconsumeTo])]
      simp [transChar, reconsumeTo, Mach.setCurrentChar, Mach.setReconsume, ofSig]
    · exact ⟨n1, n2, n3⟩
    · rfl
    · left; refine ⟨rfl, ?_, ?_⟩
      · constructor <;> misc_simp
      · exact ⟨r1, r2⟩
  · refine ⟨pushPiData c ((reconsumeTo .piData (m.setCurrentChar c)).setReconsume false), ?_, ?_, ?_, ?_⟩
    · refine Reach.cons e1 (Reach.one ?_)
      rw [step_reconsume o _ rest (by misc_simp) (by simp [reconsumeTo]; rfl) (by simp [reconsumeTo])]
      simp [transChar, reconsumeTo, Mach.setCurrentChar, Mach.setReconsume, ofSig, hq]
    · exact ⟨n1, n2, n3⟩
    · rfl
    · right; refine ⟨hq, ?_, ?_⟩
      · constructor <;> misc_simp
      · exact ⟨r1, congrArg (· ++ [c]) r2⟩

theorem piData_push (o : Opts) (ho : o.exactErrors = false) (m : Mach) (c : Char) (rest : Str) (t d : Str)
    (h : Ctl m .piData) (hn : Clean m) (hr : PiRegs m t d) (hp : PlainCh c) (hq : c ≠ '?') :
    ∃ m', step o m (c :: rest) = .cont m' rest ∧ Ctl m' .piData ∧ Clean m' ∧ PiRegs m' t (d ++ [c]) ∧
      m'.out = m.out := by
  obtain ⟨n1, n2, n3⟩ := hn
  obtain ⟨r1, r2⟩ := hr
  obtain ⟨e, hc'⟩ := h.char_step o ho rfl c hp.1 hp.2 rest (m' := pushPiData c (m.setCurrentChar c))
    (by simp [transChar, h.st, hq]) h.st rfl
  exact ⟨_, e, hc', ⟨n1, n2, n3⟩, ⟨r1, congrArg (· ++ [c]) r2⟩, rfl⟩

theorem piData_q (o : Opts) (ho : o.exactErrors = false) (m : Mach) (rest : Str) (t d : Str)
    (h : Ctl m .piData) (hn : Clean m) (hr : PiRegs m t d) :
    ∃ m', step o m ('?' :: rest) = .cont m' rest ∧ Ctl m' .piAfter ∧ Clean m' ∧ PiRegs m' t d ∧
      m'.out = m.out := by
  obtain ⟨n1, n2, n3⟩ := hn
  obtain ⟨r1, r2⟩ := hr
  obtain ⟨e, hc'⟩ := h.char_step o ho rfl '?' (by decide) (by decide) rest (m' := to .piAfter (m.setCurrentChar '?'))
    (by simp [transChar, h.st]) rfl rfl
  exact ⟨_, e, hc', ⟨n1, n2, n3⟩, ⟨r1, r2⟩, rfl⟩

theorem piAfter_gt (o : Opts) (ho : o.exactErrors = false) (m : Mach) (rest : Str) (t d : Str)
    (h : Ctl m .piAfter) (hn : Clean m) (hr : PiRegs m t d) :
    ∃ m', step o m ('>' :: rest) = .cont m' rest ∧ Ctl m' .data ∧ Clean m' ∧ m'.out = .pi t d :: m.out := by
  obtain ⟨n1, n2, n3⟩ := hn
  obtain ⟨r1, r2⟩ := hr
  obtain ⟨e, hc'⟩ := h.char_step o ho rfl '>' (by decide) (by decide) rest (m' := emitPi (to .data (m.setCurrentChar '>')))
    (by simp [transChar, h.st]) rfl rfl
  exact ⟨_, e, hc', ⟨n1, n2, n3⟩, by misc_simp⟩

/-! ### doctype -/

theorem eat_false (o : Opts) (m : Mach) (c : Char) (rest : Str) (p0 : Char) (pat : Str)
    (hilf : m.ignoreLf = false) (htb : m.tempBuf = []) (hne : eqCi c p0 = false) :
    eat o m (c :: rest) (p0 :: pat) = (some false, m.setTempBuf [], c :: rest) := by
  simp [eat, eatSkipLf, hilf, htb, eatCmp, hne]

theorem eat_true (o : Opts) (m : Mach) (inp pat : Str)
    (hilf : m.ignoreLf = false) (htb : m.tempBuf = []) (h : eatCmp eqCi inp pat = some true) :
    eat o m inp pat = (some true, m.setTempBuf [], inp.drop pat.length) := by
  simp [eat, eatSkipLf, hilf, htb, h]

/-- `<!` is followed by `DOCTYPE`: the three look-aheads of the markup-declaration state -/
theorem md_doctype (o : Opts) (m : Mach) (rest : Str) (h : Ctl m .markupDecl) (hn : Clean m) :
    ∃ m', step o m ('D' :: 'O' :: 'C' :: 'T' :: 'Y' :: 'P' :: 'E' :: rest) = .cont m' rest ∧
      Ctl m' .doctype ∧ Clean m' ∧ m'.out = m.out := by
  obtain ⟨s1, s2, s3, s4, s5⟩ := h
  obtain ⟨n1, n2, n3⟩ := hn
  refine ⟨to .doctype (m.setTempBuf []), ?_, ?_, ?_, ?_⟩
  · simp only [step, s2, s1, readKind, stepMd, kwDashDash, kwCdata, kwDoctype]
    rw [eat_false o m 'D' _ '-' _ s4 s5 (by decide)]
    simp only []
    rw [eat_false o _ 'D' _ '[' _ (by simpa [Mach.setTempBuf] using s4) (by simp [Mach.setTempBuf]) (by decide)]
    simp only []
    rw [eat_true o _ _ _ (by simpa [Mach.setTempBuf] using s4) (by simp [Mach.setTempBuf]) (by simp [eatCmp, eqCi])]
    simp [Mach.setTempBuf]
  · constructor <;> misc_simp
  · exact ⟨n1, n2, n3⟩
  · rfl

/-- `<!` is followed by `--` -/
theorem md_comment (o : Opts) (m : Mach) (rest : Str) (h : Ctl m .markupDecl) (hn : Clean m) :
    ∃ m', step o m ('-' :: '-' :: rest) = .cont m' rest ∧
      Ctl m' .commentStart ∧ Clean m' ∧ m'.comment = [] ∧ m'.out = m.out := by
  obtain ⟨s1, s2, s3, s4, s5⟩ := h
  obtain ⟨n1, n2, n3⟩ := hn
  refine ⟨to .commentStart (clearComment (m.setTempBuf [])), ?_, ?_, ?_, ?_, ?_⟩
  · simp only [step, s2, s1, readKind, stepMd, kwDashDash]
    rw [eat_true o _ _ _ s4 s5 (by simp [eatCmp, eqCi])]
    simp
  · constructor <;> simp [to, clearComment, Mach.setTempBuf, *]
  · constructor <;> simp [to, clearComment, Mach.setTempBuf, *]
  · simp [to, clearComment]
  · simp [to, clearComment, Mach.setTempBuf]

theorem doctype_sp (o : Opts) (ho : o.exactErrors = false) (m : Mach) (rest : Str)
    (h : Ctl m .doctype) (hn : Clean m) :
    ∃ m', step o m (' ' :: rest) = .cont m' rest ∧ Ctl m' .beforeDoctypeName ∧ Clean m' ∧ m'.out = m.out := by
  obtain ⟨n1, n2, n3⟩ := hn
  obtain ⟨e, hc'⟩ := h.char_step o ho rfl ' ' (by decide) (by decide) rest (m' := to .beforeDoctypeName (m.setCurrentChar ' '))
    (by simp [transChar, h.st, isWs4]) rfl rfl
  exact ⟨_, e, hc', ⟨n1, n2, n3⟩, rfl⟩

/-- a character of a doctype name: no blank, no `>`, no ASCII capital (names are lower-cased) -/
def DtCh (c : Char) : Prop :=
  c ≠ '\t' ∧ c ≠ '\n' ∧ c ≠ '\x0c' ∧ c ≠ ' ' ∧ c ≠ '>' ∧ c ≠ '\r' ∧ c ≠ '\x00' ∧ toAsciiLower c = c

/-- `<!DOCTYPE >`: the empty name; a "Bad character" parse error and a doctype without name -/
theorem bdn_gt (o : Opts) (ho : o.exactErrors = false) (m : Mach) (rest : Str)
    (h : Ctl m .beforeDoctypeName) (hn : Clean m) :
    ∃ m', step o m ('>' :: rest) = .cont m' rest ∧ Ctl m' .data ∧ Clean m' ∧
      cvOut m'.out = cvOut m.out ++ [.doctype none none none] := by
  obtain ⟨s1, s2, s3, s4, s5⟩ := h
  obtain ⟨n1, n2, n3⟩ := hn
  refine ⟨to .data (emitDoctype (badChar o (m.setCurrentChar '>'))), ?_, ?_, ?_, ?_⟩
  · rw [step_char o ho m '>' rest s2 (by rw [s1]; rfl) s3 s4 (by decide) (by decide)]
    simp [transChar, s1, ofSig, isWs4]
  · constructor <;> misc_simp
  · constructor <;> misc_simp
  · simp only [to, emitDoctype, emit, badChar, ho, Bool.false_eq_true, if_false, emitErr, Mach.setCurrentChar]
    rw [cvOut_cons, cvOut_err]
    simp [cvTok, n3]

theorem bdn_first (o : Opts) (ho : o.exactErrors = false) (m : Mach) (c : Char) (rest : Str)
    (h : Ctl m .beforeDoctypeName) (hn : Clean m) (hc : DtCh c) :
    ∃ m', step o m (c :: rest) = .cont m' rest ∧ Ctl m' .doctypeName ∧ m'.attrName = [] ∧ m'.attrValue = [] ∧
      m'.doctype = { name := some [c] } ∧ m'.out = m.out := by
  obtain ⟨n1, n2, n3⟩ := hn
  obtain ⟨c1, c2, c3, c4, c5, c6, c7, c8⟩ := hc
  obtain ⟨e, hc'⟩ := h.char_step o ho rfl c c6 c7 rest (m' := to .doctypeName (pushDoctypeName (toAsciiLower c) (createDoctype (m.setCurrentChar c))))
    (by simp [transChar, h.st, isWs4, c1, c2, c3, c4, c5]) rfl rfl
  exact ⟨_, e, hc', by misc_simp, by misc_simp, by misc_simp, rfl⟩

theorem dn_push (o : Opts) (ho : o.exactErrors = false) (m : Mach) (c : Char) (rest : Str) (n : Str)
    (h : Ctl m .doctypeName) (ha : m.attrName = []) (hv : m.attrValue = []) (hd : m.doctype = { name := some n })
    (hc : DtCh c) :
    ∃ m', step o m (c :: rest) = .cont m' rest ∧ Ctl m' .doctypeName ∧ m'.attrName = [] ∧ m'.attrValue = [] ∧
      m'.doctype = { name := some (n ++ [c]) } ∧ m'.out = m.out := by
  obtain ⟨c1, c2, c3, c4, c5, c6, c7, c8⟩ := hc
  obtain ⟨e, hc'⟩ := h.char_step o ho rfl c c6 c7 rest (m' := to .doctypeName (pushDoctypeName (toAsciiLower c) (m.setCurrentChar c)))
    (by simp [transChar, h.st, isWs4, c1, c2, c3, c4, c5]) rfl rfl
  exact ⟨_, e, hc', by misc_simp, by misc_simp, by misc_simp, rfl⟩

theorem dn_gt (o : Opts) (ho : o.exactErrors = false) (m : Mach) (rest : Str) (n : Str)
    (h : Ctl m .doctypeName) (ha : m.attrName = []) (hv : m.attrValue = []) (hd : m.doctype = { name := some n }) :
    ∃ m', step o m ('>' :: rest) = .cont m' rest ∧ Ctl m' .data ∧ Clean m' ∧
      m'.out = .doctype { name := some n } :: m.out := by
  obtain ⟨e, hc'⟩ := h.char_step o ho rfl '>' (by decide) (by decide) rest (m' := to .data (emitDoctype (m.setCurrentChar '>')))
    (by simp [transChar, h.st, isWs4]) rfl rfl
  exact ⟨_, e, hc', by constructor <;> misc_simp, by misc_simp⟩

end H5V.Lemmas.XmlRT
