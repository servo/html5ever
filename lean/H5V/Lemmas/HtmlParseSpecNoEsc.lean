import H5V.Lemmas.HtmlJointTotalAns
/-!
The tree builder never asks the tokenizer for an escaped script-data state: whenever `process_token`
answers `RawData(k)`, `k` is `Rcdata`, `Rawtext` or `ScriptData`.

This is the `GoodKind` half of the answer judgement `Ans (TOk tok)` that HtmlJointTotalAns.lean proves for
every rule, carried there through the loop of `process_to_completion` and `process_token`; here it is
read off for single runs.
-/
namespace H5V.Lemmas.ParseSpec
open H5V.Model.Dom (Id QualName Attr NodeOrText SinkOp Output ElementFlags QuirksMode Dom)
open H5V.Model.HtmlTB
open H5V.Model.HtmlTok (RawKind)
open H5V.Lemmas.TBM
open H5V.Props.C19 (Ans)
open H5V.Lemmas.JointTotal.A (TOk ans_toRawTextMode ans_parseRawData)

/-- an answer of a rule that asks for no escaped script-data state -/
def RawOk : ProcessResult → Prop
  | .toRawData k => GoodKind k
  | _ => True

/-! ### the only constructor site, with the literals the rules pass -/

instance : Ans RawOk (toRawTextMode .rcdata) := ans_toRawTextMode (Or.inl rfl)
instance : Ans RawOk (toRawTextMode .rawtext) := ans_toRawTextMode (Or.inr (Or.inl rfl))
instance : Ans RawOk (toRawTextMode .scriptData) := ans_toRawTextMode (Or.inr (Or.inr rfl))
instance (tag : Tag) : Ans RawOk (parseRawData tag .rcdata) := ans_parseRawData tag (Or.inl rfl)
instance (tag : Tag) : Ans RawOk (parseRawData tag .rawtext) := ans_parseRawData tag (Or.inr (Or.inl rfl))
instance (tag : Tag) : Ans RawOk (parseRawData tag .scriptData) := ans_parseRawData tag (Or.inr (Or.inr rfl))

/-! ### single runs -/

/-- **the tree builder never asks the tokenizer for an escaped script-data state** -/
theorem processToken_rawKind (t : TokToken) (line : Nat) (s s' : State) (k : H5V.Model.HtmlTok.RawKind)
    (h : (processToken t line).run s = .ok (.rawData k, s')) :
    k = .rcdata ∨ k = .rawtext ∨ k = .scriptData :=
  ((JointTotal.A.ans_processToken t line).h s _ s' h).2 k rfl

/-- the same for one round of `process_to_completion` (any fuel, any queue of further tokens) -/
theorem processToCompletion_rawKind (fuel : Nat) (token : Token) (more : List Token) (s s' : State)
    (k : H5V.Model.HtmlTok.RawKind)
    (h : (processToCompletion fuel token more).run s = .ok (.rawData k, s')) :
    k = .rcdata ∨ k = .rawtext ∨ k = .scriptData :=
  ((JointTotal.A.ans_ptc (C := fun _ => True) (fun _ _ => trivial) fuel token more trivial
    (fun _ _ => trivial)).h s _ s' h).2 k rfl

/-- and for the rules themselves -/
theorem step_rawKind (mode : Mode) (tok : Token) (s s' : State) (k : H5V.Model.HtmlTok.RawKind)
    (h : (step mode tok).run s = .ok (.toRawData k, s')) :
    k = .rcdata ∨ k = .rawtext ∨ k = .scriptData :=
  ((inferInstance : Ans (TOk tok) (step mode tok)).h s _ s' h).2

theorem stepForeign_rawKind (tok : Token) (s s' : State) (k : H5V.Model.HtmlTok.RawKind)
    (h : (stepForeign tok).run s = .ok (.toRawData k, s')) :
    k = .rcdata ∨ k = .rawtext ∨ k = .scriptData :=
  ((inferInstance : Ans (TOk tok) (stepForeign tok)).h s _ s' h).2

end H5V.Lemmas.ParseSpec
