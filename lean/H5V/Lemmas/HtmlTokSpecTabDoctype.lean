import H5V.Lemmas.HtmlTokSpecTac
/-!
# C01 simulation — table lemmas (`TabOk`) of the DOCTYPE states

`.doctype`, `.beforeDoctypeName`, `.doctypeName`, the table part of `.afterDoctypeName`,
`.afterDoctypeKeyword k`, `.beforeDoctypeIdentifier k`, `.doctypeIdentifierDoubleQuoted k`,
`.doctypeIdentifierSingleQuoted k`, `.afterDoctypeIdentifier k`,
`.betweenDoctypePublicAndSystemIdentifiers`, `.bogusDoctype`.
-/
namespace H5V.Lemmas.HtmlTokSpec
open H5V.Model.HtmlTok
open H5V.Spec.HtmlTokenizer (St Tok Emit Tree Switch Ctl ReturnSt)

macro "dt_cases" c:ident "[" ls:term,* "]" : tactic => `(tactic| tab_cases $c [$ls,*])

/-- `tab_state` with `dt_cases` for the case split -/
macro "dt_state" h:ident hs:ident c:ident "[" ls:term,* "]" : tactic => `(tactic| (
  obtain ⟨hstd, hst, hcr, hreg, hout⟩ := $h
  simp [$hs:ident, stOf, altSt, isRet] at hst
  simp [RegRel, AttrRel, $hs:ident, isTagSt, needsCur, usesTemp, usesComment, usesDoctype] at hreg
  simp [OutRel, cdataBuf, isCdata, $hs:ident] at hout
  unfold transChar
  simp only [$hs:ident]
  repeat' (rcases hst with hst | hst)
  all_goals (dt_cases $c [$ls,*])))

/-- the DOCTYPE states other than the after DOCTYPE name state -/
theorem tab_doctypes (o : Opts) (ho : o.exactErrors = false) (pol : Pol) (tree : Tree)
    (m : Mach) (t : Tok) (c : Char) (rest : Str) (h : RegCore m t) (hr : m.reconsume = false)
    (hd : usesDoctype m.state = true ∨ m.state = .doctype ∨ m.state = .beforeDoctypeName)
    (hn : m.state ≠ .afterDoctypeName) : TabOk tree t c rest (transChar o pol m c) := by
  cases hs : m.state
  case doctype => tab_flat h hs c ['\t', '\n', '\x0c', ' ', '>']
  case beforeDoctypeName => tab_flat h hs c ['\t', '\n', '\x0c', ' ', '>', '\x00']
  case doctypeName => tab_flat h hs c ['\t', '\n', '\x0c', ' ', '>', '\x00']
  case afterDoctypeName => exact absurd hs hn
  case afterDoctypeKeyword k | beforeDoctypeIdentifier k =>
    cases k
    all_goals tab_flat h hs c ['\t', '\n', '\x0c', ' ', '"', '\'', '>']
  case doctypeIdentifierDoubleQuoted k =>
    cases k
    all_goals tab_flat h hs c ['"', '\x00', '>']
  case doctypeIdentifierSingleQuoted k =>
    cases k
    all_goals tab_flat h hs c ['\'', '\x00', '>']
  case afterDoctypeIdentifier k =>
    cases k
    · tab_flat h hs c ['\t', '\n', '\x0c', ' ', '>', '"', '\'']
    · tab_flat h hs c ['\t', '\n', '\x0c', ' ', '>']
  case betweenDoctypePublicAndSystemIdentifiers => tab_flat h hs c ['\t', '\n', '\x0c', ' ', '>', '"', '\'']
  case bogusDoctype => tab_flat h hs c ['>', '\x00']
  all_goals
    rw [hs] at hd
    simp [usesDoctype] at hd

/-- the table part of the after DOCTYPE name state: neither keyword follows -/
theorem tab_afterDoctypeName (o : Opts) (ho : o.exactErrors = false) (pol : Pol) (tree : Tree)
    (m : Mach) (t : Tok) (c : Char) (rest : Str) (h : RegCore m t) (hr : m.reconsume = false)
    (hs : m.state = .afterDoctypeName)
    (hp : H5V.Spec.HtmlTokenizer.nextAreCaseInsensitive "public" (c :: rest) = false)
    (hq : H5V.Spec.HtmlTokenizer.nextAreCaseInsensitive "system" (c :: rest) = false) :
    TabOk tree t c rest (transChar o pol m c) := by
  tab_flat h hs c ['\t', '\n', '\x0c', ' ', '>']

end H5V.Lemmas.HtmlTokSpec
