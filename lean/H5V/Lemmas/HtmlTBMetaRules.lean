import H5V.Lemmas.HtmlTBMetaBase
/-!
C19: no rule arm but the `meta` arm of "in head" constructs an encoding indicator, and every
`Reprocess` hands on the token the rule was given (`ROk`), one lemma per insertion mode.
-/
namespace H5V.Props.C19
open H5V.Model.Dom (Id QualName Attr NodeOrText SinkOp Output ElementFlags QuirksMode Dom)
open H5V.Model.HtmlTB
open H5V.Lemmas.TBM

/-! ### helpers that answer plainly -/

instance : Ans Plain unexpected := by unfold unexpected; ans_walk
instance (t : Str) : Ans Plain (appendText t) := by unfold appendText; ans_walk
instance (t : Str) : Ans Plain (appendComment t) := by unfold appendComment; ans_walk
instance (t : Str) : Ans Plain (appendCommentToDoc t) := by unfold appendCommentToDoc; ans_walk
instance (t : Str) : Ans Plain (appendCommentToHtml t) := by unfold appendCommentToHtml; ans_walk
instance (k : H5V.Model.HtmlTok.RawKind) : Ans Plain (toRawTextMode k) := by unfold toRawTextMode; ans_walk
instance (tag : Tag) (k : H5V.Model.HtmlTok.RawKind) : Ans Plain (parseRawData tag k) := by
  unfold parseRawData; ans_walk
instance (tag : Tag) : Ans Plain (inBodyHtml tag) := by unfold inBodyHtml; ans_walk
instance (tag : Tag) : Ans Plain (inBodyVoid tag) := by unfold inBodyVoid; ans_walk
instance (tag : Tag) (ns : Str) : Ans Plain (enterForeign tag ns) := by unfold enterForeign; ans_walk
instance (tag : Tag) : Ans Plain (foreignStartTag tag) := by unfold foreignStartTag; ans_walk

instance : Ans (ROk .eof) inTemplateEof := by unfold inTemplateEof; ans_walk

/-! ### in head -/

theorem isStart_kind {tag : Tag} {l : List String} (h : tag.isStart l = true) : tag.kind = .startTag := by
  simp only [Tag.isStart, Bool.and_eq_true, beq_iff_eq] at h
  exact h.1

theorem isName_eq {n : Str} {x : String} (h : isName n x = true) : n = x.toList := by
  simp only [isName, beq_iff_eq] at h
  exact h.symm

theorem ans_extractEncoding_bind {β : Type} {Q : β → Prop} {c : Str} {f : Option Str → M β}
    (h : ∀ r, r = contentLabel c → Ans Q (f r)) : Ans Q (extractEncoding c >>= f) :=
  Ans.bindK ⟨fun _ _ _ e => (extractEncoding_ok e).1⟩ h

macro_rules
  | `(tactic| ans_step) => `(tactic| with_reducible apply ans_extractEncoding_bind)

instance (tok : Token) : Ans (ROk tok) (stepInHead tok) := by
  unfold stepInHead
  ans_walk
  · rename_i tag _ hs _ hm _ cs hcs
    exact Ans.pure ⟨tag, rfl, ⟨isStart_kind hs, isName_eq (by simpa using hm)⟩, qualifies_charset hcs⟩
  · rename_i tag _ hs _ hm _ hcs hp _ content hct _ enc he
    refine Ans.pure ⟨tag, rfl, ⟨isStart_kind hs, isName_eq (by simpa using hm)⟩, ?_⟩
    rw [qualifies_pragma hcs]
    have hpr : isPragma tag = true := by
      unfold isPragma
      cases hq : tag.getAttribute "http-equiv" with
      | none => rw [hq] at hp; simp at hp
      | some v => rw [hq] at hp; simpa using hp
    simp [hpr, hct, ← he]

/-! ### the other insertion modes -/

-- the two places where an answer is bound, something else is done, and the answer is returned
theorem ans_stepInHead_bind {β : Type} {Q : β → Prop} {tok : Token} {f : ProcessResult → M β}
    (h : ∀ r, ROk tok r → Ans Q (f r)) : Ans Q (stepInHead tok >>= f) := Ans.bindK inferInstance h

macro_rules
  | `(tactic| ans_step) => `(tactic| with_reducible apply ans_stepInHead_bind)

instance (tok : Token) : Ans (ROk tok) (stepInitial tok) := by unfold stepInitial; ans_walk
instance (tok : Token) : Ans (ROk tok) (stepBeforeHtml tok) := by unfold stepBeforeHtml; ans_walk
instance (tok : Token) : Ans (ROk tok) (stepInBody tok) := by unfold stepInBody; ans_walk
theorem ans_stepInBody_bind {β : Type} {Q : β → Prop} {tok : Token} {f : ProcessResult → M β}
    (h : ∀ r, ROk tok r → Ans Q (f r)) : Ans Q (stepInBody tok >>= f) := Ans.bindK inferInstance h

macro_rules
  | `(tactic| ans_step) => `(tactic| with_reducible apply ans_stepInBody_bind)

instance (tok : Token) : Ans (ROk tok) (stepBeforeHead tok) := by unfold stepBeforeHead; ans_walk
instance (tok : Token) : Ans (ROk tok) (stepInHeadNoscript tok) := by unfold stepInHeadNoscript; ans_walk
instance (tok : Token) : Ans (ROk tok) (stepAfterHead tok) := by unfold stepAfterHead; ans_walk
instance (tok : Token) : Ans (ROk tok) (stepText tok) := by unfold stepText; ans_walk
instance (tok : Token) : Ans (ROk tok) (fosterParentInBody tok) := by unfold fosterParentInBody; ans_walk
instance (tok : Token) : Ans (ROk tok) (processCharsInTable tok) := by unfold processCharsInTable; ans_walk
instance (tok : Token) : Ans (ROk tok) (stepInTable tok) := by unfold stepInTable; ans_walk
instance (tok : Token) : Ans (ROk tok) (stepInTableText tok) := by unfold stepInTableText; ans_walk
instance (tok : Token) : Ans (ROk tok) (stepInCaption tok) := by unfold stepInCaption; ans_walk
instance (tok : Token) : Ans (ROk tok) (stepInColumnGroup tok) := by unfold stepInColumnGroup; ans_walk
instance (tok : Token) : Ans (ROk tok) (stepInTableBody tok) := by unfold stepInTableBody; ans_walk
instance (tok : Token) : Ans (ROk tok) (stepInRow tok) := by unfold stepInRow; ans_walk
instance (tok : Token) : Ans (ROk tok) (stepInCell tok) := by unfold stepInCell; ans_walk
instance (tok : Token) : Ans (ROk tok) (stepInTemplate tok) := by unfold stepInTemplate; ans_walk
instance (tok : Token) : Ans (ROk tok) (stepAfterBody tok) := by unfold stepAfterBody; ans_walk
instance (tok : Token) : Ans (ROk tok) (stepInFrameset tok) := by unfold stepInFrameset; ans_walk
instance (tok : Token) : Ans (ROk tok) (stepAfterFrameset tok) := by unfold stepAfterFrameset; ans_walk
instance (tok : Token) : Ans (ROk tok) (stepAfterAfterBody tok) := by unfold stepAfterAfterBody; ans_walk
instance (tok : Token) : Ans (ROk tok) (stepAfterAfterFrameset tok) := by unfold stepAfterAfterFrameset; ans_walk

/-- **every insertion mode**: an encoding indicator only for a qualifying `meta` start tag -/
instance (mode : Mode) (tok : Token) : Ans (ROk tok) (step mode tok) := by
  cases mode <;> (unfold step; exact inferInstance)

/-! ### foreign content -/

instance (tag : Tag) : Ans (ROk (.tag tag)) (unexpectedStartTagInForeignContent tag) := by
  unfold unexpectedStartTagInForeignContent; ans_walk

theorem ans_foreignEndTagLoop (tag : Tag) : ∀ (i : Nat) (first : Bool), Ans (ROk (.tag tag)) (foreignEndTagLoop tag i first)
  | 0, _ => by unfold foreignEndTagLoop; ans_walk
  | i + 1, first => by
    have ih := ans_foreignEndTagLoop tag i
    unfold foreignEndTagLoop; ans_walk
instance (tag : Tag) (i : Nat) (first : Bool) : Ans (ROk (.tag tag)) (foreignEndTagLoop tag i first) :=
  ans_foreignEndTagLoop tag i first

instance (tok : Token) : Ans (ROk tok) (stepForeign tok) := by unfold stepForeign; ans_walk

end H5V.Props.C19
