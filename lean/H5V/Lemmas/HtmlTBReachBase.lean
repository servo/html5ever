import H5V.Lemmas.HtmlTBMetaBase
import H5V.Lemmas.HtmlTBReachAttr
/-!
C18 (`trace_handles` reports every node still needed), tree-builder side: the vocabulary.

* `held s` — every handle in a handle-holding field of the builder (the fields `trace_handles`
  visits: `doc_handle`, `open_elems`, `active_formatting`, `head_elem`, `form_elem`, `context_elem`);
* `opArgs op` / `outRets out` — the handles a sink call is given / gives back;
* `ArgsOK K calls` — every handle given to the sink in `calls` (newest first) is known beforehand
  (`K`) or was given back by an earlier call of `calls`;
* `PV c m R` — the provenance judgement: if the handles held by the builder and the handles in flight
  (`c`) are known, then `m` only passes known handles to the sink, the handles the builder holds
  afterwards are known, and so are the handles `R a` in the value `a` it returns —
  "known" growing with everything the sink returns on the way;
* `Call m a R` — `PV a m R` as a class: the judgement of a function of the model that has been walked,
  with exactly the handles `a` it needs in flight.  The walk (`pv_walk`) finds it by instance search
  and is left with the side condition `∀ x ∈ a, x ∈ c`, closed by `simp` with the set `pv_mem`;
* `Fwd p q` — what the equation `p` that a `match` on a field of the builder leaves says about `held`
  (found by instance search as well).
-/
namespace H5V.Props.C18
open H5V.Model.Dom (Id QualName Attr NodeOrText SinkOp Output ElementFlags QuirksMode Dom)
open H5V.Model.HtmlTB
open H5V.Lemmas.TBM

/-! ## handles -/

/-- the element handles in the list of active formatting elements -/
def afIds : List FormatEntry → List Id
  | [] => []
  | .element h _ :: rest => h :: afIds rest
  | .marker :: rest => afIds rest

/-- every handle the builder holds: exactly the fields `trace_handles` reports -/
def held (s : State) : List Id :=
  s.docHandle :: (s.openElems ++ (afIds s.activeFormatting ++ (s.headElem.toList ++ (s.formElem.toList ++
    s.contextElem.toList))))

def childIds : NodeOrText → List Id
  | .node id => [id]
  | .text _ => []

/-- the handles a sink call is given -/
def opArgs : SinkOp → List Id
  | .elemName t => [t]
  | .append p c => p :: childIds c
  | .appendBasedOnParentNode e p c => e :: p :: childIds c
  | .markScriptAlreadyStarted n => [n]
  | .pop n => [n]
  | .getTemplateContents t => [t]
  | .sameNode x y => [x, y]
  | .appendBeforeSibling s c => s :: childIds c
  | .addAttrsIfMissing t _ => [t]
  | .associateWithForm t f n p => t :: f :: n :: p.toList
  | .removeFromParent t => [t]
  | .reparentChildren n np => [n, np]
  | .isMathmlAnnotationXmlIntegrationPoint t => [t]
  | .allowDeclarativeShadowRoots p => [p]
  | .attachDeclarativeShadow l t _ => [l, t]
  | .maybeCloneAnOptionIntoSelectedcontent o => [o]
  | .parseError _ => []
  | .getDocument => []
  | .createElement _ _ _ => []
  | .createComment _ => []
  | .createPi _ _ => []
  | .appendDoctypeToDocument _ _ _ => []
  | .setQuirksMode _ => []
  | .setCurrentLine _ => []

/-- the handle a sink call gives back -/
def outRets : Output → List Id
  | .node id => [id]
  | _ => []

/-- all handles given back by the calls of a trace -/
def rets : List (SinkOp × Output) → List Id
  | [] => []
  | c :: tr => outRets c.2 ++ rets tr

theorem rets_append (a b : List (SinkOp × Output)) : rets (a ++ b) = rets a ++ rets b := by
  induction a with
  | nil => rfl
  | cons c tr ih => simp [rets, ih]

/-- every argument of every call (newest first) is known (`K`) or was returned by an earlier call -/
def ArgsOK (K : Id → Prop) : List (SinkOp × Output) → Prop
  | [] => True
  | c :: tr => (∀ h ∈ opArgs c.1, K h ∨ h ∈ rets tr) ∧ ArgsOK K tr

theorem ArgsOK.mono {K K' : Id → Prop} (hk : ∀ h, K h → K' h) : ∀ {tr : List (SinkOp × Output)}, ArgsOK K tr → ArgsOK K' tr
  | [], _ => trivial
  | _ :: _, ⟨h1, h2⟩ => ⟨fun h hm => (h1 h hm).imp (hk h) id, ArgsOK.mono hk h2⟩

/-- known before a second stretch of calls = known before the first, or returned in the first -/
theorem known_append {K : Id → Prop} {n1 n2 : List (SinkOp × Output)} {h : Id}
    (hk : (K h ∨ h ∈ rets n1) ∨ h ∈ rets n2) : K h ∨ h ∈ rets (n2 ++ n1) := by
  rw [rets_append]
  rcases hk with (hk | hr) | hr
  · exact Or.inl hk
  · exact Or.inr (List.mem_append_right _ hr)
  · exact Or.inr (List.mem_append_left _ hr)

theorem ArgsOK.append {K : Id → Prop} {n1 : List (SinkOp × Output)} (h1 : ArgsOK K n1) :
    ∀ {n2 : List (SinkOp × Output)}, ArgsOK (fun h => K h ∨ h ∈ rets n1) n2 → ArgsOK K (n2 ++ n1)
  | [], _ => h1
  | _ :: _, ⟨ha, hb⟩ => ⟨fun h hm => known_append (ha h hm), ArgsOK.append h1 hb⟩

/-! ## the judgement -/

/-- what a successful run of `m` from `s` guarantees relative to the known handles `K` -/
structure Post (K : Id → Prop) (s s' : State) (R : List Id) : Prop where
  ex : ∃ new, s'.traceRev = new ++ s.traceRev ∧ ArgsOK K new ∧
    (∀ h ∈ held s', K h ∨ h ∈ rets new) ∧ (∀ h ∈ R, K h ∨ h ∈ rets new)

/-- the judgement for runs that start in the state `s0` (needed where the model puts back a
modified copy of the state it has just read: `let s ← getS; … set { s with … }`) -/
structure PVat {α : Type} (s0 : State) (c : List Id) (m : M α) (R : α → List Id) : Prop where
  h : ∀ (K : Id → Prop) (a : α) (s' : State), m s0 = .ok (a, s') →
    (∀ h ∈ held s0, K h) → (∀ h ∈ c, K h) → Post K s0 s' (R a)

/-- provenance: with the held handles and the handles in flight `c` known, `m` passes only known
handles to the sink; afterwards the held handles and the handles `R a` of the answer are known -/
structure PV {α : Type} (c : List Id) (m : M α) (R : α → List Id) : Prop where
  h : ∀ s, PVat s c m R

/-- no handles in the answer -/
abbrev nil {α : Type} : α → List Id := fun _ => []

theorem PV.at {α : Type} {c : List Id} {m : M α} {R : α → List Id} (h : PV c m R) (s : State) : PVat s c m R := h.h s

theorem PVat.bind {α β : Type} {s : State} {c : List Id} {m : M α} {f : α → M β} {R : α → List Id}
    {R' : β → List Id} (h1 : PVat s c m R) (h2 : ∀ a, PV (R a ++ c) (f a) R') : PVat s c (m >>= f) R' := by
  constructor
  intro K b s'' e hh hc
  obtain ⟨a, s', e1, e2⟩ := bind_ok.mp e
  obtain ⟨n1, t1, a1, k1, r1⟩ := (h1.h K a s' e1 hh hc).ex
  have hc' : ∀ h ∈ R a ++ c, K h ∨ h ∈ rets n1 := by
    intro h hm
    rcases List.mem_append.mp hm with hm | hm
    · exact r1 h hm
    · exact Or.inl (hc h hm)
  obtain ⟨n2, t2, a2, k2, r2⟩ := (((h2 a).h s').h (fun h => K h ∨ h ∈ rets n1) b s'' e2 k1 hc').ex
  exact ⟨n2 ++ n1, by rw [t2, t1, List.append_assoc], a1.append a2, fun h hm => known_append (k2 h hm),
    fun h hm => known_append (r2 h hm)⟩

theorem PV.bind {α β : Type} {c : List Id} {m : M α} {f : α → M β} {R : α → List Id} {R' : β → List Id}
    (h1 : PV c m R) (h2 : ∀ a, PV (R a ++ c) (f a) R') : PV c (m >>= f) R' :=
  ⟨fun s => (h1.h s).bind h2⟩

theorem PV.pure {α : Type} {c : List Id} {a : α} {R : α → List Id} (h : ∀ x ∈ R a, x ∈ c) :
    PV c (Pure.pure a : M α) R := by
  constructor
  intro s
  constructor
  intro K b s' e hh hc
  obtain ⟨rfl, rfl⟩ := pure_ok.mp e
  exact ⟨[], rfl, trivial, fun x hx => Or.inl (hh x hx), fun x hx => Or.inl (hc x (h x hx))⟩

theorem PV.pureBind {α β : Type} {c : List Id} {a : α} {f : α → M β} {R' : β → List Id} (h : PV c (f a) R') :
    PV c ((Pure.pure a : M α) >>= f) R' := by
  constructor
  intro s
  constructor
  intro K b s'' e hh hc
  obtain ⟨a', s', e1, e2⟩ := bind_ok.mp e
  obtain ⟨rfl, rfl⟩ := pure_ok.mp e1
  exact (h.h _).h K _ _ e2 hh hc

/-- the `if` rule; each branch is walked with the condition (resp. its negation) as a hypothesis -/
theorem PV.iteH {α : Type} {c : List Id} {p : Prop} [Decidable p] {a b : M α} {R : α → List Id}
    (h1 : p → PV c a R) (h2 : ¬ p → PV c b R) : PV c (if p then a else b) R := by
  by_cases hp : p
  · simp only [hp, if_true]; exact h1 hp
  · simp only [hp, if_false]; exact h2 hp

theorem PVat.iteH {α : Type} {s : State} {c : List Id} {p : Prop} [Decidable p] {a b : M α} {R : α → List Id}
    (h1 : p → PVat s c a R) (h2 : ¬ p → PVat s c b R) : PVat s c (if p then a else b) R := by
  by_cases hp : p
  · simp only [hp, if_true]; exact h1 hp
  · simp only [hp, if_false]; exact h2 hp

theorem PV.throw {α : Type} {c : List Id} {R : α → List Id} (e : String) : PV c (throw e : M α) R :=
  ⟨fun _ => ⟨fun _ _ _ h => absurd h throw_ok⟩⟩

theorem PV.panicAt {α : Type} {c : List Id} {R : α → List Id} (x y z : String) : PV c (panicAt x y z : M α) R :=
  ⟨fun _ => ⟨fun _ _ _ h => absurd h throw_ok⟩⟩

theorem PV.fuelOut {α : Type} {c : List Id} {R : α → List Id} (w : String) : PV c (fuelOut w : M α) R :=
  ⟨fun _ => ⟨fun _ _ _ h => absurd h throw_ok⟩⟩

/-- more handles in flight never hurt -/
theorem PV.weaken {α : Type} {c c' : List Id} {m : M α} {R : α → List Id} (h : PV c m R)
    (hs : ∀ x ∈ c, x ∈ c') : PV c' m R :=
  ⟨fun s => ⟨fun K a s' e hh hc => (h.h s).h K a s' e hh (fun x hx => hc x (hs x hx))⟩⟩

/-- the answer may claim other handles `R'`: each is among those proved for it (`R`) or was in flight -/
theorem PV.remember {α : Type} {c : List Id} {m : M α} {R R' : α → List Id} (h : PV c m R)
    (hs : ∀ a, ∀ x ∈ R' a, x ∈ R a ∨ x ∈ c) : PV c m R' :=
  ⟨fun s => ⟨fun K a s' e hh hc => by
    obtain ⟨n, t, ao, k, r⟩ := ((h.h s).h K a s' e hh hc).ex
    refine ⟨n, t, ao, k, fun x hx => ?_⟩
    rcases hs a x hx with h1 | h1
    · exact r x h1
    · exact Or.inl (hc x h1)⟩⟩

/-- the answer may claim fewer handles than proved for it -/
theorem PV.forget {α : Type} {c : List Id} {m : M α} {R R' : α → List Id} (h : PV c m R)
    (hs : ∀ a, ∀ x ∈ R' a, x ∈ R a) : PV c m R' :=
  h.remember fun a x hx => Or.inl (hs a x hx)

/-! ### primitives -/

/-- reading the state: what follows knows the handles it holds, and that it *is* the current state -/
theorem PV.getS_bind {β : Type} {c : List Id} {f : State → M β} {R : β → List Id}
    (h : ∀ s, PVat s (held s ++ c) (f s) R) : PV c (getS >>= f) R := by
  constructor
  intro s
  constructor
  intro K b s'' e hh hc
  obtain ⟨a, s', e1, e2⟩ := bind_ok.mp e
  obtain ⟨rfl, rfl⟩ := getS_ok.mp e1
  refine (h _).h K b s'' e2 hh ?_
  intro x hx
  rcases List.mem_append.mp hx with hx | hx
  · exact hh x hx
  · exact hc x hx

theorem PVat.getS_bind {β : Type} {s0 : State} {c : List Id} {f : State → M β} {R : β → List Id}
    (h : ∀ s, PVat s (held s ++ c) (f s) R) : PVat s0 c (getS >>= f) R := (PV.getS_bind h).h s0

theorem pv_getS {c : List Id} : PV c getS held :=
  ⟨fun s => ⟨fun K a s' e hh _ => by
    obtain ⟨rfl, rfl⟩ := getS_ok.mp e
    exact ⟨[], rfl, trivial, fun x hx => Or.inl (hh x hx), fun x hx => Or.inl (hh x hx)⟩⟩⟩

theorem pv_modS {c : List Id} {f : State → State} (ht : ∀ s, (f s).traceRev = s.traceRev)
    (hf : ∀ s, ∀ x ∈ held (f s), x ∈ held s ∨ x ∈ c) : PV c (modS f) nil :=
  ⟨fun s => ⟨fun K _ s' e hh hc => by
    rw [modS_ok.mp e]
    refine ⟨[], by rw [ht]; rfl, trivial, fun x hx => Or.inl ?_, fun _ hx => nomatch hx⟩
    rcases hf s x hx with h1 | h1
    · exact hh x h1
    · exact hc x h1⟩⟩

theorem PV.modS_bind {β : Type} {c : List Id} {g : State → State} {f : Unit → M β} {R : β → List Id}
    (ht : ∀ s, (g s).traceRev = s.traceRev) (hf : ∀ s, ∀ x ∈ held (g s), x ∈ held s ∨ x ∈ c)
    (h : ∀ u, PV c (f u) R) : PV c (modS g >>= f) R :=
  (pv_modS ht hf).bind h

/-- putting back a modified copy of the state just read -/
theorem PVat.put {s : State} {c : List Id} {x : State} (ht : x.traceRev = s.traceRev)
    (hx : ∀ y ∈ held x, y ∈ c) : PVat s c (set x : M Unit) nil :=
  ⟨fun K _ s' e _ hc => by
    rw [set_ok.mp e]
    exact ⟨[], by rw [ht]; rfl, trivial, fun y hy => Or.inl (hc y (hx y hy)), fun _ h => nomatch h⟩⟩

theorem PVat.put_bind {β : Type} {s : State} {c : List Id} {x : State} {f : Unit → M β} {R : β → List Id}
    (ht : x.traceRev = s.traceRev) (hx : ∀ y ∈ held x, y ∈ c) (h : ∀ u, PV c (f u) R) :
    PVat s c ((set x : M Unit) >>= f) R :=
  (PVat.put ht hx).bind fun u => (h u).weaken fun _ hy => by simpa using hy

theorem PVat.of_bind {α β : Type} {s : State} {c : List Id} {m : M α} {f : α → M β} {R : β → List Id}
    (h : PV c (m >>= f) R) : PVat s c (m >>= f) R := h.h s

/-! ### calls of functions that have been walked -/

/-- The call `m` needs the handles `a` in flight and answers with the handles `R`.  The walk finds
the judgement of a call by instance search (indexed by `m`): one instance per function of the model. -/
class Call {α : Type} (m : M α) (a : outParam (List Id)) (R : outParam (α → List Id)) : Prop where
  pv : PV a m R

/-- one sink call: its arguments must be in flight; what it gives back is known from then on -/
instance pv_sink (op : SinkOp) : Call (sink op) (opArgs op) outRets :=
  ⟨⟨fun s => ⟨fun K out s' e hh hc => by
    obtain ⟨d, _, rfl⟩ := sink_ok.mp e
    refine ⟨[(op, out)], rfl, ⟨fun x hx => Or.inl (hc x hx), trivial⟩, fun x hx => Or.inl (hh x hx), ?_⟩
    intro x hx
    exact Or.inr (by simpa [rets] using hx)⟩⟩⟩

theorem PV.call {α : Type} {c : List Id} {m : M α} {a : List Id} {R : α → List Id} [h : Call m a R]
    (ha : ∀ x ∈ a, x ∈ c) : PV c m R := h.pv.weaken ha

theorem PV.bindCall {α β : Type} {c : List Id} {m : M α} {f : α → M β} {a : List Id} {R : α → List Id}
    {R' : β → List Id} [Call m a R] (ha : ∀ x ∈ a, x ∈ c) (h2 : ∀ r, PV (R r ++ c) (f r) R') :
    PV c (m >>= f) R' := (PV.call ha).bind h2

/-- a call that answers without handles leaves the handles in flight as they are -/
theorem PV.bindCallNil {α β : Type} {c : List Id} {m : M α} {f : α → M β} {a : List Id} {R' : β → List Id}
    [Call m a nil] (ha : ∀ x ∈ a, x ∈ c) (h2 : ∀ r, PV c (f r) R') : PV c (m >>= f) R' :=
  PV.bindCall (R := nil) ha h2

/-! ### handles of an answer, by type (used where the first computation of a bind is not a call of a
helper but an inline `if` / `match`) -/

/-- the handle that is the answer -/
abbrev one : Id → List Id := fun a => [a]

theorem PV.bindU {β : Type} {c : List Id} {m : M Unit} {f : Unit → M β} {R' : β → List Id}
    (h1 : PV c m nil) (h2 : ∀ a, PV c (f a) R') : PV c (m >>= f) R' := h1.bind h2
theorem PV.bindB {β : Type} {c : List Id} {m : M Bool} {f : Bool → M β} {R' : β → List Id}
    (h1 : PV c m nil) (h2 : ∀ a, PV c (f a) R') : PV c (m >>= f) R' := h1.bind h2
theorem PV.bindT {β : Type} {c : List Id} {m : M Tag} {f : Tag → M β} {R' : β → List Id}
    (h1 : PV c m nil) (h2 : ∀ a, PV c (f a) R') : PV c (m >>= f) R' := h1.bind h2
theorem PV.bindI {β : Type} {c : List Id} {m : M Id} {f : Id → M β} {R' : β → List Id}
    (h1 : PV c m one) (h2 : ∀ a, PV (one a ++ c) (f a) R') : PV c (m >>= f) R' := h1.bind h2
/-- the rule for an answer of type `Option Id`; no computation of the model needs it in the walk -/
theorem PV.bindO {β : Type} {c : List Id} {m : M (Option Id)} {f : Option Id → M β} {R' : β → List Id}
    (h1 : PV c m Option.toList) (h2 : ∀ a, PV (a.toList ++ c) (f a) R') : PV c (m >>= f) R' := h1.bind h2

/-! ### join points: the continuation `have __do_jp := fun r => …` of a `do` block is walked once and
then is a call like any other -/

theorem PV.withJp {α β : Type} {c : List Id} {R : β → List Id} {m : M β} (Ra : α → List Id) (jp : α → M β)
    (hk : ∀ r, PV (Ra r ++ c) (jp r) R) (hb : (∀ r, Call (jp r) (Ra r ++ c) R) → PV c m R) : PV c m R :=
  hb fun r => ⟨hk r⟩

theorem PVat.withJp {α β : Type} {s : State} {c : List Id} {R : β → List Id} {m : M β} (Ra : α → List Id)
    (jp : α → M β) (hk : ∀ r, PV (Ra r ++ c) (jp r) R)
    (hb : (∀ r, Call (jp r) (Ra r ++ c) R) → PVat s c m R) : PVat s c m R :=
  hb fun r => ⟨hk r⟩

/-! ### membership -/

theorem mem_of_head? {α : Type} {l : List α} {h : α} (e : l.head? = some h) : h ∈ l := by
  cases l with
  | nil => cases e
  | cons a t => cases e; simp

theorem mem_of_mem_dropLast {α : Type} {l : List α} {h : α} (e : h ∈ l.dropLast) : h ∈ l :=
  (List.dropLast_sublist l).subset e

theorem mem_of_mem_insertIdx {α : Type} {l : List α} {i : Nat} {a b : α} (e : a ∈ l.insertIdx i b) :
    a = b ∨ a ∈ l := by
  by_cases hi : i ≤ l.length
  · exact (List.mem_insertIdx hi).mp e
  · rw [List.insertIdx_of_length_lt (by omega)] at e
    exact Or.inr e

/-- the converse direction for the elements of `l` (the walk needs only `mem_of_mem_insertIdx`) -/
theorem mem_insertIdx_of_mem {α : Type} {l : List α} {i : Nat} {a b : α} (hi : i ≤ l.length) (e : a ∈ l) :
    a ∈ l.insertIdx i b := (List.mem_insertIdx hi).mpr (Or.inr e)

/-! A side condition about a part of a list follows from the one about the whole list (stated as
`… ↔ True` so that `simp` rewrites with them). -/

@[pv_mem] theorem forall_mem_take {α : Type} {p : α → Prop} {l : List α} {n : Nat} (h : ∀ x ∈ l, p x) :
    (∀ x ∈ l.take n, p x) ↔ True := iff_true_intro fun x hx => h x (List.mem_of_mem_take hx)
@[pv_mem] theorem forall_mem_drop {α : Type} {p : α → Prop} {l : List α} {n : Nat} (h : ∀ x ∈ l, p x) :
    (∀ x ∈ l.drop n, p x) ↔ True := iff_true_intro fun x hx => h x (List.mem_of_mem_drop hx)
@[pv_mem] theorem forall_mem_dropLast {α : Type} {p : α → Prop} {l : List α} (h : ∀ x ∈ l, p x) :
    (∀ x ∈ l.dropLast, p x) ↔ True := iff_true_intro fun x hx => h x (mem_of_mem_dropLast hx)
@[pv_mem] theorem forall_mem_eraseIdx {α : Type} {p : α → Prop} {l : List α} {n : Nat} (h : ∀ x ∈ l, p x) :
    (∀ x ∈ l.eraseIdx n, p x) ↔ True := iff_true_intro fun x hx => h x (List.mem_of_mem_eraseIdx hx)

@[pv_mem] theorem forall_mem_set {α : Type} {p : α → Prop} {l : List α} {n : Nat} {y : α} (hy : p y)
    (h : ∀ x ∈ l, p x) : (∀ x ∈ l.set n y, p x) ↔ True :=
  iff_true_intro fun x hx => (List.mem_or_eq_of_mem_set hx).elim (h x) fun e => e ▸ hy

@[pv_mem] theorem forall_mem_insertIdx {α : Type} {p : α → Prop} {l : List α} {n : Nat} {y : α} (hy : p y)
    (h : ∀ x ∈ l, p x) : (∀ x ∈ l.insertIdx n y, p x) ↔ True :=
  iff_true_intro fun x hx => (mem_of_mem_insertIdx hx).elim (fun e => e ▸ hy) (h x)

theorem mem_afIds {x : Id} : ∀ {af : List FormatEntry}, x ∈ afIds af ↔ ∃ t, FormatEntry.element x t ∈ af
  | [] => by simp [afIds]
  | .marker :: rest => by simp [afIds, mem_afIds (af := rest)]
  | .element h t :: rest => by
    simp only [afIds, List.mem_cons, mem_afIds (af := rest), FormatEntry.element.injEq]
    constructor
    · rintro (rfl | ⟨t', h'⟩)
      · exact ⟨t, Or.inl ⟨rfl, rfl⟩⟩
      · exact ⟨t', Or.inr h'⟩
    · rintro ⟨t', (⟨rfl, _⟩ | h')⟩
      · exact Or.inl rfl
      · exact Or.inr ⟨t', h'⟩

theorem afIds_append : ∀ a b : List FormatEntry, afIds (a ++ b) = afIds a ++ afIds b
  | [], _ => rfl
  | .marker :: a, b => afIds_append a b
  | .element h _ :: a, b => congrArg (h :: ·) (afIds_append a b)

@[pv_mem] theorem forall_mem_afIds_eraseIdx {p : Id → Prop} {l : List FormatEntry} {n : Nat} (h : ∀ x ∈ afIds l, p x) :
    (∀ x ∈ afIds (l.eraseIdx n), p x) ↔ True :=
  iff_true_intro fun x hx =>
    h x (mem_afIds.mpr ((mem_afIds.mp hx).imp fun _ ht => List.mem_of_mem_eraseIdx ht))

@[pv_mem] theorem forall_mem_afIds_set {p : Id → Prop} {l : List FormatEntry} {n : Nat} {y : Id} {t : Tag}
    (hy : p y) (h : ∀ x ∈ afIds l, p x) : (∀ x ∈ afIds (l.set n (.element y t)), p x) ↔ True :=
  iff_true_intro fun x hx => by
    obtain ⟨t', ht⟩ := mem_afIds.mp hx
    rcases List.mem_or_eq_of_mem_set ht with h1 | h1
    · exact h x (mem_afIds.mpr ⟨t', h1⟩)
    · cases h1; exact hy

@[pv_mem] theorem forall_mem_afIds_insertIdx {p : Id → Prop} {l : List FormatEntry} {n : Nat} {y : Id} {t : Tag}
    (hy : p y) (h : ∀ x ∈ afIds l, p x) : (∀ x ∈ afIds (l.insertIdx n (.element y t)), p x) ↔ True :=
  iff_true_intro fun x hx => by
    obtain ⟨t', ht⟩ := mem_afIds.mp hx
    rcases mem_of_mem_insertIdx ht with h1 | h1
    · cases h1; exact hy
    · exact h x (mem_afIds.mpr ⟨t', h1⟩)

theorem mem_held {s : State} {x : Id} : x ∈ held s ↔
    x = s.docHandle ∨ x ∈ s.openElems ∨ x ∈ afIds s.activeFormatting ∨ s.headElem = some x ∨
      s.formElem = some x ∨ s.contextElem = some x := by
  simp [held, Option.mem_toList]

/-! ### forward facts: a handle read from a field of the builder is held -/

/-- the handle of an entry -/
def feH : FormatEntry → List Id
  | .element h _ => [h]
  | .marker => []
@[pv_mem] theorem feH_element (h : Id) (t : Tag) : feH (.element h t) = [h] := rfl
@[pv_mem] theorem feH_marker : feH .marker = [] := rfl

/-- the handles of an entry of the builder's list are held -/
theorem feH_held {s : State} {e : FormatEntry} (hm : e ∈ s.activeFormatting) : ∀ x ∈ feH e, x ∈ held s := by
  intro x hx
  cases e with
  | marker => cases hx
  | element h t =>
    cases List.mem_singleton.mp hx
    exact mem_held.mpr (Or.inr (Or.inr (Or.inl (mem_afIds.mpr ⟨t, hm⟩))))

theorem openElems_held {s : State} {h : Id} (hm : h ∈ s.openElems) : h ∈ held s :=
  mem_held.mpr (Or.inr (Or.inl hm))

/-- every element of the list of active formatting elements up to the last marker is held -/
theorem afEndToMarker_held {s : State} {i : Nat} {h : Id} {t : Tag}
    (hm : (i, h, t) ∈ afEndToMarker s.activeFormatting) : h ∈ held s := by
  have aux : ∀ (l : List (FormatEntry × Nat)), (i, h, t) ∈ afEndToMarkerAux l → (FormatEntry.element h t, i) ∈ l := by
    intro l
    induction l with
    | nil => intro hx; cases hx
    | cons a rest ih =>
      obtain ⟨fe, j⟩ := a
      cases fe with
      | marker => intro hx; cases hx
      | element h' t' =>
        intro hx
        simp only [afEndToMarkerAux, List.mem_cons, Prod.mk.injEq] at hx
        rcases hx with ⟨rfl, rfl, rfl⟩ | hx
        · exact List.mem_cons_self
        · exact List.mem_cons_of_mem _ (ih hx)
  have h2 := aux _ hm
  rw [List.mem_reverse, List.mem_zipIdx_iff_getElem?] at h2
  exact mem_held.mpr (Or.inr (Or.inr (Or.inl (mem_afIds.mpr ⟨t, List.mem_of_getElem? h2⟩))))

/-- The equation `p` that a `match` on a field of the builder leaves yields the fact `q`: the handle
read is held.  Looked up by instance search after each `match` of a walk. -/
class Fwd (p : Prop) (q : outParam Prop) : Prop where
  out : p → q

instance {s : State} {h : Id} : Fwd (s.openElems.getLast? = some h) (h ∈ held s) :=
  ⟨fun e => openElems_held (List.mem_of_getLast? e)⟩
instance {s : State} {h : Id} : Fwd (s.openElems.head? = some h) (h ∈ held s) :=
  ⟨fun e => openElems_held (mem_of_head? e)⟩
instance {s : State} {i : Nat} {h : Id} : Fwd (s.openElems[i]? = some h) (h ∈ held s) :=
  ⟨fun e => openElems_held (List.mem_of_getElem? e)⟩
instance {s : State} {h : Id} : Fwd (s.headElem = some h) (h ∈ held s) :=
  ⟨fun e => mem_held.mpr (Or.inr (Or.inr (Or.inr (Or.inl e))))⟩
instance {s : State} {h : Id} : Fwd (s.formElem = some h) (h ∈ held s) :=
  ⟨fun e => mem_held.mpr (Or.inr (Or.inr (Or.inr (Or.inr (Or.inl e)))))⟩
instance {s : State} {h : Id} : Fwd (s.contextElem = some h) (h ∈ held s) :=
  ⟨fun e => mem_held.mpr (Or.inr (Or.inr (Or.inr (Or.inr (Or.inr e)))))⟩
instance {s : State} {i : Nat} {e : FormatEntry} : Fwd (s.activeFormatting[i]? = some e) (∀ x ∈ feH e, x ∈ held s) :=
  ⟨fun h => feH_held (List.mem_of_getElem? h)⟩
instance {s : State} {e : FormatEntry} : Fwd (s.activeFormatting.getLast? = some e) (∀ x ∈ feH e, x ∈ held s) :=
  ⟨fun h => feH_held (List.mem_of_getLast? h)⟩
instance {s : State} {i : Nat} {h : Id} {t : Tag} : Fwd (s.activeFormatting[i]? = some (.element h t)) (h ∈ held s) :=
  ⟨fun e => feH_held (List.mem_of_getElem? e) h (List.mem_singleton.mpr rfl)⟩
instance {s : State} {p : Nat × Id × Tag → Bool} {i : Nat} {h : Id} {t : Tag} :
    Fwd ((afEndToMarker s.activeFormatting).find? p = some (i, h, t)) (h ∈ held s) :=
  ⟨fun e => afEndToMarker_held (List.mem_of_find?_eq_some e)⟩

/-- a side condition about the stack of open elements / the active formatting elements follows from the
one about everything held -/
theorem forall_mem_openElems {p : Id → Prop} {s : State} (h : ∀ x ∈ held s, p x) :
    (∀ x ∈ s.openElems, p x) ↔ True := iff_true_intro fun x hx => h x (mem_held.mpr (Or.inr (Or.inl hx)))
theorem forall_mem_afIds {p : Id → Prop} {s : State} (h : ∀ x ∈ held s, p x) :
    (∀ x ∈ afIds s.activeFormatting, p x) ↔ True :=
  iff_true_intro fun x hx => h x (mem_held.mpr (Or.inr (Or.inr (Or.inl hx))))

/-- run after a `match` has been split: what the equation it leaves (the last hypothesis) says about `held` -/
syntax "fwd_tac" : tactic
macro_rules
  | `(tactic| fwd_tac) => `(tactic| try (rename_i heq; have hfw := Fwd.out heq))

/-- `∀ x ∈ c, x ∈ a₁ ++ (a₂ ++ … ++ c)`: the handles in flight only grow at the front -/
syntax "suffix_tac" : tactic
macro_rules
  | `(tactic| suffix_tac) => `(tactic|
      (intro x hx
       repeat (first | with_reducible exact hx | with_reducible apply List.mem_append_right)
       done))

attribute [pv_mem] opArgs childIds nil one outRets List.forall_mem_cons List.mem_append List.mem_cons
  List.mem_singleton List.not_mem_nil List.mem_reverse Option.mem_toList Option.toList_some Option.toList_none
  Option.map_some Option.map_none false_imp_iff implies_true forall_eq forall_eq_or_imp or_false false_or true_or
  or_true and_true true_and and_self Option.some.injEq

/-- the handle-holding fields one by one -/
theorem forall_mem_held {p : Id → Prop} {s : State} :
    (∀ x ∈ held s, p x) ↔ p s.docHandle ∧ (∀ x ∈ s.openElems, p x) ∧ (∀ x ∈ afIds s.activeFormatting, p x) ∧
      (∀ x ∈ s.headElem.toList, p x) ∧ (∀ x ∈ s.formElem.toList, p x) ∧ ∀ x ∈ s.contextElem.toList, p x := by
  simp only [held, List.forall_mem_cons, List.forall_mem_append]

/-- what the builder holds after a field update: field by field, each unchanged or one of the list
operations of the model (`pv_mem`) on what was held and what is in flight -/
syntax "held_tac" : tactic
macro_rules
  | `(tactic| held_tac) => `(tactic| focus
      (simp +contextual only [forall_mem_held, mem_held, pv_mem, afIds, afIds_append, or_imp, forall_and]
       done))

/-- a side condition `∀ x ∈ a, x ∈ c`: the handles `a` a call needs are in flight -/
syntax "mem_tac" : tactic
macro_rules
  | `(tactic| mem_tac) => `(tactic| focus
      first
        | exact List.forall_mem_nil _
        | suffix_tac
        | (simp +contextual only [pv_mem, forall_mem_openElems, forall_mem_afIds, reduceCtorEq, *]; done)
        | (simp +contextual only [pv_mem, mem_held, reduceCtorEq, or_imp, forall_and, *]; done))

/-! ### the walk -/

/-- one step of the walk, by the shape of the computation: a bind whose first computation is a call
(`Call` instance), a conditional, a call or `pure` in tail position, the primitives, a bind whose first
computation is an inline `if`/`match` (answer handles by type), a join point, a `match` -/
syntax "pv_step" : tactic
macro_rules
  | `(tactic| pv_step) => `(tactic|
    first
      | ((with_reducible apply PV.bindCallNil); mem_tac)
      | ((with_reducible apply PV.bindCall); mem_tac)
      | intro _
      | with_reducible apply PV.iteH
      | ((with_reducible apply PV.call); mem_tac)
      | ((with_reducible apply PV.pure); mem_tac)
      | with_reducible exact PV.panicAt _ _ _
      | with_reducible exact PV.throw _
      | with_reducible exact PV.fuelOut _
      | with_reducible apply PV.pureBind
      | with_reducible apply PV.getS_bind
      | with_reducible apply PVat.getS_bind
      | ((with_reducible apply PVat.put_bind); (focus rfl); first | held_tac | mem_tac)
      | ((with_reducible apply PV.modS_bind); (focus (intro _; rfl)); first | held_tac | mem_tac)
      | ((with_reducible apply pv_modS); (focus (intro _; rfl)); first | held_tac | mem_tac)
      | with_reducible apply PV.bindU
      | with_reducible apply PV.bindB
      | with_reducible apply PV.bindT
      | with_reducible apply PV.bindI
      | with_reducible apply PVat.iteH
      | with_reducible apply PVat.of_bind
      | (extract_lets +onlyGivenNames jp
         first
           | refine PV.withJp one jp ?_ ?_
           | refine PV.withJp nil jp ?_ ?_
           | refine PVat.withJp one jp ?_ ?_
           | refine PVat.withJp nil jp ?_ ?_
         (intro r; dsimp only [jp])
         rotate_left
         (intro hjp; clear_value jp)
         rotate_right)
      | (split <;> fwd_tac)
      | dsimp only
      | with_reducible apply PV.at)

syntax "pv_walk" : tactic
macro_rules
  | `(tactic| pv_walk) => `(tactic| repeat' pv_step)

end H5V.Props.C18
