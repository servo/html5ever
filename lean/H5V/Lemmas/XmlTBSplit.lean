import H5V.Model.XmlTB
/-!
The XML tree-builder model (`H5V.Model.XmlTB`) does not depend on how text is cut into character
tokens.

* `strip` / `addErr`: the parse-error log is write-only — `step` never reads it (`step_wr`: a step
  from `s` is the step from `strip s` with the old log appended behind the new entries).
* `dedupAdj`: the log with adjacent repetitions collapsed.  A run of non-whitespace text before or
  after the root element is reported once *per character token* ("Unexpected element in start/end
  phase"), so the *number* of reports depends on the cut; the collapsed log does not.
* `SimS s t`: all fields but the log equal, logs equal after collapsing.
* `step_sim` (congruence), `step_split` (`chars (a ++ b)` vs `chars a, chars b`, in all three phases;
  no non-emptiness needed: RcDom's text merge makes even an empty piece invisible next to another
  piece).
-/
namespace H5V.Lemmas.XmlTBSplit
open H5V.Model.XmlTB

/-- the state with an empty parse-error log -/
def strip (s : State) : State := { s with errors := [] }

/-- put an older log behind the state's log -/
def addErr (es : List Err) (s : State) : State := { s with errors := s.errors ++ es }

@[simp] theorem strip_addErr (es : List Err) (s : State) : strip (addErr es s) = strip s := rfl
@[simp] theorem addErr_errors (es : List Err) (s : State) : (addErr es s).errors = s.errors ++ es := rfl
@[simp] theorem strip_errors (s : State) : (strip s).errors = [] := rfl
@[simp] theorem strip_strip (s : State) : strip (strip s) = strip s := rfl
theorem addErr_addErr (a b : List Err) (s : State) : addErr a (addErr b s) = addErr (b ++ a) s := by
  simp [addErr, List.append_assoc]
theorem addErr_strip (s : State) : addErr s.errors (strip s) = s := by
  cases s; simp [addErr, strip]
@[simp] theorem strip_phase (s : State) : (strip s).phase = s.phase := rfl
@[simp] theorem strip_opened (s : State) : (strip s).opened = s.opened := rfl
@[simp] theorem addErr_phase (es : List Err) (s : State) : (addErr es s).phase = s.phase := rfl
@[simp] theorem addErr_opened (es : List Err) (s : State) : (addErr es s).opened = s.opened := rfl

/-- `f` only ever appends to the log -/
def Wr (f : State → Except String State) : Prop := ∀ s, f s = (f (strip s)).map (addErr s.errors)

/-- pure version -/
def WrP (f : State → State) : Prop := ∀ s, f s = addErr s.errors (f (strip s))

theorem Wr.of_pure {f : State → State} (h : WrP f) : Wr (fun s => .ok (f s)) := by
  intro s; simp only [Except.map]; rw [h s]

theorem map_map_addErr (a b : List Err) (r : Except String State) :
    (r.map (addErr b)).map (addErr a) = r.map (addErr (b ++ a)) := by
  cases r with
  | error e => rfl
  | ok s => simp [Except.map, addErr_addErr]

/-- a write-only function on a state whose log already has entries -/
theorem Wr.after {f : State → Except String State} (hf : Wr f) (es : List Err) (u : State) :
    f (addErr es u) = (f u).map (addErr es) := by
  rw [hf (addErr es u), strip_addErr, addErr_errors, hf u, map_map_addErr]

theorem Wr.bind {f g : State → Except String State} (hf : Wr f) (hg : Wr g) :
    Wr (fun s => (f s).bind g) := by
  intro s
  dsimp only
  rw [hf s]
  cases h : f (strip s) with
  | error e => rfl
  | ok u =>
    show g (addErr s.errors u) = (g u).map (addErr s.errors)
    rw [hg (addErr s.errors u), hg u, strip_addErr, addErr_errors, map_map_addErr]

theorem Wr.map {f : State → Except String State} {g : State → State} (hf : Wr f) (hg : WrP g) :
    Wr (fun s => (f s).map g) := by
  intro s
  dsimp only
  rw [hf s]
  cases h : f (strip s) with
  | error e => rfl
  | ok u =>
    show Except.ok (g (addErr s.errors u)) = Except.ok (addErr s.errors (g u))
    rw [hg (addErr s.errors u), hg u, strip_addErr, addErr_errors, addErr_addErr]

theorem err_wr (l : List Err) : WrP (fun s => s.err l) := by
  intro s; cases s; simp [State.err, strip, addErr]

theorem appendDoc_wr (n : Node) : WrP (fun s => s.appendDoc n) := by
  intro s
  obtain ⟨ph, db, da, rt, op, ns, cr, er, ds⟩ := s
  simp only [State.appendDoc, State.hasRoot, strip, addErr]
  by_cases h : (rt.isSome || !op.isEmpty) = true <;> simp [h]

theorem setEndIfEmpty_wr : WrP setEndIfEmpty := by
  intro s
  obtain ⟨ph, db, da, rt, op, ns, cr, er, ds⟩ := s
  simp only [setEndIfEmpty, strip, addErr]
  by_cases h : op.isEmpty = true <;> simp [h]

theorem pop_wr : Wr pop := by
  intro s
  obtain ⟨ph, db, da, rt, op, ns, cr, er, ds⟩ := s
  unfold pop strip addErr
  dsimp only
  match op with
  | [] => rfl
  | [f] | f :: g :: rest => simp [Except.map]

theorem appendCur_wr (upd : List Node → List Node) : Wr (fun s => appendCur s upd) := by
  intro s
  obtain ⟨ph, db, da, rt, op, ns, cr, er, ds⟩ := s
  unfold appendCur strip addErr
  dsimp only
  match op with
  | [] => rfl
  | f :: rest => simp [Except.map]

theorem insertTag_wr (b : Bound) : Wr (fun s => insertTag s b) := by
  intro s
  obtain ⟨ph, db, da, rt, op, ns, cr, er, ds⟩ := s
  unfold insertTag strip addErr
  dsimp only
  match op with
  | [] => rfl
  | f :: rest => simp [Except.map]

theorem popUntil_wr (name : QName) : ∀ fuel, Wr (popUntil name fuel) := by
  intro fuel
  induction fuel with
  | zero =>
    intro s
    obtain ⟨ph, db, da, rt, op, ns, cr, er, ds⟩ := s
    unfold popUntil strip addErr
    dsimp only
    match op with
    | [] => rfl
    | f :: rest => dsimp only; split <;> simp [Except.map]
  | succ n ih =>
    intro s
    have hb := Wr.bind pop_wr ih s
    unfold popUntil
    cases ho : s.opened with
    | nil => simp [ho]; rfl
    | cons f rest =>
      simp only [strip_opened, ho]
      split
      · simp [Except.map, addErr_strip]
      · exact hb

theorem Wr.comp_pure {g : State → Except String State} {f : State → State} (hg : Wr g) (hf : WrP f) :
    Wr (fun s => g (f s)) := by
  intro s
  dsimp only
  rw [hf s, hg (addErr s.errors (f (strip s))), hg (f (strip s)), strip_addErr, addErr_errors, map_map_addErr]

/-- the optional "current node doesn't match" report of `close_tag` -/
def closeTagPre (name : QName) (s : State) : State :=
  match s.opened with
  | [] => s
  | f :: _ => if f.name.loc ≠ name.loc then s.err [.currentMismatch] else s

/-- the rest of `close_tag` -/
def closeTagPost (name : QName) (u : State) : Except String State :=
  if u.opened.any (fun g => sameExpanded g.name name) then (popUntil name u.opened.length u).bind pop
  else .ok u

theorem closeTag_eq (s : State) (name : QName) :
    closeTag s name =
      match s.opened with
      | [] => .error "tree_builder/mod.rs:444 no current element"
      | _ :: _ => closeTagPost name (closeTagPre name s) := by
  unfold closeTag closeTagPost closeTagPre
  cases s.opened <;> rfl

theorem closeTagPre_wr (name : QName) : WrP (closeTagPre name) := by
  intro s
  unfold closeTagPre
  simp only [strip_opened]
  cases s.opened with
  | nil => exact (addErr_strip s).symm
  | cons f rest =>
    dsimp only
    split
    · exact err_wr _ s
    · exact (addErr_strip s).symm

theorem closeTagPost_wr (name : QName) : Wr (closeTagPost name) := by
  intro u
  unfold closeTagPost
  simp only [strip_opened]
  by_cases h : (u.opened.any fun g => sameExpanded g.name name) = true
  · simp only [h, if_true]
    exact Wr.bind (popUntil_wr name u.opened.length) pop_wr u
  · simp only [h, if_false, Bool.false_eq_true]
    simp [Except.map, addErr_strip]

theorem closeTag_wr (name : QName) : Wr (fun s => closeTag s name) := by
  intro s
  dsimp only
  rw [closeTag_eq, closeTag_eq]
  simp only [strip_opened]
  cases s.opened with
  | nil => rfl
  | cons f rest => exact Wr.comp_pure (closeTagPost_wr name) (closeTagPre_wr name) s

theorem applyNs_wr (cfg : TbCfg) (t : Tag) :
    WrP (fun s => (applyNs cfg s t).1) ∧ ∀ s, (applyNs cfg s t).2 = (applyNs cfg (strip s) t).2 := by
  constructor
  · intro s
    obtain ⟨ph, db, da, rt, op, ns, cr, er, ds⟩ := s
    simp only [applyNs, State.err, strip, addErr]
    by_cases h : pushesMap t.kind (processNamespaces cfg ns t).name = true <;> simp [h]
  · intro s; rfl

theorem applyNs_eq (cfg : TbCfg) (s : State) (t : Tag) :
    applyNs cfg s t = (addErr s.errors (applyNs cfg (strip s) t).1, (applyNs cfg (strip s) t).2) :=
  Prod.ext ((applyNs_wr cfg t).1 s) rfl

/-- **the parse-error log is write-only**: a step from `s` is the step from `strip s` with the old
log put behind the new entries -/
theorem step_wr (cfg : TbCfg) (tok : Token) : Wr (fun s => step cfg s tok) := by
  intro s
  dsimp only
  unfold step
  simp only [strip_phase]
  cases hp : s.phase with
  | start =>
    dsimp only
    cases tok with
    | tag t =>
      obtain ⟨k, n, as⟩ := t
      cases k <;> dsimp only
      · rw [applyNs_eq cfg s]
        generalize (applyNs cfg (strip s) ⟨.start, n, as⟩) = r
        obtain ⟨r1, r2⟩ := r
        simp [Except.map, addErr]
      · exact Wr.of_pure (err_wr _) s
      · rw [applyNs_eq cfg s]
        generalize (applyNs cfg (strip s) ⟨.empty, n, as⟩) = r
        obtain ⟨r1, r2⟩ := r
        simp [Except.map, addErr]
      · exact Wr.of_pure (err_wr _) s
    | doctype n p sy =>
      dsimp only
      have e : (strip s).doctypeSeen = s.doctypeSeen := rfl
      rw [e]
      split
      · exact Wr.of_pure (err_wr _) s
      · simp only [Except.map]
        obtain ⟨ph, db, da, rt, op, ns, cr, er, ds⟩ := s
        simp only [State.appendDoc, State.hasRoot, strip, addErr]
        by_cases h : (rt.isSome || !op.isEmpty) = true <;> simp [h]
    | comment c => exact Wr.of_pure (appendDoc_wr _) s
    | chars cs =>
      dsimp only
      split
      · simp [Except.map, addErr_strip]
      · exact Wr.of_pure (err_wr _) s
    | pi t d => exact Wr.of_pure (appendDoc_wr _) s
    | nullChar => exact Wr.of_pure (err_wr _) s
    | eof =>
      simp only [Except.map]
      obtain ⟨ph, db, da, rt, op, ns, cr, er, ds⟩ := s
      simp [State.err, strip, addErr]
  | main =>
    dsimp only
    cases tok with
    | tag t =>
      obtain ⟨k, n, as⟩ := t
      cases k <;> dsimp only
      · rw [applyNs_eq cfg s]
        generalize (applyNs cfg (strip s) ⟨.start, n, as⟩) = r
        obtain ⟨r1, r2⟩ := r
        dsimp only
        have h1 := insertTag_wr r2 (addErr s.errors r1)
        have h2 := insertTag_wr r2 r1
        dsimp only at h1 h2
        rw [h1, strip_addErr, addErr_errors, h2, map_map_addErr]
      · rw [applyNs_eq cfg s]
        generalize (applyNs cfg (strip s) ⟨.end_, n, as⟩) = r
        obtain ⟨r1, r2⟩ := r
        dsimp only
        have hw := Wr.map (closeTag_wr r2.name) setEndIfEmpty_wr
        exact hw.after s.errors r1
      · rw [applyNs_eq cfg s]
        generalize (applyNs cfg (strip s) ⟨.empty, n, as⟩) = r
        obtain ⟨r1, r2⟩ := r
        dsimp only
        split
        · have hw := Wr.bind (insertTag_wr r2) (closeTag_wr r2.name)
          exact hw.after s.errors r1
        · have hg : WrP (fun s => { s with created := ⟨r2.name, r2.attrs⟩ :: s.created }) := by
            intro u; cases u; simp [strip, addErr]
          have hw := Wr.map (appendCur_wr (fun k => .elem r2.name r2.attrs [] :: k)) hg
          exact hw.after s.errors r1
      · exact Wr.map pop_wr setEndIfEmpty_wr s
    | doctype n p sy => exact Wr.of_pure (err_wr _) s
    | comment c | chars cs | pi t d => exact appendCur_wr _ s
    | nullChar | eof => simp only [Except.map]; cases s; simp [strip, addErr]
  | end_ =>
    dsimp only
    cases tok with
    | tag t | doctype n p sy => exact Wr.of_pure (err_wr _) s
    | comment c => exact Wr.of_pure (appendDoc_wr _) s
    | chars cs =>
      dsimp only
      split
      · simp [Except.map, addErr_strip]
      · exact Wr.of_pure (err_wr _) s
    | pi t d => exact Wr.of_pure (appendDoc_wr _) s
    | nullChar => exact Wr.of_pure (err_wr _) s
    | eof => simp [Except.map, addErr_strip]

/-! ### the collapsed log -/

/-- collapse adjacent repetitions -/
def dedupAdj : List Err → List Err
  | [] => []
  | x :: l => if l.head? = some x then dedupAdj l else x :: dedupAdj l

theorem dedupAdj_head (l : List Err) : (dedupAdj l).head? = l.head? := by
  induction l with
  | nil => rfl
  | cons x l ih =>
    simp only [dedupAdj]
    split
    · rename_i h; rw [ih, h]; rfl
    · rfl

theorem dedupAdj_cons_congr (x : Err) {l1 l2 : List Err} (h : dedupAdj l1 = dedupAdj l2) :
    dedupAdj (x :: l1) = dedupAdj (x :: l2) := by
  have hh : l1.head? = l2.head? := by rw [← dedupAdj_head l1, ← dedupAdj_head l2, h]
  simp only [dedupAdj, hh, h]

theorem dedupAdj_append_congr (a : List Err) {l1 l2 : List Err} (h : dedupAdj l1 = dedupAdj l2) :
    dedupAdj (a ++ l1) = dedupAdj (a ++ l2) := by
  induction a with
  | nil => exact h
  | cons x a ih => exact dedupAdj_cons_congr x ih

theorem dedupAdj_dup (x : Err) (l : List Err) : dedupAdj (x :: x :: l) = dedupAdj (x :: l) := by
  simp [dedupAdj]

/-! ### the simulation -/

/-- equal except for the parse-error log, and the logs agree after collapsing adjacent repetitions -/
def SimS (s t : State) : Prop := strip s = strip t ∧ dedupAdj s.errors = dedupAdj t.errors

theorem SimS.refl (s : State) : SimS s s := ⟨rfl, rfl⟩
theorem SimS.symm {s t : State} (h : SimS s t) : SimS t s := ⟨h.1.symm, h.2.symm⟩
theorem SimS.trans {s t u : State} (h1 : SimS s t) (h2 : SimS t u) : SimS s u :=
  ⟨h1.1.trans h2.1, h1.2.trans h2.2⟩

/-- both fail at the same site, or both succeed in `SimS` states -/
def RelR : Except String State → Except String State → Prop
  | .ok a, .ok b => SimS a b
  | .error e, .error e' => e = e'
  | _, _ => False

theorem RelR.refl (r : Except String State) : RelR r r := by
  cases r with
  | error e => exact rfl
  | ok s => exact SimS.refl s
theorem RelR.symm {x y : Except String State} (h : RelR x y) : RelR y x := by
  cases x <;> cases y <;> simp only [RelR] at h ⊢
  · exact h.symm
  · exact h.symm
theorem RelR.trans {x y z : Except String State} (h1 : RelR x y) (h2 : RelR y z) : RelR x z := by
  cases x <;> cases y <;> cases z <;> simp only [RelR] at h1 h2 ⊢
  · exact h1.trans h2
  · exact h1.trans h2

theorem SimS.addErr {s t : State} (h : SimS s t) (u : State) : SimS (addErr s.errors u) (addErr t.errors u) :=
  ⟨rfl, dedupAdj_append_congr _ h.2⟩

/-- **congruence**: any token, delivered to `SimS` states -/
theorem step_sim (cfg : TbCfg) (tok : Token) {s t : State} (h : SimS s t) :
    RelR (step cfg s tok) (step cfg t tok) := by
  have h1 := step_wr cfg tok s
  have h2 := step_wr cfg tok t
  dsimp only at h1 h2
  rw [h1, h2, ← h.1]
  cases step cfg (strip s) tok with
  | error e => exact rfl
  | ok u => exact h.addErr u

theorem appendText_append (k : List Node) (a b : Str) :
    appendText (appendText k a) b = appendText k (a ++ b) := by
  cases k with
  | nil => simp [appendText]
  | cons n rest => cases n <;> simp [appendText, List.append_assoc]

theorem anyNotWhitespace_append (a b : Str) :
    anyNotWhitespace (a ++ b) = (anyNotWhitespace a || anyNotWhitespace b) := by
  simp only [anyNotWhitespace, List.all_append]
  cases List.all a _ <;> simp

theorem err_err_sim (s : State) (x : Err) : SimS (s.err [x]) ((s.err [x]).err [x]) := by
  refine ⟨rfl, ?_⟩
  simp only [State.err, List.reverse_cons, List.reverse_nil, List.nil_append, List.singleton_append]
  exact (dedupAdj_dup x s.errors).symm

/-- **the cut**: `chars (a ++ b)` against `chars a` followed by `chars b`, from the same state, in every
phase (before the root: whitespace ignored, anything else reported; inside: RcDom's text merge; after
the root: as before it) -/
theorem step_split (cfg : TbCfg) (s : State) (a b : Str) :
    RelR (step cfg s (.chars (a ++ b))) ((step cfg s (.chars a)).bind (fun s' => step cfg s' (.chars b))) := by
  cases hp : s.phase with
  | start =>
    have e1 : ∀ cs, step cfg s (.chars cs) =
        if !anyNotWhitespace cs then .ok s else .ok (s.err [.unexpStart]) := by
      intro cs; unfold step; simp only [hp]
    have e2 : ∀ cs, step cfg (s.err [.unexpStart]) (.chars cs) =
        if !anyNotWhitespace cs then .ok (s.err [.unexpStart]) else .ok ((s.err [.unexpStart]).err [.unexpStart]) := by
      intro cs; unfold step
      have : (s.err [.unexpStart]).phase = .start := hp
      simp only [this]
    rw [e1, e1, anyNotWhitespace_append]
    cases ha : anyNotWhitespace a <;> cases hb : anyNotWhitespace b <;>
      simp only [Bool.or_false, Bool.or_true, Bool.not_false, Bool.not_true, if_true, Bool.false_eq_true, if_false,
        Except.bind]
    · rw [e1]; simp only [hb, Bool.not_false, if_true]; exact SimS.refl s
    · rw [e1]; simp only [hb, Bool.not_true, Bool.false_eq_true, if_false]; exact SimS.refl _
    · rw [e2]; simp only [hb, Bool.not_false, if_true]; exact SimS.refl _
    · rw [e2]; simp only [hb, Bool.not_true, Bool.false_eq_true, if_false]; exact err_err_sim s _
  | main =>
    have e1 : ∀ (u : State) cs, u.phase = .main → step cfg u (.chars cs) = appendCur u (fun k => appendText k cs) := by
      intro u cs hu; unfold step; simp only [hu]
    rw [e1 s _ hp, e1 s _ hp]
    unfold appendCur
    cases ho : s.opened with
    | nil => exact rfl
    | cons f rest =>
      simp only [Except.bind]
      unfold step
      simp only [hp, appendCur, appendText_append]
      exact SimS.refl _
  | end_ =>
    have e1 : ∀ cs, step cfg s (.chars cs) =
        if !anyNotWhitespace cs then .ok s else .ok (s.err [.unexpEnd]) := by
      intro cs; unfold step; simp only [hp]
    have e2 : ∀ cs, step cfg (s.err [.unexpEnd]) (.chars cs) =
        if !anyNotWhitespace cs then .ok (s.err [.unexpEnd]) else .ok ((s.err [.unexpEnd]).err [.unexpEnd]) := by
      intro cs; unfold step
      have : (s.err [.unexpEnd]).phase = .end_ := hp
      simp only [this]
    rw [e1, e1, anyNotWhitespace_append]
    cases ha : anyNotWhitespace a <;> cases hb : anyNotWhitespace b <;>
      simp only [Bool.or_false, Bool.or_true, Bool.not_false, Bool.not_true, if_true, Bool.false_eq_true, if_false,
        Except.bind]
    · rw [e1]; simp only [hb, Bool.not_false, if_true]; exact SimS.refl s
    · rw [e1]; simp only [hb, Bool.not_true, Bool.false_eq_true, if_false]; exact SimS.refl _
    · rw [e2]; simp only [hb, Bool.not_false, if_true]; exact SimS.refl _
    · rw [e2]; simp only [hb, Bool.not_true, Bool.false_eq_true, if_false]; exact err_err_sim s _

end H5V.Lemmas.XmlTBSplit
