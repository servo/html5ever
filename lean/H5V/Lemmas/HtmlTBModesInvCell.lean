import H5V.Lemmas.HtmlTBModesInvPrim2
/-!
C02 (insertion modes), the invariant `Good` of the specification's run: the rules of "text", "in cell", "in row".
-/
set_option linter.unusedSectionVars false
namespace H5V.Lemmas.ModesInv
open H5V.Spec H5V.Spec.TreeModes
open H5V.Spec.TreeAlgo (Str Name nsHtml nsMathml nsSvg inHtml)
open H5V.Spec.TreeAlgo2 (Elem Entry PState)

section
variable {N : Type} [DecidableEq N]

/-! ### "text" -/

/-- leaving "text": pop the current node, switch to the original insertion mode -/
theorem good_leaveText {σ σ' : State N} (hg : Good σ) (hm : σ.mode = .text)
    (hm' : σ'.mode = σ.originalMode) (ht : σ'.templateModes = σ.templateModes)
    (hs : σ'.p.stack = σ.p.stack.dropLast) (hl : σ'.p.list = σ.p.list) : Good σ' := by
  obtain ⟨⟨h1, h2, h3, h4⟩, hc⟩ := hg.text hm
  refine ⟨fun h => ?_, fun h => ?_, fun h => ?_, ?_, ?_, ?_⟩
  · rw [names_eq, hs, namesOf_dropLast, ← names_eq]
    exact hc (hm' ▸ h)
  · exact absurd (hm' ▸ h) h1
  · exact absurd (hm' ▸ h) h2
  · rw [hm']; exact ⟨h3, h4⟩
  · rw [hl]; exact hg.af
  · rw [ht]; exact hg.tm

theorem keeps_text : Keeps0 (fun _ σ tok => text (N := N) σ tok) (PreMode .text) := by
  intro cfg hed σ tok r hg hst hm h
  have hm : σ.mode = .text := hm
  unfold text at h
  cases tok with
  | character c =>
    exact post_insert hg h insertChar_eff
  | eof =>
    cases pure_ok h
    exact ⟨hst, good_leaveText hg hm rfl rfl rfl rfl⟩
  | endTag t =>
    dsimp only at h
    rcases ite_cases h with ⟨_, h⟩ | ⟨_, h⟩
    · exact post_bind h fun script _ => fun _ => good_leaveText hg hm rfl rfl rfl rfl
    · cases pure_ok h
      exact fun _ => good_leaveText hg hm rfl rfl rfl rfl
  | doctype _ _ _ _ => cases h
  | startTag _ => cases h
  | comment _ => cases h

/-! ### "in cell" -/

/-- "close the cell": the mode becomes "in row" -/
theorem good_closeCell {σ : State N} (hg : Good σ) : Good (closeCell σ) := by
  unfold closeCell
  dsimp only
  refine Good.plain' (m := .inRow) rfl (by decide) ?_ ?_
  · simp only [iteErr_p]; exact hg.af.clear
  · simp only [iteErr_tms]; exact hg.tm

theorem closeCell_stopped (σ : State N) : (closeCell σ).stopped = σ.stopped := by
  unfold closeCell; dsimp only; split <;> rfl

theorem keeps_inCell (hbody : Keeps (inBody (N := N)) PreBody) : Keeps (inCell (N := N)) (PreMode .inCell) := by
  intro cfg hed σ tok r hg hst hl hfr hm h
  have hm : σ.mode = .inCell := hm
  have hbody' : ∀ r', r' = r → cellEnd tok = false → inBody cfg σ tok = .ok r' → Post r' := fun r' hr hc h =>
    hbody cfg hed σ tok r' hg hst hl (hr ▸ hfr) ⟨by rw [hm]; decide, by rw [hm]; decide, fun _ => hc⟩ h
  unfold inCell at h
  cases tok with
  | endTag t =>
    dsimp only at h
    rcases ite_cases h with ⟨_, h⟩ | ⟨_, h⟩
    · -- </td>, </th>
      rcases ite_cases h with ⟨_, h⟩ | ⟨_, h⟩
      · exact post_ignore hg h
      · cases pure_ok h
        refine fun _ => Good.plain' (m := .inRow) rfl (by decide) ?_ ?_
        · simp only [setMode_p, clearToLastMarker_list, popUntilPoppedStr_list, iteErr_p, genImplied_list]
          exact hg.af.clear
        · simp only [setMode_tms, clearToLastMarker_tms, popUntilPoppedStr_tms, iteErr_tms, genImplied_tms]
          exact hg.tm
    · rename_i hnot
      rcases ite_cases h with ⟨_, h⟩ | ⟨_, h⟩
      · exact post_ignore hg h
      rcases ite_cases h with ⟨_, h⟩ | ⟨_, h⟩
      · rcases ite_cases h with ⟨_, h⟩ | ⟨_, h⟩
        · exact post_ignore hg h
        · cases pure_ok h
          exact ⟨by rw [closeCell_stopped]; exact hst, good_closeCell hg⟩
      · exact hbody' r rfl (by simpa [cellEnd] using hnot) h
  | startTag t =>
    dsimp only at h
    rcases ite_cases h with ⟨_, h⟩ | ⟨_, h⟩
    · rcases ite_cases h with ⟨_, h⟩ | ⟨_, h⟩
      · cases h
      · cases pure_ok h
        exact ⟨by rw [closeCell_stopped]; exact hst, good_closeCell hg⟩
    · exact hbody' r rfl rfl h
  | character c => exact hbody' r rfl rfl h
  | comment d => exact hbody' r rfl rfl h
  | doctype _ _ _ _ => exact hbody' r rfl rfl h
  | eof => exact hbody' r rfl rfl h

/-! ### "in row" -/

@[simp] theorem clearBackToTableRow_mode (s : State N) : (clearBackToTableRow s).mode = s.mode := rfl
@[simp] theorem clearBackToTableRow_orig (s : State N) : (clearBackToTableRow s).originalMode = s.originalMode := rfl
@[simp] theorem clearBackToTableRow_tms (s : State N) : (clearBackToTableRow s).templateModes = s.templateModes := rfl
@[simp] theorem clearBackToTableRow_stopped (s : State N) : (clearBackToTableRow s).stopped = s.stopped := rfl
@[simp] theorem clearBackToTableRow_list (s : State N) : (clearBackToTableRow s).p.list = s.p.list := rfl

theorem keeps_inRow (htable : Keeps (inTable (N := N)) PreTable) : Keeps (inRow (N := N)) (PreMode .inRow) := by
  intro cfg hed σ tok r hg hst hl hfr hm h
  have hm : σ.mode = .inRow := hm
  have htable' : ∀ r', r' = r → inTable cfg σ tok = .ok r' → Post r' := fun r' hr h =>
    htable cfg hed σ tok r' hg hst hl (hr ▸ hfr) (Or.inr (Or.inr hm)) h
  -- "close the row": the mode becomes "in table body"
  have hclose : Good ((clearBackToTableRow σ).pop.setMode .inTableBody) :=
    hg.toPlain' (m := .inTableBody) rfl (by decide)
  unfold inRow at h
  cases tok with
  | startTag t =>
    dsimp only at h
    rcases ite_cases h with ⟨_, h⟩ | ⟨_, h⟩
    · -- <td>, <th>: the new cell is the current node
      rename_i htd
      obtain ⟨s1, h1, h2⟩ := bind_ok h
      cases pure_ok h2
      obtain ⟨e, he, _, hu, _⟩ := insertHtml'_eff h1
      refine fun _ => Good.ofCell rfl ?_ ?_ ?_
      · -- td/th in table scope: it is the current node
        simp only [insertMarker_names, setMode_names]
        rw [names_eq, hu.stack, namesOf_snoc]
        apply cellR_cons_td
        rw [he]
        have h1 := inHtml_of_named (l := ["th", "td"]) htd (named_self t.name)
        simp only [tdThN, inHtml, List.any_cons, List.any_nil, Bool.or_false] at h1 ⊢
        rw [Bool.or_comm]; exact h1
      · simp only [insertMarker_list, setMode_p, hu.list, clearBackToTableRow_list]
        exact hg.af.marker
      · simp only [insertMarker_tms, setMode_tms, hu.tms, clearBackToTableRow_tms]
        exact hg.tm
    rcases ite_cases h with ⟨_, h⟩ | ⟨_, h⟩
    · rcases ite_cases h with ⟨_, h⟩ | ⟨_, h⟩
      · exact post_ignore hg h
      · cases pure_ok h; exact ⟨hst, hclose⟩
    · exact htable' r rfl h
  | endTag t =>
    dsimp only at h
    rcases ite_cases h with ⟨_, h⟩ | ⟨_, h⟩
    · rcases ite_cases h with ⟨_, h⟩ | ⟨_, h⟩
      · exact post_ignore hg h
      · cases pure_ok h; exact fun _ => hclose
    rcases ite_cases h with ⟨_, h⟩ | ⟨_, h⟩
    · rcases ite_cases h with ⟨_, h⟩ | ⟨_, h⟩
      · exact post_ignore hg h
      · cases pure_ok h; exact ⟨hst, hclose⟩
    rcases ite_cases h with ⟨_, h⟩ | ⟨_, h⟩
    · rcases ite_cases h with ⟨_, h⟩ | ⟨_, h⟩
      · exact post_ignore hg h
      · rcases ite_cases h with ⟨_, h⟩ | ⟨_, h⟩
        · cases pure_ok h; exact fun _ => hg
        · cases pure_ok h; exact ⟨hst, hclose⟩
    rcases ite_cases h with ⟨_, h⟩ | ⟨_, h⟩
    · exact post_ignore hg h
    · exact htable' r rfl h
  | character c => exact htable' r rfl h
  | comment d => exact htable' r rfl h
  | doctype _ _ _ _ => exact htable' r rfl h
  | eof => exact htable' r rfl h

end
end H5V.Lemmas.ModesInv
