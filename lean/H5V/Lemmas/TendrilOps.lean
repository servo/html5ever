import H5V.Lemmas.TendrilHeap
/-!
Specifications of the private building blocks of `tendril.rs` (`as_byte_slice`, `Drop`,
`make_buf_shared`, `incref`, `clone`, `owned_copy`, `make_owned`, `grow`,
`make_owned_with_capacity`) over `WF heap (t :: rest)`: the result is well-formed with the same
`rest`, `abs` of every other tendril is unchanged, `abs` of the head is as stated.  Then the same for
the public operations (push, pop, sub-tendril, `pop_front_char`, `reserve`, byte stores), and `NP`:
below 2 GiB none of them reaches the crate's `OFLOW` guard.
-/
namespace H5V.Lemmas.Tendril
open H5V.Model.Tendril

/-! ### evaluation of the primitives on a live buffer -/

theorem get_ok {h : Heap} {id : Nat} {b : Buf} (s : String) (hb : h.bufs[id]? = some b)
    (hl : b.live = true) : h.get id s = .ok b := by
  simp [Heap.get, hb, hl]

theorem read_ok {h : Heap} {id lo hi : Nat} {b : Buf} (s : String) (hb : h.bufs[id]? = some b)
    (hl : b.live = true) (h1 : lo ≤ hi) (h2 : hi ≤ b.data.length) (h3 : hi ≤ b.cap) :
    h.read id lo hi s = .ok ((b.data.drop lo).take (hi - lo)) := by
  unfold Heap.read
  rw [get_ok _ hb hl]
  simp only [bind, Except.bind]
  rw [if_pos ⟨h1, h2, h3⟩]

theorem write_ok {h : Heap} {id pos : Nat} {bytes : List UInt8} {b : Buf} (s : String)
    (hb : h.bufs[id]? = some b) (hl : b.live = true) (h1 : pos ≤ b.data.length)
    (h2 : pos + bytes.length ≤ b.cap) :
    h.write id pos bytes s = .ok ⟨h.bufs.set id { b with data := b.data.take pos ++ bytes },
      .write id pos (pos + bytes.length) :: h.trace⟩ := by
  unfold Heap.write
  rw [get_ok _ hb hl]
  simp only [bind, Except.bind]
  rw [if_pos ⟨h1, h2⟩]

theorem poke_ok {h : Heap} {id pos : Nat} {v : UInt8} {b : Buf} (s : String)
    (hb : h.bufs[id]? = some b) (hl : b.live = true) (h1 : pos < b.data.length) (h2 : pos < b.cap) :
    h.poke id pos v s = .ok ⟨h.bufs.set id { b with data := b.data.set pos v },
      .write id pos (pos + 1) :: h.trace⟩ := by
  unfold Heap.poke
  rw [get_ok _ hb hl]
  simp only [bind, Except.bind]
  rw [if_pos ⟨h1, h2⟩]

theorem free_ok {h : Heap} {id cap : Nat} {b : Buf} (s : String) (hb : h.bufs[id]? = some b)
    (hl : b.live = true) (hc : cap = b.cap) :
    h.free id cap s = .ok ⟨h.bufs.set id { b with live := false }, .free id cap :: h.trace⟩ := by
  unfold Heap.free
  rw [get_ok _ hb hl]
  simp only [bind, Except.bind]
  rw [if_pos hc]

theorem incref_ok {h : Heap} {id : Nat} {b : Buf} (s : String) (hb : h.bufs[id]? = some b)
    (hl : b.live = true) :
    h.incref id s = .ok ⟨h.bufs.set id { b with refcount := b.refcount + 1 },
      .incref id b.refcount :: h.trace⟩ := by
  unfold Heap.incref
  rw [get_ok _ hb hl]
  rfl

theorem decref_ok {h : Heap} {id : Nat} {b : Buf} (s : String) (hb : h.bufs[id]? = some b)
    (hl : b.live = true) (hr : b.refcount ≠ 0) :
    h.decref id s = .ok (⟨h.bufs.set id { b with refcount := b.refcount - 1 },
      .decref id b.refcount :: h.trace⟩, b.refcount) := by
  unfold Heap.decref
  rw [get_ok _ hb hl]
  simp only [bind, Except.bind]
  rw [if_neg hr]

theorem setHdrCap_ok {h : Heap} {id cap : Nat} {b : Buf} (s : String) (hb : h.bufs[id]? = some b)
    (hl : b.live = true) :
    h.setHdrCap id cap s = .ok ⟨h.bufs.set id { b with hdrCap := cap }, h.trace⟩ := by
  unfold Heap.setHdrCap
  rw [get_ok _ hb hl]
  rfl

theorem getHdrCap_ok {h : Heap} {id : Nat} {b : Buf} (s : String) (hb : h.bufs[id]? = some b)
    (hl : b.live = true) : h.getHdrCap id s = .ok b.hdrCap := by
  unfold Heap.getHdrCap
  rw [get_ok _ hb hl]
  rfl

theorem realloc_ok {h : Heap} {id oldCap newCap : Nat} {b : Buf} (s : String)
    (hb : h.bufs[id]? = some b) (hl : b.live = true) (hc : oldCap = b.cap) :
    h.realloc id oldCap newCap s =
      .ok (⟨h.bufs.set id { b with live := false } ++ [{ b with cap := newCap }],
            .free id oldCap :: .alloc h.bufs.length newCap :: h.trace⟩, h.bufs.length) := by
  unfold Heap.realloc
  rw [get_ok _ hb hl]
  simp only [bind, Except.bind]
  rw [if_pos hc]

/-! ### `as_byte_slice` is the abstraction function -/

theorem asByteSlice_eq {h : Heap} {t : T} (wt : TWF h t)
    (hok : ∀ (id : Nat) (b : Buf), h.bufs[id]? = some b → BufOK b) : asByteSlice h t = .ok (abs h t) := by
  cases t with
  | inline bs => rfl
  | owned id len cap =>
    obtain ⟨b, hb, hl, hc, hlen⟩ := wt
    have := (hok id b hb).1
    simp only [asByteSlice, assumeBuf, bind, Except.bind, T.len32]
    rw [read_ok _ hb hl (Nat.zero_le _) hlen (by omega)]
    simp only []
    rw [read_ok _ hb hl (by omega) (by omega) (by omega)]
    simp [abs, hb]
  | shared id off len =>
    obtain ⟨b, hb, hl, hc, hlen⟩ := wt
    have := (hok id b hb).1
    simp only [asByteSlice, assumeBuf, bind, Except.bind, T.len32]
    rw [getHdrCap_ok _ hb hl]
    simp only []
    rw [read_ok _ hb hl (Nat.zero_le _) hlen (by omega)]
    simp only []
    rw [read_ok _ hb hl (by omega) (by omega) (by omega)]
    simp [abs, hb]

theorem asByteSlice_head {h : Heap} {t : T} {rest : List T} (w : WF h (t :: rest)) :
    asByteSlice h t = .ok (abs h t) :=
  asByteSlice_eq (w.twf t (List.mem_cons_self ..)) w.bufs

theorem abs_length {h : Heap} {t : T} (wt : TWF h t) : (abs h t).length = t.len32 := by
  cases t with
  | inline bs => rfl
  | owned id len cap =>
    obtain ⟨b, hb, hl, hc, hlen⟩ := wt
    simp [abs, hb, T.len32, List.length_take, Nat.min_eq_left hlen]
  | shared id off len =>
    obtain ⟨b, hb, hl, hc, hlen⟩ := wt
    simp [abs, hb, T.len32, List.length_take, List.length_drop]
    omega

/-! ### `Drop` -/

theorem dropT_spec {h : Heap} {t : T} {rest : List T} (w : WF h (t :: rest)) :
    SatT (dropT h t) (fun h' => WF h' rest ∧ ∀ u, abs h' u = abs h u) := by
  cases t with
  | inline bs => exact ⟨h, rfl, w.tail_inline, fun _ => rfl⟩
  | owned id len cap =>
    obtain ⟨b, hb, hl, hc, hlen, hok, hrc, hr0⟩ := w.owned_head
    refine ⟨_, ?_, w.free_owned_head hb, fun u => abs_set_data u hb (by rfl)⟩
    simp only [dropT, assumeBuf, bind, Except.bind]
    exact free_ok _ hb hl hc.symm
  | shared id off len =>
    obtain ⟨b, hb, hl, hc, hlen, hok, hrc, hno⟩ := w.shared_head
    have hlt := lookup_lt hb
    have hr0 : b.refcount ≠ 0 := by omega
    by_cases h1 : b.refcount = 1
    · refine ⟨_, ?_, w.decref_free_head hb h1, fun u => abs_set_data u hb (by rfl)⟩
      simp only [dropT, assumeBuf, bind, Except.bind]
      rw [getHdrCap_ok _ hb hl]
      simp only [↓reduceIte]
      rw [decref_ok _ hb hl hr0]
      simp only []
      rw [if_pos h1, free_ok (b := { b with refcount := b.refcount - 1 }) _ (getElem?_set_self' hb) hl hc]
      simp [List.set_set, h1, hc]
    · refine ⟨_, ?_, w.decref_head hb h1, fun u => abs_set_data u hb (by rfl)⟩
      simp only [dropT, assumeBuf, bind, Except.bind]
      rw [getHdrCap_ok _ hb hl]
      simp only [↓reduceIte]
      rw [decref_ok _ hb hl hr0]
      simp only []
      rw [if_neg h1]

/-! ### `make_buf_shared`, `incref`, `clone` -/

theorem makeBufShared_spec {h : Heap} {t : T} {rest : List T} (s : String) (w : WF h (t :: rest))
    (hni : t.bufId?.isSome) :
    SatT (makeBufShared h t s) (fun r => WF r.1 (r.2 :: rest) ∧ (∀ u, abs r.1 u = abs h u) ∧
      abs r.1 r.2 = abs h t ∧ ∃ id off, r.2 = .shared id off t.len32 ∧
        (t = .shared id off t.len32 ∨ (off = 0 ∧ ∃ cap, t = .owned id t.len32 cap))) := by
  cases t with
  | inline bs => simp [T.bufId?] at hni
  | owned id len cap =>
    obtain ⟨b, hb, hl, hc, hlen, hok, hrc, hr0⟩ := w.owned_head
    refine ⟨(_, _), ?_, w.make_shared hb, fun u => abs_set_data u hb (by rfl), ?_, id, 0, rfl,
      Or.inr ⟨rfl, cap, rfl⟩⟩
    · simp only [makeBufShared, bind, Except.bind]
      rw [setHdrCap_ok _ hb hl]
    · simp [abs, getElem?_set_self' hb, hb]
  | shared id off len =>
    exact ⟨(_, _), rfl, w, fun _ => rfl, rfl, id, off, rfl, Or.inl rfl⟩

/-- `incref` on a shared head; afterwards any sub-view of the head may be added -/
theorem increfT_spec {h : Heap} {id off len : Nat} {rest : List T} (s : String)
    (w : WF h (.shared id off len :: rest)) :
    SatT (increfT h (.shared id off len) s) (fun h' => (∀ u, abs h' u = abs h u) ∧
      ∀ o l, o + l ≤ len →
        WF h' (.shared id off len :: .shared id (off + o) l :: rest) ∧
        abs h' (.shared id (off + o) l) = ((abs h (.shared id off len)).drop o).take l) := by
  obtain ⟨b, hb, hl, hc, hlen, hok, hrc, hno⟩ := w.shared_head
  refine ⟨⟨h.bufs.set id { b with refcount := b.refcount + 1 }, .incref id b.refcount :: h.trace⟩,
    ?_, fun u => abs_set_data u hb (by rfl), ?_⟩
  · simp only [increfT, T.bufId?]
    exact incref_ok _ hb hl
  · intro o l hol
    refine ⟨w.incref_view hb (by omega), ?_⟩
    rw [abs_set_data _ hb (by rfl)]
    simp only [abs, hb, List.drop_take, List.drop_drop, List.take_take]
    congr 1
    omega

theorem cloneT_spec {h : Heap} {t : T} {rest : List T} (w : WF h (t :: rest)) :
    SatT (cloneT h t) (fun r => WF r.1 (r.2.1 :: r.2.2 :: rest) ∧ (∀ u, abs r.1 u = abs h u) ∧
      abs r.1 r.2.1 = abs h t ∧ abs r.1 r.2.2 = abs h t) := by
  have key : t.bufId?.isSome → SatT (makeBufShared h t "clone" >>= fun r =>
      increfT r.1 r.2 "clone" >>= fun h' => (.ok (h', r.2, r.2) : M (Heap × T × T)))
      (fun r => WF r.1 (r.2.1 :: r.2.2 :: rest) ∧ (∀ u, abs r.1 u = abs h u) ∧
      abs r.1 r.2.1 = abs h t ∧ abs r.1 r.2.2 = abs h t) := by
    intro hni
    apply (makeBufShared_spec "clone" w hni).bind
    rintro ⟨h1, t1⟩ ⟨w1, hab, hat, id, off, ht1, _⟩
    simp only at ht1 w1 hab hat
    subst ht1
    apply (increfT_spec "clone" w1).bind
    rintro h2 ⟨hab2, hv⟩
    have := hv 0 t.len32 (by omega)
    simp only [Nat.add_zero, List.drop_zero] at this
    refine SatT.ok ⟨this.1, fun u => (hab2 u).trans (hab u), (hab2 _).trans hat, ?_⟩
    simp only [this.2, hat]
    rw [← abs_length (w.twf t (List.mem_cons_self ..)), List.take_length]
  cases t with
  | inline bs =>
    exact ⟨_, rfl, w.cons_inline (w.twf _ (List.mem_cons_self ..)), fun _ => rfl, rfl, rfl⟩
  | owned id len cap => exact key rfl
  | shared id off len => exact key rfl

/-! ### `Sat` through the panic / UB guards of the model -/

theorem Sat.ite_panic {α} {c : Prop} [Decidable c] {s : String} {x : M α} {Q : α → Prop}
    (h : ¬ c → Sat x Q) : Sat (if c then .error (.panic s) else x) Q := by
  by_cases hc : c
  · rw [if_pos hc]; trivial
  · rw [if_neg hc]; exact h hc

theorem Sat.ite_ub {α} {c : Prop} [Decidable c] {s : String} {x : M α} {Q : α → Prop}
    (hc : ¬ c) (h : Sat x Q) : Sat (if c then .error (.ub s) else x) Q := by
  rw [if_neg hc]; exact h

theorem SatT.ite_ub {α} {c : Prop} [Decidable c] {s : String} {x : M α} {Q : α → Prop}
    (hc : ¬ c) (h : SatT x Q) : SatT (if c then .error (.ub s) else x) Q := by
  rw [if_neg hc]; exact h

/-! ### `buf32.rs` arithmetic -/

theorem le_roundCap (x : Nat) : x ≤ roundCap x := by unfold roundCap; omega

theorem roundCap_ge16 {x : Nat} (h : 16 ≤ x) : 16 ≤ roundCap x := by unfold roundCap; omega

theorem nextPow2Fuel_spec (f p n : Nat) : n ≤ nextPow2Fuel f p n ∨ nextPow2Fuel f p n = p * 2 ^ f := by
  induction f generalizing p with
  | zero => right; simp [nextPow2Fuel]
  | succ f ih =>
    unfold nextPow2Fuel
    split
    · left; assumption
    · rcases ih (2 * p) with h | h
      · left; exact h
      · right; rw [h, Nat.pow_succ, Nat.mul_comm 2 p, Nat.mul_assoc, Nat.mul_comm (2 ^ f) 2]

theorem le_nextPow2 {n : Nat} (h : nextPow2 n ≤ 4294967295) : n ≤ nextPow2 n := by
  rcases nextPow2Fuel_spec 33 1 n with h1 | h1
  · exact h1
  · unfold nextPow2 at h; rw [h1] at h; simp at h

/-! ### `owned_copy`, `make_owned`, `grow`, `make_owned_with_capacity` -/

theorem ownedCopy_spec {h : Heap} {ts : List T} (x : List UInt8) (w : WF h ts) :
    Sat (ownedCopy h x) (fun r => WF r.1 (r.2 :: ts) ∧ (∀ u ∈ ts, abs r.1 u = abs h u) ∧
      abs r.1 r.2 = x ∧ ∃ id cap, r.2 = .owned id x.length cap ∧ x.length ≤ cap) := by
  unfold ownedCopy buf32WithCapacity
  simp only []
  generalize hc : roundCap (if x.length < 16 then 16 else x.length) = c
  have h1 : x.length ≤ c := by
    subst hc; split
    · have := le_roundCap 16; omega
    · exact le_roundCap _
  have h2 : 16 ≤ c := by
    subst hc; split
    · exact roundCap_ge16 (Nat.le_refl _)
    · exact roundCap_ge16 (by omega)
  by_cases hbig : c > 4294967295
  · simp only [hbig, ↓reduceIte, bind, Except.bind]; trivial
  · simp only [hbig, ↓reduceIte, Heap.alloc, bind, Except.bind]
    have hnb : (h.bufs ++ [(⟨[], c, 0, 1, true⟩ : Buf)])[h.bufs.length]? = some ⟨[], c, 0, 1, true⟩ := by
      simp
    have hwr := write_ok (h := ⟨h.bufs ++ [⟨[], c, 0, 1, true⟩], .alloc h.bufs.length c :: h.trace⟩)
      (id := h.bufs.length) (pos := 0) (bytes := x) (b := ⟨[], c, 0, 1, true⟩) "owned_copy" hnb rfl
      (Nat.zero_le _) (by simpa using h1)
    rw [hwr]
    have hset : (h.bufs ++ [(⟨[], c, 0, 1, true⟩ : Buf)]).set h.bufs.length
        { (⟨[], c, 0, 1, true⟩ : Buf) with data := ([] : List UInt8).take 0 ++ x }
        = h.bufs ++ [⟨x, c, 0, 1, true⟩] := by
      simp
    simp only [hset]
    have hw := w.alloc_owned (x := x) (c := c) h1 h2 (by omega)
    refine ⟨hw, ?_, ?_, _, _, rfl, h1⟩
    · intro u hu; exact abs_append (w.twf u hu)
    · simp [abs]

theorem makeOwned_spec {h : Heap} {t : T} {rest : List T} (w : WF h (t :: rest)) :
    Sat (makeOwned h t) (fun r => WF r.1 (r.2 :: rest) ∧ (∀ u ∈ rest, abs r.1 u = abs h u) ∧
      abs r.1 r.2 = abs h t ∧ ∃ id cap, r.2 = .owned id t.len32 cap) := by
  have key : Sat (asByteSlice h t >>= fun bs => ownedCopy h bs >>= fun r =>
      dropT r.1 t >>= fun h' => (.ok (h', r.2) : M (Heap × T)))
      (fun r => WF r.1 (r.2 :: rest) ∧ (∀ u ∈ rest, abs r.1 u = abs h u) ∧
      abs r.1 r.2 = abs h t ∧ ∃ id cap, r.2 = .owned id t.len32 cap) := by
    rw [asByteSlice_head w]
    apply (ownedCopy_spec (abs h t) w).bind
    rintro ⟨h1, t1⟩ ⟨w1, hab, hat, id, cap, ht1, _⟩
    simp only at w1 hab hat ht1
    have w1' : WF h1 (t :: t1 :: rest) := w1.perm (List.Perm.swap ..)
    apply (dropT_spec w1').sat.bind
    rintro h2 ⟨w2, hab2⟩
    refine Sat.ok ⟨w2, fun u hu => (hab2 u).trans (hab u (List.mem_cons_of_mem _ hu)),
      (hab2 _).trans hat, id, cap, ?_⟩
    rw [ht1, abs_length (w.twf t (List.mem_cons_self ..))]
  cases t with
  | owned id len cap => exact Sat.ok ⟨w, fun _ _ => rfl, rfl, id, cap, rfl⟩
  | inline bs => exact key
  | shared id off len => exact key

theorem abs_realloc {h : Heap} {id : Nat} {b nb : Buf} {tr : List Event} {u : T} (wu : TWF h u)
    (hb : h.bufs[id]? = some b) :
    abs ⟨h.bufs.set id { b with live := false } ++ [nb], tr⟩ u = abs h u := by
  apply abs_congr
  intro j hj
  have := wu.lt hj
  simp only []
  rw [List.getElem?_append_left (by simpa using this)]
  by_cases hji : j = id
  · subst hji; rw [getElem?_set_self' hb, hb]; rfl
  · rw [getElem?_set_ne' hji]

theorem buf32Grow_spec {h : Heap} {id len cap : Nat} {rest : List T} (newCap : Nat)
    (w : WF h (.owned id len cap :: rest)) :
    Sat (buf32Grow h id cap newCap) (fun r => WF r.1 (.owned r.2.1 len r.2.2 :: rest) ∧
      (∀ u ∈ rest, abs r.1 u = abs h u) ∧
      abs r.1 (.owned r.2.1 len r.2.2) = abs h (.owned id len cap) ∧ newCap ≤ r.2.2) := by
  obtain ⟨b, hb, hl, hc, hlen, hok, hrc, hr0⟩ := w.owned_head
  unfold buf32Grow
  split
  · exact Sat.ok ⟨w, fun _ _ => rfl, rfl, by assumption⟩
  · rename_i hgt
    simp only []
    apply Sat.ite_panic; intro hnp
    apply Sat.ite_panic; intro hrc'
    rw [realloc_ok _ hb hl hc.symm]
    have hnp' := le_nextPow2 (Nat.le_of_not_gt hnp)
    have hrn := le_roundCap (nextPow2 newCap)
    have hw := w.realloc_owned_head (nc := roundCap (nextPow2 newCap)) hb (by omega) (by omega)
    refine Sat.ok ⟨hw, ?_, ?_, by simp only []; omega⟩
    · intro u hu
      exact abs_realloc (w.twf u (List.mem_cons_of_mem _ hu)) hb
    · have hlt := lookup_lt hb
      simp only [abs, hb]
      rw [List.getElem?_append_right (by simp)]
      simp

theorem makeOwnedWithCapacity_spec {h : Heap} {t : T} {rest : List T} (cap : Nat)
    (w : WF h (t :: rest)) :
    Sat (makeOwnedWithCapacity h t cap) (fun r => WF r.1 (r.2 :: rest) ∧
      (∀ u ∈ rest, abs r.1 u = abs h u) ∧ abs r.1 r.2 = abs h t ∧
      ∃ id c, r.2 = .owned id t.len32 c ∧ cap ≤ c) := by
  unfold makeOwnedWithCapacity
  apply (makeOwned_spec w).bind
  rintro ⟨h1, t1⟩ ⟨w1, hab, hat, id, c, ht1⟩
  simp only at w1 hab hat ht1
  subst ht1
  simp only []
  apply (buf32Grow_spec cap w1).bind
  rintro ⟨h2, id2, c2⟩ ⟨w2, hab2, hat2, hge⟩
  simp only at w2 hab2 hat2 hge
  exact Sat.ok ⟨w2, fun u hu => (hab2 u hu).trans (hab u hu), hat2.trans hat, id2, c2, rfl, hge⟩


/-! ## the public operations on one tendril -/

/-- what `push_bytes_without_validating` produces, on byte lists -/
def pushSpec (F : Format) (a b : List UInt8) : List UInt8 :=
  a.take (a.length - (F.fixup a b).dropLeft) ++ (F.fixup a b).insert ++ b.drop (F.fixup a b).dropRight

/-- the fix-up of a format never reaches outside its operands -/
def FixupOK (F : Format) : Prop :=
  ∀ a b, (F.fixup a b).dropLeft ≤ a.length ∧ (F.fixup a b).dropRight ≤ b.length

theorem mkInline_ok {x : List UInt8} (s : String) (h : x.length ≤ 8) : mkInline x s = .ok (.inline x) := by
  simp [mkInline, h]

theorem fromBytesUnchecked_spec {h : Heap} {ts : List T} (x : List UInt8) (w : WF h ts) :
    Sat (fromBytesUnchecked h x) (fun r => WF r.1 (r.2 :: ts) ∧ (∀ u ∈ ts, abs r.1 u = abs h u) ∧
      abs r.1 r.2 = x) := by
  unfold fromBytesUnchecked
  apply Sat.ite_panic; intro _
  split
  · rename_i h8
    rw [mkInline_ok _ h8]
    exact Sat.ok ⟨w.cons_inline h8, fun _ _ => rfl, rfl⟩
  · exact (ownedCopy_spec x w).mono (fun r ⟨a, b, c, _⟩ => ⟨a, b, c⟩)

theorem clearT_spec {h : Heap} {t : T} {rest : List T} (w : WF h (t :: rest)) :
    SatT (clearT h t) (fun r => WF r.1 (r.2 :: rest) ∧ (∀ u ∈ rest, abs r.1 u = abs h u) ∧
      abs r.1 r.2 = []) := by
  cases t with
  | inline bs =>
    exact SatT.ok ⟨w.tail_inline.cons_inline (by simp), fun _ _ => rfl, rfl⟩
  | owned id len cap =>
    obtain ⟨b, hb, hl, hc, hlen, hok, hrc, hr0⟩ := w.owned_head
    refine SatT.ok ⟨w.replace_head rfl ⟨b, hb, hl, hc, Nat.zero_le _⟩ ?_, fun _ _ => rfl, ?_⟩
    · rintro i l c ⟨⟩; exact ⟨len, rfl⟩
    · simp [abs, hb]
  | shared id off len =>
    simp only [clearT]
    apply (dropT_spec w).bind
    rintro h1 ⟨w1, hab⟩
    exact SatT.ok ⟨w1.cons_inline (by simp), fun u _ => hab u, rfl⟩

theorem pushBytesUnchecked_spec {F : Format} (hF : FixupOK F) {h : Heap} {t : T} {rest : List T}
    (buf : List UInt8) (w : WF h (t :: rest)) :
    Sat (pushBytesUnchecked F h t buf) (fun r => WF r.1 (r.2 :: rest) ∧
      (∀ u ∈ rest, abs r.1 u = abs h u) ∧ abs r.1 r.2 = pushSpec F (abs h t) buf) := by
  have hlen := abs_length (w.twf t (List.mem_cons_self ..))
  obtain ⟨hdl, hdr⟩ := hF (abs h t) buf
  unfold pushBytesUnchecked
  simp only [bind, Except.bind]
  apply Sat.ite_panic; intro _
  rw [asByteSlice_head w]
  simp only []
  apply Sat.ite_panic; intro _
  apply Sat.ite_panic; intro _
  apply Sat.ite_panic; intro _
  apply Sat.ite_panic; intro _
  apply Sat.ite_ub (by omega)
  generalize hfx : F.fixup (abs h t) buf = fx at hdl hdr ⊢
  have hps : pushSpec F (abs h t) buf
      = (abs h t).take ((abs h t).length - fx.dropLeft) ++ fx.insert ++ buf.drop fx.dropRight := by
    simp [pushSpec, hfx]
  have hpl : (pushSpec F (abs h t) buf).length
      = t.len32 + fx.insert.length - fx.dropLeft + buf.length - fx.dropRight := by
    rw [hps]; simp [List.length_take]; omega
  split
  · rename_i h8
    apply Sat.ite_ub (by rw [← hps, hpl]; omega)
    rw [← hps, ← hpl, List.take_length, mkInline_ok _ (by rw [hpl]; exact h8)]
    simp only []
    apply (dropT_spec w).sat.bind
    rintro h1 ⟨w1, hab⟩
    exact Sat.ok ⟨w1.cons_inline (by rw [hpl]; exact h8), fun u _ => hab u, rfl⟩
  · rename_i h8
    apply (makeOwnedWithCapacity_spec _ w).bind
    rintro ⟨h1, t1⟩ ⟨w1, hab, hat, id, c, ht1, hge⟩
    simp only at w1 hab hat ht1 hge
    subst ht1
    simp only []
    apply Sat.ite_ub (by omega)
    obtain ⟨b, hb, hl, hc, hlen1, hok, hrc, hr0⟩ := w1.owned_head
    have hwl : (fx.insert ++ buf.drop fx.dropRight).length = fx.insert.length + (buf.length - fx.dropRight) := by
      simp
    have hw := w1.write_owned_head (pos := t.len32 - fx.dropLeft)
      (bytes := fx.insert ++ buf.drop fx.dropRight) hb (by omega) (by rw [hwl]; omega)
    rw [write_ok _ hb hl (by omega) (by rw [hwl, hc]; omega)]
    have he : t.len32 - fx.dropLeft + (fx.insert ++ buf.drop fx.dropRight).length
        = t.len32 + fx.insert.length - fx.dropLeft + buf.length - fx.dropRight := by
      rw [hwl]; omega
    have hte : T.owned id (t.len32 - fx.dropLeft + (fx.insert ++ buf.drop fx.dropRight).length) c
        = T.owned id (t.len32 + fx.insert.length - fx.dropLeft + buf.length - fx.dropRight) c := by
      rw [he]
    rw [hte] at hw
    refine Sat.ok ⟨hw, ?_, ?_⟩
    · intro u hu
      have hne : u.bufId? ≠ some id := by
        intro hid
        have := refs_pos_of_mem hu hid
        omega
      rw [abs_set_other hne]; exact hab u hu
    · rw [hps, hlen, ← hat]
      simp only [abs, getElem?_set_self' hb, hb]
      rw [List.take_of_length_le (by simp [List.length_take]; omega)]
      simp only [List.append_assoc, List.take_take]
      congr 2
      omega


theorem unsafeSubtendril_spec {h : Heap} {t : T} {rest : List T} (off len : Nat)
    (w : WF h (t :: rest)) (hb : off + len ≤ t.len32) :
    SatT (unsafeSubtendril h t off len) (fun r => WF r.1 (r.2.1 :: r.2.2 :: rest) ∧
      (∀ u ∈ rest, abs r.1 u = abs h u) ∧ abs r.1 r.2.1 = abs h t ∧
      abs r.1 r.2.2 = ((abs h t).drop off).take len) := by
  have hlen := abs_length (w.twf t (List.mem_cons_self ..))
  unfold unsafeSubtendril
  split
  · rename_i h8
    rw [asByteSlice_head w]
    simp only [bind, Except.bind]
    rw [if_pos (by omega)]
    have hl8 : (((abs h t).drop off).take len).length ≤ 8 := by
      simp [List.length_take]; omega
    rw [mkInline_ok _ hl8]
    have w' : WF h (.inline (((abs h t).drop off).take len) :: t :: rest) := w.cons_inline hl8
    exact SatT.ok ⟨w'.perm (List.Perm.swap ..), fun _ _ => rfl, rfl, rfl⟩
  · rename_i h8
    have hni : t.bufId?.isSome := by
      cases t with
      | inline bs =>
        have := w.twf _ (List.mem_cons_self ..)
        simp only [TWF] at this
        simp only [T.len32] at hb
        omega
      | owned => rfl
      | shared => rfl
    apply (makeBufShared_spec "unsafe_subtendril" w hni).bind
    rintro ⟨h1, t1⟩ ⟨w1, hab, hat, id, o, ht1, _⟩
    simp only at w1 hab hat ht1
    subst ht1
    simp only []
    apply (increfT_spec "unsafe_subtendril" w1).bind
    rintro h2 ⟨hab2, hv⟩
    rw [if_pos hb]
    obtain ⟨hw2, ha2⟩ := hv off len hb
    exact SatT.ok ⟨hw2, fun u _ => (hab2 u).trans (hab u), (hab2 _).trans hat, by rw [ha2, hat]⟩

theorem unsafePopFront_spec {h : Heap} {t : T} {rest : List T} (n : Nat)
    (w : WF h (t :: rest)) (hn : n ≤ t.len32) :
    SatT (unsafePopFront h t n) (fun r => WF r.1 (r.2 :: rest) ∧
      (∀ u ∈ rest, abs r.1 u = abs h u) ∧ abs r.1 r.2 = (abs h t).drop n) := by
  have hlen := abs_length (w.twf t (List.mem_cons_self ..))
  unfold unsafePopFront
  rw [if_neg (by omega)]
  simp only []
  split
  · rename_i h8
    rw [asByteSlice_head w]
    simp only [bind, Except.bind]
    have he : ((abs h t).drop n).take (t.len32 - n) = (abs h t).drop n := by
      apply List.take_of_length_le; simp; omega
    rw [he, mkInline_ok _ (by simp; omega)]
    simp only []
    apply (dropT_spec w).bind
    rintro h1 ⟨w1, hab⟩
    exact SatT.ok ⟨w1.cons_inline (by simp; omega), fun u _ => hab u, rfl⟩
  · rename_i h8
    have hni : t.bufId?.isSome := by
      cases t with
      | inline bs =>
        have := w.twf _ (List.mem_cons_self ..)
        simp only [TWF] at this
        simp only [T.len32] at h8
        omega
      | owned => rfl
      | shared => rfl
    apply (makeBufShared_spec "unsafe_pop_front" w hni).bind
    rintro ⟨h1, t1⟩ ⟨w1, hab, hat, id, o, ht1, _⟩
    simp only at w1 hab hat ht1
    subst ht1
    simp only []
    obtain ⟨b, hb, hl, hc, hlen1, hok, hrc, hno⟩ := w1.shared_head
    refine SatT.ok ⟨w1.replace_head rfl ⟨b, hb, hl, hc, by omega⟩ (by rintro _ _ _ ⟨⟩),
      fun u _ => hab u, ?_⟩
    rw [← hat]
    simp only [abs, hb, List.drop_take, List.drop_drop]
    try (congr 1; omega)

theorem unsafePopBack_spec {h : Heap} {t : T} {rest : List T} (n : Nat)
    (w : WF h (t :: rest)) (hn : n ≤ t.len32) :
    SatT (unsafePopBack h t n) (fun r => WF r.1 (r.2 :: rest) ∧
      (∀ u ∈ rest, abs r.1 u = abs h u) ∧ abs r.1 r.2 = (abs h t).take (t.len32 - n)) := by
  have hlen := abs_length (w.twf t (List.mem_cons_self ..))
  unfold unsafePopBack
  rw [if_neg (by omega)]
  simp only []
  split
  · rename_i h8
    rw [asByteSlice_head w]
    simp only [bind, Except.bind]
    rw [mkInline_ok _ (by simp [List.length_take]; omega)]
    simp only []
    apply (dropT_spec w).bind
    rintro h1 ⟨w1, hab⟩
    exact SatT.ok ⟨w1.cons_inline (by simp [List.length_take]; omega), fun u _ => hab u, rfl⟩
  · rename_i h8
    have hni : t.bufId?.isSome := by
      cases t with
      | inline bs =>
        have := w.twf _ (List.mem_cons_self ..)
        simp only [TWF] at this
        simp only [T.len32] at h8
        omega
      | owned => rfl
      | shared => rfl
    apply (makeBufShared_spec "unsafe_pop_back" w hni).bind
    rintro ⟨h1, t1⟩ ⟨w1, hab, hat, id, o, ht1, _⟩
    simp only at w1 hab hat ht1
    subst ht1
    simp only []
    obtain ⟨b, hb, hl, hc, hlen1, hok, hrc, hno⟩ := w1.shared_head
    refine SatT.ok ⟨w1.replace_head rfl ⟨b, hb, hl, hc, by omega⟩ (by rintro _ _ _ ⟨⟩),
      fun u _ => hab u, ?_⟩
    rw [← hat]
    simp only [abs, hb, List.take_take]
    congr 1
    omega

/-- `try_pop_front` in terms of the format's own suffix check -/
theorem tryPopFront_spec (F : Format) {h : Heap} {t : T} {rest : List T} (n : Nat)
    (w : WF h (t :: rest)) :
    SatT (tryPopFront F h t n) (fun r => WF r.1 (r.2.1 :: rest) ∧
      (∀ u ∈ rest, abs r.1 u = abs h u) ∧
      (r.2.2, abs r.1 r.2.1) =
        (if n = 0 then (none, abs h t)
         else if n > (abs h t).length then (some .outOfBounds, abs h t)
         else if F.validateSuffix ((abs h t).drop n) then (none, (abs h t).drop n)
         else (some .validationFailed, abs h t))) := by
  have hlen := abs_length (w.twf t (List.mem_cons_self ..))
  unfold tryPopFront
  by_cases h0 : n = 0
  · simp only [h0, ↓reduceIte]
    exact SatT.ok ⟨w, fun _ _ => rfl, rfl⟩
  · rw [if_neg h0, if_neg h0, hlen]
    by_cases h1 : n > t.len32
    · rw [if_pos h1, if_pos h1]
      exact SatT.ok ⟨w, fun _ _ => rfl, rfl⟩
    · rw [if_neg h1, if_neg h1, asByteSlice_head w]
      simp only [bind, Except.bind]
      have he : ((abs h t).drop n).take (t.len32 - n) = (abs h t).drop n := by
        apply List.take_of_length_le; simp; omega
      rw [he]
      by_cases hv : F.validateSuffix ((abs h t).drop n) = true
      · simp only [hv, Bool.not_true, Bool.false_eq_true, ↓reduceIte]
        apply (unsafePopFront_spec n w (by omega)).bind
        rintro ⟨h1, t1⟩ ⟨w1, hab, hat⟩
        exact SatT.ok ⟨w1, hab, by simp only [hat]⟩
      · simp only [hv, Bool.not_false, ↓reduceIte]
        simp only [Bool.not_eq_true] at hv
        simp only [hv, Bool.not_false, ↓reduceIte, Bool.false_eq_true]
        exact SatT.ok ⟨w, fun _ _ => rfl, rfl⟩

theorem tryPopBack_spec (F : Format) {h : Heap} {t : T} {rest : List T} (n : Nat)
    (w : WF h (t :: rest)) :
    SatT (tryPopBack F h t n) (fun r => WF r.1 (r.2.1 :: rest) ∧
      (∀ u ∈ rest, abs r.1 u = abs h u) ∧
      (r.2.2, abs r.1 r.2.1) =
        (if n = 0 then (none, abs h t)
         else if n > (abs h t).length then (some .outOfBounds, abs h t)
         else if F.validatePrefix ((abs h t).take ((abs h t).length - n)) then
           (none, (abs h t).take ((abs h t).length - n))
         else (some .validationFailed, abs h t))) := by
  have hlen := abs_length (w.twf t (List.mem_cons_self ..))
  unfold tryPopBack
  by_cases h0 : n = 0
  · simp only [h0, ↓reduceIte]
    exact SatT.ok ⟨w, fun _ _ => rfl, rfl⟩
  · rw [if_neg h0, if_neg h0, hlen]
    by_cases h1 : n > t.len32
    · rw [if_pos h1, if_pos h1]
      exact SatT.ok ⟨w, fun _ _ => rfl, rfl⟩
    · rw [if_neg h1, if_neg h1, asByteSlice_head w]
      simp only [bind, Except.bind]
      by_cases hv : F.validatePrefix ((abs h t).take (t.len32 - n)) = true
      · simp only [hv, Bool.not_true, Bool.false_eq_true, ↓reduceIte]
        apply (unsafePopBack_spec n w (by omega)).bind
        rintro ⟨h1, t1⟩ ⟨w1, hab, hat⟩
        exact SatT.ok ⟨w1, hab, by simp only [hat]⟩
      · simp only [Bool.not_eq_true] at hv
        simp only [hv, Bool.not_false, ↓reduceIte, Bool.false_eq_true]
        exact SatT.ok ⟨w, fun _ _ => rfl, rfl⟩

/-- `try_subtendril` in terms of the format's own subsequence check: either an error and nothing
changes, or a new tendril `s` holding the requested slice -/
theorem trySubtendril_spec (F : Format) {h : Heap} {t : T} {rest : List T} (off len : Nat)
    (w : WF h (t :: rest)) :
    SatT (trySubtendril F h t off len) (fun r =>
      (∀ u ∈ rest, abs r.1 u = abs h u) ∧ abs r.1 r.2.1 = abs h t ∧
      match r.2.2 with
      | .inl e => WF r.1 (r.2.1 :: rest) ∧
          e = (if off > (abs h t).length ∨ len > (abs h t).length - off then SubErr.outOfBounds
               else .validationFailed) ∧
          (¬ (off > (abs h t).length ∨ len > (abs h t).length - off) →
            F.validateSubseq (((abs h t).drop off).take len) = false)
      | .inr s => WF r.1 (r.2.1 :: s :: rest) ∧
          ¬ (off > (abs h t).length ∨ len > (abs h t).length - off) ∧
          F.validateSubseq (((abs h t).drop off).take len) = true ∧
          abs r.1 s = ((abs h t).drop off).take len) := by
  have hlen := abs_length (w.twf t (List.mem_cons_self ..))
  unfold trySubtendril
  rw [hlen]
  by_cases h1 : off > t.len32 ∨ len > t.len32 - off
  · rw [if_pos h1]
    exact SatT.ok ⟨fun _ _ => rfl, rfl, w, by simp only [h1, ↓reduceIte], fun hn => (hn h1).elim⟩
  · rw [if_neg h1, asByteSlice_head w]
    simp only [bind, Except.bind]
    by_cases hv : F.validateSubseq (((abs h t).drop off).take len) = true
    · have hc : ¬ ((!F.validateSubseq (((abs h t).drop off).take len)) = true) := by simp [hv]
      rw [if_neg hc]
      apply (unsafeSubtendril_spec off len w (by omega)).bind
      rintro ⟨h1', t1, s⟩ ⟨w1, hab, hat, has⟩
      exact SatT.ok ⟨hab, hat, w1, h1, hv, has⟩
    · simp only [Bool.not_eq_true] at hv
      have hc : (!F.validateSubseq (((abs h t).drop off).take len)) = true := by simp [hv]
      rw [if_pos hc]
      exact SatT.ok ⟨fun _ _ => rfl, rfl, w, by simp only [h1, ↓reduceIte], fun _ => hv⟩


/-- `push_tendril`: the result is the fixed-up concatenation, or — on the zero-copy path, which never
consults the fix-up — the plain concatenation, which then lies inside the data of one buffer -/
theorem pushTendril_spec_fx {F : Format} (hF : FixupOK F) {h : Heap} {t o : T} {rest : List T}
    (w : WF h (t :: rest)) (ho : o ∈ rest) :
    Sat (pushTendril F h t o) (fun r => WF r.1 (r.2 :: rest) ∧
      (∀ u ∈ rest, abs r.1 u = abs h u) ∧
      (abs r.1 r.2 = pushSpec F (abs h t) (abs h o) ∨
        (abs r.1 r.2 = abs h t ++ abs h o ∧ r.1 = h ∧
          ∃ (id : Nat) (b : Buf) (x y : List UInt8), h.bufs[id]? = some b ∧
            b.data = x ++ (abs h t ++ abs h o) ++ y))) := by
  have wo : TWF h o := w.twf o (List.mem_cons_of_mem _ ho)
  have slow : Sat (asByteSlice h o >>= fun bs => pushBytesUnchecked F h t bs) (fun r =>
      WF r.1 (r.2 :: rest) ∧ (∀ u ∈ rest, abs r.1 u = abs h u) ∧
      (abs r.1 r.2 = pushSpec F (abs h t) (abs h o) ∨
        (abs r.1 r.2 = abs h t ++ abs h o ∧ r.1 = h ∧
          ∃ (id : Nat) (b : Buf) (x y : List UInt8), h.bufs[id]? = some b ∧
            b.data = x ++ (abs h t ++ abs h o) ++ y))) := by
    rw [asByteSlice_eq wo w.bufs]
    exact (pushBytesUnchecked_spec hF _ w).mono (fun r ⟨a, b, c⟩ => ⟨a, b, Or.inl c⟩)
  unfold pushTendril
  apply Sat.ite_panic; intro _
  split
  · rename_i id off len id2 off2 len2 hnp
    split
    · rename_i hfast
      obtain ⟨rfl, rfl⟩ := hfast
      obtain ⟨b, hb, hl, hc, hlen, hok, hrc, hno⟩ := w.shared_head
      obtain ⟨b2, hb2, _, _, hlen2⟩ := wo
      rw [hb] at hb2; cases hb2
      have hcat : abs h (.shared id off (len + len2))
          = abs h (.shared id off len) ++ abs h (.shared id (off + len) len2) := by
        simp only [abs, hb]
        rw [List.take_add, List.drop_drop]
      refine Sat.ok ⟨w.replace_head rfl ⟨b, hb, hl, hc, by simp only [T.len32]; omega⟩
        (by rintro _ _ _ ⟨⟩), fun _ _ => rfl, Or.inr ⟨hcat, rfl, id, b, b.data.take off,
          b.data.drop (off + (len + len2)), hb, ?_⟩⟩
      rw [← hcat]
      simp only [abs, hb]
      rw [List.append_assoc, ← List.drop_drop, List.take_append_drop, List.take_append_drop]
    · exact slow
  · exact slow

theorem pushTendril_spec {F : Format} (hF : FixupOK F) {h : Heap} {t o : T} {rest : List T}
    (w : WF h (t :: rest)) (ho : o ∈ rest) :
    Sat (pushTendril F h t o) (fun r => WF r.1 (r.2 :: rest) ∧
      (∀ u ∈ rest, abs r.1 u = abs h u) ∧
      (abs r.1 r.2 = pushSpec F (abs h t) (abs h o) ∨ abs r.1 r.2 = abs h t ++ abs h o)) :=
  (pushTendril_spec_fx hF w ho).mono (fun _ ⟨a, b, c⟩ => ⟨a, b, c.imp id (·.1)⟩)

/-- `pop_front_char` on byte lists, through the format's `char_indices` -/
def popFrontCharSpec (F : Format) (a : List UInt8) : Option (Option Nat × List UInt8) :=
  match F.charIndices a with
  | none => none
  | some [] => some (none, [])
  | some [(_, c)] => some (some c, [])
  | some ((_, c) :: (n, _) :: _) => some (some c, if n = 0 then [] else a.drop n)

theorem popFrontChar_spec (F : Format) {h : Heap} {t : T} {rest : List T} {cs : List (Nat × Nat)}
    (w : WF h (t :: rest)) (hcs : F.charIndices (abs h t) = some cs)
    (hb : ∀ p ∈ cs, p.1 ≤ (abs h t).length) :
    SatT (popFrontChar F h t) (fun r => WF r.1 (r.2.1 :: rest) ∧
      (∀ u ∈ rest, abs r.1 u = abs h u) ∧
      some (r.2.2, abs r.1 r.2.1) = popFrontCharSpec F (abs h t)) := by
  have hlen := abs_length (w.twf t (List.mem_cons_self ..))
  unfold popFrontChar popFrontCharSpec
  rw [asByteSlice_head w]
  simp only [bind, Except.bind, hcs]
  match cs, hb with
  | [], _ =>
    simp only []
    apply (clearT_spec w).bind
    rintro ⟨h1, t1⟩ ⟨w1, hab, hat⟩
    exact SatT.ok ⟨w1, hab, by simp only [hat]⟩
  | [(i, c)], _ =>
    simp only []
    apply (clearT_spec w).bind
    rintro ⟨h1, t1⟩ ⟨w1, hab, hat⟩
    exact SatT.ok ⟨w1, hab, by simp only [hat]⟩
  | (i, c) :: (n, c2) :: more, hb =>
    simp only []
    by_cases h0 : n = 0
    · simp only [h0, ↓reduceIte]
      apply (clearT_spec w).bind
      rintro ⟨h1, t1⟩ ⟨w1, hab, hat⟩
      exact SatT.ok ⟨w1, hab, by simp only [hat]⟩
    · simp only [h0, ↓reduceIte]
      have hn := hb (n, c2) (by simp)
      apply (unsafePopFront_spec n w (by simp only at hn; omega)).bind
      rintro ⟨h1, t1⟩ ⟨w1, hab, hat⟩
      exact SatT.ok ⟨w1, hab, by simp only [hat]⟩

/-- `pop_front_char_run` on byte lists: (run, class, remainder) -/
def popFrontCharRunSpec (F : Format) (classOf : Nat → Nat) (a : List UInt8) :
    Option (Option (List UInt8 × Nat) × List UInt8) :=
  match F.charIndices a with
  | none => none
  | some [] => some (none, a)
  | some ((_, first) :: rest) =>
    match rest.find? (fun p => classOf p.2 != classOf first) with
    | some (idx, _) => some (some (a.take idx, classOf first), a.drop idx)
    | none => some (some (a, classOf first), [])

theorem popFrontCharRun_spec (F : Format) (classOf : Nat → Nat) {h : Heap} {t : T} {rest : List T}
    {cs : List (Nat × Nat)} (w : WF h (t :: rest)) (hcs : F.charIndices (abs h t) = some cs)
    (hb : ∀ p ∈ cs, p.1 ≤ (abs h t).length) :
    SatT (popFrontCharRun F classOf h t) (fun r =>
      (∀ u ∈ rest, abs r.1 u = abs h u) ∧
      match r.2.2 with
      | none => WF r.1 (r.2.1 :: rest) ∧
          some (none, abs r.1 r.2.1) = popFrontCharRunSpec F classOf (abs h t)
      | some (s, cls) => WF r.1 (r.2.1 :: s :: rest) ∧
          some (some (abs r.1 s, cls), abs r.1 r.2.1) = popFrontCharRunSpec F classOf (abs h t)) := by
  have hlen := abs_length (w.twf t (List.mem_cons_self ..))
  unfold popFrontCharRun popFrontCharRunSpec
  rw [asByteSlice_head w]
  simp only [bind, Except.bind, hcs]
  match cs, hb with
  | [], _ => exact SatT.ok ⟨fun _ _ => rfl, w, rfl⟩
  | (i, first) :: more, hb =>
    simp only []
    cases hf : more.find? (fun p => classOf p.2 != classOf first) with
    | some p =>
      obtain ⟨idx, c2⟩ := p
      simp only []
      have hmem : (idx, c2) ∈ more := List.mem_of_find?_eq_some hf
      have hn := hb (idx, c2) (List.mem_cons_of_mem _ hmem)
      simp only at hn
      apply (unsafeSubtendril_spec 0 idx w (by omega)).bind
      rintro ⟨h1, t1, s⟩ ⟨w1, hab, hat, has⟩
      simp only at w1 hab hat has
      have hl1 : t1.len32 = t.len32 := by
        rw [← abs_length (w1.twf t1 (List.mem_cons_self ..)), hat, hlen]
      apply (unsafePopFront_spec idx w1 (by omega)).bind
      rintro ⟨h2, t2⟩ ⟨w2, hab2, hat2⟩
      simp only at w2 hab2 hat2
      refine SatT.ok ⟨fun u hu => (hab2 u (List.mem_cons_of_mem _ hu)).trans (hab u hu), w2, ?_⟩
      simp only [hat2, hat, hab2 s (List.mem_cons_self ..), has, List.drop_zero]
    | none =>
      simp only []
      apply (cloneT_spec w).bind
      rintro ⟨h1, t1, s⟩ ⟨w1, hab, hat, has⟩
      simp only at w1 hab hat has
      apply (clearT_spec w1).bind
      rintro ⟨h2, t2⟩ ⟨w2, hab2, hat2⟩
      simp only at w2 hab2 hat2
      refine SatT.ok ⟨fun u hu => (hab2 u (List.mem_cons_of_mem _ hu)).trans (hab u), w2, ?_⟩
      simp only [hat2, hab2 s (List.mem_cons_self ..), has]

theorem reserveT_spec {h : Heap} {t : T} {rest : List T} (n : Nat) (w : WF h (t :: rest)) :
    Sat (reserveT h t n) (fun r => WF r.1 (r.2 :: rest) ∧ (∀ u ∈ rest, abs r.1 u = abs h u) ∧
      abs r.1 r.2 = abs h t) := by
  unfold reserveT
  split
  · exact Sat.ok ⟨w, fun _ _ => rfl, rfl⟩
  · apply Sat.ite_panic; intro _
    split
    · exact (makeOwnedWithCapacity_spec _ w).mono (fun r ⟨a, b, c, _⟩ => ⟨a, b, c⟩)
    · exact Sat.ok ⟨w, fun _ _ => rfl, rfl⟩

theorem withCapacity_spec {h : Heap} {ts : List T} (n : Nat) (w : WF h ts) :
    Sat (withCapacity h n) (fun r => WF r.1 (r.2 :: ts) ∧ (∀ u ∈ ts, abs r.1 u = abs h u) ∧
      abs r.1 r.2 = []) := by
  unfold withCapacity
  have w0 : WF h (.inline [] :: ts) := w.cons_inline (by simp)
  split
  · exact (makeOwnedWithCapacity_spec _ w0).mono (fun r ⟨a, b, c, _⟩ => ⟨a, b, c⟩)
  · exact Sat.ok ⟨w0, fun _ _ => rfl, rfl⟩

theorem derefMut_spec {h : Heap} {t : T} {rest : List T} (w : WF h (t :: rest)) :
    Sat (derefMut h t) (fun r => WF r.1 (r.2 :: rest) ∧ (∀ u ∈ rest, abs r.1 u = abs h u) ∧
      abs r.1 r.2 = abs h t ∧ r.2.len32 = t.len32 ∧ ¬ r.2.isShared) := by
  cases t with
  | inline bs => exact Sat.ok ⟨w, fun _ _ => rfl, rfl, rfl, by simp [T.isShared]⟩
  | owned id len cap =>
    exact (makeOwned_spec w).mono (fun r ⟨a, b, c, i, cp, e⟩ => ⟨a, b, c, by rw [e]; rfl, by rw [e]; simp [T.isShared]⟩)
  | shared id off len =>
    exact (makeOwned_spec w).mono (fun r ⟨a, b, c, i, cp, e⟩ => ⟨a, b, c, by rw [e]; rfl, by rw [e]; simp [T.isShared]⟩)

theorem storeByte_spec {h : Heap} {t : T} {rest : List T} (k : Nat) (v : UInt8)
    (w : WF h (t :: rest)) (hs : ¬ t.isShared) (hk : k < t.len32) :
    SatT (storeByte h t k v) (fun r => WF r.1 (r.2 :: rest) ∧ (∀ u ∈ rest, abs r.1 u = abs h u) ∧
      abs r.1 r.2 = (abs h t).set k v) := by
  cases t with
  | inline bs =>
    simp only [T.len32] at hk
    simp only [storeByte, hk, ↓reduceIte]
    have := w.twf _ (List.mem_cons_self ..)
    simp only [TWF] at this
    exact SatT.ok ⟨w.tail_inline.cons_inline (by simpa using this), fun _ _ => rfl, rfl⟩
  | shared id off len => simp [T.isShared] at hs
  | owned id len cap =>
    simp only [T.len32] at hk
    obtain ⟨b, hb, hl, hc, hlen, hok, hrc, hr0⟩ := w.owned_head
    simp only [storeByte, hk, ↓reduceIte, bind, Except.bind]
    have hok1 := hok.1
    rw [poke_ok _ hb hl (by omega) (by omega)]
    refine SatT.ok ⟨w.poke_owned_head hb (by omega), ?_, ?_⟩
    · intro u hu
      have hne : u.bufId? ≠ some id := by
        intro hid
        have := refs_pos_of_mem hu hid
        omega
      exact abs_set_other hne
    · simp only [abs, getElem?_set_self' hb, hb]
      rw [List.take_set]


/-! ## no panic below 2 GiB

`Sat` admits a panic anywhere; these lemmas show that the panics of the model (the crate's `OFLOW`
guards and length asserts) do not fire while all sizes stay ≤ 2^31. -/

/-- the computation does not panic -/
def NP {α : Type} (x : M α) : Prop := ∀ s, x ≠ .error (.panic s)

theorem NP.ok {α} {a : α} : NP (.ok a : M α) := by intro s h; cases h

theorem NP.ub {α} {u : String} : NP (.error (.ub u) : M α) := by intro s h; cases h

theorem NP.bind {α β} {x : M α} {f : α → M β} (hx : NP x) (hf : ∀ a, x = .ok a → NP (f a)) :
    NP (x >>= f) := by
  cases x with
  | ok a => exact hf a rfl
  | error e =>
    cases e with
    | panic s => exact (hx s rfl).elim
    | ub u => exact NP.ub

theorem NP.of_satT {α} {x : M α} {Q : α → Prop} (h : SatT x Q) : NP x := by
  obtain ⟨a, rfl, _⟩ := h; exact NP.ok

theorem NP.ite_panic {α} {c : Prop} [Decidable c] {s : String} {x : M α} (hc : ¬ c) (h : NP x) :
    NP (if c then .error (.panic s) else x) := by
  rw [if_neg hc]; exact h

theorem NP.ite_ub {α} {c : Prop} [Decidable c] {s : String} {x : M α} (h : NP x) :
    NP (if c then .error (.ub s) else x) := by
  split
  · exact NP.ub
  · exact h

theorem roundCap_le {x : Nat} (h : x ≤ 2147483648) : roundCap x ≤ 4294967295 := by
  unfold roundCap; omega

theorem nextPow2Fuel_le (f p n k : Nat) (hk : k ≤ f) (hn : n ≤ p * 2 ^ k) :
    nextPow2Fuel f p n ≤ p * 2 ^ k := by
  induction f generalizing p k with
  | zero =>
    have : k = 0 := by omega
    subst this; simp [nextPow2Fuel]
  | succ f ih =>
    unfold nextPow2Fuel
    split
    · have : 1 ≤ 2 ^ k := Nat.one_le_two_pow
      calc p = p * 1 := (Nat.mul_one p).symm
        _ ≤ p * 2 ^ k := Nat.mul_le_mul_left p this
    · rename_i hgt
      cases k with
      | zero => simp at hn; omega
      | succ k =>
        have := ih (2 * p) k (by omega) (by rw [Nat.pow_succ] at hn; rw [Nat.mul_comm 2 p, Nat.mul_assoc, Nat.mul_comm 2 (2 ^ k)]; exact hn)
        rw [Nat.pow_succ, ← Nat.mul_assoc, Nat.mul_comm p (2 ^ k), Nat.mul_assoc, Nat.mul_comm (2 ^ k) (p * 2),
          Nat.mul_comm p 2]
        exact this

theorem nextPow2_le {n : Nat} (h : n ≤ 2147483648) : nextPow2 n ≤ 2147483648 := by
  have := nextPow2Fuel_le 33 1 n 31 (by omega) (by simpa using h)
  simpa [nextPow2] using this

theorem np_ownedCopy {h : Heap} (x : List UInt8) (hx : x.length ≤ 2147483648) : NP (ownedCopy h x) := by
  unfold ownedCopy buf32WithCapacity
  simp only []
  have hc : ¬ roundCap (if x.length < 16 then 16 else x.length) > 4294967295 := by
    have : roundCap (if x.length < 16 then 16 else x.length) ≤ 4294967295 := by
      apply roundCap_le; split <;> omega
    omega
  simp only [hc, ↓reduceIte, Heap.alloc, bind, Except.bind]
  generalize hcc : roundCap (if x.length < 16 then 16 else x.length) = c
  have h1 : x.length ≤ c := by
    subst hcc; split
    · have := le_roundCap 16; omega
    · exact le_roundCap _
  have hnb : (h.bufs ++ [(⟨[], c, 0, 1, true⟩ : Buf)])[h.bufs.length]? = some ⟨[], c, 0, 1, true⟩ := by
    simp
  have hwr := write_ok (h := ⟨h.bufs ++ [⟨[], c, 0, 1, true⟩], .alloc h.bufs.length c :: h.trace⟩)
    (id := h.bufs.length) (pos := 0) (bytes := x) (b := ⟨[], c, 0, 1, true⟩) "owned_copy" hnb rfl
    (Nat.zero_le _) (by simpa using h1)
  rw [hwr]
  exact NP.ok

theorem np_makeOwned {h : Heap} {t : T} {rest : List T} (w : WF h (t :: rest))
    (hl : t.len32 ≤ 2147483648) : NP (makeOwned h t) := by
  have hlen := abs_length (w.twf t (List.mem_cons_self ..))
  have key : NP (asByteSlice h t >>= fun bs => ownedCopy h bs >>= fun r =>
      dropT r.1 t >>= fun h' => (.ok (h', r.2) : M (Heap × T))) := by
    rw [asByteSlice_head w]
    apply NP.bind (np_ownedCopy _ (by rw [hlen]; exact hl))
    rintro ⟨h1, t1⟩ he
    obtain ⟨w1, _⟩ := (ownedCopy_spec (abs h t) w).of_ok he
    have w1' : WF h1 (t :: t1 :: rest) := w1.perm (List.Perm.swap ..)
    apply NP.bind (NP.of_satT (dropT_spec w1'))
    intro h2 _
    exact NP.ok
  cases t with
  | owned id len cap => exact NP.ok
  | inline bs => exact key
  | shared id off len => exact key

theorem np_buf32Grow {h : Heap} {id len cap : Nat} {rest : List T} (newCap : Nat)
    (w : WF h (.owned id len cap :: rest)) (hn : newCap ≤ 2147483648) : NP (buf32Grow h id cap newCap) := by
  obtain ⟨b, hb, hl, hc, hlen, hok, hrc, hr0⟩ := w.owned_head
  unfold buf32Grow
  split
  · exact NP.ok
  · simp only []
    have h1 := nextPow2_le hn
    apply NP.ite_panic (by omega)
    apply NP.ite_panic (by have := roundCap_le h1; omega)
    rw [realloc_ok _ hb hl hc.symm]
    exact NP.ok

theorem np_makeOwnedWithCapacity {h : Heap} {t : T} {rest : List T} (cap : Nat) (w : WF h (t :: rest))
    (hl : t.len32 ≤ 2147483648) (hc : cap ≤ 2147483648) : NP (makeOwnedWithCapacity h t cap) := by
  unfold makeOwnedWithCapacity
  apply NP.bind (np_makeOwned w hl)
  rintro ⟨h1, t1⟩ he
  obtain ⟨w1, _, _, id, c, ht1⟩ := (makeOwned_spec w).of_ok he
  simp only at w1 ht1
  subst ht1
  simp only []
  apply NP.bind (np_buf32Grow cap w1 hc)
  rintro ⟨h2, id2, c2⟩ _
  exact NP.ok

theorem np_fromBytesUnchecked {h : Heap} (x : List UInt8) (hx : x.length ≤ 2147483648) :
    NP (fromBytesUnchecked h x) := by
  unfold fromBytesUnchecked
  apply NP.ite_panic (by omega)
  split
  · rename_i h8
    rw [mkInline_ok _ h8]; exact NP.ok
  · exact np_ownedCopy x hx

theorem np_reserveT {h : Heap} {t : T} {rest : List T} (n : Nat) (w : WF h (t :: rest))
    (hs : t.len32 + n ≤ 2147483648) : NP (reserveT h t n) := by
  unfold reserveT
  split
  · exact NP.ok
  · apply NP.ite_panic (by omega)
    split
    · exact np_makeOwnedWithCapacity _ w (by omega) hs
    · exact NP.ok

theorem np_withCapacity {h : Heap} {ts : List T} (n : Nat) (w : WF h ts) (hn : n ≤ 2147483648) :
    NP (withCapacity h n) := by
  unfold withCapacity
  have w0 : WF h (.inline [] :: ts) := w.cons_inline (by simp)
  split
  · exact np_makeOwnedWithCapacity _ w0 (by simp [T.len32]) hn
  · exact NP.ok

theorem np_derefMut {h : Heap} {t : T} {rest : List T} (w : WF h (t :: rest))
    (hl : t.len32 ≤ 2147483648) : NP (derefMut h t) := by
  cases t with
  | inline bs => exact NP.ok
  | owned id len cap => exact np_makeOwned w hl
  | shared id off len => exact np_makeOwned w hl


end H5V.Lemmas.Tendril
