import H5V.Model.HtmlSer
import H5V.Spec.HtmlEscape
/-!
C07: `write_escaped`.

* `escBytes` — the structural (index-free) byte function the loop computes;
* `writeEscaped_eq` — the loop with its `search_start` / `next_special` arithmetic equals it and
  reaches none of its panic branches;
* `escBytes_utf8` — on UTF-8 input it equals UTF-8 of the character-level `escape`, provided the
  0xC2 defect is fixed or the string avoids U+0080–U+00BF other than U+00A0.
-/
namespace H5V.Lemmas.HtmlSerEscape
open H5V.Model.HtmlSer H5V.Spec.HtmlEscape

/-- what `write_escaped` appends, by recursion on the bytes -/
def escBytes (cfg : Cfg) (attr : Bool) : Bytes → Bytes
  | [] => []
  | b :: rest =>
    if b == 0x26 then bAmp ++ escBytes cfg attr rest
    else if b == 0x22 && attr then bQuot ++ escBytes cfg attr rest
    else if b == 0x3C then bLt ++ escBytes cfg attr rest
    else if b == 0x3E then bGt ++ escBytes cfg attr rest
    else if b == 0xC2 then
      if rest.head? == some 0xA0 then bNbsp ++ escBytes cfg attr rest.tail
      else (if cfg.fixC2 then [b] else []) ++ escBytes cfg attr rest
    else b :: escBytes cfg attr rest
termination_by l => l.length
decreasing_by all_goals (simp; try omega)


/-- bytes at which the search of `find_next_escaped_character` stops -/
def special (attr : Bool) (b : UInt8) : Bool :=
  (b == (if attr then 0x22 else 0x3C) || b == 0x3C || b == 0x3E) || (b == 0x26 || b == 0xC2)

theorem findTwo {α} (p3 p2 : α → Bool) (l : List α) :
    ((l.take ((l.findIdx? p3).getD l.length)).findIdx? p2).getD ((l.findIdx? p3).getD l.length)
      = l.findIdx (fun x => p3 x || p2 x) := by
  induction l with
  | nil => simp
  | cons b t ih =>
    rw [List.findIdx_cons, List.findIdx?_cons]
    cases h3 : p3 b with
    | true => simp
    | false =>
      cases h2 : p2 b with
      | true =>
        cases List.findIdx? p3 t <;> simp [List.findIdx?_cons, h2]
      | false =>
        simp only [Bool.or_self, cond_false]
        rw [← ih]
        cases hm : List.findIdx? p3 t with
        | none =>
          simp [List.findIdx?_cons, h2]
        | some k =>
          simp [List.findIdx?_cons, h2]
          cases List.findIdx? p2 t with
          | none => simp
          | some j => simp [Option.guard]; split <;> simp

/-- `memchr3` then `memchr2` on the prefix = first position of any of the five bytes -/
theorem findNextEscaped_eq (attr : Bool) (l : Bytes) :
    findNextEscaped (if attr then 0x22 else 0x3C) l = l.findIdx (special attr) := by
  unfold findNextEscaped memchr3 memchr2
  exact findTwo _ _ l

theorem escBytes_nil (cfg : Cfg) (attr : Bool) : escBytes cfg attr [] = [] := by
  rw [escBytes]

theorem escBytes_plain (cfg : Cfg) (attr : Bool) (b : UInt8) (rest : Bytes)
    (h : special attr b = false) : escBytes cfg attr (b :: rest) = b :: escBytes cfg attr rest := by
  rw [escBytes]
  simp only [special, Bool.or_eq_false_iff] at h
  obtain ⟨⟨⟨h1, h2⟩, h3⟩, h4, h5⟩ := h
  have hq : (b == 0x22 && attr) = false := by
    cases attr <;> simp_all
  simp [h2, h3, h4, h5, hq]

theorem escBytes_plain_append (cfg : Cfg) (attr : Bool) (pre rest : Bytes)
    (h : ∀ b ∈ pre, special attr b = false) :
    escBytes cfg attr (pre ++ rest) = pre ++ escBytes cfg attr rest := by
  induction pre with
  | nil => rfl
  | cons b t ih =>
    rw [List.cons_append, escBytes_plain cfg attr b _ (h b (by simp)), ih (fun x hx => h x (by simp [hx]))]
    rfl

theorem take_findIdx_plain (attr : Bool) (l : Bytes) :
    ∀ b ∈ l.take (l.findIdx (special attr)), special attr b = false := by
  intro b hb
  rw [List.mem_iff_getElem] at hb
  obtain ⟨i, hi, rfl⟩ := hb
  have hi' : i < l.findIdx (special attr) := by
    simp [List.length_take] at hi; omega
  have := List.not_of_lt_findIdx hi'
  simpa using this

/-- the loop, started at `searchStart`, appends `escBytes` of the remaining bytes; no panic branch
is reachable; `bytes.length - searchStart + 1` iterations of fuel are enough -/
theorem loop_eq (cfg : Cfg) (attr : Bool) (bytes : Bytes) :
    ∀ fuel ss out, ss ≤ bytes.length → bytes.length - ss < fuel →
      writeEscapedLoop cfg attr bytes fuel ss out
        = .ok (out ++ escBytes cfg attr (bytes.drop ss)) := by
  intro fuel
  induction fuel with
  | zero => intro ss out _ h; omega
  | succ fuel ih =>
    intro ss out hle hfuel
    unfold writeEscapedLoop
    by_cases hlt : ss < bytes.length
    · simp only [hlt, if_true]
      have hnl : ¬ bytes.length < ss := by omega
      simp only [hnl, if_false]
      rw [findNextEscaped_eq]
      generalize hrest : bytes.drop ss = rest
      have hrl : rest.length = bytes.length - ss := by rw [← hrest]; simp
      generalize hk : rest.findIdx (special attr) = k
      have hkle : k ≤ rest.length := by rw [← hk]; exact List.findIdx_le_length
      have hnp : ¬ (k + ss < ss ∨ bytes.length < k + ss) := by omega
      simp only [hnp, if_false]
      have htake : (bytes.take (k + ss)).drop ss = rest.take k := by
        rw [List.drop_take, hrest]; congr 1; omega
      rw [htake]
      have hplain : ∀ b ∈ rest.take k, special attr b = false := by
        rw [← hk]; exact take_findIdx_plain attr rest
      have hsplit : escBytes cfg attr rest = rest.take k ++ escBytes cfg attr (rest.drop k) := by
        conv => lhs; rw [← List.take_append_drop k rest]
        exact escBytes_plain_append cfg attr _ _ hplain
      by_cases hend : k + ss = bytes.length
      · have : rest.drop k = [] := by
          apply List.drop_eq_nil_of_le; omega
        simp [hend, hsplit, this, escBytes_nil]
      · have hne : ¬ ((k + ss == bytes.length) = true) := by simpa using hend
        simp only [hne]
        have hklt : k < rest.length := by omega
        have hget : bytes[k + ss]? = some rest[k] := by
          rw [← List.getElem?_eq_getElem hklt, ← hrest, List.getElem?_drop]; congr 1; omega
        have hspec : special attr rest[k] = true := by
          have := List.findIdx_getElem (xs := rest) (p := special attr) (w := by rw [hk]; exact hklt)
          simpa [hk] using this
        have hdrop : rest.drop k = rest[k] :: bytes.drop (k + ss + 1) := by
          rw [List.drop_eq_getElem_cons hklt]; congr 1
          rw [← hrest, List.drop_drop]; congr 1; omega
        have hget1 : bytes[k + ss + 1]? = (bytes.drop (k + ss + 1)).head? := by
          rw [List.head?_drop]
        rw [hget, hsplit, hdrop]
        generalize rest[k] = b at hspec
        generalize htl : bytes.drop (k + ss + 1) = tl at *
        have hfuel' : bytes.length - (k + ss + 1) < fuel := by omega
        have hle' : k + ss + 1 ≤ bytes.length := by omega
        simp only []
        rw [escBytes]
        by_cases h1 : (b == 0x26) = true
        · simp only [h1, if_true]; rw [ih _ _ hle' hfuel', htl]; simp
        simp only [h1, Bool.false_eq_true, if_false]
        by_cases h2 : (b == 0x22) = true
        · have ha : attr = true := by
            cases attr
            · simp [special] at hspec; simp_all
            · rfl
          subst ha
          simp only [h2, if_true, Bool.and_self]
          rw [ih _ _ hle' hfuel', htl]; simp
        have h2' : (b == 0x22 && attr) = false := by simp_all
        simp only [h2, Bool.false_eq_true, if_false]
        by_cases h3 : (b == 0x3C) = true
        · simp only [h3, if_true]; rw [ih _ _ hle' hfuel', htl]; simp
        simp only [h3, Bool.false_eq_true, if_false]
        by_cases h4 : (b == 0x3E) = true
        · simp only [h4, if_true]; rw [ih _ _ hle' hfuel', htl]; simp
        simp only [h4, Bool.false_eq_true, if_false]
        have h5 : (b == 0xC2) = true := by
          cases attr <;> simp_all [special]
        simp only [h5, if_true, Bool.true_and]
        rw [hget1]
        by_cases h6 : (tl.head? == some 0xA0) = true
        · simp only [h6, if_true]
          have hle'' : k + ss + 1 + 1 ≤ bytes.length := by
            have : tl ≠ [] := by intro h0; simp [h0] at h6
            have : 0 < tl.length := List.length_pos_iff.mpr this
            rw [← htl] at this; simp at this; omega
          rw [ih _ _ hle'' (by omega)]
          have : bytes.drop (k + ss + 1 + 1) = tl.tail := by
            rw [← htl, List.tail_drop]
          rw [this]; simp
        · simp only [h6]
          rw [ih _ _ hle' hfuel', htl]
          cases cfg.fixC2 <;> simp
    · have : ss = bytes.length := by omega
      simp [this, escBytes_nil]

/-- `write_escaped` never panics and appends exactly `escBytes` -/
theorem writeEscaped_eq (cfg : Cfg) (attr : Bool) (bytes out : Bytes) :
    writeEscaped cfg attr bytes out = .ok (out ++ escBytes cfg attr bytes) := by
  unfold writeEscaped
  rw [loop_eq cfg attr bytes _ 0 out (by omega) (by omega)]
  simp

/-! ### bytes of UTF-8 text -/

theorem ofNat_beq (n m : Nat) (hn : n < 256) (hm : m < 256) :
    ((UInt8.ofNat n) == (UInt8.ofNat m)) = decide (n = m) := by
  rw [Bool.eq_iff_iff]
  simp only [beq_iff_eq, decide_eq_true_eq]
  rw [← UInt8.toNat_inj, UInt8.toNat_ofNat', UInt8.toNat_ofNat']
  simp [Nat.mod_eq_of_lt hn, Nat.mod_eq_of_lt hm]

theorem special_ofNat (attr : Bool) (n : Nat) (hn : n < 256) :
    special attr (UInt8.ofNat n) =
      (decide (n = (if attr then 34 else 60)) || decide (n = 60) || decide (n = 62) || (decide (n = 38) || decide (n = 194))) := by
  unfold special
  have h34 : (UInt8.ofNat n == 0x22) = decide (n = 34) := ofNat_beq n 34 hn (by omega)
  have h60 : (UInt8.ofNat n == 0x3C) = decide (n = 60) := ofNat_beq n 60 hn (by omega)
  have h62 : (UInt8.ofNat n == 0x3E) = decide (n = 62) := ofNat_beq n 62 hn (by omega)
  have h38 : (UInt8.ofNat n == 0x26) = decide (n = 38) := ofNat_beq n 38 hn (by omega)
  have h194 : (UInt8.ofNat n == 0xC2) = decide (n = 194) := ofNat_beq n 194 hn (by omega)
  cases attr
  · simp only [Bool.false_eq_true, if_false]; rw [h60, h62, h38, h194]
  · simp only [if_true]; rw [h34, h60, h62, h38, h194]


theorem plain_ofNat (cfg attr) (n : Nat) (rest : Bytes) (hn : n < 256)
    (h : n ≠ 34 ∧ n ≠ 60 ∧ n ≠ 62 ∧ n ≠ 38 ∧ n ≠ 194) :
    escBytes cfg attr (UInt8.ofNat n :: rest) = UInt8.ofNat n :: escBytes cfg attr rest := by
  apply escBytes_plain
  rw [special_ofNat attr n hn]
  cases attr <;> simp <;> omega

theorem char_eq_iff (c : Char) (d : Char) : c = d ↔ c.toNat = d.toNat := Char.toNat_inj.symm

/-- characters whose escaping the code as it is gets wrong: U+0080 – U+00BF except U+00A0 -/
def c2Victim (c : Char) : Bool := decide (0x80 ≤ c.toNat ∧ c.toNat ≤ 0xBF ∧ c.toNat ≠ 0xA0)

theorem escBytes_char (cfg : Cfg) (attr : Bool) (c : Char) (rest : Bytes)
    (hok : cfg.fixC2 = true ∨ c2Victim c = false) :
    escBytes cfg attr (String.utf8EncodeChar c ++ rest)
      = utf8 (escChar attr c) ++ escBytes cfg attr rest := by
  have hv : c.val.toNat = c.toNat := rfl
  have hvalid : c.toNat < 0x110000 := by
    have := c.valid; rw [← hv]; cases this <;> simp_all <;> omega
  by_cases h38 : c.toNat = 38
  · have : c = '&' := (char_eq_iff c '&').mpr h38
    subst this
    rw [show String.utf8EncodeChar '&' = [UInt8.ofNat 38] from by decide,
        show escChar attr '&' = eAmp from by simp [escChar],
        show utf8 eAmp = bAmp from by decide, List.singleton_append, escBytes]
    simp
  by_cases h60 : c.toNat = 60
  · have : c = '<' := (char_eq_iff c '<').mpr h60
    subst this
    rw [show String.utf8EncodeChar '<' = [UInt8.ofNat 60] from by decide,
        show escChar attr '<' = eLt from by simp [escChar],
        show utf8 eLt = bLt from by decide, List.singleton_append, escBytes]
    simp
  by_cases h62 : c.toNat = 62
  · have : c = '>' := (char_eq_iff c '>').mpr h62
    subst this
    rw [show String.utf8EncodeChar '>' = [UInt8.ofNat 62] from by decide,
        show escChar attr '>' = eGt from by simp [escChar],
        show utf8 eGt = bGt from by decide, List.singleton_append, escBytes]
    simp
  by_cases h160 : c.toNat = 160
  · have : c = ' ' := (char_eq_iff c ' ').mpr h160
    subst this
    rw [show String.utf8EncodeChar ' ' = [UInt8.ofNat 194, UInt8.ofNat 160] from by decide,
        show escChar attr ' ' = eNbsp from by simp [escChar],
        show utf8 eNbsp = bNbsp from by decide, List.cons_append, List.cons_append, List.nil_append, escBytes]
    simp
  by_cases h34 : c.toNat = 34 ∧ attr = true
  · have : c = '"' := (char_eq_iff c '"').mpr h34.1
    subst this
    obtain ⟨_, rfl⟩ := h34
    rw [show String.utf8EncodeChar '"' = [UInt8.ofNat 34] from by decide,
        show escChar true '"' = eQuot from by simp [escChar],
        show utf8 eQuot = bQuot from by decide, List.singleton_append, escBytes]
    simp
  -- no escaping: the character is copied
  have hesc : escChar attr c = [c] := by
    unfold escChar
    rw [if_neg (by rw [char_eq_iff]; exact h38), if_neg (by rw [char_eq_iff]; exact h160),
        if_neg (by rw [char_eq_iff]; exact h60), if_neg (by rw [char_eq_iff]; exact h62),
        if_neg (by rw [char_eq_iff]; exact h34)]
  rw [hesc, show utf8 [c] = String.utf8EncodeChar c from by simp [utf8]]
  unfold String.utf8EncodeChar
  simp only [hv]
  have hvic : cfg.fixC2 = true ∨ ¬ (0x80 ≤ c.toNat ∧ c.toNat ≤ 0xBF ∧ c.toNat ≠ 0xA0) := by
    rcases hok with h | h
    · exact Or.inl h
    · right; simpa [c2Victim] using h
  generalize c.toNat = v at *
  by_cases c1 : v ≤ 127
  · simp only [c1, if_true, List.singleton_append]
    by_cases hq : v = 34
    · subst hq
      have ha : attr = false := by cases attr <;> simp_all
      subst ha
      apply escBytes_plain
      rw [special_ofNat false 34 (by omega)]; simp
    · exact plain_ofNat cfg attr v rest (by omega) (by omega)
  simp only [c1, if_false]
  by_cases c2 : v ≤ 2047
  · simp only [c2, if_true, List.cons_append, List.nil_append]
    by_cases hc2 : v / 64 % 32 + 192 = 194
    · -- lead byte 0xC2, not NBSP
      have hfix : cfg.fixC2 = true := by
        rcases hvic with h | h
        · exact h
        · exfalso; apply h; omega
      have hb2plain := plain_ofNat cfg attr (v % 64 + 128) rest (by omega) (by omega)
      have hb2ne : (UInt8.ofNat (v % 64 + 128) == (0xA0 : UInt8)) = false := by
        rw [show (UInt8.ofNat (v % 64 + 128) == (0xA0 : UInt8)) = decide (v % 64 + 128 = 160) from
          ofNat_beq _ 160 (by omega) (by omega)]
        simp; omega
      rw [hc2]
      generalize UInt8.ofNat (v % 64 + 128) = b2 at *
      rw [escBytes]
      simp [hb2ne, hfix, hb2plain]
    · rw [plain_ofNat cfg attr _ _ (by omega) (by omega), plain_ofNat cfg attr _ _ (by omega) (by omega)]
  simp only [c2, if_false]
  by_cases c3 : v ≤ 65535
  · simp only [c3, if_true, List.cons_append, List.nil_append]
    rw [plain_ofNat cfg attr _ _ (by omega) (by omega), plain_ofNat cfg attr _ _ (by omega) (by omega),
        plain_ofNat cfg attr _ _ (by omega) (by omega)]
  · simp only [c3, if_false, List.cons_append, List.nil_append]
    rw [plain_ofNat cfg attr _ _ (by omega) (by omega), plain_ofNat cfg attr _ _ (by omega) (by omega),
        plain_ofNat cfg attr _ _ (by omega) (by omega), plain_ofNat cfg attr _ _ (by omega) (by omega)]

theorem utf8_append (a b : List Char) : utf8 (a ++ b) = utf8 a ++ utf8 b := by
  simp [utf8]

theorem utf8_cons (c : Char) (s : List Char) : utf8 (c :: s) = String.utf8EncodeChar c ++ utf8 s := by
  simp [utf8]

/-- on UTF-8 input the byte function is UTF-8 of the character-level escape — for every string
once the 0xC2 defect is fixed, and for strings without U+0080–U+00BF (other than U+00A0) before -/
theorem escBytes_utf8 (cfg : Cfg) (attr : Bool) (s : List Char)
    (h : cfg.fixC2 = true ∨ ∀ c ∈ s, c2Victim c = false) :
    escBytes cfg attr (utf8 s) = utf8 (escape attr s) := by
  induction s with
  | nil => simp [utf8, escape, escBytes_nil]
  | cons c s ih =>
    rw [utf8_cons, escBytes_char cfg attr c _ (by
      rcases h with h | h
      · exact Or.inl h
      · exact Or.inr (h c (by simp)))]
    rw [ih (by
      rcases h with h | h
      · exact Or.inl h
      · exact Or.inr (fun x hx => h x (by simp [hx])))]
    simp [escape, utf8_append]

end H5V.Lemmas.HtmlSerEscape
