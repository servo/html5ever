import H5V.Lemmas.HtmlTBFuelRun
/-!
# The fuel of `process_to_completion`: two small logics over successful runs

* `RO m P` — every successful run of `m` returns a value satisfying `P` (the state is ignored): for the
  arms of the rules that do not answer `Reprocess`/`SplitWhitespace` (`Quiet`);
* `SH m` — every successful run of `m` only shrinks the stack of open elements, keeps the template modes
  and extends the arena (`Shr`): for the helpers used before a `Reprocess`; `SQ m` — only sink calls (`QF`),
  which is stronger (`SQ.sh`);
both with a walker (`ro_walk`, `sh_walk`) and leaves (extensible by `macro_rules`).
-/
namespace H5V.Lemmas.TBFuel
open H5V.Model.HtmlTB
open H5V.Model.HtmlTok (TagKind)
open H5V.Model.Dom (Id QualName Attr NodeOrText SinkOp Output ElementFlags QuirksMode Dom NodeData Node)
open H5V.Lemmas.TBSafe
open H5V.Lemmas.TBC (ok_bind ok_pure ok_getS_bind ok_modS_bind ok_ite ok_bind_pure)

/-! ### results only -/

/-- `m` returns only values satisfying `P` -/
def RO {α : Type} (m : M α) (P : α → Prop) : Prop := ∀ s a s', m s = .ok (a, s') → P a

theorem ro_pure {α : Type} (a : α) {P : α → Prop} (h : P a) : RO (pure a : M α) P := by
  intro s b s' hr; rw [← (ok_pure hr).1]; exact h

theorem ro_bind {α β : Type} {m : M α} {f : α → M β} {P : β → Prop} (h : ∀ a, RO (f a) P) : RO (m >>= f) P := by
  intro s b s'' hr
  obtain ⟨a, s', _, h2⟩ := ok_bind hr
  exact h a s' b s'' h2

theorem ro_ite {α : Type} {c : Prop} [Decidable c] {a b : M α} {P : α → Prop} (h1 : c → RO a P) (h2 : ¬c → RO b P) :
    RO (if c then a else b) P :=
  ite_rule (P := (RO · P)) h1 h2

theorem ro_throw {α : Type} {e : String} {P : α → Prop} : RO (throw e : M α) P := by
  intro s a s' hr; cases hr

theorem ro_panicAt {α : Type} {cls site text : String} {P : α → Prop} : RO (panicAt cls site text : M α) P := by
  intro s a s' hr; cases hr

theorem ro_fuelOut {α : Type} {what : String} {P : α → Prop} : RO (fuelOut what : M α) P := by
  intro s a s' hr; cases hr

theorem ro_weaken {α : Type} {m : M α} {P P' : α → Prop} (h : RO m P) (hp : ∀ a, P a → P' a) : RO m P' :=
  fun s a s' hr => hp a (h s a s' hr)

/-- answers that end the iteration of `process_to_completion` or continue with the next token -/
def Quiet : ProcessResult → Prop
  | .reprocess _ _ => False
  | .reprocessForeign _ => False
  | .splitWhitespace _ => False
  | _ => True

theorem dec_of_quiet {s s' : State} {m : Mode} {tok : Token} {r : ProcessResult} (h : Quiet r) : Dec s m tok r s' := by
  cases r <;> first | trivial | exact h.elim

/-! the helpers that answer a `ProcessResult` -/

theorem ro_unexpected {P : ProcessResult → Prop} (h : P .done) : RO unexpected P :=
  fun _ _ _ hr => by rw [H5V.Lemmas.TBC.res_unexpected hr]; exact h
theorem ro_appendText {t : Str} {P : ProcessResult → Prop} (h : P .done) : RO (appendText t) P :=
  fun _ _ _ hr => by rw [H5V.Lemmas.TBC.res_appendText hr]; exact h
theorem ro_appendComment {t : Str} {P : ProcessResult → Prop} (h : P .done) : RO (appendComment t) P :=
  fun _ _ _ hr => by rw [H5V.Lemmas.TBC.res_appendComment hr]; exact h
theorem ro_appendCommentToDoc {t : Str} {P : ProcessResult → Prop} (h : P .done) : RO (appendCommentToDoc t) P :=
  fun _ _ _ hr => by rw [H5V.Lemmas.TBC.res_appendCommentToDoc hr]; exact h
theorem ro_appendCommentToHtml {t : Str} {P : ProcessResult → Prop} (h : P .done) : RO (appendCommentToHtml t) P :=
  fun _ _ _ hr => by rw [H5V.Lemmas.TBC.res_appendCommentToHtml hr]; exact h
theorem ro_parseRawData {tag : Tag} {k : H5V.Model.HtmlTok.RawKind} {P : ProcessResult → Prop}
    (h : P (.toRawData k)) : RO (parseRawData tag k) P :=
  fun _ _ _ hr => by rw [H5V.Lemmas.TBC.res_parseRawData hr]; exact h
theorem ro_toRawTextMode {k : H5V.Model.HtmlTok.RawKind} {P : ProcessResult → Prop}
    (h : P (.toRawData k)) : RO (toRawTextMode k) P :=
  fun _ _ _ hr => by rw [H5V.Lemmas.TBC.res_toRawTextMode hr]; exact h
theorem ro_inBodyVoid {tag : Tag} {P : ProcessResult → Prop} (h : P .doneAckSelfClosing) : RO (inBodyVoid tag) P :=
  fun _ _ _ hr => by rw [H5V.Lemmas.TBC.res_inBodyVoid hr]; exact h
theorem ro_foreignStartTag {tag : Tag} {P : ProcessResult → Prop} (h1 : P .done) (h2 : P .doneAckSelfClosing) :
    RO (foreignStartTag tag) P :=
  fun _ _ _ hr => by rcases res_foreignStartTag' hr with e | e <;> (rw [e]; assumption)

theorem res_enterForeign' {tag : Tag} {ns : Str} {s s' : State} {r : ProcessResult}
    (h : enterForeign tag ns s = .ok (r, s')) : r = .done ∨ r = .doneAckSelfClosing := by
  unfold enterForeign at h
  refine ok_ite (P := fun r => r = .done ∨ r = .doneAckSelfClosing) h ?_ ?_
  · intro s1 s2 r1 h1; exact Or.inr (ok_bind_pure h1)
  · intro s1 s2 r1 h1; exact Or.inl (ok_bind_pure h1)

theorem ro_enterForeign {tag : Tag} {ns : Str} {P : ProcessResult → Prop} (h1 : P .done) (h2 : P .doneAckSelfClosing) :
    RO (enterForeign tag ns) P :=
  fun _ _ _ hr => by rcases res_enterForeign' hr with e | e <;> (rw [e]; assumption)

theorem ro_inBodyHtml {tag : Tag} {P : ProcessResult → Prop} (h : P .done) : RO (inBodyHtml tag) P := by
  unfold inBodyHtml
  refine ro_bind (fun _ => ro_bind (fun _ => ?_))
  dsimp only
  exact ro_ite (fun _ => ro_bind (fun _ => ro_bind (fun _ => ro_pure _ h))) (fun _ => ro_pure _ h)

/-- leaves of the `RO` walk (extensible) -/
syntax "ro_leaf" : tactic
macro_rules
  | `(tactic| ro_leaf) => `(tactic|
    first
      | (with_reducible refine ro_pure _ ?_) <;> trivial
      | with_reducible exact ro_panicAt
      | with_reducible exact ro_fuelOut
      | with_reducible exact ro_throw
      | (with_reducible refine ro_unexpected ?_) <;> trivial
      | (with_reducible refine ro_appendText ?_) <;> trivial
      | (with_reducible refine ro_appendComment ?_) <;> trivial
      | (with_reducible refine ro_appendCommentToDoc ?_) <;> trivial
      | (with_reducible refine ro_appendCommentToHtml ?_) <;> trivial
      | (with_reducible refine ro_parseRawData ?_) <;> trivial
      | (with_reducible refine ro_toRawTextMode ?_) <;> trivial
      | (with_reducible refine ro_inBodyVoid ?_) <;> trivial
      | (with_reducible refine ro_foreignStartTag ?_ ?_) <;> trivial
      | (with_reducible refine ro_enterForeign ?_ ?_) <;> trivial
      | (with_reducible refine ro_inBodyHtml ?_) <;> trivial)

syntax "ro_step" : tactic
macro_rules
  | `(tactic| ro_step) => `(tactic|
    first
      | ro_leaf
      | with_reducible refine ro_ite (fun _ => ?_) (fun _ => ?_)
      | with_reducible refine ro_bind (fun _ => ?_)
      | dsimp only)

/-- closes `RO m Quiet` for arms built from the registered leaves -/
syntax "ro_walk" : tactic
macro_rules
  | `(tactic| ro_walk) => `(tactic| repeat' ro_step)

/-! ### shrinking the stack -/

/-- the arena is extended, the stack of open elements shrinks, the template modes stay -/
structure Shr (s s' : State) : Prop where
  ext : Ext s.dom s'.dom
  stack : s'.openElems.Sublist s.openElems
  tm : s'.templateModes = s.templateModes
  orig : s'.origMode = s.origMode

theorem Shr.refl (s : State) : Shr s s := ⟨Ext.refl _, List.Sublist.refl _, rfl, rfl⟩

theorem Shr.trans {a b c : State} (h1 : Shr a b) (h2 : Shr b c) : Shr a c :=
  ⟨h1.ext.trans h2.ext, h2.stack.trans h1.stack, h2.tm.trans h1.tm, h2.orig.trans h1.orig⟩

theorem Shr.wle {s s' : State} (hel : AllEl s.dom s.openElems) (h : Shr s s') : WLe s s' := by
  refine ⟨?_, by rw [h.tm]; exact Nat.le_refl _⟩
  rw [tabCount_ext h.ext (fun x hx => hel x (h.stack.subset hx))]
  exact tabCount_sublist h.stack

theorem QF.shr {s s' : State} (h : QF s s') : Shr s s' :=
  ⟨h.ext, by rw [h.openElems]; exact List.Sublist.refl _, h.templateModes, h.origMode⟩

/-- only sink calls -/
def SQ {α : Type} (m : M α) : Prop := ∀ s a s', m s = .ok (a, s') → QF s s'

theorem sq_pure {α : Type} (a : α) : SQ (pure a : M α) := by
  intro s b s' hr; rw [← (ok_pure hr).2]; exact QF.refl _

theorem sq_bind {α β : Type} {m : M α} {f : α → M β} (h1 : SQ m) (h2 : ∀ a, SQ (f a)) : SQ (m >>= f) := by
  intro s b s'' hr
  obtain ⟨a, s', hm, hf⟩ := ok_bind hr
  exact (h1 s a s' hm).trans (h2 a s' b s'' hf)

theorem sq_ite {α : Type} {c : Prop} [Decidable c] {a b : M α} (h1 : c → SQ a) (h2 : ¬c → SQ b) :
    SQ (if c then a else b) :=
  ite_rule (P := SQ) h1 h2

theorem sq_throw {α : Type} {e : String} : SQ (throw e : M α) := by intro s a s' hr; cases hr
theorem sq_panicAt {α : Type} {cls site text : String} : SQ (panicAt cls site text : M α) := by
  intro s a s' hr; cases hr

theorem sq_getS_bind {β : Type} {f : State → M β} (h : ∀ s0, SQ (f s0)) : SQ (getS >>= f) := by
  intro s b s' hr
  exact h s s b s' (ok_getS_bind hr)

theorem sq_sink (op : SinkOp) : SQ (sink op) := by
  intro s a s' hr
  unfold sink at hr
  cases ha : s.dom.apply op with
  | error e => rw [ha] at hr; cases hr
  | ok p =>
    obtain ⟨d, o⟩ := p
    rw [ha] at hr
    cases hr
    exact ⟨d, _, rfl, apply_ext ha⟩

theorem sq_sinkUnit (op : SinkOp) : SQ (sinkUnit op) := sq_bind (sq_sink op) (fun _ => sq_pure _)

theorem sq_sinkNode (op : SinkOp) : SQ (sinkNode op) := by
  unfold sinkNode
  refine sq_bind (sq_sink op) (fun o => ?_)
  cases o <;> first | exact sq_pure _ | exact sq_throw

theorem sq_elemName (h : Id) : SQ (elemName h) := by
  unfold elemName
  refine sq_bind (sq_sink _) (fun o => ?_)
  cases o <;> first | exact sq_pure _ | exact sq_throw

/-- every successful run of `m` shrinks -/
def SH {α : Type} (m : M α) : Prop := ∀ s a s', m s = .ok (a, s') → Shr s s'
/-- … from the state `s` -/
def SHat {α : Type} (s : State) (m : M α) : Prop := ∀ a s', m s = .ok (a, s') → Shr s s'

theorem SQ.sh {α : Type} {m : M α} (h : SQ m) : SH m := fun s a s' hr => QF.shr (h s a s' hr)

theorem sh_pure {α : Type} (a : α) : SH (pure a : M α) := by
  intro s b s' hr; rw [← (ok_pure hr).2]; exact Shr.refl _

theorem sh_bind {α β : Type} {m : M α} {f : α → M β} (h1 : SH m) (h2 : ∀ a, SH (f a)) : SH (m >>= f) := by
  intro s b s'' hr
  obtain ⟨a, s', hm, hf⟩ := ok_bind hr
  exact (h1 s a s' hm).trans (h2 a s' b s'' hf)

theorem sh_ite {α : Type} {c : Prop} [Decidable c] {a b : M α} (h1 : c → SH a) (h2 : ¬c → SH b) :
    SH (if c then a else b) :=
  ite_rule (P := SH) h1 h2

theorem sh_throw {α : Type} {e : String} : SH (throw e : M α) := by intro s a s' hr; cases hr
theorem sh_panicAt {α : Type} {cls site text : String} : SH (panicAt cls site text : M α) := by
  intro s a s' hr; cases hr
theorem sh_fuelOut {α : Type} {what : String} : SH (fuelOut what : M α) := by intro s a s' hr; cases hr

theorem sh_getS_bind {β : Type} {f : State → M β} (h : ∀ s0, SH (f s0)) : SH (getS >>= f) := by
  intro s b s' hr
  exact h s s b s' (ok_getS_bind hr)

theorem sh_getS_bind_at {β : Type} {f : State → M β} (h : ∀ s0, SHat s0 (f s0)) : SH (getS >>= f) := by
  intro s b s' hr
  exact h s b s' (ok_getS_bind hr)

theorem sh_at {α : Type} {m : M α} (h : SH m) (s : State) : SHat s m := h s

theorem shat_set_bind {s s1 : State} {β : Type} {k : Unit → M β} (h1 : Shr s s1) (hk : SH (k ())) :
    SHat s ((set s1 : M Unit) >>= k) := by
  intro b s' hr
  have : k () s1 = .ok (b, s') := hr
  exact h1.trans (hk s1 b s' this)

theorem sh_modS {f : State → State} (h : ∀ s, Shr s (f s)) : SH (modS f) := by
  intro s a s' hr
  have : Except.ok ((), f s) = Except.ok (a, s') := hr
  cases this
  exact h s

theorem sh_sink (op : SinkOp) : SH (sink op) := (sq_sink op).sh
theorem sh_sinkUnit (op : SinkOp) : SH (sinkUnit op) := (sq_sinkUnit op).sh

theorem sh_sinkBool (op : SinkOp) : SH (sinkBool op) := by
  unfold sinkBool
  refine sh_bind (sh_sink op) (fun o => ?_)
  cases o <;> first | exact sh_pure _ | exact sh_throw

theorem sh_sinkNode (op : SinkOp) : SH (sinkNode op) := (sq_sinkNode op).sh
theorem sh_elemName (h : Id) : SH (elemName h) := (sq_elemName h).sh

theorem sh_parseError (msg : String) : SH (parseError msg) := sh_sinkUnit _

/-- leaves of the `SH` walk (extensible) -/
syntax "sh_leaf" : tactic
macro_rules
  | `(tactic| sh_leaf) => `(tactic|
    first
      | with_reducible exact sh_pure _
      | with_reducible exact sh_panicAt
      | with_reducible exact sh_fuelOut
      | with_reducible exact sh_throw
      | with_reducible exact sh_sink _
      | with_reducible exact sh_sinkUnit _
      | with_reducible exact sh_sinkBool _
      | with_reducible exact sh_sinkNode _
      | with_reducible exact sh_elemName _
      | with_reducible exact sh_parseError _)

syntax "sh_step" : tactic
macro_rules
  | `(tactic| sh_step) => `(tactic|
    first
      | sh_leaf
      | with_reducible refine sh_getS_bind (fun _ => ?_)
      | with_reducible refine sh_bind ?_ (fun _ => ?_)
      | with_reducible refine sh_ite (fun _ => ?_) (fun _ => ?_)
      | dsimp only)

syntax "sh_walk" : tactic
macro_rules
  | `(tactic| sh_walk) => `(tactic| repeat' sh_step)

end H5V.Lemmas.TBFuel
