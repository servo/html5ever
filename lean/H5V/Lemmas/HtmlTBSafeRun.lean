import H5V.Lemmas.HtmlTBSafeRules0
import H5V.Lemmas.HtmlTBSafeTable
/-!
# Tree-builder safety: foreign content, `process_to_completion`, `process_token`, `end`

Everything here is parameterised by `AllSpec` (every rule, run in its own mode, re-establishes the
invariant); `H5V.Props.C04TB` instantiates it.
-/
namespace H5V.Lemmas.TBSafe
open H5V.Model.HtmlTB
open H5V.Model.Dom (Id QualName Attr NodeOrText SinkOp Output ElementFlags QuirksMode Dom NodeData Node)

variable {al : Allow}

/-! ### the foreign-content dispatcher is off in the modes that are not body-like -/

/-- the adjusted current node exists and is not an HTML element -/
def ForeignTop (s : State) : Prop := ∃ c, adjNode s = some c ∧ (nm s.dom c).ns ≠ nsHtml

theorem adjNode_top {s : State} {t : Id} (hl : s.openElems.getLast? = some t) (h2 : 2 ≤ s.openElems.length) :
    adjNode s = some t := by
  unfold adjNode
  rw [hl]
  have : (s.openElems.length == 1) = false := by
    cases h : s.openElems.length == 1 with
    | false => rfl
    | true => simp at h; omega
  simp [this]

theorem bodyLike_of_foreign {s : State} (ht : TI s) (hf : ForeignTop s) : bodyLike s.mode = true := by
  obtain ⟨c, hc, hns⟩ := hf
  have hstack := ht.s.stack
  cases hm : s.mode <;> try rfl
  · -- initial
    rw [hm] at hstack
    have : s.openElems = [] := hstack
    unfold adjNode at hc; rw [this] at hc; cases hc
  · rw [hm] at hstack
    have : s.openElems = [] := hstack
    unfold adjNode at hc; rw [this] at hc; cases hc
  · -- inHeadNoscript
    rw [hm] at hstack
    obtain ⟨⟨x, hx, _⟩, t, hl, hns'⟩ := hstack
    have h2 : 2 ≤ s.openElems.length := by
      have h1 : 0 < s.openElems.dropLast.length := List.length_pos_of_mem hx
      rw [List.length_dropLast] at h1; omega
    rw [adjNode_top hl h2] at hc; cases hc
    exact absurd hns' hns
  · -- text
    rw [hm] at hstack
    obtain ⟨t, hl, hns'⟩ := hstack
    obtain ⟨om, _, _, h2, _, _⟩ := ht.s.text hm
    rw [adjNode_top hl h2] at hc; cases hc
    exact absurd hns' hns

theorem bodyLike_ne_text {m : Mode} (h : bodyLike m = true) : m ≠ .text := by
  rintro rfl; revert h; decide

/-! ### `step_foreign` -/

theorem sat_foreignStartTag {tag : Tag} {s : State} (ht : TI s) (hf : ForeignTop s) :
    Sat (foreignStartTag tag) s (StepPost (.tag tag)) := by
  have hbl := bodyLike_of_foreign ht hf
  have hpre : preRoot s.mode = false := by
    cases hm : s.mode <;> simp [bodyLike, hm, preRoot] at hbl ⊢
  have hr := ht.rooted hpre
  obtain ⟨c, hc, hns⟩ := hf
  obtain ⟨top, hl⟩ := getLast?_of_ne_nil (PlaceOk.of_hinv ht.h hr).ne
  unfold foreignStartTag
  refine (sat_adjustedCurrentNode' hl).bind ?_
  rintro cur s0 ⟨rfl, hadj⟩
  rw [hc] at hadj; cases hadj
  refine (sat_elemName (adjNode_el ht.h hc)).bind ?_
  rintro n s1 ⟨rfl, hq1⟩
  dsimp only
  have ht1 : TI s1 := ht.of_qf hq1
  have hr1 : Rooted s1.dom s1.openElems := ht1.rooted (by rw [hq1.mode]; exact hpre)
  have hnew : ∀ name, NewOk ⟨(nm s0.dom c).ns, name⟩ := by
    intro name
    constructor
    · intro h; simp only [tmplName, EName.mk.injEq] at h; exact hns h.1
    · intro h; simp only [headName, EName.mk.injEq] at h; exact hns h.1
  have hfin : ∀ {pushIt : Bool} {name : Str} {r : Id} {res : ProcessResult} {s2 : State},
      Inserted s1 s2 r (nm s0.dom c).ns name pushIt → nextMode res s2.mode = s2.mode → ResOk (.tag tag) res →
      StepPost (.tag tag) res s2 := by
    intro pushIt name r res s2 hins hn hro
    have hb : BStep s1 s2 := BStep.of_inserted ht1.h hr1 hins (hnew name)
    exact StepPost.of_bstep ht1 (by rw [hq1.mode]; exact hbl) hb (Keeps.of_inserted hins) hn hro
  have hins : ∀ (tag' : Tag), Sat (if tag'.selfClosing = true then do
        let _ ← insertElement false (nm s0.dom c).ns tag'.name tag'.attrs tag'.hadDup
        pure ProcessResult.doneAckSelfClosing
      else do
        let _ ← insertElement true (nm s0.dom c).ns tag'.name tag'.attrs tag'.hadDup
        pure ProcessResult.done) s1 (StepPost (Token.tag tag)) := by
    intro tag'
    split
    · refine (sat_insertElement (PlaceOk.of_hinv ht1.h hr1)).bind ?_
      intro r s2 hins
      refine sat_pure ?_
      exact hfin hins rfl trivial
    · refine (sat_insertElement (PlaceOk.of_hinv ht1.h hr1)).bind ?_
      intro r s2 hins
      refine sat_pure ?_
      exact hfin hins rfl trivial
  exact hins _

theorem keeps_html_of_pops {s s' : State} {pre post : List Id} (heq : s.openElems = pre ++ post)
    (ho : s'.openElems = pre) (hp : ∀ y ∈ post, (nm s.dom y).ns ≠ nsHtml) :
    Keeps (fun n => n.ns == nsHtml) s s' :=
  Keeps.of_pops heq ho (fun y hy => by simpa using hp y hy)

theorem sat_unexpectedStartTagInForeignContent (hall : AllSpec) {tag : Tag} {s : State} (ht : TI s)
    (hbl : bodyLike s.mode = true) :
    Sat (unexpectedStartTagInForeignContent tag) s (StepPost (.tag tag)) := by
  have hpre : preRoot s.mode = false := by
    cases hm : s.mode <;> simp [bodyLike, hm, preRoot] at hbl ⊢
  unfold unexpectedStartTagInForeignContent
  refine sat_unexpected.bind ?_
  rintro _ s1 ⟨-, hq1⟩
  have ht1 : TI s1 := ht.of_qf hq1
  have hpre1 : preRoot s1.mode = false := by rw [hq1.mode]; exact hpre
  have hr1 := ht1.rooted hpre1
  refine sat_getS_bind ?_
  obtain ⟨r, rest, hl, hn⟩ := hr1
  obtain ⟨pre, post, x, heq, hx, hpx, hpost⟩ :=
    split_last_sat (p := fun h => (nm s1.dom h).ns == nsHtml) (l := s1.openElems)
      ⟨r, by rw [hl]; exact List.mem_cons_self, by rw [hn]; rfl⟩
  refine (sat_popToIntegrationPointLoop _ s1 pre post x ht1.h.open_el heq hx (by simpa using hpx)
    (by rw [heq]; simp; omega)).bind ?_
  rintro _ s2 ⟨post1, post2, hp, st⟩
  have hne : pre ++ post1 ≠ [] := by
    intro e
    have : pre = [] := (List.append_eq_nil_iff.mp e).1
    rw [this] at hx; cases hx
  have heq2 : s1.openElems = (pre ++ post1) ++ post2 := by rw [heq, hp]; simp
  have hb : BStep s1 s2 := BStep.of_st ht1.h ⟨r, rest, hl, hn⟩ heq2 hne st
  have hk : Keeps (fun n => n.ns == nsHtml) s1 s2 :=
    keeps_html_of_pops heq2 st.openElems (fun y hy => by
      have := hpost y (by rw [hp]; exact List.mem_append_right _ hy)
      simpa using this)
  have ht2 : TI s2 := ⟨hb.hinv, by
    rw [hb.mode]
    exact ht1.s.of_bstep ht1.h hb (by rw [hq1.mode]; exact hbl) (Keeps.of_html hk)⟩
  refine sat_getS_bind ?_
  exact hall (.tag tag) s2 ht2 (fun h => absurd h (bodyLike_ne_text (by rw [hb.mode, hq1.mode]; exact hbl)))

theorem sat_foreignEndTagLoop (hall : AllSpec) {tag : Tag} : ∀ (n : Nat) (first : Bool) (s : State), TI s →
    bodyLike s.mode = true → n < s.openElems.length →
    (∀ i x, n < i → s.openElems[i]? = some x → (nm s.dom x).ns ≠ nsHtml) →
    (first = true → ∀ x, s.openElems[n]? = some x → 1 ≤ n → (nm s.dom x).ns ≠ nsHtml) →
    Sat (foreignEndTagLoop tag n first) s (StepPost (.tag tag)) := by
  intro n
  induction n with
  | zero =>
    intro first s ht hbl hlt _ _
    unfold foreignEndTagLoop
    refine sat_getS_bind ?_
    have hget : s.openElems[0]? = some s.openElems[0] := List.getElem?_eq_getElem hlt
    rw [hget]
    dsimp only
    refine Sat.bind (Q := fun nd s1 => s.openElems[0] = nd ∧ s = s1) (sat_pure ⟨rfl, rfl⟩) ?_
    rintro node s0 ⟨rfl, rfl⟩
    have hmem : s.openElems[0] ∈ s.openElems := List.getElem_mem hlt
    refine (sat_elemName (ht.h.open_el _ hmem)).bind ?_
    rintro nn s1 ⟨rfl, hq1⟩
    have ht1 : TI s1 := ht.of_qf hq1
    refine sat_ite (fun h1 => ?_) fun h1 => ?_
    · refine sat_getS_bind ?_
      exact hall (.tag tag) s1 ht1 (fun h => absurd h (bodyLike_ne_text (by rw [hq1.mode]; exact hbl)))
    · refine sat_pure ?_
      exact StepPost.of_qf ht hq1 rfl trivial
  | succ n ih =>
    intro first s ht hbl hlt habove hfirst
    have hpre : preRoot s.mode = false := by
      cases hm : s.mode <;> simp [bodyLike, hm, preRoot] at hbl ⊢
    unfold foreignEndTagLoop
    refine sat_getS_bind ?_
    have hget : s.openElems[n + 1]? = some s.openElems[n + 1] := List.getElem?_eq_getElem hlt
    rw [hget]
    dsimp only
    refine Sat.bind (Q := fun nd s1 => s.openElems[n + 1] = nd ∧ s = s1) (sat_pure ⟨rfl, rfl⟩) ?_
    rintro node s0 ⟨rfl, rfl⟩
    have hmem : s.openElems[n + 1] ∈ s.openElems := List.getElem_mem hlt
    have hel := ht.h.open_el _ hmem
    refine (sat_elemName hel).bind ?_
    rintro nn s1 ⟨rfl, hq1⟩
    have ht1 : TI s1 := ht.of_qf hq1
    refine sat_ite (fun h1 => ?_) fun h1 => ?_
    · refine sat_getS_bind ?_
      exact hall (.tag tag) s1 ht1 (fun h => absurd h (bodyLike_ne_text (by rw [hq1.mode]; exact hbl)))
    have hnode : (nm s.dom s.openElems[n + 1]).ns ≠ nsHtml := by
      cases first with
      | true => exact hfirst rfl _ hget (by omega)
      | false =>
        intro hh
        apply h1
        simp [hh]
    refine sat_ite (fun h2 => ?_) fun h2 => ?_
    · refine sat_modS_bind ?_
      refine sat_pure ?_
      -- the stack is cut at index `n + 1`
      have hr1 := ht1.rooted (by rw [hq1.mode]; exact hpre)
      have heq : s1.openElems = s1.openElems.take (n + 1) ++ s1.openElems.drop (n + 1) :=
        (List.take_append_drop _ _).symm
      have hne : s1.openElems.take (n + 1) ≠ [] := by
        obtain ⟨r, rest, hl, _⟩ := hr1
        rw [hl]; simp
      have st : St s1 { s1 with openElems := s1.openElems.take (n + 1) } (s1.openElems.take (n + 1)) :=
        ⟨(Fr.refl s1).withOpen _, rfl, rfl⟩
      have hb : BStep s1 { s1 with openElems := s1.openElems.take (n + 1) } := BStep.of_st ht1.h hr1 heq hne st
      have hk : Keeps (fun nn => nn.ns == nsHtml) s1 { s1 with openElems := s1.openElems.take (n + 1) } := by
        refine keeps_html_of_pops heq rfl ?_
        intro y hy
        obtain ⟨i, hiy⟩ := List.mem_iff_getElem?.mp hy
        rw [List.getElem?_drop] at hiy
        rw [hq1.openElems] at hiy
        have hyel : y ∈ s.openElems := List.mem_of_getElem? hiy
        rw [nm_ext hq1.ext (ht.h.open_el y hyel)]
        by_cases hi0 : i = 0
        · subst hi0
          simp only [Nat.add_zero] at hiy
          rw [hget] at hiy; cases hiy
          exact hnode
        · exact habove (n + 1 + i) y (by omega) hiy
      exact StepPost.of_bstep ht1 (by rw [hq1.mode]; exact hbl) hb (Keeps.of_html hk) rfl trivial
    have hcont : ∀ s2, QF s1 s2 → Sat (foreignEndTagLoop tag n false) s2 (StepPost (.tag tag)) := by
      intro s2 hq2
      have hq := hq1.trans hq2
      refine ih false s2 (ht.of_qf hq) (by rw [hq.mode]; exact hbl) (by rw [hq.openElems]; omega) ?_
        (fun h => by cases h)
      intro i x hi hx
      rw [hq.openElems] at hx
      have hxel : x ∈ s.openElems := List.mem_of_getElem? hx
      rw [nm_ext hq.ext (ht.h.open_el x hxel)]
      by_cases hi1 : i = n + 1
      · subst hi1
        rw [hget] at hx; cases hx
        exact hnode
      · exact habove i x (by omega) hx
    split
    · refine sat_unexpected.bind ?_
      rintro _ s2 ⟨-, hq2⟩
      exact hcont s2 hq2
    · exact hcont s1 (QF.refl _)

theorem sat_stepForeign (hall : AllSpec) {tok : Token} {s : State} (ht : TI s) (hf : ForeignTop s)
    (hne : tok ≠ .eof) : Sat (stepForeign tok) s (StepPost tok) := by
  have hbl := bodyLike_of_foreign ht hf
  have hpre : preRoot s.mode = false := by
    cases hm : s.mode <;> simp [bodyLike, hm, preRoot] at hbl ⊢
  have hplace := ht.place hpre
  unfold stepForeign
  cases tok with
  | eof => exact absurd rfl hne
  | nullChar =>
    dsimp only
    refine sat_unexpected.bind ?_
    rintro _ s1 ⟨-, hq1⟩
    refine (sat_appendText (hplace.of_qf hq1)).mono ?_
    rintro res s2 ⟨rfl, hq2⟩
    exact StepPost.of_qf ht (hq1.trans hq2) rfl trivial
  | chars st text =>
    dsimp only
    have hfin : ∀ s1, Same s s1 → PlaceOk s1 none → Sat (appendText text) s1 (StepPost (.chars st text)) := by
      intro s1 hs hp1
      refine (sat_appendText hp1).mono ?_
      rintro res s2 ⟨rfl, hq2⟩
      exact StepPost.of_same ht (hs.trans hq2.same) rfl trivial
    split
    · refine sat_setFramesetOk.bind ?_
      intro _ s1 hs
      refine hfin s1 hs (PlaceOk.of_hinv (ht.h.of_same hs) ?_)
      rw [hs.openElems]; exact (ht.rooted hpre).ext hs.fr.ext ht.h.open_el
    · exact hfin s (Same.refl s) hplace
  | comment text =>
    dsimp only
    refine (sat_appendComment hplace).mono ?_
    rintro res s2 ⟨rfl, hq2⟩
    exact StepPost.of_qf ht hq2 rfl trivial
  | tag tag =>
    dsimp only
    refine sat_ite (fun h1 => sat_unexpectedStartTagInForeignContent hall ht hbl) fun h1 => ?_
    refine sat_ite (fun h2 => ?_) fun h2 => ?_
    · split
      · exact sat_unexpectedStartTagInForeignContent hall ht hbl
      · exact sat_foreignStartTag ht hf
    refine sat_ite (fun h3 => sat_foreignStartTag ht hf) fun h3 => ?_
    refine sat_getS_bind ?_
    have hr := ht.rooted hpre
    have hlen : 0 < s.openElems.length := by
      obtain ⟨r, rest, hl, _⟩ := hr; rw [hl]; simp
    have hz : (s.openElems.length == 0) = false := by
      cases h : s.openElems.length == 0 with
      | false => rfl
      | true => have := beq_iff_eq.mp h; omega
    rw [hz]
    simp only [Bool.false_eq_true, if_false]
    refine sat_foreignEndTagLoop hall (s.openElems.length - 1) true s ht hbl (by omega) ?_ ?_
    · intro i x hi hx
      have : s.openElems.length ≤ i := by omega
      rw [List.getElem?_eq_none this] at hx; cases hx
    · intro _ x hx h1n
      obtain ⟨c, hc, hns⟩ := hf
      have hl : s.openElems.getLast? = some x := by rw [List.getLast?_eq_getElem?]; exact hx
      rw [adjNode_top hl (by omega)] at hc; cases hc
      exact hns

/-! ### `process_to_completion` -/

/-- `more_tokens` is non-empty only while a run of characters is being split -/
def MoreOk (tok : Token) (more : List Token) : Prop :=
  more = [] ∨ (isCharsTok tok = true ∧ ∀ t ∈ more, isCharsTok t = true)

/-- the protocol condition of `AllSpec` for the current state and token -/
def Prot [al : Allow] (s : State) (tok : Token) : Prop := s.mode = .text → al.text ∨ textTok tok = true

theorem textTok_of_chars {t : Token} (h : isCharsTok t = true) : textTok t = true := by
  cases t <;> first | rfl | (simp [isCharsTok] at h)

theorem isForeign_eof : isForeign .eof = pure false := by
  unfold isForeign; rfl

/-- the `match result with …` of `process_to_completion` -/
def ptcCont (fuel : Nat) (token : Token) (more : List Token) (result : ProcessResult) : M SinkResult := do
    let shouldAck : Bool := match token with
      | .tag t => t.selfClosing && t.kind == .startTag
      | _ => false
    match result with
    | .done =>
      if shouldAck then parseError "Unacknowledged self-closing tag"
      match more with
      | [] => pure .continue_
      | t :: rest => processToCompletion fuel t rest
    | .doneAckSelfClosing =>
      match more with
      | [] => pure .continue_
      | t :: rest => processToCompletion fuel t rest
    | .reprocess m t =>
      setMode m
      processToCompletion fuel t more
    | .reprocessForeign t => processToCompletion fuel t more
    | .splitWhitespace buf =>
      match popFrontCharRun buf with
      | none => pure .continue_
      | some (first, isWs, rest) =>
        let status := if isWs then SplitStatus.whitespace else .notWhitespace
        let more := if rest.length > 0 then more ++ [.chars .notSplit rest] else more
        processToCompletion fuel (.chars status first) more
    | .script node =>
      if !more.isEmpty then panicAt "assert" "mod.rs:393" "assert!(more_tokens.is_empty())"
      pure (.script node)
    | .toPlaintext =>
      if !more.isEmpty then panicAt "assert" "mod.rs:397" "assert!(more_tokens.is_empty())"
      pure .plaintext
    | .toRawData k =>
      if !more.isEmpty then panicAt "assert" "mod.rs:401" "assert!(more_tokens.is_empty())"
      pure (.rawData k)
    | .encodingIndicator e => pure (.encodingIndicator e)

/-- the next token of the queue -/
def ptcNext (fuel : Nat) (more : List Token) : M SinkResult :=
  match more with
  | [] => pure .continue_
  | t :: rest => processToCompletion fuel t rest

theorem processToCompletion_succ (fuel : Nat) (token : Token) (more : List Token) :
    processToCompletion (fuel + 1) token more =
      (do
        let result ← do
          if ← isForeign token then stepForeign token
          else step (← getS).mode token
        ptcCont fuel token more result) := rfl

theorem moreOk_nil_of_not_chars {tok : Token} {more : List Token} (h : MoreOk tok more)
    (hc : isCharsTok tok = false) : more = [] := by
  rcases h with h | ⟨h, _⟩
  · exact h
  · rw [hc] at h; cases h

theorem sat_ptcCont {fuel : Nat} {tok : Token} {more : List Token}
    (ih : ∀ tok more s, TI s → MoreOk tok more → Prot s tok →
      Sat (processToCompletion fuel tok more) s (fun _ s' => TI s'))
    {result : ProcessResult} {s1 : State} (hp : StepPost tok result s1) (hmo : MoreOk tok more) :
    Sat (ptcCont fuel tok more result) s1 (fun _ s' => TI s') := by
  have hnext : ∀ s2, TI s2 → Sat (ptcNext fuel more) s2 (fun _ s' => TI s') := by
    intro s2 ht2
    unfold ptcNext
    cases hmore : more with
    | nil => exact sat_pure ht2
    | cons t rest =>
      dsimp only
      have hall : ∀ x ∈ t :: rest, isCharsTok x = true := by
        rcases hmo with h | ⟨_, h⟩
        · rw [hmore] at h; cases h
        · rw [hmore] at h; exact h
      exact ih t rest s2 ht2
        (Or.inr ⟨hall t List.mem_cons_self, fun x hx => hall x (List.mem_cons_of_mem _ hx)⟩)
        (fun _ => Or.inr (textTok_of_chars (hall t List.mem_cons_self)))
  unfold ptcCont
  dsimp only
  cases result with
  | done =>
    dsimp only
    have ht1 : TI s1 := ⟨hp.h, hp.s⟩
    have hack : ∀ (c : Bool), Sat (if c = true then do
          parseError "Unacknowledged self-closing tag"
          ptcNext fuel more
        else ptcNext fuel more) s1 (fun _ s' => TI s') := by
      intro c
      split
      · exact sat_parseError.bind (fun _ s2 hq => hnext s2 (ht1.of_qf hq))
      · exact hnext s1 ht1
    exact hack _
  | doneAckSelfClosing => exact hnext s1 ⟨hp.h, hp.s⟩
  | reprocess m t =>
    dsimp only
    refine sat_setMode.bind ?_
    rintro _ s2 rfl
    have : t = tok := hp.r.1
    subst this
    exact ih t more _ ⟨hp.h.withMode m, hp.s.withMode m⟩ hmo (fun h => absurd h hp.r.2)
  | reprocessForeign t =>
    exact absurd hp.r id
  | splitWhitespace buf =>
    dsimp only
    cases hpf : popFrontCharRun buf with
    | none => exact sat_pure ⟨hp.h, hp.s⟩
    | some x =>
      obtain ⟨first, isWs, rest⟩ := x
      dsimp only
      refine ih _ _ s1 ⟨hp.h, hp.s⟩ ?_ (fun _ => Or.inr rfl)
      refine Or.inr ⟨rfl, ?_⟩
      intro t ht
      have hall : ∀ t ∈ more, isCharsTok t = true := by
        rcases hmo with h | ⟨_, h⟩
        · rw [h]; simp
        · exact h
      split at ht
      · rcases List.mem_append.mp ht with h | h
        · exact hall t h
        · rw [List.mem_singleton.mp h]; rfl
      · exact hall t ht
  | script node =>
    dsimp only
    have hm : more = [] := moreOk_nil_of_not_chars hmo hp.r
    subst hm
    exact sat_pure ⟨hp.h, hp.s⟩
  | toPlaintext =>
    dsimp only
    have hm : more = [] := moreOk_nil_of_not_chars hmo hp.r
    subst hm
    exact sat_pure ⟨hp.h, hp.s⟩
  | toRawData k =>
    dsimp only
    have hm : more = [] := moreOk_nil_of_not_chars hmo hp.r
    subst hm
    exact sat_pure ⟨hp.h, hp.s⟩
  | encodingIndicator e => exact sat_pure ⟨hp.h, hp.s⟩

theorem sat_processToCompletion (hall : AllSpec) (hfuel : al.fuel) :
    ∀ (fuel : Nat) (tok : Token) (more : List Token) (s : State),
    TI s → MoreOk tok more → Prot s tok → Sat (processToCompletion fuel tok more) s (fun _ s' => TI s') := by
  intro fuel
  induction fuel with
  | zero =>
    intro tok more s _ _ _
    unfold processToCompletion
    exact sat_throw (Benign.ptcFuel hfuel)
  | succ fuel ih =>
    intro tok more s ht hmo hprot
    rw [processToCompletion_succ]
    dsimp only
    by_cases heof : tok = .eof
    · subst heof
      rw [isForeign_eof]
      refine Sat.bind (Q := fun b s1 => b = false ∧ s = s1) (sat_pure ⟨rfl, rfl⟩) ?_
      rintro b s1 ⟨rfl, rfl⟩
      simp only [Bool.false_eq_true, if_false]
      refine sat_getS_bind ?_
      exact Sat.bind (hall .eof s ht (fun _ => Or.inr rfl)) (fun result s1 hp => sat_ptcCont ih hp hmo)
    · refine (sat_isForeign ht.h).bind ?_
      rintro b s1 ⟨hq, hb⟩
      have ht1 : TI s1 := ht.of_qf hq
      split
      · rename_i hbt
        obtain ⟨c, hc, hns⟩ := hb hbt
        have hf1 : ForeignTop s1 := by
          refine ⟨c, ?_, ?_⟩
          · unfold adjNode at hc ⊢
            rw [hq.openElems, hq.contextElem]; exact hc
          · rw [nm_ext hq.ext (adjNode_el ht.h hc)]; exact hns
        exact Sat.bind (sat_stepForeign hall ht1 hf1 heof) (fun result s2 hp => sat_ptcCont ih hp hmo)
      · refine sat_getS_bind ?_
        exact Sat.bind (hall tok s1 ht1 (by rw [hq.mode]; exact hprot))
          (fun result s2 hp => sat_ptcCont ih hp hmo)

/-! ### `process_token`, `end` -/

theorem sat_ite_jp {β : Type} {c : Prop} [Decidable c] {a : M PUnit} {k : PUnit → M β} {s : State}
    {Q : State → Prop} {R : β → State → Prop} (ha : c → Sat a s (fun _ s1 => Q s1)) (hn : ¬c → Q s)
    (hk : ∀ s1, Q s1 → Sat (k PUnit.unit) s1 R) : Sat (if c then a >>= k else k PUnit.unit) s R := by
  split
  · rename_i hc; exact (ha hc).bind (fun _ s1 h => hk s1 h)
  · rename_i hc; exact hk s (hn hc)

/-- the end of `process_token`: run the token (if any) to completion -/
def ptFinish (tbToken : Option Token) : M SinkResult :=
  match tbToken with
  | none => pure .continue_
  | some t => do processToCompletion (ptcFuel (← getS) t) t []

/-- the tokens a token source may send while the builder is in Text mode (the tokenizer protocol) -/
def okTextTok : TokToken → Bool
  | .tag t => t.kind == .endTag
  | .comment _ => false
  | .nullChar => false
  | _ => true

theorem sat_ptFinish (hall : AllSpec) (hfuel : al.fuel) {tb : Option Token} {s : State} (ht : TI s)
    (hprot : ∀ t, tb = some t → Prot s t) : Sat (ptFinish tb) s (fun _ s' => TI s') := by
  unfold ptFinish
  cases tb with
  | none => exact sat_pure ht
  | some t =>
    dsimp only
    refine sat_getS_bind ?_
    exact sat_processToCompletion hall hfuel _ t [] s ht (Or.inl rfl) (hprot t rfl)

theorem textTok_charsToken {b : Bool} {x : Str} {t : Token} (h : charsToken b x = some t) : textTok t = true := by
  unfold charsToken at h
  split at h
  · cases h
  · cases h; rfl

/-- what `process_token` needs of its last step: running a token the builder dispatches (a character
token made by `charsToken`, or no character token) to completion keeps the invariant -/
def PtFinishOk [al : Allow] : Prop := ∀ (tb : Option Token) (s : State), TI s → (∀ t, tb = some t → Prot s t) →
  ((∀ t, tb = some t → isCharsTok t = false) ∨ ∃ b x, tb = charsToken b x) →
  Sat (ptFinish tb) s (fun _ s' => TI s')

theorem sat_processToken_of (hfin : PtFinishOk (al := al)) {token : TokToken} {line : Nat} {s : State}
    (ht : TI s) (hprot : s.mode = .text → al.text ∨ okTextTok token = true) :
    Sat (processToken token line) s (fun _ s' => TI s') := by
  unfold processToken
  refine sat_getS_bind ?_
  dsimp only
  refine sat_ite_jp (Q := fun s1 => TI s1 ∧ s1.mode = s.mode)
    (fun _ => (sat_sinkUnit_total ⟨_, _, apply_setLine _ _⟩).mono (fun _ s1 hq => ⟨ht.of_qf hq, hq.mode⟩))
    (fun _ => ⟨ht, rfl⟩) ?_
  rintro s1 ⟨ht1, hm1⟩
  refine sat_getS_bind ?_
  refine sat_modS_bind ?_
  have ht2 : TI { s1 with ignoreLf := false } := ht1.withIgnoreLf false
  have hprot2 : ∀ t, (textTok t = true ∨ (okTextTok token = true → textTok t = true)) →
      Prot { s1 with ignoreLf := false } t := by
    intro t h hmt
    have hmt' : s.mode = .text := by rw [← hm1]; exact hmt
    rcases hprot hmt' with h1 | h1
    · exact Or.inl h1
    · rcases h with h | h
      · exact Or.inr h
      · exact Or.inr (h h1)
  cases token with
  | parseError e =>
    dsimp only
    refine (sat_sinkUnit_total ⟨_, _, apply_parseError _ _⟩).bind ?_
    intro _ s3 hq3
    refine sat_modS_bind ?_
    exact sat_pure_bind (hfin none _ ((ht2.of_qf hq3).withIgnoreLf _) (fun t h => by cases h)
      (Or.inl (fun t h => by cases h)))
  | doctype dt =>
    dsimp only
    refine sat_getS_bind ?_
    by_cases hmi : ({ s1 with ignoreLf := false } : State).mode = .initial
    · have hmi' : (({ s1 with ignoreLf := false } : State).mode == Mode.initial) = true := by
        rw [hmi]; rfl
      rw [if_pos hmi']
      refine sat_getS_bind ?_
      dsimp only
      have hS : ∀ s5, Same { s1 with ignoreLf := false } s5 →
          TI ({ s5 with mode := .beforeHtml } : State) := by
        intro s5 hs
        have ht5 : TI s5 := ht2.of_same hs
        have hm5 : s5.mode = .initial := by rw [hs.fr.mode]; exact hmi
        have hs5' : SInv .initial s5 := by rw [← hm5]; exact ht5.s
        refine ⟨ht5.h.withMode _, ?_⟩
        show SInv .beforeHtml { s5 with mode := .beforeHtml }
        refine SInv.withMode ?_ _
        exact ⟨(fun h => by cases h), hs5'.stack, (fun h => by cases h), hs5'.headIn, (fun h => by cases h),
          (fun h => by cases h), (fun _ => hs5'.pending (by decide)), hs5'.tmpl, hs5'.tmodes⟩
      refine sat_ite_jp (Q := fun s3 => Same { s1 with ignoreLf := false } s3)
        (fun _ => sat_parseError.mono (fun _ _ h => h.same)) (fun _ => Same.refl _) ?_
      intro s3 hs3
      refine sat_getS_bind ?_
      refine sat_ite_jp (Q := fun s4 => Same { s1 with ignoreLf := false } s4)
        (fun _ => (sat_sinkUnit_mut (op := SinkOp.appendDoctypeToDocument _ _ _) trivial).mono
          (fun _ _ h => hs3.trans h.same)) (fun _ => hs3) ?_
      intro s4 hs4
      refine sat_setQuirksMode.bind ?_
      intro _ s5 hs5
      refine sat_setMode.bind ?_
      rintro _ s6 rfl
      exact sat_pure_bind (hfin none _ (hS s5 (hs4.trans hs5)) (fun t h => by cases h)
        (Or.inl (fun t h => by cases h)))
    · have hmi' : (({ s1 with ignoreLf := false } : State).mode == Mode.initial) = false := by
        cases hm : ({ s1 with ignoreLf := false } : State).mode <;> first | rfl | exact absurd hm hmi
      rw [hmi']
      simp only [Bool.false_eq_true, if_false]
      refine sat_getS_bind ?_
      have hrest : ∀ s3, TI s3 → Sat (parseError "DOCTYPE in body" >>= fun _ =>
          (pure none : M (Option Token)) >>= fun tb => ptFinish tb) s3 (fun _ s' => TI s') := by
        intro s3 ht3
        refine sat_parseError.bind ?_
        intro _ s4 hq4
        exact sat_pure_bind (hfin none _ (ht3.of_qf hq4) (fun t h => by cases h)
          (Or.inl (fun t h => by cases h)))
      by_cases hmt : ({ s1 with ignoreLf := false } : State).mode = .inTableText
      · have hmt' : (({ s1 with ignoreLf := false } : State).mode == Mode.inTableText) = true := by
          rw [hmt]; rfl
        rw [if_pos hmt']
        refine (sat_flushPendingTableText ht2 hmt).bind ?_
        rintro m s3 ⟨hi3, hs3⟩
        refine sat_setMode.bind ?_
        rintro _ s4 rfl
        exact hrest _ ⟨hi3.withMode m, hs3.withMode m⟩
      · have hmt' : (({ s1 with ignoreLf := false } : State).mode == Mode.inTableText) = false := by
          cases hm : ({ s1 with ignoreLf := false } : State).mode <;> first | rfl | exact absurd hm hmt
        rw [hmt']
        simp only [Bool.false_eq_true, if_false]
        exact hrest _ ht2
  | tag t =>
    refine sat_pure_bind ?_
    exact hfin (some (.tag t)) _ ht2 (fun t' h => by cases h; exact hprot2 _ (Or.inr (fun h => h)))
      (Or.inl (fun t' h => by cases h; rfl))
  | comment c =>
    refine sat_pure_bind ?_
    exact hfin (some (.comment c)) _ ht2 (fun t' h => by cases h; exact hprot2 _ (Or.inr (fun h => by cases h)))
      (Or.inl (fun t' h => by cases h; rfl))
  | nullChar =>
    refine sat_pure_bind ?_
    exact hfin (some .nullChar) _ ht2 (fun t' h => by cases h; exact hprot2 _ (Or.inr (fun h => by cases h)))
      (Or.inl (fun t' h => by cases h; rfl))
  | eof =>
    refine sat_pure_bind ?_
    exact hfin (some .eof) _ ht2 (fun t' h => by cases h; exact hprot2 _ (Or.inl rfl))
      (Or.inl (fun t' h => by cases h; rfl))
  | chars x =>
    refine sat_pure_bind ?_
    exact hfin _ _ ht2 (fun t' h => hprot2 _ (Or.inl (textTok_charsToken h))) (Or.inr ⟨_, _, rfl⟩)

theorem sat_processToken (hall : AllSpec) (hfuel : al.fuel) {token : TokToken} {line : Nat} {s : State}
    (ht : TI s) (hprot : s.mode = .text → al.text ∨ okTextTok token = true) :
    Sat (processToken token line) s (fun _ s' => TI s') :=
  sat_processToken_of (fun _ _ h3 hp3 _ => sat_ptFinish hall hfuel h3 hp3) ht hprot

/-- a token list keeps the tokenizer protocol: whenever the builder is in Text mode, the next token is
a character token, an end tag, EOF (or a parse error / doctype, which the builder does not dispatch) -/
def Respects : State → List (TokToken × Nat) → Prop
  | _, [] => True
  | s, (t, line) :: rest =>
    (s.mode = .text → okTextTok t = true) ∧
    ∀ r s', (processToken t line).run s = .ok (r, s') → Respects s' rest

theorem sat_with_run {α : Type} {m : M α} {s : State} {Q : α → State → Prop} (h : Sat m s Q) :
    Sat m s (fun a s' => Q a s' ∧ m.run s = .ok (a, s')) := by
  unfold Sat at h ⊢
  show match m s with | .ok (a, s') => Q a s' ∧ m s = .ok (a, s') | .error e => Benign e
  cases hr : m s with
  | error e => rw [hr] at h; exact h
  | ok r => obtain ⟨a, s'⟩ := r; rw [hr] at h; exact ⟨h, rfl⟩

theorem sat_processTokens_of (hfin : PtFinishOk (al := al)) :
    ∀ (toks : List (TokToken × Nat)) (acc : List SinkResult) (s : State),
    TI s → (al.text ∨ Respects s toks) → Sat (processTokens toks acc) s (fun _ s' => TI s') := by
  intro toks
  induction toks with
  | nil => intro acc s ht _; exact sat_pure ht
  | cons t rest ih =>
    intro acc s ht hresp
    obtain ⟨tk, line⟩ := t
    unfold processTokens
    have hprot : s.mode = .text → al.text ∨ okTextTok tk = true := by
      intro hm
      rcases hresp with h | h
      · exact Or.inl h
      · exact Or.inr (h.1 hm)
    have h1 := sat_processToken_of (line := line) hfin ht hprot
    -- keep the run equation for `Respects`
    have h2 := sat_with_run h1
    refine h2.bind ?_
    rintro r s1 ⟨ht1, hrun⟩
    refine ih _ s1 ht1 ?_
    rcases hresp with h | h
    · exact Or.inl h
    · exact Or.inr (h.2 r s1 hrun)

theorem sat_processTokens (hall : AllSpec) (hfuel : al.fuel) (toks : List (TokToken × Nat))
    (acc : List SinkResult) (s : State) (ht : TI s) (hresp : al.text ∨ Respects s toks) :
    Sat (processTokens toks acc) s (fun _ s' => TI s') :=
  sat_processTokens_of (fun _ _ h3 hp3 _ => sat_ptFinish hall hfuel h3 hp3) toks acc s ht hresp

theorem sat_endLoop : ∀ (l : List Id) (s : State), Sat (endLoop l) s (fun _ _ => True) := by
  intro l
  induction l with
  | nil => intro s; exact sat_pure trivial
  | cons e rest ih =>
    intro s
    unfold endLoop
    refine (sat_sinkUnit_total ⟨_, _, apply_pop _ _⟩).bind ?_
    intro _ s1 _
    exact ih s1

/-- `TreeSink::end` never fails, from any state -/
theorem sat_finishTB {s : State} : Sat finishTB s (fun _ _ => True) := by
  unfold finishTB
  refine sat_getS_bind ?_
  refine sat_modS_bind ?_
  exact sat_endLoop _ _

end H5V.Lemmas.TBSafe
