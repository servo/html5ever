import Lean.Meta.Tactic.Simp.RegisterCommand
/-!
The simp set `tag_chain` brings the tests of the `if` chains of a rule function on a tag, in the model and in the
specification, to the form `isOneOf t.name l` (see `HtmlTBModesBodyNav`); `body_chain` also unfolds `stepInBody`
and the specification's `inBody`.
-/
register_simp_attr tag_chain
register_simp_attr body_chain
