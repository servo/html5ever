import H5V.Lemmas.HtmlTBContractRes
import H5V.Lemmas.HtmlTBContractIns2
import H5V.Lemmas.HtmlTBContractAA
/-!
# TreeSink contract for the HTML tree builder: the walker for the rules

* `CPP d0 c m R P` — `CP` with a predicate on the result (`stepInHead` lives at this level: the
  "in head" rules are run by `AfterHead` with the head element pushed on top of the stack, where the
  stack-order invariant `SAnc` is not available);
* the helpers that answer a `ProcessResult`, at the `CPP` level;
* the delegation hypotheses `HeadH`, `BodyH`, `TableH`;
* the tactic `rs_walk` for goals `CPP …` / `CPSP …`.
-/
namespace H5V.Lemmas.TBC
open H5V.Model.HtmlTB
open H5V.Model.Dom (Id QualName Attr NodeOrText SinkOp Output ElementFlags QuirksMode Dom NodeData Node Contract)
open H5V.Lemmas.TBSafe (IsEl nm sigOf Ext)

variable {d0 : Dom}

def CPP (d0 : Dom) (c : List Id) {α : Type} (m : M α) (R : α → List Id) (P : α → Prop) : Prop :=
  ∀ s, CB d0 s → CtxOk c s → SatC m s (fun a s' => CB d0 s' ∧ GrowRel s s' ∧ CtxOk (R a) s' ∧ P a)

theorem cp_of_cpp {c : List Id} {α : Type} {m : M α} {R : α → List Id} {P : α → Prop} (h : CPP d0 c m R P) :
    CP d0 c m R := fun s hcb hc => (h s hcb hc).mono (fun _ _ ⟨h1, h2, h3, _⟩ => ⟨h1, h2, h3⟩)

theorem cpp_of_cp {c : List Id} {α : Type} {m : M α} {R : α → List Id} (h : CP d0 c m R) :
    CPP d0 c m R (fun _ => True) := fun s hcb hc => (h s hcb hc).mono (fun _ _ ⟨h1, h2, h3⟩ => ⟨h1, h2, h3, trivial⟩)

theorem cpp_of_cp_ok {c : List Id} {α : Type} {m : M α} {R : α → List Id} {P : α → Prop} (h : CP d0 c m R)
    (hp : ∀ s a s', m s = .ok (a, s') → P a) : CPP d0 c m R P := by
  intro s hcb hc
  exact (satc_and_ok (h s hcb hc) (hp s)).mono (fun a s' ⟨⟨h1, h2, h3⟩, h5⟩ => ⟨h1, h2, h3, h5⟩)

theorem cpsp_of_cpp {c : List Id} {α : Type} {m : M α} {R : α → List Id} {P : α → Prop} (h : CPP d0 c m R P) :
    CPSP d0 c m R P := by
  intro s hcb hsa hc
  refine (h s hcb hc).mono ?_
  rintro a s' ⟨h1, h2, h3, h4⟩
  exact ⟨h1, SAnc.grow hcb.d.inv.wf (fun h hh => lt_of_isEl (hcb.h.open_el h hh)) hsa h2, h2.ext, h3, h4⟩

theorem cpp_bind {c : List Id} {α β : Type} {m : M α} {f : α → M β} {R : α → List Id} {R' : β → List Id}
    {P : β → Prop} (h1 : CP d0 c m R) (h2 : ∀ a, CPP d0 (R a ++ c) (f a) R' P) : CPP d0 c (m >>= f) R' P := by
  intro s hcb hc
  refine (h1 s hcb hc).bind ?_
  rintro a s1 ⟨hcb1, g1, hr1⟩
  refine (h2 a s1 hcb1 (hr1.app (hc.ext g1.ext))).mono ?_
  rintro b s2 ⟨hcb2, g2, hr2, hp⟩
  exact ⟨hcb2, g1.trans g2, hr2, hp⟩

theorem cpp_bind' {c : List Id} {α β : Type} {m : M α} {f : α → M β} {R : α → List Id} {R' : β → List Id}
    {P1 : α → Prop} {P : β → Prop} (h1 : CPP d0 c m R P1) (h2 : ∀ a, P1 a → CPP d0 (R a ++ c) (f a) R' P) :
    CPP d0 c (m >>= f) R' P := by
  intro s hcb hc
  refine (h1 s hcb hc).bind ?_
  rintro a s1 ⟨hcb1, g1, hr1, hp1⟩
  refine (h2 a hp1 s1 hcb1 (hr1.app (hc.ext g1.ext))).mono ?_
  rintro b s2 ⟨hcb2, g2, hr2, hp⟩
  exact ⟨hcb2, g1.trans g2, hr2, hp⟩

theorem cpp_isBind {c : List Id} {α β : Type} {m : M α} {f : α → M β} {R : β → List Id} {P : β → Prop}
    (h : CPP d0 c (m >>= f) R P) : CPP d0 c (m >>= f) R P := h

theorem cpp_pure {c : List Id} {α : Type} (a : α) {R : α → List Id} {P : α → Prop} (h : ∀ x ∈ R a, x ∈ c)
    (hp : P a) : CPP d0 c (Pure.pure a : M α) R P :=
  fun s hcb hc => satc_pure ⟨hcb, GrowRel.refl s, hc.sub h, hp⟩

@[cp]
theorem cpp_pure_nil {c : List Id} {α : Type} (a : α) {P : α → Prop} (hp : P a) :
    CPP d0 c (Pure.pure a : M α) (fun _ => []) P := cpp_pure a (fun _ h => by cases h) hp

theorem cpp_ite {c : List Id} {α : Type} {p : Prop} [Decidable p] {a b : M α} {R : α → List Id} {P : α → Prop}
    (h1 : p → CPP d0 c a R P) (h2 : ¬p → CPP d0 c b R P) : CPP d0 c (if p then a else b) R P := by
  by_cases hp : p
  · rw [if_pos hp]; exact h1 hp
  · rw [if_neg hp]; exact h2 hp

theorem cpp_getS_bind {c : List Id} {β : Type} {f : State → M β} {R : β → List Id} {P : β → Prop}
    (h : ∀ s0, CPP d0 (stH s0 ++ c) (f s0) R P) : CPP d0 c (getS >>= f) R P := by
  intro s hcb hc
  refine satc_getS_bind ?_
  exact h s s hcb ((ctxOk_stH hcb.h).app hc)

theorem cpp_ctx_mono {c c' : List Id} {α : Type} {m : M α} {R : α → List Id} {P : α → Prop}
    (h : CPP d0 c m R P) (hs : ∀ x ∈ c, x ∈ c') : CPP d0 c' m R P :=
  fun s hcb hc => h s hcb (hc.sub hs)

theorem cpp_drop {c : List Id} {α : Type} {m : M α} {R : α → List Id} {P : α → Prop} (h : CPP d0 c m R P) :
    CPP d0 c m (fun _ => []) P := by
  intro s hcb hc
  exact (h s hcb hc).mono (fun a s' ⟨h1, h2, _, h5⟩ => ⟨h1, h2, CtxOk.nil _, h5⟩)

theorem cpp_weakenP {c : List Id} {α : Type} {m : M α} {R : α → List Id} {P P' : α → Prop}
    (h : CPP d0 c m R P) (hp : ∀ a, P a → P' a) : CPP d0 c m R P' := by
  intro s hcb hc
  exact (h s hcb hc).mono (fun a s' ⟨h1, h2, h4, h5⟩ => ⟨h1, h2, h4, hp a h5⟩)

@[cp]
theorem cpp_panicAt {c : List Id} {α : Type} {cls site text : String} {R : α → List Id} {P : α → Prop}
    (h : TBSafe.infixL "@sink: ".toList (cls ++ "@" ++ site ++ ": " ++ text).toList = false := by decide) :
    CPP d0 c (panicAt cls site text : M α) R P := fun _ _ _ => satc_panicAt h

theorem cpp_panicAt_bind {c : List Id} {α β : Type} {cls site text : String} {f : α → M β} {R : β → List Id}
    {P : β → Prop}
    (h : TBSafe.infixL "@sink: ".toList (cls ++ "@" ++ site ++ ": " ++ text).toList = false := by no_sink) :
    CPP d0 c ((panicAt cls site text : M α) >>= f) R P := fun _ _ _ => satc_panicAt_bind h

/-! ### leaves: the state updates of the rules -/

@[cp]
theorem cp_modS_ignoreLf {c : List Id} {b : Bool} :
    CP d0 c (modS fun s => { s with ignoreLf := b }) (fun _ => []) :=
  cp_modS_shrink (fun _ => rfl) (fun _ => rfl) (fun _ => rfl) (fun _ => List.Sublist.refl _)
    (fun _ _ h => h) (fun _ _ h => h) (fun _ _ h => h) (fun _ _ h => h) (fun _ hl => ⟨hl.mode, hl.orig, hl.tm⟩)

@[cp]
theorem cp_modS_foster {c : List Id} {b : Bool} :
    CP d0 c (modS fun s => { s with fosterParenting := b }) (fun _ => []) :=
  cp_modS_shrink (fun _ => rfl) (fun _ => rfl) (fun _ => rfl) (fun _ => List.Sublist.refl _)
    (fun _ _ h => h) (fun _ _ h => h) (fun _ _ h => h) (fun _ _ h => h) (fun _ hl => ⟨hl.mode, hl.orig, hl.tm⟩)

theorem cp_modS_pending {c : List Id} {g : List (SplitStatus × Str) → List (SplitStatus × Str)} :
    CP d0 c (modS fun s => { s with pendingTableText := g s.pendingTableText }) (fun _ => []) :=
  cp_modS_shrink (fun _ => rfl) (fun _ => rfl) (fun _ => rfl) (fun _ => List.Sublist.refl _)
    (fun _ _ h => h) (fun _ _ h => h) (fun _ _ h => h) (fun _ _ h => h) (fun _ hl => ⟨hl.mode, hl.orig, hl.tm⟩)

@[cp]
theorem cp_modS_pendingPush {c : List Id} {x : SplitStatus × Str} :
    CP d0 c (modS fun s => { s with pendingTableText := s.pendingTableText ++ [x] }) (fun _ => []) :=
  cp_modS_pending (g := fun l => l ++ [x])

@[cp]
theorem cp_modS_pendingClear {c : List Id} :
    CP d0 c (modS fun s => { s with pendingTableText := [] }) (fun _ => []) :=
  cp_modS_pending (g := fun _ => [])

@[cp]
theorem cp_modS_tmPush {c : List Id} {m : Mode} (hm : m ≠ .initial) :
    CP d0 c (modS fun s => { s with templateModes := s.templateModes ++ [m] }) (fun _ => []) := by
  refine cp_modS_shrink (fun _ => rfl) (fun _ => rfl) (fun _ => rfl) (fun _ => List.Sublist.refl _)
    (fun _ _ h => h) (fun _ _ h => h) (fun _ _ h => h) (fun _ _ h => h) (fun s hl => ⟨hl.mode, hl.orig, ?_⟩)
  intro hmem
  rcases List.mem_append.mp hmem with h | h
  · exact hl.tm h
  · exact hm (List.mem_singleton.mp h).symm

@[cp]
theorem cp_modS_tmDropLast {c : List Id} :
    CP d0 c (modS fun s => { s with templateModes := s.templateModes.dropLast }) (fun _ => []) := by
  refine cp_modS_shrink (fun _ => rfl) (fun _ => rfl) (fun _ => rfl) (fun _ => List.Sublist.refl _)
    (fun _ _ h => h) (fun _ _ h => h) (fun _ _ h => h) (fun _ _ h => h) (fun s hl => ⟨hl.mode, hl.orig, ?_⟩)
  intro hmem
  exact hl.tm (List.dropLast_subset _ hmem)

@[cp]
theorem cp_modS_origMode {c : List Id} :
    CP d0 c (modS fun s => { s with origMode := some s.mode }) (fun _ => []) := by
  refine cp_modS_shrink (fun _ => rfl) (fun _ => rfl) (fun _ => rfl) (fun _ => List.Sublist.refl _)
    (fun _ _ h => h) (fun _ _ h => h) (fun _ _ h => h) (fun _ _ h => h) (fun s hl => ⟨hl.mode, ?_, hl.tm⟩)
  intro e
  exact hl.mode (Option.some.inj e)

@[cp]
theorem cp_modS_take {c : List Id} {n : Nat} :
    CP d0 c (modS fun s => { s with openElems := s.openElems.take n }) (fun _ => []) :=
  cp_modS_shrink (fun _ => rfl) (fun _ => rfl) (fun _ => rfl) (fun _ => List.take_sublist _ _)
    (fun _ _ h => h) (fun _ _ h => h) (fun _ _ h => h) (fun _ _ h => h) (fun _ hl => ⟨hl.mode, hl.orig, hl.tm⟩)

@[cp]
theorem cp_setForm {c : List Id} {h : Id} (hh : h ∈ c) :
    CP d0 c (modS fun s => { s with formElem := some h }) (fun _ => []) := by
  refine cp_modS (fun s hcb hc => ⟨⟨⟨hcb.d.inv, hcb.d.run⟩, ⟨hcb.h.docH, hcb.h.doc0, hcb.h.open_el, hcb.h.open_tc,
    hcb.h.af, hcb.h.head, ?_, hcb.h.ctx, hcb.h.headTc⟩, ⟨hcb.l.mode, hcb.l.orig, hcb.l.tm⟩⟩, GrowRel.of_sublist rfl (List.Sublist.refl _)⟩)
  intro x hx
  have : h = x := Option.some.inj hx
  subst this
  exact hc h hh


/-! ### terminal leaves: helpers that answer a `ProcessResult` -/

@[cp]
theorem cpp_unexpected {c : List Id} {P : ProcessResult → Prop} (hp : P .done) :
    CPP d0 c unexpected (fun _ => []) P :=
  cpp_of_cp_ok cp_unexpected (fun _ _ _ h => by rw [res_unexpected h]; exact hp)

@[cp]
theorem cpp_appendText {c : List Id} {t : Str} {P : ProcessResult → Prop} (hp : P .done) :
    CPP d0 c (appendText t) (fun _ => []) P :=
  cpp_of_cp_ok cp_appendText (fun _ _ _ h => by rw [res_appendText h]; exact hp)

@[cp]
theorem cpp_appendComment {c : List Id} {t : Str} {P : ProcessResult → Prop} (hp : P .done) :
    CPP d0 c (appendComment t) (fun _ => []) P :=
  cpp_of_cp_ok cp_appendComment (fun _ _ _ h => by rw [res_appendComment h]; exact hp)

@[cp]
theorem cpp_appendCommentToDoc {c : List Id} {t : Str} {P : ProcessResult → Prop} (hp : P .done) :
    CPP d0 c (appendCommentToDoc t) (fun _ => []) P :=
  cpp_of_cp_ok cp_appendCommentToDoc (fun _ _ _ h => by rw [res_appendCommentToDoc h]; exact hp)

@[cp]
theorem cpp_appendCommentToHtml {c : List Id} {t : Str} {P : ProcessResult → Prop} (hp : P .done) :
    CPP d0 c (appendCommentToHtml t) (fun _ => []) P :=
  cpp_of_cp_ok cp_appendCommentToHtml (fun _ _ _ h => by rw [res_appendCommentToHtml h]; exact hp)

@[cp]
theorem cpp_parseRawData {c : List Id} {tag : Tag} {k : H5V.Model.HtmlTok.RawKind} {P : ProcessResult → Prop}
    (ha : AttrsOk tag.attrs) (hp : P (.toRawData k)) : CPP d0 c (parseRawData tag k) (fun _ => []) P :=
  cpp_of_cp_ok (cp_parseRawData (attrKeysNodup_of_attrsOk ha)) (fun _ _ _ h => by rw [res_parseRawData h]; exact hp)

@[cp]
theorem cpp_toRawTextMode {c : List Id} {k : H5V.Model.HtmlTok.RawKind} {P : ProcessResult → Prop}
    (hp : P (.toRawData k)) : CPP d0 c (toRawTextMode k) (fun _ => []) P :=
  cpp_of_cp_ok cp_toRawTextMode (fun _ _ _ h => by rw [res_toRawTextMode h]; exact hp)

theorem cp_inBodyVoid {c : List Id} {tag : Tag} (ha : AttrsOk tag.attrs) :
    CP d0 c (inBodyVoid tag) (fun _ => []) := by
  unfold inBodyVoid
  cp_walk

@[cp]
theorem cpp_inBodyVoid {c : List Id} {tag : Tag} {P : ProcessResult → Prop} (ha : AttrsOk tag.attrs)
    (hp : P .doneAckSelfClosing) : CPP d0 c (inBodyVoid tag) (fun _ => []) P :=
  cpp_of_cp_ok (cp_inBodyVoid ha) (fun _ _ _ h => by rw [res_inBodyVoid h]; exact hp)

@[cp]
theorem cpp_enterForeign {c : List Id} {tag : Tag} {ns : Str} {tok : Token} (ha : AttrsOk tag.attrs) :
    CPP d0 c (enterForeign tag ns) (fun _ => []) (ResLate tok) :=
  cpp_of_cp_ok (cp_enterForeign ha) (fun _ _ _ h => ResLate.of_noRep (res_enterForeign h))

theorem res_inBodyHtml {tag : Tag} {s s' : State} {r : ProcessResult} (h : inBodyHtml tag s = .ok (r, s')) :
    r = .done := by
  unfold inBodyHtml at h
  obtain ⟨_, s1, _, h2⟩ := ok_bind h
  obtain ⟨_, s2, _, h3⟩ := ok_bind h2
  dsimp only at h3
  refine ok_ite (P := fun r => r = .done) h3 ?_ ?_
  · intro s3 s4 r1 h4
    obtain ⟨_, s5, _, h5⟩ := ok_bind h4
    obtain ⟨_, s6, _, h6⟩ := ok_bind h5
    exact (ok_pure h6).1.symm
  · intro s3 s4 r1 h4
    exact (ok_pure h4).1.symm

@[cp]
theorem cpp_inBodyHtml {c : List Id} {tag : Tag} {P : ProcessResult → Prop} (ha : AttrsOk tag.attrs)
    (hp : P .done) : CPP d0 c (inBodyHtml tag) (fun _ => []) P :=
  cpp_of_cp_ok (cp_inBodyHtml (attrKeysNodup_of_attrsOk ha)) (fun _ _ _ h => by rw [res_inBodyHtml h]; exact hp)

/-! ### the delegation hypotheses -/

/-- the "in head" rules, at the `CP` level -/
def HeadH (d0 : Dom) : Prop := ∀ tok, TokOk tok → CPP d0 [] (stepInHead tok) (fun _ => []) (ResLate tok)
/-- the "in body" rules -/
def BodyH (d0 : Dom) : Prop := ∀ tok, TokOk tok → RS d0 tok (stepInBody tok)
/-- the "in table" rules -/
def TableH (d0 : Dom) : Prop := ∀ tok, TokOk tok → RS d0 tok (stepInTable tok)

@[cp]
theorem HeadH.cpp {c : List Id} (h : HeadH d0) {tok : Token} (ht : TokOk tok) :
    CPP d0 c (stepInHead tok) (fun _ => []) (ResLate tok) := cpp_ctx_mono (h tok ht) (fun _ hx => by cases hx)
@[cp]
theorem HeadH.cpsp {c : List Id} (h : HeadH d0) {tok : Token} (ht : TokOk tok) :
    CPSP d0 c (stepInHead tok) (fun _ => []) (ResLate tok) := cpsp_of_cpp (h.cpp ht)
@[cp]
theorem BodyH.cpsp {c : List Id} (h : BodyH d0) {tok : Token} (ht : TokOk tok) :
    CPSP d0 c (stepInBody tok) (fun _ => []) (ResLate tok) := cpsp_of_rs (h tok ht)
@[cp]
theorem TableH.cpsp {c : List Id} (h : TableH d0) {tok : Token} (ht : TokOk tok) :
    CPSP d0 c (stepInTable tok) (fun _ => []) (ResLate tok) := cpsp_of_rs (h tok ht)

/-- a rule judgement from the `CP` level -/
theorem rs_of_cpp {tok : Token} {m : M ProcessResult} (h : CPP d0 [] m (fun _ => []) (ResLate tok)) : RS d0 tok m :=
  cpsp_of_cpp h

theorem resLate_rep {tok : Token} {m : Mode} (h : m ≠ .initial) : ResLate tok (.reprocess m tok) := ⟨h, rfl⟩

theorem cpsp_bind_cp {c : List Id} {α β : Type} {m : M α} {f : α → M β} {R : α → List Id} {R' : β → List Id}
    {P : β → Prop} (h1 : CP d0 c m R) (h2 : ∀ a, CPSP d0 (R a ++ c) (f a) R' P) : CPSP d0 c (m >>= f) R' P :=
  cpsp_bind (cp_toCPS h1) h2

/-! ### code that writes back a state it has read -/

/-- `CPSP` at a known state -/
def CPSPat (d0 : Dom) (s : State) (c : List Id) {α : Type} (m : M α) (R : α → List Id) (P : α → Prop) : Prop :=
  CB d0 s → SAnc s.dom s.openElems → CtxOk c s →
    SatC m s (fun a s' => CB d0 s' ∧ SAnc s'.dom s'.openElems ∧ Ext s.dom s'.dom ∧ CtxOk (R a) s' ∧ P a)

theorem cpsp_at {c : List Id} {α : Type} {m : M α} {R : α → List Id} {P : α → Prop} (h : CPSP d0 c m R P)
    (s : State) : CPSPat d0 s c m R P := h s

theorem cpsp_getS_bind_at {c : List Id} {β : Type} {f : State → M β} {R : β → List Id} {P : β → Prop}
    (h : ∀ s0, CPSPat d0 s0 (stH s0 ++ c) (f s0) R P) : CPSP d0 c (getS >>= f) R P := by
  intro s hcb hsa hc
  refine satc_getS_bind ?_
  exact h s hcb hsa ((ctxOk_stH hcb.h).app hc)

theorem cpspat_set_bind {s s1 : State} {c : List Id} {β : Type} {k : Unit → M β} {R : β → List Id} {P : β → Prop}
    (h1 : CB d0 s → SAnc s.dom s.openElems → CB d0 s1 ∧ SAnc s1.dom s1.openElems ∧ Ext s.dom s1.dom)
    (hk : CPSP d0 c (k ()) R P) : CPSPat d0 s c ((set s1 : M Unit) >>= k) R P := by
  intro hcb hsa hc
  refine satc_set_bind ?_
  obtain ⟨hcb1, hsa1, he1⟩ := h1 hcb hsa
  refine (hk s1 hcb1 hsa1 (hc.ext he1)).mono ?_
  rintro b s2 ⟨hcb2, hsa2, he2, hr2, hp⟩
  exact ⟨hcb2, hsa2, he1.trans he2, hr2, hp⟩

theorem cpspat_panicAt {s : State} {c : List Id} {α : Type} {cls site text : String} {R : α → List Id} {P : α → Prop}
    (h : TBSafe.infixL "@sink: ".toList (cls ++ "@" ++ site ++ ": " ++ text).toList = false := by decide) :
    CPSPat d0 s c (panicAt cls site text : M α) R P := fun _ _ _ => satc_panicAt h

/-- `orig_mode.take()` with a mode change: the state keeps `CB`, `SAnc` -/
theorem cb_takeOrig {s : State} {m : Mode} (hm : m ≠ .initial) (hcb : CB d0 s) (hsa : SAnc s.dom s.openElems) :
    CB d0 { s with origMode := none, mode := m } ∧
      SAnc ({ s with origMode := none, mode := m } : State).dom ({ s with origMode := none, mode := m } : State).openElems ∧
      Ext s.dom ({ s with origMode := none, mode := m } : State).dom :=
  ⟨hcb.of_shrink rfl rfl rfl (fun _ h => h) (fun _ h => h) (fun _ h => h) (fun _ h => h) (fun _ h => h)
    ⟨hm, (by intro e; cases e), hcb.l.tm⟩, hsa, Ext.refl _⟩

theorem orig_late {s : State} {m : Mode} (hcb : CB d0 s) (h : s.origMode = some m) : m ≠ .initial := by
  intro e; subst e; exact hcb.l.orig h

theorem cpsp_reset_bind {c : List Id} {β : Type} {f : Mode → M β} {R : β → List Id} {P : β → Prop}
    (h : ∀ m, m ≠ .initial → CPSP d0 c (f m) R P) : CPSP d0 c (resetInsertionMode >>= f) R P := by
  intro s hcb hsa hc
  refine (satc_resetInsertionMode s hcb).bind ?_
  rintro m s1 ⟨hcb1, hg1, hm⟩
  have hsa1 := SAnc.grow hcb.d.inv.wf (fun h hh => lt_of_isEl (hcb.h.open_el h hh)) hsa hg1
  refine (h m hm s1 hcb1 hsa1 (hc.ext hg1.ext)).mono ?_
  rintro b s2 ⟨hcb2, hsa2, he2, hr2, hp⟩
  exact ⟨hcb2, hsa2, hg1.ext.trans he2, hr2, hp⟩

theorem cpp_reset_bind {c : List Id} {β : Type} {f : Mode → M β} {R : β → List Id} {P : β → Prop}
    (h : ∀ m, m ≠ .initial → CPP d0 c (f m) R P) : CPP d0 c (resetInsertionMode >>= f) R P := by
  intro s hcb hc
  refine (satc_resetInsertionMode s hcb).bind ?_
  rintro m s1 ⟨hcb1, hg1, hm⟩
  refine (h m hm s1 hcb1 (hc.ext hg1.ext)).mono ?_
  rintro b s2 ⟨hcb2, hg2, hr2, hp⟩
  exact ⟨hcb2, hg1.trans hg2, hr2, hp⟩

theorem cb_clearOrig {s : State} (hcb : CB d0 s) (hsa : SAnc s.dom s.openElems) :
    CB d0 { s with origMode := none } ∧
      SAnc ({ s with origMode := none } : State).dom ({ s with origMode := none } : State).openElems ∧
      Ext s.dom ({ s with origMode := none } : State).dom :=
  ⟨hcb.of_shrink rfl rfl rfl (fun _ h => h) (fun _ h => h) (fun _ h => h) (fun _ h => h) (fun _ h => h)
    ⟨hcb.l.mode, (by intro e; cases e), hcb.l.tm⟩, hsa, Ext.refl _⟩

/-- `let m = orig_mode.take().unwrap(); Reprocess(m, token)` -/
theorem cpsp_origReprocess {c : List Id} {tok : Token} {cls site text : String}
    (h : TBSafe.infixL "@sink: ".toList (cls ++ "@" ++ site ++ ": " ++ text).toList = false := by no_sink) :
    CPSP d0 c (do
      let s ← getS
      match s.origMode with
      | none => panicAt cls site text
      | some m =>
        set { s with origMode := none }
        pure (ProcessResult.reprocess m tok)) (fun _ => []) (ResLate tok) := by
  refine cpsp_getS_bind_at (fun s0 => ?_)
  intro hcb hsa hc
  cases hm : s0.origMode with
  | none => exact satc_panicAt h
  | some m =>
    dsimp only
    refine cpspat_set_bind (fun h1 h2 => cb_clearOrig h1 h2) ?_ hcb hsa hc
    exact cpsp_pure_nil _ (resLate_rep (orig_late hcb hm))

/-! ### the walker -/

/-- facts about the answer of a rule.  (Not `trivial`: its `contradiction` compares the guards of all the arms
passed so far with each other.  `simp` checks the type of what its discharger finds at reducible transparency: hence `of_noRep`.) -/
macro_rules
  | `(tactic| cp_side) => `(tactic|
    first
      | with_unfolding_all exact ResLate.of_noRep True.intro
      | (refine resLate_rep ?_) <;> first | decide | assumption)

theorem cp_createRoot_nil {c : List Id} : CP d0 c (createRoot []) (fun _ => []) := cp_createRoot rfl
attribute [cp] cp_createRoot_nil cpsp_panicAt

/-- the rules for a statement of a rule: its first component is walked by `cp_walk`, with the three shapes of
handles of `cp_bind_step` -/
macro "rs_bind_step" : tactic => `(tactic|
  first
    | ((with_reducible refine cpsp_isBind ?_);
       first
         | with_reducible refine cpsp_getS_bind (fun _ => ?_)
         | ((with_reducible refine cpsp_bind_cp (R := fun h => [h]) ?_ ?_); focus (cp_walk; done))
         | ((with_reducible refine cpsp_bind_cp (R := fun r => r.toList) ?_ ?_); focus (cp_walk; done))
         | ((with_reducible refine cpsp_bind_cp (R := fun _ => []) ?_ ?_); focus (cp_walk; done))
         | with_reducible refine cpsp_reset_bind (fun _ _ => ?_))
    | ((with_reducible refine cpp_isBind ?_);
       first
         | with_reducible refine cpp_getS_bind (fun _ => ?_)
         | ((with_reducible refine cpp_bind (R := fun h => [h]) ?_ ?_); focus (cp_walk; done))
         | ((with_reducible refine cpp_bind (R := fun r => r.toList) ?_ ?_); focus (cp_walk; done))
         | ((with_reducible refine cpp_bind (R := fun _ => []) ?_ ?_); focus (cp_walk; done))
         | with_reducible refine cpp_reset_bind (fun _ _ => ?_)))

/-- one step of the walk of a rule, for goals `CPSP …` and `CPP …`: a statement, an `if`, a call -/
syntax "rs_step" : tactic
macro_rules
  | `(tactic| rs_step) => `(tactic|
    first
      | with_reducible intro _
      | rs_bind_step
      | with_reducible apply cpsp_ite
      | with_reducible apply cpp_ite
      | cp_call
      | ((with_reducible refine cpsp_of_cpp ?_); cp_call)
      | dsimp only)

syntax "rs_walk" : tactic
macro_rules
  | `(tactic| rs_walk) => `(tactic| repeat' rs_step)

/-- open a rule: case split on the token, reduce the `match` -/
syntax "rs_open" : tactic
macro_rules
  | `(tactic| rs_open) => `(tactic|
    (intro tok ht
     unfold RS
     cases tok with
     | chars st text => cases st <;> (dsimp only; rs_walk)
     | tag tag =>
       have ha : AttrsOk tag.attrs := ht
       dsimp only
       rs_walk
     | _ => dsimp only; rs_walk))

end H5V.Lemmas.TBC
