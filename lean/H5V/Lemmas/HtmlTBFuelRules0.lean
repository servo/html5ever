import H5V.Lemmas.HtmlTBFuelHelpers
/-!
# The fuel of `process_to_completion`: judgements for the rules

* `DJ f m tok` — every successful run of the rule body `f` from a state satisfying the invariant, in mode
  `m`, answers within `Dec … m tok` (the measure decreases along `Reprocess`, `SplitWhitespace` only for an
  unsplit character token);
* what the rules other rules delegate to may answer: `EH` (`stepInHead`), `EB` (`stepInBody`), `ET`
  (`stepInTable`), independent of the calling mode;
* token-class lemmas: from `tag.isStart l` / `tag.isEnd l` to the rank inequality.
-/
namespace H5V.Lemmas.TBFuel
open H5V.Model.HtmlTB
open H5V.Model.HtmlTok (TagKind)
open H5V.Model.Dom (Id QualName Attr NodeOrText SinkOp Output ElementFlags QuirksMode Dom NodeData Node)
open H5V.Lemmas.TBSafe
open H5V.Lemmas.TBC (ok_bind ok_pure ok_getS_bind ok_modS_bind ok_ite ok_bind_pure)

/-- the judgement of a rule body run in mode `m` on the token `tok` -/
def DJ (f : M ProcessResult) (m : Mode) (tok : Token) : Prop :=
  ∀ s r s', TI s → s.mode = m → f s = .ok (r, s') → Dec s m tok r s'

theorem dj_of_ro {f : M ProcessResult} {m : Mode} {tok : Token} (h : RO f Quiet) : DJ f m tok :=
  fun s r s' _ _ hr => dec_of_quiet (h s r s' hr)

theorem dj_ite {c : Prop} [Decidable c] {a b : M ProcessResult} {m : Mode} {tok : Token}
    (h1 : c → DJ a m tok) (h2 : ¬c → DJ b m tok) : DJ (if c then a else b) m tok :=
  ite_rule (P := (DJ · m tok)) h1 h2

/-- `SplitWhitespace` in the rule's own mode -/
theorem dj_split {m : Mode} {text : Str} :
    DJ (pure (ProcessResult.splitWhitespace text)) m (.chars .notSplit text) := by
  intro s r s' _ hm hr
  obtain ⟨e1, e2⟩ := ok_pure hr
  rw [← e1, ← e2]
  exact ⟨rfl, hm⟩

/-- an edge `helpers…; Reprocess(m', token)` whose helpers only shrink the stack -/
theorem dj_edge {α : Type} {pre : M α} {m m' : Mode} {tok t : Token} (hsh : SH pre) (hm : m' ≠ .inTemplate)
    (hr : rank m' (cls tok) < rank m (cls tok)) :
    DJ (pre >>= fun _ => pure (ProcessResult.reprocess m' t)) m tok := by
  intro s r s' ht _ hrun
  obtain ⟨a, s1, h1, h2⟩ := ok_bind hrun
  obtain ⟨e1, e2⟩ := ok_pure h2
  rw [← e1, ← e2]
  exact dec_of_rank ((hsh s a s1 h1).wle ht.h.open_el) (Or.inl hm) hr

/-- the same without helpers -/
theorem dj_edge0 {m m' : Mode} {tok t : Token} (hm : m' ≠ .inTemplate)
    (hr : rank m' (cls tok) < rank m (cls tok)) : DJ (pure (ProcessResult.reprocess m' t)) m tok := by
  intro s r s' _ _ hrun
  obtain ⟨e1, e2⟩ := ok_pure hrun
  rw [← e1, ← e2]
  exact dec_of_rank (WLe.refl s) (Or.inl hm) hr

/-! ### edges that are paid for by the stack -/

/-- a table element or a template mode was popped, the new mode has rank at most 3 -/
structure Pay (s s' : State) (m' : Mode) (c : Cls) : Prop where
  w : 4 * tabCount s'.dom s'.openElems + 4 * s'.templateModes.length + 4 ≤
      4 * tabCount s.dom s.openElems + 4 * s.templateModes.length
  rk : rank m' c ≤ 3
  tmpl : m' = .inTemplate → s'.templateModes ≠ []

theorem dec_of_payS {s s' : State} {m m' : Mode} {tok t : Token} (hc : isCharsTok tok = false)
    (h : Pay s s' m' (cls tok)) : Dec s m tok (.reprocess m' t) s' := by
  refine dec_of_pay hc ?_ h.rk
  unfold wW tmW
  have h1 : max s'.templateModes.length (if m' = .inTemplate then 1 else 0) = s'.templateModes.length := by
    by_cases hm : m' = .inTemplate
    · rw [if_pos hm]
      have := h.tmpl hm
      cases hl : s'.templateModes with
      | nil => exact absurd hl this
      | cons a l => simp
    · rw [if_neg hm]; omega
  rw [h1]
  have := h.w
  omega

/-- the modes of the stack of template modes have rank at most 3 for EOF and `<table>` -/
theorem rank_tmplMode {m : Mode} (h : tmplModeOk m = true) (c : Cls) (hc : c = .eof ∨ c = .sTable) :
    rank m c ≤ 3 := by
  rcases hc with rfl | rfl <;> cases m <;> first | decide | (simp [tmplModeOk] at h)

theorem rank_resetRange {m : Mode} (h : m ∈ resetRange) (c : Cls) (hc : c = .eof ∨ c = .sTable) :
    rank m c ≤ 3 := by
  rcases hc with rfl | rfl <;> (revert m; decide)

/-! ### what the delegated rules may answer -/

def headStarts : List String :=
  ["html", "base", "basefont", "bgsound", "link", "meta", "title", "noframes", "style", "noscript", "script",
   "template", "head"]

/-- the tokens on which InHead's rules reach "anything else" -/
def headElse : Token → Bool
  | .chars .notWhitespace _ => true
  | .chars _ _ => false
  | .nullChar => true
  | .eof => true
  | .comment _ => false
  | .tag t => if t.kind == .endTag then t.isEnd ["body", "html", "br"] else !(t.isStart headStarts)

/-- `stepInHead` (any calling mode) -/
def EH (s : State) (tok : Token) (r : ProcessResult) (s' : State) : Prop :=
  match r with
  | .reprocess m' _ => m' = .afterHead ∧ headElse tok = true ∧ Shr s s'
  | .splitWhitespace buf => tok = .chars .notSplit buf ∧ s' = s
  | .reprocessForeign _ => False
  | _ => True

def HeadE : Prop := ∀ tok s r s', stepInHead tok s = .ok (r, s') → EH s tok r s'

/-- `stepInBody` (any calling mode): `</html>` → AfterBody, EOF inside a template → the reset mode -/
def EB (s : State) (tok : Token) (r : ProcessResult) (s' : State) : Prop :=
  match r with
  | .reprocess m' _ => (cls tok = .eHtml ∧ m' = .afterBody ∧ WLe s s') ∨ (tok = .eof ∧ Pay s s' m' .eof)
  | .splitWhitespace _ => False
  | .reprocessForeign _ => False
  | _ => True

def BodyE : Prop := ∀ tok s r s', TI s → stepInBody tok s = .ok (r, s') → EB s tok r s'

def isCharsOrNull : Token → Bool
  | .chars _ _ => true
  | .nullChar => true
  | _ => false

/-- `stepInTable` (called from InTable, InTableBody, InRow) -/
def ET (s : State) (tok : Token) (r : ProcessResult) (s' : State) : Prop :=
  match r with
  | .reprocess m' _ =>
    (isCharsOrNull tok = true ∧ m' = .inTableText ∧ WLe s s') ∨
    (cls tok = .sCol ∧ m' = .inColumnGroup ∧ WLe s s') ∨
    ((cls tok = .sTdTh ∨ cls tok = .sTr) ∧ m' = .inTableBody ∧ WLe s s') ∨
    (cls tok = .sTable ∧ Pay s s' m' .sTable) ∨
    (tok = .eof ∧ Pay s s' m' .eof)
  | .splitWhitespace _ => False
  | .reprocessForeign _ => False
  | _ => True

def TableE : Prop := ∀ tok s r s', TI s → tableMode s.mode = true → stepInTable tok s = .ok (r, s') → ET s tok r s'

/-! ### token classes -/

theorem mem_of_isOneOf {n : Str} {l : List String} (h : isOneOf n l = true) : ∃ x ∈ l, x.toList = n := by
  unfold isOneOf at h
  rw [List.any_eq_true] at h
  obtain ⟨x, hx, he⟩ := h
  exact ⟨x, hx, eq_of_beq he⟩

theorem isOneOf_of_mem {n : Str} {l : List String} {x : String} (hx : x ∈ l) (he : x.toList = n) :
    isOneOf n l = true := by
  unfold isOneOf
  rw [List.any_eq_true]
  exact ⟨x, hx, by rw [he]; exact beq_self_eq_true _⟩

theorem start_spec {tag : Tag} {l : List String} (h : tag.isStart l = true) :
    tag.kind = .startTag ∧ ∃ x ∈ l, x.toList = tag.name := by
  unfold Tag.isStart at h
  rw [Bool.and_eq_true] at h
  exact ⟨eq_of_beq h.1, mem_of_isOneOf h.2⟩

theorem end_spec {tag : Tag} {l : List String} (h : tag.isEnd l = true) :
    tag.kind = .endTag ∧ ∃ x ∈ l, x.toList = tag.name := by
  unfold Tag.isEnd at h
  rw [Bool.and_eq_true] at h
  exact ⟨eq_of_beq h.1, mem_of_isOneOf h.2⟩

theorem start_sub {tag : Tag} {l l2 : List String} (h : tag.isStart l = true) (hs : ∀ x ∈ l, x ∈ l2) :
    tag.isStart l2 = true := by
  obtain ⟨hk, x, hx, he⟩ := start_spec h
  unfold Tag.isStart
  rw [hk, isOneOf_of_mem (hs x hx) he]; rfl

theorem end_sub {tag : Tag} {l l2 : List String} (h : tag.isEnd l = true) (hs : ∀ x ∈ l, x ∈ l2) :
    tag.isEnd l2 = true := by
  obtain ⟨hk, x, hx, he⟩ := end_spec h
  unfold Tag.isEnd
  rw [hk, isOneOf_of_mem (hs x hx) he]; rfl

/-- a property of the class of a start tag named in `l` -/
theorem cls_of_isStart {tag : Tag} {l : List String} {P : Cls → Prop} (h : tag.isStart l = true)
    (hall : ∀ x ∈ l, P (clsTag .startTag x.toList)) : P (cls (.tag tag)) := by
  obtain ⟨hk, x, hx, he⟩ := start_spec h
  show P (clsTag tag.kind tag.name)
  rw [hk, ← he]; exact hall x hx

theorem cls_of_isEnd {tag : Tag} {l : List String} {P : Cls → Prop} (h : tag.isEnd l = true)
    (hall : ∀ x ∈ l, P (clsTag .endTag x.toList)) : P (cls (.tag tag)) := by
  obtain ⟨hk, x, hx, he⟩ := end_spec h
  show P (clsTag tag.kind tag.name)
  rw [hk, ← he]; exact hall x hx

/-- … and of a disjunction `isStart l1 || isEnd l2` -/
theorem cls_of_startOrEnd {tag : Tag} {l1 l2 : List String} {P : Cls → Prop}
    (h : (tag.isStart l1 || tag.isEnd l2) = true)
    (h1 : ∀ x ∈ l1, P (clsTag .startTag x.toList)) (h2 : ∀ x ∈ l2, P (clsTag .endTag x.toList)) :
    P (cls (.tag tag)) := by
  rw [Bool.or_eq_true] at h
  rcases h with h | h
  · exact cls_of_isStart h h1
  · exact cls_of_isEnd h h2

/-- the class of a tag determines membership in the lists that define it -/
theorem isStart_of_cls {tag : Tag} {c : Cls} (h : cls (.tag tag) = c) :
    (c = .sTdTh → tag.isStart ["td", "th"] = true) ∧ (c = .sTr → tag.isStart ["tr"] = true) ∧
    (c = .sCol → tag.isStart ["col"] = true) ∧
    (c = .sCapGrp → tag.isStart ["caption", "colgroup", "tbody", "tfoot", "thead"] = true) ∧
    (c = .sTable → tag.isStart ["table"] = true) ∧
    (c = .eHtml → tag.isEnd ["html"] = true) ∧ (c = .eTable → tag.isEnd ["table"] = true) ∧
    (c = .eTbodyGrp → tag.isEnd ["tbody", "tfoot", "thead"] = true) ∧ (c = .eTr → tag.isEnd ["tr"] = true) := by
  have h' : clsTag tag.kind tag.name = c := h
  unfold clsTag at h'
  unfold Tag.isStart Tag.isEnd
  cases hk : tag.kind with
  | startTag =>
    rw [hk] at h'
    dsimp only at h'
    by_cases c1 : isOneOf tag.name ["td", "th"] = true
    · rw [if_pos c1] at h'; subst h'; simp [c1]
    rw [if_neg c1] at h'
    by_cases c2 : isName tag.name "tr" = true
    · rw [if_pos c2] at h'; subst h'; simp [isOneOf, isName] at c2 ⊢; exact c2
    rw [if_neg c2] at h'
    by_cases c3 : isName tag.name "col" = true
    · rw [if_pos c3] at h'; subst h'; simp [isOneOf, isName] at c3 ⊢; exact c3
    rw [if_neg c3] at h'
    by_cases c4 : isOneOf tag.name ["caption", "colgroup", "tbody", "tfoot", "thead"] = true
    · rw [if_pos c4] at h'; subst h'; simp [c4]
    rw [if_neg c4] at h'
    by_cases c5 : isName tag.name "table" = true
    · rw [if_pos c5] at h'; subst h'; simp [isOneOf, isName] at c5 ⊢; exact c5
    rw [if_neg c5] at h'
    subst h'; simp
  | endTag =>
    rw [hk] at h'
    dsimp only at h'
    by_cases c1 : isName tag.name "html" = true
    · rw [if_pos c1] at h'; subst h'; simp [isOneOf, isName] at c1 ⊢; exact c1
    rw [if_neg c1] at h'
    by_cases c2 : isName tag.name "table" = true
    · rw [if_pos c2] at h'; subst h'; simp [isOneOf, isName] at c2 ⊢; exact c2
    rw [if_neg c2] at h'
    by_cases c3 : isOneOf tag.name ["tbody", "tfoot", "thead"] = true
    · rw [if_pos c3] at h'; subst h'; simp [c3]
    rw [if_neg c3] at h'
    by_cases c4 : isName tag.name "tr" = true
    · rw [if_pos c4] at h'; subst h'; simp [isOneOf, isName] at c4 ⊢; exact c4
    rw [if_neg c4] at h'
    subst h'; simp

/-- delegated tokens on which InHead's rules do not reach "anything else" -/
theorem headElse_start {tag : Tag} {l : List String} (h : tag.isStart l = true)
    (hs : ∀ x ∈ l, x ∈ headStarts := by decide) : headElse (.tag tag) = false := by
  have h2 := start_sub h hs
  obtain ⟨hk, _⟩ := start_spec h
  show (if tag.kind == .endTag then _ else !(tag.isStart headStarts)) = false
  rw [hk, h2]; rfl

theorem headElse_end {tag : Tag} {l : List String} (h : tag.isEnd l = true)
    (hs : ∀ x ∈ l, x ∉ ["body", "html", "br"] := by decide) : headElse (.tag tag) = false := by
  obtain ⟨hk, x, hx, he⟩ := end_spec h
  show (if tag.kind == .endTag then tag.isEnd ["body", "html", "br"] else _) = false
  rw [hk]
  show tag.isEnd ["body", "html", "br"] = false
  cases hb : tag.isEnd ["body", "html", "br"] with
  | false => rfl
  | true =>
    obtain ⟨_, y, hy, hye⟩ := end_spec hb
    have : x = y := by
      have : x.toList = y.toList := he.trans hye.symm
      exact String.ext (by simpa using this)
    subst this
    exact absurd hy (hs x hx)

/-! ### delegations -/

/-- rank inequalities -/
syntax "rank_tac" : tactic
macro_rules
  | `(tactic| rank_tac) => `(tactic|
    first
      | decide
      | (dsimp only [cls]; decide)
      | (generalize cls _ = c; cases c <;> decide))

/-- delegation to `stepInBody` from the mode `m` -/
theorem dj_body (hB : BodyE) {m : Mode} {tok : Token}
    (h1 : cls tok = .eHtml → 0 < rank m .eHtml) : DJ (stepInBody tok) m tok := by
  intro s r s' ht hm hr
  have he := hB tok s r s' ht hr
  cases r with
  | reprocess m' t =>
    rcases he with ⟨hc, rfl, hw⟩ | ⟨rfl, hp⟩
    · refine dec_of_rank hw (Or.inl (by decide)) ?_
      rw [hc]; exact h1 hc
    · exact dec_of_payS rfl hp
  | splitWhitespace b => exact he.elim
  | reprocessForeign t => exact he.elim
  | _ => trivial

/-- `stepInHead` on a token that does not reach its "anything else" -/
theorem ro_stepInHead (hH : HeadE) {tok : Token} (hq : headElse tok = false)
    (hns : ∀ b, tok ≠ .chars .notSplit b) : RO (stepInHead tok) Quiet := by
  intro s r s' hr
  have he := hH tok s r s' hr
  cases r with
  | reprocess m' t =>
    have h2 : headElse tok = true := he.2.1
    rw [hq] at h2; cases h2
  | splitWhitespace b => exact absurd he.1 (hns b)
  | reprocessForeign t => exact he.elim
  | _ => trivial

/-- delegation to `stepInHead` of a token that does not reach InHead's "anything else" -/
theorem dj_head (hH : HeadE) {m : Mode} {tok : Token} (hq : headElse tok = false)
    (hns : ∀ b, tok ≠ .chars .notSplit b) : DJ (stepInHead tok) m tok :=
  dj_of_ro (ro_stepInHead hH hq hns)

/-- InHead itself -/
theorem dj_stepInHead (hH : HeadE) (tok : Token) : DJ (stepInHead tok) .inHead tok := by
  intro s r s' ht hm hr
  have he := hH tok s r s' hr
  cases r with
  | reprocess m' t =>
    obtain ⟨rfl, _, hs⟩ := he
    exact dec_of_rank (hs.wle ht.h.open_el) (Or.inl (by decide)) (by rank_tac)
  | splitWhitespace b => obtain ⟨h1, rfl⟩ := he; exact ⟨h1, hm⟩
  | reprocessForeign t => exact he.elim
  | _ => trivial

theorem rank_tableText {m : Mode} {tok : Token} (hm : tableMode m = true) (ht : isCharsOrNull tok = true) :
    rank .inTableText (cls tok) < rank m (cls tok) := by
  cases tok with
  | chars st x =>
    show rank .inTableText .chars < rank m .chars
    cases m <;> first | decide | (simp [tableMode] at hm; done)
  | nullChar =>
    show rank .inTableText .null < rank m .null
    cases m <;> first | decide | (simp [tableMode] at hm; done)
  | _ => simp [isCharsOrNull] at ht

theorem rank_colGroup {m : Mode} (hm : tableMode m = true) : rank .inColumnGroup .sCol < rank m .sCol := by
  cases m <;> first | decide | (simp [tableMode] at hm; done)

/-- delegation to `stepInTable` from a table mode `m` -/
theorem dj_table (hT : TableE) {m : Mode} {tok : Token} (htm : tableMode m = true)
    (h3 : cls tok = .sTdTh ∨ cls tok = .sTr → rank .inTableBody (cls tok) < rank m (cls tok)) :
    DJ (stepInTable tok) m tok := by
  intro s r s' ht hm hr
  have he := hT tok s r s' ht (by rw [hm]; exact htm) hr
  cases r with
  | reprocess m' t =>
    rcases he with ⟨hc, rfl, hw⟩ | ⟨hc, rfl, hw⟩ | ⟨hc, rfl, hw⟩ | ⟨hc, hp⟩ | ⟨rfl, hp⟩
    · exact dec_of_rank hw (Or.inl (by decide)) (rank_tableText htm hc)
    · exact dec_of_rank hw (Or.inl (by decide)) (by rw [hc]; exact rank_colGroup htm)
    · exact dec_of_rank hw (Or.inl (by decide)) (h3 hc)
    · refine dec_of_payS ?_ (by rw [hc]; exact hp)
      cases tok <;> first | rfl | (simp [cls] at hc)
    · exact dec_of_payS rfl hp
  | splitWhitespace b => exact he.elim
  | reprocessForeign t => exact he.elim
  | _ => trivial

end H5V.Lemmas.TBFuel
