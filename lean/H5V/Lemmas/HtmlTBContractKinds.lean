import H5V.Lemmas.DomClone
/-!
# TreeSink contract for the HTML tree builder: node kinds never change

`KExt d d'`: every node of `d` is a node of `d'` of the same kind (document / doctype / text /
comment / element / processing instruction).  `apply_kext`: every successful `Dom.apply` — inside the
contract or not — keeps the kinds (only attributes and text contents change).  In particular a
`Document` node (the document, template contents) stays one.
(Same case analysis as `H5V.Lemmas.TBSafe.apply_ext`.)
-/
namespace H5V.Lemmas.TBC
open H5V.Model.Dom (Id QualName Attr NodeOrText SinkOp Output ElementFlags QuirksMode Dom NodeData Node)
open H5V.Lemmas.Dom

def kindOf : NodeData → Nat
  | .document => 0
  | .doctype .. => 1
  | .text _ => 2
  | .comment _ => 3
  | .element .. => 4
  | .pi .. => 5

/-- every node of `d` is a node of `d'` with the same kind -/
def KExt (d d' : Dom) : Prop := ∀ x, x < d.size → (d'.dataOf x).map kindOf = (d.dataOf x).map kindOf

theorem KExt.refl (d : Dom) : KExt d d := fun _ _ => rfl

theorem lt_of_data {d : Dom} {x : Id} {v : NodeData} (h : d.dataOf x = some v) : x < d.size :=
  lt_of_dataOf_some h

theorem KExt.size_le {d d' : Dom} (h : KExt d d') : d.size ≤ d'.size := by
  refine Nat.le_of_not_lt (fun hlt => ?_)
  have h1 := h d'.size hlt
  obtain ⟨nd, hnd⟩ := node?_of_lt hlt
  have hd : d.dataOf d'.size = some nd.data := dataOf_of_node hnd
  rw [hd] at h1
  cases hd' : d'.dataOf d'.size with
  | none => rw [hd'] at h1; cases h1
  | some v => exact Nat.lt_irrefl _ (lt_of_data hd')

theorem KExt.trans {a b c : Dom} (h1 : KExt a b) (h2 : KExt b c) : KExt a c :=
  fun x hx => (h2 x (Nat.lt_of_lt_of_le hx h1.size_le)).trans (h1 x hx)

theorem kext_of_data {d d' : Dom} (h : ∀ x, x < d.size → d'.dataOf x = d.dataOf x) : KExt d d' :=
  fun x hx => by rw [h x hx]

theorem kext_of_data_all {d d' : Dom} (h : ∀ x, d'.dataOf x = d.dataOf x) : KExt d d' :=
  kext_of_data (fun x _ => h x)

/-- data changes at one node, keeping its kind -/
theorem kext_of_data_one {d d' : Dom} {t : Id} {v : NodeData}
    (h : ∀ x, d'.dataOf x = if x = t then some v else d.dataOf x)
    (hv : ∀ w, d.dataOf t = some w → kindOf v = kindOf w) : KExt d d' := by
  intro x hx
  rw [h x]
  by_cases hi : x = t
  · subst hi
    obtain ⟨nd, hnd⟩ := node?_of_lt hx
    have hd : d.dataOf x = some nd.data := dataOf_of_node hnd
    simp only [if_true, hd, Option.map_some]
    rw [hv _ hd]
  · simp [hi]

theorem kext_alloc (d : Dom) (data : NodeData) : KExt d (d.alloc data).1 :=
  kext_of_data (fun x hx => by rw [dataOf_alloc]; simp [Nat.ne_of_lt hx])

theorem kext_setNode_same {d : Dom} {i : Id} {n0 : Node} (h0 : d.node? i = some n0) (n : Node)
    (hd : n.data = n0.data) : ∀ x, (d.setNode i n).dataOf x = d.dataOf x := by
  intro x
  rw [dataOf_setNode h0]
  by_cases hx : x = i
  · subst hx; simp [dataOf_of_node h0, hd]
  · simp [hx]

/-! ### the free functions of rcdom -/

theorem appendRaw_data {d d' : Dom} {p c : Id} (h : d.appendRaw p c = .ok d') :
    ∀ x, d'.dataOf x = d.dataOf x := by
  unfold Dom.appendRaw at h
  simp only [bind, Except.bind] at h
  cases hc : d.get c with
  | error e => simp [hc] at h
  | ok cn =>
    have hcn := get_ok.mp hc
    simp only [hc] at h
    by_cases hpar : cn.parent.isSome = true
    · simp [hpar, throw, throwThe, MonadExceptOf.throw] at h
    · simp only [hpar] at h
      have h1 := kext_setNode_same hcn { cn with parent := some p } rfl
      cases hp : (d.setNode c { cn with parent := some p }).get p with
      | error e => simp [hp] at h
      | ok pn =>
        have hpn := get_ok.mp hp
        simp only [hp] at h
        simp at h
        subst h
        intro x
        exact (kext_setNode_same hpn { pn with children := pn.children ++ [c] } rfl x).trans (h1 x)

theorem removeFromParent_data' {d d' : Dom} {t : Id} (h : d.removeFromParent t = .ok d') :
    ∀ x, d'.dataOf x = d.dataOf x := removeFromParent_data h

theorem insertAtIndex_data {d d' : Dom} {P c : Id} {i : Nat} (h : d.insertAtIndex P i c = .ok d') :
    ∀ x, d'.dataOf x = d.dataOf x := by
  obtain ⟨d1, hr, _, _, _, _, _, hd, _, _⟩ := insertAtIndex_ok h
  intro x; rw [hd, removeFromParent_data hr]

theorem kext_append {d d' : Dom} {p : Id} {ch : NodeOrText} (h : d.append p ch = .ok d') : KExt d d' := by
  cases ch with
  | node c => rw [append_node_eq] at h; exact kext_of_data_all (appendRaw_data h)
  | text s =>
    obtain ⟨_, h1 | h2⟩ := append_text_ok h
    · obtain ⟨hl, old, _, hdl, _, hd, _⟩ := h1
      exact kext_of_data_one hd (fun w hw => by rw [hdl] at hw; cases hw; exact rfl)
    · exact (kext_alloc d _).trans (kext_of_data_all (appendRaw_data h2.2))

theorem kext_appendBeforeSibling {d d' : Dom} {s : Id} {ch : NodeOrText}
    (h : d.appendBeforeSibling s ch = .ok d') : KExt d d' := by
  obtain ⟨P, i, _, _, _, hm⟩ := appendBeforeSibling_ok h
  cases ch with
  | node c => exact kext_of_data_all (insertAtIndex_data hm)
  | text t =>
    rcases hm with ⟨prev, old, _, _, hdl, _, hd, _⟩ | ⟨_, h2⟩
    · exact kext_of_data_one hd (fun w hw => by rw [hdl] at hw; cases hw; exact rfl)
    · exact (kext_alloc d _).trans (kext_of_data_all (insertAtIndex_data h2))

theorem kext_preDetach {b : Dom.BeforeSiblingVariant} {d d' : Dom} {ch : NodeOrText}
    (h : Dom.preDetach b d ch = .ok d') : KExt d d' := by
  cases ch with
  | text t => simp [Dom.preDetach] at h; subst h; exact KExt.refl _
  | node c =>
    cases b with
    | asCode => simp [Dom.preDetach] at h; subst h; exact KExt.refl _
    | detachFirst => exact kext_of_data_all (removeFromParent_data (by simpa [Dom.preDetach] using h))

theorem kext_appendBeforeSiblingV {b : Dom.BeforeSiblingVariant} {d d' : Dom} {s : Id} {ch : NodeOrText}
    (h : Dom.appendBeforeSiblingV b d s ch = .ok d') : KExt d d' := by
  unfold Dom.appendBeforeSiblingV at h
  simp only [bind, Except.bind] at h
  cases hp : Dom.preDetach b d ch with
  | error e => simp [hp] at h
  | ok d1 =>
    simp only [hp] at h
    exact (kext_preDetach hp).trans (kext_appendBeforeSibling h)

theorem kext_appendBasedOnParentNodeV {b : Dom.BeforeSiblingVariant} {d d' : Dom} {e p : Id} {ch : NodeOrText}
    (h : Dom.appendBasedOnParentNodeV b d e p ch = .ok d') : KExt d d' := by
  unfold Dom.appendBasedOnParentNodeV at h
  simp only [bind, Except.bind] at h
  cases he : d.get e with
  | error x => simp [he] at h
  | ok en =>
    simp only [he] at h
    split at h
    · exact kext_appendBeforeSiblingV h
    · exact kext_append h

theorem kext_appendDoctype {d d' : Dom} {n p s : List Char} (h : d.appendDoctypeToDocument n p s = .ok d') :
    KExt d d' := by
  unfold Dom.appendDoctypeToDocument at h
  exact (kext_alloc d _).trans (kext_of_data_all (appendRaw_data h))

theorem kext_addAttrs {d d' : Dom} {t : Id} {attrs : List Attr} (h : d.addAttrsIfMissing t attrs = .ok d') :
    KExt d d' := by
  obtain ⟨name, existing, tc, ip, hdt, _, hd, _⟩ := addAttrsIfMissing_ok h
  exact kext_of_data_one hd (fun w hw => by rw [hdt] at hw; cases hw; exact rfl)

theorem kext_reparentChildren {d d' : Dom} {n np : Id} (h : d.reparentChildren n np = .ok d') : KExt d d' := by
  obtain ⟨_, _, _, _, _, hd, _, _⟩ := reparentChildren_ok h
  exact kext_of_data_all hd

/-! ### `maybe_clone_an_option_into_selectedcontent` (no invariant assumed) -/

theorem kext_cloneKidsWith {cl : Dom → Id → Except String (Dom × Id)}
    (hcl : ∀ d c d' k, cl d c = .ok (d', k) → KExt d d') (p : Id) :
    ∀ (cs : List Id) (d d' : Dom), Dom.cloneKidsWith cl p d cs = .ok d' → KExt d d' := by
  intro cs
  induction cs with
  | nil => intro d d' h; simp [Dom.cloneKidsWith] at h; subst h; exact KExt.refl _
  | cons c cs ih =>
    intro d d' h
    simp only [Dom.cloneKidsWith, bind, Except.bind] at h
    cases h1 : cl d c with
    | error e => simp [h1] at h
    | ok r =>
      obtain ⟨d1, k⟩ := r
      simp only [h1] at h
      cases h2 : d1.appendRaw p k with
      | error e => simp [h2] at h
      | ok d2 =>
        simp only [h2] at h
        exact ((hcl _ _ _ _ h1).trans (kext_of_data_all (appendRaw_data h2))).trans (ih _ _ h)

theorem bind_ok {ε α β : Type} {x : Except ε α} {f : α → Except ε β} {b : β}
    (h : (x >>= f) = .ok b) : ∃ a, x = .ok a ∧ f a = .ok b := by
  cases x with
  | error e => simp [bind, Except.bind] at h
  | ok a => exact ⟨a, rfl, by simpa [bind, Except.bind] using h⟩

theorem kext_cloneFixed : ∀ (fuel : Nat) (d : Dom) (x : Id) (d' : Dom) (k : Id),
    Dom.cloneFixed d fuel x = .ok (d', k) → KExt d d' := by
  intro fuel
  induction fuel with
  | zero => intro d x d' k h; simp [Dom.cloneFixed] at h
  | succ fuel ih =>
    intro d x d' k h
    simp only [Dom.cloneFixed] at h
    obtain ⟨n, _, h⟩ := bind_ok h
    have fin : ∀ (d1 : Dom) (data : NodeData), KExt d d1 →
        (Dom.cloneKidsWith (fun d c => Dom.cloneFixed d fuel c) (d1.alloc data).2 (d1.alloc data).1 n.children
          >>= fun d2 => (Except.ok (d2, (d1.alloc data).2) : Except String (Dom × Id))) = .ok (d', k) →
        KExt d d' := by
      intro d1 data he hh
      obtain ⟨d2, hk, hh⟩ := bind_ok hh
      simp only [Except.ok.injEq, Prod.mk.injEq] at hh
      rw [← hh.1]
      exact (he.trans (kext_alloc d1 data)).trans
        (kext_cloneKidsWith (fun a c a' k' hc => ih a c a' k' hc) _ _ _ _ hk)
    split at h
    · obtain ⟨⟨dt, tc'⟩, ht, h⟩ := bind_ok h
      exact fin dt _ (ih _ _ _ _ ht) h
    · exact fin d _ (KExt.refl d) h

theorem kext_cloneListWith {cl : Dom → Id → Except String (Dom × Id)}
    (hcl : ∀ d c d' k, cl d c = .ok (d', k) → KExt d d') :
    ∀ (cs : List Id) (d d' : Dom) (ks : List Id), Dom.cloneListWith cl d cs = .ok (d', ks) → KExt d d' := by
  intro cs
  induction cs with
  | nil => intro d d' ks h; simp [Dom.cloneListWith] at h; rw [← h.1]; exact KExt.refl _
  | cons c cs ih =>
    intro d d' ks h
    simp only [Dom.cloneListWith, bind, Except.bind] at h
    cases h1 : cl d c with
    | error e => simp [h1] at h
    | ok r =>
      obtain ⟨d1, k⟩ := r
      simp only [h1] at h
      cases h2 : Dom.cloneListWith cl d1 cs with
      | error e => simp [h2] at h
      | ok r2 =>
        obtain ⟨d2, ks2⟩ := r2
        simp only [h2] at h
        cases h
        exact (hcl _ _ _ _ h1).trans (ih _ _ _ h2)

theorem clearParents_data : ∀ (cs : List Id) (d : Dom) (x : Id), (Dom.clearParents d cs).dataOf x = d.dataOf x := by
  intro cs
  induction cs with
  | nil => intro d x; rfl
  | cons c cs ih =>
    intro d x
    simp only [Dom.clearParents]
    rw [ih]
    cases hc : d.nodes[c]? with
    | none => rfl
    | some cn =>
      have hcn : d.node? c = some cn := hc
      exact kext_setNode_same hcn { cn with parent := none } rfl x

theorem detachChildren_data {d d' : Dom} {p : Id} (h : d.detachChildren p = .ok d') :
    ∀ x, d'.dataOf x = d.dataOf x := by
  unfold Dom.detachChildren at h
  simp only [bind, Except.bind] at h
  cases hp : d.get p with
  | error e => simp [hp] at h
  | ok pn =>
    simp only [hp] at h
    cases hp2 : (d.clearParents pn.children).get p with
    | error e => simp [hp2] at h
    | ok pn2 =>
      simp only [hp2] at h
      cases h
      intro x
      exact (kext_setNode_same (get_ok.mp hp2) { pn2 with children := [] } rfl x).trans (clearParents_data _ _ x)

theorem attachAll_data {p : Id} : ∀ (ks : List Id) (d d' : Dom), d.attachAll p ks = .ok d' →
    ∀ x, d'.dataOf x = d.dataOf x := by
  intro ks
  induction ks with
  | nil => intro d d' h; simp [Dom.attachAll] at h; subst h; intro x; rfl
  | cons k ks ih =>
    intro d d' h
    simp only [Dom.attachAll, bind, Except.bind] at h
    cases h1 : d.appendRaw p k with
    | error e => simp [h1] at h
    | ok d1 =>
      simp only [h1] at h
      intro x; rw [ih _ _ h, appendRaw_data h1]

theorem kext_maybeCloneOption_fixed {d d' : Dom} {o : Id} (h : d.maybeCloneOption .fixed o = .ok d') :
    KExt d d' := by
  unfold Dom.maybeCloneOption at h
  simp only [bind, Except.bind] at h
  cases ht : d.cloneTarget .fixed o with
  | error e => simp [ht] at h
  | ok r =>
    simp only [ht] at h
    cases r with
    | none => simp at h; subst h; exact KExt.refl _
    | some sc =>
      simp only at h
      unfold Dom.cloneOptionInto at h
      simp only [bind, Except.bind] at h
      cases ho : d.get o with
      | error e => simp [ho] at h
      | ok on =>
        simp only [ho] at h
        cases h1 : Dom.cloneListWith (fun d c => Dom.cloneFixed d (d.size + 1) c) d on.children with
        | error e => simp [h1] at h
        | ok r1 =>
          obtain ⟨d1, frag⟩ := r1
          simp only [h1] at h
          cases h2 : d1.detachChildren sc with
          | error e => simp [h2] at h
          | ok d2 =>
            simp only [h2] at h
            exact ((kext_cloneListWith (fun a c a' k hc => kext_cloneFixed _ a c a' k hc) _ _ _ _ h1).trans
              (kext_of_data_all (detachChildren_data h2))).trans (kext_of_data_all (attachAll_data _ _ _ h))

/-! ### every sink call -/

theorem kext_createElement (d : Dom) (name : QualName) (attrs : List Attr) (flags : ElementFlags) :
    KExt d (d.createElement name attrs flags).1 := by
  unfold Dom.createElement
  split
  · exact (kext_alloc d _).trans (kext_alloc _ _)
  · exact kext_alloc d _

/-- **every successful sink call extends the arena** (no contract, no invariant assumed) -/
theorem apply_kext {d d' : Dom} {op : SinkOp} {out : Output} (h : d.apply op = .ok (d', out)) : KExt d d' := by
  unfold Dom.apply Dom.cloneVariant Dom.beforeSiblingVariant at h
  cases op with
  | parseError msg => simp [Dom.applyV] at h; rw [← h.1]; exact kext_of_data_all (fun _ => rfl)
  | getDocument => simp [Dom.applyV] at h; rw [← h.1]; exact KExt.refl _
  | elemName t =>
    simp only [Dom.applyV, bind, Except.bind] at h
    cases he : d.elemName t with
    | error e => simp [he] at h
    | ok r => simp [he] at h; rw [← h.1]; exact KExt.refl _
  | createElement name attrs flags =>
    simp [Dom.applyV] at h; rw [← h.1]; exact kext_createElement d name attrs flags
  | createComment text => simp [Dom.applyV, Dom.createComment] at h; rw [← h.1]; exact kext_alloc d _
  | createPi t dd => simp [Dom.applyV, Dom.createPi] at h; rw [← h.1]; exact kext_alloc d _
  | append p c =>
    simp only [Dom.applyV, bind, Except.bind] at h
    cases he : d.append p c with
    | error e => simp [he] at h
    | ok r => simp [he] at h; rw [← h.1]; exact kext_append he
  | appendBasedOnParentNode e p c =>
    simp only [Dom.applyV, bind, Except.bind] at h
    cases he : Dom.appendBasedOnParentNodeV .detachFirst d e p c with
    | error e => simp [he] at h
    | ok r => simp [he] at h; rw [← h.1]; exact kext_appendBasedOnParentNodeV he
  | appendDoctypeToDocument n p s =>
    simp only [Dom.applyV, bind, Except.bind] at h
    cases he : d.appendDoctypeToDocument n p s with
    | error e => simp [he] at h
    | ok r => simp [he] at h; rw [← h.1]; exact kext_appendDoctype he
  | markScriptAlreadyStarted n => simp [Dom.applyV] at h; rw [← h.1]; exact KExt.refl _
  | pop n => simp [Dom.applyV] at h; rw [← h.1]; exact KExt.refl _
  | getTemplateContents t =>
    simp only [Dom.applyV, bind, Except.bind] at h
    cases he : d.getTemplateContents t with
    | error e => simp [he] at h
    | ok r => simp [he] at h; rw [← h.1]; exact KExt.refl _
  | sameNode x y => simp [Dom.applyV] at h; rw [← h.1]; exact KExt.refl _
  | setQuirksMode m => simp [Dom.applyV] at h; rw [← h.1]; exact kext_of_data_all (fun _ => rfl)
  | appendBeforeSibling s c =>
    simp only [Dom.applyV, bind, Except.bind] at h
    cases he : Dom.appendBeforeSiblingV .detachFirst d s c with
    | error e => simp [he] at h
    | ok r => simp [he] at h; rw [← h.1]; exact kext_appendBeforeSiblingV he
  | addAttrsIfMissing t a =>
    simp only [Dom.applyV, bind, Except.bind] at h
    cases he : d.addAttrsIfMissing t a with
    | error e => simp [he] at h
    | ok r => simp [he] at h; rw [← h.1]; exact kext_addAttrs he
  | associateWithForm a b c e => simp [Dom.applyV] at h; rw [← h.1]; exact KExt.refl _
  | removeFromParent t =>
    simp only [Dom.applyV, bind, Except.bind] at h
    cases he : d.removeFromParent t with
    | error e => simp [he] at h
    | ok r => simp [he] at h; rw [← h.1]; exact kext_of_data_all (removeFromParent_data he)
  | reparentChildren n np =>
    simp only [Dom.applyV, bind, Except.bind] at h
    cases he : d.reparentChildren n np with
    | error e => simp [he] at h
    | ok r => simp [he] at h; rw [← h.1]; exact kext_reparentChildren he
  | isMathmlAnnotationXmlIntegrationPoint t =>
    simp only [Dom.applyV, bind, Except.bind] at h
    cases he : d.isMathmlAnnotationXmlIntegrationPoint t with
    | error e => simp [he] at h
    | ok r => simp [he] at h; rw [← h.1]; exact KExt.refl _
  | setCurrentLine l => simp [Dom.applyV] at h; rw [← h.1]; exact KExt.refl _
  | allowDeclarativeShadowRoots p => simp [Dom.applyV] at h; rw [← h.1]; exact KExt.refl _
  | attachDeclarativeShadow l t a => simp [Dom.applyV] at h; rw [← h.1]; exact KExt.refl _
  | maybeCloneAnOptionIntoSelectedcontent o =>
    simp only [Dom.applyV, bind, Except.bind] at h
    cases he : d.maybeCloneOption .fixed o with
    | error e => simp [he] at h
    | ok r => simp [he] at h; rw [← h.1]; exact kext_maybeCloneOption_fixed he

end H5V.Lemmas.TBC
