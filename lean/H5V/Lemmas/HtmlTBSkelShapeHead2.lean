import H5V.Lemmas.HtmlTBSkelShapeHead
/-!
C06, second invariant layer: InHead (the current node is `head`).
-/
namespace H5V.Props.C06
open H5V.Model.Dom hiding Str
open H5V.Model.HtmlTB hiding Str
open H5V.Lemmas.Dom

/-- the current node is an element other than the root, neither a foster-parenting target nor a template -/
structure Inner (s : State) (r t : Id) : Prop where
  last : s.openElems.getLast? = some t
  ne : t ≠ r
  nf : fosterTarget (nm s.dom t) = false
  nt : nm s.dom t ≠ hN "template"

/-- `insert_element` without pushing, below such a node -/
theorem insertNoPush_inner {s s' : State} {r t : Id} {up : List Id} {ph : Phase} {ns name : Str} {attrs : List Attr}
    {dup : Bool} {el : Id} (hc : Core s r up ph) (hi : Inner s r t)
    (e : insertElement false ns name attrs dup s = .ok (el, s')) :
    Core s' r up ph ∧ SameNames s.dom s'.dom up ∧ DomOnly s s' := by
  obtain ⟨s5, hs', hres⟩ := insertElement_res hc hi.last hi.nf hi.nt e
  simp only [Bool.false_eq_true, if_false] at hs'
  subst hs'
  obtain ⟨hc5, hsn, _⟩ := hc.insInner hres hi.ne
  exact ⟨hc5, hsn, hres.dom⟩

/-- `insert_element` with pushing, below such a node: the pieces from which the caller builds the invariant -/
theorem insertPush_inner {s s' : State} {r t : Id} {up : List Id} {ph : Phase} {ns name : Str} {attrs : List Attr}
    {dup : Bool} {el : Id} (hc : Core s r up ph) (hi : Inner s r t) (hpk : PushOk s ⟨ns, name⟩)
    (e : insertElement true ns name attrs dup s = .ok (el, s')) :
    Core s' r (up ++ [el]) ph ∧ SameNames s.dom s'.dom up ∧ nm s'.dom el = ⟨ns, name⟩ ∧
      s'.headElem = s.headElem ∧ s'.mode = s.mode ∧ s'.origMode = s.origMode ∧
      s'.openElems = s.openElems ++ [el] := by
  obtain ⟨s5, hs', hres⟩ := insertElement_res hc hi.last hi.nf hi.nt e
  simp only [if_true] at hs'
  subst hs'
  obtain ⟨_, hsn, hpush⟩ := hc.insInner hres hi.ne
  obtain ⟨f1, f2, f3, f4, _⟩ := hres.fields
  exact ⟨hpush hpk, hsn, hres.nmel, f2, f3, f4, by show s5.openElems ++ [el] = _; rw [f1]⟩

instance (s : Str) : NR (pure (.encodingIndicator s) : M ProcessResult) :=
  ⟨fun _ res _ e => by rw [← (pure_ok.mp e).1]; exact ⟨(by intro m t h; cases h), (by intro t h; cases h)⟩⟩

/-- entering the Text mode from a mode other than Text / InTableText -/
theorem toRawTextMode_shape {s s' : State} {r x : Id} {up0 : List Id} {ph : Phase} {k : H5V.Model.HtmlTok.RawKind}
    {res : ProcessResult} (hc : Core s r (up0 ++ [x]) ph) (h1 : s.mode ≠ .text) (h2 : s.mode ≠ .inTableText)
    (hfit : Fits s.dom s.headElem s.mode up0 ph)
    (hx : htmlIn (nm s.dom x) ["table", "tbody", "tfoot", "thead", "tr", "template"] = false)
    (hxns : (nm s.dom x).ns = nsHtml)
    (e : toRawTextMode k s = .ok (res, s')) : Good r s' ∧ NoRe res := by
  obtain ⟨u, s1, e1, e2⟩ := bind_ok.mp e
  obtain ⟨rfl, rfl⟩ := pure_ok.mp e2
  rw [modS_ok.mp e1]
  refine ⟨Good.mk' ⟨hc.modes rfl (by intro o ho; cases ho; exact isLate_of_fits hfit), ?_⟩,
    ⟨(by intro m t h; cases h), (by intro t h; cases h)⟩⟩
  show FitsM _ (up0 ++ [x]) ph
  unfold FitsM
  exact ⟨s.mode, up0, x, rfl, rfl, h1, h2, hfit, hx, hxns⟩


/-- the outcome of the arms of the InHead rules that do not change the mode (except into Text) -/
inductive HeadOut (r : Id) (s : State) (up : List Id) (ph : Phase) (s' : State) (res : ProcessResult) : Prop
  | same : Core s' r up ph → SameNames s.dom s'.dom up → s'.headElem = s.headElem → s'.mode = s.mode →
      s'.origMode = s.origMode → s'.openElems = s.openElems → NoRe res → HeadOut r s up ph s' res
  | text (el : Id) : Core s' r (up ++ [el]) ph → SameNames s.dom s'.dom up → s'.headElem = s.headElem →
      s'.mode = .text → s'.origMode = some s.mode → s'.openElems = s.openElems ++ [el] →
      keepName (nm s'.dom el) = false ∧ (nm s'.dom el).ns = nsHtml → NoRe res →
      HeadOut r s up ph s' res

/-- `parse_raw_data` below an inner node -/
theorem head_raw {s s' : State} {r t : Id} {up : List Id} {ph : Phase} {tag : Tag} {k : H5V.Model.HtmlTok.RawKind}
    {res : ProcessResult} (hc : Core s r up ph) (hi : Inner s r t) (hk : keepName ⟨nsHtml, tag.name⟩ = false)
    (e : parseRawData tag k s = .ok (res, s')) : HeadOut r s up ph s' res := by
  unfold parseRawData at e
  obtain ⟨el, s1, e1, e2⟩ := bind_ok.mp e
  obtain ⟨hc1, hsn, hnm, hh, hm, ho, hst⟩ := insertPush_inner hc hi (PushOk.of_plain hk) e1
  obtain ⟨u, s2, e3, e4⟩ := bind_ok.mp e2
  obtain ⟨rfl, rfl⟩ := pure_ok.mp e4
  rw [modS_ok.mp e3]
  refine .text el (hc1.modes rfl (by intro o ho'; cases ho'; exact hc1.late.ml.mode)) hsn hh rfl
    (by show some s1.mode = _; rw [hm]) hst ?_ ⟨(by intro m t h; cases h), (by intro t h; cases h)⟩
  show keepName (nm s1.dom el) = false ∧ (nm s1.dom el).ns = nsHtml
  rw [hnm]
  exact ⟨hk, rfl⟩

/-- the `<script>` arm below an inner node -/
theorem head_script {s s' : State} {r t : Id} {up : List Id} {ph : Phase} {tag : Tag} {res : ProcessResult}
    (hc : Core s r up ph) (hi : Inner s r t)
    (e : (createElementWithFlags (htmlQual "script".toList) tag.attrs tag.hadDup >>= fun elem =>
      (isFragment >>= fun b => if b = true then sinkUnit (.markScriptAlreadyStarted elem) >>= fun _ =>
          insertAppropriately (.node elem) none >>= fun _ => push elem >>= fun _ => toRawTextMode .scriptData
        else insertAppropriately (.node elem) none >>= fun _ => push elem >>= fun _ => toRawTextMode .scriptData)) s
      = .ok (res, s')) : HeadOut r s up ph s' res := by
  obtain ⟨el, s1, e1, e2⟩ := bind_ok.mp e
  obtain ⟨hc1, hdo1, hchg1, hfresh1, hel1, hnm1, hnol1⟩ := createElement_core hc e1
  obtain ⟨_, hpar1, hkids1, htxt1, htc1, _, _, _, _⟩ := createElement_adj hc.late hc.adj e1
  obtain ⟨fr, s2, e3, e4⟩ := bind_ok.mp e2
  have q2 : QS s1 s2 := IsQ.q _ _ _ e3
  have hc2 := hc1.qs q2
  -- the tail from a state that differs from s2 by queries only
  have tail : ∀ s3 : State, QS s2 s3 →
      (insertAppropriately (.node el) none >>= fun _ => push el >>= fun _ => toRawTextMode .scriptData) s3
        = .ok (res, s') → HeadOut r s up ph s' res := by
    intro s3 q3 e5
    have q13 := q2.trans q3
    have hc3 := hc1.qs q13
    obtain ⟨_, s4, e6, e7⟩ := bind_ok.mp e5
    unfold insertAppropriately at e6
    obtain ⟨ip, s4', e8, e9⟩ := bind_ok.mp e6
    have hn3 : ∀ y, s.dom.isElement y = true → nm s3.dom y = nm s.dom y := fun y hy => by
      rw [q13.nm, nm_chg hchg1 hy]
    have hte : s.dom.isElement t = true := hc.late.st.oe t (mem_of_getLast?' hi.last)
    have hl3 : s3.openElems.getLast? = some t := by rw [q13.openElems, hdo1]; exact hi.last
    obtain ⟨q4, hip⟩ := apfi_plain e8 hl3 (by rw [hn3 t hte]; exact hi.nf) (by rw [hn3 t hte]; exact hi.nt)
    subst hip
    have hc4 := hc3.qs q4
    have hq14 := q13.trans q4
    have hnol4 : ∀ q, el ∉ s4'.dom.childrenOf q := fun q => by
      rw [childrenOf_of_nodes hq14.nodes]; exact hnol1 q
    have hel4 : s4'.dom.isElement el = true := by rw [isElement_of_nodes hq14.nodes]; exact hel1
    have hte4 : s4'.dom.isElement t = true := by
      rw [isElement_of_nodes hq14.nodes]; exact hchg1.isElement hte
    have hipok : IpOk s4'.dom (.lastChild t) :=
      ⟨ne_zero_of_isElement hc4.late.base hte4, isContainer_of_isElement hte4⟩
    obtain ⟨hl5, hext5, hk05, hdo5⟩ := insertAt_spec (child := .node el) hc4.late hipok
      (Loose.childOk ⟨hel4, hnol4 0⟩) e9
    have htel : t ≠ el := by
      intro h0
      have : t < s.dom.size := lt_of_isElement hte
      rw [h0] at this
      exact Nat.lt_irrefl _ (Nat.lt_of_lt_of_le this hfresh1)
    have hrs : RS r s4'.dom s4.dom :=
      insertAt_rs (child := .node el) (ip := .lastChild t) hc4.late.base hc4.rtu hi.ne ⟨hnol4 r, fun p hp => by
        simp only [InsertionPoint.nodes] at hp
        rcases hp with rfl | hp
        · exact htel
        · cases hp⟩ e9
    have hst4' : s4'.openElems = s.openElems := by rw [hq14.openElems, hdo1]
    have hfr' : el ∉ s4'.openElems := by
      rw [hst4']; intro hm
      exact Nat.lt_irrefl _ (Nat.lt_of_lt_of_le (lt_of_isElement (hc.late.st.oe el hm)) hfresh1)
    have htlt : t < s.dom.size := lt_of_isElement hte
    have hcand : ∀ p, (InsertionPoint.lastChild t).nodes.1 = p ∨ (InsertionPoint.lastChild t).nodes.2 = some p →
        p ≠ el := by
      intro p hp
      simp only [InsertionPoint.nodes] at hp
      rcases hp with rfl | hp
      · exact htel
      · cases hp
    obtain ⟨hadj5, hadj5p⟩ := insertAt_new_adj (el := el) hc4.late hipok hc4.adj hfr'
      (by rw [parentOf_of_nodes hq14.nodes]; exact hpar1)
      (by rw [isText_of_data (d := s1.dom) (by unfold Dom.dataOf; rw [hq14.nodes])]; exact htxt1)
      (by rw [childrenOf_of_nodes hq14.nodes]; exact hkids1)
      (fun tc htc => by
        rw [tc_of_nodes hq14.nodes] at htc
        obtain ⟨h1, h2⟩ := htc1 tc htc
        refine ⟨by rw [childrenOf_of_nodes hq14.nodes]; exact h1, fun p hp => ?_⟩
        simp only [InsertionPoint.nodes] at hp
        rcases hp with rfl | hp
        · exact Nat.ne_of_lt (Nat.lt_of_lt_of_le htlt h2)
        · cases hp)
      hcand
      (hc4.no_open_before_plain (by rw [hst4']; exact hi.last)) e9
    have hoe54 : s4.openElems = s4'.openElems := by rw [hdo5]
    have hc5 : Core s4 r up ph := hc4.transfer hl5 hext5.chg hrs (by rw [hk05]; exact hc4.rdoc)
      (by rw [hdo5]) (by rw [hdo5]) (by rw [hdo5]) (by rw [hdo5]) (by rw [hdo5]) (by rw [hoe54]; exact hadj5)
    obtain ⟨_, s6, e10, e11⟩ := bind_ok.mp e7
    unfold push at e10
    have hs6 := modS_ok.mp e10
    have hst4 : s4.openElems = s.openElems := by
      rw [hdo5]; show s4'.openElems = _; rw [hq14.openElems, hdo1]
    have hnm5 : nm s4.dom el = hN "script" := by
      rw [nm_chg hext5.chg hel4, hq14.nm]; exact hnm1
    have hfr : el ∉ s4.openElems := by
      rw [hst4]; intro hm
      exact Nat.lt_irrefl _ (Nat.lt_of_lt_of_le (lt_of_isElement (hc.late.st.oe el hm)) hfresh1)
    have hc6 : Core s6 r (up ++ [el]) ph := by
      rw [hs6]
      exact hc5.push ⟨hext5.chg.isElement hel4, by rw [hk05]; exact hnol4 0⟩ hfr (by rw [hnm5]; simp [lit_name])
        (by rw [hoe54]; exact hadj5p)
    have hchg : Chg s.dom s4.dom := (hchg1.trans (SameSk.of_nodes hq14.nodes).chg).trans hext5.chg
    have hfields : s4.headElem = s.headElem ∧ s4.mode = s.mode ∧ s4.origMode = s.origMode := by
      have h5 := hdo5; have h14 := hq14.rest; have h1 := hdo1
      refine ⟨?_, ?_, ?_⟩ <;> rw [h5, h14, h1]
    obtain ⟨u, s7, e12, e13⟩ := bind_ok.mp e11
    obtain ⟨rfl, rfl⟩ := pure_ok.mp e13
    rw [modS_ok.mp e12]
    refine .text el (hc6.modes rfl (by intro o ho'; cases ho'; exact hc6.late.ml.mode)) ?_ ?_ rfl ?_ ?_ ?_
      ⟨(by intro m t h; cases h), (by intro t h; cases h)⟩
    · intro y hy
      show nm s6.dom y = _
      rw [hs6]
      exact hc.sameNames hchg y hy
    · show s6.headElem = _; rw [hs6]; exact hfields.1
    · show some s6.mode = _; rw [hs6]; show some s4.mode = _; rw [hfields.2.1]
    · show s6.openElems = _; rw [hs6]; show s4.openElems ++ [el] = _; rw [hst4]
    · show keepName (nm s6.dom el) = false ∧ (nm s6.dom el).ns = nsHtml
      rw [hs6]; show keepName (nm s4.dom el) = false ∧ (nm s4.dom el).ns = nsHtml
      rw [hnm5]; exact ⟨by simp [lit_name], rfl⟩
  rcases ite_run e4 with ⟨_, e4⟩ | ⟨_, e4⟩
  · obtain ⟨_, s3, e5, e6⟩ := bind_ok.mp e4
    exact tail s3 (qs_sinkUnit e5) e6
  · exact tail s2 (QS.refl _) e4


theorem ps_bind {α β : Type} {m : M α} {f : α → M β} (h1 : PS m) (h2 : ∀ a, PS (f a)) : PS (m >>= f) :=
  inferInstance
theorem nr_bind {α : Type} {m : M α} {f : α → M ProcessResult} (h : ∀ a, NR (f a)) : NR (m >>= f) := inferInstance

/-- the start tags that the InHead rules answer with an insertion -/
def isHeadInsertTag (tag : Tag) : Bool :=
  tag.isStart ["base", "basefont", "bgsound", "link", "meta"] || tag.isStart ["title"] ||
    tag.isStart ["noframes", "style", "noscript"] || tag.isStart ["script"]

/-- the arms of the InHead rules that the callers treat themselves -/
inductive HeadSpecial (tok : Token) (s s' : State) (res : ProcessResult) : Prop
  | split (text : Str) : tok = .chars .notSplit text → res = .splitWhitespace text → s' = s → HeadSpecial tok s s' res
  | noscript (tag : Tag) : tok = .tag tag → tag.isStart ["noframes", "style", "noscript"] = true →
      isName tag.name "noscript" = true →
      (insertElementFor tag >>= fun _ => setMode .inHeadNoscript >>= fun _ => pure ProcessResult.done) s = .ok (res, s') →
      HeadSpecial tok s s' res
  | endHead (tag : Tag) : tok = .tag tag → tag.isEnd ["head"] = true →
      (pop >>= fun _ => setMode .afterHead >>= fun _ => pure ProcessResult.done) s = .ok (res, s') →
      HeadSpecial tok s s' res
  | anyElse : (∀ tag, tok = .tag tag → isHeadInsertTag tag = false ∧ tag.isStart ["html"] = false) →
      (∀ text, tok ≠ .chars .whitespace text) → (∀ text, tok ≠ .comment text) →
      (pop >>= fun _ => pure (ProcessResult.reprocess .afterHead tok)) s = .ok (res, s') → HeadSpecial tok s s' res
  | tmpl (tag : Tag) : tok = .tag tag → (tag.isStart ["template"] = true ∨ tag.isEnd ["template"] = true) →
      HeadSpecial tok s s' res

theorem isStart_false_of_isEnd {tag : Tag} {l l' : List String} (h : tag.isEnd l = true) : tag.isStart l' = false := by
  unfold Tag.isEnd at h
  unfold Tag.isStart
  simp only [Bool.and_eq_true, beq_iff_eq] at h
  rw [h.1]; rfl

theorem isStart_name {tag : Tag} {l l' : List String} (h : tag.isStart l = true)
    (hl : ∀ a ∈ l, a ∉ l') : tag.isStart l' = false := by
  obtain ⟨a, ha, hn, hk⟩ := name_of_isStart h
  unfold Tag.isStart isOneOf
  simp only [Bool.and_eq_false_iff, List.any_eq_false, beq_iff_eq]
  right
  intro b hb hbn
  have : b = a := by
    have h2 : b.toList = a.toList := by rw [hbn, hn]
    exact String.ext h2
  exact hl a ha (this ▸ hb)

/-- the InHead rules below an inner node: either one of the arms treated by the caller, or an
insertion / a query that keeps the shape (possibly entering the Text mode) -/
theorem stepInHead_cases {s s' : State} {r t : Id} {up : List Id} {ph : Phase} {tok : Token} [ht : TokW tok]
    {res : ProcessResult} (hc : Core s r up ph) (hi : Inner s r t) (e : stepInHead tok s = .ok (res, s')) :
    HeadOut r s up ph s' res ∨ HeadSpecial tok s s' res := by
  unfold stepInHead at e
  have anyElse : (∀ tag, tok = .tag tag → isHeadInsertTag tag = false ∧ tag.isStart ["html"] = false) →
      (∀ text, tok ≠ .chars .whitespace text) → (∀ text, tok ≠ .comment text) →
      (pop >>= fun _ => pure (ProcessResult.reprocess .afterHead tok)) s = .ok (res, s') →
      HeadOut r s up ph s' res ∨ HeadSpecial tok s s' res := fun h1 h2 h3 e0 => Or.inr (.anyElse h1 h2 h3 e0)
  cases tok with
  | chars st text =>
    cases st with
    | notSplit =>
      dsimp only at e
      obtain ⟨rfl, rfl⟩ := pure_ok.mp e
      exact Or.inr (.split text rfl rfl rfl)
    | whitespace =>
      dsimp only at e
      obtain ⟨h1, rfl, hdo, hsn⟩ := appendText_core hc hi.last hi.nf hi.nt (ht.ne _ _ rfl) (fun h0 => absurd h0 hi.ne) e
      exact Or.inl (.same h1 hsn (by rw [hdo]) (by rw [hdo]) (by rw [hdo]) (by rw [hdo]) noRe_done)
    | notWhitespace =>
      dsimp only at e
      exact anyElse (by intro tag h; cases h) (by intro t h; cases h) (by intro t h; cases h) e
  | comment text =>
    dsimp only at e
    obtain ⟨h1, rfl, hdo, hsn⟩ := appendComment_core hc hi.last hi.nf hi.nt e
    exact Or.inl (.same h1 hsn (by rw [hdo]) (by rw [hdo]) (by rw [hdo]) (by rw [hdo]) noRe_done)
  | eof =>
    dsimp only at e
    exact anyElse (by intro tag h; cases h) (by intro t h; cases h) (by intro t h; cases h) e
  | nullChar =>
    dsimp only at e
    exact anyElse (by intro tag h; cases h) (by intro t h; cases h) (by intro t h; cases h) e
  | tag tag =>
    dsimp only at e
    rcases ite_run e with ⟨h1, e⟩ | ⟨h1, e⟩
    · -- <html>
      obtain ⟨h2, hsn, hm, ho, hh⟩ := (inferInstance : PS (inBodyHtml tag)).p s r up ph res s' hc e
      rw [done_of_inBodyHtml e]
      exact Or.inl (.same h2 hsn hh hm ho (by rw [h2.stack, hc.stack]) noRe_done)
    · have bf : ∀ {b : Bool}, ¬ b = true → b = false := fun {b} h => by
        cases b
        · rfl
        · exact absurd rfl h
      rcases ite_run e with ⟨h2, e⟩ | ⟨h2, e⟩
      · -- base, basefont, bgsound, link, meta
        obtain ⟨el, s1, e1, e2⟩ := bind_ok.mp e
        obtain ⟨hc1, hsn1, hdo1⟩ := insertNoPush_inner hc hi e1
        have key : ∀ K : M ProcessResult, PS K → NR K → K s1 = .ok (res, s') → HeadOut r s up ph s' res := by
          intro K hps hnr eK
          obtain ⟨a1, a2, a3, a4, a5⟩ := hps.p s1 r up ph res s' hc1 eK
          exact .same a1 (fun y hy => by rw [a2 y hy, hsn1 y hy]) (by rw [a5, hdo1]) (by rw [a3, hdo1]) (by rw [a4, hdo1])
            (by rw [a1.stack, hc.stack]) (hnr.h _ _ _ eK)
        refine Or.inl (key _ ?_ ?_ e2)
        · repeat' (first | exact inferInstance | split | (with_reducible apply ps_bind inferInstance) | intro _)
        · repeat' (first | exact inferInstance | split | (with_reducible apply nr_bind) | intro _)
      · rcases ite_run e with ⟨h3, e⟩ | ⟨h3, e⟩
        · exact Or.inl (head_raw hc hi (plain_of_isStart h3 (by simp [lit_name])).h e)
        · rcases ite_run e with ⟨h4, e⟩ | ⟨h4, e⟩
          · rw [getS_bind] at e
            rcases ite_run e with ⟨h5, e⟩ | ⟨h5, e⟩
            · refine Or.inr (.noscript tag rfl h4 ?_ e)
              simp only [Bool.and_eq_true] at h5
              exact h5.2
            · exact Or.inl (head_raw hc hi (plain_of_isStart h4 (by simp [lit_name])).h e)
          · rcases ite_run e with ⟨h5, e⟩ | ⟨h5, e⟩
            · exact Or.inl (head_script hc hi e)
            · have hnot : isHeadInsertTag tag = false ∧ tag.isStart ["html"] = false := by
                unfold isHeadInsertTag
                rw [bf h1, bf h2, bf h3, bf h4, bf h5]
                exact ⟨rfl, rfl⟩
              rcases ite_run e with ⟨h6, e⟩ | ⟨h6, e⟩
              · exact Or.inr (.endHead tag rfl h6 e)
              · rcases ite_run e with ⟨h7, e⟩ | ⟨h7, e⟩
                · exact anyElse (by intro t ht'; cases ht'; exact hnot) (by intro t h; cases h) (by intro t h; cases h) e
                · rcases ite_run e with ⟨h8, e⟩ | ⟨h8, e⟩
                  · exact Or.inr (.tmpl tag rfl (Or.inl h8))
                  · rcases ite_run e with ⟨h9, e⟩ | ⟨h9, e⟩
                    · exact Or.inr (.tmpl tag rfl (Or.inr h9))
                    · rcases ite_run e with ⟨h10, e⟩ | ⟨h10, e⟩
                      · obtain ⟨q, rfl⟩ := qs_unexpected e
                        exact Or.inl (.same (hc.qs q) (fun y _ => q.nm y) (by rw [q.rest]) q.mode (by rw [q.rest])
                          q.openElems noRe_done)
                      · exact anyElse (by intro t ht'; cases ht'; exact hnot) (by intro t h; cases h)
                          (by intro t h; cases h) e


/-! ### InHead -/

/-- the template arms of the InHead rules, as used in mode `m` (treated separately) -/
def TmplOk (m : Mode) : Prop :=
  ∀ (tag : Tag) (r : Id) (s : State) (res : ProcessResult) (s' : State),
    Good r s → s.mode = m → (tag.isStart ["template"] = true ∨ tag.isEnd ["template"] = true) →
    stepInHead (.tag tag) s = .ok (res, s') → Out r s' res

theorem inner_head {s : State} {r h : Id} {ph : Phase} (hc : Core s r [h] ph) (hn : nm s.dom h = hN "head") :
    Inner s r h :=
  ⟨by rw [hc.stack]; rfl, hc.up_ne_root (by simp), by rw [hn]; decide, by rw [hn]; decide⟩

theorem modeOk_inHead (T : TmplOk .inHead) : ModeOk .inHead := by
  intro tok ht r s res s' hg hm e
  obtain ⟨up, ph, hs, _⟩ := id hg
  have hf := hs.fits
  unfold FitsM at hf
  rw [hm] at hf
  obtain ⟨h, hh, rfl, rfl⟩ : ∃ h, s.headElem = some h ∧ up = [h] ∧ ph = .p1 := hf
  have hc := hs.core
  have hhn : nm s.dom h = hN "head" := by
    obtain ⟨h', e1, _, e3⟩ := hc.elems; rw [hh] at e1; cases e1; exact e3
  have hi := inner_head hc hhn
  have e' : stepInHead tok s = .ok (res, s') := e
  rcases stepInHead_cases hc hi e' with ho | hsp
  · cases ho with
    | same hc' hsn hhd hmd hod hoe hnr =>
      refine Out.of_good (Good.mk' ⟨hc', ?_⟩) hnr
      exact fitsM_of_fits (by decide) (by decide) (hmd.trans hm) ⟨h, by rw [hhd]; exact hh, rfl, rfl⟩
    | text el hc' hsn hhd hmd hod hoe hx hnr =>
      refine Out.of_good (Good.mk' ⟨hc', ?_⟩) hnr
      unfold FitsM
      rw [hmd]
      exact ⟨.inHead, [h], el, by rw [hod, hm], rfl, by simp [lit_name], by simp [lit_name], ⟨h, by rw [hhd]; exact hh, rfl, rfl⟩,
        not_in_of_keepName_false hx.1 (by simp [lit_name]), hx.2⟩
  · cases hsp with
    | split text h1 h2 h3 => subst h2; subst h3; exact hg
    | noscript tag h1 h2 h3 e0 =>
      obtain ⟨el, s1, e1, e2⟩ := bind_ok.mp e0
      obtain ⟨_, s2, e3, e4⟩ := bind_ok.mp e2
      obtain ⟨rfl, rfl⟩ := pure_ok.mp e4
      obtain ⟨hc1, hsn, hnm, hhd, hmd, hod, hst⟩ := insertPush_inner hc hi
        (PushOk.of_plain (plain_of_isStart h2 (by simp [lit_name])).h) e1
      rw [modS_ok.mp e3]
      refine Good.mk' ⟨hc1.modes rfl hc1.late.ml.orig, ?_⟩
      show FitsM { s1 with mode := .inHeadNoscript } ([h] ++ [el]) .p1
      unfold FitsM
      refine ⟨h, el, by show s1.headElem = _; rw [hhd]; exact hh, rfl, rfl, ?_⟩
      show nm s1.dom el = _
      rw [hnm]
      obtain ⟨a, ha, hn', _⟩ := name_of_isStart h2
      have : tag.name = "noscript".toList := by
        have h3' := h3; unfold isName at h3'; exact (beq_iff_eq.mp h3').symm
      rw [this]; rfl
    | endHead tag h1 h2 e0 =>
      obtain ⟨x, s1, e1, e2⟩ := bind_ok.mp e0
      obtain ⟨_, s2, e3, e4⟩ := bind_ok.mp e2
      obtain ⟨rfl, rfl⟩ := pure_ok.mp e4
      have p1 := pop_sem e1
      have hx : x = h := by
        have := p1.stack
        rw [hc.stack, show [r, h] = [r] ++ [h] from rfl] at this
        obtain ⟨_, hz⟩ := List.append_inj' this rfl
        simpa using hz.symm
      subst hx
      have hc1 : Core s1 r [] .p1 := hc.pr p1 rfl
      rw [modS_ok.mp e3]
      exact Good.mk' ⟨hc1.modes rfl hc1.late.ml.orig, by unfold FitsM; exact ⟨rfl, rfl⟩⟩
    | anyElse h1 h2 h3 e0 =>
      obtain ⟨x, s1, e1, e2⟩ := bind_ok.mp e0
      obtain ⟨rfl, rfl⟩ := pure_ok.mp e2
      have p1 := pop_sem e1
      have hx : x = h := by
        have := p1.stack
        rw [hc.stack, show [r, h] = [r] ++ [h] from rfl] at this
        obtain ⟨_, hz⟩ := List.append_inj' this rfl
        simpa using hz.symm
      subst hx
      have hc1 : Core s1 r [] .p1 := hc.pr p1 rfl
      exact ⟨Good.mk' ⟨hc1.modes rfl hc1.late.ml.orig, by unfold FitsM; exact ⟨rfl, rfl⟩⟩, ht⟩
    | tmpl tag h1 h2 =>
      subst h1
      exact T tag r s res s' hg hm h2 e'

end H5V.Props.C06
