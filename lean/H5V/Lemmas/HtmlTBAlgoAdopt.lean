import H5V.Lemmas.HtmlTBAlgoReconstruct
import H5V.Lemmas.HtmlTBAlgoNoah
import H5V.Lemmas.HtmlTBAlgoPop
import H5V.Lemmas.HtmlTBAlgoBookmark
/-!
(o) the adoption agency algorithm: the model's `adoptionAgency` / `aaOuterStep` / `aaInner` against
`Spec.TreeAlgo2.adoptionAgency` / `outerRound` / `innerLoop`.
-/
namespace H5V.Lemmas.HtmlTBAlgo
open H5V.Model.HtmlTB
open H5V.Model.Dom (Id SinkOp Output Dom QualName Attr NodeOrText ElementFlags NodeData)
open H5V.Lemmas.Dom
open H5V.Lemmas.HtmlTBSpec (NamesOk toName)
open H5V.Spec.TreeAlgo2
open H5V.Spec.TreeAlgo (Name)

/-! ### positions -/

theorem tot_positionInAFLoop (x : Id) : ∀ (l : List FormatEntry) (i : Nat) (s : State),
    Tot (positionInAFLoop x l i) s (QueryQ s ((listPos x (absList l)).map (· + i))) := by
  intro l
  induction l with
  | nil => intro i s; exact tot_pure ⟨rfl, SameTB.refl _, rfl⟩
  | cons e rest ih =>
    intro i s
    cases e with
    | marker =>
      unfold positionInAFLoop
      refine tot_conseq (ih (i + 1) s) fun a s' c _ ⟨h1, h2, h3⟩ => ⟨?_, h2, h3⟩
      rw [h1]
      simp only [absList, List.map_cons, absEntry, listPos, Option.map_map]
      congr 1; funext k; simp; omega
    | element h t =>
      unfold positionInAFLoop
      refine tot_query_query (tot_sameNode s h x) fun s1 c1 _ _ => ?_
      simp only [absList, List.map_cons, absEntry, listPos]
      by_cases hx : h = x
      · subst hx; simp only [beq_self_eq_true, if_true]
        exact tot_pure ⟨by simp, SameTB.refl _, rfl⟩
      · have : (h == x) = false := by simpa using hx
        simp only [this, Bool.false_eq_true, if_false, hx]
        refine tot_conseq (ih (i + 1) s1) fun a s' c _ ⟨h1, h2, h3⟩ => ⟨?_, h2, h3⟩
        rw [h1]
        simp only [absList, Option.map_map]
        congr 1; funext k; simp; omega

theorem tot_positionInAF (s : State) (x : Id) :
    Tot (positionInActiveFormatting x) s (QueryQ s (listPos x (absList s.activeFormatting))) := by
  unfold positionInActiveFormatting
  refine tot_getS_bind ?_
  refine tot_conseq (tot_positionInAFLoop x s.activeFormatting 0 s) fun a s' c _ ⟨h1, h2, h3⟩ => ⟨?_, h2, h3⟩
  rw [h1]; simp

theorem listPos_spec (x : Id) (l : List FormatEntry) (i : Nat) (h : listPos x (absList l) = some i) :
    ∃ t, l[i]? = some (.element x t) := by
  obtain ⟨t, ht⟩ := listPos_getElem h
  rw [absList_getElem?] at ht
  cases he : l[i]? with
  | none => simp [he] at ht
  | some e => cases e <;> simp_all [absEntry]

theorem lastPos_ids (f : Id → Bool) (d d' : Dom) (l : List Id) :
    lastPos (fun e => f e.id) (absStack d l) = lastPos (fun e => f e.id) (absStack d' l) := by
  induction l with
  | nil => rfl
  | cons a r ihl => simp only [absStack, List.map_cons, lastPos] at ihl ⊢; rw [ihl]; rfl

theorem tot_rpositionLoop (p : Id → M Bool) (f : Id → Bool) (hp : ∀ n s, Tot (p n) s (QueryQ s (f n))) :
    ∀ (lr : List Id) (s : State),
    Tot (rpositionLoop p lr lr.length) s (QueryQ s (lastPos (fun e => f e.id) (absStack s.dom lr.reverse))) := by
  intro lr
  induction lr with
  | nil => intro s; exact tot_pure ⟨rfl, SameTB.refl _, rfl⟩
  | cons n rest ih =>
    intro s
    unfold rpositionLoop
    refine tot_query_query (hp n s) fun s1 c1 he1 _ => ?_
    have e : absStack s.dom (n :: rest).reverse = absStack s.dom rest.reverse ++ [elemOf s.dom n] := by
      simp [absStack]
    rw [e, lastPos_snoc]
    have e2 : f (elemOf s.dom n).id = f n := rfl
    rw [e2]
    have elen : (absStack s.dom rest.reverse).length = rest.length := by simp [absStack]
    by_cases hx : f n = true
    · simp only [hx, if_true, elen, List.length_cons, Nat.add_sub_cancel]
      exact tot_pure ⟨rfl, SameTB.refl _, rfl⟩
    · simp only [hx, Bool.false_eq_true, if_false, List.length_cons, Nat.add_sub_cancel]
      refine tot_conseq (ih s1) fun a s' c _ ⟨h1, h2, h3⟩ => ⟨?_, h2, h3⟩
      rw [h1]; exact lastPos_ids f _ _ _

/-- `open_elems.iter().rposition(p)`, for a test `p` that answers "is it `x`", is the position of `x` in the stack -/
theorem tot_rpositionOf (s : State) (x : Id) (p : Id → M Bool) (hp : ∀ n s, Tot (p n) s (QueryQ s (n == x))) :
    Tot (rposition p) s (QueryQ s (stackPos x (absStack s.dom s.openElems))) := by
  unfold rposition
  refine tot_getS_bind ?_
  have := tot_rpositionLoop p (fun n => n == x) hp s.openElems.reverse s
  simp only [List.length_reverse, List.reverse_reverse] at this
  exact this

theorem tot_rposition (s : State) (x : Id) :
    Tot (rposition (fun n => sameNode n x)) s (QueryQ s (stackPos x (absStack s.dom s.openElems))) :=
  tot_rpositionOf s x _ fun n s => tot_sameNode s n x

theorem tot_rposition' (s : State) (x : Id) :
    Tot (rposition (fun n => sameNode x n)) s (QueryQ s (stackPos x (absStack s.dom s.openElems))) :=
  tot_rpositionOf s x _ fun n s => by
    have := tot_sameNode s x n; rwa [show (x == n) = (n == x) from BEq.comm] at this

theorem stackPos_lt {x : Id} {d : Dom} {l : List Id} {i : Nat} (h : stackPos x (absStack d l) = some i) :
    i < l.length ∧ l[i]? = some x := by
  unfold stackPos at h
  have h1 := lastPos_lt _ _ _ h
  obtain ⟨e, he, hp⟩ := lastPos_spec _ _ _ h
  simp only [absStack, List.length_map] at h1
  refine ⟨h1, ?_⟩
  simp only [absStack, List.getElem?_map, Option.map_eq_some_iff] at he
  obtain ⟨y, hy, rfl⟩ := he
  have : y = x := by simpa [elemOf] using hp
  rw [hy, this]

/-- `remove_from_stack` -/
theorem tot_removeFromStack (s : State) (x : Id) :
    Tot (removeFromStack x) s (fun _ s' calls =>
      s' = { s with openElems := match stackPos x (absStack s.dom s.openElems) with
                                | some p => s.openElems.eraseIdx p | none => s.openElems,
                    dom := s'.dom, traceRev := s'.traceRev } ∧ edits calls = []) := by
  unfold removeFromStack
  refine tot_query_bind (tot_rposition' s x) fun s1 c1 _ hs1 hc1 => ?_
  cases hp : stackPos x (absStack s.dom s.openElems) with
  | none =>
    simp only []
    refine tot_pure ⟨?_, by simp [hc1]⟩
    unfold SameTB at hs1; exact hs1
  | some p =>
    simp only []
    refine tot_bind (tot_modS rfl rfl ?_)
    refine tot_conseq (tot_sinkUnit _ trivial) fun _ s2 c2 _ ⟨d', out, ha, hs2, hc2⟩ => ?_
    refine ⟨?_, ?_⟩
    · rw [hs2]; simp only [afterCall]; rw [hs1.openElems]; unfold SameTB at hs1; rw [hs1]
    · rw [edits_append, hc1, hc2]; rfl

/-! ### scope, furthest block -/

theorem defaultScope_eq (n : EName) : defaultScope n = Spec.TreeAlgo.defaultScopeList (toName n) :=
  (H5V.Lemmas.HtmlTBSpec.scope_sets_eq_spec n).1

theorem tot_inScopeLoop_node (d0 : Dom) (x : Id) : ∀ (l : List Id) (s : State), ElemsOk d0 l → Stable d0 s.dom →
    Tot (inScopeLoop defaultScope (fun n => sameNode n x) l) s
      (QueryQ s (hasNodeInScope x Spec.TreeAlgo.defaultScopeList (absStack d0 l))) := by
  intro l
  induction l with
  | nil => intro s _ _; exact tot_pure ⟨rfl, SameTB.refl _, rfl⟩
  | cons n rest ih =>
    intro s hok hst
    unfold inScopeLoop
    refine tot_query_query (tot_sameNode s n x) fun s1 c1 he1 _ => ?_
    simp only [absStack, List.map_cons, hasNodeInScope]
    have e0 : (elemOf d0 n).id = n := rfl
    rw [e0]
    by_cases hx : n = x
    · subst hx; simp only [beq_self_eq_true, if_true]
      exact tot_pure ⟨rfl, SameTB.refl _, rfl⟩
    · have : (n == x) = false := by simpa using hx
      simp only [this, Bool.false_eq_true, if_false, hx]
      refine tot_query_query (tot_elemName' s1 n) fun s2 c2 he2 _ => ?_
      have hn : nameOf s1.dom n = nameOf d0 n := nameOf_stable (hst.trans he1.stable) (hok n (List.mem_cons_self ..))
      rw [hn, defaultScope_eq]
      have e1 : toName (nameOf d0 n) = (elemOf d0 n).name := rfl
      rw [e1]
      by_cases hsc : Spec.TreeAlgo.defaultScopeList (elemOf d0 n).name = true
      · simp only [hsc, if_true]; exact tot_pure ⟨rfl, SameTB.refl _, rfl⟩
      · simp only [hsc, Bool.false_eq_true, if_false]
        exact ih s2 (fun y hy => hok y (List.mem_cons_of_mem _ hy)) ((hst.trans he1.stable).trans he2.stable)

theorem tot_inScope_node (s : State) (x : Id) (hok : ElemsOk s.dom s.openElems) :
    Tot (inScope defaultScope (fun n => sameNode n x)) s
      (QueryQ s (hasNodeInScope x Spec.TreeAlgo.defaultScopeList (absStack s.dom s.openElems).reverse)) := by
  unfold inScope
  refine tot_getS_bind ?_
  rw [absStack_reverse]
  exact tot_inScopeLoop_node s.dom x s.openElems.reverse s (fun y hy => hok y (List.mem_reverse.mp hy)) (Stable.refl _)

/-- the model's furthest-block search as a pure function of the names -/
def ffbPure (d : Dom) : List Id → Nat → Option (Nat × Id)
  | [], _ => none
  | e :: rest, i => if isSpecial (elemOf d e) then some (i, e) else ffbPure d rest (i + 1)

theorem specialTag_eq (d : Dom) (h : Id) : specialTag (nameOf d h) = isSpecial (elemOf d h) :=
  pop_specialTag_eq _

theorem tot_findFurthestBlock (d0 : Dom) : ∀ (l : List Id) (i : Nat) (s : State), ElemsOk d0 l → Stable d0 s.dom →
    Tot (findFurthestBlock l i) s (QueryQ s (ffbPure d0 l i)) := by
  intro l
  induction l with
  | nil => intro i s _ _; exact tot_pure ⟨rfl, SameTB.refl _, rfl⟩
  | cons e rest ih =>
    intro i s hok hst
    unfold findFurthestBlock
    refine tot_query_query (tot_elemIn s e specialTag) fun s1 c1 he1 _ => ?_
    rw [nameOf_stable hst (hok e (List.mem_cons_self ..)), specialTag_eq]
    simp only [ffbPure]
    by_cases hsp : isSpecial (elemOf d0 e) = true
    · simp only [hsp, if_true]; exact tot_pure ⟨rfl, SameTB.refl _, rfl⟩
    · simp only [hsp, Bool.false_eq_true, if_false]
      exact ih (i + 1) s1 (fun y hy => hok y (List.mem_cons_of_mem _ hy)) (hst.trans he1.stable)

theorem ffbPure_eq (d : Dom) : ∀ (l : List Id) (i : Nat),
    ffbPure d l i = ((absStack d l).findIdx? isSpecial).bind fun j => ((absStack d l)[j]?).map fun e => (i + j, e.id) := by
  intro l
  induction l with
  | nil => intro i; rfl
  | cons e rest ih =>
    intro i
    simp only [ffbPure, absStack, List.map_cons, List.findIdx?_cons]
    by_cases hsp : isSpecial (elemOf d e) = true
    · simp only [hsp, if_true, Option.bind_some, List.getElem?_cons_zero, Option.map_some]; rfl
    · simp only [hsp, Bool.false_eq_true, if_false]
      rw [ih (i + 1)]
      simp only [absStack]
      cases h : List.findIdx? isSpecial (List.map (elemOf d) rest) with
      | none => simp
      | some j =>
        simp only [Option.map_some, Option.bind_some, List.getElem?_cons_succ]
        congr 1; funext x; congr 1; omega

theorem tot_positionSameNode (x : Id) : ∀ (l : List Id) (i : Nat) (s : State),
    Tot (positionSameNode x l i) s (QueryQ s ((l.findIdx? (fun n => n == x)).map (· + i))) := by
  intro l
  induction l with
  | nil => intro i s; exact tot_pure ⟨rfl, SameTB.refl _, rfl⟩
  | cons n rest ih =>
    intro i s
    unfold positionSameNode
    refine tot_query_query (tot_sameNode s n x) fun s1 c1 _ _ => ?_
    simp only [List.findIdx?_cons]
    by_cases hx : (n == x) = true
    · simp only [hx, if_true]; exact tot_pure ⟨by simp, SameTB.refl _, rfl⟩
    · simp only [hx, Bool.false_eq_true, if_false]
      refine tot_conseq (ih (i + 1) s1) fun a s' c _ ⟨h1, h2, h3⟩ => ⟨?_, h2, h3⟩
      rw [h1]; simp only [Option.map_map]; congr 1; funext k; simp; omega

/-! ### the inner loop, cut into chunks -/

def aiAfterBookmark (fmtElem furthestBlock : Id) (nodeIndex innerCounter : Nat) (lastNode newElement : Id)
    (bookmark : Bookmark) : M (Id × Bookmark) := do
  sinkUnit (.removeFromParent lastNode)
  sinkUnit (.append newElement (.node lastNode))
  aaInner fmtElem furthestBlock nodeIndex innerCounter newElement bookmark

def aiAfterTag (fmtElem furthestBlock : Id) (nodeIndex innerCounter : Nat) (lastNode : Id) (bookmark : Bookmark)
    (nfi : Nat) (tag : Tag) : M (Id × Bookmark) := do
  let newElement ← createElementWithFlags (htmlQual tag.name) tag.attrs tag.hadDup
  modS fun s => { s with
    openElems := s.openElems.set nodeIndex newElement,
    activeFormatting := s.activeFormatting.set nfi (.element newElement tag) }
  let bookmark ← if ← sameNode lastNode furthestBlock then pure (Bookmark.insertAfter newElement) else pure bookmark
  aiAfterBookmark fmtElem furthestBlock nodeIndex innerCounter lastNode newElement bookmark

def aiRemove (fmtElem furthestBlock : Id) (nodeIndex innerCounter : Nat) (lastNode : Id) (bookmark : Bookmark) :
    M (Id × Bookmark) := do
  modS fun s => { s with openElems := s.openElems.eraseIdx nodeIndex }
  aaInner fmtElem furthestBlock nodeIndex innerCounter lastNode bookmark

def aiAfterNode (fmtElem furthestBlock : Id) (nodeIndex innerCounter : Nat) (lastNode : Id) (bookmark : Bookmark)
    (node : Id) : M (Id × Bookmark) := do
  if ← sameNode node fmtElem then pure (lastNode, bookmark)
  else if innerCounter > 3 then
    match ← positionInActiveFormatting node with
    | some position => afRemove position "mod.rs:817"
    | none => pure ()
    aiRemove fmtElem furthestBlock nodeIndex innerCounter lastNode bookmark
  else
    match ← positionInActiveFormatting node with
    | none => aiRemove fmtElem furthestBlock nodeIndex innerCounter lastNode bookmark
    | some nfi =>
      let tag ← match (← getS).activeFormatting[nfi]? with
        | some (.element h t) => do
          if !(← sameNode h node) then
            panicAt "assert" "mod.rs:831" "assert!(self.sink.same_node(h, &node))"
          pure t
        | some .marker => panicAt "marker-in-aa" "mod.rs:834" "Found marker during adoption agency"
        | none => panicAt "index-oob" "mod.rs:829" "active_formatting[node_formatting_index]"
      aiAfterTag fmtElem furthestBlock nodeIndex innerCounter lastNode bookmark nfi tag

theorem aaInner_succ (fmtElem furthestBlock : Id) (nodeIndex innerCounter : Nat) (lastNode : Id) (bookmark : Bookmark) :
    aaInner fmtElem furthestBlock (nodeIndex + 1) innerCounter lastNode bookmark = (do
      let node ← match (← getS).openElems[nodeIndex]? with
        | some n => pure n
        | none => panicAt "index-oob" "mod.rs:807" "open_elems[node_index]"
      aiAfterNode fmtElem furthestBlock nodeIndex (innerCounter + 1) lastNode bookmark node) := rfl

/-! ### list helpers -/

theorem map_eraseIdx' {α β : Type} (f : α → β) (l : List α) (i : Nat) : (l.eraseIdx i).map f = (l.map f).eraseIdx i := by
  apply List.ext_getElem?
  intro j
  simp only [List.getElem?_map, List.getElem?_eraseIdx]
  split <;> rfl

theorem map_insertIdx' {α β : Type} (f : α → β) (l : List α) (i : Nat) (x : α) :
    (l.insertIdx i x).map f = (l.map f).insertIdx i (f x) := by
  apply List.ext_getElem?
  intro j
  simp only [List.getElem?_map, List.getElem?_insertIdx, List.length_map]
  split
  · rfl
  · split
    · split <;> rfl
    · rfl

theorem absStack_eraseIdx (d : Dom) (l : List Id) (i : Nat) : absStack d (l.eraseIdx i) = (absStack d l).eraseIdx i :=
  map_eraseIdx' _ _ _

theorem absList_eraseIdx (af : List FormatEntry) (i : Nat) : absList (af.eraseIdx i) = (absList af).eraseIdx i :=
  map_eraseIdx' _ _ _

theorem absList_insertIdx (af : List FormatEntry) (i : Nat) (e : FormatEntry) :
    absList (af.insertIdx i e) = (absList af).insertIdx i (absEntry e) := map_insertIdx' _ _ _ _

theorem absStack_getElem? (d : Dom) (l : List Id) (i : Nat) : (absStack d l)[i]? = (l[i]?).map (elemOf d) := by
  simp [absStack]

theorem absStack_set {d d' : Dom} {l : List Id} (hok : ElemsOk d l) (hs : Stable d d') (i : Nat) (new : Id) :
    absStack d' (l.set i new) = (absStack d l).set i (elemOf d' new) := by
  unfold absStack
  rw [List.map_set]
  congr 1
  exact absStack_stable hok hs

theorem listPos_isSome_of_mem (x : Id) (l : List FormatEntry) (t : Tag) (h : FormatEntry.element x t ∈ l) :
    ∃ i, listPos x (absList l) = some i := by
  obtain ⟨i, hi⟩ := List.getElem?_of_mem h
  exact Option.isSome_iff_exists.mp ((listPos_isSome_iff x _).mpr ⟨i, t, by rw [absList_getElem?, hi]; rfl⟩)

theorem mem_eraseIdx_of_ne {α : Type} {l : List α} {i : Nat} {a b : α} (ha : a ∈ l) (hi : l[i]? = some b) (hne : a ≠ b) :
    a ∈ l.eraseIdx i := by
  rw [List.mem_eraseIdx_iff_getElem?]
  obtain ⟨j, hj⟩ := List.getElem?_of_mem ha
  refine ⟨j, ?_, hj⟩
  intro hji; subst hji
  rw [hi] at hj; cases hj; exact hne rfl

theorem mem_set_of_ne {α : Type} {l : List α} {i : Nat} {a b c : α} (ha : a ∈ l) (hi : l[i]? = some b) (hne : a ≠ b) :
    a ∈ l.set i c := by
  obtain ⟨j, hj⟩ := List.getElem?_of_mem ha
  have hji : i ≠ j := by
    intro h; subst h; rw [hi] at hj; cases hj; exact hne rfl
  apply List.mem_of_getElem? (i := j)
  rw [List.getElem?_set]; simp [hji, hj]

/-- every listed element is a node of the sink, was created for a token whose tag name is not in
the special category, and — if it is on the stack — has the element type (HTML, that tag name) -/
def AFOk (d : Dom) (stack : List Id) (af : List FormatEntry) : Prop :=
  ∀ h t, FormatEntry.element h t ∈ af → (h : Nat) < d.size ∧
    Spec.TreeAlgo.inTable Spec.TreeTables.special ⟨Spec.TreeAlgo.nsHtml, t.name⟩ = false ∧
    (h ∈ stack → nameOf d h = ⟨nsHtml, t.name⟩)

theorem AFOk.mono {d d' : Dom} {st st' : List Id} {af af' : List FormatEntry} (h : AFOk d st af) (hok : ElemsOk d st)
    (hs : Stable d d') (hst : ∀ x ∈ st', x ∈ st) (haf : ∀ e ∈ af', e ∈ af) : AFOk d' st' af' := by
  intro h1 t1 hm
  obtain ⟨a, b, c⟩ := h h1 t1 (haf _ hm)
  exact ⟨Nat.lt_of_lt_of_le a hs.size, b, fun hx => by rw [nameOf_stable hs (hok h1 (hst h1 hx))]; exact c (hst h1 hx)⟩

theorem AFOk.extend {d d' : Dom} {st st' : List Id} {af af' : List FormatEntry} {new : Id} {tag : Tag}
    (h : AFOk d st af) (hok : ElemsOk d st) (hs : Stable d d')
    (hst : ∀ x ∈ st', x ∈ st ∨ x = new) (haf : ∀ e ∈ af', e ∈ af ∨ e = FormatEntry.element new tag)
    (htag : Spec.TreeAlgo.inTable Spec.TreeTables.special ⟨Spec.TreeAlgo.nsHtml, tag.name⟩ = false)
    (hfresh : d.size ≤ new) (hlt : (new : Nat) < d'.size)
    (hnm : nameOf d' new = ⟨nsHtml, tag.name⟩) : AFOk d' st' af' := by
  intro h1 t1 hm
  rcases haf _ hm with hold | hnew
  · obtain ⟨a, b, c⟩ := h h1 t1 hold
    refine ⟨Nat.lt_of_lt_of_le a hs.size, b, fun hx => ?_⟩
    rcases hst h1 hx with hx' | hx'
    · rw [nameOf_stable hs (hok h1 hx')]; exact c hx'
    · subst hx'; exact absurd a (Nat.not_lt.mpr hfresh)
  · cases hnew
    exact ⟨hlt, htag, fun _ => hnm⟩

/-- the model's bookmark as the standard's -/
def absBm : H5V.Model.HtmlTB.Bookmark → Spec.TreeAlgo2.Bookmark Id
  | .replace _ => .atFormattingElement
  | .insertAfter h => .after h

/-- the bookmark is the formatting element's own place, or sits after a listed node created by
this run of the algorithm -/
def BmOk (fe : Id) (n0 : Nat) (af : List FormatEntry) : H5V.Model.HtmlTB.Bookmark → Prop
  | .replace h => h = fe
  | .insertAfter x => n0 ≤ x ∧ ∃ t, FormatEntry.element x t ∈ af

/-- the invariant of the inner loop: `pfe` is the position of the formatting element, `idx` the
position below which the loop has already worked, `n0` the size of the arena at the start -/
structure InnerInv (fe fb : Id) (n0 pfe idx : Nat) (s : State) (bm : H5V.Model.HtmlTB.Bookmark) : Prop where
  elems : ElemsOk s.dom s.openElems
  size : n0 ≤ s.dom.size
  fe_at : s.openElems[pfe]? = some fe
  pfe_lt : pfe < idx
  not_fe : ∀ p, pfe < p → s.openElems[p]? ≠ some fe
  old : ∀ p (y : Id), p < idx → s.openElems[p]? = some y → (y : Nat) < n0
  fb_below : ∃ q, idx ≤ q ∧ s.openElems[q]? = some fb
  fe_listed : ∃ t, FormatEntry.element fe t ∈ s.activeFormatting
  bm_ok : BmOk fe n0 s.activeFormatting bm
  af_ok : AFOk s.dom s.openElems s.activeFormatting

/-- what the inner loop guarantees -/
def InnerPost (fe fb : Id) (n0 pfe idx counter : Nat) (lastNode : Id) (bm : H5V.Model.HtmlTB.Bookmark) (s : State) :
    Id × H5V.Model.HtmlTB.Bookmark → State → List Call → Prop :=
  fun r s' calls => ∃ ids L,
    (∀ tc, TcOk s'.dom tc → edits calls = L.map (editCall tc)) ∧
    (∀ rest log0, Spec.TreeAlgo2.innerLoop tagCtx fe fb idx counter lastNode (absBm bm) (absState s (ids ++ rest) log0)
        = some (absState s' rest (log0 ++ L), r.1, absBm r.2)) ∧
    SameButStackList s s' ∧ ElemsOk s'.dom s'.openElems ∧
    s'.openElems.take (pfe + 1) = s.openElems.take (pfe + 1) ∧
    (∃ q, pfe < q ∧ s'.openElems[q]? = some fb) ∧
    (∀ p, pfe < p → s'.openElems[p]? ≠ some fe) ∧
    (∃ t, FormatEntry.element fe t ∈ s'.activeFormatting) ∧ BmOk fe n0 s'.activeFormatting r.2 ∧
    (∀ x ∈ ids, s.dom.size ≤ x) ∧ AFOk s'.dom s'.openElems s'.activeFormatting

theorem adoptionInnerLimit_eq : Spec.TreeTables.adoptionInnerLimit = 3 := rfl

/-- the `remove node from the stack and continue` branches -/
theorem tot_aiRemove (fe fb : Id) (n0 pfe idx : Nat)
    (ih : ∀ (s : State) (counter : Nat) (lastNode : Id) (bm : H5V.Model.HtmlTB.Bookmark), InnerInv fe fb n0 pfe idx s bm →
      Tot (aaInner fe fb idx counter lastNode bm) s (InnerPost fe fb n0 pfe idx counter lastNode bm s))
    (s : State) (counter : Nat) (lastNode : Id) (bm : H5V.Model.HtmlTB.Bookmark) (node : Id)
    (_hnode : s.openElems[idx]? = some node) (_hne : node ≠ fe) (hpfe : pfe < idx)
    (hinv : InnerInv fe fb n0 pfe (idx + 1) s bm) :
    Tot (aiRemove fe fb idx counter lastNode bm) s (fun r s' calls => ∃ ids L,
      (∀ tc, TcOk s'.dom tc → edits calls = L.map (editCall tc)) ∧
      (∀ rest log0, Spec.TreeAlgo2.innerLoop tagCtx fe fb idx counter lastNode (absBm bm)
          ({ absState s (ids ++ rest) log0 with stack := (absStack s.dom s.openElems).eraseIdx idx })
          = some (absState s' rest (log0 ++ L), r.1, absBm r.2)) ∧
      SameButStackList s s' ∧ ElemsOk s'.dom s'.openElems ∧
      s'.openElems.take (pfe + 1) = s.openElems.take (pfe + 1) ∧
      (∃ q, pfe < q ∧ s'.openElems[q]? = some fb) ∧
      (∀ p, pfe < p → s'.openElems[p]? ≠ some fe) ∧
      (∃ t, FormatEntry.element fe t ∈ s'.activeFormatting) ∧ BmOk fe n0 s'.activeFormatting r.2 ∧
      (∀ x ∈ ids, s.dom.size ≤ x) ∧ AFOk s'.dom s'.openElems s'.activeFormatting) := by
  unfold aiRemove
  refine tot_bind (tot_modS rfl rfl ?_)
  generalize hs2 : ({ s with openElems := s.openElems.eraseIdx idx } : State) = s2
  have hopen2 : s2.openElems = s.openElems.eraseIdx idx := by rw [← hs2]
  have hdom2 : s2.dom = s.dom := by rw [← hs2]
  have haf2 : s2.activeFormatting = s.activeFormatting := by rw [← hs2]
  have hinv2 : InnerInv fe fb n0 pfe idx s2 bm := by
    refine ⟨?_, ?_, ?_, hpfe, ?_, ?_, ?_, ?_, ?_, ?_⟩
    · rw [hdom2, hopen2]; intro x hx
      exact hinv.elems x ((List.eraseIdx_sublist _ _).subset hx)
    · rw [hdom2]; exact hinv.size
    · rw [hopen2, List.getElem?_eraseIdx]; simp only [hpfe, if_true]; exact hinv.fe_at
    · intro p hp
      rw [hopen2, List.getElem?_eraseIdx]
      by_cases h : p < idx
      · simp only [h, if_true]; exact hinv.not_fe p hp
      · simp only [h, if_false]; exact hinv.not_fe (p + 1) (by omega)
    · intro p y hp hy
      rw [hopen2, List.getElem?_eraseIdx] at hy
      simp only [hp, if_true] at hy
      exact hinv.old p y (by omega) hy
    · obtain ⟨q, hq, hqf⟩ := hinv.fb_below
      refine ⟨q - 1, by omega, ?_⟩
      rw [hopen2, List.getElem?_eraseIdx]
      have : ¬ (q - 1 < idx) := by omega
      simp only [this, if_false]
      rw [show q - 1 + 1 = q by omega]; exact hqf
    · rw [haf2]; exact hinv.fe_listed
    · rw [haf2]; exact hinv.bm_ok
    · rw [hdom2, hopen2, haf2]
      exact hinv.af_ok.mono hinv.elems (Stable.refl _) (fun x hx => (List.eraseIdx_sublist _ _).subset hx) (fun e he => he)
  refine tot_conseq (ih s2 counter lastNode bm hinv2) fun r s3 c3 _ ⟨ids, L, hL, hspec, hS3, hok3, htake, hfb, hnfe, hfel, hbm, hfresh, hafok⟩ => ?_
  refine ⟨ids, L, ?_, ?_, ?_, hok3, ?_, hfb, hnfe, hfel, hbm, ?_, hafok⟩
  · intro tc htc; simpa using hL tc htc
  · intro rest log0
    have := hspec rest log0
    have e : absState s2 (ids ++ rest) log0
        = { absState s (ids ++ rest) log0 with stack := (absStack s.dom s.openElems).eraseIdx idx } := by
      simp only [absState, hopen2, hdom2, haf2, absStack_eraseIdx]
      rw [← hs2]
    rw [← e]; exact this
  · unfold SameButStackList at hS3 ⊢
    rw [hS3, ← hs2]
  · rw [htake, hopen2]
    apply List.ext_getElem?
    intro j
    simp only [List.getElem?_take, List.getElem?_eraseIdx]
    by_cases hj : j < pfe + 1
    · have : j < idx := by omega
      simp [hj, this]
    · simp [hj]
  · intro x hx; have := hfresh x hx; rw [hdom2] at this; exact this

theorem unit_removeFromParent (x : Id) : ∀ d d' out, Dom.apply d (.removeFromParent x) = .ok (d', out) → out = .unit :=
  fun _ _ _ h => out_unit h

theorem unit_reparentChildren (a b : Id) : ∀ d d' out, Dom.apply d (.reparentChildren a b) = .ok (d', out) → out = .unit :=
  fun _ _ _ h => out_unit h

/-- the abstract state after step 13.6 -/
def stReplace (s : State) (idx nfi : Nat) (new : Id) (tag : Tag) (supply : List Id) (log : List (Edit Id Tag)) :
    PState Id Tag :=
  { absState s supply log with
    stack := (absStack s.dom s.openElems).set idx ⟨new, ⟨nsHtml, tag.name⟩⟩
    list := (absList s.activeFormatting).set nfi (.element new tag) }

/-- steps 13.6–13.9 and the rest of the loop -/
theorem tot_aiAfterTag (fe fb : Id) (n0 pfe idx : Nat)
    (ih : ∀ (s : State) (counter : Nat) (lastNode : Id) (bm : H5V.Model.HtmlTB.Bookmark), InnerInv fe fb n0 pfe idx s bm →
      Tot (aaInner fe fb idx counter lastNode bm) s (InnerPost fe fb n0 pfe idx counter lastNode bm s))
    (s : State) (counter : Nat) (lastNode : Id) (bm : H5V.Model.HtmlTB.Bookmark) (node : Id) (nfi : Nat) (tag : Tag)
    (hnode : s.openElems[idx]? = some node) (hne : node ≠ fe) (hpfe : pfe < idx)
    (hentry : s.activeFormatting[nfi]? = some (.element node tag))
    (hinv : InnerInv fe fb n0 pfe (idx + 1) s bm) :
    Tot (aiAfterTag fe fb idx counter lastNode bm nfi tag) s (fun r s' calls => ∃ new ids L,
      (∀ tc, TcOk s'.dom tc → edits calls = L.map (editCall tc)) ∧
      (∀ rest log0, Spec.TreeAlgo2.innerLoop tagCtx fe fb idx counter new
          (if lastNode = fb then .after new else absBm bm)
          (stReplace s idx nfi new tag (ids ++ rest)
            (log0 ++ [Edit.create new nsHtml tag, Edit.remove lastNode, Edit.insert (.lastChildOf new) lastNode]))
          = some (absState s' rest (log0 ++ L), r.1, absBm r.2)) ∧
      SameButStackList s s' ∧ ElemsOk s'.dom s'.openElems ∧
      s'.openElems.take (pfe + 1) = s.openElems.take (pfe + 1) ∧
      (∃ q, pfe < q ∧ s'.openElems[q]? = some fb) ∧
      (∀ p, pfe < p → s'.openElems[p]? ≠ some fe) ∧
      (∃ t, FormatEntry.element fe t ∈ s'.activeFormatting) ∧ BmOk fe n0 s'.activeFormatting r.2 ∧
      s.dom.size ≤ new ∧ (∀ x ∈ ids, s.dom.size ≤ x) ∧ AFOk s'.dom s'.openElems s'.activeFormatting) := by
  have hfe_old : (fe : Nat) < n0 := hinv.old pfe fe (by omega) hinv.fe_at
  have hnode_old : (node : Nat) < n0 := hinv.old idx node (by omega) hnode
  have hnfi : nfi < s.activeFormatting.length := by
    have := List.getElem?_eq_some_iff.mp hentry; exact this.1
  unfold aiAfterTag
  refine tot_bind (tot_conseq (tot_createElementWithFlags s nsHtml tag) fun new s1 c1 he1 ⟨hs1, hc1, hfresh, hel, hnm⟩ => ?_)
  subst hc1
  refine tot_bind (tot_modS rfl rfl ?_)
  generalize hs2 : ({ s1 with openElems := s1.openElems.set idx new,
                              activeFormatting := s1.activeFormatting.set nfi (.element new tag) } : State) = s2
  have hopen2 : s2.openElems = s.openElems.set idx new := by rw [← hs2, hs1.openElems]
  have haf2 : s2.activeFormatting = s.activeFormatting.set nfi (.element new tag) := by rw [← hs2, hs1.activeFormatting]
  have hdom2 : s2.dom = s1.dom := by rw [← hs2]
  have hS2 : SameButStackList s s2 := by
    unfold SameButStackList; rw [← hs2]; unfold SameTB at hs1; rw [hs1]
  have hst1 : Stable s.dom s1.dom := he1.stable
  have hnew_ne_fe : new ≠ fe := Nat.ne_of_gt (Nat.lt_of_lt_of_le hfe_old (Nat.le_trans hinv.size hfresh))
  -- the bookmark
  refine tot_query_bind (tot_sameNode s2 lastNode fb) fun s3 c3 he3 hs3 hc3 => ?_
  generalize hbm' : (if (lastNode == fb) = true then H5V.Model.HtmlTB.Bookmark.insertAfter new else bm) = bm'
  have hjp : ∀ b : Bool, (if b = true then (pure (H5V.Model.HtmlTB.Bookmark.insertAfter new) : M _) >>=
        (fun bookmark => aiAfterBookmark fe fb idx counter lastNode new bookmark)
      else pure bm >>= fun bookmark => aiAfterBookmark fe fb idx counter lastNode new bookmark)
      = aiAfterBookmark fe fb idx counter lastNode new (if b = true then .insertAfter new else bm) := by
    intro b; cases b <;> rfl
  rw [hjp, hbm']
  unfold aiAfterBookmark
  refine tot_bind (tot_conseq (tot_sinkUnit_unit' s3 trivial (unit_removeFromParent lastNode)) fun _ s4 c4 he4 ⟨hs4, hc4⟩ => ?_)
  subst hc4
  refine tot_bind (tot_conseq (tot_sinkUnit_unit' s4 trivial (unit_append' new (.node lastNode))) fun _ s5 c5 he5 ⟨hs5, hc5⟩ => ?_)
  subst hc5
  have hS25 : SameTB s2 s5 := (hs3.trans hs4).trans hs5
  have hst25 : Stable s2.dom s5.dom := (he3.stable.trans he4.stable).trans he5.stable
  have hst5 : Stable s.dom s5.dom := by
    refine hst1.trans ?_; rw [← hdom2]; exact hst25
  have hopen5 : s5.openElems = s.openElems.set idx new := by rw [hS25.openElems, hopen2]
  have haf5 : s5.activeFormatting = s.activeFormatting.set nfi (.element new tag) := by rw [hS25.activeFormatting, haf2]
  have hel5 : s5.dom.isElement new = true := isElement_stable hst25 (by rw [hdom2]; exact hel)
  have hnm5 : nameOf s5.dom new = ⟨nsHtml, tag.name⟩ := by
    rw [nameOf_stable hst25 (by rw [hdom2]; exact hel), hdom2]; exact hnm
  have hmem_new : FormatEntry.element new tag ∈ s.activeFormatting.set nfi (.element new tag) := by
    apply List.mem_of_getElem? (i := nfi)
    rw [List.getElem?_set]; simp [hnfi]
  have hinv5 : InnerInv fe fb n0 pfe idx s5 bm' := by
    refine ⟨?_, ?_, ?_, hpfe, ?_, ?_, ?_, ?_, ?_, ?_⟩
    · rw [hopen5]; intro x hx
      rcases List.mem_or_eq_of_mem_set hx with h | h
      · exact isElement_stable hst5 (hinv.elems x h)
      · subst h; exact hel5
    · exact Nat.le_trans hinv.size hst5.size
    · rw [hopen5, List.getElem?_set]
      have : ¬ idx = pfe := by omega
      simp only [this, if_false]; exact hinv.fe_at
    · intro p hp
      rw [hopen5, List.getElem?_set]
      by_cases h : idx = p
      · simp only [h, if_true]; split
        · intro hc; cases hc; exact hnew_ne_fe rfl
        · intro hc; cases hc
      · simp only [h, if_false]; exact hinv.not_fe p hp
    · intro p y hp hy
      rw [hopen5, List.getElem?_set] at hy
      have : ¬ idx = p := by omega
      simp only [this, if_false] at hy
      exact hinv.old p y (by omega) hy
    · obtain ⟨q, hq, hqf⟩ := hinv.fb_below
      refine ⟨q, by omega, ?_⟩
      rw [hopen5, List.getElem?_set]
      have : ¬ idx = q := by omega
      simp only [this, if_false]; exact hqf
    · obtain ⟨t, ht⟩ := hinv.fe_listed
      rw [haf5]
      exact ⟨t, mem_set_of_ne ht hentry (by intro h; cases h; exact hne rfl)⟩
    · rw [haf5, ← hbm']
      by_cases hl : (lastNode == fb) = true
      · simp only [hl, if_true, BmOk]
        exact ⟨Nat.le_trans hinv.size hfresh, tag, hmem_new⟩
      · simp only [hl, Bool.false_eq_true, if_false]
        have := hinv.bm_ok
        cases bm with
        | replace h => exact this
        | insertAfter x =>
          obtain ⟨hx, t, ht⟩ := this
          exact ⟨hx, t, mem_set_of_ne ht hentry (by intro h; cases h; exact absurd hnode_old (Nat.not_lt.mpr hx))⟩
    · rw [hopen5, haf5]
      exact hinv.af_ok.extend hinv.elems hst5 (fun x hx => List.mem_or_eq_of_mem_set hx)
        (fun e he => List.mem_or_eq_of_mem_set he) (hinv.af_ok node tag (List.mem_of_getElem? hentry)).2.1 hfresh
        (isElement_lt hel5) hnm5
  refine tot_conseq (ih s5 counter new bm' hinv5) fun r s6 c6 he6 ⟨ids, L, hL, hspec, hS6, hok6, htake, hfb, hnfe, hfel, hbm, hfresh6, hafok⟩ => ?_
  have hst6 : Stable s.dom s6.dom := hst5.trans he6.stable
  refine ⟨new, ids, [Edit.create new nsHtml tag, Edit.remove lastNode, Edit.insert (.lastChildOf new) lastNode] ++ L,
    ?_, ?_, ?_, hok6, ?_, hfb, hnfe, hfel, hbm, hfresh, ?_, hafok⟩
  · intro tc htc
    simp only [List.nil_append, edits_append, hc3, hL tc htc, List.map_append, List.map_cons, List.map_nil]
    rfl
  · intro rest log0
    have hb : (if lastNode = fb then Spec.TreeAlgo2.Bookmark.after new else absBm bm) = absBm bm' := by
      rw [← hbm']
      by_cases hl : lastNode = fb
      · simp [hl, absBm]
      · have : (lastNode == fb) = false := by simpa using hl
        simp [hl, this]
    rw [hb]
    have e : stReplace s idx nfi new tag (ids ++ rest)
        (log0 ++ [Edit.create new nsHtml tag, Edit.remove lastNode, Edit.insert (.lastChildOf new) lastNode])
        = absState s5 (ids ++ rest) (log0 ++ [Edit.create new nsHtml tag, Edit.remove lastNode, Edit.insert (.lastChildOf new) lastNode]) := by
      simp only [stReplace, absState, hopen5, haf5, absList_set, absEntry]
      rw [absStack_set hinv.elems hst5]
      have : elemOf s5.dom new = ⟨new, ⟨nsHtml, tag.name⟩⟩ := by simp only [elemOf, hnm5]; rfl
      rw [this]
      have hf : s5.fosterParenting = s.fosterParenting := by rw [hS25.fosterParenting, ← hs2, hs1.fosterParenting]
      have hfm : s5.formElem = s.formElem := by rw [hS25.formElem, ← hs2, hs1.formElem]
      rw [hf, hfm]
    rw [e, hspec rest _, List.append_assoc]
  · unfold SameButStackList at hS6 hS2 ⊢
    unfold SameTB at hS25
    rw [hS6, hS25, hS2]
  · rw [htake, hopen5]
    apply List.ext_getElem?
    intro j
    simp only [List.getElem?_take, List.getElem?_set]
    by_cases hj : j < pfe + 1
    · have : ¬ idx = j := by omega
      simp [hj, this]
    · simp [hj]
  · intro x hx
    exact Nat.le_trans hst5.size (hfresh6 x hx)

/-! ### the spec's inner loop, case by case -/
section SpecInner
variable {N T : Type} [DecidableEq N]

theorem innerLoop_exit (cx : Ctx T) (fe fb : N) (idx c : Nat) (ln : N) (bm : Spec.TreeAlgo2.Bookmark N) (st : PState N T)
    (nd : Elem N) (h1 : st.stack[idx]? = some nd) (h2 : nd.id = fe) :
    innerLoop cx fe fb (idx + 1) c ln bm st = some (st, ln, bm) := by
  simp only [innerLoop, h1, h2, if_true]

theorem innerLoop_both (cx : Ctx T) (fe fb : N) (idx c : Nat) (ln : N) (bm : Spec.TreeAlgo2.Bookmark N) (st : PState N T)
    (nd : Elem N) (i : Nat) (h1 : st.stack[idx]? = some nd) (h2 : nd.id ≠ fe) (h3 : c + 1 > 3)
    (h4 : listPos nd.id st.list = some i) :
    innerLoop cx fe fb (idx + 1) c ln bm st
      = innerLoop cx fe fb idx (c + 1) ln bm { st with list := st.list.eraseIdx i, stack := st.stack.eraseIdx idx } := by
  have ha : Spec.TreeAlgo.innerLoopAction (c + 1) true = .removeFromBoth := by
    simp [Spec.TreeAlgo.innerLoopAction, adoptionInnerLimit_eq]; omega
  simp only [innerLoop, h1, h2, if_false, h4, Option.isSome_some, ha]

theorem innerLoop_stackOnly (cx : Ctx T) (fe fb : N) (idx c : Nat) (ln : N) (bm : Spec.TreeAlgo2.Bookmark N) (st : PState N T)
    (nd : Elem N) (h1 : st.stack[idx]? = some nd) (h2 : nd.id ≠ fe) (h4 : listPos nd.id st.list = none) :
    innerLoop cx fe fb (idx + 1) c ln bm st
      = innerLoop cx fe fb idx (c + 1) ln bm { st with stack := st.stack.eraseIdx idx } := by
  have ha : Spec.TreeAlgo.innerLoopAction (c + 1) false = .removeFromStack := by
    simp [Spec.TreeAlgo.innerLoopAction]
  simp only [innerLoop, h1, h2, if_false, h4, Option.isSome_none, ha]

theorem innerLoop_replace (cx : Ctx T) (fe fb : N) (idx c : Nat) (ln : N) (bm : Spec.TreeAlgo2.Bookmark N) (st : PState N T)
    (nd : Elem N) (i : Nat) (x : N) (tok : T) (n : N) (sup : List N)
    (h1 : st.stack[idx]? = some nd) (h2 : nd.id ≠ fe) (h3 : ¬ c + 1 > 3)
    (h4 : listPos nd.id st.list = some i) (h5 : st.list[i]? = some (.element x tok)) (h6 : st.supply = n :: sup) :
    innerLoop cx fe fb (idx + 1) c ln bm st
      = innerLoop cx fe fb idx (c + 1) n (if ln = fb then .after n else bm)
          { st with supply := sup, list := st.list.set i (.element n tok),
                    stack := st.stack.set idx ⟨n, ⟨Spec.TreeAlgo.nsHtml, cx.tokName tok⟩⟩,
                    log := st.log ++ [.create n Spec.TreeAlgo.nsHtml tok, .remove ln, .insert (.lastChildOf n) ln] } := by
  have ha : Spec.TreeAlgo.innerLoopAction (c + 1) true = .replaceWithNewElement := by
    simp [Spec.TreeAlgo.innerLoopAction, adoptionInnerLimit_eq]; omega
  simp only [innerLoop, h1, h2, if_false, h4, Option.isSome_some, ha, h5, PState.newNode, h6, Option.bind_some]

end SpecInner

theorem InnerInv.sameTB {fe fb : Id} {n0 pfe idx : Nat} {s s1 : State} {bm : H5V.Model.HtmlTB.Bookmark}
    (h : InnerInv fe fb n0 pfe idx s bm) (hs : SameTB s s1) (hst : Stable s.dom s1.dom) : InnerInv fe fb n0 pfe idx s1 bm := by
  have ho := hs.openElems
  have ha := hs.activeFormatting
  exact ⟨by rw [ho]; exact h.elems.stable hst, Nat.le_trans h.size hst.size, by rw [ho]; exact h.fe_at, h.pfe_lt,
    by rw [ho]; exact h.not_fe, by rw [ho]; exact h.old, by rw [ho]; exact h.fb_below, by rw [ha]; exact h.fe_listed,
    by rw [ha]; exact h.bm_ok, by rw [ho, ha]; exact h.af_ok.mono h.elems hst (fun _ hx => hx) (fun _ he => he)⟩

/-- removing the entry of a node above the formatting element from the list keeps the invariant -/
theorem InnerInv.eraseList {fe fb : Id} {n0 pfe idx : Nat} {s : State} {bm : H5V.Model.HtmlTB.Bookmark}
    (h : InnerInv fe fb n0 pfe idx s bm) {i : Nat} {node : Id} {t : Tag} (hi : s.activeFormatting[i]? = some (.element node t))
    (hne : node ≠ fe) (hold : (node : Nat) < n0) :
    InnerInv fe fb n0 pfe idx { s with activeFormatting := s.activeFormatting.eraseIdx i } bm := by
  refine ⟨h.elems, h.size, h.fe_at, h.pfe_lt, h.not_fe, h.old, h.fb_below, ?_, ?_,
    h.af_ok.mono h.elems (Stable.refl _) (fun _ hx => hx) (fun e he => (List.eraseIdx_sublist _ _).subset he)⟩
  · obtain ⟨t', ht'⟩ := h.fe_listed
    exact ⟨t', mem_eraseIdx_of_ne ht' hi (by intro hh; cases hh; exact hne rfl)⟩
  · have := h.bm_ok
    cases bm with
    | replace x => exact this
    | insertAfter x =>
      obtain ⟨hx, t', ht'⟩ := this
      exact ⟨hx, t', mem_eraseIdx_of_ne ht' hi (by intro hh; cases hh; exact absurd hold (Nat.not_lt.mpr hx))⟩

/-- **(o, steps 13.1–13.9)** the inner loop of the adoption agency algorithm -/
theorem tot_aaInner (fe fb : Id) (n0 pfe : Nat) : ∀ (idx : Nat) (s : State) (counter : Nat) (lastNode : Id)
    (bm : H5V.Model.HtmlTB.Bookmark), InnerInv fe fb n0 pfe idx s bm →
    Tot (aaInner fe fb idx counter lastNode bm) s (InnerPost fe fb n0 pfe idx counter lastNode bm s) := by
  intro idx
  induction idx with
  | zero => intro s counter lastNode bm hinv; exact absurd hinv.pfe_lt (Nat.not_lt_zero _)
  | succ idx ih =>
    intro s counter lastNode bm hinv
    rw [aaInner_succ]
    refine tot_getS_bind ?_
    obtain ⟨node, hnode⟩ : ∃ node, s.openElems[idx]? = some node := by
      obtain ⟨q, hq, hqf⟩ := hinv.fb_below
      have hlen : q < s.openElems.length := (List.getElem?_eq_some_iff.mp hqf).1
      exact ⟨_, List.getElem?_eq_getElem (by omega)⟩
    rw [hnode]
    refine tot_bind (tot_pure ?_)
    unfold aiAfterNode
    refine tot_query_bind (tot_sameNode s node fe) fun s1 c1 he1 hs1 hc1 => ?_
    have hst1 := he1.stable
    have hinv1 := hinv.sameTB hs1 hst1
    have hnode1 : s1.openElems[idx]? = some node := by rw [hs1.openElems]; exact hnode
    have habs1 : ∀ sup log, absState s1 sup log = absState s sup log := fun sup log => absState_sameTB hs1 hst1 hinv.elems sup log
    have hstk : ∀ sup log, (absState s sup log).stack[idx]? = some (elemOf s.dom node) := by
      intro sup log; simp only [absState, absStack_getElem?, hnode, Option.map_some]
    by_cases hnf : node = fe
    · -- 13.3: break
      subst hnf
      simp only [beq_self_eq_true, if_true]
      have hpi : pfe = idx := by
        rcases Nat.lt_or_ge pfe idx with h | h
        · exact absurd hnode (hinv.not_fe idx h)
        · have := hinv.pfe_lt; omega
      refine tot_pure ⟨[], [], ?_, ?_, ?_, ?_, ?_, ?_, ?_, ?_, ?_, ?_, hinv1.af_ok⟩
      · intro tc _; simp [hc1]
      · intro rest log0
        simp only [List.nil_append, List.append_nil]
        rw [innerLoop_exit tagCtx node fb idx counter lastNode (absBm bm) _ _ (hstk _ _) rfl, habs1]
      · unfold SameButStackList; unfold SameTB at hs1; rw [hs1]
      · exact hinv1.elems
      · rw [hs1.openElems]
      · obtain ⟨q, hq, hqf⟩ := hinv1.fb_below
        exact ⟨q, by omega, hqf⟩
      · exact hinv1.not_fe
      · exact hinv1.fe_listed
      · exact hinv1.bm_ok
      · intro x hx; cases hx
    · -- the node is not the formatting element
      have hbeq : (node == fe) = false := by simpa using hnf
      simp only [hbeq, Bool.false_eq_true, if_false]
      have hpfe : pfe < idx := by
        rcases Nat.lt_or_ge pfe idx with h | h
        · exact h
        · have h1 := hinv.pfe_lt
          have : pfe = idx := by omega
          subst this
          rw [hinv.fe_at] at hnode; cases hnode; exact absurd rfl hnf
      have hnode_old : (node : Nat) < n0 := hinv.old idx node (by omega) hnode
      have hnid : (elemOf s.dom node).id ≠ fe := hnf
      -- wrap a result for `s1` (or a state that differs from it in the list) up for `s`
      have wrap : ∀ (s1' : State) (c2 : List Call) (ids : List Id) (L : List (Edit Id Tag)) (r : Id × H5V.Model.HtmlTB.Bookmark)
          (s' : State) (c3 : List Call), edits c2 = [] → s1'.openElems = s.openElems → Stable s.dom s1'.dom →
          SameButStackList s s1' →
          (∀ tc, TcOk s'.dom tc → edits c3 = L.map (editCall tc)) →
          (∀ rest log0, Spec.TreeAlgo2.innerLoop tagCtx fe fb (idx + 1) counter lastNode (absBm bm) (absState s (ids ++ rest) log0)
            = some (absState s' rest (log0 ++ L), r.1, absBm r.2)) →
          SameButStackList s1' s' → ElemsOk s'.dom s'.openElems →
          s'.openElems.take (pfe + 1) = s1'.openElems.take (pfe + 1) →
          (∃ q, pfe < q ∧ s'.openElems[q]? = some fb) → (∀ p, pfe < p → s'.openElems[p]? ≠ some fe) →
          (∃ t, FormatEntry.element fe t ∈ s'.activeFormatting) → BmOk fe n0 s'.activeFormatting r.2 →
          (∀ x ∈ ids, s1'.dom.size ≤ x) → AFOk s'.dom s'.openElems s'.activeFormatting →
          InnerPost fe fb n0 pfe (idx + 1) counter lastNode bm s r s' (c1 ++ (c2 ++ c3)) := by
        intro s1' c2 ids L r s' c3 hc2 hopen hst hS1 hL hspec hS hok htake hfb hnfe hfel hbm hfresh hafok
        refine ⟨ids, L, ?_, hspec, ?_, hok, ?_, hfb, hnfe, hfel, hbm, ?_, hafok⟩
        · intro tc htc; rw [edits_append, edits_append, hc1, hc2, hL tc htc]; rfl
        · unfold SameButStackList at hS hS1 ⊢; rw [hS, hS1]
        · rw [htake, hopen]
        · intro x hx; exact Nat.le_trans hst.size (hfresh x hx)
      -- 13.5 for a node that is not listed: it leaves the stack, the list stays
      have hnone : ∀ (s2 : State) (c2 : List Call), SameTB s s2 → Stable s.dom s2.dom → edits c2 = [] →
          listPos node (absList s.activeFormatting) = none →
          Tot (aiRemove fe fb idx (counter + 1) lastNode bm) s2
            (fun r s' c3 => InnerPost fe fb n0 pfe (idx + 1) counter lastNode bm s r s' (c1 ++ (c2 ++ c3))) := by
        intro s2 c2 hS2 hst2 hc2 hpos
        refine tot_conseq (tot_aiRemove fe fb n0 pfe idx ih s2 (counter + 1) lastNode bm node
            (by rw [hS2.openElems]; exact hnode) hnf hpfe (hinv.sameTB hS2 hst2))
          fun r s' c3 _ ⟨ids, L, hL, hspec, hS, hok, htake, hfb, hnfe, hfel, hbm, hfresh, hafok⟩ => ?_
        refine wrap s2 c2 ids L r s' c3 hc2 hS2.openElems hst2
          (by unfold SameButStackList; unfold SameTB at hS2; rw [hS2]) hL ?_ hS hok htake hfb hnfe hfel hbm hfresh hafok
        intro rest log0
        rw [innerLoop_stackOnly tagCtx fe fb idx counter lastNode (absBm bm) _ _ (hstk _ _) hnid (by simp only [absState]; exact hpos)]
        have := hspec rest log0
        rw [absState_sameTB hS2 hst2 hinv.elems, hS2.openElems, absStack_stable hinv.elems hst2] at this
        exact this
      by_cases hgt : counter + 1 > 3
      · -- 13.4, 13.5
        simp only [hgt, if_true]
        refine tot_query_bind (tot_positionInAF s1 node) fun s2 c2 he2 hs2 hc2 => ?_
        rw [hs1.activeFormatting]
        have hst2 : Stable s.dom s2.dom := hst1.trans he2.stable
        have hS2 : SameTB s s2 := hs1.trans hs2
        have hinv2 := hinv.sameTB hS2 hst2
        have hnode2 : s2.openElems[idx]? = some node := by rw [hS2.openElems]; exact hnode
        cases hpos : listPos node (absList s.activeFormatting) with
        | none => exact hnone s2 c2 hS2 hst2 hc2 hpos
        | some i =>
          simp only []
          obtain ⟨t, hentry⟩ := listPos_spec node s.activeFormatting i hpos
          have hi : i < s.activeFormatting.length := (List.getElem?_eq_some_iff.mp hentry).1
          refine tot_bind (tot_conseq (tot_afRemove s2 i "mod.rs:817" (by rw [hS2.activeFormatting]; exact hi))
            fun _ s3 c3 _ ⟨hs3, hc3⟩ => ?_)
          subst hc3
          rw [hS2.activeFormatting] at hs3
          have hopen3 : s3.openElems = s.openElems := by rw [hs3]; exact hS2.openElems
          have hdom3 : s3.dom = s2.dom := by rw [hs3]
          have haf3 : s3.activeFormatting = s.activeFormatting.eraseIdx i := by rw [hs3]
          have hinv3 : InnerInv fe fb n0 pfe (idx + 1) s3 bm := by
            have := hinv2.eraseList (i := i) (node := node) (t := t) (by rw [hS2.activeFormatting]; exact hentry) hnf hnode_old
            rw [hS2.activeFormatting] at this; rw [hs3]; exact this
          refine tot_conseq (tot_aiRemove fe fb n0 pfe idx ih s3 (counter + 1) lastNode bm node (by rw [hopen3]; exact hnode) hnf hpfe hinv3)
            fun r s' c4 _ ⟨ids, L, hL, hspec, hS, hok, htake, hfb, hnfe, hfel, hbm, hfresh, hafok⟩ => ?_
          have := wrap s3 (c2 ++ []) ids L r s' c4 (by simp [hc2]) hopen3 (by rw [hdom3]; exact hst2)
            (by unfold SameButStackList; rw [hs3]; unfold SameTB at hS2; rw [hS2]) hL ?_ hS hok htake hfb hnfe hfel hbm hfresh hafok
          · simpa using this
          · intro rest log0
            rw [innerLoop_both tagCtx fe fb idx counter lastNode (absBm bm) _ _ i (hstk _ _) hnid hgt (by simp only [absState]; exact hpos)]
            have := hspec rest log0
            have e : ({ absState s3 (ids ++ rest) log0 with stack := (absStack s3.dom s3.openElems).eraseIdx idx } : PState Id Tag)
                = { absState s (ids ++ rest) log0 with list := (absList s.activeFormatting).eraseIdx i,
                                                       stack := (absStack s.dom s.openElems).eraseIdx idx } := by
              simp only [absState, hopen3, hdom3, haf3, absList_eraseIdx, absStack_stable hinv.elems hst2]
              rw [hs3]; simp only []
              rw [hS2.fosterParenting, hS2.formElem]
            rw [e] at this; exact this
      · -- 13.5, 13.6–13.9
        simp only [hgt, if_false]
        refine tot_query_bind (tot_positionInAF s1 node) fun s2 c2 he2 hs2 hc2 => ?_
        rw [hs1.activeFormatting]
        have hst2 : Stable s.dom s2.dom := hst1.trans he2.stable
        have hS2 : SameTB s s2 := hs1.trans hs2
        have hinv2 := hinv.sameTB hS2 hst2
        have hnode2 : s2.openElems[idx]? = some node := by rw [hS2.openElems]; exact hnode
        cases hpos : listPos node (absList s.activeFormatting) with
        | none => exact hnone s2 c2 hS2 hst2 hc2 hpos
        | some nfi =>
          simp only []
          obtain ⟨t, hentry⟩ := listPos_spec node s.activeFormatting nfi hpos
          refine tot_getS_bind ?_
          rw [hS2.activeFormatting, hentry]
          simp only []
          refine tot_query_bind (tot_sameNode s2 node node) fun s3 c3 he3 hs3 hc3 => ?_
          simp only [beq_self_eq_true, Bool.not_true, Bool.false_eq_true, if_false]
          refine tot_bind (tot_pure ?_)
          have hst3 : Stable s.dom s3.dom := hst2.trans he3.stable
          have hS3 : SameTB s s3 := hS2.trans hs3
          have hinv3 := hinv.sameTB hS3 hst3
          refine tot_conseq (tot_aiAfterTag fe fb n0 pfe idx ih s3 (counter + 1) lastNode bm node nfi t
              (by rw [hS3.openElems]; exact hnode) hnf hpfe (by rw [hS3.activeFormatting]; exact hentry) hinv3)
            fun r s' c4 _ ⟨new, ids, L, hL, hspec, hS, hok, htake, hfb, hnfe, hfel, hbm, hnew, hfresh, hafok⟩ => ?_
          have := wrap s3 (c2 ++ c3) (new :: ids) L r s' c4 (by rw [edits_append, hc2, hc3]; rfl) hS3.openElems hst3
            (by unfold SameButStackList; unfold SameTB at hS3; rw [hS3]) hL ?_ hS hok htake hfb hnfe hfel hbm
            (by intro x hx; rcases List.mem_cons.mp hx with rfl | hx; exact hnew; exact hfresh x hx) hafok
          · simpa [List.append_assoc] using this
          · intro rest log0
            have hentry' : (absState s (new :: ids ++ rest) log0).list[nfi]? = some (.element node t) := by
              simp only [absState, absList_getElem?, hentry, Option.map_some, absEntry]
            rw [innerLoop_replace tagCtx fe fb idx counter lastNode (absBm bm) _ _ nfi node t new (ids ++ rest)
              (hstk _ _) hnid hgt (by simp only [absState]; exact hpos) hentry' rfl]
            have := hspec rest log0
            have e : stReplace s3 idx nfi new t (ids ++ rest)
                (log0 ++ [Edit.create new nsHtml t, Edit.remove lastNode, Edit.insert (.lastChildOf new) lastNode])
                = { absState s (new :: ids ++ rest) log0 with
                      supply := ids ++ rest,
                      list := (absState s (new :: ids ++ rest) log0).list.set nfi (.element new t),
                      stack := (absState s (new :: ids ++ rest) log0).stack.set idx ⟨new, ⟨Spec.TreeAlgo.nsHtml, tagCtx.tokName t⟩⟩,
                      log := (absState s (new :: ids ++ rest) log0).log ++
                        [.create new Spec.TreeAlgo.nsHtml t, .remove lastNode, .insert (.lastChildOf new) lastNode] } := by
              simp only [stReplace, absState, hS3.openElems, hS3.activeFormatting, hS3.fosterParenting, hS3.formElem,
                absStack_stable hinv.elems hst3]
              rfl
            rw [← e]; exact this

end H5V.Lemmas.HtmlTBAlgo
