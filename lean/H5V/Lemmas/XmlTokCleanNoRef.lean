import H5V.Lemmas.XmlTokCleanRefs
/-!
C15 — inputs without `&`: no character reference is ever started, so the machine stays *completely*
clean (`CInv QC`): no CR and no NUL in any buffer or token, attribute values and character tokens
included.

`NA m inp`: no reference is pending, there is no `&` in the unread input nor in the stashed
look-ahead, and a pending reconsume does not re-deliver `&`.
-/
namespace H5V.Model.XmlTok

/-- no `&` ahead: in the stash, in the unread input, in a pending reconsume -/
def NAe (m : Mach) (inp : Str) : Prop :=
  '&' ∉ m.tempBuf ++ inp ∧ (m.reconsume = true → m.currentChar ≠ '&')

def NA (m : Mach) (inp : Str) : Prop := m.charRef = none ∧ NAe m inp

theorem foldChar_ne_amp (o : Opts) (m : Mach) {c : Char} (h : c ≠ '&') : (foldChar o m c).1 ≠ '&' := by
  rw [foldChar_char]
  split
  · decide
  · split
    · decide
    · exact h

theorem preprocess_na (o : Opts) (m : Mach) {c : Char} {inp : Str} (hc : c ≠ '&') (hi : '&' ∉ inp) :
    (∀ x, (preprocess o m c inp).1 = some x → x ≠ '&') ∧ '&' ∉ (preprocess o m c inp).2.2 := by
  unfold preprocess
  split
  · split
    · cases inp with
      | nil => exact ⟨fun x hx => (by cases hx), hi⟩
      | cons c' rest =>
        simp only [List.mem_cons, not_or] at hi
        refine ⟨fun x hx => ?_, hi.2⟩
        simp only [Option.some.injEq] at hx; subst hx
        exact foldChar_ne_amp _ _ (fun e => hi.1 e.symm)
    · refine ⟨fun x hx => ?_, hi⟩
      simp only [Option.some.injEq] at hx; subst hx
      exact foldChar_ne_amp _ _ hc
  · refine ⟨fun x hx => ?_, hi⟩
    simp only [Option.some.injEq] at hx; subst hx
    exact foldChar_ne_amp _ _ hc

theorem getChar_na (o : Opts) {m : Mach} {inp : Str} (hr : m.reconsume = true → m.currentChar ≠ '&')
    (hi : '&' ∉ inp) :
    (∀ x, (getChar o m inp).1 = some x → x ≠ '&') ∧ '&' ∉ (getChar o m inp).2.2 := by
  unfold getChar
  split
  · rename_i h
    refine ⟨fun x hx => ?_, hi⟩
    simp only [Option.some.injEq] at hx; subst hx
    exact hr h
  · cases inp with
    | nil => exact ⟨fun x hx => (by cases hx), hi⟩
    | cons c rest =>
      simp only [List.mem_cons, not_or] at hi
      exact preprocess_na o m (fun e => hi.1 e.symm) hi.2

theorem getChar_reconsume_false (o : Opts) (m : Mach) (inp : Str) : (getChar o m inp).2.1.reconsume = false := by
  unfold getChar
  split
  · rfl
  · rename_i hr
    cases inp with
    | nil => simpa using hr
    | cons c rest => rw [preprocess_reconsume]; simpa using hr

theorem getChar_tempBuf (o : Opts) (m : Mach) (inp : Str) : (getChar o m inp).2.1.tempBuf = m.tempBuf :=
  (getChar_fields o m _ inp _ _ rfl).1
theorem getChar_charRef (o : Opts) (m : Mach) (inp : Str) : (getChar o m inp).2.1.charRef = m.charRef :=
  (getChar_fields o m _ inp _ _ rfl).2.2.2

theorem not_mem_append {a b : Str} : '&' ∉ a ++ b ↔ '&' ∉ a ∧ '&' ∉ b := by
  simp [List.mem_append, not_or]

theorem getChar_nae (o : Opts) {m : Mach} {inp : Str} (h : NAe m inp) :
    NAe (getChar o m inp).2.1 (getChar o m inp).2.2 ∧ ∀ x, (getChar o m inp).1 = some x → x ≠ '&' := by
  obtain ⟨h1, h2⟩ := h
  rw [not_mem_append] at h1
  obtain ⟨g1, g2⟩ := getChar_na o h2 h1.2
  refine ⟨⟨?_, fun hr => ?_⟩, g1⟩
  · rw [not_mem_append, getChar_tempBuf]; exact ⟨h1.1, g2⟩
  · rw [getChar_reconsume_false] at hr; cases hr

theorem popExceptFrom_na (o : Opts) (S : List Char) {m : Mach} {inp : Str}
    (hr : m.reconsume = true → m.currentChar ≠ '&') (hi : '&' ∉ inp) :
    (∀ r, (popExceptFrom o S m inp).1 = some r → r ≠ .fromSet '&') ∧ '&' ∉ (popExceptFrom o S m inp).2.2 := by
  unfold popExceptFrom
  split
  · obtain ⟨g1, g2⟩ := getChar_na o hr hi
    refine ⟨fun r h => ?_, g2⟩
    dsimp only at h
    cases hg : (getChar o m inp).1 with
    | none => rw [hg] at h; cases h
    | some x =>
      rw [hg] at h
      simp only [Option.map_some, Option.some.injEq] at h
      subst h
      intro e
      simp only [SetRes.fromSet.injEq] at e
      exact g1 x hg e
  · cases inp with
    | nil => exact ⟨fun r h => (by cases h), hi⟩
    | cons c rest =>
      simp only [List.mem_cons, not_or] at hi
      dsimp only
      split
      · obtain ⟨g1, g2⟩ := preprocess_na o m (fun e => hi.1 e.symm) hi.2
        refine ⟨fun r h => ?_, g2⟩
        dsimp only at h
        cases hg : (preprocess o m c rest).1 with
        | none => rw [hg] at h; cases h
        | some x =>
          rw [hg] at h
          simp only [Option.map_some, Option.some.injEq] at h
          subst h
          intro e
          simp only [SetRes.fromSet.injEq] at e
          exact g1 x hg e
      · refine ⟨fun r h => ?_, hi.2⟩
        simp only [Option.some.injEq] at h
        subst h
        intro e; cases e

theorem popExceptFrom_tempBuf (o : Opts) (S : List Char) (m : Mach) (inp : Str) :
    (popExceptFrom o S m inp).2.1.tempBuf = m.tempBuf :=
  (popExceptFrom_fields o S m _ inp _ _ rfl).1
theorem popExceptFrom_charRef (o : Opts) (S : List Char) (m : Mach) (inp : Str) :
    (popExceptFrom o S m inp).2.1.charRef = m.charRef :=
  (popExceptFrom_fields o S m _ inp _ _ rfl).2.2.2

/-! ### look-ahead -/

theorem NAe_setIgnoreLf {m : Mach} {inp : Str} (h : NAe m inp) (b : Bool) : NAe (m.setIgnoreLf b) inp :=
  ⟨by simpa using h.1, by simpa using h.2⟩

theorem eatSkipLf_nae (o : Opts) {m : Mach} {inp : Str} (h : NAe m inp) :
    NAe (eatSkipLf o m inp).1 (eatSkipLf o m inp).2 := by
  unfold eatSkipLf
  split
  · split
    · split
      · exact (getChar_nae o (NAe_setIgnoreLf h false)).1
      · exact NAe_setIgnoreLf h false
    · exact h
  · exact h

theorem eat_nae (o : Opts) {m : Mach} {inp : Str} (h : NAe m inp) (pat : Str) :
    NAe (eat o m inp pat).2.1 (eat o m inp pat).2.2 := by
  have h1 := eatSkipLf_nae o h
  unfold eat
  dsimp only
  generalize eatSkipLf o m inp = mi at h1
  obtain ⟨k1, k2⟩ := h1
  repeat' split
  · exact ⟨by
      simp only [setTempBuf_tempBuf, List.nil_append]
      exact fun hm => k1 (List.mem_of_mem_drop hm), by simpa using k2⟩
  · exact ⟨by simpa using k1, by simpa using k2⟩
  · exact ⟨by simpa using k1, by simpa using k2⟩
  · exact ⟨by simpa using k1, by simpa using k2⟩

/-! ### one step -/

/-- the machine and remaining input of a step result satisfy `NA` -/
def RNA : R → Prop
  | .cont m i => NA m i
  | .suspend m i => NA m i
  | .panic _ => True

theorem ofSig_RNA {ms : Mach × Sig} {inp : Str} (h : NA ms.1 inp) : RNA (ofSig ms inp) := by
  unfold ofSig
  split
  · exact h
  · trivial

theorem contChar_RNA (o : Opts) {m : Mach} {inp : Str} (hc : CInv QC m) (h : NA m inp) :
    RNA (contChar o (getChar o m inp)) := by
  obtain ⟨hcr, hn⟩ := h
  obtain ⟨g1, g2⟩ := getChar_nae o hn
  have g3 := getChar_charRef o m inp
  have g4 := (getChar_clean o hc inp).2.2
  generalize getChar o m inp = r at g1 g2 g3 g4
  obtain ⟨c, m1, i1⟩ := r
  cases c with
  | none => exact ⟨g3.trans hcr, g1⟩
  | some c =>
    refine ofSig_RNA ⟨by rw [transChar_charRef]; exact g3.trans hcr, ?_, fun _ => ?_⟩
    · rw [transChar_tempBuf]; exact g1.1
    · rw [transChar_currentChar, (g4 c rfl).2]; exact g2 c rfl

/-- a character reference is only ever started on `&` -/
theorem transSet_starts_ref (m : Mach) (r : SetRes) (hcr : m.charRef = none)
    (h : (transSet m r).1.charRef ≠ none) : r = .fromSet '&' := by
  unfold transSet at h
  split at h <;> (repeat' split at h) <;> simp_all

theorem popExceptFrom_reconsume_false (o : Opts) (S : List Char) (m : Mach) (inp : Str) :
    (popExceptFrom o S m inp).2.1.reconsume = false := by
  unfold popExceptFrom
  split
  · exact getChar_reconsume_false o m inp
  · rename_i hcond
    have hrc : m.reconsume = false := by
      cases hh : m.reconsume with
      | false => rfl
      | true => simp [hh] at hcond
    cases inp with
    | nil => exact hrc
    | cons c rest =>
      dsimp only
      split
      · dsimp only; rw [preprocess_reconsume]; exact hrc
      · exact hrc

theorem contSet_RNA (o : Opts) (S : List Char) {m : Mach} {inp : Str} (h : NA m inp) :
    RNA (contSet (popExceptFrom o S m inp)) := by
  obtain ⟨hcr, h1, h2⟩ := h
  rw [not_mem_append] at h1
  obtain ⟨g1, g2⟩ := popExceptFrom_na o S h2 h1.2
  have g3 := popExceptFrom_charRef o S m inp
  have g4 := popExceptFrom_tempBuf o S m inp
  have g5 := popExceptFrom_reconsume_false o S m inp
  generalize popExceptFrom o S m inp = r at g1 g2 g3 g4 g5
  obtain ⟨c, m1, i1⟩ := r
  cases c with
  | none =>
    exact ⟨g3.trans hcr, by rw [not_mem_append, g4]; exact ⟨h1.1, g2⟩, fun hr => by rw [g5] at hr; cases hr⟩
  | some c =>
    refine ofSig_RNA ⟨?_, ?_, ?_⟩
    · cases hx : (transSet m1 c).1.charRef with
      | none => rfl
      | some x =>
        exact absurd (transSet_starts_ref m1 c (g3.trans hcr) (by rw [hx]; simp)) (g1 c rfl)
    · rw [transSet_tempBuf, not_mem_append, g4]; exact ⟨h1.1, g2⟩
    · rw [transSet_reconsume, g5]; intro hr; cases hr

theorem NAe_to {m : Mach} {inp : Str} (h : NAe m inp) (s : State) : NAe (to s m) inp :=
  ⟨by simpa using h.1, by simpa using h.2⟩
theorem NAe_clearComment {m : Mach} {inp : Str} (h : NAe m inp) : NAe (clearComment m) inp :=
  ⟨by simpa using h.1, by simpa using h.2⟩
theorem NAe_badChar {m : Mach} {inp : Str} (h : NAe m inp) (o : Opts) : NAe (badChar o m) inp :=
  ⟨by simpa using h.1, by simpa using h.2⟩

theorem eat_charRef (o : Opts) (m : Mach) (inp pat : Str) : (eat o m inp pat).2.1.charRef = m.charRef :=
  (eat_fields o m _ inp _ pat _ rfl).2.1

theorem eatChain_RNA (o : Opts) (dflt : Mach → Str → R) (alts : List (Str × (Mach → Mach)))
    (ha : ∀ p ∈ alts, p ∈ mdAlts ++ adnAlts)
    (hd : ∀ {x : Mach} {i : Str}, CInv QC x → NA x i → RNA (dflt x i))
    {m : Mach} {inp : Str} (hc : CInv QC m) (h : NA m inp) : RNA (eatChain o dflt alts m inp) := by
  refine eatChain_ind (I := fun x i => CInv QC x ∧ NA x i) o dflt alts (fun x i pat _ _ _ hi he => ?_)
    (fun _ _ hi => hi.2) (fun p hp x i hi => ?_) (fun _ _ hi => hd hi.1 hi.2) m inp ⟨hc, h⟩
  · have h1 := eat_cinv o hi.1 i pat
    have h2 := eat_charRef o x i pat
    have h3 := eat_nae o hi.2.2 pat
    rw [he] at h1 h2 h3
    exact ⟨h1, h2.trans hi.2.1, h3⟩
  · exact alts_cases (Q := fun k => ∀ x, NA x i → NA (k x) i)
      (fun _ h => ⟨h.1, NAe_to (NAe_clearComment h.2) _⟩) (fun _ _ h => ⟨h.1, NAe_to h.2 _⟩) p (ha p hp) x hi.2

/-- **no `&` ahead, no reference pending: it stays so** -/
theorem step_RNA (o : Opts) {m : Mach} {inp : Str} (hc : CInv QC m) (h : NA m inp) : RNA (step o m inp) := by
  have hcr := h.1
  cases hrk : readKind m.state with
  | getChar => rw [step_getChar o m inp hcr hrk]; exact contChar_RNA o hc h
  | popExcept => rw [step_popExcept o m inp hcr hrk]; exact contSet_RNA o _ h
  | eatMd =>
    rw [step_kind_md o m inp hcr hrk]
    exact eatChain_RNA o (fun m i => .cont (to .bogusComment (badChar o m)) i) mdAlts
      (fun _ => List.mem_append_left _) (fun _ hn => ⟨(badChar_charRef _ _).trans hn.1, NAe_to (NAe_badChar hn.2 o) _⟩) hc h
  | eatAdn =>
    rw [step_kind_adn o m inp hcr hrk]
    exact eatChain_RNA o (fun m i => contChar o (getChar o m i)) adnAlts
      (fun _ => List.mem_append_right _) (fun hc hn => contChar_RNA o hc hn) hc h

/-- the invariant of a run on an input without `&`: completely clean -/
def FInv (m : Mach) (inp : Str) : Prop := CInv QC m ∧ NA m inp

def RF : R → Prop
  | .cont m i => FInv m i
  | .suspend m i => FInv m i
  | .panic _ => True

theorem step_finv (o : Opts) {m : Mach} {inp : Str} (h : FInv m inp) : RF (step o m inp) := by
  have h1 := step_RInv (P := QC) o h.1 inp (fun cr hcr => by rw [h.2.1] at hcr; cases hcr)
  have h2 := step_RNA o h.1 h.2
  cases hs : step o m inp with
  | cont m' i' => rw [hs] at h1 h2; exact ⟨h1, h2⟩
  | suspend m' i' => rw [hs] at h1 h2; exact ⟨h1, h2⟩
  | panic e => trivial

theorem run_finv (o : Opts) (fuel : Nat) {m : Mach} {inp : Str} (h : FInv m inp) (m' : Mach) (i' : Str)
    (hr : run o fuel m inp = .done m' i') : FInv m' i' := by
  induction fuel generalizing m inp with
  | zero => simp [run] at hr
  | succ f ih =>
    have hs := step_finv o h
    simp only [run] at hr
    cases hst : step o m inp with
    | cont m1 i1 => rw [hst] at hr hs; exact ih hs hr
    | suspend m1 i1 =>
      rw [hst] at hr hs
      simp only [RunRes.done.injEq] at hr
      obtain ⟨e1, e2⟩ := hr; subst e1 e2
      exact hs
    | panic e => rw [hst] at hr; simp at hr

theorem feedBom_finv {m : Mach} {inp : Str} (h : FInv m inp) : FInv (feedBom m inp).1 (feedBom m inp).2 := by
  unfold feedBom
  split
  · exact h
  · rename_i c rest
    split
    · refine ⟨CInv_setDiscardBom h.1 false, by simpa using h.2.1, ?_, by simpa using h.2.2.2⟩
      have := h.2.2.1
      simp only [setDiscardBom_tempBuf]
      split
      · intro hm
        apply this
        rcases List.mem_append.1 hm with h' | h'
        · exact List.mem_append_left _ h'
        · exact List.mem_append_right _ (List.mem_cons_of_mem _ h')
      · exact this
    · exact h

/-- `XmlTokenizer::feed` of a chunk without `&` -/
theorem feed_finv (o : Opts) {m : Mach} {inp : Str} (h : FInv m inp) (chunk : Str) (hc : '&' ∉ chunk)
    (m' : Mach) (i' : Str) (hf : feed o m inp chunk = .done m' i') : FInv m' i' := by
  have h' : FInv m (inp ++ chunk) := by
    refine ⟨h.1, h.2.1, ?_, h.2.2.2⟩
    have := h.2.2.1
    rw [not_mem_append] at this ⊢
    exact ⟨this.1, by rw [not_mem_append]; exact ⟨this.2, hc⟩⟩
  unfold feed at hf
  dsimp only at hf
  split at hf
  · rename_i he
    simp only [RunRes.done.injEq] at hf
    obtain ⟨e1, e2⟩ := hf; subst e1 e2
    refine ⟨h.1, h.2.1, ?_, h.2.2.2⟩
    have := h.2.2.1
    rw [not_mem_append] at this ⊢
    exact ⟨this.1, by simp⟩
  · exact run_finv o _ (feedBom_finv h') m' i' hf

/-- `XmlTokenizer::end` from a completely clean machine without pending reference or `&` ahead -/
theorem finish_clean_norefs (o : Opts) {m : Mach} (h : FInv m []) (mf : Mach) (hf : finish o m = .ok mf) :
    CleanP QC mf := by
  rw [finish_eq] at hf
  have hp : finishPre o m = .ok (m, []) := by unfold finishPre; rw [h.2.1]
  rw [hp] at hf
  simp only at hf
  have h1 : FInv (m.setAtEof true) [] :=
    ⟨CInv_setAtEof h.1 true, by simpa using h.2.1, by simpa using h.2.2.1, by simpa using h.2.2.2⟩
  cases hr : run o (fuelFor (m.setAtEof true) []) (m.setAtEof true) [] with
  | done m2 i2 =>
    rw [hr] at hf
    simp only at hf
    exact eofLoop_clean o 8 (run_finv o _ h1 m2 i2 hr).1.1 mf hf
  | panic e => rw [hr] at hf; simp at hf
  | outOfFuel => rw [hr] at hf; simp at hf

theorem finv_initial (st : State) (b : Bool) : FInv { state := st, discardBom := b } [] :=
  ⟨⟨⟨AllS_nil _, (fun _ h => nomatch h), AllS_nil _, AllS_nil _, AllS_nil _, Doctype_clean_empty, AllS_nil _,
      AllS_nil _, (fun _ h => nomatch h)⟩, fun h => by cases h⟩, rfl, by simp, fun h => by cases h⟩

end H5V.Model.XmlTok
