import H5V.Lemmas.HtmlTBFuelTable
/-!
# The fuel of `process_to_completion`: all rules, `process_token`, token lists

`allDec : AllDec` — every rule of the 21 insertion modes decreases the measure; then `process_token` and
`processTokens` without the allowance `al.fuel`: `sat_processToken_of` of `HtmlTBSafeRun` with the finishing step
given by `sat_processToCompletion2` (`ptFinishOk2`).
-/
namespace H5V.Lemmas.TBFuel
open H5V.Model.HtmlTB
open H5V.Model.HtmlTok (TagKind)
open H5V.Model.Dom (Id QualName Attr NodeOrText SinkOp Output ElementFlags QuirksMode Dom NodeData Node)
open H5V.Lemmas.TBSafe
open H5V.Lemmas.TBC (ok_bind ok_pure ok_getS_bind ok_modS_bind ok_ite ok_bind_pure)

variable {al : Allow}

theorem headE' : HeadE := headE
theorem bodyE' : BodyE := bodyE headE
theorem tableE' : TableE := tableE headE bodyE'

/-- **every rule decreases the measure** -/
theorem allDec : AllDec := by
  intro tok s ht r s' h
  unfold step at h
  cases hm : s.mode <;> rw [hm] at h <;> dsimp only at h
  · exact dj_stepInitial tok s r s' ht hm h
  · exact dj_stepBeforeHtml tok s r s' ht hm h
  · exact dj_stepBeforeHead bodyE' tok s r s' ht hm h
  · exact dj_stepInHead headE' tok s r s' ht hm h
  · exact dj_stepInHeadNoscript headE' bodyE' tok s r s' ht hm h
  · exact dj_stepAfterHead headE' bodyE' tok s r s' ht hm h
  · exact dj_body bodyE' (fun _ => by decide) s r s' ht hm h
  · exact dj_stepText tok s r s' ht hm h
  · exact dj_stepInTable tableE' tok s r s' ht hm h
  · exact dj_stepInTableText tok s r s' ht hm h
  · exact dj_stepInCaption bodyE' tok s r s' ht hm h
  · exact dj_stepInColumnGroup headE' bodyE' tok s r s' ht hm h
  · exact dj_stepInTableBody tableE' tok s r s' ht hm h
  · exact dj_stepInRow tableE' tok s r s' ht hm h
  · exact dj_stepInCell bodyE' tok s r s' ht hm h
  · exact dj_stepInTemplate headE' bodyE' tok s r s' ht hm h
  · exact dj_stepAfterBody bodyE' tok s r s' ht hm h
  · exact dj_stepInFrameset headE' bodyE' tok s r s' ht hm h
  · exact dj_stepAfterFrameset headE' bodyE' tok s r s' ht hm h
  · exact dj_stepAfterAfterBody bodyE' tok s r s' ht hm h
  · exact dj_stepAfterAfterFrameset headE' bodyE' tok s r s' ht hm h

/-! ### `process_token` -/

theorem charsToken_pos {b : Bool} {x : Str} {t : Token} (h : charsToken b x = some t) : 1 ≤ tokenCharLen t := by
  unfold charsToken at h
  by_cases hc : (dropIgnoredLf b x).isEmpty = true
  · rw [if_pos hc] at h; cases h
  · rw [if_neg hc] at h
    cases h
    show 1 ≤ (dropIgnoredLf b x).length
    cases hl : dropIgnoredLf b x with
    | nil => rw [hl] at hc; exact absurd rfl hc
    | cons a l => simp

theorem sat_ptFinish2 (hall : AllSpec (al := al)) (hd : AllDec) {tb : Option Token} {s : State} (ht : TI s)
    (hprot : ∀ t, tb = some t → Prot s t)
    (hpos : ∀ t, tb = some t → isCharsTok t = true → 1 ≤ tokenCharLen t) :
    Sat (ptFinish tb) s (fun _ s' => TI s') := by
  unfold ptFinish
  cases tb with
  | none => exact sat_pure ht
  | some t =>
    dsimp only
    refine sat_getS_bind ?_
    refine sat_processToCompletion2 hall hd _ t [] s ht ⟨fun _ => rfl, hpos t rfl, fun _ h => by cases h⟩
      (hprot t rfl) (mu_le_ptcFuel s t)

theorem ptFinishOk2 (hall : AllSpec (al := al)) (hd : AllDec) : PtFinishOk (al := al) := by
  intro tb s3 h3 hp3 hk
  refine sat_ptFinish2 hall hd h3 hp3 ?_
  intro t ht hc
  rcases hk with hk | ⟨b, x, hk⟩
  · rw [hk t ht] at hc; cases hc
  · rw [hk] at ht; exact charsToken_pos ht

theorem sat_processTokens2 (hall : AllSpec (al := al)) (hd : AllDec) (toks : List (TokToken × Nat))
    (acc : List SinkResult) (s : State) (ht : TI s) (hresp : al.text ∨ Respects s toks) :
    Sat (processTokens toks acc) s (fun _ s' => TI s') :=
  sat_processTokens_of (ptFinishOk2 hall hd) toks acc s ht hresp

end H5V.Lemmas.TBFuel
