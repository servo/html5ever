import H5V.Lemmas.HtmlTBModesInvPrim2
/-!
C02 (insertion modes), the invariant `Good` of the specification's run: the adoption agency algorithm keeps
"a td/th element is in table scope" and the formatting tokens of the list of active formatting elements.
-/
set_option linter.unusedSectionVars false
namespace H5V.Lemmas.ModesInv
open H5V.Spec H5V.Spec.TreeModes
open H5V.Spec.TreeAlgo (Str Name nsHtml nsMathml nsSvg inHtml)
open H5V.Spec.TreeAlgo2 (Elem Entry PState)

section
variable {N : Type} [DecidableEq N]

/-! ### names -/

theorem aaa_tdTh_of_neutral {n : Name} (h : neutralN n = true) : tdThN n = false := by
  simp only [neutralN, Bool.and_eq_true, Bool.not_eq_true'] at h
  exact h.1

/-- an element type outside the default scope list is none of td, th, html, table, template -/
theorem aaa_neutral_of_notScope {n : Name} (h : TreeAlgo.defaultScopeList n = false) : neutralN n = true := by
  have h1 : tdThN n = false :=
    Bool.eq_false_iff.mpr fun hc => Bool.eq_false_iff.mp h (inTable_of_inHtml (l := ["td", "th"]) (by decide +kernel) hc)
  have h2 : markN n = false :=
    Bool.eq_false_iff.mpr fun hc => Bool.eq_false_iff.mp h (inTable_mono (t := TreeTables.tableScope) (by decide +kernel) hc)
  rw [neutralN, h1, h2]; rfl

/-- removing an element that is not a td/th keeps "td/th in table scope" -/
theorem aaa_cellR_remove {n : Name} (hn : tdThN n = false) (y : List Name) :
    ∀ (x : List Name), cellR (x ++ n :: y) = true → cellR (x ++ y) = true
  | [], h => by
    rw [List.nil_append, cellR_cons, hn] at h
    by_cases hm : markN n = true
    · rw [hm] at h; simp at h
    · have hm' : markN n = false := by simpa using hm
      rw [hm'] at h
      simpa using h
  | a :: x, h => by
    rw [List.cons_append, cellR_cons] at h
    rw [List.cons_append, cellR_cons]
    by_cases ha : tdThN a = true
    · simp [ha]
    · have ha' : tdThN a = false := by simpa using ha
      rw [ha'] at h ⊢
      by_cases hm : markN a = true
      · rw [hm] at h; simp at h
      · have hm' : markN a = false := by simpa using hm
        rw [hm'] at h ⊢
        simp only [Bool.false_eq_true, if_false] at h ⊢
        exact aaa_cellR_remove hn y x h

theorem aaa_cellR_eraseIdx {st : List (Elem N)} {p : Nat} {e : Elem N} (hp : st[p]? = some e)
    (hn : tdThN e.name = false) (h : cellR (namesOf st) = true) : cellR (namesOf (st.eraseIdx p)) = true := by
  have hlt : p < st.length := by
    rcases Nat.lt_or_ge p st.length with h' | h'
    · exact h'
    · rw [List.getElem?_eq_none h'] at hp; cases hp
  have hd : st.drop p = e :: st.drop (p + 1) := by
    rw [List.drop_eq_getElem_cons hlt]
    congr 1
    rw [List.getElem?_eq_getElem hlt] at hp
    exact Option.some.inj hp
  have hs : st = st.take p ++ e :: st.drop (p + 1) := by
    rw [← hd, List.take_append_drop]
  rw [List.eraseIdx_eq_take_drop_succ, namesOf_append]
  rw [hs, namesOf_append] at h
  have hc : namesOf (e :: st.drop (p + 1)) = namesOf (st.drop (p + 1)) ++ e.name :: [] := by
    simp [namesOf]
  rw [hc, List.append_assoc] at h
  exact aaa_cellR_remove hn _ _ h

/-! ### the searches -/

theorem aaa_listPos {x : N} : ∀ {l : List (Entry N ETok)} {i : Nat}, TreeAlgo2.listPos x l = some i →
    ∃ t, l[i]? = some (.element x t)
  | [], _, h => by cases h
  | .marker :: rest, i, h => by
    unfold TreeAlgo2.listPos at h
    cases hr : TreeAlgo2.listPos x rest with
    | none => rw [hr] at h; cases h
    | some j =>
      rw [hr] at h
      simp only [Option.map_some, Option.some.injEq] at h
      subst h
      obtain ⟨t, ht⟩ := aaa_listPos hr
      exact ⟨t, by simpa using ht⟩
  | .element n tok :: rest, i, h => by
    unfold TreeAlgo2.listPos at h
    split at h
    · rename_i hn
      cases h
      subst hn
      exact ⟨tok, rfl⟩
    · cases hr : TreeAlgo2.listPos x rest with
      | none => rw [hr] at h; cases h
      | some j =>
        rw [hr] at h
        simp only [Option.map_some, Option.some.injEq] at h
        subst h
        obtain ⟨t, ht⟩ := aaa_listPos hr
        exact ⟨t, by simpa using ht⟩

theorem aaa_listPos_mem {x : N} {l : List (Entry N ETok)} {i : Nat} (h : TreeAlgo2.listPos x l = some i) :
    ∃ t, Entry.element x t ∈ l := by
  obtain ⟨t, ht⟩ := aaa_listPos h
  exact ⟨t, List.mem_of_getElem? ht⟩

theorem aaa_findFormattingRev {subject : Str} : ∀ {l : List (Entry N ETok)} {len i : Nat} {n : N} {tok : ETok},
    TreeAlgo2.findFormattingRev cx subject l len = some (i, n, tok) → Entry.element n tok ∈ l ∧ tok.name = subject
  | [], _, _, _, _, h => by cases h
  | .marker :: _, _, _, _, _, h => by cases h
  | .element m t :: rest, len, i, n, tok, h => by
    unfold TreeAlgo2.findFormattingRev at h
    split at h
    · rename_i hc
      simp only [Option.some.injEq, Prod.mk.injEq] at h
      obtain ⟨_, rfl, rfl⟩ := h
      exact ⟨List.mem_cons_self .., by simpa [cx] using hc⟩
    · obtain ⟨h1, h2⟩ := aaa_findFormattingRev h
      exact ⟨List.mem_cons_of_mem _ h1, h2⟩

theorem aaa_findFormattingElement {subject : Str} {l : List (Entry N ETok)} {i : Nat} {n : N} {tok : ETok}
    (h : TreeAlgo2.findFormattingElement cx subject l = some (i, n, tok)) : Entry.element n tok ∈ l ∧ tok.name = subject := by
  obtain ⟨h1, h2⟩ := aaa_findFormattingRev h
  exact ⟨List.mem_reverse.mp h1, h2⟩

theorem aaa_lastPos_none {p : Elem N → Bool} : ∀ {l : List (Elem N)}, TreeAlgo2.lastPos p l = none → ∀ e ∈ l, p e = false
  | [], _, _, he => by cases he
  | a :: l, h, e, he => by
    unfold TreeAlgo2.lastPos at h
    cases hl : TreeAlgo2.lastPos p l with
    | some j => rw [hl] at h; cases h
    | none =>
      rw [hl] at h
      dsimp only at h
      rcases List.mem_cons.mp he with rfl | he
      · cases hp : p e
        · rfl
        · rw [hp] at h; simp at h
      · exact aaa_lastPos_none hl e he

/-- the target is found in the first part of the list -/
theorem aaa_scope_left {x : N} {sc : Name → Bool} {v : List (Elem N)} : ∀ {u : List (Elem N)},
    (∃ e ∈ u, e.id = x) → TreeAlgo2.hasNodeInScope x sc (u ++ v) = true → TreeAlgo2.hasNodeInScope x sc u = true
  | [], ⟨_, he, _⟩, _ => by cases he
  | a :: u, ⟨e, he, hx⟩, h => by
    rw [List.cons_append] at h
    unfold TreeAlgo2.hasNodeInScope at h ⊢
    by_cases ha : a.id = x
    · simp [ha]
    · rw [if_neg ha] at h ⊢
      by_cases hs : sc a.name = true
      · rw [if_pos hs] at h; cases h
      · rw [if_neg hs] at h ⊢
        rcases List.mem_cons.mp he with rfl | he
        · exact absurd hx ha
        · exact aaa_scope_left ⟨e, he, hx⟩ h

/-- the target is not in the first part of the list: no element of the first part is in the scope list -/
theorem aaa_scope_right {x : N} {sc : Name → Bool} {v : List (Elem N)} : ∀ {u : List (Elem N)},
    (∀ e ∈ u, e.id ≠ x) → TreeAlgo2.hasNodeInScope x sc (u ++ v) = true → ∀ e ∈ u, sc e.name = false
  | [], _, _, _, he => by cases he
  | a :: u, hu, h, e, he => by
    rw [List.cons_append] at h
    unfold TreeAlgo2.hasNodeInScope at h
    rw [if_neg (hu a (List.mem_cons_self ..))] at h
    by_cases hs : sc a.name = true
    · rw [if_pos hs] at h; cases h
    · rw [if_neg hs] at h
      rcases List.mem_cons.mp he with rfl | he
      · simpa using hs
      · exact aaa_scope_right (fun e he => hu e (List.mem_cons_of_mem _ he)) h e he

/-- `stackPos` is the lowest occurrence of the node: if the node is in scope, the elements below it are not in the
scope list -/
theorem aaa_scope_above {x : N} {sc : Name → Bool} : ∀ {st : List (Elem N)} {pos : Nat},
    TreeAlgo2.stackPos x st = some pos → TreeAlgo2.hasNodeInScope x sc st.reverse = true →
    ∀ i e, pos < i → st[i]? = some e → sc e.name = false
  | [], _, h, _, _, _, _, _ => by cases h
  | a :: l, pos, h, hs, i, e, hi, he => by
    unfold TreeAlgo2.stackPos TreeAlgo2.lastPos at h
    rw [List.reverse_cons] at hs
    cases hl : TreeAlgo2.lastPos (fun e => e.id == x) l with
    | some j =>
      rw [hl] at h
      simp only [Option.some.injEq] at h
      subst h
      obtain ⟨e', he', hp⟩ := lastPos_spec hl
      have hx : ∃ e ∈ l.reverse, e.id = x :=
        ⟨e', List.mem_reverse.mpr (List.mem_of_getElem? he'), by simpa using hp⟩
      have hs' := aaa_scope_left hx hs
      cases i with
      | zero => omega
      | succ i =>
        simp only [List.getElem?_cons_succ] at he
        exact aaa_scope_above (st := l) hl hs' i e (by omega) he
    | none =>
      rw [hl] at h
      have hno := aaa_lastPos_none hl
      have hu : ∀ e ∈ l.reverse, e.id ≠ x := by
        intro e he hx
        have := hno e (List.mem_reverse.mp he)
        simp [hx] at this
      have hall := aaa_scope_right hu hs
      cases i with
      | zero =>
        dsimp only at h
        split at h
        · cases h; omega
        · cases h
      | succ i =>
        simp only [List.getElem?_cons_succ] at he
        exact hall e (List.mem_reverse.mpr (List.mem_of_getElem? he))

theorem aaa_furthestBlock {st : List (Elem N)} {pos fbPos : Nat} {fb : Elem N}
    (h : TreeAlgo2.furthestBlock st pos = some (fbPos, fb)) : pos < fbPos := by
  unfold TreeAlgo2.furthestBlock at h
  dsimp only at h
  cases hj : List.findIdx? TreeAlgo2.isSpecial (st.drop (pos + 1)) with
  | none => rw [hj] at h; cases h
  | some j =>
    rw [hj] at h
    simp only [Option.bind_some] at h
    cases he : (st.drop (pos + 1))[j]? with
    | none => rw [he] at h; cases h
    | some e =>
      rw [he] at h
      simp only [Option.map_some, Option.some.injEq, Prod.mk.injEq] at h
      omega

/-! ### the part of the stack the inner loop works on -/

/-- the element at `pos` is the formatting element; everything below it is neutral -/
def AaaPos (fe : N) (pos : Nat) (st : List (Elem N)) : Prop :=
  (∃ e, st[pos]? = some e ∧ e.id = fe) ∧ ∀ i e, pos < i → st[i]? = some e → neutralN e.name = true

theorem AaaPos.erase {fe : N} {pos idx : Nat} {st : List (Elem N)} (h : AaaPos fe pos st) (hi : pos < idx) :
    AaaPos fe pos (st.eraseIdx idx) := by
  obtain ⟨⟨e, he, hid⟩, hall⟩ := h
  refine ⟨⟨e, ?_, hid⟩, ?_⟩
  · rw [List.getElem?_eraseIdx, if_pos hi]; exact he
  · intro i e' hpi he'
    rw [List.getElem?_eraseIdx] at he'
    split at he'
    · exact hall i e' hpi he'
    · exact hall (i + 1) e' (by omega) he'

theorem AaaPos.set {fe : N} {pos idx : Nat} {st : List (Elem N)} {e' : Elem N} (h : AaaPos fe pos st) (hi : pos < idx)
    (hn : neutralN e'.name = true) : AaaPos fe pos (st.set idx e') := by
  obtain ⟨⟨e, he, hid⟩, hall⟩ := h
  refine ⟨⟨e, ?_, hid⟩, ?_⟩
  · rw [List.getElem?_set, if_neg (by omega)]; exact he
  · intro i e'' hpi he''
    rw [List.getElem?_set] at he''
    split at he''
    · split at he''
      · cases he''; exact hn
      · cases he''
    · exact hall i e'' hpi he''

/-! ### the invariant of the rounds -/

/-- none of the ids `used` is the id of a td/th element of `st0` -/
def AaaFresh (st0 : List (Elem N)) (used : List N) : Prop := ∀ n ∈ used, ∀ e ∈ st0, tdThN e.name = true → e.id ≠ n

/-- the state `st` reached from the stack `st0`, the list `l0`, the supply `sup0` by taking the ids `used` -/
structure AaaOk (st0 : List (Elem N)) (l0 : List (Entry N ETok)) (sup0 : List N) (st : PState N ETok) (used : List N) :
    Prop where
  q0 : ∀ e ∈ st0, ∀ t, Entry.element e.id t ∈ l0 → tdThN e.name = false
  sup : sup0 = used ++ st.supply
  ent : ∀ n t, Entry.element n t ∈ st.list → Entry.element n t ∈ l0 ∨ n ∈ used
  mem : ∀ e ∈ st.stack, e ∈ st0 ∨ neutralN e.name = true
  af : AFOk st.list
  cell : AaaFresh st0 used → cellR (namesOf st0) = true → cellR (namesOf st.stack) = true

/-- a stack element that has an entry in the list is not a td/th -/
def AaaNoTd (st : PState N ETok) : Prop :=
  ∀ e ∈ st.stack, ∀ t, Entry.element e.id t ∈ st.list → tdThN e.name = false

theorem AaaOk.noTd {st0 l0 sup0 used} {st : PState N ETok} (h : AaaOk st0 l0 sup0 st used) (hf : AaaFresh st0 used) :
    AaaNoTd st := by
  intro e he t ht
  cases hc : tdThN e.name with
  | false => rfl
  | true =>
    exfalso
    rcases h.mem e he with he0 | hn
    · rcases h.ent _ _ ht with h0 | hu
      · have := h.q0 e he0 t h0
        rw [hc] at this; cases this
      · exact hf _ hu e he0 hc rfl
    · have := aaa_tdTh_of_neutral hn
      rw [hc] at this; cases this

/-- one step: the supply loses the prefix `w`; new stack elements are neutral; new entries have an id of `w` and a
formatting token; "td/th in table scope" survives if no td/th element has an entry -/
theorem AaaOk.step {st0 l0 sup0 used} {st st' : PState N ETok} (h : AaaOk st0 l0 sup0 st used) (w : List N)
    (hsup : st.supply = w ++ st'.supply)
    (hmem : ∀ e ∈ st'.stack, e ∈ st.stack ∨ neutralN e.name = true)
    (hlist : ∀ x ∈ st'.list, x ∈ st.list ∨ ∃ n tok, x = Entry.element n tok ∧ n ∈ w ∧ fmtN tok.name = true)
    (hcell : AaaNoTd st → cellR (namesOf st.stack) = true → cellR (namesOf st'.stack) = true) :
    AaaOk st0 l0 sup0 st' (used ++ w) where
  q0 := h.q0
  sup := by rw [h.sup, hsup, List.append_assoc]
  ent := by
    intro n t hm
    rcases hlist _ hm with hm | ⟨n', tok, hx, hn, _⟩
    · rcases h.ent n t hm with h1 | h1
      · exact Or.inl h1
      · exact Or.inr (List.mem_append_left _ h1)
    · cases hx
      exact Or.inr (List.mem_append_right _ hn)
  mem := by
    intro e he
    rcases hmem e he with he | he
    · exact h.mem e he
    · exact Or.inr he
  af := by
    intro n t hm
    rcases hlist _ hm with hm | ⟨n', tok, hx, _, hf⟩
    · exact h.af n t hm
    · cases hx; exact hf
  cell := by
    intro hf hc
    have hf' : AaaFresh st0 used := fun n hn => hf n (List.mem_append_left _ hn)
    exact hcell (h.noTd hf') (h.cell hf' hc)

/-- a step that takes no node and adds no entry -/
theorem AaaOk.step0 {st0 l0 sup0 used} {st st' : PState N ETok} (h : AaaOk st0 l0 sup0 st used)
    (hsup : st'.supply = st.supply)
    (hmem : ∀ e ∈ st'.stack, e ∈ st.stack ∨ neutralN e.name = true)
    (hlist : ∀ x ∈ st'.list, x ∈ st.list)
    (hcell : AaaNoTd st → cellR (namesOf st.stack) = true → cellR (namesOf st'.stack) = true) :
    AaaOk st0 l0 sup0 st' used := by
  have := h.step (st' := st') [] (by simp [hsup]) hmem (fun x hx => Or.inl (hlist x hx)) hcell
  simpa using this

/-! ### the inner loop -/

theorem aaa_newNode {st st1 : PState N ETok} {n : N} (h : st.newNode = some (n, st1)) :
    ∃ rest, st.supply = n :: rest ∧ st1 = { st with supply := rest } := by
  unfold TreeAlgo2.PState.newNode at h
  split at h
  · cases h
  · rename_i m rest hs
    simp only [Option.some.injEq, Prod.mk.injEq] at h
    obtain ⟨rfl, rfl⟩ := h
    exact ⟨rest, hs, rfl⟩

theorem aaa_innerLoop {st0 : List (Elem N)} {l0 : List (Entry N ETok)} {sup0 : List N} (fe fb : N) (pos : Nat) :
    ∀ (k counter : Nat) (lastNode : N) (bm : TreeAlgo2.Bookmark N) (st : PState N ETok) (used : List N)
      (r : PState N ETok × N × TreeAlgo2.Bookmark N),
      TreeAlgo2.innerLoop cx fe fb k counter lastNode bm st = some r → pos < k → AaaOk st0 l0 sup0 st used →
      AaaPos fe pos st.stack → ∃ used', AaaOk st0 l0 sup0 r.1 used'
  | 0, _, _, _, _, _, _, h, _, _, _ => by unfold TreeAlgo2.innerLoop at h; cases h
  | idx + 1, counter, lastNode, bm, st, used, r, h, hk, hok, hp => by
    unfold TreeAlgo2.innerLoop at h
    dsimp only at h
    split at h
    · cases h
    · rename_i node hn
      split at h
      · cases h; exact ⟨used, hok⟩
      · rename_i hne
        have hidx : pos < idx := by
          rcases Nat.lt_or_ge pos idx with h' | h'
          · exact h'
          · exfalso
            have : idx = pos := by omega
            subst this
            obtain ⟨⟨e, he, hid⟩, _⟩ := hp
            rw [hn] at he; cases he; exact hne hid
        have hneu : neutralN node.name = true := hp.2 idx node hidx hn
        have hcore : core (st.stack.eraseIdx idx) = core st.stack := core_eraseIdx hn hneu
        split at h
        · -- 4. remove from both, then 5.
          refine aaa_innerLoop fe fb pos idx _ _ _ _ used r h hidx ?_ (hp.erase hidx)
          exact hok.step0 rfl (fun e he => Or.inl (List.mem_of_mem_eraseIdx he))
            (fun x hx => List.mem_of_mem_eraseIdx hx) (fun _ hc => (cellR_of_core hcore).trans hc)
        · -- 6.-9. replace with a new element
          rename_i i _ hlp
          split at h
          · rename_i x tok hli
            cases hnn : st.newNode with
            | none => rw [hnn] at h; cases h
            | some ns =>
              obtain ⟨n, st1⟩ := ns
              rw [hnn] at h
              simp only [Option.bind_some] at h
              obtain ⟨rest, hs, rfl⟩ := aaa_newNode hnn
              have hfm : fmtN tok.name = true := hok.af.getElem hli
              have hnew : neutralN (⟨n, ⟨nsHtml, cx.tokName tok⟩⟩ : Elem N).name = true := neutralN_of_fmt hfm
              refine aaa_innerLoop fe fb pos idx _ _ _ _ (used ++ [n]) r h hidx ?_ (hp.set hidx hnew)
              refine hok.step [n] (by simpa using hs) ?_ ?_ ?_
              · intro e he
                rcases List.mem_or_eq_of_mem_set he with he | he
                · exact Or.inl he
                · subst he; exact Or.inr hnew
              · intro y hy
                rcases List.mem_or_eq_of_mem_set hy with hy | hy
                · exact Or.inl hy
                · exact Or.inr ⟨n, tok, hy, by simp, hfm⟩
              · exact fun _ hc => (cellR_of_core (core_set hn hneu hnew)).trans hc
          · cases h
        · -- 5. remove from the stack
          refine aaa_innerLoop fe fb pos idx _ _ _ _ used r h hidx ?_ (hp.erase hidx)
          exact hok.step0 rfl (fun e he => Or.inl (List.mem_of_mem_eraseIdx he))
            (fun x hx => hx) (fun _ hc => (cellR_of_core hcore).trans hc)

/-! ### steps 14-19 -/

theorem aaa_insertAfter {y : N} {x : Entry N ETok} {l l' : List (Entry N ETok)} (h : TreeAlgo2.insertAfter y x l = some l') :
    ∀ z ∈ l', z = x ∨ z ∈ l := by
  unfold TreeAlgo2.insertAfter at h
  cases hp : TreeAlgo2.listPos y l with
  | none => rw [hp] at h; cases h
  | some i =>
    rw [hp] at h
    simp only [Option.map_some, Option.some.injEq] at h
    subst h
    exact fun z hz => mem_insertIdx_or hz

theorem aaa_finishRound {st0 : List (Elem N)} {l0 : List (Entry N ETok)} {sup0 used : List N} {fe : N} {feTok : ETok}
    {fb ca : Elem N} {st st' : PState N ETok} {lastNode : N} {bm : TreeAlgo2.Bookmark N} (hfm : fmtN feTok.name = true)
    (h : TreeAlgo2.finishRound cx fe feTok fb ca st lastNode bm = some st') (hok : AaaOk st0 l0 sup0 st used) :
    ∃ used', AaaOk st0 l0 sup0 st' used' := by
  unfold TreeAlgo2.finishRound at h
  cases hloc : TreeAlgo2.appropriatePlace st.stack st.fosterParenting (some ca) with
  | none => rw [hloc] at h; cases h
  | some loc =>
    rw [hloc] at h
    simp only [Option.bind_some] at h
    cases hnn : st.newNode with
    | none => rw [hnn] at h; cases h
    | some ns =>
      obtain ⟨n, st1⟩ := ns
      rw [hnn] at h
      simp only [Option.bind_some] at h
      obtain ⟨rest, hs, rfl⟩ := aaa_newNode hnn
      dsimp only at h
      obtain ⟨list, hl18, h⟩ := Option.bind_eq_some_iff.mp h
      obtain ⟨p, hsp, h⟩ := Option.bind_eq_some_iff.mp h
      obtain ⟨j, hj, h⟩ := Option.map_eq_some_iff.mp h
      subst h
      -- the new list
      have hlist : (∃ t, Entry.element fe t ∈ st.list) ∧ ∀ z ∈ list, z = Entry.element n feTok ∨ z ∈ st.list := by
        cases bm with
        | atFormattingElement =>
          dsimp only at hl18
          obtain ⟨i, hi, rfl⟩ := Option.map_eq_some_iff.mp hl18
          refine ⟨aaa_listPos_mem hi, fun z hz => ?_⟩
          rcases List.mem_or_eq_of_mem_set hz with hz | hz
          · exact Or.inr hz
          · exact Or.inl hz
        | after x =>
          dsimp only at hl18
          obtain ⟨i, hi, hia⟩ := Option.bind_eq_some_iff.mp hl18
          refine ⟨aaa_listPos_mem hi, fun z hz => ?_⟩
          rcases aaa_insertAfter hia z hz with hz | hz
          · exact Or.inl hz
          · exact Or.inr (List.mem_of_mem_eraseIdx hz)
      obtain ⟨⟨t, hfe⟩, hlist⟩ := hlist
      obtain ⟨e, hpe, hid⟩ := stackPos_spec hsp
      have hnew : neutralN (⟨n, ⟨nsHtml, cx.tokName feTok⟩⟩ : Elem N).name = true := neutralN_of_fmt hfm
      refine ⟨used ++ [n], hok.step [n] (by simpa using hs) ?_ ?_ ?_⟩
      · intro e' he'
        rcases mem_insertIdx_or he' with he' | he'
        · subst he'; exact Or.inr hnew
        · exact Or.inl (List.mem_of_mem_eraseIdx he')
      · intro z hz
        rcases hlist z hz with hz | hz
        · exact Or.inr ⟨n, feTok, hz, by simp, hfm⟩
        · exact Or.inl hz
      · intro hno hc
        have htd : tdThN e.name = false := hno e (List.mem_of_getElem? hpe) t (by rw [hid]; exact hfe)
        have h1 := aaa_cellR_eraseIdx hpe htd hc
        exact (cellR_of_core (core_insertIdx _ hnew)).trans h1

/-! ### the rounds -/

/-- popping elements none of which is a td/th keeps "td/th in table scope" -/
theorem aaa_cellR_take {st : List (Elem N)} {pos : Nat} (hd : ∀ e ∈ st.drop pos, tdThN e.name = false)
    (h : cellR (namesOf st) = true) : cellR (namesOf (st.take pos)) = true := by
  rw [← List.take_append_drop pos st, namesOf_append] at h
  have h1 := cellR_drop (namesOf (st.drop pos)).length (l := namesOf (st.drop pos) ++ namesOf (st.take pos)) (by
    intro n hn
    rw [List.take_left'] at hn
    · simp only [namesOf, List.mem_map, List.mem_reverse] at hn
      obtain ⟨e, he, rfl⟩ := hn
      exact hd e he
    · rfl) h
  rw [List.drop_left'] at h1
  · exact h1
  · rfl

/-- the state of a round's result -/
def aaa_rst {T : Type} : TreeAlgo2.Round N T → PState N T
  | .done st => st
  | .anyOtherEndTag st => st
  | .again st => st

theorem aaa_outerRound {st0 : List (Elem N)} {l0 : List (Entry N ETok)} {sup0 used : List N} {subject : Str}
    {st : PState N ETok} {r : TreeAlgo2.Round N ETok} (hsub : fmtN subject = true)
    (h : TreeAlgo2.outerRound cx subject st = some r) (hok : AaaOk st0 l0 sup0 st used) :
    ∃ used', AaaOk st0 l0 sup0 (aaa_rst r) used' := by
  unfold TreeAlgo2.outerRound at h
  split at h
  · cases h; exact ⟨used, hok⟩
  · rename_i fePos fe feTok hff
    obtain ⟨hfeMem, hfeName⟩ := aaa_findFormattingElement hff
    have hfm : fmtN feTok.name = true := by rw [hfeName]; exact hsub
    split at h
    · cases h
      exact ⟨used, hok.step0 rfl (fun e he => Or.inl he) (fun x hx => List.mem_of_mem_eraseIdx hx) (fun _ hc => hc)⟩
    · rename_i pos hsp
      split at h
      · cases h; exact ⟨used, hok⟩
      · rename_i hsc
        have hsc' : TreeAlgo2.hasNodeInScope fe TreeAlgo.defaultScopeList st.stack.reverse = true := by
          simpa using hsc
        obtain ⟨e, hpe, hid⟩ := stackPos_spec hsp
        have habove : ∀ i e', pos < i → st.stack[i]? = some e' → neutralN e'.name = true :=
          fun i e' hi he' => aaa_neutral_of_notScope (aaa_scope_above hsp hsc' i e' hi he')
        split at h
        · -- 8. no furthest block
          cases h
          refine ⟨used, hok.step0 rfl (fun e he => Or.inl (List.mem_of_mem_take he))
            (fun x hx => List.mem_of_mem_eraseIdx hx) ?_⟩
          intro hno hc
          apply aaa_cellR_take (pos := pos) _ hc
          intro e' he'
          obtain ⟨i, hi⟩ := List.mem_iff_getElem?.mp he'
          rw [List.getElem?_drop] at hi
          cases i with
          | zero =>
            rw [Nat.add_zero, hpe] at hi
            cases hi
            exact hno e (List.mem_of_getElem? hpe) feTok (by rw [hid]; exact hfeMem)
          | succ i => exact aaa_tdTh_of_neutral (habove _ e' (by omega) hi)
        · rename_i fbPos fb hfb
          split at h
          · cases h
          · obtain ⟨ca, _, h⟩ := Option.bind_eq_some_iff.mp h
            obtain ⟨r1, hil, h⟩ := Option.bind_eq_some_iff.mp h
            obtain ⟨st2, hfin, h⟩ := Option.map_eq_some_iff.mp h
            subst h
            obtain ⟨used1, hok1⟩ := aaa_innerLoop fe fb.id pos fbPos 0 fb.id _ st used r1 hil (aaa_furthestBlock hfb) hok
              ⟨⟨e, hpe, hid⟩, habove⟩
            exact aaa_finishRound hfm hfin hok1

theorem aaa_outerLoop {st0 : List (Elem N)} {l0 : List (Entry N ETok)} {sup0 : List N} {subject : Str}
    (hsub : fmtN subject = true) : ∀ (n : Nat) (st : PState N ETok) (used : List N) (r : PState N ETok × Bool),
    TreeAlgo2.outerLoop cx subject n st = some r → AaaOk st0 l0 sup0 st used → ∃ used', AaaOk st0 l0 sup0 r.1 used'
  | 0, st, used, r, h, hok => by
    unfold TreeAlgo2.outerLoop at h
    cases h; exact ⟨used, hok⟩
  | n + 1, st, used, r, h, hok => by
    unfold TreeAlgo2.outerLoop at h
    split at h
    · cases h
    · rename_i st1 hr
      cases h
      exact aaa_outerRound hsub hr hok
    · rename_i st1 hr
      cases h
      exact aaa_outerRound hsub hr hok
    · rename_i st1 hr
      obtain ⟨used1, hok1⟩ := aaa_outerRound hsub hr hok
      exact aaa_outerLoop hsub n st1 used1 r h hok1

/-! ### the algorithm -/

theorem aaa_algo {st0 : List (Elem N)} {l0 : List (Entry N ETok)} {sup0 used : List N} {subject : Str}
    {st : PState N ETok} {r : PState N ETok × Bool} (hsub : fmtN subject = true)
    (h : TreeAlgo2.adoptionAgency cx subject st = some r) (hok : AaaOk st0 l0 sup0 st used) :
    ∃ used', AaaOk st0 l0 sup0 r.1 used' := by
  unfold TreeAlgo2.adoptionAgency at h
  split at h
  · cases h
  · rename_i cur hcur
    split at h
    · rename_i hc
      cases h
      simp only [Bool.and_eq_true, beq_iff_eq] at hc
      obtain ⟨ys, hys⟩ := List.getLast?_eq_some_iff.mp hcur
      have hneu : neutralN cur.name = true := by
        have : cur.name = ⟨nsHtml, subject⟩ := by
          obtain ⟨id, ns, loc⟩ := cur
          simp only at hc
          rw [hc.1.1, hc.1.2]
        rw [this]; exact neutralN_of_fmt hsub
      refine ⟨used, hok.step0 rfl (fun e he => Or.inl (List.dropLast_subset _ he)) (fun x hx => hx) ?_⟩
      intro _ hcell
      show cellR (namesOf st.stack.dropLast) = true
      rw [hys, List.dropLast_concat]
      rw [hys, cellR_snoc_neutral _ hneu] at hcell
      exact hcell
    · exact aaa_outerLoop hsub _ st used r h hok

theorem aaa_fallback {st0 : List (Elem N)} {l0 : List (Entry N ETok)} {sup0 used : List N} {subject : Str}
    {st st' : PState N ETok} (hsub : fmtN subject = true)
    (h : TreeAlgo2.adoptionAgencyWithFallback cx subject st = some st') (hok : AaaOk st0 l0 sup0 st used) :
    ∃ used', AaaOk st0 l0 sup0 st' used' := by
  unfold TreeAlgo2.adoptionAgencyWithFallback at h
  obtain ⟨r, hr, h⟩ := Option.map_eq_some_iff.mp h
  obtain ⟨used1, hok1⟩ := aaa_algo hsub hr hok
  obtain ⟨st1, b⟩ := r
  dsimp only at h
  split at h
  · subst h
    have hn : subject ≠ "td".toList ∧ subject ≠ "th".toList := ne_of_strIsOneOf (l := fmtNames) hsub (by decide +kernel)
    refine ⟨used1, hok1.step0 rfl ?_ (fun x hx => hx) (fun _ hc => cellR_anyOtherEndTag hn hc)⟩
    intro e he
    obtain ⟨j, hj, _⟩ := anyOtherEndTag_noTd hn st1.stack
    change e ∈ TreeAlgo2.anyOtherEndTag subject st1.stack at he
    rw [hj] at he
    exact Or.inl (List.mem_of_mem_take he)
  · subst h; exact ⟨used1, hok1⟩

/-- **the adoption agency algorithm** (with its fall-back to "any other end tag") for a formatting tag name:
the mode, the original mode, the template modes do not change; the tokens of the list stay formatting start tags;
"a td/th element is in table scope" survives (`Link`: the stack entries of listed nodes are formatting elements;
`FreshL`: the ids of the nodes the algorithm creates are not ids of td/th elements of the stack);
every element of the new stack is an element of the old one or a (new) formatting element; the supply loses a
prefix -/
theorem adoptionAgency_eff' {s s' : State N} {subject : Str} (hsub : fmtN subject = true) (haf : AFOk s.p.list)
    (hl : WLink s) (hfr : FreshL s.p.stack s.p.supply s'.p.supply) (h : adoptionAgency s subject = .ok s') :
    ∃ st' l', Upd s s' st' l' ∧ AFOk l' ∧ (cellR s.names = true → cellR (namesOf st') = true) ∧
      (∀ e ∈ st', e ∈ s.p.stack ∨ neutralN e.name = true) ∧ (∃ u, s.p.supply = u ++ s'.p.supply) := by
  unfold adoptionAgency at h
  obtain ⟨p, hr, h2⟩ := bind_ok h
  have hr' := req_ok hr
  cases pure_ok h2
  have hok0 : AaaOk s.p.stack s.p.list s.p.supply s.p [] := by
    refine ⟨?_, rfl, fun n t hm => Or.inl hm, fun e he => Or.inl he, haf, fun _ hc => hc⟩
    intro e he t ht
    exact hl e he t ht
  obtain ⟨used, hok⟩ := aaa_fallback hsub hr' hok0
  refine ⟨p.stack, p.list, ⟨rfl, rfl, rfl, rfl, rfl, rfl⟩, hok.af, ?_, hok.mem, ⟨used, hok.sup⟩⟩
  intro hc
  exact hok.cell (hfr used hok.sup) hc

/-- the same from `Link` -/
theorem adoptionAgency_eff {s s' : State N} {subject : Str} (hsub : fmtN subject = true) (haf : AFOk s.p.list)
    (hl : Link s) (hfr : FreshL s.p.stack s.p.supply s'.p.supply) (h : adoptionAgency s subject = .ok s') :
    ∃ st' l', Upd s s' st' l' ∧ AFOk l' ∧ (cellR s.names = true → cellR (namesOf st') = true) ∧
      (∀ e ∈ st', e ∈ s.p.stack ∨ neutralN e.name = true) ∧ (∃ u, s.p.supply = u ++ s'.p.supply) :=
  adoptionAgency_eff' hsub haf (hl.weak haf) hfr h

/-! ### the supply only loses a prefix (no hypothesis) -/

theorem aaa_suf_innerLoop (fe fb : N) : ∀ (k counter : Nat) (lastNode : N) (bm : TreeAlgo2.Bookmark N) (st : PState N ETok)
    (r : PState N ETok × N × TreeAlgo2.Bookmark N), TreeAlgo2.innerLoop cx fe fb k counter lastNode bm st = some r →
    ∃ u, st.supply = u ++ r.1.supply
  | 0, _, _, _, _, _, h => by simp [TreeAlgo2.innerLoop] at h
  | k + 1, counter, lastNode, bm, st, r, h => by
    unfold TreeAlgo2.innerLoop at h
    dsimp only at h
    cases hnode : st.stack[k]? with
    | none => rw [hnode] at h; cases h
    | some node =>
      rw [hnode] at h
      dsimp only at h
      split at h
      · cases h; exact ⟨[], rfl⟩
      · split at h
        · obtain ⟨u, hu⟩ := aaa_suf_innerLoop fe fb k _ _ _ _ _ h
          exact ⟨u, hu⟩
        · split at h
          · rename_i tok0 _
            cases hn : st.newNode with
            | none => rw [hn] at h; cases h
            | some q =>
              obtain ⟨n, st1⟩ := q
              rw [hn] at h
              simp only [Option.bind_some] at h
              obtain ⟨rest, hs, hst1⟩ := aaa_newNode hn
              obtain ⟨u, hu⟩ := aaa_suf_innerLoop fe fb k _ _ _ _ _ h
              subst hst1
              exact ⟨n :: u, by rw [hs]; simpa using hu⟩
          · cases h
        · obtain ⟨u, hu⟩ := aaa_suf_innerLoop fe fb k _ _ _ _ _ h
          exact ⟨u, hu⟩

theorem aaa_suf_finishRound {fe : N} {feTok : ETok} {fb ca : Elem N} {st st' : PState N ETok} {lastNode : N}
    {bm : TreeAlgo2.Bookmark N} (h : TreeAlgo2.finishRound cx fe feTok fb ca st lastNode bm = some st') :
    ∃ u, st.supply = u ++ st'.supply := by
  unfold TreeAlgo2.finishRound at h
  cases hp : TreeAlgo2.appropriatePlace st.stack st.fosterParenting (some ca) with
  | none => rw [hp] at h; cases h
  | some loc =>
    rw [hp] at h
    simp only [Option.bind_some] at h
    cases hn : st.newNode with
    | none => rw [hn] at h; cases h
    | some q =>
      obtain ⟨n, st1⟩ := q
      rw [hn] at h
      simp only [Option.bind_some] at h
      obtain ⟨rest, hs, hst1⟩ := aaa_newNode hn
      subst hst1
      obtain ⟨l18, _, h⟩ := Option.bind_eq_some_iff.mp h
      obtain ⟨p, _, h⟩ := Option.bind_eq_some_iff.mp h
      obtain ⟨j, _, h⟩ := Option.map_eq_some_iff.mp h
      subst h
      exact ⟨[n], by rw [hs]; rfl⟩

theorem aaa_suf_outerRound {subject : Str} {st : PState N ETok} {r : TreeAlgo2.Round N ETok}
    (h : TreeAlgo2.outerRound cx subject st = some r) :
    ∃ u, st.supply = u ++ (match r with | .done s => s | .anyOtherEndTag s => s | .again s => s).supply := by
  unfold TreeAlgo2.outerRound at h
  split at h
  · cases h; exact ⟨[], rfl⟩
  · split at h
    · cases h; exact ⟨[], rfl⟩
    · split at h
      · cases h; exact ⟨[], rfl⟩
      · split at h
        · cases h; exact ⟨[], rfl⟩
        · split at h
          · cases h
          · obtain ⟨ca, _, h⟩ := Option.bind_eq_some_iff.mp h
            obtain ⟨r1, hin, h⟩ := Option.bind_eq_some_iff.mp h
            obtain ⟨st2, hfin, h⟩ := Option.map_eq_some_iff.mp h
            subst h
            obtain ⟨u, hu⟩ := aaa_suf_innerLoop _ _ _ _ _ _ _ _ hin
            obtain ⟨v, hv⟩ := aaa_suf_finishRound hfin
            exact ⟨u ++ v, by rw [hu, hv, List.append_assoc]⟩

theorem aaa_suf_outerLoop {subject : Str} : ∀ (n : Nat) (st : PState N ETok) (r : PState N ETok × Bool),
    TreeAlgo2.outerLoop cx subject n st = some r → ∃ u, st.supply = u ++ r.1.supply
  | 0, st, r, h => by
    simp only [TreeAlgo2.outerLoop, Option.some.injEq] at h
    subst h; exact ⟨[], rfl⟩
  | n + 1, st, r, h => by
    unfold TreeAlgo2.outerLoop at h
    cases hr : TreeAlgo2.outerRound cx subject st with
    | none => rw [hr] at h; cases h
    | some rd =>
      rw [hr] at h
      obtain ⟨u, hu⟩ := aaa_suf_outerRound hr
      cases rd with
      | done s1 => simp only [Option.some.injEq] at h; subst h; exact ⟨u, hu⟩
      | anyOtherEndTag s1 => simp only [Option.some.injEq] at h; subst h; exact ⟨u, hu⟩
      | again s1 =>
        obtain ⟨v, hv⟩ := aaa_suf_outerLoop n s1 r h
        exact ⟨u ++ v, by rw [hu]; simp only at hv ⊢; rw [hv, List.append_assoc]⟩

/-- the adoption agency algorithm takes a prefix of the supply (no hypothesis) -/
theorem adoptionAgency_suf {s s' : State N} {subject : Str} (h : adoptionAgency s subject = .ok s') :
    ∃ u, s.p.supply = u ++ s'.p.supply := by
  unfold adoptionAgency at h
  obtain ⟨p, hr, h2⟩ := bind_ok h
  have hr' := req_ok hr
  cases pure_ok h2
  unfold TreeAlgo2.adoptionAgencyWithFallback at hr'
  obtain ⟨q, hq, hp⟩ := Option.map_eq_some_iff.mp hr'
  obtain ⟨st1, b⟩ := q
  have h1 : ∃ u, s.p.supply = u ++ st1.supply := by
    unfold TreeAlgo2.adoptionAgency at hq
    split at hq
    · cases hq
    · split at hq
      · cases hq; exact ⟨[], rfl⟩
      · exact aaa_suf_outerLoop _ _ _ hq
  obtain ⟨u, hu⟩ := h1
  subst hp
  dsimp only
  split <;> exact ⟨u, hu⟩

end
end H5V.Lemmas.ModesInv
