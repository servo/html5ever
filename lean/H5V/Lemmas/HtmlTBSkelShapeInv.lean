import H5V.Lemmas.HtmlTBSkelAdjOps
/-!
C06, second invariant layer: the invariant `ShapeAt` and its stability under queries and
under sink calls that leave the root alone.
-/
namespace H5V.Props.C06
open H5V.Model.Dom hiding Str
open H5V.Model.HtmlTB hiding Str
open H5V.Lemmas.Dom

/-- every formatting element among the element children of the root has an entry with its name in the list
of active formatting elements (such children arise only by reconstruction in the after-after-frameset mode) -/
def Afx (d : Dom) (af : List FormatEntry) (r : Id) : Prop :=
  ∀ x ∈ rootElems d r, isFmtE (nm d x) = true →
    ∃ y t, FormatEntry.element y t ∈ af ∧ t.name = (nm d x).loc

/-- the mode-independent part of the stack-shape invariant -/
structure Core (s : State) (r : Id) (up : List Id) (ph : Phase) : Prop where
  late : Late s
  stack : s.openElems = r :: up
  rdoc : r ∈ s.dom.childrenOf 0
  nodup : s.openElems.Nodup
  tg : TG (nm s.dom) s.openElems
  afn : ∀ h t, FormatEntry.element h t ∈ s.activeFormatting →
    isOneOf t.name fmtNames = true ∧ nm s.dom h = ⟨nsHtml, t.name⟩ ∧ s.dom.isElement h = true
  tc : tcount s.dom s.openElems ≤ s.templateModes.length
  tmm : ∀ m ∈ s.templateModes, tmplModeOk m = true
  form : ∀ f, s.formElem = some f → nm s.dom f = hN "form" ∧ s.dom.isElement f = true
  rtu : RTU r s.dom
  rnd : (s.dom.childrenOf r).Nodup
  kids : ∀ c ∈ s.dom.childrenOf r, KidOkR s.dom c
  elems : ElemsOk s.dom s.headElem r ph
  bh : ∀ y ∈ up.tail, htmlIn (nm s.dom y) (bhNames ph) = false
  afx : Afx s.dom s.activeFormatting r
  adj : AdjD s.dom s.openElems

/-- **the stack-shape invariant** -/
structure ShapeAt (s : State) (r : Id) (up : List Id) (ph : Phase) : Prop where
  core : Core s r up ph
  fits : FitsM s up ph

def Shape (s : State) : Prop := ∃ r up ph, ShapeAt s r up ph

theorem bh_of4 {n : EName} {ph : Phase} (h : htmlIn n ["html", "body", "head", "frameset"] = false) :
    htmlIn n (bhNames ph) = false := by
  cases ph <;> first | exact h | skip
  unfold bhNames
  unfold htmlIn isOneOf at h ⊢
  simp only [List.any_cons, List.any_nil, Bool.or_false, Bool.and_eq_false_iff, Bool.or_eq_false_iff] at h ⊢
  rcases h with h | h
  · exact Or.inl h
  · exact Or.inr ⟨h.1, h.2.1, h.2.2.1⟩

theorem Core.bh4 {s : State} {r : Id} {up : List Id} {ph : Phase} (h : Core s r up ph) (hnp : ¬ ph.isPf) :
    ∀ y ∈ up.tail, htmlIn (nm s.dom y) ["html", "body", "head", "frameset"] = false := by
  intro y hy
  have := h.bh y hy
  cases ph <;> first | exact this | exact absurd trivial hnp

/-! ### stability of the name-dependent notions -/

/-- the names of the listed nodes are the same in both arenas -/
def SameNames (d d' : Dom) (l : List Id) : Prop := ∀ x ∈ l, nm d' x = nm d x

theorem SameNames.of_chg {d d' : Dom} {l : List Id} (h : Chg d d') (hel : ∀ x ∈ l, d.isElement x = true) :
    SameNames d d' l := fun x hx => nm_chg h (hel x hx)

theorem Need.congr {d d' : Dom} {m : Mode} {up : List Id} (hn : SameNames d d' up) (h : Need d m up) : Need d' m up := by
  cases m <;> try exact h
  all_goals
    obtain ⟨x, hx, hh⟩ := h
    exact ⟨x, hx, by rw [hn x hx]; exact hh⟩

theorem BodyBase.congr {d d' : Dom} {head : Option Id} {up : List Id} {ph : Phase} (hn : SameNames d d' up)
    (h : BodyBase d head up ph) : BodyBase d' head up ph := by
  rcases h with h | ⟨hh, t, up', h1, h2, h3, h4⟩ | ⟨t, up', h2, h3, h4, h5⟩
  · exact Or.inl h
  · exact Or.inr (Or.inl ⟨hh, t, up', h1, h2, by rw [hn t (by rw [h2]; simp)]; exact h3, h4⟩)
  · exact Or.inr (Or.inr ⟨t, up', h2, by rw [hn t (by rw [h2]; simp)]; exact h3, h4, h5⟩)

theorem Fits.congr {d d' : Dom} {head : Option Id} {m : Mode} {up : List Id} {ph : Phase}
    (hn : SameNames d d' up) (h : Fits d head m up ph) : Fits d' head m up ph := by
  cases m <;> try exact h
  all_goals first
    | exact ⟨h.1.congr hn, h.2.congr hn⟩
    | skip
  · -- inHeadNoscript
    obtain ⟨hh, x, h1, h2, h3, h4⟩ := h
    exact ⟨hh, x, h1, h2, h3, by rw [hn x (by rw [h2]; simp)]; exact h4⟩
  · -- inFrameset
    obtain ⟨fs, up', h1, h2, h3⟩ := h
    exact ⟨fs, up', h1, h2, fun x hx => by rw [hn x hx]; exact h3 x hx⟩
  · -- afterAfterFrameset
    exact ⟨h.1, fun x hx => by rw [hn x hx]; exact h.2 x hx⟩

theorem Chg.isElement_eq {d d' : Dom} (h : Chg d d') {x : Id} (hx : x < d.size) : d'.isElement x = d.isElement x := by
  have hs := (h.data x hx).skel
  unfold Dom.isElement
  cases h1 : d.dataOf x <;> cases h2 : d'.dataOf x <;> simp [h1, h2] at hs ⊢
  rename_i v v'
  cases v <;> cases v' <;> simp [skelT] at hs <;> rfl

theorem Chg.comment {d d' : Dom} (h : Chg d d') {x : Id} {t : Str} (hx : d.dataOf x = some (.comment t)) :
    d'.dataOf x = some (.comment t) := by
  have := h.data x (lt_of_data hx)
  rw [hx] at this
  generalize hv : d'.dataOf x = v at this
  cases this; rfl

theorem rootElems_eq {d d' : Dom} {r : Id} (hb : DomBase d) (hc : Chg d d') (hk : d'.childrenOf r = d.childrenOf r) :
    rootElems d' r = rootElems d r := by
  unfold rootElems
  rw [hk]
  apply List.filter_congr
  intro x hx
  exact hc.isElement_eq (hb.kidsValid r x hx)

theorem mem_rootElems {d : Dom} {r x : Id} (h : x ∈ rootElems d r) : x ∈ d.childrenOf r ∧ d.isElement x = true := by
  unfold rootElems at h
  exact List.mem_filter.mp h

theorem ElemsOk.congr {d d' : Dom} {head : Option Id} {r : Id} {ph : Phase} (hb : DomBase d) (hc : Chg d d')
    (hk : d'.childrenOf r = d.childrenOf r) (h : ElemsOk d head r ph) : ElemsOk d' head r ph := by
  have hre := rootElems_eq hb hc hk
  have hnm : ∀ x ∈ rootElems d r, nm d' x = nm d x := fun x hx => nm_chg hc (mem_rootElems hx).2
  cases ph with
  | p0 => exact ⟨h.1, by rw [hre]; exact h.2⟩
  | p1 =>
    obtain ⟨hh, h1, h2, h3⟩ := h
    exact ⟨hh, h1, by rw [hre]; exact h2, by rw [hnm hh (by rw [h2]; simp)]; exact h3⟩
  | pb b =>
    obtain ⟨hh, h1, h2, h3, h4⟩ := h
    exact ⟨hh, h1, by rw [hre]; exact h2, by rw [hnm hh (by rw [h2]; simp)]; exact h3,
      by rw [hnm b (by rw [h2]; simp)]; exact h4⟩
  | pf fs =>
    obtain ⟨hh, ex, h1, h2, h3, h4, h5⟩ := h
    refine ⟨hh, ex, h1, by rw [hre]; exact h2, by rw [hnm hh (by rw [h2]; simp)]; exact h3,
      by rw [hnm fs (by rw [h2]; simp)]; exact h4, ?_⟩
    intro x hx
    rw [hnm x (by rw [h2]; simp [hx])]
    exact h5 x hx

theorem KidOkR.congr {d d' : Dom} {r c : Id} (hc : Chg d d') (hrs : RS r d d') (hcm : c ∈ d.childrenOf r)
    (h : KidOkR d c) : KidOkR d' c := by
  rcases h with h | ⟨t, h⟩ | ⟨t, h, hw⟩
  · exact Or.inl (hc.isElement h)
  · exact Or.inr (Or.inl ⟨t, hc.comment h⟩)
  · refine Or.inr (Or.inr ⟨t, ?_, hw⟩)
    rw [hrs.text c hcm (by unfold Dom.isText; rw [h])]; exact h

theorem tcount_congr {d d' : Dom} {l : List Id} (hn : SameNames d d' l) : tcount d' l = tcount d l := by
  unfold tcount
  apply List.countP_congr
  intro x hx
  rw [hn x hx]

theorem Afx.congr {d d' : Dom} {af af' : List FormatEntry} {r : Id} (hre : rootElems d' r = rootElems d r)
    (hnm : ∀ x ∈ rootElems d r, nm d' x = nm d x)
    (haf : ∀ y t, FormatEntry.element y t ∈ af → ∃ y', FormatEntry.element y' t ∈ af') (h : Afx d af r) :
    Afx d' af' r := by
  intro x hx hf
  rw [hre] at hx
  rw [hnm x hx] at hf ⊢
  obtain ⟨y, t, hy, ht⟩ := h x hx hf
  obtain ⟨y', hy'⟩ := haf y t hy
  exact ⟨y', t, hy', ht⟩

theorem Afx.same {d : Dom} {af af' : List FormatEntry} {r : Id}
    (haf : ∀ y t, FormatEntry.element y t ∈ af → ∃ y', FormatEntry.element y' t ∈ af') (h : Afx d af r) :
    Afx d af' r := h.congr rfl (fun _ _ => rfl) haf

theorem Afx.of_nodes {d d' : Dom} {af : List FormatEntry} {r : Id} (hn : d'.nodes = d.nodes) (h : Afx d af r) :
    Afx d' af r := by
  have hre : rootElems d' r = rootElems d r := by
    unfold rootElems
    rw [childrenOf_of_nodes hn]
    apply List.filter_congr
    intro x _
    exact isElement_of_nodes hn x
  exact h.congr hre (fun x _ => nm_of_nodes hn x) (fun y t hy => ⟨y, hy⟩)

/-- before the frameset phase no child of the root is a formatting element -/
theorem Afx.of_elems {d : Dom} {head : Option Id} {r : Id} {ph : Phase} {af : List FormatEntry}
    (h : ElemsOk d head r ph) (hnp : ¬ ph.isPf) : Afx d af r := by
  intro x hx hf
  exfalso
  cases ph with
  | p0 => rw [h.2] at hx; cases hx
  | p1 =>
    obtain ⟨hh, _, h2, h3⟩ := h
    rw [h2] at hx
    simp only [List.mem_cons, List.not_mem_nil, or_false] at hx
    subst hx
    rw [h3] at hf; simp [lit_name] at hf
  | pb b =>
    obtain ⟨hh, _, h2, h3, h4⟩ := h
    rw [h2] at hx
    simp only [List.mem_cons, List.not_mem_nil, or_false] at hx
    rcases hx with rfl | rfl
    · rw [h3] at hf; simp [lit_name] at hf
    · rw [h4] at hf; simp [lit_name] at hf
  | pf fs => exact hnp trivial

/-- the general transfer lemma: the builder fields the invariant looks at are unchanged, the arena
changed by `Chg`, and the root was left alone -/
theorem Core.transfer {s s' : State} {r : Id} {up : List Id} {ph : Phase} (h : Core s r up ph)
    (hl : Late s') (hc : Chg s.dom s'.dom) (hrs : RS r s.dom s'.dom) (hk0 : r ∈ s'.dom.childrenOf 0)
    (hoe : s'.openElems = s.openElems) (haf : s'.activeFormatting = s.activeFormatting)
    (htm : s'.templateModes = s.templateModes) (hform : s'.formElem = s.formElem)
    (hhead : s'.headElem = s.headElem) (hadj : AdjD s'.dom s'.openElems) : Core s' r up ph := by
  have hb := h.late.base
  have hel : ∀ x ∈ s.openElems, s.dom.isElement x = true := h.late.st.oe
  have hsn : SameNames s.dom s'.dom s.openElems := SameNames.of_chg hc hel
  refine ⟨hl, by rw [hoe]; exact h.stack, hk0, by rw [hoe]; exact h.nodup, ?_, ?_, ?_, by rw [htm]; exact h.tmm, ?_,
    hrs.uniq h.rtu, by rw [hrs.kids]; exact h.rnd, ?_, ?_, ?_, ?_, hadj⟩
  · rw [hoe]; exact h.tg.congr hsn
  · intro x t hx
    rw [haf] at hx
    obtain ⟨h1, h2, h3⟩ := h.afn x t hx
    exact ⟨h1, by rw [nm_chg hc h3]; exact h2, hc.isElement h3⟩
  · rw [hoe, htm, tcount_congr hsn]; exact h.tc
  · intro f hf
    rw [hform] at hf
    obtain ⟨h1, h2⟩ := h.form f hf
    exact ⟨by rw [nm_chg hc h2]; exact h1, hc.isElement h2⟩
  · intro c hcm
    rw [hrs.kids] at hcm
    exact (h.kids c hcm).congr hc hrs hcm
  · rw [hhead]; exact h.elems.congr hb hc hrs.kids
  · intro y hy
    rw [hsn y (by rw [h.stack]; exact List.mem_cons_of_mem _ (List.mem_of_mem_tail hy))]
    exact h.bh y hy
  · rw [haf]
    exact h.afx.congr (rootElems_eq hb hc hrs.kids) (fun x hx => nm_chg hc (mem_rootElems hx).2)
      (fun y t hy => ⟨y, hy⟩)

theorem Core.sameNames {s s' : State} {r : Id} {up : List Id} {ph : Phase} (h : Core s r up ph)
    (hc : Chg s.dom s'.dom) : SameNames s.dom s'.dom up :=
  fun x hx => nm_chg hc (h.late.st.oe x (by rw [h.stack]; simp [hx]))

theorem FitsM.transfer {s s' : State} {up : List Id} {ph : Phase} (hf : FitsM s up ph)
    (hsnu : SameNames s.dom s'.dom up) (hhead : s'.headElem = s.headElem) (hmode : s'.mode = s.mode)
    (horig : s'.origMode = s.origMode) : FitsM s' up ph := by
  unfold FitsM at hf ⊢
  rw [hmode, horig, hhead]
  cases hm : s.mode <;> simp only [hm] at hf ⊢
  all_goals first
    | exact hf.congr hsnu
    | skip
  · obtain ⟨om, up0, x, h1, h2, h3, h4, h5, h6⟩ := hf
    exact ⟨om, up0, x, h1, h2, h3, h4, h5.congr (fun y hy => hsnu y (by rw [h2]; simp [hy])),
      by rw [hsnu x (by rw [h2]; simp)]; exact h6.1, by rw [hsnu x (by rw [h2]; simp)]; exact h6.2⟩
  · obtain ⟨om, h1, h2, h3⟩ := hf
    exact ⟨om, h1, h2, h3.congr hsnu⟩

theorem Core.qs {s s' : State} {r : Id} {up : List Id} {ph : Phase} (h : Core s r up ph) (q : QS s s') :
    Core s' r up ph := by
  have hr := q.rest
  have hoe : s'.openElems = s.openElems := by rw [hr]
  refine h.transfer (h.late.same q.same3) (SameSk.of_nodes q.nodes).chg (RS.of_nodes q.nodes)
    (by rw [childrenOf_of_nodes q.nodes]; exact h.rdoc) ?_ ?_ ?_ ?_ ?_
    (by rw [hoe]; exact h.adj.of_nodes q.nodes) <;> rw [hr]

theorem ShapeAt.qs {s s' : State} {r : Id} {up : List Id} {ph : Phase} (h : ShapeAt s r up ph) (q : QS s s') :
    ShapeAt s' r up ph := by
  have hr := q.rest
  refine ⟨h.core.qs q, h.fits.transfer (h.core.sameNames (SameSk.of_nodes q.nodes).chg) ?_ ?_ ?_⟩ <;> rw [hr]

end H5V.Props.C06
