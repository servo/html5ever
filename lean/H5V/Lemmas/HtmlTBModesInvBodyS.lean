import H5V.Lemmas.HtmlTBModesInvBodyH
/-!
C02 (insertion modes), the invariant `Good` of the specification's run: the start tags of "in body".
-/
set_option linter.unusedSectionVars false
namespace H5V.Lemmas.ModesInv
open H5V.Spec H5V.Spec.TreeModes
open H5V.Spec.TreeAlgo (Str Name nsHtml nsMathml nsSvg inHtml)
open H5V.Spec.TreeAlgo2 (Elem Entry PState)

section
variable {N : Type} [DecidableEq N]

/-! ### helpers -/

/-- a tag whose name is not in a list is not named like one of the list's members -/
theorem bs_not_is_of_not_isOneOf {t : Tag} {l : List String} (h : t.isOneOf l = false) {x : String} (hx : x ∈ l) :
    t.is x = false := by
  simp only [Tag.isOneOf, strIsOneOf, List.any_eq_false, beq_iff_eq] at h
  simp only [Tag.is, strIs, beq_eq_false_iff_ne, ne_eq]
  exact h x hx

/-- a state that differs from a context only in the stack (keeping "td/th in table scope") -/
theorem bs_ctx {cfg : Config N} {σ σ' : State N} (hc : Ctx cfg σ) (hm : σ'.mode = σ.mode)
    (ho : σ'.originalMode = σ.originalMode) (ht : σ'.templateModes = σ.templateModes) (hst : σ'.stopped = σ.stopped)
    (hl : σ'.p.list = σ.p.list) (hcell : cellR σ.names = true → cellR σ'.names = true) : Ctx cfg σ' :=
  hc.of_upd (st := σ'.p.stack) (l := σ.p.list) ⟨hm, ho, ht, hst, rfl, hl⟩ hcell hc.good.af

/-- an HTML element whose name is in a list without `td`, `th`, `html`, `table`, `template` is neutral -/
theorem bs_neutral_of_inHtml {l : List String} {n : Name} (h : inHtml l n = true)
    (hl : l.all (fun x => !(["td", "th", "html", "table", "template"].contains x)) = true) : neutralN n = true := by
  obtain ⟨x, hx, rfl⟩ := inHtml_iff.mp h
  exact neutralN_of_strIsOneOf (List.any_eq_true.mpr ⟨x, hx, beq_self_eq_true _⟩) hl

/-- popping a neutral current node -/
theorem bs_pop {cfg : Config N} {σ : State N} (hc : Ctx cfg σ) {l : List String} (hcur : σ.curIn l = true)
    (hl : l.all (fun x => !(["td", "th", "html", "table", "template"].contains x)) = true) : Ctx cfg σ.pop := by
  refine bs_ctx hc rfl rfl rfl rfl rfl (fun hcell => ?_)
  rw [pop_names]
  unfold State.curIn State.cur at hcur
  rw [← List.head?_reverse] at hcur
  unfold State.names at hcell ⊢
  cases hr : σ.p.stack.reverse with
  | nil => rw [hr] at hcur; cases hcur
  | cons e es =>
    rw [hr] at hcur hcell
    simp only [List.head?_cons, Option.any_some] at hcur
    simp only [List.map_cons, List.drop_succ_cons, List.drop_zero] at hcell ⊢
    rw [cellR_cons_neutral (bs_neutral_of_inHtml hcur hl)] at hcell
    exact hcell

/-- "generate implied end tags" (after an `err`) does not change "has a `button` element in scope" -/
theorem bs_hasInScope_genImplied_button (cfg : Config N) (hed : cfg.edition = .customizableSelect) (s : State N) (w : String) :
    hasInScope cfg (genImplied (s.err w)) "button" = hasInScope cfg s "button" :=
  bh_hasInScope_genImplied cfg hed (s.err w) (ex := none) (notImplied_of_notMem (by decide +kernel) _)

/-- the button start tag: the stack before "reconstruct" -/
theorem bs_button {cfg : Config N} {σ : State N} (hc : Ctx cfg σ) (w : String) :
    Ctx cfg (if hasInScope cfg σ "button" = true then popUntilPopped (genImplied (σ.err w)) "button" else σ) := by
  refine bh_ctx_ite _ (fun hs => ?_) (fun _ => hc)
  refine bs_ctx hc rfl rfl rfl rfl rfl (fun hcell => ?_)
  refine cellR_popUntilPopped_inScope cfg hc.ed (by decide +kernel) ?_ (cellR_genImplied none (s := σ.err w) hcell)
  rw [bs_hasInScope_genImplied_button cfg hc.ed]
  exact hs

/-- the start tags of "in body" other than `image` (`inBodyStartTagCore`, which the `br` end tag uses too) -/
theorem post_inBodyStartTagCore (hhead : Keeps0 (inHead (N := N)) PreHead) {cfg : Config N} {σ : State N} (hc : Ctx cfg σ)
    (hl : Link σ) {t : Tag} {r : Step N} (hfr : FreshL σ.p.stack σ.p.supply r.state.p.supply)
    (h : inBodyStartTagCore cfg σ t = .ok r) : Post r := by
  unfold inBodyStartTagCore at h
  replace h := ite_cases h
  rcases h with ⟨hhtml, h⟩ | ⟨hhtml, h⟩
  · exact post_inBodyStartHtml hc.good h
  replace h := ite_cases h
  rcases h with ⟨hhead1, h⟩ | ⟨hhead1, h⟩
  · exact hhead cfg hc.ed σ (.startTag t) r hc.good hc.live ⟨hc.nt, hc.ntt⟩ h
  replace h := ite_cases h
  rcases h with ⟨hbody, h⟩ | ⟨hbody, h⟩
  · dsimp only at h
    split at h
    · split at h
      · exact post_ignore hc.good h
      · exact post_ignore hc.good h
    · exact post_ignore hc.good h
  replace h := ite_cases h
  rcases h with ⟨hframeset, h⟩ | ⟨hframeset, h⟩
  · dsimp only at h
    split at h
    · split at h
      · exact post_ignore hc.good h
      · split at h
        · exact post_ignore hc.good h
        · obtain ⟨s1, h1, h2⟩ := bind_ok h
          cases pure_ok h2
          obtain ⟨e, he, _, hu, _⟩ := insertHtml'_eff h1
          exact fun _ => hc.good.toPlain' (m := .inFrameset) rfl (by decide) hu.tms hu.list
    · exact post_ignore hc.good h
  replace h := ite_cases h
  rcases h with ⟨hblock, h⟩ | ⟨hblock, h⟩
  · obtain ⟨s1, h1, rfl⟩ := map_ok h
    exact bh_post_done (bh_ctx_insertHtml' (bh_ctx_closeP hc) (neutral_of_isOneOf hblock (by decide +kernel)) h1)
  replace h := ite_cases h
  rcases h with ⟨hheading, h⟩ | ⟨hheading, h⟩
  · dsimp only at h
    obtain ⟨s1, h1, rfl⟩ := map_ok h
    refine bh_post_done (cfg := cfg) (bh_ctx_insertHtml' ?_ (neutral_of_isOneOf hheading (by decide +kernel)) h1)
    split
    · rename_i hcur
      exact bs_pop (σ := (closePIfInButtonScope cfg σ).err "in body: heading inside heading") (bh_ctx_closeP hc).same hcur
        (by decide +kernel)
    · exact bh_ctx_closeP hc
  replace h := ite_cases h
  rcases h with ⟨hpre, h⟩ | ⟨hpre, h⟩
  · exact post_bind h fun s1 h1 => bh_post_done (bh_ctx_insertHtml' (bh_ctx_closeP hc) (neutral_of_isOneOf hpre (by decide +kernel)) h1).same
  replace h := ite_cases h
  rcases h with ⟨hform, h⟩ | ⟨hform, h⟩
  · split at h
    · exact post_ignore hc.good h
    · obtain ⟨r1, h1, h2⟩ := bind_ok h
      obtain ⟨s1, e⟩ := r1
      cases pure_ok h2
      have hc1 := bh_ctx_insertHtml (bh_ctx_closeP hc) (neutral_of_is hform (by decide +kernel)) h1
      dsimp only
      split
      · exact bh_post_done hc1
      · exact bh_post_done hc1.same
  replace h := ite_cases h
  rcases h with ⟨hli, h⟩ | ⟨hli, h⟩
  · exact post_inBodyListItem hc (neutral_of_is hli (by decide +kernel)) (Or.inl rfl) h
  replace h := ite_cases h
  rcases h with ⟨hdd, h⟩ | ⟨hdd, h⟩
  · exact post_inBodyListItem hc (neutral_of_isOneOf hdd (by decide +kernel)) (Or.inr rfl) h
  replace h := ite_cases h
  rcases h with ⟨hplain, h⟩ | ⟨hplain, h⟩
  · exact post_bind h fun s1 h1 => bh_post_done (bh_ctx_insertHtml' (bh_ctx_closeP hc) (neutral_of_is hplain (by decide +kernel)) h1).same
  replace h := ite_cases h
  rcases h with ⟨hbutton, h⟩ | ⟨hbutton, h⟩
  · dsimp only at h
    obtain ⟨s1, h1, h2⟩ := bind_ok h
    obtain ⟨s2, h3, h4⟩ := bind_ok h2
    cases pure_ok h4
    exact bh_post_done (bh_ctx_insertHtml' (bh_ctx_reconstruct (bs_button hc _) h1) (neutral_of_is hbutton (by decide +kernel)) h3).same
  replace h := ite_cases h
  rcases h with ⟨ha, h⟩ | ⟨ha, h⟩
  · exact post_inBodyStartA hc hl ha hfr h
  replace h := ite_cases h
  rcases h with ⟨hfmt, h⟩ | ⟨hfmt, h⟩
  · obtain ⟨s1, h1, h2⟩ := bind_ok h
    obtain ⟨r1, h3, h4⟩ := bind_ok h2
    obtain ⟨s2, e⟩ := r1
    cases pure_ok h4
    have hc2 := bh_ctx_insertHtml (bh_ctx_reconstruct hc h1) (neutral_of_isOneOf hfmt (by decide +kernel)) h3
    exact fun _ => hc2.upd (σ' := pushFormatting s2 e t) ⟨pushFormatting_mode .., pushFormatting_orig .., pushFormatting_tms ..,
      pushFormatting_stopped .., pushFormatting_stack .., rfl⟩ (fun hcell => hcell)
      (hc2.good.af.push e (fmtN_of_isOneOf hfmt (by decide +kernel)))
  replace h := ite_cases h
  rcases h with ⟨hnobr, h⟩ | ⟨hnobr, h⟩
  · exact post_inBodyStartNobr hc hl hnobr hfr h
  replace h := ite_cases h
  rcases h with ⟨happlet, h⟩ | ⟨happlet, h⟩
  · obtain ⟨s1, h1, h2⟩ := bind_ok h
    obtain ⟨s2, h3, h4⟩ := bind_ok h2
    cases pure_ok h4
    have hc2 := bh_ctx_insertHtml' (bh_ctx_reconstruct hc h1) (neutral_of_isOneOf happlet (by decide +kernel)) h3
    exact fun _ => hc2.upd (σ' := s2.insertMarker.notOk) ⟨rfl, rfl, rfl, rfl, rfl, rfl⟩ (fun hcell => hcell)
      hc2.good.af.marker
  replace h := ite_cases h
  rcases h with ⟨htable, h⟩ | ⟨htable, h⟩
  · dsimp only at h
    obtain ⟨s1, h1, h2⟩ := bind_ok h
    cases pure_ok h2
    obtain ⟨e, he, _, hu, _⟩ := insertHtml'_eff h1
    have hc0 : Ctx cfg (if (σ.quirks != .quirks) = true then closePIfInButtonScope cfg σ else σ) := by
      split
      · exact bh_ctx_closeP hc
      · exact hc
    exact fun _ => (hc0.good.afterUpd hc0.live hu (m := .inTable) rfl (by decide)).2
  replace h := ite_cases h
  rcases h with ⟨harea, h⟩ | ⟨harea, h⟩
  · obtain ⟨s1, h1, h2⟩ := bind_ok h
    obtain ⟨s2, h3, h4⟩ := bind_ok h2
    cases pure_ok h4
    exact bh_post_done (bh_ctx_insertVoid (bh_ctx_reconstruct hc h1) h3).same
  replace h := ite_cases h
  rcases h with ⟨hinput, h⟩ | ⟨hinput, h⟩
  · exact post_inBodyStartInput hc h
  replace h := ite_cases h
  rcases h with ⟨hparam, h⟩ | ⟨hparam, h⟩
  · obtain ⟨s1, h1, rfl⟩ := map_ok h
    exact bh_post_done (bh_ctx_insertVoid hc h1)
  replace h := ite_cases h
  rcases h with ⟨hhr, h⟩ | ⟨hhr, h⟩
  · exact post_inBodyStartHr hc h
  replace h := ite_cases h
  rcases h with ⟨htextarea, h⟩ | ⟨htextarea, h⟩
  · obtain ⟨s1, h1, h2⟩ := bind_ok h
    cases pure_ok h2
    obtain ⟨e, he, hne, hu, _⟩ := insertHtml'_eff h1
    exact fun _ => hc.enterText (e := e) (by rw [he]) hne rfl hu.mode hu.tms hu.stack hu.list
  replace h := ite_cases h
  rcases h with ⟨hxmp, h⟩ | ⟨hxmp, h⟩
  · obtain ⟨s1, h1, h2⟩ := bind_ok h
    obtain ⟨s2, h3, rfl⟩ := map_ok h2
    have hc1 := bh_ctx_reconstruct (bh_ctx_closeP hc) h1
    obtain ⟨e, he, hne, hm, ho, ht, _, hs, hli⟩ := genericTextElement_eff h3
    exact fun _ => (hc1.same (σ' := s1.notOk)).enterText (e := e) (by rw [he]) hne hm ho ht hs hli
  replace h := ite_cases h
  rcases h with ⟨hiframe, h⟩ | ⟨hiframe, h⟩
  · obtain ⟨s2, h3, rfl⟩ := map_ok h
    obtain ⟨e, he, hne, hm, ho, ht, _, hs, hli⟩ := genericTextElement_eff h3
    exact fun _ => (hc.same (σ' := σ.notOk)).enterText (e := e) (by rw [he]) hne hm ho ht hs hli
  replace h := ite_cases h
  rcases h with ⟨hnoembed, h⟩ | ⟨hnoembed, h⟩
  · obtain ⟨s2, h3, rfl⟩ := map_ok h
    obtain ⟨e, he, hne, hm, ho, ht, _, hs, hli⟩ := genericTextElement_eff h3
    exact fun _ => hc.enterText (e := e) (by rw [he]) hne hm ho ht hs hli
  replace h := ite_cases h
  rcases h with ⟨hselect, h⟩ | ⟨hselect, h⟩
  · simp only [hc.ed] at h
    exact post_inBodyStartSelect2025 hc hselect h
  replace h := ite_cases h
  rcases h with ⟨hopt, h⟩ | ⟨hopt, h⟩
  · simp only [hc.ed] at h
    split at h
    · rename_i ho
      exact post_inBodyStartOption2025 hc ho h
    · rename_i ho
      refine post_inBodyStartOptgroup2025 hc ?_ h
      simp only [Tag.isOneOf, strIsOneOf, List.any_cons, List.any_nil, Bool.or_false, Bool.or_eq_true] at hopt
      rcases hopt with hopt | hopt
      · exact hopt
      · exact absurd hopt ho
  replace h := ite_cases h
  rcases h with ⟨hrb, h⟩ | ⟨hrb, h⟩
  · dsimp only at h
    obtain ⟨s1, h1, rfl⟩ := map_ok h
    refine bh_post_done (cfg := cfg) (bh_ctx_insertHtml' ?_ (neutral_of_isOneOf hrb (by decide +kernel)) h1)
    split
    · have hc1 : Ctx cfg (genImplied σ) := bs_ctx hc rfl rfl rfl rfl rfl (cellR_genImplied none)
      split
      · exact hc1
      · exact hc1.same
    · exact hc
  replace h := ite_cases h
  rcases h with ⟨hrp, h⟩ | ⟨hrp, h⟩
  · dsimp only at h
    obtain ⟨s1, h1, rfl⟩ := map_ok h
    refine bh_post_done (cfg := cfg) (bh_ctx_insertHtml' ?_ (neutral_of_isOneOf hrp (by decide +kernel)) h1)
    split
    · have hc1 : Ctx cfg (genImplied σ (some "rtc")) := bs_ctx hc rfl rfl rfl rfl rfl (cellR_genImplied (some "rtc"))
      split
      · exact hc1
      · exact hc1.same
    · exact hc
  replace h := ite_cases h
  rcases h with ⟨hmath, h⟩ | ⟨hmath, h⟩
  · exact post_inBodyStartForeignRoot hc nsMathml_ne_nsHtml h
  replace h := ite_cases h
  rcases h with ⟨hsvg, h⟩ | ⟨hsvg, h⟩
  · exact post_inBodyStartForeignRoot hc nsSvg_ne_nsHtml h
  replace h := ite_cases h
  rcases h with ⟨hstray, h⟩ | ⟨hstray, h⟩
  · cases pure_ok h
    exact bh_post_done hc.same
  obtain ⟨s1, h1, h2⟩ := bind_ok h
  obtain ⟨s2, h3, rfl⟩ := map_ok h2
  have hstray' := Bool.eq_false_iff.mpr hstray
  have hhead1' := Bool.eq_false_iff.mpr hhead1
  exact bh_post_done (bh_ctx_insertHtml' (bh_ctx_reconstruct hc h1)
    (neutral_of_not (bs_not_is_of_not_isOneOf hstray' (by decide +kernel)) (bs_not_is_of_not_isOneOf hstray' (by decide +kernel))
      (Bool.eq_false_iff.mpr hhtml) (Bool.eq_false_iff.mpr htable) (bs_not_is_of_not_isOneOf hhead1' (by decide +kernel))) h3)

/-- the start tags of "in body" (`hhead`: the rules of "in head", to which ten of them are handed) -/
theorem post_inBodyStartTag (hhead : Keeps0 (inHead (N := N)) PreHead) {cfg : Config N} {σ : State N} (hc : Ctx cfg σ)
    (hl : Link σ) {t : Tag} {r : Step N} (hfr : FreshL σ.p.stack σ.p.supply r.state.p.supply)
    (h : inBodyStartTag cfg σ t = .ok r) : Post r := by
  unfold inBodyStartTag at h
  split at h
  · exact post_inBodyStartTagCore hhead (σ := σ.err "in body: image start tag") hc.same hl.same hfr h
  · exact post_inBodyStartTagCore hhead hc hl hfr h

end
end H5V.Lemmas.ModesInv
