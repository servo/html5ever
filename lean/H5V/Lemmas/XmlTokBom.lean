import H5V.Lemmas.XmlTokRuns
/-!
`discard_bom` is only ever touched by the prologue of `feed`: no step of the tokenizer loop changes
it.  The character-reference sub-tokenizer is covered by `Pres` (`XmlTokChunk`); what is left are the
reader, the two tables and the look-ahead states.
-/
namespace H5V.Model.XmlTok

theorem stepCharRef_db (o : Opts) (m : Mach) (inp : Str) (cr : CharRefSt) (m' : Mach)
    (h : (stepCharRef o m inp cr).mach? = some m') : m'.discardBom = m.discardBom :=
  (stepCharRef_pres o m inp cr m' h).2.2.2

theorem popExceptFrom_db (o : Opts) (S : List Char) (m m1 : Mach) (inp i1 : Str) (r : Option SetRes)
    (h : popExceptFrom o S m inp = (r, m1, i1)) : m1.discardBom = m.discardBom := by
  unfold popExceptFrom at h
  split at h
  · cases hg : getChar o m inp with
    | mk c rest =>
      obtain ⟨m2, i2⟩ := rest
      simp only [hg, Prod.mk.injEq] at h
      obtain ⟨_, h2, _⟩ := h; subst h2
      exact getChar_db o m m2 inp i2 c hg
  · rename_i hnot
    cases inp with
    | nil => simp only [Prod.mk.injEq] at h; obtain ⟨_, h2, _⟩ := h; subst h2; simp
    | cons x xs =>
      simp only at h
      split at h
      · cases hp : preprocess o m x xs with
        | mk c rest =>
          obtain ⟨m2, i2⟩ := rest
          simp only [hp, Prod.mk.injEq] at h
          obtain ⟨_, h2, _⟩ := h; subst h2
          have hr : m.reconsume = false := by
            cases hrr : m.reconsume with
            | false => rfl
            | true => simp [hrr] at hnot
          have : getChar o m (x :: xs) = (c, m2, i2) := by simp [getChar, hr, hp]
          exact getChar_db o m m2 _ i2 c this
      · simp only [Prod.mk.injEq] at h; obtain ⟨_, h2, _⟩ := h; subst h2; simp

theorem eatSkipLf_db (o : Opts) (m : Mach) (inp : Str) : (eatSkipLf o m inp).1.discardBom = m.discardBom := by
  unfold eatSkipLf
  split
  · cases hpk : peek m inp with
    | none => simp
    | some c =>
      simp only
      split
      · cases hg : getChar o (m.setIgnoreLf false) inp with
        | mk c' r =>
          obtain ⟨m2, i2⟩ := r
          have := getChar_db o _ m2 inp i2 c' hg
          simpa using this
      · simp
  · rfl

theorem eat_db (o : Opts) (m m1 : Mach) (inp i1 pat : Str) (b : Option Bool)
    (h : eat o m inp pat = (b, m1, i1)) : m1.discardBom = m.discardBom := by
  rw [eat_eq_core] at h
  unfold eatCore at h
  have hf := eatSkipLf_db o m inp
  repeat' split at h
  all_goals
    (simp only [Prod.mk.injEq] at h
     obtain ⟨_, h2, _⟩ := h
     subst h2
     simp [hf])

theorem contChar_db (o : Opts) (m : Mach) (inp : Str) (m' : Mach)
    (h : (contChar o (getChar o m inp)).mach? = some m') : m'.discardBom = m.discardBom := by
  cases hgc : getChar o m inp with
  | mk c r =>
    obtain ⟨m1, i1⟩ := r
    rw [hgc] at h
    have d := getChar_db o m m1 inp i1 c hgc
    cases c with
    | none => cases h; exact d
    | some c => have := ofSig_mach _ _ _ h; subst this; rw [transChar_discardBom, d]

theorem eatChain_db (o : Opts) (dflt : Mach → Str → R) (alts : List (Str × (Mach → Mach)))
    (ha : ∀ p ∈ alts, p ∈ mdAlts ++ adnAlts)
    (hd : ∀ m inp m', (dflt m inp).mach? = some m' → m'.discardBom = m.discardBom)
    (m : Mach) (inp : Str) (m' : Mach) (h : (eatChain o dflt alts m inp).mach? = some m') :
    m'.discardBom = m.discardBom :=
  eatChain_ind (I := fun x _ => x.discardBom = m.discardBom)
    (Post := fun r => ∀ m', r.mach? = some m' → m'.discardBom = m.discardBom) o dflt alts
    (fun _ _ _ _ _ _ hi he => (eat_db o _ _ _ _ _ _ he).trans hi)
    (fun _ _ hi _ hm => by cases hm; exact hi)
    (fun p hp x _ hi _ hm => by
      cases hm
      obtain ⟨s, hc⟩ := alts_ctl p (ha p hp) x
      exact hc.2.2.2.2.2.2.2.trans hi)
    (fun _ _ hi _ hm => (hd _ _ _ hm).trans hi) m inp rfl m' h

/-- no step of the tokenizer loop touches `discard_bom` -/
theorem step_discardBom (o : Opts) (m : Mach) (inp : Str) (m' : Mach)
    (h : (step o m inp).mach? = some m') : m'.discardBom = m.discardBom := by
  revert h
  refine step_cases (Post := fun r => r.mach? = some m' → m'.discardBom = m.discardBom) o m inp
    (fun cr _ => stepCharRef_db o m inp cr m') (fun _ _ => contChar_db o m inp m') (fun _ _ h => ?_)
    (fun _ _ => eatChain_db o _ mdAlts (fun _ => List.mem_append_left _)
      (fun _ _ _ hm => by cases hm; exact badChar_discardBom _ _) m inp m')
    (fun _ _ => eatChain_db o _ adnAlts (fun _ => List.mem_append_right _) (contChar_db o) m inp m')
  cases hgc : popExceptFrom o (setOf m.state) m inp with
  | mk c r =>
    obtain ⟨m1, i1⟩ := r
    rw [hgc] at h
    have d := popExceptFrom_db o _ m m1 inp i1 c hgc
    cases c with
    | none => cases h; exact d
    | some c => have := ofSig_mach _ _ _ h; subst this; rw [transSet_discardBom, d]

theorem runsTo_discardBom (o : Opts) {m : Mach} {a : Str} {m1 : Mach} (hrun : RunsTo o m a m1) :
    m1.discardBom = m.discardBom := by
  induction hrun with
  | @susp m0 inp0 m0' hs => exact step_discardBom o m0 inp0 m0' (by rw [hs]; rfl)
  | @cont m0 inp0 mx ix m0' hs hr ih =>
    exact ih.trans (step_discardBom o m0 inp0 mx (by rw [hs]; rfl))

end H5V.Model.XmlTok
