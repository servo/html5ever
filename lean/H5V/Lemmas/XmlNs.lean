import H5V.Model.XmlTB
import H5V.Spec.XmlNs
import H5V.Lemmas.XmlTB
/-! Lemmas relating `process_namespaces` of the model to the lexical-scope Spec. -/
namespace H5V.Lemmas.XmlNs
open H5V.Model.XmlTB H5V.Spec.XmlNs H5V.Lemmas.XmlTB

/-- a model map and a Spec frame bind the same prefixes to the same things -/
def MapAgree (m : NsMap) (f : NsFrame) : Prop := ∀ p, m.lookup p = f.lookup p

/-- a frame never binds the reserved prefixes -/
def Clean (f : NsFrame) : Prop := f.lookup (some sXml) = none ∧ f.lookup (some sXmlns) = none

/-- attributes with local name `xmlns` are unprefixed or `xmlns:xmlns` (excludes `p:xmlns`) -/
def NoPrefixedXmlns (attrs : List RAttr) : Prop :=
  ∀ a ∈ attrs, a.name.loc = sXmlns → a.name.pfx = none ∨ a.name.pfx = some sXmlns

/-- no prefix is (effectively) declared twice in the tag -/
def NoDupDecl (attrs : List RAttr) : Prop := ((frameOf attrs).map Prod.fst).Nodup

theorem isDeclLike_eq (cfg : TbCfg) (a : RAttr)
    (h : cfg.declNeedsNoPrefix = true ∨ (a.name.loc = sXmlns → a.name.pfx = none ∨ a.name.pfx = some sXmlns)) :
    isDeclLike cfg a = isDecl a.name := by
  unfold isDeclLike isDecl
  by_cases h1 : a.name.pfx = some sXmlns
  · simp [h1]
  · by_cases h2 : a.name.loc = sXmlns
    · rcases h with h | h
      · simp [h, h2, Bool.and_comm]
      · rcases h h2 with h3 | h3
        · simp [h2, h3]
        · exact absurd h3 h1
    · have e2 : (a.name.loc == sXmlns) = false := by simpa using h2
      simp [e2]

theorem frameOf_clean (attrs : List RAttr) : Clean (frameOf attrs) := by
  induction attrs with
  | nil => exact ⟨rfl, rfl⟩
  | cons a rest ih =>
    unfold frameOf at ih ⊢
    simp only [List.filterMap_cons]
    match hd : declOf a with
    | none => exact ih
    | some (k, u) =>
      simp only []
      have hk : k ≠ some sXml ∧ k ≠ some sXmlns := by
        unfold declOf at hd
        split at hd
        · simp at hd
        · split at hd
          · simp at hd
          · split at hd
            · split at hd
              · simp at hd
              · rename_i hne
                simp at hd
                obtain ⟨rfl, _⟩ := hd
                simp at hne ⊢
                exact hne
            · simp at hd
              obtain ⟨rfl, _⟩ := hd
              simp
      refine ⟨?_, ?_⟩
      · rw [List.lookup_cons]
        have : (some sXml == k) = false := beq_false_of_ne (fun h => hk.1 h.symm)
        simp only [this]; exact ih.1
      · rw [List.lookup_cons]
        have : (some sXmlns == k) = false := beq_false_of_ne (fun h => hk.2 h.symm)
        simp only [this]; exact ih.2

/-- `insert_ns` on a genuine declaration attribute -/
theorem insertNs_decl (m : NsMap) (a : RAttr) (hd : isDecl a.name = true) :
    match declOf a with
    | some (k, u) => insertNs m a =
        insertKey m k u
    | none => insertNs m a = .ok m ∨ ∃ e, insertNs m a = .error e := by
  unfold declOf insertNs
  simp only [hd, Bool.not_true, Bool.false_eq_true, ↓reduceIte]
  by_cases h0 : a.value = XMLNS_URI
  · simp [h0]
  · simp only [h0, ↓reduceIte]
    by_cases h1 : a.name.pfx = some sXmlns
    · simp only [h1, true_and, ↓reduceIte]
      by_cases h2 : a.name.loc = sXml
      · simp only [h2, true_or, ↓reduceIte]
        split <;> simp
      · simp only [h2, false_or, ↓reduceIte]
        by_cases h3 : a.name.loc = sXmlns
        · simp [h3]
        · simp [h3]
    · have h4 : a.name.pfx = none ∧ a.name.loc = sXmlns := by
        unfold isDecl at hd
        simp [h1] at hd
        exact hd
      have : sXmlns ≠ sXml := by decide
      simp [h4.1, h4.2, this]

theorem declareAll_lookup (l : List RAttr) (m : NsMap) (errs : List Err)
    (hd : ∀ a ∈ l, isDecl a.name = true)
    (hnd : ((frameOf l).map Prod.fst).Nodup)
    (hdis : ∀ k ∈ (frameOf l).map Prod.fst, m.lookup k = none) :
    ∀ p, (declareAll m errs l).1.lookup p =
      match (frameOf l).lookup p with
      | some u => some u
      | none => m.lookup p := by
  induction l generalizing m errs with
  | nil => intro p; simp [declareAll, frameOf]
  | cons a rest ih =>
    intro p
    have hda := hd a (by simp)
    have hrest : ∀ a ∈ rest, isDecl a.name = true := fun b hb => hd b (by simp [hb])
    have hins := insertNs_decl m a hda
    unfold frameOf at hnd hdis ih ⊢
    simp only [List.filterMap_cons] at hnd hdis ⊢
    match hdo : declOf a with
    | none =>
      simp only [hdo] at hins hnd hdis ⊢
      unfold declareAll
      rcases hins with hins | ⟨e, hins⟩
      · simp only [hins]; exact ih m errs hrest hnd hdis p
      · simp only [hins]; exact ih m (e :: errs) hrest hnd hdis p
    | some (k, u) =>
      simp only [hdo] at hins hnd hdis ⊢
      have hmk : m.lookup k = none := hdis k (by simp)
      simp only [insertKey, NsMap.get, hmk, Option.isSome_none, Bool.false_eq_true, and_false, ↓reduceIte,
        NsMap.insert] at hins
      unfold declareAll
      simp only [hins]
      simp only [List.map_cons, List.nodup_cons] at hnd
      have hdis' : ∀ k' ∈ (List.filterMap declOf rest).map Prod.fst, ((k, u) :: m).lookup k' = none := by
        intro k' hk'
        rw [List.lookup_cons]
        have hne : k' ≠ k := by intro h; subst h; exact hnd.1 hk'
        have : (k' == k) = false := by simpa using hne
        simp only [this]
        exact hdis k' (by simp at hk' ⊢; right; exact hk')
      rw [ih ((k, u) :: m) errs hrest hnd.2 hdis' p]
      by_cases hpk : p = k
      · subst hpk
        have hnone : (List.filterMap declOf rest).lookup p = none := by
          rw [List.lookup_eq_none_iff]
          intro x hx
          simp only [bne_iff_ne, ne_eq]
          intro heq
          exact hnd.1 (List.mem_map.mpr ⟨x, hx, heq.symm⟩)
        simp [hnone, List.lookup_cons]
      · have : (p == k) = false := by simpa using hpk
        simp only [List.lookup_cons, this]

/-- the model's stack mirrors the Spec's environment, with the default map at the bottom -/
def StackAgree : List NsMap → List NsFrame → Prop
  | [m], [] => m = defaultMap
  | m :: ms, f :: fs => MapAgree m f ∧ StackAgree ms fs
  | _, _ => False

theorem StackAgree.length {stack : List NsMap} {frames : List NsFrame} (h : StackAgree stack frames) :
    stack.length = frames.length + 1 := by
  induction frames generalizing stack with
  | nil =>
    match stack with
    | [] => simp [StackAgree] at h
    | [m] => rfl
    | _ :: _ :: _ => simp [StackAgree] at h
  | cons f fs ih =>
    match stack with
    | [] => simp [StackAgree] at h
    | m :: ms =>
      match ms, h with
      | [], h => simp [StackAgree] at h
      | m' :: ms', h =>
        simp [StackAgree] at h
        simp [ih h.2]

theorem stackAgree_cons {m : NsMap} {ms : List NsMap} {f : NsFrame} {fs : List NsFrame} :
    StackAgree (m :: ms) (f :: fs) ↔ MapAgree m f ∧ StackAgree ms fs := by
  match ms with
  | [] | _ :: _ => simp [StackAgree]

theorem StackAgree.drop {stack : List NsMap} {frames : List NsFrame} (h : StackAgree stack frames)
    (k : Nat) (hk : k ≤ frames.length) : StackAgree (stack.drop k) (frames.drop k) := by
  induction k generalizing stack frames with
  | zero => simpa using h
  | succ n ih =>
    match frames, stack with
    | [], _ => simp at hk
    | f :: fs, [] => simp [StackAgree] at h
    | f :: fs, m :: ms =>
      rw [stackAgree_cons] at h
      simp only [List.drop_succ_cons]
      exact ih h.2 (by simpa using hk)

theorem findSome_stack {stack : List NsMap} {frames : List NsFrame} (h : StackAgree stack frames)
    (p : Option Str) :
    stack.findSome? (fun m => m.lookup p) =
      (frames.findSome? (fun f => f.lookup p)).or (defaultMap.lookup p) := by
  induction frames generalizing stack with
  | nil =>
    match stack with
    | [] => simp [StackAgree] at h
    | [m] =>
      simp [StackAgree] at h; subst h
      simp [List.findSome?]
      cases defaultMap.lookup p <;> rfl
    | _ :: _ :: _ => simp [StackAgree] at h
  | cons f fs ih =>
    match stack with
    | [] => simp [StackAgree] at h
    | m :: ms =>
      rw [stackAgree_cons] at h
      simp only [List.findSome?_cons]
      rw [h.1 p]
      cases f.lookup p with
      | some v => simp
      | none => simp [ih h.2]

theorem findSome_clean {frames : List NsFrame} (hc : ∀ f ∈ frames, Clean f) :
    frames.findSome? (fun f => f.lookup (some sXml)) = none ∧
    frames.findSome? (fun f => f.lookup (some sXmlns)) = none := by
  induction frames with
  | nil => simp
  | cons f fs ih =>
    have h1 := hc f (by simp)
    have h2 := ih (fun g hg => hc g (by simp [hg]))
    simp [List.findSome?_cons, h1.1, h1.2, h2.1, h2.2]

/-- `bind_qname` computes the Spec's resolution -/
theorem bindQName_eq {stack : List NsMap} {frames : List NsFrame} {cur : NsMap} {f0 : NsFrame}
    (hs : StackAgree stack frames) (hc : ∀ f ∈ frames, Clean f) (h0 : MapAgree cur f0) (hc0 : Clean f0)
    (n : RName) : (bindQName stack cur n).1 = resolveElemName (f0 :: frames) n := by
  have hfs : StackAgree (cur :: stack) (f0 :: frames) := by
    match stack, hs with
    | [], hs => cases frames <;> simp [StackAgree] at hs
    | _ :: _, hs => exact ⟨h0, hs⟩
  have hfind := findSome_stack hfs n.pfx
  have hcl := findSome_clean (frames := f0 :: frames)
    (by intro f hf; simp at hf; rcases hf with rfl | hf; exact hc0; exact hc f hf)
  unfold bindQName findUri resolveElemName lookupNs
  simp only [NsMap.get]
  rw [hfind]
  by_cases hx : n.pfx = some sXml
  · simp only [hx, hcl.1, ↓reduceIte]
    have : defaultMap.lookup (some sXml) = some (some XML_URI) := by decide +kernel
    simp [this]
  · by_cases hy : n.pfx = some sXmlns
    · have hne : some sXmlns ≠ some sXml := by decide +kernel
      simp only [hy, hcl.2, hne, ↓reduceIte]
      have : defaultMap.lookup (some sXmlns) = some (some XMLNS_URI) := by decide +kernel
      simp [this]
    · simp only [hx, hy, ↓reduceIte]
      generalize List.findSome? (fun f => List.lookup n.pfx f) (f0 :: frames) = g
      match g with
      | some (some u) | some none => simp
      | none =>
        simp only [Option.or_none, Option.none_or]
        match hp : n.pfx with
        | none =>
          have : defaultMap.lookup (none : Option Str) = some none := by decide +kernel
          simp [this]
        | some q =>
          have : defaultMap.lookup (some q) = none := by
            rw [hp] at hx hy
            simp only [defaultMap, List.lookup_cons]
            have h1 : (some q == (none : Option Str)) = false := by simp
            have h2 : (some q == some sXml) = false := by simpa using hx
            have h3 : (some q == some sXmlns) = false := by simpa using hy
            simp [h1, h2, h3]
          simp [this]

/-- the attribute loop of `process_namespaces` is the Spec's resolve-then-dedupe -/
theorem bindAttrs_eq (stack : List NsMap) (cur : NsMap) (env : List NsFrame)
    (hb : ∀ n, (bindQName stack cur n).1 = resolveElemName env n)
    (l : List RAttr) (present : List (Str × Str)) :
    (bindAttrs stack cur present l).1 =
      dedupPrefixed present (l.map (fun a => ⟨resolveAttrName env a.name, a.value⟩)) := by
  induction l generalizing present with
  | nil => simp [bindAttrs, dedupPrefixed]
  | cons a rest ih =>
    unfold bindAttrs
    match hp : a.name.pfx with
    | none =>
      have hr : resolveAttrName env a.name = ⟨none, [], a.name.loc⟩ := by
        simp [resolveAttrName, hp]
      simp only [List.map_cons, dedupPrefixed, hr]
      simp [ih present]
    | some q =>
      simp only [List.map_cons]
      have hq : (bindQName stack cur a.name).1 = ⟨some q, lookupNs env (some q), a.name.loc⟩ := by
        rw [hb]; simp [resolveElemName, hp]
      have hr : resolveAttrName env a.name = ⟨some q, lookupNs env (some q), a.name.loc⟩ := by
        simp [resolveAttrName, hp]
      rw [hr]
      simp only [dedupPrefixed, Option.isSome_some, ↓reduceIte]
      generalize hbq : bindQName stack cur a.name = bq at hq
      obtain ⟨q', e⟩ := bq
      simp only at hq
      subst hq
      simp only []
      split
      · simp [ih present]
      · simp [ih]

theorem frameOf_filter (l : List RAttr) :
    frameOf (l.filter (fun a => isDecl a.name)) = frameOf l := by
  induction l with
  | nil => rfl
  | cons a rest ih =>
    unfold frameOf at ih ⊢
    by_cases h : isDecl a.name = true
    · simp only [List.filter_cons, h, ↓reduceIte, List.filterMap_cons, ih]
    · have hn : declOf a = none := by unfold declOf; simp [h]
      simp [h, hn, ih]

/-- the tag is outside the two deviations of `process_namespaces` from the Spec -/
def TagOK (cfg : TbCfg) (t : Tag) : Prop :=
  (cfg.declNeedsNoPrefix = true ∨ NoPrefixedXmlns t.attrs) ∧ NoDupDecl t.attrs

/-- `process_namespaces` computes the Spec's resolution of the tag -/
theorem processNamespaces_eq (cfg : TbCfg) (stack : List NsMap) (scopes : List Scope) (t : Tag)
    (hok : TagOK cfg t) (hs : StackAgree stack (envOf scopes)) (hc : ∀ f ∈ envOf scopes, Clean f) :
    (processNamespaces cfg stack t).name = (resolveTag scopes t).name ∧
    (processNamespaces cfg stack t).attrs = (resolveTag scopes t).attrs ∧
    MapAgree (processNamespaces cfg stack t).map (frameOf t.attrs) := by
  have hfilt : ∀ a ∈ t.attrs, isDeclLike cfg a = isDecl a.name := by
    intro a ha
    apply isDeclLike_eq
    rcases hok.1 with h | h
    · exact Or.inl h
    · exact Or.inr (h a ha)
  have hf1 : t.attrs.filter (isDeclLike cfg) = t.attrs.filter (fun a => isDecl a.name) :=
    List.filter_congr hfilt
  have hf2 : t.attrs.filter (fun a => !isDeclLike cfg a) = t.attrs.filter (fun a => !isDecl a.name) :=
    List.filter_congr (fun a ha => by rw [hfilt a ha])
  unfold processNamespaces
  rw [hf1, hf2]
  generalize hda : declareAll [] [] (t.attrs.filter (fun a => isDecl a.name)) = r
  obtain ⟨cur, derrs⟩ := r
  have hcur : MapAgree cur (frameOf t.attrs) := by
    intro p
    have h := declareAll_lookup (t.attrs.filter (fun a => isDecl a.name)) [] []
      (by intro a ha; simpa using (List.mem_filter.mp ha).2)
      (by rw [frameOf_filter]; exact hok.2)
      (by intro k _; rfl) p
    rw [hda, frameOf_filter] at h
    rw [h]
    cases (frameOf t.attrs).lookup p <;> rfl
  have hb := bindQName_eq hs hc hcur (frameOf_clean t.attrs)
  simp only []
  refine ⟨?_, ?_, hcur⟩
  · rw [hb]; rfl
  · rw [bindAttrs_eq stack cur (frameOf t.attrs :: envOf scopes) hb]
    rfl

/-- an attribute as the code resolves it in (`stack`, `cur`) -/
def codeResolveAttr (stack : List NsMap) (cur : NsMap) (a : RAttr) : Attr :=
  ⟨match a.name.pfx with
    | none => ⟨none, [], a.name.loc⟩
    | some _ => (bindQName stack cur a.name).1, a.value⟩

theorem bindQName_pfx (stack : List NsMap) (cur : NsMap) (n : RName) :
    (bindQName stack cur n).1.pfx = n.pfx ∧ (bindQName stack cur n).1.loc = n.loc := by
  unfold bindQName; split <;> simp

/-- the attribute loop = resolve every attribute, then keep the first of equal expanded names among
the prefixed ones (no hypothesis on the tag) -/
theorem bindAttrs_eq_code (stack : List NsMap) (cur : NsMap) (l : List RAttr) (present : List (Str × Str)) :
    (bindAttrs stack cur present l).1 = dedupPrefixed present (l.map (codeResolveAttr stack cur)) := by
  induction l generalizing present with
  | nil => simp [bindAttrs, dedupPrefixed]
  | cons a rest ih =>
    unfold bindAttrs
    match hp : a.name.pfx with
    | none =>
      have hr : codeResolveAttr stack cur a = ⟨⟨none, [], a.name.loc⟩, a.value⟩ := by
        simp [codeResolveAttr, hp]
      simp only [List.map_cons, dedupPrefixed, hr]
      simp [ih present]
    | some q =>
      have hr : codeResolveAttr stack cur a = ⟨(bindQName stack cur a.name).1, a.value⟩ := by
        simp [codeResolveAttr, hp]
      have hq := (bindQName_pfx stack cur a.name).1
      rw [hp] at hq
      simp only [List.map_cons, hr, dedupPrefixed, hq, Option.isSome_some, ↓reduceIte]
      generalize bindQName stack cur a.name = bq
      obtain ⟨q', e⟩ := bq
      simp only []
      split
      · simp [ih present]
      · simp [ih]

theorem dedup_sublist (seen : List (Str × Str)) (l : List Attr) :
    (dedupPrefixed seen l).Sublist l := by
  induction l generalizing seen with
  | nil => simp [dedupPrefixed]
  | cons a rest ih =>
    unfold dedupPrefixed
    split
    · split
      · exact (ih seen).cons a
      · exact (ih _).cons₂ a
    · exact (ih seen).cons₂ a

theorem dedup_only_if (seen : List (Str × Str)) (l1 : List Attr) (a : Attr) (l2 : List Attr) :
    a ∈ dedupPrefixed seen (l1 ++ a :: l2) ∨
    (a.name.pfx.isSome = true ∧ ((a.name.ns, a.name.loc) ∈ seen ∨
      ∃ b ∈ l1, b.name.pfx.isSome = true ∧ b.name.ns = a.name.ns ∧ b.name.loc = a.name.loc)) := by
  induction l1 generalizing seen with
  | nil =>
    simp only [List.nil_append, dedupPrefixed]
    by_cases hp : a.name.pfx.isSome = true
    · by_cases hc : seen.contains (a.name.ns, a.name.loc) = true
      · right; exact ⟨hp, Or.inl (by simpa using hc)⟩
      · left
        have hc' : (a.name.ns, a.name.loc) ∉ seen := by simpa using hc
        simp [hp, hc']
    · left; simp [hp]
  | cons b l1' ih =>
    simp only [List.cons_append, dedupPrefixed]
    by_cases hp : b.name.pfx.isSome = true
    · by_cases hc : seen.contains (b.name.ns, b.name.loc) = true
      · simp only [hp, hc, ↓reduceIte]
        rcases ih seen with h | ⟨ha, h | ⟨b', hb', h⟩⟩
        · left; exact h
        · right; exact ⟨ha, Or.inl h⟩
        · right; exact ⟨ha, Or.inr ⟨b', by simp [hb'], h⟩⟩
      · simp only [hp, hc, ↓reduceIte]
        rcases ih ((b.name.ns, b.name.loc) :: seen) with h | ⟨ha, h | ⟨b', hb', h⟩⟩
        · left; simp [h]
        · right
          refine ⟨ha, ?_⟩
          simp only [List.mem_cons, Prod.mk.injEq] at h
          rcases h with ⟨h1, h2⟩ | h
          · exact Or.inr ⟨b, by simp, hp, h1.symm, h2.symm⟩
          · exact Or.inl h
        · right; exact ⟨ha, Or.inr ⟨b', by simp [hb'], h⟩⟩
    · simp only [hp, ↓reduceIte]
      rcases ih seen with h | ⟨ha, h | ⟨b', hb', h⟩⟩
      · left; simp [h]
      · right; exact ⟨ha, Or.inl h⟩
      · right; exact ⟨ha, Or.inr ⟨b', by simp [hb'], h⟩⟩

end H5V.Lemmas.XmlNs
