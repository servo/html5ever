import H5V.Lemmas.HtmlTBReachRules
/-!
C18, tree-builder side: the remaining insertion modes, `step`, and foreign content.
-/
namespace H5V.Props.C18
open H5V.Model.Dom (Id QualName Attr NodeOrText SinkOp Output ElementFlags QuirksMode Dom)
open H5V.Model.HtmlTB
open H5V.Lemmas.TBM

instance pv_stepBeforeHead (t : Token) : Call (stepBeforeHead t) [] prH := ⟨by unfold stepBeforeHead; pv_walk⟩

instance pv_stepInHeadNoscript (t : Token) : Call (stepInHeadNoscript t) [] prH := ⟨by
  unfold stepInHeadNoscript; pv_walk⟩

instance pv_stepAfterHead (t : Token) : Call (stepAfterHead t) [] prH := ⟨by unfold stepAfterHead; pv_walk⟩

instance pv_stepText (t : Token) : Call (stepText t) [] prH := ⟨by unfold stepText; pv_walk⟩

instance pv_fosterParentInBody (t : Token) : Call (fosterParentInBody t) [] prH := ⟨by
  unfold fosterParentInBody; pv_walk⟩

instance pv_processCharsInTable (t : Token) : Call (processCharsInTable t) [] prH := ⟨by
  unfold processCharsInTable; pv_walk⟩

instance pv_stepInTable (t : Token) : Call (stepInTable t) [] prH := ⟨by unfold stepInTable; pv_walk⟩

instance pv_flushPendingFoster : ∀ l : List (SplitStatus × Str), Call (flushPendingFoster l) [] nil
  | [] => ⟨by unfold flushPendingFoster; pv_walk⟩
  | p :: rest => ⟨by have ih := pv_flushPendingFoster rest; unfold flushPendingFoster; pv_walk⟩

instance pv_flushPendingPlain : ∀ l : List (SplitStatus × Str), Call (flushPendingPlain l) [] nil
  | [] => ⟨by unfold flushPendingPlain; pv_walk⟩
  | p :: rest => ⟨by have ih := pv_flushPendingPlain rest; unfold flushPendingPlain; pv_walk⟩

instance pv_flushPendingTableText : Call flushPendingTableText [] nil := ⟨by unfold flushPendingTableText; pv_walk⟩

instance pv_stepInTableText (t : Token) : Call (stepInTableText t) [] prH := ⟨by unfold stepInTableText; pv_walk⟩

instance pv_stepInCaption (t : Token) : Call (stepInCaption t) [] prH := ⟨by unfold stepInCaption; pv_walk⟩

instance pv_stepInColumnGroup (t : Token) : Call (stepInColumnGroup t) [] prH := ⟨by unfold stepInColumnGroup; pv_walk⟩

instance pv_stepInTableBody (t : Token) : Call (stepInTableBody t) [] prH := ⟨by unfold stepInTableBody; pv_walk⟩

instance pv_popTr (site : String) : Call (popTr site) [] nil := ⟨by unfold popTr; pv_walk⟩

instance pv_stepInRow (t : Token) : Call (stepInRow t) [] prH := ⟨by unfold stepInRow; pv_walk⟩

instance pv_stepInCell (t : Token) : Call (stepInCell t) [] prH := ⟨by unfold stepInCell; pv_walk⟩

instance pv_setTemplateMode (m : Mode) : Call (setTemplateMode m) [] nil := ⟨by unfold setTemplateMode; pv_walk⟩

instance pv_stepInTemplate (t : Token) : Call (stepInTemplate t) [] prH := ⟨by unfold stepInTemplate; pv_walk⟩

instance pv_stepAfterBody (t : Token) : Call (stepAfterBody t) [] prH := ⟨by unfold stepAfterBody; pv_walk⟩

instance pv_stepInFrameset (t : Token) : Call (stepInFrameset t) [] prH := ⟨by unfold stepInFrameset; pv_walk⟩

instance pv_stepAfterFrameset (t : Token) : Call (stepAfterFrameset t) [] prH := ⟨by unfold stepAfterFrameset; pv_walk⟩

instance pv_stepAfterAfterBody (t : Token) : Call (stepAfterAfterBody t) [] prH := ⟨by
  unfold stepAfterAfterBody; pv_walk⟩

instance pv_stepAfterAfterFrameset (t : Token) : Call (stepAfterAfterFrameset t) [] prH := ⟨by
  unfold stepAfterAfterFrameset; pv_walk⟩

/-- **every insertion mode** -/
instance pv_step (m : Mode) (t : Token) : Call (step m t) [] prH := ⟨by cases m <;> (unfold step; pv_walk)⟩

instance pv_unexpectedStartTagInForeignContent (t : Tag) : Call (unexpectedStartTagInForeignContent t) [] prH := ⟨by
  unfold unexpectedStartTagInForeignContent; pv_walk⟩

instance pv_foreignEndTagLoop (t : Tag) : ∀ (i : Nat) (b : Bool), Call (foreignEndTagLoop t i b) [] prH
  | 0, _ => ⟨by unfold foreignEndTagLoop; pv_walk⟩
  | i + 1, b => ⟨by have ih := pv_foreignEndTagLoop t i; unfold foreignEndTagLoop; pv_walk⟩

instance pv_stepForeign (t : Token) : Call (stepForeign t) [] prH := ⟨by unfold stepForeign; pv_walk⟩

end H5V.Props.C18
