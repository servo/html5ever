import H5V.Lemmas.HtmlTBSafeInsert
/-!
# Tree-builder safety: the list of active formatting elements

`position_in_active_formatting`, `Vec::remove`, "reconstruct the active formatting elements"
(rewind + create loops: every index is in range, no marker is met, the fuel suffices), Noah's ark.
-/
namespace H5V.Lemmas.TBSafe
open H5V.Model.HtmlTB
open H5V.Model.Dom (Id QualName Attr NodeOrText SinkOp Output ElementFlags QuirksMode Dom NodeData Node)

variable {al : Allow}

/-- an HTML element with one of the formatting names -/
def isFmtE (n : EName) : Bool := n.ns == nsHtml && isOneOf n.loc fmtNames

/-! ### `position_in_active_formatting` -/

def afPos (element : Id) : List FormatEntry → Nat → Option Nat
  | [], _ => none
  | .marker :: rest, i => afPos element rest (i + 1)
  | .element h _ :: rest, i => if h == element then some i else afPos element rest (i + 1)

theorem sat_positionInAFLoop {element : Id} : ∀ (l : List FormatEntry) (i : Nat) (s : State),
    Sat (positionInAFLoop element l i) s (fun r s' => r = afPos element l i ∧ QF s s') := by
  intro l
  induction l with
  | nil => intro i s; exact sat_pure ⟨rfl, QF.refl s⟩
  | cons e rest ih =>
    intro i s
    cases e with
    | marker =>
      unfold positionInAFLoop
      exact (ih (i + 1) s).mono (fun r s' h => ⟨by rw [h.1]; rfl, h.2⟩)
    | element h t =>
      unfold positionInAFLoop
      refine sat_sameNode.bind ?_
      rintro b s1 ⟨rfl, hq⟩
      by_cases hb : (h == element) = true
      · simp only [hb, if_true]; exact sat_pure ⟨by simp [afPos, hb], hq⟩
      · simp only [hb, if_false, Bool.false_eq_true]
        exact (ih (i + 1) s1).mono (fun r s' h' => ⟨by rw [h'.1]; simp [afPos, hb], hq.trans h'.2⟩)

theorem sat_positionInActiveFormatting {element : Id} {s : State} :
    Sat (positionInActiveFormatting element) s
      (fun r s' => r = afPos element s.activeFormatting 0 ∧ QF s s') := by
  unfold positionInActiveFormatting
  exact sat_getS_bind (sat_positionInAFLoop _ 0 s)

theorem afPos_some {e : Id} : ∀ {l : List FormatEntry} {i j : Nat}, afPos e l i = some j →
    i ≤ j ∧ ∃ t, l[j - i]? = some (.element e t) := by
  intro l
  induction l with
  | nil => intro i j h; simp [afPos] at h
  | cons x rest ih =>
    intro i j h
    cases x with
    | marker =>
      simp only [afPos] at h
      obtain ⟨h1, t, h2⟩ := ih h
      refine ⟨by omega, t, ?_⟩
      have : j - i = (j - (i + 1)) + 1 := by omega
      rw [this, List.getElem?_cons_succ]; exact h2
    | element h' t' =>
      simp only [afPos] at h
      by_cases hb : (h' == e) = true
      · simp only [hb, if_true, Option.some.injEq] at h
        subst h
        refine ⟨Nat.le_refl _, t', ?_⟩
        simp only [Nat.sub_self, List.getElem?_cons_zero]
        rw [beq_iff_eq.mp hb]
      · simp only [hb, if_false, Bool.false_eq_true] at h
        obtain ⟨h1, t, h2⟩ := ih h
        refine ⟨by omega, t, ?_⟩
        have : j - i = (j - (i + 1)) + 1 := by omega
        rw [this, List.getElem?_cons_succ]; exact h2

theorem afPos_none {e : Id} : ∀ {l : List FormatEntry} {i : Nat}, afPos e l i = none →
    ∀ t, FormatEntry.element e t ∉ l := by
  intro l
  induction l with
  | nil => intro i _ t h; simp at h
  | cons x rest ih =>
    intro i h t hm
    cases x with
    | marker =>
      simp only [afPos] at h
      rcases List.mem_cons.mp hm with h1 | h1
      · cases h1
      · exact ih h t h1
    | element h' t' =>
      simp only [afPos] at h
      by_cases hb : (h' == e) = true
      · simp [hb] at h
      · simp only [hb, if_false, Bool.false_eq_true] at h
        rcases List.mem_cons.mp hm with h1 | h1
        · cases h1; simp at hb
        · exact ih h t h1

theorem afPos_zero_lt {e : Id} {l : List FormatEntry} {j : Nat} (h : afPos e l 0 = some j) :
    j < l.length ∧ ∃ t, l[j]? = some (.element e t) := by
  obtain ⟨_, t, ht⟩ := afPos_some h
  simp only [Nat.sub_zero] at ht
  have : j < l.length := by
    by_cases hj : j < l.length
    · exact hj
    · rw [List.getElem?_eq_none (Nat.le_of_not_lt hj)] at ht; cases ht
  exact ⟨this, t, ht⟩

theorem afPos_of_mem {e : Id} {t : Tag} {l : List FormatEntry} (h : FormatEntry.element e t ∈ l) :
    ∃ j, afPos e l 0 = some j := by
  cases hp : afPos e l 0 with
  | some j => exact ⟨j, rfl⟩
  | none => exact absurd h (afPos_none hp t)

/-! ### `Vec::remove` -/

theorem sat_afRemove {i : Nat} {site : String} {s : State} (hi : i < s.activeFormatting.length) :
    Sat (afRemove i site) s (fun _ s' => s' = { s with activeFormatting := s.activeFormatting.eraseIdx i }) := by
  unfold afRemove
  refine sat_getS_bind ?_
  simp only [hi, if_true]
  exact sat_modS rfl

theorem HInv.withAF {s : State} (h : HInv s) (af : List FormatEntry)
    (ha : ∀ x t, FormatEntry.element x t ∈ af →
      IsEl s.dom x ∧ nm s.dom x = ⟨nsHtml, t.name⟩ ∧ isOneOf t.name fmtNames = true) :
    HInv { s with activeFormatting := af } :=
  ⟨h.open_el, h.open_tc, ha, h.head, h.form, h.ctx⟩

theorem HInv.withAF_sub {s : State} (h : HInv s) (af : List FormatEntry)
    (ha : ∀ e ∈ af, e ∈ s.activeFormatting) : HInv { s with activeFormatting := af } :=
  h.withAF af (fun x t hx => h.af x t (ha _ hx))

/-! ### `is_marker_or_open` -/

theorem sat_anySameNodeRev {node : Id} : ∀ (l : List Id) (s : State),
    Sat (anySameNodeRev node l) s (fun _ s' => QF s s') := by
  intro l
  induction l with
  | nil => intro s; exact sat_pure (QF.refl s)
  | cons n rest ih =>
    intro s
    unfold anySameNodeRev
    refine sat_sameNode.bind ?_
    rintro b s1 ⟨-, hq⟩
    split
    · exact sat_pure hq
    · exact (ih s1).mono (fun _ _ h => hq.trans h)

theorem sat_isMarkerOrOpen {e : FormatEntry} {s : State} :
    Sat (isMarkerOrOpen e) s (fun b s' => QF s s' ∧ (e = .marker → b = true)) := by
  cases e with
  | marker => exact sat_pure ⟨QF.refl s, fun _ => rfl⟩
  | element node t =>
    unfold isMarkerOrOpen
    refine sat_getS_bind ?_
    exact (sat_anySameNodeRev _ s).mono (fun _ _ h => ⟨h, fun h' => by cases h'⟩)

/-! ### reconstruct the active formatting elements -/

theorem sat_reconstructRewind : ∀ (i : Nat) (s : State), i ≤ s.activeFormatting.length →
    Sat (reconstructRewind i) s (fun r s' => QF s s' ∧ r ≤ i ∧
      ∀ j, r ≤ j → j < i → ∃ h t, s.activeFormatting[j]? = some (.element h t)) := by
  intro i
  induction i with
  | zero => intro s _; exact sat_pure ⟨QF.refl s, Nat.le_refl _, fun j _ h => absurd h (Nat.not_lt_zero _)⟩
  | succ i ih =>
    intro s hi
    unfold reconstructRewind
    refine sat_getS_bind ?_
    have hlt : i < s.activeFormatting.length := hi
    have hget : s.activeFormatting[i]? = some s.activeFormatting[i] := List.getElem?_eq_getElem hlt
    rw [hget]
    dsimp only
    refine sat_isMarkerOrOpen.bind ?_
    rintro b s1 ⟨hq, hm⟩
    split
    · exact sat_pure ⟨hq, Nat.le_refl _, fun j h1 h2 => absurd h2 (by omega)⟩
    · rename_i hb
      have hi1 : i ≤ s1.activeFormatting.length := by rw [hq.activeFormatting]; omega
      refine (ih s1 hi1).mono ?_
      rintro r s2 ⟨hq2, hr, hrange⟩
      refine ⟨hq.trans hq2, by omega, ?_⟩
      intro j h1 h2
      by_cases hj : j = i
      · subst hj
        cases he : s.activeFormatting[j] with
        | marker => exact absurd (hm he) hb
        | element h t => exact ⟨h, t, by rw [hget, he]⟩
      · have := hrange j h1 (by omega)
        rw [hq.activeFormatting] at this
        exact this

/-- the bottom of the stack is an HTML `html` element -/
def Rooted (d : Dom) (l : List Id) : Prop := ∃ r rest, l = r :: rest ∧ nm d r = htmlName

theorem PlaceOk.of_hinv {s : State} (h : HInv s) (hr : Rooted s.dom s.openElems) : PlaceOk s none where
  ne := by obtain ⟨r, rest, hl, _⟩ := hr; rw [hl]; simp
  el := h.open_el
  tc := h.open_tc
  bottom := by
    obtain ⟨r, rest, hl, hn⟩ := hr
    intro r' rest' hl'
    rw [hl] at hl'; cases hl'
    unfold namedP; rw [hn]; decide
  ov_el := fun t ht => by cases ht

theorem Rooted.append_ext {d d' : Dom} {l news : List Id} (hr : Rooted d l) (he : Ext d d') (hel : AllEl d l) :
    Rooted d' (l ++ news) := by
  obtain ⟨r, rest, rfl, hn⟩ := hr
  exact ⟨r, rest ++ news, rfl, by rw [nm_ext he (hel r List.mem_cons_self)]; exact hn⟩

theorem Rooted.ext {d d' : Dom} {l : List Id} (hr : Rooted d l) (he : Ext d d') (hel : AllEl d l) :
    Rooted d' l := by
  have := hr.append_ext (news := []) he hel
  simpa using this

/-- the stack has grown by fresh elements with formatting names; everything else as `Fr` -/
structure Grown (s s' : State) : Prop where
  fr : Fr s s'
  hinv : HInv s'
  open_ : ∃ news, s'.openElems = s.openElems ++ news ∧ ∀ x ∈ news, isFmtE (nm s'.dom x) = true
  aflen : s'.activeFormatting.length = s.activeFormatting.length

theorem Grown.rooted {s s' : State} (h : Grown s s') (hi : HInv s) (hr : Rooted s.dom s.openElems) :
    Rooted s'.dom s'.openElems := by
  obtain ⟨news, ho, _⟩ := h.open_
  rw [ho]; exact hr.append_ext h.fr.ext hi.open_el

theorem sat_reconstructCreate : ∀ (fuel entryIndex : Nat) (s : State), HInv s → Rooted s.dom s.openElems →
    entryIndex < s.activeFormatting.length →
    (∀ j, entryIndex ≤ j → j < s.activeFormatting.length → ∃ h t, s.activeFormatting[j]? = some (.element h t)) →
    s.activeFormatting.length - entryIndex < fuel →
    Sat (reconstructCreate fuel entryIndex) s (fun _ s' => Grown s s') := by
  intro fuel
  induction fuel with
  | zero => intro e s _ _ _ _ h; exact absurd h (Nat.not_lt_zero _)
  | succ fuel ih =>
    intro entryIndex s hi hr hlt hel hfuel
    unfold reconstructCreate
    refine sat_getS_bind ?_
    obtain ⟨h0, tag, hent⟩ := hel entryIndex (Nat.le_refl _) hlt
    rw [hent]
    dsimp only
    refine Sat.bind (Q := fun t s1 => tag = t ∧ s = s1) (sat_pure ⟨rfl, rfl⟩) ?_
    rintro t0 s0 ⟨rfl, rfl⟩
    refine (sat_insertElement (PlaceOk.of_hinv hi hr)).bind ?_
    intro newElement s1 hins
    refine sat_getS_bind ?_
    have haf1 : s1.activeFormatting = s.activeFormatting := hins.af
    have hlt1 : entryIndex < s1.activeFormatting.length := by rw [haf1]; exact hlt
    simp only [hlt1, if_true]
    unfold setAF
    refine sat_modS_bind ?_
    refine sat_getS_bind ?_
    -- the new state
    have hmem : FormatEntry.element h0 tag ∈ s.activeFormatting := List.mem_of_getElem? hent
    have hi1 : HInv s1 := hins.hinv hi
    have hi2 : HInv { s1 with activeFormatting := s1.activeFormatting.set entryIndex (.element newElement tag) } := by
      refine hi1.withAF _ ?_
      intro x t hx
      rcases List.mem_or_eq_of_mem_set hx with hx | hx
      · exact hi1.af x t hx
      · cases hx
        exact ⟨hins.el, hins.nm, (hi.af h0 tag hmem).2.2⟩
    have hopen : s1.openElems = s.openElems ++ [newElement] := by rw [hins.openElems]; rfl
    have hgrown : Grown s { s1 with activeFormatting := s1.activeFormatting.set entryIndex (.element newElement tag) } := by
      refine ⟨hins.fr.withAF _, hi2, ⟨[newElement], hopen, ?_⟩, by simp [haf1]⟩
      intro x hx
      rw [List.mem_singleton.mp hx]
      show isFmtE (nm s1.dom newElement) = true
      rw [hins.nm]
      simp only [isFmtE, beq_self_eq_true, Bool.true_and]
      exact (hi.af h0 tag hmem).2.2
    have hlen : (s1.activeFormatting.set entryIndex (FormatEntry.element newElement tag)).length
        = s.activeFormatting.length := by simp [haf1]
    show Sat (if ((s1.activeFormatting.set entryIndex (FormatEntry.element newElement tag)).length == 0) = true
      then _ else _) _ _
    rw [hlen]
    have hne : (s.activeFormatting.length == 0) = false := by
      cases hl : s.activeFormatting.length with
      | zero => omega
      | succ n => rfl
    simp only [hne, Bool.false_eq_true, if_false]
    split
    · exact sat_pure hgrown
    · rename_i hnot
      have hnot' : entryIndex ≠ s.activeFormatting.length - 1 := by simpa using hnot
      refine (ih (entryIndex + 1) _ hi2 (hgrown.rooted hi hr) ?_ ?_ ?_).mono ?_
      · show entryIndex + 1 < (s1.activeFormatting.set entryIndex _).length
        rw [hlen]; omega
      · intro j hj1 hj2
        show ∃ h t, (s1.activeFormatting.set entryIndex _)[j]? = _
        rw [List.getElem?_set]
        have : entryIndex ≠ j := by omega
        simp only [this, if_false]
        rw [haf1]
        exact hel j (by omega) (by rw [hlen] at hj2; exact hj2)
      · show (s1.activeFormatting.set entryIndex _).length - (entryIndex + 1) < fuel
        rw [hlen]; omega
      · intro _ s3 hg3
        obtain ⟨news, ho, hn⟩ := hg3.open_
        refine ⟨hgrown.fr.trans hg3.fr, hg3.hinv, ⟨newElement :: news, ?_, ?_⟩, by rw [hg3.aflen]; exact hlen⟩
        · rw [ho]; show s1.openElems ++ news = _; rw [hopen]; simp
        · intro x hx
          rcases List.mem_cons.mp hx with hx | hx
          · subst hx
            have hel2 : IsEl s1.dom x := hins.el
            rw [nm_ext hg3.fr.ext hel2, hins.nm]
            simp only [isFmtE, beq_self_eq_true, Bool.true_and]
            exact (hi.af h0 tag hmem).2.2
          · exact hn x hx

theorem Grown.refl {s : State} (hi : HInv s) : Grown s s :=
  ⟨Fr.refl s, hi, ⟨[], by simp, by simp⟩, rfl⟩

theorem Grown.of_qf {s s' : State} (hi : HInv s) (hq : QF s s') : Grown s s' :=
  ⟨hq.fr, hi.of_qf hq, ⟨[], by simp [hq.openElems], by simp⟩, by rw [hq.activeFormatting]⟩

theorem sat_reconstructActiveFormattingElements {s : State} (hi : HInv s) (hr : Rooted s.dom s.openElems) :
    Sat reconstructActiveFormattingElements s (fun _ s' => Grown s s') := by
  unfold reconstructActiveFormattingElements
  refine sat_getS_bind ?_
  dsimp only
  cases hl : s.activeFormatting.getLast? with
  | none => exact sat_pure (Grown.refl hi)
  | some last =>
    dsimp only
    refine sat_isMarkerOrOpen.bind ?_
    rintro b s1 ⟨hq1, hm⟩
    split
    · exact sat_pure (Grown.of_qf hi hq1)
    · rename_i hb
      have hne : s.activeFormatting ≠ [] := by intro e; rw [e] at hl; cases hl
      have hpos : 0 < s.activeFormatting.length := List.length_pos_iff.mpr hne
      have hlast : s.activeFormatting[s.activeFormatting.length - 1]? = some last := by
        rw [List.getLast?_eq_getElem?] at hl; exact hl
      refine (sat_reconstructRewind (s.activeFormatting.length - 1) s1
        (by rw [hq1.activeFormatting]; omega)).bind ?_
      rintro start s2 ⟨hq2, hst, hrange⟩
      have hq := hq1.trans hq2
      have hi2 : HInv s2 := hi.of_qf hq
      have hr2 : Rooted s2.dom s2.openElems := by rw [hq.openElems]; exact hr.ext hq.ext hi.open_el
      refine (sat_reconstructCreate _ start s2 hi2 hr2 ?_ ?_ ?_).mono ?_
      · rw [hq.activeFormatting]; omega
      · intro j hj1 hj2
        rw [hq.activeFormatting] at hj2 ⊢
        by_cases hj : j < s.activeFormatting.length - 1
        · have := hrange j hj1 hj
          rw [hq1.activeFormatting] at this; exact this
        · have hje : j = s.activeFormatting.length - 1 := by omega
          subst hje
          cases hlast' : last with
          | marker => exact absurd (hm hlast') hb
          | element h t => exact ⟨h, t, by rw [hlast, hlast']⟩
      · rw [hq.activeFormatting]; omega
      · intro _ s3 hg
        obtain ⟨news, ho, hn⟩ := hg.open_
        exact ⟨hq.fr.trans hg.fr, hg.hinv, ⟨news, by rw [ho, hq.openElems], hn⟩,
          by rw [hg.aflen, hq.activeFormatting]⟩

/-! ### Noah's ark, markers -/

theorem mem_afEndToMarkerAux {i : Nat} {h : Id} {t : Tag} : ∀ {l : List (FormatEntry × Nat)},
    (i, h, t) ∈ afEndToMarkerAux l → (FormatEntry.element h t, i) ∈ l := by
  intro l
  induction l with
  | nil => intro hm; simp [afEndToMarkerAux] at hm
  | cons x rest ih =>
    intro hm
    obtain ⟨e, k⟩ := x
    cases e with
    | marker => simp [afEndToMarkerAux] at hm
    | element h' t' =>
      simp only [afEndToMarkerAux] at hm
      rcases List.mem_cons.mp hm with hm | hm
      · cases hm; exact List.mem_cons_self
      · exact List.mem_cons_of_mem _ (ih hm)

theorem mem_afEndToMarker {i : Nat} {h : Id} {t : Tag} {af : List FormatEntry}
    (hm : (i, h, t) ∈ afEndToMarker af) : af[i]? = some (.element h t) := by
  unfold afEndToMarker at hm
  have := mem_afEndToMarkerAux hm
  rw [List.mem_reverse] at this
  obtain ⟨_, h2, h3⟩ := List.mem_zipIdx this
  simp only [Nat.zero_add, Nat.sub_zero] at h2 h3
  rw [List.getElem?_eq_getElem h2, ← h3]

theorem sat_createFormattingElementFor {tag : Tag} {s : State} (hi : HInv s) (hr : Rooted s.dom s.openElems)
    (hfmt : isOneOf tag.name fmtNames = true) :
    Sat (createFormattingElementFor tag) s (fun r s' => Fr s s' ∧ HInv s' ∧
      s'.openElems = s.openElems ++ [r] ∧ nm s'.dom r = ⟨nsHtml, tag.name⟩ ∧ (∀ x, IsEl s.dom x → x ≠ r)) := by
  unfold createFormattingElementFor
  refine sat_getS_bind ?_
  dsimp only
  have htail : ∀ (s1 : State), Fr s s1 → HInv s1 → s1.openElems = s.openElems →
      Sat (do
        let elem ← insertElement true nsHtml tag.name tag.attrs tag.hadDup
        modS fun s => { s with activeFormatting := s.activeFormatting ++ [FormatEntry.element elem tag] }
        pure elem) s1 (fun r s' => Fr s s' ∧ HInv s' ∧
          s'.openElems = s.openElems ++ [r] ∧ nm s'.dom r = ⟨nsHtml, tag.name⟩ ∧ (∀ x, IsEl s.dom x → x ≠ r)) := by
    intro s1 hf1 hi1 ho1
    have hr1 : Rooted s1.dom s1.openElems := by rw [ho1]; exact hr.ext hf1.ext hi.open_el
    refine (sat_insertElement (PlaceOk.of_hinv hi1 hr1)).bind ?_
    intro elem s2 hins
    refine sat_modS_bind ?_
    refine sat_pure ⟨(hf1.trans hins.fr).withAF _, ?_, ?_, ?_, ?_⟩
    · refine (hins.hinv hi1).withAF _ ?_
      intro x t hx
      rcases List.mem_append.mp hx with hx | hx
      · exact (hins.hinv hi1).af x t hx
      · simp only [List.mem_singleton, FormatEntry.element.injEq] at hx
        obtain ⟨rfl, rfl⟩ := hx
        exact ⟨hins.el, hins.nm, hfmt⟩
    · show s2.openElems = _
      rw [hins.openElems, ho1]; rfl
    · exact hins.nm
    · exact fun x hx => hins.fresh x (hx.ext hf1.ext)
  split
  · rename_i hge
    cases hlast : ((afEndToMarker s.activeFormatting).filter
        (fun x => tag.equivModuloAttrOrder x.2.2)).getLast? with
    | none =>
      exfalso
      have := List.getLast?_eq_none_iff.mp hlast
      rw [this] at hge
      simp at hge
    | some x =>
      obtain ⟨i, h, t⟩ := x
      dsimp only
      have hmem : (i, h, t) ∈ afEndToMarker s.activeFormatting :=
        (List.mem_filter.mp (List.mem_of_getLast? hlast)).1
      have hget := mem_afEndToMarker hmem
      have hlt : i < s.activeFormatting.length := by
        by_cases hj : i < s.activeFormatting.length
        · exact hj
        · rw [List.getElem?_eq_none (Nat.le_of_not_lt hj)] at hget; cases hget
      refine (sat_afRemove hlt).bind ?_
      rintro _ s1 rfl
      exact htail _ ((Fr.refl s).withAF _)
        (hi.withAF_sub _ (fun e he => List.mem_of_mem_eraseIdx he)) rfl
  · exact htail s (Fr.refl s) hi rfl

def clearedAF (af : List FormatEntry) : List FormatEntry := (clearToMarkerRev af.reverse).reverse

theorem mem_clearToMarkerRev {e : FormatEntry} : ∀ {l : List FormatEntry}, e ∈ clearToMarkerRev l → e ∈ l := by
  intro l
  induction l with
  | nil => intro h; simp [clearToMarkerRev] at h
  | cons x rest ih =>
    intro h
    cases x with
    | marker => simp only [clearToMarkerRev] at h; exact List.mem_cons_of_mem _ h
    | element a b => simp only [clearToMarkerRev] at h; exact List.mem_cons_of_mem _ (ih h)

theorem mem_clearedAF {e : FormatEntry} {af : List FormatEntry} (h : e ∈ clearedAF af) : e ∈ af := by
  unfold clearedAF at h
  exact List.mem_reverse.mp (mem_clearToMarkerRev (List.mem_reverse.mp h))

theorem sat_clearActiveFormattingToMarker {s : State} :
    Sat clearActiveFormattingToMarker s
      (fun _ s' => s' = { s with activeFormatting := clearedAF s.activeFormatting }) := sat_modS rfl

theorem sat_pushMarker {s : State} :
    Sat pushMarker s (fun _ s' => s' = { s with activeFormatting := s.activeFormatting ++ [.marker] }) :=
  sat_modS rfl

end H5V.Lemmas.TBSafe
