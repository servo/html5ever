import H5V.Lemmas.HtmlTBModesBody1
import H5V.Lemmas.HtmlTBModesBody2
import H5V.Lemmas.HtmlTBModesBody3
import H5V.Lemmas.HtmlTBModesBody4
import H5V.Lemmas.HtmlTBModesHead
/-!
"in body": the tag arms of `stepInBody` after the `noembed` arm — `select`, `option`, `optgroup`
(2025 customizable select), `rb`/`rtc`, `rp`/`rt`, `math`, `svg`, the ignored table/head start tags,
"any other start tag" (with `noscript` when scripting is enabled), "any other end tag" — and then, with the arms of
`HtmlTBModesBody1` … `HtmlTBModesBody4`, the whole of "in body" on a tag token (`body_tag`).
-/
namespace H5V.Lemmas.HtmlTBModes
open H5V.Model.HtmlTB
open H5V.Model.Dom (Id SinkOp Output Dom QualName Attr NodeOrText ElementFlags NodeData QuirksMode)
open H5V.Lemmas.HtmlTBAlgo
open H5V.Lemmas.TBSafe (TI HInv SInv Rooted)
open H5V.Spec.TreeAlgo2 (Elem Entry PState Ctx Edit Place)
open H5V.Spec.TreeModes (STok ETok IMode Config Out TokSwitch XOp Op Step Edition)

/-! ### the arms as chunks of `stepInBody` -/

def b5_select (tag : Tag) : M ProcessResult := do
  if ← contextIsSelect "rules.rs:903" then
    let _ ← unexpected
  else if ← inScopeNamed defaultScope "select" then
    let _ ← unexpected
    let _ ← popUntilNamed "select"
  else
    reconstructActiveFormattingElements
    let _ ← insertElementFor tag
    setFramesetOk false
  pure .done

def b5_option (tag : Tag) : M ProcessResult := do
  if ← inScopeNamed defaultScope "select" then
    generateImpliedEndExcept "optgroup".toList
    if ← inScopeNamed defaultScope "option" then parseError "nested options"
  else if ← currentNodeNamed "option" then
    let _ ← pop
  reconstructActiveFormattingElements
  let _ ← insertElementFor tag
  pure .done

def b5_optgroup (tag : Tag) : M ProcessResult := do
  if ← inScopeNamed defaultScope "select" then
    generateImpliedEndTags cursoryImpliedEnd
    let nested ← do
      if ← inScopeNamed defaultScope "option" then pure true
      else inScopeNamed defaultScope "optgroup"
    if nested then parseError "nested options"
  else if ← currentNodeNamed "option" then
    let _ ← pop
  reconstructActiveFormattingElements
  let _ ← insertElementFor tag
  pure .done

def b5_rb (tag : Tag) : M ProcessResult := do
  if ← inScopeNamed defaultScope "ruby" then generateImpliedEndTags cursoryImpliedEnd
  if !(← currentNodeNamed "ruby") then
    let _ ← unexpected
  let _ ← insertElementFor tag
  pure .done

def b5_rp (tag : Tag) : M ProcessResult := do
  if ← inScopeNamed defaultScope "ruby" then generateImpliedEndExcept "rtc".toList
  let ok ← do
    if ← currentNodeNamed "rtc" then pure true else currentNodeNamed "ruby"
  if !ok then
    let _ ← unexpected
  let _ ← insertElementFor tag
  pure .done

def b5_foreign (tag : Tag) (ns : Str) : M ProcessResult := do
  reconstructActiveFormattingElements
  enterForeign tag ns

def b5_ignored : M ProcessResult := do
  let _ ← unexpected
  pure .done

def b5_otherStart (tag : Tag) : M ProcessResult := do
  if (← getS).opts.scriptingEnabled && isName tag.name "noscript" then parseRawData tag .rawtext
  else
    reconstructActiveFormattingElements
    let _ ← insertElementFor tag
    pure .done

def b5_otherEnd (tag : Tag) : M ProcessResult := do
  processEndTagInBody tag
  pure .done

/-! ### framework: a rule as a chain of stretches, the calls accumulated on the left -/

theorem b5_start {m : M ProcessResult} {s : State} {spec : SState → Spec.TreeModes.M (Step Id)} {tok : Token}
    (h : PC m s (fun r s' c => TokPost spec s tok r s' ([] ++ c))) : PC m s (TokPost spec s tok) :=
  pc_conseq h fun _ _ _ _ hp => by simpa using hp

theorem b5_step {α : Type} {m : M α} {f : α → M ProcessResult} {s0 s : State} {cacc : List Call}
    {spec : SState → Spec.TreeModes.M (Step Id)} {tok : Token} {Q1 : α → State → List Call → Prop} (h : PC m s Q1)
    (hf : ∀ a s1 c1, Q1 a s1 c1 → PC (f a) s1 (fun r s' c => TokPost spec s0 tok r s' ((cacc ++ c1) ++ c))) :
    PC (m >>= f) s (fun r s' c => TokPost spec s0 tok r s' (cacc ++ c)) := by
  refine pc_seq h ?_
  intro a s1 c1 _ hq
  refine pc_conseq (hf a s1 c1 hq) ?_
  intro r s' c _ hp
  rw [← List.append_assoc]; exact hp

theorem b5_done {s0 s : State} {cacc cacc' : List Call} {R : Aux → Aux → Prop}
    {spec : SState → Spec.TreeModes.M (Step Id)} {tok : Token} (htr : Tr s0 s cacc' R)
    (hfin : ∀ x x', AuxOk s0 x → AuxOk s x' → R x x' → spec (absF s0 x) = .ok (.done (absF s x')))
    (hcalls : cacc' = cacc := by simp) :
    PC (pure ProcessResult.done) s (fun r s' c => TokPost spec s0 tok r s' (cacc ++ c)) := by
  subst hcalls
  refine pc_pure (tokPost_of_tr (by rw [List.append_nil]; exact htr) trivial ?_)
  intro x x' hx hx' hr
  exact ⟨x', hfin x x' hx hx' hr, AuxSame.rfl', Or.inl rfl, rfl, rfl⟩

/-- a stretch in which the specification notes a parse error if `b` -/
theorem b5_trErrIf {s : State} (hm : MInv s) (b : Bool) (w : String) :
    Tr s s [] (fun x x' => absF s x' = if b then (absF s x).err w else absF s x) := by
  cases b
  · refine (Tr.refl hm).conseq ?_
    intro x x' _ _ h; subst h; rfl
  · refine (Tr.err hm w).conseq ?_
    intro x x' _ _ h; subst h; rfl

/-- the common tail "reconstruct the active formatting elements; insert an HTML element for the token" -/
theorem b5_recIns {s0 s : State} {cacc cacc' : List Call} {R : Aux → Aux → Prop} {t : Tag} (hp : PlainTag t)
    {spec : SState → Spec.TreeModes.M (Step Id)} {tok : Token} (htr : Tr s0 s cacc' R)
    (hspec : ∀ x x', AuxOk s0 x → R x x' → ∀ σ2 σ3, Spec.TreeModes.reconstruct (absF s x') = .ok σ2 →
      Spec.TreeModes.insertHtml' σ2 (specTag t) = .ok σ3 → spec (absF s0 x) = .ok (.done σ3))
    (hcalls : cacc' = cacc := by simp) :
    PC (do reconstructActiveFormattingElements; let _ ← insertElementFor t; pure ProcessResult.done) s
      (fun r s' c => TokPost spec s0 tok r s' (cacc ++ c)) := by
  subst hcalls
  have hm := htr.1
  refine b5_step (pc_reconstruct hm) ?_
  rintro _ s2 c2 ⟨-, -, htr2⟩
  refine b5_step (pc_insertElementFor' htr2.1 hp) ?_
  rintro a s3 c3 ⟨-, -, -, -, -, htr3⟩
  refine b5_done ((htr.trans htr2).trans htr3) ?_
  rintro x x3 hx hx3 ⟨x2, ⟨x1, r1, r2⟩, r3⟩
  exact hspec x x1 hx r1 _ _ r2 r3

/-- the tail "insert an HTML element for the token" -/
theorem b5_ins {s0 s : State} {cacc cacc' : List Call} {R : Aux → Aux → Prop} {t : Tag} (hp : PlainTag t)
    {spec : SState → Spec.TreeModes.M (Step Id)} {tok : Token} (htr : Tr s0 s cacc' R)
    (hspec : ∀ x x', AuxOk s0 x → R x x' → ∀ σ3,
      Spec.TreeModes.insertHtml' (absF s x') (specTag t) = .ok σ3 → spec (absF s0 x) = .ok (.done σ3))
    (hcalls : cacc' = cacc := by simp) :
    PC (do let _ ← insertElementFor t; pure ProcessResult.done) s
      (fun r s' c => TokPost spec s0 tok r s' (cacc ++ c)) := by
  subst hcalls
  refine b5_step (pc_insertElementFor' htr.1 hp) ?_
  rintro a s3 c3 ⟨-, -, -, -, -, htr3⟩
  refine b5_done (htr.trans htr3) ?_
  rintro x x3 hx hx3 ⟨x1, r1, r3⟩
  exact hspec x x1 hx r1 _ r3

/-! ### `select` -/

theorem b5_body_select {t : Tag} (hwf : TagWf t) {s : State} (hm : MInv s) (tok : Token) :
    PC (b5_select t) s (TokPost (fun σ => Spec.TreeModes.inBodyStartSelect2025 (cfgOf s) σ (specTag t)) s tok) := by
  unfold b5_select
  apply b5_start
  refine b5_step (pc_contextIsSelect hm _) ?_
  rintro b s1 c1 ⟨hb, htr1⟩
  have hm1 := htr1.1
  have hc1 := htr1.2.1
  dsimp only
  cases b with
  | true =>
    simp only [if_true]
    refine b5_step (pc_unexpected hm1) ?_
    rintro _ s2 c2 ⟨-, htr2⟩
    refine b5_done ((htr1.trans htr2).trans (Tr.err htr2.1 "in body: select start tag in a select fragment")) ?_
    rintro x x' hx hx' ⟨x2, ⟨x1, ⟨hx1, e1⟩, hx2, e2⟩, hxe⟩
    subst hx1; subst hx2; subst hxe
    rw [absF_err, ← e2, ← e1]
    simp only [Spec.TreeModes.inBodyStartSelect2025, ← hb, if_true]
    rfl
  | false =>
    simp only [Bool.false_eq_true, if_false]
    refine b5_step (pc_inScopeNamed_default hm1 "select") ?_
    intro b2 s2 c2 htr2
    have hm2 := htr2.1
    cases b2 with
    | true =>
      simp only [if_true]
      refine b5_step (pc_unexpected hm2) ?_
      rintro _ s3 c3 ⟨-, htr3⟩
      have hm3 := htr3.1
      refine b5_step (pc_popUntilNamed hm3 "select") ?_
      intro _ s4 c4 htr4
      refine b5_done ((((htr1.trans htr2).trans htr3).trans (Tr.err hm3 "in body: select start tag inside select")).trans htr4) ?_
      rintro x x' hx hx' ⟨xe, ⟨x3, ⟨x2, ⟨x1, ⟨hx1, e1⟩, hx2, e2, hb2⟩, hx3, e3⟩, hxe⟩, hx4, e4, -⟩
      subst hx1; subst hx2; subst hx3; subst hxe; subst hx4
      rw [hc1, ← e1] at hb2
      rw [e4, absF_err, ← e3, ← e2, ← e1]
      simp only [Spec.TreeModes.inBodyStartSelect2025, ← hb, ← hb2, if_true, Bool.false_eq_true, if_false]
      rfl
    | false =>
      simp only [Bool.false_eq_true, if_false]
      refine b5_step (pc_reconstruct hm2) ?_
      rintro _ s3 c3 ⟨-, -, htr3⟩
      have hm3 := htr3.1
      refine b5_step (pc_insertElementFor' hm3 hwf.plain) ?_
      rintro a s4 c4 ⟨-, -, -, -, -, htr4⟩
      have hm4 := htr4.1
      refine b5_step (pc_setFramesetNotOk hm4) ?_
      rintro _ s5 c5 ⟨-, htr5⟩
      refine b5_done ((((htr1.trans htr2).trans htr3).trans htr4).trans htr5) ?_
      rintro x x' hx hx' ⟨x4, ⟨x3, ⟨x2, ⟨x1, ⟨hx1, e1⟩, hx2, e2, hb2⟩, r3⟩, r4⟩, hx5, e5⟩
      subst hx1; subst hx2; subst hx5
      rw [hc1, ← e1] at hb2
      rw [← e2, ← e1] at r3
      simp only [Spec.TreeModes.inBodyStartSelect2025, ← hb, ← hb2, Bool.false_eq_true, if_false, r3, r4, e5,
        bind, Except.bind, pure, Except.pure]

/-! ### `option` -/

theorem b5_body_option {t : Tag} (hwf : TagWf t) {s : State} (hm : MInv s) (tok : Token) :
    PC (b5_option t) s (TokPost (fun σ => Spec.TreeModes.inBodyStartOption2025 (cfgOf s) σ (specTag t)) s tok) := by
  unfold b5_option
  apply b5_start
  refine b5_step (pc_inScopeNamed_default hm "select") ?_
  intro b1 s1 c1 htr1
  have hm1 := htr1.1
  have hc1 := htr1.2.1
  dsimp only
  cases b1 with
  | true =>
    simp only [if_true]
    refine b5_step (pc_generateImpliedEndExcept_lit hm1 "optgroup") ?_
    intro _ s2 c2 htr2
    have hm2 := htr2.1
    have hc2 := htr2.2.1
    refine b5_step (pc_inScopeNamed_default hm2 "option") ?_
    intro b3 s3 c3 htr3
    have hm3 := htr3.1
    cases b3 with
    | true =>
      simp only [if_true]
      refine b5_step (pc_parseError hm3 "nested options") ?_
      intro _ s4 c4 htr4
      refine b5_recIns hwf.plain ((((htr1.trans htr2).trans htr3).trans htr4).trans
        (Tr.err htr4.1 "in body: option start tag with option in scope")) ?_
      rintro x x' hx ⟨x4, ⟨x3, ⟨x2, ⟨x1, ⟨hx1, e1, hb1⟩, hx2, e2⟩, hx3, e3, hb3⟩, hx4, e4⟩, hxe⟩ σ2 σ3 r2 r3
      subst hx1; subst hx2; subst hx3; subst hx4; subst hxe
      rw [hc2, hc1, e2, ← e1] at hb3
      rw [absF_err, ← e4, ← e3, e2, ← e1] at r2
      simp only [Spec.TreeModes.inBodyStartOption2025, ← hb1, ← hb3, if_true, r2, r3, bind, Except.bind, Functor.map, Except.map]
    | false =>
      simp only [Bool.false_eq_true, if_false]
      refine b5_recIns hwf.plain ((htr1.trans htr2).trans htr3) ?_
      rintro x x' hx ⟨x2, ⟨x1, ⟨hx1, e1, hb1⟩, hx2, e2⟩, hx3, e3, hb3⟩ σ2 σ3 r2 r3
      subst hx1; subst hx2; subst hx3
      rw [hc2, hc1, e2, ← e1] at hb3
      rw [← e3, e2, ← e1] at r2
      simp only [Spec.TreeModes.inBodyStartOption2025, ← hb1, ← hb3, if_true, Bool.false_eq_true, if_false, r2, r3, bind,
        Except.bind, Functor.map, Except.map]
  | false =>
    simp only [Bool.false_eq_true, if_false]
    refine b5_step (pc_currentNodeNamed hm1 "option") ?_
    intro b2 s2 c2 htr2
    have hm2 := htr2.1
    cases b2 with
    | true =>
      simp only [if_true]
      refine b5_step (pc_pop hm2) ?_
      rintro _ s3 c3 ⟨-, -, -, htr3⟩
      refine b5_recIns hwf.plain ((htr1.trans htr2).trans htr3) ?_
      rintro x x' hx ⟨x2, ⟨x1, ⟨hx1, e1, hb1⟩, hx2, e2, hb2⟩, hx3, e3, -⟩ σ2 σ3 r2 r3
      subst hx1; subst hx2; subst hx3
      rw [← e1] at hb2
      rw [e3, ← e2, ← e1] at r2
      simp only [Spec.TreeModes.inBodyStartOption2025, ← hb1, ← hb2, if_true, Bool.false_eq_true, if_false, r2, r3, bind,
        Except.bind, Functor.map, Except.map]
    | false =>
      simp only [Bool.false_eq_true, if_false]
      refine b5_recIns hwf.plain (htr1.trans htr2) ?_
      rintro x x' hx ⟨x1, ⟨hx1, e1, hb1⟩, hx2, e2, hb2⟩ σ2 σ3 r2 r3
      subst hx1; subst hx2
      rw [← e1] at hb2
      rw [← e2, ← e1] at r2
      simp only [Spec.TreeModes.inBodyStartOption2025, ← hb1, ← hb2, Bool.false_eq_true, if_false, r2, r3, bind,
        Except.bind, Functor.map, Except.map]

/-! ### `optgroup` -/

theorem b5_body_optgroup {t : Tag} (hwf : TagWf t) {s : State} (hm : MInv s) (tok : Token) :
    PC (b5_optgroup t) s (TokPost (fun σ => Spec.TreeModes.inBodyStartOptgroup2025 (cfgOf s) σ (specTag t)) s tok) := by
  unfold b5_optgroup
  apply b5_start
  refine b5_step (pc_inScopeNamed_default hm "select") ?_
  intro b1 s1 c1 htr1
  have hm1 := htr1.1
  have hc1 := htr1.2.1
  dsimp only
  cases b1 with
  | true =>
    simp only [if_true]
    refine b5_step (pc_generateImpliedEndTags_cursory hm1) ?_
    intro _ s2 c2 htr2
    have hm2 := htr2.1
    have hc2 := htr2.2.1
    refine b5_step (pc_inScopeNamed_default hm2 "option") ?_
    intro b3 s3 c3 htr3
    have hm3 := htr3.1
    have hc3 := htr3.2.1
    cases b3 with
    | true =>
      simp only [if_true, pure_bind]
      refine b5_step (pc_parseError hm3 "nested options") ?_
      intro _ s4 c4 htr4
      refine b5_recIns hwf.plain ((((htr1.trans htr2).trans htr3).trans htr4).trans
        (Tr.err htr4.1 "in body: optgroup start tag with option/optgroup in scope")) ?_
      rintro x x' hx ⟨x4, ⟨x3, ⟨x2, ⟨x1, ⟨hx1, e1, hb1⟩, hx2, e2⟩, hx3, e3, hb3⟩, hx4, e4⟩, hxe⟩ σ2 σ3 r2 r3
      subst hx1; subst hx2; subst hx3; subst hx4; subst hxe
      rw [hc2, hc1, e2, ← e1] at hb3
      rw [absF_err, ← e4, ← e3, e2, ← e1] at r2
      simp only [Spec.TreeModes.inBodyStartOptgroup2025, ← hb1, ← hb3, Bool.true_or, if_true, r2, r3, bind, Except.bind,
        Functor.map, Except.map]
    | false =>
      simp only [Bool.false_eq_true, if_false]
      refine b5_step (pc_inScopeNamed_default hm3 "optgroup") ?_
      intro b4 s4 c4 htr4
      have hm4 := htr4.1
      cases b4 with
      | true =>
        simp only [if_true]
        refine b5_step (pc_parseError hm4 "nested options") ?_
        intro _ s5 c5 htr5
        refine b5_recIns hwf.plain (((((htr1.trans htr2).trans htr3).trans htr4).trans htr5).trans
          (Tr.err htr5.1 "in body: optgroup start tag with option/optgroup in scope")) ?_
        rintro x x' hx ⟨x5, ⟨x4, ⟨x3, ⟨x2, ⟨x1, ⟨hx1, e1, hb1⟩, hx2, e2⟩, hx3, e3, hb3⟩, hx4, e4, hb4⟩, hx5, e5⟩, hxe⟩ σ2 σ3 r2 r3
        subst hx1; subst hx2; subst hx3; subst hx4; subst hx5; subst hxe
        rw [hc2, hc1, e2, ← e1] at hb3
        rw [hc3, hc2, hc1, ← e3, e2, ← e1] at hb4
        rw [absF_err, ← e5, ← e4, ← e3, e2, ← e1] at r2
        simp only [Spec.TreeModes.inBodyStartOptgroup2025, ← hb1, ← hb3, ← hb4, Bool.or_true, if_true, r2, r3, bind,
          Except.bind, Functor.map, Except.map]
      | false =>
        simp only [Bool.false_eq_true, if_false]
        refine b5_recIns hwf.plain (((htr1.trans htr2).trans htr3).trans htr4) ?_
        rintro x x' hx ⟨x3, ⟨x2, ⟨x1, ⟨hx1, e1, hb1⟩, hx2, e2⟩, hx3, e3, hb3⟩, hx4, e4, hb4⟩ σ2 σ3 r2 r3
        subst hx1; subst hx2; subst hx3; subst hx4
        rw [hc2, hc1, e2, ← e1] at hb3
        rw [hc3, hc2, hc1, ← e3, e2, ← e1] at hb4
        rw [← e4, ← e3, e2, ← e1] at r2
        simp only [Spec.TreeModes.inBodyStartOptgroup2025, ← hb1, ← hb3, ← hb4, Bool.or_false, if_true, Bool.false_eq_true,
          if_false, r2, r3, bind, Except.bind, Functor.map, Except.map]
  | false =>
    simp only [Bool.false_eq_true, if_false]
    refine b5_step (pc_currentNodeNamed hm1 "option") ?_
    intro b2 s2 c2 htr2
    have hm2 := htr2.1
    cases b2 with
    | true =>
      simp only [if_true]
      refine b5_step (pc_pop hm2) ?_
      rintro _ s3 c3 ⟨-, -, -, htr3⟩
      refine b5_recIns hwf.plain ((htr1.trans htr2).trans htr3) ?_
      rintro x x' hx ⟨x2, ⟨x1, ⟨hx1, e1, hb1⟩, hx2, e2, hb2⟩, hx3, e3, -⟩ σ2 σ3 r2 r3
      subst hx1; subst hx2; subst hx3
      rw [← e1] at hb2
      rw [e3, ← e2, ← e1] at r2
      simp only [Spec.TreeModes.inBodyStartOptgroup2025, ← hb1, ← hb2, if_true, Bool.false_eq_true, if_false, r2, r3, bind,
        Except.bind, Functor.map, Except.map]
    | false =>
      simp only [Bool.false_eq_true, if_false]
      refine b5_recIns hwf.plain (htr1.trans htr2) ?_
      rintro x x' hx ⟨x1, ⟨hx1, e1, hb1⟩, hx2, e2, hb2⟩ σ2 σ3 r2 r3
      subst hx1; subst hx2
      rw [← e1] at hb2
      rw [← e2, ← e1] at r2
      simp only [Spec.TreeModes.inBodyStartOptgroup2025, ← hb1, ← hb2, Bool.false_eq_true, if_false, r2, r3, bind,
        Except.bind, Functor.map, Except.map]

/-! ### `rb`, `rtc` -/

/-- the specification's clause for `rb`/`rtc` -/
def b5_specRb (cfg : Config Id) (σ : SState) (t : STag) : Spec.TreeModes.M (Step Id) :=
  let s :=
    if Spec.TreeModes.hasInScope cfg σ "ruby" then
      let s := Spec.TreeModes.genImplied σ
      if s.curIs "ruby" then s else s.err "in body: rb/rtc, current node is not ruby"
    else σ
  .done <$> Spec.TreeModes.insertHtml' s t

theorem b5_body_rb {t : Tag} (hwf : TagWf t) {s : State} (hm : MInv s) (tok : Token) :
    PC (b5_rb t) s (TokPost (fun σ => b5_specRb (cfgOf s) σ (specTag t)) s tok) := by
  unfold b5_rb
  apply b5_start
  refine b5_step (pc_inScopeNamed_default hm "ruby") ?_
  intro b1 s1 c1 htr1
  have hm1 := htr1.1
  dsimp only
  cases b1 with
  | true =>
    simp only [if_true]
    refine b5_step (pc_generateImpliedEndTags_cursory hm1) ?_
    intro _ s2 c2 htr2
    have hm2 := htr2.1
    refine b5_step (pc_currentNodeNamed hm2 "ruby") ?_
    intro b3 s3 c3 htr3
    have hm3 := htr3.1
    cases b3 with
    | true =>
      simp only [Bool.not_true, Bool.false_eq_true, if_false]
      refine b5_ins hwf.plain ((htr1.trans htr2).trans htr3) ?_
      rintro x x' hx ⟨x2, ⟨x1, ⟨hx1, e1, hb1⟩, hx2, e2⟩, hx3, e3, hb3⟩ σ3 r3
      subst hx1; subst hx2; subst hx3
      rw [e2, ← e1] at hb3
      rw [← e3, e2, ← e1] at r3
      simp only [b5_specRb, ← hb1, ← hb3, if_true, r3, Functor.map, Except.map]
    | false =>
      simp only [Bool.not_false, if_true]
      refine b5_step (pc_unexpected hm3) ?_
      rintro _ s4 c4 ⟨-, htr4⟩
      refine b5_ins hwf.plain ((((htr1.trans htr2).trans htr3).trans htr4).trans
        (Tr.err htr4.1 "in body: rb/rtc, current node is not ruby")) ?_
      rintro x x' hx ⟨x4, ⟨x3, ⟨x2, ⟨x1, ⟨hx1, e1, hb1⟩, hx2, e2⟩, hx3, e3, hb3⟩, hx4, e4⟩, hxe⟩ σ3 r3
      subst hx1; subst hx2; subst hx3; subst hx4; subst hxe
      rw [e2, ← e1] at hb3
      rw [absF_err, ← e4, ← e3, e2, ← e1] at r3
      simp only [b5_specRb, ← hb1, ← hb3, if_true, Bool.false_eq_true, if_false, r3, Functor.map, Except.map]
  | false =>
    simp only [Bool.false_eq_true, if_false]
    refine b5_step (pc_currentNodeNamed hm1 "ruby") ?_
    intro b3 s3 c3 htr3
    have hm3 := htr3.1
    cases b3 with
    | true =>
      simp only [Bool.not_true, Bool.false_eq_true, if_false]
      refine b5_ins hwf.plain (htr1.trans htr3) ?_
      rintro x x' hx ⟨x1, ⟨hx1, e1, hb1⟩, hx3, e3, hb3⟩ σ3 r3
      subst hx1; subst hx3
      rw [← e3, ← e1] at r3
      simp only [b5_specRb, ← hb1, Bool.false_eq_true, if_false, r3, Functor.map, Except.map]
    | false =>
      simp only [Bool.not_false, if_true]
      refine b5_step (pc_unexpected hm3) ?_
      rintro _ s4 c4 ⟨-, htr4⟩
      refine b5_ins hwf.plain ((htr1.trans htr3).trans htr4) ?_
      rintro x x' hx ⟨x3, ⟨x1, ⟨hx1, e1, hb1⟩, hx3, e3, hb3⟩, hx4, e4⟩ σ3 r3
      subst hx1; subst hx3; subst hx4
      rw [← e4, ← e3, ← e1] at r3
      simp only [b5_specRb, ← hb1, Bool.false_eq_true, if_false, r3, Functor.map, Except.map]

/-! ### `rp`, `rt` -/

def b5_rpTailM (tag : Tag) : M ProcessResult := do
  let ok ← do
    if ← currentNodeNamed "rtc" then pure true else currentNodeNamed "ruby"
  if !ok then
    let _ ← unexpected
  let _ ← insertElementFor tag
  pure .done

theorem b5_rp_eq (t : Tag) : b5_rp t = (do
    let b ← inScopeNamed defaultScope "ruby"
    if b then do generateImpliedEndExcept "rtc".toList; b5_rpTailM t else b5_rpTailM t) := rfl

/-- "If the current node is not now a `rtc` element or a `ruby` element, this is a parse error.  Insert an
HTML element for the token." (`e`: the specification notes the parse error at all) -/
theorem b5_rpTail {s0 s : State} {cacc cacc' : List Call} {R : Aux → Aux → Prop} {t : Tag} (hp : PlainTag t)
    {spec : SState → Spec.TreeModes.M (Step Id)} {tok : Token} (htr : Tr s0 s cacc' R) (w : String) (e : Bool)
    (hspec : ∀ x x', AuxOk s0 x → R x x' → ∀ σ3,
      Spec.TreeModes.insertHtml'
        (if (e && !((absF s x').curIs "rtc" || (absF s x').curIs "ruby")) = true then (absF s x').err w else absF s x')
        (specTag t) = .ok σ3 → spec (absF s0 x) = .ok (.done σ3))
    (hcalls : cacc' = cacc := by simp) :
    PC (b5_rpTailM t) s (fun r s' c => TokPost spec s0 tok r s' (cacc ++ c)) := by
  subst hcalls
  unfold b5_rpTailM
  have hm := htr.1
  refine b5_step (pc_currentNodeNamed hm "rtc") ?_
  intro b2 s2 c2 htr2
  have hm2 := htr2.1
  dsimp only
  cases b2 with
  | true =>
    simp only [if_true, pure_bind, Bool.not_true, Bool.false_eq_true, if_false]
    refine b5_ins hp (htr.trans htr2) ?_
    rintro x x' hx ⟨x1, r1, hx2, e2, hb2⟩ σ3 r3
    subst hx2
    refine hspec x x' hx r1 σ3 ?_
    rw [← hb2]
    simp only [Bool.true_or, Bool.not_true, Bool.and_false, Bool.false_eq_true, if_false]
    rw [e2]; exact r3
  | false =>
    simp only [Bool.false_eq_true, if_false]
    refine b5_step (pc_currentNodeNamed hm2 "ruby") ?_
    intro b3 s3 c3 htr3
    have hm3 := htr3.1
    cases b3 with
    | true =>
      simp only [Bool.not_true, Bool.false_eq_true, if_false]
      refine b5_ins hp ((htr.trans htr2).trans htr3) ?_
      rintro x x' hx ⟨x2, ⟨x1, r1, hx2, e2, hb2⟩, hx3, e3, hb3⟩ σ3 r3
      subst hx2; subst hx3
      refine hspec x x' hx r1 σ3 ?_
      rw [← e2] at hb3
      rw [← hb2, ← hb3]
      simp only [Bool.or_true, Bool.not_true, Bool.and_false, Bool.false_eq_true, if_false]
      rw [e2, e3]; exact r3
    | false =>
      simp only [Bool.not_false, if_true]
      refine b5_step (pc_unexpected hm3) ?_
      rintro _ s4 c4 ⟨-, htr4⟩
      refine b5_ins hp ((((htr.trans htr2).trans htr3).trans htr4).trans (b5_trErrIf htr4.1 e w)) ?_
      rintro x x' hx ⟨x4, ⟨x3, ⟨x2, ⟨x1, r1, hx2, e2, hb2⟩, hx3, e3, hb3⟩, hx4, e4⟩, ee⟩ σ3 r3
      subst hx2; subst hx3; subst hx4
      refine hspec x x4 hx r1 σ3 ?_
      rw [← e2] at hb3
      rw [← hb2, ← hb3]
      simp only [Bool.or_false, Bool.not_false, Bool.and_true]
      rw [ee, ← e4, ← e3, ← e2] at r3
      exact r3

/-- the specification's clause for `rp`/`rt` -/
def b5_specRp (cfg : Config Id) (σ : SState) (t : STag) : Spec.TreeModes.M (Step Id) :=
  let s :=
    if Spec.TreeModes.hasInScope cfg σ "ruby" then
      let s := Spec.TreeModes.genImplied σ (some "rtc")
      if s.curIs "rtc" || s.curIs "ruby" then s else s.err "in body: rp/rt, current node is not rtc/ruby"
    else σ
  .done <$> Spec.TreeModes.insertHtml' s t

theorem b5_body_rp {t : Tag} (hwf : TagWf t) {s : State} (hm : MInv s) (tok : Token) :
    PC (b5_rp t) s (TokPost (fun σ => b5_specRp (cfgOf s) σ (specTag t)) s tok) := by
  rw [b5_rp_eq]
  apply b5_start
  refine b5_step (pc_inScopeNamed_default hm "ruby") ?_
  intro b1 s1 c1 htr1
  have hm1 := htr1.1
  cases b1 with
  | true =>
    simp only [if_true]
    refine b5_step (pc_generateImpliedEndExcept_lit hm1 "rtc") ?_
    intro _ s2 c2 htr2
    refine b5_rpTail hwf.plain (htr1.trans htr2) "in body: rp/rt, current node is not rtc/ruby" true ?_
    rintro x x' hx ⟨x1, ⟨hx1, e1, hb1⟩, hx2, e2⟩ σ3 r3
    subst hx1; subst hx2
    rw [e2, ← e1] at r3
    simp only [b5_specRp, ← hb1, if_true]
    cases hcur : ((Spec.TreeModes.genImplied (absF s x') (some "rtc")).curIs "rtc" ||
        (Spec.TreeModes.genImplied (absF s x') (some "rtc")).curIs "ruby") with
    | true => simp only [hcur, Bool.not_true, Bool.and_false, Bool.false_eq_true, if_false] at r3; simp only [if_true, r3, Functor.map, Except.map]
    | false =>
      simp only [hcur, Bool.not_false, Bool.and_true, if_true] at r3
      simp only [Bool.false_eq_true, if_false, r3, Functor.map, Except.map]
  | false =>
    simp only [Bool.false_eq_true, if_false]
    refine b5_rpTail hwf.plain htr1 "" false ?_
    rintro x x' hx ⟨hx1, e1, hb1⟩ σ3 r3
    subst hx1
    simp only [Bool.false_and, Bool.false_eq_true, if_false] at r3
    rw [← e1] at r3
    simp only [b5_specRp, ← hb1, Bool.false_eq_true, if_false, r3, Functor.map, Except.map]

/-! ### `math`, `svg` -/

theorem b5_body_foreign {t : Tag} (hwf : TagWf t) {s : State} (hm : MInv s) (tok : Token) (ns : Str) :
    PC (b5_foreign t ns) s
      (TokPost (fun σ => Spec.TreeModes.inBodyStartForeignRoot σ (specTag t) (kindOfNs ns) ns) s tok) := by
  unfold b5_foreign
  refine pc_seq (pc_reconstruct hm) ?_
  rintro _ s1 c1 _ ⟨-, -, htr1⟩
  refine pc_conseq (pc_enterForeign htr1.1 ns hwf.plain hwf.nodup) ?_
  rintro r s2 c2 _ ⟨hr, htr2⟩
  subst hr
  cases hsc : t.selfClosing with
  | true =>
    refine tokPost_of_tr (htr1.trans htr2) trivial ?_
    rintro x x' hx hx' ⟨x1, r1, r', r2, e2⟩
    refine ⟨x', ?_, AuxSame.rfl', Or.inl rfl, rfl, rfl⟩
    simp only [specTag_selfClosing, hsc, if_true] at e2
    simp only [Spec.TreeModes.inBodyStartForeignRoot, r1, r2, bind, Except.bind, specTag_selfClosing, hsc, if_true, e2,
      efResult, stepOf, pure, Except.pure]
  | false =>
    refine tokPost_of_tr (htr1.trans htr2) trivial ?_
    rintro x x' hx hx' ⟨x1, r1, r', r2, e2⟩
    refine ⟨x', ?_, AuxSame.rfl', Or.inl rfl, rfl, rfl⟩
    simp only [specTag_selfClosing, hsc, Bool.false_eq_true, if_false] at e2
    simp only [Spec.TreeModes.inBodyStartForeignRoot, r1, r2, bind, Except.bind, specTag_selfClosing, hsc,
      Bool.false_eq_true, if_false, e2, efResult, stepOf, pure, Except.pure]

/-! ### the ignored start tags -/

theorem b5_body_ignored {s : State} (hm : MInv s) (tok : Token) :
    PC b5_ignored s (TokPost (fun σ => pure (Step.done (Spec.TreeModes.State.err σ "in body: stray table/head start tag"))) s tok) :=
  pc_unexpected_done hm tok _

/-! ### "any other start tag" (and `noscript` when scripting is enabled), "any other end tag" -/

def b5_specOtherStart (cfg : Config Id) (σ : SState) (t : STag) : Spec.TreeModes.M (Step Id) :=
  if t.is "noscript" && cfg.scripting then .done <$> Spec.TreeModes.genericRawText σ t
  else do
    let s ← Spec.TreeModes.reconstruct σ
    .done <$> Spec.TreeModes.insertHtml' s t

theorem b5_body_otherStart {t : Tag} (hwf : TagWf t) {s : State} (hm : MInv s) (tok : Token) :
    PC (b5_otherStart t) s (TokPost (fun σ => b5_specOtherStart (cfgOf s) σ (specTag t)) s tok) := by
  unfold b5_otherStart
  refine pc_getS_bind ?_
  have hsc : (cfgOf s).scripting = s.opts.scriptingEnabled := rfl
  have e1 : isName t.name "noscript" = decide (t.name = "noscript".toList) := isName_eq _ _
  have e2 : (specTag t).is "noscript" = decide (t.name = "noscript".toList) := by
    simp only [Spec.TreeModes.Tag.is, strIs_eq, specTag_name]
  by_cases hc : (s.opts.scriptingEnabled && isName t.name "noscript") = true
  · simp only [hc, if_true]
    refine pc_tokPost_congr (pc_parseRawData_rawtext hm hwf.plain tok) ?_
    intro x _
    have hc' : ((specTag t).is "noscript" && (cfgOf s).scripting) = true := by
      rw [hsc, e2, Bool.and_comm, ← e1]; exact hc
    simp only [b5_specOtherStart, hc', if_true]
  · simp only [hc, Bool.false_eq_true, if_false]
    have hc' : ((specTag t).is "noscript" && (cfgOf s).scripting) = false := by
      rw [hsc, e2, Bool.and_comm, ← e1]; exact Bool.eq_false_iff.mpr hc
    apply b5_start
    refine b5_recIns hwf.plain (Tr.refl hm) ?_
    rintro x x' hx hxx σ2 σ3 r2 r3
    subst hxx
    simp only [b5_specOtherStart, hc', Bool.false_eq_true, if_false, r2, r3, bind, Except.bind, Functor.map, Except.map]

theorem b5_body_otherEnd (t : Tag) {s : State} (hm : MInv s) (tok : Token) :
    PC (b5_otherEnd t) s (TokPost (fun σ =>
      pure (Step.done (σ.setStack (Spec.TreeAlgo2.anyOtherEndTag (specTag t).name σ.p.stack)))) s tok) := by
  unfold b5_otherEnd
  apply b5_start
  refine b5_step (pc_processEndTagInBody hm t) ?_
  intro _ s1 c1 htr1
  refine b5_done htr1 ?_
  rintro x x' hx hx' ⟨hxx, e⟩
  subst hxx
  rw [e]
  rfl

/-! ### all tag arms -/

@[simp] theorem b5_cfgOf_edition (s : State) : (cfgOf s).edition = Edition.customizableSelect := rfl

/-- unfold the model's in-body chain on a literal tag name -/
local macro "b5_model_lit" hk:ident h:ident : tactic =>
  `(tactic| simp +decide only [b5_rest, Tag.isStart, $hk:ident, $h:ident, isOneOf_cons, isOneOf_nil, Bool.or_false,
      beq_self_eq_true, Bool.true_and, if_true, if_false])

/-- unfold the specification's in-body chain on a literal tag name -/
local macro "b5_spec_lit" hk:ident h:ident : tactic =>
  `(tactic| simp +decide only [stokOf, stokOfTag_start $hk, Spec.TreeModes.inBody, Spec.TreeModes.inBodyStartTag,
      Spec.TreeModes.inBodyStartTagCore, Spec.TreeModes.Tag.is, Spec.TreeModes.Tag.isOneOf, strIs_eq, strIsOneOf_cons,
      strIsOneOf_nil, Spec.TreeModes.blockStart, Spec.TreeModes.formattingStart, Spec.TreeTables.heading, specTag_name,
      $h:ident, if_true, if_false, b5_cfgOf_edition, decide_false, decide_true, Bool.false_or, Bool.or_false,
      Bool.false_and, Bool.true_and, Bool.true_or, Bool.or_true, Bool.false_eq_true])

/-- the arms of `stepInBody` between `noembed` and "any other start tag" are not for `noscript` -/
theorem b5_noscript_before {n : Str} (h : isOneOf n ["noscript"] = true) :
    ∀ l ∈ [["select"], ["option"], ["optgroup"], ["rb", "rtc"], ["rp", "rt"], ["math"], ["svg"],
      ["caption", "col", "colgroup", "frame", "head", "tbody", "td", "tfoot", "th", "thead", "tr"]],
      isOneOf n l = false := by
  rw [name_of_isOneOf h]
  decide +kernel

theorem b5_isOneOf_optgroup_option (n : Str) :
    isOneOf n ["optgroup", "option"] = (isOneOf n ["option"] || isOneOf n ["optgroup"]) := by
  rw [Bool.or_comm]; exact isOneOf_append n ["optgroup"] ["option"]

/-- **"in body" on a tag token**: `stepInBody` and the specification's `inBody` are walked down arm by arm -/
theorem body_tag (hhead : StepSimTok stepInHead Spec.TreeModes.inHead) {t : Tag} (hwf : TagWf t) {s : State}
    (hm : MInv s) :
    PC (stepInBody (.tag t)) s (TokPost (fun σ => Spec.TreeModes.inBody (cfgOf s) σ (stokOf (.tag t))) s (.tag t)) := by
  have hh := hhead (.tag t) rfl hwf s hm
  cases hk : t.kind with
  | startTag =>
    obtain himg | himg := Bool.eq_false_or_eq_true (isOneOf t.name ["image"])
    · -- the specification tests `image` first, the model after `hr`
      have hi := image_before himg
      simp only [List.forall_mem_cons, List.not_mem_nil, false_imp_iff, implies_true, and_true] at hi
      simp -zeta only [body_chain, stokOfTag_start hk, isStart_of_start hk, isEnd_of_start hk, hi, himg, ↓reduceIte]
      exact body_image hwf hm
    simp -zeta only [body_chain, Spec.TreeModes.inBodyStartTagCore, b5_isOneOf_optgroup_option, b5_cfgOf_edition,
      stokOfTag_start hk, isStart_of_start hk, isEnd_of_start hk, himg, hk, beq_self_eq_true, ↓reduceIte] at hh ⊢
    refine pc_tok_ite (fun _ => pc_inBodyHtml hm hwf.plain _) fun _ => ?_
    refine pc_tok_ite (fun _ => hh) fun _ => ?_
    refine pc_tok_ite (fun _ => pc_tokPost_congr (body_startBody hwf hm) fun x _ => ?_) fun _ => ?_
    · unfold b1_specBody
      dsimp only
      cases (Spec.TreeModes.State.err (absF s x) "in body: body start tag").p.stack[1]? <;> rfl
    refine pc_tok_ite (fun _ => pc_tokPost_congr (body_startFrameset hwf hm) fun x _ => ?_) fun _ => ?_
    · unfold b1_specFrameset
      dsimp only
      cases (Spec.TreeModes.State.err (absF s x) "in body: frameset start tag").p.stack[1]? <;> rfl
    refine pc_tok_ite_bor (fun _ => body_start_block hm hwf) (fun _ _ => body_start_block hm hwf) fun _ _ => ?_
    refine pc_tok_ite (fun _ => body_start_heading hm hwf) fun _ => ?_
    refine pc_tok_ite (fun _ => body_start_pre hm hwf) fun _ => ?_
    refine pc_tok_ite (fun h => body_start_form hm hwf (name_of_isOneOf h)) fun _ => ?_
    -- one arm of the model for `li` and for `dd`, `dt`; the specification has a clause for each
    have hli := body_start_li hm hwf
    rw [isName_eq_isOneOf] at hli
    refine pc_tok_bor_ite (fun h => ?_) (fun h _ => ?_) fun _ _ => ?_
    · rw [h] at hli; exact hli
    · rw [h] at hli; exact hli
    refine pc_tok_ite (fun _ => body_start_plaintext hm hwf) fun _ => ?_
    refine pc_tok_ite (fun _ => body_start_button hm hwf) fun _ => ?_
    refine pc_tok_ite (fun h => body_a hwf hk (name_of_isOneOf h) hm) fun _ => ?_
    refine pc_tok_ite (fun h => body_fmt hwf hk h hm) fun _ => ?_
    refine pc_tok_ite (fun h => body_nobr hwf hk (name_of_isOneOf h) hm) fun _ => ?_
    refine pc_tok_ite (fun _ => body_amoStart hwf hm) fun _ => ?_
    refine pc_tok_ite (fun _ => body_table hwf hm) fun _ => ?_
    refine pc_tok_ite (fun _ => body_void hwf hm) fun _ => ?_
    refine pc_tok_ite (fun _ => ?_) fun _ => ?_
    · cases hctx : Spec.TreeModes.contextIsSelect (cfgOf s) with
      | false => exact body_input hwf hm hctx
      | true => exact body_input_ctx hm hctx
    refine pc_tok_ite (fun _ => body_param hwf hm) fun _ => ?_
    refine pc_tok_ite (fun _ => body_hr hwf hm) fun _ => ?_
    refine pc_tok_ite (fun _ => body_textarea hwf hm) fun _ => ?_
    refine pc_tok_ite (fun _ => body_xmp hwf hm) fun _ => ?_
    refine pc_tok_ite (fun _ => body_iframe hwf hm) fun _ => ?_
    -- the specification's clause for `noembed` is also for `noscript` with scripting, which the model tests last
    have hother := b5_body_otherStart hwf hm (.tag t)
    obtain hne | hne := Bool.eq_false_or_eq_true (isOneOf t.name ["noembed"])
    · simp only [hne, Bool.true_or, ↓reduceIte]
      exact body_noembed hwf hm
    simp only [hne, Bool.false_or, Bool.false_eq_true, ↓reduceIte]
    obtain hns | hns := Bool.eq_false_or_eq_true (isOneOf t.name ["noscript"] && (cfgOf s).scripting)
    · have hn := b5_noscript_before (Bool.and_eq_true_iff.mp hns).1
      simp only [List.forall_mem_cons, List.not_mem_nil, false_imp_iff, implies_true, and_true] at hn
      simp only [hn, hns, Bool.false_eq_true, ↓reduceIte]
      refine pc_tokPost_congr hother fun x _ => ?_
      simp only [b5_specOtherStart, specTag_is, hns, ↓reduceIte]
    refine pc_tok_ite_false hns ?_
    refine pc_tok_ite (fun _ => b5_body_select hwf hm _) fun _ => ?_
    refine pc_tok_ite_bor (fun h => pc_tok_ite_true h (b5_body_option hwf hm _))
      (fun h _ => pc_tok_ite_false h (b5_body_optgroup hwf hm _)) fun _ _ => ?_
    refine pc_tok_ite (fun _ => b5_body_rb hwf hm _) fun _ => ?_
    refine pc_tok_ite (fun _ => b5_body_rp hwf hm _) fun _ => ?_
    refine pc_tok_ite (fun _ => ?_) fun _ => pc_tok_ite (fun _ => ?_) fun _ => ?_
    · have := b5_body_foreign hwf hm (.tag t) nsMathml
      rwa [kindOfNs_mathml] at this
    · have := b5_body_foreign hwf hm (.tag t) nsSvg
      rwa [kindOfNs_svg] at this
    refine pc_tok_ite (fun _ => b5_body_ignored hm _) fun _ => ?_
    refine pc_tokPost_congr hother fun x _ => ?_
    simp only [b5_specOtherStart, specTag_is, hns, Bool.false_eq_true, ↓reduceIte]
  | endTag =>
    simp only [body_chain, stokOfTag_end hk, isStart_of_end hk, isEnd_of_end hk, kind_beq_start_of_end hk, b3_edition,
      Bool.true_and, ↓reduceIte] at hh ⊢
    refine pc_tok_ite (fun _ => hh) fun _ => ?_
    refine pc_tok_ite (fun _ => body_endBody hm) fun _ => ?_
    refine pc_tok_ite (fun _ => body_endHtml hm) fun _ => ?_
    refine pc_tok_ite (fun _ => b3_blockEnd hm t _) fun _ => ?_
    refine pc_tok_ite (fun _ => ?_) fun _ => ?_
    · show PC b3_formM s _
      exact b3_formEnd hm hm.form _
    -- the specification has no clause for `</option>`
    obtain hopt | hopt := Bool.eq_false_or_eq_true (isOneOf t.name ["option"])
    · have ho := b3_option_after hopt
      simp only [List.forall_mem_cons, List.not_mem_nil, false_imp_iff, implies_true, and_true] at ho
      simp only [hopt, ho, Bool.false_eq_true, ↓reduceIte]
      show PC (b3_optionM t) s _
      exact b3_optionEnd hm t _
    refine pc_ite_false hopt ?_
    refine pc_tok_ite (fun _ => b3_endP hm _) fun _ => ?_
    -- one arm of the model for `</li>` and for `</dd>`, `</dt>`; the specification has a clause for each
    refine pc_tok_bor_ite (fun h => ?_) (fun hli _ => ?_) fun _ _ => ?_
    · simp only [isName_eq_isOneOf, h, ↓reduceIte]
      refine pc_tokPost_congr (b3_itemEnd t.name _ (fun σ => Spec.TreeAlgo.hasInScope (Spec.TreeModes.isNamed t.name)
          (Spec.TreeModes.scopeList (cfgOf s) Spec.TreeAlgo.listItemScopeList) σ.names)
        (pc_inScopeNamedS_listItem hm t.name) "in body: li end tag without li in list item scope"
        "in body: li end tag, current node is not li" _) fun x _ => ?_
      rw [b3_pure_ite, name_of_isOneOf h]
      rfl
    · simp only [isName_eq_isOneOf, hli, Bool.false_eq_true, ↓reduceIte]
      refine pc_tokPost_congr (b3_itemEnd t.name _ (fun σ => Spec.TreeModes.hasStrInScope (cfgOf s) σ t.name)
        (pc_inScopeNamedS_default hm t.name) "in body: dd/dt end tag without element in scope"
        "in body: dd/dt end tag, current node differs" _) fun x _ => ?_
      rw [b3_pure_ite]
      rfl
    refine pc_tok_ite (fun _ => ?_) fun _ => ?_
    · refine pc_tokPost_congr (b3_headingEnd hm t.name _) fun x _ => ?_
      rw [b3_pure_ite]
      rfl
    refine pc_tok_ite (fun _ => body_fmtEnd hm) fun _ => ?_
    refine pc_tok_ite (fun _ => body_amoEnd hm) fun _ => ?_
    refine pc_tok_ite (fun h => body_brEnd (name_of_isOneOf h) hm) fun _ => ?_
    exact b5_body_otherEnd t hm _

/-! ### for the conditions of `HtmlTBModesBodyDefs` -/

/-- the in-body rule on the tags of condition `bodyC3`, the `form` end tag excluded: an instance of `body_tag` -/
theorem bodySlice3_noForm : BodySliceSim (fun t => bodyC1 t || bodyC2 t || t.isEnd ["form"]) bodyC3 := by
  intro t hwf _ _ s hm
  exact body_tag sim_inHead0 hwf hm

theorem bodySlice5 : BodySliceSim (fun t => bodyC1 t || bodyC2 t || bodyC3 t || bodyC4 t) (fun _ => true) :=
  fun _ hwf _ _ _ hm => body_tag sim_inHead0 hwf hm

#print axioms bodySlice5

end H5V.Lemmas.HtmlTBModes
