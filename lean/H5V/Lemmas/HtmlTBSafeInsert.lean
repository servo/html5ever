import H5V.Lemmas.HtmlTBSafeLoops
/-!
# Tree-builder safety: the handle invariant `HInv`, creating and inserting nodes
-/
namespace H5V.Lemmas.TBSafe
open H5V.Model.HtmlTB
open H5V.Model.Dom (Id QualName Attr NodeOrText SinkOp Output ElementFlags QuirksMode Dom NodeData Node)

variable {al : Allow}

def htmlName : EName := ⟨nsHtml, "html".toList⟩
def tmplName : EName := ⟨nsHtml, "template".toList⟩
def headName : EName := ⟨nsHtml, "head".toList⟩
def formName : EName := ⟨nsHtml, "form".toList⟩

/-- the tag names that enter the list of active formatting elements -/
def fmtNames : List String :=
  ["a", "b", "big", "code", "em", "font", "i", "nobr", "s", "small", "strike", "strong", "tt", "u"]

/-- a `template` element carries template contents -/
def TcOk (d : Dom) (h : Id) : Prop :=
  nm d h = tmplName → ∃ q tc ip, sigOf d h = some (q, some tc, ip)

/-- **the handle invariant**: every handle the builder holds is an element node of the sink; HTML
`template` elements on the stack have template contents; an entry of the list of active formatting
elements is an HTML element with the name of its tag, one of the formatting names; the head pointer
is a `head`, the form pointer a `form` -/
structure HInv (s : State) : Prop where
  open_el : AllEl s.dom s.openElems
  open_tc : ∀ h ∈ s.openElems, TcOk s.dom h
  af : ∀ h t, FormatEntry.element h t ∈ s.activeFormatting →
    IsEl s.dom h ∧ nm s.dom h = ⟨nsHtml, t.name⟩ ∧ isOneOf t.name fmtNames = true
  head : ∀ h, s.headElem = some h → IsEl s.dom h ∧ nm s.dom h = headName
  form : ∀ h, s.formElem = some h → IsEl s.dom h ∧ nm s.dom h = formName
  ctx : ∀ h, s.contextElem = some h → IsEl s.dom h

theorem TcOk.ext {d d' : Dom} {h : Id} (he : Ext d d') (hi : IsEl d h) (ht : TcOk d h) : TcOk d' h := by
  intro hn
  rw [nm_ext he hi] at hn
  obtain ⟨q, tc, ip, hs⟩ := ht hn
  exact ⟨q, tc, ip, he h _ hs⟩

/-- the invariant survives anything that extends the DOM and only shrinks the two lists -/
theorem HInv.of_fr {s s' : State} (h : HInv s) (f : Fr s s') (ho : ∀ x ∈ s'.openElems, x ∈ s.openElems)
    (ha : ∀ e ∈ s'.activeFormatting, e ∈ s.activeFormatting) : HInv s' where
  open_el := fun x hx => (h.open_el x (ho x hx)).ext f.ext
  open_tc := fun x hx => (h.open_tc x (ho x hx)).ext f.ext (h.open_el x (ho x hx))
  af := fun x t hx => by
    obtain ⟨h1, h2, h3⟩ := h.af x t (ha _ hx)
    exact ⟨h1.ext f.ext, by rw [nm_ext f.ext h1]; exact h2, h3⟩
  head := fun x hx => by
    rw [f.headElem] at hx
    obtain ⟨h1, h2⟩ := h.head x hx
    exact ⟨h1.ext f.ext, by rw [nm_ext f.ext h1]; exact h2⟩
  form := fun x hx => by
    rw [f.formElem] at hx
    obtain ⟨h1, h2⟩ := h.form x hx
    exact ⟨h1.ext f.ext, by rw [nm_ext f.ext h1]; exact h2⟩
  ctx := fun x hx => by
    rw [f.contextElem] at hx
    exact (h.ctx x hx).ext f.ext

theorem HInv.of_st {s s' : State} {l : List Id} (h : HInv s) (st : St s s' l) (ho : ∀ x ∈ l, x ∈ s.openElems) :
    HInv s' :=
  h.of_fr st.fr (by rw [st.openElems]; exact ho) (by rw [st.af]; exact fun _ h => h)

theorem HInv.of_same {s s' : State} (h : HInv s) (st : Same s s') : HInv s' := h.of_st st (fun _ h => h)

theorem HInv.of_qf {s s' : State} (h : HInv s) (q : QF s s') : HInv s' := h.of_same q.same

/-! ### `create_element` -/

theorem sigOf_alloc_new (d : Dom) (data : NodeData) : sigOf (d.alloc data).1 d.size = sigData data := by
  unfold sigOf; rw [H5V.Lemmas.Dom.dataOf_alloc]; simp

theorem sigOf_alloc_old (d : Dom) (data : NodeData) {h : Id} (hh : h ≠ d.size) :
    sigOf (d.alloc data).1 h = sigOf d h := by
  unfold sigOf; rw [H5V.Lemmas.Dom.dataOf_alloc]; simp [hh]

theorem createElement_spec (d : Dom) (name : QualName) (attrs : List Attr) (flags : ElementFlags) :
    sigOf d (d.createElement name attrs flags).2 = none ∧
    ∃ tc, sigOf (d.createElement name attrs flags).1 (d.createElement name attrs flags).2
        = some (name, tc, flags.mathmlIP) ∧ (flags.template = true → tc.isSome) := by
  unfold Dom.createElement
  split
  · rename_i ht
    refine ⟨sigOf_none_of_ge (by simp [Dom.alloc, Dom.size]), some d.size, ?_, fun _ => rfl⟩
    have : ((d.alloc NodeData.document).1.alloc (.element name attrs (some (d.alloc NodeData.document).2) flags.mathmlIP)).2
        = (d.alloc NodeData.document).1.size := rfl
    rw [this, sigOf_alloc_new]; rfl
  · refine ⟨sigOf_none_of_ge (by simp [Dom.alloc, Dom.size]), none, ?_, fun h => by simp_all⟩
    have : (d.alloc (.element name attrs none flags.mathmlIP)).2 = d.size := rfl
    rw [this, sigOf_alloc_new]; rfl

/-- what `create_element` returns: a node that was not an element before, is an element with the
requested name now, and has template contents when the `template` flag was set -/
structure Created (s s' : State) (r : Id) (name : QualName) (tmpl : Bool) : Prop where
  qf : QF s s'
  fresh : sigOf s.dom r = none
  el : IsEl s'.dom r
  nm : nm s'.dom r = ⟨name.ns, name.loc⟩
  tc : tmpl = true → ∃ q tc ip, sigOf s'.dom r = some (q, some tc, ip)

theorem sat_createElementWithFlags {name : QualName} {attrs : List Attr} {hadDup : Bool} {s : State} :
    Sat (createElementWithFlags name attrs hadDup) s
      (fun r s' => Created s s' r name (name.ns == nsHtml && isName name.loc "template")) := by
  unfold createElementWithFlags sinkNode
  simp only
  refine Sat.bind (sat_sink (Q := fun o s' => ∃ r, o = .node r ∧
      Created s s' r name (name.ns == nsHtml && isName name.loc "template"))
    (Or.inr ⟨_, _, apply_createElement _ _ _ _⟩) ?_) ?_
  · intro d' out h
    have h' := h
    rw [apply_createElement] at h
    cases h
    obtain ⟨hf, tc, hs, htc⟩ := createElement_spec s.dom name attrs
      { template := name.ns == nsHtml && isName name.loc "template",
        mathmlIP := (if name.ns == nsMathml && isName name.loc "annotation-xml" then
          attrs.any (fun a => a.name.ns == [] && isName a.name.loc "encoding" &&
            (eqIgnoreAsciiCase a.value "text/html".toList ||
             eqIgnoreAsciiCase a.value "application/xhtml+xml".toList)) else false),
        hadDuplicateAttributes := hadDup }
    refine ⟨_, rfl, ⟨qf_of_apply h', hf, ⟨_, hs⟩, ?_, ?_⟩⟩
    · show TBSafe.nm _ _ = _
      unfold TBSafe.nm; rw [hs]; rfl
    · intro ht
      have := htc ht
      cases tc with
      | none => simp at this
      | some t => exact ⟨_, _, _, hs⟩
  · rintro o s' ⟨r, rfl, hc⟩
    exact sat_pure hc

theorem Created.ne {s s' : State} {r : Id} {name : QualName} {t : Bool} (h : Created s s' r name t)
    {x : Id} (hx : IsEl s.dom x) : x ≠ r := by
  rintro rfl
  obtain ⟨y, hy⟩ := hx
  rw [h.fresh] at hy; cases hy

theorem sat_createComment {text : Str} {s : State} :
    Sat (sinkNode (.createComment text)) s (fun _ s' => QF s s') := by
  unfold sinkNode
  refine (sat_sink_eq (apply_createComment _ _)).bind ?_
  rintro o s' ⟨rfl, hq⟩
  exact sat_pure hq

/-! ### `appropriate_place_for_insertion`, `insert_at` -/

theorem namedP_tmpl {d : Dom} {h : Id} (hn : namedP d "template".toList h = true) : nm d h = tmplName :=
  namedP_nm hn

theorem sat_templateContents {h : Id} {s : State} (_hi : IsEl s.dom h) (ht : TcOk s.dom h)
    (hn : namedP s.dom "template".toList h = true) :
    Sat (sinkNode (.getTemplateContents h)) s (fun _ s' => QF s s') := by
  obtain ⟨q, tc, ip, hs⟩ := ht (namedP_tmpl hn)
  exact (sat_getTemplateContents hs).mono (fun _ _ h => h.2)

theorem sat_fosterLoop : ∀ (l : List Id) (s : State), AllEl s.dom l → (∀ h ∈ l, TcOk s.dom h) →
    s.openElems ≠ [] → (∀ x, l.getLast? = some x → namedP s.dom "table".toList x = false) →
    Sat (fosterLoop l) s (fun _ s' => QF s s') := by
  intro l
  induction l with
  | nil =>
    intro s _ _ hne _
    unfold fosterLoop
    cases hl : s.openElems with
    | nil => exact absurd hl hne
    | cons r rest =>
      refine (sat_htmlElem hl).bind ?_
      rintro x s' ⟨rfl, rfl⟩
      exact sat_pure (QF.refl _)
  | cons elem rest ih =>
    intro s hall htc hne hlast
    unfold fosterLoop
    have hel := hall elem List.mem_cons_self
    refine (sat_htmlElemNamed hel).bind ?_
    rintro b s1 ⟨rfl, hq1⟩
    split
    · rename_i hb
      have hn : namedP s1.dom "template".toList elem = true := by
        unfold namedP; rw [nm_ext hq1.ext hel]; exact hb
      refine (sat_templateContents (hel.ext hq1.ext) ((htc elem List.mem_cons_self).ext hq1.ext hel) hn).bind ?_
      intro c s2 hq2
      exact sat_pure (hq1.trans hq2)
    · refine (sat_htmlElemNamed (hel.ext hq1.ext)).bind ?_
      rintro b2 s2 ⟨rfl, hq2⟩
      split
      · rename_i hb2
        cases rest with
        | nil =>
          exfalso
          have := hlast elem rfl
          unfold namedP at this
          rw [nm_ext hq1.ext hel] at hb2
          rw [this] at hb2; cases hb2
        | cons prev rest' => exact sat_pure (hq1.trans hq2)
      · have hq := hq1.trans hq2
        have hall' : AllEl s.dom rest := hall.sub (fun x hx => List.mem_cons_of_mem _ hx)
        refine (ih s2 (hall'.ext hq.ext) ?_ ?_ ?_).mono (fun _ s3 h3 => hq.trans h3)
        · intro h hh
          exact (htc h (List.mem_cons_of_mem _ hh)).ext hq.ext (hall' h hh)
        · rw [hq.openElems]; exact hne
        · intro x hx
          have hxm : x ∈ rest := getLast?_mem hx
          unfold namedP
          rw [hall'.nm_eq hq.ext hxm]
          have hne' : rest ≠ [] := by intro e; subst e; simp at hx
          exact hlast x (by rw [List.getLast?_cons_of_ne_nil hne']; exact hx)

/-- what `appropriate_place_for_insertion` needs: a non-empty stack of elements whose bottom is not a
`table`, templates with contents, and the same for the override target -/
structure PlaceOk (s : State) (ov : Option Id) : Prop where
  ne : s.openElems ≠ []
  el : AllEl s.dom s.openElems
  tc : ∀ h ∈ s.openElems, TcOk s.dom h
  bottom : ∀ r rest, s.openElems = r :: rest → namedP s.dom "table".toList r = false
  ov_el : ∀ t, ov = some t → IsEl s.dom t ∧ TcOk s.dom t

theorem sat_appropriatePlaceForInsertion {ov : Option Id} {s : State} (hp : PlaceOk s ov) :
    Sat (appropriatePlaceForInsertion ov) s (fun _ s' => QF s s') := by
  unfold appropriatePlaceForInsertion
  obtain ⟨cur, hcur⟩ := getLast?_of_ne_nil hp.ne
  have htail : ∀ (target : Id), IsEl s.dom target → TcOk s.dom target →
      Sat (do
        let __do_lift ← getS
        if __do_lift.fosterParenting = true then do
            let foster ← elemIn target fosterTarget
            if (!foster) = true then do
                let __do_lift ← htmlElemNamed target "template"
                if __do_lift = true then do
                    let contents ← sinkNode (SinkOp.getTemplateContents target)
                    pure (InsertionPoint.lastChild contents)
                  else pure (InsertionPoint.lastChild target)
              else do
                let __do_lift ← getS
                fosterLoop __do_lift.openElems.reverse
          else do
            let foster ← pure false
            if (!foster) = true then do
                let __do_lift ← htmlElemNamed target "template"
                if __do_lift = true then do
                    let contents ← sinkNode (SinkOp.getTemplateContents target)
                    pure (InsertionPoint.lastChild contents)
                  else pure (InsertionPoint.lastChild target)
              else do
                let __do_lift ← getS
                fosterLoop __do_lift.openElems.reverse) s (fun _ s' => QF s s') := by
    intro target htel httc
    refine sat_getS_bind ?_
    split <;>
      (first
        | refine Sat.bind (Q := fun _ s1 => QF s s1) ((sat_elemIn htel).mono (fun _ _ h => h.2)) ?_
        | refine Sat.bind (Q := fun _ s1 => QF s s1) (sat_pure (QF.refl s)) ?_) <;>
      (intro foster s1 hq1
       split
       · refine (sat_htmlElemNamed (htel.ext hq1.ext)).bind ?_
         rintro b s2 ⟨rfl, hq2⟩
         split
         · rename_i hb
           refine (sat_templateContents ((htel.ext hq1.ext).ext hq2.ext)
             ((httc.ext hq1.ext htel).ext hq2.ext (htel.ext hq1.ext)) ?_).bind ?_
           · unfold namedP; rw [nm_ext hq2.ext (htel.ext hq1.ext)]; exact hb
           · intro c s3 hq3; exact sat_pure ((hq1.trans hq2).trans hq3)
         · exact sat_pure (hq1.trans hq2)
       · refine sat_getS_bind ?_
         have hrev : ∀ x ∈ s1.openElems.reverse, x ∈ s.openElems := by
           intro x hx; rw [hq1.openElems] at hx; exact List.mem_reverse.mp hx
         refine (sat_fosterLoop _ s1 ((hp.el.sub hrev).ext hq1.ext) ?_ ?_ ?_).mono (fun _ s2 h2 => hq1.trans h2)
         · intro h hh
           exact (hp.tc h (hrev h hh)).ext hq1.ext (hp.el h (hrev h hh))
         · rw [hq1.openElems]; exact hp.ne
         · intro x hx
           rw [hq1.openElems] at hx
           cases hl : s.openElems with
           | nil => exact absurd hl hp.ne
           | cons r rest =>
             rw [hl] at hx
             have : x = r := by simpa using hx.symm
             subst this
             unfold namedP
             rw [nm_ext hq1.ext (hp.el x (by rw [hl]; exact List.mem_cons_self))]
             exact hp.bottom x rest hl)
  cases ov with
  | some t =>
    dsimp only
    exact sat_pure_bind (htail t (hp.ov_el t rfl).1 (hp.ov_el t rfl).2)
  | none =>
    dsimp only
    refine (sat_currentNode hcur).bind ?_
    rintro target s0 ⟨rfl, rfl⟩
    exact htail target (hp.el target (getLast?_mem hcur)) (hp.tc target (getLast?_mem hcur))

theorem sat_insertAt {p : InsertionPoint} {child : NodeOrText} {s : State} :
    Sat (insertAt p child) s (fun _ s' => QF s s') := by
  unfold H5V.Model.HtmlTB.insertAt
  cases p with
  | lastChild parent => exact sat_sinkUnit_mut trivial
  | beforeSibling sib => exact sat_sinkUnit_mut trivial
  | tableFosterParenting e pe => exact sat_sinkUnit_mut trivial

theorem sat_insertAppropriately {child : NodeOrText} {ov : Option Id} {s : State} (hp : PlaceOk s ov) :
    Sat (insertAppropriately child ov) s (fun _ s' => QF s s') := by
  unfold insertAppropriately
  refine (sat_appropriatePlaceForInsertion hp).bind ?_
  intro p s1 hq1
  exact sat_insertAt.mono (fun _ s2 h2 => hq1.trans h2)

theorem PlaceOk.of_qf {s s' : State} {ov : Option Id} (hp : PlaceOk s ov) (hq : QF s s') : PlaceOk s' ov where
  ne := by rw [hq.openElems]; exact hp.ne
  el := by rw [hq.openElems]; exact hp.el.ext hq.ext
  tc := by
    rw [hq.openElems]
    exact fun h hh => (hp.tc h hh).ext hq.ext (hp.el h hh)
  bottom := by
    rw [hq.openElems]
    intro r rest hl
    unfold namedP
    rw [nm_ext hq.ext (hp.el r (by rw [hl]; exact List.mem_cons_self))]
    exact hp.bottom r rest hl
  ov_el := fun t ht => ⟨(hp.ov_el t ht).1.ext hq.ext, (hp.ov_el t ht).2.ext hq.ext (hp.ov_el t ht).1⟩

/-! ### `insert_element` -/

/-- the result of `insert_element`: a fresh element with the requested name, pushed or not -/
structure Inserted (s s' : State) (r : Id) (ns name : Str) (pushIt : Bool) : Prop where
  fr : Fr s s'
  af : s'.activeFormatting = s.activeFormatting
  openElems : s'.openElems = if pushIt then s.openElems ++ [r] else s.openElems
  fresh : ∀ x, IsEl s.dom x → x ≠ r
  el : IsEl s'.dom r
  nm : nm s'.dom r = ⟨ns, name⟩
  tc : TcOk s'.dom r

theorem sat_insertElement {pushIt : Bool} {ns name : Str} {attrs : List Attr} {hadDup : Bool} {s : State}
    (hp : PlaceOk s none) :
    Sat (insertElement pushIt ns name attrs hadDup) s (fun r s' => Inserted s s' r ns name pushIt) := by
  unfold insertElement
  refine (sat_appropriatePlaceForInsertion hp).bind ?_
  intro ip s1 hq1
  dsimp only
  refine sat_getS_bind ?_
  have hrest : ∀ (elem : Id) (s3 s4 : State), Created s3 s4 elem { pfx := none, ns := ns, loc := name }
        (ns == nsHtml && isName name "template") → QF s s3 →
      ∀ s5, QF s4 s5 →
      Sat (do
        insertAt ip (NodeOrText.node elem)
        if pushIt = true then do
            push elem
            pure elem
          else pure elem) s5 (fun r s' => Inserted s s' r ns name pushIt) := by
    intro elem s3 s4 hc hq3 s5 hq5
    refine sat_insertAt.bind ?_
    intro _ s6 hq6
    have hq46 : QF s4 s6 := hq5.trans hq6
    have hq : QF s s6 := (hq3.trans hc.qf).trans hq46
    have hel : IsEl s6.dom elem := hc.el.ext hq46.ext
    have hnm : nm s6.dom elem = ⟨ns, name⟩ := by rw [nm_ext hq46.ext hc.el]; exact hc.nm
    have htc : TcOk s6.dom elem := by
      intro hn
      rw [hnm] at hn
      have : (ns == nsHtml && isName name "template") = true := by
        simp only [tmplName, EName.mk.injEq] at hn
        simp [hn.1, hn.2, isName]
      obtain ⟨q, tc, ip', hs⟩ := hc.tc this
      exact ⟨q, tc, ip', hq46.ext _ _ hs⟩
    have hfresh : ∀ x, IsEl s.dom x → x ≠ elem := fun x hx => hc.ne (hx.ext hq3.ext)
    split
    · rename_i hpush
      refine sat_push.bind ?_
      rintro _ s7 rfl
      exact sat_pure ⟨hq.fr.withOpen _, hq.activeFormatting, by simp [hpush, hq.openElems], hfresh, hel, hnm, htc⟩
    · rename_i hpush
      exact sat_pure ⟨hq.fr, hq.activeFormatting, by simp [hpush, hq.openElems], hfresh, hel, hnm, htc⟩
  have htail : ∀ (fa : Bool) (s2 : State), QF s1 s2 → (fa = true → s1.formElem.isSome = true) →
      Sat (do
        let elem ← createElementWithFlags { pfx := none, ns := ns, loc := name } attrs hadDup
        if fa = true then do
            let __do_lift ← getS
            match __do_lift.formElem with
              | some form => do
                sinkUnit (SinkOp.associateWithForm elem form ip.nodes.fst ip.nodes.snd)
                insertAt ip (NodeOrText.node elem)
                if pushIt = true then do
                    push elem
                    pure elem
                  else pure elem
              | none => do
                panicAt "unwrap-none" "mod.rs:1401" "form_elem unwrap"
                insertAt ip (NodeOrText.node elem)
                if pushIt = true then do
                    push elem
                    pure elem
                  else pure elem
          else do
            insertAt ip (NodeOrText.node elem)
            if pushIt = true then do
                push elem
                pure elem
              else pure elem) s2 (fun r s' => Inserted s s' r ns name pushIt) := by
    intro fa s2 hq2 hfa
    refine sat_createElementWithFlags.bind ?_
    intro elem s3 hc
    split
    · rename_i hfat
      refine sat_getS_bind ?_
      have hsome : s3.formElem.isSome = true := by
        rw [hc.qf.formElem, hq2.formElem]; exact hfa hfat
      cases hf : s3.formElem with
      | none => rw [hf] at hsome; cases hsome
      | some form =>
        dsimp only
        refine (sat_sinkUnit_total ⟨_, _, apply_assoc _ _ _ _ _⟩).bind ?_
        intro _ s4 hq4
        exact hrest elem s2 s3 hc (hq1.trans hq2) s4 hq4
    · exact hrest elem s2 s3 hc (hq1.trans hq2) s3 (QF.refl _)
  split
  · rename_i hfa
    refine (sat_inHtmlElemNamed (by rw [hq1.openElems]; exact hp.el.ext hq1.ext)).bind ?_
    rintro b s2 ⟨-, hq2⟩
    have hsome : s1.formElem.isSome = true := by
      simp only [Bool.and_eq_true] at hfa; exact hfa.2
    split
    · exact sat_pure_bind (htail false _ hq2 (fun h => by cases h))
    · exact sat_pure_bind (htail _ _ hq2 (fun _ => hsome))
  · exact sat_pure_bind (htail false _ (QF.refl _) (fun h => by cases h))

theorem Inserted.hinv {s s' : State} {r : Id} {ns name : Str} {pushIt : Bool} (hi : HInv s)
    (h : Inserted s s' r ns name pushIt) : HInv s' where
  open_el := by
    rw [h.openElems]
    intro x hx
    split at hx
    · rcases List.mem_append.mp hx with hx | hx
      · exact (hi.open_el x hx).ext h.fr.ext
      · rw [List.mem_singleton.mp hx]; exact h.el
    · exact (hi.open_el x hx).ext h.fr.ext
  open_tc := by
    rw [h.openElems]
    intro x hx
    split at hx
    · rcases List.mem_append.mp hx with hx | hx
      · exact (hi.open_tc x hx).ext h.fr.ext (hi.open_el x hx)
      · rw [List.mem_singleton.mp hx]; exact h.tc
    · exact (hi.open_tc x hx).ext h.fr.ext (hi.open_el x hx)
  af := fun x t hx => by
    rw [h.af] at hx
    obtain ⟨h1, h2, h3⟩ := hi.af x t hx
    exact ⟨h1.ext h.fr.ext, by rw [nm_ext h.fr.ext h1]; exact h2, h3⟩
  head := fun x hx => by
    rw [h.fr.headElem] at hx
    obtain ⟨h1, h2⟩ := hi.head x hx
    exact ⟨h1.ext h.fr.ext, by rw [nm_ext h.fr.ext h1]; exact h2⟩
  form := fun x hx => by
    rw [h.fr.formElem] at hx
    obtain ⟨h1, h2⟩ := hi.form x hx
    exact ⟨h1.ext h.fr.ext, by rw [nm_ext h.fr.ext h1]; exact h2⟩
  ctx := fun x hx => by
    rw [h.fr.contextElem] at hx
    exact (hi.ctx x hx).ext h.fr.ext

end H5V.Lemmas.TBSafe
