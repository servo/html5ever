import H5V.Lemmas.HtmlRTTB2
/-!
C07 round trip, tree-builder half: the fragment set-up (`new_for_fragment` with an HTML
`div` as context element), the EOF token, `TreeBuilder::end`, and reading the forest off the arena.
-/
namespace H5V.Lemmas.HtmlRT
open H5V.Model.HtmlTB
open H5V.Model.Dom (Id SinkOp Output Dom NodeData NodeOrText)
open H5V.Lemmas.HtmlTBSpec

/-- `parse_fragment`'s set-up: create the context element (an HTML `div` without attributes, no
form element), then `TreeBuilder::new_for_fragment` -/
def fragSetup : M Unit := do
  let c ← createElementWithFlags (htmlQual nDiv) [] false
  newForFragment c none

def nHtml : Str := "html".toList
def rootFrame (cs : Forest) : Frame := ⟨nHtml, [], cs⟩

theorem divTests :
    (nsHtml != nsHtml) = false ∧ isOneOf nDiv ["td", "th"] = false ∧ isName nDiv "tr" = false ∧
    isOneOf nDiv ["tbody", "thead", "tfoot"] = false ∧ isName nDiv "caption" = false ∧
    isName nDiv "colgroup" = false ∧ isName nDiv "table" = false ∧ isName nDiv "template" = false ∧
    isName nDiv "head" = false ∧ isName nDiv "body" = false ∧ isName nDiv "frameset" = false ∧
    isName nDiv "html" = false ∧ isName nHtml "template" = false ∧ isName nHtml "p" = false := by decide

theorem getDocument_apply (d : Dom) : d.apply .getDocument = .ok (d, .node 0) := rfl

theorem fragSetup_runs (opts : Opts) :
    ∃ s0, Runs fragSetup (State.init opts) () s0 ∧ TBInv s0 [] (rootFrame []) 0 2 ∧ s0.opts = opts := by
  obtain ⟨t1, t2, t3, t4, t5, t6, t7, t8, t9, t10, t11, t12, t13, t14⟩ := divTests
  -- the arena after the two `create_element`s and the `append` to the document
  let d0 : Dom := Dom.new
  have hdoc : d0.nodes[0]? = some ⟨.document, none, []⟩ := rfl
  have e1 : d0.apply (.createElement (htmlQual nDiv) (tbAttrs []) plainFlags)
      = .ok ((d0.alloc (elData nDiv [])).1, .node 1) := rfl
  generalize hd1 : (d0.alloc (elData nDiv [])).1 = d1 at e1
  have hd1doc : d1.nodes[0]? = some ⟨.document, none, []⟩ := by rw [← hd1]; rfl
  have hd1div : d1.nodes[1]? = some ⟨elData nDiv [], none, []⟩ := by rw [← hd1]; rfl
  have hd1size : d1.nodes.size = 2 := by rw [← hd1]; rfl
  obtain ⟨d2, d3, e2, e3, hp⟩ := dom_create_append d1 0 _ nHtml [] hd1doc
  rw [hd1size] at e2 e3
  have hp1 := hp.atTop; have hp2 := hp.atNew; have hp3 := hp.frame; have hp4 := hp.size
  rw [hd1size] at hp1 hp2 hp3 hp4
  let s1 : State := { State.init opts with dom := d1 }
  let s2 : State := { s1 with docHandle := 0, templateModes := [], formElem := none, contextElem := some 1 }
  let s3 : State := { s2 with openElems := [2], dom := d3 }
  refine ⟨{ s3 with mode := .inBody }, ?_, ?_, rfl⟩
  · unfold fragSetup
    refine runs_bind (s1 := s1) (a := 1) ?_ ?_
    · have := createFlags_eq nDiv [] t8
      rw [show tbAttrs [] = [] from rfl] at this
      rw [show htmlQual nDiv = { pfx := none, ns := nsHtml, loc := nDiv } from rfl, this]
      exact runs_sinkNode (s := State.init opts) e1
    unfold newForFragment
    refine runs_bind (s1 := s1) (a := 0) (runs_sinkNode (s := s1) (getDocument_apply _)) ?_
    refine runs_bind (s1 := s1) (a := ⟨nsHtml, nDiv⟩)
      (Runs.of_query (query_elemName (s := s1) (elData_elemName hd1div))) ?_
    simp only [t8, Bool.and_false, Bool.false_eq_true, if_false]
    refine runs_modS_bind (s := s1) (fun tr => rfl) ?_
    refine runs_bind (s1 := s3) (a := ()) ?_ ?_
    · unfold createRoot
      have := createFlags_eq nHtml [] t13
      rw [show tbAttrs [] = [] from rfl] at this
      rw [show htmlQual "html".toList = { pfx := none, ns := nsHtml, loc := nHtml } from rfl, this]
      refine runs_bind (s1 := { s2 with dom := d2 }) (a := 2) (runs_sinkNode (s := s2) e2) ?_
      refine runs_bind (s1 := { s2 with openElems := [2], dom := d2 }) (a := ()) ?_ ?_
      · unfold push; exact runs_modS (fun tr => rfl)
      refine runs_getS_bind (fun tr => ?_)
      exact runs_sinkUnit (s := { s2 with openElems := [2], dom := d2 }) e3
    refine runs_bind (s1 := s3) (a := .inBody) (Runs.of_query ?_) ?_
    · unfold resetInsertionMode
      refine query_getS_bind (fun tr => ?_)
      simp only [withTr_openElems, show s3.openElems = [2] from rfl, List.reverse_cons, List.reverse_nil,
        List.nil_append, List.length_singleton, resetLoop]
      refine query_getS_bind (fun tr => ?_)
      simp only [withTr_contextElem, show s3.contextElem = some 1 from rfl, Nat.sub_self, BEq.rfl]
      have hdiv3 : s3.dom.nodes[1]? = some ⟨elData nDiv [], none, []⟩ := by
        show d3.nodes[1]? = _
        rw [hp3 1 (by omega) (by omega)]; exact hd1div
      refine query_bind (query_elemName (s := s3) (elData_elemName hdiv3)) ?_
      simp only [t1, t2, t3, t4, t5, t6, t7, t8, t9, t10, t11, t12, Bool.false_eq_true, if_false,
        Bool.false_and]
      exact query_pure _ _
    unfold setMode
    exact runs_modS (fun tr => rfl)
  · refine ⟨⟨rfl, rfl⟩, ?_, by simp [RepF, rootFrame], ?_, rfl, ?_, rfl, rfl, rfl,
      ⟨fun e he => (by cases he), List.Pairwise.nil⟩, rfl, rfl, rfl, ?_, ?_, ?_⟩
    · show d3.nodes[2]? = _
      rw [hp2]; rfl
    · show d3.nodes.size = _
      rw [hp4]; simp [rootFrame, sizeF]
    · show d3.nodes[1]? = _
      rw [hp3 1 (by omega) (by omega)]; exact hd1div
    · intro f hf
      simp only [List.nil_append, List.mem_singleton] at hf
      subst hf; exact t13
    · show d3.errorsRev = []
      rw [hp.errs, ← hd1]; rfl
    · intro f hf
      simp only [List.nil_append, List.mem_singleton] at hf
      subst hf; exact t14

/-! ### EOF and `end` -/

theorem bodyEndOk_html : bodyEndOk ⟨nsHtml, nHtml⟩ = true := by decide

/-- the EOF token with only the root open: no `Unexpected open tag` error, `Done` -/
theorem TBInv.eof {s cs tp tid} (h : TBInv s [] (rootFrame cs) tp tid) (line : Nat) :
    Runs (processToken .eof line) s .continue_ s := by
  refine processToken_frame s _ _ line _ rfl ?_
  rw [eq_self_withIlf h.ilf]
  simp only [tbTok]
  refine ptc_done _ _ _ rfl (h.notForeign _) h.mode ?_
  unfold stepInBody
  dsimp only
  refine runs_getS_bind (fun tr => ?_)
  rw [show (withTr s tr).templateModes = [] from h.tm]
  simp only [List.isEmpty_nil, Bool.not_true, Bool.false_eq_true, if_false]
  refine runs_bind (s1 := s) (a := ()) (Runs.of_query ?_) (runs_pure _ _)
  unfold checkBodyEnd
  refine query_getS_bind (fun tr => ?_)
  rw [show (withTr s tr).openElems = [tid] from by rw [withTr_openElems, h.stack]; rfl]
  simp only [checkBodyEndLoop]
  refine query_bind (query_elemName (elData_elemName h.topNode)) ?_
  rw [show (rootFrame cs).name = nHtml from rfl, bodyEndOk_html]
  simp only [if_true]
  exact query_pure _ _

theorem endLoop_runs (s : State) (l : List Nat) : Runs (endLoop l) s () s := by
  induction l with
  | nil => exact runs_pure _ _
  | cons e rest ih =>
    simp only [endLoop]
    exact runs_bind (runs_sinkUnit (pop_apply _ _)) ih

/-- `TreeBuilder::end`: the stack is emptied, the arena is not touched -/
theorem finishTB_runs (s : State) : Runs finishTB s () { s with openElems := [] } := by
  unfold finishTB
  refine runs_getS_bind (fun tr => ?_)
  refine runs_modS_bind (fun tr => rfl) ?_
  exact endLoop_runs _ _

/-! ### reading the forest off the arena -/

theorem toDTreeF_length (f : Forest) : (toDTreeF f).length = f.length := by
  induction f with
  | nil => rfl
  | cons t ts ih => simp [toDTreeF, ih]

mutual
def HNode.depth : HNode → Nat
  | .elem _ _ ch => 1 + depthF ch
  | .text _ => 1
def depthF : Forest → Nat
  | [] => 0
  | t :: ts => max t.depth (depthF ts)
end

mutual
theorem extract_of_rep (d : Dom) (p : Nat) : ∀ (t : HNode) (id fuel : Nat), RepT d p id t → t.depth ≤ fuel →
    extract d fuel (some p) id = some (toDTree t)
  | .text x, id, fuel, h, hf => by
    simp only [RepT] at h
    obtain ⟨k, rfl⟩ : ∃ k, fuel = k + 1 := ⟨fuel - 1, by simp [HNode.depth] at hf; omega⟩
    simp [extract, h, toDTree]
  | .elem n as ch, id, fuel, h, hf => by
    simp only [RepT] at h
    obtain ⟨k, rfl⟩ : ∃ k, fuel = k + 1 := ⟨fuel - 1, by simp [HNode.depth] at hf; omega⟩
    have := extractList_of_rep d id ch (id + 1) k h.2 (by simp [HNode.depth] at hf; omega)
    simp [extract, h.1, elData, this, toDTree]
theorem extractList_of_rep (d : Dom) (p : Nat) : ∀ (f : Forest) (start fuel : Nat), RepF d p start f →
    depthF f ≤ fuel → extractList d fuel p (childIds start f) = some (toDTreeF f)
  | [], _, _, _, _ => by simp [childIds, extractList, toDTreeF]
  | t :: ts, start, fuel, h, hf => by
    simp only [RepF] at h
    have h1 := extract_of_rep d p t start fuel h.1 (by simp [depthF] at hf; omega)
    have h2 := extractList_of_rep d p ts (start + t.size) fuel h.2 (by simp [depthF] at hf; omega)
    simp [childIds, extractList, h1, h2, toDTreeF]
end

mutual
theorem depth_le_size : ∀ t : HNode, t.depth ≤ t.size
  | .text _ => by simp [HNode.depth, HNode.size]
  | .elem _ _ ch => by have := depthF_le_sizeF ch; simp [HNode.depth, HNode.size]; omega
theorem depthF_le_sizeF : ∀ f : Forest, depthF f ≤ sizeF f
  | [] => by simp [depthF, sizeF]
  | t :: ts => by
    have := depth_le_size t; have := depthF_le_sizeF ts
    simp [depthF, sizeF]; omega
end

/-- the children of the root `html` element (node 2) as a list of trees -/
def rootChildren (d : Dom) : Option (List DTree) := extractList d d.nodes.size 2 (d.childrenOf 2)

theorem TBInv.rootChildren_eq {s cs tp tid} (h : TBInv s [] (rootFrame cs) tp tid) :
    rootChildren s.dom = some (toDTreeF cs) := by
  have hl := h.low
  simp only [Lower] at hl
  obtain ⟨rfl, rfl⟩ := hl
  have hn := h.topNode
  unfold rootChildren Dom.childrenOf
  rw [hn]
  simp only [rootFrame]
  refine extractList_of_rep s.dom 2 cs 3 _ h.topRep ?_
  have := depthF_le_sizeF cs
  have := h.size
  simp only [rootFrame] at this
  omega

end H5V.Lemmas.HtmlRT
