import H5V.Model.HtmlTB
import H5V.Lemmas.HtmlTBMetaBase
import H5V.Lemmas.HtmlTBSafeRun
import H5V.Lemmas.HtmlParseSpecFrame
/-!
The "ignore the next line feed" flag of the HTML tree builder (`TreeBuilder::ignore_lf`).

* `processToken_contextElem` — `process_token` never changes the context element;
* `processToken_ignoreLf_clear` — only a tag token can *set* the flag (a parse error puts a set flag back);
* `processToken_ignS` / `processToken_ignQ` — when the flag is set after `process_token`, the current node
  is the HTML element (`pre` / `listing` / `textarea`) the start tag has just inserted, it is the adjusted
  current node (the stack has at least two entries), hence
  `adjusted_current_node_present_but_not_in_html_namespace` answers "no".

Machinery (all in the sub-namespace `IgnLf`):
* `Fl m` — the frame judgement: `m` leaves `ignore_lf` and `context_elem` alone (everything but the three
  start-tag arms of "in body" and `process_token` itself);
* `Sf m` — the strong frame: `m` also leaves the stack of open elements alone and only extends the DOM
  (`TBSafe.Ext`: element names are stable);
* `HL tok m` — for a rule `m` handed the token `tok`: the context element is kept, only `tok` is
  re-processed, and either the flag is untouched or `tok` is a tag, the flag is set, the answer is `Done` /
  `ToRawData` and the current node is the HTML element just pushed on a non-empty stack (`TopHtml`);
* `Okl m s Q` — partial correctness of one run, for `insert_element`, the loop of `process_to_completion`
  and `process_token`.
-/
namespace H5V.Lemmas.ParseSpec.IgnLf
open H5V.Model.Dom (Id QualName Attr NodeOrText SinkOp Output ElementFlags QuirksMode Dom)
open H5V.Model.HtmlTB
open H5V.Model.HtmlTok (RawKind)
open H5V.Lemmas.TBM
open H5V.Lemmas.TBSafe (Ext sigOf apply_ext ptcCont ptcNext processToCompletion_succ ptFinish)

/-! ## the frame -/

/-- the two components the helper algorithms never touch -/
def frL (s : State) : Bool × Option Id := (s.ignoreLf, s.contextElem)

theorem frL_eq {s s' : State} (h : frL s' = frL s) : s'.ignoreLf = s.ignoreLf ∧ s'.contextElem = s.contextElem := by
  simpa only [frL, Prod.mk.injEq] using h

structure FlAt {α : Type} (s : State) (m : M α) : Prop where
  h : ∀ a s', m s = .ok (a, s') → frL s' = frL s

/-- `m` leaves `ignore_lf` and `context_elem` alone -/
class Fl {α : Type} (m : M α) : Prop where
  h : ∀ s, FlAt s m

theorem fl_run {α : Type} {m : M α} (h : Fl m) {s s' : State} {a : α} (e : m s = .ok (a, s')) :
    frL s' = frL s := (h.h s).h a s' e

instance fl_pure {α : Type} (a : α) : Fl (pure a : M α) :=
  ⟨fun _ => ⟨fun _ _ e => by obtain ⟨_, rfl⟩ := pure_ok.mp e; rfl⟩⟩
instance fl_throw {α : Type} (e : String) : Fl (throw e : M α) := ⟨fun _ => ⟨fun _ _ h => absurd h throw_ok⟩⟩
instance fl_panicAt {α : Type} (c f t : String) : Fl (panicAt c f t : M α) :=
  ⟨fun _ => ⟨fun _ _ h => absurd h throw_ok⟩⟩
instance fl_fuelOut {α : Type} (w : String) : Fl (fuelOut w : M α) := ⟨fun _ => ⟨fun _ _ h => absurd h throw_ok⟩⟩
instance fl_getS : Fl getS := ⟨fun _ => ⟨fun _ _ e => by obtain ⟨_, rfl⟩ := getS_ok.mp e; rfl⟩⟩
instance fl_sink (op : SinkOp) : Fl (sink op) :=
  ⟨fun _ => ⟨fun _ _ e => by obtain ⟨d, _, rfl⟩ := sink_ok.mp e; rfl⟩⟩

theorem fl_modS {g : State → State} (h : ∀ s, frL (g s) = frL s) : Fl (modS g) :=
  ⟨fun s => ⟨fun _ _ e => by rw [modS_ok.mp e]; exact h s⟩⟩

theorem fl_bind {α β : Type} {m : M α} {f : α → M β} (h1 : Fl m) (h2 : ∀ a, Fl (f a)) : Fl (m >>= f) :=
  ⟨fun s => ⟨fun b s'' e => by
    obtain ⟨a, s', e1, e2⟩ := bind_ok.mp e
    exact (fl_run (h2 a) e2).trans (fl_run h1 e1)⟩⟩

theorem fl_getS_bind {β : Type} {f : State → M β} (h : ∀ s, FlAt s (f s)) : Fl (getS >>= f) :=
  ⟨fun s => ⟨fun b s'' e => by
    obtain ⟨a, s', e1, e2⟩ := bind_ok.mp e
    obtain ⟨rfl, rfl⟩ := getS_ok.mp e1
    exact (h _).h b s'' e2⟩⟩

theorem flAt_of {α : Type} {m : M α} (h : Fl m) (s : State) : FlAt s m := h.h s

theorem flAt_set_bind {β : Type} {x s : State} {k : Unit → M β} (hx : frL x = frL s) (h : ∀ u, Fl (k u)) :
    FlAt s (set x >>= k) :=
  ⟨fun b s'' e => by
    obtain ⟨u, s', e1, e2⟩ := bind_ok.mp e
    rw [set_ok.mp e1] at e2
    exact (fl_run (h u) e2).trans hx⟩

theorem flAt_set {x s : State} (hx : frL x = frL s) : FlAt s (set x : M Unit) :=
  ⟨fun _ _ e => by rw [set_ok.mp e]; exact hx⟩

theorem fl_ite {α : Type} {c : Prop} [Decidable c] {a b : M α} (ha : Fl a) (hb : Fl b) :
    Fl (if c then a else b) := by
  split
  · exact ha
  · exact hb

theorem flAt_ite {α : Type} {s : State} {c : Prop} [Decidable c] {a b : M α} (ha : FlAt s a) (hb : FlAt s b) :
    FlAt s (if c then a else b) := by
  split
  · exact ha
  · exact hb

/-- one step of the walk over a helper algorithm (rule order as in `fb_step`, HtmlParseSpecFrame.lean) -/
syntax "ilf_fl_step" : tactic
macro_rules
  | `(tactic| ilf_fl_step) => `(tactic|
    first
      | (with_reducible refine fl_getS_bind (fun _ => ?_))
      | ((with_reducible refine fl_bind ?_ (fun _ => ?_)); first | exact inferInstance | skip)
      | (with_reducible refine flAt_set_bind rfl (fun _ => ?_))
      | (with_reducible exact flAt_set rfl)
      | (with_reducible refine fl_ite ?_ ?_)
      | (with_reducible refine flAt_ite ?_ ?_)
      | intro _
      | with_reducible assumption
      | exact inferInstance
      | exact fl_modS (fun _ => rfl)
      | split
      | (with_reducible refine flAt_of ?_ _)
      | dsimp only)

syntax "ilf_fl" : tactic
macro_rules
  | `(tactic| ilf_fl) => `(tactic| repeat' ilf_fl_step)

/-- the helper algorithms (`Fb`, HtmlParseSpecFrame.lean) keep this frame -/
instance (priority := low) fl_of_fb {α : Type} {m : M α} [h : Fb m] : Fl m :=
  ⟨fun _ => ⟨fun _ _ e => by
    have := fb_run h e
    simp only [frB, Prod.mk.injEq] at this
    simp only [frL, Prod.mk.injEq]
    exact ⟨this.2.2.2.2.2.1, this.2.2.2.2.2.2⟩⟩⟩

instance (m : Mode) : Fl (setMode m) := by unfold setMode; ilf_fl
instance (q : QuirksMode) : Fl (setQuirksMode q) := by unfold setQuirksMode; ilf_fl
instance (k : RawKind) : Fl (toRawTextMode k) := by unfold toRawTextMode; ilf_fl
instance (t : Str) : Fl (appendCommentToDoc t) := by unfold appendCommentToDoc; ilf_fl
instance (t : Str) : Fl (appendCommentToHtml t) := by unfold appendCommentToHtml; ilf_fl
instance (tag : Tag) (k : RawKind) : Fl (parseRawData tag k) := by unfold parseRawData; ilf_fl

instance (tag : Tag) (ns : Str) : Fl (enterForeign tag ns) := by unfold enterForeign; ilf_fl
instance (tag : Tag) : Fl (foreignStartTag tag) := by unfold foreignStartTag; ilf_fl
instance : Fl pendingTableTextEmpty := by unfold pendingTableTextEmpty; ilf_fl
instance (tag : Tag) : Fl (inBodyVoid tag) := by unfold inBodyVoid; ilf_fl
instance (m : Mode) : Fl (setTemplateMode m) := by unfold setTemplateMode; ilf_fl
instance : Fl inTemplateEof := by unfold inTemplateEof; ilf_fl
instance (tok : Token) : Fl (stepInHead tok) := by unfold stepInHead; ilf_fl

/-! ## the strong frame: the stack of open elements is kept, the DOM only grows -/

structure FrS (s s' : State) : Prop where
  lf : s'.ignoreLf = s.ignoreLf
  ctx : s'.contextElem = s.contextElem
  stack : s'.openElems = s.openElems
  ext : Ext s.dom s'.dom

theorem FrS.refl (s : State) : FrS s s := ⟨rfl, rfl, rfl, Ext.refl _⟩

theorem FrS.trans {a b c : State} (h1 : FrS a b) (h2 : FrS b c) : FrS a c :=
  ⟨h2.lf.trans h1.lf, h2.ctx.trans h1.ctx, h2.stack.trans h1.stack, h1.ext.trans h2.ext⟩

theorem FrS.frL {s s' : State} (h : FrS s s') : frL s' = frL s := by
  unfold IgnLf.frL; rw [h.lf, h.ctx]

structure SfAt {α : Type} (s : State) (m : M α) : Prop where
  h : ∀ a s', m s = .ok (a, s') → FrS s s'

/-- `m` leaves `ignore_lf`, `context_elem` and the stack of open elements alone and only extends the DOM -/
class Sf {α : Type} (m : M α) : Prop where
  h : ∀ s, SfAt s m

theorem sf_run {α : Type} {m : M α} (h : Sf m) {s s' : State} {a : α} (e : m s = .ok (a, s')) :
    FrS s s' := (h.h s).h a s' e

theorem fl_of_sf {α : Type} {m : M α} (h : Sf m) : Fl m := ⟨fun _ => ⟨fun _ _ e => (sf_run h e).frL⟩⟩

instance sf_pure {α : Type} (a : α) : Sf (pure a : M α) :=
  ⟨fun _ => ⟨fun _ _ e => by obtain ⟨_, rfl⟩ := pure_ok.mp e; exact FrS.refl _⟩⟩
instance sf_throw {α : Type} (e : String) : Sf (throw e : M α) := ⟨fun _ => ⟨fun _ _ h => absurd h throw_ok⟩⟩
instance sf_panicAt {α : Type} (c f t : String) : Sf (panicAt c f t : M α) :=
  ⟨fun _ => ⟨fun _ _ h => absurd h throw_ok⟩⟩
instance sf_fuelOut {α : Type} (w : String) : Sf (fuelOut w : M α) := ⟨fun _ => ⟨fun _ _ h => absurd h throw_ok⟩⟩
instance sf_getS : Sf getS := ⟨fun _ => ⟨fun _ _ e => by obtain ⟨_, rfl⟩ := getS_ok.mp e; exact FrS.refl _⟩⟩
instance sf_sink (op : SinkOp) : Sf (sink op) :=
  ⟨fun _ => ⟨fun _ _ e => by obtain ⟨d, hd, rfl⟩ := sink_ok.mp e; exact ⟨rfl, rfl, rfl, apply_ext hd⟩⟩⟩

theorem sf_modS {g : State → State} (h : ∀ s, FrS s (g s)) : Sf (modS g) :=
  ⟨fun s => ⟨fun _ _ e => by rw [modS_ok.mp e]; exact h s⟩⟩

theorem sf_bind {α β : Type} {m : M α} {f : α → M β} (h1 : Sf m) (h2 : ∀ a, Sf (f a)) : Sf (m >>= f) :=
  ⟨fun s => ⟨fun b s'' e => by
    obtain ⟨a, s', e1, e2⟩ := bind_ok.mp e
    exact (sf_run h1 e1).trans (sf_run (h2 a) e2)⟩⟩

/-- a sink call followed by a computation on its answer -/
theorem sf_sink_bind {β : Type} {op : SinkOp} {k : Output → M β} (h : ∀ out, Sf (k out)) : Sf (sink op >>= k) :=
  sf_bind (sf_sink op) h

theorem sf_getS_bind {β : Type} {f : State → M β} (h : ∀ s, SfAt s (f s)) : Sf (getS >>= f) :=
  ⟨fun s => ⟨fun b s'' e => by
    obtain ⟨a, s', e1, e2⟩ := bind_ok.mp e
    obtain ⟨rfl, rfl⟩ := getS_ok.mp e1
    exact (h _).h b s'' e2⟩⟩

theorem sfAt_of {α : Type} {m : M α} (h : Sf m) (s : State) : SfAt s m := h.h s

theorem sf_ite {α : Type} {c : Prop} [Decidable c] {a b : M α} (ha : Sf a) (hb : Sf b) :
    Sf (if c then a else b) := by
  split
  · exact ha
  · exact hb

theorem sfAt_ite {α : Type} {s : State} {c : Prop} [Decidable c] {a b : M α} (ha : SfAt s a) (hb : SfAt s b) :
    SfAt s (if c then a else b) := by
  split
  · exact ha
  · exact hb

syntax "ilf_sf_step" : tactic
macro_rules
  | `(tactic| ilf_sf_step) => `(tactic|
    first
      | (with_reducible refine sf_getS_bind (fun _ => ?_))
      -- the answer of a sink call is taken apart at once: what follows is a `match` on it
      | ((with_reducible refine sf_sink_bind ?_); intro out; cases out <;> dsimp only)
      | ((with_reducible refine sf_bind ?_ (fun _ => ?_)); first | exact inferInstance | skip)
      | (with_reducible refine sf_ite ?_ ?_)
      | (with_reducible refine sfAt_ite ?_ ?_)
      | intro _
      | with_reducible assumption
      | exact inferInstance
      | exact sf_modS (fun _ => ⟨rfl, rfl, rfl, Ext.refl _⟩)
      | split
      | (with_reducible refine sfAt_of ?_ _)
      | dsimp only)

syntax "ilf_sf" : tactic
macro_rules
  | `(tactic| ilf_sf) => `(tactic| repeat' ilf_sf_step)

instance (op : SinkOp) : Sf (sinkUnit op) := by unfold sinkUnit; ilf_sf
instance (op : SinkOp) : Sf (sinkNode op) := by unfold sinkNode; ilf_sf
instance (op : SinkOp) : Sf (sinkBool op) := by unfold sinkBool; ilf_sf
instance (msg : String) : Sf (parseError msg) := by unfold parseError; ilf_sf
instance (h : Id) : Sf (elemName h) := by unfold elemName; ilf_sf
instance (h : Id) (n : Str) : Sf (htmlElemNamedS h n) := by unfold htmlElemNamedS; ilf_sf
instance (h : Id) (n : String) : Sf (htmlElemNamed h n) := by unfold htmlElemNamed; ilf_sf
instance (h : Id) (set : EName → Bool) : Sf (elemIn h set) := by unfold elemIn; ilf_sf
instance : Sf currentNode := by
  unfold currentNode
  refine sf_getS_bind fun s => ?_
  cases s.openElems.getLast? <;> exact sfAt_of inferInstance _
instance : Sf htmlElem := by unfold htmlElem; ilf_sf
instance (b : Bool) : Sf (setFramesetOk b) := by unfold setFramesetOk; ilf_sf
instance : Sf unexpected := by unfold unexpected; ilf_sf
instance (k : RawKind) : Sf (toRawTextMode k) := by unfold toRawTextMode; ilf_sf
instance (n : QualName) (a : List Attr) (d : Bool) : Sf (createElementWithFlags n a d) := by
  unfold createElementWithFlags; ilf_sf
theorem sf_fosterLoop : ∀ l, Sf (fosterLoop l)
  | [] => by unfold fosterLoop; ilf_sf
  | _ :: rest => by
    have ih := sf_fosterLoop rest
    unfold fosterLoop; ilf_sf
instance (l : List Id) : Sf (fosterLoop l) := sf_fosterLoop l
instance (o : Option Id) : Sf (appropriatePlaceForInsertion o) := by unfold appropriatePlaceForInsertion; ilf_sf
instance (p : InsertionPoint) (c : NodeOrText) : Sf (insertAt p c) := by
  cases p <;> (unfold insertAt; exact inferInstance)
theorem sf_anyHtmlElemNamed (n : String) : ∀ l, Sf (anyHtmlElemNamed n l)
  | [] => by unfold anyHtmlElemNamed; ilf_sf
  | _ :: rest => by
    have ih := sf_anyHtmlElemNamed n rest
    unfold anyHtmlElemNamed; ilf_sf
instance (n : String) (l : List Id) : Sf (anyHtmlElemNamed n l) := sf_anyHtmlElemNamed n l
instance (n : String) : Sf (inHtmlElemNamed n) := by unfold inHtmlElemNamed; ilf_sf

/-! ## element names -/

theorem elemName_sig {d : Dom} {h : Id} {ns loc : Str} :
    d.elemName h = .ok (ns, loc) ↔ ∃ x, sigOf d h = some x ∧ x.1.ns = ns ∧ x.1.loc = loc := by
  unfold Dom.elemName Dom.get sigOf Dom.dataOf
  cases hn : d.nodes[h]? with
  | none => simp [bind, Except.bind]
  | some n =>
    cases hd : n.data <;>
      simp [bind, Except.bind, hd, H5V.Lemmas.TBSafe.sigData, throw, throwThe, MonadExceptOf.throw]

theorem elemName_ext {d d' : Dom} {h : Id} {ns loc : Str} (he : Ext d d') (hn : d.elemName h = .ok (ns, loc)) :
    d'.elemName h = .ok (ns, loc) := by
  obtain ⟨x, hx, h1, h2⟩ := elemName_sig.mp hn
  exact elemName_sig.mpr ⟨x, he h x hx, h1, h2⟩

theorem apply_elemName_ok {d d' : Dom} {h : Id} {out : Output} :
    d.apply (.elemName h) = .ok (d', out) ↔ ∃ ns loc, d.elemName h = .ok (ns, loc) ∧ d' = d ∧ out = .name ns loc := by
  unfold Dom.apply Dom.applyV
  cases hn : d.elemName h with
  | error e => simp [bind, Except.bind, hn]
  | ok p =>
    obtain ⟨ns, loc⟩ := p
    simp only [bind, Except.bind, hn, Except.ok.injEq, Prod.mk.injEq]
    constructor
    · rintro ⟨rfl, rfl⟩; exact ⟨ns, loc, ⟨rfl, rfl⟩, rfl, rfl⟩
    · rintro ⟨ns', loc', ⟨rfl, rfl⟩, rfl, rfl⟩; exact ⟨rfl, rfl⟩

/-- the current node is an HTML element, and it is the adjusted current node (the stack has at least
two entries, so the context element of a fragment parse is not consulted) -/
def TopHtml (s : State) : Prop :=
  ∃ top loc, s.openElems.getLast? = some top ∧ s.dom.elemName top = .ok (nsHtml, loc) ∧ 2 ≤ s.openElems.length

theorem TopHtml.of_frS {s s' : State} (h : TopHtml s) (f : FrS s s') : TopHtml s' := by
  obtain ⟨top, loc, h1, h2, h3⟩ := h
  exact ⟨top, loc, by rw [f.stack]; exact h1, elemName_ext f.ext h2, by rw [f.stack]; exact h3⟩

/-- **the syntactic invariant**: when the "ignore the next LF" flag is set, the current node is an HTML
element on a stack of at least two entries -/
def IgnS (s : State) : Prop := s.ignoreLf = true → TopHtml s

/-! ## partial correctness of one run -/

open TextMode (ok_pure ok_throw ok_panicAt ok_fuelOut ok_bind ok_mono ok_getS_bind ok_modS_bind ok_panicAt_bind
  ok_pure_bind ok_ite_jp)

/-- `TextMode.Ok` under the name the statements of this file use; its rules are those of `Ok` -/
def Okl {α : Type} (m : M α) (s : State) (Q : α → State → Prop) : Prop := ∀ a s', m s = .ok (a, s') → Q a s'

theorem okl_throw {α : Type} {e : String} {s : State} {Q : α → State → Prop} : Okl (throw e : M α) s Q :=
  ok_throw

theorem okl_fl {α : Type} (m : M α) [h : Fl m] (s : State) : Okl m s (fun _ s' => frL s' = frL s) :=
  fun _ _ e => fl_run h e

theorem okl_fl_bind {α β : Type} {m : M α} [h : Fl m] {f : α → M β} {s : State} {Q : β → State → Prop}
    (h2 : ∀ a s1, frL s1 = frL s → Okl (f a) s1 Q) : Okl (m >>= f) s Q :=
  ok_bind (okl_fl m s) h2

theorem okl_sf {α : Type} (m : M α) [h : Sf m] (s : State) : Okl m s (fun _ s' => FrS s s') :=
  fun _ _ e => sf_run h e

theorem okl_sf_bind {α β : Type} {m : M α} [h : Sf m] {f : α → M β} {s : State} {Q : β → State → Prop}
    (h2 : ∀ a s1, FrS s s1 → Okl (f a) s1 Q) : Okl (m >>= f) s Q :=
  ok_bind (okl_sf m s) h2

theorem okl_sf_bind' {α β : Type} {m : M α} (h : Sf m) {f : α → M β} {s : State} {Q : β → State → Prop}
    (h2 : ∀ a s1, FrS s s1 → Okl (f a) s1 Q) : Okl (m >>= f) s Q :=
  ok_bind (fun _ _ e => sf_run h e) h2

/-! ## `insert_element` pushes an element with the requested name on a non-empty stack -/

/-- `appropriate_place_for_insertion(None)` consults the current node first: the stack is not empty -/
theorem appropriatePlace_nonempty {s s' : State} {ip : InsertionPoint}
    (e : appropriatePlaceForInsertion none s = .ok (ip, s')) : s.openElems ≠ [] := by
  intro h0
  unfold appropriatePlaceForInsertion at e
  obtain ⟨a, s1, e1, _⟩ := bind_ok.mp e
  unfold currentNode at e1
  obtain ⟨s0, s2, e2, e3⟩ := bind_ok.mp e1
  obtain ⟨rfl, rfl⟩ := getS_ok.mp e2
  rw [h0] at e3
  exact absurd e3 throw_ok

/-- `create_element` answers a node that carries the requested name -/
theorem okl_createElementWithFlags (name : QualName) (attrs : List Attr) (hadDup : Bool) (s : State) :
    Okl (createElementWithFlags name attrs hadDup) s
      (fun r s' => FrS s s' ∧ s'.dom.elemName r = .ok (name.ns, name.loc)) := by
  intro r s' e
  refine ⟨sf_run inferInstance e, ?_⟩
  unfold createElementWithFlags at e
  obtain ⟨d, hd, rfl⟩ := sink_ok.mp (sinkNode_ok.mp e)
  rw [H5V.Lemmas.TBSafe.apply_createElement] at hd
  cases hd
  obtain ⟨_, tc, hs, _⟩ := H5V.Lemmas.TBSafe.createElement_spec s.dom name attrs
    { template := name.ns == nsHtml && isName name.loc "template",
      mathmlIP := (if name.ns == nsMathml && isName name.loc "annotation-xml" then
        attrs.any (fun a => a.name.ns == [] && isName a.name.loc "encoding" &&
          (eqIgnoreAsciiCase a.value "text/html".toList ||
           eqIgnoreAsciiCase a.value "application/xhtml+xml".toList)) else false),
      hadDuplicateAttributes := hadDup }
  exact elemName_sig.mpr ⟨_, hs, rfl, rfl⟩

/-- what `insert_element(Push, ns, name, …)` guarantees -/
structure Pushed (ns : Str) (s : State) (r : Id) (s' : State) : Prop where
  fl : frL s' = frL s
  ne : s.openElems ≠ []
  stack : s'.openElems = s.openElems ++ [r]
  name : ∃ loc, s'.dom.elemName r = .ok (ns, loc)

theorem okl_insertElement_push (ns name : Str) (attrs : List Attr) (hadDup : Bool) (s : State) :
    Okl (insertElement true ns name attrs hadDup) s (Pushed ns s) := by
  unfold insertElement
  refine ok_bind (P := fun _ s1 => FrS s s1 ∧ s.openElems ≠ [])
    (fun ip s1 e => ⟨sf_run inferInstance e, appropriatePlace_nonempty e⟩) ?_
  rintro ip s1 ⟨f1, hne⟩
  dsimp only
  refine ok_getS_bind ?_
  -- the insertion itself, from a state with the frame of `s`
  have hjp : ∀ (elem : Id) (s4 : State), FrS s s4 → s4.dom.elemName elem = .ok (ns, name) →
      Okl (do
        insertAt ip (NodeOrText.node elem)
        if true = true then do
            push elem
            pure elem
          else pure elem) s4 (Pushed ns s) := by
    intro elem s4 f4 hn4
    refine okl_sf_bind ?_
    intro _ s5 f5
    rw [if_pos rfl]
    unfold push
    refine ok_modS_bind ?_
    refine ok_pure ⟨?_, hne, ?_, name, ?_⟩
    · exact (f4.trans f5).frL
    · show s5.openElems ++ [elem] = s.openElems ++ [elem]
      rw [(f4.trans f5).stack]
    · exact elemName_ext f5.ext hn4
  have htail : ∀ (fa : Bool) (s2 : State), FrS s s2 →
      Okl (do
        let elem ← createElementWithFlags { pfx := none, ns := ns, loc := name } attrs hadDup
        if fa = true then do
            let __do_lift ← getS
            match __do_lift.formElem with
              | some form => do
                sinkUnit (SinkOp.associateWithForm elem form ip.nodes.fst ip.nodes.snd)
                insertAt ip (NodeOrText.node elem)
                if true = true then do
                    push elem
                    pure elem
                  else pure elem
              | none => do
                panicAt "unwrap-none" "mod.rs:1401" "form_elem unwrap"
                insertAt ip (NodeOrText.node elem)
                if true = true then do
                    push elem
                    pure elem
                  else pure elem
          else do
            insertAt ip (NodeOrText.node elem)
            if true = true then do
                push elem
                pure elem
              else pure elem) s2 (Pushed ns s) := by
    intro fa s2 f2
    refine ok_bind (okl_createElementWithFlags _ _ _ s2) ?_
    rintro elem s3 ⟨f3, hn3⟩
    split
    · refine ok_getS_bind ?_
      split
      · refine okl_sf_bind ?_
        intro _ s4 f4
        exact hjp elem s4 ((f2.trans f3).trans f4) (elemName_ext f4.ext hn3)
      · exact ok_panicAt_bind
    · exact hjp elem s3 (f2.trans f3) hn3
  split
  · refine okl_sf_bind ?_
    intro b s2 f2
    split
    · exact ok_pure_bind (htail false s2 (f1.trans f2))
    · exact ok_pure_bind (htail _ s2 (f1.trans f2))
  · exact ok_pure_bind (htail false s1 f1)

theorem okl_insertElementFor (tag : Tag) (s : State) : Okl (insertElementFor tag) s (Pushed nsHtml s) := by
  unfold insertElementFor
  exact okl_insertElement_push _ _ _ _ s

/-- the state after the push has the new HTML element on top of at least one other element -/
theorem Pushed.topHtml {s s' : State} {r : Id} (h : Pushed nsHtml s r s') : TopHtml s' := by
  obtain ⟨loc, hn⟩ := h.name
  refine ⟨r, loc, by rw [h.stack]; simp, hn, ?_⟩
  rw [h.stack, List.length_append]
  have : 0 < s.openElems.length := List.length_pos_iff.mpr h.ne
  simp only [List.length_cons, List.length_nil]
  omega

/-! ## `HL`: the rules -/

def isTagTok : Token → Bool
  | .tag _ => true
  | _ => false

/-- an answer that does not re-process -/
def Plain : ProcessResult → Bool
  | .reprocess _ _ => false
  | .reprocessForeign _ => false
  | _ => true

/-- the answers of the arms that set the flag -/
def Fin (a : ProcessResult) : Prop := a = .done ∨ ∃ k, a = .toRawData k

/-- what a rule that was handed `tok` guarantees -/
structure RQ (tok : Token) (s : State) (a : ProcessResult) (s' : State) : Prop where
  ctx : s'.contextElem = s.contextElem
  rep : ∀ m t, a = .reprocess m t → t = tok
  repf : ∀ t, a = .reprocessForeign t → t = tok
  lf : s'.ignoreLf = s.ignoreLf ∨ (isTagTok tok = true ∧ s'.ignoreLf = true ∧ TopHtml s' ∧ Fin a)

theorem RQ.of_fl_left {tok : Token} {s s1 s' : State} {a : ProcessResult} (h : RQ tok s1 a s')
    (hf : frL s1 = frL s) : RQ tok s a s' :=
  ⟨h.ctx.trans (frL_eq hf).2, h.rep, h.repf, by rw [← (frL_eq hf).1]; exact h.lf⟩

theorem RQ.of_fl_right {tok : Token} {s s1 s' : State} {a : ProcessResult} (h : RQ tok s a s1)
    (h0 : s1.ignoreLf = s.ignoreLf) (hf : frL s' = frL s1) : RQ tok s a s' :=
  ⟨(frL_eq hf).2.trans h.ctx, h.rep, h.repf, Or.inl ((frL_eq hf).1.trans h0)⟩

theorem RQ.of_sf_right {tok : Token} {s s1 s' : State} {a : ProcessResult} (h : RQ tok s a s1)
    (hf : FrS s1 s') : RQ tok s a s' :=
  ⟨hf.ctx.trans h.ctx, h.rep, h.repf, by
    rcases h.lf with h1 | ⟨h1, h2, h3, h4⟩
    · exact Or.inl (hf.lf.trans h1)
    · exact Or.inr ⟨h1, hf.lf.trans h2, h3.of_frS hf, h4⟩⟩

theorem RQ.plain {tok : Token} {s : State} {a : ProcessResult} (h : Plain a = true) : RQ tok s a s :=
  ⟨rfl, fun m t e => (by rw [e] at h; cases h), fun t e => (by rw [e] at h; cases h), Or.inl rfl⟩

structure HLAt (s : State) (tok : Token) (m : M ProcessResult) : Prop where
  h : ∀ a s', m s = .ok (a, s') → RQ tok s a s'

class HL (tok : Token) (m : M ProcessResult) : Prop where
  h : ∀ s, HLAt s tok m

theorem hl_run {tok : Token} {m : M ProcessResult} (h : HL tok m) {s s' : State} {a : ProcessResult}
    (e : m s = .ok (a, s')) : RQ tok s a s' := (h.h s).h a s' e

theorem hl_pure_plain {tok : Token} {a : ProcessResult} (h : Plain a = true) : HL tok (pure a) :=
  ⟨fun _ => ⟨fun _ _ e => by obtain ⟨rfl, rfl⟩ := pure_ok.mp e; exact RQ.plain h⟩⟩

theorem hl_pure_rep {tok : Token} {m : Mode} : HL tok (pure (.reprocess m tok)) :=
  ⟨fun _ => ⟨fun _ _ e => by
    obtain ⟨rfl, rfl⟩ := pure_ok.mp e
    exact ⟨rfl, fun _ _ e => (by cases e; rfl), fun _ e => (by cases e), Or.inl rfl⟩⟩⟩

instance hl_throw {tok : Token} (e : String) : HL tok (throw e) := ⟨fun _ => ⟨fun _ _ h => absurd h throw_ok⟩⟩
instance hl_panicAt {tok : Token} (c f t : String) : HL tok (panicAt c f t) :=
  ⟨fun _ => ⟨fun _ _ h => absurd h throw_ok⟩⟩
instance hl_fuelOut {tok : Token} (w : String) : HL tok (fuelOut w) := ⟨fun _ => ⟨fun _ _ h => absurd h throw_ok⟩⟩

theorem hl_bind {α : Type} {tok : Token} {m : M α} {f : α → M ProcessResult} (h1 : Fl m) (h2 : ∀ a, HL tok (f a)) :
    HL tok (m >>= f) :=
  ⟨fun s => ⟨fun b s'' e => by
    obtain ⟨a, s', e1, e2⟩ := bind_ok.mp e
    exact (hl_run (h2 a) e2).of_fl_left (fl_run h1 e1)⟩⟩

theorem hl_getS_bind {tok : Token} {f : State → M ProcessResult} (h : ∀ s, HLAt s tok (f s)) : HL tok (getS >>= f) :=
  ⟨fun s => ⟨fun b s'' e => by
    obtain ⟨a, s', e1, e2⟩ := bind_ok.mp e
    obtain ⟨rfl, rfl⟩ := getS_ok.mp e1
    exact (h _).h b s'' e2⟩⟩

theorem hlAt_of {tok : Token} {m : M ProcessResult} (h : HL tok m) (s : State) : HLAt s tok m := h.h s

theorem hlAt_set_bind {tok : Token} {x s : State} {k : Unit → M ProcessResult} (hx : frL x = frL s)
    (h : ∀ u, HL tok (k u)) : HLAt s tok (set x >>= k) :=
  ⟨fun b s'' e => by
    obtain ⟨u, s', e1, e2⟩ := bind_ok.mp e
    rw [set_ok.mp e1] at e2
    exact (hl_run (h u) e2).of_fl_left hx⟩

theorem hl_ite {tok : Token} {c : Prop} [Decidable c] {a b : M ProcessResult} (ha : HL tok a) (hb : HL tok b) :
    HL tok (if c then a else b) := by
  split
  · exact ha
  · exact hb

theorem hlAt_ite {tok : Token} {s : State} {c : Prop} [Decidable c] {a b : M ProcessResult} (ha : HLAt s tok a)
    (hb : HLAt s tok b) : HLAt s tok (if c then a else b) := by
  split
  · exact ha
  · exact hb

/-- a rule that keeps the frame is a frame-keeping computation … -/
theorem hl_of_fl_plain {tok : Token} {m : M ProcessResult} (h : Fl m)
    (hp : ∀ s a s', m s = .ok (a, s') → Plain a = true) : HL tok m :=
  ⟨fun s => ⟨fun a s' e => by
    have hf := frL_eq (fl_run h e)
    have hpl := hp s a s' e
    exact ⟨hf.2, fun m t e => (by rw [e] at hpl; cases hpl), fun t e => (by rw [e] at hpl; cases hpl), Or.inl hf.1⟩⟩⟩

/-- … and a rule that was handed something else than a tag keeps the frame -/
theorem fl_of_hl {tok : Token} {m : M ProcessResult} (h : HL tok m) (ht : isTagTok tok = false) : Fl m :=
  ⟨fun s => ⟨fun a s' e => by
    have hq := hl_run h e
    unfold frL
    rw [hq.ctx]
    rcases hq.lf with h1 | ⟨h1, _⟩
    · rw [h1]
    · rw [ht] at h1; cases h1⟩⟩

/-- `m` answers `a` and keeps the frame -/
structure FlRet {α : Type} (a : α) (m : M α) : Prop where
  h : ∀ s b s', m s = .ok (b, s') → b = a ∧ frL s' = frL s

theorem flRet_pure {α : Type} (a : α) : FlRet a (pure a : M α) :=
  ⟨fun _ _ _ e => by obtain ⟨rfl, rfl⟩ := pure_ok.mp e; exact ⟨rfl, rfl⟩⟩

theorem flRet_bind {α β : Type} {b : β} {m : M α} {f : α → M β} (h1 : Fl m) (h2 : ∀ a, FlRet b (f a)) :
    FlRet b (m >>= f) :=
  ⟨fun s c s'' e => by
    obtain ⟨a, s', e1, e2⟩ := bind_ok.mp e
    obtain ⟨r, f2⟩ := (h2 a).h s' c s'' e2
    exact ⟨r, f2.trans (fl_run h1 e1)⟩⟩

/-- `m` answers `a` and keeps the strong frame -/
structure SfRet {α : Type} (a : α) (m : M α) : Prop where
  h : ∀ s b s', m s = .ok (b, s') → b = a ∧ FrS s s'

theorem sfRet_pure {α : Type} (a : α) : SfRet a (pure a : M α) :=
  ⟨fun _ _ _ e => by obtain ⟨rfl, rfl⟩ := pure_ok.mp e; exact ⟨rfl, FrS.refl _⟩⟩

theorem sfRet_bind {α β : Type} {b : β} {m : M α} {f : α → M β} (h1 : Sf m) (h2 : ∀ a, SfRet b (f a)) :
    SfRet b (m >>= f) :=
  ⟨fun s c s'' e => by
    obtain ⟨a, s', e1, e2⟩ := bind_ok.mp e
    obtain ⟨r, f2⟩ := (h2 a).h s' c s'' e2
    exact ⟨r, (sf_run h1 e1).trans f2⟩⟩

/-- a frame-keeping rule whose answer is handed on after some frame-keeping clean-up (the clean-up may
touch the stack: the rule has not set the flag) -/
theorem hl_ret_fl {tok : Token} {m : M ProcessResult} {f : ProcessResult → M ProcessResult} (h0 : Fl m)
    (h1 : HL tok m) (h2 : ∀ a, FlRet a (f a)) : HL tok (m >>= f) :=
  ⟨fun s => ⟨fun b s'' e => by
    obtain ⟨a, s', e1, e2⟩ := bind_ok.mp e
    obtain ⟨rfl, f2⟩ := (h2 a).h s' b s'' e2
    exact (hl_run h1 e1).of_fl_right (frL_eq (fl_run h0 e1)).1 f2⟩⟩

/-- a rule whose answer is handed on after a clean-up that keeps the stack and the element names -/
theorem hl_ret_sf {tok : Token} {m : M ProcessResult} {f : ProcessResult → M ProcessResult}
    (h1 : HL tok m) (h2 : ∀ a, SfRet a (f a)) : HL tok (m >>= f) :=
  ⟨fun s => ⟨fun b s'' e => by
    obtain ⟨a, s', e1, e2⟩ := bind_ok.mp e
    obtain ⟨rfl, f2⟩ := (h2 a).h s' b s'' e2
    exact (hl_run h1 e1).of_sf_right f2⟩⟩

/-- one step of the walk over a rule (as `ilf_fl_step`: rules that fire by head symbol first, those for the
judgement of a rule before those for the helpers inside it) -/
syntax "ilf_step" : tactic
macro_rules
  | `(tactic| ilf_step) => `(tactic|
    first
      | (with_reducible refine hl_getS_bind (fun _ => ?_))
      | ((with_reducible refine hl_bind ?_ (fun _ => ?_)); first | exact inferInstance | skip)
      | (with_reducible refine hl_ite ?_ ?_)
      | (with_reducible refine hlAt_set_bind rfl (fun _ => ?_))
      | (with_reducible refine hlAt_ite ?_ ?_)
      | (with_reducible exact flRet_pure _)
      | (with_reducible exact sfRet_pure _)
      | ((with_reducible refine flRet_bind ?_ (fun _ => ?_)); first | exact inferInstance | skip)
      | ((with_reducible refine sfRet_bind ?_ (fun _ => ?_)); first | exact inferInstance | skip)
      | (with_reducible refine fl_getS_bind (fun _ => ?_))
      | ((with_reducible refine fl_bind ?_ (fun _ => ?_)); first | exact inferInstance | skip)
      | (with_reducible refine fl_ite ?_ ?_)
      | (with_reducible refine flAt_set_bind rfl (fun _ => ?_))
      | (with_reducible exact flAt_set rfl)
      | (with_reducible refine flAt_ite ?_ ?_)
      | intro _
      | with_reducible assumption
      | exact inferInstance
      | exact hl_pure_plain rfl
      | exact hl_pure_rep
      | exact fl_modS (fun _ => rfl)
      | exact sf_modS (fun _ => ⟨rfl, rfl, rfl, Ext.refl _⟩)
      | split
      | (with_reducible refine hlAt_of ?_ _)
      | (with_reducible refine flAt_of ?_ _)
      | dsimp only)

syntax "ilf_walk" : tactic
macro_rules
  | `(tactic| ilf_walk) => `(tactic| repeat' ilf_step)

/-! ### the three arms that set the flag -/

/-- the `<pre>` / `<listing>` arm of "in body", after `close_p_element_in_button_scope` -/
theorem hl_preArm (tag : Tag) : HL (.tag tag) (do
    let _ ← insertElementFor tag
    modS fun s => { s with ignoreLf := true }
    setFramesetOk false
    pure ProcessResult.done) :=
  ⟨fun s => ⟨fun a s' e => by
    obtain ⟨r, s1, e1, e2⟩ := bind_ok.mp e
    have hp := okl_insertElementFor tag s r s1 e1
    obtain ⟨u, s2, e3, e4⟩ := bind_ok.mp e2
    rw [modS_ok.mp e3] at e4
    obtain ⟨u', s3, e5, e6⟩ := bind_ok.mp e4
    obtain ⟨rfl, rfl⟩ := pure_ok.mp e6
    have f3 : FrS { s1 with ignoreLf := true } s3 := sf_run inferInstance e5
    have ht : TopHtml ({ s1 with ignoreLf := true } : State) := hp.topHtml
    exact ⟨f3.ctx.trans (frL_eq hp.fl).2, fun _ _ e => (by cases e), fun _ e => (by cases e),
      Or.inr ⟨rfl, f3.lf, ht.of_frS f3, Or.inl rfl⟩⟩⟩⟩

/-- the `<textarea>` arm of "in body" -/
theorem hl_textareaArm (tag : Tag) : HL (.tag tag) (do
    modS fun s => { s with ignoreLf := true }
    setFramesetOk false
    parseRawData tag .rcdata) :=
  ⟨fun s => ⟨fun a s' e => by
    obtain ⟨u, s1, e1, e2⟩ := bind_ok.mp e
    rw [modS_ok.mp e1] at e2
    obtain ⟨u', s2, e3, e4⟩ := bind_ok.mp e2
    have f2 : FrS { s with ignoreLf := true } s2 := sf_run inferInstance e3
    unfold parseRawData at e4
    obtain ⟨r, s3, e5, e6⟩ := bind_ok.mp e4
    have hp := okl_insertElementFor tag s2 r s3 e5
    have f4 : FrS s3 s' := sf_run inferInstance e6
    have ha : ∃ k, a = .toRawData k := by
      unfold toRawTextMode at e6
      obtain ⟨_, s4, _, e8⟩ := bind_ok.mp e6
      obtain ⟨rfl, _⟩ := pure_ok.mp e8
      exact ⟨_, rfl⟩
    have hlf : s'.ignoreLf = true := f4.lf.trans ((frL_eq hp.fl).1.trans f2.lf)
    exact ⟨f4.ctx.trans ((frL_eq hp.fl).2.trans f2.ctx),
      fun _ _ e => (by obtain ⟨k, rfl⟩ := ha; cases e), fun _ e => (by obtain ⟨k, rfl⟩ := ha; cases e),
      Or.inr ⟨rfl, hlf, hp.topHtml.of_frS f4, Or.inr ha⟩⟩⟩⟩

macro_rules
  | `(tactic| ilf_step) => `(tactic|
    first
      | (with_reducible exact hl_preArm _)
      | (with_reducible exact hl_textareaArm _))

/-! ### helpers -/

instance {tok : Token} : HL tok unexpected := by unfold unexpected; ilf_walk
instance {tok : Token} (t : Str) : HL tok (appendText t) := by unfold appendText; ilf_walk
instance {tok : Token} (t : Str) : HL tok (appendComment t) := by unfold appendComment; ilf_walk
instance {tok : Token} (t : Str) : HL tok (appendCommentToDoc t) := by unfold appendCommentToDoc; ilf_walk
instance {tok : Token} (t : Str) : HL tok (appendCommentToHtml t) := by unfold appendCommentToHtml; ilf_walk
instance {tok : Token} (tag : Tag) : HL tok (inBodyHtml tag) := by unfold inBodyHtml; ilf_walk
instance {tok : Token} (tag : Tag) : HL tok (inBodyVoid tag) := by unfold inBodyVoid; ilf_walk
instance {tok : Token} (tag : Tag) (ns : Str) : HL tok (enterForeign tag ns) := by unfold enterForeign; ilf_walk
instance {tok : Token} (tag : Tag) : HL tok (foreignStartTag tag) := by unfold foreignStartTag; ilf_walk
instance : HL .eof inTemplateEof := by unfold inTemplateEof; ilf_walk
instance {tok : Token} (k : RawKind) : HL tok (toRawTextMode k) := by unfold toRawTextMode; ilf_walk
instance {tok : Token} (tag : Tag) (k : RawKind) : HL tok (parseRawData tag k) := by unfold parseRawData; ilf_walk

/-! ### the insertion modes -/

instance (tok : Token) : HL tok (stepInitial tok) := by unfold stepInitial; ilf_walk
instance (tok : Token) : HL tok (stepInHead tok) := by unfold stepInHead; ilf_walk

macro_rules
  | `(tactic| ilf_step) => `(tactic|
      (with_reducible refine hl_ret_fl (inferInstance : Fl (stepInHead _)) (inferInstance : HL _ (stepInHead _)) ?_))

instance (tok : Token) : HL tok (stepBeforeHtml tok) := by unfold stepBeforeHtml; ilf_walk
instance (tok : Token) : HL tok (stepInBody tok) := by unfold stepInBody; ilf_walk

macro_rules
  | `(tactic| ilf_step) => `(tactic|
      (with_reducible refine hl_ret_sf (inferInstance : HL _ (stepInBody _)) ?_))

instance (tok : Token) : HL tok (stepBeforeHead tok) := by unfold stepBeforeHead; ilf_walk
instance (tok : Token) : HL tok (stepInHeadNoscript tok) := by unfold stepInHeadNoscript; ilf_walk
instance (tok : Token) : HL tok (stepAfterHead tok) := by unfold stepAfterHead; ilf_walk
instance (tok : Token) : HL tok (stepText tok) := by unfold stepText; ilf_walk
instance (tok : Token) : HL tok (fosterParentInBody tok) := by unfold fosterParentInBody; ilf_walk
instance (st : SplitStatus) (z : Str) : Fl (fosterParentInBody (.chars st z)) :=
  fl_of_hl (tok := .chars st z) inferInstance rfl
instance (tok : Token) : HL tok (processCharsInTable tok) := by unfold processCharsInTable; ilf_walk
instance (tok : Token) : HL tok (stepInTable tok) := by unfold stepInTable; ilf_walk
theorem fl_flushPendingFoster : ∀ l, Fl (flushPendingFoster l)
  | [] => by unfold flushPendingFoster; ilf_fl
  | (_, _) :: rest => by
    have ih := fl_flushPendingFoster rest
    unfold flushPendingFoster; ilf_fl
instance (l : List (SplitStatus × Str)) : Fl (flushPendingFoster l) := fl_flushPendingFoster l
instance (tok : Token) : HL tok (stepInTableText tok) := by unfold stepInTableText; ilf_walk
instance : Fl flushPendingTableText := by unfold flushPendingTableText; ilf_fl
instance (tok : Token) : HL tok (stepInCaption tok) := by unfold stepInCaption; ilf_walk
instance (tok : Token) : HL tok (stepInColumnGroup tok) := by unfold stepInColumnGroup; ilf_walk
instance (tok : Token) : HL tok (stepInTableBody tok) := by unfold stepInTableBody; ilf_walk
instance (tok : Token) : HL tok (stepInRow tok) := by unfold stepInRow; ilf_walk
instance (tok : Token) : HL tok (stepInCell tok) := by unfold stepInCell; ilf_walk
instance (tok : Token) : HL tok (stepInTemplate tok) := by unfold stepInTemplate; ilf_walk
instance (tok : Token) : HL tok (stepAfterBody tok) := by unfold stepAfterBody; ilf_walk
instance (tok : Token) : HL tok (stepInFrameset tok) := by unfold stepInFrameset; ilf_walk
instance (tok : Token) : HL tok (stepAfterFrameset tok) := by unfold stepAfterFrameset; ilf_walk
instance (tok : Token) : HL tok (stepAfterAfterBody tok) := by unfold stepAfterAfterBody; ilf_walk
instance (tok : Token) : HL tok (stepAfterAfterFrameset tok) := by unfold stepAfterAfterFrameset; ilf_walk
instance (mode : Mode) (tok : Token) : HL tok (step mode tok) := by
  cases mode <;> (unfold step; exact inferInstance)
instance (tag : Tag) : HL (.tag tag) (unexpectedStartTagInForeignContent tag) := by
  unfold unexpectedStartTagInForeignContent; ilf_walk
theorem hl_foreignEndTagLoop (tag : Tag) : ∀ i first, HL (.tag tag) (foreignEndTagLoop tag i first)
  | 0, _ => by unfold foreignEndTagLoop; ilf_walk
  | i + 1, _ => by
    have ih := hl_foreignEndTagLoop tag i
    unfold foreignEndTagLoop; ilf_walk
instance (tag : Tag) (i : Nat) (first : Bool) : HL (.tag tag) (foreignEndTagLoop tag i first) :=
  hl_foreignEndTagLoop tag i first
instance (tok : Token) : HL tok (stepForeign tok) := by unfold stepForeign; ilf_walk

/-! ## the loop of `process_to_completion` -/

theorem okl_hl {tok : Token} (m : M ProcessResult) [h : HL tok m] (s : State) :
    Okl m s (fun a s' => RQ tok s a s') := fun _ _ e => hl_run h e

theorem okl_of_fl {α : Type} {m : M α} (h : Fl m) (s : State) : Okl m s (fun _ s' => frL s' = frL s) :=
  fun _ _ e => fl_run h e

/-- the queue of `process_to_completion` holds no tag, and it is empty behind a tag -/
def MoreOk (tok : Token) (more : List Token) : Prop :=
  (∀ t ∈ more, isTagTok t = false) ∧ (isTagTok tok = true → more = [])

/-- what a run of `process_to_completion` from a state with a clear flag guarantees -/
structure LoopPost (tok : Token) (s s' : State) : Prop where
  ctx : s'.contextElem = s.contextElem
  lf : s'.ignoreLf = true → isTagTok tok = true ∧ TopHtml s'

theorem LoopPost.step {tok tok' : Token} {s s1 s' : State} (hc : s1.contextElem = s.contextElem)
    (hl : LoopPost tok' s1 s') (ht : isTagTok tok' = true → isTagTok tok = true) : LoopPost tok s s' :=
  ⟨hl.ctx.trans hc, fun h => ⟨ht (hl.lf h).1, (hl.lf h).2⟩⟩

theorem okl_ptcCont {fuel : Nat} {tok : Token} {more : List Token}
    (ih : ∀ tok more s, s.ignoreLf = false → MoreOk tok more →
      Okl (processToCompletion fuel tok more) s (fun _ s' => LoopPost tok s s'))
    {s s1 : State} {a : ProcessResult} (h0 : s.ignoreLf = false) (hd : RQ tok s a s1) (hmo : MoreOk tok more) :
    Okl (ptcCont fuel tok more a) s1 (fun _ s' => LoopPost tok s s') := by
  -- the loop ends
  have hgood : ∀ s2, FrS s1 s2 → LoopPost tok s s2 := by
    intro s2 f
    refine ⟨f.ctx.trans hd.ctx, fun h => ?_⟩
    rcases hd.lf with h1 | ⟨h1, _, h3, _⟩
    · rw [f.lf, h1, h0] at h; cases h
    · exact ⟨h1, h3.of_frS f⟩
  -- the loop goes on: the flag is still clear
  have hclear : (¬ Fin a ∨ isTagTok tok = false) → s1.ignoreLf = false := by
    intro h
    rcases hd.lf with h1 | ⟨h1, _, _, h4⟩
    · rw [h1, h0]
    · rcases h with h | h
      · exact absurd h4 h
      · rw [h] at h1; cases h1
  have hnext : ∀ s2, FrS s1 s2 → Okl (ptcNext fuel more) s2 (fun _ s' => LoopPost tok s s') := by
    intro s2 f
    unfold ptcNext
    cases hmore : more with
    | nil =>
      dsimp only
      exact ok_pure (hgood s2 f)
    | cons t rest =>
      dsimp only
      have hall : ∀ x ∈ t :: rest, isTagTok x = false := by rw [← hmore]; exact hmo.1
      have hnt : isTagTok tok = false := by
        cases htk : isTagTok tok with
        | false => rfl
        | true => have := hmo.2 htk; rw [hmore] at this; cases this
      have h2 : s2.ignoreLf = false := by rw [f.lf]; exact hclear (Or.inr hnt)
      refine ok_mono (ih t rest s2 h2
        ⟨fun x hx => hall x (List.mem_cons_of_mem _ hx), fun h => by rw [hall t List.mem_cons_self] at h; cases h⟩) ?_
      intro _ s' hl
      exact hl.step (f.ctx.trans hd.ctx) (fun h => by rw [hall t List.mem_cons_self] at h; cases h)
  unfold ptcCont
  dsimp only
  cases a with
  | done =>
    dsimp only
    have hack : ∀ (c : Bool), Okl (if c = true then do
          parseError "Unacknowledged self-closing tag"
          ptcNext fuel more
        else ptcNext fuel more) s1 (fun _ s' => LoopPost tok s s') := by
      intro c
      split
      · refine okl_sf_bind ?_
        intro _ s2 f2
        exact hnext s2 f2
      · exact hnext s1 (FrS.refl _)
    exact hack _
  | doneAckSelfClosing => exact hnext s1 (FrS.refl _)
  | reprocess m t =>
    dsimp only
    have : t = tok := hd.rep m t rfl
    subst this
    have h1 : s1.ignoreLf = false := hclear (Or.inl (fun h => by rcases h with h | ⟨_, h⟩ <;> cases h))
    unfold setMode
    refine ok_modS_bind ?_
    refine ok_mono (ih t more { s1 with mode := m } h1 hmo) ?_
    intro _ s' hl
    exact hl.step (s1 := { s1 with mode := m }) hd.ctx (fun h => h)
  | reprocessForeign t =>
    dsimp only
    have : t = tok := hd.repf t rfl
    subst this
    have h1 : s1.ignoreLf = false := hclear (Or.inl (fun h => by rcases h with h | ⟨_, h⟩ <;> cases h))
    refine ok_mono (ih t more s1 h1 hmo) ?_
    intro _ s' hl
    exact hl.step hd.ctx (fun h => h)
  | splitWhitespace buf =>
    dsimp only
    have h1 : s1.ignoreLf = false := hclear (Or.inl (fun h => by rcases h with h | ⟨_, h⟩ <;> cases h))
    cases hpf : popFrontCharRun buf with
    | none =>
      dsimp only
      exact ok_pure (hgood s1 (FrS.refl _))
    | some x =>
      obtain ⟨first, isWs, rest⟩ := x
      dsimp only
      refine ok_mono (ih _ _ s1 h1 ⟨?_, fun h => by cases h⟩) ?_
      · intro t ht
        split at ht
        · rcases List.mem_append.mp ht with h | h
          · exact hmo.1 t h
          · rw [List.mem_singleton.mp h]; rfl
        · exact hmo.1 t ht
      · intro _ s' hl
        exact hl.step hd.ctx (fun h => by cases h)
  | script node =>
    dsimp only
    split
    · exact ok_panicAt_bind
    · exact ok_pure (hgood s1 (FrS.refl _))
  | toPlaintext =>
    dsimp only
    split
    · exact ok_panicAt_bind
    · exact ok_pure (hgood s1 (FrS.refl _))
  | toRawData k =>
    dsimp only
    split
    · exact ok_panicAt_bind
    · exact ok_pure (hgood s1 (FrS.refl _))
  | encodingIndicator e =>
    exact ok_pure (hgood s1 (FrS.refl _))

theorem okl_ptc : ∀ (fuel : Nat) (tok : Token) (more : List Token) (s : State), s.ignoreLf = false →
    MoreOk tok more → Okl (processToCompletion fuel tok more) s (fun _ s' => LoopPost tok s s') := by
  intro fuel
  induction fuel with
  | zero =>
    intro tok more s _ _
    unfold processToCompletion
    exact ok_fuelOut
  | succ fuel ih =>
    intro tok more s h0 hmo
    rw [processToCompletion_succ]
    refine okl_fl_bind ?_
    intro b s1 hf1
    dsimp only
    split
    · exact ok_bind (okl_hl (tok := tok) _ s1) (fun a s2 hd => okl_ptcCont ih h0 (hd.of_fl_left hf1) hmo)
    · refine ok_getS_bind ?_
      exact ok_bind (okl_hl (tok := tok) _ s1) (fun a s2 hd => okl_ptcCont ih h0 (hd.of_fl_left hf1) hmo)

/-! ## `process_token` -/

/-- the stack of open elements and every answer of `elem_name` are the same -/
structure FrN (s s' : State) : Prop where
  lf : s'.ignoreLf = s.ignoreLf
  ctx : s'.contextElem = s.contextElem
  stack : s'.openElems = s.openElems
  names : ∀ h, s'.dom.elemName h = s.dom.elemName h

theorem FrN.refl (s : State) : FrN s s := ⟨rfl, rfl, rfl, fun _ => rfl⟩

theorem FrN.trans {a b c : State} (h1 : FrN a b) (h2 : FrN b c) : FrN a c :=
  ⟨h2.lf.trans h1.lf, h2.ctx.trans h1.ctx, h2.stack.trans h1.stack, fun h => (h2.names h).trans (h1.names h)⟩

theorem FrN.frL {s s' : State} (h : FrN s s') : frL s' = frL s := by
  unfold IgnLf.frL; rw [h.lf, h.ctx]

theorem TopHtml.of_frN {s s' : State} (h : TopHtml s) (f : FrN s s') : TopHtml s' := by
  obtain ⟨top, loc, h1, h2, h3⟩ := h
  exact ⟨top, loc, by rw [f.stack]; exact h1, by rw [f.names]; exact h2, by rw [f.stack]; exact h3⟩

theorem okl_sinkUnit_setLine (line : Nat) (s : State) :
    Okl (sinkUnit (.setCurrentLine line)) s (fun _ s' => FrN s s') := by
  intro _ s' e
  obtain ⟨out, e1⟩ := sinkUnit_ok.mp e
  obtain ⟨d, hd, rfl⟩ := sink_ok.mp e1
  rw [H5V.Lemmas.TBSafe.apply_setLine] at hd
  cases hd
  exact ⟨rfl, rfl, rfl, fun _ => rfl⟩

theorem okl_sinkUnit_parseError (msg : Str) (s : State) :
    Okl (sinkUnit (.parseError msg)) s (fun _ s' => FrN s s') := by
  intro _ s' e
  obtain ⟨out, e1⟩ := sinkUnit_ok.mp e
  obtain ⟨d, hd, rfl⟩ := sink_ok.mp e1
  rw [H5V.Lemmas.TBSafe.apply_parseError] at hd
  cases hd
  exact ⟨rfl, rfl, rfl, fun _ => rfl⟩

/-- what `process_token` guarantees -/
structure TokPost (t : TokToken) (s s' : State) : Prop where
  ctx : s'.contextElem = s.contextElem
  lf : s'.ignoreLf = true →
    ((∃ tg, t = .tag tg) ∧ TopHtml s') ∨ ((∃ e, t = .parseError e) ∧ s.ignoreLf = true ∧ FrN s s')

theorem okl_ptFinish (t : TokToken) {s : State} (tb : Option Token) (s3 : State)
    (hc : s3.contextElem = s.contextElem)
    (hlf : s3.ignoreLf = true → (∃ e, t = .parseError e) ∧ s.ignoreLf = true ∧ FrN s s3 ∧ tb = none)
    (htb : ∀ tk, tb = some tk → isTagTok tk = true → ∃ tg, t = .tag tg) :
    Okl (ptFinish tb) s3 (fun _ s' => TokPost t s s') := by
  unfold ptFinish
  cases tb with
  | none =>
    dsimp only
    refine ok_pure ⟨hc, fun h => Or.inr ?_⟩
    obtain ⟨h1, h2, h3, _⟩ := hlf h
    exact ⟨h1, h2, h3⟩
  | some tk =>
    dsimp only
    have h0 : s3.ignoreLf = false := by
      cases h : s3.ignoreLf with
      | false => rfl
      | true => obtain ⟨_, _, _, h4⟩ := hlf h; cases h4
    refine ok_getS_bind ?_
    refine ok_mono (okl_ptc _ tk [] s3 h0 ⟨fun _ h => (by cases h), fun _ => rfl⟩) ?_
    intro _ s' hl
    exact ⟨hl.ctx.trans hc, fun h => Or.inl ⟨htb tk rfl (hl.lf h).1, (hl.lf h).2⟩⟩

instance : Fl (ptFinish none) := by unfold ptFinish; ilf_fl

theorem okl_processToken (t : TokToken) (line : Nat) (s : State) :
    Okl (processToken t line) s (fun _ s' => TokPost t s s') := by
  unfold processToken
  refine ok_getS_bind ?_
  dsimp only
  refine ok_ite_jp (P := fun s1 => FrN s s1) (fun _ => okl_sinkUnit_setLine _ _) (fun _ => FrN.refl _) ?_
  intro s1 f1
  refine ok_getS_bind ?_
  refine ok_modS_bind ?_
  have hc2 : ({ s1 with ignoreLf := false } : State).contextElem = s.contextElem := f1.ctx
  have hfin : ∀ (tb : Option Token) (s3 : State), s3.contextElem = s.contextElem → s3.ignoreLf = false →
      (∀ tk, tb = some tk → isTagTok tk = true → ∃ tg, t = .tag tg) →
      Okl (ptFinish tb) s3 (fun _ s' => TokPost t s s') :=
    fun tb s3 h3 h4 h5 => okl_ptFinish t tb s3 h3 (fun h => by rw [h4] at h; cases h) h5
  cases t with
  | parseError e =>
    dsimp only
    refine ok_bind (okl_sinkUnit_parseError e _) ?_
    intro _ s3 f3
    refine ok_modS_bind ?_
    refine ok_pure_bind ?_
    have f3' : FrN s { s3 with ignoreLf := s1.ignoreLf } :=
      ⟨f1.lf, f3.ctx.trans f1.ctx, f3.stack.trans f1.stack, fun h => (f3.names h).trans (f1.names h)⟩
    exact okl_ptFinish _ none _ f3'.ctx (fun h => ⟨⟨e, rfl⟩, f3'.lf ▸ h, f3', rfl⟩) (fun _ h => by cases h)
  | doctype dt =>
    dsimp only
    refine ok_mono (okl_of_fl ?_ _) ?_
    · simp only [pure_bind]
      ilf_fl
    · intro _ s' hf
      have h := frL_eq hf
      exact ⟨h.2.trans hc2, fun h' => by rw [h.1] at h'; cases h'⟩
  | tag tg =>
    refine ok_pure_bind ?_
    exact hfin (some (.tag tg)) _ hc2 rfl (fun tk h _ => ⟨tg, rfl⟩)
  | comment c =>
    refine ok_pure_bind ?_
    exact hfin (some (.comment c)) _ hc2 rfl (fun tk h h' => by cases h; cases h')
  | nullChar =>
    refine ok_pure_bind ?_
    exact hfin (some .nullChar) _ hc2 rfl (fun tk h h' => by cases h; cases h')
  | eof =>
    refine ok_pure_bind ?_
    exact hfin (some .eof) _ hc2 rfl (fun tk h h' => by cases h; cases h')
  | chars x =>
    refine ok_pure_bind ?_
    refine hfin (charsToken s1.ignoreLf x) _ hc2 rfl (fun tk h h' => ?_)
    unfold charsToken at h
    split at h
    · cases h
    · cases h; cases h'

/-! ## `adjusted_current_node_present_but_not_in_html_namespace` as a function of the stack, the context
element and the answers of `elem_name` -/

/-- `adjusted_current_node` -/
def acnOf (l : List Id) (ctx : Option Id) : Option Id :=
  if l.length == 1 then (match ctx with | some c => some c | none => l.getLast?) else l.getLast?

/-- the answer of `adjusted_current_node_present_but_not_in_html_namespace` (`none`: the call panics) -/
def ansOf (l : List Id) (ctx : Option Id) (f : Id → Except String (Str × Str)) : Option Bool :=
  if l.isEmpty then some false
  else match acnOf l ctx with
    | none => none
    | some c => match f c with
      | .ok p => some (p.1 != nsHtml)
      | .error _ => none

theorem getS_bind_ok {β : Type} {f : State → M β} {s t : State} {b : β} :
    (getS >>= f) s = .ok (b, t) ↔ f s s = .ok (b, t) := by
  constructor
  · intro e
    obtain ⟨s0, s1, e1, e2⟩ := bind_ok.mp e
    obtain ⟨h1, h2⟩ := getS_ok.mp e1
    subst h1; subst h2
    exact e2
  · intro e
    exact bind_ok.mpr ⟨s, s, getS_ok.mpr ⟨rfl, rfl⟩, e⟩

theorem currentNode_ok {s t : State} {c : Id} :
    currentNode s = .ok (c, t) ↔ t = s ∧ s.openElems.getLast? = some c := by
  unfold currentNode
  rw [getS_bind_ok]
  cases s.openElems.getLast? with
  | none =>
    dsimp only
    constructor
    · intro e; exact absurd e throw_ok
    · rintro ⟨_, h⟩; cases h
  | some h =>
    dsimp only
    constructor
    · intro e
      obtain ⟨rfl, rfl⟩ := pure_ok.mp e
      exact ⟨rfl, rfl⟩
    · rintro ⟨rfl, h'⟩
      cases h'
      exact pure_ok.mpr ⟨rfl, rfl⟩

theorem adjustedCurrentNode_ok {s t : State} {c : Id} :
    adjustedCurrentNode s = .ok (c, t) ↔ t = s ∧ acnOf s.openElems s.contextElem = some c := by
  unfold adjustedCurrentNode acnOf
  rw [getS_bind_ok]
  by_cases h1 : (s.openElems.length == 1) = true
  · rw [if_pos h1, if_pos h1]
    cases s.contextElem with
    | none => dsimp only; exact currentNode_ok
    | some x =>
      dsimp only
      constructor
      · intro e
        obtain ⟨rfl, rfl⟩ := pure_ok.mp e
        exact ⟨rfl, rfl⟩
      · rintro ⟨rfl, h'⟩
        cases h'
        exact pure_ok.mpr ⟨rfl, rfl⟩
  · rw [if_neg h1, if_neg h1]
    exact currentNode_ok

theorem adjustedCurrentNodeForeign_ok {s : State} {b : Bool} :
    (∃ t, adjustedCurrentNodeForeign s = .ok (b, t)) ↔
      ansOf s.openElems s.contextElem s.dom.elemName = some b := by
  unfold adjustedCurrentNodeForeign ansOf
  simp only [getS_bind_ok]
  by_cases he : s.openElems.isEmpty = true
  · rw [if_pos he, if_pos he]
    constructor
    · rintro ⟨t, e⟩
      obtain ⟨rfl, _⟩ := pure_ok.mp e
      rfl
    · intro h
      cases h
      exact ⟨s, pure_ok.mpr ⟨rfl, rfl⟩⟩
  · rw [if_neg he, if_neg he]
    constructor
    · rintro ⟨t, e⟩
      obtain ⟨c, s2, e3, e4⟩ := bind_ok.mp e
      obtain ⟨rfl, hc⟩ := adjustedCurrentNode_ok.mp e3
      obtain ⟨n, s3, e5, e6⟩ := bind_ok.mp e4
      obtain ⟨rfl, _⟩ := pure_ok.mp e6
      obtain ⟨d, hd, _⟩ := sink_ok.mp (elemName_ok.mp e5)
      obtain ⟨ns, loc, hn, _, ho⟩ := apply_elemName_ok.mp hd
      cases ho
      simp only [hc, hn]
    · intro h
      cases hc : acnOf s.openElems s.contextElem with
      | none => simp only [hc] at h; cases h
      | some c =>
        simp only [hc] at h
        cases hn : s.dom.elemName c with
        | error x => simp only [hn] at h; cases h
        | ok p =>
          simp only [hn, Option.some.injEq] at h
          subst h
          obtain ⟨ns, loc⟩ := p
          refine ⟨{ s with dom := s.dom, traceRev := (SinkOp.elemName c, Output.name ns loc) :: s.traceRev }, ?_⟩
          refine bind_ok.mpr ⟨c, s, adjustedCurrentNode_ok.mpr ⟨rfl, hc⟩, ?_⟩
          refine bind_ok.mpr ⟨⟨ns, loc⟩, _, elemName_ok.mpr (sink_ok.mpr ⟨s.dom,
            apply_elemName_ok.mpr ⟨ns, loc, hn, rfl, rfl⟩, rfl⟩), ?_⟩
          exact pure_ok.mpr ⟨rfl, rfl⟩

theorem ansOf_topHtml {s : State} (h : TopHtml s) {b : Bool}
    (ha : ansOf s.openElems s.contextElem s.dom.elemName = some b) : b = false := by
  obtain ⟨top, loc, h1, h2, h3⟩ := h
  unfold ansOf acnOf at ha
  have he : ¬ (s.openElems.isEmpty = true) := by
    intro he
    rw [List.isEmpty_iff.mp he] at h3
    simp at h3
  have hl : ¬ ((s.openElems.length == 1) = true) := by
    intro hl
    have := eq_of_beq hl
    omega
  rw [if_neg he, if_neg hl] at ha
  simp only [h1, h2, Option.some.injEq] at ha
  rw [← ha]
  simp

end H5V.Lemmas.ParseSpec.IgnLf

namespace H5V.Lemmas.ParseSpec
open H5V.Model.HtmlTB
open H5V.Lemmas.ParseSpec.IgnLf

/-- when the "ignore the next LF" flag is set, the CDATA question is answered "no" (the adjusted current
node is the `pre` / `listing` / `textarea` element just inserted, an HTML element) -/
def IgnQ (s : State) : Prop :=
  s.ignoreLf = true → ∀ b s1, adjustedCurrentNodeForeign.run s = .ok (b, s1) → b = false

/-- `IgnQ` reads the state only through the flag, the stack, the context element and `elem_name` -/
theorem ignQ_iff (s : State) :
    IgnQ s ↔ (s.ignoreLf = true → ∀ b, IgnLf.ansOf s.openElems s.contextElem s.dom.elemName = some b → b = false) := by
  constructor
  · intro h hlf b hb
    obtain ⟨t, e⟩ := adjustedCurrentNodeForeign_ok.mpr hb
    exact h hlf b t e
  · intro h hlf b s1 e
    exact h hlf b (adjustedCurrentNodeForeign_ok.mp ⟨s1, e⟩)

/-- the syntactic invariant implies the semantic one -/
theorem ignQ_of_ignS {s : State} (h : IgnS s) : IgnQ s :=
  (ignQ_iff s).mpr (fun hlf _ hb => ansOf_topHtml (h hlf) hb)

theorem ignQ_of_frN {s s' : State} (f : FrN s s') (h : IgnQ s) : IgnQ s' := by
  rw [ignQ_iff] at h ⊢
  have hn : s'.dom.elemName = s.dom.elemName := funext f.names
  rw [f.lf, f.stack, f.ctx, hn]
  exact h

/-- the flag is clear in the initial state of a parse -/
theorem ignS_of_clear {s : State} (h : s.ignoreLf = false) : IgnS s := fun h' => by rw [h] at h'; cases h'

/-- after `process_token` the flag is set only (a) by a tag token — then the current node is an HTML
element on a stack of at least two entries — or (b) because a parse error has put the set flag back —
then the stack, the context element and all element names are as before -/
theorem processToken_ignoreLf_set (t : TokToken) (line : Nat) (s s' : State) (r : SinkResult)
    (h : (processToken t line).run s = .ok (r, s')) (hlf : s'.ignoreLf = true) :
    ((∃ tg, t = .tag tg) ∧ TopHtml s') ∨ ((∃ e, t = .parseError e) ∧ s.ignoreLf = true ∧ FrN s s') :=
  (okl_processToken t line s r s' h).lf hlf

/-- **syntactic form**: the invariant "flag set ⇒ the current node is an HTML element on a stack of at
least two entries" is preserved by every token (document or fragment parse, no further hypothesis) -/
theorem processToken_ignS (t : TokToken) (line : Nat) (s s' : State) (r : SinkResult) (hs : IgnS s)
    (h : (processToken t line).run s = .ok (r, s')) : IgnS s' := by
  intro hlf
  rcases processToken_ignoreLf_set t line s s' r h hlf with ⟨_, htop⟩ | ⟨_, h1, f⟩
  · exact htop
  · exact (hs h1).of_frN f

/-- the invariant `IgnQ` is preserved by every token (document or fragment parse; neither the C04
invariant nor `contextElem = none` is needed) -/
theorem processToken_ignQ (t : TokToken) (line : Nat) (s s' : State) (r : SinkResult) (hq : IgnQ s)
    (h : (processToken t line).run s = .ok (r, s')) : IgnQ s' := by
  intro hlf
  rcases processToken_ignoreLf_set t line s s' r h hlf with ⟨_, htop⟩ | ⟨_, _, f⟩
  · exact ignQ_of_ignS (fun _ => htop) hlf
  · exact ignQ_of_frN f hq hlf

/-- only a tag token can *set* the flag: any other token leaves a clear flag clear -/
theorem processToken_ignoreLf_nontag (t : TokToken) (line : Nat) (s s' : State) (r : SinkResult)
    (h : (processToken t line).run s = .ok (r, s')) (hlf : s.ignoreLf = false) (ht : ∀ tg, t ≠ .tag tg) :
    s'.ignoreLf = false := by
  cases h' : s'.ignoreLf with
  | false => rfl
  | true =>
    rcases processToken_ignoreLf_set t line s s' r h h' with ⟨⟨tg, rfl⟩, _⟩ | ⟨_, h1, _⟩
    · exact absurd rfl (ht tg)
    · rw [hlf] at h1; cases h1

/-- character tokens, U+0000 tokens, parse errors, EOF and comments leave a clear flag clear -/
theorem processToken_ignoreLf_clear (t : TokToken) (line : Nat) (s s' : State) (r : SinkResult)
    (h : (processToken t line).run s = .ok (r, s')) (hlf : s.ignoreLf = false)
    (ht : (∃ x, t = .chars x) ∨ t = .nullChar ∨ (∃ e, t = .parseError e) ∨ t = .eof ∨ (∃ c, t = .comment c)) :
    s'.ignoreLf = false := by
  refine processToken_ignoreLf_nontag t line s s' r h hlf (fun tg e => ?_)
  subst e
  rcases ht with ⟨_, h⟩ | h | ⟨_, h⟩ | h | ⟨_, h⟩ <;> cases h

/-- every token but a parse error and a tag leaves the flag clear, whatever it was before -/
theorem processToken_ignoreLf_reset (t : TokToken) (line : Nat) (s s' : State) (r : SinkResult)
    (h : (processToken t line).run s = .ok (r, s')) (ht : ∀ tg, t ≠ .tag tg) (hp : ∀ e, t ≠ .parseError e) :
    s'.ignoreLf = false := by
  cases h' : s'.ignoreLf with
  | false => rfl
  | true =>
    rcases processToken_ignoreLf_set t line s s' r h h' with ⟨⟨tg, rfl⟩, _⟩ | ⟨⟨e, rfl⟩, _⟩
    · exact absurd rfl (ht tg)
    · exact absurd rfl (hp e)

/-- `contextElem` never changes -/
theorem processToken_contextElem (t : TokToken) (line : Nat) (s s' : State) (r : SinkResult)
    (h : (processToken t line).run s = .ok (r, s')) : s'.contextElem = s.contextElem :=
  (okl_processToken t line s r s' h).ctx

end H5V.Lemmas.ParseSpec
