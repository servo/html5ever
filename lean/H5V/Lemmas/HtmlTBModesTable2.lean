import H5V.Lemmas.HtmlTBModesTable
/-!
The table family of insertion modes: runs of characters that are foster-parented (the model
brackets the whole run with the foster-parenting flag, the specification every single character),
`ModeCharSim` for "in table", "in table body", "in row"; `ModeSim` for "in table body" and "in row".
-/
namespace H5V.Lemmas.HtmlTBModes
open H5V.Model.HtmlTB
open H5V.Model.Dom (Id SinkOp Output Dom QualName Attr NodeOrText ElementFlags NodeData QuirksMode)
open H5V.Lemmas.HtmlTBAlgo
open H5V.Lemmas.TBSafe (TI HInv SInv Rooted)
open H5V.Spec.TreeAlgo2 (Elem Entry PState Ctx Edit Place)
open H5V.Spec.TreeModes (STok ETok IMode Config Out TokSwitch XOp Op Step Edition)

/-! ### what "reconstruct the active formatting elements" does to the flag, the list and the current node -/

section Recon
variable {N T : Type} [DecidableEq N]

/-- `st` arose from `st0` by re-creating entries of the list: the foster-parenting flag is the same, the
tokens of the list are tokens of the old list, the current node is the old one or an HTML element
created for a token of the old list -/
def TblRec (cx : Ctx T) (st0 st : PState N T) : Prop :=
  st.fosterParenting = st0.fosterParenting ∧
  (∀ n t, Entry.element n t ∈ st.list → ∃ n', Entry.element n' t ∈ st0.list) ∧
  (st.stack.getLast? = st0.stack.getLast? ∨
    ∃ e n t, st.stack.getLast? = some e ∧ Entry.element n t ∈ st0.list ∧ e.name = ⟨Spec.TreeAlgo.nsHtml, cx.tokName t⟩)

omit [DecidableEq N] in
theorem TblRec.refl (cx : Ctx T) (st : PState N T) : TblRec cx st st :=
  ⟨rfl, fun n _ h => ⟨n, h⟩, Or.inl rfl⟩

theorem tbl_reconstruct (cx : Ctx T) (st st' : PState N T)
    (h : Spec.TreeAlgo2.reconstructActiveFormattingElements cx st = some st') : TblRec cx st st' := by
  refine reconstruct_ind cx (TblRec cx st) ?_ (TblRec.refl cx st) h
  intro st2 st1 i m tok el hr hl hins
  obtain ⟨nn, L, hsup, hel, hstack, hlist, hlog, hcr, hne, hfp, hform⟩ := insertForeignElement_some hins
  obtain ⟨m0, hm0⟩ := hr.2.1 m tok (List.mem_of_getElem? hl)
  refine ⟨hfp.trans hr.1, ?_, Or.inr ⟨el, m0, tok, ?_, hm0, by rw [hel]⟩⟩
  · intro n' t' hmem'
    rcases List.mem_or_eq_of_mem_set hmem' with h1 | h1
    · rw [hlist] at h1; exact hr.2.1 n' t' h1
    · cases h1; exact ⟨m0, hm0⟩
  · show st1.stack.getLast? = some el
    rw [hstack]; simp

end Recon

/-! ### "in body" on a character, in terms of the `PState` -/

/-- the abstract state after "in body" handled the character `c` (not U+0000): `p2` is the `PState` after
"reconstruct" and "insert a character" -/
def tblBodyCharFin (σ : SState) (c : Char) (p2 : PState Id ETok) : SState :=
  if Spec.TreeModes.isWs c then { σ with p := p2 } else { σ with p := p2, framesetOk := false }

theorem tbl_inBody_char (cfg : Config Id) (σ : SState) {c : Char} (hc : c ≠ '\x00') :
    Spec.TreeModes.inBody cfg σ (.character c) = (do
      let p1 ← Spec.TreeModes.req (Spec.TreeAlgo2.reconstructActiveFormattingElements Spec.TreeModes.cx σ.p)
        "reconstruct the active formatting elements"
      let p2 ← Spec.TreeModes.req (Spec.TreeAlgo2.insertCharacters p1 [c]) "insert a character: no place"
      pure (.done (tblBodyCharFin σ c p2))) := by
  have hc' : (c == '\x00') = false := by simpa using hc
  simp only [Spec.TreeModes.inBody, hc', Bool.false_eq_true, if_false, Spec.TreeModes.reconstruct,
    Spec.TreeModes.insertChar, tblBodyCharFin]
  cases h1 : Spec.TreeAlgo2.reconstructActiveFormattingElements Spec.TreeModes.cx σ.p with
  | none => by_cases hw : Spec.TreeModes.isWs c = true <;> simp only [hw] <;> rfl
  | some p1 =>
    cases h2 : Spec.TreeAlgo2.insertCharacters p1 [c] with
    | none =>
      by_cases hw : Spec.TreeModes.isWs c = true <;> simp only [hw, Spec.TreeModes.req] <;>
        simp only [bind, Except.bind, pure, Except.pure, h2, Functor.map, Except.map] <;> rfl
    | some p2 =>
      by_cases hw : Spec.TreeModes.isWs c = true <;> simp only [hw, Spec.TreeModes.req] <;>
        simp only [bind, Except.bind, pure, Except.pure, h2, Functor.map, Except.map] <;> rfl

theorem tbl_inBody_char_ok {cfg : Config Id} {σ σ1 : SState} {c : Char} (hc : c ≠ '\x00')
    (h : Spec.TreeModes.inBody cfg σ (.character c) = .ok (.done σ1)) :
    ∃ p1 p2, Spec.TreeAlgo2.reconstructActiveFormattingElements Spec.TreeModes.cx σ.p = some p1 ∧
      Spec.TreeAlgo2.insertCharacters p1 [c] = some p2 ∧ σ1 = tblBodyCharFin σ c p2 := by
  rw [tbl_inBody_char cfg σ hc] at h
  cases h1 : Spec.TreeAlgo2.reconstructActiveFormattingElements Spec.TreeModes.cx σ.p with
  | none => rw [h1] at h; cases h
  | some p1 =>
    rw [h1] at h
    cases h2 : Spec.TreeAlgo2.insertCharacters p1 [c] with
    | none => simp only [Spec.TreeModes.req, bind, Except.bind, pure, Except.pure, h2] at h; cases h
    | some p2 =>
      simp only [Spec.TreeModes.req, bind, Except.bind, pure, Except.pure, h2] at h
      refine ⟨p1, p2, rfl, h2, ?_⟩
      cases h; rfl

theorem tbl_inBody_char_of {cfg : Config Id} {σ : SState} {c : Char} (hc : c ≠ '\x00') {p1 p2 : PState Id ETok}
    (h1 : Spec.TreeAlgo2.reconstructActiveFormattingElements Spec.TreeModes.cx σ.p = some p1)
    (h2 : Spec.TreeAlgo2.insertCharacters p1 [c] = some p2) :
    Spec.TreeModes.inBody cfg σ (.character c) = .ok (.done (tblBodyCharFin σ c p2)) := by
  rw [tbl_inBody_char cfg σ hc, h1]
  simp only [Spec.TreeModes.req, bind, Except.bind, pure, Except.pure, h2]

theorem tbl_insertCharacters_ok {p1 p2 : PState Id ETok} {t : Str} (h : Spec.TreeAlgo2.insertCharacters p1 t = some p2) :
    p2.stack = p1.stack ∧ p2.list = p1.list ∧ p2.fosterParenting = p1.fosterParenting := by
  unfold Spec.TreeAlgo2.insertCharacters at h
  cases hp : Spec.TreeAlgo2.appropriatePlace p1.stack p1.fosterParenting none with
  | none => rw [hp] at h; cases h
  | some loc => rw [hp] at h; cases h; exact ⟨rfl, rfl, rfl⟩

theorem tblBodyCharFin_p (σ : SState) (c : Char) (p2 : PState Id ETok) : (tblBodyCharFin σ c p2).p = p2 := by
  unfold tblBodyCharFin; split <;> rfl

/-! ### the invariant of a foster-parented run -/

/-- the current node is none of the six elements of the character clause of "in table", and no token of the list of active
formatting elements has one of these names -/
structure TblRunInv (σ : SState) : Prop where
  cur : σ.curIn ["table", "tbody", "template", "tfoot", "thead", "tr"] = false
  list : ∀ n t, Entry.element n t ∈ σ.p.list →
    Spec.TreeAlgo.inHtml ["table", "tbody", "template", "tfoot", "thead", "tr"] ⟨Spec.TreeAlgo.nsHtml, (t : ETok).name⟩ = false

theorem TblRunInv.step {cfg : Config Id} {σ σ1 : SState} {c : Char} (hc : c ≠ '\x00') (hi : TblRunInv σ)
    (h : Spec.TreeModes.inBody cfg σ (.character c) = .ok (.done σ1)) :
    TblRunInv σ1 ∧ σ1.p.fosterParenting = σ.p.fosterParenting := by
  obtain ⟨p1, p2, h1, h2, rfl⟩ := tbl_inBody_char_ok hc h
  obtain ⟨r1, r2, r3⟩ := tbl_reconstruct _ _ _ h1
  obtain ⟨i1, i2, i3⟩ := tbl_insertCharacters_ok h2
  refine ⟨⟨?_, ?_⟩, ?_⟩
  · unfold Spec.TreeModes.State.curIn Spec.TreeModes.State.cur
    rw [tblBodyCharFin_p, i1]
    rcases r3 with r3 | ⟨e, n, t, he, hmem, hname⟩
    · rw [r3]; exact hi.cur
    · rw [he, Option.any_some, hname]
      exact hi.list n t hmem
  · intro n t hmem
    rw [tblBodyCharFin_p, i2] at hmem
    obtain ⟨n', hn'⟩ := r2 n t hmem
    exact hi.list n' t hn'
  · rw [tblBodyCharFin_p, i3, r1]

/-! ### from the run of "in body" inside one flag bracket to the run of "anything else" of "in table" -/

/-- the state of the specification between two foster-parented characters: the flag reset, the parse
errors `E` -/
def tblUnfoster (σ : SState) (E : List String) : SState :=
  { σ with errors := E, p := { σ.p with fosterParenting := false } }

theorem tbl_p_eta (p : PState Id ETok) {b : Bool} (h : p.fosterParenting = b) : { p with fosterParenting := b } = p := by
  cases p; simp only at h; subst h; rfl

def tblThree (m : IMode) : Prop := m = .inTable ∨ m = .inTableBody ∨ m = .inRow

theorem byModeDev_three_char {cfg : Config Id} {σ : SState} (h : tblThree σ.mode) (c : Char) :
    byModeDev cfg σ (.character c) = Spec.TreeModes.inTable cfg σ (.character c) := by
  rcases h with h | h | h
  · exact byModeDev_inTable h _
  · exact byModeDev_inTableBody_char h c
  · exact byModeDev_inRow_char h c

/-- one foster-parented character; `τ` is the state of the specification before, `σ` the state in which
the model runs "in body" (the flag set) -/
theorem tbl_fosterStep' {cfg : Config Id} {τ σ σ1 : SState} {c : Char} (hc : c ≠ '\x00')
    (hτ : τ.setFoster true = { σ with errors := τ.errors })
    (hmode : tblThree σ.mode) (hi : TblRunInv σ) (h : Spec.TreeModes.inBody cfg σ (.character c) = .ok (.done σ1)) :
    byModeDev cfg τ (.character c)
      = .ok (.done (tblUnfoster σ1 (τ.errors ++ ["in table: foster parenting"]))) := by
  obtain ⟨p1, p2, h1, h2, rfl⟩ := tbl_inBody_char_ok hc h
  have hm : τ.mode = σ.mode := congrArg (·.mode) hτ
  have hst : τ.p.stack = σ.p.stack := congrArg (·.p.stack) hτ
  have hcur : τ.curIn ["table", "tbody", "template", "tfoot", "thead", "tr"] = false := by
    have := hi.cur
    unfold Spec.TreeModes.State.curIn Spec.TreeModes.State.cur at this ⊢
    rw [hst]; exact this
  rw [byModeDev_three_char (show tblThree τ.mode by rw [hm]; exact hmode), inTable_char_foster c hcur]
  have e0 : ((τ.err "in table: foster parenting").setFoster true)
      = { σ with errors := τ.errors ++ ["in table: foster parenting"] } := by
    show ({ τ.setFoster true with errors := τ.errors ++ ["in table: foster parenting"] } : SState) = _
    rw [hτ]
  simp only [Spec.TreeModes.inTableAnythingElse]
  rw [e0, tbl_inBody_char_of (σ := { σ with errors := τ.errors ++ ["in table: foster parenting"] }) hc h1 h2]
  unfold tblBodyCharFin tblUnfoster
  by_cases hw : Spec.TreeModes.isWs c = true
  · simp only [hw, if_true]; rfl
  · simp only [hw]; rfl

theorem tbl_fosterStep {cfg : Config Id} {σ σ1 : SState} {c : Char} (hc : c ≠ '\x00') (hfp : σ.p.fosterParenting = true)
    (hmode : tblThree σ.mode) (hi : TblRunInv σ) (h : Spec.TreeModes.inBody cfg σ (.character c) = .ok (.done σ1))
    (E : List String) :
    byModeDev cfg (tblUnfoster σ E) (.character c)
      = .ok (.done (tblUnfoster σ1 (E ++ ["in table: foster parenting"]))) := by
  refine tbl_fosterStep' (τ := tblUnfoster σ E) hc ?_ hmode hi h
  show ({ σ with errors := E, p := { σ.p with fosterParenting := true } } : SState) = _
  rw [tbl_p_eta σ.p hfp]
  rfl

theorem tbl_fosterRun {cfg : Config Id} : ∀ {text : Str} {σ σ' : SState},
    CharsRunK cfg (Spec.TreeModes.inBody cfg) σ text σ' → '\x00' ∉ text → σ.p.fosterParenting = true →
    tblThree σ.mode → TblRunInv σ → ∀ E : List String,
    CharsRunK cfg (byModeDev cfg) (tblUnfoster σ E) text
      (tblUnfoster σ' (E ++ List.replicate text.length "in table: foster parenting")) ∧
    σ'.p.fosterParenting = true := by
  intro text σ σ' h
  induction h with
  | nil σ =>
    intro _ hfp _ _ E
    simp only [List.length_nil, List.replicate_zero, List.append_nil]
    exact ⟨CharsRunK.nil _, hfp⟩
  | @cons σ σ1 σ' c cs e hmode1 hst1 hlf1 hu1 _ ih =>
    intro hnul hfp hmode hi E
    have hc : c ≠ '\x00' := fun h => hnul (h ▸ List.mem_cons_self)
    obtain ⟨hi1, hfp1⟩ := hi.step hc e
    have ih' := ih (fun h => hnul (List.mem_cons_of_mem _ h)) (hfp1.trans hfp) (by rw [hmode1]; exact hmode) hi1
      (E ++ ["in table: foster parenting"])
    refine ⟨CharsRunK.cons (tbl_fosterStep hc hfp hmode hi e E) hmode1 hst1 hlf1 ?_ ?_, ih'.2⟩
    · rw [adjustedCurrentNode_congr (σ := σ1) (σ1 := tblUnfoster σ1 _) rfl rfl]; exact hu1
    · have := ih'.1
      rw [List.append_assoc, List.singleton_append, ← List.replicate_succ] at this
      exact this

/-- `stepInBody` answers `Done` to a run of characters -/
theorem tbl_stepInBody_chars_done {s : State} (hm : MInv s) (st : SplitStatus) (text : Str) :
    PC (stepInBody (.chars st text)) s (fun r _ _ => r = .done) := by
  simp only [stepInBody]
  refine pc_seq (pc_reconstruct hm) ?_
  rintro _ s1 c1 _ ⟨-, -, htr1⟩
  by_cases h : anyNotWhitespace text = true
  · simp only [h, if_true]
    refine pc_seq (pc_setFramesetOk htr1.1 false) ?_
    rintro _ s2 c2 _ ⟨-, htr2⟩
    exact pc_conseq (pc_appendText htr2.1 text) (fun r _ _ _ h => h.1)
  · simp only [h]
    exact pc_conseq (pc_appendText htr1.1 text) (fun r _ _ _ h => h.1)


/-- the run of a non-empty text, started in a state `τ` of the specification with any value of the flag -/
theorem tbl_fosterRun1 {cfg : Config Id} {c : Char} {cs : Str} {τ σ σ' : SState}
    (h : CharsRunK cfg (Spec.TreeModes.inBody cfg) σ (c :: cs) σ') (hnul : '\x00' ∉ c :: cs)
    (hτ : τ.setFoster true = { σ with errors := τ.errors }) (hfp : σ.p.fosterParenting = true)
    (hmode : tblThree σ.mode) (hi : TblRunInv σ) :
    CharsRunK cfg (byModeDev cfg) τ (c :: cs)
      (tblUnfoster σ' (τ.errors ++ List.replicate (c :: cs).length "in table: foster parenting")) := by
  cases h with
  | cons e hmode1 hst1 hlf1 hu1 hrest =>
    rename_i σ1
    have hc : c ≠ '\x00' := fun h => hnul (h ▸ List.mem_cons_self)
    obtain ⟨hi1, hfp1⟩ := hi.step hc e
    have ih' := tbl_fosterRun hrest (fun h => hnul (List.mem_cons_of_mem _ h)) (hfp1.trans hfp)
      (by rw [hmode1]; exact hmode) hi1 (τ.errors ++ ["in table: foster parenting"])
    have hm : τ.mode = σ.mode := congrArg (·.mode) hτ
    refine CharsRunK.cons (tbl_fosterStep' hc hτ hmode hi e) (hmode1.trans hm.symm) hst1 hlf1 ?_ ?_
    · rw [adjustedCurrentNode_congr (σ := σ1) (σ1 := tblUnfoster σ1 _) rfl rfl]; exact hu1
    · have := ih'.1
      rw [List.append_assoc, List.singleton_append, ← List.replicate_succ] at this
      exact this


/-! ### the model side of a foster-parented run -/

theorem tbl_contains_filter {α : Type} [BEq α] [LawfulBEq α] (l : List α) (p : α → Bool) (a : α) :
    (l.filter p).contains a = (l.contains a && p a) := by
  cases hc : l.contains a <;> cases hp : p a <;> simp_all [List.mem_filter]

/-- the dispatcher's choice after a stretch that kept the stack -/
theorem tbl_disp_transfer {s s1 : State} (hm : MInv s) (ho : s1.openElems = s.openElems) (he : TBSafe.Ext s.dom s1.dom)
    (hcfg : cfgOf s1 = cfgOf s)
    (hdisp : ∀ x, AuxOk s x → Spec.TreeAlgo.useHtmlRules (Spec.TreeModes.adjustedCurrentNode (cfgOf s) (absF s x)) .character = true) :
    ∀ x1, AuxOk s1 x1 →
      Spec.TreeAlgo.useHtmlRules (Spec.TreeModes.adjustedCurrentNode (cfgOf s1) (absF s1 x1)) .character = true := by
  intro x1 hx1
  have hx : AuxOk s { x1 with annot := x1.annot.filter (fun a => s.dom.isElement a) } := by
    refine ⟨hx1.live, ?_, ?_, hx1.xlog⟩
    · intro h hh hn
      show (x1.annot.filter (fun a => s.dom.isElement a)).contains h = _
      rw [tbl_contains_filter, hm.elems h hh, Bool.and_true]
      have hn1 : nameOf s1.dom h = annotName := by rw [nameOf_ext he (hm.elems h hh)]; exact hn
      rw [hx1.annot h (by rw [ho]; exact hh) hn1, ipOfDom_ext he (hm.elems h hh)]
    · intro a ha
      exact (List.mem_filter.mp ha).2
  rw [← hdisp _ hx]
  congr 1
  unfold Spec.TreeModes.adjustedCurrentNode
  rw [hcfg, absF_stack hx1, absF_stack hx, ho, absStack_ext hm.elems he]
  congr 1
  apply List.map_congr_left
  intro e hmem
  have hmem' := List.mem_reverse.mp hmem
  obtain ⟨hid, -⟩ := mem_absStack hmem'
  unfold Spec.TreeModes.openElem
  congr 1
  show x1.annot.contains e.id = (x1.annot.filter (fun a => s.dom.isElement a)).contains e.id
  rw [tbl_contains_filter, hm.elems e.id hid, Bool.and_true]

theorem tbl_six_special (name : Spec.TreeAlgo.Str)
    (h : Spec.TreeAlgo.inHtml ["table", "tbody", "template", "tfoot", "thead", "tr"] ⟨Spec.TreeAlgo.nsHtml, name⟩ = true) :
    Spec.TreeAlgo.inTable Spec.TreeTables.special ⟨Spec.TreeAlgo.nsHtml, name⟩ = true := by
  have tbl : (["table", "tbody", "template", "tfoot", "thead", "tr"].all fun a =>
      Spec.TreeAlgo.inTable Spec.TreeTables.special ⟨Spec.TreeAlgo.nsHtml, a.toList⟩) = true := by decide +kernel
  simp only [Spec.TreeAlgo.inHtml, Bool.and_eq_true, List.any_eq_true] at h
  obtain ⟨-, nm, hmem, heq⟩ := h
  rw [← beq_iff_eq.mp heq]
  exact List.all_eq_true.mp tbl nm hmem

/-- the invariant of the run holds at its start -/
theorem tbl_runInv_of_minv {s : State} (hm : MInv s) {σ : SState} (hl : σ.p.list = absListE s.activeFormatting)
    (hcur : σ.curIn ["table", "tbody", "template", "tfoot", "thead", "tr"] = false) : TblRunInv σ := by
  refine ⟨hcur, ?_⟩
  intro n t hmem
  rw [hl] at hmem
  obtain ⟨fe, hfe, hee⟩ := List.mem_map.mp hmem
  cases fe with
  | marker => cases hee
  | element h tag =>
    simp only [entryE] at hee
    cases hee
    have hsp := (hm.af _ _ hfe).2.1
    cases hin : Spec.TreeAlgo.inHtml ["table", "tbody", "template", "tfoot", "thead", "tr"] ⟨Spec.TreeAlgo.nsHtml, (etokOf tag).name⟩ with
    | false => rfl
    | true =>
      have := tbl_six_special _ hin
      rw [show (etokOf tag).name = tag.name from rfl] at this
      rw [this] at hsp
      cases hsp


/-- the two branches of `process_chars_in_table`, with the frame of the queries -/
theorem tbl_pc_processChars' {tok : Token} {s : State} {Q : ProcessResult → State → List Call → Prop}
    (htext : ∀ s1 c1, SameTB s s1 → Ext2 s c1 s1 → edits2 c1 = [] →
      (∀ x, AuxOk s x → (absF s x).curIn ["table", "tbody", "template", "tfoot", "thead", "tr"] = true) → s1.pendingTableText = [] →
      Q (.reprocess .inTableText tok) { s1 with origMode := some s1.mode } c1)
    (hfoster : ∀ s1 c1, SameTB s s1 → Ext2 s c1 s1 → edits2 c1 = [] →
      (∀ x, AuxOk s x → (absF s x).curIn ["table", "tbody", "template", "tfoot", "thead", "tr"] = false) →
      PC (fosterParentInBody tok) s1 (fun r s2 c2 => Q r s2 (c1 ++ c2))) :
    PC (processCharsInTable tok) s Q := by
  simp only [processCharsInTable]
  cases hl : s.openElems.getLast? with
  | none =>
    refine pc_bind ?_
    unfold currentNodeIn
    exact pc_bind (pc_currentNode_empty hl)
  | some h0 =>
    refine pc_seq (PC.of_tot (pop_tot_currentNodeIn hl tableOuterChars)) ?_
    rintro b s1 c1 he1 ⟨hb, hs1, hc1⟩
    have hcur : ∀ x, AuxOk s x →
        (absF s x).curIn ["table", "tbody", "template", "tfoot", "thead", "tr"] = tableOuterChars (nameOf s.dom h0) := by
      intro x hx
      unfold Spec.TreeModes.State.curIn
      rw [absF_cur hx, hl]
      rfl
    have hc1' : edits2 c1 = [] := by rw [← edits2_edits, hc1]; rfl
    rw [← hb] at hcur
    cases b with
    | true =>
      simp only [if_true]
      refine pc_getS_bind ?_
      cases hp : s1.pendingTableText with
      | cons a r =>
        simp only [List.isEmpty_cons, Bool.not_false, if_true]
        exact pc_bind pc_panicAt
      | nil =>
        simp only [List.isEmpty_nil, Bool.not_true, Bool.false_eq_true, if_false]
        refine pc_seq (pc_modS (Q := fun _ s2 c => s2 = { s1 with origMode := some s1.mode } ∧ c = []) rfl rfl ⟨rfl, rfl⟩) ?_
        rintro _ s2 c2 _ ⟨rfl, rfl⟩
        refine pc_pure ?_
        rw [List.append_nil, List.append_nil]
        exact htext s1 c1 hs1 he1 hc1' hcur hp
    | false =>
      simp only [Bool.false_eq_true, if_false]
      refine pc_seq (PC.of_tot (tot_parseError s1 _)) ?_
      rintro _ s2 c2 he2 ⟨-, hs2, hc2⟩
      have hc2' : edits2 c2 = [] := by rw [← edits2_edits, hc2]; rfl
      have := hfoster s2 (c1 ++ c2) (hs1.trans hs2) (he1.trans he2) (by rw [edits2_append, hc1', hc2']; rfl) hcur
      simp only [List.append_assoc] at this
      exact this


/-- **foster parenting of a run of characters**: the model runs "in body" on the whole run inside one
bracket of the flag -/
theorem tbl_pc_fosterChars (hbodyc : StepSimChars stepInBody Spec.TreeModes.inBody) {st : SplitStatus} {text : Str}
    (hwf : TokWf (.chars st text)) {s s0 : State} {c0 : List Call} (hm : MInv s) (hs0 : SameTB s s0) (he0 : Ext2 s c0 s0)
    (hc0 : edits2 c0 = []) (hlf : s.ignoreLf = false)
    (hdisp : ∀ x, AuxOk s x → Spec.TreeAlgo.useHtmlRules (Spec.TreeModes.adjustedCurrentNode (cfgOf s) (absF s x)) .character = true)
    (hmode : tblThree (imode s.mode))
    (hcur : ∀ x, AuxOk s x → (absF s x).curIn ["table", "tbody", "template", "tfoot", "thead", "tr"] = false) :
    PC (fosterParentInBody (.chars st text)) s0 (fun res s' c =>
      CharsPost (byModeDev (cfgOf s)) s st text res s' (c0 ++ c)) := by
  have hm0 : MInv s0 := hm.sameTB hs0 he0.ext
  have hcfg0 : cfgOf s0 = cfgOf s := cfgOf_of_same hm hs0 he0.ext
  have htr0 := Tr.of_same hm hs0 he0 hc0
  have f0 := hs0.fields
  unfold fosterParentInBody
  refine pc_seq (pc_modS (Q := fun _ s1 c => s1 = { s0 with fosterParenting := true } ∧ c = []) rfl rfl ⟨rfl, rfl⟩) ?_
  rintro _ s1 c1 _ ⟨rfl, rfl⟩
  have htr1 := tbl_tr_setFoster hm0 true
  have hm1 := htr1.1
  have hdisp1 := tbl_disp_transfer (s1 := { s0 with fosterParenting := true }) hm f0.openElems he0.ext hcfg0 hdisp
  have hdone := tbl_stepInBody_chars_done hm1 st text
  refine pc_seq (pc_and (hbodyc st text hwf _ hm1 (by show s0.ignoreLf = false; rw [f0.ignoreLf]; exact hlf) hdisp1) hdone) ?_
  rintro res s2 c2 he2 ⟨hp, hres⟩
  subst hres
  obtain ⟨hlf2, htr2⟩ := hp
  refine pc_seq (pc_modS (Q := fun _ s3 c => s3 = { s2 with fosterParenting := false } ∧ c = []) rfl rfl ⟨rfl, rfl⟩) ?_
  rintro _ s3 c3 _ ⟨rfl, rfl⟩
  refine pc_pure ?_
  have htr3 := tbl_tr_setFoster htr2.1 false
  have htr := ((htr0.trans htr1).trans htr2).trans htr3
  simp only [List.append_nil, List.nil_append] at htr ⊢
  refine ⟨?_, htr.reaux
    (fun x x' => { x' with errors := x.errors ++ List.replicate text.length "in table: foster parenting" })
    (fun _ _ => ⟨⟨rfl, rfl, rfl, rfl, rfl⟩, rfl, rfl, rfl⟩) ?_⟩
  · show s2.ignoreLf = s.ignoreLf
    rw [hlf2]; exact f0.ignoreLf
  · rintro x x3 hx hx3 ⟨x2, ⟨x1, ⟨x0, ⟨hx0, e0⟩, hx1, e1⟩, hrun⟩, hx3e, e3⟩
    subst x0
    subst x1
    subst x3
    obtain ⟨c, cs, rfl⟩ : ∃ c cs, text = c :: cs := by
      cases text with
      | nil => exact absurd rfl hwf.1
      | cons c cs => exact ⟨c, cs, rfl⟩
    have hτ : (absF s x).setFoster true
        = { absF { s0 with fosterParenting := true } x with errors := (absF s x).errors } := by
      rw [e1, ← e0]; rfl
    have hrun' : CharsRunK (cfgOf s) (Spec.TreeModes.inBody (cfgOf s)) (absF { s0 with fosterParenting := true } x) (c :: cs)
        (absF s2 x2) := by
      rw [← hcfg0]; exact hrun
    have hmode' : tblThree (absF { s0 with fosterParenting := true } x).mode := by
      show tblThree (imode s0.mode); rw [f0.mode]; exact hmode
    have hinv : TblRunInv (absF { s0 with fosterParenting := true } x) := by
      refine tbl_runInv_of_minv hm1 rfl ?_
      rw [e1, ← e0]
      exact hcur x hx
    exact specChars_of_byModeRun (tbl_fosterRun1 hrun' hwf.2.1 hτ rfl hmode' hinv)


/-- a run of characters in "in table" / "in table body" / "in row" -/
theorem tbl_charSim_three (hbodyc : StepSimChars stepInBody Spec.TreeModes.inBody) {st : SplitStatus} {text : Str}
    (hwf : TokWf (.chars st text)) {s : State} (hm : MInv s) (hmode : tblThree (imode s.mode)) (hlf : s.ignoreLf = false)
    (hdisp : ∀ x, AuxOk s x → Spec.TreeAlgo.useHtmlRules (Spec.TreeModes.adjustedCurrentNode (cfgOf s) (absF s x)) .character = true) :
    PC (processCharsInTable (.chars st text)) s (CharsPost (byModeDev (cfgOf s)) s st text) := by
  refine tbl_pc_processChars' ?_ ?_
  · intro s1 c1 hs1 he1 hc1 hcur hp
    obtain ⟨c, cs, rfl⟩ : ∃ c cs, text = c :: cs := by
      cases text with
      | nil => exact absurd rfl hwf.1
      | cons c cs => exact ⟨c, cs, rfl⟩
    refine ⟨rfl, hs1.fields.ignoreLf, c, cs, rfl, ?_⟩
    have htr1 : Tr s s1 c1 (fun x x' => x' = x ∧ absF s x = absF s1 x ∧
        (absF s x).curIn ["table", "tbody", "template", "tfoot", "thead", "tr"] = true) :=
      (Tr.of_same hm hs1 he1 hc1).conseq fun x x' hx _ ⟨h1, h2⟩ => ⟨h1, h2, hcur x hx⟩
    refine (Tr.withMode (tbl_tr_toText c htr1 hp) .inTableText).conseq ?_
    intro x x' hx _ hr
    rw [byModeDev_three_char (show tblThree (absF s x).mode from hmode)]
    exact hr
  · intro s1 c1 hs1 he1 hc1 hcur
    exact tbl_pc_fosterChars hbodyc hwf hm hs1 he1 hc1 hlf hdisp hmode hcur

theorem modeCharSim_inTable (hbodyc : StepSimChars stepInBody Spec.TreeModes.inBody) : ModeCharSim .inTable := by
  intro st text hwf s _ hm hmode hlf hdisp
  show PC (stepInTable (.chars st text)) s _
  simp only [stepInTable]
  exact tbl_charSim_three hbodyc hwf hm (by rw [hmode]; exact Or.inl rfl) hlf hdisp

theorem modeCharSim_inTableBody (hbodyc : StepSimChars stepInBody Spec.TreeModes.inBody) : ModeCharSim .inTableBody := by
  intro st text hwf s _ hm hmode hlf hdisp
  show PC (stepInTableBody (.chars st text)) s _
  simp only [stepInTableBody, stepInTable]
  exact tbl_charSim_three hbodyc hwf hm (by rw [hmode]; exact Or.inr (Or.inl rfl)) hlf hdisp

theorem modeCharSim_inRow (hbodyc : StepSimChars stepInBody Spec.TreeModes.inBody) : ModeCharSim .inRow := by
  intro st text hwf s _ hm hmode hlf hdisp
  show PC (stepInRow (.chars st text)) s _
  simp only [stepInRow, stepInTable]
  exact tbl_charSim_three hbodyc hwf hm (by rw [hmode]; exact Or.inr (Or.inr rfl)) hlf hdisp


/-! ### ends of arms of "in table body" / "in row" -/

/-- a computation that pops the current node: `pop`, or `pop` with the assertion of "in row" -/
def TblPops {α : Type} (P : M α) : Prop :=
  ∀ s0, MInv s0 → PC P s0 (fun _ s' c => Tr s0 s' c (fun x x' => x' = x ∧ absF s' x = (absF s0 x).pop))

theorem tblPops_pop : TblPops pop := fun _ hm0 =>
  pc_conseq (pc_pop hm0) fun _ _ _ _ ⟨_, _, _, htr⟩ => htr.conseq fun _ _ _ _ ⟨h1, h2, _⟩ => ⟨h1, h2⟩

theorem tblPops_popTr (site : String) : TblPops (popTr site) := by
  intro s0 hm0
  unfold popTr
  refine pc_seq (pc_pop hm0) ?_
  rintro node s1 c1 _ ⟨-, -, -, htr1⟩
  refine pc_seq (pc_of_query htr1.1 (tot_htmlElemNamed s1 node "tr")) ?_
  rintro b s2 c2 _ ⟨-, htr2⟩
  cases b with
  | false => simp only [Bool.not_false, if_true]; exact pc_panicAt
  | true =>
    simp only [Bool.not_true, Bool.false_eq_true, if_false]
    refine pc_pure ?_
    rw [List.append_nil]
    refine (htr1.trans htr2).conseq ?_
    rintro x x2 _ _ ⟨x1, ⟨hx1, e1, -⟩, hx2, e2⟩
    subst x2
    subst x1
    exact ⟨rfl, by rw [← e2, e1]⟩

/-- "… Pop the current node from the stack of open elements.  Switch the insertion mode to `m`." -/
theorem tbl_pc_popSetMode {α : Type} {P : M α} (hP : TblPops P) {s s0 : State} {c0 : List Call} {R0 : Aux → Aux → Prop}
    {spec : SState → Spec.TreeModes.M (Step Id)}
    (h0 : Tr s s0 c0 R0) (m : Mode) (hne : m ≠ .inTableText) (tok : Token)
    (hspec : ∀ x x0, AuxOk s x → R0 x x0 →
      spec (absF s x) = .ok (.done ((absF s0 x0).pop.setMode (imode m)))) :
    PC (P >>= fun _ => setMode m >>= fun _ => pure ProcessResult.done) s0 (fun res s' c =>
      TokPost spec s tok res s' (c0 ++ c)) := by
  refine pc_seq (hP s0 h0.1) ?_
  rintro _ s1 c1 _ htr1
  refine pc_seq (pc_setMode htr1.1 m) ?_
  rintro _ s2 c2 _ ⟨rfl, htr2⟩
  refine pc_pure ?_
  rw [List.append_nil, ← List.append_assoc]
  refine tokPost_of_tr ((h0.trans htr1).trans htr2) trivial ?_
  rintro x x2 hx hx2 ⟨x1, ⟨x0, r0, hx1, e1⟩, hx2e⟩
  subst x2
  subst x1
  refine ⟨{ x0 with pendingJunk := (absF s1 x0).pendingTableChars }, ?_, ⟨rfl, rfl, rfl, rfl, rfl⟩, Or.inl rfl, rfl, rfl⟩
  simp only [stepOf]
  rw [tbl_absF_setMode _ _ _ hne, e1, hspec x x0 hx r0]

/-- "… Pop the current node from the stack of open elements.  Switch the insertion mode to `m`.
Reprocess the token." -/
theorem tbl_pc_popReprocess {α : Type} {P : M α} (hP : TblPops P) {s s0 : State} {c0 : List Call} {R0 : Aux → Aux → Prop}
    {spec : SState → Spec.TreeModes.M (Step Id)}
    (h0 : Tr s s0 c0 R0) (m : Mode) (hne : m ≠ .inTableText) (tok : Token)
    (hspec : ∀ x x0, AuxOk s x → R0 x x0 →
      spec (absF s x) = .ok (.reprocess ((absF s0 x0).pop.setMode (imode m)))) :
    PC (P >>= fun _ => pure (ProcessResult.reprocess m tok)) s0 (fun res s' c =>
      TokPost spec s tok res s' (c0 ++ c)) := by
  refine pc_seq (hP s0 h0.1) ?_
  rintro _ s1 c1 _ htr1
  refine pc_pure ?_
  rw [List.append_nil]
  refine tokPost_of_tr (h0.trans htr1) rfl ?_
  rintro x x1 hx hx1 ⟨x0, r0, hx1e, e1⟩
  subst x1
  refine ⟨{ x0 with pendingJunk := (absF s1 x0).pendingTableChars }, ?_, ⟨rfl, rfl, rfl, rfl, rfl⟩, Or.inl rfl, rfl, rfl⟩
  simp only [stepOf, applyRes]
  rw [tbl_absF_setMode _ _ _ hne, e1, hspec x x0 hx r0]

/-! ### "in table body" -/

/-- a stretch `x' = x ∧ absF s1 x = F (absF s x)` in the general form -/
theorem tbl_tr_gen {s s1 : State} {c1 : List Call} {F : SState → SState}
    (h : Tr s s1 c1 (fun x x' => x' = x ∧ absF s1 x = F (absF s x))) :
    Tr s s1 c1 (fun x x0 => absF s1 x0 = F (absF s x)) :=
  h.conseq fun x x' _ _ ⟨h1, h2⟩ => by subst x'; exact h2

/-- "If the stack of open elements does not have a tbody, thead, or tfoot element in table scope, this is a
parse error; ignore the token.  Otherwise: clear the stack back to a table body context; act as if an end
tag with the same tag name as the current node had been seen, then reprocess the current token." -/
theorem tbl_pc_closeBody {s : State} (hm : MInv s) (tok : Token) (htok : tok ≠ .eof) :
    PC (inScope tableScope (fun e => elemIn e tableOuterBody) >>= fun b =>
        if b = true then popUntilCurrent tableBodyContext >>= fun _ => pop >>= fun _ =>
          pure (ProcessResult.reprocess .inTable tok)
        else unexpected) s
      (TokPost (fun σ =>
        if (!Spec.TreeModes.hasAnyInTableScope σ ["tbody", "thead", "tfoot"]) = true then
          pure (Step.done (σ.err "in table body: no tbody/thead/tfoot in table scope"))
        else pure (Step.reprocess ((Spec.TreeModes.clearBackToTableBody σ).pop.setMode .inTable))) s tok) := by
  refine pc_seq (pc_inScope_table_tableOuterBody hm) ?_
  rintro b s1 c1 _ htr1
  cases b with
  | false =>
    simp only [Bool.false_eq_true, if_false]
    exact pc_tok_after htok htr1 (pc_unexpected_err htr1.1 _ "in table body: no tbody/thead/tfoot in table scope")
      fun x x1 _ ⟨hx1, e1, hb⟩ => by subst x1; simp only [← e1, ← hb, Bool.not_false, if_true]
  | true =>
    simp only [if_true]
    refine pc_seq (pc_popUntilCurrent_tableBody htr1.1) ?_
    rintro _ s2 c2 _ htr2
    simp only [← List.append_assoc]
    refine tbl_pc_popReprocess tblPops_pop (htr1.trans htr2) .inTable (by decide) tok ?_
    rintro x x2 hx ⟨x1, ⟨hx1, e1, hb⟩, hx2, e2⟩
    subst x2
    subst x1
    simp only [← hb, Bool.not_true, Bool.false_eq_true, if_false]
    rw [e2, ← e1]
    rfl

/-- **"in table body" on a tag token** -/
theorem sim_inTableBody_tag (hhead : StepSimTok stepInHead Spec.TreeModes.inHead)
    (hbody : StepSimTok stepInBody Spec.TreeModes.inBody) (t : Tag) (hwf : TagWf t) (s : State) (hm : MInv s) :
    PC (stepInTableBody (.tag t)) s
      (TokPost (fun σ => Spec.TreeModes.inTableBody (cfgOf s) σ (stokOf (.tag t))) s (.tag t)) := by
  have hT := sim_inTable hhead hbody (.tag t) rfl hwf s hm
  have htok := tag_ne_eof t
  cases hk : t.kind with
  | startTag =>
    simp only [stokOf, stokOfTag_start hk] at hT
    simp only [stepInTableBody, Spec.TreeModes.inTableBody, tag_chain, stokOfTag_start hk, isStart_of_start hk,
      isEnd_of_start hk, ↓reduceIte]
    refine pc_tok_ite (fun _ => ?_) fun _ => pc_tok_ite (fun _ => ?_) fun _ =>
      pc_tok_ite (fun _ => tbl_pc_closeBody hm _ htok) fun _ => hT
    · -- `tr`
      refine pc_seq (pc_popUntilCurrent_tableBody hm) ?_
      rintro _ s1 c1 _ htr1
      exact tbl_pc_insertSetMode htr1 hwf.plain .inRow (by decide) (.tag t)
    · -- `th`, `td`
      refine pc_seq (tbl_pc_unexpected_err hm "in table body: cell without row") ?_
      rintro _ s1 c1 _ ⟨-, htr1⟩
      refine pc_seq (pc_popUntilCurrent_tableBody htr1.1) ?_
      rintro _ s2 c2 _ htr2
      simp only [← List.append_assoc]
      refine tbl_pc_phantomReprocessG
        (F := fun σ => Spec.TreeModes.clearBackToTableBody (σ.err "in table body: cell without row"))
        ((htr1.trans htr2).conseq ?_) "tr" .inRow (by decide) (.tag t)
      rintro x x2 _ _ ⟨x1, ⟨hx1, e1⟩, hx2, e2⟩
      subst x2
      rw [e2, ← e1]
  | endTag =>
    simp only [stokOf, stokOfTag_end hk] at hT
    simp only [stepInTableBody, Spec.TreeModes.inTableBody, tag_chain, stokOfTag_end hk, isStart_of_end hk,
      isEnd_of_end hk, ↓reduceIte]
    refine pc_tok_ite (fun _ => ?_) fun _ => pc_tok_ite (fun _ => tbl_pc_closeBody hm _ htok) fun _ =>
      pc_tok_ite (fun _ => pc_unexpected_err hm _ _) fun _ => hT
    -- `</tbody>`, `</tfoot>`, `</thead>`
    refine pc_seq (pc_inScopeNamedS_table hm t.name) ?_
    rintro b s1 c1 _ htr1
    cases b with
    | false =>
      simp only [Bool.false_eq_true, if_false]
      exact pc_tok_after htok htr1
        (pc_unexpected_done htr1.1 _ "in table body: end tag without element in table scope")
        fun x x1 _ ⟨hx1, e1, hb⟩ => by subst x1; simp only [specTag_name, ← e1, ← hb, Bool.not_false, if_true]
    | true =>
      simp only [if_true]
      refine pc_seq (pc_popUntilCurrent_tableBody htr1.1) ?_
      rintro _ s2 c2 _ htr2
      simp only [← List.append_assoc]
      refine tbl_pc_popSetMode tblPops_pop (htr1.trans htr2) .inTable (by decide) (.tag t) ?_
      rintro x x2 hx ⟨x1, ⟨hx1, e1, hb⟩, hx2, e2⟩
      subst x2
      subst x1
      simp only [specTag_name, ← hb, Bool.not_true, Bool.false_eq_true, if_false]
      rw [e2, ← e1]
      rfl

theorem modeSim_inTableBody (hhead : StepSimTok stepInHead Spec.TreeModes.inHead)
    (hbody : StepSimTok stepInBody Spec.TreeModes.inBody) : ModeSim .inTableBody := by
  intro tok hch hwf s _ hm hmode _
  have hmσ : ∀ x, (absF s x).mode = .inTableBody := fun x => by show imode s.mode = _; rw [hmode]; rfl
  have hT := sim_inTable hhead hbody tok hch hwf s hm
  show PC (stepInTableBody tok) s _
  cases tok with
  | chars st text => cases hch
  | tag t =>
    exact pc_tokPost_congr (sim_inTableBody_tag hhead hbody t hwf s hm) fun x _ => byModeDev_inTableBody (hmσ x) _
  | _ =>
    refine pc_tokPost_congr hT fun x _ => ?_
    rw [byModeDev_inTableBody (hmσ x)]
    simp only [stokOf, Spec.TreeModes.inTableBody]


/-! ### "in row" -/

/-- "Clear the stack back to a table row context.  Pop the current node (which will be a tr element) from the
stack of open elements.  Switch the insertion mode to "in table body".  Reprocess the token." -/
theorem tbl_pc_clearRowRe {s s0 : State} {c0 : List Call} {R0 : Aux → Aux → Prop} {spec : SState → Spec.TreeModes.M (Step Id)}
    (h0 : Tr s s0 c0 R0) (tok : Token) (site : String)
    (hspec : ∀ x x0, AuxOk s x → R0 x x0 →
      spec (absF s x) = .ok (.reprocess ((Spec.TreeModes.clearBackToTableRow (absF s0 x0)).pop.setMode .inTableBody))) :
    PC (popUntilCurrent tableRowContext >>= fun _ => popTr site >>= fun _ =>
        pure (ProcessResult.reprocess .inTableBody tok)) s0
      (fun res s' c => TokPost spec s tok res s' (c0 ++ c)) := by
  refine pc_seq (pc_popUntilCurrent_tableRow h0.1) ?_
  rintro _ s1 c1 _ htr1
  refine pc_conseq (tbl_pc_popReprocess (tblPops_popTr site) (spec := spec) (h0.trans htr1) .inTableBody (by decide) tok ?_) ?_
  · rintro x x1 hx ⟨x0, r0, hx1, e1⟩
    subst x1
    rw [hspec x x0 hx r0, e1]
    rfl
  · intro res s' c _ hp
    rw [← List.append_assoc]
    exact hp

/-- "… Switch the insertion mode to "in table body"." (the `tr` end tag) -/
theorem tbl_pc_clearRowSet {s s0 : State} {c0 : List Call} {R0 : Aux → Aux → Prop} {spec : SState → Spec.TreeModes.M (Step Id)}
    (h0 : Tr s s0 c0 R0) (tok : Token) (site : String)
    (hspec : ∀ x x0, AuxOk s x → R0 x x0 →
      spec (absF s x) = .ok (.done ((Spec.TreeModes.clearBackToTableRow (absF s0 x0)).pop.setMode .inTableBody))) :
    PC (popUntilCurrent tableRowContext >>= fun _ => popTr site >>= fun _ => setMode .inTableBody >>= fun _ =>
        pure ProcessResult.done) s0
      (fun res s' c => TokPost spec s tok res s' (c0 ++ c)) := by
  refine pc_seq (pc_popUntilCurrent_tableRow h0.1) ?_
  rintro _ s1 c1 _ htr1
  refine pc_conseq (tbl_pc_popSetMode (tblPops_popTr site) (spec := spec) (h0.trans htr1) .inTableBody (by decide) tok ?_) ?_
  · rintro x x1 hx ⟨x0, r0, hx1, e1⟩
    subst x1
    rw [hspec x x0 hx r0, e1]
    rfl
  · intro res s' c _ hp
    rw [← List.append_assoc]
    exact hp

/-- "If the stack of open elements does not have a tr element in table scope, this is a parse error; ignore
the token.  Otherwise: (close the row).  Reprocess the token." -/
theorem tbl_pc_closeRowRe {s : State} (hm : MInv s) (tok : Token) (htok : tok ≠ .eof) (w : String) :
    PC (inScopeNamed tableScope "tr" >>= fun b =>
        if b = true then popUntilCurrent tableRowContext >>= fun _ => popTr "mod.rs:637" >>= fun _ =>
          pure (ProcessResult.reprocess .inTableBody tok)
        else unexpected) s
      (TokPost (fun σ =>
        if (!Spec.TreeModes.hasInTableScope σ "tr") = true then pure (Step.done (σ.err w))
        else pure (Step.reprocess ((Spec.TreeModes.clearBackToTableRow σ).pop.setMode .inTableBody))) s tok) := by
  refine pc_seq (pc_inScopeNamed_table hm "tr") ?_
  rintro b s1 c1 _ htr1
  cases b with
  | false =>
    simp only [Bool.false_eq_true, if_false]
    exact pc_tok_after htok htr1 (pc_unexpected_err htr1.1 _ w)
      fun x x1 _ ⟨hx1, e1, hb⟩ => by subst x1; simp only [← e1, ← hb, Bool.not_false, if_true]
  | true =>
    simp only [if_true]
    refine tbl_pc_clearRowRe htr1 tok _ ?_
    rintro x x1 hx ⟨hx1, e1, hb⟩
    subst x1
    simp only [← hb, Bool.not_true, Bool.false_eq_true, if_false]
    rw [e1]
    rfl

/-- **"in row" on a tag token** -/
theorem sim_inRow_tag (hhead : StepSimTok stepInHead Spec.TreeModes.inHead)
    (hbody : StepSimTok stepInBody Spec.TreeModes.inBody) (t : Tag) (hwf : TagWf t) (s : State) (hm : MInv s) :
    PC (stepInRow (.tag t)) s
      (TokPost (fun σ => Spec.TreeModes.inRow (cfgOf s) σ (stokOf (.tag t))) s (.tag t)) := by
  have hT := sim_inTable hhead hbody (.tag t) rfl hwf s hm
  have htok := tag_ne_eof t
  cases hk : t.kind with
  | startTag =>
    simp only [stokOf, stokOfTag_start hk] at hT
    simp only [stepInRow, Spec.TreeModes.inRow, tag_chain, stokOfTag_start hk, isStart_of_start hk,
      isEnd_of_start hk, ↓reduceIte]
    refine pc_tok_ite (fun _ => ?_) fun _ => pc_tok_ite (fun _ => tbl_pc_closeRowRe hm _ htok _) fun _ => hT
    -- `th`, `td`
    refine pc_seq (pc_popUntilCurrent_tableRow hm) ?_
    rintro _ s1 c1 _ htr1
    refine pc_seq (pc_insertElementFor' htr1.1 hwf.plain) ?_
    rintro a s2 c2 _ ⟨-, -, -, -, -, htr2⟩
    refine pc_seq (pc_setMode_junk htr2.1 .inCell (by decide)) ?_
    rintro _ s3 c3 _ ⟨-, htr3⟩
    refine pc_seq (pc_pushMarker htr3.1) ?_
    rintro _ s4 c4 _ ⟨-, htr4⟩
    refine pc_pure ?_
    rw [List.append_nil, ← List.append_assoc, ← List.append_assoc]
    refine tokPost_of_tr (((htr1.trans htr2).trans htr3).trans htr4) trivial ?_
    rintro x x4 hx hx4 ⟨x3, ⟨x2, ⟨x1, ⟨hx1, e1⟩, e2⟩, hx3, e3⟩, hx4e, e4⟩
    subst x4
    subst x1
    refine ⟨x3, ?_, AuxSame.rfl', Or.inl rfl, rfl, rfl⟩
    rw [← e1, e2]
    simp only [stepOf]
    rw [← e4, e3]
    rfl
  | endTag =>
    simp only [stokOf, stokOfTag_end hk] at hT
    simp only [stepInRow, Spec.TreeModes.inRow, tag_chain, stokOfTag_end hk, isStart_of_end hk, isEnd_of_end hk,
      ↓reduceIte]
    refine pc_tok_ite (fun _ => ?_) fun _ => pc_tok_ite (fun _ => tbl_pc_closeRowRe hm _ htok _) fun _ =>
      pc_tok_ite (fun _ => ?_) fun _ => pc_tok_ite (fun _ => pc_unexpected_err hm _ _) fun _ => hT
    · -- `</tr>`
      refine pc_seq (pc_inScopeNamed_table hm "tr") ?_
      rintro b s1 c1 _ htr1
      cases b with
      | false =>
        simp only [Bool.false_eq_true, if_false]
        exact pc_tok_after htok htr1 (pc_unexpected_done htr1.1 _ "in row: tr end tag without tr in table scope")
          fun x x1 _ ⟨hx1, e1, hb⟩ => by subst x1; simp only [← e1, ← hb, Bool.not_false, if_true]
      | true =>
        simp only [if_true]
        refine tbl_pc_clearRowSet htr1 _ _ ?_
        rintro x x1 hx ⟨hx1, e1, hb⟩
        subst x1
        simp only [← hb, Bool.not_true, Bool.false_eq_true, if_false]
        rw [e1]
        rfl
    · -- `</tbody>`, `</tfoot>`, `</thead>`
      refine pc_seq (pc_inScopeNamedS_table hm t.name) ?_
      rintro b s1 c1 _ htr1
      cases b with
      | false =>
        simp only [Bool.false_eq_true, if_false]
        exact pc_tok_after htok htr1 (pc_unexpected_err htr1.1 _ "in row: end tag without element in table scope")
          fun x x1 _ ⟨hx1, e1, hb⟩ => by subst x1; simp only [specTag_name, ← e1, ← hb, Bool.not_false, if_true]
      | true =>
        simp only [if_true]
        refine pc_seq (pc_inScopeNamed_table htr1.1 "tr") ?_
        rintro b2 s2 c2 _ htr2
        cases b2 with
        | false =>
          simp only [Bool.false_eq_true, if_false]
          refine pc_pure ?_
          rw [List.append_nil]
          refine tokPost_of_tr (htr1.trans htr2) trivial ?_
          rintro x x2 hx hx2 ⟨x1, ⟨hx1, e1, hb⟩, hx2e, e2, hb2⟩
          subst x2
          subst x1
          refine ⟨x, ?_, AuxSame.rfl', Or.inl rfl, rfl, rfl⟩
          rw [← e1] at hb2
          simp only [specTag_name, ← hb, ← hb2, Bool.not_true, Bool.not_false, Bool.false_eq_true, if_false, if_true, stepOf]
          rw [e1, e2]
          rfl
        | true =>
          simp only [if_true, ← List.append_assoc]
          refine tbl_pc_clearRowRe (htr1.trans htr2) (.tag t) "mod.rs:637" ?_
          rintro x x2 hx ⟨x1, ⟨hx1, e1, hb⟩, hx2e, e2, hb2⟩
          subst x2
          subst x1
          rw [← e1] at hb2
          simp only [specTag_name, ← hb, ← hb2, Bool.not_true, Bool.false_eq_true, if_false]
          rw [← e2, ← e1]
          rfl

theorem modeSim_inRow (hhead : StepSimTok stepInHead Spec.TreeModes.inHead)
    (hbody : StepSimTok stepInBody Spec.TreeModes.inBody) : ModeSim .inRow := by
  intro tok hch hwf s _ hm hmode _
  have hmσ : ∀ x, (absF s x).mode = .inRow := fun x => by show imode s.mode = _; rw [hmode]; rfl
  have hT := sim_inTable hhead hbody tok hch hwf s hm
  show PC (stepInRow tok) s _
  cases tok with
  | chars st text => cases hch
  | tag t =>
    exact pc_tokPost_congr (sim_inRow_tag hhead hbody t hwf s hm) fun x _ => byModeDev_inRow (hmσ x) _
  | _ =>
    refine pc_tokPost_congr hT fun x _ => ?_
    rw [byModeDev_inRow (hmσ x)]
    simp only [stokOf, Spec.TreeModes.inRow]

end H5V.Lemmas.HtmlTBModes
