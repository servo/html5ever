import H5V.Lemmas.HtmlTBSkelShapeHead3
import H5V.Lemmas.HtmlTBSkelShapeReset
/-!
C06, second invariant layer: the `template` arms of the InHead rules and the EOF arm of
InTemplate, in every context that reaches them.
-/
namespace H5V.Props.C06
open H5V.Model.Dom hiding Str
open H5V.Model.HtmlTB hiding Str
open H5V.Lemmas.Dom

/-- the stacks on which the template arms work: a body-phase stack, `html head`, or `html` alone
(after the head) -/
def Base (d : Dom) (head : Option Id) (up : List Id) (ph : Phase) : Prop :=
  BodyBase d head up ph ∨ (∃ h, head = some h ∧ up = [h] ∧ ph = .p1) ∨ (up = [] ∧ ph = .p1)

theorem Core.setAF {s : State} {r : Id} {up : List Id} {ph : Phase} (hc : Core s r up ph) {af : List FormatEntry}
    (ha : AFok s.dom af) (hx : Afx s.dom af r) : Core { s with activeFormatting := af } r up ph := by
  have hl : Late { s with activeFormatting := af } := hc.late.free rfl rfl rfl rfl rfl rfl rfl rfl rfl
  exact ⟨hl, hc.stack, hc.rdoc, hc.nodup, hc.tg, ha, hc.tc, hc.tmm, hc.form, hc.rtu, hc.rnd, hc.kids, hc.elems, hc.bh,
    hx, hc.adj⟩

theorem Base.notPf {d : Dom} {head : Option Id} {up : List Id} {ph : Phase} (h : Base d head up ph) : ¬ ph.isPf := by
  rcases h with h | ⟨_, _, _, rfl⟩ | ⟨_, rfl⟩
  · exact h.notPf
  · exact fun h => h
  · exact fun h => h

/-- the mode `reset_insertion_mode` returns fits the stack -/
theorem reset_fits {s s' : State} {r : Id} {up : List Id} {ph : Phase} {m : Mode} (hc : Core s r up ph)
    (hb : Base s.dom s.headElem up ph) (e : resetInsertionMode s = .ok (m, s')) :
    QS s s' ∧ Fits s.dom s.headElem m up ph ∧ m ≠ .text ∧ m ≠ .inTableText := by
  rcases hb with hbb | ⟨h, hh, rfl, rfl⟩ | ⟨rfl, rfl⟩
  · obtain ⟨q, hbl, hn⟩ := reset_bl hc hbb e
    refine ⟨q, fits_of_bl hbl hbb hn, ?_, ?_⟩ <;> (rintro rfl; cases hbl)
  · obtain ⟨q, hsem⟩ := reset_sem hc e
    obtain ⟨h', e1, _, e3⟩ := hc.elems
    rw [hh] at e1; cases e1
    rcases hsem with ⟨a, x, b, hup, _, _, hat⟩ | ⟨hall, _⟩
    · have hx : x = h := by
        cases a with
        | nil => simp at hup; exact hup.1.symm
        | cons a0 a1 => simp at hup
      subst hx
      rw [e3, resetAt_head] at hat; cases hat
      exact ⟨q, ⟨x, hh, rfl, rfl⟩, by simp [lit_name], by simp [lit_name]⟩
    · have := hall h (by simp)
      rw [e3] at this; exact absurd this (by decide)
  · obtain ⟨q, hsem⟩ := reset_sem hc e
    obtain ⟨h', e1, _, _⟩ := hc.elems
    rcases hsem with ⟨a, x, b, hup, _⟩ | ⟨_, hat⟩
    · cases a <;> simp at hup
    · rw [e1, resetAt_html] at hat; cases hat
      exact ⟨q, ⟨rfl, rfl⟩, by simp [lit_name], by simp [lit_name]⟩

theorem isHS_template {n : EName} : isHS n "template".toList = true ↔ n = hN "template" := by
  constructor
  · intro h
    unfold isHS at h
    simp only [Bool.and_eq_true, beq_iff_eq] at h
    cases n
    obtain ⟨h1, h2⟩ := h
    simp only at h1 h2
    subst h1; subst h2
    rfl
  · rintro rfl; decide

/-- popping up to (and including) a `template` -/
theorem tmpl_popped {s s2 : State} {r m : Id} {up above : List Id} {ph : Phase} (hc : Core s r up ph)
    (hb : Base s.dom s.headElem up ph) (p : PR s s2 (m :: above)) (hm : nm s.dom m = hN "template") :
    ∃ up', Core s2 r up' ph ∧ Base s2.dom s2.headElem up' ph ∧
      tcount s2.dom s2.openElems + 1 ≤ s2.templateModes.length := by
  have hst := p.stack
  rw [hc.stack] at hst
  have hmr : m ≠ r := fun h0 => by rw [h0, hc.root_name] at hm; simp [lit_name] at hm
  -- the root stays
  obtain ⟨up', hs2, hup⟩ : ∃ up', s2.openElems = r :: up' ∧ up = up' ++ m :: above := by
    cases hq : s2.openElems with
    | nil => rw [hq] at hst; simp at hst; exact absurd hst.1.symm hmr
    | cons a t =>
      rw [hq] at hst
      simp at hst
      exact ⟨t, by rw [hst.1], hst.2⟩
  have hc2 : Core s2 r up' ph := hc.pr p hup
  have hnm : ∀ x, nm s2.dom x = nm s.dom x := nm_of_nodes p.nodes
  have hhead : s2.headElem = s.headElem := by rw [p.rest]
  have htm : s2.templateModes = s.templateModes := by rw [p.rest]
  refine ⟨up', hc2, ?_, ?_⟩
  · rw [hhead]
    rcases hb with (⟨b, u, hu, rfl, hnh⟩ | ⟨hh, t, u, h0, hu, htn, rfl⟩ | ⟨t, u, hu, htn, rfl, hnh⟩) | ⟨h, hh0, rfl, rfl⟩ | ⟨rfl, _⟩
    · -- body stays
      have hbm : b ≠ m := fun h0 => by
        obtain ⟨_, _, _, _, hbn⟩ := hc.elems
        rw [h0, hm] at hbn; simp [lit_name] at hbn
      cases up' with
      | nil => rw [hu] at hup; simp at hup; exact absurd hup.1 hbm
      | cons a t =>
        rw [hu] at hup; simp at hup
        obtain ⟨rfl, hu'⟩ := hup
        exact Or.inl (Or.inl ⟨b, t, rfl, rfl, fun h hh hmem => hnh h hh (by
          rw [hu, hu']
          rcases List.mem_cons.mp hmem with h1 | h1
          · rw [h1]; exact List.mem_cons_self
          · exact List.mem_cons_of_mem _ (List.mem_append_left _ h1))⟩)
    · have hhm : hh ≠ m := fun h1 => by
        obtain ⟨h', e1, _, e3⟩ := hc.elems
        rw [h0] at e1; cases e1
        rw [h1, hm] at e3; simp [lit_name] at e3
      cases up' with
      | nil => rw [hu] at hup; simp at hup; exact absurd hup.1 hhm
      | cons a t1 =>
        rw [hu] at hup; simp at hup
        obtain ⟨rfl, hu'⟩ := hup
        cases t1 with
        | nil => exact Or.inr (Or.inl ⟨hh, h0, rfl, rfl⟩)
        | cons a2 t2 =>
          simp at hu'
          obtain ⟨rfl, _⟩ := hu'
          exact Or.inl (Or.inr (Or.inl ⟨hh, t, t2, h0, rfl, by rw [hnm]; exact htn, rfl⟩))
    · cases up' with
      | nil => exact Or.inr (Or.inr ⟨rfl, rfl⟩)
      | cons a t1 =>
        rw [hu] at hup; simp at hup
        obtain ⟨rfl, hu'⟩ := hup
        exact Or.inl (Or.inr (Or.inr ⟨t, t1, rfl, by rw [hnm]; exact htn, rfl,
          fun h hh hmem => hnh h hh (by
          rw [hu, hu']
          rcases List.mem_cons.mp hmem with h1 | h1
          · rw [h1]; exact List.mem_cons_self
          · exact List.mem_cons_of_mem _ (List.mem_append_left _ h1))⟩))
    · -- `html head`: no template there
      exfalso
      cases up' with
      | nil =>
        simp at hup
        obtain ⟨h', e1, _, e3⟩ := hc.elems
        rw [hh0] at e1; cases e1
        rw [hup.1, hm] at e3
        simp [lit_name] at e3
      | cons a t1 => simp at hup
    · cases up' <;> simp at hup
  · -- one template less
    rw [htm]
    have h1 := hc.tc
    rw [hc.stack, hup] at h1
    rw [hs2]
    unfold tcount at h1 ⊢
    have : (r :: (up' ++ m :: above)) = (r :: up') ++ (m :: above) := rfl
    rw [this, List.countP_append] at h1
    have hcm : List.countP (fun x => nm s.dom x == hN "template") (m :: above) =
        List.countP (fun x => nm s.dom x == hN "template") above + 1 :=
      List.countP_cons_of_pos (by rw [hm]; simp [lit_name])
    rw [hcm] at h1
    have hcg : List.countP (fun x => nm s2.dom x == hN "template") (r :: up') =
        List.countP (fun x => nm s.dom x == hN "template") (r :: up') :=
      List.countP_congr (fun x _ => by rw [hnm])
    rw [hcg]
    omega


theorem isLate_of_tmplModeOk {m : Mode} (h : tmplModeOk m = true) : isLate m = true := by
  cases m <;> first | rfl | cases h

theorem Core.setTM {s : State} {r : Id} {up : List Id} {ph : Phase} (hc : Core s r up ph) {tm : List Mode}
    (htm : ∀ m ∈ tm, tmplModeOk m = true) (htc : tcount s.dom s.openElems ≤ tm.length) :
    Core { s with templateModes := tm } r up ph :=
  ⟨⟨hc.late.base, hc.late.pat, ⟨hc.late.st.doc, hc.late.st.ctx, hc.late.st.oe, hc.late.st.tail, hc.late.st.head,
      hc.late.st.ptt⟩, ⟨hc.late.ml.mode, hc.late.ml.orig, fun m hm => isLate_of_tmplModeOk (htm m hm)⟩⟩,
    hc.stack, hc.rdoc, hc.nodup, hc.tg, hc.afn, htc, htm, hc.form, hc.rtu, hc.rnd, hc.kids, hc.elems, hc.bh, hc.afx,
    hc.adj⟩

theorem Base.qs {s s' : State} {r : Id} {up : List Id} {ph : Phase} (hc : Core s r up ph)
    (hb : Base s.dom s.headElem up ph) (q : QS s s') : Base s'.dom s'.headElem up ph := by
  have hh : s'.headElem = s.headElem := by rw [q.rest]
  rw [hh]
  rcases hb with hbb | h | h
  · exact Or.inl (hbb.congr (fun x _ => q.nm x))
  · exact Or.inr (Or.inl h)
  · exact Or.inr (Or.inr h)

/-- the mode is set to what `reset_insertion_mode` answers -/
theorem reset_shape {s s1 s' : State} {r : Id} {up : List Id} {ph : Phase} {m : Mode} {u : Unit} (hc : Core s r up ph)
    (hb : Base s.dom s.headElem up ph) (e1 : resetInsertionMode s = .ok (m, s1)) (e2 : setMode m s1 = .ok (u, s')) :
    ShapeAt s' r up ph ∧ Base s'.dom s'.headElem up ph ∧ s'.mode = m ∧ QS s { s' with mode := s.mode } := by
  obtain ⟨q, hfit, hn1, hn2⟩ := reset_fits hc hb e1
  have hs' := modS_ok.mp e2
  have hc1 := hc.qs q
  have hb1 := Base.qs hc hb q
  have hfit1 : Fits s1.dom s1.headElem m up ph := by
    have : s1.headElem = s.headElem := by rw [q.rest]
    rw [this]; exact hfit.congr (fun x _ => q.nm x)
  obtain ⟨_, rfl⟩ := hs'
  refine ⟨⟨hc1.modes (isLate_of_fits hfit1) hc1.late.ml.orig, fitsM_of_fits hn1 hn2 rfl hfit1⟩, hb1, rfl, ?_⟩
  exact ⟨q.nodes, by
    show _ = { s with dom := s1.dom, traceRev := s1.traceRev }
    rw [q.rest]⟩

/-- after the `template` has been popped: the list of active formatting elements is cleared up to
the marker, the template mode is dropped, the insertion mode is reset -/
theorem tmpl_tail {s2 s3 s5 s' : State} {r : Id} {up' : List Id} {ph : Phase} {m : Mode} {u1 u : Unit}
    (hc2 : Core s2 r up' ph) (hb2 : Base s2.dom s2.headElem up' ph)
    (htc : tcount s2.dom s2.openElems + 1 ≤ s2.templateModes.length)
    (e1 : clearActiveFormattingToMarker s2 = .ok (u1, s3))
    (e3 : resetInsertionMode { s3 with templateModes := s3.templateModes.dropLast } = .ok (m, s5))
    (e4 : setMode m s5 = .ok (u, s')) :
    ShapeAt s' r up' ph ∧ Base s'.dom s'.headElem up' ph ∧ s'.mode = m := by
  unfold clearActiveFormattingToMarker at e1
  obtain ⟨_, rfl⟩ := modS_ok.mp e1
  have hc3 := hc2.setAF (af := (clearToMarkerRev s2.activeFormatting.reverse).reverse) (AFok.sub hc2.afn (by
    intro x hx
    have := mem_clearToMarkerRev _ _ (List.mem_reverse.mp hx)
    exact List.mem_reverse.mp this)) (Afx.of_elems hc2.elems hb2.notPf)
  have hc4 := hc3.setTM (tm := s2.templateModes.dropLast)
    (fun m hm => hc2.tmm m (List.dropLast_subset _ hm)) (by
      show tcount s2.dom s2.openElems ≤ _
      rw [List.length_dropLast]; omega)
  obtain ⟨h1, h2, h3, _⟩ := reset_shape hc4 hb2 e3 e4
  exact ⟨h1, h2, h3⟩

theorem isEnd_name {tag : Tag} {l l' : List String} (h : tag.isEnd l = true)
    (hl : ∀ a ∈ l, a ∉ l') : tag.isEnd l' = false := by
  obtain ⟨a, ha, hn, hk⟩ := name_of_isEnd h
  unfold Tag.isEnd isOneOf
  simp only [Bool.and_eq_false_iff, List.any_eq_false, beq_iff_eq]
  right
  intro b hb hq
  have : b = a := by
    rw [hn] at hq
    exact String.ext hq
  exact hl a ha (this ▸ hb)

theorem not_mem_thorough {n : EName} (h : thoroughImpliedEnd n = true) :
    n ≠ hN "html" ∧ n ≠ hN "template" ∧ n ≠ hN "body" ∧ n ≠ hN "head" := by
  refine ⟨?_, ?_, ?_, ?_⟩ <;> (rintro rfl; revert h; decide)

/-- the `</template>` arm of the InHead rules, on any of the stacks `Base` -/
theorem tmplEnd_sem {tag : Tag} (h : tag.isEnd ["template"] = true) {s s' : State} {r : Id} {up : List Id}
    {ph : Phase} {res : ProcessResult} (hc : Core s r up ph) (hb : Base s.dom s.headElem up ph)
    (e : stepInHead (.tag tag) s = .ok (res, s')) :
    res = .done ∧ (QS s s' ∨ ∃ up', ShapeAt s' r up' ph ∧ Base s'.dom s'.headElem up' ph) := by
  unfold stepInHead at e
  dsimp only at e
  have hs : ∀ l, ¬ (tag.isStart l = true) := fun l => by rw [isStart_false_of_isEnd h]; simp
  rw [if_neg (hs _), if_neg (hs _), if_neg (hs _), if_neg (hs _), if_neg (hs _),
    if_neg (by rw [isEnd_name h (by simp [lit_name])]; simp), if_neg (by rw [isEnd_name h (by simp [lit_name])]; simp),
    if_neg (hs _), if_pos h] at e
  obtain ⟨b, s1, e1, e2⟩ := bind_ok.mp e
  obtain ⟨q1, hb1⟩ := inHtmlElemNamed_sem e1
  rcases ite_run e2 with ⟨_, e2⟩ | ⟨hbt, e2⟩
  · obtain ⟨_, s2, e3, e4⟩ := bind_ok.mp e2
    obtain ⟨rfl, rfl⟩ := pure_ok.mp e4
    exact ⟨rfl, Or.inl (q1.trans (qs_unexpected e3).1)⟩
  · have hc1 := hc.qs q1
    have hbs1 := Base.qs hc hb q1
    obtain ⟨_, s2, e3, e4⟩ := bind_ok.mp e2
    obtain ⟨_, s3, e5, e6⟩ := bind_ok.mp e4
    obtain ⟨_, s4, e7, e8⟩ := bind_ok.mp e6
    obtain ⟨_, s5, e9, e10⟩ := bind_ok.mp e8
    obtain ⟨m, s6, e11, e12⟩ := bind_ok.mp e10
    obtain ⟨_, s7, e13, e14⟩ := bind_ok.mp e12
    obtain ⟨rfl, rfl⟩ := pure_ok.mp e14
    refine ⟨rfl, Or.inr ?_⟩
    -- the implied end tags
    obtain ⟨pop1, p1, hp1, _⟩ := generateImpliedEndTags_sem e3
    -- nothing of the base is popped: `pop1` is a suffix of the stack made of implied-end elements
    obtain ⟨pop2, p2, hp2⟩ := expectToCloseS_sem e5
    have hst1 := hc1.stack
    rcases hp2 with ⟨mm, above, rfl, hmm, _⟩ | ⟨hemp, _⟩
    · have p12 := p1.trans p2
      have hmm' : nm s1.dom mm = hN "template" := by
        have : nm s2.dom mm = nm s1.dom mm := nm_of_nodes p1.nodes mm
        rw [← this]; exact isHS_template.mp hmm
      have p12' : PR s1 s3 (mm :: (above ++ pop1)) := by simpa using p12
      obtain ⟨up', hc3, hb3, htc3⟩ := tmpl_popped hc1 hbs1 p12' hmm'
      obtain ⟨_, rfl⟩ := modS_ok.mp e9
      obtain ⟨g1, g2, _⟩ := tmpl_tail hc3 hb3 htc3 e7 e11 e13
      exact ⟨up', g1, g2⟩
    · -- the stack cannot run empty: there is a template on it, and it is not an implied-end element
      exfalso
      rename_i hall
      have hbtrue : b = true := by simpa using hbt
      obtain ⟨x, hx, hxn⟩ := hb1.mp hbtrue
      have hxn' := isHS_template.mp hxn
      have p12 := p1.trans p2
      have hst := p12.stack
      rw [hemp] at hst
      simp only [List.nil_append] at hst
      rw [q1.openElems] at hst
      have hx1 : x ∈ pop2 ++ pop1 := by rw [← hst]; exact hx
      rcases List.mem_append.mp hx1 with hr | hr
      · have := hall x hr
        have hnr : nm s2.dom x = hN "template" := by rw [nm_of_nodes p1.nodes x, q1.nm]; exact hxn'
        rw [hnr] at this; revert this; decide
      · have := (not_mem_thorough (hp1 x hr)).2.1
        rw [q1.nm] at this
        exact this hxn'


theorem Big.base {m : Mode} {r : Id} {ph : Phase} {s : State} (h : Big m r ph s) :
    ∃ up, Core s r up ph ∧ Base s.dom s.headElem up ph := by
  obtain ⟨up, hc, hbb, _, _⟩ := h
  exact ⟨up, hc, Or.inl hbb⟩

/-- the end of the input inside a template: the template is closed, the token is processed again -/
theorem inTemplateEof_sem {s s' : State} {r : Id} {up : List Id} {ph : Phase} {res : ProcessResult}
    (hc : Core s r up ph) (hb : Base s.dom s.headElem up ph) (e : inTemplateEof s = .ok (res, s')) :
    (res = .done ∧ QS s s') ∨ (∃ m, res = .reprocess m .eof ∧ Good r { s' with mode := m }) := by
  unfold inTemplateEof at e
  obtain ⟨b, s1, e1, e2⟩ := bind_ok.mp e
  obtain ⟨q1, hb1⟩ := inHtmlElemNamed_sem e1
  rcases ite_run e2 with ⟨_, e2⟩ | ⟨hbt, e2⟩
  · obtain ⟨rfl, rfl⟩ := pure_ok.mp e2
    exact Or.inl ⟨rfl, q1⟩
  · right
    obtain ⟨_, s2, e3, e4⟩ := bind_ok.mp e2
    have q2 := (qs_unexpected e3).1
    have q12 := q1.trans q2
    have hc2 := hc.qs q12
    have hbs2 := Base.qs hc hb q12
    obtain ⟨k, s3, e5, e6⟩ := bind_ok.mp e4
    obtain ⟨_, s4, e7, e8⟩ := bind_ok.mp e6
    obtain ⟨_, s5, e9, e10⟩ := bind_ok.mp e8
    obtain ⟨m1, s6, e11, e12⟩ := bind_ok.mp e10
    obtain ⟨_, s7, e13, e14⟩ := bind_ok.mp e12
    obtain ⟨m2, s8, e15, e16⟩ := bind_ok.mp e14
    obtain ⟨rfl, rfl⟩ := pure_ok.mp e16
    obtain ⟨popped, p3, hp3⟩ := popUntil_sem e5
    rcases hp3 with ⟨mm, above, rfl, hmm, _⟩ | ⟨hemp, hall⟩
    · have hmm' : nm s2.dom mm = hN "template" := isHS_template.mp hmm
      obtain ⟨up', hc3, hb3, htc3⟩ := tmpl_popped hc2 hbs2 p3 hmm'
      obtain ⟨_, rfl⟩ := modS_ok.mp e9
      obtain ⟨g1, g2, _⟩ := tmpl_tail hc3 hb3 htc3 e7 e11 e13
      obtain ⟨q8, hfit, hn1, hn2⟩ := reset_fits g1.core g2 e15
      refine ⟨m2, rfl, Good.mk' (up := up') (ph := ph) ⟨?_, ?_⟩⟩
      · exact (g1.core.qs q8).modes (isLate_of_fits hfit) (g1.core.qs q8).late.ml.orig
      · refine fitsM_of_fits hn1 hn2 rfl ?_
        have : s8.headElem = s7.headElem := by rw [q8.rest]
        show Fits s8.dom s8.headElem m2 up' ph
        rw [this]; exact hfit.congr (fun x _ => q8.nm x)
    · exfalso
      have hbtrue : b = true := by simpa using hbt
      obtain ⟨x, hx, hxn⟩ := hb1.mp hbtrue
      have hst := p3.stack
      rw [hemp, q12.openElems] at hst
      simp only [List.nil_append] at hst
      have := hall x (by rw [← hst]; exact hx)
      rw [q12.nm] at this
      unfold isHS at hxn
      rw [hxn] at this; cases this

instance : RB inTemplateEof :=
  ⟨fun m r ph s res s' hb hm hbl e => by
    obtain ⟨up, hc, hbs⟩ := hb.base
    rcases inTemplateEof_sem hc hbs e with ⟨rfl, q⟩ | ⟨m', rfl, hg⟩
    · exact (hb.good hm hbl).qs q
    · exact ⟨hg, inferInstance⟩⟩


/-! ### `<template>` -/

/-- the declarative-shadow-root branch of `<template>`, after the host has been determined -/
def shadowTail (tag : Tag) (host : Id) : M ProcessResult :=
  insertForeignElement tag nsHtml true >>= fun template =>
    sinkBool (.attachDeclarativeShadow host template tag.attrs) >>= fun succeeded =>
      if (!succeeded) = true then (pop >>= fun _ => insertElementFor tag >>= fun _ => pure ProcessResult.done)
      else pure ProcessResult.done

theorem pushOk_template {s : State} (h : tcount s.dom s.openElems + 1 ≤ s.templateModes.length) :
    PushOk s (hN "template") :=
  ⟨fun t _ => predOk_of_not_constrained (by simp [lit_name]), by simp [lit_name], fun _ => h⟩

/-- either the template element is pushed without being inserted (the sink accepted the shadow root),
or the state is as before, up to a stray node, and the element is inserted the normal way -/
theorem shadow_sem {tag : Tag} {host : Id} {s s' : State} {r : Id} {up : List Id} {ph : Phase} {res : ProcessResult}
    (htn : tag.name = "template".toList) (hc : Core s r up ph)
    (htc : tcount s.dom s.openElems + 1 ≤ s.templateModes.length)
    (e : shadowTail tag host s = .ok (res, s')) :
    (res = .done ∧ ∃ el, Core s' r (up ++ [el]) ph ∧ SameNames s.dom s'.dom up ∧ nm s'.dom el = hN "template" ∧
        s'.headElem = s.headElem ∧ s'.mode = s.mode ∧ s'.origMode = s.origMode) ∨
    (∃ s5, Core s5 r up ph ∧ SameNames s.dom s5.dom up ∧ s5.headElem = s.headElem ∧ s5.mode = s.mode ∧
        s5.origMode = s.origMode ∧ s5.openElems = s.openElems ∧ s5.templateModes = s.templateModes ∧
        (insertElementFor tag >>= fun _ => pure ProcessResult.done) s5 = .ok (res, s')) := by
  unfold shadowTail at e
  obtain ⟨el0, s3, e1, e2⟩ := bind_ok.mp e
  unfold insertForeignElement at e1
  obtain ⟨ip, s1, e3, e4⟩ := bind_ok.mp e1
  have q1 : QS s s1 := (apfi_sem e3).1
  obtain ⟨el, s2, e5, e6⟩ := bind_ok.mp e4
  simp only [Bool.not_true, Bool.false_eq_true, if_false] at e6
  obtain ⟨_, s2', e7, e8⟩ := bind_ok.mp e6
  unfold push at e7
  obtain ⟨_, rfl⟩ := modS_ok.mp e7
  obtain ⟨rfl, rfl⟩ := pure_ok.mp e8
  have hc1 := hc.qs q1
  obtain ⟨hc2, hdo2, hchg2, hsz2, hel2, hnm2, hnk2⟩ := createElement_core hc1 e5
  have hnm2' : nm s2.dom el = hN "template" := by rw [hnm2]; show (⟨nsHtml, tag.name⟩ : EName) = _; rw [htn]; rfl
  have hsn2 : SameNames s.dom s2.dom up := fun x hx => by
    rw [hc1.sameNames hchg2 x hx, q1.nm]
  have hoe2 : s2.openElems = s.openElems := by rw [hdo2, q1.openElems]
  have htm2 : s2.templateModes = s.templateModes := by rw [hdo2, q1.rest]
  have hfresh : el ∉ s2.openElems := by
    intro hm
    rw [hdo2] at hm
    exact fresh_ne (hc1.late.st.oe el hm) hsz2 rfl
  have htc2 : tcount s2.dom s2.openElems + 1 ≤ s2.templateModes.length := by
    rw [htm2, hoe2, hc.stack, tcount_congr (l := r :: up) (d := s.dom) (d' := s2.dom) ?_]
    · rw [← hc.stack]; exact htc
    · intro x hx
      rcases List.mem_cons.mp hx with rfl | hx
      · rw [nm_chg hchg2 (hc1.late.st.oe x hc1.root_mem), q1.nm]
      · exact hsn2 x hx
  obtain ⟨_, _, hkids2, _, htcc2, _⟩ := createElement_adj hc1.late hc1.adj e5
  have hadj3 : AdjD s2.dom (s2.openElems ++ [el]) := by
    have h' : AdjD s2.dom (s2.openElems ++ []) := by rw [List.append_nil]; exact hc2.adj
    exact h'.stackInsert_isolated hnk2 hkids2 (fun tc h => (htcc2 tc h).1)
  have hc3 : Core { s2 with openElems := s2.openElems ++ [el] } r (up ++ [el]) ph :=
    hc2.pushG ⟨hel2, hnk2 0⟩ hfresh (by rw [hnm2']; exact pushOk_template htc2) hadj3
  obtain ⟨b, s4, e11, e12⟩ := bind_ok.mp e2
  have q4 : QS _ s4 := qs_sink (sinkBool_ok.mp e11)
  have hc4 := hc3.qs q4
  have hh2 : s2.headElem = s.headElem ∧ s2.mode = s.mode ∧ s2.origMode = s.origMode := by
    rw [hdo2, q1.rest]; exact ⟨rfl, rfl, rfl⟩
  rcases ite_run e12 with ⟨_, e12⟩ | ⟨_, e12⟩
  · right
    obtain ⟨y, s5, e13, e14⟩ := bind_ok.mp e12
    have p5 := pop_sem e13
    have hy : y = el := by
      have := p5.stack
      rw [hc4.stack, show r :: (up ++ [el]) = (r :: up) ++ [el] from rfl] at this
      obtain ⟨_, hz⟩ := List.append_inj' this rfl
      simpa using hz.symm
    subst hy
    have hc5 : Core s5 r up ph := hc4.pr p5 rfl
    have hst5 : s5.openElems = s.openElems := by
      rw [hc5.stack, hc.stack]
    have hr5 := p5.rest
    have hr4 := q4.rest
    refine ⟨s5, hc5, ?_, ?_, ?_, ?_, hst5, ?_, e14⟩
    · intro x hx
      rw [nm_of_nodes p5.nodes x, q4.nm]; exact hsn2 x hx
    · rw [hr5, hr4]; exact hh2.1
    · rw [hr5, hr4]; exact hh2.2.1
    · rw [hr5, hr4]; exact hh2.2.2
    · rw [hr5, hr4]; exact htm2
  · left
    obtain ⟨rfl, rfl⟩ := pure_ok.mp e12
    have hr4 := q4.rest
    refine ⟨rfl, el, hc4, ?_, ?_, ?_, ?_, ?_⟩
    · intro x hx; rw [q4.nm]; exact hsn2 x hx
    · rw [q4.nm]; exact hnm2'
    · rw [hr4]; exact hh2.1
    · rw [hr4]; exact hh2.2.1
    · rw [hr4]; exact hh2.2.2


/-- how `insert_element_for(<template>)` behaves in the context at hand -/
def TmplIns (tag : Tag) (s : State) (r : Id) (up : List Id) (ph : Phase) : Prop :=
  ∀ (s5 s6 : State) (el : Id), Core s5 r up ph → SameNames s.dom s5.dom up → s5.headElem = s.headElem →
    s5.openElems = s.openElems → tcount s5.dom s5.openElems + 1 ≤ s5.templateModes.length →
    insertElementFor tag s5 = .ok (el, s6) →
    Core s6 r (up ++ [el]) ph ∧ SameNames s5.dom s6.dom up ∧ nm s6.dom el = hN "template" ∧
      s6.headElem = s5.headElem ∧ s6.mode = s5.mode ∧ s6.origMode = s5.origMode

/-- the `<template>` arm of the InHead rules: a `template` element is pushed, the mode is InTemplate -/
theorem tmplStart_sem {tag : Tag} (h : tag.isStart ["template"] = true) {s s' : State} {r : Id} {up : List Id}
    {ph : Phase} {res : ProcessResult} (hc : Core s r up ph) (ins : TmplIns tag s r up ph)
    (e : stepInHead (.tag tag) s = .ok (res, s')) :
    res = .done ∧ ∃ el, Core s' r (up ++ [el]) ph ∧ SameNames s.dom s'.dom up ∧ nm s'.dom el = hN "template" ∧
      s'.headElem = s.headElem ∧ s'.mode = .inTemplate ∧ s'.origMode = s.origMode := by
  unfold stepInHead at e
  dsimp only at e
  have hs : ∀ l, (∀ a ∈ ["template"], a ∉ l) → ¬ (tag.isStart l = true) := fun l hl => by
    rw [isStart_name h hl]; simp
  have he : ∀ l, ¬ (tag.isEnd l = true) := fun l => by rw [isEnd_false_of_isStart h]; simp
  rw [if_neg (hs _ (by simp [lit_name])), if_neg (hs _ (by simp [lit_name])), if_neg (hs _ (by simp [lit_name])), if_neg (hs _ (by simp [lit_name])),
    if_neg (hs _ (by simp [lit_name])), if_neg (he _), if_neg (he _), if_pos h] at e
  obtain ⟨a, ha, htn, _⟩ := name_of_isStart h
  simp only [List.mem_cons, List.not_mem_nil, or_false] at ha
  subst ha
  obtain ⟨_, s1, e1, e2⟩ := bind_ok.mp e
  obtain ⟨_, rfl⟩ := modS_ok.mp e1
  obtain ⟨_, s2, e3, e4⟩ := bind_ok.mp e2
  obtain ⟨_, rfl⟩ := modS_ok.mp e3
  obtain ⟨_, s3, e5, e6⟩ := bind_ok.mp e4
  obtain ⟨_, rfl⟩ := modS_ok.mp e5
  obtain ⟨_, s4, e7, e8⟩ := bind_ok.mp e6
  obtain ⟨_, rfl⟩ := modS_ok.mp e7
  -- the state before the element is inserted
  have hcA : Core { s with activeFormatting := s.activeFormatting ++ [.marker] } r up ph :=
    hc.setAF (AFok.marker hc.afn) (hc.afx.same (fun y t hy => ⟨y, List.mem_append_left _ hy⟩))
  have hcB := (hcA.free (s' := { s with activeFormatting := s.activeFormatting ++ [.marker], framesetOk := false })
    rfl rfl rfl rfl rfl rfl rfl rfl rfl rfl rfl)
  have hcC := hcB.modes (m' := .inTemplate) (om' := s.origMode) rfl hc.late.ml.orig
  have hcD := hcC.setTM (tm := s.templateModes ++ [.inTemplate]) (by
    intro m hm
    rcases List.mem_append.mp hm with hm | hm
    · exact hc.tmm m hm
    · simp at hm; subst hm; rfl) (by
    show tcount s.dom s.openElems ≤ _
    have := hc.tc
    rw [List.length_append]; simp; omega)
  obtain ⟨b, s5, e9, e10⟩ := bind_ok.mp e8
  have q5 : QS _ s5 := IsQ.q _ _ _ e9
  have hc5 := hcD.qs q5
  have hr5 := q5.rest
  have htc5 : tcount s5.dom s5.openElems + 1 ≤ s5.templateModes.length := by
    have h1 : s5.templateModes = s.templateModes ++ [.inTemplate] := by rw [hr5]
    have h2 : s5.openElems = s.openElems := by rw [hr5]
    rw [h1, h2, tcount_congr (l := s.openElems) (d := s.dom) (d' := s5.dom) (fun x _ => q5.nm x)]
    have := hc.tc
    rw [List.length_append]; simp; omega
  have hsn5 : SameNames s.dom s5.dom up := fun x _ => q5.nm x
  have hh5 : s5.headElem = s.headElem ∧ s5.openElems = s.openElems ∧ s5.mode = .inTemplate ∧
      s5.origMode = s.origMode := by rw [hr5]; exact ⟨rfl, rfl, rfl, rfl⟩
  -- the normal way
  have normal : ∀ s6 : State, Core s6 r up ph → SameNames s.dom s6.dom up → s6.headElem = s.headElem →
      s6.openElems = s.openElems → tcount s6.dom s6.openElems + 1 ≤ s6.templateModes.length →
      s6.mode = .inTemplate → s6.origMode = s.origMode →
      (insertElementFor tag >>= fun _ => pure ProcessResult.done) s6 = .ok (res, s') →
      res = .done ∧ ∃ el, Core s' r (up ++ [el]) ph ∧ SameNames s.dom s'.dom up ∧ nm s'.dom el = hN "template" ∧
        s'.headElem = s.headElem ∧ s'.mode = .inTemplate ∧ s'.origMode = s.origMode := by
    intro s6 hc6 hsn6 hh6 hoe6 htc6 hm6 ho6 e11
    obtain ⟨el, s7, e12, e13⟩ := bind_ok.mp e11
    obtain ⟨rfl, rfl⟩ := pure_ok.mp e13
    obtain ⟨g1, g2, g3, g4, g5, g6⟩ := ins s6 _ el hc6 hsn6 hh6 hoe6 htc6 e12
    exact ⟨rfl, el, g1, fun x hx => by rw [g2 x hx, hsn6 x hx], g3, g4.trans hh6, g5.trans hm6, g6.trans ho6⟩
  rcases ite_run e10 with ⟨_, e10⟩ | ⟨_, e10⟩
  · rw [getS_bind] at e10
    have hctx : s5.contextElem = none := hc5.late.st.ctx
    cases hgl : s5.openElems.getLast? with
    | some host =>
      rw [hgl] at e10
      dsimp only at e10
      obtain ⟨sh, sX, eP, e11⟩ := bind_ok.mp e10
      obtain ⟨rfl, rfl⟩ := pure_ok.mp eP
      rcases ite_run e11 with ⟨hcond, e11⟩ | ⟨_, e11⟩
      · rw [hctx] at hcond; simp at hcond
      · obtain ⟨sh', sY, eQ, e12⟩ := bind_ok.mp e11
        obtain ⟨rfl, rfl⟩ := pure_ok.mp eQ
        have e13 : shadowTail tag _ _ = .ok (res, s') := e12
        rcases shadow_sem htn hc5 htc5 e13 with ⟨rfl, el, g1, g2, g3, g4, g5, g6⟩ | ⟨s6, g1, g2, g3, g4, g5, g6, g7, g8⟩
        · exact ⟨rfl, el, g1, fun x hx => by rw [g2 x hx, hsn5 x hx], g3, g4.trans hh5.1, g5.trans hh5.2.2.1,
            g6.trans hh5.2.2.2⟩
        · exact normal s6 g1 (fun x hx => by rw [g2 x hx, hsn5 x hx]) (g3.trans hh5.1) (g6.trans hh5.2.1)
            (by
              rw [g7, g6, tcount_congr (l := s5.openElems) (d := s5.dom) (d' := s6.dom) ?_]
              · exact htc5
              · intro x hx
                rw [hc5.stack] at hx
                rcases List.mem_cons.mp hx with rfl | hx
                · rw [g1.root_name, hc5.root_name]
                · exact g2 x hx)
            (g4.trans hh5.2.2.1) (g5.trans hh5.2.2.2) g8
    | none =>
      rw [hgl] at e10
      dsimp only at e10
      obtain ⟨_, _, eP, _⟩ := bind_ok.mp e10
      exact absurd eP panicAt_ok
  · exact normal s5 hc5 hsn5 hh5.1 hh5.2.1 htc5 hh5.2.2.1 hh5.2.2.2 e10


/-- `insert_element` changes no existing element and leaves the head pointer alone -/
theorem insertElement_chg {m : Mode} {r : Id} {ph : Phase} {s s' : State} {pushIt : Bool} {ns name : Str}
    {attrs : List Attr} {dup : Bool} {el : Id} (h : Big m r ph s)
    (e : insertElement pushIt ns name attrs dup s = .ok (el, s')) :
    Chg s.dom s'.dom ∧ s'.headElem = s.headElem ∧ s'.templateModes = s.templateModes := by
  obtain ⟨ip, s1, s2, s3, s4, s5, e1, q12, e3, q34, e5, hs'⟩ := insertElement_run e
  obtain ⟨q1, t, ht, hares⟩ := apfi_sem e1
  obtain ⟨_, _, hipok1⟩ := apfi_spec h.late e1
  have hb1 : Big m r ph s2 := (h.qs q1).qs q12
  have q02 : QS s s2 := q1.trans q12
  have hipok2 : IpOk s2.dom ip := hipok1.ext (SameSk.of_nodes q12.nodes).ext
  obtain ⟨up, hc2, hbb2, hneed2, hfp2⟩ := hb1
  obtain ⟨hc3, hdo3, hchg3, hfresh3, hel3, hnm3, hnol3⟩ := createElement_core hc2 e3
  have hc4 := hc3.qs q34
  have hext24 : Ext s2.dom s4.dom := by
    obtain ⟨_, x, _⟩ := createElementWithFlags_spec hc2.late e3
    exact x.trans (SameSk.of_nodes q34.nodes).ext
  have hipok4 : IpOk s4.dom ip := hipok2.ext hext24
  have hnol4 : ∀ q, el ∉ s4.dom.childrenOf q := fun q => by rw [childrenOf_of_nodes q34.nodes]; exact hnol3 q
  have hel4 : s4.dom.isElement el = true := by rw [isElement_of_nodes q34.nodes]; exact hel3
  have hloose4 : Loose s4.dom el := ⟨hel4, hnol4 0⟩
  obtain ⟨hl5, hext5, hk05, hdo5⟩ := insertAt_spec (child := .node el) hc4.late hipok4 hloose4.childOk e5
  have hchg05 : Chg s.dom s5.dom :=
    ((SameSk.of_nodes q02.nodes).chg.trans hchg3).trans ((SameSk.of_nodes q34.nodes).chg.trans hext5.chg)
  have hh5 : s5.headElem = s.headElem ∧ s5.templateModes = s.templateModes := by
    have h5 := hdo5; have h3 := hdo3; have h34 := q34.rest; have h02 := q02.rest
    constructor <;> rw [h5, h34, h3, h02]
  by_cases hp : pushIt = true
  · simp only [hp, if_true] at hs'
    subst hs'
    exact ⟨hchg05, hh5.1, hh5.2⟩
  · simp only [hp] at hs'
    subst hs'
    exact ⟨hchg05, hh5.1, hh5.2⟩


/-! ### the contexts -/

theorem tmplIns_big {tag : Tag} (htn : tag.name = "template".toList) {m : Mode} {s : State} {r : Id} {up : List Id}
    {ph : Phase} (hc : Core s r up ph) (hbb : BodyBase s.dom s.headElem up ph) (hneed : Need s.dom m up) :
    TmplIns tag s r up ph := by
  intro s5 s6 el hc5 hsn hh hoe htc e
  have hb5 : Big m r ph s5 := ⟨up, hc5, by rw [hh]; exact hbb.congr hsn, hneed.congr hsn, FPok.triv _ _⟩
  unfold insertElementFor at e
  rw [htn] at e
  obtain ⟨hb6, hm6, ho6, hnm6, _, _, hst6, _⟩ := insertElement_gen hb5 (fun _ => pushOk_template htc) e
  obtain ⟨hchg, hh6, _⟩ := insertElement_chg hb5 e
  obtain ⟨up6, hc6, _⟩ := hb6
  simp only [if_true] at hst6
  have hup6 : up6 = up ++ [el] := by
    have h1 := hc6.stack
    rw [hst6, hc5.stack] at h1
    have h2 : r :: up ++ [el] = r :: (up ++ [el]) := rfl
    rw [h2] at h1
    exact (List.cons.inj h1).2.symm
  subst hup6
  exact ⟨hc6, hc5.sameNames hchg, hnm6, hh6, hm6, ho6⟩

theorem tmplIns_head {tag : Tag} (htn : tag.name = "template".toList) {s : State} {r h : Id}
    (hc : Core s r [h] .p1) (hhn : nm s.dom h = hN "head") : TmplIns tag s r [h] .p1 := by
  intro s5 s6 el hc5 hsn hh hoe htc e
  have hn5 : nm s5.dom h = hN "head" := by rw [hsn h (by simp)]; exact hhn
  have hi : Inner s5 r h := inner_head hc5 hn5
  unfold insertElementFor at e
  rw [htn] at e
  obtain ⟨g1, g2, g3, g4, g5, g6, _⟩ := insertPush_inner hc5 hi (pushOk_template htc) e
  exact ⟨g1, g2, g3, g4, g5, g6⟩

/-- `<template>` in a body-like mode -/
theorem rb_tmplStart {tag : Tag} (h : tag.isStart ["template"] = true) : RB (stepInHead (.tag tag)) :=
  ⟨fun m r ph s res s' hb hm hbl e => by
    obtain ⟨up, hc, hbb, hneed, _⟩ := id hb
    obtain ⟨a, ha, htn, _⟩ := name_of_isStart h
    simp only [List.mem_cons, List.not_mem_nil, or_false] at ha
    subst ha
    obtain ⟨rfl, el, hc', hsn, hnm, hh, hm', _⟩ := tmplStart_sem h hc (tmplIns_big htn hc hbb hneed) e
    refine Good.mk' ⟨hc', fitsM_of_fits (by decide) (by decide) hm' ⟨?_, el, by simp, by rw [hnm]; simp [lit_name]⟩⟩
    rw [hh]
    refine (hbb.congr hsn).snoc (fun hd hhd => ?_)
    rintro rfl
    -- the head element is called `head`
    have hhn : nm s'.dom el = hN "head" := by
      have hnpf := hbb.notPf
      have hel := hc'.elems
      rw [hh] at hel
      cases ph with
      | p0 =>
        rcases hbb with ⟨_, _, _, h0, _⟩ | ⟨_, _, _, _, _, _, h0⟩ | ⟨_, _, _, _, h0, _⟩ <;> cases h0
      | p1 => obtain ⟨h', e1, _, e3⟩ := hel; rw [hhd] at e1; cases e1; exact e3
      | pb b => obtain ⟨h', e1, _, e3, _⟩ := hel; rw [hhd] at e1; cases e1; exact e3
      | pf fs => exact absurd trivial hnpf
    rw [hnm] at hhn; simp [lit_name] at hhn⟩

/-- `</template>` in a body-like mode -/
theorem rb_tmplEnd {tag : Tag} (h : tag.isEnd ["template"] = true) : RB (stepInHead (.tag tag)) :=
  ⟨fun m r ph s res s' hb hm hbl e => by
    obtain ⟨up, hc, hbs⟩ := hb.base
    obtain ⟨rfl, q | ⟨up', hs', _⟩⟩ := tmplEnd_sem h hc hbs e
    · exact (hb.good hm hbl).qs q
    · exact Good.mk' hs'⟩

/-- the template arms in InHead -/
theorem tmplOk_inHead : TmplOk .inHead := by
  intro tag r s res s' hg hm hse e
  obtain ⟨up, ph, hs, _⟩ := id hg
  have hf := hs.fits
  unfold FitsM at hf
  rw [hm] at hf
  obtain ⟨h, hh, rfl, rfl⟩ : ∃ h, s.headElem = some h ∧ up = [h] ∧ ph = .p1 := hf
  have hc := hs.core
  have hhn : nm s.dom h = hN "head" := by
    obtain ⟨h', e1, _, e3⟩ := hc.elems; rw [hh] at e1; cases e1; exact e3
  rcases hse with hst | hen
  · obtain ⟨a, ha, htn, _⟩ := name_of_isStart hst
    simp only [List.mem_cons, List.not_mem_nil, or_false] at ha
    subst ha
    obtain ⟨rfl, el, hc', hsn, hnm, hh', hm', _⟩ := tmplStart_sem hst hc (tmplIns_head htn hc hhn) e
    refine Good.mk' ⟨hc', fitsM_of_fits (by decide) (by decide) hm' ⟨?_, el, by simp, by rw [hnm]; simp [lit_name]⟩⟩
    exact Or.inr (Or.inl ⟨h, el, [], by rw [hh']; exact hh, rfl, hnm, rfl⟩)
  · obtain ⟨rfl, q | ⟨up', hs', _⟩⟩ := tmplEnd_sem hen hc (Or.inr (Or.inl ⟨h, hh, rfl, rfl⟩)) e
    · exact hg.qs q
    · exact Good.mk' hs'

/-- the template arms as AfterHead uses them -/
theorem tmplAfterHead : TmplAfterHead where
  start := by
    intro tag r h0 s res s' s'' u hc hh hm hst e e2
    have hhn : nm s.dom h0 = hN "head" := by
      obtain ⟨h', e1, _, e3⟩ := hc.elems; rw [hh] at e1; cases e1; exact e3
    obtain ⟨a, ha, htn, _⟩ := name_of_isStart hst
    simp only [List.mem_cons, List.not_mem_nil, or_false] at ha
    subst ha
    obtain ⟨rfl, el, hc', hsn, hnm, hh', hm', _⟩ := tmplStart_sem hst hc (tmplIns_head htn hc hhn) e
    obtain ⟨hse, hst4⟩ := removeSecond hc' e2
    have hc4 : Core s'' r [el] .p1 := hc'.dropSecond hse hst4
      (by intro b hb; simp at hb; subst hb; rw [hnm]; simp [lit_name]) (by intro y hy; cases hy)
    have hr := hse.rest
    have hm4 : s''.mode = .inTemplate := by rw [hr]; exact hm'
    refine Good.mk' ⟨hc4, fitsM_of_fits (om := .inTemplate) (by decide) (by decide) hm4
      ⟨?_, el, by simp, by rw [hse.nm, hnm]; simp [lit_name]⟩⟩
    refine Or.inr (Or.inr ⟨el, [], rfl, by rw [hse.nm]; exact hnm, rfl, fun hd hhd => ?_⟩)
    have : s''.headElem = s'.headElem := by rw [hr]
    rw [this, hh', hh] at hhd
    cases hhd
    intro hmem
    have heq : h0 = el := by simpa using hmem
    have := hsn h0 (by simp)
    rw [hhn, heq, hnm] at this; exact absurd this (by simp [lit_name])
  end_ := by
    intro tag r s res s' hg hm hen e
    obtain ⟨up, ph, hs, _⟩ := id hg
    have hf := hs.fits
    unfold FitsM at hf
    rw [hm] at hf
    obtain ⟨rfl, rfl⟩ : up = [] ∧ ph = .p1 := hf
    obtain ⟨rfl, q | ⟨up', hs', _⟩⟩ := tmplEnd_sem hen hs.core (Or.inr (Or.inr ⟨rfl, rfl⟩)) e
    · exact hg.qs q
    · exact Good.mk' hs'

end H5V.Props.C06
