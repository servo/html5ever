import H5V.Lemmas.XmlTokSafe
import H5V.Lemmas.HtmlTokTerm
/-!
Termination of the XML tokenizer loop (the counterpart of `H5V.Lemmas.HtmlTokTerm`): a measure `mu m inp` on
(machine, unread input) that strictly decreases along every `.cont` step of `XmlTokenizer::step`,
and is bounded by the fuel `fuelFor m inp` that `feed` / `end` hand to `run`.

The only text that can be read more than once is what a named character reference collects in
`name_buf` and gives back (`unconsume_name`): an alphanumeric/`;` run directly after an `&`.
`tripF` (shared with the HTML proof, as is the kernel-checked table fact `lookup_runCh`) counts the
characters of the unread input that can still make that trip; every character weighs 16 (whether
unread or stashed in `temp_buf` / `name_buf` / as the `#x` of a numeric reference), a pending
`reconsume` 12, the sub-tokenizer 8 + a rank ≤ 3, a tokenizer state at most 2 (`base`: reconsume
chains of the table, and the non-consuming exit of the markup-declaration state).

The invariant `TInv` = `Safe` (no-panic, `XmlTokSafe`) + `TI` (look-ahead / reconsume discipline:
`temp_buf` is empty outside the two `eat` states, no pending "ignore LF" while text is stashed, no
pending `reconsume` in an `eat` state or during a character reference, a pending reconsume with
"ignore LF" set re-delivers the LF of a folded CR, no "ignore LF" during a character reference,
`name_buf` holds alphanumerics/`;` only, the hex marker is not `&`).  Unlike `Good` (`XmlTokChunk`)
its preservation does not need `at_eof = false`, so it also covers the loop inside `end()`.
-/
namespace H5V.Model.XmlTok
open H5V.Model.HtmlTok (runCh tripF tripF_nil runCh_ne_amp tripF_cons_amp tripF_cons_run tripF_cons_other
  tripF_le_true tripF_le_length tripF_suffix tripF_false_cons tripF_false_run tripF_true_cons_run tripF_true_run
  tripF_true_hash)

theorem isPrefixOf_eq (a b : List Nat) : isPrefixOf a b = HtmlTok.isPrefixOf a b := by
  induction a generalizing b with
  | nil => simp [isPrefixOf, HtmlTok.isPrefixOf]
  | cons x xs ih =>
    cases b with
    | nil => simp [isPrefixOf, HtmlTok.isPrefixOf]
    | cons y ys => simp [isPrefixOf, HtmlTok.isPrefixOf, ih]

theorem entityLookupN_eq (key : List Nat) : entityLookupN key = HtmlTok.entityLookupN key := by
  unfold entityLookupN HtmlTok.entityLookupN
  cases key with
  | nil => rfl
  | cons c t => simp only [isPrefixOf_eq]; rfl

theorem entityLookup_eq (nb : Str) : entityLookup nb = HtmlTok.entityLookup nb := by
  unfold entityLookup HtmlTok.entityLookup
  exact entityLookupN_eq _

theorem isAsciiAlnum_eq (c : Char) : isAsciiAlnum c = HtmlTok.isAsciiAlnum c := rfl

theorem lookup_runCh (nb : Str) (mt : Nat × Nat) (h : entityLookup nb = some mt) :
    ∀ x ∈ nb, runCh x = true :=
  HtmlTok.lookup_runCh nb mt (by rw [← entityLookup_eq]; exact h)


theorem alnum_runCh {c : Char} (h : isAsciiAlnum c = true) : runCh c = true := by
  unfold runCh; rw [← isAsciiAlnum_eq]; simp [h]

/-- the character `get_char` delivers for the raw character `c0` -/
def foldCh (c0 : Char) : Char := if c0 = '\r' then '\n' else if c0 = '\x00' then '�' else c0

theorem tripF_foldCh (c0 : Char) (s : Str) : tripF false (foldCh c0 :: s) ≤ tripF false (c0 :: s) := by
  unfold foldCh
  split
  · rename_i h; subst h
    rw [tripF_false_cons _ _ (by decide), tripF_false_cons _ _ (by decide)]
    exact Nat.le_refl _
  · split
    · rename_i h; subst h
      rw [tripF_false_cons _ _ (by decide), tripF_false_cons _ _ (by decide)]
      exact Nat.le_refl _
    · exact Nat.le_refl _

theorem foldCh_amp {c0 : Char} (h : foldCh c0 = '&') : c0 = '&' := by
  unfold foldCh at h
  split at h
  · exact absurd h (by decide)
  · split at h
    · exact absurd h (by decide)
    · exact h

theorem foldCh_runCh {c0 : Char} (h : runCh (foldCh c0) = true) : foldCh c0 = c0 := by
  unfold foldCh at h ⊢
  split at h
  · exact absurd h (by decide)
  · split at h
    · exact absurd h (by decide)
    · rename_i h1 h2; simp [h1, h2]

/-! ### the measure -/

/-- characters of a numeric reference (`#`, `x`) or of `name_buf` the sub-tokenizer may give back -/
def crStash (cr : CharRefSt) : Nat :=
  match cr.state with
  | .octothorpe => 1
  | .numeric _ => if cr.seenDigit then 0 else 1 + (if cr.hexMarker.isSome then 1 else 0)
  | .named | .bogusName => (cr.nameBuf.getD []).length
  | _ => 0

def crFlag : CRState → Bool
  | .begin | .named | .bogusName => true
  | _ => false

def crRank : CRState → Nat
  | .begin => 3 | .octothorpe => 2 | .numeric _ => 1 | .numericSemicolon => 0 | .named => 1 | .bogusName => 1

/-- rank of a tokenizer state in the `reconsume` chains of the table (and for the non-consuming exit
of the markup-declaration state) -/
def base : State → Nat
  | .commentEnd | .commentEndDash | .tagAttrValueBefore => 1
  | .data | .bogusComment | .comment | .piData | .beforeDoctypeName | .tagAttrValue _ => 0
  | _ => 2

theorem base_le (s : State) : base s ≤ 2 := by
  cases s <;> simp [base]

/-- the character a pending `reconsume` will deliver again -/
def rc (m : Mach) : Str := if m.reconsume then [m.currentChar] else []

def mu (m : Mach) (inp : Str) : Nat :=
  match m.charRef with
  | some cr => 16 * (crStash cr + inp.length) + tripF (crFlag cr.state) inp + 8 + crRank cr.state
  | none =>
    16 * (m.tempBuf.length + inp.length) + tripF false (rc m ++ (m.tempBuf ++ inp))
      + (if m.reconsume then 12 else 0) + base m.state

theorem mu_none {m : Mach} (h : m.charRef = none) (inp : Str) :
    mu m inp = 16 * (m.tempBuf.length + inp.length) + tripF false (rc m ++ (m.tempBuf ++ inp))
      + (if m.reconsume then 12 else 0) + base m.state := by
  unfold mu; rw [h]

theorem mu_some {m : Mach} {cr : CharRefSt} (h : m.charRef = some cr) (inp : Str) :
    mu m inp = 16 * (crStash cr + inp.length) + tripF (crFlag cr.state) inp + 8 + crRank cr.state := by
  unfold mu; rw [h]

theorem crStash_le (cr : CharRefSt) : crStash cr ≤ (cr.nameBuf.getD []).length + 2 := by
  unfold crStash
  split
  · omega
  · split <;> (try split) <;> omega
  · omega
  · omega
  · omega

theorem crRank_le (s : CRState) : crRank s ≤ 3 := by cases s <;> simp [crRank]

/-- **the fuel handed to `run` exceeds the measure** -/
theorem mu_lt_fuelFor (m : Mach) (inp : Str) : mu m inp < fuelFor m inp := by
  unfold fuelFor
  cases hcr : m.charRef with
  | some cr =>
    rw [mu_some hcr]
    have h1 := crStash_le cr
    have h2 := tripF_le_length (crFlag cr.state) inp
    have h3 := crRank_le cr.state
    simp only
    omega
  | none =>
    rw [mu_none hcr]
    have h2 := tripF_le_length false (rc m ++ (m.tempBuf ++ inp))
    have h3 := base_le m.state
    have h4 : (rc m).length ≤ 1 := by unfold rc; split <;> simp
    simp only [List.length_append] at h2
    simp only
    split <;> omega

/-! ### arithmetic: the shapes of a decreasing step -/

theorem rc_false {m : Mach} (h : m.reconsume = false) : rc m = [] := by unfold rc; simp [h]
theorem rc_true {m : Mach} (h : m.reconsume = true) : rc m = [m.currentChar] := by unfold rc; simp [h]

/-- a read without pending `reconsume` that consumed at least `c0` (possibly asking to reconsume
the character it delivered) -/
theorem mu_dec_consume {m m' : Mach} {inp i' a : Str} {c0 : Char}
    (hcr : m.charRef = none) (hr : m.reconsume = false) (hcr' : m'.charRef = none) (hst' : m'.tempBuf = [])
    (hsp : m.tempBuf ++ inp = a ++ c0 :: i')
    (hcc : m'.reconsume = true → m'.currentChar = foldCh c0) : mu m' i' < mu m inp := by
  rw [mu_none hcr, mu_none hcr', rc_false hr, hst', hsp]
  have hl : m.tempBuf.length + inp.length = a.length + (i'.length + 1) := by
    have := congrArg List.length hsp
    simpa using this
  have hb := base_le m'.state
  have h1 : tripF false (c0 :: i') ≤ tripF false (a ++ c0 :: i') := tripF_suffix false a _
  have h2 : tripF false i' ≤ tripF false (c0 :: i') := tripF_suffix false [c0] i'
  have h3 := tripF_foldCh c0 i'
  rw [hl]
  cases hr' : m'.reconsume with
  | false => simp [rc_false hr']; omega
  | true =>
    rw [rc_true hr', hcc hr']
    simp only [List.nil_append, List.length_nil, List.cons_append, ↓reduceIte]
    omega

/-- a step without pending `reconsume` before and after, that consumed something or moved down in
the state ranking (what was stashed may have gone back to the queue) -/
theorem mu_dec_plain {m m' : Mach} {inp i' a : Str}
    (hcr : m.charRef = none) (hr : m.reconsume = false) (hcr' : m'.charRef = none) (hr' : m'.reconsume = false)
    (hst' : m'.tempBuf = []) (hsp : m.tempBuf ++ inp = a ++ i')
    (h : a ≠ [] ∨ base m'.state < base m.state) : mu m' i' < mu m inp := by
  rw [mu_none hcr, mu_none hcr', rc_false hr, rc_false hr', hst', hsp]
  have hl : m.tempBuf.length + inp.length = a.length + i'.length := by
    have := congrArg List.length hsp
    simpa using this
  have hb := base_le m'.state
  have h1 : tripF false i' ≤ tripF false (a ++ i') := tripF_suffix false a _
  rw [hl]
  simp only [hr, hr', List.nil_append, List.length_nil, Bool.false_eq_true, ↓reduceIte]
  rcases h with h | h
  · have : 0 < a.length := List.length_pos_iff.mpr h
    omega
  · omega

/-- a read that re-delivers the pending character -/
theorem mu_dec_recon {m m' : Mach} {inp : Str}
    (hcr : m.charRef = none) (hr : m.reconsume = true) (hst : m.tempBuf = []) (hcr' : m'.charRef = none)
    (hst' : m'.tempBuf = [])
    (hcc : m'.reconsume = true → m'.currentChar = m.currentChar ∧ base m'.state < base m.state) :
    mu m' inp < mu m inp := by
  rw [mu_none hcr, mu_none hcr', rc_true hr, hst, hst']
  have hb := base_le m'.state
  have h1 : tripF false inp ≤ tripF false (m.currentChar :: inp) := tripF_suffix false [m.currentChar] inp
  cases hr' : m'.reconsume with
  | false => simp [rc_false hr', hr]; omega
  | true =>
    obtain ⟨e1, e2⟩ := hcc hr'
    rw [rc_true hr', e1]
    simp only [hr, List.nil_append, List.cons_append, ↓reduceIte]
    omega

theorem crStash_begin {cr : CharRefSt} (h : cr.state = .begin) : crStash cr = 0 := by
  unfold crStash; rw [h]

/-- a character reference starts on a freshly consumed `&` -/
theorem mu_dec_amp {m m' : Mach} {inp i' a : Str} {cr : CharRefSt}
    (hcr : m.charRef = none) (hr : m.reconsume = false) (hcr' : m'.charRef = some cr) (hb : cr.state = .begin)
    (hsp : m.tempBuf ++ inp = a ++ '&' :: i') : mu m' i' < mu m inp := by
  rw [mu_none hcr, mu_some hcr', rc_false hr, hsp, crStash_begin hb, hb]
  have hl : m.tempBuf.length + inp.length = a.length + (i'.length + 1) := by
    have := congrArg List.length hsp
    simpa using this
  have h1 : tripF false ('&' :: i') ≤ tripF false (a ++ '&' :: i') := tripF_suffix false a _
  rw [tripF_cons_amp] at h1
  rw [hl]
  simp only [crFlag, crRank, List.nil_append]
  omega

/-- a character reference starts on a re-delivered `&` -/
theorem mu_dec_amp_recon {m m' : Mach} {inp : Str} {cr : CharRefSt}
    (hcr : m.charRef = none) (hr : m.reconsume = true) (hcc : m.currentChar = '&') (hst : m.tempBuf = [])
    (hcr' : m'.charRef = some cr) (hb : cr.state = .begin) : mu m' inp < mu m inp := by
  rw [mu_none hcr, mu_some hcr', rc_true hr, hst, hcc, crStash_begin hb, hb]
  simp only [crFlag, crRank, List.nil_append, List.cons_append, tripF_cons_amp, hr, ↓reduceIte, List.length_nil]
  omega


/-! ### the reader: what a successful read consumed and left in the registers -/

theorem foldChar_more (o : Opts) (m : Mach) (c : Char) :
    (foldChar o m c).1 = foldCh c ∧ (foldChar o m c).2.currentChar = foldCh c ∧
    (foldChar o m c).2.ignoreLf = (m.ignoreLf || decide (c = '\r')) := by
  have hcc : (foldChar o m c).2.currentChar = (foldChar o m c).1 := rfl
  have h1 : (foldChar o m c).1 = foldCh c := by
    unfold foldChar foldCh
    by_cases hc : c = '\r'
    · simp only [hc, ↓reduceIte]; rfl
    · simp only [hc, ↓reduceIte]
  refine ⟨h1, by rw [hcc, h1], ?_⟩
  unfold foldChar
  generalize hcm : (if c = '\r' then ('\n', m.setIgnoreLf true) else (c, m)) = cm
  have h2 : cm.2.ignoreLf = (m.ignoreLf || decide (c = '\r')) := by
    rw [← hcm]; split <;> simp_all
  dsimp only
  generalize (if cm.1 = '\x00' then '�' else cm.1) = c'
  split <;> simp [h2]

theorem foldCh_cr_of_lf {c : Char} (h : foldCh c = '\n') : c = '\r' ∨ c = '\n' := by
  unfold foldCh at h
  split at h
  · left; assumption
  · split at h
    · exact absurd h (by decide)
    · right; exact h

/-- what a successful read of a fresh character leaves: the delivered character is the folded raw
character `c0`, found after a (possibly empty: skipped LF) prefix `a`; `current_char` holds it; a
pending "ignore LF" means it was a folded CR -/
theorem preprocess_shape (o : Opts) (m m1 : Mach) (x c : Char) (xs i1 : Str)
    (h : preprocess o m x xs = (some c, m1, i1)) :
    (∃ a c0, x :: xs = a ++ c0 :: i1 ∧ c = foldCh c0) ∧ m1.currentChar = c ∧
    (m1.ignoreLf = true → c = '\n') ∧ m1.reconsume = m.reconsume := by
  have key : ∀ (m0 : Mach) (y : Char), m0.ignoreLf = false → m0.reconsume = m.reconsume →
      (foldChar o m0 y).2.currentChar = (foldChar o m0 y).1 ∧
      ((foldChar o m0 y).2.ignoreLf = true → (foldChar o m0 y).1 = '\n') ∧
      (foldChar o m0 y).2.reconsume = m.reconsume ∧ (foldChar o m0 y).1 = foldCh y := by
    intro m0 y h0 hr0
    obtain ⟨f1, f2, f3⟩ := foldChar_more o m0 y
    refine ⟨by rw [f2, f1], fun hil => ?_, by rw [(foldChar_fields o m0 y).2.2.2.2, hr0], f1⟩
    rw [f3, h0] at hil
    simp only [Bool.false_or, decide_eq_true_eq] at hil
    subst hil
    rw [f1]; decide
  unfold preprocess at h
  split at h
  · split at h
    · cases xs with
      | nil => simp at h
      | cons y ys =>
        cases h
        obtain ⟨k1, k2, k3, k4⟩ := key (m.setIgnoreLf false) y rfl (by simp)
        exact ⟨⟨[x], y, rfl, k4⟩, k1, k2, k3⟩
    · cases h
      obtain ⟨k1, k2, k3, k4⟩ := key (m.setIgnoreLf false) x rfl (by simp)
      exact ⟨⟨[], x, rfl, k4⟩, k1, k2, k3⟩
  · rename_i hil
    cases h
    obtain ⟨k1, k2, k3, k4⟩ := key m x (by simpa using hil) rfl
    exact ⟨⟨[], x, rfl, k4⟩, k1, k2, k3⟩

theorem getChar_shape (o : Opts) (m m1 : Mach) (inp i1 : Str) (c : Char)
    (hri : m.reconsume = true → m.ignoreLf = true → m.currentChar = '\n')
    (h : getChar o m inp = (some c, m1, i1)) :
    ((m.reconsume = true ∧ i1 = inp ∧ c = m.currentChar) ∨
     (m.reconsume = false ∧ ∃ a c0, inp = a ++ c0 :: i1 ∧ c = foldCh c0)) ∧
    m1.reconsume = false ∧ m1.currentChar = c ∧ (m1.ignoreLf = true → c = '\n') := by
  unfold getChar at h
  split at h
  · rename_i hr
    cases h
    exact ⟨Or.inl ⟨hr, rfl, rfl⟩, by simp, by simp, fun hil => hri hr (by simpa using hil)⟩
  · rename_i hr
    have hr' : m.reconsume = false := by simpa using hr
    cases inp with
    | nil => simp at h
    | cons x xs =>
      obtain ⟨p1, p2, p3, p4⟩ := preprocess_shape o m m1 x c xs i1 h
      exact ⟨Or.inr ⟨hr', p1⟩, by rw [p4, hr'], p2, p3⟩

/-- a read of a `pop_except_from` state: re-delivery, or a non-empty prefix consumed whose last
character is `&` if the read reports `&` -/
def SetShape (m : Mach) (inp : Str) (r : SetRes) (i1 : Str) : Prop :=
  (m.reconsume = true ∧ i1 = inp ∧ r = .fromSet m.currentChar) ∨
  (m.reconsume = false ∧ ∃ a c0, inp = a ++ c0 :: i1 ∧ (r = .fromSet '&' → c0 = '&'))

theorem popExceptFrom_shape (o : Opts) (S : List Char) (m m1 : Mach) (inp i1 : Str) (r : SetRes)
    (hri : m.reconsume = true → m.ignoreLf = true → m.currentChar = '\n')
    (h : popExceptFrom o S m inp = (some r, m1, i1)) :
    SetShape m inp r i1 ∧ m1.reconsume = false ∧ (r = .fromSet '&' → m1.ignoreLf = false) := by
  have viaGet : ∀ c, getChar o m inp = (some c, m1, i1) → r = .fromSet c →
      SetShape m inp r i1 ∧ m1.reconsume = false ∧ (r = .fromSet '&' → m1.ignoreLf = false) := by
    intro c hg hrc
    obtain ⟨g0, g4, _, g6⟩ := getChar_shape o m m1 inp i1 c hri hg
    have hil : r = .fromSet '&' → m1.ignoreLf = false := by
      intro hx
      rw [hrc] at hx
      simp only [SetRes.fromSet.injEq] at hx
      cases hi : m1.ignoreLf with
      | false => rfl
      | true => have := g6 hi; rw [hx] at this; exact absurd this (by decide)
    refine ⟨?_, g4, hil⟩
    rcases g0 with ⟨g1, g2, g3⟩ | ⟨g1, a, c0, g2, g3⟩
    · exact Or.inl ⟨g1, g2, by rw [hrc, g3]⟩
    · refine Or.inr ⟨g1, a, c0, g2, fun hx => ?_⟩
      rw [hrc] at hx
      simp only [SetRes.fromSet.injEq] at hx
      rw [hx] at g3
      exact foldCh_amp g3.symm
  unfold popExceptFrom at h
  split at h
  · cases hg : getChar o m inp with
    | mk c rest =>
      obtain ⟨m2, i2⟩ := rest
      rw [hg] at h
      cases c with
      | none => simp at h
      | some c =>
        simp only [Option.map_some, Prod.mk.injEq, Option.some.injEq] at h
        obtain ⟨h1, h2, h3⟩ := h
        subst h2 h3
        exact viaGet c hg h1.symm
  · rename_i hs
    have hs' : o.exactErrors = false ∧ m.reconsume = false ∧ m.ignoreLf = false := by
      simpa [and_assoc] using hs
    cases inp with
    | nil => simp at h
    | cons x xs =>
      simp only at h
      split at h
      · have hg : getChar o m (x :: xs) = preprocess o m x xs := by
          unfold getChar; simp [hs'.2.1]
        cases hp : preprocess o m x xs with
        | mk c rest =>
          obtain ⟨m2, i2⟩ := rest
          rw [hp] at h hg
          cases c with
          | none => simp at h
          | some c =>
            simp only [Option.map_some, Prod.mk.injEq, Option.some.injEq] at h
            obtain ⟨h1, h2, h3⟩ := h
            subst h2 h3
            exact viaGet c hg h1.symm
      · simp only [Prod.mk.injEq, Option.some.injEq] at h
        obtain ⟨h1, h2, h3⟩ := h
        subst h2 h3
        exact ⟨Or.inr ⟨hs'.2.1, [], x, rfl, fun hx => by rw [← h1] at hx; simp at hx⟩, hs'.2.1,
          fun _ => hs'.2.2⟩


/-! ### the tables -/

/-- what the measure needs of an arm that asks to reconsume: it moves down in `base` and does not
enter a look-ahead state -/
def ReconArm (m : Mach) (x : Mach × Sig) : Prop :=
  x.1.reconsume = true → base x.1.state < base m.state ∧ isEatState x.1.state = false

theorem transChar_reconArm (o : Opts) (m : Mach) (c : Char) (h : m.reconsume = false) :
    ReconArm m (transChar o m c) := by
  unfold transChar
  split <;> (repeat' with_reducible apply ite_ind) <;> simp_all [ReconArm, base, isEatState]

/-- `reconsume` chains go down in `base` -/
theorem transChar_base (o : Opts) (m : Mach) (c : Char) (h : m.reconsume = false) :
    (transChar o m c).1.reconsume = true → base (transChar o m c).1.state < base m.state :=
  fun hr => (transChar_reconArm o m c h hr).1

/-- a transition never asks to reconsume in a look-ahead state -/
theorem transChar_recon (o : Opts) (m : Mach) (c : Char) (h : m.reconsume = false) :
    (transChar o m c).1.reconsume = true → isEatState (transChar o m c).1.state = false :=
  fun hr => (transChar_reconArm o m c h hr).2

theorem transSet_not_eat (m : Mach) (r : SetRes) (hk : readKind m.state = .popExcept) :
    isEatState (transSet m r).1.state = false := by
  cases hs : m.state with
  | data => cases r <;> simp only [transSet, hs] <;> (repeat' split) <;> simp_all [isEatState]
  | tagAttrValue k =>
    cases k <;> cases r <;> simp only [transSet, hs] <;> (repeat' split) <;> simp_all [isEatState]
  | _ => simp [hs, readKind] at hk

/-- a character reference is only ever started on `&` -/
theorem transSet_amp (m : Mach) (r : SetRes) (hcr : m.charRef = none)
    (h : (transSet m r).1.charRef ≠ none) : r = .fromSet '&' := by
  unfold transSet at h
  split at h <;> (repeat' split at h) <;> simp_all


/-! ### the step-level invariant -/

/-- what the measure needs to know about the sub-tokenizer's registers -/
structure CRT (cr : CharRefSt) : Prop where
  nbRun : ∀ x ∈ cr.nameBuf.getD [], runCh x = true
  hexOk : ∀ c, cr.hexMarker = some c → c ≠ '&'

theorem CRT.fresh (a : Option Char) : CRT { addnlAllowed := a } := ⟨by simp, by simp⟩

/-- the look-ahead / reconsume discipline at step boundaries -/
structure TI (m : Mach) : Prop where
  eatOk : isEatState m.state = true → EatOk m
  nr : isEatState m.state = false → m.tempBuf = []
  eatNoRecon : isEatState m.state = true → m.reconsume = false
  ri : m.reconsume = true → m.ignoreLf = true → m.currentChar = '\n'
  cr : ∀ cr, m.charRef = some cr → m.ignoreLf = false ∧ m.reconsume = false ∧ CRT cr

/-- invariant at step boundaries: the no-panic invariant `Safe`, the look-ahead / reconsume
discipline, and: `name_buf` holds alphanumerics/`;` only and the hex marker is not `&` -/
structure TInv (m : Mach) : Prop where
  safe : Safe m
  ti : TI m

theorem TI.of_plain {m : Mach} (hcr : m.charRef = none) (htb : m.tempBuf = []) (hrec : m.reconsume = false) :
    TI m :=
  ⟨fun _ _ => htb, fun _ => htb, fun _ => hrec, fun h => (by rw [hrec] at h; cases h),
    fun cr h => (by rw [hcr] at h; cases h)⟩

theorem TI.congr {m m' : Mach} (hi : TI m) (h1 : m'.state = m.state) (h2 : m'.charRef = m.charRef)
    (h3 : m'.tempBuf = m.tempBuf) (h4 : m'.reconsume = m.reconsume) (h5 : m'.ignoreLf = m.ignoreLf)
    (h6 : m'.currentChar = m.currentChar) : TI m' where
  eatOk := by
    intro hs hil
    rw [h3]
    exact hi.eatOk (by rw [← h1]; exact hs) (by rw [← h5]; exact hil)
  nr := by rw [h1, h3]; exact hi.nr
  eatNoRecon := by rw [h1, h4]; exact hi.eatNoRecon
  ri := by rw [h4, h5, h6]; exact hi.ri
  cr := by rw [h2, h4, h5]; exact hi.cr

theorem TI.setIgnoreLf_false {m : Mach} (hi : TI m) : TI (m.setIgnoreLf false) where
  eatOk := fun _ h => by simp at h
  nr := by simpa using hi.nr
  eatNoRecon := by simpa using hi.eatNoRecon
  ri := fun _ h => by simp at h
  cr := fun cr h => by
    obtain ⟨_, b, c⟩ := hi.cr cr (by simpa using h)
    exact ⟨by simp, by simpa using b, c⟩

/-- what the table leaves behind after a `get_char!` read (also used for the last read of
`after-doctype-name`) -/
theorem afterChar_ti (o : Opts) (m1 : Mach) (c : Char)
    (hcr : m1.charRef = none) (htb : m1.tempBuf = []) (hrec : m1.reconsume = false)
    (hcc : m1.currentChar = c) (hil : m1.ignoreLf = true → c = '\n') :
    TI (transChar o m1 c).1 ∧ (transChar o m1 c).1.charRef = none ∧ (transChar o m1 c).1.tempBuf = [] := by
  have ht : (transChar o m1 c).1.tempBuf = [] := by rw [transChar_tempBuf, htb]
  have hc : (transChar o m1 c).1.charRef = none := by rw [transChar_charRef, hcr]
  refine ⟨⟨fun _ _ => ht, fun _ => ht, ?_, ?_, fun cr h => (by rw [hc] at h; cases h)⟩, hc, ht⟩
  · intro hs
    cases hr' : (transChar o m1 c).1.reconsume with
    | false => rfl
    | true => have := transChar_recon o m1 c hrec hr'; rw [hs] at this; cases this
  · intro _ hil'
    rw [transChar_currentChar, hcc]
    rw [transChar_ignoreLf] at hil'
    exact hil hil'

/-- the machine and left-over input of a step result -/
def R.pair? : R → Option (Mach × Str)
  | .cont m i | .suspend m i => some (m, i)
  | .panic _ => none

theorem ofSig_pair (ms : Mach × Sig) (inp : Str) (m' : Mach) (i' : Str)
    (h : (ofSig ms inp).pair? = some (m', i')) : m' = ms.1 ∧ i' = inp := by
  unfold ofSig at h
  split at h <;> simp_all [R.pair?]

theorem pair_mach (r : R) (m' : Mach) (i' : Str) (h : r.pair? = some (m', i')) : r.mach? = some m' := by
  cases r <;> simp_all [R.pair?, R.mach?]

theorem ofSig_cont (ms : Mach × Sig) (inp : Str) (m' : Mach) (i' : Str)
    (h : ofSig ms inp = .cont m' i') : m' = ms.1 ∧ i' = inp :=
  ofSig_pair ms inp m' i' (by rw [h]; rfl)

theorem ofSig_ne_suspend (ms : Mach × Sig) (inp : Str) (m' : Mach) (i' : Str) :
    ofSig ms inp ≠ .suspend m' i' := by
  intro h
  have := ofSig_not_suspend ms inp
  rw [h] at this
  simp [R.isSuspend] at this

theorem not_eat_base_getChar {s : State} (h : readKind s = .getChar) : isEatState s = false :=
  not_eat_of_getChar h

/-! ### `get_char!` states -/

theorem kind_getChar (o : Opts) (m : Mach) (inp : Str) (hi : TI m)
    (hcr : m.charRef = none) (hrk : readKind m.state = .getChar) (m' : Mach) (i' : Str) :
    ((contChar o (getChar o m inp)).pair? = some (m', i') → TI m') ∧
    (contChar o (getChar o m inp) = .cont m' i' → mu m' i' < mu m inp) := by
  have hne := not_eat_of_getChar hrk
  have hst : m.tempBuf = [] := hi.nr hne
  cases hgc : getChar o m inp with
  | mk oc r =>
    obtain ⟨m1, i1⟩ := r
    cases oc with
    | none =>
      obtain ⟨_, _, g3⟩ := getChar_none o m m1 inp i1 hgc
      refine ⟨fun h => ?_, fun h => by simp [contChar] at h⟩
      simp only [contChar, R.pair?, Option.some.injEq, Prod.mk.injEq] at h
      obtain ⟨h1, _⟩ := h
      subst h1
      rcases g3 with ⟨_, g4⟩ | ⟨_, _, g4⟩ <;> subst g4
      · exact hi
      · exact hi.setIgnoreLf_false
    | some c =>
      obtain ⟨f1, _, f3, f4⟩ := getChar_fields o m m1 inp i1 (some c) hgc
      obtain ⟨g0, g4, g5, g6⟩ := getChar_shape o m m1 inp i1 c hi.ri hgc
      obtain ⟨a1, a2, a3⟩ := afterChar_ti o m1 c (by rw [f4, hcr]) (by rw [f1, hst]) g4 g5 g6
      refine ⟨fun h => ?_, fun h => ?_⟩
      · simp only [contChar] at h
        obtain ⟨h1, _⟩ := ofSig_pair _ _ _ _ h
        subst h1; exact a1
      · simp only [contChar] at h
        obtain ⟨h1, h2⟩ := ofSig_cont _ _ _ _ h
        subst h1 h2
        have hcc : (transChar o m1 c).1.currentChar = c := by rw [transChar_currentChar, g5]
        rcases g0 with ⟨g1, g2, g3⟩ | ⟨g1, a, c0, g2, g3⟩
        · subst g2
          refine mu_dec_recon hcr g1 hst a2 a3 (fun hr' => ⟨by rw [hcc, g3], ?_⟩)
          have := transChar_base o m1 c g4 hr'
          rwa [f3] at this
        · exact mu_dec_consume hcr g1 a2 a3 (by rw [hst]; exact g2) (fun _ => by rw [hcc, g3])


/-! ### `pop_except_from` states -/

theorem kind_set (o : Opts) (m : Mach) (inp : Str) (hi : TI m)
    (hcr : m.charRef = none) (hrk : readKind m.state = .popExcept) (m' : Mach) (i' : Str) :
    ((contSet (popExceptFrom o (setOf m.state) m inp)).pair? = some (m', i') → TI m') ∧
    (contSet (popExceptFrom o (setOf m.state) m inp) = .cont m' i' → mu m' i' < mu m inp) := by
  have hne := not_eat_of_popExcept hrk
  have hst : m.tempBuf = [] := hi.nr hne
  cases hgc : popExceptFrom o (setOf m.state) m inp with
  | mk oc r =>
    obtain ⟨m1, i1⟩ := r
    cases oc with
    | none =>
      obtain ⟨_, _, g3⟩ := popExceptFrom_none o _ m m1 inp i1 hgc
      refine ⟨fun h => ?_, fun h => by simp [contSet] at h⟩
      simp only [contSet, R.pair?, Option.some.injEq, Prod.mk.injEq] at h
      obtain ⟨h1, _⟩ := h
      subst h1
      rcases g3 with ⟨_, g4⟩ | ⟨_, _, g4⟩ <;> subst g4
      · exact hi
      · exact hi.setIgnoreLf_false
    | some sr =>
      obtain ⟨f1, _, f3, f4⟩ := popExceptFrom_fields o _ m m1 inp i1 (some sr) hgc
      obtain ⟨hsh, g4, g6⟩ := popExceptFrom_shape o _ m m1 inp i1 sr hi.ri hgc
      have hcr1 : m1.charRef = none := by rw [f4, hcr]
      have hk1 : readKind m1.state = .popExcept := by rw [f3]; exact hrk
      have hr' : (transSet m1 sr).1.reconsume = false := by rw [transSet_reconsume, g4]
      have htb' : (transSet m1 sr).1.tempBuf = [] := by rw [transSet_tempBuf, f1, hst]
      have hne' := transSet_not_eat m1 sr hk1
      have hcase := (transSet_charRef m1 sr hcr1 hk1).2
      have hmain : TI (transSet m1 sr).1 ∧ mu (transSet m1 sr).1 i1 < mu m inp := by
        rcases hcase with hx | ⟨⟨a, hx⟩, _, _⟩
        · refine ⟨TI.of_plain hx htb' hr', ?_⟩
          rcases hsh with ⟨g1, g2, _⟩ | ⟨g1, a, c0, g2, _⟩
          · subst g2
            exact mu_dec_recon hcr g1 hst hx htb' (fun hr => by rw [hr'] at hr; cases hr)
          · exact mu_dec_consume hcr g1 hx htb' (by rw [hst]; exact g2) (fun hr => by rw [hr'] at hr; cases hr)
        · have hamp := transSet_amp m1 sr hcr1 (by rw [hx]; simp)
          refine ⟨⟨fun _ _ => htb', fun _ => htb', fun _ => hr', fun h => (by rw [hr'] at h; cases h), ?_⟩, ?_⟩
          · intro cr hc
            rw [hx] at hc
            simp only [Option.some.injEq] at hc
            subst hc
            exact ⟨by rw [transSet_ignoreLf]; exact g6 hamp, hr', CRT.fresh a⟩
          · rcases hsh with ⟨g1, g2, g3⟩ | ⟨g1, a', c0, g2, g3⟩
            · subst g2
              rw [hamp] at g3
              simp only [SetRes.fromSet.injEq] at g3
              exact mu_dec_amp_recon hcr g1 g3.symm hst hx rfl
            · have := g3 hamp
              subst this
              exact mu_dec_amp hcr g1 hx rfl (by rw [hst]; exact g2)
      refine ⟨fun h => ?_, fun h => ?_⟩
      · simp only [contSet] at h
        obtain ⟨h1, _⟩ := ofSig_pair _ _ _ _ h
        subst h1; exact hmain.1
      · simp only [contSet] at h
        obtain ⟨h1, h2⟩ := ofSig_cont _ _ _ _ h
        subst h1 h2; exact hmain.2


/-! ### the look-ahead states (`eat`) -/

theorem eatCmp_true_len (eq : Char → Char → Bool) (all pat : Str) (h : eatCmp eq all pat = some true) :
    pat.length ≤ all.length := by
  induction all generalizing pat with
  | nil =>
    cases pat with
    | nil => simp
    | cons p ps => simp [eatCmp] at h
  | cons a t ih =>
    cases pat with
    | nil => simp
    | cons p ps =>
      simp only [eatCmp] at h
      split at h
      · have := ih ps h; simp; omega
      · simp at h

/-- the `ignore_lf` prologue of `eat` drops at most a leading LF of stash ++ queue -/
theorem eatSkipLf_shape (o : Opts) (m : Mach) (inp : Str) (hr : m.reconsume = false) (hok : EatOk m) :
    (∃ a, m.tempBuf ++ inp = a ++ ((eatSkipLf o m inp).1.tempBuf ++ (eatSkipLf o m inp).2)) ∧
    (eatSkipLf o m inp).1.reconsume = false := by
  unfold eatSkipLf
  cases hil : m.ignoreLf with
  | false => exact ⟨⟨[], by simp⟩, by simpa using hr⟩
  | true =>
    have ht := hok hil
    cases inp with
    | nil => exact ⟨⟨[], by simp [peek, hr]⟩, by simp [peek, hr]⟩
    | cons c rest =>
      simp only [peek, hr, Bool.false_eq_true, ↓reduceIte, List.head?_cons]
      by_cases hc : c = '\n'
      · subst hc
        have hg : getChar o (m.setIgnoreLf false) ('\n' :: rest) =
            (some (foldChar o (m.setIgnoreLf false) '\n').1, (foldChar o (m.setIgnoreLf false) '\n').2, rest) := by
          unfold getChar
          simp only [setIgnoreLf_reconsume, hr, Bool.false_eq_true, ↓reduceIte]
          exact preprocess_plain o _ _ _ rfl
        simp only [↓reduceIte, hg]
        have hf := foldChar_fields o (m.setIgnoreLf false) '\n'
        exact ⟨⟨['\n'], by rw [hf.1]; simp [ht]⟩, by rw [hf.2.2.2.2]; simpa using hr⟩
      · exact ⟨⟨[], by simp [hc]⟩, by simp [hc, hr]⟩

/-- the facts carried from one `eat` to the next inside a look-ahead state -/
structure EatSt (m : Mach) : Prop where
  cr : m.charRef = none
  nrec : m.reconsume = false
  ok : EatOk m

/-- `eat` only ever removes a prefix of stash ++ queue (non-empty when the keyword matched), and
keeps the look-ahead discipline -/
theorem eat_stage (o : Opts) {m : Mach} (h0 : EatSt m) (inp pat : Str) (hne : pat ≠ [])
    (b : Option Bool) (m1 : Mach) (i1 : Str) (h : eat o m inp pat = (b, m1, i1)) :
    EatSt m1 ∧ m1.state = m.state ∧ (b ≠ none → m1.tempBuf = []) ∧
    ∃ a, m.tempBuf ++ inp = a ++ (m1.tempBuf ++ i1) ∧ (b = some true → a ≠ []) := by
  obtain ⟨f1, f2, _⟩ := eat_fields o m m1 inp i1 pat b h
  have hok1 : EatOk m1 := by
    cases b with
    | none => exact (eat_none o m m1 inp i1 pat h0.ok h).2.1
    | some bb => exact (eat_some_EatOk o m m1 inp i1 pat bb h).1
  have htb : b ≠ none → m1.tempBuf = [] := by
    intro hb
    cases b with
    | none => exact absurd rfl hb
    | some bb => exact (eat_some_tempBuf o m m1 inp i1 pat bb h).1
  rw [eat_eq_core] at h
  obtain ⟨⟨a0, ha0⟩, hr0⟩ := eatSkipLf_shape o m inp h0.nrec h0.ok
  generalize (eatSkipLf o m inp).1 = mi at *
  generalize (eatSkipLf o m inp).2 = ii at *
  have hrec1 : m1.reconsume = false ∧
      ∃ a, m.tempBuf ++ inp = a ++ (m1.tempBuf ++ i1) ∧ (b = some true → a ≠ []) := by
    unfold eatCore at h
    cases hc : eatCmp eqCi (mi.tempBuf ++ ii) pat with
    | none =>
      cases hae : mi.atEof with
      | true =>
        simp only [hc, hae, ↓reduceIte, Prod.mk.injEq] at h
        obtain ⟨hb, hm1, hi1⟩ := h
        subst hb hm1 hi1
        exact ⟨by simpa using hr0, a0, by simpa using ha0, by simp⟩
      | false =>
        simp only [hc, hae, Bool.false_eq_true, ↓reduceIte, Prod.mk.injEq] at h
        obtain ⟨hb, hm1, hi1⟩ := h
        subst hb hm1 hi1
        exact ⟨by simpa using hr0, a0, by simpa using ha0, by simp⟩
    | some bb =>
      cases bb with
      | false =>
        simp only [hc, Prod.mk.injEq] at h
        obtain ⟨hb, hm1, hi1⟩ := h
        subst hb hm1 hi1
        exact ⟨by simpa using hr0, a0, by simpa using ha0, by simp⟩
      | true =>
        simp only [hc, Prod.mk.injEq] at h
        obtain ⟨hb, hm1, hi1⟩ := h
        subst hb hm1 hi1
        have hlen := eatCmp_true_len eqCi _ pat hc
        refine ⟨by simpa using hr0, a0 ++ (mi.tempBuf ++ ii).take pat.length, ?_, fun _ => ?_⟩
        · rw [ha0]
          simp only [Mach.setTempBuf, List.nil_append, List.append_assoc]
          rw [List.take_append_drop]
        · intro hnil
          have h2 : ((mi.tempBuf ++ ii).take pat.length).length = 0 := by
            have := congrArg List.length hnil
            simp only [List.length_append, List.length_nil] at this
            omega
          rw [List.length_take] at h2
          have : 0 < pat.length := List.length_pos_iff.mpr hne
          omega
  exact ⟨⟨by rw [f2, h0.cr], hrec1.1, hok1⟩, f1, htb, hrec1.2⟩


theorem TI.of_eatSt {m : Mach} (h : EatSt m) (hs : isEatState m.state = true) : TI m :=
  ⟨fun _ => h.ok, fun hx => (by rw [hs] at hx; cases hx), fun _ => h.nrec,
    fun hx => (by rw [h.nrec] at hx; cases hx), fun cr hx => (by rw [h.cr] at hx; cases hx)⟩

theorem EatSt.of_ti {m : Mach} (hi : TI m) (hcr : m.charRef = none) (hs : isEatState m.state = true) : EatSt m :=
  ⟨hcr, hi.eatNoRecon hs, hi.eatOk hs⟩

/-- a terminal result of a look-ahead state -/
theorem eat_exit {m mm : Mach} {inp i a : Str} (h0 : EatSt m)
    (e1 : mm.charRef = none) (e2 : mm.tempBuf = []) (e3 : mm.reconsume = false)
    (hsp : m.tempBuf ++ inp = a ++ i) (h : a ≠ [] ∨ base mm.state < base m.state) :
    TI mm ∧ mu mm i < mu m inp :=
  ⟨TI.of_plain e1 e2 e3, mu_dec_plain h0.cr h0.nrec e1 e3 e2 hsp h⟩

/-- a look-ahead state: a suspension keeps the invariant; every other way out has consumed a
non-empty prefix of stash ++ queue, or (the default branch, by `hd`) moves down in `base` -/
theorem eatChain_term (o : Opts) (dflt : Mach → Str → R) (alts : List (Str × (Mach → Mach)))
    (ha : ∀ p ∈ alts, p ∈ mdAlts ++ adnAlts) (hpat : ∀ p ∈ alts, p.1 ≠ []) (hne : alts ≠ [])
    (m : Mach) (inp : Str) (hi : TI m) (hcr : m.charRef = none) (hes : isEatState m.state = true)
    (hd : ∀ a x i, EatSt x → x.state = m.state → x.tempBuf = [] → m.tempBuf ++ inp = a ++ i →
      (∀ m' i', (dflt x i).pair? = some (m', i') → TI m') ∧
      (∀ m' i', dflt x i = .cont m' i' → mu m' i' < mu m inp)) :
    (∀ m' i', (eatChain o dflt alts m inp).pair? = some (m', i') → TI m') ∧
    (∀ m' i', eatChain o dflt alts m inp = .cont m' i' → mu m' i' < mu m inp) := by
  have h0 := EatSt.of_ti hi hcr hes
  refine eatChain_cases
    (I := fun x i => EatSt x ∧ x.state = m.state ∧ ∃ a, m.tempBuf ++ inp = a ++ (x.tempBuf ++ i))
    (J := fun x _ => x.tempBuf = [])
    (Post := fun r => (∀ m' i', r.pair? = some (m', i') → TI m') ∧
      ∀ m' i', r = .cont m' i' → mu m' i' < mu m inp) o dflt alts (fun p hp x i x1 i1 hx he => ?_)
    (fun p hp x i x1 i1 hx he => ?_) (fun p hp x i x1 i1 hx he => ?_) (fun x i hx hj => ?_) m inp
    ⟨h0, rfl, [], rfl⟩ (fun h => absurd h hne)
  · obtain ⟨s1, st1, t1, a1, e1, _⟩ := eat_stage o hx.1 i _ (hpat p hp) _ x1 i1 he
    obtain ⟨a, ea⟩ := hx.2.2
    exact ⟨⟨s1, st1.trans hx.2.1, a ++ a1, by rw [ea, e1, List.append_assoc]⟩, t1 (by simp)⟩
  · obtain ⟨s1, st1, _⟩ := eat_stage o hx.1 i _ (hpat p hp) _ x1 i1 he
    refine ⟨fun m' i' h => ?_, fun m' i' h => nomatch h⟩
    cases h
    exact TI.of_eatSt s1 (by rw [st1, hx.2.1]; exact hes)
  · obtain ⟨s1, st1, t1, a1, e1, p1⟩ := eat_stage o hx.1 i _ (hpat p hp) _ x1 i1 he
    obtain ⟨a, ea⟩ := hx.2.2
    obtain ⟨s, hc⟩ := alts_ctl p (ha p hp) x1
    have ht1 := t1 (by simp)
    have key := eat_exit (mm := p.2 x1) (i := i1) (a := a ++ a1) h0 (hc.2.2.2.2.2.1.trans s1.cr)
      (hc.2.1.trans ht1) (hc.2.2.1.trans s1.nrec) (by rw [ea, e1, ht1, List.nil_append, List.append_assoc])
      (Or.inl fun hx => p1 rfl (List.append_eq_nil_iff.mp hx).2)
    refine ⟨fun m' i' h => ?_, fun m' i' h => ?_⟩
    · cases h; exact key.1
    · cases h; exact key.2
  · obtain ⟨a, ea⟩ := hx.2.2
    exact hd a x i hx.1 hx.2.1 hj (by rw [ea, hj, List.nil_append])

theorem kind_md (o : Opts) (m : Mach) (inp : Str) (hi : TI m)
    (hcr : m.charRef = none) (hst : m.state = .markupDecl) (m' : Mach) (i' : Str) :
    ((stepMd o m inp).pair? = some (m', i') → TI m') ∧
    (stepMd o m inp = .cont m' i' → mu m' i' < mu m inp) := by
  have hes : isEatState m.state = true := by rw [hst]; rfl
  have h0 := EatSt.of_ti hi hcr hes
  obtain ⟨k1, k2⟩ := eatChain_term o (fun m i => .cont (to .bogusComment (badChar o m)) i) mdAlts
    (fun _ => List.mem_append_left _) (by decide) (List.cons_ne_nil _ _) m inp hi hcr hes
    fun a x i sx _ ht e => by
      have key := eat_exit (mm := to .bogusComment (badChar o x)) h0 (by simp [sx.cr]) (by simp [ht])
        (by simp [sx.nrec]) e (Or.inr (by rw [hst]; simp [base]))
      exact ⟨fun m' i' h => by cases h; exact key.1, fun m' i' h => by cases h; exact key.2⟩
  exact ⟨k1 m' i', k2 m' i'⟩

theorem kind_adn (o : Opts) (m : Mach) (inp : Str) (hi : TI m)
    (hcr : m.charRef = none) (hst : m.state = .afterDoctypeName) (m' : Mach) (i' : Str) :
    ((stepAdn o m inp).pair? = some (m', i') → TI m') ∧
    (stepAdn o m inp = .cont m' i' → mu m' i' < mu m inp) := by
  have hes : isEatState m.state = true := by rw [hst]; rfl
  have h0 := EatSt.of_ti hi hcr hes
  obtain ⟨k1, k2⟩ := eatChain_term o (fun m i => contChar o (getChar o m i)) adnAlts
    (fun _ => List.mem_append_right _) (by decide) (List.cons_ne_nil _ _) m inp hi hcr hes
    fun a x i sx st ht e => by
      have hti := TI.of_eatSt sx (by rw [st]; exact hes)
      cases hg : getChar o x i with
      | mk oc rr =>
        obtain ⟨m3, i3⟩ := rr
        cases oc with
        | none =>
          obtain ⟨_, _, g3⟩ := getChar_none o x m3 i i3 hg
          refine ⟨fun m' i' h => ?_, fun m' i' h => nomatch h⟩
          cases h
          rcases g3 with ⟨_, g4⟩ | ⟨_, _, g4⟩ <;> subst g4
          · exact hti
          · exact hti.setIgnoreLf_false
        | some c =>
          obtain ⟨f1, _, f3, f4⟩ := getChar_fields o x m3 i i3 (some c) hg
          obtain ⟨g0, g4, g5, g6⟩ := getChar_shape o x m3 i i3 c hti.ri hg
          obtain ⟨b1, b2, b3⟩ := afterChar_ti o m3 c (by rw [f4, sx.cr]) (by rw [f1, ht]) g4 g5 g6
          refine ⟨fun m' i' h => ?_, fun m' i' h => ?_⟩
          · obtain ⟨x1, _⟩ := ofSig_pair _ _ _ _ h
            subst x1; exact b1
          · obtain ⟨x1, x2⟩ := ofSig_cont _ _ _ _ h
            subst x1 x2
            have hcc : (transChar o m3 c).1.currentChar = c := by rw [transChar_currentChar, g5]
            rcases g0 with ⟨g1, _⟩ | ⟨_, a', c0, g2, g3⟩
            · rw [sx.nrec] at g1; cases g1
            · exact mu_dec_consume (a := a ++ a') (c0 := c0) h0.cr h0.nrec b2 b3
                (by rw [e, g2]; simp) (fun _ => by rw [hcc, g3])
  exact ⟨k1 m' i', k2 m' i'⟩


/-! ### the character-reference sub-tokenizer -/

theorem tripF_swap (b : Bool) (x s : Str) (c d : Char) (hc1 : c ≠ '&') (hc2 : runCh c = false)
    (hd1 : d ≠ '&') (hd2 : runCh d = false) : tripF b (x ++ c :: s) = tripF b (x ++ d :: s) := by
  induction x generalizing b with
  | nil => simp only [List.nil_append]; rw [tripF_cons_other _ _ _ hc1 hc2, tripF_cons_other _ _ _ hd1 hd2]
  | cons y ys ih =>
    simp only [List.cons_append]
    by_cases h1 : y = '&'
    · subst h1; rw [tripF_cons_amp, tripF_cons_amp]; exact ih true
    · cases h2 : runCh y with
      | true => rw [tripF_cons_run _ _ _ h2, tripF_cons_run _ _ _ h2, ih b]
      | false => rw [tripF_cons_other _ _ _ h1 h2, tripF_cons_other _ _ _ h1 h2]; exact ih false

/-- `unconsume` gives the text back (a folded CR as the CR it was): same length, same count -/
theorem unconsume_facts (m : Mach) (inp buf : Str) :
    (unconsume m inp buf).2.length = buf.length + inp.length ∧
    (∀ b, tripF b (unconsume m inp buf).2 = tripF b (buf ++ inp)) ∧
    (unconsume m inp buf).1.reconsume = m.reconsume := by
  unfold unconsume
  split
  · rename_i h
    simp only [Bool.and_eq_true, beq_iff_eq] at h
    obtain ⟨ys, hys⟩ := List.getLast?_eq_some_iff.mp h.2
    subst hys
    refine ⟨by simp; omega, fun b => ?_, by simp⟩
    simp only [List.dropLast_concat, List.append_assoc, List.singleton_append]
    exact tripF_swap b ys inp '\r' '\n' (by decide) (by decide) (by decide) (by decide)
  · exact ⟨by simp, fun _ => rfl, rfl⟩

theorem nameErr_reconsume (o : Opts) (m : Mach) (nb : Str) : (nameErr o m nb).reconsume = m.reconsume := by
  unfold nameErr; split <;> simp

theorem finishNumeric_reconsume (o : Opts) (m : Mach) (cr : CharRefSt) :
    (finishNumeric o m cr).1.reconsume = m.reconsume :=
  (finishNumeric_logs o m cr).elim (P := fun x => x.reconsume = m.reconsume) rfl fun _ => rfl

theorem namedDecision_reconsume (m : Mach) (cr : CharRefSt) (nb : Str) (c1 c2 : Nat) (m1 : Mach) (r : Option Str)
    (h : namedDecision m cr nb c1 c2 = .ok (m1, r)) : m1.reconsume = m.reconsume :=
  (namedDecision_logs h).elim (P := fun x => x.reconsume = m.reconsume) rfl fun _ => rfl

theorem finishNumericStatus_shape (o : Opts) (m : Mach) (inp : Str) (cr : CharRefSt) :
    ∃ m1 c, finishNumericStatus o m inp cr = .ok (m1, inp, cr, .done [c]) ∧ m1.reconsume = m.reconsume := by
  obtain ⟨m1, c, h⟩ := finishNumericStatus_ok o m inp cr
  refine ⟨m1, c, h, ?_⟩
  have hr := finishNumeric_reconsume o m cr
  unfold finishNumericStatus at h
  split at h
  · rename_i mm cc heq
    simp only [Except.ok.injEq, Prod.mk.injEq] at h
    rw [← h.1]
    rw [heq] at hr; exact hr
  · cases h

theorem unconsumeName_shape (m : Mach) (inp : Str) (cr : CharRefSt) (nb : Str) (hnb : cr.nameBuf = some nb)
    (m1 : Mach) (i1 : Str) (cr1 : CharRefSt) (st : CRStatus)
    (h : unconsumeName m inp cr = .ok (m1, i1, cr1, st)) :
    st = .done [] ∧ i1.length = nb.length + inp.length ∧ tripF false i1 = tripF false (nb ++ inp) ∧
    m1.reconsume = m.reconsume := by
  unfold unconsumeName at h
  rw [hnb] at h
  simp only [Except.ok.injEq, Prod.mk.injEq] at h
  obtain ⟨e1, e2, _, e4⟩ := h
  obtain ⟨u1, u2, u3⟩ := unconsume_facts m inp nb
  subst e1 e2
  exact ⟨e4.symm, u1, u2 false, u3⟩

theorem finishNamed_shape (o : Opts) (m : Mach) (inp : Str) (cr : CharRefSt) (ec : Option Char) (nb : Str)
    (m1 : Mach) (i1 : Str) (cr1 : CharRefSt) (st : CRStatus) (hnb : cr.nameBuf = some nb)
    (h : finishNamed o m inp cr ec = .ok (m1, i1, cr1, st)) :
    m1.reconsume = m.reconsume ∧
    ((∃ chars k, st = .done chars ∧ i1.length = (nb.drop k).length + inp.length ∧
        tripF false i1 = tripF false (nb.drop k ++ inp)) ∨
     (st = .progress ∧ i1 = inp ∧ m1 = m ∧
        (cr1.state = .bogusName ∧ cr1.nameBuf = some nb ∧ cr1.hexMarker = cr.hexMarker) ∧
        ∃ c, ec = some c ∧ isAsciiAlnum c = true)) := by
  unfold finishNamed at h
  rw [hnb] at h
  dsimp only at h
  cases hm : cr.nameMatch with
  | none =>
    rw [hm] at h
    dsimp only at h
    cases ec with
    | none =>
      simp only [Bool.false_eq_true, ↓reduceIte] at h
      obtain ⟨e1, e2, e3, e4⟩ := unconsumeName_shape _ _ _ nb hnb _ _ _ _ h
      exact ⟨e4, Or.inl ⟨[], 0, e1, by simpa using e2, by simpa using e3⟩⟩
    | some c =>
      dsimp only at h
      by_cases hcb : isAsciiAlnum c = true
      · simp only [hcb, ↓reduceIte, Except.ok.injEq, Prod.mk.injEq] at h
        obtain ⟨e1, e2, e3, e4⟩ := h
        subst e1
        exact ⟨rfl, Or.inr ⟨e4.symm, e2.symm, rfl, by rw [← e3]; exact ⟨rfl, rfl, rfl⟩, c, rfl, hcb⟩⟩
      · simp only [hcb, Bool.false_eq_true, ↓reduceIte] at h
        obtain ⟨e1, e2, e3, e4⟩ := unconsumeName_shape _ _ _ nb hnb _ _ _ _ h
        refine ⟨?_, Or.inl ⟨[], 0, e1, by simpa using e2, by simpa using e3⟩⟩
        rw [e4]
        split
        · exact nameErr_reconsume o m nb
        · rfl
  | some mt =>
    obtain ⟨c1, c2⟩ := mt
    rw [hm] at h
    dsimp only at h
    cases hd : namedDecision m cr nb c1 c2 with
    | error e => rw [hd] at h; simp at h
    | ok r =>
      obtain ⟨mx, r⟩ := r
      have hrx := namedDecision_reconsume m cr nb c1 c2 mx r hd
      rw [hd] at h
      cases r with
      | none =>
        dsimp only at h
        obtain ⟨e1, e2, e3, e4⟩ := unconsumeName_shape _ _ _ nb hnb _ _ _ _ h
        exact ⟨by rw [e4, hrx], Or.inl ⟨[], 0, e1, by simpa using e2, by simpa using e3⟩⟩
      | some cs =>
        simp only [Except.ok.injEq, Prod.mk.injEq] at h
        obtain ⟨e1, e2, _, e4⟩ := h
        obtain ⟨u1, u2, u3⟩ := unconsume_facts mx inp (nb.drop cr.nameLen)
        subst e1 e2
        exact ⟨by rw [u3, hrx], Or.inl ⟨cs, cr.nameLen, e4.symm, u1, u2 false⟩⟩


theorem getChar_plain (o : Opts) (m : Mach) (c0 : Char) (rest : Str) (hr : m.reconsume = false)
    (hil : m.ignoreLf = false) :
    getChar o m (c0 :: rest) = (some (foldCh c0), (foldChar o m c0).2, rest) := by
  unfold getChar
  simp only [hr, Bool.false_eq_true, ↓reduceIte]
  rw [preprocess_plain o m c0 rest hil, (foldChar_more o m c0).1]

theorem discardChar_plain (o : Opts) (m : Mach) (c0 : Char) (rest : Str) (hr : m.reconsume = false)
    (hil : m.ignoreLf = false) : discardChar o m (c0 :: rest) = .ok ((foldChar o m c0).2, rest) := by
  unfold discardChar
  rw [getChar_plain o m c0 rest hr hil]

theorem foldChar_regs (o : Opts) (m : Mach) (c0 : Char) (hr : m.reconsume = false) (hil : m.ignoreLf = false) :
    (foldChar o m c0).2.reconsume = false ∧ (c0 ≠ '\r' → (foldChar o m c0).2.ignoreLf = false) := by
  refine ⟨by rw [(foldChar_fields o m c0).2.2.2.2, hr], fun hc => ?_⟩
  rw [(foldChar_more o m c0).2.2, hil]
  simp [hc]

/-- weight of a character reference in progress (without the constant 8) -/
def crW (cr : CharRefSt) (inp : Str) : Nat :=
  16 * (crStash cr + inp.length) + tripF (crFlag cr.state) inp + crRank cr.state

theorem mu_some' {m : Mach} {cr : CharRefSt} (h : m.charRef = some cr) (inp : Str) :
    mu m inp = crW cr inp + 8 := by
  rw [mu_some h]; unfold crW; omega

/-- one step of the sub-tokenizer: `Stuck` changes nothing (and the queue is empty), `Progress`
decreases the weight and keeps the registers' invariant, `Done` leaves no more than the weight in
the queue; no pending `reconsume` arises -/
def CRDec (cr : CharRefSt) (inp : Str) : CRRes → Prop
  | .error _ => True
  | .ok (m1, i1, cr1, st) =>
    m1.reconsume = false ∧
    match st with
    | .stuck => cr1 = cr ∧ i1 = [] ∧ m1.ignoreLf = false
    | .progress => CRT cr1 ∧ crW cr1 i1 < crW cr inp ∧ m1.ignoreLf = false
    | .done _ => 16 * i1.length + tripF false i1 ≤ crW cr inp

/-- text given back by `unconsume_name` / `finish_named` after `nb ++ [c]` was collected: it does not
count as travelling any more -/
theorem tripF_drop_back (nb : Str) (c : Char) (rest : Str) (k : Nat) (h : ∀ x ∈ nb, runCh x = true) :
    tripF false ((nb ++ [c]).drop k ++ rest) ≤ tripF true (c :: rest) := by
  by_cases hk : k ≤ nb.length
  · rw [List.drop_append_of_le_length hk, List.append_assoc, List.singleton_append,
      tripF_false_run _ _ (fun x hx => h x (List.mem_of_mem_drop hx))]
    exact tripF_le_true false _
  · have : (nb ++ [c]).drop k = [] := by
      apply List.drop_eq_nil_of_le; simp; omega
    rw [this, List.nil_append]
    exact tripF_suffix true [c] rest

theorem length_drop_back (nb : Str) (c : Char) (k : Nat) :
    ((nb ++ [c]).drop k).length ≤ nb.length + 1 := by
  simp only [List.length_drop, List.length_append, List.length_cons, List.length_nil]
  omega

theorem tripF_true_fold (c0 : Char) (rest : Str) : tripF true (foldCh c0 :: rest) ≤ tripF true (c0 :: rest) := by
  unfold foldCh
  split
  · rename_i h; subst h
    rw [tripF_cons_other _ _ _ (by decide) (by decide), tripF_cons_other _ _ _ (by decide) (by decide)]
    exact Nat.le_refl _
  · split
    · rename_i h; subst h
      rw [tripF_cons_other _ _ _ (by decide) (by decide), tripF_cons_other _ _ _ (by decide) (by decide)]
      exact Nat.le_refl _
    · exact Nat.le_refl _

theorem unconsumeNumeric_shape (m : Mach) (inp : Str) (cr : CharRefSt) (ht : CRT cr) :
    ∃ m1 i1, unconsumeNumeric m inp cr = .ok (m1, i1, cr, .done []) ∧ m1.reconsume = m.reconsume ∧
      i1.length = 1 + (if cr.hexMarker.isSome then 1 else 0) + inp.length ∧
      tripF false i1 = tripF false inp := by
  unfold unconsumeNumeric
  cases hh : cr.hexMarker with
  | none =>
    obtain ⟨u1, u2, u3⟩ := unconsume_facts m inp ['#']
    refine ⟨_, _, rfl, by simp only [emitErr_reconsume]; exact u3, by rw [u1]; simp <;> omega, ?_⟩
    rw [u2 false, List.singleton_append, tripF_false_cons _ _ (by decide)]
  | some y =>
    obtain ⟨u1, u2, u3⟩ := unconsume_facts m inp ['#', y]
    refine ⟨_, _, rfl, by simp only [emitErr_reconsume]; exact u3, by rw [u1]; simp <;> omega, ?_⟩
    rw [u2 false]
    simp only [List.cons_append, List.nil_append]
    rw [tripF_false_cons _ _ (by decide), tripF_false_cons _ _ (ht.hexOk y hh)]

theorem crStep_term (o : Opts) (m : Mach) (inp : Str) (cr : CharRefSt)
    (hr : m.reconsume = false) (hil : m.ignoreLf = false) (ht : CRT cr) :
    CRDec cr inp (crStep o m inp cr) := by
  unfold crStep
  cases inp with
  | nil =>
    have hg : getChar o m [] = (none, m, []) := by unfold getChar; simp [hr]
    cases hst : cr.state <;>
      simp only [peek, hr, Bool.false_eq_true, ↓reduceIte, List.head?_nil, hg] <;>
      exact ⟨hr, rfl, rfl, hil⟩
  | cons c rest =>
    have hd := discardChar_plain o m c rest hr hil
    have hgc := getChar_plain o m c rest hr hil
    obtain ⟨fr, fi⟩ := foldChar_regs o m c hr hil
    have hsuf : tripF false rest ≤ tripF false (c :: rest) := tripF_suffix false [c] rest
    cases hst : cr.state with
    | begin =>
      simp only [peek, hr, Bool.false_eq_true, ↓reduceIte, List.head?_cons]
      split
      · refine ⟨hr, ?_⟩
        show 16 * (c :: rest).length + tripF false (c :: rest) ≤ crW cr (c :: rest)
        have := tripF_le_true false (c :: rest)
        simp only [crW, crStash, crFlag, crRank, hst]
        omega
      · split
        · refine ⟨hr, ?_⟩
          show 16 * (c :: rest).length + tripF false (c :: rest) ≤ crW cr (c :: rest)
          have := tripF_le_true false (c :: rest)
          simp only [crW, crStash, crFlag, crRank, hst]
          omega
        · split
          · rename_i hh
            rw [hd]
            subst hh
            refine ⟨fr, ⟨ht.nbRun, ht.hexOk⟩, ?_, fi (by decide)⟩
            simp only [crW, crStash, crFlag, crRank, hst, tripF_true_hash, List.length_cons]
            omega
          · refine ⟨hr, ⟨by simp, ht.hexOk⟩, ?_, hil⟩
            simp [crW, crStash, crFlag, crRank, hst]
    | octothorpe =>
      simp only [peek, hr, Bool.false_eq_true, ↓reduceIte, List.head?_cons]
      split
      · rename_i hx
        rw [hd]
        have hcx : c ≠ '&' ∧ c ≠ '\r' := by
          simp only [Bool.or_eq_true, decide_eq_true_eq] at hx
          rcases hx with hx | hx <;> (subst hx; decide)
        refine ⟨fr, ⟨ht.nbRun, ?_⟩, ?_, fi hcx.2⟩
        · intro c' hc'; simp only [Option.some.injEq] at hc'; subst hc'; exact hcx.1
        · simp only [crW, crStash, crFlag, crRank, hst, List.length_cons, Option.isSome_some, ↓reduceIte]
          split <;> omega
      · refine ⟨hr, ⟨ht.nbRun, by simp⟩, ?_, hil⟩
        simp only [crW, crStash, crFlag, crRank, hst, Option.isSome_none, Bool.false_eq_true, ↓reduceIte]
        split <;> omega
    | numeric base =>
      simp only [peek, hr, Bool.false_eq_true, ↓reduceIte, List.head?_cons]
      cases htd : toDigit c base with
      | some n =>
        dsimp only
        rw [hd]
        have hcr : c ≠ '\r' := by intro hc; subst hc; simp [toDigit] at htd
        refine ⟨fr, ⟨ht.nbRun, ht.hexOk⟩, ?_, fi hcr⟩
        simp only [crW, crStash, crFlag, crRank, hst, List.length_cons, ↓reduceIte]
        split <;> omega
      | none =>
        dsimp only
        split
        · rename_i hsd
          have hsd' : cr.seenDigit = false := by simpa using hsd
          obtain ⟨m1, i1, hun, u3, u1, u2⟩ := unconsumeNumeric_shape m (c :: rest) cr ht
          rw [hun]
          refine ⟨by rw [u3, hr], ?_⟩
          show 16 * i1.length + tripF false i1 ≤ crW cr (c :: rest)
          rw [u1, u2]
          simp only [crW, crStash, crFlag, crRank, hst, hsd', Bool.false_eq_true, ↓reduceIte]
          omega
        · rename_i hsd
          have hsd' : cr.seenDigit = true := by simpa using hsd
          refine ⟨hr, ⟨ht.nbRun, ht.hexOk⟩, ?_, hil⟩
          simp [crW, crStash, crFlag, crRank, hst, hsd']
    | numericSemicolon =>
      simp only [peek, hr, Bool.false_eq_true, ↓reduceIte, List.head?_cons]
      have hw : crW cr (c :: rest) = 16 * (c :: rest).length + tripF false (c :: rest) := by
        simp [crW, crStash, crFlag, crRank, hst]
      split
      · rw [hd]
        dsimp only
        obtain ⟨m1, ch, hf, hrr⟩ := finishNumericStatus_shape o (foldChar o m c).2 rest cr
        rw [hf]
        refine ⟨by rw [hrr, fr], ?_⟩
        show 16 * rest.length + tripF false rest ≤ crW cr (c :: rest)
        rw [hw]; simp only [List.length_cons]; omega
      · obtain ⟨m1, ch, hf, hrr⟩ := finishNumericStatus_shape o
          (emitErr m "Semicolon missing after numeric character reference") (c :: rest) cr
        rw [hf]
        refine ⟨by rw [hrr]; simpa using hr, ?_⟩
        show 16 * (c :: rest).length + tripF false (c :: rest) ≤ crW cr (c :: rest)
        rw [hw]; exact Nat.le_refl _
    | named =>
      simp only [hgc]
      cases hnb : cr.nameBuf with
      | none => trivial
      | some nb =>
        dsimp only
        have hrun : ∀ x ∈ nb, runCh x = true := by simpa [hnb] using ht.nbRun
        have hw : crW cr (c :: rest) = 16 * (nb.length + (rest.length + 1)) + tripF true (c :: rest) + 1 := by
          simp [crW, crStash, crFlag, crRank, hst, hnb]
        -- the register after pushing a travelling character
        have push : ∀ (cr1 : CharRefSt), (cr1.state = .named ∨ cr1.state = .bogusName) →
            cr1.nameBuf = some (nb ++ [foldCh c]) → cr1.hexMarker = cr.hexMarker → runCh (foldCh c) = true →
            CRT cr1 ∧ crW cr1 rest < crW cr (c :: rest) ∧ (foldChar o m c).2.ignoreLf = false := by
          intro cr1 q1 q2 q3 q4
          have hfc := foldCh_runCh q4
          have hcr : c ≠ '\r' := by intro hc; subst hc; exact absurd q4 (by decide)
          refine ⟨⟨?_, by rw [q3]; exact ht.hexOk⟩, ?_, fi hcr⟩
          · rw [q2]
            intro x hx
            simp only [Option.getD_some] at hx
            rcases List.mem_append.mp hx with hx | hx
            · exact hrun x hx
            · simp only [List.mem_cons, List.not_mem_nil, or_false] at hx
              subst hx; exact q4
          · rw [hfc] at q4
            rw [hw, tripF_true_cons_run _ _ q4]
            rcases q1 with q1 | q1 <;> simp [crW, crStash, crFlag, crRank, q1, q2] <;> omega
        cases hlk : entityLookup (nb ++ [foldCh c]) with
        | some mt =>
          dsimp only
          have hcrun : runCh (foldCh c) = true := lookup_runCh _ _ hlk (foldCh c) (by simp)
          split
          · exact ⟨fr, push _ (Or.inl (by simp)) rfl rfl hcrun⟩
          · exact ⟨fr, push _ (Or.inl (by simp)) rfl rfl hcrun⟩
        | none =>
          dsimp only
          cases hfn : finishNamed o (foldChar o m c).2 rest
              { cr with state := .named, nameBuf := some (nb ++ [foldCh c]) } (some (foldCh c)) with
          | error e => trivial
          | ok v =>
            obtain ⟨m1, i1, cr1, st⟩ := v
            obtain ⟨hrr, hsh⟩ := finishNamed_shape o _ rest _ (some (foldCh c)) (nb ++ [foldCh c]) m1 i1 cr1 st rfl hfn
            rcases hsh with ⟨chars, k, e1, e2, e3⟩ | ⟨e1, e2, e2', e3, c', e4, e5⟩
            · subst e1
              refine ⟨by rw [hrr, fr], ?_⟩
              show 16 * i1.length + tripF false i1 ≤ crW cr (c :: rest)
              have h1 := tripF_drop_back nb (foldCh c) rest k hrun
              have h2 := length_drop_back nb (foldCh c) k
              have h3 := tripF_true_fold c rest
              rw [hw, e2, e3]; omega
            · subst e1 e2 e2'
              simp only [Option.some.injEq] at e4
              subst e4
              exact ⟨fr, push _ (Or.inr e3.1) e3.2.1 e3.2.2 (alnum_runCh e5)⟩
    | bogusName =>
      simp only [hgc]
      cases hnb : cr.nameBuf with
      | none => trivial
      | some nb =>
        dsimp only
        have hrun : ∀ x ∈ nb, runCh x = true := by simpa [hnb] using ht.nbRun
        have hw : crW cr (c :: rest) = 16 * (nb.length + (rest.length + 1)) + tripF true (c :: rest) + 1 := by
          simp [crW, crStash, crFlag, crRank, hst, hnb]
        split
        · rename_i hal
          have hcrun := alnum_runCh hal
          have hfc := foldCh_runCh hcrun
          have hcr : c ≠ '\r' := by intro hc; subst hc; exact absurd hcrun (by decide)
          refine ⟨fr, ⟨?_, ht.hexOk⟩, ?_, fi hcr⟩
          · intro x hx
            simp only [Option.getD_some] at hx
            rcases List.mem_append.mp hx with hx | hx
            · exact hrun x hx
            · simp only [List.mem_cons, List.not_mem_nil, or_false] at hx
              subst hx; exact hcrun
          · rw [hfc] at hcrun
            rw [hw, tripF_true_cons_run _ _ hcrun]
            simp [crW, crStash, crFlag, crRank]; omega
        · generalize hmx : (if foldCh c = ';' then nameErr o (foldChar o m c).2 (nb ++ [foldCh c])
              else (foldChar o m c).2) = mx
          have hmxr : mx.reconsume = false := by
            rw [← hmx]; split
            · rw [nameErr_reconsume, fr]
            · exact fr
          cases hun : unconsumeName mx rest { cr with state := .bogusName, nameBuf := some (nb ++ [foldCh c]) } with
          | error e => trivial
          | ok v =>
            obtain ⟨m1, i1, cr1, st⟩ := v
            obtain ⟨e1, e2, e3, e4⟩ := unconsumeName_shape mx rest _ (nb ++ [foldCh c]) rfl m1 i1 cr1 st hun
            subst e1
            refine ⟨by rw [e4, hmxr], ?_⟩
            show 16 * i1.length + tripF false i1 ≤ crW cr (c :: rest)
            have h1 := tripF_drop_back nb (foldCh c) rest 0 hrun
            have h3 := tripF_true_fold c rest
            simp only [List.drop_zero] at h1
            rw [hw, e2, e3]
            simp only [List.length_append, List.length_cons, List.length_nil]
            omega


/-! ### the step-level decrease and the preservation of the invariant -/

theorem crStateOk_facts {s : State} (h : crStateOk s) : isEatState s = false ∧ base s = 0 := by
  rcases h with h | ⟨k, h⟩ <;> subst h <;> simp [base, isEatState]

theorem foldl_emitChar_reconsume (chars : Str) (m : Mach) :
    (chars.foldl emitChar m).reconsume = m.reconsume := by
  induction chars generalizing m with
  | nil => rfl
  | cons c cs ih => rw [List.foldl_cons, ih]; simp

theorem foldl_pushValue_reconsume (chars : Str) (m : Mach) :
    (chars.foldl (fun m c => pushValue c m) m).reconsume = m.reconsume := by
  induction chars generalizing m with
  | nil => rfl
  | cons c cs ih => rw [List.foldl_cons, ih]; simp

theorem processCharRef_reconsume (m : Mach) (chars : Str) :
    (processCharRef m chars).1.reconsume = m.reconsume := by
  unfold processCharRef
  dsimp only
  split
  · exact foldl_emitChar_reconsume _ _
  · exact foldl_emitChar_reconsume _ _
  · exact foldl_pushValue_reconsume _ _
  · rfl

theorem TI.of_cr {m : Mach} (hne : isEatState m.state = false) (htb : m.tempBuf = []) (hrec : m.reconsume = false)
    (hcr : ∀ cr, m.charRef = some cr → m.ignoreLf = false ∧ CRT cr) : TI m :=
  ⟨fun h => (by rw [hne] at h; cases h), fun _ => htb, fun _ => hrec, fun h => (by rw [hrec] at h; cases h),
    fun cr h => ⟨(hcr cr h).1, hrec, (hcr cr h).2⟩⟩

theorem kind_charRef (o : Opts) (m : Mach) (inp : Str) (cr : CharRefSt) (hi : TInv m)
    (hcr : m.charRef = some cr) (m' : Mach) (i' : Str) :
    ((stepCharRef o m inp cr).pair? = some (m', i') → TI m') ∧
    (stepCharRef o m inp cr = .cont m' i' → mu m' i' < mu m inp) := by
  obtain ⟨c1, c2, c3⟩ := hi.ti.cr cr hcr
  obtain ⟨hne, hb0⟩ := crStateOk_facts (hi.safe.crState cr hcr)
  have htb := hi.ti.nr hne
  have hdec := crStep_term o m inp cr c2 c1 c3
  have hpres := crStep_pres o m inp cr
  unfold stepCharRef
  cases hc : crStep o m inp cr with
  | error x => exact ⟨fun h => by simp [R.pair?] at h, fun h => by simp at h⟩
  | ok v =>
    obtain ⟨m1, i1, cr1, st⟩ := v
    rw [hc] at hdec hpres
    obtain ⟨p1, _, p3, _⟩ : Pres m1 m := hpres
    obtain ⟨hrec1, hdec⟩ := hdec
    cases st with
    | stuck =>
      obtain ⟨d1, _, d3⟩ : cr1 = cr ∧ i1 = [] ∧ m1.ignoreLf = false := hdec
      refine ⟨fun h => ?_, fun h => by simp at h⟩
      simp only [R.pair?, Option.some.injEq, Prod.mk.injEq] at h
      obtain ⟨h1, _⟩ := h
      subst h1
      refine TI.of_cr (by simp [p3, hne]) (by simp [p1, htb]) (by simpa using hrec1) (fun cr' hcr' => ?_)
      simp only [setCharRef_charRef, Option.some.injEq] at hcr'
      subst hcr'
      exact ⟨by simpa using d3, by rw [d1]; exact c3⟩
    | progress =>
      obtain ⟨d1, d2, d3⟩ : CRT cr1 ∧ crW cr1 i1 < crW cr inp ∧ m1.ignoreLf = false := hdec
      refine ⟨fun h => ?_, fun h => ?_⟩
      · simp only [R.pair?, Option.some.injEq, Prod.mk.injEq] at h
        obtain ⟨h1, _⟩ := h
        subst h1
        refine TI.of_cr (by simp [p3, hne]) (by simp [p1, htb]) (by simpa using hrec1) (fun cr' hcr' => ?_)
        simp only [setCharRef_charRef, Option.some.injEq] at hcr'
        subst hcr'
        exact ⟨by simpa using d3, d1⟩
      · cases h
        rw [mu_some' hcr, mu_some' (m := m1.setCharRef (some cr1)) (cr := cr1) (by simp)]
        omega
    | done chars =>
      have hd : 16 * i1.length + tripF false i1 ≤ crW cr inp := hdec
      obtain ⟨q1, _, q3, _⟩ := processCharRef_pres m1 chars
      have hcn : ((processCharRef m1 chars).1.setCharRef none).charRef = none := by simp
      have hst : ((processCharRef m1 chars).1.setCharRef none).state = m.state := by simp [q3, p3]
      have hrec : ((processCharRef m1 chars).1.setCharRef none).reconsume = false := by
        simp only [setCharRef_reconsume, processCharRef_reconsume, hrec1]
      have htb' : ((processCharRef m1 chars).1.setCharRef none).tempBuf = [] := by simp [q1, p1, htb]
      refine ⟨fun h => ?_, fun h => ?_⟩
      · obtain ⟨h1, _⟩ := ofSig_pair _ _ _ _ h
        subst h1
        exact TI.of_plain hcn htb' hrec
      · obtain ⟨h1, h2⟩ := ofSig_cont _ _ _ _ h
        subst h1 h2
        rw [mu_some' hcr, mu_none hcn, rc_false hrec, hrec, hst, hb0, htb']
        simp only [List.nil_append, List.length_nil, Bool.false_eq_true, ↓reduceIte]
        omega

/-- **the invariant is preserved by every step** (whatever the step answers) -/
theorem step_kind (o : Opts) (m : Mach) (inp : Str) (hi : TInv m) (m' : Mach) (i' : Str) :
    ((step o m inp).pair? = some (m', i') → TI m') ∧ (step o m inp = .cont m' i' → mu m' i' < mu m inp) :=
  step_cases (Post := fun r => (r.pair? = some (m', i') → TI m') ∧ (r = .cont m' i' → mu m' i' < mu m inp))
    o m inp (fun cr hcr => kind_charRef o m inp cr hi hcr m' i')
    (fun hcr hrk => kind_getChar o m inp hi.ti hcr hrk m' i') (fun hcr hrk => kind_set o m inp hi.ti hcr hrk m' i')
    (fun hcr hst => kind_md o m inp hi.ti hcr hst m' i') (fun hcr hst => kind_adn o m inp hi.ti hcr hst m' i')

theorem step_tinv (o : Opts) (m : Mach) (inp : Str) (hi : TInv m) (m' : Mach) (i' : Str)
    (h : (step o m inp).pair? = some (m', i')) : TInv m' :=
  ⟨(step_safe o m inp hi.safe).2 m' (pair_mach _ _ _ h), (step_kind o m inp hi m' i').1 h⟩

/-- **every `Continue` step strictly decreases the measure** -/
theorem step_dec (o : Opts) (m : Mach) (inp : Str) (hi : TInv m) (m' : Mach) (i' : Str)
    (h : step o m inp = .cont m' i') : mu m' i' < mu m inp :=
  (step_kind o m inp hi m' i').2 h


/-! ### whole runs -/

/-- **`run` never runs out of fuel** when it is given more than the measure -/
theorem run_terminates (o : Opts) (fuel : Nat) (m : Mach) (inp : Str) (hi : TInv m)
    (hf : mu m inp < fuel) : run o fuel m inp ≠ .outOfFuel := by
  induction fuel generalizing m inp with
  | zero => omega
  | succ n ih =>
    unfold run
    cases hs : step o m inp with
    | cont m1 i1 =>
      simp only
      have hd := step_dec o m inp hi m1 i1 hs
      exact ih m1 i1 (step_tinv o m inp hi m1 i1 (by rw [hs]; rfl)) (by omega)
    | suspend m1 i1 => simp
    | panic e => simp

/-- **fuel irrelevance**: more fuel than needed changes nothing -/
theorem run_fuel_mono (o : Opts) (n k : Nat) (m : Mach) (inp : Str)
    (h : run o n m inp ≠ .outOfFuel) (hk : n ≤ k) : run o k m inp = run o n m inp := by
  induction n generalizing k m inp with
  | zero => exact absurd rfl h
  | succ n ih =>
    cases k with
    | zero => omega
    | succ k =>
      unfold run at h ⊢
      cases hs : step o m inp with
      | cont m1 i1 =>
        rw [hs] at h
        exact ih k m1 i1 h (by omega)
      | suspend m1 i1 => rfl
      | panic e => rfl

/-- the invariant holds wherever a run stops -/
theorem run_tinv (o : Opts) (fuel : Nat) (m : Mach) (inp : Str) (hi : TInv m)
    (m' : Mach) (i' : Str) (h : run o fuel m inp = .done m' i') : TInv m' := by
  induction fuel generalizing m inp with
  | zero => simp [run] at h
  | succ n ih =>
    unfold run at h
    cases hs : step o m inp with
    | cont m1 i1 =>
      rw [hs] at h
      exact ih m1 i1 (step_tinv o m inp hi m1 i1 (by rw [hs]; rfl)) h
    | suspend m1 i1 =>
      rw [hs] at h
      simp only [RunRes.done.injEq] at h
      obtain ⟨e1, e2⟩ := h; subst e1 e2
      exact step_tinv o m inp hi m1 i1 (by rw [hs]; rfl)
    | panic e => rw [hs] at h; simp at h

theorem runsTo_tinv (o : Opts) {m : Mach} {inp : Str} {m' : Mach}
    (hrun : RunsTo o m inp m') : TInv m → TInv m' := by
  induction hrun with
  | @susp m0 i0 m0' hs => intro hi; exact step_tinv o m0 i0 hi m0' [] (by rw [hs]; rfl)
  | @cont m0 i0 mx ix m0' hs _ ih => intro hi; exact ih (step_tinv o m0 i0 hi mx ix (by rw [hs]; rfl))

/-! ### the invariant on fresh machines and under the setters of `feed` / `end` -/

theorem tinv_fresh (m : Mach) (h1 : m.tempBuf = []) (h2 : m.reconsume = false) (h3 : m.charRef = none) :
    TInv m := ⟨Safe.of_none h3, TI.of_plain h3 h1 h2⟩

theorem TInv.congr {m m' : Mach} (hi : TInv m) (h1 : m'.state = m.state) (h2 : m'.charRef = m.charRef)
    (h3 : m'.tempBuf = m.tempBuf) (h4 : m'.reconsume = m.reconsume) (h5 : m'.ignoreLf = m.ignoreLf)
    (h6 : m'.currentChar = m.currentChar) : TInv m' :=
  ⟨⟨fun cr h => by rw [h1]; exact hi.safe.crState cr (by rw [← h2]; exact h),
    fun cr h => hi.safe.crRegs cr (by rw [← h2]; exact h)⟩, hi.ti.congr h1 h2 h3 h4 h5 h6⟩

theorem TInv.setAtEof {m : Mach} (hi : TInv m) (b : Bool) : TInv (m.setAtEof b) :=
  hi.congr (by simp) (by simp) (by simp) (by simp) (by simp) (by simp)

theorem TInv.setDiscardBom {m : Mach} (hi : TInv m) (b : Bool) : TInv (m.setDiscardBom b) :=
  hi.congr (by simp) (by simp) (by simp) (by simp) (by simp) (by simp)

theorem feedBom_tinv (m : Mach) (inp : Str) (hi : TInv m) : TInv (feedBom m inp).1 := by
  unfold feedBom
  cases inp with
  | nil => exact hi
  | cons c rest =>
    dsimp only
    split
    · exact hi.setDiscardBom false
    · exact hi

/-- **`feed` never runs out of the fuel it hands to `run`** -/
theorem feed_terminates (o : Opts) (m : Mach) (inp chunk : Str) (hi : TInv m) :
    feed o m inp chunk ≠ .outOfFuel := by
  unfold feed
  dsimp only
  split
  · simp
  · exact run_terminates o _ _ _ (feedBom_tinv m _ hi) (mu_lt_fuelFor _ _)

/-- wherever `feed` stops the invariant holds again: the next `feed` terminates, too -/
theorem feed_tinv (o : Opts) (m : Mach) (inp chunk : Str) (hi : TInv m)
    (m' : Mach) (i' : Str) (h : feed o m inp chunk = .done m' i') : TInv m' := by
  unfold feed at h
  dsimp only at h
  split at h
  · simp only [RunRes.done.injEq] at h
    rw [← h.1]; exact hi
  · exact run_tinv o _ _ _ (feedBom_tinv m _ hi) m' i' h

/-! ### a step that asks for more input has drained the queue (also at EOF) -/

theorem eat_none_nil (o : Opts) (m m1 : Mach) (inp i1 pat : Str)
    (h : eat o m inp pat = (none, m1, i1)) : i1 = [] := by
  rw [eat_eq_core] at h
  unfold eatCore at h
  repeat' split at h
  all_goals simp_all

theorem contChar_suspend_nil (o : Opts) (m : Mach) (inp : Str) (m' : Mach) (i' : Str)
    (h : contChar o (getChar o m inp) = .suspend m' i') : i' = [] := by
  cases hgc : getChar o m inp with
  | mk oc r =>
    obtain ⟨m1, i1⟩ := r
    rw [hgc] at h
    cases oc with
    | none => cases h; exact (getChar_none o m _ inp _ hgc).1
    | some c => exact absurd h (ofSig_ne_suspend _ _ _ _)

theorem eatChain_suspend_nil (o : Opts) (dflt : Mach → Str → R) (alts : List (Str × (Mach → Mach)))
    (hd : ∀ x i m' i', dflt x i = .suspend m' i' → i' = []) (m : Mach) (inp : Str) (m' : Mach) (i' : Str)
    (h : eatChain o dflt alts m inp = .suspend m' i') : i' = [] :=
  eatChain_cases (I := fun _ _ => True) (J := fun _ _ => True)
    (Post := fun r => ∀ m' i', r = .suspend m' i' → i' = []) o dflt alts
    (fun _ _ _ _ _ _ _ _ => ⟨trivial, trivial⟩)
    (fun _ _ _ _ _ _ _ he _ _ h => by cases h; exact eat_none_nil _ _ _ _ _ _ he)
    (fun _ _ _ _ _ _ _ _ _ _ h => nomatch h) (fun x i _ _ => hd x i) m inp trivial (fun _ => trivial) m' i' h

/-- **a step that asks for more input has consumed all there was** (no `at_eof` hypothesis: also
inside `XmlTokenizer::end`) -/
theorem step_suspend_nil (o : Opts) (m : Mach) (inp : Str) (hi : TInv m) (m' : Mach) (i' : Str)
    (h : step o m inp = .suspend m' i') : i' = [] := by
  revert h
  refine step_cases (Post := fun r => r = .suspend m' i' → i' = []) o m inp (fun cr hcr h => ?_)
    (fun _ _ => contChar_suspend_nil o m inp m' i') (fun _ _ h => ?_)
    (fun _ _ => eatChain_suspend_nil o _ mdAlts (fun _ _ _ _ h => by cases h) m inp m' i')
    (fun _ _ => eatChain_suspend_nil o _ adnAlts (contChar_suspend_nil o) m inp m' i')
  · obtain ⟨c1, c2, c3⟩ := hi.ti.cr cr hcr
    have hdec := crStep_term o m inp cr c2 c1 c3
    unfold stepCharRef at h
    cases hc : crStep o m inp cr with
    | error x => rw [hc] at h; cases h
    | ok v =>
      obtain ⟨m1, i1, cr1, st⟩ := v
      rw [hc] at h hdec
      cases st with
      | stuck =>
        cases h
        have : _ ∧ _ ∧ i' = [] ∧ _ := hdec
        exact this.2.2.1
      | progress => cases h
      | done chars => exact absurd h (ofSig_ne_suspend _ _ _ _)
  · cases hgc : popExceptFrom o (setOf m.state) m inp with
    | mk oc r =>
      obtain ⟨m1, i1⟩ := r
      rw [hgc] at h
      cases oc with
      | none => cases h; exact (popExceptFrom_none o _ m _ inp _ hgc).1
      | some c => exact absurd h (ofSig_ne_suspend _ _ _ _)

theorem run_done_nil (o : Opts) (fuel : Nat) (m : Mach) (inp : Str) (hi : TInv m)
    (m' : Mach) (i' : Str) (h : run o fuel m inp = .done m' i') : i' = [] := by
  induction fuel generalizing m inp with
  | zero => simp [run] at h
  | succ n ih =>
    unfold run at h
    cases hs : step o m inp with
    | cont m1 i1 =>
      rw [hs] at h
      exact ih m1 i1 (step_tinv o m inp hi m1 i1 (by rw [hs]; rfl)) h
    | suspend m1 i1 =>
      rw [hs] at h
      simp only [RunRes.done.injEq] at h
      rw [← h.2]; exact step_suspend_nil o m inp hi m1 i1 hs
    | panic e => rw [hs] at h; simp at h


/-! ### `XmlTokenizer::end` -/

/-- the first round of the sub-tokenizer's `end_of_file` does not raise a pending `reconsume` -/
theorem crEofOnce_reconsume (o : Opts) (m : Mach) (inp : Str) (cr : CharRefSt) (ht : CRT cr)
    (m1 : Mach) (i1 : Str) (cr1 : CharRefSt) (st : CRStatus)
    (h : crEofOnce o m inp cr = .ok (m1, i1, cr1, st)) : m1.reconsume = m.reconsume := by
  unfold crEofOnce at h
  cases hst : cr.state with
  | begin =>
    simp only [hst, Except.ok.injEq, Prod.mk.injEq] at h
    rw [← h.1]
  | octothorpe =>
    simp only [hst, Except.ok.injEq, Prod.mk.injEq] at h
    rw [← h.1]
    simp only [emitErr_reconsume]
    exact (unconsume_facts m inp ['#']).2.2
  | numeric base =>
    simp only [hst] at h
    split at h
    · obtain ⟨m2, i2, hun, u3, _, _⟩ := unconsumeNumeric_shape m inp cr ht
      rw [hun] at h
      simp only [Except.ok.injEq, Prod.mk.injEq] at h
      rw [← h.1, u3]
    · obtain ⟨m2, c, hf, hrr⟩ := finishNumericStatus_shape o
        (emitErr m "EOF in numeric character reference") inp cr
      rw [hf] at h
      simp only [Except.ok.injEq, Prod.mk.injEq] at h
      rw [← h.1, hrr]; simp
  | numericSemicolon =>
    simp only [hst] at h
    obtain ⟨m2, c, hf, hrr⟩ := finishNumericStatus_shape o
      (emitErr m "EOF in numeric character reference") inp cr
    rw [hf] at h
    simp only [Except.ok.injEq, Prod.mk.injEq] at h
    rw [← h.1, hrr]; simp
  | named =>
    simp only [hst] at h
    cases hnb : cr.nameBuf with
    | none => unfold finishNamed at h; simp [hnb] at h
    | some nb => exact (finishNamed_shape o m inp cr none nb m1 i1 cr1 st hnb h).1
  | bogusName =>
    simp only [hst] at h
    cases hnb : cr.nameBuf with
    | none => unfold unconsumeName at h; simp [hnb] at h
    | some nb => exact (unconsumeName_shape m inp cr nb hnb m1 i1 cr1 st h).2.2.2

/-- the machine `end()` continues with after handing back an unfinished character reference
satisfies the invariant again -/
theorem finishPre_tinv (o : Opts) (m : Mach) (hi : TInv m) :
    ∃ m1 i1, finishPre o m = .ok (m1, i1) ∧ TInv m1 := by
  cases hcr : m.charRef with
  | none => exact ⟨m, [], by unfold finishPre; rw [hcr], hi⟩
  | some cr =>
    obtain ⟨c1, c2, c3⟩ := hi.ti.cr cr hcr
    obtain ⟨hne, _⟩ := crStateOk_facts (hi.safe.crState cr hcr)
    have htb := hi.ti.nr hne
    obtain ⟨mx, ix, crx, chars, hon, hp⟩ := crEofOnce_ok o m [] cr (hi.safe.crRegs cr hcr)
    have hrx := crEofOnce_reconsume o m [] cr c3 mx ix crx _ hon
    have hce : crEof o m [] cr = .ok (mx, ix, chars) := by rw [crEof_eq, hon]
    have hst : crStateOk (mx.setCharRef none).state := by
      rw [setCharRef_state, hp.2.2.1]; exact hi.safe.crState cr hcr
    have hnp := processCharRef_no_panic (mx.setCharRef none) chars hst
    have hc := processCharRef_charRef (mx.setCharRef none) chars
    have hrr := processCharRef_reconsume (mx.setCharRef none) chars
    obtain ⟨q1, _, q3, _⟩ := processCharRef_pres (mx.setCharRef none) chars
    unfold finishPre
    simp only [hcr, hce]
    cases hpc : processCharRef (mx.setCharRef none) chars with
    | mk m2 sig =>
      rw [hpc] at hnp hc hrr q1 q3
      cases sig with
      | panic e => exact absurd rfl (hnp e)
      | cont =>
        simp only at hc hrr q1 q3 ⊢
        have hc2 : m2.charRef = none := by simpa using hc
        refine ⟨m2, ix, rfl, Safe.of_none hc2, TI.of_plain hc2 ?_ ?_⟩
        · rw [q1]; simp only [setCharRef_tempBuf]; rw [hp.1, htb]
        · rw [hrr]; simp only [setCharRef_reconsume]; rw [hrx, c2]

/-- **`XmlTokenizer::end` neither panics nor hangs**: it always completes, delivering EOF last -/
theorem finish_total (o : Opts) (m : Mach) (hi : TInv m) :
    ∃ mf, finish o m = .ok mf ∧ ∃ rest, mf.out = Token.eof :: rest := by
  obtain ⟨m1, i1, hpre, hi1⟩ := finishPre_tinv o m hi
  have hi' := hi1.setAtEof true
  have hfin : ∃ mf, finish o m = .ok mf := by
    rw [finish_eq, hpre]
    simp only
    cases hrun : run o (fuelFor (m1.setAtEof true) i1) (m1.setAtEof true) i1 with
    | done m4 i4 => exact eofLoop_ok o 8 m4 (by have := eofRank_le m4.state; omega)
    | panic e => exact absurd hrun ((run_safe o _ _ _ hi'.safe).1 e)
    | outOfFuel => exact absurd hrun (run_terminates o _ _ _ hi' (mu_lt_fuelFor _ _))
  obtain ⟨mf, h⟩ := hfin
  exact ⟨mf, h, finish_eof_last o m mf h⟩

end H5V.Model.XmlTok
