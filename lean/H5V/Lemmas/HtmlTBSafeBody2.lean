import H5V.Lemmas.HtmlTBSafeBody1
/-!
# Tree-builder safety, InBody rules: the arms that keep the insertion mode (`BK` steps)
-/
namespace H5V.Lemmas.TBSafe.IB
open H5V.Model.HtmlTB
open H5V.Model.Dom (Id QualName Attr NodeOrText SinkOp Output ElementFlags QuirksMode Dom NodeData Node)

variable {al : Allow}

theorem arm_chars {text : Str} {s : State} (hi : HInv s) (hr : Rooted s.dom s.openElems) :
    Sat (do
      reconstructActiveFormattingElements
      if anyNotWhitespace text then setFramesetOk false
      appendText text) s (fun r s' => r = .done ∧ BK s s') := by
  refine bk_step hi (bk_reconstruct hi hr) ?_
  intro _ s1 hi1 hr1
  have hfin : ∀ s2, HInv s2 → Rooted s2.dom s2.openElems →
      Sat (appendText text) s2 (fun r s' => r = .done ∧ BK s2 s') :=
    fun s2 hi2 hr2 => (sat_appendText (PlaceOk.of_hinv hi2 hr2)).mono (fun r s' h => ⟨h.1, BK.of_qf hi2 hr2 h.2⟩)
  split
  · exact bk_step hi1 (bk_setFramesetOk hi1 hr1) (fun _ s2 hi2 hr2 => hfin s2 hi2 hr2)
  · exact hfin s1 hi1 hr1

theorem arm_comment {text : Str} {s : State} (hi : HInv s) (hr : Rooted s.dom s.openElems) :
    Sat (appendComment text) s (fun r s' => PlainRes r ∧ BK s s') :=
  (sat_appendComment (PlaceOk.of_hinv hi hr)).mono (fun _ _ h => ⟨Or.inl h.1, BK.of_qf hi hr h.2⟩)

theorem arm_body {tag : Tag} {s : State} (hi : HInv s) (hr : Rooted s.dom s.openElems) :
    Sat (do
      let _ ← unexpected
      match ← bodyElem with
      | some node =>
        if (← getS).openElems.length != 1 then
          if !(← inHtmlElemNamed "template") then
            setFramesetOk false
            sinkUnit (.addAttrsIfMissing node tag.attrs)
      | none => pure ()
      pure .done) s (fun r s' => PlainRes r ∧ BK s s') := by
  refine q_step' hi hr (sat_unexpected.mono (fun _ _ h => h.2)) ?_
  intro _ s1 hq1 hi1 hr1
  refine q_step (P := fun r => ∀ b, r = some b → b ∈ s1.openElems) hi1 hr1
    ((sat_bodyElem hi1.open_el).mono (fun r s2 h => ⟨fun b hb => List.mem_of_getElem? (h.2 b hb).1, h.1⟩)) ?_
  intro r s2 hP hq2 hi2 hr2
  cases r with
  | none => exact bk_pure hi2 hr2 plain_done
  | some node =>
    have hmem : node ∈ s2.openElems := by rw [hq2.openElems]; exact hP node rfl
    dsimp only
    refine sat_getS_bind ?_
    split
    · refine q_step' hi2 hr2 ((sat_inHtmlElemNamed hi2.open_el).mono (fun _ _ h => h.2)) ?_
      intro b s3 hq3 hi3 hr3
      have hmem3 : node ∈ s3.openElems := by rw [hq3.openElems]; exact hmem
      split
      · refine same_step hi3 hr3 sat_setFramesetOk ?_
        intro _ s4 st4 hi4 hr4
        have hmem4 : node ∈ s4.openElems := by rw [st4.openElems]; exact hmem3
        refine q_step' hi4 hr4 (sat_addAttrs (hi4.open_el node hmem4)) ?_
        intro _ s5 _ hi5 hr5
        exact bk_pure hi5 hr5 plain_done
      · exact bk_pure hi3 hr3 plain_done
    · exact bk_pure hi2 hr2 plain_done

/-- the block-level start tags, `<menu>`, `<plaintext>` -/
theorem arm_block {tag : Tag} {res : ProcessResult} {s : State} (hi : HInv s) (hr : Rooted s.dom s.openElems)
    (hn : NewOk ⟨nsHtml, tag.name⟩) (hres : PlainRes res) :
    Sat (do
      closePElementInButtonScope
      let _ ← insertElementFor tag
      pure res) s (fun r s' => PlainRes r ∧ BK s s') := by
  refine bk_step hi (bk_closeP hi hr) ?_
  intro _ s1 hi1 hr1
  refine bk_step hi1 (bk_insertFor hi1 hr1 hn) ?_
  intro _ s2 hi2 hr2
  exact bk_pure hi2 hr2 hres

theorem arm_heading {tag : Tag} {s : State} (hi : HInv s) (hr : Rooted s.dom s.openElems)
    (hn : NewOk ⟨nsHtml, tag.name⟩) :
    Sat (do
      closePElementInButtonScope
      if ← currentNodeIn headingTag then
        parseError "nested heading tags"
        let _ ← pop
      let _ ← insertElementFor tag
      pure .done) s (fun r s' => PlainRes r ∧ BK s s') := by
  refine bk_step hi (bk_closeP hi hr) ?_
  intro _ s1 hi1 hr1
  have hfin : ∀ s2, HInv s2 → Rooted s2.dom s2.openElems →
      Sat (do let _ ← insertElementFor tag; pure ProcessResult.done) s2 (fun r s' => PlainRes r ∧ BK s2 s') := by
    intro s2 hi2 hr2
    refine bk_step hi2 (bk_insertFor hi2 hr2 hn) ?_
    intro _ s3 hi3 hr3
    exact bk_pure hi3 hr3 plain_done
  refine q_step hi1 hr1 (q_currentNodeIn hi1 hr1) ?_
  intro b s2 hP hq2 hi2 hr2
  split
  · rename_i hb
    refine q_step' hi2 hr2 sat_parseError ?_
    intro _ s3 hq3 hi3 hr3
    have htop : TopIs s3 headingTag := ((hP hb).of_qf hi1 hq2).of_qf hi2 hq3
    refine bk_step hi3 (bk_pop_top hi3 hr3 htop (fun n h => popOk_of_heading h)) ?_
    intro _ s4 hi4 hr4
    exact hfin s4 hi4 hr4
  · exact hfin s2 hi2 hr2

theorem arm_pre {tag : Tag} {s : State} (hi : HInv s) (hr : Rooted s.dom s.openElems)
    (hn : NewOk ⟨nsHtml, tag.name⟩) :
    Sat (do
      closePElementInButtonScope
      let _ ← insertElementFor tag
      modS fun s => { s with ignoreLf := true }
      setFramesetOk false
      pure .done) s (fun r s' => PlainRes r ∧ BK s s') := by
  refine bk_step hi (bk_closeP hi hr) ?_
  intro _ s1 hi1 hr1
  refine bk_step hi1 (bk_insertFor hi1 hr1 hn) ?_
  intro _ s2 hi2 hr2
  refine bk_step hi2 (sat_modS (bk_withIgnoreLf hi2 hr2 true)) ?_
  intro _ s3 hi3 hr3
  refine bk_step hi3 (bk_setFramesetOk hi3 hr3) ?_
  intro _ s4 hi4 hr4
  exact bk_pure hi4 hr4 plain_done

theorem arm_form {tag : Tag} {s : State} (hi : HInv s) (hr : Rooted s.dom s.openElems)
    (hname : tag.name = "form".toList) :
    Sat (do
      let nested ← if (← getS).formElem.isSome then (do pure (!(← inHtmlElemNamed "template"))) else pure false
      if nested then parseError "nested forms"
      else
        closePElementInButtonScope
        let elem ← insertElementFor tag
        if !(← inHtmlElemNamed "template") then
          modS fun s => { s with formElem := some elem }
      pure .done) s (fun r s' => PlainRes r ∧ BK s s') := by
  have hn : NewOk ⟨nsHtml, tag.name⟩ := by rw [hname]; exact newOk_mk (by decide)
  have htail : ∀ (nested : Bool) (s1 : State), HInv s1 → Rooted s1.dom s1.openElems →
      Sat (if nested = true then do
          parseError "nested forms"
          pure ProcessResult.done
        else do
          closePElementInButtonScope
          let elem ← insertElementFor tag
          let __do_lift ← inHtmlElemNamed "template"
          if (!__do_lift) = true then do
            modS fun s => { s with formElem := some elem }
            pure ProcessResult.done
          else pure ProcessResult.done) s1 (fun r s' => PlainRes r ∧ BK s1 s') := by
    intro nested s1 hi1 hr1
    split
    · refine bk_step hi1 (bk_parseError hi1 hr1) ?_
      intro _ s2 hi2 hr2
      exact bk_pure hi2 hr2 plain_done
    · refine bk_step hi1 (bk_closeP hi1 hr1) ?_
      intro _ s2 hi2 hr2
      refine bk_stepP hi2 (bk_insertForP hi2 hr2 hn) ?_
      rintro elem s3 ⟨hel, hnm⟩ hi3 hr3
      refine q_step' hi3 hr3 ((sat_inHtmlElemNamed hi3.open_el).mono (fun _ _ h => h.2)) ?_
      intro b s4 hq4 hi4 hr4
      split
      · refine bk_step hi4 (sat_modS (bk_withForm hi4 hr4 (some elem) ?_)) ?_
        · intro h hh
          cases hh
          exact ⟨hel.ext hq4.ext, by rw [nm_ext hq4.ext hel, hnm, hname]; rfl⟩
        · intro _ s5 hi5 hr5
          exact bk_pure hi5 hr5 plain_done
      · exact bk_pure hi4 hr4 plain_done
  refine sat_getS_bind ?_
  split
  · refine Sat.bind (Q := fun _ s1 => QF s s1) ?_ ?_
    · refine (sat_inHtmlElemNamed hi.open_el).bind ?_
      intro b s1 hq
      exact sat_pure hq.2
    · intro nested s1 hq1
      have hbk := BK.of_qf hi hr hq1
      exact (htail nested s1 hbk.b.hinv hbk.b.rooted).mono (fun r s2 h => ⟨h.1, BK.trans hi hbk h.2⟩)
  · refine Sat.bind (Q := fun _ s1 => s1 = s) (sat_pure rfl) ?_
    rintro nested s1 rfl
    exact htail nested s1 hi hr

/-! ### `<li>`, `<dd>`, `<dt>` -/

/-- `close_list` / `close_defn` -/
def canClose (list : Bool) (n : EName) : Bool := if list then closeList n else closeDefn n

theorem canClose_html {list : Bool} {n : EName} (h : canClose list n = true) : n.ns = nsHtml := by
  unfold canClose at h
  split at h
  · unfold closeList htmlIn at h; simp only [Bool.and_eq_true, beq_iff_eq] at h; exact h.1
  · unfold closeDefn htmlIn at h; simp only [Bool.and_eq_true, beq_iff_eq] at h; exact h.1

theorem canClose_popOk {list : Bool} {n : EName} (h : canClose list n = true) : popOk n = true := by
  unfold canClose at h
  split at h
  · exact popOk_of_htmlIn (by decide) h
  · exact popOk_of_htmlIn (by decide) h

theorem sat_listCloseSearch {list : Bool} : ∀ (l : List Id) (s : State), AllEl s.dom l →
    Sat (listCloseSearch list l) s (fun r s' => QF s s' ∧ ∀ name, r = some name →
      ∃ a x b, l = a ++ x :: b ∧ canClose list (nm s.dom x) = true ∧ (nm s.dom x).loc = name ∧
        ∀ y ∈ a, canClose list (nm s.dom y) = false ∧ extraSpecial (nm s.dom y) = false) := by
  intro l
  induction l with
  | nil => intro s _; exact sat_pure ⟨QF.refl s, fun _ h => by cases h⟩
  | cons node rest ih =>
    intro s hall
    unfold listCloseSearch
    refine (sat_elemName (hall node List.mem_cons_self)).bind ?_
    rintro n s1 ⟨rfl, hq1⟩
    dsimp only
    by_cases hc : canClose list (nm s.dom node) = true
    · have hc' : (if list = true then closeList (nm s.dom node) else closeDefn (nm s.dom node)) = true := hc
      rw [if_pos hc']
      refine sat_pure ⟨hq1, ?_⟩
      intro name hn
      cases hn
      exact ⟨[], node, rest, rfl, hc, rfl, by simp⟩
    · have hc' : ¬ (if list = true then closeList (nm s.dom node) else closeDefn (nm s.dom node)) = true := hc
      rw [if_neg hc']
      refine sat_ite (fun hx => ?_) fun hx => ?_
      · exact sat_pure ⟨hq1, fun _ h => by cases h⟩
      · have hall' : AllEl s.dom rest := hall.sub (fun x hx => List.mem_cons_of_mem _ hx)
        refine (ih s1 (hall'.ext hq1.ext)).mono ?_
        rintro r s2 ⟨hq2, hsp⟩
        refine ⟨hq1.trans hq2, ?_⟩
        intro name hn
        obtain ⟨a, x, b, heq, h1, h2, h3⟩ := hsp name hn
        have hnm : ∀ z ∈ rest, nm s1.dom z = nm s.dom z := fun z hz => hall'.nm_eq hq1.ext hz
        have hxm : x ∈ rest := by rw [heq]; simp
        refine ⟨node :: a, x, b, by rw [heq]; rfl, by rw [← hnm x hxm]; exact h1, by rw [← hnm x hxm]; exact h2, ?_⟩
        intro y hy
        rcases List.mem_cons.mp hy with h | h
        · rw [h]; exact ⟨by simpa using hc, by simpa using hx⟩
        · have hym : y ∈ rest := by rw [heq]; exact List.mem_append_left _ h
          rw [← hnm y hym]; exact h3 y h

theorem arm_li {tag : Tag} {s : State} (hi : HInv s) (hr : Rooted s.dom s.openElems)
    (hn : NewOk ⟨nsHtml, tag.name⟩) :
    Sat (do
      let list := isName tag.name "li"
      setFramesetOk false
      let toClose ← listCloseSearch list (← getS).openElems.reverse
      match toClose with
      | some name =>
        generateImpliedEndExcept name
        expectToCloseS name
      | none => pure ()
      closePElementInButtonScope
      let _ ← insertElementFor tag
      pure .done) s (fun r s' => PlainRes r ∧ BK s s') := by
  dsimp only
  refine same_step hi hr sat_setFramesetOk ?_
  intro _ s1 st1 hi1 hr1
  refine sat_getS_bind ?_
  refine q_step hi1 hr1 (P := fun r => ∀ name, r = some name → ∃ pre x post,
      Split s1 (Named name) pre x post ∧ popOk (nm s1.dom x) = true)
    ((sat_listCloseSearch _ s1 (hi1.open_el.sub (fun x hx => List.mem_reverse.mp hx))).mono ?_) ?_
  · rintro r s2 ⟨hq, hsp⟩
    refine ⟨?_, hq⟩
    intro name hn
    obtain ⟨a, x, b, heq, h1, h2, h3⟩ := hsp name hn
    have hxn : nm s1.dom x = ⟨nsHtml, name⟩ := by
      cases hx : nm s1.dom x with
      | mk ns loc =>
        rw [hx] at h1 h2
        have := canClose_html h1
        simp only at this h2
        rw [this, h2]
    refine ⟨b.reverse, x, a.reverse, ⟨?_, ?_, ?_⟩, canClose_popOk h1⟩
    · have := congrArg List.reverse heq
      simpa using this
    · rw [hxn]; simp
    · intro y hy
      have hy' := h3 y (List.mem_reverse.mp hy)
      refine ⟨?_, popOk_of_not_extraSpecial hy'.2⟩
      cases hp : Named name (nm s1.dom y) with
      | false => rfl
      | true =>
        rw [named_eq hp, ← hxn, h1] at hy'
        cases hy'.1
  · intro r s2 hP hq2 hi2 hr2
    have hfin : ∀ s3, HInv s3 → Rooted s3.dom s3.openElems →
        Sat (do
          closePElementInButtonScope
          let _ ← insertElementFor tag
          pure ProcessResult.done) s3 (fun r s' => PlainRes r ∧ BK s3 s') :=
      fun s3 hi3 hr3 => arm_block hi3 hr3 hn plain_done
    cases r with
    | none => exact hfin s2 hi2 hr2
    | some name =>
      obtain ⟨pre, x, post, hsp, hpx⟩ := hP name rfl
      have hsp2 := hsp.of_qf hi1 hq2
      have hnx2 : nm s2.dom x = ⟨nsHtml, name⟩ := named_eq hsp2.px
      have hpx2 : popOk (nm s2.dom x) = true := by
        rw [nm_ext hq2.ext (hi1.open_el x (by rw [hsp.eq]; simp))]; exact hpx
      dsimp only
      unfold generateImpliedEndExcept
      refine bk_stepP hi2 (split_implied hi2 hr2 hsp2 (by rw [hnx2]; exact impliedExcept_self)) ?_
      rintro _ s3 ⟨post0, hsp3⟩ hi3 hr3
      have hnx3 : nm s3.dom x = ⟨nsHtml, name⟩ := named_eq hsp3.px
      refine bk_step hi3 (split_expectToCloseS hi3 hr3 hsp3 (by rw [hnx3, ← hnx2]; exact hpx2)) ?_
      intro _ s4 hi4 hr4
      exact hfin s4 hi4 hr4

/-! ### `<button>` and the end tags that pop down to an element in scope -/

theorem arm_button {tag : Tag} {s : State} (hi : HInv s) (hr : Rooted s.dom s.openElems)
    (hn : NewOk ⟨nsHtml, tag.name⟩) :
    Sat (do
      if ← inScopeNamed defaultScope "button" then
        parseError "nested buttons"
        generateImpliedEndTags cursoryImpliedEnd
        let _ ← popUntilNamed "button"
      reconstructActiveFormattingElements
      let _ ← insertElementFor tag
      setFramesetOk false
      pure .done) s (fun r s' => PlainRes r ∧ BK s s') := by
  have hfin : ∀ s3, HInv s3 → Rooted s3.dom s3.openElems →
      Sat (do
        reconstructActiveFormattingElements
        let _ ← insertElementFor tag
        setFramesetOk false
        pure ProcessResult.done) s3 (fun r s' => PlainRes r ∧ BK s3 s') := by
    intro s3 hi3 hr3
    refine bk_step hi3 (bk_reconstruct hi3 hr3) ?_
    intro _ s4 hi4 hr4
    refine bk_step hi4 (bk_insertFor hi4 hr4 hn) ?_
    intro _ s5 hi5 hr5
    refine bk_step hi5 (bk_setFramesetOk hi5 hr5) ?_
    intro _ s6 hi6 hr6
    exact bk_pure hi6 hr6 plain_done
  refine q_step hi hr (q_inScopeNamed hi (fun n h => popOk_of_not_default h)) ?_
  intro b s1 hP hq1 hi1 hr1
  split
  · rename_i hb
    obtain ⟨pre, x, post, hsp⟩ := hP hb
    refine q_step' hi1 hr1 sat_parseError ?_
    intro _ s2 hq2 hi2 hr2
    have hsp2 := (hsp.of_qf hi hq1).of_qf hi1 hq2
    have hnx2 := named_eq hsp2.px
    refine bk_stepP hi2 (split_implied hi2 hr2 hsp2 (by rw [hnx2]; decide)) ?_
    rintro _ s3 ⟨post0, hsp3⟩ hi3 hr3
    have hnx3 := named_eq hsp3.px
    refine bk_step hi3 (split_popUntil hi3 hr3 hsp3 (by rw [hnx3]; exact popOk_lit (by decide))) ?_
    intro _ s4 hi4 hr4
    exact hfin s4 hi4 hr4
  · exact hfin s1 hi1 hr1

/-- `generate_implied_end_tags; expect_to_close(name)` after a scope test found `name` -/
theorem arm_endBlock {name : Str} {s : State} (hi : HInv s) (hr : Rooted s.dom s.openElems)
    (hc : isOneOf name cursoryImpliedEndNames = false) (hname : isOneOf name ["html", "td", "th"] = false) :
    Sat (do
      if !(← inScopeNamedS defaultScope name) then
        let _ ← unexpected
      else
        generateImpliedEndTags cursoryImpliedEnd
        expectToCloseS name
      pure .done) s (fun r s' => PlainRes r ∧ BK s s') := by
  refine q_step hi hr (q_inScopeNamedS hi (fun n h => popOk_of_not_default h)) ?_
  intro b s1 hP hq1 hi1 hr1
  split
  · refine bk_step hi1 (bk_unexpected hi1 hr1) ?_
    intro _ s2 hi2 hr2
    exact bk_pure hi2 hr2 plain_done
  · rename_i hb
    have hb' : b = true := by simpa using hb
    obtain ⟨pre, x, post, hsp⟩ := hP hb'
    have hsp1 := hsp.of_qf hi hq1
    exact split_implied_close hi1 hr1 hsp1 (cursory_mk_false hc) hname
      (fun _ s2 hi2 hr2 => bk_pure hi2 hr2 plain_done)

/-! ### `</form>` -/

theorem form_not_cursory : cursoryImpliedEnd formName = false := by
  rw [formName, cursoryImpliedEnd, htmlIn_html, isOneOf_toList]; decide
theorem form_popOk : popOk formName = true := popOk_lit (by decide)

theorem arm_endForm {s : State} (hi : HInv s) (hr : Rooted s.dom s.openElems) :
    Sat (do
      if !(← inHtmlElemNamed "template") then
        let s ← getS
        match s.formElem with
        | none =>
          parseError "Null form element pointer on </form>"
          pure .done
        | some node =>
          set { s with formElem := none }
          if !(← inScope defaultScope (fun n => sameNode node n)) then
            parseError "Form element not in scope on </form>"
            pure .done
          else
            generateImpliedEndTags cursoryImpliedEnd
            let current ← currentNode
            removeFromStack node
            if !(← sameNode current node) then parseError "Bad open element on </form>"
            pure .done
      else
        if !(← inScopeNamed defaultScope "form") then
          parseError "Form element not in scope on </form>"
          pure .done
        else
          generateImpliedEndTags cursoryImpliedEnd
          if !(← currentNodeNamed "form") then parseError "Bad open element on </form>"
          let _ ← popUntilNamed "form"
          pure .done) s (fun r s' => PlainRes r ∧ BK s s') := by
  have hdone : ∀ {msg : String} s3, HInv s3 → Rooted s3.dom s3.openElems →
      Sat (do parseError msg; pure ProcessResult.done) s3 (fun r s' => PlainRes r ∧ BK s3 s') := by
    intro msg s3 hi3 hr3
    refine bk_step hi3 (bk_parseError hi3 hr3) ?_
    intro _ s4 hi4 hr4
    exact bk_pure hi4 hr4 plain_done
  refine q_step' hi hr ((sat_inHtmlElemNamed hi.open_el).mono (fun _ _ h => h.2)) ?_
  intro b s1 hq1 hi1 hr1
  split
  · -- no template on the stack
    refine sat_getS_bind ?_
    cases hf : s1.formElem with
    | none => exact hdone s1 hi1 hr1
    | some node =>
      dsimp only
      obtain ⟨hnel, hnnm⟩ := hi1.form node hf
      refine bk_stepK hi1 (sat_set (bk_withForm hi1 hr1 none (fun h hh => by cases hh))) ?_
      intro _ s2 hb2 hi2 hr2
      refine q_step hi2 hr2 (P := fun b => b = true → ∃ pre post, s2.openElems = pre ++ node :: post ∧
          ∀ y ∈ post, popOk (nm s2.dom y) = true) ((sat_inScope hi2.open_el (P := fun n => node == n)
          (fun x _ => answers_sameNode_left)).mono ?_) ?_
      · rintro b s3 ⟨rfl, hq⟩
        refine ⟨fun hb => ?_, hq⟩
        obtain ⟨pre, x, post, hs⟩ := inScopeP_split hb
        have hx : x = node := (beq_iff_eq.mp hs.px).symm
        subst hx
        exact ⟨pre, post, hs.eq, fun y hy => popOk_of_not_default (hs.above y hy).2⟩
      · intro b s3 hP hq3 hi3 hr3
        split
        · exact hdone s3 hi3 hr3
        · rename_i hb
          have hb' : b = true := by simpa using hb
          obtain ⟨pre, post, heq, habove⟩ := hP hb'
          have heq3 : s3.openElems = pre ++ node :: post := by rw [hq3.openElems]; exact heq
          have he13 : Ext s1.dom s3.dom := hb2.b.ext.trans hq3.ext
          have hnm3 : nm s3.dom node = formName := by rw [nm_ext he13 hnel]; exact hnnm
          refine bk_stepP (P := fun _ s4 => Ext s3.dom s4.dom) hi3
            ((sat_generateImpliedEndTags_keep (set := cursoryImpliedEnd) hi3.open_el heq3
              (by rw [hnm3]; exact form_not_cursory)).mono ?_) ?_
          · rintro _ s4 ⟨post0, post1, hp, st, _⟩
            refine ⟨st.fr.ext, bk_of_pops (pre := pre ++ node :: post0) (post := post1) hi3 hr3
              (by rw [heq3, hp]; simp) st ?_⟩
            intro y hy
            have hym : y ∈ post := by rw [hp]; exact List.mem_append_right _ hy
            rw [nm_ext hq3.ext (hi2.open_el y (by rw [heq]; simp [hym]))]
            exact habove y hym
          · intro _ s4 he34 hi4 hr4
            obtain ⟨top, hl⟩ := last_of_rooted hr4
            refine (sat_currentNode hl).bind ?_
            rintro cur s4' ⟨rfl, rfl⟩
            have hnm4 : nm s4'.dom node = formName := by rw [nm_ext (he13.trans he34) hnel]; exact hnnm
            refine bk_step hi4 (sat_removeFromStack.mono ?_) ?_
            · rintro _ s5 (⟨_, st⟩ | ⟨pre', post', heq', _, st⟩)
              · exact BK.of_same hi4 hr4 st
              · exact bk_of_remove hi4 hr4 heq' (by rw [hnm4]; exact form_popOk) st
            · intro _ s5 hi5 hr5
              refine q_step' hi5 hr5 (sat_sameNode.mono (fun _ _ h => h.2)) ?_
              intro b5 s6 _ hi6 hr6
              split
              · exact hdone s6 hi6 hr6
              · exact bk_pure hi6 hr6 plain_done
  · -- a template is on the stack
    refine q_step hi1 hr1 (q_inScopeNamed hi1 (fun n h => popOk_of_not_default h)) ?_
    intro b2 s2 hP hq2 hi2 hr2
    split
    · exact hdone s2 hi2 hr2
    · rename_i hb
      have hb' : b2 = true := by simpa using hb
      obtain ⟨pre, x, post, hsp⟩ := hP hb'
      have hsp2 := hsp.of_qf hi1 hq2
      have hnx2 := named_eq hsp2.px
      refine bk_stepP hi2 (split_implied hi2 hr2 hsp2 (by rw [hnx2]; decide)) ?_
      rintro _ s3 ⟨post0, hsp3⟩ hi3 hr3
      refine q_step' hi3 hr3 ((q_currentNodeNamed hi3 hr3).mono (fun _ _ h => h.2)) ?_
      intro b3 s4 hq4 hi4 hr4
      have hsp4 := hsp3.of_qf hi3 hq4
      have hfin : ∀ s5, QF s4 s5 → HInv s5 → Rooted s5.dom s5.openElems →
          Sat (do let _ ← popUntilNamed "form"; pure ProcessResult.done) s5
            (fun r s' => PlainRes r ∧ BK s5 s') := by
        intro s5 hq5 hi5 hr5
        have hsp5 := hsp4.of_qf hi4 hq5
        have hnx5 := named_eq hsp5.px
        refine bk_step hi5 (split_popUntil hi5 hr5 hsp5 (by rw [hnx5]; exact popOk_lit (by decide))) ?_
        intro _ s6 hi6 hr6
        exact bk_pure hi6 hr6 plain_done
      split
      · refine q_step' hi4 hr4 sat_parseError ?_
        intro _ s5 hq5 hi5 hr5
        exact hfin s5 hq5 hi5 hr5
      · exact hfin s4 (QF.refl _) hi4 hr4

/-! ### `</option>`, `</p>`, `</li>`…, `</h1>`… -/

theorem sat_findOption : ∀ (l : List Id) (s : State), AllEl s.dom l →
    Sat (findOption l) s (fun _ s' => QF s s') := by
  intro l
  induction l with
  | nil => intro s _; exact sat_pure (QF.refl s)
  | cons e rest ih =>
    intro s hall
    unfold findOption
    refine (sat_htmlElemNamed (hall e List.mem_cons_self)).bind ?_
    rintro b s1 ⟨-, hq⟩
    split
    · exact sat_pure hq
    · exact (ih s1 ((hall.sub (fun x hx => List.mem_cons_of_mem _ hx)).ext hq.ext)).mono
        (fun _ _ h => hq.trans h)

theorem anySameNode_eq (x : Id) (l : List Id) : anySameNode x l = anySameNodeRev x l := by
  induction l with
  | nil => rfl
  | cons e rest ih => unfold anySameNode anySameNodeRev; rw [ih]

theorem sat_anySameNode {x : Id} (l : List Id) (s : State) :
    Sat (anySameNode x l) s (fun _ s' => QF s s') := by
  rw [anySameNode_eq]; exact sat_anySameNodeRev l s

theorem arm_endOption {tag : Tag} {s : State} (het : EndTagSpec) (hi : HInv s) (hr : Rooted s.dom s.openElems)
    (hname : tag.name = "option".toList) :
    Sat (do
      let optionInStack ← findOption (← getS).openElems
      processEndTagInBody tag
      match optionInStack with
      | some option =>
        if !(← anySameNode option (← getS).openElems) then
          sinkUnit (.maybeCloneAnOptionIntoSelectedcontent option)
      | none => pure ()
      pure .done) s (fun r s' => PlainRes r ∧ BK s s') := by
  refine sat_getS_bind ?_
  refine q_step' hi hr (sat_findOption _ s hi.open_el) ?_
  intro opt s1 hq1 hi1 hr1
  refine bk_step hi1 ((het tag s1 hi1 hr1 (by rw [hname]; decide)).mono ?_) ?_
  · rintro _ s2 ⟨pre, post, heq, st, _, hp⟩
    refine bk_of_pops hi1 hr1 heq st ?_
    intro y hy
    rcases hp y hy with h | h
    · exact popOk_of_not_special h
    · rw [namedP_nm h, hname]; decide
  · intro _ s2 hi2 hr2
    cases opt with
    | none => exact bk_pure hi2 hr2 plain_done
    | some option =>
      dsimp only
      refine sat_getS_bind ?_
      refine q_step' hi2 hr2 (sat_anySameNode _ s2) ?_
      intro b s3 hq3 hi3 hr3
      split
      · refine q_step' hi3 hr3 (sat_sinkUnit_mut trivial) ?_
        intro _ s4 _ hi4 hr4
        exact bk_pure hi4 hr4 plain_done
      · exact bk_pure hi3 hr3 plain_done

theorem arm_endP {s : State} (hi : HInv s) (hr : Rooted s.dom s.openElems) :
    Sat (do
      if !(← inScopeNamed buttonScope "p") then
        parseError "No <p> tag to close"
        let _ ← insertPhantom "p"
      closePElement
      pure .done) s (fun r s' => PlainRes r ∧ BK s s') := by
  have hfin : ∀ s3 pre x post, HInv s3 → Rooted s3.dom s3.openElems → Split s3 (Named "p".toList) pre x post →
      Sat (do closePElement; pure ProcessResult.done) s3 (fun r s' => PlainRes r ∧ BK s3 s') := by
    intro s3 pre x post hi3 hr3 hsp
    refine bk_step hi3 (split_closeP hi3 hr3 hsp) ?_
    intro _ s4 hi4 hr4
    exact bk_pure hi4 hr4 plain_done
  refine q_step hi hr (q_inScopeNamed hi (fun n h => popOk_of_not_button h)) ?_
  intro b s1 hP hq1 hi1 hr1
  split
  · refine q_step' hi1 hr1 sat_parseError ?_
    intro _ s2 hq2 hi2 hr2
    refine bk_stepP (P := fun r s3 => s3.openElems = s2.openElems ++ [r] ∧ nm s3.dom r = ⟨nsHtml, "p".toList⟩) hi2
      ((sat_insertPhantom (PlaceOk.of_hinv hi2 hr2)).mono ?_) ?_
    · intro r s3 hins
      exact ⟨⟨by rw [hins.openElems]; rfl, hins.nm⟩, BK.of_inserted hi2 hr2 hins (newOk_mk (by decide))⟩
    · rintro r s3 ⟨ho, hnm⟩ hi3 hr3
      exact hfin s3 s2.openElems r [] hi3 hr3 ⟨ho, by rw [hnm]; rfl, by simp⟩
  · rename_i hb
    have hb' : b = true := by simpa using hb
    obtain ⟨pre, x, post, hsp⟩ := hP hb'
    exact hfin s1 pre x post hi1 hr1 (hsp.of_qf hi hq1)

theorem arm_endLi {tag : Tag} {s : State} (hi : HInv s) (hr : Rooted s.dom s.openElems)
    (hname : isOneOf tag.name ["html", "td", "th"] = false) :
    Sat (do
      let inSc ← if isName tag.name "li" then inScopeNamedS listItemScope tag.name
                 else inScopeNamedS defaultScope tag.name
      if inSc then
        generateImpliedEndExcept tag.name
        expectToCloseS tag.name
      else parseError "No matching tag to close"
      pure .done) s (fun r s' => PlainRes r ∧ BK s s') := by
  have htail : ∀ (scope : EName → Bool), (∀ n, scope n = false → popOk n = true) →
      Sat (do
        let inSc ← inScopeNamedS scope tag.name
        if inSc = true then do
          generateImpliedEndExcept tag.name
          expectToCloseS tag.name
          pure ProcessResult.done
        else do
          parseError "No matching tag to close"
          pure ProcessResult.done) s (fun r s' => PlainRes r ∧ BK s s') := by
    intro scope hsc
    refine q_step hi hr (q_inScopeNamedS hi hsc) ?_
    intro b s1 hP hq1 hi1 hr1
    split
    · rename_i hb
      obtain ⟨pre, x, post, hsp⟩ := hP hb
      unfold generateImpliedEndExcept
      exact split_implied_close hi1 hr1 (hsp.of_qf hi hq1) impliedExcept_self hname
        (fun _ s2 hi2 hr2 => bk_pure hi2 hr2 plain_done)
    · refine bk_step hi1 (bk_parseError hi1 hr1) ?_
      intro _ s2 hi2 hr2
      exact bk_pure hi2 hr2 plain_done
  split
  · exact htail listItemScope (fun n h => popOk_of_not_listItem h)
  · exact htail defaultScope (fun n h => popOk_of_not_default h)

theorem arm_endHeading {tag : Tag} {s : State} (hi : HInv s) (hr : Rooted s.dom s.openElems) :
    Sat (do
      if ← inScope defaultScope (fun n => elemIn n headingTag) then
        generateImpliedEndTags cursoryImpliedEnd
        if !(← currentNodeNamedS tag.name) then parseError "Closing wrong heading tag"
        let _ ← popUntil headingTag
      else parseError "No heading tag to close"
      pure .done) s (fun r s' => PlainRes r ∧ BK s s') := by
  refine q_step hi hr (q_inScopeIn hi (fun n h => popOk_of_not_default h)) ?_
  intro b s1 hP hq1 hi1 hr1
  split
  · rename_i hb
    obtain ⟨pre, x, post, hsp⟩ := hP hb
    have hsp1 := hsp.of_qf hi hq1
    refine bk_stepP hi1 (split_implied hi1 hr1 hsp1 (heading_not_cursory hsp1.px)) ?_
    rintro _ s2 ⟨post0, hsp2⟩ hi2 hr2
    refine q_step' hi2 hr2 (q_currentNodeNamedS hi2 hr2) ?_
    intro b3 s3 hq3 hi3 hr3
    have hsp3 := hsp2.of_qf hi2 hq3
    have hfin : ∀ s5, QF s3 s5 → HInv s5 → Rooted s5.dom s5.openElems →
        Sat (do let _ ← popUntil headingTag; pure ProcessResult.done) s5
          (fun r s' => PlainRes r ∧ BK s5 s') := by
      intro s5 hq5 hi5 hr5
      have hsp5 := hsp3.of_qf hi3 hq5
      refine bk_step hi5 (split_popUntil hi5 hr5 hsp5 (popOk_of_heading hsp5.px)) ?_
      intro _ s6 hi6 hr6
      exact bk_pure hi6 hr6 plain_done
    split
    · refine q_step' hi3 hr3 sat_parseError ?_
      intro _ s4 hq4 hi4 hr4
      exact hfin s4 hq4 hi4 hr4
    · exact hfin s3 (QF.refl _) hi3 hr3
  · refine bk_step hi1 (bk_parseError hi1 hr1) ?_
    intro _ s2 hi2 hr2
    exact bk_pure hi2 hr2 plain_done

/-! ### formatting elements -/

theorem arm_fmt {tag : Tag} {s : State} (hi : HInv s) (hr : Rooted s.dom s.openElems)
    (hf : isOneOf tag.name fmtNames = true) :
    Sat (do
      reconstructActiveFormattingElements
      let _ ← createFormattingElementFor tag
      pure .done) s (fun r s' => PlainRes r ∧ BK s s') := by
  refine bk_step hi (bk_reconstruct hi hr) ?_
  intro _ s1 hi1 hr1
  refine bk_step hi1 (bk_createFmt hi1 hr1 hf) ?_
  intro _ s2 hi2 hr2
  exact bk_pure hi2 hr2 plain_done

theorem arm_a {tag : Tag} {s : State} (hmis : MisnestedSpec) (hi : HInv s) (hr : Rooted s.dom s.openElems)
    (hf : isOneOf tag.name fmtNames = true) :
    Sat (do
      handleMisnestedATags
      reconstructActiveFormattingElements
      let _ ← createFormattingElementFor tag
      pure .done) s (fun r s' => PlainRes r ∧ BK s s') := by
  refine bk_step hi ((hmis s hi hr).mono (fun _ _ h => bk_of_aapost h)) ?_
  intro _ s1 hi1 hr1
  exact arm_fmt hi1 hr1 hf

theorem arm_nobr {tag : Tag} {s : State} (haa : AgencySpec) (hi : HInv s) (hr : Rooted s.dom s.openElems)
    (hf : isOneOf tag.name fmtNames = true) :
    Sat (do
      reconstructActiveFormattingElements
      if ← inScopeNamed defaultScope "nobr" then
        parseError "Nested <nobr>"
        adoptionAgency "nobr".toList
        reconstructActiveFormattingElements
      let _ ← createFormattingElementFor tag
      pure .done) s (fun r s' => PlainRes r ∧ BK s s') := by
  have hfin : ∀ s3, HInv s3 → Rooted s3.dom s3.openElems →
      Sat (do let _ ← createFormattingElementFor tag; pure ProcessResult.done) s3
        (fun r s' => PlainRes r ∧ BK s3 s') := by
    intro s3 hi3 hr3
    refine bk_step hi3 (bk_createFmt hi3 hr3 hf) ?_
    intro _ s4 hi4 hr4
    exact bk_pure hi4 hr4 plain_done
  refine bk_step hi (bk_reconstruct hi hr) ?_
  intro _ s1 hi1 hr1
  refine q_step' hi1 hr1 ((sat_inScopeNamed hi1.open_el).mono (fun _ _ h => h.2)) ?_
  intro b s2 _ hi2 hr2
  split
  · refine bk_step hi2 (bk_parseError hi2 hr2) ?_
    intro _ s3 hi3 hr3
    refine bk_step hi3 ((haa "nobr".toList s3 hi3 hr3 (by rw [isOneOf_toList]; decide)).mono (fun _ _ h => bk_of_aapost h)) ?_
    intro _ s4 hi4 hr4
    refine bk_step hi4 (bk_reconstruct hi4 hr4) ?_
    intro _ s5 hi5 hr5
    exact hfin s5 hi5 hr5
  · exact hfin s2 hi2 hr2

theorem arm_endFmt {tag : Tag} {s : State} (haa : AgencySpec) (hi : HInv s) (hr : Rooted s.dom s.openElems)
    (hf : isOneOf tag.name fmtNames = true) :
    Sat (do
      adoptionAgency tag.name
      pure .done) s (fun r s' => PlainRes r ∧ BK s s') := by
  refine bk_step hi ((haa tag.name s hi hr hf).mono (fun _ _ h => bk_of_aapost h)) ?_
  intro _ s1 hi1 hr1
  exact bk_pure hi1 hr1 plain_done

/-! ### `<applet>`, `<marquee>`, `<object>` -/

theorem arm_applet {tag : Tag} {s : State} (hi : HInv s) (hr : Rooted s.dom s.openElems)
    (hn : NewOk ⟨nsHtml, tag.name⟩) :
    Sat (do
      reconstructActiveFormattingElements
      let _ ← insertElementFor tag
      pushMarker
      setFramesetOk false
      pure .done) s (fun r s' => PlainRes r ∧ BK s s') := by
  refine bk_step hi (bk_reconstruct hi hr) ?_
  intro _ s1 hi1 hr1
  refine bk_step hi1 (bk_insertFor hi1 hr1 hn) ?_
  intro _ s2 hi2 hr2
  refine bk_step hi2 (sat_modS (bk_withAF hi2 hr2 _ ?_)) ?_
  · intro e he
    rcases List.mem_append.mp he with h | h
    · exact Or.inl h
    · exact Or.inr (List.mem_singleton.mp h)
  · intro _ s3 hi3 hr3
    refine bk_step hi3 (bk_setFramesetOk hi3 hr3) ?_
    intro _ s4 hi4 hr4
    exact bk_pure hi4 hr4 plain_done

theorem arm_endApplet {name : Str} {s : State} (hi : HInv s) (hr : Rooted s.dom s.openElems)
    (hc : isOneOf name cursoryImpliedEndNames = false) (hname : isOneOf name ["html", "td", "th"] = false) :
    Sat (do
      if !(← inScopeNamedS defaultScope name) then
        let _ ← unexpected
      else
        generateImpliedEndTags cursoryImpliedEnd
        expectToCloseS name
        clearActiveFormattingToMarker
      pure .done) s (fun r s' => PlainRes r ∧ BK s s') := by
  refine q_step hi hr (q_inScopeNamedS hi (fun n h => popOk_of_not_default h)) ?_
  intro b s1 hP hq1 hi1 hr1
  split
  · refine bk_step hi1 (bk_unexpected hi1 hr1) ?_
    intro _ s2 hi2 hr2
    exact bk_pure hi2 hr2 plain_done
  · rename_i hb
    have hb' : b = true := by simpa using hb
    obtain ⟨pre, x, post, hsp⟩ := hP hb'
    refine split_implied_close hi1 hr1 (hsp.of_qf hi hq1) (cursory_mk_false hc) hname ?_
    intro _ s2 hi2 hr2
    refine bk_step hi2 (sat_modS (bk_withAF hi2 hr2 _ (fun e he => Or.inl (mem_clearedAF he)))) ?_
    intro _ s3 hi3 hr3
    exact bk_pure hi3 hr3 plain_done

/-! ### void elements, `<input>`, `<hr>`, `<select>`, `<option>`, ruby, foreign -/

theorem arm_void {tag : Tag} {s : State} (hi : HInv s) (hr : Rooted s.dom s.openElems)
    (hn : NewOk ⟨nsHtml, tag.name⟩) : Sat (inBodyVoid tag) s (fun r s' => PlainRes r ∧ BK s s') := by
  unfold inBodyVoid
  refine bk_step hi (bk_reconstruct hi hr) ?_
  intro _ s1 hi1 hr1
  refine bk_step hi1 (bk_insertAndPopFor hi1 hr1 hn) ?_
  intro _ s2 hi2 hr2
  refine bk_step hi2 (bk_setFramesetOk hi2 hr2) ?_
  intro _ s3 hi3 hr3
  exact bk_pure hi3 hr3 plain_ack

theorem arm_unexpectedVoid {tag : Tag} {s : State} (hi : HInv s) (hr : Rooted s.dom s.openElems)
    (hn : NewOk ⟨nsHtml, tag.name⟩) :
    Sat (do
      let _ ← unexpected
      inBodyVoid tag) s (fun r s' => PlainRes r ∧ BK s s') := by
  refine bk_step hi (bk_unexpected hi hr) ?_
  intro _ s1 hi1 hr1
  exact arm_void hi1 hr1 hn

theorem q_contextIsSelect {site : String} {s : State} (hi : HInv s) :
    Sat (contextIsSelect site) s (fun _ s' => QF s s') := by
  unfold contextIsSelect
  refine sat_isFragment.bind ?_
  rintro b s1 ⟨rfl, rfl⟩
  split
  · rename_i hb
    refine sat_getS_bind ?_
    cases hc : s1.contextElem with
    | none => rw [hc] at hb; cases hb
    | some c => exact (sat_htmlElemNamed (hi.ctx c hc)).mono (fun _ _ h => h.2)
  · exact sat_pure (QF.refl _)

/-- `unexpected; pop_until_named("select")` after the scope test -/
theorem popSelect {β : Type} {s : State} {f : Nat → M β} {R : β → Prop} {pre post : List Id} {x : Id}
    (hi : HInv s) (hr : Rooted s.dom s.openElems)
    (hsp : Split s (Named "select".toList) pre x post)
    (hf : ∀ a s2, HInv s2 → Rooted s2.dom s2.openElems → Sat (f a) s2 (fun b s3 => R b ∧ BK s2 s3)) :
    Sat (unexpected >>= fun _ => popUntilNamed "select" >>= f) s (fun b s3 => R b ∧ BK s s3) := by
  refine q_step' hi hr (sat_unexpected.mono (fun _ _ h => h.2)) ?_
  intro _ s1 hq1 hi1 hr1
  have hsp1 := hsp.of_qf hi hq1
  have hnx := named_eq hsp1.px
  exact bk_step hi1 (split_popUntil hi1 hr1 hsp1 (by rw [hnx]; exact popOk_lit (by decide))) hf

theorem arm_input {tag : Tag} {s : State} (hi : HInv s) (hr : Rooted s.dom s.openElems)
    (hn : NewOk ⟨nsHtml, tag.name⟩) :
    Sat (do
      if ← contextIsSelect "rules.rs:823" then
        let _ ← unexpected
        pure .done
      else
        if ← inScopeNamed defaultScope "select" then
          let _ ← unexpected
          let _ ← popUntilNamed "select"
        let hidden := isTypeHidden tag
        reconstructActiveFormattingElements
        let _ ← insertAndPopElementFor tag
        if !hidden then setFramesetOk false
        pure .doneAckSelfClosing) s (fun r s' => PlainRes r ∧ BK s s') := by
  have hfin : ∀ s3, HInv s3 → Rooted s3.dom s3.openElems →
      Sat (do
        reconstructActiveFormattingElements
        let _ ← insertAndPopElementFor tag
        if (!isTypeHidden tag) = true then do
          setFramesetOk false
          pure ProcessResult.doneAckSelfClosing
        else pure ProcessResult.doneAckSelfClosing) s3 (fun r s' => PlainRes r ∧ BK s3 s') := by
    intro s3 hi3 hr3
    refine bk_step hi3 (bk_reconstruct hi3 hr3) ?_
    intro _ s4 hi4 hr4
    refine bk_step hi4 (bk_insertAndPopFor hi4 hr4 hn) ?_
    intro _ s5 hi5 hr5
    split
    · refine bk_step hi5 (bk_setFramesetOk hi5 hr5) ?_
      intro _ s6 hi6 hr6
      exact bk_pure hi6 hr6 plain_ack
    · exact bk_pure hi5 hr5 plain_ack
  have hmid : ∀ s2, HInv s2 → Rooted s2.dom s2.openElems →
      Sat (do
        let __do_lift ← inScopeNamed defaultScope "select"
        if __do_lift = true then do
          let _ ← unexpected
          let _ ← popUntilNamed "select"
          reconstructActiveFormattingElements
          let _ ← insertAndPopElementFor tag
          if (!isTypeHidden tag) = true then do
            setFramesetOk false
            pure ProcessResult.doneAckSelfClosing
          else pure ProcessResult.doneAckSelfClosing
        else do
          reconstructActiveFormattingElements
          let _ ← insertAndPopElementFor tag
          if (!isTypeHidden tag) = true then do
            setFramesetOk false
            pure ProcessResult.doneAckSelfClosing
          else pure ProcessResult.doneAckSelfClosing) s2 (fun r s' => PlainRes r ∧ BK s2 s') := by
    intro s2 hi2 hr2
    refine q_step hi2 hr2 (q_inScopeNamed hi2 (fun n h => popOk_of_not_default h)) ?_
    intro b s3 hP hq3 hi3 hr3
    split
    · rename_i hb
      obtain ⟨pre, x, post, hsp⟩ := hP hb
      exact popSelect hi3 hr3 (hsp.of_qf hi2 hq3) (fun _ s4 hi4 hr4 => hfin s4 hi4 hr4)
    · exact hfin s3 hi3 hr3
  dsimp only
  refine q_step' hi hr (q_contextIsSelect hi) ?_
  intro b s1 _ hi1 hr1
  split
  · refine bk_step hi1 (bk_unexpected hi1 hr1) ?_
    intro _ s2 hi2 hr2
    exact bk_pure hi2 hr2 plain_done
  · exact hmid s1 hi1 hr1

theorem arm_param {tag : Tag} {s : State} (hi : HInv s) (hr : Rooted s.dom s.openElems)
    (hn : NewOk ⟨nsHtml, tag.name⟩) :
    Sat (do
      let _ ← insertAndPopElementFor tag
      pure .doneAckSelfClosing) s (fun r s' => PlainRes r ∧ BK s s') := by
  refine bk_step hi (bk_insertAndPopFor hi hr hn) ?_
  intro _ s2 hi2 hr2
  exact bk_pure hi2 hr2 plain_ack

theorem arm_hr {tag : Tag} {s : State} (hi : HInv s) (hr : Rooted s.dom s.openElems)
    (hn : NewOk ⟨nsHtml, tag.name⟩) :
    Sat (do
      closePElementInButtonScope
      if ← inScopeNamed defaultScope "select" then
        generateImpliedEndTags cursoryImpliedEnd
        let nested ← do
          if ← inScopeNamed defaultScope "option" then pure true
          else inScopeNamed defaultScope "optgroup"
        if nested then parseError "hr in option"
      let _ ← insertAndPopElementFor tag
      setFramesetOk false
      pure .doneAckSelfClosing) s (fun r s' => PlainRes r ∧ BK s s') := by
  have hfin : ∀ s3, HInv s3 → Rooted s3.dom s3.openElems →
      Sat (do
        let _ ← insertAndPopElementFor tag
        setFramesetOk false
        pure ProcessResult.doneAckSelfClosing) s3 (fun r s' => PlainRes r ∧ BK s3 s') := by
    intro s3 hi3 hr3
    refine bk_step hi3 (bk_insertAndPopFor hi3 hr3 hn) ?_
    intro _ s4 hi4 hr4
    refine bk_step hi4 (bk_setFramesetOk hi4 hr4) ?_
    intro _ s5 hi5 hr5
    exact bk_pure hi5 hr5 plain_ack
  have hnest : ∀ (nested : Bool) s3, HInv s3 → Rooted s3.dom s3.openElems →
      Sat (if nested = true then do
          parseError "hr in option"
          let _ ← insertAndPopElementFor tag
          setFramesetOk false
          pure ProcessResult.doneAckSelfClosing
        else do
          let _ ← insertAndPopElementFor tag
          setFramesetOk false
          pure ProcessResult.doneAckSelfClosing) s3 (fun r s' => PlainRes r ∧ BK s3 s') := by
    intro nested s3 hi3 hr3
    split
    · refine bk_step hi3 (bk_parseError hi3 hr3) ?_
      intro _ s4 hi4 hr4
      exact hfin s4 hi4 hr4
    · exact hfin s3 hi3 hr3
  refine bk_step hi (bk_closeP hi hr) ?_
  intro _ s1 hi1 hr1
  refine q_step' hi1 hr1 ((sat_inScopeNamed hi1.open_el).mono (fun _ _ h => h.2)) ?_
  intro b s2 _ hi2 hr2
  split
  · refine bk_step hi2 (bk_implied hi2 hr2 (fun n h => popOk_of_cursory h)) ?_
    intro _ s3 hi3 hr3
    refine q_step' hi3 hr3 ((sat_inScopeNamed hi3.open_el).mono (fun _ _ h => h.2)) ?_
    intro b4 s4 _ hi4 hr4
    split
    · exact hnest true s4 hi4 hr4
    · refine q_step' hi4 hr4 ((sat_inScopeNamed hi4.open_el).mono (fun _ _ h => h.2)) ?_
      intro nested s5 _ hi5 hr5
      exact hnest nested s5 hi5 hr5
  · exact hfin s2 hi2 hr2

theorem arm_insert {tag : Tag} {s : State} (hi : HInv s) (hr : Rooted s.dom s.openElems)
    (hn : NewOk ⟨nsHtml, tag.name⟩) :
    Sat (do
      let _ ← insertElementFor tag
      pure .done) s (fun r s' => PlainRes r ∧ BK s s') := by
  refine bk_step hi (bk_insertFor hi hr hn) ?_
  intro _ s2 hi2 hr2
  exact bk_pure hi2 hr2 plain_done

/-- the catch-all start tag (and the tail of several arms) -/
theorem arm_anyStart {tag : Tag} {s : State} (hi : HInv s) (hr : Rooted s.dom s.openElems)
    (hn : NewOk ⟨nsHtml, tag.name⟩) :
    Sat (do
      reconstructActiveFormattingElements
      let _ ← insertElementFor tag
      pure .done) s (fun r s' => PlainRes r ∧ BK s s') := by
  refine bk_step hi (bk_reconstruct hi hr) ?_
  intro _ s1 hi1 hr1
  exact arm_insert hi1 hr1 hn

theorem arm_select {tag : Tag} {s : State} (hi : HInv s) (hr : Rooted s.dom s.openElems)
    (hn : NewOk ⟨nsHtml, tag.name⟩) :
    Sat (do
      if ← contextIsSelect "rules.rs:903" then
        let _ ← unexpected
      else if ← inScopeNamed defaultScope "select" then
        let _ ← unexpected
        let _ ← popUntilNamed "select"
      else
        reconstructActiveFormattingElements
        let _ ← insertElementFor tag
        setFramesetOk false
      pure .done) s (fun r s' => PlainRes r ∧ BK s s') := by
  refine q_step' hi hr (q_contextIsSelect hi) ?_
  intro b s1 _ hi1 hr1
  split
  · refine bk_step hi1 (bk_unexpected hi1 hr1) ?_
    intro _ s2 hi2 hr2
    exact bk_pure hi2 hr2 plain_done
  · refine q_step hi1 hr1 (q_inScopeNamed hi1 (fun n h => popOk_of_not_default h)) ?_
    intro b2 s2 hP hq2 hi2 hr2
    split
    · rename_i hb
      obtain ⟨pre, x, post, hsp⟩ := hP hb
      exact popSelect hi2 hr2 (hsp.of_qf hi1 hq2) (fun _ s3 hi3 hr3 => bk_pure hi3 hr3 plain_done)
    · refine bk_step hi2 (bk_reconstruct hi2 hr2) ?_
      intro _ s3 hi3 hr3
      refine bk_step hi3 (bk_insertFor hi3 hr3 hn) ?_
      intro _ s4 hi4 hr4
      refine bk_step hi4 (bk_setFramesetOk hi4 hr4) ?_
      intro _ s5 hi5 hr5
      exact bk_pure hi5 hr5 plain_done

theorem option_popOk {n : EName} (h : Named "option".toList n = true) : popOk n = true := by
  rw [named_eq h]; exact popOk_lit (by decide)

/-- `if current_node_named("option") { pop() }`, then the catch-all tail -/
theorem popOptionTail {tag : Tag} {s : State} (hi : HInv s) (hr : Rooted s.dom s.openElems)
    (hn : NewOk ⟨nsHtml, tag.name⟩) :
    Sat (do
      let __do_lift ← currentNodeNamed "option"
      if __do_lift = true then do
        let _ ← pop
        reconstructActiveFormattingElements
        let _ ← insertElementFor tag
        pure ProcessResult.done
      else do
        reconstructActiveFormattingElements
        let _ ← insertElementFor tag
        pure ProcessResult.done) s (fun r s' => PlainRes r ∧ BK s s') := by
  refine q_step hi hr (q_currentNodeNamed hi hr) ?_
  intro b s1 hP hq1 hi1 hr1
  split
  · rename_i hb
    refine bk_step hi1 (bk_pop_top hi1 hr1 ((hP hb).of_qf hi hq1) (fun n h => option_popOk h)) ?_
    intro _ s2 hi2 hr2
    exact arm_anyStart hi2 hr2 hn
  · exact arm_anyStart hi1 hr1 hn

theorem arm_option {tag : Tag} {s : State} (hi : HInv s) (hr : Rooted s.dom s.openElems)
    (hn : NewOk ⟨nsHtml, tag.name⟩) :
    Sat (do
      if ← inScopeNamed defaultScope "select" then
        generateImpliedEndExcept "optgroup".toList
        if ← inScopeNamed defaultScope "option" then parseError "nested options"
      else if ← currentNodeNamed "option" then
        let _ ← pop
      reconstructActiveFormattingElements
      let _ ← insertElementFor tag
      pure .done) s (fun r s' => PlainRes r ∧ BK s s') := by
  refine q_step' hi hr ((sat_inScopeNamed hi.open_el).mono (fun _ _ h => h.2)) ?_
  intro b s1 _ hi1 hr1
  split
  · unfold generateImpliedEndExcept
    refine bk_step hi1 (bk_implied hi1 hr1 (fun n h => popOk_of_impliedExcept h)) ?_
    intro _ s2 hi2 hr2
    refine q_step' hi2 hr2 ((sat_inScopeNamed hi2.open_el).mono (fun _ _ h => h.2)) ?_
    intro b3 s3 _ hi3 hr3
    split
    · refine bk_step hi3 (bk_parseError hi3 hr3) ?_
      intro _ s4 hi4 hr4
      exact arm_anyStart hi4 hr4 hn
    · exact arm_anyStart hi3 hr3 hn
  · exact popOptionTail hi1 hr1 hn

theorem arm_optgroup {tag : Tag} {s : State} (hi : HInv s) (hr : Rooted s.dom s.openElems)
    (hn : NewOk ⟨nsHtml, tag.name⟩) :
    Sat (do
      if ← inScopeNamed defaultScope "select" then
        generateImpliedEndTags cursoryImpliedEnd
        let nested ← do
          if ← inScopeNamed defaultScope "option" then pure true
          else inScopeNamed defaultScope "optgroup"
        if nested then parseError "nested options"
      else if ← currentNodeNamed "option" then
        let _ ← pop
      reconstructActiveFormattingElements
      let _ ← insertElementFor tag
      pure .done) s (fun r s' => PlainRes r ∧ BK s s') := by
  have hnest : ∀ (nested : Bool) s3, HInv s3 → Rooted s3.dom s3.openElems →
      Sat (if nested = true then do
          parseError "nested options"
          reconstructActiveFormattingElements
          let _ ← insertElementFor tag
          pure ProcessResult.done
        else do
          reconstructActiveFormattingElements
          let _ ← insertElementFor tag
          pure ProcessResult.done) s3 (fun r s' => PlainRes r ∧ BK s3 s') := by
    intro nested s3 hi3 hr3
    split
    · refine bk_step hi3 (bk_parseError hi3 hr3) ?_
      intro _ s4 hi4 hr4
      exact arm_anyStart hi4 hr4 hn
    · exact arm_anyStart hi3 hr3 hn
  refine q_step' hi hr ((sat_inScopeNamed hi.open_el).mono (fun _ _ h => h.2)) ?_
  intro b s1 _ hi1 hr1
  split
  · refine bk_step hi1 (bk_implied hi1 hr1 (fun n h => popOk_of_cursory h)) ?_
    intro _ s2 hi2 hr2
    refine q_step' hi2 hr2 ((sat_inScopeNamed hi2.open_el).mono (fun _ _ h => h.2)) ?_
    intro b3 s3 _ hi3 hr3
    split
    · exact hnest true s3 hi3 hr3
    · refine q_step' hi3 hr3 ((sat_inScopeNamed hi3.open_el).mono (fun _ _ h => h.2)) ?_
      intro nested s4 _ hi4 hr4
      exact hnest nested s4 hi4 hr4
  · exact popOptionTail hi1 hr1 hn

theorem arm_rb {tag : Tag} {s : State} (hi : HInv s) (hr : Rooted s.dom s.openElems)
    (hn : NewOk ⟨nsHtml, tag.name⟩) :
    Sat (do
      if ← inScopeNamed defaultScope "ruby" then generateImpliedEndTags cursoryImpliedEnd
      if !(← currentNodeNamed "ruby") then
        let _ ← unexpected
      let _ ← insertElementFor tag
      pure .done) s (fun r s' => PlainRes r ∧ BK s s') := by
  have hmid : ∀ s2, HInv s2 → Rooted s2.dom s2.openElems →
      Sat (do
        let __do_lift ← currentNodeNamed "ruby"
        if (!__do_lift) = true then do
          let _ ← unexpected
          let _ ← insertElementFor tag
          pure ProcessResult.done
        else do
          let _ ← insertElementFor tag
          pure ProcessResult.done) s2 (fun r s' => PlainRes r ∧ BK s2 s') := by
    intro s2 hi2 hr2
    refine q_step' hi2 hr2 ((q_currentNodeNamed hi2 hr2).mono (fun _ _ h => h.2)) ?_
    intro b s3 _ hi3 hr3
    split
    · refine bk_step hi3 (bk_unexpected hi3 hr3) ?_
      intro _ s4 hi4 hr4
      exact arm_insert hi4 hr4 hn
    · exact arm_insert hi3 hr3 hn
  refine q_step' hi hr ((sat_inScopeNamed hi.open_el).mono (fun _ _ h => h.2)) ?_
  intro b s1 _ hi1 hr1
  split
  · refine bk_step hi1 (bk_implied hi1 hr1 (fun n h => popOk_of_cursory h)) ?_
    intro _ s2 hi2 hr2
    exact hmid s2 hi2 hr2
  · exact hmid s1 hi1 hr1

theorem arm_rp {tag : Tag} {s : State} (hi : HInv s) (hr : Rooted s.dom s.openElems)
    (hn : NewOk ⟨nsHtml, tag.name⟩) :
    Sat (do
      if ← inScopeNamed defaultScope "ruby" then generateImpliedEndExcept "rtc".toList
      let ok ← do
        if ← currentNodeNamed "rtc" then pure true else currentNodeNamed "ruby"
      if !ok then
        let _ ← unexpected
      let _ ← insertElementFor tag
      pure .done) s (fun r s' => PlainRes r ∧ BK s s') := by
  have hok : ∀ (ok : Bool) s3, HInv s3 → Rooted s3.dom s3.openElems →
      Sat (if (!ok) = true then do
          let _ ← unexpected
          let _ ← insertElementFor tag
          pure ProcessResult.done
        else do
          let _ ← insertElementFor tag
          pure ProcessResult.done) s3 (fun r s' => PlainRes r ∧ BK s3 s') := by
    intro ok s3 hi3 hr3
    split
    · refine bk_step hi3 (bk_unexpected hi3 hr3) ?_
      intro _ s4 hi4 hr4
      exact arm_insert hi4 hr4 hn
    · exact arm_insert hi3 hr3 hn
  have hmid : ∀ s2, HInv s2 → Rooted s2.dom s2.openElems →
      Sat (do
        let __do_lift ← currentNodeNamed "rtc"
        if __do_lift = true then do
          let ok ← pure true
          if (!ok) = true then do
            let _ ← unexpected
            let _ ← insertElementFor tag
            pure ProcessResult.done
          else do
            let _ ← insertElementFor tag
            pure ProcessResult.done
        else do
          let ok ← currentNodeNamed "ruby"
          if (!ok) = true then do
            let _ ← unexpected
            let _ ← insertElementFor tag
            pure ProcessResult.done
          else do
            let _ ← insertElementFor tag
            pure ProcessResult.done) s2 (fun r s' => PlainRes r ∧ BK s2 s') := by
    intro s2 hi2 hr2
    refine q_step' hi2 hr2 ((q_currentNodeNamed hi2 hr2).mono (fun _ _ h => h.2)) ?_
    intro b s3 _ hi3 hr3
    split
    · exact hok true s3 hi3 hr3
    · refine q_step' hi3 hr3 ((q_currentNodeNamed hi3 hr3).mono (fun _ _ h => h.2)) ?_
      intro ok s4 _ hi4 hr4
      exact hok ok s4 hi4 hr4
  refine q_step' hi hr ((sat_inScopeNamed hi.open_el).mono (fun _ _ h => h.2)) ?_
  intro b s1 _ hi1 hr1
  split
  · unfold generateImpliedEndExcept
    refine bk_step hi1 (bk_implied hi1 hr1 (fun n h => popOk_of_impliedExcept h)) ?_
    intro _ s2 hi2 hr2
    exact hmid s2 hi2 hr2
  · exact hmid s1 hi1 hr1

theorem bk_enterForeign {tag : Tag} {ns : Str} {s : State} (hi : HInv s) (hr : Rooted s.dom s.openElems)
    (hns : ns ≠ nsHtml) : Sat (enterForeign tag ns) s (fun r s' => PlainRes r ∧ BK s s') := by
  have h : ∀ t : Tag, Sat (if t.selfClosing = true then do
        let _ ← insertElement false ns t.name t.attrs t.hadDup
        pure ProcessResult.doneAckSelfClosing
      else do
        let _ ← insertElement true ns t.name t.attrs t.hadDup
        pure ProcessResult.done) s (fun r s' => PlainRes r ∧ BK s s') := by
    intro t
    split
    · refine bk_step hi ((sat_insertElement (PlaceOk.of_hinv hi hr)).mono
        (fun _ _ h => BK.of_inserted hi hr h (newOk_foreign hns))) ?_
      intro _ s2 hi2 hr2
      exact bk_pure hi2 hr2 plain_ack
    · refine bk_step hi ((sat_insertElement (PlaceOk.of_hinv hi hr)).mono
        (fun _ _ h => BK.of_inserted hi hr h (newOk_foreign hns))) ?_
      intro _ s2 hi2 hr2
      exact bk_pure hi2 hr2 plain_done
  unfold enterForeign
  exact h _

theorem arm_foreign {tag : Tag} {ns : Str} {s : State} (hi : HInv s) (hr : Rooted s.dom s.openElems)
    (hns : ns ≠ nsHtml) :
    Sat (do
      reconstructActiveFormattingElements
      enterForeign tag ns) s (fun r s' => PlainRes r ∧ BK s s') := by
  refine bk_step hi (bk_reconstruct hi hr) ?_
  intro _ s1 hi1 hr1
  exact bk_enterForeign hi1 hr1 hns

theorem arm_unexpected {s : State} (hi : HInv s) (hr : Rooted s.dom s.openElems) :
    Sat (do
      let _ ← unexpected
      pure .done) s (fun r s' => PlainRes r ∧ BK s s') := by
  refine bk_step hi (bk_unexpected hi hr) ?_
  intro _ s1 hi1 hr1
  exact bk_pure hi1 hr1 plain_done

end H5V.Lemmas.TBSafe.IB
