import H5V.Props.C06
/-!
C06 (skeleton invariant): the monad of the tree-builder model, and what every mutating sink
call does to the observations the skeleton clauses speak about (`childrenOf`, `dataOf` — parent
pointers are *not* used, so no well-formedness / contract hypothesis is needed).

* `bind_ok`, `pure_ok`, `sink_ok`, … — inversion lemmas for `M = StateT State (Except String)`;
* `DStep` / `Chg` — how the data of an existing node may change (attributes added, text grown);
* `DomBase` — the arena-level invariant behind clauses T3/T4 of C06: node 0 is the document,
  template contents are `Document` nodes other than node 0, only containers have children, no
  `Document`-kind node is a child, no text node is empty;
* one lemma per mutating `Dom` operation: `DomBase` is kept, `Chg` holds, and the exact effect on
  the child lists.
-/
namespace H5V.Props.C06
open H5V.Model.Dom hiding Str
open H5V.Model.HtmlTB hiding Str
open H5V.Lemmas.Dom

/-! ## the monad -/

theorem bind_ok {α β : Type} {m : M α} {f : α → M β} {s s'' : State} {b : β} :
    (m >>= f) s = .ok (b, s'') ↔ ∃ a s', m s = .ok (a, s') ∧ f a s' = .ok (b, s'') := by
  show (StateT.bind m f) s = _ ↔ _
  unfold StateT.bind
  show (Except.bind (m s) _) = _ ↔ _
  cases h : m s with
  | error e => simp [Except.bind]
  | ok p =>
    obtain ⟨a, s'⟩ := p
    simp only [Except.bind, Except.ok.injEq, Prod.mk.injEq]
    constructor
    · intro h; exact ⟨a, s', ⟨rfl, rfl⟩, h⟩
    · rintro ⟨a', s1, ⟨rfl, rfl⟩, h⟩; exact h

theorem pure_ok {α : Type} {a b : α} {s s' : State} : (pure a : M α) s = .ok (b, s') ↔ a = b ∧ s = s' := by
  show (Except.ok (a, s) : Except String _) = _ ↔ _
  simp

theorem getS_ok {s s' a : State} : getS s = .ok (a, s') ↔ a = s ∧ s' = s := by
  show (Except.ok (s, s) : Except String _) = _ ↔ _
  simp only [Except.ok.injEq, Prod.mk.injEq]
  constructor <;> (rintro ⟨rfl, rfl⟩; exact ⟨rfl, rfl⟩)

theorem modS_ok {f : State → State} {s s' : State} {u : Unit} : modS f s = .ok (u, s') ↔ s' = f s := by
  show (Except.ok ((), f s) : Except String _) = _ ↔ _
  simp only [Except.ok.injEq, Prod.mk.injEq, true_and]
  exact eq_comm

theorem set_ok {x s s' : State} {u : Unit} : (set x : M Unit) s = .ok (u, s') ↔ s' = x := by
  show (Except.ok ((), x) : Except String _) = _ ↔ _
  simp only [Except.ok.injEq, Prod.mk.injEq, true_and]
  exact eq_comm

theorem throw_ok {α : Type} {e : String} {s s' : State} {a : α} : ¬ (throw e : M α) s = .ok (a, s') := by
  show ¬ (Except.error e : Except String _) = _
  simp

theorem panicAt_ok {α : Type} {c f t : String} {s s' : State} {a : α} : ¬ (panicAt c f t : M α) s = .ok (a, s') :=
  throw_ok

theorem fuelOut_ok {α : Type} {w : String} {s s' : State} {a : α} : ¬ (fuelOut w : M α) s = .ok (a, s') :=
  throw_ok

theorem sink_ok {op : SinkOp} {s s' : State} {out : Output} :
    sink op s = .ok (out, s') ↔
      ∃ d, s.dom.apply op = .ok (d, out) ∧ s' = { s with dom := d, traceRev := (op, out) :: s.traceRev } := by
  unfold sink
  cases h : s.dom.apply op with
  | error e => simp
  | ok p =>
    obtain ⟨d, o⟩ := p
    simp only [Except.ok.injEq, Prod.mk.injEq]
    constructor
    · rintro ⟨rfl, rfl⟩; exact ⟨d, ⟨rfl, rfl⟩, rfl⟩
    · rintro ⟨d', ⟨rfl, rfl⟩, rfl⟩; exact ⟨rfl, rfl⟩

theorem sinkUnit_ok {op : SinkOp} {s s' : State} {u : Unit} :
    sinkUnit op s = .ok (u, s') ↔ ∃ out, sink op s = .ok (out, s') := by
  unfold sinkUnit
  rw [bind_ok]
  constructor
  · rintro ⟨a, s1, h1, h2⟩; rw [pure_ok] at h2; obtain ⟨_, rfl⟩ := h2; exact ⟨a, h1⟩
  · rintro ⟨out, h⟩; exact ⟨out, s', h, pure_ok.mpr ⟨rfl, rfl⟩⟩

theorem sinkNode_ok {op : SinkOp} {s s' : State} {i : Id} :
    sinkNode op s = .ok (i, s') ↔ sink op s = .ok (.node i, s') := by
  unfold sinkNode
  rw [bind_ok]
  constructor
  · rintro ⟨a, s1, h1, h2⟩
    cases a with
    | node j => rw [pure_ok] at h2; obtain ⟨rfl, rfl⟩ := h2; exact h1
    | unit => exact absurd h2 throw_ok
    | bool b => exact absurd h2 throw_ok
    | name a b => exact absurd h2 throw_ok
  · intro h; exact ⟨_, _, h, pure_ok.mpr ⟨rfl, rfl⟩⟩

theorem sinkBool_ok {op : SinkOp} {s s' : State} {b : Bool} :
    sinkBool op s = .ok (b, s') ↔ sink op s = .ok (.bool b, s') := by
  unfold sinkBool
  rw [bind_ok]
  constructor
  · rintro ⟨a, s1, h1, h2⟩
    cases a with
    | bool j => rw [pure_ok] at h2; obtain ⟨rfl, rfl⟩ := h2; exact h1
    | unit => exact absurd h2 throw_ok
    | node b => exact absurd h2 throw_ok
    | name a b => exact absurd h2 throw_ok
  · intro h; exact ⟨_, _, h, pure_ok.mpr ⟨rfl, rfl⟩⟩

theorem elemName_ok {h : Id} {s s' : State} {n : EName} :
    elemName h s = .ok (n, s') ↔ sink (.elemName h) s = .ok (.name n.ns n.loc, s') := by
  unfold elemName
  rw [bind_ok]
  constructor
  · rintro ⟨a, s1, h1, h2⟩
    cases a with
    | name a b => rw [pure_ok] at h2; obtain ⟨rfl, rfl⟩ := h2; exact h1
    | unit => exact absurd h2 throw_ok
    | node b => exact absurd h2 throw_ok
    | bool b => exact absurd h2 throw_ok
  · intro h; exact ⟨_, _, h, pure_ok.mpr ⟨rfl, rfl⟩⟩

/-! ## how node data may change -/

/-- the part of a node's data no sink call ever changes: kind, element name, template contents,
integration-point flag (attributes and text contents are erased) -/
def skelT : NodeData → NodeData
  | .element n _ tc ip => .element n [] tc ip
  | .text _ => .text []
  | o => o

/-- one step of change of a node's data: nothing, more attributes, more text -/
inductive DStep : Option NodeData → Option NodeData → Prop
  | same (v : Option NodeData) : DStep v v
  | attrs (n : QualName) (a a' : List Attr) (tc : Option Id) (ip : Bool) :
      DStep (some (.element n a tc ip)) (some (.element n a' tc ip))
  | text (t t' : Str) : DStep (some (.text t)) (some (.text (t ++ t')))

theorem DStep.skel {v v' : Option NodeData} (h : DStep v v') : v'.map skelT = v.map skelT := by
  cases h <;> rfl

theorem DStep.trans {a b c : Option NodeData} (h1 : DStep a b) (h2 : DStep b c) : DStep a c := by
  cases h1 with
  | same => exact h2
  | attrs n x y tc ip =>
    generalize hb : some (NodeData.element n y tc ip) = b' at h2
    cases h2 with
    | same => subst hb; exact .attrs ..
    | attrs n2 x2 y2 tc2 ip2 => cases hb; exact .attrs ..
    | text t t' => cases hb
  | text t t' =>
    generalize hb : some (NodeData.text (t ++ t')) = b' at h2
    cases h2 with
    | same => subst hb; exact .text ..
    | attrs n2 x2 y2 tc2 ip2 => cases hb
    | text t2 t2' => cases hb; rw [List.append_assoc]; exact .text ..

/-- the arena grows and the data of existing nodes changes by `DStep`s only -/
structure Chg (d d' : Dom) : Prop where
  size : d.size ≤ d'.size
  data : ∀ x, x < d.size → DStep (d.dataOf x) (d'.dataOf x)

theorem Chg.refl (d : Dom) : Chg d d := ⟨Nat.le_refl _, fun _ _ => .same _⟩

theorem Chg.trans {a b c : Dom} (h1 : Chg a b) (h2 : Chg b c) : Chg a c :=
  ⟨Nat.le_trans h1.size h2.size, fun x hx => (h1.data x hx).trans (h2.data x (Nat.lt_of_lt_of_le hx h1.size))⟩

theorem Chg.of_data_eq {d d' : Dom} (hs : d.size ≤ d'.size) (h : ∀ x, x < d.size → d'.dataOf x = d.dataOf x) :
    Chg d d' := ⟨hs, fun x hx => by rw [h x hx]; exact .same _⟩

/-- the data of the one node `i` changes by a step -/
theorem Chg.of_one {d d' : Dom} {i : Id} {v : Option NodeData} (hs : d'.size = d.size)
    (hd : ∀ x, d'.dataOf x = if x = i then v else d.dataOf x) (hv : DStep (d.dataOf i) v) : Chg d d' :=
  ⟨Nat.le_of_eq hs.symm, fun x _ => by
    rw [hd]
    by_cases hx : x = i
    · subst hx; simp only [if_true]; exact hv
    · simp only [hx, if_false]; exact .same _⟩

theorem lt_of_data {d : Dom} {x : Id} {v : NodeData} (h : d.dataOf x = some v) : x < d.size :=
  lt_of_dataOf_some h

theorem dataOf_none_of_ge {d : Dom} {x : Id} (h : d.size ≤ x) : d.dataOf x = none := by
  cases hd : d.dataOf x with
  | none => rfl
  | some v => exact absurd (lt_of_data hd) (Nat.not_lt.mpr h)

theorem Chg.isElement {d d' : Dom} (h : Chg d d') {x : Id} (hx : d.isElement x = true) : d'.isElement x = true := by
  have hlt : x < d.size := lt_of_isElement hx
  have := (h.data x hlt).skel
  unfold Dom.isElement at hx ⊢
  cases h1 : d.dataOf x with
  | none => simp [h1] at hx
  | some v =>
    cases h2 : d'.dataOf x with
    | none => simp [h1, h2] at this
    | some v' =>
      simp only [h1, h2, Option.map_some, Option.some.injEq] at this
      cases v <;> simp [h1] at hx
      cases v' <;> simp [skelT] at this
      rfl

theorem Chg.isContainer {d d' : Dom} (h : Chg d d') {x : Id} (hx : d.isContainer x = true) :
    d'.isContainer x = true := by
  have hlt : x < d.size := lt_of_isContainer hx
  have := (h.data x hlt).skel
  unfold Dom.isContainer at hx ⊢
  cases h1 : d.dataOf x with
  | none => simp [h1] at hx
  | some v =>
    cases h2 : d'.dataOf x with
    | none => simp [h1, h2] at this
    | some v' =>
      simp only [h1, h2, Option.map_some, Option.some.injEq] at this
      cases v <;> simp [h1] at hx <;> cases v' <;> simp [skelT] at this <;> rfl

theorem Chg.docKid_eq {d d' : Dom} (h : Chg d d') {x : Id} (hx : x < d.size) : docKid d' x = docKid d x := by
  have := (h.data x hx).skel
  unfold docKid
  cases h1 : d.dataOf x with
  | none =>
    obtain ⟨n, hn⟩ := node?_of_lt hx
    rw [dataOf_of_node hn] at h1; cases h1
  | some v =>
    cases h2 : d'.dataOf x with
    | none => simp [h1, h2] at this
    | some v' =>
      simp only [h1, h2, Option.map_some, Option.some.injEq] at this
      cases v <;> cases v' <;> simp [skelT] at this <;> try rfl
      obtain ⟨rfl, _, _⟩ := this
      rfl

theorem Chg.templateContentsOf {d d' : Dom} (h : Chg d d') {x : Id} (hx : x < d.size) :
    d'.templateContentsOf x = d.templateContentsOf x := by
  have := (h.data x hx).skel
  unfold Dom.templateContentsOf
  cases h1 : d.dataOf x <;> cases h2 : d'.dataOf x <;> simp [h1, h2] at this ⊢
  rename_i v v'
  cases v <;> cases v' <;> simp [skelT] at this <;> try rfl
  simp [this.2.1]

theorem Chg.elemName {d d' : Dom} (h : Chg d d') {x : Id} {r : Str × Str} (hx : d.elemName x = .ok r) :
    d'.elemName x = .ok r := by
  unfold Dom.elemName at hx ⊢
  simp only [bind, Except.bind] at hx ⊢
  cases hg : d.get x with
  | error e => simp [hg] at hx
  | ok n =>
    have hn := get_ok.mp hg
    have hlt := node?_lt hn
    have hs := (h.data x hlt).skel
    rw [dataOf_of_node hn] at hs
    obtain ⟨n', hn'⟩ := node?_of_lt (Nat.lt_of_lt_of_le hlt h.size)
    rw [dataOf_of_node hn'] at hs
    simp only [hg, get_ok_of hn'] at hx ⊢
    simp only [Option.map_some, Option.some.injEq] at hs
    cases hd : n.data <;> simp [hd] at hx
    cases hd' : n'.data <;> simp [hd, hd', skelT] at hs
    simp [hx, hs.1]

/-! ## the arena-level invariant -/

/-- node 0 is the document; children are nodes of the arena and never `Document`-kind nodes; template
contents are `Document` nodes other than node 0; only documents and elements have children; no text
node is empty -/
structure DomBase (d : Dom) : Prop where
  doc0 : d.dataOf 0 = some .document
  kidsValid : ∀ p c, c ∈ d.childrenOf p → c < d.size
  kidNotDoc : ∀ p c, c ∈ d.childrenOf p → d.dataOf c ≠ some .document
  tcOk : ∀ x tc, d.templateContentsOf x = some tc → tc ≠ 0 ∧ d.dataOf tc = some .document
  cont : ∀ x, d.childrenOf x ≠ [] → d.isContainer x = true
  textNe : ∀ x t, d.dataOf x = some (.text t) → t ≠ []

theorem DomBase.size_pos {d : Dom} (h : DomBase d) : 0 < d.size := lt_of_data h.doc0

theorem DomBase.kidsLt {d : Dom} (h : DomBase d) : ∀ c ∈ d.childrenOf 0, c < d.size := h.kidsValid 0

theorem DomBase.new : DomBase Dom.new := by
  have hc : ∀ x, Dom.new.childrenOf x = [] := by
    intro x
    cases x with
    | zero => rfl
    | succ n => exact childrenOf_nil_of_ge (by simp [Dom.new, Dom.size])
  have hd : ∀ x v, Dom.new.dataOf x = some v → v = .document := by
    intro x v h
    cases x with
    | zero => simp [Dom.new, Dom.dataOf] at h; exact h.symm
    | succ n => rw [dataOf_none_of_ge (by simp [Dom.new, Dom.size])] at h; cases h
  refine ⟨rfl, ?_, ?_, ?_, ?_, ?_⟩
  · intro p c h; rw [hc] at h; cases h
  · intro p c h; rw [hc] at h; cases h
  · intro x tc h
    unfold Dom.templateContentsOf at h
    cases hx : Dom.new.dataOf x with
    | none => simp [hx] at h
    | some v => have := hd x v hx; subst this; simp [hx] at h
  · intro x h; exact absurd (hc x) h
  · intro x t h; have := hd x _ h; cases this

/-- what a freshly allocated node must satisfy -/
def NewOk (d : Dom) (x : Id) : Prop :=
  (∀ t, d.dataOf x = some (.text t) → t ≠ []) ∧
  (∀ tc, d.templateContentsOf x = some tc → tc ≠ 0 ∧ d.dataOf tc = some .document)

/-- the generic preservation lemma -/
theorem DomBase.step {d d' : Dom} (hb : DomBase d) (hc : Chg d d')
    (hnew : ∀ x, d.size ≤ x → x < d'.size → NewOk d' x)
    (hkids : ∀ x, d'.childrenOf x ≠ [] → d.childrenOf x ≠ [] ∨ d'.isContainer x = true)
    (hkv : ∀ p c, c ∈ d'.childrenOf p → c < d'.size)
    (hknd : ∀ p c, c ∈ d'.childrenOf p → (∃ q, c ∈ d.childrenOf q) ∨ d'.dataOf c ≠ some .document) :
    DomBase d' := by
  have h0 := hc.data 0 hb.size_pos
  refine ⟨?_, hkv, ?_, ?_, ?_, ?_⟩
  rotate_left
  · intro p c hcm
    rcases hknd p c hcm with ⟨q, hq⟩ | h
    · have hlt := hb.kidsValid q c hq
      have hnd := hb.kidNotDoc q c hq
      have := hc.data c hlt
      intro hdoc
      rw [hdoc] at this
      generalize hv : d.dataOf c = v at this
      cases this
      exact hnd hv
    · exact h
  rotate_right
  · rw [hb.doc0] at h0
    generalize hv : d'.dataOf 0 = v at h0
    cases h0; rfl
  · intro x tc htc
    by_cases hx : x < d.size
    · rw [hc.templateContentsOf hx] at htc
      obtain ⟨h1, h2⟩ := hb.tcOk x tc htc
      refine ⟨h1, ?_⟩
      have := hc.data tc (lt_of_data h2)
      rw [h2] at this
      generalize hv : d'.dataOf tc = v at this
      cases this; rfl
    · have hx' : x < d'.size := by
        unfold Dom.templateContentsOf at htc
        cases hdx : d'.dataOf x with
        | none => simp [hdx] at htc
        | some v => exact lt_of_data hdx
      exact (hnew x (Nat.le_of_not_lt hx) hx').2 tc htc
  · intro x hx
    rcases hkids x hx with h | h
    · exact hc.isContainer (hb.cont x h)
    · exact h
  · intro x t ht
    by_cases hx : x < d.size
    · have := hc.data x hx
      rw [ht] at this
      generalize hv : d.dataOf x = v at this
      cases this with
      | same => exact hb.textNe x t hv
      | text t0 t' =>
        intro h
        have := hb.textNe x t0 hv
        simp at h
        exact this h.1
    · exact (hnew x (Nat.le_of_not_lt hx) (lt_of_data ht)).1 t ht


/-- preservation when no child list changes -/
theorem DomBase.step_same {d d' : Dom} (hb : DomBase d) (hc : Chg d d')
    (hnew : ∀ x, d.size ≤ x → x < d'.size → NewOk d' x)
    (hk : ∀ x, d'.childrenOf x = d.childrenOf x) : DomBase d' := by
  refine hb.step hc hnew ?_ ?_ ?_
  · intro x hx; rw [hk] at hx; exact Or.inl hx
  · intro p c hcm; rw [hk] at hcm; exact Nat.lt_of_lt_of_le (hb.kidsValid p c hcm) hc.size
  · intro p c hcm; rw [hk] at hcm; exact Or.inl ⟨p, hcm⟩

/-- preservation when the child list of one container `P` becomes `L` -/
theorem DomBase.step_one {d d' : Dom} (hb : DomBase d) (hc : Chg d d')
    (hnew : ∀ x, d.size ≤ x → x < d'.size → NewOk d' x) {P : Id} {L : List Id}
    (hk : ∀ x, d'.childrenOf x = if x = P then L else d.childrenOf x) (hP : d'.isContainer P = true)
    (hL : ∀ c ∈ L, c < d'.size ∧ ((∃ q, c ∈ d.childrenOf q) ∨ d'.dataOf c ≠ some .document)) : DomBase d' := by
  refine hb.step hc hnew ?_ ?_ ?_
  · intro x hx
    by_cases hxp : x = P
    · subst hxp; exact Or.inr hP
    · rw [hk] at hx; simp only [hxp, if_false] at hx; exact Or.inl hx
  · intro p c hcm
    rw [hk] at hcm
    by_cases hxp : p = P
    · simp only [hxp, if_true] at hcm; exact (hL c hcm).1
    · simp only [hxp, if_false] at hcm; exact Nat.lt_of_lt_of_le (hb.kidsValid p c hcm) hc.size
  · intro p c hcm
    rw [hk] at hcm
    by_cases hxp : p = P
    · simp only [hxp, if_true] at hcm; exact (hL c hcm).2
    · simp only [hxp, if_false] at hcm; exact Or.inl ⟨p, hcm⟩

theorem no_new_nodes {d d' : Dom} (hs : d'.size = d.size) : ∀ x, d.size ≤ x → x < d'.size → NewOk d' x := by
  intro x h1 h2; rw [hs] at h2; exact absurd h2 (Nat.not_lt.mpr h1)

/-- preservation when one new node `d.size`, neither a `Document` nor a template element nor empty
text, is put into the child list of the container `P` -/
theorem DomBase.step_fresh {d d' : Dom} (hb : DomBase d) {P : Id} {L : List Id} {v : NodeData}
    (hs : d'.size = d.size + 1) (hd : ∀ x, d'.dataOf x = if x = d.size then some v else d.dataOf x)
    (hk : ∀ x, d'.childrenOf x = if x = P then L else d.childrenOf x) (hP : d.isContainer P = true)
    (hL : ∀ c ∈ L, c = d.size ∨ c ∈ d.childrenOf P) (hdoc : v ≠ .document) (htx : ∀ t, v = .text t → t ≠ [])
    (htc : ∀ n a tc ip, v ≠ .element n a (some tc) ip) : DomBase d' ∧ Chg d d' := by
  have hchg : Chg d d' := Chg.of_data_eq (by omega) (fun x hx => by rw [hd]; simp [Nat.ne_of_lt hx])
  refine ⟨hb.step_one hchg ?_ hk (hchg.isContainer hP) ?_, hchg⟩
  · intro x h1 h2
    have hx : x = d.size := by omega
    subst hx
    refine ⟨?_, ?_⟩
    · intro t ht; rw [hd] at ht; simp only [if_true, Option.some.injEq] at ht; exact htx t ht
    · intro tc h; unfold Dom.templateContentsOf at h; rw [hd] at h
      simp only [if_true] at h
      cases v <;> simp at h
      rename_i n a tco ip
      subst h
      exact absurd rfl (htc n a tc ip)
  · intro k hkm
    rcases hL k hkm with rfl | hkm
    · exact ⟨by rw [hs]; exact Nat.lt_succ_self _, Or.inr (by rw [hd]; simpa using hdoc)⟩
    · exact ⟨by rw [hs]; exact Nat.lt_succ_of_lt (hb.kidsValid P k hkm), Or.inl ⟨P, hkm⟩⟩

/-! ## allocation -/

theorem size_alloc (d : Dom) (v : NodeData) : (d.alloc v).1.size = d.size + 1 := by
  simp [Dom.alloc, Dom.size]

theorem chg_alloc (d : Dom) (v : NodeData) : Chg d (d.alloc v).1 :=
  Chg.of_data_eq (by rw [size_alloc]; exact Nat.le_succ _)
    (fun x hx => by rw [dataOf_alloc]; simp [Nat.ne_of_lt hx])

theorem DomBase.alloc {d : Dom} (hb : DomBase d) (v : NodeData)
    (hv : (∀ t, v = .text t → t ≠ []) ∧
      (∀ n a tc ip, v = .element n a (some tc) ip → tc ≠ 0 ∧ d.dataOf tc = some .document)) :
    DomBase (d.alloc v).1 := by
  refine hb.step_same (chg_alloc d v) ?_ (fun x => childrenOf_alloc d v x)
  intro x h1 h2
  rw [size_alloc] at h2
  have hx : x = d.size := by omega
  subst hx
  refine ⟨?_, ?_⟩
  · intro t ht; rw [dataOf_alloc] at ht; simp at ht; exact hv.1 t ht
  · intro tc htc
    unfold Dom.templateContentsOf at htc
    rw [dataOf_alloc] at htc
    simp only [if_true] at htc
    cases v with
    | element n a tc' ip =>
      simp at htc
      subst htc
      obtain ⟨h1, h2⟩ := hv.2 n a tc ip rfl
      refine ⟨h1, ?_⟩
      rw [dataOf_alloc]; simp [Nat.ne_of_lt (lt_of_data h2), h2]
    | _ => simp at htc

/-- `create_element`: a fresh element (for a template: preceded by its fresh contents node) -/
theorem createElement_spec {d : Dom} (hb : DomBase d) (name : QualName) (attrs : List Attr) (flags : ElementFlags) :
    let r := d.createElement name attrs flags
    DomBase r.1 ∧ Chg d r.1 ∧ (∀ x, r.1.childrenOf x = d.childrenOf x) ∧ d.size ≤ r.2 ∧ r.2 < r.1.size ∧
      (∃ tc, r.1.dataOf r.2 = some (.element name attrs tc flags.mathmlIP)) := by
  unfold Dom.createElement
  by_cases hf : flags.template = true
  · simp only [hf, if_true]
    have hb1 : DomBase (d.alloc .document).1 := hb.alloc _ ⟨(by intro t h; cases h), (by intro n a tc ip h; cases h)⟩
    have hb2 := hb1.alloc (.element name attrs (some d.size) flags.mathmlIP)
      ⟨(by intro t h; cases h), (by
        intro n a tc ip h
        cases h
        refine ⟨Nat.ne_of_gt hb.size_pos, ?_⟩
        rw [dataOf_alloc]; simp)⟩
    refine ⟨hb2, (chg_alloc _ _).trans (chg_alloc _ _), ?_, ?_, ?_, ?_⟩
    · intro x; show ((d.alloc _).1.alloc _).1.childrenOf x = _; rw [childrenOf_alloc, childrenOf_alloc]
    · show d.size ≤ (d.alloc _).1.size; rw [size_alloc]; exact Nat.le_succ _
    · show (d.alloc _).1.size < ((d.alloc _).1.alloc _).1.size; rw [size_alloc (d.alloc _).1]; exact Nat.lt_succ_self _
    · refine ⟨some d.size, ?_⟩
      show ((d.alloc _).1.alloc _).1.dataOf (d.alloc _).1.size = _
      rw [dataOf_alloc]; simp; rfl
  · simp only [hf]
    have hb2 := hb.alloc (.element name attrs none flags.mathmlIP)
      ⟨(by intro t h; cases h), (by intro n a tc ip h; cases h)⟩
    refine ⟨hb2, chg_alloc _ _, ?_, Nat.le_refl _, ?_, ?_⟩
    · intro x; show (d.alloc _).1.childrenOf x = _; rw [childrenOf_alloc]
    · show d.size < (d.alloc _).1.size; rw [size_alloc]; exact Nat.lt_succ_self _
    · refine ⟨none, ?_⟩
      show (d.alloc _).1.dataOf d.size = _
      rw [dataOf_alloc]; simp

theorem createComment_spec {d : Dom} (hb : DomBase d) (text : Str) :
    let r := d.createComment text
    DomBase r.1 ∧ Chg d r.1 ∧ (∀ x, r.1.childrenOf x = d.childrenOf x) ∧ r.2 = d.size ∧ r.1.size = d.size + 1 ∧
      r.1.dataOf r.2 = some (.comment text) := by
  unfold Dom.createComment
  refine ⟨hb.alloc _ ⟨(by intro t h; cases h), (by intro n a tc ip h; cases h)⟩, chg_alloc _ _, ?_, rfl, size_alloc _ _, ?_⟩
  · intro x; show (d.alloc _).1.childrenOf x = _; rw [childrenOf_alloc]
  · show (d.alloc _).1.dataOf d.size = _; rw [dataOf_alloc]; simp

/-! ## `fn append` without the parent pointers -/

theorem appendRaw_eff {d d' : Dom} {p c : Id} (h : d.appendRaw p c = .ok d') :
    c < d.size ∧ p < d.size ∧
    (∀ x, d'.childrenOf x = if x = p then d.childrenOf p ++ [c] else d.childrenOf x) ∧
    (∀ x, d'.dataOf x = d.dataOf x) ∧ d'.size = d.size := by
  unfold Dom.appendRaw at h
  simp only [bind, Except.bind] at h
  cases hc : d.get c with
  | error e => simp [hc] at h
  | ok cn =>
    have hcn := get_ok.mp hc
    simp only [hc] at h
    by_cases hpar : cn.parent.isSome = true
    · simp [hpar, throw, throwThe, MonadExceptOf.throw] at h
    · simp only [hpar] at h
      cases hp : (d.setNode c { data := cn.data, parent := some p, children := cn.children }).get p with
      | error e => simp [hp] at h
      | ok pn =>
        simp [hp] at h
        have hpn := get_ok.mp hp
        rw [node?_setNode_of hcn] at hpn
        have hplt : p < d.size := by
          by_cases hpc : p = c
          · subst hpc; exact node?_lt hcn
          · simp [hpc] at hpn; exact node?_lt hpn
        have hpn' := get_ok.mp hp
        refine ⟨node?_lt hcn, hplt, ?_, ?_, ?_⟩
        · intro x; subst h
          rw [childrenOf_setNode hpn', childrenOf_setNode hcn]
          by_cases hxp : x = p
          · subst hxp
            simp only [if_true]
            by_cases hpc : x = c
            · subst hpc; simp at hpn; subst hpn; simp [childrenOf_of_node hcn]
            · simp [hpc] at hpn; simp [childrenOf_of_node hpn]
          · simp only [hxp, if_false]
            by_cases hxc : x = c
            · subst hxc; simp [childrenOf_of_node hcn]
            · simp [hxc]
        · intro x; subst h
          rw [dataOf_setNode hpn', dataOf_setNode hcn]
          by_cases hxp : x = p
          · subst hxp
            simp only [if_true]
            by_cases hpc : x = c
            · subst hpc; simp at hpn; subst hpn; simp [dataOf_of_node hcn]
            · simp [hpc] at hpn; simp [dataOf_of_node hpn]
          · simp only [hxp, if_false]
            by_cases hxc : x = c
            · subst hxc; simp [dataOf_of_node hcn]
            · simp [hxc]
        · subst h; simp [Dom.size, Dom.setNode]

theorem mem_of_indexOf? {t : Id} {l : List Id} {i : Nat} (h : indexOf? t l = some i) : t ∈ l := by
  exact List.mem_of_getElem? (indexOf?_getElem h)

theorem removeAt_ne_nil {l : List Id} {i : Nat} (h : removeAt l i ≠ []) : l ≠ [] := by
  intro hl; subst hl; simp [removeAt] at h

theorem mem_removeAt {l : List Id} {i : Nat} {x : Id} (h : x ∈ removeAt l i) : x ∈ l :=
  (removeAt_sublist l i).subset h

/-- `append(parent, node)` below a container -/
theorem append_node_spec {d d' : Dom} (hb : DomBase d) {p c : Id} (hp : d.isContainer p = true)
    (hcnd : d.dataOf c ≠ some .document) (h : d.append p (.node c) = .ok d') :
    DomBase d' ∧ Chg d d' ∧ c < d.size ∧
      (∀ x, d'.childrenOf x = if x = p then d.childrenOf p ++ [c] else d.childrenOf x) := by
  rw [append_node_eq] at h
  obtain ⟨hc, _, hk, hd, hs⟩ := appendRaw_eff h
  have hchg : Chg d d' := Chg.of_data_eq (Nat.le_of_eq hs.symm) (fun x _ => hd x)
  refine ⟨hb.step_one hchg (no_new_nodes hs) hk (hchg.isContainer hp) ?_, hchg, hc, hk⟩
  intro k hkm
  simp only [List.mem_append, List.mem_singleton] at hkm
  rcases hkm with hkm | rfl
  · exact ⟨by rw [hs]; exact hb.kidsValid p k hkm, Or.inl ⟨p, hkm⟩⟩
  · exact ⟨by rw [hs]; exact hc, Or.inr (by rw [hd]; exact hcnd)⟩

theorem children0_of_ne {d d' : Dom} {p : Id} {l : List Id} (hp : p ≠ 0)
    (hk : ∀ x, d'.childrenOf x = if x = p then l else d.childrenOf x) : d'.childrenOf 0 = d.childrenOf 0 := by
  rw [hk]; simp [Ne.symm hp]

/-- `append(parent, text)` below a container -/
theorem append_text_spec {d d' : Dom} (hb : DomBase d) {p : Id} {t : Str} (hp : d.isContainer p = true)
    (ht : t ≠ []) (h : d.append p (.text t) = .ok d') :
    DomBase d' ∧ Chg d d' ∧
      ((∀ x, d'.childrenOf x = d.childrenOf x) ∨
       (∀ x, d'.childrenOf x = if x = p then d.childrenOf p ++ [d.size] else d.childrenOf x) ∧
         d'.dataOf d.size = some (.text t)) := by
  obtain ⟨hplt, h1 | h2⟩ := append_text_ok h
  · obtain ⟨hl, old, _, hold, hsh, hd, hs⟩ := h1
    have hchg : Chg d d' := Chg.of_one hs hd (by rw [hold]; exact .text _ _)
    exact ⟨hb.step_same hchg (no_new_nodes hs) hsh.children, hchg, Or.inl hsh.children⟩
  · obtain ⟨_, hraw⟩ := h2
    obtain ⟨_, _, hk, hd, hs⟩ := appendRaw_eff hraw
    have hk' : ∀ x, d'.childrenOf x = if x = p then d.childrenOf p ++ [d.size] else d.childrenOf x := by
      intro x; rw [hk]; simp only [childrenOf_alloc]
    have hd' : ∀ x, d'.dataOf x = if x = d.size then some (.text t) else d.dataOf x := by
      intro x; rw [hd, dataOf_alloc]
    obtain ⟨hb', hchg⟩ := hb.step_fresh (by rw [hs, size_alloc]) hd' hk' hp
      (fun k hkm => by simpa [or_comm] using hkm) (by intro h; cases h) (fun t' h => by cases h; exact ht)
      (by intro _ _ _ _ h; cases h)
    exact ⟨hb', hchg, Or.inr ⟨hk', by rw [hd']; simp⟩⟩

/-- `remove_from_parent`: child lists only shrink; the list of `p` is untouched unless it contains the target -/
theorem removeFromParent_spec {d d' : Dom} (hb : DomBase d) {t : Id} (h : d.removeFromParent t = .ok d') :
    DomBase d' ∧ Chg d d' ∧ d'.size = d.size ∧ (∀ x, d'.dataOf x = d.dataOf x) ∧
      (∀ x, (d'.childrenOf x).Sublist (d.childrenOf x)) ∧
      (∀ x, t ∉ d.childrenOf x → d'.childrenOf x = d.childrenOf x) := by
  rcases removeFromParent_ok h with ⟨_, rfl⟩ | ⟨p, i, _, hi, _, hk, hd, hs, _⟩
  · exact ⟨hb, Chg.refl _, rfl, fun _ => rfl, fun _ => List.Sublist.refl _, fun _ _ => rfl⟩
  · have hchg : Chg d d' := Chg.of_data_eq (Nat.le_of_eq hs.symm) (fun x _ => hd x)
    have hsub : ∀ x, (d'.childrenOf x).Sublist (d.childrenOf x) := by
      intro x; rw [hk]
      by_cases hx : x = p
      · subst hx; simp only [if_true]; exact removeAt_sublist _ _
      · simp only [hx, if_false]; exact List.Sublist.refl _
    refine ⟨hb.step hchg (no_new_nodes hs) ?_ ?_ ?_, hchg, hs, hd, hsub, ?_⟩
    · intro x hx
      refine Or.inl ?_
      intro hnil
      have := hsub x
      rw [hnil] at this
      exact hx (List.eq_nil_of_sublist_nil this)
    · intro q k hkm; rw [hs]; exact hb.kidsValid q k ((hsub q).subset hkm)
    · intro q k hkm; exact Or.inl ⟨q, (hsub q).subset hkm⟩
    · intro x hx
      rw [hk]
      by_cases hxp : x = p
      · subst hxp; exact absurd (mem_of_indexOf? hi) hx
      · simp [hxp]

theorem mem_insertAt_iff {l : List Id} {i : Nat} {x y : Id} : y ∈ H5V.Model.Dom.insertAt l i x ↔ y = x ∨ y ∈ l := by
  unfold H5V.Model.Dom.insertAt
  simp only [List.mem_append, List.mem_cons]
  constructor
  · rintro (h | h | h)
    · exact Or.inr (List.mem_of_mem_take h)
    · exact Or.inl h
    · exact Or.inr (List.mem_of_mem_drop h)
  · rintro (h | h)
    · exact Or.inr (Or.inl h)
    · rw [← List.take_append_drop i l] at h
      rcases List.mem_append.mp h with h | h
      · exact Or.inl h
      · exact Or.inr (Or.inr h)

theorem insertAt_ne_nil (l : List Id) (i : Nat) (x : Id) : H5V.Model.Dom.insertAt l i x ≠ [] := by
  unfold H5V.Model.Dom.insertAt; simp

/-- the tail of `append_before_sibling`: detach the child, insert it into the list of `P` -/
theorem insertAtIndex_spec {d d' : Dom} (hb : DomBase d) {P c : Id} {i : Nat} (hP : d.isContainer P = true)
    (hP0 : P ≠ 0) (hc0 : c ∉ d.childrenOf 0) (hcnd : d.dataOf c ≠ some .document)
    (h : d.insertAtIndex P i c = .ok d') :
    DomBase d' ∧ Chg d d' ∧ d'.size = d.size ∧ d'.childrenOf 0 = d.childrenOf 0 := by
  obtain ⟨d1, hr, _, hclt, _, _, hk, hd, hs, _⟩ := insertAtIndex_ok h
  obtain ⟨hb1, hchg1, hs1, hd1, hsub1, hsame1⟩ := removeFromParent_spec hb hr
  have hchg2 : Chg d1 d' := Chg.of_data_eq (Nat.le_of_eq hs.symm) (fun x _ => hd x)
  have hk0 : d'.childrenOf 0 = d.childrenOf 0 := by
    rw [hk]; simp only [Ne.symm hP0, if_false]; exact hsame1 0 hc0
  have hb' : DomBase d' := by
    refine hb1.step_one hchg2 (no_new_nodes hs) hk (hchg2.isContainer (hchg1.isContainer hP)) ?_
    intro k hkm
    rcases mem_insertAt_iff.mp hkm with rfl | hkm
    · exact ⟨by rw [hs]; exact hclt, Or.inr (by rw [hd, hd1]; exact hcnd)⟩
    · exact ⟨by rw [hs]; exact hb1.kidsValid P k hkm, Or.inl ⟨P, hkm⟩⟩
  exact ⟨hb', hchg1.trans hchg2, by rw [hs, hs1], hk0⟩

/-- what may be inserted: a node that is not a child of the document, or non-empty text -/
def ChildOk (d : Dom) : NodeOrText → Prop
  | .node c => c ∉ d.childrenOf 0 ∧ d.dataOf c ≠ some .document
  | .text t => t ≠ []

theorem appendBeforeSibling_spec {e d' : Dom} (he : DomBase e) {sib : Id} {ch : NodeOrText}
    (hs0 : sib ∉ e.childrenOf 0) (hch : ChildOk e ch) (h : e.appendBeforeSibling sib ch = .ok d') :
    DomBase d' ∧ Chg e d' ∧ d'.childrenOf 0 = e.childrenOf 0 := by
  obtain ⟨P, i, _, hi, hPlt, hm⟩ := appendBeforeSibling_ok h
  have hsibP : sib ∈ e.childrenOf P := mem_of_indexOf? hi
  have hP0 : P ≠ 0 := by intro h0; subst h0; exact hs0 hsibP
  have hPc : e.isContainer P = true := he.cont P (List.ne_nil_of_mem hsibP)
  cases ch with
  | node c => exact (fun ⟨a, b, _, c⟩ => ⟨a, b, c⟩) (insertAtIndex_spec he hPc hP0 hch.1 hch.2 hm)
  | text t =>
    rcases hm with ⟨prev, old, _, _, hold, hsh, hd, hs⟩ | ⟨_, hins⟩
    · have hchg : Chg e d' := Chg.of_one hs hd (by rw [hold]; exact .text _ _)
      exact ⟨he.step_same hchg (no_new_nodes hs) hsh.children, hchg, hsh.children 0⟩
    · obtain ⟨_, _, hk, hd, hs, _⟩ := insertAtIndex_fresh_ok hins
      obtain ⟨hb', hchg⟩ := he.step_fresh hs hd hk hPc
        (fun k hkm => mem_insertAt_iff.mp hkm) (by intro h; cases h) (fun t' h => by cases h; exact hch)
        (by intro _ _ _ _ h; cases h)
      exact ⟨hb', hchg, by rw [hk]; simp [Ne.symm hP0]⟩

/-- `append_before_sibling` (either variant) next to a sibling that is not a child of the document -/
theorem appendBeforeSiblingV_spec {b : Dom.BeforeSiblingVariant} {d d' : Dom} (hb : DomBase d) {sib : Id}
    {ch : NodeOrText} (hs0 : sib ∉ d.childrenOf 0) (hch : ChildOk d ch)
    (h : d.appendBeforeSiblingV b sib ch = .ok d') :
    DomBase d' ∧ Chg d d' ∧ d'.childrenOf 0 = d.childrenOf 0 := by
  rcases appendBeforeSiblingV_ok h with h1 | ⟨c, d1, he, hr, h2⟩
  · exact appendBeforeSibling_spec hb hs0 hch h1
  · subst he
    obtain ⟨hb1, hchg1, _, hd1, hsub1, hsame1⟩ := removeFromParent_spec hb hr
    have hch' : c ∉ d.childrenOf 0 := hch.1
    have h10 : d1.childrenOf 0 = d.childrenOf 0 := hsame1 0 hch'
    obtain ⟨a, b2, c2⟩ := appendBeforeSibling_spec hb1 (by rw [h10]; exact hs0)
      (by show c ∉ d1.childrenOf 0 ∧ _; rw [h10, hd1]; exact hch) h2
    exact ⟨a, hchg1.trans b2, by rw [c2, h10]⟩

/-- `append_based_on_parent_node` -/
theorem appendBasedOnParentNodeV_spec {b : Dom.BeforeSiblingVariant} {d d' : Dom} (hb : DomBase d) {e p : Id}
    {ch : NodeOrText} (he0 : e ∉ d.childrenOf 0) (hp : d.isContainer p = true) (hp0 : p ≠ 0)
    (hch : ChildOk d ch)
    (h : d.appendBasedOnParentNodeV b e p ch = .ok d') :
    DomBase d' ∧ Chg d d' ∧ d'.childrenOf 0 = d.childrenOf 0 := by
  unfold Dom.appendBasedOnParentNodeV at h
  simp only [bind, Except.bind] at h
  cases hg : d.get e with
  | error er => simp [hg] at h
  | ok en =>
    simp only [hg] at h
    by_cases hpar : en.parent.isSome = true
    · simp only [hpar, if_true] at h
      exact appendBeforeSiblingV_spec hb he0 hch h
    · simp only [hpar] at h
      cases ch with
      | node c =>
        obtain ⟨a, b2, _, hk⟩ := append_node_spec hb hp hch.2 h
        exact ⟨a, b2, children0_of_ne hp0 hk⟩
      | text t =>
        obtain ⟨a, b2, hk | ⟨hk, _⟩⟩ := append_text_spec hb hp hch h
        · exact ⟨a, b2, hk 0⟩
        · exact ⟨a, b2, children0_of_ne hp0 hk⟩

/-- `reparent_children` between two nodes other than the document -/
theorem reparentChildren_spec {d d' : Dom} (hb : DomBase d) {n np : Id} (hn0 : n ≠ 0) (hnp0 : np ≠ 0)
    (hnp : d.isContainer np = true) (h : d.reparentChildren n np = .ok d') :
    DomBase d' ∧ Chg d d' ∧ d'.childrenOf 0 = d.childrenOf 0 := by
  obtain ⟨_, _, _, _, hk, hd, hs, _⟩ := reparentChildren_ok h
  have hchg : Chg d d' := Chg.of_data_eq (Nat.le_of_eq hs.symm) (fun x _ => hd x)
  have hk0 : d'.childrenOf 0 = d.childrenOf 0 := by rw [hk]; simp [Ne.symm hn0, Ne.symm hnp0]
  have hmem : ∀ p c, c ∈ d'.childrenOf p → ∃ q, c ∈ d.childrenOf q := by
    intro p c hcm
    rw [hk] at hcm
    by_cases hxn : p = n
    · simp [hxn] at hcm
    · by_cases hxp : p = np
      · subst hxp
        simp only [hxn, if_true, if_false, List.mem_append] at hcm
        rcases hcm with hcm | hcm
        · exact ⟨p, hcm⟩
        · exact ⟨n, hcm⟩
      · simp only [hxn, hxp, if_false] at hcm; exact ⟨p, hcm⟩
  refine ⟨hb.step hchg (no_new_nodes hs) ?_ ?_ ?_, hchg, hk0⟩
  · intro x hx
    rw [hk] at hx
    by_cases hxn : x = n
    · simp [hxn] at hx
    · by_cases hxp : x = np
      · subst hxp; exact Or.inr (hchg.isContainer hnp)
      · simp only [hxn, hxp, if_false] at hx; exact Or.inl hx
  · intro p c hcm
    obtain ⟨q, hq⟩ := hmem p c hcm
    rw [hs]; exact hb.kidsValid q c hq
  · intro p c hcm; exact Or.inl (hmem p c hcm)

/-- `add_attrs_if_missing` -/
theorem addAttrsIfMissing_spec {d d' : Dom} (hb : DomBase d) {t : Id} {attrs : List Attr}
    (h : d.addAttrsIfMissing t attrs = .ok d') :
    DomBase d' ∧ Chg d d' ∧ (∀ x, d'.childrenOf x = d.childrenOf x) := by
  obtain ⟨name, ex, tc, ip, hdt, hsh, hd, hs⟩ := addAttrsIfMissing_ok h
  have hchg : Chg d d' := Chg.of_one hs hd (by rw [hdt]; exact .attrs ..)
  exact ⟨hb.step_same hchg (no_new_nodes hs) hsh.children, hchg, hsh.children⟩

/-- `append_doctype_to_document` -/
theorem appendDoctype_spec {d d' : Dom} (hb : DomBase d) {n p s : Str}
    (h : d.appendDoctypeToDocument n p s = .ok d') :
    DomBase d' ∧ Chg d d' ∧ d'.childrenOf 0 = d.childrenOf 0 ++ [d.size] ∧
      d'.dataOf d.size = some (.doctype n p s) ∧ d'.size = d.size + 1 := by
  have h' : (d.alloc (.doctype n p s)).1.appendRaw 0 d.size = .ok d' := h
  obtain ⟨_, _, hk, hd, hs⟩ := appendRaw_eff h'
  have hk' : ∀ x, d'.childrenOf x = if x = 0 then d.childrenOf 0 ++ [d.size] else d.childrenOf x := by
    intro x; rw [hk]; simp only [childrenOf_alloc]
  have hs' : d'.size = d.size + 1 := by rw [hs, size_alloc]
  have hd' : ∀ x, d'.dataOf x = if x = d.size then some (.doctype n p s) else d.dataOf x := by
    intro x; rw [hd, dataOf_alloc]
  obtain ⟨hb', hchg⟩ := hb.step_fresh hs' hd' hk' (by unfold Dom.isContainer; rw [hb.doc0])
    (fun k hkm => by simpa [or_comm] using hkm) (by intro h; cases h) (by intro _ h; cases h)
    (by intro _ _ _ _ h; cases h)
  exact ⟨hb', hchg, by rw [hk']; simp, by rw [hd']; simp, hs'⟩

/-- `append(document, node)` -/
theorem append_doc_spec {d d' : Dom} (hb : DomBase d) {c : Id} (hcnd : d.dataOf c ≠ some .document)
    (h : d.append 0 (.node c) = .ok d') :
    DomBase d' ∧ Chg d d' ∧ c < d.size ∧ d'.childrenOf 0 = d.childrenOf 0 ++ [c] := by
  obtain ⟨a, b, c2, hk⟩ := append_node_spec hb (by unfold Dom.isContainer; rw [hb.doc0]) hcnd h
  exact ⟨a, b, c2, by rw [hk]; simp⟩

end H5V.Props.C06
