import H5V.Lemmas.HtmlTBAlgoReconstruct
import H5V.Lemmas.HtmlTBAlgoNoah
/-!
(g) push onto the list of active formatting elements (Noah's Ark), (m) clear the list up to the last
marker, (k) insert a character / a comment, the `onlyAddToElementStack` form of (j), and "pop all the
nodes off the stack of open elements" of "stop parsing".
-/
namespace H5V.Lemmas.HtmlTBAlgo
open H5V.Model.HtmlTB
open H5V.Model.Dom (Id SinkOp Output Dom QualName Attr NodeOrText ElementFlags NodeData)
open H5V.Lemmas.Dom
open H5V.Lemmas.HtmlTBSpec (NamesOk toName)
open H5V.Spec.TreeAlgo2
open H5V.Spec.TreeAlgo (Name)

/-! ### (g) Noah's Ark -/

def cfTail (tag : Tag) : M Id := do
  let elem ← insertElement true nsHtml tag.name tag.attrs tag.hadDup
  modS fun s => { s with activeFormatting := s.activeFormatting ++ [.element elem tag] }
  pure elem

theorem createFormattingElementFor_eq (tag : Tag) :
    createFormattingElementFor tag = (do
      let ms := (afEndToMarker (← getS).activeFormatting).filter (fun (x : Nat × Id × Tag) => tag.equivModuloAttrOrder x.2.2)
      if ms.length ≥ 3 then
        match ms.getLast? with
        | some (i, _, _) => afRemove i "mod.rs:1530"
        | none => panicAt "matches-no-index" "mod.rs:1532" "expect(\"matches with no index\")"
      cfTail tag) := rfl

theorem tot_afRemove' (s : State) (i : Nat) (site : String) (hi : i < s.activeFormatting.length) :
    Tot (afRemove i site) s (fun _ s' calls =>
      s' = { s with activeFormatting := s.activeFormatting.eraseIdx i } ∧ calls = []) :=
  tot_afRemove s i site hi

/-- **(g)** `create_formatting_element_for(tag)`: the Noah's Ark clause on the list, "insert an HTML
element" for the token, and the push onto the list.  `af1`: the list after the Noah's Ark removal. -/
theorem tot_createFormattingElementFor (s : State) (tag : Tag) (hok : ElemsOk s.dom s.openElems)
    (hhead : HeadOk s.dom s.openElems) :
    Tot (createFormattingElementFor tag) s (fun elem s' calls => ∃ af1 L,
      s' = { s with openElems := s.openElems ++ [elem], activeFormatting := af1 ++ [.element elem tag],
                    dom := s'.dom, traceRev := s'.traceRev } ∧
      (af1 ++ [FormatEntry.element elem tag]).map entryOpt
        = Spec.TreeAlgo.noahPush sameEntry (s.activeFormatting.map entryOpt) (elem, tag) ∧
      s.dom.size ≤ elem ∧ s'.dom.isElement elem = true ∧ nameOf s'.dom elem = ⟨nsHtml, tag.name⟩ ∧
      (∀ tc, TcOk s.dom tc → edits calls = L.map (editCall tc)) ∧
      ∀ rest log0, insertHtmlElement tagCtx (absState { s with activeFormatting := af1 } (elem :: rest) log0) tag
        = some ({ absState { s with activeFormatting := af1 } rest (log0 ++ L) with
                    stack := absStack s.dom s.openElems ++ [⟨elem, ⟨nsHtml, tag.name⟩⟩] }, ⟨elem, ⟨nsHtml, tag.name⟩⟩)) := by
  -- the tail, run on the list `af1`
  have htail : ∀ (s1 : State) (af1 : List FormatEntry), s1 = { s with activeFormatting := af1 } →
      (∀ new, (af1 ++ [FormatEntry.element new tag]).map entryOpt
        = Spec.TreeAlgo.noahPush sameEntry (s.activeFormatting.map entryOpt) (new, tag)) →
      Tot (cfTail tag) s1 (fun elem s' calls => ∃ af1 L,
        s' = { s with openElems := s.openElems ++ [elem], activeFormatting := af1 ++ [.element elem tag],
                      dom := s'.dom, traceRev := s'.traceRev } ∧
        (af1 ++ [FormatEntry.element elem tag]).map entryOpt
          = Spec.TreeAlgo.noahPush sameEntry (s.activeFormatting.map entryOpt) (elem, tag) ∧
        s.dom.size ≤ elem ∧ s'.dom.isElement elem = true ∧ nameOf s'.dom elem = ⟨nsHtml, tag.name⟩ ∧
        (∀ tc, TcOk s.dom tc → edits calls = L.map (editCall tc)) ∧
        ∀ rest log0, insertHtmlElement tagCtx (absState { s with activeFormatting := af1 } (elem :: rest) log0) tag
          = some ({ absState { s with activeFormatting := af1 } rest (log0 ++ L) with
                      stack := absStack s.dom s.openElems ++ [⟨elem, ⟨nsHtml, tag.name⟩⟩] }, ⟨elem, ⟨nsHtml, tag.name⟩⟩)) := by
    intro s1 af1 hs1 hnoah
    have hdom1 : s1.dom = s.dom := by rw [hs1]
    have hopen1 : s1.openElems = s.openElems := by rw [hs1]
    unfold cfTail
    refine tot_bind (tot_conseq (tot_insertElement_spec s1 true nsHtml tag (by rw [hdom1, hopen1]; exact hok)
      (by rw [hdom1, hopen1]; exact hhead)) fun elem s2 c2 _ ⟨hs2, hfresh, hel, hnm, L, hL, hspec⟩ => ?_)
    refine tot_bind (tot_modS rfl rfl ?_)
    refine tot_pure ⟨af1, L, ?_, hnoah elem, by rw [← hdom1]; exact hfresh, hel, hnm, ?_, ?_⟩
    · rw [hs2]; simp only [if_true]; rw [hs1]
    · intro tc htc; simpa using hL tc (by rw [hdom1]; exact htc)
    · intro rest log0
      have := hspec rest log0
      unfold insertHtmlElement
      rw [nsHtml_eq]
      rw [hs1] at this
      exact this
  rw [createFormattingElementFor_eq]
  refine tot_getS_bind ?_
  simp only []
  by_cases h3 : ((afEndToMarker s.activeFormatting).filter (fun (x : Nat × Id × Tag) => tag.equivModuloAttrOrder x.2.2)).length ≥ 3
  · simp only [h3, if_true]
    obtain ⟨i, h, t, hl, hi, _, _⟩ := noah_list_ge s.activeFormatting tag 0 h3
    rw [hl]
    simp only []
    refine tot_bind (tot_conseq (tot_afRemove' s i "mod.rs:1530" hi) fun _ s1 c1 _ ⟨hs1, hc1⟩ => ?_)
    subst hc1
    refine htail s1 (s.activeFormatting.eraseIdx i) hs1 ?_
    intro new
    obtain ⟨i', h', t', hl', _, _, heq⟩ := noah_list_ge s.activeFormatting tag new h3
    rw [hl] at hl'; cases hl'
    exact heq
  · simp only [h3, if_false]
    refine htail s s.activeFormatting rfl ?_
    intro new
    exact noah_list_lt s.activeFormatting tag new (by omega)

/-! ### (m) clear the list of active formatting elements up to the last marker -/

theorem tot_clearActiveFormattingToMarker (s : State) :
    Tot clearActiveFormattingToMarker s (fun _ s' calls => calls = [] ∧ ∃ af',
      s' = { s with activeFormatting := af' } ∧ absList af' = clearToLastMarker (absList s.activeFormatting)) := by
  unfold clearActiveFormattingToMarker
  exact tot_modS rfl rfl ⟨rfl, _, rfl, clearToMarker_eq s.activeFormatting⟩

/-! ### (k) insert a character, insert a comment -/

theorem tot_insertAppropriately (s : State) (child : NodeOrText) (ov : Option Id) (hok : ElemsOk s.dom s.openElems)
    (hov : ∀ t, ov = some t → s.dom.isElement t = true) (place : Place Id)
    (hspec : appropriatePlace (absStack s.dom s.openElems) s.fosterParenting (ov.map (elemOf s.dom)) = some place) :
    Tot (insertAppropriately child ov) s (fun _ s' calls => SameTB s s' ∧
      edits calls = [(insertOp (ipOf (tcOf s.dom) place) child, .unit)]) := by
  unfold insertAppropriately
  refine tot_query_bind (tot_appropriatePlace s ov hok hov place hspec) fun s1 c1 _ hs1 hc1 => ?_
  refine tot_conseq (tot_insertAt s1 _ child) fun _ s2 c2 _ ⟨hs2, hc2⟩ => ?_
  refine ⟨hs1.trans hs2, ?_⟩
  rw [edits_append, hc1, hc2]
  cases h : ipOf (tcOf s.dom) place <;> simp [edits, insertOp, isEdit]

/-- **(k)** `append_text` is "insert a character" -/
theorem tot_appendText (s : State) (text : Str) (hok : ElemsOk s.dom s.openElems) (hhead : HeadOk s.dom s.openElems) :
    Tot (appendText text) s (fun r s' calls => r = .done ∧ SameTB s s' ∧ ∃ L,
      edits calls = L.map (editCall (tcOf s.dom)) ∧
      ∀ sup log0, insertCharacters (absState s sup log0) text = some (absState s sup (log0 ++ L))) := by
  obtain ⟨h0, hh0, hnt, _⟩ := hhead
  obtain ⟨place, hplace, _⟩ := appropriatePlace_some (absStack s.dom s.openElems) s.fosterParenting none
    (elemOf s.dom h0) (by rw [absStack_head?, hh0]; rfl) hnt
  unfold appendText
  refine tot_bind (tot_conseq (tot_insertAppropriately s (.text text) none hok (by simp) place hplace)
    fun _ s1 c1 _ ⟨hs1, hc1⟩ => ?_)
  refine tot_pure ⟨rfl, hs1, [Edit.insertText place text], by simpa [editCall] using hc1, ?_⟩
  intro sup log0
  have h1 : appropriatePlace (absState s sup log0).stack (absState s sup log0).fosterParenting none = some place := hplace
  simp only [insertCharacters, h1, Option.map_some]
  rfl

theorem tot_createComment (s : State) (text : Str) :
    Tot (sinkNode (.createComment text)) s (fun c s' calls => SameTB s s' ∧ calls = [(.createComment text, .node c)] ∧
      s.dom.size ≤ c) := by
  unfold sinkNode
  refine tot_bind (tot_sink trivial ?_)
  intro d' out ha
  have : out = .node s.dom.size := by
    unfold Dom.apply Dom.applyV at ha
    simp only [Dom.createComment, Dom.alloc] at ha
    cases ha; rfl
  subst this
  exact tot_pure ⟨SameTB.afterCall .., rfl, Nat.le_refl _⟩

/-- **(k)** `append_comment` is "insert a comment" (at the appropriate place) -/
theorem tot_appendComment (s : State) (text : Str) (hok : ElemsOk s.dom s.openElems) (hhead : HeadOk s.dom s.openElems) :
    Tot (appendComment text) s (fun r s' calls => r = .done ∧ SameTB s s' ∧ ∃ c L, s.dom.size ≤ c ∧
      edits calls = L.map (editCall (tcOf s.dom)) ∧
      ∀ rest log0, insertComment (absState s (c :: rest) log0) text = some (absState s rest (log0 ++ L))) := by
  obtain ⟨h0, hh0, hnt, _⟩ := hhead
  obtain ⟨place, hplace, _⟩ := appropriatePlace_some (absStack s.dom s.openElems) s.fosterParenting none
    (elemOf s.dom h0) (by rw [absStack_head?, hh0]; rfl) hnt
  unfold appendComment
  refine tot_bind (tot_conseq (tot_createComment s text) fun c s1 c1 he1 ⟨hs1, hc1, hfresh⟩ => ?_)
  subst hc1
  have hst1 := he1.stable
  have hplace1 : appropriatePlace (absStack s1.dom s1.openElems) s1.fosterParenting ((none : Option Id).map (elemOf s1.dom)) = some place := by
    rw [hs1.openElems, hs1.fosterParenting, absStack_stable hok hst1]; exact hplace
  refine tot_bind (tot_conseq (tot_insertAppropriately s1 (.node c) none (by rw [hs1.openElems]; exact hok.stable hst1)
    (by simp) place hplace1) fun _ s2 c2 _ ⟨hs2, hc2⟩ => ?_)
  refine tot_pure ⟨rfl, hs1.trans hs2, c, [Edit.createComment c text, Edit.insert place c], hfresh, ?_, ?_⟩
  · simp only [List.append_nil, edits_append, hc2, List.map_cons, List.map_nil, editCall]
    have htc : ipOf (tcOf s1.dom) place = ipOf (tcOf s.dom) place := by
      cases place with
      | lastChildOf x => rfl
      | foster t p => rfl
      | inTemplateContentsOf x =>
        simp only [ipOf]
        -- the node is on the stack
        obtain ⟨place', hp', hn'⟩ := appropriatePlace_some (absStack s.dom s.openElems) s.fosterParenting none
          (elemOf s.dom h0) (by rw [absStack_head?, hh0]; rfl) hnt
        rw [hplace] at hp'; cases hp'
        rcases hn' x (by simp [placeNodes]) with hm | ⟨t, ht, _⟩
        · rw [absStack_ids] at hm; rw [tcOf_stable hst1 (hok x hm)]
        · cases ht
    rw [htc]
    simp [edits, isEdit]
  · intro rest log0
    have h1 : appropriatePlace (absState s (c :: rest) log0).stack (absState s (c :: rest) log0).fosterParenting none = some place := hplace
    simp only [insertComment, h1, Option.bind_some, PState.newNode]
    rfl

/-- `append_comment_to_doc` / `append_comment_to_html`: "insert a comment" as the last child of the
`Document` object / of the first element of the stack -/
theorem tot_appendCommentToDoc (s : State) (text : Str) :
    Tot (appendCommentToDoc text) s (fun r s' calls => r = .done ∧ SameTB s s' ∧ ∃ c L, s.dom.size ≤ c ∧
      edits calls = L.map (editCall (tcOf s.dom)) ∧
      ∀ rest log0, insertCommentAsLastChildOf (absState s (c :: rest) log0) s.docHandle text
        = some (absState s rest (log0 ++ L))) := by
  unfold appendCommentToDoc
  refine tot_bind (tot_conseq (tot_createComment s text) fun c s1 c1 _ ⟨hs1, hc1, hfresh⟩ => ?_)
  subst hc1
  refine tot_getS_bind ?_
  have hdoc : s1.docHandle = s.docHandle := by unfold SameTB at hs1; rw [hs1]
  rw [hdoc]
  refine tot_bind (tot_conseq (tot_sinkUnit_unit' s1 trivial (unit_append' s.docHandle (.node c))) fun _ s2 c2 _ ⟨hs2, hc2⟩ => ?_)
  subst hc2
  refine tot_pure ⟨rfl, hs1.trans hs2, c, [Edit.createComment c text, Edit.insert (.lastChildOf s.docHandle) c], hfresh, ?_, ?_⟩
  · simp [edits, isEdit, editCall, ipOf, insertOp]
  · intro rest log0
    simp only [insertCommentAsLastChildOf, PState.newNode]
    rfl

theorem tot_htmlElemFn {s : State} {h : Id} (hh : s.openElems.head? = some h) : Tot htmlElemFn s (QueryQ s h) := by
  unfold htmlElemFn
  refine tot_getS_bind ?_
  simp only [hh]
  exact tot_pure ⟨rfl, SameTB.refl s, rfl⟩

theorem tot_appendCommentToHtml (s : State) (text : Str) (h0 : Id) (hh : s.openElems.head? = some h0) :
    Tot (appendCommentToHtml text) s (fun r s' calls => r = .done ∧ SameTB s s' ∧ ∃ c L, s.dom.size ≤ c ∧
      edits calls = L.map (editCall (tcOf s.dom)) ∧
      ∀ rest log0, insertCommentAsLastChildOf (absState s (c :: rest) log0) h0 text
        = some (absState s rest (log0 ++ L))) := by
  unfold appendCommentToHtml
  refine tot_query_bind (tot_htmlElemFn hh) fun s0 c0 he0 hs0 hc0 => ?_
  refine tot_bind (tot_conseq (tot_createComment s0 text) fun c s1 c1 _ ⟨hs1, hc1, hfresh⟩ => ?_)
  subst hc1
  refine tot_bind (tot_conseq (tot_sinkUnit_unit' s1 trivial (unit_append' h0 (.node c))) fun _ s2 c2 _ ⟨hs2, hc2⟩ => ?_)
  subst hc2
  refine tot_pure ⟨rfl, (hs0.trans hs1).trans hs2, c, [Edit.createComment c text, Edit.insert (.lastChildOf h0) c],
    Nat.le_trans he0.stable.size hfresh, ?_, ?_⟩
  · rw [edits_append, hc0]
    simp [edits, isEdit, editCall, ipOf, insertOp]
  · intro rest log0
    simp only [insertCommentAsLastChildOf, PState.newNode]
    rfl

/-! ### (j) with *onlyAddToElementStack* -/

/-- `insert_foreign_element(tag, ns, only_add_to_element_stack)` is "insert a foreign element" for
element types that are not form-associated (html5ever does not run the form-association step here; it
uses the function for `template` only) -/
theorem tot_insertForeignElement (s : State) (tag : Tag) (ns : Str) (onlyAdd : Bool) (hok : ElemsOk s.dom s.openElems)
    (hhead : HeadOk s.dom s.openElems)
    (hnf : Spec.TreeAlgo.inHtml formAssociatedElements ⟨ns, tag.name⟩ = false) :
    Tot (H5V.Model.HtmlTB.insertForeignElement tag ns onlyAdd) s (fun elem s' calls => ∃ L,
      s' = { s with openElems := s.openElems ++ [elem], dom := s'.dom, traceRev := s'.traceRev } ∧
      s.dom.size ≤ elem ∧ s'.dom.isElement elem = true ∧ nameOf s'.dom elem = ⟨ns, tag.name⟩ ∧
      edits calls = L.map (editCall (tcOf s.dom)) ∧
      ∀ rest log0, Spec.TreeAlgo2.insertForeignElement tagCtx (absState s (elem :: rest) log0) tag ns onlyAdd
        = some ({ absState s rest (log0 ++ L) with
                    stack := absStack s.dom s.openElems ++ [⟨elem, ⟨ns, tag.name⟩⟩] }, ⟨elem, ⟨ns, tag.name⟩⟩)) := by
  obtain ⟨h0, hh0, hnt, _⟩ := hhead
  obtain ⟨place, hplace, _⟩ := appropriatePlace_some (absStack s.dom s.openElems) s.fosterParenting none
    (elemOf s.dom h0) (by rw [absStack_head?, hh0]; rfl) hnt
  unfold H5V.Model.HtmlTB.insertForeignElement
  refine tot_query_bind (tot_appropriatePlace s none hok (by simp) place hplace) fun s1 c1 he1 hs1 hc1 => ?_
  refine tot_bind (tot_conseq (tot_createElementWithFlags s1 ns tag) fun elem s2 c2 he2 ⟨hs2, hc2, hfresh, hel, hnm⟩ => ?_)
  subst hc2
  have hspec : ∀ (ins : List (Edit Id Tag)) rest log0, ins = (if onlyAdd then [] else [Edit.insert place elem]) →
      Spec.TreeAlgo2.insertForeignElement tagCtx (absState s (elem :: rest) log0) tag ns onlyAdd
        = some ({ absState s rest (log0 ++ ([Edit.create elem ns tag] ++ ins)) with
                    stack := absStack s.dom s.openElems ++ [⟨elem, ⟨ns, tag.name⟩⟩] }, ⟨elem, ⟨ns, tag.name⟩⟩) := by
    intro ins rest log0 hins
    unfold Spec.TreeAlgo2.insertForeignElement
    simp only [absState, hplace, Option.bind_some, PState.newNode, Option.map_some]
    have : associatesWithForm ⟨ns, tagCtx.tokName tag⟩ (tagCtx.tokHasFormAttr tag) true
        ((absStack s.dom s.openElems).any fun e => e.name.isHtml "template") = false := by
      unfold associatesWithForm; rw [show tagCtx.tokName tag = tag.name from rfl, hnf]; rfl
    cases s.formElem with
    | none => simp [hins]; rfl
    | some f => simp only [this, Bool.false_eq_true, if_false]; simp [hins]; rfl
  have hS2 : SameTB s s2 := hs1.trans hs2
  by_cases ho : onlyAdd = true
  · subst ho
    simp only [Bool.not_true, Bool.false_eq_true, if_false]
    refine tot_bind (tot_conseq (tot_push s2 elem) fun _ s3 c3 _ ⟨hs3, hc3⟩ => ?_)
    subst hc3
    refine tot_pure ⟨[Edit.create elem ns tag], ?_, Nat.le_trans he1.stable.size hfresh, ?_, ?_, ?_, ?_⟩
    · rw [hs3, hS2.openElems]; unfold SameTB at hS2; rw [hS2]
    · rw [hs3]; exact hel
    · rw [hs3]; exact hnm
    · rw [edits_append, hc1]
      simp [edits, isEdit, editCall, createCall]
    · intro rest log0
      have := hspec [] rest log0 (by simp)
      simpa using this
  · have ho' : onlyAdd = false := by simpa using ho
    subst ho'
    simp only [Bool.not_false, if_true]
    refine tot_bind (tot_conseq (tot_insertAt s2 _ (.node elem)) fun _ s3 c3 he3 ⟨hs3, hc3⟩ => ?_)
    subst hc3
    refine tot_bind (tot_conseq (tot_push s3 elem) fun _ s4 c4 _ ⟨hs4, hc4⟩ => ?_)
    subst hc4
    have hS3 : SameTB s s3 := hS2.trans hs3
    refine tot_pure ⟨[Edit.create elem ns tag, Edit.insert place elem], ?_, Nat.le_trans he1.stable.size hfresh, ?_, ?_, ?_, ?_⟩
    · rw [hs4, hS3.openElems]; unfold SameTB at hS3; rw [hS3]
    · rw [hs4]; exact isElement_stable he3.stable hel
    · rw [hs4]; show nameOf s3.dom elem = _; rw [nameOf_stable he3.stable hel]; exact hnm
    · simp only [edits_append, hc1, List.nil_append, List.append_nil, List.map_cons, List.map_nil, editCall]
      rw [edits_cons_of_isEdit rfl, edits_cons_of_isEdit (isEdit_insertOp _ _)]; rfl
    · intro rest log0
      have := hspec [Edit.insert place elem] rest log0 (by simp)
      simpa using this

/-! ### "stop parsing": pop all the nodes off the stack of open elements -/

theorem tot_endLoop : ∀ (l : List Id) (s : State), Tot (endLoop l) s (fun _ s' calls => SameTB s s' ∧ edits calls = []) := by
  intro l
  induction l with
  | nil => intro s; exact tot_pure ⟨SameTB.refl _, rfl⟩
  | cons e rest ih =>
    intro s
    unfold endLoop
    refine tot_bind (tot_conseq (tot_sinkUnit s trivial) fun _ s1 c1 _ ⟨d', out, _, hs1, hc1⟩ => ?_)
    refine tot_conseq (ih s1) fun _ s2 c2 _ ⟨hs2, hc2⟩ => ⟨?_, ?_⟩
    · exact (hs1 ▸ SameTB.afterCall ..).trans hs2
    · rw [edits_append, hc2, hc1]; rfl

/-- `TokenSink::end`: every node is popped off the stack of open elements (the sink is told, no DOM
operation is made) -/
theorem tot_finishTB (s : State) :
    Tot finishTB s (fun _ s' calls => s' = { s with openElems := [], dom := s'.dom, traceRev := s'.traceRev } ∧
      edits calls = []) := by
  unfold finishTB
  refine tot_getS_bind ?_
  refine tot_bind (tot_modS rfl rfl ?_)
  refine tot_conseq (tot_endLoop s.openElems.reverse _) fun _ s2 c2 _ ⟨hs2, hc2⟩ => ⟨?_, by simpa using hc2⟩
  unfold SameTB at hs2; rw [hs2]

end H5V.Lemmas.HtmlTBAlgo
