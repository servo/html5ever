import H5V.Lemmas.XmlTBHBase
import H5V.Lemmas.HtmlTBReachBase
/-!
C18 for the handle-level XML tree builder: the provenance judgement `PV` (as `H5V.Props.C18.PV` for
the HTML builder, over the monad of `H5V.Model.XmlTBH`) and its proof for every function of the model.

`opArgs` / `outRets` / `rets` / `ArgsOK` are the definitions of the HTML side
(`H5V.Lemmas.HtmlTBReachBase`); `held` is `H5V.Model.XmlTBH.held` (`doc_handle`, `open_elems`,
`curr_elem` — what `trace_handles` reports).
-/
namespace H5V.Lemmas.XmlTBH
open H5V.Model.Dom (Id SinkOp Output Dom NodeOrText)
open H5V.Model.XmlTB (Tag TbCfg Bound QName Token Phase)
open H5V.Model.XmlTBH
open H5V.Props.C18 (opArgs outRets rets ArgsOK rets_append childIds)

/-- what a successful run of `m` from `s` guarantees relative to the known handles `K` -/
structure Post (K : Id → Prop) (s s' : State) (R : List Id) : Prop where
  ex : ∃ new, s'.traceRev = new ++ s.traceRev ∧ ArgsOK K new ∧
    (∀ h ∈ held s', K h ∨ h ∈ rets new) ∧ (∀ h ∈ R, K h ∨ h ∈ rets new)

/-- the judgement for runs that start in the state `s0` -/
structure PVat {α : Type} (s0 : State) (c : List Id) (m : M α) (R : α → List Id) : Prop where
  h : ∀ (K : Id → Prop) (a : α) (s' : State), m s0 = .ok (a, s') →
    (∀ h ∈ held s0, K h) → (∀ h ∈ c, K h) → Post K s0 s' (R a)

/-- provenance: with the held handles and the handles in flight `c` known, `m` passes only known
handles to the sink; afterwards the held handles and the handles `R a` of the answer are known —
"known" growing with everything the sink returns on the way -/
structure PV {α : Type} (c : List Id) (m : M α) (R : α → List Id) : Prop where
  h : ∀ s, PVat s c m R

/-- no handles in the answer -/
abbrev nil {α : Type} : α → List Id := fun _ => []
/-- the handle that is the answer -/
abbrev one : Id → List Id := fun a => [a]

theorem PVat.bind {α β : Type} {s : State} {c : List Id} {m : M α} {f : α → M β} {R : α → List Id}
    {R' : β → List Id} (h1 : PVat s c m R) (h2 : ∀ a, PV (R a ++ c) (f a) R') : PVat s c (m >>= f) R' := by
  constructor
  intro K b s'' e hh hc
  obtain ⟨a, s', e1, e2⟩ := bind_ok.mp e
  obtain ⟨n1, t1, a1, k1, r1⟩ := (h1.h K a s' e1 hh hc).ex
  have hc' : ∀ h ∈ R a ++ c, K h ∨ h ∈ rets n1 := by
    intro h hm
    rcases List.mem_append.mp hm with hm | hm
    · exact r1 h hm
    · exact Or.inl (hc h hm)
  obtain ⟨n2, t2, a2, k2, r2⟩ := (((h2 a).h s').h (fun h => K h ∨ h ∈ rets n1) b s'' e2 k1 hc').ex
  refine ⟨n2 ++ n1, by rw [t2, t1, List.append_assoc], a1.append a2, ?_, ?_⟩
  · intro h hm
    rw [rets_append]
    rcases k2 h hm with (hk | hr) | hr
    · exact Or.inl hk
    · exact Or.inr (List.mem_append_right _ hr)
    · exact Or.inr (List.mem_append_left _ hr)
  · intro h hm
    rw [rets_append]
    rcases r2 h hm with (hk | hr) | hr
    · exact Or.inl hk
    · exact Or.inr (List.mem_append_right _ hr)
    · exact Or.inr (List.mem_append_left _ hr)

theorem PV.bind {α β : Type} {c : List Id} {m : M α} {f : α → M β} {R : α → List Id} {R' : β → List Id}
    (h1 : PV c m R) (h2 : ∀ a, PV (R a ++ c) (f a) R') : PV c (m >>= f) R' :=
  ⟨fun s => (h1.h s).bind h2⟩

theorem PV.pure {α : Type} {c : List Id} {a : α} {R : α → List Id} (h : ∀ x ∈ R a, x ∈ c) :
    PV c (Pure.pure a : M α) R := by
  constructor
  intro s
  constructor
  intro K b s' e hh hc
  obtain ⟨rfl, rfl⟩ := pure_ok.mp e
  exact ⟨[], rfl, trivial, fun x hx => Or.inl (hh x hx), fun x hx => Or.inl (hc x (h x hx))⟩

theorem PV.throw {α : Type} {c : List Id} {R : α → List Id} (e : String) : PV c (throw e : M α) R :=
  ⟨fun _ => ⟨fun _ _ _ h => absurd h throw_ok⟩⟩

theorem PV.ite {α : Type} {c : List Id} {p : Prop} [Decidable p] {a b : M α} {R : α → List Id}
    (h1 : PV c a R) (h2 : PV c b R) : PV c (if p then a else b) R := by
  by_cases hp : p
  · simp only [hp, if_true]; exact h1
  · simp only [hp, if_false]; exact h2

/-- more handles in flight never hurt -/
theorem PV.weaken {α : Type} {c c' : List Id} {m : M α} {R : α → List Id} (h : PV c m R)
    (hs : ∀ x ∈ c, x ∈ c') : PV c' m R :=
  ⟨fun s => ⟨fun K a s' e hh hc => (h.h s).h K a s' e hh (fun x hx => hc x (hs x hx))⟩⟩

/-- fewer handles claimed for the answer -/
theorem PV.forget {α : Type} {c : List Id} {m : M α} {R R' : α → List Id} (h : PV c m R)
    (hs : ∀ a, ∀ x ∈ R' a, x ∈ R a) : PV c m R' :=
  ⟨fun s => ⟨fun K a s' e hh hc => by
    obtain ⟨n, t, ao, k, r⟩ := ((h.h s).h K a s' e hh hc).ex
    exact ⟨n, t, ao, k, fun x hx => r x (hs a x hx)⟩⟩⟩

/-- reading the state: what follows knows the handles it holds, and that it *is* the current state -/
theorem PV.getS_bind {β : Type} {c : List Id} {f : State → M β} {R : β → List Id}
    (h : ∀ s, PVat s (held s ++ c) (f s) R) : PV c (getS >>= f) R := by
  constructor
  intro s
  constructor
  intro K b s'' e hh hc
  obtain ⟨a, s', e1, e2⟩ := bind_ok.mp e
  obtain ⟨rfl, rfl⟩ := getS_ok.mp e1
  refine (h _).h K b s'' e2 hh ?_
  intro x hx
  rcases List.mem_append.mp hx with hx | hx
  · exact hh x hx
  · exact hc x hx

theorem pv_modS {c : List Id} {f : State → State} (ht : ∀ s, (f s).traceRev = s.traceRev)
    (hf : ∀ s, ∀ x ∈ held (f s), x ∈ held s ∨ x ∈ c) : PV c (modS f) nil :=
  ⟨fun s => ⟨fun K _ s' e hh hc => by
    rw [modS_ok.mp e]
    refine ⟨[], by rw [ht]; rfl, trivial, fun x hx => Or.inl ?_, fun _ hx => nomatch hx⟩
    rcases hf s x hx with h1 | h1
    · exact hh x h1
    · exact hc x h1⟩⟩

/-- one sink call: its arguments must be in flight; what it gives back is known from then on -/
theorem pv_sink {c : List Id} (op : SinkOp) (h : ∀ x ∈ opArgs op, x ∈ c) : PV c (sink op) outRets :=
  ⟨fun s => ⟨fun K out s' e hh hc => by
    obtain ⟨d, _, rfl⟩ := sink_ok.mp e
    refine ⟨[(op, out)], rfl, ⟨fun x hx => Or.inl (hc x (h x hx)), trivial⟩, fun x hx => Or.inl (hh x hx), ?_⟩
    intro x hx
    exact Or.inr (by simpa [rets] using hx)⟩⟩

theorem mem_held {s : State} {x : Id} : x ∈ held s ↔ x = s.docHandle ∨ x ∈ s.opened ∨ s.currElem = some x := by
  simp [held, Option.mem_toList]

/-! ## the functions of the model -/

theorem mem_app_l {x : Id} {a b : List Id} (h : x ∈ a) : x ∈ a ++ b := List.mem_append_left _ h
theorem mem_app_r {x : Id} {a b : List Id} (h : x ∈ b) : x ∈ a ++ b := List.mem_append_right _ h

theorem pv_sinkUnit {c : List Id} (op : SinkOp) (h : ∀ x ∈ opArgs op, x ∈ c) : PV c (sinkUnit op) nil := by
  unfold sinkUnit
  exact (pv_sink op h).bind fun _ => PV.pure (fun _ hx => nomatch hx)

theorem pv_sinkNode {c : List Id} (op : SinkOp) (h : ∀ x ∈ opArgs op, x ∈ c) : PV c (sinkNode op) one := by
  unfold sinkNode
  refine (pv_sink op h).bind fun out => ?_
  cases out with
  | node id => exact PV.pure (fun x hx => by simp [outRets] at hx ⊢; exact Or.inl hx)
  | unit | bool b | name a b => exact PV.throw _

theorem pv_elemName {c : List Id} (h : Id) (hc : h ∈ c) : PV c (elemName h) nil := by
  unfold elemName
  refine (pv_sink (.elemName h) (fun x hx => by simp [opArgs] at hx; exact hx ▸ hc)).bind fun out => ?_
  cases out with
  | name a b => exact PV.pure (fun _ hx => nomatch hx)
  | unit | bool b | node id => exact PV.throw _

theorem pv_parseErr {c : List Id} (e : H5V.Model.XmlTB.Err) : PV c (parseErr e) nil :=
  pv_sinkUnit _ (fun _ hx => nomatch hx)

theorem pv_parseErrs {c : List Id} : ∀ (es : List H5V.Model.XmlTB.Err), PV c (parseErrs es) nil
  | [] => PV.pure (fun _ hx => nomatch hx)
  | e :: rest => by
    unfold parseErrs
    exact (pv_parseErr e).bind fun _ => (pv_parseErrs rest).weaken (fun _ hx => mem_app_r hx)

theorem pv_mod_noheld {c : List Id} {f : State → State} (ht : ∀ s, (f s).traceRev = s.traceRev)
    (hf : ∀ s, held (f s) = held s) : PV c (modS f) nil :=
  pv_modS ht (fun s _ hx => Or.inl (hf s ▸ hx))

theorem pv_processNamespaces {c : List Id} (cfg : TbCfg) (t : Tag) : PV c (processNamespaces cfg t) nil := by
  unfold processNamespaces
  refine PV.getS_bind fun s => (PV.h ?_ s)
  refine (pv_parseErrs _).bind fun _ => PV.bind (R := nil) (PV.ite ?_ (PV.pure (fun _ hx => nomatch hx))) fun _ =>
    PV.pure (fun _ hx => nomatch hx)
  exact pv_mod_noheld (fun _ => rfl) (fun _ => rfl)

theorem pv_createElement {c : List Id} (b : Bound) : PV c (createElement b) one :=
  pv_sinkNode _ (fun _ hx => nomatch hx)

theorem pv_currentNode {c : List Id} (site : String) : PV c (currentNode site) one := by
  unfold currentNode
  refine PV.getS_bind fun s => ?_
  cases ho : s.opened with
  | nil => exact (PV.throw _).h s
  | cons h rest =>
    refine (PV.pure (fun x hx => ?_)).h s
    simp only [List.mem_singleton] at hx
    subst hx
    exact mem_app_l (mem_held.mpr (Or.inr (Or.inl (by rw [ho]; exact List.mem_cons_self))))

theorem pv_push {c : List Id} (h : Id) (hc : h ∈ c) : PV c (push h) nil := by
  unfold push
  refine pv_modS (fun _ => rfl) (fun s x hx => ?_)
  rcases mem_held.mp hx with h1 | h1 | h1
  · exact Or.inl (mem_held.mpr (Or.inl h1))
  · rcases List.mem_cons.mp h1 with rfl | h1
    · exact Or.inr hc
    · exact Or.inl (mem_held.mpr (Or.inr (Or.inl h1)))
  · exact Or.inl (mem_held.mpr (Or.inr (Or.inr h1)))

theorem pv_insertAppropriately {c : List Id} (child : NodeOrText) (hc : ∀ x ∈ childIds child, x ∈ c) :
    PV c (insertAppropriately child) nil := by
  unfold insertAppropriately
  refine (pv_currentNode _).bind fun t => pv_sinkUnit _ (fun x hx => ?_)
  simp only [opArgs, List.mem_cons] at hx
  rcases hx with rfl | hx
  · exact mem_app_l List.mem_cons_self
  · exact mem_app_r (hc x hx)

theorem pv_insertTag {c : List Id} (b : Bound) : PV c (insertTag b) nil := by
  unfold insertTag
  refine (pv_createElement b).bind fun child => ?_
  refine (pv_insertAppropriately _ (fun x hx => ?_)).bind fun _ => pv_push _ (mem_app_r (mem_app_l List.mem_cons_self))
  simp only [childIds, List.mem_singleton] at hx
  exact hx ▸ mem_app_l List.mem_cons_self

theorem pv_appendTag {c : List Id} (b : Bound) : PV c (appendTag b) nil := by
  unfold appendTag
  refine (pv_createElement b).bind fun child => ?_
  refine (pv_insertAppropriately _ (fun x hx => ?_)).bind fun _ => pv_sinkUnit _ (fun x hx => ?_)
  · simp only [childIds, List.mem_singleton] at hx
    exact hx ▸ mem_app_l List.mem_cons_self
  · simp only [opArgs, List.mem_singleton] at hx
    exact hx ▸ mem_app_r (mem_app_l List.mem_cons_self)

/-- `sink.append(&self.doc_handle, AppendNode(c))` -/
theorem pv_appendToDoc {c : List Id} (x : Id) (hx : x ∈ c) :
    PV c (getS >>= fun st => sinkUnit (.append st.docHandle (.node x))) nil := by
  refine PV.getS_bind fun s => PV.h (pv_sinkUnit _ (fun y hy => ?_)) s
  simp only [opArgs, childIds, List.mem_cons, List.not_mem_nil, or_false] at hy
  rcases hy with rfl | rfl
  · exact mem_app_l (mem_held.mpr (Or.inl rfl))
  · exact mem_app_r hx

theorem pv_appendTagToDoc {c : List Id} (b : Bound) : PV c (appendTagToDoc b) one := by
  unfold appendTagToDoc
  refine (pv_createElement b).bind fun child => ?_
  refine PV.getS_bind fun s => PV.h ?_ s
  refine (pv_sinkUnit _ (fun y hy => ?_)).bind fun _ => PV.pure (fun y hy => ?_)
  · simp only [opArgs, childIds, List.mem_cons, List.not_mem_nil, or_false] at hy
    rcases hy with rfl | rfl
    · exact mem_app_l (mem_held.mpr (Or.inl rfl))
    · exact mem_app_r (mem_app_l List.mem_cons_self)
  · simp only [List.mem_singleton] at hy
    exact hy ▸ mem_app_r (mem_app_r (mem_app_l List.mem_cons_self))

theorem pv_appendCommentToDoc {c : List Id} (t : List Char) : PV c (appendCommentToDoc t) nil := by
  unfold appendCommentToDoc
  exact (pv_sinkNode (.createComment t) (fun _ hx => nomatch hx)).bind fun x => pv_appendToDoc x (mem_app_l List.mem_cons_self)

theorem pv_appendPiToDoc {c : List Id} (t d : List Char) : PV c (appendPiToDoc t d) nil := by
  unfold appendPiToDoc
  exact (pv_sinkNode (.createPi t d) (fun _ hx => nomatch hx)).bind fun x => pv_appendToDoc x (mem_app_l List.mem_cons_self)

theorem pv_appendLeafToTag {c : List Id} (mk : SinkOp) (hmk : opArgs mk = []) :
    PV c (currentNode "438" >>= fun target => sinkNode mk >>= fun x => sinkUnit (.append target (.node x))) nil := by
  refine (pv_currentNode _).bind fun target => ?_
  refine (pv_sinkNode mk (fun x hx => by rw [hmk] at hx; cases hx)).bind fun x => pv_sinkUnit _ (fun y hy => ?_)
  simp only [opArgs, childIds, List.mem_cons, List.not_mem_nil, or_false] at hy
  rcases hy with rfl | rfl
  · exact mem_app_r (mem_app_l List.mem_cons_self)
  · exact mem_app_l List.mem_cons_self

theorem pv_appendCommentToTag {c : List Id} (t : List Char) : PV c (appendCommentToTag t) nil := by
  unfold appendCommentToTag; exact pv_appendLeafToTag _ rfl

theorem pv_appendPiToTag {c : List Id} (t d : List Char) : PV c (appendPiToTag t d) nil := by
  unfold appendPiToTag; exact pv_appendLeafToTag _ rfl

theorem pv_appendDoctypeToDoc {c : List Id} (n p sy : Option (List Char)) : PV c (appendDoctypeToDoc n p sy) nil :=
  pv_sinkUnit _ (fun _ hx => nomatch hx)

theorem pv_appendText {c : List Id} (t : List Char) : PV c (appendText t) nil :=
  pv_insertAppropriately _ (fun _ hx => nomatch hx)

theorem pv_anyNamed {c : List Id} (name : QName) : ∀ (l : List Id), (∀ x ∈ l, x ∈ c) → PV c (anyNamed name l) nil
  | [], _ => PV.pure (fun _ hx => nomatch hx)
  | a :: rest, hl => by
    unfold anyNamed
    refine (pv_elemName a (hl a List.mem_cons_self)).bind fun p => ?_
    obtain ⟨ns, loc⟩ := p
    exact PV.ite (PV.pure (fun _ hx => nomatch hx))
      ((pv_anyNamed name rest (fun x hx => hl x (List.mem_cons_of_mem _ hx))).weaken (fun _ hx => mem_app_r hx))

theorem pv_tagInOpenElems {c : List Id} (name : QName) : PV c (tagInOpenElems name) nil := by
  unfold tagInOpenElems
  refine PV.getS_bind fun s => PV.h (pv_anyNamed name _ (fun x hx => ?_)) s
  exact mem_app_l (mem_held.mpr (Or.inr (Or.inl (List.mem_reverse.mp hx))))

theorem pv_pop {c : List Id} : PV c pop one := by
  unfold pop
  refine PV.bind (R := nil) ?_ fun _ => PV.getS_bind fun s => ?_
  · exact pv_mod_noheld (fun _ => rfl) (fun _ => rfl)
  cases ho : s.opened with
  | nil => exact (PV.throw _).h s
  | cons node rest =>
    refine PV.h ?_ s
    have hn : node ∈ held s := mem_held.mpr (Or.inr (Or.inl (by rw [ho]; exact List.mem_cons_self)))
    refine PV.bind (R := nil) (pv_modS (fun _ => rfl) (fun s' x hx => ?_)) fun _ => ?_
    · rcases mem_held.mp hx with h1 | h1 | h1
      · exact Or.inl (mem_held.mpr (Or.inl h1))
      · have : x ∈ held s := mem_held.mpr (Or.inr (Or.inl (by rw [ho]; exact List.mem_cons_of_mem _ h1)))
        exact Or.inr (mem_app_l this)
      · exact Or.inl (mem_held.mpr (Or.inr (Or.inr h1)))
    · refine (pv_sinkUnit _ (fun y hy => ?_)).bind fun _ => PV.pure (fun y hy => ?_)
      · simp only [opArgs, List.mem_singleton] at hy
        exact hy ▸ mem_app_r (mem_app_l hn)
      · simp only [List.mem_singleton] at hy
        exact hy ▸ mem_app_r (mem_app_r (mem_app_l hn))

theorem pv_currentNodeIs {c : List Id} (name : QName) : PV c (currentNodeIs name) nil := by
  unfold currentNodeIs
  refine (pv_currentNode _).bind fun cur => (pv_elemName cur (mem_app_l List.mem_cons_self)).bind fun p => ?_
  obtain ⟨ns, loc⟩ := p
  exact PV.pure (fun _ hx => nomatch hx)

theorem pv_popUntil {c : List Id} (name : QName) : ∀ (fuel : Nat), PV c (popUntil name fuel) nil
  | 0 => PV.throw _
  | fuel + 1 => by
    unfold popUntil
    refine (pv_currentNodeIs name).bind fun b => PV.ite (PV.pure (fun _ hx => nomatch hx)) ?_
    exact (pv_pop.forget (R' := nil) (fun _ _ hx => nomatch hx)).bind fun _ => pv_popUntil name fuel

theorem pv_closeTag {c : List Id} (name : QName) : PV c (closeTag name) nil := by
  unfold closeTag
  refine (pv_currentNode _).bind fun cur => (pv_elemName cur (mem_app_l List.mem_cons_self)).bind fun p => ?_
  obtain ⟨ns, loc⟩ := p
  refine PV.bind (R := nil) (PV.ite (pv_parseErr _) (PV.pure (fun _ hx => nomatch hx))) fun _ => ?_
  refine (pv_tagInOpenElems name).bind fun b => PV.ite ?_ (PV.pure (fun _ hx => nomatch hx))
  refine PV.getS_bind fun s => PV.h ?_ s
  exact (pv_popUntil name _).bind fun _ => (pv_pop.forget (R' := nil) (fun _ _ hx => nomatch hx)).bind fun _ =>
    PV.pure (fun _ hx => nomatch hx)

theorem pv_endIfNoOpenElems {c : List Id} : PV c endIfNoOpenElems nil := by
  unfold endIfNoOpenElems
  refine pv_mod_noheld (fun s => ?_) (fun s => ?_) <;> split <;> rfl

theorem pv_setPhase {c : List Id} (p : Phase) : PV c (setPhase p) nil :=
  pv_mod_noheld (fun _ => rfl) (fun _ => rfl)

/-- the handle in a `Script` answer of `step` -/
def stepH : StepResult → List Id
  | .script n => [n]
  | _ => []

/-- the handle in a `Script` answer of `process_token` -/
def resH : PResult → List Id
  | .script n => [n]
  | _ => []

theorem pv_done {c : List Id} : PV c (Pure.pure StepResult.done : M StepResult) stepH :=
  PV.pure (fun _ hx => nomatch hx)

theorem pv_then_done {c : List Id} {m : M Unit} (h : PV c m nil) :
    PV c (m >>= fun _ => Pure.pure StepResult.done) stepH := h.bind fun _ => pv_done

theorem pv_step {c : List Id} (cfg : TbCfg) (mode : Phase) (tok : Token) : PV c (step cfg mode tok) stepH := by
  cases mode with
  | start =>
    cases tok with
    | tag t =>
      obtain ⟨k, n, as⟩ := t
      cases k with
      | start =>
        show PV c (processNamespaces cfg ⟨.start, n, as⟩ >>= _) _
        refine (pv_processNamespaces cfg _).bind fun b => (pv_setPhase _).bind fun _ =>
          (pv_appendTagToDoc b).bind fun h => (pv_push h (mem_app_l List.mem_cons_self)).bind fun _ => pv_done
      | empty =>
        show PV c (processNamespaces cfg ⟨.empty, n, as⟩ >>= _) _
        refine (pv_processNamespaces cfg _).bind fun b => (pv_setPhase _).bind fun _ =>
          (pv_appendTagToDoc b).bind fun h => (pv_sinkUnit _ (fun y hy => ?_)).bind fun _ => pv_done
        simp only [opArgs, List.mem_singleton] at hy
        exact hy ▸ mem_app_l List.mem_cons_self
      | end_ | short => exact pv_then_done (pv_parseErr _)
    | doctype n p sy =>
      show PV c (getS >>= _) _
      refine PV.getS_bind fun s => PV.h ?_ s
      refine PV.bind (R := nil) ?_ fun _ => ?_
      · exact pv_mod_noheld (fun _ => rfl) (fun _ => rfl)
      exact PV.bind (R := nil) (PV.ite (pv_parseErr _) (pv_appendDoctypeToDoc n p sy)) fun _ => pv_done
    | comment t => exact pv_then_done (pv_appendCommentToDoc t)
    | pi t d => exact pv_then_done (pv_appendPiToDoc t d)
    | chars cs => exact PV.ite pv_done (pv_then_done (pv_parseErr _))
    | nullChar => exact pv_then_done (pv_parseErr _)
    | eof => exact (pv_parseErr _).bind fun _ => PV.pure (fun _ hx => nomatch hx)
  | main =>
    cases tok with
    | tag t =>
      obtain ⟨k, n, as⟩ := t
      cases k with
      | start =>
        show PV c (processNamespaces cfg ⟨.start, n, as⟩ >>= _) _
        exact (pv_processNamespaces cfg _).bind fun b => pv_then_done (pv_insertTag b)
      | empty =>
        show PV c (processNamespaces cfg ⟨.empty, n, as⟩ >>= _) _
        refine (pv_processNamespaces cfg _).bind fun b => PV.ite ?_ (pv_then_done (pv_appendTag b))
        refine (pv_insertTag b).bind fun _ => (pv_currentNode _).bind fun script => (pv_closeTag _).bind fun _ =>
          PV.pure (fun y hy => ?_)
        simp only [stepH, List.mem_singleton] at hy
        exact hy ▸ mem_app_r (mem_app_l List.mem_cons_self)
      | end_ =>
        show PV c (processNamespaces cfg ⟨.end_, n, as⟩ >>= _) _
        refine (pv_processNamespaces cfg _).bind fun b => PV.ite ?_ ?_
        · refine (pv_currentNode _).bind fun script => (pv_closeTag _).bind fun _ => pv_endIfNoOpenElems.bind fun _ =>
            PV.pure (fun y hy => ?_)
          simp only [stepH, List.mem_singleton] at hy
          exact hy ▸ mem_app_r (mem_app_r (mem_app_l List.mem_cons_self))
        · exact (pv_closeTag _).bind fun _ => pv_then_done pv_endIfNoOpenElems
      | short =>
        exact (pv_pop.forget (R' := nil) (fun _ _ hx => nomatch hx)).bind fun _ => pv_then_done pv_endIfNoOpenElems
    | doctype n p sy => exact pv_then_done (pv_parseErr _)
    | comment t => exact pv_then_done (pv_appendCommentToTag t)
    | pi t d => exact pv_then_done (pv_appendPiToTag t d)
    | chars cs => exact pv_then_done (pv_appendText cs)
    | nullChar | eof => exact PV.pure (fun _ hx => nomatch hx)
  | end_ =>
    cases tok with
    | tag t | doctype n p sy => exact pv_then_done (pv_parseErr _)
    | comment t => exact pv_then_done (pv_appendCommentToDoc t)
    | pi t d => exact pv_then_done (pv_appendPiToDoc t d)
    | chars cs => exact PV.ite pv_done (pv_then_done (pv_parseErr _))
    | nullChar => exact pv_then_done (pv_parseErr _)
    | eof => exact pv_done

theorem pv_processToCompletion {c : List Id} (cfg : TbCfg) : ∀ (fuel : Nat) (tok : Token),
    PV c (processToCompletion cfg fuel tok) resH
  | 0, _ => PV.throw _
  | fuel + 1, tok => by
    unfold processToCompletion
    refine PV.getS_bind fun s => PV.h ?_ s
    refine (pv_step cfg s.phase tok).bind fun r => ?_
    cases r with
    | done => exact PV.pure (fun _ hx => nomatch hx)
    | reprocess m t => exact (pv_setPhase m).bind fun _ => pv_processToCompletion cfg fuel t
    | script node => exact PV.pure (fun y hy => by
        simp only [resH, List.mem_singleton] at hy
        exact hy ▸ mem_app_l List.mem_cons_self)

theorem pv_processToken {c : List Id} (cfg : TbCfg) (inp : Input) : PV c (processToken cfg inp) resH := by
  cases inp with
  | parseError msg =>
    exact (pv_sinkUnit (.parseError msg) (fun _ hx => nomatch hx)).bind fun _ => PV.pure (fun _ hx => nomatch hx)
  | token t => exact pv_processToCompletion cfg 2 t

theorem pv_popAll {c : List Id} : ∀ (l : List Id), (∀ x ∈ l, x ∈ c) → PV c (popAll l) nil
  | [], _ => PV.pure (fun _ hx => nomatch hx)
  | a :: rest, hl => by
    unfold popAll
    refine (pv_sinkUnit _ (fun y hy => ?_)).bind fun _ =>
      (pv_popAll rest (fun x hx => hl x (List.mem_cons_of_mem _ hx))).weaken (fun _ hx => mem_app_r hx)
    simp only [opArgs, List.mem_singleton] at hy
    exact hy ▸ hl a List.mem_cons_self

theorem pv_finish {c : List Id} : PV c finish nil := by
  unfold finish
  refine PV.getS_bind fun s => PV.h ?_ s
  refine PV.bind (R := nil) (pv_modS (fun _ => rfl) (fun s' x hx => ?_)) fun _ =>
    pv_popAll _ (fun x hx => mem_app_r (mem_app_l (mem_held.mpr (Or.inr (Or.inl hx)))))
  rcases mem_held.mp hx with h1 | h1 | h1
  · exact Or.inl (mem_held.mpr (Or.inl h1))
  · cases h1
  · exact Or.inl (mem_held.mpr (Or.inr (Or.inr h1)))

theorem pv_processTokens {c : List Id} (cfg : TbCfg) : ∀ (toks : List Input), PV c (processTokens cfg toks) nil
  | [] => PV.pure (fun _ hx => nomatch hx)
  | t :: rest => by
    unfold processTokens
    exact ((pv_processToken cfg t).forget (R' := nil) (fun _ _ hx => nomatch hx)).bind fun _ =>
      pv_processTokens cfg rest

theorem pv_newTB {c : List Id} : PV c newTB nil := by
  unfold newTB
  refine (pv_sinkNode .getDocument (fun _ hx => nomatch hx)).bind fun doc => pv_modS (fun _ => rfl) (fun s x hx => ?_)
  rcases mem_held.mp hx with h1 | h1 | h1
  · exact Or.inr (h1 ▸ mem_app_l List.mem_cons_self)
  · exact Or.inl (mem_held.mpr (Or.inr (Or.inl h1)))
  · exact Or.inl (mem_held.mpr (Or.inr (Or.inr h1)))

end H5V.Lemmas.XmlTBH
