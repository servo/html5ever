import H5V.Lemmas.HtmlTBModesTable3
import H5V.Lemmas.HtmlTBModesBody1
/-!
The table family of insertion modes: "in table text".

The model collects the character tokens as chunks `(split status, text)` in `pending_table_text`; on the
first other token it flushes them — chunk by chunk through `foster_parent_in_body` when some chunk has a
character that is not whitespace, chunk by chunk with `append_text` otherwise — and reprocesses the token
in the original insertion mode.  The specification keeps the characters and reprocesses them one by one
with "anything else" of "in table", or inserts them all at once.

The chunks must be what the tokenizer delivered (`TbltPendOk`: non-empty, no U+0000, the characters have
the class of the status): the model decides "contains a non-space" by the status alone.
-/
namespace H5V.Lemmas.HtmlTBModes
open H5V.Model.HtmlTB
open H5V.Model.Dom (Id SinkOp Output Dom QualName Attr NodeOrText ElementFlags NodeData QuirksMode)
open H5V.Lemmas.HtmlTBAlgo
open H5V.Lemmas.TBSafe (TI HInv SInv Rooted)
open H5V.Spec.TreeAlgo2 (Elem Entry PState Ctx Edit Place)
open H5V.Spec.TreeModes (STok ETok IMode Config Out TokSwitch XOp Op Step Edition)

/-! ### "in body" on a run of characters, without the dispatcher -/

/-- every character of the run handled by "in body" (as `flushPendingFostered`, with "in body" itself) -/
def tbltBodyRun (cfg : Config Id) : Str → SState → Spec.TreeModes.M SState
  | [], σ => pure σ
  | c :: cs, σ => do
    let r ← Spec.TreeModes.inBody cfg σ (.character c)
    tbltBodyRun cfg cs r.state

/-- the run after the reconstruction -/
theorem tblt_run_of_fold {cfg : Config Id} : ∀ (t : Str) (σ σ' : SState), (∀ c ∈ t, c ≠ '\x00') → ReconDone σ →
    t.foldlM b1_g σ = .ok σ' → tbltBodyRun cfg t σ = .ok σ' := by
  intro t
  induction t with
  | nil => intro σ σ' _ _ h; cases h; rfl
  | cons c cs ih =>
    intro σ σ' hnz hd h
    rw [List.foldlM_cons] at h
    cases h1 : b1_g σ c with
    | error e => rw [h1] at h; cases h
    | ok σ1 =>
      rw [h1] at h
      simp only [tbltBodyRun]
      rw [b1_inBody_char (hnz c List.mem_cons_self) (reconstruct_of_reconDone hd), h1]
      exact ih σ1 σ' (fun c hc => hnz c (List.mem_cons_of_mem _ hc)) ((b1_g_disp h1).2 hd) h

/-- the first character is handled in the state before the reconstruction -/
theorem tblt_run_first {cfg : Config Id} {σ0 σ1 σ' : SState} {t : Str} (hne : t ≠ []) (hnz : ∀ c ∈ t, c ≠ '\x00')
    (hr : Spec.TreeModes.reconstruct σ0 = .ok σ1) (h : t.foldlM b1_g σ1 = .ok σ') :
    tbltBodyRun cfg t σ0 = .ok σ' := by
  cases t with
  | nil => exact absurd rfl hne
  | cons c cs =>
    rw [List.foldlM_cons] at h
    cases h1 : b1_g σ1 c with
    | error e => rw [h1] at h; cases h
    | ok σ2 =>
      rw [h1] at h
      simp only [tbltBodyRun]
      rw [b1_inBody_char (hnz c List.mem_cons_self) hr, h1]
      exact tblt_run_of_fold cs σ2 σ' (fun c hc => hnz c (List.mem_cons_of_mem _ hc))
        ((b1_g_disp h1).2 (reconDone_of_reconstruct hr)) h

/-- what a step of a rule leaves alone -/
structure TbltFr (s s' : State) : Prop where
  mode : s'.mode = s.mode
  origMode : s'.origMode = s.origMode
  pendingTableText : s'.pendingTableText = s.pendingTableText

theorem TbltFr.refl (s : State) : TbltFr s s := ⟨rfl, rfl, rfl⟩
theorem TbltFr.trans {a b c : State} (h1 : TbltFr a b) (h2 : TbltFr b c) : TbltFr a c :=
  ⟨h2.mode.trans h1.mode, h2.origMode.trans h1.origMode, h2.pendingTableText.trans h1.pendingTableText⟩
theorem TbltFr.of_sameTB {s s' : State} (h : SameTB s s') : TbltFr s s' :=
  ⟨h.fields.mode, h.fields.origMode, h.fields.pendingTableText⟩

/-- **`stepInBody` on a run of characters**: every character handled by "in body" -/
theorem tblt_pc_bodyChars {s : State} (hm : MInv s) (st : SplitStatus) {text : Str} (hne : text ≠ [])
    (hnz : ∀ c ∈ text, c ≠ '\x00') :
    PC (stepInBody (.chars st text)) s (fun r s' calls => r = .done ∧ TbltFr s s' ∧
      Tr s s' calls (fun x x' => tbltBodyRun (cfgOf s) text (absF s x) = .ok (absF s' x'))) := by
  simp only [stepInBody]
  refine pc_seq (pc_reconstruct hm) ?_
  rintro _ s1 c1 _ ⟨hS1, -, htr1⟩
  have hm1 : MInv s1 := htr1.1
  have f1 := sbsl_fields hS1
  have fr1 : TbltFr s s1 := ⟨f1.mode, f1.origMode, f1.pendingTableText⟩
  cases hany : anyNotWhitespace text with
  | false =>
    simp only [Bool.false_eq_true, if_false]
    refine pc_conseq (pc_appendText hm1 text) ?_
    rintro r s3 c3 _ ⟨rfl, hs3, htr3⟩
    refine ⟨rfl, fr1.trans (TbltFr.of_sameTB hs3), (htr1.trans htr3).conseq ?_⟩
    rintro x x3 hx hx3 ⟨x1, r1, r3⟩
    refine tblt_run_first hne hnz r1 ?_
    have := b1_fold_g text _ _ r3
    rw [b1_all_any, hany] at this
    exact this
  | true =>
    simp only [if_true]
    refine pc_seq (pc_setFramesetNotOk hm1) ?_
    rintro _ s2 c2 _ ⟨hs2, htr2⟩
    have hm2 : MInv s2 := htr2.1
    refine pc_conseq (pc_appendText hm2 text) ?_
    rintro r s3 c3 _ ⟨rfl, hs3, htr3⟩
    have fr2 : TbltFr s1 s2 := by rw [hs2]; exact ⟨rfl, rfl, rfl⟩
    rw [← List.append_assoc]
    refine ⟨rfl, (fr1.trans fr2).trans (TbltFr.of_sameTB hs3), ((htr1.trans htr2).trans htr3).conseq ?_⟩
    rintro x x3 hx hx3 ⟨x2, ⟨x1, r1, hx2, r2⟩, r3⟩
    subst x2
    refine tblt_run_first hne hnz r1 ?_
    rw [r2] at r3
    refine b1_fold_g_notOk text hne _ _ r3 ?_
    rw [b1_all_any, hany]
    rfl

/-! ### the specification's flush of a chunk inside one bracket of the flag -/

theorem tblt_inBody_done {cfg : Config Id} {σ : SState} {c : Char} {r : Step Id} (hc : c ≠ '\x00')
    (h : Spec.TreeModes.inBody cfg σ (.character c) = .ok r) : ∃ σ1, r = .done σ1 := by
  rw [tbl_inBody_char cfg σ hc] at h
  cases h1 : Spec.TreeAlgo2.reconstructActiveFormattingElements Spec.TreeModes.cx σ.p with
  | none => rw [h1] at h; cases h
  | some p1 =>
    rw [h1] at h
    cases h2 : Spec.TreeAlgo2.insertCharacters p1 [c] with
    | none => simp only [Spec.TreeModes.req, bind, Except.bind, pure, Except.pure, h2] at h; cases h
    | some p2 =>
      simp only [Spec.TreeModes.req, bind, Except.bind, pure, Except.pure, h2] at h
      cases h
      exact ⟨_, rfl⟩

theorem tblt_inBody_fp {cfg : Config Id} {σ σ1 : SState} {c : Char} (hc : c ≠ '\x00')
    (h : Spec.TreeModes.inBody cfg σ (.character c) = .ok (.done σ1)) :
    σ1.p.fosterParenting = σ.p.fosterParenting := by
  obtain ⟨p1, p2, h1, h2, rfl⟩ := tbl_inBody_char_ok hc h
  obtain ⟨r1, -, -⟩ := tbl_reconstruct _ _ _ h1
  obtain ⟨-, -, i3⟩ := tbl_insertCharacters_ok h2
  rw [tblBodyCharFin_p, i3, r1]

/-- one character reprocessed by "anything else" of "in table"; `σ` is the state in which the model runs
"in body" (the flag set) -/
theorem tblt_anythingElse_char {cfg : Config Id} {τ σ σ1 : SState} {c : Char} (hc : c ≠ '\x00')
    (hτ : τ.setFoster true = { σ with errors := τ.errors })
    (h : Spec.TreeModes.inBody cfg σ (.character c) = .ok (.done σ1)) :
    Spec.TreeModes.inTableAnythingElse cfg τ (.character c)
      = .ok (.done (tblUnfoster σ1 (τ.errors ++ ["in table: foster parenting"]))) := by
  obtain ⟨p1, p2, h1, h2, rfl⟩ := tbl_inBody_char_ok hc h
  have e0 : ((τ.err "in table: foster parenting").setFoster true)
      = { σ with errors := τ.errors ++ ["in table: foster parenting"] } := by
    show ({ τ.setFoster true with errors := τ.errors ++ ["in table: foster parenting"] } : SState) = _
    rw [hτ]
  simp only [Spec.TreeModes.inTableAnythingElse]
  rw [e0, tbl_inBody_char_of (σ := { σ with errors := τ.errors ++ ["in table: foster parenting"] }) hc h1 h2]
  unfold tblBodyCharFin tblUnfoster
  by_cases hw : Spec.TreeModes.isWs c = true
  · simp only [hw, if_true]; rfl
  · simp only [hw]; rfl

theorem tblt_unfoster_hτ (σ : SState) (E : List String) (hfp : σ.p.fosterParenting = true) :
    (tblUnfoster σ E).setFoster true = { σ with errors := (tblUnfoster σ E).errors } := by
  show ({ σ with errors := E, p := { σ.p with fosterParenting := true } } : SState) = _
  rw [tbl_p_eta σ.p hfp]
  rfl

/-- the characters of a chunk: the model's run of "in body" inside one bracket is the specification's
character-by-character reprocessing -/
theorem tblt_flush_of_bodyRun {cfg : Config Id} : ∀ (text : Str) (τ σ σ' : SState), (∀ c ∈ text, c ≠ '\x00') → text ≠ [] →
    τ.setFoster true = { σ with errors := τ.errors } → σ.p.fosterParenting = true →
    tbltBodyRun cfg text σ = .ok σ' →
    Spec.TreeModes.flushPendingFostered cfg text τ
      = .ok (tblUnfoster σ' (τ.errors ++ List.replicate text.length "in table: foster parenting")) := by
  intro text
  induction text with
  | nil => intro _ _ _ _ hne; exact absurd rfl hne
  | cons c cs ih =>
    intro τ σ σ' hnz _ hτ hfp h
    have hc := hnz c List.mem_cons_self
    simp only [tbltBodyRun] at h
    cases hb : Spec.TreeModes.inBody cfg σ (.character c) with
    | error e => rw [hb] at h; cases h
    | ok r =>
      rw [hb] at h
      obtain ⟨σ1, rfl⟩ := tblt_inBody_done hc hb
      have h' : tbltBodyRun cfg cs σ1 = .ok σ' := h
      have hfp1 : σ1.p.fosterParenting = true := (tblt_inBody_fp hc hb).trans hfp
      simp only [Spec.TreeModes.flushPendingFostered]
      rw [tblt_anythingElse_char hc hτ hb]
      show Spec.TreeModes.flushPendingFostered cfg cs (tblUnfoster σ1 (τ.errors ++ ["in table: foster parenting"])) = _
      cases cs with
      | nil =>
        simp only [tbltBodyRun] at h'
        cases h'
        rfl
      | cons c2 cs' =>
        rw [ih _ σ1 σ' (fun c hc => hnz c (List.mem_cons_of_mem _ hc)) (by simp)
          (tblt_unfoster_hτ σ1 _ hfp1) hfp1 h']
        show Except.ok (tblUnfoster σ' ((τ.errors ++ ["in table: foster parenting"]) ++ _)) = _
        rw [List.append_assoc, List.singleton_append, ← List.replicate_succ]
        rfl

theorem tblt_flush_append {cfg : Config Id} : ∀ (a b : Str) (τ : SState),
    Spec.TreeModes.flushPendingFostered cfg (a ++ b) τ
      = (Spec.TreeModes.flushPendingFostered cfg a τ >>= fun τ1 => Spec.TreeModes.flushPendingFostered cfg b τ1) := by
  intro a
  induction a with
  | nil => intro b τ; rfl
  | cons c cs ih =>
    intro b τ
    simp only [List.cons_append, Spec.TreeModes.flushPendingFostered]
    cases h : Spec.TreeModes.inTableAnythingElse cfg τ (.character c) with
    | error e => rfl
    | ok r =>
      show Spec.TreeModes.flushPendingFostered cfg (cs ++ b) r.state = _
      rw [ih]
      rfl

/-! ### the flush does not look at the pending table character tokens -/

theorem tblt_anythingElse_pend {cfg : Config Id} {σ : SState} {c : Char} {r : Step Id} (hc : c ≠ '\x00') (L : Str)
    (h : Spec.TreeModes.inTableAnythingElse cfg σ (.character c) = .ok r) :
    Spec.TreeModes.inTableAnythingElse cfg { σ with pendingTableChars := L } (.character c)
      = .ok (r.map fun σ' => { σ' with pendingTableChars := L }) := by
  simp only [Spec.TreeModes.inTableAnythingElse] at h ⊢
  have e : ((({ σ with pendingTableChars := L } : SState).err "in table: foster parenting").setFoster true)
      = { ((σ.err "in table: foster parenting").setFoster true) with pendingTableChars := L } := rfl
  rw [e]
  generalize (σ.err "in table: foster parenting").setFoster true = σ2 at h ⊢
  rw [tbl_inBody_char cfg _ hc] at h ⊢
  show (do
      let p1 ← Spec.TreeModes.req (Spec.TreeAlgo2.reconstructActiveFormattingElements Spec.TreeModes.cx σ2.p) _
      let p2 ← Spec.TreeModes.req (Spec.TreeAlgo2.insertCharacters p1 [c]) _
      pure (Step.done (tblBodyCharFin { σ2 with pendingTableChars := L } c p2))) >>= _ = _
  cases h1 : Spec.TreeAlgo2.reconstructActiveFormattingElements Spec.TreeModes.cx σ2.p with
  | none => rw [h1] at h; cases h
  | some p1 =>
    rw [h1] at h
    cases h2 : Spec.TreeAlgo2.insertCharacters p1 [c] with
    | none => simp only [Spec.TreeModes.req, bind, Except.bind, pure, Except.pure, h2] at h; cases h
    | some p2 =>
      simp only [Spec.TreeModes.req, bind, Except.bind, pure, Except.pure, h2] at h ⊢
      cases h
      unfold tblBodyCharFin
      by_cases hw : Spec.TreeModes.isWs c = true
      · simp only [hw, if_true]; rfl
      · simp only [hw]; rfl

theorem tblt_flush_pend {cfg : Config Id} (L : Str) : ∀ (text : Str) (σ σ' : SState), (∀ c ∈ text, c ≠ '\x00') →
    Spec.TreeModes.flushPendingFostered cfg text σ = .ok σ' →
    Spec.TreeModes.flushPendingFostered cfg text { σ with pendingTableChars := L }
      = .ok { σ' with pendingTableChars := L } := by
  intro text
  induction text with
  | nil => intro σ σ' _ h; cases h; rfl
  | cons c cs ih =>
    intro σ σ' hnz h
    simp only [Spec.TreeModes.flushPendingFostered] at h ⊢
    cases h1 : Spec.TreeModes.inTableAnythingElse cfg σ (.character c) with
    | error e => rw [h1] at h; cases h
    | ok r =>
      rw [h1] at h
      rw [tblt_anythingElse_pend (hnz c List.mem_cons_self) L h1]
      have h' : Spec.TreeModes.flushPendingFostered cfg cs r.state = .ok σ' := h
      have := ih r.state σ' (fun c hc => hnz c (List.mem_cons_of_mem _ hc)) h'
      cases r <;> exact this

theorem tblt_insertChars_pend (L : Str) (text : Str) (σ σ' : SState)
    (h : Spec.TreeModes.insertChars σ text = .ok σ') :
    Spec.TreeModes.insertChars { σ with pendingTableChars := L } text = .ok { σ' with pendingTableChars := L } := by
  cases text with
  | nil => cases h; rfl
  | cons c cs =>
    simp only [Spec.TreeModes.insertChars] at h ⊢
    cases h1 : Spec.TreeAlgo2.insertCharacters σ.p (c :: cs) with
    | none => rw [h1] at h; cases h
    | some p =>
      rw [h1] at h
      cases h
      rfl

/-! ### "contains a non-space": the model's test by the split status, the specification's by the characters -/

/-- the chunks are what the tokenizer delivered -/
def TbltPendOk (l : List (SplitStatus × Str)) : Prop := ∀ p ∈ l, TokWf (.chars p.1 p.2)

def tbltChunkNonspace (x : SplitStatus × Str) : Bool :=
  match x.1 with
  | .whitespace => false
  | .notWhitespace => true
  | .notSplit => anyNotWhitespace x.2

theorem tblt_containsNonspace : ∀ (l : List (SplitStatus × Str)), TbltPendOk l →
    l.any tbltChunkNonspace = (pendingChars l).any (fun c => !Spec.TreeModes.isWs c) := by
  intro l
  induction l with
  | nil => intro _; rfl
  | cons p r ih =>
    intro h
    obtain ⟨st, t⟩ := p
    have hp : TokWf (.chars st t) := h (st, t) List.mem_cons_self
    have ih' := ih (fun q hq => h q (List.mem_cons_of_mem _ hq))
    simp only [List.any_cons, pendingChars, List.flatMap_cons, List.any_append] at ih' ⊢
    rw [ih']
    congr 1
    obtain ⟨hne, -, hcls⟩ := hp
    cases st with
    | notSplit =>
      show anyNotWhitespace t = _
      unfold anyNotWhitespace
      congr 1
      funext c
      rw [isWs_eq_ascii]
    | whitespace =>
      show false = _
      symm
      rw [List.any_eq_false]
      intro c hc
      have : isAsciiWhitespace c = true := hcls c hc
      rw [isWs_eq_ascii, this]
      simp
    | notWhitespace =>
      show true = _
      symm
      cases t with
      | nil => exact absurd rfl hne
      | cons c cs =>
        have : isAsciiWhitespace c = false := hcls c List.mem_cons_self
        simp [List.any_cons, isWs_eq_ascii, this]

/-! ### the model's flush loops -/

/-- one chunk, foster-parented -/
theorem tblt_pc_fosterChunk {s : State} (hm : MInv s) {st : SplitStatus} {text : Str} (hwf : TokWf (.chars st text)) :
    PC (fosterParentInBody (.chars st text)) s (fun r s' calls => r = .done ∧ TbltFr s s' ∧
      Tr s s' calls (fun x x' =>
        Spec.TreeModes.flushPendingFostered (cfgOf s) text (absF s x) = .ok (absF s' x'))) := by
  obtain ⟨hne, hnul, -⟩ := hwf
  have hnz : ∀ c ∈ text, c ≠ '\x00' := fun c hc e => hnul (e ▸ hc)
  unfold fosterParentInBody
  refine pc_seq (pc_modS (Q := fun _ s1 c => s1 = { s with fosterParenting := true } ∧ c = []) rfl rfl ⟨rfl, rfl⟩) ?_
  rintro _ s1 c1 _ ⟨rfl, rfl⟩
  have htr1 := tbl_tr_setFoster hm true
  refine pc_seq (tblt_pc_bodyChars htr1.1 st hne hnz) ?_
  rintro res s2 c2 _ ⟨rfl, fr2, htr2⟩
  refine pc_seq (pc_modS (Q := fun _ s3 c => s3 = { s2 with fosterParenting := false } ∧ c = []) rfl rfl ⟨rfl, rfl⟩) ?_
  rintro _ s3 c3 _ ⟨rfl, rfl⟩
  refine pc_pure ?_
  have htr3 := tbl_tr_setFoster htr2.1 false
  have htr := (htr1.trans htr2).trans htr3
  simp only [List.append_nil, List.nil_append] at htr ⊢
  refine ⟨trivial, ⟨fr2.mode, fr2.origMode, fr2.pendingTableText⟩, htr.reaux
    (fun x x' => { x' with errors := x.errors ++ List.replicate text.length "in table: foster parenting" })
    (fun _ _ => ⟨⟨rfl, rfl, rfl, rfl, rfl⟩, rfl, rfl, rfl⟩) ?_⟩
  rintro x x3 hx hx3 ⟨x2, ⟨x1, ⟨hx1, e1⟩, hrun⟩, hx3e, e3⟩
  subst x1
  subst x3
  have hτ : (absF s x).setFoster true
      = { absF { s with fosterParenting := true } x with errors := (absF s x).errors } := by
    rw [e1]; rfl
  exact tblt_flush_of_bodyRun text _ _ _ hnz hne hτ rfl hrun

/-- `flush_pending_foster` -/
theorem tblt_pc_flushFoster : ∀ (pending : List (SplitStatus × Str)) (s : State), MInv s → TbltPendOk pending →
    PC (flushPendingFoster pending) s (fun _ s' calls => TbltFr s s' ∧
      Tr s s' calls (fun x x' =>
        Spec.TreeModes.flushPendingFostered (cfgOf s) (pendingChars pending) (absF s x) = .ok (absF s' x'))) := by
  intro pending
  induction pending with
  | nil =>
    intro s hm _
    simp only [flushPendingFoster]
    exact pc_pure ⟨TbltFr.refl s, (Tr.refl hm).conseq fun x x' _ _ h => by subst h; rfl⟩
  | cons p rest ih =>
    intro s hm hp
    obtain ⟨st, text⟩ := p
    simp only [flushPendingFoster]
    refine pc_seq (tblt_pc_fosterChunk hm (hp (st, text) List.mem_cons_self)) ?_
    rintro res s1 c1 _ ⟨rfl, fr1, htr1⟩
    refine pc_conseq (ih s1 htr1.1 (fun q hq => hp q (List.mem_cons_of_mem _ hq))) ?_
    rintro _ s2 c2 _ ⟨fr2, htr2⟩
    refine ⟨fr1.trans fr2, (htr1.trans htr2).conseq ?_⟩
    rintro x x2 _ _ ⟨x1, r1, r2⟩
    have hcfg : cfgOf s1 = cfgOf s := htr1.2.1
    show Spec.TreeModes.flushPendingFostered (cfgOf s) (text ++ pendingChars rest) (absF s x) = _
    rw [tblt_flush_append, r1, ← hcfg]
    exact r2


/-- `flush_pending_plain`: the calls, up to the splitting of text insertions -/
theorem tblt_pc_flushPlain_flat : ∀ (pending : List (SplitStatus × Str)) (s : State), MInv s →
    PC (flushPendingPlain pending) s (fun _ s' calls => SameTB s s' ∧
      ((pending = [] ∧ calls = []) ∨ ∃ place,
        Spec.TreeAlgo2.appropriatePlace (absStack s.dom s.openElems) s.fosterParenting none = some place ∧
        ∀ tc, TcOk s'.dom tc → flatCalls (edits2 calls)
          = (pendingChars pending).map fun c => (insertOp (ipOf tc place) (.text [c]), Output.unit))) := by
  intro pending
  induction pending with
  | nil =>
    intro s hm
    simp only [flushPendingPlain]
    exact pc_pure ⟨SameTB.refl s, Or.inl ⟨trivial, rfl⟩⟩
  | cons p rest ih =>
    intro s hm
    obtain ⟨st, text⟩ := p
    simp only [flushPendingPlain]
    refine pc_seq (pc_appendText_flat hm text) ?_
    rintro r s1 c1 he1 ⟨-, hs1, place, hplace, hflat1⟩
    have hm1 : MInv s1 := hm.sameTB hs1 he1.ext
    refine pc_conseq (ih s1 hm1) ?_
    rintro _ s2 c2 he2 ⟨hs2, h2⟩
    refine ⟨hs1.trans hs2, Or.inr ⟨place, hplace, ?_⟩⟩
    intro tc htc
    have htc1 : TcOk s1.dom tc := tcOk_of_ext htc he2.ext
    rw [edits2_append, flatCalls_append, hflat1 tc htc1]
    show _ = (text ++ pendingChars rest).map _
    rw [List.map_append]
    congr 1
    rcases h2 with ⟨hr, hc⟩ | ⟨place2, hplace2, hflat2⟩
    · subst hr; subst hc; rfl
    · have : place2 = place := by
        rw [hs1.fields.openElems, hs1.fields.fosterParenting, absStack_ext hm.elems he1.ext, hplace] at hplace2
        cases hplace2; rfl
      subst this
      exact hflat2 tc htc

/-- `flush_pending_plain` — "insert the characters given by the pending table character tokens list" -/
theorem tblt_pc_flushPlain {s : State} (hm : MInv s) (pending : List (SplitStatus × Str)) :
    PC (flushPendingPlain pending) s (fun _ s' calls => SameTB s s' ∧
      Tr s s' calls (fun x x' => Spec.TreeModes.insertChars (absF s x) (pendingChars pending) = .ok (absF s' x'))) := by
  refine pc_conseq (tblt_pc_flushPlain_flat pending s hm) ?_
  rintro _ s' calls he ⟨hs, h⟩
  refine ⟨hs, ?_⟩
  rcases h with ⟨hp, hc⟩ | ⟨place, hplace, hflat⟩
  · subst hp
    subst hc
    refine (Tr.of_same hm hs he rfl).conseq ?_
    rintro x x' _ _ ⟨hx', e⟩
    subst x'
    rw [← e]
    rfl
  · refine (Tr.of_flat (hm.sameTB hs he.ext) (cfgOf_of_same hm hs he.ext) he []
      (charsEdits place (pendingChars pending)) [] (FreshIds.nil _) ?_
      (annot_of_sub he.ext hm (by rw [hs.openElems]; exact fun _ h => h)) (by simp)).conseq ?_
    · intro tc htc
      rw [hflat tc htc]
      cases pendingChars pending with
      | nil => rfl
      | cons c r =>
        simp only [charsEdits, List.map_cons, List.map_nil, editCall, flatCalls, List.flatMap_cons, List.flatMap_nil,
          List.append_nil, flatCall_insertText]
    · rintro x x' hx _ ⟨hx', rest, hsup⟩
      subst hx'
      rw [absF_step_same hm hs he.ext]
      have hpl : Spec.TreeAlgo2.appropriatePlace (absF s x).p.stack (absF s x).p.fosterParenting none = some place := by
        simp only [absF_p, absP, hx.live]; exact hplace
      cases pendingChars pending with
      | nil => simp [Spec.TreeModes.insertChars, absF, absP, pure, Except.pure, charsEdits]
      | cons c r =>
        simp only [Spec.TreeModes.insertChars, Spec.TreeAlgo2.insertCharacters, hpl, Option.map_some, Spec.TreeModes.req]
        simp [absF, absP, Edit.mapTok, bind, Except.bind, pure, Except.pure, charsEdits]


/-! ### the rule -/

/-- `self.orig_mode.take().unwrap()`, `Reprocess(mode, token)` -/
def tbltTail (tok : Token) : M ProcessResult := do
  let s ← getS
  match s.origMode with
  | none => panicAt "unwrap-none" "rules.rs:1172" "orig_mode.take().unwrap()"
  | some m =>
    set { s with origMode := none }
    pure (.reprocess m tok)

/-- the arm of `stepInTableText` for the tokens that are not characters -/
def tbltOther (tok : Token) : M ProcessResult := do
  let pending := (← getS).pendingTableText
  modS fun s => { s with pendingTableText := [] }
  if pending.any tbltChunkNonspace then
    parseError "Non-space table text"
    flushPendingFoster pending
    tbltTail tok
  else
    flushPendingPlain pending
    tbltTail tok

theorem tblt_step_comment (d : Str) : stepInTableText (.comment d) = tbltOther (.comment d) := rfl
theorem tblt_step_eof : stepInTableText .eof = tbltOther .eof := rfl
theorem tblt_step_tag (t : Tag) : stepInTableText (.tag t) = tbltOther (.tag t) := rfl


/-- "anything else" of "in table text" -/
def tbltSpecElse (cfg : Config Id) (σ : SState) : Spec.TreeModes.M (Step Id) := do
  let s ← if σ.pendingTableChars.any (fun c => !Spec.TreeModes.isWs c) then
      Spec.TreeModes.flushPendingFostered cfg σ.pendingTableChars (σ.err "in table text: non-whitespace")
    else Spec.TreeModes.insertChars σ σ.pendingTableChars
  pure (.reprocess (s.setMode s.originalMode))

theorem tblt_spec_other (cfg : Config Id) (σ : SState) {tok : Token} (hch : isCharsTok tok = false)
    (hnn : tok ≠ .nullChar) : Spec.TreeModes.inTableText cfg σ (stokOf tok) = tbltSpecElse cfg σ := by
  cases tok with
  | chars _ _ => cases hch
  | nullChar => exact absurd rfl hnn
  | comment d => rfl
  | eof => rfl
  | tag t =>
    simp only [stokOf, stokOfTag]
    split <;> rfl

theorem tblt_absF_take (sB : State) (xB : Aux) (m : Mode) (P : Str) (ho : sB.origMode = some m) (hne : m ≠ .inTableText) :
    absF { sB with origMode := none, mode := m } { xB with pendingJunk := P, origDefault := imode m }
      = ({ absF sB xB with pendingTableChars := P } : SState).setMode (absF sB xB).originalMode := by
  have hb : (m == Mode.inTableText) = false := by
    cases m <;> first | rfl | exact absurd rfl hne
  simp only [absF, absP, hb, ho, Bool.false_eq_true, if_false, Spec.TreeModes.State.setMode, Option.map_some,
    Option.map_none, Option.getD_some, Option.getD_none]

/-- the end of the rule: `orig_mode.take().unwrap()`, "reprocess" -/
theorem tblt_pc_tail {s sB : State} {c0 : List Call} {R : Aux → Aux → Prop} {spec : SState → Spec.TreeModes.M (Step Id)}
    (h0 : Tr s sB c0 R) (tok : Token) (horigB : ∀ om, sB.origMode = some om → om ≠ .inTableText)
    (hspec : ∀ x xB, AuxOk s x → R x xB → ∃ P, spec (absF s x)
      = .ok (.reprocess (({ absF sB xB with pendingTableChars := P } : SState).setMode (absF sB xB).originalMode))) :
    PC (tbltTail tok) sB (fun res s' c => TokPost spec s tok res s' (c0 ++ c)) := by
  unfold tbltTail
  refine pc_getS_bind ?_
  cases ho : sB.origMode with
  | none => exact pc_panicAt
  | some m =>
    simp only
    have hne := horigB m ho
    have hmC : MInv { sB with origMode := none } := MInv.of_fields h0.1 (TBSafe.Ext.refl _) rfl rfl rfl rfl rfl
    refine pc_seq (pc_set (Q := fun _ s' c => s' = { sB with origMode := none } ∧ c = []) rfl rfl ⟨rfl, rfl⟩) ?_
    rintro _ sC cC _ ⟨rfl, rfl⟩
    refine pc_pure ?_
    have htrC : Tr sB { sB with origMode := none } [] (fun x x' => x' = x) :=
      Tr.of_upd (s' := { sB with origMode := none }) h0.1 rfl (fun _ h => h) hmC rfl
    have htr := h0.trans htrC
    simp only [List.append_nil] at htr ⊢
    refine tokPost_of_tr htr rfl ?_
    rintro x xC hx hxC ⟨xB, r, hxCe⟩
    subst xC
    obtain ⟨P, hP⟩ := hspec x xB hx r
    refine ⟨{ xB with pendingJunk := P, origDefault := imode m }, ?_, ⟨rfl, rfl, rfl, rfl, rfl⟩, Or.inl rfl, rfl, rfl⟩
    rw [hP]
    simp only [stepOf, applyRes]
    rw [tblt_absF_take sB xB m P ho hne]


theorem tblt_pend_nz {l : List (SplitStatus × Str)} (h : TbltPendOk l) : ∀ c ∈ pendingChars l, c ≠ '\x00' := by
  intro c hc e
  unfold pendingChars at hc
  obtain ⟨p, hp, hcp⟩ := List.mem_flatMap.mp hc
  exact (h p hp).2.1 (e ▸ hcp)

theorem tblt_ptc_eta (σ : SState) :
    ({ ({ σ with pendingTableChars := [] } : SState) with pendingTableChars := σ.pendingTableChars } : SState) = σ := by
  cases σ; rfl

/-- the flush started with the pending list cleared (the model) and with the list kept (the specification) -/
theorem tblt_flush_pend' {cfg : Config Id} (text : Str) (σ σ0 σ' : SState) (hnz : ∀ c ∈ text, c ≠ '\x00')
    (hσ0 : σ0 = { σ with pendingTableChars := [] })
    (h : Spec.TreeModes.flushPendingFostered cfg text σ0 = .ok σ') :
    Spec.TreeModes.flushPendingFostered cfg text σ = .ok { σ' with pendingTableChars := σ.pendingTableChars } := by
  subst hσ0
  have := tblt_flush_pend σ.pendingTableChars text _ σ' hnz h
  exact (congrArg (Spec.TreeModes.flushPendingFostered cfg text) (tblt_ptc_eta σ).symm).trans this

theorem tblt_insertChars_pend' (text : Str) (σ σ0 σ' : SState)
    (hσ0 : σ0 = { σ with pendingTableChars := [] })
    (h : Spec.TreeModes.insertChars σ0 text = .ok σ') :
    Spec.TreeModes.insertChars σ text = .ok { σ' with pendingTableChars := σ.pendingTableChars } := by
  subst hσ0
  have := tblt_insertChars_pend σ.pendingTableChars text _ σ' h
  exact (congrArg (fun τ => Spec.TreeModes.insertChars τ text) (tblt_ptc_eta σ).symm).trans this

/-- **the rule of "in table text" for a token that is not a character** -/
theorem tblt_sim_other (tok : Token) {s : State} (hm : MInv s) (hmode : s.mode = .inTableText)
    (hpend : TbltPendOk s.pendingTableText) (horig : ∀ om, s.origMode = some om → om ≠ .inTableText) :
    PC (tbltOther tok) s (TokPost (tbltSpecElse (cfgOf s)) s tok) := by
  unfold tbltOther
  refine pc_getS_bind ?_
  simp only
  have hmA : MInv { s with pendingTableText := [] } :=
    ⟨hm.elems, hm.root, hm.af, hm.afEl, hm.head, hm.ctx, hm.afwf, hm.ip, hm.tmodes, hm.form, fun p hp => by cases hp⟩
  refine pc_seq (pc_modS (Q := fun _ sA c => sA = { s with pendingTableText := [] } ∧ c = []) rfl rfl ⟨rfl, rfl⟩) ?_
  rintro _ sA cA _ ⟨rfl, rfl⟩
  have htrA : Tr s { s with pendingTableText := [] } [] (fun x x' => x' = x) :=
    Tr.of_upd (s' := { s with pendingTableText := [] }) hm rfl (fun _ h => h) hmA rfl
  have hP : ∀ x, (absF s x).pendingTableChars = pendingChars s.pendingTableText := by
    intro x; simp [absF, hmode]
  have hA : ∀ x, absF { s with pendingTableText := [] } x = { absF s x with pendingTableChars := [] } := by
    intro x; simp [absF, absP, hmode, pendingChars]
  have hnz := tblt_pend_nz hpend
  rw [tblt_containsNonspace _ hpend]
  cases hb : (pendingChars s.pendingTableText).any (fun c => !Spec.TreeModes.isWs c) with
  | true =>
    simp only [if_true]
    refine pc_seq (PC.of_tot (tot_parseError _ _)) ?_
    rintro _ sA' c1 he1 ⟨-, hs1, hc1⟩
    have hmA' := hmA.sameTB hs1 he1.ext
    have htr1 := Tr.of_same hmA hs1 he1 (by rw [← edits2_edits, hc1]; rfl)
    refine pc_seq (tblt_pc_flushFoster _ sA' hmA' hpend) ?_
    rintro _ sB c2 _ ⟨frB, htrB⟩
    have htr := (((tbl_tr_err hm "in table text: non-whitespace").trans htrA).trans htr1).trans htrB
    have hcfg : cfgOf sA' = cfgOf s := ((tbl_tr_err hm "in table text: non-whitespace").trans htrA |>.trans htr1).2.1
    have key := tblt_pc_tail (spec := tbltSpecElse (cfgOf s)) htr tok ?_ ?_
    · simp only [List.nil_append, List.append_nil, List.append_assoc] at key ⊢
      exact key
    · intro om ho
      rw [frB.origMode, hs1.fields.origMode] at ho
      exact horig om ho
    · rintro x xB hx ⟨x3, ⟨x2, ⟨x1, hx1, hx2⟩, hx3, e3⟩, hfl⟩
      subst x3
      subst x2
      refine ⟨pendingChars s.pendingTableText, ?_⟩
      unfold tbltSpecElse
      rw [hP x, hb]
      simp only [if_true]
      have hσ0 : absF sA' x1 = { (absF s x).err "in table text: non-whitespace" with pendingTableChars := [] } := by
        rw [← e3, hA, hx1]
        rfl
      rw [hcfg] at hfl
      rw [tblt_flush_pend' _ _ _ _ hnz hσ0 hfl,
        show ((absF s x).err "in table text: non-whitespace").pendingTableChars = pendingChars s.pendingTableText from hP x]
      rfl
  | false =>
    simp only [Bool.false_eq_true, if_false]
    refine pc_seq (tblt_pc_flushPlain hmA _) ?_
    rintro _ sB c2 _ ⟨hsB, htrB⟩
    have htr := htrA.trans htrB
    have key := tblt_pc_tail (spec := tbltSpecElse (cfgOf s)) htr tok ?_ ?_
    · simp only [List.nil_append] at key ⊢
      exact key
    · intro om ho
      rw [hsB.fields.origMode] at ho
      exact horig om ho
    · rintro x xB hx ⟨x1, hx1, hins⟩
      subst x1
      refine ⟨pendingChars s.pendingTableText, ?_⟩
      unfold tbltSpecElse
      rw [hP x, hb]
      simp only [Bool.false_eq_true, if_false]
      rw [tblt_insertChars_pend' _ _ _ _ (hA x) hins, hP x]
      rfl


/-! ### the mode -/

/-- **"in table text", non-character tokens.**  `hpend`: the pending chunks are what the tokenizer delivered
(not part of `TI`/`MInv`; it is kept by the character arm of this mode, which appends a chunk that
satisfies `TokWf`, and holds trivially when the list is empty) -/
theorem modeSim_inTableText
    (hpend : ∀ s, TI s → MInv s → s.mode = .inTableText → TbltPendOk s.pendingTableText) : ModeSim .inTableText := by
  intro tok hch hwf s hti hm hmode _
  have horig : ∀ om, s.origMode = some om → om ≠ .inTableText := by
    intro om ho hom
    obtain ⟨om', ho', htm⟩ := hti.s.tableText hmode
    rw [ho] at ho'
    cases ho'
    subst hom
    revert htm
    decide
  have hmσ : ∀ x, (absF s x).mode = .inTableText := fun x => by show imode s.mode = _; rw [hmode]; rfl
  have hp := hpend s hti hm hmode
  show PC (stepInTableText tok) s _
  cases tok with
  | chars st text => cases hch
  | nullChar =>
    simp only [stepInTableText]
    refine pc_tokPost_congr (pc_unexpected_err hm .nullChar "in table text: U+0000") ?_
    intro x hx
    rw [byModeDev_inTableText (hmσ x)]
    rfl
  | comment d =>
    rw [tblt_step_comment]
    refine pc_tokPost_congr (tblt_sim_other _ hm hmode hp horig) ?_
    intro x hx
    rw [byModeDev_inTableText (hmσ x), tblt_spec_other _ _ rfl (by simp)]
  | eof =>
    rw [tblt_step_eof]
    refine pc_tokPost_congr (tblt_sim_other _ hm hmode hp horig) ?_
    intro x hx
    rw [byModeDev_inTableText (hmσ x), tblt_spec_other _ _ rfl (by simp)]
  | tag t =>
    rw [tblt_step_tag]
    refine pc_tokPost_congr (tblt_sim_other _ hm hmode hp horig) ?_
    intro x hx
    rw [byModeDev_inTableText (hmσ x), tblt_spec_other _ _ rfl (by simp)]

theorem tblt_fold_pend : ∀ (text : Str) (σ : SState),
    text.foldlM (fun (σ : SState) (c : Char) =>
      (pure { σ with pendingTableChars := σ.pendingTableChars ++ [c] } : Spec.TreeModes.M SState)) σ
      = .ok { σ with pendingTableChars := σ.pendingTableChars ++ text } := by
  intro text
  induction text with
  | nil => intro σ; simp only [List.foldlM_nil, List.append_nil]; rfl
  | cons c cs ih =>
    intro σ
    rw [List.foldlM_cons]
    show List.foldlM _ ({ σ with pendingTableChars := σ.pendingTableChars ++ [c] } : SState) cs = _
    rw [ih]
    simp only [List.append_assoc, List.singleton_append]

/-- **"in table text", runs of characters**: the chunk is appended to the pending table text -/
theorem modeCharSim_inTableText : ModeCharSim .inTableText := by
  intro st text hwf s _ hm hmode hlf hdisp
  have hwf0 := hwf
  obtain ⟨hne, hnul, -⟩ := hwf
  show PC (stepInTableText (.chars st text)) s _
  simp only [stepInTableText]
  have hm' : MInv { s with pendingTableText := s.pendingTableText ++ [(st, text)] } :=
    ⟨hm.elems, hm.root, hm.af, hm.afEl, hm.head, hm.ctx, hm.afwf, hm.ip, hm.tmodes, hm.form, fun p hp => by
      rcases List.mem_append.mp hp with h | h
      · exact hm.pend p h
      · simp only [List.mem_singleton] at h; subst h; exact hwf0⟩
  refine pc_seq (pc_modS (Q := fun _ s' c => s' = { s with pendingTableText := s.pendingTableText ++ [(st, text)] } ∧ c = [])
    rfl rfl ⟨rfl, rfl⟩) ?_
  rintro _ s' c' _ ⟨rfl, rfl⟩
  refine pc_pure ?_
  have htr : Tr s { s with pendingTableText := s.pendingTableText ++ [(st, text)] } [] (fun x x' => x' = x) :=
    Tr.of_upd (s' := { s with pendingTableText := s.pendingTableText ++ [(st, text)] }) hm rfl (fun _ h => h) hm' rfl
  refine ⟨rfl, htr.conseq ?_⟩
  rintro x x' hx _ hxx
  subst x'
  have hmσ : (absF s x).mode = .inTableText := by show imode s.mode = _; rw [hmode]; rfl
  refine specChars_of_byModeRun (charsRunK_foldlM (m := .inTableText)
    (fun (σ : SState) (c : Char) => (pure { σ with pendingTableChars := σ.pendingTableChars ++ [c] } : Spec.TreeModes.M SState))
    ?_ ?_ (fun _ h => h) hmσ hx.live hlf (hdisp x hx) ?_)
  · intro σ hσ c hc
    have hc0 : (c == '\x00') = false := by
      have : c ≠ '\x00' := fun e => hnul (e ▸ hc)
      simpa using this
    rw [byModeDev_inTableText hσ]
    simp only [Spec.TreeModes.inTableText, hc0, Bool.false_eq_true, if_false]
    rfl
  · intro σ σ1 c h
    cases h
    exact ⟨rfl, rfl, rfl, rfl, rfl⟩
  · rw [tblt_fold_pend]
    simp [absF, absP, hmode, pendingChars]

/-- "in table text", non-character tokens, with the pending-text clause of `MInv` -/
theorem modeSim_inTableText' : ModeSim .inTableText :=
  modeSim_inTableText (fun _ _ hm _ => hm.pend)

end H5V.Lemmas.HtmlTBModes
