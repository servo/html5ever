import H5V.Lemmas.HtmlTBSafeRules0
/-!
# Tree-builder safety: the `InHead` rules, the EOF arm of `InTemplate`, the `AfterHead` block

`stepInHead_explicit`: what `stepInHead` does, arm by arm (`HeadOut`); `stepInHead_spec : HeadSpec` follows
from it, and so does `afterHeadBlock_spec` (`push(head); step(InHead, token); remove_from_stack(head)`),
because the description is stable under removing the pushed head element again (`HeadOut.unpush`).
-/
namespace H5V.Lemmas.TBSafe
open H5V.Model.HtmlTB
open H5V.Model.Dom (Id QualName Attr NodeOrText SinkOp Output ElementFlags QuirksMode Dom NodeData Node)

variable {al : Allow}

/-! ### small facts -/

theorem sat_extractEncoding {c : Str} {s : State} : Sat (extractEncoding c) s (fun _ s' => s' = s) := by
  unfold extractEncoding
  cases h : H5V.Model.Meta.extract (utf8Bytes c) with
  | error e => exact sat_throw (Benign.metaExtract e)
  | ok o =>
    cases o with
    | none => exact sat_pure rfl
    | some bytes =>
      dsimp only
      cases h2 : String.fromUTF8? (ByteArray.mk bytes.toArray) with
      | none => exact sat_throw Benign.metaUtf8
      | some str => exact sat_pure rfl

theorem sat_sinkBool_const {op : SinkOp} {b : Bool} {s : State} (h : s.dom.apply op = .ok (s.dom, .bool b)) :
    Sat (sinkBool op) s (fun r s' => r = b ∧ QF s s') := by
  unfold sinkBool
  refine (sat_sink_eq h).bind ?_
  rintro o s' ⟨rfl, hq⟩; exact sat_pure ⟨rfl, hq⟩

theorem preRoot_of_origOk {m : Mode} (h : origOk m = true) : preRoot m = false := by
  revert h; cases m <;> decide

theorem ne_inTableText_of_origOk {m : Mode} (h : origOk m = true) : m ≠ .inTableText := by
  rintro rfl; revert h; decide

theorem split_unique {h : Id} : ∀ {a b c d : List Id}, a ++ h :: b = c ++ h :: d → h ∉ b → h ∉ d → a = c ∧ b = d := by
  intro a
  induction a with
  | nil =>
    intro b c d he hb hd
    cases c with
    | nil => simp at he; exact ⟨rfl, he⟩
    | cons c0 c' =>
      simp only [List.nil_append, List.cons_append, List.cons.injEq] at he
      exact absurd (by rw [he.2]; simp) hb
  | cons a0 a' ih =>
    intro b c d he hb hd
    cases c with
    | nil =>
      simp only [List.nil_append, List.cons_append, List.cons.injEq] at he
      exact absurd (by rw [← he.2]; simp) hd
    | cons c0 c' =>
      simp only [List.cons_append, List.cons.injEq] at he
      obtain ⟨h1, h2⟩ := ih he.2 hb hd
      exact ⟨by rw [he.1, h1], h2⟩

/-! ### tag names -/

theorem isOneOf_false_of {n : Str} {l l' : List String} (h : isOneOf n l = true)
    (hd : ∀ x ∈ l, isOneOf x.toList l' = false) : isOneOf n l' = false := by
  obtain ⟨x, hx, rfl⟩ := isOneOf_cases h
  exact hd x hx

theorem isStart_name {tag : Tag} {l : List String} (h : tag.isStart l = true) : isOneOf tag.name l = true := by
  simp only [Tag.isStart, Bool.and_eq_true] at h; exact h.2

theorem isEnd_name {tag : Tag} {l : List String} (h : tag.isEnd l = true) : isOneOf tag.name l = true := by
  simp only [Tag.isEnd, Bool.and_eq_true] at h; exact h.2

theorem isEnd_kind {tag : Tag} {l : List String} (h : tag.isEnd l = true) : tag.kind = .endTag := by
  simp only [Tag.isEnd, Bool.and_eq_true, beq_iff_eq] at h; exact h.1

def delegNames : List String :=
  ["base", "basefont", "bgsound", "link", "meta", "noframes", "script", "style", "template", "title"]

theorem headDeleg_tag (tag : Tag) : headDeleg (.tag tag) = (tag.isStart delegNames || tag.isEnd ["template"]) := rfl
theorem afterHeadDeleg_tag (tag : Tag) : afterHeadDeleg (.tag tag) = tag.isStart delegNames := rfl

theorem deleg_cases {tag : Tag} (h : tag.isStart delegNames = true) :
    tag.isStart ["base", "basefont", "bgsound", "link", "meta"] = true ∨ tag.isStart ["title"] = true ∨
    tag.isStart ["noframes", "style", "noscript"] = true ∨ tag.isStart ["script"] = true ∨
    tag.isStart ["template"] = true := by
  simp only [Tag.isStart, Bool.and_eq_true] at h ⊢
  obtain ⟨hk, hn⟩ := h
  obtain ⟨x, hx, hn⟩ := isOneOf_cases hn
  rw [hn]
  simp only [delegNames, List.mem_cons, List.not_mem_nil, or_false] at hx
  rcases hx with rfl | rfl | rfl | rfl | rfl | rfl | rfl | rfl | rfl | rfl
  all_goals first
    | exact Or.inl ⟨hk, by decide⟩
    | exact Or.inr (Or.inl ⟨hk, by decide⟩)
    | exact Or.inr (Or.inr (Or.inl ⟨hk, by decide⟩))
    | exact Or.inr (Or.inr (Or.inr (Or.inl ⟨hk, by decide⟩)))
    | exact Or.inr (Or.inr (Or.inr (Or.inr ⟨hk, by decide⟩)))

/-- an end tag that is not `</template>` is not delegated -/
theorem deleg_false_of_end {tag : Tag} (hk : tag.kind = .endTag) (hn : isOneOf tag.name ["template"] = false) :
    headDeleg (.tag tag) = false ∧ afterHeadDeleg (.tag tag) = false := by
  rw [headDeleg_tag, afterHeadDeleg_tag]
  simp [Tag.isStart, Tag.isEnd, hk, hn]

theorem deleg_false_of_name {tag : Tag} (h1 : isOneOf tag.name delegNames = false)
    (h2 : isOneOf tag.name ["template"] = false) :
    headDeleg (.tag tag) = false ∧ afterHeadDeleg (.tag tag) = false := by
  rw [headDeleg_tag, afterHeadDeleg_tag]
  simp [Tag.isStart, Tag.isEnd, h1, h2]

theorem afterHeadDeleg_end {tag : Tag} (hk : tag.kind = .endTag) : afterHeadDeleg (.tag tag) = false := by
  rw [afterHeadDeleg_tag]
  simp [Tag.isStart, hk]

/-! ### composing `Inserted` -/

theorem Inserted.same {s s' : State} {r : Id} {ns n : Str} (h : Inserted s s' r ns n false) : Same s s' :=
  ⟨h.fr, by simpa using h.openElems, h.af⟩

theorem Inserted.open_true {s s' : State} {r : Id} {ns n : Str} (h : Inserted s s' r ns n true) :
    s'.openElems = s.openElems ++ [r] := by simpa using h.openElems

theorem Inserted.of_qf_left {a b c : State} {r : Id} {ns n : Str} {p : Bool} (hq : QF a b)
    (h : Inserted b c r ns n p) : Inserted a c r ns n p :=
  ⟨hq.fr.trans h.fr, h.af.trans hq.activeFormatting, by rw [h.openElems, hq.openElems],
   fun x hx => h.fresh x (hx.ext hq.ext), h.el, h.nm, h.tc⟩

theorem Inserted.of_qf_right {a b c : State} {r : Id} {ns n : Str} {p : Bool}
    (h : Inserted a b r ns n p) (hq : QF b c) : Inserted a c r ns n p :=
  ⟨h.fr.trans hq.fr, hq.activeFormatting.trans h.af, by rw [hq.openElems]; exact h.openElems,
   h.fresh, h.el.ext hq.ext, by rw [nm_ext hq.ext h.el]; exact h.nm, h.tc.ext hq.ext h.el⟩

/-- push, pop again, push another one -/
theorem Inserted.pop_reinsert {a b c d : State} {t r : Id} {ns n ns' n' : Str}
    (h1 : Inserted a b t ns n true) (st : St b c b.openElems.dropLast) (h2 : Inserted c d r ns' n' true) :
    Inserted a d r ns' n' true :=
  ⟨h1.fr.trans (st.fr.trans h2.fr), h2.af.trans (st.af.trans h1.af),
   by rw [h2.open_true, st.openElems, h1.open_true, List.dropLast_concat]; rfl,
   fun x hx => h2.fresh x ((hx.ext h1.fr.ext).ext st.fr.ext), h2.el, h2.nm, h2.tc⟩

theorem Inserted.toText {s s1 : State} {r : Id} {ns n : Str} (h : Inserted s s1 r ns n true) :
    Inserted { s with origMode := some s.mode, mode := .text } { s1 with origMode := some s1.mode, mode := .text }
      r ns n true :=
  ⟨⟨rfl, by show some s1.mode = some s.mode; rw [h.fr.mode], h.fr.templateModes, h.fr.pendingTableText,
    h.fr.headElem, h.fr.formElem, h.fr.contextElem, h.fr.docHandle, h.fr.opts, h.fr.ext⟩,
   h.af, h.openElems, h.fresh, h.el, h.nm, h.tc⟩

/-- the element pushed before (`head`) is removed from under the inserted element -/
theorem Inserted.unpush {a a0 s1 s2 : State} {head r : Id} {ns n : Str}
    (hfr : Fr a a0) (ho : a0.openElems = a.openElems ++ [head]) (haf : a0.activeFormatting = a.activeFormatting)
    (hdom : a0.dom = a.dom) (hhead : IsEl a.dom head)
    (ins : Inserted a0 s1 r ns n true)
    (hrem : (head ∉ s1.openElems ∧ Same s1 s2) ∨
      (∃ pre post, s1.openElems = pre ++ head :: post ∧ head ∉ post ∧ St s1 s2 (pre ++ post))) :
    Inserted a s2 r ns n true := by
  have ho1 : s1.openElems = a.openElems ++ head :: [r] := by rw [ins.open_true, ho]; simp
  rcases hrem with ⟨hnot, _⟩ | ⟨pre, post, heq, hpost, st⟩
  · exact absurd (by rw [ho1]; simp) hnot
  · have hne : head ≠ r := ins.fresh head (by rw [hdom]; exact hhead)
    rw [ho1] at heq
    obtain ⟨h1, h2⟩ := split_unique heq (by simpa using hne) hpost
    subst h1; subst h2
    exact ⟨hfr.trans (ins.fr.trans st.fr), st.af.trans (ins.af.trans haf), by rw [st.openElems]; rfl,
      fun x hx => ins.fresh x (by rw [hdom]; exact hx), ins.el.ext st.fr.ext,
      by rw [nm_ext st.fr.ext ins.el]; exact ins.nm, ins.tc.ext st.fr.ext ins.el⟩

theorem same_unpush {a a0 s1 s2 : State} {head : Id}
    (hfr : Fr a a0) (ho : a0.openElems = a.openElems ++ [head]) (haf : a0.activeFormatting = a.activeFormatting)
    (st1 : Same a0 s1)
    (hrem : (head ∉ s1.openElems ∧ Same s1 s2) ∨
      (∃ pre post, s1.openElems = pre ++ head :: post ∧ head ∉ post ∧ St s1 s2 (pre ++ post))) :
    Same a s2 := by
  have ho1 : s1.openElems = a.openElems ++ head :: [] := by rw [st1.openElems, ho]
  rcases hrem with ⟨hnot, _⟩ | ⟨pre, post, heq, hpost, st⟩
  · exact absurd (by rw [ho1]; simp) hnot
  · rw [ho1] at heq
    obtain ⟨h1, h2⟩ := split_unique heq (by simp) hpost
    subst h1; subst h2
    exact ⟨hfr.trans (st1.fr.trans st.fr), by rw [st.openElems]; simp, st.af.trans (st1.af.trans haf)⟩

/-! ### what `stepInHead` does -/

/-- the outcome of `stepInHead tok` run from `s`: an arm that the `AfterHead` block never takes (and that
re-establishes the invariant), an arm that leaves stack and modes alone, raw text entered, `<template>` -/
inductive HeadOut (tok : Token) (s : State) (res : ProcessResult) (s' : State) : Prop
  | other (hd : afterHeadDeleg tok = false) (hp : StepPost tok res s')
  | same (st : Same s s') (hn : ∀ m, nextMode res m = m) (hr : ResOk tok res)
  | raw (r : Id) (name : Str) (k : H5V.Model.HtmlTok.RawKind)
      (ins : Inserted { s with origMode := some s.mode, mode := .text } s' r nsHtml name true)
      (hnew : NewOk ⟨nsHtml, name⟩) (hres : res = .toRawData k) (hc : isCharsTok tok = false)
  | tmpl (r : Id)
      (ins : Inserted { s with activeFormatting := s.activeFormatting ++ [.marker], framesetOk := false,
                               mode := .inTemplate, templateModes := s.templateModes ++ [.inTemplate] }
        s' r nsHtml "template".toList true)
      (hres : res = .done)

theorem stepPost_raw {tok : Token} {res : ProcessResult} {s s' : State} {r : Id} {name : Str}
    {k : H5V.Model.HtmlTok.RawKind} (ht : TI s) (ho : origOk s.mode = true)
    (ins : Inserted { s with origMode := some s.mode, mode := .text } s' r nsHtml name true)
    (hnew : NewOk ⟨nsHtml, name⟩) (hres : res = .toRawData k) (hc : isCharsTok tok = false) :
    StepPost tok res s' := by
  subst hres
  have hpre := preRoot_of_origOk ho
  have hroot := ht.s.root hpre
  have hi0 : HInv { s with origMode := some s.mode, mode := .text } :=
    ⟨ht.h.open_el, ht.h.open_tc, ht.h.af, ht.h.head, ht.h.form, ht.h.ctx⟩
  have hopen : s'.openElems = s.openElems ++ [r] := ins.open_true
  have hext : Ext s.dom s'.dom := ins.fr.ext
  have hmode : s'.mode = .text := ins.fr.mode
  have hhead : s'.headElem = s.headElem := ins.fr.headElem
  refine ⟨ins.hinv hi0, ?_, hc⟩
  show SInv s'.mode s'
  rw [hmode]
  refine
    { root := fun _ => by rw [hopen]; exact hroot.append_ext hext ht.h.open_el
      stack := ?_
      head := fun h => absurd h (by decide)
      headIn := ?_
      text := fun _ => ⟨s.mode, ins.fr.origMode, ho, ?_, ?_, fun h => by rw [hhead]; exact ht.s.head h⟩
      tableText := fun h => by cases h
      pending := fun _ => by
        rw [ins.fr.pendingTableText]; exact ht.s.pending (ne_inTableText_of_origOk ho)
      tmpl := ?_
      tmodes := by rw [ins.fr.templateModes]; exact ht.s.tmodes }
  · show ∃ t, s'.openElems.getLast? = some t ∧ (nm s'.dom t).ns = nsHtml
    exact ⟨r, by rw [hopen]; simp, by rw [ins.nm]⟩
  · rintro ⟨x, hx, hn⟩
    rw [hopen] at hx
    rcases List.mem_append.mp hx with hx | hx
    · rw [hhead]
      exact ht.s.headIn ⟨x, hx, by rw [← nm_ext hext (ht.h.open_el x hx)]; exact hn⟩
    · rw [List.mem_singleton.mp hx, ins.nm] at hn; exact absurd hn hnew.2
  · obtain ⟨r0, rest, hl, _⟩ := hroot
    rw [hopen, hl]; simp
  · rw [hopen, List.dropLast_concat]
    exact ht.s.stack.ext hext ht.h.open_el
  · have h0 : tcount s'.dom [r] = 0 := tcount_zero_of_not (by
      intro x hx; rw [List.mem_singleton.mp hx, ins.nm]; exact hnew.1)
    have hc : ctxTmpl s' = ctxTmpl s := (ctxTmpl_fr hi0 ins.fr).trans rfl
    have htm : s'.templateModes = s.templateModes := ins.fr.templateModes
    rw [hopen, tcount_append, tcount_ext hext ht.h.open_el, hc, htm, h0]
    exact ht.s.tmpl

theorem stepPost_tmpl {tok : Token} {res : ProcessResult} {s s' : State} {r : Id}
    (ht : TI s) (ho : origOk s.mode = true)
    (ins : Inserted { s with activeFormatting := s.activeFormatting ++ [.marker], framesetOk := false,
                             mode := .inTemplate, templateModes := s.templateModes ++ [.inTemplate] }
      s' r nsHtml "template".toList true)
    (hres : res = .done) : StepPost tok res s' := by
  subst hres
  have hpre := preRoot_of_origOk ho
  have hroot := ht.s.root hpre
  have hi0 : HInv { s with activeFormatting := s.activeFormatting ++ [.marker], framesetOk := false,
                           mode := .inTemplate, templateModes := s.templateModes ++ [.inTemplate] } := by
    refine ⟨ht.h.open_el, ht.h.open_tc, ?_, ht.h.head, ht.h.form, ht.h.ctx⟩
    intro h t hm
    rcases List.mem_append.mp hm with hm | hm
    · exact ht.h.af h t hm
    · simp at hm
  have hopen : s'.openElems = s.openElems ++ [r] := ins.open_true
  have hext : Ext s.dom s'.dom := ins.fr.ext
  have hmode : s'.mode = .inTemplate := ins.fr.mode
  have hhead : s'.headElem = s.headElem := ins.fr.headElem
  refine ⟨ins.hinv hi0, ?_, trivial⟩
  show SInv s'.mode s'
  rw [hmode]
  refine
    { root := fun _ => by rw [hopen]; exact hroot.append_ext hext ht.h.open_el
      stack := trivial
      head := fun h => absurd h (by decide)
      headIn := ?_
      text := fun h => by cases h
      tableText := fun h => by cases h
      pending := fun _ => by
        rw [ins.fr.pendingTableText]; exact ht.s.pending (ne_inTableText_of_origOk ho)
      tmpl := ?_
      tmodes := ?_ }
  · rintro ⟨x, hx, hn⟩
    rw [hopen] at hx
    rcases List.mem_append.mp hx with hx | hx
    · rw [hhead]
      exact ht.s.headIn ⟨x, hx, by rw [← nm_ext hext (ht.h.open_el x hx)]; exact hn⟩
    · rw [List.mem_singleton.mp hx, ins.nm] at hn; exact absurd hn (by decide)
  · have h0 : tcount s'.dom [r] = 1 := by
      unfold tcount; simp [isTmpl, ins.nm, tmplName]
    have hc : ctxTmpl s' = ctxTmpl s := (ctxTmpl_fr hi0 ins.fr).trans rfl
    have htm : s'.templateModes = s.templateModes ++ [.inTemplate] := ins.fr.templateModes
    rw [hopen, tcount_append, tcount_ext hext ht.h.open_el, hc, htm, h0, List.length_append]
    have := ht.s.tmpl
    simp only [List.length_cons, List.length_nil]
    omega
  · rw [ins.fr.templateModes]
    intro x hx
    rcases List.mem_append.mp hx with hx | hx
    · exact ht.s.tmodes x hx
    · rw [List.mem_singleton.mp hx]; rfl

theorem HeadOut.stepPost {tok : Token} {res : ProcessResult} {s s' : State} (ht : TI s)
    (ho : origOk s.mode = true) (h : HeadOut tok s res s') : StepPost tok res s' := by
  cases h with
  | other _ hp => exact hp
  | same st hn hr => exact StepPost.of_same ht st (hn _) hr
  | raw r name k ins hnew hres hc => exact stepPost_raw ht ho ins hnew hres hc
  | tmpl r ins hres => exact stepPost_tmpl ht ho ins hres

/-- the outcome seen from the state before `push(head)`, after `remove_from_stack(head)` -/
theorem HeadOut.unpush {tok : Token} {res : ProcessResult} {s s1 s2 : State} {head : Id}
    (hhead : IsEl s.dom head) (hd : afterHeadDeleg tok = true)
    (h : HeadOut tok { s with openElems := s.openElems ++ [head] } res s1)
    (hrem : (head ∉ s1.openElems ∧ Same s1 s2) ∨
      (∃ pre post, s1.openElems = pre ++ head :: post ∧ head ∉ post ∧ St s1 s2 (pre ++ post))) :
    HeadOut tok s res s2 := by
  cases h with
  | other hd' _ => rw [hd] at hd'; cases hd'
  | same st hn hr =>
    exact .same (same_unpush (a := s) (a0 := { s with openElems := s.openElems ++ [head] })
      ⟨rfl, rfl, rfl, rfl, rfl, rfl, rfl, rfl, rfl, Ext.refl _⟩ rfl rfl st hrem) hn hr
  | raw r name k ins hnew hres hc =>
    refine .raw r name k ?_ hnew hres hc
    exact Inserted.unpush (a := { s with origMode := some s.mode, mode := .text })
      (a0 := { s with openElems := s.openElems ++ [head], origMode := some s.mode, mode := .text })
      ⟨rfl, rfl, rfl, rfl, rfl, rfl, rfl, rfl, rfl, Ext.refl _⟩ rfl rfl rfl hhead ins hrem
  | tmpl r ins hres =>
    refine .tmpl r ?_ hres
    exact Inserted.unpush
      (a := { s with activeFormatting := s.activeFormatting ++ [.marker], framesetOk := false,
                     mode := .inTemplate, templateModes := s.templateModes ++ [.inTemplate] })
      (a0 := { s with openElems := s.openElems ++ [head], activeFormatting := s.activeFormatting ++ [.marker],
                      framesetOk := false, mode := .inTemplate, templateModes := s.templateModes ++ [.inTemplate] })
      ⟨rfl, rfl, rfl, rfl, rfl, rfl, rfl, rfl, rfl, Ext.refl _⟩ rfl rfl rfl hhead ins hrem

/-! ### closing a `template` -/

/-- `reset_insertion_mode` from a state satisfying the invariant of some mode: the invariant of the
resulting mode holds -/
theorem sat_reset_sinv {m : Mode} {s : State} (hi : HInv s) (hs : SInv m s) (hm : m ≠ .inTableText)
    (hr : Rooted s.dom s.openElems) :
    Sat resetInsertionMode s (fun m2 s' => QF s s' ∧ SInv m2 s' ∧ m2 ≠ .inTableText ∧ m2 ≠ .text) := by
  refine (sat_resetInsertionMode hi hs.tmodes hs.tmpl hs.headIn).mono ?_
  rintro m2 s' ⟨hq, rk⟩
  have hs' : SInv m s' := hs.of_qf hi hq
  have hr' : Rooted s'.dom s'.openElems := by rw [hq.openElems]; exact hr.ext hq.ext hi.open_el
  exact ⟨hq, hs'.chmode hm (fun _ => hr') rk.stack rk.head rk.notSpecial.1 rk.notSpecial.2.1,
    rk.notSpecial.2.1, rk.notSpecial.1⟩

/-- the state after the stack was cut below a `template`, the list of active formatting elements
cleared to the last marker and the template insertion mode popped -/
@[reducible] def tmplClosed (s1 : State) : State :=
  { s1 with activeFormatting := clearedAF s1.activeFormatting, templateModes := s1.templateModes.dropLast }

theorem sinv_afterTemplatePop {s s1 : State} {pre post : List Id} {x : Id} (ht : TI s)
    (ho : origOk s.mode = true) (heq : s.openElems = pre ++ x :: post) (hx : nm s.dom x = tmplName)
    (st : St s s1 pre) :
    HInv (tmplClosed s1) ∧ SInv .inBody (tmplClosed s1) ∧ Rooted (tmplClosed s1).dom (tmplClosed s1).openElems := by
  have hroot := ht.s.root (preRoot_of_origOk ho)
  have hne : pre ≠ [] := by
    rintro rfl
    obtain ⟨r0, rest, hl, hn⟩ := hroot
    rw [hl] at heq
    simp only [List.nil_append, List.cons.injEq] at heq
    rw [heq.1, hx] at hn
    exact absurd hn (by decide)
  have b : BStep s s1 := BStep.of_st ht.h hroot heq hne st
  have hsub : ∀ y ∈ pre, y ∈ s.openElems := fun y hy => by rw [heq]; exact List.mem_append_left _ hy
  have hi1 : HInv { s1 with activeFormatting := clearedAF s1.activeFormatting } :=
    b.hinv.withAF_sub _ (fun e he => mem_clearedAF he)
  have hi2 : HInv (tmplClosed s1) := ⟨hi1.open_el, hi1.open_tc, hi1.af, hi1.head, hi1.form, hi1.ctx⟩
  refine ⟨hi2, ?_, b.rooted⟩
  refine
    { root := fun _ => b.rooted
      stack := trivial
      head := fun h => absurd h (by decide)
      headIn := ?_
      text := fun h => by cases h
      tableText := fun h => by cases h
      pending := fun _ => by
        show s1.pendingTableText = []
        rw [b.pendingTableText]; exact ht.s.pending (ne_inTableText_of_origOk ho)
      tmpl := ?_
      tmodes := ?_ }
  · rintro ⟨y, hy, hn⟩
    show s1.headElem.isSome = true
    rw [b.headElem]
    have hy' : y ∈ pre := by rw [← st.openElems]; exact hy
    refine ht.s.headIn ⟨y, hsub y hy', ?_⟩
    rw [← nm_ext b.ext (ht.h.open_el y (hsub y hy'))]; exact hn
  · show tcount s1.dom s1.openElems + ctxTmpl (tmplClosed s1) ≤ s1.templateModes.dropLast.length
    have hc : ctxTmpl (tmplClosed s1) = ctxTmpl s :=
      (show ctxTmpl (tmplClosed s1) = ctxTmpl s1 from rfl).trans (ctxTmpl_fr ht.h st.fr)
    have h1 : tcount s1.dom s1.openElems = tcount s.dom pre := by
      rw [st.openElems]; exact tcount_ext st.fr.ext (ht.h.open_el.sub hsub)
    have h2 : 1 ≤ tcount s.dom (x :: post) := by
      unfold tcount; rw [List.countP_cons]; simp [isTmpl, hx]
    have h3 := ht.s.tmpl
    rw [heq, tcount_append] at h3
    rw [hc, h1, List.length_dropLast, st.fr.templateModes]
    omega
  · intro y hy
    have : y ∈ s1.templateModes := List.dropLast_subset _ hy
    rw [st.fr.templateModes] at this
    exact ht.s.tmodes y this

/-- the `</template>` end tag when a `template` is open -/
theorem sat_closeTemplate {s : State} (ht : TI s) (ho : origOk s.mode = true)
    (hex : ∃ x ∈ s.openElems, namedP s.dom "template".toList x = true) :
    Sat (do
      generateImpliedEndTags thoroughImpliedEnd
      expectToClose "template"
      clearActiveFormattingToMarker
      modS fun s => { s with templateModes := s.templateModes.dropLast }
      setMode (← resetInsertionMode)
      pure ProcessResult.done) s (fun res s' => res = .done ∧ HInv s' ∧ SInv s'.mode s') := by
  obtain ⟨pre', post, x, hl, hlast, hpx, hpost⟩ := split_last_sat (p := namedP s.dom "template".toList) hex
  obtain ⟨pre, rfl⟩ := List.getLast?_eq_some_iff.mp hlast
  have heq : s.openElems = pre ++ x :: post := by rw [hl]; simp
  have hxn : nm s.dom x = tmplName := namedP_tmpl hpx
  have hxs : thoroughImpliedEnd (nm s.dom x) = false := by rw [hxn]; decide
  refine (sat_generateImpliedEndTags_keep' ht.h.open_el heq hxs).bind ?_
  rintro _ s1 ⟨post0, st, hp, hall1, hnm⟩
  unfold expectToClose
  refine (sat_expectToCloseS hall1 st.openElems ?_ ?_).bind ?_
  · unfold namedP; rw [hnm x (by simp)]; exact hpx
  · intro y hy
    unfold namedP; rw [hnm y (by simp [hy])]
    exact hpost y (hp y hy)
  rintro _ s2 st2
  have st' : St s s2 pre := ⟨st.fr.trans st2.fr, st2.openElems, st2.af.trans st.af⟩
  refine sat_clearActiveFormattingToMarker.bind ?_
  rintro _ s3 rfl
  refine sat_modS_bind ?_
  obtain ⟨hi2, hs2, hr2⟩ := sinv_afterTemplatePop ht ho heq hxn st'
  refine (sat_reset_sinv hi2 hs2 (by decide) hr2).bind ?_
  rintro m s4 ⟨hq, hs4, _⟩
  refine sat_setMode.bind ?_
  rintro _ s5 rfl
  exact sat_pure ⟨rfl, (hi2.of_qf hq).withMode m, hs4.withMode m⟩

theorem hasNamed_ex {d : Dom} {l : List Id} {name : Str} (h : hasNamed d l name = true) :
    ∃ x ∈ l, namedP d name x = true := by
  unfold hasNamed at h
  rw [List.any_eq_true] at h
  exact h

/-- the EOF arm of `InTemplate` -/
theorem inTemplateEof_spec : TemplateEofSpec := by
  intro s ht ho
  unfold inTemplateEof
  refine (sat_inHtmlElemNamed ht.h.open_el).bind ?_
  rintro b s1 ⟨rfl, hq1⟩
  refine sat_ite (fun hb => ?_) fun hb => ?_
  · exact sat_pure (StepPost.of_qf ht hq1 rfl trivial)
  have hhas : hasNamed s.dom s.openElems "template".toList = true := by simpa using hb
  obtain ⟨pre', post, x, hl, hlast, hpx, hpost⟩ :=
    split_last_sat (p := namedP s.dom "template".toList) (hasNamed_ex hhas)
  obtain ⟨pre, rfl⟩ := List.getLast?_eq_some_iff.mp hlast
  have heq : s.openElems = pre ++ x :: post := by rw [hl]; simp
  have hxn : nm s.dom x = tmplName := namedP_tmpl hpx
  refine sat_unexpected.bind ?_
  rintro _ s2 ⟨-, hq2⟩
  have hq := hq1.trans hq2
  have hall2 : AllEl s2.dom s2.openElems := by rw [hq.openElems]; exact ht.h.open_el.ext hq.ext
  unfold popUntilNamed
  refine (sat_popUntilNamedS (pre := pre) (x := x) (post := post) hall2 (by rw [hq.openElems]; exact heq) ?_ ?_).bind ?_
  · unfold namedP; rw [ht.h.open_el.nm_eq hq.ext (by rw [heq]; simp)]; exact hpx
  · intro y hy
    unfold namedP; rw [ht.h.open_el.nm_eq hq.ext (by rw [heq]; simp [hy])]
    exact hpost y hy
  rintro _ s3 ⟨st3, -⟩
  have st' : St s s3 pre := hq.same.st_left st3
  refine sat_clearActiveFormattingToMarker.bind ?_
  rintro _ s4 rfl
  refine sat_modS_bind ?_
  obtain ⟨hi2, hs2, hr2⟩ := sinv_afterTemplatePop ht ho heq hxn st'
  refine (sat_reset_sinv hi2 hs2 (by decide) hr2).bind ?_
  rintro m s5 ⟨hq5, hs5, hm5⟩
  refine sat_setMode.bind ?_
  rintro _ s6 rfl
  have hi5 : HInv s5 := hi2.of_qf hq5
  have hr5 : Rooted s5.dom s5.openElems := by rw [hq5.openElems]; exact hr2.ext hq5.ext hi2.open_el
  refine (sat_reset_sinv (hi5.withMode m) (hs5.withMode m) hm5.1 hr5).bind ?_
  rintro m2 s7 ⟨hq7, hs7, hm7⟩
  exact sat_pure ⟨(hi5.withMode m).of_qf hq7, hs7, rfl, hm7.2⟩

/-! ### the arms of `stepInHead` -/

/-- `</head>` and "anything else" in `InHead`: the popped element is not the root -/
theorem afterHead_of_pop {s s1 : State} (ht : TI s) (hm : s.mode = .inHead)
    (st : St s s1 s.openElems.dropLast) : HInv s1 ∧ SInv .afterHead s1 := by
  have hs : SInv .inHead s := hm ▸ ht.s
  have hroot := hs.root rfl
  have hne0 : s.openElems ≠ [] := by obtain ⟨r0, rest, hl, _⟩ := hroot; rw [hl]; simp
  obtain ⟨h0, hlast⟩ := getLast?_of_ne_nil hne0
  have heq : s.openElems = s.openElems.dropLast ++ [h0] := dropLast_append_getLast hlast
  have hne : s.openElems.dropLast ≠ [] := by
    intro hnil
    rw [hnil] at heq
    obtain ⟨x, hx, hxn⟩ : ∃ x ∈ s.openElems, nm s.dom x = headName := hs.stack
    obtain ⟨r0, rest, hl, hrn⟩ := hroot
    rw [heq] at hx hl
    simp only [List.nil_append, List.mem_singleton] at hx
    simp only [List.nil_append, List.cons.injEq] at hl
    rw [hx, hl.1, hrn] at hxn
    exact absurd hxn (by decide)
  have b : BStep s s1 := BStep.of_st ht.h hroot heq hne st
  refine ⟨b.hinv, ?_⟩
  exact
    { root := fun _ => b.rooted
      stack := trivial
      head := fun _ => by rw [b.headElem]; exact hs.head rfl
      headIn := fun _ => by rw [b.headElem]; exact hs.head rfl
      text := fun h => by cases h
      tableText := fun h => by cases h
      pending := fun _ => by rw [b.pendingTableText]; exact hs.pending (by decide)
      tmpl := by
        rw [ctxTmpl_fr ht.h st.fr, b.templateModes]
        exact Nat.le_trans (Nat.add_le_add_right b.tcnt _) hs.tmpl
      tmodes := by rw [b.templateModes]; exact hs.tmodes }

/-- `<noscript>` with scripting disabled, in `InHead` -/
theorem noscript_post {tok : Token} {s s1 : State} {r : Id} {name : Str} (ht : TI s) (hm : s.mode = .inHead)
    (ins : Inserted s s1 r nsHtml name true) (hnew : NewOk ⟨nsHtml, name⟩) :
    StepPost tok .done { s1 with mode := .inHeadNoscript } := by
  have hs : SInv .inHead s := hm ▸ ht.s
  have hroot := hs.root rfl
  have b : BStep s s1 := BStep.of_inserted ht.h hroot ins hnew
  have hs1 : SInv .inHead s1 := hs.of_bstep ht.h b rfl (Keeps.of_inserted ins)
  have hstack : ModeStack s1.dom .inHeadNoscript s1.openElems := by
    show (∃ x ∈ s1.openElems.dropLast, nm s1.dom x = headName) ∧
      ∃ t, s1.openElems.getLast? = some t ∧ (nm s1.dom t).ns = nsHtml
    rw [ins.open_true, List.dropLast_concat]
    obtain ⟨x, hx, hxn⟩ : ∃ x ∈ s.openElems, nm s.dom x = headName := hs.stack
    exact ⟨⟨x, hx, by rw [nm_ext b.ext (ht.h.open_el x hx)]; exact hxn⟩, r, by simp, by rw [ins.nm]⟩
  have hs2 : SInv .inHeadNoscript s1 :=
    hs1.chmode (by decide) (fun _ => b.rooted) hstack (fun _ => hs1.head rfl) (by decide) (by decide)
  exact ⟨b.hinv.withMode _, hs2.withMode _, trivial⟩

theorem sat_shouldAttachDeclarativeShadow {tag : Tag} {s : State} (hp : PlaceOk s none) :
    Sat (shouldAttachDeclarativeShadow tag) s (fun _ s' => QF s s') := by
  unfold shouldAttachDeclarativeShadow
  refine (sat_appropriatePlaceForInsertion hp).bind ?_
  intro loc s1 hq1
  dsimp only
  refine (sat_sinkBool_const (apply_allow _ _)).bind ?_
  rintro allow s2 ⟨-, hq2⟩
  refine sat_getS_bind ?_
  exact sat_pure (hq1.trans hq2)

/-- the insertion part of the `<template>` start tag: exactly one new element ends up pushed
(the two `unwrap-none` sites of this arm are not reached: the stack is not empty, and `context_elem` is
tested before) -/
theorem sat_templateInsert {tag : Tag} {a : State} (hia : HInv a) (hra : Rooted a.dom a.openElems) :
    Sat (do
      if ← shouldAttachDeclarativeShadow tag then
        let s ← getS
        let shadowHost ← match s.openElems.getLast? with
          | some h => pure h
          | none => panicAt "unwrap-none" "rules.rs:276" "open_elems.last().unwrap()"
        let shadowHost ←
          if s.contextElem.isSome && s.openElems.length == 1 then
            match s.contextElem with
            | some c => pure c
            | none => panicAt "unwrap-none" "rules.rs:278" "context_elem unwrap"
          else pure shadowHost
        let template ← insertForeignElement tag nsHtml true
        let succeeded ← sinkBool (.attachDeclarativeShadow shadowHost template tag.attrs)
        if !succeeded then
          let _ ← pop
          let _ ← insertElementFor tag
      else
        let _ ← insertElementFor tag
      pure ProcessResult.done : M ProcessResult) a
      (fun res s' => res = .done ∧ ∃ r, Inserted a s' r nsHtml tag.name true) := by
  have hpa : PlaceOk a none := PlaceOk.of_hinv hia hra
  refine (sat_shouldAttachDeclarativeShadow hpa).bind ?_
  intro b s1 hq1
  dsimp only
  have hi1 : HInv s1 := hia.of_qf hq1
  have hr1 : Rooted s1.dom s1.openElems := by rw [hq1.openElems]; exact hra.ext hq1.ext hia.open_el
  refine sat_ite (fun hb => ?_) fun hb => ?_
  · refine sat_getS_bind ?_
    have htail : ∀ (shadowHost : Id),
        Sat (do
          let template ← insertForeignElement tag nsHtml true
          let succeeded ← sinkBool (SinkOp.attachDeclarativeShadow shadowHost template tag.attrs)
          if (!succeeded) = true then do
              let _ ← pop
              let _ ← insertElementFor tag
              pure ProcessResult.done
            else pure ProcessResult.done) s1
          (fun res s' => res = .done ∧ ∃ r, Inserted a s' r nsHtml tag.name true) := by
      intro shadowHost
      refine (sat_insertForeignElement (PlaceOk.of_hinv hi1 hr1)).bind ?_
      intro t s2 ins1
      refine (sat_sinkBool_const (apply_attach _ _ _ _)).bind ?_
      rintro succ s3 ⟨-, hq3⟩
      have ins3 : Inserted s1 s3 t nsHtml tag.name true := ins1.of_qf_right hq3
      by_cases hs : (!succ) = true
      · rw [if_pos hs]
        have hl3 : s3.openElems.getLast? = some t := by rw [ins3.open_true]; simp
        refine (sat_pop hl3).bind ?_
        rintro _ s4 ⟨-, st4⟩
        have hi3 : HInv s3 := ins3.hinv hi1
        have hi4 : HInv s4 := hi3.of_st st4 (fun x hx => List.dropLast_subset _ hx)
        have hr4 : Rooted s4.dom s4.openElems := by
          rw [st4.openElems, ins3.open_true, List.dropLast_concat]
          exact hr1.ext (ins3.fr.ext.trans st4.fr.ext) hi1.open_el
        refine (sat_insertElementFor (PlaceOk.of_hinv hi4 hr4)).bind ?_
        intro r s5 ins5
        exact sat_pure ⟨rfl, r, (ins3.pop_reinsert st4 ins5).of_qf_left hq1⟩
      · rw [if_neg hs]
        exact sat_pure ⟨rfl, t, ins3.of_qf_left hq1⟩
    obtain ⟨top, htop⟩ := getLast?_of_ne_nil (l := s1.openElems)
      (by obtain ⟨r0, rest, hl, _⟩ := hr1; rw [hl]; simp)
    simp only [htop]
    refine sat_pure_bind ?_
    by_cases hc : (s1.contextElem.isSome && s1.openElems.length == 1) = true
    · rw [if_pos hc]
      cases hctx : s1.contextElem with
      | none => rw [hctx] at hc; simp at hc
      | some c =>
        dsimp only
        exact sat_pure_bind (htail _)
    · rw [if_neg hc]
      exact sat_pure_bind (htail _)
  · refine (sat_insertElementFor (PlaceOk.of_hinv hi1 hr1)).bind ?_
    intro r s2 ins
    exact sat_pure ⟨rfl, r, ins.of_qf_left hq1⟩

/-! ### `stepInHead` -/

theorem stepInHead_explicit (tok : Token) (s : State) (ht : TI s) (ho : origOk s.mode = true)
    (hd : s.mode = .inHead ∨ headDeleg tok = true) : Sat (stepInHead tok) s (HeadOut tok s) := by
  have hpre := preRoot_of_origOk ho
  have hroot := ht.rooted hpre
  have hplace := ht.place hpre
  obtain ⟨top, htop⟩ := getLast?_of_ne_nil (l := s.openElems)
    (by obtain ⟨r0, rest, hl, _⟩ := hroot; rw [hl]; simp)
  have hmode : headDeleg tok = false → s.mode = .inHead := fun h1 => hd.resolve_right (by rw [h1]; decide)
  -- "anything else"
  have helse : headDeleg tok = false → afterHeadDeleg tok = false →
      Sat (do let _ ← pop; pure (ProcessResult.reprocess .afterHead tok)) s (HeadOut tok s) := by
    intro h1 h2
    refine (sat_pop htop).bind ?_
    rintro _ s1 ⟨-, st⟩
    obtain ⟨hi1, hs1⟩ := afterHead_of_pop ht (hmode h1) st
    exact sat_pure (.other h2 ⟨hi1, hs1, rfl, by decide⟩)
  unfold stepInHead
  cases tok with
  | chars st text =>
    cases st with
    | notSplit => exact sat_pure (.same (Same.refl s) (fun _ => rfl) trivial)
    | whitespace =>
      refine (sat_appendText hplace).mono ?_
      rintro res s' ⟨rfl, hq⟩
      exact .same hq.same (fun _ => rfl) trivial
    | notWhitespace => exact helse rfl rfl
  | comment text =>
    refine (sat_appendComment hplace).mono ?_
    rintro res s' ⟨rfl, hq⟩
    exact .same hq.same (fun _ => rfl) trivial
  | nullChar => exact helse rfl rfl
  | eof => exact helse rfl rfl
  | tag tag =>
    dsimp only
    -- `<html>`
    refine sat_ite (fun h1 => ?_) fun h1 => ?_
    · refine (sat_inBodyHtml ht.h hroot).mono ?_
      rintro res s' ⟨rfl, hq⟩
      exact .same hq.same (fun _ => rfl) trivial
    -- `<base> <basefont> <bgsound> <link> <meta>`
    refine sat_ite (fun h2 => ?_) fun h2 => ?_
    · refine (sat_insertAndPopElementFor hplace).bind ?_
      intro r s1 ins
      have finD : ∀ (s2 : State), s1 = s2 →
          Sat (pure ProcessResult.doneAckSelfClosing : M ProcessResult) s2 (HeadOut (.tag tag) s) := by
        rintro s2 rfl
        exact sat_pure (.same ins.same (fun _ => rfl) trivial)
      have finE : ∀ (c : Str) (s2 : State), s1 = s2 →
          Sat (pure (ProcessResult.encodingIndicator c) : M ProcessResult) s2 (HeadOut (.tag tag) s) := by
        rintro c s2 rfl
        exact sat_pure (.same ins.same (fun _ => rfl) trivial)
      repeat' split
      all_goals first
        | exact finD _ rfl
        | exact finE _ _ rfl
        | (refine sat_extractEncoding.bind ?_
           rintro o s2 hs2
           split
           · exact finE _ _ hs2.symm
           · exact finD _ hs2.symm)
    -- `<title>`
    refine sat_ite (fun h3 => ?_) fun h3 => ?_
    · refine (sat_parseRawData hplace).mono ?_
      rintro res s' ⟨rfl, s1, r, ins, rfl⟩
      exact .raw r tag.name _ ins.toText
        (NewOk.of_isOneOf (isStart_name h3)) rfl rfl
    -- `<noframes> <style> <noscript>`
    refine sat_ite (fun h4 => ?_) fun h4 => ?_
    · refine sat_getS_bind ?_
      have hnew : NewOk ⟨nsHtml, tag.name⟩ := NewOk.of_isOneOf (isStart_name h4)
      refine sat_ite (fun hc => ?_) fun hc => ?_
      · have hname : tag.name = "noscript".toList := by
          simp only [Bool.and_eq_true] at hc; exact isName_eq hc.2
        obtain ⟨hd1, hd2⟩ := deleg_false_of_name (tag := tag) (by rw [hname]; decide) (by rw [hname]; decide)
        refine (sat_insertElementFor hplace).bind ?_
        intro r s1 ins
        refine sat_setMode.bind ?_
        rintro _ s2 rfl
        exact sat_pure (.other hd2 (noscript_post ht (hmode hd1) ins hnew))
      · refine (sat_parseRawData hplace).mono ?_
        rintro res s' ⟨rfl, s1, r, ins, rfl⟩
        exact .raw r tag.name _ ins.toText hnew rfl rfl
    -- `<script>`
    refine sat_ite (fun h5 => ?_) fun h5 => ?_
    · refine sat_createElementWithFlags.bind ?_
      intro elem s1 hc
      refine sat_isFragment.bind ?_
      rintro b s1' ⟨-, hs1'⟩
      rw [hs1']
      have htail : ∀ s2, QF s1 s2 →
          Sat (do
            insertAppropriately (NodeOrText.node elem) none
            push elem
            toRawTextMode H5V.Model.HtmlTok.RawKind.scriptData) s2 (HeadOut (.tag tag) s) := by
        intro s2 hq2
        have hq : QF s s2 := hc.qf.trans hq2
        refine (sat_insertAppropriately (hplace.of_qf hq)).bind ?_
        intro _ s3 hq3
        refine sat_push.bind ?_
        rintro _ s4 rfl
        refine sat_toRawTextMode.mono ?_
        rintro res s5 ⟨rfl, rfl⟩
        have hq' : QF s s3 := hq.trans hq3
        have hel : IsEl s3.dom elem := hc.el.ext (hq2.trans hq3).ext
        have hnm : nm s3.dom elem = ⟨nsHtml, "script".toList⟩ := by
          rw [nm_ext (hq2.trans hq3).ext hc.el]; exact hc.nm
        have ins : Inserted s { s3 with openElems := s3.openElems ++ [elem] } elem nsHtml "script".toList true :=
          ⟨hq'.fr.withOpen _, hq'.activeFormatting, by simp [hq'.openElems], fun x hx => hc.ne hx, hel, hnm,
           fun hn => by rw [hnm] at hn; exact absurd hn (by decide)⟩
        exact .raw elem _ _ ins.toText ⟨by decide, by decide⟩ rfl rfl
      refine sat_ite (fun hb => ?_) fun hb => ?_
      · refine (sat_sinkUnit_total ⟨_, _, apply_mark _ _⟩).bind ?_
        intro _ s2 hq2
        exact htail s2 hq2
      · exact htail s1 (QF.refl _)
    -- `</head>`
    refine sat_ite (fun h6 => ?_) fun h6 => ?_
    · obtain ⟨hd1, hd2⟩ := deleg_false_of_end (isEnd_kind h6) (isOneOf_false_of (isEnd_name h6) (by decide))
      refine (sat_pop htop).bind ?_
      rintro _ s1 ⟨-, st⟩
      obtain ⟨hi1, hs1⟩ := afterHead_of_pop ht (hmode hd1) st
      refine sat_setMode.bind ?_
      rintro _ s2 rfl
      exact sat_pure (.other hd2 ⟨hi1.withMode _, hs1.withMode _, trivial⟩)
    -- `</body> </html> </br>`
    refine sat_ite (fun h7 => ?_) fun h7 => ?_
    · obtain ⟨hd1, hd2⟩ := deleg_false_of_end (isEnd_kind h7) (isOneOf_false_of (isEnd_name h7) (by decide))
      exact helse hd1 hd2
    -- `<template>`
    refine sat_ite (fun h8 => ?_) fun h8 => ?_
    · have hname : tag.name = "template".toList := by
        obtain ⟨x, hx, hn⟩ := isOneOf_cases (isStart_name h8)
        simp only [List.mem_cons, List.not_mem_nil, or_false] at hx
        rw [hn, hx]
      unfold pushMarker setFramesetOk setMode
      refine sat_modS_bind ?_
      refine sat_modS_bind ?_
      refine sat_modS_bind ?_
      refine sat_modS_bind ?_
      have hia : HInv { s with activeFormatting := s.activeFormatting ++ [.marker], framesetOk := false, mode := .inTemplate, templateModes := s.templateModes ++ [.inTemplate] } := by
        refine ⟨ht.h.open_el, ht.h.open_tc, ?_, ht.h.head, ht.h.form, ht.h.ctx⟩
        intro h t hm
        rcases List.mem_append.mp hm with hm | hm
        · exact ht.h.af h t hm
        · simp at hm
      refine (sat_templateInsert (tag := tag) hia hroot).mono ?_
      rintro res s' ⟨rfl, r, ins⟩
      rw [hname] at ins
      exact .tmpl r ins rfl
    -- `</template>`
    refine sat_ite (fun h9 => ?_) fun h9 => ?_
    · refine (sat_inHtmlElemNamed ht.h.open_el).bind ?_
      rintro b s1 ⟨rfl, hq1⟩
      refine sat_ite (fun hb => ?_) fun hb => ?_
      · refine sat_unexpected.bind ?_
        rintro _ s2 ⟨-, hq2⟩
        exact sat_pure (.same (hq1.trans hq2).same (fun _ => rfl) trivial)
      · have hhas : hasNamed s.dom s.openElems "template".toList = true := by simpa using hb
        obtain ⟨x, hx, hpx⟩ := hasNamed_ex hhas
        have ht1 : TI s1 := ht.of_qf hq1
        refine (sat_closeTemplate ht1 (by rw [hq1.mode]; exact ho)
          ⟨x, by rw [hq1.openElems]; exact hx,
            by unfold namedP; rw [nm_ext hq1.ext (ht.h.open_el x hx)]; exact hpx⟩).mono ?_
        rintro res s' ⟨rfl, hi', hs'⟩
        exact .other (afterHeadDeleg_end (isEnd_kind h9)) ⟨hi', hs', trivial⟩
    -- `<head>`, any other end tag
    refine sat_ite (fun h10 => ?_) fun h10 => ?_
    · refine sat_unexpected.mono ?_
      rintro res s' ⟨rfl, hq⟩
      exact .same hq.same (fun _ => rfl) trivial
    -- anything else
    have hns : tag.isStart delegNames = false := by
      cases hh : tag.isStart delegNames with
      | false => rfl
      | true =>
        rcases deleg_cases hh with h | h | h | h | h
        · exact absurd h h2
        · exact absurd h h3
        · exact absurd h h4
        · exact absurd h h5
        · exact absurd h h8
    exact helse (by rw [headDeleg_tag, hns]; simpa using h9) (by rw [afterHeadDeleg_tag]; exact hns)

theorem stepInHead_spec : HeadSpec := by
  intro tok s ht ho hd
  exact (stepInHead_explicit tok s ht ho hd).mono (fun res s' h => h.stepPost ht ho)

/-! ### `AfterHead`: `push(head); step(InHead, token); remove_from_stack(head)` -/

theorem afterHeadBlock_spec : AfterHeadBlockSpec := by
  intro tok head s ht hm hh hd
  have hs : SInv .afterHead s := hm ▸ ht.s
  have hroot := hs.root rfl
  obtain ⟨hhel, hhnm⟩ := ht.h.head head hh
  refine sat_push.bind ?_
  rintro _ s0 rfl
  have hi0 : HInv { s with openElems := s.openElems ++ [head] } := by
    refine ⟨?_, ?_, ht.h.af, ht.h.head, ht.h.form, ht.h.ctx⟩
    · intro x hx
      rcases List.mem_append.mp hx with hx | hx
      · exact ht.h.open_el x hx
      · rw [List.mem_singleton.mp hx]; exact hhel
    · intro x hx
      rcases List.mem_append.mp hx with hx | hx
      · exact ht.h.open_tc x hx
      · rw [List.mem_singleton.mp hx]
        intro hn
        have hn' : nm s.dom head = tmplName := hn
        rw [hhnm] at hn'; exact absurd hn' (by decide)
  have hs0 : SInv .afterHead { s with openElems := s.openElems ++ [head] } :=
    { root := fun _ => hroot.append_ext (Ext.refl _) ht.h.open_el
      stack := trivial
      head := fun _ => by show s.headElem.isSome = true; rw [hh]; rfl
      headIn := fun _ => by show s.headElem.isSome = true; rw [hh]; rfl
      text := fun h => by cases h
      tableText := fun h => by cases h
      pending := fun _ => hs.pending (by decide)
      tmpl := by
        show tcount s.dom (s.openElems ++ [head]) + ctxTmpl s ≤ s.templateModes.length
        have h0 : tcount s.dom [head] = 0 := tcount_zero_of_not (by
          intro x hx; rw [List.mem_singleton.mp hx, hhnm]; decide)
        rw [tcount_append, h0]
        exact hs.tmpl
      tmodes := hs.tmodes }
  have hs0' : ∀ m, m = Mode.afterHead → SInv m { s with openElems := s.openElems ++ [head] } := by
    rintro m rfl; exact hs0
  have ht0 : TI { s with openElems := s.openElems ++ [head] } := ⟨hi0, hs0' _ hm⟩
  have hdel : headDeleg tok = true := by
    cases tok with
    | tag tag =>
      rw [afterHeadDeleg_tag] at hd
      rw [headDeleg_tag, hd]; rfl
    | _ => cases hd
  refine (stepInHead_explicit tok _ ht0 (by show origOk s.mode = true; rw [hm]; rfl) (Or.inr hdel)).bind ?_
  intro res s1 hout
  refine sat_removeFromStack.bind ?_
  intro _ s2 hrem
  refine sat_pure ?_
  exact (hout.unpush hhel hd hrem).stepPost ht (by rw [hm]; rfl)

end H5V.Lemmas.TBSafe
