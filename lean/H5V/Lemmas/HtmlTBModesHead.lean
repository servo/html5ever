import H5V.Lemmas.HtmlTBModesBodyNav
/-!
The "in head" rule function as a whole (`sim_inHead`, `simChars_inHead`, `modeSim_inHead`,
`modeCharSim_inHead`) and the "in template" insertion mode (`modeSim_inTemplate`, `modeCharSim_inTemplate`).

`TmOk s` ("in table text" is not on the stack of template insertion modes) is the field `MInv.tmodes`; it is
needed by the two places that "reset the insertion mode appropriately" after popping a template insertion
mode (`</template>`, EOF in "in template").
-/
namespace H5V.Lemmas.HtmlTBModes
open H5V.Model.HtmlTB
open H5V.Model.Dom (Id SinkOp Output Dom QualName Attr NodeOrText ElementFlags NodeData QuirksMode)
open H5V.Lemmas.HtmlTBAlgo
open H5V.Lemmas.TBSafe (TI HInv SInv Rooted)
open H5V.Spec.TreeAlgo2 (Elem Entry PState Ctx Edit Place)
open H5V.Spec.TreeModes (STok ETok IMode Config Out TokSwitch XOp Op Step Edition)

/-! ### the stack of template insertion modes -/

/-- the stack of template insertion modes never holds "in table text" (`MInv.tmodes`) -/
def TmOk (s : State) : Prop := ∀ m ∈ s.templateModes, m ≠ .inTableText

theorem TmOk.of_minv {s : State} (h : MInv s) : TmOk s := h.tmodes

theorem TmOk.congr {s s' : State} (h : TmOk s) (e : s'.templateModes = s.templateModes) : TmOk s' := by
  unfold TmOk; rw [e]; exact h

theorem TmOk.dropLast_getLast {s : State} (h : TmOk s) : s.templateModes.dropLast.getLast? ≠ some .inTableText := by
  intro e
  exact h _ (List.dropLast_subset _ (List.mem_of_getLast? e)) rfl

/-! ### generalities -/

/-- the results that mean "done" to the specification -/
def head_plainRes (res : ProcessResult) : Prop :=
  res = .done ∨ res = .doneAckSelfClosing ∨ ∃ e, res = .encodingIndicator e

/-- the end of a rule that answers `Done` / `DoneAckSelfClosing` / `EncodingIndicator` -/
theorem head_tokPost_plain {spec : SState → Spec.TreeModes.M (Step Id)} {s s' : State} {tok : Token} {calls : List Call}
    {res : ProcessResult} (hres : head_plainRes res)
    (h : Tr s s' calls (fun x x' => spec (absF s x) = .ok (.done (absF s' x')))) :
    TokPost spec s tok res s' calls := by
  rcases hres with rfl | rfl | ⟨e, rfl⟩ <;>
    exact tokPost_of_tr h trivial fun _ x' _ _ r => ⟨x', r, AuxSame.rfl', Or.inl rfl, rfl, rfl⟩

/-- the `Aux` with the junk table text the abstract state of `s'` has (for a following switch of the mode) -/
def head_junk (s' : State) (x' : Aux) : Aux := { x' with pendingJunk := (absF s' x').pendingTableChars }

theorem head_junk_same (s' : State) (x' : Aux) :
    AuxSame x' (head_junk s' x') ∧ (head_junk s' x').stopped = x'.stopped ∧
      (head_junk s' x').out.switch = x'.out.switch ∧ (head_junk s' x').out.script = x'.out.script :=
  ⟨⟨rfl, rfl, rfl, rfl, rfl⟩, rfl, rfl, rfl⟩

theorem head_absF_junk (s' : State) (x' : Aux) (m : Mode) (hm : m ≠ .inTableText) :
    absF { s' with mode := m } (head_junk s' x') = (absF s' x').setMode (imode m) := by
  cases m <;> first | exact absurd rfl hm | rfl

/-! ### the arms of `stepInHead` as functions of their own -/

/-- "anything else": pop the current node, reprocess in "after head" -/
def head_elseM (tok : Token) : M ProcessResult := do
  let _ ← pop
  pure (.reprocess .afterHead tok)

/-- the answer to a `meta` start tag (rules.rs:194) -/
def head_metaRes (tag : Tag) : M ProcessResult :=
  match tag.getAttribute "charset" with
  | some charset => pure (.encodingIndicator charset)
  | none =>
    let isContentType := match tag.getAttribute "http-equiv" with
      | some v => eqIgnoreAsciiCase v "content-type".toList
      | none => false
    if isContentType then
      match tag.getAttribute "content" with
      | none => pure .doneAckSelfClosing
      | some content => do
        match ← extractEncoding content with
        | some enc => pure (.encodingIndicator enc)
        | none => pure .doneAckSelfClosing
    else pure .doneAckSelfClosing

/-- `<base> | <basefont> | <bgsound> | <link> | <meta>` -/
def head_voidM (tag : Tag) : M ProcessResult := do
  let _ ← insertAndPopElementFor tag
  if !isName tag.name "meta" then pure .doneAckSelfClosing
  else head_metaRes tag

/-- `<noframes> | <style> | <noscript>` -/
def head_rawM (tag : Tag) : M ProcessResult := do
  if !(← getS).opts.scriptingEnabled && isName tag.name "noscript" then
    let _ ← insertElementFor tag
    setMode .inHeadNoscript
    pure .done
  else parseRawData tag .rawtext

/-- `</head>` -/
def head_endHeadM : M ProcessResult := do
  let _ ← pop
  setMode .afterHead
  pure .done

/-- `<template>` (rules.rs:262) -/
def head_tmplStartM (tag : Tag) : M ProcessResult := do
  pushMarker
  setFramesetOk false
  setMode .inTemplate
  modS fun s => { s with templateModes := s.templateModes ++ [.inTemplate] }
  if ← shouldAttachDeclarativeShadow tag then
    let s ← getS
    let shadowHost ← match s.openElems.getLast? with
      | some h => pure h
      | none => panicAt "unwrap-none" "rules.rs:276" "open_elems.last().unwrap()"
    let shadowHost ←
      if s.contextElem.isSome && s.openElems.length == 1 then
        match s.contextElem with
        | some c => pure c
        | none => panicAt "unwrap-none" "rules.rs:278" "context_elem unwrap"
      else pure shadowHost
    let template ← insertForeignElement tag nsHtml true
    let succeeded ← sinkBool (.attachDeclarativeShadow shadowHost template tag.attrs)
    if !succeeded then
      let _ ← pop
      let _ ← insertElementFor tag
  else
    let _ ← insertElementFor tag
  pure .done

/-- `</template>` (rules.rs:295) -/
def head_tmplEndM : M ProcessResult := do
  if !(← inHtmlElemNamed "template") then
    let _ ← unexpected
  else
    generateImpliedEndTags thoroughImpliedEnd
    expectToClose "template"
    clearActiveFormattingToMarker
    modS fun s => { s with templateModes := s.templateModes.dropLast }
    setMode (← resetInsertionMode)
  pure .done

theorem stepInHead_tag (t : Tag) : stepInHead (.tag t) =
    (if t.isStart ["html"] then inBodyHtml t
    else if t.isStart ["base", "basefont", "bgsound", "link", "meta"] then head_voidM t
    else if t.isStart ["title"] then parseRawData t .rcdata
    else if t.isStart ["noframes", "style", "noscript"] then head_rawM t
    else if t.isStart ["script"] then scriptStart t
    else if t.isEnd ["head"] then head_endHeadM
    else if t.isEnd ["body", "html", "br"] then head_elseM (.tag t)
    else if t.isStart ["template"] then head_tmplStartM t
    else if t.isEnd ["template"] then head_tmplEndM
    else if t.isStart ["head"] || t.kind == .endTag then unexpected
    else head_elseM (.tag t)) := rfl

/-! ### the simple arms -/

theorem head_pc_else {s : State} (hm : MInv s) (tok : Token) :
    PC (head_elseM tok) s (fun r s' calls => r = .reprocess .afterHead tok ∧ s'.ignoreLf = s.ignoreLf ∧
      Tr s s' calls (fun x x' => absF { s' with mode := .afterHead } x' = (absF s x).pop.setMode .afterHead)) := by
  unfold head_elseM
  refine pc_seq (pc_pop hm) ?_
  rintro h s1 c1 _ ⟨-, -, hso, htr⟩
  refine pc_pure ⟨rfl, (SameButSL.of_stackOnly hso).ignoreLf, ?_⟩
  rw [List.append_nil]
  refine htr.reaux (fun _ x' => head_junk s1 x') (fun _ x' => head_junk_same s1 x') ?_
  rintro x x' hx hx' ⟨hxx, e, -⟩
  subst hxx
  rw [head_absF_junk _ _ _ (by decide), e]
  rfl

/-- "Pop the current node off the stack of open elements.  Switch the insertion mode to "after head".
Reprocess the token." -/
theorem head_pc_else_tok {s : State} (hm : MInv s) (tok : Token) :
    PC (head_elseM tok) s
      (TokPost (fun σ => pure (Step.reprocess ((Spec.TreeModes.State.pop σ).setMode .afterHead))) s tok) := by
  refine pc_conseq (head_pc_else hm tok) ?_
  rintro r s' calls _ ⟨rfl, -, htr⟩
  exact tokPost_of_reprocess (htr.conseq fun x x' _ _ e => by rw [e]; rfl)

/-- `extract_a_character_encoding_from_a_meta_element`: a computation on the attribute value, no sink call -/
theorem head_pc_extractEncoding (content : Str) (s : State) :
    PC (extractEncoding content) s (fun _ s' calls => s' = s ∧ calls = []) := by
  unfold extractEncoding
  split
  · exact pc_throw
  · exact pc_pure ⟨rfl, rfl⟩
  · split
    · exact pc_pure ⟨rfl, rfl⟩
    · exact pc_throw

theorem head_pc_metaRes (tag : Tag) (s : State) :
    PC (head_metaRes tag) s (fun r s' calls => s' = s ∧ calls = [] ∧ head_plainRes r) := by
  unfold head_metaRes
  split
  · exact pc_pure ⟨rfl, rfl, Or.inr (Or.inr ⟨_, rfl⟩)⟩
  · dsimp only
    repeat' split
    all_goals first
      | exact pc_pure ⟨rfl, rfl, Or.inr (Or.inl rfl)⟩
      | exact pc_pure ⟨rfl, rfl, Or.inr (Or.inr ⟨_, rfl⟩)⟩
      | (refine pc_seq (head_pc_extractEncoding _ s) ?_
         rintro r s1 c1 _ ⟨rfl, rfl⟩
         cases r with
         | none => exact pc_pure ⟨rfl, rfl, Or.inr (Or.inl rfl)⟩
         | some enc => exact pc_pure ⟨rfl, rfl, Or.inr (Or.inr ⟨_, rfl⟩)⟩)

/-- `<base> | <basefont> | <bgsound> | <link> | <meta>`: "Insert an HTML element for the token.
Immediately pop the current node off the stack of open elements.  Acknowledge the token's self-closing
flag, if it is set."  (html5ever's answer `EncodingIndicator` for a `meta` is "done" to the specification,
which does not model encodings) -/
theorem head_pc_void {s : State} (hm : MInv s) {t : Tag} (hp : PlainTag t) (tok : Token) :
    PC (head_voidM t) s (TokPost (fun σ => Step.done <$> Spec.TreeModes.insertVoid σ (specTag t)) s tok) := by
  unfold head_voidM
  refine pc_seq (pc_insertVoid hm hp) ?_
  rintro a s1 c1 _ ⟨-, -, -, -, -, htr⟩
  have hfin : ∀ res, head_plainRes res →
      TokPost (fun σ => Step.done <$> Spec.TreeModes.insertVoid σ (specTag t)) s tok res s1 (c1 ++ []) := fun res hres => by
    rw [List.append_nil]
    exact head_tokPost_plain hres (htr.conseq fun x x' _ _ r => by rw [r]; rfl)
  split
  · exact pc_pure (hfin _ (Or.inr (Or.inl rfl)))
  · refine pc_conseq (head_pc_metaRes t s1) ?_
    rintro r s' calls _ ⟨rfl, rfl, hr⟩
    exact hfin r hr

/-- `<noframes> | <style> | <noscript>`: the generic raw text element parsing algorithm, or (`noscript`
with the scripting flag disabled) "Insert an HTML element for the token.  Switch the insertion mode to
"in head noscript"." -/
theorem head_pc_raw {s : State} (hm : MInv s) {t : Tag} (hp : PlainTag t) (tok : Token) :
    PC (head_rawM t) s (TokPost (fun σ =>
      if (!s.opts.scriptingEnabled && isOneOf t.name ["noscript"]) = true then do
        let σ1 ← Spec.TreeModes.insertHtml' σ (specTag t)
        pure (Step.done (σ1.setMode .inHeadNoscript))
      else Step.done <$> Spec.TreeModes.genericRawText σ (specTag t)) s tok) := by
  unfold head_rawM
  refine pc_getS_bind ?_
  simp only [isName_eq_isOneOf]
  by_cases hc : (!s.opts.scriptingEnabled && isOneOf t.name ["noscript"]) = true
  · simp only [hc, if_true]
    refine pc_seq (pc_insertElementFor' hm hp) ?_
    rintro a s1 c1 _ ⟨-, -, -, -, -, htr1⟩
    have hm1 : MInv s1 := htr1.1
    refine pc_seq (pc_setMode_junk hm1 .inHeadNoscript (by decide)) ?_
    rintro _ s2 c2 _ ⟨-, htr2⟩
    refine pc_pure ?_
    rw [List.append_nil]
    refine head_tokPost_plain (Or.inl rfl) ((htr1.trans htr2).conseq ?_)
    rintro x x' _ _ ⟨x1, r1, -, r2⟩
    simp only [r1, r2]
    rfl
  · simp only [hc, Bool.false_eq_true, if_false]
    exact pc_parseRawData_rawtext hm hp tok

/-- `</head>`: "Pop the current node off the stack of open elements.  Switch the insertion mode to
"after head"." -/
theorem head_pc_endHead {s : State} (hm : MInv s) (tok : Token) :
    PC head_endHeadM s
      (TokPost (fun σ => pure (Step.done ((Spec.TreeModes.State.pop σ).setMode .afterHead))) s tok) := by
  unfold head_endHeadM
  refine pc_seq (pc_pop hm) ?_
  rintro h s1 c1 _ ⟨-, -, -, htr1⟩
  have hm1 : MInv s1 := htr1.1
  refine pc_seq (pc_setMode_junk hm1 .afterHead (by decide)) ?_
  rintro _ s2 c2 _ ⟨-, htr2⟩
  refine pc_pure ?_
  rw [List.append_nil]
  refine head_tokPost_plain (Or.inl rfl) ((htr1.trans htr2).conseq ?_)
  rintro x x' _ _ ⟨x1, ⟨hx1, e1, -⟩, -, r2⟩
  subst hx1
  rw [r2, e1]
  rfl

/-! ### the `template` start tag -/

/-- `should_attach_declarative_shadow(tag)` (mod.rs:1465) for a tag without a `shadowrootmode` attribute:
a query stretch (the appropriate place for inserting a node, `allow_declarative_shadow_roots`) that
answers `false` -/
theorem head_pc_shouldAttach {s : State} (hm : MInv s) {t : Tag}
    (hns : ∀ a ∈ t.attrs, a.name.loc ≠ "shadowrootmode".toList) :
    PC (shouldAttachDeclarativeShadow t) s (QueryQ s false) := by
  unfold shouldAttachDeclarativeShadow
  by_cases hne : s.openElems = []
  · exact pc_bind_false (pc_apfi_nil hne)
  obtain ⟨h0, hh0, hnt, hsp⟩ := hm.headOk hne
  obtain ⟨place, hplace, -⟩ := appropriatePlace_some (absStack s.dom s.openElems) s.fosterParenting none
    (elemOf s.dom h0) (by rw [absStack_head?, hh0]; rfl) hnt
  refine pc_query_bind (PC.of_tot (tot_appropriatePlace s none hm.elems (by intro t h; cases h) place hplace)) ?_
  intro s1 c1 he1 hs1 hc1
  have hshadow : (t.attrs.any fun a =>
      isName a.name.loc "shadowrootmode" && (a.value == "open".toList || a.value == "closed".toList)) = false := by
    rw [List.any_eq_false]
    intro a ha
    rw [isName_eq, decide_eq_false (hns a ha)]
    intro h
    cases h
  dsimp only
  rw [hshadow]
  refine pc_bind ?_
  unfold sinkBool
  refine pc_bind (pc_sink ?_)
  intro d' out ha
  rw [TBSafe.apply_allow] at ha
  cases ha
  refine pc_pure (pc_getS_bind (pc_pure ?_))
  refine ⟨rfl, hs1.trans (SameTB.afterCall ..), ?_⟩
  rw [edits_append, hc1]
  rfl

/-- the invariant after a change of the stack of template insertion modes -/
theorem head_minv_withTm {s : State} (hm : MInv s) (tm : List Mode) (h : ∀ m ∈ tm, m ≠ .inTableText) :
    MInv { s with templateModes := tm } := by
  have h0 : MInv { ({ s with templateModes := tm } : State) with templateModes := s.templateModes } := hm
  exact { h0 with tmodes := h }

/-- a change of the stack of template insertion modes (`g`: the same change on the specification's side) -/
theorem head_pc_modTm {s : State} (hm : MInv s) (f : List Mode → List Mode) (g : List IMode → List IMode)
    (hfg : ∀ l, (f l).map imode = g (l.map imode)) (hf : ∀ m ∈ f s.templateModes, m ≠ .inTableText) :
    PC (modS fun s => { s with templateModes := f s.templateModes }) s (fun _ s' calls =>
      s' = { s with templateModes := f s.templateModes } ∧
      Tr s s' calls (fun x x' => x' = x ∧
        absF s' x' = { absF s x with templateModes := g (absF s x).templateModes })) := by
  refine pc_modS rfl rfl ⟨rfl, ?_⟩
  refine (Tr.of_upd (s' := { s with templateModes := f s.templateModes }) hm rfl (fun _ h => h)
    (head_minv_withTm hm _ hf) rfl).conseq ?_
  rintro x x' _ _ hxx
  subst x'
  refine ⟨rfl, ?_⟩
  have e : absF { s with templateModes := f s.templateModes } x
      = { absF s x with templateModes := (f s.templateModes).map imode } := rfl
  rw [e, hfg]
  rfl

theorem head_tm_dropLast {s : State} (hm : MInv s) : ∀ m ∈ s.templateModes.dropLast, m ≠ .inTableText :=
  fun m h => hm.tmodes m (List.dropLast_subset _ h)

/-- `<template>` (rules.rs:262) against `inHeadStartTemplate`: the steps come in the same order (marker,
frameset-ok flag, insertion mode, stack of template insertion modes, insert the element);
`should_attach_declarative_shadow` answers `false` for a tag without `shadowrootmode` -/
theorem head_pc_tmplStart {s : State} (hm : MInv s) {t : Tag} (hwf : TagWf t) (tok : Token) :
    PC (head_tmplStartM t) s (TokPost (fun σ => Spec.TreeModes.inHeadStartTemplate σ (specTag t)) s tok) := by
  unfold head_tmplStartM
  refine pc_seq (pc_pushMarker hm) ?_
  rintro _ s1 c1 _ ⟨-, htr1⟩
  have hm1 : MInv s1 := htr1.1
  refine pc_seq (pc_setFramesetNotOk hm1) ?_
  rintro _ s2 c2 _ ⟨-, htr2⟩
  have hm2 : MInv s2 := htr2.1
  refine pc_seq (pc_setMode_junk hm2 .inTemplate (by decide)) ?_
  rintro _ s3 c3 _ ⟨-, htr3⟩
  have hm3 : MInv s3 := htr3.1
  refine pc_seq (head_pc_modTm hm3 (fun l => l ++ [.inTemplate]) (fun l => l ++ [.inTemplate])
    (fun l => by rw [List.map_append]; rfl) (fun m h => by
      rcases List.mem_append.mp h with h | h
      · exact hm3.tmodes m h
      · rw [List.mem_singleton.mp h]; decide)) ?_
  rintro _ s4 c4 _ ⟨-, htr4⟩
  have hm4 : MInv s4 := htr4.1
  refine pc_seq (head_pc_shouldAttach hm4 hwf.noShadow) ?_
  rintro b s5 c5 he5 ⟨rfl, hs5, hc5⟩
  have htr5 := Tr.of_same hm4 hs5 he5 (by rw [← edits2_edits, hc5]; rfl)
  have hm5 : MInv s5 := htr5.1
  simp only [Bool.false_eq_true, if_false]
  refine pc_seq (pc_insertElementFor' hm5 hwf.plain) ?_
  rintro a s6 c6 _ ⟨-, -, -, -, -, htr6⟩
  refine pc_pure ?_
  simp only [List.append_nil, ← List.append_assoc]
  refine head_tokPost_plain (Or.inl rfl) ((((((htr1.trans htr2).trans htr3).trans htr4).trans htr5).trans htr6).conseq ?_)
  rintro x x6 _ _ ⟨x5, ⟨x4, ⟨x3, ⟨x2, ⟨x1, ⟨hx1, r1⟩, hx2, r2⟩, hx3, r3⟩, hx4, r4⟩, hx5, r5⟩, r6⟩
  subst hx5
  subst hx4
  subst hx2
  subst hx1
  have e4 : absF s4 x5 = { ((absF s x2).insertMarker.notOk.setMode .inTemplate) with
      templateModes := ((absF s x2).insertMarker.notOk.setMode .inTemplate).templateModes ++ [.inTemplate] } := by
    rw [r4, r3, r2, ← r1]
    rfl
  simp only [Spec.TreeModes.inHeadStartTemplate]
  rw [← e4, r5, r6]
  rfl

/-! ### the `template` end tag -/

/-- step 2 of the `template` end tag: "If the current node is not a `template` element, then this is a parse error." -/
def head_tmplErr (σ : SState) : SState :=
  if σ.curIs "template" then σ else σ.err "in head: template end tag, current node is not template"

/-- `</template>` (rules.rs:295) against `inHeadEndTemplate`.  (`MInv.tmodes`: "reset the insertion mode
appropriately" must not answer "in table text".) -/
theorem head_pc_tmplEnd {s : State} (hm : MInv s) (tok : Token) :
    PC head_tmplEndM s (TokPost (fun σ => Spec.TreeModes.inHeadEndTemplate (cfgOf s) σ) s tok) := by
  have htm : TmOk s := hm.tmodes
  unfold head_tmplEndM
  refine pc_seq (pc_and (pc_inHtmlElemNamed_template hm)
    (PC.of_tot (pop_tot_inHtmlElemNamed s hm.elems "template"))) ?_
  rintro b s1 c1 _ ⟨htr1, -, hs1, -⟩
  have hm1 : MInv s1 := htr1.1
  have htm1 : TmOk s1 := htm.congr hs1.fields.templateModes
  cases b with
  | false =>
    simp only [Bool.not_false, if_true]
    refine pc_seq (pc_unexpected hm1) ?_
    rintro r s2 c2 _ ⟨-, htr2⟩
    refine pc_pure ?_
    rw [List.append_nil]
    refine tokPost_of_tr (htr1.trans htr2) trivial ?_
    rintro x x' hx hx' ⟨x1, ⟨hx1, e1, hb⟩, hx2, e2⟩
    subst hx2
    subst hx1
    refine ⟨{ x' with errors := x'.errors ++ ["in head: template end tag without template"] }, ?_,
      ⟨rfl, rfl, rfl, rfl, rfl⟩, Or.inl rfl, rfl, rfl⟩
    simp only [Spec.TreeModes.inHeadEndTemplate, ← hb, Bool.not_false, if_true, stepOf]
    rw [e1, e2]
    rfl
  | true =>
    simp only [Bool.not_true, Bool.false_eq_true, if_false]
    refine pc_seq (pc_and (pc_generateImpliedEndTags_thorough hm1)
      (PC.of_tot (tot_generateImpliedEndTags_thorough s1 hm1.elems))) ?_
    rintro _ s2 c2 _ ⟨htr2, hso2, -, -, -⟩
    have hm2 : MInv s2 := htr2.1
    have htm2 : TmOk s2 := htm1.congr (SameButSL.of_stackOnly hso2).templateModes
    -- the parse error "the current node is not a template element"
    have htr2' : Tr s1 s2 c2 (fun x x' => absF s2 x' = head_tmplErr (Spec.TreeModes.genAllImpliedThoroughly (absF s1 x))) := by
      refine htr2.reaux (fun _ x' => if (absF s2 x').curIs "template" then x' else
        { x' with errors := x'.errors ++ ["in head: template end tag, current node is not template"] }) ?_ ?_
      · intro x x'
        split <;> exact ⟨⟨rfl, rfl, rfl, rfl, rfl⟩, rfl, rfl, rfl⟩
      · rintro x x' _ _ ⟨hxx, e⟩
        subst x'
        rw [← e]
        unfold head_tmplErr
        split <;> rfl
    refine pc_seq (pc_and (pc_expectToClose hm2 "template")
      (show PC (expectToClose "template") s2 _ from PC.of_tot (tot_expectToCloseS s2 hm2.elems "template".toList))) ?_
    rintro _ s3 c3 _ ⟨htr3, hso3, -⟩
    have hm3 : MInv s3 := htr3.1
    have htm3 : TmOk s3 := htm2.congr (SameButSL.of_stackOnly hso3).templateModes
    refine pc_seq (pc_clearActiveFormattingToMarker hm3) ?_
    rintro _ s4 c4 _ ⟨hs4, htr4⟩
    have hm4 : MInv s4 := htr4.1
    have htm4 : TmOk s4 := htm3.congr (by rw [hs4])
    refine pc_seq (head_pc_modTm hm4 List.dropLast List.dropLast (fun l => List.map_dropLast) (head_tm_dropLast hm4)) ?_
    rintro _ s5 c5 _ ⟨hs5, htr5⟩
    have hm5 : MInv s5 := htr5.1
    have hc5 : cfgOf s5 = cfgOf s :=
      htr5.2.1.trans (htr4.2.1.trans (htr3.2.1.trans (htr2.2.1.trans htr1.2.1)))
    refine pc_seq (pc_resetInsertionMode hm5) ?_
    rintro m s6 c6 _ ⟨-, hmt, htr6⟩
    have hm6 : MInv s6 := htr6.1
    have hne : m ≠ .inTableText := fun h => htm4.dropLast_getLast (by rw [hs5] at hmt; exact hmt h)
    refine pc_seq (pc_setMode_junk hm6 m hne) ?_
    rintro _ s7 c7 _ ⟨-, htr7⟩
    refine pc_pure ?_
    simp only [List.append_nil, ← List.append_assoc]
    refine head_tokPost_plain (Or.inl rfl)
      (((((((htr1.trans htr2').trans htr3).trans htr4).trans htr5).trans htr6).trans htr7).conseq ?_)
    rintro x x7 _ _ ⟨x6, ⟨x5, ⟨x4, ⟨x3, ⟨x2, ⟨x1, ⟨hx1, e1, hb⟩, r2⟩, hx3, r3⟩, hx4, r4⟩, hx5, r5⟩, hx6, e6, r6⟩, hx7, r7⟩
    subst hx6
    subst hx5
    subst hx4
    subst hx3
    subst hx1
    have key : Spec.TreeModes.inHeadEndTemplate (cfgOf s) (absF s x1)
        = (Spec.TreeModes.resetInsertionMode (cfgOf s) (absF s5 x6) >>= fun σ => pure (Step.done σ)) := by
      rw [r5, ← r4, r3, r2, ← e1]
      simp only [Spec.TreeModes.inHeadEndTemplate, ← hb, Bool.not_true, Bool.false_eq_true, if_false, head_tmplErr]
    rw [key, ← hc5, r6, r7, e6]
    rfl

/-! ### the rule function on non-character tokens -/


/-- **"in head", non-character tokens**, with the `</template>` arm given -/
theorem head_sim_core (tok : Token) (hch : isCharsTok tok = false) (hwf : TokWf tok) (s : State) (hm : MInv s)
    (hend : ∀ t, tok = .tag t → t.kind = .endTag → t.name = "template".toList →
      PC head_tmplEndM s (TokPost (fun σ => Spec.TreeModes.inHeadEndTemplate (cfgOf s) σ) s tok)) :
    PC (stepInHead tok) s (TokPost (fun σ => Spec.TreeModes.inHead (cfgOf s) σ (stokOf tok)) s tok) := by
  cases tok with
  | chars st text => cases hch
  | comment text => exact pc_comment_tokPost hm text _
  | eof => exact head_pc_else_tok hm _
  | nullChar =>
    refine pc_tokPost_congr (head_pc_else_tok hm _) ?_
    intro x hx
    simp only [stokOf, Spec.TreeModes.inHead, isWs_nul, Bool.false_eq_true, if_false]
  | tag t =>
    have hwt : TagWf t := hwf
    rw [stepInHead_tag]
    -- where the model groups the names otherwise than the specification
    have e2 : isOneOf t.name ["base", "basefont", "bgsound", "link", "meta"] =
        (isOneOf t.name ["base", "basefont", "bgsound", "link"] || isOneOf t.name ["meta"]) :=
      isOneOf_append t.name ["base", "basefont", "bgsound", "link"] ["meta"]
    have e4 : isOneOf t.name ["noframes", "style", "noscript"] =
        (isOneOf t.name ["noframes", "style"] || isOneOf t.name ["noscript"]) :=
      isOneOf_append t.name ["noframes", "style"] ["noscript"]
    cases hk : t.kind with
    | startTag =>
      simp +decide only [stokOf, stokOfTag_start hk, isStart_of_start hk, isEnd_of_start hk, kind_se, Spec.TreeModes.inHead,
        specTag_is, specTag_isOneOf, e2, e4, Bool.or_false, Bool.false_eq_true, if_false]
      refine pc_tok_ite (fun _ => pc_inBodyHtml hm hwt.plain _) fun _ => ?_
      refine pc_tok_bor_ite (fun _ => head_pc_void hm hwt.plain _) (fun _ _ => head_pc_void hm hwt.plain _) fun _ _ => ?_
      refine pc_tok_ite (fun _ => pc_parseRawData_rcdata hm hwt.plain _) fun _ => ?_
      -- `noframes`, `style`, `noscript`: one arm of the model, which tests the scripting flag itself
      have hraw := head_pc_raw hm hwt.plain (.tag t)
      have hsc : (cfgOf s).scripting = s.opts.scriptingEnabled := rfl
      rw [hsc]
      cases hN : isOneOf t.name ["noscript"] with
      | true =>
        have hA : isOneOf t.name ["noframes", "style"] = false := by rw [name_of_isOneOf hN]; decide +kernel
        rw [hN] at hraw
        refine pc_tokPost_congr (by simpa only [hA, Bool.or_true, if_true] using hraw) fun x _ => ?_
        rw [hA]
        cases s.opts.scriptingEnabled <;> rfl
      | false =>
      rw [hN] at hraw
      cases hA : isOneOf t.name ["noframes", "style"] with
      | true =>
        refine pc_tokPost_congr (by simpa only [Bool.or_false, if_true] using hraw) fun x _ => ?_
        cases s.opts.scriptingEnabled <;> rfl
      | false =>
      simp only [Bool.or_false, Bool.false_and, Bool.false_eq_true, if_false]
      refine pc_tok_ite (fun h => pc_tokPost_congr (pc_scriptStart hm hwt.plain (name_of_isOneOf h) _) fun x _ => ?_) fun _ => ?_
      · unfold Spec.TreeModes.genericTextElement
        cases Spec.TreeModes.insertHtml' (absF s x) (specTag t) <;> rfl
      exact pc_tok_ite (fun _ => head_pc_tmplStart hm hwt _) fun _ =>
        pc_tok_ite (fun _ => pc_unexpected_err hm _ _) fun _ => head_pc_else_tok hm _
    | endTag =>
      simp +decide only [stokOf, stokOfTag_end hk, isStart_of_end hk, isEnd_of_end hk, kind_ee, Spec.TreeModes.inHead,
        specTag_is, specTag_isOneOf, Bool.false_or, Bool.false_eq_true, if_false, if_true]
      exact pc_tok_ite (fun _ => head_pc_endHead hm _) fun _ => pc_tok_ite (fun _ => head_pc_else_tok hm _) fun _ =>
        pc_tok_ite (fun h => hend t rfl hk (name_of_isOneOf h)) fun _ => pc_unexpected_err hm _ _

/-- **"in head" on non-character tokens** (every clause; the `html` start tag is `inBodyStartHtml`, no
delegation to `stepInBody` is needed) -/
theorem sim_inHead0 : StepSimTok stepInHead Spec.TreeModes.inHead :=
  fun tok hch hwf s hm => head_sim_core tok hch hwf s hm fun _ _ _ _ => head_pc_tmplEnd hm tok

/-- the same with the (unused) hypothesis about "in body" -/
theorem sim_inHead (_hbody : StepSimTok stepInBody Spec.TreeModes.inBody) :
    StepSimTok stepInHead Spec.TreeModes.inHead := sim_inHead0

/-! ### the rule function on runs of characters -/

theorem simChars_inHead : StepSimChars stepInHead Spec.TreeModes.inHead := by
  intro st text hwf s hm hlf hdisp
  obtain ⟨hne, hnul, hcls⟩ := hwf
  cases st with
  | notSplit =>
    simp only [stepInHead]
    exact pc_pure ⟨rfl, rfl, rfl, (Tr.refl hm).conseq fun _ _ _ _ h => ⟨h, rfl⟩⟩
  | whitespace =>
    simp only [stepInHead]
    refine pc_conseq (pc_appendText hm text) ?_
    rintro r s' calls he ⟨rfl, hs, htr⟩
    refine ⟨hs.fields.ignoreLf, htr.conseq ?_⟩
    intro x x' hx hx' hr
    refine charsRunK_foldlM (m := imode s.mode) (fun σ c => Spec.TreeModes.insertChar σ c) ?_
      (fun _ _ _ h => SameDisp.insertChar h) (fun _ h => h) rfl hx.live hlf (hdisp x hx) hr
    intro σ _ c hc
    simp only [Spec.TreeModes.inHead, isWs_eq_ascii, hcls c hc, if_true]
  | notWhitespace =>
    show PC (head_elseM (.chars .notWhitespace text)) s _
    refine pc_conseq (head_pc_else hm _) ?_
    rintro r s' calls _ ⟨rfl, hlf', htr⟩
    cases text with
    | nil => exact absurd rfl hne
    | cons c cs =>
      refine ⟨rfl, hlf', c, cs, rfl, (Tr.withMode htr .afterHead).conseq ?_⟩
      intro x x' _ _ e
      have hc : isAsciiWhitespace c = false := hcls c List.mem_cons_self
      simp only [Spec.TreeModes.inHead, isWs_eq_ascii, hc, Bool.false_eq_true, if_false]
      rw [e]
      rfl

/-! ### the insertion mode "in head" -/

theorem byModeDev_inHead {cfg : Config Id} {σ : SState} (h : σ.mode = .inHead) (tok : STok) :
    byModeDev cfg σ tok = Spec.TreeModes.inHead cfg σ tok := by
  simp [byModeDev, h, Spec.TreeModes.byMode]

theorem modeSim_inHead_at {s : State} (hm : MInv s) (hmode : s.mode = .inHead) (tok : Token)
    (hch : isCharsTok tok = false) (hwf : TokWf tok) :
    PC (step .inHead tok) s (TokPost (fun σ => byModeDev (cfgOf s) σ (stokOf tok)) s tok) := by
  refine pc_tokPost_congr (sim_inHead0 tok hch hwf s hm) ?_
  intro x hx
  exact byModeDev_inHead (by show imode s.mode = _; rw [hmode]; rfl) _

theorem modeSim_inHead : ModeSim .inHead := by
  intro tok hch hwf s _ hm hmode _
  exact modeSim_inHead_at hm hmode tok hch hwf

theorem modeCharSim_inHead : ModeCharSim .inHead := by
  intro st text hwf s _ hm hmode hlf hdisp
  have hmσ : imode s.mode = .inHead := by rw [hmode]; rfl
  show PC (stepInHead (.chars st text)) s _
  exact pc_chars_delegate simChars_inHead hwf hm hmσ hlf hdisp (fun σ1 h1 c _ => byModeDev_inHead h1 _)

/-! ### "in template": the end of the file -/

/-- the insertion mode "reset the insertion mode appropriately" switches to -/
def head_resetMode (cfg : Config Id) (σ : SState) : Spec.TreeModes.M IMode :=
  let tm : Option Spec.TreeAlgo.Mode := σ.templateModes.getLast?.bind IMode.toAlgo
  let ctxName := cfg.context.map (·.name)
  match cfg.edition with
  | .customizableSelect =>
    Spec.TreeModes.req ((Spec.TreeAlgo.resetInsertionMode ctxName σ.headPointer.isNone tm σ.names).map IMode.ofAlgo)
      "reset the insertion mode appropriately: no current template insertion mode"
  | .selectModes =>
    Spec.TreeModes.req (Spec.TreeModes.resetLegacy ctxName σ.headPointer.isNone tm σ.names)
      "reset the insertion mode appropriately: no current template insertion mode"

theorem head_reset_eq (cfg : Config Id) (σ : SState) :
    Spec.TreeModes.resetInsertionMode cfg σ = (head_resetMode cfg σ >>= fun m => pure (σ.setMode m)) := by
  unfold Spec.TreeModes.resetInsertionMode head_resetMode
  cases cfg.edition <;> rfl

theorem head_resetMode_setMode (cfg : Config Id) (σ : SState) (μ : IMode) :
    head_resetMode cfg (σ.setMode μ) = head_resetMode cfg σ := rfl

/-- "reset the insertion mode appropriately" does not look at the insertion mode -/
theorem head_reset_indep {cfg : Config Id} {σ : SState} {μ μ2 : IMode}
    (h1 : Spec.TreeModes.resetInsertionMode cfg σ = .ok (σ.setMode μ))
    (h2 : Spec.TreeModes.resetInsertionMode cfg (σ.setMode μ) = .ok ((σ.setMode μ).setMode μ2)) : μ2 = μ := by
  rw [head_reset_eq] at h1 h2
  rw [head_resetMode_setMode] at h2
  cases hr : head_resetMode cfg σ with
  | error e => rw [hr] at h1; cases h1
  | ok m0 =>
    rw [hr] at h1 h2
    have e1 : m0 = μ := congrArg (·.mode) (Except.ok.inj h1)
    have e2 : m0 = μ2 := congrArg (·.mode) (Except.ok.inj h2)
    rw [← e1, ← e2]

/-- … nor at the parse errors -/
theorem head_reset_errors {cfg : Config Id} {σ : SState} {μ : IMode} (E : List String)
    (h : Spec.TreeModes.resetInsertionMode cfg σ = .ok (σ.setMode μ)) :
    Spec.TreeModes.resetInsertionMode cfg { σ with errors := E }
      = .ok (Spec.TreeModes.State.setMode { σ with errors := E } μ) := by
  rw [head_reset_eq] at h ⊢
  have e : head_resetMode cfg { σ with errors := E } = head_resetMode cfg σ := rfl
  rw [e]
  cases hr : head_resetMode cfg σ with
  | error e => rw [hr] at h; cases h
  | ok m0 =>
    rw [hr] at h
    have e1 : m0 = μ := congrArg (·.mode) (Except.ok.inj h)
    subst e1
    rfl

/-- the EOF arm of "in template" (rules.rs:1447; also reached from the EOF arm of "in body") against
`Spec.TreeModes.inTemplateEof` -/
theorem head_pc_tmplEof {s : State} (hm : MInv s) :
    PC inTemplateEof s (TokPost (fun σ => Spec.TreeModes.inTemplateEof (cfgOf s) σ) s .eof) := by
  have htm : TmOk s := hm.tmodes
  unfold inTemplateEof
  refine pc_seq (pc_and (pc_inHtmlElemNamed_template hm)
    (PC.of_tot (pop_tot_inHtmlElemNamed s hm.elems "template"))) ?_
  rintro b s1 c1 _ ⟨htr1, -, hs1, -⟩
  have hm1 : MInv s1 := htr1.1
  have htm1 : TmOk s1 := htm.congr hs1.fields.templateModes
  cases b with
  | false =>
    simp only [Bool.not_false, if_true]
    refine pc_pure ?_
    rw [List.append_nil]
    refine tokPost_of_tr htr1 trivial ?_
    rintro x x' hx hx' ⟨hx1, e1, hb⟩
    subst hx1
    refine ⟨{ x' with stopped := true }, ?_, ⟨rfl, rfl, rfl, rfl, rfl⟩, Or.inr ⟨rfl, rfl⟩, rfl, rfl⟩
    simp only [Spec.TreeModes.inTemplateEof, ← hb, Bool.not_false, if_true, stepOf]
    rw [e1]
    rfl
  | true =>
    simp only [Bool.not_true, Bool.false_eq_true, if_false]
    refine pc_seq (pc_unexpected_same hm1) ?_
    rintro _ s2 c2 _ ⟨-, hs2, htr2⟩
    have hm2 : MInv s2 := htr2.1
    have htm2 : TmOk s2 := htm1.congr hs2.fields.templateModes
    refine pc_seq (pc_and (pc_popUntilNamed hm2 "template")
      (show PC (popUntilNamed "template") s2 _ from PC.of_tot (tot_popUntilNamedS s2 hm2.elems "template".toList))) ?_
    rintro k s3 c3 _ ⟨htr3, ⟨hso3, -⟩, -⟩
    have hm3 : MInv s3 := htr3.1
    have htm3 : TmOk s3 := htm2.congr (SameButSL.of_stackOnly hso3).templateModes
    refine pc_seq (pc_clearActiveFormattingToMarker hm3) ?_
    rintro _ s4 c4 _ ⟨hs4, htr4⟩
    have hm4 : MInv s4 := htr4.1
    have htm4 : TmOk s4 := htm3.congr (by rw [hs4])
    refine pc_seq (head_pc_modTm hm4 List.dropLast List.dropLast (fun l => List.map_dropLast) (head_tm_dropLast hm4)) ?_
    rintro _ s5 c5 _ ⟨hs5, htr5⟩
    have hm5 : MInv s5 := htr5.1
    have hc5 : cfgOf s5 = cfgOf s :=
      htr5.2.1.trans (htr4.2.1.trans (htr3.2.1.trans (htr2.2.1.trans htr1.2.1)))
    refine pc_seq (pc_resetInsertionMode hm5) ?_
    rintro m s6 c6 _ ⟨hs6, hmt, htr6⟩
    have hm6 : MInv s6 := htr6.1
    have hne : m ≠ .inTableText := fun h => htm4.dropLast_getLast (by rw [hs5] at hmt; exact hmt h)
    refine pc_seq (pc_setMode_junk hm6 m hne) ?_
    rintro _ s7 c7 _ ⟨hs7, htr7⟩
    have hm7 : MInv s7 := htr7.1
    have hc7 : cfgOf s7 = cfgOf s := htr7.2.1.trans (htr6.2.1.trans hc5)
    refine pc_seq (pc_resetInsertionMode hm7) ?_
    rintro m2 s8 c8 _ ⟨hs8, hmt2, htr8⟩
    have hne2 : m2 ≠ .inTableText := by
      intro h
      have := hmt2 h
      rw [hs7, hs6.fields.templateModes, hs5] at this
      exact htm4.dropLast_getLast this
    refine pc_pure ?_
    simp only [List.append_nil, ← List.append_assoc]
    refine tokPost_of_tr ((((((htr1.trans htr2).trans htr3).trans htr4).trans htr5).trans htr6).trans htr7 |>.trans htr8) rfl ?_
    rintro x x8 _ _ ⟨x7, ⟨x6, ⟨x5, ⟨x4, ⟨x3, ⟨x2, ⟨x1, ⟨hx1, e1, hb⟩, hx2, e2⟩, hx3, r3, -⟩, hx4, r4⟩, hx5, r5⟩, hx6, e6, r6⟩, hx7, r7⟩, hx8, e8, r8⟩
    subst hx8
    subst hx6
    subst hx5
    subst hx4
    subst hx3
    subst hx2
    subst hx1
    -- the second `reset_insertion_mode` answers the same mode
    rw [hc5] at r6
    rw [hc7, r7, ← e6] at r8
    have hmm : m2 = m := imode_inj (head_reset_indep r6 r8)
    subst hmm
    have eS8 : absF s8 x8 = (absF s5 x6).setMode (imode m2) := by rw [← e8, r7, ← e6]
    refine ⟨{ head_junk s8 x8 with errors := x8.errors ++ ["in template: end of file"] }, ?_,
      ⟨rfl, rfl, rfl, rfl, rfl⟩, Or.inl rfl, rfl, rfl⟩
    have key : Spec.TreeModes.inTemplateEof (cfgOf s) (absF s x6)
        = (Spec.TreeModes.resetInsertionMode (cfgOf s)
            { absF s5 x6 with errors := (absF s5 x6).errors ++ ["in template: end of file"] }
              >>= fun σ => pure (Step.reprocess σ)) := by
      rw [r5, ← r4, r3, ← e2, ← e1]
      simp only [Spec.TreeModes.inTemplateEof, ← hb, Bool.not_true, Bool.false_eq_true, if_false]
      rfl
    rw [key, head_reset_errors _ r6]
    have eF : absF { s8 with mode := m2 } { head_junk s8 x8 with errors := x8.errors ++ ["in template: end of file"] }
        = { absF { s8 with mode := m2 } (head_junk s8 x8) with errors := x8.errors ++ ["in template: end of file"] } := rfl
    simp only [stepOf, applyRes]
    rw [eF, head_absF_junk _ _ _ hne2, eS8]
    subst hx7
    rfl

/-! ### the insertion mode "in template" -/

/-- "Pop the current template insertion mode off the stack of template insertion modes.  Push `m` onto
the stack of template insertion modes.  Switch the insertion mode to `m`, and reprocess the token." -/
theorem head_pc_switchTo {s : State} (hm : MInv s) (m : Mode) (hne : m ≠ .inTableText) (tok : Token) :
    PC (setTemplateMode m >>= fun _ => pure (ProcessResult.reprocess m tok)) s
      (TokPost (fun σ => pure (Step.reprocess
        { σ with templateModes := σ.templateModes.dropLast ++ [imode m], mode := imode m })) s tok) := by
  unfold setTemplateMode
  refine pc_seq (head_pc_modTm hm (fun l => l.dropLast ++ [m]) (fun l => l.dropLast ++ [imode m])
    (fun l => by rw [List.map_append, List.map_dropLast]; rfl) (fun m' h => by
      rcases List.mem_append.mp h with h | h
      · exact head_tm_dropLast hm m' h
      · rw [List.mem_singleton.mp h]; exact hne)) ?_
  rintro _ s1 c1 _ ⟨-, htr⟩
  refine pc_pure ?_
  rw [List.append_nil]
  refine tokPost_of_tr htr rfl ?_
  rintro x x' _ _ ⟨hxx, e⟩
  subst x'
  refine ⟨head_junk s1 x, ?_, (head_junk_same s1 x).1, Or.inl rfl, rfl, rfl⟩
  simp only [stepOf, applyRes]
  rw [head_absF_junk _ _ _ hne, e]
  rfl

/-- **"in template", non-character tokens**, with the delegations to "in head" and "in body" given for this state -/
theorem head_sim_inTemplate_at {s : State} (hm : MInv s) (tok : Token) (hch : isCharsTok tok = false)
    (hwf : TokWf tok)
    (hhead : PC (stepInHead tok) s (TokPost (fun σ => Spec.TreeModes.inHead (cfgOf s) σ (stokOf tok)) s tok))
    (hbody : PC (stepInBody tok) s (TokPost (fun σ => Spec.TreeModes.inBody (cfgOf s) σ (stokOf tok)) s tok)) :
    PC (stepInTemplate tok) s (TokPost (fun σ => Spec.TreeModes.inTemplate (cfgOf s) σ (stokOf tok)) s tok) := by
  cases tok with
  | chars st text => cases hch
  | comment text =>
    simp only [stepInTemplate, stokOf, Spec.TreeModes.inTemplate]
    exact hbody
  | eof =>
    simp only [stepInTemplate, stokOf, Spec.TreeModes.inTemplate]
    exact head_pc_tmplEof hm
  | nullChar =>
    simp only [stepInTemplate]
    refine pc_tokPost_congr (pc_unexpected_err hm _ "in body: U+0000") ?_
    intro x hx
    simp only [stokOf, Spec.TreeModes.inTemplate, Spec.TreeModes.inBody, beq_self_eq_true, if_true]
  | tag t =>
    simp only [stepInTemplate]
    cases hk : t.kind with
    | startTag =>
      rw [stokOf, stokOfTag_start hk] at hhead
      simp +decide only [stokOf, stokOfTag_start hk, isStart_of_start hk, isEnd_of_start hk, Spec.TreeModes.inTemplate,
        specTag_is, specTag_isOneOf, Bool.or_false, if_true]
      exact pc_tok_ite (fun _ => hhead) fun _ => pc_tok_ite (fun _ => head_pc_switchTo hm .inTable (by decide) _) fun _ =>
        pc_tok_ite (fun _ => head_pc_switchTo hm .inColumnGroup (by decide) _) fun _ =>
        pc_tok_ite (fun _ => head_pc_switchTo hm .inTableBody (by decide) _) fun _ =>
        pc_tok_ite (fun _ => head_pc_switchTo hm .inRow (by decide) _) fun _ => head_pc_switchTo hm .inBody (by decide) _
    | endTag =>
      rw [stokOf, stokOfTag_end hk] at hhead
      simp +decide only [stokOf, stokOfTag_end hk, isStart_of_end hk, isEnd_of_end hk, Spec.TreeModes.inTemplate,
        specTag_is, Bool.false_or, Bool.false_eq_true, if_false]
      exact pc_tok_ite (fun _ => hhead) fun _ => pc_unexpected_err hm _ _

theorem byModeDev_inTemplate {cfg : Config Id} {σ : SState} (h : σ.mode = .inTemplate) (tok : STok) :
    byModeDev cfg σ tok = Spec.TreeModes.inTemplate cfg σ tok := by
  simp [byModeDev, h, Spec.TreeModes.byMode]

theorem modeSim_inTemplate_at {s : State} (hm : MInv s) (hmode : s.mode = .inTemplate) (tok : Token)
    (hch : isCharsTok tok = false) (hwf : TokWf tok)
    (hhead : PC (stepInHead tok) s (TokPost (fun σ => Spec.TreeModes.inHead (cfgOf s) σ (stokOf tok)) s tok))
    (hbody : PC (stepInBody tok) s (TokPost (fun σ => Spec.TreeModes.inBody (cfgOf s) σ (stokOf tok)) s tok)) :
    PC (step .inTemplate tok) s (TokPost (fun σ => byModeDev (cfgOf s) σ (stokOf tok)) s tok) := by
  refine pc_tokPost_congr (head_sim_inTemplate_at hm tok hch hwf hhead hbody) ?_
  intro x hx
  exact byModeDev_inTemplate (by show imode s.mode = _; rw [hmode]; rfl) _

theorem modeSim_inTemplate (hhead : StepSimTok stepInHead Spec.TreeModes.inHead)
    (hbody : StepSimTok stepInBody Spec.TreeModes.inBody) : ModeSim .inTemplate := by
  intro tok hch hwf s _ hm hmode _
  exact modeSim_inTemplate_at hm hmode tok hch hwf (hhead tok hch hwf s hm) (hbody tok hch hwf s hm)

/-- "in template" with "in head" discharged by `sim_inHead0` -/
theorem modeSim_inTemplate' (hbody : StepSimTok stepInBody Spec.TreeModes.inBody) : ModeSim .inTemplate :=
  modeSim_inTemplate sim_inHead0 hbody

theorem modeCharSim_inTemplate (hbodyc : StepSimChars stepInBody Spec.TreeModes.inBody) : ModeCharSim .inTemplate := by
  intro st text hwf s _ hm hmode hlf hdisp
  have hmσ : imode s.mode = .inTemplate := by rw [hmode]; rfl
  show PC (stepInBody (.chars st text)) s _
  refine pc_chars_delegate hbodyc hwf hm hmσ hlf hdisp ?_
  intro σ1 h1 c _
  rw [byModeDev_inTemplate h1]
  rfl

end H5V.Lemmas.HtmlTBModes
