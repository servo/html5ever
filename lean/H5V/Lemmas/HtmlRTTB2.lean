import H5V.Lemmas.HtmlRTTB1
/-!
C07 round trip, tree-builder half: the invariant `TBInv` (mode "in body", the stack is the
root plus a path of open elements of the class, the list of active formatting elements holds open
formatting elements in stack order, no foster parenting) and its preservation by a start tag, an end
tag and a character token — for ordinary elements ("any other start / end tag"), the plain block
elements (`close_p_element_in_button_scope` is a no-op: no `p` is open) and the formatting elements
`b`, `i`, … (Noah's Ark on the way in; on the way out the adoption agency algorithm finds no
furthest block, or — the entry having been dropped by Noah's Ark — takes its first shortcut).
-/
namespace H5V.Lemmas.HtmlRT
open H5V.Model.HtmlTB
open H5V.Model.Dom (Id SinkOp Output Dom NodeData NodeOrText)
open H5V.Lemmas.HtmlTBSpec

theorem setCurrentLine_apply (d : Dom) (l : Nat) : d.apply (.setCurrentLine l) = .ok (d, .unit) := rfl

theorem pop_apply (d : Dom) (e : Nat) : d.apply (.pop e) = .ok (d, .unit) := rfl

/-- the tree-builder token a tokenizer token becomes (tags, EOF, characters) -/
def tbTok (ignoreLf : Bool) : TokToken → Option Token
  | .tag t => some (.tag t)
  | .eof => some .eof
  | .chars x => charsToken ignoreLf x
  | _ => none

def isPlainTok : TokToken → Bool
  | .tag _ | .eof | .chars _ => true
  | _ => false

/-- `process_token`: line bookkeeping, `ignore_lf`, conversion; then `process_to_completion` -/
theorem processToken_frame (s s' : State) (tok : TokToken) (line : Nat) (r : SinkResult)
    (hp : isPlainTok tok = true)
    (h : Runs (match tbTok s.ignoreLf tok with
        | none => pure .continue_
        | some t => do let st ← getS; processToCompletion (ptcFuel st t) t []) { s with ignoreLf := false } r s') :
    Runs (processToken tok line) s r s' := by
  unfold processToken
  refine runs_getS_bind (fun tr => ?_)
  dsimp only
  have key : ∀ s0 : State, s0 = s → Runs (do
        let __do_lift ← getS
        have ignoreLf : Bool := __do_lift.ignoreLf
        modS fun s => { s with ignoreLf := false }
        match tbTok ignoreLf tok with
        | none => pure .continue_
        | some t => do let st ← getS; processToCompletion (ptcFuel st t) t []) s0 r s' := by
    intro s0 e; subst e
    refine runs_getS_bind (fun tr => ?_)
    dsimp only
    refine runs_modS_bind (fun tr => rfl) ?_
    exact h
  cases tok with
  | tag t =>
    simp only [pure_bind]
    split
    · exact runs_bind (runs_sinkUnit (setCurrentLine_apply _ _)) (key _ rfl)
    · exact key _ rfl
  | eof =>
    simp only [pure_bind]
    split
    · exact runs_bind (runs_sinkUnit (setCurrentLine_apply _ _)) (key _ rfl)
    · exact key _ rfl
  | chars x =>
    simp only [pure_bind]
    split
    · exact runs_bind (runs_sinkUnit (setCurrentLine_apply _ _)) (key _ rfl)
    · exact key _ rfl
  | _ => simp [isPlainTok] at hp

def noAck : Token → Bool
  | .tag t => !(t.selfClosing && t.kind == .startTag)
  | _ => true

/-- `process_to_completion` for a token the "in body" rules answer with `Done` -/
theorem ptc_done (s s' : State) (tok : Token) (hna : noAck tok = true)
    (hf : Query (isForeign tok) s false) (hmode : s.mode = .inBody)
    (hstep : Runs (stepInBody tok) s .done s') :
    Runs (do let st ← getS; processToCompletion (ptcFuel st tok) tok []) s .continue_ s' := by
  refine runs_getS_bind (fun tr => ?_)
  obtain ⟨k, hk⟩ : ∃ k, ptcFuel (withTr s tr) tok = k + 1 :=
    ⟨_, (Nat.succ_pred_eq_of_pos (by unfold ptcFuel; omega)).symm⟩
  rw [hk]
  unfold processToCompletion
  dsimp only
  refine runs_bind (Runs.of_query hf) ?_
  simp only [Bool.false_eq_true, if_false]
  refine runs_getS_bind (fun tr => ?_)
  have hm : (withTr s tr).mode = Mode.inBody := hmode
  rw [hm]
  refine runs_bind (show Runs (step .inBody tok) _ .done s' from hstep) ?_
  cases tok with
  | tag t =>
    have hsa : (t.selfClosing && t.kind == .startTag) = false := by
      simp only [noAck, Bool.not_eq_true'] at hna; exact hna
    simp only [hsa, Bool.false_eq_true, if_false]
    exact runs_pure _ _
  | _ =>
    simp only [Bool.false_eq_true, if_false]
    exact runs_pure _ _

/-! ### names -/

theorem isOneOf_append (n : Str) (a b : List String) : isOneOf n (a ++ b) = (isOneOf n a || isOneOf n b) := by
  simp [isOneOf, List.any_append]

/-- `n` is in none of the lists -/
def NotIn (n : Str) : List (List String) → Prop
  | [] => True
  | l :: r => isOneOf n l = false ∧ NotIn n r

theorem notIn_of_flatten (n : Str) (L : List (List String)) (h : isOneOf n L.flatten = false) : NotIn n L := by
  induction L with
  | nil => trivial
  | cons l r ih =>
    rw [List.flatten_cons, isOneOf_append, Bool.or_eq_false_iff] at h
    exact ⟨h.1, ih h.2⟩

theorem ordinary_notIn {n : Str} (h : ordinaryName n = true) : NotIn n startLists ∧ NotIn n endLists := by
  simp only [ordinaryName, Bool.and_eq_true, Bool.not_eq_true'] at h
  have h2 := h.2
  rw [specialNames, isOneOf_append, Bool.or_eq_false_iff] at h2
  exact ⟨notIn_of_flatten _ _ h2.1, notIn_of_flatten _ _ h2.2⟩

theorem isName_of_isOneOf {n : Str} {x : String} (h : isOneOf n [x] = false) : isName n x = false := by
  simpa [isOneOf, isName] using h

/-! ### the list of active formatting elements -/

def entryId : FormatEntry → Nat
  | .element h _ => h
  | .marker => 0

/-- the list of active formatting elements holds (some of) the open formatting elements, in stack
order, no markers -/
structure AFInv (s : State) : Prop where
  ent : ∀ e ∈ s.activeFormatting, ∃ h t, e = .element h t ∧ h ∈ s.openElems ∧ fmtName t.name = true ∧
    ∃ as p ch, s.dom.nodes[h]? = some ⟨elData t.name as, p, ch⟩
  sorted : (s.activeFormatting.map entryId).Pairwise (· < ·)

/-- the invariant survives changes that keep the list, keep its elements open and keep their nodes
elements of the same name -/
theorem AFInv.mono {s s' : State} (h : AFInv s) (haf : s'.activeFormatting = s.activeFormatting)
    (hopen : ∀ e ∈ s.activeFormatting, entryId e ∈ s.openElems → entryId e ∈ s'.openElems)
    (hdom : ∀ (x : Nat) (nm : Str) (as : List (Str × Str)) (p : Option Nat) (ch : List Nat),
      s.dom.nodes[x]? = some ⟨elData nm as, p, ch⟩ →
      ∃ as' p' ch', s'.dom.nodes[x]? = some ⟨elData nm as', p', ch'⟩) : AFInv s' := by
  refine ⟨?_, by rw [haf]; exact h.sorted⟩
  intro e he
  rw [haf] at he
  obtain ⟨x, t, rfl, hx, hf, as, p, ch, hn⟩ := h.ent e he
  obtain ⟨as', p', ch', hn'⟩ := hdom x t.name as p ch hn
  exact ⟨x, t, rfl, hopen _ he hx, hf, as', p', ch', hn'⟩

theorem sameNode_apply (d : Dom) (x y : Nat) : d.apply (.sameNode x y) = .ok (d, .bool (x == y)) := rfl

theorem query_sameNode (s : State) (x y : Nat) : Query (sameNode x y) s (x == y) := by
  intro tr
  refine ⟨(.sameNode x y, .bool (x == y)) :: tr, ?_⟩
  simp [sameNode, sinkBool, sink, withTr, sameNode_apply, StateT.run, bind, StateT.bind, Except.bind,
    pure, StateT.pure, Except.pure]

theorem anySameNodeRev_mem (s : State) (node : Nat) (l : List Nat) (h : node ∈ l) :
    Query (anySameNodeRev node l) s true := by
  induction l with
  | nil => simp at h
  | cons x rest ih =>
    simp only [anySameNodeRev]
    refine query_bind (query_sameNode s x node) ?_
    by_cases hx : x = node
    · simp only [hx, BEq.rfl, if_true]; exact query_pure _ _
    · have : (x == node) = false := by simpa using hx
      simp only [this, Bool.false_eq_true, if_false]
      exact ih (by simpa [Ne.symm hx] using h)

theorem elData_name_inj {n n' : Str} {as as' : List (Str × Str)} {p p' : Option Nat} {ch ch' : List Nat}
    (h : (some ⟨elData n as, p, ch⟩ : Option H5V.Model.Dom.Node) = some ⟨elData n' as', p', ch'⟩) : n = n' := by
  simp only [Option.some.injEq, H5V.Model.Dom.Node.mk.injEq, elData, NodeData.element.injEq, htmlQual,
    H5V.Model.Dom.QualName.mk.injEq] at h
  exact h.1.1.2.2

/-- `create + append` keeps every element node an element of the same name -/
theorem Pushed.keepsElems {d d' : Dom} {top : Nat} {ptop : H5V.Model.Dom.Node} {data : NodeData}
    (hp : Pushed d d' top ptop data) (htop : d.nodes[top]? = some ptop)
    (x : Nat) (nm : Str) (as : List (Str × Str)) (p : Option Nat) (ch : List Nat)
    (hx : d.nodes[x]? = some ⟨elData nm as, p, ch⟩) :
    ∃ as' p' ch', d'.nodes[x]? = some ⟨elData nm as', p', ch'⟩ := by
  have hlt := lt_of_get? hx
  by_cases hxt : x = top
  · subst hxt
    rw [htop] at hx
    cases hx
    exact ⟨as, p, _, hp.atTop⟩
  · exact ⟨as, p, ch, by rw [hp.frame x hxt (Nat.ne_of_lt hlt)]; exact hx⟩

/-! ### the invariant -/

/-- the state of the tree builder in the middle of an ordinary fragment: `lower` = the open
elements below the current node (root first), `top` = the current node, `tp`/`tid` its parent / id -/
structure TBInv (s : State) (lower : List Frame) (top : Frame) (tp tid : Nat) : Prop where
  low : Lower s.dom 0 2 lower tp tid
  topNode : s.dom.nodes[tid]? = some ⟨elData top.name top.attrs, some tp, childIds (tid + 1) top.cs⟩
  topRep : RepF s.dom tid (tid + 1) top.cs
  size : s.dom.nodes.size = tid + 1 + sizeF top.cs
  stack : s.openElems = openIds 2 lower ++ [tid]
  ctxNode : s.dom.nodes[1]? = some ⟨elData nDiv [], none, []⟩
  ctx : s.contextElem = some 1
  mode : s.mode = .inBody
  tm : s.templateModes = []
  afi : AFInv s
  foster : s.fosterParenting = false
  form : s.formElem = none
  ilf : s.ignoreLf = false
  notTemplate : ∀ f ∈ lower ++ [top], isName f.name "template" = false
  /-- no parse error has been reported to the sink -/
  errs : s.dom.errorsRev = []
  /-- no `p` element is open -/
  notP : ∀ f ∈ lower ++ [top], isName f.name "p" = false

theorem TBInv.two_le {s lower top tp tid} (h : TBInv s lower top tp tid) : 2 ≤ tid :=
  lower_le _ _ _ _ _ _ h.low

theorem TBInv.last {s lower top tp tid} (h : TBInv s lower top tp tid) : s.openElems.getLast? = some tid := by
  rw [h.stack]; simp

theorem elData_elemName {d : Dom} {i : Nat} {n : Str} {as p ch}
    (h : d.nodes[i]? = some ⟨elData n as, p, ch⟩) : d.elemName i = .ok (nsHtml, n) :=
  dom_elemName h

theorem elData_ip {d : Dom} {i : Nat} {n : Str} {as p ch}
    (h : d.nodes[i]? = some ⟨elData n as, p, ch⟩) : d.isMathmlAnnotationXmlIntegrationPoint i = .ok false := by
  simp [Dom.isMathmlAnnotationXmlIntegrationPoint, dom_get h, bind, Except.bind, elData]

/-- in an ordinary fragment nothing is ever dispatched to the foreign-content rules -/
theorem TBInv.notForeign {s lower top tp tid} (h : TBInv s lower top tp tid) (tok : Token) :
    Query (isForeign tok) s false := by
  have hne : ∀ (c : Nat) (n : Str) (as p ch), s.dom.nodes[c]? = some ⟨elData n as, p, ch⟩ →
      Spec.TreeAlgo.adjustedCurrentNode s.openElems.reverse s.contextElem = some c →
      Query (isForeign tok) s false := by
    intro c n as p ch hc hadj
    have := isForeign_query_pure s tok c ⟨nsHtml, n⟩ false hadj (elData_elemName hc) (elData_ip hc)
    have e : isForeignPure tok ⟨nsHtml, n⟩ false = false := by
      unfold isForeignPure
      by_cases he : (tok == Token.eof) = true
      · simp [he]
      · simp [he]
    rw [e] at this; exact this
  rw [h.stack, h.ctx] at hne
  cases hl : lower with
  | nil =>
    refine hne 1 nDiv [] none [] h.ctxNode ?_
    simp [hl, openIds, Spec.TreeAlgo.adjustedCurrentNode]
  | cons f rest =>
    refine hne tid top.name top.attrs _ _ h.topNode ?_
    simp only [hl, openIds, List.cons_append, List.reverse_append, List.reverse_cons, List.reverse_nil,
      List.nil_append, List.cons_append]
    cases hr : (openIds (2 + 1 + sizeF f.cs) rest).reverse with
    | nil => simp [Spec.TreeAlgo.adjustedCurrentNode]
    | cons a b => simp [Spec.TreeAlgo.adjustedCurrentNode]

theorem query_currentNode {s : State} {h : Nat} (hl : s.openElems.getLast? = some h) : Query currentNode s h := by
  unfold currentNode
  refine query_getS_bind (fun tr => ?_)
  simp only [withTr_openElems, hl]
  exact query_pure _ _

theorem query_htmlElemNamed {s : State} {i : Nat} {n : Str} {as p ch}
    (h : s.dom.nodes[i]? = some ⟨elData n as, p, ch⟩) (x : String) :
    Query (htmlElemNamed i x) s (n == x.toList) := by
  have := query_htmlElemNamedS (query_elemName (elData_elemName h)) x.toList
  simpa [htmlElemNamed] using this

theorem isName_eq (n : Str) (x : String) : (n == x.toList) = isName n x := by
  unfold isName; exact BEq.comm

/-- `appropriate_place_for_insertion(None)`: the current node -/
theorem TBInv.place {s lower top tp tid} (h : TBInv s lower top tp tid) :
    Query (appropriatePlaceForInsertion none) s (.lastChild tid) := by
  unfold appropriatePlaceForInsertion
  refine query_bind (query_currentNode h.last) ?_
  refine query_getS_bind (fun tr => ?_)
  simp only [withTr_foster, h.foster, Bool.false_eq_true, if_false]
  rw [pure_bind]
  simp only [Bool.not_false, if_true]
  refine query_bind (query_htmlElemNamed h.topNode "template") ?_
  rw [isName_eq, h.notTemplate top (by simp)]
  simp only [Bool.false_eq_true, if_false]
  exact query_pure _ _

theorem TBInv.noReconstruct {s lower top tp tid} (h : TBInv s lower top tp tid) :
    Query reconstructActiveFormattingElements s () := by
  unfold reconstructActiveFormattingElements
  refine query_getS_bind (fun tr => ?_)
  simp only [withTr_af]
  cases hl : s.activeFormatting.getLast? with
  | none => exact query_pure _ _
  | some last =>
    obtain ⟨x, t, rfl, hx, _⟩ := h.afi.ent last (List.mem_of_getLast? hl)
    simp only
    refine query_bind (a := true) ?_ (by simp only [if_true]; exact query_pure _ _)
    unfold isMarkerOrOpen
    refine query_getS_bind (fun tr => ?_)
    simp only [withTr_openElems]
    exact anySameNodeRev_mem s x _ (List.mem_reverse.mpr hx)

/-! ### start tag -/

theorem createFlags_eq (n : Str) (as : List (Str × Str)) (hn : isName n "template" = false) :
    createElementWithFlags { pfx := none, ns := nsHtml, loc := n } (tbAttrs as) false
      = sinkNode (.createElement (htmlQual n) (tbAttrs as) plainFlags) := by
  have h1 : (nsHtml == nsMathml) = false := by decide
  simp [createElementWithFlags, hn, h1, htmlQual, plainFlags]

theorem TBInv.insertFor {s lower top tp tid} (h : TBInv s lower top tp tid) (n : Str)
    (as : List (Str × Str)) (hn : isName n "template" = false) :
    ∃ d', Pushed s.dom d' tid ⟨elData top.name top.attrs, some tp, childIds (tid + 1) top.cs⟩ (elData n as) ∧
      Runs (insertElementFor (tbStart n as)) s s.dom.nodes.size
        { s with openElems := s.openElems ++ [s.dom.nodes.size], dom := d' } := by
  obtain ⟨d1, d', e1, e2, hp⟩ := dom_create_append s.dom tid _ n as h.topNode
  refine ⟨d', hp, ?_⟩
  unfold insertElementFor insertElement
  simp only [tbStart]
  refine runs_bind (Runs.of_query h.place) ?_
  dsimp only [InsertionPoint.nodes]
  refine runs_getS_bind (fun tr => ?_)
  rw [show (withTr s tr).formElem = none from h.form]
  simp only [Option.isSome_none, Bool.and_false, Bool.false_eq_true, if_false]
  rw [pure_bind, createFlags_eq n as hn]
  refine runs_bind (runs_sinkNode e1) ?_
  simp only [Bool.false_eq_true, if_false]
  refine runs_bind (s1 := { s with dom := d' }) (a := ()) ?_ ?_
  · exact runs_sinkUnit (s := { s with dom := d1 }) e2
  simp only [if_true]
  refine runs_bind (s1 := { s with openElems := s.openElems ++ [s.dom.nodes.size], dom := d' }) (a := ()) ?_ (runs_pure _ _)
  unfold push
  exact runs_modS (fun tr => rfl)

theorem sizeF_nil : sizeF [] = 0 := by simp [sizeF]

/-- a new open element that gets no entry: the list of active formatting elements stays valid -/
theorem TBInv.afi_pushed_same {s lower top tp tid} (h : TBInv s lower top tp tid) (d' : Dom) (data : NodeData)
    (hp : Pushed s.dom d' tid ⟨elData top.name top.attrs, some tp, childIds (tid + 1) top.cs⟩ data) :
    AFInv { s with openElems := s.openElems ++ [s.dom.nodes.size], dom := d' } :=
  h.afi.mono rfl (fun _ _ hx => List.mem_append_left _ hx) (hp.keepsElems h.topNode)

theorem TBInv.pushed {s lower top tp tid} (h : TBInv s lower top tp tid) (n : Str) (as : List (Str × Str))
    (hn : isName n "template" = false) (hnp : isName n "p" = false) (d' : Dom)
    (hp : Pushed s.dom d' tid ⟨elData top.name top.attrs, some tp, childIds (tid + 1) top.cs⟩ (elData n as))
    (af' : List FormatEntry)
    (s' : State) (hs' : s' = { s with openElems := s.openElems ++ [s.dom.nodes.size], activeFormatting := af',
                                      dom := d' })
    (hafi : AFInv s') :
    TBInv s' (lower ++ [top]) ⟨n, as, []⟩ tid s.dom.nodes.size := by
  subst hs'
  have h2 := h.two_le
  have hsz := h.size
  have hfr : ∀ i, i < s.dom.nodes.size → i ≠ tid → d'.nodes[i]? = s.dom.nodes[i]? :=
    fun i h1 h2 => hp.frame i h2 (Nat.ne_of_lt h1)
  have hlow : Lower d' 0 2 lower tp tid :=
    lower_frame s.dom d' 0 2 lower tp tid (fun i _ h2 => hfr i (by omega) (by omega)) h.low
  have hrep : RepF d' tid (tid + 1) top.cs :=
    repF_frame s.dom d' tid top.cs (tid + 1) (fun i h1 h2 => hfr i (by omega) (by omega)) h.topRep
  refine ⟨?_, ?_, ?_, ?_, ?_, ?_, h.ctx, h.mode, h.tm, hafi, h.foster, h.form, h.ilf, ?_,
    by show d'.errorsRev = []; rw [hp.errs]; exact h.errs, ?_⟩
  · have := lower_snoc d' 0 2 lower tp tid top hlow (by rw [hp.atTop, hsz]) hrep
    rw [hsz]; exact this
  · simpa [childIds] using hp.atNew
  · simp [RepF]
  · show d'.nodes.size = _
    rw [hp.size, sizeF_nil]
  · show s.openElems ++ [s.dom.nodes.size] = _
    rw [h.stack, openIds_snoc 2 lower top d' 0 tp tid hlow]
  · show d'.nodes[1]? = _
    rw [hfr 1 (by omega) (by omega)]; exact h.ctxNode
  · intro f hf
    simp only [List.mem_append, List.mem_singleton] at hf
    rcases hf with hf | rfl
    · exact h.notTemplate f (by simpa using hf)
    · exact hn
  · intro f hf
    simp only [List.mem_append, List.mem_singleton] at hf
    rcases hf with hf | rfl
    · exact h.notP f (by simpa using hf)
    · exact hnp

/-- **start tag** of an ordinary element: a new element becomes the last child of the current node
and the new current node; the sink answers `Continue` -/
theorem TBInv.startTag {s lower top tp tid} (h : TBInv s lower top tp tid) (n : Str) (as : List (Str × Str))
    (hn : ordinaryName n = true) :
    ∃ s', (∀ line, Runs (processToken (.tag (tbStart n as)) line) s .continue_ s') ∧
      TBInv s' (lower ++ [top]) ⟨n, as, []⟩ tid s.dom.nodes.size := by
  obtain ⟨hS, hE⟩ := ordinary_notIn hn
  simp only [NotIn, startLists, endLists] at hS hE
  have hnt : isName n "template" = false := isName_of_isOneOf hE.1
  have e : ({ s with ignoreLf := false } : State) = s := by
    have := h.ilf
    cases s; simp_all
  obtain ⟨d', hp, hrun⟩ := h.insertFor n as hnt
  have hnp : isName n "p" = false := isName_of_isOneOf hE.2.2.2.2.2.2.1
  refine ⟨_, fun line => ?_, h.pushed n as hnt hnp d' hp s.activeFormatting _ rfl (h.afi_pushed_same d' _ hp)⟩
  refine processToken_frame s _ _ line _ rfl ?_
  rw [e]
  simp only [tbTok]
  refine ptc_done _ _ _ (by simp [noAck, tbStart]) (h.notForeign _) h.mode ?_
  unfold stepInBody
  have hk : ((tbStart n as).kind == .startTag) = true := rfl
  have hk2 : ((tbStart n as).kind == .endTag) = false := rfl
  have hnm : (tbStart n as).name = n := rfl
  simp only [Tag.isStart, Tag.isEnd, hk, hk2, hnm, hS, hE, Bool.and_false, Bool.false_eq_true, if_false,
    Bool.or_false, if_true]
  refine runs_getS_bind (fun tr => ?_)
  simp only [isName_of_isOneOf hS.2.2.2.2.2.2.2.2.2.2.2.2.2.2.2.2.2.2.2.2.2.2.2.2.2.2.2.2.2.2.2.2.2.2.1,
    Bool.and_false, Bool.false_eq_true, if_false]
  refine runs_bind (Runs.of_query h.noReconstruct) ?_
  exact runs_bind hrun (runs_pure _ _)

/-! ### end tag -/

theorem eq_self_withIlf {s : State} (h : s.ignoreLf = false) : ({ s with ignoreLf := false } : State) = s := by
  cases s; simp_all

theorem TBInv.length {s lower top tp tid} (h : TBInv s lower top tp tid) :
    s.openElems.length = (openIds 2 lower).length + 1 := by
  rw [h.stack]; simp

/-- `process_end_tag_in_body` when the current node has the tag's name: it is popped -/
theorem TBInv.endTagInBody {s lower top tp tid} (h : TBInv s lower top tp tid) :
    Runs (processEndTagInBody (tbEnd top.name)) s () { s with openElems := openIds 2 lower } := by
  have hlen := h.length
  have hnm : (tbEnd top.name).name = top.name := rfl
  unfold processEndTagInBody
  rw [hnm]
  refine runs_getS_bind (fun tr => ?_)
  simp only [withTr_openElems]
  refine runs_bind (s1 := s) (a := some (some (s.openElems.length - 1))) (Runs.of_query ?_) ?_
  · rw [h.stack]
    simp only [List.reverse_append, List.reverse_cons, List.reverse_nil, List.nil_append, List.cons_append,
      endTagSearch]
    refine query_bind (query_htmlElemNamedS (query_elemName (elData_elemName h.topNode)) top.name) ?_
    simp only [BEq.rfl, Bool.and_self, if_true]
    exact query_pure _ _
  dsimp only
  refine runs_bind (s1 := s) (a := ()) (Runs.of_query ?_) ?_
  · unfold generateImpliedEndExcept generateImpliedEndTags
    refine query_getS_bind (fun tr => ?_)
    simp only [withTr_openElems, generateImpliedEndTagsLoop]
    refine query_getS_bind (fun tr => ?_)
    simp only [withTr_openElems, h.last]
    refine query_bind (query_elemName (elData_elemName h.topNode)) ?_
    simp only [impliedExcept, BEq.rfl, Bool.and_self, if_true, Bool.not_false]
    exact query_pure _ _
  refine runs_getS_bind (fun tr => ?_)
  simp only [withTr_openElems]
  have h0 : (s.openElems.length == 0) = false := by rw [hlen]; simp
  simp only [h0, Bool.false_eq_true, if_false, bne_self_eq_false]
  have := runs_modS (g := fun s1 : State => { s1 with openElems := s1.openElems.take (s.openElems.length - 1) })
    (s := s) (fun tr => rfl)
  have e : s.openElems.take (s.openElems.length - 1) = openIds 2 lower := by
    rw [h.stack]; simp
  simp only [e] at this
  exact this

/-- popping a current node that is not a formatting element keeps the list valid -/
theorem TBInv.afi_pop_same {s lower prev n as cs tp tid} (h : TBInv s (lower ++ [prev]) ⟨n, as, cs⟩ tp tid)
    (hnf : fmtName n = false) : AFInv { s with openElems := openIds 2 (lower ++ [prev]) } := by
  refine h.afi.mono rfl ?_ (fun x nm as p ch hx => ⟨as, p, ch, hx⟩)
  intro e he hx
  obtain ⟨x, t, rfl, _, hf, as', p', ch', hn⟩ := h.afi.ent e he
  rw [h.stack, List.mem_append, List.mem_singleton] at hx
  rcases hx with hx | hx
  · exact hx
  · exfalso
    simp only [entryId] at hx
    subst hx
    have := elData_name_inj (hn.symm.trans h.topNode)
    rw [this] at hf
    rw [hnf] at hf; cases hf

/-- closing the current node (no change of the arena): it becomes the last closed child of its parent -/
theorem TBInv.closeTop {s lower prev n as cs tp tid tp0 tid0} (h : TBInv s (lower ++ [prev]) ⟨n, as, cs⟩ tp tid)
    (hlow : Lower s.dom 0 2 lower tp0 tid0) (e1 : tp = tid0) (e2 : tid = tid0 + 1 + sizeF prev.cs)
    (hnode : s.dom.nodes[tid0]? = some ⟨elData prev.name prev.attrs, some tp0,
      childIds (tid0 + 1) prev.cs ++ [tid0 + 1 + sizeF prev.cs]⟩)
    (hrep : RepF s.dom tid0 (tid0 + 1) prev.cs) (af' : List FormatEntry)
    (hafi : AFInv { s with openElems := openIds 2 (lower ++ [prev]), activeFormatting := af' }) :
    TBInv { s with openElems := openIds 2 (lower ++ [prev]), activeFormatting := af' } lower
      ⟨prev.name, prev.attrs, prev.cs ++ [.elem n as cs]⟩ tp0 tid0 := by
  have hsz := h.size
  have htop := h.topNode
  have htr := h.topRep
  rw [e1] at htop
  refine ⟨hlow, ?_, ?_, ?_, ?_, h.ctxNode, h.ctx, h.mode, h.tm, hafi, h.foster, h.form, h.ilf, ?_, h.errs, ?_⟩
  · show s.dom.nodes[tid0]? = _
    rw [hnode, childIds_append]
    simp [childIds]
  · show RepF s.dom tid0 (tid0 + 1) (prev.cs ++ [HNode.elem n as cs])
    rw [repF_append]
    refine ⟨hrep, ?_⟩
    simp only [RepF, RepT, and_true]
    rw [← e2]
    exact ⟨htop, htr⟩
  · show s.dom.nodes.size = _
    rw [hsz, sizeF_append]
    simp only [sizeF, HNode.size] at *
    omega
  · show openIds 2 (lower ++ [prev]) = _
    exact openIds_snoc 2 lower prev s.dom 0 tp0 tid0 hlow
  · intro f hf
    simp only [List.mem_append, List.mem_singleton] at hf
    rcases hf with hf | rfl
    · exact h.notTemplate f (by simp [hf])
    · exact h.notTemplate prev (by simp)
  · intro f hf
    simp only [List.mem_append, List.mem_singleton] at hf
    rcases hf with hf | rfl
    · exact h.notP f (by simp [hf])
    · exact h.notP prev (by simp)

/-- **end tag** of the current node: it is closed and becomes the last closed child of its parent -/
theorem TBInv.endTag {s lower prev n as cs tp tid} (h : TBInv s (lower ++ [prev]) ⟨n, as, cs⟩ tp tid)
    (hn : ordinaryName n = true) :
    ∃ s' tp0 tid0, (∀ line, Runs (processToken (.tag (tbEnd n)) line) s .continue_ s') ∧
      TBInv s' lower ⟨prev.name, prev.attrs, prev.cs ++ [.elem n as cs]⟩ tp0 tid0 := by
  obtain ⟨hS, hE⟩ := ordinary_notIn hn
  simp only [NotIn, startLists, endLists] at hS hE
  obtain ⟨tp0, tid0, hlow, e1, e2, hnode, hrep⟩ := lower_snoc_inv _ _ _ _ _ _ _ h.low
  refine ⟨{ s with openElems := openIds 2 (lower ++ [prev]) }, tp0, tid0, fun line => ?_, ?_⟩
  · refine processToken_frame s _ _ line _ rfl ?_
    rw [eq_self_withIlf h.ilf]
    simp only [tbTok]
    refine ptc_done _ _ _ (by simp [noAck, tbEnd]) (h.notForeign _) h.mode ?_
    unfold stepInBody
    have hk : ((tbEnd n).kind == .startTag) = false := rfl
    have hk2 : ((tbEnd n).kind == .endTag) = true := rfl
    have hnm : (tbEnd n).name = n := rfl
    simp only [Tag.isStart, Tag.isEnd, hk, hk2, hnm, hS, hE, Bool.and_false, Bool.false_eq_true, if_false,
      Bool.or_false]
    exact runs_bind (h.endTagInBody) (runs_pure _ _)
  · exact h.closeTop hlow e1 e2 hnode hrep s.activeFormatting (h.afi_pop_same (show fmtName n = false from hS.2.2.2.2.2.2.2.2.2.2.2.2.2.1))

/-! ### plain block elements -/

/-- every open element is an HTML element of the arena whose name is the name of its frame -/
theorem lower_nodes (d : Dom) (p id : Nat) (l : List Frame) (tp tid : Nat) (h : Lower d p id l tp tid) :
    ∀ x ∈ openIds id l, ∃ f ∈ l, ∃ pp ch, d.nodes[x]? = some ⟨elData f.name f.attrs, pp, ch⟩ := by
  induction l generalizing p id with
  | nil => intro x hx; simp [openIds] at hx
  | cons g rest ih =>
    intro x hx
    simp only [Lower] at h
    simp only [openIds, List.mem_cons] at hx
    rcases hx with rfl | hx
    · exact ⟨g, by simp, _, _, h.1⟩
    · obtain ⟨f, hf, pp, ch, e⟩ := ih _ _ h.2.2 x hx
      exact ⟨f, by simp [hf], pp, ch, e⟩

theorem TBInv.openNodes {s lower top tp tid} (h : TBInv s lower top tp tid) :
    ∀ x ∈ s.openElems, ∃ f ∈ lower ++ [top], ∃ pp ch, s.dom.nodes[x]? = some ⟨elData f.name f.attrs, pp, ch⟩ := by
  intro x hx
  rw [h.stack, List.mem_append, List.mem_singleton] at hx
  rcases hx with hx | rfl
  · obtain ⟨f, hf, pp, ch, e⟩ := lower_nodes _ _ _ _ _ _ h.low x hx
    exact ⟨f, by simp [hf], pp, ch, e⟩
  · exact ⟨top, by simp, _, _, h.topNode⟩

/-- a scope search for a name no open element has fails -/
theorem inScopeLoop_absent (s : State) (scope : EName → Bool) (name : Str) (l : List Nat)
    (hl : ∀ x ∈ l, ∃ nm as pp ch, s.dom.nodes[x]? = some ⟨elData nm as, pp, ch⟩ ∧ (nm == name) = false) :
    Query (inScopeLoop scope (fun h => htmlElemNamedS h name) l) s false := by
  induction l with
  | nil => exact query_pure _ _
  | cons x rest ih =>
    obtain ⟨nm, as, pp, ch, hn, hne⟩ := hl x (by simp)
    simp only [inScopeLoop]
    refine query_bind (query_htmlElemNamedS (query_elemName (elData_elemName hn)) name) ?_
    simp only [hne, Bool.and_false, Bool.false_eq_true, if_false]
    refine query_bind (query_elemName (elData_elemName hn)) ?_
    split
    · exact query_pure _ _
    · exact ih (fun y hy => hl y (by simp [hy]))

theorem TBInv.noPInScope {s lower top tp tid} (h : TBInv s lower top tp tid) :
    Query closePElementInButtonScope s () := by
  have hp := h.notP
  unfold closePElementInButtonScope
  refine query_bind (a := false) ?_ (by simp only [Bool.false_eq_true, if_false]; exact query_pure _ _)
  unfold inScopeNamed inScopeNamedS inScope
  refine query_getS_bind (fun tr => ?_)
  simp only [withTr_openElems]
  refine inScopeLoop_absent s _ _ _ ?_
  intro x hx
  obtain ⟨f, hf, pp, ch, e⟩ := h.openNodes x (List.mem_reverse.mp hx)
  exact ⟨f.name, f.attrs, pp, ch, e, by rw [isName_eq]; exact hp f hf⟩

def blockStartList : List String :=
  ["address", "article", "aside", "blockquote", "center", "details", "dialog",
   "dir", "div", "dl", "fieldset", "figcaption", "figure", "footer", "header",
   "hgroup", "main", "nav", "ol", "p", "search", "section", "summary", "ul"]
def blockEndList : List String :=
  ["address", "article", "aside", "blockquote", "button", "center", "details",
   "dialog", "dir", "div", "dl", "fieldset", "figcaption", "figure", "footer",
   "header", "hgroup", "listing", "main", "menu", "nav", "ol", "pre", "search",
   "section", "select", "summary", "ul"]

def blockCheck (n : Str) : Bool :=
  !isOneOf n ["html"] &&
  !isOneOf n ["base", "basefont", "bgsound", "link", "meta", "noframes", "script", "style", "template", "title"] &&
  !isOneOf n ["body"] && !isOneOf n ["frameset"] && (isOneOf n ["address", "article", "aside", "blockquote", "center", "details", "dialog",
   "dir", "div", "dl", "fieldset", "figcaption", "figure", "footer", "header",
   "hgroup", "main", "nav", "ol", "p", "search", "section", "summary", "ul"] || isOneOf n ["menu"]) &&
  !isOneOf n ["template"] && isOneOf n ["address", "article", "aside", "blockquote", "button", "center", "details",
   "dialog", "dir", "div", "dl", "fieldset", "figcaption", "figure", "footer",
   "header", "hgroup", "listing", "main", "menu", "nav", "ol", "pre", "search",
   "section", "select", "summary", "ul"] && tagNameOk n && !isName n "p" && !isName n "template" &&
  !cursoryImpliedEnd ⟨nsHtml, n⟩ && !fmtName n

theorem blockCheck_all : blockNames.all (fun s => blockCheck s.toList) = true := by decide +kernel

theorem block_facts {n : Str} (h : blockName n = true) : blockCheck n = true := by
  unfold blockName isOneOf at h
  rw [List.any_eq_true] at h
  obtain ⟨s, hs, e⟩ := h
  have := List.all_eq_true.mp blockCheck_all s hs
  have e' : s.toList = n := by simpa using e
  rw [e'] at this
  exact this

/-- **start tag** of a plain block element: no `p` element is open, so it is just inserted -/
theorem TBInv.startTagBlock {s lower top tp tid} (h : TBInv s lower top tp tid) (n : Str) (as : List (Str × Str))
    (hn : blockName n = true) :
    ∃ s', (∀ line, Runs (processToken (.tag (tbStart n as)) line) s .continue_ s') ∧
      TBInv s' (lower ++ [top]) ⟨n, as, []⟩ tid s.dom.nodes.size := by
  have hb := block_facts hn
  simp only [blockCheck, Bool.and_eq_true, Bool.not_eq_true', Bool.or_eq_true] at hb
  obtain ⟨⟨⟨⟨⟨⟨⟨⟨⟨⟨⟨b1, b2⟩, b3⟩, b4⟩, b5⟩, b6⟩, b7⟩, b8⟩, b9⟩, b10⟩, b11⟩, b12⟩ := hb
  have e := eq_self_withIlf h.ilf
  obtain ⟨d', hpd, hrun⟩ := h.insertFor n as b10
  refine ⟨_, fun line => ?_, h.pushed n as b10 b9 d' hpd s.activeFormatting _ rfl (h.afi_pushed_same d' _ hpd)⟩
  refine processToken_frame s _ _ line _ rfl ?_
  rw [e]
  simp only [tbTok]
  refine ptc_done _ _ _ (by simp [noAck, tbStart]) (h.notForeign _) h.mode ?_
  unfold stepInBody
  have hk : ((tbStart n as).kind == .startTag) = true := rfl
  have hk2 : ((tbStart n as).kind == .endTag) = false := rfl
  have hnm : (tbStart n as).name = n := rfl
  have body : Runs (do closePElementInButtonScope; let _ ← insertElementFor (tbStart n as); pure ProcessResult.done)
      s .done _ := runs_bind (Runs.of_query h.noPInScope) (runs_bind hrun (runs_pure _ _))
  simp only [Tag.isStart, Tag.isEnd, hk, hk2, hnm, b1, b2, b3, b4, b6, Bool.and_false, Bool.false_eq_true, if_false,
    Bool.or_false, Bool.true_and]
  rcases b5 with b5 | b5
  · simp only [b5, if_true]; exact body
  · by_cases hb5 : isOneOf n ["address", "article", "aside", "blockquote", "center", "details", "dialog",
   "dir", "div", "dl", "fieldset", "figcaption", "figure", "footer", "header",
   "hgroup", "main", "nav", "ol", "p", "search", "section", "summary", "ul"] = true
    · simp only [hb5, if_true]; exact body
    · simp only [hb5, b5, if_true]; exact body

theorem runs_set (s st' : State) (tr : List (SinkOp × Output)) : Runs (set (withTr st' tr) : M Unit) s () st' := by
  intro tr''
  exact ⟨tr, rfl⟩

theorem runs_popSilently {s : State} {x : Nat} (hl : s.openElems.getLast? = some x) :
    Runs popSilently s (some x) { s with openElems := s.openElems.dropLast } := by
  unfold popSilently
  refine runs_getS_bind (fun tr => ?_)
  simp only [withTr_openElems, hl]
  refine runs_bind (s1 := { s with openElems := s.openElems.dropLast }) (a := ()) ?_ (runs_pure _ _)
  exact runs_set s { s with openElems := s.openElems.dropLast } tr

/-- **end tag** of a plain block element that is the current node -/
theorem TBInv.endTagBlock {s lower prev n as cs tp tid} (h : TBInv s (lower ++ [prev]) ⟨n, as, cs⟩ tp tid)
    (hn : blockName n = true) :
    ∃ s' tp0 tid0, (∀ line, Runs (processToken (.tag (tbEnd n)) line) s .continue_ s') ∧
      TBInv s' lower ⟨prev.name, prev.attrs, prev.cs ++ [.elem n as cs]⟩ tp0 tid0 := by
  have hb := block_facts hn
  simp only [blockCheck, Bool.and_eq_true, Bool.not_eq_true', Bool.or_eq_true] at hb
  obtain ⟨⟨⟨⟨⟨⟨⟨⟨⟨⟨⟨b1, b2⟩, b3⟩, b4⟩, b5⟩, b6⟩, b7⟩, b8⟩, b9⟩, b10⟩, b11⟩, b12⟩ := hb
  obtain ⟨tp0, tid0, hlow, e1, e2, hnode, hrep⟩ := lower_snoc_inv _ _ _ _ _ _ _ h.low
  have hlen := h.length
  have hdrop : s.openElems.dropLast = openIds 2 (lower ++ [prev]) := by rw [h.stack]; simp
  refine ⟨{ s with openElems := openIds 2 (lower ++ [prev]) }, tp0, tid0, fun line => ?_, ?_⟩
  · refine processToken_frame s _ _ line _ rfl ?_
    rw [eq_self_withIlf h.ilf]
    simp only [tbTok]
    refine ptc_done _ _ _ (by simp [noAck, tbEnd]) (h.notForeign _) h.mode ?_
    unfold stepInBody
    have hk : ((tbEnd n).kind == .startTag) = false := rfl
    have hk2 : ((tbEnd n).kind == .endTag) = true := rfl
    have hnm : (tbEnd n).name = n := rfl
    simp only [Tag.isStart, Tag.isEnd, hk, hk2, hnm, b1, b3, b6, b7, Bool.and_false, Bool.false_eq_true, if_false,
      Bool.or_false, Bool.true_and, Bool.false_and, if_true]
    -- in scope: the current node has the name
    refine runs_bind (s1 := s) (a := true) (Runs.of_query ?_) ?_
    · unfold inScopeNamedS inScope
      refine query_getS_bind (fun tr => ?_)
      rw [withTr_openElems, h.stack]
      simp only [List.reverse_append, List.reverse_cons, List.reverse_nil, List.nil_append, List.cons_append,
        inScopeLoop]
      refine query_bind (query_htmlElemNamedS (query_elemName (elData_elemName h.topNode)) n) ?_
      simp only [BEq.rfl, Bool.and_self, if_true]
      exact query_pure _ _
    simp only [Bool.not_true, Bool.false_eq_true, if_false]
    refine runs_bind (s1 := s) (a := ()) (Runs.of_query ?_) ?_
    · unfold generateImpliedEndTags
      refine query_getS_bind (fun tr => ?_)
      simp only [withTr_openElems, generateImpliedEndTagsLoop]
      refine query_getS_bind (fun tr => ?_)
      simp only [withTr_openElems, h.last]
      refine query_bind (query_elemName (elData_elemName h.topNode)) ?_
      simp only [b11, Bool.not_false, if_true]
      exact query_pure _ _
    refine runs_bind (s1 := { s with openElems := s.openElems.dropLast }) (a := ()) ?_ (by rw [hdrop]; exact runs_pure _ _)
    unfold expectToCloseS popUntilNamedS popUntil
    refine runs_bind (s1 := { s with openElems := s.openElems.dropLast }) (a := 1) ?_ ?_
    · refine runs_getS_bind (fun tr => ?_)
      simp only [withTr_openElems, popUntilLoop]
      refine runs_bind (runs_popSilently h.last) ?_
      dsimp only
      refine runs_bind (Runs.of_query (query_elemName (s := { s with openElems := s.openElems.dropLast })
        (elData_elemName h.topNode))) ?_
      simp only [BEq.rfl, Bool.and_self, if_true]
      exact runs_pure _ _
    · simp only [bne_self_eq_false, Bool.false_eq_true, if_false]
      exact runs_pure _ _
  · exact h.closeTop hlow e1 e2 hnode hrep s.activeFormatting (h.afi_pop_same b12)

/-! ### formatting elements -/

theorem AFInv.sublist {s : State} (h : AFInv s) (af' : List FormatEntry) (hsub : af'.Sublist s.activeFormatting) :
    AFInv { s with activeFormatting := af' } :=
  ⟨fun e he => h.ent e (hsub.subset he), h.sorted.sublist (hsub.map entryId)⟩

theorem TBInv.withAF {s lower top tp tid} (h : TBInv s lower top tp tid) (af' : List FormatEntry)
    (hsub : af'.Sublist s.activeFormatting) : TBInv { s with activeFormatting := af' } lower top tp tid :=
  ⟨h.low, h.topNode, h.topRep, h.size, h.stack, h.ctxNode, h.ctx, h.mode, h.tm, h.afi.sublist af' hsub, h.foster,
    h.form, h.ilf, h.notTemplate, h.errs, h.notP⟩

theorem afAux_index (l : List (FormatEntry × Nat)) :
    ∀ x ∈ afEndToMarkerAux l, ∃ e, (e, x.1) ∈ l := by
  induction l with
  | nil => intro x hx; simp [afEndToMarkerAux] at hx
  | cons a rest ih =>
    intro x hx
    obtain ⟨e, i⟩ := a
    cases e with
    | marker => simp [afEndToMarkerAux] at hx
    | element h t =>
      simp only [afEndToMarkerAux, List.mem_cons] at hx
      rcases hx with rfl | hx
      · exact ⟨.element h t, by simp⟩
      · obtain ⟨e', he'⟩ := ih x hx
        exact ⟨e', by simp [he']⟩

theorem afEndToMarker_index (af : List FormatEntry) (x : Nat × Nat × Tag) (hx : x ∈ afEndToMarker af) :
    x.1 < af.length := by
  obtain ⟨e, he⟩ := afAux_index _ x hx
  rw [List.mem_reverse] at he
  have := List.mem_zipIdx he
  simp at this
  omega

theorem runs_afRemove (s : State) (i : Nat) (hi : i < s.activeFormatting.length) (site : String) :
    Runs (afRemove i site) s () { s with activeFormatting := s.activeFormatting.eraseIdx i } := by
  unfold afRemove
  refine runs_getS_bind (fun tr => ?_)
  rw [if_pos (show i < (withTr s tr).activeFormatting.length from hi)]
  unfold setAF
  exact runs_modS (fun tr => rfl)

/-- every open element is a node of the arena -/
theorem TBInv.open_lt {s lower top tp tid} (h : TBInv s lower top tp tid) : ∀ x ∈ s.openElems, x < s.dom.nodes.size := by
  intro x hx
  obtain ⟨f, _, pp, ch, e⟩ := h.openNodes x hx
  exact lt_of_get? e

/-- the new formatting element: inserted, pushed, and entered at the end of the list -/
theorem TBInv.fmtInsert {s lower top tp tid} (h : TBInv s lower top tp tid) (n : Str) (as : List (Str × Str))
    (hnt : isName n "template" = false) (hnp : isName n "p" = false) (hf : fmtName n = true) :
    ∃ s', Runs (do
        let elem ← insertElement true nsHtml n (tbAttrs as) false
        modS fun s => { s with activeFormatting := s.activeFormatting ++ [.element elem (tbStart n as)] }
        pure elem : M Nat) s s.dom.nodes.size s' ∧
      TBInv s' (lower ++ [top]) ⟨n, as, []⟩ tid s.dom.nodes.size := by
  obtain ⟨d', hp, hrun⟩ := h.insertFor n as hnt
  let s1 : State := { s with openElems := s.openElems ++ [s.dom.nodes.size], dom := d' }
  let s2 : State := { s1 with activeFormatting := s.activeFormatting ++ [.element s.dom.nodes.size (tbStart n as)] }
  refine ⟨s2, ?_, ?_⟩
  · refine runs_bind (show Runs (insertElementFor (tbStart n as)) s _ s1 from hrun) ?_
    refine runs_bind (s1 := s2) (a := ()) ?_ (runs_pure _ _)
    exact runs_modS (s := s1) (fun tr => rfl)
  · refine h.pushed n as hnt hnp d' hp _ s2 rfl ?_
    have hold := h.afi_pushed_same d' _ hp
    refine ⟨?_, ?_⟩
    · intro e he
      have he' : e ∈ s.activeFormatting ++ [FormatEntry.element s.dom.nodes.size (tbStart n as)] := he
      rw [List.mem_append, List.mem_singleton] at he'
      rcases he' with he' | rfl
      · exact hold.ent e he'
      · exact ⟨_, _, rfl, by show _ ∈ s.openElems ++ [_]; simp, hf, as, some tid, [], hp.atNew⟩
    · show ((s.activeFormatting ++ [FormatEntry.element s.dom.nodes.size (tbStart n as)]).map entryId).Pairwise (· < ·)
      rw [List.map_append, List.pairwise_append]
      refine ⟨h.afi.sorted, by simp, ?_⟩
      intro a ha b hb
      simp only [List.map_cons, List.map_nil, List.mem_singleton, entryId] at hb
      subst hb
      rw [List.mem_map] at ha
      obtain ⟨e, he, rfl⟩ := ha
      obtain ⟨x, t, rfl, hx, _⟩ := h.afi.ent e he
      exact h.open_lt x hx

theorem TBInv.createFmt {s lower top tp tid} (h : TBInv s lower top tp tid) (n : Str) (as : List (Str × Str))
    (hnt : isName n "template" = false) (hnp : isName n "p" = false) (hf : fmtName n = true) :
    ∃ s', Runs (createFormattingElementFor (tbStart n as)) s s.dom.nodes.size s' ∧
      TBInv s' (lower ++ [top]) ⟨n, as, []⟩ tid s.dom.nodes.size := by
  unfold createFormattingElementFor
  have hnm : (tbStart n as).name = n := rfl
  have hat : (tbStart n as).attrs = tbAttrs as := rfl
  have hd : (tbStart n as).hadDup = false := rfl
  rw [hnm, hat, hd]
  generalize hms : (List.filter (fun (x : Nat × Nat × Tag) =>
      match x with | (_, _, old) => (tbStart n as).equivModuloAttrOrder old) (afEndToMarker s.activeFormatting)) = ms
  by_cases hlen : ms.length ≥ 3
  · obtain ⟨x, hx⟩ : ∃ x, ms.getLast? = some x := by
      cases hq : ms.getLast? with
      | some x => exact ⟨x, rfl⟩
      | none =>
        have : ms = [] := List.getLast?_eq_none_iff.mp hq
        rw [this] at hlen; simp at hlen
    have hmem : x ∈ afEndToMarker s.activeFormatting := by
      have := List.mem_of_getLast? hx
      rw [← hms] at this
      exact (List.mem_filter.mp this).1
    have hi := afEndToMarker_index _ x hmem
    have h1 := h.withAF (s.activeFormatting.eraseIdx x.1) (List.eraseIdx_sublist _ _)
    obtain ⟨s', hr, hi'⟩ := h1.fmtInsert n as hnt hnp hf
    refine ⟨s', ?_, hi'⟩
    refine runs_getS_bind (fun tr => ?_)
    simp only [withTr_af, hms, hlen, if_true, hx]
    obtain ⟨i, h2, t2⟩ := x
    simp only
    exact runs_bind (s1 := { s with activeFormatting := s.activeFormatting.eraseIdx i }) (a := ())
      (runs_afRemove s i hi _) hr
  · obtain ⟨s', hr, hi'⟩ := h.fmtInsert n as hnt hnp hf
    refine ⟨s', ?_, hi'⟩
    refine runs_getS_bind (fun tr => ?_)
    simp only [withTr_af, hms, hlen, if_false]
    exact hr

/-- what the rules need to know about a formatting-element name -/
def fmtCheck (n : Str) : Bool :=
  !isOneOf n ["html"] &&
  !isOneOf n ["base", "basefont", "bgsound", "link", "meta", "noframes", "script", "style", "template", "title"] &&
  !isOneOf n ["body"] && !isOneOf n ["frameset"] &&
  !isOneOf n ["address", "article", "aside", "blockquote", "center", "details", "dialog",
               "dir", "div", "dl", "fieldset", "figcaption", "figure", "footer", "header",
               "hgroup", "main", "nav", "ol", "p", "search", "section", "summary", "ul"] &&
  !isOneOf n ["menu"] && !isOneOf n ["h1", "h2", "h3", "h4", "h5", "h6"] && !isOneOf n ["pre", "listing"] &&
  !isOneOf n ["form"] && !isOneOf n ["li", "dd", "dt"] && !isOneOf n ["plaintext"] && !isOneOf n ["button"] &&
  !isOneOf n ["a"] &&
  isOneOf n ["b", "big", "code", "em", "font", "i", "s", "small", "strike", "strong", "tt", "u"] &&
  !isOneOf n ["template"] &&
  !isOneOf n ["address", "article", "aside", "blockquote", "button", "center", "details",
               "dialog", "dir", "div", "dl", "fieldset", "figcaption", "figure", "footer",
               "header", "hgroup", "listing", "main", "menu", "nav", "ol", "pre", "search",
               "section", "select", "summary", "ul"] &&
  !isOneOf n ["option"] && !isOneOf n ["p"] &&
  isOneOf n ["a", "b", "big", "code", "em", "font", "i", "nobr", "s", "small", "strike", "strong", "tt", "u"] &&
  tagNameOk n && !isName n "p" && !isName n "template" && !specialTag ⟨nsHtml, n⟩ && !isOneOf n ["nobr"]

theorem fmtCheck_all : fmtNames.all (fun s => fmtCheck s.toList) = true := by decide +kernel

theorem fmt_facts {n : Str} (h : fmtName n = true) : fmtCheck n = true := by
  unfold fmtName isOneOf at h
  rw [List.any_eq_true] at h
  obtain ⟨s, hs, e⟩ := h
  have := List.all_eq_true.mp fmtCheck_all s hs
  have e' : s.toList = n := by simpa using e
  rw [e'] at this
  exact this

/-- **start tag** of a formatting element -/
theorem TBInv.startTagFmt {s lower top tp tid} (h : TBInv s lower top tp tid) (n : Str) (as : List (Str × Str))
    (hn : fmtName n = true) :
    ∃ s', (∀ line, Runs (processToken (.tag (tbStart n as)) line) s .continue_ s') ∧
      TBInv s' (lower ++ [top]) ⟨n, as, []⟩ tid s.dom.nodes.size := by
  have hb := fmt_facts hn
  simp only [fmtCheck, Bool.and_eq_true, Bool.not_eq_true'] at hb
  obtain ⟨⟨⟨⟨⟨⟨⟨⟨⟨⟨⟨⟨⟨⟨⟨⟨⟨⟨⟨⟨⟨⟨⟨b1, b2⟩, b3⟩, b4⟩, b5⟩, b6⟩, b7⟩, b8⟩, b9⟩, b10⟩, b11⟩, b12⟩, b13⟩, b14⟩, b15⟩, b16⟩, b17⟩, b18⟩, b19⟩, b20⟩, b21⟩, b22⟩, b23⟩, b24⟩ := hb
  have e := eq_self_withIlf h.ilf
  obtain ⟨s', hrun, hi'⟩ := h.createFmt n as b22 b21 hn
  refine ⟨s', fun line => ?_, hi'⟩
  refine processToken_frame s _ _ line _ rfl ?_
  rw [e]
  simp only [tbTok]
  refine ptc_done _ _ _ (by simp [noAck, tbStart]) (h.notForeign _) h.mode ?_
  unfold stepInBody
  have hk : ((tbStart n as).kind == .startTag) = true := rfl
  have hk2 : ((tbStart n as).kind == .endTag) = false := rfl
  have hnm : (tbStart n as).name = n := rfl
  simp only [Tag.isStart, Tag.isEnd, hk, hk2, hnm, b1, b2, b3, b4, b5, b6, b7, b8, b9, b10, b11, b12, b13, b14,
    Bool.and_false, Bool.false_eq_true, if_false, Bool.true_and, if_true]
  exact runs_bind (Runs.of_query h.noReconstruct) (runs_bind hrun (runs_pure _ _))

/-! #### the end tag: adoption agency, "no furthest block" -/

theorem lower_ids_lt (d : Dom) (p id : Nat) (l : List Frame) (tp tid : Nat) (h : Lower d p id l tp tid) :
    ∀ x ∈ openIds id l, x < tid := by
  induction l generalizing p id with
  | nil => intro x hx; simp [openIds] at hx
  | cons g rest ih =>
    intro x hx
    simp only [Lower] at h
    simp only [openIds, List.mem_cons] at hx
    have hle := lower_le d _ _ rest tp tid h.2.2
    rcases hx with rfl | hx
    · omega
    · exact ih _ _ h.2.2 x hx

theorem TBInv.open_le {s lower top tp tid} (h : TBInv s lower top tp tid) : ∀ x ∈ s.openElems, x ≤ tid := by
  intro x hx
  rw [h.stack, List.mem_append, List.mem_singleton] at hx
  rcases hx with hx | rfl
  · exact Nat.le_of_lt (lower_ids_lt _ _ _ _ _ _ h.low x hx)
  · exact Nat.le_refl _

/-- popping the current node together with its entry (if any) keeps the list valid -/
theorem TBInv.afi_pop {s lower prev n as cs tp tid} (h : TBInv s (lower ++ [prev]) ⟨n, as, cs⟩ tp tid)
    (af' : List FormatEntry) (hsub : af'.Sublist s.activeFormatting) (hne : ∀ e ∈ af', entryId e ≠ tid) :
    AFInv { s with openElems := openIds 2 (lower ++ [prev]), activeFormatting := af' } := by
  refine ⟨?_, h.afi.sorted.sublist (hsub.map entryId)⟩
  intro e he
  obtain ⟨x, t, rfl, hx, hf, rest⟩ := h.afi.ent e (hsub.subset he)
  refine ⟨x, t, rfl, ?_, hf, rest⟩
  rw [h.stack, List.mem_append, List.mem_singleton] at hx
  rcases hx with hx | hx
  · exact hx
  · exact absurd hx (hne _ he)

/-- in a strictly increasing list the maximum can only be the last element -/
theorem sorted_max_last (l : List Nat) (m : Nat) (hs : l.Pairwise (· < ·)) (hle : ∀ x ∈ l, x ≤ m) (hm : m ∈ l) :
    ∃ l0, l = l0 ++ [m] ∧ ∀ x ∈ l0, x < m := by
  rcases List.eq_nil_or_concat l with h | ⟨l0, z, h⟩
  · rw [h] at hm; simp at hm
  · rw [List.concat_eq_append] at h
    subst h
    rw [List.pairwise_append] at hs
    have hz : ∀ a ∈ l0, a < z := fun a ha => hs.2.2 a ha z (by simp)
    rw [List.mem_append, List.mem_singleton] at hm
    rcases hm with hm | rfl
    · have := hz m hm; have := hle z (by simp); omega
    · exact ⟨l0, rfl, hz⟩

/-- the entry of the current node, if there is one, is the last entry -/
theorem TBInv.topEntry {s lower top tp tid} (h : TBInv s lower top tp tid)
    (hm : tid ∈ s.activeFormatting.map entryId) :
    ∃ af0 t, s.activeFormatting = af0 ++ [.element tid t] ∧ t.name = top.name ∧ ∀ e ∈ af0, entryId e < tid := by
  have hle : ∀ x ∈ s.activeFormatting.map entryId, x ≤ tid := by
    intro x hx
    rw [List.mem_map] at hx
    obtain ⟨e, he, rfl⟩ := hx
    obtain ⟨y, t, rfl, hy, _⟩ := h.afi.ent e he
    exact h.open_le y hy
  obtain ⟨l0, hl, hlt⟩ := sorted_max_last _ tid h.afi.sorted hle hm
  rcases List.eq_nil_or_concat s.activeFormatting with hnil | ⟨af0, e, hc⟩
  · rw [hnil] at hl; simp at hl
  · rw [List.concat_eq_append] at hc
    rw [hc, List.map_append, List.map_cons, List.map_nil] at hl
    have hlen : (af0.map entryId).length = l0.length := by
      have := congrArg List.length hl; simpa using this
    have hpre : af0.map entryId = l0 := List.append_inj_left hl hlen
    have hlast : entryId e = tid := by
      have := List.append_inj_right hl hlen; simpa using this
    obtain ⟨y, t, rfl, _, _, as', p', ch', hnode⟩ := h.afi.ent e (by rw [hc]; simp)
    simp only [entryId] at hlast
    subst hlast
    refine ⟨af0, t, hc, elData_name_inj (hnode.symm.trans h.topNode), ?_⟩
    intro e' he'
    exact hlt _ (by rw [← hpre]; exact List.mem_map_of_mem he')

theorem posAF_none (s : State) (x : Nat) : ∀ (l : List FormatEntry) (i : Nat),
    (∀ e ∈ l, ∃ h t, e = .element h t ∧ h ≠ x) → Query (positionInAFLoop x l i) s none := by
  intro l
  induction l with
  | nil => intro i _; exact query_pure _ _
  | cons e rest ih =>
    intro i hl
    obtain ⟨h, t, rfl, hne⟩ := hl e (by simp)
    simp only [positionInAFLoop]
    refine query_bind (query_sameNode s h x) ?_
    have : (h == x) = false := by simpa using hne
    simp only [this, Bool.false_eq_true, if_false]
    exact ih (i + 1) (fun e he => hl e (by simp [he]))

theorem posAF_last (s : State) (x : Nat) (t : Tag) : ∀ (l0 : List FormatEntry) (i : Nat),
    (∀ e ∈ l0, ∃ h t, e = .element h t ∧ h ≠ x) →
    Query (positionInAFLoop x (l0 ++ [.element x t]) i) s (some (i + l0.length)) := by
  intro l0
  induction l0 with
  | nil =>
    intro i _
    simp only [List.nil_append, positionInAFLoop]
    refine query_bind (query_sameNode s x x) ?_
    simp only [BEq.rfl, if_true, List.length_nil, Nat.add_zero]
    exact query_pure _ _
  | cons e rest ih =>
    intro i hl
    obtain ⟨h, t', rfl, hne⟩ := hl e (by simp)
    simp only [List.cons_append, positionInAFLoop]
    refine query_bind (query_sameNode s h x) ?_
    have : (h == x) = false := by simpa using hne
    simp only [this, Bool.false_eq_true, if_false]
    have := ih (i + 1) (fun e he => hl e (by simp [he]))
    simpa [Nat.add_assoc, Nat.add_comm 1] using this

theorem TBInv.currentNamed {s lower top tp tid} (h : TBInv s lower top tp tid) :
    Query (currentNodeNamedS top.name) s true := by
  unfold currentNodeNamedS
  refine query_bind (query_currentNode h.last) ?_
  have := query_htmlElemNamedS (query_elemName (elData_elemName h.topNode)) top.name
  simpa using this

theorem afEndToMarker_snoc (af0 : List FormatEntry) (x : Nat) (t : Tag) :
    afEndToMarker (af0 ++ [.element x t]) = (af0.length, x, t) :: afEndToMarker af0 := by
  simp [afEndToMarker, List.zipIdx_append, afEndToMarkerAux]

theorem eraseIdx_snoc (af0 : List FormatEntry) (e : FormatEntry) : (af0 ++ [e]).eraseIdx af0.length = af0 := by
  induction af0 with
  | nil => rfl
  | cons a r ih => simp [List.eraseIdx_cons_succ, ih]

/-- `adoption_agency(name)` when the current node is the formatting element of that name: it is
popped, and its entry (if Noah's Ark left it in the list) is removed -/
theorem TBInv.adoption {s lower prev n as cs tp tid} (h : TBInv s (lower ++ [prev]) ⟨n, as, cs⟩ tp tid)
    (hn : fmtName n = true) :
    ∃ af', af'.Sublist s.activeFormatting ∧ (∀ e ∈ af', entryId e ≠ tid) ∧
      Runs (adoptionAgency n) s () { s with openElems := openIds 2 (lower ++ [prev]), activeFormatting := af' } := by
  have hb := fmt_facts hn
  simp only [fmtCheck, Bool.and_eq_true, Bool.not_eq_true'] at hb
  have hspecial : specialTag ⟨nsHtml, n⟩ = false := hb.1.2
  have hdrop : s.openElems.dropLast = openIds 2 (lower ++ [prev]) := by rw [h.stack]; simp
  have hlen := h.length
  have hallElem : ∀ e ∈ s.activeFormatting, ∃ x t, e = .element x t := by
    intro e he; obtain ⟨x, t, rfl, _⟩ := h.afi.ent e he; exact ⟨x, t, rfl⟩
  unfold adoptionAgency
  by_cases hm : tid ∈ s.activeFormatting.map entryId
  · -- the entry is there: the outer loop, one iteration
    obtain ⟨af0, t, haf, htn, hlt⟩ := h.topEntry hm
    have htn' : t.name = n := htn
    have hne0 : ∀ e ∈ af0, ∃ x t', e = .element x t' ∧ x ≠ tid := by
      intro e he
      obtain ⟨x, t', rfl⟩ := hallElem e (by rw [haf]; simp [he])
      exact ⟨x, t', rfl, Nat.ne_of_lt (hlt _ he)⟩
    refine ⟨af0, by rw [haf]; exact List.sublist_append_left _ _, fun e he => Nat.ne_of_lt (hlt e he), ?_⟩
    refine runs_bind (Runs.of_query h.currentNamed) ?_
    simp only [if_true]
    refine runs_bind (Runs.of_query (query_currentNode h.last)) ?_
    refine runs_bind (s1 := s) (a := some (0 + af0.length)) (Runs.of_query ?_) ?_
    · unfold positionInActiveFormatting
      refine query_getS_bind (fun tr => ?_)
      rw [withTr_af, haf]
      exact posAF_last s tid t af0 0 hne0
    rw [pure_bind]
    simp only [Option.isNone_some, Bool.false_eq_true, if_false]
    -- aaOuter n 8
    show Runs (aaOuter n (7 + 1)) s () _
    simp only [aaOuter]
    refine runs_bind (s1 := { s with openElems := openIds 2 (lower ++ [prev]), activeFormatting := af0 }) (a := true)
      ?_ (by simp only [if_true]; exact runs_pure _ _)
    unfold aaOuterStep
    refine runs_getS_bind (fun tr => ?_)
    rw [withTr_af, haf, afEndToMarker_snoc]
    simp only [List.find?_cons, htn', BEq.rfl]
    -- rposition
    refine runs_bind (s1 := s) (a := some (s.openElems.length - 1)) (Runs.of_query ?_) ?_
    · unfold rposition
      refine query_getS_bind (fun tr => ?_)
      simp only [withTr_openElems]
      rw [h.stack]
      simp only [List.reverse_append, List.reverse_cons, List.reverse_nil, List.nil_append, List.cons_append,
        rpositionLoop]
      refine query_bind (query_sameNode s tid tid) ?_
      simp only [BEq.rfl, if_true]
      exact query_pure _ _
    simp only
    -- in scope
    refine runs_bind (s1 := s) (a := true) (Runs.of_query ?_) ?_
    · unfold inScope
      refine query_getS_bind (fun tr => ?_)
      simp only [withTr_openElems]
      rw [h.stack]
      simp only [List.reverse_append, List.reverse_cons, List.reverse_nil, List.nil_append, List.cons_append,
        inScopeLoop]
      refine query_bind (query_sameNode s tid tid) ?_
      simp only [BEq.rfl, if_true]
      exact query_pure _ _
    simp only [Bool.not_true, Bool.false_eq_true, if_false]
    refine runs_bind (Runs.of_query (query_currentNode h.last)) ?_
    refine runs_bind (Runs.of_query (query_sameNode s tid tid)) ?_
    simp only [BEq.rfl, Bool.not_true, Bool.false_eq_true, if_false]
    -- furthest block: none
    refine runs_getS_bind (fun tr => ?_)
    simp only [withTr_openElems]
    have hdropl : s.openElems.drop (s.openElems.length - 1) = [tid] := by
      rw [h.stack]; simp
    rw [hdropl]
    refine runs_bind (s1 := s) (a := none) (Runs.of_query ?_) ?_
    · simp only [findFurthestBlock]
      unfold elemIn
      refine query_bind (query_bind (query_elemName (elData_elemName h.topNode)) (query_pure _ _)) ?_
      simp only [hspecial, Bool.false_eq_true, if_false]
      exact query_pure _ _
    simp only
    have htake : s.openElems.take (s.openElems.length - 1) = openIds 2 (lower ++ [prev]) := by
      rw [h.stack]; simp
    refine runs_modS_bind (g := fun s1 : State => { s1 with openElems := s1.openElems.take (s.openElems.length - 1) })
      (fun tr => rfl) ?_
    simp only [htake]
    refine runs_bind (s1 := { s with openElems := openIds 2 (lower ++ [prev]), activeFormatting := af0 }) (a := ())
      ?_ (runs_pure _ _)
    have := runs_afRemove { s with openElems := openIds 2 (lower ++ [prev]) } af0.length
      (by show af0.length < s.activeFormatting.length; rw [haf]; simp) "mod.rs:784"
    have e2 : s.activeFormatting.eraseIdx af0.length = af0 := by rw [haf]; exact eraseIdx_snoc _ _
    simp only [e2] at this
    exact this
  · -- Noah's Ark removed the entry: "current node not in the list" shortcut
    have hne : ∀ e ∈ s.activeFormatting, ∃ x t, e = .element x t ∧ x ≠ tid := by
      intro e he
      obtain ⟨x, t, rfl⟩ := hallElem e he
      refine ⟨x, t, rfl, fun hx => hm ?_⟩
      rw [List.mem_map]; exact ⟨_, he, by simp [entryId, hx]⟩
    refine ⟨s.activeFormatting, List.Sublist.refl _, ?_, ?_⟩
    · intro e he
      obtain ⟨x, t, rfl, hx⟩ := hne e he
      exact hx
    refine runs_bind (Runs.of_query h.currentNamed) ?_
    simp only [if_true]
    refine runs_bind (Runs.of_query (query_currentNode h.last)) ?_
    refine runs_bind (s1 := s) (a := none) (Runs.of_query ?_) ?_
    · unfold positionInActiveFormatting
      refine query_getS_bind (fun tr => ?_)
      rw [withTr_af]
      exact posAF_none s tid _ 0 hne
    rw [pure_bind]
    simp only [Option.isNone_none, if_true]
    refine runs_bind (s1 := { s with openElems := openIds 2 (lower ++ [prev]) }) (a := tid) ?_ (runs_pure _ _)
    unfold pop
    refine runs_getS_bind (fun tr => ?_)
    simp only [withTr_openElems, h.last]
    refine runs_bind (s1 := { s with openElems := s.openElems.dropLast }) (a := ()) ?_ ?_
    · exact runs_set s { s with openElems := s.openElems.dropLast } tr
    rw [hdrop]
    exact runs_bind (runs_sinkUnit (pop_apply _ _)) (runs_pure _ _)

/-- **end tag** of a formatting element that is the current node -/
theorem TBInv.endTagFmt {s lower prev n as cs tp tid} (h : TBInv s (lower ++ [prev]) ⟨n, as, cs⟩ tp tid)
    (hn : fmtName n = true) :
    ∃ s' tp0 tid0, (∀ line, Runs (processToken (.tag (tbEnd n)) line) s .continue_ s') ∧
      TBInv s' lower ⟨prev.name, prev.attrs, prev.cs ++ [.elem n as cs]⟩ tp0 tid0 := by
  have hb := fmt_facts hn
  simp only [fmtCheck, Bool.and_eq_true, Bool.not_eq_true'] at hb
  obtain ⟨⟨⟨⟨⟨⟨⟨⟨⟨⟨⟨⟨⟨⟨⟨⟨⟨⟨⟨⟨⟨⟨⟨b1, b2⟩, b3⟩, b4⟩, b5⟩, b6⟩, b7⟩, b8⟩, b9⟩, b10⟩, b11⟩, b12⟩, b13⟩, b14⟩, b15⟩, b16⟩, b17⟩, b18⟩, b19⟩, b20⟩, b21⟩, b22⟩, b23⟩, b24⟩ := hb
  obtain ⟨tp0, tid0, hlow, e1, e2, hnode, hrep⟩ := lower_snoc_inv _ _ _ _ _ _ _ h.low
  obtain ⟨af', hsub, hne, hrun⟩ := h.adoption hn
  refine ⟨{ s with openElems := openIds 2 (lower ++ [prev]), activeFormatting := af' }, tp0, tid0, fun line => ?_, ?_⟩
  · refine processToken_frame s _ _ line _ rfl ?_
    rw [eq_self_withIlf h.ilf]
    simp only [tbTok]
    refine ptc_done _ _ _ (by simp [noAck, tbEnd]) (h.notForeign _) h.mode ?_
    unfold stepInBody
    have hk : ((tbEnd n).kind == .startTag) = false := rfl
    have hk2 : ((tbEnd n).kind == .endTag) = true := rfl
    have hnm : (tbEnd n).name = n := rfl
    simp only [Tag.isStart, Tag.isEnd, hk, hk2, hnm, b1, b3, b15, b16, b9, b17, b18, b10, b7, b19, Bool.and_false,
      Bool.false_eq_true, if_false, Bool.or_false, Bool.true_and, Bool.false_and, if_true]
    exact runs_bind hrun (runs_pure _ _)
  · exact h.closeTop hlow e1 e2 hnode hrep af' (h.afi_pop af' hsub hne)

/-! ### either kind of element -/

theorem elemNameOk_tagName {n : Str} (h : elemNameOk n = true) : tagNameOk n = true := by
  simp only [elemNameOk, Bool.or_eq_true] at h
  rcases h with (h | h) | h
  · simp only [ordinaryName, Bool.and_eq_true] at h; exact h.1
  · have hb := block_facts h
    simp only [blockCheck, Bool.and_eq_true] at hb
    exact hb.1.1.1.1.2
  · have hb := fmt_facts h
    simp only [fmtCheck, Bool.and_eq_true] at hb
    exact hb.1.1.1.1.2

theorem TBInv.startTagAny {s lower top tp tid} (h : TBInv s lower top tp tid) (n : Str) (as : List (Str × Str))
    (hn : elemNameOk n = true) :
    ∃ s', (∀ line, Runs (processToken (.tag (tbStart n as)) line) s .continue_ s') ∧
      TBInv s' (lower ++ [top]) ⟨n, as, []⟩ tid s.dom.nodes.size := by
  simp only [elemNameOk, Bool.or_eq_true] at hn
  rcases hn with (hn | hn) | hn
  · exact h.startTag n as hn
  · exact h.startTagBlock n as hn
  · exact h.startTagFmt n as hn

theorem TBInv.endTagAny {s lower prev n as cs tp tid} (h : TBInv s (lower ++ [prev]) ⟨n, as, cs⟩ tp tid)
    (hn : elemNameOk n = true) :
    ∃ s' tp0 tid0, (∀ line, Runs (processToken (.tag (tbEnd n)) line) s .continue_ s') ∧
      TBInv s' lower ⟨prev.name, prev.attrs, prev.cs ++ [.elem n as cs]⟩ tp0 tid0 := by
  simp only [elemNameOk, Bool.or_eq_true] at hn
  rcases hn with (hn | hn) | hn
  · exact h.endTag hn
  · exact h.endTagBlock hn
  · exact h.endTagFmt hn

/-! ### character tokens -/

/-- what `append(current node, text)` does to the closed children: extend a trailing text node or
add a new one -/
def appendTextF (cs : Forest) (x : Str) : Forest :=
  match cs.getLast? with
  | some (.text old) => cs.dropLast ++ [.text (old ++ x)]
  | _ => cs ++ [.text x]

theorem appendTextF_nil (x : Str) : appendTextF [] x = [.text x] := rfl
theorem appendTextF_elem (cs0 : Forest) (n as ch) (x : Str) :
    appendTextF (cs0 ++ [.elem n as ch]) x = cs0 ++ [.elem n as ch] ++ [.text x] := by
  simp [appendTextF]
theorem appendTextF_text (cs0 : Forest) (old x : Str) :
    appendTextF (cs0 ++ [.text old]) x = cs0 ++ [.text (old ++ x)] := by
  simp [appendTextF]

theorem getLast?_childIds (start : Nat) (cs0 : Forest) (t : HNode) :
    (childIds start (cs0 ++ [t])).getLast? = some (start + sizeF cs0) := by
  rw [childIds_append]; simp [childIds]

theorem repF_snoc_node {d : Dom} {p start : Nat} {cs0 : Forest} {t : HNode}
    (h : RepF d p start (cs0 ++ [t])) : RepT d p (start + sizeF cs0) t := by
  rw [repF_append] at h
  simpa [RepF] using h.2

/-- the sink call of `append_text` on the arena -/
theorem TBInv.appendDom {s lower top tp tid} (h : TBInv s lower top tp tid) (x : Str) :
    ∃ d', s.dom.apply (.append tid (.text x)) = .ok (d', .unit) ∧
      ∀ s', s'.dom = d' → s'.openElems = s.openElems → s'.contextElem = s.contextElem → s'.mode = s.mode →
        s'.templateModes = s.templateModes → s'.activeFormatting = s.activeFormatting →
        s'.fosterParenting = s.fosterParenting → s'.formElem = s.formElem → s'.ignoreLf = s.ignoreLf →
        TBInv s' lower ⟨top.name, top.attrs, appendTextF top.cs x⟩ tp tid := by
  have h2 := h.two_le
  have hsz := h.size
  have fin : ∀ (d' : Dom) (cs' : Forest),
      Lower d' 0 2 lower tp tid →
      d'.nodes[tid]? = some ⟨elData top.name top.attrs, some tp, childIds (tid + 1) cs'⟩ →
      RepF d' tid (tid + 1) cs' → d'.nodes.size = tid + 1 + sizeF cs' →
      d'.nodes[1]? = some ⟨elData nDiv [], none, []⟩ → d'.errorsRev = [] →
      (∀ (x : Nat) (nm : Str) (as : List (Str × Str)) (p : Option Nat) (ch : List Nat),
        s.dom.nodes[x]? = some ⟨elData nm as, p, ch⟩ →
        ∃ as' p' ch', d'.nodes[x]? = some ⟨elData nm as', p', ch'⟩) →
      ∀ s', s'.dom = d' → s'.openElems = s.openElems → s'.contextElem = s.contextElem → s'.mode = s.mode →
        s'.templateModes = s.templateModes → s'.activeFormatting = s.activeFormatting →
        s'.fosterParenting = s.fosterParenting → s'.formElem = s.formElem → s'.ignoreLf = s.ignoreLf →
        TBInv s' lower ⟨top.name, top.attrs, cs'⟩ tp tid := by
    intro d' cs' a1 a2 a3 a4 a5 a6 a7 s' e1 e2 e3 e4 e5 e6 e7 e8 e9
    subst e1
    refine ⟨a1, a2, a3, a4, by rw [e2]; exact h.stack, a5, by rw [e3]; exact h.ctx, by rw [e4]; exact h.mode,
      by rw [e5]; exact h.tm, h.afi.mono e6 (fun _ _ hx => by rw [e2]; exact hx) a7, by rw [e7]; exact h.foster, by rw [e8]; exact h.form,
      by rw [e9]; exact h.ilf, ?_, a6, ?_⟩
    · intro f hf
      simp only [List.mem_append, List.mem_singleton] at hf
      rcases hf with hf | rfl
      · exact h.notTemplate f (by simp [hf])
      · exact h.notTemplate top (by simp)
    · intro f hf
      simp only [List.mem_append, List.mem_singleton] at hf
      rcases hf with hf | rfl
      · exact h.notP f (by simp [hf])
      · exact h.notP top (by simp)
  -- a new text node
  have newCase : (childIds (tid + 1) top.cs).getLast? = none ∨
      (∃ hh q as tc ip p ch, (childIds (tid + 1) top.cs).getLast? = some hh ∧
        s.dom.nodes[hh]? = some ⟨.element q as tc ip, p, ch⟩) →
      appendTextF top.cs x = top.cs ++ [.text x] →
      ∃ d', s.dom.apply (.append tid (.text x)) = .ok (d', .unit) ∧
      ∀ s', s'.dom = d' → s'.openElems = s.openElems → s'.contextElem = s.contextElem → s'.mode = s.mode →
        s'.templateModes = s.templateModes → s'.activeFormatting = s.activeFormatting →
        s'.fosterParenting = s.fosterParenting → s'.formElem = s.formElem → s'.ignoreLf = s.ignoreLf →
        TBInv s' lower ⟨top.name, top.attrs, appendTextF top.cs x⟩ tp tid := by
    intro hlast happ
    obtain ⟨d', e, hp⟩ := dom_append_text_new s.dom tid _ x h.topNode hlast
    refine ⟨d', e, ?_⟩
    have hfr : ∀ i, i < s.dom.nodes.size → i ≠ tid → d'.nodes[i]? = s.dom.nodes[i]? :=
      fun i h1 h2 => hp.frame i h2 (Nat.ne_of_lt h1)
    rw [happ]
    refine fin d' _ ?_ ?_ ?_ ?_ ?_ (by rw [hp.errs]; exact h.errs) (hp.keepsElems h.topNode)
    · exact lower_frame s.dom d' 0 2 lower tp tid (fun i _ h2 => hfr i (by omega) (by omega)) h.low
    · rw [hp.atTop, childIds_append]; simp [childIds, hsz]
    · rw [repF_append]
      refine ⟨repF_frame s.dom d' tid top.cs (tid + 1) (fun i h1 h2 => hfr i (by omega) (by omega)) h.topRep, ?_⟩
      simp only [RepF, RepT, and_true]
      rw [← hsz]; exact hp.atNew
    · rw [hp.size, hsz, sizeF_append]; simp [sizeF, HNode.size]; omega
    · rw [hfr 1 (by omega) (by omega)]; exact h.ctxNode
  rcases List.eq_nil_or_concat top.cs with hnil | ⟨cs0, t, hcs⟩
  · refine newCase (Or.inl (by rw [hnil]; rfl)) (by rw [hnil]; rfl)
  · rw [List.concat_eq_append] at hcs
    cases t with
    | elem n as ch =>
      have hrep := h.topRep
      rw [hcs] at hrep
      have hnode := repF_snoc_node hrep
      simp only [RepT] at hnode
      refine newCase (Or.inr ⟨_, _, _, _, _, _, _, by rw [hcs]; exact getLast?_childIds _ _ _, hnode.1⟩) ?_
      rw [hcs, appendTextF_elem]
    | text old =>
      have hrep := h.topRep
      rw [hcs] at hrep
      have hnode := repF_snoc_node hrep
      simp only [RepT] at hnode
      have hlast : (childIds (tid + 1) top.cs).getLast? = some (tid + 1 + sizeF cs0) := by
        rw [hcs]; exact getLast?_childIds _ _ _
      obtain ⟨d', e, hs', hat, hfr, herr⟩ := dom_append_text_merge s.dom tid _ x old _ _ _ h.topNode hlast hnode
      refine ⟨d', e, ?_⟩
      have hszc : sizeF top.cs = sizeF cs0 + 1 := by rw [hcs, sizeF_append]; simp [sizeF, HNode.size]
      rw [hcs, appendTextF_text]
      refine fin d' _ ?_ ?_ ?_ ?_ ?_ (by rw [herr]; exact h.errs) (by
        intro x nm as' p' ch' hx
        refine ⟨as', p', ch', ?_⟩
        rw [hfr x (by
          intro e; subst e
          rw [hnode] at hx
          simp [elData] at hx)]
        exact hx)
      · exact lower_frame s.dom d' 0 2 lower tp tid (fun i _ h2 => hfr i (by omega)) h.low
      · rw [hfr tid (by omega), h.topNode, hcs, childIds_append, childIds_append]; simp [childIds]
      · rw [repF_append] at hrep ⊢
        refine ⟨repF_frame s.dom d' tid cs0 (tid + 1) (fun i h1 h2 => hfr i (by omega)) hrep.1, ?_⟩
        simp only [RepF, RepT, and_true]
        exact hat
      · rw [hs', hsz, hszc, sizeF_append]; simp [sizeF, HNode.size]
      · rw [hfr 1 (by omega)]; exact h.ctxNode

/-- **character token** (non-empty): the text is appended to the current node -/
theorem TBInv.chars {s lower top tp tid} (h : TBInv s lower top tp tid) (x : Str) (hx : x ≠ []) :
    ∃ s', (∀ line, Runs (processToken (.chars x) line) s .continue_ s') ∧
      TBInv s' lower ⟨top.name, top.attrs, appendTextF top.cs x⟩ tp tid := by
  obtain ⟨d', e, hinv⟩ := h.appendDom x
  refine ⟨{ s with framesetOk := if anyNotWhitespace x then false else s.framesetOk, dom := d' }, fun line => ?_,
    hinv _ rfl rfl rfl rfl rfl rfl rfl rfl rfl⟩
  refine processToken_frame s _ _ line _ rfl ?_
  rw [eq_self_withIlf h.ilf]
  have hct : charsToken s.ignoreLf x = some (.chars .notSplit x) := by
    rw [h.ilf]
    cases x with
    | nil => exact absurd rfl hx
    | cons c t => rfl
  simp only [tbTok, hct]
  refine ptc_done _ _ _ rfl (h.notForeign _) h.mode ?_
  unfold stepInBody
  dsimp only
  refine runs_bind (Runs.of_query h.noReconstruct) ?_
  have hpl : ∀ b : Bool, Query (appropriatePlaceForInsertion none) { s with framesetOk := b } (.lastChild tid) := by
    intro b
    have h' : TBInv { s with framesetOk := b } lower top tp tid :=
      ⟨h.low, h.topNode, h.topRep, h.size, h.stack, h.ctxNode, h.ctx, h.mode, h.tm, ⟨h.afi.ent, h.afi.sorted⟩, h.foster, h.form,
        h.ilf, h.notTemplate, h.errs, h.notP⟩
    exact h'.place
  have happ : ∀ b : Bool, Runs (appendText x) { s with framesetOk := b } .done { s with framesetOk := b, dom := d' } := by
    intro b
    unfold appendText insertAppropriately
    refine runs_bind (a := ()) (runs_bind (b := ()) (Runs.of_query (hpl b)) ?_) (runs_pure _ _)
    exact runs_sinkUnit (s := { s with framesetOk := b }) e
  by_cases hw : anyNotWhitespace x = true
  · simp only [hw, if_true]
    refine runs_bind (s1 := { s with framesetOk := false }) (a := ()) ?_ (happ false)
    exact runs_modS (g := fun s : State => { s with framesetOk := false }) (fun tr => rfl)
  · simp only [hw, Bool.false_eq_true, if_false]
    have := happ s.framesetOk
    exact this

/-! ### token runs -/

/-- the tokens are processed one after the other (whatever line numbers they carry), each answered
with `Continue` -/
inductive TokRuns : List TokToken → State → State → Prop
  | nil (s : State) : TokRuns [] s s
  | cons {t : TokToken} {ts : List TokToken} {s s1 s2 : State} :
      (∀ line, Runs (processToken t line) s .continue_ s1) → TokRuns ts s1 s2 → TokRuns (t :: ts) s s2

theorem TokRuns.append {a b : List TokToken} {s s1 s2 : State} (h1 : TokRuns a s s1) (h2 : TokRuns b s1 s2) :
    TokRuns (a ++ b) s s2 := by
  induction h1 with
  | nil _ => exact h2
  | cons h _ ih => exact .cons h (ih h2)

theorem TokRuns.single {t : TokToken} {s s1 : State} (h : ∀ line, Runs (processToken t line) s .continue_ s1) :
    TokRuns [t] s s1 := .cons h (.nil _)

/-- `processTokens` on a token run: no answer other than `Continue` is collected -/
theorem TokRuns.processTokens {toks : List TokToken} {s s' : State} (h : TokRuns toks s s')
    (lines : List Nat) (hl : lines.length = toks.length) (acc : List SinkResult) :
    Runs (H5V.Model.HtmlTB.processTokens (toks.zip lines) acc) s acc s' := by
  induction h generalizing lines with
  | nil s => simp only [List.zip_nil_left, H5V.Model.HtmlTB.processTokens]; exact runs_pure _ _
  | @cons t ts s s1 s2 h _ ih =>
    cases lines with
    | nil => simp at hl
    | cons l ls =>
      simp only [List.zip_cons_cons, H5V.Model.HtmlTB.processTokens]
      refine runs_bind (h l) ?_
      simp only [BEq.rfl, if_true]
      exact ih ls (by simpa using hl)

/-- a text arriving in pieces: the pieces are appended one after the other -/
theorem TBInv.pieces {s lower top tp tid} (h : TBInv s lower top tp tid) (ps : List Str) (hp : ∀ p ∈ ps, p ≠ []) :
    ∃ s', TokRuns (ps.map .chars) s s' ∧
      TBInv s' lower ⟨top.name, top.attrs, ps.foldl appendTextF top.cs⟩ tp tid := by
  induction ps generalizing s top with
  | nil => exact ⟨s, .nil _, h⟩
  | cons p ps ih =>
    obtain ⟨s1, hr, h1⟩ := h.chars p (hp p (by simp))
    obtain ⟨s2, hr2, h2⟩ := ih h1 (fun q hq => hp q (by simp [hq]))
    exact ⟨s2, .cons hr hr2, h2⟩

theorem foldl_appendTextF_text (cs0 : Forest) (old : Str) (ps : List Str) :
    ps.foldl appendTextF (cs0 ++ [.text old]) = cs0 ++ [.text (old ++ ps.flatten)] := by
  induction ps generalizing old with
  | nil => simp
  | cons p ps ih => simp [List.foldl_cons, appendTextF_text, ih]

/-- non-empty pieces after something that is not a text node make one new text node -/
theorem foldl_appendTextF_new (cs : Forest) (ps : List Str) (hne : ps ≠ [])
    (hl : ∀ old, cs.getLast? ≠ some (.text old)) :
    ps.foldl appendTextF cs = cs ++ [.text ps.flatten] := by
  cases ps with
  | nil => exact absurd rfl hne
  | cons p ps =>
    have : appendTextF cs p = cs ++ [.text p] := by
      unfold appendTextF
      split
      · rename_i old heq; exact absurd heq (hl old)
      · rfl
    rw [List.foldl_cons, this, foldl_appendTextF_text]; simp

/-! ### a whole forest -/

theorem noAdj_head {cs : Forest} {t : HNode} {ts : Forest} (h : noAdjText (cs ++ t :: ts) = true)
    (ht : t.isText = true) : ∀ old, cs.getLast? ≠ some (.text old) := by
  induction cs with
  | nil => intro old; simp
  | cons a cs ih =>
    intro old
    cases cs with
    | nil =>
      simp only [List.cons_append, List.nil_append, noAdjText, Bool.and_eq_true, Bool.not_eq_true'] at h
      simp only [List.getLast?_singleton, ne_eq, Option.some.injEq]
      intro e; subst e
      have h1 : (HNode.text old).isText = true := rfl
      rw [h1, ht] at h
      exact absurd h.1 (by decide)
    | cons b cs =>
      simp only [List.cons_append, noAdjText, Bool.and_eq_true] at h
      have := ih (by simpa using h.2) old
      simpa using this

theorem okNode_text {x : Str} (h : okNode (.text x) = true) : x ≠ [] := by
  simp only [okNode, Bool.and_eq_true, Bool.not_eq_true', List.isEmpty_eq_false_iff] at h
  exact h.1

mutual
theorem tb_node (split : Str → List Str) (hsp : GoodSplit split) :
    ∀ (t : HNode) (s : State) (lower : List Frame) (top : Frame) (tp tid : Nat),
      TBInv s lower top tp tid → okNode t = true →
      (t.isText = true → ∀ old, top.cs.getLast? ≠ some (.text old)) →
      ∃ s' tp' tid', TokRuns (tbTokens split t) s s' ∧
        TBInv s' lower ⟨top.name, top.attrs, top.cs ++ [t]⟩ tp' tid'
  | .text x, s, lower, top, tp, tid, h, hok, hadj => by
    have hx := okNode_text hok
    obtain ⟨hfl, hne⟩ := hsp x
    obtain ⟨s', hr, hi⟩ := h.pieces (split x) hne
    have hps : split x ≠ [] := by
      intro e; rw [e] at hfl; exact hx hfl.symm
    rw [foldl_appendTextF_new top.cs (split x) hps (hadj rfl), hfl] at hi
    exact ⟨s', tp, tid, by simpa [tbTokens] using hr, hi⟩
  | .elem n as ch, s, lower, top, tp, tid, h, hok, _ => by
    simp only [okNode, Bool.and_eq_true] at hok
    obtain ⟨⟨⟨hn, _⟩, hch⟩, hadj⟩ := hok
    obtain ⟨s1, hr1, h1⟩ := h.startTagAny n as hn
    obtain ⟨s2, tp2, tid2, hr2, h2⟩ := tb_forest split hsp ch s1 (lower ++ [top]) ⟨n, as, []⟩ _ _ h1 hch
      (by simpa using hadj)
    simp only [List.nil_append] at h2
    obtain ⟨s3, tp3, tid3, hr3, h3⟩ := h2.endTagAny hn
    refine ⟨s3, tp3, tid3, ?_, h3⟩
    simp only [tbTokens]
    exact .cons hr1 (hr2.append (.single hr3))
theorem tb_forest (split : Str → List Str) (hsp : GoodSplit split) :
    ∀ (f : Forest) (s : State) (lower : List Frame) (top : Frame) (tp tid : Nat),
      TBInv s lower top tp tid → okForest f = true → noAdjText (top.cs ++ f) = true →
      ∃ s' tp' tid', TokRuns (tbTokensF split f) s s' ∧
        TBInv s' lower ⟨top.name, top.attrs, top.cs ++ f⟩ tp' tid'
  | [], s, lower, top, tp, tid, h, _, _ => by
    refine ⟨s, tp, tid, by simpa [tbTokensF] using TokRuns.nil s, ?_⟩
    simpa using h
  | t :: ts, s, lower, top, tp, tid, h, hok, hadj => by
    simp only [okForest, Bool.and_eq_true] at hok
    obtain ⟨s1, tp1, tid1, hr1, h1⟩ := tb_node split hsp t s lower top tp tid h hok.1 (noAdj_head hadj)
    obtain ⟨s2, tp2, tid2, hr2, h2⟩ := tb_forest split hsp ts s1 lower ⟨top.name, top.attrs, top.cs ++ [t]⟩ _ _ h1
      hok.2 (by simpa using hadj)
    refine ⟨s2, tp2, tid2, by simpa [tbTokensF] using hr1.append hr2, ?_⟩
    simpa using h2
end

end H5V.Lemmas.HtmlRT
