import H5V.Lemmas.HtmlTBSafeBase
/-!
# Tree-builder safety: frames, and the stack-walking helpers of `mod.rs`

`Fr s s'`: the safety-relevant scalar fields of the builder are unchanged and the DOM is extended.
`St s s' l`: `Fr`, the stack of open elements of `s'` is `l`, the list of active formatting elements is
unchanged.  The specifications of the popping loops describe the new stack by a decomposition
`old = kept ++ popped`.
-/
namespace H5V.Lemmas.TBSafe
open H5V.Model.HtmlTB
open H5V.Model.Dom (Id QualName Attr NodeOrText SinkOp Output ElementFlags QuirksMode Dom NodeData Node)

variable {al : Allow}

structure Fr (s s' : State) : Prop where
  mode : s'.mode = s.mode
  origMode : s'.origMode = s.origMode
  templateModes : s'.templateModes = s.templateModes
  pendingTableText : s'.pendingTableText = s.pendingTableText
  headElem : s'.headElem = s.headElem
  formElem : s'.formElem = s.formElem
  contextElem : s'.contextElem = s.contextElem
  docHandle : s'.docHandle = s.docHandle
  opts : s'.opts = s.opts
  ext : Ext s.dom s'.dom

theorem Fr.refl (s : State) : Fr s s := ⟨rfl, rfl, rfl, rfl, rfl, rfl, rfl, rfl, rfl, Ext.refl _⟩

theorem Fr.trans {a b c : State} (h1 : Fr a b) (h2 : Fr b c) : Fr a c :=
  ⟨h2.mode.trans h1.mode, h2.origMode.trans h1.origMode, h2.templateModes.trans h1.templateModes,
   h2.pendingTableText.trans h1.pendingTableText, h2.headElem.trans h1.headElem,
   h2.formElem.trans h1.formElem, h2.contextElem.trans h1.contextElem, h2.docHandle.trans h1.docHandle,
   h2.opts.trans h1.opts, h1.ext.trans h2.ext⟩

theorem Fr.withOpen {s s' : State} (f : Fr s s') (l : List Id) : Fr s { s' with openElems := l } :=
  ⟨f.mode, f.origMode, f.templateModes, f.pendingTableText, f.headElem, f.formElem, f.contextElem,
   f.docHandle, f.opts, f.ext⟩

theorem Fr.withAF {s s' : State} (f : Fr s s') (l : List FormatEntry) : Fr s { s' with activeFormatting := l } :=
  ⟨f.mode, f.origMode, f.templateModes, f.pendingTableText, f.headElem, f.formElem, f.contextElem,
   f.docHandle, f.opts, f.ext⟩

theorem Fr.withOpenAF {s s' : State} (f : Fr s s') (l : List Id) (a : List FormatEntry) :
    Fr s { s' with openElems := l, activeFormatting := a } :=
  ⟨f.mode, f.origMode, f.templateModes, f.pendingTableText, f.headElem, f.formElem, f.contextElem,
   f.docHandle, f.opts, f.ext⟩

theorem QF.fr {s s' : State} (h : QF s s') : Fr s s' :=
  ⟨h.mode, h.origMode, h.templateModes, h.pendingTableText, h.headElem, h.formElem, h.contextElem,
   h.docHandle, h.opts, h.ext⟩

/-- `Fr`, new stack `l`, same list of active formatting elements -/
structure St (s s' : State) (l : List Id) : Prop where
  fr : Fr s s'
  openElems : s'.openElems = l
  af : s'.activeFormatting = s.activeFormatting

abbrev Same (s s' : State) : Prop := St s s' s.openElems

theorem Same.refl (s : State) : Same s s := ⟨Fr.refl s, rfl, rfl⟩

theorem QF.same {s s' : State} (h : QF s s') : Same s s' := ⟨h.fr, h.openElems, h.activeFormatting⟩

theorem St.trans {a b c : State} {l1 l2 : List Id} (h1 : St a b l1) (h2 : St b c l2) : St a c l2 :=
  ⟨h1.fr.trans h2.fr, h2.openElems, h2.af.trans h1.af⟩

theorem Same.trans {a b c : State} (h1 : Same a b) (h2 : Same b c) : Same a c :=
  ⟨h1.fr.trans h2.fr, by rw [h2.openElems, h1.openElems], h2.af.trans h1.af⟩

theorem St.same_right {a b c : State} {l : List Id} (h1 : St a b l) (h2 : Same b c) : St a c l :=
  ⟨h1.fr.trans h2.fr, by rw [h2.openElems, h1.openElems], h2.af.trans h1.af⟩

theorem Same.st_left {a b c : State} {l : List Id} (h1 : Same a b) (h2 : St b c l) : St a c l :=
  ⟨h1.fr.trans h2.fr, h2.openElems, h2.af.trans h1.af⟩

/-- every handle of the list is an element of the DOM -/
def AllEl (d : Dom) (l : List Id) : Prop := ∀ h ∈ l, IsEl d h

theorem AllEl.ext {d d' : Dom} {l : List Id} (he : Ext d d') (h : AllEl d l) : AllEl d' l :=
  fun x hx => (h x hx).ext he

theorem AllEl.sub {d : Dom} {l l' : List Id} (h : AllEl d l) (hs : ∀ x ∈ l', x ∈ l) : AllEl d l' :=
  fun x hx => h x (hs x hx)

theorem AllEl.nm_eq {d d' : Dom} {l : List Id} (he : Ext d d') (h : AllEl d l) {x : Id} (hx : x ∈ l) :
    nm d' x = nm d x := _root_.H5V.Lemmas.TBSafe.nm_ext he (h x hx)

/-! ### trivial state updates -/

theorem sat_setMode {m : Mode} {s : State} :
    Sat (setMode m) s (fun _ s' => s' = { s with mode := m }) := sat_modS rfl

theorem sat_setFramesetOk {b : Bool} {s : State} : Sat (setFramesetOk b) s (fun _ s' => Same s s') :=
  sat_modS ⟨⟨rfl, rfl, rfl, rfl, rfl, rfl, rfl, rfl, rfl, Ext.refl _⟩, rfl, rfl⟩

theorem sat_isFragment {s : State} :
    Sat isFragment s (fun b s' => b = s.contextElem.isSome ∧ s' = s) := by
  unfold isFragment
  exact sat_getS_bind (sat_pure ⟨rfl, rfl⟩)

theorem sat_push {h : Id} {s : State} :
    Sat (push h) s (fun _ s' => s' = { s with openElems := s.openElems ++ [h] }) := sat_modS rfl

/-! ### the current node -/

theorem sat_currentNode {s : State} {h : Id} (hl : s.openElems.getLast? = some h) :
    Sat currentNode s (fun r s' => r = h ∧ s' = s) := by
  unfold currentNode
  refine sat_getS_bind ?_
  simp only [hl]
  exact sat_pure ⟨rfl, rfl⟩

theorem getLast?_of_ne_nil {l : List Id} (h : l ≠ []) : ∃ x, l.getLast? = some x := by
  cases hl : l.getLast? with
  | none => exact absurd (List.getLast?_eq_none_iff.mp hl) h
  | some x => exact ⟨x, rfl⟩

theorem getLast?_mem {l : List Id} {x : Id} (h : l.getLast? = some x) : x ∈ l :=
  List.mem_of_getLast? h

theorem sat_currentNodeIn {set : EName → Bool} {s : State} {h : Id} (hl : s.openElems.getLast? = some h)
    (hi : IsEl s.dom h) :
    Sat (currentNodeIn set) s (fun b s' => b = set (nm s.dom h) ∧ QF s s') := by
  unfold currentNodeIn
  refine (sat_currentNode hl).bind ?_
  rintro r s' ⟨rfl, rfl⟩
  refine (sat_elemName hi).bind ?_
  rintro n s' ⟨rfl, hq⟩
  exact sat_pure ⟨rfl, hq⟩

theorem sat_currentNodeNamedS {name : Str} {s : State} {h : Id} (hl : s.openElems.getLast? = some h)
    (hi : IsEl s.dom h) :
    Sat (currentNodeNamedS name) s
      (fun b s' => b = ((nm s.dom h).ns == nsHtml && (nm s.dom h).loc == name) ∧ QF s s') := by
  unfold currentNodeNamedS
  refine (sat_currentNode hl).bind ?_
  rintro r s' ⟨rfl, rfl⟩
  exact sat_htmlElemNamedS hi

theorem sat_currentNodeNamed {name : String} {s : State} {h : Id} (hl : s.openElems.getLast? = some h)
    (hi : IsEl s.dom h) :
    Sat (currentNodeNamed name) s
      (fun b s' => b = ((nm s.dom h).ns == nsHtml && (nm s.dom h).loc == name.toList) ∧ QF s s') :=
  sat_currentNodeNamedS hl hi

theorem sat_htmlElem {s : State} {r : Id} {rest : List Id} (hl : s.openElems = r :: rest) :
    Sat htmlElem s (fun x s' => x = r ∧ s' = s) := by
  unfold htmlElem
  refine sat_getS_bind ?_
  simp only [hl, List.head?_cons]
  exact sat_pure ⟨rfl, rfl⟩

theorem sat_htmlElemFn {s : State} {r : Id} {rest : List Id} (hl : s.openElems = r :: rest) :
    Sat htmlElemFn s (fun x s' => x = r ∧ s' = s) := by
  unfold htmlElemFn
  refine sat_getS_bind ?_
  simp only [hl, List.head?_cons]
  exact sat_pure ⟨rfl, rfl⟩

theorem sat_adjustedCurrentNode {s : State} {h : Id} (hl : s.openElems.getLast? = some h) :
    Sat adjustedCurrentNode s (fun r s' => s' = s ∧
      r = (if s.openElems.length == 1 then (match s.contextElem with | some c => c | none => h) else h)) := by
  unfold adjustedCurrentNode
  refine sat_getS_bind ?_
  by_cases hlen : (s.openElems.length == 1) = true
  · simp only [hlen, if_true]
    cases hc : s.contextElem with
    | some c => exact sat_pure ⟨rfl, rfl⟩
    | none => exact (sat_currentNode hl).mono (by rintro r s' ⟨rfl, rfl⟩; exact ⟨rfl, rfl⟩)
  · simp only [hlen, if_false, Bool.false_eq_true]
    exact (sat_currentNode hl).mono (by rintro r s' ⟨rfl, rfl⟩; exact ⟨rfl, rfl⟩)

/-! ### pop -/

theorem dropLast_append_getLast {l : List Id} {h : Id} (hl : l.getLast? = some h) : l = l.dropLast ++ [h] :=
  by
  obtain ⟨ys, rfl⟩ := List.getLast?_eq_some_iff.mp hl
  rw [List.dropLast_concat]

theorem sat_pop {s : State} {h : Id} (hl : s.openElems.getLast? = some h) :
    Sat pop s (fun r s' => r = h ∧ St s s' s.openElems.dropLast) := by
  unfold pop
  refine sat_getS_bind ?_
  simp only [hl]
  refine sat_set_bind ?_
  refine (sat_sinkUnit_total ⟨_, _, apply_pop _ _⟩).bind ?_
  intro _ s' hq
  refine sat_pure ⟨rfl, ?_⟩
  exact ⟨⟨hq.mode, hq.origMode, hq.templateModes, hq.pendingTableText, hq.headElem, hq.formElem,
    hq.contextElem, hq.docHandle, hq.opts, hq.ext⟩, hq.openElems, hq.activeFormatting⟩

theorem sat_popSilently_some {s : State} {h : Id} (hl : s.openElems.getLast? = some h) :
    Sat popSilently s (fun r s' => r = some h ∧ s' = { s with openElems := s.openElems.dropLast }) := by
  unfold popSilently
  refine sat_getS_bind ?_
  simp only [hl]
  exact sat_set_bind (sat_pure ⟨rfl, rfl⟩)

theorem st_dropLast (s : State) : St s { s with openElems := s.openElems.dropLast } s.openElems.dropLast :=
  ⟨⟨rfl, rfl, rfl, rfl, rfl, rfl, rfl, rfl, rfl, Ext.refl _⟩, rfl, rfl⟩

/-! ### `in_html_elem_named` -/

theorem sat_anyHtmlElemNamed {name : String} : ∀ (l : List Id) (s : State), AllEl s.dom l →
    Sat (anyHtmlElemNamed name l) s
      (fun b s' => b = l.any (fun h => (nm s.dom h).ns == nsHtml && (nm s.dom h).loc == name.toList) ∧ QF s s') := by
  intro l
  induction l with
  | nil => intro s _; exact sat_pure ⟨rfl, QF.refl s⟩
  | cons e rest ih =>
    intro s hall
    unfold anyHtmlElemNamed
    refine (sat_htmlElemNamed (hall e (List.mem_cons_self))).bind ?_
    rintro b s1 ⟨rfl, hq⟩
    split
    · rename_i hb
      exact sat_pure ⟨by simp [List.any_cons, hb], hq⟩
    · rename_i hb
      have hall1 : AllEl s1.dom rest := (hall.sub (fun x hx => List.mem_cons_of_mem _ hx)).ext hq.ext
      refine (ih s1 hall1).mono ?_
      rintro b s2 ⟨rfl, hq2⟩
      refine ⟨?_, hq.trans hq2⟩
      simp only [List.any_cons, hb, Bool.false_or]
      apply List.any_congr_left'
      intro x hx
      rw [(hall.sub (fun x hx => List.mem_cons_of_mem _ hx)).nm_eq hq.ext hx]
where
  List.any_congr_left' {l : List Id} {f g : Id → Bool} (h : ∀ x ∈ l, f x = g x) : l.any f = l.any g := by
    induction l with
    | nil => rfl
    | cons a t ih =>
      simp only [List.any_cons]
      rw [h a List.mem_cons_self, ih (fun x hx => h x (List.mem_cons_of_mem _ hx))]

/-- is an HTML element with this local name on the stack -/
def hasNamed (d : Dom) (l : List Id) (name : Str) : Bool :=
  l.any (fun h => (nm d h).ns == nsHtml && (nm d h).loc == name)

theorem sat_inHtmlElemNamed {name : String} {s : State} (hall : AllEl s.dom s.openElems) :
    Sat (inHtmlElemNamed name) s (fun b s' => b = hasNamed s.dom s.openElems name.toList ∧ QF s s') := by
  unfold inHtmlElemNamed
  exact sat_getS_bind (sat_anyHtmlElemNamed _ s hall)

end H5V.Lemmas.TBSafe
