import H5V.Lemmas.HtmlParseSpecBridge
import H5V.Lemmas.HtmlParseSpecRun
import H5V.Lemmas.HtmlTokSpecDefs
import H5V.Spec.Parse
/-!
**The bridge** — the sink policy induced by the specification's coupling `Spec.Parse.treeOfSpec`
answers like the tree-builder MODEL after every history the joint run passes through (`agrees_of_lock`), given
that the model and `Spec.TreeModes` run in lock-step over the delivered token stream (`Lock`, from C02Modes).

* `convAll` — the tokens the joint driver hands to the tree builder (`absorb` = `processTokens ∘ convAll`);
* `polOfTree` — the pause-free sink policy that answers as a `Tree` does; `polTree_polOfTree`: `PolTree` holds by
  construction, so `C01_model_eq_spec` applies to it;
* `acn_bridge` — the CDATA question: `adjusted_current_node_present_but_not_in_html_namespace` of the model is
  the standard's "there is an adjusted current node and it is not an element in the HTML namespace" on `absF`;
* `specToks_convAll` — a history of single-character tokens is, token for token, the history of the
  specification's tokenizer.
-/
namespace H5V.Lemmas.ParseSpec
open H5V.Model.HtmlTB
open H5V.Model.Dom (Id SinkOp Output Dom QualName Attr NodeOrText ElementFlags NodeData QuirksMode)
open H5V.Lemmas.HtmlTBAlgo
open H5V.Lemmas.HtmlTBModes
open H5V.Lemmas.TBSafe (TI HInv SInv)
open H5V.Spec.TreeModes (STok ETok IMode Config Out TokSwitch XOp Op Step Edition)
open H5V.Model.HtmlTB.Joint (JState absorb polOf conv convTag toSinkRes)
open H5V.Lemmas.JointChunk
open H5V.Lemmas.HtmlTokSpec (flat flatTok PolTree)
open H5V.Spec.HtmlTokenizer (Emit Tree Switch)
open H5V.Spec.Parse (Cfg treeOfSpec stateAfter treeTok treeTag lastSwitch acnForeign)

abbrev TTok := H5V.Model.HtmlTok.Token
abbrev TOut := H5V.Model.HtmlTok.Out

/-! ### the token stream handed to the tree builder -/

/-- the tokens of a log (oldest first) as the tree builder receives them (pause markers are not tokens) -/
def convAll (l : List (TTok × Nat)) : List (TokToken × Nat) := l.filterMap fun p => (conv p.1).map (·, p.2)

theorem convAll_append (a b : List (TTok × Nat)) : convAll (a ++ b) = convAll a ++ convAll b := by
  simp [convAll]

theorem convAll_cons (t : TTok) (l : Nat) (rest : List (TTok × Nat)) :
    convAll ((t, l) :: rest) = (match conv t with | none => [] | some tt => [(tt, l)]) ++ convAll rest := by
  unfold convAll
  rw [List.filterMap_cons]
  cases conv t <;> rfl

/-- `absorb` is the tree builder fed `convAll` -/
theorem absorb_model : ∀ (toks : List (TTok × Nat)) (j j' : JState), absorb toks j = .ok j' →
    (processTokens (convAll toks) j.results).run j.tb = .ok (j'.results, j'.tb)
  | [], j, j', h => by cases h; rfl
  | (t, line) :: rest, j, j', h => by
    rw [absorb_cons] at h
    rw [convAll_cons]
    cases hc : conv t with
    | none => rw [hc] at h; exact absorb_model rest j j' h
    | some tt =>
      rw [hc] at h
      simp only at h
      cases hp : (processToken tt line).run j.tb with
      | error e => rw [hp] at h; cases h
      | ok v =>
        obtain ⟨r, tb⟩ := v
        rw [hp] at h
        simp only at h
        by_cases hcnd : (!isTagT tt && r != .continue_) = true
        · rw [if_pos hcnd] at h; cases h
        · rw [if_neg hcnd] at h
          have ih := absorb_model rest _ j' h
          show (processToken tt line >>= fun r => processTokens (convAll rest)
            (if r == .continue_ then j.results else r :: j.results)) j.tb = _
          rw [H5V.Lemmas.TBSplit.bind_apply]
          have : processToken tt line j.tb = .ok (r, tb) := hp
          rw [this]
          exact ih

/-! ### the policy of a `Tree` -/

/-- the sink answer that makes html5ever perform a given switch -/
def sinkResOf : Switch → H5V.Model.HtmlTok.SinkRes
  | .none => .continue_
  | .data => .continue_
  | .plaintext => .plaintext
  | .rcdata => .rawData .rcdata
  | .rawtext => .rawData .rawtext
  | .scriptData => .rawData .scriptData
  | .scriptDataEscaped => .rawData (.scriptDataEscaped .escaped)
  | .scriptDataDoubleEscaped => .rawData (.scriptDataEscaped .doubleEscaped)

/-- the pause-free sink policy that answers as the tree-construction feedback `t` does -/
def polOfTree (t : Tree) : H5V.Model.HtmlTok.Pol :=
  { onTag := fun out tag => sinkResOf (t.onTag (Emit.tag tag :: flat out) tag)
    cdataOk := fun out => t.foreign (flat out) }

theorem noPause_polOfTree (t : Tree) : H5V.Model.HtmlTok.NoPause (polOfTree t) := by
  intro out tag
  show sinkResOf _ ≠ _ ∧ sinkResOf _ ≠ _
  cases t.onTag (Emit.tag tag :: flat out) tag <;> simp [sinkResOf]

/-- `PolTree` holds by construction for a tree that never asks for the plain data state -/
theorem polTree_polOfTree (t : Tree) (h : ∀ hist tag, t.onTag hist tag ≠ .data) : PolTree (polOfTree t) t where
  noPause := noPause_polOfTree t
  onTag := fun out tag => by
    show _ = H5V.Lemmas.HtmlTokSpec.switchOf (sinkResOf _)
    have := h (Emit.tag tag :: flat out) tag
    cases hh : t.onTag (Emit.tag tag :: flat out) tag <;> simp_all [sinkResOf, H5V.Lemmas.HtmlTokSpec.switchOf]
  cdata := fun _ => rfl

theorem lastSwitch_ne_data (s : Spec.TreeModes.State Nat) : lastSwitch s ≠ .data := by
  unfold lastSwitch
  cases s.outs.getLast? with
  | none => simp
  | some o =>
    simp only
    cases o.switch with
    | none => simp [H5V.Spec.Parse.switchOf]
    | some w => cases w <;> simp [H5V.Spec.Parse.switchOf]

theorem treeOfSpec_ne_data (c : Cfg) (hist : List Emit) (tag : H5V.Model.HtmlTok.Tag) :
    (treeOfSpec c).onTag hist tag ≠ .data := by
  show (match stateAfter c hist with | .ok s => lastSwitch s | .error _ => Switch.none) ≠ _
  cases stateAfter c hist with
  | error e => simp
  | ok s => exact lastSwitch_ne_data s

/-! ### the CDATA question -/

theorem acn_map2 {α β γ : Type} (f1 f2 : α → β) (g : β → γ) (hg : ∀ a, g (f1 a) = g (f2 a)) :
    ∀ (l : List α) (c : Option α),
      (Spec.TreeAlgo.adjustedCurrentNode (l.map f1) (c.map f2)).map g =
        (Spec.TreeAlgo.adjustedCurrentNode l c).map (fun a => g (f1 a))
  | [], c => by cases c <;> rfl
  | [a], none => rfl
  | [a], some c => by simp [Spec.TreeAlgo.adjustedCurrentNode, hg]
  | a :: b :: t, c => by cases c <;> rfl

/-- the standard's CDATA condition on the abstract state, in terms of the model's stack -/
theorem acnForeign_absF (s : State) (x : Aux) (hx : AuxOk s x) :
    acnForeign (cfgOf s) (absF s x) =
      match Spec.TreeAlgo.adjustedCurrentNode s.openElems.reverse s.contextElem with
      | some h => (nameOf s.dom h).ns != nsHtml
      | none => false := by
  have hstack : (absF s x).p.stack = absStack s.dom s.openElems := by
    simp only [absF, absP, hx.live, Bool.false_eq_true, if_false]
  unfold acnForeign Spec.TreeModes.adjustedCurrentNode
  rw [hstack]
  have hrev : (absStack s.dom s.openElems).reverse.map (Spec.TreeModes.openElem (absF s x)) =
      s.openElems.reverse.map (fun h => Spec.TreeModes.openElem (absF s x) (elemOf s.dom h)) := by
    unfold absStack
    rw [← List.map_reverse, List.map_map]
    rfl
  have hctx : (cfgOf s).context.map (fun c => ({ name := c.name, encodingHtml := (cfgOf s).contextEncodingHtml } : Spec.TreeAlgo.OpenElem)) =
      s.contextElem.map (fun h => ({ name := (elemOf s.dom h).name, encodingHtml := (cfgOf s).contextEncodingHtml } : Spec.TreeAlgo.OpenElem)) := by
    simp only [cfgOf, Option.map_map]
    rfl
  rw [hrev, hctx]
  have key := acn_map2 (fun h => Spec.TreeModes.openElem (absF s x) (elemOf s.dom h))
    (fun h => ({ name := (elemOf s.dom h).name, encodingHtml := (cfgOf s).contextEncodingHtml } : Spec.TreeAlgo.OpenElem))
    (fun e => e.name.ns != Spec.TreeAlgo.nsHtml) (fun _ => rfl) s.openElems.reverse s.contextElem
  generalize Spec.TreeAlgo.adjustedCurrentNode
    (s.openElems.reverse.map (fun h => Spec.TreeModes.openElem (absF s x) (elemOf s.dom h)))
    (s.contextElem.map (fun h => ({ name := (elemOf s.dom h).name, encodingHtml := (cfgOf s).contextEncodingHtml } : Spec.TreeAlgo.OpenElem))) = a at key ⊢
  generalize Spec.TreeAlgo.adjustedCurrentNode s.openElems.reverse s.contextElem = b at key ⊢
  cases a <;> cases b <;> simp at key ⊢
  exact key

/-- **the CDATA question**: the model's `adjusted_current_node_present_but_not_in_html_namespace` answers the
standard's condition on the abstract state -/
theorem acn_bridge {s : State} (hm : MInv s) (x : Aux) (hx : AuxOk s x) :
    ∃ s1, adjustedCurrentNodeForeign.run s = .ok (acnForeign (cfgOf s) (absF s x), s1) := by
  rw [acnForeign_absF s x hx]
  have hq : ∀ a, HtmlTBSpec.Query adjustedCurrentNodeForeign s a → ∃ s1, adjustedCurrentNodeForeign.run s = .ok (a, s1) := by
    intro a hq
    obtain ⟨tr', h⟩ := hq s.traceRev
    exact ⟨_, h⟩
  cases hl : s.openElems.reverse with
  | nil =>
    have he : s.openElems = [] := by simpa using hl
    apply hq
    unfold adjustedCurrentNodeForeign
    refine HtmlTBSpec.query_getS_bind (fun tr => ?_)
    simp only [HtmlTBSpec.withTr, he, List.isEmpty_nil, if_true, Spec.TreeAlgo.adjustedCurrentNode]
    exact HtmlTBSpec.query_pure _ _
  | cons top rest =>
    have hne : s.openElems.isEmpty = false := by
      cases ho : s.openElems with
      | nil => rw [ho] at hl; cases hl
      | cons _ _ => rfl
    have hmem : top ∈ s.openElems := by
      have : top ∈ s.openElems.reverse := by rw [hl]; simp
      simpa using this
    -- the adjusted current node of the model is an element
    have hc : ∃ c, Spec.TreeAlgo.adjustedCurrentNode (top :: rest) s.contextElem = some c ∧ s.dom.isElement c = true := by
      cases rest with
      | nil =>
        cases hcx : s.contextElem with
        | none => exact ⟨top, rfl, hm.elems top hmem⟩
        | some c => exact ⟨c, rfl, hm.ctx c hcx⟩
      | cons r rs => exact ⟨top, by cases s.contextElem <;> rfl, hm.elems top hmem⟩
    obtain ⟨c, hc1, hc2⟩ := hc
    rw [hc1]
    obtain ⟨n, hn⟩ := elemName_of_isElement hc2
    have hname : nameOf s.dom c = ⟨n.1, n.2⟩ := by unfold nameOf; rw [hn]
    show ∃ s1, adjustedCurrentNodeForeign.run s = .ok ((nameOf s.dom c).ns != nsHtml, s1)
    rw [hname]
    apply hq
    unfold adjustedCurrentNodeForeign
    refine HtmlTBSpec.query_getS_bind (fun tr => ?_)
    simp only [HtmlTBSpec.withTr, hne, Bool.false_eq_true, if_false]
    refine HtmlTBSpec.query_bind (HtmlTBSpec.adjustedCurrentNode_query s c (by rw [hl]; exact hc1)) ?_
    exact HtmlTBSpec.query_bind (HtmlTBSpec.query_elemName (ns := n.1) (loc := n.2) hn) (HtmlTBSpec.query_pure _ _)

/-! ### single-character histories are the histories of the specification's tokenizer -/

/-- every character token of the log holds exactly one character -/
def SingleChars (out : TOut) : Prop := ∀ p ∈ out, ∀ s, p.1 = .chars s → ∃ c, s = [c]

def NoEof (out : TOut) : Prop := ∀ p ∈ out, p.1 ≠ .eof

theorem specToks_append (a b : List (TokToken × Nat)) : specToks (a ++ b) = specToks a ++ specToks b := by
  simp [specToks]

theorem specTag_convTag (t : H5V.Model.HtmlTok.Tag) : specTag (convTag t) = treeTag t := by
  simp only [specTag, convTag, treeTag, List.map_map]
  congr 1

theorem specToks_one (t : TTok) (l : Nat) (hs : ∀ s, t = .chars s → ∃ c, s = [c]) (he : t ≠ .eof) :
    specToks (convAll [(t, l)]) = (flatTok t).map treeTok := by
  cases t with
  | doctype d => rfl
  | tag t =>
    simp only [convAll, specToks, List.filterMap_cons, List.filterMap_nil, conv, Option.map_some, specTokOf, flatTok,
      List.map_cons, List.map_nil, treeTok, specTag_convTag]
    rfl
  | comment c => rfl
  | chars s =>
    obtain ⟨c, rfl⟩ := hs s rfl
    rfl
  | nullChar => rfl
  | eof => exact absurd rfl he
  | error m => rfl
  | pause b => rfl

theorem specToks_convAll : ∀ (out : TOut), SingleChars out → NoEof out →
    specToks (convAll out.reverse) = (flat out).reverse.map treeTok
  | [], _, _ => rfl
  | (t, l) :: rest, hs, he => by
    have ih := specToks_convAll rest (fun p hp => hs p (by simp [hp])) (fun p hp => he p (by simp [hp]))
    rw [List.reverse_cons, convAll_append, specToks_append, ih, specToks_one t l (hs (t, l) (by simp)) (he (t, l) (by simp))]
    show _ = (((flatTok t).reverse ++ flat rest).reverse).map treeTok
    rw [List.reverse_append, List.reverse_reverse, List.map_append]

/-! ### `Spec.TreeModes.run` over a concatenation -/

theorem srun_append {N : Type} [DecidableEq N] (cfg : Config N) (fuel : Nat) :
    ∀ (a b : List Spec.TreeModes.Token) (s : Spec.TreeModes.State N),
      Spec.TreeModes.run cfg fuel s (a ++ b) =
        match Spec.TreeModes.run cfg fuel s a with
        | .ok s1 => Spec.TreeModes.run cfg fuel s1 b
        | .error e => .error e
  | [], b, s => rfl
  | t :: a, b, s => by
    simp only [List.cons_append, Spec.TreeModes.run]
    cases Spec.TreeModes.processToken cfg fuel s t with
    | error e => rfl
    | ok s1 => exact srun_append cfg fuel a b s1

/-- if the specification does not stop at the Assert of "in cell" on the whole list, then on a prefix it yields
what the completed specification yields -/
theorem srun_prefix {cfg : Config Id} {fuel : Nat} {a b : List Spec.TreeModes.Token} {s r : Spec.TreeModes.State Id}
    (hna : Spec.TreeModes.run cfg fuel s (a ++ b) ≠ .error cellAssertMsg)
    (hd : runDev cfg fuel s a = .ok r) : Spec.TreeModes.run cfg fuel s a = .ok r := by
  rcases stdOrAssert_run cfg fuel a s r hd with h | h
  · exact h
  · exfalso; apply hna
    rw [srun_append, h]

end H5V.Lemmas.ParseSpec
