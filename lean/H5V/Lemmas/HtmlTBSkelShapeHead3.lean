import H5V.Lemmas.HtmlTBSkelShapeHead2
/-!
C06, second invariant layer: InHeadNoscript and AfterHead.
-/
namespace H5V.Props.C06
open H5V.Model.Dom hiding Str
open H5V.Model.HtmlTB hiding Str
open H5V.Lemmas.Dom
/-- from the outcome of an InHead arm to the invariant, in a mode other than Text / InTableText -/
theorem HeadOut.good {r : Id} {s s' : State} {up : List Id} {ph : Phase} {res : ProcessResult} {m : Mode}
    (h : HeadOut r s up ph s' res) (hm : s.mode = m) (h1 : m ≠ .text) (h2 : m ≠ .inTableText)
    (hfit : Fits s.dom s.headElem m up ph) : Out r s' res := by
  cases h with
  | same hc' hsn hhd hmd hod hoe hnr =>
    refine Out.of_good (Good.mk' ⟨hc', ?_⟩) hnr
    refine fitsM_of_fits h1 h2 (hmd.trans hm) ?_
    rw [hhd]; exact hfit.congr hsn
  | text el hc' hsn hhd hmd hod hoe hx hnr =>
    refine Out.of_good (Good.mk' ⟨hc', ?_⟩) hnr
    unfold FitsM
    rw [hmd]
    exact ⟨m, up, el, by rw [hod, hm], rfl, h1, h2, by rw [hhd]; exact hfit.congr hsn,
      not_in_of_keepName_false hx.1 (by simp [lit_name]), hx.2⟩

theorem isStart_sub {tag : Tag} {l l' : List String} (h : tag.isStart l = true) (hl : ∀ a ∈ l, a ∈ l') :
    tag.isStart l' = true := by
  obtain ⟨a, ha, hn, hk⟩ := name_of_isStart h
  unfold Tag.isStart isOneOf
  simp only [Bool.and_eq_true, beq_iff_eq, List.any_eq_true]
  exact ⟨hk, a, hl a ha, hn.symm⟩

/-- a start tag with a name in `l` passes one of the tests `ls` that together cover `l` -/
theorem isStart_cover {tag : Tag} {l : List String} {ls : List (List String)} (h : tag.isStart l = true)
    (hc : ∀ a ∈ l, ∃ l' ∈ ls, a ∈ l') : ∃ l' ∈ ls, tag.isStart l' = true := by
  obtain ⟨a, ha, hn, hk⟩ := name_of_isStart h
  obtain ⟨l', hl', hal⟩ := hc a ha
  refine ⟨l', hl', ?_⟩
  unfold Tag.isStart isOneOf
  simp only [Bool.and_eq_true, beq_iff_eq, List.any_eq_true]
  exact ⟨hk, a, hal, hn.symm⟩

theorem isEnd_false_of_isStart {tag : Tag} {l l' : List String} (h : tag.isStart l = true) : tag.isEnd l' = false := by
  unfold Tag.isStart at h
  unfold Tag.isEnd
  simp only [Bool.and_eq_true, beq_iff_eq] at h
  rw [h.1]; rfl

/-- a token that the InHead rules answer without leaving the mode: the special arms do not apply -/
theorem head_not_special {tok : Token} {s s' : State} {res : ProcessResult} (h : HeadSpecial tok s s' res)
    (hcls : (∃ text, tok = .chars .whitespace text) ∨ (∃ text, tok = .comment text) ∨
      ∃ tag, tok = .tag tag ∧ tag.isStart ["basefont", "bgsound", "link", "meta", "noframes", "style"] = true) : False := by
  cases h with
  | split text h1 _ _ =>
    rcases hcls with ⟨t, h⟩ | ⟨t, h⟩ | ⟨t, h, _⟩ <;> (rw [h] at h1; cases h1)
  | noscript tag h1 h2 h3 _ =>
    rcases hcls with ⟨t, h⟩ | ⟨t, h⟩ | ⟨t, h, hs⟩
    · rw [h] at h1; cases h1
    · rw [h] at h1; cases h1
    · rw [h] at h1; cases h1
      obtain ⟨a, ha, hn, _⟩ := name_of_isStart hs
      unfold isName at h3
      have h3' := beq_iff_eq.mp h3
      rw [hn] at h3'
      have : a = "noscript" := String.ext h3'.symm
      subst this
      simp [lit_name] at ha
  | endHead tag h1 h2 _ =>
    rcases hcls with ⟨t, h⟩ | ⟨t, h⟩ | ⟨t, h, hs⟩
    · rw [h] at h1; cases h1
    · rw [h] at h1; cases h1
    · rw [h] at h1; cases h1
      rw [isEnd_false_of_isStart hs] at h2; cases h2
  | anyElse h1 h2 h3 _ =>
    rcases hcls with ⟨t, h⟩ | ⟨t, h⟩ | ⟨t, h, hs⟩
    · exact h2 t h
    · exact h3 t h
    · have := (h1 t h).1
      unfold isHeadInsertTag at this
      simp only [Bool.or_eq_false_iff] at this
      obtain ⟨a, ha, hn, hk⟩ := name_of_isStart hs
      have mk : ∀ l : List String, a ∈ l → t.isStart l = true := fun l hl => by
        unfold Tag.isStart isOneOf
        simp only [Bool.and_eq_true, beq_iff_eq, List.any_eq_true]
        exact ⟨hk, a, hl, hn.symm⟩
      have hA := this.1.1.1
      have hC := this.1.2
      simp only [List.mem_cons, List.not_mem_nil, or_false] at ha
      rcases ha with rfl | rfl | rfl | rfl | rfl | rfl
      · rw [mk _ (by simp [lit_name])] at hA; cases hA
      · rw [mk _ (by simp [lit_name])] at hA; cases hA
      · rw [mk _ (by simp [lit_name])] at hA; cases hA
      · rw [mk _ (by simp [lit_name])] at hA; cases hA
      · rw [mk _ (by simp [lit_name])] at hC; cases hC
      · rw [mk _ (by simp [lit_name])] at hC; cases hC
  | tmpl tag h1 h2 =>
    rcases hcls with ⟨t, h⟩ | ⟨t, h⟩ | ⟨t, h, hs⟩
    · rw [h] at h1; cases h1
    · rw [h] at h1; cases h1
    · rw [h] at h1; cases h1
      rcases h2 with h2 | h2
      · rw [isStart_name hs (by simp [lit_name])] at h2; cases h2
      · rw [isEnd_false_of_isStart hs] at h2; cases h2


/-! ### InHeadNoscript -/

theorem modeOk_inHeadNoscript : ModeOk .inHeadNoscript := by
  intro tok ht r s res s' hg hm e
  obtain ⟨up, ph, hs, _⟩ := id hg
  have hf := hs.fits
  unfold FitsM at hf
  rw [hm] at hf
  obtain ⟨h, x, hh, rfl, rfl, hxn⟩ : ∃ h x, s.headElem = some h ∧ up = [h, x] ∧ ph = .p1 ∧ nm s.dom x = hN "noscript" := hf
  have hc := hs.core
  have hfit : Fits s.dom s.headElem .inHeadNoscript [h, x] .p1 := ⟨h, x, hh, rfl, rfl, hxn⟩
  have hi : Inner s r x :=
    ⟨by rw [hc.stack]; rfl, hc.up_ne_root (by simp), by rw [hxn]; decide, by rw [hxn]; decide⟩
  have e' : stepInHeadNoscript tok s = .ok (res, s') := e
  unfold stepInHeadNoscript at e'
  -- delegation to the InHead rules
  have deleg : (∃ text, tok = .chars .whitespace text) ∨ (∃ text, tok = .comment text) ∨
      (∃ tag, tok = .tag tag ∧ tag.isStart ["basefont", "bgsound", "link", "meta", "noframes", "style"] = true) →
      stepInHead tok s = .ok (res, s') → Out r s' res := by
    intro hcls e0
    rcases stepInHead_cases hc hi e0 with ho | hsp
    · exact ho.good hm (by decide) (by decide) hfit
    · exact (head_not_special hsp hcls).elim
  -- "anything else"
  have anyElse : ∀ t : Token, TokW t →
      (unexpected >>= fun _ => pop >>= fun _ => pure (ProcessResult.reprocess .inHead t)) s = .ok (res, s') →
      Out r s' res := by
    intro t htw e0
    obtain ⟨_, s1, e1, e2⟩ := bind_ok.mp e0
    have q1 := (qs_unexpected e1).1
    obtain ⟨y, s2, e3, e4⟩ := bind_ok.mp e2
    obtain ⟨rfl, rfl⟩ := pure_ok.mp e4
    have p2 := pop_sem e3
    have hc1 := hc.qs q1
    have hy : y = x := by
      have := p2.stack
      rw [hc1.stack, show [r, h, x] = [r, h] ++ [x] from rfl] at this
      obtain ⟨_, hz⟩ := List.append_inj' this rfl
      simpa using hz.symm
    subst hy
    have hc2 : Core s2 r [h] .p1 := hc1.pr p2 rfl
    refine ⟨Good.mk' ⟨hc2.modes rfl hc2.late.ml.orig, ?_⟩, htw⟩
    show FitsM { s2 with mode := .inHead } [h] .p1
    unfold FitsM
    exact ⟨h, by show s2.headElem = _; rw [p2.rest, q1.rest]; exact hh, rfl, rfl⟩
  cases tok with
  | chars st text =>
    cases st with
    | notSplit => dsimp only at e'; obtain ⟨rfl, rfl⟩ := pure_ok.mp e'; exact hg
    | whitespace => dsimp only at e'; exact deleg (Or.inl ⟨text, rfl⟩) e'
    | notWhitespace => dsimp only at e'; exact anyElse _ ht e'
  | comment text => dsimp only at e'; exact deleg (Or.inr (Or.inl ⟨text, rfl⟩)) e'
  | eof => dsimp only at e'; exact anyElse _ ht e'
  | nullChar => dsimp only at e'; exact anyElse _ ht e'
  | tag tag =>
    dsimp only at e'
    rcases ite_run e' with ⟨h1, e'⟩ | ⟨h1, e'⟩
    · rw [stepInBody_html h1] at e'
      rw [done_of_inBodyHtml e']
      exact (hg.ps e').1
    · rcases ite_run e' with ⟨h2, e'⟩ | ⟨h2, e'⟩
      · -- </noscript>
        obtain ⟨y, s1, e1, e2⟩ := bind_ok.mp e'
        obtain ⟨_, s2, e3, e4⟩ := bind_ok.mp e2
        obtain ⟨rfl, rfl⟩ := pure_ok.mp e4
        have p1 := pop_sem e1
        have hy : y = x := by
          have := p1.stack
          rw [hc.stack, show [r, h, x] = [r, h] ++ [x] from rfl] at this
          obtain ⟨_, hz⟩ := List.append_inj' this rfl
          simpa using hz.symm
        subst hy
        have hc1 : Core s1 r [h] .p1 := hc.pr p1 rfl
        rw [modS_ok.mp e3]
        refine Good.mk' ⟨hc1.modes rfl hc1.late.ml.orig, ?_⟩
        show FitsM { s1 with mode := .inHead } [h] .p1
        unfold FitsM
        exact ⟨h, by show s1.headElem = _; rw [p1.rest]; exact hh, rfl, rfl⟩
      · rcases ite_run e' with ⟨h3, e'⟩ | ⟨h3, e'⟩
        · exact deleg (Or.inr (Or.inr ⟨tag, rfl, h3⟩)) e'
        · rcases ite_run e' with ⟨h4, e'⟩ | ⟨h4, e'⟩
          · exact anyElse _ ht e'
          · rcases ite_run e' with ⟨h5, e'⟩ | ⟨h5, e'⟩
            · obtain ⟨q, rfl⟩ := qs_unexpected e'
              exact hg.qs q
            · exact anyElse _ ht e'


/-! ### AfterHead -/

/-- the head element is pushed back on the stack (for the head-only start tags) -/
theorem Core.pushHead {s : State} {r h : Id} (hc : Core s r [] .p1) (hh : s.headElem = some h) :
    Core { s with openElems := s.openElems ++ [h] } r [h] .p1 ∧ nm s.dom h = hN "head" := by
  have hhn : nm s.dom h = hN "head" := by
    obtain ⟨h', e1, _, e3⟩ := hc.elems; rw [hh] at e1; cases e1; exact e3
  obtain ⟨hel, hnd⟩ := hc.late.st.head h hh
  have hst : s.openElems = [r] := hc.stack
  have hne : h ≠ r := by
    rintro rfl
    rw [hc.root_name] at hhn; simp [lit_name] at hhn
  have hadj : AdjD s.dom (s.openElems ++ [h]) := by
    have hhr : h ∈ s.dom.childrenOf r := by
      obtain ⟨h', e1, e2, _⟩ := hc.elems
      rw [hh] at e1; cases e1
      exact (mem_rootElems (by rw [e2]; simp)).1
    have hph : s.dom.parentOf h = some r := hc.adj.lk r h hhr
    have hpr : s.dom.parentOf r = some 0 := hc.adj.lk 0 r hc.rdoc
    have hrel : s.dom.isElement r = true := hc.late.st.oe r hc.root_mem
    refine hc.adj.push (fun hx => ?_) (fun hm => ?_) (fun e he heO => ?_) (fun tc e htc he heO => ?_) (fun hn => ?_)
    · rw [hhn] at hx; exact absurd hx (by decide)
    · have := hc.adj.lk h h hm
      rw [hph] at this; exact hne (Option.some.inj this).symm
    · rw [hst] at heO
      have : e = r := by simpa using heO
      subst this
      have := hc.adj.lk h e he
      rw [hpr] at this
      exact ne_zero_of_isElement hc.late.base hel (Option.some.inj this).symm
    · obtain ⟨t0, tdoc⟩ := hc.late.base.tcOk h tc htc
      rw [hst] at heO
      have : e = r ∨ e = h := by simpa using heO
      rcases this with rfl | rfl
      · have := hc.adj.lk tc e he
        rw [hpr] at this
        exact t0 (Option.some.inj this).symm
      · have := hc.adj.lk tc e he
        rw [hph] at this
        have : r = tc := Option.some.inj this
        subst this
        unfold Dom.isElement at hrel; rw [tdoc] at hrel; cases hrel
    · rw [hhn] at hn; exact absurd hn (by simp [lit_name])
  refine ⟨⟨hc.late.push ⟨hel, hnd⟩, by show s.openElems ++ [h] = _; rw [hst]; rfl, hc.rdoc, ?_, ?_, hc.afn, ?_, hc.tmm,
    hc.form, hc.rtu, hc.rnd, hc.kids, hc.elems, (by intro y hy; cases hy), hc.afx, hadj⟩, hhn⟩
  · show (s.openElems ++ [h]).Nodup
    rw [hst]; simp; exact Ne.symm hne
  · show TG (nm s.dom) (s.openElems ++ [h])
    rw [hst]
    intro pre x y post hs
    have : pre = [] ∧ x = r ∧ y = h ∧ post = [] := by
      cases pre with
      | nil => simp at hs; exact ⟨rfl, hs.1.symm, hs.2.1.symm, hs.2.2⟩
      | cons a t => cases t <;> simp at hs
    obtain ⟨_, rfl, rfl, _⟩ := this
    rw [hhn]; exact predOk_of_not_constrained (by simp [lit_name])
  · show tcount s.dom (s.openElems ++ [h]) ≤ _
    rw [hst]
    unfold tcount
    have h1 : (nm s.dom r == hN "template") = false := by rw [hc.root_name]; simp [lit_name]
    have h2 : (nm s.dom h == hN "template") = false := by rw [hhn]; simp [lit_name]
    simp [h1, h2]

/-- removing the first element above the root: the stack `r a b…` becomes `r b…` -/
theorem Core.dropSecond {s s' : State} {r a : Id} {rest : List Id} {ph : Phase} (hc : Core s r (a :: rest) ph)
    (hse : SE s s') (hst : s'.openElems = r :: rest)
    (hrest : ∀ b ∈ rest, constrained (nm s.dom b) = false)
    (hbh : ∀ y ∈ rest.tail, htmlIn (nm s.dom y) (bhNames ph) = false) :
    Core s' r rest ph := by
  have hr := hse.rest
  have hk : ∀ y, s'.dom.childrenOf y = s.dom.childrenOf y := childrenOf_of_nodes hse.nodes
  have hnm : ∀ y, nm s'.dom y = nm s.dom y := nm_of_nodes hse.nodes
  have hel : ∀ y, s'.dom.isElement y = s.dom.isElement y := isElement_of_nodes hse.nodes
  have hdata : ∀ y, s'.dom.dataOf y = s.dom.dataOf y := fun y => by unfold Dom.dataOf; rw [hse.nodes]
  have hsub : (r :: rest).Sublist s.openElems := by
    rw [hc.stack]; exact List.Sublist.cons₂ _ (List.sublist_cons_self _ _)
  have hl : Late s' := by
    refine hc.late.qrel ⟨SameSk.of_nodes hse.nodes, by rw [hst]; exact hsub, ?_, ?_, ?_, ?_, ?_, ?_, ?_, ?_⟩ ⟨?_, ?_, ?_⟩
    · rw [hr]
    · rw [hr]
    · rw [hr]
    · rw [hr]
    · rw [hr]
    · intro x t hx; rw [hr] at hx; exact hx
    · left; rw [hr]
    · intro hx; rw [hr] at hx; exact hx
    · rw [hr]; exact hc.late.ml.mode
    · rw [hr]; exact hc.late.ml.orig
    · rw [hr]; exact hc.late.ml.tm
  refine ⟨hl, hst, by rw [hk]; exact hc.rdoc, by rw [hst]; exact hsub.nodup hc.nodup, ?_, ?_, ?_, ?_, ?_,
    (RS.of_nodes hse.nodes).uniq hc.rtu, by rw [hk]; exact hc.rnd, ?_, ?_, ?_,
    (by have haf : s'.activeFormatting = s.activeFormatting := by rw [hr]
        rw [haf]; exact hc.afx.of_nodes hse.nodes),
    (by rw [hst]; exact (hc.adj.of_nodes hse.nodes).sub hc.nodup hsub)⟩
  · rw [hst]
    have h1 : TG (nm s.dom) [r] := TG.single _ _
    have : TG (nm s.dom) ([r] ++ rest) := h1.append_dis hrest
    exact this.congr (fun y _ => hnm y)
  · intro x t hx
    rw [hr] at hx
    obtain ⟨h1, h2, h3⟩ := hc.afn x t hx
    exact ⟨h1, by rw [hnm]; exact h2, by rw [hel]; exact h3⟩
  · have h1 : s'.templateModes = s.templateModes := by rw [hr]
    rw [h1, hst]
    refine Nat.le_trans ?_ hc.tc
    unfold tcount
    have : (fun y => nm s'.dom y == hN "template") = (fun y => nm s.dom y == hN "template") := by
      funext y; rw [hnm]
    rw [this]
    exact List.Sublist.countP_le hsub
  · intro md hm; rw [hr] at hm; exact hc.tmm md hm
  · intro f hf
    rw [hr] at hf
    obtain ⟨h1, h2⟩ := hc.form f hf
    exact ⟨by rw [hnm]; exact h1, by rw [hel]; exact h2⟩
  · intro c hcm
    rw [hk] at hcm
    rcases hc.kids c hcm with h1 | ⟨t, h1⟩ | ⟨t, h1, h2⟩
    · exact Or.inl (by rw [hel]; exact h1)
    · exact Or.inr (Or.inl ⟨t, by rw [hdata]; exact h1⟩)
    · exact Or.inr (Or.inr ⟨t, by rw [hdata]; exact h1, h2⟩)
  · have hhead : s'.headElem = s.headElem := by rw [hr]
    rw [hhead]
    exact hc.elems.congr hc.late.base (SameSk.of_nodes hse.nodes).chg (hk r)
  · intro y hy; rw [hnm]; exact hbh y hy


/-- fields outside the invariant may change -/
theorem Core.free {s s' : State} {r : Id} {up : List Id} {ph : Phase} (hc : Core s r up ph)
    (h1 : s'.dom = s.dom) (h2 : s'.openElems = s.openElems) (h3 : s'.headElem = s.headElem)
    (h4 : s'.docHandle = s.docHandle) (h5 : s'.contextElem = s.contextElem)
    (h6 : s'.pendingTableText = s.pendingTableText) (h7 : s'.mode = s.mode) (h8 : s'.origMode = s.origMode)
    (h9 : s'.templateModes = s.templateModes) (h10 : s'.activeFormatting = s.activeFormatting)
    (h11 : s'.formElem = s.formElem) : Core s' r up ph := by
  have hl : Late s' := hc.late.free h1 h2 h3 h4 h5 h6 h7 h8 h9
  exact ⟨hl, by rw [h2]; exact hc.stack, by rw [h1]; exact hc.rdoc, by rw [h2]; exact hc.nodup,
    by rw [h1, h2]; exact hc.tg, by rw [h1, h10]; exact hc.afn, by rw [h1, h2, h9]; exact hc.tc, by rw [h9]; exact hc.tmm,
    by rw [h1, h11]; exact hc.form, by rw [h1]; exact hc.rtu, by rw [h1]; exact hc.rnd, by rw [h1]; exact hc.kids,
    by rw [h1, h3]; exact hc.elems, by rw [h1]; exact hc.bh, by rw [h1, h10]; exact hc.afx,
    by rw [h1, h2]; exact hc.adj⟩

/-- `body` (or `frameset`) is inserted below the root in AfterHead -/
theorem afterHead_insert {s s1 : State} {r el h0 : Id} {name : Str} {attrs : List Attr} {dup : Bool}
    (hc : Core s r [] .p1) (hh : s.headElem = some h0)
    (hcon : constrained ⟨nsHtml, name⟩ = false) (hnt : (⟨nsHtml, name⟩ : EName) ≠ hN "template")
    (hnfm : isFmtE ⟨nsHtml, name⟩ = false)
    (e : insertElement true nsHtml name attrs dup s = .ok (el, s1)) :
    s1.headElem = some h0 ∧ s1.openElems = [r, el] ∧ nm s1.dom el = ⟨nsHtml, name⟩ ∧ h0 ≠ el ∧
      s1.mode = s.mode ∧ s1.origMode = s.origMode ∧
      ∀ ph', (∀ d', nm d' h0 = hN "head" → nm d' el = ⟨nsHtml, name⟩ → rootElems d' r = [h0, el] →
          ElemsOk d' (some h0) r ph') → Core s1 r [el] ph' := by
  obtain ⟨hl, hnf, hntm⟩ := root_last hc
  obtain ⟨s5, hs1, hres⟩ := insertElement_res hc hl hnf hntm e
  simp only [if_true] at hs1
  obtain ⟨hre, hnmo, hcore⟩ := hc.insRoot hres hcon hnt
  obtain ⟨f1, f2, f3, f4, _⟩ := hres.fields
  obtain ⟨h', e1, e2, e3⟩ := hc.elems
  rw [hh] at e1; cases e1
  have hh0e : s.dom.isElement h0 = true := (hc.late.st.head h0 hh).1
  have hne : h0 ≠ el := fun h => by
    have := lt_of_isElement hh0e
    rw [h] at this
    exact Nat.lt_irrefl _ (Nat.lt_of_lt_of_le this hres.fresh)
  have hst : s.openElems = [r] := hc.stack
  refine ⟨by rw [hs1]; show s5.headElem = _; rw [f2]; exact hh,
    by rw [hs1]; show s5.openElems ++ [el] = _; rw [f1, hst]; rfl, by rw [hs1]; exact hres.nmel, hne,
    by rw [hs1]; exact f3, by rw [hs1]; exact f4, fun ph' he => ?_⟩
  have := hcore ph' s5.headElem (fun x hx => hres.late.st.head x hx)
    (by
      rw [f2, hh]
      exact he s5.dom (by rw [hnmo h0 (lt_of_isElement hh0e)]; exact e3) hres.nmel (by rw [hre, e2]; rfl))
    (by
      intro x hx hf
      exfalso
      rw [hre, e2] at hx
      simp only [List.cons_append, List.nil_append, List.mem_cons, List.not_mem_nil, or_false] at hx
      rcases hx with rfl | rfl
      · rw [hnmo x (lt_of_isElement hh0e), e3] at hf; simp [lit_name] at hf
      · rw [hres.nmel, hnfm] at hf; cases hf)
  rw [hs1]
  exact this


theorem removeSecond {s s' : State} {r a : Id} {rest : List Id} {ph : Phase} {u : Unit}
    (hc : Core s r (a :: rest) ph) (e : H5V.Model.HtmlTB.removeFromStack a s = .ok (u, s')) :
    SE s s' ∧ s'.openElems = r :: rest := by
  obtain ⟨hse, hcase⟩ := removeFromStack_sem e
  refine ⟨hse, ?_⟩
  rcases hcase with ⟨_, hn⟩ | ⟨pos, hget, _, hst⟩
  · exact absurd (by rw [hc.stack]; simp) hn
  · have h1 : s.openElems[1]? = some a := by rw [hc.stack]; rfl
    have hlt : pos < s.openElems.length := by
      rcases Nat.lt_or_ge pos s.openElems.length with h | h
      · exact h
      · rw [List.getElem?_eq_none h] at hget; cases hget
    have : pos = 1 := (List.getElem?_inj hlt hc.nodup).mp (hget.trans h1.symm)
    subst this
    rw [hst, hc.stack]; rfl

/-- the template arms of the InHead rules as AfterHead uses them: with the `head` element pushed back
(start tag; it is removed again afterwards), or directly (end tag) -/
structure TmplAfterHead : Prop where
  start : ∀ (tag : Tag) (r h0 : Id) (s : State) (res : ProcessResult) (s' s'' : State) (u : Unit),
    Core s r [h0] .p1 → s.headElem = some h0 → s.mode = .afterHead → tag.isStart ["template"] = true →
    stepInHead (.tag tag) s = .ok (res, s') → H5V.Model.HtmlTB.removeFromStack h0 s' = .ok (u, s'') → Out r s'' res
  end_ : ∀ (tag : Tag) (r : Id) (s : State) (res : ProcessResult) (s' : State),
    Good r s → s.mode = .afterHead → tag.isEnd ["template"] = true →
    stepInHead (.tag tag) s = .ok (res, s') → Out r s' res

theorem modeOk_afterHead (T : TmplAfterHead) : ModeOk .afterHead := by
  intro tok ht r s res s' hg hm e
  obtain ⟨up, ph, hs, _⟩ := id hg
  have hf := hs.fits
  unfold FitsM at hf
  rw [hm] at hf
  obtain ⟨rfl, rfl⟩ : up = [] ∧ ph = .p1 := hf
  have hc := hs.core
  obtain ⟨h0, hh, hre, hhn⟩ := hc.elems
  obtain ⟨hl, hnf, hnt⟩ := root_last hc
  have e' : stepAfterHead tok s = .ok (res, s') := e
  unfold stepAfterHead at e'
  -- the body element goes below the root
  have body_core : ∀ {s1 : State} {el : Id} {attrs : List Attr} {dup : Bool},
      insertElement true nsHtml "body".toList attrs dup s = .ok (el, s1) →
      Core s1 r [el] (.pb el) ∧ s1.headElem = some h0 ∧ h0 ≠ el ∧ s1.mode = s.mode := by
    intro s1 el attrs dup e1
    obtain ⟨a1, a2, a3, a4, a5, a6, a7⟩ := afterHead_insert hc hh (by decide) (by decide) (by decide) e1
    exact ⟨a7 (.pb el) (fun d' h1 h2 h3 => ⟨h0, rfl, h3, h1, h2⟩), a1, a4, a5⟩
  have anyElse : ∀ t : Token, TokW t →
      (insertPhantom "body" >>= fun _ => pure (ProcessResult.reprocess .inBody t)) s = .ok (res, s') → Out r s' res := by
    intro t htw e0
    obtain ⟨el, s1, e1, e2⟩ := bind_ok.mp e0
    obtain ⟨rfl, rfl⟩ := pure_ok.mp e2
    obtain ⟨hc1, hh1, hne, hm1⟩ := body_core e1
    refine ⟨Good.mk' ⟨hc1.modes rfl hc1.late.ml.orig, ?_⟩, htw⟩
    show FitsM { s1 with mode := .inBody } [el] (.pb el)
    unfold FitsM
    exact ⟨Or.inl ⟨el, [], rfl, rfl, fun h hh' => by
      have : s1.headElem = some h := hh'
      rw [hh1] at this; cases this; simpa using hne⟩, trivial⟩
  cases tok with
  | chars st text =>
    cases st with
    | notSplit => dsimp only at e'; obtain ⟨rfl, rfl⟩ := pure_ok.mp e'; exact hg
    | whitespace =>
      dsimp only at e'
      obtain ⟨h1, rfl, _⟩ := appendText_shape hs hl hnf hnt (ht.ne _ _ rfl) (fun _ => ht.ws text rfl) e'
      exact Good.mk' h1
    | notWhitespace => dsimp only at e'; exact anyElse _ ht e'
  | comment text =>
    dsimp only at e'
    obtain ⟨h1, rfl, _⟩ := appendComment_shape hs hl hnf hnt e'
    exact Good.mk' h1
  | eof => dsimp only at e'; exact anyElse _ ht e'
  | nullChar => dsimp only at e'; exact anyElse _ ht e'
  | tag tag =>
    dsimp only at e'
    rcases ite_run e' with ⟨h1, e'⟩ | ⟨h1, e'⟩
    · rw [stepInBody_html h1] at e'
      rw [done_of_inBodyHtml e']
      exact (hg.ps e').1
    · rcases ite_run e' with ⟨h2, e'⟩ | ⟨h2, e'⟩
      · -- <body>
        obtain ⟨a, ha, hn, _⟩ := name_of_isStart h2
        simp only [List.mem_cons, List.not_mem_nil, or_false] at ha
        subst ha
        obtain ⟨el, s1, e1, e2⟩ := bind_ok.mp e'
        obtain ⟨_, s2, e3, e4⟩ := bind_ok.mp e2
        obtain ⟨_, s3, e5, e6⟩ := bind_ok.mp e4
        obtain ⟨rfl, rfl⟩ := pure_ok.mp e6
        unfold insertElementFor at e1
        rw [hn] at e1
        obtain ⟨hc1, hh1, hne, hm1⟩ := body_core e1
        rw [modS_ok.mp e5, modS_ok.mp e3]
        have hc2 : Core { s1 with framesetOk := false } r [el] (.pb el) :=
          hc1.free rfl rfl rfl rfl rfl rfl rfl rfl rfl rfl rfl
        refine Good.mk' ⟨hc2.modes rfl hc2.late.ml.orig, ?_⟩
        show FitsM { s1 with framesetOk := false, mode := .inBody } [el] (.pb el)
        unfold FitsM
        exact ⟨Or.inl ⟨el, [], rfl, rfl, fun h hh' => by
          have : s1.headElem = some h := hh'
          rw [hh1] at this; cases this; simpa using hne⟩, trivial⟩
      · rcases ite_run e' with ⟨h3, e'⟩ | ⟨h3, e'⟩
        · -- <frameset>
          obtain ⟨a, ha, hn, _⟩ := name_of_isStart h3
          simp only [List.mem_cons, List.not_mem_nil, or_false] at ha
          subst ha
          obtain ⟨el, s1, e1, e2⟩ := bind_ok.mp e'
          obtain ⟨_, s2, e3, e4⟩ := bind_ok.mp e2
          obtain ⟨rfl, rfl⟩ := pure_ok.mp e4
          unfold insertElementFor at e1
          rw [hn] at e1
          obtain ⟨a1, a2, a3, a4, a5, a6, a7⟩ := afterHead_insert hc hh (by decide) (by decide) (by decide) e1
          have hc1 : Core s1 r [el] (.pf el) :=
            a7 (.pf el) (fun d' h1' h2' h3' => ⟨h0, [], rfl, h3', h1', h2', fun x hx => by cases hx⟩)
          rw [modS_ok.mp e3]
          refine Good.mk' ⟨hc1.modes rfl hc1.late.ml.orig, ?_⟩
          show FitsM { s1 with mode := .inFrameset } [el] (.pf el)
          unfold FitsM
          exact ⟨el, [], rfl, rfl, fun x hx => by
            simp only [List.mem_singleton] at hx; subst hx; exact a3⟩
        · rcases ite_run e' with ⟨h4, e'⟩ | ⟨h4, e'⟩
          · -- the head-only start tags: with `head` pushed back
            obtain ⟨_, s1, e1, e2⟩ := bind_ok.mp e'
            have q1 := (qs_unexpected e1).1
            rw [getS_bind] at e2
            have hh1 : s1.headElem = some h0 := by rw [q1.rest]; exact hh
            rw [hh1] at e2
            dsimp only at e2
            obtain ⟨_, s2, e3, e4⟩ := bind_ok.mp e2
            unfold push at e3
            have hs2 := modS_ok.mp e3
            have hc1 := hc.qs q1
            obtain ⟨hc2', hhn1⟩ := hc1.pushHead hh1
            have hc2 : Core s2 r [h0] .p1 := by rw [hs2]; exact hc2'
            have hi2 : Inner s2 r h0 := inner_head hc2 (by rw [hs2]; exact hhn1)
            have hh2 : s2.headElem = some h0 := by rw [hs2]; exact hh1
            have hm2 : s2.mode = .afterHead := by rw [hs2]; show s1.mode = _; rw [q1.mode]; exact hm
            obtain ⟨result, s3, e5, e6⟩ := bind_ok.mp e4
            obtain ⟨_, s4, e7, e8⟩ := bind_ok.mp e6
            obtain ⟨rfl, rfl⟩ := pure_ok.mp e8
            by_cases htm : tag.isStart ["template"] = true
            · exact T.start tag r h0 s2 _ s3 _ _ hc2 hh2 hm2 htm e5 e7
            · rcases stepInHead_cases hc2 hi2 e5 with ho | hsp
              · cases ho with
                | same hc3 hsn hhd hmd hod hoe hnr =>
                  obtain ⟨hse, hst4⟩ := removeSecond hc3 e7
                  have hc4 : Core s4 r [] .p1 := hc3.dropSecond hse hst4 (by intro b hb; cases hb) (by intro y hy; cases hy)
                  refine Out.of_good (Good.mk' ⟨hc4, ?_⟩) hnr
                  have hm4 : s4.mode = .afterHead := by rw [hse.rest]; show s3.mode = _; rw [hmd]; exact hm2
                  exact fitsM_of_fits (om := .afterHead) (by decide) (by decide) hm4 ⟨rfl, rfl⟩
                | text el hc3 hsn hhd hmd hod hoe hx hnr =>
                  obtain ⟨hse, hst4⟩ := removeSecond hc3 e7
                  have hc4 : Core s4 r [el] .p1 := hc3.dropSecond hse hst4
                    (by intro b hb
                        have hb' : b = el := by simpa using hb
                        subst hb'
                        exact constrained_of_keepName_false hx.1)
                    (by intro y hy; cases hy)
                  refine Out.of_good (Good.mk' ⟨hc4, ?_⟩) hnr
                  unfold FitsM
                  have hm4 : s4.mode = .text := by rw [hse.rest]; exact hmd
                  have ho4 : s4.origMode = some .afterHead := by rw [hse.rest]; show s3.origMode = _; rw [hod, hm2]
                  rw [hm4]
                  exact ⟨.afterHead, [], el, ho4, rfl, by simp [lit_name], by simp [lit_name], ⟨rfl, rfl⟩,
                    by rw [hse.nm]; exact not_in_of_keepName_false hx.1 (by simp [lit_name]), by rw [hse.nm]; exact hx.2⟩
              · exfalso
                cases hsp with
                | split text h1' _ _ => cases h1'
                | noscript tg h1' h2' h3' _ =>
                  cases h1'
                  obtain ⟨a, ha, hn, _⟩ := name_of_isStart h4
                  unfold isName at h3'
                  have h3'' := beq_iff_eq.mp h3'
                  rw [hn] at h3''
                  have : a = "noscript" := String.ext h3''.symm
                  subst this
                  simp [lit_name] at ha
                | endHead tg h1' h2' _ =>
                  cases h1'
                  rw [isEnd_false_of_isStart h4] at h2'; cases h2'
                | anyElse h1' _ _ _ =>
                  have := (h1' tag rfl).1
                  unfold isHeadInsertTag at this
                  simp only [Bool.or_eq_false_iff] at this
                  obtain ⟨a, ha, hn, hk⟩ := name_of_isStart h4
                  have mk : ∀ l : List String, a ∈ l → tag.isStart l = true := fun l hl => by
                    unfold Tag.isStart isOneOf
                    simp only [Bool.and_eq_true, beq_iff_eq, List.any_eq_true]
                    exact ⟨hk, a, hl, hn.symm⟩
                  have hA := this.1.1.1
                  have hB := this.1.1.2
                  have hC := this.1.2
                  have hD := this.2
                  simp only [List.mem_cons, List.not_mem_nil, or_false] at ha
                  rcases ha with rfl | rfl | rfl | rfl | rfl | rfl | rfl | rfl | rfl | rfl
                  · rw [mk _ (by simp [lit_name])] at hA; cases hA
                  · rw [mk _ (by simp [lit_name])] at hA; cases hA
                  · rw [mk _ (by simp [lit_name])] at hA; cases hA
                  · rw [mk _ (by simp [lit_name])] at hA; cases hA
                  · rw [mk _ (by simp [lit_name])] at hA; cases hA
                  · rw [mk _ (by simp [lit_name])] at hC; cases hC
                  · rw [mk _ (by simp [lit_name])] at hD; cases hD
                  · rw [mk _ (by simp [lit_name])] at hC; cases hC
                  · exact htm (mk _ (by simp [lit_name]))
                  · rw [mk _ (by simp [lit_name])] at hB; cases hB
                | tmpl tg h1' h2' =>
                  cases h1'
                  rcases h2' with h2' | h2'
                  · exact htm h2'
                  · rw [isEnd_false_of_isStart h4] at h2'; cases h2'
          · rcases ite_run e' with ⟨h5, e'⟩ | ⟨h5, e'⟩
            · exact T.end_ tag r s res s' hg hm h5 e'
            · rcases ite_run e' with ⟨h6, e'⟩ | ⟨h6, e'⟩
              · exact anyElse _ ht e'
              · rcases ite_run e' with ⟨h7, e'⟩ | ⟨h7, e'⟩
                · obtain ⟨q, rfl⟩ := qs_unexpected e'
                  exact hg.qs q
                · exact anyElse _ ht e'

end H5V.Props.C06
