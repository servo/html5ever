import H5V.Model.XmlTB
import H5V.Model.XmlSer
import H5V.Lemmas.XmlTB
import H5V.Lemmas.XmlSer
import H5V.Lemmas.XmlSerFixed
import H5V.Lemmas.XmlShapeSer
/-!
C17 — XML serializer output re-parses to the same namespaced tree.
-/
namespace H5V.Props.C17
open H5V.Model.XmlTB H5V.Model.XmlSer H5V.Lemmas.XmlTB H5V.Lemmas.XmlSer H5V.Lemmas.XmlSerFixed

/-! ## 1. escaping is reversible -/

/-- decoding the references undoes `write_to_buf_escaped`, text and attribute mode, every string -/
theorem C17_unescape_escape (cfg : SerCfg) (attrMode : Bool) (s : Str) :
    unescape (escape cfg attrMode s) = s := unescape_escape cfg attrMode s

/-- escaped character data contains no `<`, an escaped attribute value no `"`: the lexer cannot
leave the text / the quoted value early -/
theorem C17_escape_delimiters (cfg : SerCfg) (s : Str) :
    '<' ∉ escape cfg false s ∧ '"' ∉ escape cfg true s := by
  constructor
  · intro h; obtain ⟨c, _, hc⟩ := mem_escape cfg false '<' s h; exact escapeChar_text_no_lt cfg c hc
  · intro h; obtain ⟨c, _, hc⟩ := mem_escape cfg true '"' s h; exact escapeChar_attr_no_quote cfg c hc

/-- text comes back unchanged through newline normalisation + reference decoding — `_partial`:
provided it contains no U+000D (or the serializer escapes it, `SerCfg.escapeCR`).
Full statement: for every `s`; false on the pinned tree: `C17_witness_cr`. -/
theorem C17_text_roundtrip_partial (cfg : SerCfg) (s : Str) (h : '\r' ∉ s ∨ cfg.escapeCR = true) :
    lexText (escape cfg false s) = s := lexText_escape cfg s h

/-- attribute values come back unchanged — as long as the tokenizer does not normalise CR inside
attribute values (pinned tree, DESIGN item 12), else under the same proviso as text -/
theorem C17_attr_roundtrip_partial (cfg : SerCfg) (lcfg : LexCfg) (s : Str)
    (h : lcfg.attrCRNormalised = false ∨ '\r' ∉ s ∨ cfg.escapeCR = true) :
    lexAttrValue lcfg (escape cfg true s) = s := by
  unfold lexAttrValue
  rcases h with h | h
  · simp [h, unescape_escape]
  · split
    · rw [normalize_noCR _ (escape_noCR cfg true s h), unescape_escape]
    · exact unescape_escape cfg true s

/-- witness of item 15c: a text node `"\r"` (reachable through `&#13;`) is written raw and read back
as `"\n"`; with `escapeCR` it survives -/
theorem C17_witness_cr :
    lexText (escape SerCfg.code false ['\r']) = ['\n'] ∧
    lexText (escape SerCfg.fixed false ['\r']) = ['\r'] := by
  constructor <;> decide +kernel

/-! ## 2. the round trip on a parsed document -/

/-- what may stand before the root element -/
def isPre : Node → Bool
  | .comment _ | .pi _ _ | .doctype _ _ _ => true
  | _ => false

/-- what may stand after the root element -/
def isMisc : Node → Bool
  | .comment _ | .pi _ _ => true
  | _ => false

/-- doctype ids are outside the serializer API -/
def stripId : Node → Node
  | .doctype n _ _ => .doctype n [] []
  | x => x

/-- the event of a comment / PI / doctype -/
def evOfMisc : Node → Ev
  | .comment s => .comment s
  | .pi t d => .pi t d
  | .doctype n _ _ => .doctype n
  | .text s => .text s
  | .elem n _ _ => .endTag n   -- not used

theorem spells_pre (pre : List Node) (hpre : ∀ x ∈ pre, isPre x = true) (ns : List Node)
    (evs : List Ev) (h : Spells evs (pre ++ ns)) :
    ∃ evs', evs = pre.map evOfMisc ++ evs' ∧ Spells evs' ns := by
  induction pre generalizing evs with
  | nil => exact ⟨evs, rfl, h⟩
  | cons x rest ih =>
    have hx := hpre x (by simp)
    have hr : ∀ y ∈ rest, isPre y = true := fun y hy => hpre y (by simp [hy])
    match x, hx, h with
    | .comment s, _, .comment h' | .pi t d, _, .pi h' | .doctype n p sy, _, .doctype h' =>
      obtain ⟨e, he, hs⟩ := ih hr _ h'; exact ⟨e, by simp [evOfMisc, he], hs⟩

theorem okEvs_pre (scfg : SerCfg) (lcfg : LexCfg) (tcfg : TbCfg) (pst : List NsMap) (pre : List Node)
    (hpre : ∀ x ∈ pre, isPre x = true) (rest : List Ev) :
    okEvs scfg lcfg tcfg pst (pre.map evOfMisc ++ rest) = okEvs scfg lcfg tcfg pst rest := by
  induction pre with
  | nil => rfl
  | cons x xs ih =>
    have hx := hpre x (by simp)
    have hr : ∀ y ∈ xs, isPre y = true := fun y hy => hpre y (by simp [hy])
    match x, hx with
    | .comment s, _ | .pi t d, _ | .doctype n p sy, _ => simpa [evOfMisc, okEvs] using ih hr

theorem optStr_doctype (n : Str) : optStr (if n = [] then none else some n) = n := by
  unfold optStr; split <;> simp_all

/-- what the parser can leave before the root element: comments, PIs and at most one doctype
(`seen` = a doctype has already been appended; /repo commit b61995b) -/
def preOK : Bool → List Node → Prop
  | _, [] => True
  | seen, .doctype _ _ _ :: rest => seen = false ∧ preOK true rest
  | seen, .comment _ :: rest => preOK seen rest
  | seen, .pi _ _ :: rest => preOK seen rest
  | _, .text _ :: _ => False
  | _, .elem _ _ _ :: _ => False

theorem preOK_isPre (seen : Bool) (pre : List Node) (h : preOK seen pre) : ∀ x ∈ pre, isPre x = true := by
  induction pre generalizing seen with
  | nil => intro x hx; cases hx
  | cons y rest ih =>
    intro x hx
    match y, h with
    | .doctype _ _ _, h =>
      rcases List.mem_cons.mp hx with rfl | hx
      · rfl
      · exact ih true h.2 x hx
    | .comment _, h | .pi _ _, h =>
      rcases List.mem_cons.mp hx with rfl | hx
      · rfl
      · exact ih seen h x hx

/-- Start phase: comments, PIs and the doctype before the root go to the document, ids dropped -/
theorem run_pre (scfg : SerCfg) (lcfg : LexCfg) (tcfg : TbCfg) (pre : List Node)
    (s : State) (more : List Token) (hpre : preOK s.doctypeSeen pre)
    (hp : s.phase = .start) (ho : s.opened = []) (hr : s.root = none) :
    ∃ s', run tcfg s ((pre.map evOfMisc).filterMap (lexEv scfg lcfg) ++ more) = run tcfg s' more ∧
      s'.phase = .start ∧ s'.opened = [] ∧ s'.root = none ∧ s'.nsStack = s.nsStack ∧
      s'.docBefore = (pre.map stripId).reverse ++ s.docBefore ∧ s'.docAfter = s.docAfter := by
  induction pre generalizing s with
  | nil => exact ⟨s, rfl, hp, ho, hr, rfl, by simp, rfl⟩
  | cons x xs ih =>
    have hroot : s.hasRoot = false := by simp [State.hasRoot, ho, hr]
    match x, hpre with
    | .comment c, hpre =>
      obtain ⟨s', h', a, b, c', d, e, f⟩ := ih (s.appendDoc (.comment c)) (by simpa [State.appendDoc, hroot, preOK] using hpre)
        (by simp [State.appendDoc, hroot, hp]) (by simp [State.appendDoc, hroot, ho]) (by simp [State.appendDoc, hroot, hr])
      refine ⟨s', ?_, a, b, c', by simpa [State.appendDoc, hroot] using d, ?_, by simpa [State.appendDoc, hroot] using f⟩
      · simp only [List.map_cons, evOfMisc, List.filterMap_cons, lexEv, List.cons_append]
        rw [run_cons]; unfold step; simp only [hp, Except.bind]; exact h'
      · rw [e]; simp [State.appendDoc, hroot, stripId]
    | .pi t d, hpre =>
      obtain ⟨s', h', a, b, c', d', e, f⟩ := ih (s.appendDoc (.pi t d)) (by simpa [State.appendDoc, hroot, preOK] using hpre)
        (by simp [State.appendDoc, hroot, hp]) (by simp [State.appendDoc, hroot, ho]) (by simp [State.appendDoc, hroot, hr])
      refine ⟨s', ?_, a, b, c', by simpa [State.appendDoc, hroot] using d', ?_, by simpa [State.appendDoc, hroot] using f⟩
      · simp only [List.map_cons, evOfMisc, List.filterMap_cons, lexEv, List.cons_append]
        rw [run_cons]; unfold step; simp only [hp, Except.bind]; exact h'
      · rw [e]; simp [State.appendDoc, hroot, stripId]
    | .doctype n p sy, hpre =>
      obtain ⟨hseen, hrest⟩ := hpre
      obtain ⟨s', h', a, b, c', d', e, f⟩ := ih (({ s with doctypeSeen := true } : State).appendDoc (.doctype n [] []))
        (by simpa [State.appendDoc, State.hasRoot, ho, hr] using hrest)
        (by simp [State.appendDoc, State.hasRoot, ho, hr, hp]) (by simp [State.appendDoc, State.hasRoot, ho, hr])
        (by simp [State.appendDoc, State.hasRoot, ho, hr])
      refine ⟨s', ?_, a, b, c', by simpa [State.appendDoc, State.hasRoot, ho, hr] using d', ?_,
        by simpa [State.appendDoc, State.hasRoot, ho, hr] using f⟩
      · simp only [List.map_cons, evOfMisc, List.filterMap_cons, lexEv, List.cons_append]
        rw [run_cons]; unfold step; simp only [hp, hseen, Bool.false_eq_true, ↓reduceIte, Except.bind, optStr_doctype]
        have : optStr none = [] := rfl
        simp only [this]; rw [hp] at h'; exact h'
      · rw [e]; simp [State.appendDoc, State.hasRoot, ho, hr, stripId]

/-- End phase: comments and PIs after the root go to the document -/
theorem run_post (scfg : SerCfg) (lcfg : LexCfg) (tcfg : TbCfg) (post : List Node)
    (hpost : ∀ x ∈ post, isMisc x = true) (s : State) (more : List Token)
    (hp : s.phase = .end_) (hr : s.root.isSome = true) :
    ∃ s', run tcfg s ((post.map evOfMisc).filterMap (lexEv scfg lcfg) ++ more) = run tcfg s' more ∧
      s'.phase = .end_ ∧ s'.root = s.root ∧ s'.opened = s.opened ∧
      s'.docBefore = s.docBefore ∧ s'.docAfter = post.reverse ++ s.docAfter := by
  induction post generalizing s with
  | nil => exact ⟨s, rfl, hp, rfl, rfl, rfl, by simp⟩
  | cons x xs ih =>
    have hx := hpost x (by simp)
    have hrs : ∀ y ∈ xs, isMisc y = true := fun y hy => hpost y (by simp [hy])
    have hroot : s.hasRoot = true := by simp [State.hasRoot, hr]
    match x, hx with
    | .comment c, _ =>
      obtain ⟨s', h', a, b, c', d, e⟩ := ih hrs (s.appendDoc (.comment c)) (by simp [State.appendDoc, hroot, hp])
        (by simp [State.appendDoc, hroot, hr])
      refine ⟨s', ?_, a, by simpa [State.appendDoc, hroot] using b, by simpa [State.appendDoc, hroot] using c',
        by simpa [State.appendDoc, hroot] using d, ?_⟩
      · simp only [List.map_cons, evOfMisc, List.filterMap_cons, lexEv, List.cons_append]
        rw [run_cons]; unfold step; simp only [hp, Except.bind]; exact h'
      · rw [e]; simp [State.appendDoc, hroot]
    | .pi t d, _ =>
      obtain ⟨s', h', a, b, c', d', e⟩ := ih hrs (s.appendDoc (.pi t d)) (by simp [State.appendDoc, hroot, hp])
        (by simp [State.appendDoc, hroot, hr])
      refine ⟨s', ?_, a, by simpa [State.appendDoc, hroot] using b, by simpa [State.appendDoc, hroot] using c',
        by simpa [State.appendDoc, hroot] using d', ?_⟩
      · simp only [List.map_cons, evOfMisc, List.filterMap_cons, lexEv, List.cons_append]
        rw [run_cons]; unfold step; simp only [hp, Except.bind]; exact h'
      · rw [e]; simp [State.appendDoc, hroot]

theorem step_start_root (cfg : TbCfg) (s : State) (nm : RName) (as : List RAttr)
    (hp : s.phase = .start) (ho : s.opened = []) :
    ∃ s', step cfg s (.tag ⟨.start, nm, as⟩) = .ok s' ∧ s'.phase = .main ∧
      s'.opened = [⟨(processNamespaces cfg s.nsStack ⟨.start, nm, as⟩).name,
                    (processNamespaces cfg s.nsStack ⟨.start, nm, as⟩).attrs, []⟩] ∧
      s'.nsStack = (processNamespaces cfg s.nsStack ⟨.start, nm, as⟩).map :: s.nsStack ∧ SameDoc s s' := by
  unfold step
  simp only [hp]
  refine ⟨_, rfl, rfl, by simp [ho], by simp [applyNs_nsStack, pushesMap], ?_⟩
  unfold applyNs; simp only []; split <;> exact ⟨rfl, rfl, rfl⟩

theorem step_main_end_root (cfg : TbCfg) (s : State) (g : Frame) (nm : RName)
    (hp : s.phase = .main) (hs : s.opened = [g])
    (hnm : (processNamespaces cfg s.nsStack ⟨.end_, nm, []⟩).name = g.name) :
    ∃ s', step cfg s (.tag ⟨.end_, nm, []⟩) = .ok s' ∧ s'.phase = .end_ ∧ s'.opened = [] ∧
      s'.root = some g.close ∧ s'.docBefore = s.docBefore ∧ s'.docAfter = s.docAfter := by
  unfold step
  simp only [hp]
  have ho : (applyNs cfg s ⟨.end_, nm, []⟩).1.opened = [g] := by simp [hs]
  rw [closeTag_root _ _ g ho (by simpa using hnm.symm)]
  simp only [Except.map, setEndIfEmpty, List.isEmpty_nil, ↓reduceIte]
  refine ⟨_, rfl, rfl, rfl, rfl, ?_, ?_⟩
  · unfold applyNs; simp only []; split <;> rfl
  · unfold applyNs; simp only []; split <;> rfl

/-- **C17 (round trip)**, `_partial`.  A document as the parser builds it — comments / PIs / at most
one doctype (`preOK`), then the root element, then comments / PIs; element content without doctypes, empty text
or adjacent text nodes, no U+000D in text (`nodesOK`) — is serialized to an event stream; that stream,
lexed (`lexEv`: names split at the colon, references decoded, CR/LF normalised, declarations and
attributes through the tokenizer's duplicate-attribute step) and fed to the tree-builder model, yields
a document with exactly the same children: element and attribute prefixes, namespace URIs and local
names, attribute order and values, text, comments, PIs, nesting (doctype ids dropped) —

PROVIDED every start tag of the output resolves, in the scope of the xmlns declarations written so
far, to the element's own name and attribute list (`okEvs`, a decidable check on the output).

Full statement (the property): no `okEvs` hypothesis, no CR proviso.  It is false on the pinned
tree — `C17_witness_attr_prefix` (15a), `C17_witness_default_undeclared` (15b), `C17_witness_cr`
(15c), `C17_witness_sibling_leak` (15d), `C17_witness_item14` — because the serializer does not write
the declarations `okEvs` asks for.  For the serializer with the fixes (`SerCfg.fixed`, what /repo
does now) `okEvs` is a theorem (`C17_okEvs_fixed`), giving `C17_roundtrip_fixed` without side
condition. -/
theorem C17_roundtrip_partial (scfg : SerCfg) (lcfg : LexCfg) (tcfg : TbCfg)
    (pre post ks : List Node) (n : QName) (as : List Attr)
    (hpre' : preOK false pre) (hpost : ∀ x ∈ post, isMisc x = true)
    (hks : nodesOK scfg false ks)
    (hok : okEvs scfg lcfg tcfg [defaultMap] (serDoc scfg (pre ++ .elem n as ks :: post)) = true) :
    ∃ s, reparse scfg lcfg tcfg (pre ++ .elem n as ks :: post) = .ok s ∧
      s.document = pre.map stripId ++ .elem n as ks :: post := by
  have hpre := preOK_isPre false pre hpre'
  unfold reparse lexAll
  have hsp := serNodes_spells scfg [] (pre ++ .elem n as ks :: post)
  change Spells (serDoc scfg (pre ++ .elem n as ks :: post)) _ at hsp
  generalize serDoc scfg (pre ++ .elem n as ks :: post) = evs at hsp hok
  obtain ⟨evs1, rfl, hsp1⟩ := spells_pre pre hpre _ evs hsp
  rw [okEvs_pre scfg lcfg tcfg _ pre hpre] at hok
  cases hsp1 with
  | @elem _ decls _ kevs _ pevs _ hk hp' =>
    obtain ⟨pevs', rfl, hnil⟩ := spells_pre post (fun x hx => by
      have := hpost x hx; cases x <;> simp_all [isMisc, isPre]) [] pevs (by simpa using hp')
    cases hnil
    simp only [okEvs, Bool.and_eq_true, beq_iff_eq] at hok
    obtain ⟨⟨hbn, hba⟩, hok2⟩ := hok
    rw [okEvs_append scfg lcfg tcfg hk, Bool.and_eq_true] at hok2
    -- prolog
    obtain ⟨s1, h1, hp1, ho1, hr1, hns1, hdb1, hda1⟩ := run_pre scfg lcfg tcfg pre State.init
      ((Ev.startTag n decls as :: (kevs ++ Ev.endTag n :: (post.map evOfMisc ++ []))).filterMap (lexEv scfg lcfg) ++ [.eof])
      hpre' rfl rfl rfl
    -- root start tag
    obtain ⟨s2, h2, hp2, ho2, hns2, hd2⟩ := step_start_root tcfg s1 (splitQName (rawName n))
      (tagOf scfg lcfg n decls as).attrs hp1 ho1
    rw [← tagOf_kind, hns1] at ho2 hns2
    have hinit : State.init.nsStack = [defaultMap] := rfl
    rw [hinit] at ho2 hns2
    rw [hbn, hba] at ho2
    -- content
    obtain ⟨s3, h3, hp3, ho3, hns3, hd3⟩ := run_spells scfg lcfg tcfg hk s2 ⟨n, as, []⟩ []
      (.tag ⟨.end_, splitQName (rawName n), []⟩ :: ((post.map evOfMisc).filterMap (lexEv scfg lcfg) ++ [.eof]))
      hp2 ho2 (by rw [hns2]; exact hok2.1) (by simpa [prevText] using hks)
    -- root end tag
    have hname : (processNamespaces tcfg s3.nsStack ⟨.end_, splitQName (rawName n), []⟩).name = n := by
      rw [hns3, hns2, endTag_name]
      have := processNamespaces_name tcfg [defaultMap] (tagOf scfg lcfg n decls as)
      exact this.symm.trans hbn
    obtain ⟨s4, h4, hp4, ho4, hr4, hdb4, hda4⟩ := step_main_end_root tcfg s3 _ (splitQName (rawName n)) hp3 ho3
      (by rw [hname])
    -- epilog
    obtain ⟨s5, h5, hp5, hr5, ho5, hdb5, hda5⟩ := run_post scfg lcfg tcfg post hpost s4 [.eof] hp4 (by simp [hr4])
    refine ⟨s5, ?_, ?_⟩
    · simp only [List.append_nil, List.filterMap_append, List.filterMap_cons, lexEv, List.cons_append,
        List.append_assoc] at h1 ⊢
      rw [h1, run_cons]
      have : (Token.tag (finishTag lcfg.tok ⟨.start, rawName n,
          decls.map (fun d => ⟨declName d.1, lexAttrValue lcfg (declValue scfg d.2)⟩) ++
          as.map (fun a => ⟨rawName a.name, lexAttrValue lcfg (escape scfg true a.value)⟩)⟩)) =
          .tag ⟨.start, splitQName (rawName n), (tagOf scfg lcfg n decls as).attrs⟩ := rfl
      rw [this, h2]
      simp only [Except.bind]
      rw [h3, run_cons, h4]
      simp only [Except.bind]
      rw [h5, run_cons]
      unfold step
      simp only [hp5, Except.bind]
      rfl
    · unfold State.document
      rw [hr5, hr4, hdb5, hdb4, hd3.docBefore, hd2.docBefore, hdb1, hda5, hda4, hd3.docAfter, hd2.docAfter, hda1]
      simp [State.init, Frame.close]

/-! ## 3. witnesses: where the pinned serializer breaks the round trip -/

def qn (p : Option String) (ns l : String) : QName := ⟨p.map String.toList, ns.toList, l.toList⟩
def el (p : Option String) (ns l : String) (as : List Attr) (ks : List Node) : Node := .elem (qn p ns l) as ks
def at' (p : Option String) (ns l v : String) : Attr := ⟨qn p ns l, v.toList⟩

/-- `<a xmlns:p="u" p:x="1"/>` -/
def docAttrPrefix : List Node := [el none "" "a" [at' (some "p") "u" "x" "1"] []]
/-- `<a xmlns="u"><b xmlns=""/></a>` -/
def docDefaultUndecl : List Node := [el none "u" "a" [] [el none "" "b" [] []]]
/-- `<r><p:a xmlns:p="u"/><p:b xmlns:p="u"/></r>` -/
def docSiblingLeak : List Node := [el none "" "r" [] [el (some "p") "u" "a" [] [], el (some "p") "u" "b" [] []]]
/-- `<p:a p="1" xmlns:p="u"/>` -/
def docItem14 : List Node := [el (some "p") "u" "a" [at' none "" "p" "1"] []]
/-- `<a xmlns='x"y'/>` -/
def docUriQuote : List Node := [el none "x\"y" "a" [] []]

/-- witness 15a: the attribute's prefix is never declared — the re-parsed attribute is in no
namespace; the side condition `okEvs` is false -/
theorem C17_witness_attr_prefix :
    (∃ s, reparse SerCfg.code LexCfg.code TbCfg.code docAttrPrefix = .ok s ∧
      s.document = [el none "" "a" [at' (some "p") "" "x" "1"] []]) ∧
    render SerCfg.code (serDoc SerCfg.code docAttrPrefix) = "<a p:x=\"1\"></a>".toList ∧
    okEvs SerCfg.code LexCfg.code TbCfg.code [defaultMap] (serDoc SerCfg.code docAttrPrefix) = false :=
  ⟨Lemmas.XmlRT.docIsB_sound (by decide +kernel), by decide +kernel, by decide +kernel⟩

/-- witness 15b: `xmlns=""` is never written — the child lands in the parent's default namespace -/
theorem C17_witness_default_undeclared :
    (∃ s, reparse SerCfg.code LexCfg.code TbCfg.code docDefaultUndecl = .ok s ∧
      s.document = [el none "u" "a" [] [el none "u" "b" [] []]]) ∧
    render SerCfg.code (serDoc SerCfg.code docDefaultUndecl) = "<a xmlns=\"u\"><b></b></a>".toList ∧
    okEvs SerCfg.code LexCfg.code TbCfg.code [defaultMap] (serDoc SerCfg.code docDefaultUndecl) = false :=
  ⟨Lemmas.XmlRT.docIsB_sound (by decide +kernel), by decide +kernel, by decide +kernel⟩

/-- witness 15d: `end_elem` registers `p ↦ u` in the parent's map after popping the element's own, so
the following sibling gets no declaration and loses its namespace -/
theorem C17_witness_sibling_leak :
    (∃ s, reparse SerCfg.code LexCfg.code TbCfg.code docSiblingLeak = .ok s ∧
      s.document = [el none "" "r" [] [el (some "p") "u" "a" [] [], el (some "p") "" "b" [] []]]) ∧
    render SerCfg.code (serDoc SerCfg.code docSiblingLeak) =
      "<r><p:a xmlns:p=\"u\"></p:a><p:b></p:b></r>".toList ∧
    okEvs SerCfg.code LexCfg.code TbCfg.code [defaultMap] (serDoc SerCfg.code docSiblingLeak) = false :=
  ⟨Lemmas.XmlRT.docIsB_sound (by decide +kernel), by decide +kernel, by decide +kernel⟩

/-- witness (item 14 through the serializer): the declaration `xmlns:p` is written before the
attribute `p`, whose raw name equals the declaration's local part — the tokenizer drops it -/
theorem C17_witness_item14 :
    (∃ s, reparse SerCfg.code LexCfg.code TbCfg.code docItem14 = .ok s ∧
      s.document = [el (some "p") "u" "a" [] []]) ∧
    render SerCfg.code (serDoc SerCfg.code docItem14) = "<p:a xmlns:p=\"u\" p=\"1\"></p:a>".toList ∧
    okEvs SerCfg.code LexCfg.code TbCfg.code [defaultMap] (serDoc SerCfg.code docItem14) = false :=
  ⟨Lemmas.XmlRT.docIsB_sound (by decide +kernel), by decide +kernel, by decide +kernel⟩

/-- witness 15e: a namespace URI is written without escaping; a quote in it ends the attribute value -/
theorem C17_witness_uri_unescaped :
    render SerCfg.code (serDoc SerCfg.code docUriQuote) = "<a xmlns=\"x\"y\"></a>".toList ∧
    render SerCfg.fixed (serDoc SerCfg.fixed docUriQuote) = "<a xmlns=\"x&quot;y\"></a>".toList := by
  constructor <;> decide +kernel

/-- with every proposed fix switched on the five witness documents pass `okEvs` and come back
unchanged (the general statement for `SerCfg.fixed` is not proved) -/
theorem C17_fixed_examples :
    (∀ doc ∈ [docAttrPrefix, docDefaultUndecl, docSiblingLeak, docItem14, docUriQuote],
      okEvs SerCfg.fixed LexCfg.fixed TbCfg.fixed [defaultMap] (serDoc SerCfg.fixed doc) = true) ∧
    (∃ s, reparse SerCfg.fixed LexCfg.fixed TbCfg.fixed docAttrPrefix = .ok s ∧ s.document = docAttrPrefix) ∧
    (∃ s, reparse SerCfg.fixed LexCfg.fixed TbCfg.fixed docDefaultUndecl = .ok s ∧ s.document = docDefaultUndecl) ∧
    (∃ s, reparse SerCfg.fixed LexCfg.fixed TbCfg.fixed docSiblingLeak = .ok s ∧ s.document = docSiblingLeak) ∧
    (∃ s, reparse SerCfg.fixed LexCfg.fixed TbCfg.fixed docItem14 = .ok s ∧ s.document = docItem14) ∧
    (∃ s, reparse SerCfg.fixed LexCfg.fixed TbCfg.fixed docUriQuote = .ok s ∧ s.document = docUriQuote) :=
  ⟨by decide +kernel, Lemmas.XmlRT.docIsB_sound (by decide +kernel), Lemmas.XmlRT.docIsB_sound (by decide +kernel),
    Lemmas.XmlRT.docIsB_sound (by decide +kernel), Lemmas.XmlRT.docIsB_sound (by decide +kernel),
    Lemmas.XmlRT.docIsB_sound (by decide +kernel)⟩

/-- non-vacuity of `C17_roundtrip_partial` on the pinned tree: element-prefix namespaces, shadowing,
un-declared prefix, text / comment / PI content, escaping — `okEvs` holds and the theorem applies -/
def docGood : List Node :=
  [.doctype "r".toList "pub".toList [], .comment "c".toList,
   el (some "p") "u" "r" [at' none "" "k" "a<b&\"c\""]
     [.text "x<y&z".toList,
      el (some "p") "v" "s" [at' (some "p") "v" "w" "1"] [el (some "q") "" "t" [] [], .pi "pi".toList "d".toList],
      .comment " - ".toList],
   .pi "end".toList []]

example : okEvs SerCfg.code LexCfg.code TbCfg.code [defaultMap] (serDoc SerCfg.code docGood) = true := by
  decide +kernel

example : ∃ s, reparse SerCfg.code LexCfg.code TbCfg.code docGood = .ok s ∧
    s.document = docGood.map stripId := Lemmas.XmlRT.docIsB_sound (by decide +kernel)

/-! ## 4. the serializer with the fixes (what /repo does now): no side condition on the output -/

/-- **C17 (declarations)**: for every tree all of whose tags are parser-produced (`treesOK`: names that
re-split to themselves, `xml`/`xmlns` prefixes with their fixed URIs, the xmlns URI nowhere else, no
declaration attributes, unprefixed attributes in no namespace, distinct attribute names and expanded
names, one namespace per prefix within a tag) the fixed serializer writes declarations such that every
start tag — lexed, through the tokenizer's attribute step and `process_namespaces` — resolves to the
element's own name and attribute list. -/
theorem C17_okEvs_fixed (doc : List Node) (h : treesOK doc) :
    okEvs SerCfg.fixed LexCfg.fixed TbCfg.fixed [defaultMap] (serDoc SerCfg.fixed doc) = true :=
  okEvs_fixed doc h

/-- **C17 (round trip) for the fixed serializer, tokenizer step and tree builder**: every parsed-shape
document with parser-produced tags comes back unchanged (doctype ids dropped) — element and attribute
prefixes, namespace URIs, local names, attribute order and values, text (U+000D included), comments,
PIs, nesting.  No `okEvs` hypothesis, no CR proviso.  What remains assumed is `lexEv`, the
tokenization of the serializer's output (see `H5V.Model.XmlSer`). -/
theorem C17_roundtrip_fixed (pre post ks : List Node) (n : QName) (as : List Attr)
    (hpre : preOK false pre) (hpost : ∀ x ∈ post, isMisc x = true)
    (hks : nodesOK SerCfg.fixed false ks)
    (htags : treesOK (pre ++ .elem n as ks :: post)) :
    ∃ s, reparse SerCfg.fixed LexCfg.fixed TbCfg.fixed (pre ++ .elem n as ks :: post) = .ok s ∧
      s.document = pre.map stripId ++ .elem n as ks :: post :=
  C17_roundtrip_partial SerCfg.fixed LexCfg.fixed TbCfg.fixed pre post ks n as hpre hpost hks
    (C17_okEvs_fixed _ htags)

-- non-vacuity of `C17_roundtrip_fixed`: `<a xmlns:p="u" p:x="1"><p:b/>x&#13;y</a><!--c-->`, the 15a / 15c witness
example : ∃ s, reparse SerCfg.fixed LexCfg.fixed TbCfg.fixed
      ([] ++ .elem (qn none "" "a") [at' (some "p") "u" "x" "1"]
        [el (some "p") "u" "b" [] [], .text ['x', '\r', 'y']] :: [.comment ['c']]) = .ok s ∧
    s.document = [].map stripId ++ .elem (qn none "" "a") [at' (some "p") "u" "x" "1"]
        [el (some "p") "u" "b" [] [], .text ['x', '\r', 'y']] :: [.comment ['c']] := by
  apply C17_roundtrip_fixed
  · trivial
  · intro x hx; simp at hx; subst hx; rfl
  · simp [nodesOK, nodeOK, el, SerCfg.fixed]
  · simp only [List.nil_append, treesOK, treeOK, el, and_true]
    refine ⟨⟨⟨⟨by decide, by decide⟩, by decide, by decide, by decide⟩, ?_, by decide, by decide, by decide⟩,
      ⟨⟨⟨by decide, by decide⟩, by decide, by decide, by decide⟩, by simp, by decide, by decide, by decide⟩⟩
    intro a ha
    simp at ha; subst ha
    exact ⟨⟨by decide, by decide⟩, by decide, by decide, by decide, by decide⟩

end H5V.Props.C17
