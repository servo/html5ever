import H5V.Lemmas.XmlTBSplit
import H5V.Props.C16
/-!
C15 lifted to the **tree**: the model of xml5ever's tree builder (`H5V.Model.XmlTB`) is insensitive
to how a run of characters is cut into character tokens.

The tokenizer-level theorems (`Props/C15.lean`, `C15Run.lean`) compare token streams *after merging
adjacent character tokens* — the real tokenizer emits character runs whose boundaries follow the
chunk and buffer boundaries.  This file closes the gap to the final tree.

* `SimS s t` (`Lemmas/XmlTBSplit.lean`): every field of the builder state — phase, document
  children before/after the root, the root, the open elements with their children, the namespace
  stack, the trace of created elements, `doctype_seen` — is equal; the parse-error logs are equal
  after collapsing adjacent repetitions (`dedupAdj`).  The *number* of "Unexpected element in
  start/end phase" reports legitimately depends on the cut: non-whitespace text outside the root
  element is reported once per character token (`C15_tree_error_count_depends_on_cut`); nothing else
  does.
* `C15_tb_char_split` — `chars (a ++ b)` against `chars a, chars b`, all three phases (before the
  root: whitespace ignored, other text reported and dropped; inside: RcDom's text merge; after the
  root: as before it), **no** non-emptiness hypothesis.
* `C15_tb_sim_step` — congruence: any token delivered to `SimS` states.
* `Resplit`, `C15_tree_resplit_run`, `C15_tree_resplit`, `C15_tree_obs` — the congruence closure of
  the cut; two `Resplit`-related token lists fail alike or end in `SimS` states; same document,
  same created elements, same phase, same collapsed error log.
* `mergeChars`, `C15_resplit_of_merge_eq`, `C15_tree_merge_obs` — the criterion the tokenizer
  correspondence uses: equal after merging adjacent character tokens ⇒ same observable result.
-/
namespace H5V.Props.C15
open H5V.Model.XmlTB H5V.Lemmas.XmlTBSplit

/-! ## the step-level statements -/

/-- what `SimS` fixes -/
theorem C15_tb_sim_fields {s t : State} (h : SimS s t) :
    s.phase = t.phase ∧ s.docBefore = t.docBefore ∧ s.docAfter = t.docAfter ∧ s.root = t.root ∧
    s.opened = t.opened ∧ s.nsStack = t.nsStack ∧ s.created = t.created ∧ s.doctypeSeen = t.doctypeSeen ∧
    dedupAdj s.errors = dedupAdj t.errors := by
  obtain ⟨h1, h2⟩ := h
  cases s; cases t
  simp only [strip, State.mk.injEq] at h1
  obtain ⟨a, b, c, d, e, f, g, _, i⟩ := h1
  exact ⟨a, b, c, d, e, f, g, i, h2⟩

theorem C15_tb_sim_equiv : (∀ s, SimS s s) ∧ (∀ s t, SimS s t → SimS t s) ∧
    (∀ s t u, SimS s t → SimS t u → SimS s u) :=
  ⟨SimS.refl, fun _ _ h => h.symm, fun _ _ _ h h' => h.trans h'⟩

/-- **main lemma**: one character token against its two halves, from the same state, every phase -/
theorem C15_tb_char_split (cfg : TbCfg) (s : State) (a b : Str) :
    RelR (step cfg s (.chars (a ++ b))) ((step cfg s (.chars a)).bind (fun s' => step cfg s' (.chars b))) :=
  step_split cfg s a b

/-- **congruence**: every token, delivered to `SimS` states, fails alike or leads to `SimS` states -/
theorem C15_tb_sim_step (cfg : TbCfg) (tok : Token) {s t : State} (h : SimS s t) :
    RelR (step cfg s tok) (step cfg t tok) := step_sim cfg tok h

/-- the parse-error log is write-only (`step` never reads it) -/
theorem C15_tb_errors_write_only (cfg : TbCfg) (tok : Token) (s : State) :
    step cfg s tok = (step cfg (strip s) tok).map (addErr s.errors) := step_wr cfg tok s

/-! ## token lists -/

/-- the congruence closure of "replace `chars (a ++ b)` by `chars a, chars b`" -/
inductive Resplit : List Token → List Token → Prop
  | refl (ts : List Token) : Resplit ts ts
  | split (a b : Str) : Resplit [.chars (a ++ b)] [.chars a, .chars b]
  | symm {x y : List Token} : Resplit x y → Resplit y x
  | trans {x y z : List Token} : Resplit x y → Resplit y z → Resplit x z
  | append {x y x' y' : List Token} : Resplit x y → Resplit x' y' → Resplit (x ++ x') (y ++ y')

theorem run_append (cfg : TbCfg) : ∀ (l1 l2 : List Token) (s : State),
    run cfg s (l1 ++ l2) = (run cfg s l1).bind (fun s' => run cfg s' l2)
  | [], l2, s => rfl
  | t :: rest, l2, s => by
    simp only [List.cons_append, run]
    cases step cfg s t with
    | error e => rfl
    | ok s' => exact run_append cfg rest l2 s'

/-- the two token lists drive the tree builder alike -/
def RunAlike (cfg : TbCfg) (ts ts' : List Token) : Prop :=
  ∀ s t, SimS s t → RelR (run cfg s ts) (run cfg t ts')

theorem runAlike_refl (cfg : TbCfg) : ∀ ts, RunAlike cfg ts ts
  | [] => fun _ _ h => h
  | tok :: rest => by
    intro s t h
    have h1 := step_sim cfg tok h
    simp only [run]
    cases hs : step cfg s tok <;> cases ht : step cfg t tok <;> rw [hs, ht] at h1 <;> simp only [RelR] at h1
    · exact h1
    · exact runAlike_refl cfg rest _ _ h1

theorem relR_bind {x y : Except String State} (h : RelR x y) {f g : State → Except String State}
    (hfg : ∀ s t, SimS s t → RelR (f s) (g t)) : RelR (x.bind f) (y.bind g) := by
  cases x <;> cases y <;> simp only [RelR] at h
  · exact h
  · exact hfg _ _ h

/-- **`Resplit`-related token lists drive the tree builder alike**, from any pair of `SimS` states -/
theorem C15_tree_resplit_run (cfg : TbCfg) {ts1 ts2 : List Token} (h : Resplit ts1 ts2) :
    RunAlike cfg ts1 ts2 := by
  induction h with
  | refl ts => exact runAlike_refl cfg ts
  | split a b =>
    intro s t hst
    have h1 := step_split cfg s a b
    have h2 : RelR ((step cfg s (.chars a)).bind (fun s' => step cfg s' (.chars b)))
        ((step cfg t (.chars a)).bind (fun s' => step cfg s' (.chars b))) :=
      relR_bind (step_sim cfg _ hst) (fun _ _ h => step_sim cfg _ h)
    have e1 : run cfg s [.chars (a ++ b)] = step cfg s (.chars (a ++ b)) := by
      simp only [run]; cases step cfg s (.chars (a ++ b)) <;> rfl
    have e2 : run cfg t [.chars a, .chars b] =
        (step cfg t (.chars a)).bind (fun s' => step cfg s' (.chars b)) := by
      simp only [run]
      cases step cfg t (.chars a) with
      | error e => rfl
      | ok u => simp only [Except.bind]; cases step cfg u (.chars b) <;> rfl
    rw [e1, e2]
    exact h1.trans h2
  | symm _ ih => exact fun s t hst => (ih t s hst.symm).symm
  | trans _ _ ih1 ih2 => exact fun s t hst => (ih1 s t hst).trans (ih2 t t (SimS.refl t))
  | append _ _ ih1 ih2 =>
    intro s t hst
    rw [run_append, run_append]
    exact relR_bind (ih1 s t hst) ih2

/-- **C15, tree level.**  Two token lists that differ only in how character runs are cut give, from
the initial state, the same outcome: the same panic site, or final states that agree in every field
except the repetition count of adjacent equal parse errors -/
theorem C15_tree_resplit (cfg : TbCfg) {ts1 ts2 : List Token} (h : Resplit ts1 ts2) :
    RelR (run cfg State.init ts1) (run cfg State.init ts2) :=
  C15_tree_resplit_run cfg h _ _ (SimS.refl _)

/-- the observable result of a run: the document (children of the document node: what was appended
before the root, the root element with everything below it, what was appended after it), the trace
of `create_element` calls, the final phase, and the parse-error log with adjacent repetitions
collapsed (oldest first) -/
def Obs (r : Except String State) : Except String (List Node × List Created × Phase × List Err) :=
  r.map (fun s => (s.document, s.createdList, s.phase, (dedupAdj s.errors).reverse))

theorem obs_of_relR {x y : Except String State} (h : RelR x y) : Obs x = Obs y := by
  cases x <;> cases y <;> simp only [RelR] at h
  · rw [h]
  · obtain ⟨_, b, c, d, e, _, g, _, i⟩ := C15_tb_sim_fields h
    simp only [Obs, Except.map, State.document, State.createdList]
    rw [b, c, d, e, g, i, (C15_tb_sim_fields h).1]

/-- **same tree**: the cut of the character runs is not observable -/
theorem C15_tree_obs (cfg : TbCfg) {ts1 ts2 : List Token} (h : Resplit ts1 ts2) :
    Obs (run cfg State.init ts1) = Obs (run cfg State.init ts2) :=
  obs_of_relR (C15_tree_resplit cfg h)

/-- … and, since the run never fails (`C16_no_panic`), both runs succeed with the same document -/
theorem C15_tree_same_document (cfg : TbCfg) {ts1 ts2 : List Token} (h : Resplit ts1 ts2) :
    ∃ s t, run cfg State.init ts1 = .ok s ∧ run cfg State.init ts2 = .ok t ∧ s.document = t.document ∧
      s.createdList = t.createdList ∧ s.phase = t.phase := by
  obtain ⟨s, hs⟩ := H5V.Props.C16.C16_no_panic cfg ts1
  obtain ⟨t, ht⟩ := H5V.Props.C16.C16_no_panic cfg ts2
  have hr := C15_tree_resplit cfg h
  rw [hs, ht] at hr
  obtain ⟨a, b, c, d, e, _, g, _, _⟩ := C15_tb_sim_fields hr
  exact ⟨s, t, hs, ht, by simp only [State.document]; rw [b, c, d, e], by simp only [State.createdList]; rw [g], a⟩

/-! ## the criterion of the tokenizer correspondence: equal after merging adjacent character tokens -/

/-- merge adjacent character tokens -/
def mergeChars : List Token → List Token
  | [] => []
  | .chars x :: rest =>
    match mergeChars rest with
    | .chars y :: r => .chars (x ++ y) :: r
    | r => .chars x :: r
  | t :: rest => t :: mergeChars rest

theorem mergeChars_cons_chars (x : Str) (rest : List Token) :
    mergeChars (.chars x :: rest) =
      match mergeChars rest with
      | .chars y :: r => .chars (x ++ y) :: r
      | r => .chars x :: r := by
  rw [mergeChars]

/-- every token list is a re-cut of its merged form -/
theorem resplit_mergeChars : ∀ (ts : List Token), Resplit ts (mergeChars ts)
  | [] => Resplit.refl _
  | t :: rest => by
    have ih := resplit_mergeChars rest
    have hcons : ∀ t', Resplit (t' :: rest) (t' :: mergeChars rest) := fun t' =>
      Resplit.append (x := [t']) (y := [t']) (Resplit.refl _) ih
    cases t with
    | chars x =>
      rw [mergeChars_cons_chars]
      cases hm : mergeChars rest with
      | nil => rw [hm] at hcons; exact hcons _
      | cons t2 r =>
        cases t2 with
        | chars y =>
          rw [hm] at hcons
          refine (hcons (.chars x)).trans ?_
          exact Resplit.append (x := [.chars x, .chars y]) (y := [.chars (x ++ y)]) (x' := r) (y' := r)
            (Resplit.split x y).symm (Resplit.refl r)
        | tag _ | doctype _ _ _ | comment _ | pi _ _ | nullChar | eof => rw [hm] at hcons; exact hcons _
    | tag _ | doctype _ _ _ | comment _ | pi _ _ | nullChar | eof => simpa [mergeChars] using hcons _

/-- two streams that are equal after merging adjacent character tokens are re-cuts of each other
(no hypothesis on empty character tokens is needed here) -/
theorem C15_resplit_of_merge_eq {ts1 ts2 : List Token} (h : mergeChars ts1 = mergeChars ts2) :
    Resplit ts1 ts2 :=
  (resplit_mergeChars ts1).trans (h ▸ (resplit_mergeChars ts2).symm)

/-- **C15, tree level, in the form the tokenizer correspondence uses it**: token streams that are
equal after merging adjacent character tokens give the same observable result -/
theorem C15_tree_merge_obs (cfg : TbCfg) {ts1 ts2 : List Token} (h : mergeChars ts1 = mergeChars ts2) :
    Obs (run cfg State.init ts1) = Obs (run cfg State.init ts2) :=
  C15_tree_obs cfg (C15_resplit_of_merge_eq h)

/-! ## non-vacuity -/

def rn (s : String) : RName := ⟨none, s.toList⟩

/-- `<r>` + "a b" + `</r>`, the text cut in the middle -/
def exWhole : List Token :=
  [.tag ⟨.start, rn "r", []⟩, .chars "a b".toList, .tag ⟨.end_, rn "r", []⟩, .eof]
def exCut : List Token :=
  [.tag ⟨.start, rn "r", []⟩, .chars "a".toList, .chars " b".toList, .tag ⟨.end_, rn "r", []⟩, .eof]

example : mergeChars exCut = mergeChars exWhole := by decide +kernel

example : Obs (run TbCfg.current State.init exCut) = Obs (run TbCfg.current State.init exWhole) :=
  C15_tree_merge_obs _ (by decide +kernel)

/-- the common document has one text node `a b` under `r` -/
example : (match run TbCfg.current State.init exCut with
    | .ok s => s.document.length
    | .error _ => 0) = 1 := by decide +kernel

/-- **why the error log is compared after collapsing repetitions**: non-whitespace text before the
root element is reported once per character token -/
theorem C15_tree_error_count_depends_on_cut :
    (match run TbCfg.current State.init [.chars "ab".toList], run TbCfg.current State.init [.chars "a".toList, .chars "b".toList] with
     | .ok s, .ok t => (s.errors, t.errors)
     | _, _ => ([], [])) = ([.unexpStart], [.unexpStart, .unexpStart]) := by decide +kernel

end H5V.Props.C15
