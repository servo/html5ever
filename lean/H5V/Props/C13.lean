import H5V.Model.BufferQueue
/-!
C13 — BufferQueue behaves as one flat character stream.

Every operation of the model of `buffer_queue.rs` is characterised purely in terms of
`abs q = q.bufs.flatten`, for every queue satisfying the non-empty-buffers invariant, which
every operation preserves (so it holds for every reachable queue: `C13_reachable_inv`).
-/
namespace H5V.Props.C13
open H5V.Model.BQ

/-! ### helper lemmas -/

theorem inv_empty : QInv empty := by intro b hb; cases hb

theorem inv_cons {b : Buf} {rest : List Buf} (h : QInv ⟨b :: rest⟩) : b ≠ [] ∧ QInv ⟨rest⟩ :=
  ⟨h b (by simp), fun x hx => h x (by simp [hx])⟩

theorem inv_reput {tl : Buf} {rest : List Buf} (h : QInv ⟨rest⟩) : QInv (reput tl rest) := by
  unfold reput
  split
  · exact h
  · rename_i hne
    intro b hb
    simp at hb
    rcases hb with rfl | hb
    · intro h0; simp [h0] at hne
    · exact h b hb

@[simp] theorem reput_flatten (tl : Buf) (rest : List Buf) :
    (reput tl rest).bufs.flatten = tl ++ rest.flatten := by
  unfold reput
  split
  · rename_i h; simp at h; simp [h]
  · simp

theorem abs_reput (tl : Buf) (rest : List Buf) : abs (reput tl rest) = tl ++ rest.flatten := by
  simp [abs]

theorem mem_takeWhile_imp {α} {p : α → Bool} {l : List α} {a : α} (h : a ∈ l.takeWhile p) :
    p a = true := by
  induction l with
  | nil => simp at h
  | cons x xs ih =>
    simp only [List.takeWhile] at h
    split at h
    · simp at h; rcases h with rfl | h
      · assumption
      · exact ih h
    · simp at h

/-! ### push -/

theorem pushBack_abs (q : Queue) (b : Buf) : abs (pushBack q b) = abs q ++ b := by
  unfold pushBack abs; split
  · rename_i h; simp at h; simp [h]
  · simp

theorem pushFront_abs (q : Queue) (b : Buf) : abs (pushFront q b) = b ++ abs q := by
  unfold pushFront abs; split
  · rename_i h; simp at h; simp [h]
  · simp

theorem pushBack_inv (q : Queue) (b : Buf) (h : QInv q) : QInv (pushBack q b) := by
  unfold pushBack; split
  · exact h
  · rename_i hne; intro x hx; simp at hx
    rcases hx with hx | rfl
    · exact h x hx
    · intro h0; simp [h0] at hne

theorem pushFront_inv (q : Queue) (b : Buf) (h : QInv q) : QInv (pushFront q b) := by
  unfold pushFront; split
  · exact h
  · rename_i hne; intro x hx; simp at hx
    rcases hx with rfl | hx
    · intro h0; simp [h0] at hne
    · exact h x hx

/-! ### next / peek -/

/-- `peek` returns the first character of the concatenation (or none), never panics. -/
theorem C13_peek (q : Queue) (h : QInv q) : peek q = .ok (abs q).head? := by
  unfold peek abs
  match hq : q.bufs with
  | [] => simp
  | [] :: rest => exact absurd rfl (h [] (by simp [hq]))
  | (c :: tl) :: rest => simp

/-- `next` returns and removes exactly the first character of the concatenation. -/
theorem C13_next (q : Queue) (h : QInv q) :
    ∃ q', next q = .ok ((abs q).head?, q') ∧ abs q' = (abs q).tail ∧ QInv q' := by
  unfold next
  match hq : q.bufs with
  | [] => exact ⟨q, by simp [abs, hq], by simp [abs, hq], h⟩
  | [] :: rest => exact absurd rfl (h [] (by simp [hq]))
  | (c :: tl) :: rest =>
    have hr : QInv ⟨rest⟩ := fun x hx => h x (by simp [hq, hx])
    exact ⟨reput tl rest, by simp [abs, hq], by simp [abs, hq], inv_reput hr⟩

/-! ### pop_except_from -/

/-- Specification of `pop_except_from` against the flat stream.  On a non-empty queue it returns
either the first character, which is a set member, or a non-empty run of non-members that is a
prefix of the stream, lies inside the first buffer and is maximal there (it ends at the buffer join
or in front of a set member); exactly what was returned is removed from the stream. -/
theorem C13_pop_except_from (set : CharSet) (q : Queue) (h : QInv q) :
    (abs q = [] → popExceptFrom set q = .ok (none, q)) ∧
    (abs q ≠ [] → ∃ r q', popExceptFrom set q = .ok (some r, q') ∧ QInv q' ∧
      match r with
      | .fromSet c => set.mem c = true ∧ abs q = c :: abs q'
      | .notFromSet run => run ≠ [] ∧ (∀ c ∈ run, set.mem c = false) ∧ abs q = run ++ abs q' ∧
          (∃ b rest tl, q.bufs = b :: rest ∧ b = run ++ tl ∧
             (tl = [] ∨ ∃ c tl', tl = c :: tl' ∧ set.mem c = true))) := by
  unfold popExceptFrom
  match hq : q.bufs with
  | [] => simp [abs, hq]
  | b :: rest =>
    have hb : b ≠ [] := h b (by simp [hq])
    have hr : QInv ⟨rest⟩ := fun x hx => h x (by simp [hq, hx])
    refine ⟨fun h0 => ?_, fun _ => ?_⟩
    · simp [abs, hq] at h0; exact absurd h0.1 hb
    · simp only []
      by_cases hrun : (b.takeWhile (fun c => !set.mem c)).isEmpty = true
      · -- first character is a member
        match hbb : b with
        | [] => exact absurd rfl hb
        | c :: tl' =>
          have hc : set.mem c = true := by
            simp [List.takeWhile] at hrun
            cases hm : set.mem c <;> simp [hm] at hrun ⊢
          refine ⟨.fromSet c, reput tl' rest, ?_, inv_reput hr, hc, ?_⟩
          · simp [hrun]
          · simp [abs, hq]
      · refine ⟨.notFromSet (b.takeWhile (fun c => !set.mem c)),
          reput (b.dropWhile (fun c => !set.mem c)) rest, ?_, inv_reput hr, ?_, ?_, ?_, ?_⟩
        · simp [hrun]
        · intro h0; simp [h0] at hrun
        · intro c hc
          have := mem_takeWhile_imp hc
          simpa using this
        · simp only [abs, hq, reput_flatten, List.flatten_cons, ← List.append_assoc,
            List.takeWhile_append_dropWhile]
        · refine ⟨b, rest, b.dropWhile (fun c => !set.mem c), rfl,
            (List.takeWhile_append_dropWhile).symm, ?_⟩
          match hd : b.dropWhile (fun c => !set.mem c) with
          | [] => exact Or.inl rfl
          | c :: tl' =>
            refine Or.inr ⟨c, tl', rfl, ?_⟩
            have := List.head_dropWhile_not (fun c => !set.mem c) (l := b) (by simp [hd])
            simp [hd] at this
            exact this

/-! ### eat -/

/-- prefix comparison of a stream `s` with a pattern under `eq` -/
inductive PrefixCmp where | isPrefix | mismatch | needMore
deriving DecidableEq, Repr

/-- reference comparison on the flat string: walk both, first mismatch wins, pattern exhausted ⇒
match, stream exhausted first ⇒ need more -/
def prefixCmp (eq : Char → Char → Bool) : List Char → List Char → PrefixCmp
  | _, [] => .isPrefix
  | [], _ :: _ => .needMore
  | c :: s, p :: ps => if eq c p then prefixCmp eq s ps else .mismatch

theorem eatGo_prefixCmp (eq : Char → Char → Bool) (pat : List Char) (bufs : List Buf)
    (h : QInv ⟨bufs⟩) :
    match prefixCmp eq bufs.flatten pat with
    | .isPrefix => ∃ rest, eatGo eq pat bufs = .matched rest ∧ QInv ⟨rest⟩ ∧
        rest.flatten = bufs.flatten.drop pat.length
    | .mismatch => eatGo eq pat bufs = .mismatch
    | .needMore => eatGo eq pat bufs = .needMore := by
  induction pat generalizing bufs with
  | nil => simp [prefixCmp, eatGo]; exact h
  | cons p ps ih =>
    match bufs with
    | [] => simp [prefixCmp, eatGo]
    | [] :: rest => exact absurd rfl (h [] (by simp))
    | (c :: cs) :: rest =>
      have hr : QInv ⟨rest⟩ := fun x hx => h x (by simp [hx])
      simp only [List.flatten_cons, List.cons_append, prefixCmp, eatGo]
      by_cases hcp : eq c p = true
      · simp only [hcp, ↓reduceIte, Bool.not_true, Bool.false_eq_true]
        by_cases hcs : cs = []
        · subst hcs
          simpa using ih rest hr
        · have hi : QInv ⟨cs :: rest⟩ := by
            intro x hx; simp at hx
            rcases hx with rfl | hx
            · exact hcs
            · exact hr x hx
          have hemp : cs.isEmpty = false := by cases cs <;> simp_all
          simpa [hemp] using ih (cs :: rest) hi
      · have hcp' : eq c p = false := by simpa using hcp
        simp [hcp']

/-- **`eat`** answers exactly as the prefix comparison of the concatenation, consumes the pattern
(and nothing else) only on a match, and never panics. -/
theorem C13_eat (pat : List Char) (eq : Char → Char → Bool) (q : Queue) (h : QInv q) :
    match prefixCmp eq (abs q) pat with
    | .isPrefix => ∃ q', eat pat eq q = .ok (some true, q') ∧ QInv q' ∧ abs q' = (abs q).drop pat.length
    | .mismatch => eat pat eq q = .ok (some false, q)
    | .needMore => eat pat eq q = .ok (none, q) := by
  have := eatGo_prefixCmp eq pat q.bufs h
  unfold eat abs
  revert this
  cases prefixCmp eq q.bufs.flatten pat with
  | isPrefix => rintro ⟨rest, he, hi, hf⟩; exact ⟨⟨rest⟩, by simp [he], hi, hf⟩
  | mismatch => intro he; simp [he]
  | needMore => intro he; simp [he]

/-! ### every reachable queue satisfies the invariant, and is its operation history's flat stream -/

inductive Op where
  | pushBack (b : Buf) | pushFront (b : Buf) | next | peek
  | popExcept (set : CharSet) | eat (pat : List Char) (ci : Bool)

def eqOf (ci : Bool) : Char → Char → Bool :=
  fun a b => if ci then a.toLower == b.toLower else a == b

/-- one operation on the queue (output discarded; panics keep the queue) -/
def step (q : Queue) : Op → Queue
  | .pushBack b => pushBack q b
  | .pushFront b => pushFront q b
  | .next => match next q with | .ok (_, q') => q' | .error _ => q
  | .peek => q
  | .popExcept set => match popExceptFrom set q with | .ok (_, q') => q' | .error _ => q
  | .eat pat ci => match eat pat (eqOf ci) q with | .ok (_, q') => q' | .error _ => q

theorem step_inv (q : Queue) (op : Op) (h : QInv q) : QInv (step q op) := by
  cases op with
  | pushBack b => exact pushBack_inv q b h
  | pushFront b => exact pushFront_inv q b h
  | next =>
    obtain ⟨q', he, _, hi⟩ := C13_next q h
    simp [step, he, hi]
  | peek => exact h
  | popExcept set =>
    have := C13_pop_except_from set q h
    by_cases h0 : abs q = []
    · simp [step, this.1 h0, h]
    · obtain ⟨r, q', he, hi, _⟩ := this.2 h0
      simp [step, he, hi]
  | eat pat ci =>
    have := C13_eat pat (eqOf ci) q h
    revert this
    cases prefixCmp (eqOf ci) (abs q) pat with
    | isPrefix => rintro ⟨q', he, hi, _⟩; simp [step, he, hi]
    | mismatch => intro he; simp [step, he, h]
    | needMore => intro he; simp [step, he, h]

/-- the invariant holds after any history of operations from the empty queue -/
theorem C13_reachable_inv (ops : List Op) : QInv (ops.foldl step empty) := by
  suffices ∀ q, QInv q → QInv (ops.foldl step q) from this empty inv_empty
  induction ops with
  | nil => intro q h; exact h
  | cons op ops ih => intro q h; exact ih _ (step_inv q op h)

/-- no operation panics on a reachable queue -/
theorem C13_no_panic (ops : List Op) :
    let q := ops.foldl step empty
    (∃ r, peek q = .ok r) ∧ (∃ r, next q = .ok r) ∧
    (∀ set, ∃ r, popExceptFrom set q = .ok r) ∧ (∀ pat eq, ∃ r, eat pat eq q = .ok r) := by
  intro q
  have h : QInv q := C13_reachable_inv ops
  refine ⟨⟨_, C13_peek q h⟩, ?_, ?_, ?_⟩
  · obtain ⟨q', he, _⟩ := C13_next q h; exact ⟨_, he⟩
  · intro set
    have := C13_pop_except_from set q h
    by_cases h0 : abs q = []
    · exact ⟨_, this.1 h0⟩
    · obtain ⟨r, q', he, _⟩ := this.2 h0; exact ⟨_, he⟩
  · intro pat eq
    have := C13_eat pat eq q h
    revert this
    cases prefixCmp eq (abs q) pat with
    | isPrefix => rintro ⟨q', he, _⟩; exact ⟨_, he⟩
    | mismatch => intro he; exact ⟨_, he⟩
    | needMore => intro he; exact ⟨_, he⟩

/-! ### non-vacuity -/
example : QInv ⟨[['a'], ['b', 'c']]⟩ ∧ abs ⟨[['a'], ['b', 'c']]⟩ = ['a', 'b', 'c'] := by
  refine ⟨?_, rfl⟩
  intro b hb; simp at hb; rcases hb with rfl | rfl <;> simp

example : eat ['a', 'b', 'c', 'd'] (eqOf true) ⟨[['a'], ['b', 'c']]⟩ = .ok (none, ⟨[['a'], ['b', 'c']]⟩) := by
  rfl
example : eat ['a', 'B'] (eqOf true) ⟨[['a'], ['b', 'c']]⟩ = .ok (some true, ⟨[['c']]⟩) := by rfl

end H5V.Props.C13
