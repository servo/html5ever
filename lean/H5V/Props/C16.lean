import H5V.Model.XmlTB
import H5V.Spec.XmlNs
import H5V.Lemmas.XmlTB
import H5V.Lemmas.XmlNs
/-!
C16 — XML namespaces resolve by lexical scope and lose no attribute.
-/
namespace H5V.Props.C16
open H5V.Model.XmlTB H5V.Spec.XmlNs H5V.Lemmas.XmlTB H5V.Lemmas.XmlNs

/-! ## 1. balance of the namespace stack, panic freedom -/

/-- one namespace map per open element plus the bottom (default) map -/
def Bal (s : State) : Prop := s.nsStack.length = s.opened.length + 1

/-- The exact balance invariant.  The only reachable unbalanced states are in the End phase, after
an *empty* `<script/>` root (mod.rs:361 pushes its map, mod.rs:647-650 never pops it) — there the
stack is never consulted again. -/
def Inv (s : State) : Prop :=
  match s.phase with
  | .start => s.opened = [] ∧ s.nsStack.length = 1
  | .main => s.opened ≠ [] ∧ Bal s
  | .end_ => Bal s ∨ (s.opened = [] ∧ s.nsStack.length = 2)

theorem inv_init : Inv State.init := by simp [Inv, State.init]

theorem appendCur_ok (s : State) (upd : List Node → List Node) (h : s.opened ≠ []) :
    ∃ s', appendCur s upd = .ok s' ∧ s'.phase = s.phase ∧ s'.nsStack = s.nsStack ∧
      names s' = names s ∧ s'.created = s.created := by
  unfold appendCur
  match hs : s.opened with
  | [] => exact absurd hs h
  | f :: rest => exact ⟨_, rfl, rfl, rfl, by simp [names, hs], rfl⟩

theorem names_length (s : State) : (names s).length = s.opened.length := by simp [names]

theorem opened_ne_of_names {s s' : State} (h : names s' = names s) (hne : s.opened ≠ []) :
    s'.opened ≠ [] := by
  intro h0
  have := congrArg List.length h
  simp [names_length, h0] at this
  exact hne (List.eq_nil_of_length_eq_zero this.symm)

theorem setEndIfEmpty_inv (s : State) (hp : s.phase = .main) (hb : Bal s) : Inv (setEndIfEmpty s) := by
  unfold setEndIfEmpty
  split
  · rename_i h
    simp only [Inv]
    left; exact hb
  · rename_i h
    simp only [Inv, hp]
    exact ⟨by intro h0; simp [h0] at h, hb⟩

/-- every step of the builder succeeds (no `expect` fires) and preserves the invariant -/
theorem step_inv (cfg : TbCfg) (s : State) (tok : Token) (h : Inv s) :
    ∃ s', step cfg s tok = .ok s' ∧ Inv s' := by
  unfold step
  match hp : s.phase with
  | .start =>
    simp only [Inv, hp] at h
    obtain ⟨ho, hl⟩ := h
    match tok with
    | .tag ⟨.start, n, as⟩ =>
      refine ⟨_, rfl, ?_⟩
      simp [Inv, Bal, pushesMap, ho, hl]
    | .tag ⟨.empty, n, as⟩ =>
      refine ⟨_, rfl, ?_⟩
      simp only [Inv, Bal, applyNs_nsStack]
      split <;> simp [hl, ho]
    | .tag ⟨.end_, n, as⟩ | .tag ⟨.short, n, as⟩ => exact ⟨_, rfl, by simp [Inv, hp, ho, hl]⟩
    | .comment c | .pi t d => exact ⟨_, rfl, by unfold State.appendDoc; split <;> simp [Inv, hp, ho, hl]⟩
    | .chars cs => simp only []; split <;> exact ⟨_, rfl, by simp [Inv, hp, ho, hl]⟩
    | .eof => exact ⟨_, rfl, by simp [Inv, Bal, ho, hl]⟩
    | .doctype n p sy =>
      simp only []
      split
      · exact ⟨_, rfl, by simp [Inv, hp, ho, hl]⟩
      · exact ⟨_, rfl, by unfold State.appendDoc; split <;> simp [Inv, hp, ho, hl]⟩
    | .nullChar => exact ⟨_, rfl, by simp [Inv, hp, ho, hl]⟩
  | .main =>
    simp only [Inv, hp] at h
    obtain ⟨ho, hb⟩ := h
    match tok with
    | .chars cs =>
      obtain ⟨s', he, hph, hns, hnm, _⟩ := appendCur_ok s (fun k => appendText k cs) ho
      refine ⟨s', he, ?_⟩
      simp only [Inv, hph, hp]
      exact ⟨opened_ne_of_names hnm ho, by simp [Bal, hns, ← names_length s', hnm, names_length s]; exact hb⟩
    | .comment c =>
      obtain ⟨s', he, hph, hns, hnm, _⟩ := appendCur_ok s (fun k => .comment c :: k) ho
      refine ⟨s', he, ?_⟩
      simp only [Inv, hph, hp]
      exact ⟨opened_ne_of_names hnm ho, by simp [Bal, hns, ← names_length s', hnm, names_length s]; exact hb⟩
    | .pi t d =>
      obtain ⟨s', he, hph, hns, hnm, _⟩ := appendCur_ok s (fun k => .pi t d :: k) ho
      refine ⟨s', he, ?_⟩
      simp only [Inv, hph, hp]
      exact ⟨opened_ne_of_names hnm ho, by simp [Bal, hns, ← names_length s', hnm, names_length s]; exact hb⟩
    | .eof | .nullChar => exact ⟨_, rfl, by simp only [Inv]; left; exact hb⟩
    | .doctype _ _ _ => exact ⟨_, rfl, by simp [Inv, hp, ho]; exact hb⟩
    | .tag ⟨.start, n, as⟩ =>
      simp only []
      unfold insertTag
      match hs : (applyNs cfg s ⟨.start, n, as⟩).1.opened with
      | [] => simp at hs; exact absurd hs ho
      | f :: rest =>
        refine ⟨_, rfl, ?_⟩
        simp at hs
        simp [Inv, Bal, hp, applyNs_nsStack, pushesMap]
        simpa [Bal, hs] using hb
    | .tag ⟨.short, n, as⟩ =>
      obtain ⟨s', he, hnm, hns, hsr⟩ := pop_spec s ho
      refine ⟨setEndIfEmpty s', by simp [he, Except.map], ?_⟩
      apply setEndIfEmpty_inv s' (by rw [hsr.phase, hp])
      have h1 := congrArg List.length hnm
      simp [names_length] at h1
      simp [Bal, hns, h1]
      have : s.opened.length ≠ 0 := by intro h0; exact ho (List.eq_nil_of_length_eq_zero h0)
      unfold Bal at hb; omega
    | .tag ⟨.end_, n, as⟩ =>
      simp only []
      have ho' : (applyNs cfg s ⟨.end_, n, as⟩).1.opened ≠ [] := by simpa using ho
      obtain ⟨s', he, hph, _, hm⟩ := closeTag_spec (applyNs cfg s ⟨.end_, n, as⟩).1
        (processNamespaces cfg s.nsStack ⟨.end_, n, as⟩).name ho'
      refine ⟨setEndIfEmpty s', by simp [he, Except.map], ?_⟩
      apply setEndIfEmpty_inv s' (by rw [hph]; simpa using hp)
      have hns0 : (applyNs cfg s ⟨.end_, n, as⟩).1.nsStack = s.nsStack := by
        simp [applyNs_nsStack, pushesMap]
      revert hm
      split
      · rename_i k hk
        rintro ⟨hn, hns⟩
        have hlt := firstMatch_lt _ _ _ hk
        have h1 := congrArg List.length hn
        simp [names_length] at h1 hlt
        simp [Bal, hns, hns0, h1]
        unfold Bal at hb; omega
      · rintro ⟨hn, hns⟩
        have h1 := congrArg List.length hn
        simp [names_length] at h1
        simp [Bal, hns, hns0, h1]; exact hb
    | .tag ⟨.empty, n, as⟩ =>
      simp only []
      split
      · -- `<script/>`: pushed, inserted, closed again
        rename_i hscript
        unfold insertTag
        match hs : (applyNs cfg s ⟨.empty, n, as⟩).1.opened with
        | [] => simp at hs; exact absurd hs ho
        | f :: rest =>
          simp only [Except.bind]
          generalize hs1 : ({ (applyNs cfg s ⟨.empty, n, as⟩).1 with
            opened := ⟨(applyNs cfg s ⟨.empty, n, as⟩).2.name, (applyNs cfg s ⟨.empty, n, as⟩).2.attrs, []⟩ :: f :: rest,
            created := ⟨(applyNs cfg s ⟨.empty, n, as⟩).2.name, (applyNs cfg s ⟨.empty, n, as⟩).2.attrs⟩ ::
              (applyNs cfg s ⟨.empty, n, as⟩).1.created } : State) = s1
          have hn1 : names s1 = (applyNs cfg s ⟨.empty, n, as⟩).2.name :: names s := by
            subst hs1; simp [names] at hs ⊢; simp [hs]
          have hns1 : s1.nsStack = (processNamespaces cfg s.nsStack ⟨.empty, n, as⟩).map :: s.nsStack := by
            have hscript' : (processNamespaces cfg s.nsStack ⟨.empty, n, as⟩).name.loc = sScript := by
              simpa using hscript
            subst hs1; simp [applyNs_nsStack, pushesMap, hscript']
          have hph1 : s1.phase = .main := by subst hs1; simpa using hp
          have ho1 : s1.opened ≠ [] := by subst hs1; simp
          obtain ⟨s', he, hph, _, hm⟩ := closeTag_spec s1 (applyNs cfg s ⟨.empty, n, as⟩).2.name ho1
          refine ⟨s', he, ?_⟩
          have hfm : firstMatch (applyNs cfg s ⟨.empty, n, as⟩).2.name (names s1) = some 0 := by
            rw [hn1]; simp [firstMatch, sameExpanded]
          rw [hfm] at hm
          obtain ⟨hn, hns⟩ := hm
          simp only [Inv, hph, hph1]
          rw [hn1] at hn; simp at hn
          rw [hns1] at hns; simp at hns
          refine ⟨opened_ne_of_names hn ho, ?_⟩
          have h1 := congrArg List.length hn
          simp [names_length] at h1
          simp [Bal, hns, h1]; exact hb
      · rename_i hscript
        have ho' : (applyNs cfg s ⟨.empty, n, as⟩).1.opened ≠ [] := by simpa using ho
        obtain ⟨s', he, hph, hns, hnm, _⟩ := appendCur_ok (applyNs cfg s ⟨.empty, n, as⟩).1
          (fun k => .elem (applyNs cfg s ⟨.empty, n, as⟩).2.name (applyNs cfg s ⟨.empty, n, as⟩).2.attrs [] :: k) ho'
        refine ⟨_, by simp only [he, Except.map]; rfl, ?_⟩
        have hns0 : (applyNs cfg s ⟨.empty, n, as⟩).1.nsStack = s.nsStack := by
          simp [applyNs_nsStack, pushesMap]
          intro h1; exact absurd h1 (by simpa using hscript)
        simp at hnm hph
        simp only [Inv, hph, hp]
        refine ⟨opened_ne_of_names hnm ho, ?_⟩
        have h1 := congrArg List.length hnm
        simp [names_length] at h1
        simp [Bal, hns, hns0, h1]; exact hb
  | .end_ =>
    simp only [Inv, hp] at h
    match tok with
    | .comment c | .pi t d => exact ⟨_, rfl, by unfold State.appendDoc; split <;> simpa [Inv, hp, Bal] using h⟩
    | .chars cs => simp only []; split <;> exact ⟨_, rfl, by simpa [Inv, hp, Bal] using h⟩
    | .eof => exact ⟨_, rfl, by simpa [Inv, hp] using h⟩
    | .tag _ | .doctype _ _ _ | .nullChar => exact ⟨_, rfl, by simpa [Inv, hp, Bal] using h⟩

theorem run_inv (cfg : TbCfg) (toks : List Token) (s : State) (h : Inv s) :
    ∃ s', run cfg s toks = .ok s' ∧ Inv s' := by
  induction toks generalizing s with
  | nil => exact ⟨s, rfl, h⟩
  | cons t rest ih =>
    obtain ⟨s1, h1, hi1⟩ := step_inv cfg s t h
    obtain ⟨s2, h2, hi2⟩ := ih s1 hi1
    exact ⟨s2, by simp [run, h1, Except.bind, h2], hi2⟩

/-- **C16 (balance)**: for every token list — any mixture of start, empty, end (also popping several
elements), short tags, `<script/>`, text, comments, PIs, doctypes, NUL, EOF anywhere — the builder
never hits an `expect`, and after every token the namespace stack holds exactly one map per open
element plus the default map (`Inv`; the single exception, an empty `<script/>` root, is part of
`Inv` and shown reachable by `C16_script_root_unbalanced`). -/
theorem C16_balance (cfg : TbCfg) (toks : List Token) :
    ∃ s, run cfg State.init toks = .ok s ∧ Inv s :=
  run_inv cfg toks State.init inv_init

/-- no run panics -/
theorem C16_no_panic (cfg : TbCfg) (toks : List Token) : ∃ s, run cfg State.init toks = .ok s :=
  let ⟨s, h, _⟩ := C16_balance cfg toks; ⟨s, h⟩

/-- the unbalanced End-phase state is reachable: `<script/>` as the root element leaves two maps and
no open element (harmless: the End phase never resolves a name) -/
theorem C16_script_root_unbalanced :
    ∃ s, run TbCfg.code State.init [.tag ⟨.empty, ⟨none, sScript⟩, []⟩] = .ok s ∧
      s.opened = [] ∧ s.nsStack.length = 2 ∧ s.phase = .end_ := ⟨_, rfl, rfl, rfl, rfl⟩

-- non-vacuity: a multi-pop end tag
example : ∃ s, run TbCfg.code State.init
    [.tag ⟨.start, ⟨none, ['a']⟩, []⟩, .tag ⟨.start, ⟨none, ['b']⟩, []⟩, .tag ⟨.start, ⟨none, ['c']⟩, []⟩,
     .tag ⟨.end_, ⟨none, ['b']⟩, []⟩] = .ok s ∧ s.opened.length = 1 ∧ s.nsStack.length = 2 :=
  ⟨_, rfl, rfl, rfl⟩

/-! ## 2. the created elements are exactly what lexical scoping prescribes -/

/-- the model state `s` stands at the Spec position `w` -/
def Sim (s : State) : Where → Prop
  | .prolog => s.phase = .start ∧ s.opened = [] ∧ s.nsStack = [defaultMap]
  | .content scopes => s.phase = .main ∧ scopes ≠ [] ∧
      (names s).map (fun q => (q.ns, q.loc)) = scopes.map (fun sc => (sc.ns, sc.loc)) ∧
      StackAgree s.nsStack (envOf scopes) ∧ (∀ f ∈ envOf scopes, Clean f)
  | .epilog => s.phase = .end_

/-- tokens outside the two deviations (see `TagOK`) -/
def TokOK (cfg : TbCfg) : Token → Prop
  | .tag t => TagOK cfg t
  | _ => True

theorem closeScopes_firstMatch (nm : QName) (scopes : List Scope) (nms : List QName)
    (h : nms.map (fun q => (q.ns, q.loc)) = scopes.map (fun sc => (sc.ns, sc.loc))) :
    closeScopes nm.ns nm.loc scopes = (firstMatch nm nms).map (fun k => scopes.drop (k + 1)) := by
  induction scopes generalizing nms with
  | nil =>
    cases nms with
    | nil => rfl
    | cons _ _ => simp at h
  | cons sc rest ih =>
    cases nms with
    | nil => simp at h
    | cons q qs =>
      simp only [List.map_cons, List.cons.injEq, Prod.mk.injEq] at h
      obtain ⟨⟨h1, h2⟩, h3⟩ := h
      simp only [closeScopes, firstMatch, sameExpanded]
      by_cases hm : sc.ns = nm.ns ∧ sc.loc = nm.loc
      · simp [hm, h1, h2]
      · have : (q.ns == nm.ns && q.loc == nm.loc) = false := by
          rw [h1, h2]; simpa using hm
        simp only [hm, this, ↓reduceIte, Bool.false_eq_true]
        rw [ih qs h3]
        cases firstMatch nm qs <;> simp

theorem created_eq {b : Bound} {c : Created} (hn : b.name = c.name) (ha : b.attrs = c.attrs) :
    (⟨b.name, b.attrs⟩ : Created) = c := by
  cases c; simp_all

theorem sim_content_opened {s : State} {scopes : List Scope} (h : Sim s (.content scopes)) :
    s.opened ≠ [] := by
  obtain ⟨_, hne, hn, _⟩ := h
  intro h0
  simp [names, h0] at hn
  exact hne hn

theorem step_sim (cfg : TbCfg) (s : State) (w : Where) (tok : Token) (hs : Sim s w)
    (hok : TokOK cfg tok) :
    ∃ s1 w1 cs, step cfg s tok = .ok s1 ∧ Sim s1 w1 ∧ s1.created = cs.reverse ++ s.created ∧
      ∀ rest, resolve w (tok :: rest) = cs ++ resolve w1 rest := by
  match w with
  | .prolog =>
    obtain ⟨hp, ho, hns⟩ := hs
    have hst : StackAgree s.nsStack (envOf []) := by rw [hns]; rfl
    have hcl : ∀ f ∈ envOf [], Clean f := by intro f hf; simp [envOf] at hf
    unfold step
    simp only [hp]
    match tok with
    | .tag ⟨.start, n, as⟩ =>
      obtain ⟨hn, ha, hm⟩ := processNamespaces_eq cfg s.nsStack [] ⟨.start, n, as⟩ hok hst hcl
      refine ⟨_, .content [scopeOf (resolveTag [] ⟨.start, n, as⟩) ⟨.start, n, as⟩],
        [resolveTag [] ⟨.start, n, as⟩], rfl, ?_, ?_, ?_⟩
      · refine ⟨rfl, by simp, ?_, ?_, ?_⟩
        · simp [names, ho, scopeOf, hn]
        · simp only [applyNs_nsStack, pushesMap, envOf, List.map_cons, scopeOf]
          simp only [beq_self_eq_true, Bool.true_or, ↓reduceIte, List.map_nil]
          rw [stackAgree_cons]; exact ⟨hm, hst⟩
        · intro f hf; simp [envOf, scopeOf] at hf; subst hf; exact frameOf_clean as
      · simp [created_eq hn ha]
      · intro rest; simp [resolve]
    | .tag ⟨.empty, n, as⟩ =>
      obtain ⟨hn, ha, hm⟩ := processNamespaces_eq cfg s.nsStack [] ⟨.empty, n, as⟩ hok hst hcl
      refine ⟨_, .epilog, [resolveTag [] ⟨.empty, n, as⟩], rfl, rfl, ?_, ?_⟩
      · simp [created_eq hn ha]
      · intro rest; simp [resolve]
    | .tag ⟨.end_, n, as⟩ | .tag ⟨.short, n, as⟩ =>
      exact ⟨_, .prolog, [], rfl, ⟨hp, ho, hns⟩, by simp, by intro rest; simp [resolve]⟩
    | .comment c | .pi t d =>
      exact ⟨_, .prolog, [], rfl, by unfold State.appendDoc; split <;> exact ⟨hp, ho, hns⟩,
        by unfold State.appendDoc; split <;> simp, by intro rest; simp [resolve]⟩
    | .doctype a b c =>
      simp only []
      split
      · exact ⟨_, .prolog, [], rfl, ⟨hp, ho, hns⟩, by simp, by intro rest; simp [resolve]⟩
      · exact ⟨_, .prolog, [], rfl, by unfold State.appendDoc; split <;> exact ⟨rfl, ho, hns⟩,
          by unfold State.appendDoc; split <;> simp, by intro rest; simp [resolve]⟩
    | .chars cs =>
      simp only []
      split
      · exact ⟨_, .prolog, [], rfl, ⟨hp, ho, hns⟩, by simp, by intro rest; simp [resolve]⟩
      · exact ⟨_, .prolog, [], rfl, ⟨hp, ho, hns⟩, by simp, by intro rest; simp [resolve]⟩
    | .nullChar =>
      exact ⟨_, .prolog, [], rfl, ⟨hp, ho, hns⟩, by simp, by intro rest; simp [resolve]⟩
    | .eof =>
      exact ⟨_, .epilog, [], rfl, rfl, by simp, by intro rest; simp [resolve]⟩
  | .epilog =>
    have hp : s.phase = .end_ := hs
    unfold step
    simp only [hp]
    match tok with
    | .comment c | .pi t d =>
      exact ⟨_, .epilog, [], rfl, by unfold State.appendDoc; split <;> exact hp,
        by unfold State.appendDoc; split <;> simp, by intro rest; simp [resolve]⟩
    | .chars cs =>
      simp only []
      split
      · exact ⟨_, .epilog, [], rfl, hp, by simp, by intro rest; simp [resolve]⟩
      · exact ⟨_, .epilog, [], rfl, hp, by simp, by intro rest; simp [resolve]⟩
    | .eof | .tag _ | .doctype _ _ _ | .nullChar =>
      exact ⟨_, .epilog, [], rfl, hp, by simp, by intro rest; simp [resolve]⟩
  | .content scopes =>
    have ho := sim_content_opened hs
    obtain ⟨hp, hne, hnm, hst, hcl⟩ := hs
    unfold step
    simp only [hp]
    match tok with
    | .chars cs =>
      obtain ⟨s', he, hph, hns, hn', hcr⟩ := appendCur_ok s (fun k => appendText k cs) ho
      exact ⟨s', .content scopes, [], he, ⟨by rw [hph, hp], hne, by rw [hn']; exact hnm, by rw [hns]; exact hst, hcl⟩,
        by simp [hcr], by intro rest; simp [resolve]⟩
    | .comment c =>
      obtain ⟨s', he, hph, hns, hn', hcr⟩ := appendCur_ok s (fun k => .comment c :: k) ho
      exact ⟨s', .content scopes, [], he, ⟨by rw [hph, hp], hne, by rw [hn']; exact hnm, by rw [hns]; exact hst, hcl⟩,
        by simp [hcr], by intro rest; simp [resolve]⟩
    | .pi t d =>
      obtain ⟨s', he, hph, hns, hn', hcr⟩ := appendCur_ok s (fun k => .pi t d :: k) ho
      exact ⟨s', .content scopes, [], he, ⟨by rw [hph, hp], hne, by rw [hn']; exact hnm, by rw [hns]; exact hst, hcl⟩,
        by simp [hcr], by intro rest; simp [resolve]⟩
    | .eof | .nullChar => exact ⟨_, .epilog, [], rfl, rfl, by simp, by intro rest; simp [resolve]⟩
    | .doctype _ _ _ =>
      exact ⟨_, .content scopes, [], rfl, ⟨hp, hne, hnm, hst, hcl⟩, by simp, by intro rest; simp [resolve]⟩
    | .tag ⟨.start, n, as⟩ =>
      obtain ⟨hn, ha, hm⟩ := processNamespaces_eq cfg s.nsStack scopes ⟨.start, n, as⟩ hok hst hcl
      simp only []
      unfold insertTag
      match hs' : (applyNs cfg s ⟨.start, n, as⟩).1.opened with
      | [] => simp at hs'; exact absurd hs' ho
      | f :: rest' =>
        simp at hs'
        refine ⟨_, .content (scopeOf (resolveTag scopes ⟨.start, n, as⟩) ⟨.start, n, as⟩ :: scopes),
          [resolveTag scopes ⟨.start, n, as⟩], rfl, ?_, ?_, ?_⟩
        · refine ⟨by simpa using hp, by simp, ?_, ?_, ?_⟩
          · simp only [names, List.map_cons, scopeOf] at hnm ⊢
            rw [hs'] at hnm
            simp only [List.map_cons] at hnm
            rw [hnm]; simp [hn]
          · simp only [applyNs_nsStack, pushesMap, envOf, List.map_cons, scopeOf]
            simp only [beq_self_eq_true, Bool.true_or, ↓reduceIte]
            rw [stackAgree_cons]; exact ⟨hm, hst⟩
          · intro f hf
            simp only [envOf, List.map_cons, List.mem_cons, scopeOf] at hf
            rcases hf with rfl | hf
            · exact frameOf_clean as
            · exact hcl f hf
        · simp [created_eq hn ha]
        · intro rest; simp [resolve]
    | .tag ⟨.short, n, as⟩ =>
      obtain ⟨s', he, hn', hns', hsr⟩ := pop_spec s ho
      refine ⟨setEndIfEmpty s', afterClose scopes.tail, [], by simp [he, Except.map], ?_, ?_, ?_⟩
      · match scopes, hne with
        | sc :: rest', _ =>
          simp only [List.tail_cons]
          have hnm' : (names s').map (fun q => (q.ns, q.loc)) = rest'.map (fun sc => (sc.ns, sc.loc)) := by
            rw [hn']
            have := congrArg List.tail hnm
            simpa using this
          unfold setEndIfEmpty
          cases rest' with
          | nil =>
            have : s'.opened = [] := by simpa [names] using hnm'
            simp [this, afterClose, Sim]
          | cons sc2 rest'' =>
            have : s'.opened.isEmpty = false := by
              cases hso : s'.opened with
              | nil => simp [names, hso] at hnm'
              | cons _ _ => rfl
            simp only [this, Bool.false_eq_true, ↓reduceIte, afterClose]
            refine ⟨by rw [hsr.phase, hp], by simp, hnm', ?_, ?_⟩
            · rw [hns']
              have := hst.drop 1 (by simp [envOf])
              simpa [envOf] using this
            · intro f hf; exact hcl f (by simp [envOf] at hf ⊢; right; exact hf)
      · unfold setEndIfEmpty; split <;> simp [hsr.created]
      · intro rest; simp [resolve]
    | .tag ⟨.end_, n, as⟩ =>
      obtain ⟨hn, _, _⟩ := processNamespaces_eq cfg s.nsStack scopes ⟨.end_, n, as⟩ hok hst hcl
      simp only []
      have ho' : (applyNs cfg s ⟨.end_, n, as⟩).1.opened ≠ [] := by simpa using ho
      obtain ⟨s', he, hph, hcr, hm⟩ := closeTag_spec (applyNs cfg s ⟨.end_, n, as⟩).1
        (processNamespaces cfg s.nsStack ⟨.end_, n, as⟩).name ho'
      have hns0 : (applyNs cfg s ⟨.end_, n, as⟩).1.nsStack = s.nsStack := by
        simp [applyNs_nsStack, pushesMap]
      have hcs := closeScopes_firstMatch (processNamespaces cfg s.nsStack ⟨.end_, n, as⟩).name scopes (names s) hnm
      have hres : resolveElemName (frameOf as :: envOf scopes) n = (processNamespaces cfg s.nsStack ⟨.end_, n, as⟩).name := by
        rw [hn]; rfl
      simp only [applyNs_names, applyNs_snd] at hm he ⊢
      match hfm : firstMatch (processNamespaces cfg s.nsStack ⟨.end_, n, as⟩).name (names s) with
      | none =>
        rw [hfm] at hm hcs
        obtain ⟨hn', hns'⟩ := hm
        have hne' : s'.opened.isEmpty = false := by
          have := opened_ne_of_names hn' ho
          cases hso : s'.opened with
          | nil => exact absurd hso this
          | cons _ _ => rfl
        refine ⟨setEndIfEmpty s', .content scopes, [], by simp [he, Except.map], ?_, ?_, ?_⟩
        · unfold setEndIfEmpty
          simp only [hne', Bool.false_eq_true, ↓reduceIte]
          exact ⟨by rw [hph]; simpa using hp, hne, by rw [hn']; exact hnm, by rw [hns', hns0]; exact hst, hcl⟩
        · unfold setEndIfEmpty; split <;> simp [hcr]
        · intro rest
          simp only [resolve, hres]
          simp only [Option.map_none] at hcs
          rw [hcs]; simp
      | some k =>
        rw [hfm] at hm hcs
        obtain ⟨hn', hns'⟩ := hm
        have hlt := firstMatch_lt _ _ _ hfm
        have hlen : (names s).length = scopes.length := by
          have := congrArg List.length hnm; simpa using this
        have hnm' : (names s').map (fun q => (q.ns, q.loc)) = (scopes.drop (k + 1)).map (fun sc => (sc.ns, sc.loc)) := by
          rw [hn', List.map_drop, hnm, List.map_drop]
        refine ⟨setEndIfEmpty s', afterClose (scopes.drop (k + 1)), [], by simp [he, Except.map], ?_, ?_, ?_⟩
        · unfold setEndIfEmpty
          match hd : scopes.drop (k + 1) with
          | [] =>
            rw [hd] at hnm'
            have : s'.opened = [] := by simpa [names] using hnm'
            simp [this, afterClose, Sim]
          | sc2 :: rest'' =>
            rw [hd] at hnm'
            have : s'.opened.isEmpty = false := by
              cases hso : s'.opened with
              | nil => simp [names, hso] at hnm'
              | cons _ _ => rfl
            simp only [this, Bool.false_eq_true, ↓reduceIte, afterClose]
            refine ⟨by rw [hph]; simpa using hp, by simp, hnm', ?_, ?_⟩
            · rw [hns', hns0, ← hd]
              have := hst.drop (k + 1) (by simp [envOf]; omega)
              simpa [envOf, List.map_drop] using this
            · intro f hf
              apply hcl f
              have : f ∈ envOf (scopes.drop (k + 1)) := by rw [hd]; exact hf
              obtain ⟨sc, hsc, rfl⟩ := List.mem_map.mp this
              exact List.mem_map.mpr ⟨sc, List.mem_of_mem_drop hsc, rfl⟩
        · unfold setEndIfEmpty; split <;> simp [hcr]
        · intro rest
          simp only [resolve, hres]
          simp only [Option.map_some] at hcs
          rw [hcs]; simp
    | .tag ⟨.empty, n, as⟩ =>
      obtain ⟨hn, ha, hm⟩ := processNamespaces_eq cfg s.nsStack scopes ⟨.empty, n, as⟩ hok hst hcl
      simp only []
      split
      · rename_i hscript
        have hscript' : (processNamespaces cfg s.nsStack ⟨.empty, n, as⟩).name.loc = sScript := by
          simpa using hscript
        unfold insertTag
        match hs' : (applyNs cfg s ⟨.empty, n, as⟩).1.opened with
        | [] => simp at hs'; exact absurd hs' ho
        | f :: rest' =>
          simp only [Except.bind]
          generalize hs1 : ({ (applyNs cfg s ⟨.empty, n, as⟩).1 with
            opened := ⟨(applyNs cfg s ⟨.empty, n, as⟩).2.name, (applyNs cfg s ⟨.empty, n, as⟩).2.attrs, []⟩ :: f :: rest',
            created := ⟨(applyNs cfg s ⟨.empty, n, as⟩).2.name, (applyNs cfg s ⟨.empty, n, as⟩).2.attrs⟩ ::
              (applyNs cfg s ⟨.empty, n, as⟩).1.created } : State) = s1
          have hn1 : names s1 = (processNamespaces cfg s.nsStack ⟨.empty, n, as⟩).name :: names s := by
            subst hs1; simp [names] at hs' ⊢; simp [hs']
          have hns1 : s1.nsStack = (processNamespaces cfg s.nsStack ⟨.empty, n, as⟩).map :: s.nsStack := by
            subst hs1; simp [applyNs_nsStack, pushesMap, hscript']
          have hph1 : s1.phase = .main := by subst hs1; simpa using hp
          have hcr1 : s1.created = ⟨(processNamespaces cfg s.nsStack ⟨.empty, n, as⟩).name,
              (processNamespaces cfg s.nsStack ⟨.empty, n, as⟩).attrs⟩ :: s.created := by
            subst hs1; simp
          have ho1 : s1.opened ≠ [] := by subst hs1; simp
          obtain ⟨s', he, hph, hcr, hmm⟩ := closeTag_spec s1 (applyNs cfg s ⟨.empty, n, as⟩).2.name ho1
          simp only [applyNs_snd] at he hmm
          have hfm : firstMatch (processNamespaces cfg s.nsStack ⟨.empty, n, as⟩).name (names s1) = some 0 := by
            rw [hn1]; simp [firstMatch, sameExpanded]
          rw [hfm] at hmm
          obtain ⟨hn', hns'⟩ := hmm
          rw [hn1] at hn'; simp at hn'
          rw [hns1] at hns'; simp at hns'
          refine ⟨s', .content scopes, [resolveTag scopes ⟨.empty, n, as⟩], by simpa using he, ?_, ?_, ?_⟩
          · exact ⟨by rw [hph, hph1], hne, by rw [hn']; exact hnm, by rw [hns']; exact hst, hcl⟩
          · rw [hcr, hcr1]; simp [created_eq hn ha]
          · intro rest; simp [resolve]
      · rename_i hscript
        have ho' : (applyNs cfg s ⟨.empty, n, as⟩).1.opened ≠ [] := by simpa using ho
        obtain ⟨s', he, hph, hns', hn', hcr⟩ := appendCur_ok (applyNs cfg s ⟨.empty, n, as⟩).1
          (fun k => .elem (applyNs cfg s ⟨.empty, n, as⟩).2.name (applyNs cfg s ⟨.empty, n, as⟩).2.attrs [] :: k) ho'
        have hns0 : (applyNs cfg s ⟨.empty, n, as⟩).1.nsStack = s.nsStack := by
          simp [applyNs_nsStack, pushesMap]
          intro h1; exact absurd h1 (by simpa using hscript)
        refine ⟨_, .content scopes, [resolveTag scopes ⟨.empty, n, as⟩], by simp only [he, Except.map]; rfl, ?_, ?_, ?_⟩
        · simp at hn' hph
          exact ⟨by simpa [hph] using hp, hne, by simp only [names] at hn' ⊢; rw [hn']; exact hnm,
            by simp only [hns', hns0]; exact hst, hcl⟩
        · simp at hcr; simp [hcr, created_eq hn ha]
        · intro rest; simp [resolve]

theorem run_sim (cfg : TbCfg) (toks : List Token) (s : State) (w : Where) (hs : Sim s w)
    (hok : ∀ t ∈ toks, TokOK cfg t) :
    ∃ s', run cfg s toks = .ok s' ∧ s'.created.reverse = s.created.reverse ++ resolve w toks := by
  induction toks generalizing s w with
  | nil => exact ⟨s, rfl, by simp [resolve]⟩
  | cons t rest ih =>
    obtain ⟨s1, w1, cs, h1, hs1, hc1, hr1⟩ := step_sim cfg s w t hs (hok t (by simp))
    obtain ⟨s2, h2, hc2⟩ := ih s1 w1 hs1 (fun t' ht' => hok t' (by simp [ht']))
    refine ⟨s2, by simp [run, h1, Except.bind, h2], ?_⟩
    rw [hc2, hc1, hr1]; simp

/-- **C16 (resolution)**, `_partial`: for every token list whose tags carry no attribute `p:xmlns`
(prefixed, local name `xmlns`) and declare no prefix twice, the builder never panics and the
elements it creates — in creation order, with prefix, namespace URI, local name and the attribute
list with its namespaces, order and values — are exactly those of the lexical-scope resolver
`S.resolve`.

Full statement (what the property demands): the same without the hypothesis.  It fails on the
pinned tree: `C16_witness_prefixed_xmlns`, `C16_witness_dup_decl`.  With `TbCfg.fixed` the first
exclusion disappears (`C16_resolve_fixed`); the second one is unreachable through a tokenizer that
removes attributes with equal qualified names (`TokCfg.fixed`, `C16_tok_no_dup_qname_fixed`). -/
theorem C16_resolve_partial (toks : List Token) (hok : ∀ t ∈ toks, TokOK TbCfg.code t) :
    ∃ s, run TbCfg.code State.init toks = .ok s ∧ s.createdList = resolve .prolog toks := by
  obtain ⟨s, h, hc⟩ := run_sim TbCfg.code toks State.init .prolog ⟨rfl, rfl, rfl⟩ hok
  exact ⟨s, h, by simpa [State.createdList, State.init] using hc⟩

/-- with the proposed one-line fix of `process_namespaces` only duplicate declarations are excluded -/
theorem C16_resolve_fixed (toks : List Token)
    (hok : ∀ t ∈ toks, ∀ tg, t = .tag tg → NoDupDecl tg.attrs) :
    ∃ s, run TbCfg.fixed State.init toks = .ok s ∧ s.createdList = resolve .prolog toks := by
  have hok' : ∀ t ∈ toks, TokOK TbCfg.fixed t := by
    intro t ht
    match t with
    | .tag tg => exact ⟨Or.inl rfl, hok _ ht tg rfl⟩
    | .doctype .. | .comment _ | .chars _ | .pi .. | .nullChar | .eof => trivial
  obtain ⟨s, h, hc⟩ := run_sim TbCfg.fixed toks State.init .prolog ⟨rfl, rfl, rfl⟩ hok'
  exact ⟨s, h, by simpa [State.createdList, State.init] using hc⟩

/-- witness (tree builder): `<a q:xmlns="8"/>` — the attribute `q:xmlns` is taken for a namespace
declaration and lost; lexical scoping keeps it as an ordinary attribute -/
theorem C16_witness_prefixed_xmlns :
    ∃ s, run TbCfg.code State.init [.tag ⟨.empty, ⟨none, ['a']⟩, [⟨⟨some ['q'], sXmlns⟩, ['8']⟩]⟩] = .ok s ∧
      s.createdList = [⟨⟨none, [], ['a']⟩, []⟩] ∧
      resolve .prolog [.tag ⟨.empty, ⟨none, ['a']⟩, [⟨⟨some ['q'], sXmlns⟩, ['8']⟩]⟩] =
        [⟨⟨none, [], ['a']⟩, [⟨⟨some ['q'], [], sXmlns⟩, ['8']⟩]⟩] :=
  ⟨_, rfl, by decide +kernel, by decide +kernel⟩

/-- witness (tree builder): two declarations of the default namespace in one tag,
`xmlns="u" xmlns=""` — upstream lets the later un-declaration win, the Spec the first -/
theorem C16_witness_dup_decl :
    ∃ s, run TbCfg.code State.init
        [.tag ⟨.empty, ⟨none, ['a']⟩, [⟨⟨none, sXmlns⟩, ['u']⟩, ⟨⟨none, sXmlns⟩, []⟩]⟩] = .ok s ∧
      s.createdList = [⟨⟨none, [], ['a']⟩, []⟩] ∧
      resolve .prolog [.tag ⟨.empty, ⟨none, ['a']⟩, [⟨⟨none, sXmlns⟩, ['u']⟩, ⟨⟨none, sXmlns⟩, []⟩]⟩] =
        [⟨⟨none, ['u'], ['a']⟩, []⟩] :=
  ⟨_, rfl, by decide +kernel, by decide +kernel⟩

-- non-vacuity of `C16_resolve_partial`: shadowing, un-declaration; the end tag `</a>` is written where
-- the default namespace is un-declared, so it names `{}a`, matches nothing and is ignored
example : ∃ s, run TbCfg.code State.init
    [.tag ⟨.start, ⟨none, ['a']⟩, [⟨⟨none, sXmlns⟩, ['u']⟩, ⟨⟨some sXmlns, ['p']⟩, ['v']⟩]⟩,
     .tag ⟨.start, ⟨some ['p'], ['b']⟩, [⟨⟨none, sXmlns⟩, []⟩, ⟨⟨some ['p'], ['x']⟩, ['1']⟩, ⟨⟨none, ['x']⟩, ['2']⟩]⟩,
     .tag ⟨.empty, ⟨none, ['c']⟩, [⟨⟨some sXmlns, ['p']⟩, []⟩, ⟨⟨some ['p'], ['y']⟩, ['3']⟩]⟩,
     .tag ⟨.end_, ⟨none, ['a']⟩, []⟩,
     .tag ⟨.empty, ⟨some ['p'], ['d']⟩, []⟩] = .ok s ∧
    s.createdList =
      [⟨⟨none, ['u'], ['a']⟩, []⟩,
       ⟨⟨some ['p'], ['v'], ['b']⟩, [⟨⟨some ['p'], ['v'], ['x']⟩, ['1']⟩, ⟨⟨none, [], ['x']⟩, ['2']⟩]⟩,
       ⟨⟨none, [], ['c']⟩, [⟨⟨some ['p'], [], ['y']⟩, ['3']⟩]⟩,
       ⟨⟨some ['p'], ['v'], ['d']⟩, []⟩] :=
  ⟨_, rfl, by decide +kernel⟩

/-! ## 3. no attribute is lost

### 3a. tree builder -/

theorem codeResolveAttr_pfx (stack : List NsMap) (cur : NsMap) (a : RAttr) :
    (codeResolveAttr stack cur a).name.pfx = a.name.pfx ∧
    (codeResolveAttr stack cur a).name.loc = a.name.loc ∧
    (codeResolveAttr stack cur a).value = a.value := by
  unfold codeResolveAttr
  match hp : a.name.pfx with
  | none => simp
  | some q =>
    have := bindQName_pfx stack cur a.name
    simp [this.1, this.2, hp]

theorem processNamespaces_attrs (cfg : TbCfg) (stack : List NsMap) (t : Tag) :
    (processNamespaces cfg stack t).attrs =
      dedupPrefixed [] ((t.attrs.filter (fun a => !isDeclLike cfg a)).map
        (codeResolveAttr stack (processNamespaces cfg stack t).map)) := by
  unfold processNamespaces
  generalize declareAll [] [] (t.attrs.filter (isDeclLike cfg)) = r
  obtain ⟨cur, derrs⟩ := r
  simp only []
  exact bindAttrs_eq_code stack cur _ []

/-- **C16 (attributes, tree builder)**: the created element's attribute list is a sub-list, in source
order, of the tag's non-declaration attributes, each carrying its resolved name and its value … -/
theorem C16_attrs_sublist (cfg : TbCfg) (stack : List NsMap) (t : Tag) :
    (processNamespaces cfg stack t).attrs.Sublist
      ((t.attrs.filter (fun a => !isDeclLike cfg a)).map
        (codeResolveAttr stack (processNamespaces cfg stack t).map)) := by
  rw [processNamespaces_attrs]; exact dedup_sublist _ _

/-- … and an attribute that is not a declaration is missing from the element **only if** it is
prefixed and an earlier non-declaration attribute of the same tag is prefixed and has the same
expanded name (same resolved namespace, same local name).  Holds for every tag, every stack, both
configurations — the tree builder by itself never loses an attribute otherwise.  (`isDeclLike` is
the code's notion of a declaration; `C16_isDeclLike_is_decl` relates it to the Spec's.) -/
theorem C16_attr_dropped_only_if (cfg : TbCfg) (stack : List NsMap) (t : Tag)
    (l1 : List RAttr) (a : RAttr) (l2 : List RAttr) (ht : t.attrs = l1 ++ a :: l2)
    (hnd : isDeclLike cfg a = false) :
    codeResolveAttr stack (processNamespaces cfg stack t).map a ∈ (processNamespaces cfg stack t).attrs ∨
    (a.name.pfx.isSome = true ∧ ∃ a' ∈ l1, isDeclLike cfg a' = false ∧ a'.name.pfx.isSome = true ∧
      (codeResolveAttr stack (processNamespaces cfg stack t).map a').name.ns =
        (codeResolveAttr stack (processNamespaces cfg stack t).map a).name.ns ∧
      a'.name.loc = a.name.loc) := by
  rw [processNamespaces_attrs cfg stack t]
  generalize (processNamespaces cfg stack t).map = cur
  have hsplit : (t.attrs.filter (fun a => !isDeclLike cfg a)).map (codeResolveAttr stack cur) =
      (l1.filter (fun a => !isDeclLike cfg a)).map (codeResolveAttr stack cur) ++
        codeResolveAttr stack cur a :: (l2.filter (fun a => !isDeclLike cfg a)).map (codeResolveAttr stack cur) := by
    rw [ht]; simp [List.filter_append, List.filter_cons, hnd]
  rw [hsplit]
  rcases dedup_only_if [] _ (codeResolveAttr stack cur a) _ with h | ⟨hp, h | ⟨b, hb, hbp, hbn, hbl⟩⟩
  · exact Or.inl h
  · simp at h
  · right
    obtain ⟨a', ha', rfl⟩ := List.mem_map.mp hb
    have hm := List.mem_filter.mp ha'
    have e1 := codeResolveAttr_pfx stack cur a
    have e2 := codeResolveAttr_pfx stack cur a'
    refine ⟨by rw [← e1.1]; exact hp, a', hm.1, by simpa using hm.2, by rw [← e2.1]; exact hbp, hbn, ?_⟩
    rw [← e2.2.1, ← e1.2.1]; exact hbl

/-- outside `p:xmlns` the code's notion of "declaration" is the Spec's -/
theorem C16_isDeclLike_is_decl (a : RAttr)
    (h : a.name.loc = sXmlns → a.name.pfx = none ∨ a.name.pfx = some sXmlns) :
    isDeclLike TbCfg.code a = isDecl a.name := isDeclLike_eq TbCfg.code a (Or.inr h)

theorem C16_isDeclLike_fixed (a : RAttr) : isDeclLike TbCfg.fixed a = isDecl a.name :=
  isDeclLike_eq TbCfg.fixed a (Or.inl rfl)

/-! ### 3b. tokenizer: qualified names, the duplicate-attribute step -/

/-- `process_qname` splits a name iff it contains exactly one colon, neither first nor last -/
theorem C16_splitQName_split (p l : Str) (hp : p ≠ []) (hpc : ':' ∉ p) (hl : l ≠ []) (hlc : ':' ∉ l) :
    splitQName (p ++ ':' :: l) = ⟨some p, l⟩ := by
  unfold splitQName
  have hlen : ¬ utf8Len (p ++ ':' :: l) < 3 := by
    have := utf8Len_ge (p ++ ':' :: l)
    have h1 : 0 < p.length := by cases p <;> simp_all
    have h2 : 0 < l.length := by cases l <;> simp_all
    simp at this; omega
  simp only [hlen, ↓reduceIte]
  match p, hp, hpc with
  | c :: p', _, hpc =>
    have hc : c ≠ ':' := by intro e; subst e; simp at hpc
    have hr : ':' ∉ p' := by intro e; exact hpc (by simp [e])
    simp only [List.cons_append, qnameRun, hc, ↓reduceIte]
    rw [inName_app 1 p' l hr hl, afterColon_noColon _ _ hlc]
    simp only []
    have e1 : (c :: (p' ++ ':' :: l)).take (1 + p'.length) = c :: p' := by
      rw [Nat.add_comm]; simp only [List.take_succ_cons]; rw [take_app]
    have e2 : (c :: (p' ++ ':' :: l)).drop (1 + p'.length + 1) = l := by
      have : 1 + p'.length + 1 = (p'.length + 1) + 1 := by omega
      rw [this]; simp only [List.drop_succ_cons]; rw [drop_app]
    rw [e1, e2]

theorem C16_splitQName_some (raw p l : Str) (h : splitQName raw = ⟨some p, l⟩) :
    raw = p ++ ':' :: l ∧ p ≠ [] ∧ ':' ∉ p ∧ l ≠ [] ∧ ':' ∉ l := by
  unfold splitQName at h
  split at h
  · simp at h
  · rename_i col hcol
    split at hcol
    · simp at hcol
    · match raw, hcol with
      | [], hcol => simp [qnameRun] at hcol
      | c :: rest, hcol =>
        simp only [qnameRun] at hcol
        split at hcol
        · simp at hcol
        · rename_i hc
          obtain ⟨pre, post, rfl, h1, h2, h3, h4⟩ := inName_some 1 col rest hcol
          simp only [RName.mk.injEq, Option.some.injEq] at h
          obtain ⟨hp, hl⟩ := h
          subst h4
          have e1 : (c :: (pre ++ ':' :: post)).take (1 + pre.length) = c :: pre := by
            rw [Nat.add_comm]; simp only [List.take_succ_cons]; rw [take_app]
          have e2 : (c :: (pre ++ ':' :: post)).drop (1 + pre.length + 1) = post := by
            have : 1 + pre.length + 1 = (pre.length + 1) + 1 := by omega
            rw [this]; simp only [List.drop_succ_cons]; rw [drop_app]
          rw [e1] at hp; rw [e2] at hl
          subst hp; subst hl
          exact ⟨by simp, by simp, by simp [h1, Ne.symm hc], h2, h3⟩

theorem C16_splitQName_none (raw : Str) (h : (splitQName raw).pfx = none) : splitQName raw = ⟨none, raw⟩ := by
  unfold splitQName at h ⊢
  split
  · rfl
  · rename_i col hcol; simp [hcol] at h

/-- a name the tokenizer does not split keeps its raw text as local part (`:a`, `a:`, `a:b:c`, …) -/
-- (see `C16_splitQName_none`)


theorem mem_pushAttr (cfg : TokCfg) (attrs : List RAttr) (t x : RAttr) :
    x ∈ pushAttr cfg attrs t ↔ x = t ∨ x ∈ attrs := by
  unfold pushAttr; split <;> simp [or_comm]

theorem finishAttribute_mono (cfg : TokCfg) (acc : List RAttr) (a : RawAttr) (x : RAttr) (hx : x ∈ acc) :
    x ∈ finishAttribute cfg acc a := by
  unfold finishAttribute
  split
  · exact hx
  · split
    · exact hx
    · exact (mem_pushAttr _ _ _ _).mpr (Or.inr hx)

theorem tagAttrs_mono (cfg : TokCfg) (l : List RawAttr) (acc : List RAttr) (x : RAttr) (hx : x ∈ acc) :
    x ∈ l.foldl (finishAttribute cfg) acc := by
  induction l generalizing acc with
  | nil => exact hx
  | cons a rest ih => exact ih _ (finishAttribute_mono cfg acc a x hx)

theorem foldl_origin (cfg : TokCfg) (l : List RawAttr) (acc : List RAttr) (pre : List RawAttr)
    (hacc : ∀ y ∈ acc, ∃ b ∈ pre, y = ⟨splitQName b.name, b.value⟩) (x : RAttr)
    (hx : x ∈ l.foldl (finishAttribute cfg) acc) :
    ∃ b ∈ pre ++ l, x = ⟨splitQName b.name, b.value⟩ := by
  induction l generalizing acc pre with
  | nil => simpa using hacc x hx
  | cons a rest ih =>
    have := ih (finishAttribute cfg acc a) (pre ++ [a]) (by
      intro y hy
      unfold finishAttribute at hy
      split at hy
      · obtain ⟨b, hb, e⟩ := hacc y hy; exact ⟨b, by simp [hb], e⟩
      · split at hy
        · obtain ⟨b, hb, e⟩ := hacc y hy; exact ⟨b, by simp [hb], e⟩
        · rcases (mem_pushAttr _ _ _ _).mp hy with rfl | hy
          · exact ⟨a, by simp, rfl⟩
          · obtain ⟨b, hb, e⟩ := hacc y hy; exact ⟨b, by simp [hb], e⟩) hx
    simpa using this

/-- every attribute collected so far comes from an earlier raw attribute -/
theorem tagAttrs_origin (cfg : TokCfg) (l : List RawAttr) (x : RAttr)
    (hx : x ∈ l.foldl (finishAttribute cfg) []) :
    ∃ b ∈ l, x = ⟨splitQName b.name, b.value⟩ := by
  simpa using foldl_origin cfg l [] [] (by simp) x hx

/-- **C16 (attributes, tokenizer), with the fix of item 14**: an attribute (non-empty name) is
missing from the tag handed to the tree builder **only if** an earlier attribute of the tag has the
same qualified name — hence the same expanded name in every scope. -/
theorem C16_tok_dropped_only_if_fixed (l1 : List RawAttr) (a : RawAttr) (l2 : List RawAttr)
    (hne : a.name ≠ []) :
    (⟨splitQName a.name, a.value⟩ : RAttr) ∈ tagAttrs TokCfg.fixed (l1 ++ a :: l2) ∨
    ∃ b ∈ l1, splitQName b.name = splitQName a.name := by
  unfold tagAttrs
  rw [List.foldl_append, List.foldl_cons]
  by_cases hdup : isDup TokCfg.fixed (l1.foldl (finishAttribute TokCfg.fixed) []) a.name = true
  · right
    simp only [isDup, TokCfg.fixed, ↓reduceIte] at hdup
    obtain ⟨x, hx, hxe⟩ := List.any_eq_true.mp hdup
    obtain ⟨b, hb, rfl⟩ := tagAttrs_origin TokCfg.fixed l1 x hx
    exact ⟨b, hb, by simpa using hxe⟩
  · left
    apply tagAttrs_mono
    generalize List.foldl (finishAttribute _) [] l1 = acc at hdup ⊢
    unfold finishAttribute
    simp only [hne, ↓reduceIte, hdup, Bool.false_eq_true]
    exact (mem_pushAttr _ _ _ _).mpr (Or.inl rfl)

/-- **C16 (attributes, tokenizer)**, `_partial` for the pinned tree: the same conclusion provided no
earlier attribute's *local part* equals the new attribute's raw name unless the whole names agree
(`finish_attribute` compares `a.name.local` with the raw name).
Full statement: `C16_tok_dropped_only_if_fixed` for `TokCfg.code`; false: `C16_witness_item14`. -/
theorem C16_tok_dropped_only_if_partial (l1 : List RawAttr) (a : RawAttr) (l2 : List RawAttr)
    (hne : a.name ≠ [])
    (hclash : ∀ b ∈ l1, (splitQName b.name).loc = a.name → splitQName b.name = splitQName a.name) :
    (⟨splitQName a.name, a.value⟩ : RAttr) ∈ tagAttrs TokCfg.code (l1 ++ a :: l2) ∨
    ∃ b ∈ l1, splitQName b.name = splitQName a.name := by
  unfold tagAttrs
  rw [List.foldl_append, List.foldl_cons]
  by_cases hdup : isDup TokCfg.code (l1.foldl (finishAttribute TokCfg.code) []) a.name = true
  · right
    simp only [isDup, TokCfg.code, Bool.false_eq_true, ↓reduceIte] at hdup
    obtain ⟨x, hx, hxe⟩ := List.any_eq_true.mp hdup
    obtain ⟨b, hb, rfl⟩ := tagAttrs_origin TokCfg.code l1 x hx
    exact ⟨b, hb, hclash b hb (by simpa using hxe)⟩
  · left
    apply tagAttrs_mono
    generalize List.foldl (finishAttribute _) [] l1 = acc at hdup ⊢
    unfold finishAttribute
    simp only [hne, ↓reduceIte, hdup, Bool.false_eq_true]
    exact (mem_pushAttr _ _ _ _).mpr (Or.inl rfl)

/-- with the fix, no two attributes of the emitted tag have the same qualified name (so the tree
builder never sees a prefix declared twice) -/
theorem C16_tok_no_dup_qname_fixed (raw : List RawAttr) :
    ((tagAttrs TokCfg.fixed raw).map (·.name)).Nodup := by
  unfold tagAttrs
  suffices ∀ acc : List RAttr, (acc.map (·.name)).Nodup →
      ((raw.foldl (finishAttribute TokCfg.fixed) acc).map (·.name)).Nodup from this [] (by simp)
  induction raw with
  | nil => intro acc h; exact h
  | cons a rest ih =>
    intro acc h
    apply ih
    unfold finishAttribute
    split
    · exact h
    · split
      · exact h
      · rename_i hnd
        simp only [isDup, TokCfg.fixed, ↓reduceIte] at hnd
        have hnot : splitQName a.name ∉ acc.map (·.name) := by
          intro hm
          obtain ⟨x, hx, hxe⟩ := List.mem_map.mp hm
          exact hnd (List.any_eq_true.mpr ⟨x, hx, by simpa using hxe⟩)
        unfold pushAttr
        split
        · simp [List.nodup_cons, hnot, h]
        · rw [List.map_append, List.nodup_append]
          refine ⟨h, by simp, ?_⟩
          intro x hx y hy
          simp at hy; subst hy
          intro e; subst e; exact hnot hx

/-- **witness of item 14** (pinned tree): `<a p:x="1" x="2">` loses `x` although no earlier attribute
has its name (its expanded name differs from `p:x`'s whenever `p` is bound); with the attributes in
the other order both survive — the drop depends on attribute order.  A declaration is hit the same
way: `<a xmlns:p="u" p="1">` loses `p`, and `<a q:xmlns="1" xmlns="u">` loses the *declaration*. -/
theorem C16_witness_item14 :
    tagAttrs TokCfg.code [⟨['p', ':', 'x'], ['1']⟩, ⟨['x'], ['2']⟩] = [⟨⟨some ['p'], ['x']⟩, ['1']⟩] ∧
    tagAttrs TokCfg.code [⟨['x'], ['2']⟩, ⟨['p', ':', 'x'], ['1']⟩] =
      [⟨⟨none, ['x']⟩, ['2']⟩, ⟨⟨some ['p'], ['x']⟩, ['1']⟩] ∧
    tagAttrs TokCfg.code [⟨"xmlns:p".toList, ['u']⟩, ⟨['p'], ['1']⟩] = [⟨⟨some sXmlns, ['p']⟩, ['u']⟩] ∧
    tagAttrs TokCfg.code [⟨"q:xmlns".toList, ['1']⟩, ⟨sXmlns, ['u']⟩] = [⟨⟨some ['q'], sXmlns⟩, ['1']⟩] ∧
    tagAttrs TokCfg.fixed [⟨['p', ':', 'x'], ['1']⟩, ⟨['x'], ['2']⟩] =
      [⟨⟨some ['p'], ['x']⟩, ['1']⟩, ⟨⟨none, ['x']⟩, ['2']⟩] := by
  refine ⟨by decide +kernel, by decide +kernel, by decide +kernel, by decide +kernel, by decide +kernel⟩

/-- second consequence of item 14 on the pinned tree: `xmlns:p` twice is not recognised as a
duplicate (raw `xmlns:p` ≠ local `p`), both reach the builder — in reversed order, because
declarations are inserted at the front — so the *later* declaration wins -/
theorem C16_witness_dup_decl_reversed :
    tagAttrs TokCfg.code [⟨"xmlns:p".toList, ['u']⟩, ⟨"xmlns:p".toList, ['v']⟩] =
      [⟨⟨some sXmlns, ['p']⟩, ['v']⟩, ⟨⟨some sXmlns, ['p']⟩, ['u']⟩] ∧
    tagAttrs TokCfg.fixed [⟨"xmlns:p".toList, ['u']⟩, ⟨"xmlns:p".toList, ['v']⟩] =
      [⟨⟨some sXmlns, ['p']⟩, ['u']⟩] := by
  refine ⟨by decide +kernel, by decide +kernel⟩

/-! ## 4. tokenizer step and tree builder together, with the proposed fixes: no side condition left -/

/-- the declared prefix determines the declaration attribute's name -/
def declNameOf : Option Str → RName
  | none => ⟨none, sXmlns⟩
  | some l => ⟨some sXmlns, l⟩

theorem declOf_name (a : RAttr) (k u : Option Str) (h : declOf a = some (k, u)) : a.name = declNameOf k := by
  unfold declOf at h
  split at h
  · simp at h
  · rename_i hd
    split at h
    · simp at h
    · split at h
      · rename_i hp
        split at h
        · simp at h
        · simp at h
          obtain ⟨rfl, _⟩ := h
          cases hn : a.name with
          | mk pfx loc => simp [hn] at hp; simp [declNameOf, hp]
      · rename_i hp
        simp at h
        obtain ⟨rfl, _⟩ := h
        have hd' : isDecl a.name = true := by simpa using hd
        unfold isDecl at hd'
        cases hn : a.name with
        | mk pfx loc =>
          simp [hn] at hp hd'
          simp [hp] at hd'
          simp [declNameOf, hd'.1, hd'.2]

theorem noDupDecl_of_nodup_names (attrs : List RAttr) (h : (attrs.map (·.name)).Nodup) : NoDupDecl attrs := by
  unfold NoDupDecl frameOf
  induction attrs with
  | nil => simp
  | cons a rest ih =>
    simp only [List.map_cons, List.nodup_cons] at h
    simp only [List.filterMap_cons]
    match hd : declOf a with
    | none => exact ih h.2
    | some (k, u) =>
      simp only [List.map_cons, List.nodup_cons]
      refine ⟨?_, ih h.2⟩
      intro hk
      obtain ⟨⟨k', u'⟩, hm, hk'⟩ := List.mem_map.mp hk
      simp only at hk'; subst hk'
      obtain ⟨b, hb, hbd⟩ := List.mem_filterMap.mp hm
      have h1 := declOf_name a k' u hd
      have h2 := declOf_name b k' u' hbd
      exact h.1 (List.mem_map.mpr ⟨b, hb, by rw [h2, h1]⟩)

/-- what the tokenizer has lexed before its attribute step: tags with raw names, or any other token -/
inductive RawToken where
  | tag (t : RawTag)
  | other (t : Token)

def finishToken (cfg : TokCfg) : RawToken → Token
  | .tag t => .tag (finishTag cfg t)
  | .other t => t

/-- **C16 with the proposed fixes (tokenizer duplicate test on qualified names; `p:xmlns` an
ordinary attribute)**: for EVERY sequence of lexed tags and other tokens — no hypothesis — the builder
does not panic and the created elements are exactly those of the lexical-scope resolver. -/
theorem C16_resolve_source_fixed (raws : List RawToken)
    (hother : ∀ r ∈ raws, ∀ t, r = .other t → ∀ tg, t ≠ .tag tg) :
    ∃ s, run TbCfg.fixed State.init (raws.map (finishToken TokCfg.fixed)) = .ok s ∧
      s.createdList = resolve .prolog (raws.map (finishToken TokCfg.fixed)) := by
  apply C16_resolve_fixed
  intro t ht tg htg
  obtain ⟨r, hr, rfl⟩ := List.mem_map.mp ht
  match r, hr with
  | .tag rt, _ =>
    simp only [finishToken, Token.tag.injEq] at htg
    subst htg
    exact noDupDecl_of_nodup_names _ (C16_tok_no_dup_qname_fixed rt.attrs)
  | .other t', hr' =>
    simp only [finishToken] at htg
    exact absurd htg (hother _ hr' t' rfl tg)

end H5V.Props.C16
