import H5V.Lemmas.XmlTokSafe
/-!
C04 (XML tokenizer part) — parsing is total: no panic, all input consumed, EOF last.

Proved for the model `H5V.Model.XmlTok` of `xml5ever/src/tokenizer/mod.rs` + `char_ref/mod.rs` (every
`assert!`, `unwrap`, `expect`, `panic!`, slice index and `from_u32(..).unwrap()` of those files is an
explicit `.panic`/`.error` branch of the model):

* `C04_xml_no_panic`: from any machine satisfying `Safe` (every freshly created tokenizer does,
  `C04_xml_initial_safe`) no step takes a panic branch, and `Safe` is preserved.  This covers
  `discard_char`'s `assert!(c.is_some())`, `process_char_ref`'s state panic, the `name_buf`
  `expect`/`unwrap`s (`unconsume_name`, `finish_named`, the named states), `name_len > 0`, the slice
  indices of `finish_named`, `from_u32(c).unwrap()` (via the kernel-checked fact that every table value
  is a scalar value), `conv` and the `C1_REPLACEMENTS` index in `finish_numeric`, and the model's
  "table called in a state of the wrong reading kind" branches.
* `C04_xml_run_no_panic`, `C04_xml_runsTo_safe`, `C04_xml_feed_no_panic`, `C04_xml_session_no_panic`:
  the lift along the executable loop `run`, the relational runs, one `feed`, any sequence of `feed`s.
* `C04_xml_feed_drains`, `C04_xml_run_drains`, `C04_xml_feed_fn_drains`: an answer "need more input"
  comes with an empty queue.
* `C04_xml_finish_no_panic_partial`: `end()` from a `Safe` machine reports no error other than the
  exhaustion of the model's fuel for the `run` loop (all panic branches of `end_of_file`,
  `process_char_ref`, the loop and `eof_step` are excluded, and the `eof_step` loop's fuel is shown
  sufficient: `C04_xml_eof_loop_total`).
* `C04_xml_eof_is_last`, `C04_xml_finish_eof_is_last`: when `end()` finishes, the last token delivered
  is EOF.

Not in this file: that `run` never exhausts its fuel (`Props/C04XmlTerm.lean`); here "run out of fuel"
is the one outcome `C04_xml_finish_no_panic_partial` leaves aside, and `run … = .outOfFuel` is not
excluded for `feed` either.  NOT proved anywhere (no model can exhibit them): real stack depth,
allocation failure, wall-clock time.
-/
namespace H5V.Props.C04X
open H5V.Model.XmlTok

/-- every freshly created tokenizer (`XmlTokenizer::new`: any initial state, any `discard_bom`)
satisfies the invariant -/
theorem C04_xml_initial_safe (st : State) (bom : Bool) : Safe { state := st, discardBom := bom } :=
  Safe.of_none rfl

/-- **no step panics, and the invariant that guarantees it is preserved** -/
theorem C04_xml_no_panic (o : Opts) (m : Mach) (inp : Str) (hs : Safe m) :
    (∀ e, step o m inp ≠ .panic e) ∧
    (∀ m' inp', step o m inp = .cont m' inp' ∨ step o m inp = .suspend m' inp' → Safe m') :=
  step_safe' o m inp hs

/-- the executable loop `XmlTokenizer::run` never returns a panic from a `Safe` machine, and the
machine it suspends in is `Safe` again (so the next `feed` is covered) -/
theorem C04_xml_run_no_panic (o : Opts) (fuel : Nat) (m : Mach) (inp : Str) (hs : Safe m) :
    (∀ e, run o fuel m inp ≠ .panic e) ∧ (∀ m' inp', run o fuel m inp = .done m' inp' → Safe m') :=
  run_safe o fuel m inp hs

/-- along every relational run to suspension the invariant holds at the end -/
theorem C04_xml_runsTo_safe (o : Opts) {m : Mach} {inp : Str} {m' : Mach}
    (h : RunsTo o m inp m') : Safe m → Safe m' := by
  induction h with
  | susp hs => intro h0; exact (step_safe o _ _ h0).2 _ (by rw [hs]; rfl)
  | cont hs _ ih => intro h0; exact ih ((step_safe o _ _ h0).2 _ (by rw [hs]; rfl))

/-- `XmlTokenizer::feed` (BOM prologue + `run`) -/
theorem C04_xml_feed_no_panic (o : Opts) (m : Mach) (inp chunk : Str) (hs : Safe m) :
    (∀ e, feed o m inp chunk ≠ .panic e) ∧ (∀ m' inp', feed o m inp chunk = .done m' inp' → Safe m') :=
  feed_safe o m inp chunk hs

/-- feed the chunks one after the other, handing the queue left by a feed to the next one -/
def feedMany (o : Opts) : Mach → Str → List Str → RunRes
  | m, inp, [] => .done m inp
  | m, inp, c :: cs =>
    match feed o m inp c with
    | .done m' inp' => feedMany o m' inp' cs
    | r => r

/-- no sequence of `feed`s panics, and it leaves a `Safe` machine -/
theorem C04_xml_session_no_panic (o : Opts) (m : Mach) (inp : Str) (cs : List Str) (hs : Safe m) :
    (∀ e, feedMany o m inp cs ≠ .panic e) ∧ (∀ m' inp', feedMany o m inp cs = .done m' inp' → Safe m') := by
  induction cs generalizing m inp with
  | nil =>
    refine ⟨fun e => by simp [feedMany], fun m' inp' h => ?_⟩
    simp only [feedMany, RunRes.done.injEq] at h
    rw [← h.1]; exact hs
  | cons c cs ih =>
    obtain ⟨h1, h2⟩ := feed_safe o m inp c hs
    simp only [feedMany]
    cases hf : feed o m inp c with
    | done m1 i1 => exact ih m1 i1 (h2 m1 i1 hf)
    | panic e => exact absurd hf (h1 e)
    | outOfFuel => exact ⟨fun e => by simp, fun m' inp' h => by simp at h⟩

/-- a step that asks for more input has consumed everything available -/
theorem C04_xml_feed_drains (o : Opts) (m m' : Mach) (inp inp' : Str) (hg : Good m)
    (hat : m.atEof = false) (h : step o m inp = .suspend m' inp') : inp' = [] :=
  (step_resume o m m' inp inp' [] hg hat h).1

/-- … and so has the loop: `run` returns `Done` only with an empty queue (the look-ahead invariant
`Good` and `at_eof = false` hold again, so the statement applies to the next `feed`) -/
theorem C04_xml_run_drains (o : Opts) (fuel : Nat) (m m' : Mach) (inp inp' : Str) (hg : Good m)
    (hat : m.atEof = false) (h : run o fuel m inp = .done m' inp') :
    inp' = [] ∧ Good m' ∧ m'.atEof = false :=
  run_drains o fuel m m' inp inp' hg hat h

theorem C04_xml_feed_fn_drains (o : Opts) (m m' : Mach) (inp chunk inp' : Str) (hg : Good m)
    (hat : m.atEof = false) (h : feed o m inp chunk = .done m' inp') :
    inp' = [] ∧ Good m' ∧ m'.atEof = false :=
  feed_drains o m m' inp chunk inp' hg hat h

/-- every freshly created tokenizer satisfies the hypotheses of the `…_drains` theorems -/
theorem C04_xml_initial_good (st : State) (bom : Bool) :
    Good { state := st, discardBom := bom } ∧ ({ state := st, discardBom := bom } : Mach).atEof = false :=
  ⟨Or.inl rfl, rfl⟩

/-- the `eof_step` loop of `end()` is total: it neither panics nor exhausts the model's fuel -/
theorem C04_xml_eof_loop_total (o : Opts) (m : Mach) : ∃ m', eofLoop o 8 m = .ok m' :=
  eofLoop_ok o 8 m (by have := eofRank_le m.state; omega)

/-- **`end()` takes no panic branch** from a `Safe` machine.  The model reports exhaustion of the fuel
of the `run` loop inside `end()` as the error `"run out of fuel"`; that outcome is not excluded here
(it is by `C04_xml_finish_total`, `Props/C04XmlTerm.lean`).  Every other error — `end_of_file`'s panics, `process_char_ref`,
a panic inside the loop, `eof_step`, the `eof_step` loop's fuel — is. -/
theorem C04_xml_finish_no_panic_partial (o : Opts) (m : Mach) (hs : Safe m) (e : String)
    (h : finish o m = .error e) : e = "run out of fuel" :=
  finish_safe_partial o m hs e h

/-- the `eof_step` loop ends by delivering EOF -/
theorem C04_xml_eof_is_last (o : Opts) (fuel : Nat) (m m' : Mach) (h : eofLoop o fuel m = .ok m') :
    ∃ rest, m'.out = Token.eof :: rest :=
  eofLoop_eof_last o fuel m m' h

/-- when `end()` succeeds, the last token delivered is EOF -/
theorem C04_xml_finish_eof_is_last (o : Opts) (m m' : Mach) (h : finish o m = .ok m') :
    ∃ rest, m'.out = Token.eof :: rest :=
  finish_eof_last o m m' h

/-! ### non-vacuity -/

/-- a fresh tokenizer reading `<` -/
example : step ⟨false⟩ {} ['<'] = .cont { state := .tagState, currentChar := '<' } [] := by rfl

/-- a `Safe` machine with a named character reference in progress (`&am` read so far, inside a
double-quoted attribute value) takes a `.cont` step on `p`: the walk finds `amp` in the table -/
def mAmp : Mach :=
  { state := .tagAttrValue .doubleQuoted,
    charRef := some { state := .named, addnlAllowed := some '"', nameBuf := some ['a', 'm'] } }

theorem mAmp_safe : Safe mAmp :=
  ⟨fun _ _ => Or.inr ⟨_, rfl⟩, fun cr h => by
    simp only [mAmp, Option.some.injEq] at h
    subst h
    exact CRSafe.of_nomatch rfl (fun _ => by simp)⟩

example : step ⟨false⟩ mAmp ['p', ';'] =
    .cont { mAmp with
      currentChar := 'p',
      charRef := some { state := .named, addnlAllowed := some '"', nameBuf := some ['a', 'm', 'p'],
                        nameMatch := some (38, 0), nameLen := 3 } } [';'] := by rfl

/-- `end()` with that reference pending: `&am` is flushed into the attribute value, the tag is emitted
with an EOF error, then EOF -/
example : (match finish ⟨false⟩ mAmp with | .ok m => m.out.head? | .error _ => none) = some Token.eof := by
  rfl

end H5V.Props.C04X
