import H5V.Gen.TraceFields
import H5V.Props.C20
import H5V.Lemmas.DomReach
/-!
C18 — `trace_handles` reports every node the tree builder still needs.

(a) **Every `Handle`-bearing field is traced** (`C18_fields_html`, `C18_fields_xml`): the field lists
of `struct TreeBuilder` / `struct XmlTreeBuilder` and the fields reported inside `trace_handles`
are regenerated from /repo on every run (`tools/extract.py` → `H5V.Gen.TraceFields`); adding a
field whose type mentions `Handle` without tracing it, or deleting a `trace_handle` call, makes the
`decide` below fail and names the field.

(b) **On the DOM model**: `Reach d roots x` — `x` is connected to a traced root by parent / children /
template-contents links, i.e. survives a collection.  Every sink call that cannot detach a node
keeps every link, so what was reachable stays reachable (`C18_reach_step`, lifted to call sequences
`C18_reach_run`); `remove_from_parent` and `reparent_children` keep it reachable once the two ends of
the cut are roots (`C18_reach_remove`, `C18_reach_reparent`) — in the tree builders both are handles
on the stack of open elements; a freshly created node is a root by itself.

That every handle the tree builders *later pass to the sink* is, at each suspension point, connected
to a traced root is decided by the GC-simulating sink on the real parsers (`tools/props/C18.py`); on
the tree-builder models it is proved in `H5V.Props.C18Reach` (HTML) and `H5V.Props.C18Xml` (XML).
-/
namespace H5V.Props.C18
open H5V.Model.Dom H5V.Lemmas.Dom H5V.Props.C20 H5V.Gen.TraceFields

/-- every field of html5ever's `TreeBuilder` whose type mentions `Handle` is reported by `trace_handles` -/
theorem C18_fields_html : ∀ f ∈ htmlHandleFields, f ∈ htmlTraced := by decide

/-- every field of xml5ever's `XmlTreeBuilder` whose type mentions `Handle` is reported by `trace_handles` -/
theorem C18_fields_xml : ∀ f ∈ xmlHandleFields, f ∈ xmlTraced := by decide

/-- … and `trace_handles` reports nothing but fields of the struct, each at most once -/
theorem C18_traced_are_fields : (∀ f ∈ htmlTraced, f ∈ htmlFields) ∧ (∀ f ∈ xmlTraced, f ∈ xmlFields) ∧
    htmlTraced.Nodup ∧ xmlTraced.Nodup := by decide

-- non-vacuity: the lists are the ones of the source
example : htmlHandleFields.length = 6 ∧ xmlHandleFields.length = 3 ∧ "doc_handle" ∈ htmlHandleFields := by decide

/-- **a call that cannot detach a node keeps everything reachable** -/
theorem C18_reach_step {d d' : Dom} {op : SinkOp} {out : Output} (hc : Contract d op)
    (h : d.apply op = .ok (d', out)) (hop : NeverDetaches d op) {roots : List Id} {x : Id}
    (hx : Reach d roots x) : Reach d' roots x := by
  rw [apply_eq] at h
  exact hx.of_links (LinksKept.applyV hc h hop)

/-- a run of non-detaching contract-abiding calls -/
inductive QuietRun : Dom → List SinkOp → Dom → Prop
  | nil {d : Dom} : QuietRun d [] d
  | cons {d d1 d2 : Dom} {op : SinkOp} {ops : List SinkOp} {out : Output} :
      Contract d op → NeverDetaches d op → d.apply op = .ok (d1, out) → QuietRun d1 ops d2 →
      QuietRun d (op :: ops) d2

theorem C18_reach_run {d d' : Dom} {ops : List SinkOp} (hr : QuietRun d ops d') {roots : List Id} {x : Id}
    (hx : Reach d roots x) : Reach d' roots x := by
  induction hr with
  | nil => exact hx
  | cons hc hn ha _ ih => exact ih (C18_reach_step hc ha hn hx)

/-- `remove_from_parent(t)` cuts one link: with `t` and its old parent as additional roots nothing
becomes unreachable -/
theorem C18_reach_remove {d d' : Dom} (hi : Inv d) {t : Id} (h : d.removeFromParent t = .ok d')
    {roots : List Id} {x : Id} (hx : Reach d roots x) :
    Reach d' (t :: ((d.parentOf t).toList ++ roots)) x := hx.removeFromParent hi.wf h

/-- `reparent_children(n, np)`: with `n` and `np` as additional roots nothing becomes unreachable -/
theorem C18_reach_reparent {d d' : Dom} (hi : Inv d) {n np : Id} (h : d.reparentChildren n np = .ok d')
    {roots : List Id} {x : Id} (hx : Reach d roots x) : Reach d' (n :: np :: roots) x :=
  hx.reparentChildren hi.wf h

/-- roots that are themselves reachable add nothing; more roots never hurt -/
theorem C18_reach_roots {d : Dom} {r1 r2 : List Id} (h : ∀ x ∈ r1, Reach d r2 x) {x : Id}
    (hx : Reach d r1 x) : Reach d r2 x := hx.trans_roots h

/-- template contents are connected to their template element (a handle obtained by
`get_template_contents` of a reachable element is reachable) -/
theorem C18_reach_template {d : Dom} {roots : List Id} {x t : Id} (hx : Reach d roots x)
    (h : d.getTemplateContents x = .ok t) : Reach d roots t := by
  refine Reach.template hx ?_
  unfold Dom.getTemplateContents at h
  simp only [bind, Except.bind] at h
  cases hg : d.get x with
  | error e => simp [hg] at h
  | ok n =>
    have hn := get_ok.mp hg
    simp only [hg] at h
    unfold Dom.templateContentsOf
    rw [dataOf_of_node hn]
    cases hd : n.data with
    | element nm a tc ip =>
      cases tc with
      | none => simp [hd, throw, throwThe, MonadExceptOf.throw] at h
      | some tc => simp [hd] at h; simp [h]
    | document | doctype _ _ _ | comment _ | text _ | pi _ _ =>
      simp [hd, throw, throwThe, MonadExceptOf.throw] at h

-- non-vacuity: in `exDom` (C20) everything attached to the document is reachable from the document,
-- the detached element 2 is not
example : Reach exDom [0] 4 :=
  Reach.child (x := 5) (Reach.child (x := 1) (Reach.child (x := 0) (Reach.root (by simp)) (by decide)) (by decide)) (by decide)

end H5V.Props.C18
