import H5V.Lemmas.HtmlParseSpecAgree3
import H5V.Lemmas.HtmlParseSpecProto2
import H5V.Lemmas.HtmlParseSpecOutWf
import H5V.Lemmas.HtmlParseSpecHist
import H5V.Props.C01Sim
import H5V.Props.C02Modes
import H5V.Props.C03Joint
/-!
# C02 capstone — the MODEL of html5ever's whole parser performs the DOM construction of the WHATWG algorithm

For every input text `s`, the joint model of `driver.rs` (the tokenizer model with the tree-builder model as its
sink, `H5V.Model.HtmlTB.Joint`, fed `s` and finished: `H5V.Props.C03.parseChunks`) makes exactly the DOM calls
that the WHATWG pipeline `H5V.Spec.Parse.specParse` — the two INDEPENDENT specifications `Spec.HtmlTokenizer` and
the UNMODIFIED `Spec.TreeModes`, coupled by the standard's own feedback (`Spec.Parse.treeOfSpec`) — prescribes
for `s`; it leaves the document in the same mode, ends in the same insertion mode, gives the tokenizer the same
answers; and the token stream the tokenizer model delivered IS the specification's token stream.

It composes
* `C01_model_eq_spec_exact` (tokenizer model = `Spec.HtmlTokenizer.tokenize` for a policy/feedback pair `PolTree`),
* the per-token simulation of C02Modes (`pc_processToken`, here as the lock-step run `Lock` with the unmodified
  specification under the invariant `ModesInv.Inv`: the Assert of "in cell" cannot fail),
* the joint driver as a relation (`JRunsTo`/`JRunsD`, C03Joint), `C03_joint_chunk_independence`, and C03Tree
  (`C03_tree_resplit_run`, `C03_tb_sim_step`: re-splitting of character tokens, line numbers),
by means of: the naturality of `Tokenizer::step` in the `out` register (`step_shift'`), which turns the joint
loop into a tokenizer-only run under a history policy (`jruns_star`, `feed_star`, `FinishData.star`); the policy
`polOfTree (treeOfSpec c)` for which `PolTree` holds by construction; the bridge `agrees_of_stream(X)`: that
policy answers like the tree-builder MODEL after every history the run passes through (tag answers:
`OutRelR`, `processToken_rawKind`; the CDATA question: `acn_bridge`); facts about the tokenizer's output
(`feed_finish_outWf`) and the "text" insertion mode protocol as a FACT of the joint run (`parse_hist_text`).

## Theorems (all for: any `exact_errors`, both values of `discard_bom`, `opts.quirksMode = .noQuirks`)
* `C02_parse_eq_spec_total` (in `H5V/Props/C02ParseTotal.lean`) — THE HEADLINE: `C02_parse_eq_spec_facts` with
  `EmptyOk` proved (`parse_hist_empty`).
* `C02_parse_eq_spec_facts`.  Hypotheses about the run, all decidable on the output
  (`ExParse.check3`): `opts.dropDoctype = false`; no tag of the delivered stream carries a `shadowrootmode`
  attribute (declarative shadow roots are outside `Spec.TreeModes`); `EmptyOk` (below).  Everything else that
  C02Modes' protocol `Respects2` asks is PROVED: tag names lower-case, attribute names distinct, no U+0000 in
  character tokens, EOF once and last (`feed_finish_outWf`); in the "text" insertion mode only characters / end
  tags / EOF / parse errors arrive (`parse_hist_text`: `step_textSt`, `processToken_enters_text`, …);
  `drop_doctype` / "initial" clauses (`processToken_opts`, `processToken_initial`).
  Conclusion `ParseAgreesX`: the specification's tokens = the model's tokens (exploded); `specParse … = .ok σ`;
  `σ.fullLog` = the DOM calls of the tree-builder model REPLAYING the exploded stream (`explode ts`: every character
  token cut into single characters), a run that ends with the DOM arena, quirks mode and answers of the joint run
  (C03); `σ.quirks`, `σ.mode`, `σ.outs` agree with the joint run.
* `C02_parse_eq_spec` — the joint run's OWN sink trace against `σ.fullLog` (conclusion `ParseAgrees`); needs
  `TokStreamOk`: `Respects2` of the delivered stream and every character token holding exactly ONE character.
  (`Spec.TreeModes.run` is only *intended* to be invariant under regrouping of character tokens; the tokenizer model
  emits multi-character tokens only from `emit_temp_buf`: CDATA sections and `</xy` inside RCDATA/RAWTEXT/script
  data.)
* `C02_parse_eq_spec_regrouped` (`TokStreamOkX` = `Respects2` of the exploded stream + `EmptyOk`) and
  `C02_parse_eq_spec_protocol` (`RespectsP` + `EmptyOk`) — the intermediate forms.
* `C02_parse_eq_spec_chunked`, `C02_parse_eq_spec_facts_chunked` — the text fed in any number of pieces
  (`C03_joint_chunk_independence`).
* `modelStream_total` — the token stream `modelStream o opts bom s` (what the tokenizer model delivers to the
  tree-builder model) exists for every input.

## What is assumed / not modelled
* `EmptyOk` (hypothesis of the theorems of THIS file only): whenever an EMPTY character token arrives, the tree builder's `ignore_lf` flag is clear.
  FINDING: the tokenizer does deliver an empty character token for `<![CDATA[]]>` in foreign content (and for EOF
  inside an empty CDATA section): `emit_temp_buf` with an empty buffer — `ExParse.empty_chars_token`.  The
  tree-builder model drops the token before the rules, but `process_token` has already taken (= cleared)
  `ignore_lf`; the specification has no token there.  With the flag clear the token only moves the line counter
  (`empty_chars_run`).  The flag is only set by `pre`/`listing`/`textarea` start tags, after which no CDATA section
  can start, so `EmptyOk` always holds: PROVED in `H5V.Lemmas.HtmlParseSpecEmptyProto` (`parse_hist_empty`) and discharged
  in `H5V/Props/C02ParseTotal.lean`.
* Scripts: the parse pauses at `</script>` (and at an encoding indicator) and is resumed at once: no script changes
  the tree or the input stream (neither side models script execution); scripting flag on or off.
* The joint run is assumed to succeed (`parseChunks … = .ok jf`): the tree-builder model is total only up to the
  residual failures of C04/C05 (meta-prescan messages, `maybe_clone_an_option_into_selectedcontent`).
* `fuel` (reprocessing steps per token) and the node supply `ids ++ rest` are parameters of the specification's
  run: "there are `ids` such that for all `rest` and all sufficient `fuel`".
-/
namespace H5V.Props.C02
open H5V.Model.HtmlTB
open H5V.Model.Dom (Id SinkOp Output Dom QualName Attr NodeOrText ElementFlags NodeData QuirksMode)
open H5V.Lemmas.HtmlTBAlgo
open H5V.Lemmas.HtmlTBModes
open H5V.Lemmas.TBSafe (TI HInv SInv)
open H5V.Props.C04TB (docStart)
open H5V.Model.HtmlTB.Joint (JState absorb polOf conv convTag toSinkRes)
open H5V.Lemmas.JointChunk
open H5V.Lemmas.ParseSpec
open H5V.Lemmas.HtmlTokSpec (flat flatTok PolTree)
open H5V.Spec.HtmlTokenizer (Emit Tree Switch)
open H5V.Spec.Parse (Cfg treeOfSpec specParse specTokens treeTok treeToken)
open H5V.Props.C03 (parseChunks Start)
open H5V.Model.HtmlTok (Mach Pol feedBom NoPause)

abbrev Chs := List Char

/-! ## the model side -/

/-- the tokenizer `Tokenizer::new` creates for a document (data state, `discard_bom` as given) -/
def tok0 (bom : Bool) : Mach := H5V.Props.C01.initMach .data none bom

/-- the sink "tree-builder model of a document parse with the options `opts`", as a policy over the history of
delivered tokens; a pause (Script / EncodingIndicator) is resumed at once -/
def polH (opts : Opts) : Pol :=
  { onTag := fun out tag => np ((polOf (j0Of opts)).onTag out tag)
    cdataOk := (polOf (j0Of opts)).cdataOk }

/-- **the token stream of a document parse**: what the tokenizer model delivers to the tree-builder model when
fed `s` in one piece (a pure function of the input) -/
def modelStream (o : TOpts) (opts : Opts) (bom : Bool) (s : Chs) : Option (List (TokToken × Nat)) :=
  match H5V.Model.HtmlTok.feed o (polH opts) (tok0 bom) [] s with
  | .done m1 _ =>
    match H5V.Model.HtmlTok.finish o (polH opts) m1 with
    | .ok mf => some (convAll mf.out.reverse)
    | .error _ => none
  | _ => none

theorem noPause_polH (opts : Opts) : NoPause (polH opts) := by
  intro out tag
  show np _ ≠ _ ∧ np _ ≠ _
  cases (polOf (j0Of opts)).onTag out tag <;> simp [np]

theorem agrees_polH (opts : Opts) : Agrees (polH opts) (j0Of opts) (fun _ => True) where
  suf := fun _ _ _ => trivial
  tag := fun X tag _ _ jx hjx => by
    show np ((polOf (j0Of opts)).onTag X tag) = _
    rw [polOf_onTag, hjx]
  cdata := fun X _ jx hjx => by
    show (polOf (j0Of opts)).cdataOk X = _
    rw [polOf_cdataOk, hjx]

/-- the token stream exists for EVERY input: the tokenizer model neither panics nor hangs under any sink
(`C04_tok_feed_terminates`, `C04_tok_end_total`) -/
theorem modelStream_total (o : TOpts) (opts : Opts) (bom : Bool) (s : Chs) :
    ∃ ts, modelStream o opts bom s = some ts := by
  unfold modelStream
  have hti : H5V.Model.HtmlTok.TInv (tok0 bom) := H5V.Model.HtmlTok.tinv_fresh _ rfl rfl rfl
  have hq0 : H5V.Model.HtmlTok.Quiet (tok0 bom) := H5V.Model.HtmlTok.quiet_fresh _ rfl rfl rfl
  obtain ⟨h1, h2⟩ := H5V.Props.C04.C04_tok_feed_terminates o (polH opts) (tok0 bom) [] s hti
  cases hf : H5V.Model.HtmlTok.feed o (polH opts) (tok0 bom) [] s with
  | done M1 i1 =>
    simp only
    obtain ⟨mf, hmf⟩ := H5V.Model.HtmlTok.finish_end_total o (polH opts) M1
      (H5V.Model.HtmlTok.feed_stops_quiet o (polH opts) _ [] s hq0 M1 i1 (by rw [hf]; rfl))
    rw [hmf]
    exact ⟨_, rfl⟩
  | script a b =>
    exfalso
    unfold H5V.Model.HtmlTok.feed at hf
    dsimp only at hf
    split at hf
    · cases hf
    · exact (H5V.Model.HtmlTok.run_noPause o (polH opts) (noPause_polH opts) _ _ _).1 a b hf
  | indicator a b =>
    exfalso
    unfold H5V.Model.HtmlTok.feed at hf
    dsimp only at hf
    split at hf
    · cases hf
    · exact (H5V.Model.HtmlTok.run_noPause o (polH opts) (noPause_polH opts) _ _ _).2 a b hf
  | panic e => exact absurd hf (h2 e)
  | outOfFuel => exact absurd hf h1

/-! ## the hypothesis on the token stream -/

/-- what the theorem needs of the token stream `ts` the tokenizer delivered (see the header) -/
structure TokStreamOk (opts : Opts) (ts : List (TokToken × Nat)) : Prop where
  resp : Respects2 (docStart opts) ts
  single : ∀ p ∈ ts, ∀ x, p.1 = .chars x → ∃ c, x = [c]

def tokStreamOkB (opts : Opts) (ts : List (TokToken × Nat)) : Bool :=
  respects2B (docStart opts) ts &&
  ts.all (fun p => match p.1 with | .chars x => x.length == 1 | _ => true)

theorem tokStreamOk_of_B {opts : Opts} {ts : List (TokToken × Nat)}
    (h : tokStreamOkB opts ts = true) : TokStreamOk opts ts := by
  simp only [tokStreamOkB, Bool.and_eq_true, List.all_eq_true] at h
  obtain ⟨h1, h2⟩ := h
  refine ⟨respects2_of_B _ _ h1, fun p hp x hx => ?_⟩
  have := h2 p hp
  rw [hx] at this
  simp only [beq_iff_eq] at this
  match x, this with
  | [c], _ => exact ⟨c, rfl⟩

/-- the hypothesis of the general theorem: the protocol holds for the EXPLODED stream (every character token
cut into single characters, empty character tokens erased), and whenever an empty character token arrives the
tree builder's `ignore_lf` flag is clear (`EmptyOk`) -/
structure TokStreamOkX (opts : Opts) (ts : List (TokToken × Nat)) : Prop where
  resp : Respects2 (docStart opts) (explode ts)
  emptyOk : EmptyOk (docStart opts) ts

def tokStreamOkXB (opts : Opts) (ts : List (TokToken × Nat)) : Bool :=
  respects2B (docStart opts) (explode ts) && emptyOkB (docStart opts) ts

theorem tokStreamOkX_of_B {opts : Opts} {ts : List (TokToken × Nat)}
    (h : tokStreamOkXB opts ts = true) : TokStreamOkX opts ts := by
  simp only [tokStreamOkXB, Bool.and_eq_true] at h
  exact ⟨respects2_of_B _ _ h.1, emptyOk_of_B _ _ h.2⟩

/-! ## the conclusion -/

/-- the model's run `jf` agrees with the specification's pipeline run with the parameters `c` on `input`;
`ts` is the token stream the tokenizer model delivered -/
def ParseAgrees (c : Cfg) (input : Chs) (ts : List (TokToken × Nat)) (jf : JState) : Prop :=
  ∃ σ : SState,
    -- the specification's tokenizer (coupled with its tree construction stage) delivers the model's tokens …
    (specTokens c input).map (fun l => l.filterMap treeToken) = some (specToks ts) ∧
    -- … the pipeline runs to the end …
    specParse c input = .ok σ ∧
    -- … with the DOM operations of the model's sink trace, in the same order (text compared per character) …
    (∃ calls, jf.tb.traceRev = calls.reverse ++ [(.getDocument, .node 0)] ∧
      ∀ tc, TcOk jf.tb.dom tc → flatCalls (edits2 calls) = flatCalls (σ.fullLog.map (opCall tc))) ∧
    -- … the same document mode, the same final insertion mode …
    σ.quirks = dmode jf.tb.quirksMode ∧ σ.mode = imode jf.tb.mode ∧
    -- … and the same answers to the tokenizer (state switches, scripts to run)
    jf.results.reverse.filterMap resAnswer = σ.outs.filterMap outAnswer

/-! ## unfolding the driver -/

theorem start_tok0 (bom : Bool) : Start (tok0 bom) := H5V.Props.C03.start_fresh .data none bom

/-! ## tokens -/

theorem treeToken_toToken (e : Emit) : treeToken (Emit.toToken e) = some (treeTok e) := by
  cases e <;> rfl

theorem filterMap_treeToken_canon (out : TOut) :
    (H5V.Props.C01.canon out).filterMap treeToken = (flat out).reverse.map treeTok := by
  rw [H5V.Props.C01.canon_eq_flat, List.filterMap_map]
  induction (flat out).reverse with
  | nil => rfl
  | cons e l ih =>
    rw [List.filterMap_cons, List.map_cons]
    simp only [Function.comp, treeToken_toToken, ih]

/-! ## the headline -/

/-- **C02, whole documents: the model of html5ever's parser = the WHATWG pipeline.**  For every input text `s`,
every tokenizer option (`exact_errors` on or off), both values of `discard_bom`, every tree-builder option set
with the default document mode: if the joint model (tokenizer with the tree builder as its sink, pauses resumed
at once), fed `s` in one piece and finished, succeeds with the joint state `jf`, and the token stream `ts` it
delivered satisfies `TokStreamOk`, then there are node identities `ids` (the ones the sink handed out) such that
for every further supply `rest` and every sufficient amount of reprocessing fuel the specification's pipeline
`specParse` on the same text (after the optional byte order mark) delivers the same tokens, succeeds, and ends
in a state with the model's DOM calls as its operation log, the model's document mode and the model's insertion
mode — unless the specification stops at the Assert of "in cell". -/
theorem C02_parse_eq_spec (o : TOpts) (opts : Opts) (hq : opts.quirksMode = .noQuirks) (bom : Bool) (N : Nat)
    (s : Chs) (jf : JState) (hrun : parseChunks o N (tok0 bom) (j0Of opts) [s] = .ok jf)
    (ts : List (TokToken × Nat)) (hts : modelStream o opts bom s = some ts) (hok : TokStreamOk opts ts) :
    ∃ ids, ∀ rest, ∃ F, ∀ fuel, F ≤ fuel →
      ParseAgrees ⟨docCfg opts, fuel, ids ++ rest⟩ (H5V.Props.C01.stripBom bom s) ts jf := by
  -- the history of the joint run
  obtain ⟨Hf, j3, ph⟩ := parse_hist (start_tok0 bom) hrun
  obtain ⟨le, rest0, hE⟩ := ph.eofHead
  have hHf := ph.hist
  have hft := ph.fin
  have hres := ph.res
  -- the delivered stream is `convAll Hf.reverse`
  have hstream : ts = convAll Hf.reverse := by
    unfold modelStream at hts
    cases hf : H5V.Model.HtmlTok.feed o (polH opts) (tok0 bom) [] s with
    | done M1 i1 =>
      rw [hf] at hts
      simp only at hts
      cases hfi : H5V.Model.HtmlTok.finish o (polH opts) M1 with
      | error e => rw [hfi] at hts; cases hts
      | ok mf =>
        rw [hfi] at hts
        simp only [Option.some.injEq] at hts
        rw [← hts, ph.star (polH opts) (noPause_polH opts) _ (agrees_polH opts) (fun _ _ => trivial) M1 i1 mf hf hfi]
    | script _ _ => rw [hf] at hts; cases hts
    | indicator _ _ => rw [hf] at hts; cases hts
    | panic _ => rw [hf] at hts; cases hts
    | outOfFuel => rw [hf] at hts; cases hts
  subst hstream
  -- the lock-step run of the tree builder and the specification over the stream
  have hmodel := absorb_model _ _ _ hHf
  obtain ⟨ids, f⟩ := lock_of_run (convAll Hf.reverse) [] (docStart opts) (H5V.Props.C04TB.C04_tb_inv_new opts)
    (minv_docStart opts) (xinv_docStart opts) hok.resp hmodel
  refine ⟨ids, fun rest => ?_⟩
  obtain ⟨x', F, _, hF⟩ := f { supply := ids ++ rest } rest (auxOk_docStart opts _) rfl
  refine ⟨F, fun fuel hfu => ?_⟩
  have hlock := hF fuel hfu
  -- the data of the stream
  have hsingle : SingleChars Hf := by
    intro p hp x hx
    exact hok.single _ (mem_convAll (l := Hf.reverse) (p := p) (by simpa using hp) (by rw [hx]; rfl)) x rfl
  have d : StreamData opts ⟨docCfg opts, fuel, ids ++ rest⟩ Hf j3 x' :=
    ⟨rfl, hHf, hlock, hok.resp, hsingle⟩
  have hag := agrees_of_stream hq d
  -- the tokenizer theorem for the policy of the coupling
  have hnp := noPause_polOfTree (treeOfSpec ⟨docCfg opts, fuel, ids ++ rest⟩)
  obtain ⟨m1', mf', hf1, hf2, htok⟩ := H5V.Props.C01.C01_model_eq_spec_exact o _ _
    (polTree_polOfTree _ (treeOfSpec_ne_data ⟨docCfg opts, fuel, ids ++ rest⟩)) .data none bom (by decide) s
  have hout : mf'.out = Hf := ph.star _ hnp _ hag (fun _ hX => hX) m1' [] mf' hf1 hf2
  rw [hout] at htok
  -- the tokens
  have hHf' : Hf = (H5V.Model.HtmlTok.Token.eof, le) :: rest0 := hE
  have hcv : convAll Hf.reverse = convAll rest0.reverse ++ [(TokToken.eof, le)] := by
    rw [hHf', List.reverse_cons, convAll_append]; rfl
  have hl' := hlock
  rw [hcv] at hl'
  obtain ⟨sp, xp, hlp, _⟩ := Lock.split hl'
  have hne := hlp.noEof (q := [(TokToken.eof, le)]) (by simp) (by rw [← hcv]; exact hok.resp)
  have hneX : NoEof rest0 := by
    intro p hp he
    have hm : (TokToken.eof, p.2) ∈ convAll rest0.reverse :=
      mem_convAll (l := rest0.reverse) (p := p) (List.mem_reverse.mpr hp) (by rw [he]; rfl)
    exact hne _ hm rfl
  have hsX : SingleChars rest0 := fun p hp => hsingle p (by rw [hHf']; exact List.mem_cons_of_mem _ hp)
  have htoks : (H5V.Props.C01.canon Hf ++ [H5V.Model.HtmlTok.Token.eof]).filterMap treeToken
      = specToks (convAll Hf.reverse) := by
    rw [List.filterMap_append, filterMap_treeToken_canon, hcv, specToks_append, specToks_convAll _ hsX hneX]
    have hfl : flat Hf = flat rest0 := by rw [hHf']; rfl
    rw [hfl]
    rfl
  have hspecT : specTokens ⟨docCfg opts, fuel, ids ++ rest⟩ (H5V.Props.C01.stripBom bom s)
      = some (H5V.Props.C01.canon Hf ++ [H5V.Model.HtmlTok.Token.eof]) := htok
  -- the tree construction stage over all the tokens
  have hrunS : Spec.TreeModes.run (docCfg opts) fuel (Spec.TreeModes.initialState (ids ++ rest))
      (specToks (convAll Hf.reverse)) = .ok (absF j3.tb x') := by
    have h1 := (hlock.runStd (xinv_docStart opts _ (auxOk_docStart opts _))).1
    rw [absF_docStart opts hq] at h1
    exact h1
  -- the end of the model's run: `TreeBuilder::end`
  obtain ⟨ops, calls, he1, e1, k1⟩ := hlock.log
  obtain ⟨calls2, he2, hs2, hc2⟩ := PC.of_tot (tot_finishTB j3.tb) () jf.tb hft
  obtain ⟨os, hos, hans⟩ := hlock.answers
  refine ⟨absF j3.tb x', ?_, ?_, ⟨calls ++ calls2, ?_, fun tc htc => ?_⟩, ?_, ?_, ?_⟩
  · rw [hspecT]; simp only [Option.map_some]; rw [htoks]
  · unfold specParse
    rw [hspecT]
    simp only
    rw [htoks]
    exact hrunS
  · rw [he2.trace, he1.trace]
    simp [docStart]
  · have hext : H5V.Lemmas.TBSafe.Ext j3.tb.dom jf.tb.dom := replay_ext he2.replay
    have e0 : ({ supply := ids ++ rest } : Aux).fullLog = [] := rfl
    rw [absF_fullLog, e1, e0, List.nil_append, edits2_append, ← edits2_edits calls2, hc2, edits2_nil, List.append_nil]
    exact k1 tc (tcOk_of_ext htc hext)
  · show dmode j3.tb.quirksMode = dmode jf.tb.quirksMode
    rw [hs2]
  · show imode j3.tb.mode = imode jf.tb.mode
    rw [hs2]
  · show _ = x'.outs.filterMap outAnswer
    rw [hres, hans [] j3.results j3.tb hmodel, hos]
    rfl


/-! ## every grouping of the character tokens -/

/-- the conclusion of the general theorem: as `ParseAgrees`, but the specification's DOM operations are compared
with the sink trace of the tree-builder model fed the EXPLODED stream (`explode ts`); that run ends with the
same DOM arena, the same quirks mode and the same answers as the joint run `jf` -/
def ParseAgreesX (opts : Opts) (c : Cfg) (input : Chs) (ts : List (TokToken × Nat)) (jf : JState) : Prop :=
  ∃ σ : SState,
    (specTokens c input).map (fun l => l.filterMap treeToken) = some (specToks (explode ts)) ∧
    specParse c input = .ok σ ∧
    (∃ res se calls, (H5V.Props.C04TB.parseDocument (explode ts)).run (State.init opts) = .ok (res, se) ∧
      se.traceRev = calls.reverse ++ [(.getDocument, .node 0)] ∧
      (∀ tc, TcOk se.dom tc → flatCalls (edits2 calls) = flatCalls (σ.fullLog.map (opCall tc))) ∧
      se.dom.nodes = jf.tb.dom.nodes ∧ se.dom.quirks = jf.tb.dom.quirks ∧ res = jf.results) ∧
    σ.quirks = dmode jf.tb.quirksMode ∧ σ.mode = imode jf.tb.mode ∧
    jf.results.reverse.filterMap resAnswer = σ.outs.filterMap outAnswer

/-- **C02, whole documents, every grouping of character tokens.**  As `C02_parse_eq_spec`, without the
restriction to single-character tokens: the protocol hypothesis is asked of the exploded stream, and the
specification's DOM operations are those of the tree-builder model REPLAYING the exploded stream — a run that by
C03 (`C03_tree_resplit_run`) ends with the DOM arena, quirks mode and answers of the joint run. -/
theorem C02_parse_eq_spec_regrouped (o : TOpts) (opts : Opts) (hq : opts.quirksMode = .noQuirks) (bom : Bool)
    (N : Nat) (s : Chs) (jf : JState) (hrun : parseChunks o N (tok0 bom) (j0Of opts) [s] = .ok jf)
    (ts : List (TokToken × Nat)) (hts : modelStream o opts bom s = some ts) (hok : TokStreamOkX opts ts) :
    ∃ ids, ∀ rest, ∃ F, ∀ fuel, F ≤ fuel →
      ParseAgreesX opts ⟨docCfg opts, fuel, ids ++ rest⟩ (H5V.Props.C01.stripBom bom s) ts jf := by
  -- the history of the joint run
  obtain ⟨Hf, j3, ph⟩ := parse_hist (start_tok0 bom) hrun
  obtain ⟨le, rest0, hE⟩ := ph.eofHead
  have hHf := ph.hist
  have hft := ph.fin
  have hres := ph.res
  -- the delivered stream is `convAll Hf.reverse`
  have hstream : ts = convAll Hf.reverse := by
    unfold modelStream at hts
    cases hf : H5V.Model.HtmlTok.feed o (polH opts) (tok0 bom) [] s with
    | done M1 i1 =>
      rw [hf] at hts
      simp only at hts
      cases hfi : H5V.Model.HtmlTok.finish o (polH opts) M1 with
      | error e => rw [hfi] at hts; cases hts
      | ok mf =>
        rw [hfi] at hts
        simp only [Option.some.injEq] at hts
        rw [← hts, ph.star (polH opts) (noPause_polH opts) _ (agrees_polH opts) (fun _ _ => trivial) M1 i1 mf hf hfi]
    | script _ _ => rw [hf] at hts; cases hts
    | indicator _ _ => rw [hf] at hts; cases hts
    | panic _ => rw [hf] at hts; cases hts
    | outOfFuel => rw [hf] at hts; cases hts
  subst hstream
  -- the tree builder fed the exploded stream
  have hmodel := absorb_model _ _ _ hHf
  have hra := runAlike_explode _ [] (docStart opts) (docStart opts) (good_docStart opts).sim hok.emptyOk
  have hm' : processTokens (convAll Hf.reverse) [] (docStart opts) = .ok (j3.results, j3.tb) := hmodel
  rw [hm'] at hra
  cases hme : processTokens (explode (convAll Hf.reverse)) [] (docStart opts) with
  | error e => rw [hme] at hra; exact hra.elim
  | ok v =>
  obtain ⟨rese, se⟩ := v
  rw [hme] at hra
  obtain ⟨hrese, _, hsim⟩ := hra
  have hmodelE : (processTokens (explode (convAll Hf.reverse)) []).run (docStart opts) = .ok (rese, se) := hme
  obtain ⟨ids, f⟩ := lock_of_run (explode (convAll Hf.reverse)) [] (docStart opts)
    (H5V.Props.C04TB.C04_tb_inv_new opts) (minv_docStart opts) (xinv_docStart opts) hok.resp hmodelE
  refine ⟨ids, fun rest => ?_⟩
  obtain ⟨x', F, _, hF⟩ := f { supply := ids ++ rest } rest (auxOk_docStart opts _) rfl
  refine ⟨F, fun fuel hfu => ?_⟩
  have hlock := hF fuel hfu
  have d : StreamDataX opts ⟨docCfg opts, fuel, ids ++ rest⟩ Hf j3 se x' :=
    ⟨rfl, hHf, hlock, hok.resp, hok.emptyOk, ⟨le, rest0, hE⟩⟩
  have hag := agrees_of_streamX hq d
  have hnp := noPause_polOfTree (treeOfSpec ⟨docCfg opts, fuel, ids ++ rest⟩)
  obtain ⟨m1', mf', hf1, hf2, htok⟩ := H5V.Props.C01.C01_model_eq_spec_exact o _ _
    (polTree_polOfTree _ (treeOfSpec_ne_data ⟨docCfg opts, fuel, ids ++ rest⟩)) .data none bom (by decide) s
  have hout : mf'.out = Hf := ph.star _ hnp _ hag (fun _ hX => hX) m1' [] mf' hf1 hf2
  rw [hout] at htok
  -- the tokens
  have hHf' : Hf = (H5V.Model.HtmlTok.Token.eof, le) :: rest0 := hE
  have hcv : convAll Hf.reverse = convAll rest0.reverse ++ [(TokToken.eof, le)] := by
    rw [hHf', List.reverse_cons, convAll_append]; rfl
  have hcvx : explode (convAll Hf.reverse) = explode (convAll rest0.reverse) ++ [(TokToken.eof, le)] := by
    rw [hcv, explode_append]; rfl
  have hl' := hlock
  rw [hcvx] at hl'
  obtain ⟨sp, xp, hlp, _⟩ := Lock.split hl'
  have hne := hlp.noEof (q := [(TokToken.eof, le)]) (by simp) (by rw [← hcvx]; exact hok.resp)
  have hneX : NoEof rest0 := by
    intro p hp he
    have hm : (TokToken.eof, p.2) ∈ convAll rest0.reverse :=
      mem_convAll (l := rest0.reverse) (p := p) (List.mem_reverse.mpr hp) (by rw [he]; rfl)
    exact hne _ (mem_explode_eof hm) rfl
  have htoks : (H5V.Props.C01.canon Hf ++ [H5V.Model.HtmlTok.Token.eof]).filterMap treeToken
      = specToks (explode (convAll Hf.reverse)) := by
    rw [List.filterMap_append, filterMap_treeToken_canon, hcvx, specToks_append, specToks_explode_convAll _ hneX]
    have hfl : flat Hf = flat rest0 := by rw [hHf']; rfl
    rw [hfl]
    rfl
  have hspecT : specTokens ⟨docCfg opts, fuel, ids ++ rest⟩ (H5V.Props.C01.stripBom bom s)
      = some (H5V.Props.C01.canon Hf ++ [H5V.Model.HtmlTok.Token.eof]) := htok
  have hrunS : Spec.TreeModes.run (docCfg opts) fuel (Spec.TreeModes.initialState (ids ++ rest))
      (specToks (explode (convAll Hf.reverse))) = .ok (absF se x') := by
    have h1 := (hlock.runStd (xinv_docStart opts _ (auxOk_docStart opts _))).1
    rw [absF_docStart opts hq] at h1
    exact h1
  -- `TreeBuilder::end` on both runs
  have hend := H5V.Props.C03.C03_tb_sim_end j3.tb se hsim
  have hft' : finishTB j3.tb = .ok ((), jf.tb) := hft
  rw [hft'] at hend
  cases hfe : finishTB se with
  | error e => rw [hfe] at hend; exact hend.elim
  | ok w =>
  obtain ⟨⟨⟩, se'⟩ := w
  rw [hfe] at hend
  obtain ⟨_, _, hsim'⟩ := hend
  have hfe' : finishTB.run se = .ok ((), se') := hfe
  obtain ⟨ops, calls, he1, e1, k1⟩ := hlock.log
  obtain ⟨calls2, he2, hs2, hc2⟩ := PC.of_tot (tot_finishTB se) () se' hfe'
  obtain ⟨os, hos, hans⟩ := hlock.answers
  have hfields := H5V.Props.C03.C03_tb_sim_fields hsim'
  refine ⟨absF se x', ?_, ?_, ⟨rese, se', calls ++ calls2, ?_, ?_, fun tc htc => ?_, ?_, ?_, ?_⟩, ?_, ?_, ?_⟩
  · rw [hspecT]; simp only [Option.map_some]; rw [htoks]
  · unfold specParse
    rw [hspecT]
    simp only
    rw [htoks]
    exact hrunS
  · rw [H5V.Props.C04TB.parseDocument_run]
    show (processTokens (explode (convAll Hf.reverse)) [] >>= fun r => finishTB >>= fun _ => pure r) (docStart opts) = _
    rw [H5V.Lemmas.TBSplit.bind_apply, hme]
    simp only
    rw [H5V.Lemmas.TBSplit.bind_apply, hfe]
    rfl
  · rw [he2.trace, he1.trace]
    simp [docStart]
  · have hext : H5V.Lemmas.TBSafe.Ext se.dom se'.dom := replay_ext he2.replay
    have e0 : ({ supply := ids ++ rest } : Aux).fullLog = [] := rfl
    rw [absF_fullLog, e1, e0, List.nil_append, edits2_append, ← edits2_edits calls2, hc2, edits2_nil, List.append_nil]
    exact k1 tc (tcOk_of_ext htc hext)
  · exact hfields.2.2.2.2.2.2.2.2.2.2.2.2.2.2.1.symm
  · exact hfields.2.2.2.2.2.2.2.2.2.2.2.2.2.2.2.1.symm
  · rw [hres]; exact hrese.symm
  · show dmode se.quirksMode = dmode jf.tb.quirksMode
    have : se'.quirksMode = se.quirksMode := by rw [hs2]
    rw [hfields.2.2.2.2.1, this]
  · show imode se.mode = imode jf.tb.mode
    rw [hfields.2.1]
    have : se'.mode = se.mode := by rw [hs2]
    rw [this]
  · show _ = x'.outs.filterMap outAnswer
    rw [hres, hrese, hans [] rese se hmodelE, hos]
    rfl


/-! ## the protocol hypothesis reduced to what is not a fact about the tokenizer -/

/-- **C02, whole documents, residual hypothesis.**  The token-only parts of the protocol (tags with lower-case
names and distinct attribute names, character tokens without U+0000, end-of-file delivered once and last) are
FACTS about the tokenizer model (`feed_finish_outWf`); what is left of `TokStreamOkX` is `RespectsP` — in the
"text" insertion mode only characters / end tags / EOF arrive, the DOCTYPE clauses, no `shadowrootmode`
attribute — and `EmptyOk` (when an empty character token arrives, `ignore_lf` is clear). -/
theorem C02_parse_eq_spec_protocol (o : TOpts) (opts : Opts) (hq : opts.quirksMode = .noQuirks) (bom : Bool)
    (N : Nat) (s : Chs) (jf : JState) (hrun : parseChunks o N (tok0 bom) (j0Of opts) [s] = .ok jf)
    (ts : List (TokToken × Nat)) (hts : modelStream o opts bom s = some ts)
    (hp : RespectsP (docStart opts) (explode ts)) (hne : EmptyOk (docStart opts) ts) :
    ∃ ids, ∀ rest, ∃ F, ∀ fuel, F ≤ fuel →
      ParseAgreesX opts ⟨docCfg opts, fuel, ids ++ rest⟩ (H5V.Props.C01.stripBom bom s) ts jf := by
  refine C02_parse_eq_spec_regrouped o opts hq bom N s jf hrun ts hts ⟨?_, hne⟩
  -- the stream is the log of a `feed` + `finish` of the tokenizer model
  unfold modelStream at hts
  cases hf : H5V.Model.HtmlTok.feed o (polH opts) (tok0 bom) [] s with
  | done M1 i1 =>
    rw [hf] at hts
    simp only at hts
    cases hfi : H5V.Model.HtmlTok.finish o (polH opts) M1 with
    | error e => rw [hfi] at hts; cases hts
    | ok mf =>
      rw [hfi] at hts
      simp only [Option.some.injEq] at hts
      obtain ⟨l, rest, hout, hwf⟩ := feed_finish_outWf o (polH opts) .data none bom s M1 i1 mf hf hfi
      have hts' : ts = convAll rest.reverse ++ [(TokToken.eof, l)] := by
        rw [← hts, hout, List.reverse_cons, convAll_append]; rfl
      have hex : explode ts = explode (convAll rest.reverse) ++ [(TokToken.eof, l)] := by
        rw [hts', explode_append]; rfl
      have hwf' : ∀ p ∈ rest.reverse, TokWfT' p.1 := by
        intro p hp'
        have := (hwf p (List.mem_reverse.mp hp')).1
        cases hp1 : p.1 <;> rw [hp1] at this <;> exact this
      have hnoeof : ∀ p ∈ rest.reverse, p.1 ≠ .eof := fun p hp' => (hwf p (List.mem_reverse.mp hp')).2
      refine respects2_of_parts _ _ hp ?_ ?_
      · intro q hq'
        rw [hex] at hq'
        rcases List.mem_append.mp hq' with h | h
        · exact tokOkT_explode hwf' q h
        · simp only [List.mem_singleton] at h
          subst h
          trivial
      · rw [hex]
        exact eofLast_append_eof _ l (noEof_explode hnoeof)
  | script _ _ => rw [hf] at hts; cases hts
  | indicator _ _ => rw [hf] at hts; cases hts
  | panic _ => rw [hf] at hts; cases hts
  | outOfFuel => rw [hf] at hts; cases hts


/-- the stream of `modelStream` is the history of the joint parse -/
theorem stream_of_hist {o : TOpts} {opts : Opts} {bom : Bool} {s : Chs} {jf : JState} {Hf : TOut} {j3 : JState}
    (ph : ParseHist o (tok0 bom) (j0Of opts) s jf Hf j3) {ts : List (TokToken × Nat)}
    (hts : modelStream o opts bom s = some ts) : ts = convAll Hf.reverse := by
  unfold modelStream at hts
  cases hf : H5V.Model.HtmlTok.feed o (polH opts) (tok0 bom) [] s with
  | done M1 i1 =>
    rw [hf] at hts
    simp only at hts
    cases hfi : H5V.Model.HtmlTok.finish o (polH opts) M1 with
    | error e => rw [hfi] at hts; cases hts
    | ok mf =>
      rw [hfi] at hts
      simp only [Option.some.injEq] at hts
      rw [← hts, ph.star (polH opts) (noPause_polH opts) _ (agrees_polH opts) (fun _ _ => trivial) M1 i1 mf hf hfi]
  | script _ _ => rw [hf] at hts; cases hts
  | indicator _ _ => rw [hf] at hts; cases hts
  | panic _ => rw [hf] at hts; cases hts
  | outOfFuel => rw [hf] at hts; cases hts

/-- **C02, whole documents, from facts.**  The "text" insertion mode protocol is a FACT about every successful
joint parse (`parse_hist_text`: from a raw-text state the tokenizer only delivers characters, parse errors and the
end tag; the tree builder enters "text" only by answering `RawData`), and so are the `drop_doctype` / "initial"
clauses for `opts.dropDoctype = false`.  What remains as hypotheses about the run: no tag carries a
`shadowrootmode` attribute (declarative shadow roots are outside `Spec.TreeModes`), and `EmptyOk` (the `ignore_lf`
flag is clear when an empty character token arrives). -/
theorem C02_parse_eq_spec_facts (o : TOpts) (opts : Opts) (hq : opts.quirksMode = .noQuirks)
    (hdd : opts.dropDoctype = false) (bom : Bool) (N : Nat) (s : Chs) (jf : JState)
    (hrun : parseChunks o N (tok0 bom) (j0Of opts) [s] = .ok jf)
    (ts : List (TokToken × Nat)) (hts : modelStream o opts bom s = some ts)
    (hshadow : ∀ p ∈ ts, ∀ t, p.1 = .tag t → ∀ a ∈ t.attrs, a.name.loc ≠ "shadowrootmode".toList)
    (hempty : EmptyOk (docStart opts) ts) :
    ∃ ids, ∀ rest, ∃ F, ∀ fuel, F ≤ fuel →
      ParseAgreesX opts ⟨docCfg opts, fuel, ids ++ rest⟩ (H5V.Props.C01.stripBom bom s) ts jf := by
  obtain ⟨Hf, j3, ph, htext⟩ := parse_hist_text (start_tok0 bom) (crInv_of_none rfl) hrun
    (show TI (j0Of opts).tb from H5V.Props.C04TB.C04_tb_inv_new opts) (good_docStart opts)
    (show (docStart opts).mode ≠ .text by simp [docStart, State.init])
  have hstream := stream_of_hist ph hts
  subst hstream
  have hp : RespectsP (docStart opts) (convAll Hf.reverse) :=
    respectsP_of_facts hq hdd _ _ (H5V.Props.C04TB.C04_tb_inv_new opts) ⟨rfl, fun _ => rfl⟩ htext hshadow
  exact C02_parse_eq_spec_protocol o opts hq bom N s jf hrun _ hts
    (respectsP_explode _ _ _ (good_docStart opts).sim hempty hp) hempty

/-- **any chunking of the input** (through `C03_joint_chunk_independence`): if the text arrives in any number of
pieces and the chunked joint parse succeeds with `jf`, the conclusion holds for `jf` and the concatenated text -/
theorem C02_parse_eq_spec_chunked (o : TOpts) (opts : Opts) (hq : opts.quirksMode = .noQuirks) (bom : Bool) (N : Nat)
    (chunks : List Chs) (jf : JState) (hrun : parseChunks o N (tok0 bom) (j0Of opts) chunks = .ok jf)
    (ts : List (TokToken × Nat)) (hts : modelStream o opts bom chunks.flatten = some ts)
    (hok : TokStreamOk opts ts) :
    ∃ ids, ∀ rest, ∃ F, ∀ fuel, F ≤ fuel →
      ParseAgrees ⟨docCfg opts, fuel, ids ++ rest⟩ (H5V.Props.C01.stripBom bom chunks.flatten) ts jf := by
  obtain ⟨N0, h0⟩ := H5V.Props.C03.C03_joint_chunk_independence o N _ _ chunks jf (start_tok0 bom) hrun
  exact C02_parse_eq_spec o opts hq bom N0 chunks.flatten jf (h0 N0 (Nat.le_refl _)) ts hts hok


/-- the headline for any chunking of the input -/
theorem C02_parse_eq_spec_facts_chunked (o : TOpts) (opts : Opts) (hq : opts.quirksMode = .noQuirks)
    (hdd : opts.dropDoctype = false) (bom : Bool) (N : Nat) (chunks : List Chs) (jf : JState)
    (hrun : parseChunks o N (tok0 bom) (j0Of opts) chunks = .ok jf)
    (ts : List (TokToken × Nat)) (hts : modelStream o opts bom chunks.flatten = some ts)
    (hshadow : ∀ p ∈ ts, ∀ t, p.1 = .tag t → ∀ a ∈ t.attrs, a.name.loc ≠ "shadowrootmode".toList)
    (hempty : EmptyOk (docStart opts) ts) :
    ∃ ids, ∀ rest, ∃ F, ∀ fuel, F ≤ fuel →
      ParseAgreesX opts ⟨docCfg opts, fuel, ids ++ rest⟩ (H5V.Props.C01.stripBom bom chunks.flatten) ts jf := by
  obtain ⟨N0, h0⟩ := H5V.Props.C03.C03_joint_chunk_independence o N _ _ chunks jf (start_tok0 bom) hrun
  exact C02_parse_eq_spec_facts o opts hq hdd bom N0 chunks.flatten jf (h0 N0 (Nat.le_refl _)) ts hts hshadow hempty


/-! ## non-vacuity: a concrete document -/
namespace ExParse
open H5V.Spec.Parse (defaultCfg)

/-- DOCTYPE, RCDATA with a character reference, a script (script data switch, pause at `</script>`), table
modes, foreign content with a CDATA section -/
def doc : Chs :=
  "<!DOCTYPE html><title>a&amp;b</title><script>1<2</script><table><tr><td>x<svg><![CDATA[y]]></svg>".toList

/-- the joint model's parse of `doc` (fed in one piece, `discard_bom` on, default options) -/
def run : Except String JState := parseChunks ⟨false⟩ 50 (tok0 true) (j0Of {}) [doc]

/-- all the hypotheses of the headline for `doc`, as one Boolean -/
def check : Bool :=
  match run, modelStream ⟨false⟩ {} true doc with
  | .ok _, some ts => tokStreamOkB {} ts
  | _, _ => false

theorem check_true : check = true := by decide +kernel

/-- the joint parse of `doc` succeeds, its token stream exists and satisfies `TokStreamOk` — so the conclusion of
`C02_parse_eq_spec` holds for it -/
theorem doc_agrees : ∃ jf ts, run = .ok jf ∧ modelStream ⟨false⟩ {} true doc = some ts ∧
    TokStreamOk {} ts ∧
    ∃ ids, ∀ rest, ∃ F, ∀ fuel, F ≤ fuel →
      ParseAgrees ⟨docCfg {}, fuel, ids ++ rest⟩ (H5V.Props.C01.stripBom true doc) ts jf := by
  have h := check_true
  unfold check at h
  cases hr : run with
  | error e => rw [hr] at h; cases h
  | ok jf =>
    rw [hr] at h
    cases hm : modelStream ⟨false⟩ {} true doc with
    | none => rw [hm] at h; cases h
    | some ts =>
      rw [hm] at h
      have hok := tokStreamOk_of_B h
      exact ⟨jf, ts, rfl, rfl, hok, C02_parse_eq_spec ⟨false⟩ {} rfl true 50 doc jf hr ts hm hok⟩

/-- both sides evaluated by the kernel: with the nodes `1, 2, 3, …` the specification's tokenizer (coupled with its
tree construction stage) delivers the model's 19 tokens, and the pipeline ends in "in cell" after 29 DOM operations -/
example : (specTokens (defaultCfg 50 60) doc).map (fun l => l.filterMap treeToken)
      = (modelStream ⟨false⟩ {} true doc).map specToks ∧
    (match specParse (defaultCfg 50 60) doc with
      | .ok σ => (σ.fullLog.length, σ.mode) | .error _ => (0, .initial)) = (29, .inCell) := by
  decide +kernel


/-- a document whose stream has multi-character tokens (`ab` from `</ab>` inside RCDATA, `yz` from the CDATA
section): `TokStreamOk` fails, `TokStreamOkX` holds -/
def doc2 : Chs := "<!DOCTYPE html><title>x</ab>y</title><p><svg><![CDATA[yz]]></svg>".toList

def run2 : Except String JState := parseChunks ⟨false⟩ 50 (tok0 true) (j0Of {}) [doc2]

def check2 : Bool :=
  match run2, modelStream ⟨false⟩ {} true doc2 with
  | .ok _, some ts => tokStreamOkXB {} ts && !tokStreamOkB {} ts
  | _, _ => false

theorem check2_true : check2 = true := by decide +kernel

theorem doc2_agrees : ∃ jf ts, run2 = .ok jf ∧ modelStream ⟨false⟩ {} true doc2 = some ts ∧
    TokStreamOkX {} ts ∧
    ∃ ids, ∀ rest, ∃ F, ∀ fuel, F ≤ fuel →
      ParseAgreesX {} ⟨docCfg {}, fuel, ids ++ rest⟩ (H5V.Props.C01.stripBom true doc2) ts jf := by
  have h := check2_true
  unfold check2 at h
  cases hr : run2 with
  | error e => rw [hr] at h; cases h
  | ok jf =>
    rw [hr] at h
    cases hm : modelStream ⟨false⟩ {} true doc2 with
    | none => rw [hm] at h; cases h
    | some ts =>
      rw [hm] at h
      simp only [Bool.and_eq_true] at h
      have hok := tokStreamOkX_of_B h.1
      exact ⟨jf, ts, rfl, rfl, hok, C02_parse_eq_spec_regrouped ⟨false⟩ {} rfl true 50 doc2 jf hr ts hm hok⟩

/-- a document with an EMPTY CDATA section (and a two-character one): covered by the general theorems -/
def doc3 : Chs := "<!DOCTYPE html><p><svg><![CDATA[]]>x<![CDATA[ab]]></svg>".toList

def run3 : Except String JState := parseChunks ⟨false⟩ 50 (tok0 true) (j0Of {}) [doc3]

/-- no tag of the stream has a `shadowrootmode` attribute -/
def noShadowB (ts : List (TokToken × Nat)) : Bool :=
  ts.all fun p => match p.1 with
    | .tag t => t.attrs.all fun a => a.name.loc != "shadowrootmode".toList
    | _ => true

theorem noShadow_of_B {ts : List (TokToken × Nat)} (h : noShadowB ts = true) :
    ∀ p ∈ ts, ∀ t, p.1 = .tag t → ∀ a ∈ t.attrs, a.name.loc ≠ "shadowrootmode".toList := by
  intro p hp t ht a ha
  simp only [noShadowB, List.all_eq_true] at h
  have := h p hp
  rw [ht] at this
  simp only [List.all_eq_true, bne_iff_ne, ne_eq] at this
  exact this a ha

/-- the hypotheses of `C02_parse_eq_spec_facts` for `doc3`: the run succeeds, no `shadowrootmode` attribute,
`ignore_lf` is clear when the empty character token arrives (and there IS an empty character token) -/
def check3 : Bool :=
  match run3, modelStream ⟨false⟩ {} true doc3 with
  | .ok _, some ts => noShadowB ts && emptyOkB (docStart {}) ts && ts.any (fun p => p.1 == .chars [])
  | _, _ => false

theorem check3_true : check3 = true := by decide +kernel

theorem doc3_agrees : ∃ jf ts, run3 = .ok jf ∧ modelStream ⟨false⟩ {} true doc3 = some ts ∧
    ∃ ids, ∀ rest, ∃ F, ∀ fuel, F ≤ fuel →
      ParseAgreesX {} ⟨docCfg {}, fuel, ids ++ rest⟩ (H5V.Props.C01.stripBom true doc3) ts jf := by
  have h := check3_true
  unfold check3 at h
  cases hr : run3 with
  | error e => rw [hr] at h; cases h
  | ok jf =>
    rw [hr] at h
    cases hm : modelStream ⟨false⟩ {} true doc3 with
    | none => rw [hm] at h; cases h
    | some ts =>
      rw [hm] at h
      simp only [Bool.and_eq_true] at h
      exact ⟨jf, ts, rfl, rfl, C02_parse_eq_spec_facts ⟨false⟩ {} rfl rfl true 50 doc3 jf hr ts hm
        (noShadow_of_B h.1.1) (emptyOk_of_B _ _ h.1.2)⟩

/-- FINDING: an empty CDATA section in foreign content makes the tokenizer deliver an EMPTY character token
(`emit_temp_buf` with an empty buffer) — a token the protocol hypothesis of C02Modes excludes -/
theorem empty_chars_token :
    (modelStream ⟨false⟩ {} true "<svg><![CDATA[]]>".toList).map (fun ts => ts.any (fun p => p.1 == .chars [])) = some true := by
  decide +kernel

end ExParse

end H5V.Props.C02

#print axioms H5V.Props.C02.C02_parse_eq_spec
#print axioms H5V.Props.C02.C02_parse_eq_spec_chunked
#print axioms H5V.Props.C02.C02_parse_eq_spec_regrouped
#print axioms H5V.Props.C02.C02_parse_eq_spec_protocol
#print axioms H5V.Props.C02.C02_parse_eq_spec_facts
#print axioms H5V.Props.C02.C02_parse_eq_spec_facts_chunked
#print axioms H5V.Lemmas.ParseSpec.parse_hist_text
#print axioms H5V.Props.C02.modelStream_total
#print axioms H5V.Props.C02.ExParse.doc2_agrees
#print axioms H5V.Props.C02.ExParse.doc3_agrees
#print axioms H5V.Lemmas.ParseSpec.feed_finish_outWf
#print axioms H5V.Lemmas.ParseSpec.processToken_rawKind
#print axioms H5V.Lemmas.ParseSpec.agrees_of_streamX
#print axioms H5V.Props.C02.ExParse.doc_agrees
#print axioms H5V.Lemmas.ParseSpec.step_shift
#print axioms H5V.Lemmas.ParseSpec.agrees_of_stream
#print axioms H5V.Lemmas.ParseSpec.lock_of_run
