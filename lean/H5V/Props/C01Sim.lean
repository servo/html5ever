import H5V.Lemmas.HtmlTokSpecRun
import H5V.Props.C01
import H5V.Props.C04Term
import H5V.Props.C08Run
import H5V.Props.C03End
/-!
# C01 — the model of html5ever's HTML tokenizer computes the WHATWG tokenization algorithm

**`C01_model_eq_spec`**: for every start state (all of html5ever's states except the two without a
counterpart in the standard and the six attribute states that presuppose a current attribute — see
`StartOk`), every last-start-tag name, both values of `discard_bom`, every sink policy / tree
construction feedback that agree (`PolTree`: the same tokenizer-state switch after a tag and the same CDATA answer on
corresponding token histories — the policy may depend on everything delivered so far, in canonical
form —, no script / encoding pauses) and EVERY input text `s`:
feeding `s` in one piece to the model (`feed`, `exact_errors` off) and calling `end()` (`finish`)
succeeds, and the tokens delivered to the sink — in the canonical form of the comparison `./check C01`
makes: parse errors, pause markers, the end-of-file token and line numbers dropped, character tokens
exploded into single characters; the end-of-file token is appended again in the statement — are exactly the tokens of `Spec.HtmlTokenizer.tokenize`, the transcription of HTML
Standard §13.2.5, run on the newline-normalised text (after the optional BOM).

The proof is a simulation (`H5V.Lemmas.HtmlTokSpec`): relation `Rel` (file `HtmlTokSpecDefs.lean`),
step theorem `step_sim` (one `Tokenizer::step` = `k ≥ 0` steps of the specification; table lemmas per
state group, reader lemmas for CR/LF and `reconsume`, look-ahead states with the stash, character
references through the model's sub-tokenizer), run theorem `run_sim`, `finish_sim` for `end()`.

Corollaries: `C01_model_eq_spec_exact` (the other value of `exact_errors`, through `C08_feed_optE` /
`C08_finish_optE`) and `C01_model_eq_spec_chunked` (any partition into chunks, with `discard_bom` and
`exact_errors` off, through `C03_chunk_independence` / `C03_finish_sim`).
-/
set_option linter.unusedSimpArgs false
set_option linter.unusedVariables false
namespace H5V.Props.C01
open H5V.Model.HtmlTok H5V.Lemmas.HtmlTokSpec
open H5V.Spec.HtmlTokenizer (St Tok Emit Tree Switch Ctl ReturnSt normalizeNewlinesFrom normalizeNewlines)

/-! ## statement -/

/-- the start states covered: html5ever's states with a counterpart in the standard (`Std`: all but
`RawEndTagOpen/RawEndTagName(ScriptDataEscaped(DoubleEscaped))`) that do not presuppose a current
attribute (`needsCur`: attribute name, after attribute name, before attribute value, attribute
value — started there html5ever keeps an orphan value, the standard defines nothing) -/
def StartOk (st : State) : Prop := Std st ∧ needsCur st = false

instance (st : State) : Decidable (StartOk st) := by unfold StartOk; infer_instance

/-- a tokenizer as created by `Tokenizer::new` -/
def initMach (st : State) (last : Option Str) (bom : Bool) : Mach :=
  { state := st, lastStartTag := last, discardBom := bom }

/-- "one leading U+FEFF BYTE ORDER MARK is ignored" when `discard_bom` is set -/
def stripBom (bom : Bool) (s : Str) : Str :=
  match s with
  | [] => []
  | c :: rest => if bom = true ∧ c = '﻿' then rest else c :: rest

/-- a token of the model in the canonical form of the comparison: parse errors, pause markers and
the end-of-file token dropped, character tokens exploded into single characters -/
def explode : Token → List Token
  | .chars s => s.map fun c => .chars [c]
  | .error _ => []
  | .pause _ => []
  | .eof => []
  | t => [t]

/-- the tokens delivered to the sink, oldest first, in canonical form (line numbers dropped) -/
def canon (out : Out) : List Token := (out.reverse.map (·.1)).flatMap explode

theorem explode_eq (tok : Token) : explode tok = (flatTok tok).map Emit.toToken := by
  cases tok <;> simp [explode, flatTok, Emit.toToken, Function.comp_def]

theorem canon_eq_flat (out : Out) : canon out = (flat out).reverse.map Emit.toToken := by
  unfold canon
  induction out with
  | nil => rfl
  | cons p out ih =>
    obtain ⟨tok, l⟩ := p
    simp only [List.reverse_cons, List.map_append, List.flatMap_append, List.map_cons, List.map_nil,
      List.flatMap_cons, List.flatMap_nil, List.append_nil, flat_cons, List.reverse_append,
      List.reverse_reverse, ih, explode_eq]

/-! ## the start configuration -/

theorem rel_initial (st : State) (last : Option Str) (bom : Bool) (hst : StartOk st) (s : Str) :
    RelCore (initMach st last bom) s (Tok.initial (stOf st) last) (normalizeNewlines s) := by
  have hti : TInv (initMach st last bom) := tinv_fresh _ rfl rfl rfl
  refine ⟨⟨hst.1, ?_, ?_, ?_, ?_⟩, hti, fun cr hc => by simp [initMach] at hc⟩
  · unfold StRelD; simp [initMach, Tok.initial]
  · have hn := hst.2
    simp only [RegRel, initMach, Tok.initial, AttrRel, hn, attrR_nil, Bool.false_eq_true, false_imp_iff,
      and_true, true_and, and_self, implies_true]
  · have hcb : cdataBuf (initMach st last bom) = [] := by
      unfold cdataBuf
      show (if isCdata st = true then ([] : Str) else []) = []
      exact ite_self _
    unfold OutRel
    rw [hcb]
    rfl
  · unfold InpRel
    have hstash : stash (initMach st last bom) = [] := stash_nil_of rfl (fun _ => rfl)
    rw [hstash]
    simp [rc, initMach, normalizeNewlines]

/-- the relation does not look at `discard_bom` -/
theorem relCore_setDiscardBom {m : Mach} {inp : Str} {t : Tok} {rest : Str} (h : RelCore m inp t rest)
    (b : Bool) : RelCore (m.setDiscardBom b) inp t rest := by
  obtain ⟨⟨h1, h2, h3, h4, h5⟩, ht, hg⟩ := h
  refine ⟨⟨h1, h2, h3, h4, ?_⟩, ht.setDiscardBom b, hg⟩
  unfold InpRel at h5 ⊢
  rw [stash_congr (m := m) (m' := m.setDiscardBom b) rfl rfl rfl]
  exact h5

/-- the BOM prologue of `feed` on a fresh tokenizer -/
theorem feedBom_init (st : State) (last : Option Str) (bom : Bool) (s : Str) (hne : s ≠ []) :
    ∃ b, feedBom (initMach st last bom) s = ((initMach st last bom).setDiscardBom b, stripBom bom s) := by
  cases s with
  | nil => exact absurd rfl hne
  | cons c rest =>
    cases bom with
    | true =>
      refine ⟨false, ?_⟩
      by_cases hc : c = '﻿' <;> simp [feedBom, initMach, stripBom, hc]
    | false =>
      refine ⟨false, ?_⟩
      simp [feedBom, initMach, stripBom, Mach.setDiscardBom]

/-! ## the headline -/

/-- **C01: the model of html5ever's tokenizer computes the WHATWG tokenization algorithm.**
`feed` of the whole text and `end()` succeed, and the tokens delivered to the sink, in canonical
form, followed by the end-of-file token are the tokens of the specification. -/
theorem C01_model_eq_spec (pol : Pol) (tree : Tree) (hpt : PolTree pol tree) (st : State) (last : Option Str)
    (bom : Bool) (hst : StartOk st) (s : Str) :
    ∃ m1 mf, feed ⟨false⟩ pol (initMach st last bom) [] s = .done m1 [] ∧
      finish ⟨false⟩ pol m1 = .ok mf ∧
      H5V.Spec.HtmlTokenizer.tokenize tree (stOf st) last (normalizeNewlines (stripBom bom s)) =
        some (canon mf.out ++ [Token.eof]) := by
  have ho : (⟨false⟩ : Opts).exactErrors = false := rfl
  have hq0 : Quiet (initMach st last bom) := quiet_fresh _ rfl rfl rfl
  -- the run of `feed`
  have hfeed : ∃ m1, feed ⟨false⟩ pol (initMach st last bom) [] s = .done m1 [] ∧
      Reach tree (Tok.initial (stOf st) last) (normalizeNewlines (stripBom bom s))
        (fun t' r' => Rel m1 [] t' r') := by
    by_cases hs : s = []
    · subst hs
      refine ⟨initMach st last bom, by simp [feed], Reach.done ?_⟩
      exact (rel_initial st last bom hst []).toRel
    · obtain ⟨b, hfb⟩ := feedBom_init st last bom s hs
      have hrel : Rel ((initMach st last bom).setDiscardBom b) (stripBom bom s)
          (Tok.initial (stOf st) last) (normalizeNewlines (stripBom bom s)) :=
        (relCore_setDiscardBom (rel_initial st last bom hst (stripBom bom s)) b).toRel
      have hti : TInv ((initMach st last bom).setDiscardBom b) := hq0.tinv.setDiscardBom b
      have hfe : feed ⟨false⟩ pol (initMach st last bom) [] s =
          run ⟨false⟩ pol (fuelFor ((initMach st last bom).setDiscardBom b) (stripBom bom s))
            ((initMach st last bom).setDiscardBom b) (stripBom bom s) := by
        unfold feed
        simp only [List.nil_append, hfb]
        have : s.isEmpty = false := by cases s <;> simp_all
        simp [this]
      have hrun := run_sim ⟨false⟩ ho pol tree hpt
        (fuelFor ((initMach st last bom).setDiscardBom b) (stripBom bom s)) _ _ _ _ hrel
      rw [hfe]
      cases hr : run ⟨false⟩ pol (fuelFor ((initMach st last bom).setDiscardBom b) (stripBom bom s))
          ((initMach st last bom).setDiscardBom b) (stripBom bom s) with
      | done m1 i1 =>
        rw [hr] at hrun
        have hi1 : i1 = [] := run_done_nil _ pol _ _ _ hti m1 i1 hr
        subst hi1
        exact ⟨m1, rfl, hrun⟩
      | outOfFuel => exact absurd hr (run_terminates _ pol _ _ _ hti (mu_lt_fuelFor _ _))
      | script a c => rw [hr] at hrun; exact hrun.elim
      | indicator a c => rw [hr] at hrun; exact hrun.elim
      | panic e => rw [hr] at hrun; exact hrun.elim
  obtain ⟨m1, hf1, hreach⟩ := hfeed
  have hq1 : Quiet m1 := feed_stops_quiet ⟨false⟩ pol _ [] s hq0 m1 [] (by rw [hf1]; rfl)
  obtain ⟨mf, hfin⟩ := finish_end_total ⟨false⟩ pol m1 hq1
  refine ⟨m1, mf, hf1, hfin, ?_⟩
  -- `end()`
  have hstop : StopsFrom tree (Tok.initial (stOf st) last) (normalizeNewlines (stripBom bom s)) (flat mf.out) :=
    StopsFrom.of_reach hreach fun t' r' hrel => finish_sim ⟨false⟩ ho pol tree hpt m1 t' r' hrel hq1 mf hfin
  obtain ⟨t1, r1, t2, hsteps, hst2, hout⟩ := hstop
  have hsome := C01_spec_total tree (stOf st) last (normalizeNewlines (stripBom bom s))
  unfold H5V.Spec.HtmlTokenizer.tokenize at hsome ⊢
  rw [Option.isSome_map] at hsome
  have hrunEq := srun_of_steps tree hsteps hst2 _ hsome
  unfold srun at hrunEq
  rw [hrunEq, hout, canon_eq_flat]
  rfl

/-! ## the canonical form used by `./check C01`: adjacent character tokens merged -/

/-- merge adjacent character tokens -/
def mergeChars : List Token → List Token
  | .chars a :: rest =>
    match mergeChars rest with
    | .chars b :: rest' => .chars (a ++ b) :: rest'
    | rest' => .chars a :: rest'
  | t :: rest => t :: mergeChars rest
  | [] => []

/-- the same in the form in which the differential check compares the two sides (character tokens
merged): immediate from `C01_model_eq_spec` -/
theorem C01_model_eq_spec_merged (pol : Pol) (tree : Tree) (hpt : PolTree pol tree) (st : State)
    (last : Option Str) (bom : Bool) (hst : StartOk st) (s : Str) :
    ∃ m1 mf, feed ⟨false⟩ pol (initMach st last bom) [] s = .done m1 [] ∧
      finish ⟨false⟩ pol m1 = .ok mf ∧
      (H5V.Spec.HtmlTokenizer.tokenize tree (stOf st) last (normalizeNewlines (stripBom bom s))).map mergeChars =
        some (mergeChars (canon mf.out ++ [Token.eof])) := by
  obtain ⟨m1, mf, h1, h2, h3⟩ := C01_model_eq_spec pol tree hpt st last bom hst s
  exact ⟨m1, mf, h1, h2, by rw [h3]; rfl⟩

/-! ## the other value of `exact_errors` (through C08) -/

theorem switchOf_inj {a b : SinkRes} (ha : a ≠ .script ∧ a ≠ .indicator) (hb : b ≠ .script ∧ b ≠ .indicator)
    (h : switchOf a = switchOf b) : a = b := by
  have key : ∀ x : SinkRes, x ≠ .script ∧ x ≠ .indicator →
      x = (match switchOf x with
        | .none => SinkRes.continue_
        | .plaintext => .plaintext
        | .rcdata => .rawData .rcdata
        | .rawtext => .rawData .rawtext
        | .scriptData => .rawData .scriptData
        | .scriptDataEscaped => .rawData (.scriptDataEscaped .escaped)
        | .scriptDataDoubleEscaped => .rawData (.scriptDataEscaped .doubleEscaped)
        | .data => .continue_) := by
    intro x hx
    cases x with
    | continue_ => rfl
    | plaintext => rfl
    | rawData k => rcases k with _ | _ | _ | (_ | _) <;> rfl
    | script => exact absurd rfl hx.1
    | indicator => exact absurd rfl hx.2
  rw [key a ha, key b hb, h]

theorem flat_noErr (out : Out) : flat (noErr out) = flat out := by
  induction out with
  | nil => rfl
  | cons p out ih =>
    rw [noErr_cons]
    obtain ⟨tok, l⟩ := p
    cases tok <;> simp [isErr, ih]

/-- a policy linked to a tree-construction feedback does not look at parse-error tokens -/
theorem polE_of_polTree {pol : Pol} {tree : Tree} (hpt : PolTree pol tree) : PolE pol := by
  refine ⟨fun a b tag hab => ?_, fun a b hab => ?_⟩
  · have hf : flat a = flat b := by rw [← flat_noErr a, hab, flat_noErr]
    apply switchOf_inj (hpt.noPause a tag) (hpt.noPause b tag)
    rw [← hpt.onTag a tag, ← hpt.onTag b tag, hf]
  · have hf : flat a = flat b := by rw [← flat_noErr a, hab, flat_noErr]
    rw [← hpt.cdata a, ← hpt.cdata b, hf]

theorem explode_err (p : Token × Nat) (h : isErr p = true) : explode p.1 = [] := by
  obtain ⟨tok, l⟩ := p
  cases tok <;> simp [isErr] at h ⊢
  rfl

theorem canon_noErr (out : Out) : canon (noErr out) = canon out := by
  rw [canon_eq_flat, canon_eq_flat, flat_noErr]

/-- **C01 for both values of `exact_errors`**: the option only adds parse-error tokens
(`C08_feed_optE`, `C08_finish_optE`) -/
theorem C01_model_eq_spec_exact (o : Opts) (pol : Pol) (tree : Tree) (hpt : PolTree pol tree) (st : State)
    (last : Option Str) (bom : Bool) (hst : StartOk st) (s : Str) :
    ∃ m1 mf, feed o pol (initMach st last bom) [] s = .done m1 [] ∧
      finish o pol m1 = .ok mf ∧
      H5V.Spec.HtmlTokenizer.tokenize tree (stOf st) last (normalizeNewlines (stripBom bom s)) =
        some (canon mf.out ++ [Token.eof]) := by
  obtain ⟨m1, mf, h1, h2, h3⟩ := C01_model_eq_spec pol tree hpt st last bom hst s
  have hp := polE_of_polTree hpt
  have hfe := H5V.Props.C08.C08_feed_optE o ⟨false⟩ pol hp (E.refl (initMach st last bom)) [] s
  rw [h1] at hfe
  cases hf : feed o pol (initMach st last bom) [] s with
  | done a i =>
    rw [hf] at hfe
    obtain ⟨hE, hi⟩ := hfe
    subst hi
    have hfi := H5V.Props.C08.C08_finish_optE o ⟨false⟩ pol hp hE
    rw [h2] at hfi
    cases hfa : finish o pol a with
    | error e => rw [hfa] at hfi; simp [Except.map] at hfi
    | ok mfa =>
      rw [hfa] at hfi
      simp only [Except.map, Except.ok.injEq] at hfi
      refine ⟨a, mfa, rfl, hfa, ?_⟩
      rw [h3, ← canon_noErr mfa.out, hfi, canon_noErr]
  | script a i => rw [hf] at hfe; exact hfe.elim
  | indicator a i => rw [hf] at hfe; exact hfe.elim
  | panic e => rw [hf] at hfe; exact hfe.elim
  | outOfFuel => rw [hf] at hfe; exact hfe.elim

/-! ## any partition of the input into chunks (through C03) -/

theorem stripBom_false (s : Str) : stripBom false s = s := by
  cases s <;> simp [stripBom]

/-- without pauses the resumed loop `runP` of C03 is `Tokenizer::run` -/
theorem runP_run (o : Opts) (pol : Pol) (hp : NoPause pol) (f : Nat) : ∀ (m : Mach) (inp : Str) (m' : Mach),
    H5V.Props.C03.runP o pol f m inp = some m' → run o pol f m inp = .done m' [] := by
  induction f with
  | zero => intro m inp m' h; simp [H5V.Props.C03.runP] at h
  | succ n ih =>
    intro m inp m' h
    have hnp := step_noPause o pol hp m inp
    unfold H5V.Props.C03.runP at h
    unfold run
    cases hs : step o pol m inp with
    | cont m1 i1 => rw [hs] at h; exact ih m1 i1 m' h
    | suspend m1 i1 =>
      rw [hs] at h
      cases i1 with
      | nil => simp only [Option.some.injEq] at h; subst h; rfl
      | cons c r => simp at h
    | script a b => rw [hs] at hnp; simp [R.isPause] at hnp
    | indicator a b => rw [hs] at hnp; simp [R.isPause] at hnp
    | panic e => rw [hs] at h; simp at h

/-- **C01 for every chunking of the input, with `discard_bom` and `exact_errors` off**
(`initMach st last false`, options `⟨false⟩`): feeding the text in any number of pieces (each run to
suspension, `feedAll` of C03) and then calling `end()` delivers the tokens of the specification on
the concatenated text (`C03_chunk_independence`, `C03_finish_sim`) -/
theorem C01_model_eq_spec_chunked (pol : Pol) (tree : Tree) (hpt : PolTree pol tree) (st : State)
    (last : Option Str) (hst : StartOk st) (chunks : List Str) (hne : chunks.flatten ≠ []) (fuel : Nat)
    (mf : Mach) (h : H5V.Props.C03.feedAll ⟨false⟩ pol fuel (initMach st last false) chunks = some mf) :
    ∃ me, finish ⟨false⟩ pol mf = .ok me ∧
      H5V.Spec.HtmlTokenizer.tokenize tree (stOf st) last (normalizeNewlines chunks.flatten) =
        some (canon me.out ++ [Token.eof]) := by
  have hcne : chunks ≠ [] := by rintro rfl; exact hne rfl
  obtain ⟨hg, hat⟩ := H5V.Props.C03.good_initial st last false
  obtain ⟨mf', fuel', hr, _, hsim⟩ :=
    H5V.Props.C03.C03_chunk_independence ⟨false⟩ pol fuel (initMach st last false) chunks mf hg hat hcne h
  have hp : NoPause pol := hpt.noPause
  have hrun := runP_run ⟨false⟩ pol hp fuel' _ _ _ hr
  -- `feed` of the whole text is that run
  have hfeed : feed ⟨false⟩ pol (initMach st last false) [] chunks.flatten = .done mf' [] := by
    have hfb : feedBom (initMach st last false) chunks.flatten = (initMach st last false, chunks.flatten) :=
      H5V.Props.C03.feedBom_id _ _ rfl
    have hemp : chunks.flatten.isEmpty = false := by
      cases hc : chunks.flatten with
      | nil => exact absurd hc hne
      | cons _ _ => rfl
    unfold feed
    simp only [List.nil_append, hemp, Bool.false_eq_true, if_false, hfb]
    have hti : TInv (initMach st last false) := tinv_fresh _ rfl rfl rfl
    have h1 : run ⟨false⟩ pol fuel' (initMach st last false) chunks.flatten ≠ .outOfFuel := by
      rw [hrun]; simp
    have h2 := run_terminates ⟨false⟩ pol _ _ _ hti (mu_lt_fuelFor (initMach st last false) chunks.flatten)
    have e1 := run_fuel_mono ⟨false⟩ pol fuel' (max fuel' (fuelFor (initMach st last false) chunks.flatten)) _ _ h1
      (Nat.le_max_left _ _)
    have e2 := run_fuel_mono ⟨false⟩ pol _ (max fuel' (fuelFor (initMach st last false) chunks.flatten)) _ _ h2
      (Nat.le_max_right _ _)
    rw [← e2, e1, hrun]
  obtain ⟨m1, mfh, h1, h2, h3⟩ := C01_model_eq_spec pol tree hpt st last false hst chunks.flatten
  rw [hfeed] at h1
  simp only [RunRes.done.injEq, and_true] at h1
  subst h1
  have hfs := H5V.Props.C03.C03_finish_sim ⟨false⟩ pol mf' mf hsim
  rw [h2] at hfs
  cases hfm : finish ⟨false⟩ pol mf with
  | error e => rw [hfm] at hfs; simp [Except.map] at hfs
  | ok me =>
    rw [hfm] at hfs
    simp only [Except.map, Except.ok.injEq] at hfs
    refine ⟨me, rfl, ?_⟩
    rw [stripBom_false] at h3
    rw [h3, hfs]

/-! ## the parts of the proof: step, loop, `end()`, start -/

/-- **one step.** One `Tokenizer::step` of the model from a configuration in the relation `Rel`
is matched by `k ≥ 0` steps of the specification (`StepOk`: Continue ⇒ a related configuration is
reached, Suspend ⇒ still related; the model neither pauses nor panics). All states: the table
states (`tab_getChar`, `set_from`, `set_notFrom`), the look-ahead states (`stepMdo_sim`,
`stepAdn_sim`, `stepBav_sim`), character references (`stepCharRef_sim_num`, `stepCharRef_sim_named`),
re-reading of un-consumed text (`step_lag_sim`). -/
theorem C01_sim_step (o : Opts) (ho : o.exactErrors = false) (pol : Pol) (tree : Tree) (hpt : PolTree pol tree)
    (m : Mach) (inp : Str) (t : Tok) (rest : Str) (h : Rel m inp t rest) :
    StepOk tree t rest (step o pol m inp) :=
  step_sim o ho pol tree hpt m inp t rest h

/-- **the loop of `Tokenizer::run`** -/
theorem C01_sim_run (o : Opts) (ho : o.exactErrors = false) (pol : Pol) (tree : Tree) (hpt : PolTree pol tree)
    (fuel : Nat) (m : Mach) (inp : Str) (t : Tok) (rest : Str) (h : Rel m inp t rest) :
    RunOk tree t rest (run o pol fuel m inp) :=
  run_sim o ho pol tree hpt fuel m inp t rest h

/-- **`Tokenizer::end`** from any machine in which the loop can have stopped (`Quiet`) -/
theorem C01_sim_finish (o : Opts) (ho : o.exactErrors = false) (pol : Pol) (tree : Tree) (hpt : PolTree pol tree)
    (m : Mach) (t : Tok) (rest : Str) (h : Rel m [] t rest) (hq : Quiet m) (mf : Mach)
    (hf : finish o pol m = .ok mf) : StopsFrom tree t rest (flat mf.out) :=
  finish_sim o ho pol tree hpt m t rest h hq mf hf

/-- the start configuration is in the relation -/
theorem C01_sim_initial (st : State) (last : Option Str) (bom : Bool) (hst : StartOk st) (s : Str) :
    Rel (initMach st last bom) s (Tok.initial (stOf st) last) (normalizeNewlines s) :=
  (rel_initial st last bom hst s).toRel

/-! ## non-vacuity -/

/-- a sink policy: `title` switches to RCDATA, `script` to script data; no CDATA sections -/
def exPol : Pol :=
  { cdataOk := fun _ => false
    onTag := fun _ t =>
      if t.kind = .startTag ∧ t.name = ['t', 'i', 't', 'l', 'e'] then .rawData .rcdata
      else if t.kind = .startTag ∧ t.name = ['s', 'c', 'r', 'i', 'p', 't'] then .rawData .scriptData
      else .continue_ }

/-- the same feedback for the specification -/
def exTree : Tree :=
  { foreign := fun _ => false
    onTag := fun _ t => switchOf (exPol.onTag [] t) }

/-- the hypothesis `PolTree` is satisfiable -/
theorem exPolTree : PolTree exPol exTree := by
  refine ⟨fun out tag => ?_, fun out tag => rfl, fun out => rfl⟩
  unfold exPol
  dsimp only
  split
  · exact ⟨by simp, by simp⟩
  · split
    · exact ⟨by simp, by simp⟩
    · exact ⟨by simp, by simp⟩

/-- the model's side of `C01_model_eq_spec` as a function -/
def modelTokens (pol : Pol) (st : State) (last : Option Str) (bom : Bool) (s : Str) : Option (List Token) :=
  match feed ⟨false⟩ pol (initMach st last bom) [] s with
  | .done m1 [] =>
    match finish ⟨false⟩ pol m1 with
    | .ok mf => some (canon mf.out ++ [Token.eof])
    | .error _ => none
  | _ => none

theorem modelTokens_eq_spec (pol : Pol) (tree : Tree) (hpt : PolTree pol tree) (st : State) (last : Option Str)
    (bom : Bool) (hst : StartOk st) (s : Str) :
    modelTokens pol st last bom s =
      H5V.Spec.HtmlTokenizer.tokenize tree (stOf st) last (normalizeNewlines (stripBom bom s)) := by
  obtain ⟨m1, mf, h1, h2, h3⟩ := C01_model_eq_spec pol tree hpt st last bom hst s
  unfold modelTokens
  rw [h1]
  simp only [h2, h3]

/-- start tag with a duplicate attribute and character references in attribute values (among them the
"historical" `&notit;` exception), numeric references (one from the C1 table), CR LF, a comment, RCDATA
with an end tag that is not appropriate, a DOCTYPE with public identifier, a reference without `;` -/
def exInput : Str :=
  "﻿<a B='&amp;x' b=y c=&notit;>t&#65;&#x80;\r\n<!--c-\r--><title>&lt;</b></TITLE ><!DOCTYPE html PUBLIC \"p\">&notit; &amp".toList

/-- both sides, evaluated by the kernel, on a concrete input: the same 21 tokens -/
example : modelTokens exPol .data none true exInput =
    H5V.Spec.HtmlTokenizer.tokenize exTree .data none (normalizeNewlines (stripBom true exInput)) ∧
    (modelTokens exPol .data none true exInput).map List.length = some 21 := by decide +kernel

/-- the theorem instantiated -/
example : modelTokens exPol .data none true exInput =
    H5V.Spec.HtmlTokenizer.tokenize exTree .data none (normalizeNewlines (stripBom true exInput)) :=
  modelTokens_eq_spec exPol exTree exPolTree .data none true (by decide) exInput

/-- a history-dependent feedback: CDATA sections are allowed once an `svg` start tag has been seen
(a caricature of "the adjusted current node is not in the HTML namespace") -/
def svgSeen (es : List Emit) : Bool :=
  es.any fun e => match e with
    | .tag t => t.kind == .startTag && t.name == ['s', 'v', 'g']
    | _ => false

def histPol : Pol := { cdataOk := fun out => svgSeen (flat out), onTag := fun _ _ => .continue_ }
def histTree : Tree := { foreign := svgSeen, onTag := fun _ _ => .none }

theorem histPolTree : PolTree histPol histTree :=
  ⟨fun _ _ => ⟨by simp [histPol], by simp [histPol]⟩, fun _ _ => rfl, fun _ => rfl⟩

/-- the same markup declaration is a bogus comment before and a CDATA section after `<svg>` — on
both sides -/
example :
    modelTokens histPol .data none true "<![CDATA[a]]><svg><![CDATA[b]]>c".toList =
      H5V.Spec.HtmlTokenizer.tokenize histTree .data none
        (normalizeNewlines (stripBom true "<![CDATA[a]]><svg><![CDATA[b]]>c".toList)) ∧
    (modelTokens histPol .data none true "<![CDATA[a]]><svg><![CDATA[b]]>c".toList).map mergeChars =
      some [.comment "[CDATA[a]]".toList,
            .tag ⟨.startTag, ['s', 'v', 'g'], false, [], false⟩, .chars ['b', 'c'], .eof] := by
  decide +kernel

/-- `StartOk` on seven states it admits and on two it excludes (an attribute value state, and a state
without counterpart in the standard) -/
example : StartOk .data ∧ StartOk (.rawData .rcdata) ∧ StartOk (.rawData (.scriptDataEscaped .doubleEscaped)) ∧
    StartOk .plaintext ∧ StartOk .cdataSection ∧ StartOk .markupDeclarationOpen ∧ StartOk .tagName ∧
    ¬ StartOk (.attributeValue .unquoted) ∧ ¬ StartOk (.rawEndTagName (.scriptDataEscaped .doubleEscaped)) := by
  decide

end H5V.Props.C01
