import H5V.Model.Meta
import H5V.Spec.MetaExtract
/-!
C19 — encoding indicators; the part proved here is the *extraction*:
`encoding.rs::extract_a_character_encoding_from_a_meta_element` (model `H5V.Model.Meta.extract`,
byte offsets, `?` early returns, slice/subtendril panics as error branches) computes exactly the
WHATWG algorithm (`H5V.Spec.MetaExtract.extract`, the standard's loop) for **every** byte string, and
never panics.  As the code does, the raw label is returned: the standard's final "get an encoding"
label lookup is not performed by html5ever.

Not proved here: "feed() suspends exactly once per `meta` start tag that is inserted as an HTML meta
element with a charset attribute or http-equiv=content-type + extractable content, the element is
already in the tree, and resuming continues as if nothing had happened".  The tree-builder side of it,
on the model, is `H5V.Props.C19Fire`; the rest is left to the `meta doc` oracle on the real code.
-/
namespace H5V.Props.C19
open H5V.Model.Meta H5V.Spec.MetaExtract

/-! ### bridging the two vocabularies -/

theorem ws_eq (b : UInt8) : isAsciiWhitespace b = isWs b := by
  simp only [isAsciiWhitespace, isWs]
  cases (b == 0x20) <;> cases (b == 0x09) <;> cases (b == 0x0A) <;> cases (b == 0x0C) <;> cases (b == 0x0D) <;> rfl

theorem ws_fun_eq : isAsciiWhitespace = isWs := funext ws_eq

theorem lower_eq : toAsciiLower = toLower := rfl

theorem eqIgnore_eq (cand : List UInt8) : eqIgnoreAsciiCase cand charset = (cand.map toLower == word) := by
  have : charset.map toLower = word := by decide
  simp only [eqIgnoreAsciiCase, lower_eq, this]

theorem startsWith_len {s : List UInt8} (h : startsWithCharset s = true) : 7 ≤ s.length := by
  simp only [startsWithCharset, beq_iff_eq] at h
  have := congrArg List.length h
  simp only [List.length_map, List.length_take, word, List.length_cons, List.length_nil] at this
  omega

theorem findCharset_short {s : List UInt8} (h : s.length < 7) : findCharset s = none := by
  induction s with
  | nil => rfl
  | cons b tl ih =>
    simp only [findCharset]
    split
    · rename_i hs; have := startsWith_len hs; omega
    · apply ih; simp only [List.length_cons] at h; omega

theorem drop_takeWhile_length (p : UInt8 → Bool) (l : List UInt8) :
    l.drop (l.takeWhile p).length = l.dropWhile p := by
  induction l with
  | nil => rfl
  | cons x xs ih =>
    simp only [List.takeWhile, List.dropWhile]
    split <;> simp [ih]

/-- `iter().position(p)` against `take_while(!p)` -/
theorem findIdx_spec (p : UInt8 → Bool) (l : List UInt8) :
    match l.findIdx? p with
    | some i => i < l.length ∧ l.take i = l.takeWhile (fun b => !p b) ∧ (∃ x ∈ l, p x = true)
    | none => l.takeWhile (fun b => !p b) = l ∧ ∀ x ∈ l, p x = false := by
  induction l with
  | nil => simp
  | cons x xs ih =>
    rw [List.findIdx?_cons]
    by_cases hx : p x = true
    · simp [hx, List.takeWhile]
    · have hx' : p x = false := by simpa using hx
      simp only [hx', Bool.false_eq_true, ↓reduceIte]
      cases h : xs.findIdx? p with
      | some i =>
        rw [h] at ih
        obtain ⟨h1, h2, y, hy, hpy⟩ := ih
        simp only [Option.map_some]
        refine ⟨by simp; omega, ?_, y, by simp [hy], hpy⟩
        simp [List.takeWhile, hx', h2]
      | none =>
        rw [h] at ih
        simp only [Option.map_none]
        refine ⟨by simp [List.takeWhile, hx', ih.1], ?_⟩
        intro y hy; simp at hy; rcases hy with rfl | hy
        · exact hx'
        · exact ih.2 y hy

/-! ### step 2: the inner loop -/

theorem findLoop_spec (input : List UInt8) (fuel pos : Nat) (hpos : pos ≤ input.length)
    (hfuel : input.length - pos < fuel) :
    (findCharset (input.drop pos) = none ∧ findLoop input fuel pos = .ok none) ∨
    (∃ p, pos ≤ p ∧ p + 7 ≤ input.length ∧ findLoop input fuel pos = .ok (some p) ∧
      findCharset (input.drop pos) = some (input.drop (p + 7))) := by
  induction fuel generalizing pos with
  | zero => omega
  | succ fuel ih =>
    simp only [findLoop, getRange]
    by_cases h7 : pos + 7 ≤ input.length
    · have hlt : pos < input.length := by omega
      have hcond : pos ≤ pos + 7 ∧ pos + 7 ≤ input.length := ⟨by omega, h7⟩
      simp only [hcond, and_self, ↓reduceIte, Nat.add_sub_cancel_left, eqIgnore_eq]
      have hd : input.drop pos = input[pos] :: input.drop (pos + 1) := List.drop_eq_getElem_cons hlt
      have hsw : (((input.drop pos).take 7).map toLower == word) = startsWithCharset (input.drop pos) := rfl
      rw [hsw]
      by_cases hs : startsWithCharset (input.drop pos) = true
      · right
        refine ⟨pos, Nat.le_refl _, h7, by simp [hs], ?_⟩
        rw [hd, findCharset, ← hd, if_pos hs, List.drop_drop]
      · simp only [hs, Bool.false_eq_true, ↓reduceIte]
        have hfc : findCharset (input.drop pos) = findCharset (input.drop (pos + 1)) := by
          rw [hd, findCharset, ← hd, if_neg hs]
        rw [hfc]
        rcases ih (pos + 1) (by omega) (by omega) with h | ⟨p, h1, h2, h3, h4⟩
        · exact Or.inl h
        · exact Or.inr ⟨p, by omega, h2, h3, h4⟩
    · left
      have : ¬ (pos ≤ pos + 7 ∧ pos + 7 ≤ input.length) := by omega
      simp only [this, ↓reduceIte, and_true]
      apply findCharset_short; simp only [List.length_drop]; omega

/-! ### steps 2–4: the outer loop -/

theorem afterEquals_unfold (s : List UInt8) :
    afterEquals s = match findCharset s with
      | none => none
      | some after =>
        match skipWs after with
        | 0x3D :: rest => some rest
        | next => afterEquals next := by
  rw [afterEquals]
  split <;> rename_i h <;> simp only [h]
  split <;> rename_i h' <;> simp only [h']

theorem afterEquals_none {s : List UInt8} (h : findCharset s = none) : afterEquals s = none := by
  rw [afterEquals_unfold, h]

theorem afterEquals_eq {s after rest : List UInt8} (h : findCharset s = some after)
    (h2 : skipWs after = 0x3D :: rest) : afterEquals s = some rest := by
  rw [afterEquals_unfold, h]; simp only [h2]

theorem afterEquals_nil {s after : List UInt8} (h : findCharset s = some after)
    (h2 : skipWs after = []) : afterEquals s = none := by
  rw [afterEquals_unfold, h]; simp only [h2]
  exact afterEquals_none rfl

theorem afterEquals_other {s after : List UInt8} {b : UInt8} {rest : List UInt8} (h : findCharset s = some after)
    (h2 : skipWs after = b :: rest) (hb : (b == 0x3D) = false) : afterEquals s = afterEquals (b :: rest) := by
  rw [afterEquals_unfold, h]; simp only [h2]
  split
  · rename_i heq; simp only [List.cons.injEq] at heq; simp [heq.1] at hb
  · rfl

theorem outerLoop_spec (input : List UInt8) (fuel pos : Nat) (hpos : pos ≤ input.length)
    (hfuel : input.length - pos < fuel) :
    (afterEquals (input.drop pos) = none ∧ outerLoop input fuel pos = .ok none) ∨
    (∃ e, e < input.length ∧ outerLoop input fuel pos = .ok (some e) ∧
      afterEquals (input.drop pos) = some (input.drop (e + 1))) := by
  induction fuel generalizing pos with
  | zero => omega
  | succ fuel ih =>
    simp only [outerLoop, bind, Except.bind]
    rcases findLoop_spec input (input.length + 1) pos hpos (by omega) with ⟨hn, hf⟩ | ⟨p, hp1, hp2, hf, hc⟩
    · left; simp only [hf]; exact ⟨afterEquals_none hn, trivial⟩
    · simp only [hf, sliceFrom]
      have h1 : ¬ p + 7 > input.length := by omega
      simp only [h1, ↓reduceIte, ws_fun_eq]
      generalize hk : ((input.drop (p + 7)).takeWhile isWs).length = k
      have hskip : skipWs (input.drop (p + 7)) = input.drop (p + 7 + k) := by
        rw [skipWs, ← drop_takeWhile_length, hk, List.drop_drop]
      by_cases hlt : p + 7 + k < input.length
      · have hd : input.drop (p + 7 + k) = input[p + 7 + k] :: input.drop (p + 7 + k + 1) :=
          List.drop_eq_getElem_cons hlt
        rw [List.getElem?_eq_getElem hlt]
        simp only
        by_cases hb : (input[p + 7 + k] == 0x3D) = true
        · right
          refine ⟨p + 7 + k, hlt, by simp [hb], ?_⟩
          have hb' : input[p + 7 + k] = 0x3D := by simpa using hb
          exact afterEquals_eq hc (by rw [hskip, hd, hb'])
        · have hb' : (input[p + 7 + k] == 0x3D) = false := by simpa using hb
          simp only [hb', Bool.false_eq_true, ↓reduceIte]
          have := afterEquals_other hc (by rw [hskip, hd]) hb'
          rw [this, ← hd]
          exact ih (p + 7 + k) (by omega) (by omega)
      · left
        have hge : input.length ≤ p + 7 + k := by omega
        rw [List.getElem?_eq_none hge]
        refine ⟨afterEquals_nil hc (by rw [hskip]; exact List.drop_of_length_le hge), rfl⟩

/-! ### the theorem -/

/-- **C19 (extraction).**  For every byte string the model of `encoding.rs` returns — without taking
any panic branch and without running out of loop fuel — exactly what the WHATWG algorithm for
extracting a character encoding from a meta element returns (as a raw label). -/
theorem C19_extract (s : List UInt8) : H5V.Model.Meta.extract s = .ok (H5V.Spec.MetaExtract.extract s) := by
  unfold H5V.Model.Meta.extract H5V.Spec.MetaExtract.extract
  simp only [bind, Except.bind]
  rcases outerLoop_spec s (s.length + 1) 0 (Nat.zero_le _) (by omega) with ⟨hn, ho⟩ | ⟨e, he, ho, ha⟩
  · simp only [List.drop_zero] at hn
    simp [ho, hn]
  · simp only [List.drop_zero] at ha
    simp only [ho, ha, Option.bind_some, sliceFrom]
    have h1 : ¬ e + 1 > s.length := by omega
    simp only [h1, ↓reduceIte, ws_fun_eq]
    generalize hk : ((s.drop (e + 1)).takeWhile isWs).length = k
    have hskip : skipWs (s.drop (e + 1)) = s.drop (e + 1 + k) := by
      rw [skipWs, ← drop_takeWhile_length, hk, List.drop_drop]
    unfold value
    rw [hskip]
    by_cases hlt : e + 1 + k < s.length
    · have hd : s.drop (e + 1 + k) = s[e + 1 + k] :: s.drop (e + 1 + k + 1) := List.drop_eq_getElem_cons hlt
      rw [List.getElem?_eq_getElem hlt, hd]
      simp only
      generalize s[e + 1 + k] = q at hd ⊢
      by_cases hq : (q == 0x22 || q == 0x27) = true
      · simp only [hq, ↓reduceIte]
        have h2 : ¬ e + 1 + k + 1 > s.length := by omega
        simp only [h2, ↓reduceIte]
        have hspec := findIdx_spec (fun b => b == q) (s.drop (e + 1 + k + 1))
        cases hf : (s.drop (e + 1 + k + 1)).findIdx? (fun b => b == q) with
        | none =>
          rw [hf] at hspec
          have hnot : q ∉ s.drop (e + 1 + k + 1) := by
            intro hm; have := hspec.2 q hm; simp at this
          simp [hnot]
        | some len =>
          rw [hf] at hspec
          obtain ⟨hl, htake, y, hy, hpy⟩ := hspec
          have hin : q ∈ s.drop (e + 1 + k + 1) := by
            have : y = q := by simpa using hpy
            rw [← this]; exact hy
          have hc : (s.drop (e + 1 + k + 1)).contains q = true := by simpa using hin
          simp only [List.length_drop] at hl
          have hb : ¬ (e + 1 + k + 1 > s.length ∨ len > s.length - (e + 1 + k + 1)) := by omega
          simp only [subtendril, hb, ↓reduceIte, hc, htake]
          rfl
      · have hq' : (q == 0x22 || q == 0x27) = false := by simpa using hq
        simp only [hq', Bool.false_eq_true, ↓reduceIte]
        have h2 : ¬ e + 1 + k > s.length := by omega
        simp only [h2, ↓reduceIte]
        have hspec := findIdx_spec (fun b => isWs b || b == 0x3B) (s.drop (e + 1 + k))
        rw [← hd]
        cases hf : (s.drop (e + 1 + k)).findIdx? (fun b => isWs b || b == 0x3B) with
        | none =>
          rw [hf] at hspec
          have hb : ¬ (e + 1 + k > s.length ∨ s.length - (e + 1 + k) > s.length - (e + 1 + k)) := by omega
          simp only [subtendril, hb, ↓reduceIte, hspec.1]
          rw [List.take_of_length_le (by simp)]
        | some len =>
          rw [hf] at hspec
          obtain ⟨hl, htake, _⟩ := hspec
          simp only [List.length_drop] at hl
          have hb : ¬ (e + 1 + k > s.length ∨ len > s.length - (e + 1 + k)) := by omega
          simp only [subtendril, hb, ↓reduceIte, htake]
    · have hge : s.length ≤ e + 1 + k := by omega
      rw [List.getElem?_eq_none hge, List.drop_of_length_le hge]

/-- the code cannot panic in this function (no slice index out of range, no `usize` underflow, no
`subtendril` bounds failure) and both loops terminate -/
theorem C19_extract_no_panic (s : List UInt8) : ∃ r, H5V.Model.Meta.extract s = .ok r :=
  ⟨_, C19_extract s⟩

/-! ### non-vacuity -/

-- `text/html; charset = "utf-8"x`
example : H5V.Spec.MetaExtract.extract
    [0x74, 0x3B, 0x20, 0x43, 0x48, 0x41, 0x52, 0x53, 0x45, 0x54, 0x20, 0x3D, 0x20, 0x22, 0x75, 0x38, 0x22, 0x78]
    = some [0x75, 0x38] := by
  simp [H5V.Spec.MetaExtract.extract, afterEquals_unfold, findCharset, startsWithCharset, toLower, word, skipWs,
    value, isWs, List.dropWhile, List.takeWhile]

end H5V.Props.C19
