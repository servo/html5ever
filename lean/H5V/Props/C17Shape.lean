import H5V.Lemmas.XmlShapeDoc
/-!
C17 — every tree the XML parser models build is in the class the round-trip theorems are stated for.
Closes the `Partial:` note of C17 ("it is not a theorem that every tree the parser builds is in the class
`preOK` / `isMisc` / `nodesOK` / `treesOK` / `nodesLex`").

Part 0.  FINDING about the class of `C17_roundtrip_fixed` / `C17_roundtrip_tok`: `treesOK`
(`TagOKP.consistent`) EXCLUDES parser-produced trees — an element in a default namespace with an unprefixed
attribute, `<a xmlns="u" k="1"/>` (`C17_witness_class_gap`).  The round trip does hold for them;
`C17_roundtrip_fixedW` / `C17_roundtrip_tokW` restate the two theorems for the class `treesOKW` (weaker
`consistent`, `Lemmas/XmlShapeSer.lean`), which contains `treesOK` and every parser-produced tree.

Part 1 (tree builder).  `C17_parsed_shape`: for EVERY list of tokenizer-shaped tokens (`TokShape`: the name
of a start / empty tag is `process_qname` of a non-empty raw name, attribute names are `process_qname` of
non-empty raw names and pairwise distinct — what `emit_current_tag` / `finish_attribute` deliver —,
character tokens are non-empty) the document the (fixed) tree-builder model builds is either
`pre ++ [root element] ++ post` with `preOK false pre`, `post` comments / PIs, `nodesOK` content and every
tag in `TagOKW` — or has no root element and is a prolog (`preOK false`).  `C17_roundtrip_parsed`: hence
parse → serialize → `lexEv` → parse gives the same document, for every token list, no side condition
(`C17_roundtrip_noroot` for documents without root).  `C17_roundtrip_parsed_source`: the same for the token
lists of `C16_resolve_source_fixed`.

Part 2 (tokenizer).  `C17_tok_always`: for every input every token of the tokenizer model's log satisfies
`tokOK` (`TokA`: `Lemmas/XmlShapeLex*.lean`, `XmlShapeCmt.lean`, an invariant of `step` / `run` / `feed` / `end`
in the style of C15's `CleanP`; plus C15's `CleanP NN`).  `Corner` (decidable, `Lemmas/XmlShapeDoc.lean`):
a start / empty tag with `=` in the prefix of its name or of an attribute name, or with an unsplit attribute
name starting with `:`; a PI whose data starts with a blank.  `C17_tok_lex_or_corner`: every token is
`tokLex` (= `tokOK` and no corner) or a corner.  `C17_parsed_lex`: a log of `tokLex` tokens gives a document
in the class of `C17_roundtrip_tokW`, `nodesLex` included.  `C17_roundtrip_source`: for every input whose log
has no corner token, tokenizer → tree builder → serializer → tokenizer → tree builder reproduces the document
(with or without root element, any chunking and options on both passes).  There is no fourth kind of corner.
-/
namespace H5V.Props.C17
open H5V.Model.XmlTB H5V.Model.XmlSer H5V.Lemmas.XmlTB H5V.Lemmas.XmlSer H5V.Lemmas.XmlSerFixed
open H5V.Lemmas.XmlRT H5V.Lemmas.XmlShape H5V.Spec.XmlNs

/-! ## 0. the class of `C17_roundtrip_fixed`, widened -/

/-- `C17_okEvs_fixed` for the full class of parser-produced tags -/
theorem C17_okEvs_fixedW (doc : List Node) (h : treesOKW doc) :
    okEvs SerCfg.fixed LexCfg.fixed TbCfg.fixed [defaultMap] (serDoc SerCfg.fixed doc) = true :=
  okEvs_fixedW doc h

/-- **`C17_roundtrip_fixed` for the class `treesOKW`** (contains `treesOK`: `treesOKW_of_treesOK`) -/
theorem C17_roundtrip_fixedW (pre post ks : List Node) (n : QName) (as : List Attr)
    (hpre : preOK false pre) (hpost : ∀ x ∈ post, isMisc x = true)
    (hks : nodesOK SerCfg.fixed false ks)
    (htags : treesOKW (pre ++ .elem n as ks :: post)) :
    ∃ s, reparse SerCfg.fixed LexCfg.fixed TbCfg.fixed (pre ++ .elem n as ks :: post) = .ok s ∧
      s.document = pre.map stripId ++ .elem n as ks :: post :=
  C17_roundtrip_partial SerCfg.fixed LexCfg.fixed TbCfg.fixed pre post ks n as hpre hpost hks
    (C17_okEvs_fixedW _ htags)

/-- `C17_roundtrip_tok` for the class `treesOKW` -/
theorem C17_roundtrip_tokW (o : Model.XmlTok.Opts) (bom : Bool)
    (pre post ks : List Node) (n : QName) (as : List Attr)
    (hpre : preOK false pre) (hpost : ∀ x ∈ post, isMisc x = true)
    (hks : nodesOK SerCfg.fixed false ks) (htags : treesOKW (pre ++ .elem n as ks :: post))
    (hlex : nodesLex (pre ++ .elem n as ks :: post))
    (cs : List Str) (hcs : cs.flatten = serText (pre ++ .elem n as ks :: post)) :
    ∃ mf m2 s, C15.feedAll o { discardBom := bom } cs = some mf ∧ Model.XmlTok.finish o mf = .ok m2 ∧
      run TbCfg.fixed State.init (tbTokens m2.out) = .ok s ∧
      s.document = pre.map stripId ++ .elem n as ks :: post := by
  obtain ⟨mf, m2, h1, h2, h3⟩ := C17_tok_events o bom pre post ks n as hpre hpost hks hlex cs hcs
  obtain ⟨s, hs, hd⟩ := C17_roundtrip_fixedW pre post ks n as hpre hpost hks htags
  refine ⟨mf, m2, s, h1, h2, ?_, hd⟩
  rw [h3]; exact hs

/-- `<a xmlns="u" k="1"/>` -/
def docDefaultAttr : List Node := [el none "u" "a" [at' none "" "k" "1"] []]

/-- **finding (class gap)**: the parser models build `docDefaultAttr` from `<a xmlns='u' k='1'/>`, it comes
back unchanged through serializer, tokenizer and tree-builder models — but it is NOT in the class `treesOK`
of `C17_roundtrip_fixed` / `C17_roundtrip_tok` (its root tag is not `TagOKP`: the element name needs a
declaration, has the same prefix — none — as the attribute `k`, and a different namespace).  It is in
`treesOKW`. -/
theorem C17_witness_class_gap :
    parseTok ⟨false⟩ true "<a xmlns='u' k='1'/>".toList = some docDefaultAttr ∧
    reparseTok ⟨false⟩ true docDefaultAttr = some docDefaultAttr ∧
    ¬ treesOK docDefaultAttr ∧ treesOKW docDefaultAttr := by
  refine ⟨checkParse_sound _ _ _ _ (by decide +kernel), checkRT_sound _ _ _ _ (by decide +kernel), ?_, ?_⟩
  · intro h
    have h1 : TagOKP (qn none "u" "a") [at' none "" "k" "1"] := h.1.1
    have := h1.consistent (at' none "" "k" "1").name (by simp) (qn none "u" "a") (by simp) rfl (by decide)
    revert this; decide
  · simp only [docDefaultAttr, treesOKW, treeOKW, el, and_true]
    refine ⟨⟨⟨by decide, by decide⟩, by decide, by decide, by decide⟩, ?_, by decide, by decide, ?_⟩
    · intro a ha
      simp at ha; subst ha
      exact ⟨⟨by decide, by decide⟩, by decide, by decide, by decide, by decide⟩
    · intro x hx y hy hp hny hnx
      simp only [List.map_cons, List.map_nil, List.mem_cons, List.not_mem_nil, or_false] at hx hy
      rcases hx with rfl | rfl <;> rcases hy with rfl | rfl <;> first | rfl | (revert hnx hny; decide)

/-! ## 1. the shape of every parsed document -/

theorem elemsOfL_pre (l : List Node) (h : ∀ x ∈ l, isPre x = true) : elemsOfL l = [] := by
  induction l with
  | nil => rfl
  | cons x xs ih =>
    have hx := h x (by simp)
    have := ih (fun y hy => h y (by simp [hy]))
    cases x <;> simp_all [elemsOfL, elemsOf, isPre]

/-- the shape theorem with a predicate `Q` on the leaves (text, comment, PI, doctype nodes) carried along -/
theorem parsed_shape_Q (Q : Node → Prop) (hQ : TextClosed Q) (toks : List Token) (hts : ∀ t ∈ toks, TokShape t)
    (hq : ∀ t ∈ toks, TokLeafQ Q t) :
    ∃ s, run TbCfg.fixed State.init toks = .ok s ∧ s.createdList = resolve .prolog toks ∧
      ((s.hasRoot = true ∧ ∃ pre n as ks post, s.document = pre ++ .elem n as ks :: post ∧ preOK false pre ∧
          (∀ x ∈ post, isMisc x = true) ∧ nodesOK SerCfg.fixed false ks ∧
          treesOKW (pre ++ .elem n as ks :: post) ∧
          (∀ c ∈ elemsOfL (pre ++ .elem n as ks :: post), c ∈ s.created) ∧
          (∀ x ∈ leavesOfL (pre ++ .elem n as ks :: post), Q x)) ∨
       (s.hasRoot = false ∧ preOK false s.document ∧ ∀ x ∈ s.document, isPre x = true ∧ Q x)) := by
  obtain ⟨s, hrun, hcr⟩ := C16.C16_resolve_fixed toks (by
    intro t ht tg htg
    subst htg
    exact C16.noDupDecl_of_nodup_names _ (hts _ ht).nodup)
  have hsh := run_shape hQ TbCfg.fixed toks State.init (shapeC_init _)
    (fun t ht => (hts t ht).good (hq t ht)) s hrun
  have hok : ∀ c ∈ s.created, TagOKW c.name c.attrs := by
    intro c hc
    apply resolve_ok toks hts c
    rw [← hcr]; simpa [State.createdList] using hc
  refine ⟨s, hrun, hcr, ?_⟩
  rcases document_shape _ s.created s hsh with
    ⟨hr, pre, n, as, ks, post, hd, hpre, hpost, hks, hn, hel, hq1, hq2, hq3⟩ | h
  · left
    have hpre' := preOK_isPre false pre hpre
    have hpost' : ∀ x ∈ post, isPre x = true := fun x hx => by
      have := hpost x hx; cases x <;> simp_all [isMisc, isPre]
    have e1 := elemsOfL_pre pre hpre'
    have e2 := elemsOfL_pre post hpost'
    have hmem : ∀ c ∈ elemsOfL (pre ++ .elem n as ks :: post), c ∈ s.created := by
      intro c hc
      rw [elemsOfL_append] at hc
      simp only [e1, List.nil_append, elemsOfL, elemsOf, e2, List.append_nil, List.mem_cons] at hc
      rcases hc with rfl | hc
      · exact hn
      · exact hel c hc
    refine ⟨hr, pre, n, as, ks, post, hd, hpre, hpost, hks, ?_, hmem, ?_⟩
    · apply treesOKW_of_elems
      intro c hc
      exact hok c (hmem c hc)
    · intro x hx
      rw [leavesOfL_append, leavesOfL_pre pre hpre'] at hx
      simp only [leavesOfL, leavesOf, leavesOfL_pre post hpost', List.mem_append] at hx
      rcases hx with hx | hx | hx
      · exact hq1 x hx
      · exact hq3 x hx
      · exact hq2 x hx
  · right; exact h

/-- **C17 (shape of parsed documents).**  For every list of tokenizer-shaped tokens the fixed tree-builder
model runs to completion, and the document it has built is
* either `pre ++ [.elem n as ks] ++ post` with `pre` comments / PIs / at most one doctype, `post` comments /
  PIs, `ks` element content without doctype, empty text or adjacent text nodes, and every tag of the tree a
  `TagOKW` tag — every hypothesis of `C17_roundtrip_fixedW`;
* or has no root element (no start / empty tag was seen before an EOF token), and then consists of
  comments, PIs and at most one doctype (`preOK false`). -/
theorem C17_parsed_shape (toks : List Token) (hts : ∀ t ∈ toks, TokShape t) :
    ∃ s, run TbCfg.fixed State.init toks = .ok s ∧
      ((s.hasRoot = true ∧ ∃ pre n as ks post, s.document = pre ++ .elem n as ks :: post ∧ preOK false pre ∧
          (∀ x ∈ post, isMisc x = true) ∧ nodesOK SerCfg.fixed false ks ∧
          treesOKW (pre ++ .elem n as ks :: post)) ∨
       (s.hasRoot = false ∧ preOK false s.document ∧ ∀ x ∈ s.document, isPre x = true)) := by
  obtain ⟨s, hrun, _, h⟩ := parsed_shape_Q (fun _ => True) textClosed_true toks hts (fun t _ => tokLeafQ_true t)
  refine ⟨s, hrun, ?_⟩
  rcases h with ⟨hr, pre, n, as, ks, post, hd, hpre, hpost, hks, ht, _, _⟩ | ⟨h1, h2, h3⟩
  · exact Or.inl ⟨hr, pre, n, as, ks, post, hd, hpre, hpost, hks, ht⟩
  · exact Or.inr ⟨h1, h2, fun x hx => (h3 x hx).1⟩

/-- the token lists of `C16_resolve_source_fixed` — lexed tags through the tokenizer's attribute step
`finishTag TokCfg.fixed`, any other tokens — are tokenizer-shaped as soon as start / empty tags have a
non-empty raw name and character tokens are non-empty -/
theorem tokShape_of_source (raws : List C16.RawToken)
    (hother : ∀ r ∈ raws, ∀ t, r = .other t → (∀ tg, t ≠ .tag tg) ∧ ∀ cs, t = .chars cs → cs ≠ [])
    (hname : ∀ r ∈ raws, ∀ t, r = .tag t → (t.kind = .start ∨ t.kind = .empty) → t.name ≠ []) :
    ∀ t ∈ raws.map (C16.finishToken TokCfg.fixed), TokShape t := by
  intro t ht
  obtain ⟨r, hr, rfl⟩ := List.mem_map.mp ht
  match r, hr with
  | .tag rt, hr => exact finishTag_shape rt (hname _ hr rt rfl)
  | .other t', hr =>
    obtain ⟨h1, h2⟩ := hother _ hr t' rfl
    simp only [C16.finishToken]
    cases t' with
    | tag tg => exact absurd rfl (h1 tg)
    | chars cs => exact h2 cs rfl
    | doctype _ _ _ | comment _ | pi _ _ | nullChar | eof => trivial

/-- a document without a root element (comments, PIs, at most one doctype) comes back, too -/
theorem C17_roundtrip_noroot (scfg : SerCfg) (lcfg : LexCfg) (tcfg : TbCfg) (pre : List Node)
    (hpre : preOK false pre) :
    ∃ s, reparse scfg lcfg tcfg pre = .ok s ∧ s.document = pre.map stripId := by
  have hp := preOK_isPre false pre hpre
  unfold reparse lexAll
  have hsp := serNodes_spells scfg [] pre
  change Spells (serDoc scfg pre) _ at hsp
  generalize serDoc scfg pre = evs at hsp
  obtain ⟨evs1, rfl, hsp1⟩ := spells_pre pre hp [] evs (by simpa using hsp)
  cases hsp1
  obtain ⟨s1, h1, hp1, ho1, hr1, _, hdb1, hda1⟩ := run_pre scfg lcfg tcfg pre State.init [.eof] hpre rfl rfl rfl
  simp only [List.append_nil]
  have e : step tcfg s1 .eof = .ok { s1.err [.eofInStart] with phase := .end_ } := by
    unfold step; simp only [hp1]
  refine ⟨{ s1.err [.eofInStart] with phase := .end_ }, ?_, ?_⟩
  · rw [h1, run_cons, e]; rfl
  · have hb' : (s1.err [Err.eofInStart]).docBefore = (pre.map stripId).reverse := by
      show s1.docBefore = _; rw [hdb1]; simp [State.init]
    have ha' : (s1.err [Err.eofInStart]).docAfter = [] := by
      show s1.docAfter = _; rw [hda1]; rfl
    simp [State.document, hr1, ho1, closeAll, hb', ha']

/-- **C17 (round trip of parsed documents), `lexEv` level**: for EVERY list of tokenizer-shaped tokens,
parse (fixed tree-builder model) → serialize (fixed serializer model) → lex (`lexEv`) → parse reproduces
the document (doctype ids dropped) — no side condition on the tree. -/
theorem C17_roundtrip_parsed (toks : List Token) (hts : ∀ t ∈ toks, TokShape t) :
    ∃ s s2, run TbCfg.fixed State.init toks = .ok s ∧
      reparse SerCfg.fixed LexCfg.fixed TbCfg.fixed s.document = .ok s2 ∧
      s2.document = s.document.map stripId := by
  obtain ⟨s, hrun, h⟩ := C17_parsed_shape toks hts
  rcases h with ⟨_, pre, n, as, ks, post, hd, hpre, hpost, hks, htags⟩ | ⟨_, hpre, _⟩
  · obtain ⟨s2, h1, h2⟩ := C17_roundtrip_fixedW pre post ks n as hpre hpost hks htags
    refine ⟨s, s2, hrun, by rw [hd]; exact h1, ?_⟩
    rw [h2, hd]
    have : post.map stripId = post := by
      rw [← List.map_id post]; simp only [List.map_map]
      apply List.map_congr_left
      intro x hx
      have := hpost x hx
      cases x <;> simp_all [isMisc, stripId]
    simp [this, stripId]
  · obtain ⟨s2, h1, h2⟩ := C17_roundtrip_noroot SerCfg.fixed LexCfg.fixed TbCfg.fixed s.document hpre
    exact ⟨s, s2, hrun, h1, h2⟩

/-- `C17_parsed_shape` / `C17_roundtrip_parsed` for the token lists of `C16_resolve_source_fixed` -/
theorem C17_roundtrip_parsed_source (raws : List C16.RawToken)
    (hother : ∀ r ∈ raws, ∀ t, r = .other t → (∀ tg, t ≠ .tag tg) ∧ ∀ cs, t = .chars cs → cs ≠ [])
    (hname : ∀ r ∈ raws, ∀ t, r = .tag t → (t.kind = .start ∨ t.kind = .empty) → t.name ≠ []) :
    ∃ s s2, run TbCfg.fixed State.init (raws.map (C16.finishToken TokCfg.fixed)) = .ok s ∧
      reparse SerCfg.fixed LexCfg.fixed TbCfg.fixed s.document = .ok s2 ∧
      s2.document = s.document.map stripId :=
  C17_roundtrip_parsed _ (tokShape_of_source raws hother hname)

/-! ## 2. the tokenizer side: which tokens can break the lexical side conditions -/

open H5V.Lemmas.XmlShapeLex (LInv linv_initial feed_linv finish_lex)

theorem feedAll_linv (o : Model.XmlTok.Opts) (cs : List Str) :
    ∀ (m : Model.XmlTok.Mach), Model.XmlTok.TInv m → LInv m →
      ∃ mf, C15.feedAll o m cs = some mf ∧ Model.XmlTok.TInv mf ∧ LInv mf := by
  induction cs with
  | nil => intro m hi hl; exact ⟨m, rfl, hi, hl⟩
  | cons c cs ih =>
    intro m hi hl
    obtain ⟨m1, hf, hi1⟩ := C04X.C04_xml_feed_total o m [] c hi
    obtain ⟨mf, hmf, h1, h2⟩ := ih m1 hi1 (feed_linv o hl [] c m1 [] hf)
    exact ⟨mf, by simp only [C15.feedAll, hf]; exact hmf, h1, h2⟩

/-- **C17 (what every emitted token satisfies).**  For EVERY input — any chunking `cs`, either
`discard_bom`, either `exact_errors` — a fresh XML tokenizer model, fed and ended, runs to completion, and
every token of its log satisfies `tokOK`: the always-true lexical clauses `TokA` (`Lemmas/XmlShapeLex.lean`:
tag names `TagNameLex`, attribute names made of name characters with no `=` after the first, pairwise
distinct attribute names, PI targets non-empty without blanks / `?`, PI data without `?`, doctype names
`DtCh`, non-empty character tokens) and C15's `CleanP NN` (no CR / NUL in names, comments, PIs, doctype
names; no NUL in attribute values and character tokens). -/
theorem C17_tok_always (o : Model.XmlTok.Opts) (bom : Bool) (cs : List Str) :
    ∃ mf m2, C15.feedAll o { discardBom := bom } cs = some mf ∧ Model.XmlTok.finish o mf = .ok m2 ∧
      ∀ t ∈ m2.out, tokOK t := by
  obtain ⟨mf, hf, hi, hl⟩ := feedAll_linv o cs _ (C04X.C04_xml_initial_inv .data bom) (linv_initial bom)
  obtain ⟨m2, hm2, _⟩ := C04X.C04_xml_finish_total o mf hi
  obtain ⟨hc, hx⟩ := finish_lex o hl m2 hm2
  exact ⟨mf, m2, hf, hm2, fun t ht => ⟨hx.1.out t ht, hc.out t ht⟩⟩

/-- the lexical condition on one token under which the tree built from it satisfies `nodesLex`
(`C17_parsed_lex`): the always-true clauses plus "no corner" -/
def tokLex (t : XTok) : Prop := tokOK t ∧ Corner t = false

/-- **C17 (lexical or corner).**  Every token the tokenizer model emits, for every input, satisfies `tokLex`
or is a `Corner` token: a start / empty tag with `=` in the prefix of its name or of an attribute name, or
with an unsplit attribute name starting with `:`; a PI whose data starts with a blank.  These are exactly the
three known round-trip failures (`C17_witness_prefix_eq`, `C17_witness_attr_leading_colon`,
`C17_witness_pi_blank`; `C17_known_corners`) — there is no fourth kind: tag names, attribute names, comments
(`CommentLex`: the comment states never push a `>` where the re-parse would end the comment), PI targets,
doctype names, text and attribute values satisfy their lexical conditions for every input. -/
theorem C17_tok_lex_or_corner (o : Model.XmlTok.Opts) (bom : Bool) (cs : List Str) :
    ∃ mf m2, C15.feedAll o { discardBom := bom } cs = some mf ∧ Model.XmlTok.finish o mf = .ok m2 ∧
      ∀ t ∈ m2.out, tokLex t ∨ Corner t = true := by
  obtain ⟨mf, m2, h1, h2, h3⟩ := C17_tok_always o bom cs
  refine ⟨mf, m2, h1, h2, fun t ht => ?_⟩
  cases hc : Corner t with
  | true => exact Or.inr rfl
  | false => exact Or.inl ⟨h3 t ht, hc⟩

/-- **C17 (parsed documents are in the class of `C17_roundtrip_tok`).**  If every token of a tokenizer log
satisfies `tokLex`, the document the fixed tree-builder model builds from it (`tbTokens`) has the shape of
`C17_parsed_shape` AND satisfies the lexical side conditions `nodesLex`. -/
theorem C17_parsed_lex (out : Model.XmlTok.Out) (h : ∀ t ∈ out, tokLex t) :
    ∃ s, run TbCfg.fixed State.init (tbTokens out) = .ok s ∧
      ((s.hasRoot = true ∧ ∃ pre n as ks post, s.document = pre ++ .elem n as ks :: post ∧ preOK false pre ∧
          (∀ x ∈ post, isMisc x = true) ∧ nodesOK SerCfg.fixed false ks ∧
          treesOKW (pre ++ .elem n as ks :: post) ∧ nodesLex (pre ++ .elem n as ks :: post)) ∨
       (s.hasRoot = false ∧ preOK false s.document ∧ nodesLex s.document)) := by
  have htk := tbTokens_ok out (fun t ht => (h t ht).1) (fun t ht => (h t ht).2)
  obtain ⟨s, hrun, hcr, hd⟩ := parsed_shape_Q LeafLex textClosed_leafLex (tbTokens out)
    (fun t ht => (htk t ht).1) (fun t ht => by
      have := (htk t ht).2
      cases t <;> first | exact this | trivial)
  refine ⟨s, hrun, ?_⟩
  have hel : ∀ c ∈ s.created, ElemLex c.name c.attrs := by
    intro c hc
    apply resolve_lex (tbTokens out) _ c
    · rw [← hcr]; simpa [State.createdList] using hc
    · intro t ht tg e; subst e; exact (htk _ ht).2
  rcases hd with ⟨hr, pre, n, as, ks, post, hdoc, hpre, hpost, hks, htags, hmem, hleaf⟩ | ⟨h1, h2, h3⟩
  · left
    exact ⟨hr, pre, n, as, ks, post, hdoc, hpre, hpost, hks, htags,
      nodesLex_of_parts _ (fun c hc => hel c (hmem c hc)) hleaf⟩
  · right
    refine ⟨h1, h2, nodesLex_of_parts _ ?_ ?_⟩
    · rw [elemsOfL_pre _ (fun x hx => (h3 x hx).1)]; intro c hc; cases hc
    · rw [leavesOfL_pre _ (fun x hx => (h3 x hx).1)]; exact fun x hx => (h3 x hx).2

/-! ## 2b. documents without a root element through the tokenizer model -/

theorem feedAll_empties (o : Model.XmlTok.Opts) (m : Model.XmlTok.Mach) (cs : List Str) (h : ∀ c ∈ cs, c = []) :
    C15.feedAll o m cs = some m := by
  induction cs with
  | nil => rfl
  | cons c cs ih =>
    have hc := h c (by simp)
    subst hc
    have : Model.XmlTok.feed o m [] [] = .done m [] := by simp [Model.XmlTok.feed]
    simp only [C15.feedAll, this]
    exact ih (fun x hx => h x (by simp [hx]))

/-- the empty document: no text at all, the tokenizer delivers EOF only -/
theorem tok_events_empty (o : Model.XmlTok.Opts) (bom : Bool) (cs : List Str) (hcs : cs.flatten = []) :
    ∃ mf m2, C15.feedAll o { discardBom := bom } cs = some mf ∧ Model.XmlTok.finish o mf = .ok m2 ∧
      tbTokens m2.out = lexAll SerCfg.fixed LexCfg.fixed (serDoc SerCfg.fixed []) := by
  have hall : ∀ c ∈ cs, c = [] := by
    intro c hc
    have := List.flatten_eq_nil_iff.mp hcs c hc
    exact this
  have hm : ∀ (out : Model.XmlTok.Out), out = [.eof] →
      tbTokens out = lexAll SerCfg.fixed LexCfg.fixed (serDoc SerCfg.fixed []) := by
    intro out e; subst e
    simp [tbTokens, cvOut, cvTok, mergeChars, lexAll, serDoc, serNodes]
  obtain ⟨b⟩ := o
  cases b <;> cases bom <;> exact ⟨_, _, feedAll_empties _ _ cs hall, rfl, hm _ rfl⟩

/-- **C17 (round trip, models only) for a document without root element**: comments, PIs, at most one
doctype, lexically re-readable -/
theorem C17_roundtrip_tok_noroot (o : Model.XmlTok.Opts) (bom : Bool) (pre : List Node)
    (hpre : preOK false pre) (hlex : nodesLex pre) (cs : List Str) (hcs : cs.flatten = serText pre) :
    ∃ mf m2 s, C15.feedAll o { discardBom := bom } cs = some mf ∧ Model.XmlTok.finish o mf = .ok m2 ∧
      run TbCfg.fixed State.init (tbTokens m2.out) = .ok s ∧ s.document = pre.map stripId := by
  obtain ⟨s, hs, hd⟩ := C17_roundtrip_noroot SerCfg.fixed LexCfg.fixed TbCfg.fixed pre hpre
  have hp := preOK_isPre false pre hpre
  have hev : ∃ mf m2, C15.feedAll o { discardBom := bom } cs = some mf ∧ Model.XmlTok.finish o mf = .ok m2 ∧
      tbTokens m2.out = lexAll SerCfg.fixed LexCfg.fixed (serDoc SerCfg.fixed pre) := by
    cases pre with
    | nil => exact tok_events_empty o bom cs (by rw [hcs]; rfl)
    | cons x xs =>
      have hm := misc_facts (x :: xs) hp
      refine tok_events_doc o bom (x :: xs) (by simp) ?_ (hm false).1 (hm false).2 hlex cs hcs
      intro y hy
      simp only [List.head?_cons, Option.some.injEq] at hy; subst hy
      have := hp x (by simp)
      cases x <;> simp_all [isPre, isTextN]
  obtain ⟨mf, m2, h1, h2, h3⟩ := hev
  exact ⟨mf, m2, s, h1, h2, by rw [h3]; exact hs, hd⟩

/-- **C17 (round trip from source text, models only).**  For EVERY input (`cs`: any chunking; `o`, `bom`):
tokenizer model → tree-builder model builds a document `s.document`; if no token of the log is a `Corner`
token, then serializer model → text → tokenizer model (fresh, any options `o'`, `bom'`, any chunking `cs'` of
the text) → tree-builder model reproduces the document (doctype ids dropped).  No hypothesis on the tree:
shape, tags and lexical conditions are theorems (`C17_parsed_lex`); documents without a root element are
covered (`C17_roundtrip_tok_noroot`). -/
theorem C17_roundtrip_source (o : Model.XmlTok.Opts) (bom : Bool) (cs : List Str) :
    ∃ mf m2 s, C15.feedAll o { discardBom := bom } cs = some mf ∧ Model.XmlTok.finish o mf = .ok m2 ∧
      run TbCfg.fixed State.init (tbTokens m2.out) = .ok s ∧
      ((∀ t ∈ m2.out, Corner t = false) →
        ∀ (o' : Model.XmlTok.Opts) (bom' : Bool) (cs' : List Str), cs'.flatten = serText s.document →
          ∃ mf' m2' s', C15.feedAll o' { discardBom := bom' } cs' = some mf' ∧
            Model.XmlTok.finish o' mf' = .ok m2' ∧
            run TbCfg.fixed State.init (tbTokens m2'.out) = .ok s' ∧
            s'.document = s.document.map stripId) := by
  obtain ⟨mf, m2, h1, h2, h3⟩ := C17_tok_always o bom cs
  obtain ⟨s, hrun⟩ := C16.C16_no_panic TbCfg.fixed (tbTokens m2.out)
  refine ⟨mf, m2, s, h1, h2, hrun, ?_⟩
  intro hnc o' bom' cs' hcs'
  obtain ⟨s0, hrun0, hd⟩ := C17_parsed_lex m2.out (fun t ht => ⟨h3 t ht, hnc t ht⟩)
  have : s0 = s := by rw [hrun] at hrun0; injection hrun0 with e; exact e.symm
  subst this
  rcases hd with ⟨_, pre, n, as, ks, post, hdoc, hpre, hpost, hks, htags, hlex⟩ | ⟨_, hpre, hlex⟩
  · rw [hdoc] at hcs'
    obtain ⟨mf', m2', s', g1, g2, g3, g4⟩ :=
      C17_roundtrip_tokW o' bom' pre post ks n as hpre hpost hks htags hlex cs' hcs'
    refine ⟨mf', m2', s', g1, g2, g3, ?_⟩
    rw [g4, hdoc]
    have : post.map stripId = post := by
      rw [← List.map_id post]; simp only [List.map_map]
      apply List.map_congr_left
      intro x hx
      have := hpost x hx
      cases x <;> simp_all [isMisc, stripId]
    simp [this, stripId]
  · exact C17_roundtrip_tok_noroot o' bom' s0.document hpre hlex cs' hcs'

/-! ## 3. evaluated forms, non-vacuity, the known corners -/

/-- tokenizer model (chunks `cs`) → `end` → tree-builder model: the token log, the document, "has a root" -/
def srcParse (o : Model.XmlTok.Opts) (bom : Bool) (cs : List Str) :
    Option (Model.XmlTok.Out × List Node × Bool) :=
  match C15.feedAll o { discardBom := bom } cs with
  | some mf =>
    match Model.XmlTok.finish o mf with
    | .ok m2 =>
      match run TbCfg.fixed State.init (tbTokens m2.out) with
      | .ok s => some (m2.out, s.document, s.hasRoot)
      | .error _ => none
    | .error _ => none
  | none => none

/-- `srcParse` never fails -/
theorem srcParse_total (o : Model.XmlTok.Opts) (bom : Bool) (cs : List Str) :
    ∃ r, srcParse o bom cs = some r := by
  obtain ⟨mf, m2, s, h1, h2, h3, _⟩ := C17_roundtrip_source o bom cs
  exact ⟨(m2.out, s.document, s.hasRoot), by simp only [srcParse, h1, h2, h3]⟩

/-- the evaluated form of `C17_roundtrip_source`: run the parser models on the input; if the log has no
`Corner` token, the document survives serializer → tokenizer → tree builder -/
theorem C17_roundtrip_source_eval (o : Model.XmlTok.Opts) (bom : Bool) (cs : List Str)
    (out : Model.XmlTok.Out) (doc : List Node) (r0 : Bool) (hp : srcParse o bom cs = some (out, doc, r0))
    (hnc : out.all (fun t => !Corner t) = true)
    (o' : Model.XmlTok.Opts) (bom' : Bool) (cs' : List Str) (hcs' : cs'.flatten = serText doc) :
    ∃ out' r, srcParse o' bom' cs' = some (out', doc.map stripId, r) := by
  obtain ⟨mf, m2, s, h1, h2, h3, h4⟩ := C17_roundtrip_source o bom cs
  have e : (out, doc, r0) = (m2.out, s.document, s.hasRoot) := by
    have : srcParse o bom cs = some (m2.out, s.document, s.hasRoot) := by simp only [srcParse, h1, h2, h3]
    rw [hp] at this; injection this
  simp only [Prod.mk.injEq] at e
  obtain ⟨e1, e2, _⟩ := e
  subst e1 e2
  obtain ⟨mf', m2', s', g1, g2, g3, g4⟩ := h4 (by
    intro t ht
    have := List.all_eq_true.mp hnc t ht
    simpa using this) o' bom' cs' hcs'
  exact ⟨m2'.out, s'.hasRoot, by simp only [srcParse, g1, g2, g3, g4]⟩

def srcOK (o : Model.XmlTok.Opts) (bom : Bool) (cs : List Str) : Bool :=
  match srcParse o bom cs with
  | some (out, _, _) => out.all (fun t => !Corner t)
  | none => false

def srcHasCorner (o : Model.XmlTok.Opts) (bom : Bool) (cs : List Str) : Bool :=
  match srcParse o bom cs with
  | some (out, _, _) => out.any Corner
  | none => false

/-- non-vacuity of `C17_roundtrip_source`: inputs (split into chunks at awkward places) whose logs
have no corner token — default namespace with unprefixed attribute (the
class gap), prefixes, CR / NUL / character references, CDATA, comments with `--` and `>` inside, PIs,
doctype, unclosed elements, stray end tags -/
example :
    srcOK ⟨false⟩ true ["<!DOCTYPE R><!--a--b>c--!x-->".toList, "<a xmlns='u' k='1' p:q=\"&amp;&#13;\r\n\">".toList,
      "t<![CDATA[x]]>&lt;\x00<p:b xmlns:p='v'/></c><?pi d?>".toList] = true ∧
    srcOK ⟨true⟩ false ["<a".toList, ":b c".toList, "='1'>x</a:b><!-- - -->".toList] = true := by
  constructor <;> decide +kernel

/-- documents without a root element, and the empty input -/
example :
    srcOK ⟨false⟩ true ["<!--c--><!DOCTYPE x><?p d?> ".toList] = true ∧ srcOK ⟨true⟩ false [] = true ∧
    (match srcParse ⟨false⟩ true ["<!--c--><?p d?> x".toList] with
     | some (_, d, r) => nodesBeq d [.comment ['c'], .pi ['p'] ['d']] && !r
     | none => false) = true := by
  refine ⟨by decide +kernel, by decide +kernel, by decide +kernel⟩

/-- the three known corners are `Corner` tokens -/
theorem C17_known_corners :
    srcHasCorner ⟨false⟩ true ["<r a :b='1'/>".toList] = true ∧
    srcHasCorner ⟨false⟩ true ["<=a:b/>".toList] = true ∧
    srcHasCorner ⟨false⟩ true ["<?t? x?><r/>".toList] = true ∧
    srcHasCorner ⟨false⟩ true ["<r =p:x='1'/>".toList] = true := by
  refine ⟨?_, ?_, ?_, ?_⟩ <;> decide +kernel

/-- `<r =p:x='1'/>` -/
def docAttrPrefixEq : List Node := [el none "" "r" [at' (some "=p") "" "x" "1"] []]

/-- **variant of finding C17-prefix-eq, on an ATTRIBUTE**: in the tag-attribute-name-BEFORE state `=` starts
an attribute name like any other character, so `<r =p:x='1'/>` gives an attribute with the (unbound) prefix
`=p`; the fixed serializer declares it, `xmlns:=p=""`, which is read back as an attribute `xmlns:` with value
`p=""`.  Same `Corner` clause (`=` in a prefix) as the element-name case `C17_witness_prefix_eq`. -/
theorem C17_witness_attr_prefix_eq :
    parseTok ⟨false⟩ true "<r =p:x='1'/>".toList = some docAttrPrefixEq ∧
    serText docAttrPrefixEq = "<r xmlns:=p=\"\" =p:x=\"1\"></r>".toList ∧
    reparseTok ⟨false⟩ true docAttrPrefixEq =
      some [el none "" "r" [at' none "" "xmlns:" "p=\"\"", at' (some "=p") "" "x" "1"] []] ∧
    srcHasCorner ⟨false⟩ true ["<r =p:x='1'/>".toList] = true := by
  refine ⟨checkParse_sound _ _ _ _ (by decide +kernel), by decide +kernel,
    checkRT_sound _ _ _ _ (by decide +kernel), by decide +kernel⟩

/-- non-vacuity of `C17_parsed_shape` / `C17_roundtrip_parsed`: both alternatives occur -/
example : ∃ s, run TbCfg.fixed State.init
      [.comment ['c'], .tag ⟨.start, ⟨none, ['a']⟩, []⟩, .chars ['x'], .chars ['y'], .tag ⟨.empty, ⟨none, ['b']⟩, []⟩,
       .eof] = .ok s ∧
    s.hasRoot = true ∧
    s.document = [.comment ['c'], .elem ⟨none, [], ['a']⟩ [] [.text ['x', 'y'], .elem ⟨none, [], ['b']⟩ [] []]] :=
  ⟨_, rfl, rfl, rfl⟩

example : ∃ s, run TbCfg.fixed State.init [.comment ['c'], .doctype (some ['r']) none none, .eof, .pi ['t'] []] = .ok s ∧
    s.hasRoot = false ∧ s.document = [.comment ['c'], .doctype ['r'] [] [], .pi ['t'] []] := ⟨_, rfl, rfl, rfl⟩

example : ∀ t ∈ [Token.comment ['c'], .tag ⟨.start, ⟨none, ['a']⟩, []⟩, .chars ['x'], .eof], TokShape t := by
  intro t ht
  simp only [List.mem_cons, List.not_mem_nil, or_false] at ht
  rcases ht with rfl | rfl | rfl | rfl
  · trivial
  · exact ⟨fun _ => ⟨['a'], by decide, by simp⟩, by simp, by simp⟩
  · show ['x'] ≠ []; simp
  · trivial

end H5V.Props.C17
