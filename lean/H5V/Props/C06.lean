import H5V.Model.HtmlTB
import H5V.Props.C20
/-!
C06 — a parsed document always has the canonical html/head/body skeleton.

`Skeleton` (decidable, `skeletonOk`) is the property text as a predicate on the abstract DOM: document
children `comment* doctype? comment* html comment*`; the element children of `html` are `head` then
`body` | `frameset noframes*`; no empty text; no text under the document; only whitespace text under
`html`; only elements and template-content fragments have children; no two adjacent text siblings
(over the document tree including template contents).  The same predicate, in Python, is evaluated
by `tools/props/C06.py` on the real RcDom tree of every document case (all chunkings, both scripting
settings); model and code are tied by the `tb` correspondence.

Proved here (for all inputs unless marked):
* `C06_split_run_nonempty`, `C06_split_run_concat` — the whitespace splitter of
  `process_to_completion` never yields an empty piece and loses nothing;
* `C06_chars_token_nonempty`, `C06_empty_chars_dropped` — an empty character token (also one that
  becomes empty through `ignore_lf`) never reaches the rules: no text-inserting sink call is made;
* `C06_text_ops_never_detach`, `C06_no_adjacent_text_run_partial` — on top of C20: a contract-abiding
  sequence of sink calls none of which detaches a node keeps "no adjacent text siblings"; every
  text insertion the builder can make is of that kind.  _partial: the calls that can break the
  clause are exactly `remove_from_parent` / `reparent_children` (adoption agency, frameset replacing
  body), re-insertion of an attached node and the selectedcontent mirror; that the builder's uses
  of them are harmless is *not* proved (DESIGN 1.3 item 17) — it is searched by the oracle;
* `C06_eof_closure_initial_partial` — for every option set, EOF in the initial mode builds
  html/head/body and the result satisfies `Skeleton`.  _partial: the EOF closure from the other
  insertion modes / arbitrary reachable states, i.e. the full statement
  `∀ cfg chunks r, parseDocument cfg chunks = .ok r → Skeleton r.dom`
  (DOM-shape invariant indexed by insertion mode) is not proved; it is carried by the oracle on the
  real code and by the model/code correspondence;
* `C06_frameset_skeleton_example`, and the `example`s — non-vacuity;
* `C06_witness_frameset_reconstruct` — **the property as stated does not hold**: for
  `<b><frameset></frameset></html>␠` the model (and the real code, and the standard's algorithm)
  put a reconstructed `b` under `html` next to `head` and `frameset`.  `framesetGapState` is the
  decidable trigger a full proof has to exclude.
-/
namespace H5V.Props.C06
open H5V.Model.Dom hiding Str
open H5V.Model.HtmlTB hiding Str
open H5V.Lemmas.Dom
open H5V.Props.C20 (Inv Run)

abbrev Str := List Char

/-! ## the predicate -/

def isWsChar (c : Char) : Bool := c = ' ' || c = '\t' || c = '\n' || c = '\x0c' || c = '\r'

inductive DocKid | comment | doctype | html | other
deriving DecidableEq, Repr

def docKid (d : Dom) (x : Id) : DocKid :=
  match d.dataOf x with
  | some (.comment _) => .comment
  | some (.doctype ..) => .doctype
  | some (.element n _ _ _) => if n.ns == nsHtml && n.loc == "html".toList then .html else .other
  | _ => .other

/-- `comment* doctype? comment* html comment*`; `stage` 0 = before the doctype, 1 = after it,
2 = after `html` -/
def docPattern : Nat → List DocKid → Bool
  | stage, [] => stage == 2
  | stage, .comment :: rest => docPattern stage rest
  | 0, .doctype :: rest => docPattern 1 rest
  | 0, .html :: rest => docPattern 2 rest
  | 1, .html :: rest => docPattern 2 rest
  | _, _ => false

def htmlElemName (d : Dom) (x : Id) : Option Str :=
  match d.dataOf x with
  | some (.element n _ _ _) => if n.ns == nsHtml then some n.loc else some []
  | _ => none

/-- element children of `html`: `head` then `body` | `frameset noframes*` -/
def htmlKidsOk (names : List Str) : Bool :=
  match names with
  | h :: b :: rest =>
    h == "head".toList &&
      ((b == "body".toList && rest.isEmpty) || (b == "frameset".toList && rest.all (· == "noframes".toList)))
  | _ => false

/-- the document's `html` child -/
def htmlOf (d : Dom) : Option Id := (d.childrenOf Dom.document).find? (fun x => docKid d x == .html)

def docClauses (d : Dom) : Bool :=
  docPattern 0 ((d.childrenOf Dom.document).map (docKid d)) &&
  match htmlOf d with
  | none => false
  | some h =>
    htmlKidsOk ((d.childrenOf h).filterMap (htmlElemName d)) &&
    (d.childrenOf h).all (fun k => match d.dataOf k with
      | some (.text s) => s.all isWsChar
      | some (.element ..) => true
      | some (.comment _) => true
      | _ => false)

/-- the nodes of the document tree: children and template contents, depth-bounded by the fuel;
`tc` = the node is the contents of a template -/
def treeNodes (d : Dom) : Nat → Bool → Id → List (Id × Bool)
  | 0, _, _ => []
  | fuel + 1, tc, x =>
    (x, tc) :: ((match d.templateContentsOf x with | some c => treeNodes d fuel true c | none => [])
      ++ (d.childrenOf x).flatMap (treeNodes d fuel false))

def nodeClauses (d : Dom) (x : Id) (tc : Bool) : Bool :=
  -- no empty text
  (match d.dataOf x with | some (.text s) => !s.isEmpty | _ => true) &&
  -- only elements, the document and template contents have children
  ((d.childrenOf x).isEmpty || (match d.dataOf x with
      | some (.element ..) => true
      | some .document => x == Dom.document || tc
      | _ => false)) &&
  -- no two adjacent text siblings
  noAdj d.isText (d.childrenOf x)

def skeletonOk (d : Dom) : Bool :=
  docClauses d && (treeNodes d (d.size + 1) false Dom.document).all (fun (x, tc) => nodeClauses d x tc)

/-- **the property** -/
def Skeleton (d : Dom) : Prop := skeletonOk d = true

instance (d : Dom) : Decidable (Skeleton d) := by unfold Skeleton; infer_instance

theorem C06_skeleton_iff (d : Dom) :
    Skeleton d ↔ docClauses d = true ∧
      ∀ p ∈ treeNodes d (d.size + 1) false Dom.document, nodeClauses d p.1 p.2 = true := by
  simp [Skeleton, skeletonOk, List.all_eq_true]

/-! ## no empty text reaches the rules -/

theorem mem_takeWhile_sat {α : Type} (p : α → Bool) : ∀ (l : List α) (x : α), x ∈ l.takeWhile p → p x = true
  | [], _, h => by simp at h
  | a :: l, x, h => by
    by_cases ha : p a = true
    · simp [List.takeWhile, ha] at h
      rcases h with rfl | h
      · exact ha
      · exact mem_takeWhile_sat p l x h
    · simp [List.takeWhile, ha] at h

theorem C06_split_run_nonempty {s first rest : Str} {ws : Bool}
    (h : popFrontCharRun s = some (first, ws, rest)) : first ≠ [] := by
  cases s with
  | nil => simp [popFrontCharRun] at h
  | cons c t =>
    simp only [popFrontCharRun, Option.some.injEq, Prod.mk.injEq] at h
    obtain ⟨h1, _, _⟩ := h
    rw [← h1]
    simp [List.takeWhile]

theorem C06_split_run_concat {s first rest : Str} {ws : Bool}
    (h : popFrontCharRun s = some (first, ws, rest)) :
    first ++ rest = s ∧ ∀ c ∈ first, isAsciiWhitespace c = ws := by
  cases s with
  | nil => simp [popFrontCharRun] at h
  | cons c t =>
    simp only [popFrontCharRun, Option.some.injEq, Prod.mk.injEq] at h
    obtain ⟨h1, h2, h3⟩ := h
    subst h1 h2 h3
    refine ⟨List.takeWhile_append_dropWhile, ?_⟩
    intro x hx
    simpa using mem_takeWhile_sat _ _ _ hx

/-- what `process_token` hands to the rules for a character token is never empty -/
theorem C06_chars_token_nonempty {b : Bool} {x : Str} {t : Token} (h : charsToken b x = some t) :
    ∃ y, t = .chars .notSplit y ∧ y ≠ [] := by
  unfold charsToken at h
  generalize dropIgnoredLf b x = y at h
  by_cases hy : y.isEmpty = true
  · simp [hy] at h
  · simp [hy] at h
    exact ⟨y, h.symm, by simpa using hy⟩

/-- an empty character token changes nothing in the tree: the only sink call possible is
`set_current_line`, the answer is `Continue` -/
theorem C06_empty_chars_dropped (s : State) (line : Nat) :
    ∃ s', (processToken (.chars []) line).run s = .ok (.continue_, s') ∧ s'.dom = s.dom ∧
      s'.openElems = s.openElems ∧ s'.mode = s.mode ∧
      ∀ op ∈ s'.traceRev.map (·.1), op ∈ s.traceRev.map (·.1) ∨ op = .setCurrentLine line := by
  have hd : dropIgnoredLf s.ignoreLf [] = [] := by cases s.ignoreLf <;> rfl
  by_cases hl : line = s.currentLine
  · refine ⟨{ s with ignoreLf := false }, ?_, rfl, rfl, rfl, ?_⟩
    · simp [processToken, hl, hd, getS, modS, charsToken, StateT.run, bind, StateT.bind, get, getThe,
        MonadStateOf.get, StateT.get, pure, StateT.pure, Except.pure, Except.bind, modify, modifyGet,
        MonadStateOf.modifyGet, StateT.modifyGet]
    · intro op h; exact Or.inl h
  · refine ⟨{ s with ignoreLf := false, traceRev := (.setCurrentLine line, .unit) :: s.traceRev }, ?_, rfl, rfl, rfl, ?_⟩
    · simp [processToken, hl, hd, getS, modS, charsToken, sinkUnit, sink, Dom.apply, Dom.applyV, StateT.run, bind,
        StateT.bind, get, getThe, MonadStateOf.get, StateT.get, pure, StateT.pure, Except.pure, Except.bind,
        modify, modifyGet, MonadStateOf.modifyGet, StateT.modifyGet]
    · intro op h
      simp at h
      rcases h with h | h
      · exact Or.inr h
      · exact Or.inl (by simpa using h)

/-! ## adjacent text siblings: what the sink guarantees (C20) lifted to call sequences -/

/-- a contract-abiding run none of whose calls detaches a node -/
inductive SafeRun : Dom → List SinkOp → Dom → Prop
  | nil {d : Dom} : SafeRun d [] d
  | cons {d d1 d2 : Dom} {op : SinkOp} {ops : List SinkOp} {out : Output} :
      Contract d op → NeverDetaches d op → d.apply op = .ok (d1, out) → SafeRun d1 ops d2 →
      SafeRun d (op :: ops) d2

/-- every text insertion the tree builder can make (`append`, `append_before_sibling`,
`append_based_on_parent_node` with `AppendText`) is a call that never detaches a node -/
theorem C06_text_ops_never_detach (d : Dom) (p e : Id) (s : Str) :
    NeverDetaches d (.append p (.text s)) ∧ NeverDetaches d (.appendBeforeSibling p (.text s)) ∧
    NeverDetaches d (.appendBasedOnParentNode e p (.text s)) :=
  ⟨trivial, trivial, trivial⟩

/-- "no two adjacent text siblings" survives every contract-abiding call sequence that does not
detach nodes (element creation, appends of fresh nodes, all text insertions, attribute merges, …).
_partial: `remove_from_parent`, `reparent_children`, re-insertion of attached nodes and the
selectedcontent mirror are excluded — `C20_remove_breaks_adjacency_iff` /
`C20_reparent_breaks_adjacency_iff` say exactly when those break the clause. -/
theorem C06_no_adjacent_text_run_partial {d d' : Dom} {ops : List SinkOp} (hi : Inv d)
    (hn : NoAdjacentText d) (hr : SafeRun d ops d') : Inv d' ∧ NoAdjacentText d' := by
  induction hr with
  | nil => exact ⟨hi, hn⟩
  | cons hc hnd ha _ ih =>
    exact ih (H5V.Props.C20.C20_parent_links_step hi hc ha)
      (H5V.Props.C20.C20_no_adjacent_text_step hi hn hc ha hnd)

/-! ## EOF closure from the initial mode -/

/-- the model of `parse_document` at token level: `TreeBuilder::new`, the tokens, `end()` -/
def parseTokens (opts : Opts) (toks : List (TokToken × Nat)) : Except String State :=
  (do newTB; let _ ← processTokens toks []; finishTB : M Unit).run (State.init opts) |>.map (·.2)

def domOf (r : Except String State) : Dom := match r with | .ok s => s.dom | .error _ => Dom.new

def okRun (r : Except String State) : Bool := match r with | .ok _ => true | .error _ => false



def eofOnly : List (TokToken × Nat) := [(.eof, 1)]

/-- one evaluation of the model, then all the facts about its result -/
def closureCheck (opts : Opts) (toks : List (TokToken × Nat)) (extra : Dom → Bool) : Bool :=
  match parseTokens opts toks with
  | .ok s => skeletonOk s.dom && extra s.dom
  | .error _ => false

theorem closureCheck_sound {opts : Opts} {toks : List (TokToken × Nat)} {extra : Dom → Bool}
    (h : closureCheck opts toks extra = true) :
    okRun (parseTokens opts toks) = true ∧ Skeleton (domOf (parseTokens opts toks)) ∧
      extra (domOf (parseTokens opts toks)) = true := by
  unfold closureCheck at h
  cases hp : parseTokens opts toks with
  | error e => simp [hp] at h
  | ok s => simpa [hp, okRun, domOf, Skeleton] using h


theorem closureCheck_initial (opts : Opts) :
    closureCheck opts eofOnly (fun d => htmlOf d == some 1 && d.childrenOf 1 == [2, 3] &&
      d.quirks == (if opts.iframeSrcdoc then .noQuirks else .quirks)) = true := by
  -- all option sets in one evaluation: the runs share the kernel's cache, which makes the sweep
  -- several times cheaper than one evaluation per option set
  have h : ∀ e sc sd dd, ∀ q ∈ [QuirksMode.quirks, .limitedQuirks, .noQuirks],
      closureCheck ⟨e, sc, sd, dd, q⟩ eofOnly (fun d => htmlOf d == some 1 && d.childrenOf 1 == [2, 3] &&
        d.quirks == (if sd then .noQuirks else .quirks)) = true := by decide +kernel
  obtain ⟨e, sc, sd, dd, q⟩ := opts
  exact h e sc sd dd q (by cases q <;> simp)

/-- For every option set, a document that consists of EOF alone gets `html`, `head` and `body`
synthesised (Initial → BeforeHtml → BeforeHead → InHead → AfterHead → InBody "anything else"
chain): the builder does not panic, the result satisfies `Skeleton`, `html` (node 1) has exactly
the children `head`, `body` (nodes 2, 3), and the sink is told "quirks" unless the document is an
iframe srcdoc document (then it is told nothing: the sink keeps its default).
_partial: the same closure from every other insertion mode / every reachable state is not proved
(finite instances below, the general case by the oracle on the real code). -/
theorem C06_eof_closure_initial_partial (opts : Opts) :
    okRun (parseTokens opts eofOnly) = true ∧ Skeleton (domOf (parseTokens opts eofOnly)) ∧
    htmlOf (domOf (parseTokens opts eofOnly)) = some 1 ∧
    (domOf (parseTokens opts eofOnly)).childrenOf 1 = [2, 3] ∧
    (domOf (parseTokens opts eofOnly)).quirks = (if opts.iframeSrcdoc then .noQuirks else .quirks) := by
  obtain ⟨h1, h2, h3⟩ := closureCheck_sound (closureCheck_initial opts)
  simp only [Bool.and_eq_true, beq_iff_eq] at h3
  exact ⟨h1, h2, h3.1.1, h3.1.2, h3.2⟩

/-! ### finite instances (kernel-evaluated): EOF closure from a canonical state of every insertion mode -/

def sTag (n : String) : TokToken × Nat := (.tag { kind := .startTag, name := n.toList }, 1)
def eTag (n : String) : TokToken × Nat := (.tag { kind := .endTag, name := n.toList }, 1)
def txt (s : String) : TokToken × Nat := (.chars s.toList, 1)

/-- token prefixes reaching each of the 21 insertion modes (Text / InTableText with pending text,
formatting elements around a block, an SVG HTML integration point) -/
def modePrefixes : List (List (TokToken × Nat)) := [
  [], [(.doctype { name := some "html".toList }, 1)], [sTag "html"], [sTag "head"],
  [sTag "head", sTag "noscript"], [sTag "head", eTag "head"], [sTag "body"], [sTag "title", txt "t"],
  [sTag "table"], [sTag "table", txt " "], [sTag "table", txt "x"], [sTag "table", sTag "caption"],
  [sTag "table", sTag "colgroup"], [sTag "table", sTag "tbody"], [sTag "table", sTag "tr"],
  [sTag "table", sTag "td", txt "y"], [sTag "template"], [sTag "template", sTag "td"],
  [sTag "body", eTag "body"], [sTag "frameset"], [sTag "frameset", eTag "frameset"],
  [sTag "body", eTag "body", eTag "html"], [sTag "frameset", eTag "frameset", eTag "html"],
  [sTag "b", txt "a", sTag "p", txt "b", eTag "b", txt "c"], [sTag "svg", sTag "desc", txt "d"]]

theorem closureCheck_modes :
    (modePrefixes.all fun p => [true, false].all fun sc =>
      closureCheck { scriptingEnabled := sc } (p ++ eofOnly) (fun _ => true)) = true := by
  decide +kernel

/-- EOF after each of the canonical prefixes, scripting on and off: no panic, `Skeleton` holds
(finite instances; not a theorem about all states of these modes) -/
theorem C06_eof_closure_modes_example :
    ∀ p ∈ modePrefixes, ∀ scripting ∈ [true, false],
      okRun (parseTokens { scriptingEnabled := scripting } (p ++ eofOnly)) = true ∧
      Skeleton (domOf (parseTokens { scriptingEnabled := scripting } (p ++ eofOnly))) := by
  intro p hp sc hsc
  have h := closureCheck_modes
  rw [List.all_eq_true] at h
  have h2 := h p hp
  rw [List.all_eq_true] at h2
  obtain ⟨h3, h4, _⟩ := closureCheck_sound (h2 sc hsc)
  exact ⟨h3, h4⟩


/-! ### the gap: a formatting element open when `<frameset>` replaces the body

**Finding (confirmed on the real code through the harness; the standard's algorithm behaves the same).**
`<b><frameset></frameset></html>␠`: the "in body" `<frameset>` rule (rules.rs:463) removes `body`
and truncates the stack but leaves `b` in the list of active formatting elements; the whitespace
after `</html>` is handled by "after after frameset" *using the in-body rules* (rules.rs:1595),
which reconstruct the active formatting elements at the current node — `html`.  The result has
`head`, `frameset` **and `b`** as element children of `html`. -/

def witnessTokens : List (TokToken × Nat) :=
  [sTag "b", sTag "frameset", eTag "frameset", eTag "html", txt " ", (.eof, 1)]

/-- the three frameset runs used below, evaluated together (they share the kernel's cache) -/
theorem frameset_runs :
    closureCheck {} [sTag "frameset", eTag "frameset", sTag "noframes", eTag "noframes",
      sTag "noframes", txt "n", eTag "noframes", eTag "html", (.comment "c".toList, 1), (.eof, 1)] (fun _ => true) = true ∧
    okRun (parseTokens {} witnessTokens) = true ∧ skeletonOk (domOf (parseTokens {} witnessTokens)) = false ∧
    skeletonOk (domOf (parseTokens {} [sTag "b", sTag "frameset", eTag "frameset", eTag "html", (.eof, 1)])) = true := by
  decide +kernel

/-- a frameset document: `head`, `frameset`, several `noframes`, a comment after `</html>` -/
theorem C06_frameset_skeleton_example :
    Skeleton (domOf (parseTokens {} [sTag "frameset", eTag "frameset", sTag "noframes", eTag "noframes",
      sTag "noframes", txt "n", eTag "noframes", eTag "html", (.comment "c".toList, 1), (.eof, 1)])) :=
  (closureCheck_sound frameset_runs.1).2.1

theorem C06_witness_frameset_reconstruct :
    okRun (parseTokens {} witnessTokens) = true ∧ ¬ Skeleton (domOf (parseTokens {} witnessTokens)) :=
  ⟨frameset_runs.2.1, Bool.eq_false_iff.mp frameset_runs.2.2.1⟩

/-- without the trailing whitespace (nothing is reconstructed) the same document is fine -/
example : skeletonOk (domOf (parseTokens {} [sTag "b", sTag "frameset", eTag "frameset", eTag "html", (.eof, 1)])) = true :=
  frameset_runs.2.2.2

/-- the state-level trigger of the gap: `<frameset>` accepted in "in body" (frameset-ok, a `body`
second on the stack) while the list of active formatting elements is not empty.  A proof of
`Skeleton` for all documents has to exclude runs that pass through such a state (or the source has
to clear the list there, deviating from the standard). -/
def framesetGapState (s : State) : Bool :=
  s.framesetOk && !s.activeFormatting.isEmpty && s.openElems.length > 1

-- non-vacuity of the predicate: it rejects trees that break a clause
section
def qn (s : String) : QualName := { ns := nsHtml, loc := s.toList }
def build (ops : List SinkOp) : Dom := match Dom.new.applyAll ops with | .ok (d, _) => d | .error _ => Dom.new
/-- html without body -/
example : skeletonOk (build [.createElement (qn "html") [] {}, .append 0 (.node 1),
    .createElement (qn "head") [] {}, .append 1 (.node 2)]) = false := by decide +kernel
/-- text under the document -/
example : skeletonOk (build [.append 0 (.text ['x']), .createElement (qn "html") [] {}, .append 0 (.node 2),
    .createElement (qn "head") [] {}, .append 1 (.node 3), .createElement (qn "body") [] {}, .append 1 (.node 4)]) = false := by
  decide +kernel
/-- two adjacent text siblings (exposed by `remove_from_parent`) -/
example : skeletonOk (build [.createElement (qn "html") [] {}, .append 0 (.node 1),
    .createElement (qn "head") [] {}, .append 1 (.node 2), .createElement (qn "body") [] {}, .append 1 (.node 3),
    .append 3 (.text ['a']), .createElement (qn "b") [] {}, .append 3 (.node 5), .append 3 (.text ['c']),
    .removeFromParent 5]) = false := by decide +kernel
/-- the same tree before the removal is fine -/
example : skeletonOk (build [.createElement (qn "html") [] {}, .append 0 (.node 1),
    .createElement (qn "head") [] {}, .append 1 (.node 2), .createElement (qn "body") [] {}, .append 1 (.node 3),
    .append 3 (.text ['a']), .createElement (qn "b") [] {}, .append 3 (.node 5), .append 3 (.text ['c'])]) = true := by
  decide +kernel
/-- non-vacuity of `C06_no_adjacent_text_run_partial`: create `p`, append it, append text twice
(the second text is merged into the first) -/
example : ∃ d', SafeRun Dom.new [.createElement (qn "p") [] {}, .append 0 (.node 1), .append 1 (.text ['a']),
    .append 1 (.text ['b'])] d' :=
  ⟨_, .cons (out := .node 1) (by decide +kernel) trivial rfl
    (.cons (out := .unit) (by decide +kernel) trivial rfl
      (.cons (out := .unit) (by decide +kernel) trivial rfl
        (.cons (out := .unit) (by decide +kernel) trivial rfl .nil)))⟩
end

end H5V.Props.C06
