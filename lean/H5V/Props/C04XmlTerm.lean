import H5V.Lemmas.XmlTokTerm
import H5V.Props.C04Xml
/-!
C04 (XML tokenizer part 2) — parsing is total: **no hang**.

`XmlTokenizer::run` is modelled as `run o fuel m inp` (iterate `step` while it answers Continue);
`feed` and `end` call it with `fuelFor m inp = 17·(unread + temp_buf + name_buf + 2) + 16`.
This file proves that the fuel is never exhausted, i.e. the `.outOfFuel` result of the model is
unreachable and the loop of the Rust terminates on every input, from every reachable machine; the
"run out of fuel" outcome `C04_xml_finish_no_panic_partial` leaves aside does not occur.

* `C04_xml_step_decreases`: every step that answers Continue strictly decreases the measure
  `mu m inp` and keeps the invariant `TInv` (`Safe` + the look-ahead / reconsume discipline `TI` +
  "`name_buf` holds alphanumerics/`;` only, the hex marker is not `&`").
  `mu` = 16 per character unread or stashed (`temp_buf`, `name_buf`, the `#`/`x` of a numeric
  reference) + `tripF` (characters of an alphanumeric/`;` run directly after an `&`: the only text
  read twice, once into `name_buf` and once after `unconsume_name`) + 12 for a pending `reconsume` +
  a state rank ≤ 2, resp. 8 + a rank ≤ 3 inside a character reference.
* `C04_xml_measure_below_fuel`, `C04_xml_run_terminates` / `_fuelFor`, `C04_xml_fuel_irrelevant`,
  `C04_xml_fuelFor_is_enough`.
* `C04_xml_initial_inv`, `C04_xml_feed_terminates`, `C04_xml_feed_keeps_invariant`,
  `C04_xml_session_terminates`: every `feed` on a fresh tokenizer, after any earlier feeds (any
  chunking), ends with `Done`, the queue empty and the invariant re-established: no panic, no hang.
* `C04_xml_suspend_drains`: a step that asks for more input leaves the queue empty — also with
  `at_eof` set (no `Good` / `at_eof = false` hypothesis, unlike `C04_xml_feed_drains`).
* `C04_xml_finish_total`: `end()` completes (`.ok`) from every machine satisfying the invariant, and
  the last token it delivers is EOF.  (The XML tokenizer has no sink feedback, so there is no pause
  hypothesis.)

NOT proved (no model can exhibit them): real stack depth, allocation failure, wall-clock time.
-/
namespace H5V.Props.C04X
open H5V.Model.XmlTok

/-- **1. every Continue step decreases the measure and keeps the invariant** -/
theorem C04_xml_step_decreases (o : Opts) (m : Mach) (inp : Str) (hi : TInv m)
    (m' : Mach) (inp' : Str) (h : step o m inp = .cont m' inp') :
    TInv m' ∧ mu m' inp' < mu m inp :=
  ⟨step_tinv o m inp hi m' inp' (by rw [h]; rfl), step_dec o m inp hi m' inp' h⟩

/-- the invariant survives every step, whatever it answers (Continue, Suspend) -/
theorem C04_xml_step_keeps_invariant (o : Opts) (m : Mach) (inp : Str) (hi : TInv m)
    (m' : Mach) (inp' : Str) (h : step o m inp = .cont m' inp' ∨ step o m inp = .suspend m' inp') : TInv m' := by
  rcases h with h | h <;> exact step_tinv o m inp hi m' inp' (by rw [h]; rfl)

/-- the fuel `feed` / `end` hand to `run` exceeds the measure -/
theorem C04_xml_measure_below_fuel (m : Mach) (inp : Str) : mu m inp < fuelFor m inp :=
  mu_lt_fuelFor m inp

/-- **2. `run` terminates**: with more fuel than the measure it never answers `outOfFuel` -/
theorem C04_xml_run_terminates (o : Opts) (m : Mach) (inp : Str) (hi : TInv m) :
    ∀ fuel, mu m inp < fuel → run o fuel m inp ≠ .outOfFuel :=
  fun fuel hf => run_terminates o fuel m inp hi hf

theorem C04_xml_run_terminates_fuelFor (o : Opts) (m : Mach) (inp : Str) (hi : TInv m) :
    run o (fuelFor m inp) m inp ≠ .outOfFuel :=
  run_terminates o _ m inp hi (mu_lt_fuelFor m inp)

/-- **3. fuel irrelevance** -/
theorem C04_xml_fuel_irrelevant (o : Opts) (n k : Nat) (m : Mach) (inp : Str)
    (h : run o n m inp ≠ .outOfFuel) (hk : n ≤ k) : run o k m inp = run o n m inp :=
  run_fuel_mono o n k m inp h hk

/-- the result of the loop with `fuelFor` is the result with any larger amount of fuel: the model's
fuel is not observable -/
theorem C04_xml_fuelFor_is_enough (o : Opts) (m : Mach) (inp : Str) (hi : TInv m) (k : Nat)
    (hk : fuelFor m inp ≤ k) : run o k m inp = run o (fuelFor m inp) m inp :=
  run_fuel_mono o _ k m inp (C04_xml_run_terminates_fuelFor o m inp hi) hk

/-- **4a. a tokenizer as created by `XmlTokenizer::new`** (any start state / BOM option) satisfies the
invariant -/
theorem C04_xml_initial_inv (st : State) (bom : Bool) : TInv { state := st, discardBom := bom } :=
  tinv_fresh _ rfl rfl rfl

/-- the invariant contains the no-panic invariant of `C04_xml_no_panic` -/
theorem C04_xml_inv_safe {m : Mach} (hi : TInv m) : Safe m := hi.safe

/-- **4b. `feed` terminates** (never `outOfFuel`), and does not panic -/
theorem C04_xml_feed_terminates (o : Opts) (m : Mach) (inp chunk : Str) (hi : TInv m) :
    feed o m inp chunk ≠ .outOfFuel ∧ ∀ e, feed o m inp chunk ≠ .panic e :=
  ⟨feed_terminates o m inp chunk hi, (feed_safe o m inp chunk hi.safe).1⟩

/-- **4c. when `feed` returns (needs more input) the invariant holds and the queue is empty**, so the
next `feed` terminates as well -/
theorem C04_xml_feed_keeps_invariant (o : Opts) (m : Mach) (inp chunk : Str) (hi : TInv m)
    (m' : Mach) (inp' : Str) (h : feed o m inp chunk = .done m' inp') : TInv m' ∧ inp' = [] := by
  refine ⟨feed_tinv o m inp chunk hi m' inp' h, ?_⟩
  unfold feed at h
  dsimp only at h
  split at h
  · simp only [RunRes.done.injEq] at h; exact h.2.symm
  · exact run_done_nil o _ _ _ (feedBom_tinv m _ hi) m' inp' h

/-- `feed` is total: it answers `Done` -/
theorem C04_xml_feed_total (o : Opts) (m : Mach) (inp chunk : Str) (hi : TInv m) :
    ∃ m', feed o m inp chunk = .done m' [] ∧ TInv m' := by
  obtain ⟨h1, h2⟩ := C04_xml_feed_terminates o m inp chunk hi
  cases hf : feed o m inp chunk with
  | done m' i' =>
    obtain ⟨k1, k2⟩ := C04_xml_feed_keeps_invariant o m inp chunk hi m' i' hf
    subst k2
    exact ⟨m', rfl, k1⟩
  | panic e => exact absurd hf (h2 e)
  | outOfFuel => exact absurd hf h1

/-- **4d. any sequence of `feed`s** (any chunking, empty chunks included) from a machine satisfying the
invariant — in particular a fresh tokenizer — runs to completion: every feed answers `Done`, none
panics, none exhausts its fuel; the queue handed back is the one the last feed left (empty unless no
chunk was fed at all) -/
theorem C04_xml_session_terminates (o : Opts) (m : Mach) (inp : Str) (cs : List Str) (hi : TInv m) :
    ∃ m' inp', feedMany o m inp cs = .done m' inp' ∧ TInv m' ∧ (cs ≠ [] → inp' = []) := by
  induction cs generalizing m inp with
  | nil => exact ⟨m, inp, rfl, hi, fun h => absurd rfl h⟩
  | cons c cs ih =>
    obtain ⟨m1, hf, hi1⟩ := C04_xml_feed_total o m inp c hi
    obtain ⟨m', inp', hr, hi', hn⟩ := ih m1 [] hi1
    refine ⟨m', inp', by simp only [feedMany, hf]; exact hr, hi', fun _ => ?_⟩
    cases cs with
    | nil =>
      simp only [feedMany, RunRes.done.injEq] at hr
      exact hr.2.symm
    | cons c' cs' => exact hn (by simp)

theorem C04_xml_fresh_session_terminates (o : Opts) (st : State) (bom : Bool) (cs : List Str) :
    ∃ m' inp', feedMany o { state := st, discardBom := bom } [] cs = .done m' inp' ∧ TInv m' ∧ inp' = [] := by
  obtain ⟨m', inp', h1, h2, h3⟩ := C04_xml_session_terminates o _ [] cs (C04_xml_initial_inv st bom)
  refine ⟨m', inp', h1, h2, ?_⟩
  cases cs with
  | nil => simp only [feedMany, RunRes.done.injEq] at h1; exact h1.2.symm
  | cons c cs => exact h3 (by simp)

/-- a step that asks for more input has emptied the queue, with or without `at_eof` -/
theorem C04_xml_suspend_drains (o : Opts) (m : Mach) (inp : Str) (hi : TInv m) (m' : Mach) (inp' : Str)
    (h : step o m inp = .suspend m' inp') : inp' = [] :=
  step_suspend_nil o m inp hi m' inp' h

/-- **5. `XmlTokenizer::end` is total**: no panic, no hang; it ends by delivering EOF -/
theorem C04_xml_finish_total (o : Opts) (m : Mach) (hi : TInv m) :
    ∃ mf, finish o m = .ok mf ∧ ∃ rest, mf.out = Token.eof :: rest :=
  finish_total o m hi

/-- a whole parse — any chunks, then `end()` — from a fresh tokenizer completes with EOF last -/
theorem C04_xml_parse_total (o : Opts) (st : State) (bom : Bool) (cs : List Str) :
    ∃ m' mf, feedMany o { state := st, discardBom := bom } [] cs = .done m' [] ∧
      finish o m' = .ok mf ∧ ∃ rest, mf.out = Token.eof :: rest := by
  obtain ⟨m', inp', h1, h2, h3⟩ := C04_xml_fresh_session_terminates o st bom cs
  subst h3
  obtain ⟨mf, h4, h5⟩ := C04_xml_finish_total o m' h2
  exact ⟨m', mf, h1, h4, h5⟩

/-! ### non-vacuity -/

/-- the hypotheses of `C04_xml_step_decreases` are satisfiable with a genuine Continue step:
a fresh tokenizer reading `&` of `&a` starts a character reference … -/
example : step ⟨false⟩ {} ['&', 'a'] =
    .cont { charRef := some { addnlAllowed := none }, currentChar := '&' } ['a'] := by rfl

/-- … and the measure drops from 33 to 28 -/
example : mu ({} : Mach) ['&', 'a'] = 33 ∧
    mu ({ charRef := some { addnlAllowed := none }, currentChar := '&' } : Mach) ['a'] = 28 := by
  constructor <;> decide

example : (∃ m' i', step ⟨false⟩ {} ['&', 'a'] = .cont m' i' ∧ TInv m' ∧ mu m' i' < mu {} ['&', 'a']) :=
  ⟨_, _, rfl, C04_xml_step_decreases ⟨false⟩ {} ['&', 'a'] (C04_xml_initial_inv .data true) _ _ rfl⟩

/-- the text `&am;x` makes the round trip through `name_buf` (no entity `am;`) and the run still
ends, suspended with the queue drained -/
example : ∃ m', run ⟨false⟩ (fuelFor {} ['&', 'a', 'm', ';', 'x']) {} ['&', 'a', 'm', ';', 'x'] = .done m' [] :=
  ⟨_, rfl⟩

/-- `end()` on the fresh tokenizer is `.ok` -/
example : ∃ mf, finish ⟨false⟩ {} = .ok mf :=
  let ⟨mf, h, _⟩ := C04_xml_finish_total ⟨false⟩ {} (C04_xml_initial_inv .data true)
  ⟨mf, h⟩

/-- a machine suspended inside the markup-declaration look-ahead with `<![CD` stashed satisfies the
invariant; `end()` flushes the stash as a bogus comment and delivers EOF -/
def mStash : Mach := { state := .markupDecl, tempBuf := ['[', 'C', 'D'] }

theorem mStash_inv : TInv mStash :=
  ⟨Safe.of_none rfl,
   ⟨fun _ h => by simp [mStash] at h, fun h => by simp [mStash, isEatState] at h, fun _ => rfl,
    fun h => by simp [mStash] at h, fun cr h => by simp [mStash] at h⟩⟩

example : (match finish ⟨false⟩ mStash with | .ok m => m.out.head? | .error _ => none) = some Token.eof := by
  rfl

end H5V.Props.C04X
