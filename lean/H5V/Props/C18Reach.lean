import H5V.Lemmas.HtmlTBReachRun
/-!
C18 — `trace_handles` reports every node still needed: the tree-builder side, on the model
`H5V.Model.HtmlTB`.

The translator theorem (`H5V.Props.C18.C18_fields_html`) shows that `trace_handles` visits every
handle-holding field of `struct TreeBuilder`.  Here: the builder holds handles nowhere else and
conjures none.

* `held s` — the handles in the fields `doc_handle`, `open_elems`, `active_formatting`, `head_elem`,
  `form_elem`, `context_elem` (the fields `trace_handles` reports);
* `opArgs op` / `outRets out` — the handles a `TreeSink` call is given / gives back
  (`create_element`, `create_comment`, `get_template_contents`, `get_document` give one back; no
  other query returns a handle: the model has no parent lookup — `append_based_on_parent_node`
  leaves that to the sink);
* `ArgsOK K calls` — every handle given to the sink in `calls` is in `K` or was given back by an
  earlier call of `calls` (`ArgsOK_iff` spells the recursion out).

* `C18_args_from_held` / `C18_held_preserved` / `C18_process_token`: for every state `s`, token
  and line: all handles `process_token` passes to the sink are held by `s` or were returned by the
  sink earlier in the same call; what is held afterwards (and the node of a `Script` answer) was held
  before or was returned by the sink during the call.  `C18_step`: the same for every single rule.
* `C18_suspension`: for any split `toks = pre ++ post` of a token list: every handle passed to
  the sink while `post` is processed is held by the state in which `pre` ended — i.e. reported by
  `trace_handles` at that suspension point — or was returned by the sink while `post` was processed.
  `C18_suspension_finish`: the same including `TreeSink::end`.
* `C18_new_for_fragment`: the only handles that enter from outside are the arguments of
  `new_for_fragment` (context element, form element) and the document the sink returns.

The judgement behind all this is `PV c m R` (`H5V.Lemmas.HtmlTBReachBase`), proved for every
monadic function of the model by one walk (`pv_walk`), as a `Call` instance.
-/
namespace H5V.Props.C18
open H5V.Model.Dom (Id QualName Attr NodeOrText SinkOp Output ElementFlags QuirksMode Dom)
open H5V.Model.HtmlTB
open H5V.Lemmas.TBM

/-- `ArgsOK`, spelled out: whenever `calls = later ++ (op, out) :: earlier` (newest first), every
handle among the arguments of `op` is in `K` or among the handles returned in `earlier` -/
theorem ArgsOK_iff {K : Id → Prop} {calls : List (SinkOp × Output)} :
    ArgsOK K calls ↔ ∀ later op out earlier, calls = later ++ (op, out) :: earlier →
      ∀ h ∈ opArgs op, K h ∨ h ∈ rets earlier := by
  induction calls with
  | nil =>
    constructor
    · intro _ later op out earlier e
      cases later <;> cases e
    · intro _; trivial
  | cons c tr ih =>
    constructor
    · rintro ⟨h1, h2⟩ later op out earlier e
      cases later with
      | nil =>
        simp only [List.nil_append, List.cons.injEq] at e
        obtain ⟨rfl, rfl⟩ := e
        exact h1
      | cons l later =>
        simp only [List.cons_append, List.cons.injEq] at e
        exact ih.mp h2 later op out earlier e.2
    · intro h
      refine ⟨?_, ih.mpr fun later op out earlier e => h (c :: later) op out earlier (by rw [e]; rfl)⟩
      obtain ⟨op, out⟩ := c
      exact h [] op out tr rfl

/-- what `PV` gives for a closed computation started in `s`, with "known" = "held by `s`" -/
theorem PV.run {α : Type} {m : M α} {R : α → List Id} (h : PV [] m R) {s s' : State} {a : α}
    (e : m.run s = .ok (a, s')) :
    ∃ calls, s'.traceRev = calls ++ s.traceRev ∧ ArgsOK (· ∈ held s) calls ∧
      (∀ x ∈ held s', x ∈ held s ∨ x ∈ rets calls) ∧ (∀ x ∈ R a, x ∈ held s ∨ x ∈ rets calls) :=
  ((h.h s).h (· ∈ held s) a s' e (fun _ hx => hx) (fun _ hx => nomatch hx)).ex

/-! ## one token -/

/-- **`process_token`, everything at once** -/
theorem C18_process_token {tok : TokToken} {line : Nat} {s s' : State} {r : SinkResult}
    (e : (processToken tok line).run s = .ok (r, s')) :
    ∃ calls, s'.traceRev = calls ++ s.traceRev ∧
      -- arguments come from the held handles or from earlier answers of the sink
      ArgsOK (· ∈ held s) calls ∧
      -- nothing is held afterwards that was not held or returned by the sink
      (∀ x ∈ held s', x ∈ held s ∨ x ∈ rets calls) ∧
      -- the node handed back with `Script`
      (∀ n, r = .script n → n ∈ held s ∨ n ∈ rets calls) := by
  obtain ⟨calls, t, a, k, rr⟩ := (pv_processToken tok line).pv.run e
  refine ⟨calls, t, a, k, ?_⟩
  rintro n rfl
  exact rr n (by simp [srH])

/-- **arguments come from held handles**: every handle that occurs as an argument of a sink call made while a token is processed
is held by the builder before the call of `process_token`, or was returned by an earlier sink call of
the same `process_token` -/
theorem C18_args_from_held {tok : TokToken} {line : Nat} {s s' : State} {r : SinkResult}
    (e : (processToken tok line).run s = .ok (r, s')) :
    ∃ calls, s'.traceRev = calls ++ s.traceRev ∧
      ∀ later op out earlier, calls = later ++ (op, out) :: earlier →
        ∀ h ∈ opArgs op, h ∈ held s ∨ h ∈ rets earlier := by
  obtain ⟨calls, t, a, _, _⟩ := C18_process_token e
  exact ⟨calls, t, ArgsOK_iff.mp a⟩

/-- **nothing new is held**: the handles held after `process_token` were held before or were returned by a sink call
of this `process_token` -/
theorem C18_held_preserved {tok : TokToken} {line : Nat} {s s' : State} {r : SinkResult}
    (e : (processToken tok line).run s = .ok (r, s')) :
    ∃ calls, s'.traceRev = calls ++ s.traceRev ∧ ∀ x ∈ held s', x ∈ held s ∨ x ∈ rets calls := by
  obtain ⟨calls, t, _, k, _⟩ := C18_process_token e
  exact ⟨calls, t, k⟩

/-- the same for every single rule (`step(mode, token)`) and for the foreign-content rule -/
theorem C18_step {mode : Mode} {tok : Token} {s s' : State} {r : ProcessResult}
    (e : (step mode tok).run s = .ok (r, s')) :
    ∃ calls, s'.traceRev = calls ++ s.traceRev ∧ ArgsOK (· ∈ held s) calls ∧
      (∀ x ∈ held s', x ∈ held s ∨ x ∈ rets calls) ∧ (∀ n, r = .script n → n ∈ held s ∨ n ∈ rets calls) := by
  obtain ⟨calls, t, a, k, rr⟩ := (pv_step mode tok).pv.run e
  refine ⟨calls, t, a, k, ?_⟩
  rintro n rfl
  exact rr n (by simp [prH])

theorem C18_step_foreign {tok : Token} {s s' : State} {r : ProcessResult}
    (e : (stepForeign tok).run s = .ok (r, s')) :
    ∃ calls, s'.traceRev = calls ++ s.traceRev ∧ ArgsOK (· ∈ held s) calls ∧
      (∀ x ∈ held s', x ∈ held s ∨ x ∈ rets calls) := by
  obtain ⟨calls, t, a, k, _⟩ := (pv_stepForeign tok).pv.run e
  exact ⟨calls, t, a, k⟩

/-- `TreeSink::end` pops what is still open: held handles only -/
theorem C18_finish {s s' : State} (e : finishTB.run s = .ok ((), s')) :
    ∃ calls, s'.traceRev = calls ++ s.traceRev ∧ ArgsOK (· ∈ held s) calls ∧
      (∀ x ∈ held s', x ∈ held s ∨ x ∈ rets calls) := by
  obtain ⟨calls, t, a, k, _⟩ := pv_finishTB.pv.run e
  exact ⟨calls, t, a, k⟩

/-! ## token lists and suspension points -/

theorem processTokens_cons (t : TokToken) (line : Nat) (rest : List (TokToken × Nat)) (acc : List SinkResult) :
    processTokens ((t, line) :: rest) acc =
      (processToken t line >>= fun r => processTokens rest (if r == .continue_ then acc else r :: acc)) := rfl

theorem processTokens_append : ∀ (pre post : List (TokToken × Nat)) (acc : List SinkResult),
    processTokens (pre ++ post) acc = (processTokens pre acc >>= fun acc1 => processTokens post acc1)
  | [], post, acc => by
    show processTokens post acc = (pure acc >>= fun acc1 => processTokens post acc1)
    rw [pure_bind]
  | (t, line) :: rest, post, acc => by
    rw [List.cons_append, processTokens_cons, processTokens_cons, bind_assoc]
    congr 1
    funext r
    exact processTokens_append rest post _

theorem pv_processTokens_nil : ∀ (toks : List (TokToken × Nat)) (acc : List SinkResult),
    PV [] (processTokens toks acc) nil
  | [], acc => by unfold processTokens; exact PV.pure (List.forall_mem_nil _)
  | (t, line) :: rest, acc => by
    unfold processTokens
    exact PV.bindCall (List.forall_mem_nil _) fun r => (pv_processTokens_nil rest _).weaken (List.forall_mem_nil _)

/-- **suspension points — the property for the model.**  Split a token list anywhere (the suspension point: a script
pause, the end of a chunk).  Every handle passed to the sink while the rest is processed is held by
the builder at the suspension point — so `trace_handles` reports it — or was returned by the sink
after that point; and the builder holds nothing else afterwards. -/
theorem C18_suspension {pre post : List (TokToken × Nat)} {acc res : List SinkResult} {s0 s2 : State}
    (e : (processTokens (pre ++ post) acc).run s0 = .ok (res, s2)) :
    ∃ acc1 s1, (processTokens pre acc).run s0 = .ok (acc1, s1) ∧ (processTokens post acc1).run s1 = .ok (res, s2) ∧
      ∃ calls, s2.traceRev = calls ++ s1.traceRev ∧
        (∀ later op out earlier, calls = later ++ (op, out) :: earlier →
          ∀ h ∈ opArgs op, h ∈ held s1 ∨ h ∈ rets earlier) ∧
        (∀ x ∈ held s2, x ∈ held s1 ∨ x ∈ rets calls) := by
  have e' : processTokens (pre ++ post) acc s0 = .ok (res, s2) := e
  rw [processTokens_append] at e'
  obtain ⟨acc1, s1, e1, e2⟩ := bind_ok.mp e'
  obtain ⟨calls, t, a, k, _⟩ := (pv_processTokens_nil post acc1).run e2
  exact ⟨acc1, s1, e1, e2, calls, t, ArgsOK_iff.mp a, k⟩

/-- … including the final `TreeSink::end` -/
theorem C18_suspension_finish {pre post : List (TokToken × Nat)} {acc res : List SinkResult} {s0 s2 s3 : State}
    (e : (processTokens (pre ++ post) acc).run s0 = .ok (res, s2)) (ef : finishTB.run s2 = .ok ((), s3)) :
    ∃ acc1 s1, (processTokens pre acc).run s0 = .ok (acc1, s1) ∧
      ∃ calls, s3.traceRev = calls ++ s1.traceRev ∧
        (∀ later op out earlier, calls = later ++ (op, out) :: earlier →
          ∀ h ∈ opArgs op, h ∈ held s1 ∨ h ∈ rets earlier) := by
  have e' : processTokens (pre ++ post) acc s0 = .ok (res, s2) := e
  rw [processTokens_append] at e'
  obtain ⟨acc1, s1, e1, e2⟩ := bind_ok.mp e'
  have hpv : PV [] (processTokens post acc1 >>= fun _ => finishTB) nil :=
    PV.bind (pv_processTokens_nil post acc1) fun _ => pv_finishTB.pv
  have e3 : (processTokens post acc1 >>= fun _ => finishTB) s1 = .ok ((), s3) := bind_ok.mpr ⟨res, s2, e2, ef⟩
  obtain ⟨calls, t, a, _, _⟩ := hpv.run e3
  exact ⟨acc1, s1, e1, calls, t, ArgsOK_iff.mp a⟩

/-- the handles in the non-`Continue` answers of a run (`Script(node)`) are known as well -/
theorem C18_answers {toks : List (TokToken × Nat)} {res : List SinkResult} {s s' : State}
    (e : (processTokens toks []).run s = .ok (res, s')) :
    ∃ calls, s'.traceRev = calls ++ s.traceRev ∧ ∀ n, .script n ∈ res → n ∈ held s ∨ n ∈ rets calls := by
  obtain ⟨calls, t, _, _, rr⟩ := (pv_processTokens toks []).run e
  refine ⟨calls, t, fun n hn => rr n ?_⟩
  simp only [srsH, List.mem_flatMap]
  exact ⟨_, hn, by simp [srH]⟩

/-! ## where handles come from in the first place -/

/-- `TreeBuilder::new`: the only handle is the document, returned by the sink -/
theorem C18_new {s s' : State} (e : newTB.run s = .ok ((), s')) :
    ∃ calls, s'.traceRev = calls ++ s.traceRev ∧ ArgsOK (· ∈ held s) calls ∧
      (∀ x ∈ held s', x ∈ held s ∨ x ∈ rets calls) := by
  obtain ⟨calls, t, a, k, _⟩ := pv_newTB.pv.run e
  exact ⟨calls, t, a, k⟩

/-- `TreeBuilder::new_for_fragment`: besides, the context element and the form element the caller
hands in -/
theorem C18_new_for_fragment {ctx : Id} {form : Option Id} {s s' : State}
    (e : (newForFragment ctx form).run s = .ok ((), s')) :
    ∃ calls, s'.traceRev = calls ++ s.traceRev ∧
      ArgsOK (fun x => x ∈ held s ∨ x = ctx ∨ form = some x) calls ∧
      (∀ x ∈ held s', (x ∈ held s ∨ x = ctx ∨ form = some x) ∨ x ∈ rets calls) := by
  have hpv := (pv_newForFragment ctx form).pv
  obtain ⟨calls, t, a, k, _⟩ := ((hpv.h s).h (fun x => x ∈ held s ∨ x = ctx ∨ form = some x) () s' e
    (fun _ hx => Or.inl hx) (fun x hx => by
      simp only [List.mem_cons, Option.mem_toList] at hx
      exact Or.inr hx)).ex
  exact ⟨calls, t, a, k⟩

/-! ## non-vacuity: a concrete suspension point -/

section Examples

/-- `ArgsOK` against a list, decidably -/
def argsOkB (base : List Id) : List (SinkOp × Output) → Bool
  | [] => true
  | c :: tr => (opArgs c.1).all (fun h => base.contains h || (rets tr).contains h) && argsOkB base tr

theorem argsOkB_iff {base : List Id} : ∀ {calls : List (SinkOp × Output)},
    argsOkB base calls = true ↔ ArgsOK (· ∈ base) calls
  | [] => by simp [argsOkB, ArgsOK]
  | c :: tr => by
    simp only [argsOkB, ArgsOK, Bool.and_eq_true, List.all_eq_true, Bool.or_eq_true, List.contains_iff_mem,
      argsOkB_iff (calls := tr)]

def sTag (n : String) : TokToken × Nat := (.tag { kind := .startTag, name := n.toList }, 1)
def eTag (n : String) : TokToken × Nat := (.tag { kind := .endTag, name := n.toList }, 1)
def txt (s : String) : TokToken × Nat := (.chars s.toList, 1)

/-- `<b><p>x` ‖ `</b>y` EOF: the suspension point is in the middle of a mis-nested formatting
element; what follows runs the adoption agency -/
def exPre : List (TokToken × Nat) := [sTag "b", sTag "p", txt "x"]
def exPost : List (TokToken × Nat) := [eTag "b", txt "y", (.eof, 1)]

def runFrom (s : State) (toks : List (TokToken × Nat)) : Option State :=
  match (processTokens toks []).run s with
  | .ok (_, s') => some s'
  | .error _ => none

def exFresh : Option State :=
  match (newTB : M Unit).run (State.init {}) with
  | .ok (_, s) => some s
  | .error _ => none

/-- the state at the suspension point, the state at the end, the calls made in between (newest first) -/
def exS1 : Option State := exFresh.bind (runFrom · exPre)
def exS2 : Option State := exS1.bind (runFrom · exPost)
def exCalls : List (SinkOp × Output) :=
  match exS1, exS2 with
  | some a, some b => b.traceRev.take (b.traceRev.length - a.traceRev.length)
  | _, _ => []

/-- one Boolean with all the facts about the run -/
def exCheck : Bool :=
  match exS1, exS2 with
  | some a, some b =>
    -- held at the suspension point: document, html, body, b, p, b (active formatting), head
    held a == [0, 1, 3, 4, 5, 4, 2] &&
    -- 35 sink calls follow, one of them creates a node (the clone of `b`, handle 7)
    exCalls.length == 35 && rets exCalls == [7] &&
    b.traceRev == exCalls ++ a.traceRev &&
    -- the statement of `C18_suspension` on this run
    argsOkB (held a) exCalls &&
    (held b).all (fun x => (held a).contains x || (rets exCalls).contains x) &&
    -- it is not vacuous: handles from the held set are really needed — without `html` (1), `body` (3)
    -- or `p` (5) in the traced set an argument would be unaccounted for
    !argsOkB ((held a).erase 1) exCalls && !argsOkB ((held a).erase 3) exCalls &&
    !argsOkB ((held a).erase 5) exCalls &&
    -- and the freshly created node is used as an argument afterwards
    exCalls.any (fun c => (opArgs c.1).contains 7)
  | _, _ => false

theorem C18_example : exCheck = true := by decide +kernel

end Examples

/-! ## axioms -/
#print axioms C18_process_token
#print axioms C18_args_from_held
#print axioms C18_held_preserved
#print axioms C18_step
#print axioms C18_step_foreign
#print axioms C18_finish
#print axioms C18_suspension
#print axioms C18_suspension_finish
#print axioms C18_answers
#print axioms C18_new
#print axioms C18_new_for_fragment
#print axioms C18_example

end H5V.Props.C18
