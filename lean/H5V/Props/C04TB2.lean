import H5V.Lemmas.HtmlTBFuelAll
import H5V.Props.C05TB
/-!
# C04 for the HTML tree builder model: the fuel of `process_to_completion` suffices

`H5V.Props.C04TB` shows that no `panicAt` site of the tree-builder model is reachable, with two
context-dependent failures left open; one of them was the model's own fuel for `process_to_completion`
(`ptcFuel s tok = 16·(|tok| + 1) + 4·(|open_elems| + |template_modes|) + 64`, an artefact of modelling the
Rust `loop` by a bounded recursion).  Here: **that fuel always suffices** (`Allow.fuel := False`).

The proof (`H5V.Lemmas.TBFuel`) is by a measure on (builder state, insertion mode, token) that strictly
decreases along every `Reprocess` edge of the 21 rules (`allDec`) — `4·(HTML table elements on the stack) +
4·(template modes) + rank(mode, token class)`, for character tokens `2·rank + [not yet split]` — and a count of
the remaining iterations `mu` that `process_to_completion` decreases in each iteration
(`sat_processToCompletion2`), with `mu s tok [] ≤ ptcFuel s tok`.

With `C05TB` the only failures left for a document parse with a protocol-abiding, `TagsOk` token source are
the two `encoding.rs` messages of the `<meta>` prescan and a failure of the mirror op
`maybe_clone_an_option_into_selectedcontent` called within its contract (`C04_tb_total_full'`).
-/
namespace H5V.Props.C04TB2
open H5V.Model.HtmlTB
open H5V.Model.Dom (Id QualName Attr NodeOrText SinkOp Output ElementFlags QuirksMode Dom NodeData Node)
open H5V.Lemmas.TBSafe
open H5V.Lemmas.TBFuel
open H5V.Props.C04TB (allSpec parseRest parseDocument parseFragment docStart fragInit parseDocument_run
  C04_tb_inv_new sat_iff respectsB respects_of_respectsB st et ch errOf)

/-- only the Text-mode `unreachable!` tolerated (arbitrary token sequences), the fuel not -/
@[reducible] def allowText : Allow := ⟨True, False⟩
/-- neither context-dependent failure tolerated (token sequences that keep the tokenizer protocol) -/
@[reducible] def allowNone : Allow := ⟨False, False⟩

/-- the failures left for arbitrary token sequences: a sink failure of a tree-mutating op, the Text-mode
`unreachable!`, the `<meta>` prescan messages -/
abbrev BenignText (e : String) : Prop := @Benign allowText e
/-- the failures left for protocol-abiding token sequences: a sink failure of a tree-mutating op, the
`<meta>` prescan messages -/
abbrev BenignStrict (e : String) : Prop := @Benign allowNone e

variable {al : Allow}

/-- the tokens and `end`, without the fuel allowance -/
theorem sat_parseRest2 (toks : List (TokToken × Nat)) {s : State} (ht : TI s)
    (hresp : al.text ∨ Respects s toks) : Sat (parseRest toks) s (fun _ _ => True) := by
  unfold parseRest
  refine (sat_processTokens2 allSpec allDec toks [] s ht hresp).bind ?_
  intro r s2 _
  refine sat_finishTB.bind ?_
  intro _ s3 _
  exact sat_pure trivial

/-- **`process_to_completion` never runs out of fuel**: from a state satisfying the invariant, with the fuel
`process_token` gives it, a token that keeps the protocol -/
theorem C04_tb_ptc_fuel (s : State) (t : Token) (ht : TI s) (hpos : isCharsTok t = true → 1 ≤ tokenCharLen t)
    (hprot : s.mode = .text → textTok t = true) (e : String)
    (h : (processToCompletion (ptcFuel s t) t []).run s = .error e) : BenignStrict e := by
  have hs : @Sat allowNone _ (processToCompletion (ptcFuel s t) t []) s (fun _ s' => TI s') :=
    @sat_processToCompletion2 allowNone (@allSpec allowNone) allDec _ t [] s ht
      ⟨fun _ => rfl, hpos, fun _ h => by cases h⟩ (fun hm => Or.inr (hprot hm)) (mu_le_ptcFuel s t)
  exact ((@sat_iff allowNone _ _ _ _).mp hs).2 e h

/-- **C04 (tree builder), documents, without the fuel allowance**: arbitrary token sequences -/
theorem C04_tb_no_panic' (opts : Opts) (toks : List (TokToken × Nat)) (e : String)
    (h : (parseDocument toks).run (State.init opts) = .error e) : BenignText e := by
  rw [parseDocument_run] at h
  exact ((@sat_iff allowText _ _ _ _).mp
    (@sat_parseRest2 allowText toks _ (C04_tb_inv_new opts) (Or.inl trivial))).2 e h

/-- … token sequences that keep the tokenizer protocol -/
theorem C04_tb_no_panic_protocol' (opts : Opts) (toks : List (TokToken × Nat))
    (hresp : Respects (docStart opts) toks) (e : String)
    (h : (parseDocument toks).run (State.init opts) = .error e) : BenignStrict e := by
  rw [parseDocument_run] at h
  exact ((@sat_iff allowNone _ _ _ _).mp
    (@sat_parseRest2 allowNone toks _ (C04_tb_inv_new opts) (Or.inr hresp))).2 e h

theorem C04_tb_no_panic_fragment' (opts : Opts) (d : Dom) (ctx : Id) (form : Option Id)
    (toks : List (TokToken × Nat)) (hctx : IsEl d ctx)
    (hform : ∀ f, form = some f → IsEl d f ∧ nm d f = formName) (e : String)
    (h : (parseFragment ctx form toks).run (fragInit opts d) = .error e) : BenignText e := by
  have hs : @Sat allowText _ (parseFragment ctx form toks) (fragInit opts d) (fun _ _ => True) := by
    unfold parseFragment
    refine (@sat_newForFragment allowText _ _ _ (fresh_init_dom opts d) hctx hform).bind ?_
    intro _ s1 ht1
    exact @sat_parseRest2 allowText toks _ ht1 (Or.inl trivial)
  exact ((@sat_iff allowText _ _ _ _).mp hs).2 e h

theorem C04_tb_no_panic_protocol_fragment' (opts : Opts) (d : Dom) (ctx : Id) (form : Option Id)
    (toks : List (TokToken × Nat)) (hctx : IsEl d ctx)
    (hform : ∀ f, form = some f → IsEl d f ∧ nm d f = formName)
    (hresp : ∀ s1, (newForFragment ctx form).run (fragInit opts d) = .ok ((), s1) → Respects s1 toks)
    (e : String) (h : (parseFragment ctx form toks).run (fragInit opts d) = .error e) : BenignStrict e := by
  have hs : @Sat allowNone _ (parseFragment ctx form toks) (fragInit opts d) (fun _ _ => True) := by
    unfold parseFragment
    refine (sat_with_run (@sat_newForFragment allowNone _ _ _ (fresh_init_dom opts d) hctx hform)).bind ?_
    rintro u s1 ⟨ht1, hrun⟩
    exact @sat_parseRest2 allowNone toks _ ht1 (Or.inr (hresp s1 hrun))
  exact ((@sat_iff allowNone _ _ _ _).mp hs).2 e h

/-- **headline**: with a token source that keeps the tokenizer protocol, a document parse of the model ends
in none of: the fuel of `process_to_completion`, the Text-mode `unreachable!`, the listed panic / helper-fuel
/ model messages -/
theorem C04_tb_total_protocol' (opts : Opts) (toks : List (TokToken × Nat))
    (hresp : Respects (docStart opts) toks) :
    ∀ e ∈ ptcFuelMsg :: textProtoMsg :: (tbPanicMessages ++ tbFuelMessages ++ tbModelMessages),
      (parseDocument toks).run (State.init opts) ≠ .error e := by
  intro e he h
  have hb := C04_tb_no_panic_protocol' opts toks hresp e h
  rcases List.mem_cons.mp he with he | he
  · exact @benign_ne_ptcFuel allowNone (fun h => h) e hb he
  rcases List.mem_cons.mp he with he | he
  · exact @benign_ne_textProto allowNone (fun h => h) e hb he
  · exact @listed_not_benign allowNone e he hb

/-- for arbitrary token sequences the fuel message is excluded as well -/
theorem C04_tb_total' (opts : Opts) (toks : List (TokToken × Nat)) :
    ∀ e ∈ ptcFuelMsg :: (tbPanicMessages ++ tbFuelMessages ++ tbModelMessages),
      (parseDocument toks).run (State.init opts) ≠ .error e := by
  intro e he h
  have hb := C04_tb_no_panic' opts toks e h
  rcases List.mem_cons.mp he with he | he
  · exact @benign_ne_ptcFuel allowText (fun h => h) e hb he
  · exact @listed_not_benign allowText e he hb

/-- **C04 + C05 together, without the fuel**: a document parse with a protocol-abiding `TagsOk` token source
fails only with one of the two `<meta>`-prescan messages or by a failure of the mirror op called within its
contract -/
theorem C04_tb_total_full' (opts : Opts) (toks : List (TokToken × Nat))
    (hresp : Respects (docStart opts) toks) (htags : H5V.Props.C05TB.TagsOk toks) (e : String)
    (h : (parseDocument toks).run (State.init opts) = .error e) :
    ("meta-extract@encoding.rs: ".toList.isPrefixOf e.toList = true) ∨
    e = "subtendril-utf8@encoding.rs: subtendril is not valid UTF-8" ∨
    ∃ (d : Dom) (o : Id) (y : String), d.apply (.maybeCloneAnOptionIntoSelectedcontent o) = .error y ∧
      e = errClass y ++ "@sink: " ++ y := by
  rcases H5V.Props.C05TB.C04_tb_total_full opts toks hresp htags e h with h1 | h1 | h1 | h1
  · exact absurd h1 (@benign_ne_ptcFuel allowNone (fun h => h) e (C04_tb_no_panic_protocol' opts toks hresp e h))
  · exact Or.inl h1
  · exact Or.inr (Or.inl h1)
  · exact Or.inr (Or.inr h1)

/-! ### non-vacuity -/

/-- the measure of a concrete state -/
example : mu (docStart {}) (.tag { kind := .startTag, name := "td".toList }) [] ≤
    ptcFuel (docStart {}) (.tag { kind := .startTag, name := "td".toList }) := mu_le_ptcFuel _ _

/-- the rank table: a `<td>` in the Initial mode travels Initial → BeforeHtml → BeforeHead → InHead →
AfterHead → InBody -/
example : rank .initial (cls (.tag { kind := .startTag, name := "td".toList })) = 5 := by decide

/-- a deep `Reprocess` chain: `<caption>` inside a table cell goes InCell → InRow → InTableBody → InTable and
is handled there; the run succeeds -/
example : errOf ((parseDocument [st "table", st "tr", st "td", ch "x", st "caption", ch "y", (.eof, 1)]).run
    (State.init {})) = none := by decide +kernel

/-- EOF inside nested templates (one `Reprocess` per template) -/
example : errOf ((parseDocument [st "template", st "template", st "table", st "template", ch "x", (.eof, 1)]).run
    (State.init {})) = none := by decide +kernel

end H5V.Props.C04TB2

#print axioms H5V.Lemmas.TBFuel.allDec
#print axioms H5V.Lemmas.TBFuel.sat_processToCompletion2
#print axioms H5V.Lemmas.TBFuel.mu_le_ptcFuel
#print axioms H5V.Props.C04TB2.C04_tb_ptc_fuel
#print axioms H5V.Props.C04TB2.C04_tb_no_panic'
#print axioms H5V.Props.C04TB2.C04_tb_no_panic_protocol'
#print axioms H5V.Props.C04TB2.C04_tb_no_panic_fragment'
#print axioms H5V.Props.C04TB2.C04_tb_no_panic_protocol_fragment'
#print axioms H5V.Props.C04TB2.C04_tb_total_protocol'
#print axioms H5V.Props.C04TB2.C04_tb_total'
#print axioms H5V.Props.C04TB2.C04_tb_total_full'
