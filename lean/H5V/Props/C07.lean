import H5V.Model.HtmlSer
import H5V.Spec.HtmlEscape
import H5V.Lemmas.HtmlSerEscape
import H5V.Lemmas.HtmlSerUnescape
import H5V.Lemmas.HtmlSerRender
/-!
C07 — HTML serializer output re-parses to the same tree; inner equals outer.

What is proved here, about the model `H5V.Model.HtmlSer` of `html5ever/src/serialize/mod.rs`
(+ rcdom's `SerializableHandle`), for **all** byte strings / strings / trees / options:

1. `write_escaped`'s loop (index arithmetic, memchr search) never panics and equals a structural
   byte function; on UTF-8 text that function is UTF-8 of the standard's character-level escape —
   `_partial`: on the tree as it is a byte 0xC2 not followed by 0xA0 is dropped (defect 1).
2. The reader `unescape` (tokenizer data state / double-quoted attribute value state restricted
   to the five references the serializer emits) inverts `escape` on every string free of CR and
   U+0000 and stops exactly at the delimiter following the escaped text; escaped text contains no
   `<`, `>` and (attribute mode) no `"` — nothing can leave its context.
3. The serializer with its `ElemInfo` stack equals a pure renderer; rcdom's op-deque loop equals
   the recursive traversal; trees without Document nodes never reach a panic site.
4. inner = outer for every element — `_partial`: `ChildrenOnly(Some(name))` ignores `name.ns`
   (defect 2) and never sets `ignore_children` (finding 3).
5. Text is written unescaped iff the parent is an HTML-namespace element of the raw-text list
   (`noscript`: and scripting is on).

The round trip through the tokenizer and tree-builder models is `C07_roundtrip`
(`Props/C07RT.lean`, for the class of forests described there); on the real code it is checked by
the `rt=` oracle of the `ser` engine.

The switches `Cfg.fixC2 / fixNs / fixVoid` select the pinned snapshot (`Cfg.pinned`, all false) or
the repaired code (`Cfg.current`, all true since the `fix:` commits); every theorem is stated for an
arbitrary `cfg`, the last section instantiates `Cfg.current` at full strength (FLIP HERE).
-/
namespace H5V.Props.C07
deriving instance DecidableEq for Except
open H5V.Model.HtmlSer H5V.Spec.HtmlEscape
open H5V.Lemmas.HtmlSerEscape H5V.Lemmas.HtmlSerUnescape H5V.Lemmas.HtmlSerRender

/-! ## 1. write_escaped -/

/-- The loop of `write_escaped` — `search_start`, `next_special`, `memchr3` then `memchr2` on the
prefix, the slice and index operations — reaches no panic branch and appends exactly `escBytes`,
for every byte string (valid UTF-8 or not), both modes. -/
theorem C07_write_escaped_eq (cfg : Cfg) (attr : Bool) (bytes out : Bytes) :
    writeEscaped cfg attr bytes out = .ok (out ++ escBytes cfg attr bytes) :=
  writeEscaped_eq cfg attr bytes out

example : writeEscaped Cfg.current true (utf8 ['a', '"', '&']) [0x3D]
    = .ok ([0x3D, 0x61] ++ bQuot ++ bAmp) := by decide

/-- Bytes written for a string = UTF-8 of its character-level escape.
Full statement (fails on the tree as it is, see `C07_witness_c2_dropped`):
`∀ s, writeEscaped cfg attr (utf8 s) out = .ok (out ++ utf8 (escape attr s))`.
Proved here for strings without the characters U+0080–U+00BF other than U+00A0 (`c2Victim`), whose
UTF-8 lead byte 0xC2 the `_ => continue` arm loses. -/
theorem C07_escape_bytes_partial (cfg : Cfg) (attr : Bool) (s : List Char) (out : Bytes)
    (h : ∀ c ∈ s, c2Victim c = false) :
    writeEscaped cfg attr (utf8 s) out = .ok (out ++ utf8 (escape attr s)) := by
  rw [writeEscaped_eq, escBytes_utf8 cfg attr s (Or.inr h)]

example : writeEscaped Cfg.current false (utf8 ['<', 'é', ' ', '€']) []
    = .ok (utf8 (escape false ['<', 'é', ' ', '€'])) :=
  C07_escape_bytes_partial _ _ _ _ (by decide)

/-- With the 0xC2 arm repaired the statement holds for every string. -/
theorem C07_escape_bytes_fixed (cfg : Cfg) (hfix : cfg.fixC2 = true) (attr : Bool)
    (s : List Char) (out : Bytes) :
    writeEscaped cfg attr (utf8 s) out = .ok (out ++ utf8 (escape attr s)) := by
  rw [writeEscaped_eq, escBytes_utf8 cfg attr s (Or.inl hfix)]

example : writeEscaped Cfg.allFixed false (utf8 ['¢']) [] = .ok [0xC2, 0xA2] := by decide

/-- Defect 1: `¢` (C2 A2) is written as the lone byte A2 — not UTF-8 of anything. -/
theorem C07_witness_c2_dropped (cfg : Cfg) (h : cfg.fixC2 = false) (attr : Bool) :
    writeEscaped cfg attr (utf8 ['¢']) [] = .ok [0xA2] ∧
    utf8 (escape attr ['¢']) = [0xC2, 0xA2] := by
  obtain ⟨a, b, c⟩ := cfg
  simp only at h; subst h
  cases attr <;> cases b <;> cases c <;> exact ⟨by decide, by decide⟩

/-! ## 2. reading back -/

/-- Text: the reader returns the original string from its escape, also when the escaped text is
followed by a tag (`<` and anything).  CR and U+0000 are excluded because input-stream
preprocessing rewrites CR / CR LF to LF and the parser replaces or drops U+0000: no literal
spelling of them survives re-parsing (`C07_witness_cr`, `C07_witness_nul`). -/
theorem C07_unescape_text (s : List Char) (h : noCRNUL s) :
    unescape false (escapeText s) = s ∧
    ∀ tail, unescape false (escapeText s ++ '<' :: tail) = s := by
  constructor
  · have := unescape_escape_aux false [] (Or.inl rfl) s h
    simpa [unescape] using this
  · intro tail
    exact unescape_escape_aux false ('<' :: tail) (Or.inr ⟨tail, rfl⟩) s h

example : unescape false (escapeText ['a', '<', '&', 'l', 't', ';'] ++ ['<', '/', 'p', '>'])
    = ['a', '<', '&', 'l', 't', ';'] := by decide

/-- Attribute value (double-quoted): same, the delimiter being `"`. -/
theorem C07_unescape_attr (s : List Char) (h : noCRNUL s) :
    unescape true (escapeAttr s) = s ∧
    ∀ tail, unescape true (escapeAttr s ++ '"' :: tail) = s := by
  constructor
  · have := unescape_escape_aux true [] (Or.inl rfl) s h
    simpa [unescape] using this
  · intro tail
    exact unescape_escape_aux true ('"' :: tail) (Or.inr ⟨tail, rfl⟩) s h

example : unescape true (escapeAttr ['"', '>', '&'] ++ ['"', ' ', 'o', 'n', 'x', '=', '"'])
    = ['"', '>', '&'] := by decide

/-- Escaped text contains no `<` and no `>`: it cannot open or close a tag. -/
theorem C07_escape_text_no_lt (s : List Char) : ∀ x ∈ escapeText s, x ≠ '<' ∧ x ≠ '>' :=
  fun x hx => ⟨(escape_chars false s x hx).1, (escape_chars false s x hx).2.1⟩

example : '<' ∉ escapeText ['<', 's', 'c', 'r', 'i', 'p', 't', '>'] := by decide

/-- An escaped attribute value contains no `"` (nor `<`, `>`): it cannot close the value. -/
theorem C07_escape_attr_no_quote (s : List Char) :
    ∀ x ∈ escapeAttr s, x ≠ '"' ∧ x ≠ '<' ∧ x ≠ '>' :=
  fun x hx => ⟨(escape_chars true s x hx).2.2 rfl, (escape_chars true s x hx).1,
    (escape_chars true s x hx).2.1⟩

example : '"' ∉ escapeAttr ['"', ' ', 'o', 'n', 'x', '=', '"'] := by decide

/-- why CR is excluded -/
theorem C07_witness_cr : unescape false (escapeText ['a', '\r', 'b']) ≠ ['a', '\r', 'b'] := by
  decide

/-- why U+0000 is excluded -/
theorem C07_witness_nul :
    unescape true (escapeAttr ['\u0000']) ≠ ['\u0000'] ∧
    unescape false (escapeText ['\u0000']) ≠ ['\u0000'] := by
  decide

/-! ## 3. the serializer as a pure function of the tree -/

/-- `serialize` = the pure renderer started with the `ElemInfo` that `HtmlSerializer::new` builds;
the only failure is rcdom's panic on a Document node. -/
theorem C07_serialize_eq_render (cfg : Cfg) (scope : Scope) (o : Opts) (root : Node) :
    match renderRoot cfg scope o root with
    | some w => serialize cfg scope o root = .ok w
    | none => ∃ out', serialize cfg scope o root = .error ⟨docSite, out'⟩ :=
  serialize_eq cfg scope o root

/-- No panic site (`no parent ElemInfo`, `no ElemInfo`, the slice operations of `write_escaped`,
rcdom's Document panic) is reachable when serialising a tree without Document nodes below the
root, whatever the options — `create_missing_parent` is never needed for a real tree. -/
theorem C07_no_panic (cfg : Cfg) (o : Opts) (root : Node) :
    (docFree root = true → ∃ w, serialize cfg .includeNode o root = .ok w) ∧
    (∀ x, forestDocFree root.children = true →
      ∃ w, serialize cfg (.childrenOnly x) o root = .ok w) := by
  constructor
  · intro h
    have h1 := renderNode_some cfg o root (scopeInfo cfg .includeNode) h
    have h2 := serialize_eq cfg .includeNode o root
    simp only [renderRoot] at h2
    cases hr : renderNode cfg o (scopeInfo cfg .includeNode) root with
    | none => simp [hr] at h1
    | some w => rw [hr] at h2; exact ⟨w, h2⟩
  · intro x h
    have h1 := renderForest_some cfg o root.children (scopeInfo cfg (.childrenOnly x)) h
    have h2 := serialize_eq cfg (.childrenOnly x) o root
    simp only [renderRoot] at h2
    cases hr : renderForest cfg o (scopeInfo cfg (.childrenOnly x)) root.children with
    | none => simp [hr] at h1
    | some w => rw [hr] at h2; exact ⟨w, h2⟩

example : ∃ w, serialize Cfg.current (.childrenOnly none) ⟨true, false⟩
    (.document [.doctype ['h'], .element ⟨.html, ['p']⟩ [] [.text ['x']]]) = .ok w :=
  (C07_no_panic _ _ _).2 _ (by decide)

/-- rcdom's `while let Some(op) = ops.pop_front()` loop equals the recursive reading of the op
list, given fuel for one iteration per node and per close op. -/
theorem C07_runOps_eq (cfg : Cfg) (o : Opts) (fuel : Nat) (ops : List SerOp) (s : Ser)
    (h : opsSize ops ≤ fuel) : runOps cfg o fuel ops s = serOps cfg o ops s :=
  runOps_eq_serOps cfg o fuel ops s h

/-- `SerializableHandle::serialize` as written (op deque) = the recursive traversal, including
the result on panics. -/
theorem C07_serializeOps_eq (cfg : Cfg) (scope : Scope) (o : Opts) (root : Node) :
    serializeOps cfg scope o root = serialize cfg scope o root := by
  cases scope with
  | includeNode =>
    simp only [serializeOps, serialize]
    rw [runOps_eq_serOps cfg o _ _ _ (Nat.le_refl _)]
    simp only [serOps, bind, Except.bind]
    cases serNode cfg o root (new cfg .includeNode) <;> rfl
  | childrenOnly x =>
    simp only [serializeOps, serialize]
    rw [runOps_eq_serOps cfg o _ _ _ (Nat.le_refl _)]
    have := serOps_open_append cfg o root.children [] (new cfg (.childrenOnly x))
    rw [List.append_nil] at this
    rw [this]
    simp only [bind, Except.bind]
    cases serForest cfg o root.children (new cfg (.childrenOnly x)) <;> rfl

/-! ## 4. inner = outer -/

/-- start tag and end tag of an element = what `start_elem` / `end_elem` write on a fresh
serializer -/
theorem C07_tags (cfg : Cfg) (o : Opts) (name : QualName) (attrs : List Attr) :
    startElem cfg o name attrs (new cfg .includeNode)
      = .ok ⟨startTagBytes cfg name attrs, [infoOf name, ⟨none, false⟩]⟩ ∧
    endElem o name ⟨startTagBytes cfg name attrs, [infoOf name, ⟨none, false⟩]⟩
      = .ok ⟨startTagBytes cfg name attrs ++ endTagOf name, [⟨none, false⟩]⟩ := by
  constructor
  · rw [new_eq, startElem_eq]; simp [scopeInfo]
  · rw [endElem_eq]; simp only [infoOf, endTagOf]
    by_cases h : isVoid name = true <;> simp [h]

/-- the two conditions under which the code as it is gets inner = outer right -/
def nsOk (cfg : Cfg) (o : Opts) (name : QualName) : Prop :=
  cfg.fixNs = true ∨ name.ns = .html ∨ escapeDecision o (some name.loc) = true
def voidOk (cfg : Cfg) (name : QualName) (ch : List Node) : Prop :=
  cfg.fixVoid = true ∨ isVoid name = false ∨ ch = []

theorem inner_outer_render (cfg : Cfg) (o : Opts) (name : QualName) (attrs : List Attr)
    (ch : List Node) (hns : nsOk cfg o name) (hvoid : voidOk cfg name ch) :
    renderRoot cfg .includeNode o (.element name attrs ch) =
      (renderRoot cfg (.childrenOnly (some name)) o (.element name attrs ch)).map
        (fun inner => startTagBytes cfg name attrs ++ inner ++ endTagOf name) := by
  simp only [renderRoot, scopeInfo, Node.children]
  unfold renderNode
  simp only [Bool.false_eq_true, if_false]
  congr 1
  by_cases hch : ch = []
  · subst hch; simp [renderForest]
  apply renderForest_congr
  · rcases hvoid with h | h | h
    · simp [infoOf, h]
    · simp [infoOf, h]
    · exact absurd h hch
  · simp only [infoOf, htmlNameOf]
    rcases hns with h | h | h
    · simp only [h, Bool.true_and]
      cases hh : name.ns == Ns.html <;> simp_all
    · simp [h]
    · by_cases hh : name.ns = Ns.html
      · simp [hh]
      · have : (name.ns == Ns.html) = false := by simpa using hh
        have hn : escapeDecision o none = true := rfl
        cases cfg.fixNs <;> simp [this, h, hn, hh]

/-- **inner = outer.**  For every element (of any tree, taken as the node being serialised):
serialising its children with the element named as parent gives exactly the bytes between the
start tag and the end tag of the element's own serialisation; one succeeds iff the other does.
Full statement: no side conditions.  On the tree as it is it needs
* `nsOk`: the element is in the HTML namespace, or its local name is not one under which
  `write_text` writes raw text (defect 2 — `ChildrenOnly(Some(name))` forgets `name.ns`), and
* `voidOk`: the element is not void or has no children (finding 3 — `HtmlSerializer::new`
  never sets `ignore_children`). -/
theorem C07_inner_outer_partial (cfg : Cfg) (o : Opts) (name : QualName) (attrs : List Attr)
    (ch : List Node) (hns : nsOk cfg o name) (hvoid : voidOk cfg name ch) :
    (∀ outer, serialize cfg .includeNode o (.element name attrs ch) = .ok outer →
      ∃ inner, serialize cfg (.childrenOnly (some name)) o (.element name attrs ch) = .ok inner ∧
        outer = startTagBytes cfg name attrs ++ inner ++ endTagOf name) ∧
    (∀ inner, serialize cfg (.childrenOnly (some name)) o (.element name attrs ch) = .ok inner →
      serialize cfg .includeNode o (.element name attrs ch)
        = .ok (startTagBytes cfg name attrs ++ inner ++ endTagOf name)) := by
  have hr := inner_outer_render cfg o name attrs ch hns hvoid
  have h1 := serialize_eq cfg .includeNode o (.element name attrs ch)
  have h2 := serialize_eq cfg (.childrenOnly (some name)) o (.element name attrs ch)
  rw [hr] at h1
  cases hin : renderRoot cfg (.childrenOnly (some name)) o (.element name attrs ch) with
  | none =>
    rw [hin] at h1 h2
    obtain ⟨o1, h1⟩ := h1
    obtain ⟨o2, h2⟩ := h2
    constructor
    · intro outer h; rw [h1] at h; cases h
    · intro inner h; rw [h2] at h; cases h
  | some w =>
    rw [hin] at h1 h2
    simp only [Option.map] at h1
    constructor
    · intro outer h
      rw [h1] at h
      exact ⟨w, h2, by cases h; rfl⟩
    · intro inner h
      rw [h2] at h
      cases h; exact h1

example : nsOk Cfg.current ⟨true, false⟩ ⟨.svg, ['t', 'i', 't', 'l', 'e']⟩ := by
  right; right; decide
example : nsOk Cfg.current ⟨true, false⟩ ⟨.html, nScript⟩ := by right; left; rfl
example : ∃ inner, serialize Cfg.current (.childrenOnly (some ⟨.html, nScript⟩)) ⟨true, false⟩
    (.element ⟨.html, nScript⟩ [] [.text ['a', '<']]) = .ok inner ∧ inner = [0x61, 0x3C] :=
  ⟨_, by decide, rfl⟩

/-- With the namespace and the void flag taken into account by `HtmlSerializer::new`
(proposed fixes) inner = outer holds for every element of every tree. -/
theorem C07_inner_outer_fixed (cfg : Cfg) (h2 : cfg.fixNs = true) (h3 : cfg.fixVoid = true)
    (o : Opts) (name : QualName) (attrs : List Attr) (ch : List Node) :
    (∀ outer, serialize cfg .includeNode o (.element name attrs ch) = .ok outer →
      ∃ inner, serialize cfg (.childrenOnly (some name)) o (.element name attrs ch) = .ok inner ∧
        outer = startTagBytes cfg name attrs ++ inner ++ endTagOf name) ∧
    (∀ inner, serialize cfg (.childrenOnly (some name)) o (.element name attrs ch) = .ok inner →
      serialize cfg .includeNode o (.element name attrs ch)
        = .ok (startTagBytes cfg name attrs ++ inner ++ endTagOf name)) :=
  C07_inner_outer_partial cfg o name attrs ch (Or.inl h2) (Or.inl h3)

def svgStyle : QualName := ⟨.svg, nStyle⟩
def witnessNs : Node := .element svgStyle [] [.text ['a', '<', 'b']]

/-- Defect 2: for `<svg:style>a&lt;b</svg:style>` the inner serialisation is the raw `a<b`,
the outer one contains `a&lt;b`. -/
theorem C07_witness_ns_ignored (cfg : Cfg) (h : cfg.fixNs = false) (scripting cmp : Bool) :
    serialize cfg (.childrenOnly (some svgStyle)) ⟨scripting, cmp⟩ witnessNs
      = .ok [0x61, 0x3C, 0x62] ∧
    serialize cfg .includeNode ⟨scripting, cmp⟩ witnessNs
      = .ok (startTagBytes cfg svgStyle [] ++ ([0x61] ++ bLt ++ [0x62]) ++ endTagOf svgStyle) := by
  obtain ⟨a, b, c⟩ := cfg
  simp only at h; subst h
  cases a <;> cases c <;> cases scripting <;> cases cmp <;> exact ⟨by decide, by decide⟩

def htmlBr : QualName := ⟨.html, ['b', 'r']⟩
def witnessVoid : Node := .element htmlBr [] [.element ⟨.html, ['b']⟩ [] []]

/-- Finding 3: a void element with an element child — IncludeNode writes `<br>` only,
`ChildrenOnly(Some(br))` writes the child `<b></b>`. -/
theorem C07_witness_void_children (cfg : Cfg) (h : cfg.fixVoid = false) (scripting cmp : Bool) :
    serialize cfg (.childrenOnly (some htmlBr)) ⟨scripting, cmp⟩ witnessVoid
      = .ok [0x3C, 0x62, 0x3E, 0x3C, 0x2F, 0x62, 0x3E] ∧
    serialize cfg .includeNode ⟨scripting, cmp⟩ witnessVoid = .ok [0x3C, 0x62, 0x72, 0x3E] := by
  obtain ⟨a, b, c⟩ := cfg
  simp only at h; subst h
  cases a <;> cases b <;> cases scripting <;> cases cmp <;> exact ⟨by decide, by decide⟩

/-! ## 5. raw text only under HTML raw-text parents -/

/-- the property's condition: HTML namespace ∧ raw-text name (∧ scripting for `noscript`) -/
def isRawParent (o : Opts) (name : QualName) : Bool :=
  name.ns == .html && (rawTextNames.contains name.loc || (name.loc == nNoscript && o.scripting))

theorem escapeDecision_infoOf (o : Opts) (name : QualName) :
    escapeDecision o (htmlNameOf name) = !isRawParent o name := by
  unfold escapeDecision htmlNameOf isRawParent
  cases hh : name.ns == Ns.html
  · simp
  · simp only [if_true, Bool.true_and]
    cases rawTextNames.contains name.loc <;> cases name.loc == nNoscript <;> cases o.scripting <;> rfl

/-- A text child of an element that is written (its parent not being an ignored subtree) is
written unescaped iff the element is an HTML-namespace element of the raw-text list (and scripting
is enabled, for `noscript`); otherwise it goes through `write_escaped`. -/
theorem C07_raw_only_html (cfg : Cfg) (o : Opts) (name : QualName) (attrs : List Attr)
    (t : List Char) (out : Bytes) (p : ElemInfo) (rest : List ElemInfo)
    (hp : p.ignoreChildren = false) :
    (startElem cfg o name attrs ⟨out, p :: rest⟩ >>= writeText cfg o t) =
      .ok ⟨out ++ startTagBytes cfg name attrs ++
            (if isRawParent o name then utf8 t else escBytes cfg false (utf8 t)),
           infoOf name :: p :: rest⟩ := by
  rw [startElem_eq]
  simp only [hp, Bool.false_eq_true, if_false, bind, Except.bind]
  rw [writeText_eq]
  simp only [renderText, infoOf, escapeDecision_infoOf]
  cases isRawParent o name <;> simp

example : isRawParent ⟨true, false⟩ ⟨.html, nNoscript⟩ = true
    ∧ isRawParent ⟨false, false⟩ ⟨.html, nNoscript⟩ = false
    ∧ isRawParent ⟨true, false⟩ ⟨.svg, nStyle⟩ = false
    ∧ isRawParent ⟨true, false⟩ ⟨.html, nStyle⟩ = true := by decide

/-- The same for the parent named by `ChildrenOnly(Some(name))`.  Full statement: no hypothesis.
On the tree as it is it holds for HTML-namespace names only (defect 2). -/
theorem C07_scope_raw_partial (cfg : Cfg) (o : Opts) (name : QualName) (t : List Char)
    (h : cfg.fixNs = true ∨ name.ns = .html) :
    writeText cfg o t (new cfg (.childrenOnly (some name))) =
      .ok ⟨if isRawParent o name then utf8 t else escBytes cfg false (utf8 t),
           [scopeInfo cfg (.childrenOnly (some name))]⟩ := by
  rw [new_eq, writeText_eq]
  have hd : escapeDecision o (scopeInfo cfg (.childrenOnly (some name))).htmlName
      = !isRawParent o name := by
    rw [← escapeDecision_infoOf]
    simp only [scopeInfo, htmlNameOf]
    rcases h with h | h
    · simp only [h, Bool.true_and]
      cases hh : name.ns == Ns.html <;> simp_all
    · simp [h]
  simp only [renderText, hd]
  cases isRawParent o name <;> simp

example : writeText Cfg.current ⟨true, false⟩ ['<'] (new Cfg.current (.childrenOnly (some ⟨.html, nXmp⟩)))
    = .ok ⟨[0x3C], [⟨some nXmp, false⟩]⟩ := by decide

/-! ## 6. the code as it is — FLIP HERE

`Cfg.current` has all three switches on since the `fix:` commits in /repo (D1 423f1bc, D2 b9175dc,
D3 f7b6360); the `ser` correspondence ties that configuration to the code on every run.  The
theorems below are the full-strength statements about it.  The pinned snapshot (`Cfg.pinned`, all
switches off) keeps its negative witnesses, so the history stays visible.  If a fix is reverted and
`Cfg.current` is switched back, the `rfl` arguments below stop type-checking. -/

/-- **The code as it is**: for every string and both modes the bytes written by `write_escaped`
are UTF-8 of the character-level escape. -/
theorem C07_current_write_escaped (attr : Bool) (s : List Char) (out : Bytes) :
    writeEscaped Cfg.current attr (utf8 s) out = .ok (out ++ utf8 (escape attr s)) :=
  C07_escape_bytes_fixed Cfg.current rfl attr s out

example : writeEscaped Cfg.current false (utf8 ['¢', '\u00A0', '<']) []
    = .ok ([0xC2, 0xA2] ++ bNbsp ++ bLt) := by decide

/-- **The code as it is**: inner = outer for every element of every tree, all options. -/
theorem C07_current_inner_outer (o : Opts) (name : QualName) (attrs : List Attr) (ch : List Node) :
    (∀ outer, serialize Cfg.current .includeNode o (.element name attrs ch) = .ok outer →
      ∃ inner, serialize Cfg.current (.childrenOnly (some name)) o (.element name attrs ch) = .ok inner ∧
        outer = startTagBytes Cfg.current name attrs ++ inner ++ endTagOf name) ∧
    (∀ inner, serialize Cfg.current (.childrenOnly (some name)) o (.element name attrs ch) = .ok inner →
      serialize Cfg.current .includeNode o (.element name attrs ch)
        = .ok (startTagBytes Cfg.current name attrs ++ inner ++ endTagOf name)) :=
  C07_inner_outer_fixed Cfg.current rfl rfl o name attrs ch

example : serialize Cfg.current (.childrenOnly (some svgStyle)) ⟨true, false⟩ witnessNs
    = .ok ([0x61] ++ bLt ++ [0x62]) := by decide
example : serialize Cfg.current (.childrenOnly (some htmlBr)) ⟨true, false⟩ witnessVoid = .ok [] := by
  decide

/-- **The code as it is**: under `ChildrenOnly(Some(name))` text is raw iff `name` is an
HTML-namespace raw-text element (∧ scripting for `noscript`) — for every name. -/
theorem C07_current_scope_raw (o : Opts) (name : QualName) (t : List Char) :
    writeText Cfg.current o t (new Cfg.current (.childrenOnly (some name))) =
      .ok ⟨if isRawParent o name then utf8 t else utf8 (escape false t),
           [scopeInfo Cfg.current (.childrenOnly (some name))]⟩ := by
  rw [C07_scope_raw_partial Cfg.current o name t (Or.inl rfl),
      escBytes_utf8 Cfg.current false t (Or.inl rfl)]

/-! ### the pinned snapshot (history) -/

/-- Defect 1 on the pinned snapshot: `¢` was written as the lone byte A2. -/
theorem C07_pinned_write_escaped :
    writeEscaped Cfg.pinned false (utf8 ['¢']) [] = .ok [0xA2] :=
  (C07_witness_c2_dropped Cfg.pinned rfl false).1

/-- Defect 2 on the pinned snapshot: inner serialisation of `<svg:style>a&lt;b` was the raw `a<b`. -/
theorem C07_pinned_inner_outer :
    serialize Cfg.pinned (.childrenOnly (some svgStyle)) ⟨true, false⟩ witnessNs
      = .ok [0x61, 0x3C, 0x62] :=
  (C07_witness_ns_ignored Cfg.pinned rfl true false).1

/-- Finding 3 on the pinned snapshot: `ChildrenOnly(Some(br))` wrote the child element. -/
theorem C07_pinned_void_children :
    serialize Cfg.pinned (.childrenOnly (some htmlBr)) ⟨true, false⟩ witnessVoid
      = .ok [0x3C, 0x62, 0x3E, 0x3C, 0x2F, 0x62, 0x3E] :=
  (C07_witness_void_children Cfg.pinned rfl true false).1

end H5V.Props.C07
