import H5V.Lemmas.TendrilWtf8RefineHeap
/-!
C11 — tendrils behave as independent owned strings under every operation.

`Spec.step` is the independent model: a pool of optional byte strings (`Vec<u8>` / `String`),
every operation acting on its own slot only, checked operations failing exactly when the request
is out of bounds or the result would not be valid for the format (`F.validate`).

`C11_step_refines`: for every heap and pool satisfying the invariant `StWF` and holding valid
contents, every operation of the model of `tendril.rs` yields a state that again satisfies the
invariant and whose abstraction is what `Spec.step` yields — in particular no other slot
changes (`C11_independent`) — and it never reaches undefined behaviour.  The only deviation
admitted is a panic of the model where the spec has a result (the crate's `OFLOW` guard, reachable
only with ≥ 2 GiB of data); a panicking operation leaves the state unchanged.
`C11_run_refines` lifts this to all histories by induction.

The step theorems are proved once, for a format with its own concatenation `cat` (`Spec.stepFx`:
the push operations concatenate with `cat`; `LawsFx F cat`: what `push_bytes_without_validating`
builds from `F.fixup` is `cat a b`, validity is closed under `cat`, between adjacent valid parts of a
valid string `cat` is plain append; `SeamOK`: the last, for the parts of one buffer, is all the
zero-copy merge of `push_tendril` needs).  The statements below are the instance `cat := (· ++ ·)`:
there the format enters through `Laws F` (no fix-up on concatenation, validity closed under append, the
prefix / suffix / subsequence checks exact on parts of valid strings, characters cut at valid
places; `Laws.toLawsFx`).  `laws_bytes`, `laws_ascii`, `laws_latin1` (below) and `laws_utf8`
(`H5V/Lemmas/TendrilUtf8.lean`, which relates the futf-based prefix / suffix checks of `fmt.rs` to
Unicode Table 3-7 and derives `C11_utf8_valid`: a UTF-8 tendril always holds valid UTF-8)
discharge them; WTF-8 (the only format with a fix-up) has its own refinement theorems over `LawsFx`
in `Props/C11Wtf8.lean` (`C11_step_refines_wtf8`, `C11_run_refines_wtf8`, `C11_wtf8_valid`).  `C11_no_spurious_panic`: below 2^30 bytes the model panics only where
the specification does.
-/
namespace H5V.Props.C11
open H5V.Model.Tendril H5V.Lemmas.Tendril

abbrev APool := List (Option (List UInt8))

/-! ## the specification: an independent pool of owned byte strings -/

namespace Spec

def popFront (F : Format) (a : List UInt8) (n : Nat) : Option SubErr × List UInt8 :=
  if n = 0 then (none, a)
  else if n > a.length then (some .outOfBounds, a)
  else if F.validate (a.drop n) then (none, a.drop n)
  else (some .validationFailed, a)

def popBack (F : Format) (a : List UInt8) (n : Nat) : Option SubErr × List UInt8 :=
  if n = 0 then (none, a)
  else if n > a.length then (some .outOfBounds, a)
  else if F.validate (a.take (a.length - n)) then (none, a.take (a.length - n))
  else (some .validationFailed, a)

def sub (F : Format) (a : List UInt8) (off len : Nat) : SubErr ⊕ List UInt8 :=
  if off > a.length ∨ len > a.length - off then .inl .outOfBounds
  else if F.validate ((a.drop off).take len) then .inr ((a.drop off).take len)
  else .inl .validationFailed

/-- first character (as the format's `char_indices` sees it) and the rest -/
def popChar (F : Format) (a : List UInt8) : Option Nat × List UInt8 :=
  match F.charIndices a with
  | some [(_, c)] => (some c, [])
  | some ((_, c) :: (n, _) :: _) => (some c, if n = 0 then [] else a.drop n)
  | _ => (none, [])

/-- maximal run of characters of the class of the first one: (run, class, rest) -/
def popRun (F : Format) (classOf : Nat → Nat) (a : List UInt8) : Option (List UInt8 × Nat) × List UInt8 :=
  match F.charIndices a with
  | some ((_, first) :: rest) =>
    match rest.find? (fun p => classOf p.2 != classOf first) with
    | some (idx, _) => (some (a.take idx, classOf first), a.drop idx)
    | none => (some (a, classOf first), [])
  | _ => (none, a)

def step (F : Format) (p : APool) : Op → APool × Out
  | .new i => if i < p.length then (p.set i (some []), .ok) else (p, .badop)
  | .fromBytes i bs =>
    if i < p.length then (if F.validate bs then (p.set i (some bs), .ok) else (p, .err)) else (p, .badop)
  | .pushBytes i bs => match p[i]? with
    | some (some a) => if F.validate bs then (p.set i (some (a ++ bs)), .ok) else (p, .err)
    | _ => (p, .badop)
  | .pushChar i c => match p[i]? with
    | some (some a) => (match F.encodeChar c with
      | some bs => (p.set i (some (a ++ bs)), .ok)
      | none => (p, .err))
    | _ => (p, .badop)
  | .pushTendril i j => match p[i]?, p[j]? with
    | some (some a), some (some b) => if i = j then (p, .badop) else (p.set i (some (a ++ b)), .ok)
    | _, _ => (p, .badop)
  | .tryPopFront i n => match p[i]? with
    | some (some a) => (p.set i (some (popFront F a n).2), outOfErr (popFront F a n).1)
    | _ => (p, .badop)
  | .tryPopBack i n => match p[i]? with
    | some (some a) => (p.set i (some (popBack F a n).2), outOfErr (popBack F a n).1)
    | _ => (p, .badop)
  | .popFront i n => match p[i]? with
    | some (some a) => (match (popFront F a n).1 with
      | none => (p.set i (some (popFront F a n).2), .ok)
      | some _ => (p, .panic))
    | _ => (p, .badop)
  | .popBack i n => match p[i]? with
    | some (some a) => (match (popBack F a n).1 with
      | none => (p.set i (some (popBack F a n).2), .ok)
      | some _ => (p, .panic))
    | _ => (p, .badop)
  | .trySubtendril i j off len => match p[i]? with
    | some (some a) => if j < p.length then (match sub F a off len with
      | .inl e => (p, outOfErr (some e))
      | .inr s => (p.set j (some s), .ok)) else (p, .badop)
    | _ => (p, .badop)
  | .subtendril i j off len => match p[i]? with
    | some (some a) => if j < p.length then (match sub F a off len with
      | .inl _ => (p, .panic)
      | .inr s => (p.set j (some s), .ok)) else (p, .badop)
    | _ => (p, .badop)
  | .clone i j => match p[i]? with
    | some (some a) => if j < p.length then (p.set j (some a), .ok) else (p, .badop)
    | _ => (p, .badop)
  | .clear i => match p[i]? with
    | some (some _) => (p.set i (some []), .ok)
    | _ => (p, .badop)
  | .drop i => match p[i]? with
    | some (some _) => (p.set i none, .ok)
    | _ => (p, .badop)
  | .popFrontChar i => match p[i]? with
    | some (some a) => if (F.charIndices []).isSome then
        (p.set i (some (popChar F a).2), .ch (popChar F a).1) else (p, .badop)
    | _ => (p, .badop)
  | .popFrontCharRun i j k => match p[i]? with
    | some (some a) => if (F.charIndices []).isSome ∧ j < p.length ∧ i ≠ j then
        (match (popRun F (classifier k) a).1 with
          | none => (p.set i (some (popRun F (classifier k) a).2), .run none)
          | some (r, cls) => ((p.set i (some (popRun F (classifier k) a).2)).set j (some r), .run (some cls)))
        else (p, .badop)
    | _ => (p, .badop)
  | .sendRoundTrip i => match p[i]? with
    | some (some _) => (p, .ok)
    | _ => (p, .badop)
  | .reserve i _ => match p[i]? with
    | some (some _) => (p, .ok)
    | _ => (p, .badop)
  | .withCapacity i _ => if i < p.length then (p.set i (some []), .ok) else (p, .badop)
  | .setByte i k v => match p[i]? with
    | some (some a) => if k < a.length then (p.set i (some (a.set k v)), .ok) else (p, .panic)
    | _ => (p, .badop)

def run (F : Format) (p : APool) (ops : List Op) : APool := ops.foldl (fun p op => (step F p op).1) p

end Spec

/-! ## what the theorems need from a format -/

structure Laws (F : Format) : Prop where
  noFixup : ∀ a b, F.fixup a b = {}
  valid_nil : F.validate [] = true
  valid_append : ∀ a b, F.validate a = true → F.validate b = true → F.validate (a ++ b) = true
  suffix_exact : ∀ a b, F.validate (a ++ b) = true → F.validateSuffix b = F.validate b
  prefix_exact : ∀ a b, F.validate (a ++ b) = true → F.validatePrefix a = F.validate a
  subseq_exact : ∀ a b c, F.validate (a ++ (b ++ c)) = true → F.validateSubseq b = F.validate b
  encode_valid : ∀ c bs, F.encodeChar c = some bs → F.validate bs = true
  chars_total : (F.charIndices []).isSome → ∀ a, F.validate a = true → (F.charIndices a).isSome
  chars_cut : ∀ a cs, F.validate a = true → F.charIndices a = some cs →
    ∀ p ∈ cs, p.1 ≤ a.length ∧ F.validate (a.take p.1) = true ∧ F.validate (a.drop p.1) = true

theorem Laws.fixupOK {F : Format} (L : Laws F) : FixupOK F := by
  intro a b; rw [L.noFixup]; exact ⟨Nat.zero_le _, Nat.zero_le _⟩

theorem Laws.pushSpec {F : Format} (L : Laws F) (a b : List UInt8) : pushSpec F a b = a ++ b := by
  simp [Lemmas.Tendril.pushSpec, L.noFixup]

/-- every slot holds bytes valid for the format -/
def AValid (F : Format) (p : APool) : Prop := ∀ (i : Nat) (a : List UInt8), p[i]? = some (some a) → F.validate a = true

/-! ## helper lemmas for the step theorem -/

/-- result `ok` with `Q`, or a panic under the condition `P`; never undefined behaviour -/
def SatX {α : Type} (P : Prop) (x : M α) (Q : α → Prop) : Prop :=
  match x with
  | .ok a => Q a
  | .error (.panic _) => P
  | .error (.ub _) => False

theorem SatX.of_T {α} {P : Prop} {x : M α} {Q : α → Prop} (h : SatT x Q) : SatX P x Q := by
  obtain ⟨a, rfl, hq⟩ := h; exact hq

theorem SatX.of_sat {α} {x : M α} {Q : α → Prop} (h : Sat x Q) : SatX True x Q := by
  cases x with
  | ok a => exact h
  | error e => cases e with
    | panic s => trivial
    | ub s => exact h.elim

theorem SatX.bindT {α β} {P : Prop} {x : M α} {f : α → M β} {P' : α → Prop} {Q : β → Prop}
    (hx : SatT x P') (hf : ∀ a, P' a → SatX P (f a) Q) : SatX P (x >>= f) Q := by
  obtain ⟨a, rfl, hp⟩ := hx
  exact hf a hp

theorem SatX.ok {α} {P : Prop} {a : α} {Q : α → Prop} (h : Q a) : SatX P (.ok a : M α) Q := h

theorem abs_lookup {st : St} {i : Nat} {t : T} (hp : st.pool[i]? = some (some t)) :
    (absPool st)[i]? = some (some (abs st.heap t)) := by
  rw [absPool_getElem?, hp]; rfl

theorem abs_lookup_none {st : St} {i : Nat} (hp : st.pool[i]? = some none) :
    (absPool st)[i]? = some none := by
  rw [absPool_getElem?, hp]; rfl

theorem abs_lookup_oob {st : St} {i : Nat} (hp : st.pool[i]? = none) : (absPool st)[i]? = none := by
  rw [absPool_getElem?, hp]; rfl

theorem focusWF {st : St} {i : Nat} {t : T} (hwf : StWF st) (hp : st.pool[i]? = some (some t)) :
    WF st.heap (t :: others st.pool i) := hwf.perm (focus hp)

theorem lt_of_lookup {st : St} {i : Nat} {o : Option T} (hp : st.pool[i]? = some o) :
    i < st.pool.length := (List.getElem?_eq_some_iff.mp hp).1

/-- `X` holds of the answer of `stepM`, if there is one -/
@[reducible] def OnSome (X : M (St × Out) → Prop) : Option (M (St × Out)) → Prop
  | none => True
  | some m => X m

/-- an operation on the tendril in slot `i` is no operation of the model when the slot is empty or
outside the pool; otherwise it is enough to look at the tendril found there -/
theorem OnSome.slot {X : M (St × Out) → Prop} {st : St} {i : Nat} {f : T → Option (M (St × Out))}
    (h : ∀ t, st.pool[i]? = some (some t) → OnSome X (f t)) :
    OnSome X (match st.pool[i]? with | some (some t) => f t | _ => none) := by
  cases hp : st.pool[i]? with
  | none => trivial
  | some o => cases o with
    | none => trivial
    | some t => exact h t hp

theorem OnSome.guard {X : M (St × Out) → Prop} {c : Prop} [Decidable c] {m : M (St × Out)} (h : c → X m) :
    OnSome X (if c then some m else none) := by
  split
  · exact h ‹c›
  · trivial

theorem set_same {α} {l : List α} {i : Nat} {x : α} (h : l[i]? = some x) : l.set i x = l := by
  apply List.ext_getElem?
  intro j
  by_cases hj : j = i
  · subst hj; rw [List.getElem?_set_self (List.getElem?_eq_some_iff.mp h).1, h]
  · rw [List.getElem?_set_ne (Ne.symm hj)]

theorem split3 (a : List UInt8) (off len : Nat) :
    a = a.take off ++ ((a.drop off).take len ++ (a.drop off).drop len) := by
  rw [List.take_append_drop, List.take_append_drop]

/-- state after a two-slot operation: slot `i` updated to `t1`, the new value `s` to be stored -/
theorem extraWF {st : St} {i : Nat} {t t1 s : T} {h1 : Heap} (hp : st.pool[i]? = some (some t))
    (w1 : WF h1 (t1 :: s :: others st.pool i)) :
    WF (St.mk h1 (st.pool.set i (some t1))).heap (s :: liveTs (St.mk h1 (st.pool.set i (some t1))).pool) := by
  have hlt := lt_of_lookup hp
  exact w1.perm ((List.Perm.swap ..).trans (List.Perm.cons s (liveTs_set_some t1 hlt).symm))

theorem AValid.get {F : Format} {st : St} {i : Nat} {t : T} (hv : AValid F (absPool st))
    (hp : st.pool[i]? = some (some t)) : F.validate (abs st.heap t) = true :=
  hv i _ (abs_lookup hp)

theorem popChar_eq {F : Format} {a : List UInt8} {c : Option Nat} {r : List UInt8}
    (h : some (c, r) = popFrontCharSpec F a) : Spec.popChar F a = (c, r) := by
  unfold popFrontCharSpec at h
  unfold Spec.popChar
  cases hc : F.charIndices a with
  | none => rw [hc] at h; cases h
  | some cs =>
    rw [hc] at h
    match cs, h with
    | [], h => cases h; rfl
    | [(_, c)], h => cases h; rfl
    | (_, c) :: (n, _) :: _, h => cases h; rfl

theorem popRun_eq {F : Format} {cl : Nat → Nat} {a : List UInt8} {x : Option (List UInt8 × Nat)}
    {r : List UInt8} (h : some (x, r) = popFrontCharRunSpec F cl a) : Spec.popRun F cl a = (x, r) := by
  unfold popFrontCharRunSpec at h
  unfold Spec.popRun
  cases hc : F.charIndices a with
  | none => rw [hc] at h; cases h
  | some cs =>
    rw [hc] at h
    match cs, h with
    | [], h => cases h; rfl
    | (_, first) :: rest, h =>
      simp only [] at h ⊢
      cases hf : rest.find? (fun p => cl p.2 != cl first) with
      | none => rw [hf] at h; cases h; rfl
      | some p => obtain ⟨idx, c2⟩ := p; rw [hf] at h; cases h; rfl

/-- when the model may panic: the documented `unwrap` panics exactly where the specification has
them; `True` marks the operations that can reach the crate's `OFLOW` guard -/
def mayPanic (F : Format) (p : APool) : Op → Prop
  | .popFront i n => (Spec.step F p (.popFront i n)).2 = .panic
  | .popBack i n => (Spec.step F p (.popBack i n)).2 = .panic
  | .subtendril i j o l => (Spec.step F p (.subtendril i j o l)).2 = .panic
  | .new _ | .tryPopFront .. | .tryPopBack .. | .trySubtendril .. | .clone .. | .clear _ | .drop _
  | .popFrontChar _ | .popFrontCharRun .. => False
  | _ => True

/-! ## the specification with a format's own concatenation -/

namespace Spec

/-- the owned-string specification with a format-specific concatenation: as `Spec.step`, the push
operations concatenating with `cat` -/
def stepFx (F : Format) (cat : List UInt8 → List UInt8 → List UInt8) (p : APool) : Op → APool × Out
  | .pushBytes i bs => match p[i]? with
    | some (some a) => if F.validate bs then (p.set i (some (cat a bs)), .ok) else (p, .err)
    | _ => (p, .badop)
  | .pushChar i c => match p[i]? with
    | some (some a) => (match F.encodeChar c with
      | some bs => (p.set i (some (cat a bs)), .ok)
      | none => (p, .err))
    | _ => (p, .badop)
  | .pushTendril i j => match p[i]?, p[j]? with
    | some (some a), some (some b) => if i = j then (p, .badop) else (p.set i (some (cat a b)), .ok)
    | _, _ => (p, .badop)
  | op => Spec.step F p op

def runFx (F : Format) (cat : List UInt8 → List UInt8 → List UInt8) (p : APool) (ops : List Op) : APool :=
  ops.foldl (fun p op => (stepFx F cat p op).1) p

/-- with plain append, `stepFx` is `step` -/
theorem stepFx_append (F : Format) (p : APool) (op : Op) :
    stepFx F (fun a b => a ++ b) p op = step F p op := by
  cases op <;> rfl

end Spec

/-! ## what the theorems need from a format with a fix-up -/

structure LawsFx (F : Format) (cat : List UInt8 → List UInt8 → List UInt8) : Prop where
  /-- the fix-up never reaches outside its operands -/
  fixupOK : FixupOK F
  /-- dropping `drop_left` / `drop_right` bytes and inserting `insert` yields the concatenation -/
  push_eq : ∀ a b, F.validate a = true → F.validate b = true → pushSpec F a b = cat a b
  valid_nil : F.validate [] = true
  /-- validity is closed under the format's concatenation -/
  valid_cat : ∀ a b, F.validate a = true → F.validate b = true → F.validate (cat a b) = true
  /-- between adjacent valid parts of a valid string the concatenation is plain append -/
  seam : ∀ x a b y, F.validate (x ++ (a ++ b) ++ y) = true → F.validate a = true → F.validate b = true →
    cat a b = a ++ b
  suffix_exact : ∀ a b, F.validate (a ++ b) = true → F.validateSuffix b = F.validate b
  prefix_exact : ∀ a b, F.validate (a ++ b) = true → F.validatePrefix a = F.validate a
  subseq_exact : ∀ a b c, F.validate (a ++ (b ++ c)) = true → F.validateSubseq b = F.validate b
  encode_valid : ∀ c bs, F.encodeChar c = some bs → F.validate bs = true
  chars_total : (F.charIndices []).isSome → ∀ a, F.validate a = true → (F.charIndices a).isSome
  chars_cut : ∀ a cs, F.validate a = true → F.charIndices a = some cs →
    ∀ p ∈ cs, p.1 ≤ a.length ∧ F.validate (a.take p.1) = true ∧ F.validate (a.drop p.1) = true

/-- every format without a fix-up that satisfies `Laws` satisfies the generalised laws, with `++` -/
theorem Laws.toLawsFx {F : Format} (L : Laws F) : LawsFx F (fun a b => a ++ b) where
  fixupOK := L.fixupOK
  push_eq a b _ _ := L.pushSpec a b
  valid_nil := L.valid_nil
  valid_cat := L.valid_append
  seam _ _ _ _ _ _ _ := rfl
  suffix_exact := L.suffix_exact
  prefix_exact := L.prefix_exact
  subseq_exact := L.subseq_exact
  encode_valid := L.encode_valid
  chars_total := L.chars_total
  chars_cut := L.chars_cut

/-- between adjacent valid parts of the data of one buffer the concatenation is plain append: what
the zero-copy merge of `push_tendril` relies on -/
def SeamOK (F : Format) (cat : List UInt8 → List UInt8 → List UInt8) (h : Heap) : Prop :=
  ∀ (id : Nat) (bf : Buf), h.bufs[id]? = some bf → ∀ x a b y, bf.data = x ++ (a ++ b) ++ y →
    F.validate a = true → F.validate b = true → cat a b = a ++ b

theorem SeamOK.append (F : Format) (h : Heap) : SeamOK F (fun a b => a ++ b) h :=
  fun _ _ _ _ _ _ _ _ _ _ => rfl

/-! ### the checked operations against the specification -/

section
variable {F : Format} {cat : List UInt8 → List UInt8 → List UInt8}

theorem popFront_eq_fx (L : LawsFx F cat) {a : List UInt8} (ha : F.validate a = true) (n : Nat) :
    (if n = 0 then ((none : Option SubErr), a)
     else if n > a.length then (some .outOfBounds, a)
     else if F.validateSuffix (a.drop n) then (none, a.drop n)
     else (some .validationFailed, a)) = Spec.popFront F a n := by
  unfold Spec.popFront
  rw [L.suffix_exact (a.take n) (a.drop n) (by rw [List.take_append_drop]; exact ha)]

theorem popBack_eq_fx (L : LawsFx F cat) {a : List UInt8} (ha : F.validate a = true) (n : Nat) :
    (if n = 0 then ((none : Option SubErr), a)
     else if n > a.length then (some .outOfBounds, a)
     else if F.validatePrefix (a.take (a.length - n)) then (none, a.take (a.length - n))
     else (some .validationFailed, a)) = Spec.popBack F a n := by
  unfold Spec.popBack
  rw [L.prefix_exact (a.take (a.length - n)) (a.drop (a.length - n))
    (by rw [List.take_append_drop]; exact ha)]

theorem sub_eq_inl_fx (L : LawsFx F cat) {a : List UInt8} (ha : F.validate a = true) {off len : Nat}
    {e : SubErr}
    (he : e = (if off > a.length ∨ len > a.length - off then SubErr.outOfBounds else .validationFailed))
    (hn : ¬ (off > a.length ∨ len > a.length - off) → F.validateSubseq ((a.drop off).take len) = false) :
    Spec.sub F a off len = .inl e := by
  unfold Spec.sub
  by_cases hc : off > a.length ∨ len > a.length - off
  · rw [if_pos hc]; rw [if_pos hc] at he; rw [he]
  · rw [if_neg hc]; rw [if_neg hc] at he
    have := L.subseq_exact (a.take off) ((a.drop off).take len) ((a.drop off).drop len)
      (by rw [← split3]; exact ha)
    rw [← this, hn hc, he]; rfl

theorem sub_eq_inr_fx (L : LawsFx F cat) {a : List UInt8} (ha : F.validate a = true) {off len : Nat}
    (hc : ¬ (off > a.length ∨ len > a.length - off))
    (hv : F.validateSubseq ((a.drop off).take len) = true) :
    Spec.sub F a off len = .inr ((a.drop off).take len) := by
  unfold Spec.sub
  rw [if_neg hc]
  have := L.subseq_exact (a.take off) ((a.drop off).take len) ((a.drop off).drop len)
    (by rw [← split3]; exact ha)
  rw [← this, hv]; rfl

end

/-- the answer of `stepM` against the answer `r` of the specification -/
@[reducible] def Refines (P : Prop) (st : St) (r : APool × Out) : Option (M (St × Out)) → Prop
  | none => r = (absPool st, .badop)
  | some m => SatX P m (fun x => StWF x.1 ∧ (absPool x.1, x.2) = r)

/-- model and specification look up the same slot: both reject an empty slot, and otherwise it is
enough to compare what they do with the tendril found there and the bytes it denotes -/
theorem Refines.slot {P : Prop} {st : St} {i : Nat} {f : T → Option (M (St × Out))} {g : List UInt8 → APool × Out}
    (h : ∀ t, st.pool[i]? = some (some t) → Refines P st (g (abs st.heap t)) (f t)) :
    Refines P st (match (absPool st)[i]? with | some (some a) => g a | _ => (absPool st, .badop))
      (match st.pool[i]? with | some (some t) => f t | _ => none) := by
  cases hp : st.pool[i]? with
  | none => simp only [abs_lookup_oob hp]
  | some o => cases o with
    | none => simp only [abs_lookup_none hp]
    | some t => simp only [abs_lookup hp]; exact h t hp

/-- … and the same for a guard both sides test -/
theorem Refines.guard {P : Prop} {st : St} {r : APool × Out} {m : M (St × Out)} {c c' : Prop} [Decidable c]
    [Decidable c'] (hcc : c ↔ c') (h : c → Refines P st r (some m)) :
    Refines P st (if c' then r else (absPool st, .badop)) (if c then some m else none) := by
  by_cases hc : c
  · rw [if_pos hc, if_pos (hcc.mp hc)]; exact h hc
  · rw [if_neg hc, if_neg (fun h' => hc (hcc.mpr h'))]

/-! ## every operation refines the specification -/

theorem stepM_spec_fx (F : Format) (cat : List UInt8 → List UInt8 → List UInt8) (L : LawsFx F cat)
    (st : St) (op : Op) (hwf : StWF st) (hv : AValid F (absPool st)) (hs : SeamOK F cat st.heap) :
    match stepM F st op with
    | none => Spec.stepFx F cat (absPool st) op = (absPool st, .badop)
    | some m => SatX (mayPanic F (absPool st) op) m
        (fun r => StWF r.1 ∧ (absPool r.1, r.2) = Spec.stepFx F cat (absPool st) op) := by
  cases op with
  | new i =>
    by_cases hi : i < st.pool.length
    · simp only [stepM, Spec.stepFx, Spec.step, absPool_length, hi, ↓reduceIte]
      apply SatX.bindT (store_spec hi (hwf.cons_inline (by simp)))
      rintro st' ⟨w, ha⟩
      exact SatX.ok ⟨w, by simp only [ha, abs]⟩
    · simp only [stepM, Spec.stepFx, Spec.step, absPool_length, hi, ↓reduceIte]
  | fromBytes i bs =>
    by_cases hi : i < st.pool.length
    · simp only [stepM, Spec.stepFx, Spec.step, absPool_length, hi, ↓reduceIte]
      apply SatX.of_sat
      by_cases hb : F.validate bs = true
      · simp only [hb, ↓reduceIte]
        apply (fromBytesUnchecked_spec bs hwf).bind
        rintro ⟨h1, t1⟩ ⟨w1, hab, hat⟩
        simp only at w1 hab hat
        apply (store_spec (st := ⟨h1, st.pool⟩) hi w1).sat.bind
        rintro st' ⟨w, ha⟩
        refine Sat.ok ⟨w, ?_⟩
        simp only [ha, hat]
        rw [absPool_heap (st := st) hab]
      · simp only [hb, ↓reduceIte, Bool.false_eq_true]
        exact Sat.ok ⟨hwf, rfl⟩
    · simp only [stepM, Spec.stepFx, Spec.step, absPool_length, hi, ↓reduceIte]
  | pushBytes i bs =>
    refine Refines.slot (fun t hp => ?_)
    have wt := focusWF hwf hp
    apply SatX.of_sat
    by_cases hb : F.validate bs = true
    · simp only [hb, ↓reduceIte]
      apply (pushBytesUnchecked_spec L.fixupOK bs wt).bind
      rintro ⟨h1, t1⟩ ⟨w1, hab, hat⟩
      obtain ⟨a, b⟩ := slot_update hp w1 hab
      exact Sat.ok ⟨a, by simp only [b, hat, L.push_eq _ _ (hv.get hp) hb]⟩
    · simp only [hb, ↓reduceIte, Bool.false_eq_true]
      exact Sat.ok ⟨hwf, rfl⟩
  | pushChar i c =>
    refine Refines.slot (fun t hp => ?_)
    have wt := focusWF hwf hp
    apply SatX.of_sat
    cases he : F.encodeChar c with
    | none => exact Sat.ok ⟨hwf, rfl⟩
    | some bs =>
      simp only []
      apply (pushBytesUnchecked_spec L.fixupOK bs wt).bind
      rintro ⟨h1, t1⟩ ⟨w1, hab, hat⟩
      obtain ⟨a, b⟩ := slot_update hp w1 hab
      exact Sat.ok ⟨a, by simp only [b, hat, L.push_eq _ _ (hv.get hp) (L.encode_valid c bs he)]⟩
  | pushTendril i j =>
    cases hp : st.pool[i]? with
    | none => simp only [stepM, Spec.stepFx, hp, abs_lookup_oob hp]
    | some o => cases o with
      | none => simp only [stepM, Spec.stepFx, hp, abs_lookup_none hp]
      | some t =>
        cases hq : st.pool[j]? with
        | none => simp only [stepM, Spec.stepFx, hp, hq, abs_lookup hp, abs_lookup_oob hq]
        | some o2 => cases o2 with
          | none => simp only [stepM, Spec.stepFx, hp, hq, abs_lookup hp, abs_lookup_none hq]
          | some o =>
            simp only [stepM, Spec.stepFx, hp, hq, abs_lookup hp, abs_lookup hq]
            by_cases hij : i = j
            · simp only [hij, ↓reduceIte]
            · simp only [hij, ↓reduceIte]
              have wt := focusWF hwf hp
              apply SatX.of_sat
              apply (pushTendril_spec_fx L.fixupOK wt (others_mem (Ne.symm hij) hq)).bind
              rintro ⟨h1, t1⟩ ⟨w1, hab, hat⟩
              obtain ⟨a, b⟩ := slot_update hp w1 hab
              refine Sat.ok ⟨a, ?_⟩
              have hvo := hv.get hq
              rcases hat with hat | ⟨hat, _, id, bf, x, y, hbf, hdata⟩
              · simp only [b, hat, L.push_eq _ _ (hv.get hp) hvo]
              · simp only [b, hat, hs id bf hbf x _ _ y hdata (hv.get hp) hvo]
  | tryPopFront i n =>
    refine Refines.slot (fun t hp => ?_)
    have wt := focusWF hwf hp
    apply SatX.bindT (tryPopFront_spec F n wt)
    rintro ⟨h1, t1, e⟩ ⟨w1, hab, heq⟩
    rw [popFront_eq_fx L (hv.get hp)] at heq
    obtain ⟨a, b⟩ := slot_update hp w1 hab
    refine SatX.ok ⟨a, ?_⟩
    simp only [b, ← heq]
  | tryPopBack i n =>
    refine Refines.slot (fun t hp => ?_)
    have wt := focusWF hwf hp
    apply SatX.bindT (tryPopBack_spec F n wt)
    rintro ⟨h1, t1, e⟩ ⟨w1, hab, heq⟩
    rw [popBack_eq_fx L (hv.get hp)] at heq
    obtain ⟨a, b⟩ := slot_update hp w1 hab
    refine SatX.ok ⟨a, ?_⟩
    simp only [b, ← heq]
  | popFront i n =>
    refine Refines.slot (fun t hp => ?_)
    have wt := focusWF hwf hp
    apply SatX.bindT (tryPopFront_spec F n wt)
    rintro ⟨h1, t1, e⟩ ⟨w1, hab, heq⟩
    rw [popFront_eq_fx L (hv.get hp)] at heq
    obtain ⟨a, b⟩ := slot_update hp w1 hab
    have he1 : (Spec.popFront F (abs st.heap t) n).1 = e := (congrArg Prod.fst heq).symm
    have he2 : (Spec.popFront F (abs st.heap t) n).2 = abs h1 t1 := (congrArg Prod.snd heq).symm
    cases e with
    | none => simp only [he1, he2]; exact SatX.ok ⟨a, by simp only [b]⟩
    | some e' => simp only [he1, SatX, mayPanic, Spec.step, abs_lookup hp]
  | popBack i n =>
    refine Refines.slot (fun t hp => ?_)
    have wt := focusWF hwf hp
    apply SatX.bindT (tryPopBack_spec F n wt)
    rintro ⟨h1, t1, e⟩ ⟨w1, hab, heq⟩
    rw [popBack_eq_fx L (hv.get hp)] at heq
    obtain ⟨a, b⟩ := slot_update hp w1 hab
    have he1 : (Spec.popBack F (abs st.heap t) n).1 = e := (congrArg Prod.fst heq).symm
    have he2 : (Spec.popBack F (abs st.heap t) n).2 = abs h1 t1 := (congrArg Prod.snd heq).symm
    cases e with
    | none => simp only [he1, he2]; exact SatX.ok ⟨a, by simp only [b]⟩
    | some e' => simp only [he1, SatX, mayPanic, Spec.step, abs_lookup hp]
  | trySubtendril i j off len =>
    refine Refines.slot (fun t hp => Refines.guard (by rw [absPool_length]) (fun hj => ?_))
    have wt := focusWF hwf hp
    apply SatX.bindT (trySubtendril_spec F off len wt)
    rintro ⟨h1, t1, r⟩ ⟨hab, hat, hr⟩
    simp only at hab hat
    have hp1 : absPool ⟨h1, st.pool.set i (some t1)⟩ = absPool st := by
      rw [absPool_set (some t1) hab]; simp only [Option.map, hat]; exact set_same (abs_lookup hp)
    cases r with
    | inl e =>
      obtain ⟨w1, he, hn⟩ := hr
      rw [sub_eq_inl_fx L (hv.get hp) he hn]
      exact SatX.ok ⟨(slot_update hp w1 hab).1, by simp only [hp1]⟩
    | inr s =>
      obtain ⟨w1, hc, hvs, has⟩ := hr
      rw [sub_eq_inr_fx L (hv.get hp) hc hvs]
      simp only []
      apply SatX.bindT (store_spec (by simpa using hj) (extraWF hp w1))
      rintro st2 ⟨w2, ha2⟩
      exact SatX.ok ⟨w2, by simp only [ha2, hp1, has]⟩
  | subtendril i j off len =>
    refine Refines.slot (fun t hp => Refines.guard (by rw [absPool_length]) (fun hj => ?_))
    have wt := focusWF hwf hp
    apply SatX.bindT (trySubtendril_spec F off len wt)
    rintro ⟨h1, t1, r⟩ ⟨hab, hat, hr⟩
    simp only at hab hat
    have hp1 : absPool ⟨h1, st.pool.set i (some t1)⟩ = absPool st := by
      rw [absPool_set (some t1) hab]; simp only [Option.map, hat]; exact set_same (abs_lookup hp)
    cases r with
    | inl e =>
      obtain ⟨w1, he, hn⟩ := hr
      simp only [SatX, mayPanic, Spec.step, abs_lookup hp, absPool_length, hj, ↓reduceIte,
        sub_eq_inl_fx L (hv.get hp) he hn]
    | inr s =>
      obtain ⟨w1, hc, hvs, has⟩ := hr
      rw [sub_eq_inr_fx L (hv.get hp) hc hvs]
      simp only []
      apply SatX.bindT (store_spec (by simpa using hj) (extraWF hp w1))
      rintro st2 ⟨w2, ha2⟩
      exact SatX.ok ⟨w2, by simp only [ha2, hp1, has]⟩
  | clone i j =>
    refine Refines.slot (fun t hp => Refines.guard (by rw [absPool_length]) (fun hj => ?_))
    have wt := focusWF hwf hp
    apply SatX.bindT (cloneT_spec wt)
    rintro ⟨h1, t1, c⟩ ⟨w1, hab, hat, hac⟩
    simp only at w1 hab hat hac
    have hp1 : absPool ⟨h1, st.pool.set i (some t1)⟩ = absPool st := by
      rw [absPool_set (some t1) (fun u _ => hab u)]; simp only [Option.map, hat]
      exact set_same (abs_lookup hp)
    apply SatX.bindT (store_spec (by simpa using hj) (extraWF hp w1))
    rintro st2 ⟨w2, ha2⟩
    exact SatX.ok ⟨w2, by simp only [ha2, hp1, hac]⟩
  | clear i =>
    refine Refines.slot (fun t hp => ?_)
    have wt := focusWF hwf hp
    apply SatX.bindT (clearT_spec wt)
    rintro ⟨h1, t1⟩ ⟨w1, hab, hat⟩
    obtain ⟨a, b⟩ := slot_update hp w1 hab
    exact SatX.ok ⟨a, by simp only [b, hat]⟩
  | drop i =>
    refine Refines.slot (fun t hp => ?_)
    have wt := focusWF hwf hp
    apply SatX.bindT (dropT_spec wt)
    rintro h1 ⟨w1, hab⟩
    refine SatX.ok ⟨?_, ?_⟩
    · show WF h1 (liveTs (st.pool.set i none))
      rw [liveTs_set_none (lt_of_lookup hp)]; exact w1
    · rw [absPool_set none (fun u _ => hab u)]; rfl
  | popFrontChar i =>
    refine Refines.slot (fun t hp => Refines.guard Iff.rfl (fun hc => ?_))
    have wt := focusWF hwf hp
    have hva := hv.get hp
    obtain ⟨cs, hcs⟩ := Option.isSome_iff_exists.mp (L.chars_total hc _ hva)
    have hb : ∀ p ∈ cs, p.1 ≤ (abs st.heap t).length := fun p hp' => (L.chars_cut _ cs hva hcs p hp').1
    apply SatX.bindT (popFrontChar_spec F wt hcs hb)
    rintro ⟨h1, t1, c⟩ ⟨w1, hab, heq⟩
    obtain ⟨a, b⟩ := slot_update hp w1 hab
    have := popChar_eq heq
    refine SatX.ok ⟨a, ?_⟩
    simp only [b, this]
  | popFrontCharRun i j k =>
    refine Refines.slot (fun t hp => Refines.guard (by rw [absPool_length]) (fun hc => ?_))
    have wt := focusWF hwf hp
    have hva := hv.get hp
    obtain ⟨cs, hcs⟩ := Option.isSome_iff_exists.mp (L.chars_total hc.1 _ hva)
    have hb : ∀ p ∈ cs, p.1 ≤ (abs st.heap t).length := fun p hp' => (L.chars_cut _ cs hva hcs p hp').1
    apply SatX.bindT (popFrontCharRun_spec F (classifier k) wt hcs hb)
    rintro ⟨h1, t1, r⟩ ⟨hab, hr⟩
    simp only at hab
    cases r with
    | none =>
      obtain ⟨w1, heq⟩ := hr
      obtain ⟨a, b⟩ := slot_update hp w1 hab
      have := popRun_eq heq
      refine SatX.ok ⟨a, ?_⟩
      simp only [b, this]
    | some sc =>
      obtain ⟨s, cls⟩ := sc
      obtain ⟨w1, heq⟩ := hr
      have := popRun_eq heq
      simp only [this]
      apply SatX.bindT (store_spec (by simpa using hc.2.1) (extraWF hp w1))
      rintro st2 ⟨w2, ha2⟩
      refine SatX.ok ⟨w2, ?_⟩
      simp only [ha2]
      rw [absPool_set (some t1) hab]
      rfl
  | sendRoundTrip i =>
    refine Refines.slot (fun t hp => ?_)
    have wt := focusWF hwf hp
    apply SatX.of_sat
    apply (makeOwned_spec wt).bind
    rintro ⟨h1, t1⟩ ⟨w1, hab, hat, _⟩
    obtain ⟨a, b⟩ := slot_update hp w1 hab
    refine Sat.ok ⟨a, ?_⟩
    simp only [b, hat]; rw [set_same (abs_lookup hp)]
  | reserve i n =>
    refine Refines.slot (fun t hp => ?_)
    have wt := focusWF hwf hp
    apply SatX.of_sat
    apply (reserveT_spec n wt).bind
    rintro ⟨h1, t1⟩ ⟨w1, hab, hat⟩
    obtain ⟨a, b⟩ := slot_update hp w1 hab
    refine Sat.ok ⟨a, ?_⟩
    simp only [b, hat]; rw [set_same (abs_lookup hp)]
  | withCapacity i n =>
    by_cases hi : i < st.pool.length
    · simp only [stepM, Spec.stepFx, Spec.step, absPool_length, hi, ↓reduceIte]
      apply SatX.of_sat
      apply (withCapacity_spec n hwf).bind
      rintro ⟨h1, t1⟩ ⟨w1, hab, hat⟩
      simp only at w1 hab hat
      apply (store_spec (st := ⟨h1, st.pool⟩) hi w1).sat.bind
      rintro st' ⟨w, ha⟩
      refine Sat.ok ⟨w, ?_⟩
      simp only [ha, hat]
      rw [absPool_heap (st := st) hab]
    · simp only [stepM, Spec.stepFx, Spec.step, absPool_length, hi, ↓reduceIte]
  | setByte i k v =>
    refine Refines.slot (fun t hp => ?_)
    have wt := focusWF hwf hp
    have hlen := abs_length (wt.twf t (List.mem_cons_self ..))
    apply SatX.of_sat
    apply (derefMut_spec wt).bind
    rintro ⟨h1, t1⟩ ⟨w1, hab, hat, hl1, hns⟩
    simp only at w1 hab hat hl1 hns
    obtain ⟨a, b⟩ := slot_update hp w1 hab
    rw [hlen, ← hl1]
    by_cases hk : k < t1.len32
    · simp only [hk, ↓reduceIte]
      apply (storeByte_spec k v w1 hns hk).sat.bind
      rintro ⟨h2, t2⟩ ⟨w2, hab2, hat2⟩
      simp only at w2 hab2 hat2
      have hp1 : (St.mk h1 (st.pool.set i (some t1))).pool[i]? = some (some t1) := by
        simp [lt_of_lookup hp]
      have w2' : WF h2 (t2 :: others (St.mk h1 (st.pool.set i (some t1))).pool i) := by
        simp only [others_set]; exact w2
      have hab2' : ∀ u ∈ others (St.mk h1 (st.pool.set i (some t1))).pool i,
          abs h2 u = abs (St.mk h1 (st.pool.set i (some t1))).heap u := by
        simp only [others_set]; exact hab2
      obtain ⟨a2, b2⟩ := slot_update hp1 w2' hab2'
      refine Sat.ok ⟨a2, ?_⟩
      simp only [List.set_set] at b2 ⊢
      simp only [b2, b, List.set_set, hat2, hat]
    · simp only [hk, ↓reduceIte]
      refine Sat.ok ⟨a, ?_⟩
      simp only [b, hat]; rw [set_same (abs_lookup hp)]

/-! ## the main theorems -/

theorem outOfErr_ne_ub (e : Option SubErr) (s : String) : outOfErr e ≠ .ub s := by
  cases e with
  | none => simp [outOfErr]
  | some e => cases e <;> simp [outOfErr]

/-- the specification has no notion of undefined behaviour -/
theorem Spec.step_ne_ub (F : Format) (p : APool) (op : Op) (s : String) : (Spec.step F p op).2 ≠ .ub s := by
  cases op <;> simp only [Spec.step] <;> (repeat' split) <;>
    first
    | exact outOfErr_ne_ub _ _
    | (intro h; cases h)

/-- the specification has no notion of undefined behaviour -/
theorem Spec.stepFx_ne_ub (F : Format) (cat : List UInt8 → List UInt8 → List UInt8) (p : APool) (op : Op)
    (s : String) : (Spec.stepFx F cat p op).2 ≠ .ub s := by
  cases op <;> simp only [Spec.stepFx] <;>
    first
    | exact Spec.step_ne_ub F p _ s
    | ((repeat' split) <;> (intro h; cases h))

/-- **Refinement, one step**, for a format with a concatenation fix-up: as `C11_step_refines`, with
the push operations of the specification concatenating with `cat`, from a state in whose buffers
adjacent valid parts need no fix-up (`SeamOK`). -/
theorem C11_step_refines_seam (F : Format) (cat : List UInt8 → List UInt8 → List UInt8) (L : LawsFx F cat)
    (st : St) (op : Op) (hwf : StWF st) (hv : AValid F (absPool st)) (hs : SeamOK F cat st.heap) :
    StWF (step F st op).1 ∧ (∀ s, (step F st op).2 ≠ .ub s) ∧
    ((absPool (step F st op).1, (step F st op).2) = Spec.stepFx F cat (absPool st) op ∨
      ((step F st op).2 = .panic ∧ (step F st op).1 = st ∧ mayPanic F (absPool st) op)) := by
  have h := stepM_spec_fx F cat L st op hwf hv hs
  unfold step
  cases hm : stepM F st op with
  | none =>
    rw [hm] at h
    exact ⟨hwf, by simp, Or.inl h.symm⟩
  | some m =>
    rw [hm] at h
    cases m with
    | ok r =>
      refine ⟨h.1, ?_, Or.inl h.2⟩
      intro s
      have := Spec.stepFx_ne_ub F cat (absPool st) op s
      rw [← h.2] at this
      exact this
    | error e =>
      cases e with
      | panic s => exact ⟨hwf, by simp, Or.inr ⟨rfl, rfl, h⟩⟩
      | ub s => exact h.elim

/-- **Refinement, one step.**  From any well-formed state with valid contents, one operation of the
model leaves a well-formed state, never reaches undefined behaviour, and either acts on the
abstract pool exactly as the owned-string specification does, or panics — leaving the state
unchanged — under the condition `mayPanic` (`False` for the checked and non-allocating
operations, "the specification panics too" for the `unwrap` variants, `True` for operations that
can hit the `OFLOW` guard). -/
theorem C11_step_refines (F : Format) (L : Laws F) (st : St) (op : Op) (hwf : StWF st)
    (hv : AValid F (absPool st)) :
    StWF (step F st op).1 ∧ (∀ s, (step F st op).2 ≠ .ub s) ∧
    ((absPool (step F st op).1, (step F st op).2) = Spec.step F (absPool st) op ∨
      ((step F st op).2 = .panic ∧ (step F st op).1 = st ∧ mayPanic F (absPool st) op)) := by
  simpa only [Spec.stepFx_append] using
    C11_step_refines_seam F _ L.toLawsFx st op hwf hv (SeamOK.append F _)

/-! ### contents stay valid for the format -/

theorem AValid.set {F : Format} {p : APool} {i : Nat} {x : List UInt8} (hv : AValid F p)
    (hx : F.validate x = true) : AValid F (p.set i (some x)) := by
  intro j a hj
  by_cases hji : j = i
  · subst hji
    by_cases hlt : j < p.length
    · rw [List.getElem?_set_self hlt] at hj; cases hj; exact hx
    · rw [List.getElem?_eq_none (by simpa using hlt)] at hj; cases hj
  · rw [List.getElem?_set_ne (Ne.symm hji)] at hj; exact hv j a hj

theorem AValid.set_none {F : Format} {p : APool} {i : Nat} (hv : AValid F p) : AValid F (p.set i none) := by
  intro j a hj
  by_cases hji : j = i
  · subst hji
    by_cases hlt : j < p.length
    · rw [List.getElem?_set_self hlt] at hj; cases hj
    · rw [List.getElem?_eq_none (by simpa using hlt)] at hj; cases hj
  · rw [List.getElem?_set_ne (Ne.symm hji)] at hj; exact hv j a hj

theorem Spec.popFront_valid {F : Format} {a : List UInt8} (ha : F.validate a = true) (n : Nat) :
    F.validate (Spec.popFront F a n).2 = true := by
  unfold Spec.popFront
  split
  · exact ha
  · split
    · exact ha
    · split
      · assumption
      · exact ha

theorem Spec.popBack_valid {F : Format} {a : List UInt8} (ha : F.validate a = true) (n : Nat) :
    F.validate (Spec.popBack F a n).2 = true := by
  unfold Spec.popBack
  split
  · exact ha
  · split
    · exact ha
    · split
      · assumption
      · exact ha

theorem Spec.sub_valid {F : Format} {a s : List UInt8} {off len : Nat} (h : Spec.sub F a off len = .inr s) :
    F.validate s = true := by
  unfold Spec.sub at h
  split at h
  · cases h
  · split at h
    · cases h; assumption
    · cases h


theorem Spec.popChar_valid_fx {F : Format} {cat : List UInt8 → List UInt8 → List UInt8} (L : LawsFx F cat) {a : List UInt8} (ha : F.validate a = true) :
    F.validate (Spec.popChar F a).2 = true := by
  unfold Spec.popChar
  cases hc : F.charIndices a with
  | none => exact L.valid_nil
  | some cs =>
    match cs, hc with
    | [], _ => exact L.valid_nil
    | [(_, c)], _ => exact L.valid_nil
    | (i, c) :: (n, c2) :: more, hc =>
      simp only []
      split
      · exact L.valid_nil
      · exact (L.chars_cut a _ ha hc (n, c2) (by simp)).2.2

theorem Spec.popRun_valid_fx {F : Format} {cat : List UInt8 → List UInt8 → List UInt8} (L : LawsFx F cat) (cl : Nat → Nat) {a : List UInt8}
    (ha : F.validate a = true) :
    F.validate (Spec.popRun F cl a).2 = true ∧
      ∀ r c, (Spec.popRun F cl a).1 = some (r, c) → F.validate r = true := by
  unfold Spec.popRun
  cases hc : F.charIndices a with
  | none => exact ⟨ha, by intro r c h; cases h⟩
  | some cs =>
    match cs, hc with
    | [], _ => exact ⟨ha, by intro r c h; cases h⟩
    | (i, first) :: more, hc =>
      simp only []
      cases hf : more.find? (fun p => cl p.2 != cl first) with
      | none => exact ⟨L.valid_nil, by intro r c h; cases h; exact ha⟩
      | some p =>
        obtain ⟨idx, c2⟩ := p
        have hmem : (idx, c2) ∈ (i, first) :: more := List.mem_cons_of_mem _ (List.mem_of_find?_eq_some hf)
        have := L.chars_cut a _ ha hc (idx, c2) hmem
        exact ⟨this.2.2, by intro r c h; cases h; exact this.2.1⟩
/-- **Format validity.**  The specification keeps every slot valid for the format. -/
theorem C11_format_valid_fx (F : Format) (cat : List UInt8 → List UInt8 → List UInt8) (L : LawsFx F cat)
    (p : APool) (op : Op) (hv : AValid F p)
    (hset : ∀ i k v, op = .setByte i k v → ∀ l, F.validate l = true) :
    AValid F (Spec.stepFx F cat p op).1 := by
  have hget : ∀ {i a}, p[i]? = some (some a) → F.validate a = true := fun h => hv _ _ h
  cases op with
  | new i => simp only [Spec.stepFx, Spec.step]; split; exact hv.set L.valid_nil; exact hv
  | fromBytes i bs =>
    simp only [Spec.stepFx, Spec.step]; split
    · split
      · exact hv.set (by assumption)
      · exact hv
    · exact hv
  | pushBytes i bs =>
    simp only [Spec.stepFx]; split
    · rename_i a ha
      split
      · exact hv.set (L.valid_cat _ _ (hget ha) (by assumption))
      · exact hv
    · exact hv
  | pushChar i c =>
    simp only [Spec.stepFx]; split
    · rename_i a ha
      split
      · rename_i bs hb
        exact hv.set (L.valid_cat _ _ (hget ha) (L.encode_valid c bs hb))
      · exact hv
    · exact hv
  | pushTendril i j =>
    simp only [Spec.stepFx]; split
    · rename_i a b ha hb
      split
      · exact hv
      · exact hv.set (L.valid_cat _ _ (hget ha) (hget hb))
    · exact hv
  | tryPopFront i n =>
    simp only [Spec.stepFx, Spec.step]; split
    · rename_i a ha; exact hv.set (Spec.popFront_valid (hget ha) n)
    · exact hv
  | tryPopBack i n =>
    simp only [Spec.stepFx, Spec.step]; split
    · rename_i a ha; exact hv.set (Spec.popBack_valid (hget ha) n)
    · exact hv
  | popFront i n =>
    simp only [Spec.stepFx, Spec.step]; split
    · rename_i a ha
      split
      · exact hv.set (Spec.popFront_valid (hget ha) n)
      · exact hv
    · exact hv
  | popBack i n =>
    simp only [Spec.stepFx, Spec.step]; split
    · rename_i a ha
      split
      · exact hv.set (Spec.popBack_valid (hget ha) n)
      · exact hv
    · exact hv
  | trySubtendril i j off len =>
    simp only [Spec.stepFx, Spec.step]; split
    · split
      · split
        · exact hv
        · rename_i s hs; exact hv.set (Spec.sub_valid hs)
      · exact hv
    · exact hv
  | subtendril i j off len =>
    simp only [Spec.stepFx, Spec.step]; split
    · split
      · split
        · exact hv
        · rename_i s hs; exact hv.set (Spec.sub_valid hs)
      · exact hv
    · exact hv
  | clone i j =>
    simp only [Spec.stepFx, Spec.step]; split
    · rename_i a ha
      split
      · exact hv.set (hget ha)
      · exact hv
    · exact hv
  | clear i => simp only [Spec.stepFx, Spec.step]; split; exact hv.set L.valid_nil; exact hv
  | drop i => simp only [Spec.stepFx, Spec.step]; split; exact hv.set_none; exact hv
  | popFrontChar i =>
    simp only [Spec.stepFx, Spec.step]; split
    · rename_i a ha
      split
      · exact hv.set (Spec.popChar_valid_fx L (hget ha))
      · exact hv
    · exact hv
  | popFrontCharRun i j k =>
    simp only [Spec.stepFx, Spec.step]; split
    · rename_i a ha
      have := Spec.popRun_valid_fx L (classifier k) (hget ha)
      split
      · split
        · exact hv.set this.1
        · rename_i r cls hr
          exact (hv.set this.1).set (this.2 r cls hr)
      · exact hv
    · exact hv
  | sendRoundTrip i => simp only [Spec.stepFx, Spec.step]; split <;> exact hv
  | reserve i n => simp only [Spec.stepFx, Spec.step]; split <;> exact hv
  | withCapacity i n => simp only [Spec.stepFx, Spec.step]; split; exact hv.set L.valid_nil; exact hv
  | setByte i k v =>
    simp only [Spec.stepFx, Spec.step]; split
    · split
      · exact hv.set (hset i k v rfl _)
      · exact hv
    · exact hv

/-- **Format validity.**  The specification keeps every slot valid for the format: pushes are
validated, pops and slices are taken only where the result is valid.  (A `DerefMut` byte store is
only offered for formats whose every byte string is valid — `Bytes`.) -/
theorem C11_format_valid (F : Format) (L : Laws F) (p : APool) (op : Op) (hv : AValid F p)
    (hset : ∀ i k v, op = .setByte i k v → ∀ l, F.validate l = true) :
    AValid F (Spec.step F p op).1 := by
  simpa only [Spec.stepFx_append] using C11_format_valid_fx F _ L.toLawsFx p op hv hset

/-! ### all histories -/

/-- no `DerefMut` byte stores unless every byte string is valid for the format -/
def StoresOK (F : Format) (ops : List Op) : Prop :=
  ∀ op ∈ ops, ∀ i k v, op = .setByte i k v → ∀ l, F.validate l = true

/-- **Refinement, all histories** (induction over the history).  After any history from a
well-formed state with valid contents the state is well-formed, the contents are valid for the
format, and the abstract pool is what the owned-string specification computes for the same history
with the operations deleted on which the model panicked without the specification panicking
(`OFLOW`; those leave the model state unchanged). -/
theorem C11_run_refines (F : Format) (L : Laws F) (ops : List Op) (st : St) (hwf : StWF st)
    (hv : AValid F (absPool st)) (hs : StoresOK F ops) :
    StWF (run F st ops) ∧ AValid F (absPool (run F st ops)) ∧
    ∃ ops', ops'.Sublist ops ∧ absPool (run F st ops) = Spec.run F (absPool st) ops' := by
  induction ops generalizing st with
  | nil => exact ⟨hwf, hv, [], List.Sublist.slnil, rfl⟩
  | cons op ops ih =>
    have hs' : StoresOK F ops := fun o ho => hs o (List.mem_cons_of_mem _ ho)
    obtain ⟨w1, _, h1⟩ := C11_step_refines F L st op hwf hv
    simp only [run, List.foldl_cons]
    rcases h1 with h1 | ⟨_, h1, _⟩
    · have hv1 : AValid F (absPool (step F st op).1) := by
        have := C11_format_valid F L (absPool st) op hv (hs op (List.mem_cons_self ..))
        rw [← h1] at this; exact this
      obtain ⟨w2, hv2, ops', hsub, he⟩ := ih (step F st op).1 w1 hv1 hs'
      refine ⟨w2, hv2, op :: ops', hsub.cons_cons op, ?_⟩
      simp only [run] at he
      rw [he]
      simp only [Spec.run, List.foldl_cons, ← h1]
    · rw [h1]
      obtain ⟨w2, hv2, ops', hsub, he⟩ := ih st hwf hv hs'
      exact ⟨w2, hv2, ops', hsub.cons op, he⟩

theorem liveTs_replicate (n : Nat) : liveTs (List.replicate n none) = [] := by
  induction n with
  | zero => rfl
  | succ n ih => simp [List.replicate_succ, liveTs, ih]

/-- **Reachable states.**  Every state reachable from the empty pool is well-formed and holds
valid contents. -/
theorem C11_reachable_wf (F : Format) (L : Laws F) (slots : Nat) (ops : List Op) (hs : StoresOK F ops) :
    StWF (run F (St.init slots) ops) ∧ AValid F (absPool (run F (St.init slots) ops)) := by
  have hwf : StWF (St.init slots) := by
    show WF Heap.empty (liveTs (List.replicate slots none))
    rw [liveTs_replicate]; exact WF.empty
  have hv : AValid F (absPool (St.init slots)) := by
    intro i a hi
    simp [absPool, St.init, List.getElem?_replicate] at hi
  obtain ⟨a, b, _⟩ := C11_run_refines F L ops (St.init slots) hwf hv hs
  exact ⟨a, b⟩

/-! ### independence -/

/-- the slots an operation may change -/
def targets : Op → List Nat
  | .new i | .fromBytes i _ | .pushBytes i _ | .pushChar i _ | .pushTendril i _ | .popFront i _
  | .popBack i _ | .tryPopFront i _ | .tryPopBack i _ | .clear i | .drop i | .popFrontChar i
  | .sendRoundTrip i | .reserve i _ | .withCapacity i _ | .setByte i _ _ => [i]
  | .subtendril _ j _ _ | .trySubtendril _ j _ _ | .clone _ j => [j]
  | .popFrontCharRun i j _ => [i, j]

theorem Spec.step_frame (F : Format) (p : APool) (op : Op) (m : Nat) (hm : m ∉ targets op) :
    (Spec.step F p op).1[m]? = p[m]? := by
  cases op <;> simp only [targets, List.mem_cons, List.mem_nil_iff, or_false, not_or] at hm <;>
    simp only [Spec.step] <;> (repeat' split) <;>
    first
    | rfl
    | (rw [List.getElem?_set_ne (Ne.symm hm)])
    | (rw [List.getElem?_set_ne (Ne.symm hm.2), List.getElem?_set_ne (Ne.symm hm.1)])
    | (rw [List.getElem?_set_ne (Ne.symm hm.1)])

/-- **Independence.**  An operation changes at most its target slot(s): every other tendril of the
pool denotes exactly the same bytes afterwards, however the buffers are shared. -/
theorem C11_independent (F : Format) (L : Laws F) (st : St) (op : Op) (hwf : StWF st)
    (hv : AValid F (absPool st)) (m : Nat) (hm : m ∉ targets op) :
    (absPool (step F st op).1)[m]? = (absPool st)[m]? := by
  obtain ⟨_, _, h⟩ := C11_step_refines F L st op hwf hv
  rcases h with h | ⟨_, h, _⟩
  · have := Spec.step_frame F (absPool st) op m hm
    rw [← h] at this; exact this
  · rw [h]

/-! ### checked operations fail exactly when the specification says so -/

/-- when the bounds / validity check of `try_pop_front` on a string `a` answers what -/
theorem Spec.popFront_cases (F : Format) (a : List UInt8) (n : Nat) :
    ((Spec.popFront F a n).1 = some .outOfBounds ↔ n ≠ 0 ∧ n > a.length) ∧
    ((Spec.popFront F a n).1 = some .validationFailed ↔
      n ≠ 0 ∧ n ≤ a.length ∧ F.validate (a.drop n) = false) ∧
    ((Spec.popFront F a n).1 = none ↔ n = 0 ∨ (n ≤ a.length ∧ F.validate (a.drop n) = true)) ∧
    ((Spec.popFront F a n).2 = if (Spec.popFront F a n).1 = none then a.drop n else a) := by
  unfold Spec.popFront
  by_cases h0 : n = 0
  · subst h0; simp
  · by_cases h1 : n > a.length
    · simp [h0, h1]; omega
    · cases h2 : F.validate (a.drop n) <;> simp [h0, h1, h2] <;> omega

theorem Spec.popBack_cases (F : Format) (a : List UInt8) (n : Nat) :
    ((Spec.popBack F a n).1 = some .outOfBounds ↔ n ≠ 0 ∧ n > a.length) ∧
    ((Spec.popBack F a n).1 = some .validationFailed ↔
      n ≠ 0 ∧ n ≤ a.length ∧ F.validate (a.take (a.length - n)) = false) ∧
    ((Spec.popBack F a n).1 = none ↔
      n = 0 ∨ (n ≤ a.length ∧ F.validate (a.take (a.length - n)) = true)) ∧
    ((Spec.popBack F a n).2 = if (Spec.popBack F a n).1 = none then a.take (a.length - n) else a) := by
  unfold Spec.popBack
  by_cases h0 : n = 0
  · subst h0; simp
  · by_cases h1 : n > a.length
    · simp [h0, h1]; omega
    · cases h2 : F.validate (a.take (a.length - n)) <;> simp [h0, h1, h2] <;> omega

/-- **`try_pop_front`** never panics and answers exactly as the bounds / validity analysis of the
owned string: `Err(OutOfBounds)` iff `n` exceeds the length, `Err(ValidationFailed)` iff the
remainder would not be valid for the format, otherwise the first `n` bytes are gone; on `Err` the
tendril is unchanged. -/
theorem C11_checked_pop_front (F : Format) (L : Laws F) (st : St) (i n : Nat) (t : T) (hwf : StWF st)
    (hv : AValid F (absPool st)) (hp : st.pool[i]? = some (some t)) :
    (step F st (.tryPopFront i n)).2 = outOfErr (Spec.popFront F (abs st.heap t) n).1 ∧
    (absPool (step F st (.tryPopFront i n)).1)[i]? = some (some (Spec.popFront F (abs st.heap t) n).2) := by
  obtain ⟨_, _, h⟩ := C11_step_refines F L st (.tryPopFront i n) hwf hv
  rcases h with h | ⟨_, _, h⟩
  · simp only [Spec.step, abs_lookup hp] at h
    have h1 := congrArg Prod.fst h
    have h2 := congrArg Prod.snd h
    simp only at h1 h2
    refine ⟨h2, ?_⟩
    rw [h1, List.getElem?_set_self (by rw [absPool_length]; exact lt_of_lookup hp)]
  · exact h.elim

/-- **`try_pop_back`**, likewise. -/
theorem C11_checked_pop_back (F : Format) (L : Laws F) (st : St) (i n : Nat) (t : T) (hwf : StWF st)
    (hv : AValid F (absPool st)) (hp : st.pool[i]? = some (some t)) :
    (step F st (.tryPopBack i n)).2 = outOfErr (Spec.popBack F (abs st.heap t) n).1 ∧
    (absPool (step F st (.tryPopBack i n)).1)[i]? = some (some (Spec.popBack F (abs st.heap t) n).2) := by
  obtain ⟨_, _, h⟩ := C11_step_refines F L st (.tryPopBack i n) hwf hv
  rcases h with h | ⟨_, _, h⟩
  · simp only [Spec.step, abs_lookup hp] at h
    have h1 := congrArg Prod.fst h
    have h2 := congrArg Prod.snd h
    simp only at h1 h2
    refine ⟨h2, ?_⟩
    rw [h1, List.getElem?_set_self (by rw [absPool_length]; exact lt_of_lookup hp)]
  · exact h.elim

/-- **`try_subtendril`** never panics; `Err(OutOfBounds)` iff the range does not fit,
`Err(ValidationFailed)` iff the slice is not valid for the format, otherwise slot `j` receives
exactly the slice; the source keeps its bytes. -/
theorem C11_checked_subtendril (F : Format) (L : Laws F) (st : St) (i j off len : Nat) (t : T)
    (hwf : StWF st) (hv : AValid F (absPool st)) (hp : st.pool[i]? = some (some t))
    (hj : j < st.pool.length) :
    match Spec.sub F (abs st.heap t) off len with
    | .inl e => (step F st (.trySubtendril i j off len)).2 = outOfErr (some e) ∧
        absPool (step F st (.trySubtendril i j off len)).1 = absPool st
    | .inr s => (step F st (.trySubtendril i j off len)).2 = .ok ∧
        absPool (step F st (.trySubtendril i j off len)).1 = (absPool st).set j (some s) := by
  obtain ⟨_, _, h⟩ := C11_step_refines F L st (.trySubtendril i j off len) hwf hv
  rcases h with h | ⟨_, _, h⟩
  · simp only [Spec.step, abs_lookup hp, absPool_length, hj, ↓reduceIte] at h
    cases hs : Spec.sub F (abs st.heap t) off len with
    | inl e => rw [hs] at h; simp only at h; exact ⟨congrArg Prod.snd h, congrArg Prod.fst h⟩
    | inr s => rw [hs] at h; simp only at h; exact ⟨congrArg Prod.snd h, congrArg Prod.fst h⟩
  · exact h.elim

theorem Spec.sub_cases (F : Format) (a : List UInt8) (off len : Nat) :
    (Spec.sub F a off len = .inl .outOfBounds ↔ off > a.length ∨ len > a.length - off) ∧
    (Spec.sub F a off len = .inl .validationFailed ↔
      ¬ (off > a.length ∨ len > a.length - off) ∧ F.validate ((a.drop off).take len) = false) ∧
    (∀ s, Spec.sub F a off len = .inr s ↔
      ¬ (off > a.length ∨ len > a.length - off) ∧ F.validate ((a.drop off).take len) = true ∧
        s = (a.drop off).take len) := by
  unfold Spec.sub
  by_cases h1 : off > a.length ∨ len > a.length - off
  · simp [h1]
  · cases h2 : F.validate ((a.drop off).take len) <;> simp [h1, h2]
    intro s; exact eq_comm

/-- **checked push.**  `try_push_bytes` answers `Err` iff the bytes are not valid for the format;
then nothing changes; otherwise (short of the `OFLOW` panic) the tendril is the concatenation. -/
theorem C11_push_checked (F : Format) (L : Laws F) (st : St) (i : Nat) (bs : List UInt8) (t : T)
    (hwf : StWF st) (hv : AValid F (absPool st)) (hp : st.pool[i]? = some (some t)) :
    (F.validate bs = false →
      (step F st (.pushBytes i bs)).2 = .err ∧ absPool (step F st (.pushBytes i bs)).1 = absPool st) ∧
    (F.validate bs = true →
      ((step F st (.pushBytes i bs)).2 = .ok ∧
        absPool (step F st (.pushBytes i bs)).1 = (absPool st).set i (some (abs st.heap t ++ bs))) ∨
      ((step F st (.pushBytes i bs)).2 = .panic ∧ (step F st (.pushBytes i bs)).1 = st)) := by
  obtain ⟨_, _, h⟩ := C11_step_refines F L st (.pushBytes i bs) hwf hv
  constructor
  · intro hb
    rcases h with h | ⟨h1, h2, _⟩
    · simp only [Spec.step, abs_lookup hp, hb, Bool.false_eq_true, ↓reduceIte] at h
      exact ⟨congrArg Prod.snd h, congrArg Prod.fst h⟩
    · -- a panic is impossible: invalid bytes are rejected before anything is touched
      exfalso
      unfold step at h1
      simp only [stepM, hp, hb, Bool.false_eq_true, ↓reduceIte] at h1
      cases h1
  · intro hb
    rcases h with h | ⟨h1, h2, _⟩
    · simp only [Spec.step, abs_lookup hp, hb, ↓reduceIte] at h
      exact Or.inl ⟨congrArg Prod.snd h, congrArg Prod.fst h⟩
    · exact Or.inr ⟨h1, h2⟩

/-- **No undefined behaviour.**  No operation on a reachable state is a wild / dangling / out of
bounds access in the model (every raw access of `tendril.rs` is a checked primitive there). -/
theorem C11_no_ub (F : Format) (L : Laws F) (slots : Nat) (ops : List Op) (hs : StoresOK F ops) (op : Op)
    (s : String) : (step F (run F (St.init slots) ops) op).2 ≠ .ub s := by
  obtain ⟨hwf, hv⟩ := C11_reachable_wf F L slots ops hs
  exact (C11_step_refines F L _ op hwf hv).2.1 s

/-! ## the formats -/

theorem laws_bytes : Laws Format.bytes where
  noFixup _ _ := rfl
  valid_nil := rfl
  valid_append _ _ _ _ := rfl
  suffix_exact _ _ _ := rfl
  prefix_exact _ _ _ := rfl
  subseq_exact _ _ _ _ := rfl
  encode_valid _ _ _ := rfl
  chars_total h := by simp [Format.bytes] at h
  chars_cut _ _ _ h := by simp [Format.bytes] at h

theorem mem_singleByteIndices {l : List UInt8} {p : Nat × Nat} (h : p ∈ singleByteIndices l) :
    p.1 < l.length := by
  unfold singleByteIndices at h
  have := (List.of_mem_zip h).1
  simpa using this

theorem laws_latin1 : Laws Format.latin1 where
  noFixup _ _ := rfl
  valid_nil := rfl
  valid_append _ _ _ _ := rfl
  suffix_exact _ _ _ := rfl
  prefix_exact _ _ _ := rfl
  subseq_exact _ _ _ _ := rfl
  encode_valid _ _ _ := rfl
  chars_total _ _ _ := rfl
  chars_cut a cs _ h p hp := by
    simp only [Format.latin1, Option.some.injEq] at h
    subst h
    exact ⟨Nat.le_of_lt (mem_singleByteIndices hp), rfl, rfl⟩

theorem ascii_valid_append (a b : List UInt8) :
    Format.ascii.validate (a ++ b) = (Format.ascii.validate a && Format.ascii.validate b) := by
  simp [Format.ascii, List.all_append]

theorem laws_ascii : Laws Format.ascii where
  noFixup _ _ := rfl
  valid_nil := rfl
  valid_append a b ha hb := by rw [ascii_valid_append, ha, hb]; rfl
  suffix_exact a b h := by
    rw [ascii_valid_append, Bool.and_eq_true] at h
    rw [h.2]; rfl
  prefix_exact a b h := by
    rw [ascii_valid_append, Bool.and_eq_true] at h
    rw [h.1]; rfl
  subseq_exact a b c h := by
    rw [ascii_valid_append, ascii_valid_append, Bool.and_eq_true, Bool.and_eq_true] at h
    rw [h.2.1]; rfl
  encode_valid c bs h := by
    simp only [Format.ascii] at h
    split at h
    · cases h
    · cases h
      simp only [Format.ascii, List.all_cons, List.all_nil, Bool.and_true, decide_eq_true_eq]
      rename_i hc
      have : c < 256 := by omega
      simp [Nat.mod_eq_of_lt this]
      omega
  chars_total _ _ _ := rfl
  chars_cut a cs hv h p hp := by
    simp only [Format.ascii, Option.some.injEq] at h
    subst h
    have := ascii_valid_append (a.take p.1) (a.drop p.1)
    rw [List.take_append_drop, hv] at this
    have := (Bool.and_eq_true _ _).mp this.symm
    exact ⟨Nat.le_of_lt (mem_singleByteIndices hp), this.1, this.2⟩

/-! ### the model only panics where the specification does, below 2 GiB -/

/-- length of the tendril in slot `i` (0 for an empty slot) -/
def slotLen (st : St) (i : Nat) : Nat :=
  match st.pool[i]? with
  | some (some t) => t.len32
  | _ => 0

/-- the sizes an operation involves stay below 2^30 (so sums stay below 2^31) -/
def Small (F : Format) (st : St) : Op → Prop
  | .fromBytes _ bs => bs.length ≤ 1073741824
  | .pushBytes i bs => bs.length ≤ 1073741824 ∧ slotLen st i ≤ 1073741824
  | .pushChar i c => (∀ bs, F.encodeChar c = some bs → bs.length ≤ 1073741824) ∧ slotLen st i ≤ 1073741824
  | .pushTendril i j => slotLen st i ≤ 1073741824 ∧ slotLen st j ≤ 1073741824
  | .sendRoundTrip i => slotLen st i ≤ 1073741824
  | .setByte i _ _ => slotLen st i ≤ 1073741824
  | .reserve i n => slotLen st i ≤ 1073741824 ∧ n ≤ 1073741824
  | .withCapacity _ n => n ≤ 1073741824
  | _ => True

theorem slotLen_eq {st : St} {i : Nat} {t : T} (hp : st.pool[i]? = some (some t)) : slotLen st i = t.len32 := by
  simp [slotLen, hp]

theorem np_store {st : St} {j : Nat} {s : T} (hj : j < st.pool.length)
    (w : WF st.heap (s :: liveTs st.pool)) : NP (store st j s) :=
  NP.of_satT (store_spec hj w)

/-- the operations that can reach an `OFLOW` guard or a length assert -/
def oflowOp : Op → Bool
  | .fromBytes .. | .pushBytes .. | .pushChar .. | .pushTendril .. | .sendRoundTrip _ | .reserve ..
  | .withCapacity .. | .setByte .. => true
  | _ => false

/-- the fix-up inserts at most as many bytes as it drops -/
def FixupSmall (F : Format) : Prop :=
  ∀ a b, (F.fixup a b).insert.length ≤ (F.fixup a b).dropLeft + (F.fixup a b).dropRight

theorem Laws.fixupSmall {F : Format} (L : Laws F) : FixupSmall F := by
  intro a b; rw [L.noFixup]; exact Nat.zero_le _

theorem np_mkInline (x : List UInt8) (s : String) : NP (mkInline x s) := by
  unfold mkInline; split
  · exact NP.ok
  · exact NP.ub

theorem np_pushBytesUnchecked_fx {F : Format} (hF : FixupOK F) (hI : FixupSmall F) {h : Heap} {t : T}
    {rest : List T} (buf : List UInt8) (w : WF h (t :: rest))
    (hs1 : t.len32 ≤ 1073741824) (hs2 : buf.length ≤ 1073741824) : NP (pushBytesUnchecked F h t buf) := by
  have hlen := abs_length (w.twf t (List.mem_cons_self ..))
  obtain ⟨hdl, hdr⟩ := hF (abs h t) buf
  have hi := hI (abs h t) buf
  unfold pushBytesUnchecked
  simp only [bind, Except.bind]
  apply NP.ite_panic (by omega)
  rw [asByteSlice_head w]
  simp only []
  generalize hfx : F.fixup (abs h t) buf = fx at hdl hdr hi ⊢
  apply NP.ite_panic (by omega)
  apply NP.ite_panic (by omega)
  apply NP.ite_panic (by omega)
  apply NP.ite_panic (by omega)
  apply NP.ite_ub
  split
  · apply NP.ite_ub
    cases hm : mkInline (List.take (t.len32 + fx.insert.length - fx.dropLeft + buf.length - fx.dropRight)
        (List.take ((abs h t).length - fx.dropLeft) (abs h t) ++ fx.insert ++ List.drop fx.dropRight buf))
        "push_bytes" with
    | error e =>
      have := np_mkInline (List.take (t.len32 + fx.insert.length - fx.dropLeft + buf.length - fx.dropRight)
        (List.take ((abs h t).length - fx.dropLeft) (abs h t) ++ fx.insert ++ List.drop fx.dropRight buf))
        "push_bytes"
      rw [hm] at this
      intro s hse; cases hse; exact this s rfl
    | ok t' =>
      simp only []
      apply NP.bind (NP.of_satT (dropT_spec w))
      intro h1 _
      exact NP.ok
  · apply NP.bind (np_makeOwnedWithCapacity _ w (by omega) (by omega))
    rintro ⟨h1, t1⟩ he
    obtain ⟨w1, _, _, id, c, ht1, hge⟩ := (makeOwnedWithCapacity_spec _ w).of_ok he
    simp only at w1 ht1 hge
    subst ht1
    simp only []
    apply NP.ite_ub
    obtain ⟨b, hb, hl, hc, hlen1, hok, hrc, hr0⟩ := w1.owned_head
    rw [write_ok _ hb hl (by omega) (by simp; omega)]
    exact NP.ok

theorem np_pushTendril_fx {F : Format} (hF : FixupOK F) (hI : FixupSmall F) {h : Heap} {t o : T}
    {rest : List T} (w : WF h (t :: rest)) (ho : o ∈ rest)
    (hs1 : t.len32 ≤ 1073741824) (hs2 : o.len32 ≤ 1073741824) : NP (pushTendril F h t o) := by
  have wo : TWF h o := w.twf o (List.mem_cons_of_mem _ ho)
  have hlo := abs_length wo
  have slow : NP (asByteSlice h o >>= fun bs => pushBytesUnchecked F h t bs) := by
    rw [asByteSlice_eq wo w.bufs]
    exact np_pushBytesUnchecked_fx hF hI _ w hs1 (by rw [hlo]; exact hs2)
  unfold pushTendril
  apply NP.ite_panic (by omega)
  split
  · split
    · exact NP.ok
    · exact slow
  · exact slow

/-- the operations that can reach an `OFLOW` guard or a length assert do not panic while the sizes
are small -/
theorem stepM_np_fx (F : Format) (cat : List UInt8 → List UInt8 → List UInt8) (L : LawsFx F cat)
    (hI : FixupSmall F) (st : St) (op : Op) (hwf : StWF st) (hs : Small F st op)
    (hop : oflowOp op = true) :
    match stepM F st op with
    | none => True
    | some m => NP m := by
  cases op with
  | new i => simp [oflowOp] at hop
  | tryPopFront i n => simp [oflowOp] at hop
  | tryPopBack i n => simp [oflowOp] at hop
  | trySubtendril i j o l => simp [oflowOp] at hop
  | clone i j => simp [oflowOp] at hop
  | clear i => simp [oflowOp] at hop
  | drop i => simp [oflowOp] at hop
  | popFrontChar i => simp [oflowOp] at hop
  | popFrontCharRun i j k => simp [oflowOp] at hop
  | popFront i n => simp [oflowOp] at hop
  | popBack i n => simp [oflowOp] at hop
  | subtendril i j o l => simp [oflowOp] at hop
  | fromBytes i bs =>
    by_cases hi : i < st.pool.length
    · simp only [stepM, hi, ↓reduceIte]
      split
      · apply NP.bind (np_fromBytesUnchecked bs (by simp only [Small] at hs; omega))
        rintro ⟨h1, t1⟩ he
        obtain ⟨w1, _, _⟩ := (fromBytesUnchecked_spec bs hwf).of_ok he
        apply NP.bind (np_store (st := ⟨h1, st.pool⟩) hi w1)
        intro st' _; exact NP.ok
      · exact NP.ok
    · simp only [stepM, hi, ↓reduceIte]
  | pushBytes i bs =>
    refine OnSome.slot (fun t hp => ?_)
    simp only [Small, slotLen_eq hp] at hs
    split
    · apply NP.bind (np_pushBytesUnchecked_fx L.fixupOK hI bs (focusWF hwf hp) (by omega) (by omega))
      intro r _; exact NP.ok
    · exact NP.ok
  | pushChar i c =>
    refine OnSome.slot (fun t hp => ?_)
    simp only [Small, slotLen_eq hp] at hs
    cases he : F.encodeChar c with
    | none => exact NP.ok
    | some bs =>
      simp only []
      have := hs.1 bs he
      apply NP.bind (np_pushBytesUnchecked_fx L.fixupOK hI bs (focusWF hwf hp) (by omega) (by omega))
      intro r _; exact NP.ok
  | pushTendril i j =>
    cases hp : st.pool[i]? with
    | none => simp only [stepM, hp]
    | some o => cases o with
      | none => simp only [stepM, hp]
      | some t =>
        cases hq : st.pool[j]? with
        | none => simp only [stepM, hp, hq]
        | some o2 => cases o2 with
          | none => simp only [stepM, hp, hq]
          | some o =>
            simp only [stepM, hp, hq]
            simp only [Small, slotLen_eq hp, slotLen_eq hq] at hs
            by_cases hij : i = j
            · simp only [hij, ↓reduceIte]
            · simp only [hij, ↓reduceIte]
              apply NP.bind (np_pushTendril_fx L.fixupOK hI (focusWF hwf hp) (others_mem (Ne.symm hij) hq) (by omega) (by omega))
              intro r _; exact NP.ok
  | sendRoundTrip i =>
    refine OnSome.slot (fun t hp => ?_)
    simp only [Small, slotLen_eq hp] at hs
    apply NP.bind (np_makeOwned (focusWF hwf hp) (by omega))
    intro r _; exact NP.ok
  | reserve i n =>
    refine OnSome.slot (fun t hp => ?_)
    simp only [Small, slotLen_eq hp] at hs
    apply NP.bind (np_reserveT n (focusWF hwf hp) (by omega))
    intro r _; exact NP.ok
  | withCapacity i n =>
    by_cases hi : i < st.pool.length
    · simp only [stepM, hi, ↓reduceIte]
      simp only [Small] at hs
      apply NP.bind (np_withCapacity n hwf (by omega))
      rintro ⟨h1, t1⟩ he
      obtain ⟨w1, _, _⟩ := (withCapacity_spec n hwf).of_ok he
      apply NP.bind (np_store (st := ⟨h1, st.pool⟩) hi w1)
      intro st' _; exact NP.ok
    · simp only [stepM, hi, ↓reduceIte]
  | setByte i k v =>
    refine OnSome.slot (fun t hp => ?_)
    simp only [Small, slotLen_eq hp] at hs
    have wt := focusWF hwf hp
    apply NP.bind (np_derefMut wt (by omega))
    rintro ⟨h1, t1⟩ he
    obtain ⟨w1, _, _, _, hns⟩ := (derefMut_spec wt).of_ok he
    simp only at w1 hns
    by_cases hk : k < t1.len32
    · simp only [hk, ↓reduceIte]
      apply NP.bind (NP.of_satT (storeByte_spec k v w1 hns hk))
      intro r _; exact NP.ok
    · simp only [hk, ↓reduceIte]; exact NP.ok

theorem outOfErr_ne_panic (e : Option SubErr) : outOfErr e ≠ .panic := by
  cases e with
  | none => simp [outOfErr]
  | some e => cases e <;> simp [outOfErr]

/-- where the specification panics it changes nothing -/
theorem Spec.step_panic_state (F : Format) (p : APool) (op : Op) (h : (Spec.step F p op).2 = .panic) :
    Spec.step F p op = (p, .panic) := by
  -- `h` is absurd, or says which branch was taken, or reports a checked operation's error
  cases op <;> simp only [Spec.step] at h ⊢ <;> (repeat' split at h) <;>
    first
    | (cases h <;> first | rfl | simp_all)
    | (exfalso; exact outOfErr_ne_panic _ h)

/-- no spurious panic for a format with a (small) concatenation fix-up -/
theorem C11_no_spurious_panic_seam (F : Format) (cat : List UInt8 → List UInt8 → List UInt8)
    (L : LawsFx F cat) (hI : FixupSmall F) (st : St) (op : Op) (hwf : StWF st)
    (hv : AValid F (absPool st)) (hseam : SeamOK F cat st.heap) (hs : Small F st op) :
    (absPool (step F st op).1, (step F st op).2) = Spec.stepFx F cat (absPool st) op := by
  have h := stepM_spec_fx F cat L st op hwf hv hseam
  have hn := stepM_np_fx F cat L hI st op hwf hs
  unfold step
  cases hm : stepM F st op with
  | none => rw [hm] at h; exact h.symm
  | some m =>
    rw [hm] at h hn
    cases m with
    | ok r => exact h.2
    | error e =>
      cases e with
      | ub s => exact h.elim
      | panic s =>
        -- `h : mayPanic …`
        have h' : mayPanic F (absPool st) op := h
        simp only []
        by_cases ho : oflowOp op = true
        · exact ((hn ho) s rfl).elim
        · cases op <;> simp only [oflowOp, mayPanic, not_true_eq_false] at ho h' <;>
            first
            | exact h'.elim
            | exact (Spec.step_panic_state F _ _ h').symm
            | (simp only [Spec.stepFx]; exact (Spec.step_panic_state F _ _ h').symm)

/-- **No spurious panic.**  While the tendrils and the operands involved are below 2^30 bytes, the
model panics only where the owned-string specification panics (the `unwrap` of `pop_front`,
`pop_back`, `subtendril` on an error, an out-of-range index store) — so below that size every
operation refines the specification exactly. -/
theorem C11_no_spurious_panic (F : Format) (L : Laws F) (st : St) (op : Op) (hwf : StWF st)
    (hv : AValid F (absPool st)) (hs : Small F st op) :
    (absPool (step F st op).1, (step F st op).2) = Spec.step F (absPool st) op := by
  simpa only [Spec.stepFx_append] using
    C11_no_spurious_panic_seam F _ L.toLawsFx L.fixupSmall st op hwf hv (SeamOK.append F _) hs

/-- **Witness of the early size limit** (why `C11_no_spurious_panic` has a size hypothesis): growing a
full 2^31-byte buffer by one byte hits `checked_next_power_of_two().expect(OFLOW)` in
`Buf32::grow`, although the documented limit of a tendril is 4 GB and an owned string would
accept the push.  Confirmed on the real code (`from_slice` of 2^31 bytes, `push_slice(b"x")`
panics; with 2^31 − 1 or 2^31 + 1 initial bytes it does not, because no growth is needed). -/
theorem C11_witness_oflow_2gib :
    buf32Grow Heap.empty 0 2147483648 2147483649 = .error (.panic "OFLOW: checked_next_power_of_two") ∧
    (∃ r, buf32Grow ⟨[⟨[], 2147483632, 0, 1, true⟩], []⟩ 0 2147483632 2147483648 = .ok r) := by
  constructor
  · rfl
  · exact ⟨_, rfl⟩

/-- **WTF-8 validation rejects stray continuation bytes** (after the fix 218f57f in `fmt.rs`, which
the model follows: `codept.rewind != 0 → false`).  The inputs that witnessed the defect are
rejected now. -/
theorem C11_wtf8_validate_rejects_stray :
    Format.wtf8.validate [0xC2, 0x80, 0x80] = false ∧
    Format.wtf8.validate [0xC2, 0x80, 0x80, 0xFF] = false ∧
    Format.wtf8.validate [0xE2, 0x82, 0xAC, 0x80, 0xFF, 0xFF] = false ∧
    Format.wtf8.validate [0xC2, 0x80, 0xED, 0xA0, 0x80, 0xE2, 0x82, 0xAC] = true := by decide

/-- **Defect witness, pinned tree.**  `WTF8::validate` as it was before commit 218f57f
(`wtf8ValidatePinned`) accepted byte strings that are not WTF-8: after a complete 2- or 3-byte
character a stray continuation byte made `futf::classify` answer with the *previous* character
(found by its backward scan), the loop advanced by that character's length and skipped whatever
followed.  `C2 80 80` was accepted although it is not even generalized UTF-8 (no surrogate
involved, `validUtf8` rejects it), and so was `C2 80 80 FF`, although `FF` is no UTF-8 byte at all.
Found by the C11 check (case `tendril wtf8 N from 0 c2 80 80`, now in the regression corpus). -/
theorem C11_witness_wtf8_validate_pinned :
    wtf8ValidatePinned [0xC2, 0x80, 0x80] = true ∧ validUtf8 [0xC2, 0x80, 0x80] = false ∧
    wtf8ValidatePinned [0xC2, 0x80, 0x80, 0xFF] = true ∧ byteK 0xFF = none ∧
    wtf8ValidatePinned [0xE2, 0x82, 0xAC, 0x80, 0xFF, 0xFF] = true := by decide

/-! ## non-vacuity -/

theorem init_wf (slots : Nat) : StWF (St.init slots) := by
  show WF Heap.empty (liveTs (List.replicate slots none))
  rw [liveTs_replicate]; exact WF.empty

private def b20 : List UInt8 := [1,2,3,4,5,6,7,8,9,10,11,12,13,14,15,16,17,18,19,20]

/-- two adjacent views of one buffer are merged by `push_tendril` without copying -/
example : (run Format.bytes (St.init 4)
    [.fromBytes 0 b20, .trySubtendril 0 1 0 10, .trySubtendril 0 2 10 10, .pushTendril 1 2]).pool
    = [some (.shared 0 0 20), some (.shared 0 0 20), some (.shared 0 10 10), none] := by decide

/-- copy on write: pushing onto a clone leaves the original alone; popping 15 of 20 bytes makes it inline -/
example : absPool (run Format.bytes (St.init 4)
    [.fromBytes 0 b20, .clone 0 1, .pushBytes 1 [0xff], .tryPopFront 0 15])
    = [some [16, 17, 18, 19, 20], some (b20 ++ [0xff]), none, none] := by decide

/-- checked operations on the UTF-8 string "aé" (61 c3 a9) -/
example : (step Format.utf8 (run Format.utf8 (St.init 4) [.fromBytes 0 [0x61, 0xc3, 0xa9]])
    (.tryPopFront 0 2)).2 = .inv := by decide
example : (step Format.utf8 (run Format.utf8 (St.init 4) [.fromBytes 0 [0x61, 0xc3, 0xa9]])
    (.tryPopFront 0 4)).2 = .oob := by decide
example : (step Format.utf8 (run Format.utf8 (St.init 4) [.fromBytes 0 [0x61, 0xc3, 0xa9]])
    (.tryPopBack 0 1)).2 = .inv := by decide
example : (step Format.utf8 (run Format.utf8 (St.init 4) [.fromBytes 0 [0x61, 0xc3, 0xa9]])
    (.pushBytes 0 [0xa9])).2 = .err := by decide
example : (step Format.utf8 (run Format.utf8 (St.init 4) [.fromBytes 0 [0x61, 0xc3, 0xa9]])
    (.popFront 0 2)).2 = .panic := by decide
example : (step Format.utf8 (run Format.utf8 (St.init 4) [.fromBytes 0 [0x61, 0xc3, 0xa9]])
    (.popFrontChar 0)).2 = .ch (some 0x61) := by decide

end H5V.Props.C11
