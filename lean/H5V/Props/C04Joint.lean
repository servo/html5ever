import H5V.Lemmas.HtmlJointTotal
/-!
# C04 for the joint model: **the joint HTML parse is total** (up to failures of the sink)

The joint model (`H5V.Model.HtmlTB.Joint`: the tokenizer model with the tree-builder model as its sink, the
composition of `driver.rs`; `H5V.Props.C03.parseChunks o N m0 j0 chunks`, `N` = budget of `loop_until_done`)
**ends, for every input, every chunking, every tokenizer / tree-builder option set, and every sufficiently large
budget, in the same way**: with a final joint state, or with a failure `e` satisfying `JFail e`:

1. a failure of a tree-MUTATING sink operation (`Dom.apply op = .error x` with `MutOp op`; by `C05TB` the only such
   failure a contract-abiding call can have is the mirror op `maybe_clone_an_option_into_selectedcontent` — see
   "what is partial" below),
2. one of the two `<meta>`-prescan messages `meta-extract@encoding.rs: …`, `subtendril-utf8@encoding.rs: …` (they
   are still in the C04 tree-builder judgement `Benign`; `C19_extractEncoding_total` shows that the model's
   `extractEncoding` never produces them, but that is not threaded through `Benign`).

So: no panic site of the tokenizer, of the character-reference tokenizer, of the tree builder (`panicAt`, helper
fuel, the fuel of `process_to_completion`, the Text-mode `unreachable!`) is reachable, `Tokenizer::run` never runs out
of its fuel, `loop_until_done` never runs out of its budget, `assert!(input.is_empty())` (driver.rs:132 and
`Tokenizer::end`) and `assert!(matches!(self.run(..), Done))` of `Tokenizer::end` never fire, the tokenizer's
`process_token_and_continue` assertion (tokenizer/mod.rs:257) never fires — the tree builder answers anything but a
tag token with `Continue` (`H5V.Lemmas.JointTotal.A.processToken_nontag_continue`) —, `eof_step` ends within its 8
rounds, `TreeBuilder::end` never fails.

Method (direct induction on the joint loop with the tokenizer's termination measure `mu`):
* per token: `sat_processTokens2` (C04TB2: no fuel allowance, "text" protocol) on a one-token list — from a
  tree-builder state satisfying the C04 invariant `TI`, a token that keeps the "text" protocol fails at most
  `BenignStrict`ly (`tok_safe`);
* per step: the tokens of one tokenizer step are non-tags followed by at most one tag followed by pause markers
  (`step_one_tag`); from a raw-text state (`TextSt`) they are allowed in "text" (`step_textSt`); so the delivery
  succeeds — and re-establishes the joint invariant `CI` (`joint_step_text'`) — or fails with `JErr` (`absorb_safe`);
* the loop: `Continue` steps decrease `mu` (`step_dec`); PAUSING steps decrease it as well (`step_dec_script`:
  through the never-pausing policy `npPol j` such a step is a `Continue` step, `joint_step_star`); `Suspend` drains the
  queue (`step_suspend_nil`); no step panics (`step_safe`);
* `Parser::finish`: the mirror of `finish_end_total` (HtmlTokTerm): the flush of a pending character reference
  delivers allowed non-tags, the final `run` sees neither `>` nor `&` (`EndInv`), so it never pauses (`step_end`);
  `eofLoop_total`; `C04_tb_end_total`.

**What is partial** w.r.t. the intended statement (failure ONLY by the mirror op):
* item 1 is "some mutating sink op fails", not "the mirror op fails within its contract": narrowing it needs
  `TagsOk` of every delivered tag (C05TB), i.e. that the tokenizer model lower-cases ATTRIBUTE names — not part of the
  existing tokenizer output invariant `WfM` (`H5V.Lemmas.HtmlParseSpecOutWf`: tag names lower case, attribute names
  distinct), and a proof over the whole transition table;
* item 2 is not excluded: the two messages are constructors of the C04 judgement `Benign`; excluding them needs either
  a `Benign` without them (re-running the `Sat` proofs of the "in head" rules with `C19_extractEncoding_total`) or a
  second, error-origin judgement over all rules.
-/
namespace H5V.Props.C04J
open H5V.Model.HtmlTB
open H5V.Model.Dom (Dom SinkOp)
open H5V.Lemmas.TBSafe (TI MutOp Benign)
open H5V.Lemmas.JointChunk (TOpts Chars)
open H5V.Lemmas.ParseSpec (j0Of crInv_of_none good_docStart)
open H5V.Lemmas.JointTotal
open H5V.Props.C03 (parseChunks)
open H5V.Props.C02 (tok0 start_tok0)
open H5V.Props.C04TB (docStart)
open H5V.Model.HtmlTB.Joint (JState)

/-- the failures of the joint model that are not excluded (see the header) -/
def JFail (e : String) : Prop :=
  (∃ (d : Dom) (op : SinkOp) (x : String), MutOp op ∧ d.apply op = .error x ∧ e = errClass x ++ "@sink: " ++ x) ∨
  "meta-extract@encoding.rs: ".toList.isPrefixOf e.toList = true ∨
  e = "subtendril-utf8@encoding.rs: subtendril is not valid UTF-8"

theorem jfail_of_jerr {e : String} (h : JErr e) : JFail e := by
  cases h with
  | sinkMut d op x h1 h2 => exact Or.inl ⟨d, op, x, h2, h1, rfl⟩
  | ptcFuel ha => exact ha.elim
  | textProto ha => exact ha.elim
  | metaExtract m =>
    refine Or.inr (Or.inl ?_)
    simp only [String.toList_append]
    exact H5V.Lemmas.TBSafe.isPrefixOf_append _ _
  | metaUtf8 => exact Or.inr (Or.inr rfl)

/-- the start of a document parse: `Tokenizer::new` (data state, any BOM flag), `TreeBuilder::new` (any options) -/
theorem between_doc (opts : Opts) (bom : Bool) : Between (tok0 bom) (j0Of opts) :=
  ⟨Or.inl (start_tok0 bom), H5V.Model.HtmlTok.quiet_fresh _ rfl rfl rfl,
    ⟨(start_tok0 bom).out, crInv_of_none rfl,
      fun h => absurd h (show (docStart opts).mode ≠ .text by simp [docStart, State.init]),
      H5V.Props.C04TB.C04_tb_inv_new opts, good_docStart opts⟩⟩

/-- **C04, joint model, any chunking** (PARTIAL: `JFail` instead of "the mirror op fails").  For every tokenizer
option set `o`, tree-builder options `opts` (quirks mode, `drop_doctype`, scripting, iframe-srcdoc, exact errors: no
restriction), BOM flag and chunk list: there is a budget `N0` from which on the joint parse ends in the same way —
with the same final joint state, or with the same failure, which is a `JFail`. -/
theorem C04_joint_total_chunked_partial (o : TOpts) (opts : Opts) (bom : Bool) (chunks : List Chars) :
    ∃ N0, (∃ jf, ∀ N, N0 ≤ N → parseChunks o N (tok0 bom) (j0Of opts) chunks = .ok jf) ∨
      (∃ e, JFail e ∧ ∀ N, N0 ≤ N → parseChunks o N (tok0 bom) (j0Of opts) chunks = .error e) := by
  obtain ⟨N0, h⟩ := parse_total o chunks (tok0 bom) (j0Of opts) (between_doc opts bom)
  refine ⟨N0, ?_⟩
  rcases h with h | ⟨e, he, h⟩
  · exact Or.inl h
  · exact Or.inr ⟨e, jfail_of_jerr he, h⟩

/-- **C04, joint model** (PARTIAL: `JFail` instead of "the mirror op fails"), in the requested form: for every
input text there is `N0` such that for every `N ≥ N0` the joint parse returns `.ok jf` or `.error e` with `JFail e`.

The full statement aimed at:
`∃ N0, ∀ N ≥ N0, (∃ jf, parseChunks o N (tok0 bom) (j0Of opts) [s] = .ok jf) ∨
   (∃ e, parseChunks o N (tok0 bom) (j0Of opts) [s] = .error e ∧
     ∃ d o y, d.apply (.maybeCloneAnOptionIntoSelectedcontent o) = .error y ∧ e = errClass y ++ "@sink: " ++ y)`. -/
theorem C04_joint_total_partial (o : TOpts) (opts : Opts) (bom : Bool) (s : Chars) :
    ∃ N0, ∀ N, N0 ≤ N → (∃ jf, parseChunks o N (tok0 bom) (j0Of opts) [s] = .ok jf) ∨
      (∃ e, parseChunks o N (tok0 bom) (j0Of opts) [s] = .error e ∧ JFail e) := by
  obtain ⟨N0, h⟩ := C04_joint_total_chunked_partial o opts bom [s]
  refine ⟨N0, fun N hN => ?_⟩
  rcases h with ⟨jf, h⟩ | ⟨e, he, h⟩
  · exact Or.inl ⟨jf, h N hN⟩
  · exact Or.inr ⟨e, h N hN, he⟩

/-- the same for a tokenizer created in any state (fragment parsing: `tokenizer_state_for_context_elem`) and any
tree-builder state that satisfies the C04 invariant `TI`, is `GoodS` (C03) and is not in the "text" insertion mode -/
theorem C04_joint_total_any_partial (o : TOpts) (st : H5V.Model.HtmlTok.State) (last : Option Chars) (bom : Bool)
    (tb : State) (hti : TI tb) (hg : H5V.Props.C03.GoodS tb) (hmode : tb.mode ≠ .text) (chunks : List Chars) :
    ∃ N0, (∃ jf, ∀ N, N0 ≤ N →
        parseChunks o N { state := st, lastStartTag := last, discardBom := bom } { tb := tb } chunks = .ok jf) ∨
      (∃ e, JFail e ∧ ∀ N, N0 ≤ N →
        parseChunks o N { state := st, lastStartTag := last, discardBom := bom } { tb := tb } chunks = .error e) := by
  have hb : Between ({ state := st, lastStartTag := last, discardBom := bom } : H5V.Model.HtmlTok.Mach) { tb := tb } :=
    ⟨Or.inl (H5V.Props.C03.start_fresh st last bom), H5V.Model.HtmlTok.quiet_fresh _ rfl rfl rfl,
      ⟨rfl, crInv_of_none rfl, fun h => absurd h hmode, hti, hg⟩⟩
  obtain ⟨N0, h⟩ := parse_total o chunks _ _ hb
  refine ⟨N0, ?_⟩
  rcases h with h | ⟨e, he, h⟩
  · exact Or.inl h
  · exact Or.inr ⟨e, jfail_of_jerr he, h⟩

end H5V.Props.C04J

namespace H5V.Props.C02
open H5V.Model.HtmlTB
open H5V.Lemmas.JointChunk (TOpts)
open H5V.Lemmas.ParseSpec
open H5V.Props.C03 (parseChunks)
open H5V.Props.C04J

/-- **C02 capstone without the hypotheses "the joint run succeeds" and "the token stream exists"**:
`C02_parse_eq_spec_total` with `hrun` replaced by "the joint parse does not fail with a `JFail` failure" (no failure
of a mutating sink op, none of the two `<meta>` messages), for every sufficiently large budget; the token stream `ts`
exists by `modelStream_total`. -/
theorem C02_parse_eq_spec_total_nohrun (o : TOpts) (opts : Opts) (hq : opts.quirksMode = .noQuirks)
    (hdd : opts.dropDoctype = false) (bom : Bool) (s : Chs) :
    ∃ N0 ts, modelStream o opts bom s = some ts ∧ ∀ N, N0 ≤ N →
      (∀ e, parseChunks o N (tok0 bom) (j0Of opts) [s] = .error e → ¬ JFail e) →
      ∃ jf, parseChunks o N (tok0 bom) (j0Of opts) [s] = .ok jf ∧
        ((∀ p ∈ ts, ∀ t, p.1 = .tag t → ∀ a ∈ t.attrs, a.name.loc ≠ "shadowrootmode".toList) →
        ∃ ids, ∀ rest, ∃ F, ∀ fuel, F ≤ fuel →
          ParseAgreesX opts ⟨docCfg opts, fuel, ids ++ rest⟩ (H5V.Props.C01.stripBom bom s) ts jf) := by
  obtain ⟨N0, h⟩ := C04_joint_total_partial o opts bom s
  obtain ⟨ts, hts⟩ := modelStream_total o opts bom s
  refine ⟨N0, ts, hts, fun N hN hno => ?_⟩
  rcases h N hN with ⟨jf, hjf⟩ | ⟨e, he, hf⟩
  · exact ⟨jf, hjf, fun hshadow => C02_parse_eq_spec_total o opts hq hdd bom N s jf hjf ts hts hshadow⟩
  · exact absurd hf (hno e he)

/-- the same for any chunking of the input -/
theorem C02_parse_eq_spec_total_chunked_nohrun (o : TOpts) (opts : Opts) (hq : opts.quirksMode = .noQuirks)
    (hdd : opts.dropDoctype = false) (bom : Bool) (chunks : List Chs) :
    ∃ N0 ts, modelStream o opts bom chunks.flatten = some ts ∧ ∀ N, N0 ≤ N →
      (∀ e, parseChunks o N (tok0 bom) (j0Of opts) chunks = .error e → ¬ JFail e) →
      ∃ jf, parseChunks o N (tok0 bom) (j0Of opts) chunks = .ok jf ∧
        ((∀ p ∈ ts, ∀ t, p.1 = .tag t → ∀ a ∈ t.attrs, a.name.loc ≠ "shadowrootmode".toList) →
        ∃ ids, ∀ rest, ∃ F, ∀ fuel, F ≤ fuel →
          ParseAgreesX opts ⟨docCfg opts, fuel, ids ++ rest⟩ (H5V.Props.C01.stripBom bom chunks.flatten) ts jf) := by
  obtain ⟨N0, h⟩ := C04_joint_total_chunked_partial o opts bom chunks
  obtain ⟨ts, hts⟩ := modelStream_total o opts bom chunks.flatten
  refine ⟨N0, ts, hts, fun N hN hno => ?_⟩
  rcases h with ⟨jf, hjf⟩ | ⟨e, he, hf⟩
  · exact ⟨jf, hjf N hN, fun hshadow =>
      C02_parse_eq_spec_total_chunked o opts hq hdd bom N chunks jf (hjf N hN) ts hts hshadow⟩
  · exact absurd he (hno e (hf N hN))

end H5V.Props.C02

/-! ## non-vacuity -/
namespace H5V.Props.C04J.Ex
open H5V.Props.C02.ExParse (doc run)

/-- the joint parse of `ExParse.doc` (DOCTYPE, RCDATA with a character reference, a script with its pause, table
modes, foreign content with a CDATA section) with budget 50 -/
def ok : Bool := match run with | .ok _ => true | .error _ => false

/-- the first disjunct of `C04_joint_total_partial` is inhabited: this parse succeeds -/
example : ok = true := by decide +kernel

end H5V.Props.C04J.Ex

#print axioms H5V.Props.C04J.C04_joint_total_chunked_partial
#print axioms H5V.Props.C04J.C04_joint_total_partial
#print axioms H5V.Props.C04J.C04_joint_total_any_partial
#print axioms H5V.Props.C02.C02_parse_eq_spec_total_nohrun
#print axioms H5V.Props.C02.C02_parse_eq_spec_total_chunked_nohrun
#print axioms H5V.Lemmas.JointTotal.A.processToken_nontag_continue
#print axioms H5V.Lemmas.JointTotal.loop_total
#print axioms H5V.Lemmas.JointTotal.Fin.finish_total
#print axioms H5V.Lemmas.JointTotal.parse_total
