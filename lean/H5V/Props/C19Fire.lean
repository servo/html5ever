import H5V.Lemmas.HtmlTBMetaFire
/-!
C19 — an encoding indicator fires exactly once per qualifying `meta` (tree-builder model).

`qualifies tag : Option Str` is the property text: the `charset` attribute if there is one, else — for
`http-equiv` = `content-type` (ASCII case-insensitively) — the label the WHATWG extraction algorithm
(`H5V.Spec.MetaExtract.extract`, proved equal to the model of `encoding.rs` in `C19_extract`) finds in
`content`.

* `C19_in_head_meta` / `C19_in_head_meta_total` (A1): the "in head" rule on a `meta` start tag makes a
  few queries, `create_element(meta, attrs)` and one insertion, leaves the builder (stack of open
  elements included) exactly as it was, and answers `EncodingIndicator(l)` iff `qualifies tag = some l`,
  else `DoneAckSelfClosing`;
* `C19_only_meta_fires` (A2): for every state, every token, every line: if `process_token` answers
  `EncodingIndicator(l)` the token is a `meta` start tag with `qualifies = some l`
  (`C19_rule_only_meta`, `C19_foreign_only_meta`: the same for every single rule);
  `C19_at_most_once`: in a run over a token list there are at most as many indicators as qualifying
  `meta` start tags;
* `C19_meta_routing` (A3): for each of the 21 insertion modes, what the rule does with a `meta` start
  tag: "in head", "in head noscript", "in body", "in template", "in caption", "in cell" hand it to
  the "in head" rule as it is; "after head" does so with the head element pushed back; "in table",
  "in table body", "in row" do so with foster parenting on; "in column group" closes the `colgroup`
  and re-processes "in table" or ignores the token; "initial", "before html", "before head", "after
  body", "after after body", "in table text" re-process the same token in the next mode; "in
  frameset", "after frameset", "after after frameset" ignore it; "text" is the `unreachable!`; in
  foreign content `meta` is a break-out tag (`C19_meta_foreign`);
* `C19_fires_in_head` / `C19_silent_in_head`: `process_to_completion` returns the indicator at once
  (the rest of the queue is not touched), resp. goes on.

The model has a panic branch for an extracted slice that is not valid UTF-8; it is never taken
(`C19_label_decodes`: the slice is cut at ASCII bytes of a UTF-8 string).  The ⇐ statements carry the
hypothesis `MetaDecodes`, which holds for every tag (`C19_metaDecodes`).
-/
namespace H5V.Props.C19
open H5V.Model.Dom (Id QualName Attr NodeOrText SinkOp Output ElementFlags QuirksMode Dom)
open H5V.Model.HtmlTB
open H5V.Lemmas.TBM

/-! ## A1 -/

/-- **the `meta` arm of "in head"** -/
theorem C19_in_head_meta {tag : Tag} (hm : isMetaStart tag) {s s' : State} {r : ProcessResult}
    (h : (stepInHead (.tag tag)).run s = .ok (r, s')) :
    -- the answer
    r = answerOf (qualifies tag) ∧
    (∀ l, r = .encodingIndicator l ↔ qualifies tag = some l) ∧
    (r = .doneAckSelfClosing ↔ qualifies tag = none) ∧
    -- the builder is as before: in particular nothing stays on the stack of open elements
    SameBuilder s s' ∧
    -- the sink has seen: queries, `create_element(meta)`, one insertion of that element
    ∃ elem ip qs, (∀ c ∈ qs, isQuery c.1 = true) ∧
      s'.traceRev = (insOp ip (.node elem), .unit) ::
        (.createElement (htmlQual "meta".toList) tag.attrs (plainFlags tag.hadDup), .node elem) :: (qs ++ s.traceRev) := by
  obtain ⟨⟨elem, hi⟩, rfl⟩ := stepInHead_meta_ok hm h
  obtain ⟨hb, ip, qs, hq, ht⟩ := insertAndPop_spec (meta_plain hm).1 (meta_plain hm).2 hi
  rw [hm.2] at ht
  refine ⟨rfl, ?_, ?_, hb, elem, ip, qs, hq, ht⟩
  · intro l
    cases hq : qualifies tag with
    | none => simp [answerOf]
    | some l' => simp [answerOf]
  · cases hq : qualifies tag with
    | none => simp [answerOf]
    | some l' => simp [answerOf]

/-- the converse: when the insertion goes through, the rule answers (no other panic than the
undecodable-slice branch) -/
theorem C19_in_head_meta_total {tag : Tag} (hm : isMetaStart tag) (_hd : MetaDecodes tag) {s s' : State} {elem : Id}
    (h : (insertAndPopElementFor tag).run s = .ok (elem, s')) :
    (stepInHead (.tag tag)).run s = .ok (answerOf (qualifies tag), s') :=
  stepInHead_meta_run hm h

/-- `charset` wins over the pragma -/
theorem C19_charset_wins {tag : Tag} {cs : Str} (h : tag.getAttribute "charset" = some cs) :
    qualifies tag = some cs := qualifies_charset h

/-! ## A2 -/

/-- no rule of any insertion mode but the `meta` arm answers with an indicator -/
theorem C19_rule_only_meta {mode : Mode} {tok : Token} {s s' : State} {l : Str}
    (h : (step mode tok).run s = .ok (.encodingIndicator l, s')) : Fires tok l :=
  (inferInstance : Ans (ROk tok) (step mode tok)).h s _ s' h

/-- nor does the foreign-content rule (it reaches an indicator only through `step`) -/
theorem C19_foreign_only_meta {tok : Token} {s s' : State} {l : Str}
    (h : (stepForeign tok).run s = .ok (.encodingIndicator l, s')) : Fires tok l :=
  (inferInstance : Ans (ROk tok) (stepForeign tok)).h s _ s' h

/-- **only a qualifying `meta` start tag fires**: every state, every token, every line -/
theorem C19_only_meta_fires {tok : TokToken} {line : Nat} {s s' : State} {l : Str}
    (h : (processToken tok line).run s = .ok (.encodingIndicator l, s')) :
    ∃ tag, tok = .tag tag ∧ isMetaStart tag ∧ qualifies tag = some l :=
  (ans_processToken tok line).h s _ s' h l rfl

/-- is the answer an indicator -/
def isIndicator : SinkResult → Bool
  | .encodingIndicator _ => true
  | _ => false

/-- is the token a `meta` start tag that announces a label -/
def qualTok : TokToken → Bool
  | .tag t => t.kind == .startTag && t.name == "meta".toList && (qualifies t).isSome
  | _ => false

/-- **at most once per qualifying `meta`**: a run over a token list collects at most as many
indicators as there are qualifying `meta` start tags in the list -/
theorem C19_at_most_once : ∀ (toks : List (TokToken × Nat)) (acc res : List SinkResult) (s s' : State),
    (processTokens toks acc).run s = .ok (res, s') →
    (res.filter isIndicator).length ≤ (acc.filter isIndicator).length + (toks.filter (fun p => qualTok p.1)).length
  | [], acc, res, s, s', h => by
    obtain ⟨rfl, _⟩ := pure_ok.mp h
    simp
  | (t, line) :: rest, acc, res, s, s', h => by
    have h' : (processToken t line >>= fun r => processTokens rest (if r == .continue_ then acc else r :: acc)) s
        = .ok (res, s') := h
    obtain ⟨r, s1, e1, e2⟩ := bind_ok.mp h'
    have ih := C19_at_most_once rest _ res s1 s' e2
    have hstep : ((if r == .continue_ then acc else r :: acc).filter isIndicator).length
        ≤ (acc.filter isIndicator).length + (if qualTok t then 1 else 0) := by
      cases r with
      | encodingIndicator l =>
        obtain ⟨tag, rfl, hm, hq⟩ := C19_only_meta_fires e1
        have : qualTok (.tag tag) = true := by simp [qualTok, hm.1, hm.2, hq]
        simp [this, isIndicator, List.filter_cons]
      | continue_ => simp
      | script n => simp [isIndicator]
      | plaintext => simp [isIndicator]
      | rawData k => simp [isIndicator]
    simp only [List.filter_cons]
    split <;> simp_all <;> omega

/-! ## A3 -/

/-- **where a `meta` start tag goes**, mode by mode -/
theorem C19_meta_routing {tag : Tag} (hm : isMetaStart tag) :
    -- handed to the "in head" rule as it is
    step .inHead (.tag tag) = stepInHead (.tag tag) ∧
    step .inHeadNoscript (.tag tag) = stepInHead (.tag tag) ∧
    step .inBody (.tag tag) = stepInHead (.tag tag) ∧
    step .inTemplate (.tag tag) = stepInHead (.tag tag) ∧
    step .inCaption (.tag tag) = stepInHead (.tag tag) ∧
    step .inCell (.tag tag) = stepInHead (.tag tag) ∧
    -- … with the head element pushed back / with foster parenting on
    step .afterHead (.tag tag) = withHeadPushed (.tag tag) ∧
    step .inTable (.tag tag) = fosteredInHead (.tag tag) ∧
    step .inTableBody (.tag tag) = fosteredInHead (.tag tag) ∧
    step .inRow (.tag tag) = fosteredInHead (.tag tag) ∧
    -- closes the colgroup and tries again "in table", or ignores the token
    step .inColumnGroup (.tag tag) = colgroupAnythingElse (.tag tag) ∧
    -- the same token is re-processed in the next mode
    Ans (fun r => r = .reprocess .beforeHtml (.tag tag)) (step .initial (.tag tag)) ∧
    Ans (fun r => r = .reprocess .beforeHead (.tag tag)) (step .beforeHtml (.tag tag)) ∧
    Ans (fun r => r = .reprocess .inHead (.tag tag)) (step .beforeHead (.tag tag)) ∧
    Ans (fun r => r = .reprocess .inBody (.tag tag)) (step .afterBody (.tag tag)) ∧
    Ans (fun r => r = .reprocess .inBody (.tag tag)) (step .afterAfterBody (.tag tag)) ∧
    Ans (fun r => ∃ m, r = .reprocess m (.tag tag)) (step .inTableText (.tag tag)) ∧
    -- ignored with a parse error
    step .inFrameset (.tag tag) = unexpected ∧
    step .afterFrameset (.tag tag) = unexpected ∧
    step .afterAfterFrameset (.tag tag) = unexpected ∧
    -- impossible
    step .text (.tag tag) = panicAt "unreachable" "rules.rs:1037" "impossible case in Text mode" :=
  ⟨route_inHead tag, route_inHeadNoscript hm, route_inBody hm, route_inTemplate hm, route_inCaption hm,
   route_inCell hm, route_afterHead hm, route_inTable hm, route_inTableBody hm, route_inRow hm,
   route_inColumnGroup hm, route_initial tag, route_beforeHtml hm, route_beforeHead hm, route_afterBody hm,
   route_afterAfterBody hm, route_inTableText tag, route_inFrameset hm, route_afterFrameset hm,
   route_afterAfterFrameset hm, route_text hm⟩

/-- in foreign content `meta` is a break-out tag: parse error, pop to an integration point / HTML
element, then the rule of the current insertion mode -/
theorem C19_meta_foreign {tag : Tag} (hm : isMetaStart tag) :
    stepForeign (.tag tag) = unexpectedStartTagInForeignContent tag := route_foreign hm

/-- the modes that ignore a `meta` never fire, whatever its attributes -/
theorem C19_meta_ignored {tag : Tag} (hm : isMetaStart tag) {mode : Mode}
    (hmode : mode = .inFrameset ∨ mode = .afterFrameset ∨ mode = .afterAfterFrameset) {s s' : State}
    {r : ProcessResult} (h : (step mode (.tag tag)).run s = .ok (r, s')) : r = .done := by
  have hu : step mode (.tag tag) = unexpected := by
    rcases hmode with rfl | rfl | rfl
    · exact route_inFrameset hm
    · exact route_afterFrameset hm
    · exact route_afterAfterFrameset hm
  rw [hu] at h
  unfold unexpected at h
  obtain ⟨_, _, _, e2⟩ := bind_ok.mp h
  exact (pure_ok.mp e2).1.symm

/-! ## the indicator goes straight back to the tokenizer -/

/-- a qualifying `meta` that reaches "in head": `process_to_completion` answers the indicator at
once; the rest of the queue is not looked at -/
theorem C19_fires_in_head {tag : Tag} (hm : isMetaStart tag) (_hd : MetaDecodes tag) {s s1 s2 : State} {elem : Id}
    {l : Str} (hq : qualifies tag = some l)
    (hf : (isForeign (.tag tag)).run s = .ok (false, s1)) (hmode : s1.mode = .inHead)
    (hi : (insertAndPopElementFor tag).run s1 = .ok (elem, s2)) (fuel : Nat) (more : List Token) :
    (processToCompletion (fuel + 1) (.tag tag) more).run s = .ok (.encodingIndicator l, s2) :=
  ptc_meta_fires hm hq hf hmode hi fuel more

/-- a `meta` that announces nothing: `Continue`, and no "unacknowledged self-closing" error -/
theorem C19_silent_in_head {tag : Tag} (hm : isMetaStart tag) (_hd : MetaDecodes tag) {s s1 s2 : State} {elem : Id}
    (hq : qualifies tag = none)
    (hf : (isForeign (.tag tag)).run s = .ok (false, s1)) (hmode : s1.mode = .inHead)
    (hi : (insertAndPopElementFor tag).run s1 = .ok (elem, s2)) (fuel : Nat) :
    (processToCompletion (fuel + 1) (.tag tag) []).run s = .ok (.continue_, s2) :=
  ptc_meta_silent hm hq hf hmode hi fuel

/-! ## non-vacuity -/

section Examples

def attr (n v : String) : Attr := { name := { pfx := none, ns := [], loc := n.toList }, value := v.toList }
def startTag (n : String) (attrs : List Attr) : Tag := { kind := .startTag, name := n.toList, attrs := attrs }

/-- `<meta charset=x http-equiv=Content-Type content="text/html; charset=y">` -/
def metaBoth : Tag := startTag "meta" [attr "http-equiv" "Content-Type", attr "content" "text/html; charset=y",
  attr "charset" "x"]
/-- `<meta http-equiv=CONTENT-type content="text/html; charset = 'y' ">` -/
def metaPragma : Tag := startTag "meta" [attr "http-equiv" "CONTENT-type", attr "content" "text/html; charset = 'y' "]
/-- `<meta http-equiv=refresh content="charset=y">` -/
def metaRefresh : Tag := startTag "meta" [attr "http-equiv" "refresh", attr "content" "charset=y"]
/-- `<link charset=x>` -/
def linkCharset : Tag := startTag "link" [attr "charset" "x"]

example : isMetaStart metaBoth := ⟨rfl, rfl⟩

-- charset wins
example : qualifies metaBoth = some "x".toList := by decide +kernel
example : qualifies metaRefresh = none := by decide +kernel

/-- the answer of `process_token` for one tag fed to a fresh document builder -/
def answerFresh (t : Tag) : Option SinkResult :=
  match (do newTB; processToken (.tag t) 1 : M SinkResult).run (State.init {}) with
  | .ok (r, _) => some r
  | .error _ => none

/-- the non-`Continue` answers (newest first) of a token list fed to a fresh document builder -/
def answersFresh (toks : List Tag) : Option (List SinkResult) :=
  match (do newTB; processTokens (toks.map fun t => (.tag t, 1)) [] : M (List SinkResult)).run (State.init {}) with
  | .ok (r, _) => some r
  | .error _ => none

-- a `meta` with both: one indicator, for the charset attribute
example : answerFresh metaBoth = some (.encodingIndicator "x".toList) := by decide +kernel
-- the pragma alone: the extracted label
example : qualifies metaPragma = some "y".toList := by decide +kernel
example : answerFresh metaPragma = some (.encodingIndicator "y".toList) := by decide +kernel
-- `http-equiv` is not `content-type`: nothing
example : answerFresh metaRefresh = some .continue_ := by decide +kernel
-- `<link charset=x>` takes the same arm of "in head" but never fires
example : answerFresh linkCharset = some .continue_ := by decide +kernel
-- in body: each qualifying `meta` fires once; `link` and `<div charset=q>` do not
example : answersFresh [startTag "body" [], metaBoth, metaPragma, linkCharset, startTag "div" [attr "charset" "q"]]
    = some [.encodingIndicator "y".toList, .encodingIndicator "x".toList] := by decide +kernel
-- "in frameset" ignores the `meta`
example : answersFresh [startTag "frameset" [], metaBoth] = some [] := by decide +kernel
-- foreign content: break-out, then "in body" → "in head"
example : answersFresh [startTag "svg" [], metaBoth] = some [.encodingIndicator "x".toList] := by decide +kernel
-- "in table": foster-parented, still fires
example : answersFresh [startTag "table" [], metaBoth] = some [.encodingIndicator "x".toList] := by decide +kernel

end Examples

/-! ## axioms -/
#print axioms C19_in_head_meta
#print axioms C19_in_head_meta_total
#print axioms C19_charset_wins
#print axioms C19_rule_only_meta
#print axioms C19_foreign_only_meta
#print axioms C19_only_meta_fires
#print axioms C19_at_most_once
#print axioms C19_meta_routing
#print axioms C19_meta_foreign
#print axioms C19_meta_ignored
#print axioms C19_fires_in_head
#print axioms C19_silent_in_head

end H5V.Props.C19
