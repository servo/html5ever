import H5V.Lemmas.TendrilWtf8
/-!
C12 — tendril buffers are freed exactly once and never accessed out of bounds.

Over the same heap model as C11.  Every raw access of `tendril.rs` is a checked primitive of the
model (`Fault.ub` on a wild pointer, use after free, double free, dealloc with a wrong layout, read
of uninitialised bytes, write beyond the capacity, refcount underflow), and every allocation /
release / write / refcount update is logged in `Heap.trace`.

* `C12_step_safe`: from a state satisfying the invariant `StWF`, every operation of a format with
  `SafeLaws` (Bytes, ASCII, Latin1, WTF8) preserves it and never returns `Fault.ub` — bounds and
  liveness of every modelled access.  `C12_reachable`: every state reachable from the empty pool
  satisfies the invariant; `C12_reachable_valid`: the same for the formats with `Laws` (UTF8 among
  them), on histories without byte stores into formats that have invalid strings.
* `C12_ledger`: an independent monitor (`Mon.run`) that replays the trace accepts it, and its
  ledger is the heap's; `mon_free_once`, `mon_dead_forever`: in an accepted trace a buffer id is
  allocated at most once, freed at most once, with the capacity it was allocated with, and no event
  refers to it after its release.
* `C12_live_iff_referenced`: a buffer is live iff some tendril of the pool refers to it, and its
  reference count is the number of tendrils referring to it (so it is released exactly when the
  last reference goes — `WF.dead`: nothing refers to a released buffer).
* `C12_empty_at_end`: dropping every tendril succeeds and leaves no live buffer.
* `C12_atomic_interleaving`: for any interleaving of the `fetch_add` / `fetch_sub` events of
  threads that only touch the counter through references they hold, every event observes a counter
  ≥ 1, a `fetch_sub` that observes 1 is the last event of the schedule (so at most one does), and if
  the counter ends at 0 the last event is such a `fetch_sub`.  (The Acquire/Release fences that make
  the linearisation meaningful for the buffer contents are assumed — trusted base.)

Partial: the theorems are about the model's arithmetic, not about pointer provenance or the
`transmute`s; the model is tied to the code by the `tendril` correspondence including the
allocation events observed through a global-allocator ledger.
-/
namespace H5V.Props.C12
open H5V.Model.Tendril H5V.Lemmas.Tendril H5V.Props.C11

/-! ## safety needs less from a format than refinement -/

/-- what memory safety needs from a format: the fix-up stays inside its operands, and the indices
`char_indices` yields are inside the string, whatever the bytes are -/
structure SafeLaws (F : Format) : Prop where
  fixupOK : FixupOK F
  chars_total : (F.charIndices []).isSome → ∀ a, (F.charIndices a).isSome
  chars_bound : ∀ a cs, F.charIndices a = some cs → ∀ p ∈ cs, p.1 ≤ a.length

theorem safe_bytes : SafeLaws Format.bytes where
  fixupOK _ _ := ⟨Nat.zero_le _, Nat.zero_le _⟩
  chars_total h := by simp [Format.bytes] at h
  chars_bound _ _ h := by simp [Format.bytes] at h

theorem safe_ascii : SafeLaws Format.ascii where
  fixupOK _ _ := ⟨Nat.zero_le _, Nat.zero_le _⟩
  chars_total _ _ := rfl
  chars_bound a cs h p hp := by
    simp only [Format.ascii, Option.some.injEq] at h; subst h
    exact Nat.le_of_lt (mem_singleByteIndices hp)

theorem safe_latin1 : SafeLaws Format.latin1 where
  fixupOK _ _ := ⟨Nat.zero_le _, Nat.zero_le _⟩
  chars_total _ _ := rfl
  chars_bound a cs h p hp := by
    simp only [Format.latin1, Option.some.injEq] at h; subst h
    exact Nat.le_of_lt (mem_singleByteIndices hp)

theorem safe_wtf8 : SafeLaws Format.wtf8 where
  fixupOK := Wtf8.wtf8_fixup_ok
  chars_total h := by simp [Format.wtf8] at h
  chars_bound _ _ h := by simp [Format.wtf8] at h

/-- one operation preserves the invariant and is free of undefined behaviour (possibly a panic) -/
theorem stepM_safe (F : Format) (S : SafeLaws F) (st : St) (op : Op) (hwf : StWF st) :
    match stepM F st op with
    | none => True
    | some m => Sat m (fun r => StWF r.1) := by
  have two : ∀ {i : Nat} {t t1 s : T} {h1 : Heap} {j : Nat} {o : Out}, st.pool[i]? = some (some t) →
      j < st.pool.length → WF h1 (t1 :: s :: others st.pool i) →
      Sat (store ⟨h1, st.pool.set i (some t1)⟩ j s >>= fun st => (.ok (st, o) : M (St × Out)))
        (fun r => StWF r.1) := by
    intro i t t1 s h1 j o hp hj w1
    apply (store_spec (by simpa using hj) (extraWF hp w1)).sat.bind
    rintro st2 ⟨w2, _⟩
    exact Sat.ok w2
  cases op with
  | new i =>
    by_cases hi : i < st.pool.length
    · simp only [stepM, hi, ↓reduceIte]
      apply (store_spec hi (hwf.cons_inline (by simp))).sat.bind
      rintro st' ⟨w, _⟩
      exact Sat.ok w
    · simp only [stepM, hi, ↓reduceIte]
  | fromBytes i bs =>
    by_cases hi : i < st.pool.length
    · simp only [stepM, hi, ↓reduceIte]
      split
      · apply (fromBytesUnchecked_spec bs hwf).bind
        rintro ⟨h1, t1⟩ ⟨w1, _, _⟩
        apply (store_spec (st := ⟨h1, st.pool⟩) hi w1).sat.bind
        rintro st' ⟨w, _⟩
        exact Sat.ok w
      · exact Sat.ok hwf
    · simp only [stepM, hi, ↓reduceIte]
  | pushBytes i bs =>
    refine OnSome.slot (fun t hp => ?_)
    have wt := focusWF hwf hp
    split
    · apply (pushBytesUnchecked_spec S.fixupOK bs wt).bind
      rintro ⟨h1, t1⟩ ⟨w1, hab, _⟩
      exact Sat.ok (slot_update hp w1 hab).1
    · exact Sat.ok hwf
  | pushChar i c =>
    refine OnSome.slot (fun t hp => ?_)
    have wt := focusWF hwf hp
    split
    · apply (pushBytesUnchecked_spec S.fixupOK _ wt).bind
      rintro ⟨h1, t1⟩ ⟨w1, hab, _⟩
      exact Sat.ok (slot_update hp w1 hab).1
    · exact Sat.ok hwf
  | pushTendril i j =>
    cases hp : st.pool[i]? with
    | none => simp only [stepM, hp]
    | some o => cases o with
      | none => simp only [stepM, hp]
      | some t =>
        cases hq : st.pool[j]? with
        | none => simp only [stepM, hp, hq]
        | some o2 => cases o2 with
          | none => simp only [stepM, hp, hq]
          | some o =>
            simp only [stepM, hp, hq]
            by_cases hij : i = j
            · simp only [hij, ↓reduceIte]
            · simp only [hij, ↓reduceIte]
              have wt := focusWF hwf hp
              apply (pushTendril_spec S.fixupOK wt (others_mem (Ne.symm hij) hq)).bind
              rintro ⟨h1, t1⟩ ⟨w1, hab, _⟩
              exact Sat.ok (slot_update hp w1 hab).1
  | tryPopFront i n =>
    refine OnSome.slot (fun t hp => ?_)
    apply (tryPopFront_spec F n (focusWF hwf hp)).sat.bind
    rintro ⟨h1, t1, e⟩ ⟨w1, hab, _⟩
    exact Sat.ok (slot_update hp w1 hab).1
  | tryPopBack i n =>
    refine OnSome.slot (fun t hp => ?_)
    apply (tryPopBack_spec F n (focusWF hwf hp)).sat.bind
    rintro ⟨h1, t1, e⟩ ⟨w1, hab, _⟩
    exact Sat.ok (slot_update hp w1 hab).1
  | popFront i n =>
    refine OnSome.slot (fun t hp => ?_)
    apply (tryPopFront_spec F n (focusWF hwf hp)).sat.bind
    rintro ⟨h1, t1, e⟩ ⟨w1, hab, _⟩
    cases e with
    | none => exact Sat.ok (slot_update hp w1 hab).1
    | some e => exact Sat.panic
  | popBack i n =>
    refine OnSome.slot (fun t hp => ?_)
    apply (tryPopBack_spec F n (focusWF hwf hp)).sat.bind
    rintro ⟨h1, t1, e⟩ ⟨w1, hab, _⟩
    cases e with
    | none => exact Sat.ok (slot_update hp w1 hab).1
    | some e => exact Sat.panic
  | trySubtendril i j off len =>
    refine OnSome.slot (fun t hp => ?_)
    refine OnSome.guard (fun hj => ?_)
    apply (trySubtendril_spec F off len (focusWF hwf hp)).sat.bind
    rintro ⟨h1, t1, r⟩ ⟨hab, _, hr⟩
    cases r with
    | inl e => exact Sat.ok (slot_update hp hr.1 hab).1
    | inr s => exact two hp hj hr.1
  | subtendril i j off len =>
    refine OnSome.slot (fun t hp => ?_)
    refine OnSome.guard (fun hj => ?_)
    apply (trySubtendril_spec F off len (focusWF hwf hp)).sat.bind
    rintro ⟨h1, t1, r⟩ ⟨hab, _, hr⟩
    cases r with
    | inl e => exact Sat.panic
    | inr s => exact two hp hj hr.1
  | clone i j =>
    refine OnSome.slot (fun t hp => ?_)
    refine OnSome.guard (fun hj => ?_)
    apply (cloneT_spec (focusWF hwf hp)).sat.bind
    rintro ⟨h1, t1, c⟩ ⟨w1, _, _, _⟩
    exact two hp hj w1
  | clear i =>
    refine OnSome.slot (fun t hp => ?_)
    apply (clearT_spec (focusWF hwf hp)).sat.bind
    rintro ⟨h1, t1⟩ ⟨w1, hab, _⟩
    exact Sat.ok (slot_update hp w1 hab).1
  | drop i =>
    refine OnSome.slot (fun t hp => ?_)
    apply (dropT_spec (focusWF hwf hp)).sat.bind
    rintro h1 ⟨w1, _⟩
    refine Sat.ok ?_
    show WF h1 (liveTs (st.pool.set i none))
    rw [liveTs_set_none (lt_of_lookup hp)]; exact w1
  | popFrontChar i =>
    refine OnSome.slot (fun t hp => ?_)
    refine OnSome.guard (fun hc => ?_)
    obtain ⟨cs, hcs⟩ := Option.isSome_iff_exists.mp (S.chars_total hc (abs st.heap t))
    apply (popFrontChar_spec F (focusWF hwf hp) hcs (S.chars_bound _ cs hcs)).sat.bind
    rintro ⟨h1, t1, c⟩ ⟨w1, hab, _⟩
    exact Sat.ok (slot_update hp w1 hab).1
  | popFrontCharRun i j k =>
    refine OnSome.slot (fun t hp => ?_)
    refine OnSome.guard (fun ⟨hc1, hc2, _⟩ => ?_)
    obtain ⟨cs, hcs⟩ := Option.isSome_iff_exists.mp (S.chars_total hc1 (abs st.heap t))
    apply (popFrontCharRun_spec F (classifier k) (focusWF hwf hp) hcs
      (S.chars_bound _ cs hcs)).sat.bind
    rintro ⟨h1, t1, r⟩ ⟨hab, hr⟩
    cases r with
    | none => exact Sat.ok (slot_update hp hr.1 hab).1
    | some sc => obtain ⟨s, cls⟩ := sc; exact two hp hc2 hr.1
  | sendRoundTrip i =>
    refine OnSome.slot (fun t hp => ?_)
    apply (makeOwned_spec (focusWF hwf hp)).bind
    rintro ⟨h1, t1⟩ ⟨w1, hab, _⟩
    exact Sat.ok (slot_update hp w1 hab).1
  | reserve i n =>
    refine OnSome.slot (fun t hp => ?_)
    apply (reserveT_spec n (focusWF hwf hp)).bind
    rintro ⟨h1, t1⟩ ⟨w1, hab, _⟩
    exact Sat.ok (slot_update hp w1 hab).1
  | withCapacity i n =>
    by_cases hi : i < st.pool.length
    · simp only [stepM, hi, ↓reduceIte]
      apply (withCapacity_spec n hwf).bind
      rintro ⟨h1, t1⟩ ⟨w1, _, _⟩
      apply (store_spec (st := ⟨h1, st.pool⟩) hi w1).sat.bind
      rintro st' ⟨w, _⟩
      exact Sat.ok w
    · simp only [stepM, hi, ↓reduceIte]
  | setByte i k v =>
    refine OnSome.slot (fun t hp => ?_)
    apply (derefMut_spec (focusWF hwf hp)).bind
    rintro ⟨h1, t1⟩ ⟨w1, hab, _, _, hns⟩
    simp only at w1 hab hns
    obtain ⟨a, _⟩ := slot_update hp w1 hab
    by_cases hk : k < t1.len32
    · simp only [hk, ↓reduceIte]
      apply (storeByte_spec k v w1 hns hk).sat.bind
      rintro ⟨h2, t2⟩ ⟨w2, hab2, _⟩
      simp only at w2 hab2
      have hp1 : (St.mk h1 (st.pool.set i (some t1))).pool[i]? = some (some t1) := by
        simp [lt_of_lookup hp]
      have w2' : WF h2 (t2 :: others (St.mk h1 (st.pool.set i (some t1))).pool i) := by
        simp only [others_set]; exact w2
      have hab2' : ∀ u ∈ others (St.mk h1 (st.pool.set i (some t1))).pool i,
          abs h2 u = abs (St.mk h1 (st.pool.set i (some t1))).heap u := by
        simp only [others_set]; exact hab2
      exact Sat.ok (slot_update hp1 w2' hab2').1
    · simp only [hk, ↓reduceIte]
      exact Sat.ok a

/-! ## safety of every step, all reachable states -/

/-- **Bounds and liveness, one step.**  From a well-formed state every operation keeps the
invariant and none of the modelled raw accesses is undefined behaviour (`stepM` never returns
`Fault.ub`): reads lie in the initialised part of a live buffer, writes inside its capacity, every
release is of a live buffer with its allocation size, no reference count underflows. -/
theorem C12_step_safe (F : Format) (S : SafeLaws F) (st : St) (op : Op) (hwf : StWF st) :
    StWF (step F st op).1 ∧ ∀ m, stepM F st op = some m → ∀ s, m ≠ .error (.ub s) := by
  have h := stepM_safe F S st op hwf
  unfold step
  cases hm : stepM F st op with
  | none => exact ⟨hwf, by simp⟩
  | some m =>
    rw [hm] at h
    refine ⟨?_, ?_⟩
    · cases m with
      | ok r => exact h
      | error e =>
        cases e with
        | panic s => exact hwf
        | ub s => exact h.elim
    · intro m' hm' s hs
      cases hm'
      subst hs
      exact h

/-- **All histories.**  Every state reachable from the empty pool satisfies the invariant — for
the formats with `SafeLaws` (Bytes, ASCII, Latin1, WTF8), whatever bytes they hold … -/
theorem C12_reachable (F : Format) (S : SafeLaws F) (slots : Nat) (ops : List Op) :
    StWF (run F (St.init slots) ops) := by
  suffices ∀ st, StWF st → StWF (run F st ops) from this _ (init_wf slots)
  induction ops with
  | nil => intro st h; exact h
  | cons op ops ih =>
    intro st h
    simp only [run, List.foldl_cons]
    exact ih _ (C12_step_safe F S st op h).1

/-- … and for the formats with `Laws` (UTF8 among them), whose safety rests on the contents staying
valid (`char_indices` is only meaningful on valid text). -/
theorem C12_reachable_valid (F : Format) (L : Laws F) (slots : Nat) (ops : List Op) (hs : StoresOK F ops) :
    StWF (run F (St.init slots) ops) :=
  (C11_reachable_wf F L slots ops hs).1

/-! ## the ledger -/

/-- **Ledger.**  In every well-formed (hence every reachable) state the independent monitor accepts
the whole allocation trace — no double free, no release with a wrong size, no write / refcount
access to a released or unknown buffer, no write beyond the capacity, no id reused — and the
monitor's ledger (capacity, liveness per buffer) is exactly the heap's. -/
theorem C12_ledger (st : St) (hwf : StWF st) : Mon.run st.heap.trace = some (proj st.heap) :=
  hwf.ledger

def isFree (id : Nat) : Event → Bool
  | .free i _ => i == id
  | _ => false

def isAlloc (id : Nat) : Event → Bool
  | .alloc i _ => i == id
  | _ => false

def touches (id : Nat) : Event → Bool
  | .alloc i _ | .free i _ | .write i _ _ | .incref i _ | .decref i _ => i == id

theorem mon_getElem?_step {m m' : Mon} {e : Event} {id : Nat} (h : m.step e = some m')
    (hn : touches id e = false) (hlt : id < m.length) : m'[id]? = m[id]? := by
  cases e with
  | alloc i c =>
    simp only [Mon.step] at h
    split at h
    · cases h; rw [List.getElem?_append_left hlt]
    · cases h
  | free i c =>
    simp only [touches, beq_eq_false_iff_ne] at hn
    simp only [Mon.step] at h
    split at h
    · split at h
      · cases h; rw [List.getElem?_set_ne hn]
      · cases h
    · cases h
  | write i lo hi =>
    simp only [Mon.step] at h
    split at h
    · split at h
      · cases h; rfl
      · cases h
    · cases h
  | incref i o =>
    simp only [Mon.step] at h
    split at h
    · cases h; rfl
    · cases h
  | decref i o =>
    simp only [Mon.step] at h
    split at h
    · cases h; rfl
    · cases h

theorem mon_length_step {m m' : Mon} {e : Event} (h : m.step e = some m') : m.length ≤ m'.length := by
  cases e <;> simp only [Mon.step] at h <;> (repeat' split at h) <;>
    first
    | (cases h; simp)
    | cases h

/-- an event on a released (or never allocated but in-range) buffer is rejected -/
theorem mon_dead_rejects {m m' : Mon} {e : Event} {id c : Nat} (h : m.step e = some m')
    (hd : m[id]? = some (c, false)) : touches id e = false := by
  have hlt : id < m.length := (List.getElem?_eq_some_iff.mp hd).1
  cases e with
  | alloc i c' =>
    simp only [Mon.step] at h
    split at h
    · rename_i hi; simp only [touches, beq_eq_false_iff_ne]; omega
    · cases h
  | free i c' =>
    simp only [touches, beq_eq_false_iff_ne]
    rintro rfl
    simp only [Mon.step, hd] at h
    cases h
  | write i lo hi =>
    simp only [touches, beq_eq_false_iff_ne]
    rintro rfl
    simp only [Mon.step, hd] at h
    cases h
  | incref i o =>
    simp only [touches, beq_eq_false_iff_ne]
    rintro rfl
    simp only [Mon.step, hd] at h
    cases h
  | decref i o =>
    simp only [touches, beq_eq_false_iff_ne]
    rintro rfl
    simp only [Mon.step, hd] at h
    cases h

theorem run_append_some {post tr : List Event} {m : Mon} (h : Mon.run (post ++ tr) = some m) :
    ∃ m0, Mon.run tr = some m0 := by
  induction post generalizing m with
  | nil => exact ⟨m, h⟩
  | cons e post ih =>
    simp only [List.cons_append, Mon.run] at h
    cases hr : Mon.run (post ++ tr) with
    | none => rw [hr] at h; cases h
    | some m1 => exact ih hr

/-- **Nothing after the release.**  In an accepted trace (newest event first) no event that
follows the release of a buffer mentions that buffer — no access after free, no second free, no
re-allocation of the id. -/
theorem mon_dead_forever {post pre : List Event} {m : Mon} {id c : Nat}
    (h : Mon.run (post ++ .free id c :: pre) = some m) :
    (∀ e ∈ post, touches id e = false) ∧ ∃ c', m[id]? = some (c', false) := by
  induction post generalizing m with
  | nil =>
    refine ⟨by simp, ?_⟩
    simp only [List.nil_append, Mon.run] at h
    cases hr : Mon.run pre with
    | none => rw [hr] at h; cases h
    | some m0 =>
      rw [hr] at h
      simp only [Option.bind, Mon.step] at h
      split at h
      · rename_i c0 hc
        split at h
        · cases h
          exact ⟨c0, by rw [List.getElem?_set_self (List.getElem?_eq_some_iff.mp hc).1]⟩
        · cases h
      · cases h
  | cons e post ih =>
    simp only [List.cons_append, Mon.run] at h
    cases hr : Mon.run (post ++ .free id c :: pre) with
    | none => rw [hr] at h; cases h
    | some m1 =>
      rw [hr] at h
      simp only [Option.bind] at h
      obtain ⟨hpost, c', hd⟩ := ih hr
      have hne := mon_dead_rejects h hd
      refine ⟨?_, c', ?_⟩
      · intro e' he'
        rcases List.mem_cons.mp he' with rfl | he'
        · exact hne
        · exact hpost e' he'
      · rw [mon_getElem?_step h hne (List.getElem?_eq_some_iff.mp hd).1]; exact hd

/-- **Allocated once, freed at most once.**  In an accepted trace every id below the ledger size
has exactly one `alloc` event, ids beyond it none, and an id has one `free` event if the ledger
says released and none otherwise. -/
theorem mon_free_once {tr : List Event} {m : Mon} (h : Mon.run tr = some m) (id : Nat) :
    tr.countP (isAlloc id) = (if id < m.length then 1 else 0) ∧
    tr.countP (isFree id) = (match m[id]? with | some (_, false) => 1 | _ => 0) := by
  induction tr generalizing m with
  | nil => cases h; simp
  | cons e tr ih =>
    simp only [Mon.run] at h
    cases hr : Mon.run tr with
    | none => rw [hr] at h; cases h
    | some m0 =>
      rw [hr] at h
      simp only [Option.bind] at h
      obtain ⟨ia, if_⟩ := ih hr
      rw [List.countP_cons, List.countP_cons, ia, if_]
      cases e with
      | alloc i c =>
        simp only [Mon.step] at h
        split at h
        · rename_i hi
          cases h
          subst hi
          simp only [isAlloc, isFree, List.length_append, List.length_cons, List.length_nil]
          by_cases h1 : id < m0.length
          · have : ¬ (m0.length = id) := by omega
            simp [h1, this, List.getElem?_append_left h1]; omega
          · by_cases h2 : m0.length = id
            · subst h2
              simp [List.getElem?_eq_none]
            · have h3 : ¬ id < m0.length + 1 := by omega
              have h4 : (m0 ++ [(c, true)])[id]? = none := by
                rw [List.getElem?_eq_none]; simp; omega
              simp [h1, h2, h3, h4, List.getElem?_eq_none (Nat.le_of_not_lt h1)]
        · cases h
      | free i c =>
        simp only [Mon.step] at h
        split at h
        · rename_i c0 hc
          split at h
          · cases h
            simp only [isAlloc, isFree, List.length_set]
            by_cases hi : i = id
            · subst hi
              simp [hc, List.getElem?_set_self (List.getElem?_eq_some_iff.mp hc).1]
            · have : (i == id) = false := by simpa using hi
              simp [this, List.getElem?_set_ne hi]
          · cases h
        · cases h
      | write i lo hi =>
        simp only [Mon.step] at h
        split at h
        · split at h
          · cases h; simp [isAlloc, isFree]
          · cases h
        · cases h
      | incref i o =>
        simp only [Mon.step] at h
        split at h
        · cases h; simp [isAlloc, isFree]
        · cases h
      | decref i o =>
        simp only [Mon.step] at h
        split at h
        · cases h; simp [isAlloc, isFree]
        · cases h

/-! ## live exactly while referenced -/

/-- **Freed when, and only when, the last reference goes.**  In every well-formed state a buffer is
live iff some tendril of the pool refers to it; while live its reference count is the number of
tendrils referring to it (1 for an owned buffer); nothing refers to a released buffer. -/
theorem C12_live_iff_referenced (st : St) (hwf : StWF st) (id : Nat) (b : Buf)
    (hb : st.heap.bufs[id]? = some b) :
    (b.live = true ↔ ∃ (i : Nat) (t : T), st.pool[i]? = some (some t) ∧ t.bufId? = some id) ∧
    (b.live = true → b.refcount = refs (liveTs st.pool) id) := by
  refine ⟨⟨?_, ?_⟩, fun hl => (hwf.live id b hb hl).1⟩
  · intro hl
    have := (hwf.live id b hb hl).2
    unfold refs at this
    obtain ⟨t, ht, hid⟩ := List.countP_pos_iff.mp this
    obtain ⟨i, hi⟩ := mem_liveTs.mp ht
    exact ⟨i, t, hi, by simpa using hid⟩
  · rintro ⟨i, t, hi, hid⟩
    cases hl : b.live with
    | true => rfl
    | false =>
      have := hwf.dead id b hb hl
      have hp := refs_pos_of_mem (mem_liveTs.mpr ⟨i, hi⟩) hid
      omega

/-! ## dropping everything leaves nothing -/

theorem liveTs_eq_nil {pool : List (Option T)} (h : ∀ (i : Nat) (t : T), pool[i]? ≠ some (some t)) :
    liveTs pool = [] := by
  cases hl : liveTs pool with
  | nil => rfl
  | cons t r =>
    have : t ∈ liveTs pool := by rw [hl]; exact List.mem_cons_self ..
    obtain ⟨i, hi⟩ := mem_liveTs.mp this
    exact (h i t hi).elim

/-- the body of `dropAll`, over an arbitrary list of slot indices -/
theorem dropList_spec (is : List Nat) (st : St) (hwf : StWF st) :
    SatT (is.foldlM (fun (st : St) i =>
        match st.pool[i]? with
        | some (some t) => do
          let h ← dropT st.heap t
          (.ok ⟨h, st.pool.set i none⟩ : M St)
        | _ => .ok st) st)
      (fun st' => StWF st' ∧ st'.pool.length = st.pool.length ∧
        ∀ (j : Nat) (t : T), st'.pool[j]? = some (some t) → st.pool[j]? = some (some t) ∧ j ∉ is) := by
  induction is generalizing st with
  | nil => exact SatT.ok ⟨hwf, rfl, fun j t h => ⟨h, by simp⟩⟩
  | cons i is ih =>
    simp only [List.foldlM_cons]
    have hstep : SatT (match st.pool[i]? with
        | some (some t) => do
          let h ← dropT st.heap t
          (.ok ⟨h, st.pool.set i none⟩ : M St)
        | _ => .ok st)
        (fun st1 => StWF st1 ∧ st1.pool.length = st.pool.length ∧
          ∀ (j : Nat) (t : T), st1.pool[j]? = some (some t) → st.pool[j]? = some (some t) ∧ j ≠ i) := by
      cases hp : st.pool[i]? with
      | none =>
        refine SatT.ok ⟨hwf, rfl, fun j t h => ⟨h, ?_⟩⟩
        rintro rfl; rw [hp] at h; cases h
      | some o =>
        cases o with
        | none =>
          refine SatT.ok ⟨hwf, rfl, fun j t h => ⟨h, ?_⟩⟩
          rintro rfl; rw [hp] at h; cases h
        | some t =>
          simp only []
          apply (dropT_spec (focusWF hwf hp)).bind
          rintro h1 ⟨w1, _⟩
          refine SatT.ok ⟨?_, by simp, ?_⟩
          · show WF h1 (liveTs (st.pool.set i none))
            rw [liveTs_set_none (lt_of_lookup hp)]; exact w1
          · intro j t' hj
            simp only at hj
            by_cases hji : j = i
            · subst hji
              rw [List.getElem?_set_self (lt_of_lookup hp)] at hj; cases hj
            · rw [List.getElem?_set_ne (Ne.symm hji)] at hj
              exact ⟨hj, hji⟩
    apply hstep.bind
    rintro st1 ⟨w1, hl1, hr1⟩
    apply (ih st1 w1).mono
    rintro st2 ⟨w2, hl2, hr2⟩
    refine ⟨w2, by omega, ?_⟩
    intro j t hj
    obtain ⟨h1, h2⟩ := hr2 j t hj
    obtain ⟨h3, h4⟩ := hr1 j t h1
    exact ⟨h3, by simp [h2, h4]⟩

/-- **Empty at the end.**  Dropping every tendril of a well-formed pool succeeds (no double free, no
undefined behaviour), and afterwards no buffer is live: every buffer that was ever allocated has
been released (exactly once, by `mon_free_once`), and the monitor still accepts the trace. -/
theorem C12_empty_at_end (st : St) (hwf : StWF st) :
    ∃ st', dropAll st = .ok st' ∧ StWF st' ∧ (∀ b ∈ st'.heap.bufs, b.live = false) ∧
      st'.heap.liveCount = 0 ∧
      (∀ id, id < st'.heap.bufs.length →
        st'.heap.trace.countP (isAlloc id) = 1 ∧ st'.heap.trace.countP (isFree id) = 1) := by
  obtain ⟨st', he, w', hl, hr⟩ := dropList_spec (List.range st.pool.length) st hwf
  have hnone : ∀ (i : Nat) (t : T), st'.pool[i]? ≠ some (some t) := by
    intro i t hi
    obtain ⟨h1, h2⟩ := hr i t hi
    have := lt_of_lookup h1
    exact h2 (List.mem_range.mpr this)
  have hnil := liveTs_eq_nil hnone
  have hdead : ∀ b ∈ st'.heap.bufs, b.live = false := by
    intro b hb
    obtain ⟨id, hlt, hid⟩ := List.getElem_of_mem hb
    have hb' : st'.heap.bufs[id]? = some b := by rw [List.getElem?_eq_getElem hlt, hid]
    cases hlv : b.live with
    | false => rfl
    | true =>
      have := (w'.live id b hb' hlv).2
      unfold StWF at w'
      rw [hnil] at this
      simp at this
  refine ⟨st', he, w', hdead, ?_, ?_⟩
  · unfold Heap.liveCount
    rw [List.countP_eq_zero]
    intro b hb
    simp [hdead b hb]
  · intro id hid
    have hm := mon_free_once w'.ledger id
    have hb : st'.heap.bufs[id]? = some st'.heap.bufs[id] := List.getElem?_eq_getElem hid
    have hd := hdead _ (List.getElem_mem hid)
    rw [proj_length, if_pos hid, proj_getElem?, hb] at hm
    simp only [Option.map, hd] at hm
    exact hm

/-! ## the atomic reference count under every interleaving

`Atomic::increment` is `fetch_add(1, Relaxed)`, `Atomic::decrement` is `fetch_sub(1, Release)`
followed, when it observed 1, by an Acquire fence and `destroy`.  Threads are modelled by the number
of references (tendrils viewing the buffer) each of them holds; a thread can clone (`inc`), drop
(`dec`) or send away (`xfer`) only a reference it holds.  An execution is any sequence of such
events — any interleaving of the threads' programs — applied atomically to the counter
(linearisability of `fetch_add` / `fetch_sub` is the trusted base).  -/

inductive AEv where
  | inc (t : Nat)          -- thread `t` clones a tendril it holds: `fetch_add`
  | dec (t : Nat)          -- thread `t` drops a tendril it holds: `fetch_sub`
  | xfer (a b : Nat)       -- thread `a` sends a tendril it holds to thread `b`
deriving Repr, DecidableEq

structure AState where
  counter : Nat
  hold : List Nat          -- references held per thread
deriving Repr, DecidableEq

/-- one atomic event; `none` = the thread does not hold a reference (not a behaviour of safe code);
the second component is the value a `fetch_sub` observed -/
def AState.step (s : AState) : AEv → Option (AState × Option Nat)
  | .inc t => match s.hold[t]? with
    | some (k + 1) => some (⟨s.counter + 1, s.hold.set t (k + 2)⟩, none)
    | _ => none
  | .dec t => match s.hold[t]? with
    | some (k + 1) => some (⟨s.counter - 1, s.hold.set t k⟩, some s.counter)
    | _ => none
  | .xfer a b => match s.hold[a]?, s.hold[b]? with
    | some (k + 1), some _ =>
      let h1 := s.hold.set a k
      some (⟨s.counter, h1.set b (h1[b]?.getD 0 + 1)⟩, none)
    | _, _ => none

/-- run a whole schedule; the observations are aligned with the events -/
def AState.run (s : AState) : List AEv → Option (AState × List (Option Nat))
  | [] => some (s, [])
  | e :: es => match s.step e with
    | none => none
    | some (s1, o) => match AState.run s1 es with
      | none => none
      | some (s', obs) => some (s', o :: obs)

/-- the counter is the number of references in existence -/
def AState.WFa (s : AState) : Prop := s.counter = s.hold.sum

theorem sum_set (l : List Nat) (i v : Nat) (h : i < l.length) : (l.set i v).sum + l[i] = l.sum + v := by
  induction l generalizing i with
  | nil => simp at h
  | cons x xs ih =>
    cases i with
    | zero => simp; omega
    | succ k =>
      simp only [List.length_cons, Nat.add_lt_add_iff_right] at h
      simp only [List.set_cons_succ, List.sum_cons, List.getElem_cons_succ]
      have := ih k h
      omega

theorem le_sum (l : List Nat) (i : Nat) (h : i < l.length) : l[i] ≤ l.sum := by
  have := sum_set l i 0 h
  omega

theorem step_wfa {s s1 : AState} {e : AEv} {o : Option Nat} (w : s.WFa) (h : s.step e = some (s1, o)) :
    s1.WFa ∧ 1 ≤ s.counter ∧ (∀ v, o = some v → v = s.counter ∧ s1.counter + 1 = s.counter) ∧
      (o = none → s.counter ≤ s1.counter) := by
  unfold AState.WFa at w ⊢
  cases e with
  | inc t =>
    simp only [AState.step] at h
    split at h
    · rename_i k hk
      cases h
      obtain ⟨hlt, hv⟩ := List.getElem?_eq_some_iff.mp hk
      have := sum_set s.hold t (k + 2) hlt
      have := le_sum s.hold t hlt
      refine ⟨by simp only; omega, by omega, (by intro v hv'; cases hv'), by intro; simp only; omega⟩
    · cases h
  | dec t =>
    simp only [AState.step] at h
    split at h
    · rename_i k hk
      cases h
      obtain ⟨hlt, hv⟩ := List.getElem?_eq_some_iff.mp hk
      have := sum_set s.hold t k hlt
      have := le_sum s.hold t hlt
      refine ⟨by simp only; omega, by omega, (by intro v hv'; cases hv'; exact ⟨rfl, by simp only; omega⟩),
        (by intro h; cases h)⟩
    · cases h
  | xfer a b =>
    simp only [AState.step] at h
    split at h
    · rename_i k x hk hb
      cases h
      obtain ⟨hlt, hv⟩ := List.getElem?_eq_some_iff.mp hk
      obtain ⟨hltb, hvb⟩ := List.getElem?_eq_some_iff.mp hb
      have h1 := sum_set s.hold a k hlt
      have hltb' : b < (s.hold.set a k).length := by simpa using hltb
      have h2 := sum_set (s.hold.set a k) b ((s.hold.set a k)[b]?.getD 0 + 1) hltb'
      have h3 : (s.hold.set a k)[b]?.getD 0 = (s.hold.set a k)[b] := by
        rw [List.getElem?_eq_getElem hltb']; rfl
      have := le_sum s.hold a hlt
      refine ⟨by simp only; omega, by omega, (by intro v hv'; cases hv'), by intro; exact Nat.le_refl _⟩
    · cases h

/-- once the counter is 0 nobody holds a reference, so no further event can happen -/
theorem step_zero {s : AState} (w : s.WFa) (h0 : s.counter = 0) (e : AEv) : s.step e = none := by
  cases hs : s.step e with
  | none => rfl
  | some r =>
    obtain ⟨s1, o⟩ := r
    have := (step_wfa w hs).2.1
    omega

theorem run_zero {s : AState} (w : s.WFa) (h0 : s.counter = 0) {es : List AEv} {r} (h : s.run es = some r) :
    es = [] := by
  cases es with
  | nil => rfl
  | cons e es => simp only [AState.run, step_zero w h0 e] at h; cases h

/-- **Atomic reference count, every interleaving.**  Start with a counter that equals the number of
references held (≥ 1) and apply any schedule of clone / drop / send events in which every thread
only uses references it holds.  Then
 * every event finds the counter ≥ 1 (the buffer is alive whenever anybody touches it),
 * a `fetch_sub` that observes 1 is the last event of the schedule — nothing touches the counter
   (or the buffer) after the thread that will destroy it — hence at most one does,
 * if at the end all references are gone, the last event is a `fetch_sub` that observed 1: the
   buffer is destroyed exactly once, by the last user. -/
theorem C12_atomic_interleaving (s : AState) (es : List AEv) (s' : AState) (obs : List (Option Nat))
    (w : s.WFa) (h1 : 1 ≤ s.counter) (hr : s.run es = some (s', obs)) :
    obs.length = es.length ∧ s'.WFa ∧
    (∀ (k v : Nat), obs[k]? = some (some v) → 1 ≤ v) ∧
    (∀ k : Nat, obs[k]? = some (some 1) → k + 1 = es.length) ∧
    (s'.counter = 0 → ∃ k : Nat, k + 1 = es.length ∧ obs[k]? = some (some 1)) := by
  induction es generalizing s obs with
  | nil =>
    simp only [AState.run, Option.some.injEq, Prod.mk.injEq] at hr
    obtain ⟨rfl, rfl⟩ := hr
    exact ⟨rfl, w, by simp, by simp, by intro h; omega⟩
  | cons e es ih =>
    simp only [AState.run] at hr
    cases hs : s.step e with
    | none => rw [hs] at hr; cases hr
    | some r1 =>
      obtain ⟨s1, o⟩ := r1
      rw [hs] at hr
      simp only [] at hr
      cases hr1 : s1.run es with
      | none => rw [hr1] at hr; cases hr
      | some r2 =>
        obtain ⟨s2, obs2⟩ := r2
        rw [hr1] at hr
        simp only [Option.some.injEq, Prod.mk.injEq] at hr
        obtain ⟨rfl, rfl⟩ := hr
        obtain ⟨w1, hc, hobs, hnone⟩ := step_wfa w hs
        by_cases hz : s1.counter = 0
        · -- the event took the last reference: nothing can follow
          have hes := run_zero w1 hz hr1
          subst hes
          simp only [AState.run, Option.some.injEq, Prod.mk.injEq] at hr1
          obtain ⟨rfl, rfl⟩ := hr1
          cases o with
          | none => have := hnone rfl; omega
          | some v =>
            obtain ⟨hv, hv2⟩ := hobs v rfl
            have hv1 : v = 1 := by omega
            subst hv1
            refine ⟨rfl, w1, ?_, ?_, ?_⟩
            · intro k v' hk
              cases k with
              | zero => simp at hk; omega
              | succ k => simp at hk
            · intro k hk
              cases k with
              | zero => rfl
              | succ k => simp at hk
            · intro _; exact ⟨0, rfl, rfl⟩
        · obtain ⟨hl, w2, ha, hb, hc2⟩ := ih s1 obs2 w1 (by omega) hr1
          refine ⟨by simp [hl], w2, ?_, ?_, ?_⟩
          · intro k v hk
            cases k with
            | zero =>
              simp only [List.getElem?_cons_zero, Option.some.injEq] at hk
              obtain ⟨hv, _⟩ := hobs v hk
              omega
            | succ k => exact ha k v (by simpa using hk)
          · intro k hk
            cases k with
            | zero =>
              simp only [List.getElem?_cons_zero, Option.some.injEq] at hk
              obtain ⟨hv, hv2⟩ := hobs 1 hk
              rw [← hv] at hv2
              exact absurd (Nat.succ.inj hv2) hz
            | succ k =>
              have := hb k (by simpa using hk)
              simp only [List.length_cons]; omega
          · intro h0
            obtain ⟨k, hk1, hk2⟩ := hc2 h0
            refine ⟨k + 1, ?_, ?_⟩
            · simp only [List.length_cons]; omega
            · simpa using hk2

/-! ## non-vacuity -/

/-- three threads, clones and drops interleaved: the only `fetch_sub` observing 1 is the last event -/
example : (AState.mk 1 [1, 0, 0]).run [.inc 0, .xfer 0 1, .inc 1, .xfer 1 2, .dec 0, .dec 2, .dec 1]
    = some (⟨0, [0, 0, 0]⟩, [none, none, none, none, some 3, some 2, some 1]) := by decide

/-- a thread that holds nothing cannot touch the counter -/
example : (AState.mk 1 [1, 0]).run [.dec 0, .dec 1] = none := by decide

/-- a double free is rejected by the monitor, a correct trace is accepted -/
example : Mon.run [.free 0 16, .free 0 16, .alloc 0 16] = none := by decide
example : Mon.run [.free 0 16, .write 0 0 9, .alloc 0 16] = some [(16, false)] := by decide
example : Mon.run [.write 0 0 9, .free 0 16, .alloc 0 16] = none := by decide
example : Mon.run [.write 0 0 17, .alloc 0 16] = none := by decide

/-- a history after which dropping the pool releases both buffers -/
example : ((run Format.bytes (St.init 4)
    [.fromBytes 0 [1,2,3,4,5,6,7,8,9,10], .clone 0 1, .pushBytes 1 [0xff], .drop 0, .drop 1]).heap.bufs.map
      (·.live)) = [false, false] := by decide

end H5V.Props.C12
