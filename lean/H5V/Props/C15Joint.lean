import H5V.Props.C15
import H5V.Props.C15Run
import H5V.Props.C15Tree
import H5V.Props.C04XmlTerm
import H5V.Model.XmlTokDriver
import H5V.Model.XmlJoint

/-!
C15, **end to end**: the joint XML parse (tokenizer model → tree-builder model) is independent of how
the input is chunked and of `exact_errors` — ONE statement about the final tree, composed from the
tokenizer-level theorems (`Props/C15.lean`: `C15_chunking`/`C15_feedAll`, `C15_finish_sim`;
`Props/C15Run.lean` / `Lemmas/XmlTokOptE.lean`: `feed_RunE`, `finish_E`), the termination theorems
(`Props/C04XmlTerm.lean`: `feed`/`end` are total, the model's fuel `fuelFor` is never exhausted and not
observable), and the tree-level theorems (`Props/C15Tree.lean`: `C15_tree_merge_obs`; `C16_no_panic`).

## the joint definition

* `xjTok` / `xjToks` — `XmlTreeBuilder::process_token` (tree_builder/mod.rs:410-428): a tokenizer
  `ParseError` is forwarded to `sink.parse_error` and changes nothing in the builder
  (`XmlTB.Token` = "`tokenizer::Token` minus `ParseError`"), every other token is converted
  constructor by constructor (`Tag` with the names the tokenizer already split and the attribute list it
  already de-duplicated and ordered, `Doctype`, `Pi`, `Comment`, `Characters`, `EndOfFile`).
  `NullCharacter` is never produced by the tokenizer (`emit_char` replaces U+0000).
* `xjFeedChunks` — `XmlParser::process` for every chunk: the feed loop of `XmlTokDriver.runTok`
  (`feed o m [] chunk`, which must drain the queue); `xj_driverFeed_ok` ties it to the literal
  `foldlM` of the driver, `xj_feedChunks_ok` to `feedAll` of `Props/C15.lean`.
* `xmlTokensChunks o m0 chunks` — the chunks, then `XmlTokenizer::end` (`finish`): the delivered token
  log, newest first, parse-error tokens included (= what `runTok` prints through `showOut`).
* `xmlParseChunks o cfg m0 chunks` — that log, oldest first, through `xjToks` into
  `XmlTB.run cfg State.init`.  `XmlTreeBuilder::end` only pops the open elements (`sink.pop`, no tree
  effect); the document is read off the final state by `State.document`, which `Obs` does.
  (`XmlTokDriver.runCase` answers `no-model` for `tree` cases — the `xmltok tree` family compares code
  with code — so the hand-over is defined here from the Rust source; it is the only possible one: the
  two models share no other interface.)

## what is proved (all inputs, all chunkings, no bounds)

* `C15_joint_tokens_chunk_independence`, `C15_joint_chunk_independence_state`,
  `C15_joint_chunk_independence`, `C15_joint_total` — for every `Opts`, `TbCfg`, every start machine
  satisfying `XjStart` (in particular `xjFresh st bom`: every `XmlTokenizer::new`, any initial state,
  `discard_bom` on or off), every chunk list: the chunked parse and the one-piece parse of the
  concatenation both succeed, deliver the same token log *including parse-error tokens*, and end in
  the *same tree-builder state*, hence the same `Obs`.  There is no fuel parameter: `feed` and `end`
  compute their own (`fuelFor`), proved sufficient in C04XmlTerm.
* `C15_joint_tokens_exact_errors`, `C15_joint_exact_errors_state`, `C15_joint_exact_errors`(`_on_off`)
  — for *every* machine (no hypothesis), every chunk list and any two option values: same failure or
  same tree-builder state.  Tokenizer parse-error tokens never reach the builder's state machine
  (`xjToks_noErr`); their texts and their *number* do depend on `exact_errors` (example below: 11
  against 13 log entries) — these messages go to `sink.parse_error` and are NOT part of `Obs`;
  the tree builder's own error log is, and it is equal here even without `dedupAdj`.
* `C15_joint_end_to_end`(`_state`), `C15_joint_any_two` — any chunking × either option value = the
  one-piece default parse.
* `C15_joint_run_boundaries`, `C15_joint_canon_obs` — the model reads character runs one character
  at a time, the real tokenizer cuts them along chunk/buffer boundaries; every token stream that
  equals the model's after merging adjacent character tokens (`mergeChars` on builder tokens, resp.
  the driver's `canon` on tokenizer tokens — the criterion of the `xmltok` correspondence) gives the
  same `Obs` (here the collapsed error log `dedupAdj` of `Obs` is essential:
  `C15_tree_error_count_depends_on_cut`).

## script suspension

The XML tokenizer model has **no sink feedback**: `XmlTok.run` iterates `step` until it needs more
input, there is no `Script` answer in `XmlTok.R`/`RunRes` and none in `FeedSession`/`feedAll`, the
session functions of the existing C15 theorems.  In the Rust, `XmlProcessResult::Script` makes
`run` return `TokenizerResult::Script`; `XmlParser::process` (driver.rs:68) answers by calling
`feed` again at once (`while let Script(_) = feed(..) {}`), `end()` ignores it (mod.rs:1159): the
pause is not observable in tokens or tree, which is what the model (and `XmlTB.step`'s inlined
`</script>`/`<script/>` handling) assumes.  So nothing is excluded *within the model*; that the pause is
inert in the code is covered by the correspondence runs, not by a theorem.
-/
namespace H5V.Props.C15
open H5V.Model

/-- what the theorems need of the start machine -/
structure XjStart (m : XmlTok.Mach) : Prop where
  good : XmlTok.Good m
  tinv : XmlTok.TInv m
  atEof : m.atEof = false

theorem xjStart_fresh (st : XmlTok.State) (bom : Bool) : XjStart (xjFresh st bom) :=
  ⟨good_initial st bom, H5V.Props.C04X.C04_xml_initial_inv st bom, rfl⟩

/-! ## the feed loop -/

theorem xj_feedStep_ok (o : XmlTok.Opts) (m : XmlTok.Mach) (c : XmlTok.Str) (m' : XmlTok.Mach) :
    xjFeedStep o m c = .ok m' ↔ XmlTok.feed o m [] c = .done m' [] := by
  unfold xjFeedStep
  cases hf : XmlTok.feed o m [] c with
  | done m1 inp =>
    cases inp with
    | nil | cons x xs => simp
  | panic e | outOfFuel => simp

theorem xj_feedChunks_ok (o : XmlTok.Opts) (cs : List XmlTok.Str) : ∀ (m mf : XmlTok.Mach),
    xjFeedChunks o m cs = .ok mf ↔ feedAll o m cs = some mf := by
  induction cs with
  | nil => intro m mf; simp [xjFeedChunks, feedAll]
  | cons c cs ih =>
    intro m mf
    simp only [xjFeedChunks, feedAll]
    cases hs : xjFeedStep o m c with
    | ok m1 =>
      have hf := (xj_feedStep_ok o m c m1).mp hs
      rw [hf]
      exact ih m1 mf
    | error e =>
      constructor
      · intro h; cases h
      · intro h
        split at h
        · rename_i m1 hf
          rw [(xj_feedStep_ok o m c m1).mpr hf] at hs
          cases hs
        · cases h

theorem xj_feedChunks_total (o : XmlTok.Opts) (cs : List XmlTok.Str) : ∀ (m : XmlTok.Mach), XmlTok.TInv m →
    ∃ mf, xjFeedChunks o m cs = .ok mf ∧ XmlTok.TInv mf := by
  induction cs with
  | nil => intro m hi; exact ⟨m, rfl, hi⟩
  | cons c cs ih =>
    intro m hi
    obtain ⟨m1, hf, hi1⟩ := H5V.Props.C04X.C04_xml_feed_total o m [] c hi
    obtain ⟨mf, h1, h2⟩ := ih m1 hi1
    refine ⟨mf, ?_, h2⟩
    simp only [xjFeedChunks, (xj_feedStep_ok o m c m1).mpr hf]
    exact h1

theorem xj_feedAll_empty (o : XmlTok.Opts) (cs : List XmlTok.Str) (m : XmlTok.Mach) (h : cs.flatten = []) :
    feedAll o m cs = some m := by
  induction cs with
  | nil => rfl
  | cons c cs ih =>
    simp only [List.flatten_cons, List.append_eq_nil_iff] at h
    obtain ⟨hc, hcs⟩ := h
    subst hc
    have : XmlTok.feed o m [] [] = .done m [] := by simp [XmlTok.feed]
    simp only [feedAll, this]
    exact ih hcs

/-- the one-piece feed of the concatenation ends in the machine of the chunked feed, up to a dead
`current_char` -/
theorem xj_feed_flatten (o : XmlTok.Opts) (m : XmlTok.Mach) (cs : List XmlTok.Str) (mf : XmlTok.Mach)
    (hs : XjStart m) (h : feedAll o m cs = some mf) :
    ∃ mf1, feedAll o m [cs.flatten] = some mf1 ∧ XmlTok.Sim mf1 mf := by
  by_cases hne : cs.flatten = []
  · rw [xj_feedAll_empty o cs m hne] at h
    cases h
    exact ⟨m, by rw [hne]; exact xj_feedAll_empty o [[]] m rfl, XmlTok.Sim.refl _⟩
  · obtain ⟨fuel, mf', hr, hsim, _⟩ := C15_feedAll o m cs mf hs.good hs.atEof h hne
    refine ⟨mf', ?_, hsim⟩
    have hi := XmlTok.feedBom_tinv m cs.flatten hs.tinv
    have hF := H5V.Props.C04X.C04_xml_run_terminates_fuelFor o _ (XmlTok.feedBom m cs.flatten).2 hi
    have hfu : XmlTok.run o fuel (XmlTok.feedBom m cs.flatten).1 (XmlTok.feedBom m cs.flatten).2 ≠ .outOfFuel := by
      rw [hr]; intro hh; cases hh
    have e1 := XmlTok.run_fuel_mono o _ (max fuel (XmlTok.fuelFor (XmlTok.feedBom m cs.flatten).1
      (XmlTok.feedBom m cs.flatten).2)) _ _ hfu (Nat.le_max_left _ _)
    have e2 := XmlTok.run_fuel_mono o _ (max fuel (XmlTok.fuelFor (XmlTok.feedBom m cs.flatten).1
      (XmlTok.feedBom m cs.flatten).2)) _ _ hF (Nat.le_max_right _ _)
    have hfeed : XmlTok.feed o m [] cs.flatten = .done mf' [] := by
      unfold XmlTok.feed
      simp only [List.nil_append]
      have : cs.flatten.isEmpty = false := by
        cases hc : cs.flatten with
        | nil => exact absurd hc hne
        | cons _ _ => rfl
      simp only [this, Bool.false_eq_true, if_false]
      rw [← e2, e1, hr]
    simp only [feedAll, hfeed]

/-! ## chunk independence -/

/-- **tokens**: the whole token log (parse-error tokens included) of the chunked parse is the log of the
one-piece parse; both parses succeed -/
theorem C15_joint_tokens_chunk_independence (o : XmlTok.Opts) (m0 : XmlTok.Mach) (chunks : List XmlTok.Str)
    (hs : XjStart m0) :
    ∃ out, xmlTokensChunks o m0 chunks = .ok out ∧ xmlTokensChunks o m0 [chunks.flatten] = .ok out := by
  obtain ⟨mf, hf, hi⟩ := xj_feedChunks_total o chunks m0 hs.tinv
  obtain ⟨mf1, hf1, hsim⟩ := xj_feed_flatten o m0 chunks mf hs ((xj_feedChunks_ok o chunks m0 mf).mp hf)
  have hf1' := (xj_feedChunks_ok o [chunks.flatten] m0 mf1).mpr hf1
  obtain ⟨me, hfin, _⟩ := H5V.Props.C04X.C04_xml_finish_total o mf hi
  have hfs := C15_finish_sim o mf1 mf hsim
  rw [hfin] at hfs
  cases hfin1 : XmlTok.finish o mf1 with
  | error e => rw [hfin1] at hfs; cases hfs
  | ok me1 =>
    rw [hfin1] at hfs
    simp only [Except.map, Except.ok.injEq] at hfs
    refine ⟨me.out, ?_, ?_⟩
    · simp only [xmlTokensChunks, hf, hfin]
    · simp only [xmlTokensChunks, hf1', hfin1, hfs]

/-! ## `exact_errors` -/

/-- relation between the results of two feed loops run with different options -/
def XjOptE : Except String XmlTok.Mach → Except String XmlTok.Mach → Prop
  | .ok a, .ok b => XmlTok.E a b
  | .error x, .error y => x = y
  | _, _ => False

theorem xj_feedStep_optE (o1 o2 : XmlTok.Opts) {m1 m2 : XmlTok.Mach} (h : XmlTok.E m1 m2) (c : XmlTok.Str) :
    XjOptE (xjFeedStep o1 m1 c) (xjFeedStep o2 m2 c) := by
  have hf := XmlTok.feed_RunE o1 o2 h [] c
  unfold xjFeedStep
  generalize XmlTok.feed o1 m1 [] c = r1 at hf
  generalize XmlTok.feed o2 m2 [] c = r2 at hf
  cases r1 <;> cases r2 <;> first | exact hf.elim | skip
  · obtain ⟨g1, g2⟩ := hf
    subst g2
    rename_i x i y
    cases i with
    | nil => exact g1
    | cons d ds => exact rfl
  · simp only [XmlTok.RunE] at hf
    subst hf
    exact rfl
  · exact rfl

theorem xj_feedChunks_optE (o1 o2 : XmlTok.Opts) (cs : List XmlTok.Str) :
    ∀ {m1 m2 : XmlTok.Mach}, XmlTok.E m1 m2 → XjOptE (xjFeedChunks o1 m1 cs) (xjFeedChunks o2 m2 cs) := by
  induction cs with
  | nil => intro m1 m2 h; exact h
  | cons c cs ih =>
    intro m1 m2 h
    have hs := xj_feedStep_optE o1 o2 h c
    simp only [xjFeedChunks]
    generalize xjFeedStep o1 m1 c = r1 at hs
    generalize xjFeedStep o2 m2 c = r2 at hs
    cases r1 <;> cases r2 <;> first | exact hs.elim | skip
    · exact hs
    · exact ih hs

theorem xj_filterMap_noErr (out : XmlTok.Out) :
    (XmlTok.noErr out).filterMap xjTok = out.filterMap xjTok := by
  induction out with
  | nil => rfl
  | cons t rest ih =>
    rw [XmlTok.noErr_cons]
    cases t with
    | error msg =>
      simp only [XmlTok.isErr, if_true]
      rw [List.filterMap_cons_none (by rfl)]; exact ih
    | _ =>
      simp only [XmlTok.isErr, Bool.false_eq_true, if_false]
      rw [List.filterMap_cons_some (by rfl), List.filterMap_cons_some (by rfl), ih]

theorem xjToks_eq (out : XmlTok.Out) : xjToks out = (out.filterMap xjTok).reverse := by
  unfold xjToks; rw [List.filterMap_reverse]

/-- parse-error tokens do not reach the tree builder's state machine -/
theorem xjToks_noErr (out : XmlTok.Out) : xjToks (XmlTok.noErr out) = xjToks out := by
  rw [xjToks_eq, xjToks_eq, xj_filterMap_noErr]

/-- **tokens**: any two option values deliver the same token log up to parse-error tokens, or fail
alike — from every machine, for every chunk list -/
theorem C15_joint_tokens_exact_errors (o1 o2 : XmlTok.Opts) (m : XmlTok.Mach) (chunks : List XmlTok.Str) :
    (xmlTokensChunks o1 m chunks).map XmlTok.noErr = (xmlTokensChunks o2 m chunks).map XmlTok.noErr := by
  have hs := xj_feedChunks_optE o1 o2 chunks (XmlTok.E.refl m)
  unfold xmlTokensChunks
  generalize xjFeedChunks o1 m chunks = r1 at hs
  generalize xjFeedChunks o2 m chunks = r2 at hs
  cases r1 <;> cases r2 <;> first | exact hs.elim | skip
  · simp only [XjOptE] at hs; subst hs; rfl
  · rename_i a b
    have hfin := XmlTok.finish_E o1 o2 hs
    dsimp only
    generalize XmlTok.finish o1 a = f1 at hfin
    generalize XmlTok.finish o2 b = f2 at hfin
    cases f1 <;> cases f2 <;> simp only [Except.map, Except.error.injEq, Except.ok.injEq, reduceCtorEq] at hfin
    · subst hfin; rfl
    · simp only [Except.map, hfin]

/-- **C15, joint model: `exact_errors`.**  For every pair of option values, every tokenizer machine
(no hypothesis), every tree-builder configuration and every chunk list, the joint parses give the
same result: the same failure, or the *same tree-builder state* (document, open elements, namespace
stack, created elements, phase, and the tree builder's own parse-error log, unabridged). -/
theorem C15_joint_exact_errors_state (o1 o2 : XmlTok.Opts) (cfg : XmlTB.TbCfg) (m : XmlTok.Mach)
    (chunks : List XmlTok.Str) :
    xmlParseChunks o1 cfg m chunks = xmlParseChunks o2 cfg m chunks := by
  have h := C15_joint_tokens_exact_errors o1 o2 m chunks
  unfold xmlParseChunks
  generalize xmlTokensChunks o1 m chunks = r1 at h
  generalize xmlTokensChunks o2 m chunks = r2 at h
  cases r1 <;> cases r2 <;> simp only [Except.map, Except.error.injEq, Except.ok.injEq, reduceCtorEq] at h
  · subst h; rfl
  · rename_i a b
    show XmlTB.run cfg XmlTB.State.init (xjToks a) = XmlTB.run cfg XmlTB.State.init (xjToks b)
    rw [← xjToks_noErr a, ← xjToks_noErr b, h]

/-! ## the tree -/

/-- the joint parse of a start machine satisfying the invariants never fails, and the chunked parse
ends in the **same tree-builder state** as the one-piece parse of the concatenation -/
theorem C15_joint_chunk_independence_state (o : XmlTok.Opts) (cfg : XmlTB.TbCfg) (m0 : XmlTok.Mach)
    (chunks : List XmlTok.Str) (hs : XjStart m0) :
    ∃ s, xmlParseChunks o cfg m0 chunks = .ok s ∧ xmlParseChunks o cfg m0 [chunks.flatten] = .ok s := by
  obtain ⟨out, h1, h2⟩ := C15_joint_tokens_chunk_independence o m0 chunks hs
  obtain ⟨s, hr⟩ := H5V.Props.C16.C16_no_panic cfg (xjToks out)
  exact ⟨s, by simp only [xmlParseChunks, h1, hr], by simp only [xmlParseChunks, h2, hr]⟩

/-- **C15, joint model: chunk independence.**  For every option value, every tree-builder
configuration, every tokenizer as created by `XmlTokenizer::new` (any initial state, `discard_bom` on
or off) and every list of chunks (empty chunks, single characters, … included): if the chunked joint
parse succeeds with tree-builder state `s`, the joint parse of the concatenation fed in one piece
succeeds with the same state `s`; in particular the observable results `Obs` (document, created
elements, phase, collapsed error log) are equal.  (The model's `feed` computes its own fuel,
`fuelFor`; there is no fuel parameter.) -/
theorem C15_joint_chunk_independence (o : XmlTok.Opts) (cfg : XmlTB.TbCfg) (st : XmlTok.State) (bom : Bool)
    (chunks : List XmlTok.Str) (s : XmlTB.State)
    (h : xmlParseChunks o cfg (xjFresh st bom) chunks = .ok s) :
    xmlParseChunks o cfg (xjFresh st bom) [chunks.flatten] = .ok s ∧
    Obs (xmlParseChunks o cfg (xjFresh st bom) [chunks.flatten]) =
      Obs (xmlParseChunks o cfg (xjFresh st bom) chunks) := by
  obtain ⟨s', h1, h2⟩ := C15_joint_chunk_independence_state o cfg _ chunks (xjStart_fresh st bom)
  rw [h1] at h
  cases h
  exact ⟨h2, by rw [h1, h2]⟩

/-- the hypothesis of `C15_joint_chunk_independence` always holds: the joint parse is total -/
theorem C15_joint_total (o : XmlTok.Opts) (cfg : XmlTB.TbCfg) (st : XmlTok.State) (bom : Bool)
    (chunks : List XmlTok.Str) : ∃ s, xmlParseChunks o cfg (xjFresh st bom) chunks = .ok s :=
  let ⟨s, h, _⟩ := C15_joint_chunk_independence_state o cfg _ chunks (xjStart_fresh st bom)
  ⟨s, h⟩

/-- **C15, joint model: `exact_errors`** does not change the observable result, for every chunk list
(every machine, every tree-builder configuration) -/
theorem C15_joint_exact_errors (o1 o2 : XmlTok.Opts) (cfg : XmlTB.TbCfg) (m : XmlTok.Mach)
    (chunks : List XmlTok.Str) :
    Obs (xmlParseChunks o1 cfg m chunks) = Obs (xmlParseChunks o2 cfg m chunks) := by
  rw [C15_joint_exact_errors_state o1 o2 cfg m chunks]

/-- the instance the property is named after -/
theorem C15_joint_exact_errors_on_off (cfg : XmlTB.TbCfg) (m : XmlTok.Mach) (chunks : List XmlTok.Str) :
    Obs (xmlParseChunks ⟨true⟩ cfg m chunks) = Obs (xmlParseChunks ⟨false⟩ cfg m chunks) :=
  C15_joint_exact_errors _ _ cfg m chunks

/-- **C15, joint model, end to end** (state form): any chunking × any `exact_errors` value succeeds
with the tree-builder state of the one-piece parse with `exact_errors` off -/
theorem C15_joint_end_to_end_state (o : XmlTok.Opts) (cfg : XmlTB.TbCfg) (st : XmlTok.State) (bom : Bool)
    (chunks : List XmlTok.Str) :
    ∃ s, xmlParseChunks ⟨false⟩ cfg (xjFresh st bom) [chunks.flatten] = .ok s ∧
      xmlParseChunks o cfg (xjFresh st bom) chunks = .ok s := by
  obtain ⟨s, h1, h2⟩ := C15_joint_chunk_independence_state o cfg _ chunks (xjStart_fresh st bom)
  exact ⟨s, by rw [← C15_joint_exact_errors_state o ⟨false⟩]; exact h2, h1⟩

/-- **C15, joint model, end to end.**  Any chunking × either `exact_errors` value gives the observable
result of the one-piece default parse — and that result is a success. -/
theorem C15_joint_end_to_end (o : XmlTok.Opts) (cfg : XmlTB.TbCfg) (st : XmlTok.State) (bom : Bool)
    (chunks : List XmlTok.Str) :
    Obs (xmlParseChunks o cfg (xjFresh st bom) chunks) =
      Obs (xmlParseChunks ⟨false⟩ cfg (xjFresh st bom) [chunks.flatten]) ∧
    ∃ r, Obs (xmlParseChunks o cfg (xjFresh st bom) chunks) = .ok r := by
  obtain ⟨s, h1, h2⟩ := C15_joint_end_to_end_state o cfg st bom chunks
  rw [h1, h2]
  exact ⟨rfl, _, rfl⟩

/-- two chunkings of the same text, under any two option values -/
theorem C15_joint_any_two (o1 o2 : XmlTok.Opts) (cfg : XmlTB.TbCfg) (st : XmlTok.State) (bom : Bool)
    (cs1 cs2 : List XmlTok.Str) (h : cs1.flatten = cs2.flatten) :
    xmlParseChunks o1 cfg (xjFresh st bom) cs1 = xmlParseChunks o2 cfg (xjFresh st bom) cs2 := by
  obtain ⟨s1, a1, b1⟩ := C15_joint_end_to_end_state o1 cfg st bom cs1
  obtain ⟨s2, a2, b2⟩ := C15_joint_end_to_end_state o2 cfg st bom cs2
  rw [h, a2] at a1
  cases a1
  rw [b1, b2]

/-! ## run boundaries of the real tokenizer

The model reads character runs one character at a time; the real tokenizer delivers each run in
pieces whose boundaries follow the chunk and buffer boundaries.  The token streams agree after
merging adjacent character tokens (the criterion `canon` of the `xmltok` correspondence), and that
is all the tree can see. -/

/-- every token stream that equals the joint model's after merging adjacent character tokens drives
the tree-builder model to the observable result of the joint parse — of every chunking, under either
option value -/
theorem C15_joint_run_boundaries (o o' : XmlTok.Opts) (cfg : XmlTB.TbCfg) (st : XmlTok.State) (bom : Bool)
    (chunks chunks' : List XmlTok.Str) (hfl : chunks'.flatten = chunks.flatten)
    (out : XmlTok.Out) (ho : xmlTokensChunks o' (xjFresh st bom) chunks' = .ok out)
    (ts : List XmlTB.Token) (hm : mergeChars ts = mergeChars (xjToks out)) :
    Obs (XmlTB.run cfg XmlTB.State.init ts) = Obs (xmlParseChunks o cfg (xjFresh st bom) chunks) := by
  rw [C15_tree_merge_obs cfg hm, C15_joint_any_two o o' cfg st bom chunks chunks' hfl.symm]
  simp only [xmlParseChunks, ho]

theorem xj_resplit_cons (t : XmlTB.Token) {x y : List XmlTB.Token} (h : Resplit x y) :
    Resplit (t :: x) (t :: y) :=
  Resplit.append (x := [t]) (y := [t]) (Resplit.refl _) h

/-- the driver's `canon` (on tokenizer tokens, parse errors included) only re-cuts character runs of
the stream the tree builder sees -/
theorem xj_resplit_canon (l : List XmlTok.Token) :
    Resplit (l.filterMap xjTok) ((XmlTokDriver.canon l).filterMap xjTok) := by
  fun_induction XmlTokDriver.canon l with
  | case1 a b rest ih =>
    refine Resplit.trans ?_ ih
    rw [List.filterMap_cons_some (by rfl), List.filterMap_cons_some (by rfl), List.filterMap_cons_some (by rfl)]
    exact Resplit.append (x := [.chars a, .chars b]) (y := [.chars (a ++ b)]) (Resplit.split a b).symm
      (Resplit.refl _)
  | case2 x rest _ ih =>
    cases hx : xjTok x with
    | none => rw [List.filterMap_cons_none hx, List.filterMap_cons_none hx]; exact ih
    | some y => rw [List.filterMap_cons_some hx, List.filterMap_cons_some hx]; exact xj_resplit_cons y ih
  | case3 => exact Resplit.refl _

/-- **the tokenizer-level comparison suffices for the tree**: two token logs (newest first, parse-error
tokens included) that the `xmltok` correspondence identifies — equal after merging adjacent
character tokens — give the same observable tree-builder result -/
theorem C15_joint_canon_obs (cfg : XmlTB.TbCfg) (out1 out2 : XmlTok.Out)
    (h : XmlTokDriver.canon out1.reverse = XmlTokDriver.canon out2.reverse) :
    Obs (XmlTB.run cfg XmlTB.State.init (xjToks out1)) = Obs (XmlTB.run cfg XmlTB.State.init (xjToks out2)) := by
  apply C15_tree_obs
  unfold xjToks
  exact (xj_resplit_canon out1.reverse).trans (h ▸ (xj_resplit_canon out2.reverse).symm)

/-! ## the driver's loop -/

/-- the literal feed loop of `XmlTokDriver.runTok` -/
def xjDriverFeed (o : XmlTok.Opts) (m0 : XmlTok.Mach) (chunks : List XmlTok.Str) : Except String XmlTok.Mach :=
  chunks.foldlM (fun (m : XmlTok.Mach) ch =>
    match XmlTok.feed o m [] ch with
    | .done m inp => if inp.isEmpty then .ok m else .error ("QUEUE-NOT-DRAINED " ++ XmlTokDriver.showOut m.out)
    | .panic e => .error ("PANIC " ++ e)
    | .outOfFuel => .error "OUT-OF-FUEL") m0

/-- `xjFeedChunks` succeeds exactly when the driver's loop does, with the same machine (the two differ
only in the text of the `QUEUE-NOT-DRAINED` failure, which carries a token dump in the driver) -/
theorem xj_driverFeed_ok (o : XmlTok.Opts) (cs : List XmlTok.Str) : ∀ (m mf : XmlTok.Mach),
    xjDriverFeed o m cs = .ok mf ↔ xjFeedChunks o m cs = .ok mf := by
  induction cs with
  | nil => intro m mf; exact Iff.rfl
  | cons c cs ih =>
    intro m mf
    unfold xjDriverFeed at ih ⊢
    simp only [List.foldlM_cons, xjFeedChunks, xjFeedStep]
    cases hf : XmlTok.feed o m [] c with
    | done m1 inp =>
      cases inp with
      | nil => exact ih m1 mf
      | cons x xs => constructor <;> (intro h; cases h)
    | panic e | outOfFuel => constructor <;> (intro h; cases h)

/-! ## non-vacuity -/

/-- a decidable view of a node: preorder listing with the number of children (determines the tree;
`XmlTB.Node` is a nested inductive without `DecidableEq`) -/
inductive XjView where
  | elem (name : XmlTB.QName) (attrs : List XmlTB.Attr) (nkids : Nat)
  | text (s : XmlTB.Str)
  | comment (s : XmlTB.Str)
  | pi (target data : XmlTB.Str)
  | doctype (name pub sys : XmlTB.Str)
deriving DecidableEq, Repr

mutual
def xjPre : XmlTB.Node → List XjView
  | .elem n as ks => .elem n as ks.length :: xjPreL ks
  | .text s => [.text s]
  | .comment s => [.comment s]
  | .pi t d => [.pi t d]
  | .doctype n p s => [.doctype n p s]
def xjPreL : List XmlTB.Node → List XjView
  | [] => []
  | k :: ks => xjPre k ++ xjPreL ks
end

/-- document (as a view), created elements, phase, the tree builder's full error log (oldest first) -/
def xjShow (r : Except String XmlTB.State) :
    Option (List XjView × List XmlTB.Created × XmlTB.Phase × List XmlTB.Err) :=
  match r with
  | .ok s => some (xjPreL s.document, s.createdList, s.phase, s.errors.reverse)
  | .error _ => none

/-- `U+FEFF <r a='1 CR | LF 2'>ab CR | (empty) | LF cd&am | p; U+0001 e</r | >`: a BOM, a CR LF split
across chunks inside an attribute value and again inside the text, an empty chunk, the text run
`ab⏎cd&␁e` split over three chunks, a character reference and the end tag split across chunks -/
def xjExChunks : List XmlTok.Str :=
  ["\uFEFF<r a='1\r".toList, "\n2'>ab\r".toList, [], "\ncd&am".toList, "p;\x01e</r".toList, ">".toList]

/-- one element `r` with `a="1⏎2"` and ONE text child `ab⏎cd&␁e`; no tree-builder error; End phase -/
def xjExExpected : Option (List XjView × List XmlTB.Created × XmlTB.Phase × List XmlTB.Err) :=
  some ([.elem ⟨none, [], ['r']⟩ [⟨⟨none, [], ['a']⟩, "1\n2".toList⟩] 1, .text "ab\ncd&\x01e".toList],
        [⟨⟨none, [], ['r']⟩, [⟨⟨none, [], ['a']⟩, "1\n2".toList⟩]⟩], .end_, [])

/-- the chunked parse, by evaluation in the kernel -/
example : xjShow (xmlParseChunks ⟨false⟩ XmlTB.TbCfg.current {} xjExChunks) = xjExExpected := by
  decide +kernel

/-- … the same with `exact_errors`, and for the one-piece parse -/
example : xjShow (xmlParseChunks ⟨true⟩ XmlTB.TbCfg.current {} xjExChunks) = xjExExpected ∧
    xjShow (xmlParseChunks ⟨false⟩ XmlTB.TbCfg.current {} [xjExChunks.flatten]) = xjExExpected := by
  decide +kernel

/-- `exact_errors` really changes what the tokenizer logs on this input (two extra "Bad character
U+0001" parse errors: the character is read twice, once by the character-reference tokenizer), so
`C15_joint_exact_errors` is not an identity of token logs -/
example : (xmlTokensChunks ⟨false⟩ {} xjExChunks).toOption.map List.length = some 11 ∧
    (xmlTokensChunks ⟨true⟩ {} xjExChunks).toOption.map List.length = some 13 := by
  decide +kernel

/-- the theorems instantiated: the hypothesis of `C15_joint_chunk_independence` is satisfied … -/
example : ∃ s, xmlParseChunks ⟨true⟩ XmlTB.TbCfg.current (xjFresh .data true) xjExChunks = .ok s :=
  C15_joint_total _ _ _ _ _

/-- … and the chunked `exact_errors` parse has the observable result of the one-piece default parse -/
example : Obs (xmlParseChunks ⟨true⟩ XmlTB.TbCfg.current (xjFresh .data true) xjExChunks) =
    Obs (xmlParseChunks ⟨false⟩ XmlTB.TbCfg.current (xjFresh .data true) [xjExChunks.flatten]) :=
  (C15_joint_end_to_end _ _ _ _ _).1

/-- `{}` (the default machine of the drivers) is `xjFresh .data true` -/
example : ({} : XmlTok.Mach) = xjFresh .data true := rfl

theorem xj_except_ok {α : Type} (r : Except String α) (x : α) (h : r.toOption = some x) : r = .ok x := by
  cases r with
  | error e => cases h
  | ok y => simp only [Except.toOption, Option.some.injEq] at h; rw [h]

/-- run boundaries: the real tokenizer would deliver `ab`, `⏎`, `cd`, … as longer runs; any such
stream gives the same observable result -/
example : Obs (XmlTB.run XmlTB.TbCfg.current XmlTB.State.init
      [.tag ⟨.start, ⟨none, ['r']⟩, [⟨⟨none, ['a']⟩, "1\n2".toList⟩]⟩, .chars "ab".toList, .chars "\n".toList,
       .chars "cd".toList, .chars "&".toList, .chars "\x01e".toList, .tag ⟨.end_, ⟨none, ['r']⟩, []⟩, .eof]) =
    Obs (xmlParseChunks ⟨true⟩ XmlTB.TbCfg.current (xjFresh .data true) xjExChunks) :=
  C15_joint_run_boundaries ⟨true⟩ ⟨false⟩ _ _ _ xjExChunks [xjExChunks.flatten] (by simp)
    (match xmlTokensChunks ⟨false⟩ (xjFresh .data true) [xjExChunks.flatten] with
      | .ok out => out
      | .error _ => [])
    (xj_except_ok _ _ (by decide +kernel)) _ (by decide +kernel)

end H5V.Props.C15
