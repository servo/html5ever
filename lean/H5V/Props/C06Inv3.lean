import H5V.Props.C06Inv2
/-!
# C06, third layer: no two text nodes are adjacent siblings — and the whole skeleton predicate

`H5V/Props/C06.lean` proves the clause "no two adjacent text siblings" only across contract-abiding,
non-detaching call sequences.  Here it is proved for the tree builder itself, for **all** token lists
and option sets, in every reachable state: the state invariant `AdjD s.dom s.openElems`
(`H5V/Lemmas/HtmlTBSkelAdjDef.lean`) is a field of the layer-2 invariant `Core`, and is carried through
every rule, the adoption agency (`remove_from_parent`, `reparent_children`, re-insertion), foster
parenting, the `frameset` replacement of `body`, and the `selectedcontent` mirror.

`AdjD d O` (O = stack of open elements):
* `nat` no two adjacent text siblings, `lk` every child points to its parent, `nd` no duplicates in a
  child list;
* `ol`  an open element (other than the table-structure elements and `head`) is not followed by text;
* `pb`, `pbt` the parent of an open element — directly or through template contents — precedes it on the
  stack when it is open itself;
* `tb`  an open element that precedes an open `table` among its siblings is above it on the stack.

With T1–T4 this gives every clause of `Skeleton` (`skeletonOk`) except that the element children of
`html` satisfy `HtmlKids` instead of `htmlKidsOk` (known finding); and `Skeleton` itself when the
final list of active formatting elements holds no element.
-/
namespace H5V.Props.C06
open H5V.Model.Dom hiding Str
open H5V.Model.HtmlTB hiding Str
open H5V.Lemmas.Dom

/-! ## every reachable state -/

/-- **the adjacency invariant holds in every reachable state**, for every token list and option set -/
theorem C06_adj_every_state {opts : Opts} {toks : List (TokToken × Nat)} {s : State}
    (h : Reachable opts toks s) : AdjD s.dom s.openElems := by
  have hi := (reachable_i2 rules h).1
  by_cases hl : Late s
  · obtain ⟨r, up, ph, hs, _⟩ := hi.2 hl
    exact hs.core.adj
  · have he := hi.1 hl
    have hoe : s.openElems = [] := by
      cases (C06_inv_every_state h).1 with
      | a ha => exact ha.1.oe
      | b hb => exact hb.1.oe
      | late hl' => exact absurd hl' hl
    rw [hoe]; exact he.adj

/-- **no two text nodes are adjacent siblings, in every reachable state** -/
theorem C06_no_adjacent_text_every_state {opts : Opts} {toks : List (TokToken × Nat)} {s : State}
    (h : Reachable opts toks s) : ∀ p, noAdj s.dom.isText (s.dom.childrenOf p) = true :=
  (C06_adj_every_state h).nat

/-- in every reachable state every member of a child list points back to its parent, and no child list
has duplicates (the half of well-formedness the proof needs and maintains) -/
theorem C06_child_links_every_state {opts : Opts} {toks : List (TokToken × Nat)} {s : State}
    (h : Reachable opts toks s) :
    (∀ p c, c ∈ s.dom.childrenOf p → s.dom.parentOf c = some p) ∧ ∀ p, (s.dom.childrenOf p).Nodup :=
  ⟨(C06_adj_every_state h).lk, (C06_adj_every_state h).nd⟩

/-- an open element other than `tr tbody thead tfoot caption colgroup td th head` is never directly
followed by a text node -/
theorem C06_open_element_not_before_text {opts : Opts} {toks : List (TokToken × Nat)} {s : State}
    (h : Reachable opts toks s) {e p : Id} {l1 l2 : List Id} (he : e ∈ s.openElems)
    (hx : exm (nm s.dom e) = false) (hc : s.dom.childrenOf p = l1 ++ e :: l2) : headT s.dom.isText l2 = false :=
  (C06_adj_every_state h).ol e he hx p l1 l2 hc

/-! ## completed parses -/

theorem parseTokens_reach {opts : Opts} {toks : List (TokToken × Nat)} {s : State}
    (h : parseTokens opts toks = .ok s) : ∃ s0, Reachable opts toks s0 ∧ s.dom.nodes = s0.dom.nodes := by
  unfold parseTokens at h
  cases hr : ((do newTB; let _ ← processTokens toks []; finishTB : M Unit).run (State.init opts)) with
  | error e => rw [hr] at h; cases h
  | ok p =>
    obtain ⟨u, sf⟩ := p
    rw [hr] at h
    have hs : sf = s := by simpa [Except.map] using h
    subst hs
    have hr' : (newTB >>= fun _ => processTokens toks [] >>= fun _ => finishTB) (State.init opts) = .ok (u, sf) := hr
    obtain ⟨u1, s1, e1, e2⟩ := bind_ok.mp hr'
    obtain ⟨r2, s2, e3, e4⟩ := bind_ok.mp e2
    refine ⟨s2, ⟨r2, ?_⟩, finishTB_nodes e4⟩
    exact bind_ok.mpr ⟨u1, s1, e1, e3⟩

/-- **`C06_no_adjacent_text`**: after `new`, any token list (with or without EOF), `end()`: no two text
nodes are adjacent siblings — for all token lists and option sets -/
theorem C06_no_adjacent_text {opts : Opts} {toks : List (TokToken × Nat)} {s : State}
    (h : parseTokens opts toks = .ok s) : ∀ p, noAdj s.dom.isText (s.dom.childrenOf p) = true := by
  obtain ⟨s0, hr, hn⟩ := parseTokens_reach h
  exact ((C06_adj_every_state hr).of_nodes (O := s0.openElems) hn).nat

/-- the same in the vocabulary of `H5V/Lemmas/DomText2.lean` -/
theorem C06_noAdjacentText {opts : Opts} {toks : List (TokToken × Nat)} {s : State}
    (h : parseTokens opts toks = .ok s) : NoAdjacentText s.dom :=
  C06_no_adjacent_text h

/-- child lists of the result: members point to their parent, no duplicates -/
theorem C06_child_links {opts : Opts} {toks : List (TokToken × Nat)} {s : State}
    (h : parseTokens opts toks = .ok s) :
    (∀ p c, c ∈ s.dom.childrenOf p → s.dom.parentOf c = some p) ∧ ∀ p, (s.dom.childrenOf p).Nodup := by
  obtain ⟨s0, hr, hn⟩ := parseTokens_reach h
  have := (C06_adj_every_state hr).of_nodes (O := s0.openElems) hn
  exact ⟨this.lk, this.nd⟩

/-! ## the node clauses of `skeletonOk` on the nodes of the document tree -/

/-- a node of the tree walk is the start node, was reached through template contents, or is not of
`Document` kind -/
theorem treeNodes_kind {d : Dom} (hb : DomBase d) : ∀ (fuel : Nat) (tc0 : Bool) (x0 : Id) (p : Id × Bool),
    p ∈ treeNodes d fuel tc0 x0 → p = (x0, tc0) ∨ p.2 = true ∨ d.dataOf p.1 ≠ some .document
  | 0, _, _, _, h => by simp [treeNodes] at h
  | fuel + 1, tc0, x0, p, h => by
    simp only [treeNodes, List.mem_cons, List.mem_append, List.mem_flatMap] at h
    rcases h with h | h | ⟨k, hk, h⟩
    · exact Or.inl h
    · cases htc : d.templateContentsOf x0 with
      | none => rw [htc] at h; cases h
      | some c =>
        rw [htc] at h
        rcases treeNodes_kind hb fuel true c p h with h1 | h1 | h1
        · right; left; rw [h1]
        · exact Or.inr (Or.inl h1)
        · exact Or.inr (Or.inr h1)
    · rcases treeNodes_kind hb fuel false k p h with h1 | h1 | h1
      · right; right; rw [h1]; exact hb.kidNotDoc x0 k hk
      · exact Or.inr (Or.inl h1)
      · exact Or.inr (Or.inr h1)

/-- **all three node clauses** (no empty text; children only below elements, the document and template
contents; no adjacent text siblings) at every node of the document tree, for all token lists -/
theorem C06_node_clauses {opts : Opts} {toks : List (TokToken × Nat)} {s : State}
    (h : parseTokens opts toks = .ok s) :
    ∀ p ∈ treeNodes s.dom (s.dom.size + 1) false Dom.document, nodeClauses s.dom p.1 p.2 = true := by
  intro p hp
  have hb := parseTokens_base h
  obtain ⟨c1, c2⟩ := C06_node_clauses_partial h p.1
  have c3 := C06_no_adjacent_text h p.1
  unfold nodeClauses
  rw [Bool.and_eq_true, Bool.and_eq_true]
  refine ⟨⟨c1, ?_⟩, c3⟩
  cases hk : (s.dom.childrenOf p.1).isEmpty with
  | true => rfl
  | false =>
    rw [hk] at c2
    simp only [Bool.false_or] at c2 ⊢
    unfold Dom.isContainer at c2
    cases hd : s.dom.dataOf p.1 with
    | none => rw [hd] at c2; cases c2
    | some v =>
      rw [hd] at c2
      cases v with
      | element n a t i => rfl
      | document =>
        rcases treeNodes_kind hb _ _ _ p hp with h1 | h1 | h1
        · rw [h1]; rfl
        · simp only; rw [h1]; simp
        · exact absurd hd h1
      | doctype _ _ _ => cases c2
      | comment _ => cases c2
      | text _ => cases c2
      | pi _ _ => cases c2

/-! ## the whole predicate -/

/-- the clauses of `docClauses` with `HtmlKids` in place of `htmlKidsOk` -/
def docClausesK (d : Dom) : Prop :=
  docPattern 0 ((d.childrenOf Dom.document).map (docKid d)) = true ∧
  ∃ h, htmlOf d = some h ∧ HtmlKids ((d.childrenOf h).filterMap (htmlElemName d)) ∧
    (d.childrenOf h).all (fun k => match d.dataOf k with
      | some (.text s) => s.all isWsChar
      | some (.element ..) => true
      | some (.comment _) => true
      | _ => false) = true

/-- `Skeleton` with the children of `html` classified by `HtmlKids`: `head body`, or `head frameset`
followed by `noframes` / reconstructed formatting elements -/
def SkeletonK (d : Dom) : Prop :=
  docClausesK d ∧ ∀ p ∈ treeNodes d (d.size + 1) false Dom.document, nodeClauses d p.1 p.2 = true

/-- the kinds of the children of `html` after a completed parse -/
theorem html_kids_kinds {opts : Opts} {toks : List (TokToken × Nat)} {line : Nat} {s : State} {r : Id}
    (h : parseTokens opts (toks ++ [(TokToken.eof, line)]) = .ok s) (hr : htmlOf s.dom = some r) :
    (s.dom.childrenOf r).all (fun k => match s.dom.dataOf k with
      | some (.text s) => s.all isWsChar
      | some (.element ..) => true
      | some (.comment _) => true
      | _ => false) = true := by
  obtain ⟨s0, hf, hn⟩ := parseTokens_fin rules h
  obtain ⟨r0, up, ph, hs, _⟩ := hf
  have hc := hs.core
  have hdat : ∀ x, s.dom.dataOf x = s0.dom.dataOf x := fun x => by unfold Dom.dataOf; rw [hn]
  have hr0 : htmlOf s.dom = some r0 := by
    have : htmlOf s.dom = htmlOf s0.dom := by unfold htmlOf docKid Dom.childrenOf Dom.dataOf; rw [hn]
    rw [this]; exact htmlOf_root hc
  rw [hr] at hr0; cases hr0
  rw [List.all_eq_true]
  intro k hk
  rw [childrenOf_of_nodes hn] at hk
  rw [hdat]
  have heq : isWsChar = isAsciiWhitespace := by funext ch; rfl
  rcases hc.kids k hk with h1 | ⟨t, h1⟩ | ⟨t, h1, h2⟩
  · unfold Dom.isElement at h1
    cases hd : s0.dom.dataOf k with
    | none => rw [hd] at h1; cases h1
    | some v => rw [hd] at h1; cases v <;> first | rfl | cases h1
  · rw [h1]
  · rw [h1]; simp only; rw [heq]; exact h2

/-- **`C06_skeleton_or_known`**: after a completed parse (`new`, a token list ending with EOF, `end()`),
for all token lists and option sets, every clause of `Skeleton` holds, except that the element children
of `html` satisfy `HtmlKids` (`head body` | `head frameset (noframes | formatting element)*`) instead of
the stricter `htmlKidsOk` -/
theorem C06_skeleton_or_known {opts : Opts} {toks : List (TokToken × Nat)} {line : Nat} {s : State}
    (h : parseTokens opts (toks ++ [(TokToken.eof, line)]) = .ok s) : SkeletonK s.dom := by
  obtain ⟨r, hr, hk, _⟩ := C06_html_children h
  obtain ⟨hp, _, _⟩ := C06_document_children h ⟨line, by simp⟩
  exact ⟨⟨hp, r, hr, hk, html_kids_kinds h hr⟩, C06_node_clauses h⟩

/-- **`Skeleton` itself** when the final list of active formatting elements holds no element (decidable
on the final state; in particular when no formatting start tag occurs unclosed before a `<frameset>`
that replaces `body`).  The hypothesis is exactly what separates the theorem from the known finding
`C06_witness_frameset_reconstruct`. -/
theorem C06_skeleton_partial {opts : Opts} {toks : List (TokToken × Nat)} {line : Nat} {s : State}
    (h : parseTokens opts (toks ++ [(TokToken.eof, line)]) = .ok s)
    (haf : ∀ y t, FormatEntry.element y t ∉ s.activeFormatting) : Skeleton s.dom := by
  obtain ⟨r, hr, hk⟩ := C06_html_children_partial h haf
  obtain ⟨hp, _, _⟩ := C06_document_children h ⟨line, by simp⟩
  rw [C06_skeleton_iff]
  refine ⟨?_, C06_node_clauses h⟩
  unfold docClauses
  rw [hp, hr]
  simp only [Bool.true_and]
  have hk' : htmlKidsOk ((s.dom.childrenOf r).filterMap (htmlElemName s.dom)) = true := hk
  rw [Bool.and_eq_true]
  exact ⟨hk', html_kids_kinds h hr⟩

/-- `Skeleton` implies `SkeletonK`: the weakened predicate differs in the `html` clause only -/
theorem skeletonK_of_skeleton {d : Dom} (h : Skeleton d) : SkeletonK d := by
  rw [C06_skeleton_iff] at h
  obtain ⟨h1, h2⟩ := h
  refine ⟨?_, h2⟩
  unfold docClauses at h1
  simp only [Bool.and_eq_true] at h1
  obtain ⟨hp, hrest⟩ := h1
  cases hh : htmlOf d with
  | none => rw [hh] at hrest; cases hrest
  | some r =>
    rw [hh] at hrest
    simp only [Bool.and_eq_true] at hrest
    refine ⟨hp, r, hh, ?_, hrest.2⟩
    -- `htmlKidsOk` is the special case without formatting elements
    have hk := hrest.1
    generalize (d.childrenOf r).filterMap (htmlElemName d) = names at hk
    unfold htmlKidsOk at hk
    match names, hk with
    | a :: b :: rest, hk =>
      simp only [Bool.and_eq_true, Bool.or_eq_true, beq_iff_eq, List.isEmpty_iff, List.all_eq_true] at hk
      obtain ⟨ha, hb⟩ := hk
      subst ha
      rcases hb with ⟨hb, hr⟩ | ⟨hb, hr⟩
      · subst hb; subst hr
        exact Or.inl rfl
      · subst hb
        exact Or.inr ⟨rest, rfl, fun n hn => Or.inl (hr n hn)⟩

/-! ## non-vacuity -/

/-- the adjacency test is not trivially true -/
example : noAdj (fun x => x == 1 || x == 2) [0, 1, 2] = false := by decide
example : noAdj (fun x => x == 1 || x == 2) [1, 0, 2] = true := by decide

/-- The test runs: adoption agency with a furthest block (`b`/`p`), foster parenting of text around a
table, `frameset` replacing `body`.  All facts used below are established by one evaluation, so that
the runs share the kernel's cache. -/
theorem test_runs :
    okRun (parseTokens {} [sTag "b", txt "x", sTag "p", txt "y", eTag "b", txt "z", (.eof, 1)]) = true ∧
    okRun (parseTokens {} [txt "a", sTag "table", txt "b", sTag "b", txt "c", sTag "tr", txt "d", eTag "table",
      txt "e", (.eof, 1)]) = true ∧
    okRun (parseTokens {} [sTag "b", txt "x", sTag "frameset", eTag "frameset", (.eof, 1)]) = true ∧
    (match parseTokens {} [sTag "b", txt "x", sTag "p", txt "y", eTag "b", txt "z", (.eof, 1)] with
      | .ok s => (List.range s.dom.size).all (fun p => noAdj s.dom.isText (s.dom.childrenOf p))
      | .error _ => false) = true ∧
    (match parseTokens {} [txt "a", sTag "table", txt "b", sTag "b", txt "c", sTag "tr", txt "d", eTag "table",
        txt "e", (.eof, 1)] with
      | .ok s => (List.range s.dom.size).all (fun p => noAdj s.dom.isText (s.dom.childrenOf p)) && skeletonOk s.dom
      | .error _ => false) = true ∧
    (match parseTokens {} [sTag "b", txt "x", sTag "p", txt "y", eTag "b", txt "z", (.eof, 1)] with
      | .ok s => s.activeFormatting.all (fun e => match e with | .marker => true | .element _ _ => false) && skeletonOk s.dom
      | .error _ => false) = true := by
  decide +kernel

/-- the hypotheses are satisfiable: runs that exercise the detaching calls (adoption agency with a
furthest block, foster parenting of text around a table, `frameset` replacing `body`, the
`selectedcontent` mirror) return normally … -/
example : okRun (parseTokens {} [sTag "b", txt "x", sTag "p", txt "y", eTag "b", txt "z", (.eof, 1)]) = true :=
  test_runs.1
example : okRun (parseTokens {} [txt "a", sTag "table", txt "b", sTag "b", txt "c", sTag "tr", txt "d", eTag "table",
    txt "e", (.eof, 1)]) = true := test_runs.2.1
example : okRun (parseTokens {} [sTag "b", txt "x", sTag "frameset", eTag "frameset", (.eof, 1)]) = true :=
  test_runs.2.2.1

/-- … and the results have no adjacent text siblings, checked by evaluation, in agreement with the theorem -/
example : (match parseTokens {} [sTag "b", txt "x", sTag "p", txt "y", eTag "b", txt "z", (.eof, 1)] with
    | .ok s => (List.range s.dom.size).all (fun p => noAdj s.dom.isText (s.dom.childrenOf p))
    | .error _ => false) = true := test_runs.2.2.2.1
example : (match parseTokens {} [txt "a", sTag "table", txt "b", sTag "b", txt "c", sTag "tr", txt "d", eTag "table",
    txt "e", (.eof, 1)] with
    | .ok s => (List.range s.dom.size).all (fun p => noAdj s.dom.isText (s.dom.childrenOf p)) && skeletonOk s.dom
    | .error _ => false) = true := test_runs.2.2.2.2.1

/-- the run of the known finding satisfies `SkeletonK` (by the theorem) but not `Skeleton` -/
example : SkeletonK (domOf (parseTokens {} witnessTokens)) := by
  cases h : parseTokens {} witnessTokens with
  | error e =>
    have : okRun (parseTokens {} witnessTokens) = true := C06_witness_frameset_reconstruct.1
    rw [h] at this; cases this
  | ok s =>
    have h' : parseTokens {} ([sTag "b", sTag "frameset", eTag "frameset", eTag "html", txt " "] ++ [(TokToken.eof, 1)])
        = .ok s := h
    exact C06_skeleton_or_known h'
example : skeletonOk (domOf (parseTokens {} witnessTokens)) = false :=
  Bool.eq_false_iff.mpr C06_witness_frameset_reconstruct.2

/-- the hypothesis of `C06_skeleton_partial` is satisfiable -/
example : (match parseTokens {} [sTag "b", txt "x", sTag "p", txt "y", eTag "b", txt "z", (.eof, 1)] with
    | .ok s => s.activeFormatting.all (fun e => match e with | .marker => true | .element _ _ => false) && skeletonOk s.dom
    | .error _ => false) = true := test_runs.2.2.2.2.2

end H5V.Props.C06

open H5V.Props.C06 in
#print axioms C06_adj_every_state
open H5V.Props.C06 in
#print axioms C06_no_adjacent_text_every_state
open H5V.Props.C06 in
#print axioms C06_no_adjacent_text
open H5V.Props.C06 in
#print axioms C06_child_links
open H5V.Props.C06 in
#print axioms C06_node_clauses
open H5V.Props.C06 in
#print axioms C06_skeleton_or_known
open H5V.Props.C06 in
#print axioms C06_skeleton_partial
