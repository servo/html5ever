import H5V.Lemmas.TendrilWtf8RefineSpec
import H5V.Lemmas.TendrilWtf8RefineStep
/-!
C11 for WTF-8 tendrils — the one format whose concatenation has a fix-up, so that it is not an
instance of `Laws F` (which demands `F.fixup = {}`) but of `LawsFx F cat`.

**Specification** (`H5V/Lemmas/TendrilWtf8RefineSpec.lean`, written from the WTF-8 document, nothing of
the tendril model in it): `Spec.encCp` (generalized UTF-8 of a code point, surrogates included),
`Spec.decCps` (its inverse), `Spec.WfWtf8` (the encoding of a code point sequence without a
lead–trail surrogate pair), `Spec.concatWtf8` (decode both operands, replace a lead at the end of the
left one and a trail at the start of the right one by the supplementary code point, re-encode).
`Spec.wtf8Doc` packages this as a specification-level format (every check is `Spec.wfWtf8`), and
`Spec.stepWtf8` is the owned-string specification `Spec.step` of C11 over it, with the three push
operations concatenating with `Spec.concatWtf8`.

**Theorems.**
* `lawsFx_wtf8 : LawsFx Format.wtf8 Spec.concatWtf8` — the generalised format laws
  (`H5V/Props/C11.lean`): what `push_bytes_without_validating` builds from
  `WTF8::fixup` *is* `Spec.concatWtf8` on well-formed operands (so the model's fix-up agrees with
  the WTF-8 document on every pair of well-formed operands — no finding), `WTF8::validate` is
  `WfWtf8`, well-formedness is closed under the concatenation, the prefix / suffix / subsequence
  checks are exact on parts of well-formed strings, and no fix-up is due between adjacent
  well-formed parts of a well-formed string.
* `C11_step_refines_wtf8`, `C11_run_refines_wtf8`: every operation of the tendril model on WTF-8
  tendrils — whatever the representation (inline, owned, shared, sub-tendril: the theorem is about
  every state satisfying the invariant) — refines `Spec.stepWtf8`, keeps the invariant, never reaches
  undefined behaviour; for all histories.
* `C11_independent_wtf8`: no other slot changes.  `C11_wtf8_valid`: every slot (and every buffer) of
  a reachable state holds well-formed WTF-8.  `C11_no_ub_wtf8`, `C11_push_checked_wtf8`.

The state invariant is `StWF st ∧ AWf (absPool st) ∧ BufWf st.heap`; `BufWf` (every buffer holds
well-formed WTF-8) is what makes the zero-copy merge of adjacent views in `push_tendril` — which never
asks `WTF8::fixup` — agree with the specification.

* `C11_no_spurious_panic_wtf8`: below 2^30 bytes the model panics only where the specification does
  (the fix-up inserts four bytes for the six it drops, `fixupSmall_wtf8`).
-/
namespace H5V.Props.C11
open H5V.Model.Tendril H5V.Lemmas.Tendril

namespace Spec

/-- WTF-8 as a specification-level format: all checks are the well-formedness check of the WTF-8
document; no `CharFormat` (as in `fmt.rs`) -/
def wtf8Doc : Format where
  name := "wtf8 (document)"
  validate := wfWtf8
  validatePrefix := wfWtf8
  validateSuffix := wfWtf8
  validateSubseq := wfWtf8
  fixup _ _ := {}
  charIndices _ := none
  encodeChar _ := none

/-- **the specification for WTF-8 tendrils**: a pool of owned WTF-8 strings; checked operations fail
exactly when the request is out of bounds or the result would not be well-formed WTF-8; pushes
concatenate as the WTF-8 document prescribes -/
def stepWtf8 (p : APool) (op : Op) : APool × Out := stepFx wtf8Doc concatWtf8 p op

def runWtf8 (p : APool) (ops : List Op) : APool := runFx wtf8Doc concatWtf8 p ops

end Spec

open Spec

/-- every slot holds well-formed WTF-8 -/
def AWf (p : APool) : Prop := ∀ (i : Nat) (a : List UInt8), p[i]? = some (some a) → WfWtf8 a

/-- every buffer holds well-formed WTF-8 -/
def BufWf (h : Heap) : Prop := ∀ (id : Nat) (b : Buf), h.bufs[id]? = some b → WfWtf8 b.data

/-- no `DerefMut` byte stores (`tendril.rs` offers them for `Bytes` only) -/
def NoStores (ops : List Op) : Prop := ∀ op ∈ ops, ∀ i k v, op ≠ .setByte i k v

/-! ## the model's WTF-8 functions against the document -/

/-- `WTF8::validate` (with the fix 218f57f) is the well-formedness check of the document -/
theorem wtf8_validate_eq : Format.wtf8.validate = wfWtf8 := by
  funext l
  have h1 := wtf8Validate_iff_wf l
  have h2 := wfWtf8_iff l
  show wtf8Validate l = wfWtf8 l
  cases ha : wtf8Validate l <;> cases hb : wfWtf8 l <;> simp_all

theorem avalid_iff (p : APool) : AValid Format.wtf8 p ↔ AWf p := by
  constructor
  · intro h i a hi; exact (wtf8Validate_iff_wf a).mp (h i a hi)
  · intro h i a hi; exact (wtf8Validate_iff_wf a).mpr (h i a hi)

theorem dv_iff (h : Heap) : DV Format.wtf8 h ↔ BufWf h := by
  constructor
  · intro d i b hb; exact (wtf8Validate_iff_wf _).mp (d i b hb)
  · intro d i b hb; exact (wtf8Validate_iff_wf _).mpr (d i b hb)

/-- **WTF-8 satisfies the format laws with fix-up**, the concatenation being that of the WTF-8
document. -/
theorem lawsFx_wtf8 : LawsFx Format.wtf8 concatWtf8 where
  fixupOK := Wtf8.wtf8_fixup_ok
  push_eq := wtf8_push_eq
  valid_nil := Wtf8.wtf8_valid_nil
  valid_cat := wtf8_concat_valid
  seam := wtf8_seam
  suffix_exact := Wtf8.wtf8_suffix_exact
  prefix_exact := Wtf8.wtf8_prefix_exact
  subseq_exact := Wtf8.wtf8_subseq_exact
  encode_valid c bs h := by simp [Format.wtf8] at h
  chars_total h := by simp [Format.wtf8] at h
  chars_cut _ _ _ h := by simp [Format.wtf8] at h

/-- **The model's fix-up agrees with the WTF-8 document** on every pair of well-formed operands:
removing `drop_left` bytes from the left operand and `drop_right` bytes from the right one and
inserting `insert_bytes`, as `WTF8::fixup` dictates and `push_bytes_without_validating` executes,
yields `Spec.concatWtf8`. -/
theorem C11_wtf8_fixup_agrees (a b : List UInt8) (ha : WfWtf8 a) (hb : WfWtf8 b) :
    a.take (a.length - (wtf8Fixup a b).dropLeft) ++ (wtf8Fixup a b).insert ++ b.drop (wtf8Fixup a b).dropRight
      = concatWtf8 a b :=
  wtf8_push_eq a b ((wtf8Validate_iff_wf a).mpr ha) ((wtf8Validate_iff_wf b).mpr hb)

/-! ## the specification does not depend on which of the two validity checks it is stated with -/

theorem stepFx_congr {F G : Format} (cat : List UInt8 → List UInt8 → List UInt8)
    (hV : F.validate = G.validate) (hE : F.encodeChar = G.encodeChar) (hC : F.charIndices = G.charIndices)
    (p : APool) (op : Op) : Spec.stepFx F cat p op = Spec.stepFx G cat p op := by
  cases op <;>
    simp only [Spec.stepFx, Spec.step, Spec.popFront, Spec.popBack, Spec.sub, Spec.popChar, Spec.popRun,
      hV, hE, hC]

theorem step_congr {F G : Format}
    (hV : F.validate = G.validate) (hE : F.encodeChar = G.encodeChar) (hC : F.charIndices = G.charIndices)
    (p : APool) (op : Op) : Spec.step F p op = Spec.step G p op := by
  rw [← Spec.stepFx_append, ← Spec.stepFx_append]; exact stepFx_congr _ hV hE hC p op

theorem stepFx_wtf8 (p : APool) (op : Op) : Spec.stepFx Format.wtf8 concatWtf8 p op = stepWtf8 p op :=
  stepFx_congr (F := Format.wtf8) (G := wtf8Doc) concatWtf8 wtf8_validate_eq rfl rfl p op

theorem mayPanic_wtf8 (p : APool) (op : Op) : mayPanic Format.wtf8 p op ↔ mayPanic wtf8Doc p op := by
  cases op <;> simp only [mayPanic, step_congr (F := Format.wtf8) (G := wtf8Doc) wtf8_validate_eq rfl rfl]

theorem runFx_wtf8 (p : APool) (ops : List Op) : Spec.runFx Format.wtf8 concatWtf8 p ops = runWtf8 p ops := by
  induction ops generalizing p with
  | nil => rfl
  | cons op ops ih =>
    simp only [Spec.runFx, runWtf8, List.foldl_cons] at ih ⊢
    rw [stepFx_wtf8]; exact ih _

theorem storesOK_of_noStores {ops : List Op} (h : NoStores ops) : StoresOK Format.wtf8 ops := by
  intro op ho i k v e; exact absurd e (h op ho i k v)

/-! ## the refinement theorems for WTF-8 -/

/-- **Refinement, one step, WTF-8.**  From any well-formed state whose slots and buffers hold
well-formed WTF-8, one operation of the model leaves a well-formed state, never reaches undefined
behaviour, and either acts on the abstract pool exactly as the owned-WTF-8-string specification
`Spec.stepWtf8` does (pushes concatenating as the WTF-8 document prescribes), or panics — leaving
the state unchanged — under the condition `mayPanic` (`False` for the checked and non-allocating
operations, "the specification panics too" for the `unwrap` variants, `True` for operations that can
hit the `OFLOW` guard). -/
theorem C11_step_refines_wtf8 (st : St) (op : Op) (hwf : StWF st) (hv : AWf (absPool st))
    (hd : BufWf st.heap) :
    StWF (step Format.wtf8 st op).1 ∧ (∀ s, (step Format.wtf8 st op).2 ≠ .ub s) ∧
    ((absPool (step Format.wtf8 st op).1, (step Format.wtf8 st op).2) = stepWtf8 (absPool st) op ∨
      ((step Format.wtf8 st op).2 = .panic ∧ (step Format.wtf8 st op).1 = st ∧
        mayPanic wtf8Doc (absPool st) op)) := by
  obtain ⟨a, b, c⟩ := C11_step_refines_fx Format.wtf8 concatWtf8 lawsFx_wtf8 st op hwf
    ((avalid_iff _).mpr hv) ((dv_iff _).mpr hd)
  refine ⟨a, b, ?_⟩
  rcases c with c | ⟨c1, c2, c3⟩
  · exact Or.inl (by rw [c, stepFx_wtf8])
  · exact Or.inr ⟨c1, c2, (mayPanic_wtf8 _ _).mp c3⟩

/-- the specification keeps every slot well-formed WTF-8 -/
theorem C11_spec_valid_wtf8 (p : APool) (op : Op) (hv : AWf p) (hns : ∀ i k v, op ≠ .setByte i k v) :
    AWf (stepWtf8 p op).1 := by
  rw [← stepFx_wtf8, ← avalid_iff]
  exact C11_format_valid_fx Format.wtf8 concatWtf8 lawsFx_wtf8 p op ((avalid_iff _).mpr hv)
    (fun i k v e => absurd e (hns i k v))

/-- **The invariant is kept, one step**: slots and buffers hold well-formed WTF-8 afterwards. -/
theorem C11_step_valid_wtf8 (st : St) (op : Op) (hwf : StWF st) (hv : AWf (absPool st))
    (hd : BufWf st.heap) (hns : ∀ i k v, op ≠ .setByte i k v) :
    AWf (absPool (step Format.wtf8 st op).1) ∧ BufWf (step Format.wtf8 st op).1.heap := by
  constructor
  · obtain ⟨_, _, c⟩ := C11_step_refines_wtf8 st op hwf hv hd
    rcases c with c | ⟨_, c, _⟩
    · have := C11_spec_valid_wtf8 (absPool st) op hv hns
      rw [← c] at this; exact this
    · rw [c]; exact hv
  · rw [← dv_iff]
    exact C11_step_bufvalid_fx Format.wtf8 concatWtf8 lawsFx_wtf8 st op hwf ((avalid_iff _).mpr hv)
      ((dv_iff _).mpr hd) (fun i k v e => absurd e (hns i k v))

/-- **Refinement, all histories, WTF-8.**  After any history (without `DerefMut` byte stores, which
`tendril.rs` offers for `Bytes` only) from a state satisfying the invariant, the state satisfies the
invariant again and the abstract pool is what the owned-WTF-8-string specification computes for the
same history with the operations deleted on which the model panicked without the specification
panicking (`OFLOW`; those leave the model state unchanged). -/
theorem C11_run_refines_wtf8 (ops : List Op) (st : St) (hwf : StWF st) (hv : AWf (absPool st))
    (hd : BufWf st.heap) (hs : NoStores ops) :
    StWF (run Format.wtf8 st ops) ∧ AWf (absPool (run Format.wtf8 st ops)) ∧
    BufWf (run Format.wtf8 st ops).heap ∧
    ∃ ops', ops'.Sublist ops ∧ absPool (run Format.wtf8 st ops) = runWtf8 (absPool st) ops' := by
  obtain ⟨a, b, c, ops', h1, h2⟩ := C11_run_refines_fx Format.wtf8 concatWtf8 lawsFx_wtf8 ops st hwf
    ((avalid_iff _).mpr hv) ((dv_iff _).mpr hd) (storesOK_of_noStores hs)
  exact ⟨a, (avalid_iff _).mp b, (dv_iff _).mp c, ops', h1, by rw [h2, runFx_wtf8]⟩

/-- **A WTF-8 tendril always holds well-formed WTF-8**: in every state reachable from the empty pool
the state is well-formed and every slot — and every buffer — holds well-formed WTF-8 in the sense
of the WTF-8 document. -/
theorem C11_wtf8_valid (slots : Nat) (ops : List Op) (hs : NoStores ops) :
    StWF (run Format.wtf8 (St.init slots) ops) ∧ AWf (absPool (run Format.wtf8 (St.init slots) ops)) ∧
      BufWf (run Format.wtf8 (St.init slots) ops).heap := by
  obtain ⟨a, b, c⟩ := C11_reachable_wf_fx Format.wtf8 concatWtf8 lawsFx_wtf8 slots ops (storesOK_of_noStores hs)
  exact ⟨a, (avalid_iff _).mp b, (dv_iff _).mp c⟩

/-- **Independence, WTF-8.**  An operation changes at most its target slot(s): every other tendril of
the pool denotes exactly the same bytes afterwards, however the buffers are shared — also when a
push rewrites the last three bytes of its target for the surrogate fix-up. -/
theorem C11_independent_wtf8 (st : St) (op : Op) (hwf : StWF st) (hv : AWf (absPool st))
    (hd : BufWf st.heap) (m : Nat) (hm : m ∉ targets op) :
    (absPool (step Format.wtf8 st op).1)[m]? = (absPool st)[m]? :=
  C11_independent_fx Format.wtf8 concatWtf8 lawsFx_wtf8 st op hwf ((avalid_iff _).mpr hv)
    ((dv_iff _).mpr hd) m hm

/-- **No undefined behaviour, WTF-8**, on any reachable state. -/
theorem C11_no_ub_wtf8 (slots : Nat) (ops : List Op) (hs : NoStores ops) (op : Op) (s : String) :
    (step Format.wtf8 (run Format.wtf8 (St.init slots) ops) op).2 ≠ .ub s :=
  C11_no_ub_fx Format.wtf8 concatWtf8 lawsFx_wtf8 slots ops (storesOK_of_noStores hs) op s

/-- **checked push, WTF-8**: `try_push_bytes` answers `Err` iff the bytes are not well-formed WTF-8, and
then nothing changes; otherwise (short of the `OFLOW` panic) the tendril is the WTF-8 concatenation. -/
theorem C11_push_checked_wtf8 (st : St) (i : Nat) (bs : List UInt8) (t : T) (hwf : StWF st)
    (hv : AWf (absPool st)) (hd : BufWf st.heap) (hp : st.pool[i]? = some (some t)) :
    (¬ WfWtf8 bs →
      (step Format.wtf8 st (.pushBytes i bs)).2 = .err ∧
        absPool (step Format.wtf8 st (.pushBytes i bs)).1 = absPool st) ∧
    (WfWtf8 bs →
      ((step Format.wtf8 st (.pushBytes i bs)).2 = .ok ∧
        absPool (step Format.wtf8 st (.pushBytes i bs)).1
          = (absPool st).set i (some (concatWtf8 (abs st.heap t) bs))) ∨
      ((step Format.wtf8 st (.pushBytes i bs)).2 = .panic ∧ (step Format.wtf8 st (.pushBytes i bs)).1 = st)) := by
  obtain ⟨a, b⟩ := C11_push_checked_fx Format.wtf8 concatWtf8 lawsFx_wtf8 st i bs t hwf
    ((avalid_iff _).mpr hv) ((dv_iff _).mpr hd) hp
  constructor
  · intro h; apply a
    cases hb : Format.wtf8.validate bs with
    | false => rfl
    | true => exact absurd ((wtf8Validate_iff_wf bs).mp hb) h
  · intro h; exact b ((wtf8Validate_iff_wf bs).mpr h)

theorem encodeUtf8_length {n : Nat} {bs : List UInt8} (h : encodeUtf8 n = some bs) : bs.length ≤ 4 := by
  unfold encodeUtf8 at h
  repeat' split at h
  all_goals first
    | (cases h; simp)
    | cases h

/-- the WTF-8 fix-up inserts at most four bytes, and only when it drops six -/
theorem fixupSmall_wtf8 : FixupSmall Format.wtf8 := by
  intro a b
  show (wtf8Fixup a b).insert.length ≤ (wtf8Fixup a b).dropLeft + (wtf8Fixup a b).dropRight
  unfold wtf8Fixup
  split
  · split
    · simp only []
      split
      · rename_i bs he
        have := encodeUtf8_length he
        simp only []; omega
      · simp
    · simp
  · simp

/-- **No spurious panic, WTF-8.**  While the tendrils and the operands involved are below 2^30 bytes,
the model panics only where the owned-WTF-8-string specification panics (the `unwrap` of `pop_front`,
`pop_back`, `subtendril` on an error) — below that size every operation refines the specification
exactly. -/
theorem C11_no_spurious_panic_wtf8 (st : St) (op : Op) (hwf : StWF st) (hv : AWf (absPool st))
    (hd : BufWf st.heap) (hs : Small Format.wtf8 st op) :
    (absPool (step Format.wtf8 st op).1, (step Format.wtf8 st op).2) = stepWtf8 (absPool st) op := by
  rw [← stepFx_wtf8]
  exact C11_no_spurious_panic_fx Format.wtf8 concatWtf8 lawsFx_wtf8 fixupSmall_wtf8 st op hwf
    ((avalid_iff _).mpr hv) ((dv_iff _).mpr hd) hs

/-- the generalisation is conservative: for a format without fix-up the theorems over `LawsFx` are
those of `C11.lean` (`Spec.stepFx` with `++` is `Spec.step`) -/
theorem C11_step_refines_of_laws (F : Format) (L : Laws F) (st : St) (op : Op) (hwf : StWF st)
    (hv : AValid F (absPool st)) (hd : DV F st.heap) :
    (absPool (step F st op).1, (step F st op).2) = Spec.step F (absPool st) op ∨
      ((step F st op).2 = .panic ∧ (step F st op).1 = st ∧ mayPanic F (absPool st) op) := by
  have := (C11_step_refines_fx F _ L.toLawsFx st op hwf hv hd).2.2
  rwa [Spec.stepFx_append] at this

/-! ## non-vacuity -/

/-- the specification on the example of the WTF-8 document's motivation: U+D83D ++ U+DCA9 = U+1F4A9 -/
example : concatWtf8 [0xED, 0xA0, 0xBD] [0xED, 0xB2, 0xA9] = [0xF0, 0x9F, 0x92, 0xA9] := by decide
example : decCps [0xED, 0xA0, 0xBD] = some [0xD83D] ∧ decCps [0xED, 0xB2, 0xA9] = some [0xDCA9] ∧
    joinCps [0xD83D] [0xDCA9] = [0x1F4A9] ∧ encCps [0x1F4A9] = [0xF0, 0x9F, 0x92, 0xA9] := by decide
/-- no fix-up: lead surrogate followed by ASCII, trail followed by lead -/
example : concatWtf8 [0xED, 0xA0, 0xBD] [0x41] = [0xED, 0xA0, 0xBD, 0x41] := by decide
example : concatWtf8 [0xED, 0xB2, 0xA9] [0xED, 0xA0, 0xBD] = [0xED, 0xB2, 0xA9, 0xED, 0xA0, 0xBD] := by decide
/-- a surrogate pair spelled as two three-byte sequences is not well-formed; its halves are -/
example : wfWtf8 [0xED, 0xA0, 0xBD, 0xED, 0xB2, 0xA9] = false ∧ wfWtf8 [0xED, 0xA0, 0xBD] = true ∧
    wfWtf8 [0xED, 0xB2, 0xA9] = true ∧ wfWtf8 [0xF0, 0x9F, 0x92, 0xA9] = true ∧
    wfWtf8 [0xC0, 0x80] = false ∧ wfWtf8 [0xF4, 0x90, 0x80, 0x80] = false ∧ wfWtf8 [0xE0, 0x80, 0x80] = false := by
  decide

/-- the model, inline tendrils: `push_tendril` of `ED B2 A9` onto `ED A0 BD` gives `F0 9F 92 A9` -/
example : absPool (run Format.wtf8 (St.init 2)
    [.fromBytes 0 [0xED, 0xA0, 0xBD], .fromBytes 1 [0xED, 0xB2, 0xA9], .pushTendril 0 1])
    = [some [0xF0, 0x9F, 0x92, 0xA9], some [0xED, 0xB2, 0xA9]] := by decide

/-- the model, `try_push_bytes` on an inline tendril -/
example : absPool (run Format.wtf8 (St.init 1)
    [.fromBytes 0 [0xED, 0xA0, 0xBD], .pushBytes 0 [0xED, 0xB2, 0xA9]])
    = [some [0xF0, 0x9F, 0x92, 0xA9]] := by decide

private def lhs11 : List UInt8 := [0x61, 0x62, 0x63, 0x64, 0x65, 0x66, 0x67, 0x68, 0xED, 0xA0, 0xBD]
private def rhs11 : List UInt8 := [0xED, 0xB2, 0xA9, 0x31, 0x32, 0x33, 0x34, 0x35, 0x36, 0x37, 0x38]

/-- the model, heap tendrils (11 bytes each, owned buffers): the last three bytes of the left operand
and the first three of the right one become the four bytes of U+1F4A9; the right operand keeps its
bytes -/
example : (run Format.wtf8 (St.init 2) [.fromBytes 0 lhs11, .fromBytes 1 rhs11]).pool
    = [some (.owned 0 11 16), some (.owned 1 11 16)] := by decide
example : absPool (run Format.wtf8 (St.init 2) [.fromBytes 0 lhs11, .fromBytes 1 rhs11, .pushTendril 0 1])
    = [some ([0x61, 0x62, 0x63, 0x64, 0x65, 0x66, 0x67, 0x68] ++ [0xF0, 0x9F, 0x92, 0xA9] ++
        [0x31, 0x32, 0x33, 0x34, 0x35, 0x36, 0x37, 0x38]), some rhs11] := by decide

/-- the model, shared buffers: the left operand is a clone (shared buffer); the push copies, the
other owner of the buffer keeps `lhs11` -/
example : absPool (run Format.wtf8 (St.init 3)
    [.fromBytes 0 lhs11, .clone 0 2, .fromBytes 1 rhs11, .pushTendril 0 1])
    = [some ([0x61, 0x62, 0x63, 0x64, 0x65, 0x66, 0x67, 0x68] ++ [0xF0, 0x9F, 0x92, 0xA9] ++
        [0x31, 0x32, 0x33, 0x34, 0x35, 0x36, 0x37, 0x38]), some rhs11, some lhs11] := by decide

/-- NO fix-up: a lead surrogate followed by ASCII (inline and heap) -/
example : absPool (run Format.wtf8 (St.init 2)
    [.fromBytes 0 [0xED, 0xA0, 0xBD], .fromBytes 1 [0x41], .pushTendril 0 1])
    = [some [0xED, 0xA0, 0xBD, 0x41], some [0x41]] := by decide
example : absPool (run Format.wtf8 (St.init 2)
    [.fromBytes 0 lhs11, .fromBytes 1 [0x41, 0x42], .pushTendril 0 1])
    = [some (lhs11 ++ [0x41, 0x42]), some [0x41, 0x42]] := by decide

private def mid20 : List UInt8 :=
  [0x61, 0x62, 0x63, 0x64, 0x65, 0x66, 0x67, 0xED, 0xA0, 0xBD, 0x41, 0x42, 0x43, 0x44, 0x45, 0x46, 0x47,
   0x48, 0x49, 0x4A]

/-- the zero-copy merge of two adjacent views of one buffer (which skips `WTF8::fixup`): the left view
ends with a lead surrogate, what follows in the buffer cannot be a trail surrogate -/
example : (run Format.wtf8 (St.init 3)
    [.fromBytes 0 mid20, .trySubtendril 0 1 0 10, .trySubtendril 0 2 10 10, .pushTendril 1 2]).pool
    = [some (.shared 0 0 20), some (.shared 0 0 20), some (.shared 0 10 10)] := by decide

/-- a checked slice that would cut the surrogate in two is refused; one that isolates it is fine -/
example : (step Format.wtf8 (run Format.wtf8 (St.init 2) [.fromBytes 0 mid20]) (.trySubtendril 0 1 0 9)).2
    = .inv := by decide
example : absPool (step Format.wtf8 (run Format.wtf8 (St.init 2) [.fromBytes 0 mid20])
    (.trySubtendril 0 1 7 3)).1 = [some mid20, some [0xED, 0xA0, 0xBD]] := by decide
/-- a pushed slice that is not well-formed WTF-8 (a surrogate pair in two three-byte sequences) is
rejected -/
example : (step Format.wtf8 (run Format.wtf8 (St.init 1) [.fromBytes 0 [0x41]])
    (.pushBytes 0 [0xED, 0xA0, 0xBD, 0xED, 0xB2, 0xA9])).2 = .err := by decide

/-! ## axioms -/

#print axioms lawsFx_wtf8
#print axioms wtf8Validate_iff_wf
#print axioms C11_wtf8_fixup_agrees
#print axioms C11_step_refines_wtf8
#print axioms C11_step_valid_wtf8
#print axioms C11_spec_valid_wtf8
#print axioms C11_run_refines_wtf8
#print axioms C11_wtf8_valid
#print axioms C11_independent_wtf8
#print axioms C11_no_ub_wtf8
#print axioms C11_push_checked_wtf8
#print axioms C11_no_spurious_panic_wtf8
#print axioms C11_step_refines_of_laws
#print axioms C11_step_refines_fx
#print axioms C11_step_bufvalid_fx
#print axioms C11_format_valid_fx
#print axioms C11_run_refines_fx
#print axioms C11_independent_fx
#print axioms Spec.decCps_iff
#print axioms Spec.wfWtf8_iff

end H5V.Props.C11
