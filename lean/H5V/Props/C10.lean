import H5V.Model.Utf8
import H5V.Spec.Utf8
/-!
C10 — byte-stream front ends decode exactly like a whole-input lossy decode.

Main results (all for **every** list of chunks, no bounds):
* `stdStep_eq_head` — the modelled `core::str::from_utf8` accepts/rejects exactly as Unicode Table 3-7
  (`H5V.Spec.Utf8.head`), with the same `error_len`s.
* `C10_utf8_chunking` — the model of `Utf8LossyDecoder` (process/finish, `decode_utf8`,
  `IncompleteUtf8::try_complete_offsets`) returns `.ok` (no panic branch, loop fuel suffices) and the
  stream of sink calls, errors marked in place, equals the spec's `marked` stream of the concatenation.
  Proved by the invariant `∀ fut, marked (pending ++ rest-of-chunk ++ fut) = emitted ++ marked (pending' ++ fut)`
  which relates the buffered incomplete prefix to the unread suffix.
* corollaries `C10_utf8_text_errors` (text = `lossyBytes`, #errors = `replacements`), `C10_no_panic`,
  `C10_chunking_independent`, `C10_pieces_wellformed`.
* spec sanity: `C10_lossyBytes_roundtrip` (the delivered bytes are well-formed and decode to the same
  scalar values) and `C10_scalar_valid` (shortest form, no surrogates, ≤ U+10FFFF).
* `C10_encoding_rs_partial` (+ `_finish_drains`, `_eof_witness`) — `decode_to_sink` against an arbitrary
  abstract decoder.  **Partial**: the real encoding_rs decoders are not modelled.

Not proved here: `C10_parse` of DESIGN.md 6.10 (tree via `from_utf8()` = tree of the lossy string) —
it needs the tokenizer / tree-builder models and C03; the `utf8 parse` family checks it on the real code.
-/
namespace H5V.Props.C10
open H5V.Model.Utf8 H5V.Spec.Utf8

def toStep : Head → Step
  | .scalar n => .adv n
  | .invalid n => .bad (some n)
  | .truncated => .bad none

/-- which row of Table 3-7 a first byte selects, by numeric range -/
theorem rowOf_cases (b : UInt8) :
    (b.toNat ≤ 0x7F ∧ rowOf b = some [(0x00, 0x7F)]) ∨
    (0xC2 ≤ b.toNat ∧ b.toNat ≤ 0xDF ∧ rowOf b = some [(0xC2, 0xDF), (0x80, 0xBF)]) ∨
    (b.toNat = 0xE0 ∧ rowOf b = some [(0xE0, 0xE0), (0xA0, 0xBF), (0x80, 0xBF)]) ∨
    (0xE1 ≤ b.toNat ∧ b.toNat ≤ 0xEC ∧ rowOf b = some [(0xE1, 0xEC), (0x80, 0xBF), (0x80, 0xBF)]) ∨
    (b.toNat = 0xED ∧ rowOf b = some [(0xED, 0xED), (0x80, 0x9F), (0x80, 0xBF)]) ∨
    (0xEE ≤ b.toNat ∧ b.toNat ≤ 0xEF ∧ rowOf b = some [(0xEE, 0xEF), (0x80, 0xBF), (0x80, 0xBF)]) ∨
    (b.toNat = 0xF0 ∧ rowOf b = some [(0xF0, 0xF0), (0x90, 0xBF), (0x80, 0xBF), (0x80, 0xBF)]) ∨
    (0xF1 ≤ b.toNat ∧ b.toNat ≤ 0xF3 ∧ rowOf b = some [(0xF1, 0xF3), (0x80, 0xBF), (0x80, 0xBF), (0x80, 0xBF)]) ∨
    (b.toNat = 0xF4 ∧ rowOf b = some [(0xF4, 0xF4), (0x80, 0x8F), (0x80, 0xBF), (0x80, 0xBF)]) ∨
    (((0x80 ≤ b.toNat ∧ b.toNat ≤ 0xC1) ∨ 0xF5 ≤ b.toNat) ∧ rowOf b = none) := by
  simp only [rowOf, table, List.find?, inR]
  generalize b.toNat = n
  repeat' split
  all_goals simp_all
  all_goals omega


theorem cw1 {b : UInt8} (h : b.toNat ≤ 0x7F) : charWidth b = 1 := by
  unfold charWidth; rw [if_pos (by omega)]
theorem cw2 {b : UInt8} (h1 : 0xC2 ≤ b.toNat) (h2 : b.toNat ≤ 0xDF) : charWidth b = 2 := by
  unfold charWidth; rw [if_neg (by omega), if_neg (by omega), if_pos (by omega)]
theorem cw3 {b : UInt8} (h1 : 0xE0 ≤ b.toNat) (h2 : b.toNat ≤ 0xEF) : charWidth b = 3 := by
  unfold charWidth; rw [if_neg (by omega), if_neg (by omega), if_neg (by omega), if_pos (by omega)]
theorem cw4 {b : UInt8} (h1 : 0xF0 ≤ b.toNat) (h2 : b.toNat ≤ 0xF4) : charWidth b = 4 := by
  unfold charWidth
  rw [if_neg (by omega), if_neg (by omega), if_neg (by omega), if_neg (by omega), if_pos (by omega)]
theorem cw0 {b : UInt8} (h : (0x80 ≤ b.toNat ∧ b.toNat ≤ 0xC1) ∨ 0xF5 ≤ b.toNat) : charWidth b = 0 := by
  unfold charWidth
  rcases h with h | h
  · rw [if_neg (by omega), if_pos (by omega)]
  · rw [if_neg (by omega), if_neg (by omega), if_neg (by omega), if_neg (by omega), if_neg (by omega)]

theorem isCont_eq (b : UInt8) : isCont b = inR (0x80, 0xBF) b := by
  rw [Bool.eq_iff_iff]; simp only [isCont, inR, Bool.and_eq_true, decide_eq_true_eq]; omega

macro "bool_omega" : tactic => `(tactic| (
  rw [Bool.eq_iff_iff] <;>
  simp only [second3, second4, inR, Bool.and_eq_true, Bool.or_eq_true, decide_eq_true_eq,
    beq_iff_eq] <;> omega))

theorem second3_E0 {b : UInt8} (h : b.toNat = 0xE0) (b1 : UInt8) : second3 b b1 = inR (0xA0, 0xBF) b1 := by
  bool_omega
theorem second3_E1 {b : UInt8} (h1 : 0xE1 ≤ b.toNat) (h2 : b.toNat ≤ 0xEC) (b1 : UInt8) :
    second3 b b1 = inR (0x80, 0xBF) b1 := by bool_omega
theorem second3_ED {b : UInt8} (h : b.toNat = 0xED) (b1 : UInt8) : second3 b b1 = inR (0x80, 0x9F) b1 := by
  bool_omega
theorem second3_EE {b : UInt8} (h1 : 0xEE ≤ b.toNat) (h2 : b.toNat ≤ 0xEF) (b1 : UInt8) :
    second3 b b1 = inR (0x80, 0xBF) b1 := by bool_omega
theorem second4_F0 {b : UInt8} (h : b.toNat = 0xF0) (b1 : UInt8) : second4 b b1 = inR (0x90, 0xBF) b1 := by
  bool_omega
theorem second4_F1 {b : UInt8} (h1 : 0xF1 ≤ b.toNat) (h2 : b.toNat ≤ 0xF3) (b1 : UInt8) :
    second4 b b1 = inR (0x80, 0xBF) b1 := by bool_omega
theorem second4_F4 {b : UInt8} (h : b.toNat = 0xF4) (b1 : UInt8) : second4 b b1 = inR (0x80, 0x8F) b1 := by
  bool_omega

@[simp] theorem toStep_scalar (n) : toStep (.scalar n) = .adv n := rfl
@[simp] theorem toStep_invalid (n) : toStep (.invalid n) = .bad (some n) := rfl
@[simp] theorem toStep_truncated : toStep .truncated = .bad none := rfl

/-- generic 2-byte row -/
theorem step2 {b : UInt8} {r0 r1 : Range} (hw : charWidth b = 2) (hr : rowOf b = some [r0, r1])
    (h0 : inR r0 b = true) (hc : ∀ b1, isCont b1 = inR r1 b1) (rest : List UInt8) :
    stdStep b rest = toStep (head b rest) := by
  rcases rest with _ | ⟨b1, r⟩
  · simp [stdStep, hw, head, hr, matchLen, h0]
  · cases c1 : inR r1 b1 <;> simp [stdStep, hw, head, hr, matchLen, h0, hc, c1]

/-- generic 3-byte row -/
theorem step3 {b : UInt8} {r0 r1 r2 : Range} (hw : charWidth b = 3) (hr : rowOf b = some [r0, r1, r2])
    (h0 : inR r0 b = true) (hs : ∀ b1, second3 b b1 = inR r1 b1) (hc : ∀ b2, isCont b2 = inR r2 b2)
    (rest : List UInt8) : stdStep b rest = toStep (head b rest) := by
  rcases rest with _ | ⟨b1, _ | ⟨b2, r⟩⟩
  · simp [stdStep, hw, head, hr, matchLen, h0]
  · cases c1 : inR r1 b1 <;> simp [stdStep, hw, head, hr, matchLen, h0, hs, c1]
  · cases c1 : inR r1 b1 <;> cases c2 : inR r2 b2 <;>
      simp [stdStep, hw, head, hr, matchLen, h0, hs, hc, c1, c2]

/-- generic 4-byte row -/
theorem step4 {b : UInt8} {r0 r1 r2 : Range} (hw : charWidth b = 4) (hr : rowOf b = some [r0, r1, r2, r2])
    (h0 : inR r0 b = true) (hs : ∀ b1, second4 b b1 = inR r1 b1) (hc2 : ∀ b2, isCont b2 = inR r2 b2)
    (rest : List UInt8) : stdStep b rest = toStep (head b rest) := by
  rcases rest with _ | ⟨b1, _ | ⟨b2, _ | ⟨b3, r⟩⟩⟩
  · simp [stdStep, hw, head, hr, matchLen, h0]
  · cases c1 : inR r1 b1 <;> simp [stdStep, hw, head, hr, matchLen, h0, hs, c1]
  · cases c1 : inR r1 b1 <;> cases c2 : inR r2 b2 <;>
      simp [stdStep, hw, head, hr, matchLen, h0, hs, hc2, c1, c2]
  · cases c1 : inR r1 b1 <;> cases c2 : inR r2 b2 <;> cases c3 : inR r2 b3 <;>
      simp [stdStep, hw, head, hr, matchLen, h0, hs, hc2, c1, c2, c3]

/-- **The modelled `str::from_utf8` step agrees with Table 3-7**: one iteration of the validation loop
accepts / rejects exactly what the table-driven `head` says, with the same lengths. -/
theorem stdStep_eq_head (b : UInt8) (rest : List UInt8) : stdStep b rest = toStep (head b rest) := by
  have H := rowOf_cases b
  rcases H with ⟨h, hr⟩ | ⟨h1, h2, hr⟩ | ⟨h, hr⟩ | ⟨h1, h2, hr⟩ | ⟨h, hr⟩ | ⟨h1, h2, hr⟩ | ⟨h, hr⟩ |
    ⟨h1, h2, hr⟩ | ⟨h, hr⟩ | ⟨h, hr⟩
  · simp [stdStep, cw1 h, head, hr, matchLen, inR, h]
  · exact step2 (cw2 h1 h2) hr (by simp [inR, h1, h2]) isCont_eq rest
  · exact step3 (cw3 (by omega) (by omega)) hr (by simp [inR, h]) (second3_E0 h) isCont_eq rest
  · exact step3 (cw3 (by omega) (by omega)) hr (by simp [inR, h1, h2]) (second3_E1 h1 h2) isCont_eq rest
  · exact step3 (cw3 (by omega) (by omega)) hr (by simp [inR, h]) (second3_ED h) isCont_eq rest
  · exact step3 (cw3 (by omega) (by omega)) hr (by simp [inR, h1, h2]) (second3_EE h1 h2) isCont_eq rest
  · exact step4 (cw4 (by omega) (by omega)) hr (by simp [inR, h]) (second4_F0 h) isCont_eq rest
  · exact step4 (cw4 (by omega) (by omega)) hr (by simp [inR, h1, h2]) (second4_F1 h1 h2) isCont_eq rest
  · exact step4 (cw4 (by omega) (by omega)) hr (by simp [inR, h]) (second4_F4 h) isCont_eq rest
  · simp [stdStep, cw0 h, head, hr]


/-! ### properties of the table-driven `head` -/

theorem matchLen_le (row : List Range) (bs : List UInt8) :
    matchLen row bs ≤ row.length ∧ matchLen row bs ≤ bs.length := by
  induction row generalizing bs with
  | nil => simp [matchLen]
  | cons r rs ih =>
    cases bs with
    | nil => simp [matchLen]
    | cons b bs =>
      simp only [matchLen]; split
      · have := ih bs; simp; omega
      · simp

/-- once the match has stopped inside the input (mismatch or row exhausted) more input changes nothing -/
theorem matchLen_append_stable (row : List Range) (bs x : List UInt8)
    (h : matchLen row bs = row.length ∨ matchLen row bs < bs.length) :
    matchLen row (bs ++ x) = matchLen row bs := by
  induction row generalizing bs with
  | nil => simp [matchLen]
  | cons r rs ih =>
    cases bs with
    | nil => simp [matchLen] at h
    | cons b bs =>
      simp only [List.cons_append, matchLen] at h ⊢
      split
      · rename_i hb
        simp only [hb, ↓reduceIte, List.length_cons, Nat.add_right_cancel_iff, Nat.add_lt_add_iff_right] at h
        rw [ih bs h]
      · rfl

theorem matchLen_append_mono (row : List Range) (bs x : List UInt8) :
    matchLen row bs ≤ matchLen row (bs ++ x) := by
  induction row generalizing bs with
  | nil => simp [matchLen]
  | cons r rs ih =>
    cases bs with
    | nil => simp [matchLen]
    | cons b bs =>
      simp only [List.cons_append, matchLen]
      split
      · have := ih bs; omega
      · omega

theorem rowOf_some {b : UInt8} {row : List Range} (h : rowOf b = some row) :
    ∃ r rs, row = r :: rs ∧ inR r b = true ∧ row.length ≤ 4 := by
  have hm : row ∈ table := List.mem_of_find?_eq_some h
  have hp := List.find?_some h
  have hl : row.length ≤ 4 := by
    simp only [table, List.mem_cons, List.not_mem_nil, or_false] at hm
    rcases hm with rfl | rfl | rfl | rfl | rfl | rfl | rfl | rfl | rfl <;> simp
  cases row with
  | nil => simp at hp
  | cons r rs => exact ⟨r, rs, rfl, by simpa using hp, hl⟩

/-- facts shared by all verdicts -/
theorem head_bounds (b : UInt8) (rest : List UInt8) :
    (∀ n, head b rest = .scalar n → 1 ≤ n ∧ n ≤ rest.length + 1 ∧ n ≤ 4) ∧
    (∀ n, head b rest = .invalid n → 1 ≤ n ∧ n ≤ rest.length + 1 ∧ n ≤ 3) ∧
    (head b rest = .truncated → rest.length + 1 ≤ 3) := by
  unfold head
  cases hr : rowOf b with
  | none => simp
  | some row =>
    obtain ⟨r, rs, rfl, hb, hl⟩ := rowOf_some hr
    have hm := matchLen_le (r :: rs) (b :: rest)
    have h1 : 1 ≤ matchLen (r :: rs) (b :: rest) := by simp [matchLen, hb]
    simp only [List.length_cons] at hm hl ⊢
    refine ⟨?_, ?_, ?_⟩
    · intro n; split
      · intro h; cases h; omega
      · split <;> simp
    · intro n; split
      · simp
      · split
        · simp
        · intro h; cases h; omega
    · split
      · simp
      · split
        · intro _; omega
        · simp

/-- a verdict other than `truncated` does not depend on what follows -/
theorem head_append (b : UInt8) (rest x : List UInt8) (h : head b rest ≠ .truncated) :
    head b (rest ++ x) = head b rest := by
  unfold head at h ⊢
  cases hr : rowOf b with
  | none => rfl
  | some row =>
    simp only [hr] at h ⊢
    have hm := matchLen_le row (b :: rest)
    have hst : matchLen row (b :: rest ++ x) = matchLen row (b :: rest) := by
      apply matchLen_append_stable
      by_cases h1 : matchLen row (b :: rest) = row.length
      · exact Or.inl h1
      · right
        simp only [h1, ↓reduceIte] at h
        by_cases h2 : matchLen row (b :: rest) = (b :: rest).length
        · simp [h2] at h
        · omega
    rw [← List.cons_append, hst]
    by_cases h1 : matchLen row (b :: rest) = row.length
    · simp [h1]
    · simp only [h1, ↓reduceIte] at h ⊢
      by_cases h2 : matchLen row (b :: rest) = (b :: rest).length
      · simp [h2] at h
      · have : ¬ matchLen row (b :: rest) = (b :: rest ++ x).length := by
          simp only [List.length_cons, List.length_append] at h2 hm ⊢; omega
        rw [if_neg this, if_neg h2]

/-- extending a truncated sequence: whatever comes out covers at least the bytes already seen -/
theorem head_trunc_append (b : UInt8) (rest x : List UInt8) (h : head b rest = .truncated) :
    (∀ n, head b (rest ++ x) = .scalar n → rest.length + 1 < n) ∧
    (∀ n, head b (rest ++ x) = .invalid n → rest.length + 1 ≤ n) := by
  unfold head at h ⊢
  cases hr : rowOf b with
  | none => simp [hr] at h
  | some row =>
    simp only [hr] at h ⊢
    have hmono := matchLen_append_mono row (b :: rest) x
    rw [List.cons_append] at hmono
    by_cases h1 : matchLen row (b :: rest) = row.length
    · simp [h1] at h
    · simp only [h1, ↓reduceIte] at h
      by_cases h2 : matchLen row (b :: rest) = (b :: rest).length
      · have hm := matchLen_le row (b :: rest)
        simp only [List.length_cons] at h2 hm
        refine ⟨?_, ?_⟩
        · intro n; split
          · intro hh; cases hh; omega
          · split <;> simp
        · intro n; split
          · simp
          · split
            · simp
            · intro hh; cases hh; omega
      · rw [if_neg h2] at h; cases h


theorem matchLen_take (row : List Range) (bs : List UInt8) :
    matchLen row (bs.take (matchLen row bs)) = matchLen row bs := by
  induction row generalizing bs with
  | nil => simp [matchLen]
  | cons r rs ih =>
    cases bs with
    | nil => simp [matchLen]
    | cons b bs =>
      simp only [matchLen]
      split
      · rename_i hb; simp [matchLen, hb, ih]
      · simp [matchLen]

/-- a well-formed sequence is recognised from its own bytes alone -/
theorem head_take {b : UInt8} {rest : List UInt8} {n : Nat} (h : head b rest = .scalar n) :
    head b (rest.take (n - 1)) = .scalar n := by
  have hb := (head_bounds b rest).1 n h
  unfold head at h ⊢
  cases hr : rowOf b with
  | none => simp [hr] at h
  | some row =>
    simp only [hr] at h ⊢
    by_cases h1 : matchLen row (b :: rest) = row.length
    · simp only [h1, ↓reduceIte, Head.scalar.injEq] at h
      have := matchLen_take row (b :: rest)
      rw [h1, h] at this
      obtain ⟨m, rfl⟩ : ∃ m, n = m + 1 := ⟨n - 1, by omega⟩
      simp only [List.take_succ_cons] at this
      simp [this, h]
    · simp only [h1, ↓reduceIte] at h
      split at h <;> cases h

/-! ### the decoded stream, one head unit at a time -/

theorem units_cons (b : UInt8) (rest : List UInt8) :
    units (b :: rest) = match head b rest with
      | .scalar n => .scalar (b :: rest.take (n - 1)) :: units (rest.drop (n - 1))
      | .invalid n => .repl :: units (rest.drop (n - 1))
      | .truncated => [.repl] := by
  rw [units]; rfl

def replMarked : List (Option UInt8) := none :: replBytes.map some

theorem marked_nil : marked [] = [] := by simp [marked, units]

theorem marked_scalar {b : UInt8} {rest : List UInt8} {n : Nat} (h : head b rest = .scalar n)
    (fut : List UInt8) :
    marked (b :: rest ++ fut) = ((b :: rest).take n).map some ++ marked ((b :: rest).drop n ++ fut) := by
  have hb := (head_bounds b rest).1 n h
  have he : head b (rest ++ fut) = .scalar n := by rw [head_append _ _ _ (by simp [h]), h]
  obtain ⟨m, rfl⟩ : ∃ m, n = m + 1 := ⟨n - 1, by omega⟩
  have hm : m ≤ rest.length := by omega
  simp only [marked, List.cons_append, units_cons, he, Nat.add_sub_cancel, List.flatMap_cons, Unit.marked,
    List.take_succ_cons, List.drop_succ_cons, List.take_append_of_le_length hm,
    List.drop_append_of_le_length hm]

theorem marked_invalid {b : UInt8} {rest : List UInt8} {n : Nat} (h : head b rest = .invalid n)
    (fut : List UInt8) :
    marked (b :: rest ++ fut) = replMarked ++ marked ((b :: rest).drop n ++ fut) := by
  have hb := (head_bounds b rest).2.1 n h
  have he : head b (rest ++ fut) = .invalid n := by rw [head_append _ _ _ (by simp [h]), h]
  obtain ⟨m, rfl⟩ : ∃ m, n = m + 1 := ⟨n - 1, by omega⟩
  have hm : m ≤ rest.length := by omega
  simp only [marked, List.cons_append, units_cons, he, Nat.add_sub_cancel, List.flatMap_cons, Unit.marked,
    List.drop_succ_cons, List.drop_append_of_le_length hm, replMarked]

theorem marked_truncated {b : UInt8} {rest : List UInt8} (h : head b rest = .truncated) :
    marked (b :: rest) = replMarked := by
  simp [marked, units_cons, h, Unit.marked, replMarked]

/-- `p` is well-formed UTF-8 in the streaming sense: it decodes to itself whatever follows -/
def ValidPrefix (p : List UInt8) : Prop := ∀ fut, marked (p ++ fut) = p.map some ++ marked fut

theorem validPrefix_nil : ValidPrefix [] := by intro fut; simp

theorem validPrefix_append {p q : List UInt8} (hp : ValidPrefix p) (hq : ValidPrefix q) :
    ValidPrefix (p ++ q) := by
  intro fut; rw [List.append_assoc, hp, hq]; simp

/-- a pending incomplete sequence: non-empty proper prefix of a well-formed sequence -/
def Trunc (t : List UInt8) : Prop := ∃ b r, t = b :: r ∧ head b r = .truncated

/-! ### the modelled `from_utf8` in terms of the spec -/

theorem fromUtf8Go_spec (idx : Nat) (bs : List UInt8) :
    match fromUtf8Go idx bs with
    | .ok => ValidPrefix bs
    | .err v e => ∃ p b r, bs = p ++ b :: r ∧ v = idx + p.length ∧ ValidPrefix p ∧ stdStep b r = .bad e := by
  induction h : bs.length using Nat.strongRecOn generalizing idx bs with
  | _ len ih =>
    cases bs with
    | nil => rw [fromUtf8Go]; exact validPrefix_nil
    | cons b rest =>
      rw [fromUtf8Go]
      have hs := stdStep_eq_head b rest
      cases hh : head b rest with
      | scalar n =>
        have hb := (head_bounds b rest).1 n hh
        rw [hh] at hs; simp only [toStep_scalar] at hs
        simp only [hs]
        obtain ⟨m, rfl⟩ : ∃ m, n = m + 1 := ⟨n - 1, by omega⟩
        have hm : m ≤ rest.length := by omega
        simp only [Nat.add_sub_cancel] at *
        have hv : ValidPrefix (b :: rest.take m) := by
          intro fut
          have := marked_scalar (head_take hh) fut
          simp only [Nat.add_sub_cancel] at this
          rw [this]
          have hl : (rest.take m).length = m := by simp [hm]
          simp [List.take_of_length_le, List.drop_of_length_le, hl]
        have hsplit : b :: rest = (b :: rest.take m) ++ rest.drop m := by simp
        have hlt : (rest.drop m).length < len := by subst h; simp; omega
        have := ih _ hlt (idx + (m + 1)) (rest.drop m) rfl
        generalize fromUtf8Go (idx + (m + 1)) (rest.drop m) = res at this ⊢
        cases res with
        | ok =>
          simp only at this ⊢
          rw [hsplit]; exact validPrefix_append hv this
        | err v e =>
          simp only at this ⊢
          obtain ⟨p, b', r', hp, hvv, hvp, hst⟩ := this
          refine ⟨(b :: rest.take m) ++ p, b', r', ?_, ?_, validPrefix_append hv hvp, hst⟩
          · rw [List.append_assoc, ← hp]; exact hsplit
          · simp [hvv, hm]; omega
      | invalid n =>
        rw [hh] at hs; simp only [toStep_invalid] at hs
        simp only [hs]
        exact ⟨[], b, rest, by simp, by simp, validPrefix_nil, hs⟩
      | truncated =>
        rw [hh] at hs; simp only [toStep_truncated] at hs
        simp only [hs]
        exact ⟨[], b, rest, by simp, by simp, validPrefix_nil, hs⟩


theorem fromUtf8Go_ge {idx : Nat} {bs : List UInt8} {v : Nat} {e : Option Nat}
    (h : fromUtf8Go idx bs = .err v e) : idx ≤ v := by
  have := fromUtf8Go_spec idx bs
  rw [h] at this
  obtain ⟨p, _, _, _, hv, _⟩ := this
  omega

/-- the first iteration decides: either the error is right here, or a scalar was accepted first -/
theorem fromUtf8Go_first {idx : Nat} {b : UInt8} {rest : List UInt8} {v : Nat} {e : Option Nat}
    (h : fromUtf8Go idx (b :: rest) = .err v e) :
    (v = idx ∧ stdStep b rest = .bad e) ∨ (∃ n, head b rest = .scalar n ∧ idx + n ≤ v) := by
  rw [fromUtf8Go] at h
  have hs := stdStep_eq_head b rest
  cases hh : head b rest with
  | scalar n =>
    rw [hh] at hs; simp only [toStep_scalar] at hs
    simp only [hs] at h
    exact Or.inr ⟨n, rfl, fromUtf8Go_ge h⟩
  | invalid n =>
    rw [hh] at hs; simp only [toStep_invalid] at hs
    simp only [hs, Utf8Res.err.injEq] at h
    exact Or.inl ⟨h.1.symm, by rw [hs, h.2]⟩
  | truncated =>
    rw [hh] at hs; simp only [toStep_truncated] at hs
    simp only [hs, Utf8Res.err.injEq] at h
    exact Or.inl ⟨h.1.symm, by rw [hs, h.2]⟩

theorem bad_head {b : UInt8} {r : List UInt8} {e : Option Nat} (h : stdStep b r = .bad e) :
    (∃ n, e = some n ∧ head b r = .invalid n) ∨ (e = none ∧ head b r = .truncated) := by
  rw [stdStep_eq_head] at h
  cases hh : head b r with
  | scalar n => simp [hh] at h
  | invalid n => simp only [hh, toStep_invalid, Step.bad.injEq] at h; exact Or.inl ⟨n, h.symm, rfl⟩
  | truncated => simp only [hh, toStep_truncated, Step.bad.injEq] at h; exact Or.inr ⟨h.symm, rfl⟩

/-! ### decode_utf8 -/

theorem decodeUtf8_spec (input : List UInt8) :
    ∃ d, decodeUtf8 input = .ok d ∧
      match d with
      | .ok => ValidPrefix input
      | .invalid v n => ∃ p b r, input = p ++ b :: r ∧ v = p.length ∧ ValidPrefix p ∧ head b r = .invalid n
      | .incomplete v inc => ∃ p b r, input = p ++ b :: r ∧ v = p.length ∧ ValidPrefix p ∧
          head b r = .truncated ∧ inc.buf = b :: r := by
  unfold decodeUtf8 fromUtf8
  have hspec := fromUtf8Go_spec 0 input
  generalize fromUtf8Go 0 input = res at hspec
  cases res with
  | ok => exact ⟨.ok, rfl, hspec⟩
  | err v e =>
    obtain ⟨p, b, r, hin, hv, hvp, hst⟩ := hspec
    simp only [Nat.zero_add] at hv
    have hlen : ¬ v > input.length := by subst hin hv; simp
    have hdrop : input.drop v = b :: r := by subst hin hv; simp
    simp only [hlen, ↓reduceIte, hdrop]
    rcases bad_head hst with ⟨n, rfl, hh⟩ | ⟨rfl, hh⟩
    · have hb := (head_bounds b r).2.1 n hh
      have : ¬ n > (b :: r).length := by simp; omega
      simp only [this, ↓reduceIte]
      exact ⟨_, rfl, p, b, r, hin, hv, hvp, hh⟩
    · have hb := (head_bounds b r).2.2 hh
      have : ¬ (b :: r).length > 4 := by simp; omega
      simp only [Incomplete.new, this, ↓reduceIte, bind, Except.bind]
      exact ⟨_, rfl, p, b, r, hin, hv, hvp, hh, rfl⟩


/-! ### the sink's view -/

def pendOf : Option Incomplete → List UInt8
  | none => []
  | some i => i.buf

/-- every text piece handed to the sink is non-empty well-formed UTF-8 -/
def GoodPieces (evs : List Event) : Prop := ∀ p, Event.text p ∈ evs → ValidPrefix p ∧ p ≠ []

@[simp] theorem markedOf_nil : markedOf [] = [] := rfl
@[simp] theorem markedOf_append (a b : List Event) : markedOf (a ++ b) = markedOf a ++ markedOf b := by
  simp [markedOf]
@[simp] theorem markedOf_text (p : List UInt8) : markedOf [.text p] = p.map some := by
  simp [markedOf, Event.marked]
theorem markedOf_repl : markedOf [.error, .text replacement] = replMarked := by
  simp [markedOf, Event.marked, replMarked, replacement, replBytes]

theorem validPrefix_replacement : ValidPrefix replacement := by
  intro fut
  have h : head 0xEF [0xBF, 0xBD] = .scalar 3 := by decide
  have := marked_scalar h fut
  simpa [replacement] using this

theorem goodPieces_nil : GoodPieces [] := by intro p hp; cases hp
theorem goodPieces_append {a b : List Event} (ha : GoodPieces a) (hb : GoodPieces b) : GoodPieces (a ++ b) := by
  intro p hp; rcases List.mem_append.1 hp with h | h
  · exact ha p h
  · exact hb p h
theorem goodPieces_text {p : List UInt8} (hv : ValidPrefix p) (hne : p ≠ []) : GoodPieces [.text p] := by
  intro q hq; simp at hq; subst hq; exact ⟨hv, hne⟩
theorem goodPieces_repl : GoodPieces [.error, .text replacement] := by
  intro q hq; simp at hq; subst hq; exact ⟨validPrefix_replacement, by simp [replacement]⟩

/-! ### the `while` loop of `process` -/

theorem processLoop_spec (fuel : Nat) (bytes : List UInt8) (evs : List Event) (hf : bytes.length ≤ fuel) :
    ∃ evs' inc', processLoop fuel bytes evs = .ok (evs ++ evs', inc') ∧
      (∀ fut, marked (bytes ++ fut) = markedOf evs' ++ marked (pendOf inc' ++ fut)) ∧
      (∀ i, inc' = some i → Trunc i.buf) ∧ GoodPieces evs' := by
  induction fuel generalizing bytes evs with
  | zero =>
    cases bytes with
    | nil => exact ⟨[], none, by simp [processLoop], by simp [pendOf], by simp, goodPieces_nil⟩
    | cons b bs => simp at hf
  | succ fuel ih =>
    cases bytes with
    | nil => exact ⟨[], none, by simp [processLoop], by simp [pendOf], by simp, goodPieces_nil⟩
    | cons b0 bs =>
      obtain ⟨d, hd, hspec⟩ := decodeUtf8_spec (b0 :: bs)
      simp only [processLoop, hd, bind, Except.bind]
      cases d with
      | ok =>
        simp only at hspec ⊢
        exact ⟨[.text (b0 :: bs)], none, rfl, by intro fut; rw [hspec fut]; simp [pendOf], by simp,
          goodPieces_text hspec (by simp)⟩
      | invalid v n =>
        obtain ⟨p, b, r, hin, hv, hvp, hh⟩ := hspec
        have hb := (head_bounds b r).2.1 n hh
        have hlen : (b0 :: bs).length = p.length + (r.length + 1) := by rw [hin]; simp
        have h1 : ¬ v > (b0 :: bs).length := by omega
        have h2 : ¬ v + n > (b0 :: bs).length := by omega
        simp only [h1, h2, ↓reduceIte]
        have hdrop : (b0 :: bs).drop (v + n) = (b :: r).drop n := by
          rw [hin, hv, List.drop_append]; simp
        have htake : (b0 :: bs).take v = p := by rw [hin, hv]; simp
        have hfuel : ((b :: r).drop n).length ≤ fuel := by
          simp only [List.length_cons, List.length_drop] at hf hlen ⊢; omega
        rw [hdrop, htake]
        obtain ⟨evs2, inc', hrec, hm, ht, hg⟩ := ih ((b :: r).drop n)
          ((if v > 0 then evs ++ [.text p] else evs) ++ [.error, .text replacement]) hfuel
        refine ⟨(if v > 0 then [.text p] else []) ++ [.error, .text replacement] ++ evs2, inc', ?_, ?_, ht, ?_⟩
        · rw [hrec]; congr 2; split <;> simp
        · intro fut
          rw [hin, List.append_assoc, hvp, marked_invalid hh, hm]
          have : markedOf (if v > 0 then [Event.text p] else []) = p.map some := by
            split
            · simp
            · have : p = [] := by apply List.eq_nil_of_length_eq_zero; omega
              simp [this]
          simp only [markedOf_append, this, markedOf_repl, List.append_assoc]
        · apply goodPieces_append (goodPieces_append ?_ goodPieces_repl) hg
          split
          · apply goodPieces_text hvp; intro h0; simp [h0] at hv; omega
          · exact goodPieces_nil
      | incomplete v inc =>
        obtain ⟨p, b, r, hin, hv, hvp, hh, hbuf⟩ := hspec
        have hlen : (b0 :: bs).length = p.length + (r.length + 1) := by rw [hin]; simp
        have h1 : ¬ v > (b0 :: bs).length := by omega
        have htake : (b0 :: bs).take v = p := by rw [hin, hv]; simp
        simp only [h1, ↓reduceIte, htake]
        refine ⟨(if v > 0 then [.text p] else []), some inc, ?_, ?_, ?_, ?_⟩
        · congr 2; split <;> simp
        · intro fut
          rw [hin, List.append_assoc, hvp]
          have : markedOf (if v > 0 then [Event.text p] else []) = p.map some := by
            split
            · simp
            · have : p = [] := by apply List.eq_nil_of_length_eq_zero; omega
              simp [this]
          simp [this, pendOf, hbuf]
        · intro i hi; cases hi; exact ⟨b, r, hbuf, hh⟩
        · split
          · apply goodPieces_text hvp; intro h0; simp [h0] at hv; omega
          · exact goodPieces_nil


/-! ### IncompleteUtf8::try_complete_offsets / try_to_complete_codepoint -/

theorem drop_splice (t input : List UInt8) (n : Nat) (h : t.length ≤ n) :
    (t ++ input).drop n = input.drop (n - t.length) := by
  rw [List.drop_append]; simp [List.drop_of_length_le h]

theorem tryCompleteOffsets_spec (inc : Incomplete) (input : List UInt8) (ht : Trunc inc.buf) :
    ∃ inc' k verdict, tryCompleteOffsets inc input = .ok (inc', k, verdict) ∧
      match verdict with
      | .notEnoughInput => inc'.buf = inc.buf ++ input ∧ Trunc inc'.buf
      | .valid => k ≤ input.length ∧ inc'.buf.length ≤ 4 ∧ ValidPrefix inc'.buf ∧ inc'.buf ≠ [] ∧
          ∀ fut, marked (inc.buf ++ input ++ fut) = inc'.buf.map some ++ marked (input.drop k ++ fut)
      | .malformed => k ≤ input.length ∧ inc'.buf.length ≤ 4 ∧
          ∀ fut, marked (inc.buf ++ input ++ fut) = replMarked ++ marked (input.drop k ++ fut) := by
  obtain ⟨b, r, hbuf, hh⟩ := ht
  have hl3 := (head_bounds b r).2.2 hh
  have htl : inc.buf.length = r.length + 1 := by rw [hbuf]; simp
  unfold tryCompleteOffsets
  have h4 : ¬ inc.buf.length > 4 := by omega
  simp only [h4, ↓reduceIte]
  generalize hc : min (4 - inc.buf.length) input.length = c
  have hc1 : c ≤ input.length := by omega
  have hc2 : inc.buf.length + c ≤ 4 := by omega
  have hsplice : ∀ fut, inc.buf ++ input ++ fut = (inc.buf ++ input.take c) ++ (input.drop c ++ fut) := by
    intro fut
    rw [List.append_assoc, List.append_assoc, ← List.append_assoc (input.take c), List.take_append_drop]
  have hwhole : inc.buf ++ input = (inc.buf ++ input.take c) ++ input.drop c := by
    rw [List.append_assoc, List.take_append_drop]
  have hspl : inc.buf ++ input.take c = b :: (r ++ input.take c) := by rw [hbuf]; simp
  have hsl : (inc.buf ++ input.take c).length = inc.buf.length + c := by
    simp only [List.length_append, List.length_take]; omega
  unfold fromUtf8
  have hspec := fromUtf8Go_spec 0 (inc.buf ++ input.take c)
  cases hres : fromUtf8Go 0 (inc.buf ++ input.take c) with
  | ok =>
    rw [hres] at hspec
    simp only at hspec ⊢
    refine ⟨_, _, _, rfl, hc1, by dsimp only; omega, hspec, by dsimp only; rw [hspl]; simp, ?_⟩
    intro fut; rw [hsplice, hspec]
  | err v e =>
    rw [hres] at hspec
    obtain ⟨p, b', r', hp, hv, hvp, hst⟩ := hspec
    simp only [Nat.zero_add] at hv
    rw [hspl] at hres
    have hfirst := fromUtf8Go_first hres
    have hta := head_trunc_append b r (input.take c) hh
    have hpl : p.length + (r'.length + 1) = inc.buf.length + c := by
      have := congrArg List.length hp
      rw [hsl] at this; simp only [List.length_append, List.length_cons] at this; omega
    simp only
    by_cases hv0 : v > 0
    · -- a code point was completed
      rcases hfirst with ⟨h0, _⟩ | ⟨n, hn, hnv⟩
      · omega
      · have := hta.1 n hn
        have hge : ¬ v < inc.buf.length := by omega
        simp only [hv0, ↓reduceIte, hge]
        have htk : (inc.buf ++ input.take c).take v = p := by rw [hp, hv]; simp
        refine ⟨_, _, _, rfl, by omega, by dsimp only; rw [htk]; omega, by dsimp only; rw [htk]; exact hvp,
          by dsimp only; rw [htk]; intro h0; rw [h0] at hv; simp at hv; omega, ?_⟩
        intro fut
        dsimp only
        rw [htk]
        have hd : input.drop (v - inc.buf.length) = b' :: r' ++ input.drop c := by
          rw [← drop_splice inc.buf input v (by omega), hwhole, hp, hv]; simp
        rw [hd, hsplice, hp, List.append_assoc, hvp]; simp
    · have hv0' : v = 0 := by omega
      simp only [hv0, ↓reduceIte]
      rcases hfirst with ⟨_, hbad⟩ | ⟨n, hn, hnv⟩
      · rcases bad_head hbad with ⟨n, rfl, hinv⟩ | ⟨rfl, htr⟩
        · -- the buffered bytes (plus possibly more) are a maximal ill-formed subpart
          have hn := hta.2 n hinv
          have hb := (head_bounds b (r ++ input.take c)).2.1 n hinv
          have hge : ¬ n < inc.buf.length := by omega
          simp only [hge, ↓reduceIte]
          have hrl : (r ++ input.take c).length + 1 = inc.buf.length + c := by rw [← hsl, hspl]; simp
          refine ⟨_, _, _, rfl, by omega, by dsimp only; rw [List.length_take]; omega, ?_⟩
          intro fut
          have hd : input.drop (n - inc.buf.length) = (b :: (r ++ input.take c)).drop n ++ input.drop c := by
            rw [← drop_splice inc.buf input n (by omega), hwhole, hspl,
              List.drop_append_of_le_length (by simp only [List.length_cons]; omega)]
          rw [hd, hsplice, hspl, marked_invalid hinv, List.append_assoc]
        · -- still incomplete: everything was copied
          have hb := (head_bounds b (r ++ input.take c)).2.2 htr
          have hrl : (r ++ input.take c).length + 1 = inc.buf.length + c := by rw [← hsl, hspl]; simp
          have hcc : c = input.length := by omega
          have htake : input.take c = input := by rw [hcc]; simp
          refine ⟨_, _, _, rfl, by simp only; rw [htake], ?_⟩
          simp only; rw [htake] at hspl ⊢
          exact ⟨b, _, hspl, by rw [← htake]; exact htr⟩
      · have := (head_bounds b (r ++ input.take c)).1 n hn
        omega

theorem tryToCompleteCodepoint_spec (inc : Incomplete) (input : List UInt8) (ht : Trunc inc.buf) :
    ∃ c, tryToCompleteCodepoint inc input = .ok c ∧
      match c with
      | .needMore inc' => inc'.buf = inc.buf ++ input ∧ Trunc inc'.buf
      | .done okText taken remaining => ∃ k, k ≤ input.length ∧ remaining = input.drop k ∧
          (okText = true → ValidPrefix taken ∧ taken ≠ []) ∧
          ∀ fut, marked (inc.buf ++ input ++ fut) =
            (if okText then taken.map some else replMarked) ++ marked (remaining ++ fut) := by
  obtain ⟨inc', k, verdict, hok, hspec⟩ := tryCompleteOffsets_spec inc input ht
  unfold tryToCompleteCodepoint
  simp only [hok, bind, Except.bind]
  cases verdict with
  | notEnoughInput => exact ⟨_, rfl, hspec⟩
  | malformed =>
    obtain ⟨hk, hl, hm⟩ := hspec
    have h1 : ¬ inc'.buf.length > 4 := by omega
    have h2 : ¬ k > input.length := by omega
    simp only [h1, h2, ↓reduceIte]
    exact ⟨_, rfl, k, hk, rfl, by simp, by simpa using hm⟩
  | valid =>
    obtain ⟨hk, hl, hv, hne, hm⟩ := hspec
    have h1 : ¬ inc'.buf.length > 4 := by omega
    have h2 : ¬ k > input.length := by omega
    simp only [h1, h2, ↓reduceIte]
    exact ⟨_, rfl, k, hk, rfl, fun _ => ⟨hv, hne⟩, by simpa using hm⟩


/-! ### Utf8LossyDecoder::process / finish -/

/-- the decoder's state invariant: a pending buffer is a proper prefix of a well-formed sequence -/
def Inv (d : Decoder) : Prop := ∀ i, d.incomplete = some i → Trunc i.buf

theorem process_spec (d : Decoder) (bytes : List UInt8) (hinv : Inv d) :
    ∃ evs' inc', process d bytes = .ok ⟨inc', d.events ++ evs'⟩ ∧
      (∀ fut, marked (pendOf d.incomplete ++ bytes ++ fut) = markedOf evs' ++ marked (pendOf inc' ++ fut)) ∧
      (∀ i, inc' = some i → Trunc i.buf) ∧ GoodPieces evs' := by
  unfold process
  cases hi : d.incomplete with
  | none =>
    obtain ⟨evs', inc', hl, hm, ht, hg⟩ := processLoop_spec bytes.length bytes d.events (Nat.le_refl _)
    simp only [hl, bind, Except.bind]
    exact ⟨evs', inc', rfl, by simpa [pendOf] using hm, ht, hg⟩
  | some inc =>
    obtain ⟨c, hc, hspec⟩ := tryToCompleteCodepoint_spec inc bytes (hinv inc hi)
    simp only [hc, bind, Except.bind]
    cases c with
    | needMore inc' =>
      obtain ⟨hb, ht⟩ := hspec
      refine ⟨[], some inc', by simp, ?_, ?_, goodPieces_nil⟩
      · intro fut; simp [pendOf, hb]
      · intro i h; cases h; exact ht
    | done okText taken remaining =>
      obtain ⟨k, hk, hrem, hgood, hm⟩ := hspec
      have h1 : ¬ remaining.length > bytes.length := by rw [hrem]; simp
      have h2 : bytes.drop (bytes.length - remaining.length) = remaining := by
        rw [hrem, List.length_drop]; congr 1; omega
      simp only [h1, ↓reduceIte, h2]
      obtain ⟨evs', inc', hl, hm', ht, hg⟩ := processLoop_spec remaining.length remaining
        (if okText then d.events ++ [.text taken] else d.events ++ [.error, .text replacement]) (Nat.le_refl _)
      rw [hl]
      refine ⟨(if okText then [.text taken] else [.error, .text replacement]) ++ evs', inc', ?_, ?_, ht, ?_⟩
      · simp only; congr 2; split <;> simp
      · intro fut
        have e : pendOf (some inc) = inc.buf := rfl
        rw [e, hm, hm']
        cases okText
        · simp only [Bool.false_eq_true, ↓reduceIte, markedOf_append, markedOf_repl, List.append_assoc]
        · simp only [↓reduceIte, markedOf_append, markedOf_text, List.append_assoc]
      · apply goodPieces_append _ hg
        cases okText
        · exact goodPieces_repl
        · exact goodPieces_text (hgood rfl).1 (hgood rfl).2

theorem feedAll_spec (d : Decoder) (chunks : List (List UInt8)) (hinv : Inv d) :
    ∃ evs' inc', feedAll d chunks = .ok ⟨inc', d.events ++ evs'⟩ ∧
      (∀ fut, marked (pendOf d.incomplete ++ chunks.flatten ++ fut) = markedOf evs' ++ marked (pendOf inc' ++ fut)) ∧
      (∀ i, inc' = some i → Trunc i.buf) ∧ GoodPieces evs' := by
  induction chunks generalizing d with
  | nil =>
    refine ⟨[], d.incomplete, by simp [feedAll], by simp, hinv, goodPieces_nil⟩
  | cons c cs ih =>
    obtain ⟨e1, i1, hp, hm1, ht1, hg1⟩ := process_spec d c hinv
    obtain ⟨e2, i2, hf, hm2, ht2, hg2⟩ := ih ⟨i1, d.events ++ e1⟩ ht1
    refine ⟨e1 ++ e2, i2, ?_, ?_, ht2, goodPieces_append hg1 hg2⟩
    · simp only [feedAll, hp, bind, Except.bind, hf, List.append_assoc]
    · intro fut
      simp only [List.flatten_cons, markedOf_append]
      have := hm1 (cs.flatten ++ fut)
      simp only [← List.append_assoc] at this ⊢
      rw [this]
      have := hm2 fut
      simp only at this
      rw [this]; simp only [List.append_assoc]

/-! ## C10 — the theorems -/

/-- **C10, UTF-8 front end.**  For every list of chunks the model of `Utf8LossyDecoder` never takes
a panic branch, and the stream its inner sink observes (text bytes, with every `error` call marked in
place) is exactly the spec's lossy decode of the concatenated input: one error followed by U+FFFD per
maximal ill-formed subpart, including a sequence left dangling at the end of the stream. -/
theorem C10_utf8_chunking (chunks : List (List UInt8)) :
    ∃ evs, run chunks = .ok evs ∧ markedOf evs = marked chunks.flatten ∧ GoodPieces evs := by
  obtain ⟨evs', inc', hf, hm, ht, hg⟩ := feedAll_spec Decoder.new chunks (by intro i h; cases h)
  have hm0 := hm []
  simp only [Decoder.new, pendOf, List.nil_append, List.append_nil] at hm0 hf
  unfold run
  simp only [Decoder.new, hf, bind, Except.bind, finish]
  cases inc' with
  | none =>
    refine ⟨evs', rfl, ?_, hg⟩
    rw [hm0]; simp [marked_nil]
  | some i =>
    obtain ⟨b, r, hb, hh⟩ := ht i rfl
    refine ⟨evs' ++ [.error, .text replacement], rfl, ?_, goodPieces_append hg goodPieces_repl⟩
    rw [hm0, markedOf_append, markedOf_repl]
    simp [hb, marked_truncated hh]

/-- the model never reaches a panic site (`unwrap`, slice index, `split_at`, `pop_front`,
`subtendril`, fuel exhaustion), whatever the chunking -/
theorem C10_no_panic (chunks : List (List UInt8)) : ∃ evs, run chunks = .ok evs := by
  obtain ⟨evs, h, _⟩ := C10_utf8_chunking chunks; exact ⟨evs, h⟩

theorem filterMap_marked (bs : List UInt8) : (marked bs).filterMap id = lossyBytes bs := by
  simp only [marked, lossyBytes]
  induction units bs with
  | nil => rfl
  | cons u us ih =>
    simp only [List.flatMap_cons, List.filterMap_append, ih]
    congr 1
    cases u <;> simp [Unit.marked, Unit.bytes, List.filterMap_map]

theorem count_marked (bs : List UInt8) : (marked bs).count none = replacements bs := by
  simp only [marked, replacements]
  induction units bs with
  | nil => rfl
  | cons u us ih =>
    simp only [List.flatMap_cons, List.count_append, ih, List.count_cons]
    cases u <;> simp [Unit.marked, List.count_eq_zero, replBytes] <;> omega

theorem filterMap_markedOf (evs : List Event) : (markedOf evs).filterMap id = textOf evs := by
  simp only [markedOf, textOf]
  induction evs with
  | nil => rfl
  | cons e es ih =>
    simp only [List.flatMap_cons, List.filterMap_append, ih]
    congr 1
    cases e <;> simp [Event.marked, List.filterMap_map]

theorem count_markedOf (evs : List Event) : (markedOf evs).count none = errorsOf evs := by
  simp only [markedOf, errorsOf]
  induction evs with
  | nil => rfl
  | cons e es ih =>
    simp only [List.flatMap_cons, List.count_append, ih, List.count_cons]
    cases e <;> simp [Event.marked, List.count_eq_zero] <;> omega

/-- concatenated text = `from_utf8_lossy` of the concatenation (as UTF-8 bytes), and the number of
`error` calls = the number of replacements -/
theorem C10_utf8_text_errors (chunks : List (List UInt8)) :
    ∃ evs, run chunks = .ok evs ∧ textOf evs = lossyBytes chunks.flatten ∧
      errorsOf evs = replacements chunks.flatten := by
  obtain ⟨evs, h, hm, _⟩ := C10_utf8_chunking chunks
  exact ⟨evs, h, by rw [← filterMap_markedOf, hm, filterMap_marked],
    by rw [← count_markedOf, hm, count_marked]⟩

/-- what the sink observes does not depend on how the input was cut into chunks -/
theorem C10_chunking_independent (c1 c2 : List (List UInt8)) (h : c1.flatten = c2.flatten) :
    ∃ e1 e2, run c1 = .ok e1 ∧ run c2 = .ok e2 ∧ markedOf e1 = markedOf e2 := by
  obtain ⟨e1, h1, hm1, _⟩ := C10_utf8_chunking c1
  obtain ⟨e2, h2, hm2, _⟩ := C10_utf8_chunking c2
  exact ⟨e1, e2, h1, h2, by rw [hm1, hm2, h]⟩


/-- every text piece delivered to the inner sink is non-empty, well-formed UTF-8 (so
`reinterpret_without_validating` / `from_utf8_unchecked` are used soundly) -/
theorem C10_pieces_wellformed (chunks : List (List UInt8)) :
    ∃ evs, run chunks = .ok evs ∧ ∀ p, Event.text p ∈ evs → p ≠ [] ∧ WellFormed p := by
  obtain ⟨evs, h, _, hg⟩ := C10_utf8_chunking chunks
  refine ⟨evs, h, fun p hp => ⟨(hg p hp).2, ?_⟩⟩
  have hv := (hg p hp).1 []
  simp only [List.append_nil, marked_nil] at hv
  intro u hu hrepl
  subst hrepl
  have : none ∈ marked p := by
    simp only [marked, List.mem_flatMap]
    exact ⟨.repl, hu, by simp [Unit.marked]⟩
  rw [hv] at this
  simp at this

/-! ### encoding_rs `LossyDecoder` (abstract decoder) — partial -/

/-- what one decoder call contributes to the sink's view -/
def callMarked (c : DecoderResult × List UInt8) : List (Option UInt8) :=
  c.2.map some ++ (if c.1 = .malformed then replMarked else [])

/-- **C10 for `LossyDecoder` over encoding_rs — partial.**  Against an *arbitrary* abstract decoder,
`decode_to_sink` forwards every output of every decoder call, in order, adds exactly one
`error` + U+FFFD per `Malformed` result and nothing else; it returns only after an `InputEmpty`
result, or — in the middle of the stream (`last = false`) — when no unread input is left.  In
particular at end of stream (`finish`: `last = true`) the decoder is always driven to `InputEmpty`, so
nothing it still holds is lost.
Missing for the full statement (equality with a one-shot decode): that the real encoding_rs decoders
are streaming-consistent (their documented contract: feeding `a` then `b` equals feeding `a ++ b`, and
progress on every call) — exercised, not proved, by the `utf8 enc` family. -/
theorem C10_encoding_rs_partial {σ} (D : AbstractDecoder σ) (fuel : Nat) (st : σ) (input : List UInt8)
    (last : Bool) (evs : List Event) {st' : σ} {evs' : List Event} {r : DecoderResult} {rem : List UInt8}
    (h : decodeToSink D fuel st input last evs = .ok (st', evs', r, rem)) :
    ∃ new, evs' = evs ++ new ∧
      markedOf new = (callTrace D fuel st input last).flatMap callMarked ∧
      (r = .inputEmpty ∨ (last = false ∧ rem = [])) := by
  induction fuel generalizing st input evs with
  | zero => simp [decodeToSink] at h
  | succ fuel ih =>
    rcases hres : D.decode st input (capOf D st input) last with ⟨s1, r1, rd, out⟩
    simp only [decodeToSink, hres] at h
    simp only [callTrace, hres]
    split at h
    · cases h
    · have hout : markedOf (if out.length > 0 then [Event.text out] else []) = out.map some := by
        split
        · simp
        · have : out = [] := by apply List.eq_nil_of_length_eq_zero; omega
          simp [this]
      have hev : (if out.length > 0 then evs ++ [Event.text out] else evs) =
          evs ++ (if out.length > 0 then [Event.text out] else []) := by split <;> simp
      cases r1 with
      | inputEmpty =>
        simp only [Except.ok.injEq, Prod.mk.injEq] at h
        obtain ⟨rfl, rfl, rfl, rfl⟩ := h
        exact ⟨_, hev, by simp [hout, callMarked], Or.inl rfl⟩
      | outputFull =>
        simp only at h
        split at h
        · cases h
        · split at h
          · rename_i hemp
            simp only [Except.ok.injEq, Prod.mk.injEq] at h
            obtain ⟨rfl, rfl, rfl, rfl⟩ := h
            refine ⟨(if out.length > 0 then [Event.text out] else []), ?_, ?_, Or.inr (by simpa [and_comm] using hemp)⟩
            · simp only [beq_iff_eq, reduceCtorEq, ↓reduceIte]; exact hev
            · simp [hout, callMarked, hemp]
          · rename_i hemp
            obtain ⟨new, hnew, hm, hstop⟩ := ih _ _ _ h
            refine ⟨(if out.length > 0 then [Event.text out] else []) ++ new, ?_, ?_, hstop⟩
            · rw [hnew]; simp only [beq_iff_eq, reduceCtorEq, ↓reduceIte, hev, List.append_assoc]
            · simp [hout, callMarked, hemp, hm]
      | malformed =>
        simp only at h
        split at h
        · cases h
        · split at h
          · rename_i hemp
            simp only [Except.ok.injEq, Prod.mk.injEq] at h
            obtain ⟨rfl, rfl, rfl, rfl⟩ := h
            refine ⟨(if out.length > 0 then [Event.text out] else []) ++ [.error, .text replacement], ?_, ?_,
              Or.inr (by simpa [and_comm] using hemp)⟩
            · simp only [beq_self_eq_true, ↓reduceIte, hev, List.append_assoc]
            · simp [hout, callMarked, hemp, markedOf_repl]
          · rename_i hemp
            obtain ⟨new, hnew, hm, hstop⟩ := ih _ _ _ h
            refine ⟨(if out.length > 0 then [Event.text out] else []) ++ [.error, .text replacement] ++ new,
              ?_, ?_, hstop⟩
            · rw [hnew]; simp only [beq_self_eq_true, ↓reduceIte, hev, List.append_assoc]
            · have e : markedOf (Event.error :: Event.text replacement :: new) = replMarked ++ markedOf new := by
                rw [← markedOf_repl, ← markedOf_append]; rfl
              simp [hout, callMarked, hemp, e, hm]

/-- at end of stream (`LossyDecoder::finish`) the decoder is driven until it reports `InputEmpty` -/
theorem C10_encoding_rs_finish_drains {σ} (D : AbstractDecoder σ) (fuel : Nat) (st : σ) (evs : List Event)
    {st' : σ} {evs' : List Event} {r : DecoderResult} {rem : List UInt8}
    (h : decodeToSink D fuel st [] true evs = .ok (st', evs', r, rem)) : r = .inputEmpty := by
  obtain ⟨_, _, _, hstop⟩ := C10_encoding_rs_partial D fuel st [] true evs h
  rcases hstop with h | ⟨h, _⟩
  · exact h
  · cases h

/-- a toy decoder with output pending behind a malformed sequence at end of stream (the shape of
encoding_rs's ISO-2022-JP decoder after `ESC $`): state 1 = "ESC $ seen", state 2 = "`$` still to be
written" -/
def toyDecoder : AbstractDecoder Nat where
  maxLen := fun _ _ => some 16
  decode := fun st input _ _ =>
    match st with
    | 1 => (2, .malformed, 0, [])
    | 2 => (0, .inputEmpty, input.length, [0x24])
    | _ => (0, .inputEmpty, input.length, input)

/-- **Regression witness of the former end-of-stream gap** (fixed in /repo by
"fix: LossyDecoder::finish drains the encoding_rs decoder after a malformed sequence"; before the fix
the loop returned after the `Malformed` result because the input was empty, and the pending `$` was
lost).  Now `finish` on the toy decoder delivers the error, U+FFFD *and* the pending `$`, as the real
ISO-2022-JP decoder does on input `1b 24` (corpus case `utf8 enc iso-2022-jp 1b 24`). -/
theorem C10_encoding_rs_eof_witness :
    decodeToSink toyDecoder 10 1 [] true [] =
      .ok (0, [.error, .text replacement, .text [0x24]], .inputEmpty, []) := by
  rfl

/-! ### the delivered bytes decode back to the same scalar values -/

theorem units_scalar_append {b : UInt8} {rest : List UInt8} {n : Nat} (h : head b rest = .scalar n)
    (fut : List UInt8) :
    units (b :: rest ++ fut) = .scalar ((b :: rest).take n) :: units ((b :: rest).drop n ++ fut) := by
  have hb := (head_bounds b rest).1 n h
  have he : head b (rest ++ fut) = .scalar n := by rw [head_append _ _ _ (by simp [h]), h]
  obtain ⟨m, rfl⟩ : ∃ m, n = m + 1 := ⟨n - 1, by omega⟩
  have hm : m ≤ rest.length := by omega
  simp only [List.cons_append, units_cons, he, Nat.add_sub_cancel,
    List.take_succ_cons, List.drop_succ_cons, List.take_append_of_le_length hm,
    List.drop_append_of_le_length hm]

/-- a well-formed sequence, re-read, is one scalar unit -/
theorem units_own_bytes {b : UInt8} {rest : List UInt8} {n : Nat} (h : head b rest = .scalar n)
    (fut : List UInt8) :
    units (b :: rest.take (n - 1) ++ fut) = .scalar (b :: rest.take (n - 1)) :: units fut := by
  have hb := (head_bounds b rest).1 n h
  have := units_scalar_append (head_take h) fut
  have hl : (b :: rest.take (n - 1)).length = n := by simp; omega
  rw [this, List.take_of_length_le (by omega), List.drop_of_length_le (by omega)]; simp

theorem units_replBytes (fut : List UInt8) : units (replBytes ++ fut) = .scalar replBytes :: units fut := by
  have h : head 0xEF [0xBF, 0xBD] = .scalar 3 := by decide
  exact units_scalar_append h fut

theorem units_lossyBytes (bs : List UInt8) :
    units (lossyBytes bs) = (units bs).map (fun u => .scalar u.bytes) := by
  induction h : bs.length using Nat.strongRecOn generalizing bs with
  | _ len ih =>
    cases bs with
    | nil => simp [lossyBytes, units]
    | cons b rest =>
      have hlt : ∀ k, (rest.drop k).length < len := by intro k; subst h; simp; omega
      simp only [lossyBytes] at ih ⊢
      rw [units_cons]
      cases hh : head b rest with
      | scalar n =>
        simp only [List.flatMap_cons, Unit.bytes, List.map_cons]
        rw [units_own_bytes hh, ih _ (hlt _) _ rfl]; rfl
      | invalid n =>
        simp only [List.flatMap_cons, Unit.bytes, List.map_cons]
        rw [units_replBytes, ih _ (hlt _) _ rfl]; rfl
      | truncated =>
        simp only [List.flatMap_cons, Unit.bytes, List.map_cons, List.flatMap_nil, List.map_nil]
        have := units_replBytes []
        simpa [units] using this

/-- **The bytes handed to the sink are well-formed UTF-8 and denote exactly the scalar values of the
lossy decode** (`lossy` = `String::from_utf8_lossy` as a sequence of scalar values): decoding the
delivered text again replaces nothing and yields the same sequence. -/
theorem C10_lossyBytes_roundtrip (bs : List UInt8) :
    lossy (lossyBytes bs) = lossy bs ∧ WellFormed (lossyBytes bs) := by
  constructor
  · simp only [lossy, units_lossyBytes, List.map_map]
    apply List.map_congr_left
    intro u _
    cases u with
    | scalar q => rfl
    | repl => decide
  · intro u hu
    rw [units_lossyBytes] at hu
    simp only [List.mem_map] at hu
    obtain ⟨_, _, rfl⟩ := hu
    simp


/-! ### well-formed sequences denote Unicode scalar values, shortest form -/

/-- the value of a sequence lies in the range of its length (no overlong forms), is not a surrogate
and is at most U+10FFFF -/
def ScalarOK (q : List UInt8) : Prop :=
  (q.length = 1 ∧ scalarValue q < 0x80) ∨
  (q.length = 2 ∧ 0x80 ≤ scalarValue q ∧ scalarValue q < 0x800) ∨
  (q.length = 3 ∧ 0x800 ≤ scalarValue q ∧ scalarValue q < 0x10000 ∧
    (scalarValue q < 0xD800 ∨ 0xDFFF < scalarValue q)) ∨
  (q.length = 4 ∧ 0x10000 ≤ scalarValue q ∧ scalarValue q < 0x110000)

theorem ok2 {b : UInt8} {r0 r1 : Range} (hr : rowOf b = some [r0, r1]) (h0 : inR r0 b = true)
    {rest : List UInt8} {n : Nat} (h : head b rest = .scalar n) :
    ∃ b1 r, rest = b1 :: r ∧ n = 2 ∧ inR r1 b1 = true := by
  unfold head at h; simp only [hr] at h
  rcases rest with _ | ⟨b1, r⟩
  · simp [matchLen, h0] at h
  · cases c1 : inR r1 b1 <;> simp [matchLen, h0, c1] at h
    exact ⟨b1, r, rfl, h.symm, c1⟩

theorem ok3 {b : UInt8} {r0 r1 r2 : Range} (hr : rowOf b = some [r0, r1, r2]) (h0 : inR r0 b = true)
    {rest : List UInt8} {n : Nat} (h : head b rest = .scalar n) :
    ∃ b1 b2 r, rest = b1 :: b2 :: r ∧ n = 3 ∧ inR r1 b1 = true ∧ inR r2 b2 = true := by
  unfold head at h; simp only [hr] at h
  rcases rest with _ | ⟨b1, _ | ⟨b2, r⟩⟩
  · simp [matchLen, h0] at h
  · cases c1 : inR r1 b1 <;> simp [matchLen, h0, c1] at h
  · cases c1 : inR r1 b1 <;> cases c2 : inR r2 b2 <;> simp [matchLen, h0, c1, c2] at h
    exact ⟨b1, b2, r, rfl, h.symm, c1, c2⟩

theorem ok4 {b : UInt8} {r0 r1 r2 r3 : Range} (hr : rowOf b = some [r0, r1, r2, r3]) (h0 : inR r0 b = true)
    {rest : List UInt8} {n : Nat} (h : head b rest = .scalar n) :
    ∃ b1 b2 b3 r, rest = b1 :: b2 :: b3 :: r ∧ n = 4 ∧ inR r1 b1 = true ∧ inR r2 b2 = true ∧
      inR r3 b3 = true := by
  unfold head at h; simp only [hr] at h
  rcases rest with _ | ⟨b1, _ | ⟨b2, _ | ⟨b3, r⟩⟩⟩
  · simp [matchLen, h0] at h
  · cases c1 : inR r1 b1 <;> simp [matchLen, h0, c1] at h
  · cases c1 : inR r1 b1 <;> cases c2 : inR r2 b2 <;> simp [matchLen, h0, c1, c2] at h
  · cases c1 : inR r1 b1 <;> cases c2 : inR r2 b2 <;> cases c3 : inR r3 b3 <;>
      simp [matchLen, h0, c1, c2, c3] at h
    exact ⟨b1, b2, b3, r, rfl, h.symm, c1, c2, c3⟩

macro "scalar_fin" : tactic => `(tactic| (
  simp only [inR, Bool.and_eq_true, decide_eq_true_eq] at *
  simp [ScalarOK, scalarValue]
  omega))

theorem head_scalar_ok {b : UInt8} {rest : List UInt8} {n : Nat} (h : head b rest = .scalar n) :
    ScalarOK (b :: rest.take (n - 1)) := by
  have H := rowOf_cases b
  rcases H with ⟨h0, hr⟩ | ⟨h1, h2, hr⟩ | ⟨h0, hr⟩ | ⟨h1, h2, hr⟩ | ⟨h0, hr⟩ | ⟨h1, h2, hr⟩ | ⟨h0, hr⟩ |
    ⟨h1, h2, hr⟩ | ⟨h0, hr⟩ | ⟨h0, hr⟩
  · unfold head at h; simp only [hr] at h
    simp [matchLen, inR, h0] at h; subst h
    simp [ScalarOK, scalarValue]; omega
  · obtain ⟨b1, r, rfl, rfl, c1⟩ := ok2 hr (by simp [inR, h1, h2]) h
    scalar_fin
  · obtain ⟨b1, b2, r, rfl, rfl, c1, c2⟩ := ok3 hr (by simp [inR, h0]) h
    scalar_fin
  · obtain ⟨b1, b2, r, rfl, rfl, c1, c2⟩ := ok3 hr (by simp [inR, h1, h2]) h
    scalar_fin
  · obtain ⟨b1, b2, r, rfl, rfl, c1, c2⟩ := ok3 hr (by simp [inR, h0]) h
    scalar_fin
  · obtain ⟨b1, b2, r, rfl, rfl, c1, c2⟩ := ok3 hr (by simp [inR, h1, h2]) h
    scalar_fin
  · obtain ⟨b1, b2, b3, r, rfl, rfl, c1, c2, c3⟩ := ok4 hr (by simp [inR, h0]) h
    scalar_fin
  · obtain ⟨b1, b2, b3, r, rfl, rfl, c1, c2, c3⟩ := ok4 hr (by simp [inR, h1, h2]) h
    scalar_fin
  · obtain ⟨b1, b2, b3, r, rfl, rfl, c1, c2, c3⟩ := ok4 hr (by simp [inR, h0]) h
    scalar_fin
  · unfold head at h; simp [hr] at h

theorem mem_units_scalar (bs : List UInt8) (q : List UInt8) (hq : Unit.scalar q ∈ units bs) :
    ∃ b rest n, head b rest = .scalar n ∧ q = b :: rest.take (n - 1) := by
  induction h : bs.length using Nat.strongRecOn generalizing bs with
  | _ len ih =>
    cases bs with
    | nil => simp [units] at hq
    | cons b rest =>
      have hlt : ∀ k, (rest.drop k).length < len := by intro k; subst h; simp; omega
      rw [units_cons] at hq
      cases hh : head b rest with
      | scalar n =>
        simp only [hh, List.mem_cons, Unit.scalar.injEq] at hq
        rcases hq with rfl | hq
        · exact ⟨b, rest, n, hh, rfl⟩
        · exact ih _ (hlt _) _ hq rfl
      | invalid n =>
        simp only [hh, List.mem_cons, reduceCtorEq, false_or] at hq
        exact ih _ (hlt _) _ hq rfl
      | truncated => simp [hh] at hq

/-- **Every decoded unit is a Unicode scalar value in shortest form**: no overlong encodings, no
surrogates, nothing above U+10FFFF (sanity of the spec's table and bit arithmetic). -/
theorem C10_scalar_valid (bs : List UInt8) (q : List UInt8) (hq : Unit.scalar q ∈ units bs) : ScalarOK q := by
  obtain ⟨b, rest, n, hh, rfl⟩ := mem_units_scalar bs q hq
  exact head_scalar_ok hh

/-! ### non-vacuity -/

macro "utf8_eval" : tactic => `(tactic| (
  simp [run, feedAll, process, processLoop, finish, decodeUtf8, fromUtf8, fromUtf8Go, stdStep, charWidth, isCont,
    second3, second4, tryToCompleteCodepoint, tryCompleteOffsets, Incomplete.new, Decoder.new, replacement,
    bind, Except.bind]))

-- "xy\xEA" | "\xFF" | "\x99\xAEz" (tendril's own test): four errors, pieces as in the Rust test
example : run [[0x78, 0x79, 0xEA], [0xFF], [0x99, 0xAE, 0x7A]] =
    .ok [.text [0x78, 0x79], .error, .text replacement, .error, .text replacement, .error, .text replacement,
         .error, .text replacement, .text [0x7A]] := by utf8_eval
-- a code point split over three chunks with empty chunks in between comes out whole
example : run [[0xEA], [], [0x99], [], [0xAE]] = .ok [.text [0xEA, 0x99, 0xAE]] := by utf8_eval
-- dangling sequence at end of stream
example : run [[0x61, 0xF0, 0x9F], [0x98]] = .ok [.text [0x61], .error, .text replacement] := by utf8_eval
example : fromUtf8 [0x61, 0xF0, 0x90, 0x80, 0x41] = .err 1 (some 3) := by utf8_eval
example : fromUtf8 [0xE0, 0xA0] = .err 0 none := by utf8_eval
example : head 0xED [0xA0, 0x80] = .invalid 1 ∧ head 0xF0 [0x9F] = .truncated ∧ head 0xE2 [0x82, 0xAC] = .scalar 3 := by
  decide
example : lossy [0xE2, 0x82, 0xAC, 0xED, 0xA0, 0x80, 0xF0, 0x9F] = [0x20AC, 0xFFFD, 0xFFFD, 0xFFFD, 0xFFFD] := by
  simp [lossy, units, head, rowOf, table, matchLen, inR, Unit.value, scalarValue]
example : scalarValue [0xE2, 0x82, 0xAC] = 0x20AC ∧ scalarValue [0xF0, 0x9F, 0x98, 0x80] = 0x1F600 := by decide

end H5V.Props.C10
