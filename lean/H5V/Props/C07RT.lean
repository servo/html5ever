import H5V.Lemmas.HtmlRTSer
import H5V.Lemmas.HtmlRTJoint
/-!
C07, the headline: **serialize, then parse as a fragment, reproduces the tree** — proved on the
models for every forest of the class `Ordinary` (below).

The round trip is factored as

    forest ──HtmlSer.serialize──▶ bytes = UTF-8 of `renderF f`        (`C07_serialize_ordinary`)
    `renderF f` ──HtmlTok feed/end──▶ the token stream of `f` + EOF     (`C07_tok_roundtrip`)
    token stream ──HtmlTB process_token/end──▶ arena holding `f`        (`C07_tb_roundtrip`)
    `renderF f` ──tokenizer with the tree builder as sink──▶ arena      (`C07_roundtrip`, the composition,
                                                                       proved directly on `Joint.feed/finish`)

* **Vocabulary** (`H5V.Lemmas.HtmlRT`, file `HtmlRTDefs`): `HNode` (element: local name, attribute
  list, children; text), `ordinaryName` = a name spelled as the tokenizer spells tag names (lower-case
  ASCII letter first; no white space, `/`, `>`, U+0000, upper-case ASCII letters) that has **no rule of
  its own in the "in body" insertion mode** — it falls into "any other start tag" / "any other end
  tag" (`specialNames` lists the excluded names: void, raw text / RCDATA / plaintext, implied end
  tags, headings, lists, formatting elements, `a`/`nobr`, scoping and table elements, `form`, `select`,
  `svg`/`math`, `noscript`, …); `blockName` = the 24 plain block elements (`address`, `article`, …,
  `div`, `dl`, `ol`, `ul`, `section`, `menu`, …: start tag "close a `p` element in button scope,
  insert", end tag "in scope? generate implied end tags, pop up to it" — no-ops beyond insert / pop
  when no `p` is open); `fmtName` = the formatting elements `b`, `big`, `code`, `em`, `font`, `i`, `s`,
  `small`, `strike`, `strong`, `tt`, `u` (start tag: Noah's Ark clause, entry in the list of active
  formatting elements; end tag: the adoption agency algorithm, which for a properly nested element
  finds no furthest block and just pops it — or, if Noah's Ark dropped its entry, takes the "current
  node not in the list" shortcut; in a tree every element is properly nested);
  `elemNameOk` = any of the three.  `Ordinary f`: all element names `elemNameOk`; attribute names
  non-empty, free of white space `/ > = " ' <`, U+0000 and upper-case ASCII letters, pairwise distinct; attribute values and text free of CR and U+0000; text nodes
  non-empty and never adjacent.
* **One hypothesis beyond the class**: the serialisation must not begin with U+FEFF
  (`noLeadingBom`).  `Tokenizer::feed` discards a leading U+FEFF of the *first* chunk also when the
  parser is a fragment parser, so the forest `[text "\uFEFFa"]` comes back as `[text "a"]`
  (`C07_witness_leading_bom`).  The class is not shrunk silently: the hypothesis is explicit.
* Options: every tree-builder option set (scripting on and off, quirks mode, …); the tokenizer with
  `exact_errors` off (with it on, the tokenizer reports `Bad character` parse errors for control
  characters in text, which are in the class; C08 shows that the token stream is otherwise the same).
* Any chunking of the input gives the same result as the single `feed` used here: that is C03
  (`C03_chunked_then_end`, the tokenizer is chunk-blind), not repeated here.

What is *not* covered: `a` and `nobr` (start tags with rules of their own), `p`, headings, lists
and the other elements with implied end tags, void / raw-text / table / foreign elements are outside
the class; the link from bytes back to characters (UTF-8 decoding, C10) is not composed in.
-/
namespace H5V.Props.C07
open H5V.Lemmas.HtmlRT
open H5V.Model.HtmlTB (processTokens finishTB)

/-! ## Layer 1 — vocabulary -/

example : ordinaryName "span".toList = true ∧ ordinaryName "cite".toList = true ∧
    ordinaryName "x-widget".toList = true ∧ ordinaryName "label".toList = true ∧
    ordinaryName "output".toList = true := by decide +kernel

example : blockName "div".toList = true ∧ blockName "section".toList = true ∧ blockName "ul".toList = true ∧
    elemNameOk "div".toList = true ∧ elemNameOk "span".toList = true ∧ elemNameOk "p".toList = false ∧
    fmtName "b".toList = true ∧ elemNameOk "b".toList = true ∧ elemNameOk "strong".toList = true ∧
    elemNameOk "a".toList = false ∧ elemNameOk "nobr".toList = false ∧
    elemNameOk "li".toList = false ∧ elemNameOk "h1".toList = false := by decide +kernel

example : ordinaryName "div".toList = false ∧ ordinaryName "p".toList = false ∧ ordinaryName "b".toList = false ∧
    ordinaryName "br".toList = false ∧ ordinaryName "script".toList = false ∧ ordinaryName "noscript".toList = false ∧
    ordinaryName "Span".toList = false ∧ ordinaryName "a b".toList = false ∧ ordinaryName "svg".toList = false := by
  decide +kernel

/-- a concrete ordinary forest: attributes, `&`, `<`, `>`, `"`, U+00A0 and a line feed in text and
attribute values, nesting, plain block elements, formatting elements nested four deep with equal
attributes (Noah's Ark drops the entry of the outermost `b`), a text ending in an escaped character
at the very end -/
def exForest : Forest :=
  [.text "a&<\u00A0>\"b\n".toList,
   .elem "span".toList [("id".toList, "x\"&<y".toList), ("data-k".toList, [])]
     [.text "t".toList, .elem "x-y".toList [] [], .text "&amp;".toList],
   .elem "cite".toList [] [.text "&".toList],
   .elem "div".toList [("class".toList, "c d".toList)]
     [.elem "section".toList [] [.text "in a section".toList, .elem "ul".toList [] []], .text " ".toList],
   .elem "b".toList [] [.elem "b".toList [] [.elem "b".toList [] [.elem "b".toList []
     [.elem "i".toList [("x".toList, "1".toList)] [.text "deep".toList]]]], .text "t".toList],
   .text "end\u00A0&".toList]

theorem exForest_ordinary : Ordinary exForest := ⟨by decide +kernel, by decide +kernel⟩

theorem exForest_noBom : noLeadingBom (renderF exForest) := by decide +kernel

example : String.ofList (renderF exForest) =
    "a&amp;&lt;&nbsp;&gt;\"b\n<span id=\"x&quot;&amp;&lt;y\" data-k=\"\">t<x-y></x-y>&amp;amp;</span><cite>&amp;</cite><div class=\"c d\"><section>in a section<ul></ul></section> </div><b><b><b><b><i x=\"1\">deep</i></b></b></b>t</b>end&nbsp;&amp;" := by
  decide +kernel

/-! ## the serializer side -/

/-- The serializer model (code as it is), children-only scope with an HTML `div` as the named parent,
writes for an ordinary forest exactly the UTF-8 encoding of the character string `renderF f` —
whatever the serializer options. -/
theorem C07_serialize_ordinary (o : H5V.Model.HtmlSer.Opts) (f : Forest) (hf : Ordinary f) :
    H5V.Model.HtmlSer.serialize .current (.childrenOnly (some (serName nDiv))) o (serRoot f)
      = .ok (H5V.Model.HtmlSer.utf8 (renderF f)) :=
  serialize_ordinary o f hf.1

example : H5V.Model.HtmlSer.serialize .current (.childrenOnly (some (serName nDiv))) ⟨true, false⟩ (serRoot exForest)
    = .ok (H5V.Model.HtmlSer.utf8 (renderF exForest)) := C07_serialize_ordinary _ _ exForest_ordinary

/-! ## Layer 2 — the tree builder -/

/-- **Tree builder.**  Set up as a fragment parser with an HTML `div` as context element
(`new_for_fragment`), fed the tokens of an ordinary forest — the text of each text node cut into
non-empty pieces in any way (`split`), any line numbers — followed by EOF, and ended
(`TreeBuilder::end`), the tree-builder model succeeds, every `process_token` answers `Continue`, the
children of the root `html` element in the resulting arena are exactly the forest (names,
attributes in order, text, nesting; parent pointers consistent), and no parse error was reported.
For every option set (scripting on and off). -/
theorem C07_tb_roundtrip (opts : H5V.Model.HtmlTB.Opts) (split : Str → List Str) (hsplit : GoodSplit split)
    (f : Forest) (hf : Ordinary f) (lines : List Nat) (hl : lines.length = (tbTokensF split f ++ [H5V.Model.HtmlTB.TokToken.eof]).length) :
    ∃ s, (do fragSetup
             let rs ← processTokens ((tbTokensF split f ++ [H5V.Model.HtmlTB.TokToken.eof]).zip lines) []
             finishTB
             pure rs : H5V.Model.HtmlTB.M _).run (H5V.Model.HtmlTB.State.init opts) = .ok ([], s) ∧
      rootChildren s.dom = some (toDTreeF f) ∧ s.dom.errorsRev = [] := by
  obtain ⟨s0, hr0, hi0, _⟩ := fragSetup_runs opts
  obtain ⟨s1, tp, tid, hruns, hi1⟩ := tb_forest split hsplit f s0 [] (rootFrame []) 0 2 hi0 hf.1
    (by simpa [rootFrame] using hf.2)
  have hi1' : TBInv s1 [] (rootFrame f) tp tid := by simpa [rootFrame] using hi1
  have hall : TokRuns (tbTokensF split f ++ [H5V.Model.HtmlTB.TokToken.eof]) s0 s1 :=
    hruns.append (.single (fun line => hi1'.eof line))
  have hproc := hall.processTokens lines hl []
  have hrun : Runs (do fragSetup
                       let rs ← processTokens ((tbTokensF split f ++ [H5V.Model.HtmlTB.TokToken.eof]).zip lines) []
                       finishTB
                       pure rs : H5V.Model.HtmlTB.M _) (H5V.Model.HtmlTB.State.init opts) []
      { s1 with openElems := [] } :=
    runs_bind hr0 (runs_bind hproc (runs_bind (finishTB_runs s1) (runs_pure _ _)))
  obtain ⟨tr, e⟩ := hrun (H5V.Model.HtmlTB.State.init opts).traceRev
  refine ⟨_, by rw [← e]; rfl, ?_, ?_⟩
  · exact hi1'.rootChildren_eq
  · exact hi1'.errs

/-- the same with one character token per text node -/
theorem C07_tb_roundtrip_whole (opts : H5V.Model.HtmlTB.Opts) (f : Forest) (hf : Ordinary f) (lines : List Nat)
    (hl : lines.length = (tbTokensF (fun s => if s = [] then [] else [s]) f ++ [H5V.Model.HtmlTB.TokToken.eof]).length) :
    ∃ s, (do fragSetup
             let rs ← processTokens ((tbTokensF (fun s => if s = [] then [] else [s]) f ++ [H5V.Model.HtmlTB.TokToken.eof]).zip lines) []
             finishTB
             pure rs : H5V.Model.HtmlTB.M _).run (H5V.Model.HtmlTB.State.init opts) = .ok ([], s) ∧
      rootChildren s.dom = some (toDTreeF f) ∧ s.dom.errorsRev = [] :=
  C07_tb_roundtrip opts _ goodSplit_whole f hf lines hl

/-! ## Layer 3 — the tokenizer -/

/-- **Tokenizer.**  Started in the data state (the state a `div` context asks for), fed `renderF f`
in one piece and ended, the tokenizer model (`exact_errors` off, a sink that answers `Continue` to
every tag) delivers exactly: the start tag (name, attributes in order with their unescaped values, not
self-closing, no duplicate), the characters of every text node one character token each, the end tag
— for every node in document order — and EOF.  Nothing else: in particular **no parse error**. -/
theorem C07_tok_roundtrip (o : H5V.Model.HtmlTok.Opts) (ho : o.exactErrors = false) (pol : H5V.Model.HtmlTok.Pol)
    (hp : AlwaysContinue pol) (f : Forest) (hf : Ordinary f) (hbom : noLeadingBom (renderF f)) :
    ∃ m1 m2, H5V.Model.HtmlTok.feed o pol mach0 [] (renderF f) = .done m1 [] ∧
      H5V.Model.HtmlTok.finish o pol m1 = .ok m2 ∧
      m2.out.reverse.map (·.1) = tokTokens1F f ++ [H5V.Model.HtmlTok.Token.eof] :=
  tok_roundtrip o ho pol hp f hf hbom

/-- the same after merging adjacent character tokens (the comparison convention of the tokenizer
model, which emits text one character at a time): exactly `tokTokensF f` — one character token per
text node — and EOF -/
theorem C07_tok_roundtrip_merged (o : H5V.Model.HtmlTok.Opts) (ho : o.exactErrors = false)
    (pol : H5V.Model.HtmlTok.Pol) (hp : AlwaysContinue pol) (f : Forest) (hf : Ordinary f)
    (hbom : noLeadingBom (renderF f)) :
    ∃ m1 m2, H5V.Model.HtmlTok.feed o pol mach0 [] (renderF f) = .done m1 [] ∧
      H5V.Model.HtmlTok.finish o pol m1 = .ok m2 ∧
      mergeChars (m2.out.reverse.map (·.1)) = tokTokensF f ++ [.eof] := by
  obtain ⟨m1, m2, h1, h2, h3⟩ := tok_roundtrip o ho pol hp f hf hbom
  exact ⟨m1, m2, h1, h2, by rw [h3]; exact mergeChars_tokens f hf⟩

/-! ## Layer 4 — the composition -/

/-- **C07, headline.**  For every ordinary forest `f` whose serialisation does not begin with U+FEFF:
the serializer writes `utf8 (renderF f)`, and the fragment parser (context element `div`; tokenizer
with the tree builder as its sink: `Tokenizer::feed`, `Tokenizer::end`, `TreeBuilder::end`) run on
`renderF f` succeeds, leaves exactly `f` as the children of the root element of the arena, and
reports no parse error — for every tree-builder option set (scripting on and off), every value of
`context_element_allows_scripting`, every serializer option set; `exact_errors` off. -/
theorem C07_roundtrip (sopts : H5V.Model.HtmlSer.Opts) (opts : H5V.Model.HtmlTB.Opts) (cs : Bool)
    (o : H5V.Model.HtmlTok.Opts) (ho : o.exactErrors = false)
    (f : Forest) (hf : Ordinary f) (hbom : noLeadingBom (renderF f)) :
    H5V.Model.HtmlSer.serialize .current (.childrenOnly (some (serName nDiv))) sopts (serRoot f)
      = .ok (H5V.Model.HtmlSer.utf8 (renderF f)) ∧
    ∃ d, parseFragmentDiv opts cs o (renderF f) = .ok d ∧ rootChildren d = some (toDTreeF f) ∧
      d.errorsRev = [] :=
  ⟨C07_serialize_ordinary sopts f hf, joint_roundtrip opts cs o ho f hf hbom⟩

/-- non-vacuity: the concrete forest above goes round -/
example : ∃ d, parseFragmentDiv {} true ⟨false⟩ (renderF exForest) = .ok d ∧
    rootChildren d = some (toDTreeF exForest) ∧ d.errorsRev = [] :=
  (C07_roundtrip ⟨true, false⟩ {} true ⟨false⟩ rfl exForest exForest_ordinary exForest_noBom).2

/-! ## the leading U+FEFF -/

def bomForest : Forest := [.text ['\uFEFF', 'a']]

/-- `[text "\uFEFFa"]` is in the class, but its serialisation begins with U+FEFF, which
`Tokenizer::feed` discards: the fragment parser returns a root element whose only child is the text
node `a` (`tx,61` in the canonical dump: the text is the single character U+0061).  Hence the
hypothesis `noLeadingBom` of `C07_roundtrip`. -/
theorem C07_witness_leading_bom :
    Ordinary bomForest ∧ ¬ noLeadingBom (renderF bomForest) ∧
    (match parseFragmentDiv {} true ⟨false⟩ (renderF bomForest) with
     | .ok d => d.dump == "(doc(el,~/68 74 74 70 3a 2f 2f 77 77 77 2e 77 33 2e 6f 72 67 2f 31 39 39 39 2f 78 68 74 6d 6c/68 74 6d 6c,-,-(tx,61)));Q=no"
     | .error _ => false) = true := by
  refine ⟨by decide, by decide, ?_⟩
  decide +kernel

end H5V.Props.C07
