import H5V.Lemmas.HtmlTokRuns
/-!
C03 — output is independent of how the input is chunked, paused and resumed (HTML tokenizer).

The theorems are about the model `H5V.Model.HtmlTok` of `html5ever/src/tokenizer/mod.rs` +
`char_ref/mod.rs` (tied to the Rust by the `tok` correspondence). They hold for **every** input,
every partition into chunks (empty and one-character chunks included), every initial state,
every sink policy (`Pol`: any function of the token history deciding Plaintext / RawData / Script /
EncodingIndicator answers and the CDATA query), both `exact_errors` settings.

* `C03_chunk_independence`: the chunked session and the one-piece run deliver the same tokens,
  parse errors, line numbers and pauses (`out` is the list of `(token, line)` pairs handed to the
  sink, pause markers included).
* `C03_step_mono`, `C03_step_resume`, `C03_step_invariant`: the three facts the proof rests on,
  each for an arbitrary single step.
* `C03_bom_once`: the BOM prologue of `feed` acts on the first character of the stream only.
* `C03_runsTo_deterministic`: the big-step relation is a function (so "the" one-piece result).
-/
namespace H5V.Props.C03
open H5V.Model.HtmlTok

/-- executable counterpart of `RunsTo`: the loop of `Tokenizer::run`, resumed at once after every
pause, with explicit fuel -/
def runP (o : Opts) (pol : Pol) : Nat → Mach → Str → Option Mach
  | 0, _, _ => none
  | fuel + 1, m, inp =>
    match step o pol m inp with
    | .cont m1 i1 => runP o pol fuel m1 i1
    | .script m1 i1 => runP o pol fuel m1 i1
    | .indicator m1 i1 => runP o pol fuel m1 i1
    | .suspend m' [] => some m'
    | .suspend _ (_ :: _) => none
    | .panic _ => none

theorem runP_sound (o : Opts) (pol : Pol) (fuel : Nat) (m : Mach) (inp : Str) (m' : Mach)
    (h : runP o pol fuel m inp = some m') : RunsTo o pol m inp m' := by
  induction fuel generalizing m inp with
  | zero => simp [runP] at h
  | succ n ih =>
    unfold runP at h
    cases hs : step o pol m inp with
    | cont m1 i1 => rw [hs] at h; exact RunsTo.cont hs (ih m1 i1 h)
    | script m1 i1 => rw [hs] at h; exact RunsTo.script hs (ih m1 i1 h)
    | indicator m1 i1 => rw [hs] at h; exact RunsTo.indicator hs (ih m1 i1 h)
    | suspend m1 i1 =>
      rw [hs] at h
      cases i1 with
      | nil => simp only [Option.some.injEq] at h; subst h; exact RunsTo.susp hs
      | cons x xs => simp at h
    | panic e => rw [hs] at h; simp at h

theorem runP_complete (o : Opts) (pol : Pol) {m : Mach} {inp : Str} {m' : Mach}
    (h : RunsTo o pol m inp m') : ∃ fuel, runP o pol fuel m inp = some m' := by
  induction h with
  | susp hs => exact ⟨1, by simp [runP, hs]⟩
  | cont hs _ ih => obtain ⟨f, hf⟩ := ih; exact ⟨f + 1, by simp [runP, hs, hf]⟩
  | script hs _ ih => obtain ⟨f, hf⟩ := ih; exact ⟨f + 1, by simp [runP, hs, hf]⟩
  | indicator hs _ ih => obtain ⟨f, hf⟩ := ih; exact ⟨f + 1, by simp [runP, hs, hf]⟩

/-- feed every chunk in turn, each run to suspension -/
def feedAll (o : Opts) (pol : Pol) (fuel : Nat) (m : Mach) : List Str → Option Mach
  | [] => some m
  | c :: cs => match runP o pol fuel m c with
    | some m1 => feedAll o pol fuel m1 cs
    | none => none

theorem feedAll_session (o : Opts) (pol : Pol) (fuel : Nat) (m : Mach) (cs : List Str) (mf : Mach)
    (h : feedAll o pol fuel m cs = some mf) : Session o pol m cs mf := by
  induction cs generalizing m with
  | nil => simp only [feedAll, Option.some.injEq] at h; subst h; exact Session.nil
  | cons c cs ih =>
    unfold feedAll at h
    cases hr : runP o pol fuel m c with
    | none => rw [hr] at h; simp at h
    | some m1 => rw [hr] at h; exact Session.cons (runP_sound o pol fuel m c m1 hr) (ih m1 h)

/-- any tokenizer freshly created by `Tokenizer::new` (any initial state, any last start tag)
satisfies the invariant -/
theorem good_initial (st : State) (last : Option Str) (bom : Bool) :
    Good { state := st, lastStartTag := last, discardBom := bom } ∧
    ({ state := st, lastStartTag := last, discardBom := bom } : Mach).atEof = false :=
  ⟨⟨fun _ _ => rfl, fun _ => rfl, fun _ => rfl⟩, rfl⟩

/-- **C03 (tokenizer): chunk independence.** If feeding the chunks one after the other (with any
amount of fuel) runs each to suspension and ends in machine `mf`, then feeding their
concatenation in one piece runs to suspension in a machine `mf'` that has delivered exactly the
same `(token, line)` sequence — tokens, parse errors, line numbers and Script / EncodingIndicator
pauses — and is equal to `mf` up to a dead `current_char`. -/
theorem C03_chunk_independence (o : Opts) (pol : Pol) (fuel : Nat) (m : Mach) (chunks : List Str)
    (mf : Mach) (hg : Good m) (hat : m.atEof = false) (hne : chunks ≠ [])
    (h : feedAll o pol fuel m chunks = some mf) :
    ∃ mf' fuel', runP o pol fuel' m chunks.flatten = some mf' ∧ mf'.out = mf.out ∧ Sim mf' mf := by
  have hs := feedAll_session o pol fuel m chunks mf h
  rcases session_flatten o pol hs hg hat with ⟨hnil, _⟩ | ⟨mf', hr, hsim⟩
  · exact absurd hnil hne
  · obtain ⟨f', hf'⟩ := runP_complete o pol hr
    exact ⟨mf', f', hf', hsim.out, hsim⟩

/-- a completed step is unaffected by appending more input -/
theorem C03_step_mono (o : Opts) (pol : Pol) (m : Mach) (inp e : Str) (hg : Good m)
    (hat : m.atEof = false) (h : (step o pol m inp).isSuspend = false) :
    step o pol m (inp ++ e) = (step o pol m inp).ext e :=
  step_mono o pol m inp e hg.eatOk hat h

/-- a suspended step has consumed everything and can be resumed -/
theorem C03_step_resume (o : Opts) (pol : Pol) (m m' : Mach) (inp inp' e : Str) (hg : Good m)
    (hat : m.atEof = false) (h : step o pol m inp = .suspend m' inp') :
    inp' = [] ∧ RSim (step o pol m (inp ++ e)) (step o pol m' e) ∧ Good m' ∧ m'.atEof = false :=
  step_resume o pol m m' inp inp' e hg hat h

/-- every step preserves the invariant -/
theorem C03_step_invariant (o : Opts) (pol : Pol) (m : Mach) (inp : Str) (hg : Good m)
    (hat : m.atEof = false) (m' : Mach) (h : (step o pol m inp).mach? = some m') :
    Good m' ∧ m'.atEof = m.atEof :=
  step_good o pol m inp hg hat m' h

/-- the BOM prologue of `feed` looks at the first character of the stream only: applied to a
concatenation it acts on the first non-empty chunk, and afterwards it is the identity -/
theorem C03_bom_once (m : Mach) (a b : Str) (ha : a ≠ []) :
    feedBom m (a ++ b) = ((feedBom m a).1, (feedBom m a).2 ++ b) ∧
    (feedBom m a).1.discardBom = false ∨ m.discardBom = false := by
  cases a with
  | nil => exact absurd rfl ha
  | cons x xs =>
    cases hb : m.discardBom with
    | false => right; rfl
    | true =>
      left
      simp only [feedBom, List.cons_append, hb, ↓reduceIte]
      refine ⟨?_, by simp⟩
      split <;> simp

theorem feedBom_id (m : Mach) (inp : Str) (h : m.discardBom = false) : feedBom m inp = (m, inp) := by
  unfold feedBom
  cases inp <;> simp [h]

/-- the big-step relation is deterministic -/
theorem C03_runsTo_deterministic (o : Opts) (pol : Pol) {m : Mach} {inp : Str} {a b : Mach}
    (ha : RunsTo o pol m inp a) (hb : RunsTo o pol m inp b) : a = b := by
  induction ha generalizing b with
  | susp hs => cases hb <;> simp_all
  | cont hs _ ih => cases hb <;> simp_all <;> (apply ih; simp_all)
  | script hs _ ih => cases hb <;> simp_all <;> (apply ih; simp_all)
  | indicator hs _ ih => cases hb <;> simp_all <;> (apply ih; simp_all)

/-! ### non-vacuity: a CRLF split across a look-ahead -/
def polNone : Pol := { onTag := fun _ _ => .continue_, cdataOk := fun _ => false }
def m0 : Mach := {}

example : (good_initial .data none true).1 = (good_initial .data none true).1 := rfl

/-- "<!DOCTYPE html\r" | "\nPUBLIC 'x'>" fed in two chunks and in one piece: same output -/
example :
    (feedAll ⟨false⟩ polNone 200 { m0 with discardBom := false }
        ["<!DOCTYPE html\r".toList, "\nPUBLIC 'x'>".toList]).map (·.out) =
    (runP ⟨false⟩ polNone 200 { m0 with discardBom := false } "<!DOCTYPE html\r\nPUBLIC 'x'>".toList).map (·.out) := by
  decide +kernel

end H5V.Props.C03
