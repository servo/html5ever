import H5V.Lemmas.HtmlTBModesAll
import H5V.Lemmas.HtmlTBModesFragment
/-!
C02 (insertion modes) — **the model of html5ever's HTML tree builder implements the insertion modes
of the WHATWG standard** as transcribed in `H5V.Spec.TreeModes` (2025 text,
`edition := .customizableSelect`), for every token sequence the tokenizer can deliver.

The headlines `C02_model_eq_spec_modes` / `C02_model_eq_spec_modes_fragment` are stated against the UNMODIFIED
specification (`Spec.TreeModes.parseDocument` / `parseFragment`, i.e. `fragmentState` followed by the tokens).  Four
inputs on which earlier versions of html5ever deviated from the standard (A: DOCTYPE in "in table text",
B: `template` missing in a current-node test of the table modes, C: end tags in foreign content in the fragment
case, D: `<input>` with a `select` context element; all fixed in the code the model follows) are regression examples
at the end of the file.

**Strict headlines.**  `C02_model_eq_spec_modes_strict` / `C02_model_eq_spec_modes_fragment_strict` say: the model's
run IS the run of the unmodified specification (`parseDocument … = .ok σ` with `σ` agreeing with the model).  Two
facts make this possible:

* the standard's *Assert* in "in cell" ("the stack of open elements has a `td` or `th` element in table scope",
  where `Spec.TreeModes.inCell` stops with `cellAssertMsg` if it fails, and html5ever reports a parse error and
  ignores the token) is PROVED never to fail: `H5V.Lemmas.ModesInv.Good` (files `HtmlTBModesInv*.lean`) is an
  invariant of the specification's own run — every rule function of `Spec.TreeModes` keeps it
  (`H5V.Lemmas.ModesInv.keeps_byMode`, `post_foreign`) —, and it contains "insertion mode "in cell" ⇒ a `td`/`th` is
  in table scope".  The model supplies, for tag tokens, the facts the specification's states cannot know by
  themselves (an element's type is a function of its node; node identities handed out later are fresh; in "text" the
  current node is an HTML element): `HtmlTBModesInvModel.lean`.  `C02_cell_assert_never_fails`.
* a DOCTYPE token in "in table text" finds an HTML element as adjusted current node: the invariant gives "in
  "in table text" the current node is a `table`, `tbody`, `template`, `tfoot`, `thead`, `tr` element"
  (`acnHtml_of_xinv`), so no protocol hypothesis about it is needed.

The simulation itself is proved against `parseDocumentDev` (`H5V.Lemmas.HtmlTBModesDev`, the specification
with the asserted-impossible case defined as html5ever defines it); `DocAgrees` states both runs, and
`C02_model_eq_spec_modes` (`DocAgreesStd`) and `…_completed` are the weaker forms.
-/
namespace H5V.Props.C02
open H5V.Model.HtmlTB
open H5V.Model.Dom (Id SinkOp Output Dom QualName Attr NodeOrText ElementFlags NodeData QuirksMode)
open H5V.Lemmas.HtmlTBAlgo
open H5V.Lemmas.HtmlTBModes
open H5V.Lemmas.TBSafe (TI HInv SInv Rooted ForeignTop textTok)
open H5V.Props.C04TB (docStart parseRest)
open H5V.Spec.TreeModes (STok ETok IMode Config Out TokSwitch XOp Op Step Edition)

/-- the configuration of the specification for a document parse with the options `opts` -/
def docCfg (opts : Opts) : Config Id := cfgOf (docStart opts)

theorem docCfg_eq (opts : Opts) : docCfg opts =
    { document := 0, edition := .customizableSelect, scripting := opts.scriptingEnabled, srcdoc := opts.iframeSrcdoc,
      cannotChangeMode := false, context := none, contextEncodingHtml := false } := rfl

/-- the start of a document parse is the specification's initial state -/
theorem absF_docStart (opts : Opts) (hq : opts.quirksMode = .noQuirks) (supply : List Id) :
    absF (docStart opts) { supply := supply } = Spec.TreeModes.initialState supply := by
  simp only [absF, absP, docStart, State.init, hq, Spec.TreeModes.initialState]
  rfl

theorem minv_docStart (opts : Opts) : MInv (docStart opts) :=
  MInv.of_ti (H5V.Props.C04TB.C04_tb_inv_new opts) (fun _ _ h => by cases h) (fun _ h => by cases h)
    (fun _ h => by cases h)

theorem auxOk_docStart (opts : Opts) (supply : List Id) : AuxOk (docStart opts) { supply := supply } where
  live := rfl
  annot := by intro h hh; cases hh
  annotEl := by intro a ha; cases ha
  xlog := ⟨List.Pairwise.nil, by intro j hj; cases hj⟩

/-! ## the rules, mode by mode

`ModeSim m`: for every non-character token `tok` (well-formed: `TokWf`) and every state `s` of the model in
insertion mode `m` satisfying the invariants `TI` (C04) and `MInv`, every successful run of the model's rule
`step m tok` ends with a result `res` and a state `s'` such that the specification's rule for the mode
(`byModeDev`) maps the abstract state `absF s x` to `stepOf res s' x'` — the same kind of result ("done" /
"reprocess" in the mode the model asks for), the same abstract state (stack of open elements, list of active
formatting elements, insertion mode, original insertion mode, stack of template insertion modes, head and form
element pointers, frameset-ok, pending table character tokens, document mode, ignore-LF flag, …), the same answer
to the tokenizer (`OutRel`) — and the model's DOM calls are the `TreeSink` calls of what the specification appended
to its log (`flatCalls (edits2 calls) = flatCalls (ops.map (opCall tc))`).  `ModeCharSim m`: the same for a run of
character tokens (`CharsPost`: the model handles the run at once, the specification character by character). -/

theorem C02_all_modes : ∀ m, ModeSim m := allModeSim
theorem C02_all_modes_chars : ∀ m, ModeCharSim m := allModeCharSim

theorem C02_mode_initial : ModeSim .initial ∧ ModeCharSim .initial := ⟨C02_all_modes _, C02_all_modes_chars _⟩
theorem C02_mode_before_html : ModeSim .beforeHtml ∧ ModeCharSim .beforeHtml := ⟨C02_all_modes _, C02_all_modes_chars _⟩
theorem C02_mode_before_head : ModeSim .beforeHead ∧ ModeCharSim .beforeHead := ⟨C02_all_modes _, C02_all_modes_chars _⟩
theorem C02_mode_in_head : ModeSim .inHead ∧ ModeCharSim .inHead := ⟨C02_all_modes _, C02_all_modes_chars _⟩
theorem C02_mode_in_head_noscript : ModeSim .inHeadNoscript ∧ ModeCharSim .inHeadNoscript :=
  ⟨C02_all_modes _, C02_all_modes_chars _⟩
theorem C02_mode_after_head : ModeSim .afterHead ∧ ModeCharSim .afterHead := ⟨C02_all_modes _, C02_all_modes_chars _⟩
theorem C02_mode_in_body : ModeSim .inBody ∧ ModeCharSim .inBody := ⟨C02_all_modes _, C02_all_modes_chars _⟩
theorem C02_mode_text : ModeSim .text ∧ ModeCharSim .text := ⟨C02_all_modes _, C02_all_modes_chars _⟩
theorem C02_mode_in_table : ModeSim .inTable ∧ ModeCharSim .inTable := ⟨C02_all_modes _, C02_all_modes_chars _⟩
theorem C02_mode_in_table_text : ModeSim .inTableText ∧ ModeCharSim .inTableText := ⟨C02_all_modes _, C02_all_modes_chars _⟩
theorem C02_mode_in_caption : ModeSim .inCaption ∧ ModeCharSim .inCaption := ⟨C02_all_modes _, C02_all_modes_chars _⟩
theorem C02_mode_in_column_group : ModeSim .inColumnGroup ∧ ModeCharSim .inColumnGroup :=
  ⟨C02_all_modes _, C02_all_modes_chars _⟩
theorem C02_mode_in_table_body : ModeSim .inTableBody ∧ ModeCharSim .inTableBody := ⟨C02_all_modes _, C02_all_modes_chars _⟩
theorem C02_mode_in_row : ModeSim .inRow ∧ ModeCharSim .inRow := ⟨C02_all_modes _, C02_all_modes_chars _⟩
theorem C02_mode_in_cell : ModeSim .inCell ∧ ModeCharSim .inCell := ⟨C02_all_modes _, C02_all_modes_chars _⟩
theorem C02_mode_in_template : ModeSim .inTemplate ∧ ModeCharSim .inTemplate := ⟨C02_all_modes _, C02_all_modes_chars _⟩
theorem C02_mode_after_body : ModeSim .afterBody ∧ ModeCharSim .afterBody := ⟨C02_all_modes _, C02_all_modes_chars _⟩
theorem C02_mode_in_frameset : ModeSim .inFrameset ∧ ModeCharSim .inFrameset := ⟨C02_all_modes _, C02_all_modes_chars _⟩
theorem C02_mode_after_frameset : ModeSim .afterFrameset ∧ ModeCharSim .afterFrameset :=
  ⟨C02_all_modes _, C02_all_modes_chars _⟩
theorem C02_mode_after_after_body : ModeSim .afterAfterBody ∧ ModeCharSim .afterAfterBody :=
  ⟨C02_all_modes _, C02_all_modes_chars _⟩
theorem C02_mode_after_after_frameset : ModeSim .afterAfterFrameset ∧ ModeCharSim .afterAfterFrameset :=
  ⟨C02_all_modes _, C02_all_modes_chars _⟩

/-- the rules for parsing tokens in foreign content -/
theorem C02_foreign : ForeignSim := foreignSim C02_all_modes
theorem C02_foreign_chars : ForeignCharSim := foreignCharSim
/-- the DOCTYPE token in the "initial" insertion mode (html5ever: `process_token`) -/
theorem C02_doctype_initial : DoctypeInitialSim := doctypeInitialSim
/-- the rule functions other modes delegate to, in any state satisfying `MInv` -/
theorem C02_rules_in_body : StepSimTok stepInBody Spec.TreeModes.inBody ∧ StepSimChars stepInBody Spec.TreeModes.inBody :=
  ⟨sim_inBody, simChars_inBody⟩
theorem C02_rules_in_head : StepSimTok stepInHead Spec.TreeModes.inHead ∧ StepSimChars stepInHead Spec.TreeModes.inHead :=
  ⟨sim_inHead0, simChars_inHead⟩
/-- the tree construction dispatcher: `is_foreign(token)` answers `false` exactly when the standard says "process
the token according to the rules of the current insertion mode in HTML content" -/
theorem C02_dispatcher {s : State} (hm : MInv s) (tok : Token) {b : Bool} {s1 : State}
    (hr : (isForeign tok).run s = .ok (b, s1)) (x : Aux) (hx : AuxOk s x) :
    b = !Spec.TreeAlgo.useHtmlRules (Spec.TreeModes.adjustedCurrentNode (cfgOf s) (absF s x)) (skind tok) :=
  isForeign_value hm tok hr x hx.live hx.annot

/-- what the headline says about one successful run `parse_document` of the model (against the specification with
the asserted-impossible case of "in cell" defined, `parseDocumentDev`): `res` the answers to
the tokenizer (newest first), `s'` the final state, `calls` the `TreeSink` calls after `get_document` -/
def DocAgrees (opts : Opts) (toks : List (TokToken × Nat)) (res : List SinkResult) (s' : State) (calls : List Call) : Prop :=
  ∃ ids, ∀ rest, ∃ σ : SState,
    -- with the nodes `ids` the sink handed out (and any further supply `rest`), the specification's run over the
    -- same tokens succeeds for every sufficient amount of reprocessing fuel, …
    (∃ F, ∀ fuel, F ≤ fuel → parseDocumentDev (docCfg opts) fuel (ids ++ rest) (specToks toks) = .ok σ ∧
      -- (the UNMODIFIED specification: the Assert of "in cell" never fails)
      Spec.TreeModes.parseDocument (docCfg opts) fuel (ids ++ rest) (specToks toks) = .ok σ) ∧
    σ.p.supply = rest ∧
    -- … makes the same DOM operations in the same order (text insertions compared character by character) …
    (∀ tc, TcOk s'.dom tc → flatCalls (edits2 calls) = flatCalls (σ.fullLog.map (opCall tc))) ∧
    -- … leaves the document in the same mode, ends in the same insertion mode …
    σ.quirks = dmode s'.quirksMode ∧ σ.mode = imode s'.mode ∧
    -- … and gives the tokenizer the same answers
    res.reverse.filterMap resAnswer = σ.outs.filterMap outAnswer

theorem docAgrees_of_sims (hmode : ∀ m, ModeSim m) (hchar : ∀ m, ModeCharSim m) (hfor : ForeignSim)
    (hforc : ForeignCharSim) (hdt : DoctypeInitialSim) (opts : Opts) (hq : opts.quirksMode = .noQuirks)
    (toks : List (TokToken × Nat)) (hresp : Respects2 (docStart opts) toks) :
    PC (parseRest toks) (docStart opts) (DocAgrees opts toks) := by
  unfold parseRest
  -- the start state satisfies the invariant of the specification's run
  have hinv0 : XInv (docStart opts) := by
    intro x hx _
    refine H5V.Lemmas.ModesInv.Good.plain' (m := .initial) (by show imode (docStart opts).mode = _; rfl) (by decide) ?_ ?_
    · intro n t hm; cases hm
    · intro m hm; cases hm
  refine pc_seq (pc_processTokens hmode hchar hfor hforc hdt toks [] (docStart opts)
    (H5V.Props.C04TB.C04_tb_inv_new opts) (minv_docStart opts) hinv0 hresp) ?_
  rintro res s1 c1 he1 ⟨_, hm1, hc1, hext1, ids, f⟩
  refine pc_seq (PC.of_tot (tot_finishTB s1)) ?_
  rintro _ s2 c2 he2 ⟨hs2, hc2⟩
  refine pc_pure ⟨ids, fun rest => ?_⟩
  obtain ⟨x', os, _, hsup, ⟨ops, e1, k1⟩, ho, hfb, ⟨F, hF⟩, hstd⟩ :=
    f { supply := ids ++ rest } rest (auxOk_docStart opts _) rfl
  obtain ⟨_, F', hF'⟩ := hstd (hinv0 _ (auxOk_docStart opts _))
  have hq2 : s2.quirksMode = s1.quirksMode := by rw [hs2]
  have hm2 : s2.mode = s1.mode := by rw [hs2]
  refine ⟨absF s1 x', ⟨max F F', fun fuel hfu => ⟨?_, ?_⟩⟩, hsup, ?_, by rw [hq2]; rfl, by rw [hm2]; rfl, ?_⟩
  · have := hF fuel (by omega)
    rw [absF_docStart opts hq] at this
    exact this
  · have := hF' fuel (by omega)
    rw [absF_docStart opts hq] at this
    exact this
  · intro tc htc
    have e0 : ({ supply := ids ++ rest } : Aux).fullLog = [] := rfl
    rw [absF_fullLog, e1, e0, List.nil_append, List.append_nil, edits2_append, ← edits2_edits c2, hc2, edits2_nil, List.append_nil]
    exact k1 tc (tcOk_of_ext htc he2.ext)
  · show res.reverse.filterMap resAnswer = x'.outs.filterMap outAnswer
    rw [hfb, ho]
    rfl

/-- the same against the UNMODIFIED specification `Spec.TreeModes.parseDocument`: its run yields the state `σ` the
model agrees with — or stops at the violated Assert of "in cell" (`cellAssertMsg`) -/
def DocAgreesStd (opts : Opts) (toks : List (TokToken × Nat)) (res : List SinkResult) (s' : State) (calls : List Call) : Prop :=
  ∃ ids, ∀ rest, ∃ σ : SState,
    (∃ F, ∀ fuel, F ≤ fuel →
      Spec.TreeModes.parseDocument (docCfg opts) fuel (ids ++ rest) (specToks toks) = .ok σ ∨
      Spec.TreeModes.parseDocument (docCfg opts) fuel (ids ++ rest) (specToks toks) = .error cellAssertMsg) ∧
    σ.p.supply = rest ∧
    (∀ tc, TcOk s'.dom tc → flatCalls (edits2 calls) = flatCalls (σ.fullLog.map (opCall tc))) ∧
    σ.quirks = dmode s'.quirksMode ∧ σ.mode = imode s'.mode ∧
    res.reverse.filterMap resAnswer = σ.outs.filterMap outAnswer

theorem DocAgrees.std {opts : Opts} {toks : List (TokToken × Nat)} {res : List SinkResult} {s' : State} {calls : List Call}
    (h : DocAgrees opts toks res s' calls) : DocAgreesStd opts toks res s' calls := by
  obtain ⟨ids, f⟩ := h
  refine ⟨ids, fun rest => ?_⟩
  obtain ⟨σ, ⟨F, hF⟩, h2⟩ := f rest
  exact ⟨σ, ⟨F, fun fuel hfu => Or.inl (hF fuel hfu).2⟩, h2⟩

/-- whenever the unmodified specification's run succeeds (with enough fuel), it is the run the model agrees with -/
theorem DocAgrees.unique {opts : Opts} {toks : List (TokToken × Nat)} {res : List SinkResult} {s' : State} {calls : List Call}
    (h : DocAgrees opts toks res s' calls) : ∃ ids, ∀ rest, ∃ σ : SState, ∃ F, ∀ fuel, F ≤ fuel →
      parseDocumentDev (docCfg opts) fuel (ids ++ rest) (specToks toks) = .ok σ ∧
      ∀ r, Spec.TreeModes.parseDocument (docCfg opts) fuel (ids ++ rest) (specToks toks) = .ok r → r = σ := by
  obtain ⟨ids, f⟩ := h
  refine ⟨ids, fun rest => ?_⟩
  obtain ⟨σ, ⟨F, hF⟩, _⟩ := f rest
  refine ⟨σ, F, fun fuel hfu => ⟨(hF fuel hfu).1, fun r hr => ?_⟩⟩
  have := parseDocumentDev_of_parseDocument hr
  rw [(hF fuel hfu).1] at this
  exact (Except.ok.inj this).symm

/-- the statement against the specification with the asserted-impossible case of "in cell" defined -/
theorem C02_model_eq_spec_modes_completed (opts : Opts) (hq : opts.quirksMode = .noQuirks)
    (toks : List (TokToken × Nat)) (hresp : Respects2 (docStart opts) toks) :
    ∀ res s', (H5V.Props.C04TB.parseDocument toks).run (State.init opts) = .ok (res, s') →
      ∃ calls, s'.traceRev = calls.reverse ++ [(.getDocument, .node 0)] ∧ DocAgrees opts toks res s' calls := by
  intro res s' hr
  rw [H5V.Props.C04TB.parseDocument_run] at hr
  obtain ⟨calls, he, hd⟩ := docAgrees_of_sims C02_all_modes C02_all_modes_chars C02_foreign foreignCharSim
    doctypeInitialSim opts hq toks hresp res s' hr
  exact ⟨calls, he.trace, hd⟩

/-- **C02, insertion modes (documents)**: for every option set with the default document mode, every token
list that keeps the protocol of the tokenizer (`Respects2`: well-formed tags without duplicate attribute names,
non-empty character tokens without U+0000, in "text" mode only characters / end tags / EOF, nothing after EOF,
`drop_doctype` off, a DOCTYPE in "initial" finds the document in no-quirks mode, a DOCTYPE in "in table text" finds
an HTML element as adjusted current node), every successful run of the model's `parse_document` agrees with the
UNMODIFIED specification `Spec.TreeModes.parseDocument`: same DOM operations in the same order, same document
mode, same final insertion mode, same answers to the tokenizer (`DocAgreesStd`: the specification's run yields
that state, unless it stops at the Assert of "in cell") -/
theorem C02_model_eq_spec_modes (opts : Opts) (hq : opts.quirksMode = .noQuirks)
    (toks : List (TokToken × Nat)) (hresp : Respects2 (docStart opts) toks) :
    ∀ res s', (H5V.Props.C04TB.parseDocument toks).run (State.init opts) = .ok (res, s') →
      ∃ calls, s'.traceRev = calls.reverse ++ [(.getDocument, .node 0)] ∧ DocAgreesStd opts toks res s' calls := by
  intro res s' hr
  obtain ⟨calls, h1, h2⟩ := C02_model_eq_spec_modes_completed opts hq toks hresp res s' hr
  exact ⟨calls, h1, h2.std⟩

/-- the STRICT form of what the headline says: the UNMODIFIED specification's run succeeds (for every sufficient
amount of reprocessing fuel) with a state `σ` that agrees with the model's run -/
def DocAgreesStrict (opts : Opts) (toks : List (TokToken × Nat)) (res : List SinkResult) (s' : State) (calls : List Call) : Prop :=
  ∃ ids, ∀ rest, ∃ σ : SState,
    (∃ F, ∀ fuel, F ≤ fuel → Spec.TreeModes.parseDocument (docCfg opts) fuel (ids ++ rest) (specToks toks) = .ok σ) ∧
    σ.p.supply = rest ∧
    (∀ tc, TcOk s'.dom tc → flatCalls (edits2 calls) = flatCalls (σ.fullLog.map (opCall tc))) ∧
    σ.quirks = dmode s'.quirksMode ∧ σ.mode = imode s'.mode ∧
    res.reverse.filterMap resAnswer = σ.outs.filterMap outAnswer

theorem DocAgrees.strict {opts : Opts} {toks : List (TokToken × Nat)} {res : List SinkResult} {s' : State} {calls : List Call}
    (h : DocAgrees opts toks res s' calls) : DocAgreesStrict opts toks res s' calls := by
  obtain ⟨ids, f⟩ := h
  refine ⟨ids, fun rest => ?_⟩
  obtain ⟨σ, ⟨F, hF⟩, h2⟩ := f rest
  exact ⟨σ, ⟨F, fun fuel hfu => (hF fuel hfu).2⟩, h2⟩

/-- **C02, insertion modes (documents), strict form**: for every option set with the default document mode and every
token list that keeps the protocol of the tokenizer (`Respects2`: well-formed tags without duplicate attribute
names, non-empty character tokens without U+0000, in "text" mode only characters / end tags / EOF, nothing after
EOF, `drop_doctype` off, a DOCTYPE in "initial" finds the document in no-quirks mode), every successful run of the
model's `parse_document` IS the run of the UNMODIFIED specification `Spec.TreeModes.parseDocument`: it succeeds, with
the same DOM operations in the same order, the same document mode, the same final insertion mode, the same answers
to the tokenizer.  No completion of the specification, no proviso about the Assert of "in cell" (it is proved:
the invariant `H5V.Lemmas.ModesInv.Good` of the specification's run, `HtmlTBModesInv*.lean`), no hypothesis about
the adjusted current node. -/
theorem C02_model_eq_spec_modes_strict (opts : Opts) (hq : opts.quirksMode = .noQuirks)
    (toks : List (TokToken × Nat)) (hresp : Respects2 (docStart opts) toks) :
    ∀ res s', (H5V.Props.C04TB.parseDocument toks).run (State.init opts) = .ok (res, s') →
      ∃ calls, s'.traceRev = calls.reverse ++ [(.getDocument, .node 0)] ∧ DocAgreesStrict opts toks res s' calls := by
  intro res s' hr
  obtain ⟨calls, h1, h2⟩ := C02_model_eq_spec_modes_completed opts hq toks hresp res s' hr
  exact ⟨calls, h1, h2.strict⟩

/-- `FragAgrees` against the UNMODIFIED specification `Spec.TreeModes.parseFragment` (`fragmentState`, then the
tokens) -/
def FragAgreesStd (opts : Opts) (d : Dom) (ctx : Id) (form : Option Id) (toks : List (TokToken × Nat))
    (res : List SinkResult) (s' : State) (calls : List Call) : Prop :=
  ∃ ids, ∀ rest, ∃ σ : SState,
    (∃ F, ∀ fuel, F ≤ fuel →
      Spec.TreeModes.parseFragment (fragCfg opts d ctx) fuel (dmode opts.quirksMode) form (ids ++ rest) (specToks toks) = .ok σ ∨
      Spec.TreeModes.parseFragment (fragCfg opts d ctx) fuel (dmode opts.quirksMode) form (ids ++ rest) (specToks toks)
        = .error cellAssertMsg) ∧
    σ.p.supply = rest ∧
    (∀ tc, TcOk s'.dom tc → flatCalls (edits2 calls) = flatCalls (σ.fullLog.map (opCall tc))) ∧
    σ.quirks = dmode s'.quirksMode ∧ σ.mode = imode s'.mode ∧
    res.reverse.filterMap resAnswer = σ.outs.filterMap outAnswer

theorem fragAgrees_std {opts : Opts} {d : Dom} {ctx : Id} {form : Option Id} {toks : List (TokToken × Nat)}
    {res : List SinkResult} {s' : State} {calls : List Call}
    (h : FragAgrees opts d ctx form toks res s' calls) : FragAgreesStd opts d ctx form toks res s' calls := by
  obtain ⟨ids, f⟩ := h
  refine ⟨ids, fun rest => ?_⟩
  obtain ⟨σ, ⟨F, hF⟩, h2⟩ := f rest
  exact ⟨σ, ⟨F, fun fuel hfu => Or.inl (hF fuel hfu).2⟩, h2⟩

/-- the fragment statement against the specification with the asserted-impossible case of "in cell" defined -/
theorem C02_model_eq_spec_modes_fragment_completed (opts : Opts) (d : Dom) (ctx : Id) (form : Option Id)
    (hctx : d.isElement ctx = true)
    (hform : ∀ f, form = some f → d.isElement f = true ∧ nameOf d f = ⟨nsHtml, "form".toList⟩)
    (toks : List (TokToken × Nat))
    (hresp : ∀ s1, (newForFragment ctx form).run (H5V.Props.C04TB.fragInit opts d) = .ok ((), s1) → Respects2 s1 toks) :
    ∀ res s', (H5V.Props.C04TB.parseFragment ctx form toks).run (H5V.Props.C04TB.fragInit opts d) = .ok (res, s') →
      ∃ calls, s'.traceRev = calls.reverse ++ (H5V.Props.C04TB.fragInit opts d).traceRev ∧
        FragAgrees opts d ctx form toks res s' calls := by
  intro res s' hr
  obtain ⟨calls, he, hd⟩ := fragAgrees_of_sims C02_all_modes C02_all_modes_chars C02_foreign foreignCharSim
    doctypeInitialSim opts d ctx form hctx hform toks hresp res s' hr
  exact ⟨calls, he.trace, hd⟩

/-- **C02, insertion modes (fragments)**: the same for the HTML fragment parsing algorithm
(`TreeBuilder::new_for_fragment`, then the tokens, then `end`), for any sink `d`, ANY context element `ctx` of `d`
(HTML `select` included), and a form element pointer that is `none` or an HTML `form` element of `d`; the
specification side is the unmodified `Spec.TreeModes.parseFragment`: `fragmentState` (steps 2, 6–12 of §13.4)
followed by the tokens -/
theorem C02_model_eq_spec_modes_fragment (opts : Opts) (d : Dom) (ctx : Id) (form : Option Id)
    (hctx : d.isElement ctx = true)
    (hform : ∀ f, form = some f → d.isElement f = true ∧ nameOf d f = ⟨nsHtml, "form".toList⟩)
    (toks : List (TokToken × Nat))
    (hresp : ∀ s1, (newForFragment ctx form).run (H5V.Props.C04TB.fragInit opts d) = .ok ((), s1) → Respects2 s1 toks) :
    ∀ res s', (H5V.Props.C04TB.parseFragment ctx form toks).run (H5V.Props.C04TB.fragInit opts d) = .ok (res, s') →
      ∃ calls, s'.traceRev = calls.reverse ++ (H5V.Props.C04TB.fragInit opts d).traceRev ∧
        FragAgreesStd opts d ctx form toks res s' calls := by
  intro res s' hr
  obtain ⟨calls, h1, h2⟩ := C02_model_eq_spec_modes_fragment_completed opts d ctx form hctx hform toks hresp res s' hr
  exact ⟨calls, h1, fragAgrees_std h2⟩

/-- the STRICT form for fragments: the UNMODIFIED `Spec.TreeModes.parseFragment` succeeds with a state that agrees -/
def FragAgreesStrict (opts : Opts) (d : Dom) (ctx : Id) (form : Option Id) (toks : List (TokToken × Nat))
    (res : List SinkResult) (s' : State) (calls : List Call) : Prop :=
  ∃ ids, ∀ rest, ∃ σ : SState,
    (∃ F, ∀ fuel, F ≤ fuel →
      Spec.TreeModes.parseFragment (fragCfg opts d ctx) fuel (dmode opts.quirksMode) form (ids ++ rest) (specToks toks) = .ok σ) ∧
    σ.p.supply = rest ∧
    (∀ tc, TcOk s'.dom tc → flatCalls (edits2 calls) = flatCalls (σ.fullLog.map (opCall tc))) ∧
    σ.quirks = dmode s'.quirksMode ∧ σ.mode = imode s'.mode ∧
    res.reverse.filterMap resAnswer = σ.outs.filterMap outAnswer

theorem fragAgrees_strict {opts : Opts} {d : Dom} {ctx : Id} {form : Option Id} {toks : List (TokToken × Nat)}
    {res : List SinkResult} {s' : State} {calls : List Call}
    (h : FragAgrees opts d ctx form toks res s' calls) : FragAgreesStrict opts d ctx form toks res s' calls := by
  obtain ⟨ids, f⟩ := h
  refine ⟨ids, fun rest => ?_⟩
  obtain ⟨σ, ⟨F, hF⟩, h2⟩ := f rest
  exact ⟨σ, ⟨F, fun fuel hfu => (hF fuel hfu).2⟩, h2⟩

/-- **C02, insertion modes (fragments), strict form**: the same for the HTML fragment parsing algorithm, for any sink
`d`, ANY context element `ctx` of `d`, a form element pointer that is `none` or an HTML `form` element of `d`: the
model's run is the run of the UNMODIFIED `Spec.TreeModes.parseFragment` (`fragmentState`, then the tokens) -/
theorem C02_model_eq_spec_modes_fragment_strict (opts : Opts) (d : Dom) (ctx : Id) (form : Option Id)
    (hctx : d.isElement ctx = true)
    (hform : ∀ f, form = some f → d.isElement f = true ∧ nameOf d f = ⟨nsHtml, "form".toList⟩)
    (toks : List (TokToken × Nat))
    (hresp : ∀ s1, (newForFragment ctx form).run (H5V.Props.C04TB.fragInit opts d) = .ok ((), s1) → Respects2 s1 toks) :
    ∀ res s', (H5V.Props.C04TB.parseFragment ctx form toks).run (H5V.Props.C04TB.fragInit opts d) = .ok (res, s') →
      ∃ calls, s'.traceRev = calls.reverse ++ (H5V.Props.C04TB.fragInit opts d).traceRev ∧
        FragAgreesStrict opts d ctx form toks res s' calls := by
  intro res s' hr
  obtain ⟨calls, h1, h2⟩ := C02_model_eq_spec_modes_fragment_completed opts d ctx form hctx hform toks hresp res s' hr
  exact ⟨calls, h1, fragAgrees_strict h2⟩

/-- **the standard's Assert of "in cell" holds** (documents; the model's run is only used to supply the node
identities): in every run of `parse_document` of the model over protocol-abiding tokens, the specification with the
asserted-impossible case defined and the unmodified specification have the same run -/
theorem C02_cell_assert_never_fails (opts : Opts) (hq : opts.quirksMode = .noQuirks)
    (toks : List (TokToken × Nat)) (hresp : Respects2 (docStart opts) toks) :
    ∀ res s', (H5V.Props.C04TB.parseDocument toks).run (State.init opts) = .ok (res, s') →
      ∃ ids, ∀ rest, ∃ F, ∀ fuel, F ≤ fuel →
        Spec.TreeModes.parseDocument (docCfg opts) fuel (ids ++ rest) (specToks toks)
          = parseDocumentDev (docCfg opts) fuel (ids ++ rest) (specToks toks) := by
  intro res s' hr
  obtain ⟨calls, _, ids, f⟩ := C02_model_eq_spec_modes_completed opts hq toks hresp res s' hr
  refine ⟨ids, fun rest => ?_⟩
  obtain ⟨σ, ⟨F, hF⟩, _⟩ := f rest
  exact ⟨F, fun fuel hfu => by rw [(hF fuel hfu).1, (hF fuel hfu).2]⟩

/-! ## a decidable form of the protocol hypothesis `Respects2` -/

def tagWfB (t : Tag) : Bool :=
  t.attrs.all (fun a => a.name == plainName a.name.loc) &&
  t.name.all (fun c => !(decide ('A' ≤ c) && decide (c ≤ 'Z'))) &&
  decide ((t.attrs.map (·.name.loc)).Nodup) &&
  t.attrs.all (fun a => a.name.loc != "shadowrootmode".toList)

theorem tagWf_of_B {t : Tag} (h : tagWfB t = true) : TagWf t := by
  simp only [tagWfB, Bool.and_eq_true, List.all_eq_true, decide_eq_true_eq] at h
  obtain ⟨⟨⟨h1, h2⟩, h3⟩, h4⟩ := h
  refine ⟨fun a ha => by simpa [H5V.Lemmas.HtmlTBSpec.Plain] using h1 a ha, fun c hc hcc => ?_, h3, fun a ha => by simpa using h4 a ha⟩
  have := h2 c hc
  simp [hcc.1, hcc.2] at this

def tokTokOkB (s : State) : TokToken → Bool
  | .tag t => tagWfB t && (s.mode != .text || t.kind == .endTag)
  | .chars x => !x.isEmpty && !x.contains '\x00'
  | .eof => true
  | .parseError _ => true
  | .comment _ => s.mode != .text
  | .nullChar => s.mode != .text
  | .doctype _ => s.mode != .text && !s.opts.dropDoctype && (s.mode != .initial || s.quirksMode == .noQuirks)

theorem tokTokOk_of_B {s : State} {t : TokToken} (h : tokTokOkB s t = true) : TokTokOk s t := by
  cases t with
  | tag tg =>
    simp only [tokTokOkB, Bool.and_eq_true, Bool.or_eq_true, bne_iff_ne, ne_eq, beq_iff_eq] at h
    constructor
    · intro t' e; cases e; exact tagWf_of_B h.1
    · intro x e; cases e
    · intro hm
      rcases h.2 with h2 | h2
      · exact absurd hm h2
      · exact Or.inr (Or.inr (Or.inl ⟨tg, rfl, h2⟩))
    · intro d e; cases e
  | chars x =>
    simp only [tokTokOkB, Bool.and_eq_true, Bool.not_eq_true', List.isEmpty_eq_false_iff] at h
    constructor
    · intro t' e; cases e
    · intro y e; cases e; exact ⟨h.1, by simpa using h.2⟩
    · intro _; exact Or.inl ⟨x, rfl⟩
    · intro d e; cases e
  | eof =>
    constructor
    · intro t' e; cases e
    · intro y e; cases e
    · intro _; exact Or.inr (Or.inl rfl)
    · intro d e; cases e
  | parseError m =>
    constructor
    · intro t' e; cases e
    · intro y e; cases e
    · intro _; exact Or.inr (Or.inr (Or.inr ⟨m, rfl⟩))
    · intro d e; cases e
  | comment c =>
    simp only [tokTokOkB, bne_iff_ne, ne_eq] at h
    constructor
    · intro t' e; cases e
    · intro y e; cases e
    · intro hm; exact absurd hm h
    · intro d e; cases e
  | nullChar =>
    simp only [tokTokOkB, bne_iff_ne, ne_eq] at h
    constructor
    · intro t' e; cases e
    · intro y e; cases e
    · intro hm; exact absurd hm h
    · intro d e; cases e
  | doctype d =>
    simp only [tokTokOkB, Bool.and_eq_true, bne_iff_ne, ne_eq, Bool.not_eq_true', Bool.or_eq_true, beq_iff_eq] at h
    constructor
    · intro t' e; cases e
    · intro y e; cases e
    · intro hm; exact absurd hm h.1.1
    · intro d' _
      refine ⟨h.1.2, fun hi => ?_⟩
      rcases h.2 with h2 | h2
      · exact absurd hi h2
      · exact h2

def respects2B : State → List (TokToken × Nat) → Bool
  | _, [] => true
  | s, (t, line) :: rest =>
    tokTokOkB s t && (t != .eof || rest.isEmpty) &&
    match (processToken t line).run s with
    | .ok (_, s') => respects2B s' rest
    | .error _ => true

theorem respects2_of_B : ∀ (toks : List (TokToken × Nat)) (s : State), respects2B s toks = true → Respects2 s toks := by
  intro toks
  induction toks with
  | nil => intro s _; trivial
  | cons tk rest ih =>
    intro s h
    obtain ⟨t, line⟩ := tk
    simp only [respects2B, Bool.and_eq_true, Bool.or_eq_true, bne_iff_ne, ne_eq, List.isEmpty_iff] at h
    refine ⟨tokTokOk_of_B h.1.1, fun he => ?_, fun r s' hr => ?_⟩
    · rcases h.1.2 with h2 | h2
      · exact absurd he h2
      · exact h2
    · have h3 := h.2
      rw [hr] at h3
      exact ih s' h3

/-! ## non-vacuity: a concrete run -/
namespace Ex

def stt (n : String) : TokToken × Nat := (.tag { kind := .startTag, name := n.toList }, 1)
def ett (n : String) : TokToken × Nat := (.tag { kind := .endTag, name := n.toList }, 1)
def cht (s : String) : TokToken × Nat := (.chars s.toList, 1)

/-- `<!DOCTYPE html><p>x<b></p>y<table> z<td><!--c--></table><svg><title>t</svg>` EOF -/
def exToks : List (TokToken × Nat) :=
  [(.doctype { name := some "html".toList }, 1), stt "p", cht "x", stt "b", ett "p", cht "y", stt "table", cht " z",
   stt "td", (.comment "c".toList, 1), ett "table", stt "svg", stt "title", cht "t", ett "svg", (.eof, 1)]

/-- the protocol hypothesis of the headline holds for it … -/
theorem exToks_respects : Respects2 (docStart {}) exToks := respects2_of_B _ _ (by decide +kernel)

/-- … the model's run succeeds … -/
example : ((H5V.Props.C04TB.parseDocument exToks).run (State.init {})).toBool = true := by decide +kernel

/-- … so the conclusion of the headline holds for this run -/
example : ∀ res s', (H5V.Props.C04TB.parseDocument exToks).run (State.init {}) = .ok (res, s') →
    ∃ calls, s'.traceRev = calls.reverse ++ [(.getDocument, .node 0)] ∧ DocAgreesStd {} exToks res s' calls :=
  C02_model_eq_spec_modes {} rfl exToks exToks_respects

/-- … and the strict one: the run of the UNMODIFIED specification -/
example : ∀ res s', (H5V.Props.C04TB.parseDocument exToks).run (State.init {}) = .ok (res, s') →
    ∃ calls, s'.traceRev = calls.reverse ++ [(.getDocument, .node 0)] ∧ DocAgreesStrict {} exToks res s' calls :=
  C02_model_eq_spec_modes_strict {} rfl exToks exToks_respects

end Ex

/-- a decidable form of the protocol hypothesis of the fragment headline -/
def respects2FragB (opts : Opts) (d : Dom) (ctx : Id) (form : Option Id) (toks : List (TokToken × Nat)) : Bool :=
  match (newForFragment ctx form).run (H5V.Props.C04TB.fragInit opts d) with
  | .ok (_, s1) => respects2B s1 toks
  | .error _ => true

theorem respects2_frag_of_B {opts : Opts} {d : Dom} {ctx : Id} {form : Option Id} {toks : List (TokToken × Nat)}
    (h : respects2FragB opts d ctx form toks = true) :
    ∀ s1, (newForFragment ctx form).run (H5V.Props.C04TB.fragInit opts d) = .ok ((), s1) → Respects2 s1 toks := by
  intro s1 hr
  unfold respects2FragB at h
  rw [hr] at h
  exact respects2_of_B _ _ h

/-! ## regression witnesses: the four former deviations of html5ever (A–D)

For each of the four inputs on which html5ever used to deviate from the standard: (1) the unmodified specification
runs to the end on it (and does what the standard says); (2) the protocol hypothesis holds and the model's run
succeeds, so by the headline the model's DOM calls are those of the unmodified specification. -/
namespace Witness
open H5V.Spec H5V.Spec.TreeModes H5V.Spec.TreeModes.Examples
open Ex (stt ett cht)

/-- the specification with the asserted-impossible case of "in cell" defined, on a document -/
def docDev (toks : List Spec.TreeModes.Token) : Spec.TreeModes.M (Spec.TreeModes.State Nat) :=
  parseDocumentDev (cfg .customizableSelect) 50 (List.range' 1 60) toks

/-- a fragment parse of the unmodified specification with the context element `ns:name` (node 100) -/
def fragCtx (ns name : String) (toks : List Spec.TreeModes.Token) : Spec.TreeModes.M (Spec.TreeModes.State Nat) :=
  parseFragment { cfg .customizableSelect with context := some ⟨100, ⟨ns.toList, name.toList⟩⟩ } 50 .noQuirks none
    (List.range' 1 60) toks

/-- A: `<table>`, `" "`, `<!DOCTYPE html>`, `"x"`, `</table>` -/
def wA : List Spec.TreeModes.Token := [st "table", ch " ", doctypeHtml, ch "x", et "table"]
/-- B: `<template>`, `<tr>`, `<b>`, `</tr>`, `" "`, EOF -/
def wB : List Spec.TreeModes.Token := [st "template", st "tr", st "b", et "tr", ch " ", .eof]
/-- C (fragment, SVG `svg` context): `<p>`, `<b>`, `</p>`, `<g>`, `</b>`, `<i>` -/
def wC : List Spec.TreeModes.Token := [st "p", st "b", et "p", st "g", et "b", st "i"]
/-- D (fragment, HTML `select` context): `<input>`, `"x"` -/
def wD : List Spec.TreeModes.Token := [st "input", ch "x"]

/-- the same token lists as the tokenizer of the model delivers them -/
def mA : List (TokToken × Nat) :=
  [stt "table", cht " ", (.doctype { name := some "html".toList }, 1), cht "x", ett "table"]
def mB : List (TokToken × Nat) := [stt "template", stt "tr", stt "b", ett "tr", cht " ", (.eof, 1)]
def mC : List (TokToken × Nat) := [stt "p", stt "b", ett "p", stt "g", ett "b", stt "i"]
def mD : List (TokToken × Nat) := [stt "input", cht "x"]

example : specToks mA = wA ∧ specToks mB = wB ∧ specToks mC = wC ∧ specToks mD = wD := by decide +kernel

/-- sinks that already hold the context element (id 1) -/
def svgDom : Dom := (Dom.new.createElement { ns := nsSvg, loc := "svg".toList } [] {}).1
def selDom : Dom := (Dom.new.createElement { ns := nsHtml, loc := "select".toList } [] {}).1

-- (1) the unmodified specification runs to the end on the four inputs …
example : (doc wA).toBool = true ∧ (doc wB).toBool = true ∧
    (fragCtx "http://www.w3.org/2000/svg" "svg" wC).toBool = true ∧
    (fragCtx "http://www.w3.org/1999/xhtml" "select" wD).toBool = true := by decide +kernel
-- … with the number of DOM operations the standard prescribes (A: `" "` goes into the table, `"x"` is
-- foster-parented; B: no second `b`; C: no `b` reconstructed around the `i`; D: the `input` is ignored, only "x")
example : (logOf (doc wA)).length = 11 ∧ (logOf (doc wB)).length = 14 ∧
    (logOf (fragCtx "http://www.w3.org/2000/svg" "svg" wC)).length = 10 := by decide +kernel
-- … and the completed specification coincides with it there
example : logOf (doc wA) = logOf (docDev wA) ∧ logOf (doc wB) = logOf (docDev wB) := by decide +kernel

-- (2) the model: protocol hypothesis, successful run, hence agreement with the unmodified specification
theorem mA_respects : Respects2 (docStart {}) mA := respects2_of_B _ _ (by decide +kernel)
theorem mB_respects : Respects2 (docStart {}) mB := respects2_of_B _ _ (by decide +kernel)
example : ((H5V.Props.C04TB.parseDocument mA).run (State.init {})).toBool = true := by decide +kernel
example : ((H5V.Props.C04TB.parseDocument mB).run (State.init {})).toBool = true := by decide +kernel

/-- A: the fixed `process_token` (DOCTYPE in "in table text") agrees with the unmodified standard -/
example : ∀ res s', (H5V.Props.C04TB.parseDocument mA).run (State.init {}) = .ok (res, s') →
    ∃ calls, s'.traceRev = calls.reverse ++ [(.getDocument, .node 0)] ∧ DocAgreesStd {} mA res s' calls :=
  C02_model_eq_spec_modes {} rfl mA mA_respects
/-- B: the fixed `tableOuterChars` (with `template`) agrees with the unmodified standard -/
example : ∀ res s', (H5V.Props.C04TB.parseDocument mB).run (State.init {}) = .ok (res, s') →
    ∃ calls, s'.traceRev = calls.reverse ++ [(.getDocument, .node 0)] ∧ DocAgreesStd {} mB res s' calls :=
  C02_model_eq_spec_modes {} rfl mB mB_respects

theorem mC_respects : ∀ s1, (newForFragment 1 none).run (H5V.Props.C04TB.fragInit {} svgDom) = .ok ((), s1) → Respects2 s1 mC :=
  respects2_frag_of_B (by decide +kernel)
theorem mD_respects : ∀ s1, (newForFragment 1 none).run (H5V.Props.C04TB.fragInit {} selDom) = .ok ((), s1) → Respects2 s1 mD :=
  respects2_frag_of_B (by decide +kernel)
example : ((H5V.Props.C04TB.parseFragment 1 none mC).run (H5V.Props.C04TB.fragInit {} svgDom)).toBool = true := by
  decide +kernel
example : ((H5V.Props.C04TB.parseFragment 1 none mD).run (H5V.Props.C04TB.fragInit {} selDom)).toBool = true := by
  decide +kernel

/-- C: the fixed `foreign_end_tag` loop (fragment case) agrees with the unmodified standard -/
example : ∀ res s', (H5V.Props.C04TB.parseFragment 1 none mC).run (H5V.Props.C04TB.fragInit {} svgDom) = .ok (res, s') →
    ∃ calls, s'.traceRev = calls.reverse ++ (H5V.Props.C04TB.fragInit {} svgDom).traceRev ∧
      FragAgreesStd {} svgDom 1 none mC res s' calls :=
  C02_model_eq_spec_modes_fragment {} svgDom 1 none (by decide +kernel) (fun _ h => by cases h) mC mC_respects
/-- D: the fixed `<input>` rule with a `select` context element agrees with the unmodified standard -/
example : ∀ res s', (H5V.Props.C04TB.parseFragment 1 none mD).run (H5V.Props.C04TB.fragInit {} selDom) = .ok (res, s') →
    ∃ calls, s'.traceRev = calls.reverse ++ (H5V.Props.C04TB.fragInit {} selDom).traceRev ∧
      FragAgreesStd {} selDom 1 none mD res s' calls :=
  C02_model_eq_spec_modes_fragment {} selDom 1 none (by decide +kernel) (fun _ h => by cases h) mD mD_respects

/-- the strict headlines on the four inputs -/
example : ∀ res s', (H5V.Props.C04TB.parseDocument mA).run (State.init {}) = .ok (res, s') →
    ∃ calls, s'.traceRev = calls.reverse ++ [(.getDocument, .node 0)] ∧ DocAgreesStrict {} mA res s' calls :=
  C02_model_eq_spec_modes_strict {} rfl mA mA_respects
example : ∀ res s', (H5V.Props.C04TB.parseDocument mB).run (State.init {}) = .ok (res, s') →
    ∃ calls, s'.traceRev = calls.reverse ++ [(.getDocument, .node 0)] ∧ DocAgreesStrict {} mB res s' calls :=
  C02_model_eq_spec_modes_strict {} rfl mB mB_respects
example : ∀ res s', (H5V.Props.C04TB.parseFragment 1 none mC).run (H5V.Props.C04TB.fragInit {} svgDom) = .ok (res, s') →
    ∃ calls, s'.traceRev = calls.reverse ++ (H5V.Props.C04TB.fragInit {} svgDom).traceRev ∧
      FragAgreesStrict {} svgDom 1 none mC res s' calls :=
  C02_model_eq_spec_modes_fragment_strict {} svgDom 1 none (by decide +kernel) (fun _ h => by cases h) mC mC_respects
example : ∀ res s', (H5V.Props.C04TB.parseFragment 1 none mD).run (H5V.Props.C04TB.fragInit {} selDom) = .ok (res, s') →
    ∃ calls, s'.traceRev = calls.reverse ++ (H5V.Props.C04TB.fragInit {} selDom).traceRev ∧
      FragAgreesStrict {} selDom 1 none mD res s' calls :=
  C02_model_eq_spec_modes_fragment_strict {} selDom 1 none (by decide +kernel) (fun _ h => by cases h) mD mD_respects

/-- the configuration the fragment headline uses for `svgDom` / `selDom` is the one of `fragCtx` above (up to the
node id of the context element) -/
example : (fragCfg {} svgDom 1).context = some ⟨1, ⟨Spec.TreeAlgo.nsSvg, "svg".toList⟩⟩ ∧
    (fragCfg {} selDom 1).context = some ⟨1, ⟨Spec.TreeAlgo.nsHtml, "select".toList⟩⟩ := by decide +kernel

end Witness

end H5V.Props.C02

#print axioms H5V.Props.C02.C02_model_eq_spec_modes
#print axioms H5V.Props.C02.C02_model_eq_spec_modes_fragment
#print axioms H5V.Props.C02.C02_model_eq_spec_modes_completed
#print axioms H5V.Props.C02.C02_model_eq_spec_modes_fragment_completed
#print axioms H5V.Props.C02.DocAgrees.unique
#print axioms H5V.Props.C02.C02_model_eq_spec_modes_strict
#print axioms H5V.Props.C02.C02_model_eq_spec_modes_fragment_strict
#print axioms H5V.Props.C02.C02_cell_assert_never_fails
#print axioms H5V.Props.C02.C02_all_modes
#print axioms H5V.Props.C02.C02_all_modes_chars
#print axioms H5V.Props.C02.C02_foreign
#print axioms H5V.Props.C02.C02_foreign_chars
#print axioms H5V.Props.C02.C02_doctype_initial
#print axioms H5V.Props.C02.C02_rules_in_body
#print axioms H5V.Props.C02.C02_rules_in_head
#print axioms H5V.Props.C02.C02_dispatcher
#print axioms H5V.Props.C02.Ex.exToks_respects
