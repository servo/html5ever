import H5V.Lemmas.HtmlTBSafeInit
import H5V.Lemmas.HtmlTBSafeMsgs
import H5V.Lemmas.HtmlTBSafeAA
import H5V.Lemmas.HtmlTBSafeHead
import H5V.Lemmas.HtmlTBSafeBody
import H5V.Lemmas.HtmlTBSafeTable
import H5V.Lemmas.HtmlTBSafeSimple
/-!
C04 (tree builder part) — **tree construction is total in the model of html5ever's HTML tree
builder**: no `unwrap`/`expect`/index/`assert!`/arithmetic panic site of
`html5ever/src/tree_builder/{mod.rs,rules.rs}` (every `panicAt` of `H5V.Model.HtmlTB`) is reachable,
for every token sequence, every option set, and a document or fragment start — with ONE exception
that is real: the `unreachable!("impossible case in Text mode")` of `rules.rs` (`textProtoMsg`) is reached when
the token source sends a start tag / comment / null character while the builder is in the Text
insertion mode (the html5ever tokenizer never does; an arbitrary `TokenSink` client can).  For token
sequences that keep this protocol (`Respects`) that site is unreachable too
(`C04_tb_no_panic_protocol`, `C04_tb_total_protocol`).

What this file proves (from `Lemmas/HtmlTBSafe*.lean`):
* the invariant `TI s = HInv s ∧ SInv s.mode s` (`HtmlTBSafeInsert`, `HtmlTBSafeInv`):
  every handle the builder holds is an element of the sink with a name that never changes
  (`apply_ext`: every successful sink call, inside the `TreeSink` contract or not, extends the
  arena); the stack of open elements is empty before the root exists and afterwards has an HTML
  `html` element at the bottom that is never popped; `Text`/`InTableText` ⇒ `orig_mode` is set;
  the per-mode stack requirements; #`template` elements ≤ #template insertion modes; … It holds
  initially (`C04_tb_inv_new`, `sat_newForFragment`) and is preserved by every rule
  (`C04_tb_no_panic_step`), by `process_token` and by any token list.
* `C04_tb_no_panic_step`, `C04_tb_no_panic_token`, `C04_tb_no_panic` (documents),
  `C04_tb_no_panic_fragment`, `C04_tb_no_panic_protocol(_fragment)`: the only possible failures are
  `Benign` (below), none of which is a panic site (`C04_tb_benign_not_panic`,
  `C04_tb_protocol_not_text`).
* every *query* sink call (`elem_name`, `same_node`, `get_template_contents`,
  `is_mathml_annotation_xml_integration_point`, `add_attrs_if_missing`, and the total ones) succeeds
  on the DOM model, i.e. is made with handles of the right kind.  A failure of the DOM model in one of
  the tree-*mutating* calls (`append`, `append_based_on_parent_node`, `append_before_sibling`,
  `append_doctype_to_document`, `remove_from_parent`, `reparent_children`,
  `maybe_clone_an_option_into_selectedcontent`) is `Benign.sinkMut` here; that these calls are made
  inside the `TreeSink` contract is `C05_tb_contract` (`Props/C05TB.lean`).
* the fuel of every helper loop (`generate_implied_end_tags`,
  `pop_until_current`, `pop_until`, `reconstruct_active_formatting_elements`,
  `unexpected_start_tag_in_foreign_content`) suffices.  Running out of the fuel of
  `process_to_completion` (`ptcFuel`) is `Benign.ptcFuel` here; that it suffices is `C04_tb_ptc_fuel`
  (`Props/C04TB2.lean`).

`Benign` is parameterised by an `Allow` instance saying which of the two context-dependent failures
(Text-mode `unreachable!`, `process_to_completion` fuel) are tolerated; all lemmas are generic in it.
-/
namespace H5V.Props.C04TB
open H5V.Model.HtmlTB H5V.Lemmas.TBSafe
open H5V.Model.Dom (Id Dom)

/-! ### the rules (generic in the allowance) -/
section rules
variable {al : Allow}

theorem endTagSpec : EndTagSpec := fun _ _ hi hr hn => sat_processEndTagInBody hi hr hn

theorem agencySpec : AgencySpec := fun _ _ hi hr hs =>
  (sat_adoptionAgency hi hr hs).mono (fun _ _ h => ⟨h.fr, h.hinv, h.rooted, h.news, h.keeps, h.tcnt⟩)

theorem misnestedSpec : MisnestedSpec := fun _ hi hr =>
  (sat_handleMisnestedATags hi hr).mono (fun _ _ h => ⟨h.fr, h.hinv, h.rooted, h.news, h.keeps, h.tcnt⟩)

theorem headSpec : HeadSpec := stepInHead_spec

theorem bodySpec : BodySpec :=
  stepInBody_spec headSpec inTemplateEof_spec endTagSpec agencySpec misnestedSpec

theorem tableSpec : TableSpec := stepInTable_spec headSpec bodySpec

/-- **every rule re-establishes the invariant and never reaches a panic site** (in Text mode: if
the `unreachable!` is tolerated or the token is one the mode handles) -/
theorem allSpec : AllSpec := by
  intro tok s ht hprot
  cases hm : s.mode <;> simp only [step]
  · exact stepInitial_spec tok s ht hm
  · exact stepBeforeHtml_spec tok s ht hm
  · exact stepBeforeHead_spec tok s ht hm
  · exact headSpec tok s ht (by rw [hm]; rfl) (Or.inl hm)
  · exact stepInHeadNoscript_spec headSpec tok s ht hm
  · exact stepAfterHead_spec headSpec afterHeadBlock_spec tok s ht hm
  · exact (bodySpec tok s ht (by rw [hm]; rfl) (by rw [hm]; decide) (fun h => by rw [hm] at h; cases h)
      (fun h => by rw [hm] at h; cases h)).mono (fun _ _ h => h.1)
  · exact stepText_spec tok s ht hm (hprot hm)
  · exact tableSpec tok s ht (by rw [hm]; rfl)
  · exact stepInTableText_spec bodySpec tok s ht hm
  · exact stepInCaption_spec bodySpec tok s ht hm
  · exact stepInColumnGroup_spec headSpec bodySpec tok s ht hm
  · exact stepInTableBody_spec tableSpec tok s ht hm
  · exact stepInRow_spec tableSpec tok s ht hm
  · exact stepInCell_spec bodySpec tok s ht hm
  · exact stepInTemplate_spec headSpec bodySpec inTemplateEof_spec tok s ht hm
  · exact stepAfterBody_spec bodySpec tok s ht hm
  · exact stepInFrameset_spec headSpec tok s ht hm
  · exact stepAfterFrameset_spec headSpec tok s ht hm
  · exact stepAfterAfterBody_spec bodySpec tok s ht hm
  · exact stepAfterAfterFrameset_spec headSpec bodySpec tok s ht hm

theorem sat_iff {α : Type} {m : M α} {s : State} {Q : α → State → Prop} :
    Sat m s Q ↔ (∀ a s', m.run s = .ok (a, s') → Q a s') ∧ (∀ e, m.run s = .error e → Benign e) := by
  unfold Sat
  show (match m s with | .ok (a, s') => Q a s' | .error e => Benign e) ↔
    (∀ a s', m s = .ok (a, s') → Q a s') ∧ (∀ e, m s = .error e → Benign e)
  cases h : m s with
  | error e =>
    constructor
    · intro hb
      refine ⟨?_, ?_⟩
      · intro a s' h'; cases h'
      · intro e' h'; cases h'; exact hb
    · intro hb; exact hb.2 e rfl
  | ok r =>
    obtain ⟨a, s'⟩ := r
    constructor
    · intro hq
      refine ⟨?_, ?_⟩
      · intro a' s'' h'; cases h'; exact hq
      · intro e' h'; cases h'
    · intro hq; exact hq.1 a s' rfl

/-- **one rule**: under the invariant, `step mode token` either fails benignly or returns a
result with which the invariant holds again (for the mode `process_to_completion` will set) -/
theorem C04_tb_no_panic_step (s : State) (tok : Token) (ht : TI s)
    (hprot : s.mode = .text → al.text ∨ textTok tok = true) :
    (∀ res s', (step s.mode tok).run s = .ok (res, s') → StepPost tok res s') ∧
    (∀ e, (step s.mode tok).run s = .error e → Benign e) :=
  sat_iff.mp (allSpec tok s ht hprot)

/-- **one token**: `process_token` preserves the invariant and fails at most benignly -/
theorem C04_tb_no_panic_token (hfuel : al.fuel) (s : State) (tok : TokToken) (line : Nat) (ht : TI s)
    (hprot : s.mode = .text → al.text ∨ okTextTok tok = true) :
    (∀ r s', (processToken tok line).run s = .ok (r, s') → TI s') ∧
    (∀ e, (processToken tok line).run s = .error e → Benign e) :=
  sat_iff.mp (sat_processToken allSpec hfuel ht hprot)

theorem C04_tb_no_panic_tokens (hfuel : al.fuel) (s : State) (toks : List (TokToken × Nat))
    (acc : List SinkResult) (ht : TI s) (hresp : al.text ∨ Respects s toks) :
    (∀ r s', (processTokens toks acc).run s = .ok (r, s') → TI s') ∧
    (∀ e, (processTokens toks acc).run s = .error e → Benign e) :=
  sat_iff.mp (sat_processTokens allSpec hfuel toks acc s ht hresp)

/-- the tokens and `end`, from a state satisfying the invariant -/
def parseRest (toks : List (TokToken × Nat)) : M (List SinkResult) := do
  let r ← processTokens toks []
  finishTB
  pure r

theorem sat_parseRest (hfuel : al.fuel) (toks : List (TokToken × Nat)) {s : State} (ht : TI s)
    (hresp : al.text ∨ Respects s toks) : Sat (parseRest toks) s (fun _ _ => True) := by
  unfold parseRest
  refine (sat_processTokens allSpec hfuel toks [] s ht hresp).bind ?_
  intro r s2 _
  refine sat_finishTB.bind ?_
  intro _ s3 _
  exact sat_pure trivial

/-- **the benign failures are not panic sites**: none of the messages of the `panicAt` sites
(`tbPanicMessages`, which lists all of them except the Text-mode `unreachable!`), of the helper-loop
fuels or of the "wrong sink answer" sites -/
theorem C04_tb_benign_not_panic {e : String} (h : Benign e) :
    e ∉ tbPanicMessages ∧ e ∉ tbFuelMessages ∧ e ∉ tbModelMessages := benign_not_listed h

/-- what a benign failure is -/
theorem C04_tb_benign_cases {e : String} (h : Benign e) :
    (∃ (d : Dom) (op : H5V.Model.Dom.SinkOp) (x : String), d.apply op = .error x ∧ MutOp op ∧
        e = errClass x ++ "@sink: " ++ x) ∨
    (e = ptcFuelMsg ∧ al.fuel) ∨ (e = textProtoMsg ∧ al.text) ∨
    (∃ m, e = "meta-extract@encoding.rs: " ++ m) ∨
    e = "subtendril-utf8@encoding.rs: subtendril is not valid UTF-8" := by
  cases h with
  | sinkMut d op x h1 h2 => exact Or.inl ⟨d, op, x, h1, h2, rfl⟩
  | ptcFuel ha => exact Or.inr (Or.inl ⟨rfl, ha⟩)
  | textProto ha => exact Or.inr (Or.inr (Or.inl ⟨rfl, ha⟩))
  | metaExtract m => exact Or.inr (Or.inr (Or.inr (Or.inl ⟨m, rfl⟩)))
  | metaUtf8 => exact Or.inr (Or.inr (Or.inr (Or.inr rfl)))

end rules

/-! ### the two allowances -/

/-- both context-dependent failures tolerated: arbitrary token sequences -/
@[reducible] def allowAll : Allow := ⟨True, True⟩
/-- the Text-mode `unreachable!` not tolerated: token sequences that keep the tokenizer protocol -/
@[reducible] def allowFuel : Allow := ⟨False, True⟩

/-- the failures not excluded for arbitrary token sequences -/
abbrev BenignAny (e : String) : Prop := @Benign allowAll e
/-- the failures not excluded for token sequences that keep the tokenizer protocol -/
abbrev BenignProto (e : String) : Prop := @Benign allowFuel e

theorem C04_tb_protocol_not_text {e : String} (h : BenignProto e) : e ≠ textProtoMsg :=
  @benign_ne_textProto allowFuel (fun h => h) e h

/-! ### a decision procedure for `Respects` on concrete token lists -/

/-- run the model and check the protocol along the way -/
def respectsB : State → List (TokToken × Nat) → Bool
  | _, [] => true
  | s, (t, line) :: rest =>
    (s.mode != .text || okTextTok t) &&
    match (processToken t line).run s with
    | .ok (_, s') => respectsB s' rest
    | .error _ => true

theorem respects_of_respectsB : ∀ (toks : List (TokToken × Nat)) (s : State),
    respectsB s toks = true → Respects s toks := by
  intro toks
  induction toks with
  | nil => intro s _; trivial
  | cons t rest ih =>
    intro s h
    obtain ⟨tk, line⟩ := t
    simp only [respectsB, Bool.and_eq_true, Bool.or_eq_true, bne_iff_ne, ne_eq] at h
    refine ⟨fun hm => ?_, fun r s' hr => ?_⟩
    · rcases h.1 with h1 | h1
      · exact absurd hm h1
      · exact h1
    · have h2 := h.2
      rw [hr] at h2
      exact ih s' h2

/-! ### documents -/

theorem endLoop_total : ∀ (l : List Id) (s : State), ∃ s', (endLoop l).run s = .ok ((), s') := by
  intro l
  induction l with
  | nil => intro s; exact ⟨s, rfl⟩
  | cons e rest ih =>
    intro s
    obtain ⟨s', h⟩ := ih { s with traceRev := (.pop e, .unit) :: s.traceRev }
    exact ⟨s', h⟩

/-- `TreeSink::end` is total from every state (it only tells the sink to pop the open elements) -/
theorem C04_tb_end_total (s : State) : ∃ s', finishTB.run s = .ok ((), s') := endLoop_total _ _

/-- the builder state after `TreeBuilder::new` -/
def docStart (opts : Opts) : State :=
  { State.init opts with docHandle := 0, traceRev := [(.getDocument, .node 0)] }

theorem newTB_run (opts : Opts) : newTB.run (State.init opts) = .ok ((), docStart opts) := rfl

/-- the invariant holds after `TreeBuilder::new` -/
theorem C04_tb_inv_new (opts : Opts) : TI (docStart opts) :=
  ((@sat_iff allowAll _ _ _ _).mp (@sat_newTB allowAll _ (fresh_init opts))).1 _ _ (newTB_run opts)

/-- a whole document parse: `new`, any tokens, `end` -/
def parseDocument (toks : List (TokToken × Nat)) : M (List SinkResult) := do
  newTB
  parseRest toks

theorem parseDocument_run (opts : Opts) (toks : List (TokToken × Nat)) :
    (parseDocument toks).run (State.init opts) = (parseRest toks).run (docStart opts) := rfl

/-- **C04 (tree builder), documents**: for every option set and every token sequence, parsing a
document fails at most benignly -/
theorem C04_tb_no_panic (opts : Opts) (toks : List (TokToken × Nat)) (e : String)
    (h : (parseDocument toks).run (State.init opts) = .error e) : BenignAny e := by
  rw [parseDocument_run] at h
  exact ((@sat_iff allowAll _ _ _ _).mp
    (@sat_parseRest allowAll trivial toks _ (C04_tb_inv_new opts) (Or.inl trivial))).2 e h

/-- **… and for token sequences that keep the tokenizer protocol the Text-mode `unreachable!` is
excluded as well** -/
theorem C04_tb_no_panic_protocol (opts : Opts) (toks : List (TokToken × Nat))
    (hresp : Respects (docStart opts) toks) (e : String)
    (h : (parseDocument toks).run (State.init opts) = .error e) : BenignProto e := by
  rw [parseDocument_run] at h
  exact ((@sat_iff allowFuel _ _ _ _).mp
    (@sat_parseRest allowFuel trivial toks _ (C04_tb_inv_new opts) (Or.inr hresp))).2 e h

/-! ### fragments -/

/-- a whole fragment parse: `new_for_fragment`, any tokens, `end` -/
def parseFragment (ctx : Id) (form : Option Id) (toks : List (TokToken × Nat)) : M (List SinkResult) := do
  newForFragment ctx form
  parseRest toks

/-- the start state of a fragment parse: a fresh builder on an arbitrary sink `d` -/
def fragInit (opts : Opts) (d : Dom) : State := { State.init opts with dom := d }

/-- **C04 (tree builder), fragments**: any sink `d`, any context element of `d`, no form pointer or
an HTML `form` element of `d`, any token sequence -/
theorem C04_tb_no_panic_fragment (opts : Opts) (d : Dom) (ctx : Id) (form : Option Id)
    (toks : List (TokToken × Nat)) (hctx : IsEl d ctx)
    (hform : ∀ f, form = some f → IsEl d f ∧ nm d f = formName) (e : String)
    (h : (parseFragment ctx form toks).run (fragInit opts d) = .error e) : BenignAny e := by
  have hs : @Sat allowAll _ (parseFragment ctx form toks) (fragInit opts d) (fun _ _ => True) := by
    unfold parseFragment
    refine (@sat_newForFragment allowAll _ _ _ (fresh_init_dom opts d) hctx hform).bind ?_
    intro _ s1 ht1
    exact @sat_parseRest allowAll trivial toks _ ht1 (Or.inl trivial)
  exact ((@sat_iff allowAll _ _ _ _).mp hs).2 e h

/-- the same for token sequences that keep the protocol from the state `new_for_fragment` leaves -/
theorem C04_tb_no_panic_protocol_fragment (opts : Opts) (d : Dom) (ctx : Id) (form : Option Id)
    (toks : List (TokToken × Nat)) (hctx : IsEl d ctx)
    (hform : ∀ f, form = some f → IsEl d f ∧ nm d f = formName)
    (hresp : ∀ s1, (newForFragment ctx form).run (fragInit opts d) = .ok ((), s1) → Respects s1 toks)
    (e : String) (h : (parseFragment ctx form toks).run (fragInit opts d) = .error e) : BenignProto e := by
  have hs : @Sat allowFuel _ (parseFragment ctx form toks) (fragInit opts d) (fun _ _ => True) := by
    unfold parseFragment
    refine (sat_with_run (@sat_newForFragment allowFuel _ _ _ (fresh_init_dom opts d) hctx hform)).bind ?_
    rintro u s1 ⟨ht1, hrun⟩
    exact @sat_parseRest allowFuel trivial toks _ ht1 (Or.inr (hresp s1 hrun))
  exact ((@sat_iff allowFuel _ _ _ _).mp hs).2 e h

/-! ### headline -/

/-- no document parse ends in one of the listed panic / helper-fuel / model messages … -/
theorem C04_tb_total (opts : Opts) (toks : List (TokToken × Nat)) :
    ∀ e ∈ tbPanicMessages ++ tbFuelMessages ++ tbModelMessages,
      (parseDocument toks).run (State.init opts) ≠ .error e := by
  intro e he h
  exact @listed_not_benign allowAll e he (C04_tb_no_panic opts toks e h)

/-- … and with a token source that keeps the tokenizer protocol not in the Text-mode
`unreachable!` either: **no panic site of the tree builder at all** -/
theorem C04_tb_total_protocol (opts : Opts) (toks : List (TokToken × Nat))
    (hresp : Respects (docStart opts) toks) :
    ∀ e ∈ textProtoMsg :: (tbPanicMessages ++ tbFuelMessages ++ tbModelMessages),
      (parseDocument toks).run (State.init opts) ≠ .error e := by
  intro e he h
  have hbp := C04_tb_no_panic_protocol opts toks hresp e h
  rcases List.mem_cons.mp he with he | he
  · exact C04_tb_protocol_not_text hbp he
  · exact @listed_not_benign allowFuel e he hbp

/-! ### non-vacuity -/

def st (n : String) : TokToken × Nat := (.tag { kind := .startTag, name := n.toList }, 1)
def et (n : String) : TokToken × Nat := (.tag { kind := .endTag, name := n.toList }, 1)
def ch (s : String) : TokToken × Nat := (.chars s.toList, 1)

def errOf {α : Type} (r : Except String α) : Option String :=
  match r with | .error e => some e | .ok _ => none

/-- a run through foster parenting, the adoption agency and table modes ends without any failure -/
example : errOf ((parseDocument [st "html", st "table", st "b", ch "x", st "td", et "b", st "p", et "table",
    ch "y", (.eof, 1)]).run (State.init {})) = none := by decide +kernel

/-- the Text-mode `unreachable!` IS reachable by a token source that ignores the tokenizer protocol:
`<title>` followed by a comment token -/
example : errOf ((parseDocument [st "title", (.comment [], 1)]).run (State.init {})) = some textProtoMsg := by
  decide +kernel

/-- a token list that passes through Text mode and keeps the protocol (`<title>x</title><p>y`) … -/
example : Respects (docStart {}) [st "title", ch "x", et "title", st "p", ch "y", (.eof, 1)] :=
  respects_of_respectsB _ _ (by decide +kernel)

/-- … and one that does not (`<title>` then a comment) -/
example : respectsB (docStart {}) [st "title", (.comment [], 1)] = false := by decide +kernel

/-- a sink that already holds a `td` element (id 1), used as fragment context element -/
def fragDom : Dom := (Dom.new.createElement { ns := nsHtml, loc := "td".toList } [] {}).1

theorem fragDom_ctx : IsEl fragDom 1 := ⟨_, rfl⟩

/-- the hypotheses of the fragment theorem are satisfiable -/
example (toks : List (TokToken × Nat)) (e : String)
    (h : (parseFragment 1 none toks).run (fragInit {} fragDom) = .error e) : BenignAny e :=
  C04_tb_no_panic_fragment {} fragDom 1 none toks fragDom_ctx (fun f hf => by cases hf) e h

/-- a fragment run (context `td`; table rows, foreign content, a stray `</td>`) ends without failure -/
example : errOf ((parseFragment 1 none [st "tr", st "td", st "svg", st "b", et "td", ch "x", (.eof, 1)]).run
    (fragInit {} fragDom)) = none := by decide +kernel

/-- the invariant is satisfiable: it holds in the state after `TreeBuilder::new` -/
example : ∃ s, TI s := ⟨_, C04_tb_inv_new {}⟩

end H5V.Props.C04TB

#print axioms H5V.Props.C04TB.allSpec
#print axioms H5V.Props.C04TB.C04_tb_no_panic_step
#print axioms H5V.Props.C04TB.C04_tb_no_panic_token
#print axioms H5V.Props.C04TB.C04_tb_no_panic_tokens
#print axioms H5V.Props.C04TB.C04_tb_end_total
#print axioms H5V.Props.C04TB.C04_tb_inv_new
#print axioms H5V.Props.C04TB.C04_tb_no_panic
#print axioms H5V.Props.C04TB.C04_tb_no_panic_protocol
#print axioms H5V.Props.C04TB.C04_tb_no_panic_fragment
#print axioms H5V.Props.C04TB.C04_tb_no_panic_protocol_fragment
#print axioms H5V.Props.C04TB.C04_tb_benign_not_panic
#print axioms H5V.Props.C04TB.C04_tb_benign_cases
#print axioms H5V.Props.C04TB.C04_tb_protocol_not_text
#print axioms H5V.Props.C04TB.C04_tb_total
#print axioms H5V.Props.C04TB.C04_tb_total_protocol
#print axioms H5V.Props.C04TB.respects_of_respectsB
#print axioms H5V.Lemmas.TBSafe.apply_ext
#print axioms H5V.Lemmas.TBSafe.sat_newForFragment
