import H5V.Lemmas.HtmlTBSkelRun
/-!
C06, proved for **all** token sequences (document parsing, every option set): the clauses of
`Skeleton` that hold in the model of html5ever's HTML tree builder.

The invariant (`H5V/Lemmas/HtmlTBSkel*.lean`) is indexed by the phase of the parse:
`Inv3 s = EarlyA s ∨ EarlyB s ∨ Late s` — Initial (only comments under the document), BeforeHtml
(`comment* doctype? comment*`), and every later insertion mode (`Late`: the document's children
match `comment* doctype? comment* html comment*`, the stack of open elements consists of elements of
which only the bottom one may be a child of the document, the head pointer likewise, no pending
table text is empty, and the arena invariant `DomBase`).  It is preserved by every sink call the
builder makes in every rule of every insertion mode, by foster parenting and by the adoption agency
(`presR_step`, `presR_stepForeign`, `ptc_inv`, `processToken_inv`).

Proved here, for every `opts` and every `toks`:

* **T1** `C06_document_children_every_state` — in every state reachable by `newTB` +
  `processTokens`, the document's child list matches `comment* doctype? comment* (html comment*)?`
  (`docPrefix`) and contains no text node; `C06_document_children` — once an EOF token has been
  processed (and after `end()`): the full pattern `comment* doctype? comment* html comment*`
  (`docPattern 0`), no text child, and `htmlOf` finds the `html` element;
  `C06_document_children_eof_state` — the same for the state before `end()`.
* **T3** `C06_no_text_under_document` (part of T1), `C06_no_empty_text` — no text node of the arena is
  empty (every `append_text` argument is non-empty: `charsToken`, the whitespace splitter, pending
  table text, U+FFFD; text merging only appends; the selectedcontent mirror copies).
* **T4** `C06_only_containers_have_children` — every node that has children is an element or a
  `Document`-kind node; `C06_template_contents_are_fragments` — the template contents of an element is
  a `Document`-kind node other than the document; `C06_no_document_child` — no `Document`-kind node
  is a child of any node; together, in the exact form of the predicate:
  `C06_nodeClauses_of_noAdj` — for every node of `treeNodes` (the walk `skeletonOk` makes), the first
  two clauses of `nodeClauses` hold, i.e. `nodeClauses` holds as soon as "no adjacent text siblings"
  does for that node.
* `C06_inv_every_state` — the invariant itself, for use by other properties.

**Not proved here**: the clause about the element children of `html`
(`head` then `body | frameset noframes*`; false as stated: `C06_witness_frameset_reconstruct`), its
weakening to the first two element children, and "only whitespace text under `html`".  Both need
facts about the *shape of the stack per insertion mode* (that `body` stays second on the stack, that
a table mode has a `table` or `template` on the stack, that formatting entries name formatting
elements) which the present invariant does not carry; they are the subject of `C06Inv2.lean`.
"No adjacent text siblings" for the tree builder itself is proved in `C06Inv3.lean`.
-/
namespace H5V.Props.C06
open H5V.Model.Dom hiding Str
open H5V.Model.HtmlTB hiding Str
open H5V.Lemmas.Dom

/-- the states of a document parse: `TreeBuilder::new`, then the tokens -/
def Reachable (opts : Opts) (toks : List (TokToken × Nat)) (s : State) : Prop :=
  ∃ r, (do newTB; processTokens toks [] : M (List SinkResult)).run (State.init opts) = .ok (r, s)

/-- **the invariant holds in every reachable state**; once EOF has been processed the state is `Late` -/
theorem C06_inv_every_state {opts : Opts} {toks : List (TokToken × Nat)} {s : State}
    (h : Reachable opts toks s) : Inv3 s ∧ ((∃ line, (TokToken.eof, line) ∈ toks) → Late s) := by
  obtain ⟨r, hr⟩ := h
  have hr' : (newTB >>= fun _ => processTokens toks []) (State.init opts) = .ok (r, s) := hr
  obtain ⟨u1, s1, e1, e2⟩ := bind_ok.mp hr'
  have h1 := newTB_inv (earlyA_init opts) e1
  obtain ⟨a, _, c⟩ := processTokens_inv toks [] s1 r s (.a h1) e2
  exact ⟨a, c⟩

/-! ## T1: the children of the document -/

theorem isText_of_docKid {d : Dom} {c : Id} (h : docKid d c ≠ .other) : d.isText c = false := by
  unfold Dom.isText
  cases hd : d.dataOf c with
  | none => rfl
  | some v =>
    cases v with
    | text t => exact absurd (by unfold docKid; rw [hd]) h
    | _ => rfl

theorem no_text_of_kinds {d : Dom} (h : ∀ k ∈ kinds d, k ≠ .other) : ∀ c ∈ d.childrenOf Dom.document, d.isText c = false := by
  intro c hc
  exact isText_of_docKid (h _ (List.mem_map_of_mem hc))

theorem Inv3.docPrefix {s : State} (h : Inv3 s) :
    docPrefix (kinds s.dom) = true ∧ ∀ c ∈ s.dom.childrenOf Dom.document, s.dom.isText c = false := by
  cases h with
  | a ha =>
    refine ⟨by simp [C06.docPrefix, docPre_of_comments ha.2.2], no_text_of_kinds ?_⟩
    intro k hk hko; rw [ha.2.2 k hk] at hko; cases hko
  | b hb =>
    refine ⟨by simp [C06.docPrefix, hb.2.2], no_text_of_kinds ?_⟩
    intro k hk hko
    rcases docPre_mem hb.2.2 k hk with h | h <;> (rw [h] at hko; cases hko)
  | late hl =>
    exact ⟨by simp [C06.docPrefix, hl.pat], no_text_of_kinds (docPattern_mem hl.pat)⟩

theorem htmlOf_isSome {d : Dom} (h : docPattern 0 (kinds d) = true) : (htmlOf d).isSome = true := by
  have hm := docPattern_has_html (Nat.zero_le _) h
  obtain ⟨c, hc, hk⟩ := List.mem_map.mp hm
  unfold htmlOf
  rw [List.find?_isSome]
  exact ⟨c, hc, by simp [hk]⟩

/-- **T1, every state**: the document's children match `comment* doctype? comment* (html comment*)?`
and none of them is a text node -/
theorem C06_document_children_every_state {opts : Opts} {toks : List (TokToken × Nat)} {s : State}
    (h : Reachable opts toks s) :
    docPrefix ((s.dom.childrenOf Dom.document).map (docKid s.dom)) = true ∧
      ∀ c ∈ s.dom.childrenOf Dom.document, s.dom.isText c = false :=
  (C06_inv_every_state h).1.docPrefix

/-- **T1, after EOF** (the EOF token through `processTokens`): `comment* doctype? comment* html comment*` -/
theorem C06_document_children_eof_state {opts : Opts} {toks : List (TokToken × Nat)} {s : State}
    (h : Reachable opts toks s) (heof : ∃ line, (TokToken.eof, line) ∈ toks) :
    docPattern 0 ((s.dom.childrenOf Dom.document).map (docKid s.dom)) = true ∧
      (∀ c ∈ s.dom.childrenOf Dom.document, s.dom.isText c = false) ∧ (htmlOf s.dom).isSome = true := by
  have hl := (C06_inv_every_state h).2 heof
  exact ⟨hl.pat, no_text_of_kinds (docPattern_mem hl.pat), htmlOf_isSome hl.pat⟩

/-- **T1, completed parse** (`parseTokens` = `new`, the tokens, `end()`) -/
theorem C06_document_children {opts : Opts} {toks : List (TokToken × Nat)} {s : State}
    (h : parseTokens opts toks = .ok s) (heof : ∃ line, (TokToken.eof, line) ∈ toks) :
    docPattern 0 ((s.dom.childrenOf Dom.document).map (docKid s.dom)) = true ∧
      (∀ c ∈ s.dom.childrenOf Dom.document, s.dom.isText c = false) ∧ (htmlOf s.dom).isSome = true := by
  obtain ⟨s0, _, hl, hn⟩ := parseTokens_ok h
  have hl0 := hl heof
  have hk : kinds s.dom = kinds s0.dom := kinds_of_nodes hn
  have hp : docPattern 0 (kinds s.dom) = true := by rw [hk]; exact hl0.pat
  exact ⟨hp, no_text_of_kinds (docPattern_mem hp), htmlOf_isSome hp⟩

/-- a parse that is ended without an EOF token still has the prefix pattern -/
theorem C06_document_children_prefix {opts : Opts} {toks : List (TokToken × Nat)} {s : State}
    (h : parseTokens opts toks = .ok s) :
    docPrefix ((s.dom.childrenOf Dom.document).map (docKid s.dom)) = true ∧
      ∀ c ∈ s.dom.childrenOf Dom.document, s.dom.isText c = false := by
  obtain ⟨s0, hi, _, hn⟩ := parseTokens_ok h
  have hk : kinds s.dom = kinds s0.dom := kinds_of_nodes hn
  obtain ⟨a, _⟩ := hi.docPrefix
  have hp : docPrefix (kinds s.dom) = true := by rw [hk]; exact a
  refine ⟨hp, ?_⟩
  intro c hc
  have := hi.docPrefix.2 c (by rw [← childrenOf_of_nodes hn]; exact hc)
  unfold Dom.isText Dom.dataOf at this ⊢
  rw [hn]; exact this

/-- **T3 (first clause)**: no text node is a child of the document -/
theorem C06_no_text_under_document {opts : Opts} {toks : List (TokToken × Nat)} {s : State}
    (h : parseTokens opts toks = .ok s) : ∀ c ∈ s.dom.childrenOf Dom.document, s.dom.isText c = false :=
  (C06_document_children_prefix h).2

/-! ## T3 / T4: the arena invariant -/

theorem Inv3.base {s : State} (h : Inv3 s) : DomBase s.dom := by
  cases h with
  | a ha => exact ha.1.base
  | b hb => exact hb.1.base
  | late hl => exact hl.base

theorem parseTokens_base {opts : Opts} {toks : List (TokToken × Nat)} {s : State}
    (h : parseTokens opts toks = .ok s) : DomBase s.dom := by
  obtain ⟨s0, hi, _, hn⟩ := parseTokens_ok h
  exact hi.base.sameSk (SameSk.of_nodes hn)

/-- **T3 (third clause)**: no text node is empty — in every reachable state … -/
theorem C06_no_empty_text_every_state {opts : Opts} {toks : List (TokToken × Nat)} {s : State}
    (h : Reachable opts toks s) : ∀ x t, s.dom.dataOf x = some (.text t) → t ≠ [] :=
  (C06_inv_every_state h).1.base.textNe

/-- … and in the result of a completed parse -/
theorem C06_no_empty_text {opts : Opts} {toks : List (TokToken × Nat)} {s : State}
    (h : parseTokens opts toks = .ok s) : ∀ x t, s.dom.dataOf x = some (.text t) → t ≠ [] :=
  (parseTokens_base h).textNe

/-- **T4**: only elements and `Document`-kind nodes (the document, template contents) have children -/
theorem C06_only_containers_have_children {opts : Opts} {toks : List (TokToken × Nat)} {s : State}
    (h : parseTokens opts toks = .ok s) : ∀ x, s.dom.childrenOf x ≠ [] → s.dom.isContainer x = true :=
  (parseTokens_base h).cont

theorem C06_only_containers_have_children_every_state {opts : Opts} {toks : List (TokToken × Nat)} {s : State}
    (h : Reachable opts toks s) : ∀ x, s.dom.childrenOf x ≠ [] → s.dom.isContainer x = true :=
  (C06_inv_every_state h).1.base.cont

/-- **T4**: template contents are `Document`-kind nodes other than the document itself -/
theorem C06_template_contents_are_fragments {opts : Opts} {toks : List (TokToken × Nat)} {s : State}
    (h : parseTokens opts toks = .ok s) :
    ∀ x tc, s.dom.templateContentsOf x = some tc → tc ≠ Dom.document ∧ s.dom.dataOf tc = some .document :=
  (parseTokens_base h).tcOk

/-- the first two node clauses of `nodeClauses` (no empty text; children only below containers), in the
form in which `skeletonOk` tests them, for *every* node of the arena -/
theorem C06_node_clauses_partial {opts : Opts} {toks : List (TokToken × Nat)} {s : State}
    (h : parseTokens opts toks = .ok s) (x : Id) :
    (match s.dom.dataOf x with | some (.text t) => !t.isEmpty | _ => true) = true ∧
    ((s.dom.childrenOf x).isEmpty || s.dom.isContainer x) = true := by
  have hb := parseTokens_base h
  constructor
  · cases hd : s.dom.dataOf x with
    | none => rfl
    | some v =>
      cases v with
      | text t =>
        have := hb.textNe x t hd
        simp only [Bool.not_eq_true', List.isEmpty_eq_false_iff]
        exact this
      | _ => rfl
  · cases hc : s.dom.childrenOf x with
    | nil => rfl
    | cons a r =>
      have := hb.cont x (by rw [hc]; simp)
      simp [this]

/-- no `Document`-kind node is a child of any node (so template contents are reachable only as such) -/
theorem C06_no_document_child {opts : Opts} {toks : List (TokToken × Nat)} {s : State}
    (h : parseTokens opts toks = .ok s) : ∀ p c, c ∈ s.dom.childrenOf p → s.dom.dataOf c ≠ some .document :=
  (parseTokens_base h).kidNotDoc

/-- every node of the tree walk is the root of the walk, template contents, or a child of some node -/
theorem treeNodes_origin (d : Dom) : ∀ (fuel : Nat) (tc : Bool) (x : Id) (p : Id × Bool),
    p ∈ treeNodes d fuel tc x → p = (x, tc) ∨ p.2 = true ∨ ∃ q, p.1 ∈ d.childrenOf q
  | 0, _, _, p, h => by simp [treeNodes] at h
  | fuel + 1, tc, x, p, h => by
    simp only [treeNodes, List.mem_cons, List.mem_append, List.mem_flatMap] at h
    rcases h with h | h | ⟨c, hc, h⟩
    · exact Or.inl h
    · cases htc : d.templateContentsOf x with
      | none => simp [htc] at h
      | some t =>
        simp only [htc] at h
        rcases treeNodes_origin d fuel true t p h with h' | h' | h'
        · exact Or.inr (Or.inl (by rw [h']))
        · exact Or.inr (Or.inl h')
        · exact Or.inr (Or.inr h')
    · rcases treeNodes_origin d fuel false c p h with h' | h' | h'
      · exact Or.inr (Or.inr ⟨x, by rw [h']; exact hc⟩)
      · exact Or.inr (Or.inl h')
      · exact Or.inr (Or.inr h')

/-- **T3 + T4 in the exact form of `nodeClauses`**: for every node of the document tree (children and
template contents), the first two clauses of `nodeClauses` — no empty text; only elements, the
document and template contents have children — hold; hence `nodeClauses` holds as soon as the third
one ("no two adjacent text siblings", `C06_no_adjacent_text_run_partial`) does -/
theorem C06_nodeClauses_of_noAdj {opts : Opts} {toks : List (TokToken × Nat)} {s : State}
    (h : parseTokens opts toks = .ok s) (p : Id × Bool)
    (hp : p ∈ treeNodes s.dom (s.dom.size + 1) false Dom.document)
    (hadj : noAdj s.dom.isText (s.dom.childrenOf p.1) = true) : nodeClauses s.dom p.1 p.2 = true := by
  have hb := parseTokens_base h
  unfold nodeClauses
  simp only [Bool.and_eq_true]
  refine ⟨⟨?_, ?_⟩, hadj⟩
  · cases hd : s.dom.dataOf p.1 with
    | none => rfl
    | some v =>
      cases v with
      | text t =>
        have := hb.textNe p.1 t hd
        simp only [Bool.not_eq_true', List.isEmpty_eq_false_iff]
        exact this
      | _ => rfl
  · cases hc : s.dom.childrenOf p.1 with
    | nil => rfl
    | cons a r =>
      have hcont := hb.cont p.1 (by rw [hc]; simp)
      unfold Dom.isContainer at hcont
      cases hd : s.dom.dataOf p.1 with
      | none => simp [hd] at hcont
      | some v =>
        cases v with
        | element n a tc ip => simp
        | document =>
          simp only [List.isEmpty_cons, Bool.false_or, Bool.or_eq_true, beq_iff_eq]
          rcases treeNodes_origin _ _ _ _ p hp with h' | h' | ⟨q, hq⟩
          · exact Or.inl (by rw [h'])
          · exact Or.inr h'
          · exact absurd hd (hb.kidNotDoc q p.1 hq)
        | _ => simp [hd] at hcont

/-! ## non-vacuity -/

/-- the hypotheses are satisfiable: these runs return normally and contain EOF -/
example : okRun (parseTokens {} [sTag "b", txt "x", sTag "table", txt "y", eTag "b", (.eof, 1)]) = true := by
  decide +kernel

/-- … and the statement is not trivially true: a document without `html` fails the pattern -/
example : docPattern 0 [.comment, .doctype, .comment] = false := by decide
example : docPattern 0 [.comment, .doctype, .html, .comment] = true := by decide
example : docPrefix [.comment, .doctype, .comment] = true := by decide
example : docPrefix [.doctype, .doctype] = false := by decide
example : docPrefix [.html, .html] = false := by decide
example : docPrefix [.comment, .other] = false := by decide

/-- the theorems apply to the run of the known finding (`<b><frameset></frameset></html>␠`): its
document children are fine, although `Skeleton` fails on the children of `html` -/
example : docPattern 0 (((domOf (parseTokens {} witnessTokens)).childrenOf Dom.document).map
    (docKid (domOf (parseTokens {} witnessTokens)))) = true := by
  cases h : parseTokens {} witnessTokens with
  | error e =>
    have : okRun (parseTokens {} witnessTokens) = true := C06_witness_frameset_reconstruct.1
    rw [h] at this; cases this
  | ok s => exact (C06_document_children h ⟨1, by simp [witnessTokens]⟩).1

/-- a concrete instance checked by evaluation, agreeing with the theorem: doctype, comments around `html` -/
example : (match parseTokens {} [(.comment "a".toList, 1), (.doctype { name := some "html".toList }, 1),
      (.comment "b".toList, 1), sTag "html", eTag "html", (.comment "c".toList, 1), (.eof, 1)] with
    | .ok s => (s.dom.childrenOf Dom.document).map (docKid s.dom) == [.comment, .doctype, .comment, .html, .comment]
    | .error _ => false) = true := by
  decide +kernel

end H5V.Props.C06
