import H5V.Spec.HtmlTokenizer
/-!
# C01 — HTML tokenization equals the WHATWG tokenization algorithm

**What is proved here and what is not.** The theorems of this file are about the *specification*
`H5V.Spec.HtmlTokenizer` (the transcription of HTML Standard §13.2.5) itself: it is total within the
fuel `tokenize` gives it for every input, start state and tree-construction feedback
(`C01_spec_total`, from the per-step measure `C01_spec_step_measure`), it delivers exactly one
end-of-file token, last (`C01_spec_single_eof`), newline normalisation is idempotent and leaves no CR,
attribute de-duplication yields distinct names and keeps the first attribute of each name.

**The equality "the model `H5V.Model.HtmlTok` = this specification for all inputs" is not proved in
this file** (it is `C01_model_eq_spec` of `Props/C01Sim.lean`). For the *real code* the equality is
decided, on every run of `./check C01`, by differential testing (harness engine `tok`) against this
executable specification (driver engine `tokspec`) on the exhaustive start-state × character-class ×
suffix cover, the look-ahead and boundary families and seeded tag soup (`tools/props/C01.py`); a
disagreement is reported as a concrete violation (an input on which the real tokenizer differs from
the WHATWG algorithm).
-/
namespace H5V.Props.C01
open H5V.Spec.HtmlTokenizer
open H5V.Model.HtmlTok (Token Tag Attr Doctype TagKind Str)

/-! ## newline normalisation -/

theorem normalizeNewlinesFrom_no_cr (b : Bool) (s : Str) : '\r' ∉ normalizeNewlinesFrom b s := by
  induction s generalizing b with
  | nil => simp [normalizeNewlinesFrom]
  | cons c rest ih =>
    unfold normalizeNewlinesFrom
    split
    · simp [ih]
    · split
      · exact ih _
      · rename_i h _
        simp only [List.mem_cons, not_or]
        exact ⟨fun h' => h h'.symm, ih _⟩

/-- the normalised input contains no CR -/
theorem C01_normalizeNewlines_no_cr (s : Str) : '\r' ∉ normalizeNewlines s :=
  normalizeNewlinesFrom_no_cr false s

theorem normalizeNewlinesFrom_false_of_no_cr (s : Str) (h : '\r' ∉ s) :
    normalizeNewlinesFrom false s = s := by
  induction s with
  | nil => simp [normalizeNewlinesFrom]
  | cons c rest ih =>
    simp only [List.mem_cons, not_or] at h
    unfold normalizeNewlinesFrom
    have hc : c ≠ '\r' := fun e => h.1 e.symm
    simp [hc, ih h.2]

/-- an input without CR is left unchanged -/
theorem C01_normalizeNewlines_id_of_no_cr (s : Str) (h : '\r' ∉ s) : normalizeNewlines s = s :=
  normalizeNewlinesFrom_false_of_no_cr s h

/-- newline normalisation is idempotent -/
theorem C01_normalizeNewlines_idempotent (s : Str) :
    normalizeNewlines (normalizeNewlines s) = normalizeNewlines s :=
  C01_normalizeNewlines_id_of_no_cr _ (C01_normalizeNewlines_no_cr s)

theorem normalizeNewlinesFrom_length_le (b : Bool) (s : Str) :
    (normalizeNewlinesFrom b s).length ≤ s.length := by
  induction s generalizing b with
  | nil => simp [normalizeNewlinesFrom]
  | cons c rest ih =>
    unfold normalizeNewlinesFrom
    split
    · simp [ih]
    · split
      · exact Nat.le_succ_of_le (ih _)
      · simp [ih]

/-- normalisation never lengthens the input -/
theorem C01_normalizeNewlines_length_le (s : Str) : (normalizeNewlines s).length ≤ s.length :=
  normalizeNewlinesFrom_length_le false s

example : normalizeNewlines "a\r\nb\rc\n\r\r\n".toList = "a\nb\nc\n\n\n".toList := by decide

/-! ## attribute de-duplication -/

/-- the fold step of `dedupAttrs` -/
def dedupStep (kept : List Attr) (a : Attr) : List Attr :=
  if kept.any (fun b => b.name == a.name) then kept else kept ++ [a]

theorem dedupAttrs_eq (attrs : List Attr) : dedupAttrs attrs = attrs.foldl dedupStep [] := rfl

theorem any_name_iff (kept : List Attr) (a : Attr) :
    kept.any (fun b => b.name == a.name) = true ↔ a.name ∈ kept.map (·.name) := by
  simp only [List.any_eq_true, beq_iff_eq, List.mem_map]

theorem dedupStep_cases (kept : List Attr) (a : Attr) :
    (a.name ∈ kept.map (·.name) ∧ dedupStep kept a = kept)
    ∨ (a.name ∉ kept.map (·.name) ∧ dedupStep kept a = kept ++ [a]) := by
  unfold dedupStep
  split
  · rename_i h; rw [any_name_iff] at h; exact .inl ⟨h, rfl⟩
  · rename_i h; rw [any_name_iff] at h; exact .inr ⟨h, rfl⟩

theorem foldl_dedup_nodup (attrs kept : List Attr) (h : (kept.map (·.name)).Nodup) :
    ((attrs.foldl dedupStep kept).map (·.name)).Nodup := by
  induction attrs generalizing kept with
  | nil => simpa
  | cons a rest ih =>
    simp only [List.foldl_cons]
    apply ih
    rcases dedupStep_cases kept a with ⟨_, e⟩ | ⟨hn, e⟩ <;> rw [e]
    · exact h
    · simp only [List.map_append, List.map_cons, List.map_nil]
      rw [List.nodup_append]
      refine ⟨h, by simp, ?_⟩
      intro x hx y hy
      simp at hy
      subst hy
      intro e; subst e; exact hn hx

/-- the attribute names of a de-duplicated list are pairwise distinct -/
theorem C01_dedupAttrs_nodup (attrs : List Attr) : ((dedupAttrs attrs).map (·.name)).Nodup := by
  rw [dedupAttrs_eq]; exact foldl_dedup_nodup attrs [] (by simp)

theorem foldl_dedup_sublist (attrs kept : List Attr) :
    (attrs.foldl dedupStep kept).Sublist (kept ++ attrs) := by
  induction attrs generalizing kept with
  | nil => simp
  | cons a rest ih =>
    simp only [List.foldl_cons]
    rcases dedupStep_cases kept a with ⟨_, e⟩ | ⟨_, e⟩ <;> rw [e]
    · refine (ih kept).trans ?_
      exact List.Sublist.append_left (List.sublist_cons_self a rest) kept
    · have := ih (kept ++ [a])
      simpa using this

/-- de-duplication only removes attributes: source order is kept -/
theorem C01_dedupAttrs_sublist (attrs : List Attr) : (dedupAttrs attrs).Sublist attrs := by
  rw [dedupAttrs_eq]; simpa using foldl_dedup_sublist attrs []

theorem foldl_dedup_prefix (attrs kept : List Attr) :
    ∃ more, attrs.foldl dedupStep kept = kept ++ more := by
  induction attrs generalizing kept with
  | nil => exact ⟨[], by simp⟩
  | cons a rest ih =>
    simp only [List.foldl_cons]
    rcases dedupStep_cases kept a with ⟨_, e⟩ | ⟨_, e⟩ <;> rw [e]
    · exact ih kept
    · obtain ⟨m, hm⟩ := ih (kept ++ [a])
      exact ⟨a :: m, by rw [hm]; simp⟩

/-- the first attribute wins: an attribute whose name does not occur before it is kept -/
theorem C01_dedupAttrs_first_wins (pre : List Attr) (a : Attr) (post : List Attr)
    (h : a.name ∉ pre.map (·.name)) : a ∈ dedupAttrs (pre ++ a :: post) := by
  rw [dedupAttrs_eq, List.foldl_append, List.foldl_cons]
  have hsub := foldl_dedup_sublist pre []
  have hnot : a.name ∉ (pre.foldl dedupStep []).map (·.name) := by
    intro hm
    apply h
    simp only [List.nil_append] at hsub
    exact (hsub.map (·.name)).subset hm
  have hstep : dedupStep (pre.foldl dedupStep []) a = pre.foldl dedupStep [] ++ [a] := by
    rcases dedupStep_cases (pre.foldl dedupStep []) a with ⟨hin, _⟩ | ⟨_, e⟩
    · exact absurd hin hnot
    · exact e
  rw [hstep]
  obtain ⟨m, hm⟩ := foldl_dedup_prefix post (pre.foldl dedupStep [] ++ [a])
  rw [hm]; simp

/-- every tag token the specification emits has pairwise distinct attribute names -/
theorem C01_currentTag_names_nodup (t : Tok) : (t.currentTag.attrs.map (·.name)).Nodup := by
  unfold Tok.currentTag; exact C01_dedupAttrs_nodup _

example : dedupAttrs [⟨['b'], ['x']⟩, ⟨['c'], []⟩, ⟨['b'], ['y']⟩] = [⟨['b'], ['x']⟩, ⟨['c'], []⟩] := by
  decide

/-! ## exactly one end-of-file token, last -/

theorem toToken_ne_eof (e : Emit) : e.toToken ≠ Token.eof := by cases e <;> simp [Emit.toToken]

/-- whatever the input, start state and feedback: the token list ends with the end-of-file token
and contains no other one -/
theorem C01_spec_single_eof (tree : Tree) (s : St) (last : Option Str) (inp : Str) (toks : List Token)
    (h : tokenize tree s last inp = some toks) :
    toks.count Token.eof = 1 ∧ toks.getLast? = some Token.eof := by
  unfold tokenize at h
  cases hr : run tree (fuelFor inp) (Tok.initial s last) inp with
  | none => simp [hr] at h
  | some es =>
    simp only [hr, Option.map_some, Option.some.injEq] at h
    subst h
    refine ⟨?_, by simp⟩
    rw [List.count_append]
    have : (es.map Emit.toToken).count Token.eof = 0 := by
      rw [List.count_eq_zero]
      intro hm
      obtain ⟨e, _, he⟩ := List.mem_map.1 hm
      exact toToken_ne_eof e he
    simp [this]

/-! ## totality: the fuel `tokenize` provides always suffices

Every step either consumes at least one input character, or leaves the input alone and moves to a
state of strictly smaller `rank` (for the character being looked at): the chains of "reconsume in …"
are finite. `rank` is 0 for the states that always consume (or stop at EOF). -/

open H5V.Spec.HtmlTokenizer.Tok

def rank (s : St) (c : Option Char) : Nat :=
  match s with
  | .afterAttributeName =>
    match c with
    | none => 0
    | some c => if c = '\t' ∨ c = '\n' ∨ c = '\x0c' ∨ c = ' ' ∨ c = '/' ∨ c = '=' ∨ c = '>' then 0 else 2
  | .attributeName | .beforeAttributeValue | .tagOpen | .endTagOpen => 1
  | .beforeAttributeName => 3
  | .afterAttributeValueQuoted | .selfClosingStartTag => 4
  | .rcdataLessThanSign | .rcdataEndTagName | .rawtextLessThanSign | .rawtextEndTagName
  | .scriptDataLessThanSign | .scriptDataEndTagName | .scriptDataEscapedEndTagName => 1
  | .rcdataEndTagOpen | .rawtextEndTagOpen | .scriptDataEndTagOpen | .scriptDataEscapedEndTagOpen => 2
  | .scriptDataEscapeStart | .scriptDataEscapeStartDash | .scriptDataDoubleEscapeStart
  | .scriptDataDoubleEscapedLessThanSign | .scriptDataDoubleEscapeEnd => 1
  | .scriptDataEscapedLessThanSign => 2
  | .markupDeclarationOpen => 1
  | .commentStart | .commentStartDash | .commentLessThanSign | .commentLessThanSignBang
  | .commentEndDash | .commentEnd | .commentEndBang => 1
  | .commentLessThanSignBangDash | .commentLessThanSignBangDashDash => 2
  | .doctype | .afterDoctypeName | .afterDoctypePublicKeyword | .beforeDoctypePublicIdentifier
  | .afterDoctypePublicIdentifier | .betweenDoctypePublicAndSystemIdentifiers
  | .afterDoctypeSystemKeyword | .beforeDoctypeSystemIdentifier | .afterDoctypeSystemIdentifier => 1
  | .cdataSectionBracket | .cdataSectionEnd => 1
  | .numericCharacterReferenceEnd | .ambiguousAmpersand => 1
  | .hexadecimalCharacterReference | .decimalCharacterReference | .namedCharacterReference => 2
  | .hexadecimalCharacterReferenceStart | .decimalCharacterReferenceStart | .characterReference => 3
  | .numericCharacterReference => 4
  | _ => 0

def Good (s : St) (c : Option Char) (nonempty : Prop) (r : Res) : Prop :=
  match r.2 with
  | .stop => True
  | .advance n => (n = 0 ∧ rank r.1.state c < rank s c) ∨ (1 ≤ n ∧ nonempty)

theorem rank_toSt (r : ReturnSt) (c : Option Char) : rank r.toSt c = 0 := by cases r <;> rfl

set_option linter.unusedSimpArgs false
macro "good_tac" : tactic =>
  `(tactic| ((repeat' split) <;>
      (try simp_all [Good, switchTo, Tok.done, emitEOF, reconsumeIn, rank_toSt, setState]) <;>
      (try simp_all [rank])))

theorem good_markupDeclarationOpen (tree : Tree) (t : Tok) (inp : Str) :
    Good .markupDeclarationOpen inp.head? (inp ≠ []) (markupDeclarationOpenState tree t inp) := by
  unfold markupDeclarationOpenState
  split
  · rename_i h
    have : inp ≠ [] := by intro e; subst e; simp [nextAre] at h
    simp [Good, this]
  · split
    · rename_i h
      have : inp ≠ [] := by intro e; subst e; simp [nextAreCaseInsensitive] at h
      simp [Good, this]
    · split
      · rename_i h
        have : inp ≠ [] := by intro e; subst e; simp [nextAre] at h
        split <;> simp [Good, this]
      · simp [Good, setState, rank]

theorem good_afterDoctypeName (t : Tok) (inp : Str) :
    Good .afterDoctypeName inp.head? (inp ≠ []) (afterDoctypeNameState t inp) := by
  unfold afterDoctypeNameState
  cases inp with
  | nil => simp [Good, emitEOF]
  | cons c rest =>
    simp only [List.head?_cons]
    good_tac

theorem longestNamedReference_ne_nil {inp : Str} {r} (h : longestNamedReference inp = some r) : inp ≠ [] := by
  intro e; subst e; simp [longestNamedReference] at h

theorem good_return {s : St} {c : Option Char} (hs : 0 < rank s c) (t1 : Tok) (r : ReturnSt) (n : Nat)
    (P : Prop) (h : n = 0 ∨ (1 ≤ n ∧ P)) : Good s c P (t1.setState r.toSt, .advance n) := by
  unfold Good
  simp only [setState, rank_toSt]
  rcases h with h | h
  · exact .inl ⟨h, hs⟩
  · exact .inr h

theorem good_namedCharacterReference (t : Tok) (inp : Str) :
    Good .namedCharacterReference inp.head? (inp ≠ []) (namedCharacterReferenceState t inp) := by
  unfold namedCharacterReferenceState
  split
  · rename_i name cp1 cp2 h
    have hne := longestNamedReference_ne_nil h
    have hn : name.length = 0 ∨ (1 ≤ name.length ∧ inp ≠ []) := by
      by_cases h0 : name.length = 0
      · exact .inl h0
      · exact .inr ⟨Nat.one_le_iff_ne_zero.2 h0, hne⟩
    simp only []
    split
    · exact good_return (by simp [rank]) _ _ _ _ hn
    · exact good_return (by simp [rank]) _ _ _ _ hn
  · simp [Good, setState, rank]

theorem good_numericCharacterReferenceEnd (t : Tok) (c : Option Char) (P : Prop) :
    Good .numericCharacterReferenceEnd c P (numericCharacterReferenceEndState t) := by
  unfold numericCharacterReferenceEndState
  exact good_return (by simp [rank]) _ _ _ _ (.inl rfl)

theorem head?_ne_none {inp : Str} (h : inp.head? ≠ none) : inp ≠ [] := by
  intro e; subst e; simp at h

theorem Good.mono {s c} {P Q : Prop} {r : Res} (h : Good s c P r) (hpq : P → Q) : Good s c Q r := by
  unfold Good at *
  split <;> simp_all
  rcases h with h | h
  · exact .inl h
  · exact .inr ⟨h.1, hpq h.2⟩

theorem good_step (tree : Tree) (t : Tok) (inp : Str) :
    Good t.state inp.head? (inp ≠ []) (step tree t inp) := by
  unfold step
  cases t.state
  case markupDeclarationOpen => exact good_markupDeclarationOpen ..
  case afterDoctypeName => exact good_afterDoctypeName ..
  case namedCharacterReference => exact good_namedCharacterReference ..
  case numericCharacterReferenceEnd => exact good_numericCharacterReferenceEnd ..
  -- the states that look at one character: unfold the state's function and split its tests
  all_goals
    refine Good.mono (P := inp.head? ≠ none) ?_ head?_ne_none
    generalize inp.head? = c
    simp only [dataState, rcdataState, rawtextState, scriptDataState, plaintextState, tagOpenState, endTagOpenState,
    rcdataLessThanSignState, rcdataEndTagOpenState, rawtextLessThanSignState, rawtextEndTagOpenState,
    scriptDataLessThanSignState, scriptDataEndTagOpenState, scriptDataEscapeStartState,
    scriptDataEscapeStartDashState, scriptDataEscapedState, scriptDataEscapedDashState,
    scriptDataEscapedDashDashState, scriptDataEscapedLessThanSignState, scriptDataEscapedEndTagOpenState,
    scriptDataDoubleEscapeStartState, scriptDataDoubleEscapedState, scriptDataDoubleEscapedDashState,
    scriptDataDoubleEscapedDashDashState, scriptDataDoubleEscapedLessThanSignState,
    scriptDataDoubleEscapeEndState, beforeAttributeNameState, attributeNameState,
    attributeValueDoubleQuotedState, attributeValueSingleQuotedState, bogusCommentState, commentStartState,
    commentStartDashState, commentState, commentLessThanSignState, commentLessThanSignBangState,
    commentLessThanSignBangDashState, commentLessThanSignBangDashDashState, commentEndDashState,
    commentEndState, commentEndBangState, doctypeState, beforeDoctypeNameState, doctypeNameState,
    afterDoctypePublicKeywordState, beforeDoctypePublicIdentifierState,
    doctypePublicIdentifierDoubleQuotedState, doctypePublicIdentifierSingleQuotedState,
    afterDoctypePublicIdentifierState, betweenDoctypePublicAndSystemIdentifiersState,
    afterDoctypeSystemKeywordState, beforeDoctypeSystemIdentifierState,
    doctypeSystemIdentifierDoubleQuotedState, doctypeSystemIdentifierSingleQuotedState,
    afterDoctypeSystemIdentifierState, bogusDoctypeState, cdataSectionState, cdataSectionBracketState,
    cdataSectionEndState, characterReferenceState, ambiguousAmpersandState, numericCharacterReferenceState,
    hexadecimalCharacterReferenceStartState, decimalCharacterReferenceStartState,
    hexadecimalCharacterReferenceState, decimalCharacterReferenceState, tagNameState,
    afterAttributeNameState, beforeAttributeValueState, attributeValueUnquotedState,
    afterAttributeValueQuotedState, selfClosingStartTagState, rcdataEndTagNameState,
    genericEndTagNameState, rawtextEndTagNameState, scriptDataEndTagNameState,
    scriptDataEscapedEndTagNameState]
    good_tac

/-- **the per-step measure.** A step that does not stop either reconsumes (`n = 0`) into a state of
strictly smaller rank for the same next character, or consumes `n ≥ 1` characters of a non-empty
input. -/
theorem C01_spec_step_measure (tree : Tree) (t t' : Tok) (inp : Str) (n : Nat)
    (h : step tree t inp = (t', .advance n)) :
    (n = 0 ∧ rank t'.state inp.head? < rank t.state inp.head?) ∨ (1 ≤ n ∧ inp ≠ []) := by
  have := good_step tree t inp
  simpa [Good, h] using this

theorem rank_lt (s : St) (c : Option Char) : rank s c < stepsPerChar := by
  unfold rank stepsPerChar
  cases s <;> simp only [] <;> (try split) <;> (try split) <;> omega

/-- the measure that every step decreases -/
def measure (t : Tok) (inp : Str) : Nat := stepsPerChar * inp.length + rank t.state inp.head?

theorem step_measure_lt (tree : Tree) (t t' : Tok) (inp : Str) (n : Nat)
    (h : step tree t inp = (t', .advance n)) : measure t' (inp.drop n) < measure t inp := by
  rcases C01_spec_step_measure tree t t' inp n h with ⟨rfl, hr⟩ | ⟨hn, hne⟩
  · simpa [measure] using hr
  · unfold measure
    have h1 : (inp.drop n).length + 1 ≤ inp.length := by
      have : 0 < inp.length := List.length_pos_iff.2 hne
      rw [List.length_drop]; omega
    have h2 := rank_lt t'.state (inp.drop n).head?
    have h3 : stepsPerChar * ((inp.drop n).length + 1) ≤ stepsPerChar * inp.length :=
      Nat.mul_le_mul_left _ h1
    rw [Nat.mul_add, Nat.mul_one] at h3
    omega

/-- with more fuel than the measure the run ends with the end-of-file token -/
theorem C01_spec_run_steps (tree : Tree) (fuel : Nat) (t : Tok) (inp : Str)
    (h : measure t inp < fuel) : (run tree fuel t inp).isSome := by
  induction fuel generalizing t inp with
  | zero => omega
  | succ fuel ih =>
    unfold run
    split
    · simp
    · rename_i t' n hs
      apply ih
      have := step_measure_lt tree t t' inp n hs
      omega

/-- **totality.** For every feedback, start state, last start tag name and input the specification
delivers a token list: at most `stepsPerChar · (|input| + 1) + 1` steps are needed. -/
theorem C01_spec_total (tree : Tree) (s : St) (last : Option Str) (inp : Str) :
    (tokenize tree s last inp).isSome := by
  unfold tokenize
  rw [Option.isSome_map]
  apply C01_spec_run_steps
  unfold measure fuelFor
  have := rank_lt (Tok.initial s last).state inp.head?
  rw [Nat.mul_add, Nat.mul_one]
  omega

/-- non-vacuity: a run through tags, attributes, a character reference, a comment and a DOCTYPE -/
example :
    tokenize ⟨fun _ _ => .none, fun _ => false⟩ .data none "<!DOCTYPE html><a b=&amp; B=c>x</a><!--y-->".toList
      = some [.doctype { name := some "html".toList },
              .tag { kind := .startTag, name := ['a'], selfClosing := false,
                     attrs := [⟨['b'], ['&']⟩], hadDup := true },
              .chars ['x'],
              .tag { kind := .endTag, name := ['a'], selfClosing := false, attrs := [], hadDup := false },
              .comment ['y'], .eof] := by
  decide

end H5V.Props.C01
