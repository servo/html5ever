import H5V.Lemmas.XmlTokCleanNoRef
import H5V.Props.C04XmlTerm
/-!
C15 — **no raw CR / NUL reaches the sink** (XML tokenizer model, all states, fast path and slow path,
both values of `exact_errors`, every chunking, `feed` and `end`).

What is true, precisely.  A character *read from the input* reaches a token only through
`get_preprocessed_char` (CR → LF with the LF of a CRLF dropped, NUL → U+FFFD; `C15_preprocessed`)
or through a raw `NotFromSet` run of `pop_except_from`, whose set contains CR and NUL
(`C15_fast_path_clean`).  The only other source of token characters is the result of a *character
reference*, handed to `process_char_ref`: `&#13;` legitimately yields U+000D (the numeric-reference
rules report it as an error and keep it), `&#0;` yields U+FFFD, and no reference yields U+0000
(`C15_ref_no_nul`).  `process_char_ref` delivers into a character token (in `Data`/`Cdata`) or the
attribute value being built — nowhere else.  Hence:

* `C15_no_raw_cr_nul` — **for every input**: no token of the whole parse other than a parse-error
  token contains U+0000, and none contains U+000D outside character tokens and attribute values (tag names, attribute names,
  comments, PI targets and data, doctype names and identifiers are CR-free);
* `C15_clean_no_refs` — **for every input without `&`**: no token other than a parse-error token
  contains U+000D or U+0000 at all;
* `C15_step_provenance` — step level, any input: from a completely clean machine every step leads
  to a completely clean machine, *except* a step in which a character reference completes, and that
  step is `process_char_ref m₁ chars` on a completely clean `m₁` — so a CR in a token is always a
  member of some `chars` delivered by the character-reference sub-tokenizer;
* `C15_step_clean`, `C15_run_clean`, `C15_feed_clean`, `C15_finish_clean`, `C15_session_clean`
  — the invariant `NInv` through `step`, `run`, `feed`, `end`, and a chunked session
  (the tokens delivered so far are clean after every feed, not only at the end).

Parse-error tokens are diagnostics, not document content, and are not constrained (the
`exact_errors` message `Saw {c} in state …` shows `current_char`, which is U+0000 before the first
character has been read).  `temp_buf` holds raw look-ahead that goes back to the input, never to a
token, and is not constrained either.
-/
namespace H5V.Props.C15
open H5V.Model.XmlTok H5V.Props.C04X

/-! ### the observation, spelled out independently of the invariant's definition -/

def qnameChars (q : QName) : Str := q.pfx.getD [] ++ q.loc

/-- the characters of a token outside attribute values and character data: tag name, attribute
names, comment, PI target and data, doctype name and identifiers -/
def markupChars : Token → Str
  | .doctype d => d.name.getD [] ++ d.publicId.getD [] ++ d.systemId.getD []
  | .tag t => qnameChars t.name ++ (t.attrs.map (fun a => qnameChars a.name)).flatten
  | .pi t d => t ++ d
  | .comment s => s
  | .chars _ => []
  | .eof => []
  | .error _ => []

/-- the characters of a token in the two places a character reference delivers into -/
def textChars : Token → Str
  | .tag t => (t.attrs.map (fun a => a.value)).flatten
  | .chars s => s
  | _ => []

theorem OptS_getD {o : Option Str} (h : OptS o) : AllS QC (o.getD []) := by
  cases o with
  | none => exact AllS_nil _
  | some s => exact h s rfl

theorem qnameChars_clean {q : QName} (h : q.Clean) : AllS QC (qnameChars q) :=
  AllS_append (OptS_getD h.1) h.2

theorem AllS_flatten_map {α : Type} {P : Char → Prop} (l : List α) (f : α → Str) (h : ∀ a ∈ l, AllS P (f a)) :
    AllS P (l.map f).flatten := by
  intro c hc
  simp only [List.mem_flatten, List.mem_map] at hc
  obtain ⟨s, ⟨a, ha, rfl⟩, hcs⟩ := hc
  exact h a ha c hcs

/-- what `Token.Clean P` says in terms of the two observations -/
theorem tokenClean_chars {P : Char → Prop} {t : Token} (h : t.Clean P) :
    AllS QC (markupChars t) ∧ AllS P (textChars t) := by
  cases t with
  | doctype d => exact ⟨AllS_append (AllS_append (OptS_getD h.1) (OptS_getD h.2.1)) (OptS_getD h.2.2), AllS_nil _⟩
  | tag t =>
    exact ⟨AllS_append (qnameChars_clean h.1) (AllS_flatten_map _ _ fun a ha => qnameChars_clean (h.2 a ha).1),
      AllS_flatten_map _ _ fun a ha => (h.2 a ha).2⟩
  | pi a b => exact ⟨AllS_append h.1 h.2, AllS_nil _⟩
  | comment s => exact ⟨h, AllS_nil _⟩
  | chars s => exact ⟨AllS_nil _, h⟩
  | eof => exact ⟨AllS_nil _, AllS_nil _⟩
  | error s => exact ⟨AllS_nil _, AllS_nil _⟩

/-- what holds for all inputs: no NUL in markup or text, no CR in markup (a parse-error token has
neither markup nor text characters here: its message is not constrained) -/
def TokOK (t : Token) : Prop :=
  '\x00' ∉ markupChars t ∧ '\x00' ∉ textChars t ∧ '\r' ∉ markupChars t

/-- completely clean: neither CR nor NUL in markup or text -/
def TokClean (t : Token) : Prop :=
  '\x00' ∉ markupChars t ∧ '\x00' ∉ textChars t ∧ '\r' ∉ markupChars t ∧ '\r' ∉ textChars t

theorem tokOK_of_clean {t : Token} (h : t.Clean NN) : TokOK t := by
  obtain ⟨h1, h2⟩ := tokenClean_chars h
  exact ⟨fun hm => (h1 _ hm).2 rfl, fun hm => h2 _ hm rfl, fun hm => (h1 _ hm).1 rfl⟩

theorem tokClean_of_clean {t : Token} (h : t.Clean QC) : TokClean t := by
  obtain ⟨h1, h2⟩ := tokenClean_chars h
  exact ⟨fun hm => (h1 _ hm).2 rfl, fun hm => (h2 _ hm).2 rfl, fun hm => (h1 _ hm).1 rfl,
    fun hm => (h2 _ hm).1 rfl⟩

/-! ### the two sources of input characters -/

/-- **`get_preprocessed_char`** never delivers CR or NUL: it delivers LF for CR, U+FFFD for NUL and
the character itself otherwise — in every state, with or without `exact_errors` -/
theorem C15_preprocessed (o : Opts) (m : Mach) (c : Char) :
    (foldChar o m c).1 = (if c = '\r' then '\n' else if c = '\x00' then '�' else c) ∧
    (foldChar o m c).1 ≠ '\r' ∧ (foldChar o m c).1 ≠ '\x00' :=
  ⟨foldChar_char o m c, (foldChar_QC o m c).1, (foldChar_QC o m c).2⟩

/-- **`get_char`** (fresh or reconsumed), from a machine satisfying the invariant -/
theorem C15_get_char_clean (o : Opts) {m : Mach} (h : NInv m) (inp : Str) (c : Char)
    (hc : (getChar o m inp).1 = some c) : c ≠ '\r' ∧ c ≠ '\x00' :=
  ((getChar_clean o h.1 inp).2.2 c hc).1

/-- **the fast path** (`pop_except_from`, any of the model's sets, which are the source's by
`xmlTokSets_match`): a `FromSet` character is preprocessed, a raw `NotFromSet` run contains
neither CR nor NUL -/
theorem C15_fast_path_clean (o : Opts) {m : Mach} (h : NInv m) (hk : readKind m.state = .popExcept) (inp : Str) :
    (∀ c, (popExceptFrom o (setOf m.state) m inp).1 = some (.fromSet c) → c ≠ '\r' ∧ c ≠ '\x00') ∧
    (∀ b, (popExceptFrom o (setOf m.state) m inp).1 = some (.notFromSet b) → '\r' ∉ b ∧ '\x00' ∉ b) := by
  obtain ⟨_, _, h3⟩ := popExceptFrom_clean o (setOf m.state) (setOf_has _ hk) h.1 inp
  exact ⟨fun c hc => h3 _ hc, fun b hb =>
    ⟨fun hm => ((h3 _ hb) _ hm).1 rfl, fun hm => ((h3 _ hb) _ hm).2 rfl⟩⟩

/-- **a character reference never delivers NUL** (it may deliver CR: `C15_ref_can_deliver_cr`) -/
theorem C15_ref_no_nul (o : Opts) {m : Mach} (h : NInv m) (inp : Str) (cr : CharRefSt)
    (hcr : m.charRef = some cr) (m1 : Mach) (i1 : Str) (cr1 : CharRefSt) (chars : Str)
    (hs : crStep o m inp cr = .ok (m1, i1, cr1, .done chars)) : '\x00' ∉ chars := by
  have := crStep_nn o m inp (h.2 cr hcr)
  rw [hs] at this
  exact fun hm => this.2 chars rfl _ hm rfl

/-! ### the invariant through `step`, `run`, `feed`, `end` -/

/-- every machine the driver starts from (any initial state, either `discard_bom`) -/
theorem C15_initial_clean (st : State) (bom : Bool) : NInv { state := st, discardBom := bom } :=
  ninv_initial st bom

/-- the tokens delivered so far by a machine satisfying the invariant -/
theorem C15_out_of_inv {m : Mach} (h : NInv m) : ∀ t ∈ m.out, TokOK t :=
  fun t ht => tokOK_of_clean (h.1.1.out t ht)

/-- **one `XmlTokenizer::step`**, every state, fast and slow path, both `exact_errors` values -/
theorem C15_step_clean (o : Opts) {m : Mach} (h : NInv m) (inp : Str) :
    (∀ m' i', step o m inp = .cont m' i' → NInv m') ∧ (∀ m' i', step o m inp = .suspend m' i' → NInv m') := by
  have := step_ninv o h inp
  constructor <;> intro m' i' hs <;> rw [hs] at this <;> exact this

theorem C15_run_clean (o : Opts) (fuel : Nat) {m : Mach} (h : NInv m) (inp : Str) (m' : Mach) (i' : Str)
    (hr : run o fuel m inp = .done m' i') : NInv m' := run_ninv o fuel h inp m' i' hr

theorem C15_feed_clean (o : Opts) {m : Mach} (h : NInv m) (inp chunk : Str) (m' : Mach) (i' : Str)
    (hf : feed o m inp chunk = .done m' i') : NInv m' := feed_ninv o h inp chunk m' i' hf

theorem C15_finish_clean (o : Opts) {m : Mach} (h : NInv m) (mf : Mach) (hf : finish o m = .ok mf) :
    ∀ t ∈ mf.out, TokOK t :=
  fun t ht => tokOK_of_clean ((finish_clean o h mf hf).out t ht)

/-- a chunked session: the invariant holds after every feed, so the tokens delivered *so far* are
clean at every point of the session -/
theorem C15_session_clean (o : Opts) (cs : List Str) {m : Mach} (h : NInv m) (inp : Str) (m' : Mach) (i' : Str)
    (hf : feedMany o m inp cs = .done m' i') : NInv m' := by
  induction cs generalizing m inp with
  | nil =>
    simp only [feedMany, RunRes.done.injEq] at hf
    rw [← hf.1]; exact h
  | cons c cs ih =>
    simp only [feedMany] at hf
    cases hfd : feed o m inp c with
    | done m1 i1 => rw [hfd] at hf; exact ih (feed_ninv o h inp c m1 i1 hfd) i1 hf
    | panic e => rw [hfd] at hf; cases hf
    | outOfFuel => rw [hfd] at hf; cases hf

/-- **C15, no raw CR / NUL reaches the sink — every input.**  A whole parse (any start state, any
`discard_bom`, either `exact_errors`, any list of chunks, then `end()`) runs to completion
(`C04_xml_parse_total`) and of the tokens it has delivered, parse-error tokens aside (their messages
are not constrained),
* none contains U+0000 — not in markup, not in text, not through a character reference;
* none contains U+000D outside character tokens and attribute values, the two places where a
  numeric character reference (`&#13;`, `&#xD;`) legitimately delivers one. -/
theorem C15_no_raw_cr_nul (o : Opts) (st : State) (bom : Bool) (cs : List Str) :
    ∃ m' mf, feedMany o { state := st, discardBom := bom } [] cs = .done m' [] ∧ finish o m' = .ok mf ∧
      (∀ t ∈ m'.out, TokOK t) ∧ ∀ t ∈ mf.out, TokOK t := by
  obtain ⟨m', mf, h1, h2, _⟩ := C04_xml_parse_total o st bom cs
  have hi := C15_session_clean o cs (C15_initial_clean st bom) [] m' [] h1
  exact ⟨m', mf, h1, h2, C15_out_of_inv hi, C15_finish_clean o hi mf h2⟩

/-! ### inputs without `&` -/

theorem session_finv (o : Opts) (cs : List Str) (hc : ∀ c ∈ cs, '&' ∉ c) {m : Mach} {inp : Str}
    (h : FInv m inp) (m' : Mach) (i' : Str) (hf : feedMany o m inp cs = .done m' i') : FInv m' i' := by
  induction cs generalizing m inp with
  | nil =>
    simp only [feedMany, RunRes.done.injEq] at hf
    rw [← hf.1, ← hf.2]; exact h
  | cons c cs ih =>
    simp only [feedMany] at hf
    cases hfd : feed o m inp c with
    | done m1 i1 =>
      rw [hfd] at hf
      exact ih (fun x hx => hc x (List.mem_cons_of_mem _ hx))
        (feed_finv o h c (hc c (List.mem_cons_self)) m1 i1 hfd) hf
    | panic e => rw [hfd] at hf; cases hf
    | outOfFuel => rw [hfd] at hf; cases hf

/-- **C15, no raw CR / NUL reaches the sink — inputs without `&`.**  If no chunk contains `&` (so
no character reference is ever started), no token of the whole parse other than a parse-error token
contains U+000D or U+0000 anywhere: every CR / CRLF of the input has become LF and every NUL has become U+FFFD, in markup and
in text, on the fast path and on the slow path. -/
theorem C15_clean_no_refs (o : Opts) (st : State) (bom : Bool) (cs : List Str) (hc : ∀ c ∈ cs, '&' ∉ c) :
    ∃ m' mf, feedMany o { state := st, discardBom := bom } [] cs = .done m' [] ∧ finish o m' = .ok mf ∧
      (∀ t ∈ m'.out, TokClean t) ∧ ∀ t ∈ mf.out, TokClean t := by
  obtain ⟨m', mf, h1, h2, _⟩ := C04_xml_parse_total o st bom cs
  have hi := session_finv o cs hc (finv_initial st bom) m' [] h1
  exact ⟨m', mf, h1, h2, fun t ht => tokClean_of_clean (hi.1.1.out t ht),
    fun t ht => tokClean_of_clean ((finish_clean_norefs o hi mf h2).out t ht)⟩

/-! ### provenance of a CR -/

/-- **provenance, step level, every input.**  From a completely clean machine (no CR, no NUL in any
buffer or token) every step of the tokenizer loop leads to a completely clean machine — unless a
character reference completes in this step, and then the step is exactly `process_char_ref m₁ chars`
on a completely clean machine `m₁`: the only way a CR enters a token is as a member of `chars`, the
result of the character-reference sub-tokenizer. -/
theorem C15_step_provenance (o : Opts) {m : Mach} (h : CInv QC m) (inp : Str) :
    RInv QC (step o m inp) ∨
    ∃ cr m1 i1 cr1 chars, m.charRef = some cr ∧ crStep o m inp cr = .ok (m1, i1, cr1, .done chars) ∧
      CInv QC m1 ∧
      step o m inp = ofSig ((processCharRef m1 chars).1.setCharRef none, (processCharRef m1 chars).2) i1 := by
  cases hcr : m.charRef with
  | none => exact Or.inl (step_RInv o h inp (fun cr hc => by rw [hcr] at hc; cases hc))
  | some cr =>
    cases hs : crStep o m inp cr with
    | error e =>
      refine Or.inl (step_RInv o h inp (fun cr' hc m1 i1 cr1 chars hs' => ?_))
      rw [hcr] at hc; cases hc
      rw [hs] at hs'; cases hs'
    | ok v =>
      obtain ⟨m1, i1, cr1, stt⟩ := v
      cases stt with
      | done chars =>
        refine Or.inr ⟨cr, m1, i1, cr1, chars, rfl, hs, ?_, ?_⟩
        · have := crStep_good o h inp cr
          rw [hs] at this; exact this
        · rw [step_kind_charRef o m inp cr hcr]
          unfold stepCharRef
          rw [hs]
      | stuck =>
        refine Or.inl (step_RInv o h inp (fun cr' hc m1' i1' cr1' chars hs' => ?_))
        rw [hcr] at hc; cases hc
        rw [hs] at hs'; cases hs'
      | progress =>
        refine Or.inl (step_RInv o h inp (fun cr' hc m1' i1' cr1' chars hs' => ?_))
        rw [hcr] at hc; cases hc
        rw [hs] at hs'; cases hs'

/-- … and `process_char_ref` puts `chars` into a character token or the attribute value, nothing
else: given admissible `chars` it preserves the invariant for any admissible predicate -/
theorem C15_process_char_ref {P : Char → Prop} [Allow P] {m : Mach} (h : CInv P m) {chars : Str}
    (hc : ∀ c ∈ chars, P c) : CInv P (processCharRef m chars).1 := processCharRef_cinv h hc

/-! ### non-vacuity -/

/-- the driver's session, then `end()`: the token log, oldest first -/
def parseOut (o : Opts) (cs : List Str) : List Token :=
  match feedMany o {} [] cs with
  | .done m _ => match finish o m with
    | .ok mf => mf.out.reverse
    | .error _ => []
  | _ => []

/-- CR, CRLF (split over two chunks) and NUL in text, in an attribute value, in a comment and in a
tag name: all normalised (fast path: `exact_errors = false`) -/
example : parseOut ⟨false⟩ ["a\rb\r".toList, "\nc\x00<x\x00 y='p\r\nq\x00'><!--\r\x00-->".toList] =
    [.chars ['a'], .chars ['\n'], .chars ['b'], .chars ['\n'], .chars ['c'], .chars ['�'],
     .tag { kind := .startTag, name := ⟨none, ['x', '�']⟩,
            attrs := [⟨⟨none, ['y']⟩, ['p', '\n', 'q', '�']⟩] },
     .comment ['\n', '�'], .eof] := by decide

/-- the exemption is necessary: `&#13;` delivers a CR into a character token (with a parse error),
`&#0;` delivers U+FFFD -/
theorem C15_ref_can_deliver_cr :
    parseOut ⟨false⟩ ["&#13;&#0;".toList] =
      [.error "Invalid numeric character reference".toList, .chars ['\r'],
       .error "Invalid numeric character reference".toList, .chars ['�'], .eof] := by decide

example : ∃ m' mf, feedMany ⟨true⟩ {} [] ["a\r".toList, "\n<b>".toList] = .done m' [] ∧
    finish ⟨true⟩ m' = .ok mf ∧ (∀ t ∈ m'.out, TokClean t) ∧ ∀ t ∈ mf.out, TokClean t :=
  C15_clean_no_refs ⟨true⟩ .data true _ (by decide)

example : ∃ m' mf, feedMany ⟨false⟩ {} [] ["&#13;<a b='&#xD;'>".toList] = .done m' [] ∧
    finish ⟨false⟩ m' = .ok mf ∧ (∀ t ∈ m'.out, TokOK t) ∧ ∀ t ∈ mf.out, TokOK t :=
  C15_no_raw_cr_nul ⟨false⟩ .data true _

/-- the hypothesis of `C15_step_provenance` and its second alternative are both inhabited: the step
that completes `&#13;` from a completely clean machine delivers `['\r']` to `process_char_ref` -/
def mRef13 : Mach :=
  { charRef := some { addnlAllowed := none, state := .numericSemicolon, num := 13, seenDigit := true } }

example : CInv QC mRef13 ∧
    (match crStep ⟨false⟩ mRef13 [';'] { addnlAllowed := none, state := .numericSemicolon, num := 13, seenDigit := true } with
     | .ok (_, _, _, .done cs) => cs == ['\r']
     | _ => false) = true :=
  ⟨⟨⟨AllS_nil _, (fun _ h => nomatch h), AllS_nil _, AllS_nil _, AllS_nil _, Doctype_clean_empty, AllS_nil _,
      AllS_nil _, (fun _ h => nomatch h)⟩, fun hr => by cases hr⟩, by decide⟩

end H5V.Props.C15
