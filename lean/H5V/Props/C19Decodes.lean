import H5V.Props.C19Fire
import H5V.Lemmas.MetaDecodes
/-!
C19 — the hypothesis `MetaDecodes` of `C19_in_head_meta_total`, `C19_fires_in_head`,
`C19_silent_in_head` holds for every tag (`C19_metaDecodes`): the byte slice the WHATWG "extract a
character encoding from a meta element" algorithm returns from the UTF-8 bytes of an attribute value is
itself valid UTF-8 (`C19_label_decodes`, `H5V.Lemmas.MetaDecodes`), so the model's
`subtendril-utf8@encoding.rs` panic branch is never taken.  The primed theorems state the results without
the hypothesis; the examples run the extraction on non-ASCII labels.
-/
namespace H5V.Props.C19
open H5V.Model.Dom (Id QualName Attr NodeOrText SinkOp Output ElementFlags QuirksMode Dom)
open H5V.Model.HtmlTB
open H5V.Lemmas.TBM

/-! ## `MetaDecodes` holds for every tag; the theorems of `C19Fire` without it -/

theorem C19_metaDecodes (tag : Tag) : MetaDecodes tag :=
  fun _ _ c _ => C19_label_decodes c

/-- when the insertion goes through, the "in head" rule on a `meta` start tag answers what
`qualifies` prescribes — no panic branch left -/
theorem C19_in_head_meta_total' {tag : Tag} (hm : isMetaStart tag) {s s' : State} {elem : Id}
    (h : (insertAndPopElementFor tag).run s = .ok (elem, s')) :
    (stepInHead (.tag tag)).run s = .ok (answerOf (qualifies tag), s') :=
  C19_in_head_meta_total hm (C19_metaDecodes tag) h

/-- a qualifying `meta` that reaches "in head": `process_to_completion` answers the indicator at
once; the rest of the queue is not looked at -/
theorem C19_fires_in_head' {tag : Tag} (hm : isMetaStart tag) {s s1 s2 : State} {elem : Id}
    {l : Str} (hq : qualifies tag = some l)
    (hf : (isForeign (.tag tag)).run s = .ok (false, s1)) (hmode : s1.mode = .inHead)
    (hi : (insertAndPopElementFor tag).run s1 = .ok (elem, s2)) (fuel : Nat) (more : List Token) :
    (processToCompletion (fuel + 1) (.tag tag) more).run s = .ok (.encodingIndicator l, s2) :=
  C19_fires_in_head hm (C19_metaDecodes tag) hq hf hmode hi fuel more

/-- a `meta` that announces nothing: `Continue`, and no "unacknowledged self-closing" error -/
theorem C19_silent_in_head' {tag : Tag} (hm : isMetaStart tag) {s s1 s2 : State} {elem : Id}
    (hq : qualifies tag = none)
    (hf : (isForeign (.tag tag)).run s = .ok (false, s1)) (hmode : s1.mode = .inHead)
    (hi : (insertAndPopElementFor tag).run s1 = .ok (elem, s2)) (fuel : Nat) :
    (processToCompletion (fuel + 1) (.tag tag) []).run s = .ok (.continue_, s2) :=
  C19_silent_in_head hm (C19_metaDecodes tag) hq hf hmode hi fuel

/-- the helper theorems of `H5V.Lemmas.HtmlTBMetaFire` that carry the hypothesis -/
theorem metaAnswer_run' (tag : Tag) (s : State) : metaAnswer tag s = .ok (answerOf (qualifies tag), s) :=
  metaAnswer_run tag s

theorem stepInHead_meta_run' {tag : Tag} (hm : isMetaStart tag) {s s' : State} {elem : Id}
    (h : insertAndPopElementFor tag s = .ok (elem, s')) :
    stepInHead (.tag tag) s = .ok (answerOf (qualifies tag), s') :=
  stepInHead_meta_run hm h

/-! ## non-vacuity — a non-ASCII label -/

section Examples

-- unquoted: `text/html; charset=ütf-8; x` (ü = C3 BC; the label ends at `;`)
example : H5V.Spec.MetaExtract.extract (utf8Bytes "text/html; charset=ütf-8; x".toList)
    = some [0xC3, 0xBC, 0x74, 0x66, 0x2D, 0x38] := by decide +kernel
example : contentLabel "text/html; charset=ütf-8; x".toList = some "ütf-8".toList := by decide +kernel
-- quoted: `text/html; charset="ütf-8 é"; x` (the label ends at the matching quote, blanks are kept)
example : contentLabel "text/html; charset=\"ütf-8 é\"; x".toList = some "ütf-8 é".toList := by decide +kernel
example : contentLabel "text/html; charset = 'ütf-8'".toList = some "ütf-8".toList := by decide +kernel
-- non-ASCII before and after the label, a 4-byte character inside, the label runs to the end
example : contentLabel "é charset=x😀y".toList = some "x😀y".toList := by decide +kernel
-- the decomposition of `C19_extract_boundaries`: a = `text/html; charset`, d = `=`, b = `ütf-8`, c = `; x`
example : "text/html; charset=ütf-8; x".toList
    = "text/html; charset".toList ++ '=' :: ("ütf-8".toList ++ "; x".toList) := by decide +kernel
-- an unmatched quote: the algorithm returns nothing, so does `contentLabel`
example : contentLabel "charset=\"ütf-8".toList = none := by decide +kernel

/-- `<meta http-equiv=content-type content="text/html; charset=ütf-8; x">` -/
def metaUmlaut : Tag := startTag "meta" [attr "http-equiv" "content-type", attr "content" "text/html; charset=ütf-8; x"]

example : isMetaStart metaUmlaut := ⟨rfl, rfl⟩
example : qualifies metaUmlaut = some "ütf-8".toList := by decide +kernel
example : answerFresh metaUmlaut = some (.encodingIndicator "ütf-8".toList) := by decide +kernel

end Examples

/-! ## axioms -/
#print axioms C19_utf8Bytes_eq
#print axioms C19_extract_cut
#print axioms C19_extract_boundaries
#print axioms C19_contentLabel_some
#print axioms C19_contentLabel_none
#print axioms C19_label_decodes
#print axioms C19_extractEncoding_total
#print axioms C19_metaDecodes
#print axioms C19_in_head_meta_total'
#print axioms C19_fires_in_head'
#print axioms C19_silent_in_head'

end H5V.Props.C19
