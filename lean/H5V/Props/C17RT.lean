import H5V.Lemmas.XmlRTCheck
import H5V.Props.C17
import H5V.Props.C15Run
/-!
C17 — the round trip with the XML tokenizer MODEL in the loop (no abstract lexer left).

`C17_roundtrip_fixed` (Props/C17.lean) goes serializer model → event stream → `lexEv` (an abstract
lexer of serializer output) → tree-builder model.  Here the text the serializer model writes
(`XmlSer.render SerCfg.fixed`) is fed to the XML tokenizer model `H5V.Model.XmlTok` (fresh machine,
either `discard_bom`, either `exact_errors`, one piece or any chunking) and ended (`finish`); its
token log, seen by the tree builder (`cvOut`: `ParseError` tokens dropped, tags field by field) and
with adjacent character tokens merged (`mergeChars`, the model delivers text one character per token),
is EXACTLY the token list `lexAll` that `C17_roundtrip_fixed` consumes (`C17_tok_events`); composing,
tokenizer model ∘ serializer model, then the tree-builder model, reproduces the tree
(`C17_roundtrip_tok`).

Hypotheses: those of `C17_roundtrip_fixed` plus the LEXICAL side conditions `nodesLex` — what makes a
name / value / comment / PI / doctype name re-lexable at all.  Trees built through a DOM API can
violate them (`C17_witness_lexical`); trees built by the PARSER satisfy them except in three corners,
each a genuine round-trip failure of xml5ever exhibited below on the models (section 4):
an attribute name starting with `:` (`C17_witness_attr_leading_colon`), a prefix starting with `=`
(`C17_witness_prefix_eq`), PI data starting with a blank (`C17_witness_pi_blank`).
* element names: first character none of TAB LF SPACE `/` `>` CR NUL `!` `?` `:` `<`, the others none of
  TAB LF SPACE `/` `>` CR NUL; attribute names: first character none of TAB LF SPACE `/` `>` CR NUL `:`,
  the others none of TAB LF SPACE `/` `>` CR NUL `=`; prefixes without `=` (they are written as
  `xmlns:p`);
* no U+0000 in text, attribute values, namespace URIs (the tokenizer replaces it by U+FFFD);
* comments: `CommentLex` — no CR / NUL, and no `>` at the start, after a single leading `-`, after `--` or
  after `--!` (the XML tokenizer ends the comment there);
* PIs: `PiLex` — non-empty target without blanks and (after its first character) `?`; data without `?`,
  not starting with a blank; no CR / NUL;
* doctype name: no blank, `>`, CR, NUL, ASCII capital (the tokenizer lower-cases doctype names).

Parse-error tokens that do occur (and are dropped by `cvOut`, the tree builder ignores them):
"Invalid numeric character reference" for every `&#13;`, "Bad character" for `<!DOCTYPE >` (empty
name) and for `<!--` + non-`>` inside a comment; with `exact_errors` additionally the per-character
"Bad character" of input preprocessing.
-/
namespace H5V.Props.C17
open H5V.Model.XmlTB H5V.Model.XmlSer H5V.Lemmas.XmlTB H5V.Lemmas.XmlSer H5V.Lemmas.XmlSerFixed
open H5V.Lemmas.XmlRT

/-- the tokenizer model's token log as the token list the tree builder processes: parse errors
dropped, adjacent character tokens merged -/
def tbTokens (out : Model.XmlTok.Out) : List Token := mergeChars (cvOut out)

/-! ### shape of the document: adjacency, first and last event -/

theorem isTextN_eq (n : Node) : (match n with | .text _ => true | _ => false) = isTextN n := by
  cases n <;> rfl

mutual
theorem adjT_of_nodesOK : ∀ (ns : List Node) (prev : Bool), nodesOK SerCfg.fixed prev ns → adjT prev ns
  | [], _, _ => trivial
  | n :: rest, prev, h => by
    simp only [nodesOK] at h
    simp only [adjT]
    refine ⟨adjN_of_nodeOK n prev h.1, ?_⟩
    cases n <;> exact adjT_of_nodesOK rest _ h.2
theorem adjN_of_nodeOK : ∀ (n : Node) (prev : Bool), nodeOK SerCfg.fixed prev n → adjN prev n
  | .text s, prev, h => by simp only [nodeOK] at h; exact ⟨h.1, h.2.1⟩
  | .elem _ _ ks, prev, h => by simp only [nodeOK] at h; simp only [adjN]; exact adjT_of_nodesOK ks false h
  | .comment _, _, _ | .pi _ _, _, _ | .doctype _ _ _, _, _ => trivial
end

theorem adjT_append (a b : List Node) (p : Bool) (ha : adjT p a) (hb : adjT (lastT p a) b) : adjT p (a ++ b) := by
  induction a generalizing p with
  | nil => simpa [lastT] using hb
  | cons x xs ih =>
    simp only [adjT] at ha
    simp only [List.cons_append, adjT]
    exact ⟨ha.1, ih _ ha.2 (by simpa [lastT] using hb)⟩

theorem lastT_append (a b : List Node) (p : Bool) : lastT p (a ++ b) = lastT (lastT p a) b := by
  induction a generalizing p with
  | nil => rfl
  | cons x xs ih => simp only [List.cons_append, lastT]; exact ih _

/-- a list without text and element nodes: comments, PIs, doctypes -/
theorem misc_facts (l : List Node) (h : ∀ x ∈ l, isPre x = true) (p : Bool) :
    adjT p l ∧ lastT false l = false := by
  induction l generalizing p with
  | nil => exact ⟨trivial, rfl⟩
  | cons x xs ih =>
    have hx := h x (by simp)
    have hr : ∀ y ∈ xs, isPre y = true := fun y hy => h y (by simp [hy])
    cases x with
    | text s | elem n as ks => simp [isPre] at hx
    | comment s | pi t d | doctype n p' s => exact ⟨⟨trivial, (ih hr _).1⟩, (ih hr false).2⟩

theorem doc_adj (pre post ks : List Node) (n : QName) (as : List Attr)
    (hpre : preOK false pre) (hpost : ∀ x ∈ post, isMisc x = true) (hks : nodesOK SerCfg.fixed false ks) :
    adjT false (pre ++ .elem n as ks :: post) ∧ lastT false (pre ++ .elem n as ks :: post) = false := by
  have h1 := misc_facts pre (preOK_isPre false pre hpre)
  have hpost' : ∀ x ∈ post, isPre x = true := fun x hx => by
    have := hpost x hx; cases x <;> simp_all [isMisc, isPre]
  have h2 := misc_facts post hpost'
  constructor
  · apply adjT_append _ _ _ (h1 false).1
    rw [(h1 false).2]
    exact ⟨adjT_of_nodesOK ks false hks, (h2 _).1⟩
  · rw [lastT_append, (h1 false).2]
    exact (h2 false).2

/-- does the event list end in a text event (`prev` for the empty list)? -/
def endsT : Bool → List Ev → Bool
  | p, [] => p
  | _, e :: r => endsT (isTextEv e) r

theorem endsInText_eq (evs : List Ev) : endsInText evs = endsT false evs := by
  induction evs with
  | nil => rfl
  | cons e r ih =>
    cases r with
    | nil => rfl
    | cons e2 r2 =>
      have : endsInText (e :: e2 :: r2) = endsInText (e2 :: r2) := rfl
      rw [this, ih]; rfl

theorem endsT_append (a b : List Ev) (p : Bool) : endsT p (a ++ b) = endsT (endsT p a) b := by
  induction a generalizing p with
  | nil => rfl
  | cons x xs ih => simp only [List.cons_append, endsT]; exact ih _

mutual
theorem serNode_ends : ∀ (nd : Node) (sst : List SMap) (p : Bool),
    endsT p (serNode SerCfg.fixed sst nd).1 = isTextN nd
  | .elem n as ks, sst, p => by
    simp only [serNode, startElem_fixed, endElem_fixed]
    rw [endsT_append]; rfl
  | .text s, sst, p | .comment s, sst, p | .pi t d, sst, p | .doctype n a b, sst, p => rfl
theorem serNodes_ends : ∀ (ns : List Node) (sst : List SMap) (p : Bool),
    endsT p (serNodes SerCfg.fixed sst ns).1 = lastT p ns
  | [], sst, p => rfl
  | nd :: rest, sst, p => by
    simp only [serNodes, lastT]
    rw [endsT_append, serNode_ends, serNodes_ends]
end

/-- the output of a document whose first node is not a text node starts with `<` -/
theorem render_starts_lt (doc : List Node) (sst : List SMap) (hne : doc ≠ [])
    (h : ∀ x, doc.head? = some x → isTextN x = false) :
    ∃ t, render SerCfg.fixed (serNodes SerCfg.fixed sst doc).1 = '<' :: t := by
  cases doc with
  | nil => exact absurd rfl hne
  | cons nd rest =>
    have hx := h nd rfl
    simp only [serNodes, render, List.map_append, List.flatten_append]
    cases nd with
    | text s => simp [isTextN] at hx
    | elem n as ks =>
      simp only [serNode, startElem_fixed, List.cons_append, List.map_cons, List.flatten_cons, render_start]
      exact ⟨_, rfl⟩
    | comment s => simp only [serNode, List.map_cons, List.flatten_cons, render_comment]; exact ⟨_, rfl⟩
    | pi t d => simp only [serNode, List.map_cons, List.flatten_cons, render_pi]; exact ⟨_, rfl⟩
    | doctype n a b => simp only [serNode, List.map_cons, List.flatten_cons, render_doctype]; exact ⟨_, rfl⟩

theorem doc_head (pre post ks : List Node) (n : QName) (as : List Attr) (hpre : preOK false pre) :
    ∀ x, (pre ++ .elem n as ks :: post).head? = some x → isTextN x = false := by
  intro x hx
  cases pre with
  | nil => simp at hx; subst hx; rfl
  | cons y ys =>
    simp at hx; subst hx
    have := preOK_isPre false _ hpre y (by simp)
    cases y <;> simp_all [isPre, isTextN]

/-! ### 1. the tokenizer model delivers the events -/

/-- the text the (fixed) serializer model writes for a document -/
def serText (doc : List Node) : Str := render SerCfg.fixed (serDoc SerCfg.fixed doc)

/-- `exact_errors` off, one piece: any document that does not start with, end in, or contain adjacent / empty text -/
theorem tok_events_plain (o : Model.XmlTok.Opts) (ho : o.exactErrors = false) (bom : Bool)
    (doc : List Node) (hne : doc ≠ []) (hhead : ∀ x, doc.head? = some x → isTextN x = false)
    (hadj : adjT false doc) (hlast : lastT false doc = false) (hlex : nodesLex doc) :
    ∃ m1 m2, Model.XmlTok.feed o { discardBom := bom } [] (serText doc) = .done m1 [] ∧
      Model.XmlTok.finish o m1 = .ok m2 ∧
      tbTokens m2.out = lexAll SerCfg.fixed LexCfg.fixed (serDoc SerCfg.fixed doc) := by
  obtain ⟨hev, hadjE⟩ := serNodes_facts doc [] false [] hlex hadj trivial
  rw [List.append_nil] at hadjE
  have hends : endsInText (serDoc SerCfg.fixed doc) = false := by
    rw [endsInText_eq]; unfold serDoc; rw [serNodes_ends, hlast]
  obtain ⟨t, ht⟩ := render_starts_lt doc [] hne hhead
  have hrun : ∀ m : Model.XmlTok.Mach, Ctl m .data → Clean m →
      ∃ m', Reach o m ('<' :: t) m' [] ∧ Ctl m' .data ∧ Clean m' ∧
        cvOut m'.out = cvOut m.out ++ ((serDoc SerCfg.fixed doc).map evToks).flatten := by
    intro m hc hn
    obtain ⟨m', r, c, cl, ot⟩ := evs_run o ho [] _ m hev
      (fun h => by have h' := hends; unfold serDoc at h'; rw [h'] at h; cases h) hc hn
    rw [List.append_nil] at r
    refine ⟨m', ?_, c, cl, ot⟩
    rw [← ht]; exact r
  obtain ⟨m1, hf, hc1, ho1⟩ := feed_of_reach o ho bom t _ hrun
  obtain ⟨m2, hf2, ho2⟩ := finish_data o ho m1 hc1
  refine ⟨m1, m2, ?_, hf2, ?_⟩
  · unfold serText serDoc; rw [ht]; exact hf
  · unfold tbTokens
    rw [ho2, ho1]
    exact (merge_evToks _ false hadjE).2

/-- the tree builder's view of the log does not depend on the parse-error entries -/
theorem cvOut_noErr (out : Model.XmlTok.Out) : cvOut (Model.XmlTok.noErr out) = cvOut out := by
  induction out with
  | nil => rfl
  | cons t r ih =>
    rw [Model.XmlTok.noErr_cons]
    cases t with
    | error e => simp only [Model.XmlTok.isErr, if_true]; rw [ih, cvOut_err]
    | _ => simp only [Model.XmlTok.isErr, Bool.false_eq_true, if_false]; rw [cvOut_cons, cvOut_cons, ih]

theorem feedAll_total (o : Model.XmlTok.Opts) (cs : List Str) :
    ∀ (m : Model.XmlTok.Mach), Model.XmlTok.TInv m → ∃ mf, C15.feedAll o m cs = some mf := by
  induction cs with
  | nil => intro m _; exact ⟨m, rfl⟩
  | cons c cs ih =>
    intro m hi
    obtain ⟨m1, hf, hi1⟩ := C04X.C04_xml_feed_total o m [] c hi
    obtain ⟨mf, hmf⟩ := ih m1 hi1
    exact ⟨mf, by simp only [C15.feedAll, hf]; exact hmf⟩

/-- any chunking, either option -/
theorem tok_events_doc (o : Model.XmlTok.Opts) (bom : Bool)
    (doc : List Node) (hne : doc ≠ []) (hhead : ∀ x, doc.head? = some x → isTextN x = false)
    (hadj : adjT false doc) (hlast : lastT false doc = false) (hlex : nodesLex doc)
    (cs : List Str) (hcs : cs.flatten = serText doc) :
    ∃ mf m2, C15.feedAll o { discardBom := bom } cs = some mf ∧ Model.XmlTok.finish o mf = .ok m2 ∧
      tbTokens m2.out = lexAll SerCfg.fixed LexCfg.fixed (serDoc SerCfg.fixed doc) := by
  obtain ⟨a1, a2, hfa, hfin, htok⟩ := tok_events_plain ⟨false⟩ rfl bom doc hne hhead hadj hlast hlex
  generalize hT : serText doc = text at hcs hfa
  have hne' : text ≠ [] := by
    intro e
    obtain ⟨t, ht⟩ := render_starts_lt doc [] hne hhead
    unfold serText serDoc at hT
    rw [ht] at hT; rw [e] at hT; cases hT
  have hi := C04X.C04_xml_initial_inv .data bom
  obtain ⟨b1, hb1⟩ := feedAll_total ⟨false⟩ cs _ hi
  obtain ⟨fuel, b1', hrun, hsim, _⟩ := C15.C15_feedAll ⟨false⟩ _ cs b1 (C15.good_initial .data bom) rfl hb1
    (by rw [hcs]; exact hne')
  rw [hcs] at hrun
  have hr1 := C15.run_done_runsTo _ _ _ _ _ hrun
  have hr2 : Model.XmlTok.RunsTo ⟨false⟩ (Model.XmlTok.feedBom { discardBom := bom } text).1
      (Model.XmlTok.feedBom { discardBom := bom } text).2 a1 := by
    rcases C15.feed_done _ _ _ _ hfa with ⟨e, _⟩ | ⟨_, h⟩
    · exact absurd e hne'
    · exact h
  have e1 : b1' = a1 := runsTo_det hr1 hr2
  subst e1
  have hfs := C15.C15_finish_sim ⟨false⟩ b1' b1 hsim
  rw [hfin] at hfs
  obtain ⟨b2, hb2, hb2o⟩ : ∃ b2, Model.XmlTok.finish ⟨false⟩ b1 = .ok b2 ∧ b2.out = a2.out := by
    cases hq : Model.XmlTok.finish ⟨false⟩ b1 with
    | error e => rw [hq] at hfs; cases hfs
    | ok b2 => rw [hq] at hfs; simp only [Except.map] at hfs; injection hfs with h; exact ⟨b2, rfl, h.symm⟩
  have hopt := C15.C15_exact_errors_tokens o ⟨false⟩ { discardBom := bom } cs
  obtain ⟨c1, hc1⟩ := feedAll_total o cs _ hi
  obtain ⟨_, hfo⟩ := hopt.2 c1 b1 hc1 hb1
  rw [hb2] at hfo
  obtain ⟨c2, hc2, hc2o⟩ : ∃ c2, Model.XmlTok.finish o c1 = .ok c2 ∧
      Model.XmlTok.noErr c2.out = Model.XmlTok.noErr b2.out := by
    cases hq : Model.XmlTok.finish o c1 with
    | error e => rw [hq] at hfo; cases hfo
    | ok c2 => rw [hq] at hfo; simp only [Except.map] at hfo; injection hfo with h; exact ⟨c2, rfl, h⟩
  refine ⟨c1, c2, hc1, hc2, ?_⟩
  unfold tbTokens at htok ⊢
  rw [← cvOut_noErr, hc2o, cvOut_noErr, hb2o]
  exact htok

/-- **C17 (tokenizer model on serializer output).**  For every document in the class of
`C17_roundtrip_fixed` that satisfies the lexical side conditions `nodesLex` (module header): a fresh XML
tokenizer model (`discard_bom` either way, `exact_errors` either way), fed the text the fixed serializer
model writes — in ONE piece or in ANY chunking `cs` — and ended, delivers a token log whose
tree-builder view (`tbTokens`: parse errors dropped, character tokens merged) is exactly the event
token list `lexAll` that `C17_roundtrip_fixed` consumes: start / end tags with split names, declarations
and attributes through `finish_attribute`, references decoded (`&amp; &lt; &gt; &quot; &apos; &#13;`),
text, comments, PIs, the doctype, EOF. -/
theorem C17_tok_events (o : Model.XmlTok.Opts) (bom : Bool)
    (pre post ks : List Node) (n : QName) (as : List Attr)
    (hpre : preOK false pre) (hpost : ∀ x ∈ post, isMisc x = true)
    (hks : nodesOK SerCfg.fixed false ks) (hlex : nodesLex (pre ++ .elem n as ks :: post))
    (cs : List Str) (hcs : cs.flatten = serText (pre ++ .elem n as ks :: post)) :
    ∃ mf m2, C15.feedAll o { discardBom := bom } cs = some mf ∧ Model.XmlTok.finish o mf = .ok m2 ∧
      tbTokens m2.out = lexAll SerCfg.fixed LexCfg.fixed (serDoc SerCfg.fixed (pre ++ .elem n as ks :: post)) := by
  obtain ⟨hadj, hlast⟩ := doc_adj pre post ks n as hpre hpost hks
  exact tok_events_doc o bom _ (by simp) (doc_head pre post ks n as hpre) hadj hlast hlex cs hcs

/-! ### 2. the round trip through tokenizer model and tree-builder model -/

/-- **C17 (round trip, models only).**  serializer model (`SerCfg.fixed`) → text → XML tokenizer
model (fresh, any `discard_bom` / `exact_errors`, any chunking) → `finish` → tree-builder model
(`TbCfg.fixed`): the document built has exactly the children of the original (doctype ids dropped) —
element and attribute prefixes, namespace URIs, local names, attribute order and values, text (U+000D
included), comments, PIs, nesting.  Hypotheses: those of `C17_roundtrip_fixed` plus `nodesLex`. -/
theorem C17_roundtrip_tok (o : Model.XmlTok.Opts) (bom : Bool)
    (pre post ks : List Node) (n : QName) (as : List Attr)
    (hpre : preOK false pre) (hpost : ∀ x ∈ post, isMisc x = true)
    (hks : nodesOK SerCfg.fixed false ks) (htags : treesOK (pre ++ .elem n as ks :: post))
    (hlex : nodesLex (pre ++ .elem n as ks :: post))
    (cs : List Str) (hcs : cs.flatten = serText (pre ++ .elem n as ks :: post)) :
    ∃ mf m2 s, C15.feedAll o { discardBom := bom } cs = some mf ∧ Model.XmlTok.finish o mf = .ok m2 ∧
      run TbCfg.fixed State.init (tbTokens m2.out) = .ok s ∧
      s.document = pre.map stripId ++ .elem n as ks :: post := by
  obtain ⟨mf, m2, h1, h2, h3⟩ := C17_tok_events o bom pre post ks n as hpre hpost hks hlex cs hcs
  obtain ⟨s, hs, hd⟩ := C17_roundtrip_fixed pre post ks n as hpre hpost hks htags
  refine ⟨mf, m2, s, h1, h2, ?_, hd⟩
  rw [h3]; exact hs

/-- corollary: one piece -/
theorem C17_roundtrip_tok_one_piece (o : Model.XmlTok.Opts) (bom : Bool)
    (pre post ks : List Node) (n : QName) (as : List Attr)
    (hpre : preOK false pre) (hpost : ∀ x ∈ post, isMisc x = true)
    (hks : nodesOK SerCfg.fixed false ks) (htags : treesOK (pre ++ .elem n as ks :: post))
    (hlex : nodesLex (pre ++ .elem n as ks :: post)) :
    ∃ m1 m2 s, Model.XmlTok.feed o { discardBom := bom } [] (serText (pre ++ .elem n as ks :: post)) = .done m1 [] ∧
      Model.XmlTok.finish o m1 = .ok m2 ∧
      run TbCfg.fixed State.init (tbTokens m2.out) = .ok s ∧
      s.document = pre.map stripId ++ .elem n as ks :: post := by
  obtain ⟨mf, m2, s, h1, h2, h3, h4⟩ := C17_roundtrip_tok o bom pre post ks n as hpre hpost hks htags hlex
    [serText (pre ++ .elem n as ks :: post)] (by simp)
  refine ⟨mf, m2, s, ?_, h2, h3, h4⟩
  simp only [C15.feedAll] at h1
  split at h1
  · rename_i m' hf
    simp only [Option.some.injEq] at h1; subst h1; exact hf
  · cases h1

/-! ### 3. evaluated examples: non-vacuity, and why the lexical side conditions are needed -/

/-- text → tokenizer model (one piece) → `finish` → tree-builder model -/
def parseTok (o : Model.XmlTok.Opts) (bom : Bool) (text : Str) : Option (List Node) :=
  match Model.XmlTok.feed o { discardBom := bom } [] text with
  | .done m1 [] =>
    match Model.XmlTok.finish o m1 with
    | .ok m2 =>
      match run TbCfg.fixed State.init (tbTokens m2.out) with
      | .ok s => some s.document
      | .error _ => none
    | .error _ => none
  | _ => none

/-- serializer model → text → tokenizer model → tree-builder model -/
def reparseTok (o : Model.XmlTok.Opts) (bom : Bool) (doc : List Node) : Option (List Node) :=
  parseTok o bom (serText doc)

def checkParse (o : Model.XmlTok.Opts) (bom : Bool) (text : Str) (expected : List Node) : Bool :=
  match parseTok o bom text with
  | some d => nodesBeq d expected
  | none => false

theorem checkParse_sound (o : Model.XmlTok.Opts) (bom : Bool) (text : Str) (expected : List Node)
    (h : checkParse o bom text expected = true) : parseTok o bom text = some expected := by
  unfold checkParse at h
  split at h
  · rename_i d hd; rw [hd, nodesBeq_eq d expected h]
  · cases h

def checkRT (o : Model.XmlTok.Opts) (bom : Bool) (doc expected : List Node) : Bool :=
  match reparseTok o bom doc with
  | some d => nodesBeq d expected
  | none => false

theorem checkRT_sound (o : Model.XmlTok.Opts) (bom : Bool) (doc expected : List Node)
    (h : checkRT o bom doc expected = true) : reparseTok o bom doc = some expected := by
  unfold checkRT at h
  split at h
  · rename_i d hd; rw [hd, nodesBeq_eq d expected h]
  · cases h

/-- `<!DOCTYPE r><!--c--><p:r xmlns:p="u" k="a<b&amp;&quot;c&quot;&#13;&apos;">x&lt;y&amp;z&gt;&#13;`
`<a xmlns="v" p:w="1"><b xmlns=""></b></a><?pi d?><!-- - --></p:r><?end ?>` -/
def exRoot : QName := qn (some "p") "u" "r"
def exAttrs : List Attr := [at' none "" "k" "a<b&\"c\"\r'"]
def exKids : List Node :=
  [.text "x<y&z>\r".toList,
   el none "v" "a" [at' (some "p") "u" "w" "1"] [el none "" "b" [] []],
   .pi "pi".toList "d".toList, .comment " - ".toList]
def exPre : List Node := [.doctype "r".toList [] [], .comment "c".toList]
def exPost : List Node := [.pi "end".toList []]
def docEx : List Node := exPre ++ .elem exRoot exAttrs exKids :: exPost

example : String.ofList (serText docEx) =
    "<!DOCTYPE r><!--c--><p:r xmlns:p=\"u\" k=\"a<b&amp;&quot;c&quot;&#13;&apos;\">x&lt;y&amp;z&gt;&#13;" ++
    "<a xmlns=\"v\" p:w=\"1\"><b xmlns=\"\"></b></a><?pi d?><!-- - --></p:r><?end ?>" := by decide +kernel

/-- the model pipeline, evaluated: the tree comes back (both option values, both BOM settings) -/
example : checkRT ⟨false⟩ true docEx docEx = true ∧ checkRT ⟨true⟩ false docEx docEx = true := by
  constructor <;> decide +kernel

/-- the hypotheses of `C17_roundtrip_tok` hold for `docEx`: the theorem applies -/
example : ∃ m1 m2 s, Model.XmlTok.feed ⟨true⟩ { discardBom := true } [] (serText docEx) = .done m1 [] ∧
    Model.XmlTok.finish ⟨true⟩ m1 = .ok m2 ∧ run TbCfg.fixed State.init (tbTokens m2.out) = .ok s ∧
    s.document = exPre.map stripId ++ .elem exRoot exAttrs exKids :: exPost := by
  apply C17_roundtrip_tok_one_piece
  · exact ⟨rfl, trivial⟩
  · intro x hx; simp [exPost] at hx; subst hx; rfl
  · simp [exKids, nodesOK, nodeOK, el, SerCfg.fixed]
  · simp only [exPre, exPost, exKids, exAttrs, exRoot, List.cons_append, List.nil_append, treesOK, treeOK, el, and_true,
      true_and]
    refine ⟨⟨⟨⟨by decide +kernel, by decide +kernel⟩, by decide +kernel, by decide +kernel, by decide +kernel⟩, ?_, by decide +kernel, by decide +kernel, by decide +kernel⟩,
      ⟨⟨⟨by decide +kernel, by decide +kernel⟩, by decide +kernel, by decide +kernel, by decide +kernel⟩, ?_, by decide +kernel, by decide +kernel, by decide +kernel⟩,
      ⟨⟨⟨by decide +kernel, by decide +kernel⟩, by decide +kernel, by decide +kernel, by decide +kernel⟩, by simp, by decide +kernel, by decide +kernel, by decide +kernel⟩⟩
    · intro a ha
      simp at ha; subst ha
      exact ⟨⟨by decide +kernel, by decide +kernel⟩, by decide +kernel, by decide +kernel, by decide +kernel, by decide +kernel⟩
    · intro a ha
      simp at ha; subst ha
      exact ⟨⟨by decide +kernel, by decide +kernel⟩, by decide +kernel, by decide +kernel, by decide +kernel, by decide +kernel⟩
  · exact nodesLex_of _ (by decide +kernel)

/-- why `nodesLex` is needed — trees in the class of `C17_roundtrip_fixed` (its hypotheses hold; its
abstract lexer `lexEv` hands them back) that the tokenizer model does NOT read back; none of them can be
produced by the parser: a comment containing `-->`, U+0000 in text, U+000D in a comment, a blank in
an element name, a capital in the doctype name. -/
def docBadComment : List Node := [el none "" "r" [] [.comment "a-->b".toList]]
def docBadNul : List Node := [el none "" "r" [] [.text ['\x00']]]
def docBadCommentCR : List Node := [el none "" "r" [] [.comment ['\r']]]
def docBadName : List Node := [el none "" "a b" [] []]
def docBadDoctype : List Node := [.doctype ['R'] [] [], el none "" "r" [] []]

theorem C17_witness_lexical :
    reparseTok ⟨false⟩ true docBadComment = some [el none "" "r" [] [.comment ['a'], .text "b-->".toList]] ∧
    reparseTok ⟨false⟩ true docBadNul = some [el none "" "r" [] [.text ['�']]] ∧
    reparseTok ⟨false⟩ true docBadCommentCR = some [el none "" "r" [] [.comment ['\n']]] ∧
    reparseTok ⟨false⟩ true docBadName = some [el none "" "a" [at' none "" "b" ""] []] ∧
    reparseTok ⟨false⟩ true docBadDoctype = some [.doctype ['r'] [] [], el none "" "r" [] []] := by
  refine ⟨checkRT_sound _ _ _ _ ?_, checkRT_sound _ _ _ _ ?_, checkRT_sound _ _ _ _ ?_, checkRT_sound _ _ _ _ ?_,
    checkRT_sound _ _ _ _ ?_⟩ <;> decide +kernel

/-- … while `C17_roundtrip_fixed` applies to e.g. the first of them: the gap was in `lexEv` -/
example : ∃ s, reparse SerCfg.fixed LexCfg.fixed TbCfg.fixed docBadComment = .ok s ∧ s.document = docBadComment :=
  docIsB_sound (by decide +kernel)

/-! ### 4. genuine round-trip failures of parser-produced trees -/

/-- `<r a :b='1'/>`: the tag-attribute-name-AFTER state (tokenizer/mod.rs, `TagAttrNameAfter`) starts a
new attribute name with ANY character, the tag-attribute-name-BEFORE state drops a `:` with a parse error
(`TagAttrNameBefore`: `':' => error`).  So the parser builds an attribute named `:b`, the serializer
writes ` :b="1"` directly after the quote of the previous attribute, and the re-parse — now in the BEFORE
state — reads `b`. -/
def docColonAttr : List Node := [el none "" "r" [at' none "" "a" "", at' none "" ":b" "1"] []]

/-- **finding (C17-attr-leading-colon)**: `docColonAttr` is what the parser models build from
`<r a :b='1'/>`; it satisfies every hypothesis of `C17_roundtrip_fixed` (so the abstract lexer hands it
back); it is written as `<r a="" :b="1"></r>`; and the tokenizer + tree-builder models read that back
with the attribute renamed to `b`.  (`nodesLex` excludes it: attribute names must not start with `:`.) -/
theorem C17_witness_attr_leading_colon :
    parseTok ⟨false⟩ true "<r a :b='1'/>".toList = some docColonAttr ∧
    (preOK false [] ∧ nodesOK SerCfg.fixed false [] ∧ treesOK docColonAttr) ∧
    (∃ s, reparse SerCfg.fixed LexCfg.fixed TbCfg.fixed docColonAttr = .ok s ∧ s.document = docColonAttr) ∧
    serText docColonAttr = "<r a=\"\" :b=\"1\"></r>".toList ∧
    reparseTok ⟨false⟩ true docColonAttr = some [el none "" "r" [at' none "" "a" "", at' none "" "b" "1"] []] ∧
    ¬ nodesLex docColonAttr := by
  refine ⟨checkParse_sound _ _ _ _ (by decide +kernel), ⟨trivial, trivial, ?_⟩, docIsB_sound (by decide +kernel), by decide +kernel,
    checkParse_sound _ _ _ _ (by decide +kernel), ?_⟩
  · simp only [docColonAttr, treesOK, treeOK, el, and_true]
    refine ⟨⟨⟨by decide +kernel, by decide +kernel⟩, by decide +kernel, by decide +kernel, by decide +kernel⟩, ?_, by decide +kernel, by decide +kernel, by decide +kernel⟩
    intro a ha
    simp at ha
    rcases ha with rfl | rfl <;> exact ⟨⟨by decide +kernel, by decide +kernel⟩, by decide +kernel, by decide +kernel, by decide +kernel, by decide +kernel⟩
  · intro h
    have h1 : ElemLex (qn none "" "r") [at' none "" "a" "", at' none "" ":b" "1"] := h.1.1
    obtain ⟨c, t, e, _, hc, _⟩ := (h1.2.2.2 (at' none "" ":b" "1") (by simp)).1
    have : c = ':' := by
      have e' : rawName (at' none "" ":b" "1").name = [':', 'b'] := by decide +kernel
      rw [e'] at e; injection e with e1 _; exact e1.symm
    exact hc this

/-- **finding (C17-prefix-eq)**: `<=a:b/>` — `=` is an ordinary name character in the tag-name state, so
the parser builds an element with the (unbound) prefix `=a`; the fixed serializer declares it,
`xmlns:=a=""`, which the tokenizer reads as an attribute named `xmlns:` (the name ends at the first `=`)
with the unquoted value `a=""`: the re-parsed element has an attribute more. -/
def docPrefixEq : List Node := [el (some "=a") "" "b" [] []]

theorem C17_witness_prefix_eq :
    parseTok ⟨false⟩ true "<=a:b/>".toList = some docPrefixEq ∧
    (preOK false [] ∧ nodesOK SerCfg.fixed false [] ∧ treesOK docPrefixEq) ∧
    (∃ s, reparse SerCfg.fixed LexCfg.fixed TbCfg.fixed docPrefixEq = .ok s ∧ s.document = docPrefixEq) ∧
    serText docPrefixEq = "<=a:b xmlns:=a=\"\"></=a:b>".toList ∧
    reparseTok ⟨false⟩ true docPrefixEq = some [el (some "=a") "" "b" [at' none "" "xmlns:" "a=\"\""] []] := by
  refine ⟨checkParse_sound _ _ _ _ (by decide +kernel), ⟨trivial, trivial, ?_⟩, docIsB_sound (by decide +kernel), by decide +kernel,
    checkParse_sound _ _ _ _ (by decide +kernel)⟩
  simp only [docPrefixEq, treesOK, treeOK, el, and_true]
  exact ⟨⟨⟨by decide +kernel, by decide +kernel⟩, by decide +kernel, by decide +kernel, by decide +kernel⟩, by simp, by decide +kernel, by decide +kernel, by decide +kernel⟩

/-- **finding (C17-pi-blank)**: `<?t? x?><r/>` — after the target, `?` enters the PI-after state, where
any character but `>` / `?` is appended to the data (the `?` itself is dropped): the parser builds the PI
`t` with data `" x"`; written `<?t  x?>`, the blanks after the target are skipped on the way back. -/
def docPiBlank : List Node := [.pi ['t'] [' ', 'x'], el none "" "r" [] []]

theorem C17_witness_pi_blank :
    parseTok ⟨false⟩ true "<?t? x?><r/>".toList = some docPiBlank ∧
    (preOK false [.pi ['t'] [' ', 'x']] ∧ nodesOK SerCfg.fixed false [] ∧ treesOK docPiBlank) ∧
    (∃ s, reparse SerCfg.fixed LexCfg.fixed TbCfg.fixed docPiBlank = .ok s ∧ s.document = docPiBlank) ∧
    serText docPiBlank = "<?t  x?><r></r>".toList ∧
    reparseTok ⟨false⟩ true docPiBlank = some [.pi ['t'] ['x'], el none "" "r" [] []] := by
  refine ⟨checkParse_sound _ _ _ _ (by decide +kernel), ⟨trivial, trivial, ?_⟩, docIsB_sound (by decide +kernel), by decide +kernel,
    checkParse_sound _ _ _ _ (by decide +kernel)⟩
  simp only [docPiBlank, treesOK, treeOK, el, and_true, true_and]
  exact ⟨⟨⟨by decide +kernel, by decide +kernel⟩, by decide +kernel, by decide +kernel, by decide +kernel⟩, by simp, by decide +kernel, by decide +kernel, by decide +kernel⟩

/-- side finding while proving the `Clean` invariant (registers empty between two tags): an attribute
VALUE read without an attribute name (`<t/x>`: the tag-empty state reconsumes in the
attribute-value-before state) is never cleared — `finish_attribute` returns early on an empty name —
and is prepended to the value of the next attribute of a LATER tag: `<r><t/x><s a='1'/></r>` gives
`a="x1"`.  (Not a round-trip matter: the serializer never writes such text.) -/
theorem C17_side_finding_stale_attr_value :
    parseTok ⟨false⟩ true "<r><t/x><s a='1'/></r>".toList =
      some [el none "" "r" [] [el none "" "t" [] [], el none "" "s" [at' none "" "a" "x1"] []]] :=
  checkParse_sound _ _ _ _ (by decide +kernel)

/-! ### remark: merging character tokens is invisible to the tree builder inside the root element -/

theorem appendText_append (k : List Node) (a b : Str) : appendText (appendText k a) b = appendText k (a ++ b) := by
  unfold appendText
  cases k with
  | nil => simp
  | cons x xs => cases x <;> simp

/-- In the main phase (the only place where the streams above carry text) two character tokens in a
row act on the tree-builder model exactly like the merged token: RcDom's `append` merges text into a
preceding text sibling.  So `mergeChars` in `tbTokens` only undoes the tokenizer model's
one-character-per-token delivery. -/
theorem C17_chars_split_main (cfg : TbCfg) (s : State) (a b : Str) (hp : s.phase = .main) :
    (step cfg s (.chars a)).bind (fun s' => step cfg s' (.chars b)) = step cfg s (.chars (a ++ b)) := by
  unfold step
  simp only [hp]
  unfold appendCur
  cases ho : s.opened with
  | nil => rfl
  | cons f rest =>
    simp only [Except.bind, hp, appendText_append]

end H5V.Props.C17
