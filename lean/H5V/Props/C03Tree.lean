import H5V.Lemmas.HtmlTBSplitToken
/-!
C03 lifted to the **tree**: the model of html5ever's tree builder is insensitive to how a run of
characters is split into character tokens.

The tokenizer-level theorems (`H5V.Props.C03`, `C03End`) say that a chunked session delivers the same
token stream as the one-piece run *up to re-splitting of adjacent character tokens* (the real tokenizer
emits character runs whose boundaries follow the chunk and buffer boundaries; NUL characters are
separate `NullCharacterToken`s and never merged).  This file closes the gap to the final tree:

* `SimS` — the simulation relation on tree-builder states: every `State` field that can influence later
  behaviour is equal (`C03_tb_sim_fields`); the trace of sink calls, the line counter and the **parse
  error log** of the DOM are ignored (the number of `sink.parse_error` calls legitimately depends on the
  split); `pending_table_text` is compared up to re-splitting (same concatenation, same "contains
  non-whitespace" verdict, no empty piece); and the list of active formatting elements holds formatting
  tags only (an invariant of every reachable state, `C03_tb_good_init` + preservation by `SimS`).
* `C03_tb_char_split` — **main lemma**: from `SimS` states, `process_token(chars (a ++ b))` and
  `process_token(chars a); process_token(chars b)` both panic or both succeed, answer alike and end in
  `SimS` states — for ALL 21 insertion modes, foreign content, fragment and template cases, `ignore_lf`,
  any line numbers, any non-empty `a`, `b` (NUL-freeness is not even needed).
* `C03_tb_sim_step` — **congruence**: every token (tags, comments, doctype, EOF, NUL, parse errors,
  characters), delivered with any line numbers to `SimS` states, gives equal answers and `SimS` states.
  This includes the in-table-text flush: flushing `[x, y]` and flushing `[x ++ y]` agree, also under
  foster parenting (DOM text merging).
* `Resplit` — the congruence closure of "replace `chars (a ++ b)` by `chars a, chars b`" (plus arbitrary
  line numbers); `C03_tree_resplit_run`, `C03_tree_resplit` (document), `C03_tree_resplit_fragment`,
  `C03_tree_resplit_end` (with `TreeBuilder::end`), `C03_tree_obs` (equal observable results `Obs`:
  DOM arena + quirks mode + the list of tokenizer-driving answers Script / RawData / Plaintext /
  EncodingIndicator).
* `mergeChars`, `C03_resplit_of_merge_eq`, `C03_tree_merge_obs` — the criterion in the form the tokenizer
  correspondence uses it: two streams that are equal after merging adjacent character tokens (no empty
  character token) give the same observable result; `C03_tb_good_preserved` — the domain of `SimS` is
  closed under every token.
* non-vacuity: `<table>` + "a b" split in the middle, a foster-parenting case with formatting elements,
  the `ignore_lf` case (`decide +kernel`).
-/
namespace H5V.Props.C03
open H5V.Model.Dom (Id QualName Attr NodeOrText SinkOp Output ElementFlags QuirksMode Dom Node)
open H5V.Model.HtmlTB
open H5V.Lemmas.TBSplit

abbrev Str := List Char

/-! ## the relation -/

/-- the simulation relation on tree-builder states (see the header) -/
abbrev SimS (s t : State) : Prop := Sim s t

/-- the states the relation is about: formatting list holds formatting tags, no empty piece of pending
table text (both hold initially and are preserved by every token) -/
abbrev GoodS (s : State) : Prop := Good s

/-- **what `SimS` fixes**: every field of `struct TreeBuilder` except the pending table text (related by
`PendRel`), the line counter, and of the sink the whole arena and the quirks mode -/
theorem C03_tb_sim_fields {s t : State} (h : SimS s t) :
    s.opts = t.opts ∧ s.mode = t.mode ∧ s.origMode = t.origMode ∧ s.templateModes = t.templateModes ∧
    s.quirksMode = t.quirksMode ∧ s.docHandle = t.docHandle ∧ s.openElems = t.openElems ∧
    s.activeFormatting = t.activeFormatting ∧ s.headElem = t.headElem ∧ s.formElem = t.formElem ∧
    s.framesetOk = t.framesetOk ∧ s.ignoreLf = t.ignoreLf ∧ s.fosterParenting = t.fosterParenting ∧
    s.contextElem = t.contextElem ∧ s.dom.nodes = t.dom.nodes ∧ s.dom.quirks = t.dom.quirks ∧
    s.pendingTableText.flatMap (·.2) = t.pendingTableText.flatMap (·.2) ∧
    cns s.pendingTableText = cns t.pendingTableText := by
  obtain ⟨_, tr, cl, er, pt, rfl, hp⟩ := h
  exact ⟨rfl, rfl, rfl, rfl, rfl, rfl, rfl, rfl, rfl, rfl, rfl, rfl, rfl, rfl, rfl, rfl, hp.cat, hp.cns⟩

theorem C03_tb_sim_equiv : (∀ s, GoodS s → SimS s s) ∧ (∀ s t, SimS s t → SimS t s) ∧
    (∀ s t u, SimS s t → SimS t u → SimS s u) ∧ (∀ s t, SimS s t → GoodS s ∧ GoodS t) :=
  ⟨fun _ h => h.sim, fun _ _ h => h.symm, fun _ _ _ h h' => h.trans h', fun _ _ h => ⟨h.good, h.symm.good⟩⟩

/-- a freshly constructed tree builder is in the domain of the relation -/
theorem C03_tb_good_init (opts : Opts) : GoodS (State.init opts) :=
  ⟨(fun e he => by cases he), (fun p hp => by cases hp)⟩

/-- the outcome of two runs: both panic, or equal answers and `SimS` states -/
abbrev SameOutcome {α : Type} (x y : Except String (α × State)) : Prop := RelR (fun _ => True) x y

theorem C03_same_outcome_iff {α : Type} (x y : Except String (α × State)) :
    SameOutcome x y ↔ (∃ e e', x = .error e ∧ y = .error e') ∨
      (∃ a s t, x = .ok (a, s) ∧ y = .ok (a, t) ∧ SimS s t) := by
  constructor
  · intro h
    rcases h.inv with ⟨e, e', h1, h2⟩ | ⟨a, s, t, h1, h2, _, h3⟩
    · exact Or.inl ⟨e, e', h1, h2⟩
    · exact Or.inr ⟨a, s, t, h1, h2, h3⟩
  · rintro (⟨e, e', rfl, rfl⟩ | ⟨a, s, t, rfl, rfl, h⟩)
    · trivial
    · exact ⟨rfl, trivial, h⟩

/-! ## the main lemma and the congruence -/

/-- **C03, tree builder, main lemma**: a character token delivered in two pieces -/
theorem C03_tb_char_split (a b : Str) (ha : a ≠ []) (hb : b ≠ []) (l l1 l2 : Nat) (s t : State) (hst : SimS s t) :
    SameOutcome (processToken (.chars (a ++ b)) l s)
      ((processToken (.chars a) l1 >>= fun _ => processToken (.chars b) l2) t) :=
  processToken_split ha hb l l1 l2 hst

/-- **C03, tree builder, congruence**: every token respects `SimS` (line numbers are irrelevant) -/
theorem C03_tb_sim_step (tok : TokToken) (l l' : Nat) (s t : State) (hst : SimS s t) :
    SameOutcome (processToken tok l s) (processToken tok l' t) :=
  processToken_rel inTableText_ok flushText_ok tok l l' s t hst

/-- `TreeBuilder::end` respects `SimS` -/
theorem C03_tb_sim_end (s t : State) (hst : SimS s t) : SameOutcome (finishTB s) (finishTB t) :=
  finishTB_resp s t hst

/-- a character token is always answered with `Continue` -/
theorem C03_tb_chars_continue (x : Str) (l : Nat) (s : State) (hg : GoodS s) {r : SinkResult} {s' : State}
    (h : processToken (.chars x) l s = .ok (r, s')) : r = .continue_ := by
  rw [processToken_apply, bind_apply] at h
  obtain ⟨tr, h1⟩ := lineIf_apply l s.currentLine s
  rw [h1] at h
  simp only at h
  have hg' : Good (upd s tr s.currentLine s.dom.errorsRev s.pendingTableText) := (sim_upd_self hg.sim tr).symm.good
  rw [processTokenRest_chars' hg'] at h
  split at h
  · cases h; rfl
  · rename_i hne
    have hz : dropIgnoredLf (upd s tr s.currentLine s.dom.errorsRev s.pendingTableText).ignoreLf x ≠ [] := by
      intro h0; rw [h0] at hne; exact hne rfl
    exact (PTC_cont (good_clearLf hg') ⟨_, _, rfl, hz⟩ (by simp) h).1

/-! ## token streams up to re-splitting of character tokens -/

/-- the congruence closure of "replace `chars (a ++ b)` by `chars a, chars b`" (`a`, `b` non-empty);
line numbers are arbitrary -/
inductive Resplit : List (TokToken × Nat) → List (TokToken × Nat) → Prop
  | lines {ts ts' : List (TokToken × Nat)} : ts.map (·.1) = ts'.map (·.1) → Resplit ts ts'
  | split (a b : Str) (l l1 l2 : Nat) : a ≠ [] → b ≠ [] →
      Resplit [(.chars (a ++ b), l)] [(.chars a, l1), (.chars b, l2)]
  | symm {x y : List (TokToken × Nat)} : Resplit x y → Resplit y x
  | trans {x y z : List (TokToken × Nat)} : Resplit x y → Resplit y z → Resplit x z
  | append {x y x' y' : List (TokToken × Nat)} : Resplit x y → Resplit x' y' → Resplit (x ++ x') (y ++ y')

theorem Resplit.refl (ts : List (TokToken × Nat)) : Resplit ts ts := .lines rfl

theorem processTokens_append : ∀ (l1 l2 : List (TokToken × Nat)) (acc : List SinkResult),
    processTokens (l1 ++ l2) acc = processTokens l1 acc >>= fun acc' => processTokens l2 acc'
  | [], l2, acc => by simp [processTokens]
  | (t, line) :: rest, l2, acc => by
    simp only [List.cons_append, processTokens, bind_assoc]
    congr 1
    funext r
    exact processTokens_append rest l2 _

/-- the two token lists drive the tree builder alike -/
def RunAlike (ts ts' : List (TokToken × Nat)) : Prop :=
  ∀ acc s t, SimS s t → SameOutcome (processTokens ts acc s) (processTokens ts' acc t)

theorem runAlike_split (a b : Str) (l l1 l2 : Nat) (ha : a ≠ []) (hb : b ≠ []) :
    RunAlike [(.chars (a ++ b), l)] [(.chars a, l1), (.chars b, l2)] := by
  intro acc s t hst
  have h := C03_tb_char_split a b ha hb l l1 l2 s t hst
  simp only [processTokens]
  rw [bind_apply] at h
  rw [bind_apply, bind_apply]
  cases h1 : processToken (.chars a) l1 t with
  | error e =>
    rw [h1] at h
    cases hL : processToken (.chars (a ++ b)) l s with
    | error e' => trivial
    | ok v => rw [hL] at h; exact h.elim
  | ok v1 =>
    obtain ⟨r1, t1⟩ := v1
    rw [h1] at h
    simp only at h ⊢
    have hr1 : r1 = .continue_ := C03_tb_chars_continue a l1 t hst.symm.good h1
    subst hr1
    simp only [beq_self_eq_true, if_true]
    rw [bind_apply]
    cases hL : processToken (.chars (a ++ b)) l s with
    | error e' =>
      rw [hL] at h
      cases h2 : processToken (.chars b) l2 t1 with
      | error e'' => trivial
      | ok v2 => rw [h2] at h; exact h.elim
    | ok v =>
      obtain ⟨r, s'⟩ := v
      rw [hL] at h
      cases h2 : processToken (.chars b) l2 t1 with
      | error e'' => rw [h2] at h; exact h.elim
      | ok v2 =>
        obtain ⟨r2, t2⟩ := v2
        rw [h2] at h
        obtain ⟨hrr, _, hs⟩ := h
        subst hrr
        exact ⟨rfl, trivial, hs⟩

/-- **re-split token streams drive the tree builder alike** -/
theorem C03_tree_resplit_run {ts1 ts2 : List (TokToken × Nat)} (h : Resplit ts1 ts2) : RunAlike ts1 ts2 := by
  induction h with
  | lines hl => exact fun acc s t hst => processTokens_rel inTableText_ok flushText_ok _ _ hl acc s t hst
  | split a b l l1 l2 ha hb => exact runAlike_split a b l l1 l2 ha hb
  | symm _ ih => exact fun acc s t hst => (ih acc t s hst.symm).symm
  | trans _ _ ih1 ih2 => exact fun acc s t hst => (ih1 acc s s hst.left).trans (ih2 acc s t hst)
  | append _ _ ih1 ih2 =>
    intro acc s t hst
    rw [processTokens_append, processTokens_append]
    exact relR_bind (ih1 acc s t hst) (fun acc' s' t' _ hs' => ih2 acc' s' t' hs')

/-! ## whole parses -/

/-- the observable result of a tree-builder run: the abstract DOM (arena and quirks mode; **not** the
parse-error log) and the answers that drive the tokenizer (Script, RawData, Plaintext,
EncodingIndicator), newest first -/
structure Obs where
  nodes : Array Node
  quirks : QuirksMode
  pauses : List SinkResult
deriving DecidableEq

def obsOf (r : Except String (List SinkResult × State)) : Option Obs :=
  match r with
  | .ok (p, s) => some ⟨s.dom.nodes, s.dom.quirks, p⟩
  | .error _ => none

theorem obsOf_eq {x y : Except String (List SinkResult × State)} (h : SameOutcome x y) : obsOf x = obsOf y := by
  rcases (C03_same_outcome_iff x y).mp h with ⟨e, e', rfl, rfl⟩ | ⟨a, s, t, rfl, rfl, hs⟩
  · rfl
  · simp only [obsOf, hs.nodes, hs.quirks]

/-- a token-level parse: constructor `init`, the tokens, optionally `TreeBuilder::end` -/
def parseWith (init : M Unit) (finish : Bool) (ts : List (TokToken × Nat)) : M (List SinkResult) := do
  init
  let r ← processTokens ts []
  if finish then finishTB
  pure r

theorem parseWith_alike {init : M Unit} (hinit : Resp init) (finish : Bool) {ts1 ts2 : List (TokToken × Nat)}
    (h : Resplit ts1 ts2) (s t : State) (hst : SimS s t) :
    SameOutcome (parseWith init finish ts1 s) (parseWith init finish ts2 t) := by
  unfold parseWith
  refine relR_bind (hinit s t hst) (fun _ s1 t1 _ h1 => ?_)
  refine relR_bind (C03_tree_resplit_run h [] s1 t1 h1) (fun r s2 t2 _ h2 => ?_)
  cases finish with
  | false => exact ⟨rfl, trivial, h2⟩
  | true =>
    simp only [if_true]
    exact relR_bind (finishTB_resp s2 t2 h2) (fun _ s3 t3 _ h3 => ⟨rfl, trivial, h3⟩)

/-- **C03 lifted to the tree, documents**: two token streams that differ only in how character runs are
cut into tokens (and in line numbers) give — from `TreeBuilder::new`, with or without `end()` — both
a panic, or the same answers and `SimS` final states -/
theorem C03_tree_resplit (opts : Opts) (finish : Bool) {ts1 ts2 : List (TokToken × Nat)} (h : Resplit ts1 ts2) :
    SameOutcome (parseWith newTB finish ts1 (State.init opts)) (parseWith newTB finish ts2 (State.init opts)) :=
  parseWith_alike newTB_resp finish h _ _ (C03_tb_good_init opts).sim

/-- **C03 lifted to the tree, fragments**: the same from `TreeBuilder::new_for_fragment` with any context
element / form element, started in any state of the domain (e.g. a sink that already holds the context) -/
theorem C03_tree_resplit_fragment (ctx : Id) (form : Option Id) (finish : Bool) (s0 : State) (hg : GoodS s0)
    {ts1 ts2 : List (TokToken × Nat)} (h : Resplit ts1 ts2) :
    SameOutcome (parseWith (newForFragment ctx form) finish ts1 s0) (parseWith (newForFragment ctx form) finish ts2 s0) :=
  parseWith_alike (newForFragment_resp ctx form) finish h _ _ hg.sim

/-- the same with `TreeBuilder::end` spelled out -/
theorem C03_tree_resplit_end (opts : Opts) {ts1 ts2 : List (TokToken × Nat)} (h : Resplit ts1 ts2) :
    SameOutcome (parseWith newTB true ts1 (State.init opts)) (parseWith newTB true ts2 (State.init opts)) :=
  C03_tree_resplit opts true h

/-- **the observable results are equal**: same DOM arena, same quirks mode, same tokenizer-driving answers
(or both runs panic) -/
theorem C03_tree_obs (opts : Opts) (finish : Bool) {ts1 ts2 : List (TokToken × Nat)} (h : Resplit ts1 ts2) :
    obsOf (parseWith newTB finish ts1 (State.init opts)) = obsOf (parseWith newTB finish ts2 (State.init opts)) :=
  obsOf_eq (C03_tree_resplit opts finish h)

theorem C03_tree_obs_fragment (ctx : Id) (form : Option Id) (finish : Bool) (s0 : State) (hg : GoodS s0)
    {ts1 ts2 : List (TokToken × Nat)} (h : Resplit ts1 ts2) :
    obsOf (parseWith (newForFragment ctx form) finish ts1 s0) = obsOf (parseWith (newForFragment ctx form) finish ts2 s0) :=
  obsOf_eq (C03_tree_resplit_fragment ctx form finish s0 hg h)

/-- the domain of the relation is closed under every token (so it holds in every reachable state) -/
theorem C03_tb_good_preserved (tok : TokToken) (l : Nat) (s : State) (hg : GoodS s) {r : SinkResult} {s' : State}
    (h : processToken tok l s = .ok (r, s')) : GoodS s' := by
  have := C03_tb_sim_step tok l l s s hg.sim
  rw [h] at this
  exact this.2.2.good

/-! ## the criterion of the tokenizer correspondence: equal after merging adjacent character tokens -/

/-- merge adjacent character tokens, forget the line numbers -/
def mergeChars : List (TokToken × Nat) → List TokToken
  | [] => []
  | (.chars x, _) :: rest =>
    match mergeChars rest with
    | .chars y :: r => .chars (x ++ y) :: r
    | r => .chars x :: r
  | (t, _) :: rest => t :: mergeChars rest

/-- no empty character token (the tokenizer never emits one) -/
def CharsNonempty (ts : List (TokToken × Nat)) : Prop := ∀ x l, (TokToken.chars x, l) ∈ ts → x ≠ []

theorem mergeChars_cons_chars (x : Str) (l : Nat) (rest : List (TokToken × Nat)) :
    mergeChars ((.chars x, l) :: rest) =
      match mergeChars rest with
      | .chars y :: r => .chars (x ++ y) :: r
      | r => .chars x :: r := by
  rw [mergeChars]

theorem mergeChars_head_nonempty : ∀ (ts : List (TokToken × Nat)), CharsNonempty ts →
    ∀ y r, mergeChars ts = .chars y :: r → y ≠ []
  | [], _, _, _, h => by simp [mergeChars] at h
  | (t, l) :: rest, hne, y, r, h => by
    cases t with
    | chars x =>
      have hx : x ≠ [] := hne x l (List.mem_cons_self ..)
      rw [mergeChars_cons_chars] at h
      split at h
      · simp only [List.cons.injEq, TokToken.chars.injEq] at h
        rw [← h.1]; simp [hx]
      · simp only [List.cons.injEq, TokToken.chars.injEq] at h
        rw [← h.1]; exact hx
    | doctype d => simp [mergeChars] at h
    | tag t => simp [mergeChars] at h
    | comment c => simp [mergeChars] at h
    | nullChar => simp [mergeChars] at h
    | eof => simp [mergeChars] at h
    | parseError m => simp [mergeChars] at h

/-- every stream is a re-split of its merged form -/
theorem resplit_merge : ∀ (ts : List (TokToken × Nat)), CharsNonempty ts →
    Resplit ts ((mergeChars ts).map (·, 0))
  | [], _ => Resplit.refl _
  | (t, l) :: rest, hne => by
    have hrest : CharsNonempty rest := fun x l' h => hne x l' (List.mem_cons_of_mem _ h)
    have ih := resplit_merge rest hrest
    have hcons : ∀ t', Resplit ((t', l) :: rest) ((t', 0) :: (mergeChars rest).map (·, 0)) := fun t' =>
      Resplit.append (x := [(t', l)]) (y := [(t', 0)]) (.lines rfl) ih
    cases t with
    | chars x =>
      have hx : x ≠ [] := hne x l (List.mem_cons_self ..)
      rw [mergeChars_cons_chars]
      cases hm : mergeChars rest with
      | nil => simpa [hm] using hcons (.chars x)
      | cons t2 r =>
        cases t2 with
        | chars y =>
          have hy : y ≠ [] := mergeChars_head_nonempty rest hrest y r hm
          have h1 := hcons (.chars x)
          rw [hm] at h1
          refine h1.trans ?_
          exact Resplit.append (x := [(.chars x, 0), (.chars y, 0)]) (y := [(.chars (x ++ y), 0)])
            (x' := r.map (·, 0)) (y' := r.map (·, 0)) (Resplit.split x y 0 0 0 hx hy).symm (Resplit.refl _)
        | doctype d => simpa [hm] using hcons (.chars x)
        | tag t => simpa [hm] using hcons (.chars x)
        | comment c => simpa [hm] using hcons (.chars x)
        | nullChar => simpa [hm] using hcons (.chars x)
        | eof => simpa [hm] using hcons (.chars x)
        | parseError m => simpa [hm] using hcons (.chars x)
    | doctype d => simpa [mergeChars] using hcons (.doctype d)
    | tag t => simpa [mergeChars] using hcons (.tag t)
    | comment c => simpa [mergeChars] using hcons (.comment c)
    | nullChar => simpa [mergeChars] using hcons .nullChar
    | eof => simpa [mergeChars] using hcons .eof
    | parseError m => simpa [mergeChars] using hcons (.parseError m)

/-- **two token streams that are equal after merging adjacent character tokens are re-splits of each
other** — the comparison the tokenizer correspondence makes -/
theorem C03_resplit_of_merge_eq {ts1 ts2 : List (TokToken × Nat)} (h1 : CharsNonempty ts1) (h2 : CharsNonempty ts2)
    (h : mergeChars ts1 = mergeChars ts2) : Resplit ts1 ts2 := by
  have a := resplit_merge ts1 h1
  have b := resplit_merge ts2 h2
  rw [h] at a
  exact a.trans b.symm

/-- **C03 lifted to the tree, in the form of the tokenizer correspondence**: equal after merging adjacent
character tokens ⇒ same observable result of the parse -/
theorem C03_tree_merge_obs (opts : Opts) (finish : Bool) {ts1 ts2 : List (TokToken × Nat)}
    (h1 : CharsNonempty ts1) (h2 : CharsNonempty ts2) (h : mergeChars ts1 = mergeChars ts2) :
    obsOf (parseWith newTB finish ts1 (State.init opts)) = obsOf (parseWith newTB finish ts2 (State.init opts)) :=
  C03_tree_obs opts finish (C03_resplit_of_merge_eq h1 h2 h)

/-! ## non-vacuity -/

def sTag (n : String) : TokToken × Nat := (.tag { kind := .startTag, name := n.toList }, 1)
def eTag (n : String) : TokToken × Nat := (.tag { kind := .endTag, name := n.toList }, 1)

/-- `<table>` then "a b" in one piece / split in the middle, then `</table>`, EOF -/
def exOne : List (TokToken × Nat) := [sTag "table", (.chars "a b".toList, 1), eTag "table", (.eof, 2)]
def exTwo : List (TokToken × Nat) := [sTag "table", (.chars "a ".toList, 1), (.chars "b".toList, 2), eTag "table", (.eof, 3)]

theorem exOne_resplit_exTwo : Resplit exOne exTwo :=
  Resplit.append (x := [sTag "table"]) (y := [sTag "table"]) (Resplit.refl _)
    (Resplit.append (x := [(.chars ("a ".toList ++ "b".toList), 1)]) (y := [(.chars "a ".toList, 1), (.chars "b".toList, 2)])
      (Resplit.split _ _ 1 1 2 (by decide) (by decide)) (.lines (by decide)))

/-- both runs succeed (the theorem is not about two panics), the foster-parented text is ONE text node
"a b" before the table in both, and the observable results are equal -/
example : (obsOf (parseWith newTB true exOne (State.init {}))).isSome = true ∧
    obsOf (parseWith newTB true exOne (State.init {})) = obsOf (parseWith newTB true exTwo (State.init {})) := by
  decide +kernel

/-- … and this instance is what `C03_tree_obs` gives -/
example : obsOf (parseWith newTB true exOne (State.init {})) = obsOf (parseWith newTB true exTwo (State.init {})) :=
  C03_tree_obs {} true exOne_resplit_exTwo

/-- the parse-error logs DO differ under a split (one "Unexpected token" per character token in
"in frameset"), which is why `Obs` leaves them out -/
example :
    let run := fun ts => match parseWith newTB false ts (State.init {}) with
      | .ok (_, s) => s.dom.errorsRev.length | .error _ => 0
    run [sTag "frameset", (.chars "xy".toList, 1)] ≠ run [sTag "frameset", (.chars "x".toList, 1), (.chars "y".toList, 1)] := by
  decide +kernel

/-- formatting elements reconstructed under foster parenting, text split at every position -/
example :
    let pre := [sTag "b", sTag "p", eTag "b", sTag "table", sTag "tr"]
    let run := fun mid => obsOf (parseWith newTB true (pre ++ mid ++ [eTag "table", (.eof, 9)]) (State.init {}))
    (run [(.chars " x y".toList, 1)]).isSome = true ∧
    run [(.chars " x y".toList, 1)] = run [(.chars " ".toList, 1), (.chars "x y".toList, 1)] ∧
    run [(.chars " x y".toList, 1)] = run [(.chars " x".toList, 1), (.chars " ".toList, 2), (.chars "y".toList, 3)] := by
  decide +kernel

/-- `ignore_lf`: after `<pre>` the line feed may arrive alone or glued to the following text -/
example :
    let run := fun mid => obsOf (parseWith newTB true ([sTag "pre"] ++ mid ++ [(.eof, 9)]) (State.init {}))
    run [(.chars "\n\nab".toList, 1)] = run [(.chars "\n".toList, 1), (.chars "\nab".toList, 1)] ∧
    run [(.chars "\n\nab".toList, 1)] = run [(.chars "\n\na".toList, 1), (.chars "b".toList, 1)] := by
  decide +kernel

end H5V.Props.C03

#print axioms H5V.Props.C03.C03_tb_sim_fields
#print axioms H5V.Props.C03.C03_tb_sim_equiv
#print axioms H5V.Props.C03.C03_tb_char_split
#print axioms H5V.Props.C03.C03_tb_sim_step
#print axioms H5V.Props.C03.C03_tb_sim_end
#print axioms H5V.Props.C03.C03_tb_chars_continue
#print axioms H5V.Props.C03.C03_tree_resplit_run
#print axioms H5V.Props.C03.C03_tree_resplit
#print axioms H5V.Props.C03.C03_tree_resplit_fragment
#print axioms H5V.Props.C03.C03_tree_resplit_end
#print axioms H5V.Props.C03.C03_tree_obs
#print axioms H5V.Props.C03.C03_tree_obs_fragment
#print axioms H5V.Props.C03.C03_tb_good_preserved
#print axioms H5V.Props.C03.C03_resplit_of_merge_eq
#print axioms H5V.Props.C03.C03_tree_merge_obs
