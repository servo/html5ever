import H5V.Props.C05
import H5V.Lemmas.DomCloneDeep
/-!
C20 — "clone an option into a selectedcontent" makes **deep** copies.  `C20_clone_option_partial`
(`Props/C20.lean`) describes the first level; here: each copy's subtree is isomorphic to the
original child's subtree, with fresh ids, template contents cloned recursively, the originals
untouched.

* `Tree`, `treeAux d n x` (`Lemmas/DomCloneDeep.lean`): the subtree below `x` with the arena ids
  forgotten — node data with the template link erased, the tree of the template contents, the trees
  of the children in order — cut at depth `n`.  "The subtrees below `k` in `d'` and below `x` in `d`
  are isomorphic" is `∀ n, treeAux d' n k = treeAux d n x`.
* `TcValid d`: template-contents links name nodes of the arena.  It holds of `Dom.new` and is
  preserved by *every* sink call (`C20_tcValid_step`, no contract needed), hence holds of every
  reachable arena (`C20_reachable_tcValid`); it is a separate hypothesis of the theorems below, not
  part of `Inv`.  Without it a dangling link of the original could come to name a node allocated
  during the copy.
* `NewClosed n d'`: the nodes `≥ n` link — by child lists and template links — only to nodes `≥ n`.
  With `n = d.size` this is "the copies consist of fresh nodes only and share nothing with the
  originals, template contents included" (`C20_copy_ids_fresh`).

Theorems: `C20_clone_subtree_deep` (`clone_with_subtree`), `C20_clone_option` (the mirroring call,
all levels), `C20_copy_ids_fresh`,
`C20_clone_template_not_shared`, and `C05_mirror_inv_preserved` (the invariant is re-established by
`maybe_clone_an_option_into_selectedcontent` too — this was already part of `C05_inv_preserved`;
what C05 excludes with `NotMirror` is *panic-freedom* of the mirror call, see the note there).
-/
namespace H5V.Props.C20
open H5V.Model.Dom H5V.Lemmas.Dom

/-- all ids of the subtree below `x` — the node, its template contents, its children, recursively —
to depth `n` -/
def idsAux (d : Dom) : Nat → Id → List Id
  | 0, _ => []
  | n + 1, x => x :: (((d.templateContentsOf x).toList ++ d.childrenOf x).flatMap (idsAux d n))

/-- **every node of a subtree hanging off a fresh node is fresh** when the new part of the arena is
closed -/
theorem C20_copy_ids_fresh {n0 : Nat} {d' : Dom} (hc : NewClosed n0 d') :
    ∀ n k, n0 ≤ k → ∀ y ∈ idsAux d' n k, n0 ≤ y := by
  intro n
  induction n with
  | zero => intro k _ y hy; cases hy
  | succ n ih =>
    intro k hk y hy
    simp only [idsAux, List.mem_cons, List.mem_flatMap, List.mem_append, Option.mem_toList] at hy
    rcases hy with e | ⟨z, hz, hyz⟩
    · rw [e]; exact hk
    · rcases hz with hz | hz
      · exact ih z ((hc k hk).2 z hz) y hyz
      · exact ih z ((hc k hk).1 z hz) y hyz

/-- **`clone_with_subtree` (repaired) makes a deep copy.**  On a well-formed arena with valid
template links, whenever the call returns:
* the invariant and link validity hold again;
* the copy `k` is a fresh, parentless node, and the subtree below it is isomorphic to the subtree
  below `x` (data, children in order, template contents recursively) — at every depth;
* the new nodes link only to new nodes: nothing of the copy is shared with an old node;
* no old node changed: parent, data, child list — hence the tree below every old node — are as before. -/
theorem C20_clone_subtree_deep {d d' : Dom} {x k : Id} {fuel : Nat} (hi : Inv d) (ht : TcValid d)
    (h : d.cloneFixed fuel x = .ok (d', k)) :
    Inv d' ∧ TcValid d' ∧
    (∀ n, treeAux d' n k = treeAux d n x) ∧
    d.size ≤ k ∧ k < d'.size ∧ d'.parentOf k = none ∧
    NewClosed d.size d' ∧
    (∀ y, y < d.size → d'.parentOf y = d.parentOf y ∧ d'.dataOf y = d.dataOf y ∧
      d'.childrenOf y = d.childrenOf y) ∧
    (∀ n y, y < d.size → treeAux d' n y = treeAux d n y) := by
  have ds := cloneFixed_deep fuel d x d' k hi.wf hi.kinds ht h
  have sp := ds.spec
  exact ⟨⟨sp.wf, sp.kinds⟩, ds.tcv, ds.iso, sp.fresh, sp.valid, sp.root, ds.closed,
    fun y hy => ⟨sp.frame.parent y hy, sp.frame.data y hy, sp.frame.children y hy (by simp)⟩,
    tree_frame sp.frame hi.wf ht⟩

/-- template contents are **cloned, not shared**: a template element inside the copy links to a
fresh contents node, while every old template element keeps its old one -/
theorem C20_clone_template_not_shared {d d' : Dom} {x k : Id} {fuel : Nat} (hi : Inv d) (ht : TcValid d)
    (h : d.cloneFixed fuel x = .ok (d', k)) :
    (∀ n, ∀ y ∈ idsAux d' n k, ∀ t, d'.templateContentsOf y = some t → d.size ≤ t) ∧
    (∀ y t, y < d.size → d'.templateContentsOf y = some t → t < d.size) := by
  obtain ⟨_, _, _, hk, _, _, hc, hold, _⟩ := C20_clone_subtree_deep hi ht h
  refine ⟨fun n y hy t htc => (hc y (C20_copy_ids_fresh hc n k hk y hy)).2 t htc, fun y t hy htc => ?_⟩
  rw [templateContentsOf_congr (hold y hy).2.1] at htc
  exact ht y t htc

/-- **"Clone an option into a selectedcontent" (repaired, `.fixed`), complete.**  Whenever
`maybe_clone_an_option_into_selectedcontent` finds a `selectedcontent` `sc` to mirror into and
returns:
* the invariant (`Inv`: consistent parent links, acyclic, node kinds) and link validity hold again;
* the children of `sc` are, in order, **deep copies** of the option's children: the list of trees
  below them equals the list of trees below the option's children as they were before the call, at
  every depth (data, children in order, template contents recursively);
* the copies are fresh nodes pointing to `sc`, and the whole new part of the arena links only to new
  nodes (no sharing with the originals, template contents included);
* the old children of `sc` are detached; every other node that existed keeps data, children and
  parent (the only old child list that changes is that of `sc`). -/
theorem C20_clone_option {d d' : Dom} {o sc : Id} (hi : Inv d) (htv : TcValid d)
    (ht : d.cloneTarget .fixed o = .ok (some sc)) (h : d.maybeCloneOption .fixed o = .ok d') :
    Inv d' ∧ TcValid d' ∧
    (∀ n, (d'.childrenOf sc).map (treeAux d' n) = (d.childrenOf o).map (treeAux d n)) ∧
    (∀ k ∈ d'.childrenOf sc, d.size ≤ k ∧ d'.parentOf k = some sc) ∧
    NewClosed d.size d' ∧
    (∀ c ∈ d.childrenOf sc, d'.parentOf c = none) ∧
    (∀ y, y < d.size → d'.dataOf y = d.dataOf y) ∧
    (∀ y, y < d.size → y ≠ sc → d'.childrenOf y = d.childrenOf y) ∧
    (∀ y, y < d.size → y ∉ d.childrenOf sc → d'.parentOf y = d.parentOf y) := by
  obtain ⟨a, _, b, c, e, f, g⟩ := C20_clone_option_partial hi ht h
  simp only [Dom.maybeCloneOption, bind, Except.bind, ht] at h
  obtain ⟨t1, t2, t3⟩ := cloneOptionInto_fixed_deep hi.wf hi.kinds htv (cloneTarget_fixed_element ht) h
  exact ⟨a, t1, t3, b, t2, c, e, f, g⟩

/-- every node of every copy is fresh (`≥` the old arena size), to any depth, template contents
included -/
theorem C20_clone_option_ids_fresh {d d' : Dom} {o sc : Id} (hi : Inv d) (htv : TcValid d)
    (ht : d.cloneTarget .fixed o = .ok (some sc)) (h : d.maybeCloneOption .fixed o = .ok d') :
    ∀ k ∈ d'.childrenOf sc, ∀ n, ∀ y ∈ idsAux d' n k, d.size ≤ y := by
  obtain ⟨_, _, _, hk, hc, _⟩ := C20_clone_option hi htv ht h
  exact fun k hkm n y hy => C20_copy_ids_fresh hc n k (hk k hkm).1 y hy

/-- link validity is re-established by the mirror call in every case -/
theorem C20_clone_option_tcValid {d d' : Dom} {o : Id} (hi : Inv d) (htv : TcValid d)
    (h : d.maybeCloneOption .fixed o = .ok d') : TcValid d' :=
  htv.maybeCloneOption_fixed hi.wf hi.kinds h

theorem C20_tcValid_new : TcValid Dom.new := tcValid_new

/-- `create_element` keeps template links valid (the contents node is allocated first) -/
theorem C20_tcValid_createElement {d : Dom} (ht : TcValid d) (name : QualName) (attrs : List Attr)
    (flags : ElementFlags) : TcValid (d.createElement name attrs flags).1 := ht.createElement name attrs flags

/-- **`TcValid` is an invariant of the sink**: every call that returns — within the contract or not —
keeps template links valid -/
theorem C20_tcValid_step {d d' : Dom} {op : SinkOp} {out : Output} (hi : Inv d) (ht : TcValid d)
    (h : d.apply op = .ok (d', out)) : TcValid d' := by
  rw [apply_eq] at h
  exact ht.applyV hi.wf hi.kinds h

/-- every DOM reachable from `RcDom::default()` by contract-abiding calls has valid template links —
so the hypothesis `TcValid d` of `C20_clone_option` / `C20_clone_subtree_deep` holds wherever `Inv d`
is known from `C20_reachable_inv` -/
theorem C20_reachable_tcValid {d : Dom} {ops : List SinkOp} (hr : Run Dom.new ops d) : TcValid d := by
  have : ∀ {d0 d1 : Dom} {ops : List SinkOp}, Run d0 ops d1 → Inv d0 → TcValid d0 → TcValid d1 := by
    intro d0 d1 ops hr
    induction hr with
    | nil => exact fun _ ht => ht
    | cons hc ha _ ih => exact fun hi ht => ih (C20_parent_links_step hi hc ha) (C20_tcValid_step hi ht ha)
  exact this hr inv_new tcValid_new

/-- `C20_clone_option` for reachable arenas: no hypothesis beyond reachability -/
theorem C20_clone_option_reachable {d d' : Dom} {ops : List SinkOp} {o sc : Id} (hr : Run Dom.new ops d)
    (ht : d.cloneTarget .fixed o = .ok (some sc)) (h : d.maybeCloneOption .fixed o = .ok d') :
    Inv d' ∧ TcValid d' ∧
    (∀ n, (d'.childrenOf sc).map (treeAux d' n) = (d.childrenOf o).map (treeAux d n)) ∧
    (∀ k ∈ d'.childrenOf sc, d.size ≤ k ∧ d'.parentOf k = some sc) ∧
    NewClosed d.size d' :=
  let r := C20_clone_option (C20_reachable_inv hr) (C20_reachable_tcValid hr) ht h
  ⟨r.1, r.2.1, r.2.2.1, r.2.2.2.1, r.2.2.2.2.1⟩

/-- **C05 corollary**: the invariant is re-established by
`maybe_clone_an_option_into_selectedcontent` like by every other contract-abiding call
(`C05_inv_preserved` has no `NotMirror` hypothesis; restated here for the mirror call alone, from
`Inv` and nothing else — not even the contract).  What `C05_no_panic_partial` / `C05_run` exclude with
`NotMirror` is *panic-freedom* of the mirror call (fuel adequacy of its three bounded loops), which is
not a consequence of `Inv` and the contract alone: the contract allows appending a template element
into its own template contents, on which `clone_with_subtree` does not terminate. -/
theorem C05_mirror_inv_preserved {d d' : Dom} {o : Id} {out : Output} (hi : Inv d)
    (h : d.apply (.maybeCloneAnOptionIntoSelectedcontent o) = .ok (d', out)) : Inv d' := by
  simp only [Dom.apply, Dom.applyV, Dom.cloneVariant, bind, Except.bind] at h
  cases hm : d.maybeCloneOption .fixed o with
  | error e => simp [hm] at h
  | ok d1 =>
    simp only [hm, Except.ok.injEq, Prod.mk.injEq] at h
    obtain ⟨e1, _⟩ := h; subst e1
    obtain ⟨a, b⟩ := maybeCloneOption_fixed_inv hi.wf hi.kinds hm
    exact ⟨a, b⟩

/-! ### non-vacuity -/

/-- `exSelect` (`Props/C20.lean`): `<select><button><selectedcontent>old</selectedcontent></button>
<option selected>A<b>B</b>` — reachable, hence `Inv`; no template, hence `TcValid` -/
def exSelectOps : List SinkOp :=
  [ .createElement (qn sSelect) [] {}, .append 0 (.node 1), .createElement (qn ['b','u','t','t','o','n']) [] {},
    .append 1 (.node 2), .createElement (qn sSelectedcontent) [] {}, .append 2 (.node 3),
    .append 3 (.text ['o','l','d']), .createElement (qn sOption) [at' sSelected []] {}, .append 1 (.node 5),
    .append 5 (.text ['A']), .createElement (qn ['b']) [] {}, .append 5 (.node 7), .append 7 (.text ['B']) ]

theorem exSelect_inv : Inv exSelect :=
  C20_reachable_inv (ops := exSelectOps) (run_of_check (by decide))

theorem exSelect_tcValid : TcValid exSelect :=
  C20_reachable_tcValid (ops := exSelectOps) (run_of_check (by decide))

/-- the hypotheses of `C20_clone_option` are satisfiable and the call returns -/
example : (exSelect.maybeCloneOption .fixed 5).toOption.isSome = true ∧
    exSelect.cloneTarget .fixed 5 = .ok (some 3) := ⟨by decide, by decide⟩

/-- … and the conclusion is not vacuous: two copies (of the text `A` and of `<b>B</b>`), the second
with a copied child -/
example : (match exSelect.maybeCloneOption .fixed 5 with
    | .ok d' => ((d'.childrenOf 3).length, (d'.childrenOf 3).map d'.childrenOf, d'.size)
    | .error _ => (0, [], 0)) = (2, [[], [11]], 12) := by decide

/-- a template element with contents: `clone_with_subtree` copies the contents (fresh node 4 for the
contents 0-based: arena `doc, tc, template, text-in-contents`) -/
def exTemplate : Dom := (runCheck Dom.new
  [ .createElement (qn ['t','e','m','p','l','a','t','e']) [] { template := true },
    .append 1 (.text ['x']) ]).getD Dom.new

example : (match exTemplate.cloneFixed 5 2 with
    | .ok (d', k) => (k, d'.templateContentsOf k, d'.templateContentsOf 2,
        (d'.templateContentsOf k).map d'.childrenOf, d'.size)
    | .error _ => (0, none, none, none, 0)) = (6, some 4, some 1, some [5], 7) := by decide

/-- `C20_clone_option` instantiated on the witness (its premises hold: see the two examples above) -/
example : ∀ d', exSelect.maybeCloneOption .fixed 5 = .ok d' →
    ∀ n, (d'.childrenOf 3).map (treeAux d' n) = (exSelect.childrenOf 5).map (treeAux exSelect n) :=
  fun _ h => (C20_clone_option exSelect_inv exSelect_tcValid (by decide) h).2.2.1

def exTemplateOps : List SinkOp :=
  [ .createElement (qn ['t','e','m','p','l','a','t','e']) [] { template := true },
    .append 1 (.text ['x']) ]

theorem exTemplate_inv : Inv exTemplate :=
  C20_reachable_inv (ops := exTemplateOps) (run_of_check (by decide))

theorem exTemplate_tcValid : TcValid exTemplate :=
  C20_reachable_tcValid (ops := exTemplateOps) (run_of_check (by decide))

/-- `C20_clone_subtree_deep` instantiated on a template with contents: the copy's template contents
are a fresh node (`≥ 4`), the original keeps node 1 -/
example : ∀ d' k, exTemplate.cloneFixed 5 2 = .ok (d', k) →
    (∀ n, treeAux d' n k = treeAux exTemplate n 2) ∧
    (∀ t, d'.templateContentsOf k = some t → 4 ≤ t) ∧ d'.templateContentsOf 2 = some 1 := by
  intro d' k h
  obtain ⟨_, _, iso, hk, _, _, hc, hold, _⟩ := C20_clone_subtree_deep exTemplate_inv exTemplate_tcValid h
  refine ⟨iso, fun t ht => (hc k hk).2 t ht, ?_⟩
  rw [templateContentsOf_congr (hold 2 (by decide)).2.1]
  decide


/-! ### why `NotMirror` cannot simply be dropped from `C05_no_panic_partial` -/

/-- a template element (2, contents 1) placed — through `select` 3 › `option` 5 — inside its own
template contents; every call is within the contract -/
def exLoopOps : List SinkOp :=
  [ .createElement (qn ['t','e','m','p','l','a','t','e']) [] { template := true },
    .createElement (qn sSelect) [] {}, .append 1 (.node 3),
    .createElement (qn sSelectedcontent) [] {}, .append 3 (.node 4),
    .createElement (qn sOption) [at' sSelected []] {}, .append 3 (.node 5),
    .append 5 (.node 2) ]

def exLoop : Dom := (runCheck Dom.new exLoopOps).getD Dom.new

/-- **`Inv`, `TcValid` and the contract do not make the mirror call total**: all calls of `exLoopOps`
satisfy the contract (`firstViolation = none`), the arena reached satisfies `Inv` and `TcValid`, the
mirror call on the option satisfies the contract — and `clone_with_subtree` does not terminate on it
(the model runs out of fuel; the Rust recursion overflows the stack).  The tree builders never
produce this shape (a template's contents are only filled while the template is the current node),
but that is a property of the builders, not of `Contract`. -/
theorem C05_mirror_needs_more_than_contract :
    H5V.Props.C05.firstViolation Dom.new exLoopOps = none ∧ Inv exLoop ∧
    Contract exLoop (.maybeCloneAnOptionIntoSelectedcontent 5) ∧
    exLoop.templateContentsOf 2 = some 1 ∧
    (exLoop.maybeCloneOption .fixed 5).toOption = none := by
  refine ⟨by decide, C20_reachable_inv (ops := exLoopOps) (run_of_check (by decide)), by decide, by decide, ?_⟩
  decide


end H5V.Props.C20
