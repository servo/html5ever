import H5V.Lemmas.XmlTBHContractFns
import H5V.Model.XmlTBHDriver
/-!
# C05 for the XML tree builder: every sink call of `XmlTreeBuilder` is within the TreeSink contract

Model: `H5V.Model.XmlTBH` — the handle-level model of `xml5ever/src/tree_builder/mod.rs`, which makes the
same `TreeSink` calls in the same order as the Rust (tied to the code by the `xmltb<TAB>trace`
correspondence: the literal call trace, the contract monitor's verdict and `trace_handles` after
every token are compared with the real `XmlTreeBuilder` driving a `TracingSink<RcDom>`).
Contract: `H5V.Model.Dom.contractOk` / `Contract` (the documented calling contract of `TreeSink`).

What is proved, for **both** configurations `cfg` of the namespace filter (`TbCfg.code` = the pinned
tree, `TbCfg.fixed` = /repo now) and **every** list of inputs (`tokenizer::Token`s including
`ParseError`) whose tag tokens satisfy `TagOk`:

* `C05_xml_contract` — `XmlTreeBuilder::new`, `process_token` for every input, `end()` run to the end:
  **no panic site of the builder is reached** (`expect("no current element")` ×5, the model's fuel),
  **no sink call fails**, and the recorded calls form a `C20.Run` from the empty arena: each call
  satisfies `Contract` in the arena in which it is made and returns normally; the final arena
  satisfies `C20.Inv`.  `C05_xml_each_call` spells the `Run` out call by call,
  `C05_xml_monitor_silent` says it in the monitor's terms (`C05.firstViolation … = none`), and
  `C05_xml_V_field` in the driver's: the `@V=` field of the `trace` output is computed from
  `whichViol`, which is empty exactly when `contractOk` holds (`whichViol_nil_iff`).
* stated for every reachable state via the invariant `XInv` (`Lemmas/XmlTBHContractFns.lean`):
  `C05_xml_new` (the state after `new` satisfies it), `C05_xml_process_token` (from any state
  satisfying it, `process_token` on any `InputOk` input returns normally, makes only calls within the
  contract — the `Run` is part of `XInv` — and re-establishes it), `C05_xml_end`; `XmlReach` /
  `C05_xml_reach_inv` package this as "every reachable state satisfies `XInv`".
  `XInv` = arena invariant + the calls so far are a contract-abiding run + `doc_handle` is the
  document node + every entry of `open_elems` is an element + (Start phase: nothing open, the
  document has no element child and, until a doctype was seen, no doctype child) + (Main phase:
  some element is open).

**The one hypothesis** — `TagOk cfg t` for every tag token `t`: no two *unprefixed* attributes of `t`
that are not namespace declarations have the same local name.  This is what the tree builder assumes
of its tokenizer (`finish_attribute` drops a second attribute with the same qualified name); the
builder itself only removes duplicates among *prefixed* attributes (`check_duplicate_attr`).
`C05_xml_witness_dup_attr` shows the hypothesis is needed: fed `<r x="1" x="2">` directly,
`create_element` is called with two attributes named `x` — outside the contract ("no attribute list
contains two attributes with the same qualified name").  Nothing else is assumed: stray end tags,
`ShortTag`, `NullCharacter`, tokens after EOF, a second doctype, text before the root, undeclared
prefixes, `xmlns` misuse are all covered.

Not covered here: that the model makes the same calls as the Rust (the `trace` correspondence), the
sink side (C20 / `H5V.Props.C05`: a call within the contract never panics RcDom).
-/
namespace H5V.Props.C05
open H5V.Model.Dom (Id SinkOp Output Dom NodeOrText Contract)
open H5V.Model.XmlTB (TbCfg Tag Token RAttr RName)
open H5V.Model.XmlTBH
open H5V.Lemmas.XmlTBH
open H5V.Props.C20 (Inv Run)

/-- the hypothesis on tag tokens (see the header) -/
abbrev XmlTagOk := @H5V.Lemmas.XmlTBH.TagOk
abbrev XmlInputOk := @H5V.Lemmas.XmlTBH.InputOk
/-- the builder's invariant -/
abbrev XmlInv := @H5V.Lemmas.XmlTBH.XInv

/-- the sink calls made so far, oldest first -/
abbrev xmlCalls (s : State) : List SinkOp := H5V.Lemmas.XmlTBH.calls s

/-! ## the invariant, step by step -/

/-- `XmlTreeBuilder::new` returns normally and establishes the invariant -/
theorem C05_xml_new : ∃ s, newTB.run State.init = .ok ((), s) ∧ XmlInv s := by
  obtain ⟨_, s, e, h⟩ := sat_newTB
  exact ⟨s, e, h⟩

/-- **`process_token` from any state satisfying the invariant**: no panic, no sink failure, every call
within the contract (`XmlInv s'` contains `Run Dom.new (xmlCalls s') s'.dom`), invariant re-established -/
theorem C05_xml_process_token (cfg : TbCfg) {s : State} (hs : XmlInv s) (inp : Input) (hok : XmlInputOk cfg inp) :
    ∃ r s', (processToken cfg inp).run s = .ok (r, s') ∧ XmlInv s' := by
  obtain ⟨r, s', e, h⟩ := sat_processToken cfg hs inp hok
  exact ⟨r, s', e, h⟩

/-- **`end()` from any state satisfying the invariant** -/
theorem C05_xml_end {s : State} (hs : XmlInv s) :
    ∃ s', finish.run s = .ok ((), s') ∧ Inv s'.dom ∧ Run Dom.new (xmlCalls s') s'.dom ∧ s'.opened = [] := by
  obtain ⟨_, s', e, hg, ho⟩ := sat_finish hs.good
  exact ⟨s', e, hg.inv, hg.run, ho⟩

/-- the states the builder can be in between two calls: after `new`, after each `process_token` -/
inductive XmlReach (cfg : TbCfg) : State → Prop
  | new {s : State} : newTB.run State.init = .ok ((), s) → XmlReach cfg s
  | token {s s' : State} {inp : Input} {r : PResult} : XmlReach cfg s → XmlInputOk cfg inp →
      (processToken cfg inp).run s = .ok (r, s') → XmlReach cfg s'

/-- every reachable state satisfies the invariant -/
theorem C05_xml_reach_inv {cfg : TbCfg} {s : State} (h : XmlReach cfg s) : XmlInv s := by
  induction h with
  | new e => exact sat_newTB.ok e
  | token _ hok e ih => exact (sat_processToken cfg ih _ hok).ok e

/-- in every reachable state the calls made so far are a contract-abiding run, and the next
`process_token` / `end()` cannot panic -/
theorem C05_xml_reach {cfg : TbCfg} {s : State} (h : XmlReach cfg s) :
    Run Dom.new (xmlCalls s) s.dom ∧
    (∀ inp, XmlInputOk cfg inp → ∃ r s', (processToken cfg inp).run s = .ok (r, s')) ∧
    (∃ s', finish.run s = .ok ((), s')) := by
  have hx := C05_xml_reach_inv h
  refine ⟨hx.good.run, fun inp hok => ?_, ?_⟩
  · obtain ⟨r, s', e, _⟩ := C05_xml_process_token cfg hx inp hok
    exact ⟨r, s', e⟩
  · obtain ⟨s', e, _⟩ := C05_xml_end hx
    exact ⟨s', e⟩

/-! ## whole runs -/

/-- **C05 (XML tree builder).**  `new`, the inputs, `end()`: the run returns normally (no panic site,
no sink failure), its calls are a contract-abiding run from the empty arena, the final arena
satisfies the arena invariant. -/
theorem C05_xml_contract (cfg : TbCfg) (toks : List Input) (hok : ∀ t ∈ toks, XmlInputOk cfg t) :
    ∃ s', (parseAll cfg toks).run State.init = .ok ((), s') ∧ Inv s'.dom ∧
      Run Dom.new (xmlCalls s') s'.dom := by
  obtain ⟨_, s', e, hg, _⟩ := sat_parseAll cfg toks hok
  exact ⟨s', e, hg.inv, hg.run⟩

/-- a `Run`, call by call: each call satisfies the contract in the arena reached by the calls before it -/
theorem xml_run_contract {d d' : Dom} {ops : List SinkOp} (h : Run d ops d') :
    ∀ pre op post, ops = pre ++ op :: post → ∃ d1, Run d pre d1 ∧ Contract d1 op ∧
      ∃ d2 out, d1.apply op = .ok (d2, out) := by
  induction h with
  | nil => intro pre op post e; cases pre <;> cases e
  | cons hc ha _ ih =>
    intro pre op post e
    cases pre with
    | nil => cases e; exact ⟨_, Run.nil, hc, _, _, ha⟩
    | cons p pre' =>
      cases e
      obtain ⟨d1, h1, h2⟩ := ih pre' op post rfl
      exact ⟨d1, Run.cons hc ha h1, h2⟩

/-- every single call of a whole run is within the contract in the arena in which it is made, and
returns normally -/
theorem C05_xml_each_call (cfg : TbCfg) (toks : List Input) (hok : ∀ t ∈ toks, XmlInputOk cfg t)
    {s' : State} (e : (parseAll cfg toks).run State.init = .ok ((), s')) :
    ∀ pre op post, xmlCalls s' = pre ++ op :: post →
      ∃ d1, Run Dom.new pre d1 ∧ Contract d1 op ∧ ∃ d2 out, d1.apply op = .ok (d2, out) := by
  obtain ⟨s'', e', _, hr⟩ := C05_xml_contract cfg toks hok
  rw [e] at e'; cases e'
  exact xml_run_contract hr

/-- a contract-abiding run is one the monitor `C05.firstViolation` does not flag -/
theorem firstViolation_of_run {d d' : Dom} {ops : List SinkOp} (h : Run d ops d') :
    firstViolation d ops = none := by
  induction h with
  | nil => rfl
  | cons hc ha _ ih =>
    have hc' : Dom.contractOk _ _ = true := hc
    simp only [firstViolation, hc', if_true, ha, ih, Option.map_none]

theorem C05_xml_monitor_silent (cfg : TbCfg) (toks : List Input) (hok : ∀ t ∈ toks, XmlInputOk cfg t)
    {s' : State} (e : (parseAll cfg toks).run State.init = .ok ((), s')) :
    firstViolation Dom.new (xmlCalls s') = none := by
  obtain ⟨s'', e', _, hr⟩ := C05_xml_contract cfg toks hok
  rw [e] at e'; cases e'
  exact firstViolation_of_run hr

/-! ## the `@V=` field of the `trace` output -/

open H5V.Model.XmlTBHDriver (whichViol childViol)

/-- the clause list the driver prints for a call is empty exactly when the call is within the contract -/
theorem whichViol_nil_iff (d : Dom) (op : SinkOp) : whichViol d op = [] ↔ d.contractOk op = true := by
  cases op with
  | append p c =>
    cases c with
    | text t => simp [whichViol, childViol, Dom.contractOk, Dom.contractAppend, Dom.childOk]
    | node c =>
      simp only [whichViol, childViol, Dom.contractOk, Dom.contractAppend, Dom.childOk, List.append_eq_nil_iff,
        Bool.and_eq_true, Bool.not_true, Bool.false_or, Bool.not_eq_eq_eq_not]
      cases h3 : d.parentOf c <;> by_cases h1 : d.isContainer p = true <;>
        by_cases h2 : d.isInsertable c = true <;> by_cases h4 : d.isAncOrSelf c p = true <;>
        simp_all
  | elemName t | pop t => by_cases h : d.isElement t = true <;> simp [whichViol, Dom.contractOk, h]
  | createElement n as f => by_cases h : Dom.attrKeysNodup as = true <;> simp [whichViol, Dom.contractOk, h]
  | appendDoctypeToDocument n p s =>
    by_cases h : d.contractOk (.appendDoctypeToDocument n p s) = true <;> simp [whichViol, h]
  | parseError _ | getDocument | createComment _ | createPi _ _ => simp [whichViol, Dom.contractOk]
  | _ => simp only [whichViol]; split <;> simp_all

/-- along a contract-abiding run the driver finds no violation: the `@V=` field is `-` -/
theorem C05_xml_V_field {d d' : Dom} {ops : List SinkOp} (h : Run d ops d') :
    ∀ pre op post, ops = pre ++ op :: post → ∃ d1, Run d pre d1 ∧ whichViol d1 op = [] := by
  intro pre op post e
  obtain ⟨d1, h1, h2, _⟩ := xml_run_contract h pre op post e
  exact ⟨d1, h1, (whichViol_nil_iff d1 op).mpr h2⟩



/-! ## non-vacuity, and the witness for the hypothesis -/

section Examples
instance (cfg : TbCfg) (t : Token) : Decidable (H5V.Lemmas.XmlTBH.TokOk cfg t) := by
  cases t <;> (unfold H5V.Lemmas.XmlTBH.TokOk; infer_instance)

instance (cfg : TbCfg) (i : Input) : Decidable (H5V.Lemmas.XmlTBH.InputOk cfg i) := by
  cases i <;> (unfold H5V.Lemmas.XmlTBH.InputOk; infer_instance)

open H5V.Model.XmlTB (TagKind)

def xrn (p : Option String) (l : String) : RName := ⟨p.map String.toList, l.toList⟩
def xat (p : Option String) (l v : String) : RAttr := ⟨xrn p l, v.toList⟩
def xtg (k : TagKind) (p : Option String) (l : String) (as : List RAttr) : Input := .token (.tag ⟨k, xrn p l, as⟩)

/-- `<!DOCTYPE d><!--c--><r xmlns:p="urn:x" a="1"><p:e p:a="2" a="3">text<?pi d?><q/></x></p:e>` +
a tokenizer `ParseError` + `</r>` + white space + EOF: doctype, comment, a namespace declaration, nested
elements, prefixed and unprefixed attributes, text, a processing instruction, an empty element, a stray
end tag (`</x>`: parse error "Current node doesn't match tag", nothing popped) -/
def xmlEx1 : List Input := [
  .token (.doctype (some "d".toList) none none),
  .token (.comment "c".toList),
  xtg .start none "r" [xat (some "xmlns") "p" "urn:x", xat none "a" "1"],
  xtg .start (some "p") "e" [xat (some "p") "a" "2", xat none "a" "3"],
  .token (.chars "text".toList),
  .token (.pi "pi".toList "d".toList),
  xtg .empty none "q" [],
  xtg .end_ none "x" [],
  xtg .end_ (some "p") "e" [],
  .parseError "tokenizer error".toList,
  xtg .end_ none "r" [],
  .token (.chars " ".toList),
  .token .eof]

/-- the recorded calls of a whole run (`none`: the run panicked) -/
def xmlRunCalls (cfg : TbCfg) (toks : List Input) : Option (List SinkOp) :=
  match (parseAll cfg toks).run State.init with
  | .ok (_, s) => some (xmlCalls s)
  | .error _ => none

theorem xmlEx1_ok : ∀ t ∈ xmlEx1, XmlInputOk TbCfg.current t := by decide +kernel

/-- the theorem applies to the example … -/
example : ∃ s', (parseAll TbCfg.current xmlEx1).run State.init = .ok ((), s') ∧ Inv s'.dom ∧
    Run Dom.new (xmlCalls s') s'.dom := C05_xml_contract TbCfg.current xmlEx1 xmlEx1_ok

/-- … whose run makes 28 sink calls, none flagged by the monitor (checked by evaluation, independently
of the theorem) -/
example : (xmlRunCalls TbCfg.current xmlEx1).map List.length = some 28 := by decide +kernel
example : (xmlRunCalls TbCfg.current xmlEx1).map (firstViolation Dom.new) = some none := by decide +kernel

/-- the stray `</x>` reaches the sink as `elem_name`, `parse_error`, and one `elem_name` per open element -/
example : ((xmlRunCalls TbCfg.current xmlEx1).map fun l => (l.drop 14).take 4) =
    some [.elemName 4, .parseError "Current node doesn't match tag".toList, .elemName 3, .elemName 4] := by
  decide +kernel

/-- `<r x="1" x="2">` fed directly into `process_token` (a tag no tokenizer run produces) -/
def xmlExDup : List Input := [xtg .start none "r" [xat none "x" "1", xat none "x" "2"]]

/-- **the hypothesis `TagOk` is needed**: the token list violates it, the builder hands both attributes
to `create_element` (call number 1, after `get_document`), which is outside the contract — in both
configurations -/
theorem C05_xml_witness_dup_attr :
    (¬ ∀ t ∈ xmlExDup, XmlInputOk TbCfg.current t) ∧
    (xmlRunCalls TbCfg.current xmlExDup).map (firstViolation Dom.new) = some (some 1) ∧
    (xmlRunCalls TbCfg.code xmlExDup).map (firstViolation Dom.new) = some (some 1) := by
  refine ⟨by decide +kernel, by decide +kernel, by decide +kernel⟩

end Examples

end H5V.Props.C05

#print axioms H5V.Props.C05.C05_xml_contract
#print axioms H5V.Props.C05.C05_xml_new
#print axioms H5V.Props.C05.C05_xml_process_token
#print axioms H5V.Props.C05.C05_xml_end
#print axioms H5V.Props.C05.C05_xml_reach_inv
#print axioms H5V.Props.C05.C05_xml_reach
#print axioms H5V.Props.C05.C05_xml_each_call
#print axioms H5V.Props.C05.C05_xml_monitor_silent
#print axioms H5V.Props.C05.whichViol_nil_iff
#print axioms H5V.Props.C05.C05_xml_V_field
#print axioms H5V.Props.C05.C05_xml_witness_dup_attr
