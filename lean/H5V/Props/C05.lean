import H5V.Props.C20
import H5V.Lemmas.DomNoPanic
/-!
C05 — tree builders honour the documented TreeSink calling contract.

The contract is `H5V.Model.Dom.Contract d op` (`Dom.contractOk`, `lean/H5V/Model/Dom.lean`): read off
the trait documentation of `markup5ever/interface/tree_builder.rs`, a decidable predicate of the sink
state *before* the call.  That the HTML and XML tree builders only issue calls satisfying it is checked on the
real code by a monitor (`TracingSink` in `harness/src/sinkops.rs`, run over generated documents by
`tools/props/C05.py`; its verdicts are tied to `Contract` by replaying every harvested trace on this model and
comparing the per-call verdicts) and proved of the tree-builder models in `H5V.Props.C05TB` (HTML) and
`H5V.Props.C05Xml` (XML).

What is proved here, from the DOM model alone, is why the contract matters and that it suffices:

* `C05_contract_decidable` — the contract is decidable (it is what the monitors evaluate);
* `C05_no_panic_partial` — a call within the contract never makes RcDom panic (every `panic!`,
  `assert!`, `expect`, `unwrap`, `RefCell` double borrow and `Vec` bound of rcdom/lib.rs is an
  `.error` branch of the model): for every arena satisfying the invariant and every method except
  `maybe_clone_an_option_into_selectedcontent`;
* `C05_inv_preserved`, `C05_run`, `C05_monitor_sound` — … and it re-establishes the invariant, so a whole call sequence
  whose calls satisfy the contract in the states they are made in runs to the end without a panic;
* `C05_violation_panics` / `C05_violation_corrupts` — conversely, calls outside the contract do
  panic RcDom (`append` of a node that has a parent) or silently corrupt the tree (inserting a
  node under itself yields a cycle on which serialization does not terminate);
* `C05_attrs_no_duplicates`, `C05_create_element_attrs` — attribute lists without a repeated name
  (the last clause of the contract) keep elements free of repeated attribute names.
-/
namespace H5V.Props.C05
open H5V.Model.Dom H5V.Lemmas.Dom H5V.Props.C20

/-- the contract is a decidable predicate of the state before the call -/
theorem C05_contract_decidable (d : Dom) (op : SinkOp) : Contract d op ∨ ¬ Contract d op :=
  Decidable.em _

/-- the one call not covered by the no-panic theorem -/
def isMirror : SinkOp → Bool
  | .maybeCloneAnOptionIntoSelectedcontent _ => true
  | _ => false

/-- the calls covered by the no-panic theorem -/
def NotMirror (op : SinkOp) : Prop := isMirror op = false

instance (op : SinkOp) : Decidable (NotMirror op) := by unfold NotMirror; infer_instance

/-- **A contract-abiding call never panics.**  `_partial`: not covered is
`maybe_clone_an_option_into_selectedcontent` — for it the proof needs (i) "template-contents links
name existing nodes" as part of the invariant and (ii) adequacy of the fuel of the three bounded
loops that stand for unbounded Rust loops/recursion (ancestor walk, descendant search,
`clone_with_subtree`); its panic-freedom is carried by the correspondence (no `mc` case of C20 or
C05 panics). -/
theorem C05_no_panic_partial {d : Dom} {op : SinkOp} (hi : Inv d) (hc : Contract d op) (hop : NotMirror op) :
    ∃ d' out, d.apply op = .ok (d', out) := by
  rw [apply_eq]
  refine applyV_succeeds hi.wf hc ?_
  intro o e; subst e; simp [NotMirror, isMirror] at hop

/-- a contract-abiding call re-establishes the invariant (C20) -/
theorem C05_inv_preserved {d d' : Dom} {op : SinkOp} {out : Output} (hi : Inv d) (hc : Contract d op)
    (h : d.apply op = .ok (d', out)) : Inv d' := C20_parent_links_step hi hc h

/-- every call of the sequence satisfies the contract in the state in which it is made (whatever
that state turns out to be) -/
inductive Abiding : Dom → List SinkOp → Prop
  | nil {d : Dom} : Abiding d []
  | cons {d : Dom} {op : SinkOp} {ops : List SinkOp} :
      Contract d op → (∀ d1 out, d.apply op = .ok (d1, out) → Abiding d1 ops) → Abiding d (op :: ops)

/-- **a contract-abiding call sequence runs to the end without a panic**, and ends in a state
satisfying the invariant -/
theorem C05_run {ops : List SinkOp} : ∀ {d : Dom}, Inv d → Abiding d ops → (∀ op ∈ ops, NotMirror op) →
    ∃ d' outs, d.applyAll ops = .ok (d', outs) ∧ Inv d' ∧ outs.length = ops.length := by
  induction ops with
  | nil => intro d hi _ _; exact ⟨d, [], rfl, hi, rfl⟩
  | cons op ops ih =>
    intro d hi ha hnm
    cases ha with
    | cons hc hrest =>
      obtain ⟨d1, out, h1⟩ := C05_no_panic_partial hi hc (hnm op (by simp))
      obtain ⟨d', outs, h2, hi', hl⟩ := ih (C05_inv_preserved hi hc h1) (hrest d1 out h1)
        (fun o ho => hnm o (by simp [ho]))
      exact ⟨d', out :: outs, by simp [Dom.applyAll, bind, Except.bind, h1, h2], hi', by simp [hl]⟩

/-- executable form of `Abiding` along the actual run, used by the model-side monitor (the `!`
flags of engine `rcdom`): index of the first call that violates the contract -/
def firstViolation (d : Dom) : List SinkOp → Option Nat
  | [] => none
  | op :: ops =>
    if d.contractOk op then
      match d.apply op with
      | .ok (d1, _) => (firstViolation d1 ops).map (· + 1)
      | .error _ => none
    else some 0

/-- **the model-side monitor is sound**: when it flags no call of a trace, the whole trace runs on
RcDom('s model) without a panic and ends in a state satisfying the invariant -/
theorem C05_monitor_sound {ops : List SinkOp} : ∀ {d : Dom}, Inv d → firstViolation d ops = none →
    (∀ op ∈ ops, NotMirror op) → ∃ d' outs, d.applyAll ops = .ok (d', outs) ∧ Inv d' := by
  induction ops with
  | nil => intro d hi _ _; exact ⟨d, [], rfl, hi⟩
  | cons op ops ih =>
    intro d hi hf hnm
    simp only [firstViolation] at hf
    by_cases hc : d.contractOk op = true
    · obtain ⟨d1, out, h1⟩ := C05_no_panic_partial hi hc (hnm op (by simp))
      simp only [hc, if_true, h1] at hf
      have hf1 : firstViolation d1 ops = none := by
        cases hv : firstViolation d1 ops with
        | none => rfl
        | some k => simp [hv] at hf
      obtain ⟨d', outs, h2, hi'⟩ := ih (C05_inv_preserved hi hc h1) hf1 (fun o ho => hnm o (by simp [ho]))
      exact ⟨d', out :: outs, by simp [Dom.applyAll, bind, Except.bind, h1, h2], hi'⟩
    · simp [hc] at hf

example : firstViolation Dom.new exOps = none := by decide
example : firstViolation exReinsert [.append 1 (.text ['x']), .append 0 (.node 2)] = some 1 := by decide

/-! ### what happens outside the contract -/

/-- `append` of a node that already has a parent ("The child node will not already have a parent")
panics RcDom: `assert!(previous_parent.is_none())` -/
theorem C05_violation_panics :
    ∃ d, Inv d ∧ ¬ Contract d (.append 0 (.node 2)) ∧ ∃ e, d.apply (.append 0 (.node 2)) = .error e :=
  ⟨exReinsert, C20_reachable_inv (run_of_check (ops :=
      [ .createElement (qn ['a']) [] {}, .createElement (qn ['b']) [] {}, .createElement (qn ['c']) [] {},
        .append 0 (.node 1), .append 1 (.node 2), .append 1 (.node 3) ]) (by decide)),
    by decide, _, rfl⟩

/-- inserting a node under itself ("no node is ever inserted under itself or one of its
descendants") is accepted by RcDom and yields a cycle: the invariant is lost and serializing the
node does not terminate (the model's fuel runs out) -/
theorem C05_violation_corrupts :
    ∃ d d', (∃ ops, Run Dom.new ops d) ∧ ¬ Contract d (.append 1 (.node 1)) ∧
      d.apply (.append 1 (.node 1)) = .ok (d', .unit) ∧ d'.parentOf 1 = some 1 ∧
      (d'.serialize .includeNode 1).toOption = none :=
  ⟨(runCheck Dom.new [.createElement (qn ['a']) [] {}]).getD Dom.new, _,
    ⟨_, run_of_check (ops := [.createElement (qn ['a']) [] {}]) (by decide)⟩, by decide, rfl, by decide, by decide⟩

/-! ### attribute lists -/

/-- `add_attrs_if_missing` with a duplicate-free list on an element without repeated attribute
names leaves it without repeated attribute names -/
theorem C05_attrs_no_duplicates {d d' : Dom} {t : Id} {attrs : List Attr}
    (hc : Contract d (.addAttrsIfMissing t attrs)) (he : ((d.attrsOf t).map (·.name)).Nodup)
    (h : d.addAttrsIfMissing t attrs = .ok d') : ((d'.attrsOf t).map (·.name)).Nodup := by
  have : Dom.attrNamesNodup attrs = true := by
    simp only [Contract, Dom.contractOk, Bool.and_eq_true] at hc; exact attrNamesNodup_of_keys _ hc.2
  exact (C20_attrs_no_overwrite h he this).1

/-- `create_element` with a duplicate-free list creates an element without repeated attribute names -/
theorem C05_create_element_attrs {d : Dom} {name : QualName} {attrs : List Attr} {flags : ElementFlags}
    (hc : Contract d (.createElement name attrs flags)) :
    (((d.createElement name attrs flags).1.attrsOf (d.createElement name attrs flags).2).map (·.name)).Nodup := by
  have hnd : (attrs.map (·.name)).Nodup :=
    (attrNamesNodup_iff attrs).mp (attrNamesNodup_of_keys _ (by simpa [Contract, Dom.contractOk] using hc))
  unfold Dom.createElement
  split
  · simp only [Dom.attrsOf, alloc_id, dataOf_alloc]; simpa using hnd
  · simp only [Dom.attrsOf, alloc_id, dataOf_alloc]; simpa using hnd

end H5V.Props.C05
