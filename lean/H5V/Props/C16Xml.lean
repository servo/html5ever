import H5V.Lemmas.XmlTBHBridge
import H5V.Props.C05Xml
import H5V.Props.C16
/-!
# C16 for the handle-level XML tree builder: the bridge between the two models

C16 (namespaces resolve by lexical scope, `H5V.Props.C16`) is proved for the *tree-valued* model
`H5V.Model.XmlTB`.  The model tied to the Rust by a literal sink-call trace (`xmltb<TAB>trace`
correspondence, C05/C18) is the *handle-level* model `H5V.Model.XmlTBH`.  This file proves that the two
agree on everything C16 speaks about:

* `BSim s h` — the simulation relation (same phase, same namespace stack, same `doctype_seen`; the stacks
  of open elements correspond: same length and the `i`-th handle is an element node of the arena carrying
  the qualified name and the attribute list of the `i`-th frame; the `create_element` calls recorded in
  the trace — name, attributes and `ElementFlags`, oldest first — are `s.createdList`).  `bsim_iff` spells
  it out.
* `bsim_step` — one input (`tokenizer::Token` or `ParseError`): if the tree-valued `step` and the
  handle-level `process_token` both return normally, `BSim` is re-established.  **No further hypothesis**
  (neither `XmlInv`, nor C16's `Inv`, nor `TagOk`): the simulation is a partial-correctness fact.
  `bsim_step_total` adds the invariants (`XmlInv` of C05Xml, `Inv` of C16, `XmlInputOk`) and concludes
  that both steps *do* return normally, `BSim` and both invariants hold again.
  `C16_xml_reach_bsim`: every reachable state of the handle-level builder (`C05.XmlReach`) is `BSim`-related
  to a state of the tree-valued model that satisfies `Inv`.
* `C16_xml_trace_created` — whole runs (`new`, the inputs, `end()`), for both configurations and every
  input list satisfying the hypothesis of `C05_xml_contract`: the `create_element` calls of the trace carry
  exactly `(XmlTB.run cfg State.init toks).createdList` — names, attributes (`traceCreated`) and the flags
  computed from them (`traceCreateCalls`).
* `C16_xml_trace_resolve` (`TbCfg.fixed` = /repo now, hypothesis of `C16_resolve_fixed`),
  `C16_xml_trace_resolve_pinned` (`TbCfg.code`, hypothesis of `C16_resolve_partial`),
  `C16_xml_trace_resolve_source` (tags as lexed, attribute step of the fixed tokenizer; the only
  hypothesis is `C16_resolve_source_fixed`'s — `TagOk` is *derived* from the tokenizer's duplicate test):
  the names and attributes the real-code-tied model passes to `create_element` are those of the
  lexical-scope resolver `Spec.XmlNs.resolve`.

The obstacle named by the author of `XmlTBH` — the exact effect of `close_tag` on `open_elems` — is
`Lemmas.XmlTBHBridge.sim_closeTag` / `sim_popUntil` / `sim_pop`: the two `pop_until` loops (different fuel)
are run against each other, entry by entry.
-/
namespace H5V.Props.C16
open H5V.Model.Dom (Id SinkOp Output Dom QualName Attr ElementFlags NodeData)
open H5V.Model.XmlTB (QName Created Token Tag TbCfg TokCfg RAttr RName TagKind)
open H5V.Model.XmlTBH (Input PResult processToken processTokens parseAll newTB toQual toAttr elementFlags)
open H5V.Lemmas.XmlTBHBridge (CrOp createOps crop stepInput tokensOf IsElem Match frames)
open H5V.Props.C05 (XmlInv XmlInputOk XmlReach)
open H5V.Spec.XmlNs (resolve)
open H5V.Lemmas.XmlNs (NoDupDecl)

/-! ## 1. the simulation relation -/

/-- **the simulation** between a state of the tree-valued model and a state of the handle-level model
(defined in `Lemmas/XmlTBHBridge.lean`; spelled out by `bsim_iff`) -/
abbrev BSim (s : H5V.Model.XmlTB.State) (h : H5V.Model.XmlTBH.State) : Prop :=
  H5V.Lemmas.XmlTBHBridge.BSim s h

/-- what `create_element` is given for an element of the tree-valued model's `created` list: the converted
name and attributes, and the flags (`template`, `mathml_annotation_xml_integration_point`) computed from them -/
def callOf (c : Created) : CrOp := crop c.name c.attrs

/-- the `create_element` calls of a trace, **oldest first**: name, attributes, flags -/
def traceCreateCalls (tr : List (SinkOp × Output)) : List CrOp := (createOps tr).reverse

def ofQual (q : QualName) : QName := ⟨q.pfx, q.ns, q.loc⟩
def ofAttr (a : Attr) : H5V.Model.XmlTB.Attr := ⟨ofQual a.name, a.value⟩

/-- the `(name, attrs)` of the `create_element` calls of a trace, oldest first, in the vocabulary of the
tree-valued model -/
def traceCreated (tr : List (SinkOp × Output)) : List Created :=
  (traceCreateCalls tr).map (fun c => ⟨ofQual c.1, c.2.1.map ofAttr⟩)

theorem ofQual_toQual (q : QName) : ofQual (toQual q) = q := rfl
theorem ofAttr_toAttr (a : H5V.Model.XmlTB.Attr) : ofAttr (toAttr a) = a := rfl

theorem traceCreated_of_calls {tr : List (SinkOp × Output)} {cs : List Created}
    (h : traceCreateCalls tr = cs.map callOf) : traceCreated tr = cs := by
  unfold traceCreated
  rw [h, List.map_map]
  have : ∀ l : List Created, l.map ((fun c : CrOp => (⟨ofQual c.1, c.2.1.map ofAttr⟩ : Created)) ∘ callOf) = l := by
    intro l
    induction l with
    | nil => rfl
    | cons c rest ih =>
      rw [List.map_cons, ih]
      congr 1
      show (⟨ofQual (toQual c.name), (c.attrs.map toAttr).map ofAttr⟩ : Created) = c
      rw [List.map_map]
      have : ∀ as : List H5V.Model.XmlTB.Attr, as.map (ofAttr ∘ toAttr) = as := by
        intro as
        induction as with
        | nil => rfl
        | cons a r ih => rw [List.map_cons, ih]; rfl
      rw [this]
      rfl
  exact this cs

theorem match_iff {d : Dom} : ∀ (fs : List (QName × List H5V.Model.XmlTB.Attr)) (xs : List Id),
    Match d fs xs ↔ fs.length = xs.length ∧
      ∀ (i : Nat) (f : QName × List H5V.Model.XmlTB.Attr) (x : Id),
        fs[i]? = some f → xs[i]? = some x → IsElem d f.1 f.2 x
  | [], [] | [], _ :: _ | _ :: _, [] => by simp [Match]
  | f :: fs, x :: xs => by
    have ih := match_iff (d := d) fs xs
    simp only [Match, List.length_cons, Nat.add_right_cancel_iff]
    rw [ih]
    constructor
    · rintro ⟨h1, h2, h3⟩
      refine ⟨h2, ?_⟩
      intro i
      cases i with
      | zero =>
        intro f' x' hf hx
        simp only [List.getElem?_cons_zero, Option.some.injEq] at hf hx
        subst hf; subst hx
        exact h1
      | succ i =>
        intro f' x' hf hx
        simp only [List.getElem?_cons_succ] at hf hx
        exact h3 i f' x' hf hx
    · rintro ⟨h2, h3⟩
      refine ⟨h3 0 f x rfl rfl, h2, ?_⟩
      intro i f' x' hf hx
      exact h3 (i + 1) f' x' (by simpa using hf) (by simpa using hx)

/-- **`BSim`, spelled out.** -/
theorem bsim_iff (s : H5V.Model.XmlTB.State) (h : H5V.Model.XmlTBH.State) :
    BSim s h ↔
      s.phase = h.phase ∧ s.nsStack = h.nsStack ∧ s.doctypeSeen = h.doctypeSeen ∧
      s.opened.length = h.opened.length ∧
      (∀ (i : Nat) (f : H5V.Model.XmlTB.Frame) (x : Id), s.opened[i]? = some f → h.opened[i]? = some x →
        ∃ tc ip, h.dom.dataOf x = some (.element (toQual f.name) (f.attrs.map toAttr) tc ip)) ∧
      traceCreateCalls h.traceRev = s.createdList.map callOf ∧
      traceCreated h.traceRev = s.createdList := by
  have hcr : createOps h.traceRev = s.created.map (fun c => crop c.name c.attrs) ↔
      traceCreateCalls h.traceRev = s.createdList.map callOf := by
    unfold traceCreateCalls H5V.Model.XmlTB.State.createdList
    rw [List.map_reverse, List.reverse_inj]
    exact Iff.rfl
  have hm : Match h.dom (frames s) h.opened ↔ s.opened.length = h.opened.length ∧
      (∀ (i : Nat) (f : H5V.Model.XmlTB.Frame) (x : Id), s.opened[i]? = some f → h.opened[i]? = some x →
        ∃ tc ip, h.dom.dataOf x = some (.element (toQual f.name) (f.attrs.map toAttr) tc ip)) := by
    rw [match_iff]
    unfold frames
    rw [List.length_map]
    constructor
    · rintro ⟨h1, h2⟩
      refine ⟨h1, fun i f x hf hx => h2 i (f.name, f.attrs) x ?_ hx⟩
      rw [List.getElem?_map, hf]; rfl
    · rintro ⟨h1, h2⟩
      refine ⟨h1, fun i f x hf hx => ?_⟩
      rw [List.getElem?_map] at hf
      cases hg : s.opened[i]? with
      | none => rw [hg] at hf; cases hf
      | some g =>
        rw [hg] at hf
        cases hf
        exact h2 i g x hg hx
  constructor
  · intro hb
    exact ⟨hb.phase, hb.ns, hb.dts, (hm.mp hb.opened).1, (hm.mp hb.opened).2, hcr.mp hb.created,
      traceCreated_of_calls (hcr.mp hb.created)⟩
  · rintro ⟨h1, h2, h3, h4, h5, h6, _⟩
    exact ⟨h1, h2, h3, hm.mpr ⟨h4, h5⟩, hcr.mpr h6⟩

/-- the two initial states are related once `XmlTreeBuilder::new` has run -/
theorem bsim_new {h : H5V.Model.XmlTBH.State} (e : newTB.run H5V.Model.XmlTBH.State.init = .ok ((), h)) :
    BSim H5V.Model.XmlTB.State.init h :=
  H5V.Lemmas.XmlTBHBridge.bsim_newTB () h e

/-! ## 2. one step -/

/-- **the simulation step.**  For every configuration and every input — a `tokenizer::Token`, seen by the
tree-valued model as `XmlTB.step`, or a tokenizer `ParseError`, which leaves the tree-valued state
unchanged (`stepInput`) — : if both models return normally, the final states are related again. -/
theorem bsim_step (cfg : TbCfg) {s s' : H5V.Model.XmlTB.State} {h h' : H5V.Model.XmlTBH.State} {r : PResult}
    (inp : Input) (hb : BSim s h) (e : stepInput cfg s inp = .ok s')
    (eh : (processToken cfg inp).run h = .ok (r, h')) : BSim s' h' :=
  H5V.Lemmas.XmlTBHBridge.bsim_processToken_pc cfg hb inp e r h' eh

/-- … for a token -/
theorem bsim_step_token (cfg : TbCfg) {s s' : H5V.Model.XmlTB.State} {h h' : H5V.Model.XmlTBH.State}
    {r : PResult} (tok : Token) (hb : BSim s h) (e : H5V.Model.XmlTB.step cfg s tok = .ok s')
    (eh : (processToken cfg (.token tok)).run h = .ok (r, h')) : BSim s' h' :=
  bsim_step cfg (.token tok) hb e eh

/-- … for a tokenizer parse error: the tree-valued state is unchanged -/
theorem bsim_step_parseError (cfg : TbCfg) {s : H5V.Model.XmlTB.State} {h h' : H5V.Model.XmlTBH.State}
    {r : PResult} (msg : List Char) (hb : BSim s h)
    (eh : (processToken cfg (.parseError msg)).run h = .ok (r, h')) : BSim s h' :=
  bsim_step cfg (.parseError msg) hb rfl eh

theorem stepInput_inv (cfg : TbCfg) (s : H5V.Model.XmlTB.State) (inp : Input) (hi : Inv s) :
    ∃ s', stepInput cfg s inp = .ok s' ∧ Inv s' := by
  cases inp with
  | token t => exact step_inv cfg s t hi
  | parseError _ => exact ⟨s, rfl, hi⟩

/-- **the simulation step with the invariants**: from related states satisfying `XmlInv` (C05Xml) and
`Inv` (C16), on an input satisfying `XmlInputOk`, both models return normally, the final states are
related and satisfy the invariants again -/
theorem bsim_step_total (cfg : TbCfg) {s : H5V.Model.XmlTB.State} {h : H5V.Model.XmlTBH.State} (inp : Input)
    (hb : BSim s h) (hx : XmlInv h) (hi : Inv s) (hok : XmlInputOk cfg inp) :
    ∃ s' r h', stepInput cfg s inp = .ok s' ∧ (processToken cfg inp).run h = .ok (r, h') ∧
      BSim s' h' ∧ XmlInv h' ∧ Inv s' := by
  obtain ⟨s', e, hi'⟩ := stepInput_inv cfg s inp hi
  obtain ⟨r, h', eh, hx'⟩ := H5V.Props.C05.C05_xml_process_token cfg hx inp hok
  exact ⟨s', r, h', e, eh, bsim_step cfg inp hb e eh, hx', hi'⟩

/-- every state the handle-level builder can be in between two calls is related to a state of the
tree-valued model (which satisfies C16's invariant) -/
theorem C16_xml_reach_bsim {cfg : TbCfg} {h : H5V.Model.XmlTBH.State} (hr : XmlReach cfg h) :
    ∃ s, BSim s h ∧ Inv s := by
  induction hr with
  | new e => exact ⟨_, bsim_new e, inv_init⟩
  | @token h0 h1 inp r _ hok e ih =>
    obtain ⟨s, hb, hi⟩ := ih
    obtain ⟨s', es, hi'⟩ := stepInput_inv cfg s inp hi
    exact ⟨s', bsim_step cfg inp hb es e, hi'⟩

/-! ## 3. whole runs -/

theorem tokensOf_map_token (toks : List Token) : tokensOf (toks.map Input.token) = toks := by
  induction toks with
  | nil => rfl
  | cons t rest ih => rw [List.map_cons]; show t :: tokensOf _ = _; rw [ih]

theorem calls_of_createOps {tr : List (SinkOp × Output)} {cr : List Created}
    (h : createOps tr = cr.map (fun c => crop c.name c.attrs)) :
    traceCreateCalls tr = cr.reverse.map callOf := by
  unfold traceCreateCalls
  rw [h, List.map_reverse]
  rfl

/-- **C16, bridge (whole runs).**  For both configurations and every list of inputs (tokens and tokenizer
parse errors) satisfying the hypothesis of `C05_xml_contract`: `XmlTreeBuilder::new`, `process_token` for
every input and `end()` return normally, the tree-valued model runs the tokens among the inputs without
panic, and the `create_element` calls recorded in the trace — in call order — carry exactly the created
list of the tree-valued run: converted names and attributes with the flags computed from them
(`traceCreateCalls`), i.e. read back in the tree-valued vocabulary, `createdList` itself (`traceCreated`). -/
theorem C16_xml_trace_created (cfg : TbCfg) (toks : List Input) (hok : ∀ t ∈ toks, XmlInputOk cfg t) :
    ∃ h' s', (parseAll cfg toks).run H5V.Model.XmlTBH.State.init = .ok ((), h') ∧
      H5V.Model.XmlTB.run cfg H5V.Model.XmlTB.State.init (tokensOf toks) = .ok s' ∧
      traceCreateCalls h'.traceRev = s'.createdList.map callOf ∧
      traceCreated h'.traceRev = s'.createdList := by
  obtain ⟨h', eh, _, _⟩ := H5V.Props.C05.C05_xml_contract cfg toks hok
  obtain ⟨s', es⟩ := C16_no_panic cfg (tokensOf toks)
  have hc := H5V.Lemmas.XmlTBHBridge.bsim_parseAll_pc cfg toks es () h' eh
  have hcalls := calls_of_createOps hc
  exact ⟨h', s', eh, es, hcalls, traceCreated_of_calls hcalls⟩

/-- the same for a list of tokens (no tokenizer parse errors among the inputs) -/
theorem C16_xml_trace_created_tokens (cfg : TbCfg) (toks : List Token)
    (hok : ∀ t ∈ toks, XmlInputOk cfg (.token t)) :
    ∃ h' s', (parseAll cfg (toks.map Input.token)).run H5V.Model.XmlTBH.State.init = .ok ((), h') ∧
      H5V.Model.XmlTB.run cfg H5V.Model.XmlTB.State.init toks = .ok s' ∧
      traceCreateCalls h'.traceRev = s'.createdList.map callOf ∧
      traceCreated h'.traceRev = s'.createdList := by
  have hok' : ∀ t ∈ toks.map Input.token, XmlInputOk cfg t := by
    intro t ht
    obtain ⟨t0, h0, rfl⟩ := List.mem_map.mp ht
    exact hok t0 h0
  have := C16_xml_trace_created cfg (toks.map Input.token) hok'
  rwa [tokensOf_map_token] at this

/-- the run of the handle-level model is deterministic: whatever final state a normal run has, its
`create_element` calls are those of the tree-valued run -/
theorem C16_xml_trace_created_of_run (cfg : TbCfg) (toks : List Input)
    {h' : H5V.Model.XmlTBH.State} {s' : H5V.Model.XmlTB.State}
    (eh : (parseAll cfg toks).run H5V.Model.XmlTBH.State.init = .ok ((), h'))
    (es : H5V.Model.XmlTB.run cfg H5V.Model.XmlTB.State.init (tokensOf toks) = .ok s') :
    traceCreateCalls h'.traceRev = s'.createdList.map callOf ∧ traceCreated h'.traceRev = s'.createdList := by
  have hcalls := calls_of_createOps (H5V.Lemmas.XmlTBHBridge.bsim_parseAll_pc cfg toks es () h' eh)
  exact ⟨hcalls, traceCreated_of_calls hcalls⟩

/-- **C16 for the real-code-tied model, current code** (`TbCfg.fixed` = `TbCfg.current`; hypotheses: that
of `C05_xml_contract` and that of `C16_resolve_fixed` — no tag declares a prefix twice): the names and
attributes passed to `create_element`, in call order, are those of the lexical-scope resolver. -/
theorem C16_xml_trace_resolve (toks : List Input) (hok : ∀ t ∈ toks, XmlInputOk TbCfg.fixed t)
    (hnd : ∀ t ∈ tokensOf toks, ∀ tg, t = .tag tg → NoDupDecl tg.attrs) :
    ∃ h', (parseAll TbCfg.fixed toks).run H5V.Model.XmlTBH.State.init = .ok ((), h') ∧
      traceCreated h'.traceRev = resolve .prolog (tokensOf toks) := by
  obtain ⟨h', s', eh, es, _, hc⟩ := C16_xml_trace_created TbCfg.fixed toks hok
  obtain ⟨s, es', hr⟩ := C16_resolve_fixed (tokensOf toks) hnd
  rw [es] at es'
  cases es'
  exact ⟨h', eh, hc.trans hr⟩

/-- the same for the pinned tree (`TbCfg.code`; hypothesis of `C16_resolve_partial`: no attribute
`p:xmlns`, no prefix declared twice) -/
theorem C16_xml_trace_resolve_pinned (toks : List Input) (hok : ∀ t ∈ toks, XmlInputOk TbCfg.code t)
    (hok2 : ∀ t ∈ tokensOf toks, TokOK TbCfg.code t) :
    ∃ h', (parseAll TbCfg.code toks).run H5V.Model.XmlTBH.State.init = .ok ((), h') ∧
      traceCreated h'.traceRev = resolve .prolog (tokensOf toks) := by
  obtain ⟨h', s', eh, es, _, hc⟩ := C16_xml_trace_created TbCfg.code toks hok
  obtain ⟨s, es', hr⟩ := C16_resolve_partial (tokensOf toks) hok2
  rw [es] at es'
  cases es'
  exact ⟨h', eh, hc.trans hr⟩

/-! ### source level: the attribute step of the (fixed) tokenizer delivers `TagOk` -/

theorem unprefLocs_nodup_of_names (p : RAttr → Bool) : ∀ (l : List RAttr), (l.map (·.name)).Nodup →
    (H5V.Lemmas.XmlTBH.unprefLocs (l.filter p)).Nodup := by
  intro l
  induction l with
  | nil => intro _; simp [H5V.Lemmas.XmlTBH.unprefLocs]
  | cons a rest ih =>
    intro h
    rw [List.map_cons, List.nodup_cons] at h
    have ihr := ih h.2
    by_cases hp : p a = true
    · rw [List.filter_cons_of_pos hp]
      by_cases hn : a.name.pfx.isNone = true
      · have hU : H5V.Lemmas.XmlTBH.unprefLocs (a :: rest.filter p) =
            a.name.loc :: H5V.Lemmas.XmlTBH.unprefLocs (rest.filter p) := by
          simp [H5V.Lemmas.XmlTBH.unprefLocs, hn]
        rw [hU, List.nodup_cons]
        refine ⟨?_, ihr⟩
        intro hm
        unfold H5V.Lemmas.XmlTBH.unprefLocs at hm
        obtain ⟨b, hb, hbl⟩ := List.mem_map.mp hm
        obtain ⟨hb1, hb2⟩ := List.mem_filter.mp hb
        have hbr : b ∈ rest := (List.mem_filter.mp hb1).1
        apply h.1
        refine List.mem_map.mpr ⟨b, hbr, ?_⟩
        cases hbn : b.name with
        | mk bp bl =>
          cases han : a.name with
          | mk ap al =>
            rw [hbn] at hb2 hbl
            rw [han] at hn
            simp only [Option.isNone_iff_eq_none] at hb2 hn
            simp only at hbl
            rw [han] at hbl
            simp only at hbl
            subst hb2; subst hn; subst hbl
            rfl
      · have hU : H5V.Lemmas.XmlTBH.unprefLocs (a :: rest.filter p) =
            H5V.Lemmas.XmlTBH.unprefLocs (rest.filter p) := by
          simp [H5V.Lemmas.XmlTBH.unprefLocs, hn]
        rw [hU]
        exact ihr
    · rw [List.filter_cons_of_neg hp]
      exact ihr

/-- a tag finished by the fixed tokenizer satisfies the tree builder's assumption `TagOk` -/
theorem tagOk_finishTag_fixed (cfg : TbCfg) (t : H5V.Model.XmlTB.RawTag) :
    H5V.Lemmas.XmlTBH.TagOk cfg (H5V.Model.XmlTB.finishTag TokCfg.fixed t) :=
  unprefLocs_nodup_of_names _ _ (C16_tok_no_dup_qname_fixed t.attrs)

/-- **C16 for the real-code-tied model, from the lexed tags** (fixed tokenizer attribute step, fixed tree
builder = /repo now): for every sequence of lexed tags and other tokens — the only hypothesis is that of
`C16_resolve_source_fixed` (an `other` token is not a tag) — the handle-level builder runs to the end
without panic and passes to `create_element`, in call order, exactly the names and attributes of the
lexical-scope resolver. -/
theorem C16_xml_trace_resolve_source (raws : List RawToken)
    (hother : ∀ r ∈ raws, ∀ t, r = .other t → ∀ tg, t ≠ .tag tg) :
    ∃ h', (parseAll TbCfg.fixed ((raws.map (finishToken TokCfg.fixed)).map Input.token)).run
        H5V.Model.XmlTBH.State.init = .ok ((), h') ∧
      traceCreated h'.traceRev = resolve .prolog (raws.map (finishToken TokCfg.fixed)) := by
  have hok : ∀ t ∈ raws.map (finishToken TokCfg.fixed), XmlInputOk TbCfg.fixed (.token t) := by
    intro t ht
    obtain ⟨r, hr, rfl⟩ := List.mem_map.mp ht
    cases r with
    | tag rt => exact tagOk_finishTag_fixed TbCfg.fixed rt
    | other t' =>
      show H5V.Lemmas.XmlTBH.TokOk TbCfg.fixed t'
      cases t' with
      | tag tg => exact absurd rfl (hother _ hr _ rfl tg)
      | _ => trivial
  obtain ⟨h', s', eh, es, _, hc⟩ := C16_xml_trace_created_tokens TbCfg.fixed _ hok
  obtain ⟨s, es', hr⟩ := C16_resolve_source_fixed raws hother
  rw [es] at es'
  cases es'
  exact ⟨h', eh, hc.trans hr⟩

/-! ## 4. non-vacuity -/

section Examples
open H5V.Props.C05 (xtg xat xrn)

/-- `<r xmlns="urn:d" xmlns:p="urn:p" a="0"><p:a p:x="1" y="2"><p:b xmlns:p="urn:q" p:y="3">t<c xmlns=""/>`,
a tokenizer `ParseError`, `</r>` (a stray end tag for the current node `p:b`: pops `p:b`, `p:a` and `r`),
a comment, EOF: nested prefixed elements, a default-namespace declaration (and its un-declaration), a
rebinding of `p`, prefixed and unprefixed attributes, a multi-pop end tag -/
def bridgeEx1 : List Input := [
  xtg .start none "r" [xat none "xmlns" "urn:d", xat (some "xmlns") "p" "urn:p", xat none "a" "0"],
  xtg .start (some "p") "a" [xat (some "p") "x" "1", xat none "y" "2"],
  xtg .start (some "p") "b" [xat (some "xmlns") "p" "urn:q", xat (some "p") "y" "3"],
  .token (.chars "t".toList),
  xtg .empty none "c" [xat none "xmlns" ""],
  .parseError "tokenizer error".toList,
  xtg .end_ none "r" [],
  .token (.comment "c".toList),
  .token .eof]

/-- an empty-tag root `<p:r xmlns:p="urn:p" p:k="v"/>` followed by a stray start tag -/
def bridgeEx2 : List Input := [
  xtg .empty (some "p") "r" [xat (some "xmlns") "p" "urn:p", xat (some "p") "k" "v"],
  xtg .start none "x" [],
  .token .eof]

/-- the `(name, attrs)` of the `create_element` calls of a whole handle-level run (`none`: panic) -/
def bridgeRunCreated (cfg : TbCfg) (toks : List Input) : Option (List Created) :=
  match (parseAll cfg toks).run H5V.Model.XmlTBH.State.init with
  | .ok (_, h) => some (traceCreated h.traceRev)
  | .error _ => none

/-- the created list of the tree-valued run -/
def bridgeTreeCreated (cfg : TbCfg) (toks : List Input) : Option (List Created) :=
  match H5V.Model.XmlTB.run cfg H5V.Model.XmlTB.State.init (tokensOf toks) with
  | .ok s => some s.createdList
  | .error _ => none

def q (p : Option String) (ns l : String) : QName := ⟨p.map String.toList, ns.toList, l.toList⟩
def qa (p : Option String) (ns l v : String) : H5V.Model.XmlTB.Attr := ⟨q p ns l, v.toList⟩

instance (l : List RAttr) : Decidable (NoDupDecl l) := by unfold NoDupDecl; infer_instance

theorem noDup_of_all {toks : List Token}
    (h : (toks.all fun t => match t with | .tag tg => decide (NoDupDecl tg.attrs) | _ => true) = true) :
    ∀ t ∈ toks, ∀ tg, t = .tag tg → NoDupDecl tg.attrs := by
  intro t ht tg e
  subst e
  have := List.all_eq_true.mp h _ ht
  simpa using this

theorem bridgeEx1_ok : ∀ t ∈ bridgeEx1, XmlInputOk TbCfg.fixed t := by decide +kernel
theorem bridgeEx2_ok : ∀ t ∈ bridgeEx2, XmlInputOk TbCfg.fixed t := by decide +kernel

/-- the theorems apply to the examples (hypotheses satisfiable) … -/
example : ∃ h', (parseAll TbCfg.fixed bridgeEx1).run H5V.Model.XmlTBH.State.init = .ok ((), h') ∧
    traceCreated h'.traceRev = resolve .prolog (tokensOf bridgeEx1) :=
  C16_xml_trace_resolve bridgeEx1 bridgeEx1_ok (noDup_of_all (by decide +kernel))

example : ∃ h', (parseAll TbCfg.fixed bridgeEx2).run H5V.Model.XmlTBH.State.init = .ok ((), h') ∧
    traceCreated h'.traceRev = resolve .prolog (tokensOf bridgeEx2) :=
  C16_xml_trace_resolve bridgeEx2 bridgeEx2_ok (noDup_of_all (by decide +kernel))

/-- … and, checked by evaluation independently of the theorems: the handle-level trace, the tree-valued
run and the resolver deliver the same four elements — `r` in the default namespace `urn:d`; `p:a` in
`urn:p` with `p:x` bound to `urn:p` and the unprefixed `y` in no namespace; `p:b` under the rebinding
`p ↦ urn:q`; `c` with the default namespace un-declared -/
example : bridgeRunCreated TbCfg.fixed bridgeEx1 = some [
    ⟨q none "urn:d" "r", [qa none "" "a" "0"]⟩,
    ⟨q (some "p") "urn:p" "a", [qa (some "p") "urn:p" "x" "1", qa none "" "y" "2"]⟩,
    ⟨q (some "p") "urn:q" "b", [qa (some "p") "urn:q" "y" "3"]⟩,
    ⟨q none "" "c", []⟩] := by decide +kernel

example : bridgeRunCreated TbCfg.fixed bridgeEx1 = bridgeTreeCreated TbCfg.fixed bridgeEx1 := by decide +kernel
example : bridgeRunCreated TbCfg.fixed bridgeEx1 = some (resolve .prolog (tokensOf bridgeEx1)) := by decide +kernel
example : bridgeRunCreated TbCfg.code bridgeEx1 = bridgeTreeCreated TbCfg.code bridgeEx1 := by decide +kernel

/-- the stray `</r>` pops all three open elements: the run ends in the End phase with nothing open, in
both models -/
example : (match (processTokens TbCfg.fixed bridgeEx1).run
      ((newTB.run H5V.Model.XmlTBH.State.init).toOption.map (·.2) |>.getD {}) with
    | .ok (_, h) => some (h.opened.length, h.phase)
    | .error _ => none) = some (0, .end_) := by decide +kernel

example : (match H5V.Model.XmlTB.run TbCfg.fixed H5V.Model.XmlTB.State.init (tokensOf bridgeEx1) with
    | .ok s => some (s.opened.length, s.phase)
    | .error _ => none) = some (0, .end_) := by decide +kernel

/-- the empty-tag root: one `create_element`, `p:r` in `urn:p` with `p:k`; the stray `<x>` in the End
phase creates nothing -/
example : bridgeRunCreated TbCfg.fixed bridgeEx2 =
    some [⟨q (some "p") "urn:p" "r", [qa (some "p") "urn:p" "k" "v"]⟩] := by decide +kernel
example : bridgeRunCreated TbCfg.fixed bridgeEx2 = bridgeTreeCreated TbCfg.fixed bridgeEx2 := by decide +kernel
example : bridgeRunCreated TbCfg.fixed bridgeEx2 = some (resolve .prolog (tokensOf bridgeEx2)) := by decide +kernel

/-- the flags travel too: `<template xmlns="http://www.w3.org/1999/xhtml"/>` as root is created with
`template := true` -/
example : ((match (parseAll TbCfg.fixed [xtg .empty none "template" [xat none "xmlns" "http://www.w3.org/1999/xhtml"]]).run
      H5V.Model.XmlTBH.State.init with
    | .ok (_, h) => some ((traceCreateCalls h.traceRev).map (fun (c : CrOp) => c.2.2.template))
    | .error _ => none)) = some [true] := by decide +kernel

end Examples

end H5V.Props.C16

#print axioms H5V.Props.C16.bsim_iff
#print axioms H5V.Props.C16.bsim_new
#print axioms H5V.Props.C16.bsim_step
#print axioms H5V.Props.C16.bsim_step_token
#print axioms H5V.Props.C16.bsim_step_parseError
#print axioms H5V.Props.C16.bsim_step_total
#print axioms H5V.Props.C16.C16_xml_reach_bsim
#print axioms H5V.Props.C16.C16_xml_trace_created
#print axioms H5V.Props.C16.C16_xml_trace_created_tokens
#print axioms H5V.Props.C16.C16_xml_trace_created_of_run
#print axioms H5V.Props.C16.C16_xml_trace_resolve
#print axioms H5V.Props.C16.C16_xml_trace_resolve_pinned
#print axioms H5V.Props.C16.C16_xml_trace_resolve_source
#print axioms H5V.Props.C16.tagOk_finishTag_fixed
