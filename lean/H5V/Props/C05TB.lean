import H5V.Lemmas.HtmlTBContractAll
import H5V.Props.C04TB
/-!
# C05 for the HTML tree builder model: every sink call is within the TreeSink contract

`H5V.Props.C05` shows that a call within `Contract` on an arena satisfying `Inv` never fails (the
selectedcontent mirror op excepted) and re-establishes `Inv`.  Here: **every `sink op` the tree builder
model issues satisfies `Contract s.dom op`**, for every option set, every token list whose tag tokens carry
attribute lists as the tokenizer delivers them (`TagsOk`: names without namespace/prefix, lower case, no
duplicates — `create_element` / `add_attrs_if_missing` require duplicate-free lists), document and fragment
parses.  The statement is by the recorded call list (`State.traceRev`): on success the calls form a
`C20.Run` (each call within the contract in the arena it is made in, each returning normally) and the
final arena satisfies `Inv`; a failing run ends in `Esc e`: a panic/fuel/protocol message of the builder
itself (excluded by `C04TB`), a `meta-extract@encoding.rs` message, or a failure of the mirror op
`maybe_clone_an_option_into_selectedcontent` *called within its contract* (the op not covered by
`C05_no_panic_partial`) — never a contract violation and never a failure of another sink call.
-/
namespace H5V.Props.C05TB
open H5V.Model.HtmlTB
open H5V.Model.Dom (Id QualName Attr NodeOrText SinkOp Output ElementFlags QuirksMode Dom NodeData Node Contract)
open H5V.Props.C20 (Inv Run)
open H5V.Lemmas.TBSafe (IsEl nm sigOf Ext Benign MutOp ptcFuelMsg textProtoMsg Respects infixL infixL_append)
open H5V.Lemmas.TBC
open H5V.Props.C04TB (parseDocument parseFragment parseRest fragInit docStart BenignProto BenignAny)

/-- the attribute list of a tag as the tokenizer delivers it -/
abbrev AttrsOk := H5V.Lemmas.TBC.AttrsOk
/-- every tag token of the list carries such an attribute list -/
abbrev TagsOk := H5V.Lemmas.TBC.TagsOk
/-- the failures that are not sink failures (or are the mirror op's) -/
abbrev Esc := H5V.Lemmas.TBC.Esc

/-- the sink calls made so far, oldest first -/
def calls (s : State) : List SinkOp := s.traceRev.reverse.map Prod.fst

/-- what a run of the builder from the arena `d0` ends in: success with a contract-abiding call list and an
arena satisfying `Inv`, or a failure that is `Esc` (an inductive predicate, so that nothing tries to evaluate
the run) -/
inductive Outcome (d0 : Dom) {α : Type} : Except String (α × State) → Prop
  | ok {a : α} {s' : State} : Inv s'.dom → Run d0 (calls s') s'.dom → Outcome d0 (.ok (a, s'))
  | error {e : String} : Esc e → Outcome d0 (.error e)

theorem outcome_of_satc {d0 : Dom} {α : Type} {m : M α} {s : State} (h : SatC m s (fun _ s' => DomI d0 s')) :
    Outcome d0 (m.run s) := by
  show Outcome d0 (m s)
  unfold SatC at h
  cases hm : m s with
  | error e => rw [hm] at h; exact .error h
  | ok p => obtain ⟨a, s'⟩ := p; rw [hm] at h; exact .ok h.inv h.run

theorem Outcome.esc {d0 : Dom} {α : Type} {r : Except String (α × State)} {e : String} (h : Outcome d0 r)
    (he : r = .error e) : Esc e := by
  cases h with
  | ok _ _ => cases he
  | error h' => cases he; exact h'

/-- **C05 (tree builder), documents.**  For every option set and every token list with `TagsOk`: a
document parse that succeeds has made only contract-abiding, normally returning sink calls
(`Run Dom.new (calls s') s'.dom`) and ends with an arena satisfying `Inv`; a failing one fails with `Esc`. -/
theorem C05_tb_contract (opts : Opts) (toks : List (TokToken × Nat)) (htags : TagsOk toks) :
    Outcome Dom.new ((parseDocument toks).run (State.init opts)) := by
  refine outcome_of_satc ?_
  unfold parseDocument parseRest
  refine (ci0_newTB (ci0_init opts)).bind ?_
  intro _ s1 h1
  exact satc_rest (Or.inl h1) htags

/-- **C05 (tree builder), fragments**: any arena `d` satisfying `Inv` with a `Document` node at index 0
(every arena of the sink model has one), any element of `d` as context, no form owner or an element of `d`. -/
theorem C05_tb_contract_fragment (opts : Opts) (d : Dom) (ctx : Id) (form : Option Id)
    (toks : List (TokToken × Nat)) (htags : TagsOk toks) (hinv : Inv d) (hdoc : d.dataOf 0 = some .document)
    (hctx : IsEl d ctx) (hform : ∀ f, form = some f → IsEl d f) :
    Outcome d ((parseFragment ctx form toks).run (fragInit opts d)) := by
  refine outcome_of_satc ?_
  unfold parseFragment parseRest
  have hfi : FI d (fragInit opts d) := ⟨⟨hinv, Run.nil⟩, rfl, rfl, rfl, rfl, rfl, hdoc⟩
  refine (satc_newForFragment hfi hctx hform).bind ?_
  intro _ s1 h1
  exact satc_rest (Or.inr h1) htags

/-- the recorded calls of a run are all within the contract (`C05.Abiding`-style reading of `Run`) -/
theorem run_contract {d d' : Dom} {ops : List SinkOp} (h : Run d ops d') :
    ∀ pre op post, ops = pre ++ op :: post → ∃ d1, Run d pre d1 ∧ Contract d1 op := by
  induction h with
  | nil => intro pre op post e; cases pre <;> cases e
  | cons hc ha _ ih =>
    intro pre op post e
    cases pre with
    | nil => cases e; exact ⟨_, Run.nil, hc⟩
    | cons p pre' =>
      cases e
      obtain ⟨d1, h1, h2⟩ := ih pre' op post rfl
      exact ⟨d1, Run.cons hc ha h1, h2⟩

/-- an `Esc` failure that has the form of a sink failure is the mirror op's, unless its text happens to start with
`meta-extract@encoding.rs: ` -/
theorem esc_sink {e : String} (h : Esc e) {x : String} (he : e = errClass x ++ "@sink: " ++ x) :
    ("meta-extract@encoding.rs: ".toList.isPrefixOf e.toList = true) ∨
    ∃ (d : Dom) (o : Id) (y : String), d.apply (.maybeCloneAnOptionIntoSelectedcontent o) = .error y ∧
      e = errClass y ++ "@sink: " ++ y := by
  rcases h with h | h | h
  · have : infixL "@sink: ".toList e.toList = true := by
      rw [he]
      simp only [String.toList_append, List.append_assoc]
      exact infixL_append _ _ _
    rw [this] at h; cases h
  · exact Or.inl h
  · exact Or.inr h

/-- **C04 + C05 together** (documents): with a token source that keeps the tokenizer protocol and
delivers `TagsOk` tokens, a document parse of the tree-builder model fails only by (i) the fuel of
`process_to_completion` (see `C04TB2`), (ii) the two `encoding.rs` messages of the `<meta>` prescan
(`extract_a_character_encoding_from_a_meta_element`: both are `panic!`-free `Err`-like outcomes of the
model), or (iii) a failure of `maybe_clone_an_option_into_selectedcontent` called within its contract. -/
theorem C04_tb_total_full (opts : Opts) (toks : List (TokToken × Nat))
    (hresp : Respects (docStart opts) toks) (htags : TagsOk toks) (e : String)
    (h : (parseDocument toks).run (State.init opts) = .error e) :
    e = ptcFuelMsg ∨ ("meta-extract@encoding.rs: ".toList.isPrefixOf e.toList = true) ∨
    e = "subtendril-utf8@encoding.rs: subtendril is not valid UTF-8" ∨
    ∃ (d : Dom) (o : Id) (y : String), d.apply (.maybeCloneAnOptionIntoSelectedcontent o) = .error y ∧
      e = errClass y ++ "@sink: " ++ y := by
  have h4 := H5V.Props.C04TB.C04_tb_no_panic_protocol opts toks hresp e h
  have h5 : Esc e := by
    exact (C05_tb_contract opts toks htags).esc h
  cases h4 with
  | sinkMut d op x h1 h2 =>
    rcases esc_sink h5 rfl with h | h
    · exact Or.inr (Or.inl h)
    · exact Or.inr (Or.inr (Or.inr h))
  | ptcFuel _ => exact Or.inl rfl
  | textProto ha => exact ha.elim
  | metaExtract m =>
    refine Or.inr (Or.inl ?_)
    simp only [String.toList_append]
    exact H5V.Lemmas.TBSafe.isPrefixOf_append _ _
  | metaUtf8 => exact Or.inr (Or.inr (Or.inl rfl))

/-- **C04 + C05 together** (fragments) -/
theorem C04_tb_total_full_fragment (opts : Opts) (d : Dom) (ctx : Id) (form : Option Id)
    (toks : List (TokToken × Nat)) (htags : TagsOk toks) (hinv : Inv d) (hdoc : d.dataOf 0 = some .document)
    (hctx : IsEl d ctx) (hform : ∀ f, form = some f → IsEl d f ∧ nm d f = H5V.Lemmas.TBSafe.formName)
    (hresp : ∀ s1, (newForFragment ctx form).run (fragInit opts d) = .ok ((), s1) → Respects s1 toks)
    (e : String) (h : (parseFragment ctx form toks).run (fragInit opts d) = .error e) :
    e = ptcFuelMsg ∨ ("meta-extract@encoding.rs: ".toList.isPrefixOf e.toList = true) ∨
    e = "subtendril-utf8@encoding.rs: subtendril is not valid UTF-8" ∨
    ∃ (d : Dom) (o : Id) (y : String), d.apply (.maybeCloneAnOptionIntoSelectedcontent o) = .error y ∧
      e = errClass y ++ "@sink: " ++ y := by
  have h4 := H5V.Props.C04TB.C04_tb_no_panic_protocol_fragment opts d ctx form toks hctx hform hresp e h
  have h5 : Esc e := by
    exact (C05_tb_contract_fragment opts d ctx form toks htags hinv hdoc hctx (fun f hf => (hform f hf).1)).esc h
  cases h4 with
  | sinkMut d op x h1 h2 =>
    rcases esc_sink h5 rfl with h | h
    · exact Or.inr (Or.inl h)
    · exact Or.inr (Or.inr (Or.inr h))
  | ptcFuel _ => exact Or.inl rfl
  | textProto ha => exact ha.elim
  | metaExtract m =>
    refine Or.inr (Or.inl ?_)
    simp only [String.toList_append]
    exact H5V.Lemmas.TBSafe.isPrefixOf_append _ _
  | metaUtf8 => exact Or.inr (Or.inr (Or.inl rfl))

/-! ### non-vacuity -/

instance (attrs : List Attr) : Decidable (H5V.Lemmas.TBC.AttrsOk attrs) := by
  unfold H5V.Lemmas.TBC.AttrsOk; infer_instance

instance : DecidablePred H5V.Lemmas.TBC.TokTokOk := fun t => by
  cases t <;> (unfold H5V.Lemmas.TBC.TokTokOk; infer_instance)

instance (toks : List (TokToken × Nat)) : Decidable (H5V.Lemmas.TBC.TagsOk toks) := by
  unfold H5V.Lemmas.TBC.TagsOk; infer_instance

open H5V.Props.C04TB (st et ch errOf fragDom fragDom_ctx)

/-- a start tag with attributes (lower-case names without namespace) -/
def sta (n : String) (attrs : List (String × String)) : TokToken × Nat :=
  (.tag { kind := .startTag, name := n.toList,
          attrs := attrs.map (fun p => { name := { pfx := none, ns := [], loc := p.1.toList }, value := p.2.toList }) }, 1)

/-- what a successful run gives -/
theorem outcome_ok {d0 : Dom} {α : Type} {r : Except String (α × State)} (h : Outcome d0 r)
    (hok : errOf r = none) : ∃ a s', r = .ok (a, s') ∧ Inv s'.dom ∧ Run d0 (calls s') s'.dom := by
  cases h with
  | error _ => cases hok
  | ok h1 h2 => exact ⟨_, _, rfl, h1, h2⟩

/-- foster parenting, the adoption agency (step 14 moves a node that is already in the tree) and table
modes, with attributes: the run succeeds, all its sink calls are within the contract -/
def ex1 : List (TokToken × Nat) :=
  [st "html", sta "table" [("border", "1")], sta "b" [("class", "x"), ("id", "y")], ch "x", st "td", et "b",
   st "p", et "table", ch "y", (.eof, 1)]

theorem ex1_tags : TagsOk ex1 := by decide +kernel
theorem ex1_ok : errOf ((parseDocument ex1).run (State.init {})) = none := by decide +kernel
example : ∃ a s', (parseDocument ex1).run (State.init {}) = .ok (a, s') ∧ Inv s'.dom ∧
    Run Dom.new (calls s') s'.dom :=
  outcome_ok (C05_tb_contract {} ex1 ex1_tags) ex1_ok

/-- misnested formatting elements: `<a><b><p>x</a>y</b>` runs the adoption agency with a furthest block -/
def ex2 : List (TokToken × Nat) :=
  [sta "a" [("href", "u")], st "b", st "p", ch "x", et "a", ch "y", et "b", (.eof, 1)]

theorem ex2_tags : TagsOk ex2 := by decide +kernel
theorem ex2_ok : errOf ((parseDocument ex2).run (State.init {})) = none := by decide +kernel
example : ∃ a s', (parseDocument ex2).run (State.init {}) = .ok (a, s') ∧ Inv s'.dom ∧
    Run Dom.new (calls s') s'.dom :=
  outcome_ok (C05_tb_contract {} ex2 ex2_tags) ex2_ok

/-- `<frameset>` after `<body>`: `remove_from_parent(body)` -/
def ex3 : List (TokToken × Nat) := [st "body", st "frameset", st "frame", et "frameset", (.eof, 1)]

theorem ex3_tags : TagsOk ex3 := by decide +kernel
theorem ex3_ok : errOf ((parseDocument ex3).run (State.init {})) = none := by decide +kernel
example : ∃ a s', (parseDocument ex3).run (State.init {}) = .ok (a, s') ∧ Inv s'.dom ∧
    Run Dom.new (calls s') s'.dom :=
  outcome_ok (C05_tb_contract {} ex3 ex3_tags) ex3_ok

/-- `</option>` inside `<select>`: the mirror op is called within its contract -/
def ex4 : List (TokToken × Nat) := [st "select", st "option", ch "a", et "option", et "select", (.eof, 1)]

theorem ex4_tags : TagsOk ex4 := by decide +kernel
theorem ex4_ok : errOf ((parseDocument ex4).run (State.init {})) = none := by decide +kernel
example : ∃ a s', (parseDocument ex4).run (State.init {}) = .ok (a, s') ∧ Inv s'.dom ∧
    Run Dom.new (calls s') s'.dom :=
  outcome_ok (C05_tb_contract {} ex4 ex4_tags) ex4_ok

/-- a token list with a duplicate attribute name is not `TagsOk` (the tokenizer drops duplicates) -/
example : ¬ TagsOk [sta "p" [("id", "a"), ("id", "b")]] := by decide +kernel

/-- a fragment parse (context `td` of `C04TB.fragDom`) -/
theorem fragDom_inv : Inv fragDom :=
  H5V.Props.C20.C20_parent_links (d := Dom.new) (ops := [.createElement { ns := nsHtml, loc := "td".toList } [] {}])
    H5V.Props.C20.inv_new (Run.cons (out := .node 1) rfl rfl Run.nil)

def ex5 : List (TokToken × Nat) := [st "tr", st "td", st "svg", st "b", et "td", ch "x", (.eof, 1)]
theorem ex5_tags : TagsOk ex5 := by decide +kernel
theorem ex5_ok : errOf ((parseFragment 1 none ex5).run (fragInit {} fragDom)) = none := by decide +kernel
example : ∃ a s', (parseFragment 1 none ex5).run (fragInit {} fragDom) = .ok (a, s') ∧ Inv s'.dom ∧
    Run fragDom (calls s') s'.dom :=
  outcome_ok (C05_tb_contract_fragment {} fragDom 1 none ex5 ex5_tags fragDom_inv rfl fragDom_ctx
    (fun f hf => by cases hf)) ex5_ok

end H5V.Props.C05TB

#print axioms H5V.Props.C05TB.C05_tb_contract
#print axioms H5V.Props.C05TB.C05_tb_contract_fragment
#print axioms H5V.Props.C05TB.run_contract
#print axioms H5V.Props.C05TB.esc_sink
#print axioms H5V.Props.C05TB.C04_tb_total_full
#print axioms H5V.Props.C05TB.C04_tb_total_full_fragment
#print axioms H5V.Lemmas.TBC.stepH
#print axioms H5V.Lemmas.TBC.cps_adoptionAgency
#print axioms H5V.Lemmas.TBC.satc_ptc
#print axioms H5V.Lemmas.TBC.satc_newForFragment
